import Vata.Lang
import Vata.Proofs.Compl
/-!
# Complement over an alphabet that grew (stale symbol index) – proofs for `Vata/Properties/C06_Stale.lean`

`ExplicitDownwardComplementation::Compute` iterates `for (auto symbolIndexPair : symbolMap)` over the symbol / rank index
of the alphabet.  The model `Compl.complTD A Sg fuel` takes this index as the parameter `Sg`.  A (seeded) variant of the
code keeps the index in a function-static map keyed by the alphabet OBJECT and never refreshes it; `symIndexCached` below
is that lookup.  The lemmas compare a complement over `Sg` with one over `Sg' ⊇ Sg`; they hold of every automaton that
meets the specification `IsComplOver`, however it was computed.
-/
namespace Vata
namespace Compl

theorem overSig_mono {Sg Sg' : List (Nat × Nat)} (hs : ∀ fa, fa ∈ Sg → fa ∈ Sg') :
    ∀ t : Tree, overSig Sg t = true → overSig Sg' t = true := by
  refine tree_induction fun f ts ih => ?_
  rw [overSig_node, overSig_node]
  exact fun h => ⟨hs _ h.1, fun t ht => ih t ht (h.2 t ht)⟩

theorem overSigL_mono {Sg Sg' : List (Nat × Nat)} (hs : ∀ fa, fa ∈ Sg → fa ∈ Sg') :
    ∀ ts : List Tree, overSigL Sg ts = true → overSigL Sg' ts = true := fun ts h =>
  (overSigL_iff Sg' ts).mpr fun t ht => overSig_mono hs t ((overSigL_iff Sg ts).mp h t ht)

mutual
def usesSym (fa : Nat × Nat) : Tree → Bool
  | .node f ts => (f, lenT ts) == fa || usesSymL fa ts
def usesSymL (fa : Nat × Nat) : List Tree → Bool
  | [] => false
  | t :: ts => usesSym fa t || usesSymL fa ts
end

mutual
theorem overSig_false_of_usesSym {Sg : List (Nat × Nat)} {fa : Nat × Nat} (hfa : fa ∉ Sg) :
    ∀ t : Tree, usesSym fa t = true → overSig Sg t = false
  | .node f ts => by
    simp only [usesSym, overSig, Bool.or_eq_true, beq_iff_eq, Bool.and_eq_false_iff]
    rintro (h | h)
    · left
      rw [h]
      cases hc : Sg.contains fa with
      | false => rfl
      | true => exact absurd (List.contains_iff_mem.mp hc) hfa
    · exact Or.inr (overSigL_false_of_usesSymL hfa ts h)
theorem overSigL_false_of_usesSymL {Sg : List (Nat × Nat)} {fa : Nat × Nat} (hfa : fa ∉ Sg) :
    ∀ ts : List Tree, usesSymL fa ts = true → overSigL Sg ts = false
  | [] => by simp [usesSymL]
  | t :: ts => by
    simp only [usesSymL, overSigL, Bool.or_eq_true, Bool.and_eq_false_iff]
    rintro (h | h)
    · exact Or.inl (overSig_false_of_usesSym hfa t h)
    · exact Or.inr (overSigL_false_of_usesSymL hfa ts h)
end

mutual
/-- conversely: a tree that is not over `Sg` uses a ranked symbol that is not in `Sg` -/
theorem exists_usesSym_of_overSig_false {Sg : List (Nat × Nat)} :
    ∀ t : Tree, overSig Sg t = false → ∃ fa, fa ∉ Sg ∧ usesSym fa t = true
  | .node f ts => by
    simp only [overSig, Bool.and_eq_false_iff]
    rintro (h | h)
    · refine ⟨(f, lenT ts), ?_, ?_⟩
      · intro hm
        rw [List.contains_iff_mem.mpr hm] at h
        cases h
      · simp [usesSym]
    · obtain ⟨fa, h1, h2⟩ := exists_usesSymL_of_overSigL_false ts h
      exact ⟨fa, h1, by simp [usesSym, h2]⟩
theorem exists_usesSymL_of_overSigL_false {Sg : List (Nat × Nat)} :
    ∀ ts : List Tree, overSigL Sg ts = false → ∃ fa, fa ∉ Sg ∧ usesSymL fa ts = true
  | [] => by simp [overSigL]
  | t :: ts => by
    simp only [overSigL, Bool.and_eq_false_iff]
    rintro (h | h)
    · obtain ⟨fa, h1, h2⟩ := exists_usesSym_of_overSig_false t h
      exact ⟨fa, h1, by simp [usesSymL, h2]⟩
    · obtain ⟨fa, h1, h2⟩ := exists_usesSymL_of_overSigL_false ts h
      exact ⟨fa, h1, by simp [usesSymL, h2]⟩
end

theorem complTD_isComplOver {A : TA} {Sg : List (Nat × Nat)} {fuel : Nat} {C : TA}
    (h : complTD A Sg fuel = some C) : IsComplOver C A Sg := complTD_spec h

/-- on the trees over the smaller alphabet a complement over `Sg` and one over `Sg' ⊇ Sg` agree -/
theorem IsComplOver.agree_on_smaller {A C C' : TA} {Sg Sg' : List (Nat × Nat)} (hs : ∀ fa, fa ∈ Sg → fa ∈ Sg')
    (h : IsComplOver C A Sg) (h' : IsComplOver C' A Sg') (t : Tree) (ht : overSig Sg t = true) :
    accepts C t = accepts C' t := by
  rw [(h t).1 ht, (h' t).1 (overSig_mono hs t ht)]

/-- a tree using a ranked symbol that is not in `Sg` is rejected by a complement over `Sg` -/
theorem IsComplOver.rejects_new {A C : TA} {Sg : List (Nat × Nat)} (h : IsComplOver C A Sg)
    {fa : Nat × Nat} (hfa : fa ∉ Sg) (t : Tree) (hu : usesSym fa t = true) : accepts C t = false :=
  (h t).2 (overSig_false_of_usesSym hfa t hu)

/-- exact characterisation: a complement over `Sg ⊆ Sg'` is a complement over `Sg'` iff `A` accepts every tree over `Sg'`
that is not over `Sg` -/
theorem IsComplOver.smaller_iff {A C : TA} {Sg Sg' : List (Nat × Nat)} (hs : ∀ fa, fa ∈ Sg → fa ∈ Sg')
    (h : IsComplOver C A Sg) :
    IsComplOver C A Sg' ↔ ∀ t, overSig Sg' t = true → overSig Sg t = false → accepts A t = true := by
  constructor
  · intro hc t h1 h2
    have e1 := (hc t).1 h1
    rw [(h t).2 h2] at e1
    cases hA : accepts A t with
    | true => rfl
    | false => rw [hA] at e1; cases e1
  · intro hall t
    refine ⟨fun h1 => ?_, fun h1 => ?_⟩
    · cases h2 : overSig Sg t with
      | true => exact (h t).1 h2
      | false => rw [(h t).2 h2, hall t h1 h2]; rfl
    · cases h2 : overSig Sg t with
      | true => rw [overSig_mono hs t h2] at h1; cases h1
      | false => exact (h t).2 h2

/-- the seeded lookup `static std::unordered_map<const Alphabet*, SymbolMap> cache; auto it = cache.find(alphabet);
if (it == cache.end()) it = cache.insert({alphabet, alphabet->GetSymbolDict()}).first; symbolMap = it->second;`:
the index used by the call and the new content of the static map.  `id` stands for the address of the alphabet object,
`SgNow` for its content at the time of the call. -/
def symIndexCached (cache : List (Nat × List (Nat × Nat))) (id : Nat) (SgNow : List (Nat × Nat)) :
    List (Nat × List (Nat × Nat)) × List (Nat × Nat) :=
  match cache.lookup id with
  | some Sg => (cache, Sg)
  | none => ((id, SgNow) :: cache, SgNow)

/-- `Complement` with the seeded static index: the new static map and the result -/
def complCached (cache : List (Nat × List (Nat × Nat))) (id : Nat) (A : TA) (SgNow : List (Nat × Nat)) (fuel : Nat) :
    List (Nat × List (Nat × Nat)) × Option TA :=
  let r := symIndexCached cache id SgNow
  (r.1, complTD A r.2 fuel)

/-- the first call on an alphabet object uses (and stores) the current content -/
theorem complCached_first (id : Nat) (A : TA) (Sg : List (Nat × Nat)) (fuel : Nat) :
    complCached [] id A Sg fuel = ([(id, Sg)], complTD A Sg fuel) := by
  simp [complCached, symIndexCached, List.lookup]

/-- every later call on the same object uses the content of the FIRST call, whatever the alphabet holds now -/
theorem complCached_second (id : Nat) (A B : TA) (Sg Sg' : List (Nat × Nat)) (f₁ f₂ : Nat) :
    complCached (complCached [] id A Sg f₁).1 id B Sg' f₂ = ([(id, Sg)], complTD B Sg f₂) := by
  simp [complCached, symIndexCached, List.lookup]

end Compl
end Vata
