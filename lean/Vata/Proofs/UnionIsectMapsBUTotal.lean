import Vata.UnionIsectMapsBU
import Vata.Proofs.IsectBUTotal
import Vata.Proofs.UnionIsectMapsBUInv
/-!
# Property C02 – `IntersectionBU` started from ANY caller-supplied map returns within the fuel `isectBUFromFuel`

The loop ends whatever the entry map was (`Ibt.run_total`, `Vata/Proofs/IsectBUTotal.lean`).
-/
namespace Vata

theorem isectBUFrom_total (A B : TA) (m0 : PMap) (fuel : Nat) (hf : isectBUFromFuel A B m0 ≤ fuel) :
    (isectBUFrom A B m0 fuel).isSome = true := by
  rw [isectBUFrom_eq_loop, Option.isSome_map]
  refine Ibt.run_total A B m0 fuel ?_
  unfold isectBUFromFuel at hf
  unfold Ibu.pushBound Ibu.maxAr
  omega

theorem isectBUFromRef_isSome (A B : TA) (m0 : PMap) : (isectBUFromRef A B m0).isSome = true :=
  isectBUFrom_total A B m0 _ (Nat.le_refl _)

theorem isectBUFromRef_lang (A B : TA) (m0 : PMap) (hok : Isx.MapOk m0) :
    ∃ P m, isectBUFromRef A B m0 = some (P, m) ∧ (∀ t, accepts P t = (accepts A t && accepts B t)) ∧
      InjOn (lookupF m) m.dom ∧ Isx.Ext m0 m := by
  cases h : isectBUFromRef A B m0 with
  | none => have := isectBUFromRef_isSome A B m0; rw [h] at this; simp at this
  | some r =>
    exact ⟨r.1, r.2, rfl, isectBUFrom_lang (fuel := isectBUFromFuel A B m0) hok h,
      isectBUFrom_map_inj (fuel := isectBUFromFuel A B m0) hok h, isectBUFrom_ext (fuel := isectBUFromFuel A B m0) hok h⟩

theorem isectBUFromFuel_nil (A B : TA) : isectBUFromFuel A B [] = isectBUFuel A B := by
  simp [isectBUFromFuel, isectBUFuel]

end Vata
