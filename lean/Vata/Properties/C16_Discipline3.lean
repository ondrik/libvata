import Vata.Proofs.LtsEngineCalls2SLRun
import Vata.Proofs.LtsUtilSC5
import Vata.Proofs.LtsUtilCA
/-!
# C16 / C20 – the simulation engine ON `SharedList` and `SharedCounter`: the call discipline along the whole run

> C16: `computeSimulation(partition, relation, size)` returns the greatest simulation inside the initial relation.
> `Vata/Properties/C16_Discipline.lean`, "still not proved": *The discipline of `SharedCounter` (`SC.ok`), `SharedList` (`SL.ok`) …
> along the run; counter and remove-list calls are not emitted.*

## How the C++ is read into the model

* `Vata/LtsEngineCalls2.lean` (namespace `Vata.LEC2`): the engine functions of `Vata/LtsEngine.lean` as WRITERS of two more
  histories, in the order `src/explicit_lts_sim.cc` makes the calls:
  `Tr2.sl : List SL.Op` – the handles `Block::remove_[a]` (`slot L b a = b * labels + a`, `nSlots L = L.n * labels` handles):
  `newList` (`init`: `new RemoveList(new std::vector<size_t>(s.begin(), s.end()))`, only when `!s.empty()`), `take`
  (`processRemove`: `remove = block->remove_[label]; block->remove_[label] = nullptr;`, iterated by `split`), `copy` (`split`:
  `if (!block->remove_[a]) continue; … newBlock->remove_[a] = block->remove_[a]->copy()`), `release`
  (`remove->unsafeRelease(…)`), `append` (`enqueueToRemove`, called when `decr` returns `0`);
  `Tr2.sc : List SC.Op` – the member `counter_` of block `i` is counter object `i`: `new` (first `Block` constructor), `copyCtor b`
  (second constructor: `counter_(parent.counter_)`), `resize` / `set` (only when `count != 0`) / `init` ("initialize counters"),
  `copyLabels nb b (inset of nb)` (`split`), `decr b1 a pre` (`processRemove`), `destroy i` (`~SimulationEngine`: `delete block`).
  `scCfg L poison` is `key_` / `labelMap_` / `rowSize_` as the constructor and `init` compute them (`SC.mkCfg`, `SC.getRowSize`).
* `C16_trace_erasure2`: forgetting the histories gives `Vata.LE.computeSimulation` (after every number of iterations: `stateAfterJ_fst`).
* The disciplines are `SL.okAll (SL.A.mk0 (nSlots L))` (`Vata/Proofs/LtsUtilSL2.lean`) and `SC.okAll cfg []`
  (`Vata/Proofs/LtsUtilSC5.lean`): the histories on which the classes AS CODED (heaps of nodes / vectors / rows, reference counts,
  free lists of the `CachingAllocator`s) are proved to refine their values.

## What is abstracted

* The interleaving between the classes is not recorded (one history per class; the classes share no memory).
* Read-only calls are not calls of `SC.Op` / `SL.Op`; the iteration of `*remove` is part of `take`.
* The destructors of the allocators (they `delete` the stored objects) are not modelled; "released" = handed to the deleter /
  back in the allocator's store.

## Result

`SharedList`: PROVED for every input satisfying the engine's preconditions (`C16_engine_discipline_SL`), with the corollaries on
heaps (`C16_engine_SL_on_heaps`, `C16_engine_SL_all_released`).  `SharedCounter`: emitted and evaluated (`decide`d examples; the
driver can evaluate `SC.okAll` on every generated case), NOT proved – see the end of the file.  No failing clause was found.
-/
namespace Vata.Props
open Vata.L Vata.LE Vata.LU Vata.LEC2

/-- **trace erasure** for the counter / remove-list instrumentation: the instrumented engine returns what the engine model
returns, whatever `cfg` is (the histories are observers) -/
theorem C16_trace_erasure2 (L : LTS) (cfg : SC.Cfg) (part : List (List Nat)) (rel : Rel) (size : Nat) :
    (computeSimulationJ L cfg part rel size).map (·.1) = computeSimulation L part rel size ∧
    (∀ k, (stateAfterJ L cfg part rel k).1 = stateAfter L part rel k) :=
  ⟨trace_erasure2 L cfg part rel size, stateAfterJ_fst L cfg part rel⟩

/-- **the `SharedList` call discipline holds along the whole run.**  For every LTS / partition / block relation satisfying the
engine's preconditions (`isPartition`, `isConsistent` are the two `assert`s of `init`; edges inside `states()`; a transitive
block relation – the precondition of C16 itself, see `nontransitive_counterexample`): the history of ALL `SharedList` calls of
`init` and of the first `k` iterations of `run()` (every `k`), and the history of a completed `computeSimulation`, is inside
`SL.ok`: every `take` finds a non-null handle and nothing detached, every `copy` goes from a non-null handle to a null handle of
the block just created, `init` builds a list only in a null handle and only from a non-empty vector, `unsafeRelease` is called on
the detached list exactly once, and every handle index is below `L.n * labels`. -/
theorem C16_engine_discipline_SL (L : LTS) (part : List (List Nat)) (rel : Rel)
    (hL : ltsOKB L = true) (hp : isPartition part L.n = true) (hc : isConsistent part rel = true)
    (ht : isTransB rel = true) (cfg : SC.Cfg) :
    (∀ k, SL.okAll (SL.A.mk0 (nSlots L)) (stateAfterJ L cfg part rel k).2.sl = true) ∧
    (∀ size R t, computeSimulationJ L cfg part rel size = some (R, t) → SL.okAll (SL.A.mk0 (nSlots L)) t.sl = true) := by
  have hg := stateAfterJ_good (ltsOK_of_B hL) cfg hp hc (relTrans_of_B (part := part) ht)
  refine ⟨fun k => (hg k).1, ?_⟩
  intro size R t h
  rcases computeSimulationJ_some h with ⟨_, _, rfl⟩ | ⟨k, _, _, rfl, _⟩
  · rfl
  · exact (hg k).1

/-- **the engine on heaps (`SharedList`), at every moment of the run.**  Running the class AS CODED (`SL.run`: node heap, vector
heap, the stores of `removeAllocator_` / `vectorAllocator_`) on the engine's history never reaches an undefined outcome, and in
the world reached: (1) the handle of `remove_[a]` of block `b` is non-null exactly when the engine model's is; (2) REFERENCE
COUNTS = NUMBER OF REFERRERS for all nodes reachable from a handle; (3) NO USE AFTER RELEASE: the stores hold nothing twice and
no node / vector reachable from a handle. -/
theorem C16_engine_SL_on_heaps (L : LTS) (part : List (List Nat)) (rel : Rel)
    (hL : ltsOKB L = true) (hp : isPartition part L.n = true) (hc : isConsistent part rel = true)
    (ht : isTransB rel = true) (cfg : SC.Cfg) (k : Nat) :
    ∃ W outs, SL.run (SL.World.mk0 (nSlots L)) (stateAfterJ L cfg part rel k).2.sl = some (W, outs) ∧
      (∀ b a, b < L.n → a < labels L →
        ((SL.aRun (SL.A.mk0 (nSlots L)) (stateAfterJ L cfg part rel k).2.sl).slots.getD (slot L b a) none).isSome =
          ((stateAfter L part rel k).remv b a).isSome) ∧
      (∃ liveN : List Nat, liveN.Nodup ∧ (∀ m, m ∈ liveN ↔ SL.OnChain W m) ∧
        ∀ m ∈ liveN, (W.w.nodes.get m).rc =
          (W.detached :: W.slots).count (some m) + liveN.countP (fun m' => (W.w.nodes.get m').next == some m)) ∧
      (W.w.nfree.Nodup ∧ W.w.vfree.Nodup ∧
        ∀ m, SL.OnChain W m → m ∉ W.w.nfree ∧ ∃ v, (W.w.nodes.get m).sub = some v ∧ v ∉ W.w.vfree) := by
  have hg := stateAfterJ_good (ltsOK_of_B hL) cfg hp hc (relTrans_of_B (part := part) ht) k
  obtain ⟨W, outs, hrun, _, _⟩ := SL.run_refines (nSlots L) _ hg.1
  refine ⟨W, outs, hrun, ?_, SL.reachable_rc hg.1 hrun, SL.reachable_free hg.1 hrun⟩
  intro b a hb ha
  rw [← stateAfterJ_fst L cfg]
  exact hg.2.shp b a hb ha

/-- an invariant world whose value has only null handles has no live node -/
theorem no_chain_of_all_null {W : SL.World} {a : SL.A} (I : SL.Inv W a) (hd : a.detached = none)
    (hs : ∀ k, a.slots.getD k none = none) : ∀ n, ¬ SL.OnChain W n := by
  rintro n ⟨h, hh, C, hC, hn⟩
  cases h with
  | none =>
    rw [SL.P.chain_none] at hC
    rw [← Option.some.inj hC] at hn
    cases hn
  | some x =>
    obtain ⟨k, hk⟩ := SL.P.mem_at' hh
    obtain ⟨_, f, hf, _⟩ := SL.inv_correspondence I
    have hnone : SL.P.at' (a.detached :: a.slots) k = none := by
      cases k with
      | zero => rw [SL.P.at'_cons_zero]; exact hd
      | succ k => rw [SL.P.at'_cons_succ]; exact hs k
    rw [((hf k).1).2 hnone] at hk
    cases hk

/-- **everything is released at the end** (`SharedList`): after a completed `computeSimulation` the class as coded has run
through the whole history and NO node is reachable from any handle – every `SharedList` node and every sub-vector ever
allocated was handed to the deleter (is back in the store of its `CachingAllocator`) -/
theorem C16_engine_SL_all_released (L : LTS) (part : List (List Nat)) (rel : Rel)
    (hL : ltsOKB L = true) (hp : isPartition part L.n = true) (hc : isConsistent part rel = true)
    (ht : isTransB rel = true) (cfg : SC.Cfg) (size : Nat) (R : Rel) (t : Tr2)
    (h : computeSimulationJ L cfg part rel size = some (R, t)) :
    ∃ W outs, SL.run (SL.World.mk0 (nSlots L)) t.sl = some (W, outs) ∧ ∀ n, ¬ SL.OnChain W n := by
  have hok := (C16_engine_discipline_SL L part rel hL hp hc ht cfg).2 size R t h
  obtain ⟨W, outs, hrun, hinv, _⟩ := SL.run_refines (nSlots L) t.sl hok
  refine ⟨W, outs, hrun, ?_⟩
  rcases computeSimulationJ_some h with ⟨_, _, rfl⟩ | ⟨k, _, _, rfl, hq⟩
  · exact no_chain_of_all_null hinv rfl fun k =>
      Option.isNone_iff_eq_none.mp (Option.isSome_eq_false_iff.mp (mk0_sh (nSlots L) k))
  · have inv := engine_invariant_always (ltsOK_of_B hL) hp hc (relTrans_of_B (part := part) ht) k
    rw [← stateAfterJ_fst L cfg] at inv
    obtain ⟨h1, h2⟩ :=
      finish_good (stateAfterJ_good (ltsOK_of_B hL) cfg hp hc (relTrans_of_B (part := part) ht) k) inv.qk hq
    exact no_chain_of_all_null hinv h1 h2

/-! ### non-vacuity, and the `SharedCounter` history on the examples -/

/-- the configuration of the engine for `EngEx.L3` (`getRowSize(4) = 31`) -/
theorem scCfg_small (L : LTS) (p : Nat) (h : L.n < 4096) :
    scCfg L p = SC.mkCfg 31 L.n p ((List.range (labels L)).map (delta1 L)) := by
  unfold scCfg; rw [SC.getRowSize_small h]

-- the run of `EngEx.L3` (two iterations of `run()`, each splitting a block): hypotheses, the remove-list history
-- (`newList`, `take`, `release`, `append`, `take`, `release`) is inside the discipline
example : ltsOKB EngEx.L3 = true ∧ isPartition [[0, 1, 2, 3]] EngEx.L3.n = true ∧ isConsistent [[0, 1, 2, 3]] [(0, 0)] = true ∧
    isTransB [(0, 0)] = true ∧
    (stateAfterJ EngEx.L3 (SC.mkCfg 31 4 7 [[0, 1, 3]]) [[0, 1, 2, 3]] [(0, 0)] 2).2.sl =
      [.newList 1 [1], .take 1, .release, .append 1 0, .take 1, .release] ∧
    SL.okAll (SL.A.mk0 (nSlots EngEx.L3)) (stateAfterJ EngEx.L3 (SC.mkCfg 31 4 7 [[0, 1, 3]]) [[0, 1, 2, 3]] [(0, 0)] 2).2.sl = true := by
  decide +kernel

-- the `SharedCounter` history of the same run (with the destructors) and of `EngEx.L2` is inside `SC.ok`; it contains a
-- `copyLabels` from a running counter and a `decr` on the parent afterwards (copy on write)
example : ((computeSimulationJ EngEx.L3 (SC.mkCfg 31 4 7 [[0, 1, 3]]) [[0, 1, 2, 3]] [(0, 0)] 4).map
    (fun rt => (SC.okAll (SC.mkCfg 31 4 7 [[0, 1, 3]]) [] rt.2.sc, rt.2.sc.length))) = some (true, 20) := by decide +kernel

example : scCfg EngEx.L3 7 = SC.mkCfg 31 4 7 [[0, 1, 3]] := by
  rw [scCfg_small _ _ (by decide)]; decide

example : ((computeSimulationJ EngEx.L2 (SC.mkCfg 31 5 7 ((List.range (labels EngEx.L2)).map (delta1 EngEx.L2))) EngEx.part2
      EngEx.rel2 5).map
    (fun rt => (SC.okAll (SC.mkCfg 31 5 7 ((List.range (labels EngEx.L2)).map (delta1 EngEx.L2))) [] rt.2.sc,
      SL.okAll (SL.A.mk0 (nSlots EngEx.L2)) rt.2.sl))) = some (true, true) := by decide +kernel

/-- the discipline is not vacuous on the class: a `take` of a null handle, a second `take` before `unsafeRelease`, a `copy` over
a non-null handle are outside -/
example : SL.okAll (SL.A.mk0 2) [.take 0] = false ∧ SL.okAll (SL.A.mk0 2) [.newList 0 [1], .newList 1 [2], .take 0, .take 1] = false ∧
    SL.okAll (SL.A.mk0 2) [.newList 0 [1], .newList 1 [2], .copy 0 1] = false := by decide

/-!
## which "still not proved" items of `C16_Discipline.lean` this file closes

* "The discipline of … `SharedList` (`SL.ok`) … along the run": closed – `C16_engine_discipline_SL` (no hypothesis beyond the
  preconditions of C16), `C16_engine_SL_on_heaps` (reference count = number of referrers, nothing live in the stores, handles of
  the heap world = handles of the engine model, at every iteration), `C16_engine_SL_all_released`.
* "counter and remove-list calls are not emitted": closed – `Vata/LtsEngineCalls2.lean`, `C16_trace_erasure2`.

## still not proved

* `C16_engine_discipline_SC`: `SC.okAll (scCfg L p) [] t.sc = true` for the `SharedCounter` history (along the run and with the
  destructors of `~SimulationEngine`), and its corollaries on heaps (`SC.decr_no_shared_write`, `SC.refcount_eq_sharers`,
  `SC.free_not_referenced`, all rows reclaimed after the destructors).  The history is emitted and is inside the discipline on
  the example systems (`decide`, above); `Vata.LEC2.computeSimulationJ` + `SC.okAll` can be evaluated on generated inputs.
  What a proof needs: (a) the `SC.A` value of counter `i` agrees with `cnt[i][a][·]` of the engine model on the labels of
  `inset(i)` (through `keyIdx` of `SC.mkCfg`; other labels of a shared row may hold stale numbers), (b) `decr` is only called on a
  positive counter – this is `JInv.hC` of `Vata/Proofs/LtsEnginePrune.lean` (counter = specification + pending decrements),
  (c) `set` hits a zero cell below `rows * rowSize` (`labelMap_` / `resizeArg`), (d) the phases (`fresh` → `filling` → `running`).
* The value of the `SharedList` world is related to the engine model only through the null / non-null state of every handle
  (enough for the discipline); that the segments behind a handle are the engine model's `RemList` (same ids, same vectors) is
  not stated.
* Everything listed at the end of `C16_Discipline.lean` that is not named above (`DeltaOK`, the `SplittingRelation` history).
-/
end Vata.Props
