import Vata.InclUp
import Vata.Proofs.ListFacts
/-!
# The upward antichain exploration over abstract antichain operations

`InclUp.run` (identity relation) and `InclUpSim.run` (pruned by an upward simulation) are one work-list algorithm over
different operations: the subsumption test of `contains`, the filter of `refine`, the macro-state with its flag
`isAccepting`, and the test that lets a pair go unrecorded.  `UpGen.Ops` collects these and `UpGen.run` is the algorithm
over them, its loops written as `List.foldlM` in `Res`.  The three arguments about it are made here, once:

* `run_all`    : a property of pairs that every new pair inherits from the pairs it is built from holds of all pairs,
                 and what the `return false` exits then guarantee holds of the error (used for "no bad pair" and for
                 the trees of the pairs);
* `run_closed` : when the exploration ends with `return true`, the post-image of every choice of pairs of the final
                 antichain is skipped or subsumed;
* `run_terminates` : over operations whose subsumption test lets the measure shrink (`Shrinks`) the exploration ends
                 within `2 · |Δ_A| · 2^|Δ_B|` picked pairs (`|Δ|` = number of rules).
-/
namespace Vata
namespace InclUp

def Sat {ε α : Type} (E : ε → Prop) (Q : α → Prop) : Except ε α → Prop
  | .ok a => Q a
  | .error e => E e

theorem Sat.mono {ε α : Type} {E E' : ε → Prop} {Q Q' : α → Prop} {x : Except ε α} (h : Sat E Q x)
    (hE : ∀ e, E e → E' e) (hQ : ∀ a, Q a → Q' a) : Sat E' Q' x := by
  cases x with
  | ok a => exact hQ a h
  | error e => exact hE e h

theorem Sat.imp {ε α : Type} {E : ε → Prop} {Q Q' : α → Prop} {x : Except ε α} (h : Sat E Q x)
    (hQ : ∀ a, Q a → Q' a) : Sat E Q' x :=
  h.mono (fun _ he => he) hQ

theorem Sat.bind {ε α β : Type} {E : ε → Prop} {P : α → Prop} {Q : β → Prop} {x : Except ε α} {g : α → Except ε β}
    (hx : Sat E P x) (hg : ∀ a, P a → Sat E Q (g a)) : Sat E Q (x >>= g) := by
  cases x with
  | ok a => exact hg a hx
  | error e => exact hx

theorem Sat.foldlM {ε α β : Type} {E : ε → Prop} {I : β → Prop} {f : β → α → Except ε β} (l : List α) :
    ∀ b : β, I b → (∀ b a, a ∈ l → I b → Sat E I (f b a)) → Sat E I (l.foldlM f b) := by
  induction l with
  | nil => exact fun _ hb _ => hb
  | cons a l ih =>
    exact fun b hb hf => (hf b a List.mem_cons_self hb).bind fun b' hb' =>
      ih b' hb' fun b a ha => hf b a (List.mem_cons_of_mem _ ha)

/-- a function with the recursion equations of `List.foldlM` is `List.foldlM` (the loops of the models are written as
recursive functions with a `match` on the result of the step) -/
theorem foldlM_unique {ε α β : Type} {F : List α → β → Except ε β} {f : β → α → Except ε β} (hnil : ∀ b, F [] b = .ok b)
    (hcons : ∀ a l b, F (a :: l) b = f b a >>= F l) (l : List α) : ∀ b, F l b = l.foldlM f b := by
  induction l with
  | nil => exact hnil
  | cons a l ih => exact fun b => by rw [hcons, List.foldlM_cons, funext ih]

theorem Sat.foldlM_le {ε α β : Type} {E : ε → Prop} {m : β → Nat} {f : β → α → Except ε β} (l : List α) (b : β)
    (hf : ∀ b a, a ∈ l → Sat E (fun b' => m b' ≤ m b) (f b a)) : Sat E (fun b' => m b' ≤ m b) (l.foldlM f b) :=
  Sat.foldlM (I := fun b' => m b' ≤ m b) l b (Nat.le_refl _) fun b₁ a ha hb₁ =>
    (hf b₁ a ha).imp fun _ h => Nat.le_trans h hb₁

/-- a loop whose step for `a` establishes `C a`, where `C a` survives the later steps (they are related by the preorder
`R`, along which `C a` is monotone), establishes `C a` for every `a` of the list; `I` is an invariant -/
theorem Sat.foldlM_cover {ε α β : Type} {E : ε → Prop} {I : β → Prop} {R : β → β → Prop} {C : α → β → Prop}
    {f : β → α → Except ε β} (hrefl : ∀ b, R b b) (htrans : ∀ {a b c}, R a b → R b c → R a c)
    (hC : ∀ a b b', R b b' → C a b → C a b') (l : List α) :
    ∀ b : β, I b → (∀ b a, a ∈ l → I b → Sat E (fun b' => I b' ∧ R b b' ∧ C a b') (f b a)) →
      Sat E (fun b' => I b' ∧ R b b' ∧ ∀ a, a ∈ l → C a b') (l.foldlM f b) := by
  induction l with
  | nil => exact fun b hb _ => ⟨hb, hrefl b, fun _ h => nomatch h⟩
  | cons a l ih =>
    intro b hb hf
    refine (hf b a List.mem_cons_self hb).bind fun b₁ h₁ => ?_
    refine (ih b₁ h₁.1 fun b a ha => hf b a (List.mem_cons_of_mem _ ha)).imp fun b' h' => ?_
    refine ⟨h'.1, htrans h₁.2.1 h'.2.1, fun a' ha' => ?_⟩
    rcases List.mem_cons.mp ha' with rfl | ha'
    · exact hC _ _ _ h'.2.1 h₁.2.2
    · exact h'.2.2 a' ha'

theorem reach_node (A : TA) (f : Nat) (ts : List Tree) : reach A (.node f ts) = post A f (reachL A ts) := by
  rw [reach]

/-- the `matchKids` form, as the exploration computes `post`; the `All2` form is `Vata.mem_reach_node` -/
theorem mem_reach_node {A : TA} {f : Nat} {ts : List Tree} {q : Nat} : q ∈ reach A (.node f ts) ↔
    ∃ r, r ∈ A.rules ∧ r.sym = f ∧ matchKids r.kids (reachL A ts) = true ∧ r.parent = q := by
  rw [reach_node, mem_post']

theorem mem_insNext {it i : Item} {N : List Item} : i ∈ insNext it N ↔ i = it ∨ i ∈ N := by
  induction N with
  | nil => rw [insNext, List.mem_singleton, List.mem_nil_iff, or_false]
  | cons x N ih =>
    unfold insNext
    split
    · exact List.mem_cons
    · rw [List.mem_cons, ih, List.mem_cons, or_left_comm]

theorem length_insNext {it : Item} {N : List Item} : (insNext it N).length = N.length + 1 := by
  induction N with
  | nil => rfl
  | cons x N ih =>
    unfold insNext
    split
    · rfl
    · rw [List.length_cons, ih, List.length_cons]

/-- `i` has been picked and expanded: it is in the antichain and no longer waits in the work-list -/
def Done (st : St) (i : Item) : Prop := i ∈ st.processed ∧ i ∉ st.next

/-- one pair with property `M` for each child state of `ks`, in order (what `choicesAll` enumerates) -/
def Choice (M : Item → Prop) (ks : List Nat) (is : List Item) : Prop := All2 (fun k i => i.q = k ∧ M i) ks is

theorem Choice.imp_mem {M M' : Item → Prop} {ks : List Nat} {is : List Item} (h : Choice M ks is)
    (hM : ∀ i, i ∈ is → M i → M' i) : Choice M' ks is :=
  All2.mono h fun _ i _ hi hd => ⟨hd.1, hM i hi hd.2⟩

theorem Choice.imp {M M' : Item → Prop} (hM : ∀ i, M i → M' i) {ks : List Nat} {is : List Item}
    (h : Choice M ks is) : Choice M' ks is :=
  h.imp_mem fun i _ => hM i

theorem Choice.get {M : Item → Prop} {ks : List Nat} {is : List Item} (h : Choice M ks is) :
    ∀ {j : Nat} {i : Item}, is[j]? = some i → ks[j]? = some i.q ∧ M i := by
  induction h with
  | nil => intro j i hj; cases hj
  | cons hd _ ih =>
    intro j i hj
    cases j with
    | zero =>
      cases hj
      exact ⟨congrArg some hd.1.symm, hd.2⟩
    | succ j => exact ih hj

theorem mem_choicesAll {P : List Item} {ks : List Nat} : ∀ {is : List Item},
    is ∈ choicesAll P ks ↔ Choice (· ∈ P) ks is := by
  induction ks with
  | nil => exact fun {is} => List.mem_singleton.trans ⟨fun h => h ▸ All2.nil, fun h => by cases h; rfl⟩
  | cons k ks ih =>
    intro is
    simp only [choicesAll, List.mem_flatMap, List.mem_filter, List.mem_map, beq_iff_eq]
    constructor
    · rintro ⟨i, ⟨hi, hk⟩, is', his', rfl⟩
      exact All2.cons ⟨hk, hi⟩ (ih.mp his')
    · rintro (_ | ⟨hd, tl⟩)
      exact ⟨_, ⟨hd.2, hd.1⟩, _, ih.mpr tl, rfl⟩

theorem mem_choicesAt {P : List Item} {it : Item} {ks : List Nat} {is : List Item} (h : Choice (· ∈ P) ks is) :
    ∀ {j : Nat}, is[j]? = some it → is ∈ choicesAt P it ks j := by
  induction h with
  | nil => exact fun hj => nomatch hj
  | cons hd tl ih =>
    intro j hj
    cases j with
    | zero =>
      cases hj
      exact List.mem_map.mpr ⟨_, mem_choicesAll.mpr tl, rfl⟩
    | succ j =>
      simp only [choicesAt, List.mem_flatMap, List.mem_filter, List.mem_map, beq_iff_eq]
      exact ⟨_, ⟨hd.2, hd.1⟩, _, ih hj, rfl⟩

theorem choice_of_mem_choicesAt {P : List Item} {it : Item} {ks : List Nat} : ∀ {is : List Item} {j : Nat},
    is ∈ choicesAt P it ks j → ks[j]? = some it.q → Choice (fun i => i ∈ P ∨ i = it) ks is := by
  induction ks with
  | nil => exact fun h _ => List.mem_singleton.mp h ▸ All2.nil
  | cons k ks ih =>
    intro is j h hj
    cases j with
    | zero =>
      obtain ⟨is', his', rfl⟩ := List.mem_map.mp h
      cases hj
      exact All2.cons ⟨rfl, Or.inr rfl⟩ ((mem_choicesAll.mp his').imp fun _ h => Or.inl h)
    | succ j =>
      simp only [choicesAt, List.mem_flatMap, List.mem_filter, List.mem_map, beq_iff_eq] at h
      obtain ⟨i, ⟨hi, hk⟩, is', his', rfl⟩ := h
      exact All2.cons ⟨hk, Or.inl hi⟩ (ih his' hj)

theorem mem_tasks {A : TA} {q : Nat} {ρ : Rule} {j : Nat} :
    (ρ, j) ∈ tasks A q ↔ ρ ∈ A.rules ∧ ρ.kids[j]? = some q := by
  simp only [tasks, positions, List.mem_flatMap, List.mem_map, List.mem_filter, List.mem_range, Prod.mk.injEq,
    beq_iff_eq]
  constructor
  · rintro ⟨ρ', hρ', j', ⟨_, hj'⟩, rfl, rfl⟩
    exact ⟨hρ', hj'⟩
  · rintro ⟨hρ, hj⟩
    exact ⟨ρ, hρ, j, ⟨(List.getElem?_eq_some_iff.mp hj).1, hj⟩, rfl, rfl⟩

end InclUp

namespace UpGen
open InclUp

structure Ops where
  /-- `Antichain2C::contains`: the pair `(q, S)` is subsumed by the antichain -/
  sub : List Item → Nat → List Nat → Bool
  /-- `keep it i`: `Antichain2C::refine` called for the pair `it` leaves `i` in the antichain -/
  keep : Item → Item → Bool
  /-- the macro-state `post_B f (S₁..Sₙ)` with the flag `isAccepting` -/
  post : Nat → List (List Nat) → List Nat × Bool
  /-- `checkIntersection`: the pair `(q, S)` is not recorded -/
  skip : Nat → List Nat → Bool

variable (o : Ops) (A : TA)

def addTmp (P : List Item) (it : Item) : List Item :=
  if o.sub P it.q it.S then P else P.filter (o.keep it) ++ [it]

def addItem (st : St) (it : Item) : St :=
  if o.sub st.processed it.q it.S then st
  else ⟨st.processed.filter (o.keep it) ++ [it], insNext it (st.next.filter (o.keep it))⟩

def mkItem (ρ : Rule) (is : List Item) : Item :=
  ⟨ρ.parent, (o.post ρ.sym (is.map (·.S))).1, .node ρ.sym (is.map (·.t))⟩

def flag (ρ : Rule) (is : List Item) : Bool := (o.post ρ.sym (is.map (·.S))).2

/-- the two `return false` of the post-image step: an empty macro-state; a final state with a macro-state that is not
accepting -/
def Fails (ρ : Rule) (is : List Item) : Prop :=
  (mkItem o ρ is).S = [] ∨ (flag o ρ is = false ∧ ρ.parent ∈ A.final)

def stepChoice (ρ : Rule) (tmp : List Item) (is : List Item) : Res (List Item) :=
  if (mkItem o ρ is).S.isEmpty then .error (ρ.parent, (mkItem o ρ is).t)
  else if !flag o ρ is && A.final.contains ρ.parent then .error (ρ.parent, (mkItem o ρ is).t)
  else if o.skip ρ.parent (mkItem o ρ is).S then .ok tmp
  else .ok (addTmp o tmp (mkItem o ρ is))

/-- one rule of `A` with the picked pair at position `p.2`: all choices, then `temporary` is merged into `processed` -/
def procTask (it : Item) (st : St) (p : Rule × Nat) : Res St :=
  (choicesAt st.processed it p.1.kids p.2).foldlM (stepChoice o A p.1) [] >>= fun tmp =>
    tmp.foldlM (fun st i => .ok (addItem o st i)) st

def loop : Nat → St → Option (Res (List Item))
  | 0, _ => none
  | n+1, st =>
    match st.next with
    | [] => some (.ok st.processed)
    | it :: rest =>
      match (tasks A it.q).foldlM (procTask o A it) ⟨st.processed, rest⟩ with
      | .error e => some (.error e)
      | .ok st' => loop n st'

/-- one rule in the leaf phase (no test for an empty macro-state there) -/
def leafStep (st : St) (ρ : Rule) : Res St :=
  if ρ.kids.isEmpty then
    if !flag o ρ [] && A.final.contains ρ.parent then .error (ρ.parent, (mkItem o ρ []).t)
    else if o.skip ρ.parent (mkItem o ρ []).S then .ok st
    else .ok (addItem o st (mkItem o ρ []))
  else .ok st

def run (B : TA) (fuel : Nat) : Option (Res (List Item)) :=
  match sizeExit A B with
  | some ρ => some (.error (ρ.parent, .node ρ.sym []))
  | none =>
    match A.rules.foldlM (leafStep o A) ⟨[], []⟩ with
    | .error e => some (.error e)
    | .ok st => loop o A fuel st

variable {o : Ops} {A : TA}

theorem loop_cons (o : Ops) (A : TA) (n : Nat) (P : List Item) (it : Item) (rest : List Item) :
    loop o A (n+1) ⟨P, it :: rest⟩ =
      match (tasks A it.q).foldlM (procTask o A it) ⟨P, rest⟩ with
      | .error e => some (.error e)
      | .ok st' => loop o A n st' := rfl

theorem addItem_processed (o : Ops) (st : St) (it : Item) : (addItem o st it).processed = addTmp o st.processed it := by
  unfold addItem addTmp
  split <;> rfl

theorem addItem_of_not {st : St} {it : Item} (h : ¬ o.sub st.processed it.q it.S = true) :
    addItem o st it = ⟨st.processed.filter (o.keep it) ++ [it], insNext it (st.next.filter (o.keep it))⟩ :=
  if_neg h

theorem addTmp_of_not {P : List Item} {it : Item} (h : ¬ o.sub P it.q it.S = true) :
    addTmp o P it = P.filter (o.keep it) ++ [it] :=
  if_neg h

theorem mem_addTmp {P : List Item} {it i : Item} (h : i ∈ addTmp o P it) : i ∈ P ∨ i = it := by
  unfold addTmp at h
  split at h
  · exact Or.inl h
  · rcases List.mem_append.mp h with h | h
    · exact Or.inl (List.mem_filter.mp h).1
    · exact Or.inr (List.mem_singleton.mp h)

theorem mem_addItem_next {st : St} {it i : Item} (h : i ∈ (addItem o st it).next) : i ∈ st.next ∨ i = it := by
  unfold addItem at h
  split at h
  · exact Or.inl h
  · rcases mem_insNext.mp h with h | h
    · exact Or.inr h
    · exact Or.inl (List.mem_filter.mp h).1

theorem flag_of_not {b : Bool} {F : List Nat} {q : Nat} (h : ¬ (!b && F.contains q) = true) (hq : q ∈ F) : b = true := by
  cases b with
  | true => rfl
  | false => exact absurd (by rw [List.contains_iff_mem.mpr hq]; rfl) h

theorem stepChoice_spec (o : Ops) (A : TA) (ρ : Rule) (tmp is : List Item) :
    Sat (fun e => e = (ρ.parent, (mkItem o ρ is).t) ∧ Fails o A ρ is)
      (fun tmp' => (ρ.parent ∈ A.final → flag o ρ is = true) ∧
        ((o.skip ρ.parent (mkItem o ρ is).S = true ∧ tmp' = tmp) ∨ tmp' = addTmp o tmp (mkItem o ρ is)))
      (stepChoice o A ρ tmp is) := by
  unfold stepChoice
  by_cases he : (mkItem o ρ is).S.isEmpty = true
  · exact if_pos he ▸ ⟨rfl, Or.inl (List.isEmpty_iff.mp he)⟩
  by_cases hb : (!flag o ρ is && A.final.contains ρ.parent) = true
  · rw [if_neg he, if_pos hb]
    rw [Bool.and_eq_true, Bool.not_eq_true', List.contains_iff_mem] at hb
    exact ⟨rfl, Or.inr hb⟩
  by_cases hs : o.skip ρ.parent (mkItem o ρ is).S = true
  · rw [if_neg he, if_neg hb, if_pos hs]; exact ⟨flag_of_not hb, Or.inl ⟨hs, rfl⟩⟩
  · rw [if_neg he, if_neg hb, if_neg hs]; exact ⟨flag_of_not hb, Or.inr rfl⟩

theorem leafStep_spec (o : Ops) (A : TA) (st : St) (ρ : Rule) :
    Sat (fun e => ρ.kids = [] ∧ e = (ρ.parent, (mkItem o ρ []).t) ∧ Fails o A ρ [])
      (fun st' => (ρ.kids ≠ [] ∧ st' = st) ∨ (ρ.kids = [] ∧ (ρ.parent ∈ A.final → flag o ρ [] = true) ∧
        ((o.skip ρ.parent (mkItem o ρ []).S = true ∧ st' = st) ∨ st' = addItem o st (mkItem o ρ []))))
      (leafStep o A st ρ) := by
  unfold leafStep
  by_cases hk : ρ.kids.isEmpty = true
  · have hk' := List.isEmpty_iff.mp hk
    by_cases hb : (!flag o ρ [] && A.final.contains ρ.parent) = true
    · rw [if_pos hk, if_pos hb]
      rw [Bool.and_eq_true, Bool.not_eq_true', List.contains_iff_mem] at hb
      exact ⟨hk', rfl, Or.inr hb⟩
    by_cases hs : o.skip ρ.parent (mkItem o ρ []).S = true
    · rw [if_pos hk, if_neg hb, if_pos hs]; exact Or.inr ⟨hk', flag_of_not hb, Or.inl ⟨hs, rfl⟩⟩
    · rw [if_pos hk, if_neg hb, if_neg hs]; exact Or.inr ⟨hk', flag_of_not hb, Or.inr rfl⟩
  · exact if_neg hk ▸ Or.inl ⟨fun h => hk (List.isEmpty_iff.mpr h), rfl⟩

theorem loop_sat {I : St → Prop} {E : Nat × Tree → Prop}
    (hbody : ∀ P it rest, I ⟨P, it :: rest⟩ → Sat E I ((tasks A it.q).foldlM (procTask o A it) ⟨P, rest⟩)) {n : Nat} :
    ∀ {st : St} {r : Res (List Item)}, I st → loop o A n st = some r → Sat E (fun P => I ⟨P, []⟩) r := by
  induction n with
  | zero => exact fun _ h => nomatch h
  | succ n ih =>
    rintro ⟨P, N⟩ r hst h
    cases N with
    | nil => cases h; exact hst
    | cons it rest =>
      have h₀ := hbody P it rest hst
      rw [loop_cons] at h
      cases he : (tasks A it.q).foldlM (procTask o A it) ⟨P, rest⟩ with
      | error e => rw [he] at h h₀; cases h; exact h₀
      | ok st' => rw [he] at h h₀; exact ih h₀ h

theorem run_sat {I : St → Prop} {E : Nat × Tree → Prop} {B : TA}
    (hsz : ∀ ρ, sizeExit A B = some ρ → E (ρ.parent, .node ρ.sym []))
    (hleaf : Sat E I (A.rules.foldlM (leafStep o A) ⟨[], []⟩))
    (hbody : ∀ P it rest, I ⟨P, it :: rest⟩ → Sat E I ((tasks A it.q).foldlM (procTask o A it) ⟨P, rest⟩))
    {fuel : Nat} {r : Res (List Item)} (h : run o A B fuel = some r) : Sat E (fun P => I ⟨P, []⟩) r := by
  unfold run at h
  split at h
  · next ρ hρ => cases h; exact hsz ρ hρ
  · split at h
    · next e he => rw [he] at hleaf; cases h; exact hleaf
    · next st he => rw [he] at hleaf; exact loop_sat hbody hleaf h

/-- every pair of the antichain and of the work-list has property `M` (the invariant of `run_all`) -/
def All (M : Item → Prop) (st : St) : Prop := (∀ i, i ∈ st.processed → M i) ∧ ∀ i, i ∈ st.next → M i

theorem addItem_all {M : Item → Prop} {st : St} {it : Item} (hst : All M st) (hit : M it) : All M (addItem o st it) := by
  constructor
  · intro i hi
    rw [addItem_processed] at hi
    exact (mem_addTmp hi).elim (hst.1 i) fun h => h ▸ hit
  · intro i hi
    exact (mem_addItem_next hi).elim (hst.2 i) fun h => h ▸ hit

structure Inherits (o : Ops) (A : TA) (M : Item → Prop) (E : Nat × Tree → Prop) : Prop where
  pair : ∀ {ρ : Rule} {is : List Item}, ρ ∈ A.rules → Choice M ρ.kids is → (ρ.parent ∈ A.final → flag o ρ is = true) →
    M (mkItem o ρ is)
  exit : ∀ {ρ : Rule} {is : List Item}, ρ ∈ A.rules → Choice M ρ.kids is → Fails o A ρ is →
    E (ρ.parent, (mkItem o ρ is).t)

variable {M : Item → Prop} {E : Nat × Tree → Prop}

theorem stepChoices_all {ρ : Rule} {iss : List (List Item)}
    (hpair : ∀ is, is ∈ iss → (ρ.parent ∈ A.final → flag o ρ is = true) → M (mkItem o ρ is))
    (hexit : ∀ is, is ∈ iss → Fails o A ρ is → E (ρ.parent, (mkItem o ρ is).t)) :
    Sat E (fun tmp => ∀ i, i ∈ tmp → M i) (iss.foldlM (stepChoice o A ρ) []) := by
  refine Sat.foldlM iss [] (fun _ h => nomatch h) fun tmp is his htmp => ?_
  refine (stepChoice_spec o A ρ tmp is).mono ?_ ?_
  · rintro _ ⟨rfl, hf⟩
    exact hexit is his hf
  · rintro tmp' ⟨hf, ⟨_, rfl⟩ | rfl⟩
    · exact htmp
    · exact fun i hi => (mem_addTmp hi).elim (htmp i) fun h => h ▸ hpair is his hf

theorem merge_all {tmp : List Item} (htmp : ∀ i, i ∈ tmp → M i) {st : St} (hst : All M st) :
    Sat E (All M) (tmp.foldlM (fun st i => .ok (addItem o st i)) st) :=
  Sat.foldlM tmp st hst fun _ i hi hst => addItem_all hst (htmp i hi)

theorem procTask_all (hI : Inherits o A M E) {it : Item} (hit : M it) {st : St} (hst : All M st) {p : Rule × Nat}
    (hp : p ∈ tasks A it.q) : Sat E (All M) (procTask o A it st p) := by
  obtain ⟨hρ, hj⟩ := mem_tasks.mp hp
  have hc : ∀ is, is ∈ choicesAt st.processed it p.1.kids p.2 → Choice M p.1.kids is := fun is his =>
    (choice_of_mem_choicesAt his hj).imp fun i hi => hi.elim (hst.1 i) fun h => h ▸ hit
  exact (stepChoices_all (fun is his => hI.pair hρ (hc is his)) fun is his => hI.exit hρ (hc is his)).bind
    fun tmp htmp => merge_all htmp hst

theorem leafPhase_all (hI : Inherits o A M E) : Sat E (All M) (A.rules.foldlM (leafStep o A) ⟨[], []⟩) := by
  refine Sat.foldlM (I := All M) _ _ ⟨(fun _ h => nomatch h), fun _ h => nomatch h⟩ fun st ρ hρ hst => ?_
  refine (leafStep_spec o A st ρ).mono ?_ ?_
  · rintro _ ⟨hk, rfl, hf⟩
    exact hI.exit hρ (hk ▸ All2.nil) hf
  · rintro st' (⟨_, rfl⟩ | ⟨hk, hf, ⟨_, rfl⟩ | rfl⟩)
    · exact hst
    · exact hst
    · exact addItem_all hst (hI.pair hρ (hk ▸ All2.nil) hf)

theorem run_all (hI : Inherits o A M E) {B : TA} (hsz : ∀ ρ, sizeExit A B = some ρ → E (ρ.parent, .node ρ.sym []))
    {fuel : Nat} {r : Res (List Item)} (h : run o A B fuel = some r) : Sat E (fun P => ∀ i, i ∈ P → M i) r :=
  (run_sat hsz (leafPhase_all hI) (fun _ it _ hst => Sat.foldlM _ _
    ⟨hst.1, fun i hi => hst.2 i (List.mem_cons_of_mem _ hi)⟩ fun _ _ hp hst' =>
      procTask_all hI (hst.2 it List.mem_cons_self) hst' hp) h).imp fun _ h => h.1

/-- the notions in which the closure is stated – `Sb i q S`: the pair `i` subsumes `(q, S)`; `Sk q S`: the pair `(q, S)`
need not be recorded – and what the operations guarantee of them -/
structure Spec (o : Ops) where
  Sb : Item → Nat → List Nat → Prop
  Sk : Nat → List Nat → Prop
  sub_sound : ∀ {P : List Item} {q : Nat} {S : List Nat}, o.sub P q S = true → ∃ i, i ∈ P ∧ Sb i q S
  refl : ∀ it : Item, Sb it it.q it.S
  trans : ∀ {i i' : Item} {q : Nat} {S : List Nat}, Sb i q S → Sb i' i.q i.S → Sb i' q S
  mono : ∀ {i : Item} {q : Nat} {S S' : List Nat}, Sb i q S → (∀ x, x ∈ S → x ∈ S') → Sb i q S'
  keep_false : ∀ {it i : Item}, o.keep it i = false → Sb it i.q i.S
  skip_sound : ∀ {q : Nat} {S : List Nat}, o.skip q S = true → Sk q S
  skip_mono : ∀ {q : Nat} {S S' : List Nat}, Sk q S → (∀ x, x ∈ S → x ∈ S') → Sk q S'

/-- the macro-state that `o.post` computes lies within the post-image in `B` (pruning may drop states, never add any) -/
def PostIn (o : Ops) (B : TA) : Prop := ∀ (f : Nat) (Ss : List (List Nat)) (x : Nat), x ∈ (o.post f Ss).1 → x ∈ post B f Ss

variable (s : Spec o)

def Spec.Subs (P : List Item) (q : Nat) (S : List Nat) : Prop := ∃ i, i ∈ P ∧ s.Sb i q S

def Spec.Cov (P : List Item) (q : Nat) (S : List Nat) : Prop := s.Sk q S ∨ s.Subs P q S

def Spec.Le (P P' : List Item) : Prop := ∀ q S, s.Subs P q S → s.Subs P' q S

theorem Spec.Cov.mono {P P' : List Item} {q : Nat} {S S' : List Nat} (h : s.Cov P q S) (hP : s.Le P P')
    (hS : ∀ x, x ∈ S → x ∈ S') : s.Cov P' q S' :=
  h.imp (s.skip_mono · hS) fun h => (hP q S h).imp fun _ hi => ⟨hi.1, s.mono hi.2 hS⟩

theorem addTmp_le (P : List Item) (it : Item) : s.Le P (addTmp o P it) := by
  rintro q S ⟨i, hi, hs⟩
  unfold addTmp
  split
  · exact ⟨i, hi, hs⟩
  · cases hk : o.keep it i with
    | true => exact ⟨i, List.mem_append_left _ (List.mem_filter.mpr ⟨hi, hk⟩), hs⟩
    | false => exact ⟨it, List.mem_append_right _ (List.mem_singleton.mpr rfl), s.trans hs (s.keep_false hk)⟩

theorem addTmp_self (P : List Item) (it : Item) : s.Subs (addTmp o P it) it.q it.S := by
  unfold addTmp
  split
  · next h => exact s.sub_sound h
  · exact ⟨it, List.mem_append_right _ (List.mem_singleton.mpr rfl), s.refl it⟩

/-- what every step of the exploration guarantees: what was subsumed stays subsumed, and no pair becomes `Done` except by
being picked -/
def Step (st st' : St) : Prop := s.Le st.processed st'.processed ∧ ∀ i, Done st' i → Done st i

theorem Step.refl (st : St) : Step s st st := ⟨fun _ _ h => h, fun _ h => h⟩

theorem Step.trans {st₁ st₂ st₃ : St} (h₁ : Step s st₁ st₂) (h₂ : Step s st₂ st₃) : Step s st₁ st₃ :=
  ⟨fun q S h => h₂.1 q S (h₁.1 q S h), fun i h => h₁.2 i (h₂.2 i h)⟩

theorem addItem_step (st : St) (it : Item) : Step s st (addItem o st it) := by
  refine ⟨addItem_processed o st it ▸ addTmp_le s _ it, ?_⟩
  by_cases hs : o.sub st.processed it.q it.S = true
  · rw [addItem, if_pos hs]; exact fun _ h => h
  · rw [addItem_of_not hs]
    rintro i ⟨h1, h2⟩
    rcases List.mem_append.mp h1 with h1 | h1
    · obtain ⟨hP, hk⟩ := List.mem_filter.mp h1
      exact ⟨hP, fun hN => h2 (mem_insNext.mpr (Or.inr (List.mem_filter.mpr ⟨hN, hk⟩)))⟩
    · exact absurd (mem_insNext.mpr (Or.inl (List.mem_singleton.mp h1))) h2

/-- the invariant of `run_closed`: the post-image of every choice of `Done` pairs is skipped or subsumed -/
def Closed (A B : TA) (st : St) : Prop :=
  ∀ ρ, ρ ∈ A.rules → ∀ is, Choice (Done st) ρ.kids is → s.Cov st.processed ρ.parent (post B ρ.sym (is.map (·.S)))

/-- `Closed` for one task of the picked pair `it`: the choices for the rule `p.1` that have `it` at position `p.2` -/
def TaskDone (B : TA) (it : Item) (p : Rule × Nat) (st : St) : Prop :=
  ∀ is, Choice (Done st) p.1.kids is → is[p.2]? = some it →
    s.Cov st.processed p.1.parent (post B p.1.sym (is.map (·.S)))

/-- one iteration of the work-list loop keeps the antichain closed: the picked pair `it` leaves the work-list, the body
only makes steps, and at its end every choice that contains `it` is covered -/
theorem closed_step {B : TA} {P : List Item} {it : Item} {rest : List Item} {st' : St}
    (hC : Closed s A B ⟨P, it :: rest⟩) (hst : Step s ⟨P, rest⟩ st')
    (hT : ∀ ρ, ρ ∈ A.rules → ∀ is, Choice (Done st') ρ.kids is → it ∈ is →
      s.Cov st'.processed ρ.parent (post B ρ.sym (is.map (·.S)))) : Closed s A B st' := by
  intro ρ hρ is his
  by_cases hit : it ∈ is
  · exact hT ρ hρ is his hit
  · refine (hC ρ hρ is (his.imp_mem fun i hi hd => ?_)).mono s hst.1 fun _ h => h
    have hd' := hst.2 i hd
    exact ⟨hd'.1, fun hm => (List.mem_cons.mp hm).elim (fun e => hit (e ▸ hi)) hd'.2⟩

/-- while every pair is still in the work-list, only the leaf rules have a choice of finished pairs -/
theorem closed_of_leaves {B : TA} {st : St} (hN : ∀ i, i ∈ st.processed → i ∈ st.next)
    (hL : ∀ ρ, ρ ∈ A.rules → ρ.kids = [] → s.Cov st.processed ρ.parent (post B ρ.sym [])) : Closed s A B st := by
  intro ρ hρ is his
  generalize hk : ρ.kids = ks at his
  cases his with
  | nil => exact hL ρ hρ hk
  | cons hd _ => exact absurd (hN _ hd.2.1) hd.2.2

theorem stepChoices_cover (ρ : Rule) (iss : List (List Item)) :
    Sat (fun _ => True) (fun tmp => ∀ is, is ∈ iss → s.Cov tmp ρ.parent (mkItem o ρ is).S)
      (iss.foldlM (stepChoice o A ρ) []) := by
  refine (Sat.foldlM_cover (I := fun _ => True) (R := s.Le) (C := fun is tmp => s.Cov tmp ρ.parent (mkItem o ρ is).S)
    (fun _ _ _ h => h) (fun h₁ h₂ q S h => h₂ q S (h₁ q S h)) (fun _ _ _ hR hC => hC.mono s hR fun _ h => h) iss [] trivial
    fun tmp is _ _ => ?_).imp fun _ h => h.2.2
  refine (stepChoice_spec o A ρ tmp is).mono (fun _ _ => trivial) ?_
  rintro tmp' ⟨_, ⟨hs, rfl⟩ | rfl⟩
  · exact ⟨trivial, fun _ _ h => h, Or.inl (s.skip_sound hs)⟩
  · exact ⟨trivial, addTmp_le s tmp _, Or.inr (addTmp_self s tmp _)⟩

theorem merge_cover (tmp : List Item) (st : St) :
    Sat (fun _ => True) (fun st' => Step s st st' ∧ ∀ i, i ∈ tmp → s.Subs st'.processed i.q i.S)
      (tmp.foldlM (fun st i => .ok (addItem o st i)) st : Res St) := by
  refine (Sat.foldlM_cover (I := fun _ => True) (R := Step s) (C := fun i st' => s.Subs st'.processed i.q i.S)
    (Step.refl s) (Step.trans s) (fun i _ _ hR hC => hR.1 i.q i.S hC) tmp st trivial fun st i _ _ => ?_).imp fun _ h => h.2
  exact ⟨trivial, addItem_step s st i, addItem_processed o st i ▸ addTmp_self s _ i⟩

variable {B : TA} (hB : PostIn o B)
include hB

theorem procTask_cover (it : Item) (st : St) (p : Rule × Nat) :
    Sat (fun _ => True) (fun st' => Step s st st' ∧ TaskDone s B it p st') (procTask o A it st p) := by
  refine (stepChoices_cover s p.1 _).bind fun tmp htmp => (merge_cover s tmp st).imp ?_
  rintro st' ⟨hst, hsub⟩
  refine ⟨hst, fun is his hj => ?_⟩
  rcases htmp is (mem_choicesAt (his.imp fun i hi => (hst.2 i hi).1) hj) with hk | ⟨i, hi, hs⟩
  · exact Or.inl (s.skip_mono hk (hB _ _))
  · obtain ⟨i', hi', hs'⟩ := hsub i hi
    exact Or.inr ⟨i', hi', s.mono (s.trans hs hs') (hB _ _)⟩

theorem procTasks_closed {P : List Item} {it : Item} {rest : List Item} (hC : Closed s A B ⟨P, it :: rest⟩) :
    Sat (fun _ => True) (Closed s A B) ((tasks A it.q).foldlM (procTask o A it) ⟨P, rest⟩) := by
  refine (Sat.foldlM_cover (I := fun _ => True) (R := Step s) (C := TaskDone s B it) (Step.refl s) (Step.trans s)
    (fun _ _ _ hR hC is his hj => (hC is (his.imp hR.2) hj).mono s hR.1 fun _ h => h) _ _ trivial
    fun st p _ _ => (procTask_cover s hB it st p).imp fun _ h => ⟨trivial, h⟩).imp ?_
  rintro st' ⟨_, hst, hT⟩
  exact closed_step s hC hst fun ρ hρ is his hit =>
    (List.getElem?_of_mem hit).elim fun j hj => hT (ρ, j) (mem_tasks.mpr ⟨hρ, (his.get hj).1⟩) is his hj

theorem leafPhase_closed : Sat (fun _ => True) (Closed s A B) (A.rules.foldlM (leafStep o A) ⟨[], []⟩) := by
  refine (Sat.foldlM_cover (I := fun st => ∀ i, i ∈ st.processed → i ∈ st.next) (R := Step s)
    (C := fun (ρ : Rule) (st : St) => ρ.kids = [] → s.Cov st.processed ρ.parent (post B ρ.sym [])) (Step.refl s) (Step.trans s)
    (fun _ _ _ hR hC hk => (hC hk).mono s hR.1 fun _ h => h) A.rules ⟨[], []⟩ (fun _ h => nomatch h)
    fun st ρ _ hN => ?_).imp ?_
  · refine (leafStep_spec o A st ρ).mono (fun _ _ => trivial) ?_
    rintro st' (⟨hk, rfl⟩ | ⟨_, _, ⟨hs, rfl⟩ | rfl⟩)
    · exact ⟨hN, Step.refl s _, fun h => absurd h hk⟩
    · exact ⟨hN, Step.refl s _, fun _ => Or.inl (s.skip_mono (s.skip_sound hs) (hB _ _))⟩
    · refine ⟨fun i hi => ?_, addItem_step s st _, fun _ => Or.inr ?_⟩
      · by_cases hs : o.sub st.processed (mkItem o ρ []).q (mkItem o ρ []).S = true
        · rw [addItem, if_pos hs] at hi ⊢; exact hN i hi
        · rw [addItem_of_not hs] at hi ⊢
          rcases List.mem_append.mp hi with hi | hi
          · obtain ⟨hP, hk⟩ := List.mem_filter.mp hi
            exact mem_insNext.mpr (Or.inr (List.mem_filter.mpr ⟨hN i hP, hk⟩))
          · exact mem_insNext.mpr (Or.inl (List.mem_singleton.mp hi))
      · obtain ⟨i, hi, hs⟩ := addTmp_self s st.processed (mkItem o ρ [])
        exact ⟨i, addItem_processed o st _ ▸ hi, s.mono hs (hB _ _)⟩
  · exact fun st ⟨hN, _, hL⟩ => closed_of_leaves s hN hL

theorem run_closed {fuel : Nat} {P : List Item} (h : run o A B fuel = some (.ok P)) : Closed s A B ⟨P, []⟩ :=
  run_sat (E := fun _ => True) (fun _ _ => trivial) (leafPhase_closed s hB) (fun _ _ _ => procTasks_closed s hB) h

end UpGen

namespace InclUp

def parents (A : TA) : List Nat := A.rules.map (·.parent)

def univ (A B : TA) : List (Nat × List Nat) :=
  (parents A).flatMap (fun q => (subsets (parents B)).map (fun T => (q, T)))
theorem length_univ (A B : TA) : (univ A B).length = A.rules.length * 2 ^ B.rules.length := by
  rw [show univ A B = pairUniv (parents A) (parents B) from rfl, length_pairUniv, parents, parents, List.length_map,
    List.length_map]

def Dom (A B : TA) (i : Item) : Prop := i.q ∈ parents A ∧ ∀ x, x ∈ i.S → x ∈ parents B

/-- the number of picked pairs is bounded by twice the number of pairs (parent of a rule of `A`, set of parents of rules of `B`),
of which there are at most `|Δ_A| · 2^|Δ_B|` -/
def fuelBound (A B : TA) : Nat := 2 * (A.rules.length * 2 ^ B.rules.length)

end InclUp

namespace UpGen
open InclUp

def mu (o : Ops) (A B : TA) (P : List Item) : Nat := (InclUp.univ A B).countP (fun p => !o.sub P p.1 p.2)

/-- twice that number plus the length of the work-list: every picked pair lowers it -/
def phi (o : Ops) (A B : TA) (st : St) : Nat := 2 * mu o A B st.processed + st.next.length

/-- what the measure needs of the subsumption test: it is upward closed in the macro-state (asked only of sets of parents
of rules of `B`), adding a pair loses nothing that was subsumed, and a pair that is added is subsumed afterwards -/
structure Shrinks (o : Ops) (A B : TA) : Prop where
  up : ∀ {P : List Item} {q : Nat} {S S' : List Nat}, (∀ x, x ∈ S → x ∈ parents B) → (∀ x, x ∈ S → x ∈ S') →
    o.sub P q S = true → o.sub P q S' = true
  keeps : ∀ {P : List Item} {it : Item} {q : Nat} {S : List Nat}, o.sub P q S = true → o.sub (addTmp o P it) q S = true
  self : ∀ {P : List Item} {it : Item}, Dom A B it → o.sub P it.q it.S = false →
    o.sub (addTmp o P it) it.q it.S = true
  dom : ∀ {ρ : Rule} (is : List Item), ρ ∈ A.rules → Dom A B (mkItem o ρ is)

variable {o : Ops} {A B : TA}

theorem mu_addTmp_le {P : List Item} {it : Item}
    (hk : ∀ {q : Nat} {S : List Nat}, o.sub P q S = true → o.sub (addTmp o P it) q S = true) :
    mu o A B (addTmp o P it) ≤ mu o A B P :=
  countP_not_le fun _ _ => hk

variable (hS : Shrinks o A B)
include hS

theorem mu_addTmp_lt {P : List Item} {it : Item} (hd : Dom A B it) (hs : o.sub P it.q it.S = false) :
    mu o A B (addTmp o P it) < mu o A B P :=
  uncovered_lt (c := o.sub P) (c' := o.sub (addTmp o P it)) (fun _ _ _ => hS.up) (fun _ _ _ => hS.up)
    (fun _ _ => hS.keeps) hd.1 hd.2 hs (hS.self hd hs)

theorem phi_addItem {st : St} {it : Item} (hd : Dom A B it) : phi o A B (addItem o st it) ≤ phi o A B st := by
  by_cases hs : o.sub st.processed it.q it.S = true
  · rw [addItem, if_pos hs]; exact Nat.le_refl _
  · have h1 := mu_addTmp_lt hS hd (Bool.not_eq_true _ ▸ hs)
    have h2 := List.length_filter_le (o.keep it) st.next
    rw [addTmp_of_not hs] at h1
    rw [addItem_of_not hs]
    simp only [phi, length_insNext]
    omega

theorem procTask_phi (it : Item) (st : St) {p : Rule × Nat} (hp : p.1 ∈ A.rules) :
    Sat (fun _ => True) (fun st' => phi o A B st' ≤ phi o A B st) (procTask o A it st p) :=
  (stepChoices_all (M := Dom A B) (fun is _ _ => hS.dom is hp) fun _ _ _ => trivial).bind fun tmp htmp =>
    Sat.foldlM_le tmp st fun _ i hi => phi_addItem hS (htmp i hi)

theorem loop_terminates (n : Nat) : ∀ st : St, phi o A B st < n → ∃ r, loop o A n st = some r := by
  induction n with
  | zero => exact fun _ h => absurd h (Nat.not_lt_zero _)
  | succ n ih =>
    rintro ⟨P, N⟩ h
    cases N with
    | nil => exact ⟨_, rfl⟩
    | cons it rest =>
      have h₀ : Sat (fun _ => True) (fun st' => phi o A B st' ≤ phi o A B ⟨P, rest⟩)
          ((tasks A it.q).foldlM (procTask o A it) ⟨P, rest⟩) :=
        Sat.foldlM_le _ _ fun st p hp => procTask_phi hS it st (mem_tasks.mp hp).1
      rw [loop_cons]
      cases he : (tasks A it.q).foldlM (procTask o A it) ⟨P, rest⟩ with
      | error e => exact ⟨_, rfl⟩
      | ok st' =>
        rw [he] at h₀
        refine ih st' (Nat.lt_of_le_of_lt h₀ ?_)
        rw [phi, List.length_cons] at h
        exact Nat.lt_of_succ_lt_succ h

theorem leafPhase_phi : Sat (fun _ => True) (fun st => phi o A B st ≤ phi o A B ⟨[], []⟩)
    (A.rules.foldlM (leafStep o A) ⟨[], []⟩) :=
  Sat.foldlM_le _ _ fun st ρ hρ => (leafStep_spec o A st ρ).mono (fun _ _ => trivial) (by
    rintro st' (⟨_, rfl⟩ | ⟨_, _, ⟨_, rfl⟩ | rfl⟩)
    · exact Nat.le_refl _
    · exact Nat.le_refl _
    · exact phi_addItem hS (hS.dom [] hρ))

theorem run_terminates {fuel : Nat} (h : fuelBound A B < fuel) : ∃ r, run o A B fuel = some r := by
  unfold run
  split
  · exact ⟨_, rfl⟩
  · have h₀ := leafPhase_phi hS
    split
    · exact ⟨_, rfl⟩
    · next st he =>
      rw [he] at h₀
      refine loop_terminates hS fuel st (Nat.lt_of_le_of_lt (Nat.le_trans h₀ ?_) h)
      have := List.countP_le_length (p := fun p : Nat × List Nat => !o.sub [] p.1 p.2) (l := InclUp.univ A B)
      rw [length_univ] at this
      exact Nat.add_le_of_le_sub (Nat.zero_le _) (Nat.mul_le_mul_left 2 this)

end UpGen
end Vata
