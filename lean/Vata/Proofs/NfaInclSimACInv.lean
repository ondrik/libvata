import Vata.Proofs.NfaInclSimAC
import Vata.Proofs.NfaInclTotal
/-!
# The exploration of `ANTICHAINS_SIM` (`NfaIncl.runACSim`) is right by itself

`Vata/Proofs/NfaInclSimAC.lean` trusts only the final Boolean checks of `nfaInclACSim`.  Here the work-list algorithm with the
simulation comparator is analysed, as `Vata/Proofs/NfaInclTotal.lean` does for the identity relation.

When `singleAntichain_` holds the state of every stored pair (`SingleOK`, an invariant), the candidate lists are
transparent: `contains` is "covered modulo `R`" (`CovR`), `refine` erases the pairs above the new one.  So `runACSim R` is the
exploration `Expl.run` of `Vata/Proofs/NfaInclExpl.lean` whose insertion `addPairSim R` inserts into an antichain of the order
"`q R c` and `T ≤ S` modulo `R`" (`leR`, `simExpl_inserts` – for EVERY relation), with the test `checkSmallerInBigger`.  A
`return false` is justified for EVERY relation.  That `leR R` is a cover order (`leR_order`) needs `R` transitive and reflexive on
the states of the operands, NOT that it is a simulation; with it a finished `true` run leaves an antichain that passes
`nfaUpCertSimB` (state-disjoint operands) and the run ends within `fuelBoundAC A B` picked pairs.  So on every finished run the
unchecked verdict is the checked one, hence exact when `R` is a simulation preorder on `A ⊎ B`.
-/
namespace Vata
open Vata.W
namespace NfaIncl


/-- `(q, S)` is covered modulo `R` by a pair of `P`: some `(c, T) ∈ P` with `q R c` and `T ≤ S` (`∀∃` modulo `R`) -/
def CovR (R : Rel) (P : List Item) (q : Nat) (S : List Nat) : Prop :=
  ∃ j, j ∈ P ∧ (q, j.q) ∈ R ∧ Lte R j.S S

theorem Lte.mono_right {R : Rel} {S T T' : List Nat} (h : Lte R S T) (hT : ∀ x, x ∈ T → x ∈ T') : Lte R S T' := by
  intro x hx
  obtain ⟨y, hy, hxy⟩ := h x hx
  exact ⟨y, hT y hy, hxy⟩

theorem CovR.mono_right {R : Rel} {P : List Item} {q : Nat} {S S' : List Nat} (h : CovR R P q S)
    (hS : ∀ x, x ∈ S → x ∈ S') : CovR R P q S' := by
  obtain ⟨j, hj, hq, hl⟩ := h
  exact ⟨j, hj, hq, hl.mono_right hS⟩

/-- `singleAntichain_` holds the state of every pair of `P` -/
def SingleOK (single : List Nat) (P : List Item) : Prop := ∀ i, i ∈ P → i.q ∈ single

theorem containsSim_cov {R : Rel} {P : List Item} {single : List Nat} {q : Nat} {S : List Nat}
    (h : containsSim R P (candSim R single q) S = true) : CovR R P q S := by
  simp only [containsSim, candSim, List.any_eq_true, List.mem_filter, Bool.and_eq_true, beq_iff_eq, relGet_iff,
    lteSim_iff] at h
  obtain ⟨c, ⟨_, hr⟩, i, hi, hq, hl⟩ := h
  exact ⟨i, hi, by rw [hq]; exact hr, hl⟩

theorem containsSim_iff {R : Rel} {P : List Item} {single : List Nat} {q : Nat} {S : List Nat}
    (hso : SingleOK single P) : containsSim R P (candSim R single q) S = true ↔ CovR R P q S := by
  refine ⟨containsSim_cov, ?_⟩
  rintro ⟨j, hj, hq, hl⟩
  simp only [containsSim, candSim, List.any_eq_true, List.mem_filter, Bool.and_eq_true, beq_iff_eq, relGet_iff,
    lteSim_iff]
  exact ⟨j.q, ⟨hso j hj, hq⟩, j, hj, rfl, hl⟩

theorem mem_refineSim {R : Rel} {P : List Item} {single : List Nat} {q : Nat} {S : List Nat} {i : Item} :
    i ∈ refineSim R P (candRevSim R single q) S ↔
      i ∈ P ∧ ¬ (i.q ∈ single ∧ (i.q, q) ∈ R ∧ Lte R S i.S) := by
  simp only [refineSim, candRevSim, List.mem_filter, Bool.not_eq_true', Bool.and_eq_false_iff]
  constructor
  · rintro ⟨h1, h2⟩
    refine ⟨h1, ?_⟩
    rintro ⟨hs, hr, hl⟩
    rcases h2 with h2 | h2
    · have : (List.filter (fun c => relGet R c q) single).contains i.q = true := by
        rw [List.contains_iff_mem, List.mem_filter]; exact ⟨hs, relGet_iff.mpr hr⟩
      rw [h2] at this; cases this
    · rw [lteSim_iff.mpr hl] at h2; cases h2
  · rintro ⟨h1, h2⟩
    refine ⟨h1, ?_⟩
    cases hc : (List.filter (fun c => relGet R c q) single).contains i.q with
    | false => exact Or.inl rfl
    | true =>
      right
      rw [List.contains_iff_mem, List.mem_filter, relGet_iff] at hc
      cases hl : lteSim R S i.S with
      | false => rfl
      | true => exact (h2 ⟨hc.1, hc.2, lteSim_iff.mp hl⟩).elim


/-- `AddToSingleAC` -/
def addSingle (single : List Nat) (q : Nat) : List Nat := if single.contains q then single else single ++ [q]

theorem mem_addSingle {single : List Nat} {q x : Nat} : x ∈ addSingle single q ↔ x ∈ single ∨ x = q := mem_insNew

theorem addPairSim_pos {R : Rel} {st : StS} {it : Item}
    (h : containsSim R st.antichain (candSim R st.single it.q) it.S = true) : addPairSim R st it = st := by
  unfold addPairSim; rw [if_pos h]

theorem addPairSim_neg {R : Rel} {st : StS} {it : Item}
    (h : containsSim R st.antichain (candSim R st.single it.q) it.S = false) :
    addPairSim R st it =
      ⟨refineSim R st.antichain (candRevSim R st.single it.q) it.S ++ [it],
       if containsSim R st.next (candSim R (addSingle st.single it.q) it.q) it.S then st.next
       else insNext it (refineSim R st.next (candRevSim R (addSingle st.single it.q) it.q) it.S),
       addSingle st.single it.q⟩ := by
  unfold addPairSim; rw [if_neg (by rw [h]; exact Bool.false_ne_true)]; rfl

theorem addPairSim_single_ok {R : Rel} {st : StS} {it : Item} (h : SingleOK st.single st.antichain) :
    SingleOK (addPairSim R st it).single (addPairSim R st it).antichain := by
  cases hs : containsSim R st.antichain (candSim R st.single it.q) it.S with
  | true => rw [addPairSim_pos hs]; exact h
  | false =>
    rw [addPairSim_neg hs]
    intro i hi
    rcases List.mem_append.mp hi with hi | hi
    · exact mem_addSingle.mpr (Or.inl (h i (mem_refineSim.mp hi).1))
    · rw [List.mem_singleton.mp hi]; exact mem_addSingle.mpr (Or.inr rfl)

def simExpl (R : Rel) : Expl StS :=
  ⟨StS.antichain, StS.next, fun st l => ⟨st.antichain, l, st.single⟩, addPairSim R,
    fun i => smallerInBigger R i.q i.S, ⟨[], [], []⟩⟩

theorem makePostSim_cons (A B : NFA) (R : Rel) (it : Item) (e : Nat × Nat × Nat) (es : List (Nat × Nat × Nat))
    (st : StS) :
    makePostSim A B R it (e :: es) st =
      if e.1 == it.q then
        (if badB A B (succItem B it e) then .error (succItem B it e).w
         else if smallerInBigger R e.2.2 (succItem B it e).S then makePostSim A B R it es st
         else makePostSim A B R it es (addPairSim R st (succItem B it e)))
      else makePostSim A B R it es st := rfl

theorem makePostSim_eq (A B : NFA) (R : Rel) (it : Item) : ∀ (es : List (Nat × Nat × Nat)) (st : StS),
    makePostSim A B R it es st = (simExpl R).feed A B (simExpl R).skip (succs B it es) st
  | [], _ => rfl
  | e :: es, st => by
    rw [makePostSim_cons, succs_cons]
    by_cases hq : (e.1 == it.q) = true
    · rw [if_pos hq, if_pos hq, Expl.feed_cons, makePostSim_eq A B R it es, makePostSim_eq A B R it es]; rfl
    · rw [if_neg hq, if_neg hq, makePostSim_eq A B R it es]

theorem initACSim_eq (A B : NFA) (R : Rel) (S0 : List Nat) : ∀ (ss : List Nat) (st : StS),
    initACSim A B R S0 ss st = (simExpl R).feed A B (fun _ => false) (starts S0 ss) st
  | [], _ => rfl
  | s :: ss, st => by
    show (if badB A B ⟨s, S0, []⟩ then .error [] else initACSim A B R S0 ss (addPairSim R st ⟨s, S0, []⟩)) = _
    rw [initACSim_eq A B R S0 ss]; rfl

theorem loopACSim_eq (A B : NFA) (R : Rel) : ∀ (n : Nat) (st : StS),
    loopACSim A B R n st = (simExpl R).loop A B n st
  | 0, _ => rfl
  | n+1, ⟨_, [], _⟩ => rfl
  | n+1, ⟨P, it :: rest, single⟩ => by
    rw [Expl.loop_cons (X := simExpl R) (st := ⟨P, it :: rest, single⟩) rfl, ← makePostSim_eq,
      ← funext (loopACSim_eq A B R n)]
    simp only [loopACSim]
    show _ = Expl.andThen (makePostSim A B R it A.trans ⟨P, rest, single⟩) (loopACSim A B R n)
    cases makePostSim A B R it A.trans ⟨P, rest, single⟩ with
    | error w => rfl
    | ok st' => rfl

theorem runACSim_eq (A B : NFA) (R : Rel) (fuel : Nat) : runACSim A B R fuel = (simExpl R).run A B fuel := by
  show _ = Expl.andThen ((simExpl R).feed A B (fun _ => false) (starts (normS B.start) A.start) ⟨[], [], []⟩)
    ((simExpl R).loop A B fuel)
  rw [← initACSim_eq, ← funext (loopACSim_eq A B R fuel)]
  unfold runACSim
  cases initACSim A B R (normS B.start) A.start ⟨[], [], []⟩ with
  | error w => rfl
  | ok st => rfl


/-- `(c, T)` covers `(q, S)` modulo `R` when `q R c` and `T ≤ S` -/
def leR (R : Rel) (i j : Item) : Prop := (j.q, i.q) ∈ R ∧ Lte R i.S j.S

theorem simExpl_inserts (R : Rel) : (simExpl R).Inserts (fun st => SingleOK st.single st.antichain) (leR R) where
  antichain_setNext := fun _ _ => rfl
  next_setNext := fun _ _ => rfl
  antichain_empty := rfl
  next_empty := rfl
  keep_empty := fun _ hi => nomatch hi
  keep_setNext := id
  keep_add := addPairSim_single_ok
  covered := fun hso hc => addPairSim_pos ((containsSim_iff hso).mpr hc)
  mem_antichain := fun {st it} hso hc j => by
    have hs : containsSim R st.antichain (candSim R st.single it.q) it.S = false :=
      Bool.eq_false_iff.mpr fun h => hc (containsSim_cov h)
    show j ∈ (addPairSim R st it).antichain ↔ _
    rw [addPairSim_neg hs, List.mem_append, List.mem_singleton, mem_refineSim]
    -- `singleAntichain_` holds the states of the stored pairs: the candidate list hides nothing
    exact or_congr_left (and_congr_right fun hj => not_congr ⟨fun h => h.2, fun h => ⟨hso j hj, h⟩⟩)
  mem_next := fun {st it} hso hsub hc j => by
    have hs : containsSim R st.antichain (candSim R st.single it.q) it.S = false :=
      Bool.eq_false_iff.mpr fun h => hc (containsSim_cov h)
    -- the work-list is inside the antichain, so the pair is not covered there either
    have hsn : ¬ containsSim R st.next (candSim R (addSingle st.single it.q) it.q) it.S = true := fun hn =>
      hc ((containsSim_cov hn).imp fun k hk => ⟨hsub k hk.1, hk.2⟩)
    show j ∈ (addPairSim R st it).next ↔ _
    rw [addPairSim_neg hs]; dsimp only
    rw [if_neg hsn, mem_insNext, mem_refineSim, or_comm]
    exact or_congr_left (and_congr_right fun hj => not_congr
      ⟨fun h => h.2, fun h => ⟨mem_addSingle.mpr (Or.inl (hso j (hsub j hj))), h⟩⟩)
  next_length := fun {st it} => by
    show (addPairSim R st it).next.length ≤ st.next.length + 1
    cases hs : containsSim R st.antichain (candSim R st.single it.q) it.S with
    | true => rw [addPairSim_pos hs]; exact Nat.le_succ _
    | false =>
      rw [addPairSim_neg hs]; dsimp only
      split
      · exact Nat.le_succ _
      · rw [length_insNext]
        exact Nat.succ_le_succ (List.length_filter_le _ _)

/-- a `return false` of the exploration is justified – whatever the relation is -/
theorem runACSim_error_ok {A B : NFA} {R : Rel} {fuel : Nat} {w : List Nat}
    (h : runACSim A B R fuel = some (.error w)) : acceptsW A w = true ∧ acceptsW B w = false := by
  rw [runACSim_eq] at h
  exact (Expl.run_ok (simExpl_inserts R) fuel).2 w h

theorem runACSim_ok_words {A B : NFA} {R : Rel} {fuel : Nat} {P : List Item}
    (h : runACSim A B R fuel = some (.ok P)) : ∀ i, i ∈ P → WordOK A B i := by
  rw [runACSim_eq] at h
  exact (Expl.run_ok (simExpl_inserts R) fuel).1 P h


/-- what the proofs need of `R`: transitive, and reflexive on the states the pairs of the exploration live on -/
structure PreOn (A B : NFA) (R : Rel) : Prop where
  reflA : ∀ q, q ∈ domS A → (q, q) ∈ R
  reflB : ∀ q, q ∈ domS B → (q, q) ∈ R
  trans : ∀ p q r, (p, q) ∈ R → (q, r) ∈ R → (p, r) ∈ R

/-- every successor of the pair is skipped by `checkSmallerInBigger` or covered modulo `R` by `P` -/
def DoneS (A B : NFA) (R : Rel) (P : List Item) (i : Item) : Prop :=
  ∀ a q', (i.q, a, q') ∈ A.trans →
    (∃ s, s ∈ stepW B i.S a ∧ (q', s) ∈ R) ∨ CovR R P q' (stepW B i.S a)


theorem leR_order {A B : NFA} {R : Rel} (hpre : PreOn A B R) : Expl.CoverOrder A B (leR R) :=
  ⟨fun hd => ⟨hpre.reflA _ hd.1, fun x hx => ⟨x, hx, hpre.reflB x (hd.2 x hx)⟩⟩,
    fun h1 h2 => ⟨hpre.trans _ _ _ h2.1 h1.1, h1.2.trans hpre.trans h2.2⟩,
    fun h hq hS => ⟨hq ▸ h.1, h.2.mono_right hS⟩⟩

theorem smallerInBigger_iff {R : Rel} {q : Nat} {S : List Nat} :
    smallerInBigger R q S = true ↔ ∃ s, s ∈ S ∧ (q, s) ∈ R := by
  simp only [smallerInBigger, List.any_eq_true, relGet_iff]

/-- `Expl.Cert` for `runACSim R`, spelled with `CovR` / `DoneS`: the form `nfaUpCertSimB` is checked against -/
structure CertPS (A B : NFA) (R : Rel) (P : List Item) : Prop where
  start : ∀ s, s ∈ A.start → CovR R P s B.start
  closed : ∀ i, i ∈ P → DoneS A B R P i
  good : ∀ i, i ∈ P → i.q ∈ A.final → W.accepting B i.S = true
  dom : ∀ i, i ∈ P → Dom A B i


theorem runACSim_ok_certP {A B : NFA} {R : Rel} (hpre : PreOn A B R) {fuel : Nat} {P : List Item}
    (h : runACSim A B R fuel = some (.ok P)) : CertPS A B R P := by
  rw [runACSim_eq] at h
  have hc := Expl.run_cert (leR_order hpre) (simExpl_inserts R) h
  refine ⟨fun s hs => ?_, fun i hi a q' he => ?_, hc.good, hc.dom⟩
  · exact CovR.mono_right (hc.start _ (List.mem_map.mpr ⟨s, hs, rfl⟩)) fun x hx => mem_normS.mp hx
  · rcases hc.closed i hi _ (mem_succs.mpr ⟨(i.q, a, q'), he, rfl, rfl⟩) with hsk | hcv
    · obtain ⟨s, hs, hr⟩ := smallerInBigger_iff.mp hsk
      exact Or.inl ⟨s, mem_normS.mp hs, hr⟩
    · exact Or.inr (CovR.mono_right hcv fun x hx => mem_normS.mp hx)


theorem domS_sub_nfaStates {N : NFA} {q : Nat} (h : q ∈ domS N) : q ∈ nfaStates N := by
  rcases List.mem_append.mp h with h | h
  · exact start_mem_nfaStates h
  · obtain ⟨⟨p, a, r⟩, he, rfl⟩ := List.mem_map.mp h
    exact tgt_mem_nfaStates he

theorem stepW_union_right_mem {A B : NFA} {S : List Nat} {a x : Nat} (h : x ∈ stepW B S a) :
    x ∈ stepW (nfaUnionDisjoint A B) S a := by
  obtain ⟨p, hp, he⟩ := mem_stepW.mp h
  exact mem_stepW.mpr ⟨p, hp, List.mem_append_right _ he⟩

theorem certPS_upCertSimB {A B : NFA} {R : Rel} (hdis : ∀ q, q ∈ nfaStates A → q ∈ nfaStates B → False)
    {P : List Item} (h : CertPS A B R P) : nfaUpCertSimB A B R (pairs P) = true := by
  simp only [nfaUpCertSimB, pairs, Bool.and_eq_true, List.all_eq_true, List.any_eq_true, Bool.or_eq_true, bne_iff_ne,
    ne_eq, Bool.not_eq_true', relGet_iff, lteSim_iff, smallerInBigger, List.mem_map]
  refine ⟨⟨?_, ?_⟩, ?_⟩
  · intro s hs
    obtain ⟨j, hj, hq, hl⟩ := h.start s hs
    exact ⟨_, ⟨j, hj, rfl⟩, hq, hl⟩
  · rintro _ ⟨i, hi, rfl⟩ e he
    by_cases hq : e.1 = i.q
    · have heA : (i.q, e.2.1, e.2.2) ∈ A.trans := by
        rcases List.mem_append.mp he with he | he
        · rw [← hq]; exact he
        · exact (hdis i.q (domS_sub_nfaStates (h.dom i hi).1) (by rw [← hq]; exact src_mem_nfaStates he)).elim
      rcases h.closed i hi e.2.1 e.2.2 heA with ⟨s, hs, hr⟩ | ⟨j, hj, hr, hl⟩
      · exact Or.inl (Or.inr ⟨s, stepW_union_right_mem hs, hr⟩)
      · exact Or.inr ⟨_, ⟨j, hj, rfl⟩, hr, hl.mono_right (fun x hx => stepW_union_right_mem hx)⟩
    · exact Or.inl (Or.inl hq)
  · rintro _ ⟨i, hi, rfl⟩
    by_cases hf : i.q ∈ (nfaUnionDisjoint A B).final
    · right
      rcases List.mem_append.mp hf with hfA | hfB
      · obtain ⟨x, hx, hxf⟩ := accepting_iff.mp (h.good i hi hfA)
        exact accepting_iff.mpr ⟨x, hx, List.mem_append_right _ hxf⟩
      · exact (hdis i.q (domS_sub_nfaStates (h.dom i hi).1) (final_mem_nfaStates hfB)).elim
    · left
      cases hc : (nfaUnionDisjoint A B).final.contains i.q with
      | false => rfl
      | true => exact (hf (List.contains_iff_mem.mp hc)).elim

theorem preOn_of_pre {A B : NFA} {R : Rel}
    (hrefl : ∀ q, q ∈ nfaStates (nfaUnionDisjoint A B) → (q, q) ∈ R)
    (ht : ∀ p q r, (p, q) ∈ R → (q, r) ∈ R → (p, r) ∈ R) : PreOn A B R :=
  ⟨fun q hq => hrefl q (mem_nfaStates_unionDisjoint.mpr (Or.inl (domS_sub_nfaStates hq))),
    fun q hq => hrefl q (mem_nfaStates_unionDisjoint.mpr (Or.inr (domS_sub_nfaStates hq))), ht⟩

/-- the antichain of a finished `true` run passes the certificate check: state-disjoint operands, `R` reflexive on the
states of `A ⊎ B` and transitive (that `R` is a simulation is NOT used) -/
theorem runACSim_ok_cert {A B : NFA} {R : Rel} (hdis : ∀ q, q ∈ nfaStates A → q ∈ nfaStates B → False)
    (hrefl : ∀ q, q ∈ nfaStates (nfaUnionDisjoint A B) → (q, q) ∈ R)
    (ht : ∀ p q r, (p, q) ∈ R → (q, r) ∈ R → (p, r) ∈ R) {fuel : Nat} {P : List Item}
    (h : runACSim A B R fuel = some (.ok P)) : nfaUpCertSimB A B R (P.map (fun i => (i.q, i.S))) = true :=
  certPS_upCertSimB hdis (runACSim_ok_certP (preOn_of_pre hrefl ht) h)

/-- the exploration with a simulation ends within the bound of the exploration without one (that `R` is a simulation is not
used, nor that the operands are disjoint; without reflexivity the exploration need not terminate:
`Vata.Props.C09_antichain_sim_termination_needs_reflexive`, `Vata/Properties/C09_SimTotal.lean`) -/
theorem runACSim_terminates {A B : NFA} {R : Rel} (hpre : PreOn A B R) {fuel : Nat} (h : fuelBoundAC A B < fuel) :
    ∃ r, runACSim A B R fuel = some r :=
  runACSim_eq A B R fuel ▸ Expl.run_terminates (leR_order hpre) (simExpl_inserts R) h

end NfaIncl

open NfaIncl

/-- on every finished run the unchecked verdict (what the C++ returns) is the verdict of the certify-then-trust model -/
theorem nfaInclACSimRaw_eq {A B : NFA} {R : Rel} (hdis : ∀ q, q ∈ nfaStates A → q ∈ nfaStates B → False)
    (hrefl : ∀ q, q ∈ nfaStates (nfaUnionDisjoint A B) → (q, q) ∈ R)
    (ht : ∀ p q r, (p, q) ∈ R → (q, r) ∈ R → (p, r) ∈ R) (fuel : Nat) :
    nfaInclACSim A B R fuel = nfaInclACSimRaw A B R fuel := by
  unfold nfaInclACSim nfaInclACSimRaw
  cases h : runACSim A B R fuel with
  | none => rfl
  | some r =>
    cases r with
    | ok P => simp only; rw [if_pos (runACSim_ok_cert hdis hrefl ht h)]
    | error w =>
      simp only
      obtain ⟨h1, h2⟩ := runACSim_error_ok h
      rw [h1, h2]; rfl

/-- every verdict of the exploration alone is exact when `R` is a simulation preorder on the disjoint union -/
theorem nfaInclACSimRaw_iff {A B : NFA} {R : Rel} (hdis : ∀ q, q ∈ nfaStates A → q ∈ nfaStates B → False)
    (hR : NfaSimPre (nfaUnionDisjoint A B) R) {fuel : Nat} {b : Bool} (h : nfaInclACSimRaw A B R fuel = some b) :
    b = true ↔ InclW A B := by
  rw [← nfaInclACSimRaw_eq hdis hR.2.1 hR.2.2] at h
  exact nfaInclACSim_iff hdis hR.1 hR.2.2 h

end Vata
