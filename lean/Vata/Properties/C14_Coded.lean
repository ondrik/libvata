import Vata.Proofs.RenameCodedMain
import Vata.Proofs.IsectModel
/-!
# C14 – `ReindexStates` / `CollapseStates` / `TranslateSymbols` AS CODED on the rule store, with translators that may throw

> ReindexStates and CollapseStates return exactly the image of the automaton under the given state map: a rule or final
> state is in the result if and only if it is the image of a rule or final state of the input, and TranslateSymbols
> does the same for a symbol map.  Consequently an injective renaming yields an isomorphic automaton with the same
> language and the same number of states and rules, and a non-injective state map yields an automaton whose language
> contains the original one.

## How the C++ is read into the model (`Vata/RenameCoded.lean`)

* `reindexInto T src dst st addFinalStates` mirrors `src.ReindexStates(dst, index, addFinalStates)` loop by loop on
  `Vata.Store` values: the final states FIRST (`SetStateFinal(index.at(state))`), then for every cluster `index.at(parent)`
  followed by `uniqueCluster` (the cluster is CREATED before any child is translated), for every symbol `uniqueTuplePtrSet`
  (the tuple set is CREATED), for every tuple the children left to right, then the `insert`.  The list order of the source store
  is the iteration order of the hash containers – every theorem holds for every order.
* A translator object is `Transl σ` (`app st key = none` = throws); `strictT` = `TranslatorStrict<map>` (`Glue.strict`),
  `weakT f` = `TranslatorWeak<map>` with a functor of `Glue.Alloc` (one step of `Glue.weakMapSeq`), `totalT h` = a total functor.
* The outcome is a `Run`: the thrown key, `dst` AT THAT MOMENT, the translator's container.  `reindexCoded` / `collapseCoded` /
  `translateSymbolsCoded` wrap it as `Except (key × dst × translator) (result × translator)`; `…TA` are entry points on `TA` values.
* "The SOURCE is unchanged": `ReindexStates` is a `const` method and the source is only read; in the model the source store is an
  argument that is not part of the result, so this is true by construction (the sharing side – no OTHER object changes – is
  `C11_ext_reindex_into`).
* Abstracted: `shared_ptr` sharing (C11), alphabet pointer, tuple cache, `dst` aliasing `*this`.

## Finding (documented by `C14_coded_thrown_dst_breaks_invariant`)

When the strict translator throws while translating the CHILDREN of a tuple, `dst` already contains the cluster and the tuple set
created by `uniqueCluster` / `uniqueTuplePtrSet` – possibly EMPTY.  An empty tuple set / cluster violates the representation
invariant of the store (`Store.Inv`, C12) on which the iterators rely.  Only the `dst` overload can expose this (the value-returning
overloads destroy `res` during unwinding).
-/
namespace Vata.Props
open Vata.Store Vata.RenameCoded

/-- which states are looked up, in which order: the translator sees exactly `lookupOrder src addFinalStates` (final states if asked
for, then per cluster the parent and the children symbol by symbol, tuple by tuple, left to right) up to the first key that
throws – for ANY translator object that behaves like a growing map (`Lawful`) -/
theorem C14_coded_lookup_order {σ : Type} {T : Transl σ} {view : σ → Nat → Option Nat} (L : Lawful T view)
    (src dst : Store) (st : σ) (af : Bool) :
    ((reindexInto T src dst st af).thrown, (reindexInto T src dst st af).tr) = appSeq T (lookupOrder src af) st :=
  (reindexInto_gen L src dst st af).keys

example : lookupOrder ⟨[(1, [(7, [[], [1, 2]])]), (3, [(8, [[2]])])], [3, 5]⟩ true = [3, 5, 1, 1, 2, 3, 2] := by decide +kernel

/-- the two components of `C14_coded_lookup_order` -/
theorem reindexInto_thrown {σ : Type} {T : Transl σ} {view : σ → Nat → Option Nat} (L : Lawful T view)
    (src dst : Store) (st : σ) (af : Bool) :
    (reindexInto T src dst st af).thrown = (appSeq T (lookupOrder src af) st).1 :=
  congrArg Prod.fst (reindexInto_gen L src dst st af).keys

theorem reindexInto_tr {σ : Type} {T : Transl σ} {view : σ → Nat → Option Nat} (L : Lawful T view)
    (src dst : Store) (st : σ) (af : Bool) :
    (reindexInto T src dst st af).tr = (appSeq T (lookupOrder src af) st).2 :=
  congrArg Prod.snd (reindexInto_gen L src dst st af).keys

/-- "is the image of a member", with the equation read either way -/
theorem exists_mem_eq_comm {α β : Type} {l : List α} {f : α → β} {x : β} :
    (∃ r, r ∈ l ∧ f r = x) ↔ ∃ r, r ∈ l ∧ x = f r :=
  ⟨fun ⟨r, a, b⟩ => ⟨r, a, b.symm⟩, fun ⟨r, a, b⟩ => ⟨r, a, b.symm⟩⟩

/-- a total translator (`ReindexStates` with a functor, `CollapseStates`): nothing is thrown, and the destination holds what it
held plus exactly the image; each rule is yielded once.  (`WInv` = keys unique at both levels, no duplicate tuple, no duplicate
final state.)  Hypothesis: the destination satisfies the weak invariant (true for every store built by the API). -/
theorem C14_coded_reindex_image (h : Nat → Nat) (src dst : Store) (af : Bool) (hd : WInv dst) :
    (reindexInto (totalT h) src dst () af).thrown = none ∧
    WInv (reindexInto (totalT h) src dst () af).dst ∧ (iterate (reindexInto (totalT h) src dst () af).dst).Nodup ∧
    (∀ x, x ∈ iterate (reindexInto (totalT h) src dst () af).dst ↔
      x ∈ iterate dst ∨ ∃ r, r ∈ iterate src ∧ x = mapRule h r) ∧
    (∀ q, q ∈ (reindexInto (totalT h) src dst () af).dst.final ↔
      q ∈ dst.final ∨ (af = true ∧ ∃ p, p ∈ src.final ∧ q = h p)) := by
  have hthr : (reindexInto (totalT h) src dst () af).thrown = none :=
    (reindexInto_thrown (lawful_totalT h) src dst () af).trans (appSeq_total_none h _)
  have hl : Left h src dst af _ _ := reindexInto_lawful (lawful_totalT h) src dst () af
  rw [hthr] at hl
  have hw' := hl.winv hd
  refine ⟨hthr, hw', nodup_iterate_w hw', ?_, ?_⟩
  · intro x
    rw [← contains_iff_mem_iterate_w hw', ← contains_iff_mem_iterate_w hd, hl.complete.1]
  · intro q
    rw [hl.complete.2]
    cases af <;> simp

/-- into the empty store: the destination holds exactly the image -/
theorem reindexInto_empty_image (h : Nat → Nat) (src : Store) :
    (∀ x, x ∈ iterate (reindexInto (totalT h) src empty () true).dst ↔ ∃ r, r ∈ iterate src ∧ x = mapRule h r) ∧
    (∀ q, q ∈ (reindexInto (totalT h) src empty () true).dst.final ↔ ∃ p, p ∈ src.final ∧ q = h p) := by
  obtain ⟨_, _, _, hr, hf⟩ := C14_coded_reindex_image h src empty true winv_empty
  refine ⟨fun x => (hr x).trans ?_, fun q => (hf q).trans ?_⟩
  · exact or_iff_right List.not_mem_nil
  · simp only [empty, List.not_mem_nil, false_or, true_and]

/-- the value-returning overload on the protocol level: the rules and final states of the result are those of the relation-level
`reindex h`, hence (C14) for `h` injective on the states the result has the same language -/
theorem C14_coded_reindex_lang (h : Nat → Nat) (src : Store) :
    (∀ x, x ∈ (toTA (reindexInto (totalT h) src empty () true).dst).rules ↔ x ∈ (reindex h (toTA src)).rules) ∧
    (∀ q, q ∈ (toTA (reindexInto (totalT h) src empty () true).dst).final ↔ q ∈ (reindex h (toTA src)).final) ∧
    (InjOnStates h (toTA src) → LangEq (toTA (reindexInto (totalT h) src empty () true).dst) (toTA src)) := by
  obtain ⟨hr, hf⟩ := reindexInto_empty_image h src
  have h1 : ∀ x, x ∈ (toTA (reindexInto (totalT h) src empty () true).dst).rules ↔ x ∈ (reindex h (toTA src)).rules := by
    intro x
    simp only [toTA, reindex, List.mem_map]
    rw [hr]
    exact exists_mem_eq_comm.symm
  have h2 : ∀ q, q ∈ (toTA (reindexInto (totalT h) src empty () true).dst).final ↔ q ∈ (reindex h (toTA src)).final := by
    intro q
    simp only [toTA, reindex, List.mem_map]
    rw [hf]
    exact exists_mem_eq_comm.symm
  refine ⟨h1, h2, fun hinj t => ?_⟩
  rw [Isx.accepts_congr_sets h1 h2 t]
  exact reindex_inj_lang h _ hinj t

/-- explicit isomorphism: if `h` is injective on the states there is an inverse `g` such that renaming back gives the SAME rule
list and final-state list (relation level), and running the coded `ReindexStates` twice (with `h`, then with `g`) gives a store
that yields exactly the rules and final states of the source -/
theorem C14_coded_isomorphism (h : Nat → Nat) (src : Store) (hinj : InjOnStates h (toTA src)) :
    ∃ g : Nat → Nat,
      (reindex g (reindex h (toTA src))).rules = (toTA src).rules ∧
      (reindex g (reindex h (toTA src))).final = (toTA src).final ∧
      (∀ x, x ∈ iterate (reindexInto (totalT g) (reindexInto (totalT h) src empty () true).dst empty () true).dst ↔
        x ∈ iterate src) ∧
      (∀ q, q ∈ (reindexInto (totalT g) (reindexInto (totalT h) src empty () true).dst empty () true).dst.final ↔
        q ∈ src.final) := by
  obtain ⟨hr1, hf1⟩ := reindexInto_empty_image h src
  obtain ⟨hr2, hf2⟩ := reindexInto_empty_image (Eqv.transfer (toTA src) h id) (reindexInto (totalT h) src empty () true).dst
  have hc := Eqv.sameFibres_id hinj
  refine ⟨_, congrArg TA.rules (Eqv.reindex_leftInv hinj), congrArg TA.final (Eqv.reindex_leftInv hinj), fun x => ?_, fun q => ?_⟩
  · rw [hr2]
    constructor
    · rintro ⟨r1, hr, rfl⟩
      obtain ⟨r, hr', rfl⟩ := (hr1 r1).mp hr
      rw [Eqv.mapRule_leftInv hinj (A := toTA src) hr']
      exact hr'
    · exact fun hx => ⟨mapRule h x, (hr1 _).mpr ⟨x, hx, rfl⟩, (Eqv.mapRule_leftInv hinj (A := toTA src) hx).symm⟩
  · rw [hf2]
    constructor
    · rintro ⟨p, hp, rfl⟩
      obtain ⟨p0, hp0, rfl⟩ := (hf1 p).mp hp
      rw [Eqv.transfer_apply hc (final_mem_states (A := toTA src) hp0)]
      exact hp0
    · exact fun hq => ⟨h q, (hf1 _).mpr ⟨q, hq, rfl⟩, (Eqv.transfer_apply hc (final_mem_states (A := toTA src) hq)).symm⟩

/-- `TranslatorStrict`: the call throws iff some looked-up key is not in the map – the thrown key is the FIRST such key in lookup
order, the container is unchanged –, and `dst` then holds what it held plus the images of a PREFIX of the final states and (only
if all final states went through) of a PREFIX of the rules in iteration order (`Left`), and still satisfies the weak invariant.
With `addFinalStates` and a source satisfying the store invariant the looked-up keys are exactly `GetUsedStates()`. -/
theorem C14_coded_strict_throws (src dst : Store) (m : List (Nat × Nat)) (af : Bool) :
    (reindexInto strictT src dst m af).thrown = (lookupOrder src af).find? (fun k => (m.lookup k).isNone) ∧
    (reindexInto strictT src dst m af).tr = m ∧
    ((reindexInto strictT src dst m af).thrown ≠ none ↔ ∃ k, k ∈ lookupOrder src af ∧ m.lookup k = none) ∧
    (Inv src → ((reindexInto strictT src dst m true).thrown ≠ none ↔ ∃ k, k ∈ usedStates src ∧ m.lookup k = none)) ∧
    Left (gd (fun k => m.lookup k)) src dst af (reindexInto strictT src dst m af).thrown (reindexInto strictT src dst m af).dst := by
  have h1 : ∀ af, (reindexInto strictT src dst m af).thrown = (lookupOrder src af).find? (fun k => (m.lookup k).isNone) :=
    fun af => by rw [reindexInto_thrown lawful_strictT, appSeq_strict]
  have h2 : (reindexInto strictT src dst m af).tr = m := by rw [reindexInto_tr lawful_strictT, appSeq_strict]
  have h3 : ∀ af, ((reindexInto strictT src dst m af).thrown ≠ none ↔ ∃ k, k ∈ lookupOrder src af ∧ m.lookup k = none) := by
    intro af
    rw [h1 af, Option.ne_none_iff_isSome, List.find?_isSome]
    simp only [Option.isNone_iff_eq_none]
  refine ⟨h1 af, h2, h3 af, ?_, ?_⟩
  · intro hs
    rw [h3 true]
    simp only [mem_lookupOrder hs]
  · have := reindexInto_lawful lawful_strictT src dst m af
    rwa [h2] at this

/-- the finding: `7(5) → 1` with `1` translated and `5` not – after the exception `dst` holds the cluster of `10` with an EMPTY
tuple set for symbol `7`: the store invariant of C12 is broken (while the weak invariant holds, as proved above) -/
theorem C14_coded_thrown_dst_breaks_invariant :
    reindexStrictIntoTA ⟨[⟨7, [5], 1⟩], []⟩ ⟨[], []⟩ [(1, 10)] true = (some 5, ⟨[(10, [(7, [])])], []⟩) ∧
    invB ⟨[(10, [(7, [])])], []⟩ = false := by decide +kernel

/-- … and when the parent is translated but the cluster loop has not started a symbol yet the cluster itself is empty; when the
exception comes from a final state nothing but a prefix of the final states was written -/
example : reindexStrictIntoTA ⟨[⟨7, [1], 1⟩, ⟨8, [1, 6], 2⟩], [1]⟩ ⟨[], []⟩ [(1, 10), (2, 20)] true =
    (some 6, ⟨[(10, [(7, [[10]])]), (20, [(8, [])])], [10]⟩) := by decide +kernel
example : reindexStrictIntoTA ⟨[⟨7, [1], 1⟩], [1, 4, 1]⟩ ⟨[], []⟩ [(1, 10)] true = (some 4, ⟨[], [10]⟩) := by decide
example : reindexStrictTA ⟨[⟨7, [1], 1⟩, ⟨8, [1, 2], 2⟩], [2]⟩ [(1, 10), (2, 20)] =
    .ok ⟨[⟨7, [10], 10⟩, ⟨8, [10, 20], 20⟩], [20]⟩ := by rfl
example : reindexStrictTA ⟨[⟨7, [1], 1⟩, ⟨8, [1, 2], 2⟩], [2]⟩ [(1, 10)] = .error 2 := by rfl

/-- `TranslatorWeak` with the library's counter functor: never throws; the map afterwards EXTENDS the given one, contains every
looked-up key, and – if the given map is injective with all values below the counter (`WeakOk`: the functor's numbers avoid its
values) – is again injective with all values below the new counter; `dst` holds the image under the final map -/
theorem C14_coded_weak_extends (src dst : Store) (m : List (Nat × Nat)) (cnt : Nat) (af : Bool) :
    (reindexInto (weakT .counter) src dst ⟨m, cnt⟩ af).thrown = none ∧
    Le (fun k => m.lookup k) (fun k => (reindexInto (weakT .counter) src dst ⟨m, cnt⟩ af).tr.map.lookup k) ∧
    (∀ k, k ∈ lookupOrder src af → (reindexInto (weakT .counter) src dst ⟨m, cnt⟩ af).tr.map.lookup k ≠ none) ∧
    (WeakOk ⟨m, cnt⟩ → WeakOk (reindexInto (weakT .counter) src dst ⟨m, cnt⟩ af).tr) ∧
    Left (gd (fun k => (reindexInto (weakT .counter) src dst ⟨m, cnt⟩ af).tr.map.lookup k)) src dst af none
      (reindexInto (weakT .counter) src dst ⟨m, cnt⟩ af).dst := by
  have e2 := reindexInto_tr (lawful_weakT .counter) src dst ⟨m, cnt⟩ af
  have hthr : (reindexInto (weakT .counter) src dst ⟨m, cnt⟩ af).thrown = none :=
    (reindexInto_thrown (lawful_weakT .counter) src dst ⟨m, cnt⟩ af).trans (appSeq_weak_none _ _ _)
  refine ⟨hthr, ?_, ?_, ?_, ?_⟩
  · rw [e2]
    exact appSeq_le (lawful_weakT .counter) (lookupOrder src af) ⟨m, cnt⟩
  · rw [e2]
    exact appSeq_hit (lawful_weakT .counter) _ _ (appSeq_weak_none _ _ _)
  · intro h
    rw [e2]
    exact appSeq_pres (T := weakT .counter) (P := WeakOk) (fun st q q' st' hP ha => weakOk_step st q q' st' hP ha) _ _ h
  · exact hthr ▸ reindexInto_lawful (lawful_weakT .counter) src dst ⟨m, cnt⟩ af

example : WeakOk ⟨[(1, 0), (5, 3)], 4⟩ := by
  have key : ∀ x y, List.lookup x [(1, 0), (5, 3)] = some y → (x = 1 ∧ y = 0) ∨ (x = 5 ∧ y = 3) := by
    intro x y h
    have := (Glue.lookup_eq_some_iff_mem (by simp [Glue.IsMap])).mp h
    simpa using this
  constructor
  · intro x x' y h1 h2
    have := key x y h1
    have := key x' y h2
    omega
  · intro x y h
    have := key x y h
    show y < 4
    omega

example : reindexWeakTA ⟨[⟨7, [1], 1⟩, ⟨8, [1, 2], 2⟩], [2]⟩ [(1, 0)] 1 =
    (⟨[⟨7, [0], 0⟩, ⟨8, [0, 1], 1⟩], [1]⟩, [(1, 0), (2, 1)], 2) := by rfl

/-- `TranslateSymbols` with a total symbol functor: the result satisfies the full store invariant, keeps the final states, and
yields exactly the images of the rules – in particular a NON-INJECTIVE symbol map MERGES: two rules `f₁(t₁) → q`, `f₂(t₂) → q`
with `g f₁ = g f₂` both end up in the ONE tuple set of `g f₁` under `q` (union, not overwrite) -/
theorem C14_coded_translate_symbols_merge (g : Nat → Nat) (src : Store) (hs : src.final.Nodup) :
    (translateSymbolsRun (totalT g) src ()).thrown = none ∧
    Inv (translateSymbolsRun (totalT g) src ()).dst ∧
    (translateSymbolsRun (totalT g) src ()).dst.final = src.final ∧
    (∀ x, x ∈ iterate (translateSymbolsRun (totalT g) src ()).dst ↔ ∃ r, r ∈ iterate src ∧ x = mapSym g r) ∧
    (∀ r₁ r₂, r₁ ∈ iterate src → r₂ ∈ iterate src → r₁.parent = r₂.parent → g r₁.sym = g r₂.sym →
      r₁.kids ∈ tuplesOf (clusterOf (translateSymbolsRun (totalT g) src ()).dst r₁.parent) (g r₁.sym) ∧
      r₂.kids ∈ tuplesOf (clusterOf (translateSymbolsRun (totalT g) src ()).dst r₁.parent) (g r₁.sym)) := by
  have hgen := symLoop_gen (lawful_totalT g) (iterate src) ⟨[], src.final⟩ ()
  have hthr' : (symLoop (totalT g) (iterate src) ⟨[], src.final⟩ ()).thrown = none :=
    (congrArg Prod.fst hgen.keys).trans (appSeq_total_none g _)
  have hthr : (translateSymbolsRun (totalT g) src ()).thrown = none := hthr'
  have hrep := hgen.replay (fun q => some (g q)) (Le.refl _) (fun k hk => by rw [hthr'] at hk; cases hk)
  obtain ⟨pre, suf, e1, e2, e3⟩ := symLoop_fold (fun q => some (g q)) (iterate src) ⟨[], src.final⟩
  rw [hrep] at e2 e3
  simp only at e2 e3
  have := e2 hthr
  subst this
  rw [List.append_nil] at e1
  subst e1
  have hgd : gd (fun q => some (g q)) = g := rfl
  rw [hgd, ← List.foldl_map] at e3
  have hd : (translateSymbolsRun (totalT g) src ()).dst = ((iterate src).map (mapSym g)).foldl addTransition ⟨[], src.final⟩ := e3
  have hi0 : Inv (⟨[], src.final⟩ : Store) := inv_noTrans _ hs
  have hmem : ∀ x, x ∈ iterate (translateSymbolsRun (totalT g) src ()).dst ↔ ∃ r, r ∈ iterate src ∧ x = mapSym g r := by
    intro x
    rw [hd, mem_iterate_foldl_add hi0]
    simp only [iterate, List.flatMap_nil, List.not_mem_nil, false_or, List.mem_map]
    exact exists_mem_eq_comm
  have hinv : Inv (translateSymbolsRun (totalT g) src ()).dst := by rw [hd]; exact inv_foldl_add hi0 _
  refine ⟨hthr, hinv, ?_, hmem, ?_⟩
  · rw [hd]
    -- `addTransition` does not touch the final states
    exact List.foldlRecOn (motive := fun s : Store => s.final = src.final) _ addTransition rfl (fun _ ih _ _ => ih)
  · intro r₁ r₂ h1 h2 hp hsym
    have c1 := (contains_iff_mem_iterate hinv (mapSym g r₁)).mpr ((hmem _).mpr ⟨r₁, h1, rfl⟩)
    have c2 := (contains_iff_mem_iterate hinv (mapSym g r₂)).mpr ((hmem _).mpr ⟨r₂, h2, rfl⟩)
    rw [contains_eq, List.contains_iff_mem] at c1 c2
    simp only [mapSym] at c1 c2
    rw [← hp, ← hsym] at c2
    exact ⟨c1, c2⟩

/-- regression: the seeded variant that REPLACES the tuple set of the translated symbol loses `7(1) → 1` when `7` and `8` are
mapped to the same symbol; the coded function keeps both -/
theorem C14_coded_translate_symbols_overwrite_regression :
    let A : TA := ⟨[⟨7, [1], 1⟩, ⟨8, [2], 1⟩, ⟨9, [], 2⟩], [1]⟩
    translateSymbolsTA A (fun _ => 0) = ⟨[⟨0, [1], 1⟩, ⟨0, [2], 1⟩, ⟨0, [], 2⟩], [1]⟩ ∧
    toTA (translateSymbolsOverwrite (fun _ => 0) (ofTA A)) = ⟨[⟨0, [2], 1⟩, ⟨0, [], 2⟩], [1]⟩ := ⟨by rfl, by rfl⟩

example : (ofTA ⟨[⟨7, [1], 1⟩, ⟨8, [2], 1⟩], [1, 1]⟩).final.Nodup := by decide
example : reindexTotalTA ⟨[⟨7, [1], 1⟩, ⟨8, [1, 2], 2⟩], [2]⟩ (fun _ => 0) = ⟨[⟨7, [0], 0⟩, ⟨8, [0, 0], 0⟩], [0]⟩ := by rfl
example : translateSymbolsStrictTA ⟨[⟨7, [1], 1⟩, ⟨8, [1, 2], 2⟩], [2]⟩ [(7, 70)] = .error 8 := by rfl

/-!
## Hypotheses

* `WInv dst` in `C14_coded_reindex_image`: needed to pass from `ContainsTransition` to the iterator (a destination with a duplicate
  key would yield rules `contains` does not see).  Satisfied by every `Store.run ops` (`WInv.of_inv (store_inv ops)`), by `empty`.
* `Inv src` in the `usedStates` clause of `C14_coded_strict_throws`: a source with an EMPTY cluster `(q, [])` has the parent `q`
  looked up although no rule mentions it.  `Inv` holds for every `Store.run ops`.
* `src.final.Nodup` in `C14_coded_translate_symbols_merge`: the final-state set is copied as it is (it is an `unordered_set`).
* `Lawful`: shown for all four translator instances (`lawful_totalT`, `lawful_optT`, `lawful_strictT`, `lawful_weakT`).

## still not proved

* The FULL store invariant (`Store.Inv`: no empty cluster / tuple set) of the destination after a SUCCESSFUL `ReindexStates` is not
  proved (only the weak invariant `WInv`, exact content and "each rule once"); it needs `Inv src` and the absorption of the
  `unique…` calls by the following `insert`.  For `TranslateSymbols` the full invariant IS proved.
* `C14_coded_weak_extends` is proved for the library's counter functor (`Glue.Alloc.counter`); for an arbitrary fresh-number functor
  only the extension part (`Le`, every key present, exact content under the final map) follows (from `lawful_weakT f`, any `f`),
  injectivity is not proved in that generality.
* The language isomorphism for the weak translator (injective final map ⇒ `InjOnStates` ⇒ same language) is not assembled into one
  statement; the pieces are `C14_coded_weak_extends` and `C14_coded_reindex_lang`.
* Sharing (`shared_ptr`) effects of the `dst` variant and `dst` aliasing the source are outside this model (C11).
* Translators whose answers change over time (not `Lawful`) are covered only by `C14_coded_lookup_order`-style reasoning, not by the
  content theorems.
-/
end Vata.Props
