import Vata.Proofs.Rename
import Vata.Proofs.SimExampleRuns
import Vata.Proofs.TrimModel
import Vata.Proofs.PropAux
/-!
# Equivariance of simulations, reduction and trimming under renaming (properties C19, C04, C05)

For `f` injective on the states of `A` (`InjOnStates f A`), the computed simulations, the productive and reachable
states, trimming and the simulation quotient of `reindex f A` are the `f`-images of those of `A`; an injective
renumbering of the symbols (`translateSymbols`) leaves the inclusion and emptiness verdicts unchanged.  For the
simulations only the "image" direction is proved by hand: `f` has a left inverse on the states (`Eqv.transfer A f id`), which gives the
converse for free (`Eqv.iff_of_image`).
-/
namespace Vata

namespace Eqv

theorem setAt_map (f : Nat → Nat) : ∀ (ks : List Nat) (i r : Nat), (setAt ks i r).map f = setAt (ks.map f) i (f r)
  | [], _, _ => by simp only [setAt, List.map_nil]
  | _ :: _, 0, _ => by simp only [setAt, List.map_cons]
  | k :: ks, i+1, r => by simp only [setAt, List.map_cons, setAt_map f ks i r]

/-- the `f`-image of `S` on the states of `A`: what a simulation of `A` becomes on `reindex f A` -/
def ImageRel (f : Nat → Nat) (A : TA) (S : Nat → Nat → Prop) : Nat → Nat → Prop :=
  fun x y => ∃ q r, q ∈ A.states ∧ r ∈ A.states ∧ S q r ∧ x = f q ∧ y = f r

/-- the pairs of states of `A` whose `f`-images `S'` relates: a simulation of `reindex f A` pulled back to `A` -/
def PreimageRel (f : Nat → Nat) (A : TA) (S' : Nat → Nat → Prop) : Nat → Nat → Prop :=
  fun q r => q ∈ A.states ∧ r ∈ A.states ∧ S' (f q) (f r)

/-- A statement about an automaton and two of its states that every renaming injective on the states preserves is
also reflected by every such renaming: apply the hypothesis to the left inverse. -/
theorem iff_of_image {P : TA → Nat → Nat → Prop}
    (himg : ∀ (f : Nat → Nat) (A : TA), InjOnStates f A → ∀ q r, q ∈ A.states → r ∈ A.states →
      P A q r → P (reindex f A) (f q) (f r))
    (f : Nat → Nat) (A : TA) (hinj : InjOnStates f A) {q r : Nat} (hq : q ∈ A.states) (hr : r ∈ A.states) :
    P (reindex f A) (f q) (f r) ↔ P A q r := by
  refine ⟨fun h => ?_, himg f A hinj q r hq hr⟩
  have hc := sameFibres_id hinj
  have := himg (transfer A f id) (reindex f A) (transfer_inj hc) _ _ (mem_states_reindex.mpr ⟨q, hq, rfl⟩)
    (mem_states_reindex.mpr ⟨r, hr, rfl⟩) h
  rw [reindex_leftInv hinj, transfer_apply hc hq, transfer_apply hc hr] at this
  exact this

theorem preimageRel_eq {f : Nat → Nat} {A : TA} (hinj : InjOnStates f A) (S' : Nat → Nat → Prop) :
    PreimageRel f A S' = ImageRel (transfer A f id) (reindex f A) S' := by
  have hc := sameFibres_id hinj
  funext q r
  apply propext
  constructor
  · rintro ⟨hq, hr, h⟩
    exact ⟨f q, f r, mem_states_reindex.mpr ⟨q, hq, rfl⟩, mem_states_reindex.mpr ⟨r, hr, rfl⟩, h,
      (transfer_apply hc hq).symm, (transfer_apply hc hr).symm⟩
  · rintro ⟨x, y, hx, hy, h, hqx, hry⟩
    obtain ⟨q0, hq0, hxq⟩ := mem_states_reindex.mp hx
    obtain ⟨r0, hr0, hyr⟩ := mem_states_reindex.mp hy
    rw [hxq, transfer_apply hc hq0] at hqx
    rw [hyr, transfer_apply hc hr0] at hry
    rw [hqx, hry]
    rw [hxq, hyr] at h
    exact ⟨hq0, hr0, h⟩

end Eqv

open Eqv

theorem downSim_on_states {A : TA} {S : Nat → Nat → Prop} (hS : DownSim A S) :
    SimTo A A (fun q r => q ∈ A.states ∧ r ∈ A.states ∧ S q r) := by
  rintro ρ hρ r ⟨-, -, hqr⟩
  obtain ⟨σ, hσ, h1, h2, h3⟩ := hS _ _ hqr ρ hρ rfl
  exact ⟨σ, hσ, h1, h2, h3.mono fun _ _ ha hb hab => ⟨kid_mem_states hρ ha, kid_mem_states hσ hb, hab⟩⟩

/-- the image of a simulation is the composite `reindex f A → A → A → reindex f A` -/
theorem downSim_image (f : Nat → Nat) (A : TA) (hinj : InjOnStates f A) (S : Nat → Nat → Prop) (hS : DownSim A S) :
    DownSim (reindex f A) (ImageRel f A S) :=
  (((simTo_reindex_inv hinj).comp ((downSim_on_states hS).comp (simTo_reindex f A))).congr fun _ _ =>
    ⟨fun ⟨q, ⟨_, hx⟩, r, ⟨hq, hr, hqr⟩, hy⟩ => ⟨q, r, hq, hr, hqr, hx, hy⟩,
     fun ⟨q, r, hq, hr, hqr, hx, hy⟩ => ⟨q, ⟨hq, hx⟩, r, ⟨hq, hr, hqr⟩, hy⟩⟩).downSim

theorem upSim_image (f : Nat → Nat) (A : TA) (hinj : InjOnStates f A) (S : Nat → Nat → Prop) (hS : IsUpSim A S) :
    IsUpSim (reindex f A) (ImageRel f A S) := by
  intro x y hxy
  obtain ⟨q, r, hq, hr, hqr, hx, hy⟩ := hxy
  refine ⟨?_, ?_⟩
  · intro hxf
    obtain ⟨q0, hq0, he⟩ := (reindex_final f A x).mp hxf
    have : q0 = q := hinj _ _ (final_mem_states hq0) hq (he.symm.trans hx)
    rw [this] at hq0
    rw [hy]
    exact (reindex_final f A _).mpr ⟨r, (hS q r hqr).1 hq0, rfl⟩
  · intro ρ' hρ' i hi
    obtain ⟨ρ, hρ, he⟩ := (reindex_rules f A ρ').mp hρ'
    rw [he] at hi ⊢
    have hi : (ρ.kids.map f)[i]? = some x := hi
    rw [hx, List.getElem?_map, Option.map_eq_some_iff] at hi
    obtain ⟨k, hk, hkq⟩ := hi
    have : k = q := hinj _ _ (kid_mem_states hρ (List.mem_of_getElem? hk)) hq hkq
    rw [this] at hk
    obtain ⟨σ, hσ, h1, h2, h3⟩ := (hS q r hqr).2 ρ hρ i hk
    refine ⟨mapRule f σ, (reindex_rules f A _).mpr ⟨σ, hσ, rfl⟩, h1, ?_, ?_⟩
    · show σ.kids.map f = setAt (ρ.kids.map f) i y
      rw [h2, setAt_map, hy]
    · exact ⟨ρ.parent, σ.parent, parent_mem_states hρ, parent_mem_states hσ, h3, rfl, rfl⟩

theorem downSim_preimage (f : Nat → Nat) (A : TA) (hinj : InjOnStates f A) (S' : Nat → Nat → Prop)
    (hS : DownSim (reindex f A) S') : DownSim A (PreimageRel f A S') := by
  have := downSim_image _ _ (transfer_inj (sameFibres_id hinj)) S' hS
  rwa [reindex_leftInv hinj, ← preimageRel_eq hinj] at this

theorem upSim_preimage (f : Nat → Nat) (A : TA) (hinj : InjOnStates f A) (S' : Nat → Nat → Prop)
    (hS : IsUpSim (reindex f A) S') : IsUpSim A (PreimageRel f A S') := by
  have := upSim_image _ _ (transfer_inj (sameFibres_id hinj)) S' hS
  rwa [reindex_leftInv hinj, ← preimageRel_eq hinj] at this

/-- C04/C19: the greatest downward simulation does not depend on the numbering of the states -/
theorem downSim_equivariant (f : Nat → Nat) (A : TA) (hinj : InjOnStates f A) {q r : Nat}
    (hq : q ∈ A.states) (hr : r ∈ A.states) :
    (f q, f r) ∈ downSimRef (reindex f A) ↔ (q, r) ∈ downSimRef A :=
  iff_of_image (P := fun A q r => (q, r) ∈ downSimRef A)
    (fun f A hinj q r hq hr h => downSimRef_contains (reindex f A) _ (downSim_image f A hinj _ (downSimRef_sim A))
      (f q) (f r) (mem_states_reindex.mpr ⟨q, hq, rfl⟩) (mem_states_reindex.mpr ⟨r, hr, rfl⟩)
      ⟨q, r, hq, hr, h, rfl, rfl⟩)
    f A hinj hq hr

/-- C04/C19: likewise the greatest upward simulation -/
theorem upSim_equivariant (f : Nat → Nat) (A : TA) (hinj : InjOnStates f A) {q r : Nat}
    (hq : q ∈ A.states) (hr : r ∈ A.states) :
    (f q, f r) ∈ upSimRef (reindex f A) ↔ (q, r) ∈ upSimRef A :=
  iff_of_image (P := fun A q r => (q, r) ∈ upSimRef A)
    (fun f A hinj q r hq hr h => upSimRef_contains (reindex f A) _ (upSim_image f A hinj _ (upSimRef_sim A))
      (f q) (f r) (mem_states_reindex.mpr ⟨q, hq, rfl⟩) (mem_states_reindex.mpr ⟨r, hr, rfl⟩)
      ⟨q, r, hq, hr, h, rfl, rfl⟩)
    f A hinj hq hr

theorem Eqv.image_of_equivariant {f : Nat → Nat} {A : TA} {R R' : Rel}
    (hsub : ∀ q r, (q, r) ∈ R → q ∈ A.states ∧ r ∈ A.states)
    (hsub' : ∀ x y, (x, y) ∈ R' → x ∈ (reindex f A).states ∧ y ∈ (reindex f A).states)
    (heq : ∀ q r, q ∈ A.states → r ∈ A.states → ((f q, f r) ∈ R' ↔ (q, r) ∈ R)) (x y : Nat) :
    (x, y) ∈ R' ↔ ∃ q r, (q, r) ∈ R ∧ x = f q ∧ y = f r := by
  constructor
  · intro h
    obtain ⟨hx, hy⟩ := hsub' x y h
    obtain ⟨q, hq, hxq⟩ := mem_states_reindex.mp hx
    obtain ⟨r, hr, hyr⟩ := mem_states_reindex.mp hy
    rw [hxq, hyr] at h
    exact ⟨q, r, (heq q r hq hr).mp h, hxq, hyr⟩
  · rintro ⟨q, r, h, hx, hy⟩
    rw [hx, hy]
    exact (heq q r (hsub q r h).1 (hsub q r h).2).mpr h

theorem downSimRef_reindex_image (f : Nat → Nat) (A : TA) (hinj : InjOnStates f A) (x y : Nat) :
    (x, y) ∈ downSimRef (reindex f A) ↔ ∃ q r, (q, r) ∈ downSimRef A ∧ x = f q ∧ y = f r :=
  image_of_equivariant (fun _ _ => downSimRef_sub A) (fun _ _ => downSimRef_sub _)
    (fun _ _ hq hr => downSim_equivariant f A hinj hq hr) x y

theorem upSimRef_reindex_image (f : Nat → Nat) (A : TA) (hinj : InjOnStates f A) (x y : Nat) :
    (x, y) ∈ upSimRef (reindex f A) ↔ ∃ q r, (q, r) ∈ upSimRef A ∧ x = f q ∧ y = f r :=
  image_of_equivariant (fun _ _ => upSimRef_sub A) (fun _ _ => upSimRef_sub _)
    (fun _ _ hq hr => upSim_equivariant f A hinj hq hr) x y

theorem productive_equivariant (f : Nat → Nat) (A : TA) (hinj : InjOnStates f A) {q : Nat} (hq : q ∈ A.states) :
    Productive (reindex f A) (f q) ↔ Productive A q := by
  constructor
  · rintro ⟨t, ht⟩; exact ⟨t, (reindex_inj_reach f A hinj t q hq).mp ht⟩
  · rintro ⟨t, ht⟩; exact ⟨t, reindex_mono f A t q ht⟩

namespace Eqv

theorem injOnStates_mono {f : Nat → Nat} {A B : TA} (hinj : InjOnStates f A) (hsub : ∀ q, q ∈ B.states → q ∈ A.states) :
    InjOnStates f B := fun q q' hq hq' h => hinj q q' (hsub q hq) (hsub q' hq') h

theorem states_restrict_sub {A : TA} {P : List Nat} {q : Nat} (h : q ∈ (restrict A P).states) : q ∈ A.states := by
  rcases Rn.mem_states.mp h with ⟨r, hr, hc⟩ | hf
  · exact Rn.mem_states.mpr (Or.inl ⟨r, (List.mem_filter.mp hr).1, hc⟩)
  · exact Rn.mem_states.mpr (Or.inr (List.mem_filter.mp hf).1)

theorem states_removeUseless_sub {A : TA} {q : Nat} (h : q ∈ (removeUseless A).states) : q ∈ A.states :=
  states_restrict_sub (PropAux.states_removeUnreachable_sub h)

theorem keepParents_reindex_eq (f : Nat → Nat) (A : TA) (S S' : List Nat)
    (h : ∀ q, q ∈ A.states → S'.contains (f q) = S.contains q) :
    keepParents (reindex f A) S' = reindex f (keepParents A S) := by
  show (⟨(A.rules.map (mapRule f)).filter (fun r => S'.contains r.parent), A.final.map f⟩ : TA) =
    ⟨(A.rules.filter (fun r => S.contains r.parent)).map (mapRule f), A.final.map f⟩
  congr 1
  rw [List.filter_map]
  congr 1
  apply List.filter_congr
  intro r hr
  exact h _ (parent_mem_states hr)

theorem restrict_reindex_eq (f : Nat → Nat) (A : TA) (P P' : List Nat)
    (h : ∀ q, q ∈ A.states → P'.contains (f q) = P.contains q) :
    restrict (reindex f A) P' = reindex f (restrict A P) := by
  show (⟨(A.rules.map (mapRule f)).filter (fun r => P'.contains r.parent && r.kids.all (fun k => P'.contains k)),
      (A.final.map f).filter (fun q => P'.contains q)⟩ : TA) =
    ⟨(A.rules.filter (fun r => P.contains r.parent && r.kids.all (fun k => P.contains k))).map (mapRule f),
      (A.final.filter (fun q => P.contains q)).map f⟩
  congr 1
  · rw [List.filter_map]
    congr 1
    apply List.filter_congr
    intro r hr
    show (P'.contains (f r.parent) && (r.kids.map f).all (fun k => P'.contains k)) =
      (P.contains r.parent && r.kids.all (fun k => P.contains k))
    rw [h _ (parent_mem_states hr)]
    congr 1
    rw [Bool.eq_iff_iff, List.all_eq_true, List.all_eq_true]
    constructor
    · intro hh k hk
      rw [← h k (kid_mem_states hr hk)]
      exact hh (f k) (List.mem_map.mpr ⟨k, hk, rfl⟩)
    · intro hh k' hk'
      obtain ⟨k, hk, he⟩ := List.mem_map.mp hk'
      rw [← he, h k (kid_mem_states hr hk)]
      exact hh k hk
  · rw [List.filter_map]
    congr 1
    apply List.filter_congr
    intro q hq
    exact h q (final_mem_states hq)

theorem contains_congr {l l' : List Nat} {x y : Nat} (h : x ∈ l ↔ y ∈ l') : l.contains x = l'.contains y := by
  rw [Bool.eq_iff_iff, List.contains_iff_mem, List.contains_iff_mem]; exact h

end Eqv

theorem tdReachable_equivariant (f : Nat → Nat) (A : TA) (hinj : InjOnStates f A) {q : Nat} (hq : q ∈ A.states) :
    TdReachable (reindex f A) (f q) ↔ TdReachable A q :=
  iff_of_image (P := fun A q _ => TdReachable A q) (fun f _ _ _ _ _ _ => tdReachable_reindex f) f A hinj hq hq

theorem prodStates_equivariant (f : Nat → Nat) (A : TA) (hinj : InjOnStates f A) {q : Nat} (hq : q ∈ A.states) :
    f q ∈ prodStates (reindex f A) ↔ q ∈ prodStates A := by
  rw [prodStates_iff, prodStates_iff, productive_equivariant f A hinj hq]

theorem tdReach_equivariant (f : Nat → Nat) (A : TA) (hinj : InjOnStates f A) {q : Nat} (hq : q ∈ A.states) :
    f q ∈ tdReach (reindex f A) ↔ q ∈ tdReach A := by
  rw [tdReach_iff, tdReach_iff, tdReachable_equivariant f A hinj hq]

/-- C19: trimming commutes with a renaming injective on the states, as an equation of automata (order of the rules
included); the `_equivariant` forms below are read off it -/
theorem removeUnreachable_reindex_eq (f : Nat → Nat) (A : TA) (hinj : InjOnStates f A) :
    removeUnreachable (reindex f A) = reindex f (removeUnreachable A) := by
  rw [removeUnreachable_eq, removeUnreachable_eq]
  exact keepParents_reindex_eq f A _ _ (fun q hq => contains_congr (tdReach_equivariant f A hinj hq))

/-- the same for `removeUseless`: restrict to the productive states (`restrict_reindex_eq`), then the above -/
theorem removeUseless_reindex_eq (f : Nat → Nat) (A : TA) (hinj : InjOnStates f A) :
    removeUseless (reindex f A) = reindex f (removeUseless A) := by
  rw [removeUseless_eq, removeUseless_eq,
    restrict_reindex_eq f A (prodStates A) (prodStates (reindex f A))
      (fun q hq => contains_congr (prodStates_equivariant f A hinj hq))]
  exact removeUnreachable_reindex_eq f _ (injOnStates_mono hinj (fun q hq => states_restrict_sub hq))

theorem removeUnreachable_equivariant (f : Nat → Nat) (A : TA) (hinj : InjOnStates f A) :
    (∀ ρ, ρ ∈ (removeUnreachable (reindex f A)).rules ↔ ρ ∈ (reindex f (removeUnreachable A)).rules) ∧
    (∀ q, q ∈ (removeUnreachable (reindex f A)).final ↔ q ∈ (reindex f (removeUnreachable A)).final) := by
  rw [removeUnreachable_reindex_eq f A hinj]
  exact ⟨fun _ => Iff.rfl, fun _ => Iff.rfl⟩

theorem removeUseless_equivariant (f : Nat → Nat) (A : TA) (hinj : InjOnStates f A) :
    (∀ ρ, ρ ∈ (removeUseless (reindex f A)).rules ↔ ρ ∈ (reindex f (removeUseless A)).rules) ∧
    (∀ q, q ∈ (removeUseless (reindex f A)).final ↔ q ∈ (reindex f (removeUseless A)).final) := by
  rw [removeUseless_reindex_eq f A hinj]
  exact ⟨fun _ => Iff.rfl, fun _ => Iff.rfl⟩

/-- in the Boolean form used by the driver -/
theorem removeUseless_equivariant_taEq (f : Nat → Nat) (A : TA) (hinj : InjOnStates f A) :
    taEq (removeUseless (reindex f A)) (reindex f (removeUseless A)) = true := by
  rw [removeUseless_reindex_eq f A hinj]
  simp only [taEq, rulesEq, rulesSub, Bool.and_self, Bool.and_eq_true, List.all_eq_true, List.contains_iff_mem, seteq, subB]
  exact ⟨fun r hr => hr, fun q hq => hq⟩

/-- C19: the number of states produced by trimming is unchanged under renaming -/
theorem trim_states_length_equivariant (f : Nat → Nat) (A : TA) (hinj : InjOnStates f A) :
    (removeUseless (reindex f A)).states.length = (removeUseless A).states.length := by
  rw [removeUseless_reindex_eq f A hinj]
  exact reindex_states_length f _ (injOnStates_mono hinj (fun q hq => states_removeUseless_sub hq))

theorem unreach_states_length_equivariant (f : Nat → Nat) (A : TA) (hinj : InjOnStates f A) :
    (removeUnreachable (reindex f A)).states.length = (removeUnreachable A).states.length := by
  rw [removeUnreachable_reindex_eq f A hinj]
  exact reindex_states_length f _ (injOnStates_mono hinj (fun q hq => PropAux.states_removeUnreachable_sub hq))

theorem trim_rules_length_equivariant (f : Nat → Nat) (A : TA) (hinj : InjOnStates f A) :
    (removeUseless (reindex f A)).rules.length = (removeUseless A).rules.length := by
  rw [removeUseless_reindex_eq f A hinj, reindex_rules_length]

theorem mapSymsL_eq (g : Nat → Nat) : ∀ ts, Tree.mapSymsL g ts = ts.map (Tree.mapSyms g)
  | [] => rfl
  | t :: ts => by rw [Tree.mapSymsL, mapSymsL_eq g ts]; rfl

-- a tree on which the renumbered automaton reaches a state is the renumbering of a tree: every symbol of it is the
-- image of the symbol of a rule
theorem translateSymbols_reach_image (g : Nat → Nat) (A : TA) :
    ∀ (t' : Tree) (q : Nat), q ∈ reach (translateSymbols g A) t' → ∃ t, Tree.mapSyms g t = t' := by
  refine tree_induction fun f' ts' ih q h => ?_
  obtain ⟨r', hr', hs, hk, _⟩ := mem_reach_node.mp h
  obtain ⟨r, _, rfl⟩ := List.mem_map.mp hr'
  obtain ⟨ts, rfl⟩ := exists_map_eq (f := Tree.mapSyms g) ts' fun t' ht' =>
    let ⟨k, _, hk'⟩ := hk.exists_left t' ht'
    ih t' ht' k hk'
  exact ⟨.node r.sym ts, by rw [Tree.mapSyms, mapSymsL_eq, ← hs]; rfl⟩

theorem translateSymbols_reach_outside (g : Nat → Nat) (A : TA) (t' : Tree) (h : ¬ ∃ t, Tree.mapSyms g t = t') :
    reach (translateSymbols g A) t' = [] := by
  cases hr : reach (translateSymbols g A) t' with
  | nil => rfl
  | cons q l =>
    exact absurd (translateSymbols_reach_image g A t' q (by rw [hr]; exact List.mem_cons_self)) h

theorem translateSymbols_accepts_image (g : Nat → Nat) (A : TA) (t' : Tree)
    (h : accepts (translateSymbols g A) t' = true) : ∃ t, Tree.mapSyms g t = t' := by
  obtain ⟨q, hq, _⟩ := accepts_iff_reach.mp h
  exact translateSymbols_reach_image g A t' q hq

/-- C19: renumbering the symbols by an injective map does not change the inclusion verdict -/
theorem incl_symbol_equivariant (g : Nat → Nat) (hg : ∀ a b, g a = g b → a = b) (A B : TA) :
    Incl (translateSymbols g A) (translateSymbols g B) ↔ Incl A B := by
  constructor
  · intro h t ht
    rw [← translateSymbols_lang g hg B t]
    exact h _ (by rw [translateSymbols_lang g hg A t]; exact ht)
  · intro h t' ht'
    obtain ⟨t, he⟩ := translateSymbols_accepts_image g A t' ht'
    rw [← he] at ht' ⊢
    rw [translateSymbols_lang g hg A t] at ht'
    rw [translateSymbols_lang g hg B t]
    exact h t ht'

theorem empty_symbol_equivariant (g : Nat → Nat) (hg : ∀ a b, g a = g b → a = b) (A : TA) :
    LangEmpty (translateSymbols g A) ↔ LangEmpty A := by
  constructor
  · intro h t
    rw [← translateSymbols_lang g hg A t]; exact h _
  · intro h t'
    cases ha : accepts (translateSymbols g A) t' with
    | false => rfl
    | true =>
      obtain ⟨t, he⟩ := translateSymbols_accepts_image g A t' ha
      rw [← he, translateSymbols_lang g hg A t, h t] at ha
      exact ha.symm

theorem langEq_symbol_equivariant (g : Nat → Nat) (hg : ∀ a b, g a = g b → a = b) (A B : TA) :
    LangEq (translateSymbols g A) (translateSymbols g B) ↔ LangEq A B := by
  constructor
  · intro h t
    rw [← translateSymbols_lang g hg A t, ← translateSymbols_lang g hg B t]; exact h _
  · intro h t'
    rw [Bool.eq_iff_iff]
    have hi := incl_symbol_equivariant g hg A B
    have hi' := incl_symbol_equivariant g hg B A
    exact ⟨hi.mpr (fun t ht => by rw [← h t]; exact ht) t', hi'.mpr (fun t ht => by rw [h t]; exact ht) t'⟩

/-- mutual simulation in `R`: the equivalence whose classes `Reduce` collapses -/
def simEquivB (R : Rel) (p q : Nat) : Bool := R.contains (p, q) && R.contains (q, p)

/-- `q` becomes a new representative unless one already chosen is equivalent to it -/
def repStep (R : Rel) (reps : List Nat) (q : Nat) : List Nat :=
  if reps.any (fun p => simEquivB R p q) then reps else reps ++ [q]

def classRepsFrom (R : Rel) (reps : List Nat) (Q : List Nat) : List Nat := Q.foldl (repStep R) reps

/-- representatives (first members in the order of `Q`) of the classes of `R ∩ R⁻¹` on `Q` -/
def classReps (R : Rel) (Q : List Nat) : List Nat := classRepsFrom R [] Q

/-- the number of classes of mutual downward simulation on the states of `A`: the bound of C05 on the size of `Reduce` -/
def simClasses (A : TA) : Nat := (classReps (downSimRef A) A.states).length

/-- the representative of the class of `q` (`q` itself outside the states of `A`): the canonical collapse map -/
def repOf (A : TA) (q : Nat) : Nat :=
  ((classReps (downSimRef A) A.states).find? (fun p => simEquivB (downSimRef A) p q)).getD q

/-- the model of `Reduce` with this canonical choice of representatives -/
def reduceRef (A : TA) : TA := removeUnreachable (reindex (repOf A) A)

namespace Eqv

theorem simEquivB_iff {R : Rel} {p q : Nat} : simEquivB R p q = true ↔ (p, q) ∈ R ∧ (q, p) ∈ R := by
  simp only [simEquivB, Bool.and_eq_true, List.contains_iff_mem]

theorem classRepsFrom_nil (R : Rel) (reps : List Nat) : classRepsFrom R reps [] = reps := rfl

theorem classRepsFrom_cons (R : Rel) (reps : List Nat) (q : Nat) (Q : List Nat) :
    classRepsFrom R reps (q :: Q) = classRepsFrom R (repStep R reps q) Q := rfl

theorem any_congr_mem {p p' : Nat → Bool} : ∀ (l : List Nat), (∀ a, a ∈ l → p a = p' a) → l.any p = l.any p'
  | [], _ => rfl
  | a :: l, h => by
    rw [List.any_cons, List.any_cons, h a List.mem_cons_self,
      any_congr_mem l (fun b hb => h b (List.mem_cons_of_mem _ hb))]

theorem find?_congr_mem {p p' : Nat → Bool} : ∀ (l : List Nat), (∀ a, a ∈ l → p a = p' a) → l.find? p = l.find? p'
  | [], _ => rfl
  | a :: l, h => by
    rw [List.find?_cons, List.find?_cons, h a List.mem_cons_self,
      find?_congr_mem l (fun b hb => h b (List.mem_cons_of_mem _ hb))]

theorem mem_repStep {R : Rel} {reps : List Nat} {q x : Nat} (h : x ∈ repStep R reps q) : x ∈ reps ∨ x = q := by
  unfold repStep at h
  split at h
  · exact Or.inl h
  · simpa using h

theorem repStep_sub {R : Rel} {reps : List Nat} {q x : Nat} (h : x ∈ reps) : x ∈ repStep R reps q := by
  unfold repStep
  split
  · exact h
  · exact List.mem_append_left _ h

theorem repStep_covers {R : Rel} {reps : List Nat} {q : Nat} (hrefl : simEquivB R q q = true) :
    ∃ p, p ∈ repStep R reps q ∧ simEquivB R p q = true := by
  unfold repStep
  split
  · rename_i h
    obtain ⟨p, hp, hpq⟩ := List.any_eq_true.mp h
    exact ⟨p, hp, hpq⟩
  · exact ⟨q, List.mem_append_right _ List.mem_cons_self, hrefl⟩

theorem classRepsFrom_sub (R : Rel) (Q reps : List Nat) (x : Nat) (h : x ∈ reps) : x ∈ classRepsFrom R reps Q :=
  List.foldlRecOn Q (repStep R) h (fun _ hb _ _ => repStep_sub hb)

theorem mem_classRepsFrom (R : Rel) (Q reps : List Nat) (x : Nat) (h : x ∈ classRepsFrom R reps Q) :
    x ∈ reps ∨ x ∈ Q := by
  refine List.foldlRecOn (motive := fun b => x ∈ b → x ∈ reps ∨ x ∈ Q) Q (repStep R) Or.inl ?_ h
  intro b ih q hq hx
  rcases mem_repStep hx with hx | hx
  · exact ih hx
  · exact Or.inr (hx ▸ hq)

theorem classRepsFrom_covers (R : Rel) : ∀ (Q reps : List Nat), (∀ q, q ∈ Q → simEquivB R q q = true) →
    ∀ q, q ∈ Q → ∃ p, p ∈ classRepsFrom R reps Q ∧ simEquivB R p q = true
  | [], _, _, q, hq => by cases hq
  | q0 :: Q, reps, hrefl, q, hq => by
    rw [classRepsFrom_cons]
    rcases List.mem_cons.mp hq with hq | hq
    · obtain ⟨p, hp, hpq⟩ := repStep_covers (reps := reps) (hrefl q0 List.mem_cons_self)
      exact ⟨p, classRepsFrom_sub R Q _ p hp, hq ▸ hpq⟩
    · exact classRepsFrom_covers R Q _ (fun q' hq' => hrefl q' (List.mem_cons_of_mem _ hq')) q hq

theorem mem_classReps {R : Rel} {Q : List Nat} {x : Nat} (h : x ∈ classReps R Q) : x ∈ Q := by
  rcases mem_classRepsFrom R Q [] x h with h | h
  · cases h
  · exact h

theorem classRepsFrom_map (R R' : Rel) (f : Nat → Nat) (X : Nat → Prop)
    (he : ∀ p q, X p → X q → simEquivB R' (f p) (f q) = simEquivB R p q) :
    ∀ (Q reps : List Nat), (∀ q, q ∈ Q → X q) → (∀ p, p ∈ reps → X p) →
      classRepsFrom R' (reps.map f) (Q.map f) = (classRepsFrom R reps Q).map f
  | [], _, _, _ => rfl
  | q :: Q, reps, hQ, hreps => by
    rw [List.map_cons, classRepsFrom_cons, classRepsFrom_cons]
    have hstep : repStep R' (reps.map f) (f q) = (repStep R reps q).map f := by
      unfold repStep
      have hany : (reps.map f).any (fun p => simEquivB R' p (f q)) = reps.any (fun p => simEquivB R p q) := by
        rw [List.any_map]
        exact any_congr_mem reps (fun p hp => he p q (hreps p hp) (hQ q List.mem_cons_self))
      rw [hany]
      split
      · rfl
      · simp only [List.map_append, List.map_cons, List.map_nil]
    rw [hstep]
    apply classRepsFrom_map R R' f X he Q _ (fun q' hq' => hQ q' (List.mem_cons_of_mem _ hq'))
    intro p hp
    rcases mem_repStep hp with hp | hp
    · exact hreps p hp
    · rw [hp]; exact hQ q List.mem_cons_self

theorem simEquivB_equivariant (f : Nat → Nat) (A : TA) (hinj : InjOnStates f A) {p q : Nat}
    (hp : p ∈ A.states) (hq : q ∈ A.states) :
    simEquivB (downSimRef (reindex f A)) (f p) (f q) = simEquivB (downSimRef A) p q := by
  rw [Bool.eq_iff_iff, simEquivB_iff, simEquivB_iff, downSim_equivariant f A hinj hp hq,
    downSim_equivariant f A hinj hq hp]

theorem simEquivB_refl (A : TA) {q : Nat} (hq : q ∈ A.states) : simEquivB (downSimRef A) q q = true :=
  simEquivB_iff.mpr ⟨(greatest_downSim_preorder A).1 q hq, (greatest_downSim_preorder A).1 q hq⟩

theorem simEquivB_symm {R : Rel} {p q : Nat} (h : simEquivB R p q = true) : simEquivB R q p = true :=
  simEquivB_iff.mpr ⟨(simEquivB_iff.mp h).2, (simEquivB_iff.mp h).1⟩

theorem simEquivB_trans (A : TA) {p q r : Nat} (h1 : simEquivB (downSimRef A) p q = true)
    (h2 : simEquivB (downSimRef A) q r = true) : simEquivB (downSimRef A) p r = true := by
  rw [simEquivB_iff] at h1 h2 ⊢
  exact ⟨(greatest_downSim_preorder A).2 _ _ _ h1.1 h2.1, (greatest_downSim_preorder A).2 _ _ _ h2.2 h1.2⟩

theorem classReps_reindex (f : Nat → Nat) (A : TA) (hinj : InjOnStates f A) :
    classReps (downSimRef (reindex f A)) (reindex f A).states = (classReps (downSimRef A) A.states).map f := by
  rw [reindex_states_eq f A hinj]
  exact classRepsFrom_map (downSimRef A) (downSimRef (reindex f A)) f (fun q => q ∈ A.states)
    (fun p q hp hq => simEquivB_equivariant f A hinj hp hq) A.states [] (fun _ h => h) (fun _ h => by cases h)

theorem classReps_covers (A : TA) {q : Nat} (hq : q ∈ A.states) :
    ∃ p, p ∈ classReps (downSimRef A) A.states ∧ simEquivB (downSimRef A) p q = true :=
  classRepsFrom_covers (downSimRef A) A.states [] (fun _ h => simEquivB_refl A h) q hq

theorem repOf_spec (A : TA) {q : Nat} (hq : q ∈ A.states) :
    repOf A q ∈ classReps (downSimRef A) A.states ∧ simEquivB (downSimRef A) (repOf A q) q = true := by
  unfold repOf
  cases hfind : (classReps (downSimRef A) A.states).find? (fun p => simEquivB (downSimRef A) p q) with
  | none =>
    obtain ⟨p, hp, hpq⟩ := classReps_covers A hq
    exact absurd hpq (List.find?_eq_none.mp hfind p hp)
  | some p =>
    have h2 : simEquivB (downSimRef A) p q = true :=
      List.find?_some (p := fun p => simEquivB (downSimRef A) p q) hfind
    exact ⟨List.mem_of_find?_eq_some hfind, h2⟩

theorem repOf_mem_states (A : TA) {q : Nat} (hq : q ∈ A.states) : repOf A q ∈ A.states :=
  mem_classReps (repOf_spec A hq).1

theorem repOf_reindex (f : Nat → Nat) (A : TA) (hinj : InjOnStates f A) {q : Nat} (hq : q ∈ A.states) :
    repOf (reindex f A) (f q) = f (repOf A q) := by
  unfold repOf
  -- the two predicates agree on the representatives only; the composition is spelt as a `fun` first, so that the
  -- pointwise equation is literally `simEquivB_equivariant` and the unifier is not left to unfold `simEquivB`
  rw [classReps_reindex f A hinj, List.find?_map, Option.getD_map, Function.comp_def,
    find?_congr_mem (p' := fun p => simEquivB (downSimRef A) p q) _
      (fun p hp => simEquivB_equivariant f A hinj (mem_classReps hp) hq)]

end Eqv

/-- C19: the number of simulation classes does not depend on the numbering of the states -/
theorem simClasses_equivariant (f : Nat → Nat) (A : TA) (hinj : InjOnStates f A) :
    simClasses (reindex f A) = simClasses A := by
  unfold simClasses
  rw [classReps_reindex f A hinj, List.length_map]

theorem simClasses_le_states (A : TA) : simClasses A ≤ A.states.length := by
  unfold simClasses classReps
  suffices h : ∀ (Q reps : List Nat), (classRepsFrom (downSimRef A) reps Q).length ≤ reps.length + Q.length by
    simpa using h A.states []
  intro Q
  induction Q with
  | nil => intro reps; simp [classRepsFrom_nil]
  | cons q Q ih =>
    intro reps
    rw [classRepsFrom_cons]
    have := ih (repStep (downSimRef A) reps q)
    have h2 : (repStep (downSimRef A) reps q).length ≤ reps.length + 1 := by
      unfold repStep; split <;> simp
    simp only [List.length_cons]
    omega

/-- C05: for a collapse map that sends equivalent states to the same state, the model of `Reduce` has at most as many
states as there are simulation-equivalence classes -/
theorem reduce_states_le_simClasses (A : TA) (h : Nat → Nat)
    (hconst : ∀ p q, (p, q) ∈ downSimRef A → (q, p) ∈ downSimRef A → h p = h q) :
    (removeUnreachable (reindex h A)).states.length ≤ simClasses A := by
  have hsub : (removeUnreachable (reindex h A)).states ⊆ (classReps (downSimRef A) A.states).map h := by
    intro x hx
    obtain ⟨q, hq, he⟩ := PropAux.states_reduce hx
    obtain ⟨p, hp, hpq⟩ := classReps_covers A hq
    rw [simEquivB_iff] at hpq
    exact List.mem_map.mpr ⟨p, hp, by rw [he]; exact hconst p q hpq.1 hpq.2⟩
  have := (PropAux.nodup_states _).length_le_of_subset hsub
  rwa [List.length_map] at this

/-- the canonical representative map `repOf A` satisfies the hypothesis of `reduce_lang` (C05) -/
theorem repOf_equiv (A : TA) : ∀ q, q ∈ A.states → (q, repOf A q) ∈ downSimRef A ∧ (repOf A q, q) ∈ downSimRef A := by
  intro q hq
  have := simEquivB_iff.mp (repOf_spec A hq).2
  exact ⟨this.2, this.1⟩

theorem repOf_const (A : TA) : ∀ p q, (p, q) ∈ downSimRef A → (q, p) ∈ downSimRef A → repOf A p = repOf A q := by
  intro p q h1 h2
  have h := simEquivB_iff.mpr ⟨h1, h2⟩
  have hq : q ∈ A.states := (downSimRef_sub A h1).2
  have hfind : (classReps (downSimRef A) A.states).find? (fun x => simEquivB (downSimRef A) x p) =
      (classReps (downSimRef A) A.states).find? (fun x => simEquivB (downSimRef A) x q) := by
    apply find?_congr_mem
    intro x _
    rw [Bool.eq_iff_iff]
    exact ⟨fun hx => simEquivB_trans A hx h, fun hx => simEquivB_trans A hx (simEquivB_symm h)⟩
  obtain ⟨x, hx, hxq⟩ := classReps_covers A hq
  unfold repOf
  rw [hfind]
  cases hf : (classReps (downSimRef A) A.states).find? (fun x => simEquivB (downSimRef A) x q) with
  | none => exact absurd hxq (List.find?_eq_none.mp hf x hx)
  | some y => rfl

theorem reduceRef_lang (A : TA) : LangEq (reduceRef A) A :=
  fun t => reduce_trim_lang removeUnreachable_lang A (repOf A) (repOf_equiv A) t

theorem reduceRef_states_le_simClasses (A : TA) : (reduceRef A).states.length ≤ simClasses A :=
  reduce_states_le_simClasses A (repOf A) (repOf_const A)

theorem reduceRef_reindex_eq (f : Nat → Nat) (A : TA) (hinj : InjOnStates f A) :
    reduceRef (reindex f A) = reindex f (reduceRef A) := by
  unfold reduceRef
  have h1 : reindex (repOf (reindex f A)) (reindex f A) = reindex f (reindex (repOf A) A) := by
    rw [reindex_comp, reindex_comp]
    exact reindex_congr A _ _ (fun q hq => repOf_reindex f A hinj hq)
  rw [h1]
  apply removeUnreachable_reindex_eq
  apply injOnStates_mono hinj
  intro x hx
  obtain ⟨q, hq, he⟩ := mem_states_reindex.mp hx
  rw [he]; exact repOf_mem_states A hq

theorem reduceRef_states_sub (A : TA) {x : Nat} (hx : x ∈ (reduceRef A).states) : x ∈ A.states := by
  obtain ⟨q, hq, he⟩ := PropAux.states_reduce hx
  rw [he]; exact repOf_mem_states A hq

/-- C19: the number of states (and of rules) produced by reduction is unchanged under renaming -/
theorem reduceRef_states_length_equivariant (f : Nat → Nat) (A : TA) (hinj : InjOnStates f A) :
    (reduceRef (reindex f A)).states.length = (reduceRef A).states.length := by
  rw [reduceRef_reindex_eq f A hinj]
  exact reindex_states_length f _ (injOnStates_mono hinj (fun x hx => reduceRef_states_sub A hx))

theorem reduceRef_rules_length_equivariant (f : Nat → Nat) (A : TA) (hinj : InjOnStates f A) :
    (reduceRef (reindex f A)).rules.length = (reduceRef A).rules.length := by
  rw [reduceRef_reindex_eq f A hinj, reindex_rules_length]

/-- `h` chooses one state from each class of mutual downward simulation: every state is equivalent to its image and
equivalent states have the same image.  This is all that C05 and C19 need of the collapse map of `Reduce`. -/
def IsQuotProj (A : TA) (h : Nat → Nat) : Prop :=
  (∀ q, q ∈ A.states → (q, h q) ∈ downSimRef A ∧ (h q, q) ∈ downSimRef A) ∧
  (∀ p q, (p, q) ∈ downSimRef A → (q, p) ∈ downSimRef A → h p = h q)

theorem repOf_isQuotProj (A : TA) : IsQuotProj A (repOf A) := ⟨repOf_equiv A, repOf_const A⟩

namespace Eqv

theorem quotProj_fibres {A : TA} {h : Nat → Nat} (hh : IsQuotProj A h) {p q : Nat} (hp : p ∈ A.states)
    (hq : q ∈ A.states) : h p = h q ↔ (p, q) ∈ downSimRef A ∧ (q, p) ∈ downSimRef A := by
  refine ⟨fun he => ?_, fun hc => hh.2 p q hc.1 hc.2⟩
  have h1 := hh.1 p hp
  have h2 := hh.1 q hq
  rw [he] at h1
  exact ⟨(greatest_downSim_preorder A).2 _ _ _ h1.1 h2.2, (greatest_downSim_preorder A).2 _ _ _ h2.1 h1.2⟩

theorem sameFibres_quotProj {A : TA} {h h' : Nat → Nat} (hh : IsQuotProj A h) (hh' : IsQuotProj A h') :
    SameFibres A h h' :=
  fun _ _ hp hq => (quotProj_fibres hh hp hq).trans (quotProj_fibres hh' hp hq).symm

end Eqv

theorem quotient_choice_independent (A : TA) (h h' : Nat → Nat) (hh : IsQuotProj A h) (hh' : IsQuotProj A h') :
    ∃ π, InjOnStates π (reindex h A) ∧ reindex h' A = reindex π (reindex h A) :=
  ⟨transfer A h h', transfer_inj (sameFibres_quotProj hh hh'), transfer_reindex (sameFibres_quotProj hh hh')⟩

theorem reduce_size_choice_independent (A : TA) (h h' : Nat → Nat) (hh : IsQuotProj A h) (hh' : IsQuotProj A h') :
    (removeUnreachable (reindex h' A)).states.length = (removeUnreachable (reindex h A)).states.length ∧
    (removeUnreachable (reindex h' A)).rules.length = (removeUnreachable (reindex h A)).rules.length := by
  have hc := sameFibres_quotProj hh hh'
  rw [transfer_reindex hc, removeUnreachable_reindex_eq _ _ (transfer_inj hc), reindex_rules_length]
  exact ⟨reindex_states_length _ _
    (injOnStates_mono (transfer_inj hc) (fun q hq => PropAux.states_removeUnreachable_sub hq)), rfl⟩

/-- C19 for every choice of representatives: the numbers of states and rules produced by reduction are unchanged
under a renaming injective on the states, whatever quotient projections are used on the two sides -/
theorem reduce_size_equivariant (f : Nat → Nat) (A : TA) (hinj : InjOnStates f A) (h h' : Nat → Nat)
    (hh : IsQuotProj A h) (hh' : IsQuotProj (reindex f A) h') :
    (removeUnreachable (reindex h' (reindex f A))).states.length = (removeUnreachable (reindex h A)).states.length ∧
    (removeUnreachable (reindex h' (reindex f A))).rules.length = (removeUnreachable (reindex h A)).rules.length := by
  have h1 := reduce_size_choice_independent (reindex f A) (repOf (reindex f A)) h' (repOf_isQuotProj _) hh'
  have h2 := reduce_size_choice_independent A h (repOf A) hh (repOf_isQuotProj A)
  have h3 := reduceRef_states_length_equivariant f A hinj
  have h4 := reduceRef_rules_length_equivariant f A hinj
  unfold reduceRef at h3 h4
  exact ⟨h1.1.trans (h3.trans h2.1), h1.2.trans (h4.trans h2.2)⟩

namespace EqvEx

/-- a renaming that is injective on `0..4` and reverses the order (so it is not monotone) -/
def exF : Nat → Nat := fun q => 40 - 7 * q

theorem exF_inj (A : TA) (hA : ∀ q, q ∈ A.states → q ≤ 5) : InjOnStates exF A := by
  intro q q' hq hq' h
  have h1 := hA q hq
  have h2 := hA q' hq'
  simp only [exF] at h
  omega

theorem exF_inj_simA : InjOnStates exF SimModel.exA := exF_inj _ (by decide)
theorem exF_inj_trimA : InjOnStates exF TrimEx.exA := exF_inj _ (by decide)

example : (reindex exF SimModel.exA).states = [40, 33, 26, 19, 12] := by decide

/-! The states of `SimModel.exA`, evaluated once; the examples read them and the two simulations (`Proofs/SimExampleRuns`) off. -/
theorem simA_states : SimModel.exA.states = [0, 1, 2, 3, 4] := by decide +kernel
theorem simA_mem {q : Nat} (h : q < 5) : q ∈ SimModel.exA.states := by
  rw [simA_states]
  exact List.mem_range.mpr h

-- 1: simulations.  `2 ≤ 3` and `0 ≤ 1` downward, `4 ≰ 2`; `3 ≤ 2`, `4 ≤ 0` upward, `0 ≰ 1`
example : DownSim SimModel.exA (RelOf (downSimRef SimModel.exA)) ∧ 2 ∈ SimModel.exA.states ∧ 3 ∈ SimModel.exA.states :=
  ⟨downSimRef_sim _, simA_mem (by decide), simA_mem (by decide)⟩
example : DownSim (reindex exF SimModel.exA) (Eqv.ImageRel exF SimModel.exA (RelOf (downSimRef SimModel.exA))) :=
  downSim_image exF _ exF_inj_simA _ (downSimRef_sim _)
example : DownSim SimModel.exA (Eqv.PreimageRel exF SimModel.exA (RelOf (downSimRef (reindex exF SimModel.exA)))) :=
  downSim_preimage exF _ exF_inj_simA _ (downSimRef_sim _)
example : IsUpSim (reindex exF SimModel.exA) (Eqv.ImageRel exF SimModel.exA (RelOf (upSimRef SimModel.exA))) :=
  upSim_image exF _ exF_inj_simA _ (upSimRef_sim _)
example : IsUpSim SimModel.exA (Eqv.PreimageRel exF SimModel.exA (RelOf (upSimRef (reindex exF SimModel.exA)))) :=
  upSim_preimage exF _ exF_inj_simA _ (upSimRef_sim _)
example : (exF 2, exF 3) ∈ downSimRef (reindex exF SimModel.exA) :=
  (downSim_equivariant exF _ exF_inj_simA (simA_mem (by decide)) (simA_mem (by decide))).mpr (by rw [SimModel.exA_downSimRef]; decide +kernel)
example : (exF 4, exF 2) ∉ downSimRef (reindex exF SimModel.exA) :=
  fun h => absurd ((downSim_equivariant exF _ exF_inj_simA (simA_mem (by decide)) (simA_mem (by decide))).mp h)
    (by rw [SimModel.exA_downSimRef]; decide +kernel)
example : (26, 19) ∈ downSimRef (reindex exF SimModel.exA) ∧ (12, 26) ∉ downSimRef (reindex exF SimModel.exA) := by decide +kernel
example : (exF 3, exF 2) ∈ upSimRef (reindex exF SimModel.exA) :=
  (upSim_equivariant exF _ exF_inj_simA (simA_mem (by decide)) (simA_mem (by decide))).mpr (by rw [SimModel.exA_upSimRef]; decide +kernel)
example : (exF 0, exF 1) ∉ upSimRef (reindex exF SimModel.exA) :=
  fun h => absurd ((upSim_equivariant exF _ exF_inj_simA (simA_mem (by decide)) (simA_mem (by decide))).mp h)
    (by rw [SimModel.exA_upSimRef]; decide +kernel)
example : ∃ q r, (q, r) ∈ downSimRef SimModel.exA ∧ 26 = exF q ∧ 19 = exF r :=
  (downSimRef_reindex_image exF _ exF_inj_simA 26 19).mp (by decide +kernel)
example : ∃ q r, (q, r) ∈ upSimRef SimModel.exA ∧ 19 = exF q ∧ 26 = exF r :=
  (upSimRef_reindex_image exF _ exF_inj_simA 19 26).mp (by decide +kernel)
/-- injectivity matters: collapsing `2` and `4` relates the images of `3` and `4` although `(3, 4)` is not in the
simulation -/
example : let c : Nat → Nat := fun q => if q = 4 then 2 else q
    (c 3, c 4) ∈ downSimRef (reindex c SimModel.exA) ∧ (3, 4) ∉ downSimRef SimModel.exA ∧
      3 ∈ SimModel.exA.states ∧ 4 ∈ SimModel.exA.states := by decide +kernel

-- 2: trimming.  In `TrimEx.exA` the states `2`, `3` are unproductive, `4`, `5` are unreachable
example : TrimEx.exA.states = [0, 1, 3, 2, 4, 5] := by decide
example : Productive (reindex exF TrimEx.exA) (exF 5) :=
  (productive_equivariant exF _ exF_inj_trimA (by decide +kernel)).mpr ((prodStates_iff _ _).mp (by decide +kernel))
example : ¬ Productive (reindex exF TrimEx.exA) (exF 3) := fun h =>
  absurd ((prodStates_iff _ _).mpr ((productive_equivariant exF _ exF_inj_trimA (by decide +kernel)).mp h)) (by decide +kernel)
example : TdReachable (reindex exF TrimEx.exA) (exF 2) :=
  (tdReachable_equivariant exF _ exF_inj_trimA (by decide)).mpr ((tdReach_iff _ _).mp (by decide))
example : ¬ TdReachable (reindex exF TrimEx.exA) (exF 5) := fun h =>
  absurd ((tdReach_iff _ _).mpr ((tdReachable_equivariant exF _ exF_inj_trimA (by decide +kernel)).mp h)) (by decide +kernel)
example : exF 5 ∈ prodStates (reindex exF TrimEx.exA) ∧ exF 3 ∉ prodStates (reindex exF TrimEx.exA) ∧
    exF 2 ∈ tdReach (reindex exF TrimEx.exA) ∧ exF 5 ∉ tdReach (reindex exF TrimEx.exA) := by decide +kernel
example : removeUseless (reindex exF TrimEx.exA) = reindex exF (removeUseless TrimEx.exA) :=
  removeUseless_reindex_eq exF _ exF_inj_trimA
example : (removeUseless (reindex exF TrimEx.exA)).rules = [⟨0, [], 40⟩, ⟨1, [40, 40], 33⟩] ∧
    (removeUseless (reindex exF TrimEx.exA)).final = [33] ∧ (reindex exF TrimEx.exA).rules.length = 5 := by decide +kernel
example : (removeUnreachable (reindex exF TrimEx.exA)).rules.length = 3 ∧
    removeUnreachable (reindex exF TrimEx.exA) = reindex exF (removeUnreachable TrimEx.exA) :=
  ⟨by decide, removeUnreachable_reindex_eq exF _ exF_inj_trimA⟩
example : (removeUseless (reindex exF TrimEx.exA)).states.length = 2 ∧ (removeUseless TrimEx.exA).states.length = 2 ∧
    TrimEx.exA.states.length = 6 := by decide +kernel
/-- injectivity matters: merging the unproductive state `2` with the productive state `0` changes what trimming keeps -/
example : let c : Nat → Nat := fun q => if q = 2 then 0 else q
    (removeUseless (reindex c TrimEx.exA)).states.length = 3 ∧ (removeUseless TrimEx.exA).states.length = 2 := by decide +kernel

-- 3: the quotient.  `SimModel.exA` has the classes `{0,1}`, `{2,3}`, `{4}`
example : classReps (downSimRef SimModel.exA) SimModel.exA.states = [0, 2, 4] ∧ simClasses SimModel.exA = 3 := by
  rw [simClasses, SimModel.exA_downSimRef, simA_states]; decide +kernel
example : classReps (downSimRef (reindex exF SimModel.exA)) (reindex exF SimModel.exA).states = [40, 26, 12] := by decide +kernel
example : simClasses (reindex exF SimModel.exA) = 3 := by
  rw [simClasses_equivariant exF _ exF_inj_simA, simClasses, SimModel.exA_downSimRef, simA_states]; decide +kernel
example : (List.map (repOf SimModel.exA) [0, 1, 2, 3, 4] = [0, 0, 2, 2, 4]) ∧
    ∀ q, q ∈ SimModel.exA.states → repOf SimModel.exA q = SimModel.exH q := by
  simp only [repOf, SimModel.exA_downSimRef, simA_states]; decide +kernel
example : (reduceRef SimModel.exA).states = [0, 2] ∧ (reduceRef (reindex exF SimModel.exA)).states = [40, 26] := by decide +kernel
example : (reduceRef SimModel.exA).states.length ≤ simClasses SimModel.exA := reduceRef_states_le_simClasses _
theorem exH_const :
    ∀ p q, (p, q) ∈ downSimRef SimModel.exA → (q, p) ∈ downSimRef SimModel.exA → SimModel.exH p = SimModel.exH q := by
  intro p q h1 h2
  have : ∀ x, x ∈ downSimRef SimModel.exA → x.swap ∈ downSimRef SimModel.exA → SimModel.exH x.1 = SimModel.exH x.2 := by
    rw [SimModel.exA_downSimRef]; decide +kernel
  exact this (p, q) h1 h2
example : ∀ p q, (p, q) ∈ downSimRef SimModel.exA → (q, p) ∈ downSimRef SimModel.exA → SimModel.exH p = SimModel.exH q :=
  exH_const
example : IsQuotProj SimModel.exA SimModel.exH :=
  ⟨by rw [SimModel.exA_downSimRef, simA_states]; decide +kernel, exH_const⟩
/-- another choice of representatives (`1` for `{0,1}`, `3` for `{2,3}`): same sizes -/
example : let h' : Nat → Nat := fun q => if q = 0 then 1 else if q = 2 then 3 else q
    (removeUnreachable (reindex h' SimModel.exA)).states = [1, 3] ∧ (reduceRef SimModel.exA).states = [0, 2] := by decide +kernel
/-- the bound needs a collapse map that is constant on the classes: the identity satisfies the hypothesis of
`reduce_lang` but keeps more states than there are classes -/
example : (∀ q, q ∈ SimModel.exA.states → (q, id q) ∈ downSimRef SimModel.exA ∧ (id q, q) ∈ downSimRef SimModel.exA) ∧
    (removeUnreachable (reindex id SimModel.exA)).states.length = 4 ∧ simClasses SimModel.exA = 3 := by decide +kernel

-- 4: symbols.  `RenameEx.exB` (`a → 1`, `g(1) → 1`) is not included in `RenameEx.exA` (witness `g(g(a))`), `exC` is
-- included in `RenameEx.exB`
def exG : Nat → Nat := fun s => 2 * s + 5
theorem exG_inj : ∀ a b, exG a = exG b → a = b := by intro a b h; simp only [exG] at h; omega
/-- `a → 1`, `g(1) → 2`, final `2`: the language `{g(a)}` -/
def exC : TA := ⟨[⟨0, [], 1⟩, ⟨2, [1], 2⟩], [2]⟩

/-- a tree with a symbol (`6`) outside the image of `exG` is rejected, whatever the rest is -/
example : reach (translateSymbols exG RenameEx.exB) (.node 9 [.node 6 []]) = [] ∧
    reach (translateSymbols exG RenameEx.exB) (.node 9 [.node 5 []]) = [1] := by decide
example : ∃ t, Tree.mapSyms exG t = .node 9 [.node 5 []] :=
  translateSymbols_reach_image exG RenameEx.exB _ 1 (by decide)
example : ¬ Incl (translateSymbols exG RenameEx.exB) (translateSymbols exG RenameEx.exA) := fun h =>
  absurd ((incl_symbol_equivariant exG exG_inj _ _).mp h RenameEx.exT' (by decide)) (by decide)
example : ¬ LangEmpty (translateSymbols exG RenameEx.exA) := fun h =>
  absurd ((empty_symbol_equivariant exG exG_inj _).mp h RenameEx.exT) (by decide)
example : LangEmpty (translateSymbols exG TrimEx.exEmpty) :=
  (empty_symbol_equivariant exG exG_inj _).mpr ((isEmptyRef_iff _).mp (by decide))
example : Incl (translateSymbols exG exC) (translateSymbols exG RenameEx.exB) :=
  (incl_symbol_equivariant exG exG_inj _ _).mpr (reindex_Incl (fun _ => 1) exC)
example : reindex (fun _ => 1) exC = RenameEx.exB := rfl
example : accepts (translateSymbols exG exC) (.node 9 [.node 5 []]) = true := by decide

end EqvEx

end Vata
