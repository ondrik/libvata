import Vata.Proofs.FunctorCaches
import Vata.Properties.C09
/-!
# C09 – the caches inside the two inclusion functors of the word automata are transparent

Corollaries of `Vata/Proofs/FunctorCaches.lean` (model: `Vata/FunctorCaches.lean`) for the item **"Transparent caches are
assumed transparent"** of the "not yet proved" block of `Vata/Properties/C09.lean`.

How the statement is read into the model.  `Vata/NfaIncl.lean` (the models behind `C09_antichain_model_exact`,
`C09_congruence_model_exact`) compares macro-states by value.  `Vata/FunctorCaches.lean` models the same two functors with
their caches as coded:

* `MacroStateCache` (objects never die, never change; identity = address; `areEqual` answers `false` on empty sets – parameter
  `se = false`; `se = true` is a cache that interns the empty set too),
* the antichain functor's `subsetMap_` / `subsetNotMap_`, consulted and filled by the lambdas `lte` / `gte` inside
  `Antichain2Cv2::contains` (stops at the first hit) and `refine` (`MemoMode.lib` = repository, `MemoMode.preRepair` = before
  the repair of defect D8),
* the congruence functor's `visitedPairs_` and `usedRules_` (`UsedMode.lib`, `UsedMode.swapped` = the seeded change of the
  argument order of `usedRules_.contains`), with the re-interning of the copied sets at the start of `MakePost`.

`checkNfaInclACc`, `checkNfaInclCongrC` are `CheckInclusion` (sanitise, explore, certificate check) with these caches;
`FC.runACc`, `FC.runCongrC` the explorations alone, `FC.rawVerdictA` / `FC.rawVerdictC` their `return true` / `return false`
BEFORE the certificate check (the regressions are stated there: the certificate check of the models would hide them).
-/
namespace Vata.Props
open Vata.W Vata.FC

/-! ### the antichain functor -/

/-- **`MacroStateCache`, `subsetMap_`, `subsetNotMap_` are transparent (ANTICHAINS_NOSIM).**  For all operands, every fuel and
both variants of `areEqual`, `CheckInclusion` with the caches as coded returns exactly what the cache-free model
`checkNfaInclAC` returns – the same verdict with the same antichain, the same witness, `none` at the same fuel; the same
holds for the exploration alone on any operands.  Hence everything `C09_antichain_model_exact` says holds with caches. -/
theorem C09_antichain_caches_transparent (se : Bool) (A B : NFA) (fuel : Nat) :
    checkNfaInclACc .lib se A B fuel = checkNfaInclAC A B fuel ∧
    nfaInclACc .lib se A B fuel = nfaInclAC A B fuel ∧
    viewA (runACc .lib se A B fuel) = NfaIncl.runAC A B fuel :=
  ⟨checkNfaInclAC_cached_eq se A B fuel, nfaInclAC_cached_eq se A B fuel, runACc_eq se A B fuel⟩

/-- … in the form of `C09_antichain_model_exact`: exact and total with the caches -/
theorem C09_antichain_cached_exact (se : Bool) (A B : NFA) :
    (∀ fuel b c, checkNfaInclACc .lib se A B fuel = some (b, c) → (b = true ↔ InclW A B)) ∧
    (∀ fuel, NfaIncl.fuelBoundAC (nfaSanitize A B).1 (nfaSanitize A B).2 < fuel →
      (InclW A B → ∃ c, checkNfaInclACc .lib se A B fuel = some (true, c)) ∧
      (¬ InclW A B → ∃ c, checkNfaInclACc .lib se A B fuel = some (false, c))) := by
  simp only [checkNfaInclAC_cached_eq]
  exact C09_antichain_model_exact A B

/-- **the invariant behind it**: at the end of every run of the library's code every entry of `subsetMap_` is a true `⊆`
between the values at its two addresses and every entry of `subsetNotMap_` a true `⊄` (the invariant `FC.MemoOK` holds in
every state of the simulation `FC.ARel`; `FC.lteC_spec`, `FC.gteC_spec`: under it the lambdas answer what the comparator
answers on the values) -/
theorem C09_antichain_memo_sound (se : Bool) (A B : NFA) (fuel : Nat) (c : ACaches)
    (h : finalMemoA (runACc .lib se A B fuel) = some c) :
    (∀ a b, (a, b) ∈ c.sub → Vata.subB (val c.mc a) (val c.mc b) = true) ∧
    (∀ a b, (a, b) ∈ c.nsub → Vata.subB (val c.mc a) (val c.mc b) = false) ∧ memoOKB c = true :=
  ⟨fun a b hab => ((runACc_memo_sound se A B fuel h).1.sub a b hab).2.2,
   fun a b hab => ((runACc_memo_sound se A B fuel h).1.nsub a b hab).2.2, (runACc_memo_sound se A B fuel h).2⟩

-- non-vacuity: on the regression pair of D8 the run fills 6 objects, 4 + 9 memo entries, and returns what the model returns
example : (finalMemoA (runACc .lib false NfaInclEx.exSanA NfaInclEx.exSanB 20)).map
    (fun c => (c.mc.length, c.sub.length, c.nsub.length, memoOKB c)) = some (6, 4, 9, true) := FCEx.exSan_run
example : (checkNfaInclACc .lib false NfaInclEx.exMemoA NfaInclEx.exMemoB 20).map (·.1) = some true :=
  checkNfaInclAC_cached_eq false _ _ 20 ▸ exMemo_antichain

/-- **Regression D8** (`efa75502`: `lte` / `gte` recorded the converse of a failed comparison as a fact, `gte` read the tables
with swapped meaning).  With the pre-repair recording: (1) on `exD8A`, `exD8B` (`L(A) ⊄ L(B)`, witness `b a a`) the
exploration ends with `return true` where the repaired code says `false`, and its final `subsetMap_` holds the false entry
"`{3} ⊆ {2}`" – the invariant of `C09_antichain_memo_sound` is broken; (2) on the regression pair `exMemoA` / `exMemoB` behind
the dispatcher the exploration is still running after 100 picked pairs where the repaired code is done after 10. -/
theorem C09_regression_D8 :
    (rawVerdictA (runACc .preRepair false FCEx.exD8A FCEx.exD8B 20) = some true ∧
     rawVerdictA (runACc .lib false FCEx.exD8A FCEx.exD8B 20) = some false ∧ ¬ InclW FCEx.exD8A FCEx.exD8B) ∧
    (finalMemoA (runACc .preRepair false FCEx.exD8A FCEx.exD8B 20)).map (fun c => (c.mc, c.sub, memoOKB c)) =
      some ([(2, [2]), (3, [3])], [(1, 1), (1, 0)], false) ∧
    ((runACc .preRepair false NfaInclEx.exSanA NfaInclEx.exSanB 100).isNone = true ∧
     rawVerdictA (runACc .lib false NfaInclEx.exSanA NfaInclEx.exSanB 11) = some true ∧
     (checkNfaInclACc .preRepair false NfaInclEx.exMemoA NfaInclEx.exMemoB 100).isNone = true) :=
  -- the entry `(1, 0)` was recorded when `{2} ⊆ {3}` failed
  ⟨FCEx.d8_changes_verdict, by decide +kernel, FCEx.d8_diverges⟩

/-! ### the congruence functor -/

/-- **`MacroStateCache`, `visitedPairs_`, `usedRules_` are transparent (CONGR_DEPTH_NOSIM, CONGR_BREADTH_NOSIM) on every
positive instance.**  If `L(A) ⊆ L(B)`, `CheckInclusion` with the library's caches (`areEqual` as coded) returns, for both
orders and every fuel, exactly what the cache-free model `checkNfaInclCongr` returns (the same relation, `none` at the same
fuel); in particular it answers `true` above the fuel bound of `C09_congruence_model_exact`. -/
theorem C09_congruence_caches_transparent (A B : NFA) (h : InclW A B) (breadth : Bool) :
    (∀ fuel, checkNfaInclCongrC .lib false A B breadth fuel = checkNfaInclCongr A B breadth fuel) ∧
    (∀ fuel, NfaIncl.fuelBoundCongr (nfaSanitize A B).1 (nfaSanitize A B).2 < fuel →
      ∃ c, checkNfaInclCongrC .lib false A B breadth fuel = some (true, c)) :=
  ⟨fun fuel => checkNfaInclCongr_cached_eq_of_incl A B h breadth fuel,
   fun _ hf => checkNfaInclCongr_cached_eq_of_incl A B h breadth _ ▸ (checkNfaInclCongr_complete A B hf).1 h⟩

example : InclW NfaInclEx.exMemoA NfaInclEx.exMemoB := FCEx.exMemo_incl
example : (checkNfaInclCongrC .lib false NfaInclEx.exMemoA NfaInclEx.exMemoB true 20).map (·.1) = some true :=
  checkNfaInclCongr_cached_eq_of_incl _ _ FCEx.exMemo_incl true 20 ▸ exMemo_congr true

/-- **the general form.**  On operands with disjoint states (what the dispatcher establishes) the functor with its caches
returns exactly what the cache-free model returns – verdict, relation / witness, fuel – whenever the cache interns the empty
set (`se = true`) or no reachable pair of macro-states has exactly one empty component (`FC.NoHalfEmpty`; true when every
state of `A` can reach a final state and `L(A) ⊆ L(B)`: `FC.noHalfEmpty_of_incl`). -/
theorem C09_congruence_caches_transparent_core (se : Bool) (A B : NFA)
    (hdis : ∀ q, q ∈ nfaStates A → q ∈ nfaStates B → False)
    (hne : se = true ∨ NoHalfEmpty (nfaUnionDisjoint A B) B) (breadth : Bool) (fuel : Nat) :
    nfaInclCongrC .lib se A B breadth fuel = nfaInclCongr A B breadth fuel ∧
    viewC (runCongrC .lib se (nfaUnionDisjoint A B) B breadth fuel) =
      NfaIncl.runCongr (nfaUnionDisjoint A B) B breadth fuel :=
  ⟨nfaInclCongr_cached_eq hdis hne breadth fuel, runCongrC_eq hdis hne breadth fuel⟩

example : nfaInclCongrC .lib true FCEx.exSwA FCEx.exSwB false 20 = nfaInclCongr FCEx.exSwA FCEx.exSwB false 20 :=
  (C09_congruence_caches_transparent_core true _ _ FCEx.exSw_disjoint (Or.inl rfl) _ _).1

/-- **on every instance, in every mode: a verdict of the certifying cached model is right** (the certificate check does not
depend on the caches), so with `C09_congruence_model_exact` the cached and the cache-free model never disagree on a verdict -/
theorem C09_congruence_cached_verdicts (um : UsedMode) (se : Bool) (A B : NFA) (breadth : Bool) (fuel fuel' : Nat)
    (b b' : Bool) (c c' : NfaIncl.Cert) (h : checkNfaInclCongrC um se A B breadth fuel = some (b, c))
    (h' : checkNfaInclCongr A B breadth fuel' = some (b', c')) : (b = true ↔ InclW A B) ∧ b = b' := by
  have h1 := checkNfaInclCongrC_iff h
  exact ⟨h1, Verdict.eq_of_iff h1 (checkNfaInclCongr_iff h')⟩

example : ∃ c, checkNfaInclCongrC .lib false FCEx.exWA FCEx.exWB true 20 = some (false, c) :=
  NfaInclEx.verdict_some (by decide +kernel)

/-- **the invariant of `usedRules_`**: at the end of every run covered by `C09_congruence_caches_transparent_core` every entry
`b ↦ y` is a true fact about the two values, `*y ⊆ *b`.  (Why this is the right reading: in `U = A ⊎ B` a rule `Yᵢ → Xᵢ ∪ Yᵢ`
adds no state of `B` beyond `Yᵢ` – `FC.StructR`, `FC.SweepInv` – so "fired in an earlier closure of `*b`" means `Yᵢ ⊆ *b`;
`FC.firesC_eq`: under the invariant the shortcut answers what `MatchPair` answers.) -/
theorem C09_congruence_used_sound (se : Bool) (A B : NFA) (hdis : ∀ q, q ∈ nfaStates A → q ∈ nfaStates B → False)
    (hne : se = true ∨ NoHalfEmpty (nfaUnionDisjoint A B) B) (breadth : Bool) (fuel : Nat) (c : CCaches)
    (h : finalMemoC (runCongrC .lib se (nfaUnionDisjoint A B) B breadth fuel) = some c) :
    (∀ b y, (b, y) ∈ c.used → ∀ x, x ∈ val c.mc y → x ∈ val c.mc b) ∧ usedOKB c = true :=
  ⟨fun b y hby => ((runCongrC_used_sound hdis hne breadth fuel h).1 b y hby).2.2,
   (runCongrC_used_sound hdis hne breadth fuel h).2⟩

example : (finalMemoC (runCongrC .lib false (nfaUnionDisjoint NfaInclEx.exSanA NfaInclEx.exSanB) NfaInclEx.exSanB true 20)).map
    (fun c => (c.mc.length, c.visited.length, c.used, usedOKB c)) = some (14, 11, [(6, 6), (1, 9), (4, 7)], true) := by
  decide +kernel

/-- **Regression: `usedRules_.contains` with swapped arguments.**  On `exSwA`, `exSwB` (`L(A) ⊄ L(B)`, witness `b a a`) the
breadth-first exploration ends with `return true` where the library's code says `false`; the swapped call reads the true
entry "`{1} ⊆ {1,2}`" as "`{1,2} ⊆ {1}`" and fires a rule `MatchPair` rejects (the library's call does not). -/
theorem C09_regression_usedRules_swapped :
    (rawVerdictC (runCongrC .swapped false (nfaUnionDisjoint FCEx.exSwA FCEx.exSwB) FCEx.exSwB true 20) = some true ∧
     rawVerdictC (runCongrC .lib false (nfaUnionDisjoint FCEx.exSwA FCEx.exSwB) FCEx.exSwB true 20) = some false ∧
     ¬ InclW FCEx.exSwA FCEx.exSwB) ∧
    (usedOKB ⟨[(1, [1]), (3, [1, 2])], [], [(1, 0)]⟩ = true ∧
     firesC .swapped true [(1, [1]), (3, [1, 2])] 0 [(1, 0)] ⟨1, 1, []⟩ [1] = true ∧
     Vata.subB (val [(1, [1]), (3, [1, 2])] 1) [1] = false ∧
     firesC .lib true [(1, [1]), (3, [1, 2])] 0 [(1, 0)] ⟨1, 1, []⟩ [1] = false) :=
  -- the entries stay true – the seeded change is on the reading side –, so it is the step "`usedRules_` says so ⇒ `MatchPair`
  -- would say so" of `firesC_eq` that breaks
  ⟨FCEx.swapped_changes_verdict, by decide⟩

/-- **the empty-set quirk of `MacroStateCache` is observable.**  (1) `exHA`, `exHB` (`L(A) = L(B) = {ε}`, `A` has a useless
state, operands NOT sanitised): the cache-free model and a cache that interns the empty set finish with fuel 3, the
library's cache returns `none` there and `true` with fuel 5 – the pair `({1}, ∅)` is enqueued after each of its expansions.
(2) `exWA`, `exWB` behind the dispatcher, a negative instance, breadth-first: both answer `false`, the cache-free model with
the witness `c a`, the library's cache with `a a` (the order of the exploration changes).  So the side condition of
`C09_congruence_caches_transparent_core` cannot be dropped and `C09_congruence_caches_transparent` does not extend to negative
instances; what holds there is `C09_congruence_cached_verdicts`. -/
theorem C09_empty_set_quirk :
    (NfaInclEx.verdict (nfaInclCongr FCEx.exHA FCEx.exHB true 3) = some true ∧
     nfaInclCongrC .lib false FCEx.exHA FCEx.exHB true 3 = none ∧
     NfaInclEx.verdict (nfaInclCongrC .lib false FCEx.exHA FCEx.exHB true 5) = some true ∧
     ¬ NoHalfEmpty (nfaUnionDisjoint FCEx.exHA FCEx.exHB) FCEx.exHB) ∧
    (NfaInclEx.witness (checkNfaInclCongr FCEx.exWA FCEx.exWB true 20) = some [2, 0] ∧
     NfaInclEx.witness (checkNfaInclCongrC .lib false FCEx.exWA FCEx.exWB true 20) = some [0, 0] ∧
     NfaInclEx.witness (checkNfaInclCongrC .lib true FCEx.exWA FCEx.exWB true 20) = some [2, 0]) :=
  ⟨FCEx.cached_real_ne, by decide +kernel, by decide +kernel, by decide +kernel⟩

/-!
## which "not yet proved" items of `C09.lean` this file closes

* **"Transparent caches are assumed transparent"** –
  - antichain functor (`MacroStateCache`, `subsetMap_`, `subsetNotMap_`): closed, unconditionally
    (`C09_antichain_caches_transparent`, `C09_antichain_cached_exact`, `C09_antichain_memo_sound`, regression `C09_regression_D8`);
  - congruence functor (`MacroStateCache`, `visitedPairs_`, `usedRules_`): closed for every positive instance behind the
    dispatcher and, in general, under `se = true ∨ NoHalfEmpty` (`C09_congruence_caches_transparent`, `…_core`,
    `C09_congruence_used_sound`, regression `C09_regression_usedRules_swapped`); verdict agreement everywhere
    (`C09_congruence_cached_verdicts`).
  The sentence of that item "the argument why they do not change a verdict is in the header of `Vata/NfaIncl.lean`" needs two
  corrections, both theorems here: `usedRules_` is sound because of the shape of the pairs over `A ⊎ B` (not because closures
  only grow: the rule of the pair being tested was present in earlier closures of the same right component and is absent
  now), and the copies of a pair with an empty component are NOT always discarded (`C09_empty_set_quirk` (2)).

## not proved here

* Congruence functor with the library's `areEqual` on NEGATIVE instances (or unsanitised operands) where a pair with exactly
  one empty component is reachable: no lock-step equality (it is false, `C09_empty_set_quirk`) and no totality theorem for the
  cached model (`checkNfaInclCongrC .lib false` could in principle run out of any fuel there; every verdict it returns is right).
* Divergence under D8 is the bounded statement (100 picks), not "for every fuel".
* Still abstracted exactly as in `Vata/NfaIncl.lean`: iteration orders of hash containers (list order), the third ordering
  criterion of `next_` (insertion order instead of the address), `Init` of the antichain functor stops at the first bad start
  state, sums as natural numbers.  The simulation-based selections and the tree side (`lteCache`, `evalTransitionsCache` of
  `explicit_tree_incl_up.cc`, property C01) are not covered by this file.
-/
end Vata.Props
