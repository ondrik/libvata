import Vata.Proofs.TimbukGrammarReject
/-!
# C13 – a complete characterisation of the texts the Timbuk parser accepts / rejects

> For any input text whatsoever the parser and the loaders either succeed or throw a standard exception.

`C13_Layout.lean` proved four CLASSES of rejected texts and left open "a complete 'rejected iff …' characterisation".
This file gives it: a declarative grammar `Accepted` (`Vata/TimbukGrammar.lean`) with

* `C13_accepts_iff  : (∃ d, parseTimbuk (String.ofList t) = .ok d) ↔ Accepted t`
* `C13_rejects_iff  : (∃ e, parseTimbuk (String.ofList t) = .error e) ↔ ¬ Accepted t`
* `C13_parse_value  : Reads t R → parseTimbuk (String.ofList t) = .ok R.desc.toS` (and the converse, `C13_parse_value_iff`)
* `C13_acceptedB    : acceptedB t = true ↔ Accepted t` (the Boolean check; `Accepted` is `Decidable`)
* `C13_rejected_iff : (∃ e, parseTimbuk (String.ofList t) = .error e) ↔ Rejected t` – the complement spelled out positively,
  by the first offence: no `Transitions` line / a bad header line / a repeated keyword / a bad rule line; with the general
  corollaries `C13_rejects_final_without_states`, `C13_rejects_two_names`, `C13_rejects_unknown_first_word`,
  `C13_rejects_bad_rule_line`.

No hypothesis on the text: any list of characters (bytes: `parseTimbukBytes` embeds byte `b` as the character `b`).

## How the C++ is read into the grammar (`src/timbuk_parser-nobison.cc`, model `Vata/Timbuk.lean`)

The grammar is a set of `Prop`s that only DECOMPOSE strings (`l = pre ++ lhs ++ b ++ "->" ++ …` with side conditions);
it contains no search (`find`, `find_if`), no loop, no flag.  What each piece of C++ becomes:

* `split_delim(str, '\n')` → `Lines t ls`: `t` is the `\n`-free `ls` joined by `\n` (`lines_iff`).
* `trim(line)`, `if (str.empty()) continue;` → a line all of whose characters are white (`AllWs`; `std::isspace` in the
  "C" locale: blank `\t \n \v \f \r`) is skipped, in the header part and in the rule part (`HeaderPart.blank`, `RulePart.blank`).
* `read_word` in a loop → `Words l ws` (`C13_words_iff`): `l = g₀ w₁ g₁ … wₙ gₙ`, words non-empty and free of white space,
  gaps white, inner gaps non-empty.
* `if ("Transitions" == first_word) { are_transitions = true; continue; }` → `TransitionsLine`: first word `Transitions`, the
  rest of the line is free.
* `"Automaton"`: `result.name = read_word(str); if (!str.empty()) throw` → `HeaderLine.autNone` / `.autName`: zero or one
  further word; the name is any word (not a token).
* `"Ops"`, `"States"`, `"Final"` + `"States" != str_states → throw` → `HeaderLine.ops/.states/.final`: every further word a
  `Token` (`parse_colonned_token`: split at the FIRST `:`, then `Convert::FromString<int>` = `iss >> int`: `Numeral` –
  optional sign, ≥ 1 digit, longest digit run, trailing junk ignored, value in `int`; `C13_numeral_iff`, `C13_token_iff`).
  The ranks of states are parsed (and may make the line invalid) but dropped.
* `if (xxx_parsed) throw` (four flags) → `Reads.once`: the kinds of the header lines are `Nodup`.
* `if (!are_transitions) throw "Transitions not specified"` → the split `hdr ++ trl :: rules` of `Reads.split` must exist.
* rule lines: `str.find("->")`, `trim(substr)`, `rhs.empty() || contains_whitespace(rhs)`, `lhs.find("(")`, `lhs.find(")")`,
  the three position tests, `trim(lab)`, `lab.empty()`, `split_delim(…, ',')`, `trim` + `contains_whitespace` of every child,
  `size() == 1 && [0] == ""` → `TransLine`, `Lhs`, `KidList` (`C13_transLine_iff`).

Proof architecture: grammar ⇔ reader (`readText`, stateless, two passes: `reads_iff`) ⇔ parser model (`parseC_eq_read`).
All statements are about the model; its agreement with the compiled C++ was re-checked on the 39 texts of the examples
below with a probe linked against `/repo/_build/src/libvata.a` (all answers equal), in addition to the comparison
described in `Vata/Timbuk.lean`.  No discrepancy between model and C++ was found.

Abstracted: the exception TEXT (the grammar says *that* the parser throws, not which of its messages).
-/
namespace Vata.Props
open Vata.Timbuk

/-! ### the characterisation -/

theorem parseTimbuk_error_iff (s : String) :
    (∃ e, parseTimbuk s = .error e) ↔ ∃ e, parseC s.toList = .error e := by
  rw [parseTimbuk_eq]
  cases parseC s.toList <;> simp [Except.map]

/-- **the value**: the parser returns `d` on `t` iff `t` has a reading `R` of the grammar (header lines with their tokens,
rules, in text order) and `d` is its description: the name of the `Automaton` line (else empty), the `Ops` tokens, the names
of the `States` / `Final States` tokens, the rules – each section as a `std::set` (`norm`: sorted, duplicate-free). -/
theorem C13_parse_value_iff (t : Str) (d : AutDesc) :
    parseTimbuk (String.ofList t) = .ok d ↔ ∃ R, Reads t R ∧ d = R.desc.toS := by
  rw [parseTimbuk_ok_iff, String.toList_ofList]
  constructor
  · rintro ⟨d', h, rfl⟩
    obtain ⟨R, hR, rfl⟩ := (parseC_ok_iff_reads t d').mp h
    exact ⟨R, hR, rfl⟩
  · rintro ⟨R, hR, rfl⟩
    exact ⟨R.desc, (parseC_ok_iff_reads t _).mpr ⟨R, hR, rfl⟩, rfl⟩

/-- **for accepted texts the description is the declarative reading, normalised** -/
theorem C13_parse_value (t : Str) (R : Reading) (h : Reads t R) :
    parseTimbuk (String.ofList t) = .ok R.desc.toS :=
  (C13_parse_value_iff t _).mpr ⟨R, h, rfl⟩

/-- **the parser succeeds exactly on the texts of the grammar** -/
theorem C13_accepts_iff (t : Str) : (∃ d, parseTimbuk (String.ofList t) = .ok d) ↔ Accepted t := by
  constructor
  · rintro ⟨d, h⟩
    obtain ⟨R, hR, _⟩ := (C13_parse_value_iff t d).mp h
    exact ⟨R, hR⟩
  · rintro ⟨R, hR⟩
    exact ⟨_, C13_parse_value t R hR⟩

/-- **an exception exactly outside the grammar** -/
theorem C13_rejects_iff (t : Str) : (∃ e, parseTimbuk (String.ofList t) = .error e) ↔ ¬ Accepted t := by
  rw [← C13_accepts_iff]
  cases h : parseTimbuk (String.ofList t) with
  | error e => simp
  | ok d => simp

/-- the same for a `String` -/
theorem C13_accepts_string (s : String) : (∃ d, parseTimbuk s = .ok d) ↔ Accepted s.toList := by
  have := C13_accepts_iff s.toList
  rwa [String.ofList_toList] at this

/-- the Boolean grammar check decides the grammar (hence, with `C13_accepts_iff`, success of the parser) -/
theorem C13_acceptedB (t : Str) : acceptedB t = true ↔ Accepted t := acceptedB_iff t

theorem C13_acceptedB_parse (t : Str) : acceptedB t = true ↔ ∃ d, parseTimbuk (String.ofList t) = .ok d :=
  (C13_acceptedB t).trans (C13_accepts_iff t).symm

theorem C13_acceptedB_false (t : Str) : acceptedB t = false ↔ ∃ e, parseTimbuk (String.ofList t) = .error e := by
  rw [C13_rejects_iff, ← C13_acceptedB]; simp

/-- the reading of a text is unique, and `readText` computes it -/
theorem C13_reading_unique {t : Str} {R R' : Reading} (h : Reads t R) (h' : Reads t R') : R = R' := by
  have := ((reads_iff t R).mp h).symm.trans ((reads_iff t R').mp h')
  exact Option.some.inj this

theorem C13_readText (t : Str) (R : Reading) : readText t = some R ↔ Reads t R := (reads_iff t R).symm

/-! ### the lexical level: the grammar's predicates against the C++ helpers -/

/-- `trim` + the `read_word` loop compute the `Words` of a line -/
theorem C13_words_iff (l : Str) (ws : List Str) : Words l ws ↔ readWords (trim l) = ws := words_iff l ws

/-- `Convert::FromString<int>` accepts exactly the `Numeral`s -/
theorem C13_numeral_iff (s : Str) (v : Int) : Numeral s v ↔ fromStringInt s = .ok v := numeral_iff s v

/-- `parse_colonned_token` on a word -/
theorem C13_token_iff {w : Str} (hw : NoWs w) (n : Str) (r : Int) : Token w n r ↔ parseColonned w = .ok (n, r) :=
  token_iff hw n r

/-- the whole processing of a non-blank line after `Transitions` succeeds, inserting `(kids, lab, rhs)`, exactly on the
`TransLine`s -/
theorem C13_transLine_iff (st : PState) (l lab : Str) (kids : List Str) (rhs : Str) :
    TransLine l lab kids rhs ↔ stepTrans st l (trim l) = .ok (addTrans st (kids, lab, rhs)) ∧
      readTransLine l = some (kids, lab, rhs) := by
  rw [transLine_iff]
  constructor
  · intro h
    refine ⟨?_, h⟩
    have := stepTrans_read st l l
    rw [h] at this
    exact optOk_eq_some.mp this
  · exact fun h => h.2

/-- a header line of the grammar is what the reader reads off the words -/
theorem C13_headerLine_iff (l : Str) (k : HKind) (ps : List (Str × Int)) :
    HeaderLine l k ps ↔ readHeader (readWords (trim l)) = some (k, ps) := headerLine_iff l k ps

/-- every accepted text has a `Transitions` line, everything before it is blank or a header line, everything after it blank
or a transition line (this IS the grammar; spelled out for reference) -/
theorem C13_accepted_shape {t : Str} (h : Accepted t) :
    ∃ hdr trl rules, Lines t (hdr ++ trl :: rules) ∧ TransitionsLine trl ∧
      (∀ l ∈ hdr, AllWs l ∨ ∃ k ps, HeaderLine l k ps) ∧
      (∀ l ∈ rules, AllWs l ∨ ∃ lab kids rhs, TransLine l lab kids rhs) := by
  obtain ⟨R, ⟨hdr, trl, rules, hl, hh, ht, hr⟩, _⟩ := h
  exact ⟨hdr, trl, rules, hl, ht, hh.mem, hr.mem⟩

/-! ### the rejected texts, positively -/

/-- **an exception exactly on the `Rejected` texts** (first offence in text order: no `Transitions` line; a header-part
line that is neither blank, `Transitions …`, nor a header line; a keyword twice; a rule-part line that is neither blank nor a
transition line) -/
theorem C13_rejected_iff (t : Str) : (∃ e, parseTimbuk (String.ofList t) = .error e) ↔ Rejected t := by
  rw [C13_rejects_iff, rejected_iff]

/-- a non-blank line in the header part whose words the reader cannot read as a header line makes the parser throw -/
theorem C13_rejects_bad_header_words (t : Str) (pre post : List Str) (l : Str) (hs : List (HKind × List (Str × Int)))
    (ws : List Str) (hl : Lines t (pre ++ l :: post)) (hh : HeaderPart pre hs) (hw : Words l ws) (hne : ws ≠ [])
    (hT : ws.headD [] ≠ kwTransitions) (hr : readHeader ws = none) :
    ∃ e, parseTimbuk (String.ofList t) = .error e := by
  rw [C13_rejected_iff]
  have e := (words_iff l ws).mp hw
  refine .badHeader hl hh ?_ ?_ ?_
  · intro hb
    rw [trim_allWs hb, readWords_nil] at e
    exact hne e.symm
  · rintro ⟨ws', hw'⟩
    rw [(words_iff l _).mp hw'] at e
    subst e
    exact hT rfl
  · intro k ps hk
    have := (headerLine_iff _ _ _).mp hk
    rw [e, hr] at this
    cases this

/-- **`Final` not followed by `States`** (class left open in `C13_Layout`): in the header part, rejected -/
theorem C13_rejects_final_without_states (t : Str) (pre post : List Str) (l : Str) (hs : List (HKind × List (Str × Int)))
    (ws : List Str) (hl : Lines t (pre ++ l :: post)) (hh : HeaderPart pre hs) (hw : Words l (kwFinal :: ws))
    (hS : ws.headD [] ≠ kwStates) : ∃ e, parseTimbuk (String.ofList t) = .error e := by
  refine C13_rejects_bad_header_words t pre post l hs _ hl hh hw (by simp)
    (show kwFinal ≠ kwTransitions by decide) ?_
  rw [readHeader_cons, if_neg (by decide), if_neg (by decide), if_neg (by decide), if_pos rfl, if_pos hS]

/-- **two (or more) words after `Automaton`** (class left open in `C13_Layout`): in the header part, rejected -/
theorem C13_rejects_two_names (t : Str) (pre post : List Str) (l : Str) (hs : List (HKind × List (Str × Int)))
    (a b : Str) (ws : List Str) (hl : Lines t (pre ++ l :: post)) (hh : HeaderPart pre hs)
    (hw : Words l (kwAutomaton :: a :: b :: ws)) : ∃ e, parseTimbuk (String.ofList t) = .error e := by
  refine C13_rejects_bad_header_words t pre post l hs _ hl hh hw (by simp)
    (show kwAutomaton ≠ kwTransitions by decide) ?_
  rw [readHeader_cons, if_pos rfl, if_pos (by simp)]

/-- **unknown first word** in the header part (the class `C13_rejects_unknown_keyword`, now from the grammar) -/
theorem C13_rejects_unknown_first_word (t : Str) (pre post : List Str) (l : Str) (hs : List (HKind × List (Str × Int)))
    (w : Str) (ws : List Str) (hl : Lines t (pre ++ l :: post)) (hh : HeaderPart pre hs) (hw : Words l (w :: ws))
    (h0 : w ≠ kwTransitions) (h1 : w ≠ kwAutomaton) (h2 : w ≠ kwOps) (h3 : w ≠ kwStates) (h4 : w ≠ kwFinal) :
    ∃ e, parseTimbuk (String.ofList t) = .error e := by
  refine C13_rejects_bad_header_words t pre post l hs _ hl hh hw (by simp) h0 ?_
  rw [readHeader_cons, if_neg h1, if_neg h2, if_neg h3, if_neg h4]

/-- **a line after the `Transitions` line that is neither blank nor a `TransLine`**: rejected, whatever the other lines -/
theorem C13_rejects_bad_rule_line (t : Str) (hdr pre post : List Str) (trl l : Str) (hs : List (HKind × List (Str × Int)))
    (hl : Lines t (hdr ++ trl :: (pre ++ l :: post))) (hh : HeaderPart hdr hs) (ht : TransitionsLine trl)
    (hb : ¬ AllWs l) (hr : readTransLine l = none) : ∃ e, parseTimbuk (String.ofList t) = .error e := by
  rw [C13_rejected_iff]
  refine .badRule hl hh ht hb ?_
  intro lab kids rhs h
  rw [(transLine_iff _ _ _ _).mp h] at hr
  cases hr

/-- non-vacuity of the hypotheses of `C13_rejects_final_without_states` (the text `"Ops a:0\nFinal q\nTransitions"`) and of
`C13_rejects_bad_rule_line` (`"Transitions\na(q) r -> s"`: text after `)`) -/
example : Lines "Ops a:0\nFinal q\nTransitions".toList (["Ops a:0".toList] ++ "Final q".toList :: ["Transitions".toList]) ∧
    HeaderPart ["Ops a:0".toList] [(.ops, [("a".toList, 0)])] ∧ Words "Final q".toList [kwFinal, "q".toList] ∧
    ["q".toList].headD [] ≠ kwStates := by
  repeat rw [String.toList_ofList]
  exact ⟨(lines_iff _ _).mpr (by decide +kernel), .line ((headerLine_iff _ _ _).mpr (by decide +kernel)) .nil,
    (words_iff _ _).mpr (by decide +kernel), by decide +kernel⟩
example : Lines "Transitions\na(q) r -> s".toList ([] ++ "Transitions".toList :: ([] ++ "a(q) r -> s".toList :: [])) ∧
    HeaderPart [] [] ∧ TransitionsLine "Transitions".toList ∧ ¬ AllWs "a(q) r -> s".toList ∧
    readTransLine "a(q) r -> s".toList = none := by
  repeat rw [String.toList_ofList]
  exact ⟨(lines_iff _ _).mpr (by decide +kernel), .nil, (isTransitionsLine_iff _).mp (by decide +kernel),
    (isBlankLine_false_iff _).mp (by decide +kernel), by decide +kernel⟩

/-! ### non-vacuity: a concrete reading -/

namespace C13GrammarEx

def txt : Str := "\r\nOps a:0 f:2 g:1x\nAutomaton  A:x \nFinal States\tr:7\n\nTransitions etc -> etc\na -> q\n f ( q ,r ) ->r\r\na b() -> q->r\n".toList

def rd : Reading :=
  ⟨[(.ops, [("a".toList, 0), ("f".toList, 2), ("g".toList, 1)]), (.aut, [("A:x".toList, -1)]), (.final, [("r".toList, 7)])],
   [([], "a".toList, "q".toList), (["q".toList, "r".toList], "f".toList, "r".toList), ([], "a b".toList, "q->r".toList)]⟩

/-- the text has this reading … -/
theorem reads : Reads txt rd := by
  rw [reads_iff]
  unfold txt rd
  repeat rw [String.toList_ofList]
  decide +kernel
/-- … so it is accepted and parsed to the description of the reading -/
example : Accepted txt := ⟨rd, reads⟩
example : parseTimbuk (String.ofList txt) = .ok rd.desc.toS := C13_parse_value _ _ reads
example : rd.desc.toS = ⟨"A:x", [("a", 0), ("f", 2), ("g", 1)], [], ["r"],
    [([], "a", "q"), ([], "a b", "q->r"), (["q", "r"], "f", "r")]⟩ := by decide +kernel

/-- pieces of the grammar by hand (not through the reader): a numeral with trailing junk, a token, the words of a line -/
theorem num1x : Numeral "1x".toList 1 :=
  Numeral.pos (ds := ['1']) (junk := ['x']) ⟨by decide, by decide⟩
    (by intro c hc; simp at hc; subst hc; decide) (by decide)
example : Token "g:1x".toList ['g'] 1 := Token.ranked (name := ['g']) (by decide +kernel) num1x
example : Words " a\t".toList [['a']] :=
  Words.cons (g := [' ']) (w := ['a']) (rest := ['\t']) (by unfold AllWs; decide +kernel) ⟨by decide +kernel, by unfold NoWs; decide +kernel⟩
    (by intro c hc; simp at hc; subst hc; decide +kernel) (Words.nil (by unfold AllWs; decide +kernel))

end C13GrammarEx

/-! ### 3. consequences: every class of `C13_Layout.lean`, decided by `acceptedB`

`acc s` abbreviates `acceptedB s.toList`; by `C13_acceptedB_parse` / `C13_acceptedB_false` `acc s = true` says that the parser
returns a description and `acc s = false` that it throws.  (All 39 answers below were compared with the real library.) -/

abbrev acc (s : String) : Bool := acceptedB s.toList

theorem acc_ofList (l : Str) : acc (String.ofList l) = acceptedB l := by rw [acc, String.toList_ofList]

/-- **the four known rejected classes**: no `Transitions` line; unknown keyword; repeated section; a line after
`Transitions` that is not a transition (no arrow, a header line, a second `Transitions`) -/
example : acc "Ops a:0\nAutomaton A\n" = false ∧ acc "Ops a:0\nautomaton A\nTransitions" = false ∧
    acc "States q\nStates r\nTransitions\n" = false ∧ acc "Transitions\na q" = false ∧
    acc "Transitions\nOps a:0" = false ∧ acc "Transitions\nTransitions" = false := by
  repeat rw [acc_ofList]
  decide +kernel

/-- **the surprising acceptances**: rank mismatch with `Ops` and undeclared names; no `Automaton` line; `a b(q) -> r`;
text after `Transitions` on its line; `a(b(c) -> q->r`; empty child names; all sections empty -/
example : acc "Ops a:0\nStates p\nTransitions\na(q) -> r" = true ∧ acc "Transitions\na -> q" = true ∧
    acc "Transitions\na b(q) -> r\n" = true ∧ acc "Transitions x y z\n\n \t\na(b(c) -> q->r\n" = true ∧
    acc "Transitions\na(,) -> q\na( ) -> q\na(q, ) -> q" = true ∧ acc "\n\nTransitions" = true ∧
    acc "Final States\nAutomaton\nOps\nStates\nTransitions" = true ∧ acc "Transitions\na\x0b->\x0cq\r\n" = true := by
  repeat rw [acc_ofList]
  decide +kernel

/-- **bad rank** (class left open in `C13_Layout`): no digit, sign alone, two signs, empty numeral, out of `int` – also on a
STATE (`States q:…`); accepted: junk after the digits, a second colon, an empty name, signs, `-0` -/
example : acc "Ops a:x\nTransitions\n" = false ∧ acc "Ops a:\nTransitions\n" = false ∧ acc "Ops a:+ \nTransitions\n" = false ∧
    acc "Ops a:+-1 \nTransitions\n" = false ∧ acc "Ops a:: \nTransitions\n" = false ∧
    acc "States q:5 r:-2147483648 s:2147483648\nTransitions\n" = false ∧
    acc "States q:5 r:-2147483648\nTransitions\n" = true ∧ acc "Ops a:1x :3 b:+2 c:-0\nTransitions\n" = true ∧
    acc "Ops a:1:x \nTransitions\n" = true := by
  repeat rw [acc_ofList]
  decide +kernel

/-- **`Final` without `States`** (open class) -/
example : acc "Final\nTransitions\n" = false ∧ acc "Final q\nTransitions\n" = false ∧
    acc "Final States q\nTransitions\n" = true := by
  repeat rw [acc_ofList]
  decide +kernel

/-- **two automaton names** (open class); one name may be anything, e.g. `A:x` -/
example : acc "Automaton A B\nTransitions\n" = false ∧ acc "Automaton A:x\nTransitions\n" = true := by
  repeat rw [acc_ofList]
  decide +kernel

/-- **text after `)`** (open class), a second `)`, `)` before `(` -/
example : acc "Transitions\na(q) r -> s\n" = false ∧ acc "Transitions\na(q)r -> s\n" = false ∧
    acc "Transitions\na(q)) -> s\n" = false ∧ acc "Transitions\na)( -> s\n" = false := by
  repeat rw [acc_ofList]
  decide +kernel

/-- **white space inside a child name** (open class) -/
example : acc "Transitions\na(q r) -> s\n" = false := by
  repeat rw [acc_ofList]
  decide +kernel

/-- **empty label before `(`** (open class) -/
example : acc "Transitions\n(q) -> s\n" = false ∧ acc "Transitions\n  (q) -> s\n" = false := by
  repeat rw [acc_ofList]
  decide +kernel

/-- the arrow: `- >` is none; nothing before or after it; `a-->s` is the symbol `a-` -/
example : acc "Transitions\na - > s\n" = false ∧ acc "Transitions\n-> s\n" = false ∧ acc "Transitions\n->s\n" = false ∧
    acc "Transitions\na->\n" = false ∧ acc "Transitions\na-->s\n" = true := by
  repeat rw [acc_ofList]
  decide +kernel

/-- the classes as statements about the GRAMMAR (via `C13_acceptedB`), e.g.: -/
example : ¬ Accepted "Final q\nTransitions\n".toList := by
  rw [String.toList_ofList, ← C13_acceptedB]; decide +kernel
example : ∃ e, parseTimbuk "Automaton A B\nTransitions\n" = .error e :=
  (C13_acceptedB_false _).mp (by decide +kernel)

/-- totality ("either succeed or throw a standard exception"): in the model every text is answered by `.ok` or `.error`;
which of the two is decided by the grammar -/
theorem C13_total (t : Str) : (Accepted t ∧ ∃ d, parseTimbuk (String.ofList t) = .ok d) ∨
    (¬ Accepted t ∧ ∃ e, parseTimbuk (String.ofList t) = .error e) := by
  by_cases h : Accepted t
  · exact Or.inl ⟨h, (C13_accepts_iff t).mpr h⟩
  · exact Or.inr ⟨h, (C13_rejects_iff t).mpr h⟩

/-!
## still not proved

* **Which exception text**: the grammar characterises THAT `parse_timbuk` throws, not which of its `runtime_error` /
  `invalid_argument` messages (the first offending line in text order determines it in the C++; the model `parseC` returns
  that message, but no theorem relates it to the grammar).
* **General (∀-quantified) corollaries** exist for `Final` without `States`, two automaton names, unknown first word, and
  "a rule-part line the reader cannot read" (`C13_rejects_bad_rule_line`, hypothesis `readTransLine l = none`, equivalently
  `∀ lab kids rhs, ¬ TransLine l lab kids rhs`).  The remaining classes – bad rank, text after `)`, white space inside a child
  name, empty label before `(` – are instances of `C13_rejects_bad_header_words` / `C13_rejects_bad_rule_line`, but the
  ∀-quantified lexical lemmas ("`lhs` of the shape `x(y)z`, `z ≠ ""` ⇒ `readTransLine = none`", "a word `n:x` with `x` not
  starting a numeral ⇒ `parseTokens` fails") are not proved; those classes are decided examples only.
* `Reading.desc` lists each section as `norm lt (tokens in text order)`; that `norm` yields a strictly sorted list (the
  order theory of `ltStr`, `ltSym`, `ltTrans`) is proved elsewhere (`C13_Normal.lean`), not re-used here.
* All statements are about the model `parseTimbuk`; agreement with the compiled C++ is by generated comparison
  (`Vata/Timbuk.lean`, plus the 39 texts of this file), not a theorem.  The loaders (`LoadFromAutDesc`) are not part of
  this file.
-/
end Vata.Props
