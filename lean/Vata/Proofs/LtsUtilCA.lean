import Vata.LtsUtil
/-!
# `CachingAllocator` / `CachingArrayAllocator` as coded (`src/util/caching_allocator.hh`)

The value of an allocator is the set of LIVE objects (handed out, not reclaimed).  Discipline: only a live object is
reclaimed.  Theorems: the free list (`store_`) never holds a live object and never holds an object twice, `operator()`
never hands out a live object, the initializer runs once per allocation.

The model has the allocator a second time inside `SharedCounter`'s memory (`SC.Mem`), twice in `SharedList`'s world (`SL.W`)
and once in `SplittingRelation` (`SR.T.free`), each with a store `free` and a counter `next` of its own.  `Pop` is what one
allocation does to such a pair, whichever structure holds it; `alloc_pop` shows it for `CA.alloc`.

At the end, in `Vata.LU.SC`: `SharedCounter::getRowSize` below 16384 states, and two layouts computed by `mkLayout`.
-/
namespace Vata.LU.CA

structure Inv (a : T) (live : A) : Prop where
  free_nodup : a.free.Nodup
  free_lt : ∀ p ∈ a.free, p < a.next
  free_dead : ∀ p ∈ a.free, p ∉ live
  live_lt : ∀ p ∈ live, p < a.next
  live_nodup : live.Nodup

theorem inv_mk : Inv mk [] :=
  ⟨List.nodup_nil, by simp [mk], by simp [mk], by simp, List.nodup_nil⟩

/-- one allocation from a store `free` out of `next` objects made so far: the address `a` is popped from the store or is
the next new one -/
structure Pop (free free' : List Nat) (next next' a : Nat) : Prop where
  fresh : a ∈ free ∨ next ≤ a
  lt : a < next'
  nf : a ∉ free'
  sub : ∀ m ∈ free', m ∈ free
  nd : free'.Nodup
  flt : ∀ m ∈ free', m < next'
  mono : next ≤ next'

theorem Pop.cons {a next : Nat} {f : List Nat} (hnd : (a :: f).Nodup) (hlt : ∀ m ∈ a :: f, m < next) :
    Pop (a :: f) f next next a :=
  ⟨Or.inl List.mem_cons_self, hlt a List.mem_cons_self, (List.nodup_cons.1 hnd).1,
   fun _ hm => List.mem_cons_of_mem _ hm, (List.nodup_cons.1 hnd).2, fun m hm => hlt m (List.mem_cons_of_mem _ hm),
   Nat.le_refl _⟩

theorem Pop.new {free : List Nat} {next : Nat} (hnd : free.Nodup) (hlt : ∀ m ∈ free, m < next) :
    Pop free free next (next + 1) next :=
  ⟨Or.inr (Nat.le_refl _), Nat.lt_succ_self _, fun hm => Nat.lt_irrefl _ (hlt _ hm), fun _ hm => hm, hnd,
   fun m hm => Nat.lt_succ_of_lt (hlt m hm), Nat.le_succ _⟩

/-- an object in use (below `next`, not in the store) is not the one handed out -/
theorem Pop.ne {free free' : List Nat} {next next' a b : Nat} (p : Pop free free' next next' a) (hlt : b < next)
    (hnf : b ∉ free) : b ≠ a := by
  rintro rfl
  exact p.fresh.elim hnf fun h => Nat.lt_irrefl _ (Nat.lt_of_lt_of_le hlt h)

theorem alloc_pop {a : T} (hnd : a.free.Nodup) (hlt : ∀ m ∈ a.free, m < a.next) :
    Pop a.free (alloc a).2.free a.next (alloc a).2.next (alloc a).1 := by
  unfold alloc
  cases hf : a.free with
  | nil => exact .new List.nodup_nil nofun
  | cons p f => exact .cons (hf ▸ hnd) (hf ▸ hlt)

/-- `operator()` never hands out a live object, and the object becomes live -/
theorem alloc_spec {a : T} {live : A} (h : Inv a live) :
    (alloc a).1 ∉ live ∧ Inv (alloc a).2 ((alloc a).1 :: live) ∧ (alloc a).2.inits = a.inits + 1 := by
  have p := alloc_pop h.free_nodup h.free_lt
  have hne : (alloc a).1 ∉ live := fun hm =>
    p.ne (h.live_lt _ hm) (fun hf => h.free_dead _ hf hm) rfl
  refine ⟨hne, ⟨p.nd, p.flt, fun q hq hm => ?_, fun q hq => ?_, List.nodup_cons.2 ⟨hne, h.live_nodup⟩⟩, ?_⟩
  · rcases List.mem_cons.1 hm with rfl | hm
    · exact p.nf hq
    · exact h.free_dead q (p.sub q hq) hm
  · rcases List.mem_cons.1 hq with rfl | hq
    · exact p.lt
    · exact Nat.lt_of_lt_of_le (h.live_lt q hq) p.mono
  · unfold alloc; cases a.free <;> rfl

theorem reclaim_spec {a : T} {live : A} (h : Inv a live) {p : Nat} (hp : p ∈ live) :
    Inv (reclaim a p) (live.filter (· != p)) := by
  unfold reclaim
  refine ⟨List.nodup_cons.2 ⟨fun hm => h.free_dead p hm hp, h.free_nodup⟩, ?_, ?_, ?_, ?_⟩
  · intro q hq
    rcases List.mem_cons.1 hq with rfl | hq
    · exact h.live_lt _ hp
    · exact h.free_lt q hq
  · intro q hq hm
    have hm' := List.mem_filter.1 hm
    rcases List.mem_cons.1 hq with rfl | hq
    · simp at hm'
    · exact h.free_dead q hq hm'.1
  · intro q hq; exact h.live_lt q (List.mem_filter.1 hq).1
  · exact h.live_nodup.sublist List.filter_sublist

theorem alloc_fresh {a : T} (h : a.free = []) : (alloc a).1 = a.next ∧ (alloc a).2.next = a.next + 1 := by
  unfold alloc; rw [h]; exact ⟨rfl, rfl⟩

theorem step_refines {a : T} {live : A} (h : Inv a live) (op : Op) (hok : ok live op = true) :
    Inv (step a op).1 (aStep live (step a op).2 op) := by
  cases op with
  | alloc => exact (alloc_spec h).2.1
  | reclaim p =>
    have hp : p ∈ live := by simpa [ok] using hok
    simpa [step, aStep] using reclaim_spec h hp


def run : T → A → List Op → Option (T × A)
  | a, live, [] => some (a, live)
  | a, live, op :: ops => if ok live op then run (step a op).1 (aStep live (step a op).2 op) ops else none

/-- for every history inside the discipline: the free list never holds a live object, nor an object twice -/
theorem run_refines {a : T} {live : A} (h : Inv a live) (ops : List Op) {a' : T} {live' : A}
    (hr : run a live ops = some (a', live')) : Inv a' live' := by
  induction ops generalizing a live with
  | nil => simp [run] at hr; rcases hr with ⟨rfl, rfl⟩; exact h
  | cons op ops ih =>
    unfold run at hr
    by_cases hok : ok live op = true
    · rw [if_pos hok] at hr
      exact ih (step_refines h op hok) hr
    · rw [if_neg hok] at hr; cases hr

/-- the initializer functor has run exactly once per allocation -/
theorem step_inits (a : T) (op : Op) : (step a op).1.inits = a.inits + (match op with | .alloc => 1 | .reclaim _ => 0) := by
  cases op with
  | alloc => unfold step alloc; cases a.free <;> rfl
  | reclaim p => rfl

example : run mk [] [.alloc, .alloc, .reclaim 0, .alloc, .reclaim 1, .reclaim 0, .alloc, .alloc, .alloc] =
    some (⟨[], 3, 6⟩, [2, 1, 0]) := by decide +kernel

/-- outside the discipline (an object reclaimed twice) the allocator hands out a live object -/
example : (step (step (step (step (step mk .alloc).1 (.reclaim 0)).1 (.reclaim 0)).1 .alloc).1 .alloc).2 = [0] ∧
    (step (step (step (step mk .alloc).1 (.reclaim 0)).1 (.reclaim 0)).1 .alloc).2 = [0] := by decide +kernel

end Vata.LU.CA

namespace Vata.LU.SC

theorem sqrt_lt_of_lt_sq {n k : Nat} (h : n < k * k) : Nat.sqrt n < k := by
  apply Nat.lt_of_not_le
  intro hk
  have := Nat.mul_le_mul hk hk
  have := Nat.sqrt_le n
  omega

theorem le_sqrt_of_sq_le {n k : Nat} (h : k * k ≤ n) : k ≤ Nat.sqrt n := by
  apply Nat.le_of_lt_succ
  apply Nat.lt_of_not_le
  intro hk
  have h1 : Nat.succ (Nat.sqrt n) * Nat.succ (Nat.sqrt n) ≤ k * k := Nat.mul_le_mul hk hk
  have := Nat.lt_succ_sqrt n
  omega

/-- `getRowSize`: 31 counters per row (plus the reference count) below 4096 states … -/
theorem getRowSize_small {n : Nat} (h : n < 4096) : getRowSize n = 31 := by
  have h1 : Nat.sqrt n < 64 := sqrt_lt_of_lt_sq (by omega)
  have h2 : ¬ 32 ≤ Nat.sqrt n / 2 := by omega
  simp [getRowSize, getRowSize.go, h2]

/-- … and 63 from 4096 states up to 16383 -/
theorem getRowSize_medium {n : Nat} (h1 : 4096 ≤ n) (h2 : n < 16384) : getRowSize n = 63 := by
  have h3 : Nat.sqrt n < 128 := sqrt_lt_of_lt_sq (by omega)
  have h4 : 64 ≤ Nat.sqrt n := le_sqrt_of_sq_le (by omega)
  have h5 : 32 ≤ Nat.sqrt n / 2 := by omega
  have h6 : ¬ 64 ≤ Nat.sqrt n / 2 := by omega
  simp [getRowSize, getRowSize.go, h5, h6]

example : getRowSize 4095 = 31 ∧ getRowSize 4096 = 63 := ⟨getRowSize_small (by omega), getRowSize_medium (by omega) (by omega)⟩

/-- the layout of a small system: three labels, the second one without transitions; label 0 fills row 0 and one entry of
row 1, label 2 shares row 1 with it -/
example : mkLayout 3 4 [[0, 1, 2, 3], [], [1, 3]] =
    ([0, 1, 2, 3, 2 ^ 64 - 1, 2 ^ 64 - 1, 2 ^ 64 - 1, 2 ^ 64 - 1, 2 ^ 64 - 1, 4, 2 ^ 64 - 1, 5], [(0, 2), (1, 1), (1, 2)]) := by
  decide +kernel

/-- as coded, a label without transitions in FRONT of all others gets the range `[0, (2^64 - 1) / rowSize)` (the
subtraction `x + 0 - 1` wraps); harmless, because such a label is never in an inset -/
example : (mkLayout 31 4 [[], [0]]).2 = [(0, (2 ^ 64 - 1) / 31), (0, 1)] := by decide +kernel

end Vata.LU.SC
