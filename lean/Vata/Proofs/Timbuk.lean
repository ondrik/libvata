import Vata.Proofs.TimbukLayoutFile
/-!
# Round trip of the Timbuk serializer and parser (property C13)

`parse_serialize`: parsing the serialization of a well-formed description succeeds and gives back the same final
states and transitions (indeed the same symbols and states, and the name unless it was empty).

The serializer's text is the text of one particular `Layout` of its tokens (`serLayout`, `serLayout_text`: single blanks, a
blank at the end of the three section lines, a final line end), so the round trip is the layout theorem `parseC_layout` for it.
-/
namespace Vata.Timbuk
open Vata.T (joinWith)

theorem serTokens_name_nonempty (d : Desc) : (serTokens d).name.isEmpty = false := by
  show (if d.name.isEmpty then kwAnonymous else d.name).isEmpty = false
  split
  · rfl
  · rename_i h; simpa using h

def serArgs : List Str → Option (Str × Str × List (Str × Str × Str))
  | [] => none
  | k :: ks => some ([], [], ([], k, []) :: ks.map (fun x => ([' '], x, [])))

/-- `sym(k0, k1, …) -> par`, `sym -> par` -/
def serTLine (t : Trans) : TLine := ⟨[], t.2.1, serArgs t.1, [' '], [' '], t.2.2, []⟩

/-- `kw w1 w2 … post` -/
def serHLine (k : HKind) (ws : List Str) (post : Str) : HLine := ⟨k, [], ws.map (fun w => ([' '], w)), post⟩

/-- the four header lines in the serializer's order (a blank ends the three section lines), `Transitions`, one line per
rule, a final line end -/
def serLayout (d : Desc) : Layout where
  hdr := [([], serHLine .ops (secWords d .ops) [' ']), ([], serHLine .aut (secWords d .aut) []),
    ([], serHLine .states (secWords d .states) [' ']), ([], serHLine .final (secWords d .final) [' '])]
  trBlanks := []
  trPre := []
  trPost := []
  tls := d.trans.map (fun t => ([], serTLine t))
  endBlanks := [[]]

theorem blank_space : Blank [' '] := by intro c hc; simp at hc; subst hc; decide

theorem serHLine_ok (d : Desc) (k : HKind) {post : Str} (hp : Blank post) : (serHLine k (secWords d k) post).Ok d where
  pre := blank_nil
  post := hp
  gaps := by
    intro p hp
    obtain ⟨w, _, rfl⟩ := List.mem_map.mp hp
    exact ⟨blank_space, by simp⟩
  words := by simp [serHLine, List.map_map, Function.comp_def]

theorem serTLine_ok {t : Trans} (hk : ∀ k ∈ t.1, Good k) (hs : Good t.2.1) (hp : Good t.2.2) : (serTLine t).Ok where
  pre := blank_nil
  post := blank_nil
  beforeArrow := blank_space
  afterArrow := blank_space
  sym := hs
  par := hp
  args := by
    intro a i ks h
    obtain ⟨kids, sym, par⟩ := t
    cases kids with
    | nil => cases h
    | cons k ks' =>
      simp only [serTLine, serArgs, Option.some.injEq, Prod.mk.injEq] at h
      obtain ⟨rfl, rfl, rfl⟩ := h
      refine ⟨blank_nil, blank_nil, ?_⟩
      intro x hx
      rcases List.mem_cons.mp hx with rfl | hx
      · exact ⟨blank_nil, hk k List.mem_cons_self, blank_nil⟩
      · obtain ⟨y, hy, rfl⟩ := List.mem_map.mp hx
        exact ⟨blank_space, hk y (List.mem_cons_of_mem _ hy), blank_nil⟩

theorem serTLine_trans (t : Trans) : (serTLine t).trans = t := by
  obtain ⟨kids, sym, par⟩ := t
  cases kids with
  | nil => rfl
  | cons k ks => simp [serTLine, serArgs, TLine.trans, TLine.kids, List.map_map, Function.comp_def]

theorem serLayout_ok {d : Desc} (h : WF d) : (serLayout d).Ok d where
  hdr := by
    intro p hp
    simp only [serLayout, List.mem_cons, List.not_mem_nil, or_false] at hp
    rcases hp with rfl | rfl | rfl | rfl
    · exact ⟨fun _ hb => (nomatch hb), serHLine_ok d _ blank_space⟩
    · exact ⟨fun _ hb => (nomatch hb), serHLine_ok d _ blank_nil⟩
    · exact ⟨fun _ hb => (nomatch hb), serHLine_ok d _ blank_space⟩
    · exact ⟨fun _ hb => (nomatch hb), serHLine_ok d _ blank_space⟩
  nodup := by show [HKind.ops, .aut, .states, .final].Nodup; decide
  trBlanks := fun _ hb => nomatch hb
  trPre := blank_nil
  trPost := blank_nil
  tls := by
    intro p hp
    obtain ⟨t, ht, rfl⟩ := List.mem_map.mp hp
    obtain ⟨hk, hs, hq⟩ := h.trans t ht
    exact ⟨fun _ hb => (nomatch hb), serTLine_ok hk hs hq⟩
  endBlanks := by
    intro b hb
    have : b = [] := by simpa [serLayout] using hb
    subst this; exact blank_nil
  trans := by simp [serLayout, List.map_map, Function.comp_def, serTLine_trans]

theorem withBlanks_map_nil {α β : Type} (text : β → Str) (f : α → β) (l : List α) :
    withBlanks text (l.map (fun x => ([], f x))) = l.map (fun x => text (f x)) := by
  induction l with
  | nil => rfl
  | cons x l ih => rw [List.map_cons, withBlanks_cons, ih]; rfl

theorem joinWith_lines (d : Char) (l : Str) (ls : List Str) :
    joinWith d (l :: (ls ++ [[]])) = l ++ d :: (ls.map (fun x => x ++ [d])).flatten := by
  induction ls generalizing l with
  | nil => rfl
  | cons x xs ih =>
    have : joinWith d (l :: (x :: xs ++ [[]])) = l ++ d :: joinWith d (x :: (xs ++ [[]])) := rfl
    rw [this, ih]; simp

theorem joinWith_kids (k : Str) (ks : List Str) :
    joinWith ',' (k :: ks.map (fun x => ' ' :: x)) = k ++ (ks.map (fun x => ',' :: ' ' :: x)).flatten := by
  induction ks generalizing k with
  | nil => simp [joinWith]
  | cons x xs ih =>
    have : joinWith ',' (k :: (x :: xs).map (fun x => ' ' :: x)) =
        k ++ ',' :: joinWith ',' ((' ' :: x) :: xs.map (fun x => ' ' :: x)) := rfl
    rw [this, ih]; simp

theorem serTLine_text (t : Trans) : (serTLine t).text = serTrans t := by
  obtain ⟨kids, sym, par⟩ := t
  cases kids with
  | nil => simp [serTLine, serArgs, TLine.text, TLine.core, TLine.lhs, TLine.argStr, serTrans, serKids]
  | cons k ks =>
    have := joinWith_kids k ks
    simp only [serTLine, serArgs, TLine.text, TLine.core, TLine.lhs, TLine.argStr, TLine.pieces, serTrans, serKids,
      List.map_cons, List.map_map, Function.comp_def, List.nil_append, List.append_nil, List.singleton_append] at this ⊢
    rw [this]; simp

theorem gapCat_spaces (ws : List Str) :
    gapCat (ws.map (fun w => ([' '], w))) ++ [' '] = ' ' :: (ws.map serState).flatten := by
  induction ws with
  | nil => rfl
  | cons w ws ih =>
    have : gapCat ((w :: ws).map (fun w => ([' '], w))) ++ [' '] =
        ' ' :: (w ++ (gapCat (ws.map (fun w => ([' '], w))) ++ [' '])) := by simp [gapCat]
    rw [this, ih]; simp [serState]

theorem serHLine_text (k : HKind) (ws : List Str) :
    (serHLine k ws [' ']).text = k.kw ++ ' ' :: (ws.map serState).flatten := by
  have := gapCat_spaces ws
  simp only [serHLine, HLine.text, layWords, List.nil_append, List.append_assoc, this]

/-- the serializer writes the layout `serLayout` of the tokens `serTokens d` -/
theorem serLayout_text (d : Desc) : (serLayout (serTokens d)).text = serializeC d := by
  have hn := serTokens_name_nonempty d
  have e1 : (serHLine .ops (secWords (serTokens d) .ops) [' ']).text = lineOps d := by
    rw [serHLine_text]
    show kwOps ++ ' ' :: (((norm ltSym d.symbols).map tokOf).map serState).flatten = _
    rw [List.map_map]; rfl
  have e2 : (serHLine .aut (secWords (serTokens d) .aut) []).text = lineAut d := by
    have : secWords (serTokens d) .aut = [(serTokens d).name] := if_neg (by simp [hn])
    rw [this]; simp [serHLine, HLine.text, layWords, gapCat, lineAut, serTokens, HKind.kw]
  have e3 : (serHLine .states (secWords (serTokens d) .states) [' ']).text = lineStates d := by
    rw [serHLine_text]; rfl
  have e4 : (serHLine .final (secWords (serTokens d) .final) [' ']).text = lineFinal d := by
    rw [serHLine_text]; simp [secWords, serTokens, lineFinal, serState, HKind.kw]
  have e5 := withBlanks_map_nil TLine.text serTLine (serTokens d).trans
  simp only [Layout.text, Layout.lines, serLayout, withBlanks, List.map_cons, List.map_nil, List.flatten_cons,
    List.flatten_nil, List.nil_append, List.append_nil, List.singleton_append, e1, e2, e3, e4] at e5 ⊢
  rw [e5]
  simp only [serTLine_text, List.cons_append, List.nil_append]
  have j : ∀ (a : Str) (r : List Str), r ≠ [] → joinWith '\n' (a :: r) = a ++ '\n' :: joinWith '\n' r := by
    intro a r hr; cases r with
    | nil => exact absurd rfl hr
    | cons b r => rfl
  rw [j _ _ (by simp), j _ _ (by simp), j _ _ (by simp), j _ _ (by simp), joinWith_lines]
  simp [serializeC, serTokens, List.map_map, Function.comp_def]

theorem parseC_serializeC (d : Desc) (h : WF d) : parseC (serializeC d) = .ok (roundTrip d) := by
  rw [← serLayout_text, parseC_layout _ (serTokens_wf h) _ (serLayout_ok (serTokens_wf h)),
    layout_result_full d _ (by intro k; cases k <;> simp [Layout.kinds, serLayout, serHLine])]

/-- **layout insensitivity**: every layout of the serializer's tokens with all four sections parses to what the
serializer's text parses to -/
theorem parseC_layout_serialize (d : Desc) (h : WF d) (F : Layout) (hF : F.Ok (serTokens d)) (hall : ∀ k, k ∈ F.kinds) :
    parseC F.text = parseC (serializeC d) := by
  rw [parseC_layout _ (serTokens_wf h) F hF, layout_result_full d F hall, parseC_serializeC d h]

end Vata.Timbuk

namespace Vata
open Timbuk

theorem Timbuk.sameSet_map {α β : Type} {l₁ l₂ : List α} (h : l₁ ≈ l₂) (f : α → β) : l₁.map f ≈ l₂.map f := fun x => by
  rw [List.mem_map, List.mem_map]
  exact exists_congr fun a => and_congr (h a) Iff.rfl

theorem Timbuk.sameSet_map_norm {α β : Type} [DecidableEq β] (lt : β → β → Bool) (f : α → β) (g : β → α)
    (hgf : ∀ a, g (f a) = a) (l : List α) : SameSet ((norm lt (norm lt (l.map f))).map g) l := by
  intro x
  simp only [List.mem_map, mem_norm]
  constructor
  · rintro ⟨y, ⟨a, ha, rfl⟩, rfl⟩; rw [hgf]; exact ha
  · intro hx; exact ⟨f x, ⟨x, hx, rfl⟩, hgf x⟩

theorem AutDesc.wellFormed_iff (d : AutDesc) : d.WellFormed ↔
    (∀ c ∈ d.name.toList, isSpace c = false) ∧
    (∀ p ∈ d.symbols, goodName p.1.toList = true ∧ intMin ≤ p.2 ∧ p.2 ≤ intMax) ∧
    (∀ q ∈ d.states, goodName q.toList = true) ∧
    (∀ q ∈ d.final, goodName q.toList = true) ∧
    (∀ t ∈ d.trans, (∀ k ∈ t.1, goodName k.toList = true) ∧ goodName t.2.1.toList = true ∧
      goodName t.2.2.toList = true) := by
  simp only [AutDesc.WellFormed, ofS, Desc.wellFormed, containsWs, Bool.and_eq_true, Bool.not_eq_true',
    List.all_eq_true, List.any_eq_false, List.mem_map, rankOk, decide_eq_true_eq, forall_exists_index, and_imp,
    forall_apply_eq_imp_iff₂, Bool.not_eq_true, and_assoc]

/-- A text given as a list of characters is parsed as it stands.  Used before a concrete text is evaluated: the kernel
then runs `parseC` on the list and does not encode it to UTF-8 and decode it again, which is most of the work. -/
theorem parseTimbuk_ofList (l : Str) :
    parseTimbuk (String.ofList l) = (parseC l).map Desc.toS := by
  rw [parseTimbuk_eq, String.toList_ofList]

theorem parseTimbuk_serialize_eq (d : AutDesc) :
    parseTimbuk (serialize d) = (parseC (serializeC (ofS d))).map Desc.toS :=
  parseTimbuk_ofList _

theorem parse_serialize_full (d : AutDesc) (hwf : d.WellFormed) :
    ∃ d', parseTimbuk (serialize d) = .ok d' ∧
      d'.name = (if d.name.isEmpty then "anonymous" else d.name) ∧
      d'.symbols ≈ d.symbols ∧ d'.states ≈ d.states ∧ d'.final ≈ d.final ∧ d'.trans ≈ d.trans := by
  refine ⟨(roundTrip (ofS d)).toS, ?_, ?_, ?_, ?_, ?_, ?_⟩
  · rw [parseTimbuk_serialize_eq, parseC_serializeC (ofS d) (wf_of_wellFormed hwf)]; rfl
  · show String.ofList (if (d.name.toList).isEmpty then kwAnonymous else d.name.toList) = _
    by_cases h : d.name = ""
    · rw [h]; decide
    · have h1 : d.name.toList ≠ [] := by
        intro e; apply h; rw [← String.ofList_toList (s := d.name), e]
      have h2 : d.name.isEmpty = false := by
        cases hh : d.name.isEmpty with
        | false => rfl
        | true => exact absurd (by simpa using hh) h
      have h3 : (d.name.toList).isEmpty = false := by simpa using h1
      rw [h2, h3]; simp
  · exact sameSet_map_norm ltSym (fun p : String × Int => (p.1.toList, p.2)) (fun p => (String.ofList p.1, p.2))
      (fun a => by simp) d.symbols
  · exact sameSet_map_norm ltStr String.toList String.ofList (fun a => String.ofList_toList) d.states
  · exact sameSet_map_norm ltStr String.toList String.ofList (fun a => String.ofList_toList) d.final
  · exact sameSet_map_norm ltTrans
      (fun t : List String × String × String => (t.1.map String.toList, t.2.1.toList, t.2.2.toList))
      (fun t => (t.1.map String.ofList, String.ofList t.2.1, String.ofList t.2.2))
      (fun a => by simp) d.trans

/-- **C13** parsing the Timbuk text the serializer writes for a description with well-formed names succeeds and gives
back the same final states and transitions (as sets). -/
theorem parse_serialize (d : AutDesc) (hwf : d.WellFormed) :
    ∃ d', parseTimbuk (serialize d) = .ok d' ∧ d'.final ≈ d.final ∧ d'.trans ≈ d.trans := by
  obtain ⟨d', h, _, _, _, hf, ht⟩ := parse_serialize_full d hwf
  exact ⟨d', h, hf, ht⟩

namespace TimbukEx

/-- nullary, unary, binary and ternary rules, names containing `-` and `>`, a negative rank, one symbol with two ranks,
duplicates, lists that are not in `std::set` order, an empty final section and an empty name -/
def exD : AutDesc :=
  { name := "", symbols := [("f", 2), ("a", 0), ("b", 0), ("g", 1), ("f", 3), ("neg", -1)],
    states := ["q1", "q0", "q-", ">r", "q0"], final := [],
    trans := [([], "a", "q0"), ([], "b", "q1"), (["q0", "q1"], "f", "q-"), (["q-"], "g", ">r"),
              (["q0", "q1", ">r"], "f", "q0"), ([], "a", "q0")] }

theorem exD_wf : exD.WellFormed := by decide +kernel

example : exD.WellFormed := exD_wf

def exE : AutDesc :=
  { name := "A-1", symbols := [("a", 0), ("f", 2)], states := ["q", "r"], final := ["r", "q", "r"],
    trans := [(["q", "r"], "f", "r"), ([], "a", "q"), (["r", "r"], "f", "q")] }

example : exE.WellFormed := by decide +kernel

/-- the round trip of `exE`, executed (once; quoted by `Properties/C13` and `C13_Layout`): the lists come back in `std::set` order
without duplicates -/
theorem exE_roundtrip : (parseTimbuk (serialize exE)).toOption = some ⟨"A-1", [("a", 0), ("f", 2)], ["q", "r"], ["q", "r"],
    [([], "a", "q"), (["q", "r"], "f", "r"), (["r", "r"], "f", "q")]⟩ := by
  rw [parseTimbuk_serialize_eq]; decide +kernel

example : ∃ d', parseTimbuk (serialize exD) = .ok d' ∧ d'.final ≈ exD.final ∧ d'.trans ≈ exD.trans :=
  parse_serialize exD exD_wf

#guard serialize exD = "Ops a:0 b:0 f:2 f:3 g:1 neg:-1 \nAutomaton anonymous\nStates >r q- q0 q1 \nFinal States \n" ++
  "Transitions\na -> q0\nb -> q1\ng(q-) -> >r\nf(q0, q1) -> q-\nf(q0, q1, >r) -> q0\n"
#guard (match parseTimbuk (serialize exD) with
  | .ok d' => d' == ⟨"anonymous", [("a", 0), ("b", 0), ("f", 2), ("f", 3), ("g", 1), ("neg", -1)],
      [">r", "q-", "q0", "q1"], [],
      [([], "a", "q0"), ([], "b", "q1"), (["q-"], "g", ">r"), (["q0", "q1"], "f", "q-"),
       (["q0", "q1", ">r"], "f", "q0")]⟩
  | .error _ => false)
#guard (match parseTimbuk (serialize exE) with
  | .ok d' => d' == ⟨"A-1", [("a", 0), ("f", 2)], ["q", "r"], ["q", "r"],
      [([], "a", "q"), (["q", "r"], "f", "r"), (["r", "r"], "f", "q")]⟩
  | .error _ => false)

/-- not well-formed (a name with a colon): the serialization is rejected, so the hypothesis is needed -/
def exBad : AutDesc := { name := "A", symbols := [], states := ["q:x"], final := [], trans := [] }
example : ¬ exBad.WellFormed := by decide +kernel
#guard (match parseTimbuk (serialize exBad) with | .ok _ => false | .error _ => true)

end TimbukEx

end Vata
