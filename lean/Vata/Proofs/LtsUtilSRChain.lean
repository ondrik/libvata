import Vata.LtsUtil

/-!
# `SplittingRelation` as coded refines the list of rows — doubly linked chains of pointers

Model: section `namespace SR` of `Vata/LtsUtil.lean`.  Helpers live in `Vata.LU.SR.P`.  Nothing in this file speaks of a
state `T`: the links are two functions on pointers.

* `P.DL nxt prv ps`: the pointers `ps` are doubly linked (`nxt` forwards, `prv` backwards), generic in the two
  directions, so rows (`getRight`/`getLeft`) and columns (`getDown`/`getUp`) share all chain lemmas.
* `P.Chains nxt prv S n L cl`: the family of chains `S k :: cs (L k)` between the sentinels `S` (`rowS` for the rows,
  `colS` for the columns); `Chains.push`, `Chains.close`, `Chains.remove`, `Chains.frame` are the steps every operation
  of the class is made of, proved once for both directions.-/
namespace Vata.LU.SR
namespace P


def upd (f : Ptr → Option Ptr) (p v : Ptr) : Ptr → Option Ptr := fun q => if q = p then some v else f q

def updN (f : Nat → Nat) (a v : Nat) : Nat → Nat := fun b => if b = a then v else f b

@[simp] theorem upd_same (f : Ptr → Option Ptr) (p v : Ptr) : upd f p v p = some v := if_pos rfl
theorem upd_ne (f : Ptr → Option Ptr) {p q : Ptr} (v : Ptr) (h : q ≠ p) : upd f p v q = f q := if_neg h
@[simp] theorem updN_same (f : Nat → Nat) (a v : Nat) : updN f a v a = v := if_pos rfl
theorem updN_ne (f : Nat → Nat) {a b : Nat} (v : Nat) (h : b ≠ a) : updN f a v b = f b := if_neg h

theorem upd_eta (f : Ptr → Option Ptr) (p v : Ptr) (h : f p = some v) : upd f p v = f := by
  funext q; unfold upd; split
  · rename_i e; rw [e, h]
  · rfl

theorem updN_eta (f : Nat → Nat) {a v : Nat} (h : f a = v) : updN f a v = f := by
  funext b; unfold updN; split
  · rename_i e; rw [e, h]
  · rfl

theorem updN_congr {f g : Nat → Nat} {a : Nat} (v : Nat) (h : ∀ b, b ≠ a → f b = g b) : updN f a v = updN g a v := by
  funext b; unfold updN; split
  · rfl
  · rename_i hb; exact h b hb


scoped notation "cs" => List.map Ptr.cell

def DL (nxt prv : Ptr → Option Ptr) : List Ptr → Prop
  | p :: q :: r => nxt p = some q ∧ prv q = some p ∧ DL nxt prv (q :: r)
  | _ => True

variable {nxt prv nxt' prv' : Ptr → Option Ptr}

@[simp] theorem DL_nil : DL nxt prv [] = True := by simp [DL]
@[simp] theorem DL_single (p : Ptr) : DL nxt prv [p] = True := by simp [DL]
theorem DL_cons2 (p q : Ptr) (r : List Ptr) :
    DL nxt prv (p :: q :: r) ↔ nxt p = some q ∧ prv q = some p ∧ DL nxt prv (q :: r) := by simp [DL]

theorem DL_append_cons (P : List Ptr) (q : Ptr) (Q : List Ptr) :
    DL nxt prv (P ++ q :: Q) ↔ DL nxt prv (P ++ [q]) ∧ DL nxt prv (q :: Q) := by
  induction P with
  | nil => simp
  | cons p P ih =>
    cases P with
    | nil => simp [DL_cons2, and_assoc]
    | cons p' P =>
      simp only [List.cons_append, DL_cons2] at ih ⊢
      rw [ih]; simp [and_assoc]

/-- frame: the links only read `nxt` on all but the last and `prv` on all but the first pointer -/
theorem DL_congr (ps : List Ptr) (h : DL nxt prv ps) (h1 : ∀ p ∈ ps.dropLast, nxt' p = nxt p)
    (h2 : ∀ p ∈ ps.tail, prv' p = prv p) : DL nxt' prv' ps := by
  induction ps with
  | nil => simp
  | cons p ps ih =>
    cases ps with
    | nil => simp
    | cons q r =>
      rw [DL_cons2] at h ⊢
      refine ⟨(h1 p (by simp)).trans h.1, (h2 q (by simp)).trans h.2.1, ih h.2.2 ?_ ?_⟩
      · intro x hx; exact h1 x (by simp only [List.dropLast_cons_cons]; exact List.mem_cons_of_mem _ hx)
      · intro x hx; exact h2 x (by simp only [List.tail_cons] at hx ⊢; exact List.mem_cons_of_mem _ hx)

def lastP (b : Ptr) : List Nat → Ptr
  | [] => b
  | a :: l => lastP (.cell a) l

def headP (l : List Nat) (e : Ptr) : Ptr :=
  match l with
  | [] => e
  | a :: _ => .cell a

@[simp] theorem lastP_nil (b : Ptr) : lastP b [] = b := rfl
@[simp] theorem lastP_cons (b : Ptr) (a : Nat) (l : List Nat) : lastP b (a :: l) = lastP (.cell a) l := rfl
@[simp] theorem headP_nil (e : Ptr) : headP [] e = e := rfl
@[simp] theorem headP_cons (a : Nat) (l : List Nat) (e : Ptr) : headP (a :: l) e = .cell a := rfl

@[simp] theorem lastP_append : ∀ (l1 l2 : List Nat) (b : Ptr), lastP b (l1 ++ l2) = lastP (lastP b l1) l2
  | [], _, _ => rfl
  | a :: l1, l2, _ => by simp [lastP_append l1 l2]

theorem lastP_snoc (l : List Nat) (a : Nat) (b : Ptr) : lastP b (l ++ [a]) = .cell a := by simp

theorem headP_append_singleton (l : List Nat) (z : Nat) (e : Ptr) : headP (l ++ [z]) e = headP l (.cell z) := by
  cases l <;> rfl

theorem lastP_cases : ∀ (l : List Nat) (b : Ptr), (l = [] ∧ lastP b l = b) ∨ (∃ a, a ∈ l ∧ lastP b l = .cell a)
  | [], _ => Or.inl ⟨rfl, rfl⟩
  | a :: l, b => by
    rcases lastP_cases l (.cell a) with ⟨h1, h2⟩ | ⟨x, h1, h2⟩
    · exact Or.inr ⟨a, by simp, by simp [h2]⟩
    · exact Or.inr ⟨x, by simp [h1], by simp [h2]⟩

theorem headP_cases (l : List Nat) (e : Ptr) : (l = [] ∧ headP l e = e) ∨ (∃ a, a ∈ l ∧ headP l e = .cell a) := by
  cases l with
  | nil => exact Or.inl ⟨rfl, rfl⟩
  | cons a l => exact Or.inr ⟨a, by simp, rfl⟩

theorem lastP_mem (l : List Nat) (b : Ptr) : lastP b l ∈ b :: cs l := by
  rcases lastP_cases l b with ⟨_, h⟩ | ⟨a, h1, h2⟩
  · simp [h]
  · rw [h2]; exact List.mem_cons_of_mem _ (List.mem_map_of_mem h1)

theorem headP_mem (l : List Nat) (e : Ptr) : headP l e ∈ cs l ++ [e] := by
  cases l <;> simp

theorem exists_init : ∀ (l : List Nat) (b : Ptr), ∃ P, b :: cs l = P ++ [lastP b l]
  | [], b => ⟨[], rfl⟩
  | a :: l, b => by
    obtain ⟨P, h⟩ := exists_init l (.cell a)
    exact ⟨b :: P, by simp only [List.map_cons, lastP_cons, List.cons_append]; rw [h]⟩

theorem exists_tail (l : List Nat) (e : Ptr) : ∃ Q, cs l ++ [e] = headP l e :: Q := by
  cases l with
  | nil => exact ⟨[], rfl⟩
  | cons a l => exact ⟨cs l ++ [e], rfl⟩

theorem DL_snoc (b : Ptr) (l : List Nat) (q : Ptr) :
    DL nxt prv (b :: cs l ++ [q]) ↔
      DL nxt prv (b :: cs l) ∧ nxt (lastP b l) = some q ∧ prv q = some (lastP b l) := by
  obtain ⟨P, h⟩ := exists_init l b
  have : b :: cs l ++ [q] = P ++ lastP b l :: [q] := by
    rw [h]; simp
  rw [this, DL_append_cons, h]; simp [DL_cons2]

theorem DL_snoc_cell (b : Ptr) (l : List Nat) (t : Nat) :
    DL nxt prv (b :: cs (l ++ [t])) ↔
      DL nxt prv (b :: cs l) ∧ nxt (lastP b l) = some (.cell t) ∧ prv (.cell t) = some (lastP b l) := by
  rw [← DL_snoc]; simp

theorem DL_head (b e : Ptr) (l : List Nat) (h : DL nxt prv (b :: cs l ++ [e])) : nxt b = some (headP l e) := by
  cases l with
  | nil => exact ((DL_cons2 _ _ _).1 h).1
  | cons a l => exact ((DL_cons2 _ _ _).1 h).1

theorem DL_last (b e : Ptr) (l : List Nat) (h : DL nxt prv (b :: cs l ++ [e])) : prv e = some (lastP b l) :=
  ((DL_snoc b l e).1 h).2.2

theorem DL_tail (b e : Ptr) (a : Nat) (l : List Nat) (h : DL nxt prv (b :: cs (a :: l) ++ [e])) :
    DL nxt prv (.cell a :: cs l ++ [e]) := ((DL_cons2 _ _ _).1 h).2.2

theorem DL_mid (b e : Ptr) (l1 l2 : List Nat) (a : Nat) (h : DL nxt prv (b :: cs (l1 ++ a :: l2) ++ [e])) :
    nxt (.cell a) = some (headP l2 e) ∧ prv (.cell a) = some (lastP b l1) ∧
    nxt (lastP b l1) = some (.cell a) ∧ prv (headP l2 e) = some (.cell a) := by
  obtain ⟨P, hP⟩ := exists_init l1 b
  obtain ⟨Q, hQ⟩ := exists_tail l2 e
  have : b :: cs (l1 ++ a :: l2) ++ [e] = P ++ lastP b l1 :: (.cell a :: headP l2 e :: Q) := by
    rw [List.map_append, ← List.cons_append, hP]
    simp only [List.map_cons, List.append_assoc, List.cons_append, List.nil_append, hQ]
  rw [this, DL_append_cons, DL_cons2, DL_cons2] at h
  exact ⟨h.2.2.2.1, h.2.2.1, h.2.1, h.2.2.2.2.1⟩

/-- frame for an open chain: `nxt` of its last pointer is not read -/
theorem DL_open_frame (b : Ptr) (l : List Nat) (h : DL nxt prv (b :: cs l))
    (hnd : (b :: cs l).Nodup) (h1 : ∀ y ∈ b :: cs l, y ≠ lastP b l → nxt' y = nxt y)
    (h2 : ∀ y ∈ cs l, prv' y = prv y) : DL nxt' prv' (b :: cs l) := by
  obtain ⟨P, hP⟩ := exists_init l b
  refine DL_congr _ h ?_ h2
  intro y hy
  rw [hP] at hy hnd
  rw [List.dropLast_concat] at hy
  refine h1 y (by rw [hP]; exact List.mem_append_left _ hy) ?_
  intro e; subst e
  exact (List.nodup_append.1 hnd).2.2 _ hy _ (List.mem_singleton.2 rfl) rfl

theorem DL_frame_closed (b e : Ptr) (l : List Nat)
    (h : DL nxt prv (b :: cs l ++ [e])) (h1 : ∀ p ∈ b :: cs l, nxt' p = nxt p)
    (h2 : ∀ p ∈ cs l ++ [e], prv' p = prv p) : DL nxt' prv' (b :: cs l ++ [e]) := by
  refine DL_congr _ h ?_ h2
  intro p hp; rw [List.dropLast_concat] at hp; exact h1 p hp

theorem DL_extend (b q : Ptr) (l : List Nat) (h : DL nxt prv (b :: cs l)) (hnd : (b :: cs l).Nodup)
    (h1 : ∀ y ∈ b :: cs l, y ≠ lastP b l → nxt' y = nxt y) (h1a : nxt' (lastP b l) = some q)
    (h2 : ∀ y ∈ cs l, prv' y = prv y) (h2a : prv' q = some (lastP b l)) :
    DL nxt' prv' (b :: cs l ++ [q]) :=
  (DL_snoc b l q).2 ⟨DL_open_frame b l h hnd h1 h2, h1a, h2a⟩

theorem DL_push (b e : Ptr) (l : List Nat) (t : Nat) (h : DL nxt prv (b :: cs l ++ [e]))
    (hnd : (b :: cs (l ++ [t])).Nodup)
    (h1 : ∀ y ∈ b :: cs l, y ≠ lastP b l → nxt' y = nxt y) (h1a : nxt' (lastP b l) = some (.cell t))
    (h1b : nxt' (.cell t) = some e)
    (h2 : ∀ y ∈ cs l, prv' y = prv y) (h2a : prv' (.cell t) = some (lastP b l)) (h2b : prv' e = some (.cell t)) :
    DL nxt' prv' (b :: cs (l ++ [t]) ++ [e]) := by
  have hnd0 : (b :: cs l).Nodup := by
    have : (b :: cs l ++ [Ptr.cell t]).Nodup := by simpa using hnd
    exact (List.nodup_append.1 this).1
  have hA : DL nxt' prv' (b :: cs (l ++ [t])) :=
    (DL_snoc_cell b l t).2 ⟨DL_open_frame b l ((DL_snoc b l e).1 h).1 hnd0 h1 h2, h1a, h2a⟩
  refine (DL_snoc b (l ++ [t]) e).2 ⟨hA, ?_, ?_⟩
  · rw [lastP_snoc]; exact h1b
  · rw [lastP_snoc]; exact h2b

theorem DL_remove_raw (P Q : List Ptr) (p x q : Ptr) (h : DL nxt prv (P ++ p :: x :: q :: Q))
    (hnd : (P ++ p :: x :: q :: Q).Nodup)
    (h1 : ∀ y, y ≠ p → nxt' y = nxt y) (h1' : nxt' p = some q)
    (h2 : ∀ y, y ≠ q → prv' y = prv y) (h2' : prv' q = some p) :
    DL nxt' prv' (P ++ p :: q :: Q) := by
  rw [DL_append_cons, DL_cons2, DL_cons2] at h
  obtain ⟨-, hpQ, hPd⟩ := List.nodup_append.1 hnd
  obtain ⟨hp, hxq⟩ := List.nodup_cons.1 hpQ
  obtain ⟨hq, -⟩ := List.nodup_cons.1 (List.nodup_cons.1 hxq).2
  have hpq : p ∉ q :: Q := fun hm => hp (List.mem_cons_of_mem _ hm)
  rw [DL_append_cons, DL_cons2]
  refine ⟨DL_congr _ h.1 ?_ ?_, h1', h2', DL_congr _ h.2.2.2.2.2 ?_ ?_⟩
  · intro y hy
    rw [List.dropLast_concat] at hy
    exact h1 y (fun e => hPd y hy p (by simp) e)
  · intro y hy
    refine h2 y (fun e => ?_)
    rcases List.mem_append.1 (List.mem_of_mem_tail hy) with hm | hm
    · exact hPd y hm q (by simp) e
    · exact hpq (by rw [← e, List.mem_singleton.1 hm]; simp)
  · intro y hy
    exact h1 y (fun e => hpq (e ▸ List.dropLast_subset _ hy))
  · intro y hy
    exact h2 y (fun e => hq (e ▸ hy))

theorem DL_remove (b e : Ptr) (l1 l2 : List Nat) (a : Nat)
    (h : DL nxt prv (b :: cs (l1 ++ a :: l2) ++ [e])) (hnd : (b :: cs (l1 ++ a :: l2) ++ [e]).Nodup)
    (h1 : ∀ y, y ≠ lastP b l1 → nxt' y = nxt y) (h1' : nxt' (lastP b l1) = some (headP l2 e))
    (h2 : ∀ y, y ≠ headP l2 e → prv' y = prv y) (h2' : prv' (headP l2 e) = some (lastP b l1)) :
    DL nxt' prv' (b :: cs (l1 ++ l2) ++ [e]) := by
  obtain ⟨P, hP⟩ := exists_init l1 b
  obtain ⟨Q, hQ⟩ := exists_tail l2 e
  have e1 : b :: cs (l1 ++ a :: l2) ++ [e] = P ++ lastP b l1 :: (.cell a :: headP l2 e :: Q) := by
    rw [List.map_append, ← List.cons_append, hP]
    simp only [List.map_cons, List.append_assoc, List.cons_append, List.nil_append, hQ]
  have e2 : b :: cs (l1 ++ l2) ++ [e] = P ++ lastP b l1 :: headP l2 e :: Q := by
    rw [List.map_append, ← List.cons_append, hP]
    simp only [List.append_assoc, List.cons_append, List.nil_append, hQ]
  rw [e1] at h hnd
  rw [e2]
  exact DL_remove_raw P Q _ _ _ h hnd h1 h1' h2 h2'

/-! ### families of chains

The rows are the chains `rowS i :: cs (R i)`, closed by `rowS (i + 1)`; the columns are `colS j :: cs (C j)`, closed by
`colS (j + 1)`.  What follows is stated for a family of sentinels `S` and of address lists `L`. -/

structure Sent (S : Nat → Ptr) : Prop where
  inj : ∀ {i k}, S i = S k → i = k
  ne_cell : ∀ i a, S i ≠ .cell a

theorem sent_row : Sent Ptr.rowS := ⟨Ptr.rowS.inj, fun _ _ h => Ptr.noConfusion h⟩
theorem sent_col : Sent Ptr.colS := ⟨Ptr.colS.inj, fun _ _ h => Ptr.noConfusion h⟩

structure Lists (L : Nat → List Nat) : Prop where
  nd : ∀ k, (L k).Nodup
  disj : ∀ {i k a}, a ∈ L i → a ∈ L k → i = k

section family
variable {S : Nat → Ptr} {L : Nat → List Nat}

theorem nodup_map_cell {l : List Nat} (h : l.Nodup) : (cs l).Nodup := by
  unfold List.Nodup at h ⊢
  rw [List.pairwise_map]
  exact h.imp (fun hab e => hab (Ptr.cell.inj e))

theorem ne_cell_of_mem_cs {l : List Nat} {a : Nat} (h : a ∉ l) {p : Ptr} (hp : p ∈ cs l) : p ≠ .cell a := by
  obtain ⟨b, hb, rfl⟩ := List.mem_map.1 hp
  intro e; exact h (Ptr.cell.inj e ▸ hb)

theorem Sent.ne_cell_of_mem (hS : Sent S) {l : List Nat} {a k : Nat} (h : a ∉ l) {p : Ptr} (hp : p ∈ S k :: cs l) :
    p ≠ .cell a := by
  rcases List.mem_cons.1 hp with rfl | hp
  · exact hS.ne_cell k a
  · exact ne_cell_of_mem_cs h hp

theorem Sent.chain_nodup (hS : Sent S) {l : List Nat} (h : l.Nodup) {i k : Nat} (hk : k ≠ i) :
    (S i :: cs l ++ [S k]).Nodup := by
  rw [List.cons_append, List.nodup_cons, List.nodup_append]
  refine ⟨fun hm => ?_, nodup_map_cell h, by simp, fun p hp q hq e => ?_⟩
  · rcases List.mem_append.1 hm with hm | hm
    · obtain ⟨a, -, e⟩ := List.mem_map.1 hm; exact hS.ne_cell i a e.symm
    · exact hk (hS.inj (List.mem_singleton.1 hm)).symm
  · obtain ⟨a, -, rfl⟩ := List.mem_map.1 hp
    exact hS.ne_cell k a ((List.mem_singleton.1 hq).symm.trans e.symm)

theorem Sent.open_nodup (hS : Sent S) {l : List Nat} (h : l.Nodup) (i : Nat) : (S i :: cs l).Nodup :=
  (List.nodup_append.1 (hS.chain_nodup h (Nat.succ_ne_self i))).1

theorem Lists.ptr_ne (hL : Lists L) (hS : Sent S) {i k : Nat} (hki : k ≠ i) {p q : Ptr}
    (hp : p ∈ S k :: cs (L k)) (hq : q ∈ S i :: cs (L i)) : p ≠ q := by
  rcases List.mem_cons.1 hq with rfl | hq
  · rcases List.mem_cons.1 hp with rfl | hp
    · exact fun e => hki (hS.inj e)
    · obtain ⟨a, -, rfl⟩ := List.mem_map.1 hp; exact (hS.ne_cell i a).symm
  · obtain ⟨b, hb, rfl⟩ := List.mem_map.1 hq
    exact hS.ne_cell_of_mem (fun hm => hki (hL.disj hm hb)) hp

theorem Lists.ptr_ne' (hL : Lists L) (hS : Sent S) {i k : Nat} (hki : k ≠ i) {p q : Ptr}
    (hp : p ∈ cs (L k) ++ [S (k + 1)]) (hq : q ∈ cs (L i) ++ [S (i + 1)]) : p ≠ q := by
  rcases List.mem_append.1 hp with hp | hp <;> rcases List.mem_append.1 hq with hq | hq
  · obtain ⟨a, ha, rfl⟩ := List.mem_map.1 hp
    obtain ⟨b, hb, rfl⟩ := List.mem_map.1 hq
    exact fun e => hki (hL.disj ha (Ptr.cell.inj e ▸ hb))
  · obtain ⟨a, -, rfl⟩ := List.mem_map.1 hp
    rw [List.mem_singleton.1 hq]; exact (hS.ne_cell _ a).symm
  · obtain ⟨b, -, rfl⟩ := List.mem_map.1 hq
    rw [List.mem_singleton.1 hp]; exact hS.ne_cell _ b
  · rw [List.mem_singleton.1 hp, List.mem_singleton.1 hq]
    exact fun e => hki (Nat.succ.inj (hS.inj e))

def setL (R : Nat → List Nat) (i : Nat) (l : List Nat) : Nat → List Nat := fun k => if k = i then l else R k

@[simp] theorem setL_same (R : Nat → List Nat) (i : Nat) (l : List Nat) : setL R i l i = l := if_pos rfl
theorem setL_ne (R : Nat → List Nat) {i k : Nat} (l : List Nat) (h : k ≠ i) : setL R i l k = R k := if_neg h

theorem mem_setL_snoc {i k a x : Nat} : x ∈ setL L i (L i ++ [a]) k ↔ x ∈ L k ∨ (x = a ∧ k = i) := by
  by_cases hk : k = i
  · subst hk; simp
  · simp [setL_ne _ _ hk, hk]

theorem Lists.push (hL : Lists L) {a : Nat} (i : Nat) (hfresh : ∀ k, a ∉ L k) : Lists (setL L i (L i ++ [a])) := by
  refine ⟨fun k => ?_, fun {j k x} hj hk => ?_⟩
  · by_cases hk : k = i
    · subst hk
      rw [setL_same]
      exact List.nodup_append.2 ⟨hL.nd k, by simp, fun x hx y hy e => hfresh k (List.mem_singleton.1 hy ▸ e ▸ hx)⟩
    · rw [setL_ne _ _ hk]; exact hL.nd k
  · rcases mem_setL_snoc.1 hj with hj | ⟨rfl, ej⟩ <;> rcases mem_setL_snoc.1 hk with hk | ⟨ex, ek⟩
    · exact hL.disj hj hk
    · exact absurd (ex ▸ hj) (hfresh j)
    · exact absurd hk (hfresh k)
    · rw [ej, ek]

def rm (e : Nat) (R : Nat → List Nat) : Nat → List Nat := fun k => (R k).filter (fun a => a != e)

theorem mem_rm {e a k : Nat} {R : Nat → List Nat} : a ∈ rm e R k ↔ a ∈ R k ∧ a ≠ e := by
  simp [rm, List.mem_filter]

theorem rm_sublist (e k : Nat) (R : Nat → List Nat) : (rm e R k).Sublist (R k) := List.filter_sublist

theorem rm_of_not_mem {e k : Nat} {R : Nat → List Nat} (h : e ∉ R k) : rm e R k = R k :=
  List.filter_eq_self.2 (fun _ ha => bne_iff_ne.2 (fun e' => h (e' ▸ ha)))

theorem rm_mid {e k : Nat} {R : Nat → List Nat} {l1 l2 : List Nat} (h : R k = l1 ++ e :: l2) (hnd : (R k).Nodup) :
    rm e R k = l1 ++ l2 := by
  rw [h] at hnd
  have h1 : e ∉ l1 := fun hm => (List.nodup_append.1 hnd).2.2 e hm e (by simp) rfl
  have h2 : e ∉ l2 := (List.nodup_cons.1 (List.nodup_append.1 hnd).2.1).1
  unfold rm; rw [h, List.filter_append, List.filter_cons]
  simp only [bne_self_eq_false, Bool.false_eq_true, if_false]
  rw [List.filter_eq_self.2, List.filter_eq_self.2]
  · exact fun _ ha => bne_iff_ne.2 (fun e' => h2 (e' ▸ ha))
  · exact fun _ ha => bne_iff_ne.2 (fun e' => h1 (e' ▸ ha))

structure Chains (nxt prv : Ptr → Option Ptr) (S : Nat → Ptr) (n : Nat) (L : Nat → List Nat) (cl : Nat → Prop) :
    Prop where
  opn : ∀ k, k < n → DL nxt prv (S k :: cs (L k))
  cls : ∀ k, k < n → cl k →
    nxt (lastP (S k) (L k)) = some (S (k + 1)) ∧ prv (S (k + 1)) = some (lastP (S k) (L k))

variable {n : Nat} {cl cl' : Nat → Prop}

theorem Chains.closed (h : Chains nxt prv S n L cl) {k : Nat} (hk : k < n) (hc : cl k) :
    DL nxt prv (S k :: cs (L k) ++ [S (k + 1)]) :=
  (DL_snoc _ _ _).2 ⟨h.opn k hk, h.cls k hk hc⟩

theorem Chains.of_closed (h : ∀ k, k < n → DL nxt prv (S k :: cs (L k) ++ [S (k + 1)])) :
    Chains nxt prv S n L cl :=
  ⟨fun k hk => ((DL_snoc _ _ _).1 (h k hk)).1, fun k hk _ => ((DL_snoc _ _ _).1 (h k hk)).2⟩

theorem Chains.weaken (h : Chains nxt prv S n L cl) (h1 : ∀ k, k < n → cl' k → cl k) : Chains nxt prv S n L cl' :=
  ⟨h.opn, fun k hk hc => h.cls k hk (h1 k hk hc)⟩

theorem Chains.grow (h : Chains nxt prv S n L cl) (hn : L n = []) :
    Chains nxt prv S (n + 1) L (fun k => cl k ∧ k < n) := by
  refine ⟨fun k hk => ?_, fun k _ hc => h.cls k hc.2 hc.1⟩
  rcases Nat.lt_succ_iff_lt_or_eq.1 hk with hk | rfl
  · exact h.opn k hk
  · rw [hn]; simp

/-- frame: the links of the chains are not touched (the forward link of the last pointer of an open chain is not one) -/
theorem Chains.frame (hS : Sent S) (hL : Lists L) (h : Chains nxt prv S n L cl)
    (h1 : ∀ k, k < n → ∀ p ∈ S k :: cs (L k), cl k ∨ p ≠ lastP (S k) (L k) → nxt' p = nxt p)
    (h2 : ∀ k, k < n → ∀ p ∈ cs (L k), prv' p = prv p)
    (h3 : ∀ k, k < n → cl k → prv' (S (k + 1)) = prv (S (k + 1))) : Chains nxt' prv' S n L cl := by
  refine ⟨fun k hk => DL_open_frame _ _ (h.opn k hk) (hS.open_nodup (hL.nd k) k)
    (fun y hy hne => h1 k hk y hy (Or.inr hne)) (h2 k hk), fun k hk hc => ?_⟩
  obtain ⟨c1, c2⟩ := h.cls k hk hc
  exact ⟨(h1 k hk _ (lastP_mem _ _) (Or.inl hc)).trans c1, (h3 k hk hc).trans c2⟩

/-- frame: only links of a cell outside all chains are touched -/
theorem Chains.frame_cell (hS : Sent S) (hL : Lists L) (h : Chains nxt prv S n L cl) {t : Nat} (ht : ∀ k, t ∉ L k)
    (h1 : ∀ p, p ≠ .cell t → nxt' p = nxt p) (h2 : ∀ p, p ≠ .cell t → prv' p = prv p) :
    Chains nxt' prv' S n L cl :=
  h.frame hS hL (fun k _ p hp _ => h1 p (hS.ne_cell_of_mem (ht k) hp))
    (fun k _ p hp => h2 p (ne_cell_of_mem_cs (ht k) hp))
    (fun _ _ _ => h2 _ (hS.ne_cell _ t))

theorem Chains.push (hS : Sent S) (hL : Lists L) (h : Chains nxt prv S n L cl) {a : Nat} (i : Nat)
    (hfresh : ∀ k, a ∉ L k) :
    Chains (upd nxt (lastP (S i) (L i)) (.cell a)) (upd prv (.cell a) (lastP (S i) (L i))) S n
      (setL L i (L i ++ [a])) (fun k => cl k ∧ k ≠ i) := by
  have hprv : ∀ k, ∀ p ∈ cs (L k), upd prv (.cell a) (lastP (S i) (L i)) p = prv p := fun k p hp =>
    upd_ne _ _ (ne_cell_of_mem_cs (hfresh k) hp)
  refine ⟨fun k hk => ?_, fun k hk hc => ?_⟩
  · by_cases hki : k = i
    · subst hki
      rw [setL_same, List.map_append]
      exact DL_extend _ _ _ (h.opn k hk) (hS.open_nodup (hL.nd k) k) (fun y _ hy => upd_ne _ _ hy) (upd_same _ _ _)
        (hprv k) (upd_same _ _ _)
    · rw [setL_ne _ _ hki]
      exact DL_congr _ (h.opn k hk)
        (fun p hp => upd_ne _ _ (hL.ptr_ne hS hki (List.dropLast_subset _ hp) (lastP_mem _ _))) (hprv k)
  · obtain ⟨c1, c2⟩ := h.cls k hk hc.1
    rw [setL_ne _ _ hc.2, upd_ne _ _ (hL.ptr_ne hS hc.2 (lastP_mem _ _) (lastP_mem _ _)),
      upd_ne _ _ (hS.ne_cell _ a)]
    exact ⟨c1, c2⟩

theorem Chains.close (hS : Sent S) (hL : Lists L) (h : Chains nxt prv S n L cl) (i : Nat) :
    Chains (upd nxt (lastP (S i) (L i)) (S (i + 1))) (upd prv (S (i + 1)) (lastP (S i) (L i))) S n L
      (fun k => cl k ∨ k = i) := by
  refine ⟨fun k hk => ?_, fun k hk hc => ?_⟩
  · refine DL_open_frame _ _ (h.opn k hk) (hS.open_nodup (hL.nd k) k) (fun y hy hne => upd_ne _ _ ?_)
      (fun y hy => upd_ne _ _ ?_)
    · by_cases hki : k = i
      · subst hki; exact hne
      · exact hL.ptr_ne hS hki hy (lastP_mem _ _)
    · obtain ⟨b, -, rfl⟩ := List.mem_map.1 hy; exact (hS.ne_cell _ b).symm
  · by_cases hki : k = i
    · subst hki; exact ⟨upd_same _ _ _, upd_same _ _ _⟩
    · obtain ⟨c1, c2⟩ := h.cls k hk (hc.resolve_right hki)
      rw [upd_ne _ _ (hL.ptr_ne hS hki (lastP_mem _ _) (lastP_mem _ _)),
        upd_ne _ _ (fun e => hki (Nat.succ.inj (hS.inj e)))]
      exact ⟨c1, c2⟩

theorem Chains.push_close (hS : Sent S) (hL : Lists L) (h : Chains nxt prv S n L cl) {a : Nat} (i : Nat)
    (hfresh : ∀ k, a ∉ L k) (hcl : ∀ k, k < n → cl' k → cl k ∨ k = i) :
    Chains (upd (upd nxt (lastP (S i) (L i)) (.cell a)) (.cell a) (S (i + 1)))
      (upd (upd prv (.cell a) (lastP (S i) (L i))) (S (i + 1)) (.cell a)) S n (setL L i (L i ++ [a])) cl' := by
  have := (h.push hS hL i hfresh).close hS (hL.push i hfresh) i
  rw [setL_same, lastP_snoc] at this
  refine this.weaken (fun k hk hc => ?_)
  by_cases hki : k = i
  · exact Or.inr hki
  · exact Or.inl ⟨(hcl k hk hc).resolve_right hki, hki⟩

theorem Chains.remove (hS : Sent S) (hL : Lists L) (h : Chains nxt prv S n L (fun _ => True)) {i e : Nat}
    {l1 l2 : List Nat} (hR : L i = l1 ++ e :: l2) :
    Chains (upd nxt (lastP (S i) l1) (headP l2 (S (i + 1)))) (upd prv (headP l2 (S (i + 1))) (lastP (S i) l1)) S n
      (rm e L) (fun _ => True) := by
  refine Chains.of_closed (fun k hk => ?_)
  have hc := h.closed hk trivial
  by_cases hki : k = i
  · subst hki
    rw [rm_mid hR (hL.nd k)]
    rw [hR] at hc
    refine DL_remove _ _ l1 l2 e hc ?_ (fun y hy => upd_ne _ _ hy) (upd_same _ _ _) (fun y hy => upd_ne _ _ hy)
      (upd_same _ _ _)
    rw [← hR]; exact hS.chain_nodup (hL.nd k) (Nat.succ_ne_self k)
  · have hek : e ∉ L k := fun hm => hki (hL.disj hm (by rw [hR]; simp))
    rw [rm_of_not_mem hek]
    refine DL_frame_closed _ _ _ hc (fun p hp => upd_ne _ _ (hL.ptr_ne hS hki hp ?_))
      (fun p hp => upd_ne _ _ (hL.ptr_ne' hS hki hp ?_))
    · rw [hR, List.map_append, ← List.cons_append]
      exact List.mem_append_left _ (lastP_mem _ _)
    · rw [hR, List.map_append, List.map_cons, List.append_assoc]
      exact List.mem_append_right _ (List.mem_cons_of_mem _ (headP_mem _ _))

end family

end P
end Vata.LU.SR
