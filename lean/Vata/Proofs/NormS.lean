import Vata.InclUp
/-!
# Macro-states as sorted duplicate-free lists

`InclUp.normS` (insertion sort with `InclUp.insS`, which drops duplicates) is the representative of a set of states in the
models of the antichain algorithms: it has the elements of its argument and is strictly increasing.  The word-automaton models
have their own copy `NfaIncl.normS`; `NfaIncl.normS_eq` (`Proofs/NfaIncl`) carries these lemmas over.
-/
namespace Vata
namespace InclUp

theorem mem_insS {x y : Nat} {l : List Nat} : y ∈ insS x l ↔ y = x ∨ y ∈ l := by
  induction l with
  | nil => rw [insS, List.mem_singleton, List.mem_nil_iff, or_false]
  | cons z l ih =>
    unfold insS
    split
    · exact List.mem_cons
    · split
      · next h => rw [beq_iff_eq.mp h, List.mem_cons, or_self_left]
      · rw [List.mem_cons, ih, List.mem_cons, or_left_comm]

theorem mem_normS {l : List Nat} {y : Nat} : y ∈ normS l ↔ y ∈ l := by
  induction l with
  | nil => exact Iff.rfl
  | cons x l ih => rw [normS, List.foldr_cons, mem_insS, ← normS, ih, List.mem_cons]

theorem insS_sorted {x : Nat} {l : List Nat} (h : List.Pairwise (· < ·) l) : List.Pairwise (· < ·) (insS x l) := by
  induction l with
  | nil => exact List.pairwise_singleton _ _
  | cons y l ih =>
    obtain ⟨hy, hl⟩ := List.pairwise_cons.mp h
    unfold insS
    split
    · next hxy =>
      exact List.pairwise_cons.mpr ⟨fun z hz => (List.mem_cons.mp hz).elim (· ▸ hxy) fun hz => Nat.lt_trans hxy (hy z hz), h⟩
    · next hxy =>
      split
      · exact h
      · next hne =>
        refine List.pairwise_cons.mpr ⟨fun z hz => ?_, ih hl⟩
        rcases mem_insS.mp hz with rfl | hz
        · exact Nat.lt_of_le_of_ne (Nat.le_of_not_lt hxy) fun e => hne (beq_iff_eq.mpr e.symm)
        · exact hy z hz

theorem normS_sorted (l : List Nat) : List.Pairwise (· < ·) (normS l) := by
  induction l with
  | nil => exact List.Pairwise.nil
  | cons _ l ih => exact insS_sorted ih

end InclUp
end Vata
