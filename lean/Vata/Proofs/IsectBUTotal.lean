import Vata.Proofs.IsectBUInv
/-!
# Property C02 – `IntersectionBU`: the work-list loop ends, whatever the entry map was; the model `isectBU` returns a
result for the fuel `isectBUFuel`

No hypothesis on the entry map `m0` (it need not be `MapOk`, its keys need not be distinct, they need not be pairs of
states).  The loop appends to the map only pairs of states that are not keys yet, so the map has at most `|Q_A|·|Q_B|`
entries more than `m0` (`Ibt.TInv`; the `erase` of the C++ removes only the entry inserted tentatively in the same iteration,
`Ibu.buProcPair_notready`).  Every number in the map or on the stack is in the list `allowed A B m0` = the numbers carried
by `m0` followed by the possible fresh numbers `|m0|, …, |m0| + |Q_A|·|Q_B| − 1`; `newStates` is a duplicate-free sublist of it.  A pop either skips an entry whose number
is already in `newStates`, or processes a new number and pushes at most one entry per examined pair of rules and common
position (at most `|Δ_A|·|Δ_B|·maxArity`).  Hence `|stack| + (|allowed| − |newStates|)·|Δ_A|·|Δ_B|·maxArity` decreases with
every pop, and the loop started after the leaf phase ends within `|Δ_A|·|Δ_B| + (|m0| + |Q_A|·|Q_B|)·pushBound` pops.
-/
namespace Vata
namespace Ibu
open Isx

def maxAr (A : TA) : Nat := A.rules.foldl (fun a r => max a r.kids.length) 0

theorem le_maxAr {A : TA} {r : Rule} (h : r ∈ A.rules) : r.kids.length ≤ maxAr A := le_foldl_max (fun r : Rule => r.kids.length) h 0

/-- the number of pushes caused by one processed pair -/
def pushBound (A B : TA) : Nat := A.rules.length * B.rules.length * maxAr A

theorem length_buMatching_le (A B : TA) (pr : Nat × Nat) : (buMatching A B pr).length ≤ pushBound A B := by
  unfold buMatching pushBound
  have h1 : ∀ r, r ∈ A.rules → ((List.range r.kids.length).flatMap (fun i =>
      if r.kids[i]? == some pr.1 then
        (B.rules.filter (fun r' => r'.sym == r.sym && r'.kids.length == r.kids.length && r'.kids[i]? == some pr.2)).map
          (fun r' => (r, r'))
      else [])).length ≤ maxAr A * B.rules.length := by
    intro r hr
    refine Nat.le_trans (length_flatMap_le _ B.rules.length _ ?_) ?_
    · intro i _
      split
      · rw [List.length_map]; exact List.length_filter_le _ _
      · simp
    · rw [List.length_range]
      exact Nat.mul_le_mul_right _ (le_maxAr hr)
  refine Nat.le_trans (length_flatMap_le _ _ _ h1) ?_
  rw [Nat.mul_comm (maxAr A), Nat.mul_assoc]
  exact Nat.le_refl _

theorem length_buLeafPairs_le (A B : TA) : (buLeafPairs A B).length ≤ A.rules.length * B.rules.length := by
  unfold buLeafPairs
  refine Nat.le_trans (length_flatMap_le _ B.rules.length _ ?_) (Nat.mul_le_mul_right _ (List.length_filter_le _ _))
  intro r _
  rw [List.length_map]; exact List.length_filter_le _ _

theorem length_buProcPair_le (r r' : Rule) (m : PMap) (st : List BUEntry) (rs : List Rule) :
    (buProcPair r r' m st rs).2.1.length ≤ st.length + 1 := by
  unfold buProcPair
  simp only
  split <;> simp

theorem length_buProcAll_le : ∀ (L : List (Rule × Rule)) (m : PMap) (st : List BUEntry) (rs : List Rule),
    (buProcAll L m st rs).2.1.length ≤ st.length + L.length
  | [], m, st, rs => by simp [buProcAll]
  | rr :: rest, m, st, rs => by
    have h1 := length_buProcPair_le rr.1 rr.2 m st rs
    have h2 := length_buProcAll_le rest (buProcPair rr.1 rr.2 m st rs).1 (buProcPair rr.1 rr.2 m st rs).2.1
      (buProcPair rr.1 rr.2 m st rs).2.2
    simp only [buProcAll, List.length_cons]
    omega

theorem length_buLeafPhase (A B : TA) : ∀ (L : List (Rule × Rule)) (m : PMap) (st : List BUEntry) (rs : List Rule)
    (fs : List Nat), (buLeafPhase A B L m st rs fs).2.1.length = st.length + L.length
  | [], m, st, rs, fs => by simp [buLeafPhase]
  | rr :: rest, m, st, rs, fs => by
    simp only [buLeafPhase, List.length_cons]
    rw [length_buLeafPhase A B rest]
    simp only [List.length_cons]
    omega

theorem parents_mem {A B : TA} {r r' : Rule} (hm : Matching A B r r') :
    (r.parent, r'.parent) ∈ allPairs2 A.states B.states :=
  mem_allPairs2.mpr ⟨mem_states.mpr (Or.inr ⟨r, hm.1, Or.inl rfl⟩), mem_states.mpr (Or.inr ⟨r', hm.2.1, Or.inl rfl⟩)⟩

end Ibu

namespace Ibt
open Isx Ibu

def allowed (A B : TA) (m0 : PMap) : List Nat :=
  m0.map Prod.snd ++ List.range' m0.length (A.states.length * B.states.length)

theorem length_allowed (A B : TA) (m0 : PMap) : (allowed A B m0).length = m0.length + A.states.length * B.states.length := by
  simp [allowed]

/-- every number carried by the map is allowed; the map has grown from `m0`, and only by pairs of states that were not keys,
so its length and the number of pairs of states that are not keys never exceed `|m0| + |Q_A|·|Q_B|` together -/
def TInv (A B : TA) (m0 m : PMap) : Prop :=
  (∀ e, e ∈ m → e.2 ∈ allowed A B m0) ∧ m0.length ≤ m.length ∧
    m.length + unseen (allPairs2 A.states B.states) m.dom ≤ m0.length + A.states.length * B.states.length

theorem tinv_init (A B : TA) (m0 : PMap) : TInv A B m0 m0 :=
  ⟨fun _ he => List.mem_append_left _ (List.mem_map_of_mem he), Nat.le_refl _,
    Nat.add_le_add_left (unseen_allPairs2_le _ _ _) _⟩

variable {A B : TA} {m0 : PMap}

theorem tinv_insert {m : PMap} (h : TInv A B m0 m) {p : Nat × Nat} (hp : p ∈ allPairs2 A.states B.states) :
    TInv A B m0 (buInsert m p).1 ∧ (buInsert m p).2.1 ∈ allowed A B m0 := by
  obtain ⟨hval, hle, hcnt⟩ := h
  cases hl : m.lookup p with
  | some n =>
    rw [buInsert_some hl]
    exact ⟨⟨hval, hle, hcnt⟩, hval _ (mem_of_lookup hl)⟩
  | none =>
    rw [buInsert_none hl]
    -- `p` is a pair of states that becomes a key now: one pair fewer is missing, so the fresh number is allowed
    have hlt : unseen (allPairs2 A.states B.states) (m ++ [(p, m.length)]).dom <
        unseen (allPairs2 A.states B.states) m.dom :=
      unseen_lt (fun _ h => dom_snoc.mpr (Or.inl h)) hp (lookup_none_iff.mp hl) (dom_snoc.mpr (Or.inr rfl))
    have hfresh : m.length ∈ allowed A B m0 :=
      List.mem_append_right _ (List.mem_range'_1.mpr
        ⟨hle, Nat.lt_of_lt_of_le (Nat.lt_add_of_pos_right (Nat.zero_lt_of_lt hlt)) hcnt⟩)
    refine ⟨⟨fun e he => ?_, ?_, ?_⟩, hfresh⟩
    · rcases List.mem_append.mp he with h1 | h1
      · exact hval e h1
      · rw [List.mem_singleton.mp h1]; exact hfresh
    · exact Nat.le_trans hle (List.length_append ▸ Nat.le_add_right _ _)
    · show (m ++ [(p, m.length)]).length + _ ≤ _
      rw [List.length_append, List.length_singleton, Nat.add_right_comm]
      exact Nat.le_trans (Nat.add_lt_add_left hlt _) hcnt

theorem tinv_procPair {m : PMap} {r r' : Rule} (hm : Matching A B r r') (h : TInv A B m0 m)
    (st : List BUEntry) (rs : List Rule) (hst : ∀ e, e ∈ st → e.2 ∈ allowed A B m0) :
    TInv A B m0 (buProcPair r r' m st rs).1 ∧ ∀ e, e ∈ (buProcPair r r' m st rs).2.1 → e.2 ∈ allowed A B m0 := by
  by_cases hk : ∀ c, c ∈ r.kids.zip r'.kids → c ∈ m.dom
  · rw [buProcPair_ready st rs hk]
    obtain ⟨h1, h2⟩ := tinv_insert h (parents_mem hm)
    refine ⟨h1, fun e he => ?_⟩
    rcases List.mem_cons.mp he with h3 | h3
    · rw [h3]; exact h2
    · exact hst e h3
  · rw [buProcPair_notready st rs hk]
    exact ⟨h, hst⟩

theorem tinv_procAll (L : List (Rule × Rule)) (hL : ∀ rr, rr ∈ L → Matching A B rr.1 rr.2) :
    ∀ (m : PMap) (st : List BUEntry) (rs : List Rule), TInv A B m0 m → (∀ e, e ∈ st → e.2 ∈ allowed A B m0) →
    TInv A B m0 (buProcAll L m st rs).1 ∧ ∀ e, e ∈ (buProcAll L m st rs).2.1 → e.2 ∈ allowed A B m0 := by
  induction L with
  | nil => exact fun _ _ _ h hst => ⟨h, hst⟩
  | cons rr rest ih =>
    intro m st rs h hst
    obtain ⟨h1, h2⟩ := tinv_procPair (hL rr List.mem_cons_self) h st rs hst
    exact ih (fun x hx => hL x (List.mem_cons_of_mem _ hx)) _ _ _ h1 h2

/-- the measure decreases with a processing pop: `s`, `s'` stack sizes, `L ≤ P` pushes, `k < N` processed numbers -/
theorem measure_pop {s s' L P N k n : Nat} (hs : s' ≤ s + L) (hL : L ≤ P) (hk : k + 1 ≤ N)
    (hn : s + 1 + (N - k) * P ≤ n + 1) : s' + (N - (k + 1)) * P ≤ n := by
  have hd : N - k = N - (k + 1) + 1 := by omega
  rw [hd, Nat.succ_mul] at hn
  omega

theorem loop_total (n : Nat) : ∀ (m : PMap) (st : List BUEntry) (ns : List Nat) (rs : List Rule) (fs : List Nat),
    TInv A B m0 m → (∀ e, e ∈ st → e.2 ∈ allowed A B m0) → (∀ k, k ∈ ns → k ∈ allowed A B m0) → ns.Nodup →
    st.length + ((allowed A B m0).length - ns.length) * pushBound A B ≤ n →
    (buLoop A B n m st ns rs fs).isSome = true := by
  induction n with
  | zero =>
    intro m st ns rs fs _ _ _ _ hn
    cases st with
    | nil => rfl
    | cons _ _ => rw [List.length_cons] at hn; omega
  | succ n ih =>
    intro m st ns rs fs h hst hns hnd hn
    cases st with
    | nil => rfl
    | cons e st =>
      have hst' : ∀ x, x ∈ st → x.2 ∈ allowed A B m0 := fun x hx => hst x (List.mem_cons_of_mem _ hx)
      rw [List.length_cons] at hn
      by_cases hk : e.2 ∈ ns
      · rw [buLoop_skip hk]
        exact ih m st ns rs fs h hst' hns hnd (by omega)
      · rw [buLoop_pop hk]
        have hnd' : (e.2 :: ns).Nodup := List.nodup_cons.mpr ⟨hk, hnd⟩
        have hns' : ∀ k, k ∈ e.2 :: ns → k ∈ allowed A B m0 := by
          intro k hk'
          rcases List.mem_cons.mp hk' with h1 | h1
          · rw [h1]; exact hst e List.mem_cons_self
          · exact hns k h1
        obtain ⟨h1, h2⟩ := tinv_procAll (A := A) (B := B) (m0 := m0) (buMatching A B e.1)
          (fun rr hrr => (mem_buMatching.mp hrr).1) m st rs h hst'
        have hlen : ns.length + 1 ≤ (allowed A B m0).length := hnd'.length_le_of_subset (fun x hx => hns' x hx)
        have hstl := length_buProcAll_le (buMatching A B e.1) m st rs
        have hM := length_buMatching_le A B e.1
        exact ih _ _ _ _ _ h1 h2 hns' hnd' (measure_pop hstl hM hlen hn)

theorem run_total (A B : TA) (m0 : PMap) (fuel : Nat)
    (hf : A.rules.length * B.rules.length + (m0.length + A.states.length * B.states.length) * pushBound A B ≤ fuel) :
    (buLoop A B fuel (buLeafPhase A B (buLeafPairs A B) m0 [] [] []).1 (buLeafPhase A B (buLeafPairs A B) m0 [] [] []).2.1 []
      (buLeafPhase A B (buLeafPairs A B) m0 [] [] []).2.2.1 (buLeafPhase A B (buLeafPairs A B) m0 [] [] []).2.2.2).isSome =
      true := by
  have hleaf := buLeafPhase_procAll (A := A) (B := B) (buLeafPairs A B) (fun rr hrr => (mem_buLeafPairs.mp hrr).2)
    m0 [] [] []
  obtain ⟨h1, h2⟩ := tinv_procAll (A := A) (B := B) (m0 := m0) (buLeafPairs A B)
    (fun rr hrr => (mem_buLeafPairs.mp hrr).1) m0 [] [] (tinv_init A B m0) (fun e he => absurd he List.not_mem_nil)
  rw [← hleaf] at h1 h2
  have hlen := length_buLeafPhase A B (buLeafPairs A B) m0 [] [] []
  have hL := length_buLeafPairs_le A B
  apply loop_total (m0 := m0) fuel _ _ [] _ _ h1 h2 (fun k hk => absurd hk List.not_mem_nil) List.nodup_nil
  rw [hlen, length_allowed]
  simp only [List.length_nil, Nat.sub_zero, Nat.zero_add]
  omega

end Ibt

theorem isectBURef_isSome (A B : TA) : (isectBURef A B).isSome = true := by
  rw [isectBURef, isectBU_eq_loop, Option.isSome_map]
  exact Ibt.run_total A B [] (isectBUFuel A B) (by
    unfold isectBUFuel Ibu.pushBound Ibu.maxAr
    simp only [List.length_nil, Nat.zero_add]
    omega)

theorem isectBURef_lang (A B : TA) :
    ∃ P m, isectBURef A B = some (P, m) ∧ ∀ t, accepts P t = (accepts A t && accepts B t) := by
  cases h : isectBURef A B with
  | none => have := isectBURef_isSome A B; rw [h] at this; simp at this
  | some r => exact ⟨r.1, r.2, rfl, isectBU_lang (fuel := isectBUFuel A B) h⟩

example : (isectBURef IsectBUEx.exS IsectBUEx.exL).map (fun r => r.2) = some [((0, 0), 0), ((1, 0), 1)] := by decide +kernel

end Vata
