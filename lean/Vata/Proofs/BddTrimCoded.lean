import Vata.BddTrimCoded
import Vata.Proofs.BddTrimGraph
/-!
C08: the propagation of the top-down `RemoveUselessStates` as coded computes `usefulTD`.

`Spec T F B`: what the propagation needs to know about the graph and the dictionaries built by the first phase
(established in `Vata/Proofs/BddTrimCodedBuild.lean`).  `PInv`: the invariant of the `while (!nodeStack.empty())` loop.
Result: `propLoop_correct` – when the loop ends, `usefulStates` is (as a set) `usefulTD T F`, the productive states of the
top-down reachable part of the leaf-visit skeleton.
-/
namespace Vata
namespace BddTrimCoded
open M BddAbs BddAbsTD

structure Spec (T : TableTD) (F : List Nat) (B : Build) : Prop where
  orFun : ∀ n s s', (n, s) ∈ B.orN → (n, s') ∈ B.orN → s = s'
  orInj : ∀ n n' s, (n, s) ∈ B.orN → (n', s) ∈ B.orN → n = n'
  disj : ∀ n s t, (n, s) ∈ B.orN → (n, t) ∉ B.andN
  orEgr : ∀ n s a, (n, s) ∈ B.orN → a ∈ B.G.egr n → ∃ t, (a, t) ∈ B.andN
  orIng : ∀ n s a, (n, s) ∈ B.orN → a ∈ B.G.ing n → ∃ t, (a, t) ∈ B.andN
  sym : ∀ a t m, (a, t) ∈ B.andN → m ∈ B.G.ing a → a ∈ B.G.egr m
  andIng : ∀ a t m, (a, t) ∈ B.andN → m ∈ B.G.ing a → ∃ s, s ∈ t ∧ (m, s) ∈ B.orN
  andEgr : ∀ a t m, (a, t) ∈ B.andN → m ∈ B.G.egr a → ∃ p, (m, p) ∈ B.orN ∧ t ∈ leafTuples (getTD T p)
  andFull : ∀ a t s, (a, t) ∈ B.andN → s ∈ t → ∃ m, (m, s) ∈ B.orN ∧ m ∈ B.G.ing a
  andNe : ∀ a t, (a, t) ∈ B.andN → t ≠ []
  termOk : ∀ n, n ∈ B.term → ∃ p, (n, p) ∈ B.orN ∧ [] ∈ leafTuples (getTD T p)
  reach : ∀ n s, (n, s) ∈ B.orN → s ∈ tdReach (skelTD T F)
  done : ∀ n p t, (n, p) ∈ B.orN → t ∈ leafTuples (getTD T p) →
    (t = [] → n ∈ B.term) ∧ (t ≠ [] → ∃ a, (a, t) ∈ B.andN ∧ n ∈ B.G.egr a)
  fin : ∀ f, f ∈ F → ∃ n, (n, f) ∈ B.orN

variable {T : TableTD} {F : List Nat} {B : Build}

theorem stateOf_eq (hS : Spec T F B) {n s : Nat} (h : (n, s) ∈ B.orN) : stateOf B.orN n = s := by
  unfold stateOf
  rw [findFwd_of_mem hS.orFun h]
  rfl

theorem usefulTD_intro {p : Nat} {t : List Nat} (hp : p ∈ tdReach (skelTD T F))
    (ht : t ∈ leafTuples (getTD T p)) (hall : ∀ s, s ∈ t → s ∈ usefulTD T F) : p ∈ usefulTD T F :=
  prodStates_closed _ ⟨0, t, p⟩ (mem_rules_removeUnreachable.mpr ⟨skelTD_rule ht, hp⟩) hall

/-- `m` is the OR node of a state in `U` -/
def Marked (B : Build) (U : List Nat) (m : Nat) : Prop := ∃ s, (m, s) ∈ B.orN ∧ s ∈ U

theorem Marked.mono {U U' : List Nat} (h : ∀ s, s ∈ U → s ∈ U') {m : Nat} : Marked B U m → Marked B U' m :=
  fun ⟨s, h1, h2⟩ => ⟨s, h1, h s h2⟩

/-- `cur`: the node popped in the current round; `ex`: the AND node whose output nodes are being marked -/
structure PInv (T : TableTD) (F : List Nat) (B : Build) (cur ex : Option Nat) (P : Mark) : Prop where
  stkU : ∀ m, m ∈ P.stk → Marked B P.useful m
  sound : ∀ s, s ∈ P.useful → s ∈ usefulTD T F
  subI : ∀ x m, m ∈ P.G.ing x → m ∈ B.G.ing x
  subE : ∀ x m, m ∈ P.G.egr x → m ∈ B.G.egr x
  orE : ∀ n s a, (n, s) ∈ B.orN → a ∈ B.G.egr n → a ∈ P.G.egr n
  erI : ∀ a t m, (a, t) ∈ B.andN → m ∈ B.G.ing a → m ∈ P.G.ing a ∨ Marked B P.useful m
  erE : ∀ a t m, (a, t) ∈ B.andN → m ∈ B.G.egr a → m ∈ P.G.egr a ∨ Marked B P.useful m
  sat : ∀ a t, (a, t) ∈ B.andN → some a ≠ ex → P.G.ing a = [] → ∀ m, m ∈ B.G.egr a → Marked B P.useful m
  popped : ∀ m s, (m, s) ∈ B.orN → s ∈ P.useful → m ∈ P.stk ∨ some m = cur ∨ ∀ a, a ∈ B.G.egr m → m ∉ P.G.ing a

def Shr (P P' : Mark) : Prop :=
  (∀ x m, m ∈ P'.G.ing x → m ∈ P.G.ing x) ∧ (∀ s, s ∈ P.useful → s ∈ P'.useful)

theorem Shr.refl (P : Mark) : Shr P P := ⟨fun _ _ h => h, fun _ h => h⟩
theorem Shr.trans {P P' P'' : Mark} (h : Shr P P') (h' : Shr P' P'') : Shr P P'' :=
  ⟨fun x m hm => h.1 x m (h'.1 x m hm), fun s hs => h'.2 s (h.2 s hs)⟩

theorem Spec.ing_ne_nil (hS : Spec T F B) {a : Nat} {t : List Nat} (ha : (a, t) ∈ B.andN) : B.G.ing a ≠ [] := by
  obtain ⟨s, hs⟩ := List.exists_mem_of_ne_nil t (hS.andNe a t ha)
  obtain ⟨m, _, hm⟩ := hS.andFull a t s ha hs
  exact List.ne_nil_of_mem hm

theorem PInv.push (hS : Spec T F B) {cur ex : Option Nat} {P : Mark} (hI : PInv T F B cur ex P) {m p : Nat}
    (hmp : (m, p) ∈ B.orN) (hp : p ∈ usefulTD T F) {U : List Nat} (hU : ∀ s, s ∈ U ↔ s ∈ P.useful ∨ s = p) :
    PInv T F B cur ex ⟨P.G, m :: P.stk, U⟩ :=
  have mono : ∀ {m'}, Marked B P.useful m' → Marked B U m' := Marked.mono fun s hs => (hU s).mpr (Or.inl hs)
  { hI with
    stkU := fun m' hm' => by
      rcases List.mem_cons.mp hm' with rfl | h
      · exact ⟨p, hmp, (hU p).mpr (Or.inr rfl)⟩
      · exact mono (hI.stkU m' h)
    sound := fun s hs => ((hU s).mp hs).elim (hI.sound s) (fun e => e ▸ hp)
    erI := fun a t m' h1 h2 => (hI.erI a t m' h1 h2).imp_right mono
    erE := fun a t m' h1 h2 => (hI.erE a t m' h1 h2).imp_right mono
    sat := fun a t h1 h2 h3 m' h4 => mono (hI.sat a t h1 h2 h3 m' h4)
    popped := fun m' s h1 h2 => by
      rcases (hU s).mp h2 with h2 | rfl
      · exact (hI.popped m' s h1 h2).imp_left (List.mem_cons_of_mem _)
      · exact Or.inl (hS.orInj m' m s h1 hmp ▸ List.mem_cons_self) }

theorem markStep_graph (orN : List (Nat × Nat)) (P : Mark) (m : Nat) : (markStep orN P m).G = P.G := by
  unfold markStep; split <;> rfl

theorem markFold_graph (orN : List (Nat × Nat)) : ∀ (ms : List Nat) (P : Mark), (ms.foldl (markStep orN) P).G = P.G
  | [], _ => rfl
  | m :: ms, P => (markFold_graph orN ms _).trans (markStep_graph orN P m)

theorem markStep_inv (hS : Spec T F B) {cur : Option Nat} {a : Nat} {t : List Nat} (ha : (a, t) ∈ B.andN)
    (hall : ∀ s, s ∈ t → s ∈ usefulTD T F) {P : Mark} (hI : PInv T F B cur (some a) P) {m : Nat} (hm : m ∈ B.G.egr a) :
    let P' := markStep B.orN P m
    PInv T F B cur (some a) P' ∧ Shr P P' ∧ Marked B P'.useful m := by
  obtain ⟨p, hmp, htp⟩ := hS.andEgr a t m ha hm
  unfold markStep
  rw [stateOf_eq hS hmp]
  split
  · next hc => exact ⟨hI, Shr.refl _, p, hmp, List.contains_iff_mem.mp hc⟩
  · exact ⟨hI.push hS hmp (usefulTD_intro (hS.reach m p hmp) htp hall) (fun s => by simp),
      ⟨fun _ _ h => h, fun s hs => List.mem_append_left _ hs⟩, p, hmp, by simp⟩

theorem markFold_inv (hS : Spec T F B) {cur : Option Nat} {a : Nat} {t : List Nat} (ha : (a, t) ∈ B.andN)
    (hall : ∀ s, s ∈ t → s ∈ usefulTD T F) (l : List Nat) {P : Mark} (hI : PInv T F B cur (some a) P)
    (hl : ∀ m, m ∈ l → m ∈ B.G.egr a) :
    let P' := l.foldl (markStep B.orN) P
    PInv T F B cur (some a) P' ∧ Shr P P' ∧ ∀ m, m ∈ l → Marked B P'.useful m := by
  induction l generalizing P with
  | nil => exact ⟨hI, Shr.refl _, fun _ h => nomatch h⟩
  | cons m l ih =>
    obtain ⟨h1, h2, h3⟩ := markStep_inv hS ha hall hI (hl m List.mem_cons_self)
    obtain ⟨k1, k2, k3⟩ := ih h1 (fun m' hm' => hl m' (List.mem_cons_of_mem _ hm'))
    refine ⟨k1, h2.trans k2, fun m' hm' => ?_⟩
    rcases List.mem_cons.mp hm' with rfl | hm'
    · exact h3.mono k2.2
    · exact k3 m' hm'

theorem PInv.closeEx {cur : Option Nat} {a : Nat} {P : Mark} (hI : PInv T F B cur (some a) P)
    (h : P.G.ing a = [] → ∀ m, m ∈ B.G.egr a → Marked B P.useful m) : PInv T F B cur none P :=
  { hI with
    sat := fun a' t' h1 _ h3 m h4 => by
      by_cases e : a' = a
      · exact h (e ▸ h3) m (e ▸ h4)
      · exact hI.sat a' t' h1 (by simpa using e) h3 m h4 }

/-- `GetIngress(a).erase(node)` for the popped `node`, whose state is useful -/
theorem PInv.eraseIng {node s0 : Nat} {P : Mark} (hI : PInv T F B (some node) none P) (hnode : (node, s0) ∈ B.orN)
    (hs0 : s0 ∈ P.useful) (a : Nat) : PInv T F B (some node) (some a) { P with G := P.G.eraseIng a node } :=
  { hI with
    subI := fun x m hm => hI.subI x m (mem_ing_eraseIng.mp hm).1
    erI := fun a' t' m h1 h2 => (hI.erI a' t' m h1 h2).elim (fun h => by
      by_cases e : a' = a ∧ m = node
      · exact Or.inr ⟨s0, e.2 ▸ hnode, hs0⟩
      · exact Or.inl (mem_ing_eraseIng.mpr ⟨h, e⟩)) Or.inr
    sat := fun a' t' h1 h2 h3 m h4 => by
      have e : a' ≠ a := fun e => h2 (by rw [e])
      have h3' : (if a' = a then (P.G.ing a').filter (fun y => y != node) else P.G.ing a') = [] := h3
      exact hI.sat a' t' h1 (by simp) (by rwa [if_neg e] at h3') m h4
    popped := fun m s h1 h2 =>
      (hI.popped m s h1 h2).imp_right (Or.imp_right fun h a' ha' hm => h a' ha' (mem_ing_eraseIng.mp hm).1) }

theorem satisfyStep_inv (hS : Spec T F B) {node s0 : Nat} (hnode : (node, s0) ∈ B.orN) {P : Mark}
    (hI : PInv T F B (some node) none P) (hs0 : s0 ∈ P.useful) {a : Nat} (ha : a ∈ B.G.egr node) :
    let P' := satisfyStep B.orN node P a
    PInv T F B (some node) none P' ∧ Shr P P' ∧ node ∉ P'.G.ing a := by
  obtain ⟨t, hat⟩ := hS.orEgr node s0 a hnode ha
  have hI1 := hI.eraseIng hnode hs0 a
  have hsub : ∀ x m, m ∈ (P.G.eraseIng a node).ing x → m ∈ P.G.ing x := fun x m hm => (mem_ing_eraseIng.mp hm).1
  have hnot : node ∉ (P.G.eraseIng a node).ing a := fun h => (mem_ing_eraseIng.mp h).2 ⟨rfl, rfl⟩
  unfold satisfyStep
  dsimp only
  split
  · next hem =>
    have hnil : (P.G.eraseIng a node).ing a = [] := List.isEmpty_iff.mp hem
    -- all inputs of `a` are erased, so the states of the tuple are useful
    have hall : ∀ s, s ∈ t → s ∈ usefulTD T F := by
      intro s hs
      obtain ⟨m, hms, hma⟩ := hS.andFull a t s hat hs
      rcases hI1.erI a t m hat hma with h | ⟨s', h1, h2⟩
      · rw [show ({ P with G := P.G.eraseIng a node } : Mark).G.ing a = [] from hnil] at h
        cases h
      · exact hS.orFun m s s' hms h1 ▸ hI.sound s' h2
    obtain ⟨k1, k2, k3⟩ := markFold_inv hS hat hall ((P.G.eraseIng a node).egr a) hI1 (hI.subE a)
    refine ⟨k1.closeEx fun _ m hm => ?_, ⟨fun x m hm => hsub x m (k2.1 x m hm), k2.2⟩, ?_⟩
    · exact (hI1.erE a t m hat hm).elim (k3 m) (Marked.mono k2.2)
    · rw [markFold_graph]; exact hnot
  · next hem =>
    exact ⟨hI1.closeEx fun h => absurd (List.isEmpty_iff.mpr h) hem, ⟨hsub, fun s hs => hs⟩, hnot⟩

theorem satisfyFold_inv (hS : Spec T F B) {node s0 : Nat} (hnode : (node, s0) ∈ B.orN) (l : List Nat) {P : Mark}
    (hI : PInv T F B (some node) none P) (hs0 : s0 ∈ P.useful) (hl : ∀ a, a ∈ l → a ∈ B.G.egr node) :
    let P' := l.foldl (satisfyStep B.orN node) P
    PInv T F B (some node) none P' ∧ Shr P P' ∧ ∀ a, a ∈ l → node ∉ P'.G.ing a := by
  induction l generalizing P with
  | nil => exact ⟨hI, Shr.refl _, fun _ h => nomatch h⟩
  | cons a l ih =>
    obtain ⟨h1, h2, h3⟩ := satisfyStep_inv hS hnode hI hs0 (hl a List.mem_cons_self)
    obtain ⟨k1, k2, k3⟩ := ih h1 (h2.2 _ hs0) (fun a' ha' => hl a' (List.mem_cons_of_mem _ ha'))
    refine ⟨k1, h2.trans k2, fun a' ha' => ?_⟩
    rcases List.mem_cons.mp ha' with rfl | ha'
    · exact fun h => h3 (k2.1 _ _ h)
    · exact k3 a' ha'

/-- the first loop of a round, `for (a : GetIngress(node)) GetEgress(a).erase(node)` for the popped `node`: the edges that
go lead to a node whose state is useful -/
theorem PInv.eraseEgr (hS : Spec T F B) {node s0 : Nat} (hnode : (node, s0) ∈ B.orN) {P : Mark}
    (hI : PInv T F B (some node) none P) (hs0 : s0 ∈ P.useful) {l : List Nat} (hl : ∀ a, a ∈ l → a ∈ B.G.ing node)
    {G : Graph} (hi : G.ing = P.G.ing) (he : ∀ n m, m ∈ G.egr n ↔ m ∈ P.G.egr n ∧ ¬ (n ∈ l ∧ m = node)) :
    PInv T F B (some node) none { P with G := G } := by
  obtain ⟨sz, ing, egr⟩ := G
  subst hi
  exact { hI with
    subE := fun x m hm => hI.subE x m ((he x m).mp hm).1
    orE := fun n s a hn ha => (he n a).mpr ⟨hI.orE n s a hn ha, fun k =>
      (hS.orIng node s0 n hnode (hl n k.1)).elim fun t => hS.disj n s t hn⟩
    erE := fun a t m h1 h2 => (hI.erE a t m h1 h2).elim (fun h => by
      by_cases e : m = node
      · exact Or.inr ⟨s0, e ▸ hnode, hs0⟩
      · exact Or.inl ((he a m).mpr ⟨h, fun k => e k.2⟩)) Or.inr }

theorem popStep_inv (hS : Spec T F B) {node s0 : Nat} (hnode : (node, s0) ∈ B.orN) {P : Mark}
    (hI : PInv T F B (some node) none P) (hs0 : s0 ∈ P.useful) :
    PInv T F B none none (popStep B.orN node P) ∧ Shr P (popStep B.orN node P) := by
  obtain ⟨e1, e2, _⟩ := foldl_eraseEgr node (P.G.ing node) P.G
  have h1 := hI.eraseEgr hS hnode hs0 (hI.subI node) e1 e2
  obtain ⟨k1, k2, k3⟩ := satisfyFold_inv hS hnode _ h1 hs0 (fun a ha => hI.subE node a ((e2 node a).mp ha).1)
  refine ⟨{ k1 with popped := fun m s h2 h3 => ?_ }, fun x m hm => e1 ▸ k2.1 x m hm, k2.2⟩
  rcases k1.popped m s h2 h3 with h | h | h
  · exact Or.inl h
  · cases h
    exact Or.inr (Or.inr fun a ha => k3 a (h1.orE node s0 a hnode ha))
  · exact Or.inr (Or.inr h)

theorem propLoop_nil (orN : List (Nat × Nat)) (fuel : Nat) {P : Mark} (h : P.stk = []) : propLoop orN fuel P = some P := by
  rw [propLoop]; simp only [h]

theorem propLoop_zero (orN : List (Nat × Nat)) {P : Mark} {node : Nat} {stk : List Nat} (h : P.stk = node :: stk) :
    propLoop orN 0 P = none := by
  rw [propLoop]; simp only [h]

theorem propLoop_succ (orN : List (Nat × Nat)) (fuel : Nat) {P : Mark} {node : Nat} {stk : List Nat} (h : P.stk = node :: stk) :
    propLoop orN (fuel + 1) P = propLoop orN fuel (popStep orN node { P with stk := stk }) := by
  rw [propLoop]; simp only [h]

theorem propLoop_inv (hS : Spec T F B) {fuel : Nat} {P P' : Mark} (hI : PInv T F B none none P)
    (h : propLoop B.orN fuel P = some P') : PInv T F B none none P' ∧ P'.stk = [] ∧ Shr P P' := by
  induction fuel generalizing P with
  | zero =>
    cases hs : P.stk with
    | nil => rw [propLoop_nil _ _ hs] at h; cases h; exact ⟨hI, hs, Shr.refl _⟩
    | cons node stk => rw [propLoop_zero _ hs] at h; cases h
  | succ fuel ih =>
    cases hs : P.stk with
    | nil => rw [propLoop_nil _ _ hs] at h; cases h; exact ⟨hI, hs, Shr.refl _⟩
    | cons node stk =>
      rw [propLoop_succ _ _ hs] at h
      obtain ⟨s0, hnode, hs0⟩ := hI.stkU node (hs ▸ List.mem_cons_self)
      have hI' : PInv T F B (some node) none { P with stk := stk } :=
        { hI with
          stkU := fun m hm => hI.stkU m (hs ▸ List.mem_cons_of_mem _ hm)
          popped := fun m s h1 h2 => by
            rcases hI.popped m s h1 h2 with h | h | h
            · rcases List.mem_cons.mp (hs ▸ h) with rfl | h
              · exact Or.inr (Or.inl rfl)
              · exact Or.inl h
            · cases h
            · exact Or.inr (Or.inr h) }
      obtain ⟨k1, k2⟩ := popStep_inv hS hnode hI' hs0
      obtain ⟨j1, j2, j3⟩ := ih k1 h
      exact ⟨j1, j2, Shr.trans (P' := { P with stk := stk }) (Shr.refl _) (k2.trans j3)⟩

theorem initFold_inv (hS : Spec T F B) (l : List Nat) {P : Mark} (hI : PInv T F B none none P)
    (hl : ∀ n, n ∈ l → n ∈ B.term) :
    let P' := l.foldl (fun P n => { P with stk := n :: P.stk, useful := ins (stateOf B.orN n) P.useful }) P
    PInv T F B none none P' ∧ Shr P P' ∧ ∀ n, n ∈ l → Marked B P'.useful n := by
  induction l generalizing P with
  | nil => exact ⟨hI, Shr.refl _, fun _ h => nomatch h⟩
  | cons n l ih =>
    obtain ⟨p, hnp, hnil⟩ := hS.termOk n (hl n List.mem_cons_self)
    have hI1 := hI.push hS hnp (usefulTD_intro (hS.reach n p hnp) hnil (fun _ h => nomatch h))
      (U := ins (stateOf B.orN n) P.useful) (fun s => stateOf_eq hS hnp ▸ mem_ins)
    obtain ⟨k1, k2, k3⟩ := ih hI1 (fun n' hn' => hl n' (List.mem_cons_of_mem _ hn'))
    have hsh : Shr P ⟨P.G, n :: P.stk, ins (stateOf B.orN n) P.useful⟩ :=
      ⟨fun _ _ h => h, fun s hs => mem_ins.mpr (Or.inl hs)⟩
    refine ⟨k1, hsh.trans k2, fun n' hn' => ?_⟩
    rcases List.mem_cons.mp hn' with rfl | hn'
    · exact ⟨p, hnp, k2.2 p (stateOf_eq hS hnp ▸ mem_ins.mpr (Or.inr rfl))⟩
    · exact k3 n' hn'

theorem spec_reach_complete (hS : Spec T F B) {q : Nat} (hq : q ∈ tdReach (skelTD T F)) : ∃ n, (n, q) ∈ B.orN :=
  tdReach_least (S := fun q => ∃ n, (n, q) ∈ B.orN) hS.fin (fun r hr ⟨n, hnp⟩ k hk => by
    obtain ⟨a, hat, _⟩ := (hS.done n _ _ hnp (skelTD_rule_inv hr)).2 (List.ne_nil_of_mem hk)
    obtain ⟨m, hm, _⟩ := hS.andFull a _ k hat hk
    exact ⟨m, hm⟩) q hq

/-- **the propagation as coded computes `usefulTD`**: for a graph that meets `Spec`, every result of the loop is, as a
set, the set of productive states of the top-down reachable part of the skeleton -/
theorem propLoop_correct (hS : Spec T F B) {fuel : Nat} {P : Mark} (h : propLoop B.orN fuel (initMark B) = some P) (q : Nat) :
    q ∈ P.useful ↔ q ∈ usefulTD T F := by
  have h0 : PInv T F B none none ⟨B.G, [], []⟩ :=
    { stkU := fun _ hm => (nomatch hm), sound := fun _ hs => (nomatch hs), subI := fun _ _ h => h, subE := fun _ _ h => h,
      orE := fun _ _ _ _ h => h, erI := fun _ _ _ _ h => Or.inl h, erE := fun _ _ _ _ h => Or.inl h,
      sat := fun a t h1 _ h3 => absurd h3 (hS.ing_ne_nil h1), popped := fun _ _ _ h2 => (nomatch h2) }
  obtain ⟨i1, _, i3⟩ := initFold_inv hS B.term h0 (fun _ h => h)
  obtain ⟨j1, j2, j3⟩ := propLoop_inv hS i1 h
  refine ⟨j1.sound q, prodStates_least (S := (· ∈ P.useful)) (fun r hr hk => ?_) q⟩
  obtain ⟨hr1, hr2⟩ := mem_rules_removeUnreachable.mp hr
  obtain ⟨n, hnp⟩ := spec_reach_complete hS hr2
  have hd := hS.done n _ _ hnp (skelTD_rule_inv hr1)
  -- the OR node of the parent is marked: as a terminal node, or as an output of the AND node of the tuple
  suffices hm : Marked B P.useful n by
    obtain ⟨s, h1, h2⟩ := hm
    exact hS.orFun n _ s hnp h1 ▸ h2
  by_cases hne : r.kids = []
  · exact (i3 n (hd.1 hne)).mono j3.2
  · obtain ⟨a, hat, hna⟩ := hd.2 hne
    refine j1.sat a _ hat (by simp) (List.eq_nil_iff_forall_not_mem.mpr fun m hm => ?_) n hna
    -- an input of the AND node that is left belongs to a kid, whose state is useful and whose node was popped
    have hm0 := j1.subI a m hm
    obtain ⟨s, hs, hms⟩ := hS.andIng a _ m hat hm0
    rcases j1.popped m s hms (hk s hs) with h' | h' | h'
    · exact nomatch j2 ▸ h'
    · cases h'
    · exact h' a (hS.sym a _ m hat hm0) hm

end BddTrimCoded
end Vata
