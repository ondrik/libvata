import Vata.Proofs.UnionStoreCodedOps
import Vata.Proofs.UnionStoreCodedOrder
/-!
# C02 (with C11 / C14) – `Union`, `UnionDisjointStates`, `Intersection` of the explicit tree automata AS CODED on the rule store

> (C02) The automaton returned by Union accepts exactly the union of the two operand languages and the automaton returned by
> Intersection accepts exactly their intersection; the returned state-translation maps are injective and describe the result
> (a rule is in the result iff it is the image of an operand rule / of a pair of matching operand rules).
> (C14) `ReindexStates` returns exactly the image of the automaton under the translator.
> (C11) An operation changes only its result object.

## How the C++ is read into the model (`Vata/UnionStoreCoded.lean`)

* `unionStoreCoded A B mL mR` is `Union(lhs, rhs, &mL, &mR)` on `Vata.Store` values: the start value of the ONE counter
  (`unionCnt`, the two `std::max` loops of the repaired code), a fresh empty `res`, then literally two
  `reindexInto (weakT .counter) … true` calls (`Vata/RenameCoded.lean`, the loop-by-loop model of `ReindexStates(dst, index)`)
  into the SAME destination; the second translator starts with the counter the first one left (`[&stateCnt]`).  Returned:
  `res`, `*pTranslMapLhs`, `*pTranslMapRhs`.  The list order of the operand stores is the iteration order of the hash containers:
  every theorem holds for every order.  `unionStoreCodedOld` (counter from `0`, the code before D11) and
  `unionStoreCodedTwoCounters` (a seeded slip) are visibly different models and are refuted below.
* `unionDisjStoreCoded A B` is `UnionDisjointStates` with `NDEBUG`: `res(lhs)`, `unordered_map::insert(first, last)` of the
  right clusters – an element whose key is present is NOT inserted –, `unordered_set::insert` of the final states;
  `unionDisjStoreCodedDbg` evaluates the two `assert`s.
* `isectStoreCoded A B fuel` is `Intersection`: the final pairs numbered and pushed, `SetStateFinal` for each; the LIFO work-list;
  per popped pair the pairs of matching rules (`isectMatching`: left cluster × right cluster, same symbol), the children numbered by
  `pTranslMap->insert(…, size())` left to right and pushed when new, then ONE insert into the result store (`addTransition`, the
  `res.AddTransition(children, f, p->second)` the source keeps as a comment next to its inlined form).  Fuel: `none` when it runs
  out; `isectStoreCodedRef` uses the bound `|Q_A|·|Q_B| + 1`, proved sufficient (`C02_store_isect_total`).
* Abstracted: `shared_ptr` sharing of clusters between `lhs`, `rhs` and the result of `UnionDisjointStates` (that is
  `Vata/CowHeapX.lean`, `unionDisj`), the alphabet pointer, the tuple cache; in `Intersection` the lookup of the operand clusters is
  a filter of the rule list the iterator yields (`isectMatching`), and the creation of the result cluster / tuple set BEFORE the
  tuple loops (`uniqueCluster`, `uniqueTuplePtrSet`) is folded into the insert (it cannot leave an empty container: the C++ asserts
  equal arities and under `Store.Inv` both tuple sets are non-empty).
-/
namespace Vata.Props
open Vata.Store Vata.RenameCoded Vata.UnionStoreCoded

/-! ## 1. `Union` -/

/-- `Union` on the store against the relation-level model, for ALL stores and ALL pre-filled maps: the two maps the caller gets
back are EQUAL (as association lists in insertion order) to those of `unionModelOrd` for the visiting orders `lookupOrder`; the
rules the iterator of the result yields and its final states are those of the model's automaton (as sets); the result satisfies
the weak invariant and yields each rule once. -/
theorem C02_store_union_eq_model (A B : Store) (mL mR : SMap) :
    (unionStoreCoded A B mL mR).2 =
      (unionModelOrd (lookupOrder A true) (lookupOrder B true) (toTA A) (toTA B) mL mR).2 ∧
    (∀ x, x ∈ iterate (unionStoreCoded A B mL mR).1 ↔
      x ∈ (unionModelOrd (lookupOrder A true) (lookupOrder B true) (toTA A) (toTA B) mL mR).1.rules) ∧
    (∀ q, q ∈ (unionStoreCoded A B mL mR).1.final ↔
      q ∈ (unionModelOrd (lookupOrder A true) (lookupOrder B true) (toTA A) (toTA B) mL mR).1.final) ∧
    WInv (unionStoreCoded A B mL mR).1 ∧ (iterate (unionStoreCoded A B mL mR).1).Nodup :=
  union_store_sets A B mL mR

/-- for operands satisfying the store invariant the comparison is with `unionModel` ITSELF (its list order `visitOrder`: per rule
the parent, then the children): the parent the store code looks up once per cluster is, in the model's order, looked up again
before every rule of the cluster, which a weak translator ignores – the maps are EQUAL, rules and final states equal as sets -/
theorem C02_store_union_eq_unionModel (A B : Store) (mL mR : SMap) (hA : Inv A) (hB : Inv B) :
    (unionStoreCoded A B mL mR).2 = (unionModel (toTA A) (toTA B) mL mR).2 ∧
    (∀ x, x ∈ iterate (unionStoreCoded A B mL mR).1 ↔ x ∈ (unionModel (toTA A) (toTA B) mL mR).1.rules) ∧
    (∀ q, q ∈ (unionStoreCoded A B mL mR).1.final ↔ q ∈ (unionModel (toTA A) (toTA B) mL mR).1.final) := by
  obtain ⟨h1, h2, h3, _⟩ := union_store_sets A B mL mR
  rw [unionModelOrd_lookupOrder_eq A B mL mR hA hB] at h1 h2 h3
  exact ⟨h1, h2, h3⟩

/-- the rules of the result, spelled out: a rule is in the result iff it is the image of a rule of the left operand under the
returned left map or of a rule of the right operand under the returned right map; likewise the final states -/
theorem C02_store_union_image (A B : Store) (mL mR : SMap) :
    (∀ x, x ∈ iterate (unionStoreCoded A B mL mR).1 ↔
      (∃ r, r ∈ iterate A ∧ x = mapRule (applyMap (unionStoreCoded A B mL mR).2.1) r) ∨
      (∃ r, r ∈ iterate B ∧ x = mapRule (applyMap (unionStoreCoded A B mL mR).2.2) r)) ∧
    (∀ q, q ∈ (unionStoreCoded A B mL mR).1.final ↔
      (∃ p, p ∈ A.final ∧ q = applyMap (unionStoreCoded A B mL mR).2.1 p) ∨
      (∃ p, p ∈ B.final ∧ q = applyMap (unionStoreCoded A B mL mR).2.2 p)) := by
  obtain ⟨h1, h2, h3, _⟩ := union_store_sets A B mL mR
  rw [h1]
  constructor
  · intro x
    rw [h2]
    simp only [unionModelOrd, unionWith, reindex, List.mem_append, List.mem_map, toTA, @eq_comm _ x]
  · intro q
    rw [h3]
    simp only [unionModelOrd, unionWith, reindex, List.mem_append, List.mem_map, toTA, @eq_comm _ q]

/-- the returned maps: they extend the pre-filled ones and are defined on every state of their operand (no hypothesis); if the
pre-filled maps are injective with disjoint images so are the returned ones, and they are injective on / have disjoint images of
the operands' states -/
theorem C02_store_union_maps (A B : Store) (mL mR : SMap) :
    (Um.Ext mL (unionStoreCoded A B mL mR).2.1 ∧ Um.Ext mR (unionStoreCoded A B mL mR).2.2) ∧
    ((∀ q, q ∈ (toTA A).states → ∃ n, (unionStoreCoded A B mL mR).2.1.lookup q = some n) ∧
      (∀ q, q ∈ (toTA B).states → ∃ n, (unionStoreCoded A B mL mR).2.2.lookup q = some n)) ∧
    (Um.Inj mL → Um.Inj mR → Um.Disj mL mR →
      Um.Inj (unionStoreCoded A B mL mR).2.1 ∧ Um.Inj (unionStoreCoded A B mL mR).2.2 ∧
      Um.Disj (unionStoreCoded A B mL mR).2.1 (unionStoreCoded A B mL mR).2.2 ∧
      InjOnStates (applyMap (unionStoreCoded A B mL mR).2.1) (toTA A) ∧
      InjOnStates (applyMap (unionStoreCoded A B mL mR).2.2) (toTA B) ∧
      (∀ q q', q ∈ (toTA A).states → q' ∈ (toTA B).states →
        applyMap (unionStoreCoded A B mL mR).2.1 q ≠ applyMap (unionStoreCoded A B mL mR).2.2 q')) := by
  rw [(union_store_sets A B mL mR).1]
  refine ⟨unionModelOrd_maps_ext _ _ _ _ mL mR,
    unionModelOrd_maps_total _ _ _ _ mL mR (states_sub_lookupOrder A) (states_sub_lookupOrder B), ?_⟩
  intro hL hR hD
  obtain ⟨i1, i2, i3⟩ := unionModelOrd_maps_inj (lookupOrder A true) (lookupOrder B true) (toTA A) (toTA B) mL mR hL hR hD
  obtain ⟨j1, j2, j3⟩ := unionModelOrd_maps_ok (lookupOrder A true) (lookupOrder B true) (toTA A) (toTA B) mL mR
    (states_sub_lookupOrder A) (states_sub_lookupOrder B) hL hR hD
  exact ⟨i1, i2, i3, j1, j2, j3⟩

/-- the language of `Union` on the store: for ALL operand stores (overlapping state numbers, any container order, even stores
violating the invariant) and all pre-filled maps that are injective with disjoint images (`[]`, `[]` is the common call; the maps
a previous `Union` returned qualify by `C02_store_union_maps`) the result accepts exactly the union -/
theorem C02_store_union_lang (A B : Store) (mL mR : SMap) (hL : Um.Inj mL) (hR : Um.Inj mR) (hD : Um.Disj mL mR) (t : Tree) :
    accepts (toTA (unionStoreCoded A B mL mR).1) t = (accepts (toTA A) t || accepts (toTA B) t) := by
  obtain ⟨_, h2, h3, _⟩ := union_store_sets A B mL mR
  rw [Isx.accepts_congr_sets (P := toTA (unionStoreCoded A B mL mR).1) h2 h3 t]
  exact unionModelOrd_lang _ _ _ _ mL mR (states_sub_lookupOrder A) (states_sub_lookupOrder B) hL hR hD t

/-- `Store.Inv` of the result (keys unique on both levels, NO empty cluster, NO empty tuple set, no duplicate tuple / final state)
for operands satisfying it – for all maps -/
theorem C02_store_union_inv (A B : Store) (mL mR : SMap) (hA : Inv A) (hB : Inv B) : Inv (unionStoreCoded A B mL mR).1 := by
  simp only [unionStoreCoded]
  exact weak_run_inv B _ mR _ hB (weak_run_inv A empty mL _ hA inv_empty)

/-- (C14, closes the first open item of `C14_Coded`) one `src.ReindexStates(dst, weak translator)` with a source that has no empty
cluster / tuple set leaves EXACTLY `dst` with the translated final states inserted and the translated rules added one by one in
iteration order: the `uniqueCluster` / `uniqueTuplePtrSet` calls are absorbed by the following insert; hence `Store.Inv` is kept -/
theorem C14_store_reindex_weak_exact (src dst : Store) (m : SMap) (c : Nat) (hs : Inv src) :
    (reindexInto (weakT .counter) src dst ⟨m, c⟩ true).dst =
      ((iterate src).map (mapRule (gd (fun k => (weakTrAll (lookupOrder src true) m c).1.lookup k)))).foldl addTransition
        (setFinals dst (src.final.map (gd (fun k => (weakTrAll (lookupOrder src true) m c).1.lookup k)))) ∧
    (Inv dst → Inv (reindexInto (weakT .counter) src dst ⟨m, c⟩ true).dst) :=
  ⟨weak_run_exact src dst m c (noEmpty_of_inv hs), fun hd => weak_run_inv src dst m c hs hd⟩

/-! ### non-vacuity, regressions, the hypotheses cannot be dropped -/
namespace StoreUnionEx

/-- `a → 5`, `h(5) → 6`; final `6` -/
def sA : Store := ⟨[(5, [(0, [[]])]), (6, [(2, [[5]])])], [6]⟩
/-- `b → 9`; final `9` – and the same automaton on the state number `5` (overlapping numbers) -/
def sB : Store := ⟨[(9, [(1, [[]])])], [9]⟩
def sB5 : Store := ⟨[(5, [(1, [[]])])], [5]⟩
def tA : Tree := .node 0 []
def tB : Tree := .node 1 []
def tHA : Tree := .node 2 [.node 0 []]
def tHB : Tree := .node 2 [.node 1 []]

example : invB sA = true ∧ invB sB = true ∧ invB sB5 = true := by decide
-- the final state is looked up first
example : unionStoreCoded sA sB [] [] =
    (⟨[(1, [(0, [[]])]), (0, [(2, [[1]])]), (2, [(1, [[]])])], [0, 2]⟩, [(6, 0), (5, 1)], [(9, 2)]) := by decide +kernel
-- overlapping state numbers, pre-filled left map: the counter starts above it
example : unionStoreCoded sA sB5 [(5, 0), (6, 1)] [] =
    (⟨[(0, [(0, [[]])]), (1, [(2, [[0]])]), (2, [(1, [[]])])], [1, 2]⟩, [(5, 0), (6, 1)], [(5, 2)]) := by decide +kernel
example : accepts (toTA (unionStoreCoded sA sB5 [(5, 0), (6, 1)] []).1) tHA = true ∧
    accepts (toTA (unionStoreCoded sA sB5 [(5, 0), (6, 1)] []).1) tB = true ∧
    accepts (toTA (unionStoreCoded sA sB5 [(5, 0), (6, 1)] []).1) tA = false ∧
    accepts (toTA (unionStoreCoded sA sB5 [(5, 0), (6, 1)] []).1) tHB = false := by decide +kernel
example (t : Tree) : accepts (toTA (unionStoreCoded sA sB5 [(5, 0), (6, 1)] []).1) t = (accepts (toTA sA) t || accepts (toTA sB5) t) :=
  C02_store_union_lang sA sB5 _ _ (smapInjB_sound (by decide)) Um.inj_nil (Um.disj_nil_right _) t

/-- regression (D11): the code before the repair starts the counter at `0`; with the caller's map `5 ↦ 0, 6 ↦ 1` the state of the
right operand gets the number `0` as well and the result accepts `h(b)`, which is in neither language -/
theorem old_code_refuted :
    (unionStoreCodedOld sA sB5 [(5, 0), (6, 1)] []).2 = ([(5, 0), (6, 1)], [(5, 0)]) ∧
    accepts (toTA (unionStoreCodedOld sA sB5 [(5, 0), (6, 1)] []).1) tHB = true ∧
    accepts (toTA sA) tHB = false ∧ accepts (toTA sB5) tHB = false := by decide +kernel

/-- a seeded slip – one counter PER translator – is refuted without any pre-filled map -/
theorem two_counters_refuted :
    (unionStoreCodedTwoCounters sA sB [] []).2 = ([(6, 0), (5, 1)], [(9, 0)]) ∧
    accepts (toTA (unionStoreCodedTwoCounters sA sB [] []).1) tB = true ∧
    accepts (toTA (unionStoreCodedTwoCounters sA sB [] []).1) tHB = false ∧
    accepts (toTA (unionStoreCodedTwoCounters sA sB [] []).1) (.node 2 [.node 2 [.node 0 []]]) = false ∧
    (toTA (unionStoreCodedTwoCounters sA sB [] []).1).final = [0] ∧
    (toTA (unionStoreCoded sA sB [] []).1).final = [0, 2] := by decide +kernel

/-- the hypothesis `Um.Disj mL mR` of `C02_store_union_lang` cannot be dropped (it is the API precondition on caller-supplied maps):
with `5 ↦ 0` on the left and `9 ↦ 0` on the right (each map injective) the two operands are merged and `h(b)` is accepted -/
theorem union_disj_needed :
    smapInjB [(5, 0), (6, 1)] = true ∧ smapInjB [(9, 0)] = true ∧ smapDisjB [(5, 0), (6, 1)] [(9, 0)] = false ∧
    accepts (toTA (unionStoreCoded sA sB [(5, 0), (6, 1)] [(9, 0)]).1) tHB = true ∧
    accepts (toTA sA) tHB = false ∧ accepts (toTA sB) tHB = false := by decide +kernel

/-- … and neither can injectivity: `5 ↦ 0, 6 ↦ 0` collapses the left operand, `h(h(a))` is accepted -/
theorem union_inj_needed :
    smapInjB [(5, 0), (6, 0)] = false ∧
    accepts (toTA (unionStoreCoded sA sB [(5, 0), (6, 0)] []).1) (.node 2 [.node 2 [.node 0 []]]) = true ∧
    accepts (toTA sA) (.node 2 [.node 2 [.node 0 []]]) = false ∧
    accepts (toTA sB) (.node 2 [.node 2 [.node 0 []]]) = false := by decide +kernel

end StoreUnionEx

/-! ## 2. `UnionDisjointStates` -/

/-- `UnionDisjointStates` for operands that satisfy the store invariant and have DISJOINT state sets (the API precondition): the
result is the concatenation of the cluster maps and final-state sets, satisfies the invariant, both `assert`s hold, and it accepts
exactly the union of the languages -/
theorem C02_store_uniondisj_lang (A B : Store) (hA : Inv A) (hB : Inv B)
    (hdis : ∀ q, q ∈ (toTA A).states → q ∉ (toTA B).states) :
    unionDisjStoreCoded A B = ⟨A.clusters ++ B.clusters, A.final ++ B.final⟩ ∧
    toTA (unionDisjStoreCoded A B) = unionDisjoint (toTA A) (toTA B) ∧
    Inv (unionDisjStoreCoded A B) ∧ unionDisjStoreCodedDbg A B = some (unionDisjStoreCoded A B) ∧
    (∀ t, accepts (toTA (unionDisjStoreCoded A B)) t = (accepts (toTA A) t || accepts (toTA B) t)) := by
  have he := unionDisj_eq A B hA hB hdis
  have ht : toTA (unionDisjStoreCoded A B) = unionDisjoint (toTA A) (toTA B) := by
    rw [he]
    simp [toTA, unionDisjoint, iterate, List.flatMap_append]
  refine ⟨he, ht, unionDisj_inv A B hA hB hdis, ?_, ?_⟩
  · unfold unionDisjStoreCodedDbg unionDisjAssertsB
    rw [he]
    simp
  · intro t
    rw [ht]
    exact unionDisjoint_lang _ _ hdis t

namespace StoreUnionEx

example : ∀ q, q ∈ (toTA sA).states → q ∉ (toTA sB).states := by decide
example : unionDisjStoreCoded sA sB = ⟨[(5, [(0, [[]])]), (6, [(2, [[5]])]), (9, [(1, [[]])])], [6, 9]⟩ := by decide +kernel

/-- the precondition cannot be dropped: when the operands SHARE a parent state (`5`) `unordered_map::insert` keeps the LEFT cluster
and the rule `b → 5` of the right operand is lost: `b` is accepted by the right operand but not by the result.  The debug build
stops at the first `assert`; a release build (`NDEBUG`) returns the wrong automaton silently.  (The `operator[]`-style variant
that overwrites loses the LEFT rules instead.) -/
theorem C02_store_uniondisj_shared_parent_loses_rules :
    invB sA = true ∧ invB sB5 = true ∧
    unionDisjStoreCoded sA sB5 = ⟨[(5, [(0, [[]])]), (6, [(2, [[5]])])], [6, 5]⟩ ∧
    accepts (toTA sB5) tB = true ∧ accepts (toTA (unionDisjStoreCoded sA sB5)) tB = false ∧
    unionDisjStoreCodedDbg sA sB5 = none ∧
    accepts (toTA sA) tA = false ∧ accepts (toTA (unionDisjStoreCoded sA sB5)) tA = true ∧
    accepts (toTA (unionDisjStoreOverwrite sA sB5)) tHA = false := by decide +kernel

/-- the general `Union` handles the same operands correctly -/
example (t : Tree) : accepts (toTA (unionStoreCoded sA sB5 [] []).1) t = (accepts (toTA sA) t || accepts (toTA sB5) t) :=
  C02_store_union_lang sA sB5 [] [] Um.inj_nil Um.inj_nil (Um.disj_nil_left _) t

end StoreUnionEx

/-! ## 3. `Intersection` -/

/-- `Intersection` on the store IS the relation-level model `isectTD` with its rules added to the result store one by one in
discovery order (an EQUATION of stores, maps and failure); hence for a returned `(S, m)`: the same translation map, the iterator of
`S` yields exactly the model's rules, the final states are the model's, and `S` satisfies the store invariant -/
theorem C02_store_isect_eq_model (A B : Store) (fuel : Nat) :
    isectStoreCoded A B fuel =
      (isectTD (toTA A) (toTA B) fuel).map (fun r => (r.1.rules.foldl addTransition (setFinals empty r.1.final), r.2)) ∧
    ∀ S m, isectStoreCoded A B fuel = some (S, m) →
      ∃ P, isectTD (toTA A) (toTA B) fuel = some (P, m) ∧ Inv S ∧ (iterate S).Nodup ∧
        (∀ x, x ∈ iterate S ↔ x ∈ P.rules) ∧ (∀ q, q ∈ S.final ↔ q ∈ P.final) := by
  refine ⟨isectStoreCoded_eq A B fuel, fun S m h => ?_⟩
  obtain ⟨P, h1, _, h3, h4, h5⟩ := isectStoreCoded_spec h
  exact ⟨P, h1, h3, nodup_iterate h3, h4, h5⟩

/-- every answer of `Intersection` on the store accepts exactly the intersection, and its map is injective on its domain -/
theorem C02_store_isect_lang {A B : Store} {fuel : Nat} {S : Store} {m : PMap} (h : isectStoreCoded A B fuel = some (S, m)) :
    (∀ t, accepts (toTA S) t = (accepts (toTA A) t && accepts (toTA B) t)) ∧ InjOn (lookupF m) m.dom := by
  obtain ⟨P, h1, _, _, h4, h5⟩ := isectStoreCoded_spec h
  refine ⟨fun t => ?_, isectTD_map_inj h1⟩
  rw [Isx.accepts_congr_sets (P := toTA S) (Q := P) h4 h5 t]
  exact isectTD_lang h1 t

/-- totality: with the fuel `|Q_A|·|Q_B| + 1` there is always an answer -/
theorem C02_store_isect_total (A B : Store) : (isectStoreCodedRef A B).isSome = true := by
  unfold isectStoreCodedRef
  rw [isectStoreCoded_eq]
  have := isectTDRef_isSome (toTA A) (toTA B)
  unfold isectTDRef at this
  rw [Option.isSome_map]
  exact this

namespace StoreUnionEx
open IsectEx

/-- the stores of `IsectEx.exA`, `IsectEx.exB` -/
def iA : Store := ofTA exA
def iB : Store := ofTA exB

example : (toTA iA).rules = exA.rules ∧ (toTA iA).final = exA.final ∧ rulesEq (toTA iB).rules exB.rules = true ∧
    (toTA iB).final = exB.final ∧ invB iA = true ∧ invB iB = true := by decide +kernel
example : (isectStoreCoded iA iB 3).isNone = true := by decide +kernel
example : isectStoreCoded iA iB 4 =
    some (⟨[(0, [(2, [[1, 1], [2, 1]]), (3, [[3]])]), (3, [(3, [[0]])]), (1, [(0, [[]])])], [0]⟩,
      [((1, 1), 0), ((0, 0), 1), ((0, 1), 2), ((1, 2), 3)]) := by decide +kernel
example : ∃ S m, isectStoreCoded iA iB 4 = some (S, m) ∧ accepts (toTA S) exT = true ∧ accepts (toTA S) exT' = false := by
  cases h : isectStoreCoded iA iB 4 with
  | none => exact absurd h (by decide +kernel)
  | some r =>
    refine ⟨r.1, r.2, rfl, ?_, ?_⟩
    · rw [(C02_store_isect_lang h).1]; decide +kernel
    · rw [(C02_store_isect_lang h).1]; decide +kernel

end StoreUnionEx

/-!
## Hypotheses

* `Um.Inj mL`, `Um.Inj mR`, `Um.Disj mL mR` in `C02_store_union_lang`: the precondition on caller-supplied maps; satisfiable
  (`[]`/`[]`, the examples, and the maps any previous call returned – `C02_store_union_maps`); neither can be dropped
  (`union_disj_needed`, `union_inj_needed`).  `C02_store_union_eq_model`, `_image` and the `Ext` / totality part of `_maps` need NO
  hypothesis (any stores, any maps).
* `Inv A`, `Inv B` in `C02_store_union_inv` / `C14_store_reindex_weak_exact`: a source with an empty cluster makes `uniqueCluster`
  create an empty cluster in the result, so the full invariant of the result genuinely depends on that of the operands; `Inv` holds
  for every store built through the API (`store_inv`).
* `C02_store_uniondisj_lang`: `Inv A`, `Inv B` and disjoint state sets; the disjointness cannot be dropped
  (`C02_store_uniondisj_shared_parent_loses_rules`).
* `C02_store_isect_lang`: none beyond "the call returned" (`some`); `C02_store_isect_total` shows the fuel of `isectStoreCodedRef`
  always suffices.

## still not proved

* `C02_store_union_eq_unionModel` (equality with `unionModel`'s own list order) needs `Inv A`, `Inv B` (a store with an empty
  cluster looks up a parent the rule list does not mention); without them only the `lookupOrder` instance
  (`C02_store_union_eq_model`) is proved – all map / language properties are proved for that instance without any invariant.
* `UnionDisjointStates`: the pointer sharing between `rhs` and the result (a later in-place change through one of them) is outside
  this value-level model (it is the subject of `Vata/CowHeapX.lean`); the link between `unionDisjStoreCoded` and `CowHeapX.unionDisj`
  is not stated.
* `Intersection`: the operand-side lookups (`genericLookup` of the two clusters, of the right tuple set) are modelled by
  `isectMatching` on the iterated rule lists, not by store lookups; that the nested store loops enumerate the same pairs IN THE
  SAME ORDER (needed for the equality of the maps with the real C++ beyond the order parameter) is not proved.  The `uniqueCluster`
  / `uniqueTuplePtrSet` calls of `Intersection` before the tuple loops are folded into the insert (for tuple sets of mixed arity
  under one symbol the C++ would leave an empty tuple set where the model leaves none; the C++ `assert`s equal arities).
* The exact-fold theorem `C14_store_reindex_weak_exact` is stated for the weak counter translator with `addFinalStates = true` (what
  `Union` uses); the same proof (`RenameCoded.reindexInto_opt_value`) covers every lawful translator that does not throw, but the general
  statement is not exported.
-/
end Vata.Props
