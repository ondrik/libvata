import Vata.Proofs.RcStore
import Vata.Proofs.StoreRefine
/-!
# C18 – MTBDD nodes live exactly as long as something refers to them

> Across any sequence of creating, copying, assigning, combining and destroying MTBDDs, no MTBDD that is still alive ever
> changes the function it denotes, no node is released while a live MTBDD or node refers to it, and no node is released
> twice. Once every MTBDD created by construction, copy or apply has been destroyed, the process-wide node store is back
> to the size it had before.

(quantifier: *for all interleavings of construction, copy, assignment (including self-assignment), apply and destruction
of MTBDD handles sharing sub-graphs*)

## How the statement is read into the model

* **Model of the code.**  `RcS.Store` (`Vata/RcStore.lean`) is the process-wide node store of `OndriksMTBDD<T>`:
  `ids` = the nodes that are allocated now (ids are never re-used), `dat` = their contents (`.leaf v` or
  `.int lo hi var`), `rc` = the reference counters stored in the nodes, `leafT` / `intT` = the unique tables
  `leafCache_` / `internalCache_`, `hs` = the live `OndriksMTBDD` objects (handle name ↦ `root_`), and two ghost
  components: `freed` = the log of every `DeleteLeafNode` / `DeleteInternalNode`, `err` = "an `assert` of the C++ would
  have failed (counter underflow, `erase(...) != 1`, release of a node that is not allocated) or the model ran out of
  fuel".
* **Histories.**  `RcS.Op` has five constructors, each mirroring the C++ statement by statement:
  - `.construct h asgn v d` – `OndriksMTBDD h(asgn, v, d)` (`constructMTBDD`: `spawnLeaf`, `spawnInternal` per fixed
    position, disposal of an unused default leaf, `IncrementRefCnt(root)`);
  - `.copy src dst` – copy constructor `OndriksMTBDD dst(src)`;
  - `.assign src dst` – `dst = src` (`operator=`: self-assignment guard, `deleteMTBDD()`, take the root,
    `IncrementRefCnt`); `.assign h h` is the self-assignment of the statement;
  - `.apply a b dst` – `OndriksMTBDD dst = apply(a, b)` (`Apply2Functor::recDescend` without its memo table, spawning
    through the unique tables, then `IncrementRefCnt(root)`), with an **arbitrary** leaf operation `f : Nat → Nat → Nat`;
  - `.destroy h` – destructor (`deleteMTBDD` → `recursivelyDeleteMTBDDNode`: decrement, and at 0 erase from the unique
    table, delete, release both children).
  `RcS.runF f ops` is the store after executing the list `ops` from the empty store (process start) with leaf operation
  `f`.  An operation whose handles are not in the required state (e.g. copy from a dead handle, construct into a live
  one) is skipped, as such a program does not exist in C++; `Op.target` is the handle an operation writes, creates or
  destroys.  All theorems quantify over **all** `ops` and all `f`: this is "any sequence / all interleavings".
* **Specification notions.**  `RcS.denote s r ρ` = the value, under the total assignment `ρ`, of the diagram below node
  `r` (`M.eval` of the unfolding `RcS.unfold`): "the function an MTBDD denotes".  `RcS.indeg s n` = number of `low`/`high`
  fields of allocated inner nodes that hold `n`; `RcS.handlesTo s n` = number of live handles whose root is `n`;
  `RcS.Reach dat r n` = `n` is reachable from `r` along `low`/`high` edges; `RcS.tableSizes s` = (size of `leafCache_`,
  size of `internalCache_`) – "the size of the node store", the quantity the hook accessors of the harness report.
-/
namespace Vata.Props
open Vata.RcS

/-! ### the counting invariant behind everything else -/

/-- after every history: the counter of every allocated node is exactly the number of references to it (edges from
allocated inner nodes, `low` and `high` counted separately, plus live handles); every entry of either unique table points
to an allocated node with exactly that contents; and a node whose counter is 0 is referred to by nothing -/
theorem C18_refcount_invariant (f : Nat → Nat → Nat) (ops : List Op) :
    (∀ n, n ∈ (runF f ops).ids → (runF f ops).rc n = indeg (runF f ops) n + handlesTo (runF f ops) n) ∧
    (∀ v n, (v, n) ∈ (runF f ops).leafT → n ∈ (runF f ops).ids ∧ (runF f ops).dat n = .leaf v) ∧
    (∀ lo hi var n, ((lo, hi, var), n) ∈ (runF f ops).intT →
      n ∈ (runF f ops).ids ∧ (runF f ops).dat n = .int lo hi var) ∧
    (∀ n, n ∈ (runF f ops).ids → (runF f ops).rc n = 0 →
      n ∉ roots (runF f ops) ∧
      ∀ m, m ∈ (runF f ops).ids → ∀ lo hi var, (runF f ops).dat m = .int lo hi var → lo ≠ n ∧ hi ≠ n) :=
  rc_inv f ops

/-- the live handles after `Ex.ops`, with their roots -/
theorem C18_ex_hs : (runF applyOp Ex.ops).hs = [(0, 6), (4, 11), (2, 7), (1, 6)] := by decide +kernel

-- a history with sharing: 4 leaves, 6 inner nodes, 4 live handles, 2 nodes freed so far; node 1 (the leaf 0) is referred
-- to by three edges from inner nodes and by no handle, node 11 by one handle
example : tableSizes (runF applyOp Ex.ops) = (4, 6) ∧ (runF applyOp Ex.ops).hs.length = 4 ∧
    (runF applyOp Ex.ops).freed = [3, 8] := by decide +kernel
example : (runF applyOp Ex.ops).rc 1 = 3 ∧ indeg (runF applyOp Ex.ops) 1 = 3 ∧ handlesTo (runF applyOp Ex.ops) 1 = 0 ∧
    (runF applyOp Ex.ops).rc 11 = 1 ∧ handlesTo (runF applyOp Ex.ops) 11 = 1 := by decide +kernel

/-! ### "no node is released while a live MTBDD or node refers to it" -/

/-- after every history, every node reachable from the root of a live handle (i.e. referred to by a live MTBDD, or by a
node that is itself so referred to) is allocated and has never been deleted -/
theorem C18_no_premature_free (f : Nat → Nat → Nat) (ops : List Op) (h r : Nat) (hm : (h, r) ∈ (runF f ops).hs)
    (n : Nat) (hr : Reach (runF f ops).dat r n) : n ∈ (runF f ops).ids ∧ n ∉ (runF f ops).freed :=
  no_premature_free f ops h r hm n hr

-- handle 4 is live after `Ex.ops` (which contain destructors and an assignment that released nodes) and reaches the
-- leaf 1 through three inner nodes
example : (4, 11) ∈ (runF applyOp Ex.ops).hs := by rw [C18_ex_hs]; decide
example : Reach (runF applyOp Ex.ops).dat 11 1 :=
  have h : (runF applyOp Ex.ops).dat 11 = .int 10 6 2 ∧ (runF applyOp Ex.ops).dat 10 = .int 2 9 1 ∧
      (runF applyOp Ex.ops).dat 2 = .int 1 0 0 := by decide +kernel
  .lo (.lo (.lo .refl h.1) h.2.1) h.2.2

/-- between operations nothing is kept alive without a referrer either: no allocated node has counter 0 (together with
`C18_refcount_invariant`: every allocated node is referred to by a live handle or an allocated node) -/
theorem C18_no_garbage (f : Nat → Nat → Nat) (ops : List Op) (n : Nat) (hn : n ∈ (runF f ops).ids) :
    (runF f ops).rc n ≠ 0 := no_garbage f ops n hn

example : (runF applyOp Ex.ops).ids = [11, 10, 9, 7, 6, 5, 4, 2, 1, 0] := by decide +kernel

/-! ### "no node is released twice" -/

/-- after every history: the log of deletions has no duplicate, a deleted node is not allocated (ids are never re-used,
so it never is again), and no assertion of the code has failed – `refcnt > 0` before every decrement (no underflow),
exactly one entry erased from the unique table in `disposeOfLeafNode` / `disposeOfInternalNode`, only allocated nodes are
released; also the fuel of the model was never exhausted -/
theorem C18_no_double_free (f : Nat → Nat → Nat) (ops : List Op) :
    (runF f ops).freed.Nodup ∧ (∀ n, n ∈ (runF f ops).freed → n ∉ (runF f ops).ids) ∧ (runF f ops).err = false :=
  no_double_free f ops

-- all twelve nodes ever allocated in `Ex.ops` are deleted, each once, when the remaining handles are destroyed
example : (runF applyOp (Ex.ops ++ destroyAll (runF applyOp Ex.ops))).freed = [1, 4, 5, 6, 7, 0, 9, 2, 10, 11, 3, 8] ∧
    (runF applyOp (Ex.ops ++ destroyAll (runF applyOp Ex.ops))).next = 12 := Ex.ops_destroyed.2.2

/-! ### "no MTBDD that is still alive ever changes the function it denotes" -/

/-- a handle `h` that is live (root `r`) after a history `ops` is still live, with the same root and the same denotation,
after any continuation `more` in which `h` itself is not the target of an operation.  The continuation may read `h`
(copy from it, apply on it, assign *from* it) and may create, overwrite and destroy any other handles, including
handles that share nodes with `h`.  The hypothesis excludes exactly the operations that are meant to end or replace `h`
(`destroy h`, `assign _ h`) – and, for uniformity, `construct`/`copy`/`apply` *into* the live `h`, which are skipped, and the
self-assignment `assign h h`, which is covered by `C18_self_assignment` -/
theorem C18_denotation_stable (f : Nat → Nat → Nat) (ops more : List Op) (h r : Nat) (hm : (h, r) ∈ (runF f ops).hs)
    (ht : ∀ op, op ∈ more → op.target ≠ h) :
    (h, r) ∈ (runF f (ops ++ more)).hs ∧ ∀ ρ, denote (runF f (ops ++ more)) r ρ = denote (runF f ops) r ρ :=
  denotation_stable f ops more h r hm ht

-- `Ex.more` applies on handle 4, destroys and re-assigns handles sharing its nodes, constructs and destroys others
example : (4, 11) ∈ (runF applyOp Ex.ops).hs ∧ ∀ op, op ∈ Ex.more → op.target ≠ 4 := by rw [C18_ex_hs]; decide
example : Ex.more = [.apply 4 1 5, .destroy 0, .assign 5 1, .construct 6 [some true] 1 2, .destroy 5] := rfl

/-- self-assignment `h = h` changes nothing at all (the guard `if (this != &mtbdd)` of `operator=`) -/
theorem C18_self_assignment (f : Nat → Nat → Nat) (s : Store) (h : Nat) : stepF f s (.assign h h) = s := by
  simp [stepF, assign]

example : runF applyOp (Ex.ops ++ [.assign 4 4]) = runF applyOp Ex.ops := by
  simp only [runF, List.foldl_append, List.foldl_cons, List.foldl_nil, C18_self_assignment]

/-! ### "once every MTBDD … has been destroyed, the node store is back to the size it had before" -/

/-- (1) whenever, after any history, no handle is live, both unique tables have the size they had at the start (they are
empty) and no node is allocated; (2) in particular this is the case after running, at any point of any history, the
destructors of all handles that are live at that point -/
theorem C18_all_released (f : Nat → Nat → Nat) (ops : List Op) :
    ((runF f ops).hs = [] → tableSizes (runF f ops) = tableSizes empty ∧ (runF f ops).ids = []) ∧
    (tableSizes (runF f (ops ++ destroyAll (runF f ops))) = tableSizes empty ∧
      (runF f (ops ++ destroyAll (runF f ops))).ids = []) :=
  ⟨all_released f ops, all_released_destroyAll f ops⟩

example : destroyAll (runF applyOp Ex.ops) = [.destroy 0, .destroy 4, .destroy 2, .destroy 1] := by rw [destroyAll, C18_ex_hs]; rfl
example : (runF applyOp (Ex.ops ++ destroyAll (runF applyOp Ex.ops))).hs = [] ∧
    tableSizes (runF applyOp Ex.ops) = (4, 6) := ⟨Ex.ops_destroyed.1, by decide +kernel⟩

/-! ### the unique tables follow the lifetime of the nodes exactly -/

/-- after every history each allocated node is found in its unique table under its contents (so a deleted node has been
dropped and a live one has not), each key occurs once in either table, each handle name once, each node id once.  With
the second and third component of `C18_refcount_invariant`: the tables are exactly the allocated nodes -/
theorem C18_unique_tables_exact (f : Nat → Nat → Nat) (ops : List Op) :
    (∀ n v, n ∈ (runF f ops).ids → (runF f ops).dat n = .leaf v → find v (runF f ops).leafT = some n) ∧
    (∀ n lo hi var, n ∈ (runF f ops).ids → (runF f ops).dat n = .int lo hi var →
      find (lo, hi, var) (runF f ops).intT = some n) ∧
    KeysNodup (runF f ops).leafT ∧ KeysNodup (runF f ops).intT ∧ KeysNodup (runF f ops).hs ∧ (runF f ops).ids.Nodup :=
  tables_exact f ops

example : (runF applyOp Ex.ops).dat 11 = .int 10 6 2 ∧ find (10, 6, 2) (runF applyOp Ex.ops).intT = some 11 ∧
    find 3 (runF applyOp Ex.ops).leafT = none := by decide +kernel

/-! ### which function a new (or overwritten) handle denotes

`C18_denotation_stable` is about handles that already exist; the following four theorems say what the handle written by
an operation denotes, after any history (`getValue s h ρ` = `GetValue` of handle `h` under the total assignment `ρ`,
`none` for a dead handle).  Proofs: `Vata/Proofs/StoreRefine.lean` (refinement of the store operations to the tree model
of C17). -/

/-- `OndriksMTBDD h(asgn, v, d)` for a fresh name `h`: the new handle has the value `v` on the assignments in the cube
`asgn` (`M.agrees`; don't-care positions unconstrained) and the default `d` elsewhere -/
theorem C18_construct_denotes (f : Nat → Nat → Nat) (ops : List Op) (h : Nat) (asgn : List (Option Bool)) (v d : Nat)
    (hf : find h (runF f ops).hs = none) (ρ : Nat → Bool) :
    getValue (runF f (ops ++ [.construct h asgn v d])) h ρ = some (if M.agrees ρ asgn 0 = true then v else d) :=
  construct_getValue f ops h asgn v d hf ρ

example : find 7 (runF applyOp RefineEx.ops).hs = none ∧ (runF applyOp RefineEx.ops).hs.length = 6 := by rw [RefineEx.ops_hs]; decide

/-- `OndriksMTBDD dst = apply(a, b)` with leaf operation `f`, for live `a`, `b` and a fresh name `dst`: for every
assignment the new handle has the value `f` of the operands' values, and the operands keep their values -/
theorem C18_apply_denotes (f : Nat → Nat → Nat) (ops : List Op) (a b dst : Nat) (ρ : Nat → Bool) (va vb : Nat)
    (ha : getValue (runF f ops) a ρ = some va) (hb : getValue (runF f ops) b ρ = some vb)
    (hd : find dst (runF f ops).hs = none) :
    getValue (runF f (ops ++ [.apply a b dst])) dst ρ = some (f va vb) ∧
    getValue (runF f (ops ++ [.apply a b dst])) a ρ = some va ∧
    getValue (runF f (ops ++ [.apply a b dst])) b ρ = some vb := by
  obtain ⟨ra, hfa, rfl⟩ := getValue_eq_some ha
  obtain ⟨rb, hfb, rfl⟩ := getValue_eq_some hb
  obtain ⟨r, h1, a1, b1, -, h5⟩ := apply_denotes f ops a b dst ra rb hfa hfb hd
  -- the operands are not the target: they denote what they denoted before
  have st : ∀ {h r}, find h (runF f ops).hs = some r →
      denote (runF f (ops ++ [.apply a b dst])) r ρ = denote (runF f ops) r ρ := fun {h r} hf =>
    (denotation_stable f ops [.apply a b dst] h r (find_some_mem hf) (fun op ho e => by
      cases List.mem_singleton.mp ho
      rw [← e] at hf
      exact nomatch hd.symm.trans hf)).2 ρ
  rw [getValue_of_find h1, getValue_of_find a1, getValue_of_find b1, h5, st hfa, st hfb]
  exact ⟨rfl, rfl, rfl⟩

example : getValue (runF applyOp RefineEx.ops) 5 (fun i => i == 0) = some 0 ∧
    getValue (runF applyOp RefineEx.ops) 1 (fun i => i == 0) = some 5 ∧
    find 7 (runF applyOp RefineEx.ops).hs = none := by decide +kernel
example : getValue (runF applyOp (RefineEx.ops ++ [.apply 5 1 7])) 7 (fun i => i == 0) = some 5 := by decide +kernel

/-- copy constructor `OndriksMTBDD dst(src)` for a live `src` and a fresh name `dst`: the copy denotes what the source
denotes (it has the same root), and the source is unchanged -/
theorem C18_copy_denotes (f : Nat → Nat → Nat) (ops : List Op) (src dst r : Nat)
    (hs : find src (runF f ops).hs = some r) (hd : find dst (runF f ops).hs = none) :
    find dst (runF f (ops ++ [.copy src dst])).hs = some r ∧
    ∀ ρ, getValue (runF f (ops ++ [.copy src dst])) dst ρ = getValue (runF f ops) src ρ ∧
      getValue (runF f (ops ++ [.copy src dst])) src ρ = getValue (runF f ops) src ρ :=
  ⟨(copy_denotes f ops src dst r hs hd).1, copy_getValue f ops src dst r hs hd⟩

/-- assignment `dst = src` between two different live handles (the old diagram of `dst` is released first, possibly
freeing nodes shared with `src`): afterwards `dst` has the root of `src` and denotes what `src` denoted, and `src` is
unchanged.  (Self-assignment: `C18_self_assignment`.) -/
theorem C18_assign_denotes (f : Nat → Nat → Nat) (ops : List Op) (src dst r r' : Nat) (hne : src ≠ dst)
    (hs : find src (runF f ops).hs = some r) (hd : find dst (runF f ops).hs = some r') :
    find dst (runF f (ops ++ [.assign src dst])).hs = some r ∧
    ∀ ρ, getValue (runF f (ops ++ [.assign src dst])) dst ρ = getValue (runF f ops) src ρ ∧
      getValue (runF f (ops ++ [.assign src dst])) src ρ = getValue (runF f ops) src ρ :=
  ⟨(assign_denotes f ops src dst r r' hne hs hd).1, assign_getValue f ops src dst r r' hne hs hd⟩

-- handle 1 (root 2) is overwritten by handle 5 (root 8); the old root 2 stays allocated (an inner node refers to it)
example : find 5 (runF applyOp RefineEx.ops).hs = some 8 ∧ find 1 (runF applyOp RefineEx.ops).hs = some 2 ∧
    find 7 (runF applyOp RefineEx.ops).hs = none := by rw [RefineEx.ops_hs]; decide
example : find 1 (runF applyOp (RefineEx.ops ++ [.assign 5 1])).hs = some 8 ∧
    find 7 (runF applyOp (RefineEx.ops ++ [.copy 5 7])).hs = some 8 := by decide +kernel

/-!
## closed since the last refresh of this file

No item of the list below was closed; nothing about the MTBDD node store was added since.  (The OTHER reference-counted
structures of the library now have history theorems of the same kind – "count = number of referrers, nothing freed while
shared, nothing freed twice": the macro-state cache `Util_Cache_interning` / `Util_Cache_no_leak`, the `SharedCounter` rows
and `SharedList` nodes of the simulation engine `Util_LtsUtil_SharedCounter_refcount` / `Util_LtsUtil_SharedList_refcount`, the
copy-on-write heap of the explicit automata C11; they are collected in `Vata/Properties/C20.lean`.)

## not yet proved

* **"The size it had before" relative to an arbitrary earlier point.**  `C18_all_released` compares with the *initial*
  (empty) store and needs *all* handles to be dead.  The relative form – if the handles created since some earlier point
  of the history are destroyed (and the older ones are untouched) the table sizes are what they were at that point – is
  not proved.
* **Operations not in `RcS.Op`.**  Unary and ternary apply, `Project`, `Rename`, `ExtendWith`, `GetMtbddForPrefix`, the
  `VoidApply` traversals and the 4-argument `constructMTBDD` on an existing root are not part of the history model; the
  memo table `ht` of `Apply2Functor` is not modelled (in the C++ it holds raw node pointers, without incrementing their
  counters, for the duration of one apply call).
* Leaf values are `Nat` and handle names are `Nat`; the destructor of a user-defined leaf type is not modelled.
* The theorems speak about the model; that the model and `OndriksMTBDD<T>` agree step by step (table sizes, values of
  all live handles after every operation) is the correspondence check of the C18 driver, not a theorem.
-/
end Vata.Props
