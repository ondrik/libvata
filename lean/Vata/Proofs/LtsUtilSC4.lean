import Vata.Proofs.LtsUtilSC3

/-!
# `SharedCounter` as coded refines a table of numbers (part 4: `copyLabels`)
-/
namespace Vata.LU.SC
namespace P


def InRanges (ranges : List (Nat × Nat)) (i : Nat) : Prop := ∃ rg, rg ∈ ranges ∧ rg.1 ≤ i ∧ i < rg.2

theorem inLabels_cons {cfg : Cfg} {l : Nat} {ls : List Nat} {lm : Nat × Nat} (hl : cfg.labelMap[l]? = some lm) (i : Nat) :
    InLabels cfg (l :: ls) i ↔ (lm.1 ≤ i ∧ i < lm.2) ∨ InLabels cfg ls i := by
  unfold InLabels
  rw [exists_mem_cons_and, hl]
  exact or_congr_left ⟨fun ⟨_, e, h⟩ => Option.some.inj e ▸ h, fun h => ⟨lm, rfl, h⟩⟩

theorem copyRanges_spec (cfg : Cfg) (len : Nat) : ∀ (labels : List Nat), labels.all (· < cfg.labelMap.length) = true →
    ∃ ranges, copyRanges cfg len labels = some ranges ∧ (∀ rg, rg ∈ ranges → rg.1 < rg.2) ∧
      ∀ i, InRanges ranges i ↔ i < len ∧ InLabels cfg labels i
  | [], _ => ⟨[], rfl, nofun, fun _ => ⟨(fun ⟨_, h, _⟩ => nomatch h), (fun ⟨_, _, h, _⟩ => nomatch h)⟩⟩
  | l :: ls, h => by
    rw [List.all_cons, Bool.and_eq_true, decide_eq_true_eq] at h
    obtain ⟨ranges, h1, h2, h3⟩ := copyRanges_spec cfg len ls h.2
    obtain ⟨lm, hl⟩ : ∃ lm, cfg.labelMap[l]? = some lm := ⟨_, List.getElem?_eq_getElem h.1⟩
    rw [copyRanges, hl, h1]
    by_cases hskip : min len lm.2 ≤ lm.1
    · refine ⟨ranges, if_pos hskip, h2, fun i => ?_⟩
      rw [h3 i, inLabels_cons hl]
      exact ⟨fun ⟨g1, g2⟩ => ⟨g1, Or.inr g2⟩, fun ⟨g1, g2⟩ => ⟨g1, g2.resolve_left fun g =>
        Nat.lt_irrefl i (Nat.lt_of_lt_of_le (Nat.lt_of_lt_of_le (Nat.lt_min.2 ⟨g1, g.2⟩) hskip) g.1)⟩⟩
    · refine ⟨_, if_neg hskip, List.forall_mem_cons.2 ⟨Nat.lt_of_not_le hskip, h2⟩, fun i => ?_⟩
      unfold InRanges
      rw [exists_mem_cons_and, inLabels_cons hl, Nat.lt_min]
      exact ⟨fun g => g.elim (fun g => ⟨g.2.1, Or.inl ⟨g.1, g.2.2⟩⟩) fun g => ⟨((h3 i).1 g).1, Or.inr ((h3 i).1 g).2⟩,
        fun ⟨g1, g2⟩ => g2.elim (fun g => Or.inl ⟨g.1, g1, g.2⟩) fun g => Or.inr ((h3 i).2 ⟨g1, g⟩)⟩

/-- the size `copyLabels` resizes to is the number of rows of the value -/
theorem sent_eq (cfg : Cfg) (labels : List Nat) (len : Nat) (ranges : List (Nat × Nat))
    (h2 : ∀ rg, rg ∈ ranges → rg.1 < rg.2) (h3 : ∀ i, InRanges ranges i ↔ i < len ∧ InLabels cfg labels i) :
    ranges.foldl (fun s r => max s r.2) 0 = (copiedRows cfg labels len).foldl (fun m r => max m (r + 1)) 0 := by
  refine Nat.le_antisymm ((foldl_max_le _ _ _).2 ⟨Nat.zero_le _, fun rg hrg => ?_⟩)
    ((foldl_max_le _ _ _).2 ⟨Nat.zero_le _, fun r hr => ?_⟩)
  · have hlt := h2 rg hrg
    have hin : InRanges ranges (rg.2 - 1) := ⟨rg, hrg, Nat.le_sub_one_of_lt hlt, Nat.sub_one_lt (Nat.ne_of_gt (Nat.zero_lt_of_lt hlt))⟩
    have := le_foldl_max (fun r : Nat => r + 1) ((mem_copiedRows cfg labels len _).mpr ((h3 _).mp hin)) 0
    rwa [Nat.sub_add_cancel (Nat.zero_lt_of_lt hlt)] at this
  · obtain ⟨rg, hrg, _, g2⟩ := (h3 r).mpr ((mem_copiedRows cfg labels len r).mp hr)
    exact Nat.le_trans g2 (le_foldl_max (fun r : Nat × Nat => r.2) hrg 0)


/-- `++(src.data_[rowSize_])` if the source row has data -/
def bump (cfg : Cfg) (m : Mem) : Option Nat → Mem
  | none => m
  | some p => setCell m p cfg.rowSize (cell m p cfg.rowSize + 1)

theorem copyRow_done (cfg : Cfg) (src : Cnt) (st : Mem × Cnt × List Nat) (i : Nat) (h : i ∈ st.2.2) :
    copyRow cfg src st i = st := by
  unfold copyRow
  rw [if_pos (List.contains_iff_mem.2 h)]

theorem copyRow_new (cfg : Cfg) (src : Cnt) (m1 : Mem) (d : Cnt) (done : List Nat) (i : Nat) (h : i ∉ done)
    (hd : d.getD i default = default) :
    copyRow cfg src (m1, d, done) i = (bump cfg m1 (src.getD i default).data, d.set i (src.getD i default), i :: done) := by
  unfold copyRow
  rw [if_neg fun e => h (List.contains_iff_mem.1 e)]
  simp only [hd]
  cases hs : (src.getD i default).data with
  | none => exact congrArg (fun r => (m1, d.set i r, i :: done)) (show (⟨_, none⟩ : Row) = _ by rw [← hs])
  | some p => exact congrArg (fun r => (_, d.set i r, i :: done)) (show (⟨_, some p⟩ : Row) = _ by rw [← hs])

theorem bump_next (cfg : Cfg) (m : Mem) (o : Option Nat) : (bump cfg m o).next = m.next := by cases o <;> rfl
theorem bump_free (cfg : Cfg) (m : Mem) (o : Option Nat) : (bump cfg m o).free = m.free := by cases o <;> rfl
theorem bump_same (cfg : Cfg) (m : Mem) (o : Option Nat) (p : Nat) : Same cfg m (bump cfg m o) p := by
  cases o with
  | none => exact Same.rfl' rfl
  | some q => exact ⟨setCell_len .., fun col hc => cell_setCell_ne_col _ _ _ _ _ (Nat.ne_of_lt hc)⟩
theorem bump_cnt (cfg : Cfg) (m : Mem) (o : Option Nat) (p : Nat)
    (hl : ∀ q, o = some q → cfg.rowSize < (m.cells.get q).length) :
    cell (bump cfg m o) p cfg.rowSize = cell m p cfg.rowSize + (if o = some p then 1 else 0) := by
  cases o with
  | none => rfl
  | some q =>
    by_cases hqp : q = p
    · subst hqp; rw [if_pos rfl]; exact cell_setCell_same (hl q rfl)
    · rw [if_neg fun e => hqp (Option.some.inj e)]; exact cell_setCell_ne_addr _ _ _ _ _ (Ne.symm hqp)

/-- the state of the copying loop: the rows in `done` copied from `src`, the others still default; in the memory only
count cells are written, each by the number of new references -/
structure CopyInv (cfg : Cfg) (m : Mem) (src : Cnt) (sent : Nat) (st : Mem × Cnt × List Nat) : Prop where
  len : st.2.1.length = sent
  rows : ∀ i, i < sent → st.2.1.getD i default = if i ∈ st.2.2 then src.getD i default else default
  next : st.1.next = m.next
  free : st.1.free = m.free
  same : ∀ p, Same cfg m st.1 p
  cnt : ∀ p, cell st.1 p cfg.rowSize = cell m p cfg.rowSize + rowRefs p st.2.1

theorem copyRow_inv {cfg : Cfg} {m : Mem} {src : Cnt} {sent i : Nat} {st : Mem × Cnt × List Nat}
    (h : CopyInv cfg m src sent st) (hi : i < sent)
    (hcl : ∀ p, (src.getD i default).data = some p → cfg.rowSize < (m.cells.get p).length) :
    CopyInv cfg m src sent (copyRow cfg src st i) := by
  by_cases hdone : i ∈ st.2.2
  · rw [copyRow_done cfg src st i hdone]; exact h
  · obtain ⟨m1, d, done⟩ := st
    have hdef : d.getD i default = default := (h.rows i hi).trans (if_neg hdone)
    have hil : i < d.length := h.len ▸ hi
    have hget : d[i]? = some default := by rw [List.getElem?_eq_getElem hil, ← getD_eq_getElem hil default, hdef]
    rw [copyRow_new cfg src m1 d done i hdone hdef]
    generalize hs : src.getD i default = s at *
    refine ⟨(List.length_set ..).trans h.len, fun j hj => ?_, (bump_next ..).trans h.next, (bump_free ..).trans h.free,
      fun p => ⟨(bump_same cfg m1 s.data p).1.trans (h.same p).1,
        fun col hc => ((bump_same cfg m1 s.data p).2 col hc).trans ((h.same p).2 col hc)⟩, fun p => ?_⟩
    · show (d.set i s).getD j default = if j ∈ i :: done then _ else _
      by_cases hji : j = i
      · subst hji; rw [getD_set_self hil, if_pos List.mem_cons_self, hs]
      · rw [getD_set_ne _ hji, h.rows j hj]
        exact ite_cond_congr (propext ⟨List.mem_cons_of_mem _, fun h => (List.mem_cons.1 h).resolve_left hji⟩)
    · have h2 := bump_cnt cfg m1 s.data p fun q hq => (h.same q).1 ▸ hcl q hq
      have h3 := rowRefs_set (p := p) (row' := s) hget
      rw [show (default : Row).data = none from rfl, if_neg nofun, Nat.add_zero] at h3
      show cell (bump cfg m1 s.data) p cfg.rowSize = _ + rowRefs p (d.set i s)
      rw [h2, h.cnt p, h3, Nat.add_assoc]

theorem copyRow_mask (cfg : Cfg) (src : Cnt) (st : Mem × Cnt × List Nat) (i j : Nat) :
    j ∈ (copyRow cfg src st i).2.2 ↔ j ∈ st.2.2 ∨ j = i := by
  unfold copyRow
  by_cases hd : st.2.2.contains i = true
  · rw [if_pos hd]
    exact ⟨Or.inl, fun h => h.elim id fun e => e ▸ List.contains_iff_mem.1 hd⟩
  · rw [if_neg hd]
    simp only
    split <;> exact List.mem_cons.trans Or.comm

theorem copyFold_done (cfg : Cfg) (src : Cnt) (j : Nat) (is : List Nat) (st : Mem × Cnt × List Nat) :
    j ∈ (is.foldl (copyRow cfg src) st).2.2 ↔ j ∈ st.2.2 ∨ j ∈ is :=
  (mem_foldl_of_step (fun st j => j ∈ st.2.2) (fun i j => j = i) _ (copyRow_mask cfg src) is st j).trans
    (or_congr_right ⟨fun ⟨_, h, e⟩ => e ▸ h, fun h => ⟨j, h, rfl⟩⟩)

theorem mem_flat_ranges (ranges : List (Nat × Nat)) (i : Nat) :
    i ∈ ranges.flatMap (fun rg => List.range' rg.1 (rg.2 - rg.1)) ↔ InRanges ranges i := by
  simp only [List.mem_flatMap, List.mem_range'_1, InRanges]
  refine exists_congr fun rg => and_congr_right fun _ => and_congr_right fun h => ?_
  omega

theorem copyLabels_spec (cfg : Cfg) (m : Mem) (labels : List Nat) (src : Cnt)
    (hall : labels.all (· < cfg.labelMap.length) = true)
    (hcl : ∀ (r : Nat) (row : Row) p, src[r]? = some row → row.data = some p → cfg.rowSize < (m.cells.get p).length) :
    ∃ m' d', copyLabels cfg m [] labels src = some (m', d') ∧
      d'.length = (copiedRows cfg labels src.length).foldl (fun m r => max m (r + 1)) 0 ∧
      (∀ (r : Nat) row, d'[r]? = some row →
        (r ∈ copiedRows cfg labels src.length ∧ src[r]? = some row) ∨ (r ∉ copiedRows cfg labels src.length ∧ row = default)) ∧
      m'.next = m.next ∧ m'.free = m.free ∧ (∀ p, Same cfg m m' p) ∧
      (∀ p, cell m' p cfg.rowSize = cell m p cfg.rowSize + rowRefs p d') := by
  obtain ⟨ranges, h1, h2, h3⟩ := copyRanges_spec cfg src.length labels hall
  have hsent := sent_eq cfg labels src.length ranges h2 h3
  unfold copyLabels
  simp only [h1]
  rw [← List.foldl_flatMap]
  generalize ranges.foldl (fun s r => max s r.2) 0 = sent at *
  rw [show resize [] sent = List.replicate sent ⟨0, none⟩ by simp [resize]]
  have hmem : ∀ i, i ∈ ranges.flatMap (fun rg => List.range' rg.1 (rg.2 - rg.1)) ↔
      i ∈ copiedRows cfg labels src.length := fun i => by rw [mem_flat_ranges, mem_copiedRows, h3]
  have hsrc : ∀ r, r ∈ copiedRows cfg labels src.length → src[r]? = some (src.getD r default) := fun r hr => by
    have hlt := ((mem_copiedRows cfg labels src.length r).1 hr).1
    rw [getD_eq_getElem hlt]; exact List.getElem?_eq_getElem hlt
  have h0 : CopyInv cfg m src sent (m, List.replicate sent ⟨0, none⟩, []) :=
    ⟨List.length_replicate .., fun i hi => by
        rw [if_neg nofun, List.getD_eq_getElem?_getD, List.getElem?_replicate, if_pos hi]; rfl,
      rfl, rfl, fun _ => Same.rfl' rfl, fun p => by rw [rowRefs_replicate_none]; rfl⟩
  have hspec := List.foldlRecOn (motive := CopyInv cfg m src sent)
    (ranges.flatMap fun rg => List.range' rg.1 (rg.2 - rg.1)) (copyRow cfg src) h0 fun st h i hi =>
      have hc := (hmem i).1 hi
      copyRow_inv h (hsent ▸ le_foldl_max (fun r : Nat => r + 1) hc 0) fun p => hcl i _ p (hsrc i hc)
  have hdone := fun i => (copyFold_done cfg src i (ranges.flatMap fun rg => List.range' rg.1 (rg.2 - rg.1))
    (m, List.replicate sent ⟨0, none⟩, [])).trans ((or_iff_right nofun).trans (hmem i))
  generalize (ranges.flatMap (fun rg => List.range' rg.1 (rg.2 - rg.1))).foldl (copyRow cfg src)
    (m, List.replicate sent ⟨0, none⟩, []) = st' at hspec hdone
  refine ⟨st'.1, st'.2.1, rfl, hspec.len.trans hsent, fun r row hr => ?_, hspec.next, hspec.free, hspec.same, hspec.cnt⟩
  have hrow := hspec.rows r (hspec.len ▸ (List.getElem?_eq_some_iff.1 hr).1)
  rw [getD_of_getElem? hr] at hrow
  by_cases hc : r ∈ copiedRows cfg labels src.length
  · rw [if_pos ((hdone r).2 hc)] at hrow
    exact Or.inl ⟨hc, hrow ▸ hsrc r hc⟩
  · rw [if_neg (mt (hdone r).1 hc)] at hrow
    exact Or.inr ⟨hc, hrow⟩


abbrev copyA (cfg : Cfg) (labels : List Nat) (s : A) : A :=
  ⟨(copiedRows cfg labels s.rows).foldl (fun m r => max m (r + 1)) 0,
   (List.range ((copiedRows cfg labels s.rows).foldl (fun m r => max m (r + 1)) 0 * cfg.rowSize)).map
     (fun idx => if (copiedRows cfg labels s.rows).contains (idx / cfg.rowSize) then s.at idx else 0),
   .running⟩

theorem at_copyA (cfg : Cfg) (labels : List Nat) (s : A) (r col : Nat) (hr : r < (copyA cfg labels s).rows)
    (hcol : col < cfg.rowSize) :
    (copyA cfg labels s).at (r * cfg.rowSize + col) =
      if r ∈ copiedRows cfg labels s.rows then s.at (r * cfg.rowSize + col) else 0 := by
  have hlt : r * cfg.rowSize + col < (copyA cfg labels s).rows * cfg.rowSize := idx_lt hcol hr
  simp only [A.at] at hlt ⊢
  rw [List.getD_eq_getElem?_getD, List.getElem?_map, List.getElem?_range hlt]
  simp only [Option.map_some, Option.getD_some, idx_div hcol, List.contains_iff_mem]

theorem copyLabels_inv {cfg : Cfg} {m : Mem} {cs : List (Option Cnt)} {aw : AWorld} {i j : Nat} {d src : Cnt} {ad s : A}
    {labels : List Nat}
    (hinv : Inv cfg ⟨m, cs⟩ aw) (hij : i ≠ j) (hall : labels.all (· < cfg.labelMap.length) = true)
    (hd : cs.getD i none = some d) (had : aw.getD i none = some ad) (hphd : ad.phase = .fresh)
    (hsrc : cs.getD j none = some src) (has : aw.getD j none = some s) (hphs : s.phase = .running) :
    ∃ mc, copyLabels cfg m d labels src = some mc ∧
      Inv cfg ⟨mc.1, cs.set i (some mc.2)⟩ (aw.set i (some (copyA cfg labels s))) := by
  have holdd : CntInv cfg m cs d ad := hinv.cnt i d ad hd had
  have holds : CntInv cfg m cs src s := hinv.cnt j src s hsrc has
  have hd0 : d = [] := List.eq_nil_of_length_eq_zero (holdd.len.trans (holdd.fresh hphd))
  subst hd0
  obtain ⟨m', d', e1, e2, e3, e4, e5, e6, e8⟩ := copyLabels_spec cfg m labels src hall
    fun r row p hr hp => ((holds.rows r row hr).data p hp).len ▸ Nat.lt_succ_self _
  rw [holds.len] at e2 e3
  refine ⟨(m', d'), e1, ?_⟩
  show Inv cfg ⟨m', cs.set i (some d')⟩ _
  have hrefs : ∀ x, refs x (cs.set i (some d')) = refs x cs + rowRefs x d' := fun x => by
    have := refs_replace (p := x) (some d') hd
    rwa [rowRefs, Nat.add_zero, crefs] at this
  have hbal : ∀ p, cell m' p cfg.rowSize + refs p cs = cell m p cfg.rowSize + refs p (cs.set i (some d')) := fun p => by
    rw [e8 p, hrefs p, Nat.add_assoc, Nat.add_comm (refs p cs)]
  -- a row of the copy with data comes from the source
  have hK : ∀ x, 0 < rowRefs x d' → ∃ (r : Nat) (row : Row), src[r]? = some row ∧ row.data = some x := by
    intro x hx
    obtain ⟨row, hm, hdx⟩ := rowRefs_pos_iff.mp hx
    obtain ⟨r, hr⟩ := List.getElem?_of_mem hm
    rcases e3 r row hr with ⟨_, hs⟩ | ⟨_, rfl⟩
    · exact ⟨r, row, hs, hdx⟩
    · cases hdx
  refine replace_cnt hinv hd (iff_of_false nofun nofun) (Nat.le_of_eq e4.symm) ?_ ?_ (e5 ▸ hinv.nodup) ?_
  · intro j' cj aj r' rowj p hji hcj haj hrj hdj
    refine ⟨e6 p, hbal p, fun hfill => ?_⟩
    have h0 : rowRefs p d' = 0 := by
      refine Nat.eq_zero_of_not_pos fun hx => ?_
      obtain ⟨r, row, g1, g2⟩ := hK p hx
      have h1 : refs p cs = 1 := ((((hinv.cnt j' cj aj hcj haj).rows r' rowj hrj).data p hdj).fill hfill).1
      by_cases hjj : j' = j
      · subst hjj
        cases has.symm.trans haj
        cases hphs.symm.trans hfill
      · exact absurd (h1 ▸ refs_ge_two hsrc g1 g2 hcj hrj hdj (Or.inl (Ne.symm hjj))) (by decide)
    rw [hrefs p, h0]; rfl
  · intro c' a' hc' ha'
    cases hc'; cases ha'
    refine ⟨e2, by simp, nofun, fun r row' hr' => ?_⟩
    have hrn : r < (copyA cfg labels s).rows := Nat.lt_of_lt_of_eq (List.getElem?_eq_some_iff.1 hr').1 e2
    rcases e3 r row' hr' with ⟨hmem, hs⟩ | ⟨hmem, rfl⟩
    · have hold := holds.rows r row' hs
      rw [hphs] at hold
      exact (hold.congr fun col hcol => by rw [at_copyA cfg labels s r col hrn hcol, if_pos hmem]).keep
        (Nat.le_of_eq e4.symm) fun p hp => ⟨e6 p, hbal p, fun h => nomatch h⟩
    · exact rowInv_default fun col hcol => by rw [at_copyA cfg labels s r col hrn hcol, if_neg hmem]
  · intro x hx
    rw [e5] at hx
    have hf : x < m.next ∧ refs x cs = 0 := hinv.free x hx
    refine ⟨e4 ▸ hf.1, ?_⟩
    rw [hrefs x, hf.2, Nat.zero_add]
    refine Nat.eq_zero_of_not_pos fun hpos => ?_
    obtain ⟨r, row, g1, g2⟩ := hK x hpos
    exact absurd (refs_pos_of_get hsrc g1 g2) (hf.2 ▸ Nat.lt_irrefl 0)

end P
end Vata.LU.SC
