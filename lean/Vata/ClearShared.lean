import Vata.CowHeapX
/-!
# `Clear()` on a rule container that is still shared – the code, and a seeded variant with an early return
(properties C11 / C12; extension of `Vata/CowHeapX.lean`)

`src/explicit_tree_aut_core.hh`:

```
void EraseFinalStates()
{
	finalStates_.clear();
}

void Clear()
{
	assert(nullptr != transitions_);

	if (!transitions_.unique())
	{
		transitions_ = StateToTransitionClusterMapPtr(
			new StateToTransitionClusterMap());
	}
	else
	{ // TODO Is this clear enough?
		this->uniqueClusterMap()->clear();
	}

	this->EraseFinalStates();
}
```

* shared (`!transitions_.unique()`, use count of the map node ≠ 1): a FRESH empty map node is allocated and `transitions_`
  is re-pointed to it (`clearSharedCore`); the old node loses one reference and keeps its entries – the other owners do not
  notice;
* unique: the node is emptied in place (`clearUniqueCore`; `uniqueClusterMap()` is the identity on a unique node), the
  cluster pointers it held are released;
* on BOTH paths `EraseFinalStates()` follows.

`clearCoded` writes this out on `CowHeapX.HeapX`; it is `CowHeapX.stepX H (.clear h)` (`Props.C11_clear_coded`, by unfolding).

The seeded variant `stepClearEarly`:

```
	if (!transitions_.unique())
	{
		transitions_ = StateToTransitionClusterMapPtr(new StateToTransitionClusterMap());
		return;                                  // <- EraseFinalStates() is skipped on this path
	}
	this->uniqueClusterMap()->clear();
	this->EraseFinalStates();
```
-/
namespace Vata.ClearShared

open Vata.CowHeap (upd)
open Vata.CowHeap3 (Heap allocMap retarget releaseMap releaseCluster clearEntries mout)
open Vata.CowHeapX (HeapX HOpX stepX)

/-- `transitions_ = StateToTransitionClusterMapPtr(new StateToTransitionClusterMap());` : allocate an empty map node, swap
    it into `transitions_` of `h`, release the old pointer -/
def clearSharedCore (C : Heap) (h : Nat) : Heap := releaseMap (retarget (allocMap C []) h C.next) (C.hmap h)

/-- `this->uniqueClusterMap()->clear();` on a unique node: empty it in place and release the cluster pointers it held -/
def clearUniqueCore (C : Heap) (h : Nat) : Heap :=
  (mout C (C.hmap h)).foldl releaseCluster (clearEntries C (C.hmap h))

/-- `Clear()` as coded: branch on `transitions_.unique()`, then `EraseFinalStates()` on both paths -/
def clearCoded (H : HeapX) (h : Nat) : HeapX :=
  if h ∈ H.core.hl then
    let core' := if H.core.mrc (H.core.hmap h) = 1 then clearUniqueCore H.core h else clearSharedCore H.core h
    -- this->EraseFinalStates();
    ⟨core', upd H.fin h []⟩
  else H

/-- the seeded variant: early `return` on the shared path – `finalStates_` is left alone there -/
def stepClearEarly (H : HeapX) (h : Nat) : HeapX :=
  if h ∈ H.core.hl then
    if H.core.mrc (H.core.hmap h) = 1 then
      -- this->uniqueClusterMap()->clear(); this->EraseFinalStates();
      ⟨clearUniqueCore H.core h, upd H.fin h []⟩
    else
      -- transitions_ = Ptr(new Map()); return;
      ⟨clearSharedCore H.core h, H.fin⟩
  else H

/-- histories in which `Clear()` may be the seeded variant -/
inductive OpV where
  | std (op : HOpX)
  | clearEarly (h : Nat)

def stepV (H : HeapX) : OpV → HeapX
  | .std op => stepX H op
  | .clearEarly h => stepClearEarly H h

/-- the same history with the real `Clear()` -/
def OpV.toStd : OpV → HOpX
  | .std op => op
  | .clearEarly h => .clear h

/-- the handles an operation may change -/
def OpV.targets (o : OpV) : List Nat := CowHeapX.targets o.toStd

/-- "the map node of `h` is shared and `h` has final states" – where the variant goes wrong -/
def sharedWithFinals (H : HeapX) (h : Nat) : Prop :=
  h ∈ H.core.hl ∧ 1 < H.core.mrc (H.core.hmap h) ∧ H.fin h ≠ []

instance (H : HeapX) (h : Nat) : Decidable (sharedWithFinals H h) := by unfold sharedWithFinals; infer_instance

/-- what is read through handle `h` (rules and final states) after a history from the empty heap – the function to compare
    with the C++ (`Clear()` resp. the seeded `Clear()`, then dump the automaton object `h`) -/
def runV (ops : List OpV) (h : Nat) : Option Store.Store := CowHeapX.absX (ops.foldl stepV CowHeapX.initX) h

end Vata.ClearShared
