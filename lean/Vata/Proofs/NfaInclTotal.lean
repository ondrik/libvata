import Vata.Proofs.NfaInclExpl
/-!
# The exploration of `nfaInclAC` is right by itself, and total

The main theorems of `Vata/Proofs/NfaIncl.lean` trust only the final Boolean checks.  Here the work-list algorithm of the
antichain model is analysed: `runAC` is the exploration `Expl.run` of `Vata/Proofs/NfaInclExpl.lean` (`runAC_eq`) whose
`AddNewPairToAntichain` (`addPair`) inserts into an antichain of the order "same state, smaller macro-state" (`leAC`,
`acExpl_inserts`).

A `return false` at the word `w` is justified (`A` accepts `w`, `B` does not, so the final check never turns a `false` run
into `none`), the antichain of a `return true` passes `nfaUpCertB`, and the exploration ends within
`2 · (|I_A| + |Δ_A|) · 2^(|I_B| + |Δ_B|)` picked pairs: above that fuel `nfaInclAC` and the model of the dispatcher return a
verdict, hence the right one.
-/
namespace Vata
open Vata.W
namespace NfaIncl

/-- `(q, S)` is subsumed by a pair of `P`: `CovBy leAC P` of `NfaInclExpl`, on the components (the word of a pair plays no role) -/
def Sub (P : List Item) (q : Nat) (S : List Nat) : Prop := ∃ j, j ∈ P ∧ j.q = q ∧ ∀ x, x ∈ j.S → x ∈ S

theorem subsumed_iff {P : List Item} {q : Nat} {S : List Nat} : subsumed P q S = true ↔ Sub P q S := by
  simp only [subsumed, List.any_eq_true, Bool.and_eq_true, beq_iff_eq, subB_iff, Sub]

theorem Sub.mono {P : List Item} {q : Nat} {S S' : List Nat} (h : Sub P q S) (hS : ∀ x, x ∈ S → x ∈ S') :
    Sub P q S' := by
  obtain ⟨j, hj, hq, hs⟩ := h
  exact ⟨j, hj, hq, fun x hx => hS x (hs x hx)⟩

theorem mem_refine {P : List Item} {q : Nat} {S : List Nat} {i : Item} :
    i ∈ refine P q S ↔ i ∈ P ∧ ¬ (i.q = q ∧ ∀ x, x ∈ S → x ∈ i.S) := by
  simp only [refine, List.mem_filter, Bool.not_eq_true', Bool.and_eq_false_iff, beq_eq_false_iff_ne, ne_eq,
    not_and]
  constructor
  · rintro ⟨h1, h2⟩
    refine ⟨h1, fun hq hs => ?_⟩
    rcases h2 with h2 | h2
    · exact h2 hq
    · rw [subB_iff.mpr hs] at h2; cases h2
  · rintro ⟨h1, h2⟩
    refine ⟨h1, ?_⟩
    by_cases hq : i.q = q
    · right
      cases hb : Vata.subB S i.S with
      | false => rfl
      | true => exact (h2 hq (subB_iff.mp hb)).elim
    · exact Or.inl hq

theorem addPair_pos {st : St} {it : Item} (h : subsumed st.antichain it.q it.S = true) : addPair st it = st := by
  unfold addPair; rw [if_pos h]

theorem addPair_neg {st : St} {it : Item} (h : subsumed st.antichain it.q it.S = false) :
    addPair st it = ⟨refine st.antichain it.q it.S ++ [it],
      if subsumed st.next it.q it.S then st.next else insNext it (refine st.next it.q it.S)⟩ := by
  unfold addPair; rw [if_neg (by rw [h]; exact Bool.false_ne_true)]

def acExpl : Expl St := ⟨St.antichain, St.next, fun st l => ⟨st.antichain, l⟩, addPair, fun _ => false, ⟨[], []⟩⟩

theorem makePost_cons (A B : NFA) (it : Item) (e : Nat × Nat × Nat) (es : List (Nat × Nat × Nat)) (st : St) :
    makePost A B it (e :: es) st =
      if e.1 == it.q then
        (if badB A B (succItem B it e) then .error (succItem B it e).w
         else makePost A B it es (addPair st (succItem B it e)))
      else makePost A B it es st := rfl

theorem makePost_eq (A B : NFA) (it : Item) : ∀ (es : List (Nat × Nat × Nat)) (st : St),
    makePost A B it es st = acExpl.feed A B acExpl.skip (succs B it es) st
  | [], _ => rfl
  | e :: es, st => by
    rw [makePost_cons, succs_cons]
    by_cases hq : (e.1 == it.q) = true
    · rw [if_pos hq, if_pos hq, Expl.feed_cons, makePost_eq A B it es]; rfl
    · rw [if_neg hq, if_neg hq, makePost_eq A B it es]

theorem initAC_eq (A B : NFA) (S0 : List Nat) : ∀ (ss : List Nat) (st : St),
    initAC A B S0 ss st = acExpl.feed A B (fun _ => false) (starts S0 ss) st
  | [], _ => rfl
  | s :: ss, st => by
    show (if badB A B ⟨s, S0, []⟩ then .error [] else initAC A B S0 ss (addPair st ⟨s, S0, []⟩)) = _
    rw [initAC_eq A B S0 ss]; rfl

theorem loopAC_eq (A B : NFA) : ∀ (n : Nat) (st : St), loopAC A B n st = acExpl.loop A B n st
  | 0, _ => rfl
  | n+1, ⟨_, []⟩ => rfl
  | n+1, ⟨P, it :: rest⟩ => by
    rw [Expl.loop_cons (X := acExpl) (st := ⟨P, it :: rest⟩) rfl, ← makePost_eq, ← funext (loopAC_eq A B n)]
    simp only [loopAC]
    show _ = Expl.andThen (makePost A B it A.trans ⟨P, rest⟩) (loopAC A B n)
    cases makePost A B it A.trans ⟨P, rest⟩ with
    | error w => rfl
    | ok st' => rfl

theorem runAC_eq (A B : NFA) (fuel : Nat) : runAC A B fuel = acExpl.run A B fuel := by
  show _ = Expl.andThen (acExpl.feed A B (fun _ => false) (starts (normS B.start) A.start) ⟨[], []⟩)
    (acExpl.loop A B fuel)
  rw [← initAC_eq, ← funext (loopAC_eq A B fuel)]
  unfold runAC
  cases initAC A B (normS B.start) A.start ⟨[], []⟩ with
  | error w => rfl
  | ok st => rfl


/-- `(q, S)` covers `(q, S')` when `S ⊆ S'` -/
def leAC (i j : Item) : Prop := i.q = j.q ∧ ∀ x, x ∈ i.S → x ∈ j.S

theorem leAC_order (A B : NFA) : Expl.CoverOrder A B leAC :=
  ⟨fun _ => ⟨rfl, fun _ h => h⟩, fun h1 h2 => ⟨h1.1.trans h2.1, fun x hx => h2.2 x (h1.2 x hx)⟩,
    fun h hq hS => ⟨h.1.trans hq.symm, fun x hx => hS x (h.2 x hx)⟩⟩

theorem acExpl_inserts : acExpl.Inserts (fun _ => True) leAC where
  antichain_setNext := fun _ _ => rfl
  next_setNext := fun _ _ => rfl
  antichain_empty := rfl
  next_empty := rfl
  keep_empty := trivial
  keep_setNext := id
  keep_add := id
  covered := fun _ hc => addPair_pos (subsumed_iff.mpr hc)
  mem_antichain := fun {st it} _ hc j => by
    have hs : subsumed st.antichain it.q it.S = false := Bool.eq_false_iff.mpr fun h => hc (subsumed_iff.mp h)
    show j ∈ (addPair st it).antichain ↔ _
    rw [addPair_neg hs, List.mem_append, List.mem_singleton, mem_refine, leAC, eq_comm (a := it.q)]
    exact Iff.rfl
  mem_next := fun {st it} _ hsub hc j => by
    have hs : subsumed st.antichain it.q it.S = false := Bool.eq_false_iff.mpr fun h => hc (subsumed_iff.mp h)
    -- the work-list is inside the antichain, so the pair is not subsumed there either
    have hsn : ¬ subsumed st.next it.q it.S = true := fun hn =>
      hc ((subsumed_iff.mp hn).imp fun k hk => ⟨hsub k hk.1, hk.2⟩)
    show j ∈ (addPair st it).next ↔ _
    rw [addPair_neg hs]; dsimp only
    rw [if_neg hsn, mem_insNext, mem_refine, leAC, eq_comm (a := it.q)]
    exact or_comm
  next_length := fun {st it} => by
    show (addPair st it).next.length ≤ st.next.length + 1
    cases hs : subsumed st.antichain it.q it.S with
    | true => rw [addPair_pos hs]; exact Nat.le_succ _
    | false =>
      rw [addPair_neg hs]; dsimp only
      split
      · exact Nat.le_succ _
      · rw [length_insNext]
        exact Nat.succ_le_succ (List.length_filter_le _ _)

theorem runAC_error_ok {A B : NFA} {fuel : Nat} {w : List Nat} (h : runAC A B fuel = some (.error w)) :
    acceptsW A w = true ∧ acceptsW B w = false := by
  rw [runAC_eq] at h
  exact (Expl.run_ok acExpl_inserts fuel).2 w h

theorem runAC_ok_words {A B : NFA} {fuel : Nat} {P : List Item} (h : runAC A B fuel = some (.ok P)) :
    ∀ i, i ∈ P → WordOK A B i := by
  rw [runAC_eq] at h
  exact (Expl.run_ok acExpl_inserts fuel).1 P h


/-- every successor of the pair is subsumed (`Expl.Closed` for `runAC`, whose `skip` never fires) -/
def Done (A B : NFA) (P : List Item) (i : Item) : Prop :=
  ∀ a q', (i.q, a, q') ∈ A.trans → Sub P q' (stepW B i.S a)

/-- `Expl.Cert` for `runAC`, spelled with `Sub` / `Done` and without `normS`: the form `nfaUpCertB` is checked against -/
structure CertP (A B : NFA) (P : List Item) : Prop where
  start : ∀ s, s ∈ A.start → Sub P s B.start
  closed : ∀ i, i ∈ P → Done A B P i
  good : ∀ i, i ∈ P → i.q ∈ A.final → W.accepting B i.S = true


theorem runAC_ok_certP {A B : NFA} {fuel : Nat} {P : List Item} (h : runAC A B fuel = some (.ok P)) :
    CertP A B P := by
  rw [runAC_eq] at h
  have hc := Expl.run_cert (leAC_order A B) acExpl_inserts h
  refine ⟨fun s hs => ?_, fun i hi a q' he => ?_, hc.good⟩
  · exact Sub.mono (hc.start _ (List.mem_map.mpr ⟨s, hs, rfl⟩)) fun x hx => mem_normS.mp hx
  · exact Sub.mono ((hc.closed i hi _ (mem_succs.mpr ⟨(i.q, a, q'), he, rfl, rfl⟩)).resolve_left Bool.false_ne_true)
      fun x hx => mem_normS.mp hx

def pairs (P : List Item) : List (Nat × List Nat) := P.map (fun i => (i.q, i.S))

theorem certP_upCertB {A B : NFA} {P : List Item} (h : CertP A B P) : nfaUpCertB A B (pairs P) = true := by
  simp only [nfaUpCertB, pairs, Bool.and_eq_true, List.all_eq_true, List.any_eq_true, beq_iff_eq, subB_iff,
    Bool.or_eq_true, bne_iff_ne, ne_eq, Bool.not_eq_true', List.mem_map]
  refine ⟨⟨?_, ?_⟩, ?_⟩
  · intro s hs
    obtain ⟨j, hj, hq, hsub⟩ := h.start s hs
    exact ⟨_, ⟨j, hj, rfl⟩, hq, hsub⟩
  · rintro _ ⟨i, hi, rfl⟩ e he
    by_cases hq : e.1 = i.q
    · right
      obtain ⟨j, hj, hq', hsub⟩ := h.closed i hi e.2.1 e.2.2 (by rw [← hq]; exact he)
      exact ⟨_, ⟨j, hj, rfl⟩, hq', hsub⟩
    · exact Or.inl hq
  · rintro _ ⟨i, hi, rfl⟩
    by_cases hf : i.q ∈ A.final
    · exact Or.inr (h.good i hi hf)
    · left
      cases hc : A.final.contains i.q with
      | false => rfl
      | true => exact (hf (List.contains_iff_mem.mp hc)).elim

theorem runAC_ok_cert {A B : NFA} {fuel : Nat} {P : List Item} (h : runAC A B fuel = some (.ok P)) :
    nfaUpCertB A B (P.map (fun i => (i.q, i.S))) = true :=
  certP_upCertB (runAC_ok_certP h)

theorem nfaInclAC_of_runAC {A B : NFA} {fuel : Nat} {r : Res (List Item)} (h : runAC A B fuel = some r) :
    ∃ v, nfaInclAC A B fuel = some v := by
  unfold nfaInclAC
  rw [h]
  cases r with
  | ok P =>
    simp only
    rw [if_pos (runAC_ok_cert h)]
    exact ⟨_, rfl⟩
  | error w =>
    simp only
    obtain ⟨h1, h2⟩ := runAC_error_ok h
    rw [h1, h2]
    exact ⟨_, rfl⟩


theorem runAC_terminates {A B : NFA} {fuel : Nat} (h : fuelBoundAC A B < fuel) : ∃ r, runAC A B fuel = some r :=
  runAC_eq A B fuel ▸ Expl.run_terminates (leAC_order A B) acExpl_inserts h

end NfaIncl

open NfaIncl


theorem nfaInclAC_total {A B : NFA} {fuel : Nat} (hf : fuelBoundAC A B < fuel) : ∃ v, nfaInclAC A B fuel = some v := by
  obtain ⟨r, hr⟩ := runAC_terminates hf
  exact nfaInclAC_of_runAC hr

theorem nfaInclAC_complete {A B : NFA} {fuel : Nat} (hf : fuelBoundAC A B < fuel) :
    (InclW A B → ∃ c, nfaInclAC A B fuel = some (true, c)) ∧
    (¬ InclW A B → ∃ c, nfaInclAC A B fuel = some (false, c)) :=
  Verdict.complete_of_total (let ⟨⟨b, c⟩, h⟩ := nfaInclAC_total hf; ⟨b, c, h⟩) nfaInclAC_iff

theorem checkNfaInclAC_total (A B : NFA) {fuel : Nat}
    (hf : fuelBoundAC (nfaSanitize A B).1 (nfaSanitize A B).2 < fuel) : ∃ v, checkNfaInclAC A B fuel = some v :=
  nfaInclAC_total hf

theorem checkNfaInclAC_complete (A B : NFA) {fuel : Nat}
    (hf : fuelBoundAC (nfaSanitize A B).1 (nfaSanitize A B).2 < fuel) :
    (InclW A B → ∃ c, checkNfaInclAC A B fuel = some (true, c)) ∧
    (¬ InclW A B → ∃ c, checkNfaInclAC A B fuel = some (false, c)) := by
  have := nfaInclAC_complete hf
  rw [sanitize_incl] at this
  exact this

namespace NfaInclEx

example : fuelBoundAC exAstar exABstar = 32 := by decide
example : ∃ v, nfaInclAC exAstar exABstar 33 = some v := nfaInclAC_total (by decide)
example : ∃ c, nfaInclAC exAstar exABstar 33 = some (true, c) :=
  (nfaInclAC_complete (by decide)).1 (nfaUpCertB_incl exStar_upCertB)
/-- the exploration of the regression example ends with an antichain that passes the check, by the invariant -/
example : ∃ P, runAC exMemoA exMemoB 20 = some (.ok P) ∧ nfaUpCertB exMemoA exMemoB (pairs P) = true :=
  have ⟨P, h⟩ : ∃ P, runAC exMemoA exMemoB 20 = some (.ok P) := ⟨_, rfl⟩
  ⟨P, h, runAC_ok_cert h⟩
example : ∃ w, runAC exAAB exAplus 10 = some (.error w) ∧ acceptsW exAAB w = true ∧ acceptsW exAplus w = false :=
  have ⟨w, h⟩ : ∃ w, runAC exAAB exAplus 10 = some (.error w) := ⟨_, rfl⟩
  ⟨w, h, runAC_error_ok h⟩
-- the bound is far from tight: 10 pairs are picked in the regression example, the bound is 2 · 7 · 2^12
#guard fuelBoundAC exMemoA exMemoB == 57344
#guard (runAC exMemoA exMemoB 10).isNone && (runAC exMemoA exMemoB 11).isSome

end NfaInclEx

end Vata
