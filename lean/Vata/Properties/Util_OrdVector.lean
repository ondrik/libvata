import Vata.Proofs.OrdVector
/-!
# Utility class `VATA::Util::OrdVector<Key>` – a set kept as a strictly increasing vector (supports C07, C08, C09)

> `OrdVector` is the container of the macro-states of the antichain inclusion algorithms (`StateSet`, C07/C09) and of the
> state tuples / tuple sets of the BDD encodings (C08).  The models of those algorithms treat a macro-state as "a sorted
> duplicate-free list compared by value"; this file states what makes that reading of the real class legitimate.

## How the statement is read into the model

* **Specification (L0).**  An object denotes the finite set `abs v = fun x => x ∈ v` of the elements of its private vector
  `vec_`.  The abstract machine `OrdVec.aStep` keeps a list read as a set per object (`insert` conses, `Union` appends);
  its observations `OrdVec.aObserve` are defined from membership only (`OrdVec.enum a` = the members of `a` in increasing
  order, obtained by filtering an initial segment of ℕ).
* **Model of the code (L2).**  `Vata/OrdVector.lean`: every public member function the way it is coded, on
  `Vec = List Nat` – the binary-search loop of `insert(x)` / `find` on indices (`bsearch`, out-of-range reads visible as
  `BS.oob`), `resize` + `std::copy_backward` + assignment (`copyBackward`), the merge loop of `Union` followed by the
  sorting constructor, `std::sort` (insertion sort; `Util_OrdVector_sort_canonical`: ANY sorted permutation is the same
  list), `std::unique`, `std::includes`, `std::lexicographical_compare`, `std::equal`, the loop of
  `HaveEmptyIntersection` exactly as written, `operator<<`, `boost::hash_range` of Boost 1.83.
* **Correspondence (L3).**  kind `ordvec` (`harness/ops/op_ordvec.inc`, `Driver/OrdVecChk.lean`, `tools/gen_ordvec.py`):
  histories over several live `OrdVector<size_t>`; after every step every live object is read back (iteration order
  included) and compared with `OrdVec.step` and with the abstract sets.

The class of this library version has no `erase`/`remove`, `count`, `Intersection` or `back`.
-/
namespace Vata.Props
open Vata.OrdVec

/-! ### representation invariant -/

/-- every constructor establishes the invariant "strictly increasing" (what the private `vectorIsSorted()` tests) … -/
theorem Util_OrdVector_ctor_invariant (l : List Nat) (x : Nat) :
    Sorted mkEmpty ∧ Sorted (ofVector l) ∧ Sorted (ofInitList l) ∧ Sorted (ofKey x) ∧ Sorted (ofRange l) ∧
      (vectorIsSorted (ofVector l) = true) :=
  ⟨mkEmpty_sorted, ofVector_sorted l, ofInitList_sorted l, ofKey_sorted x, ofRange_sorted l,
    (vectorIsSorted_iff _).2 (ofVector_sorted l)⟩

/-- … and denotes exactly the given elements (input unsorted, with duplicates) -/
theorem Util_OrdVector_ctor_abs (l : List Nat) (x y : Nat) :
    (¬ abs mkEmpty y) ∧ (abs (ofVector l) y ↔ y ∈ l) ∧ (abs (ofInitList l) y ↔ y ∈ l) ∧ (abs (ofKey x) y ↔ y = x) ∧
      (abs (ofRange l) y ↔ y ∈ l) :=
  ⟨mem_mkEmpty y, mem_ofVector, mem_ofInitList, mem_ofKey, mem_ofRange⟩

example : ofVector [5, 1, 3, 1, 5, 5] = [1, 3, 5] := by decide

/-- the result of `std::sort` is determined by its specification, so modelling it by insertion sort loses nothing -/
theorem Util_OrdVector_sort_canonical {l s : List Nat} (hp : s.Perm l) (hs : s.Pairwise (· ≤ ·)) : s = stdSort l :=
  stdSort_unique hp hs

example : ([1, 1, 3] : List Nat).Perm [3, 1, 1] ∧ ([1, 1, 3] : List Nat).Pairwise (· ≤ ·) := by decide

/-- every mutator keeps the invariant (`insert(OrdVector)`, `Union` and `clear` even without assuming it) -/
theorem Util_OrdVector_mutator_invariant {v w : Vec} (hv : Sorted v) (hw : Sorted w) (x : Nat) (self : Bool) :
    Sorted (insert v x) ∧ Sorted (insertAll v w) ∧ Sorted (union v w) ∧ Sorted (clear v) ∧ Sorted (assign self v w) :=
  ⟨insert_sorted hv x, insertAll_sorted v w, union_sorted v w, clear_sorted v, assign_sorted hv hw⟩

example : Sorted [1, 3, 5] ∧ Sorted [2, 3] := by decide

/-- memory safety of the binary search of `insert` / `find`: no read outside `[0, size())` -/
theorem Util_OrdVector_bsearch_in_bounds (v : Vec) (x : Nat) : bsearch v.length v x 0 v.length ≠ .oob :=
  bsearch_safe _ _ _ _ _ (Nat.le_refl _)

/-! ### the operations on the denoted sets -/

/-- `insert(x)` adds exactly `x` -/
theorem Util_OrdVector_insert {v : Vec} (hv : Sorted v) (x y : Nat) : abs (insert v x) y ↔ y = x ∨ abs v y :=
  mem_insert hv

example : insert [1, 3, 5] 4 = [1, 3, 4, 5] ∧ insert [1, 3, 5] 3 = [1, 3, 5] ∧ insert [1, 3, 5] 9 = [1, 3, 5, 9] := by decide +kernel

/-- `Union` is ∪, `insert(OrdVector)` is ∪= -/
theorem Util_OrdVector_union (v w : Vec) (y : Nat) :
    (abs (union v w) y ↔ abs v y ∨ abs w y) ∧ (abs (insertAll v w) y ↔ abs v y ∨ abs w y) :=
  ⟨mem_union, mem_insertAll⟩

example : union [1, 3] [2, 3] = [1, 2, 3] := by
  simp [union, unionLoop, ofVector, stdSort, insSorted, stdUnique, uniqueAux]

/-- `find` returns an iterator to the key exactly when the key is a member (`end()` otherwise); its offset is the rank of
the key -/
theorem Util_OrdVector_find {v : Vec} (hv : Sorted v) (x : Nat) :
    ((find v x).isSome = true ↔ abs v x) ∧ (∀ i, find v x = some i → v[i]? = some x ∧ i = (v.filter (· < x)).length) :=
  ⟨find_isSome_iff hv, fun _ h => ⟨find_some h, find_rank hv h⟩⟩

example : find [1, 3, 5] 5 = some 2 ∧ find [1, 3, 5] 4 = none := by decide

/-- `IsSubsetOf` ⇔ ⊆ -/
theorem Util_OrdVector_isSubsetOf {v w : Vec} (hv : Sorted v) (hw : Sorted w) :
    isSubsetOf v w = true ↔ ∀ x, abs v x → abs w x := isSubsetOf_iff hv hw

example : isSubsetOf [3] [1, 3] = true ∧ isSubsetOf [2] [1, 3] = false := by decide

/-- `operator==` ⇔ the same set (extensionality under the invariant) -/
theorem Util_OrdVector_eq {v w : Vec} (hv : Sorted v) (hw : Sorted w) : eq v w = true ↔ ∀ x, abs v x ↔ abs w x :=
  eq_iff_ext hv hw

/-- `operator<` is the lexicographic order of the vectors: irreflexive, transitive, total – a strict total order on the
sets (`lt_irrefl_sets`, `lt_total_sets`), usable as the order of `std::set`/`std::map` keys -/
theorem Util_OrdVector_lt_strict_total_order :
    (∀ a b : Vec, lt a b = true ↔ a < b) ∧ (∀ a : Vec, lt a a = false) ∧
      (∀ a b c : Vec, lt a b = true → lt b c = true → lt a c = true) ∧
      (∀ a b : Vec, lt a b = true ∨ a = b ∨ lt b a = true) ∧
      (∀ a b : Vec, Sorted a → Sorted b → (∀ x, abs a x ↔ abs b x) → lt a b = false) ∧
      (∀ a b : Vec, (¬ ∀ x, abs a x ↔ abs b x) → lt a b = true ∨ lt b a = true) :=
  ⟨lt_iff, lt_irrefl, fun _ _ _ => lt_trans, lt_trichotomy, fun _ _ ha hb h => lt_irrefl_sets ha hb h,
    fun _ _ h => lt_total_sets h⟩

example : lt [1, 3] [2] = true ∧ lt [1] [1, 2] = true ∧ lt [2] [1, 3] = false := by decide

/-- iteration yields every element exactly once, in increasing order -/
theorem Util_OrdVector_iteration {v : Vec} (hv : Sorted v) :
    (iterate v).Pairwise (· < ·) ∧ (∀ x, (iterate v).count x = if x ∈ v then 1 else 0) ∧ toVector v = iterate v ∧
      size v = (iterate v).length :=
  ⟨(iterate_spec hv).1, (iterate_spec hv).2.2.2, rfl, rfl⟩

/-- equal sets have equal hashes (what the use as a key of `std::unordered_map` needs) -/
theorem Util_OrdVector_hash {v w : Vec} (hv : Sorted v) (hw : Sorted w) (h : ∀ x, abs v x ↔ abs w x) :
    hashValue v = hashValue w := by
  rw [sorted_ext hv hw h]

/-! ### `HaveEmptyIntersection`: a defect of the real member function -/

/-- the loop the comment intends (`&&`) ⇔ the sets are disjoint -/
theorem Util_OrdVector_haveEmptyIntersection_intended {v w : Vec} (hv : Sorted v) (hw : Sorted w) :
    haveEmptyIntersectionFixed v w = true ↔ ∀ x, abs v x → ¬ abs w x :=
  haveEmptyIntersectionFixed_iff v w hv hw

/-- THE LOOP AS CODED (`while (itLhs != end() || itRhs != rhs.end())`): whenever the two sets are disjoint and not both
empty it dereferences an iterator equal to `end()`; it returns `true` only for two empty objects.  Observed on the real
class (kind `ordvec`, `ORDVEC_DISJ=full`): heap-buffer-overflow reports of AddressSanitizer, null dereference for a
never-filled left operand, and the WRONG answer `false` when the stale element behind `end()` (after `clear()`) equals an
element of the other operand (`ordvec vec!0,1 clear!0 key!0 disj!0!1`). -/
theorem Util_OrdVector_haveEmptyIntersection_defect {v w : Vec} (hv : Sorted v) (hw : Sorted w)
    (hdisj : ∀ x, abs v x → ¬ abs w x) (hne : ¬ (v = [] ∧ w = [])) : haveEmptyIntersection v w = none :=
  haveEmptyIntersection_reads_past_end hv hw hdisj hne

example : haveEmptyIntersection [1] [2] = none ∧ haveEmptyIntersection [] [5] = none := by
  simp [haveEmptyIntersection]

/-- where the loop as coded returns at all, the answer is right (a common element was found, or both are empty) -/
theorem Util_OrdVector_haveEmptyIntersection_partial {v w : Vec} (hv : Sorted v) (hw : Sorted w) {r : Bool}
    (h : haveEmptyIntersection v w = some r) : r = true ↔ ∀ x, abs v x → ¬ abs w x := by
  rw [haveEmptyIntersection_eq] at h
  show r = true ↔ ∀ x ∈ v, ¬ x ∈ w
  rw [← haveEmptyIntersectionFixed_iff v w hv hw]
  by_cases hf : haveEmptyIntersectionFixed v w = true
  · rw [if_pos hf] at h
    split at h
    · cases h; exact iff_of_true rfl hf
    · cases h
  · rw [if_neg hf] at h
    cases h
    exact iff_of_false nofun hf

example : haveEmptyIntersection [1, 3] [2, 3] = some false := by simp [haveEmptyIntersection]

/-! ### histories -/

/-- after any list of operations (the five constructors, copy, assignment incl. self-assignment, `insert(x)`,
`insert(OrdVector)` incl. `v.insert(v)`, `Union` into a new object, `clear`) every live object satisfies the invariant
and every observation – `size`, `empty`, the iteration / `ToVector` (ORDER included), `find`, `==`, `<`, `IsSubsetOf`,
`HaveEmptyIntersection` (as coded: possibly "reads past the end"; as intended), `hash_value`, `operator<<` – equals the
observation of the abstract finite sets -/
theorem Util_OrdVector_history (ops : List Op) :
    (∀ v ∈ run ops, Sorted v) ∧ (∀ q : Query, observe (run ops) q = aObserve (aRun ops) q) :=
  ⟨history_invariant ops, history_observe ops⟩

example : run [.mkVector [3, 1, 2, 3], .mkKey 7, .insert 0 0, .copy 0, .clear 1, .assign 1 0, .insert 1 9]
    = [[0, 1, 2, 3], [0, 1, 2, 3, 9], [0, 1, 2, 3]] := by decide +kernel

/-- what the driver tests on a read-back iteration is "it is the increasing enumeration of the abstract set" -/
theorem Util_OrdVector_driver_check (c : List Nat) (a : ASet) : isEnumOf c a = true ↔ c = enum a := by
  unfold isEnumOf
  simp only [Bool.and_eq_true, strictIncB_iff, List.all_eq_true, List.contains_iff_mem]
  constructor
  · intro ⟨⟨h1, h2⟩, h3⟩
    exact rel_enum ⟨h1, fun x => ⟨h2 x, h3 x⟩⟩
  · rintro rfl
    exact ⟨⟨enum_sorted a, fun x => mem_enum.1⟩, fun x => mem_enum.2⟩

/-!
## not proved / outside the model

* `Key` is `Nat` (the harness uses `size_t`; all keys are below 2^64, arithmetic on keys does not occur, the index
  arithmetic `first + (last - first) / 2` cannot overflow for indices into a vector).  libvata instantiates the class
  with `StateType` (macro-states, `StateSet`, `StateSetLight`) and with `StateTuple = std::vector<StateType>` ordered
  lexicographically (`StateTupleSet` of the BDD encodings); the second instantiation, and key types with a user-defined
  `<` in general, are not modelled (the proofs use the order of ℕ through `omega`).
* `std::sort`, `std::unique`, `std::includes`, `std::lexicographical_compare`, `std::equal`, `std::copy_backward`,
  `std::vector` itself and `boost::hash` are modelled from their specification / reference loops, not from the library
  sources; allocation, capacity and iterator invalidation are not modelled.
* `operator<<` and the numeric `hash_value` are only transcribed and compared at run time (`mismatch` class); no theorem
  beyond "a function of the denoted set" (injectivity of the printed form is not proved).
* The non-const `begin()`/`end()` do not exist; `ToVector()` returns a reference whose lifetime is not modelled.
* `HaveEmptyIntersection` is NOT correct in the real class (see `Util_OrdVector_haveEmptyIntersection_defect`); nothing in
  libvata calls it.
-/
end Vata.Props
