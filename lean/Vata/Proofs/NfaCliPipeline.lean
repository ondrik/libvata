import Vata.NfaCliPipeline
import Vata.Proofs.NfaUnionCoded
import Vata.Proofs.CliPipelineLang
/-!
# Proofs about the command-line pipeline for word automata (`Vata/NfaCliPipeline.lean`): `vata -r expl_fa union`
-/
namespace Vata.NfaCli
open Vata.CliPipe Vata.NfaLD Vata.Dict Vata.Glue

theorem loadBoth_spec (rtl : Bool) (d₁ d₂ : AutDesc) (yd : WSymDict) (hyd : yd.Ok) (hw₁ : d₁.WordShaped)
    (hw₂ : d₂.WordShaped) :
    ∃ A sd₁ yd₁ B sd₂ yd₂, loadNFA rtl d₁ [] yd = .ok (A, sd₁, yd₁) ∧ loadNFA rtl d₂ [] yd₁ = .ok (B, sd₂, yd₂) ∧
      loadBoth rtl d₁ d₂ yd = .ok ((A, sd₁), (B, sd₂), yd₂) ∧ sd₁.Ok ∧ sd₂.Ok ∧ yd₁.Ok ∧ yd₂.Ok ∧ Sub yd₁ yd₂ ∧
      Dumpable A sd₁ yd₁ ∧ Dumpable B sd₂ yd₂ := by
  obtain ⟨A, s1, e1, h1, D1, _, _⟩ := loadFrom_dump rtl ⟨[], 0, yd⟩ (NfaLD.init_ok hyd) d₁ hw₁
  obtain ⟨B, s2, e2, h2, D2, _, _⟩ := loadFrom_dump rtl ⟨[], 0, s1.yd⟩ (NfaLD.init_ok h1.ok.yd) d₂ hw₂
  have l1 : loadNFA rtl d₁ [] yd = .ok (A, s1.sd, s1.yd) := by unfold loadNFA; rw [e1]
  have l2 : loadNFA rtl d₂ [] s1.yd = .ok (B, s2.sd, s2.yd) := by unfold loadNFA; rw [e2]
  refine ⟨A, s1.sd, s1.yd, B, s2.sd, s2.yd, l1, l2, ?_, h1.ok.sd, h2.ok.sd, h1.ok.yd, h2.ok.yd, h2.yd, D1, D2⟩
  unfold loadBoth; rw [l1]; simp only; rw [l2]

theorem mem_states_reindexBoth {fL fR : Nat → Nat} {A B : NFAS} {q : Nat}
    (hq : q ∈ nfaStates (nfasReindexInto (nfasReindexInto nfasEmpty fL A) fR B).toNFA) :
    (∃ p, p ∈ nfaStates A.toNFA ∧ q = fL p) ∨ (∃ p, p ∈ nfaStates B.toNFA ∧ q = fR p) := by
  obtain ⟨h1, h2, h3⟩ := reindexBoth_sets fL fR A B
  have hU : q ∈ nfaStates (nfaUnionWith fL fR A.toNFA B.toNFA) := by
    rcases mem_nfaStates.mp hq with h | h | ⟨e, he, h⟩
    · exact start_mem_nfaStates ((h3 q).mp h)
    · exact final_mem_nfaStates ((h2 q).mp h)
    · have he' : e ∈ (nfaUnionWith fL fR A.toNFA B.toNFA).trans := by rw [← h1]; exact he
      exact mem_nfaStates.mpr (Or.inr (Or.inr ⟨e, he', h⟩))
  exact (mem_nfaStates_unionDisjoint.mp hU).imp mem_nfaStates_nfaMap.mp mem_nfaStates_nfaMap.mp

/-- the result of the two `ReindexStates` calls of `Union`, with the dictionary `CreateUnionStringToStateMap` builds from the
two translation maps, can be dumped, every state under its own name -/
theorem reindexBoth_dumpable {A B : NFAS} {sd₁ sd₂ : Vata.StateDict} {yd₁ yd₂ : WSymDict} (hA : Dumpable A sd₁ yd₁)
    (hB : Dumpable B sd₂ yd₂) (h₁ : sd₁.Ok) (h₂ : sd₂.Ok) (hy₁ : yd₁.Ok) (hy₂ : yd₂.Ok) (hsub : Sub yd₁ yd₂) {mL mR : SMap}
    (i1 : NfaInjOn (applyMap mL) (nfaStates A.toNFA)) (i2 : NfaInjOn (applyMap mR) (nfaStates B.toNFA))
    (i3 : ∀ p, p ∈ nfaStates A.toNFA → ∀ q, q ∈ nfaStates B.toNFA → applyMap mL p ≠ applyMap mR q)
    (iL : Um.Inj mL) (iR : Um.Inj mR) (iD : Um.Disj mL mR)
    (tL : ∀ q, q ∈ nfaStates A.toNFA → ∃ n, mL.lookup q = some n)
    (tR : ∀ q, q ∈ nfaStates B.toNFA → ∃ n, mR.lookup q = some n) :
    Dumpable (nfasReindexInto (nfasReindexInto nfasEmpty (applyMap mL) A) (applyMap mR) B)
      (ofGlue (unionDict (toGlue sd₁) (toGlue sd₂) (some mL) (some mR))) yd₂ ∧
    NamesInj (nfasReindexInto (nfasReindexInto nfasEmpty (applyMap mL) A) (applyMap mR) B)
      (ofGlue (unionDict (toGlue sd₁) (toGlue sd₂) (some mL) (some mR))) := by
  obtain ⟨hinv, nL, nR⟩ := unionDict_bwd h₁ h₂ iL iR iD
  obtain ⟨sL, sR⟩ := reindexBoth_symsOf _ _ A B i1 i2 i3
  obtain ⟨u1, _, u3⟩ := reindexBoth_sets (applyMap mL) (applyMap mR) A B
  have hname : ∀ q, q ∈ nfaStates (nfasReindexInto (nfasReindexInto nfasEmpty (applyMap mL) A) (applyMap mR) B).toNFA →
      ∃ n, (unionDict (toGlue sd₁) (toGlue sd₂) (some mL) (some mR)).bwd.lookup q = some n := by
    intro q hq
    rcases mem_states_reindexBoth hq with ⟨p, hp, e⟩ | ⟨p, hp, e⟩
    · obtain ⟨n, hn⟩ := hA.named p hp
      obtain ⟨q', hq'⟩ := tL p hp
      rw [e, Um.applyMap_of_lookup hq']
      exact ⟨_, nL p n q' hn hq'⟩
    · obtain ⟨n, hn⟩ := hB.named p hp
      obtain ⟨q', hq'⟩ := tR p hp
      rw [e, Um.applyMap_of_lookup hq']
      exact ⟨_, nR p n q' hn hq'⟩
  obtain ⟨hnamed, hinj⟩ := ofGlue_names (fun h h' => TwoWayDict.translateBwd_injective hinv h h') hname
  refine ⟨⟨hnamed, ?_, ?_⟩, hinj⟩
  · intro e he
    rw [u1] at he
    simp only [nfaUnionWith, nfaUnionDisjoint, nfaMap, List.mem_append, List.mem_map] at he
    rcases he with ⟨e0, he0, rfl⟩ | ⟨e0, he0, rfl⟩
    · obtain ⟨k, hk⟩ := hA.syms e0 he0
      exact ⟨k, hy₂.bwd_sub hy₁ hsub hk⟩
    · exact hB.syms e0 he0
  · intro s hs a ha
    have hs' := (u3 s).mp hs
    simp only [nfaUnionWith, nfaUnionDisjoint, nfaMap, List.mem_append, List.mem_map] at hs'
    rcases hs' with ⟨s0, hs0, rfl⟩ | ⟨s0, hs0, rfl⟩
    · rw [sL s0 hs0] at ha
      obtain ⟨k, hk⟩ := hA.startSyms s0 hs0 a ha
      exact ⟨k, hy₂.bwd_sub hy₁ hsub hk⟩
    · rw [sR s0 hs0] at ha
      exact hB.startSyms s0 hs0 a ha

end Vata.NfaCli
