import Vata.Proofs.LtsEngineCalls2SL
/-!
# The `SharedList` call discipline along the whole run

`stateAfterJ_good`, by `Instr.always` (`Vata/Proofs/LtsEngineInstr.lean`) from what each phase owes: `take_good` at the pop, `copy_good`
at every split of `split`, `release_good` and `pruneOK_SL` (every `append` of the pruning loops goes to a slot of an existing block) for
the loops, `initSlotJ_good` for "initialize counters" (every `newList` goes to a handle that is still null: `DInv.hsn`).
`finish_good`: when `run()` has ended no handle is left.
-/
namespace Vata.LEC2
open Vata.L Vata.LE Vata.LU Vata.LEC

theorem copy_good {L : LTS} {e : Eng} {t : Tr2} {d : Bool} {b : Nat} {rest new : List Nat} (w : WF L e)
    (sok : SplitOK e b rest new) (g : GoodL L e t d) :
    GoodL L (copySlots (splitBlockCore L e b rest new) b e.part.length)
      ((t.addSC [SC.Op.copyCtor b, SC.Op.copyLabels e.part.length b ((splitBlockCore L e b rest new).ins e.part.length)]).addSL
        (copyT L (splitBlockCore L e b rest new) b e.part.length)) d := by
  have w1 : WF L (splitBlockCore L e b rest new) := core_wf w sok
  have hlen1 : (splitBlockCore L e b rest new).part.length = e.part.length + 1 := core_length
  have hnblt : e.part.length < (splitBlockCore L e b rest new).part.length := by rw [hlen1]; omega
  have hne : e.part.length ≠ b := Ne.symm (Nat.ne_of_lt sok.hb)
  have hn1 := w1.len_le
  have hbn := sok.hb
  obtain ⟨a1, _⟩ := copyCnt_spec b e.part.length hne ((splitBlockCore L e b rest new).ins e.part.length)
    (splitBlockCore L e b rest new)
  rw [copySlots_eq _ _ _ hne]
  generalize copyCnt b e.part.length (splitBlockCore L e b rest new) ((splitBlockCore L e b rest new).ins e.part.length) = e1 at a1 ⊢
  have hr1 : e1.rem = e.rem := (congrArg Eng.rem a1 :)
  have hp1 : e1.part = (splitBlockCore L e b rest new).part := (congrArg Eng.part a1 :)
  have hrem : ∀ i a, e1.remv i a = e.remv i a := fun i a => by simp only [Eng.remv, hr1]
  have hnone : ∀ a, e.remv e.part.length a = none := fun a => by
    cases hx : e.remv e.part.length a with
    | none => rfl
    | some x => exact absurd (g.2.bnd _ a (by rw [hx]; rfl)).1 (Nat.lt_irrefl _)
  exact copyRem_good (by omega) (by omega) hne _ _ _ _ (w1.hinset _ hnblt).1.1
    (fun a ha => ⟨w1.ins_lt hnblt ha, by rw [hrem]; rfl, by rw [hrem]; exact hnone a⟩) (by rw [hp1]; exact hnblt)
    ⟨g.1, g.2.grow hr1 (by rw [hp1, hlen1]; omega)⟩

/-- every `append` goes to a slot of an existing block -/
theorem pruneOK_SL {L : LTS} {B : Nat} {s1 : Eng} : PruneOK L B s1 (demJ L) (fun e t => GoodL L e t false) := by
  refine ⟨fun e t b1 col g => g.congr rfl rfl rfl, fun e t b1 a q ks hb1 j _ g => ?_⟩
  have ha := j.wf.ins_lt hb1 (j.hKin (a, q) List.mem_cons_self).1
  have g0 : GoodL L (decrCnt e b1 a q) (t.addSC [SC.Op.decr b1 a q]) false := g.congr rfl rfl rfl
  unfold demJ
  rw [decrStep_eq]
  by_cases hv : (e.cntv b1 a q - 1 == 0) = true
  · rw [if_pos hv, if_pos hv]
    obtain ⟨p1, _, _, _, p5, p6, _, _⟩ := enqueue_spec (decrCnt e b1 a q) b1 a q
    exact append_good g0 hb1 j.wf.len_le ha p1 p5 p6
  · rw [if_neg hv, if_neg hv]
    exact g0.congr rfl rfl (by simp [Tr2.addSL])

/-- one slot of "initialize counters": the counters are set, and a non-empty remove list is built in a handle that is null -/
theorem initSlotJ_good {L : LTS} {et : JE} (w : WF L et.1) {b1 a : Nat} (hb1 : b1 < et.1.part.length) (ha : a ∈ et.1.ins b1)
    (g : GoodL L et.1 et.2 false) (hnone : et.1.remv b1 a = none) :
    GoodL L (initSlotJ L b1 et a).1 (initSlotJ L b1 et a).2 false := by
  obtain ⟨h1, _, _, h4, _, _, _⟩ := initCnt_fold L et.1 b1 a (delta1 L a) et.1 rfl rfl
  have hfold : (delta1 L a).foldl (fun (e : Eng) q =>
      let c := initCount L e b1 a q
      if c == 0 then e else { e with cnt := setCnt e.cnt b1 a q c }) et.1 = (delta1 L a).foldl (cntStep L b1 a) et.1 := rfl
  have hal : a < labels L := w.ins_lt hb1 ha
  have hn : et.1.part.length ≤ L.n := w.len_le
  unfold initSlotJ initSlot
  simp only []
  rw [hfold]
  generalize (delta1 L a).foldl (cntStep L b1 a) et.1 = e1 at h1 h4
  have hrem1 : ∀ i a', e1.remv i a' = et.1.remv i a' := fun i a' => by simp only [Eng.remv, h4]
  have g0 : GoodL L et.1 (et.2.addSC (((delta1 L a).filter (fun q => initCount L et.1 b1 a q != 0)).map
      (fun q => SC.Op.set b1 a q (initCount L et.1 b1 a q)))) false := g.congr rfl rfl rfl
  by_cases hs : (initRemove L e1 b1 a).isEmpty = true
  · simp only [hs, if_true]
    exact (g0.congr h4 (by rw [h1]) rfl).congr rfl rfl (by simp [Tr2.addSL])
  · have hsf : (initRemove L e1 b1 a).isEmpty = false := by simpa using hs
    simp only [hsf, Bool.false_eq_true, if_false]
    refine newList_good (r := [(e1.nextId, initRemove L e1 b1 a)]) g0 hb1 hn hal h1 hnone hsf (fun i a' => ?_)
    rw [← hrem1, remv_eq, remv_eq]
    exact rget_setRem _ _ _ _ _ _

/-- "initialize counters": `resize` / `init()` of the counters are no `SharedList` calls; the slots that `DInv` lists as not yet
visited have a null handle -/
theorem countersJ_good {L : LTS} (hL : LtsOK L) (cfg : SC.Cfg) {e0 : Eng} (w : WF L e0) (hc : e0.cnt = []) (hr : e0.rem = [])
    (hq : e0.queue = []) {t : Tr2} (g : GoodL L e0 t false) :
    GoodL L (initCountersJ L cfg (e0, t)).1 (initCountersJ L cfg (e0, t)).2 false := by
  have h := countersT_trace (front := preJ cfg) (back := postJ) (slot := slotJ L) hL w hc hr hq
    (fun _ e t => GoodL L e t false) (fun _ e t => GoodL L e t false)
    (fun _ _ _ _ _ _ _ g => g.congr rfl rfl rfl)
    (fun b1 a e t done hb1 ha d hnd g => initSlotJ_good (et := (e, t)) (WF.congr d.hp d.hr d.hi w) (by rw [d.hp]; exact hb1)
      (by rw [Eng.ins_congr d.hi]; exact ha) g (d.hsn b1 a hnd))
    (fun _ _ _ _ _ _ g => g.congr rfl rfl rfl) t g
  rw [initCountersJ_eq]
  exact h.1

theorem mk0_sh (n s : Nat) : sh (SL.A.mk0 n) s = false := by
  unfold sh SL.A.mk0
  simp only [List.getD_eq_getElem?_getD]
  cases h : (List.replicate n (none : Option SL.RemList))[s]? with
  | none => rfl
  | some x =>
    have := List.mem_of_getElem? h
    rw [List.mem_replicate] at this
    rw [this.2]; rfl

theorem stateAfterJ_good {L : LTS} (hL : LtsOK L) (cfg : SC.Cfg) {part : List (List Nat)} {rel : Rel}
    (hp : isPartition part L.n = true) (hc : isConsistent part rel = true) (htr : RelTrans part rel) :
    ∀ k, GoodL L (stateAfterJ L cfg part rel k).1 (stateAfterJ L cfg part rel k).2 false := by
  have h := (instrJ L cfg part rel).always hL hp hc htr (fun _ t => t.sl = []) (fun _ t => t.sl = [])
    (fun e t => GoodL L e t false) (fun e t => GoodL L e t true)
    rfl (fun _ _ _ _ _ _ _ h => h) (fun _ _ _ h => h)
    (fun e t w hc hr hq _ h => countersJ_good hL cfg w hc hr hq (by
      have hnone : ∀ i a, e.remv i a = none := fun i a => by rw [remv_eq, hr]; rfl
      unfold GoodL
      rw [h]
      exact ⟨rfl, ⟨by simp [SL.aRun, SL.A.mk0], rfl, fun b a _ _ => by rw [hnone]; exact mk0_sh _ _,
        fun b a hs => by rw [hnone] at hs; cases hs⟩⟩))
    (fun inv _ hr g => take_good g inv.wf.len_le rfl (by rw [hr]; rfl)
      (fun i a' => by rw [remv_eq]; exact rget_setRem _ _ _ _ _ _))
    (fun e t b rest new w _ sok g => copy_good w sok g)
    (fun {_ _ _ mask pl} j hpl g => (prune_trace pruneOK_SL hL mask pl _ hpl j (release_good g)).2)
  exact h

/-- at an empty queue every handle is null and nothing is detached: what `~SimulationEngine` finds -/
theorem finish_good {L : LTS} {e : Eng} {t : Tr2} (g : GoodL L e t false) (qk : QOK e) (hq : e.queue = []) :
    (SL.aRun (SL.A.mk0 (nSlots L)) t.sl).detached = none ∧
      ∀ s, (SL.aRun (SL.A.mk0 (nSlots L)) t.sl).slots.getD s none = none := by
  have hnone : ∀ b a, (e.remv b a).isSome = false := fun b a =>
    Bool.eq_false_iff.mpr fun hx => by have := (qk.hiff b a).mp hx; rw [hq] at this; cases this
  refine ⟨Option.isNone_iff_eq_none.mp (Option.isSome_eq_false_iff.mp g.2.det), fun s => ?_⟩
  by_cases hs : s < nSlots L
  · -- `s` is the slot of block `s / labels`, label `s % labels`
    have hl : 0 < labels L := Nat.pos_of_ne_zero fun hz => by simp [nSlots, hz] at hs
    have hb : s / labels L < L.n := Nat.div_lt_of_lt_mul (by rw [Nat.mul_comm]; exact hs)
    have := g.2.shp (s / labels L) (s % labels L) hb (Nat.mod_lt _ hl)
    rw [show slot L (s / labels L) (s % labels L) = s from Nat.div_add_mod' s (labels L), hnone] at this
    exact Option.isNone_iff_eq_none.mp (Option.isSome_eq_false_iff.mp this)
  · exact getD_of_length_le _ _ _ (by rw [g.2.len]; omega)

end Vata.LEC2
