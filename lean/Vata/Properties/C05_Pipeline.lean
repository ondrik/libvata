import Vata.Proofs.SimPipeline
import Vata.Properties.RefTotal
/-!
# C05 – `Reduce` end to end, as coded

> For any explicit tree automaton A, Reduce returns an automaton that accepts exactly the trees A accepts, has at most
> as many states and at most as many rules as A, and whose every state is the image of at least one state of A.

`Vata/Properties/C05.lean` has the collapse map as a hypothesis; `Vata/Properties/C05_ReduceModel.lean` computes it with the
matrix loops of the code, but starts from the REFERENCE relation `downSimRef A` as a list-of-rows matrix, with the numbering
of the states a parameter.  Here nothing is assumed: `SimPipe.reduceAsCoded A` (`Vata/SimPipeline.lean`) is, in the order of
`ExplicitTreeAutCore::Reduce`,

1. `BuildStateIndex` – only its counter is used: `stateCnt = A.states.length`, passed by `SetNumStates`;
2. `ComputeSimulation` = `ComputeDownwardSimulation(stateCnt)`: fresh translator (`SimPipe.downOrder`), `TranslateDownward` as
   coded, the ENGINE MODEL, the matrix `buildResult` fills, `StateDiscontBinaryRelation(ltsSim, translMap)` (property C04,
   `Vata/Properties/C04_Pipeline.lean`);
3. `sim.RestrictToSymmetric()` and `sim.GetQuotientProjection(collapseMap)` of the CLASS model `Vata/BinRel.lean` (flat
   `std::vector<bool>`, `TwoWayDict`, `TranslateBwd`);
4. `CollapseStates(collapseMap)` (`reindex`, C14) and `RemoveUnreachableStates` (`removeUnreachable`, C03).  (There is no
   `RemoveUselessStates` in `Reduce`.)
-/
namespace Vata.Props
open Vata.SimPipe

/-- **C05 for `Reduce` as coded**: for a ranked automaton (always the case for the explicit encoding) `Reduce` returns an
automaton; it accepts exactly the trees `A` accepts, has at most as many states, at most as many distinct rules and at most
as many rule-list entries, and every state of it is a state of `A` that is the image of a state of `A` under the computed
projection -/
theorem C05_pipeline (A : TA) (hrk : TaLts.Ranked A) :
    ∃ B, reduceAsCoded A = some B ∧ LangEq B A ∧
      B.states.length ≤ A.states.length ∧ B.rules.eraseDups.length ≤ A.rules.eraseDups.length ∧
      B.rules.length ≤ A.rules.length ∧
      ∀ x, x ∈ B.states → x ∈ A.states ∧ ∃ q, q ∈ A.states ∧ x = quotientProjection A (downOrder A) q := by
  obtain ⟨B, hB⟩ := reduceAsCoded_total A
  obtain ⟨h1, h2, h3, _⟩ := reduceAsCoded_never_grows A B hB
  exact ⟨B, hB, reduceAsCoded_lang A hrk B hB, h1, h2, h3, fun _ hx => reduceAsCoded_states A hrk B hB hx⟩

example : TaLts.Ranked TaLtsEx.exA ∧
    (reduceAsCoded TaLtsEx.exA).map (fun B => (B.rules, B.final)) =
      some ([⟨0, [], 0⟩, ⟨0, [], 0⟩, ⟨1, [0, 0], 2⟩, ⟨1, [0, 0], 2⟩], [2, 2]) ∧
    TaLtsEx.exA.rules.length = 5 ∧ TaLtsEx.exA.states.length = 5 :=
  ⟨TaLts.rankedB_iff.mp (by decide +kernel), by rw [exA_reduceAsCoded]; decide +kernel, by decide, by decide⟩

/-- **refinement**: the composition returns exactly the automaton of `reduceModel` (`Vata/ReduceModel.lean`) for the numbering
`downOrder A`, which is a permutation of the states – so everything `C05_ReduceModel.lean` proves about `reduceModel` under
the hypothesis `order.Perm A.states` holds for `Reduce` as coded -/
theorem C05_pipeline_refines_reduceModel (A : TA) (hrk : TaLts.Ranked A) :
    reduceAsCoded A = some (reduceModel A (downOrder A)) ∧ (downOrder A).Perm A.states ∧
    collapseMapAsCoded A = some (quotientMap A (downOrder A)) :=
  ⟨reduceAsCoded_eq_reduceModel A hrk, downOrder_perm A, collapseMapAsCoded_eq A hrk⟩

example : downOrder TaLtsEx.exA = [2, 3, 0, 1, 4] ∧
    collapseMapAsCoded TaLtsEx.exA = some [(2, 2), (3, 2), (0, 0), (1, 0), (4, 4)] ∧
    quotientMap TaLtsEx.exA [2, 3, 0, 1, 4] = [(2, 2), (3, 2), (0, 0), (1, 0), (4, 4)] :=
  ⟨by decide +kernel, exA_collapseMap, by decide +kernel⟩

/-- "never grows" and "every state is an image" need no hypothesis at all (not even `Ranked`), and `Reduce` always returns:
the engine's fuel suffices and no look-up of `GetQuotientProjection` in the two-way dictionary fails -/
theorem C05_pipeline_never_grows (A : TA) :
    ∃ B, reduceAsCoded A = some B ∧
      B.states.length ≤ A.states.length ∧ B.rules.eraseDups.length ≤ A.rules.eraseDups.length ∧
      B.rules.length ≤ A.rules.length ∧
      ∃ m, collapseMapAsCoded A = some m ∧ ∀ x, x ∈ B.states → ∃ q, q ∈ A.states ∧ x = applyMap m q := by
  obtain ⟨B, hB⟩ := reduceAsCoded_total A
  exact ⟨B, hB, reduceAsCoded_never_grows A B hB⟩

example : ¬ TaLts.Ranked TaLtsEx.exU ∧ ∃ B, reduceAsCoded TaLtsEx.exU = some B :=
  ⟨fun h => absurd (TaLts.rankedB_iff.mpr h) (by decide), reduceAsCoded_total _⟩

/-- the link to C04 that `C05_ReduceModel.lean` listed as open: the matrix `Reduce` starts from – the one
`SimulationEngine::buildResult` fills from the engine model's result – is well-formed, has dimension `stateCnt` and is the
matrix of `downSimRef A` over the numbering of the translator -/
theorem C05_pipeline_matrix (A : TA) (hrk : TaLts.Ranked A) :
    ∃ R0, LE.computeSimulation1 (TaLts.translateDownward A A.states.length (idxOf (downOrder A))) A.states.length = some R0 ∧
      BinRel.WF (resultMat A.states.length R0) ∧ (resultMat A.states.length R0).size = A.states.length ∧
      (resultMat A.states.length R0).toBMat = relMatrix (downSimRef A) (downOrder A) := by
  obtain ⟨R0, he⟩ := down_engine_total A A.states.length (idxOf (downOrder A))
  have heng := down_engine_eq A _ _ R0 he
  obtain ⟨w, hsz, _⟩ := resultMat_spec A.states.length R0 (fun p hp => ltsSimOut_lt ((heng p.1 p.2).mp hp))
  exact ⟨R0, he, w, hsz, resultMat_eq_relMatrix A hrk R0 he⟩

example : (resultMat 5 [(2, 2), (3, 3), (0, 0), (0, 1)]).toBMat =
    [[true, true, false, false, false], [false, false, false, false, false], [false, false, true, false, false],
     [false, false, false, true, false], [false, false, false, false, false]] := by decide +kernel

/-- the class-level part alone, for EVERY automaton: `Disc.restrictToSymmetric` / `Disc.quotProj` on the
`StateDiscontBinaryRelation` around the matrix of `buildResult` compute `projToMap` ∘ `quotientProjectionIdx` ∘
`restrictToSymmetric` of `Vata/ReduceModel.lean` on that matrix -/
theorem C05_pipeline_class_level (A : TA) :
    ∃ R0, LE.computeSimulation1 (TaLts.translateDownward A A.states.length (idxOf (downOrder A))) A.states.length = some R0 ∧
      collapseMapAsCoded A = some (projToMap (downOrder A)
        (quotientProjectionIdx (restrictToSymmetric (resultMat A.states.length R0).toBMat))) :=
  collapseMapAsCoded_spec A

-- on the unranked `exU` the encoding relates `1` and `2` both ways (`C04_downward_via_lts_needs_ranked`), so they are merged
example : collapseMapAsCoded TaLtsEx.exU = some [(1, 1), (0, 0), (2, 1)] := by decide +kernel

/-- the size of the result is the size of the canonical reduction `reduceRef` and at most the number of classes of
simulation equivalence: hash order (the order of `A.rules` in the model) has no influence on it -/
theorem C05_pipeline_size (A : TA) (hrk : TaLts.Ranked A) (B : TA) (h : reduceAsCoded A = some B) :
    B.states.length = (reduceRef A).states.length ∧ B.rules.length = (reduceRef A).rules.length ∧
    B.states.length ≤ simClasses A := by
  rw [reduceAsCoded_eq_reduceModel A hrk] at h
  injection h with h
  rw [← h]
  exact ⟨(reduceModel_size_eq_reduceRef A _ (downOrder_perm A)).1, (reduceModel_size_eq_reduceRef A _ (downOrder_perm A)).2,
    reduceModel_states_le_simClasses A _ (downOrder_perm A)⟩

example : (reduceAsCoded TaLtsEx.exA).map (fun B => B.states) = some [0, 2] ∧ simClasses TaLtsEx.exA = 3 ∧
    (reduceRef TaLtsEx.exA).states = [0, 2] := ⟨by rw [exA_reduceAsCoded]; decide, by decide +kernel, by decide +kernel⟩

/-- `Reduce` as coded against the reference the correspondence check uses: the composition returns an automaton, and for
every fuel above the explicit bound `fuelBoundM [B, A]` the exact decider `equivM` answers `true` on it – so a `false` (or a
missing answer) on the automaton the real `Reduce` returns is a difference between code and model -/
theorem C05_pipeline_passes_reference (A : TA) (hrk : TaLts.Ranked A) :
    ∃ B, reduceAsCoded A = some B ∧ ∀ fuel, fuelBoundM [B, A] ≤ fuel → equivM B A fuel = some true := by
  obtain ⟨B, hB, hl, _⟩ := C05_pipeline A hrk
  exact ⟨B, hB, fun fuel hf => (C05_reference_total B A fuel hf).1 hl⟩

example : TaLts.Ranked TaLtsEx.exA ∧ (reduceAsCoded TaLtsEx.exA).isSome = true :=
  ⟨TaLts.rankedB_iff.mp (by decide), by rw [exA_reduceAsCoded]; rfl⟩

/-!
## items of "not yet proved" closed here

* `Vata/Properties/C05_ReduceModel.lean`, "still not proved", first item ("That the numbering the C++ uses gives every state an
  index (it is the hypothesis `order.Perm A.states` …) and that the matrix it starts from is `relMatrix (downSimRef A) order`
  (C04)"): closed – `C05_pipeline_refines_reduceModel` (`downOrder A` is a permutation of the states) and `C05_pipeline_matrix`
  (the matrix, produced by translation as coded + engine model + `buildResult`).
* `Vata/Properties/C05.lean`, first item (the collapse map the C++ derives satisfies `hh` / `IsQuotProj`): now for the class-level
  functions (`BinRel.Disc.restrictToSymmetric`, `BinRel.Disc.quotProj` on the flat matrix with the two-way dictionary) applied to
  the relation `ComputeSimulation` returns: `C05_pipeline_refines_reduceModel` + `C05_model_projection`.
* `Vata/Properties/C16.lean` / `C16_Engine.lean`, "Output size": the matrix of `buildResult` has dimension `size`
  (`C05_pipeline_matrix`, `SimPipe.resultMat_spec`).

## still not proved

* The order of the rule list stands for the hash order of the C++ (as everywhere); `Ranked A` is a hypothesis of the language
  statement (it always holds for the explicit encoding, whose symbols are (name, rank) pairs) – without it the downward encoding
  is wrong (`C04_downward_via_lts_needs_ranked`), though `Reduce` still returns and still does not grow the automaton
  (`C05_pipeline_never_grows`).
* `CollapseStates` / `RemoveUnreachableStates` are the relation-level models `reindex` / `removeUnreachable` (properties C14, C03),
  not the store-level models of `Vata/Store.lean`.
* Minimality of the result is not claimed by the property and not proved.
-/
end Vata.Props
