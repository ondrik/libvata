import Vata.StoreInterned
import Vata.Proofs.CacheModel
/-!
# The tuple cache under an arbitrary multiset of pointer holders (`Vata/StoreInterned.lean`) – cache level

`CInv c R`: the cache `c` is consistent with the multiset `R` of all `TuplePtr`s alive in the process:
no two entries hold equal tuples, no two entries have the same address, the `use_count` of an entry is the number
of pointers to it (and is positive), every pointer points to an entry.  It is `CM.Counted c (R.count ·)` (`cinv_iff`), and what
one more / one fewer holder does to the map is proved there.

`CM.StoreLe c c'`: every entry of `c` is an entry of `c'` up to its `use_count`.  `lookupC` only adds (`StoreLe c c'`),
`releaseC` only removes and `acquireC` adds nothing (`StoreLe c' c`); a pointer that is live on the smaller side points to
the same tuple on both sides (`deref_of_sub`).
-/
namespace Vata.StoreI
open Vata.CM

structure CInv (c : CacheSt) (R : List Nat) : Prop where
  fk : ∀ v x y, (v, x) ∈ c → (v, y) ∈ c → x = y
  fid : ∀ v v' id rc rc', (v, id, rc) ∈ c → (v', id, rc') ∈ c → v = v'
  cnt : ∀ v id rc, (v, id, rc) ∈ c → rc = R.count id ∧ 0 < rc
  live : ∀ id, id ∈ R → ∃ v rc, (v, id, rc) ∈ c

theorem cinv_nil : CInv [] [] := ⟨nofun, nofun, nofun, nofun⟩

variable {c c' : CacheSt} {R R' : List Nat} {v : List Nat} {id rc n p : Nat}

theorem cinv_iff : CInv c R ↔ Counted c fun id => R.count id :=
  ⟨fun h => ⟨h.fk, h.fid, h.cnt, fun id hid => h.live id (List.count_pos_iff.1 hid)⟩,
   fun h => ⟨h.fk, h.fid, h.rc, fun id hid => h.live id (List.count_pos_iff.2 hid)⟩⟩

namespace CInv
theorem byId_eq (h : CInv c R) (hm : (v, id, rc) ∈ c) : byId c id = some (v, rc) := (cinv_iff.1 h).byId_iff.2 hm

theorem derefC_eq (h : CInv c R) {v : List Nat} {id rc : Nat} (hm : (v, id, rc) ∈ c) : derefC c id = v := by
  rw [derefC, h.byId_eq hm]

theorem deref_inj (h : CInv c R) {a b : Nat} (ha : a ∈ R) (hb : b ∈ R) (e : derefC c a = derefC c b) : a = b := by
  obtain ⟨va, ra, hma⟩ := h.live a ha
  obtain ⟨vb, rb, hmb⟩ := h.live b hb
  rw [h.derefC_eq hma, h.derefC_eq hmb] at e
  subst e
  exact congrArg Prod.fst (h.fk _ _ _ hma hmb)

theorem congr (h : CInv c R) (hc : ∀ id, R'.count id = R.count id) : CInv c R' :=
  cinv_iff.2 ((cinv_iff.1 h).congr hc)

/-- two entries hold equal tuples iff they have the same address -/
theorem tuple_eq_iff_id_eq (h : CInv c R) {v' : List Nat} {id' rc' : Nat} (hm : (v, id, rc) ∈ c) (hm' : (v', id', rc') ∈ c) :
    v = v' ↔ id = id' :=
  (cinv_iff.1 h).tuple_eq_iff_id_eq hm hm'

/-- without holders there are no entries: the `assert(this->empty())` of `~Cache()` -/
theorem eq_nil (h : CInv c []) : c = [] := (cinv_iff.1 h).eq_nil

theorem perm (h : CInv c R) (hp : R.Perm R') : CInv c R' := h.congr fun id => (hp.count_eq id).symm

theorem liveIds_eq (h : CInv c R) : id ∈ liveIds c ↔ id ∈ ids c := by
  unfold liveIds
  rw [mem_ids, mem_ids]
  constructor
  · rintro ⟨v, n, hm⟩
    exact ⟨v, n, (List.mem_filter.1 hm).1⟩
  · rintro ⟨v, n, hm⟩
    exact ⟨v, n, List.mem_filter.2 ⟨hm, decide_eq_true (h.cnt v id n hm).2⟩⟩

theorem bump (h : CInv c R) (hm : (v, id, rc) ∈ c) : CInv (aset c v (id, rc + 1)) (id :: R) :=
  cinv_iff.2 ((cinv_iff.1 h).bump hm (oneMore_cons R id))

theorem fresh (h : CInv c R) {ch : Nat} (hv : aget c v = none) (hch : ch ∉ ids c) : CInv (aset c v (ch, 1)) (ch :: R) :=
  cinv_iff.2 ((cinv_iff.1 h).fresh hv hch (oneMore_cons R ch))

end CInv

theorem deref_of_sub (h : CInv c R) (h' : CInv c' R') (hs : StoreLe c c') {p : Nat}
    (hp : p ∈ R) : derefC c' p = derefC c p := by
  obtain ⟨v, rc, hm⟩ := h.live p hp
  obtain ⟨rc', hm'⟩ := hs v p rc hm
  rw [h.derefC_eq hm, h'.derefC_eq hm']

theorem acquireC_of_byId (hb : byId c p = some (v, rc)) :
    acquireC c p = aset c v (p, rc + 1) := by
  rw [acquireC, hb]

theorem releaseC_of_byId (hb : byId c p = some (v, rc)) :
    releaseC .lib c p = if rc ≤ 1 then adel c v else aset c v (p, rc - 1) := by
  rw [releaseC, hb]
  rfl

theorem acquireC_sub (c : CacheSt) (p : Nat) : StoreLe (acquireC c p) c := by
  cases hb : byId c p with
  | none =>
    rw [acquireC, hb]
    exact StoreLe.refl c
  | some x =>
    rw [acquireC_of_byId hb]
    exact aset_sub (byId_mem hb) _

theorem releaseC_sub (c : CacheSt) (p : Nat) : StoreLe (releaseC .lib c p) c := by
  cases hb : byId c p with
  | none =>
    rw [releaseC, hb]
    exact StoreLe.refl c
  | some x =>
    rw [releaseC_of_byId hb]
    split
    · exact adel_sub c _
    · exact aset_sub (byId_mem hb) _

theorem foldl_sub {f : CacheSt → Nat → CacheSt} (hf : ∀ c p, StoreLe (f c p) c) (l : List Nat) (c : CacheSt) :
    StoreLe (l.foldl f c) c := by
  induction l generalizing c with
  | nil => exact StoreLe.refl c
  | cons p l ih => exact (ih _).trans (hf c p)

/-- `Cache::lookup`: the pointer returned is one more holder, and it points to the tuple asked for -/
theorem CInv.lookupC (h : CInv c R) {t : List Nat} {ch p : Nat}
    (hl : lookupC c t ch = some (c', p)) : CInv c' (p :: R) ∧ derefC c' p = t ∧ StoreLe c c' := by
  unfold StoreI.lookupC at hl
  split at hl
  · rename_i id rc hg
    cases hl
    have hm := aget_mem hg
    have hb := h.bump hm
    exact ⟨hb, hb.derefC_eq (mem_aset.2 (Or.inr rfl)), sub_aset (fun x hx => by rw [h.fk _ _ _ hx hm]) _⟩
  · rename_i hg
    split at hl
    · cases hl
    · rename_i hch
      cases hl
      have hf := h.fresh hg (fun hc => hch (h.liveIds_eq.2 hc))
      exact ⟨hf, hf.derefC_eq (mem_aset.2 (Or.inr rfl)), sub_aset (fun x hx => by rw [(cinv_iff.1 h).aget_iff.2 hx] at hg; cases hg) _⟩

/-- copy of a live pointer -/
theorem CInv.acquireC (h : CInv c R) (hp : p ∈ R) :
    CInv (acquireC c p) (p :: R) := by
  obtain ⟨v, rc, hm⟩ := h.live p hp
  rw [acquireC_of_byId (h.byId_eq hm)]
  exact h.bump hm

/-- death of one pointer -/
theorem CInv.releaseC (h : CInv c (p :: R)) : CInv (releaseC .lib c p) R := by
  obtain ⟨v, rc, hm⟩ := h.live p List.mem_cons_self
  rw [releaseC_of_byId (h.byId_eq hm)]
  exact cinv_iff.2 ((cinv_iff.1 h).drop hm (oneMore_cons R p))

/-- all pointers of a dying container are released one after the other -/
theorem CInv.foldl_releaseC (L : List Nat) {E : List Nat} (h : CInv c (L ++ E)) :
    CInv (L.foldl (StoreI.releaseC Mode.lib) c) E := by
  induction L generalizing c with
  | nil => exact h
  | cons p L ih => exact ih (CInv.releaseC h)

/-- all pointers of a container are copied one after the other -/
theorem CInv.foldl_acquireC (L : List Nat) (h : CInv c R) (hL : ∀ p, p ∈ L → p ∈ R) :
    CInv (L.foldl StoreI.acquireC c) (L ++ R) := by
  induction L generalizing c R with
  | nil => exact h
  | cons p L ih =>
    exact (ih (CInv.acquireC h (hL p List.mem_cons_self))
      fun q hq => List.mem_cons_of_mem _ (hL q (List.mem_cons_of_mem _ hq))).perm List.perm_middle

end Vata.StoreI
