import Vata.Proofs.NfaInclSimEquiv
import Vata.Proofs.NfaInclSimAC
import Vata.Proofs.NfaInclSimCongr
import Vata.Proofs.NfaInclSimCongrInv
import Vata.Proofs.NfaInclTotal
import Vata.Generated.Tables
/-!
# C09 – the NFA inclusion selections WITH a simulation relation and the EQUIVALENCE functor

Property C09: *"`CheckInclusion` on finite (word) automata answers `L(smaller) ⊆ L(bigger)` for every implemented selection
of `InclParam`"*.  `Vata/Properties/C09.lean` covers the rows `ANTICHAINS_NOSIM`, `CONGR_DEPTH_NOSIM`, `CONGR_BREADTH_NOSIM` of
the dispatcher `src/explicit_finite_incl.cc`; its "not yet proved" block says that the other four rows have no model.  This
file serves that item.

## How the C++ is read into the model (`Vata/NfaInclSim.lean`, with the quoted source lines there)

* `CONGR_DEPTH_EQUIV_NOSIM`, `CONGR_BREADTH_EQUIV_NOSIM`: sanitise, `smaller := UnionDisjointStates(smaller, bigger)`, then
  `ExplicitFACongrEquivFunctor` with the depth / breadth product set: `checkNfaInclEquiv A B depthFirst fuel`
  (`nfaInclEquiv` = the functor on `(A ⊎ B, B)` for state-disjoint operands).  `Init`, `MakePostForAut`, the product set are
  those of the congruence functor; the head of `MakePost` computes the congruence closure (rules applied in BOTH directions)
  of `smaller` recording every intermediate set in `congrMap`, then that of `bigger`, leaving early when an intermediate set
  `areEqual` to the recorded one of the same rule, and finally compares the two closures with `areEqual` (which is `false` on
  empty sets).  The verdict of the model is the verdict of the exploration – NO certificate check.
* `ANTICHAINS_SIM`: the caller's operands and relation, unsanitised, antichain functor with
  `ExplicitFAStateSetComparatorSimulation`: `nfaInclACSim A B R fuel` (`∀∃` comparison of macro-states modulo `R`, candidates
  from `singleAntichain_`, `checkSmallerInBigger` skip).  Certify-then-trust: `true` only after `nfaUpCertSimB`, `false` only
  after the word check; `nfaInclACSimRaw` is the unchecked verdict.
* `CONGR_DEPTH_SIM`: the caller's operands, unsanitised and WITHOUT the union (the command line passes `smaller := A ⊎ B`):
  `congrSimFunctor U B R fuel`; `nfaInclCongrSim A B R fuel` runs it on `(A ⊎ B, B)` (`NormalFormRelSimulation::applyRule` on
  the start set of the closure and on every added rule side).  Certify-then-trust with `congrCertB` over the relation plus the
  simulation pairs as rules; `nfaInclCongrSimRaw` is the unchecked verdict.

Abstracted (as in `Vata/NfaIncl.lean`): macro-states are sorted duplicate-free lists compared by value (the macro-state cache,
which never shares the empty set, and the memo tables `subsetMap_`, `subsetNotMap_`, `usedRules_` are not modelled); iteration
orders of hash containers are list orders; a relation is a list of pairs and `get` outside it is `false`; `applyRule` inserts
into the set it iterates over – the model makes one pass over the original set.

Entry points for a comparison with the library (all `… → Option Bool`):
`checkNfaInclEquiv : NFA → NFA → Bool → Nat → Option Bool`, `nfaInclACSim`, `nfaInclACSimRaw`, `nfaInclCongrSim`,
`nfaInclCongrSimRaw : NFA → NFA → Rel → Nat → Option Bool`, and `C09Sel.model` for a row of the table.
-/
namespace Vata.Props
open Vata.W Vata.NfaIncl

/-! ### 1. the equivalence functor -/

/-- **The two EQUIV selections answer the inclusion question.**  Every verdict of the model of `CheckInclusion` with
`CONGR_DEPTH_EQUIV_NOSIM` (`depthFirst = true`) or `CONGR_BREADTH_EQUIV_NOSIM` – sanitise, run the equivalence functor on
`(A ⊎ B, B)` – is the truth of `L(A) ⊆ L(B)`.  No hypothesis; the verdict is that of the exploration, there is no final check -/
theorem C09_equiv_functor_exact (A B : NFA) (depthFirst : Bool) (fuel : Nat) (b : Bool)
    (h : checkNfaInclEquiv A B depthFirst fuel = some b) : b = true ↔ InclW A B :=
  checkNfaInclEquiv_iff h

/-- the functor itself on `(A ⊎ B, B)`: exact for operands with disjoint states -/
theorem C09_equiv_functor_core_exact (A B : NFA) (hdis : ∀ q, q ∈ nfaStates A → q ∈ nfaStates B → False)
    (depthFirst : Bool) (fuel : Nat) (b : Bool) (h : nfaInclEquiv A B depthFirst fuel = some b) :
    b = true ↔ InclW A B :=
  nfaInclEquiv_iff hdis h

/-- … with what stands behind the verdict: a `return false` happens at a word accepted by `A` and not by `B`, a
`return true` leaves a `relation_` that is a bisimulation up to congruence relating the start macro-states of `A ⊎ B` and `B`
(Hopcroft–Karp / Bonchi–Pous) -/
theorem C09_equiv_functor_certified (A B : NFA) (hdis : ∀ q, q ∈ nfaStates A → q ∈ nfaStates B → False)
    (depthFirst : Bool) (fuel : Nat) :
    (∀ w, nfaInclEquivRun A B depthFirst fuel = some (.error w) → acceptsW A w = true ∧ acceptsW B w = false) ∧
    (∀ R, nfaInclEquivRun A B depthFirst fuel = some (.ok R) → CongrCert A B (rulesOf R)) :=
  runEquiv_inv hdis

/-- **Totality**: above the explicit bound `fuelBoundCongr` (number of pairs of sets of states + 1; one unit of fuel per picked
pair) the model returns a verdict – hence, by `C09_equiv_functor_exact`, the right one.  The inner closure loops never run out
of their fuel (`NfaIncl.eqCloseLoop_not_stuck`) -/
theorem C09_equiv_functor_total (A B : NFA) (depthFirst : Bool) (fuel : Nat)
    (hf : fuelBoundCongr (nfaSanitize A B).1 (nfaSanitize A B).2 < fuel) :
    (InclW A B → checkNfaInclEquiv A B depthFirst fuel = some true) ∧
    (¬ InclW A B → checkNfaInclEquiv A B depthFirst fuel = some false) := by
  obtain ⟨b, hb⟩ := checkNfaInclEquiv_total A B (depthFirst := depthFirst) hf
  exact Total.verdicts ⟨b, hb, checkNfaInclEquiv_iff hb⟩

/-- the pruning test is sound on its own: a pair of macro-states skipped by `MakePost` is in the congruence closure of the
rules `next_ ∪ relation_` (early exit through `congrMap` and the `areEqual` that rejects empty sets included) -/
theorem C09_equiv_skip_sound (rules : List CRule) (X Y : List Nat) (hX : List.Pairwise (· < ·) X)
    (hY : List.Pairwise (· < ·) Y) (h : equivSkip rules X Y = some true) : CongrCl rules X Y :=
  equivSkip_sound hX hY h

namespace C09SimEx
def a1 : NFA := ⟨[0], [0], [(0, 0, 0)]⟩
def ab1 : NFA := ⟨[1], [1], [(1, 0, 1), (1, 1, 1)]⟩
/-- `A` and `B` share the state `1`, final in `B` only -/
def shA : NFA := ⟨[0], [], [(0, 0, 1)]⟩
def shB : NFA := ⟨[5], [1], []⟩
end C09SimEx
open C09SimEx

-- non-vacuity: `a* ⊆ (a|b)*` and not conversely, depth-first and breadth-first
example : checkNfaInclEquiv a1 ab1 true 20 = some true ∧ checkNfaInclEquiv a1 ab1 false 20 = some true ∧
    checkNfaInclEquiv ab1 a1 true 20 = some false ∧ checkNfaInclEquiv ab1 a1 false 20 = some false := by
  decide +kernel
example : fuelBoundCongr (nfaSanitize a1 ab1).1 (nfaSanitize a1 ab1).2 < 20 := by decide +kernel
-- the regression pair of the repaired subset memo
example : checkNfaInclEquiv NfaInclEx.exMemoA NfaInclEx.exMemoB true 50 = some true ∧
    checkNfaInclEquiv NfaInclEx.exMemoB NfaInclEx.exMemoA false 50 = some false := by decide +kernel
-- up-to-congruence pruning at work: with the rule `{1,2,3} ~ {3}` the pair `({1,2,3,4}, {3,4})` is skipped
example : equivSkip [([1, 2, 3], [3])] [1, 2, 3, 4] [3, 4] = some true ∧
    equivSkip [([1, 2, 3], [3])] [1, 2, 3, 4] [4] = some false := by decide +kernel
/-- the hypothesis of `C09_equiv_functor_core_exact` cannot be dropped: on operands that share a state the functor on
`(A ⊎ B, B)` answers `false` although `L(A) = ∅` -/
theorem C09_equiv_functor_needs_disjoint :
    nfaInclEquiv shA shB true 20 = some false ∧ InclW shA shB := by
  refine ⟨by decide +kernel, ?_⟩
  intro w hw
  have : ∀ S, W.accepting shA S = false := by
    intro S; simp [W.accepting, shA]
  simp [W.acceptsW, this] at hw

/-! ### 2. the selections with a simulation relation -/

/-- the decidable checker of "simulation preorder on `U`" is the spec: `R` relates only states where the first being final
makes the second final, every move of the first is answered by a move of the second into `R` (`NfaSim`), `R` is reflexive on
the states of `U` and transitive -/
theorem C09_sim_checker_spec (U : NFA) (R : Rel) :
    (isNfaSimB U R = true ↔ NfaSim U R) ∧ (isNfaSimPreB U R = true ↔ NfaSimPre U R) :=
  ⟨isNfaSimB_iff, isNfaSimPreB_iff⟩

/-- **`ANTICHAINS_SIM`**: if the operands are state-disjoint and `R` is a simulation preorder on their disjoint union, every
verdict of the model is the truth of `L(A) ⊆ L(B)`.  (Used: `NfaSim` and transitivity; reflexivity is not needed for
exactness.)  The model is certify-then-trust: a finished exploration whose final antichain fails `nfaUpCertSimB` gives `none` -/
theorem C09_antichain_sim_exact (A B : NFA) (R : Rel) (hdis : ∀ q, q ∈ nfaStates A → q ∈ nfaStates B → False)
    (hR : isNfaSimPreB (nfaUnionDisjoint A B) R = true) (fuel : Nat) (b : Bool)
    (h : nfaInclACSim A B R fuel = some b) : b = true ↔ InclW A B := by
  obtain ⟨h1, _, h3⟩ := isNfaSimPreB_iff.mp hR
  exact nfaInclACSim_iff hdis h1 h3 h

/-- a `false` is right for every relation and all operands (it comes with a word accepted by `A` and not by `B`) -/
theorem C09_antichain_sim_false_unconditional (A B : NFA) (R : Rel) (fuel : Nat)
    (h : nfaInclACSim A B R fuel = some false) : ¬ InclW A B := by
  rcases nfaInclACSim_inv h with ⟨hb, _⟩ | ⟨_, _, hA, hB⟩
  · cases hb
  · exact not_inclW_of_witness hA hB

/-- the antichain principle modulo a simulation, on word automata: a set `X` of pairs (state, macro-state) that covers the
start states modulo `R`, whose successors are covered modulo `R` or simulated by a state of the successor macro-state, and
that has no bad pair, proves the inclusion -/
theorem C09_antichain_sim_certificate (A B : NFA) (R : Rel) (X : List (Nat × List Nat))
    (hdis : ∀ q, q ∈ nfaStates A → q ∈ nfaStates B → False)
    (hR : NfaSim (nfaUnionDisjoint A B) R) (ht : ∀ p q r, (p, q) ∈ R → (q, r) ∈ R → (p, r) ∈ R)
    (h : nfaUpCertSimB A B R X = true) : InclW A B :=
  nfa_up_cert_sim_incl hdis hR ht (nfaUpCertSimB_sound h).1 (nfaUpCertSimB_sound h).2

namespace C09SimEx
/-- `L = {aa}` -/
def bA : NFA := ⟨[0], [2], [(0, 0, 1), (1, 0, 2)]⟩
/-- `L = ∅` -/
def bB : NFA := ⟨[3], [], [(3, 0, 4), (4, 0, 5)]⟩
/-- all pairs of states: not a simulation (`2` is final, nothing in `bB` is) -/
def rAll : Rel := (List.range 6).flatMap (fun p => (List.range 6).map (fun q => (p, q)))
/-- `a* ⊆ (a|b)*` with the largest simulation on the union -/
def rStar : Rel := [(0, 0), (0, 1), (1, 1)]
/-- `aa a* b*` -/
def aab : NFA := ⟨[0], [2, 3], [(0, 0, 1), (1, 0, 2), (2, 0, 2), (2, 1, 3), (3, 1, 3)]⟩
/-- `a a*` -/
def aplus : NFA := ⟨[4], [5], [(4, 0, 5), (5, 0, 5)]⟩
/-- the largest simulation on `aab ⊎ aplus` -/
def rAAB : Rel := [(0, 0), (0, 2), (0, 1), (4, 4), (4, 2), (4, 5), (4, 1), (2, 2), (3, 2), (3, 3), (5, 2), (5, 5),
  (1, 2), (1, 1)]
/-- `a1`, `ab1` are state-disjoint and `rStar` is a simulation preorder on their union -/
theorem a1_ab1_pre :
    (∀ q, q ∈ nfaStates a1 → q ∈ nfaStates ab1 → False) ∧ isNfaSimPreB (nfaUnionDisjoint a1 ab1) rStar = true :=
  ⟨by decide, by decide +kernel⟩
/-- evaluated once; quoted below and in `C09_SimTotal` -/
theorem rAAB_pre : isNfaSimPreB (nfaUnionDisjoint aab aplus) rAAB = true := by decide +kernel
end C09SimEx

/-- **the hypothesis on `R` cannot be dropped**: with the full relation (not a simulation) `checkSmallerInBigger` skips the
pair `(1, {4})`, the exploration returns `true`, the certificate check (which trusts `R`) passes – but `aa ∈ L(A) \ L(B)` -/
theorem C09_antichain_sim_needs_simulation :
    nfaInclACSimRaw bA bB rAll 20 = some true ∧ nfaInclACSim bA bB rAll 20 = some true ∧
    isNfaSimPreB (nfaUnionDisjoint bA bB) rAll = false ∧
    acceptsW bA [0, 0] = true ∧ acceptsW bB [0, 0] = false := by decide +kernel

-- non-vacuity of `C09_antichain_sim_exact`: disjoint operands, a simulation preorder, verdicts `true` and `false`
example : (∀ q, q ∈ nfaStates a1 → q ∈ nfaStates ab1 → False) ∧
    isNfaSimPreB (nfaUnionDisjoint a1 ab1) rStar = true ∧ nfaInclACSim a1 ab1 rStar 20 = some true :=
  ⟨a1_ab1_pre.1, a1_ab1_pre.2, by decide +kernel⟩
example : isNfaSimPreB (nfaUnionDisjoint ab1 a1) rStar = true ∧ nfaInclACSim ab1 a1 rStar 20 = some false := by
  decide +kernel
example : isNfaSimPreB (nfaUnionDisjoint aab aplus) rAAB = true ∧
    nfaInclACSim aab aplus rAAB 30 = some false ∧ nfaInclACSim aplus aab rAAB 30 = some false :=
  ⟨rAAB_pre, by decide +kernel⟩
-- the simulation prunes: with `rStar` the pair `(0, {1})` is the whole antichain and its successor is skipped
example : (runACSim a1 ab1 rStar 20).map (fun r => match r with | .ok P => P.map (fun i => (i.q, i.S)) | .error _ => []) =
    some [(0, [1])] := by decide +kernel

/-- **`CONGR_DEPTH_SIM`** (called as the command line does, `smaller := A ⊎ B`): every verdict of the model is the truth of
`L(A) ⊆ L(B)` – for EVERY relation and all operands, because the final check `congrCertB` verifies the simulation pairs as
rewriting rules together with the relation (and the disjointness of the operands).  What the hypothesis "`R` is a simulation"
buys is that the check does not fail: `C09_congr_sim_total` -/
theorem C09_congr_sim_exact (A B : NFA) (R : Rel) (fuel : Nat) (b : Bool)
    (h : nfaInclCongrSim A B R fuel = some b) : b = true ↔ InclW A B :=
  nfaInclCongrSim_iff h

/-- **the exploration of `CONGR_DEPTH_SIM` is right by itself**: for state-disjoint operands and a relation `R` that is a
simulation on their disjoint union (`isNfaSimB`; neither reflexivity nor transitivity is needed) the UNCHECKED verdict of the
congruence functor with `NormalFormRelSimulation` on `(A ⊎ B, B)` – what the C++ returns – is the truth of `L(A) ⊆ L(B)`:
`applyRule` and the one-sided closure test stay inside the congruence closure of `relation_ ∪ next_ ∪ {({s}, {s, r}) | r R s}`,
and the simulation pairs are a bisimulation up to congruence -/
theorem C09_congr_sim_exploration_exact (A B : NFA) (R : Rel) (hdis : ∀ q, q ∈ nfaStates A → q ∈ nfaStates B → False)
    (hR : isNfaSimB (nfaUnionDisjoint A B) R = true) (fuel : Nat) (b : Bool)
    (h : nfaInclCongrSimRaw A B R fuel = some b) : b = true ↔ InclW A B :=
  nfaInclCongrSimRaw_iff hdis (isNfaSimB_iff.mp hR) h

/-- **totality of `CONGR_DEPTH_SIM`**: above `fuelBoundCongr A B` the exploration ends for every relation (the inner closure
loop never runs out of its fuel), and under the hypotheses of `C09_congr_sim_exploration_exact` the final check of the
certify-then-trust model passes: both models return the right verdict -/
theorem C09_congr_sim_total (A B : NFA) (R : Rel) (fuel : Nat) (hf : fuelBoundCongr A B < fuel) :
    (∃ b, nfaInclCongrSimRaw A B R fuel = some b) ∧
    ((∀ q, q ∈ nfaStates A → q ∈ nfaStates B → False) → isNfaSimB (nfaUnionDisjoint A B) R = true →
      (InclW A B → nfaInclCongrSim A B R fuel = some true ∧ nfaInclCongrSimRaw A B R fuel = some true) ∧
      (¬ InclW A B → nfaInclCongrSim A B R fuel = some false ∧ nfaInclCongrSimRaw A B R fuel = some false)) := by
  refine ⟨nfaInclCongrSimRaw_total A B R hf, fun hdis hR => ?_⟩
  have hR' := isNfaSimB_iff.mp hR
  obtain ⟨b, hb⟩ := nfaInclCongrSim_total hdis hR' (fuel := fuel) hf
  obtain ⟨b', hb'⟩ := nfaInclCongrSimRaw_total A B R (fuel := fuel) hf
  have v := Total.verdicts ⟨b, hb, nfaInclCongrSim_iff hb⟩
  have v' := Total.verdicts ⟨b', hb', nfaInclCongrSimRaw_iff hdis hR' hb'⟩
  exact ⟨fun hi => ⟨v.1 hi, v'.1 hi⟩, fun hi => ⟨v.2 hi, v'.2 hi⟩⟩

example : fuelBoundCongr a1 ab1 < 20 ∧ isNfaSimB (nfaUnionDisjoint a1 ab1) rStar = true := by decide +kernel

/-- without the final check the congruence functor trusts the relation: with the single pair `(0, 3)` (not a simulation: the
successors `1`, `4` are not related) `applyRule` puts `0` into the closure of `{3}`, the start pair is skipped and the unchecked
verdict is a wrong `true`; the checked model refuses to answer -/
theorem C09_congr_sim_needs_simulation :
    nfaInclCongrSimRaw bA bB [(0, 3)] 20 = some true ∧ nfaInclCongrSim bA bB [(0, 3)] 20 = none ∧
    isNfaSimB (nfaUnionDisjoint bA bB) [(0, 3)] = false ∧
    acceptsW bA [0, 0] = true ∧ acceptsW bB [0, 0] = false := by decide +kernel

example : nfaInclCongrSim a1 ab1 rStar 20 = some true ∧ nfaInclCongrSim ab1 a1 rStar 20 = some false ∧
    nfaInclCongrSimRaw a1 ab1 rStar 20 = some true := by decide +kernel
example : nfaInclCongrSim aab aplus rAAB 30 = some false := by decide +kernel
-- `applyRule`: the states simulated by a state of the set are added
example : applyRuleSim rStar [1] = [0, 1] ∧ applyRuleSim rStar [0] = [0] := by decide

/-! ### 3. all seven rows of the dispatcher -/

/-- the model of the row of `Vata.Gen.faDispatch` with option word `word`; `R` is the relation of the caller (read by the two
rows with a simulation only).  Rows `0`, `1`, `33`: the models of `Vata/NfaIncl.lean` (their certificates dropped) -/
def C09Sel.model (word : Nat) (A B : NFA) (R : Rel) (fuel : Nat) : Option Bool :=
  match word with
  | 0 => (checkNfaInclAC A B fuel).map (·.1)            -- ANTICHAINS_NOSIM
  | 16 => nfaInclACSim A B R fuel                        -- ANTICHAINS_SIM
  | 33 => (checkNfaInclCongr A B true fuel).map (·.1)    -- CONGR_BREADTH_NOSIM
  | 1 => (checkNfaInclCongr A B false fuel).map (·.1)    -- CONGR_DEPTH_NOSIM
  | 17 => nfaInclCongrSim A B R fuel                     -- CONGR_DEPTH_SIM
  | 65 => checkNfaInclEquiv A B true fuel                -- CONGR_DEPTH_EQUIV_NOSIM
  | 97 => checkNfaInclEquiv A B false fuel               -- CONGR_BREADTH_EQUIV_NOSIM
  | _ => none

/-- the fuel bound of a row without a simulation -/
def C09Sel.bound (word : Nat) (A B : NFA) : Nat :=
  if word = 0 then fuelBoundAC (nfaSanitize A B).1 (nfaSanitize A B).2
  else fuelBoundCongr (nfaSanitize A B).1 (nfaSanitize A B).2

/-- every verdict of `C09Sel.model` is exact, whatever the word: a word without a row has the model `none` -/
theorem C09Sel.model_exact (word : Nat) (A B : NFA) (R : Rel)
    (hsim : word = 16 → (∀ q, q ∈ nfaStates A → q ∈ nfaStates B → False) ∧
      isNfaSimPreB (nfaUnionDisjoint A B) R = true)
    (fuel : Nat) (b : Bool) (h : C09Sel.model word A B R fuel = some b) : b = true ↔ InclW A B := by
  unfold C09Sel.model at h
  split at h
  · obtain ⟨_, h'⟩ := Verdict.exists_cert h
    exact checkNfaInclAC_iff h'
  · exact C09_antichain_sim_exact A B R (hsim rfl).1 (hsim rfl).2 fuel b h
  · obtain ⟨_, h'⟩ := Verdict.exists_cert h
    exact checkNfaInclCongr_iff h'
  · obtain ⟨_, h'⟩ := Verdict.exists_cert h
    exact checkNfaInclCongr_iff h'
  · exact nfaInclCongrSim_iff h
  · exact checkNfaInclEquiv_iff h
  · exact checkNfaInclEquiv_iff h
  · cases h

/-- **every implemented selection is exact.**  For every row `c` of the regenerated dispatch table `Vata.Gen.faDispatch`
(seven rows) every verdict of the model of that row is the truth of `L(A) ⊆ L(B)`.  Hypotheses: none for the five rows
without a simulation (the dispatcher sanitises) and none for `CONGR_DEPTH_SIM` (final check); for `ANTICHAINS_SIM` (word 16)
the operands must be state-disjoint and `R` a simulation preorder on their disjoint union -/
theorem C09_every_implemented_selection_exact (c : Gen.Case) (hc : c ∈ Gen.faDispatch) (A B : NFA) (R : Rel)
    (hsim : c.word = 16 → (∀ q, q ∈ nfaStates A → q ∈ nfaStates B → False) ∧
      isNfaSimPreB (nfaUnionDisjoint A B) R = true)
    (fuel : Nat) (b : Bool) (h : C09Sel.model c.word A B R fuel = some b) : b = true ↔ InclW A B :=
  C09Sel.model_exact c.word A B R hsim fuel b h

/-- **the five selections without a simulation are total**: above the explicit bound of the row the model returns the right
verdict -/
theorem C09_nosim_selections_total (c : Gen.Case) (hc : c ∈ Gen.faDispatch) (hrel : c.rel = "identity") (A B : NFA)
    (R : Rel) (fuel : Nat) (hf : C09Sel.bound c.word A B < fuel) :
    (InclW A B → C09Sel.model c.word A B R fuel = some true) ∧
    (¬ InclW A B → C09Sel.model c.word A B R fuel = some false) := by
  simp only [Gen.faDispatch, List.mem_cons, List.not_mem_nil, or_false] at hc
  rcases hc with rfl | rfl | rfl | rfl | rfl | rfl | rfl
  · have := checkNfaInclAC_complete A B (fuel := fuel) hf
    constructor
    · intro hi; obtain ⟨c, hc⟩ := this.1 hi; simp [C09Sel.model, hc]
    · intro hi; obtain ⟨c, hc⟩ := this.2 hi; simp [C09Sel.model, hc]
  · exact absurd hrel (by decide +kernel)
  · have := checkNfaInclCongr_complete A B (breadth := true) (fuel := fuel) hf
    constructor
    · intro hi; obtain ⟨c, hc⟩ := this.1 hi; simp [C09Sel.model, hc]
    · intro hi; obtain ⟨c, hc⟩ := this.2 hi; simp [C09Sel.model, hc]
  · have := checkNfaInclCongr_complete A B (breadth := false) (fuel := fuel) hf
    constructor
    · intro hi; obtain ⟨c, hc⟩ := this.1 hi; simp [C09Sel.model, hc]
    · intro hi; obtain ⟨c, hc⟩ := this.2 hi; simp [C09Sel.model, hc]
  · exact absurd hrel (by decide +kernel)
  · exact C09_equiv_functor_total A B true fuel hf
  · exact C09_equiv_functor_total A B false fuel hf

/-- the words of `C09Sel.model` are exactly the words of the table -/
example : Gen.faDispatch.map (·.word) = [0, 16, 33, 1, 17, 65, 97] := by decide

-- non-vacuity for each of the seven rows: `a* ⊆ (a|b)*` is answered `true`, the converse `false`
example : ∀ c, c ∈ Gen.faDispatch → C09Sel.model c.word a1 ab1 rStar 20 = some true ∧
    C09Sel.model c.word ab1 a1 rStar 20 = some false := by decide +kernel
example : (∀ q, q ∈ nfaStates a1 → q ∈ nfaStates ab1 → False) ∧ isNfaSimPreB (nfaUnionDisjoint a1 ab1) rStar = true :=
  a1_ab1_pre

/-!
## still not proved

* **Totality of the antichain model with a simulation.**  `nfaInclACSim` is certify-then-trust; that the final check
  `nfaUpCertSimB` never fails on a finished run when `R` is a simulation preorder on the disjoint union (the invariant of the
  exploration with pruning modulo `R`: "every erased pair is covered by the inserted one, every skipped successor is simulated
  by a state of its macro-state"), and that the exploration terminates above an explicit bound (this needs reflexivity of
  `R`), is NOT proved; it is only observed on the examples above.  Consequently nothing is proved about the unchecked verdict
  `nfaInclACSimRaw` (what the C++ returns) beyond the counterexample for a relation that is no simulation.  For the
  equivalence functor and for the congruence functor with a simulation both parts ARE proved (`C09_equiv_functor_total`,
  `C09_congr_sim_exploration_exact`, `C09_congr_sim_total`).
* `C09_antichain_sim_exact` assumes state-disjoint operands: the certificate is checked in `A ⊎ B`; no counterexample for
  overlapping operands is given (the relation is meant to live on the disjoint union).
* The caller's side of `CONGR_DEPTH_SIM`: the dispatcher does not build the union for this row; `nfaInclCongrSim` fixes the
  call of the command line (`smaller := A ⊎ B`).  On other operands `congrSimFunctor U B R` decides `L(U) = L(B)`-like
  questions; nothing is stated about them.
* Abstractions inherited from `Vata/NfaIncl.lean` (macro-state cache incl. the never-shared empty set, memo tables
  `subsetMap_` / `subsetNotMap_` / `usedRules_`, hash iteration orders, address as third work-list criterion) are not modelled
  for the four new rows either; `Vata/Properties/C09_Caches.lean` covers them for the identity rows only.  A relation is a list
  of pairs (`get` outside the list is `false`; the library's `StateDiscontBinaryRelation` has a fixed size and is indexed
  through `index_`, not modelled).  `NormalFormRelSimulation::applyRule` inserts into the set it iterates over; the model
  makes one pass over the original set (equal for transitive relations, not proved).
* The link between the rows of the table and `C09Sel.model` is the reading of the table (by option word), not a theorem.
* From the command line none of the four rows can be run to a verdict (see `Vata/Properties/C09.lean`); the models are
  meant for a comparison through the library API (`CheckInclusion` with `InclParam::SetSimulation`).
-/
end Vata.Props
