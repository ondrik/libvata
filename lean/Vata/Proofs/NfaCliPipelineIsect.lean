import Vata.Proofs.NfaCliPipeline
/-!
# Proofs about the command-line pipeline for word automata, part 2: `vata -r expl_fa isect`
-/
namespace Vata.NfaCli
open Vata.CliPipe Vata.NfaLD Vata.Dict

/-- the pairs `Intersection` discovers are the pairs the relation-level model explores -/
theorem nfaProdPairs_eq (A B : NFAS) : nfaProdPairs A B = NfaC.nfaIsectPairs A.toNFA B.toNFA := rfl

theorem nfaProdPairs_states (A B : NFAS) :
    ∀ p, p ∈ nfaProdPairs A B → p.1 ∈ nfaStates A.toNFA ∧ p.2 ∈ nfaStates B.toNFA :=
  NfaC.nfaIsectPairs_least _ _ (fun p => p.1 ∈ nfaStates A.toNFA ∧ p.2 ∈ nfaStates B.toNFA)
    (fun _ hp => ⟨start_mem_nfaStates (mem_nfaStartPairs.mp hp).1, start_mem_nfaStates (mem_nfaStartPairs.mp hp).2⟩)
    fun _ _ _ _ h1 h2 => ⟨tgt_mem_nfaStates h1, tgt_mem_nfaStates h2⟩

/-- `Intersection` is the trimmed product on the discovered pairs -/
theorem nfasIsect_eq (A B : NFAS) : nfasIntersection A B (nfaJointAll A.toNFA B.toNFA).length = some (nfasIsect A B) ∧
    nfasIsect A B = nfasRemoveUseless (nfasProdOn A B (nfaProdPairs A B) (fun p => (nfaProdPairs A B).idxOf p)) := by
  rw [nfasIsect, nfasIntersection_full]; exact ⟨rfl, rfl⟩

theorem nfasIsect_states (A B : NFAS) {q : Nat} (hq : q ∈ nfaStates (nfasIsect A B).toNFA) :
    ∃ p, p ∈ nfaProdPairs A B ∧ q = (nfaProdPairs A B).idxOf p := by
  rw [(nfasIsect_eq A B).2, nfasRemoveUseless_toNFA, nfasProdOn_toNFA] at hq
  rw [nfaProdPairs_eq]
  rcases mem_nfaStates.mp hq with h | h | ⟨e', he', h⟩
  · have h1 := ((mem_nfaRemoveUseless_start _ q).mp h).1
    obtain ⟨p, hp, rfl⟩ := List.mem_map.mp (show q ∈ (nfaStartPairs A.toNFA B.toNFA).map _ from h1)
    exact ⟨p, NfaC.nfaIsectPairs_start _ _ p hp, rfl⟩
  · have h1 := ((mem_nfaRemoveUseless_final _ q).mp h).1
    obtain ⟨p, hp, _, _, rfl⟩ := mem_nfaProdOn_final.mp h1
    exact ⟨p, hp, rfl⟩
  · have h1 := ((mem_nfaRemoveUseless_trans _ e'.1 e'.2.1 e'.2.2).mp he').1
    obtain ⟨p, hp, q', hA, hB, e1, e2⟩ := mem_nfaProdOn_trans.mp h1
    rcases h with h | h
    · exact ⟨p, hp, h.trans e1⟩
    · exact ⟨q', NfaC.nfaIsectPairs_closed _ _ p hp _ q' hA hB, h.trans e2⟩

/-- the product dictionary exists and makes the result dumpable, every state under its own name -/
theorem isect_dumpable {A B : NFAS} {sd₁ sd₂ : Vata.StateDict} {yd₁ yd₂ : WSymDict} (hA : Dumpable A sd₁ yd₁)
    (hB : Dumpable B sd₂ yd₂) (hy₁ : yd₁.Ok) (hy₂ : yd₂.Ok) (hsub : Sub yd₁ yd₂) :
    ∃ dict, productDictFixed (toGlue sd₁) (toGlue sd₂) (nfaProdMap A B) = some dict ∧
      Dumpable (nfasIsect A B) (ofGlue dict) yd₂ ∧ NamesInj (nfasIsect A B) (ofGlue dict) := by
  have hsome : (productDictFixed (toGlue sd₁) (toGlue sd₂) (nfaProdMap A B)).isSome = true := by
    rw [productDictFixed_isSome_iff]
    intro e he
    obtain ⟨p, hp, rfl⟩ := List.mem_map.mp he
    obtain ⟨h1, h2⟩ := nfaProdPairs_states A B p hp
    obtain ⟨n1, hn1⟩ := hA.named _ h1
    obtain ⟨n2, hn2⟩ := hB.named _ h2
    exact ⟨⟨n1.toList, by rw [toGlue_bwd_lookup, hn1]; rfl⟩, ⟨n2.toList, by rw [toGlue_bwd_lookup, hn2]; rfl⟩⟩
  obtain ⟨dict, hd⟩ := Option.isSome_iff_exists.mp hsome
  obtain ⟨_, hnamed⟩ := productDictFixed_named hd
  obtain ⟨_, hinj⟩ := productDictFixed_injective hd
  obtain ⟨hI, e⟩ := nfasIsect_eq A B
  have hname : ∀ q, q ∈ nfaStates (nfasIsect A B).toNFA → ∃ n, dict.bwd.lookup q = some n := by
    intro q hq
    obtain ⟨p, hp, rfl⟩ := nfasIsect_states A B hq
    exact hnamed (p, (nfaProdPairs A B).idxOf p) (List.mem_map.mpr ⟨p, hp, rfl⟩)
  obtain ⟨hnamed', hinj'⟩ := ofGlue_names (fun h h' => hinj _ _ _ h h') hname
  refine ⟨dict, hd, ⟨hnamed', ?_, ?_⟩, hinj'⟩
  · intro e' he'
    rw [e, nfasRemoveUseless_toNFA, nfasProdOn_toNFA] at he'
    have h1 := ((mem_nfaRemoveUseless_trans _ e'.1 e'.2.1 e'.2.2).mp he').1
    obtain ⟨p, _, q', hAt, _, _, _⟩ := mem_nfaProdOn_trans.mp h1
    obtain ⟨k, hk⟩ := hA.syms _ hAt
    exact ⟨k, hy₂.bwd_sub hy₁ hsub hk⟩
  · intro s hs a ha
    obtain ⟨m, _, hm⟩ := nfasIntersection_start_syms A B _ _ hI
    obtain ⟨l, r, hl, hr, _, hsy⟩ := hm s hs
    rw [hsy] at ha
    rcases List.mem_append.mp ha with ha | ha
    · obtain ⟨k, hk⟩ := hA.startSyms l hl a ha
      exact ⟨k, hy₂.bwd_sub hy₁ hsub hk⟩
    · exact hB.startSyms r hr a ha

end Vata.NfaCli
