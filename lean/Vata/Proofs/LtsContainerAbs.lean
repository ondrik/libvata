import Vata.Proofs.LtsContainerViews
/-!
# `ExplicitLTS` container: the abstraction `abs` (edge multiset), histories "built in one go", `buildDelta1` (C16)
-/
namespace Vata.LC
open Vata.L


theorem count_flatMap_range_single {α : Type} [BEq α] [LawfulBEq α] (x : α) (f : Nat → List α) (i : Nat)
    (h : ∀ j, j ≠ i → List.count x (f j) = 0) (n : Nat) :
    List.count x ((List.range n).flatMap f) = if i < n then List.count x (f i) else 0 := by
  induction n with
  | zero => simp
  | succ n ih =>
    rw [List.range_succ, List.flatMap_append, List.count_append, ih]
    simp only [List.flatMap_cons, List.flatMap_nil, List.append_nil]
    by_cases e : n = i
    · subst e; simp
    · rw [h n e]
      by_cases l : i < n
      · have : i < n + 1 := by omega
        simp [l, this]
      · have : ¬ i < n + 1 := by omega
        simp [l, this]

theorem count_map_edge (q a r : Nat) (l : List Nat) :
    List.count (q, a, r) (l.map (fun r' => (q, a, r'))) = List.count r l := by
  induction l with
  | nil => rfl
  | cons x l ih =>
    simp only [List.map_cons, List.count_cons, ih]
    by_cases e : x = r
    · simp [e]
    · have : ¬ ((q, a, x) = (q, a, r)) := by intro h; injection h with _ h; injection h with _ h; exact e h
      simp [e, this]

theorem count_spec_edges (L : LTS) (q a r : Nat) : List.count (q, a, r) L.edges = List.count r (LE.post L a q) := by
  unfold LE.post
  induction L.edges with
  | nil => rfl
  | cons e es ih =>
    obtain ⟨q', a', r'⟩ := e
    rw [List.count_cons, List.filter_cons]
    by_cases h : q' = q ∧ a' = a
    · obtain ⟨rfl, rfl⟩ := h
      simp only [beq_self_eq_true, Bool.and_self, if_true, List.map_cons, List.count_cons, ih]
      by_cases e : r' = r
      · simp [e]
      · have : ¬ ((q', a', r') = (q', a', r)) := by intro h; injection h with _ h; injection h with _ h; exact e h
        simp [e, this]
    · have h1 : ((q' == q) && (a' == a)) = false := by
        simp only [Bool.and_eq_false_iff, beq_eq_false_iff_ne]
        by_cases e : q' = q
        · right; intro e'; exact h ⟨e, e'⟩
        · left; exact e
      have h2 : ¬ ((q', a', r') = (q, a, r)) := by
        intro e; injection e with e1 e; injection e with e2 e; exact h ⟨e1, e2⟩
      simp [h1, h2, ih]

theorem post_nil_of_ge (c : LtsC) (a q : Nat) (h : c.data.length ≤ a) : c.post a q = [] := by
  simp [LtsC.post, List.getD_eq_getElem?_getD, List.getElem?_eq_none h]

theorem post_nil_of_state_ge (c : LtsC) (a q : Nat) (hl : (c.data.getD a ([], [])).1.length ≤ c.states) (h : c.states ≤ q) :
    c.post a q = [] := by
  unfold LtsC.post
  rw [List.getD_eq_getElem?_getD, List.getElem?_eq_none (by omega)]; rfl

theorem abs_perm (L : LTS) (c : LtsC) (d : DInv L c) : (abs c).n = L.n ∧ (abs c).edges.Perm L.edges := by
  refine ⟨d.states, List.perm_iff_count.2 (fun e => ?_)⟩
  obtain ⟨q, a, r⟩ := e
  rw [count_spec_edges L, ← d.post]
  unfold abs
  simp only
  rw [count_flatMap_range_single (q, a, r) _ a]
  · by_cases la : a < c.data.length
    · rw [if_pos la, count_flatMap_range_single (q, a, r) _ q]
      · by_cases lq : q < c.states
        · rw [if_pos lq, count_map_edge]
        · rw [if_neg lq, post_nil_of_state_ge c a q (d.lens a).1 (by omega)]; rfl
      · intro j hj
        refine List.count_eq_zero.mpr fun hy => ?_
        obtain ⟨r', _, e⟩ := List.mem_map.1 hy
        injection e with e _; exact hj e
    · rw [if_neg la, post_nil_of_ge c a q (by omega)]; rfl
  · intro j hj
    refine List.count_eq_zero.mpr fun hy => ?_
    obtain ⟨q', _, hy⟩ := List.mem_flatMap.1 hy
    obtain ⟨r', _, e⟩ := List.mem_map.1 hy
    injection e with _ e; injection e with e _; exact hj e


def adds (es : List (Nat × Nat × Nat)) : List Op := es.map (fun e => .add e.1 e.2.1 e.2.2)

theorem foldl_adds_bw (es : List (Nat × Nat × Nat)) (c : LtsC) :
    ((adds es).foldl step c).bw = c.bw ∧ ((adds es).foldl step c).ub = c.ub := by
  rw [adds, List.foldl_map]
  refine List.foldlRecOn es _ (motive := fun (x : LtsC) => x.bw = c.bw ∧ x.ub = c.ub) ⟨rfl, rfl⟩ (fun x hx e _ => ?_)
  obtain ⟨h3, h4⟩ := addTransition_bw x e.1 e.2.1 e.2.2
  exact ⟨h3.trans hx.1, h4.trans hx.2⟩

theorem foldl_adds_spec (es : List (Nat × Nat × Nat)) : ∀ L : LTS,
    ((adds es).foldl specStep L).edges = L.edges ++ es := by
  induction es with
  | nil => intro L; exact (List.append_nil _).symm
  | cons e es ih =>
    intro L
    exact (ih (specStep L (.add e.1 e.2.1 e.2.2))).trans (List.append_assoc _ _ _)

/-- additions are the same calls on the class before and after the repair -/
theorem foldl_adds_old (es : List (Nat × Nat × Nat)) (c : LtsC) : (adds es).foldl stepOld c = (adds es).foldl step c := by
  rw [adds, List.foldl_map, List.foldl_map]; rfl

/-- on an object without an index (`bwLabels_` empty: fresh or cleared) `resize` and `assign` build the same vector: the
repair changes nothing there -/
theorem initOld_eq_init (c : LtsC) (h : c.bw = []) : initOld c = init c := by
  unfold initOld init resizeL
  rw [h]; simp


/-- the loop of `buildDelta1` for one label on the fresh set: `count(q)` is `0` when `q` is visited, so the rounds are those of
`initSetF` -/
theorem delta1_fold (st : Nat) (fst : List (List Nat)) : ∀ j, j ≤ st →
    (List.range j).foldl (fun (s : SSet) q => s.init q (s.count q + (fst.getD q []).length)) (SSet.new st) =
      initSetF (fun q => (fst.getD q []).length) (SSet.new st) j := by
  intro j
  induction j with
  | zero =>
    intro _
    exact rfl
  | succ j ih =>
    intro hj
    rw [List.range_succ, List.foldl_append, List.foldl_cons, List.foldl_nil, ih (Nat.le_of_succ_le hj),
      initSetF_succ, initSetF_new_count_ge _ _ _ (Nat.le_of_succ_le hj) j (Nat.le_refl j), Nat.zero_add]

theorem buildDelta1_eq (L : LTS) (c : LtsC) (d : DInv L c)
    (hlen : ∀ a, a < c.data.length → (c.data.getD a ([], [])).1.length = c.states) :
    c.buildDelta1.length = LE.labels L ∧
    ∀ a, a < LE.labels L → (c.buildDelta1.getD a default).keys = LE.delta1 L a ∧
      (c.buildDelta1.getD a default).bad = false ∧ (c.buildDelta1.getD a default).range = L.n := by
  refine ⟨by rw [LtsC.buildDelta1, List.length_map, List.length_range, d.labels], fun a ha => ?_⟩
  rw [← d.labels] at ha
  have e : c.buildDelta1.getD a default =
      (List.range (c.data.getD a ([], [])).1.length).foldl
        (fun (s : SSet) q => s.init q (s.count q + ((c.data.getD a ([], [])).1.getD q []).length)) (SSet.new c.states) := by
    rw [LtsC.buildDelta1, List.getD_eq_getElem?_getD, List.getElem?_map, List.getElem?_range ha]; rfl
  have hj : (c.data.getD a ([], [])).1.length ≤ c.states := Nat.le_of_eq (hlen a ha)
  rw [e, delta1_fold c.states _ _ hj]
  have f := initSetF_new (fun q => ((c.data.getD a ([], [])).1.getD q []).length) c.states _ hj
  refine ⟨?_, f.1, by rw [initSetF_fresh _ _ _ hj]; exact d.states⟩
  rw [f.2.1, hlen a ha, LE.delta1, d.states]
  apply List.filter_congr
  intro q _
  rw [← LEC.post_pos_iff, ← d.post]; rfl

end Vata.LC
