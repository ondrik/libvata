import Vata.NfaIncl
import Vata.Proofs.NfaOps
import Vata.Proofs.NormS
import Vata.Proofs.Verdict
/-!
# The NFA inclusion models are exact for every verdict they return (property C09)

Both models end with a Boolean check of what their exploration returns, and only these checks are trusted here: a
`true` comes with a certificate (a set of pairs closed under post up to subsumption – the antichain principle for words;
or a bisimulation up to congruence, Bonchi–Pous) that proves the inclusion, a `false` with a word accepted by `A` and
not by `B`.  So a verdict, whenever one is returned, is right.

The explorations themselves are analysed in `Vata/Proofs/NfaInclExpl.lean`, `Vata/Proofs/NfaInclTotal.lean` (antichains:
invariants, termination, totality) and `Vata/Proofs/NfaInclCongr.lean`, `Vata/Proofs/NfaInclCongrTotal.lean` (congruences: invariants, completeness
of the certificate check, termination, totality).
-/
namespace Vata
open Vata.W
open NfaIncl

namespace NfaIncl


theorem stepW_mono (N : NFA) {S S' : List Nat} (h : ∀ x, x ∈ S → x ∈ S') (a : Nat) :
    ∀ x, x ∈ stepW N S a → x ∈ stepW N S' a := by
  intro x hx
  obtain ⟨p, hp, he⟩ := mem_stepW.mp hx
  exact mem_stepW.mpr ⟨p, h p hp, he⟩

theorem foldl_stepW_mono (N : NFA) : ∀ (w : List Nat) {S S' : List Nat}, (∀ x, x ∈ S → x ∈ S') →
    ∀ x, x ∈ w.foldl (stepW N) S → x ∈ w.foldl (stepW N) S' := fun w {S S'} h x hx =>
  let ⟨s, hs, hp⟩ := (mem_foldl_stepW N w S x).mp hx
  (mem_foldl_stepW N w S' x).mpr ⟨s, h s hs, hp⟩

theorem accepting_iff {N : NFA} {S : List Nat} : W.accepting N S = true ↔ ∃ q, q ∈ S ∧ q ∈ N.final := by
  simp only [W.accepting, List.any_eq_true, List.contains_iff_mem]

theorem accepting_mono (N : NFA) {S S' : List Nat} (h : ∀ x, x ∈ S → x ∈ S') :
    W.accepting N S = true → W.accepting N S' = true := by
  rw [accepting_iff, accepting_iff]
  rintro ⟨q, hq, hf⟩
  exact ⟨q, h q hq, hf⟩

end NfaIncl


/-- `X` is a set of pairs (state of `A`, macro-state of `B`) that subsumes the start pairs, is closed under the
post-image up to subsumption, and has no pair with a final state of `A` and a rejecting macro-state of `B` -/
def NfaUpCert (A B : NFA) (X : List (Nat × List Nat)) : Prop :=
  (∀ s, s ∈ A.start → ∃ p, p ∈ X ∧ p.1 = s ∧ ∀ x, x ∈ p.2 → x ∈ B.start) ∧
  (∀ p, p ∈ X → ∀ a q', (p.1, a, q') ∈ A.trans →
    ∃ p', p' ∈ X ∧ p'.1 = q' ∧ ∀ x, x ∈ p'.2 → x ∈ stepW B p.2 a) ∧
  (∀ p, p ∈ X → p.1 ∈ A.final → W.accepting B p.2 = true)

namespace NfaIncl

/-- along a path of `A` the certificate keeps a pair below the macro-state of `B` -/
theorem upCert_path {A B : NFA} {X : List (Nat × List Nat)} (hX : NfaUpCert A B X) {p q : Nat} {w : List Nat}
    (hp : Path A p w q) : ∀ (P : Nat × List Nat), P ∈ X → P.1 = p → ∀ S₀ : List Nat, (∀ x, x ∈ P.2 → x ∈ S₀) →
      ∃ P', P' ∈ X ∧ P'.1 = q ∧ ∀ x, x ∈ P'.2 → x ∈ w.foldl (stepW B) S₀ := by
  induction hp with
  | nil q => intro P hP h1 S₀ hS; exact ⟨P, hP, h1, hS⟩
  | @cons p a r w q he _ ih =>
    intro P hP h1 S₀ hS
    obtain ⟨P', hP', h1', hS'⟩ := hX.2.1 P hP a r (h1 ▸ he)
    simp only [List.foldl_cons]
    exact ih P' hP' h1' _ (fun x hx => stepW_mono B hS a x (hS' x hx))

end NfaIncl

theorem nfa_up_cert_incl {A B : NFA} {X : List (Nat × List Nat)} : NfaUpCert A B X → InclW A B := by
  intro hX w hA
  obtain ⟨s, hs, q, hq, hp⟩ := (acceptsW_iff A w).mp hA
  obtain ⟨P, hP, h1, hS⟩ := hX.1 s hs
  obtain ⟨P', hP', h1', hS'⟩ := upCert_path hX hp P hP h1 B.start hS
  have hacc := hX.2.2 P' hP' (h1' ▸ hq)
  exact accepting_mono B hS' hacc

theorem nfaUpCertB_sound {A B : NFA} {X : List (Nat × List Nat)} (h : nfaUpCertB A B X = true) : NfaUpCert A B X := by
  simp only [nfaUpCertB, Bool.and_eq_true, List.all_eq_true, List.any_eq_true, beq_iff_eq, subB_iff, Bool.or_eq_true,
    bne_iff_ne, ne_eq, Bool.not_eq_true'] at h
  obtain ⟨⟨h1, h2⟩, h3⟩ := h
  refine ⟨?_, ?_, ?_⟩
  · intro s hs
    obtain ⟨p, hp, he, hsub⟩ := h1 s hs
    exact ⟨p, hp, he, hsub⟩
  · intro p hp a q' he
    rcases h2 p hp (p.1, a, q') he with hne | ⟨p', hp', he', hsub⟩
    · exact (hne rfl).elim
    · exact ⟨p', hp', he', hsub⟩
  · intro p hp hf
    rcases h3 p hp with hnf | hacc
    · have : A.final.contains p.1 = true := List.contains_iff_mem.mpr hf
      rw [hnf] at this; cases this
    · exact hacc

theorem nfaUpCertB_incl {A B : NFA} {X : List (Nat × List Nat)} (h : nfaUpCertB A B X = true) : InclW A B :=
  nfa_up_cert_incl (nfaUpCertB_sound h)


theorem not_inclW_of_witness {A B : NFA} {w : List Nat} (hA : acceptsW A w = true) (hB : acceptsW B w = false) :
    ¬ InclW A B := fun h => by rw [h w hA] at hB; cases hB

/-- a verdict of the antichain model comes with a certificate that passed `nfaUpCertB` or with a word that passed the
counterexample check -/
theorem nfaInclAC_inv {A B : NFA} {fuel : Nat} {b : Bool} {c : Cert} (h : nfaInclAC A B fuel = some (b, c)) :
    (b = true ∧ ∃ X, c = .antichain X ∧ nfaUpCertB A B X = true) ∨
    (b = false ∧ ∃ w, c = .witness w ∧ acceptsW A w = true ∧ acceptsW B w = false) := by
  unfold nfaInclAC at h
  split at h
  · cases h
  · simp only at h
    split at h
    · next hc => cases h; exact Or.inl ⟨rfl, _, rfl, hc⟩
    · cases h
  · next w _ =>
    split at h
    · next hc =>
      cases h
      rw [Bool.and_eq_true, Bool.not_eq_true'] at hc
      exact Or.inr ⟨rfl, w, rfl, hc⟩
    · cases h

theorem nfaInclAC_iff {A B : NFA} {fuel : Nat} {b : Bool} {c : Cert} :
    nfaInclAC A B fuel = some (b, c) → (b = true ↔ InclW A B) := by
  intro h
  rcases nfaInclAC_inv h with ⟨rfl, _, _, hc⟩ | ⟨rfl, _, _, hA, hB⟩
  · exact iff_of_true rfl (nfaUpCertB_incl hc)
  · exact iff_of_false Bool.false_ne_true (not_inclW_of_witness hA hB)

theorem nfaInclAC_false_sound {A B : NFA} {fuel : Nat} {c : Cert} (h : nfaInclAC A B fuel = some (false, c)) :
    ∃ w, c = .witness w ∧ acceptsW A w = true ∧ acceptsW B w = false := by
  rcases nfaInclAC_inv h with ⟨hb, _⟩ | ⟨_, hw⟩
  · cases hb
  · exact hw

theorem nfaInclAC_true_sound {A B : NFA} {fuel : Nat} {c : Cert} (h : nfaInclAC A B fuel = some (true, c)) :
    ∃ X, c = .antichain X ∧ NfaUpCert A B X := by
  rcases nfaInclAC_inv h with ⟨_, X, hc, hX⟩ | ⟨hb, _⟩
  · exact ⟨X, hc, nfaUpCertB_sound hX⟩
  · cases hb


namespace NfaIncl

theorem sanitize_fst_lang (A B : NFA) (w : List Nat) : acceptsW (nfaSanitize A B).1 w = acceptsW A w := by
  simp only [nfaSanitize]
  rw [nfaMap_inj_lang, nfaRemoveUseless_lang]
  intro p hp q _ h
  exact idxOf_inj (mem_nfaStateList.mpr hp) h

theorem sanitize_snd_lang (A B : NFA) (w : List Nat) : acceptsW (nfaSanitize A B).2 w = acceptsW B w := by
  simp only [nfaSanitize]
  rw [nfaMap_inj_lang, nfaRemoveUseless_lang]
  intro p hp q _ h
  exact idxOf_inj (mem_nfaStateList.mpr hp) (Nat.add_left_cancel h)

theorem sanitize_incl (A B : NFA) : InclW (nfaSanitize A B).1 (nfaSanitize A B).2 ↔ InclW A B := by
  simp only [InclW, sanitize_fst_lang, sanitize_snd_lang]

theorem sanitize_disjoint (A B : NFA) :
    ∀ q, q ∈ nfaStates (nfaSanitize A B).1 → q ∈ nfaStates (nfaSanitize A B).2 → False := by
  intro x h1 h2
  obtain ⟨p, hp, hx⟩ := mem_nfaStates_nfaMap.mp h1
  obtain ⟨q, _, hx'⟩ := mem_nfaStates_nfaMap.mp h2
  -- the name of a state of `A` is an index into the list of its states, that of a state of `B` is at least its length
  have hlt := List.idxOf_lt_length_iff.mpr (mem_nfaStateList.mpr hp)
  rw [hx.symm.trans hx'] at hlt
  exact Nat.not_lt.mpr (Nat.le_add_right _ _) hlt

end NfaIncl

theorem checkNfaInclAC_iff {A B : NFA} {fuel : Nat} {b : Bool} {c : Cert} :
    checkNfaInclAC A B fuel = some (b, c) → (b = true ↔ InclW A B) := by
  intro h
  rw [← sanitize_incl A B]
  exact nfaInclAC_iff h


namespace NfaIncl

/-- the congruence closure `c(R)` of a relation on macro-states: the least equivalence (on lists read as sets) that
contains `R` and is closed under union -/
inductive CongrCl (R : List CRule) : List Nat → List Nat → Prop
  | base {X Y : List Nat} : (X, Y) ∈ R → CongrCl R X Y
  | refl {X Y : List Nat} : (∀ x, x ∈ X ↔ x ∈ Y) → CongrCl R X Y
  | symm {X Y : List Nat} : CongrCl R X Y → CongrCl R Y X
  | trans {X Y Z : List Nat} : CongrCl R X Y → CongrCl R Y Z → CongrCl R X Z
  | union {X₁ Y₁ X₂ Y₂ : List Nat} : CongrCl R X₁ Y₁ → CongrCl R X₂ Y₂ → CongrCl R (X₁ ++ X₂) (Y₁ ++ Y₂)

theorem accepting_append (N : NFA) (S T : List Nat) :
    W.accepting N (S ++ T) = (W.accepting N S || W.accepting N T) := by
  simp only [W.accepting, List.any_append]

theorem mem_stepW_append (N : NFA) (S T : List Nat) (a : Nat) (x : Nat) :
    x ∈ stepW N (S ++ T) a ↔ x ∈ stepW N S a ++ stepW N T a := by
  simp only [List.mem_append, mem_stepW]
  constructor
  · rintro ⟨p, hp | hp, he⟩
    · exact Or.inl ⟨p, hp, he⟩
    · exact Or.inr ⟨p, hp, he⟩
  · rintro (⟨p, hp, he⟩ | ⟨p, hp, he⟩)
    · exact ⟨p, Or.inl hp, he⟩
    · exact ⟨p, Or.inr hp, he⟩

/-- `R` is a bisimulation up to congruence in `U`: related macro-states agree on acceptance and their successors are
related by the congruence closure of `R` -/
def BisimUpTo (U : NFA) (R : List CRule) : Prop :=
  ∀ p, p ∈ R → W.accepting U p.1 = W.accepting U p.2 ∧ ∀ a, CongrCl R (stepW U p.1 a) (stepW U p.2 a)

/-- the congruence closure of a bisimulation up to congruence is a bisimulation -/
theorem congrCl_bisim {U : NFA} {R : List CRule} (hR : BisimUpTo U R) {X Y : List Nat} (h : CongrCl R X Y) :
    W.accepting U X = W.accepting U Y ∧ ∀ a, CongrCl R (stepW U X a) (stepW U Y a) := by
  induction h with
  | base hm => exact hR _ hm
  | refl he =>
    refine ⟨W.accepting_congr U he, fun a => ?_⟩
    rw [W.stepW_congr U he]
    exact .refl (fun _ => Iff.rfl)
  | symm _ ih => exact ⟨ih.1.symm, fun a => .symm (ih.2 a)⟩
  | trans _ _ ih1 ih2 => exact ⟨ih1.1.trans ih2.1, fun a => .trans (ih1.2 a) (ih2.2 a)⟩
  | union _ _ ih1 ih2 =>
    refine ⟨?_, fun a => ?_⟩
    · rw [accepting_append, accepting_append, ih1.1, ih2.1]
    · exact .trans (.refl (mem_stepW_append U _ _ a))
        (.trans (.union (ih1.2 a) (ih2.2 a)) (.refl (fun x => (mem_stepW_append U _ _ a x).symm)))

theorem congrCl_lang {U : NFA} {R : List CRule} (hR : BisimUpTo U R) : ∀ (w : List Nat) {X Y : List Nat},
    CongrCl R X Y → W.accepting U (w.foldl (stepW U) X) = W.accepting U (w.foldl (stepW U) Y)
  | [], _, _, h => (congrCl_bisim hR h).1
  | a :: w, _, _, h => by
    simp only [List.foldl_cons]
    exact congrCl_lang hR w ((congrCl_bisim hR h).2 a)

end NfaIncl

/-- the operands are disjoint, the start macro-states of `U = A ⊎ B` and of `B` are congruent modulo `R`, and `R` is a
bisimulation up to congruence in `U` -/
def CongrCert (A B : NFA) (R : List CRule) : Prop :=
  (∀ q, q ∈ nfaStates A → q ∈ nfaStates B → False) ∧
  CongrCl R (A.start ++ B.start) B.start ∧
  BisimUpTo (nfaUnionDisjoint A B) R

namespace NfaIncl

/-- started from the start states of `B`, only `B` runs in `A ⊎ B` -/
theorem accepts_of_union_right {A B : NFA} (hdis : ∀ q, q ∈ nfaStates A → q ∈ nfaStates B → False) {w : List Nat}
    (h : W.accepting (nfaUnionDisjoint A B) (w.foldl (stepW (nfaUnionDisjoint A B)) B.start) = true) :
    acceptsW B w = true := by
  obtain ⟨q, hq, hf⟩ := accepting_iff.mp h
  obtain ⟨s, hs, hp⟩ := (mem_foldl_stepW _ w B.start q).mp hq
  obtain ⟨hpB, hqB⟩ := path_union_right hdis hp (start_mem_nfaStates hs)
  rcases List.mem_append.mp hf with hfA | hfB
  · exact (hdis q (final_mem_nfaStates hfA) hqB).elim
  · exact (acceptsW_iff B w).mpr ⟨s, hs, q, hfB, hpB⟩

end NfaIncl

theorem congr_cert_sound {A B : NFA} {R : List CRule} : CongrCert A B R → InclW A B := by
  rintro ⟨hdis, hinit, hbis⟩ w hA
  have hU : acceptsW (nfaUnionDisjoint A B) w = true := by
    apply nfaUnionDisjoint_lang_ge; rw [hA]; rfl
  exact accepts_of_union_right hdis ((congrCl_lang hbis w hinit).symm.trans hU)

/-- what the certificate says about the languages: `U = A ⊎ B` and `B` are equivalent -/
theorem congr_cert_equiv {A B : NFA} {R : List CRule} (h : CongrCert A B R) (w : List Nat) :
    acceptsW (nfaUnionDisjoint A B) w = acceptsW B w := by
  rw [nfaUnionDisjoint_lang A B w h.1]
  cases hA : acceptsW A w
  · rfl
  · rw [congr_cert_sound h w hA]; rfl

namespace NfaIncl


/-- the macro-states of the word models are those of the tree models: `insS`, `normS` are `InclUp.insS`, `InclUp.normS` -/
theorem insS_eq : insS = InclUp.insS := by
  funext x l
  induction l with
  | nil => rfl
  | cons y l ih => rw [insS, InclUp.insS, ih]

theorem normS_eq : normS = InclUp.normS := by
  funext l; rw [normS, InclUp.normS, insS_eq]

theorem mem_normS {l : List Nat} {y : Nat} : y ∈ normS l ↔ y ∈ l := normS_eq ▸ InclUp.mem_normS

/-- strictly increasing: the representation of a macro-state -/
abbrev Srt (l : List Nat) : Prop := List.Pairwise (· < ·) l

theorem normS_sorted (l : List Nat) : Srt (normS l) := normS_eq ▸ InclUp.normS_sorted l

theorem CongrCl.rfl' {R : List CRule} (X : List Nat) : CongrCl R X X := .refl (fun _ => Iff.rfl)

theorem CongrCl.normS_right {R : List CRule} {S T : List Nat} (h : CongrCl R S T) : CongrCl R S (normS T) :=
  .trans h (.refl fun _ => mem_normS.symm)

theorem CongrCl.absorb {R : List CRule} {S T : List Nat} (h : ∀ x, x ∈ T → x ∈ S) : CongrCl R (S ++ T) S :=
  .refl fun x => List.mem_append.trans ⟨fun hx => hx.elim id (h x), Or.inl⟩

theorem CongrCl.absorb_left {R : List CRule} {S T : List Nat} (h : ∀ x, x ∈ S → x ∈ T) : CongrCl R (S ++ T) T :=
  .refl fun x => List.mem_append.trans ⟨fun hx => hx.elim (h x) id, Or.inr⟩

/-- two sets are congruent as soon as each is inside a set congruent to the other: both are congruent to their union -/
theorem CongrCl.of_sandwich {R : List CRule} {S S' T T' : List Nat} (hS : CongrCl R S S') (hT : CongrCl R T T')
    (h1 : ∀ x, x ∈ T → x ∈ S') (h2 : ∀ x, x ∈ S → x ∈ T') : CongrCl R S T :=
  have e1 : CongrCl R S (S ++ T) := .trans hS (.trans (absorb h1).symm (.union hS.symm (.rfl' T)))
  have e2 : CongrCl R T (S ++ T) := .trans hT (.trans (absorb_left h2).symm (.union (.rfl' S) hT.symm))
  .trans e1 e2.symm

theorem congrCl_fire {R : List CRule} {r : CRule} (hr : r ∈ R) {T : List Nat}
    (hm : (∀ x, x ∈ r.1 → x ∈ T) ∨ (∀ x, x ∈ r.2 → x ∈ T)) : CongrCl R T (normS (T ++ r.1 ++ r.2)) := by
  have hb : CongrCl R r.1 r.2 := .base hr
  refine CongrCl.normS_right ?_
  rcases hm with h1 | h2
  · -- `T = T ∪ r.1 ~ T ∪ r.2`, and `T ~ T ∪ r.1` once more on the left
    have e : CongrCl R T (T ++ r.2) := .trans (CongrCl.absorb h1).symm (.union (.rfl' T) hb)
    exact .trans e (.union (CongrCl.absorb h1).symm (.rfl' r.2))
  · -- `T = T ∪ r.2 ~ T ∪ r.1`, which absorbs `r.2`
    have e : CongrCl R T (T ++ r.1) := .trans (CongrCl.absorb h2).symm (.union (.rfl' T) hb.symm)
    exact .trans e (CongrCl.absorb fun x hx => List.mem_append_left _ (h2 x hx)).symm

theorem congrCl_clStep (R : List CRule) (S : List Nat) : CongrCl R S (clStep R S) := by
  refine List.foldlRecOn R _ (motive := fun T => CongrCl R S T) (.rfl' S) ?_
  intro T hT r hr
  by_cases hc : (Vata.subB r.1 T || Vata.subB r.2 T) = true
  · rw [if_pos hc]
    rw [Bool.or_eq_true, subB_iff, subB_iff] at hc
    exact .trans hT (congrCl_fire hr hc)
  · rw [if_neg hc]; exact hT

theorem congrCl_clIter (R : List CRule) : ∀ (n : Nat) (S T : List Nat), CongrCl R S T → CongrCl R S (clIter R n T)
  | 0, _, _, h => h
  | n+1, S, T, h => congrCl_clIter R n S _ (.trans h (congrCl_clStep R T))

theorem congrCl_congrCl (R : List CRule) (S : List Nat) : CongrCl R S (congrCl R S) :=
  congrCl_clIter R _ S S (.rfl' S)

theorem inCongrB_sound {R : List CRule} {X Y : List Nat} (h : inCongrB R X Y = true) : CongrCl R X Y := by
  rw [inCongrB, Bool.and_eq_true, subB_iff, subB_iff] at h
  exact .of_sandwich (congrCl_congrCl R X) (congrCl_congrCl R Y) h.2 h.1

end NfaIncl

theorem congrCertB_sound {A B : NFA} {R : List CRule} (h : congrCertB A B R = true) : CongrCert A B R := by
  simp only [congrCertB, Bool.and_eq_true, List.all_eq_true, Bool.not_eq_true', beq_iff_eq, List.mem_eraseDups] at h
  obtain ⟨⟨h1, h2⟩, h3⟩ := h
  refine ⟨?_, inCongrB_sound h2, ?_⟩
  · intro q hA hB
    have := h1 q hA
    rw [List.contains_iff_mem.mpr hB] at this; cases this
  · intro p hp
    refine ⟨(h3 p hp).1, fun a => ?_⟩
    by_cases ha : a ∈ W.syms (nfaUnionDisjoint A B)
    · exact inCongrB_sound ((h3 p hp).2 a ha)
    · rw [W.stepW_nil_of_not_sym _ _ a ha, W.stepW_nil_of_not_sym _ _ a ha]
      exact .refl (fun _ => Iff.rfl)

theorem congrCertB_incl {A B : NFA} {R : List CRule} (h : congrCertB A B R = true) : InclW A B :=
  congr_cert_sound (congrCertB_sound h)


/-- a verdict of the congruence model comes with a relation that passed `congrCertB` or with a word that passed the
counterexample check -/
theorem nfaInclCongr_inv {A B : NFA} {breadth : Bool} {fuel : Nat} {b : Bool} {c : Cert}
    (h : nfaInclCongr A B breadth fuel = some (b, c)) :
    (b = true ∧ ∃ R, c = .relation R ∧ congrCertB A B R = true) ∨
    (b = false ∧ ∃ w, c = .witness w ∧ acceptsW A w = true ∧ acceptsW B w = false) := by
  unfold nfaInclCongr at h
  split at h
  · cases h
  · simp only at h
    split at h
    · next hc => cases h; exact Or.inl ⟨rfl, _, rfl, hc⟩
    · cases h
  · next w _ =>
    split at h
    · next hc =>
      cases h
      rw [Bool.and_eq_true, Bool.not_eq_true'] at hc
      exact Or.inr ⟨rfl, w, rfl, hc⟩
    · cases h

theorem nfaInclCongr_iff {A B : NFA} {breadth : Bool} {fuel : Nat} {b : Bool} {c : Cert} :
    nfaInclCongr A B breadth fuel = some (b, c) → (b = true ↔ InclW A B) := by
  intro h
  rcases nfaInclCongr_inv h with ⟨rfl, _, _, hc⟩ | ⟨rfl, _, _, hA, hB⟩
  · exact iff_of_true rfl (congrCertB_incl hc)
  · exact iff_of_false Bool.false_ne_true (not_inclW_of_witness hA hB)

theorem nfaInclCongr_false_sound {A B : NFA} {breadth : Bool} {fuel : Nat} {c : Cert}
    (h : nfaInclCongr A B breadth fuel = some (false, c)) :
    ∃ w, c = .witness w ∧ acceptsW A w = true ∧ acceptsW B w = false := by
  rcases nfaInclCongr_inv h with ⟨hb, _⟩ | ⟨_, hw⟩
  · cases hb
  · exact hw

theorem nfaInclCongr_true_sound {A B : NFA} {breadth : Bool} {fuel : Nat} {c : Cert}
    (h : nfaInclCongr A B breadth fuel = some (true, c)) : ∃ R, c = .relation R ∧ CongrCert A B R := by
  rcases nfaInclCongr_inv h with ⟨_, R, hc, hR⟩ | ⟨hb, _⟩
  · exact ⟨R, hc, congrCertB_sound hR⟩
  · cases hb

theorem checkNfaInclCongr_iff {A B : NFA} {breadth : Bool} {fuel : Nat} {b : Bool} {c : Cert} :
    checkNfaInclCongr A B breadth fuel = some (b, c) → (b = true ↔ InclW A B) := by
  intro h
  rw [← sanitize_incl A B]
  exact nfaInclCongr_iff h

namespace NfaInclEx

/-- (a) `a* ⊆ (a|b)*` (the states of the second operand are 1-based so that the operands are disjoint) -/
def exAstar : NFA := ⟨[0], [0], [(0, 0, 0)]⟩
def exABstar : NFA := ⟨[1], [1], [(1, 0, 1), (1, 1, 1)]⟩

/-- (b) the regression of the repaired subset memo of the antichain functor (symbols `a = 0`, `b = 1`, `c = 2`) -/
def exMemoA : NFA := ⟨[2], [0, 1], [(0, 1, 0), (0, 1, 1), (1, 1, 3), (0, 2, 1), (1, 2, 0), (2, 2, 1)]⟩
def exMemoB : NFA := ⟨[0, 2], [0, 1, 2, 3],
  [(3, 0, 2), (0, 1, 2), (2, 1, 1), (2, 1, 2), (3, 1, 0), (0, 2, 1), (0, 2, 3), (1, 2, 3), (2, 2, 0), (3, 2, 1)]⟩

/-- (c) `L(A) = a a⁺ b*`, `L(B) = a⁺` (the states of `B` are 10-based) -/
def exAAB : NFA := ⟨[0], [2, 3], [(0, 0, 1), (1, 0, 2), (2, 0, 2), (2, 1, 3), (3, 1, 3)]⟩
def exAplus : NFA := ⟨[10], [11], [(10, 0, 11), (11, 0, 11)]⟩

def verdict (r : Option (Bool × Cert)) : Option Bool := r.map (·.1)
def witness (r : Option (Bool × Cert)) : Option (List Nat) :=
  match r with
  | some (false, .witness w) => some w
  | _ => none

#guard verdict (nfaInclAC exAstar exABstar 10) == some true
#guard verdict (nfaInclAC exABstar exAstar 10) == some false
#guard witness (nfaInclAC exABstar exAstar 10) == some [1]
#guard verdict (nfaInclCongr exAstar exABstar true 10) == some true
#guard verdict (nfaInclCongr exAstar exABstar false 10) == some true
#guard witness (nfaInclCongr exABstar exAstar false 10) == some [1]
#guard verdict (checkNfaInclAC exAstar exABstar 10) == some true
#guard verdict (checkNfaInclCongr exAstar exABstar true 10) == some true
#guard verdict (nfaInclAC exMemoA exMemoB 20) == some true
#guard verdict (checkNfaInclAC exMemoA exMemoB 20) == some true
#guard verdict (checkNfaInclCongr exMemoA exMemoB true 20) == some true
#guard verdict (checkNfaInclCongr exMemoA exMemoB false 20) == some true
#guard verdict (checkNfaInclAC exMemoB exMemoA 20) == some false
#guard verdict (checkNfaInclCongr exMemoB exMemoA true 20) == some false
-- the operands of (b) share state names: the congruence model refuses them without the renaming of the dispatcher
#guard nfaInclCongr exMemoA exMemoB true 20 |>.isNone
#guard witness (nfaInclAC exAAB exAplus 10) == some [0, 0, 1]
#guard witness (checkNfaInclAC exAAB exAplus 10) == some [0, 0, 1]
#guard witness (nfaInclCongr exAAB exAplus true 10) == some [0, 0, 1]
#guard witness (nfaInclCongr exAAB exAplus false 10) == some [0, 0, 1]
#guard witness (checkNfaInclCongr exAAB exAplus false 10) == some [0, 0, 1]
#guard verdict (nfaInclAC exAplus exAAB 10) == some false
-- too little fuel
#guard (nfaInclAC exMemoA exMemoB 3).isNone
#guard (checkNfaInclCongr exMemoA exMemoB true 3).isNone
-- subsumption at work: the pair `(1, {3,4})` reached by `a` is replaced by `(1, {3})` reached by `b`
#guard (match nfaInclAC ⟨[0], [1], [(0, 0, 1), (0, 1, 1)]⟩ ⟨[2], [3], [(2, 0, 3), (2, 0, 4), (2, 1, 3)]⟩ 10 with
  | some (true, .antichain X) => X == [(0, [2]), (1, [3])] | _ => false)
-- the relation returned for (b) has 6 pairs
#guard (match checkNfaInclCongr exMemoA exMemoB true 20 with
  | some (true, .relation R) => R.length == 6 | _ => false)

theorem verdict_some {r : Option (Bool × Cert)} {b : Bool} (h : verdict r = some b) : ∃ c, r = some (b, c) :=
  Verdict.exists_cert h

theorem exStar_upCertB : nfaUpCertB exAstar exABstar [(0, [1])] = true := by decide
theorem exStar_certB : congrCertB exAstar exABstar [([0, 1], [1])] = true := by decide +kernel
theorem exMemo_ac : verdict (nfaInclAC exMemoA exMemoB 20) = some true := by decide +kernel
theorem exAAB_ac : verdict (nfaInclAC exAAB exAplus 10) = some false := by decide +kernel
theorem exMemo_congr : verdict (checkNfaInclCongr exMemoA exMemoB true 20) = some true := by decide +kernel

example : NfaUpCert exAstar exABstar [(0, [1])] := nfaUpCertB_sound exStar_upCertB
example : NfaUpCert exMemoA exMemoB
    [(2, [0, 2]), (0, [1, 3]), (0, [0]), (1, [0]), (1, [1, 3]), (0, [2]), (1, [2]), (3, [2]), (3, [0])] :=
  nfaUpCertB_sound (by decide +kernel)
example : ∃ c, nfaInclAC exMemoA exMemoB 20 = some (true, c) := verdict_some exMemo_ac
example : InclW exMemoA exMemoB := by
  obtain ⟨c, h⟩ := verdict_some exMemo_ac
  exact (nfaInclAC_iff h).mp rfl
example : ∃ c, nfaInclAC exAAB exAplus 10 = some (false, c) := verdict_some exAAB_ac
example : ¬ InclW exAAB exAplus := fun h => by
  obtain ⟨c, hv⟩ := verdict_some exAAB_ac
  cases (nfaInclAC_iff hv).mpr h
example : CongrCert exAstar exABstar [([0, 1], [1])] := congrCertB_sound exStar_certB
example : ∃ c, nfaInclCongr exAstar exABstar true 10 = some (true, c) := verdict_some (by decide +kernel)
example : ∃ c, nfaInclCongr exAAB exAplus false 10 = some (false, c) := verdict_some (by decide +kernel)
example : ∃ c, checkNfaInclCongr exMemoA exMemoB true 20 = some (true, c) := verdict_some exMemo_congr
example : ∃ c, checkNfaInclCongr exMemoA exMemoB false 20 = some (true, c) := verdict_some (by decide +kernel)
example : ∃ c, checkNfaInclAC exMemoA exMemoB 20 = some (true, c) := verdict_some (by decide +kernel)
example : InclW exMemoA exMemoB := by
  obtain ⟨c, h⟩ := verdict_some exMemo_congr
  exact (checkNfaInclCongr_iff h).mp rfl

/-- the operands of (b) as the dispatcher sanitises them -/
def exSanA : NFA := ⟨[0], [1, 2], [(1, 1, 1), (1, 1, 2), (1, 2, 2), (2, 2, 1), (0, 2, 2)]⟩
def exSanB : NFA := ⟨[3, 4], [3, 5, 4, 6],
  [(6, 0, 4), (3, 1, 4), (4, 1, 5), (4, 1, 4), (6, 1, 3), (3, 2, 5), (3, 2, 6), (5, 2, 6), (4, 2, 3), (6, 2, 5)]⟩
/-- the relation the congruence model returns for them (breadth-first) -/
def exSanR : List CRule :=
  [([0, 3, 4], [3, 4]), ([2, 3, 5, 6], [3, 5, 6]), ([1, 5, 6], [5, 6]), ([1, 2, 3], [3]), ([1, 2, 4], [4]),
   ([1, 2, 5, 6], [5, 6])]
/-- `R` is a plain bisimulation: successor pairs are equal or in `R` -/
def plainBisimB (U : NFA) (R : List CRule) : Bool :=
  R.all (fun p => (W.syms U).eraseDups.all (fun a =>
    normS (stepW U p.1 a) == normS (stepW U p.2 a) || R.contains (normS (stepW U p.1 a), normS (stepW U p.2 a))))

#guard (nfaSanitize exMemoA exMemoB).1.trans == exSanA.trans && (nfaSanitize exMemoA exMemoB).2.trans == exSanB.trans
#guard (match nfaInclCongr exSanA exSanB true 20 with | some (true, .relation R) => R == exSanR | _ => false)
-- the relation is a bisimulation up to congruence, but not a bisimulation: the pruning is really used
#guard congrCertB exSanA exSanB exSanR && !plainBisimB (nfaUnionDisjoint exSanA exSanB) exSanR
theorem exSan_certB : congrCertB exSanA exSanB exSanR = true := by decide +kernel
/-- non-vacuity of `congr_cert_sound` on a relation that needs the congruence closure -/
example : CongrCert exSanA exSanB exSanR := congrCertB_sound exSan_certB
example : InclW exSanA exSanB := congr_cert_sound (congrCertB_sound (R := exSanR) exSan_certB)

end NfaInclEx

end Vata
