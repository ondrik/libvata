import Vata.TimbukGrammar
/-!
# A transition line of the grammar is exactly what the reader reads (property C13)

`readLhs` is the analysis `stepLhs` makes of a trimmed left-hand side, without the parser state (`stepLhs_eq`), on a string of a given
shape (`readLhs_bare`, `readLhs_app`) and inverted (`readLhs_some`).  `KidList` ⇔ the `split_delim` / `trim` /
`contains_whitespace` computation, `Lhs` ⇔ `readLhs`, `TransLine` ⇔ `readTransLine`.
-/
namespace Vata.Timbuk
open Vata.T (splitDelim joinWith splitDelim_joinWith)

theorem stepLhs_eq (st : PState) (line lhs rhs : Str) :
    stepLhs st line lhs rhs = (match readLhs lhs with
      | none => .error (errInvalidTrans line)
      | some (kids, lab) => .ok (addTrans st (kids, lab, rhs))) := by
  unfold stepLhs readLhs
  cases lhs.dropWhile (fun c => c != '(') with
  | nil =>
    by_cases h2 : (lhs.contains ')' || containsWs lhs || lhs.isEmpty) = true
    · simp only [if_pos h2]
    · simp only [if_neg h2]
  | cons x inner =>
    by_cases h2 : (lhs.takeWhile (fun c => c != '(')).contains ')' = true
    · simp only [if_pos h2]
    · simp only [if_neg h2]
      cases inner.dropWhile (fun c => c != ')') with
      | nil => rfl
      | cons y after =>
        by_cases h4 : after ≠ []
        · simp only [if_pos h4]
        · simp only [if_neg h4]
          by_cases h5 : (trim (lhs.takeWhile (fun c => c != '('))).isEmpty = true
          · simp only [if_pos h5]
          · simp only [if_neg h5]
            by_cases h6 : ((splitDelim ',' (inner.takeWhile (fun c => c != ')'))).map trim).any containsWs = true
            · simp only [if_pos h6]
            · simp only [if_neg h6]

theorem readLhs_bare {lhs : Str} (h : '(' ∉ lhs) :
    readLhs lhs = if lhs.contains ')' || containsWs lhs || lhs.isEmpty then none else some ([], lhs) := by
  rw [readLhs, dropWhile_all (bne_of_not_mem h)]

theorem readLhs_app {lab0 body : Str} (h1 : '(' ∉ lab0) (h2 : ')' ∉ lab0) (h3 : ')' ∉ body) (h4 : trim lab0 ≠ []) :
    readLhs (lab0 ++ '(' :: (body ++ [')'])) =
      if ((splitDelim ',' body).map trim).any containsWs then none
      else some (if (splitDelim ',' body).map trim = [[]] then [] else (splitDelim ',' body).map trim, trim lab0) := by
  have e : (trim lab0).isEmpty = false := by simpa using h4
  simp only [readLhs, dropWhile_ne_append h1, takeWhile_ne_append h1, dropWhile_ne_append h3,
    takeWhile_ne_append h3, contains_false h2, e, ne_eq, not_true, Bool.false_eq_true, if_false]

theorem readLhs_some {x lab : Str} {kids : List Str} (h : readLhs x = some (kids, lab)) :
    ('(' ∉ x ∧ ')' ∉ x ∧ containsWs x = false ∧ x ≠ [] ∧ kids = [] ∧ lab = x) ∨
    ∃ lab0 body, x = lab0 ++ '(' :: (body ++ [')']) ∧ '(' ∉ lab0 ∧ ')' ∉ lab0 ∧ ')' ∉ body ∧ lab = trim lab0 ∧
      lab ≠ [] ∧ ((splitDelim ',' body).map trim).any containsWs = false ∧
      kids = if (splitDelim ',' body).map trim = [[]] then [] else (splitDelim ',' body).map trim := by
  rcases find_char '(' x with ⟨_, hno⟩ | ⟨inner, hd, hx, hno⟩
  · left
    rw [readLhs_bare hno] at h
    by_cases c : (x.contains ')' || containsWs x || x.isEmpty) = true
    · rw [if_pos c] at h; cases h
    · rw [if_neg c] at h
      cases h
      simp only [Bool.or_eq_true, not_or, Bool.not_eq_true] at c
      exact ⟨hno, by simpa using c.1.1, c.1.2, by simpa using c.2, rfl, rfl⟩
  · right
    unfold readLhs at h
    rw [hd] at h
    simp only at h
    generalize x.takeWhile (fun c => c != '(') = lab0 at h hx hno
    by_cases c1 : lab0.contains ')' = true
    · rw [if_pos c1] at h; cases h
    rw [if_neg c1] at h
    rcases find_char ')' inner with ⟨hd2, _⟩ | ⟨after, hd2, hin, hno2⟩
    · rw [hd2] at h; cases h
    rw [hd2] at h
    simp only at h
    generalize inner.takeWhile (fun c => c != ')') = body at h hin hno2
    by_cases c2 : after ≠ []
    · rw [if_pos c2] at h; cases h
    rw [if_neg c2] at h
    by_cases c3 : (trim lab0).isEmpty = true
    · rw [if_pos c3] at h; cases h
    rw [if_neg c3] at h
    by_cases c4 : ((splitDelim ',' body).map trim).any containsWs = true
    · rw [if_pos c4] at h; cases h
    rw [if_neg c4] at h
    cases h
    have ha : after = [] := Decidable.byContradiction c2
    subst ha
    exact ⟨lab0, body, by rw [hx, hin], hno, by simpa using c1, hno2, rfl, by simpa using c3, by simpa using c4, rfl⟩

theorem splitArrow_eq_some_iff (s l r : Str) :
    splitArrow s = some (l, r) ↔ s = l ++ '-' :: '>' :: r ∧ NoArrowIn l := by
  constructor
  · intro h
    exact ⟨(splitArrow_some h).1, (splitArrow_none_iff l).mp (splitArrow_some h).2⟩
  · rintro ⟨rfl, h⟩
    exact splitArrow_first' ((splitArrow_none_iff l).mpr h) r

theorem noWs_of_containsWs {s : Str} (h : containsWs s = false) : NoWs s := by
  unfold containsWs at h
  rw [List.any_eq_false] at h
  intro c hc
  simpa using h c hc

theorem pieces_exist : ∀ ps : List Str, (∀ x ∈ ps, ',' ∉ x ∧ containsWs (trim x) = false) →
    ∃ pieces : List (Str × Str × Str), pieces.map (fun p => p.1 ++ p.2.1 ++ p.2.2) = ps ∧
      pieces.map (·.2.1) = ps.map trim ∧ ∀ p ∈ pieces, AllWs p.1 ∧ NoWs p.2.1 ∧ ',' ∉ p.2.1 ∧ AllWs p.2.2
  | [], _ => ⟨[], rfl, rfl, by intro p hp; cases hp⟩
  | x :: r, h => by
    obtain ⟨pieces, h1, h2, h3⟩ := pieces_exist r (fun y hy => h y (List.mem_cons_of_mem _ hy))
    obtain ⟨pre, post, hx, hpre, hpost, _, _⟩ := trim_decomp x
    have hx' := h x List.mem_cons_self
    refine ⟨(pre, trim x, post) :: pieces, ?_, ?_, ?_⟩
    · simp only [List.map_cons, h1]
      rw [← hx]
    · simp only [List.map_cons, h2]
    · intro p hp
      rcases List.mem_cons.mp hp with rfl | hp
      · refine ⟨hpre, noWs_of_containsWs hx'.2, ?_, hpost⟩
        intro hc
        apply hx'.1
        rw [hx]
        simp [hc]
      · exact h3 p hp

/-- the text between the parentheses is a `KidList` iff no trimmed piece contains white space; the children are the trimmed
pieces (none when there is exactly one, empty, piece) -/
theorem kidList_iff (body : Str) (kids : List Str) :
    KidList body kids ↔ (((splitDelim ',' body).map trim).any containsWs = false ∧
       kids = (if (splitDelim ',' body).map trim = [[]] then [] else (splitDelim ',' body).map trim)) := by
  constructor
  · intro h
    cases h with
    | none hg =>
      rw [Vata.T.splitDelim_nodelim ',' body (hg.not_mem (by decide))]
      simp [trim_allWs hg, containsWs]
    | some hne hp hk =>
      rename_i pieces
      have hsplit : splitDelim ',' (joinWith ',' (pieces.map (fun p => p.1 ++ p.2.1 ++ p.2.2))) =
          pieces.map (fun p => p.1 ++ p.2.1 ++ p.2.2) := by
        apply splitDelim_joinWith
        · simpa using hne
        · intro x hx
          obtain ⟨p, hpm, rfl⟩ := List.mem_map.mp hx
          obtain ⟨h1, h2, h3, h4⟩ := hp p hpm
          exact not_mem_append3 (h1.not_mem (by decide)) h3 (h4.not_mem (by decide))
      have htrim : (pieces.map (fun p => p.1 ++ p.2.1 ++ p.2.2)).map trim = pieces.map (·.2.1) := by
        rw [List.map_map]
        apply List.map_congr_left
        intro p hpm
        obtain ⟨h1, h2, h3, h4⟩ := hp p hpm
        exact trim_pad _ h1 h4 h2.headOk h2.lastOk
      rw [hsplit, htrim]
      refine ⟨?_, by rw [if_neg hk]⟩
      rw [List.any_eq_false]
      intro x hx
      obtain ⟨p, hpm, rfl⟩ := List.mem_map.mp hx
      simp [containsWs_noWs (hp p hpm).2.1]
  · rintro ⟨hany, rfl⟩
    generalize hps : splitDelim ',' body = ps at hany ⊢
    obtain ⟨hps0, hfree, rfl⟩ := (splitDelim_eq_iff ',' body ps).mp hps
    by_cases hnil : ps.map trim = [[]]
    · rw [if_pos hnil]
      obtain ⟨x, rfl, hx⟩ := List.map_eq_singleton_iff.mp hnil
      exact KidList.none ((trim_eq_nil_iff x).mp hx)
    · rw [if_neg hnil]
      obtain ⟨pieces, rfl, h2, h3⟩ := pieces_exist ps (fun x hx => ⟨hfree x hx, by
        simpa using List.any_eq_false.mp hany (trim x) (List.mem_map_of_mem hx)⟩)
      rw [← h2] at hnil ⊢
      exact KidList.some (fun e => hps0 (by rw [e]; rfl)) h3 hnil

theorem lhs_read {lhs lab : Str} {kids : List Str} (h : Lhs lhs lab kids) : readLhs lhs = some (kids, lab) := by
  cases h with
  | leaf hne hws hlp hrp =>
    have : lhs.isEmpty = false := by simpa using hne
    rw [readLhs_bare hlp, contains_false hrp, containsWs_noWs hws, this]
    rfl
  | app hne hh hl hlp hrp hg hb hk =>
    rename_i g body
    have hlpA : '(' ∉ lab ++ g := not_mem_append_ws (by decide) hlp hg
    have hrpA : ')' ∉ lab ++ g := not_mem_append_ws (by decide) hrp hg
    have e6 : trim (lab ++ g) = lab := trim_padR _ hg hh hl
    obtain ⟨k1, k2⟩ := (kidList_iff body kids).mp hk
    rw [readLhs_app hlpA hrpA hb (by rw [e6]; exact hne), k1, ← k2, e6]
    rfl

theorem read_lhs {x lab : Str} {kids : List Str} (hh : HeadOk x) (h : readLhs x = some (kids, lab)) :
    Lhs x lab kids := by
  rcases readLhs_some h with ⟨hlp, hrp, hws, hne, rfl, rfl⟩ | ⟨lab0, body, rfl, hlp, hrp, hb, hlab, hne, hany, hkids⟩
  · exact Lhs.leaf hne (noWs_of_containsWs hws) hlp hrp
  · -- the label is `lab0` without its white end: there is no white start, the whole being trimmed
    obtain ⟨p, q, hl0, hp, hq, hho, hlo⟩ := trim_decomp lab0
    rw [← hlab] at hl0 hho hlo
    have hp' : p = [] := by
      cases p with
      | nil => rfl
      | cons c p' =>
        have := hh c (by rw [hl0]; rfl)
        rw [hp c List.mem_cons_self] at this
        cases this
    subst hp' hl0
    have := Lhs.app hne hho hlo (fun h' => hlp (by simp [h'])) (fun h' => hrp (by simp [h'])) hq hb
      ((kidList_iff body kids).mpr ⟨hany, hkids⟩)
    simpa using this

/-- **the left-hand side of the grammar is exactly what `readLhs` reads** (on a string that does not start with a white
character: `readLhs` is applied to a `trim`; `Lhs` has no leading pad, `readLhs " a(q)"` trims the label) -/
theorem lhs_iff (lhs lab : Str) (kids : List Str) (hh : HeadOk lhs) :
    Lhs lhs lab kids ↔ readLhs lhs = some (kids, lab) :=
  ⟨lhs_read, read_lhs hh⟩

theorem lhs_shape {lhs lab : Str} {kids : List Str} (h : Lhs lhs lab kids) : lhs ≠ [] ∧ HeadOk lhs ∧ LastOk lhs := by
  cases h with
  | leaf h1 h2 h3 h4 => exact ⟨h1, h2.headOk, h2.lastOk⟩
  | app h1 h2 h3 h4 h5 h6 h7 h8 =>
    rename_i g body
    refine ⟨by simp, ?_, ?_⟩
    · rw [List.append_assoc]
      exact headOk_append h1 h2
    · have e : lab ++ g ++ '(' :: (body ++ [')']) = (lab ++ g ++ '(' :: body) ++ [')'] := by simp
      rw [e]
      exact lastOk_append (by simp) (by intro c hc; simp at hc; subst hc; decide)

theorem transLine_read {l lab rhs : Str} {kids : List Str} (h : TransLine l lab kids rhs) :
    readTransLine l = some (kids, lab, rhs) := by
  cases h with
  | mk hpre hb ha hpost hlhs hno hrne hrws =>
    rename_i pre lhs b a post
    obtain ⟨hlne, hlh, hll⟩ := lhs_shape hlhs
    have e0 : pre ++ lhs ++ b ++ '-' :: '>' :: (a ++ rhs ++ post) =
        pre ++ (lhs ++ b ++ '-' :: '>' :: (a ++ rhs)) ++ post := by simp
    have t0 : trim (pre ++ lhs ++ b ++ '-' :: '>' :: (a ++ rhs ++ post)) = lhs ++ b ++ '-' :: '>' :: (a ++ rhs) := by
      rw [e0]
      apply trim_pad _ hpre hpost
      · rw [List.append_assoc]
        exact headOk_append hlne hlh
      · have e1 : lhs ++ b ++ '-' :: '>' :: (a ++ rhs) = (lhs ++ b ++ '-' :: '>' :: a) ++ rhs := by simp
        rw [e1]
        exact lastOk_append hrne hrws.lastOk
    have t1 : trim (lhs ++ b) = lhs := trim_padR _ hb hlh hll
    have t2 : trim (a ++ rhs) = rhs := trim_padL _ ha hrws.headOk hrws.lastOk
    have t3 : rhs.isEmpty = false := by simpa using hrne
    unfold readTransLine
    rw [t0, (splitArrow_eq_some_iff _ _ _).mpr ⟨rfl, hno⟩]
    simp only [t1, t2, t3, containsWs_noWs hrws, lhs_read hlhs]
    simp

theorem noArrowIn_suffix {p s : Str} (h : NoArrowIn (p ++ s)) : NoArrowIn s := by
  rintro ⟨u, v, rfl⟩
  exact h ⟨p ++ u, v, by simp⟩

theorem read_transLine {l lab rhs : Str} {kids : List Str} (h : readTransLine l = some (kids, lab, rhs)) :
    TransLine l lab kids rhs := by
  unfold readTransLine at h
  cases hs : splitArrow (trim l) with
  | none => rw [hs] at h; cases h
  | some ab =>
    obtain ⟨a', b'⟩ := ab
    rw [hs] at h
    simp only at h
    split at h
    · cases h
    · rename_i hc
      cases hr : readLhs (trim a') with
      | none => rw [hr] at h; cases h
      | some kl =>
        obtain ⟨kids', lab'⟩ := kl
        rw [hr] at h
        simp only [Option.some.injEq, Prod.mk.injEq] at h
        obtain ⟨rfl, rfl, hrhs⟩ := h
        obtain ⟨htl, hnoa⟩ := (splitArrow_eq_some_iff _ _ _).mp hs
        obtain ⟨pre, post, hl, hpre, hpost, _, _⟩ := trim_decomp l
        obtain ⟨p1, q1, ha, hp1, hq1, hh1, _⟩ := trim_decomp a'
        obtain ⟨p2, q2, hb, hp2, hq2, _, _⟩ := trim_decomp b'
        have hlhs := read_lhs hh1 hr
        simp only [Bool.or_eq_true, not_or, Bool.not_eq_true] at hc
        subst hrhs
        have hrne : trim b' ≠ [] := by simpa using hc.1
        have hrws : NoWs (trim b') := noWs_of_containsWs hc.2
        have hno : NoArrowIn (trim a' ++ q1) := by
          apply noArrowIn_suffix (p := p1)
          rw [← List.append_assoc, ← ha]
          exact hnoa
        have := TransLine.mk (allWs_append hpre hp1) hq1 hp2 (allWs_append hq2 hpost) hlhs hno hrne hrws
        have e : l = pre ++ p1 ++ trim a' ++ q1 ++ '-' :: '>' :: (p2 ++ trim b' ++ (q2 ++ post)) := by
          calc l = pre ++ trim l ++ post := hl
            _ = pre ++ (a' ++ '-' :: '>' :: b') ++ post := by rw [← htl]
            _ = pre ++ ((p1 ++ trim a' ++ q1) ++ '-' :: '>' :: (p2 ++ trim b' ++ q2)) ++ post := by rw [← ha, ← hb]
            _ = _ := by simp
        rw [e]
        exact this

theorem transLine_iff (l lab : Str) (kids : List Str) (rhs : Str) :
    TransLine l lab kids rhs ↔ readTransLine l = some (kids, lab, rhs) :=
  ⟨transLine_read, read_transLine⟩

end Vata.Timbuk
