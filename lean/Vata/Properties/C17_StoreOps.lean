import Vata.Proofs.RcStoreXOps
import Vata.Proofs.StoreRefine
import Vata.Proofs.RcStoreXHist
/-!
# C17 at STORE level – unary / ternary apply, Project, Rename, ExtendWith, GetMtbddForPrefix

> (C17) The MTBDD operations compute the pointwise / documented functions: `apply` computes the leaf operation pointwise,
> `Project` combines the cofactors, `Rename` substitutes variables, `ExtendWith` / `GetMtbddForPrefix` add / strip a prefix.

`Vata/Properties/C17.lean` proves the value equations for the TREE model (`M.apply1`, `M.apply3`, `M.project`, `M.rename`,
`M.extendWith`, `M.getPrefix` of `Vata/MtbddOps.lean`) and, at store level, only for the constructor and the binary apply.
This file closes the "not yet proved" item "unary/ternary apply, `Project`, `Rename`, `ExtendWith`, `GetMtbddForPrefix` exist
at tree level only": each of them is modelled on the reference-counted hash-consed node store (`Vata/RcStoreX.lean`, the
C++ is quoted there) and REFINES its tree-level counterpart: after any history, the root given to the new handle unfolds
(`RcS.unfold`) to the tree operation applied to the unfolding of the operand roots.  The value equations then follow from
the tree-level theorems.

Reading of the C++: see the header of `Vata/Properties/C18_Extended.lean`.  `runX F ops` = state after the history `ops`
(`F` = the leaf operations); `find h s.hs` = `getRoot()` of handle `h` (`none` for a dead handle); `unfold s.dat (r+1) r` =
the diagram below node `r`; `denote s r ρ` = its value under the total assignment `ρ`.
Only the counting invariant is used, so every theorem holds also in stores with garbage left by earlier `Project`s and
after renamings with a non-monotone table.  The history-level hypotheses are satisfiable: examples below.
-/
namespace Vata.RcSX

theorem runX_snoc (F : Fns) (ops : List RcSX.Op) (op : RcSX.Op) :
    (runX F (ops ++ [op])).st = stepS F (runX F ops).dv (runX F ops).st op := by
  rw [runX_append]; rfl

theorem predOf_single (x : Nat) : predOf [x] = fun y => y == x := by
  funext y; simp only [predOf, List.mem_singleton]; exact (Bool.beq_eq_decide_eq y x).symm

namespace Ex
/-- `x₀ ∧ ¬x₂ ↦ 5`, `¬x₀ ∧ x₁ ↦ 7`, their maximum -/
def exS : List RcSX.Op :=
  [.construct 0 [some true, none, some false] 5 0, .construct 1 [some false, some true] 7 0, .apply 0 1 2]

end Ex

end Vata.RcSX

namespace Vata.Props
open Vata.RcS Vata.RcSX Vata.RcSX.Ex

/-- `MTBDDOut dst = apply1(a)` after any history: the new root unfolds to `M.apply1 f1` of the operand's diagram and
denotes the pointwise `f1` -/
theorem C17_store_apply1 (F : Fns) (ops : List RcSX.Op) (a dst ra : Nat) (ha : find a (runX F ops).st.hs = some ra)
    (hd : find dst (runX F ops).st.hs = none) :
    ∃ r, find dst (runX F (ops ++ [.apply1 a dst])).st.hs = some r ∧
      unfold (runX F (ops ++ [.apply1 a dst])).st.dat (r+1) r = M.apply1 F.f1 (unfold (runX F ops).st.dat (ra+1) ra) ∧
      ∀ ρ, denote (runX F (ops ++ [.apply1 a dst])).st r ρ = F.f1 (denote (runX F ops).st ra ρ) := by
  rw [runX_snoc]
  have ⟨r, h1, h2, h3⟩ := (apply1_adds F.f1 (runX_winv F ops) ha hd).1.denote
  exact ⟨r, h1, h2, fun ρ => (h3 ρ).trans (M.apply1_eval F.f1 ρ _)⟩

/-- `MTBDDOut dst = apply3(a, b, c)` after any history: the new root unfolds to `M.apply3 f3` of the operands' diagrams
and denotes the pointwise `f3` -/
theorem C17_store_apply3 (F : Fns) (ops : List RcSX.Op) (a b c dst ra rb rc : Nat)
    (ha : find a (runX F ops).st.hs = some ra) (hb : find b (runX F ops).st.hs = some rb)
    (hc : find c (runX F ops).st.hs = some rc) (hd : find dst (runX F ops).st.hs = none) :
    ∃ r, find dst (runX F (ops ++ [.apply3 a b c dst])).st.hs = some r ∧
      unfold (runX F (ops ++ [.apply3 a b c dst])).st.dat (r+1) r =
        M.apply3 F.f3 (unfold (runX F ops).st.dat (ra+1) ra) (unfold (runX F ops).st.dat (rb+1) rb)
          (unfold (runX F ops).st.dat (rc+1) rc) ∧
      ∀ ρ, denote (runX F (ops ++ [.apply3 a b c dst])).st r ρ =
        F.f3 (denote (runX F ops).st ra ρ) (denote (runX F ops).st rb ρ) (denote (runX F ops).st rc ρ) := by
  rw [runX_snoc]
  have ⟨r, h1, h2, h3⟩ := (apply3_adds F.f3 (runX_winv F ops) ha hb hc hd).1.denote
  exact ⟨r, h1, h2, fun ρ => (h3 ρ).trans (M.apply3_eval F.f3 ρ _ _ _)⟩

/-- the same in terms of the observer `getValue` (`GetValue` of a handle under a total assignment) -/
theorem C17_store_apply1_getValue (F : Fns) (ops : List RcSX.Op) (a dst : Nat) (ρ : Nat → Bool) (va : Nat)
    (ha : getValue (runX F ops).st a ρ = some va) (hd : find dst (runX F ops).st.hs = none) :
    getValue (runX F (ops ++ [.apply1 a dst])).st dst ρ = some (F.f1 va) := by
  cases hfa : find a (runX F ops).st.hs with
  | none => simp [getValue, hfa] at ha
  | some ra =>
    obtain ⟨r, h1, _, h3⟩ := C17_store_apply1 F ops a dst ra hfa hd
    rw [getValue_of_find hfa] at ha
    cases ha
    rw [getValue_of_find h1, h3]

theorem C17_store_apply3_getValue (F : Fns) (ops : List RcSX.Op) (a b c dst : Nat) (ρ : Nat → Bool) (va vb vc : Nat)
    (ha : getValue (runX F ops).st a ρ = some va) (hb : getValue (runX F ops).st b ρ = some vb)
    (hc : getValue (runX F ops).st c ρ = some vc) (hd : find dst (runX F ops).st.hs = none) :
    getValue (runX F (ops ++ [.apply3 a b c dst])).st dst ρ = some (F.f3 va vb vc) := by
  cases hfa : find a (runX F ops).st.hs with
  | none => simp [getValue, hfa] at ha
  | some ra =>
    cases hfb : find b (runX F ops).st.hs with
    | none => simp [getValue, hfb] at hb
    | some rb =>
      cases hfc : find c (runX F ops).st.hs with
      | none => simp [getValue, hfc] at hc
      | some rc =>
        obtain ⟨r, h1, _, h3⟩ := C17_store_apply3 F ops a b c dst ra rb rc hfa hfb hfc hd
        rw [getValue_of_find hfa] at ha
        rw [getValue_of_find hfb] at hb
        rw [getValue_of_find hfc] at hc
        cases ha; cases hb; cases hc
        rw [getValue_of_find h1, h3]

/-- `dst = a.Project(pred, applyFunc)` with `pred(var) = var ∈ vars`, `applyFunc` = binary apply with `f2`: the new root
unfolds to `M.project` of the operand's diagram (whose value is characterised by `C17_project` / `C17_project_lub`) -/
theorem C17_store_project (F : Fns) (ops : List RcSX.Op) (a dst ra : Nat) (vars : List Nat)
    (ha : find a (runX F ops).st.hs = some ra) (hd : find dst (runX F ops).st.hs = none) :
    ∃ r, find dst (runX F (ops ++ [.project a dst vars])).st.hs = some r ∧
      unfold (runX F (ops ++ [.project a dst vars])).st.dat (r+1) r =
        M.project (predOf vars) F.f2 (unfold (runX F ops).st.dat (ra+1) ra) := by
  rw [runX_snoc]
  exact (project_adds F.f2 (predOf vars) (runX_winv F ops) ha hd).root

/-- value of the projection of ONE variable `x` with an idempotent `f2`, for an operand whose diagram is ordered and
reduced (`M.WF`; true for every diagram built by constructors and applies, `RcS.unfold_wf`): `f2` of the two cofactors -/
theorem C17_store_project_value (F : Fns) (idem : ∀ v, F.f2 v v = v) (ops : List RcSX.Op) (a dst ra x : Nat)
    (ha : find a (runX F ops).st.hs = some ra) (hd : find dst (runX F ops).st.hs = none)
    (hwf : M.WF (unfold (runX F ops).st.dat (ra+1) ra)) :
    ∃ r, find dst (runX F (ops ++ [.project a dst [x]])).st.hs = some r ∧
      ∀ ρ, denote (runX F (ops ++ [.project a dst [x]])).st r ρ =
        F.f2 (denote (runX F ops).st ra (M.upd ρ x false)) (denote (runX F ops).st ra (M.upd ρ x true)) := by
  obtain ⟨r, h1, h2⟩ := C17_store_project F ops a dst ra [x] ha hd
  refine ⟨r, h1, fun ρ => ?_⟩
  unfold denote
  rw [h2, predOf_single]
  exact M.project_eval x F.f2 idem ρ hwf

/-- `dst = a.Rename(renamer)` with `renamer(var) = tab[var]`: the new root unfolds to `M.rename`, and its value under `σ`
is the operand's value under `σ ∘ renamer` – for EVERY table (monotone or not) -/
theorem C17_store_rename (F : Fns) (ops : List RcSX.Op) (a dst ra : Nat) (tab : List Nat)
    (ha : find a (runX F ops).st.hs = some ra) (hd : find dst (runX F ops).st.hs = none) :
    ∃ r, find dst (runX F (ops ++ [.rename a dst tab])).st.hs = some r ∧
      unfold (runX F (ops ++ [.rename a dst tab])).st.dat (r+1) r =
        M.rename (renOf tab) (unfold (runX F ops).st.dat (ra+1) ra) ∧
      ∀ σ, denote (runX F (ops ++ [.rename a dst tab])).st r σ = denote (runX F ops).st ra (σ ∘ renOf tab) := by
  rw [runX_snoc]
  have ⟨r, h1, h2, h3⟩ := (rename_adds (renOf tab) (runX_winv F ops) ha hd).1.denote
  exact ⟨r, h1, h2, fun σ => (h3 σ).trans (M.rename_eval (renOf tab) σ _)⟩

/-- `dst = a.ExtendWith(asgn, offset)`: the new root unfolds to `M.extendWith` with the operand's `defaultValue_`
(`(runX F ops).dv a`); its value is the operand's value on the assignments whose variables `offset, offset+1, …` agree
with `asgn`, and the default value elsewhere -/
theorem C17_store_extendWith (F : Fns) (ops : List RcSX.Op) (a dst ra : Nat) (asgn : List (Option Bool)) (offset : Nat)
    (ha : find a (runX F ops).st.hs = some ra) (hd : find dst (runX F ops).st.hs = none) :
    ∃ r, find dst (runX F (ops ++ [.extendWith a dst asgn offset])).st.hs = some r ∧
      unfold (runX F (ops ++ [.extendWith a dst asgn offset])).st.dat (r+1) r =
        M.extendWith asgn offset (unfold (runX F ops).st.dat (ra+1) ra) ((runX F ops).dv a) ∧
      ∀ ρ, denote (runX F (ops ++ [.extendWith a dst asgn offset])).st r ρ =
        if M.agrees (fun j => ρ (j + offset)) asgn 0 = true then denote (runX F ops).st ra ρ else (runX F ops).dv a := by
  rw [runX_snoc]
  have ⟨r, h1, h2, h3⟩ := (extendWith_adds asgn offset ((runX F ops).dv a) (runX_winv F ops) ha hd).1.denote
  exact ⟨r, h1, h2, fun ρ => (h3 ρ).trans (M.extendWith_eval asgn offset _ _ ρ)⟩

/-- `dst = a.GetMtbddForPrefix(asgn, offset)`: the new root is the node `M.getPrefix` reaches -/
theorem C17_store_getPrefix (F : Fns) (ops : List RcSX.Op) (a dst ra : Nat) (asgn : List (Option Bool)) (offset : Nat)
    (ha : find a (runX F ops).st.hs = some ra) (hd : find dst (runX F ops).st.hs = none) :
    ∃ r, find dst (runX F (ops ++ [.getPrefix a dst asgn offset])).st.hs = some r ∧
      unfold (runX F (ops ++ [.getPrefix a dst asgn offset])).st.dat (r+1) r =
        M.getPrefix asgn offset (unfold (runX F ops).st.dat (ra+1) ra) := by
  rw [runX_snoc]
  exact (getPrefix_adds asgn offset (runX_winv F ops) ha hd).1.root

/-- value of the prefix diagram for an ordered, reduced operand: the variables `≥ offset` are fixed by `asgn` (`ONE` →
true, `ZERO` / `DONT_CARE` / out of range → false) -/
theorem C17_store_getPrefix_value (F : Fns) (ops : List RcSX.Op) (a dst ra : Nat) (asgn : List (Option Bool))
    (offset : Nat) (ha : find a (runX F ops).st.hs = some ra) (hd : find dst (runX F ops).st.hs = none)
    (hwf : M.WF (unfold (runX F ops).st.dat (ra+1) ra)) :
    ∃ r, find dst (runX F (ops ++ [.getPrefix a dst asgn offset])).st.hs = some r ∧
      ∀ ρ, denote (runX F (ops ++ [.getPrefix a dst asgn offset])).st r ρ =
        denote (runX F ops).st ra
          (fun i => if i < offset then ρ i else decide (asgn[i - offset]? = some (some true))) := by
  obtain ⟨r, h1, h2⟩ := C17_store_getPrefix F ops a dst ra asgn offset ha hd
  refine ⟨r, h1, fun ρ => ?_⟩
  unfold denote
  rw [h2]
  exact M.getPrefix_eval asgn offset ρ hwf

/-- the default value tracked for a handle written by an enabled operation is the one the C++ computes (`dvNew`), and
the other handles keep theirs -/
theorem C17_store_default_value (F : Fns) (ops : List RcSX.Op) (op : RcSX.Op) (h : Nat) :
    (runX F (ops ++ [op])).dv h =
      if op.enabled (runX F ops).st = true ∧ h = op.target then dvNew F (runX F ops).dv op else (runX F ops).dv h := by
  rw [runX_append]
  show (stepX F (runX F ops) op).dv h = _
  unfold stepX
  by_cases he : op.enabled (runX F ops).st = true
  · by_cases ht : h = op.target
    · simp [he, ht, setF]
    · simp [he, ht, setF]
  · simp [he]

/-! ### non-vacuity -/

theorem C17_store_exS_hs : (runX stdFns exS).st.hs = [(2, 9), (1, 6), (0, 3)] := by decide +kernel
theorem C17_store_exS_diagram : unfold (runX stdFns exS).st.dat 10 9 =
    .node 2 (.node 1 (.node 0 (.leaf 0) (.leaf 5)) (.node 0 (.leaf 7) (.leaf 5))) (.node 1 (.leaf 0) (.node 0 (.leaf 7) (.leaf 0))) := by
  decide +kernel
example : find 2 (runX stdFns exS).st.hs = some 9 ∧ find 0 (runX stdFns exS).st.hs = some 3 ∧
    find 1 (runX stdFns exS).st.hs = some 6 ∧ find 3 (runX stdFns exS).st.hs = none := by rw [C17_store_exS_hs]; decide
example : unfold (runX stdFns exS).st.dat 10 9 =
    .node 2 (.node 1 (.node 0 (.leaf 0) (.leaf 5)) (.node 0 (.leaf 7) (.leaf 5))) (.node 1 (.leaf 0) (.node 0 (.leaf 7) (.leaf 0))) :=
  C17_store_exS_diagram
-- unary apply (`v ↦ 2v+1`), ternary apply (`x + 2y + 3z`): the theorems apply, and the results are as computed
example : ∃ r, find 3 (runX stdFns (exS ++ [.apply1 2 3])).st.hs = some r ∧
    ∀ ρ, denote (runX stdFns (exS ++ [.apply1 2 3])).st r ρ = 2 * denote (runX stdFns exS).st 9 ρ + 1 :=
  let ⟨r, h1, _, h3⟩ := C17_store_apply1 stdFns exS 2 3 9 (by rw [C17_store_exS_hs]; rfl) (by rw [C17_store_exS_hs]; rfl)
  ⟨r, h1, h3⟩
example : getValue (runX stdFns (exS ++ [.apply1 2 3])).st 3 (asgnOf 1) = some 11 ∧
    getValue (runX stdFns (exS ++ [.apply3 0 1 2 3])).st 3 (asgnOf 2) = some (0 + 2 * 7 + 3 * 7) := by decide +kernel
-- projection of x₁ with `max` (idempotent); the operand's diagram is ordered and reduced
example : M.WF (unfold (runX stdFns exS).st.dat 10 9) := by
  rw [C17_store_exS_diagram]; simp [M.WF, M.Below]
example : ∀ v, stdFns.f2 v v = v := fun v => Nat.max_self v
example : getValue (runX stdFns (exS ++ [.project 2 3 [1]])).st 3 (asgnOf 0) = some 7 ∧
    getValue (runX stdFns exS).st 2 (asgnOf 0) = some 0 ∧ getValue (runX stdFns exS).st 2 (asgnOf 2) = some 7 := by decide +kernel
-- renaming with a NON-monotone table (x₀ ↦ 2, x₂ ↦ 0), extension by a prefix, stripping it again
example : unfold (runX stdFns (exS ++ [.rename 0 3 [2, 1, 0]])).st.dat 12 11 = .node 0 (.node 2 (.leaf 0) (.leaf 5)) (.leaf 0) := by
  decide +kernel
example : find 4 (runX stdFns (exS ++ [.extendWith 1 3 [some true, none] 3, .getPrefix 3 4 [some true, none] 3])).st.hs
    = find 1 (runX stdFns exS).st.hs := by decide +kernel
example : (runX stdFns (exS ++ [.apply1 2 3])).dv 3 = 1 ∧ (runX stdFns (exS ++ [.apply1 2 3])).dv 2 = 0 := by decide +kernel

/-!
## still not proved

* `M.WF` of the operand is a HYPOTHESIS of `C17_store_project_value` / `C17_store_getPrefix_value`: the second store invariant
  (`WfInv`, "every allocated inner node is reduced and ordered") is proved for histories over construct / copy / assign /
  apply2 / destroy only (`RcS.unfold_wf`); it is not extended to the new operations (after a `rename` with a non-monotone
  table it is false – example above).  The refinement theorems themselves need no such hypothesis.
* Projection is characterised through the tree-level theorems (`C17_project`, `C17_project_lub`); for a non-idempotent
  `f2` only the refinement `C17_store_project` is available.
* The `VoidApply` traversals have no store-level model (they do not modify the store); the memo tables `ht` are not
  modelled.
* That the store model and `OndriksMTBDD<T>` agree step by step is the correspondence check of a driver
  (`RcSX.runTrace`), not a theorem.
-/
end Vata.Props
