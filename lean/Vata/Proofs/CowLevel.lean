import Vata.CowHeap
import Vata.Proofs.Store
/-!
# One level of reference counting (under `Proofs/CowHeap.lean`, `CowHeap3.lean`, `CowHeapX.lean`, `CowHeapFA.lean`)

`Lvl` is the counting invariant between a pool of referrers and a pool of reference-counted targets, with the references
held by temporaries as a multiset.  The two-level heap (`Proofs/CowHeap.lean`) is two such levels, the three-level heap
(`Proofs/CowHeap3.lean`) three; every primitive `shared_ptr` action is one of the moves below at one or two levels.
`absOf` is the handle layer the heaps share: which value a handle sees; `valOf` is the value of a node whose entries point
to nodes with values (the `abs` and `valM` of each heap model are these by `rfl`).  The update and in-degree lemmas stand in
`Vata.CowHeap`, where the model defines `upd` and `indeg`; `Lvl` and its moves stand in `Vata.CowHeap3`, although both heaps
use them.
-/
namespace Vata.CowHeap

open Vata.Store (upsert)

@[simp] theorem upd_same {β : Type} (f : Nat → β) (k : Nat) (v : β) : upd f k v k = v := if_pos rfl
theorem upd_other {β : Type} (f : Nat → β) {k x : Nat} (v : β) (h : x ≠ k) : upd f k v x = f x := if_neg h

theorem upd_upd_same {β : Type} (f : Nat → β) (k : Nat) (v w : β) : upd (upd f k v) k w = upd f k w := by
  funext x
  by_cases e : x = k
  · rw [e, upd_same, upd_same]
  · rw [upd_other _ _ e, upd_other _ _ e, upd_other _ _ e]

theorem upd_self {β : Type} (f : Nat → β) (k : Nat) : upd f k (f k) = f := by
  funext x
  by_cases e : x = k
  · rw [e, upd_same]
  · rw [upd_other _ _ e]

/-- a guarded update at `k`, read elsewhere: the form of most clauses of the value-level specifications -/
theorem ite_upd_other {β : Type} {c : Prop} [Decidable c] (a : Nat → β) {k x : Nat} (v : β) (h : x ≠ k) :
    (if c then upd a k v else a) x = a x := by
  by_cases hc : c
  · rw [if_pos hc, upd_other _ _ h]
  · rw [if_neg hc]

theorem ite_upd_other' {β : Type} {c : Prop} [Decidable c] (a : Nat → β) {k x : Nat} (v : β) (h : x ≠ k) :
    (if c then a else upd a k v) x = a x := by
  by_cases hc : c
  · rw [if_pos hc]
  · rw [if_neg hc, upd_other _ _ h]

/-- a view `g` of a pointwise updated table is the updated view: the form of every "`out` after the action" equation -/
theorem map_upd {β γ : Type} (g : β → γ) (f : Nat → β) (k : Nat) (v : β) :
    (fun x => g (upd f k v x)) = upd (fun x => g (f x)) k (g v) := by
  funext x
  by_cases e : x = k
  · rw [e, upd_same, upd_same]
  · rw [upd_other _ _ e, upd_other _ _ e]

/-- the update step of the environment invariants that ask `P` of every value present (`CowHeapFA.EnvWF`, `CowI.CellsV`) -/
theorem forall_some_upd {β : Type} {P : β → Prop} {a : Nat → Option β} (ha : ∀ h v, a h = some v → P v) (h : Nat)
    {x : Option β} (hx : ∀ v, x = some v → P v) : ∀ k v, upd a h x k = some v → P v := by
  intro k v hk
  by_cases e : k = h
  · rw [e, upd_same] at hk
    exact hx v hk
  · rw [upd_other _ _ e] at hk
    exact ha k v hk

theorem indeg_nil(out : Nat → List Nat) (n : Nat) : indeg [] out n = 0 := rfl

theorem indeg_cons (k : Nat) (live : List Nat) (out : Nat → List Nat) (n : Nat) :
    indeg (k :: live) out n = (out k).count n + indeg live out n := by
  rw [indeg, List.flatMap_cons, List.count_append]
  rfl

theorem indeg_congr {live : List Nat} {out out' : Nat → List Nat} (h : ∀ k, k ∈ live → out k = out' k) (n : Nat) :
    indeg live out n = indeg live out' n := by
  rw [indeg, indeg, List.flatMap_def, List.flatMap_def, List.map_congr_left h]

theorem indeg_upd_notin {live : List Nat} {out : Nat → List Nat} {k : Nat} (v : List Nat) (hk : k ∉ live) (n : Nat) :
    indeg live (upd out k v) n = indeg live out n :=
  indeg_congr (fun k' hk' => upd_other out v (fun e : k' = k => hk (e ▸ hk'))) n

theorem indeg_erase {live : List Nat} (out : Nat → List Nat) {k : Nat} (hk : k ∈ live) (n : Nat) :
    indeg (live.erase k) out n + (out k).count n = indeg live out n := by
  rw [indeg, indeg, ((List.perm_cons_erase hk).flatMap_right out).count_eq n, List.flatMap_cons, List.count_append]
  exact Nat.add_comm _ _

theorem indeg_upd {live : List Nat} {out : Nat → List Nat} {k : Nat} (v : List Nat) (hnd : live.Nodup) (hk : k ∈ live)
    (n : Nat) : indeg live (upd out k v) n + (out k).count n = indeg live out n + v.count n := by
  have h1 := indeg_erase (upd out k v) hk n
  have h2 := indeg_erase out hk n
  rw [upd_same, indeg_upd_notin v hnd.not_mem_erase] at h1
  omega

theorem count_le_indeg {live : List Nat} (out : Nat → List Nat) {k : Nat} (hk : k ∈ live) (n : Nat) :
    (out k).count n ≤ indeg live out n :=
  indeg_erase out hk n ▸ Nat.le_add_left _ _

theorem indeg_pos_iff {live : List Nat} {out : Nat → List Nat} {n : Nat} :
    0 < indeg live out n ↔ ∃ k, k ∈ live ∧ n ∈ out k := by
  rw [indeg, List.count_pos_iff, List.mem_flatMap]

theorem indeg_eq_zero {live : List Nat} {out : Nat → List Nat} {n : Nat} (h : ∀ k, k ∈ live → n ∉ out k) :
    indeg live out n = 0 :=
  Nat.eq_zero_of_not_pos (fun hp => let ⟨k, hk, hn⟩ := indeg_pos_iff.mp hp; h k hk hn)

theorem not_mem_of_indeg_zero {live : List Nat} {out : Nat → List Nat} {n k : Nat} (h : indeg live out n = 0)
    (hk : k ∈ live) : n ∉ out k :=
  fun hn => Nat.lt_irrefl 0 (h ▸ indeg_pos_iff.mpr ⟨k, hk, hn⟩)

theorem unique_ref {live : List Nat} {out : Nat → List Nat} {n k k' : Nat} (h1 : indeg live out n ≤ 1)
    (hk : k ∈ live) (hn : n ∈ out k) (hk' : k' ∈ live) (hne : k' ≠ k) : n ∉ out k' := by
  have e := indeg_erase out hk n
  have := count_le_indeg out ((List.mem_erase_of_ne hne).mpr hk') n
  have := List.count_pos_iff.mpr hn
  rw [← List.count_eq_zero]
  omega

/-- the old pointer of the entry (if there was one) and the new one, against the pointers of the node before and after -/
theorem count_upsert (q c' x : Nat) (es : List (Nat × Nat)) :
    ((upsert q (fun _ => c') es).map Prod.snd).count x + ((es.lookup q).toList).count x =
      (es.map Prod.snd).count x + [c'].count x := by
  induction es with
  | nil => exact Nat.add_comm _ _
  | cons kc es ih =>
    obtain ⟨k0, c0⟩ := kc
    rw [upsert, lookup_cons_ite]
    split
    · simp only [List.map_cons, Option.toList_some, List.count_cons, List.count_nil]
      omega
    · simp only [List.map_cons, List.count_cons, List.count_nil] at ih ⊢
      omega

theorem map_upsert_fresh {β : Type} (D D' : Nat → β) (q c' : Nat) (G : Option β → β) (es : List (Nat × Nat))
    (hold : ∀ kc, kc ∈ es → D' kc.2 = D kc.2) (hnew : D' c' = G ((es.lookup q).map D)) :
    (upsert q (fun _ => c') es).map (fun kc => (kc.1, D' kc.2)) =
      upsert q G (es.map (fun kc => (kc.1, D kc.2))) := by
  induction es with
  | nil =>
    simp only [upsert, List.map_cons, List.map_nil]
    rw [hnew]; rfl
  | cons kc es ih =>
    obtain ⟨k0, c0⟩ := kc
    simp only [upsert, List.map_cons]
    split
    · rename_i e
      rw [lookup_cons_ite, if_pos e] at hnew
      simp only [List.map_cons, Option.map_some] at hnew ⊢
      rw [hnew]
      congr 1
      apply List.map_congr_left
      intro kc hkc
      rw [hold kc (List.mem_cons_of_mem _ hkc)]
    · rename_i e
      rw [lookup_cons_ite, if_neg e] at hnew
      simp only [List.map_cons]
      rw [hold (k0, c0) List.mem_cons_self, ih (fun kc hkc => hold kc (List.mem_cons_of_mem _ hkc)) hnew]

theorem map_upsert_inplace {β : Type} (D D' : Nat → β) (q c : Nat) (G : Option β → β) (es : List (Nat × Nat))
    (hl : es.lookup q = some c) (hcnt : (es.map Prod.snd).count c ≤ 1)
    (hold : ∀ kc, kc ∈ es → kc.2 ≠ c → D' kc.2 = D kc.2) (hnew : D' c = G (some (D c))) :
    es.map (fun kc => (kc.1, D' kc.2)) = upsert q G (es.map (fun kc => (kc.1, D kc.2))) := by
  induction es with
  | nil => simp at hl
  | cons kc es ih =>
    obtain ⟨k0, c0⟩ := kc
    simp only [upsert, List.map_cons]
    rw [lookup_cons_ite] at hl
    simp only [List.map_cons, List.count_cons] at hcnt
    split
    · rename_i e
      rw [if_pos e] at hl
      have hcc : c0 = c := Option.some.inj hl
      subst hcc
      rw [hnew]
      congr 1
      apply List.map_congr_left
      intro kc hkc
      have hne : kc.2 ≠ c0 := by
        intro e2
        have : c0 ∈ es.map Prod.snd := List.mem_map.mpr ⟨kc, hkc, e2⟩
        have := List.count_pos_iff.mpr this
        simp only [beq_self_eq_true, if_true] at hcnt
        omega
      rw [hold kc (List.mem_cons_of_mem _ hkc) hne]
    · rename_i e
      rw [if_neg e] at hl
      have hc : 0 < (es.map Prod.snd).count c := List.count_pos_iff.mpr (mem_of_lookup_snd hl)
      have hne : c0 ≠ c := by
        intro e2
        rw [e2] at hcnt
        simp only [beq_self_eq_true, if_true] at hcnt
        omega
      rw [hold (k0, c0) List.mem_cons_self hne]
      rw [ih hl (by omega) (fun kc hkc => hold kc (List.mem_cons_of_mem _ hkc))]

def valOf {β : Type} (tab : Nat → List (Nat × Nat)) (D : Nat → β) (m : Nat) : List (Nat × β) :=
  (tab m).map (fun kc => (kc.1, D kc.2))

section
variable {β : Type} {tab tab' : Nat → List (Nat × Nat)} {D D' : Nat → β} {m q : Nat}

theorem valOf_congr (ht : tab' m = tab m) (hD : ∀ kc, kc ∈ tab m → D' kc.2 = D kc.2) :
    valOf tab' D' m = valOf tab D m := by
  rw [valOf, ht]
  exact List.map_congr_left (fun kc hkc => by rw [hD kc hkc])

/-- the entry of `q` is pointed to a new node `n` whose value is made from the old one -/
theorem valOf_upsert_fresh {n : Nat} (G : Option β → β) (hold : ∀ kc, kc ∈ tab m → D' kc.2 = D kc.2)
    (hnew : D' n = G (((tab m).lookup q).map D)) :
    valOf (upd tab m (upsert q (fun _ => n) (tab m))) D' m = upsert q G (valOf tab D m) := by
  rw [valOf, upd_same]
  exact map_upsert_fresh D D' q n G _ hold hnew

/-- the node `c` that the entry of `q` points to, and nothing else in `m` does, is modified in place -/
theorem valOf_upsert_inplace {c : Nat} (G : Option β → β) (hl : (tab m).lookup q = some c)
    (hcnt : ((tab m).map Prod.snd).count c ≤ 1) (hold : ∀ kc, kc ∈ tab m → kc.2 ≠ c → D' kc.2 = D kc.2)
    (hnew : D' c = G (some (D c))) : valOf tab D' m = upsert q G (valOf tab D m) :=
  map_upsert_inplace D D' q c G _ hl hcnt hold hnew

end

def absOf {β : Type} (hl : List Nat) (hmap : Nat → Nat) (vm : Nat → β) : Nat → Option β :=
  fun h => if h ∈ hl then some (vm (hmap h)) else none

section
variable {β : Type} {hl : List Nat} {hmap : Nat → Nat} {vm vm' : Nat → β} {h : Nat}

theorem absOf_mem (hh : h ∈ hl) : absOf hl hmap vm h = some (vm (hmap h)) := if_pos hh
theorem absOf_not_mem (hh : h ∉ hl) : absOf hl hmap vm h = none := if_neg hh

theorem absOf_isSome : (absOf hl hmap vm h).isSome = true ↔ h ∈ hl := by
  by_cases hh : h ∈ hl
  · rw [absOf_mem hh]; exact iff_of_true rfl hh
  · rw [absOf_not_mem hh]; exact iff_of_false Bool.false_ne_true hh

theorem absOf_isNone : (absOf hl hmap vm h).isNone = true ↔ h ∉ hl := by
  by_cases hh : h ∈ hl
  · rw [absOf_mem hh]; exact iff_of_false Bool.false_ne_true (fun hn => hn hh)
  · rw [absOf_not_mem hh]; exact iff_of_true rfl hh

theorem absOf_congr (hv : ∀ x, x ∈ hl → vm' (hmap x) = vm (hmap x)) : absOf hl hmap vm' = absOf hl hmap vm := by
  funext x
  by_cases hx : x ∈ hl
  · rw [absOf_mem hx, absOf_mem hx, hv x hx]
  · rw [absOf_not_mem hx, absOf_not_mem hx]

theorem absOf_upd_val {v : β} (hh : h ∈ hl) (hv : vm' (hmap h) = v)
    (ho : ∀ x, x ∈ hl → x ≠ h → vm' (hmap x) = vm (hmap x)) :
    absOf hl hmap vm' = upd (absOf hl hmap vm) h (some v) := by
  funext x
  by_cases e : x = h
  · rw [e, upd_same, absOf_mem hh, hv]
  · rw [upd_other _ _ e]
    by_cases hx : x ∈ hl
    · rw [absOf_mem hx, absOf_mem hx, ho x hx e]
    · rw [absOf_not_mem hx, absOf_not_mem hx]

theorem absOf_retarget (m' : Nat) (hh : h ∈ hl) :
    absOf hl (upd hmap h m') vm = upd (absOf hl hmap vm) h (some (vm m')) := by
  funext x
  by_cases e : x = h
  · rw [e, upd_same, absOf_mem hh, upd_same]
  · rw [upd_other _ _ e, absOf, absOf, upd_other _ _ e]

theorem absOf_cons (h m' : Nat) : absOf (h :: hl) (upd hmap h m') vm = upd (absOf hl hmap vm) h (some (vm m')) := by
  funext x
  by_cases e : x = h
  · rw [e, upd_same, absOf_mem List.mem_cons_self, upd_same]
  · rw [upd_other _ _ e, absOf, absOf, upd_other _ _ e]
    exact ite_cond_congr (propext (List.mem_cons.trans (or_iff_right e)))

theorem absOf_erase (hnd : hl.Nodup) (h : Nat) : absOf (hl.erase h) hmap vm = upd (absOf hl hmap vm) h none := by
  funext x
  by_cases e : x = h
  · rw [e, upd_same, absOf_not_mem hnd.not_mem_erase]
  · rw [upd_other _ _ e]
    exact ite_cond_congr (propext (List.mem_erase_of_ne e))

theorem upd_absOf_self (hh : h ∈ hl) : upd (absOf hl hmap vm) h (some (vm (hmap h))) = absOf hl hmap vm :=
  (absOf_upd_val hh rfl (fun _ _ _ => rfl)).symm

end

end Vata.CowHeap

namespace Vata.CowHeap3

open Vata.CowHeap (upd upd_same upd_other indeg indeg_cons indeg_upd_notin indeg_upd indeg_erase
  count_le_indeg indeg_pos_iff indeg_eq_zero not_mem_of_indeg_zero unique_ref)

/-- `R` referrers with outgoing pointers `out`, `T` allocated targets with use counts `rc`, `p` pending references
    (counted in `rc` but held by a temporary / not yet released), identifiers below `nx` -/
structure Lvl (R : List Nat) (out : Nat → List Nat) (T : List Nat) (rc : Nat → Nat) (p : List Nat) (nx : Nat) : Prop where
  rnd : R.Nodup
  tnd : T.Nodup
  pt : ∀ r, r ∈ R → ∀ c, c ∈ out r → c ∈ T
  cnt : ∀ c, c ∈ T → rc c = indeg R out c + p.count c
  pp : ∀ c, c ∈ p → c ∈ T
  lt : ∀ c, c ∈ T → c < nx
  /-- no garbage -/
  pos : ∀ c, c ∈ T → 0 < rc c

variable {R : List Nat} {out : Nat → List Nat} {T : List Nat} {rc : Nat → Nat} {p : List Nat} {nx : Nat}

theorem lvl_init (out : Nat → List Nat) : Lvl [] out [] (fun _ => 0) [] 0 := by
  refine ⟨List.nodup_nil, List.nodup_nil, ?_, ?_, ?_, ?_, ?_⟩ <;> exact fun _ h => nomatch h

/-- without temporaries: the form of the executable checkers -/
theorem lvl_nil_iff :
    Lvl R out T rc [] nx ↔ R.Nodup ∧ T.Nodup ∧ (∀ r, r ∈ R → ∀ c, c ∈ out r → c ∈ T) ∧
      ∀ c, c ∈ T → (rc c = indeg R out c ∧ c < nx) ∧ 0 < rc c :=
  ⟨fun h => ⟨h.rnd, h.tnd, h.pt, fun c hc => ⟨⟨h.cnt c hc, h.lt c hc⟩, h.pos c hc⟩⟩,
    fun ⟨h1, h2, h3, h4⟩ => ⟨h1, h2, h3, fun c hc => (h4 c hc).1.1, fun _ => nofun, fun c hc => (h4 c hc).1.2,
      fun c hc => (h4 c hc).2⟩⟩

theorem Lvl.fresh (h : Lvl R out T rc p nx) : nx ∉ T := fun hm => Nat.lt_irrefl _ (h.lt _ hm)

theorem Lvl.mono (h : Lvl R out T rc p nx) {nx' : Nat} (hle : nx ≤ nx') : Lvl R out T rc p nx' :=
  ⟨h.rnd, h.tnd, h.pt, h.cnt, h.pp, fun c hc => Nat.lt_of_lt_of_le (h.lt c hc) hle, h.pos⟩

theorem Lvl.mem_of_count_pos (h : Lvl R out T rc p nx) {c : Nat} (hc : 0 < indeg R out c + p.count c) : c ∈ T := by
  by_cases h1 : 0 < indeg R out c
  · obtain ⟨r, hr, hcr⟩ := indeg_pos_iff.mp h1
    exact h.pt r hr c hcr
  · exact h.pp c (List.count_pos_iff.mp (by omega))

/-- references change hands between referrers and temporaries: the targets and their use counts stay as they are as long
    as every target is referenced as often as before -/
theorem Lvl.reshuffle (h : Lvl R out T rc p nx) {R' : List Nat} {out' : Nat → List Nat} {p' : List Nat} (hnd : R'.Nodup)
    (hms : ∀ c, indeg R' out' c + p'.count c = indeg R out c + p.count c) : Lvl R' out' T rc p' nx := by
  refine ⟨hnd, h.tnd, ?_, ?_, ?_, h.lt, h.pos⟩
  · intro r hr c hc
    have := count_le_indeg out' hr c
    have := List.count_pos_iff.mpr hc
    exact h.mem_of_count_pos (by rw [← hms]; omega)
  · intro c hc
    rw [hms]
    exact h.cnt c hc
  · intro c hc
    have := List.count_pos_iff.mpr hc
    exact h.mem_of_count_pos (by rw [← hms]; omega)

/-- a new referrer takes over pending references -/
theorem Lvl.addR {es : List Nat} (h : Lvl R out T rc (es ++ p) nx) {n : Nat} (hn : n ∉ R) :
    Lvl (n :: R) (upd out n es) T rc p nx := by
  apply h.reshuffle (List.nodup_cons.mpr ⟨hn, h.rnd⟩)
  intro c
  rw [indeg_cons, upd_same, indeg_upd_notin _ hn, List.count_append]
  omega

/-- the pointers of a referrer are exchanged with pending ones (`new' + old' = out r + new` as multisets) -/
theorem Lvl.setR {new : List Nat} (h : Lvl R out T rc (new ++ p) nx) {r : Nat} (hr : r ∈ R) (new' old' : List Nat)
    (hms : ∀ x, new'.count x + old'.count x = (out r).count x + new.count x) :
    Lvl R (upd out r new') T rc (old' ++ p) nx := by
  apply h.reshuffle h.rnd
  intro c
  have h2 := indeg_upd (out := out) new' h.rnd hr c
  have h3 := hms c
  rw [List.count_append, List.count_append]
  omega

/-- a referrer goes away, its pointers become pending -/
theorem Lvl.dropR (h : Lvl R out T rc p nx) {r : Nat} (hr : r ∈ R) : Lvl (R.erase r) out T rc (out r ++ p) nx := by
  apply h.reshuffle (h.rnd.erase r)
  intro c
  have h2 := indeg_erase out hr c
  rw [List.count_append]
  omega

/-- copies of pointers into temporaries -/
theorem Lvl.bump (h : Lvl R out T rc p nx) (es : List Nat) (hes : ∀ c, c ∈ es → c ∈ T) :
    Lvl R out T (fun c => rc c + es.count c) (es ++ p) nx := by
  refine ⟨h.rnd, h.tnd, h.pt, ?_, ?_, h.lt, ?_⟩
  · intro c hc
    have := h.cnt c hc
    rw [List.count_append]
    omega
  · intro c hc
    exact (List.mem_append.mp hc).elim (hes c) (h.pp c)
  · intro c hc
    exact Nat.lt_of_lt_of_le (h.pos c hc) (Nat.le_add_right _ _)

theorem Lvl.bump1 (h : Lvl R out T rc p nx) {c : Nat} (hc : c ∈ T) : Lvl R out T (upd rc c (rc c + 1)) (c :: p) nx := by
  have e : (fun x => rc x + [c].count x) = upd rc c (rc c + 1) := by
    funext x
    by_cases hx : x = c
    · rw [hx, upd_same, List.count_singleton_self]
    · rw [upd_other _ _ hx, List.count_cons_of_ne (fun e => hx e.symm)]
      rfl
  exact e ▸ h.bump [c] (fun x hx => List.mem_singleton.mp hx ▸ hc)

/-- a new target node held by a temporary -/
theorem Lvl.allocT (h : Lvl R out T rc p nx) : Lvl R out (nx :: T) (upd rc nx 1) (nx :: p) (nx + 1) := by
  have hf := h.fresh
  have hne : ∀ c, c ∈ T → c ≠ nx := fun c hc e => hf (e ▸ hc)
  refine ⟨h.rnd, List.nodup_cons.mpr ⟨hf, h.tnd⟩, fun r hr c hc => List.mem_cons_of_mem _ (h.pt r hr c hc), ?_, ?_,
    ?_, ?_⟩
  · intro c hc
    rcases List.mem_cons.mp hc with e | hc'
    · have h1 : indeg R out nx = 0 := indeg_eq_zero (fun r hr hn => hf (h.pt r hr _ hn))
      have h2 : p.count nx = 0 := List.count_eq_zero.mpr (fun hp => hf (h.pp _ hp))
      rw [e, upd_same, List.count_cons_self, h1, h2]
    · rw [upd_other _ _ (hne c hc'), List.count_cons_of_ne (fun e => hne c hc' e.symm)]
      exact h.cnt c hc'
  · intro c hc
    exact (List.mem_cons.mp hc).elim (fun e => e ▸ List.mem_cons_self) (fun hc' => List.mem_cons_of_mem _ (h.pp c hc'))
  · intro c hc
    rcases List.mem_cons.mp hc with e | hc'
    · exact e ▸ Nat.lt_succ_self _
    · exact Nat.lt_succ_of_lt (h.lt c hc')
  · intro c hc
    rcases List.mem_cons.mp hc with e | hc'
    · rw [e, upd_same]; exact Nat.one_pos
    · rw [upd_other _ _ (hne c hc')]; exact h.pos c hc'

/-- releasing the last reference frees the node; nobody points to it any more -/
theorem Lvl.relFree {c : Nat} (h : Lvl R out T rc (c :: p) nx) (h0 : rc c - 1 = 0) :
    Lvl R out (T.erase c) (upd rc c 0) p nx := by
  have hrc := h.cnt c (h.pp c List.mem_cons_self)
  rw [List.count_cons_self] at hrc
  have hi : indeg R out c = 0 := by omega
  have hp : c ∉ p := List.count_eq_zero.mp (by omega)
  have hmem : ∀ c', c' ∈ T.erase c → c' ≠ c ∧ c' ∈ T := fun c' => h.tnd.mem_erase_iff.mp
  refine ⟨h.rnd, h.tnd.erase c, ?_, ?_, ?_, fun c' hc' => h.lt c' (hmem c' hc').2, ?_⟩
  · intro r hr c' hc'
    exact (List.mem_erase_of_ne (fun e : c' = c => not_mem_of_indeg_zero hi hr (e ▸ hc'))).mpr (h.pt r hr c' hc')
  · intro c' hc'
    obtain ⟨hne, hc''⟩ := hmem c' hc'
    rw [upd_other _ _ hne, h.cnt c' hc'', List.count_cons_of_ne (fun e => hne e.symm)]
  · intro c' hc'
    exact (List.mem_erase_of_ne (fun e : c' = c => hp (e ▸ hc'))).mpr (h.pp c' (List.mem_cons_of_mem _ hc'))
  · intro c' hc'
    obtain ⟨hne, hc''⟩ := hmem c' hc'
    rw [upd_other _ _ hne]
    exact h.pos c' hc''

/-- releasing one of several references -/
theorem Lvl.relDec {c : Nat} (h : Lvl R out T rc (c :: p) nx) (h0 : ¬ rc c - 1 = 0) :
    Lvl R out T (upd rc c (rc c - 1)) p nx := by
  have hrc := h.cnt c (h.pp c List.mem_cons_self)
  rw [List.count_cons_self] at hrc
  refine ⟨h.rnd, h.tnd, h.pt, ?_, fun c' hc' => h.pp c' (List.mem_cons_of_mem _ hc'), h.lt, ?_⟩
  · intro c' hc'
    by_cases e : c' = c
    · rw [e, upd_same]
      omega
    · rw [upd_other _ _ e, h.cnt c' hc', List.count_cons_of_ne (fun e' => e e'.symm)]
  · intro c' hc'
    by_cases e : c' = c
    · rw [e, upd_same]
      omega
    · rw [upd_other _ _ e]
      exact h.pos c' hc'

theorem Lvl.unique (h : Lvl R out T rc [] nx) {c r r' : Nat} (hc : rc c = 1) (hr : r ∈ R) (hcr : c ∈ out r)
    (hr' : r' ∈ R) (hne : r' ≠ r) : c ∉ out r' := by
  have h1 := h.cnt c (h.pt r hr c hcr)
  exact unique_ref (by omega) hr hcr hr' hne

theorem Lvl.count_le_one (h : Lvl R out T rc [] nx) {c r : Nat} (hc : rc c = 1) (hr : r ∈ R) (hcr : c ∈ out r) :
    (out r).count c ≤ 1 := by
  have h1 := h.cnt c (h.pt r hr c hcr)
  have := count_le_indeg out hr c
  omega

theorem Lvl.no_garbage {out : Nat → List Nat} (h : Lvl [] out T rc [] nx) : T = [] := by
  apply List.eq_nil_iff_forall_not_mem.mpr
  intro c hc
  have h1 := h.pos c hc
  rw [h.cnt c hc] at h1
  exact Nat.lt_irrefl 0 h1

end Vata.CowHeap3
