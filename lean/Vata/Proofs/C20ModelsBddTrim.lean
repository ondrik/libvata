import Vata.C20Models
import Vata.Proofs.BddTrimCodedBuild
/-!
# C20: the propagation of the top-down BDD `RemoveUselessStates` never fails `erase(node) != 1` nor `FindFwd`

`C20M.usefulCodedC` is `BddTrimCoded.usefulCoded` with a flag raised where the C++ runs into `assert(false)`:
`Graph::GetIngress(andNode).erase(node) != 1` and a failed `orNodes.FindFwd`.  Proved here: the flag stays down and the
result is the one of `usefulCoded`.

* `GOk` / `BOk`: the graph built by `AddEdge` only is symmetric (`a ∈ egress(m) → m ∈ ingress(a)`), its egress sets and
  `termNodes` are duplicate-free (they are `std::set`s filled by `insert`) – kept by every step of the construction.
* `EInv`: the invariant of `while (!nodeStack.empty())` with the ghost list `popped` of the nodes popped so far: a node is
  erased from an ingress set only in the round in which it is popped; the stack is duplicate-free and disjoint from `popped`
  (a node is pushed only when its state is not yet in `usefulStates`, and the states of all stacked and popped nodes are) – so no
  node is popped twice and every `erase` finds its element.
-/
namespace Vata.C20M
open Vata Vata.BddTrimCoded M BddAbs BddAbsTD

structure GOk (G : Graph) : Prop where
  sym : ∀ m a, a ∈ G.egr m → m ∈ G.ing a
  egrND : ∀ x, (G.egr x).Nodup

theorem gok_empty : GOk Graph.empty := ⟨fun _ _ h => (nomatch h), fun _ => List.nodup_nil⟩

theorem gok_addNode {G : Graph} (h : GOk G) : GOk G.addNode.1 := ⟨h.sym, h.egrND⟩

theorem gok_addEdge {G : Graph} (h : GOk G) (s d : Nat) : GOk (G.addEdge s d) := by
  refine ⟨fun m a ha => ?_, fun x => ?_⟩
  · rcases mem_egr_addEdge.mp ha with h1 | ⟨h1, h2⟩
    · exact mem_ing_addEdge.mpr (Or.inl (h.sym m a h1))
    · exact mem_ing_addEdge.mpr (Or.inr ⟨h2, h1⟩)
  · show (if x = s then ins d (G.egr x) else G.egr x).Nodup
    split
    · exact nodup_ins (h.egrND x)
    · exact h.egrND x

structure BOk (B : Build) : Prop where
  g : GOk B.G
  termND : B.term.Nodup

theorem bok_stateStep {a : Nat} {B : Build} (h : BOk B) (s : Nat) : BOk (stateStep a B s) := by
  unfold stateStep
  split
  · exact ⟨gok_addEdge h.g _ _, h.termND⟩
  · exact ⟨gok_addEdge (gok_addNode h.g) _ _, h.termND⟩

theorem bok_tupleStep {proc : Nat} {B : Build} (h : BOk B) (t : List Nat) : BOk (tupleStep proc B t) := by
  unfold tupleStep
  split
  · exact ⟨h.g, nodup_ins h.termND⟩
  · split
    · exact ⟨gok_addEdge h.g _ _, h.termND⟩
    · have h1 : BOk { B with G := B.G.addNode.1, andN := B.andN ++ [(B.G.addNode.2, t)] } := ⟨gok_addNode h.g, h.termND⟩
      have h2 := List.foldlRecOn t (stateStep B.G.addNode.2) h1 fun _ hB s _ => bok_stateStep hB s
      exact ⟨gok_addEdge h2.g _ _, h2.termND⟩

theorem bok_initBuild (F : List Nat) : BOk (initBuild F) :=
  List.foldlRecOn (motive := BOk) F _ ⟨gok_empty, List.nodup_nil⟩ fun _ hB _ _ => ⟨gok_addNode hB.g, hB.termND⟩

theorem bok_buildLoop (T : TableTD) {fuel : Nat} {B B' : Build} (h : BOk B) (hb : buildLoop T fuel B = some B') : BOk B' := by
  induction fuel generalizing B with
  | zero =>
    cases hs : B.ws with
    | nil => rw [buildLoop_nil _ _ hs] at hb; cases hb; exact h
    | cons e ws => rw [buildLoop_zero _ hs] at hb; cases hb
  | succ f ih =>
    cases hs : B.ws with
    | nil => rw [buildLoop_nil _ _ hs] at hb; cases hb; exact h
    | cons e ws =>
      obtain ⟨n, s⟩ := e
      rw [buildLoop_succ _ _ hs] at hb
      have h1 : BOk { B with ws := ws } := ⟨h.g, h.termND⟩
      exact ih (List.foldlRecOn _ (tupleStep n) h1 fun _ hB t _ => bok_tupleStep hB t) hb

/-- `popped`: the nodes popped so far (the current one included); `n`, `l`: the current node and the AND nodes of its egress
set that the loop `for (andNode : GetEgress(node))` has not visited yet (`l = []` between two rounds) -/
structure EInv (B : Build) (P : Mark) (popped : List Nat) (n : Nat) (l : List Nat) : Prop where
  ing : ∀ a m, m ∈ B.G.ing a → (m ∉ popped ∨ (m = n ∧ a ∈ l)) → m ∈ P.G.ing a
  subE : ∀ x m, m ∈ P.G.egr x → m ∈ B.G.egr x
  egrND : ∀ x, (P.G.egr x).Nodup
  stkND : P.stk.Nodup
  stkNP : ∀ m, m ∈ P.stk → m ∉ popped
  stkOr : ∀ m, m ∈ P.stk → ∃ s, (m, s) ∈ B.orN
  usef : ∀ m, m ∈ P.stk ∨ m ∈ popped → stateOf B.orN m ∈ P.useful
  lND : l.Nodup
  lIng : ∀ a, a ∈ l → n ∈ B.G.ing a ∧ n ∈ popped ∧ a ∈ B.G.egr n

variable {T : TableTD} {F : List Nat} {B : Build}

theorem fwd_ok (hS : Spec T F B) {m s : Nat} (h : (m, s) ∈ B.orN) : fwdFails B.orN m = false := by
  unfold fwdFails
  rw [findFwd_of_mem hS.orFun h]
  rfl

/-- a node whose state enters `U` is pushed: it was neither on the stack nor popped -/
theorem EInv.push {P : Mark} {popped : List Nat} {n : Nat} {l : List Nat} (hI : EInv B P popped n l) {m s : Nat}
    (hm : (m, s) ∈ B.orN) (hms : m ∉ P.stk) (hmp : m ∉ popped) {U : List Nat}
    (hU : ∀ q, q ∈ U ↔ q ∈ P.useful ∨ q = stateOf B.orN m) : EInv B ⟨P.G, m :: P.stk, U⟩ popped n l :=
  { hI with
    stkND := List.nodup_cons.mpr ⟨hms, hI.stkND⟩
    stkNP := fun m' hm' => by
      rcases List.mem_cons.mp hm' with rfl | h
      · exact hmp
      · exact hI.stkNP m' h
    stkOr := fun m' hm' => by
      rcases List.mem_cons.mp hm' with rfl | h
      · exact ⟨s, hm⟩
      · exact hI.stkOr m' h
    usef := fun m' hm' => by
      rcases hm' with h | h
      · rcases List.mem_cons.mp h with rfl | h
        · exact (hU _).mpr (Or.inr rfl)
        · exact (hU _).mpr (Or.inl (hI.usef m' (Or.inl h)))
      · exact (hU _).mpr (Or.inl (hI.usef m' (Or.inr h))) }

theorem markStep_einv {P : Mark} {popped : List Nat} {n : Nat} {l : List Nat} (hI : EInv B P popped n l) {m s : Nat}
    (hm : (m, s) ∈ B.orN) : EInv B (markStep B.orN P m) popped n l := by
  unfold markStep
  split
  · exact hI
  · next hc =>
    have hnu : stateOf B.orN m ∉ P.useful := fun h => hc (List.contains_iff_mem.mpr h)
    exact hI.push hm (fun h => hnu (hI.usef m (Or.inl h))) (fun h => hnu (hI.usef m (Or.inr h))) (fun q => by simp)

theorem markFold_einv (hS : Spec T F B) {popped : List Nat} {n : Nat} {l : List Nat} (ms : List Nat) {P : Mark} (b : Bool)
    (hI : EInv B P popped n l) (hms : ∀ m, m ∈ ms → ∃ s, (m, s) ∈ B.orN) :
    EInv B (ms.foldl (markStep B.orN) P) popped n l ∧
      ms.foldl (markStepC B.orN) (P, b) = (ms.foldl (markStep B.orN) P, b) := by
  induction ms generalizing P with
  | nil => exact ⟨hI, rfl⟩
  | cons m ms ih =>
    obtain ⟨s, hs⟩ := hms m List.mem_cons_self
    have e : markStepC B.orN (P, b) m = (markStep B.orN P m, b) := by
      simp only [markStepC, fwd_ok hS hs, Bool.or_false]
    rw [List.foldl_cons, List.foldl_cons, e]
    exact ih (markStep_einv hI hs) (fun m' hm' => hms m' (List.mem_cons_of_mem _ hm'))

theorem markFold_G (orN : List (Nat × Nat)) : ∀ (ms : List Nat) (P : Mark), (ms.foldl (markStep orN) P).G = P.G :=
  markFold_graph orN

/-- the body of `for (andNode : GetEgress(node))`: the erased element is there -/
theorem satisfyStep_einv (hS : Spec T F B) {P : Mark} {popped : List Nat} {n s0 a : Nat} {rest : List Nat}
    (hn : (n, s0) ∈ B.orN) (hI : EInv B P popped n (a :: rest)) (b : Bool) :
    EInv B (satisfyStep B.orN n P a) popped n rest ∧
      satisfyStepC B.orN n (P, b) a = (satisfyStep B.orN n P a, b) := by
  obtain ⟨hna, hnp, hae⟩ := hI.lIng a List.mem_cons_self
  have hmem : n ∈ P.G.ing a := hI.ing a n hna (Or.inr ⟨rfl, List.mem_cons_self⟩)
  have hbad : (!(P.G.ing a).contains n) = false := by simp [hmem]
  obtain ⟨harest, hrest⟩ := List.nodup_cons.mp hI.lND
  have hI1 : EInv B { P with G := P.G.eraseIng a n } popped n rest :=
    { hI with
      ing := fun a' m hm hc => by
        refine mem_ing_eraseIng.mpr ⟨hI.ing a' m hm (hc.imp_right fun h => ⟨h.1, List.mem_cons_of_mem _ h.2⟩), ?_⟩
        rintro ⟨rfl, rfl⟩
        exact hc.elim (fun h => h hnp) (fun h => harest h.2)
      lND := hrest
      lIng := fun a' ha' => hI.lIng a' (List.mem_cons_of_mem _ ha') }
  obtain ⟨t, hat⟩ := hS.orEgr n s0 a hn hae
  unfold satisfyStep satisfyStepC
  dsimp only
  rw [hbad, Bool.or_false]
  split
  · exact markFold_einv hS _ b hI1 fun m hm => (hS.andEgr a t m hat (hI.subE a m hm)).imp fun _ h => h.1
  · exact ⟨hI1, rfl⟩

theorem satisfyFold_einv (hS : Spec T F B) {popped : List Nat} {n s0 : Nat} (hn : (n, s0) ∈ B.orN)
    (l : List Nat) {P : Mark} (b : Bool) (hI : EInv B P popped n l) :
    EInv B (l.foldl (satisfyStep B.orN n) P) popped n [] ∧
      l.foldl (satisfyStepC B.orN n) (P, b) = (l.foldl (satisfyStep B.orN n) P, b) := by
  induction l generalizing P with
  | nil => exact ⟨hI, rfl⟩
  | cons a rest ih =>
    obtain ⟨h1, h2⟩ := satisfyStep_einv hS hn hI b
    rw [List.foldl_cons, List.foldl_cons, h2]
    exact ih h1

theorem popStep_einv (hS : Spec T F B) (hB : BOk B) {P : Mark} {popped : List Nat} {n0 n : Nat} {stk : List Nat}
    (hI : EInv B P popped n0 []) (hstk : P.stk = n :: stk) (b : Bool) :
    EInv B (popStep B.orN n { P with stk := stk }) (n :: popped) n [] ∧
      popStepC B.orN n ({ P with stk := stk }, b) = (popStep B.orN n { P with stk := stk }, b) := by
  have hsub : ∀ m, m ∈ stk → m ∈ P.stk := fun m hm => hstk ▸ List.mem_cons_of_mem _ hm
  have hnP : n ∈ P.stk := hstk ▸ List.mem_cons_self
  obtain ⟨s0, hn⟩ := hI.stkOr n hnP
  obtain ⟨hnstk, hnd⟩ := List.nodup_cons.mp (hstk ▸ hI.stkND)
  obtain ⟨e1, e2, e3⟩ := foldl_eraseEgr n (P.G.ing n) P.G
  have hI1 : EInv B { P with stk := stk, G := (P.G.ing n).foldl (fun G a => G.eraseEgr a n) P.G } (n :: popped) n
      (((P.G.ing n).foldl (fun G a => G.eraseEgr a n) P.G).egr n) :=
    { ing := fun a m hm hc => by
        show m ∈ ((P.G.ing n).foldl (fun G a => G.eraseEgr a n) P.G).ing a
        rw [e1]
        refine hI.ing a m hm (Or.inl ?_)
        rcases hc with h | ⟨rfl, _⟩
        · exact fun h' => h (List.mem_cons_of_mem _ h')
        · exact hI.stkNP m hnP
      subE := fun x m hm => hI.subE x m ((e2 x m).mp hm).1
      egrND := fun x => (e3 x).nodup (hI.egrND x)
      stkND := hnd
      stkNP := fun m hm hp => by
        rcases List.mem_cons.mp hp with rfl | hp
        · exact hnstk hm
        · exact hI.stkNP m (hsub m hm) hp
      stkOr := fun m hm => hI.stkOr m (hsub m hm)
      usef := fun m hm => hI.usef m <| by
        rcases hm with h | h
        · exact Or.inl (hsub m h)
        · rcases List.mem_cons.mp h with rfl | h
          · exact Or.inl hnP
          · exact Or.inr h
      lND := (e3 n).nodup (hI.egrND n)
      lIng := fun a ha =>
        have : a ∈ B.G.egr n := hI.subE n a ((e2 n a).mp ha).1
        ⟨hB.g.sym n a this, List.mem_cons_self, this⟩ }
  unfold popStep popStepC
  exact satisfyFold_einv hS hn _ b hI1

theorem propLoop_einv (hS : Spec T F B) (hB : BOk B) {fuel : Nat} {P : Mark} {popped : List Nat} {n0 : Nat} (b : Bool)
    (hI : EInv B P popped n0 []) :
    propLoopC B.orN fuel (P, b) = (propLoop B.orN fuel P).map (fun P' => (P', b)) := by
  induction fuel generalizing P popped n0 with
  | zero =>
    unfold propLoopC propLoop
    cases P.stk <;> rfl
  | succ f ih =>
    unfold propLoopC propLoop
    cases hstk : P.stk with
    | nil => rfl
    | cons n stk =>
      obtain ⟨h1, h2⟩ := popStep_einv hS hB hI hstk b
      simp only [h2]
      exact ih h1

theorem initMarkFold_einv (hS : Spec T F B) (l : List Nat) {P : Mark} (b : Bool) (hI : EInv B P [] 0 [])
    (hnd : l.Nodup) (hl : ∀ n, n ∈ l → n ∉ P.stk ∧ ∃ s, (n, s) ∈ B.orN) :
    EInv B (l.foldl (fun P n => { P with stk := n :: P.stk, useful := ins (stateOf B.orN n) P.useful }) P) [] 0 [] ∧
      l.foldl (fun Pb n => ({ Pb.1 with stk := n :: Pb.1.stk, useful := ins (stateOf B.orN n) Pb.1.useful },
        Pb.2 || fwdFails B.orN n)) (P, b) =
      (l.foldl (fun P n => { P with stk := n :: P.stk, useful := ins (stateOf B.orN n) P.useful }) P, b) := by
  induction l generalizing P with
  | nil => exact ⟨hI, rfl⟩
  | cons n l ih =>
    obtain ⟨hns, s, hs⟩ := hl n List.mem_cons_self
    obtain ⟨hnl, hnd⟩ := List.nodup_cons.mp hnd
    rw [List.foldl_cons, List.foldl_cons]
    simp only [fwd_ok hS hs, Bool.or_false]
    refine ih (hI.push hs hns (fun h => nomatch h) fun q => mem_ins) hnd fun m hm => ⟨fun h => ?_, (hl m (List.mem_cons_of_mem _ hm)).2⟩
    rcases List.mem_cons.mp h with rfl | h
    · exact hnl hm
    · exact (hl m (List.mem_cons_of_mem _ hm)).1 h

/-- **the checked propagation**: on the graph the construction as coded builds, no `erase` misses its element and no
`FindFwd` fails; the marking is the one of `propLoop` -/
theorem propLoopC_eq (hS : Spec T F B) (hB : BOk B) (fuel : Nat) :
    propLoopC B.orN fuel (initMarkC B) = (propLoop B.orN fuel (initMark B)).map (fun P => (P, false)) := by
  have h0 : EInv B ⟨B.G, [], []⟩ [] 0 [] :=
    { ing := fun _ _ h _ => h, subE := fun _ _ h => h, egrND := hB.g.egrND, stkND := List.nodup_nil
      stkNP := fun _ h => (nomatch h), stkOr := fun _ h => (nomatch h)
      usef := fun _ h => h.elim (fun h => nomatch h) (fun h => nomatch h)
      lND := List.nodup_nil, lIng := fun _ h => (nomatch h) }
  obtain ⟨h1, h2⟩ := initMarkFold_einv hS B.term false h0 hB.termND fun n hn =>
    ⟨fun h => (nomatch h), (hS.termOk n hn).imp fun _ h => h.1⟩
  unfold initMarkC initMark
  rw [h2]
  exact propLoop_einv hS hB false h1

/-- **`usefulCodedC`**: the flag is down on every run (`F` duplicate-free: `GetFinalStates()` is a set), and the useful states
are those of `usefulCoded` -/
theorem usefulCodedC_eq (T : TableTD) {F : List Nat} (hF : F.Nodup) (fuel : Nat) :
    usefulCodedC T F fuel = (usefulCoded T F fuel).map (fun U => (U, false)) := by
  unfold usefulCodedC usefulCoded
  cases hb : buildLoop T fuel (initBuild F) with
  | none => rfl
  | some B =>
    simp only
    rw [propLoopC_eq (buildLoop_spec hF hb) (bok_buildLoop T (bok_initBuild F) hb) fuel]
    cases propLoop B.orN fuel (initMark B) <;> rfl

end Vata.C20M
