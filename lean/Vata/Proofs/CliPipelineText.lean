import Vata.Proofs.CliPipelineLang
/-!
# The PRINTED TEXT of `vata union` / `vata isect` denotes the union / the intersection

The serializer's text is read back by the parser only if the names are good (`goodName`: non-empty, no white space, none of
`( ) , :`, no `->`).  This file shows that the names the two helpers build from good operand names are good –
`name_1`, `name_2`, `[l_1|r_2]` followed by primes – so the dump of the result is `WellFormed`, and composes that with
`dump_reload_text_lang`.
-/
namespace Vata.CliPipe
open Vata.Glue Vata.LoadDump Vata.Dict Vata.Timbuk

def GoodCh (c : Char) : Prop := isSpace c = false ∧ c ≠ '(' ∧ c ≠ ')' ∧ c ≠ ',' ∧ c ≠ ':'

/-- `goodName`, as a proposition -/
def GoodS (s : List Char) : Prop := s ≠ [] ∧ (∀ c, c ∈ s → GoodCh c) ∧ NoArrowIn s

theorem noArrow_append {a b : List Char} (ha : NoArrowIn a) (hb : NoArrowIn b)
    (hj : (∀ p, a ≠ p ++ ['-']) ∨ (∀ q, b ≠ '>' :: q)) : NoArrowIn (a ++ b) := by
  rintro ⟨p, q, e⟩
  rcases List.append_eq_append_iff.mp e with ⟨a', rfl, hb'⟩ | ⟨c', rfl, hc⟩
  · exact hb ⟨a', q, hb'⟩
  · match c', hc with
    | [], hc => exact hb ⟨[], q, by simpa using hc.symm⟩
    | [x], hc =>
      simp only [List.cons_append, List.nil_append, List.cons.injEq] at hc
      rcases hj with hj | hj
      · exact hj p (by rw [hc.1])
      · exact hj q hc.2.symm
    | x :: y :: c'', hc =>
      simp only [List.cons_append, List.cons.injEq] at hc
      obtain ⟨rfl, rfl, _⟩ := hc
      exact ha ⟨p, c'', rfl⟩

theorem good_append {a b : List Char} (ha : GoodS a) (hbc : ∀ c, c ∈ b → GoodCh c) (hb : NoArrowIn b)
    (hj : (∀ p, a ≠ p ++ ['-']) ∨ (∀ q, b ≠ '>' :: q)) : GoodS (a ++ b) := by
  refine ⟨by simp [ha.1], ?_, noArrow_append ha.2.2 hb hj⟩
  intro c hc
  rcases List.mem_append.mp hc with h | h
  · exact ha.2.1 c h
  · exact hbc c h

theorem noArrow_cons {c : Char} {a : List Char} (hc : c ≠ '-') (ha : NoArrowIn a) : NoArrowIn (c :: a) := by
  rintro ⟨p, q, e⟩
  match p, e with
  | [], e => simp only [List.nil_append, List.cons.injEq] at e; exact hc e.1
  | x :: p', e =>
    simp only [List.cons_append, List.cons.injEq] at e
    exact ha ⟨p', q, e.2⟩

theorem good_cons {c : Char} {a : List Char} (hg : GoodCh c) (hc : c ≠ '-') (ha : GoodS a) : GoodS (c :: a) := by
  refine ⟨by simp, ?_, noArrow_cons hc ha.2.2⟩
  intro x hx
  rcases List.mem_cons.mp hx with rfl | h
  · exact hg
  · exact ha.2.1 x h

/-- appending a literal that is itself a good name (a closed string: by evaluation) and does not begin with `>` -/
theorem good_append_lit {a b : List Char} (ha : GoodS a) (hb : goodName b = true) (hj : ∀ q, b ≠ '>' :: q) :
    GoodS (a ++ b) :=
  good_append ha ((goodName_iff b).mp hb).2.1 ((goodName_iff b).mp hb).2.2 (Or.inr hj)

theorem good_name1 {n : Name} (h : GoodS n) : GoodS (name1 n) :=
  good_append_lit h (by decide) (fun q e => by simp at e)

theorem good_name2 {n : Name} (h : GoodS n) : GoodS (name2 n) :=
  good_append_lit h (by decide) (fun q e => by simp at e)

theorem prodName_eq (l r : Name) : prodName l r = ((('[' :: l) ++ ['_', '1', '|']) ++ r) ++ ['_', '2', ']'] := by
  simp [prodName]

theorem good_prodName {l r : Name} (hl : GoodS l) (hr : GoodS r) : GoodS (prodName l r) := by
  rw [prodName_eq]
  have g1 : GoodS ('[' :: l) := good_cons ⟨by decide, by decide, by decide, by decide, by decide⟩ (by decide) hl
  have g2 : GoodS (('[' :: l) ++ ['_', '1', '|']) := good_append_lit g1 (by decide) (fun q e => by simp at e)
  have g3 : GoodS ((('[' :: l) ++ ['_', '1', '|']) ++ r) := by
    refine good_append g2 hr.2.1 hr.2.2 (Or.inl ?_)
    intro p e
    have e' : (('[' :: l) ++ ['_', '1']) ++ ['|'] = p ++ ['-'] := by simpa using e
    have := List.append_inj_right' e' rfl
    simp at this
  exact good_append_lit g3 (by decide) (fun q e => by simp at e)

theorem good_primes {s : Name} (h : GoodS s) : ∀ (k : Nat), GoodS (s ++ List.replicate k '\'')
  | 0 => by simpa using h
  | k + 1 => by
    rw [List.replicate_succ', ← List.append_assoc]
    exact good_append_lit (good_primes h k) (by decide) (fun q e => by simp at e)

theorem dump_wellFormed {P : TA} {sd : Vata.StateDict} {yd : SymDict}
    (hs : ∀ q, q ∈ P.states → goodName (nameOf sd q).toList = true)
    (hy : ∀ r, r ∈ P.rules → goodName (symNameOf yd r.sym).toList = true) :
    (dumpOf (P.final.map (nameOf sd)) (P.rules.map (namedRule sd yd))).WellFormed := by
  apply dumpOf_wellFormed_of
  · intro q hq
    obtain ⟨x, hx, rfl⟩ := List.mem_map.mp hq
    exact hs x (final_mem_states hx)
  · intro t ht
    obtain ⟨r, hr, rfl⟩ := List.mem_map.mp ht
    refine ⟨?_, hy r hr, hs _ (parent_mem_states hr)⟩
    intro k hk
    obtain ⟨x, hx, rfl⟩ := List.mem_map.mp hk
    exact hs x (kid_mem_states hr hx)

/-- the symbol names of a loaded automaton are the symbol names of the transitions -/
theorem loadFrom_symNames (s : LSt) (hs : s.Ok) (d : AutDesc) :
    ∀ r, r ∈ (loadFrom s d).1.rules → ∃ t, t ∈ d.trans ∧ symNameOf (loadFrom s d).2.yd r.sym = t.2.1 := by
  obtain ⟨h, _, rr, hc⟩ := loadFrom_spec s d
  intro r hr
  rw [rr] at hr
  obtain ⟨t, ht, rfl⟩ := List.mem_map.mp hr
  exact ⟨t, ht, symNameOf_get (h.ok hs).yd (hc t ht).sym⟩

theorem symNameOf_sub {yd₁ yd₂ : SymDict} (h₁ : yd₁.Ok) (h₂ : yd₂.Ok) (s : Sub yd₁ yd₂) {f : Nat} {k : String × Nat}
    (h : yd₁.bwd? f = some k) : symNameOf yd₂ f = symNameOf yd₁ f := by
  unfold symNameOf; rw [h, h₂.bwd_sub h₁ s h]

theorem good_stateName {d : AutDesc} (hwf : d.WellFormed) {q : String} (hq : q ∈ stateNames d) :
    goodName q.toList = true := by
  obtain ⟨_, _, _, h4, h5⟩ := (AutDesc.wellFormed_iff d).mp hwf
  rcases mem_stateNames.mp hq with h | ⟨t, ht, h | h⟩
  · exact h4 q h
  · exact (h5 t ht).1 q h
  · rw [h]; exact (h5 t ht).2.2

theorem good_symName {d : AutDesc} (hwf : d.WellFormed) {t : List String × String × String} (ht : t ∈ d.trans) :
    goodName t.2.1.toList = true := ((AutDesc.wellFormed_iff d).mp hwf).2.2.2.2 t ht |>.2.1

/-- the symbols of the rules of the two loaded automata have good names in the final alphabet -/
theorem loaded_symNames (d₁ d₂ : AutDesc) (yd : SymDict) (hyd : yd.Ok) (w₁ : d₁.WellFormed) (w₂ : d₂.WellFormed) :
    (∀ r, r ∈ (L1 d₁ yd).1.rules → goodName (symNameOf (L2 d₁ d₂ yd).2.yd r.sym).toList = true) ∧
    (∀ r, r ∈ (L2 d₁ d₂ yd).1.rules → goodName (symNameOf (L2 d₁ d₂ yd).2.yd r.sym).toList = true) := by
  have l := loaded d₁ d₂ yd hyd
  constructor
  · intro r hr
    obtain ⟨t, ht, e⟩ := loadFrom_symNames ⟨[], 0, yd⟩ (init_ok hyd) d₁ r hr
    obtain ⟨nm, hnm⟩ := l.dA.ranked r hr
    rw [symNameOf_sub l.yd₁ l.yd₂ l.sub hnm]
    show goodName (symNameOf (loadFrom ⟨[], 0, yd⟩ d₁).2.yd r.sym).toList = true
    rw [e]; exact good_symName w₁ ht
  · intro r hr
    obtain ⟨t, ht, e⟩ := loadFrom_symNames ⟨[], 0, (L1 d₁ yd).2.yd⟩ (init_ok l.yd₁) d₂ r hr
    show goodName (symNameOf (loadFrom ⟨[], 0, (L1 d₁ yd).2.yd⟩ d₂).2.yd r.sym).toList = true
    rw [e]; exact good_symName w₂ ht

theorem printed_dumpTA (A : TA) (sd : Vata.StateDict) (yd : SymDict) : printed (dumpTA A sd yd) = dumpString A sd yd := by
  unfold printed dumpString
  cases dumpTA A sd yd <;> rfl

/-- **`vata union`**: for well-formed operand descriptions the program prints a text; that text, loaded again (fresh state
dictionary, the alphabet as the run left it), is an automaton that accepts exactly `L(A) ∪ L(B)` -/
theorem cliUnionFrom_lang (d₁ d₂ : AutDesc) (yd : SymDict) (hyd : yd.Ok) (w₁ : d₁.WellFormed) (w₂ : d₂.WellFormed) :
    ∃ A sd₁ yd₁ B sd₂ yd₂ txt, loadTA d₁ [] yd = .ok (A, sd₁, yd₁) ∧ loadTA d₂ [] yd₁ = .ok (B, sd₂, yd₂) ∧
      printed (cliUnionDesc d₁ d₂ yd) = .ok txt ∧
      ∃ A' sd' yd', loadString txt [] yd₂ = .ok (A', sd', yd') ∧ ∀ t, accepts A' t = (accepts A t || accepts B t) := by
  have l := loaded d₁ d₂ yd hyd
  obtain ⟨hD, hN⟩ := unionU_dumpable d₁ d₂ yd hyd
  obtain ⟨sA, sB⟩ := loaded_symNames d₁ d₂ yd hyd w₁ w₂
  have hwf : (dumpOf ((unionU d₁ d₂ yd).1.final.map (nameOf (unionSd d₁ d₂ yd)))
      ((unionU d₁ d₂ yd).1.rules.map (namedRule (unionSd d₁ d₂ yd) (L2 d₁ d₂ yd).2.yd))).WellFormed := by
    apply dump_wellFormed
    · intro q hq
      rcases hN q hq with ⟨k, hk, e⟩ | ⟨k, hk, e⟩
      · rw [e, String.toList_ofList, goodName_iff]
        exact good_name1 ((goodName_iff _).mp (good_stateName w₁ ((l.keys₁ k).mp hk)))
      · rw [e, String.toList_ofList, goodName_iff]
        exact good_name2 ((goodName_iff _).mp (good_stateName w₂ ((l.keys₂ k).mp hk)))
    · intro r hr
      have hU : (unionU d₁ d₂ yd).1 = unionWith (applyMap (unionU d₁ d₂ yd).2.1) (applyMap (unionU d₁ d₂ yd).2.2)
          (L1 d₁ yd).1 (L2 d₁ d₂ yd).1 := rfl
      rw [hU] at hr
      simp only [unionWith, reindex, List.mem_append, List.mem_map] at hr
      rcases hr with ⟨r0, hr0, rfl⟩ | ⟨r0, hr0, rfl⟩
      · exact sA r0 hr0
      · exact sB r0 hr0
  obtain ⟨txt, A', sd', yd', h1, h2, h3⟩ := dump_reload_text_lang _ _ _ l.yd₂ hD hwf
  refine ⟨_, _, _, _, _, _, txt, rfl, rfl, by rw [cliUnionDesc_eq, printed_dumpTA]; exact h1, A', sd', yd', h2, ?_⟩
  intro t
  rw [h3 t]
  exact unionModel_lang_empty _ _ t

/-- **`vata isect`**: for well-formed operand descriptions the program prints a text; that text, loaded again, is an automaton
that accepts exactly `L(A) ∩ L(B)` -/
theorem cliIsectFrom_lang (d₁ d₂ : AutDesc) (yd : SymDict) (hyd : yd.Ok) (w₁ : d₁.WellFormed) (w₂ : d₂.WellFormed) :
    ∃ A sd₁ yd₁ B sd₂ yd₂ txt, loadTA d₁ [] yd = .ok (A, sd₁, yd₁) ∧ loadTA d₂ [] yd₁ = .ok (B, sd₂, yd₂) ∧
      printed (cliIsectDesc d₁ d₂ yd) = .ok txt ∧
      ∃ A' sd' yd', loadString txt [] yd₂ = .ok (A', sd', yd') ∧ ∀ t, accepts A' t = (accepts A t && accepts B t) := by
  have l := loaded d₁ d₂ yd hyd
  obtain ⟨P, pm, dict, hP, _, he, hD, hN, hl⟩ := cliIsect_parts d₁ d₂ yd hyd
  obtain ⟨sA, _⟩ := loaded_symNames d₁ d₂ yd hyd w₁ w₂
  have hwf : (dumpOf (P.final.map (nameOf (ofGlue dict)))
      (P.rules.map (namedRule (ofGlue dict) (L2 d₁ d₂ yd).2.yd))).WellFormed := by
    apply dump_wellFormed
    · intro q hq
      obtain ⟨k₁, hk₁, k₂, hk₂, i, e⟩ := hN q hq
      rw [e, String.toList_ofList, goodName_iff]
      exact good_primes (good_prodName ((goodName_iff _).mp (good_stateName w₁ ((l.keys₁ k₁).mp hk₁)))
        ((goodName_iff _).mp (good_stateName w₂ ((l.keys₂ k₂).mp hk₂)))) i
    · intro ρ hρ
      obtain ⟨_, _, _, hr, _⟩ := Isx.isectTD_spec (fuel := isectFuel _ _) hP
      have := (hr ρ).mp hρ
      simp only [prodOn] at this
      obtain ⟨r, hr1, r', _, _, _, _, rfl⟩ := mem_prodRules.mp this
      exact sA r hr1
  obtain ⟨txt, A', sd', yd', h1, h2, h3⟩ := dump_reload_text_lang _ _ _ l.yd₂ hD hwf
  refine ⟨_, _, _, _, _, _, txt, rfl, rfl, by rw [he, printed_dumpTA]; exact h1, A', sd', yd', h2, ?_⟩
  intro t
  rw [h3 t, hl t]
  rfl

end Vata.CliPipe
