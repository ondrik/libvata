import Vata.Proofs.InclDownTablesClass2Inv
/-!
# The run on the tables IS the abstract run on the dumps – without symbol-determinism (identity preorder; property C07)

`full_expand`: for `TabOK` tables and the dumps in path order, on every state that satisfies the invariant `GI`
(`Vata/Proofs/InclDownTablesClass2Inv.lean`; the initial state does), `expandT` on the tables and `InclDown.expand` on the dumps
return the SAME result: verdict, `childrenCache`, `nonincluded` (with the witness trees), `trues`.

The proof is an induction on the fuel, with one call analysed in `good_expandStep` / `nofail_expandStep`, of the conjunction of
* `CallGood`: agreement of the two calls on good states, the invariant is kept, and a finished call is idempotent on every later
  state of the same functor (same kind of verdict, state untouched);
* `RCall`: relative completeness (a call for a pair subsumed by `trues ++ ws` does not fail).
The two bodies agree (`bodyT_eq_good`) because the code runs the functor over the first occurrences of the pairs of leaves among the
ranked symbols, the model over all ranked symbols, and a repeated call of the functor with the same pair of leaves is without effect
(`forAllL_firsts_good`).  Where the two calls agree, the invariant after the call is that of the abstract model (`expand_spec`).
-/
namespace Vata
namespace InclDownTables
open BddAbsTD InclDown
open InclUp (normS prodWit Wit)

theorem good_model {Φ : Frame} {α : Type} {R : α → α → Prop} {F F' : Step α} (h : Good Φ R F F' F) : Good Φ R F' F' F' := by
  intro cc st hG
  obtain ⟨e, p⟩ := h cc st hG
  refine ⟨rfl, ?_⟩
  intro v cc' st' hr
  rw [← e] at hr
  obtain ⟨g, l, q⟩ := p v cc' st' hr
  refine ⟨g, l, ?_⟩
  intro c2 s2 hle hG2
  obtain ⟨v', hk, he⟩ := q c2 s2 hle hG2
  exact ⟨v', hk, by rw [← (h c2 s2 hG2).1]; exact he⟩

theorem callGood_model {Φ : Frame} {cT cM : Call} (h : CallGood Φ cT cM cT) : CallGood Φ cM cM cM :=
  fun x X hX => good_model (h x X hX)

theorem good_body {Φ : Frame} {call : Call} (hc : CallGood Φ call call call) (A B : Vata.TA) (wit : Wit)
    (post : List Nat → List Nat) (p : Nat) (P : List Nat) : Good1 Φ sameKind (body call call A B wit post p P) :=
  good_forAllL _ (fun _ hg => good_procGroup hc wit post p P hg)

/-- **the two bodies agree on the good states**: the traversal as coded (one call per pair of leaves) is the loop of the model
(one call per ranked symbol) without the repeated pairs of leaves -/
theorem bodyT_eq_good {n : Nat} {ar : Nat → Nat} {syms : List Nat} {TA TB : TableTD} (FA FB : List Nat)
    (h : Tabs n ar syms TA TB) (wit : Wit) (post : List Nat → List Nat) {Φ : Frame} {cT cM : Call}
    (hc : CallGood Φ cT cM cT) (p : Nat) (P : List Nat) (cc : List Pair) (st : St) (hG : Φ.G cc st) :
    bodyT cT cT TA TB wit post p P cc st =
      body cM cM (pathOrder syms TA FA) (pathOrder syms TB FB) wit post p P cc st := by
  have hM : ∀ i j : It, i.2 = j.2 →
      Good Φ sameKind (fItem cM cM wit post i) (fItem cM cM wit post i) (fItem cM cM wit post j) := fun i j he => by
    unfold fItem
    rw [← he]
    exact good_procLeaf (callGood_model hc) wit post i.1 j.1 i.2.1 i.2.2
  rw [bodyT_firsts h.okA h.okB, body_items FA FB h,
    (good_forAllL _ (fun i _ => good_procLeaf hc wit post i.1 i.1 i.2.1 i.2.2) cc st hG).1]
  exact (forAllL_firsts_good hM _ [] cc st hG (fun _ hm => nomatch hm)).symm

section step
variable {A B : Vata.TA} {ws : List Pair} {x : Nat} {X : List Nat}

/-- the invariant after `workset_.insert(key)`, with the fresh `childrenCache` of `innerFctor` -/
theorem gi_push {cc : List Pair} {st : St} (hG : GI A B ws cc st) (hX : X ≠ [])
    (h2 : niFind idOrd st.nonIncl x X = none) : GI A B ((x, X) :: ws) [] st := by
  obtain ⟨hI, hJ, hNE⟩ := hG
  refine ⟨inv_push (x, X) hI, ?_, ?_⟩
  · intro y Y hs himp
    obtain ⟨S0, hm, hsub⟩ := hs
    rcases mem_append_cons.mp hm with h | h
    · cases h
      obtain ⟨e, he, e1, e2⟩ := himp
      exact niFind_none_iff.mp h2 ⟨e, he, e1, fun s hs => e2 s (hsub s hs)⟩
    · exact hJ y Y ⟨S0, h, hsub⟩ himp
  · intro t ht
    rcases mem_append_cons.mp ht with h | h
    · rw [h]; exact hX
    · exact hNE t h

def BodyNoFail (A B : Vata.TA) (ws : List Pair) (x : Nat) (X : List Nat) (bd : List Pair → St → Ret) : Prop :=
  ∀ cc st, GI A B ws cc st → GI A B ((x, X) :: ws) [] st → covers idOrd ws x X = false →
    Sub (st.trues ++ ws) x X → NoFail bd [] st

theorem body_nofail_sub {wit : Wit} {call : Call}
    (hc : CallGood (frameI A B ((x, X) :: ws)) call call call) (hrc : RCall A B ((x, X) :: ws) call) :
    BodyNoFail A B ws x X (body call call A B wit normS x X) := by
  intro cc st hG hG1 h1 hs
  obtain ⟨S0, hm, hsub⟩ := hs
  rcases List.mem_append.mp hm with h | h
  · have hcl := hG.1.closed (x, S0) h
    exact body_nofail hc hrc wit x S0 X hsub [] st hG1
      (closedAt_mono (fun _ hz => mem_append_cons.mpr (Or.inr hz)) hcl)
  · have : covers idOrd ws x X = true := covers_id.mpr ⟨S0, h, hsub⟩
    rw [h1] at this; cases this

variable {bd : List Pair → St → Ret}

theorem expandStep_quiet_holds {c2 : List Pair} {s2 : St} (hG2 : GI A B ws c2 s2) (h1 : covers idOrd ws x X = false)
    (hs : Sub c2 x X) : ∃ v', sameKind .holds v' ∧ expandStep idOrd bd ws c2 s2 x X = some (v', c2, s2) :=
  have hcov : covers idOrd c2 x X = true := covers_id.mpr hs
  ⟨.holds, trivial, expandStep_of_case (.inCache h1
    (niFind_none_iff.mpr (hG2.2.1 x X (subR_id_iff.mp (covers_ccOK hcov hG2.1.cc_sub)))) hcov)⟩

theorem expandStep_quiet_fails {c2 : List Pair} {s2 : St} (w : Tree) (h1 : covers idOrd ws x X = false)
    (himp : Impl s2.nonIncl x X) : ∃ v', sameKind (.fails w) v' ∧ expandStep idOrd bd ws c2 s2 x X = some (v', c2, s2) := by
  cases h2 : niFind idOrd s2.nonIncl x X with
  | none => exact absurd himp (niFind_none_iff.mp h2)
  | some e => exact ⟨.fails e.2.2, trivial, expandStep_of_case (.nonIncl e h1 h2)⟩

/-- **one call on the good states**: with bodies that agree under the pending call and a good body of the model, the call on the
tables and the call of the model agree, keep the invariant and are idempotent on every later state (`hsp`: the call of the
model keeps `Inv`; `hnf`: the body of the model does not fail on a subsumed pair) -/
theorem good_expandStep {bdT bdM : List Pair → St → Ret} (hX : X ≠ [])
    (hbd : ∀ st, GI A B ((x, X) :: ws) [] st → bdT [] st = bdM [] st)
    (gb : Good1 (frameI A B ((x, X) :: ws)) sameKind bdM)
    (hsp : Spec idOrd A B ws (fun cc st => expandStep idOrd bdM ws cc st x X) (fun T => SubO idOrd (T ++ ws) x X)
      (Refutes A B x X))
    (hnf : BodyNoFail A B ws x X bdM) :
    Good (frameI A B ws) sameKind (fun cc st => expandStep idOrd bdT ws cc st x X)
      (fun cc st => expandStep idOrd bdM ws cc st x X) (fun cc st => expandStep idOrd bdT ws cc st x X) := by
  intro cc st hG
  have eq : expandStep idOrd bdT ws cc st x X = expandStep idOrd bdM ws cc st x X :=
    expandStep_congr (fun _ h2 => hbd st (gi_push hG hX h2))
  refine ⟨eq, fun v cc' st' h => ?_⟩
  replace h := eq.symm.trans h
  have hI' := (hsp cc st _ _ _ h hG.1).1
  cases expandStep_case h with
  | inWorkset h1 =>
    exact ⟨hG, (frameI A B ws).refl _ _, fun c2 s2 _ _ => ⟨.holds, trivial, expandStep_of_case (.inWorkset h1)⟩⟩
  | nonIncl e0 h1 h2 =>
    exact ⟨hG, (frameI A B ws).refl _ _, fun c2 s2 hle _ =>
      expandStep_quiet_fails _ h1 (hle.2.1 x X (niFind_isSome_iff.mp (by rw [h2]; rfl)))⟩
  | inCache h1 _ h3 =>
    exact ⟨hG, (frameI A B ws).refl _ _, fun c2 s2 hle hG2 =>
      expandStep_quiet_holds hG2 h1 (hle.1 x X (covers_id.mp h3))⟩
  | byPreorder _ _ _ h4 => rw [byPre_id] at h4; cases h4
  | body h1 h2 _ _ he =>
    have hG1 : GI A B ((x, X) :: ws) [] st := gi_push hG hX h2
    rcases hr : bdM [] st with _ | ⟨vb, cc1, st1⟩ <;> rw [hr] at he
    · cases he
    · obtain ⟨g1, l1, _⟩ := (gb [] st hG1).2 _ _ _ hr
      cases vb with
      | holds =>
        cases he
        have hconv : ∀ t, t ∈ addTrue st1.trues (x, X) ++ ws → t ∈ st1.trues ++ (x, X) :: ws :=
          fun _ => mem_addTrue_append.mp
        exact ⟨⟨hI', fun y Y hs => g1.2.1 y Y (sub_mono hconv (fun _ h => h) hs), fun t ht => g1.2.2 t (hconv t ht)⟩,
          ⟨fun y Y h => sub_ccAdd_mono h, l1.2.1, fun t ht => mem_addTrue.mpr (Or.inl (l1.2.2 t ht))⟩,
          fun c2 s2 hle hG2 => expandStep_quiet_holds hG2 h1 (hle.1 x X (sub_ccAdd_self cc x X))⟩
      | fails w =>
        cases he
        have hconv : ∀ t, t ∈ st.trues ++ ws → t ∈ st1.trues ++ (x, X) :: ws :=
          fun t ht => mem_append_cons.mpr (Or.inr (app_mono l1.2.2 t ht))
        refine ⟨⟨hI', fun y Y hs himp => ?_, hG.2.2⟩,
          ⟨fun y Y h => h, fun y Y h => impl_niAdd_mono (l1.2.1 y Y h), fun t ht => ht⟩,
          fun c2 s2 hle _ => expandStep_quiet_fails _ h1 (hle.2.1 x X (impl_niAdd_self _ x X w))⟩
        obtain ⟨e, he, e1, e2⟩ := himp
        rcases mem_niAdd he with h | h
        · exact g1.2.1 y Y (sub_mono hconv (fun _ h => h) hs) ⟨e, h, e1, e2⟩
        · -- the new entry: the pair was subsumed, so the body could not fail
          subst h
          cases e1
          exact hnf cc st hG hG1 h1 (sub_mono (fun _ h => h) e2 hs) w cc1 st1 hr

theorem nofail_expandStep {bdM : List Pair → St → Ret} (hX : X ≠ [])
    (hnf : BodyNoFail A B ws x X bdM)
    {cc : List Pair} {st : St} (hG : GI A B ws cc st) (hs : Sub (st.trues ++ ws) x X) :
    NoFail (fun cc st => expandStep idOrd bdM ws cc st x X) cc st := by
  intro w c' s' h
  cases expandStep_case h with
  | nonIncl e _ h2 => exact hG.2.1 x X hs (niFind_isSome_iff.mp (by rw [h2]; rfl))
  | body h1 h2 _ _ he =>
    rcases hr : bdM [] st with _ | ⟨_ | w1, cc1, st1⟩ <;> rw [hr] at he
    · cases he
    · cases he
    · exact hnf cc st hG (gi_push hG hX h2) h1 hs w1 cc1 st1 hr

end step

theorem full_expand {TA TB : TableTD} {A B : Vata.TA} {wit : Wit}
    (hbody : ∀ (ws : List Pair) (cT cM : Call), CallGood (frameI A B ws) cT cM cT → ∀ p P cc st, GI A B ws cc st →
      bodyT cT cT TA TB wit normS p P cc st = body cM cM A B wit normS p P cc st)
    (hW : WitOK A wit) :
    ∀ (fuel : Nat) (ws : List Pair),
      CallGood (frameI A B ws) (expandT idOrd TA TB wit fuel ws) (expand idOrd A B wit fuel ws)
        (expandT idOrd TA TB wit fuel ws) ∧
      RCall A B ws (expand idOrd A B wit fuel ws) := by
  intro fuel
  induction fuel with
  | zero => exact fun ws => ⟨fun _ _ _ _ _ _ => ⟨rfl, fun _ _ _ h => nomatch h⟩, fun _ _ _ _ _ _ _ _ _ _ h => nomatch h⟩
  | succ fuel ih =>
    intro ws
    have hnf : ∀ x X, BodyNoFail A B ws x X (body (expand idOrd A B wit fuel ((x, X) :: ws))
        (expand idOrd A B wit fuel ((x, X) :: ws)) A B wit normS x X) :=
      fun x X => body_nofail_sub (callGood_model (ih ((x, X) :: ws)).1) (ih ((x, X) :: ws)).2
    refine ⟨fun x X hX => ?_, fun x X cc st hX hG hs => ?_⟩
    · simp only [expandT_succ, expand_succ]
      exact good_expandStep hX (fun st hG1 => hbody _ _ _ (ih ((x, X) :: ws)).1 x X [] st hG1)
        (good_body (callGood_model (ih ((x, X) :: ws)).1) A B wit normS x X) (by simpa only [expand_succ] using expand_spec (idOrd_langOrd A B) ordRefl_id hW (fuel+1) ws x X) (hnf x X)
    · simp only [expand_succ]
      exact nofail_expandStep hX (hnf x X) hG hs

end InclDownTables
end Vata
