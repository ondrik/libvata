import Vata.BddIsect
import Vata.Proofs.BddAbsTD
import Vata.Proofs.IsectModel
import Vata.Proofs.IsectBUInv
/-!
C08, C20: the symbolic intersections accept exactly the intersection, and the product states are numbered densely.

Models: `Vata/BddIsect.lean` (`bddIsectTDFrom c0` / `bddIsectBUFrom c0`: the work-lists of
`bdd_td_tree_aut_isect.cc` / `bdd_bu_tree_aut_isect.cc` with the counter `stateCnt` starting at `c0`; `bddIsectTD`,
`bddIsectBU` are the instances `c0 = 0`).  The output of each loop is checked by a Boolean certificate (`tdCertB`,
`buCertB`); a certified table abstracts to the product automaton of `Vata/Isect.lean` / `Vata/IsectBU.lean` on the
discovered pairs, whence the language.  Top-down this needs `ArityOK` on both operands (without it the C++ fails its
`assert(lhsTuple.size() == rhsTuple.size())`), bottom-up nothing.  The numbering `c0, c0 + 1, …` in discovery order is an
invariant of the loops (`Pres`, `NumFrom`), not a consequence of the certificate check.  The node cases of
`classifyCase2` are treated once, through `M.Step2` (`apply2S_step` is the equation of the apply with a side effect).  What the apply with the side-effecting leaf operation returns is in
`Vata/Proofs/BddIsectApply.lean`; that the certificate checks never fail on what the loops compute and that the fuels
`tdFuel` / `buFuel` suffice is proved in `Vata/Proofs/BddIsectTotal.lean` and `Vata/Proofs/BddIsectBUTotal.lean`.
-/
namespace Vata
namespace BddIsect
open M BddAbs BddAbsTD

/-- the apply with a side effect in a step of `classifyCase2`: the low operands first, then the high ones -/
theorem apply2S_step {σ α β γ : Type} [DecidableEq γ] {a a₀ a₁ : Node α} {b b₀ b₁ : Node β} {x : Nat}
    (h : Step2 a b x a₀ b₀ a₁ b₁) (f : σ → α → β → σ × γ) (s : σ) :
    apply2S f s a b =
      ((apply2S f (apply2S f s a₀ b₀).1 a₁ b₁).1, mk x (apply2S f s a₀ b₀).2 (apply2S f (apply2S f s a₀ b₀).1 a₁ b₁).2) := by
  cases h with
  | both => rw [apply2S, if_pos rfl]
  | @left _ _ _ b h =>
    cases b with
    | leaf w => rw [apply2S]
    | node y _ _ => have h : y < x := h; rw [apply2S, if_neg (Nat.ne_of_gt h), if_pos h]
  | @right a _ _ _ h =>
    cases a with
    | leaf v => rw [apply2S]
    | node y _ _ => have h : y < x := h; rw [apply2S, if_neg (Nat.ne_of_lt h), if_neg (Nat.lt_asymm h)]

/-- `voidApply2` lists (at least) the pairs of values that the two diagrams take under a common valuation (no
well-formedness needed for this direction) -/
theorem voidApply2_complete {α β : Type} (ρ : Nat → Bool) (a : Node α) (b : Node β) :
    (eval a ρ, eval b ρ) ∈ voidApply2 a b := by
  induction a, b using Step2.induct with
  | leaf v w => rw [voidApply2]; exact List.mem_cons_self
  | node d ih1 ih2 =>
    rw [d.voidApply2, d.cofA.eval, d.cofB.eval, List.mem_append]
    split
    · exact Or.inr ih2
    · exact Or.inl ih1

/-- a property of the translation map and the counter that is kept when a fresh pair is inserted -/
def Pres (Q : PMap → Nat → Prop) : Prop :=
  ∀ m c pr, Q m c → m.lookup pr = none → Q (m ++ [(pr, c)]) (c + 1)

def St.Sat (Q : PMap → Nat → Prop) (s : St) : Prop := Q s.map s.cnt

theorem St.Sat.erase {Q : PMap → Nat → Prop} {s : St} (h : s.Sat Q) (x : Nat) : (s.erase x).Sat Q := h

theorem apply2S_inv {σ α β γ : Type} [DecidableEq γ] (f : σ → α → β → σ × γ) (P : σ → Prop)
    (hf : ∀ s v w, P s → P (f s v w).1) (s : σ) (a : Node α) (b : Node β) : P s → P (apply2S f s a b).1 := by
  induction a, b using Step2.induct generalizing s with
  | leaf v w => rw [apply2S]; exact hf s v w
  | node d ih1 ih2 => rw [apply2S_step d]; exact fun h => ih2 _ (ih1 s h)

section Pres
variable {Q : PMap → Nat → Prop} (hQ : Pres Q)
include hQ

theorem transl_pres (s : St) (pr : Nat × Nat) (h : s.Sat Q) : (transl s pr).1.Sat Q := by
  unfold transl
  split
  · exact h
  · exact hQ _ _ _ h ‹_›

theorem translL_pres : ∀ (ps : List (Nat × Nat)) (s : St), s.Sat Q → (translL s ps).1.Sat Q
  | [], _, h => h
  | pr :: ps, s, h => translL_pres ps _ (transl_pres hQ s pr h)

theorem translLL_pres : ∀ (ls : List (List (Nat × Nat))) (s : St), s.Sat Q → (translLL s ls).1.Sat Q
  | [], _, h => h
  | l :: ls, s, h => translLL_pres ls _ (translL_pres hQ l s h)

theorem leafBU_pres (a b : Node (List Nat)) (s : St) : s.Sat Q → (apply2S leafBU s a b).1.Sat Q :=
  apply2S_inv leafBU _ (fun s v w => translL_pres hQ (allPairs v w) s) s a b

theorem leafTD_pres (a b : Node (List (List Nat))) (s : St) : s.Sat Q → (apply2S leafTD s a b).1.Sat Q :=
  apply2S_inv leafTD _ (fun s v w => translLL_pres hQ (allZips v w) s) s a b

end Pres

theorem tdLoop_induct {TA TB : TableTD} {P : St → TableTD → Prop}
    (body : ∀ s R x pr rest, s.ws = (x, pr) :: rest → P s R →
      P ((apply2S leafTD s (getTD TA pr.1) (getTD TB pr.2)).1.erase x)
        (setTD R x (apply2S leafTD s (getTD TA pr.1) (getTD TB pr.2)).2)) :
    ∀ (fuel : Nat) (s : St) (R : TableTD) {r : St × TableTD}, tdLoop TA TB fuel s R = some r → P s R →
      P r.1 r.2 ∧ r.1.ws = []
  | 0, s, R, _, h, hP => by
    rw [tdLoop] at h
    split at h
    · cases h; exact ⟨hP, List.isEmpty_iff.mp ‹_›⟩
    · cases h
  | fuel + 1, s, R, _, h, hP => by
    rw [tdLoop] at h
    split at h
    · cases h; exact ⟨hP, ‹_›⟩
    · exact tdLoop_induct body fuel _ _ h (body s R _ _ _ ‹_› hP)

theorem buLoop_induct {TA TB : Table} {FA FB : List Nat} {P : St → Table → List Nat → Prop}
    (body : ∀ s R F x pr rest, s.ws = (x, pr) :: rest → P s R F →
      P ((buProc x pr (tuplePairs TA TB) s R).1.erase x) (buProc x pr (tuplePairs TA TB) s R).2
        (if FA.contains pr.1 && FB.contains pr.2 then F ++ [x] else F)) :
    ∀ (fuel : Nat) (s : St) (R : Table) (F : List Nat) {r : St × Table × List Nat},
      buLoop TA TB FA FB fuel s R F = some r → P s R F → P r.1 r.2.1 r.2.2 ∧ r.1.ws = []
  | 0, s, R, F, _, h, hP => by
    rw [buLoop] at h
    split at h
    · cases h; exact ⟨hP, List.isEmpty_iff.mp ‹_›⟩
    · cases h
  | fuel + 1, s, R, F, _, h, hP => by
    rw [buLoop] at h
    split at h
    · cases h; exact ⟨hP, ‹_›⟩
    · exact buLoop_induct body fuel _ _ _ h (body s R F _ _ _ ‹_› hP)

theorem buPair_pres {Q : PMap → Nat → Prop} (hQ : Pres Q) (x : Nat) (pr : Nat × Nat) (eA eB : List Nat × MT) (s : St)
    (R : Table) (hs : s.Sat Q) : (buPair x pr eA eB s R).1.Sat Q := by
  unfold buPair
  split
  · exact hs
  · split
    · exact hs
    · split
      · exact hs
      · exact leafBU_pres hQ _ _ s hs

theorem buProc_pres {Q : PMap → Nat → Prop} (hQ : Pres Q) (x : Nat) (pr : Nat × Nat) :
    ∀ (L : List ((List Nat × MT) × (List Nat × MT))) (s : St) (R : Table), s.Sat Q → (buProc x pr L s R).1.Sat Q
  | [], _, _, hs => hs
  | ee :: rest, s, R, hs => buProc_pres hQ x pr rest _ _ (buPair_pres hQ x pr ee.1 ee.2 s R hs)

theorem tdLoop_pres {Q : PMap → Nat → Prop} (hQ : Pres Q) {TA TB : TableTD} {fuel : Nat} {s : St} {R : TableTD}
    {r : St × TableTD} (h : tdLoop TA TB fuel s R = some r) (hs : s.Sat Q) : r.1.Sat Q :=
  (tdLoop_induct (P := fun s _ => s.Sat Q) (fun s _ x _ _ _ hs => (leafTD_pres hQ _ _ s hs).erase x) fuel s R h hs).1

theorem buLoop_pres {Q : PMap → Nat → Prop} (hQ : Pres Q) {TA TB : Table} {FA FB : List Nat} {fuel : Nat} {s : St}
    {R : Table} {F : List Nat} {r : St × Table × List Nat} (h : buLoop TA TB FA FB fuel s R F = some r) (hs : s.Sat Q) :
    r.1.Sat Q :=
  (buLoop_induct (P := fun s _ _ => s.Sat Q) (fun s R _ x pr _ _ hs => (buProc_pres hQ x pr _ s R hs).erase x) fuel s R F h hs).1

/-- the translation map hands out the numbers `c0, c0 + 1, …` in the order of its entries, and `c` is the next one (the
invariant of `stateCnt` behind `bddIsect_numbers_dense`) -/
def NumFrom (c0 : Nat) (m : PMap) (c : Nat) : Prop :=
  c = c0 + m.length ∧ ∀ (i : Nat) (e : (Nat × Nat) × Nat), m[i]? = some e → e.2 = c0 + i

theorem numFrom_init (c0 : Nat) : NumFrom c0 [] c0 := ⟨by simp, fun i e h => by simp at h⟩

theorem numFrom_pres (c0 : Nat) : Pres (NumFrom c0) := by
  intro m c pr ⟨hc, h⟩ _
  refine ⟨by rw [List.length_append, hc]; rfl, fun i e he => ?_⟩
  rw [List.getElem?_append, List.getElem?_singleton] at he
  split at he
  · exact h i e he
  · rename_i hi
    split at he
    · cases he
      rw [Nat.le_antisymm (Nat.sub_eq_zero_iff_le.mp ‹_›) (Nat.le_of_not_lt hi)]
      exact hc
    · cases he

theorem NumFrom.dense {c0 : Nat} {m : PMap} {c : Nat} (h : NumFrom c0 m c) :
    m.map Prod.snd = List.range' c0 m.length := by
  apply List.ext_getElem (by simp)
  intro i h1 h2
  rw [List.getElem_map, List.getElem_range']
  have hi : i < m.length := by simpa using h1
  have := h.2 i m[i] (List.getElem?_eq_getElem hi)
  omega

theorem NumFrom.injOn {c0 : Nat} {m : PMap} {c : Nat} (h : NumFrom c0 m c) : InjOn (lookupF m) m.dom := by
  intro x hx y hy he
  obtain ⟨n, hn⟩ := Isx.mem_dom_iff.mp hx
  obtain ⟨n', hn'⟩ := Isx.mem_dom_iff.mp hy
  simp only [lookupF, hn, hn', Option.getD_some] at he
  subst he
  obtain ⟨i, hi⟩ := List.mem_iff_getElem?.mp (mem_of_lookup hn)
  obtain ⟨j, hj⟩ := List.mem_iff_getElem?.mp (mem_of_lookup hn')
  have h1 := h.2 i _ hi
  have h2 := h.2 j _ hj
  simp only at h1 h2
  have : i = j := by omega
  subst this
  rw [hi] at hj
  exact (Prod.mk.inj (Option.some.inj hj)).1

theorem NumFrom.lookup_lt {c0 : Nat} {m : PMap} {c : Nat} (h : NumFrom c0 m c) {p : Nat × Nat} {n : Nat}
    (hn : m.lookup p = some n) : c0 ≤ n ∧ n < c := by
  obtain ⟨i, hi⟩ := List.mem_iff_getElem?.mp (mem_of_lookup hn)
  have h1 : n = c0 + i := h.2 i _ hi
  have := (List.getElem?_eq_some_iff.mp hi).1
  rw [h.1]; omega

theorem ext_pres (m0 : PMap) : Pres (fun m _ => Isx.Ext m0 m) :=
  fun _ _ pr h _ => Isx.Ext.trans h (Isx.ext_snoc pr _)

theorem mem_prodTS {tr : Nat × Nat → Nat} {a b : List (List Nat)} {x : List Nat} :
    x ∈ prodTS tr a b ↔ ∃ ks ks', ks ∈ a ∧ ks' ∈ b ∧ (ks.zip ks').map tr = x := by
  simp only [prodTS, mem_normT, List.mem_flatMap, List.mem_map]
  constructor
  · rintro ⟨ks, h1, ks', h2, h⟩; exact ⟨ks, ks', h1, h2, h⟩
  · rintro ⟨ks, ks', h1, h2, h⟩; exact ⟨ks, h1, ks', h2, h⟩

theorem allPairs_eq (a b : List Nat) : allPairs a b = allPairs2 a b := rfl

theorem mem_allPairs {a b : List Nat} {pr : Nat × Nat} : pr ∈ allPairs a b ↔ pr.1 ∈ a ∧ pr.2 ∈ b :=
  Isx.mem_allPairs2

/-- the arity bits of a valuation under which a state has a tuple hold the length of the tuple (the invariant of the
top-down encoding: `addArityToSymbol`; arities are at most `MAX_SYMBOL_ARITY = 63`) -/
def ArityOK (T : TableTD) : Prop :=
  ∀ (ρ : Nat → Bool) (n p : Nat) (ks : List Nat), n < 64 → HasRuleTD T (withArity ρ n) p ks → ks.length = n

theorem arityOK_ofRulesTD (rs : List Rule) (h : ∀ r, r ∈ rs → r.kids.length < 64) : ArityOK (ofRulesTD rs) := by
  intro ρ n p ks hn hr
  obtain ⟨r, hr, h1, _, _, h4⟩ := (hasRuleTD_ofRulesTD_gen rs _ p ks).mp hr
  have hk : ks.length < 64 := by rw [← h1]; exact h r hr
  exact ((arOK_withArity_lt ρ hn hk).mp h4).symm

theorem arityOK_getTopDownAut {T : Table} (hT : TableOk T) (F : List Nat) (h : ∀ ks, ks ∈ T.keys → ks.length < 64) :
    ArityOK (getTopDownAut T F) := by
  intro ρ n p ks hn hr
  have hk : ks.length < 64 := h ks (hasRule_key ((absTD_invert_gen hT F _ p ks).mp hr).2.2)
  exact (absTD_invert_arity hT F ρ p ks n hn hk hr).symm

/-- what the check `tdCertB` certifies of an output `(m, R, F)` of the top-down loop (`tdCertB_sound`), read for every
valuation: the translated pairs are closed under the children of common rules, `R` is the product table over exactly these
pairs, `F` the pairs of final states; `TdCert.lang` needs of the loop only this and an injective numbering (`NumFrom.injOn`) -/
structure TdCert (TA : TableTD) (FA : List Nat) (TB : TableTD) (FB : List Nat) (m : PMap) (R : TableTD) (F : List Nat) :
    Prop where
  closed : ∀ pr, pr ∈ m.dom → ∀ (ρ : Nat → Bool) (ks ks' : List Nat), ks ∈ eval (getTD TA pr.1) ρ →
    ks' ∈ eval (getTD TB pr.2) ρ → ∀ c, c ∈ ks.zip ks' → c ∈ m.dom
  table : ∀ pr, pr ∈ m.dom →
    getTD R (lookupF m pr) = apply2 (prodTS (lookupF m)) (getTD TA pr.1) (getTD TB pr.2)
  keys : ∀ x, x ∈ keysTD R → ∃ pr, pr ∈ m.dom ∧ lookupF m pr = x
  fin : ∀ pr, pr ∈ finalPairsL FA FB → pr ∈ m.dom
  finEq : F = (finalPairsL FA FB).map (lookupF m)

section TopDown
variable {TA : TableTD} {FA : List Nat} {TB : TableTD} {FB : List Nat} {m : PMap} {R : TableTD} {F : List Nat}

theorem tdCertB_sound (h : tdCertB TA FA TB FB m R F = true) : TdCert TA FA TB FB m R F := by
  simp only [tdCertB, tdClosedB, tdTableB, Bool.and_eq_true, List.all_eq_true, List.contains_iff_mem, beq_iff_eq,
    List.mem_map] at h
  obtain ⟨⟨⟨h1, h2, h3⟩, h4⟩, h5⟩ := h
  exact ⟨fun pr hpr ρ ks ks' hk hk' c hc => h1 pr hpr _ (voidApply2_complete ρ _ _) ks hk ks' hk' c hc,
    h2, h3, h4, h5⟩

theorem arity_eq (hA : ArityOK TA) (hB : ArityOK TB) {f p q n n' : Nat} {ks ks' : List Nat} (hn : n < 64) (hn' : n' < 64)
    (hk : HasRuleTD TA (bitsAr f n) p ks) (hk' : HasRuleTD TB (bitsAr f n') q ks') (hl : ks'.length = ks.length) :
    HasRuleTD TB (bitsAr f n) q ks' := by
  have : n' = n := by rw [← hA _ n p ks hn hk, ← hB _ n' q ks' hn' hk', hl]
  rw [← this]; exact hk'

theorem TdCert.rules (h : TdCert TA FA TB FB m R F) (hA : ArityOK TA) (hB : ArityOK TB) (syms : List Nat) (r : Rule) :
    r ∈ absRulesTD syms R ↔ r ∈ prodRules (absTD syms TA FA) (absTD syms TB FB) m.dom (lookupF m) := by
  rw [mem_absRulesTD, mem_prodRules]
  constructor
  · rintro ⟨hs, n, hn, hr⟩
    obtain ⟨pr, hpr, hx⟩ := h.keys _ (hasRuleTD_key hr)
    unfold HasRuleTD at hr
    rw [← hx, h.table pr hpr, apply2_eval, mem_prodTS] at hr
    obtain ⟨ks, ks', hk, hk', he⟩ := hr
    refine ⟨⟨r.sym, ks, pr.1⟩, mem_absRulesTD.mpr ⟨hs, n, hn, hk⟩, ⟨r.sym, ks', pr.2⟩,
      mem_absRulesTD.mpr ⟨hs, n, hn, hk'⟩, rfl, ?_, hpr, ?_⟩
    · exact (hB _ n _ ks' hn hk').trans (hA _ n _ ks hn hk).symm
    · cases r
      simp only [Rule.mk.injEq, true_and] at he hx ⊢
      exact ⟨he.symm, hx.symm⟩
  · rintro ⟨rA, hrA, rB, hrB, hs, hl, hd, rfl⟩
    obtain ⟨hsA, n, hn, hkA⟩ := mem_absRulesTD.mp hrA
    obtain ⟨_, n', hn', hkB⟩ := mem_absRulesTD.mp hrB
    rw [hs] at hkB
    refine ⟨hsA, n, hn, ?_⟩
    unfold HasRuleTD
    rw [h.table _ hd, apply2_eval, mem_prodTS]
    exact ⟨rA.kids, rB.kids, hkA, arity_eq hA hB hn hn' hkA hkB hl, rfl⟩

theorem TdCert.final (h : TdCert TA FA TB FB m R F) (syms : List Nat) (x : Nat) :
    x ∈ F ↔ x ∈ prodFinal (absTD syms TA FA) (absTD syms TB FB) (lookupF m) := by
  rw [h.finEq, Isx.mem_prodFinal]
  exact Iff.rfl

theorem TdCert.setEq (h : TdCert TA FA TB FB m R F) (hA : ArityOK TA) (hB : ArityOK TB) (syms : List Nat) :
    SetEqTA (absTD syms R F) (prodOn (absTD syms TA FA) (absTD syms TB FB) m.dom (lookupF m)) :=
  ⟨h.rules hA hB syms, h.final syms⟩

theorem TdCert.closedAbs (h : TdCert TA FA TB FB m R F) (hA : ArityOK TA) (hB : ArityOK TB) (syms : List Nat) :
    Closed (absTD syms TA FA) (absTD syms TB FB) m.dom := by
  intro rA hrA rB hrB hs hl hd c hc
  obtain ⟨_, n, hn, hkA⟩ := mem_absRulesTD.mp hrA
  obtain ⟨_, n', hn', hkB⟩ := mem_absRulesTD.mp hrB
  rw [hs] at hkB
  exact h.closed _ hd _ _ _ hkA (arity_eq hA hB hn hn' hkA hkB hl) c hc

theorem TdCert.lang (h : TdCert TA FA TB FB m R F) (hinj : InjOn (lookupF m) m.dom) (hA : ArityOK TA) (hB : ArityOK TB)
    (syms : List Nat) (t : Tree) :
    accepts (absTD syms R F) t = (accepts (absTD syms TA FA) t && accepts (absTD syms TB FB) t) := by
  rw [(h.setEq hA hB syms).lang, Bool.eq_iff_iff, Bool.and_eq_true]
  exact isect_cert _ _ m.dom (lookupF m) (h.closedAbs hA hB syms) hinj
    (fun p hp q hq => h.fin (p, q) (mem_allPairs.mpr ⟨hp, hq⟩)) t

variable {c0 fuel : Nat} (h : bddIsectTDFrom c0 TA FA TB FB fuel = some (R, F, m))
include h

theorem bddIsectTDFrom_spec : TdCert TA FA TB FB m R F ∧ ∃ c, NumFrom c0 m c := by
  unfold bddIsectTDFrom at h
  split at h
  · cases h
  · rename_i s _ hl
    split at h
    · cases h
      exact ⟨tdCertB_sound ‹_›, s.cnt,
        tdLoop_pres (numFrom_pres c0) hl (translL_pres (numFrom_pres c0) _ _ (numFrom_init c0))⟩
    · cases h

theorem bddIsectTDFrom_abs (hA : ArityOK TA) (hB : ArityOK TB) (syms : List Nat) :
    SetEqTA (absTD syms R F) (prodOn (absTD syms TA FA) (absTD syms TB FB) m.dom (lookupF m)) ∧
    Closed (absTD syms TA FA) (absTD syms TB FB) m.dom ∧ InjOn (lookupF m) m.dom ∧
    (∀ p, p ∈ FA → ∀ q, q ∈ FB → (p, q) ∈ m.dom) := by
  obtain ⟨hc, c, hn⟩ := bddIsectTDFrom_spec h
  exact ⟨hc.setEq hA hB syms, hc.closedAbs hA hB syms, hn.injOn,
    fun p hp q hq => hc.fin (p, q) (mem_allPairs.mpr ⟨hp, hq⟩)⟩

theorem bddIsectTDFrom_lang (hA : ArityOK TA) (hB : ArityOK TB) (syms : List Nat) (t : Tree) :
    accepts (absTD syms R F) t = (accepts (absTD syms TA FA) t && accepts (absTD syms TB FB) t) := by
  obtain ⟨hc, c, hn⟩ := bddIsectTDFrom_spec h
  exact hc.lang hn.injOn hA hB syms t

theorem bddIsectTDFrom_numbers : m.map Prod.snd = List.range' c0 m.length ∧ InjOn (lookupF m) m.dom := by
  obtain ⟨_, c, hn⟩ := bddIsectTDFrom_spec h
  exact ⟨hn.dense, hn.injOn⟩

end TopDown

theorem bddIsectTD_lang {TA : TableTD} {FA : List Nat} {TB : TableTD} {FB : List Nat} {fuel : Nat}
    {R : TableTD} {F : List Nat} {m : PMap} (h : bddIsectTD TA FA TB FB fuel = some (R, F, m))
    (hA : ArityOK TA) (hB : ArityOK TB) (syms : List Nat) (t : Tree) :
    accepts (absTD syms R F) t = (accepts (absTD syms TA FA) t && accepts (absTD syms TB FB) t) :=
  bddIsectTDFrom_lang h hA hB syms t

theorem mem_buReady {TA TB : Table} {D : List (Nat × Nat)} {ks ks' : List Nat} :
    (ks, ks') ∈ buReady TA TB D ↔
      ks ∈ TA.keys ∧ ks' ∈ TB.keys ∧ ks'.length = ks.length ∧ ∀ c, c ∈ ks.zip ks' → c ∈ D := by
  simp only [buReady, List.mem_flatMap, List.mem_map, List.mem_filter, Bool.and_eq_true, beq_iff_eq,
    List.all_eq_true, List.contains_iff_mem, Prod.mk.injEq]
  constructor
  · rintro ⟨a, ha, b, ⟨hb, hl, hd⟩, rfl, rfl⟩; exact ⟨ha, hb, hl, hd⟩
  · rintro ⟨ha, hb, hl, hd⟩; exact ⟨ks, ha, ks', ⟨hb, hl, hd⟩, rfl, rfl⟩

/-- the bottom-up counterpart of `TdCert` for `buCertB` (`buCertB_sound`): the translated pairs are closed under the parents
of common rules over tuples of translated pairs (`buReady`), `R` is the product table over exactly these tuples -/
structure BuCert (TA : Table) (FA : List Nat) (TB : Table) (FB : List Nat) (m : PMap) (R : Table) (F : List Nat) :
    Prop where
  closed : ∀ ks ks', (ks, ks') ∈ buReady TA TB m.dom → ∀ (ρ : Nat → Bool) (p q : Nat), p ∈ eval (TA.get ks) ρ →
    q ∈ eval (TB.get ks') ρ → (p, q) ∈ m.dom
  table : ∀ ks ks', (ks, ks') ∈ buReady TA TB m.dom →
    R.get ((ks.zip ks').map (lookupF m)) = apply2 (prodS (lookupF m)) (TA.get ks) (TB.get ks')
  keys : ∀ kk, kk ∈ R.keys → ∃ ks ks', (ks, ks') ∈ buReady TA TB m.dom ∧ (ks.zip ks').map (lookupF m) = kk
  fin : ∀ x, x ∈ F ↔ ∃ pr, pr ∈ m.dom ∧ pr.1 ∈ FA ∧ pr.2 ∈ FB ∧ lookupF m pr = x

section BottomUp
variable {TA : Table} {FA : List Nat} {TB : Table} {FB : List Nat} {m : PMap} {R : Table} {F : List Nat}

theorem buCertB_sound (h : buCertB TA FA TB FB m R F = true) : BuCert TA FA TB FB m R F := by
  simp only [buCertB, buSymClosedB, buTableB, Bool.and_eq_true, List.all_eq_true, List.contains_iff_mem, beq_iff_eq,
    List.mem_map, seteq_iff, List.mem_filter] at h
  obtain ⟨⟨h1, h2, h3⟩, h4⟩ := h
  refine ⟨fun ks ks' hk ρ p q hp hq => h1 (ks, ks') hk _ (voidApply2_complete ρ _ _) p hp q hq,
    fun ks ks' hk => h2 (ks, ks') hk, ?_, fun x => (h4 x).trans ?_⟩
  · intro kk hkk
    rcases List.mem_cons.mp hkk with rfl | hkk
    · exact ⟨[], [], mem_buReady.mpr ⟨nil_mem_keys _, nil_mem_keys _, rfl, fun c hc => by cases hc⟩, rfl⟩
    · obtain ⟨e, he, rfl⟩ := List.mem_map.mp hkk
      obtain ⟨kk', hk', h'⟩ := h3 e he
      exact ⟨kk'.1, kk'.2, hk', h'⟩
  · constructor
    · rintro ⟨pr, ⟨h5, h6, h7⟩, h8⟩; exact ⟨pr, h5, h6, h7, h8⟩
    · rintro ⟨pr, h5, h6, h7, h8⟩; exact ⟨pr, ⟨h5, h6, h7⟩, h8⟩

theorem BuCert.rules (h : BuCert TA FA TB FB m R F) (syms : List Nat) (r : Rule) :
    r ∈ absRules syms R ↔ r ∈ prodRulesBU (absBU syms TA FA) (absBU syms TB FB) m.dom (lookupF m) := by
  rw [mem_absRules, Ibu.mem_prodRulesBU]
  constructor
  · rintro ⟨hs, hr⟩
    obtain ⟨ks, ks', hk, he⟩ := h.keys _ (hasRule_key hr)
    unfold HasRule at hr
    rw [← he, h.table ks ks' hk, apply2_eval, mem_prodS] at hr
    obtain ⟨p, q, hp, hq, hx⟩ := hr
    obtain ⟨_, _, hl, hd⟩ := mem_buReady.mp hk
    refine ⟨⟨r.sym, ks, p⟩, mem_absRules.mpr ⟨hs, hp⟩, ⟨r.sym, ks', q⟩, mem_absRules.mpr ⟨hs, hq⟩, rfl, hl, hd, ?_⟩
    cases r
    simp only [Rule.mk.injEq, true_and] at he hx ⊢
    exact ⟨he.symm, hx.symm⟩
  · rintro ⟨rA, hrA, rB, hrB, hs, hl, hd, rfl⟩
    obtain ⟨hsA, hkA⟩ := mem_absRules.mp hrA
    obtain ⟨_, hkB⟩ := mem_absRules.mp hrB
    rw [hs] at hkB
    refine ⟨hsA, ?_⟩
    unfold HasRule
    rw [h.table _ _ (mem_buReady.mpr ⟨hasRule_key hkA, hasRule_key hkB, hl, hd⟩), apply2_eval, mem_prodS]
    exact ⟨rA.parent, rB.parent, hkA, hkB, rfl⟩

theorem BuCert.closedAbs (h : BuCert TA FA TB FB m R F) (syms : List Nat) :
    BUClosed (absBU syms TA FA) (absBU syms TB FB) m.dom := by
  intro rA hrA rB hrB hs hl hd
  obtain ⟨_, hkA⟩ := mem_absRules.mp hrA
  obtain ⟨_, hkB⟩ := mem_absRules.mp hrB
  rw [hs] at hkB
  exact h.closed _ _ (mem_buReady.mpr ⟨hasRule_key hkA, hasRule_key hkB, hl, hd⟩) _ _ _ hkA hkB

theorem BuCert.setEq (h : BuCert TA FA TB FB m R F) (syms : List Nat) :
    SetEqTA (absBU syms R F) (prodBU (absBU syms TA FA) (absBU syms TB FB) m.dom (lookupF m)) :=
  ⟨h.rules syms, fun x => (h.fin x).trans
    (Ibu.mem_prodFinalBU (A := absBU syms TA FA) (B := absBU syms TB FB) (D := m.dom) (m := lookupF m) (x := x)).symm⟩

theorem BuCert.lang (h : BuCert TA FA TB FB m R F) (hinj : InjOn (lookupF m) m.dom) (syms : List Nat) (t : Tree) :
    accepts (absBU syms R F) t = (accepts (absBU syms TA FA) t && accepts (absBU syms TB FB) t) := by
  rw [(h.setEq syms).lang, Bool.eq_iff_iff, Bool.and_eq_true]
  exact isect_bu_cert _ _ m.dom (lookupF m) (h.closedAbs syms) hinj t

variable {c0 fuel : Nat} (h : bddIsectBUFrom c0 TA FA TB FB fuel = some (R, F, m))
include h

theorem bddIsectBUFrom_spec : BuCert TA FA TB FB m R F ∧ ∃ c, NumFrom c0 m c := by
  unfold bddIsectBUFrom at h
  split at h
  · cases h
  · rename_i s _ _ hl
    split at h
    · cases h
      exact ⟨buCertB_sound ‹_›, s.cnt,
        buLoop_pres (numFrom_pres c0) hl (leafBU_pres (numFrom_pres c0) _ _ _ (numFrom_init c0))⟩
    · cases h

theorem bddIsectBUFrom_abs (syms : List Nat) :
    SetEqTA (absBU syms R F) (prodBU (absBU syms TA FA) (absBU syms TB FB) m.dom (lookupF m)) ∧
    BUClosed (absBU syms TA FA) (absBU syms TB FB) m.dom ∧ InjOn (lookupF m) m.dom := by
  obtain ⟨hc, c, hn⟩ := bddIsectBUFrom_spec h
  exact ⟨hc.setEq syms, hc.closedAbs syms, hn.injOn⟩

theorem bddIsectBUFrom_lang (syms : List Nat) (t : Tree) :
    accepts (absBU syms R F) t = (accepts (absBU syms TA FA) t && accepts (absBU syms TB FB) t) := by
  obtain ⟨hc, c, hn⟩ := bddIsectBUFrom_spec h
  exact hc.lang hn.injOn syms t

theorem bddIsectBUFrom_numbers : m.map Prod.snd = List.range' c0 m.length ∧ InjOn (lookupF m) m.dom := by
  obtain ⟨_, c, hn⟩ := bddIsectBUFrom_spec h
  exact ⟨hn.dense, hn.injOn⟩

end BottomUp

theorem bddIsectBU_lang {TA : Table} {FA : List Nat} {TB : Table} {FB : List Nat} {fuel : Nat}
    {R : Table} {F : List Nat} {m : PMap} (h : bddIsectBU TA FA TB FB fuel = some (R, F, m)) (syms : List Nat)
    (t : Tree) : accepts (absBU syms R F) t = (accepts (absBU syms TA FA) t && accepts (absBU syms TB FB) t) :=
  bddIsectBUFrom_lang h syms t

/-- **dense numbering**: the translation maps returned by the two symbolic intersections (`stateCnt = 0`) take exactly the
values `0, 1, …, n - 1`, in the order in which the pairs were discovered, and are injective.  (With a counter that starts
at `c0` the values are `c0, …, c0 + n - 1`: `bddIsectTDFrom_numbers`, `bddIsectBUFrom_numbers`.) -/
theorem bddIsect_numbers_dense :
    (∀ {TA : TableTD} {FA : List Nat} {TB : TableTD} {FB : List Nat} {fuel : Nat} {R : TableTD} {F : List Nat} {m : PMap},
      bddIsectTD TA FA TB FB fuel = some (R, F, m) →
        m.map Prod.snd = List.range m.length ∧ InjOn (lookupF m) m.dom) ∧
    (∀ {TA : Table} {FA : List Nat} {TB : Table} {FB : List Nat} {fuel : Nat} {R : Table} {F : List Nat} {m : PMap},
      bddIsectBU TA FA TB FB fuel = some (R, F, m) →
        m.map Prod.snd = List.range m.length ∧ InjOn (lookupF m) m.dom) :=
  ⟨fun h => List.range_eq_range' ▸ bddIsectTDFrom_numbers h, fun h => List.range_eq_range' ▸ bddIsectBUFrom_numbers h⟩

namespace BddIsectEx

/-- `a → 0`, `b → 0`, `g(0,0) → 1`, `h(1) → 1`; final 1 -/
def exA : TA := ⟨[⟨0, [], 0⟩, ⟨1, [], 0⟩, ⟨2, [0, 0], 1⟩, ⟨3, [1], 1⟩], [1]⟩
/-- `a → 0`, `g(0,0) → 1`, `g(1,0) → 1`, `h(1) → 2`, `h(2) → 1`; final 1 -/
def exB : TA := ⟨[⟨0, [], 0⟩, ⟨2, [0, 0], 1⟩, ⟨2, [1, 0], 1⟩, ⟨3, [1], 2⟩, ⟨3, [2], 1⟩], [1]⟩
def syms : List Nat := [0, 1, 2, 3]
def showRules (rs : List Rule) : List (Nat × List Nat × Nat) := rs.map (fun r => (r.sym, r.kids, r.parent))

def tdA : TableTD := ofRulesTD exA.rules
def tdB : TableTD := ofRulesTD exB.rules
def buA : Table := ofRules exA.rules
def buB : Table := ofRules exB.rules

-- top-down: the pair of final states first, then the pairs in the tuples in the order of the leaves of the apply
#guard (bddIsectTD tdA [1] tdB [1] 10).map (fun r => (showRules (absRulesTD syms r.1), r.2)) ==
  some ([(0, [], 2), (3, [0], 1), (2, [2, 2], 0), (2, [3, 2], 0), (3, [1], 0)], [0],
    [((1, 1), 0), ((1, 2), 1), ((0, 0), 2), ((0, 1), 3)])
-- the pair `(0, 1)` is discovered top-down (through `g(0,0) → 1` and `g(1,0) → 1`) although no tree reaches it
-- bottom-up: the pairs of leaf states first; only pairs that label a common tree
#guard (bddIsectBU buA [1] buB [1] 10).map (fun r => (showRules (absRules syms r.1), r.2)) ==
  some ([(0, [], 0), (3, [2], 1), (3, [1], 2), (2, [0, 0], 1)], [1], [((0, 0), 0), ((1, 1), 1), ((1, 2), 2)])
-- the same automata in the explicit models: the same products up to the order of discovery
#guard (isectTD exA exB 10).map (fun r => (showRules r.1.rules, r.1.final, r.2)) ==
  some ([(2, [1, 1], 0), (2, [2, 1], 0), (3, [3], 0), (3, [0], 3), (0, [], 1)], [0],
    [((1, 1), 0), ((0, 0), 1), ((0, 1), 2), ((1, 2), 3)])
-- a counter that does not start at 0 (defect D10: uninitialised) shifts the numbers and nothing else
#guard (bddIsectTDFrom 7 tdA [1] tdB [1] 10).map (fun r => (showRules (absRulesTD syms r.1), r.2)) ==
  some ([(0, [], 9), (3, [7], 8), (2, [9, 9], 7), (2, [10, 9], 7), (3, [8], 7)], [7],
    [((1, 1), 7), ((1, 2), 8), ((0, 0), 9), ((0, 1), 10)])
#guard (bddIsectBUFrom 7 buA [1] buB [1] 10).map (fun r => (showRules (absRules syms r.1), r.2)) ==
  some ([(0, [], 7), (3, [9], 8), (3, [8], 9), (2, [7, 7], 8)], [8], [((0, 0), 7), ((1, 1), 8), ((1, 2), 9)])
#guard (bddIsectTD tdA [1] tdB [1] 3).isNone && (bddIsectBU buA [1] buB [1] 2).isNone
-- the apply with a side effect on the nullary MTBDDs: the translator is called on `(0, 0)` once
#guard ((apply2S leafBU ⟨[], [], 0⟩ (buA.get []) (buB.get [])).1.map,
    (apply2S leafBU ⟨[], [], 0⟩ (buA.get []) (buB.get [])).1.ws,
    (apply2S leafBU ⟨[], [], 0⟩ (buA.get []) (buB.get [])).1.cnt) == ([((0, 0), 0)], [(0, (0, 0))], 1)

theorem arityA : ArityOK tdA := arityOK_ofRulesTD _ (by decide)
theorem arityB : ArityOK tdB := arityOK_ofRulesTD _ (by decide)

-- `ArityOK` is needed: a table that holds the tuple `(5)` under the arity 0 against one that holds `()`: the model
-- (like the C++ without assertions) pairs them up to the rule `a → 0`, but the abstractions have no common tree
#guard (bddIsectTD [(1, .leaf [[5]])] [1] [(2, .leaf [[]])] [2] 5).map (fun r => showRules (absRulesTD [0] r.1)) ==
  some (List.replicate 64 (0, [], 0))

end BddIsectEx

end BddIsect
end Vata
