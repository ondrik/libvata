import Vata.Antichain
import Vata.Proofs.ListExt
/-!
The antichain containers `Antichain1C` (`One`) and `SequentialAntichain1C` (`Seq`) of `Vata/Antichain.lean`: the way
the algorithms use them (`if !contains then refine; insert`) keeps the stored keys an antichain, and the container
stands for the downward closure of everything ever offered.  Transitivity of the order is needed, and counterexamples
with a non-transitive order show that it is.  `AntichainTwo` and `AntichainOrd` treat `Two` and `Ord`.
-/
namespace Vata.AC

/-- if every step keeps the invariant `I` and adds the cone `C · a` of its argument to the represented set `R`, then a
history adds the cones of all its arguments -/
theorem foldl_cone {σ α β : Type} {step : σ → α → σ} {I : σ → Prop} {R : σ → β → Prop} {C : β → α → Prop}
    (hI : ∀ s a, I s → I (step s a)) (hR : ∀ s a, I s → ∀ x, R (step s a) x ↔ R s x ∨ C x a) :
    ∀ (qs : List α) {s : σ}, I s → I (qs.foldl step s) ∧ ∀ x, R (qs.foldl step s) x ↔ R s x ∨ ∃ q, q ∈ qs ∧ C x q
  | [], _, h => ⟨h, fun _ => ⟨Or.inl, fun h => h.elim id (fun ⟨_, hq, _⟩ => nomatch hq)⟩⟩
  | q :: qs, s, h => by
    obtain ⟨i1, i2⟩ := foldl_cone hI hR qs (hI s q h)
    refine ⟨i1, fun x => ?_⟩
    rw [List.foldl_cons, i2, hR s q h, exists_mem_cons_and, or_assoc]

theorem forall_getD {α : Type} {I : α → Prop} {P : List α} (h : ∀ d, d ∈ P → I d) {d0 : α} (h0 : I d0) (o : Nat) :
    I (P.getD o d0) := by
  rw [List.getD_eq_getElem?_getD]
  cases ho : P[o]? with
  | none => exact h0
  | some d => exact h d (List.mem_of_getElem? ho)

theorem forall_mem_set {α : Type} {I I' : α → Prop} {P : List α} (h : ∀ d, d ∈ P → I d) (himp : ∀ d, I d → I' d) {d' : α}
    (hd' : I' d') (o : Nat) : ∀ d, d ∈ P.set o d' → I' d :=
  fun d hd => (List.mem_or_eq_of_mem_set hd).elim (fun h' => himp d (h d h')) (fun e => e ▸ hd')

namespace One
variable {κ : Type} [DecidableEq κ]

theorem contains_iff (d cands : List κ) : contains d cands = true ↔ ∃ p, p ∈ cands ∧ p ∈ d := by
  simp only [contains, List.any_eq_true, decide_eq_true_eq]

theorem nodup_refine {d : List κ} (cands : List κ) (hd : d.Nodup) : (refine d cands).Nodup := by
  induction cands generalizing d with
  | nil => exact hd
  | cons p c ih => exact ih (hd.erase p)

theorem mem_refine {d : List κ} (cands : List κ) (hd : d.Nodup) (x : κ) :
    x ∈ refine d cands ↔ x ∈ d ∧ x ∉ cands := by
  induction cands generalizing d with
  | nil => exact ⟨fun h => ⟨h, List.not_mem_nil⟩, fun h => h.1⟩
  | cons p c ih =>
    refine (ih (hd.erase p)).trans ?_
    rw [hd.mem_erase_iff, List.mem_cons, not_or]
    exact ⟨fun ⟨⟨h1, h2⟩, h3⟩ => ⟨h2, h1, h3⟩, fun ⟨h2, h1, h3⟩ => ⟨⟨h1, h2⟩, h3⟩⟩

theorem mem_insert (d : List κ) (q x : κ) : x ∈ insert d q ↔ x ∈ d ∨ x = q := by
  unfold insert
  split
  · rename_i h; exact ⟨Or.inl, fun h' => h'.elim id (fun e => e ▸ h)⟩
  · rw [List.mem_append, List.mem_singleton]

theorem nodup_insert {d : List κ} (q : κ) (hd : d.Nodup) : (insert d q).Nodup := by
  unfold insert
  split
  · exact hd
  · rename_i h
    exact List.nodup_append.2 ⟨hd, List.pairwise_singleton _ q, fun a ha b hb e => h (List.mem_singleton.1 hb ▸ e ▸ ha)⟩

theorem next_spec {d d' : List κ} {pick : κ} (hd : d.Nodup) (h : next d pick = some d') :
    pick ∈ d ∧ d'.Nodup ∧ ∀ x, x ∈ d' ↔ x ∈ d ∧ x ≠ pick := by
  unfold next at h
  split at h
  · rename_i hp
    cases h
    exact ⟨hp, hd.erase _, fun x => hd.mem_erase_iff.trans And.comm⟩
  · cases h

theorem next_none_iff (d : List κ) (pick : κ) : next d pick = none ↔ pick ∉ d := by
  unfold next; split <;> rename_i hp
  · exact ⟨nofun, fun h => absurd hp h⟩
  · exact ⟨fun _ => hp, fun _ => rfl⟩

/-- no two different stored keys are related (`kle a b`: "a ≤ b") -/
def Anti (kle : κ → κ → Bool) (d : List κ) : Prop := ∀ a b, a ∈ d → b ∈ d → a ≠ b → kle a b = false

def Rep (kle : κ → κ → Bool) (d : List κ) (x : κ) : Prop := ∃ p, p ∈ d ∧ kle x p = true

/-- the candidate lists handed to `contains` / `refine` are right ON THE STORED KEYS: `up` lists the stored keys above
`q`, `down` those below (`ind[q]`, `inv[q]` of the tree algorithm; the filtered `singleAntichain_` of the word algorithm) -/
def CandOk (kle : κ → κ → Bool) (d up down : List κ) (q : κ) : Prop :=
  ∀ p, p ∈ d → ((p ∈ up ↔ kle q p = true) ∧ (p ∈ down ↔ kle p q = true))

theorem offer_of_contains {d up : List κ} (down : List κ) (q : κ) (h : contains d up = true) : offer d up down q = d :=
  if_pos h

theorem mem_offer {d up : List κ} (down : List κ) (q : κ) (hd : d.Nodup) (h : ¬ contains d up = true) (x : κ) :
    x ∈ offer d up down q ↔ (x ∈ d ∧ x ∉ down) ∨ x = q := by
  rw [offer, if_neg h, mem_insert, mem_refine _ hd]

theorem nodup_offer {d : List κ} (up down : List κ) (q : κ) (hd : d.Nodup) : (offer d up down q).Nodup := by
  unfold offer
  split
  · exact hd
  · exact nodup_insert _ (nodup_refine _ hd)

/-- needs only that the candidate lists are right (no reflexivity, no transitivity) -/
theorem offer_anti {kle : κ → κ → Bool} {d up down : List κ} {q : κ} (hd : d.Nodup)
    (hc : CandOk kle d up down q) (ha : Anti kle d) : Anti kle (offer d up down q) := by
  by_cases hcon : contains d up = true
  · rw [offer_of_contains down q hcon]; exact ha
  · intro a b ha' hb' hab
    rw [mem_offer down q hd hcon] at ha' hb'
    rcases ha' with ⟨ha1, ha2⟩ | rfl <;> rcases hb' with ⟨hb1, hb2⟩ | rfl
    · exact ha a b ha1 hb1 hab
    · -- a stored key below the new one would have been dropped
      exact Bool.eq_false_iff.2 (fun hk => ha2 (((hc a ha1).2).2 hk))
    · -- a stored key above the new one would have made `contains` answer true
      exact Bool.eq_false_iff.2 (fun hk => hcon ((contains_iff _ _).2 ⟨b, ((hc b hb1).1).2 hk, hb1⟩))
    · exact absurd rfl hab

/-- needs transitivity (and that the candidates are sound) -/
theorem offer_rep {kle : κ → κ → Bool} {d up down : List κ} {q : κ} (hd : d.Nodup)
    (htr : ∀ a b c, kle a b = true → kle b c = true → kle a c = true)
    (hc : CandOk kle d up down q) (x : κ) :
    Rep kle (offer d up down q) x ↔ Rep kle d x ∨ kle x q = true := by
  unfold Rep
  by_cases hcon : contains d up = true
  · rw [offer_of_contains down q hcon]
    refine ⟨Or.inl, fun h => h.elim id (fun h => ?_)⟩
    obtain ⟨p, hp1, hp2⟩ := (contains_iff _ _).1 hcon
    exact ⟨p, hp2, htr _ _ _ h (((hc p hp2).1).1 hp1)⟩
  · have hq : q ∈ offer d up down q := (mem_offer down q hd hcon q).2 (Or.inr rfl)
    constructor
    · rintro ⟨p, hp, hk⟩
      rcases (mem_offer down q hd hcon p).1 hp with ⟨hp1, _⟩ | rfl
      · exact Or.inl ⟨p, hp1, hk⟩
      · exact Or.inr hk
    · rintro (⟨p, hp, hk⟩ | h)
      · by_cases hpd : p ∈ down
        · exact ⟨q, hq, htr _ _ _ hk (((hc p hp).2).1 hpd)⟩
        · exact ⟨p, (mem_offer down q hd hcon p).2 (Or.inl ⟨hp, hpd⟩), hk⟩
      · exact ⟨q, hq, h⟩

theorem offer_rep_self {kle : κ → κ → Bool} {d up down : List κ} {q : κ} (hd : d.Nodup)
    (hrf : ∀ a, kle a a = true) (htr : ∀ a b c, kle a b = true → kle b c = true → kle a c = true)
    (hc : CandOk kle d up down q) : Rep kle (offer d up down q) q :=
  (offer_rep hd htr hc q).2 (Or.inr (hrf q))

/-- a history of offers with the index tables `up q = {p | q ≤ p}`, `down q = {p | p ≤ q}` -/
def runOffers (up down : κ → List κ) (d : List κ) (qs : List κ) : List κ :=
  qs.foldl (fun d q => offer d (up q) (down q) q) d

theorem runOffers_spec {kle : κ → κ → Bool} {up down : κ → List κ}
    (htr : ∀ a b c, kle a b = true → kle b c = true → kle a c = true)
    (hup : ∀ q p, p ∈ up q ↔ kle q p = true) (hdown : ∀ q p, p ∈ down q ↔ kle p q = true)
    (qs : List κ) {d : List κ} (hd : d.Nodup) (ha : Anti kle d) :
    (runOffers up down d qs).Nodup ∧ Anti kle (runOffers up down d qs) ∧
      ∀ x, Rep kle (runOffers up down d qs) x ↔ Rep kle d x ∨ ∃ q, q ∈ qs ∧ kle x q = true := by
  have hc : ∀ d q, CandOk kle d (up q) (down q) q := fun _ q p _ => ⟨hup q p, hdown q p⟩
  have := foldl_cone (step := fun d q => offer d (up q) (down q) q) (I := fun d => d.Nodup ∧ Anti kle d)
    (R := Rep kle) (C := fun x q => kle x q = true)
    (fun d q h => ⟨nodup_offer _ _ q h.1, offer_anti h.1 (hc d q) h.2⟩)
    (fun d q h => offer_rep h.1 htr (hc d q)) qs ⟨hd, ha⟩
  exact ⟨this.1.1, this.1.2, this.2⟩

/-- transitivity is needed for the closure: with `0 ≤ 1 ≤ 2` but not `0 ≤ 2`, offering 1 and then 2 forgets 0 -/
example :
    let kle : Nat → Nat → Bool := fun a b => a == b || (a, b) == (0, 1) || (a, b) == (1, 2)
    let up : Nat → List Nat := fun q => [0, 1, 2].filter (fun p => kle q p)
    let down : Nat → List Nat := fun q => [0, 1, 2].filter (fun p => kle p q)
    runOffers up down [] [1, 2] = [2] ∧ kle 0 1 = true ∧ kle 0 2 = false := by decide

theorem step_nodup (P : Pool κ) (op : Op κ) (h : ∀ d, d ∈ P → d.Nodup) : ∀ d, d ∈ (step P op).1 → d.Nodup := by
  have hobj : ∀ o, (obj P o).Nodup := forall_getD h List.nodup_nil
  have hset : ∀ o (d' : List κ), d'.Nodup → ∀ d, d ∈ P.set o d' → d.Nodup := fun o _ hd' =>
    forall_mem_set h (fun _ => id) hd' o
  cases op with
  | contains o c => exact h
  | refine o c => exact hset o _ (nodup_refine _ (hobj o))
  | insert o q => exact hset o _ (nodup_insert _ (hobj o))
  | next o pick =>
    cases pick with
    | none => exact h
    | some k =>
      rw [step]
      cases hn : next (obj P o) k with
      | none => exact h
      | some d' => exact hset o _ (next_spec (hobj o) hn).2.1
  | clear o => exact hset o _ List.nodup_nil
  | offer o up down q => exact hset o _ (nodup_offer _ _ _ (hobj o))

theorem run_nodup (ops : List (Op κ)) (P : Pool κ) (h : ∀ d, d ∈ P → d.Nodup) : ∀ d, d ∈ run P ops → d.Nodup := by
  induction ops generalizing P with
  | nil => exact h
  | cons op ops ih => exact ih _ (step_nodup P op h)

end One

namespace Seq
variable {α : Type}

theorem scan_cons (cmp : α → α → Bool) (key x : α) (xs : List α) :
    scan cmp key (x :: xs) =
      if cmp key x then none
      else if !cmp x key then (scan cmp key xs).map (x :: ·)
      else some (xs.filter (fun y => !cmp y key)) := rfl

theorem scan_some {cmp : α → α → Bool} {key : α} {d l : List α} (h : scan cmp key d = some l) :
    l = d.filter (fun y => !cmp y key) := by
  induction d generalizing l with
  | nil => exact (Option.some.inj h).symm
  | cons x xs ih =>
    rw [scan_cons] at h
    split at h
    · cases h
    · rw [List.filter_cons]
      split at h
      · rename_i h2
        obtain ⟨l', hs, rfl⟩ := Option.map_eq_some_iff.1 h
        rw [if_pos h2, ih hs]
      · rename_i h2
        rw [if_neg h2]; exact (Option.some.inj h).symm

theorem scan_none {cmp : α → α → Bool} {key : α} {d : List α} (h : scan cmp key d = none) :
    ∃ x, x ∈ d ∧ cmp key x = true := by
  induction d with
  | nil => cases h
  | cons x xs ih =>
    rw [scan_cons] at h
    split at h
    · rename_i h1; exact ⟨x, List.mem_cons_self, h1⟩
    · split at h
      · obtain ⟨y, hy, hc⟩ := ih (Option.map_eq_none_iff.1 h)
        exact ⟨y, List.mem_cons_of_mem _ hy, hc⟩
      · cases h

def Anti (cmp : α → α → Bool) (d : List α) : Prop := d.Pairwise (fun a b => cmp a b = false ∧ cmp b a = false)

/-- for a transitive comparator on an antichain the loop is right: a covered key is always refused -/
theorem scan_none_iff {cmp : α → α → Bool} {key : α} {d : List α}
    (htr : ∀ a b c, cmp a b = true → cmp b c = true → cmp a c = true) (ha : Anti cmp d) :
    scan cmp key d = none ↔ ∃ x, x ∈ d ∧ cmp key x = true := by
  refine ⟨scan_none, ?_⟩
  induction d with
  | nil => exact fun ⟨_, h, _⟩ => nomatch h
  | cons x xs ih =>
    rintro ⟨y, hy, hc⟩
    have ha' := List.pairwise_cons.1 ha
    rw [scan_cons]
    by_cases h1 : cmp key x = true
    · rw [if_pos h1]
    · have hyx : y ∈ xs := (List.mem_cons.1 hy).resolve_left (fun e => h1 (e ▸ hc))
      -- `x` cannot lie below the key: it would lie below `y`
      have h2 : cmp x key = false := Bool.eq_false_iff.2 (fun h2 =>
        Bool.false_ne_true ((ha'.1 y hyx).1.symm.trans (htr _ _ _ h2 hc)))
      rw [if_neg h1, h2, Bool.not_false, if_pos rfl, ih ha'.2 ⟨y, hyx, hc⟩]; rfl

def Rep (cmp : α → α → Bool) (d : List α) (x : α) : Prop := ∃ y, y ∈ d ∧ cmp x y = true

theorem insert_false {cmp : α → α → Bool} {key : α} {d : List α} (h : (insert cmp d key).1 = false) :
    (insert cmp d key).2 = d ∧ ∃ x, x ∈ d ∧ cmp key x = true := by
  unfold insert at h ⊢
  cases hs : scan cmp key d with
  | none => exact ⟨rfl, scan_none hs⟩
  | some l => rw [hs] at h; cases h

theorem insert_true {cmp : α → α → Bool} {key : α} {d : List α} (h : (insert cmp d key).1 = true) :
    (insert cmp d key).2 = d.filter (fun y => !cmp y key) ++ [key] := by
  unfold insert at h ⊢
  cases hs : scan cmp key d with
  | none => rw [hs] at h; cases h
  | some l => rw [scan_some hs]

theorem insert_anti {cmp : α → α → Bool} {key : α} {d : List α}
    (htr : ∀ a b c, cmp a b = true → cmp b c = true → cmp a c = true) (ha : Anti cmp d) :
    Anti cmp (insert cmp d key).2 := by
  cases hb : (insert cmp d key).1 with
  | false => rw [(insert_false hb).1]; exact ha
  | true =>
    rw [insert_true hb]
    refine List.pairwise_append.2 ⟨ha.sublist List.filter_sublist, List.pairwise_singleton _ _, fun a haf b hbk => ?_⟩
    rw [List.mem_singleton.1 hbk]
    rw [List.mem_filter, Bool.not_eq_true'] at haf
    refine ⟨haf.2, Bool.eq_false_iff.2 (fun hk => ?_)⟩
    -- a stored element above the key would have made the loop return `false`
    have hn := (scan_none_iff (key := key) htr ha).2 ⟨a, haf.1, hk⟩
    rw [insert, hn] at hb
    cases hb

/-- the antichain invariant is not needed here -/
theorem insert_rep {cmp : α → α → Bool} {key : α} {d : List α}
    (htr : ∀ a b c, cmp a b = true → cmp b c = true → cmp a c = true) (x : α) :
    Rep cmp (insert cmp d key).2 x ↔ Rep cmp d x ∨ cmp x key = true := by
  unfold Rep
  cases hb : (insert cmp d key).1 with
  | false =>
    obtain ⟨h1, y, hy, hc⟩ := insert_false hb
    rw [h1]
    exact ⟨Or.inl, fun h => h.elim id (fun h => ⟨y, hy, htr _ _ _ h hc⟩)⟩
  | true =>
    rw [insert_true hb]
    have hk : key ∈ d.filter (fun y => !cmp y key) ++ [key] := List.mem_append_right _ List.mem_cons_self
    constructor
    · rintro ⟨y, hy, hc⟩
      rcases List.mem_append.1 hy with h | h
      · exact Or.inl ⟨y, (List.mem_filter.1 h).1, hc⟩
      · exact Or.inr (List.mem_singleton.1 h ▸ hc)
    · rintro (⟨y, hy, hc⟩ | h)
      · cases hyk : cmp y key with
        | true => exact ⟨key, hk, htr _ _ _ hc hyk⟩
        | false => exact ⟨y, List.mem_append_left _ (List.mem_filter.2 ⟨hy, by rw [hyk]; rfl⟩), hc⟩
      · exact ⟨key, hk, h⟩

theorem run_spec {cmp : α → α → Bool} (htr : ∀ a b c, cmp a b = true → cmp b c = true → cmp a c = true)
    (ks : List α) {d : List α} (ha : Anti cmp d) :
    Anti cmp (run cmp d ks) ∧ ∀ x, Rep cmp (run cmp d ks) x ↔ Rep cmp d x ∨ ∃ k, k ∈ ks ∧ cmp x k = true :=
  foldl_cone (step := fun d k => (insert cmp d k).2) (I := Anti cmp) (R := Rep cmp) (C := fun x k => cmp x k = true)
    (fun _ _ h => insert_anti htr h) (fun _ _ _ => insert_rep htr) ks ha

/-- non-vacuity: numbers under divisibility (both directions): 2, 3, then 6, then 3 again -/
example : run (fun a b : Nat => b % a == 0) [] [2, 3, 6, 3] = [6] := by decide
example : run (fun a b : Nat => a % b == 0) [] [2, 3, 6, 3] = [2, 3] := by decide

/-- transitivity is needed: with `0 ≤ 2`, `2 ≤ 1` but not `0 ≤ 1`, inserting 2 into the antichain `[0, 1]` erases 0,
never compares 2 with 1, and leaves the comparable pair `[1, 2]` -/
example :
    let cmp : Nat → Nat → Bool := fun a b => (a, b) == (0, 2) || (a, b) == (2, 1)
    insert cmp [0, 1] 2 = (true, [1, 2]) ∧ cmp 2 1 = true ∧ cmp 0 1 = false ∧ cmp 1 0 = false := by decide

end Seq

end Vata.AC
