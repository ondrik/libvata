import Vata.Proofs.LtsUtilSRShape
import Vata.Proofs.ContainerLemmas

/-!
# `SplittingRelation` — `erase` and the engine's erase loop over a row

`erase_refines`, `eraseRow_refines` (the loop reads `right_` of the cell just reclaimed: `erase_shape` shows that the
fields of the reclaimed cell stay intact).
-/
namespace Vata.LU.SR
namespace P

theorem Shape.erase {o : Obs} {n : Nat} {R C : Nat → List Nat} (h : Shape o n R C) {i e : Nat} {l1 l2 m1 m2 : List Nat}
    (hR : R i = l1 ++ e :: l2) (hC : C (o.col e) = m1 ++ e :: m2) :
    Shape { o with gd := upd o.gd (lastP (.colS (o.col e)) m1) (headP m2 (.colS (o.col e + 1))),
                   gu := upd o.gu (headP m2 (.colS (o.col e + 1))) (lastP (.colS (o.col e)) m1),
                   gr := upd o.gr (lastP (.rowS i) l1) (headP l2 (.rowS (i + 1))),
                   gl := upd o.gl (headP l2 (.rowS (i + 1))) (lastP (.rowS i) l1),
                   free := e :: o.free } n (rm e R) (rm e C) := by
  obtain ⟨g, m, sz⟩ := (Shape_iff_GS _ _ _ _).1 h
  have heR : e ∈ R i := by rw [hR]; simp
  refine (Shape_iff_GS _ _ _ _).2 ⟨⟨g.data.rm e, g.rows.remove sent_row g.data.rowL hR,
    g.cols.remove sent_col g.data.colL hC, g.nr, g.nc⟩,
    ⟨?_, ?_, List.nodup_cons.2 ⟨m.nfree i e heR, m.fnd⟩, List.forall_mem_cons.2 ⟨m.lt i e heR, m.flt⟩⟩, sz⟩
  · intro k a ha; exact m.lt k a (mem_rm.1 ha).1
  · intro k a ha
    have := mem_rm.1 ha
    exact List.not_mem_cons_of_ne_of_not_mem this.2 (m.nfree k a this.1)

theorem erase_obs {s : T} {e : Nat} {L Rr U D : Ptr}
    (hl : (obs s).gl (.cell e) = some L) (hr : (obs s).gr (.cell e) = some Rr)
    (hu : (obs s).gu (.cell e) = some U) (hd : (obs s).gd (.cell e) = some D)
    (hL : (obs s).gr L = some (.cell e)) (hRr : (obs s).gl Rr = some (.cell e))
    (hU : (obs s).gd U = some (.cell e)) (hD : (obs s).gu D = some (.cell e))
    (hLe : L ≠ .cell e) (hUe : U ≠ .cell e) :
    ∃ s', erase s e = some s' ∧
      obs s' = { obs s with gd := upd (obs s).gd U D, gu := upd (obs s).gu D U, gr := upd (obs s).gr L Rr,
                            gl := upd (obs s).gl Rr L, free := e :: (obs s).free } := by
  unfold erase
  simp only [up_of hu, down_of hd]
  obtain ⟨s1, h1, e1⟩ := setDown_obs D hU
  have a1 : (obs s1).gd (.cell e) = some D := by rw [e1]; simp only []; rw [upd_ne _ _ hUe.symm]; exact hd
  have b1 : (obs s1).gu (.cell e) = some U := by rw [e1]; exact hu
  have c1 : (obs s1).gu D = some (.cell e) := by rw [e1]; exact hD
  obtain ⟨s2, h2, e2⟩ := setUp_obs U c1
  have a2 : (obs s2).gl (.cell e) = some L := by rw [e2, e1]; exact hl
  have b2 : (obs s2).gr (.cell e) = some Rr := by rw [e2, e1]; exact hr
  have c2 : (obs s2).gr L = some (.cell e) := by rw [e2, e1]; exact hL
  obtain ⟨s3, h3, e3⟩ := setRight_obs Rr c2
  have a3 : (obs s3).gr (.cell e) = some Rr := by rw [e3]; simp only []; rw [upd_ne _ _ hLe.symm]; exact b2
  have b3 : (obs s3).gl (.cell e) = some L := by rw [e3]; exact a2
  have c3 : (obs s3).gl Rr = some (.cell e) := by rw [e3, e2, e1]; exact hRr
  obtain ⟨s4, h4, e4⟩ := setLeft_obs L c3
  simp only [h1, down_of a1, up_of b1, h2, left_of a2, right_of b2, h3, right_of a3, left_of b3, h4]
  refine ⟨_, rfl, ?_⟩
  show ({ obs s4 with free := e :: (obs s4).free } : Obs) = _
  rw [e4, e3, e2, e1]

/-- `erase` of a live cell: succeeds, keeps the shape (the cell is gone from its row and its column), and leaves the
fields of the reclaimed cell and all `col`/`row` fields intact -/
theorem erase_shape {s : T} {n : Nat} {R C : Nat → List Nat} (h : Shape (obs s) n R C) {i e : Nat} (he : e ∈ R i) :
    ∃ s', erase s e = some s' ∧ Shape (obs s') n (rm e R) (rm e C) ∧ (obs s').col = (obs s).col ∧
      (obs s').row = (obs s).row ∧ (obs s').gr (.cell e) = (obs s).gr (.cell e) ∧ (obs s').nr = (obs s).nr := by
  have d := h.data
  obtain ⟨l1, l2, hR⟩ := List.append_of_mem he
  obtain ⟨m1, m2, hC⟩ := List.append_of_mem (d.rc i e he)
  have hr := h.rowC i (d.rlt i e he).1
  have hc := h.colC _ (d.rlt i e he).2
  unfold RowC at hr; unfold ColC at hc
  rw [hR] at hr; rw [hC] at hc
  obtain ⟨r1, r2, r3, r4⟩ := DL_mid _ _ _ _ _ hr
  obtain ⟨c1, c2, c3, c4⟩ := DL_mid _ _ _ _ _ hc
  have hndR := d.R_nodup i
  have hndC := d.C_nodup ((obs s).col e)
  rw [hR] at hndR; rw [hC] at hndC
  have hl1 : e ∉ l1 := fun hm => (List.nodup_append.1 hndR).2.2 e hm e (by simp) rfl
  have hm1 : e ∉ m1 := fun hm => (List.nodup_append.1 hndC).2.2 e hm e (by simp) rfl
  have hLe : lastP (.rowS i) l1 ≠ .cell e := sent_row.ne_cell_of_mem hl1 (lastP_mem _ _)
  have hUe : lastP (.colS ((obs s).col e)) m1 ≠ .cell e := sent_col.ne_cell_of_mem hm1 (lastP_mem _ _)
  obtain ⟨s', h1, h2⟩ := erase_obs r2 r1 c2 c1 r3 r4 c3 c4 hLe hUe
  refine ⟨s', h1, ?_, ?_, ?_, ?_, ?_⟩
  · rw [h2]; exact h.erase hR hC
  · rw [h2]
  · rw [h2]
  · rw [h2]; exact upd_ne _ _ hLe.symm
  · rw [h2]

theorem eraseLoop_spec (mask : List Nat) (i n : Nat) (todo : List Nat) : ∀ (fuel : Nat) (s : T) (R C : Nat → List Nat)
    (kept : List Nat), Shape (obs s) n R C → i < n → R i = kept ++ todo → todo.length < fuel →
    ∃ s' R' C', eraseLoop mask i fuel s (headP todo (.rowS (i + 1))) = some s' ∧ Shape (obs s') n R' C' ∧
      R' i = kept ++ todo.filter (fun a => !mask.contains ((obs s).col a)) ∧ (∀ k, k ≠ i → R' k = R k) ∧
      (obs s').col = (obs s).col ∧ (obs s').nr = (obs s).nr := by
  induction todo with
  | nil =>
    intro fuel s R C kept h hi hR hf
    cases fuel with
    | zero => exact absurd hf (Nat.not_lt_zero _)
    | succ fuel =>
      exact ⟨s, R, C, by simp [eraseLoop], h, by simpa using hR, fun _ _ => rfl, rfl, rfl⟩
  | cons a todo ih =>
    intro fuel s R C kept h hi hR hf
    cases fuel with
    | zero => exact absurd hf (Nat.not_lt_zero _)
    | succ fuel =>
      have d := h.data
      have ha : a ∈ R i := by rw [hR]; simp
      have hr := h.rowC i hi
      unfold RowC at hr; rw [hR] at hr
      obtain ⟨r1, -, -, -⟩ := DL_mid _ _ _ _ _ hr
      simp only [headP_cons, eraseLoop, reduceCtorEq, if_false]
      by_cases hm : mask.contains (s.cells.get a).col = true
      · obtain ⟨s1, e1, hs1, hcol, -, hgr, hlen1⟩ := erase_shape h ha
        simp only [hm, if_true, e1]
        rw [right_of (hgr.trans r1)]
        have hR1 : rm a R i = kept ++ todo := rm_mid hR (d.R_nodup i)
        obtain ⟨s', R', C', e2, hs', hR', hk', hcol', hlen'⟩ :=
          ih fuel s1 (rm a R) (rm a C) kept hs1 hi hR1 (by simpa using hf)
        refine ⟨s', R', C', e2, hs', ?_, ?_, hcol'.trans hcol, hlen'.trans hlen1⟩
        · rw [hR', hcol, List.filter_cons]
          have : (obs s).col a ∈ mask := by simpa [col_cell] using hm
          simp [this]
        · intro k hk
          rw [hk' k hk]
          exact rm_of_not_mem (fun hmem => hk (d.rowL.disj hmem ha))
      · simp only [hm, if_false, Bool.false_eq_true]
        rw [right_of r1]
        obtain ⟨s', R', C', e2, hs', hR', hk', hcol', hlen'⟩ :=
          ih fuel s R C (kept ++ [a]) h hi (by rw [hR]; simp) (by simpa using hf)
        refine ⟨s', R', C', e2, hs', ?_, hk', hcol', hlen'⟩
        rw [hR', List.filter_cons]
        have : (obs s).col a ∉ mask := by simpa [col_cell] using hm
        simp [this]

end P

/-- `eraseRow_refines` together with "the capacity does not change" -/
theorem eraseRow_refines_cap {s : T} {rel : List (List Nat)} (h : Inv s rel) {i : Nat} (hi : i < rel.length)
    (mask : List Nat) :
    ∃ s', eraseRow s i mask = some s' ∧
      Inv s' (rel.set i ((rel.getD i []).filter (fun c => !mask.contains c))) ∧ s'.rows.length = s.rows.length := by
  obtain ⟨R, C, hs, hv⟩ := h
  have hr := hs.rowC i hi
  obtain ⟨rw, h1, h2⟩ := P.rows_first (P.DL_head _ _ _ hr)
  obtain ⟨s', R', C', e, hs', hR', hk, hcol, hcap⟩ :=
    P.eraseLoop_spec mask i rel.length (R i) (s.next + 1) s R C [] hs hi (by simp) (hs.data.row_fuel hs.mem i)
  refine ⟨s', by simp only [eraseRow, h1, h2]; exact e, ⟨R', C', by simpa using hs', ?_⟩, hcap⟩
  intro k hk'
  rw [List.length_set] at hk'
  rw [hcol, getD_set_of_lt [] hi]
  by_cases hki : k = i
  · subst hki
    rw [if_pos rfl, hR', ← hv k hi]
    simp [List.filter_map, Function.comp_def]
  · rw [if_neg hki, hk k hki]
    exact hv k hk'

/-- erasing through the row iterator (the engine's loop) is `filter` on that row of the value -/
theorem eraseRow_refines {s : T} {rel : List (List Nat)} (h : Inv s rel) {i : Nat} (hi : i < rel.length)
    (mask : List Nat) :
    ∃ s', eraseRow s i mask = some s' ∧
      Inv s' (rel.set i ((rel.getD i []).filter (fun c => !mask.contains c))) := by
  obtain ⟨s', h1, h2, _⟩ := eraseRow_refines_cap h hi mask
  exact ⟨s', h1, h2⟩

/-- `erase(iter)` for an iterator of `row(i)` standing on the entry `c`: that entry leaves the row of the value -/
theorem erase_refines {s : T} {rel : List (List Nat)} (h : Inv s rel) {i : Nat} (hi : i < rel.length)
    {l : List (Nat × Nat)} (hl : rowCells s i = some l) {e c : Nat} (he : (e, c) ∈ l) :
    ∃ s', erase s e = some s' ∧ Inv s' (rel.set i ((rel.getD i []).filter (fun x => x != c))) := by
  obtain ⟨R, C, hs, hv⟩ := h
  rw [hs.rowCells_eq hi] at hl
  obtain rfl := Option.some.inj hl
  obtain ⟨a, ha, hac⟩ := List.mem_map.1 he
  obtain ⟨rfl, rfl⟩ := Prod.mk.inj hac
  obtain ⟨s', e1, hs', hcol, -, -, -⟩ := P.erase_shape hs ha
  refine ⟨s', e1, P.rm a R, P.rm a C, by simpa using hs', ?_⟩
  intro k hk'
  rw [List.length_set] at hk'
  rw [hcol, getD_set_of_lt [] hi]
  by_cases hki : k = i
  · subst hki
    rw [if_pos rfl, ← hv k hi, List.filter_map]
    congr 1
    unfold P.rm
    refine List.filter_congr (fun x hx => ?_)
    by_cases hxa : x = a
    · subst hxa; simp
    · have : (P.obs s).col x ≠ (P.obs s).col a := fun e => hxa (inj_of_nodup_map _ (hs.data.rnd k) hx ha e)
      rw [bne_iff_ne.2 hxa]; exact (bne_iff_ne.2 this).symm
  · rw [if_neg hki, P.rm_of_not_mem (fun hmem => hki (hs.data.rowL.disj hmem ha))]
    exact hv k hk'

end Vata.LU.SR
