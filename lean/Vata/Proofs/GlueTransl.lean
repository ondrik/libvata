import Vata.Proofs.GlueDict
import Vata.UnionModel
import Vata.LoadDump
/-!
# The translators and the dictionary helpers of `util.cc` (model: `Vata/Glue.lean`)

`TranslatorWeak` is lookup-or-create and stays injective as long as the functor returns fresh values; with the counter
functor it coincides with `weakTr` of `Vata/UnionModel.lean` and `Dict.weak` of `Vata/LoadDump.lean`.
`CreateUnionStringToStateMap` / `CreateProductStringToStateMap` are runs of `Insert`s; the union names `n_1` / `n_2` never
collide (pruned states are skipped, the repair of D14), the product names `[a_1|b_2]` are injective if one side's
names contain no `|` (`prodName_inj_left/_right`) and not in general (`prodName_not_injective`).
-/
set_option linter.unusedSectionVars false
set_option linter.unusedSimpArgs false
namespace Vata.Glue

section
variable {α β : Type} [DecidableEq α] [DecidableEq β]

theorem weakMap_of_some {m : List (α × β)} {a : α} {b : β} (alloc : Nat → α → β) (h : m.lookup a = some b) :
    weakMap m alloc a = (m, b) := by simp [weakMap, h]

theorem weakMap_of_none {m : List (α × β)} {a : α} (alloc : Nat → α → β) (h : m.lookup a = none) :
    weakMap m alloc a = (m ++ [(a, alloc m.length a)], alloc m.length a) := by
  simp [weakMap, h, mapInsert_of_none]

theorem weak2Map_of_none {m : List (α × β)} {a : α} (alloc : Nat → α → β) (h : m.lookup a = none) :
    weak2Map m alloc a = (m ++ [(a, alloc (m.length + 1) a)], alloc (m.length + 1) a) := by
  simp [weak2Map, h]

theorem weakMap_lookup_self (m : List (α × β)) (alloc : Nat → α → β) (a : α) :
    (weakMap m alloc a).1.lookup a = some (weakMap m alloc a).2 := by
  cases h : m.lookup a with
  | some b => rw [weakMap_of_some alloc h]; exact h
  | none => rw [weakMap_of_none alloc h]; simp [List.lookup_append, h, List.lookup_cons]

theorem weakMap_ext (m : List (α × β)) (alloc : Nat → α → β) (a : α) {x : α} {y : β} (h : m.lookup x = some y) :
    (weakMap m alloc a).1.lookup x = some y := by
  cases ha : m.lookup a with
  | some b => rw [weakMap_of_some alloc ha]; exact h
  | none => rw [weakMap_of_none alloc ha]; simp [List.lookup_append, h]

theorem weakMap_keys (m : List (α × β)) (alloc : Nat → α → β) (a : α) {x : α} {y : β}
    (h : (weakMap m alloc a).1.lookup x = some y) : m.lookup x = some y ∨ (x = a ∧ m.lookup a = none ∧ y = alloc m.length a) := by
  cases ha : m.lookup a with
  | some b => rw [weakMap_of_some alloc ha] at h; exact Or.inl h
  | none =>
    rw [weakMap_of_none alloc ha] at h
    simp only [List.lookup_append] at h
    cases hx : m.lookup x with
    | some y' => rw [hx] at h; simp at h; subst h; exact Or.inl rfl
    | none =>
      rw [hx] at h
      simp only [Option.none_or, List.lookup_cons] at h
      by_cases e : x = a
      · subst e; simp at h; exact Or.inr ⟨rfl, rfl, h.symm⟩
      · have : (x == a) = false := by simpa using e
        rw [this] at h; simp at h

theorem weakMap_isMap {m : List (α × β)} (hm : IsMap m) (alloc : Nat → α → β) (a : α) : IsMap (weakMap m alloc a).1 := by
  cases h : m.lookup a with
  | some b => rw [weakMap_of_some alloc h]; exact hm
  | none => rw [weakMap_of_none alloc h]; exact isMap_append_single hm _ h

def InjMap (m : List (α × β)) : Prop := ∀ x x' y, m.lookup x = some y → m.lookup x' = some y → x = x'

def Fresh (m : List (α × β)) (b : β) : Prop := ∀ x, m.lookup x ≠ some b

theorem weakMap_inj {m : List (α × β)} (hi : InjMap m) (alloc : Nat → α → β) (a : α)
    (hf : m.lookup a = none → Fresh m (alloc m.length a)) : InjMap (weakMap m alloc a).1 := by
  intro x x' y h1 h2
  rcases weakMap_keys m alloc a h1 with h1 | ⟨e1, hn, ey⟩
  · rcases weakMap_keys m alloc a h2 with h2 | ⟨e2, hn, ey⟩
    · exact hi x x' y h1 h2
    · subst ey; exact absurd h1 (hf hn x)
  · rcases weakMap_keys m alloc a h2 with h2 | ⟨e2, _, _⟩
    · subst ey; exact absurd h2 (hf hn x')
    · rw [e1, e2]

theorem weak2Map_inj {m : List (α × β)} (hi : InjMap m) (alloc : Nat → α → β) (a : α)
    (hf : m.lookup a = none → Fresh m (alloc (m.length + 1) a)) : InjMap (weak2Map m alloc a).1 := by
  have e : weak2Map m alloc a = weakMap m (fun sz => alloc (sz + 1)) a := by
    cases h : m.lookup a with
    | some b => simp [weak2Map, weakMap, h]
    | none => rw [weak2Map_of_none alloc h, weakMap_of_none _ h]
  rw [e]
  exact weakMap_inj hi _ a hf

/-- `TranslatorWeak` calls the functor BEFORE the insertion: it sees the old size … -/
theorem weakMap_size_functor {m : List (α × Nat)} {a : α} (h : m.lookup a = none) :
    (weakMap m (fun sz _ => sz) a).2 = m.length := by rw [weakMap_of_none _ h]

/-- … `TranslatorWeak2` inserts a default entry first: the functor sees the size that already counts the new key -/
theorem weak2Map_size_functor {m : List (α × Nat)} {a : α} (h : m.lookup a = none) :
    (weak2Map m (fun sz _ => sz) a).2 = m.length + 1 := by rw [weak2Map_of_none _ h]

/-- so with `[&m](…){ return m.size(); }` the two translators number the keys `0, 1, 2, …` and `1, 2, 3, …` -/
theorem weak_size_functor_differ :
    (weakMap (weakMap ([] : List (Nat × Nat)) (fun sz _ => sz) 10).1 (fun sz _ => sz) 20).1 = [(10, 0), (20, 1)] ∧
    (weak2Map (weak2Map ([] : List (Nat × Nat)) (fun sz _ => sz) 10).1 (fun sz _ => sz) 20).1 = [(10, 1), (20, 2)] := by
  decide

theorem size_functor_fresh {m : List (α × Nat)} (hb : ∀ x y, m.lookup x = some y → y < m.length) : Fresh m m.length := by
  intro x h
  exact Nat.lt_irrefl _ (hb x _ h)

theorem weakDict_of_some {d : TwoWayDict α β} {a : α} {b : β} (alloc : Nat → α → β) (h : d.fwd.lookup a = some b) :
    weakDict d alloc a = (d, b) := by simp [weakDict, h]

theorem weakDict_of_none {d : TwoWayDict α β} {a : α} (alloc : Nat → α → β) (h : d.fwd.lookup a = none) :
    weakDict d alloc a = ((d.insert a (alloc d.size a)).1, alloc d.size a) := by simp [weakDict, h]

theorem weakDict_fwd (d : TwoWayDict α β) (alloc : Nat → α → β) (a : α) :
    (weakDict d alloc a).1.fwd = (weakMap d.fwd alloc a).1 ∧ (weakDict d alloc a).2 = (weakMap d.fwd alloc a).2 := by
  cases h : d.fwd.lookup a with
  | some b => rw [weakDict_of_some alloc h, weakMap_of_some alloc h]; exact ⟨rfl, rfl⟩
  | none =>
    rw [weakDict_of_none alloc h, weakMap_of_none alloc h]
    simp [TwoWayDict.insert, mapInsert_of_none _ h, TwoWayDict.size]

theorem weakDict_inv {d : TwoWayDict α β} (hd : d.Inv) (alloc : Nat → α → β) (a : α)
    (hf : d.fwd.lookup a = none → d.bwd.lookup (alloc d.size a) = none) : (weakDict d alloc a).1.Inv := by
  cases h : d.fwd.lookup a with
  | some b => rw [weakDict_of_some alloc h]; exact hd
  | none =>
    rw [weakDict_of_none alloc h]
    exact TwoWayDict.inv_insert hd (by simp [TwoWayDict.insertOk, h, hf h])

/-- `TranslatorStrict::operator()` is a lookup: it has no access to anything it could change -/
theorem strict_eq_lookup (m : List (α × β)) (a : α) : strict m a = m.lookup a ∧ weakConst m a = m.lookup a := ⟨rfl, rfl⟩

end

/-- `TranslatorWeak` with the allocator `[&cnt](…){ return cnt++; }` is the `weakTr` of `Vata/UnionModel.lean` -/
theorem weakMap_eq_weakTr (m : SMap) (cnt q : Nat) :
    Vata.weakTr m cnt q = ((weakMap m (fun _ _ => cnt) q).1, if (m.lookup q).isSome then cnt else cnt + 1) := by
  unfold Vata.weakTr
  cases h : m.lookup q with
  | some b => rw [weakMap_of_some _ h]; simp
  | none => rw [weakMap_of_none _ h]; simp

theorem weakMapSeq_counter_eq_weakTrAll : ∀ (qs : List Nat) (m : SMap) (cnt : Nat) (out : List Nat),
    (weakMapSeq .counter qs m cnt out).1 = (Vata.weakTrAll qs m cnt).1 ∧
      (weakMapSeq .counter qs m cnt out).2.1 = (Vata.weakTrAll qs m cnt).2
  | [], m, cnt, out => ⟨rfl, rfl⟩
  | q :: qs, m, cnt, out => by
    simp only [weakMapSeq, Vata.weakTrAll]
    cases h : m.lookup q with
    | some b =>
      have e : Vata.weakTr m cnt q = (m, cnt) := by simp [Vata.weakTr, h]
      rw [e]
      exact weakMapSeq_counter_eq_weakTrAll qs m cnt _
    | none =>
      have e : Vata.weakTr m cnt q = (m ++ [(q, cnt)], cnt + 1) := by simp [Vata.weakTr, h]
      rw [e]
      simp only [Alloc.run, weakMap_of_none _ h]
      exact weakMapSeq_counter_eq_weakTrAll qs _ _ _

theorem loadDump_fwd?_eq {κ : Type} [DecidableEq κ] (D : Vata.Dict κ) (k : κ) : Vata.Dict.fwd? D k = D.lookup k := by
  induction D with
  | nil => rfl
  | cons e r ih =>
    obtain ⟨k', v⟩ := e
    rw [lookup_cons_ite, ← ih]; rfl

theorem loadDump_bwd?_eq {κ : Type} [DecidableEq κ] (D : Vata.Dict κ) (v : Nat) :
    Vata.Dict.bwd? D v = (D.map Prod.swap).lookup v := by
  induction D with
  | nil => rfl
  | cons e r ih =>
    obtain ⟨k, v'⟩ := e
    rw [List.map_cons, Prod.swap_prod_mk, lookup_cons_ite, ← ih]; rfl

/-- `TranslatorWeak<TwoWayDict>` with the counter functor is the `Dict.weak` of `Vata/LoadDump.lean` (which keeps only the
forward list): same result, same forward map -/
theorem weakDict_eq_loadDump {κ : Type} [DecidableEq κ] (d : TwoWayDict κ Nat) (c : Nat) (k : κ) :
    (weakDict d (fun _ _ => c) k).2 = (Vata.Dict.weak d.fwd c k).1 ∧
      (weakDict d (fun _ _ => c) k).1.fwd = (Vata.Dict.weak d.fwd c k).2.1 := by
  unfold Vata.Dict.weak
  rw [loadDump_fwd?_eq]
  cases h : d.fwd.lookup k with
  | some b => rw [weakDict_of_some _ h]; exact ⟨rfl, rfl⟩
  | none =>
    rw [weakDict_of_none _ h]
    simp [TwoWayDict.insert, mapInsert_of_none _ h, Vata.Dict.insert]

theorem name1_inj {n n' : Name} (h : name1 n = name1 n') : n = n' := List.append_cancel_right h
theorem name2_inj {n n' : Name} (h : name2 n = name2 n') : n = n' := List.append_cancel_right h

theorem name1_ne_name2 (n n' : Name) : name1 n ≠ name2 n' := by
  intro h
  have := congrArg List.getLast? h
  simp [name1, name2] at this

theorem split_first {c : Char} : ∀ {x x' y y' : List Char}, c ∉ x → c ∉ x' → x ++ c :: y = x' ++ c :: y' → x = x' ∧ y = y'
  | [], [], _, _, _, _, h => by simpa using h
  | [], b :: x', _, _, _, h', h => by
    simp only [List.nil_append, List.cons_append, List.cons.injEq] at h
    exact absurd (by simp [h.1]) h'
  | a :: x, [], _, _, h', _, h => by
    simp only [List.nil_append, List.cons_append, List.cons.injEq] at h
    exact absurd (by simp [h.1]) h'
  | a :: x, b :: x', y, y', h1, h2, h => by
    simp only [List.cons_append, List.cons.injEq] at h
    have := split_first (x := x) (x' := x') (by intro hc; exact h1 (List.mem_cons_of_mem _ hc))
      (by intro hc; exact h2 (List.mem_cons_of_mem _ hc)) h.2
    exact ⟨by rw [h.1, this.1], this.2⟩

theorem prodName_inj_left {l l' r r' : Name} (hl : '|' ∉ l) (hl' : '|' ∉ l') (h : prodName l r = prodName l' r') :
    l = l' ∧ r = r' := by
  unfold prodName at h
  simp only [List.cons.injEq, true_and] at h
  have e : ∀ (l r : Name), l ++ ['_', '1', '|'] ++ (r ++ ['_', '2', ']']) = (l ++ ['_', '1']) ++ '|' :: (r ++ ['_', '2', ']']) := by
    intro l r; simp
  rw [e, e] at h
  have hs := split_first (c := '|') (by simp [hl]) (by simp [hl']) h
  exact ⟨List.append_cancel_right hs.1, List.append_cancel_right hs.2⟩

theorem prodName_inj_right {l l' r r' : Name} (hr : '|' ∉ r) (hr' : '|' ∉ r') (h : prodName l r = prodName l' r') :
    l = l' ∧ r = r' := by
  unfold prodName at h
  simp only [List.cons.injEq, true_and] at h
  have h' := congrArg List.reverse h
  have e : ∀ (l r : Name), (l ++ ['_', '1', '|'] ++ (r ++ ['_', '2', ']'])).reverse =
      ([']', '2', '_'] ++ r.reverse) ++ '|' :: (['1', '_'] ++ l.reverse) := by
    intro l r; simp
  rw [e, e] at h'
  have hs := split_first (c := '|') (by simp [hr]) (by simp [hr']) h'
  have h1 : r.reverse = r'.reverse := List.append_cancel_left hs.1
  have h2 : l.reverse = l'.reverse := List.append_cancel_left hs.2
  exact ⟨List.reverse_inj.1 h2, List.reverse_inj.1 h1⟩

/-- in general the product names are NOT injective: `a_1|b` with `c`, and `a` with `b_1|c`, both give `[a_1|b_1|c_2]` -/
theorem prodName_not_injective :
    prodName "a_1|b".toList "c".toList = prodName "a".toList "b_1|c".toList ∧ "a_1|b".toList ≠ "a".toList := by decide

/-- the entry one dictionary element contributes: none when its state has no translation (pruned) -/
def sideEntry (suffix : Name → Name) (tr : Option (List (Nat × Nat))) (e : Name × Nat) : Option (Name × Nat) :=
  match tr with
  | none => some (suffix e.1, e.2)
  | some t => (t.lookup e.2).map (fun s' => (suffix e.1, s'))

def sideEntries (suffix : Name → Name) (tr : Option (List (Nat × Nat))) (cont : List (Name × Nat)) : List (Name × Nat) :=
  cont.filterMap (sideEntry suffix tr)

theorem unionSide_eq (suffix : Name → Name) (tr : Option (List (Nat × Nat))) :
    ∀ (cont : List (Name × Nat)) (res : StateDict),
      unionSide suffix tr cont res = TwoWayDict.insertList res (sideEntries suffix tr cont)
  | [], res => rfl
  | (n, s) :: r, res => by
    cases tr with
    | none => simp only [unionSide, sideEntries, List.filterMap_cons, sideEntry, TwoWayDict.insertList]; exact unionSide_eq suffix none r _
    | some t =>
      cases h : t.lookup s with
      | none =>
        simp only [unionSide, h, sideEntries, List.filterMap_cons, sideEntry, Option.map_none]
        exact unionSide_eq suffix (some t) r _
      | some s' =>
        simp only [unionSide, h, sideEntries, List.filterMap_cons, sideEntry, Option.map_some, TwoWayDict.insertList]
        exact unionSide_eq suffix (some t) r _

theorem insertList_append {α β : Type} [DecidableEq α] [DecidableEq β] (d : TwoWayDict α β) :
    ∀ (es fs : List (α × β)), TwoWayDict.insertList (TwoWayDict.insertList d es) fs = TwoWayDict.insertList d (es ++ fs)
  | [], fs => rfl
  | e :: es, fs => by
    simp only [TwoWayDict.insertList, List.cons_append]
    exact insertList_append (d := (d.insert e.1 e.2).1) es fs ▸ rfl

def unionEntries (l r : StateDict) (tl tr : Option (List (Nat × Nat))) : List (Name × Nat) :=
  sideEntries name1 tl l.fwd ++ sideEntries name2 tr r.fwd

/-- the function is a run of `Insert`s of `name_1 ↦ translation` for the left and `name_2 ↦ translation` for the right
dictionary, restricted to the states that HAVE a translation -/
theorem unionDict_eq (l r : StateDict) (tl tr : Option (List (Nat × Nat))) :
    unionDict l r tl tr = TwoWayDict.insertList TwoWayDict.empty (unionEntries l r tl tr) := by
  unfold unionDict unionEntries
  rw [unionSide_eq, unionSide_eq]
  exact insertList_append _ _ _

theorem mem_sideEntries {suffix : Name → Name} {tr : Option (List (Nat × Nat))} {cont : List (Name × Nat)} {x : Name × Nat} :
    x ∈ sideEntries suffix tr cont ↔ ∃ n s, (n, s) ∈ cont ∧ x.1 = suffix n ∧
      (match tr with | none => x.2 = s | some t => t.lookup s = some x.2) := by
  unfold sideEntries
  simp only [List.mem_filterMap, Prod.exists]
  constructor
  · rintro ⟨n, s, hm, he⟩
    refine ⟨n, s, hm, ?_⟩
    cases tr with
    | none => simp only [sideEntry, Option.some.injEq] at he; subst he; exact ⟨rfl, rfl⟩
    | some t =>
      simp only [sideEntry, Option.map_eq_some_iff] at he
      obtain ⟨s', hs, rfl⟩ := he
      exact ⟨rfl, hs⟩
  · rintro ⟨n, s, hm, h1, h2⟩
    refine ⟨n, s, hm, ?_⟩
    obtain ⟨x1, x2⟩ := x
    cases tr with
    | none => simp only at h1 h2; subst h1; subst h2; rfl
    | some t => simp only at h1 h2; subst h1; simp [sideEntry, h2]

theorem sideEntries_keys_sublist (suffix : Name → Name) (tr : Option (List (Nat × Nat))) :
    ∀ (cont : List (Name × Nat)), ((sideEntries suffix tr cont).map Prod.fst).Sublist ((cont.map Prod.fst).map suffix)
  | [] => by simp [sideEntries]
  | (n, s) :: r => by
    have ih := sideEntries_keys_sublist suffix tr r
    unfold sideEntries at ih ⊢
    simp only [List.filterMap_cons, List.map_cons]
    cases h : sideEntry suffix tr (n, s) with
    | none => exact ih.cons _
    | some e =>
      have : e.1 = suffix n := by
        cases tr with
        | none => simp [sideEntry] at h; rw [← h]
        | some t => simp [sideEntry] at h; obtain ⟨_, _, rfl⟩ := h; rfl
      simp only [List.map_cons, this]
      exact ih.cons_cons _

theorem sideEntries_keys_nodup {suffix : Name → Name} (hs : ∀ n n', suffix n = suffix n' → n = n')
    (tr : Option (List (Nat × Nat))) {cont : List (Name × Nat)} (hc : IsMap cont) :
    ((sideEntries suffix tr cont).map Prod.fst).Nodup :=
  (sideEntries_keys_sublist suffix tr cont).nodup (nodup_map_of_inj hs hc)

/-- the new names are pairwise different (whatever the names are): no forward insertion of the helper can fail -/
theorem unionEntries_keys_nodup {l r : StateDict} (hl : IsMap l.fwd) (hr : IsMap r.fwd) (tl tr : Option (List (Nat × Nat))) :
    ((unionEntries l r tl tr).map Prod.fst).Nodup := by
  unfold unionEntries
  rw [List.map_append, List.nodup_append]
  refine ⟨sideEntries_keys_nodup (fun _ _ => name1_inj) tl hl, sideEntries_keys_nodup (fun _ _ => name2_inj) tr hr, ?_⟩
  intro x hx y hy e
  subst e
  obtain ⟨n1, _, rfl⟩ := List.mem_map.mp ((sideEntries_keys_sublist name1 tl l.fwd).subset hx)
  obtain ⟨n2, _, h2⟩ := List.mem_map.mp ((sideEntries_keys_sublist name2 tr r.fwd).subset hy)
  exact name1_ne_name2 _ _ h2.symm

theorem unionDict_fwd {l r : StateDict} (hl : IsMap l.fwd) (hr : IsMap r.fwd) (tl tr : Option (List (Nat × Nat))) :
    (unionDict l r tl tr).fwd = unionEntries l r tl tr := by
  rw [unionDict_eq]
  exact TwoWayDict.insertList_fwd _ TwoWayDict.empty (unionEntries_keys_nodup hl hr tl tr)

/-- the contract of the helper: the numbers of the result are pairwise different (the translations are injective and
their ranges disjoint).  Then the result is a dictionary (invariant) with exactly the entries. -/
theorem unionDict_inv {l r : StateDict} (hl : IsMap l.fwd) (hr : IsMap r.fwd) (tl tr : Option (List (Nat × Nat)))
    (hv : ((unionEntries l r tl tr).map Prod.snd).Nodup) :
    (unionDict l r tl tr).Inv ∧ (unionDict l r tl tr).bwd = (unionEntries l r tl tr).map Prod.swap := by
  rw [unionDict_eq]
  obtain ⟨h1, _, h3⟩ := TwoWayDict.insertList_empty (unionEntries_keys_nodup hl hr tl tr) hv
  exact ⟨h1, h3⟩

/-- the code before the repair `7228ecf7` computed the same dictionary whenever it was defined – it was undefined
(dereferenced `end()`) as soon as one state had no translation -/
theorem unionSideOld_eq (suffix : Name → Name) (tr : Option (List (Nat × Nat))) :
    ∀ (cont : List (Name × Nat)) (res res' : StateDict), unionSideOld suffix tr cont res = some res' →
      unionSide suffix tr cont res = res' ∧ (sideEntries suffix tr cont).length = cont.length
  | [], res, res', h => by simp [unionSideOld] at h; subst h; exact ⟨rfl, rfl⟩
  | (n, s) :: r, res, res', h => by
    cases tr with
    | none =>
      simp only [unionSideOld] at h
      have := unionSideOld_eq suffix none r _ res' h
      simp only [unionSide, sideEntries, List.filterMap_cons, sideEntry, List.length_cons]
      exact ⟨this.1, by simpa [sideEntries] using this.2⟩
    | some t =>
      cases hs : t.lookup s with
      | none => simp [unionSideOld, hs] at h
      | some s' =>
        simp only [unionSideOld, hs] at h
        have := unionSideOld_eq suffix (some t) r _ res' h
        simp only [unionSide, hs, sideEntries, List.filterMap_cons, sideEntry, Option.map_some, List.length_cons]
        exact ⟨this.1, by simpa [sideEntries] using this.2⟩

theorem unionDictOld_eq {l r : StateDict} {tl tr : Option (List (Nat × Nat))} {d : StateDict}
    (h : unionDictOld l r tl tr = some d) : unionDict l r tl tr = d := by
  unfold unionDictOld at h
  cases h1 : unionSideOld name1 tl l.fwd TwoWayDict.empty with
  | none => rw [h1] at h; cases h
  | some res =>
    rw [h1] at h
    unfold unionDict
    rw [(unionSideOld_eq name1 tl l.fwd _ res h1).1]
    exact (unionSideOld_eq name2 tr r.fwd _ d h).1

/-- finding D14 in the model: a dictionary entry whose state was pruned made the old code undefined, the repaired code
skips it -/
theorem unionDictOld_pruned :
    let l : StateDict := ⟨[("a".toList, 0), ("b".toList, 1)], [(0, "a".toList), (1, "b".toList)]⟩
    unionDictOld l TwoWayDict.empty (some [(1, 5)]) none = none ∧
      (unionDict l TwoWayDict.empty (some [(1, 5)]) none).fwd = [("b_1".toList, 5)] := by decide

/-- the entry one element of the product map contributes; `none` = a component has no name (undefined behaviour) -/
def prodEntry (l r : StateDict) (e : (Nat × Nat) × Nat) : Option (Name × Nat) :=
  match l.bwd.lookup e.1.1, r.bwd.lookup e.1.2 with
  | some ln, some rn => some (prodName ln rn, e.2)
  | _, _ => none

def prodEntries (l r : StateDict) : List ((Nat × Nat) × Nat) → Option (List (Name × Nat))
  | [] => some []
  | e :: rest =>
    match prodEntry l r e, prodEntries l r rest with
    | some x, some xs => some (x :: xs)
    | _, _ => none

theorem prodEntry_eq_some_iff {l r : StateDict} {e : (Nat × Nat) × Nat} {x : Name × Nat} :
    prodEntry l r e = some x ↔
      ∃ ln rn, l.bwd.lookup e.1.1 = some ln ∧ r.bwd.lookup e.1.2 = some rn ∧ x = (prodName ln rn, e.2) := by
  unfold prodEntry
  cases l.bwd.lookup e.1.1 with
  | none => exact ⟨fun h => (nomatch h), fun ⟨_, _, h, _⟩ => (nomatch h)⟩
  | some ln =>
    cases r.bwd.lookup e.1.2 with
    | none => exact ⟨fun h => (nomatch h), fun ⟨_, _, _, h, _⟩ => (nomatch h)⟩
    | some rn =>
      exact ⟨fun h => ⟨ln, rn, rfl, rfl, (Option.some.inj h).symm⟩,
        fun ⟨_, _, h1, h2, hx⟩ => by cases h1; cases h2; rw [hx]⟩

theorem prodEntries_cons (l r : StateDict) (e : (Nat × Nat) × Nat) (rest : List ((Nat × Nat) × Nat)) :
    prodEntries l r (e :: rest) = (prodEntry l r e).bind fun x => (prodEntries l r rest).map (x :: ·) := by
  rw [prodEntries]
  cases prodEntry l r e <;> cases prodEntries l r rest <;> rfl

theorem productLoop_eq (l r : StateDict) : ∀ (pm : List ((Nat × Nat) × Nat)) (res : StateDict),
    productLoop l r pm res = (prodEntries l r pm).map (TwoWayDict.insertList res)
  | [], res => rfl
  | ((p, q), v) :: rest, res => by
    simp only [productLoop, prodEntries, prodEntry]
    cases h1 : l.bwd.lookup p with
    | none => simp
    | some ln =>
      cases h2 : r.bwd.lookup q with
      | none => simp
      | some rn =>
        simp only [productLoop_eq l r rest]
        cases prodEntries l r rest <;> simp [TwoWayDict.insertList]

/-- the function is a run of `Insert`s of `[l_1|r_2] ↦ number` for the pairs of the product map -/
theorem productDict_eq (l r : StateDict) (pm : List ((Nat × Nat) × Nat)) :
    productDict l r pm = (prodEntries l r pm).map (TwoWayDict.insertList TwoWayDict.empty) := productLoop_eq l r pm _

theorem prodEntries_eq_none_iff (l r : StateDict) : ∀ (pm : List ((Nat × Nat) × Nat)),
    prodEntries l r pm = none ↔ ∃ e ∈ pm, l.bwd.lookup e.1.1 = none ∨ r.bwd.lookup e.1.2 = none
  | [] => by simp [prodEntries]
  | e :: rest => by
    have ih := prodEntries_eq_none_iff l r rest
    simp only [prodEntries, List.mem_cons, exists_eq_or_imp]
    rw [← ih]
    unfold prodEntry
    cases h1 : l.bwd.lookup e.1.1 <;> cases h2 : r.bwd.lookup e.1.2 <;> cases prodEntries l r rest <;> simp

theorem productDict_eq_none_iff (l r : StateDict) (pm : List ((Nat × Nat) × Nat)) :
    productDict l r pm = none ↔ ∃ e ∈ pm, l.bwd.lookup e.1.1 = none ∨ r.bwd.lookup e.1.2 = none := by
  rw [productDict_eq, Option.map_eq_none_iff, prodEntries_eq_none_iff]

theorem mem_prodEntries {l r : StateDict} : ∀ {pm : List ((Nat × Nat) × Nat)} {es : List (Name × Nat)},
    prodEntries l r pm = some es → ∀ x, x ∈ es ↔ ∃ e ∈ pm, ∃ ln rn, l.bwd.lookup e.1.1 = some ln ∧ r.bwd.lookup e.1.2 = some rn ∧
      x = (prodName ln rn, e.2)
  | [], es, h, x => by cases h; exact ⟨fun h => (nomatch h), fun ⟨_, h, _⟩ => (nomatch h)⟩
  | e :: rest, es, h, x => by
    rw [prodEntries_cons] at h
    obtain ⟨y, hy, h⟩ := Option.bind_eq_some_iff.mp h
    obtain ⟨ys, hys, rfl⟩ := Option.map_eq_some_iff.mp h
    simp only [List.mem_cons, exists_eq_or_imp]
    rw [mem_prodEntries hys x, ← prodEntry_eq_some_iff, hy, Option.some.injEq, eq_comm]
/-- the contract of the helper: every component has a name, the produced names are pairwise different and so are the
numbers.  Then the result is a dictionary (invariant) with exactly the entries `[l_1|r_2] ↦ number`. -/
theorem productDict_inv {l r : StateDict} {pm : List ((Nat × Nat) × Nat)} {es : List (Name × Nat)}
    (he : prodEntries l r pm = some es) (hk : (es.map Prod.fst).Nodup) (hv : (es.map Prod.snd).Nodup) :
    ∃ d, productDict l r pm = some d ∧ d.Inv ∧ d.fwd = es ∧ d.bwd = es.map Prod.swap := by
  obtain ⟨h1, h2, h3⟩ := TwoWayDict.insertList_empty hk hv
  exact ⟨_, by rw [productDict_eq, he]; rfl, h1, h2, h3⟩

/-- with colliding names the result is NOT a dictionary: two product states share one name, `size()` is 1, the reverse map
has 2 entries (the witness of `harness/ops/glue_witness_productNames.txt`; `productDict` is the function before the repair
`222cfd8a`, which primes a name that is taken) -/
theorem productDict_collision :
    let l : StateDict := ⟨[("a_1|b".toList, 0), ("a".toList, 1)], [(0, "a_1|b".toList), (1, "a".toList)]⟩
    let r : StateDict := ⟨[("c".toList, 0), ("b_1|c".toList, 1)], [(0, "c".toList), (1, "b_1|c".toList)]⟩
    (productDict l r [((0, 0), 7), ((1, 1), 8)]).map (fun d => (d.fwd.length, d.bwd.length, d.bwd.map Prod.fst)) =
      some (1, 2, [7, 8]) := by decide +kernel

end Vata.Glue
