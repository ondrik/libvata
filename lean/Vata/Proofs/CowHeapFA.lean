import Vata.CowHeapFA
import Vata.Proofs.CowHeap
import Vata.Proofs.CowHeapX
/-!
# Copy-on-write of the explicit finite automaton core – the actions on the shared part (proofs for `Vata/CowHeapFA.lean`)

For every action on the two-level heap that the finite-automaton operations are made of: it keeps the reference-count
invariant `CowHeap.Inv` and changes the value seen through ONE handle, in the stated way
(`modCluster_good`, `addCore_spec`, `reindexCore_spec`, `reverseCore_spec`, `unionDisjCore_spec`, `shareCore_spec`).
-/
namespace Vata.CowHeapFA

open Vata.Store (Cluster upsert addToCluster addToMap)
open Vata.CowHeap (Heap upd upd_same upd_other upd_upd_same map_upd allocMap addHandle uniqueMap mout valM Val InvP Inv abs
  Owns abs_val val_upd val_upd_other mapUnique_fresh abs_of_valM)
open Vata.CowHeap3 (Lvl)
open Vata.CowHeapX (missing missing_map mem_missing)

variable {H : Heap}

theorem mout_insertEntries (H : Heap) (m : Nat) (ins : List (Nat × Nat)) :
    mout (insertEntries H m ins) = upd (mout H) m (mout H m ++ ins.map Prod.snd) :=
  (map_upd (List.map Prod.snd) H.ment m _).trans (congrArg (upd (mout H) m) List.map_append)

/-- the copied pointers are counted (`Lvl.bump`) and then handed to the map node (`Lvl.setR`) -/
theorem insertEntries_inv {pm pc : List Nat} {m : Nat} {ins : List (Nat × Nat)} (h : InvP H pm pc)
    (hm : m ∈ H.ml) (hins : ∀ c, c ∈ ins.map Prod.snd → c ∈ H.cl) : InvP (insertEntries H m ins) pm pc := by
  refine .of_lvl h.lvlH ?_
  rw [mout_insertEntries]
  exact Lvl.setR (new := ins.map Prod.snd) (h.lvlM.bump (ins.map Prod.snd) hins) hm (mout H m ++ ins.map Prod.snd) []
    (fun _ => (Nat.add_zero _).trans List.count_append)

theorem abs_insertEntries {h : Nat} (o : Owns H h) (ins : List (Nat × Nat)) :
    abs (insertEntries H (H.hmap h) ins) =
      upd (abs H) h (some (valM H (H.hmap h) ++ ins.map (fun kc => (kc.1, H.cdat kc.2)))) := by
  have e : valM (insertEntries H (H.hmap h) ins) =
      upd (valM H) (H.hmap h) (valM H (H.hmap h) ++ ins.map (fun kc => (kc.1, H.cdat kc.2))) :=
    (map_upd (List.map fun kc : Nat × Nat => (kc.1, H.cdat kc.2)) H.ment (H.hmap h) _).trans
      (congrArg (upd (valM H) (H.hmap h)) List.map_append)
  exact abs_of_valM o rfl rfl (by rw [e, upd_same]) (fun m _ hne => by rw [e, upd_other _ _ hne])

/-- `insert(first, last)` of pointers to allocated clusters into the private map node of `h` -/
theorem insertRange_spec {h : Nat} (g : Owns H h) (l : List (Nat × Nat)) (hl : ∀ c, c ∈ l.map Prod.snd → c ∈ H.cl) :
    Inv (insertRange H (H.hmap h) l) ∧
      abs (insertRange H (H.hmap h) l) =
        upd (abs H) h (some (valM H (H.hmap h) ++
          missing (valM H (H.hmap h)) (l.map (fun kc => (kc.1, H.cdat kc.2))))) := by
  unfold insertRange
  constructor
  · apply insertEntries_inv g.inv (g.inv.hm h g.live)
    intro c hc
    obtain ⟨kc, hkc, e⟩ := List.mem_map.mp hc
    exact hl c (List.mem_map.mpr ⟨kc, mem_missing hkc, e⟩)
  · rw [abs_insertEntries g, missing_map H.cdat]
    rfl

/-! ### `transitions_ = Ptr(new Map())` and the constructors -/

theorem freshMap_spec (hI : Inv H) {h : Nat} (hh : h ∈ H.hl) :
    Owns (freshMap H h) h ∧ abs (freshMap H h) = upd (abs H) h (some []) :=
  let ⟨h1, h2, h3, h4⟩ := CowHeap.replaceMap_spec hI hh [] (fun _ hc => nomatch hc)
  ⟨⟨h1, h3 ▸ hh, h4⟩, h2⟩

theorem step_new_dead (hI : Inv H) {dst : Nat} (hd : dst ∉ H.hl) :
    Owns (CowHeap.step H (.new dst)) dst ∧ abs (CowHeap.step H (.new dst)) = upd (abs H) dst (some []) := by
  obtain ⟨h1, h2⟩ := CowHeap.cow_refines_values hI (.new dst)
  have e : CowHeap.step H (.new dst) = addHandle (allocMap H []) dst H.next := by
    simp only [CowHeap.step]; rw [if_neg hd]
  refine ⟨⟨h2, e ▸ List.mem_cons_self, fun x hx hne => ?_⟩, ?_⟩
  · rw [e] at hx ⊢
    exact mapUnique_fresh hI dst (fun x hx hne => (List.mem_cons.mp hx).resolve_left hne) x hx hne
  · rw [h1]
    simp only [CowHeap.specStep]
    rw [if_neg (fun hs => hd (CowHeap.abs_isSome.mp hs))]

theorem step_copy_live (hI : Inv H) {src dst : Nat} (hs : src ∈ H.hl) (hd : dst ∉ H.hl) :
    Inv (CowHeap.step H (.copy src dst)) ∧
      abs (CowHeap.step H (.copy src dst)) = upd (abs H) dst (some (valM H (H.hmap src))) := by
  obtain ⟨h1, h2⟩ := CowHeap.cow_refines_values hI (.copy src dst)
  refine ⟨h2, ?_⟩
  rw [h1]
  simp only [CowHeap.specStep]
  rw [if_pos ⟨CowHeap.abs_isSome.mpr hs, CowHeap.abs_isNone.mpr hd⟩, CowHeap.abs_of_mem hs]

theorem uniqueMap_good (hI : Inv H) {h : Nat} (hh : h ∈ H.hl) :
    Owns (uniqueMap H h) h ∧ abs (uniqueMap H h) = abs H ∧
      valM (uniqueMap H h) ((uniqueMap H h).hmap h) = valM H (H.hmap h) := by
  obtain ⟨h1, h2, h3, h4⟩ := CowHeap.uniqueMap_spec hI hh
  exact ⟨⟨h1, h3, h4⟩, h2, (abs_val (by rw [h2, CowHeap.abs_of_mem hh])).2⟩

/-! ### `uniqueCluster` followed by writes into the returned cluster -/

theorem modCluster_good {h : Nat} (g : Owns H h) (q : Nat) (G : Cluster → Cluster) :
    Owns (modCluster H h q G) h ∧
      abs (modCluster H h q G) =
        upd (abs H) h (some (upsert q (fun o => G (o.getD [])) (valM H (H.hmap h)))) :=
  CowHeap.modEntry_spec g q G

/-- `internalAddTransition` -/
theorem addCore_spec (hI : Inv H) {h : Nat} (hh : h ∈ H.hl) (l a r : Nat) :
    Owns (addCore H h l a r) h ∧
      abs (addCore H h l a r) = upd (abs H) h (some (addToMap l a [r] (valM H (H.hmap h)))) := by
  obtain ⟨g, e, ev⟩ := uniqueMap_good hI hh
  obtain ⟨g', e'⟩ := modCluster_good g l (addToCluster a [r])
  refine ⟨g', ?_⟩
  unfold addCore
  rw [e', e, ev]
  rfl

theorem fold_good {α : Type} {h : Nat} (f : Heap → α → Heap) (g : Val → α → Val)
    (hstep : ∀ H x, Owns H h → Owns (f H x) h ∧ abs (f H x) = upd (abs H) h (some (g (valM H (H.hmap h)) x))) :
    ∀ (l : List α) (H : Heap), Owns H h →
      Owns (l.foldl f H) h ∧ abs (l.foldl f H) = upd (abs H) h (some (l.foldl g (valM H (H.hmap h))))
  | [], H, hH => ⟨hH, (CowHeap.upd_abs_self hH.live).symm⟩
  | x :: l, H, hH => by
    obtain ⟨h1, h2⟩ := hstep H x hH
    obtain ⟨h3, h4⟩ := fold_good f g hstep l (f H x) h1
    refine ⟨h3, ?_⟩
    rw [List.foldl_cons, List.foldl_cons, h4, (val_upd h2).2, h2, upd_upd_same]

/-- the transition part of `ReindexStates(dst, index)` -/
theorem reindexCore_spec (hI : Inv H) {dst : Nat} (hd : dst ∈ H.hl) (idx : Nat → Nat) (src : Val) :
    Inv (reindexCore H dst idx src) ∧
      abs (reindexCore H dst idx src) = upd (abs H) dst (some (reindexTrans idx src (valM H (H.hmap dst)))) := by
  obtain ⟨g, e, ev⟩ := uniqueMap_good hI hd
  obtain ⟨h1, h2⟩ := fold_good (fun H qc => modCluster H dst (idx qc.1) (reindexCluster idx qc.2))
    (fun t qc => upsert (idx qc.1) (fun o => reindexCluster idx qc.2 (o.getD [])) t)
    (fun H x g => modCluster_good g _ _) src (uniqueMap H dst) g
  refine ⟨h1.inv, ?_⟩
  unfold reindexCore
  rw [h2, e, ev]
  rfl

/-- the transition part of `Reverse()` -/
theorem reverseCore_spec (hI : Inv H) {dst : Nat} (hd : dst ∉ H.hl) (tr : List (Nat × Nat × Nat)) :
    Inv (reverseCore H dst tr) ∧
      abs (reverseCore H dst tr) =
        upd (abs H) dst (some (tr.foldl (fun t e => addToMap e.2.2 e.2.1 [e.1] t) [])) := by
  obtain ⟨g, e⟩ := step_new_dead hI hd
  obtain ⟨h1, h2⟩ := fold_good (fun H (e : Nat × Nat × Nat) => addCore H dst e.2.2 e.2.1 e.1)
    (fun t e => addToMap e.2.2 e.2.1 [e.1] t)
    (fun H x g => addCore_spec g.inv g.live _ _ _) tr (CowHeap.step H (.new dst)) g
  refine ⟨h1.inv, ?_⟩
  unfold reverseCore
  rw [h2, (val_upd e).2, e, upd_upd_same]

theorem mem_pick_iff {β : Type} {es : List (Nat × β)} {keys : List Nat} {x : Nat × β} :
    x ∈ pick es keys ↔ x.1 ∈ keys ∧ es.lookup x.1 = some x.2 := by
  simp only [pick, List.mem_filterMap, Option.map_eq_some_iff]
  constructor
  · rintro ⟨q, hq, c, hl, rfl⟩; exact ⟨hq, hl⟩
  · rintro ⟨hq, hl⟩; exact ⟨x.1, hq, x.2, hl, rfl⟩

theorem pick_map {β γ : Type} (f : β → γ) (es : List (Nat × β)) (keys : List Nat) :
    pick (es.map (fun kc => (kc.1, f kc.2))) keys = (pick es keys).map (fun kc => (kc.1, f kc.2)) := by
  simp only [pick, List.map_filterMap, lookup_map_vals, Option.map_map]
  rfl

/-- `UnionDisjointStates`, the shared part -/
theorem unionDisjCore_spec (hI : Inv H) {a b dst : Nat} (ha : a ∈ H.hl) (hb : b ∈ H.hl) (hd : dst ∉ H.hl) :
    Inv (unionDisjCore H a b dst) ∧
      abs (unionDisjCore H a b dst) =
        upd (abs H) dst (some (valM H (H.hmap a) ++ missing (valM H (H.hmap a)) (valM H (H.hmap b)))) := by
  unfold unionDisjCore
  simp only
  obtain ⟨h1, h2⟩ := step_copy_live hI ha hd
  obtain ⟨g, g2, gv⟩ := uniqueMap_good h1 (val_upd h2).1
  rw [h2] at g2
  rw [(val_upd h2).2] at gv
  generalize uniqueMap (CowHeap.step H (.copy a dst)) dst = H1 at g g2 gv
  obtain ⟨hb1, hbv⟩ := val_upd_other g2 hb (fun e => hd (e ▸ hb))
  obtain ⟨r1, r2⟩ := insertRange_spec g (H1.ment (H1.hmap b)) (g.inv.mc _ (g.inv.hm b hb1))
  refine ⟨r1, ?_⟩
  rw [r2, g2, upd_upd_same, gv]
  show upd (abs H) dst (some (valM H (H.hmap a) ++ missing (valM H (H.hmap a)) (valM H1 (H1.hmap b)))) = _
  rw [hbv]

/-- `RemoveUnreachableStates` (`second = true`) and the local `res` of `GetCandidateTree` (`second = false`), the shared
    part: a private map node whose entries are cluster POINTERS of the operand -/
theorem shareCore_spec (hI : Inv H) {src dst : Nat} (hs : src ∈ H.hl) (hd : dst ∉ H.hl) (keys : List Nat)
    (second : Bool) :
    Inv (shareCore H src dst keys second) ∧
      abs (shareCore H src dst keys second) =
        upd (abs H) dst (some (missing [] (pick (valM H (H.hmap src)) keys))) := by
  unfold shareCore
  simp only
  obtain ⟨g0, e0⟩ := step_new_dead hI hd
  have hH1 : ∃ H1, (if second = true then freshMap (CowHeap.step H (.new dst)) dst else CowHeap.step H (.new dst)) = H1 ∧
      Owns H1 dst ∧ abs H1 = upd (abs H) dst (some []) := by
    cases second with
    | false => exact ⟨_, if_neg Bool.false_ne_true, g0, e0⟩
    | true =>
      obtain ⟨g1, e1⟩ := freshMap_spec g0.inv g0.live
      exact ⟨_, if_pos rfl, g1, by rw [e1, e0, upd_upd_same]⟩
  obtain ⟨H1, e1, g, g2⟩ := hH1
  rw [e1]
  obtain ⟨hs1, hsv⟩ := val_upd_other g2 hs (fun e => hd (e ▸ hs))
  obtain ⟨r1, r2⟩ := insertRange_spec g (pick (H1.ment (H1.hmap src)) keys) (fun c hc => by
    obtain ⟨kc, hkc, e⟩ := List.mem_map.mp hc
    exact e ▸ g.inv.mc _ (g.inv.hm src hs1) _ (mem_of_lookup_snd (mem_pick_iff.mp hkc).2))
  refine ⟨r1, ?_⟩
  rw [r2, g2, upd_upd_same, (val_upd g2).2, List.nil_append, ← pick_map H1.cdat]
  show upd (abs H) dst (some (missing [] (pick (valM H1 (H1.hmap src)) keys))) = _
  rw [hsv]

end Vata.CowHeapFA
