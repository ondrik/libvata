import Vata.RcStoreX
import Vata.Proofs.RcStore
import Vata.Proofs.MtbddOps
/-!
# The tree below a node, and builders: what every node-producing function of the store has in common

The diagram of a node is its unfolding.  Hash-consing makes it injective on allocated nodes; the second invariant `WfInv`
(inner nodes are reduced, children carry smaller variables) makes it ordered and reduced.  (`WInv.ordered` is another order:
children have smaller node ids, which is what bounds the fuel of the recursions.)

A builder starts in a store `s`, allocates (never frees) and returns a node.  `Built s r T` says that its result `r` is
sound and that the node unfolds to the tree `T`; `WfInv` is then inherited from the TREE: it survives if `T` is `M.WF`
(`Built.wf`; if and only if, for an operation that creates a handle: `Adds.wf_iff`), so the preservation theorems of the store come from `M.apply1_wf`, `M.apply2_wf`, `M.apply3_wf`,
`M.project_wf`, `M.rename_wf_on`, `M.constructLoop_wf` and are not proved a second time on the store.  `spawnLeaf`,
`spawnInternal`, `joinNode` are builders, `Built.trans` runs one after the other, `Built.addHandle` wraps the result into a
handle (`Adds`).

The `recDescend`s of the apply functors share one recursion scheme (`Step`, `Descent`): a step reads the contents of the
argument nodes and yields a leaf value, or the arguments of two recursive calls whose results `joinNode` combines.  Every run
of the scheme is a builder (`Descent.built`); what else holds of every run (`Descent.replay`, `MemoDescent.runM_eq`) is in
`Vata/Proofs/ApplyMemo.lean`.  `descend2` (binary apply, here), `descend1`, `descend3` (`Vata/Proofs/RcStoreXOps.lean`) are the
instances.  The loop of `constructMTBDD` is a builder by an induction of its own (`built_buildCube`).
-/
namespace Vata.RcS
open Vata.R (Data Closed)
open Vata.RcSX (joinNode)

/-! ## the diagram of a node -/

theorem unfold_leaf {dat : Nat → Data} {n v : Nat} (hd : dat n = .leaf v) (fuel : Nat) :
    unfold dat (fuel+1) n = .leaf v := by
  rw [unfold, hd]

theorem unfold_int {dat : Nat → Data} {n lo hi var : Nat} (hd : dat n = .int lo hi var) (fuel : Nat) :
    unfold dat (fuel+1) n = .node var (unfold dat fuel lo) (unfold dat fuel hi) := by
  rw [unfold, hd]

theorem unfold_congr {dat dat' : Nat → Data} {ids : List Nat} (hC : Closed ids dat) (hd : ∀ m, m ∈ ids → dat' m = dat m) :
    ∀ (fuel n : Nat), n ∈ ids → unfold dat' fuel n = unfold dat fuel n
  | 0, _, _ => rfl
  | fuel+1, n, hn => by
    cases hdn : dat n with
    | leaf v => rw [unfold_leaf hdn, unfold_leaf ((hd n hn).trans hdn)]
    | int lo hi var =>
      obtain ⟨h1, h2⟩ := hC n hn lo hi var hdn
      rw [unfold_int hdn, unfold_int ((hd n hn).trans hdn), unfold_congr hC hd fuel lo h1, unfold_congr hC hd fuel hi h2]

theorem WInv.unfold_fuel {s : Store} {P : List Nat} (h : WInv s P) : ∀ (f1 f2 n : Nat), n ∈ s.ids → n < f1 → n < f2 →
    unfold s.dat f1 n = unfold s.dat f2 n
  | 0, _, _, _, h, _ => absurd h (Nat.not_lt_zero _)
  | _+1, 0, _, _, _, h => absurd h (Nat.not_lt_zero _)
  | f1+1, f2+1, n, hn, h1, h2 => by
    cases hd : s.dat n with
    | leaf v => rw [unfold_leaf hd, unfold_leaf hd]
    | int lo hi var =>
      obtain ⟨c1, c2⟩ := h.closed n hn lo hi var hd
      obtain ⟨o1, o2⟩ := h.ordered n hn lo hi var hd
      have b1 := Nat.le_of_lt_succ h1
      have b2 := Nat.le_of_lt_succ h2
      rw [unfold_int hd, unfold_int hd,
        h.unfold_fuel f1 f2 lo c1 (Nat.lt_of_lt_of_le o1 b1) (Nat.lt_of_lt_of_le o1 b2),
        h.unfold_fuel f1 f2 hi c2 (Nat.lt_of_lt_of_le o2 b1) (Nat.lt_of_lt_of_le o2 b2)]

theorem WInv.unfold_node {s : Store} {P : List Nat} (h : WInv s P) {n lo hi var : Nat} (hn : n ∈ s.ids)
    (hd : s.dat n = .int lo hi var) :
    unfold s.dat (n+1) n = .node var (unfold s.dat (lo+1) lo) (unfold s.dat (hi+1) hi) := by
  obtain ⟨c1, c2⟩ := h.closed n hn lo hi var hd
  obtain ⟨o1, o2⟩ := h.ordered n hn lo hi var hd
  rw [unfold_int hd, h.unfold_fuel n (lo+1) lo c1 o1 (Nat.lt_succ_self _),
    h.unfold_fuel n (hi+1) hi c2 o2 (Nat.lt_succ_self _)]

/-- the diagram (tree) below node `n`: `unfold` with the fuel `n+1` used by `denote` -/
def diagram (s : Store) (n : Nat) : M.Node Nat := unfold s.dat (n+1) n

theorem denote_eq_eval (s : Store) (n : Nat) (ρ : Nat → Bool) : denote s n ρ = M.eval (diagram s n) ρ := rfl

theorem diagram_congr {s s' : Store} (h : s'.dat = s.dat) (n : Nat) : diagram s' n = diagram s n := by
  unfold diagram; rw [h]

theorem diagram_leaf {s : Store} {n v : Nat} (hd : s.dat n = .leaf v) : diagram s n = .leaf v :=
  unfold_leaf hd n

theorem WInv.diagram_int {s : Store} {P : List Nat} (h : WInv s P) {n lo hi var : Nat} (hn : n ∈ s.ids)
    (hd : s.dat n = .int lo hi var) : diagram s n = .node var (diagram s lo) (diagram s hi) :=
  h.unfold_node hn hd

theorem WInv.diagram_ext {s s' : Store} {P : List Nat} (h : WInv s P) (e : Ext s s') {n : Nat} (hn : n ∈ s.ids) :
    diagram s' n = diagram s n :=
  unfold_congr h.closed (fun m hm => e.dat m (h.fresh m hm)) (n+1) n hn

/-- hash-consing, also inside an operation: two allocated nodes with the same diagram are the same node -/
theorem WInv.diagram_inj {s : Store} {P : List Nat} (h : WInv s P) {n1 n2 : Nat} (h1 : n1 ∈ s.ids) (h2 : n2 ∈ s.ids)
    (he : diagram s n1 = diagram s n2) : n1 = n2 := by
  induction n1 using Nat.strongRecOn generalizing n2 with | _ n1 ih
  cases hd1 : s.dat n1 with
  | leaf v1 =>
    cases hd2 : s.dat n2 with
    | leaf v2 =>
      rw [diagram_leaf hd1, diagram_leaf hd2] at he
      cases he
      exact keys_inj h.leafK ((h.leafOk _ _).mpr ⟨h1, hd1⟩) ((h.leafOk _ _).mpr ⟨h2, hd2⟩)
    | int lo2 hi2 var2 =>
      rw [diagram_leaf hd1, h.diagram_int h2 hd2] at he
      cases he
  | int lo1 hi1 var1 =>
    cases hd2 : s.dat n2 with
    | leaf v2 =>
      rw [h.diagram_int h1 hd1, diagram_leaf hd2] at he
      cases he
    | int lo2 hi2 var2 =>
      rw [h.diagram_int h1 hd1, h.diagram_int h2 hd2] at he
      injection he with ev el eh
      obtain ⟨c1, c2⟩ := h.closed n1 h1 lo1 hi1 var1 hd1
      obtain ⟨c3, c4⟩ := h.closed n2 h2 lo2 hi2 var2 hd2
      obtain ⟨o1, o2⟩ := h.ordered n1 h1 lo1 hi1 var1 hd1
      have e1 : lo1 = lo2 := ih lo1 o1 c1 c3 el
      have e2 : hi1 = hi2 := ih hi1 o2 c2 c4 eh
      subst ev; subst e1; subst e2
      exact keys_inj h.intK ((h.intOk (lo1, hi1, var1) _).mpr ⟨h1, hd1⟩) ((h.intOk (lo1, hi1, var1) _).mpr ⟨h2, hd2⟩)

def VLt (x : Nat) : Data → Prop
  | .leaf _ => True
  | .int _ _ y => y < x

theorem VLt.mono {x z : Nat} (hxz : x ≤ z) : ∀ {d : Data}, VLt x d → VLt z d
  | .leaf _, _ => trivial
  | .int _ _ _, h => Nat.lt_of_lt_of_le h hxz

/-- second invariant: every allocated inner node is reduced (`low ≠ high`, the `assert` of `recDescend`) and its
    children carry smaller variables -/
structure WfInv (s : Store) : Prop where
  red : ∀ m, m ∈ s.ids → ∀ lo hi var, s.dat m = .int lo hi var → lo ≠ hi
  ord : ∀ m, m ∈ s.ids → ∀ lo hi var, s.dat m = .int lo hi var → VLt var (s.dat lo) ∧ VLt var (s.dat hi)

theorem wfInv_empty : WfInv empty := ⟨fun m hm => by simp [empty] at hm, fun m hm => by simp [empty] at hm⟩

theorem WInv.varLt_diagram_iff {s : Store} {P : List Nat} (h : WInv s P) {n x : Nat} (hn : n ∈ s.ids) :
    M.VarLt x (diagram s n) ↔ VLt x (s.dat n) := by
  cases hd : s.dat n with
  | leaf v => rw [diagram_leaf hd]; exact Iff.rfl
  | int lo hi var => rw [h.diagram_int hn hd]; exact Iff.rfl

theorem diagram_wf {s : Store} {P : List Nat} (h : WInv s P) (w : WfInv s) {n : Nat} (hn : n ∈ s.ids) :
    M.WF (diagram s n) := by
  induction n using Nat.strongRecOn with | _ n ih
  cases hd : s.dat n with
  | leaf v => rw [diagram_leaf hd]; trivial
  | int lo hi var =>
    rw [h.diagram_int hn hd]
    obtain ⟨c1, c2⟩ := h.closed n hn lo hi var hd
    obtain ⟨o1, o2⟩ := h.ordered n hn lo hi var hd
    obtain ⟨v1, v2⟩ := w.ord n hn lo hi var hd
    have w1 := ih lo o1 c1
    have w2 := ih hi o2 c2
    exact ⟨fun e => w.red n hn lo hi var hd (h.diagram_inj c1 c2 e),
      M.below_of_wf_varLt w1 ((h.varLt_diagram_iff c1).mpr v1), M.below_of_wf_varLt w2 ((h.varLt_diagram_iff c2).mpr v2), w1, w2⟩

theorem WfInv.shrink {s s' : Store} (w : WfInv s) (hd : s'.dat = s.dat) (hids : ∀ x, x ∈ s'.ids → x ∈ s.ids) : WfInv s' :=
  ⟨fun m hm lo hi var hdm => w.red m (hids m hm) lo hi var (hd ▸ hdm),
   fun m hm lo hi var hdm => by rw [hd] at hdm ⊢; exact w.ord m (hids m hm) lo hi var hdm⟩

theorem WfInv.alloc {s s' : Store} {d : Data} (h : WInv s []) (w : WfInv s) (hids : s'.ids = s.next :: s.ids)
    (hdat : s'.dat = setF s.dat s.next d)
    (hd : ∀ lo hi var, d = .int lo hi var →
      lo ∈ s.ids ∧ hi ∈ s.ids ∧ lo ≠ hi ∧ VLt var (s.dat lo) ∧ VLt var (s.dat hi)) : WfInv s' := by
  have hN := h.next_not_mem
  have hdx : ∀ x, x ∈ s.ids → s'.dat x = s.dat x := fun x hx => by
    rw [hdat, setF_ne _ _ (ne_of_mem_of_not_mem hx hN)]
  have key : ∀ m, m ∈ s'.ids → ∀ lo hi var, s'.dat m = .int lo hi var →
      lo ≠ hi ∧ VLt var (s'.dat lo) ∧ VLt var (s'.dat hi) := by
    intro m hm lo hi var hdm
    rw [hids] at hm
    rcases List.mem_cons.mp hm with e | hm
    · rw [e, hdat, setF_same] at hdm
      obtain ⟨a, b, c, d1, d2⟩ := hd lo hi var hdm
      rw [hdx lo a, hdx hi b]
      exact ⟨c, d1, d2⟩
    · rw [hdx m hm] at hdm
      obtain ⟨c1, c2⟩ := h.closed m hm lo hi var hdm
      rw [hdx lo c1, hdx hi c2]
      exact ⟨w.red m hm lo hi var hdm, w.ord m hm lo hi var hdm⟩
  exact ⟨fun m hm lo hi var hdm => (key m hm lo hi var hdm).1, fun m hm lo hi var hdm => (key m hm lo hi var hdm).2⟩

theorem spawnLeaf_wfInv {s : Store} {v : Nat} (h : WInv s []) (w : WfInv s) : WfInv (spawnLeaf s v).1 := by
  unfold spawnLeaf
  split
  · exact w
  · exact WfInv.alloc (d := .leaf v) h w rfl rfl (fun lo hi var e => by cases e)

theorem spawnInternal_wfInv {s : Store} {lo hi var : Nat} (h : WInv s []) (w : WfInv s) (hlo : lo ∈ s.ids)
    (hhi : hi ∈ s.ids) (hne : lo ≠ hi) (vlo : VLt var (s.dat lo)) (vhi : VLt var (s.dat hi)) :
    WfInv (spawnInternal s lo hi var).1 := by
  unfold spawnInternal
  split
  · exact w
  · refine WfInv.alloc (d := .int lo hi var) h w rfl rfl ?_
    intro lo' hi' var' e
    cases e
    exact ⟨hlo, hhi, hne, vlo, vhi⟩

theorem addHandle_wfInv {s : Store} {h r : Nat} (w : WfInv s) : WfInv (addHandle s h r) :=
  w.shrink rfl (fun _ hx => hx)

theorem find_addHandle (s : Store) (h r : Nat) : find h (addHandle s h r).hs = some r := by
  simp [addHandle, find]

theorem diagram_addHandle (s : Store) (h r n : Nat) : diagram (addHandle s h r) n = diagram s n := rfl

/-! ## builders -/

theorem ZSub.swap {s : Store} {a b : Nat} {A : List Nat} (h : ZSub s (b :: a :: A)) : ZSub s (a :: b :: A) :=
  h.mono fun _ hx => (List.mem_cons.mp hx).elim (fun e => e ▸ .tail _ (.head _))
    fun hx => (List.mem_cons.mp hx).elim (fun e => e ▸ .head _) fun hx => .tail _ (.tail _ hx)

/-- the successors of an allocated inner node are allocated and, being smaller, within the fuel left for them -/
theorem WInv.kids_lt {s : Store} {P : List Nat} (h : WInv s P) {n lo hi var fuel : Nat} (hn : n ∈ s.ids)
    (hd : s.dat n = .int lo hi var) (hf : n < fuel + 1) : lo ∈ s.ids ∧ hi ∈ s.ids ∧ lo < fuel ∧ hi < fuel :=
  have ⟨c1, c2⟩ := h.closed n hn lo hi var hd
  have ⟨o1, o2⟩ := h.ordered n hn lo hi var hd
  ⟨c1, c2, Nat.lt_of_lt_of_le o1 (Nat.le_of_lt_succ hf), Nat.lt_of_lt_of_le o2 (Nat.le_of_lt_succ hf)⟩

theorem WInv.vlt_of_below {s : Store} {P : List Nat} (h : WInv s P) {n x : Nat} (hn : n ∈ s.ids)
    (hb : M.Below x (diagram s n)) : VLt x (s.dat n) :=
  (h.varLt_diagram_iff hn).mp (M.varLt_of_below hb)

/-- `r` is the result of a builder started in `s`: the store arose by allocations only (`ext`, `freed`, `zr`) and satisfies
    the invariant, the node is allocated and unfolds to `T`; `wf`: ordered and reduced is inherited from the tree -/
structure Built (s : Store) (r : Store × Nat) (T : M.Node Nat) : Prop where
  inv : WInv r.1 []
  ext : Ext s r.1
  mem : r.2 ∈ r.1.ids
  dia : diagram r.1 r.2 = T
  wf  : WfInv s → M.WF T → WfInv r.1
  freed : r.1.freed = s.freed
  zr  : Zr s → Zr r.1

/-- the only node whose counter the builder may have left at 0 is its result (which the caller links or wraps) -/
def Tight (s : Store) (r : Store × Nat) : Prop := ∀ A, ZSub s A → ZSub r.1 (r.2 :: A)

theorem Built.refl {s : Store} (h : WInv s []) {n : Nat} (hn : n ∈ s.ids) : Built s (s, n) (diagram s n) :=
  ⟨h, Ext.refl s, hn, rfl, fun w _ => w, rfl, id⟩

theorem Tight.refl (s : Store) (n : Nat) : Tight s (s, n) := fun _ hA => hA.mono fun _ hx => .tail _ hx

/-- an earlier result is still there after a later builder -/
theorem Built.keep {s : Store} {r1 r2 : Store × Nat} {T1 T2 : M.Node Nat} (b1 : Built s r1 T1) (b2 : Built r1.1 r2 T2) :
    r1.2 ∈ r2.1.ids ∧ diagram r2.1 r1.2 = T1 :=
  ⟨b2.ext.ids _ b1.mem, (b1.inv.diagram_ext b2.ext b1.mem).trans b1.dia⟩

/-- one builder after the other; for `WfInv` the intermediate tree has to be well-formed whenever the final one is -/
theorem Built.trans {s : Store} {r1 r2 : Store × Nat} {T1 T2 : M.Node Nat} (b1 : Built s r1 T1) (b2 : Built r1.1 r2 T2)
    (hwf : WfInv s → M.WF T2 → M.WF T1) : Built s r2 T2 :=
  ⟨b2.inv, b1.ext.trans b2.ext, b2.mem, b2.dia, fun w wf => b2.wf (b1.wf w (hwf w wf)) wf, b2.freed.trans b1.freed,
   fun h => b2.zr (b1.zr h)⟩

theorem spawnLeaf_freed (s : Store) (v : Nat) : (spawnLeaf s v).1.freed = s.freed := by
  unfold spawnLeaf; split <;> rfl

theorem spawnInternal_freed (s : Store) (lo hi var : Nat) : (spawnInternal s lo hi var).1.freed = s.freed := by
  unfold spawnInternal; split <;> rfl

theorem built_spawnLeaf {s : Store} (h : WInv s []) (v : Nat) : Built s (spawnLeaf s v) (.leaf v) ∧ Tight s (spawnLeaf s v) :=
  have ⟨a, b, c, d, e⟩ := spawnLeaf_inv (v := v) h
  ⟨⟨a, b, c, diagram_leaf d, fun w _ => spawnLeaf_wfInv h w, spawnLeaf_freed s v, Zr_spawnLeaf⟩, e⟩

theorem built_spawnInternal {s : Store} {a b : Nat} (var : Nat) (h : WInv s []) (ha : a ∈ s.ids) (hb : b ∈ s.ids) :
    Built s (spawnInternal s a b var) (.node var (diagram s a) (diagram s b)) ∧
    ∀ A, ZSub s (a :: b :: A) → ZSub (spawnInternal s a b var).1 ((spawnInternal s a b var).2 :: A) := by
  obtain ⟨w3, e3, m3, d3, z3⟩ := spawnInternal_inv (var := var) h ha hb
  refine ⟨⟨w3, e3, m3, ?_, fun w wf => ?_, spawnInternal_freed .., fun hz => Zr_spawnInternal hz ha hb⟩, z3⟩
  · rw [w3.diagram_int m3 d3, h.diagram_ext e3 ha, h.diagram_ext e3 hb]
  · exact spawnInternal_wfInv h w ha hb (fun e => wf.1 (by rw [e])) (h.vlt_of_below ha wf.2.1) (h.vlt_of_below hb wf.2.2.1)

theorem built_joinNode {s : Store} {a b : Nat} (var : Nat) (h : WInv s []) (ha : a ∈ s.ids) (hb : b ∈ s.ids) :
    Built s (joinNode s a b var) (M.mk var (diagram s a) (diagram s b)) ∧
    ∀ A, ZSub s (b :: a :: A) → ZSub (joinNode s a b var).1 ((joinNode s a b var).2 :: A) := by
  unfold joinNode M.mk
  by_cases heq : a = b
  · rw [if_pos heq, if_pos (by rw [heq])]
    refine ⟨Built.refl h ha, fun A hA => hA.mono fun x hx => ?_⟩
    rcases List.mem_cons.mp hx with e | hx
    · rw [e, ← heq]; exact List.mem_cons_self
    · exact hx
  · rw [if_neg heq, if_neg (fun e => heq (h.diagram_inj ha hb e))]
    obtain ⟨bi, z⟩ := built_spawnInternal var h ha hb
    exact ⟨bi, fun A hA => z A (ZSub.swap hA)⟩

/-- two builders, then `joinNode` of their results -/
theorem Built.join {s : Store} {r1 r2 : Store × Nat} {T1 T2 : M.Node Nat} (b1 : Built s r1 T1) (b2 : Built r1.1 r2 T2)
    (var : Nat) :
    Built s (joinNode r2.1 r1.2 r2.2 var) (M.mk var T1 T2) ∧
    (Tight s r1 → Tight r1.1 r2 → Tight s (joinNode r2.1 r1.2 r2.2 var)) := by
  obtain ⟨m1, d1⟩ := b1.keep b2
  obtain ⟨b3, z3⟩ := built_joinNode var b2.inv m1 b2.mem
  rw [d1, b2.dia] at b3
  exact ⟨b1.trans (b2.trans b3 fun _ wf => (M.wf_of_wf_mk wf).2) fun _ wf => (M.wf_of_wf_mk wf).1,
    fun t1 t2 A hA => z3 A (t2 _ (t1 A hA))⟩

/-- two builders, then `spawnInternal` of their results (no reduction test: `renameNode`) -/
theorem Built.node {s : Store} {r1 r2 : Store × Nat} {T1 T2 : M.Node Nat} (b1 : Built s r1 T1) (b2 : Built r1.1 r2 T2)
    (var : Nat) :
    Built s (spawnInternal r2.1 r1.2 r2.2 var) (.node var T1 T2) ∧
    (Tight s r1 → Tight r1.1 r2 → Tight s (spawnInternal r2.1 r1.2 r2.2 var)) := by
  obtain ⟨m1, d1⟩ := b1.keep b2
  obtain ⟨b3, z3⟩ := built_spawnInternal var b2.inv m1 b2.mem
  rw [d1, b2.dia] at b3
  exact ⟨b1.trans (b2.trans b3 fun _ wf => wf.2.2.2.2) fun _ wf => wf.2.2.2.1,
    fun t1 t2 A hA => z3 A (ZSub.swap (t2 _ (t1 A hA)))⟩

/-! ## wrapping the result into a handle -/

/-- what an executed operation that creates the handle `dst` for the tree `T` does -/
structure Adds (s s' : Store) (dst : Nat) (T : M.Node Nat) : Prop where
  inv   : WInv s' []
  frame : Frame dst s s'
  root  : ∃ r, find dst s'.hs = some r ∧ diagram s' r = T
  wf    : WfInv s → M.WF T → WfInv s'

theorem Built.addHandle {s : Store} {r : Store × Nat} {T : M.Node Nat} {dst : Nat} (b : Built s r T)
    (hf : find dst s.hs = none) :
    Adds s (addHandle r.1 dst r.2) dst T ∧ (Tight s r → OpOk dst s (addHandle r.1 dst r.2)) :=
  ⟨⟨(addHandle_inv (h := dst) b.inv b.mem (by rw [b.ext.hs]; exact hf)).1, (b.ext.frame dst).trans (frame_addHandle _ _ _),
      ⟨r.2, find_addHandle _ _ _, b.dia⟩, fun w wf => addHandle_wfInv (b.wf w wf)⟩,
    fun t => addHandle_ok hf b.inv b.ext b.mem t b.zr⟩

/-- an operation that first allocates and then creates the handle -/
theorem Adds.after {s s1 s' : Store} {dst : Nat} {T : M.Node Nat} (a : Adds s1 s' dst T) (e : Ext s s1)
    (w1 : WfInv s → WfInv s1) : Adds s s' dst T :=
  ⟨a.inv, (e.frame dst).trans a.frame, a.root, fun w wf => a.wf (w1 w) wf⟩

/-- the operation keeps the store ordered and reduced exactly when the tree it builds is -/
theorem Adds.wf_iff {s s' : Store} {dst : Nat} {T : M.Node Nat} (a : Adds s s' dst T) (w : WfInv s) :
    WfInv s' ↔ M.WF T := by
  refine ⟨fun w' => ?_, a.wf w⟩
  obtain ⟨r, hr, hd⟩ := a.root
  exact hd ▸ diagram_wf a.inv w' (a.inv.rin r (root_mem hr))

theorem Adds.denote {s s' : Store} {dst : Nat} {T : M.Node Nat} (a : Adds s s' dst T) :
    ∃ r, find dst s'.hs = some r ∧ diagram s' r = T ∧ ∀ ρ, denote s' r ρ = M.eval T ρ :=
  have ⟨r, hr, hd⟩ := a.root
  ⟨r, hr, hd, fun ρ => by rw [denote_eq_eval, hd]⟩

end Vata.RcS

/-! ## the recursion scheme of the apply functors -/

namespace Vata.RcSX
open Vata.R (Data)
open Vata.RcS

/-- what one call of a `recDescend` reads off the contents of its argument nodes `κ`: the value of the leaf to spawn, or the
    arguments of its two recursive calls and the variable of the node that joins their results -/
inductive Step (κ : Type) where
  | leaf (v : Nat)
  | node (lo hi : κ) (var : Nat)

/-- carrying a step out in store `s`; `run` is the recursive call -/
def Step.exec {κ : Type} (run : Store → κ → Store × Nat) (s : Store) : Step κ → Store × Nat
  | .leaf v => spawnLeaf s v
  | .node lo hi var => joinNode (run (run s lo).1 hi).1 (run s lo).2 (run (run s lo).1 hi).2 var

/-- carrying a step out at tree level; `T` is the recursive call -/
def Step.tree {κ : Type} (T : κ → M.Node Nat) : Step κ → M.Node Nat
  | .leaf v => .leaf v
  | .node lo hi var => M.mk var (T lo) (T hi)

theorem Step.ite_eq_node {κ : Type} {c : Prop} [Decidable c] {v var var' : Nat} {lo hi lo' hi' : κ}
    (h : (if c then Step.leaf v else Step.node lo' hi' var') = Step.node lo hi var) :
    ¬ c ∧ lo = lo' ∧ hi = hi' ∧ var = var' := by
  by_cases hc : c
  · rw [if_pos hc] at h
    cases h
  · rw [if_neg hc] at h
    cases h
    exact ⟨hc, rfl, rfl, rfl⟩

/-- a fuel-driven function `run` that follows the scheme: its step looks only at the nodes of its argument (`nodes`), and
    in a store satisfying the invariant the recursive calls get allocated nodes and a smaller `size`; `tree` is the tree-level
    function it computes: it unfolds as the step says and looks only at the nodes below the arguments -/
structure Descent (κ : Type) where
  run : Nat → Store → κ → Store × Nat
  step : (Nat → Data) → κ → Step κ
  nodes : κ → List Nat
  size : κ → Nat
  run_succ : ∀ fuel s k, run (fuel+1) s k = (step s.dat k).exec (run fuel) s
  step_congr : ∀ {dat dat' : Nat → Data} {k : κ}, (∀ n ∈ nodes k, dat' n = dat n) → step dat' k = step dat k
  step_node : ∀ {s : Store} {k lo hi : κ} {var : Nat}, WInv s [] → (∀ n ∈ nodes k, n ∈ s.ids) →
    step s.dat k = .node lo hi var →
    (∀ n ∈ nodes lo, n ∈ s.ids) ∧ (∀ n ∈ nodes hi, n ∈ s.ids) ∧ size lo < size k ∧ size hi < size k
  tree : Store → κ → M.Node Nat
  tree_ext : ∀ {s s' : Store} {k : κ}, WInv s [] → Ext s s' → (∀ n ∈ nodes k, n ∈ s.ids) → tree s' k = tree s k
  tree_step : ∀ {s : Store} {k : κ}, WInv s [] → (∀ n ∈ nodes k, n ∈ s.ids) → tree s k = (step s.dat k).tree (tree s)

/-- a run of the scheme is a builder for its tree-level function -/
theorem Descent.built {κ : Type} (D : Descent κ) : ∀ (fuel : Nat) (s : Store) (k : κ), WInv s [] →
    (∀ n ∈ D.nodes k, n ∈ s.ids) → D.size k < fuel → Built s (D.run fuel s k) (D.tree s k) ∧ Tight s (D.run fuel s k)
  | 0, _, _, _, _, hf => absurd hf (Nat.not_lt_zero _)
  | fuel+1, s, k, h, hk, hf => by
    rw [D.run_succ, D.tree_step h hk]
    cases hst : D.step s.dat k with
    | leaf v => exact built_spawnLeaf h v
    | node lo hi var =>
      obtain ⟨klo, khi, llo, lhi⟩ := D.step_node h hk hst
      obtain ⟨b1, t1⟩ := D.built fuel s lo h klo (Nat.lt_of_lt_of_le llo (Nat.le_of_lt_succ hf))
      obtain ⟨b2, t2⟩ := D.built fuel _ hi b1.inv (fun n hn => b1.ext.ids n (khi n hn))
        (Nat.lt_of_lt_of_le lhi (Nat.le_of_lt_succ hf))
      rw [D.tree_ext h b1.ext khi] at b2
      obtain ⟨b3, t3⟩ := b1.join b2 var
      exact ⟨b3, t3 t1 t2⟩

end Vata.RcSX

/-! ## binary apply -/

namespace Vata.RcS
open Vata.R (Data)
open Vata.RcSX (Step Descent)


/-- the variable of the node spawned by `recDescend` -/
def topVar (d1 d2 : Data) : Nat := if br d2 d1 = true then varOf d2 else varOf d1

/-- `M.apply2` on the diagrams of two nodes in the vocabulary of `recDescend` (`br` = `classifyCase2`, `kids` = the
    low / high successors): two leaves -/
theorem apply2_leaves (f : Nat → Nat → Nat) {s : Store} {n1 n2 : Nat}
    (hb : br (s.dat n1) (s.dat n2) = false ∧ br (s.dat n2) (s.dat n1) = false) :
    M.apply2 f (diagram s n1) (diagram s n2) = .leaf (f (valOf (s.dat n1)) (valOf (s.dat n2))) := by
  cases hd1 : s.dat n1 with
  | leaf v =>
    cases hd2 : s.dat n2 with
    | leaf u => rw [diagram_leaf hd1, diagram_leaf hd2, M.apply2]; rfl
    | int lo hi y => rw [hd1, hd2] at hb; exact nomatch hb.2
  | int lo hi x =>
    cases hd2 : s.dat n2 with
    | leaf u => rw [hd1, hd2] at hb; exact nomatch hb.1
    | int lo' hi' y =>
      rw [hd1, hd2] at hb
      simp only [br, decide_eq_false_iff_not] at hb
      omega

/-- … and otherwise one step of `classifyCase2` on the diagrams: an operand that is branched carries the variable of the node
    to be spawned, the other is passed on and its variable (if any) is below it -/
theorem step2_diagram {s : Store} {P : List Nat} (w : WInv s P) {n1 n2 : Nat} (h1 : n1 ∈ s.ids) (h2 : n2 ∈ s.ids)
    (hb : ¬ (br (s.dat n1) (s.dat n2) = false ∧ br (s.dat n2) (s.dat n1) = false)) :
    M.Step2 (diagram s n1) (diagram s n2) (topVar (s.dat n1) (s.dat n2))
      (diagram s (kids (s.dat n1) (br (s.dat n1) (s.dat n2)) n1).1) (diagram s (kids (s.dat n2) (br (s.dat n2) (s.dat n1)) n2).1)
      (diagram s (kids (s.dat n1) (br (s.dat n1) (s.dat n2)) n1).2)
      (diagram s (kids (s.dat n2) (br (s.dat n2) (s.dat n1)) n2).2) := by
  have v1 : ∀ {x}, VLt x (s.dat n1) → M.VarLt x (diagram s n1) := (w.varLt_diagram_iff h1).mpr
  have v2 : ∀ {x}, VLt x (s.dat n2) → M.VarLt x (diagram s n2) := (w.varLt_diagram_iff h2).mpr
  cases hd1 : s.dat n1 with
  | leaf v =>
    cases hd2 : s.dat n2 with
    | leaf u => rw [hd1, hd2] at hb; exact absurd ⟨rfl, rfl⟩ hb
    | int lo hi y => rw [w.diagram_int h2 hd2]; exact .right y _ _ (v1 (hd1 ▸ trivial))
  | int lo hi x =>
    cases hd2 : s.dat n2 with
    | leaf u => rw [w.diagram_int h1 hd1]; exact .left x _ _ (v2 (hd2 ▸ trivial))
    | int lo' hi' y =>
      unfold topVar
      rcases Nat.lt_trichotomy x y with h | rfl | h
      · rw [show br (.int lo hi x) (.int lo' hi' y) = false from decide_eq_false (Nat.not_le.mpr h),
          show br (.int lo' hi' y) (.int lo hi x) = true from decide_eq_true (Nat.le_of_lt h), w.diagram_int h2 hd2]
        exact .right y _ _ (v1 (hd1 ▸ h))
      · rw [show br (.int lo hi x) (.int lo' hi' x) = true from decide_eq_true (Nat.le_refl x),
          show br (.int lo' hi' x) (.int lo hi x) = true from decide_eq_true (Nat.le_refl x), w.diagram_int h1 hd1,
          w.diagram_int h2 hd2]
        exact .both ..
      · rw [show br (.int lo hi x) (.int lo' hi' y) = true from decide_eq_true (Nat.le_of_lt h),
          show br (.int lo' hi' y) (.int lo hi x) = false from decide_eq_false (Nat.not_le.mpr h), w.diagram_int h1 hd1]
        exact .left x _ _ (v2 (hd2 ▸ h))

/-- the step of `Apply2Functor::recDescend` -/
def step2 (f : Nat → Nat → Nat) (dat : Nat → Data) (k : Nat × Nat) : Step (Nat × Nat) :=
  let d1 := dat k.1
  let d2 := dat k.2
  let b1 := br d1 d2
  let b2 := br d2 d1
  if b1 = false ∧ b2 = false then .leaf (f (valOf d1) (valOf d2))
  else .node ((kids d1 b1 k.1).1, (kids d2 b2 k.2).1) ((kids d1 b1 k.1).2, (kids d2 b2 k.2).2) (topVar d1 d2)

theorem forall_mem_pair {p : Nat → Prop} {a b : Nat} : (∀ n ∈ [a, b], p n) ↔ p a ∧ p b := by
  simp

def descend2 (f : Nat → Nat → Nat) : Descent (Nat × Nat) where
  run fuel s k := recDescend f fuel s k.1 k.2
  step := step2 f
  nodes k := [k.1, k.2]
  size k := k.1 + k.2
  run_succ fuel s k := by
    -- the model function writes `Step.exec` out (`RcS.recDescend` has the body of `joinNode` inline): once the `if` of the
    -- step is moved outside `exec`, the two sides agree by unfolding; every instance of the scheme is made this way
    simp only [step2]
    rw [apply_ite (Step.exec _ s)]
    rfl
  step_congr h := by
    obtain ⟨e1, e2⟩ := forall_mem_pair.mp h
    simp only [step2, e1, e2]
  step_node {s k lo hi var} h hk hst := by
    obtain ⟨h1, h2⟩ := forall_mem_pair.mp hk
    obtain ⟨hb, rfl, rfl, rfl⟩ := Step.ite_eq_node hst
    obtain ⟨k11, k12, k21, k22, l1, l2⟩ := kids_ok h h1 h2 hb
    exact ⟨forall_mem_pair.mpr ⟨k11, k21⟩, forall_mem_pair.mpr ⟨k12, k22⟩, l1, l2⟩
  tree s k := M.apply2 f (diagram s k.1) (diagram s k.2)
  tree_ext h e hk := by
    obtain ⟨h1, h2⟩ := forall_mem_pair.mp hk
    simp only [h.diagram_ext e h1, h.diagram_ext e h2]
  tree_step {s k} h hk := by
    obtain ⟨h1, h2⟩ := forall_mem_pair.mp hk
    simp only [step2]
    by_cases hb : br (s.dat k.1) (s.dat k.2) = false ∧ br (s.dat k.2) (s.dat k.1) = false
    · rw [if_pos hb, apply2_leaves f hb]; rfl
    · rw [if_neg hb, (step2_diagram h h1 h2 hb).apply2]; rfl

/-- `Apply2Functor::recDescend` is a builder for `M.apply2` of the diagrams -/
theorem built_recDescend (f : Nat → Nat → Nat) (fuel : Nat) (s : Store) (n1 n2 : Nat) (h : WInv s []) (h1 : n1 ∈ s.ids)
    (h2 : n2 ∈ s.ids) (hf : n1 + n2 < fuel) :
    Built s (recDescend f fuel s n1 n2) (M.apply2 f (diagram s n1) (diagram s n2)) ∧ Tight s (recDescend f fuel s n1 n2) :=
  (descend2 f).built fuel s (n1, n2) h (forall_mem_pair.mpr ⟨h1, h2⟩) hf

/-! ## the loop of `constructMTBDD` -/

/-- one round of the loop for a position that is not "don't care": a node with the children `sink` and `proc`, in the order
    given by the position, is spawned and becomes the new `proc`; on trees, where `T` gives the tree of a node -/
theorem buildCube_some (sink : Nat) (s : Store) (proc i : Nat) (b : Bool) (as : List (Option Bool)) :
    ∃ lo hi, (lo = sink ∧ hi = proc ∨ lo = proc ∧ hi = sink) ∧
      buildCube sink s proc i (some b :: as) =
        buildCube sink (spawnInternal s lo hi i).1 (spawnInternal s lo hi i).2 (i+1) as ∧
      ∀ {d : Nat} (T : Nat → M.Node Nat), T sink = .leaf d →
        M.constructLoop (fun x => x) (.leaf d) (some b :: as) i (T proc) =
          M.constructLoop (fun x => x) (.leaf d) as (i+1) (.node i (T lo) (T hi)) := by
  cases b
  · exact ⟨proc, sink, Or.inr ⟨rfl, rfl⟩, rfl, fun T e => by rw [e]; rfl⟩
  · exact ⟨sink, proc, Or.inl ⟨rfl, rfl⟩, rfl, fun T e => by rw [e]; rfl⟩

/-- the loop is a builder for `M.constructLoop` on the diagram of the root `proc`; if it builds anything, the result is an
    inner node, and of `proc`, the sink and the nodes built only the result may have counter 0 afterwards -/
theorem built_buildCube (sink d : Nat) : ∀ (as : List (Option Bool)) (s : Store) (proc i : Nat), WInv s [] → sink ∈ s.ids →
    proc ∈ s.ids → s.dat sink = .leaf d →
    Built s (buildCube sink s proc i as) (M.constructLoop (fun x => x) (.leaf d) as i (diagram s proc)) ∧
    (buildCube sink s proc i as = (s, proc) ∨
      ((∃ lo hi var, (buildCube sink s proc i as).1.dat (buildCube sink s proc i as).2 = .int lo hi var) ∧
       ∀ A, ZSub s (proc :: sink :: A) → ZSub (buildCube sink s proc i as).1 ((buildCube sink s proc i as).2 :: A)))
  | [], _, _, _, h, _, hp, _ => ⟨Built.refl h hp, Or.inl rfl⟩
  | none :: as, s, proc, i, h, hs, hp, ds => built_buildCube sink d as s proc (i+1) h hs hp ds
  | some b :: as, s, proc, i, h, hs, hp, ds => by
    obtain ⟨lo, hi, hlh, e, eT⟩ := buildCube_some sink s proc i b as
    rw [e, eT (diagram s) (diagram_leaf ds)]
    have ⟨hlo, hhi, hsub⟩ : lo ∈ s.ids ∧ hi ∈ s.ids ∧ ∀ A, proc :: sink :: A ⊆ lo :: hi :: A := by
      rcases hlh with ⟨rfl, rfl⟩ | ⟨rfl, rfl⟩
      · exact ⟨hs, hp, fun A => (List.Perm.swap ..).subset⟩
      · exact ⟨hp, hs, fun A => List.Subset.refl _⟩
    obtain ⟨b1, z1⟩ := built_spawnInternal i h hlo hhi
    have d1 := (spawnInternal_inv (var := i) h hlo hhi).2.2.2.1
    obtain ⟨b2, dj⟩ := built_buildCube sink d as _ _ (i+1) b1.inv (b1.ext.ids _ hs) b1.mem
      ((b1.ext.dat _ (h.fresh _ hs)).trans ds)
    rw [b1.dia] at b2
    refine ⟨b1.trans b2 fun _ wf => M.constructLoop_wf_sub _ _ as (i+1) _ wf, Or.inr ?_⟩
    have zz : ∀ A, ZSub s (proc :: sink :: A) → ZSub (spawnInternal s lo hi i).1 ((spawnInternal s lo hi i).2 :: A) :=
      fun A hA => z1 A (hA.mono (hsub A))
    rcases dj with heq | ⟨hint, z2⟩
    · rw [heq]
      exact ⟨⟨_, _, _, d1⟩, zz⟩
    · exact ⟨hint, fun A hA => z2 A ((zz A hA).mono (List.cons_subset_cons _ (List.subset_cons_self ..)))⟩

end Vata.RcS
