import Vata.Proofs.TimbukLayoutReject
import Vata.Proofs.TimbukEval
/-!
# C13 (continued) – the Timbuk parser on text that the serializer did NOT write

> For every automaton description, parsing its serialisation gives back the same final states and rules (… nullary rules
> written with or without parentheses, empty sections …).  For any input text whatsoever the parser and the loaders either
> succeed or throw a standard exception.

`C13.lean` proves `parse ∘ serialise` for the one text the serializer writes.  This file is about the other texts of the
same description – other white space, `a()` for `a`, other section orders, missing sections, `\r\n` – and about classes of
texts that are answered by an exception.

## How the C++ is read into the model

The model is the one of `C13.lean`: `parseTimbuk` / `Timbuk.parseC` transcribe `parse_timbuk`
(`src/timbuk_parser-nobison.cc`) line by line.  What matters here, quoted from the source:

* `std::string str = trim(line); if (str.empty()) { continue; }` – blank lines are skipped everywhere; leading and trailing
  white space of every line is dropped; `\r` is white space (`isspace`), so `\r\n` line ends are accepted.
* header words are cut by `read_word` (`find_if(isspace)`, then `trim`) – any non-empty run of white space separates;
  `Vata.Timbuk.stepHeader_eq_W`: a header line is judged by its list of words alone.
* the section keywords may come in any order, each at most once (`if (ops_parsed) throw …`), all are optional; only
  `Transitions` is required (`if (!are_transitions) throw … "Transitions not specified"`).
* transition line: `lhs = trim(str.substr(0, arrow_pos)); rhs = trim(str.substr(arrow_pos + 2))` – free white space around
  `->`; `lab = trim(lhs.substr(0, parens_begin_pos))` – white space between symbol and `(`;
  `for (state : state_tuple) state = trim(state)` – white space around every child;
  **`if ((state_tuple.size() == 1) && state_tuple[0] == "") state_tuple = { }` comes AFTER the trimming loop**, hence
  `a()`, `a( )`, `a(\t \t)`, `a ()` all denote the nullary rule `a` (the model agrees: `#guard`s in `Vata/Timbuk.lean`, which
  carry the answers of the real library, and the examples below).

A text is described by a `Timbuk.Layout` (`Vata/Proofs/TimbukLayoutFile.lean`): header lines `HLine` (kind, white space
before the keyword, every word with the non-empty white gap before it, white space at the end), the `Transitions` line,
transition lines `TLine` (`pre sym [afterSym ( padL kid padR , … ) ] beforeArrow -> afterArrow parent post`, for a nullary
rule optionally `sym afterSym ( inner )`), blank lines before every line and at the end.  `Layout.text` joins the lines
with `\n`; `endBlanks = [[]]` is a final line end, `[]` none.  `Layout.Ok F d` (`Blank` = white characters other than
`\n`): `F` is a layout of the tokens of `d`, in the order of `d`.  `Layout.okB` is the executable check.

Abstracted: nothing of the parser; the layouts do not cover a text after the keyword on the `Transitions` line (ignored
by the C++, example below), nor other spellings of the tokens themselves (`q:0` for a state, `+2` for a rank).

## Findings while reading (all confirmed by the `#guard`s of `Vata/Timbuk.lean`, which were generated from the real library)

* the parser does **not** compare the rank of a symbol in a rule with `Ops`, nor require `Ops`/`States` to mention the
  names used: `Ops a:0\nTransitions\na(q) -> q` is accepted (example `accepts_rank_mismatch`);
* a missing `Automaton` (or any other header) line is accepted; only a missing `Transitions` is an error;
* the rest of the `Transitions` line is ignored: `Transitions foo -> bar` is accepted and yields no rule;
* `a b(q) -> r` is accepted with the symbol `a b` (no white-space check on the label when parentheses are present), and
  `a(q, ) -> r` with an empty child name; both are serialised to texts that parse differently.
-/
namespace Vata.Props
open Vata.Timbuk

theorem parseTimbuk_congr {s t : String} (h : parseC s.toList = parseC t.toList) : parseTimbuk s = parseTimbuk t := by
  rw [parseTimbuk_eq, parseTimbuk_eq, h]

/-! ### 1. nullary rules with and without parentheses -/

/-- **one line.**  Every spelling `pre a [ws ( ws )] ws -> ws q post` of a nullary rule (`ws`, `pre`, `post`: any white
characters except `\n`, also none; the parentheses present or not) inserts the rule `a -> q`.  Hypotheses (`TLine.Ok`):
the paddings are white, `a` and `q` are good names. -/
theorem C13_nullary_parens_line (st : PState) (line : Str) (l : TLine) (h : l.Ok) (hk : l.kids = []) :
    stepTrans st line (trim l.text) = .ok (addTrans st ([], l.sym, l.par)) := by
  rw [stepTrans_tline st line h]
  simp [TLine.trans, hk]

namespace C13LayoutEx
/-- `a`, `a()`, `a( )`, `a (\t \t)` -/
def l0 : TLine := ⟨[], ['a'], none, [' '], [' '], ['q'], []⟩
def l1 : TLine := ⟨[], ['a'], some ([], [], []), [' '], [' '], ['q'], []⟩
def l2 : TLine := ⟨[], ['a'], some ([], [' '], []), [' '], [' '], ['q'], []⟩
def l3 : TLine := ⟨[' '], ['a'], some ([' '], ['\t', ' ', '\t'], []), [], ['\t'], ['q'], ['\r']⟩
example : String.ofList l0.text = "a -> q" ∧ String.ofList l1.text = "a() -> q" ∧ String.ofList l2.text = "a( ) -> q" ∧
    String.ofList l3.text = " a (\t \t)->\tq\r" := by decide +kernel
example : l0.okB = true ∧ l1.okB = true ∧ l2.okB = true ∧ l3.okB = true := by decide +kernel
example : l0.kids = [] ∧ l1.kids = [] ∧ l2.kids = [] ∧ l3.kids = [] := by decide
theorem parse_a_q : parseTimbuk "Transitions\na -> q" = .ok ⟨"", [], [], [], [([], "a", "q")]⟩ :=
  parseTimbuk_ok (by decide +kernel)
/-- executed: the four spellings give the same description -/
example : parseTimbuk "Transitions\na -> q" = .ok ⟨"", [], [], [], [([], "a", "q")]⟩ ∧
    parseTimbuk "Transitions\na() -> q" = .ok ⟨"", [], [], [], [([], "a", "q")]⟩ ∧
    parseTimbuk "Transitions\na( ) -> q" = .ok ⟨"", [], [], [], [([], "a", "q")]⟩ ∧
    parseTimbuk "Transitions\n a (\t \t)->\tq\r" = .ok ⟨"", [], [], [], [([], "a", "q")]⟩ :=
  ⟨parse_a_q, parseTimbuk_ok (by decide +kernel), parseTimbuk_ok (by decide +kernel), parseTimbuk_ok (by decide +kernel)⟩
/-- spellings that are NOT accepted: nested or repeated parentheses, a comma inside (that is a binary rule with two empty
child names, accepted as such) -/
example : TimbukTest.rejects "Transitions\na(()) -> q" = true ∧ TimbukTest.rejects "Transitions\na()() -> q" = true ∧
    parseTimbuk "Transitions\na(,) -> q" = .ok ⟨"", [], [], [], [(["", ""], "a", "q")]⟩ :=
  ⟨by rw [rejects_ofList]; decide +kernel, by rw [rejects_ofList]; decide +kernel, parseTimbuk_ok (by decide +kernel)⟩
end C13LayoutEx

/-- **whole texts.**  For every well-formed description and every layout `F` of its tokens: respelling any subset of the
nullary rules – `c l = none`: no parentheses, `c l = some (a, i)`: `sym a ( i )` with white `a`, `i` – gives a text that
parses to the same result. -/
theorem C13_nullary_parens (d : AutDesc) (hwf : d.WellFormed) (F : Layout) (hF : F.Ok (serTokens (ofS d)))
    (c : TLine → Option (Str × Str)) (hc : ∀ l p, c l = some p → Blank p.1 ∧ Blank p.2) :
    parseTimbuk (String.ofList (F.reparen c).text) = parseTimbuk (String.ofList F.text) := by
  apply parseTimbuk_congr
  rw [String.toList_ofList, String.toList_ofList, parseC_reparen _ (serTokens_wf (wf_of_wellFormed hwf)) F hF c hc]

/-! ### 2. layout insensitivity -/

/-- **the result on every layout**, also with missing sections: the parser succeeds and returns exactly the sections that
were written (as `std::set`s), the others empty.  Covers: any white space (not `\n`) before and after every line – trailing
blanks, `\r\n` –, any non-empty white gaps between header words, any white space around `->`, between symbol and `(`,
around every child; blank lines anywhere; any order of the header sections; with or without final line end; nullary rules
with or without parentheses. -/
theorem C13_layout_sections (d : Desc) (hwf : d.wellFormed = true) (F : Layout) (hF : F.Ok d) :
    parseC F.text = .ok (F.result d) :=
  parseC_layout d (wf_of_wellFormed hwf) F hF

/-- **layout insensitivity**: every layout of the tokens the serializer writes for `d` (`serTokens`: `anonymous` for the
empty name, the sections in `std::set` order) that has all four header sections parses to exactly what the serializer's own
text parses to. -/
theorem C13_layout_insensitive (d : AutDesc) (hwf : d.WellFormed) (F : Layout) (hF : F.Ok (serTokens (ofS d)))
    (hall : ∀ k, k ∈ F.kinds) : parseTimbuk (String.ofList F.text) = parseTimbuk (serialize d) := by
  apply parseTimbuk_congr
  unfold serialize
  rw [String.toList_ofList, String.toList_ofList, parseC_layout_serialize _ (wf_of_wellFormed hwf) F hF hall]

/-- two layouts of the same description with the same sections parse alike -/
theorem C13_layout_pair (d : Desc) (hwf : d.wellFormed = true) (F F' : Layout) (hF : F.Ok d) (hF' : F'.Ok d)
    (hk : ∀ k, k ∈ F.kinds ↔ k ∈ F'.kinds) : parseC F.text = parseC F'.text := by
  rw [parseC_layout d (wf_of_wellFormed hwf) F hF, parseC_layout d (wf_of_wellFormed hwf) F' hF']
  simp [Layout.result, hk]

/-- a header line is judged by its words: white space between them, before and after them is immaterial -/
theorem C13_header_words (st : PState) (line a b : Str) (h : readWords a = readWords b) :
    stepHeader st line a = stepHeader st line b := by
  rw [stepHeader_eq_W, stepHeader_eq_W, h]

example : readWords "Ops a:0 f:2".toList = readWords "Ops\t a:0 \x0c f:2".toList := by
  rw [String.toList_ofList, String.toList_ofList]; decide +kernel

namespace C13LayoutEx
/-- a layout of `TimbukEx.exE`: `\r\n` line ends, blank lines, the sections in the order Final, Automaton, States, Ops,
tabs and several blanks between words, indented `Transitions`, `a( )`, odd spacing in the rules, no final line end -/
def F : Layout where
  hdr := [([['\r']], ⟨.final, [], [([' '], "States".toList), (['\t'], ['q']), ([' ', ' '], ['r'])], [' ', '\r']⟩),
          ([], ⟨.aut, [], [([' ', ' ', ' '], "A-1".toList)], ['\r']⟩),
          ([['\r']], ⟨.states, [], [([' '], ['q']), ([' '], ['r'])], ['\r']⟩),
          ([], ⟨.ops, [], [([' ', ' '], "a:0".toList), (['\t'], "f:2".toList)], ['\r']⟩)]
  trBlanks := []
  trPre := [' ', ' ']
  trPost := [' ', '\r']
  tls := [([], ⟨[], ['a'], some ([], [' '], []), [' '], [], ['q'], ['\r']⟩),
          ([['\r']], ⟨[], ['f'], some ([' '], [], [([' '], ['q'], [' ']), ([], ['r'], [' '])]), [], [' '], ['r'], ['\r']⟩),
          ([], ⟨[], ['f'], some ([], [], [([], ['r'], []), ([], ['r'], [])]), ['\t'], ['\t'], ['q'], []⟩)]
  endBlanks := []

example : String.ofList F.text =
    "\r\nFinal States\tq  r \r\nAutomaton   A-1\r\n\r\nStates q r\r\nOps  a:0\tf:2\r\n  Transitions \r\n" ++
    "a( ) ->q\r\n\r\nf ( q ,r )-> r\r\nf(r,r)\t->\tq" := by
  rw [← String.ofList_append]; exact congrArg String.ofList (by decide +kernel)
example : TimbukEx.exE.WellFormed := TimbukEx.exE_wf
example : F.okB (serTokens (ofS TimbukEx.exE)) = true := by decide +kernel
example : ∀ k, k ∈ F.kinds := by intro k; cases k <;> decide
/-- so `C13_layout_insensitive` applies; executed: -/
example : (parseTimbuk (String.ofList F.text)).toOption = (parseTimbuk (serialize TimbukEx.exE)).toOption ∧
    (parseTimbuk (String.ofList F.text)).toOption = some ⟨"A-1", [("a", 0), ("f", 2)], ["q", "r"], ["q", "r"],
      [([], "a", "q"), (["q", "r"], "f", "r"), (["r", "r"], "f", "q")]⟩ := by
  rw [TimbukEx.exE_roundtrip, and_self, parseTimbuk_ofList]; decide +kernel

/-- the serializer's own text is a layout: single blanks, a blank at the end of the section lines, a final line end -/
def Fser : Layout where
  hdr := [([], ⟨.ops, [], [([' '], "a:0".toList), ([' '], "f:2".toList)], [' ']⟩),
          ([], ⟨.aut, [], [([' '], "A-1".toList)], []⟩),
          ([], ⟨.states, [], [([' '], ['q']), ([' '], ['r'])], [' ']⟩),
          ([], ⟨.final, [], [([' '], "States".toList), ([' '], ['q']), ([' '], ['r'])], [' ']⟩)]
  trBlanks := []
  trPre := []
  trPost := []
  tls := [([], ⟨[], ['a'], none, [' '], [' '], ['q'], []⟩),
          ([], ⟨[], ['f'], some ([], [], [([], ['q'], []), ([' '], ['r'], [])]), [' '], [' '], ['r'], []⟩),
          ([], ⟨[], ['f'], some ([], [], [([], ['r'], []), ([' '], ['r'], [])]), [' '], [' '], ['q'], []⟩)]
  endBlanks := [[]]

example : String.ofList Fser.text = serialize TimbukEx.exE := congrArg String.ofList (by decide +kernel)
example : Fser.okB (serTokens (ofS TimbukEx.exE)) = true := by decide +kernel

/-- a layout with two sections only: the other two come back empty -/
def Fpart : Layout :=
  { F with hdr := [([['\r']], ⟨.states, [], [([' '], ['q']), ([' '], ['r'])], ['\r']⟩),
                   ([], ⟨.aut, [], [([' ', ' ', ' '], "A-1".toList)], ['\r']⟩)] }
example : Fpart.okB (serTokens (ofS TimbukEx.exE)) = true := by decide +kernel
example : (Fpart.result (serTokens (ofS TimbukEx.exE))).toS =
    ⟨"A-1", [], ["q", "r"], [], [([], "a", "q"), (["q", "r"], "f", "r"), (["r", "r"], "f", "q")]⟩ := by decide +kernel
end C13LayoutEx

/-! ### 3. serialise after parse -/

/-- for every text `t` that parses to a well-formed `d`: the serialisation of `d` parses again, to a description with the
same sets of symbols, states, final states and rules, and the same name – except that the empty name (a text without
`Automaton` line, or with `Automaton` alone) comes back as `anonymous`.  (The hypothesis `parseTimbuk t = .ok d` is not used:
this is `C13_parse_serialize_full` for `d`.) -/
theorem C13_serialize_parse (t : String) (d : AutDesc) (_hp : parseTimbuk t = .ok d) (hwf : d.WellFormed) :
    ∃ d', parseTimbuk (serialize d) = .ok d' ∧
      d'.name = (if d.name.isEmpty then "anonymous" else d.name) ∧
      d'.symbols ≈ d.symbols ∧ d'.states ≈ d.states ∧ d'.final ≈ d.final ∧ d'.trans ≈ d.trans :=
  parse_serialize_full d hwf

/-- the statement "`parseTimbuk (serialize d) = .ok d`" is FALSE for parse results in general: a text without `Automaton`
line parses to the empty name, which the serializer writes as `anonymous` -/
example : ∃ d, parseTimbuk "Transitions\na -> q" = .ok d ∧ d.WellFormed ∧ parseTimbuk (serialize d) ≠ .ok d :=
  ⟨⟨"", [], [], [], [([], "a", "q")]⟩, C13LayoutEx.parse_a_q, by decide +kernel, fun h => by
    rw [parseTimbuk_serialize_eq] at h
    have := congrArg Except.toOption h
    revert this; decide +kernel⟩
/-- with a name it is true on this example (executed) -/
example : ∃ d, (parseTimbuk "Automaton A\nTransitions\na() -> q").toOption = some d ∧ d.WellFormed ∧
    (parseTimbuk (serialize d)).toOption = some d ∧ serialize d = "Ops \nAutomaton A\nStates \nFinal States \nTransitions\na -> q\n" :=
  ⟨⟨"A", [], [], [], [([], "a", "q")]⟩, by rw [parseTimbuk_ofList]; decide +kernel, by decide +kernel,
    by rw [parseTimbuk_serialize_eq]; decide +kernel, congrArg String.ofList (by decide +kernel)⟩

/-- parsing twice: the second round trip starts from a well-formed description again, so it succeeds with the same sets
(`C13_parse_serialize_exact` gives the result: `roundTrip (roundTrip d)`) -/
theorem C13_parse_serialize_twice (d : Desc) (hwf : d.wellFormed = true) :
    parseC (serializeC d) = .ok (roundTrip d) ∧ parseC (serializeC (roundTrip d)) = .ok (roundTrip (roundTrip d)) := by
  have h := wf_of_wellFormed hwf
  refine ⟨parseC_serializeC d h, parseC_serializeC _ ?_⟩
  have h' := serTokens_wf (serTokens_wf h)
  exact ⟨(serTokens_wf h).name, h'.symbols, h'.states, h'.final, h'.trans⟩

example : (ofS TimbukEx.exD).wellFormed = true := TimbukEx.exD_wf

/-! ### 4. classes of rejected texts -/

theorem rejects_of_parseC {t : String} (h : ∃ e, parseC t.toList = .error e) : ∃ e, parseTimbuk t = .error e := by
  obtain ⟨e, he⟩ := h
  exact ⟨e, by rw [parseTimbuk_eq, he]; rfl⟩

/-- the lines of a text -/
def linesOf (t : String) : List Str := T.splitDelim '\n' t.toList

/-- **no `Transitions`**: a text none of whose lines has the first word `Transitions` is rejected
(`throw … "Transitions not specified"`, or an earlier error) -/
theorem C13_rejects_no_transitions (t : String) (h : NoTransitionsLine (linesOf t)) :
    ∃ e, parseTimbuk t = .error e :=
  rejects_of_parseC (rejects_no_transitions _ h)

example : NoTransitionsLine (linesOf "Ops a:0\nAutomaton A\nStates q\nFinal States q\n") := by
  rw [linesOf, String.toList_ofList]; unfold NoTransitionsLine; decide +kernel
example : NoTransitionsLine (linesOf "") ∧ NoTransitionsLine (linesOf "transitions\nxTransitions\n") := by
  rw [linesOf, linesOf, String.toList_ofList, String.toList_ofList]; unfold NoTransitionsLine; decide +kernel

/-- **unknown keyword**: a non-blank line before the `Transitions` line whose first word is none of `Ops`, `Automaton`,
`States`, `Final`, `Transitions` is rejected -/
theorem C13_rejects_unknown_keyword (t : String) (pre post : List Str) (l : Str) (hs : linesOf t = pre ++ l :: post)
    (hpre : NoTransitionsLine pre) (hne : trim l ≠ []) (h0 : firstWord l ≠ kwTransitions)
    (hk : ∀ k : HKind, firstWord l ≠ k.kw) : ∃ e, parseTimbuk t = .error e :=
  rejects_of_parseC (rejects_unknown_keyword _ pre post l hs hpre hne h0 hk)

example : linesOf "Ops a:0\nautomaton A\nTransitions" = ["Ops a:0".toList] ++ "automaton A".toList :: ["Transitions".toList] ∧
    NoTransitionsLine ["Ops a:0".toList] ∧ trim "automaton A".toList ≠ [] ∧
    firstWord "automaton A".toList ≠ kwTransitions ∧ ∀ k : HKind, firstWord "automaton A".toList ≠ k.kw := by
  rw [linesOf]; repeat rw [String.toList_ofList]
  exact ⟨by decide +kernel, by unfold NoTransitionsLine; decide +kernel, by decide +kernel, by decide +kernel,
    by intro k; cases k <;> decide⟩

/-- **repeated section**: two lines with the same first word `Ops` / `Automaton` / `States` / `Final` before the
`Transitions` line are rejected (`"… already parsed!"`, or an earlier error) -/
theorem C13_rejects_repeated_section (t : String) (k : HKind) (pre mid post : List Str) (l1 l2 : Str)
    (hs : linesOf t = pre ++ l1 :: (mid ++ l2 :: post)) (hpre : NoTransitionsLine pre) (hmid : NoTransitionsLine mid)
    (h1 : firstWord l1 = k.kw) (h2 : firstWord l2 = k.kw) : ∃ e, parseTimbuk t = .error e :=
  rejects_of_parseC (rejects_repeated _ k pre mid post l1 l2 hs hpre hmid h1 h2)

example : linesOf "States q\nOps a:0\nStates r\nTransitions" =
      [] ++ "States q".toList :: (["Ops a:0".toList] ++ "States r".toList :: ["Transitions".toList]) ∧
    NoTransitionsLine [] ∧ NoTransitionsLine ["Ops a:0".toList] ∧ firstWord "States q".toList = HKind.states.kw ∧
    firstWord "States r".toList = HKind.states.kw := by
  rw [linesOf]; repeat rw [String.toList_ofList]
  exact ⟨by decide +kernel, by unfold NoTransitionsLine; decide +kernel, by unfold NoTransitionsLine; decide +kernel,
    by decide +kernel, by decide +kernel⟩

/-- **not a transition**: a non-blank line after a `Transitions` line that is `BadTrans` – no `->`; nothing, or white space
inside, after the `->`; nothing before it; `(` without `)`; `)` without `(`; two words without parentheses – is rejected
(`"invalid transition"`, or an earlier error).  This includes a second `Transitions` line and every header line after
`Transitions`. -/
theorem C13_rejects_bad_transition (t : String) (pre post : List Str) (l : Str) (hs : linesOf t = pre ++ l :: post)
    (hpre : ∃ x ∈ pre, firstWord x = kwTransitions) (hne : trim l ≠ []) (hbad : BadTrans (trim l)) :
    ∃ e, parseTimbuk t = .error e :=
  rejects_of_parseC (rejects_bad_transition _ pre post l hs hpre hne hbad)

example : BadTrans "a q".toList := .noArrow (by decide)
example : BadTrans "Ops a:0".toList := .noArrow (by decide +kernel)
example : BadTrans "a ->".toList := .badRhs (l := "a ".toList) (r := []) (by decide) (Or.inl (by decide))
example : BadTrans "a -> q r".toList := .badRhs (l := "a ".toList) (r := " q r".toList) (by decide +kernel) (Or.inr (by decide +kernel))
example : BadTrans "-> q".toList := .noLhs (l := []) (r := " q".toList) (by decide) (by decide)
example : BadTrans "a b -> q".toList := .twoWords (l := "a b ".toList) (r := " q".toList) (by decide +kernel) (by decide +kernel) (by decide +kernel)
example : BadTrans "a) -> q".toList := .closeOnly (l := "a) ".toList) (r := " q".toList) (by decide +kernel) (by decide +kernel) (by decide +kernel)
example : BadTrans "a(b -> q".toList := .openOnly (l := "a(b ".toList) (r := " q".toList) (by decide +kernel) (by decide +kernel) (by decide +kernel)
example : linesOf "Transitions\na(b -> q" = ["Transitions".toList] ++ "a(b -> q".toList :: [] ∧
    (∃ x ∈ ["Transitions".toList], firstWord x = kwTransitions) ∧ trim "a(b -> q".toList ≠ [] := by
  rw [linesOf]; repeat rw [String.toList_ofList]
  exact ⟨by decide +kernel, ⟨_, List.mem_cons_self, by decide +kernel⟩, by decide +kernel⟩

/-- executed, for each class -/
example : TimbukTest.rejects "Ops a:0\nAutomaton A\n" = true ∧ TimbukTest.rejects "Ops a:0\nautomaton A\nTransitions" = true ∧
    TimbukTest.rejects "States q\nOps a:0\nStates r\nTransitions" = true ∧
    TimbukTest.rejects "Transitions\na(b -> q" = true ∧ TimbukTest.rejects "Transitions\na q" = true ∧
    TimbukTest.rejects "Transitions\nTransitions" = true := by
  rw [rejects_ofList, rejects_ofList, rejects_ofList, rejects_ofList, rejects_ofList, rejects_ofList]; decide +kernel

/-- **accepted, perhaps surprisingly** (the C++ does the same: no check exists in `parse_timbuk`): a symbol used with a rank
different from its `Ops` entry, and names that `Ops` / `States` never mention; no `Automaton` line -/
theorem accepts_rank_mismatch : (parseTimbuk "Ops a:0\nStates p\nTransitions\na(q) -> r").toOption =
    some ⟨"", [("a", 0)], ["p"], [], [(["q"], "a", "r")]⟩ := by
  rw [parseTimbuk_ofList]; decide +kernel

/-- the rest of the `Transitions` line is ignored -/
example : parseTimbuk "Transitions a -> q" = .ok ⟨"", [], [], [], []⟩ := parseTimbuk_ok (by decide +kernel)

/-!
## still not proved

* **Idempotence `serialize ∘ parse ∘ serialize = serialize`** (`serialize d' = serialize d` for the `d'` that
  `parseTimbuk (serialize d)` returns).  It needs `norm lt (norm lt l) = norm lt l`, i.e. that the four C++ orders (`ltStr`,
  `ltSym`, `ltTuple`, `ltTrans`, all built on `lexLt`) are strict total orders and that `setInsert` keeps lists sorted; that
  order theory is not developed.  Proved instead: `C13_serialize_parse` (the sets and the name come back) and
  `C13_parse_serialize_twice`.  For the same reason a layout lists the tokens **in the order of the description**
  (`Layout.Ok.trans`, `HLine.Ok.words`); that permuting the rule lines or the words of a section does not change the result
  (true for `std::set`s) is not proved.
* `parseTimbuk (serialize d) = .ok d` for parse results `d` is false as stated (empty name, example above); with the name
  clause corrected it again needs `norm (norm l) = norm l`.
* **Layouts not covered**: text after the keyword on the `Transitions` line; tokens spelled differently (`q:5` for a state,
  `a:+2`, `a:007`, a symbol without rank); header sections given with other words than those of `d`.  Examples only
  (`Vata/Timbuk.lean`).
* **Rejection is characterised by classes, not completely**: there is no theorem "`parseTimbuk t = .error _` iff …".  Not
  covered by a class: a bad rank (`Ops a:x`), `Final` not followed by `States`, two names after `Automaton`, text after `)`,
  white space inside a child name, an empty symbol before `(`.  The classes speak about the first error only in the sense
  that SOME error is returned (an earlier line may already fail).
* All statements are about the model; its agreement with the compiled C++ is the generated comparison described in
  `Vata/Timbuk.lean`, not a theorem.
-/
end Vata.Props
