import Vata.TrimCoded
import Vata.Proofs.TrimModel
/-!
# `RemoveUselessStates` as coded, part 1: the containers and the first loop (`initLoop`)

What holds after the first `k` transitions have been processed (`InitInv`).
-/
namespace Vata.TrimCoded

theorem nodup_snoc {l : List Nat} {x : Nat} (h : l.Nodup) (hx : x ∉ l) : (l ++ [x]).Nodup := by
  rw [List.nodup_append]
  exact ⟨h, List.nodup_cons.mpr ⟨List.not_mem_nil, List.nodup_nil⟩,
    fun a ha b hb hab => hx (List.mem_singleton.mp hb ▸ hab ▸ ha)⟩

theorem dedupL_eq_nil {l : List Nat} (h : dedupL l = []) : l = [] := by
  cases l with
  | nil => rfl
  | cons a l => exact absurd (mem_dedupL.mpr List.mem_cons_self) (h ▸ List.not_mem_nil)

theorem nodup_length_le (n : Nat) (l : List Nat) (hn : l.Nodup) (h : ∀ j, j ∈ l → j < n) : l.length ≤ n := by
  have := hn.length_le_of_subset (l₂ := List.range n) (fun j hj => List.mem_range.mpr (h j hj))
  rwa [List.length_range] at this

/-- a duplicate-free list of numbers below `n` that misses one of them is shorter than `n` -/
theorem nodup_length_lt {n j : Nat} {l : List Nat} (hnd : l.Nodup) (hlt : ∀ i, i ∈ l → i < n) (hj : j < n) (hm : j ∉ l) :
    l.length < n :=
  nodup_length_le n (j :: l) (List.nodup_cons.mpr ⟨hm, hnd⟩) fun x hx => (List.mem_cons.mp hx).elim (fun e => e ▸ hj) (hlt x)

theorem smGet_cons (k : Nat) (v : List Nat) (rest : StateMap) (s' : Nat) :
    smGet ((k, v) :: rest) s' = if s' = k then v else smGet rest s' := by
  unfold smGet
  rw [List.lookup_cons]
  by_cases h : s' = k
  · rw [if_pos h, beq_iff_eq.mpr h]; rfl
  · rw [if_neg h, beq_eq_false_iff_ne.mpr h]

theorem smGet_smPush (sm : StateMap) (s i s' : Nat) :
    smGet (smPush sm s i) s' = if s' = s then smGet sm s' ++ [i] else smGet sm s' := by
  induction sm with
  | nil => rw [smPush, smGet_cons]; rfl
  | cons kv rest ih =>
    obtain ⟨k, v⟩ := kv
    rw [smPush]
    by_cases hk : k = s
    · subst hk
      rw [if_pos (beq_self_eq_true k), smGet_cons, smGet_cons]
      by_cases h : s' = k
      · simp only [if_pos h]
      · simp only [if_neg h]
    · rw [if_neg (fun e => hk (beq_iff_eq.mp e)), smGet_cons, smGet_cons, ih]
      by_cases h : s' = k
      · simp only [if_pos h, if_neg (h ▸ hk)]
      · simp only [if_neg h]

theorem registerKids_eq (i : Nat) (cs : List Nat) (σ : St) : registerKids i cs σ =
    { σ with smap := cs.foldl (fun sm s => smPush sm s i) σ.smap, remaining := σ.remaining + cs.length } := by
  induction cs generalizing σ with
  | nil => rfl
  | cons c cs ih =>
    rw [registerKids, List.foldl_cons, ← registerKids, ih]
    simp only [List.foldl_cons, List.length_cons, Nat.add_assoc, Nat.add_comm 1]

theorem smGet_foldl (i : Nat) (cs : List Nat) (sm : StateMap) (s' : Nat) (h : cs.Nodup) :
    smGet (cs.foldl (fun sm s => smPush sm s i) sm) s' = if s' ∈ cs then smGet sm s' ++ [i] else smGet sm s' := by
  induction cs generalizing sm with
  | nil => rfl
  | cons c cs ih =>
    obtain ⟨hc, hcs⟩ := List.nodup_cons.mp h
    rw [List.foldl_cons, ih _ hcs, smGet_smPush]
    by_cases e : s' = c
    · rw [if_pos e, if_neg (e ▸ hc), if_pos (e ▸ List.mem_cons_self)]
    · rw [if_neg e]
      simp only [List.mem_cons, e, false_or]

theorem pushState_spec (σ : St) (q : Nat) : ∃ R W, σ.pushState q = { σ with reach := R, work := W } ∧
    (∀ x, x ∈ R ↔ x ∈ σ.reach ∨ x = q) ∧ (∀ x, x ∈ W ↔ x ∈ σ.work ∨ (x = q ∧ q ∉ σ.reach)) ∧
    W.length ≤ σ.work.length + 1 ∧ ((∀ x, x ∈ σ.work → x ∈ σ.reach) → σ.work.Nodup → W.Nodup) := by
  unfold St.pushState
  by_cases h : q ∈ σ.reach
  · rw [if_pos (List.contains_iff_mem.mpr h)]
    exact ⟨σ.reach, σ.work, rfl, fun x => ⟨Or.inl, fun hx => hx.elim id (fun e => e ▸ h)⟩,
      fun x => ⟨Or.inl, fun hx => hx.elim id (fun e => absurd h e.2)⟩, Nat.le_succ _, fun _ hnd => hnd⟩
  · rw [if_neg (fun hc => h (List.contains_iff_mem.mp hc))]
    exact ⟨_, _, rfl, fun x => by rw [List.mem_append, List.mem_singleton],
      fun x => by rw [List.mem_cons, and_iff_left h, or_comm], Nat.le_refl _,
      fun hsub hnd => List.nodup_cons.mpr ⟨fun hq => h (hsub q hq), hnd⟩⟩

structure InitInv (A : TA) (k : Nat) (σ : St) : Prop where
  infos : σ.infos = A.rules.map mkInfo
  workmem : ∀ q, q ∈ σ.work ↔ q ∈ σ.reach
  worknd : σ.work.Nodup
  src : ∀ q, q ∈ σ.reach → ∃ j r, A.rules[j]? = some r ∧ j < k ∧ r.kids = [] ∧ r.parent = q
  rt : ∀ j, j ∈ σ.rtrans ↔ ∃ r, A.rules[j]? = some r ∧ j < k ∧ r.kids = []
  rtnd : σ.rtrans.Nodup
  leafp : ∀ j, j ∈ σ.rtrans → ∀ r, A.rules[j]? = some r → r.parent ∈ σ.reach
  sm : ∀ s j, j ∈ smGet σ.smap s ↔ ∃ r, A.rules[j]? = some r ∧ j < k ∧ s ∈ r.kids
  smnd : ∀ s, (smGet σ.smap s).Nodup
  cnt : k ≤ σ.remaining + σ.rtrans.length
  wlen : σ.work.length ≤ σ.rtrans.length

theorem initInv_zero (A : TA) : InitInv A 0 (initLoop A 0) := by
  unfold initLoop
  constructor <;> simp [smGet]

theorem getElem?_inj {A : TA} {j : Nat} {r r' : Rule} (h : A.rules[j]? = some r) (h' : A.rules[j]? = some r') : r = r' :=
  Option.some.inj (h ▸ h')

theorem lt_succ_split {A : TA} {k : Nat} {r : Rule} (hr : A.rules[k]? = some r) (P : Rule → Prop) (j : Nat) :
    (∃ r', A.rules[j]? = some r' ∧ j < k + 1 ∧ P r') ↔ (∃ r', A.rules[j]? = some r' ∧ j < k ∧ P r') ∨ (j = k ∧ P r) := by
  constructor
  · rintro ⟨r', h1, h2, h3⟩
    by_cases hj : j = k
    · subst hj; exact Or.inr ⟨rfl, getElem?_inj h1 hr ▸ h3⟩
    · exact Or.inl ⟨r', h1, Nat.lt_of_le_of_ne (Nat.le_of_lt_succ h2) hj, h3⟩
  · rintro (⟨r', h1, h2, h3⟩ | ⟨rfl, h3⟩)
    · exact ⟨r', h1, Nat.lt_succ_of_lt h2, h3⟩
    · exact ⟨r, hr, Nat.lt_succ_self _, h3⟩

theorem initInv_step {A : TA} {k : Nat} {σ : St} {r : Rule} (hr : A.rules[k]? = some r) (h : InitInv A k σ) :
    InitInv A (k+1) (initStep σ k r) := by
  have hknew : ∀ {P : Rule → Prop} {l : List Nat}, (∀ j, j ∈ l ↔ ∃ r, A.rules[j]? = some r ∧ j < k ∧ P r) → k ∉ l :=
    fun hl hm => by obtain ⟨_, _, hlt, _⟩ := (hl k).mp hm; exact Nat.lt_irrefl k hlt
  unfold initStep
  by_cases hleaf : r.kids.isEmpty = true
  · -- a leaf transition: it is reachable, its parent is inserted
    rw [if_pos hleaf]
    have hk : r.kids = [] := List.isEmpty_iff.mp hleaf
    obtain ⟨R, W, e, hR, hW, hlen, hWnd⟩ := pushState_spec { σ with rtrans := σ.rtrans ++ [k] } r.parent
    rw [e]
    constructor
    · exact h.infos
    · intro q
      rw [hW, hR, h.workmem]
      by_cases hq : r.parent ∈ σ.reach
      · exact ⟨fun hx => hx.elim Or.inl (fun e => Or.inr e.1), fun hx => hx.elim Or.inl (fun e => Or.inl (e ▸ hq))⟩
      · exact or_congr_right (and_iff_left hq)
    · exact hWnd (fun x hx => (h.workmem x).mp hx) h.worknd
    · intro q hq
      rcases (hR q).mp hq with hq | hq
      · obtain ⟨j, hj⟩ := h.src q hq
        exact ⟨j, (lt_succ_split hr _ j).mpr (Or.inl hj)⟩
      · exact ⟨k, r, hr, Nat.lt_succ_self k, hk, hq.symm⟩
    · intro j
      rw [lt_succ_split hr, and_iff_left hk, ← h.rt]
      exact List.mem_append.trans (or_congr_right List.mem_singleton)
    · exact nodup_snoc h.rtnd (hknew h.rt)
    · intro j hj r' hr'
      rcases List.mem_append.mp hj with hj | hj
      · exact (hR _).mpr (Or.inl (h.leafp j hj r' hr'))
      · rw [List.mem_singleton.mp hj] at hr'
        exact (hR _).mpr (Or.inr (congrArg Rule.parent (getElem?_inj hr' hr)))
    · intro s j
      rw [lt_succ_split hr, hk, ← h.sm]
      exact ⟨Or.inl, fun hx => hx.elim id (fun e => nomatch e.2)⟩
    · exact h.smnd
    · show k + 1 ≤ σ.remaining + (σ.rtrans ++ [k]).length
      rw [List.length_append]
      exact Nat.succ_le_succ h.cnt
    · show W.length ≤ (σ.rtrans ++ [k]).length
      rw [List.length_append]
      exact Nat.le_trans hlen (Nat.succ_le_succ h.wlen)
  · -- an inner transition: it is registered under each of its children
    rw [if_neg hleaf, registerKids_eq]
    have hk : r.kids ≠ [] := fun hk => hleaf (List.isEmpty_iff.mpr hk)
    have hget : ∀ s, smGet (List.foldl (fun sm s => smPush sm s k) σ.smap (mkInfo r).cset) s =
        if s ∈ r.kids then smGet σ.smap s ++ [k] else smGet σ.smap s := by
      intro s
      rw [mkInfo, smGet_foldl k _ _ s (nodup_dedupL r.kids)]
      simp only [mem_dedupL]
    constructor
    · exact h.infos
    · exact h.workmem
    · exact h.worknd
    · intro q hq
      obtain ⟨j, hj⟩ := h.src q hq
      exact ⟨j, (lt_succ_split hr _ j).mpr (Or.inl hj)⟩
    · intro j
      rw [lt_succ_split hr, ← h.rt]
      exact ⟨Or.inl, fun hx => hx.elim id (fun e => absurd e.2 hk)⟩
    · exact h.rtnd
    · exact h.leafp
    · intro s j
      rw [hget, lt_succ_split hr, ← h.sm]
      by_cases hs : s ∈ r.kids
      · rw [if_pos hs, and_iff_left hs]
        exact List.mem_append.trans (or_congr_right List.mem_singleton)
      · rw [if_neg hs]
        exact ⟨Or.inl, fun hx => hx.elim id (fun e => absurd e.2 hs)⟩
    · intro s
      rw [hget]
      split
      · exact nodup_snoc (h.smnd s) (hknew (h.sm s))
      · exact h.smnd s
    · have : 0 < (dedupL r.kids).length := List.length_pos_iff.mpr (fun e => hk (dedupL_eq_nil e))
      exact Nat.le_trans (Nat.add_le_add h.cnt this) (Nat.le_of_eq (Nat.add_right_comm _ _ _))
    · exact h.wlen

theorem initLoop_inv (A : TA) (k : Nat) (hk : k ≤ A.rules.length) : InitInv A k (initLoop A k) := by
  induction k with
  | zero => exact initInv_zero A
  | succ k ih =>
    have hr : A.rules[k]? = some A.rules[k] := List.getElem?_eq_getElem hk
    rw [initLoop, hr]
    exact initInv_step hr (ih (Nat.le_of_succ_le hk))

end Vata.TrimCoded
