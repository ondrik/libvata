import Vata.CliArgs
/-!
# The help text of `vata` as lists of characters

`Vata.CliArgs.usageString / usageCommands / usageFlags` hold the text as `String` literals (what the driver prints and
compares).  Kernel evaluation of `String.toList` on a literal is very slow (UTF-8 decoding of a byte array), so the
theorems about the text (`Vata/Proofs/CliArgsHelp.lean`) are evaluated on the character lists below; these are
`repr s.toList` of the model's own strings, and `usage…_chars` proves that they ARE those strings – the kernel unfolds a
string literal to `String.ofList [chars]`, so the comparison is a plain comparison of lists.
-/
namespace Vata.CliArgs

def usageStringL : List Str := [
  ['V', 'A', 'T', 'A', ':', ' ', 'V', 'A', 'T', 'A', ' ', 'T', 'r', 'e', 'e', ' ', 'A', 'u', 't', 'o', 'm', 'a', 't', 'a',
 ' ', 'l', 'i', 'b', 'r', 'a', 'r', 'y', ' ', 'i', 'n', 't', 'e', 'r', 'f', 'a', 'c', 'e', '\n'],
  ['u', 's', 'a', 'g', 'e', ':', ' ', 'v', 'a', 't', 'a', ' ', '[', '-', 'r', ' ', '<', 'r', 'e', 'p', 'r', 'e', 's', 'e',
 'n', 't', 'a', 't', 'i', 'o', 'n', '>', ']', ' ', '[', '(', '-', 'I', '|', '-', 'O', '|', '-', 'F', ')', ' ', '<', 'f',
 'o', 'r', 'm', 'a', 't', '>', ']', ' ', '[', '-', 'h', '|', '-', '-', 'h', 'e', 'l', 'p', ']', ' ', '[', '-', 't', ']',
 ' ', '[', '-', 'n', ']', '\n'],
  [' ', ' ', ' ', ' ', ' ', ' ', ' ', ' ', ' ', ' ', ' ', ' ', '[', '-', 'v', '|', '-', '-', 'v', 'e', 'r', 's', 'i', 'o',
 'n', ']', ' ', '[', '(', '-', 'p', '|', '-', 's', ')', ']', ' ', '[', '-', 'V', ']', ' ', '[', '-', 'o', ' ', '<', 'o',
 'p', 't', 'i', 'o', 'n', 's', '>', ']', ' ', '<', 'c', 'o', 'm', 'm', 'a', 'n', 'd', '>', ' ', '[', '<', 'a', 'r', 'g',
 's', '>', ']', '\n']]

def usageCommandsL : List Str := [
  ['\n', 'T', 'h', 'e', ' ', 'f', 'o', 'l', 'l', 'o', 'w', 'i', 'n', 'g', ' ', 'c', 'o', 'm', 'm', 'a', 'n', 'd', 's',
 ' ', 'a', 'r', 'e', ' ', 's', 'u', 'p', 'p', 'o', 'r', 't', 'e', 'd', ':', '\n'],
  [' ', ' ', ' ', ' ', 'h', 'e', 'l', 'p', ' ', ' ', ' ', ' ', ' ', ' ', ' ', ' ', ' ', ' ', ' ', ' ', ' ', ' ', ' ', ' ',
 ' ', ' ', ' ', ' ', 'D', 'i', 's', 'p', 'l', 'a', 'y', ' ', 't', 'h', 'i', 's', ' ', 'm', 'e', 's', 's', 'a', 'g', 'e',
 '\n'],
  [' ', ' ', ' ', ' ', 'v', 'e', 'r', 's', 'i', 'o', 'n', ' ', ' ', ' ', ' ', ' ', ' ', ' ', ' ', ' ', ' ', ' ', ' ', ' ',
 ' ', ' ', ' ', ' ', 'D', 'i', 's', 'p', 'l', 'a', 'y', ' ', 'v', 'e', 'r', 's', 'i', 'o', 'n', '\n'],
  [' ', ' ', ' ', ' ', 'l', 'o', 'a', 'd', ' ', ' ', ' ', ' ', '<', 'f', 'i', 'l', 'e', '>', ' ', ' ', ' ', ' ', ' ', ' ',
 ' ', ' ', ' ', ' ', 'L', 'o', 'a', 'd', ' ', 'a', 'u', 't', 'o', 'm', 'a', 't', 'o', 'n', ' ', 'f', 'r', 'o', 'm', ' ',
 '<', 'f', 'i', 'l', 'e', '>', '\n'],
  [' ', ' ', ' ', ' ', 'w', 'i', 't', 'n', 'e', 's', 's', ' ', '<', 'f', 'i', 'l', 'e', '>', ' ', ' ', ' ', ' ', ' ', ' ',
 ' ', ' ', ' ', ' ', 'G', 'e', 't', ' ', 'a', ' ', 's', 't', 'r', 'i', 'n', 'g', ' ', 'f', 'r', 'o', 'm', ' ', 't', 'h',
 'e', ' ', 'l', 'a', 'n', 'g', 'u', 'a', 'g', 'e', ' ', 'o', 'f', ' ', 't', 'h', 'e', ' ', 'a', 'u', 't', 'o', 'm', 'a',
 't', 'o', 'n', ' ', 'i', 'n', ' ', '<', 'f', 'i', 'l', 'e', '>', '\n'],
  [' ', ' ', ' ', ' ', 'c', 'm', 'p', 'l', ' ', ' ', ' ', ' ', '<', 'f', 'i', 'l', 'e', '>', ' ', ' ', ' ', ' ', ' ', ' ',
 ' ', ' ', ' ', ' ', 'C', 'o', 'm', 'p', 'l', 'e', 'm', 'e', 'n', 't', ' ', 'a', 'u', 't', 'o', 'm', 'a', 't', 'o', 'n',
 ' ', 'f', 'r', 'o', 'm', ' ', '<', 'f', 'i', 'l', 'e', '>', ' ', '[', 'e', 'x', 'p', 'e', 'r', 'i', 'm', 'e', 'n', 't',
 'a', 'l', ']', '\n'],
  [' ', ' ', ' ', ' ', 'u', 'n', 'i', 'o', 'n', ' ', '<', 'f', 'i', 'l', 'e', '1', '>', ' ', '<', 'f', 'i', 'l', 'e', '2',
 '>', ' ', ' ', ' ', 'C', 'o', 'm', 'p', 'u', 't', 'e', ' ', 'u', 'n', 'i', 'o', 'n', ' ', 'o', 'f', ' ', 'a', 'u', 't',
 'o', 'm', 'a', 't', 'a', ' ', 'f', 'r', 'o', 'm', ' ', '<', 'f', 'i', 'l', 'e', '1', '>', ' ', 'a', 'n', 'd', ' ', '<',
 'f', 'i', 'l', 'e', '2', '>', '\n'],
  [' ', ' ', ' ', ' ', 'i', 's', 'e', 'c', 't', ' ', '<', 'f', 'i', 'l', 'e', '1', '>', ' ', '<', 'f', 'i', 'l', 'e', '2',
 '>', ' ', ' ', ' ', 'C', 'o', 'm', 'p', 'u', 't', 'e', ' ', 'i', 'n', 't', 'e', 'r', 's', 'e', 'c', 't', 'i', 'o', 'n',
 ' ', 'o', 'f', ' ', 'a', 'u', 't', 'o', 'm', 'a', 't', 'a', ' ', 'f', 'r', 'o', 'm', ' ', '<', 'f', 'i', 'l', 'e', '1',
 '>', ' ', 'a', 'n', 'd', ' ', '<', 'f', 'i', 'l', 'e', '2', '>', '\n'],
  [' ', ' ', ' ', ' ', 's', 'i', 'm', ' ', '<', 'f', 'i', 'l', 'e', '>', ' ', ' ', ' ', ' ', ' ', ' ', ' ', ' ', ' ', ' ',
 ' ', ' ', ' ', ' ', 'C', 'o', 'm', 'p', 'u', 't', 'e', 's', ' ', 'a', ' ', 's', 'i', 'm', 'u', 'l', 'a', 't', 'i', 'o',
 'n', ' ', 'r', 'e', 'l', 'a', 't', 'i', 'o', 'n', ' ', 'f', 'o', 'r', ' ', 't', 'h', 'e', ' ', 'a', 'u', 't', 'o', 'm',
 'a', 't', 'o', 'n', ' ', 'i', 'n', ' ', '<', 'f', 'i', 'l', 'e', '>', '\n'],
  [' ', ' ', ' ', ' ', ' ', ' ', 'O', 'p', 't', 'i', 'o', 'n', 's', ':', ' ', 't', 'r', 'e', 'e', ' ', 'a', 'u', 't', 'o',
 'm', 'a', 't', 'a', ':', ' ', '\'', 'd', 'i', 'r', '=', 'd', 'o', 'w', 'n', '\'', ' ', ':', ' ', 'd', 'o', 'w', 'n',
 'w', 'a', 'r', 'd', ' ', 's', 'i', 'm', 'u', 'l', 'a', 't', 'i', 'o', 'n', ' ', '(', 'd', 'e', 'f', 'a', 'u', 'l', 't',
 ')', '\n'],
  [' ', ' ', ' ', ' ', ' ', ' ', ' ', ' ', ' ', ' ', ' ', ' ', ' ', ' ', ' ', ' ', ' ', ' ', ' ', ' ', ' ', ' ', ' ', ' ',
 ' ', ' ', ' ', ' ', ' ', ' ', '\'', 'd', 'i', 'r', '=', 'u', 'p', '\'', ' ', ' ', ' ', ':', ' ', 'u', 'p', 'w', 'a',
 'r', 'd', ' ', 's', 'i', 'm', 'u', 'l', 'a', 't', 'i', 'o', 'n', '\n'],
  [' ', ' ', ' ', ' ', ' ', ' ', ' ', ' ', ' ', ' ', ' ', ' ', ' ', ' ', ' ', 'f', 'i', 'n', 'i', 't', 'e', ' ', 'a', 'u',
 't', 'o', 'm', 'a', 't', 'a', ':', ' ', '\'', 'd', 'i', 'r', '=', 'f', 'w', 'd', '\'', ' ', ' ', ':', ' ', 'f', 'o',
 'r', 'w', 'a', 'r', 'd', ' ', 's', 'i', 'm', 'u', 'l', 'a', 't', 'i', 'o', 'n', ' ', '(', 'd', 'e', 'f', 'a', 'u', 'l',
 't', ')', '\n'],
  [' ', ' ', ' ', ' ', ' ', ' ', ' ', ' ', ' ', ' ', ' ', ' ', ' ', ' ', ' ', ' ', ' ', ' ', ' ', ' ', ' ', ' ', ' ', ' ',
 ' ', ' ', ' ', ' ', ' ', ' ', ' ', ' ', '\'', 'd', 'i', 'r', '=', 'b', 'w', 'd', '\'', ' ', ' ', ':', ' ', 'b', 'a',
 'c', 'k', 'w', 'a', 'r', 'd', ' ', 's', 'i', 'm', 'u', 'l', 'a', 't', 'i', 'o', 'n', '\n'],
  [' ', ' ', ' ', ' ', 'r', 'e', 'd', ' ', '<', 'f', 'i', 'l', 'e', '>', ' ', ' ', ' ', 'R', 'e', 'd', 'u', 'c', 'e', 's',
 ' ', 't', 'h', 'e', ' ', 'a', 'u', 't', 'o', 'm', 'a', 't', 'o', 'n', ' ', 'i', 'n', ' ', '<', 'f', 'i', 'l', 'e', '>',
 ' ', 'u', 's', 'i', 'n', 'g', ' ', 's', 'i', 'm', 'u', 'l', 'a', 't', 'i', 'o', 'n', ' ', 'r', 'e', 'l', 'a', 't', 'i',
 'o', 'n', '\n'],
  [' ', ' ', ' ', ' ', ' ', ' ', 'O', 'p', 't', 'i', 'o', 'n', 's', ':', ' ', '\'', 'd', 'i', 'r', '=', 'd', 'o', 'w',
 'n', '\'', ' ', ':', ' ', 'd', 'o', 'w', 'n', 'w', 'a', 'r', 'd', ' ', 's', 'i', 'm', 'u', 'l', 'a', 't', 'i', 'o',
 'n', ' ', '(', 'd', 'e', 'f', 'a', 'u', 'l', 't', ')', '\n'],
  [' ', ' ', ' ', ' ', ' ', ' ', ' ', ' ', ' ', ' ', ' ', ' ', ' ', ' ', ' ', '\'', 'd', 'i', 'r', '=', 'u', 'p', '\'',
 ' ', ' ', ' ', ':', ' ', 'u', 'p', 'w', 'a', 'r', 'd', ' ', 's', 'i', 'm', 'u', 'l', 'a', 't', 'i', 'o', 'n', '\n'],
  [' ', ' ', ' ', ' ', 'e', 'q', 'u', 'i', 'v', ' ', '<', 'f', 'i', 'l', 'e', '1', '>', ' ', '<', 'f', 'i', 'l', 'e', '2',
 '>', ' ', ' ', ' ', 'C', 'h', 'e', 'c', 'k', 's', ' ', 'w', 'h', 'e', 't', 'h', 'e', 'r', ' ', 'L', '(', '<', 'f', 'i',
 'l', 'e', '1', '>', ')', ' ', '=', '=', ' ', 'L', '(', '<', 'f', 'i', 'l', 'e', '2', '>', ')', '\n'],
  [' ', ' ', ' ', ' ', ' ', ' ', 'O', 'p', 't', 'i', 'o', 'n', 's', ':', ' ', '\'', 'o', 'r', 'd', 'e', 'r', '=', 'd',
 'e', 'p', 't', 'h', '\'', ':', ' ', 'u', 's', 'e', ' ', 'd', 'e', 'p', 't', 'h', '-', 'f', 'i', 'r', 's', 't', ' ',
 's', 'e', 'a', 'r', 'c', 'h', ' ', 'f', 'o', 'r', ' ', 'c', 'o', 'n', 'g', 'r', 'u', 'e', 'n', 'c', 'e', ' ', 'a', 'l',
 'g', 'o', 'r', 'i', 't', 'h', 'm', ' ', '(', 'd', 'e', 'f', 'a', 'u', 'l', 't', ')', '\n'],
  [' ', ' ', ' ', ' ', ' ', ' ', ' ', ' ', ' ', ' ', ' ', ' ', ' ', ' ', ' ', '\'', 'o', 'r', 'd', 'e', 'r', '=', 'b',
 'r', 'e', 'a', 'd', 't', 'h', '\'', ':', ' ', 'u', 's', 'e', ' ', 'b', 'r', 'e', 'a', 'd', 't', 'h', '-', 'f', 'i',
 'r', 's', 't', ' ', 's', 'e', 'a', 'r', 'c', 'h', ' ', 'f', 'o', 'r', ' ', 'c', 'o', 'n', 'g', 'r', 'u', 'e', 'n', 'c',
 'e', ' ', 'a', 'l', 'g', 'o', 'r', 'i', 't', 'h', 'm', '\n'],
  [' ', ' ', ' ', ' ', 'i', 'n', 'c', 'l', ' ', '<', 'f', 'i', 'l', 'e', '1', '>', ' ', '<', 'f', 'i', 'l', 'e', '2', '>',
 ' ', ' ', ' ', ' ', 'C', 'h', 'e', 'c', 'k', 's', ' ', 'w', 'h', 'e', 't', 'h', 'e', 'r', ' ', 'L', '(', '<', 'f', 'i',
 'l', 'e', '1', '>', ')', ' ', '<', '=', ' ', 'L', '(', '<', 'f', 'i', 'l', 'e', '2', '>', ')', '\n'],
  [' ', ' ', ' ', ' ', ' ', ' ', 'O', 'p', 't', 'i', 'o', 'n', 's', ':', ' ', '\'', 'a', 'l', 'g', '=', 'a', 'n', 't',
 'i', 'c', 'h', 'a', 'i', 'n', 's', '\'', ' ', ':', ' ', 'u', 's', 'e', ' ', 'a', 'n', ' ', 'a', 'n', 't', 'i', 'c',
 'h', 'a', 'i', 'n', '-', 'b', 'a', 's', 'e', 'd', ' ', 'a', 'l', 'g', 'o', 'r', 'i', 't', 'h', 'm', ' ', '(', 'd', 'e',
 'f', 'a', 'u', 'l', 't', ')', '\n'],
  [' ', ' ', ' ', ' ', ' ', ' ', ' ', ' ', ' ', ' ', ' ', ' ', ' ', ' ', ' ', '\'', 'a', 'l', 'g', '=', 'c', 'o', 'n',
 'g', 'r', '\'', ' ', ' ', ' ', ' ', ' ', ' ', ':', ' ', 'u', 's', 'e', ' ', 'a', ' ', 'b', 'i', 's', 'i', 'm', 'u',
 'l', 'a', 't', 'i', 'o', 'n', ' ', 'u', 'p', '-', 't', 'o', ' ', 'c', 'o', 'n', 'g', 'r', 'u', 'e', 'n', 'c', 'e', ' ',
 'a', 'l', 'g', 'o', 'r', 'i', 't', 'h', 'm', '\n'],
  [' ', ' ', ' ', ' ', ' ', ' ', ' ', ' ', ' ', ' ', ' ', ' ', ' ', ' ', ' ', '\'', 'd', 'i', 'r', '=', 'd', 'o', 'w',
 'n', '\'', ' ', ':', ' ', 'd', 'o', 'w', 'n', 'w', 'a', 'r', 'd', ' ', 'i', 'n', 'c', 'l', 'u', 's', 'i', 'o', 'n',
 ' ', 'c', 'h', 'e', 'c', 'k', 'i', 'n', 'g', '\n'],
  [' ', ' ', ' ', ' ', ' ', ' ', ' ', ' ', ' ', ' ', ' ', ' ', ' ', ' ', ' ', '\'', 'd', 'i', 'r', '=', 'u', 'p', '\'',
 ' ', ' ', ' ', ':', ' ', 'u', 'p', 'w', 'a', 'r', 'd', ' ', 'i', 'n', 'c', 'l', 'u', 's', 'i', 'o', 'n', ' ', 'c', 'h',
 'e', 'c', 'k', 'i', 'n', 'g', ' ', '(', 'd', 'e', 'f', 'a', 'u', 'l', 't', ')', '\n'],
  [' ', ' ', ' ', ' ', ' ', ' ', ' ', ' ', ' ', ' ', ' ', ' ', ' ', ' ', ' ', '\'', 's', 'i', 'm', '=', 'y', 'e', 's',
 '\'', ' ', ' ', ':', ' ', 'u', 's', 'e', ' ', 'c', 'o', 'r', 'r', 'e', 's', 'p', 'o', 'n', 'd', 'i', 'n', 'g', ' ',
 's', 'i', 'm', 'u', 'l', 'a', 't', 'i', 'o', 'n', '\n'],
  [' ', ' ', ' ', ' ', ' ', ' ', ' ', ' ', ' ', ' ', ' ', ' ', ' ', ' ', ' ', '\'', 's', 'i', 'm', '=', 'n', 'o', '\'',
 ' ', ' ', ' ', ':', ' ', 'd', 'o', ' ', 'n', 'o', 't', ' ', 'u', 's', 'e', ' ', 's', 'i', 'm', 'u', 'l', 'a', 't', 'i',
 'o', 'n', ' ', '(', 'd', 'e', 'f', 'a', 'u', 'l', 't', ')', '\n'],
  [' ', ' ', ' ', ' ', ' ', ' ', ' ', ' ', ' ', ' ', ' ', ' ', ' ', ' ', ' ', '\'', 'o', 'r', 'd', 'e', 'r', '=', 'd',
 'e', 'p', 't', 'h', '\'', ':', ' ', 'u', 's', 'e', ' ', 'd', 'e', 'p', 't', 'h', '-', 'f', 'i', 'r', 's', 't', ' ',
 's', 'e', 'a', 'r', 'c', 'h', ' ', 'f', 'o', 'r', ' ', 'c', 'o', 'n', 'g', 'r', 'u', 'e', 'n', 'c', 'e', ' ', 'a', 'l',
 'g', 'o', 'r', 'i', 't', 'h', 'm', ' ', '(', 'd', 'e', 'f', 'a', 'u', 'l', 't', ')', '\n'],
  [' ', ' ', ' ', ' ', ' ', ' ', ' ', ' ', ' ', ' ', ' ', ' ', ' ', ' ', ' ', '\'', 'o', 'r', 'd', 'e', 'r', '=', 'b',
 'r', 'e', 'a', 'd', 't', 'h', '\'', ':', ' ', 'u', 's', 'e', ' ', 'b', 'r', 'e', 'a', 'd', 't', 'h', '-', 'f', 'i',
 'r', 's', 't', ' ', 's', 'e', 'a', 'r', 'c', 'h', ' ', 'f', 'o', 'r', ' ', 'c', 'o', 'n', 'g', 'r', 'u', 'e', 'n', 'c',
 'e', ' ', 'a', 'l', 'g', 'o', 'r', 'i', 't', 'h', 'm', '\n'],
  [' ', ' ', ' ', ' ', ' ', ' ', ' ', ' ', ' ', ' ', ' ', ' ', ' ', ' ', ' ', '\'', 'o', 'p', 't', 'C', '=', 'y', 'e',
 's', '\'', ' ', ':', ' ', 'u', 's', 'e', ' ', 'o', 'p', 't', 'i', 'm', 'i', 's', 'e', 'd', ' ', 'c', 'a', 'c', 'h',
 'e', ' ', 'f', 'o', 'r', ' ', 'd', 'o', 'w', 'n', 'w', 'a', 'r', 'd', ' ', 'd', 'i', 'r', 'e', 'c', 't', 'i', 'o', 'n',
 '\n'],
  [' ', ' ', ' ', ' ', ' ', ' ', ' ', ' ', ' ', ' ', ' ', ' ', ' ', ' ', ' ', '\'', 'o', 'p', 't', 'C', '=', 'n', 'o',
 '\'', ' ', ' ', ':', ' ', 'w', 'i', 't', 'h', 'o', 'u', 't', ' ', 'o', 'p', 't', 'i', 'm', 'i', 's', 'e', 'd', ' ',
 'c', 'a', 'c', 'h', 'e', ' ', '(', 'd', 'e', 'f', 'a', 'u', 'l', 't', ')', '\n'],
  [' ', ' ', ' ', ' ', ' ', ' ', ' ', ' ', ' ', ' ', ' ', ' ', ' ', ' ', ' ', '\'', 'r', 'e', 'c', '=', 'n', 'o', '\'',
 ' ', ' ', ' ', ':', ' ', 'r', 'e', 'c', 'u', 'r', 's', 'i', 'v', 'e', ' ', 'v', 'e', 'r', 's', 'i', 'o', 'n', ' ', 'o',
 'f', ' ', 't', 'h', 'e', ' ', 'a', 'l', 'g', 'o', 'r', 'i', 't', 'h', 'm', ' ', '(', 'd', 'e', 'f', 'a', 'u', 'l', 't',
 ')', '\n'],
  [' ', ' ', ' ', ' ', ' ', ' ', ' ', ' ', ' ', ' ', ' ', ' ', ' ', ' ', ' ', '\'', 'r', 'e', 'c', '=', 'y', 'e', 's',
 '\'', ' ', ' ', ':', ' ', 'n', 'o', 'n', '-', 'r', 'e', 'c', 'u', 'r', 's', 'i', 'v', 'e', ' ', 'v', 'e', 'r', 's',
 'i', 'o', 'n', ' ', 'o', 'f', ' ', 't', 'h', 'e', ' ', 'a', 'l', 'g', 'o', 'r', 'i', 't', 'h', 'm', '\n'],
  [' ', ' ', ' ', ' ', ' ', ' ', ' ', ' ', ' ', ' ', ' ', ' ', ' ', ' ', ' ', '\'', 't', 'i', 'm', 'e', 'S', '=', 'y',
 'e', 's', '\'', ':', ' ', 'i', 'n', 'c', 'l', 'u', 'd', 'e', ' ', 't', 'i', 'm', 'e', ' ', 'o', 'f', ' ', 's', 'i',
 'm', 'u', 'l', 'a', 't', 'i', 'o', 'n', ' ', 'c', 'o', 'm', 'p', 'u', 't', 'a', 't', 'i', 'o', 'n', ' ', '(', 'd', 'e',
 'f', 'a', 'u', 'l', 't', ')', '\n'],
  [' ', ' ', ' ', ' ', ' ', ' ', ' ', ' ', ' ', ' ', ' ', ' ', ' ', ' ', ' ', '\'', 't', 'i', 'm', 'e', 'S', '=', 'n',
 'o', '\'', ' ', ':', ' ', 'd', 'o', ' ', 'n', 'o', 't', ' ', 'i', 'n', 'c', 'l', 'u', 'd', 'e', ' ', 't', 'i', 'm',
 'e', ' ', 'o', 'f', ' ', 's', 'i', 'm', 'u', 'l', 'a', 't', 'i', 'o', 'n', ' ', 'c', 'o', 'm', 'p', 'u', 't', 'a', 't',
 'i', 'o', 'n', '\n'],
  ['\n', 'G', 'e', 'n', 'e', 'r', 'a', 'l', ' ', 'o', 'p', 't', 'i', 'o', 'n', 's', ':', '\n'],
  [' ', ' ', ' ', ' ', ' ', ' ', ' ', ' ', ' ', ' ', ' ', ' ', ' ', ' ', ' ', '\'', 's', 'y', 'm', 'b', 'o', 'l', 'i',
 'c', '=', 'n', 'o', '\'', ' ', ' ', ':', ' ', 'u', 's', 'e', ' ', 'e', 'x', 'p', 'l', 'i', 'c', 'i', 't', ' ', 'e',
 'n', 'c', 'o', 'd', 'i', 'n', 'g', ' ', 'o', 'f', ' ', 'i', 'n', 'p', 'u', 't', ' ', 'f', 'i', 'l', 'e', '\n'],
  [' ', ' ', ' ', ' ', ' ', ' ', ' ', ' ', ' ', ' ', ' ', ' ', ' ', ' ', ' ', '\'', 's', 'y', 'm', 'b', 'o', 'l', 'i',
 'c', '=', 'y', 'e', 's', '\'', ' ', ':', ' ', 'u', 's', 'e', ' ', 's', 'y', 'm', 'b', 'o', 'l', 'i', 'c', ' ', 'e',
 'n', 'c', 'o', 'd', 'i', 'n', 'g', ' ', 'o', 'f', ' ', 'i', 'n', 'p', 'u', 't', ' ', 'f', 'i', 'l', 'e', '\n']]

def usageFlagsL : List Str := [
  ['\n', 'O', 'p', 't', 'i', 'o', 'n', 's', ':', '\n'],
  [' ', ' ', ' ', ' ', '-', 'h', ',', ' ', '-', '-', 'h', 'e', 'l', 'p', ' ', ' ', ' ', ' ', ' ', ' ', ' ', ' ', ' ', ' ',
 ' ', ' ', 'D', 'i', 's', 'p', 'l', 'a', 'y', ' ', 't', 'h', 'i', 's', ' ', 'm', 'e', 's', 's', 'a', 'g', 'e', '\n'],
  [' ', ' ', ' ', ' ', '-', 'v', ',', ' ', '-', '-', 'v', 'e', 'r', 's', 'i', 'o', 'n', ' ', ' ', ' ', ' ', ' ', ' ', ' ',
 ' ', ' ', 'D', 'i', 's', 'p', 'l', 'a', 'y', ' ', 'v', 'e', 'r', 's', 'i', 'o', 'n', '\n'],
  [' ', ' ', ' ', ' ', '-', 'r', ' ', '<', 'r', 'e', 'p', 'r', 'e', 's', 'e', 'n', 't', 'a', 't', 'i', 'o', 'n', '>', ' ',
 ' ', ' ', 'U', 's', 'e', ' ', '<', 'r', 'e', 'p', 'r', 'e', 's', 'e', 'n', 't', 'a', 't', 'i', 'o', 'n', '>', ' ', 'f',
 'o', 'r', ' ', 'i', 'n', 't', 'e', 'r', 'n', 'a', 'l', ' ', 's', 't', 'o', 'r', 'a', 'g', 'e', ' ', 'o', 'f', ' ', 'a',
 'u', 't', 'o', 'm', 'a', 't', 'a', '\n'],
  [' ', ' ', ' ', ' ', ' ', ' ', ' ', 'C', 'h', 'o', 'i', 'c', 'e', 's', ':', ' ', '\'', 'e', 'x', 'p', 'l', '\'', ' ',
 ' ', ' ', ':', ' ', 'e', 'x', 'p', 'l', 'i', 'c', 'i', 't', ' ', '(', 'd', 'e', 'f', 'a', 'u', 'l', 't', ')', '\n'],
  [' ', ' ', ' ', ' ', ' ', ' ', ' ', ' ', ' ', ' ', ' ', ' ', ' ', ' ', ' ', ' ', '\'', 'b', 'd', 'd', '-', 't', 'd',
 '\'', ' ', ':', ' ', 'b', 'i', 'n', 'a', 'r', 'y', ' ', 'd', 'e', 'c', 'i', 's', 'i', 'o', 'n', ' ', 'd', 'i', 'a',
 'g', 'r', 'a', 'm', 's', ',', ' ', 't', 'o', 'p', '-', 'd', 'o', 'w', 'n', '\n'],
  [' ', ' ', ' ', ' ', ' ', ' ', ' ', ' ', ' ', ' ', ' ', ' ', ' ', ' ', ' ', ' ', '\'', 'b', 'd', 'd', '-', 'b', 'u',
 '\'', ' ', ':', ' ', 'b', 'i', 'n', 'a', 'r', 'y', ' ', 'd', 'e', 'c', 'i', 's', 'i', 'o', 'n', ' ', 'd', 'i', 'a',
 'g', 'r', 'a', 'm', 's', ',', ' ', 'b', 'o', 't', 't', 'o', 'm', '-', 'u', 'p', '\n'],
  [' ', ' ', ' ', ' ', ' ', ' ', ' ', ' ', ' ', ' ', ' ', ' ', ' ', ' ', ' ', ' ', '\'', 'e', 'x', 'p', 'l', '_', 'f',
 'a', '\'', ':', ' ', 'e', 'x', 'p', 'l', 'i', 'c', 'i', 't', ' ', 'f', 'i', 'n', 'i', 't', 'e', ' ', 'a', 'u', 't',
 'o', 'm', 'a', 't', 'a', '\n'],
  [' ', ' ', ' ', ' ', '(', '-', 'I', '|', '-', 'O', '|', '-', 'F', ')', ' ', '<', 'f', 'o', 'r', 'm', 'a', 't', '>', ' ',
 ' ', ' ', ' ', ' ', 'S', 'p', 'e', 'c', 'i', 'f', 'y', ' ', 'f', 'o', 'r', 'm', 'a', 't', ' ', 'f', 'o', 'r', ' ', 'i',
 'n', 'p', 'u', 't', ' ', '(', '-', 'I', ')', ',', ' ', 'o', 'u', 't', 'p', 'u', 't', ' ', '(', '-', 'O', ')', ',', ' ',
 'o', 'r', ' ', 'b', 'o', 't', 'h', ' ', '(', '-', 'F', ')', '\n'],
  [' ', ' ', ' ', ' ', ' ', ' ', ' ', 'F', 'o', 'r', 'm', 'a', 't', 's', ':', ' ', '\'', 't', 'i', 'm', 'b', 'u', 'k',
 '\'', ' ', ' ', ':', ' ', 'T', 'i', 'm', 'b', 'u', 'k', ' ', 'f', 'o', 'r', 'm', 'a', 't', ' ', '(', 'd', 'e', 'f',
 'a', 'u', 'l', 't', ')', '\n'],
  [' ', ' ', ' ', ' ', '-', 't', ' ', ' ', ' ', ' ', ' ', ' ', ' ', ' ', ' ', ' ', ' ', ' ', ' ', ' ', ' ', ' ', ' ', ' ',
 ' ', ' ', ' ', ' ', 'P', 'r', 'i', 'n', 't', ' ', 't', 'h', 'e', ' ', 't', 'i', 'm', 'e', ' ', 't', 'h', 'e', ' ', 'o',
 'p', 'e', 'r', 'a', 't', 'i', 'o', 'n', ' ', 't', 'o', 'o', 'k', ' ', 't', 'o', ' ', 'e', 'r', 'r', 'o', 'r', ' ', 'o',
 'u', 't', 'p', 'u', 't', ' ', 's', 't', 'r', 'e', 'a', 'm', '\n'],
  [' ', ' ', ' ', ' ', '-', 'V', ' ', ' ', ' ', ' ', ' ', ' ', ' ', ' ', ' ', ' ', ' ', ' ', ' ', ' ', ' ', ' ', ' ', ' ',
 ' ', ' ', ' ', ' ', 'B', 'e', ' ', 'v', 'e', 'r', 'b', 'o', 's', 'e', '\n'],
  [' ', ' ', ' ', ' ', '-', 'n', ' ', ' ', ' ', ' ', ' ', ' ', ' ', ' ', ' ', ' ', ' ', ' ', ' ', ' ', ' ', ' ', ' ', ' ',
 ' ', ' ', ' ', ' ', 'D', 'o', ' ', 'n', 'o', 't', ' ', 'o', 'u', 't', 'p', 'u', 't', ' ', 't', 'h', 'e', ' ', 'r', 'e',
 's', 'u', 'l', 't', ' ', 'a', 'u', 't', 'o', 'm', 'a', 't', 'o', 'n', '\n'],
  [' ', ' ', ' ', ' ', '-', 'p', ' ', ' ', ' ', ' ', ' ', ' ', ' ', ' ', ' ', ' ', ' ', ' ', ' ', ' ', ' ', ' ', ' ', ' ',
 ' ', ' ', ' ', ' ', 'P', 'r', 'u', 'n', 'e', ' ', 'u', 'n', 'r', 'e', 'a', 'c', 'h', 'a', 'b', 'l', 'e', ' ', 's', 't',
 'a', 't', 'e', 's', ' ', 'f', 'i', 'r', 's', 't', '\n'],
  [' ', ' ', ' ', ' ', '-', 's', ' ', ' ', ' ', ' ', ' ', ' ', ' ', ' ', ' ', ' ', ' ', ' ', ' ', ' ', ' ', ' ', ' ', ' ',
 ' ', ' ', ' ', ' ', 'P', 'r', 'u', 'n', 'e', ' ', 'u', 's', 'e', 'l', 'e', 's', 's', ' ', 's', 't', 'a', 't', 'e', 's',
 ' ', 'f', 'i', 'r', 's', 't', ' ', '(', 's', 't', 'r', 'o', 'n', 'g', 'e', 'r', ' ', 't', 'h', 'a', 'n', ' ', '-', 'p',
 ')', '\n'],
  [' ', ' ', ' ', ' ', '-', 'o', ' ', '<', 'o', 'p', 't', '>', '=', '<', 'v', '>', ',', '<', 'o', 'p', 't', '>', '=', '<',
 'v', '>', ' ', ' ', 'O', 'p', 't', 'i', 'o', 'n', 's', ' ', 'i', 'n', ' ', 't', 'h', 'e', ' ', 'f', 'o', 'r', 'm', ' ',
 'o', 'f', ' ', 'a', ' ', 'c', 'o', 'm', 'm', 'a', '-', 's', 'e', 'p', 'a', 'r', 'a', 't', 'e', 'd', ' ', '<', 'o', 'p',
 't', 'i', 'o', 'n', '>', '=', '<', 'v', 'a', 'l', 'u', 'e', '>', ' ', 'l', 'i', 's', 't']]


-- each `String.ofList chars` IS its literal; `simp` sees that line by line, the obvious `rfl` makes the unifier walk through
-- all 11 k characters
theorem ofList_usageStringL : usageStringL.map String.ofList = usageString := by
  simp only [usageStringL, usageString, List.map_cons, List.map_nil]
theorem ofList_usageCommandsL : usageCommandsL.map String.ofList = usageCommands := by
  simp only [usageCommandsL, usageCommands, List.map_cons, List.map_nil]
theorem ofList_usageFlagsL : usageFlagsL.map String.ofList = usageFlags := by
  simp only [usageFlagsL, usageFlags, List.map_cons, List.map_nil]

theorem map_toList_map_ofList (l : List Str) : (l.map String.ofList).map String.toList = l := by simp

theorem usageString_chars : usageString.map String.toList = usageStringL := by
  rw [← ofList_usageStringL, map_toList_map_ofList]
theorem usageCommands_chars : usageCommands.map String.toList = usageCommandsL := by
  rw [← ofList_usageCommandsL, map_toList_map_ofList]
theorem usageFlags_chars : usageFlags.map String.toList = usageFlagsL := by
  rw [← ofList_usageFlagsL, map_toList_map_ofList]

end Vata.CliArgs
