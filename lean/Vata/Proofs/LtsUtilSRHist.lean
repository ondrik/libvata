import Vata.Proofs.LtsUtilSRErase
import Vata.Proofs.LtsUtilSRInit
import Vata.Proofs.LtsUtilSRSplit

/-!
# `SplittingRelation` — histories

No operation changes the capacity `rows_.size()`.  Hence every history inside the call discipline `ok` runs on the model
without getting stuck and returns what the value returns.
-/
namespace Vata.LU.SR

/-- the concrete state `s` represents the abstract state `a`: before `init` the object is as constructed, afterwards the
invariant holds for `a.rel`; the capacity is `a.maxSize` throughout -/
def Rep (s : T) (a : A) : Prop :=
  s.rows.length = a.maxSize ∧ (if a.inited = true then Inv s a.rel else s = mk a.maxSize)

/-- the observable result of a call on the value side (`split` returns the new index) -/
def aOut (a : A) : Op → List Nat
  | .split _ => [a.rel.length]
  | _ => []

theorem step_refines {s : T} {a : A} (h : Rep s a) {op : Op} (hok : ok a op = true) :
    ∃ s', step s op = some (s', aOut a op) ∧ Rep s' (aStep a op) := by
  obtain ⟨hcap, hrep⟩ := h
  cases op with
  | init index =>
    have hin : a.inited = false := by
      simp only [ok, Bool.and_eq_true, Bool.not_eq_true'] at hok; exact hok.1.1
    rw [hin] at hrep
    simp only [Bool.false_eq_true, if_false] at hrep
    have hok' : ok ⟨[], a.maxSize, false⟩ (.init index) = true := by
      simp only [ok, hin] at hok ⊢; exact hok
    obtain ⟨s', e1, hinv, hlen⟩ := init_refines_cap hok'
    exact ⟨s', by simp only [step, hrep, e1, aOut]; rfl, hlen, by simp only [aStep, if_true]; exact hinv⟩
  | split i =>
    simp only [ok, Bool.and_eq_true, decide_eq_true_eq] at hok
    obtain ⟨⟨⟨hin, hi⟩, hlt⟩, hrefl⟩ := hok
    rw [hin] at hrep
    simp only [if_true] at hrep
    obtain ⟨s', e1, hinv, hlen⟩ := split_refines_cap hrep hi (by rw [hcap]; exact hlt) hrefl
    refine ⟨s', ?_, hlen.trans hcap, ?_⟩
    · simp only [step, e1, aOut, size_refines hrep]; rfl
    · simp only [aStep, hin, if_true]; exact hinv
  | eraseRow i mask =>
    simp only [ok, Bool.and_eq_true, decide_eq_true_eq] at hok
    obtain ⟨hin, hi⟩ := hok
    rw [hin] at hrep
    simp only [if_true] at hrep
    obtain ⟨s', e1, hinv, hlen⟩ := eraseRow_refines_cap hrep hi mask
    refine ⟨s', by simp only [step, e1, aOut]; rfl, ?_, ?_⟩
    · rw [hlen]; exact hcap
    · simp only [aStep, hin, if_true]; exact hinv

def run : T → List Op → Option (T × List (List Nat))
  | s, [] => some (s, [])
  | s, op :: ops =>
    match step s op with
    | none => none
    | some (s1, out) => (run s1 ops).map (fun r => (r.1, out :: r.2))

def aRun : A → List Op → A × List (List Nat)
  | a, [] => (a, [])
  | a, op :: ops => ((aRun (aStep a op) ops).1, aOut a op :: (aRun (aStep a op) ops).2)

def okAll : A → List Op → Bool
  | _, [] => true
  | a, op :: ops => ok a op && okAll (aStep a op) ops

theorem run_refines (ops : List Op) : ∀ {s : T} {a : A}, Rep s a → okAll a ops = true →
    ∃ s', run s ops = some (s', (aRun a ops).2) ∧ Rep s' (aRun a ops).1 := by
  induction ops with
  | nil => exact fun h _ => ⟨_, rfl, h⟩
  | cons op ops ih =>
    intro s a h hok
    simp only [okAll, Bool.and_eq_true] at hok
    obtain ⟨s1, e1, h1⟩ := step_refines h hok.1
    obtain ⟨s', e2, h2⟩ := ih h1 hok.2
    exact ⟨s', by simp only [run, e1, e2, aRun]; rfl, h2⟩

theorem rep_mk (m : Nat) : Rep (mk m) ⟨[], m, false⟩ := by
  refine ⟨by simp [mk], ?_⟩
  simp

/-- every history on a new object that respects the call discipline: the model never gets stuck (no undefined
behaviour), returns what the value returns, and ends in a state that represents the final value -/
theorem run_refines_mk (m : Nat) (ops : List Op) (hok : okAll ⟨[], m, false⟩ ops = true) :
    ∃ s', run (mk m) ops = some (s', (aRun ⟨[], m, false⟩ ops).2) ∧ Rep s' (aRun ⟨[], m, false⟩ ops).1 :=
  run_refines ops (rep_mk m) hok

namespace Ex

def ops : List Op := [.init [[0, 1], [1]], .split 1, .eraseRow 0 [1], .split 0, .eraseRow 3 [0, 2]]

example : okAll ⟨[], 5, false⟩ ops = true := by decide +kernel

example : (aRun ⟨[], 5, false⟩ ops).1.rel = [[0, 2, 3], [1, 2], [1, 2], [3]] := by decide +kernel

example : (aRun ⟨[], 5, false⟩ ops).2 = [[], [2], [], [3], []] := by decide +kernel

/-- `split_refines` / `eraseRow_refines` / `init_refines` apply along this history -/
example : ∃ s', run (mk 5) ops = some (s', [[], [2], [], [3], []]) ∧ Inv s' [[0, 2, 3], [1, 2], [1, 2], [3]] := by
  obtain ⟨s', h1, h2⟩ := run_refines_mk 5 ops (by decide +kernel)
  refine ⟨s', h1, ?_⟩
  have e : (aRun ⟨[], 5, false⟩ ops).1 = ⟨[[0, 2, 3], [1, 2], [1, 2], [3]], 5, true⟩ := by decide +kernel
  have := h2.2
  rw [e] at this
  simpa using this

example : aSplit [[0, 1], [1]] 1 = [[0, 1, 2], [1, 2], [1, 2]] := by decide

/-- non-vacuity of `split_refines`: a state inside the invariant with a reflexive index below the capacity -/
example : ∃ s s', init (mk 5) [[0, 1], [1]] = some s ∧ split s 1 = some s' ∧ Inv s' [[0, 1, 2], [1, 2], [1, 2]] := by
  obtain ⟨s, h1, h2, hcap⟩ := init_refines_cap (m := 5) (index := [[0, 1], [1]]) (by decide)
  obtain ⟨s', h3, h4⟩ := split_refines h2 (i := 1) (by decide) (by rw [hcap]; decide) (by decide)
  exact ⟨s, s', h1, h3, h4⟩

example : ∃ s s', init (mk 5) [[0, 1], [1]] = some s ∧ eraseRow s 0 [1] = some s' ∧ Inv s' [[0], [1]] := by
  obtain ⟨s, h1, h2⟩ := init_refines (m := 5) (index := [[0, 1], [1]]) (by decide)
  obtain ⟨s', h3, h4⟩ := eraseRow_refines h2 (i := 0) (by decide) [1]
  exact ⟨s, s', h1, h3, h4⟩

/-- the model really computes: rows / columns read back after `init; split 1; eraseRow 0 [1]` (instances of
`rowCells_refines` / `colCells_refines`) -/
example : (run (mk 5) [.init [[0, 1], [1]], .split 1, .eraseRow 0 [1]]).bind
    (fun r => (rowCells r.1 0).map (·.map (·.2))) = some [0, 2] := by decide +kernel

example : (run (mk 5) [.init [[0, 1], [1]], .split 1, .eraseRow 0 [1]]).bind
    (fun r => (colCells r.1 2).map (·.map (·.2))) = some (aCol [[0, 2], [1, 2], [1, 2]] 2) := by decide +kernel

example : (aRun ⟨[], 5, false⟩ ops).1.inited = true := by decide

/-- outside the discipline the model may be undefined: `split` at full capacity -/
example : run (mk 2) [.init [[0, 1], [1]], .split 1] = none := by decide +kernel

/-- the bound `j < rel.length` in `colCells_refines` is needed: beyond `size()` the sentinel pair is still null -/
example : (init (mk 3) [[0]]).bind (fun s => colCells s 1) = none ∧ aCol [[0]] 1 = [] := by decide +kernel

end Ex

end Vata.LU.SR
