import Vata.Basic
import Vata.TaSim
import Vata.Incl
import Vata.Multi
import Vata.Lang
import Vata.Trim
import Vata.Isect
import Vata.UpCert
import Vata.DownCert
import Vata.Reduce
import Vata.Ref
import Vata.Spec
import Vata.Parse
import Vata.Mtbdd
import Vata.Apply
import Vata.Cow
import Vata.Rc
import Vata.Nfa
import Vata.NfaEmbed
import Vata.Split
import Vata.Proofs.ListExt
import Vata.Proofs.Verdict
import Vata.Proofs.ListFacts
import Vata.Proofs.AssocList
import Vata.Proofs.Rounds
import Vata.Proofs.Closure
import Vata.Proofs.TrimAux
import Vata.Proofs.RunBridge
import Vata.Proofs.TrimModel
import Vata.Proofs.SimModel
import Vata.Proofs.SimExampleRuns
import Vata.Proofs.LtsSim
import Vata.Proofs.Rename
import Vata.NfaOps
import Vata.Proofs.NfaOps
import Vata.MtbddOps
import Vata.Proofs.MtbddOps
import Vata.Candidate
import Vata.Proofs.Candidate
import Vata.IsectModel
import Vata.Proofs.IsectModel
import Vata.RcStore
import Vata.Proofs.RcStore
import Vata.Proofs.StoreBuild
import Vata.Proofs.RcStoreHist
import Vata.InclUp
import Vata.Proofs.InclUp
import Vata.Proofs.Finish
import Vata.Proofs.NormS
import Vata.Proofs.InclUpGen
import Vata.Proofs.InclUpInv
import Vata.Proofs.InclUpWitness
import Vata.Proofs.InclUpTotal
import Vata.Store
import Vata.Proofs.Store
import Vata.CowHeap
import Vata.Proofs.CowLevel
import Vata.Proofs.CowHeap
import Vata.CowHeap3
import Vata.Proofs.CowHeap3
import Vata.Timbuk
import Vata.Proofs.TimbukLex
import Vata.Proofs.Timbuk
import Vata.Proofs.TimbukEval
import Vata.Proofs.AsciiText
import Vata.Compl
import Vata.Proofs.Compl
import Vata.Proofs.ComplTotal
import Vata.InclUpBdd
import Vata.Proofs.InclUpBdd
import Vata.BddAbs
import Vata.Proofs.BddAbs
import Vata.Generated.Tables
import Vata.Properties.Dispatch
import Vata.NfaIncl
import Vata.Proofs.NfaIncl
import Vata.Proofs.NfaInclExpl
import Vata.Proofs.NfaInclTotal
import Vata.Proofs.NfaInclCongr
import Vata.Proofs.NfaInclCongrTotal
import Vata.InclDown
import Vata.Proofs.InclDown
import Vata.Proofs.InclDownInv
import Vata.Proofs.InclDownTotal
import Vata.TaLts
import Vata.Proofs.TaLts
import Vata.Proofs.Equivariance
import Vata.UnionModel
import Vata.Proofs.UnionModel
import Vata.Sanitize
import Vata.Proofs.Sanitize
import Vata.IsectBU
import Vata.Proofs.IsectBU
import Vata.Proofs.IsectBUInv
import Vata.Proofs.IsectBUTotal
import Vata.Proofs.StoreRefine
import Vata.Proofs.UsefulAux
import Vata.Proofs.BddAbsLang
import Vata.CowHeapX
import Vata.Proofs.CowHeapX
import Vata.LoadDump
import Vata.Proofs.Dict
import Vata.Proofs.LoadDump
import Vata.ReduceModel
import Vata.Proofs.ReduceModel
import Vata.BddAbsTD
import Vata.Proofs.TrimSkel
import Vata.Proofs.BddAbsTD
import Vata.InclUpSim
import Vata.Proofs.InclUpSim
import Vata.Proofs.InclUpSimInv
import Vata.Proofs.InclUpSimTotal
import Vata.StoreIter
import Vata.Proofs.StoreIter
import Vata.BddIsect
import Vata.Proofs.BddIsect
import Vata.Proofs.BddIsectApply
import Vata.Proofs.BddIsectTotal
import Vata.Proofs.BddIsectBUTotal
import Vata.OrdVector
import Vata.Proofs.ContainerLemmas
import Vata.Proofs.OrdVector
import Vata.Antichain
import Vata.Proofs.Antichain
import Vata.Proofs.AntichainTwo
import Vata.Proofs.AntichainOrd
import Vata.BddSim
import Vata.Proofs.BddSim
import Vata.BinRel
import Vata.Proofs.BinRel
import Vata.LtsEngine
import Vata.Proofs.LtsEngineAux
import Vata.Proofs.LtsEngineSplit
import Vata.Proofs.LtsEnginePhase
import Vata.Proofs.LtsEngineSem
import Vata.Proofs.LtsEnginePot
import Vata.Proofs.LtsEnginePrune
import Vata.Proofs.LtsEngineStep
import Vata.Proofs.LtsEngineInit
import Vata.Proofs.LtsEngine
import Vata.Proofs.LtsEngineTest
import Vata.CacheModel
import Vata.Proofs.CacheModel
import Vata.Glue
import Vata.Proofs.Glue
import Vata.Proofs.GlueAsgn
import Vata.Proofs.GluePacked
import Vata.Proofs.GlueDict
import Vata.Proofs.GlueTransl
import Vata.Proofs.GlueConv
import Vata.CliArgs
import Vata.Proofs.CliArgs
import Vata.Proofs.CliArgsErrors
import Vata.Proofs.CliArgsOptLoop
import Vata.Proofs.CliArgsHelpText
import Vata.Proofs.CliArgsHelp
import Vata.Proofs.SatTotal
import Vata.Proofs.MultiTotal
import Vata.Proofs.PairTotal
import Vata.SimPipeline
import Vata.Proofs.SimPipeline
import Vata.LtsUtil
import Vata.Proofs.LtsUtilCA
import Vata.Proofs.LtsUtilLayout
import Vata.Proofs.LtsUtilSS
import Vata.Proofs.LtsUtilSC
import Vata.Proofs.LtsUtilSC2
import Vata.Proofs.LtsUtilSC3
import Vata.Proofs.LtsUtilSC4
import Vata.Proofs.LtsUtilSC5
import Vata.Proofs.LtsUtilSL
import Vata.Proofs.LtsUtilSL2
import Vata.Proofs.LtsUtilSRChain
import Vata.Proofs.LtsUtilSRObs
import Vata.Proofs.LtsUtilSRShape
import Vata.Proofs.LtsUtilSRErase
import Vata.Proofs.LtsUtilSRInit
import Vata.Proofs.LtsUtilSRSplit
import Vata.Proofs.LtsUtilSRHist
import Vata.Proofs.LtsUtil
import Vata.NfaStart
import Vata.Proofs.NfaStart
import Vata.BddShare
import Vata.Proofs.BddShare
import Vata.FunctorCaches
import Vata.Proofs.LockStep
import Vata.Proofs.FunctorCaches
import Vata.FunctorCachesUp
import Vata.Proofs.FunctorHeap
import Vata.Proofs.FunctorCachesUp
import Vata.BddTraverse
import Vata.Proofs.BddTraverse
import Vata.ApplyMemo
import Vata.Proofs.ApplyMemo
import Vata.BddLoad
import Vata.Proofs.BddLoad
import Vata.Proofs.InclUpBddTotal
import Vata.TrimCoded
import Vata.Proofs.TrimCodedUnreach
import Vata.Proofs.TrimCodedInit
import Vata.Proofs.TrimCodedLoop
import Vata.Proofs.TrimCodedResult
import Vata.UnionIsectMaps
import Vata.Proofs.UnionIsectMaps
import Vata.Proofs.UnionIsectMapsTD
import Vata.Proofs.UnionIsectMapsTotal
import Vata.Proofs.UnionIsectMapsBU
import Vata.FunctorCachesDown
import Vata.Proofs.FunctorCachesDown
import Vata.Proofs.FunctorCachesDownSim
import Vata.Proofs.FunctorCachesDownRun
import Vata.CliPipeline
import Vata.Proofs.CliPipelineDict
import Vata.Proofs.CliPipelineLang
import Vata.Proofs.CliPipelineText
import Vata.BddTrimGraph
import Vata.Proofs.BddTrimGraph
import Vata.BddTrimCoded
import Vata.Proofs.BddTrimCoded
import Vata.Proofs.BddTrimCodedBuild
import Vata.Proofs.BddTrimCodedGlue
import Vata.Proofs.BddTrimCodedEx
import Vata.Proofs.BddTrimCodedTotal
import Vata.BddTrimCodedBU
import Vata.Proofs.BddTrimCodedBU
import Vata.Proofs.BddTrimCodedBU2
import Vata.Proofs.BddTrimCodedBU3
import Vata.Proofs.BddTrimCodedBU4
import Vata.Proofs.BddTrimCodedBU5
import Vata.Proofs.BddTrimCodedBU6
import Vata.Proofs.BddTrimCodedBUEx
import Vata.InclDownStack
import Vata.Proofs.InclDownStack
import Vata.Proofs.InclDownStackTop
import Vata.NfaInclSim
import Vata.Proofs.NfaInclSimEquiv
import Vata.Proofs.NfaInclSimAC
import Vata.Proofs.NfaInclSimCongr
import Vata.Proofs.NfaInclSimCongrInv
import Vata.RcStoreX
import Vata.Proofs.RcStoreX
import Vata.Proofs.RcStoreXOps
import Vata.Proofs.RcStoreXHist
import Vata.Proofs.RcStoreXRel
import Vata.CowHeapFA
import Vata.Proofs.CowHeapFA
import Vata.Proofs.CowHeapFA2
import Vata.Proofs.CowHeapFA3
import Vata.Proofs.TimbukLayout
import Vata.Proofs.TimbukLayoutFile
import Vata.Proofs.TimbukLayoutReject
import Vata.BddUnionCoded
import Vata.Proofs.BddUnionCoded
import Vata.Proofs.BddUnionCodedTD
import Vata.Proofs.BddUnionCodedBU
import Vata.Proofs.BddUnionCodedShared
import Vata.RenameCoded
import Vata.Proofs.RenameCodedGen
import Vata.Proofs.RenameCodedEv
import Vata.Proofs.RenameCodedMain
import Vata.Proofs.RenameCodedValue
import Vata.FunctorCachesDownOpt
import Vata.Proofs.FunctorCachesDownOptGen
import Vata.Proofs.FunctorCachesDownOptSim
import Vata.Proofs.FunctorCachesDownOptRun
import Vata.FunctorCachesDownNonrec
import Vata.Proofs.FunctorCachesDownNonrec
import Vata.Proofs.NfaInclSimACInv
import Vata.Proofs.NfaInclSimACTotal
import Vata.Proofs.InclDownStackSteps
import Vata.Proofs.InclDownStackStepsMain
import Vata.Proofs.InclDownStackStepsTop
import Vata.UnionIsectMapsBU
import Vata.Proofs.UnionIsectMapsBUInv
import Vata.Proofs.UnionIsectMapsBUTotal
import Vata.Proofs.UnionIsectMapsBURules
import Vata.LtsEngineCalls
import Vata.Proofs.LtsEngineCalls
import Vata.Proofs.LtsEngineCallsSS
import Vata.Proofs.LtsEngineCallsRun
import Vata.StoreInterned
import Vata.Proofs.StoreInternedCache
import Vata.Proofs.StoreInterned
import Vata.ReduceCoded
import Vata.Proofs.ReduceCoded
import Vata.Proofs.ReduceCodedSize
import Vata.RcStoreXMono
import Vata.Proofs.RcStoreXMono
import Vata.Proofs.RcStoreXWfRename
import Vata.TimbukNormal
import Vata.Proofs.TimbukOrder
import Vata.Proofs.TimbukNorm
import Vata.Proofs.TimbukNormalForm
import Vata.InclDownTables
import Vata.Proofs.InclDownTables
import Vata.Proofs.InclDownTablesDump
import Vata.ComplOrd
import Vata.Proofs.ComplSmall
import Vata.Proofs.ComplOrd
import Vata.Proofs.ComplOrdIso
import Vata.Proofs.ComplOrdFifo
import Vata.Proofs.ComplOrdAlpha
import Vata.NfaLoadDump
import Vata.Proofs.NfaLoadDump
import Vata.Proofs.NfaLoadDumpLang
import Vata.Proofs.NfaUnionCoded
import Vata.NfaCliPipeline
import Vata.Proofs.NfaCliPipeline
import Vata.Proofs.NfaCliPipelineIsect
import Vata.Proofs.LtsEngineCallsDelta
import Vata.Proofs.LtsEngineCallsSR
import Vata.FunctorCachesUpSim
import Vata.Proofs.FunctorCachesUpSim
import Vata.Proofs.CowHeapFADenote
import Vata.Proofs.CowHeapFADenote2
import Vata.Proofs.CowHeapFADenote3
import Vata.LtsEngineCalls2
import Vata.Proofs.LtsEngineCalls2
import Vata.Proofs.LtsEngineCalls2SL
import Vata.Proofs.LtsEngineCalls2SLRun
import Vata.Proofs.InclDownTablesClass
import Vata.Proofs.InclDownTablesClassDet
import Vata.Proofs.InclDownTablesClassNullary
import Vata.NfaOpsCoded
import Vata.Proofs.NfaOpsCodedBase
import Vata.Proofs.NfaOpsCodedIsect
import Vata.Proofs.NfaOpsCodedIsectInv
import Vata.Proofs.NfaOpsCodedIsectSpec
import Vata.Proofs.NfaOpsCodedTrim
import Vata.Proofs.NfaOpsCodedCand
import Vata.Proofs.NfaOpsCodedMain
import Vata.CowInterned
import Vata.Proofs.CowInternedOps
import Vata.Proofs.CowInternedRefine
import Vata.Proofs.CowInternedStep
import Vata.C20Models
import Vata.Proofs.C20ModelsTrim
import Vata.Proofs.C20ModelsBddTrim
import Vata.Proofs.C20ModelsStack
import Vata.Wrapper
import Vata.Proofs.Wrapper
import Vata.Proofs.WrapperInv
import Vata.Proofs.WrapperOrder
import Vata.Proofs.LtsEngineCalls2SCCfg
import Vata.Proofs.LtsEngineCalls2SC
import Vata.Proofs.LtsEngineCalls2SCInit
import Vata.Proofs.LtsEngineCalls2SCRun
import Vata.Proofs.LtsEngineInstr
import Vata.Proofs.InclDownTablesClass2Lift
import Vata.Proofs.InclDownTablesClass2Inv
import Vata.Proofs.InclDownTablesClass2Main
import Vata.Proofs.InclDownTablesClass2Run
import Vata.Proofs.CowHeapFACand
import Vata.Proofs.CowHeapFACand2
import Vata.CowInterned2
import Vata.Proofs.CowInternedEager
import Vata.TimbukGrammar
import Vata.Proofs.TimbukGrammarParser
import Vata.Proofs.TimbukGrammarWords
import Vata.Proofs.TimbukGrammarTrans
import Vata.Proofs.TimbukGrammarFile
import Vata.Proofs.TimbukGrammarReject
import Vata.LtsContainer
import Vata.Proofs.LtsContainer
import Vata.Proofs.SmartSetFresh
import Vata.Proofs.LtsContainerInv
import Vata.Proofs.LtsContainerViews
import Vata.Proofs.LtsContainerAbs
import Vata.ArityPrefix
import Vata.Proofs.ArityPrefix
import Vata.Proofs.ArityPrefixTables
import Vata.CowHeapFAUnion
import Vata.Proofs.CowHeapFAUnion
import Vata.CowHeapFAIsect
import Vata.Proofs.CowHeapFAIsect
import Vata.UnionStoreCoded
import Vata.Proofs.UnionStoreCoded
import Vata.Proofs.UnionStoreCodedInv
import Vata.Proofs.UnionStoreCodedOps
import Vata.Proofs.UnionStoreCodedOrder
import Vata.EnvTable
import Vata.Proofs.EnvTable
import Vata.RcStoreW
import Vata.Proofs.RcStoreW
import Vata.Proofs.RcStoreWBound
import Vata.Proofs.RcStoreWNarrow
import Vata.SymbolCounter
import Vata.Proofs.SymbolCounter
import Vata.CounterRows
import Vata.Proofs.CounterRows
import Vata.ClearShared
import Vata.Proofs.ClearShared
import Vata.ExtendWithCall
import Vata.Proofs.ExtendWithCall
import Vata.CandidateTrunc
import Vata.Proofs.CandidateTrunc
import Vata.Proofs.ComplStale
import Vata.UnionCounter
import Vata.Proofs.UnionCounter
import Vata.TrimCodedSeeds
import Vata.Proofs.TrimCodedSeeds
import Vata.Proofs.PropAux
import Vata.Properties.C01
import Vata.Properties.C02
import Vata.Properties.C03
import Vata.Properties.C04
import Vata.Properties.C05
import Vata.Properties.C06
import Vata.Properties.C07
import Vata.Properties.C08
import Vata.Properties.C09
import Vata.Properties.C10
import Vata.Properties.C11
import Vata.Properties.C12
import Vata.Properties.C12_Iterators
import Vata.Properties.C13
import Vata.Properties.C14
import Vata.Properties.C15
import Vata.Properties.C16
import Vata.Properties.C17
import Vata.Properties.C18
import Vata.Properties.C19
import Vata.Properties.C20
import Vata.Properties.C11_Extended
import Vata.Properties.C13_LoadDump
import Vata.Properties.C19_LoadDump
import Vata.Properties.C05_ReduceModel
import Vata.Properties.C08_Tables
import Vata.Properties.C08_Isect
import Vata.Properties.Util_OrdVector
import Vata.Properties.Util_Antichain
import Vata.Properties.C07_BddSim
import Vata.Properties.Util_BinRel
import Vata.Properties.C16_Engine
import Vata.Properties.CacheWiring
import Vata.Properties.Util_Cache
import Vata.Properties.Util_Glue
import Vata.Properties.Util_CliArgs
import Vata.Properties.RefTotal
import Vata.Properties.C04_Pipeline
import Vata.Properties.C05_Pipeline
import Vata.Properties.Util_LtsUtil
import Vata.Properties.C10_StartSymbols
import Vata.Properties.C08_Sharing
import Vata.Properties.C09_Caches
import Vata.Properties.C01_Caches
import Vata.Properties.C07_Traverse
import Vata.Properties.C17_Memo
import Vata.Properties.C08_Load
import Vata.Properties.C07_UpTotal
import Vata.Properties.C03_Coded
import Vata.Properties.C02_Maps
import Vata.Properties.C01_CachesDown
import Vata.Properties.C02_CliPipeline
import Vata.Properties.C08_TrimCoded
import Vata.Properties.C01_Stack
import Vata.Properties.C09_Sim
import Vata.Properties.C18_Extended
import Vata.Properties.C17_StoreOps
import Vata.Properties.C11_FiniteAut
import Vata.Properties.C13_Layout
import Vata.Properties.C08_UnionCoded
import Vata.Properties.C14_Coded
import Vata.Properties.C01_CachesDownOpt
import Vata.Properties.C09_SimTotal
import Vata.Properties.C01_StackBound
import Vata.Properties.C02_MapsBU
import Vata.Properties.C16_Discipline
import Vata.Properties.C12_Interned
import Vata.Properties.C05_Coded
import Vata.Properties.C17_StoreCanon
import Vata.Properties.C13_Normal
import Vata.Properties.C07_TraverseDown
import Vata.Properties.C06_Order
import Vata.Properties.C13_NfaLoadDump
import Vata.Properties.C10_CliPipeline
import Vata.Properties.C16_Discipline2
import Vata.Properties.C01_CachesUpSim
import Vata.Properties.C11_FiniteAutDenote
import Vata.Properties.C16_Discipline3
import Vata.Properties.C07_TraverseDown2
import Vata.Properties.C10_Coded
import Vata.Properties.C11_Interned
import Vata.Properties.C20_Models
import Vata.Properties.C12_Wrapper
import Vata.Properties.WrapperForward
import Vata.Properties.C16_Discipline4
import Vata.Properties.C07_TraverseDown3
import Vata.Properties.C11_FiniteAutCand
import Vata.Properties.C11_Interned2
import Vata.Properties.C13_Grammar
import Vata.Properties.C16_Container
import Vata.Properties.C08_ArityPrefix
import Vata.Properties.C11_FiniteAutUnion
import Vata.Properties.C02_StoreCoded
import Vata.Properties.C04_EnvTable
import Vata.Properties.C18_Width
import Vata.Properties.C08_SymbolCounter
import Vata.Properties.C20_CounterRows
import Vata.Properties.C11_ClearShared
import Vata.Properties.C17_ExtendWithCall
import Vata.Properties.C15_Trunc
import Vata.Properties.C06_Stale
import Vata.Properties.C02_UnionCounter
import Vata.Properties.C03_CodedSeeds
