import Vata.Proofs.LtsEngineCalls2SCCfg
import Vata.Proofs.LtsEngineCalls2
import Vata.Proofs.LtsUtilSC5
/-!
# The `SharedCounter` call discipline of the LTS engine: the invariant and the single calls

`BV L cfg e i A`: the value `A` (`SC.A`: a number per key index) of counter object `i` shows the counters of block `i` of the
engine state `e` on the labels of `inset(i)`: `A.at (key_[a * states + q]) = cnt[i][a][q]` for `a ∈ inset(i)`, `q ∈ delta1[a]`, and
the key index is below `rows * rowSize`.  Other labels of a shared row may hold stale numbers (`copyLabels` copies whole rows).
`SCI L cfg e aw ph`: the world `aw` has one live counter per block, in phase `ph i`, and (unless fresh) `BV` holds.
`GoodC L cfg e t ph`: the history `t.sc` is inside `SC.ok` and leads to such a world.
-/
namespace Vata.LEC2
open Vata.L Vata.LE Vata.LU

theorem sc_okAll_append (cfg : SC.Cfg) : ∀ (t u : List SC.Op) (aw : SC.AWorld),
    SC.okAll cfg aw (t ++ u) = (SC.okAll cfg aw t && SC.okAll cfg (SC.aRun cfg aw t).1 u)
  | [], _, _ => by simp [SC.okAll, SC.aRun]
  | op :: t, u, aw => by simp [SC.okAll, SC.aRun, sc_okAll_append cfg t u, Bool.and_assoc]

theorem sc_aRun_append (cfg : SC.Cfg) : ∀ (t u : List SC.Op) (aw : SC.AWorld),
    (SC.aRun cfg aw (t ++ u)).1 = (SC.aRun cfg (SC.aRun cfg aw t).1 u).1
  | [], _, _ => rfl
  | op :: t, u, aw => by simp only [List.cons_append, SC.aRun, sc_aRun_append cfg t u]

theorem sc_aRun_single (cfg : SC.Cfg) (aw : SC.AWorld) (op : SC.Op) : (SC.aRun cfg aw [op]).1 = SC.aStep cfg aw op := rfl

theorem sc_okAll_single (cfg : SC.Cfg) (aw : SC.AWorld) (op : SC.Op) : SC.okAll cfg aw [op] = SC.ok cfg aw op := by
  simp [SC.okAll]

theorem sc_aRun_cons (cfg : SC.Cfg) (aw : SC.AWorld) (op : SC.Op) (ops : List SC.Op) :
    (SC.aRun cfg aw (op :: ops)).1 = (SC.aRun cfg (SC.aStep cfg aw op) ops).1 := rfl

theorem sc_okAll_cons (cfg : SC.Cfg) (aw : SC.AWorld) (op : SC.Op) (ops : List SC.Op) :
    SC.okAll cfg aw (op :: ops) = (SC.ok cfg aw op && SC.okAll cfg (SC.aStep cfg aw op) ops) := rfl

structure BV (L : LTS) (cfg : SC.Cfg) (e : Eng) (i : Nat) (A : SC.A) : Prop where
  vlen : A.val.length = A.rows * cfg.rowSize
  agree : ∀ a q, a ∈ e.ins i → q ∈ delta1 L a →
    kx cfg a q < A.rows * cfg.rowSize ∧ A.at (kx cfg a q) = e.cntv i a q

structure SCI (L : LTS) (cfg : SC.Cfg) (e : Eng) (aw : SC.AWorld) (ph : Nat → SC.Phase) : Prop where
  len : aw.length = e.part.length
  blk : ∀ i, i < e.part.length → ∃ A, aw.getD i none = some A ∧ A.phase = ph i ∧ (ph i ≠ .fresh → BV L cfg e i A)

def GoodC (L : LTS) (cfg : SC.Cfg) (e : Eng) (t : Tr2) (ph : Nat → SC.Phase) : Prop :=
  SC.okAll cfg [] t.sc = true ∧ SCI L cfg e (SC.aRun cfg [] t.sc).1 ph

/-- all counters are in use (`init()` or `copyLabels` done) -/
abbrev running : Nat → SC.Phase := fun _ => .running

section
variable {L : LTS} {cfg : SC.Cfg}

theorem BV.mono {e e' : Eng} {i : Nat} {A : SC.A} (h : BV L cfg e i A) (h2 : ∀ a, a ∈ e'.ins i → a ∈ e.ins i)
    (h3 : ∀ a q, e'.cntv i a q = e.cntv i a q) : BV L cfg e' i A :=
  ⟨h.vlen, fun a q ha hq => by rw [h3]; exact h.agree a q (h2 a ha) hq⟩

theorem SCI.phase {e : Eng} {aw : SC.AWorld} {ph ph' : Nat → SC.Phase} (h : SCI L cfg e aw ph)
    (hp : ∀ i, i < e.part.length → ph' i = ph i) : SCI L cfg e aw ph' := by
  refine ⟨h.len, fun i hi => ?_⟩
  obtain ⟨A, hA, hph, hbv⟩ := h.blk i hi
  exact ⟨A, hA, by rw [hp i hi]; exact hph, fun hf => hbv (by rw [← hp i hi]; exact hf)⟩

theorem SCI.upd {e e' : Eng} {aw : SC.AWorld} {ph ph' : Nat → SC.Phase} {b1 : Nat} {A A' : SC.A}
    (h : SCI L cfg e aw ph) (hA : aw.getD b1 none = some A) (hp : e'.part.length = e.part.length)
    (hi : e'.inset = e.inset) (hc : ∀ i a q, i ≠ b1 → e'.cntv i a q = e.cntv i a q)
    (hph : A'.phase = ph' b1) (hph' : ∀ i, i ≠ b1 → ph' i = ph i) (hbv : ph' b1 ≠ .fresh → BV L cfg e' b1 A') :
    SCI L cfg e' (aw.set b1 (some A')) ph' := by
  refine ⟨by rw [List.length_set, hp]; exact h.len, fun i hi' => ?_⟩
  by_cases hib : i = b1
  · rw [hib]
    exact ⟨A', by rw [getD_set_self (lt_of_getD_eq_some hA)], hph, hbv⟩
  · obtain ⟨Ai, hAi, hphi, hbvi⟩ := h.blk i (hp ▸ hi')
    exact ⟨Ai, by rw [getD_set_ne _ hib]; exact hAi, by rw [hph' i hib]; exact hphi,
      fun hf => (hbvi (by rw [← hph' i hib]; exact hf)).mono (fun a ha => Eng.ins_congr hi i ▸ ha) (fun a q => hc i a q hib)⟩

theorem SCI.push {e e' : Eng} {aw : SC.AWorld} {ph ph' : Nat → SC.Phase} {A' : SC.A} (h : SCI L cfg e aw ph)
    (hp : e'.part.length = e.part.length + 1)
    (hold : ∀ i, i < e.part.length → ph' i = ph i ∧
      (ph i ≠ .fresh → (∀ a, a ∈ e'.ins i → a ∈ e.ins i) ∧ ∀ a q, e'.cntv i a q = e.cntv i a q))
    (hph : A'.phase = ph' e.part.length) (hbv : ph' e.part.length ≠ .fresh → BV L cfg e' e.part.length A') :
    SCI L cfg e' (aw ++ [some A']) ph' := by
  refine ⟨by rw [List.length_append, h.len, hp]; rfl, fun i hi => ?_⟩
  rw [hp] at hi
  by_cases hin : i = e.part.length
  · rw [hin]
    exact ⟨A', by rw [← h.len]; exact getD_concat_length _ _ _, hph, hbv⟩
  · have hi' : i < e.part.length := by omega
    obtain ⟨Ai, hAi, hphi, hbvi⟩ := h.blk i hi'
    obtain ⟨o1, o2⟩ := hold i hi'
    exact ⟨Ai, by rw [getD_concat_of_lt _ _ _ (by rw [h.len]; exact hi')]; exact hAi, by rw [o1]; exact hphi,
      fun hf => (hbvi (o1 ▸ hf)).mono (o2 (o1 ▸ hf)).1 (o2 (o1 ▸ hf)).2⟩

theorem GoodC.add {e e' : Eng} {t t' : Tr2} {ph ph' : Nat → SC.Phase} {ops : List SC.Op} (g : GoodC L cfg e t ph)
    (ht : t'.sc = t.sc ++ ops)
    (h : SC.okAll cfg (SC.aRun cfg [] t.sc).1 ops = true ∧ SCI L cfg e' (SC.aRun cfg (SC.aRun cfg [] t.sc).1 ops).1 ph') :
    GoodC L cfg e' t' ph' := by
  unfold GoodC
  rw [ht, sc_okAll_append, sc_aRun_append, g.1, h.1]
  exact ⟨rfl, h.2⟩

theorem GoodC.congr {e e' : Eng} {t t' : Tr2} {ph : Nat → SC.Phase} (g : GoodC L cfg e t ph)
    (h1 : e'.part.length = e.part.length) (h2 : e'.inset = e.inset) (h3 : e'.cnt = e.cnt) (h4 : t'.sc = t.sc) :
    GoodC L cfg e' t' ph := by
  unfold GoodC
  rw [h4]
  refine ⟨g.1, by rw [h1]; exact g.2.len, fun i hi => ?_⟩
  obtain ⟨A, hA, hph, hbv⟩ := g.2.blk i (h1 ▸ hi)
  exact ⟨A, hA, hph, fun hf => (hbv hf).mono (fun a ha => Eng.ins_congr h2 i ▸ ha) (fun a q => by simp only [Eng.cntv, h3])⟩

theorem GoodC.phase {e : Eng} {t : Tr2} {ph ph' : Nat → SC.Phase} (g : GoodC L cfg e t ph)
    (hp : ∀ i, i < e.part.length → ph' i = ph i) : GoodC L cfg e t ph' := ⟨g.1, g.2.phase hp⟩


/-- a call that writes `v` to the cell of `(a, q)` of counter `b1` and nothing else -/
theorem cell_goodC (ok : CfgOK L cfg) {e e' : Eng} {t t' : Tr2} {ph : Nat → SC.Phase} {b1 a q v : Nat} {op : SC.Op}
    (g : GoodC L cfg e t ph) (ht : t'.sc = t.sc ++ [op]) (hb1 : b1 < e.part.length) (hph : ph b1 ≠ .fresh)
    (hlab : ∀ a', a' ∈ e.ins b1 → a' < labels L) (ha : a ∈ e.ins b1) (hq : q ∈ delta1 L a)
    (hop : ∀ A, (SC.aRun cfg [] t.sc).1.getD b1 none = some A → A.phase = ph b1 → kx cfg a q < A.rows * cfg.rowSize →
      A.at (kx cfg a q) = e.cntv b1 a q →
      SC.ok cfg (SC.aRun cfg [] t.sc).1 op = true ∧ SC.aStep cfg (SC.aRun cfg [] t.sc).1 op =
        (SC.aRun cfg [] t.sc).1.set b1 (some { A with val := A.val.set (kx cfg a q) v }))
    (hp : e'.part.length = e.part.length) (hi : e'.inset = e.inset)
    (hc : ∀ i a' q', e'.cntv i a' q' = if i = b1 ∧ a' = a ∧ q' = q then v else e.cntv i a' q') :
    GoodC L cfg e' t' ph := by
  obtain ⟨A, hA, hAph, hbv⟩ := g.2.blk b1 hb1
  have hbv := hbv hph
  obtain ⟨hlt, hat⟩ := hbv.agree a q ha hq
  obtain ⟨o1, o2⟩ := hop A hA hAph hlt hat
  refine g.add ht ⟨by rw [sc_okAll_single]; exact o1, ?_⟩
  rw [sc_aRun_single, o2]
  refine g.2.upd hA hp hi (fun i a' q' hib => by rw [hc, if_neg (fun h => hib h.1)]) hAph (fun _ _ => rfl)
    (fun _ => ⟨by show (A.val.set _ _).length = _; rw [List.length_set]; exact hbv.vlen, fun a' q' ha' hq' => ?_⟩)
  rw [Eng.ins_congr hi] at ha'
  obtain ⟨h1, h2⟩ := hbv.agree a' q' ha' hq'
  refine ⟨h1, ?_⟩
  rw [SC.P.at_set A _ _ _ (by rw [hbv.vlen]; exact hlt), hc]
  by_cases hkk : kx cfg a' q' = kx cfg a q
  · obtain ⟨e1, e2⟩ := ok.inj a' q' a q (hlab a' ha') (hlab a ha) hq' hq hkk
    rw [if_pos hkk, if_pos ⟨rfl, e1, e2⟩]
  · rw [if_neg hkk, if_neg (fun h => hkk (by rw [h.2.1, h.2.2])), h2]

/-- `b1->counter_.decr(a, pre)` on a positive counter -/
theorem decr_goodC (ok : CfgOK L cfg) {e e' : Eng} {t t' : Tr2} {b1 a q : Nat} (g : GoodC L cfg e t running)
    (ht : t'.sc = t.sc ++ [SC.Op.decr b1 a q])
    (hb1 : b1 < e.part.length) (hlab : ∀ a', a' ∈ e.ins b1 → a' < labels L) (ha : a ∈ e.ins b1)
    (hq : q ∈ delta1 L a) (hpos : 0 < e.cntv b1 a q)
    (hp : e'.part.length = e.part.length) (hi : e'.inset = e.inset)
    (hc : ∀ i a' q', e'.cntv i a' q' = if i = b1 ∧ a' = a ∧ q' = q then e.cntv b1 a q - 1 else e.cntv i a' q') :
    GoodC L cfg e' t' running := by
  refine cell_goodC ok g ht hb1 (by simp) hlab ha hq (fun A hA hph hlt hat => ?_) hp hi hc
  have hk := ok.key a q (hlab a ha) ((mem_delta1 L a q).mp hq).1
  have hph : A.phase = .running := hph
  simp only [SC.ok, SC.aStep, hA, hk, hph, hat, Bool.and_eq_true, beq_iff_eq, decide_eq_true_eq]
  exact ⟨⟨⟨trivial, hlt⟩, hpos⟩, trivial⟩

/-- `b1->counter_.set(a, q, count)` into a cell that is zero -/
theorem set_goodC (ok : CfgOK L cfg) {e e' : Eng} {t t' : Tr2} {ph : Nat → SC.Phase} {b1 a q v : Nat} (g : GoodC L cfg e t ph)
    (ht : t'.sc = t.sc ++ [SC.Op.set b1 a q v]) (hb1 : b1 < e.part.length) (hph : ph b1 = .filling)
    (hlab : ∀ a', a' ∈ e.ins b1 → a' < labels L) (ha : a ∈ e.ins b1) (hq : q ∈ delta1 L a)
    (hz : e.cntv b1 a q = 0) (hv : 0 < v) (hp : e'.part.length = e.part.length) (hi : e'.inset = e.inset)
    (hc : ∀ i a' q', e'.cntv i a' q' = if i = b1 ∧ a' = a ∧ q' = q then v else e.cntv i a' q') :
    GoodC L cfg e' t' ph := by
  refine cell_goodC ok g ht hb1 (by rw [hph]; simp) hlab ha hq (fun A hA hAph hlt hat => ?_) hp hi hc
  have hk := ok.key a q (hlab a ha) ((mem_delta1 L a q).mp hq).1
  rw [hph] at hAph
  simp only [SC.ok, SC.aStep, hA, hk, hAph, hat, hz, Bool.and_eq_true, beq_iff_eq, decide_eq_true_eq]
  exact ⟨⟨⟨⟨trivial, hv⟩, hlt⟩, trivial⟩, trivial⟩


/-- `counter_(parent.counter_)` and `newBlock->counter_.copyLabels(newBlock->inset_, block->counter_)` -/
theorem copy_goodC (ok : CfgOK L cfg) {e e' : Eng} {t t' : Tr2} {b : Nat} {ls : List Nat} (g : GoodC L cfg e t running)
    (ht : t'.sc = t.sc ++ [SC.Op.copyCtor b, SC.Op.copyLabels e.part.length b ls])
    (hb : b < e.part.length) (hp : e'.part.length = e.part.length + 1) (hls : e'.ins e.part.length = ls)
    (hlab : ∀ a, a ∈ ls → a < labels L)
    (hins_old : ∀ i, i < e.part.length → ∀ a, a ∈ e'.ins i → a ∈ e.ins i)
    (hins_new : ∀ a, a ∈ ls → a ∈ e.ins b)
    (hc_old : ∀ i a q, i < e.part.length → e'.cntv i a q = e.cntv i a q)
    (hc_new : ∀ a q, a ∈ ls → e'.cntv e.part.length a q = e.cntv b a q) :
    GoodC L cfg e' t' running := by
  obtain ⟨S, hS, hSph, hSbv⟩ := g.2.blk b hb
  have hSph : S.phase = .running := hSph
  have hSbv := hSbv (by simp)
  refine g.add ht ?_
  have gs : SCI L cfg e (SC.aRun cfg [] t.sc).1 running := g.2
  generalize (SC.aRun cfg [] t.sc).1 = aw at hS gs
  have hlen := gs.len
  have hS1 : (aw ++ [some (⟨0, [], .fresh⟩ : SC.A)]).getD b none = some S := by
    rw [getD_concat_of_lt _ _ _ (by rw [hlen]; exact hb)]; exact hS
  have hN1 : (aw ++ [some (⟨0, [], .fresh⟩ : SC.A)]).getD e.part.length none = some ⟨0, [], .fresh⟩ := by
    rw [← hlen]; exact getD_concat_length _ _ _
  have hstep1 : SC.aStep cfg aw (SC.Op.copyCtor b) = aw ++ [some ⟨0, [], .fresh⟩] := rfl
  constructor
  · rw [sc_okAll_cons, hstep1, sc_okAll_single]
    simp only [SC.ok, hS, hS1, hN1, hSph, Option.isSome_some, Bool.true_and, Bool.and_eq_true, bne_iff_ne, ne_eq,
      List.all_eq_true, decide_eq_true_eq, beq_self_eq_true, and_true]
    exact ⟨Nat.ne_of_gt hb, fun a ha => by rw [ok.lmlen]; exact hlab a ha⟩
  · rw [sc_aRun_cons, hstep1, sc_aRun_single]
    obtain ⟨C, hC, hCv, hCph, hCat⟩ := SC.Layout.aStep_copyLabels_shape cfg _ e.part.length b ls S hS1 ok.rs
    rw [hC, ← hlen, List.set_append_right _ _ (Nat.le_refl _), Nat.sub_self]
    refine gs.push hp (fun i hi => ⟨rfl, fun _ => ⟨hins_old i hi, fun a q => hc_old i a q hi⟩⟩) hCph (fun _ => ⟨hCv, ?_⟩)
    intro a q ha hq
    rw [hls] at ha
    obtain ⟨h1, h2⟩ := hSbv.agree a q (hins_new a ha) hq
    have hal := hlab a ha
    have hrow : kx cfg a q / cfg.rowSize ∈ SC.copiedRows cfg ls S.rows := by
      rw [SC.P.mem_copiedRows]
      refine ⟨SC.P.div_lt_rows h1, a, ha, lm cfg a, ?_, ok.rng a q hal hq⟩
      have : a < cfg.labelMap.length := by rw [ok.lmlen]; exact hal
      unfold lm
      rw [List.getD_eq_getElem?_getD, List.getElem?_eq_getElem this]; rfl
    obtain ⟨c2, c3⟩ := hCat _ hrow
    exact ⟨c3, by rw [c2, h2, hc_new a q ha]⟩

end

end Vata.LEC2
