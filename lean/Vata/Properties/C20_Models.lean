import Vata.Proofs.C20ModelsTrim
import Vata.Proofs.C20ModelsBddTrim
import Vata.Proofs.C20ModelsStack
import Vata.Properties.C20
import Vata.Properties.C12_Interned
import Vata.Properties.C11_FiniteAut
import Vata.Properties.C18_Extended
import Vata.Properties.C14_Coded
import Vata.Properties.C16_Discipline
import Vata.Properties.C01_StackBound
import Vata.Properties.C01_CachesDownOpt
import Vata.Properties.C08_TrimCoded
import Vata.Properties.C08_UnionCoded
import Vata.Properties.C13_NfaLoadDump
/-!
# C20 – what the coded models EXCLUDE: one file of memory-safety statements over all coded models

> Loading, combining, trimming, reducing, complementing, simulating and comparing well-formed automata in any encoding
> never reads uninitialised or freed memory, never accesses memory out of bounds, never frees memory twice, and never
> executes undefined behaviour such as using an uninitialised counter, dereferencing a past-the-end iterator or
> overflowing signed arithmetic on state numbers.

(quantifier: *for all well-formed automata and all sequences of public operations on them within one process*)

**Every theorem of this file is a PARTIAL claim** (as in `Vata/Properties/C20.lean`, whose header explains why C20 itself is
not established by theorems but by sanitizer-instrumented runs).  Since `C20.lean` was written many models were added that
mirror the C++ with explicit identities (addresses, indices, frames) and that HAVE an outcome standing for an undefined
operation of the C++ (`none`, `err`, `.stuck`, a thrown key, a failed `assert`, a raised flag).  This file states, model by
model, that this outcome is never reached from inside the model's stated precondition.

## How the C++ is read into the models

Each model is described in the header of its own file (quoted C++ lines, what is abstracted).  For three models the undefined
operation was hidden behind a total operation of Lean (`Nat` subtraction, `filter`, `headD`, `getD`); `Vata/C20Models.lean` adds the
same code with a flag raised exactly at those places (`C20M.finalStC`, `C20M.usefulCodedC`, `C20M.ubNext`), WITHOUT changing the
models; erasure (forgetting the flag gives the original model) is part of the theorems.

## The table: C++ component ↦ model ↦ expressible undefined behaviour ↦ theorem

| C++ component | model | undefined behaviour the model can express | theorem |
|---|---|---|---|
| `ExplicitTreeAutCore` over `globalTupleCache_` (`TuplePtr`s interned in `Util::Cache`) | `Vata/StoreInterned.lean` (`StoreI.runI`, `runA`) | a `TuplePtr` in a tuple set / held outside that points to no cache entry (dangling), a `use_count` that is 0 or differs from the number of pointers (premature `DeleteElementF`, double release), two live nodes for one tuple; `none` = the allocator hands out a LIVE address | `C20_storeInterned_partial` |
| the three transition iterators (`Iterator`, `AcceptTransIterator`, `DownAccessor::Iterator`) | `Vata/StoreIter.lean` (`.stuck`) on the dereferenced interned store | `begin()` of an empty cluster / tuple set dereferenced, `++` past `end()`, constructor `assert` | `C20_storeIter_partial` (on `Store.run`: `C20_iterators_never_dereference_empty_partial`, `C12_Iterators.lean`) |
| `ExplicitFiniteAutCore` (`shared_ptr` copy-on-write, 2 levels) | `Vata/CowHeapFA.lean` (`exec`, `invBFA`) | `use_count` ≠ number of owners (an in-place write through `unique()` that is visible elsewhere; a node released while owned), a pointer to a released node, a leaked node | `C20_cowHeapFA_partial` |
| `OndriksMTBDD` node store, all eleven operations | `Vata/RcStoreX.lean` (`runX`, `err`, `freed`) | counter underflow (`assert(refcnt > 0)`), `erase` not removing exactly one table entry, a node deleted twice, a deleted node reachable from a live handle, fuel exhaustion | `C20_rcStoreX_partial` |
| `ReindexStates(dst, TranslatorStrict)` | `Vata/RenameCoded.lean` (`Run.thrown`) | the `throw` of `TranslatorStrict` in the middle of the loops, which leaves `dst` with an EMPTY tuple set / cluster (`C14_coded_thrown_dst_breaks_invariant`) on which the iterators are `.stuck` | `C20_renameCoded_partial` |
| `SimulationEngine` on `SmartSet` (heap of `Element`s, `index_`, `last_`) | `Vata/LtsEngineCalls.lean` + `LU.SS.run` (`none`) | `add` behind a dangling `last_` (the deleted cell is dereferenced), `removeStrict` of a non-member, use of an object that does not exist | `C20_ltsEngineCalls_partial` |
| `expand` of `explicit_tree_incl_down.cc` (`ExpandCallEmulator`, `ExpandStackFrame`) | `Vata/InclDownStack.lean` + `C20M.ubNext` | `EXPAND_POP_RETURN` on the empty emulator (`ptr_ == nullptr`), `assert(callEmulator.empty())` at `_end`, `switch (retAddr)` outside `{0,1,2}`, `**top.tupleSetIter` / `**top.tupleSetIter2` at `end()` | `C20_inclDownStack_partial`, `C20_inclDownStack_exit_partial` |
| `BDDTDTreeAutCore::RemoveUselessStates` (`Util::Graph`, `TwoWayDict`) | `Vata/BddTrimCoded.lean` + `C20M.usefulCodedC` | `GetIngress(andNode).erase(node) != 1` → `assert(false)`; `orNodes.FindFwd(node)` fails → `assert(false)` / `end()` dereferenced | `C20_bddTrimCoded_partial` |
| `ExplicitTreeAutCore::RemoveUselessStates` (`TransitionInfo`, `remaining`) | `Vata/TrimCoded.lean` + `C20M.finalStC` | `assert(childrenSet_.count(state))` of `reachedBy`; `--remaining` at `0` (`size_t` wrap-around, after which `if (!remaining)` is wrong); an index of `stateMap` that is no `TransitionInfo` | `C20_trimCoded_partial` |
| `lteCache` of the downward inclusion (address-keyed memo with deleter wiring), three algorithms | `Vata/FunctorCachesDown*.lean` (`heapOKD`) | a memo entry keyed by the address of a DEAD macro-state (stale answer after address reuse) | `C20_functorCachesDown_partial` |
| `BDDTDTreeAutCore::Union`, `BDDBUTreeAutCore::Union` (state counter, translation maps, table objects) | `Vata/BddUnionCoded.lean` | a state number handed out twice (the second `SetMtbdd` REPLACES an entry), an operand's table written, a state without translation | `C20_bddUnionCoded_partial` |
| `ExplicitFiniteAut::LoadFromAutDesc` / `DumpToAutDesc` | `Vata/NfaLoadDump.lean` (`.error`) | the two `throw`s (`"Not a finite automaton"`, `"No translation for …"`, i.e. a failed `TranslateBwd`) | `C20_nfaLoadDump_partial` |

`C20_models_statement` is the conjunction.

## What is NOT covered (exact)

* **Uninitialised storage.**  No model has uninitialised memory: a field that the C++ leaves uninitialised (`ExpandStackFrame top;`,
  the recycled frames of `push`, a default-constructed iterator) holds a definite dummy value in the model.  What IS shown for the
  stack machine is that the dummy frame is never the target of a return (`Chain`) and that iterators are not dereferenced at `end()`;
  that no OTHER field is read before it is written is not stated (the refinement `C01_stack_machine_refines_recursion` shows the
  result does not depend on them).
* **Machine integers.**  All numbers are `Nat`.  The only arithmetic statement is `--remaining` never executed at 0
  (`C20_trimCoded_partial`).  Overflow of `size_t` counters, of `use_count`s, of state numbers, of the 16-bit symbol encoding:
  not expressible.
* **Real addresses / allocator.**  Addresses are numbers chosen by an allocator parameter (`StoreInterned`, `FunctorCachesDown`) or
  never reused (`CowHeapFA`, `RcStoreX`).  Alignment, object layout, out-of-bounds within an object: not modelled.
* **Model vs. code.**  Every theorem is about a model; agreement of model and C++ is tested by the correspondence checks, not proved.
-/
namespace Vata.Props

/-! ### the interned rule store -/
section StoreInterned
open Vata.Store Vata.StoreI

/-- PARTIAL (`ExplicitTreeAutCore` over the global tuple cache; "never reads freed memory", "never frees twice").  For every
allocator that never hands out a live address (`hf`; the only way a step of the model is `none`, `C12_interned_total`) and every
history of `AddTransition` / `ContainsTransition` / `Clear` / setters / copies / arbitrary activity of the other users of the cache:
the run is defined to the end, and in its final state every `TuplePtr` stored in a tuple set or held outside points to a cache entry
(nothing dangles), every `use_count` is positive and equals the number of pointers (so `DeleteElementF` runs exactly when the last
pointer dies: no premature and no double release), and two entries hold the same tuple iff they have the same address. -/
theorem C20_storeInterned_partial {alloc : List Nat → Nat} (hf : ∀ l, alloc l ∉ l) (ops : List OpI) :
    ∃ s, runA .lib alloc StoreI.empty ops = some s ∧
      (∀ p, p ∈ allIds s.clusters ++ s.ext → ∃ v rc, (v, p, rc) ∈ s.cache ∧ derefC s.cache p = v) ∧
      (∀ v id rc, (v, id, rc) ∈ s.cache → 0 < rc ∧ rc = (allIds s.clusters ++ s.ext).count id) ∧
      (∀ v v' id id' rc rc', (v, id, rc) ∈ s.cache → (v', id', rc') ∈ s.cache → (v = v' ↔ id = id')) := by
  obtain ⟨s, hr, hi, _⟩ := C12_interned_fair_allocator hf ops
  refine ⟨s, hr, ?_, ?_, ?_⟩
  · intro p hp
    obtain ⟨v, rc, hm⟩ := hi.live p hp
    exact ⟨v, rc, hm, hi.derefC_eq hm⟩
  · intro v id rc hm
    exact ⟨(hi.cnt v id rc hm).2, (hi.cnt v id rc hm).1⟩
  · intro v v' id id' rc rc' hm hm'
    constructor
    · intro e
      subst e
      have := hi.fk _ _ _ hm hm'
      simp only [Prod.mk.injEq] at this
      exact this.1
    · intro e
      subst e
      exact hi.fid _ _ _ _ _ hm hm'

-- a fair allocator, and a history with a death and ADDRESS REUSE played against it
example : (∀ l, lowAlloc l ∉ l) ∧ (runA .lib lowAlloc StoreI.empty
    [.add InternedEx.r1 0, .copyOut, .clear, .envRelease 0, .add InternedEx.r3 0]).map (·.cache) = some [([3], 0, 1)] :=
  ⟨lowAlloc_fair, by decide +kernel⟩
-- the outcome excluded: offering a live address
example : stepI .lib ⟨[([1, 2], 100, 1)], [(1, [(7, [100])])], [], []⟩ (.add ⟨7, [3], 1⟩ 100) = none := by decide

/-- PARTIAL ("dereferencing a past-the-end iterator", on the store WITH interned tuples).  For every history of the interned
store (any allocator, any environment): the three iterator state machines of `Vata/StoreIter.lean`, run on the store read through
the pointers, are never `.stuck` during a complete traversal (all increments up to and including the one reaching `end()`), and
every `operator*` before `end()` dereferences a proper tuple iterator. -/
theorem C20_storeIter_partial {ops : List OpI} {s : Sys} (h : runI .lib ops = some s) :
    (∀ n, n ≤ (iterate (StoreI.abs s)).length →
      (iterM (StoreI.abs s)).posAt n ≠ .stuck ∧
      (n < (iterate (StoreI.abs s)).length → (deref (StoreI.abs s) ((iterM (StoreI.abs s)).posAt n)).isSome = true)) ∧
    (∀ n, n ≤ (acceptTrans (StoreI.abs s)).length →
      (acceptM (StoreI.abs s)).posAt n ≠ .stuck ∧
      (n < (acceptTrans (StoreI.abs s)).length →
        ((acceptM (StoreI.abs s)).deref ((acceptM (StoreI.abs s)).posAt n)).isSome = true)) ∧
    (∀ q n, n ≤ (down (StoreI.abs s) q).length →
      (downM (StoreI.abs s) q).posAt n ≠ .stuck ∧
      (n < (down (StoreI.abs s) q).length →
        ((downM (StoreI.abs s) q).deref ((downM (StoreI.abs s) q).posAt n)).isSome = true)) := by
  rw [C12_interned_refines_values h]
  exact C20_iterators_never_dereference_empty_partial _

example : runI .lib InternedEx.ops = some InternedEx.final ∧
    (iterM (StoreI.abs InternedEx.final)).posAt 2 = .fin ∧ (iterM (StoreI.abs InternedEx.final)).posAt 3 = .stuck := by decide +kernel

end StoreInterned

/-! ### copy-on-write of the finite automata -/
section CowFA
open Vata.CowHeapFA

/-- PARTIAL (`ExplicitFiniteAutCore`; "never reads freed memory", "never frees twice").  After every history of the operations of
the class (constructors, assignment, setters, `AddTransition`, destructor, `ReindexStates`, `UnionDisjointStates`,
`RemoveUnreachableStates`, `Reverse`, `RemoveUselessStates`, `GetCandidateTree` with their temporaries): the `use_count` of every
allocated map node / cluster node equals the number of its owners and is positive (a node is never released while referenced, and
`unique()` sees the true number of owners), every pointer of a live handle or an allocated map node goes to an allocated node, the
executable checker agrees, and when all handles are dead no node is left. -/
theorem C20_cowHeapFA_partial (ops : List Op) :
    (∀ m, m ∈ (exec ops).core.ml →
      (exec ops).core.mrc m = CowHeap.indeg (exec ops).core.hl (fun h => [(exec ops).core.hmap h]) m ∧
        0 < (exec ops).core.mrc m) ∧
    (∀ c, c ∈ (exec ops).core.cl →
      (exec ops).core.crc c = CowHeap.indeg (exec ops).core.ml (CowHeap.mout (exec ops).core) c ∧
        0 < (exec ops).core.crc c) ∧
    (∀ h, h ∈ (exec ops).core.hl → (exec ops).core.hmap h ∈ (exec ops).core.ml) ∧
    (∀ m, m ∈ (exec ops).core.ml → ∀ c, c ∈ CowHeap.mout (exec ops).core m → c ∈ (exec ops).core.cl) ∧
    invBFA (exec ops) = true ∧
    ((exec ops).core.hl = [] → (exec ops).core.ml = [] ∧ (exec ops).core.cl = []) := by
  obtain ⟨h1, h2, h3, h4, h5⟩ := C11_fa_use_counts ops
  exact ⟨h1, h2, h3, h4, h5, C11_fa_no_garbage ops⟩

example : (exec (faOps.take 12)).core.crc 1 = 3 ∧ (exec (faOps.take 12)).core.ml.length = 4 := by decide +kernel
-- the checker is not trivially true: a heap with too small cluster counts is refused
example : invBFA { exec [.new 1, .setStart 1 0 7, .add 1 0 5 1, .unreach 1 2] with
    core := { (exec [.new 1, .setStart 1 0 7, .add 1 0 5 1, .unreach 1 2]).core with crc := fun _ => 1 } } = false := by
  decide +kernel

end CowFA

/-! ### the MTBDD node store with all operations -/
section RcX
open Vata.RcS Vata.RcSX Vata.RcSX.Ex

/-- PARTIAL (`OndriksMTBDD` node store under construct / copy / assign / destroy / `Apply1,2,3` / `Rename` / `ExtendWith` /
`GetPrefix` / `Project`; "never reads freed memory", "never frees twice").  After every history: the error flag is down – no
`assert(refcnt > 0)` failed (no counter underflow), every `disposeOf…Node` erased exactly one table entry, no recursion of the model
ran out of fuel –, no node was deleted twice, a deleted node is not allocated, and every node reachable from the root of a live
handle is allocated and was never deleted. -/
theorem C20_rcStoreX_partial (F : Fns) (ops : List RcSX.Op) :
    (runX F ops).st.err = false ∧ (runX F ops).st.freed.Nodup ∧
    (∀ n, n ∈ (runX F ops).st.freed → n ∉ (runX F ops).st.ids) ∧
    (∀ h r, (h, r) ∈ (runX F ops).st.hs → ∀ n, Reach (runX F ops).st.dat r n →
      n ∈ (runX F ops).st.ids ∧ n ∉ (runX F ops).st.freed) := by
  obtain ⟨h1, h2, h3⟩ := C18_ext_no_double_free F ops
  exact ⟨h3, h1, h2, fun h r hm n hr => C18_ext_no_premature_free F ops h r hm n hr⟩

example : (runX stdFns (exH₁ ++ exH₂)).st.hs.length = 9 ∧ tableSizes (runX stdFns (exH₁ ++ exH₂)).st = (8, 22) :=
  ⟨C18_ext_exH_sizes.2.2.1, C18_ext_exH_sizes.2.1⟩

end RcX

/-! ### `ReindexStates` with a translator that may throw -/
section Rename
open Vata.Store Vata.RenameCoded

/-- PARTIAL (`ReindexStates(dst, TranslatorStrict, addFinalStates)`; the exception in the middle of the loops is the outcome that
leaves `dst` outside the store invariant, `C14_coded_thrown_dst_breaks_invariant`).  If the map is defined on every key the loops look
up (`lookupOrder`: with `addFinalStates` and a source satisfying the store invariant exactly `GetUsedStates()`) nothing is thrown,
the translator's container is unchanged, and `dst` keeps the weak invariant (unique keys at both levels, no duplicate tuple, no
duplicate final state).  The hypothesis cannot be dropped (second example). -/
theorem C20_renameCoded_partial (src dst : Store) (m : List (Nat × Nat)) (af : Bool)
    (hm : ∀ k, k ∈ lookupOrder src af → m.lookup k ≠ none) :
    (reindexInto strictT src dst m af).thrown = none ∧ (reindexInto strictT src dst m af).tr = m ∧
    (WInv dst → WInv (reindexInto strictT src dst m af).dst) := by
  obtain ⟨_, h2, h3, _, h5⟩ := C14_coded_strict_throws src dst m af
  refine ⟨?_, h2, h5.winv⟩
  apply Classical.byContradiction
  intro hne
  obtain ⟨k, hk, hk'⟩ := h3.mp hne
  exact hm k hk hk'

example : reindexStrictTA ⟨[⟨7, [1], 1⟩, ⟨8, [1, 2], 2⟩], [2]⟩ [(1, 10), (2, 20)] =
    .ok ⟨[⟨7, [10], 10⟩, ⟨8, [10, 20], 20⟩], [20]⟩ := by rfl
example : ∀ k, k ∈ lookupOrder ⟨[(1, [(7, [[1]])]), (2, [(8, [[1, 2]])])], [2]⟩ true → [(1, 10), (2, 20)].lookup k ≠ none := by
  decide +kernel
-- without the hypothesis: the throw, and a destination with an empty tuple set
example : reindexStrictIntoTA ⟨[⟨7, [5], 1⟩], []⟩ ⟨[], []⟩ [(1, 10)] true = (some 5, ⟨[(10, [(7, [])])], []⟩) := by decide

end Rename

/-! ### the simulation engine on `SmartSet` -/
section Engine
open Vata.L Vata.LE Vata.LU Vata.LEC

/-- PARTIAL (`SimulationEngine` on the class `SmartSet` AS CODED: heap cells, `index_`, `last_`, `size_`).  For every LTS / partition
/ block relation inside the engine's preconditions and every number `k` of iterations of `run()`: running the coded class on the
history of ALL `SmartSet` calls the engine has made so far (`buildDelta1`, both `Block` constructors, `init`, `k` rounds of
`processRemove`) is defined – no `add` is made behind a dangling `last_` (the defect `Util_LtsUtil_SmartSet_dangling_last`), no
`removeStrict` of a non-member, no call on an object that does not exist.  Hypothesis `hΔ : DeltaOK L` (the calls of
`ExplicitLTS::buildDelta1` are inside the discipline) is decidable, `decide`d for the examples, not proved for all `L`. -/
theorem C20_ltsEngineCalls_partial (L : LTS) (part : List (List Nat)) (rel : Rel)
    (hL : ltsOKB L = true) (hp : isPartition part L.n = true) (hc : isConsistent part rel = true)
    (ht : isTransB rel = true) (hΔ : DeltaOK L) (k : Nat) :
    SS.okAll [] (stateAfterI L part rel k).2.ss = true ∧ (SS.run [] (stateAfterI L part rel k).2.ss).isSome = true := by
  refine ⟨(C16_engine_discipline_partial L part rel hL hp hc ht hΔ).1 k, ?_⟩
  obtain ⟨w, hw, _⟩ := C16_engine_on_heaps_partial L part rel hL hp hc ht hΔ k
  rw [hw]; rfl

example : ltsOKB EngEx.L3 = true ∧ isPartition [[0, 1, 2, 3]] EngEx.L3.n = true ∧ isConsistent [[0, 1, 2, 3]] [(0, 0)] = true ∧
    isTransB [(0, 0)] = true ∧ DeltaOK EngEx.L3 ∧ (stateAfterI EngEx.L3 [[0, 1, 2, 3]] [(0, 0)] 2).2.ss.length = 27 :=
  have h := C16_engine_L3_calls
  ⟨h.1, h.2.1, h.2.2.1, h.2.2.2.1, h.2.2.2.2.1, h.2.2.2.2.2.1⟩
-- the outcome excluded
example : SS.run [] [.new 2, .add 0 1, .removeStrict 0 1, .add 0 0] = none := by decide

end Engine

/-! ### the call emulator of the non-recursive downward inclusion -/
section Stack
open Vata.InclDown Vata.InclDownStack Vata.C20M

/-- PARTIAL (`expand` of `explicit_tree_incl_down.cc` with `ExpandCallEmulator` / `ExpandStackFrame`; "never reads freed memory"
for the frames, "dereferencing a past-the-end iterator").  For every preorder, all operands, every contents of `nonincluded`, every
root pair and every number `n` of transitions: the state the machine with the C++ `pop` is in after `n` transitions is not about to
execute an undefined operation – `EXPAND_POP_RETURN` finds a saved frame (`callEmulator.pop` never sees `ptr_ == nullptr`), `_end` is
reached with the emulator empty (`assert(callEmulator.empty())`), `retAddr` is one of the three labels, and `top.tupleSetIter` /
`top.tupleSetIter2` are not at `end()` where they are dereferenced.  (The invariant: `C20M.MOk`, kept by every transition,
`C20M.mok_next`.) -/
theorem C20_inclDownStack_partial (o : Ord) (A B : TA) (wit : InclUp.Wit) (st : St) (p : Nat) (P : List Nat) (n : Nat) (m : Machine)
    (h : stateAfterM o A B wit popAll n (initM st p P) = some m) : ubNext m = false :=
  mok_no_ub (stateAfterM_ok o A B wit n _ m (mok_init st p P) h)

/-- PARTIAL (the same machine, seen from its answers).  The model has TWO exits: `_end`, and `EXPAND_POP_RETURN` with
`ptr_ == nullptr` (in the C++ a null dereference; `stepM` comments it "not reachable").  Every answer of `expand` as coded – any
bound on the transitions – is returned at `_end`, in a state with the call emulator empty, and is that state's `found` and
`nonincluded`. -/
theorem C20_inclDownStack_exit_partial (o : Ord) (A B : TA) (wit : InclUp.Wit) (n : Nat) (st : St) (p : Nat) (P : List Nat)
    (r : Verdict × St) (h : expandStack o A B wit popAll n st p P = some r) :
    ∃ k m, stateAfterM o A B wit popAll k (initM st p P) = some m ∧ m.pc = .end ∧ m.stack = [] ∧ r = (m.found, m.st) := by
  obtain ⟨k, m', h1, h2⟩ := runM_exit o A B wit popAll n _ r h
  have hok := stateAfterM_ok o A B wit k _ m' (mok_init st p P) h1
  obtain ⟨hpc, hr⟩ := mok_next o A B wit hok _ h2
  refine ⟨k, m', h1, hpc, ?_, hr⟩
  rcases m' with ⟨pc, top, K, ws, st', ri, S, ra, found⟩
  simp only at hpc
  subst hpc
  simpa [MOk] using hok

-- a run that is still going after 40 transitions, one call deep after 4
example : (stateAfterM idOrd InclDownEx.exG InclDownEx.exH (InclUp.prodWit InclDownEx.exG) popAll 40
    (initM ⟨[], []⟩ 2 [9])).isSome = true := by decide +kernel
example : (stateAfterM idOrd InclDownEx.exG InclDownEx.exH (InclUp.prodWit InclDownEx.exG) popAll 4
    (initM ⟨[], []⟩ 2 [9])).map (fun m => m.stack.length) = some 1 := by decide +kernel
/-- the hypothesis "the C++ `pop`" matters: with a `pop` that restores every field but `retAddr` (`top.retAddr = ptr_->retAddr;`
forgotten) the root frame of `regA ⊆ regB` returns to `_stdret` instead of `_end` and, 21 transitions after the start, the machine is
about to execute an undefined operation; the machine as coded is not (and has returned after 18 transitions) -/
example : (stateAfterM idOrd regA regB (InclUp.prodWit regA) (fun saved top => { saved with retAddr := top.retAddr }) 21
      (initM ⟨[], []⟩ 2 [12])).map ubNext = some true ∧
    (∀ n, n < 19 → (stateAfterM idOrd regA regB (InclUp.prodWit regA) popAll n (initM ⟨[], []⟩ 2 [12])).map ubNext = some false) ∧
    stateAfterM idOrd regA regB (InclUp.prodWit regA) popAll 19 (initM ⟨[], []⟩ 2 [12]) = none := by decide +kernel
-- the flag is not constant: a pop on the empty emulator, an `_end` with a saved frame, an iterator at `end()`
example : ubNext ⟨.popReturn, Frame.init, [], [], ⟨[], []⟩, 0, [], 0, .holds⟩ = true ∧
    ubNext ⟨.end, Frame.init, [Frame.init], [], ⟨[], []⟩, 0, [], 0, .holds⟩ = true ∧
    ubNext ⟨.forSimI, Frame.init, [Frame.init], [], ⟨[], []⟩, 0, [], 0, .holds⟩ = true := by decide

end Stack

/-! ### trimming, top-down BDD encoding -/
section BddTrim
open Vata.M Vata.BddAbs Vata.BddAbsTD Vata.BddTrimCoded Vata.C20M

/-- PARTIAL (`BDDTDTreeAutCore::RemoveUselessStates`: `Util::Graph`, the two `TwoWayDict`s, `nodeStack`).  For every transition
table, every duplicate-free set of final states (`GetFinalStates()` is a set) and every fuel: the instrumented analysis returns what
`usefulCoded` returns, with the flag down – every `Graph::GetIngress(andNode).erase(node)` erased exactly one element (the
`!= 1 → assert(false)` test never fires: no node is popped twice, and an ingress entry is only erased in the round of the node it
names) and every `orNodes.FindFwd` succeeded (never `assert(false)` / `EndFwd()` dereferenced); with the fuel of
`C08_td_useless_coded_total` the analysis does return. -/
theorem C20_bddTrimCoded_partial (T : TableTD) {F : List Nat} (hF : F.Nodup) (fuel : Nat) :
    usefulCodedC T F fuel = (usefulCoded T F fuel).map (fun U => (U, false)) ∧
    (2 * (F.length + (allKids T).length) + 1 ≤ fuel → ∃ U, usefulCodedC T F fuel = some (U, false)) := by
  refine ⟨usefulCodedC_eq T hF fuel, fun hb => ?_⟩
  obtain ⟨U, hU⟩ := usefulCoded_total T F fuel hb
  exact ⟨U, by rw [usefulCodedC_eq T hF fuel, hU]; rfl⟩

example : (usefulCodedC Ex.T1 [2] 10).map (·.2) = some false ∧ (usefulCoded Ex.T1 [2] 10).isSome = true := by decide +kernel
-- the flag is not constant: erasing a node that is not in the ingress set, looking up a node that is no OR node
example : (satisfyStepC [(0, 5)] 0 (⟨⟨2, fun _ => [], fun _ => []⟩, [], []⟩, false) 1).2 = true ∧
    (markStepC [(0, 5)] (⟨Graph.empty, [], []⟩, false) 3).2 = true := by decide

end BddTrim

/-! ### trimming, explicit encoding -/
section Trim
open Vata.TrimCoded Vata.C20M

/-- PARTIAL (`ExplicitTreeAutCore::RemoveUselessStates`, `src/explicit_tree_useless.cc`; "overflowing arithmetic", failed
`assert`).  For every automaton the instrumented run of both loops ends in the state of `finalSt decOne` with the flag down: every
index found in `stateMap` is a `TransitionInfo`, `assert(childrenSet_.count(state))` holds at every call of `reachedBy`, and
`--remaining` is never executed with `remaining == 0` (no `size_t` wrap-around, so the shortcut `if (!remaining)` tests the true
counter).  Totality: the fuel `|rules|` of `finalSt` suffices (`C03_coded_total`). -/
theorem C20_trimCoded_partial (A : TA) : finalStC A = (finalSt decOne A, false) :=
  mainLoopC_eq _ _ 0 false (inv_init A 0)

example : (finalStC TrimEx.exA).2 = false ∧ (finalStC TrimEx.exA).1.remaining = 2 ∧ (finalStC TrimEx.exA).1.rtrans = [0, 3, 1, 4] := by
  decide +kernel
-- the flag is not constant: a fired transition at `remaining == 0`; a state that is not in the children set
example : (innerStepC 0 (⟨[⟨⟨1, [0], 1⟩, [0]⟩], [], [], [], 0, []⟩, false) 0).2 = true ∧
    (innerStepC 3 (⟨[⟨⟨1, [0], 1⟩, [0]⟩], [], [], [], 5, []⟩, false) 0).2 = true ∧
    (innerStepC 0 (⟨[⟨⟨1, [0], 1⟩, [0]⟩], [], [], [], 5, []⟩, false) 0).2 = false := by decide +kernel

end Trim

/-! ### the address-keyed memo of the downward inclusion -/
section CachesDown
open Vata.InclDown Vata.FCD Vata.CM
open Vata.FCU (pickLeast)

/-- PARTIAL (`lteCache` of the three downward inclusion algorithms – recursive, optimised, non-recursive – with the deleter wiring of
the sources; "never reads freed memory" through a stale cache entry).  For every allocator `pick` (address reuse included), every
preorder with reflexive `leB`, all operands and every fuel: at the end of a run that returns `true` every entry of `lteCache` is
keyed by the addresses of two LIVE macro-states (and stores the comparison of the values now at these addresses); the executable
checker `heapOKD` agrees. -/
theorem C20_functorCachesDown_partial (o : Ord) (hr : ∀ q, o.leB q q = true) (pick : List Nat → Nat) (A B : TA) (fuel : Nat) :
    (∀ h, finalHeapD (FCD.runC o .lib pick A B fuel) = some h →
      (∀ a b r, aget h.lte.store (a, b) = some r → a ∈ h.addrs ∧ b ∈ h.addrs) ∧ heapOKD o h = true) ∧
    (∀ s, FCD.runO o .lib pick A B fuel = some (.ok s) →
      (∀ a b r, aget s.h.lte.store (a, b) = some r → a ∈ s.h.addrs ∧ b ∈ s.h.addrs) ∧ heapOKD o s.h = true) ∧
    (∀ s, FCD.runNC o .lib pick A B fuel = some (.ok s) →
      (∀ a b r, aget s.h.lte.store (a, b) = some r → a ∈ s.h.addrs ∧ b ∈ s.h.addrs) ∧ heapOKD o s.h = true) := by
  refine ⟨fun h hf => ?_, fun s hf => ?_, fun s hf => ?_⟩
  · obtain ⟨h1, h2⟩ := C01_downward_memo_sound o hr pick A B fuel h hf
    exact ⟨fun a b r hab => ⟨(h1 a b r hab).1, (h1 a b r hab).2.1⟩, h2⟩
  · obtain ⟨h1, h2, _⟩ := C01_downward_opt_memo_sound o hr pick A B fuel s hf
    exact ⟨fun a b r hab => ⟨(h1 a b r hab).1, (h1 a b r hab).2.1⟩, h2⟩
  · obtain ⟨h1, h2⟩ := C01_downward_nonrec_memo_sound o hr pick A B fuel s hf
    exact ⟨fun a b r hab => ⟨(h1 a b r hab).1, (h1 a b r hab).2.1⟩, h2⟩

example : (finalHeapD (FCD.runC idOrd .lib pickLeast FCDEx.exA FCDEx.exB2 20)).map (heapOKD idOrd) = some true :=
  Option.map_of_map FCDEx.exB2_run.2 (·.2.2)
-- the outcome excluded: with the one-word slip in the deleter the run ends with a stale entry
example : (finalHeapD (FCD.runC idOrd .firstTwice pickLeast FCDEx.exA FCDEx.exB 20)).map (heapOKD idOrd) = some false :=
  C01_downward_wiring_matters.2

end CachesDown

/-! ### `Union` of the BDD encodings -/
section BddUnion
open Vata.M Vata.BddAbs Vata.BddAbsTD Vata.BddUnionCoded Vata.Um

/-- PARTIAL (`BDDTDTreeAutCore::Union` / `BDDBUTreeAutCore::Union` as coded, `stateCnt = 0`, translation maps absent or empty, operands
on distinct table objects).  The result sits on the FRESH table object (no operand's table is written), and the two translation maps
the call leaves behind are injective with disjoint images – no state number is handed out twice, so no `SetMtbdd` replaces an entry
written before – and defined on every state number of their operand (no state without translation).  With a pre-filled map the counter
DOES hand a number out twice (`C08_union_coded_prefilled_maps_wrong`). -/
theorem C20_bddUnionCoded_partial (fresh : Nat) (oL oR : Option SMap) (hoL : oL.getD [] = []) (hoR : oR.getD [] = []) :
    (∀ (lhs rhs : AutTD), lhs.tid ≠ rhs.tid →
      (tdUnion fresh lhs rhs oL oR).1.tid = fresh ∧
      Inj (tdUnion fresh lhs rhs oL oR).2.1 ∧ Inj (tdUnion fresh lhs rhs oL oR).2.2 ∧
      Disj (tdUnion fresh lhs rhs oL oR).2.1 (tdUnion fresh lhs rhs oL oR).2.2 ∧
      (∀ q, q ∈ lhs.allStates → ∃ n, (tdUnion fresh lhs rhs oL oR).2.1.lookup q = some n) ∧
      (∀ q, q ∈ rhs.allStates → ∃ n, (tdUnion fresh lhs rhs oL oR).2.2.lookup q = some n)) ∧
    (∀ (lhs rhs : AutBU), lhs.tid ≠ rhs.tid →
      (buUnion fresh lhs rhs oL oR).1.tid = fresh ∧
      Inj (buUnion fresh lhs rhs oL oR).2.1 ∧ Inj (buUnion fresh lhs rhs oL oR).2.2 ∧
      Disj (buUnion fresh lhs rhs oL oR).2.1 (buUnion fresh lhs rhs oL oR).2.2 ∧
      (∀ q, q ∈ lhs.allStates → ∃ n, (buUnion fresh lhs rhs oL oR).2.1.lookup q = some n) ∧
      (∀ q, q ∈ rhs.allStates → ∃ n, (buUnion fresh lhs rhs oL oR).2.2.lookup q = some n)) := by
  refine ⟨fun lhs rhs hne => ?_, fun lhs rhs hne => ?_⟩
  · obtain ⟨h1, _, h3, h4, h5, h6, h7⟩ :=
      (C08_td_union_coded_lang fresh lhs rhs oL oR [] (fun h => absurd h hne) hoL hoR).2 hne
    exact ⟨h1, h3, h4, h5, h6, h7⟩
  · obtain ⟨h1, _, h3, h4, h5, h6, h7⟩ :=
      (C08_bu_union_coded_lang fresh lhs rhs oL oR [] (fun h => absurd h hne) (fun h => absurd h hne) hoL hoR).2 hne
    exact ⟨h1, h3, h4, h5, h6, h7⟩

example : UnionCodedEx.tdA.tid ≠ UnionCodedEx.tdB.tid ∧
    (tdUnion 9 UnionCodedEx.tdA UnionCodedEx.tdB none none).2 = ([(2, 0), (1, 1)], [(2, 2), (1, 3)]) :=
  ⟨by decide, UnionCodedEx.tdUnion_run.2⟩
-- the outcome excluded: a number handed out twice
example : smapInjB (tdUnion 9 UnionCodedEx.tdA UnionCodedEx.tdB (some [(2, 0)]) none).2.1 = false :=
  C08_union_coded_prefilled_maps_wrong.2.2.1

end BddUnion

/-! ### loading and dumping word automata -/

/-- PARTIAL (`ExplicitFiniteAut::LoadFromAutDesc` / `DumpToAutDesc`; the `throw`s are the outcomes).  A word-shaped description
(every rule has rank ≤ 1) loads without exception into any consistent symbol dictionary, and the automaton just loaded dumps without
exception: every `TranslateBwd` of a state and of a symbol succeeds (no `"No translation for …"`).  The load throws ONLY on a rule
of rank ≥ 2, always with `"Not a finite automaton"`. -/
theorem C20_nfaLoadDump_partial (rtl : Bool) (d : AutDesc) (yd : WSymDict) (hyd : yd.Ok) :
    (d.WordShaped → ∃ A sd yd' d', loadNFA rtl d [] yd = .ok (A, sd, yd') ∧ dumpNFA A sd yd' = .ok d') ∧
    (∀ sd e, loadNFA rtl d sd yd = .error e → e = "Not a finite automaton" ∧ ¬ d.WordShaped) := by
  refine ⟨fun hw => ?_, fun sd e he => ?_⟩
  · obtain ⟨A, sd, yd', d', h1, _, _, _, h5, _⟩ := C13_nfa_load_dump_roundtrip rtl d yd hyd hw
    exact ⟨A, sd, yd', d', h1, h5⟩
  · have h := C13_nfa_load_rank2_throws rtl d sd yd
    have e1 := h.2 e he
    exact ⟨e1, h.1.mp (e1 ▸ he)⟩

example : NfaLDTest.dW.WordShaped ∧ ¬ TimbukEx.exE.WordShaped := by decide

/-! ### the conjunction -/

/-- **C20, model level (PARTIAL).**  For every coded model with an explicit outcome for an undefined operation of the C++, that
outcome is not reached from inside the model's precondition – the conjunction of the twelve theorems above, each with its
hypotheses (see the table in the header for the component, the model and the undefined behaviours it can express).  Not a theorem
about the compiled C++: no uninitialised storage, no machine integers, no real allocator in any model. -/
theorem C20_models_statement :
    -- the interned store: runs to the end against every fair allocator; nothing dangles; counts exact and positive
    (∀ {alloc : List Nat → Nat}, (∀ l, alloc l ∉ l) → ∀ ops : List StoreI.OpI,
      ∃ s, StoreI.runA .lib alloc StoreI.empty ops = some s ∧
        (∀ p, p ∈ StoreI.allIds s.clusters ++ s.ext → ∃ v rc, (v, p, rc) ∈ s.cache ∧ StoreI.derefC s.cache p = v) ∧
        (∀ v id rc, (v, id, rc) ∈ s.cache → 0 < rc ∧ rc = (StoreI.allIds s.clusters ++ s.ext).count id)) ∧
    -- the iterators on it are never stuck
    (∀ {ops : List StoreI.OpI} {s : StoreI.Sys}, StoreI.runI .lib ops = some s →
      ∀ n, n ≤ (Store.iterate (StoreI.abs s)).length → (Store.iterM (StoreI.abs s)).posAt n ≠ .stuck) ∧
    -- copy-on-write of the finite automata: the checker accepts every reachable heap
    (∀ ops : List CowHeapFA.Op, CowHeapFA.invBFA (CowHeapFA.exec ops) = true) ∧
    -- the MTBDD store: no error, no double free, no premature free
    (∀ (F : RcSX.Fns) (ops : List RcSX.Op), (RcSX.runX F ops).st.err = false ∧ (RcSX.runX F ops).st.freed.Nodup ∧
      ∀ h r, (h, r) ∈ (RcSX.runX F ops).st.hs → ∀ n, RcS.Reach (RcSX.runX F ops).st.dat r n →
        n ∈ (RcSX.runX F ops).st.ids ∧ n ∉ (RcSX.runX F ops).st.freed) ∧
    -- the strict translator does not throw on a complete map
    (∀ (src dst : Store.Store) (m : List (Nat × Nat)) (af : Bool),
      (∀ k, k ∈ RenameCoded.lookupOrder src af → m.lookup k ≠ none) →
      (RenameCoded.reindexInto RenameCoded.strictT src dst m af).thrown = none) ∧
    -- the engine's `SmartSet` history runs on the coded class
    (∀ (L : L.LTS) (part : List (List Nat)) (rel : Rel), LE.ltsOKB L = true → LE.isPartition part L.n = true →
      LE.isConsistent part rel = true → LE.isTransB rel = true → LEC.DeltaOK L →
      ∀ k, (LU.SS.run [] (LEC.stateAfterI L part rel k).2.ss).isSome = true) ∧
    -- the call emulator
    (∀ (o : InclDown.Ord) (A B : TA) (wit : InclUp.Wit) (st : InclDown.St) (p : Nat) (P : List Nat) (n : Nat)
      (m : InclDownStack.Machine),
      C20M.stateAfterM o A B wit InclDownStack.popAll n (InclDownStack.initM st p P) = some m → C20M.ubNext m = false) ∧
    -- the two trimmings
    (∀ (T : BddAbsTD.TableTD) {F : List Nat}, F.Nodup → ∀ fuel,
      C20M.usefulCodedC T F fuel = (BddTrimCoded.usefulCoded T F fuel).map (fun U => (U, false))) ∧
    (∀ A : TA, C20M.finalStC A = (TrimCoded.finalSt TrimCoded.decOne A, false)) ∧
    -- the memo of the downward inclusion (recursive algorithm; the two others: `C20_functorCachesDown_partial`)
    (∀ (o : InclDown.Ord), (∀ q, o.leB q q = true) → ∀ (pick : List Nat → Nat) (A B : TA) (fuel : Nat) h,
      FCD.finalHeapD (FCD.runC o .lib pick A B fuel) = some h → FCD.heapOKD o h = true) ∧
    -- `Union` of the BDD encodings: fresh table, numbers handed out once
    (∀ (fresh : Nat) (lhs rhs : BddUnionCoded.AutTD), lhs.tid ≠ rhs.tid →
      (BddUnionCoded.tdUnion fresh lhs rhs none none).1.tid = fresh ∧
      Um.Inj (BddUnionCoded.tdUnion fresh lhs rhs none none).2.1 ∧ Um.Inj (BddUnionCoded.tdUnion fresh lhs rhs none none).2.2 ∧
      Um.Disj (BddUnionCoded.tdUnion fresh lhs rhs none none).2.1 (BddUnionCoded.tdUnion fresh lhs rhs none none).2.2) ∧
    -- loading and dumping word automata never throws on word-shaped descriptions
    (∀ (rtl : Bool) (d : AutDesc) (yd : WSymDict), yd.Ok → d.WordShaped →
      ∃ A sd yd' d', loadNFA rtl d [] yd = .ok (A, sd, yd') ∧ dumpNFA A sd yd' = .ok d') := by
  refine ⟨fun hf ops => ?_, fun h n hn => ((C20_storeIter_partial h).1 n hn).1,
    fun ops => (C20_cowHeapFA_partial ops).2.2.2.2.1,
    fun F ops => ⟨(C20_rcStoreX_partial F ops).1, (C20_rcStoreX_partial F ops).2.1, (C20_rcStoreX_partial F ops).2.2.2⟩,
    fun src dst m af hm => (C20_renameCoded_partial src dst m af hm).1,
    fun L part rel hL hp hc ht hΔ k => (C20_ltsEngineCalls_partial L part rel hL hp hc ht hΔ k).2,
    C20_inclDownStack_partial,
    fun T _ hF fuel => (C20_bddTrimCoded_partial T hF fuel).1,
    C20_trimCoded_partial,
    fun o hr pick A B fuel h hf => ((C20_functorCachesDown_partial o hr pick A B fuel).1 h hf).2,
    fun fresh lhs rhs hne => ?_,
    fun rtl d yd hyd hw => (C20_nfaLoadDump_partial rtl d yd hyd).1 hw⟩
  · obtain ⟨s, h1, h2, h3, _⟩ := C20_storeInterned_partial hf ops
    exact ⟨s, h1, h2, h3⟩
  · obtain ⟨h1, h2, h3, h4, _⟩ := (C20_bddUnionCoded_partial fresh none none rfl rfl).1 lhs rhs hne
    exact ⟨h1, h2, h3, h4⟩

/-!
## still not proved

* **The property itself** (see the header of `Vata/Properties/C20.lean`): nothing here is a statement about the compiled C++.
  Uninitialised storage, machine integers (except "`--remaining` is never executed at 0"), the real allocator and the agreement of
  each model with the code are outside; C20 is checked by sanitizer-instrumented runs.
* `C20_renameCoded_partial` gives the WEAK invariant of `dst` after a `ReindexStates` that does not throw.  That `dst` then also
  satisfies the full store invariant (no empty cluster, no empty tuple set – what the iterators need) when `src` and `dst` do is
  not proved here.
* `C20_ltsEngineCalls_partial` keeps the hypothesis `DeltaOK L` of `C16_engine_discipline_partial` (decidable; not proved for all
  `L`), and covers `SmartSet` only: the `SharedCounter` / `SharedList` / `SplittingRelation` call histories of the engine are not
  proved to be inside the disciplines of `Util_LtsUtil_*` (`C20_engine_helpers_bookkeeping_partial` assumes them).
* `C20_inclDownStack_partial`: of the frame fields only `retAddr`, `tupleSetIter`, `tupleSetIter2` and the saved-frame chain are covered.
  That `(**top.tupleSetIter)[top.i]` is inside the tuple (`top.i < arity`, the model reads `getD 0`), that `top.a` is not at `end()`
  where `smallerIndex[top.p_S][top.a]` is read (the model tests it first, as the C++ loop head does), and the `CachingAllocator`
  recycling of frames are not stated.  The `NOSIM` machine only; the instrumented caches of the non-recursive algorithm
  (`Vata/FunctorCachesDownNonrec.lean`) have their own statement in `C20_functorCachesDown_partial`.
* `C20_functorCachesDown_partial` speaks about the END of runs that return `true` (as the theorems it is derived from); the
  invariant holds at every step of the simulation relation (`FCD.DRel`), which is not restated here; `evalTransitionsCache` is not
  part of these models (`C20_cache_no_stale_address_partial` covers it at class level).
* `C20_bddTrimCoded_partial` covers the top-down analysis (`usefulCodedC`).  The bottom-up coded trimmings
  (`Vata/BddTrimCodedBU.lean`: `buUnreachCoded`, `buUselessCoded`) have no instrumented variant; their lookups are shown to succeed
  only implicitly, through the exactness theorems `C08_bu_unreach_coded_lang` / `C08_bu_useless_coded_lang`.
* `C20_bddUnionCoded_partial`: maps absent or empty and distinct table objects only (with given maps and a counter above them:
  `C08_union_coded_maps`; same table object: the operands' table IS the result's table by design, `C08_sharing_*`).
* `C20_nfaLoadDump_partial`: the dump of an automaton that was NOT just loaded needs `Dumpable` (`C13_nfa_dump_load_lang`); the
  parser / serializer are functions on character lists, not memory-touching code.
* Models with explicit undefined outcomes that are stated elsewhere and not repeated here: `OrdVector` (`.oob`), `CliArgs`
  (`.outOfBounds`, `.outOfRange`), the antichain containers, `SharedCounter` / `SharedList` / `CachingAllocator`, the macro-state
  cache (`C20_bounds_and_iterators_partial`, `C20_engine_helpers_bookkeeping_partial`, `C20_cache_no_stale_address_partial` in
  `Vata/Properties/C20.lean`), `CowHeapX` (`C11_ext_invariant`), the BDD intersections (`C20_bdd_isect_numbers_dense_partial`).
-/
end Vata.Props
