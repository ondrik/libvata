import Vata.InclDownStack
import Vata.Proofs.InclDownTotal
/-!
# The stack machine of `expand` (`Vata/InclDownStack.lean`): runs, and the transitions one by one

`stepsM n` : exactly `n` transitions, none of them final; `Reach m m'` : the machine (with the `pop` of the C++) gets from
`m` to `m'` in some number of transitions; how `runM` continues after `stepsM`.  Then one lemma per transition of `stepM`
the simulation proofs (`Vata/Proofs/InclDownStackSteps*.lean`) take, each under the condition that selects it, and what
`ChoiceFunction::next` does on the two shapes of `data_` that occur.
-/
namespace Vata
namespace InclDownStack
open InclDown
open InclUp (normS Wit)

def stepsM (o : Ord) (A B : TA) (wit : Wit) (pop : Frame → Frame → Frame) : Nat → Machine → Option Machine
  | 0, m => some m
  | n+1, m =>
    match stepM o A B wit pop m with
    | .inl m' => stepsM o A B wit pop n m'
    | .inr _ => none

def Reach (o : Ord) (A B : TA) (wit : Wit) (m m' : Machine) : Prop := ∃ n, stepsM o A B wit popAll n m = some m'

section
variable {o : Ord} {A B : TA} {wit : Wit}

theorem Reach.refl (m : Machine) : Reach o A B wit m m := ⟨0, rfl⟩

variable {pop : Frame → Frame → Frame}

theorem stepsM_trans : ∀ (a : Nat) {b : Nat} {m m' m'' : Machine},
    stepsM o A B wit pop a m = some m' → stepsM o A B wit pop b m' = some m'' →
    stepsM o A B wit pop (a + b) m = some m''
  | 0, b, m, m', m'', h1, h2 => by
    cases h1; rwa [Nat.zero_add]
  | a+1, b, m, m', m'', h1, h2 => by
    rw [Nat.add_right_comm]
    simp only [stepsM] at h1 ⊢
    split at h1
    · exact stepsM_trans a h1 h2
    · cases h1

theorem runM_of_steps : ∀ (n : Nat) {k : Nat} {m m' : Machine} {r : Verdict × St},
    stepsM o A B wit pop n m = some m' → runM o A B wit pop k m' = some r → runM o A B wit pop (n + k) m = some r
  | 0, k, m, m', r, h1, h2 => by
    cases h1; rwa [Nat.zero_add]
  | n+1, k, m, m', r, h1, h2 => by
    rw [Nat.add_right_comm]
    simp only [stepsM] at h1
    simp only [runM]
    split at h1
    · next m1 heq => rw [heq]; exact runM_of_steps n h1 h2
    · cases h1

theorem runM_mono : ∀ {n k : Nat} {m : Machine} {r : Verdict × St},
    runM o A B wit pop n m = some r → n ≤ k → runM o A B wit pop k m = some r
  | 0, _, _, _, h, _ => by cases h
  | n+1, 0, _, _, _, hk => by omega
  | n+1, k+1, m, r, h, hk => by
    simp only [runM] at h ⊢
    split
    · next m1 heq => rw [heq] at h; exact runM_mono h (by omega)
    · next r1 heq => rw [heq] at h; exact h

/-! `top`, the stack, the work-set, the antichains and the registers are arbitrary; the hypotheses are the tests of the C++. -/

variable {top : Frame} {K : List Frame} {ws : List Pair} {st : St} {r : Nat} {S : List Nat} {ra : Nat} {fnd : Verdict}

theorem step_call_pre (h : byPre o r S = true) :
    stepM o A B wit pop ⟨.call, top, K, ws, st, r, S, ra, fnd⟩ = .inl ⟨.ret, top, K, ws, st, r, S, ra, .holds⟩ := by
  unfold stepM; simp only [h, if_true]

theorem step_call_ws (h1 : ¬ byPre o r S = true) (h : covers o ws r S = true) :
    stepM o A B wit pop ⟨.call, top, K, ws, st, r, S, ra, fnd⟩ = .inl ⟨.ret, top, K, ws, st, r, S, ra, .holds⟩ := by
  unfold stepM; simp only [h1, h, Bool.false_eq_true, ↓reduceIte]

theorem step_call_ni {x : Nat × List Nat × Tree} (h1 : ¬ byPre o r S = true) (h2 : ¬ covers o ws r S = true)
    (h : niFind o st.nonIncl r S = some x) :
    stepM o A B wit pop ⟨.call, top, K, ws, st, r, S, ra, fnd⟩ = .inl ⟨.ret, top, K, ws, st, r, S, ra, .fails x.2.2⟩ := by
  unfold stepM; simp only [h1, h2, h, Bool.false_eq_true, ↓reduceIte]

/-- `EXPAND_PUSH` -/
theorem step_call_push (h1 : ¬ byPre o r S = true) (h2 : ¬ covers o ws r S = true)
    (h : niFind o st.nonIncl r S = none) :
    stepM o A B wit pop ⟨.call, top, K, ws, st, r, S, ra, fnd⟩ = .inl ⟨.forA,
      { top with p_S := r, P_B := S, retAddr := ra, childrenCache := [], a := lhsGroups A r, trues0 := st.trues },
      top :: K, (r, S) :: ws, st, r, S, ra, fnd⟩ := by
  unfold stepM; simp only [h1, h2, h, Bool.false_eq_true, ↓reduceIte]

theorem step_ret_std :
    stepM o A B wit pop ⟨.ret, top, K, ws, st, r, S, 1, fnd⟩ = .inl ⟨.stdret, top, K, ws, st, r, S, 1, fnd⟩ := rfl

theorem step_ret_sim :
    stepM o A B wit pop ⟨.ret, top, K, ws, st, r, S, 2, fnd⟩ = .inl ⟨.simret, top, K, ws, st, r, S, 2, fnd⟩ := rfl

theorem step_forA_end (h : top.a = []) :
    stepM o A B wit pop ⟨.forA, top, K, ws, st, r, S, ra, fnd⟩ = .inl ⟨.popReturn, top, K, ws, st, r, S, ra, .holds⟩ := by
  unfold stepM; simp only [h]

theorem step_forA_leaf_fail {f : Nat} {gs : List (Nat × Nat)} (h : top.a = (f, 0) :: gs)
    (hW : (rhsTuples B top.P_B f 0).isEmpty = true) :
    stepM o A B wit pop ⟨.forA, top, K, ws, st, r, S, ra, fnd⟩
      = .inl ⟨.popReturn, top, K, ws, st, r, S, ra, .fails (.node f [])⟩ := by
  unfold stepM; simp only [h, hW, if_true]

theorem step_forA_leaf {f : Nat} {gs : List (Nat × Nat)} (h : top.a = (f, 0) :: gs)
    (hW : ¬ (rhsTuples B top.P_B f 0).isEmpty = true) :
    stepM o A B wit pop ⟨.forA, top, K, ws, st, r, S, ra, fnd⟩
      = .inl ⟨.forA, { top with a := gs }, K, ws, st, r, S, ra, fnd⟩ := by
  unfold stepM; simp only [h, hW, Bool.false_eq_true, ↓reduceIte, List.tail_cons]

theorem step_forA_fail {f n : Nat} {gs : List (Nat × Nat)} (h : top.a = (f, n) :: gs) (hn : n ≠ 0)
    (hW : (rhsTuples B top.P_B f n).isEmpty = true) :
    stepM o A B wit pop ⟨.forA, top, K, ws, st, r, S, ra, fnd⟩
      = .inl ⟨.popReturn, { top with W := rhsTuples B top.P_B f n }, K, ws, st, r, S, ra,
          .fails (.node f (((lhsTuples A top.p_S f n).headD []).map (treeOf wit)))⟩ := by
  unfold stepM; simp only [h, hn, hW, ↓reduceIte]

theorem step_forA_tuples {f n : Nat} {gs : List (Nat × Nat)} (h : top.a = (f, n) :: gs) (hn : n ≠ 0)
    (hW : ¬ (rhsTuples B top.P_B f n).isEmpty = true) :
    stepM o A B wit pop ⟨.forA, top, K, ws, st, r, S, ra, fnd⟩
      = .inl ⟨.forTuple, { top with W := rhsTuples B top.P_B f n, tupleSetIter := lhsTuples A top.p_S f n }, K, ws, st,
          r, S, ra, fnd⟩ := by
  unfold stepM; simp only [h, hn, hW, Bool.false_eq_true, ↓reduceIte]

theorem step_forTuple_end (h : top.tupleSetIter = []) :
    stepM o A B wit pop ⟨.forTuple, top, K, ws, st, r, S, ra, fnd⟩
      = .inl ⟨.forA, { top with a := top.a.tail }, K, ws, st, r, S, ra, fnd⟩ := by
  unfold stepM; simp only [h]

theorem step_forTuple {lhs : List Nat} {L : List (List Nat)} (h : top.tupleSetIter = lhs :: L) :
    stepM o A B wit pop ⟨.forTuple, top, K, ws, st, r, S, ra, fnd⟩
      = .inl ⟨.forTuple2, { top with tupleSetIter2 := top.W }, K, ws, st, r, S, ra, fnd⟩ := by
  unfold stepM; simp only [h]

theorem step_forTuple2_end (h : top.tupleSetIter2 = []) :
    stepM o A B wit pop ⟨.forTuple2, top, K, ws, st, r, S, ra, fnd⟩
      = .inl ⟨.choiceInit, top, K, ws, st, r, S, ra, fnd⟩ := by
  unfold stepM; simp only [h]

theorem step_forTuple2 {w : List Nat} {Wr : List (List Nat)} (h : top.tupleSetIter2 = w :: Wr) :
    stepM o A B wit pop ⟨.forTuple2, top, K, ws, st, r, S, ra, fnd⟩
      = .inl ⟨.forSimI, { top with i := 0 }, K, ws, st, r, S, ra, fnd⟩ := by
  unfold stepM; simp only [h]

section
variable {lhs w : List Nat} {r1 r2 : List (List Nat)}

/-- `EXPAND_CALL(2)` -/
theorem step_forSimI {z : Nat × Nat} (h1 : top.tupleSetIter = lhs :: r1) (h2 : top.tupleSetIter2 = w :: r2)
    (hz : (lhs.zip w)[top.i]? = some z) :
    stepM o A B wit pop ⟨.forSimI, top, K, ws, st, r, S, ra, fnd⟩
      = .inl ⟨.call, top, K, ws, st, z.1, [z.2], 2, fnd⟩ := by
  unfold stepM; simp only [h1, h2, List.headD_cons, hz]

theorem step_forSimI_end (h1 : top.tupleSetIter = lhs :: r1) (h2 : top.tupleSetIter2 = w :: r2)
    (hz : (lhs.zip w)[top.i]? = none) :
    stepM o A B wit pop ⟨.forSimI, top, K, ws, st, r, S, ra, fnd⟩
      = .inl ⟨.afterSim, top, K, ws, st, r, S, ra, fnd⟩ := by
  unfold stepM; simp only [h1, h2, List.headD_cons, hz]

end

theorem step_simret_holds :
    stepM o A B wit pop ⟨.simret, top, K, ws, st, r, S, ra, .holds⟩
      = .inl ⟨.forSimI, { top with i := top.i + 1 }, K, ws, st, r, S, ra, .holds⟩ := rfl

theorem step_simret_fails {t : Tree} :
    stepM o A B wit pop ⟨.simret, top, K, ws, st, r, S, ra, .fails t⟩
      = .inl ⟨.afterSim, top, K, ws, st, r, S, ra, .fails t⟩ := rfl

theorem step_afterSim_holds :
    stepM o A B wit pop ⟨.afterSim, top, K, ws, st, r, S, ra, .holds⟩
      = .inl ⟨.nexttuple, top, K, ws, st, r, S, ra, .holds⟩ := rfl

theorem step_afterSim_fails {t : Tree} :
    stepM o A B wit pop ⟨.afterSim, top, K, ws, st, r, S, ra, .fails t⟩
      = .inl ⟨.forTuple2, { top with tupleSetIter2 := top.tupleSetIter2.tail }, K, ws, st, r, S, ra, .fails t⟩ := rfl

theorem step_choiceInit {lhs : List Nat} {L : List (List Nat)} (h : top.tupleSetIter = lhs :: L) :
    stepM o A B wit pop ⟨.choiceInit, top, K, ws, st, r, S, ra, fnd⟩
      = .inl ⟨.doChoice, { top with choiceFunction := List.replicate top.W.length 0, cfArity := lhs.length }, K, ws, st,
          r, S, ra, fnd⟩ := by
  unfold stepM; simp only [h, List.headD_cons]

theorem step_doChoice :
    stepM o A B wit pop ⟨.doChoice, top, K, ws, st, r, S, ra, fnd⟩
      = .inl ⟨.forCfI, { top with i := 0, trees := [] }, K, ws, st, r, S, ra, .fails (.node 0 [])⟩ := rfl

section
variable {lhs : List Nat} {r1 : List (List Nat)} {l : Nat} {Q : List Nat}

/-- all positions failed: `EXPAND_POP_RETURN` with the tree of the choice function -/
theorem step_forCfI_end {t : Tree} {f n : Nat} {gs : List (Nat × Nat)} (ha : top.a = (f, n) :: gs)
    (hi : ¬ top.i < top.cfArity) :
    stepM o A B wit pop ⟨.forCfI, top, K, ws, st, r, S, ra, .fails t⟩
      = .inl ⟨.popReturn, top, K, ws, st, r, S, ra, .fails (.node f top.trees.reverse)⟩ := by
  unfold stepM; simp only [hi, ↓reduceIte, curSym, ha, List.headD_cons]

/-! at a position `top.i < top.cfArity`: `l` is the state of the lhs tuple there, `Q` its set under the choice function -/

theorem step_forCfI_empty (h1 : top.tupleSetIter = lhs :: r1) (hi : top.i < top.cfArity) (hl : lhs[top.i]? = some l)
    (hQ : posSet (fun l => normS (maxElems o l [])) top.W top.choiceFunction top.i = Q) (he : Q.isEmpty = true) :
    stepM o A B wit pop ⟨.forCfI, top, K, ws, st, r, S, ra, fnd⟩
      = .inl ⟨.forCfI, { top with i := top.i + 1, trees := treeOf wit l :: top.trees }, K, ws, st, r, S, ra, fnd⟩ := by
  unfold stepM; simp only [hi, h1, List.headD_cons, hl, Option.getD_some, hQ, he, if_true]

theorem step_forCfI_cached (h1 : top.tupleSetIter = lhs :: r1) (hi : top.i < top.cfArity) (hl : lhs[top.i]? = some l)
    (hQ : posSet (fun l => normS (maxElems o l [])) top.W top.choiceFunction top.i = Q) (he : ¬ Q.isEmpty = true)
    (hc : covers o top.childrenCache l Q = true) :
    stepM o A B wit pop ⟨.forCfI, top, K, ws, st, r, S, ra, fnd⟩ = .inl ⟨.nextchoice, top, K, ws, st, l, Q, ra, fnd⟩ := by
  unfold stepM; simp only [hi, h1, List.headD_cons, hl, Option.getD_some, hQ, he, hc, Bool.false_eq_true, ↓reduceIte]

/-- `EXPAND_CALL(1)` -/
theorem step_forCfI_call (h1 : top.tupleSetIter = lhs :: r1) (hi : top.i < top.cfArity) (hl : lhs[top.i]? = some l)
    (hQ : posSet (fun l => normS (maxElems o l [])) top.W top.choiceFunction top.i = Q) (he : ¬ Q.isEmpty = true)
    (hc : ¬ covers o top.childrenCache l Q = true) :
    stepM o A B wit pop ⟨.forCfI, top, K, ws, st, r, S, ra, fnd⟩ = .inl ⟨.call, top, K, ws, st, l, Q, 1, fnd⟩ := by
  unfold stepM; simp only [hi, h1, List.headD_cons, hl, Option.getD_some, hQ, he, hc, Bool.false_eq_true, ↓reduceIte]

end

theorem step_stdret_holds :
    stepM o A B wit pop ⟨.stdret, top, K, ws, st, r, S, ra, .holds⟩
      = .inl ⟨.nextchoice,
          { top with childrenCache := top.childrenCache.filter (fun x => !(o.leA x.1 r && setLe o S x.2)) ++ [(r, S)] },
          K, ws, st, r, S, ra, .holds⟩ := rfl

theorem step_stdret_fails {t : Tree} :
    stepM o A B wit pop ⟨.stdret, top, K, ws, st, r, S, ra, .fails t⟩
      = .inl ⟨.forCfI, { top with i := top.i + 1, trees := t :: top.trees }, K, ws,
          ⟨niAdd o st.nonIncl r S t, st.trues⟩, r, S, ra, .fails t⟩ := rfl

theorem step_nextchoice_next {cs : List Nat} (h : cfNext top.cfArity top.choiceFunction = (true, cs)) :
    stepM o A B wit pop ⟨.nextchoice, top, K, ws, st, r, S, ra, fnd⟩
      = .inl ⟨.doChoice, { top with choiceFunction := cs }, K, ws, st, r, S, ra, fnd⟩ := by
  unfold stepM; simp only [h, if_true]

theorem step_nextchoice_end {cs : List Nat} (h : cfNext top.cfArity top.choiceFunction = (false, cs)) :
    stepM o A B wit pop ⟨.nextchoice, top, K, ws, st, r, S, ra, fnd⟩
      = .inl ⟨.nexttuple, { top with choiceFunction := cs }, K, ws, st, r, S, ra, fnd⟩ := by
  unfold stepM; simp only [h, Bool.false_eq_true, if_false]

theorem step_nexttuple :
    stepM o A B wit pop ⟨.nexttuple, top, K, ws, st, r, S, ra, fnd⟩
      = .inl ⟨.forTuple, { top with tupleSetIter := top.tupleSetIter.tail }, K, ws, st, r, S, ra, fnd⟩ := rfl

/-- `EXPAND_POP_RETURN` with the `pop` of the C++, after a success: the pair is recorded in the ghost `trues` -/
theorem step_popReturn_holds {saved : Frame} {k q : Nat} {Q : List Nat} (h1 : top.retAddr = k) (h2 : top.p_S = q)
    (h3 : top.P_B = Q) :
    stepM o A B wit popAll ⟨.popReturn, top, saved :: K, ws, st, r, S, ra, .holds⟩
      = .inl ⟨.ret, saved, K, ws.tail, ⟨st.nonIncl, addTrue st.trues (q, Q)⟩, q, Q, k, .holds⟩ := by
  subst h1 h2 h3; rfl

/-- … after a failure: the ghost `trues` are those at the entry of the call -/
theorem step_popReturn_fails {saved : Frame} {t : Tree} {k q : Nat} {Q : List Nat} {tr : List Pair} (h1 : top.retAddr = k)
    (h2 : top.p_S = q) (h3 : top.P_B = Q) (h4 : top.trues0 = tr) :
    stepM o A B wit popAll ⟨.popReturn, top, saved :: K, ws, st, r, S, ra, .fails t⟩
      = .inl ⟨.ret, saved, K, ws.tail, ⟨st.nonIncl, tr⟩, q, Q, k, .fails t⟩ := by
  subst h1 h2 h3 h4; rfl

end

theorem cfNext_last (n : Nat) (hn : 0 < n) :
    ∀ m, cfNext n (List.replicate m (n - 1)) = (false, List.replicate m 0)
  | 0 => rfl
  | m+1 => by
    have : n - 1 + 1 = n := by omega
    simp [List.replicate_succ, cfNext, this, cfNext_last n hn m]

theorem cfNext_carry (n : Nat) (hn : 0 < n) (j : Nat) (hj : j + 1 ≠ n) (cs : List Nat) :
    ∀ m, cfNext n (List.replicate m (n - 1) ++ j :: cs) = (true, List.replicate m 0 ++ (j + 1) :: cs)
  | 0 => by simp [cfNext, hj]
  | m+1 => by
    have : n - 1 + 1 = n := by omega
    simp [List.replicate_succ, cfNext, this, cfNext_carry n hn j hj cs m]

end InclDownStack
end Vata
