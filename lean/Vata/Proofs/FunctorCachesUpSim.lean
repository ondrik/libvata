import Vata.FunctorCachesUpSim
import Vata.Proofs.FunctorCachesUp
import Vata.Proofs.InclUpSim
/-!
# The caches of the upward algorithm with a simulation are transparent – with the library's deleter (property C01)

Model: `Vata/FunctorCachesUpSim.lean`.  The invariant of `Vata/Proofs/FunctorHeap.lean` (`FCU.HInvG`) with two changes:

* the entries of `lteCache` hold `noncachedLte` MODULO THE RELATION (`lteNC R`) of the current values of two live objects;
* **interning** is part of the invariant (`HInvS.vi`: two live objects with the same value are the same object).  Without the
  relation it is not needed (`⊆` is reflexive, so the pointer test of the lambda `lte` is a shortcut only).  With an arbitrary
  relation `noncachedLte(x, x)` may be `false`; the cache-free model `InclUpSim.lte` says "the same set, or …", the code says
  "the same pointer, or …" – they agree because `biggerTypeCache.lookup` returns the live object with that value if there is one
  (`hLteS_lteSpec`).

The loops of the algorithm go by the simulation `RelS` (`URelS` as an instance of `FCU.URelG`).  The macro-state of a choice needs
`FCU.parents_eq_post` as an equality of LISTS: the minimisation `post.contains / refine / insert` depends on the order in which the
parents arrive.  The result (`runS_eq`): for EVERY allocator and EVERY relation – no hypothesis on the relation anywhere – the
algorithm with its caches and the library's deleter returns exactly what `InclUpSim.run` returns; `FCUSEx` shows on a concrete pair
that with another wiring of the deleter it does not.
-/
namespace Vata
namespace FCUS
open Vata.InclUp Vata.CM Vata.FCU

structure HInvS (R : Rel) (B : TA) (h : Heap) : Prop where
  na : h.addrs.Nodup
  vi : ∀ a b, Live h a → Live h b → hval h a = hval h b → a = b
  li : h.lte.Inv
  ei : h.ev.Inv
  sl : ∀ a b r, aget h.lte.store (a, b) = some r → Live h a ∧ Live h b ∧ r = lteNC R (hval h a) (hval h b)
  se : ∀ k b r, aget h.ev.store (k, b) = some r → Live h b ∧ r = evalT B k (hval h b)

theorem HInvS_iff {R : Rel} {B : TA} {h : Heap} : HInvS R B h ↔ HInvG True (lteNC R) B h :=
  ⟨fun i => ⟨i.na, fun _ => i.vi, i.li, i.ei, i.sl, i.se⟩, fun i => ⟨i.na, i.vi trivial, i.li, i.ei, i.sl, i.se⟩⟩

theorem HInvS.empty (R : Rel) (B : TA) : HInvS R B {} := HInvS_iff.mpr (HInvG.empty B)

/-- **the lambda `lte` answers `InclUpSim.lte R (*x) (*y)` on live objects** – pointer equality stands for equality of the sets
because the objects are interned – and keeps the invariant -/
theorem hLteS_lteSpec {R : Rel} {B : TA} : LteSpec (HInvG True (lteNC R) B) (hLteS R) (InclUpSim.lte R) := by
  intro h a b hi ha hb
  unfold hLteS
  split
  · next e => subst e; exact ⟨by simp [InclUpSim.lte], hi, rfl⟩
  · next hne =>
    refine ⟨?_, (hi.lteLookup ha hb).2, rfl⟩
    have hvne : (hval h a == hval h b) = false :=
      Bool.eq_false_iff.mpr (fun hc => hne (hi.vi trivial a b ha hb (eq_of_beq hc)))
    simp only [(hi.lteLookup ha hb).1, InclUpSim.lte, hvne, Bool.false_or]
    rfl

theorem hLteS_spec {R : Rel} {B : TA} {h : Heap} (hi : HInvS R B h) {a b : Nat} (ha : Live h a) (hb : Live h b) :
    (hLteS R h a b).2 = InclUpSim.lte R (hval h a) (hval h b) ∧ HInvS R B (hLteS R h a b).1 ∧
    (hLteS R h a b).1.store = h.store :=
  (hLteS_lteSpec h a b (HInvS_iff.mp hi) ha hb).imp_right (And.imp_left HInvS_iff.mpr)

theorem hCollectS_spec {R : Rel} {B : TA} {h : Heap} (hi : HInvS R B h) (roots : List Nat) :
    HInvS R B (hCollect .lib roots h) ∧
    (∀ a, a ∈ roots → Live h a → Live (hCollect .lib roots h) a ∧ hval (hCollect .lib roots h) a = hval h a) :=
  ⟨HInvS_iff.mpr ((HInvS_iff.mp hi).collect roots), fun _ => hCollect_keeps _⟩

/-- the cached state read through its pointers is the cache-free state (`tmp` = the antichain `temporary`, `QS` = the value
of `Q`); every handle points to a live object; the heap invariant holds -/
structure URelS (R : Rel) (B : TA) (s : USt) (st : St) (tmp : List Item) (QS : List Nat) : Prop where
  pr : s.processed.map (UIt.deref s.h) = st.processed
  nx : s.next.map (UIt.deref s.h) = st.next
  tm : s.temporary.map (UIt.deref s.h) = tmp
  qv : ∀ a, s.Q = some a → hval s.h a = QS
  live : ∀ a, a ∈ s.roots → Live s.h a
  sub : ∀ i, i ∈ s.next → hasPair s.processed i = true
  hi : HInvS R B s.h

abbrev RelS (R : Rel) (B : TA) : USt → St → List Item → List Nat → Prop := URelG (HInvG True (lteNC R) B)

theorem URelS_iff {R : Rel} {B : TA} {s : USt} {st : St} {tmp : List Item} {QS : List Nat} :
    URelS R B s st tmp QS ↔ RelS R B s st tmp QS :=
  ⟨fun h => ⟨h.pr, h.nx, h.tm, h.qv, h.live, h.sub, HInvS_iff.mp h.hi⟩,
   fun h => ⟨h.pr, h.nx, h.tm, h.qv, h.live, h.sub, HInvS_iff.mpr h.hi⟩⟩

/-- `biggerTypeCache.lookup(v)` -/
theorem URelS.lookup {R : Rel} {B : TA} {s : USt} {st : St} {tmp : List Item} {QS : List Nat} (h : URelS R B s st tmp QS)
    (pick : List Nat → Nat) (v : List Nat) :
    URelS R B { s with h := (hLookup pick s.h v).1 } st tmp QS ∧
    Live (hLookup pick s.h v).1 (hLookup pick s.h v).2 ∧ hval (hLookup pick s.h v).1 (hLookup pick s.h v).2 = v :=
  ((URelS_iff.mp h).lookup pick v).imp_left URelS_iff.mpr

section Sim
variable {R : Rel} {A B : TA} {s : USt} {st : St} {tmp : List Item} {QS : List Nat}

theorem acContainsS_spec (it : UIt) (P : List UIt) (h : Heap) (hi : HInvG True (lteNC R) B h) (ha : Live h it.a)
    (hl : ULive h P) :
    (acContainsS R it.q it.a P h).2 =
      P.any (fun i => InclUpSim.le R it.q i.q && InclUpSim.lte R (hval h i.a) (hval h it.a)) ∧
    HInvG True (lteNC R) B (acContainsS R it.q it.a P h).1 ∧ (acContainsS R it.q it.a P h).1.store = h.store := by
  rw [← elim_find?_any]
  exact find_spec (F := acContainsS R it.q it.a) (kt := fun i : UIt => InclUpSim.le R it.q i.q) (ad := UIt.a) hLteS_lteSpec
    (fun _ _ e => funext (hval_store e)) (fun _ => rfl) (fun _ _ _ => rfl) P h hi ha hl

theorem acRefineS_spec (it : UIt) (P : List UIt) (h : Heap) (hi : HInvG True (lteNC R) B h) (ha : Live h it.a)
    (hl : ULive h P) :
    (acRefineS R it.q it.a P h).2 = P.filter (keepG (InclUpSim.le R · it.q) (InclUpSim.lte R) h it.a) ∧
    HInvG True (lteNC R) B (acRefineS R it.q it.a P h).1 ∧ (acRefineS R it.q it.a P h).1.store = h.store :=
  erase_spec (F := acRefineS R it.q it.a) (kt := fun i : UIt => InclUpSim.le R i.q it.q) (ad := UIt.a) hLteS_lteSpec
    (fun _ _ e => funext (hval_store e)) (fun _ => rfl) (fun _ _ _ => rfl) P h hi ha hl

/-- `processed.contains / refine(Eraser(next)) / insert`, `next.insert` -/
theorem addItemS_rel (h : RelS R B s st tmp QS) {it : UIt} (hit : Live s.h it.a) :
    RelS R B (addItemS R s it) (InclUpSim.addItem R st (it.deref s.h)) tmp QS :=
  addItemG_rel (cc := InclUpSim.le R) (cr := fun q p => InclUpSim.le R p q) acContainsS_spec acRefineS_spec h hit

/-- `temporary.contains / refine / insert` -/
theorem addTmpS_rel (h : RelS R B s st tmp QS) {it : UIt} (hit : Live s.h it.a) :
    RelS R B (addTmpS R s it) st (InclUpSim.addTmp R tmp (it.deref s.h)) QS :=
  addTmpG_rel (cc := InclUpSim.le R) (cr := fun q p => InclUpSim.le R p q) acContainsS_spec acRefineS_spec h hit

theorem addTmpS_frame (R : Rel) (s : USt) (it : UIt) : ((addTmpS R s it).collect .lib).processed = s.processed ∧
    ((addTmpS R s it).collect .lib).next = s.next ∧ ((addTmpS R s it).collect .lib).Q = s.Q :=
  addTmpG_frame (fun it => acContainsS R it.q it.a) (fun it => acRefineS R it.q it.a) s it

theorem stepChoiceS_rel (pick : List Nat → Nat) (ρ : Rule) (h : RelS R B s st tmp QS) {is : List UIt} (hne : is ≠ [])
    (hl : ULive s.h is) :
    ExceptRel (fun s' tmp' => RelS R B s' st tmp' QS ∧ s'.processed = s.processed ∧ s'.next = s.next ∧ s'.Q = s.Q)
      (stepChoiceS .lib pick R A B ρ s is) (InclUpSim.stepChoice R A B ρ tmp (is.map (UIt.deref s.h))) := by
  obtain ⟨e, m, c⟩ := evalAll_post h.hi ρ.sym (as := is.map (·.a)) (by simpa using hne)
    (by intro a ha; obtain ⟨i, hi, rfl⟩ := List.mem_map.mp ha; exact hl i hi)
  have hS : (is.map (·.a)).map (hval s.h) = (is.map (UIt.deref s.h)).map (·.S) := by
    simp only [List.map_map]; rfl
  have hT : is.map (·.t) = (is.map (UIt.deref s.h)).map (·.t) := by
    simp only [List.map_map]; rfl
  rw [hS] at e
  unfold stepChoiceS InclUpSim.stepChoice macroPostS InclUpSim.macroPost
  simp only
  rw [e, ← hT]
  generalize InclUpSim.minPost R B (post B ρ.sym ((is.map (UIt.deref s.h)).map (·.S))) = S'
  by_cases h1 : (normS S'.1).isEmpty = true
  · rw [if_pos h1, if_pos h1]; exact .error _
  rw [if_neg h1, if_neg h1]
  by_cases h2 : (!S'.2 && A.final.contains ρ.parent) = true
  · rw [if_pos h2, if_pos h2]; exact .error _
  rw [if_neg h2, if_neg h2]
  by_cases h3 : InclUpSim.skipSim R ρ.parent (normS S'.1) = true
  · -- `continue` before `biggerTypeCache.lookup(tmp)`
    rw [if_pos h3, if_pos h3]; exact .ok ⟨h.store m c, rfl, rfl, rfl⟩
  rw [if_neg h3, if_neg h3]
  -- `ptr = biggerTypeCache.lookup(tmp)`, `temporary.contains / refine / insert`, end of the iteration
  obtain ⟨h2, hlive, hval'⟩ := (h.store m c).lookup pick (normS S'.1)
  have h3 := addTmpS_rel h2 (it := ⟨ρ.parent, _, Tree.node ρ.sym (is.map (·.t))⟩) hlive
  simp only [UIt.deref, hval'] at h3
  exact .ok ⟨h3.collect, addTmpS_frame R _ _⟩

theorem stepChoicesS_rel (pick : List Nat → Nat) (ρ : Rule) {it : UIt} :
    ∀ (iss : List (List UIt)) (s : USt) (tmp : List Item), RelS R B s st tmp QS → s.Q = some it.a →
    (∀ is, is ∈ iss → ChoiceOK s it is) →
    ExceptRel (fun s' tmp' => RelS R B s' st tmp' QS ∧ s'.processed = s.processed ∧ s'.next = s.next ∧ s'.Q = s.Q)
      (stepChoicesS .lib pick R A B ρ iss s) (InclUpSim.stepChoices R A B ρ (iss.map (List.map (UIt.deref s.h))) tmp)
  | [], s, tmp, h, _, _ => .ok ⟨h, rfl, rfl, rfl⟩
  | is :: iss, s, tmp, h, hQ, hc => by
    have hcis := hc is List.mem_cons_self
    unfold stepChoicesS
    simp only [List.map_cons]
    unfold InclUpSim.stepChoices
    rcases (stepChoiceS_rel (A := A) pick ρ h hcis.1 (deref_choice h hQ hcis)).inv with
      ⟨e, hx, hy⟩ | ⟨s', tmp', hx, hy, h', hp, hn, hq⟩
    · rw [hx, hy]; exact .error e
    · rw [hx, hy]
      dsimp only
      have hmap : iss.map (List.map (UIt.deref s'.h)) = iss.map (List.map (UIt.deref s.h)) :=
        List.map_congr_left (fun is' hi => deref_stable h h' hp hq hQ (hc is' (List.mem_cons_of_mem _ hi)))
      have := stepChoicesS_rel pick ρ iss s' tmp' h' (hq ▸ hQ) (fun is' hi =>
        ⟨(hc is' (List.mem_cons_of_mem _ hi)).1, fun i hi' => hp ▸ (hc is' (List.mem_cons_of_mem _ hi)).2 i hi'⟩)
      rw [hmap] at this
      rcases this.inv with ⟨e, hx, hy⟩ | ⟨s'', tmp'', hx, hy, g1, g2, g3, g4⟩
      · rw [hx, hy]; exact .error e
      · rw [hx, hy]; exact .ok ⟨g1, g2.trans hp, g3.trans hn, g4.trans hq⟩

theorem procTaskS_rel (pick : List Nat → Nat) {it : UIt} {ρ : Rule} (j : Nat)
    (h : RelS R B s st [] QS) (hQ : s.Q = some it.a) (hks : ρ.kids ≠ []) :
    ExceptRel (fun s' st' => RelS R B s' st' [] QS ∧ s'.Q = s.Q)
      (procTaskS .lib pick R A B it ρ j s) (InclUpSim.procTask R A B ⟨it.q, QS, it.t⟩ ρ j st) := by
  have hit : it.deref s.h = ⟨it.q, QS, it.t⟩ := by simp only [UIt.deref, h.qv _ hQ]
  have hr := stepChoicesS_rel (A := A) pick ρ _ s [] h hQ (fun _ => choicesAtC_ok (j := j) hks)
  rw [choicesAtC_map, h.pr, hit] at hr
  unfold procTaskS InclUpSim.procTask
  rcases hr.inv with ⟨e, hx, hy⟩ | ⟨s', tmp', hx, hy, h', _, _, hq⟩
  · rw [hx, hy]; exact .error e
  · rw [hx, hy]
    obtain ⟨g1, _, g3⟩ := merge_rel (M := mergeS .lib R) (fun h hit => addItemS_rel h hit) (addItemG_frame _ _) (fun _ => rfl)
      (fun _ _ _ => rfl) s'.temporary s' st h' (fun _ hi => hi)
    rw [h'.tm] at g1
    exact .ok ⟨g1.clearTmp.collect, g3.trans hq⟩

theorem procTasksS_rel (pick : List Nat → Nat) {it : UIt} :
    ∀ (ts : List (Rule × Nat)) (s : USt) (st : St), RelS R B s st [] QS → s.Q = some it.a →
    (∀ t, t ∈ ts → t.1.kids ≠ []) →
    ExceptRel (fun s' st' => RelS R B s' st' [] QS ∧ s'.Q = s.Q)
      (procTasksS .lib pick R A B it ts s) (InclUpSim.procTasks R A B ⟨it.q, QS, it.t⟩ ts st)
  | [], _, _, h, _, _ => .ok ⟨h, rfl⟩
  | (ρ, j) :: ts, s, st, h, hQ, hks => by
    unfold procTasksS InclUpSim.procTasks
    rcases (procTaskS_rel (A := A) pick j h hQ (hks (ρ, j) List.mem_cons_self)).inv with
      ⟨e, hx, hy⟩ | ⟨s', st', hx, hy, h', hq⟩
    · rw [hx, hy]; exact .error e
    · rw [hx, hy]
      dsimp only
      rcases (procTasksS_rel pick ts s' st' h' (hq ▸ hQ) (fun t ht => hks t (List.mem_cons_of_mem _ ht))).inv with
        ⟨e, hx, hy⟩ | ⟨s'', st'', hx, hy, h'', hq'⟩
      · rw [hx, hy]; exact .error e
      · rw [hx, hy]; exact .ok ⟨h'', hq'.trans hq⟩

theorem loopS_rel (pick : List Nat → Nat) : ∀ (n : Nat) (s : USt) (st : St) (QS : List Nat),
    RelS R B s st [] QS → RFinG (HInvG True (lteNC R) B) (loopS .lib pick R A B n s) (InclUpSim.loop R A B n st)
  | 0, _, _, _, _ => .none
  | n+1, s, st, QS, h => by
    unfold loopS InclUpSim.loop
    cases hn : s.next with
    | nil =>
      have : st.next = [] := by rw [← h.nx, hn]; rfl
      simp only [this]
      exact .some (.ok ⟨st, QS, h, rfl⟩)
    | cons it rest =>
      have hst : st.next = ⟨it.q, hval s.h it.a, it.t⟩ :: rest.map (UIt.deref s.h) := by rw [← h.nx, hn]; rfl
      simp only [hst]
      rcases (procTasksS_rel (A := A) pick (it := it) (tasks A it.q) _ _ (h.pick hn).collect rfl
        (fun t ht => tasks_kids_ne ht)).inv with ⟨e, hx, hy⟩ | ⟨s', st', hx, hy, h', _⟩
      · rw [hx, hy]; exact .some (.error e)
      · rw [hx, hy]; exact loopS_rel pick n s' st' _ h'

theorem leafPhaseS_rel (pick : List Nat → Nat) : ∀ (ρs : List Rule) (s : USt) (st : St),
    RelS R B s st [] [] →
    ExceptRel (fun s' st' => RelS R B s' st' [] []) (leafPhaseS .lib pick R A B ρs s) (InclUpSim.leafPhase R A B ρs st)
  | [], _, _, h => .ok h
  | ρ :: ρs, s, st, h => by
    unfold leafPhaseS InclUpSim.leafPhase
    by_cases hk : ρ.kids.isEmpty = true
    · rw [if_pos hk, if_pos hk]
      simp only
      generalize InclUpSim.macroPost R B ρ.sym [] = S
      by_cases h1 : (!S.2 && A.final.contains ρ.parent) = true
      · rw [if_pos h1, if_pos h1]; exact .error _
      rw [if_neg h1, if_neg h1]
      obtain ⟨h1, hlive, hv⟩ := h.lookup pick S.1
      by_cases h2 : InclUpSim.skipSim R ρ.parent S.1 = true
      · -- `continue`: the handle `ptr` is dropped
        rw [if_pos h2, if_pos h2]; exact leafPhaseS_rel pick ρs _ _ h1.collect
      rw [if_neg h2, if_neg h2]
      have h2 := (addItemS_rel h1 (it := ⟨ρ.parent, _, Tree.node ρ.sym []⟩) hlive).collect
      simp only [UIt.deref, hv] at h2
      exact leafPhaseS_rel pick ρs _ _ h2
    · rw [if_neg hk, if_neg hk]; exact leafPhaseS_rel pick ρs s st h

end Sim

theorem runS_rel (pick : List Nat → Nat) (R : Rel) (A B : TA) (fuel : Nat) :
    RFinG (HInvG True (lteNC R) B) (runS .lib pick R A B fuel) (InclUpSim.run R A B fuel) := by
  unfold runS InclUpSim.run
  cases sizeExit A B with
  | some ρ => exact .some (.error _)
  | none =>
    simp only
    have h0 : RelS R B ⟨[], [], [], none, {}⟩ ⟨[], []⟩ [] [] :=
      ⟨rfl, rfl, rfl, (fun _ h => by cases h), (fun _ h => by cases h), (fun _ h => by cases h), HInvG.empty B⟩
    rcases (leafPhaseS_rel (A := A) pick A.rules _ _ h0).inv with ⟨e, hx, hy⟩ | ⟨s', st', hx, hy, h'⟩
    · rw [hx, hy]; exact .some (.error e)
    · rw [hx, hy]; exact loopS_rel pick fuel s' st' [] h'

/-- **the cached upward exploration with a relation, read through its pointers, is the cache-free exploration – for every
allocator and every relation** (verdict, final antichain by value, `none` at the same fuel) -/
theorem runS_eq (pick : List Nat → Nat) (R : Rel) (A B : TA) (fuel : Nat) :
    viewU (runS .lib pick R A B fuel) = InclUpSim.run R A B fuel :=
  viewU_of_RFinG (runS_rel pick R A B fuel)

/-- the certifying end of the cached model is that of `inclUpSim` -/
theorem finishUpSim_eq (A B : TA) (R : Rel) (r : Option (Res (List Item))) : finishUpSim A B R r = InclUp.certify A B
    (fun X => isUpSimB (unionDisjoint A B) R && InclDown.disjointB A B && upCertSimB A B R X) (complete A) r := by
  cases r with
  | none => rfl
  | some x => cases x <;> rfl

/-- **C01, upward algorithm with a simulation: `biggerTypeCache`, `lteCache`, `evalTransitionsCache` are transparent under the
library's deleter.**  For all operands, EVERY relation (no simulation hypothesis), every fuel and EVERY allocator the algorithm
with its caches returns exactly what the cache-free model `inclUpSim` returns: the same verdict with the same antichain /
witness, `none` at the same fuel. -/
theorem inclUpSim_cached_eq (pick : List Nat → Nat) (A B : TA) (R : Rel) (fuel : Nat) :
    inclUpSimC .lib pick A B R fuel = inclUpSim A B R fuel := by
  rw [inclUpSim_eq, inclUpSimC, runS_eq, finishUpSim_eq]

theorem checkInclUpSim_cached_eq (pick : List Nat → Nat) (A B : TA) (fuel : Nat) :
    checkInclUpSimC .lib pick A B fuel = checkInclUpSim A B fuel :=
  inclUpSim_cached_eq pick _ _ _ fuel

/-- **the invariant of the two memo tables (and interning) at the end of every run with the library's deleter, for every
allocator and relation** -/
theorem runS_heap_sound (pick : List Nat → Nat) (R : Rel) (A B : TA) (fuel : Nat) {h : Heap}
    (hf : finalHeap (runS .lib pick R A B fuel) = some h) : HInvS R B h ∧ heapOKSB R B h = true :=
  have hi := finalHeap_of_RFinG (runS_rel pick R A B fuel) hf
  ⟨HInvS_iff.mpr hi, heapOK_of_HInvG hi⟩

/-- a `return true` on operands that are not included does not pass the certificate check -/
theorem inclUpSimC_none {w : Wiring} {pick : List Nat → Nat} {A B : TA} {R : Rel} {fuel : Nat}
    (h : rawVerdictU (runS w pick R A B fuel) = some true) (hn : ¬ Incl A B) : inclUpSimC w pick A B R fuel = none := by
  obtain ⟨s, hr⟩ := rawVerdictU_true h
  rw [inclUpSimC, hr]
  exact ite_none_of inclUpSim_checks_incl hn

namespace FCUSEx

/-- `L(A) ⊄ L(B)`; both trimmed, disjoint -/
def exWA : TA := ⟨[⟨2, [0, 0], 0⟩, ⟨2, [1, 1], 0⟩, ⟨2, [1, 0], 1⟩, ⟨1, [], 0⟩, ⟨1, [], 1⟩], [0, 1]⟩
def exWB : TA :=
  ⟨[⟨3, [12], 12⟩, ⟨2, [12, 11], 12⟩, ⟨1, [], 12⟩, ⟨2, [12, 12], 10⟩, ⟨2, [10, 11], 12⟩, ⟨1, [], 11⟩, ⟨2, [10, 12], 10⟩], [10, 12]⟩
/-- the greatest upward simulation of the disjoint union: the identity and `10 ≼ 12` -/
def exWR : Rel := [(0, 0), (1, 1), (12, 12), (11, 11), (10, 12), (10, 10)]
/-- the identity alone -/
def exWI : Rel := [(0, 0), (1, 1), (12, 12), (11, 11), (10, 10)]

theorem exWR_is_upSimRef : upSimRef (unionDisjoint exWA exWB) = exWR := by decide +kernel

def exWt1 : Tree := .node 2 [.node 1 [], .node 1 []]
def exWt2 : Tree := .node 2 [exWt1, exWt1]
/-- the tree `f(f(f(b,b),f(b,b)), f(f(b,b),f(b,b)))` is accepted by `A` and not by `B` -/
theorem exW_not_incl : ¬ Incl exWA exWB := fun h => by
  have := h (.node 2 [exWt2, exWt2]) (by decide)
  revert this; decide

/-- **the wiring of the deleter matters for `ANTICHAINS_UP_SIM`.**  The allocator recycles the address of a dead macro-state at
once (`pickLeast`); the relation is the computed simulation.  With the default deleter (`Wiring.none`) and with the slip that
purges ONE key position of `lteCache` only (`Wiring.firstTwice`: `invalidateFirst` twice, the entries with the dying address in
SECOND position survive) the exploration of `exWA ⊆ exWB` ends with `return true`; with the library's deleter it answers `false`,
which is right.  The stale entry is hit through the relation: with the identity in place of the simulation the same allocator
and the default deleter answer `false`. -/
theorem wiring_changes_verdict_sim :
    rawVerdictU (runS .none pickLeast exWR exWA exWB 12) = some true ∧
    rawVerdictU (runS .firstTwice pickLeast exWR exWA exWB 12) = some true ∧
    rawVerdictU (runS .lib pickLeast exWR exWA exWB 12) = some false ∧
    rawVerdictU (runS .none pickLeast exWI exWA exWB 12) = some false ∧ ¬ Incl exWA exWB :=
  ⟨by decide +kernel, by decide +kernel, by decide +kernel, by decide +kernel, exW_not_incl⟩

/-- … the certificate check of the model does not let the wrong `true` through -/
theorem wiring_certificate_rejects_sim :
    inclUpSimC .none pickLeast exWA exWB exWR 12 = none ∧ inclUpSimC .firstTwice pickLeast exWA exWB exWR 12 = none :=
  ⟨inclUpSimC_none wiring_changes_verdict_sim.1 exW_not_incl, inclUpSimC_none wiring_changes_verdict_sim.2.1 exW_not_incl⟩

/-- `L(A) ⊆ L(B)`; the verdict survives, the invariant does not -/
def exSA : TA := ⟨[⟨2, [1, 0], 0⟩, ⟨1, [], 0⟩, ⟨1, [], 1⟩, ⟨2, [1, 0], 0⟩, ⟨2, [1, 0], 0⟩], [0]⟩
def exSB : TA :=
  ⟨[⟨1, [], 11⟩, ⟨0, [], 11⟩, ⟨2, [11, 11], 10⟩, ⟨2, [11, 11], 11⟩, ⟨2, [12, 10], 11⟩, ⟨2, [10, 10], 12⟩, ⟨2, [10, 10], 11⟩],
    [10, 11]⟩
/-- the greatest upward simulation of the disjoint union: the identity and `12 ≼ 10` -/
def exSR : Rel := [(0, 0), (1, 1), (11, 11), (10, 10), (12, 10), (12, 12)]

theorem exSR_is_upSimRef : upSimRef (unionDisjoint exSA exSB) = exSR := by decide +kernel

/-- the run with the library's deleter (evaluated once; quoted below and in `C01_CachesUpSim`): objects do die and memo entries
are made in it, and the tables pass the test -/
theorem exS_lib_run : (finalHeap (runS .lib pickLeast exSR exSA exSB 12)).map
    (fun h => (h.store.length, h.lte.store.length, h.ev.store.length, heapOKSB exSR exSB h)) = some (1, 0, 2, true) := by
  decide +kernel

/-- **a stale entry**: at the end of the run with the default deleter (and with the one-position slip) a memo table holds an
entry that is not the value of the memoised function on the objects now at its addresses (or whose object is dead); with the
library's deleter the tables pass the test (`runS_heap_sound`) -/
theorem wiring_breaks_invariant_sim :
    (finalHeap (runS .none pickLeast exSR exSA exSB 12)).map (heapOKSB exSR exSB) = some false ∧
    (finalHeap (runS .firstTwice pickLeast exSR exSA exSB 12)).map (heapOKSB exSR exSB) = some false ∧
    (finalHeap (runS .lib pickLeast exSR exSA exSB 12)).map (heapOKSB exSR exSB) = some true :=
  ⟨by decide +kernel, by decide +kernel, Option.map_of_map exS_lib_run (·.2.2.2)⟩

example : inclUpSimC .lib pickLeast exWA exWB exWR 12 = inclUpSim exWA exWB exWR 12 := inclUpSim_cached_eq _ _ _ _ _
example : (inclUpSimC .lib pickLeast exWA exWB exWR 12).map (·.1) = some false := by decide +kernel
example : (inclUpSimC .lib pickLeast exSA exSB exSR 12).map (·.1) = some true := by decide +kernel
example : (finalHeap (runS .lib pickLeast exSR exSA exSB 12)).map
    (fun h => (h.store.length, h.lte.store.length, h.ev.store.length)) = some (1, 0, 2) :=
  Option.map_of_map exS_lib_run (fun t => (t.1, t.2.1, t.2.2.1))

end FCUSEx

end FCUS
end Vata
