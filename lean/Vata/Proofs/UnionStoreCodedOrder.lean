import Vata.Proofs.UnionStoreCodedInv
/-!
# `Union` on the rule store – proofs, part 3: the lookup order of the store code and the visiting order of `unionModel`

`lookupOrder s true` (final states; per CLUSTER the parent, then all children) and `visitOrder (toTA s)` (final states; per RULE
the parent, then its children) differ only by repeated occurrences of a parent that was looked up before – provided no cluster /
tuple set is empty –, and a weak translator ignores a repeated key: the two orders give the SAME map and counter.
-/
namespace Vata.UnionStoreCoded
open Vata.Store Vata.RenameCoded

theorem weakTrAll_cons_known {m : SMap} {q n : Nat} (h : m.lookup q = some n) (ks : List Nat) (c : Nat) :
    weakTrAll (q :: ks) m c = weakTrAll ks m c := by
  simp only [weakTrAll, Um.weakTr_of_lookup h]

/-- the tuples of one symbol: the parent repeated before every tuple is ignored -/
theorem weakTrAll_tuples (q : Nat) : ∀ (ts : TupleSet) (m : SMap) (c : Nat) {n : Nat}, m.lookup q = some n →
    weakTrAll (ts.flatMap (fun t => q :: t)) m c = weakTrAll ts.flatten m c
  | [], _, _, _, _ => rfl
  | t :: ts, m, c, _, h => by
    rw [List.flatMap_cons, List.flatten_cons, List.cons_append, weakTrAll_cons_known h, Um.weakTrAll_append, Um.weakTrAll_append,
      weakTrAll_tuples q ts _ _ (Um.weakTrAll_ext t m c h)]

theorem weakTrAll_symbols (q : Nat) : ∀ (cl : Cluster) (m : SMap) (c : Nat) {n : Nat}, m.lookup q = some n →
    weakTrAll (cl.flatMap (fun ft => ft.2.flatMap (fun t => q :: t))) m c = weakTrAll (clusterKeys cl) m c
  | [], _, _, _, _ => rfl
  | ft :: cl, m, c, _, h => by
    simp only [clusterKeys, List.flatMap_cons]
    rw [Um.weakTrAll_append, Um.weakTrAll_append, weakTrAll_tuples q ft.2 m c h]
    exact weakTrAll_symbols q cl _ _ (Um.weakTrAll_ext ft.2.flatten m c h)

def visitCluster (q : Nat) (cl : Cluster) : List Nat := cl.flatMap (fun ft => ft.2.flatMap (fun t => q :: t))

theorem visitCluster_eq (q : Nat) (cl : Cluster) : (flatCluster q cl).flatMap Rule.states = visitCluster q cl := by
  simp only [flatCluster, visitCluster, List.flatMap_assoc, List.flatMap_map, Rule.states]

theorem weakTrAll_cluster (q : Nat) (cl : Cluster) (hne : cl ≠ [] ∧ NoEmptyC cl) (m : SMap) (c : Nat) :
    weakTrAll (visitCluster q cl) m c = weakTrAll (q :: clusterKeys cl) m c := by
  obtain ⟨n, hk⟩ := Um.weakTr_known m c q
  have e : visitCluster q cl = q :: (visitCluster q cl).tail := by
    cases hc : cl with
    | nil => exact absurd hc hne.1
    | cons ft cl' =>
      cases hts : ft.2 with
      | nil => exact absurd hts (hne.2 ft (hc ▸ List.mem_cons_self))
      | cons t ts => simp [visitCluster, hts]
  have h1 : weakTrAll (q :: visitCluster q cl) m c = weakTrAll (visitCluster q cl) m c := by
    rw [e]
    simp only [weakTrAll]
    rw [Um.weakTr_of_lookup hk]
  rw [← h1]
  simp only [weakTrAll]
  exact weakTrAll_symbols q cl _ _ hk

theorem weakTrAll_clusters : ∀ (cm : List (Nat × Cluster)), (∀ qc, qc ∈ cm → qc.2 ≠ [] ∧ NoEmptyC qc.2) →
    ∀ (m : SMap) (c : Nat),
    weakTrAll (cm.flatMap (fun qc => visitCluster qc.1 qc.2)) m c = weakTrAll (mapKeys cm) m c
  | [], _, _, _ => rfl
  | qc :: cm, hne, m, c => by
    simp only [mapKeys, List.flatMap_cons]
    rw [Um.weakTrAll_append, Um.weakTrAll_append, weakTrAll_cluster qc.1 qc.2 (hne qc List.mem_cons_self)]
    exact weakTrAll_clusters cm (fun qc' h => hne qc' (List.mem_cons_of_mem _ h)) _ _

theorem weakTrAll_visit_eq (s : Store) (hne : NoEmpty s) (m : SMap) (c : Nat) :
    weakTrAll (visitOrder (toTA s)) m c = weakTrAll (lookupOrder s true) m c := by
  have e : visitOrder (toTA s) = s.final ++ s.clusters.flatMap (fun qc => visitCluster qc.1 qc.2) := by
    simp only [visitOrder, toTA, iterate, List.flatMap_assoc, visitCluster_eq]
  rw [e]
  simp only [lookupOrder, if_true]
  rw [Um.weakTrAll_append, Um.weakTrAll_append, weakTrAll_clusters s.clusters hne]

theorem unionModelOrd_lookupOrder_eq (A B : Store) (mL mR : SMap) (hA : Inv A) (hB : Inv B) :
    unionModelOrd (lookupOrder A true) (lookupOrder B true) (toTA A) (toTA B) mL mR = unionModel (toTA A) (toTA B) mL mR := by
  simp only [unionModel, unionModelOrd]
  rw [weakTrAll_visit_eq A (noEmpty_of_inv hA), weakTrAll_visit_eq B (noEmpty_of_inv hB)]

end Vata.UnionStoreCoded
