import Vata.Proofs.RcStoreX
import Vata.Proofs.RcStoreHist
import Vata.Proofs.RcStoreXMono
/-!
# The store operations of `Vata/RcStoreX.lean`: invariants and refinement (C17, C18)

Every node-producing function of `Vata/RcStoreX.lean` is a builder (`Built`, `Vata/Proofs/StoreBuild.lean`) for the tree-level
operation of `Vata/MtbddOps.lean` applied to the diagrams of its arguments: `recDescend1`, `recDescend3` as instances of the
recursion scheme (`descend1`, `descend3`), `renameNode`, `projectNode` by inductions of their own.  Except
for `projectNode` the only node whose counter may be 0 afterwards is the result (`Tight`), which the caller increments.  The fuel
given by the callers suffices (the `0` cases are unreachable, so `err` is never set).  Only `WInv` (not "no counter is 0") is
assumed, so everything holds in stores with the garbage left by `Project`, and for non-monotone renamers.

Per operation: `…_adds` (the new handle's root unfolds to the tree-level operation; invariant, frame, ordered-and-reduced kept
when the tree is).  `stepS_spec`: every operation of a history.
-/
namespace Vata.RcSX
open Vata.R (Data decrRc contrib indegL cnt J Closed)
open Vata.RcS

/-! ## unary apply -/

/-- the step of `Apply1Functor::recDescend` -/
def step1 (f : Nat → Nat) (dat : Nat → Data) (n : Nat) : Step Nat :=
  match dat n with
  | .leaf v => .leaf (f v)
  | .int lo hi var => .node lo hi var

theorem step1_node {f : Nat → Nat} {dat : Nat → Data} {n lo hi var : Nat} (h : step1 f dat n = .node lo hi var) :
    dat n = .int lo hi var := by
  cases hd : dat n <;> simp only [step1, hd, Step.node.injEq, reduceCtorEq] at h
  obtain ⟨rfl, rfl, rfl⟩ := h
  rfl

def descend1 (f : Nat → Nat) : Descent Nat where
  run := recDescend1 f
  step := step1 f
  nodes n := [n]
  size n := n
  run_succ fuel s n := by
    cases hd : s.dat n <;> simp only [recDescend1, step1, hd, Step.exec]
  step_congr h := by
    simp only [step1, h _ (List.mem_singleton_self _)]
  step_node {s n lo hi var} h hn hst := by
    have hn := hn n (List.mem_singleton_self n)
    have hd := step1_node hst
    obtain ⟨c1, c2⟩ := h.closed n hn lo hi var hd
    obtain ⟨o1, o2⟩ := h.ordered n hn lo hi var hd
    exact ⟨List.forall_mem_singleton.mpr c1, List.forall_mem_singleton.mpr c2, o1, o2⟩
  tree s n := M.apply1 f (diagram s n)
  tree_ext h e hn := by
    simp only [h.diagram_ext e (List.forall_mem_singleton.mp hn)]
  tree_step {s n} h hn := by
    have hn := List.forall_mem_singleton.mp hn
    cases hd : s.dat n with
    | leaf v => simp only [step1, hd, diagram_leaf hd, M.apply1, Step.tree]
    | int lo hi var => simp only [step1, hd, h.diagram_int hn hd, M.apply1, Step.tree]

theorem apply1_adds (f : Nat → Nat) {s : Store} {a dst ra : Nat} (hw : WInv s []) (ha : find a s.hs = some ra)
    (hd : find dst s.hs = none) :
    Adds s (apply1 f s a dst) dst (M.apply1 f (diagram s ra)) ∧ (NZ s → NZ (apply1 f s a dst)) := by
  obtain ⟨b, t⟩ := (descend1 f).built (ra + 1) s ra hw (List.forall_mem_singleton.mpr (hw.rin ra (root_mem ha)))
    (Nat.lt_succ_self _)
  simp only [apply1, ha, hd]
  exact ⟨(b.addHandle hd).1, ((b.addHandle hd).2 t).nz⟩

/-! ## ternary apply -/

theorem br3_true_isInt {d1 d2 d3 : Data} (h : br3 d1 d2 d3 = true) : isInt d1 = true := by
  cases d1 <;> simp_all [br3, isInt]

theorem sum3_lt {a b c x y z : Nat} (ha : a ≤ x) (hb : b ≤ y) (hc : c ≤ z) (h : a < x ∨ b < y ∨ c < z) :
    a + b + c < x + y + z := by
  rcases h with h | h | h
  · exact Nat.add_lt_add_of_lt_of_le (Nat.add_lt_add_of_lt_of_le h hb) hc
  · exact Nat.add_lt_add_of_lt_of_le (Nat.add_lt_add_of_le_of_lt ha h) hc
  · exact Nat.add_lt_add_of_le_of_lt (Nat.add_le_add ha hb) h

theorem one_of_three {b1 b2 b3 : Bool} {P1 P2 P3 : Prop} (hb : ¬ (b1 = false ∧ b2 = false ∧ b3 = false))
    (h1 : b1 = true → P1) (h2 : b2 = true → P2) (h3 : b3 = true → P3) : P1 ∨ P2 ∨ P3 :=
  match b1, b2, b3 with
  | true, _, _ => .inl (h1 rfl)
  | false, true, _ => .inr (.inl (h2 rfl))
  | false, false, true => .inr (.inr (h3 rfl))
  | false, false, false => absurd ⟨rfl, rfl, rfl⟩ hb

theorem kids3_ok {s : Store} (h : WInv s []) {n1 n2 n3 : Nat} (h1 : n1 ∈ s.ids) (h2 : n2 ∈ s.ids) (h3 : n3 ∈ s.ids)
    (b1 b2 b3 : Bool) (i1 : b1 = true → isInt (s.dat n1) = true) (i2 : b2 = true → isInt (s.dat n2) = true)
    (i3 : b3 = true → isInt (s.dat n3) = true) (hb : ¬ (b1 = false ∧ b2 = false ∧ b3 = false)) :
    (kids (s.dat n1) b1 n1).1 ∈ s.ids ∧ (kids (s.dat n1) b1 n1).2 ∈ s.ids ∧
    (kids (s.dat n2) b2 n2).1 ∈ s.ids ∧ (kids (s.dat n2) b2 n2).2 ∈ s.ids ∧
    (kids (s.dat n3) b3 n3).1 ∈ s.ids ∧ (kids (s.dat n3) b3 n3).2 ∈ s.ids ∧
    (kids (s.dat n1) b1 n1).1 + (kids (s.dat n2) b2 n2).1 + (kids (s.dat n3) b3 n3).1 < n1 + n2 + n3 ∧
    (kids (s.dat n1) b1 n1).2 + (kids (s.dat n2) b2 n2).2 + (kids (s.dat n3) b3 n3).2 < n1 + n2 + n3 := by
  obtain ⟨a1, a2, a3, a4, a5⟩ := kids_single h h1 b1
  obtain ⟨b1', b2', b3', b4', b5'⟩ := kids_single h h2 b2
  obtain ⟨c1, c2, c3, c4, c5⟩ := kids_single h h3 b3
  -- one of the three nodes is branched: both its successors are smaller
  have hlt := one_of_three hb (fun e => a5 e (i1 e)) (fun e => b5' e (i2 e)) (fun e => c5 e (i3 e))
  exact ⟨a1, a2, b1', b2', c1, c2, sum3_lt a3 b3' c3 (hlt.imp And.left (Or.imp And.left And.left)),
    sum3_lt a4 b4' c4 (hlt.imp And.right (Or.imp And.right And.right))⟩

/-- the variable of the node spawned by `Apply3Functor::recDescend` -/
def topVar3 (d1 d2 d3 : Data) : Nat :=
  if br3 d3 d1 d2 = true then varOf d3 else if br3 d2 d1 d3 = true then varOf d2 else varOf d1

/-- the step of `Apply3Functor::recDescend` -/
def step3 (f : Nat → Nat → Nat → Nat) (dat : Nat → Data) (k : Nat × Nat × Nat) : Step (Nat × Nat × Nat) :=
  let d1 := dat k.1
  let d2 := dat k.2.1
  let d3 := dat k.2.2
  let b1 := br3 d1 d2 d3
  let b2 := br3 d2 d1 d3
  let b3 := br3 d3 d1 d2
  if b1 = false ∧ b2 = false ∧ b3 = false then .leaf (f (valOf d1) (valOf d2) (valOf d3))
  else .node ((kids d1 b1 k.1).1, (kids d2 b2 k.2.1).1, (kids d3 b3 k.2.2).1)
    ((kids d1 b1 k.1).2, (kids d2 b2 k.2.1).2, (kids d3 b3 k.2.2).2) (topVar3 d1 d2 d3)

theorem forall_mem_triple {p : Nat → Prop} {a b c : Nat} : (∀ n ∈ [a, b, c], p n) ↔ p a ∧ p b ∧ p c := by
  simp

theorem leafOrLe_diagram {s : Store} {P : List Nat} (h : WInv s P) {n : Nat} (hn : n ∈ s.ids) (x : Nat) :
    M.leafOrLe x (diagram s n) = leOrLeaf x (s.dat n) := by
  cases hd : s.dat n with
  | leaf v => rw [diagram_leaf hd]; rfl
  | int lo hi y => rw [h.diagram_int hn hd]; rfl

theorem branch3_diagram {s : Store} {P : List Nat} (h : WInv s P) {n1 n2 n3 : Nat} (h1 : n1 ∈ s.ids) (h2 : n2 ∈ s.ids)
    (h3 : n3 ∈ s.ids) : M.branch3 (diagram s n1) (diagram s n2) (diagram s n3) = br3 (s.dat n1) (s.dat n2) (s.dat n3) := by
  cases hd : s.dat n1 with
  | leaf v => rw [diagram_leaf hd]; rfl
  | int lo hi y =>
    rw [h.diagram_int h1 hd]
    simp only [M.branch3, br3]
    rw [leafOrLe_diagram h h2, leafOrLe_diagram h h3]

theorem lowIf_diagram {s : Store} {P : List Nat} (h : WInv s P) {n : Nat} (hn : n ∈ s.ids) (b : Bool) :
    M.lowIf b (diagram s n) = diagram s (kids (s.dat n) b n).1 ∧ M.highIf b (diagram s n) = diagram s (kids (s.dat n) b n).2 := by
  cases hd : s.dat n with
  | leaf v => cases b <;> simp only [kids, diagram_leaf hd, M.lowIf, M.highIf] <;> exact ⟨trivial, trivial⟩
  | int lo hi y =>
    cases b
    · simp only [kids, M.lowIf, M.highIf]; exact ⟨trivial, trivial⟩
    · simp only [kids, h.diagram_int hn hd, M.lowIf, M.highIf]; exact ⟨trivial, trivial⟩

theorem varOf_diagram {s : Store} {P : List Nat} (h : WInv s P) {n : Nat} (hn : n ∈ s.ids) :
    M.varOf (diagram s n) = varOf (s.dat n) := by
  cases hd : s.dat n with
  | leaf v => rw [diagram_leaf hd]; rfl
  | int lo hi y => rw [h.diagram_int hn hd]; rfl

theorem leafVal_diagram {s : Store} {P : List Nat} (h : WInv s P) {n : Nat} (hn : n ∈ s.ids)
    (hl : diagram s n = .leaf (M.leafVal (diagram s n))) : M.leafVal (diagram s n) = valOf (s.dat n) := by
  cases hd : s.dat n with
  | leaf v => rw [diagram_leaf hd]; rfl
  | int lo hi y => rw [h.diagram_int hn hd] at hl; cases hl

theorem topVar3_diagram {s : Store} {P : List Nat} (h : WInv s P) {n1 n2 n3 : Nat} (h1 : n1 ∈ s.ids) (h2 : n2 ∈ s.ids)
    (h3 : n3 ∈ s.ids) :
    M.topVar3 (diagram s n1) (diagram s n2) (diagram s n3) = topVar3 (s.dat n1) (s.dat n2) (s.dat n3) := by
  unfold M.topVar3 topVar3
  rw [branch3_diagram h h3 h1 h2, branch3_diagram h h2 h1 h3, varOf_diagram h h1, varOf_diagram h h2, varOf_diagram h h3]

/-- one unfolding of `M.apply3` on the diagrams of three nodes is the step of `recDescend3` -/
theorem apply3_step (f : Nat → Nat → Nat → Nat) {s : Store} {P : List Nat} (h : WInv s P) {n1 n2 n3 : Nat} (h1 : n1 ∈ s.ids)
    (h2 : n2 ∈ s.ids) (h3 : n3 ∈ s.ids) :
    M.apply3 f (diagram s n1) (diagram s n2) (diagram s n3) =
      (step3 f s.dat (n1, n2, n3)).tree (fun k => M.apply3 f (diagram s k.1) (diagram s k.2.1) (diagram s k.2.2)) := by
  have eb1 := branch3_diagram h h1 h2 h3
  have eb2 := branch3_diagram h h2 h1 h3
  have eb3 := branch3_diagram h h3 h1 h2
  rw [M.apply3]
  simp only [step3]
  by_cases hb : br3 (s.dat n1) (s.dat n2) (s.dat n3) = false ∧ br3 (s.dat n2) (s.dat n1) (s.dat n3) = false ∧
      br3 (s.dat n3) (s.dat n1) (s.dat n2) = false
  · have hnb : ¬ (M.branch3 (diagram s n1) (diagram s n2) (diagram s n3) ||
        M.branch3 (diagram s n2) (diagram s n1) (diagram s n3) ||
        M.branch3 (diagram s n3) (diagram s n1) (diagram s n2)) = true := by
      rw [eb1, eb2, eb3, hb.1, hb.2.1, hb.2.2]; decide
    obtain ⟨l1, l2, l3⟩ := M.branch3_none hnb
    rw [if_neg hnb, if_pos hb, leafVal_diagram h h1 l1, leafVal_diagram h h2 l2, leafVal_diagram h h3 l3]
    rfl
  · have hpb : (M.branch3 (diagram s n1) (diagram s n2) (diagram s n3) ||
        M.branch3 (diagram s n2) (diagram s n1) (diagram s n3) ||
        M.branch3 (diagram s n3) (diagram s n1) (diagram s n2)) = true := by
      rw [eb1, eb2, eb3]
      simp only [Bool.or_eq_true, or_assoc]
      exact one_of_three hb id id id
    rw [if_pos hpb, if_neg hb, topVar3_diagram h h1 h2 h3, (lowIf_diagram h h1 _).1, (lowIf_diagram h h2 _).1,
      (lowIf_diagram h h3 _).1, (lowIf_diagram h h1 _).2, (lowIf_diagram h h2 _).2, (lowIf_diagram h h3 _).2, eb1, eb2, eb3]
    rfl

def descend3 (f : Nat → Nat → Nat → Nat) : Descent (Nat × Nat × Nat) where
  run fuel s k := recDescend3 f fuel s k.1 k.2.1 k.2.2
  step := step3 f
  nodes k := [k.1, k.2.1, k.2.2]
  size k := k.1 + k.2.1 + k.2.2
  run_succ fuel s k := by
    simp only [step3]
    rw [apply_ite (Step.exec _ s)]
    rfl
  step_congr h := by
    obtain ⟨e1, e2, e3⟩ := forall_mem_triple.mp h
    simp only [step3, e1, e2, e3]
  step_node {s k lo hi var} h hk hst := by
    obtain ⟨h1, h2, h3⟩ := forall_mem_triple.mp hk
    obtain ⟨hb, rfl, rfl, rfl⟩ := Step.ite_eq_node hst
    obtain ⟨k11, k12, k21, k22, k31, k32, l1, l2⟩ := kids3_ok h h1 h2 h3 _ _ _ br3_true_isInt br3_true_isInt
      br3_true_isInt hb
    exact ⟨forall_mem_triple.mpr ⟨k11, k21, k31⟩, forall_mem_triple.mpr ⟨k12, k22, k32⟩, l1, l2⟩
  tree s k := M.apply3 f (diagram s k.1) (diagram s k.2.1) (diagram s k.2.2)
  tree_ext h e hk := by
    obtain ⟨h1, h2, h3⟩ := forall_mem_triple.mp hk
    simp only [h.diagram_ext e h1, h.diagram_ext e h2, h.diagram_ext e h3]
  tree_step h hk :=
    have ⟨h1, h2, h3⟩ := forall_mem_triple.mp hk
    apply3_step f h h1 h2 h3

theorem apply3_adds (f : Nat → Nat → Nat → Nat) {s : Store} {a b c dst ra rb rc : Nat} (hw : WInv s [])
    (ha : find a s.hs = some ra) (hb : find b s.hs = some rb) (hc : find c s.hs = some rc) (hd : find dst s.hs = none) :
    Adds s (apply3 f s a b c dst) dst (M.apply3 f (diagram s ra) (diagram s rb) (diagram s rc)) ∧
    (NZ s → NZ (apply3 f s a b c dst)) := by
  obtain ⟨b, t⟩ := (descend3 f).built (ra + rb + rc + 1) s (ra, rb, rc) hw
    (forall_mem_triple.mpr ⟨hw.rin ra (root_mem ha), hw.rin rb (root_mem hb), hw.rin rc (root_mem hc)⟩) (Nat.lt_succ_self _)
  simp only [apply3, ha, hb, hc, hd]
  exact ⟨(b.addHandle hd).1, ((b.addHandle hd).2 t).nz⟩

/-! ## Rename -/

theorem built_renameNode (ren : Nat → Nat) : ∀ (fuel : Nat) (s : Store) (n : Nat), WInv s [] → n ∈ s.ids → n < fuel →
    Built s (renameNode ren fuel s n) (M.rename ren (diagram s n)) ∧ Tight s (renameNode ren fuel s n)
  | 0, _, _, _, _, hf => absurd hf (Nat.not_lt_zero _)
  | fuel+1, s, n, h, hn, hf => by
    simp only [renameNode]
    split
    · rename_i v hd
      rw [diagram_leaf hd, M.rename]
      exact built_spawnLeaf h v
    · rename_i lo hi var hd
      obtain ⟨c1, c2, f1, f2⟩ := h.kids_lt hn hd hf
      obtain ⟨b1, t1⟩ := built_renameNode ren fuel s lo h c1 f1
      obtain ⟨b2, t2⟩ := built_renameNode ren fuel _ hi b1.inv (b1.ext.ids _ c2) f2
      rw [h.diagram_ext b1.ext c2] at b2
      rw [h.diagram_int hn hd, M.rename]
      obtain ⟨b3, t3⟩ := b1.node b2 (ren var)
      exact ⟨b3, t3 t1 t2⟩

theorem rename_adds (ren : Nat → Nat) {s : Store} {a dst ra : Nat} (hw : WInv s []) (ha : find a s.hs = some ra)
    (hd : find dst s.hs = none) :
    Adds s (rename ren s a dst) dst (M.rename ren (diagram s ra)) ∧ (NZ s → NZ (rename ren s a dst)) := by
  obtain ⟨b, t⟩ := built_renameNode ren (ra + 1) s ra hw (hw.rin ra (root_mem ha)) (Nat.lt_succ_self _)
  simp only [rename, ha, hd]
  exact ⟨(b.addHandle hd).1, ((b.addHandle hd).2 t).nz⟩

/-! ## Project -/

theorem built_projectNode (f : Nat → Nat → Nat) (pred : Nat → Bool) : ∀ (fuel : Nat) (s : Store) (n : Nat), WInv s [] →
    n ∈ s.ids → n < fuel → Built s (projectNode f pred fuel s n) (M.project pred f (diagram s n))
  | 0, _, _, _, _, hf => absurd hf (Nat.not_lt_zero _)
  | fuel+1, s, n, h, hn, hf => by
    simp only [projectNode]
    split
    · rename_i v hd
      rw [diagram_leaf hd, M.project]
      exact (built_spawnLeaf h v).1
    · rename_i lo hi var hd
      obtain ⟨c1, c2, f1, f2⟩ := h.kids_lt hn hd hf
      have b1 := built_projectNode f pred fuel s lo h c1 f1
      have b2 := built_projectNode f pred fuel _ hi b1.inv (b1.ext.ids _ c2) f2
      rw [h.diagram_ext b1.ext c2] at b2
      rw [h.diagram_int hn hd, M.project]
      split
      · obtain ⟨m1, d1⟩ := b1.keep b2
        have b3 := (built_recDescend f _ _ _ _ b2.inv m1 b2.mem (Nat.lt_succ_self _)).1
        rw [d1, b2.dia] at b3
        -- that the result of the apply is well-formed says nothing about the projected successors: they are well-formed
        -- because the successors are
        refine b1.trans (b2.trans b3 fun w1 _ => ?_) fun w _ => M.project_wf pred f (diagram_wf h w c1)
        have := diagram_wf b1.inv w1 (b1.ext.ids _ c2)
        rw [h.diagram_ext b1.ext c2] at this
        exact M.project_wf pred f this
      · exact (b1.join b2 var).1

theorem project_adds (f : Nat → Nat → Nat) (pred : Nat → Bool) {s : Store} {a dst ra : Nat} (hw : WInv s [])
    (ha : find a s.hs = some ra) (hd : find dst s.hs = none) :
    Adds s (project f pred s a dst) dst (M.project pred f (diagram s ra)) := by
  have b := built_projectNode f pred (ra + 1) s ra hw (hw.rin ra (root_mem ha)) (Nat.lt_succ_self _)
  simp only [project, ha, hd]
  exact (b.addHandle hd).1

/-! ## GetMtbddForPrefix -/

theorem prefixWalk_mem {s : Store} (h : WInv s []) (asgn : List (Option Bool)) (off : Nat) : ∀ (fuel n : Nat),
    n ∈ s.ids → prefixWalk s.dat asgn off fuel n ∈ s.ids
  | 0, _, hn => hn
  | fuel+1, n, hn => by
    simp only [prefixWalk]
    split
    · exact hn
    · rename_i lo hi var hd
      obtain ⟨c1, c2⟩ := h.closed n hn lo hi var hd
      split
      · exact hn
      · split
        · exact prefixWalk_mem h asgn off fuel hi c2
        · exact prefixWalk_mem h asgn off fuel lo c1

theorem prefixWalk_diagram {s : Store} (h : WInv s []) (asgn : List (Option Bool)) (off : Nat) : ∀ (fuel n : Nat),
    n ∈ s.ids → n < fuel → diagram s (prefixWalk s.dat asgn off fuel n) = M.getPrefix asgn off (diagram s n)
  | 0, _, _, hf => absurd hf (Nat.not_lt_zero _)
  | fuel+1, n, hn, hf => by
    simp only [prefixWalk]
    split
    · rename_i v hd
      rw [diagram_leaf hd, M.getPrefix]
    · rename_i lo hi var hd
      obtain ⟨c1, c2, f1, f2⟩ := h.kids_lt hn hd hf
      rw [h.diagram_int hn hd, M.getPrefix]
      split
      · rw [h.diagram_int hn hd]
      · split
        · exact prefixWalk_diagram h asgn off fuel hi c2 f2
        · exact prefixWalk_diagram h asgn off fuel lo c1 f1

theorem getPrefix_adds {s : Store} {a dst ra : Nat} (asgn : List (Option Bool)) (off : Nat) (hw : WInv s [])
    (ha : find a s.hs = some ra) (hd : find dst s.hs = none) :
    Adds s (getPrefix s a dst asgn off) dst (M.getPrefix asgn off (diagram s ra)) ∧ (NZ s → NZ (getPrefix s a dst asgn off)) := by
  have hra := hw.rin ra (root_mem ha)
  have b := Built.refl hw (prefixWalk_mem hw asgn off (ra + 1) ra hra)
  rw [prefixWalk_diagram hw asgn off (ra + 1) ra hra (Nat.lt_succ_self _)] at b
  simp only [getPrefix, ha, hd]
  exact ⟨(b.addHandle hd).1, ((b.addHandle hd).2 (Tight.refl _ _)).nz⟩

/-! ## ExtendWith -/

theorem extendWith_adds {s : Store} {a dst ra : Nat} (asgn : List (Option Bool)) (off d : Nat) (hw : WInv s [])
    (ha : find a s.hs = some ra) (hd : find dst s.hs = none) :
    Adds s (extendWith s a dst asgn off d) dst (M.extendWith asgn off (diagram s ra) d) ∧
    (NZ s → NZ (extendWith s a dst asgn off d)) := by
  have hra : ra ∈ s.ids := hw.rin ra (root_mem ha)
  simp only [extendWith, ha, hd]
  split
  · rename_i hl
    have b := Built.refl hw hra
    rw [show diagram s ra = M.extendWith asgn off (diagram s ra) d by
      rw [diagram_leaf hl]; simp [M.extendWith, M.constructOn]] at b
    exact ⟨(b.addHandle hd).1, ((b.addHandle hd).2 (Tight.refl _ _)).nz⟩
  · rename_i hl
    have hne : diagram s ra ≠ .leaf d := fun e => by
      cases hdr : s.dat ra with
      | leaf v => rw [diagram_leaf hdr] at e; cases e; exact hl hdr
      | int lo hi var => rw [hw.diagram_int hra hdr] at e; cases e
    have eT : M.extendWith asgn off (diagram s ra) d =
        M.constructLoop (fun x => x + off) (.leaf d) asgn 0 (diagram s ra) := by
      simp only [M.extendWith, M.constructOn, hne, if_false]
    rw [eT]
    obtain ⟨b2, t2⟩ := built_spawnLeaf hw d
    have d2 := (spawnLeaf_inv (v := d) hw).2.2.2.1
    simp only [buildCubeT_eq]
    obtain ⟨A, z, _⟩ := cube_adds asgn (0 + off) dst b2.inv (b2.ext.ids _ hra) b2.mem d2
      (by rw [b2.ext.dat _ (hw.fresh _ hra)]; exact hl) (b2.ext.hs ▸ hd)
    rw [hw.diagram_ext b2.ext hra, ← M.constructLoop_shift] at A
    exact ⟨A.after b2.ext fun w => spawnLeaf_wfInv hw w,
      fun hz => zsub_nil_iff.mp (z [] ((t2 [] (zsub_nil_iff.mpr hz)).mono fun _ hx => .tail _ hx))⟩

/-! ## every operation -/

theorem vltB_iff {x : Nat} {d : Data} : vltB x d = true ↔ VLt x d := by
  cases d <;> simp [vltB, VLt]

/-- a skipped operation -/
theorem spec_skip {s : Store} (hi : WInv s []) (t : Nat) (p : Prop) {b : Bool} (hb : b = true) :
    WInv s [] ∧ Frame t s s ∧ (p → NZ s → NZ s) ∧ (WfInv s → (WfInv s ↔ b = true)) :=
  ⟨hi, Frame.refl _ _, fun _ h => h, fun w => iff_of_true w hb⟩

/-- an executed operation that creates a handle for the tree `T`, which is well-formed iff the side condition `b` holds -/
theorem _root_.Vata.RcS.Adds.spec {s s' : Store} {t : Nat} {T : M.Node Nat} {p : Prop} {b : Bool} (a : Adds s s' t T)
    (z : p → NZ s → NZ s') (hb : WfInv s → (M.WF T ↔ b = true)) :
    WInv s' [] ∧ Frame t s s' ∧ (p → NZ s → NZ s') ∧ (WfInv s → (WfInv s' ↔ b = true)) :=
  ⟨a.inv, a.frame, z, fun w => (a.wf_iff w).trans (hb w)⟩

/-- an operation that creates no tree: ordered and reduced is kept without a side condition -/
theorem _root_.Vata.RcS.OpOk.spec {s s' : Store} {t : Nat} {p : Prop} (o : OpOk t s s' ∧ (WfInv s → WfInv s')) :
    WInv s' [] ∧ Frame t s s' ∧ (p → NZ s → NZ s') ∧ (WfInv s → (WfInv s' ↔ true = true)) :=
  ⟨o.1.inv, o.1.frame, fun _ => o.1.nz, fun w => iff_of_true (o.2 w) rfl⟩

/-- one operation of a history: the invariant, the frame, no new garbage unless it is a `project`, and the store stays
    ordered and reduced exactly when the side condition `opOkW` holds: for an executed `rename` the assertions of
    `renameNode`, for an executed `extendWith` that the first node stacked on the root carries a variable above the root
    variable (every other operation: no condition) -/
theorem stepS_spec (F : Fns) (dv : Nat → Nat) {s : Store} (op : Op) (hi : WInv s []) :
    WInv (stepS F dv s op) [] ∧ Frame op.target s (stepS F dv s op) ∧
    (op.isProject = false → NZ s → NZ (stepS F dv s op)) ∧
    (WfInv s → (WfInv (stepS F dv s op) ↔ opOkW s op = true)) := by
  cases op with
  | construct h asgn v d => exact OpOk.spec (construct_ok hi)
  | copy src dst => exact OpOk.spec ⟨copy_ok hi, copy_wfInv⟩
  | assign src dst => exact OpOk.spec ⟨assign_ok hi, assign_wfInv⟩
  | destroy h => exact OpOk.spec ⟨(destroy_ok hi).1, destroy_wfInv⟩
  | apply a b dst => exact OpOk.spec (apply2_ok F.f2 hi)
  | apply1 a dst =>
    simp only [stepS, apply1]
    split
    · rename_i ra ha hd
      have ⟨A, z⟩ := apply1_adds F.f1 hi ha hd
      simp only [apply1, ha, hd] at A z
      exact A.spec (fun _ => z) fun w => iff_of_true (M.apply1_wf _ (diagram_wf hi w (hi.rin ra (root_mem ha)))) rfl
    · exact spec_skip hi _ _ rfl
  | apply3 a b c dst =>
    simp only [stepS, apply3]
    split
    · rename_i ra rb rc ha hb hc hd
      have ⟨A, z⟩ := apply3_adds F.f3 hi ha hb hc hd
      simp only [apply3, ha, hb, hc, hd] at A z
      exact A.spec (fun _ => z) fun w => iff_of_true (M.apply3_wf _ _ _ _ (diagram_wf hi w (hi.rin ra (root_mem ha)))
        (diagram_wf hi w (hi.rin rb (root_mem hb))) (diagram_wf hi w (hi.rin rc (root_mem hc)))) rfl
    · exact spec_skip hi _ _ rfl
  | project a dst vars =>
    simp only [stepS, project]
    split
    · rename_i ra ha hd
      have A := project_adds F.f2 (predOf vars) hi ha hd
      simp only [project, ha, hd] at A
      exact A.spec (fun h => nomatch h) fun w => iff_of_true (M.project_wf _ _ (diagram_wf hi w (hi.rin ra (root_mem ha)))) rfl
    · exact spec_skip hi _ _ rfl
  | getPrefix a dst asgn off =>
    simp only [stepS, getPrefix]
    split
    · rename_i ra ha hd
      have ⟨A, z⟩ := getPrefix_adds asgn off hi ha hd
      simp only [getPrefix, ha, hd] at A z
      exact A.spec (fun _ => z) fun w =>
        iff_of_true (M.getPrefix_wf asgn off (diagram_wf hi w (hi.rin ra (root_mem ha)))).1 rfl
    · exact spec_skip hi _ _ rfl
  | rename a dst tab =>
    cases ha : find a s.hs with
    | none => simp only [stepS, rename, ha]; exact spec_skip hi _ _ (by simp only [opOkW, ha])
    | some ra =>
    cases hd : find dst s.hs with
    | some _ => simp only [stepS, rename, ha, hd]; exact spec_skip hi _ _ (by simp only [opOkW, ha, hd])
    | none =>
      have ⟨A, z⟩ := rename_adds (renOf tab) hi ha hd
      simp only [opOkW, ha, hd]
      exact A.spec (fun _ => z) fun _ => (renOkT_iff_wf _ _).symm
  | extendWith a dst asgn off =>
    cases ha : find a s.hs with
    | none => simp only [stepS, extendWith, ha]; exact spec_skip hi _ _ (by simp only [opOkW, ha])
    | some ra =>
    cases hd : find dst s.hs with
    | some _ => simp only [stepS, extendWith, ha, hd]; exact spec_skip hi _ _ (by simp only [opOkW, ha, hd])
    | none =>
      have hra := hi.rin ra (root_mem ha)
      have ⟨A, z⟩ := extendWith_adds asgn off (dv a) hi ha hd
      simp only [opOkW, ha, hd]
      refine A.spec (fun _ => z) fun w => ?_
      rw [extendWith_wf_iff asgn off (dv a) (diagram_wf hi w hra)]
      cases firstSet asgn with
      | none => exact iff_of_true (fun _ h => nomatch h) rfl
      | some k =>
        exact ⟨fun h => vltB_iff.mpr ((hi.varLt_diagram_iff hra).mp (h k rfl)),
          fun h k' e => by cases e; exact (hi.varLt_diagram_iff hra).mpr (vltB_iff.mp h)⟩

theorem stepS_winv (F : Fns) (dv : Nat → Nat) {s : Store} (op : Op) (hi : WInv s []) :
    WInv (stepS F dv s op) [] ∧ Frame op.target s (stepS F dv s op) ∧
    (op.isProject = false → NZ s → NZ (stepS F dv s op)) :=
  have h := stepS_spec F dv op hi
  ⟨h.1, h.2.1, h.2.2.1⟩

/-- for an executed `rename` / `extendWith` in a store satisfying both invariants `opOkW` is exact; the other operations
    always preserve the second invariant -/
theorem stepS_wfInv_iff (F : Fns) (dv : Nat → Nat) {s : Store} (op : Op) (hi : WInv s []) (w : WfInv s) :
    WfInv (stepS F dv s op) ↔ opOkW s op = true :=
  (stepS_spec F dv op hi).2.2.2 w

theorem stepS_wfInv (F : Fns) (dv : Nat → Nat) {s : Store} (op : Op) (hi : WInv s []) (w : WfInv s)
    (ok : opOkW s op = true) : WfInv (stepS F dv s op) :=
  (stepS_wfInv_iff F dv op hi w).mpr ok

end Vata.RcSX
