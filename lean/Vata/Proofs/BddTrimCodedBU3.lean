import Vata.Proofs.BddTrimCodedBU2
/-!
C08: the bottom-up `RemoveUselessStates` as coded: the graph built by the functor.

Invariants of `graph` and `nodes` during the first loop of `buUselessSt`: every reachable state has exactly one node,
every edge `node(p) → node(k)` comes from a processed tuple (`k` in the tuple, `p` in a leaf of its MTBDD, all states of
the tuple reachable), and every processed tuple has all its edges (`gLoop_final`).  The `assert(false)` of
`nodes_.FindBwd(tupState)` is unreachable: the states of a processed tuple are reachable, hence have nodes.
-/
namespace Vata
namespace BddTrimCoded
open M BddAbs BddAbsTD

variable {T : Table} {F : List Nat} {S : TA} {E : Nat → Nat → Prop}

theorem size_addEdges (d : List (Nat × Nat)) (node : Nat) (tup : List Nat) (G : Graph) :
    (addEdges d node tup G).size = G.size :=
  List.foldlRecOn (motive := fun G' : Graph => G'.size = G.size) tup _ rfl fun G' h t _ => by
    cases findBwd d t <;> exact h

theorem mem_egr_addEdges (d : List (Nat × Nat)) (node : Nat) (n m : Nat) (tup : List Nat) (G : Graph) :
    m ∈ (addEdges d node tup G).egr n ↔ m ∈ G.egr n ∨ (n = node ∧ ∃ t, t ∈ tup ∧ findBwd d t = some m) := by
  unfold addEdges
  induction tup generalizing G with
  | nil => simp
  | cons t tup ih =>
    rw [List.foldl_cons, ih]
    cases hf : findBwd d t with
    | none => simp [hf]
    | some m' =>
      simp only [mem_egr_addEdge, List.mem_cons, exists_eq_or_imp, hf, Option.some.injEq]
      constructor
      · rintro ((h | ⟨h1, h2⟩) | h)
        · exact Or.inl h
        · exact Or.inr ⟨h1, Or.inl h2.symm⟩
        · exact Or.inr ⟨h.1, Or.inr h.2⟩
      · rintro (h | ⟨h1, h2 | h2⟩)
        · exact Or.inl (Or.inl h)
        · exact Or.inl (Or.inr ⟨h1, h2.symm⟩)
        · exact Or.inr ⟨h1, h2⟩

def Conn (G : Graph) (d : List (Nat × Nat)) (p k : Nat) : Prop := ∃ n m, (n, p) ∈ d ∧ (m, k) ∈ d ∧ m ∈ G.egr n

structure GInv (E : Nat → Nat → Prop) (r : List Nat) (G : Graph) (d : List (Nat × Nat)) : Prop where
  dict : DictOk G.size d
  funS : ∀ n n' q, (n, q) ∈ d → (n', q) ∈ d → n = n'
  dom : ∀ q, q ∈ r ↔ ∃ n, (n, q) ∈ d
  sound : ∀ n m, m ∈ G.egr n → ∃ p k, (n, p) ∈ d ∧ (m, k) ∈ d ∧ E p k

def ExtG (r : List Nat) (G : Graph) (d : List (Nat × Nat)) (r' : List Nat) (G' : Graph) (d' : List (Nat × Nat)) : Prop :=
  (∀ x, x ∈ r → x ∈ r') ∧ (∀ x, x ∈ d → x ∈ d') ∧ (∀ n m, m ∈ G.egr n → m ∈ G'.egr n)

theorem ExtG.trans {r r' r'' : List Nat} {G G' G'' : Graph} {d d' d'' : List (Nat × Nat)} (h : ExtG r G d r' G' d')
    (h' : ExtG r' G' d' r'' G'' d'') : ExtG r G d r'' G'' d'' :=
  ⟨fun x hx => h'.1 x (h.1 x hx), fun x hx => h'.2.1 x (h.2.1 x hx), fun n m hm => h'.2.2 n m (h.2.2 n m hm)⟩

theorem Conn.mono {r r' : List Nat} {G G' : Graph} {d d' : List (Nat × Nat)} (h : ExtG r G d r' G' d') {p k : Nat}
    (hc : Conn G d p k) : Conn G' d' p k := by
  obtain ⟨n, m, h1, h2, h3⟩ := hc
  exact ⟨n, m, h.2.1 _ h1, h.2.1 _ h2, h.2.2 _ _ h3⟩

theorem collectStepG_node (tup : List Nat) {fs : FSt} (hI : GInv E fs.reach fs.graph fs.nodes)
    (q : Nat) :
    ∃ (G1 : Graph) (d' : List (Nat × Nat)) (node : Nat),
      (collectStepG tup fs q).graph = addEdges d' node tup G1 ∧ (collectStepG tup fs q).nodes = d' ∧
      G1.egr = fs.graph.egr ∧ (∀ x, x ∈ fs.nodes → x ∈ d') ∧ (node, q) ∈ d' ∧ DictOk G1.size d' ∧
      (∀ n n' q', (n, q') ∈ d' → (n', q') ∈ d' → n = n') ∧ (∀ x, (x ∈ fs.reach ∨ x = q) ↔ ∃ n, (n, x) ∈ d') := by
  obtain ⟨r, ws, G, d⟩ := fs
  unfold collectStepG
  cases hf : findBwd d q with
  | some n =>
    refine ⟨G, d, n, rfl, rfl, rfl, fun _ => id, findBwd_some hf, hI.dict, hI.funS, fun x => ?_⟩
    rw [hI.dom]
    exact ⟨fun h => h.elim id (fun e => e ▸ ⟨n, findBwd_some hf⟩), Or.inl⟩
  | none =>
    refine ⟨_, _, _, rfl, rfl, rfl, fun x hx => List.mem_append_left _ hx, mem_push.mpr (Or.inr rfl), hI.dict.push q,
      inj_push hI.funS (findBwd_none hf), fun x => ?_⟩
    rw [hI.dom]
    refine ⟨fun h => h.elim (fun ⟨n, h⟩ => ⟨n, mem_push.mpr (Or.inl h)⟩) (fun e => ⟨_, mem_push.mpr (Or.inr (congrArg _ e))⟩),
      fun ⟨n, h⟩ => (mem_push.mp h).elim (fun h => Or.inl ⟨n, h⟩) (fun h => Or.inr ?_)⟩
    cases h; rfl

theorem collectStepG_spec (tup : List Nat) (fs : FSt) (q : Nat)
    (hI : GInv E fs.reach fs.graph fs.nodes) (ht : ∀ k, k ∈ tup → k ∈ fs.reach) (hE : ∀ k, k ∈ tup → E q k) :
    let fs' := collectStepG tup fs q
    GInv E fs'.reach fs'.graph fs'.nodes ∧ ExtG fs.reach fs.graph fs.nodes fs'.reach fs'.graph fs'.nodes ∧
    (∀ k, k ∈ tup → Conn fs'.graph fs'.nodes q k) := by
  dsimp only
  have a1 : ∀ x, x ∈ (collectStep (fs.reach, fs.ws) q).1 ↔ x ∈ fs.reach ∨ x = q := fun x =>
    ((ext_collectStep (fs.reach, fs.ws) q).marked x).trans (or_congr_right List.mem_singleton)
  obtain ⟨G1, d', node, e1, e2, e3, k1, k2, k3, k5, k6⟩ := collectStepG_node tup hI q
  rw [e1, e2]
  refine ⟨⟨size_addEdges d' node tup G1 ▸ k3, k5, fun x => (a1 x).trans (k6 x), fun n m hm => ?_⟩,
    ⟨fun x hx => (a1 x).mpr (Or.inl hx), k1, fun n m hm => (mem_egr_addEdges ..).mpr (Or.inl (e3 ▸ hm))⟩, fun k hk => ?_⟩
  · rcases (mem_egr_addEdges ..).mp hm with hm | ⟨rfl, t, ht', hf⟩
    · obtain ⟨p, k, h1, h2, h3⟩ := hI.sound n m (e3 ▸ hm)
      exact ⟨p, k, k1 _ h1, k1 _ h2, h3⟩
    · exact ⟨q, t, k2, findBwd_some hf, hE t ht'⟩
  · obtain ⟨m, hm⟩ := (k6 k).mp (Or.inl (ht k hk))
    cases hf : findBwd d' k with
    | none => exact absurd hm (findBwd_none hf m)
    | some m' => exact ⟨node, m', k2, findBwd_some hf, (mem_egr_addEdges ..).mpr (Or.inr ⟨rfl, k, hk, hf⟩)⟩

theorem collectG_fold_spec (tup : List Nat) (L : List Nat) {fs : FSt}
    (hI : GInv E fs.reach fs.graph fs.nodes) (ht : ∀ k, k ∈ tup → k ∈ fs.reach) (hE : ∀ q, q ∈ L → ∀ k, k ∈ tup → E q k) :
    let fs' := L.foldl (collectStepG tup) fs
    GInv E fs'.reach fs'.graph fs'.nodes ∧ ExtG fs.reach fs.graph fs.nodes fs'.reach fs'.graph fs'.nodes ∧
    (∀ q, q ∈ L → ∀ k, k ∈ tup → Conn fs'.graph fs'.nodes q k) := by
  induction L generalizing fs with
  | nil => exact ⟨hI, ⟨fun _ => id, fun _ => id, fun _ _ => id⟩, fun _ h => nomatch h⟩
  | cons q L ih =>
    obtain ⟨s1, s2, s3⟩ := collectStepG_spec tup fs q hI ht (hE q List.mem_cons_self)
    obtain ⟨i1, i2, i3⟩ := ih s1 (fun k hk => s2.1 k (ht k hk)) (fun q' hq' => hE q' (List.mem_cons_of_mem _ hq'))
    refine ⟨i1, s2.trans i2, fun q' hq' k hk => ?_⟩
    rcases List.mem_cons.mp hq' with rfl | hq'
    · exact (s3 k hk).mono i2
    · exact i3 q' hq' k hk

def ConnAll (G : Graph) (d : List (Nat × Nat)) (e : List Nat × MT) : Prop :=
  ∀ p, p ∈ leafParents e.2 → ∀ k, k ∈ e.1 → Conn G d p k

theorem ConnAll.mono {r r' : List Nat} {G G' : Graph} {d d' : List (Nat × Nat)} (h : ExtG r G d r' G' d')
    {e : List Nat × MT} (hc : ConnAll G d e) : ConnAll G' d' e :=
  fun p hp k hk => (hc p hp k hk).mono h

structure GLoopInv (T : Table) (F : List Nat) (g : BuGSt) : Prop where
  ginv : GInv (tdE (restrict (skelBU T F) (prodStates (skelBU T F)))) g.reach g.graph g.nodes
  rsound : ∀ x, x ∈ g.reach → x ∈ prodStates (skelBU T F)

theorem collectG_spec (tup : List Nat) (m : MT) {fs : FSt}
    (hI : GInv (tdE (restrict S (prodStates S))) fs.reach fs.graph fs.nodes) (hr : ∀ x, x ∈ fs.reach → x ∈ prodStates S)
    (ht : ∀ k, k ∈ tup → k ∈ fs.reach) (hrule : ∀ p, p ∈ leafParents m → (⟨0, tup, p⟩ : Rule) ∈ S.rules) :
    let fs' := collectG tup fs m
    (GInv (tdE (restrict S (prodStates S))) fs'.reach fs'.graph fs'.nodes ∧ ∀ x, x ∈ fs'.reach → x ∈ prodStates S) ∧
    ExtG fs.reach fs.graph fs.nodes fs'.reach fs'.graph fs'.nodes ∧
    ∀ p, p ∈ leafParents m → ∀ k, k ∈ tup → Conn fs'.graph fs'.nodes p k := by
  have hkP : ∀ k, k ∈ tup → k ∈ prodStates S := fun k hk => hr k (ht k hk)
  have hP : ∀ p, p ∈ leafParents m → p ∈ prodStates S := fun p hp => prodStates_closed _ _ (hrule p hp) hkP
  obtain ⟨i1, i2, i3⟩ := collectG_fold_spec tup (leafParents m) hI ht fun p hp k hk =>
    ⟨⟨0, tup, p⟩, mem_rules_restrict.mpr ⟨hrule p hp, hP p hp, hkP⟩, rfl, hk⟩
  refine ⟨⟨i1, fun x hx => ?_⟩, i2, i3⟩
  have hx' : x ∈ (collect (fs.reach, fs.ws) m).1 := congrArg Prod.fst (collectG_reach tup fs m) ▸ hx
  exact ((ext_collect (fs.reach, fs.ws) m).marked x |>.mp hx').elim (hr x) (hP x)

theorem scanStepG_spec (hT : TableOk T) (F : List Nat) (s : Nat) (g : BuGSt) {e : List Nat × MT}
    (he : e ∈ T.entries) (hI : GLoopInv T F g) :
    let g' := scanStepG s g e
    GLoopInv T F g' ∧ ExtG g.reach g.graph g.nodes g'.reach g'.graph g'.nodes ∧
    (∀ e', e' ∈ g.tuples → e' ∈ g'.tuples) ∧ (e ∈ g'.tuples ∨ ConnAll g'.graph g'.nodes e) := by
  unfold scanStepG
  split
  · next hc =>
    simp only [Bool.and_eq_true, List.contains_iff_mem, List.all_eq_true] at hc
    obtain ⟨⟨i1, i0⟩, i2, i3⟩ := collectG_spec e.1 e.2 (fs := ⟨g.reach, g.ws, g.graph, g.nodes⟩) hI.ginv hI.rsound hc.2
      fun p hp => skel_rule_entry hT he hp
    exact ⟨⟨i1, i0⟩, i2, fun _ => id, Or.inr i3⟩
  · exact ⟨⟨hI.ginv, hI.rsound⟩, ⟨fun _ => id, fun _ => id, fun _ _ => id⟩,
      fun e' he' => List.mem_append.mpr (Or.inl he'), Or.inl (List.mem_append.mpr (Or.inr List.mem_cons_self))⟩

theorem scanG_fold_spec (hT : TableOk T) (F : List Nat) (s : Nat) (l : List (List Nat × MT)) {g : BuGSt}
    (hl : ∀ e, e ∈ l → e ∈ T.entries) (hI : GLoopInv T F g) :
    let g' := l.foldl (scanStepG s) g
    GLoopInv T F g' ∧ ExtG g.reach g.graph g.nodes g'.reach g'.graph g'.nodes ∧
    (∀ e', e' ∈ g.tuples → e' ∈ g'.tuples) ∧ (∀ e, e ∈ l → e ∈ g'.tuples ∨ ConnAll g'.graph g'.nodes e) := by
  induction l generalizing g with
  | nil => exact ⟨hI, ⟨fun _ => id, fun _ => id, fun _ _ => id⟩, fun _ => id, fun _ h => nomatch h⟩
  | cons e l ih =>
    obtain ⟨s1, s2, s3, s4⟩ := scanStepG_spec hT F s g (hl e List.mem_cons_self) hI
    obtain ⟨i1, i2, i3, i4⟩ := ih (fun e' he' => hl e' (List.mem_cons_of_mem _ he')) s1
    refine ⟨i1, s2.trans i2, fun e' he' => i3 e' (s3 e' he'), fun e' he' => ?_⟩
    rcases List.mem_cons.mp he' with rfl | he'
    · exact s4.imp (i3 _) (ConnAll.mono i2)
    · exact i4 e' he'

structure GMainInv (T : Table) (F : List Nat) (g : BuGSt) : Prop where
  li : GLoopInv T F g
  tup_sub : ∀ e, e ∈ g.tuples → e ∈ T.entries
  cover : ∀ e, e ∈ T.entries → e ∈ g.tuples ∨ ConnAll g.graph g.nodes e

theorem gInv_empty (E : Nat → Nat → Prop) : GInv E [] Graph.empty [] where
  dict := ⟨fun _ _ h => (nomatch h), fun _ _ _ h => (nomatch h)⟩
  funS _ _ _ h := nomatch h
  dom q := by simp
  sound _ _ h := nomatch h

theorem gMainInv_init (hT : TableOk T) (F : List Nat) : GMainInv T F (buGInit T) := by
  obtain ⟨⟨i1, i0⟩, _, _⟩ := collectG_spec (S := skelBU T F) [] T.nullary (fs := ⟨[], [], Graph.empty, []⟩) (gInv_empty _)
    (fun _ h => nomatch h) (fun _ h => nomatch h) fun p hp => skel_rule_nullary hp
  have hf := mem_tuples_init hT
  exact ⟨⟨i1, i0⟩, fun e he => (hf e).mp he, fun e he => Or.inl ((hf e).mpr he)⟩

theorem buGLoop_inv (hT : TableOk T) {fuel : Nat} {g g' : BuGSt} (h : GMainInv T F g)
    (e : buGLoop fuel g = some g') : GMainInv T F g' := by
  induction fuel generalizing g with
  | zero =>
    obtain ⟨r, _ | ⟨s, ws⟩, tu, G, d⟩ := g
    · cases e; exact h
    · cases e
  | succ fuel ih =>
    obtain ⟨r, _ | ⟨s, ws⟩, tu, G, d⟩ := g
    · cases e; exact h
    · obtain ⟨i1, i2, _, i4⟩ := scanG_fold_spec hT F s tu (g := ⟨r, ws, [], G, d⟩) h.tup_sub ⟨h.li.ginv, h.li.rsound⟩
      refine ih ⟨i1, fun e' he' => ?_, fun e' he' => ?_⟩ e
      · have hs := scanG_fold_sim s tu (g := ⟨r, ws, [], G, d⟩) (b := ⟨r, ws, [], Table.empty⟩) ⟨rfl, rfl, rfl⟩
        exact (mem_scanFold_tuples s tu ⟨r, ws, [], Table.empty⟩ (hs.2.2 ▸ he')).elim (fun h' => nomatch h') (h.tup_sub e')
      · exact (h.cover e' he').elim (i4 e') fun h' => Or.inr (h'.mono i2)

theorem gLoop_final (hT : TableOk T) (F : List Nat) {fuel : Nat} {g : BuGSt}
    (h : buGLoop fuel (buGInit T) = some g) :
    GInv (tdE (restrict (skelBU T F) (prodStates (skelBU T F)))) g.reach g.graph g.nodes ∧
    ∀ p k, tdE (restrict (skelBU T F) (prodStates (skelBU T F))) p k → Conn g.graph g.nodes p k := by
  have hI := buGLoop_inv hT (gMainInv_init hT F) h
  obtain ⟨hr, _, hrem⟩ := buGLoop_reach hT F h
  refine ⟨hI.li.ginv, ?_⟩
  rintro p k ⟨r, hr', rfl, hk⟩
  obtain ⟨h1, _, h3⟩ := mem_rules_restrict.mp hr'
  rcases skel_rule_inv h1 with ⟨e, _⟩ | ⟨m, hm, k2⟩
  · rw [e] at hk; cases hk
  rcases hI.cover _ hm with h' | h'
  · obtain ⟨q, hq, hn⟩ := hrem _ h'
    exact absurd ((hr q).mpr (h3 q hq)) hn
  · exact h' _ k2 k hk

end BddTrimCoded
end Vata
