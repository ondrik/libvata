import Vata.Proofs.NfaOpsCodedBase
import Vata.Proofs.AssocList
/-!
# `Intersection` as coded: the translation map (`tmFind`, `TmWF`: number = position), what numbering pairs and pushing them
does to map and stack (`TmSeg`, for the start loops too), the inner loops of a turn flattened (`isectBody_fixed`) and what a
segment of them does to the state (`IsectStep`)
-/
namespace Vata.NfaC
open Vata.W


def tmKeys (tm : TranslMap) : List (Nat × Nat) := tm.map (·.1)

/-- the numbers are the positions: what `insert (…, size ())` guarantees -/
def TmWF (tm : TranslMap) : Prop := tm = (tmKeys tm).zipIdx

theorem tmFind_zipIdx (p : Nat × Nat) : ∀ (K : List (Nat × Nat)) (n : Nat),
    ((K.zipIdx n).find? (fun e => e.1 == p)).map (·.2) = if p ∈ K then some (n + K.idxOf p) else none := by
  intro K
  induction K with
  | nil => intro n; simp
  | cons q K ih =>
    intro n
    rw [List.zipIdx_cons, List.find?_cons]
    by_cases h : q = p
    · subst h; simp
    · have h' : (q == p) = false := by simpa using h
      have h'' : ¬ p = q := fun e => h e.symm
      simp only [h', List.mem_cons, h'', false_or, List.idxOf_cons]
      rw [ih (n + 1)]
      split
      · congr 1; simp only [cond_false]; omega
      · rfl

theorem tmFind_wf {tm : TranslMap} (h : TmWF tm) (p : Nat × Nat) :
    tmFind tm p = if p ∈ tmKeys tm then some ((tmKeys tm).idxOf p) else none := by
  have := tmFind_zipIdx p (tmKeys tm) 0
  rw [← h] at this
  simpa [tmFind] using this

/-- the translation map is read by `List.lookup` -/
theorem tmFind_eq (tm : TranslMap) (p : Nat × Nat) : tmFind tm p = tm.lookup p := find?_key_eq_lookup tm p

theorem tmFind_mem_keys {tm : TranslMap} {p : Nat × Nat} {n : Nat} (h : tmFind tm p = some n) : p ∈ tmKeys tm :=
  List.mem_map.mpr ⟨_, mem_of_lookup (tmFind_eq tm p ▸ h), rfl⟩

theorem tmFind_none_iff {tm : TranslMap} {p : Nat × Nat} : tmFind tm p = none ↔ p ∉ tmKeys tm :=
  tmFind_eq tm p ▸ lookup_eq_none_iff_keys

theorem tmFind_append_of_some {tm ext : TranslMap} {p : Nat × Nat} {n : Nat} (h : tmFind tm p = some n) :
    tmFind (tm ++ ext) p = some n := by
  rw [tmFind_eq] at h ⊢; rw [List.lookup_append, h]; rfl

theorem tmFind_append_new {tm : TranslMap} {p : Nat × Nat} {k : Nat} (h : tmFind tm p = none) :
    tmFind (tm ++ [(p, k)]) p = some k := by
  rw [tmFind_eq] at h ⊢; exact lookup_snoc_self h k

theorem tmFind_append_other {tm : TranslMap} {p q : Nat × Nat} {k : Nat} (h : q ≠ p) :
    tmFind (tm ++ [(p, k)]) q = tmFind tm q := by
  rw [tmFind_eq, tmFind_eq, lookup_snoc, if_neg h, Option.or_none]

theorem TmWF.append {tm : TranslMap} (h : TmWF tm) (p : Nat × Nat) : TmWF (tm ++ [(p, tm.length)]) := by
  unfold TmWF at h ⊢
  simp only [tmKeys, List.map_append, List.map_cons, List.map_nil, List.zipIdx_append, List.zipIdx_cons,
    List.zipIdx_nil, List.length_map, Nat.zero_add]
  congr 1

theorem tmFind_inj {tm : TranslMap} (h : TmWF tm) {p q : Nat × Nat} {n : Nat} (hp : tmFind tm p = some n)
    (hq : tmFind tm q = some n) : p = q := by
  have kp := tmFind_mem_keys hp
  have kq := tmFind_mem_keys hq
  rw [tmFind_wf h, if_pos kp] at hp
  rw [tmFind_wf h, if_pos kq] at hq
  exact idxOf_inj kp ((Option.some.inj hp).trans (Option.some.inj hq).symm)

/-- `insert`: afterwards `p` has the number returned, and nothing else has changed -/
theorem tmInsert_spec (tm : TranslMap) (p : Nat × Nat) :
    tmFind (tmInsert tm p).1 p = some (tmInsert tm p).2.1 ∧
    (∀ q k, tmFind tm q = some k → tmFind (tmInsert tm p).1 q = some k) ∧
    (TmWF tm → TmWF (tmInsert tm p).1) ∧
    (∀ q, q ≠ p → tmFind (tmInsert tm p).1 q = tmFind tm q) := by
  unfold tmInsert
  cases hf : tmFind tm p with
  | some k => exact ⟨hf, fun _ _ h => h, fun h => h, fun _ _ => rfl⟩
  | none =>
    exact ⟨tmFind_append_new hf, fun _ _ h => tmFind_append_of_some h, fun h => h.append _,
      fun _ h => tmFind_append_other h⟩


/-- joint transitions whose target pair has no number yet -/
def isectUnseen (A B : NFA) (tm : TranslMap) : Nat := unseen ((nfaJointAll A B).map (·.2.2)) (tmKeys tm)


/-- the inner loops of one turn, flattened: `(symbol, target pair)` in the order of the three nested `for`s -/
def isectFlat (o : NfaOrd) (A B : NFA) (l r : Nat) : List (Nat × (Nat × Nat)) :=
  (isectSymList o A B l r).flatMap (fun c => c.2.map (fun q => (c.1, q)))

theorem isectSymList_nil_left {o : NfaOrd} {A B : NFA} {l r : Nat} (h : (nfaClusterOf o A l).isEmpty = true) :
    isectSymList o A B l r = [] := by
  rw [List.isEmpty_iff] at h
  simp [isectSymList, h]

theorem isectSymList_nil_right {o : NfaOrd} {A B : NFA} {l r : Nat} (h : (nfaClusterOf o B r).isEmpty = true) :
    isectSymList o A B l r = [] := by
  rw [List.isEmpty_iff] at h
  simp [isectSymList, h]

theorem mem_isectFlat {o : NfaOrd} (ho : o.Ok) {A B : NFA} {l r : Nat} {x : Nat × (Nat × Nat)} :
    x ∈ isectFlat o A B l r ↔ x ∈ nfaJoint A B (l, r) := by
  rw [mem_nfaJoint]
  simp only [isectFlat, isectSymList, List.mem_flatMap, List.mem_filterMap, List.mem_map]
  constructor
  · rintro ⟨c, ⟨cl, hcl, hm⟩, q, hq, rfl⟩
    split at hm
    · cases hm
    · rename_i d hd
      cases hm
      simp only [List.mem_flatMap, List.mem_map] at hq
      obtain ⟨x1, hx1, y, hy, rfl⟩ := hq
      have hd1 := List.find?_some hd
      simp only [beq_iff_eq] at hd1
      refine ⟨(mem_nfaClusterOf ho).mp ⟨cl, hcl, rfl, hx1⟩, ?_⟩
      exact (mem_nfaClusterOf ho).mp ⟨d, List.mem_of_find?_eq_some hd, hd1, hy⟩
  · rintro ⟨h1, h2⟩
    obtain ⟨cl, hcl, ha, hx1⟩ := (mem_nfaClusterOf ho).mpr h1
    obtain ⟨d, hd, hda, hy⟩ := (mem_nfaClusterOf ho).mpr h2
    have hf := nfaClusterOf_find hd
    rw [hda, ← ha] at hf
    refine ⟨(cl.1, cl.2.flatMap (fun x => d.2.map (fun y => (x, y)))), ⟨cl, hcl, by rw [hf]⟩, x.2, ?_, ?_⟩
    · simp only [List.mem_flatMap, List.mem_map]
      exact ⟨x.2.1, hx1, x.2.2, hy, rfl⟩
    · simp only [ha]

theorem foldl_nested_flat {σ : Type} (f : Nat → σ → (Nat × Nat) → σ) :
    ∀ (L : List (Nat × List (Nat × Nat))) (s : σ),
      L.foldl (fun st c => c.2.foldl (f c.1) st) s
        = (L.flatMap (fun c => c.2.map (fun q => (c.1, q)))).foldl (fun st x => f x.1 st x.2) s := by
  intro L
  induction L with
  | nil => exact fun _ => rfl
  | cons c L ih =>
    intro s
    simp only [List.foldl_cons, List.flatMap_cons, List.foldl_append, List.foldl_map]
    exact ih _

/-- one turn of the loop of the CURRENT code: final marking, then the flattened inner loops -/
theorem isectBody_fixed (o : NfaOrd) (A B : NFAS) (act : (Nat × Nat) × Nat) (st : IsectSt) :
    isectBody o .fixed A B act st =
      (isectFlat o A.toNFA B.toNFA act.1.1 act.1.2).foldl (fun st x => isectIns act.2 x.1 st x.2)
        (if A.final.contains act.1.1 && B.final.contains act.1.2 then ⟨st.tm, st.stack, nfasSetFinal st.res act.2⟩
          else st) := by
  unfold isectBody
  simp only []
  by_cases h1 : (nfaClusterOf o A.toNFA act.1.1).isEmpty = true
  · rw [if_pos h1, isectFlat, isectSymList_nil_left h1]; rfl
  · rw [if_neg h1]
    by_cases h2 : (nfaClusterOf o B.toNFA act.1.2).isEmpty = true
    · rw [if_pos h2, isectFlat, isectSymList_nil_right h2]; rfl
    · rw [if_neg h2]
      exact foldl_nested_flat (fun a st q => isectIns act.2 a st q) _ _

/-- what numbering the pairs `qs` and pushing them does to the translation map and the stack: the common part of the
start loops and the inner loops -/
structure TmSeg (qs : List (Nat × Nat)) (st st' : IsectSt) : Prop where
  mono : ∀ q k, tmFind st.tm q = some k → tmFind st'.tm q = some k
  wf : TmWF st.tm → TmWF st'.tm
  stk : (∀ e, e ∈ st.stack → tmFind st.tm e.1 = some e.2) → ∀ e, e ∈ st'.stack → tmFind st'.tm e.1 = some e.2
  sub : ∀ e, e ∈ st.stack → e ∈ st'.stack
  new : ∀ q k, tmFind st'.tm q = some k → tmFind st.tm q = some k ∨ ((q, k) ∈ st'.stack ∧ q ∈ qs)

theorem TmSeg.refl (st : IsectSt) : TmSeg [] st st :=
  ⟨fun _ _ h => h, fun h => h, fun h => h, fun _ h => h, fun _ _ h => Or.inl h⟩

theorem TmSeg.trans {xs ys : List (Nat × Nat)} {s0 s1 s2 : IsectSt} (h1 : TmSeg xs s0 s1) (h2 : TmSeg ys s1 s2) :
    TmSeg (xs ++ ys) s0 s2 where
  mono q k h := h2.mono q k (h1.mono q k h)
  wf h := h2.wf (h1.wf h)
  stk h := h2.stk (h1.stk h)
  sub e h := h2.sub e (h1.sub e h)
  new q k h := by
    rcases h2.new q k h with h | ⟨h, hx⟩
    · rcases h1.new q k h with h | ⟨h, hx⟩
      · exact Or.inl h
      · exact Or.inr ⟨h2.sub _ h, List.mem_append_left _ hx⟩
    · exact Or.inr ⟨h, List.mem_append_right _ hx⟩

theorem TmSeg.stable {qs : List (Nat × Nat)} {st st' : IsectSt} (s : TmSeg qs st st') {p : Nat × Nat} {n' : Nat}
    (h : tmFind st.tm p = some n') (n : Nat) : tmFind st'.tm p = some n ↔ tmFind st.tm p = some n := by
  rw [s.mono _ _ h, h]

/-- one `insert`, pushed always (start loops) or only when new (inner loops) -/
theorem TmSeg.ins {st st' : IsectSt} {p : Nat × Nat} (htm : st'.tm = (tmInsert st.tm p).1)
    (hstk : st'.stack = (p, (tmInsert st.tm p).2.1) :: st.stack ∨
      (tmFind st.tm p = some (tmInsert st.tm p).2.1 ∧ st'.stack = st.stack)) : TmSeg [p] st st' := by
  obtain ⟨hp, mono, wf, other⟩ := tmInsert_spec st.tm p
  rw [← htm] at hp mono wf other
  refine ⟨mono, wf, fun h e he => ?_, fun e h => ?_, fun q k hq => ?_⟩
  · rcases hstk with hs | ⟨_, hs⟩ <;> rw [hs] at he
    · rcases List.mem_cons.mp he with h' | h'
      · rw [h']; exact hp
      · exact mono _ _ (h e h')
    · exact mono _ _ (h e he)
  · rcases hstk with hs | ⟨_, hs⟩ <;> rw [hs]
    · exact List.mem_cons_of_mem _ h
    · exact h
  · by_cases hqp : q = p
    · subst hqp
      obtain rfl := Option.some.inj (hp.symm.trans hq)
      rcases hstk with hs | ⟨hf, _⟩
      · exact Or.inr ⟨hs ▸ List.mem_cons_self, List.mem_singleton.mpr rfl⟩
      · exact Or.inl hf
    · exact Or.inl (other q hqp ▸ hq)

/-- what a segment `xs` of the inner loops does to the state (`n` = number of the pair being expanded) -/
structure IsectStep (A B : NFA) (n : Nat) (xs : List (Nat × (Nat × Nat))) (st st' : IsectSt) : Prop
    extends TmSeg (xs.map (·.2)) st st' where
  did : ∀ x, x ∈ xs → ∃ k, tmFind st'.tm x.2 = some k ∧ (n, x.1, k) ∈ st'.res.trans
  tsub : ∀ t, t ∈ st.res.trans → t ∈ st'.res.trans
  tnew : ∀ t, t ∈ st'.res.trans → t ∈ st.res.trans ∨ ∃ x, x ∈ xs ∧ ∃ k, tmFind st'.tm x.2 = some k ∧ t = (n, x.1, k)
  same : st'.res.start = st.res.start ∧ st'.res.final = st.res.final ∧ st'.res.startSyms = st.res.startSyms
  meas : (∀ x, x ∈ xs → ∃ p, (p, x.1, x.2) ∈ nfaJointAll A B) →
    st'.stack.length + isectUnseen A B st'.tm ≤ st.stack.length + isectUnseen A B st.tm

theorem IsectStep.refl (A B : NFA) (n : Nat) (st : IsectSt) : IsectStep A B n [] st st :=
  { TmSeg.refl st with
    did := fun _ h => (nomatch h), tsub := fun _ h => h, tnew := fun _ h => Or.inl h, same := ⟨rfl, rfl, rfl⟩,
    meas := fun _ => Nat.le_refl _ }

theorem IsectStep.trans {A B : NFA} {n : Nat} {xs ys : List (Nat × (Nat × Nat))} {s0 s1 s2 : IsectSt}
    (h1 : IsectStep A B n xs s0 s1) (h2 : IsectStep A B n ys s1 s2) : IsectStep A B n (xs ++ ys) s0 s2 where
  toTmSeg := List.map_append ▸ h1.toTmSeg.trans h2.toTmSeg
  did x hx := by
    rcases List.mem_append.mp hx with h | h
    · obtain ⟨k, hk, ht⟩ := h1.did x h
      exact ⟨k, h2.mono _ _ hk, h2.tsub _ ht⟩
    · exact h2.did x h
  tsub t h := h2.tsub t (h1.tsub t h)
  tnew t h := by
    rcases h2.tnew t h with h | ⟨x, hx, k, hk, e⟩
    · rcases h1.tnew t h with h | ⟨x, hx, k, hk, e⟩
      · exact Or.inl h
      · exact Or.inr ⟨x, List.mem_append_left _ hx, k, h2.mono _ _ hk, e⟩
    · exact Or.inr ⟨x, List.mem_append_right _ hx, k, hk, e⟩
  same := ⟨h2.same.1.trans h1.same.1, h2.same.2.1.trans h1.same.2.1, h2.same.2.2.trans h1.same.2.2⟩
  meas h := Nat.le_trans (h2.meas (fun x hx => h x (List.mem_append_right _ hx)))
    (h1.meas (fun x hx => h x (List.mem_append_left _ hx)))

theorem isectUnseen_append_lt {A B : NFA} {tm : TranslMap} {p q : Nat × Nat} {a k : Nat}
    (hj : (p, a, q) ∈ nfaJointAll A B) (hq : q ∉ tmKeys tm) :
    isectUnseen A B (tm ++ [(q, k)]) < isectUnseen A B tm := by
  rw [isectUnseen, tmKeys, List.map_append]
  exact unseen_snoc_lt (List.mem_map.mpr ⟨_, hj, rfl⟩) hq

theorem IsectStep.one (A B : NFA) (n : Nat) (x : Nat × (Nat × Nat)) (st : IsectSt) :
    IsectStep A B n [x] st (isectIns n x.1 st x.2) := by
  have hp := (tmInsert_spec st.tm x.2).1
  refine {
    toTmSeg := TmSeg.ins rfl ?_, did := fun y hy => ?_, tsub := fun t h => mem_insT.mpr (Or.inl h),
    tnew := fun t ht => ?_, same := ⟨rfl, rfl, rfl⟩, meas := fun hx => ?_ }
  · unfold isectIns tmInsert
    cases tmFind st.tm x.2 with
    | some k => exact Or.inr ⟨rfl, rfl⟩
    | none => exact Or.inl rfl
  · rw [List.mem_singleton.mp hy]
    exact ⟨_, hp, mem_insT.mpr (Or.inr rfl)⟩
  · exact (mem_insT.mp ht).imp_right fun h => ⟨x, List.mem_singleton.mpr rfl, _, hp, h⟩
  · obtain ⟨p, hj⟩ := hx x (List.mem_singleton.mpr rfl)
    unfold isectIns tmInsert
    cases hf : tmFind st.tm x.2 with
    | some k => exact Nat.le_refl _
    | none =>
      have := isectUnseen_append_lt (k := st.tm.length) hj (tmFind_none_iff.mp hf)
      show (st.stack.length + 1) + isectUnseen A B (st.tm ++ [(x.2, st.tm.length)]) ≤ _
      omega

theorem isectStep_fold (A B : NFA) (n : Nat) : ∀ (xs : List (Nat × (Nat × Nat))) (st : IsectSt),
    IsectStep A B n xs st (xs.foldl (fun st x => isectIns n x.1 st x.2) st) := by
  intro xs
  induction xs with
  | nil => exact IsectStep.refl A B n
  | cons x xs ih => exact fun st => (IsectStep.one A B n x st).trans (ih _)

end Vata.NfaC
