import Vata.Proofs.ListExt
/-!
# Association lists read by `List.lookup`

The models keep `std::map` / `std::unordered_map` objects as lists of pairs in which the first entry of a key counts.  Some read them
with `List.lookup`, others with a recursive function of their own or through `find?`; each of those is `List.lookup` (one equation
in the proof file of the model), and what is needed about `lookup` beyond the core library is here: membership, the keys, keys
without duplicates, an entry appended, the values or the pairs mapped, a filter on the keys.
-/
namespace Vata
variable {α β γ : Type} [BEq α] [LawfulBEq α]

/-- `lookup` with the test the models' own lookup functions make: the key of the entry against the key sought -/
theorem lookup_cons_ite [DecidableEq α] (a k : α) (b : β) (l : List (α × β)) :
    List.lookup a ((k, b) :: l) = if k = a then some b else l.lookup a := by
  rw [List.lookup_cons]
  by_cases h : k = a
  · rw [if_pos h, beq_iff_eq.mpr h.symm]
  · rw [if_neg h, beq_false_of_ne (Ne.symm h)]

/-- `find?` on the key, then the value: the other common spelling of `lookup` -/
theorem find?_key_eq_lookup (l : List (α × β)) (k : α) : (l.find? (fun e => e.1 == k)).map (·.2) = l.lookup k := by
  induction l with
  | nil => rfl
  | cons e l ih =>
    obtain ⟨a, b⟩ := e
    rw [List.find?_cons, List.lookup_cons, BEq.comm (a := k)]
    cases a == k
    · exact ih
    · rfl

theorem mem_of_lookup {l : List (α × β)} {k : α} {v : β} (h : l.lookup k = some v) : (k, v) ∈ l := by
  obtain ⟨l₁, l₂, rfl, _⟩ := List.lookup_eq_some_iff.mp h
  exact List.mem_append_right _ List.mem_cons_self

theorem mem_of_lookup_snd {l : List (α × β)} {k : α} {v : β} (h : l.lookup k = some v) : v ∈ l.map Prod.snd :=
  List.mem_map.mpr ⟨_, mem_of_lookup h, rfl⟩

theorem lookup_eq_none_iff_keys {l : List (α × β)} {k : α} : l.lookup k = none ↔ k ∉ l.map Prod.fst := by
  rw [List.lookup_eq_none_iff]
  simp only [bne_iff_ne, ne_eq, List.mem_map, not_exists, not_and]
  exact ⟨fun h e he heq => h e he heq.symm, fun h e he heq => h e he heq.symm⟩

theorem lookup_isSome_iff_keys {l : List (α × β)} {k : α} : (l.lookup k).isSome = true ↔ k ∈ l.map Prod.fst := by
  rw [← Decidable.not_iff_not, Bool.not_eq_true, Option.isSome_eq_false_iff, Option.isNone_iff_eq_none]
  exact lookup_eq_none_iff_keys

/-- with distinct keys every pair of the list is found -/
theorem lookup_of_mem {l : List (α × β)} (hk : (l.map Prod.fst).Nodup) {k : α} {v : β} (h : (k, v) ∈ l) :
    l.lookup k = some v := by
  induction l with
  | nil => cases h
  | cons e l ih =>
    obtain ⟨a, b⟩ := e
    rw [List.map_cons, List.nodup_cons] at hk
    rw [List.lookup_cons]
    rcases List.mem_cons.mp h with e | h'
    · cases e; rw [beq_self_eq_true]
    · rw [beq_false_of_ne fun e : k = a => hk.1 (e ▸ List.mem_map.mpr ⟨_, h', rfl⟩)]
      exact ih hk.2 h'

theorem lookup_snoc [DecidableEq α] {l : List (α × β)} {p k : α} {v : β} :
    (l ++ [(p, v)]).lookup k = (l.lookup k).or (if k = p then some v else none) := by
  rw [List.lookup_append, lookup_cons_ite, List.lookup_nil]
  exact congrArg _ (ite_congr (propext eq_comm) (fun _ => rfl) fun _ => rfl)

theorem lookup_snoc_self {l : List (α × β)} {p : α} (hp : l.lookup p = none) (v : β) : (l ++ [(p, v)]).lookup p = some v := by
  rw [List.lookup_append, hp, List.lookup_cons_self]; rfl

theorem lookup_snoc_inv {l : List (α × β)} {p k : α} {v n : β} (h : (l ++ [(p, v)]).lookup k = some n) :
    l.lookup k = some n ∨ (k = p ∧ n = v) := by
  rw [List.lookup_append, Option.or_eq_some_iff] at h
  refine h.imp_right fun ⟨_, h⟩ => ?_
  have := mem_of_lookup h
  rw [List.mem_singleton, Prod.mk.injEq] at this
  exact this

omit [LawfulBEq α] in
theorem lookup_map_vals (f : β → γ) (l : List (α × β)) (k : α) :
    (l.map fun e => (e.1, f e.2)).lookup k = (l.lookup k).map f := by
  induction l with
  | nil => rfl
  | cons e l ih =>
    obtain ⟨a, b⟩ := e
    rw [List.map_cons, List.lookup_cons, List.lookup_cons, ih]
    cases k == a <;> rfl

/-- the entries written for a list: the first element with the right key decides -/
theorem lookup_map_pairs (f : γ → α) (g : γ → β) (l : List γ) (k : α) :
    (l.map fun s => (f s, g s)).lookup k = (l.find? fun s => f s == k).map g := by
  rw [← find?_key_eq_lookup, List.find?_map, Option.map_map]; rfl

theorem lookup_map_keys [DecidableEq α] (g : α → β) (L : List α) (k : α) :
    (L.map fun a => (a, g a)).lookup k = if k ∈ L then some (g k) else none := by
  induction L with
  | nil => rfl
  | cons a L ih =>
    rw [List.map_cons, lookup_cons_ite, ih]
    by_cases h : a = k
    · rw [if_pos h, if_pos (List.mem_cons.mpr (Or.inl h.symm)), h]
    · rw [if_neg h]
      exact ite_congr (propext (List.mem_cons.trans (or_iff_right (Ne.symm h))).symm) (fun _ => rfl) fun _ => rfl

theorem lookup_filter_keys (p : α → Bool) (l : List (α × β)) (k : α) :
    (l.filter fun e => p e.1).lookup k = if p k = true then l.lookup k else none := by
  induction l with
  | nil => rw [List.filter_nil, List.lookup_nil, ite_self]
  | cons e l ih =>
    obtain ⟨a, b⟩ := e
    rw [List.filter_cons, List.lookup_cons]
    by_cases hk : k = a
    · subst hk
      rw [beq_self_eq_true]
      by_cases hp : p k = true
      · rw [if_pos hp, if_pos hp, List.lookup_cons_self]
      · rw [if_neg hp, if_neg hp, ih, if_neg hp]
    · rw [beq_false_of_ne hk, ← ih]
      by_cases hp : p a = true
      · rw [if_pos hp, List.lookup_cons, beq_false_of_ne hk]
      · rw [if_neg hp]

/-! The models' "find the entry of the key or create it, then replace its value by `g` of what was there" (`Store.upsert`,
`smAddSym`, `LE.insAdd`, `AC.Two.insert`) is `alter`: `g none` creates, `g (some v)` modifies; the first entry of the key counts. -/

def alter [DecidableEq α] (k : α) (g : Option β → β) : List (α × β) → List (α × β)
  | [] => [(k, g none)]
  | (k', v) :: l => if k' = k then (k', g (some v)) :: l else (k', v) :: alter k g l

theorem lookup_alter [DecidableEq α] (k k' : α) (g : Option β → β) (l : List (α × β)) :
    (alter k g l).lookup k' = if k' = k then some (g (l.lookup k)) else l.lookup k' := by
  induction l with
  | nil => rw [alter, lookup_cons_ite, List.lookup_nil, List.lookup_nil]; exact ite_congr (propext eq_comm) (fun _ => rfl) fun _ => rfl
  | cons e l ih =>
    obtain ⟨a, b⟩ := e
    rw [alter]
    by_cases hk : k' = k
    · subst hk
      rw [if_pos rfl]
      by_cases ha : a = k'
      · subst ha; rw [if_pos rfl, List.lookup_cons_self, List.lookup_cons_self]
      · rw [if_neg ha, lookup_cons_ite, if_neg ha, ih, if_pos rfl, lookup_cons_ite, if_neg ha]
    · rw [if_neg hk]
      by_cases ha : a = k
      · subst ha; rw [if_pos rfl, lookup_cons_ite, lookup_cons_ite, if_neg (Ne.symm hk), if_neg (Ne.symm hk)]
      · rw [if_neg ha, lookup_cons_ite, lookup_cons_ite, ih, if_neg hk]

/-- the keys after `alter`: the key is appended unless present -/
theorem keys_alter [DecidableEq α] (k : α) (g : Option β → β) (l : List (α × β)) :
    (alter k g l).map Prod.fst = if (l.map Prod.fst).contains k then l.map Prod.fst else l.map Prod.fst ++ [k] := by
  induction l with
  | nil => rfl
  | cons e l ih =>
    obtain ⟨a, b⟩ := e
    rw [alter, List.map_cons, List.contains_cons]
    by_cases h : a = k
    · rw [if_pos h, List.map_cons, h, beq_self_eq_true, Bool.true_or, if_pos rfl]
    · rw [if_neg h, List.map_cons, ih, beq_false_of_ne (Ne.symm h), Bool.false_or]
      split <;> rfl

omit [BEq α] [LawfulBEq α] in
theorem forall_alter [DecidableEq α] {P : β → Prop} (k : α) (g : Option β → β) {l : List (α × β)}
    (h0 : P (g none)) (h1 : ∀ v, P v → P (g (some v))) (hl : ∀ kv, kv ∈ l → P kv.2) :
    ∀ kv, kv ∈ alter k g l → P kv.2 := by
  induction l with
  | nil =>
    intro kv hkv
    rw [alter, List.mem_singleton] at hkv
    rw [hkv]; exact h0
  | cons kv0 l ih =>
    obtain ⟨k0, v0⟩ := kv0
    intro kv hkv
    rw [alter] at hkv
    split at hkv
    · rcases List.mem_cons.mp hkv with e | h'
      · rw [e]; exact h1 v0 (hl (k0, v0) List.mem_cons_self)
      · exact hl kv (List.mem_cons_of_mem _ h')
    · rcases List.mem_cons.mp hkv with e | h'
      · rw [e]; exact hl (k0, v0) List.mem_cons_self
      · exact ih (fun kv h => hl kv (List.mem_cons_of_mem _ h)) kv h'

end Vata
