import Vata.Proofs.InclUp
import Vata.Proofs.InclUpGen
import Vata.Proofs.NormS
/-!
# The exploration of `inclUp` is right by itself and ends (`InclUp.run`)

The main theorems of `Vata/Proofs/InclUp.lean` trust only the final Boolean checks.  Here the work-list algorithm is
analysed, as the instance `ops` of the exploration of `Vata/Proofs/InclUpGen.lean`:

* `run_ok_cert`   : when the exploration ends with `return true`, the final antichain passes `upCertB` (so the check
                    never turns a finished `true` run into `none`);
* `run_error_ok`  : when it ends with `return false` at `(q, t)`, then `q ∈ reach A t` and either `q` is final and `B`
                    does not accept `t`, or no state of `B` reaches `t` (the code's exit on an empty macro-state);
* `run_terminates`: it ends within `fuelBound A B` picked pairs (the measure `mu` counts the pairs of the universe
                    that the antichain does not subsume).
-/
namespace Vata
namespace InclUp

theorem mem_macroPost {B : TA} {f : Nat} {Ss : List (List Nat)} {y : Nat} :
    y ∈ macroPost B f Ss ↔ y ∈ post B f Ss := mem_normS

def Subsumed (P : List Item) (q : Nat) (S : List Nat) : Prop := ∃ i, i ∈ P ∧ i.q = q ∧ ∀ x, x ∈ i.S → x ∈ S

theorem subsumed_iff {P : List Item} {q : Nat} {S : List Nat} : subsumed P q S = true ↔ Subsumed P q S := by
  simp only [subsumed, Subsumed, List.any_eq_true, Bool.and_eq_true, beq_iff_eq, subB_iff]

theorem Subsumed.mono {P : List Item} {q : Nat} {S S' : List Nat} (h : Subsumed P q S) (hs : ∀ x, x ∈ S → x ∈ S') :
    Subsumed P q S' :=
  h.imp fun _ hi => ⟨hi.1, hi.2.1, fun x hx => hs x (hi.2.2 x hx)⟩

theorem mem_refine {P : List Item} {q : Nat} {S : List Nat} {i : Item} :
    i ∈ refine P q S ↔ i ∈ P ∧ ¬ (i.q = q ∧ ∀ x, x ∈ S → x ∈ i.S) := by
  rw [refine, List.mem_filter, Bool.not_eq_true', ← Bool.not_eq_true, Bool.and_eq_true, beq_iff_eq, subB_iff]

/-- the operations of `InclUp.run`: set inclusion of the macro-states, no pair is skipped -/
def ops (B : TA) : UpGen.Ops where
  sub := subsumed
  keep := fun it i => !(i.q == it.q && subB it.S i.S)
  post := fun f Ss => (macroPost B f Ss, accepting B (macroPost B f Ss))
  skip := fun _ _ => false

def spec (B : TA) : UpGen.Spec (ops B) where
  Sb := fun i q S => i.q = q ∧ ∀ x, x ∈ i.S → x ∈ S
  Sk := fun _ _ => False
  sub_sound := subsumed_iff.mp
  refl := fun _ => ⟨rfl, fun _ h => h⟩
  trans := fun h h' => ⟨h'.1.trans h.1, fun x hx => h.2 x (h'.2 x hx)⟩
  mono := fun h hS => ⟨h.1, fun x hx => hS x (h.2 x hx)⟩
  keep_false := fun {it i} (h : (!(i.q == it.q && subB it.S i.S)) = false) => by
    rw [Bool.not_eq_false', Bool.and_eq_true, beq_iff_eq, subB_iff] at h
    exact ⟨h.1.symm, h.2⟩
  skip_sound := fun h => nomatch h
  skip_mono := fun h _ => h

theorem postIn (B : TA) : UpGen.PostIn (ops B) B := fun _ _ _ => mem_macroPost.mp

/-! `addTmp` does not involve the operand `B` of `ops`; any automaton serves in the next three lemmas. -/

theorem addTmp_mono {P : List Item} {it : Item} {q : Nat} {S : List Nat} (h : Subsumed P q S) :
    Subsumed (addTmp P it) q S :=
  UpGen.addTmp_le (spec ⟨[], []⟩) P it q S h

theorem addTmp_self (P : List Item) (it : Item) : Subsumed (addTmp P it) it.q it.S :=
  UpGen.addTmp_self (spec ⟨[], []⟩) P it

theorem mem_addTmp {P : List Item} {it i : Item} (h : i ∈ addTmp P it) : i ∈ P ∨ i = it :=
  UpGen.mem_addTmp (o := ops ⟨[], []⟩) h

theorem stepChoices_eq (A B : TA) (ρ : Rule) : ∀ (iss : List (List Item)) (tmp : List Item),
    stepChoices A B ρ iss tmp = iss.foldlM (UpGen.stepChoice (ops B) A ρ) tmp :=
  foldlM_unique (fun _ => rfl) fun is iss tmp => by
    rw [stepChoices]
    show _ = stepChoice A B ρ tmp is >>= _
    cases stepChoice A B ρ tmp is <;> rfl

theorem procTask_eq (A B : TA) (it : Item) (ρ : Rule) (j : Nat) (st : St) :
    procTask A B it ρ j st = UpGen.procTask (ops B) A it st (ρ, j) := by
  rw [procTask, stepChoices_eq, UpGen.procTask]
  cases (choicesAt st.processed it ρ.kids j).foldlM (UpGen.stepChoice (ops B) A ρ) [] with
  | error e => rfl
  | ok tmp => exact (List.foldlM_pure (m := Res) (f := addItem)).symm

theorem procTasks_eq (A B : TA) (it : Item) : ∀ (T : List (Rule × Nat)) (st : St),
    procTasks A B it T st = T.foldlM (UpGen.procTask (ops B) A it) st :=
  foldlM_unique (fun _ => rfl) fun p T st => by
    rw [procTasks, ← procTask_eq]
    cases procTask A B it p.1 p.2 st <;> rfl

theorem loop_eq (A B : TA) (n : Nat) : ∀ st : St, loop A B n st = UpGen.loop (ops B) A n st := by
  induction n with
  | zero => exact fun _ => rfl
  | succ n ih =>
    rintro ⟨P, N⟩
    cases N with
    | nil => rfl
    | cons it rest =>
      rw [UpGen.loop_cons, ← procTasks_eq]
      show (match procTasks A B it (tasks A it.q) ⟨P, rest⟩ with
        | Except.error e => some (Except.error e)
        | Except.ok st' => loop A B n st') = _
      cases procTasks A B it (tasks A it.q) ⟨P, rest⟩ with
      | error e => rfl
      | ok st' => exact ih st'

theorem leafStep_eq (A B : TA) (st : St) (ρ : Rule) : UpGen.leafStep (ops B) A st ρ =
    if ρ.kids.isEmpty then
      if !accepting B (macroPost B ρ.sym []) && A.final.contains ρ.parent then .error (ρ.parent, .node ρ.sym [])
      else .ok (addItem st ⟨ρ.parent, macroPost B ρ.sym [], .node ρ.sym []⟩)
    else .ok st := rfl

theorem leafPhase_eq (A B : TA) : ∀ (ρs : List Rule) (st : St),
    leafPhase A B ρs st = ρs.foldlM (UpGen.leafStep (ops B) A) st :=
  foldlM_unique (fun _ => rfl) fun ρ ρs st => by
    rw [leafPhase, leafStep_eq]
    dsimp only
    by_cases hk : ρ.kids.isEmpty = true
    · by_cases hb : (!accepting B (macroPost B ρ.sym []) && A.final.contains ρ.parent) = true
      · rw [if_pos hk, if_pos hk, if_pos hb, if_pos hb]; rfl
      · rw [if_pos hk, if_pos hk, if_neg hb, if_neg hb]; rfl
    · rw [if_neg hk, if_neg hk]; rfl

theorem run_eq (A B : TA) (fuel : Nat) : run A B fuel = UpGen.run (ops B) A B fuel := by
  rw [run, UpGen.run, leafPhase_eq]
  cases sizeExit A B with
  | some ρ => rfl
  | none =>
    cases A.rules.foldlM (UpGen.leafStep (ops B) A) ⟨[], []⟩ with
    | error e => rfl
    | ok st => exact loop_eq A B fuel st

def Good (A B : TA) (P : List Item) : Prop := ∀ i, i ∈ P → i.q ∈ A.final → accepting B i.S = true

theorem good_inherits (A B : TA) :
    UpGen.Inherits (ops B) A (fun i => i.q ∈ A.final → accepting B i.S = true) (fun _ => True) :=
  ⟨fun _ _ hf => hf, fun _ _ _ => trivial⟩

def pairs (P : List Item) : List (Nat × List Nat) := P.map (fun i => (i.q, i.S))

theorem mem_pairs {P : List Item} {q : Nat} {S : List Nat} : (q, S) ∈ pairs P ↔ ∃ i, i ∈ P ∧ i.q = q ∧ i.S = S := by
  simp only [pairs, List.mem_map, Prod.mk.injEq]

theorem choice_of_pairs {P : List Item} {ks : List Nat} {Ss : List (List Nat)}
    (h : All2 (fun k S => (k, S) ∈ pairs P) ks Ss) : ∃ is, Choice (· ∈ P) ks is ∧ is.map (·.S) = Ss := by
  induction h with
  | nil => exact ⟨[], All2.nil, rfl⟩
  | cons hd _ ih =>
    obtain ⟨is, his, hS⟩ := ih
    obtain ⟨i, hi, hq, hs⟩ := mem_pairs.mp hd
    exact ⟨i :: is, All2.cons ⟨hq, hi⟩ his, by rw [List.map_cons, hs, hS]⟩

theorem upCertB_of_closed {A B : TA} {P : List Item} (hC : UpGen.Closed (spec B) A B ⟨P, []⟩) (hG : Good A B P) :
    upCertB A B (pairs P) = true := by
  rw [upCertB_iff]
  constructor
  · intro ρ hρ Ss hSs
    obtain ⟨is, his, rfl⟩ := choice_of_pairs hSs
    rcases hC ρ hρ is (his.imp fun i hi => ⟨hi, List.not_mem_nil⟩) with h | ⟨i, hi, hq, hsub⟩
    · exact h.elim
    · exact ⟨i.S, mem_pairs.mpr ⟨i, hi, hq, rfl⟩, hsub⟩
  · intro q S hqS hf
    obtain ⟨i, hi, rfl, rfl⟩ := mem_pairs.mp hqS
    exact accepting_iff.mp (hG i hi hf)

theorem run_ok_cert {A B : TA} {fuel : Nat} {P : List Item} (h : run A B fuel = some (.ok P)) :
    upCertB A B (pairs P) = true := by
  rw [run_eq] at h
  exact upCertB_of_closed (UpGen.run_closed (spec B) (postIn B) h)
    (UpGen.run_all (good_inherits A B) (fun _ _ => trivial) h)

theorem inclUp_of_run_ok {A B : TA} {fuel : Nat} {P : List Item} (h : run A B fuel = some (.ok P)) :
    inclUp A B fuel = some (true, .closed (pairs P)) := by
  rw [inclUp, h]
  exact if_pos (run_ok_cert h)

def TreeOK (A B : TA) (i : Item) : Prop := i.q ∈ reach A i.t ∧ ∀ x, x ∈ i.S ↔ x ∈ reach B i.t

def ErrOK (A B : TA) (e : Nat × Tree) : Prop :=
  e.1 ∈ reach A e.2 ∧ ((e.1 ∈ A.final ∧ accepting B (reach B e.2) = false) ∨ ∀ x, x ∉ reach B e.2)

theorem choice_match {A B : TA} {ks : List Nat} {is : List Item} (h : Choice (TreeOK A B) ks is) :
    matchKids ks (reachL A (is.map (·.t))) = true ∧ All2 SetEq (is.map (·.S)) (reachL B (is.map (·.t))) := by
  induction h with
  | nil => exact ⟨rfl, All2.nil⟩
  | cons hd _ ih =>
    simp only [List.map_cons, reachL, matchKids, Bool.and_eq_true, List.contains_iff_mem]
    exact ⟨⟨hd.1 ▸ hd.2.1, ih.1⟩, All2.cons hd.2.2 ih.2⟩

theorem mkItem_treeOK {A B : TA} {ρ : Rule} {is : List Item} (hρ : ρ ∈ A.rules)
    (h : Choice (TreeOK A B) ρ.kids is) :
    TreeOK A B ⟨ρ.parent, macroPost B ρ.sym (is.map (·.S)), .node ρ.sym (is.map (·.t))⟩ := by
  obtain ⟨h1, h2⟩ := choice_match h
  refine ⟨mem_reach_node.mpr ⟨ρ, hρ, rfl, h1, rfl⟩, fun x => mem_macroPost.trans ?_⟩
  rw [post_congr B ρ.sym h2, ← reach_node]

theorem errOK_of_treeOK {A B : TA} {i : Item} (h : TreeOK A B i)
    (hc : i.S = [] ∨ (accepting B i.S = false ∧ i.q ∈ A.final)) : ErrOK A B (i.q, i.t) := by
  refine ⟨h.1, hc.symm.imp (fun hc => ⟨hc.2, ?_⟩) fun hc x hx => ?_⟩
  · rw [← accepting_congr B (s := i.S) h.2]; exact hc.1
  · exact List.not_mem_nil (hc ▸ (h.2 x).mpr hx)

theorem mem_leafSyms {A : TA} {f : Nat} : f ∈ leafSyms A ↔ ∃ ρ, ρ ∈ A.rules ∧ ρ.kids = [] ∧ ρ.sym = f := by
  simp only [leafSyms, mem_normS, List.mem_map, List.mem_filter, List.isEmpty_iff, and_assoc]

theorem sizeExit_ok {A B : TA} {ρ : Rule} (h : sizeExit A B = some ρ) :
    ErrOK A B (ρ.parent, .node ρ.sym []) := by
  unfold sizeExit at h
  split at h
  · have hm := List.mem_of_find?_eq_some h
    have hp := List.find?_some h
    simp only [Bool.and_eq_true, Bool.not_eq_true', List.isEmpty_iff] at hp
    refine ⟨mem_reach_node.mpr ⟨ρ, hm, rfl, by rw [hp.1]; rfl, rfl⟩, Or.inr fun x hx => ?_⟩
    · obtain ⟨r, hr, hs, hmk, _⟩ := mem_reach_node.mp hx
      have hk : r.kids = [] := by
        cases hrk : r.kids with
        | nil => rfl
        | cons k ks => rw [hrk] at hmk; cases hmk
      have hc := List.contains_iff_mem.mpr (mem_leafSyms.mpr ⟨r, hr, hk, hs⟩)
      rw [hp.2] at hc; cases hc
  · cases h

theorem tree_inherits (A B : TA) : UpGen.Inherits (ops B) A (TreeOK A B) (ErrOK A B) :=
  ⟨fun hρ h _ => mkItem_treeOK hρ h, fun hρ h hf => errOK_of_treeOK (mkItem_treeOK hρ h) hf⟩

/-- the early exit of the code is taken exactly when `B` has fewer leaf symbols than `A` -/
theorem sizeExit_isSome {A B : TA} : (sizeExit A B).isSome = true ↔ (leafSyms B).length < (leafSyms A).length := by
  unfold sizeExit
  constructor
  · intro h
    split at h
    · next hlt => exact hlt
    · cases h
  · intro hlt
    rw [if_pos hlt]
    cases hf : A.rules.find? (fun ρ => ρ.kids.isEmpty && !(leafSyms B).contains ρ.sym) with
    | some ρ => rfl
    | none =>
      exfalso
      have hall := List.find?_eq_none.mp hf
      have : (leafSyms A).length ≤ (leafSyms B).length := by
        refine List.Nodup.length_le_of_subset ((normS_sorted _).imp Nat.ne_of_lt) fun f hf' => ?_
        obtain ⟨ρ, hρ, hk, hs⟩ := mem_leafSyms.mp hf'
        have := hall ρ hρ
        simp only [Bool.and_eq_true, Bool.not_eq_true', List.isEmpty_iff, not_and, Bool.not_eq_false,
          List.contains_iff_mem] at this
        exact hs ▸ this hk
      omega

theorem run_error_ok {A B : TA} {fuel : Nat} {e : Nat × Tree} (h : run A B fuel = some (.error e)) :
    ErrOK A B e := by
  rw [run_eq] at h
  exact UpGen.run_all (tree_inherits A B) (fun _ => sizeExit_ok) h

theorem run_ok_tree {A B : TA} {fuel : Nat} {P : List Item} (h : run A B fuel = some (.ok P)) :
    ∀ i, i ∈ P → TreeOK A B i := by
  rw [run_eq] at h
  exact UpGen.run_all (tree_inherits A B) (fun _ => sizeExit_ok) h

theorem accepts_false_of_empty {B : TA} {t : Tree} (h : ∀ x, x ∉ reach B t) : accepts B t = false := by
  unfold accepts accepting
  rw [List.eq_nil_iff_forall_not_mem.mpr h]; rfl

theorem accepts_of_reach {A : TA} {t : Tree} {q : Nat} (h : q ∈ reach A t) (hf : q ∈ A.final) :
    accepts A t = true :=
  accepts_iff_reach.mpr ⟨q, h, hf⟩

theorem sep_of_final {A B : TA} {q : Nat} {t : Tree} (h : ErrOK A B (q, t)) (hf : q ∈ A.final) :
    accepts A t = true ∧ accepts B t = false :=
  ⟨accepts_of_reach h.1 hf, h.2.elim (·.2) accepts_false_of_empty⟩

def mu (A B : TA) (P : List Item) : Nat := (univ A B).countP (fun p => !subsumed P p.1 p.2)

theorem dom_mkItem {A B : TA} {ρ : Rule} (hρ : ρ ∈ A.rules) {S : List Nat} {Ss : List (List Nat)}
    (hS : ∀ x, x ∈ S → x ∈ post B ρ.sym Ss) (t : Tree) : Dom A B ⟨ρ.parent, S, t⟩ :=
  ⟨List.mem_map.mpr ⟨ρ, hρ, rfl⟩, fun x hx => by
    obtain ⟨r, hr, _, _, hp⟩ := mem_post'.mp (hS x hx)
    exact List.mem_map.mpr ⟨r, hr, hp⟩⟩

theorem shrinks (A B : TA) : UpGen.Shrinks (ops B) A B where
  up := fun _ hS h => subsumed_iff.mpr ((subsumed_iff.mp h).mono hS)
  keeps := fun h => subsumed_iff.mpr (addTmp_mono (subsumed_iff.mp h))
  self := fun _ _ => subsumed_iff.mpr (addTmp_self _ _)
  dom := fun _ hρ => dom_mkItem hρ (fun _ => mem_macroPost.mp) _

theorem mu_addTmp_le (A B : TA) (P : List Item) (it : Item) : mu A B (addTmp P it) ≤ mu A B P :=
  UpGen.mu_addTmp_le (shrinks A B).keeps

theorem mu_addTmp_lt {A B : TA} {P : List Item} {it : Item} (hd : Dom A B it)
    (hs : subsumed P it.q it.S = false) : mu A B (addTmp P it) < mu A B P :=
  UpGen.mu_addTmp_lt (shrinks A B) hd hs

theorem run_terminates {A B : TA} {fuel : Nat} (h : fuelBound A B < fuel) : ∃ r, run A B fuel = some r :=
  run_eq A B fuel ▸ UpGen.run_terminates (shrinks A B) h

namespace InvEx
open InclUpEx

/-- `a → 1`, `b → 1` against `a → 3`, `a → 4`, `b → 3`: the pair `(1, {3,4})` of `a` is replaced by `(1, {3})` of `b` -/
def exS : TA := ⟨[⟨0, [], 1⟩, ⟨1, [], 1⟩], [1]⟩
def exT : TA := ⟨[⟨0, [], 3⟩, ⟨0, [], 4⟩, ⟨1, [], 3⟩], [3]⟩

#guard (match run exS exT 10 with | some (.ok P) => pairs P == [(1, [3])] | _ => false)
#guard (match run exH exG 10 with | some (.ok P) => pairs P == [(3, [1]), (4, [1]), (9, [2])] | _ => false)
#guard (match run exG exH 10 with | some (.error (q, t)) => q == 2 && showTree t == "2(0,1)" | _ => false)
-- the exit on an empty macro-state at a state that is not final
#guard (match run exDeep exA 10 with | some (.error (q, t)) => q == 5 && showTree t == "2(0)" | _ => false)

example : ∃ P, run exH exG 10 = some (.ok P) ∧ upCertB exH exG (pairs P) = true := by
  refine ⟨_, rfl, ?_⟩
  exact run_ok_cert (fuel := 10) rfl
example : ∃ e, run exG exH 10 = some (.error e) ∧ ErrOK exG exH e := by
  refine ⟨_, rfl, ?_⟩
  exact run_error_ok (fuel := 10) rfl
example : ∃ e, run exDeep exA 10 = some (.error e) ∧ e.1 ∉ exDeep.final ∧ ErrOK exDeep exA e := by
  refine ⟨_, rfl, by decide, ?_⟩
  exact run_error_ok (fuel := 10) rfl

end InvEx

end InclUp
end Vata
