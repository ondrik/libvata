import Vata.BddAbsTD
import Vata.Proofs.BddAbs
import Vata.Proofs.TrimSkel
import Vata.Proofs.GlueAsgn
/-!
Property C08 for the symbolic top-down tables: abstraction to rule sets, `GetTopDownAut`, symbolic trimming.

Model: `Vata/BddAbsTD.lean`.  Everything is said about `HasRuleTD T ρ p ks` (`ks ∈ eval (GetMtbdd p) ρ`: the rule
`ρ(ks) → p` is in the top-down table `T`; `ρ` = 16 symbol bits, then the arity bits) and `HasRule` of `Vata/BddAbs.lean`
for bottom-up tables, for EVERY valuation `ρ`: what `AddTransition`, the unions, `GetTopDownAut` (`absTD_invert_gen`) and
the trimming operations do to the rules.  The statements about the executable abstractions `absTD` / `absBU` (the rules
read off for the symbols of a dictionary) follow through `mem_absRulesTD`, `mem_absRulesTD_and`, `mem_absRulesTD_or` and
their bottom-up counterparts; automata are compared as sets of rules and final states (`SetEqTA`, `Proofs/TrimSkel`).  The trimming
operations see the tables through the leaves of the MTBDDs only (`skelTD`, `skelBU`), and reachability and productivity
only depend on the (parent, children) pairs (`SameSkel`).
-/
namespace Vata
namespace BddAbsTD
open M BddAbs

theorem mem_insT {x y : List Nat} : ∀ {l : List (List Nat)}, y ∈ insT x l ↔ y = x ∨ y ∈ l
  | [] => by simp [insT]
  | z :: l => by
    unfold insT
    split
    · simp
    · split
      · next h => rw [eq_of_beq h]; simp
      · rw [List.mem_cons, mem_insT (l := l), List.mem_cons, or_left_comm]

theorem mem_normT {l : List (List Nat)} {y : List Nat} : y ∈ normT l ↔ y ∈ l := by
  induction l with
  | nil => simp [normT]
  | cons x l ih =>
    have : normT (x :: l) = insT x (normT l) := rfl
    rw [this, mem_insT, ih, List.mem_cons]

theorem mem_unionTS {a b : List (List Nat)} {x : List Nat} : x ∈ unionTS a b ↔ x ∈ a ∨ x ∈ b := by
  simp only [unionTS, mem_normT, List.mem_append]

theorem getTD_eq_lookup (T : TableTD) (p : Nat) : getTD T p = (T.lookup p).getD (.leaf []) := by
  induction T with
  | nil => rfl
  | cons e T ih => obtain ⟨q, m⟩ := e; rw [getTD, ih, lookup_cons_ite]; split <;> rfl

theorem getTD_setTD (T : TableTD) (p p' : Nat) (m : MTD) :
    getTD (setTD T p m) p' = if p = p' then m else getTD T p' := by
  rw [getTD_eq_lookup, getTD_eq_lookup, setTD, lookup_cons_ite, lookup_filter_keys (fun k => k != p)]
  by_cases h : p = p'
  · rw [if_pos h, if_pos h]; rfl
  · rw [if_neg h, if_neg h, if_pos (bne_iff_ne.mpr (Ne.symm h))]

theorem getTD_not_key {T : TableTD} {p : Nat} (h : p ∉ keysTD T) : getTD T p = .leaf [] := by
  rw [getTD_eq_lookup, lookup_eq_none_iff_keys.mpr h]; rfl

theorem getTD_mapKeys (L : List Nat) (g : Nat → MTD) (p : Nat) :
    getTD (L.map (fun k => (k, g k))) p = if p ∈ L then g p else .leaf [] := by
  rw [getTD_eq_lookup, lookup_map_keys]; split <;> rfl

theorem keysTD_setTD (T : TableTD) (p : Nat) (m : MTD) (q : Nat) : q ∈ keysTD (setTD T p m) ↔ q = p ∨ q ∈ keysTD T := by
  simp only [keysTD, setTD, List.map_cons, List.mem_cons, List.mem_map, List.mem_filter, bne_iff_ne]
  constructor
  · rintro (h | ⟨e, ⟨he, _⟩, rfl⟩)
    · exact Or.inl h
    · exact Or.inr ⟨e, he, rfl⟩
  · rintro (h | ⟨e, he, rfl⟩)
    · exact Or.inl h
    · by_cases h : e.1 = p
      · exact Or.inl h
      · exact Or.inr ⟨e, ⟨he, h⟩, rfl⟩

theorem hasRuleTD_nil (ρ : Nat → Bool) (p : Nat) (ks : List Nat) : ¬ HasRuleTD [] ρ p ks := by
  simp [HasRuleTD, getTD, eval]

theorem hasRuleTD_key {T : TableTD} {ρ : Nat → Bool} {p : Nat} {ks : List Nat} (h : HasRuleTD T ρ p ks) :
    p ∈ keysTD T := by
  apply Classical.byContradiction
  intro hn
  unfold HasRuleTD at h
  rw [getTD_not_key hn] at h
  simp [eval] at h

theorem mem_absRulesTD {syms : List Nat} {T : TableTD} {r : Rule} :
    r ∈ absRulesTD syms T ↔ r.sym ∈ syms ∧ ∃ n, n < 64 ∧ HasRuleTD T (bitsAr r.sym n) r.parent r.kids := by
  simp only [absRulesTD, List.mem_flatMap, List.mem_map, List.mem_range]
  constructor
  · rintro ⟨p, _, f, hf, n, hn, ks, hks, rfl⟩
    exact ⟨hf, n, hn, hks⟩
  · rintro ⟨hf, n, hn, hks⟩
    exact ⟨r.parent, hasRuleTD_key hks, r.sym, hf, n, hn, r.kids, hks, rfl⟩

theorem absTD_rules (syms : List Nat) (T : TableTD) (F : List Nat) : (absTD syms T F).rules = absRulesTD syms T := rfl

theorem mem_absRulesTD_and {syms : List Nat} {T T' : TableTD} {C : Nat → List Nat → Prop}
    (h : ∀ ρ p ks, HasRuleTD T' ρ p ks ↔ HasRuleTD T ρ p ks ∧ C p ks) (r : Rule) :
    r ∈ absRulesTD syms T' ↔ r ∈ absRulesTD syms T ∧ C r.parent r.kids := by
  simp only [mem_absRulesTD, h, ← and_assoc, exists_and_right]

theorem mem_absRulesTD_or {syms : List Nat} {T T₁ T₂ : TableTD}
    (h : ∀ ρ p ks, HasRuleTD T ρ p ks ↔ HasRuleTD T₁ ρ p ks ∨ HasRuleTD T₂ ρ p ks) (r : Rule) :
    r ∈ absRulesTD syms T ↔ r ∈ absRulesTD syms T₁ ∨ r ∈ absRulesTD syms T₂ := by
  simp only [mem_absRulesTD, h, and_or_left, exists_or]

theorem agrees_append (ρ : Nat → Bool) : ∀ (as bs : List (Option Bool)) (i : Nat),
    agrees ρ (as ++ bs) i = (agrees ρ as i && agrees ρ bs (i + as.length))
  | [], bs, i => by simp [agrees]
  | none :: as, bs, i => by
    simp only [List.cons_append, agrees, List.length_cons]
    rw [agrees_append ρ as bs (i + 1), show i + 1 + as.length = i + (as.length + 1) by omega]
  | some b :: as, bs, i => by
    simp only [List.cons_append, agrees, List.length_cons]
    rw [agrees_append ρ as bs (i + 1), show i + 1 + as.length = i + (as.length + 1) by omega, Bool.and_assoc]

theorem agrees_shift (ρ : Nat → Bool) (k : Nat) : ∀ (as : List (Option Bool)) (i : Nat),
    agrees ρ as (i + k) = agrees (fun j => ρ (j + k)) as i
  | [], i => rfl
  | none :: as, i => by
    simp only [agrees]
    rw [show i + k + 1 = i + 1 + k by omega, agrees_shift ρ k as (i + 1)]
  | some b :: as, i => by
    simp only [agrees]
    rw [show i + k + 1 = i + 1 + k by omega, agrees_shift ρ k as (i + 1)]

theorem symAsgn_length (f : Nat) : (symAsgn f).length = 16 := by simp [symAsgn]
theorem arAsgn_length (n : Nat) : (arAsgn n).length = 6 := by simp [arAsgn]

theorem agrees_withAr (ρ : Nat → Bool) (asgn : List (Option Bool)) (h : asgn.length = 16) (n : Nat) :
    agrees ρ (asgn ++ arAsgn n) 0 = (agrees ρ asgn 0 && arOK ρ n) := by
  rw [agrees_append, h, arOK, ← agrees_shift]

theorem arOK_iff (ρ : Nat → Bool) (n : Nat) : arOK ρ n = true ↔ ∀ j, j < 6 → ρ (j + 16) = n.testBit j :=
  agrees_range (fun j => ρ (j + 16)) n 6

/-- the arity variables only hold the arity modulo 64 -/
theorem arOK_mod {ρ : Nat → Bool} {n m : Nat} (h1 : arOK ρ n = true) (h2 : arOK ρ m = true) : n % 64 = m % 64 :=
  (low_bits_eq_iff 6 n m).mp (fun j hj => ((arOK_iff ρ n).mp h1 j hj).symm.trans ((arOK_iff ρ m).mp h2 j hj))

theorem withArity_hi (ρ : Nat → Bool) (n j : Nat) : withArity ρ n (j + 16) = n.testBit j := by
  unfold withArity
  rw [if_neg (by omega), Nat.add_sub_cancel]

theorem arOK_withArity (ρ : Nat → Bool) (n m : Nat) : arOK (withArity ρ n) m = true ↔ n % 64 = m % 64 := by
  rw [arOK_iff]
  simp only [withArity_hi]
  exact low_bits_eq_iff 6 n m

theorem arOK_withArity_self (ρ : Nat → Bool) (n : Nat) : arOK (withArity ρ n) n = true :=
  (arOK_withArity ρ n n).mpr rfl

theorem arOK_withArity_lt (ρ : Nat → Bool) {n m : Nat} (hn : n < 64) (hm : m < 64) :
    arOK (withArity ρ n) m = true ↔ n = m := by
  rw [arOK_withArity, Nat.mod_eq_of_lt hn, Nat.mod_eq_of_lt hm]

theorem arOK_withArity_mod (ρ : Nat → Bool) (n : Nat) : arOK (withArity ρ (n % 64)) n = true :=
  (arOK_withArity ρ _ n).mpr (Nat.mod_mod n 64)

theorem agrees_withArity (ρ : Nat → Bool) (n : Nat) (asgn : List (Option Bool)) (h : asgn.length ≤ 16) :
    agrees (withArity ρ n) asgn 0 = agrees ρ asgn 0 := by
  rw [Bool.eq_iff_iff, agrees_iff, agrees_iff]
  have key : ∀ j b, asgn[j]? = some (some b) → withArity ρ n (0 + j) = ρ (0 + j) := by
    intro j b hj
    have : j < asgn.length := (List.getElem?_eq_some_iff.mp hj).1
    simp only [withArity, Nat.zero_add]
    rw [if_pos (by omega)]
  constructor
  · intro hh j b hj; rw [← key j b hj]; exact hh j b hj
  · intro hh j b hj; rw [key j b hj]; exact hh j b hj

theorem agrees_bitsAr_self (f n : Nat) : agrees (bitsAr f n) (symAsgn f) 0 = true := by
  rw [bitsAr, agrees_withArity _ _ _ (Nat.le_of_eq (symAsgn_length f))]
  exact agrees_bits_self f

theorem eval_withArity {α : Type} (ρ : Nat → Bool) (n : Nat) {a : Node α} (ha : Below 16 a) :
    eval a (withArity ρ n) = eval a ρ :=
  eval_congr_of_below (fun i hi => by simp [withArity, hi]) ha

/-- `SetMtbdd (p, union (GetMtbdd (p), MTBDD (asgn ++ c, {ks}, ∅)))` for any cube `c` on the variables above the 16 symbol
variables: the rules `ρ(ks) → p` for the valuations `ρ` whose symbol part is in `asgn` and whose upper part is in `c` are
added -/
theorem hasRuleTD_setTD_construct (T : TableTD) (p : Nat) (asgn : List (Option Bool)) (hl : asgn.length = 16)
    (c : List (Option Bool)) (ks : List Nat) (ρ : Nat → Bool) (p' : Nat) (ks' : List Nat) :
    HasRuleTD (setTD T p (apply2 unionTS (getTD T p) (construct (asgn ++ c) [ks] []))) ρ p' ks' ↔
      HasRuleTD T ρ p' ks' ∨
        (p' = p ∧ ks' = ks ∧ agrees ρ asgn 0 = true ∧ agrees (fun j => ρ (j + 16)) c 0 = true) := by
  unfold HasRuleTD
  rw [getTD_setTD]
  by_cases h : p = p'
  · subst h
    rw [if_pos rfl, apply2_eval, mem_unionTS, construct_eval_agrees, agrees_append, hl, Nat.zero_add,
      ← Nat.zero_add 16, agrees_shift, Nat.zero_add, and_iff_right rfl, ← Bool.and_eq_true]
    by_cases ha : (agrees ρ asgn 0 && agrees (fun j => ρ (j + 16)) c 0) = true
    · rw [if_pos ha, and_iff_left ha, List.mem_singleton]
    · rw [if_neg ha]
      exact or_congr Iff.rfl ⟨fun h => absurd h List.not_mem_nil, fun h => absurd h.2 ha⟩
  · rw [if_neg h]
    exact (or_iff_left (fun h' => h h'.1.symm)).symm

theorem absTD_add (T : TableTD) (p : Nat) (asgn : List (Option Bool)) (hl : asgn.length = 16) (ks : List Nat)
    (ρ : Nat → Bool) (p' : Nat) (ks' : List Nat) :
    HasRuleTD (addCubeTD T p asgn ks) ρ p' ks' ↔
      HasRuleTD T ρ p' ks' ∨ (p' = p ∧ ks' = ks ∧ agrees ρ asgn 0 = true ∧ arOK ρ ks.length = true) :=
  hasRuleTD_setTD_construct T p asgn hl (arAsgn ks.length) ks ρ p' ks'

/-- a sequence of such `SetMtbdd`s, the arguments read off `c`, the upper cube computed from the number of children by `pre`
(`pre = arAsgn`: a sequence of `AddTransition`s): the old rules and the cubes of the calls -/
theorem hasRuleTD_foldl_construct {γ : Type} (pre : Nat → List (Option Bool)) (kids : γ → List Nat)
    (asgn : γ → List (Option Bool)) (parent : γ → Nat) (ρ : Nat → Bool) (p : Nat) (ks : List Nat) (cs : List γ)
    (hl : ∀ c, c ∈ cs → (asgn c).length = 16) (T : TableTD) :
    HasRuleTD (cs.foldl (fun T c => setTD T (parent c) (apply2 unionTS (getTD T (parent c))
        (construct (asgn c ++ pre (kids c).length) [kids c] []))) T) ρ p ks ↔
      HasRuleTD T ρ p ks ∨ ∃ c, c ∈ cs ∧ kids c = ks ∧ parent c = p ∧ agrees ρ (asgn c) 0 = true ∧
        agrees (fun j => ρ (j + 16)) (pre ks.length) 0 = true :=
  foldl_or_exists _ (HasRuleTD · ρ p ks) _ cs T (fun T c hc =>
    (hasRuleTD_setTD_construct T _ _ (hl c hc) _ _ ρ p ks).trans (or_congr Iff.rfl
      ⟨fun ⟨h1, h2, h3, h4⟩ => ⟨h2.symm, h1.symm, h3, h2 ▸ h4⟩, fun ⟨h1, h2, h3, h4⟩ => ⟨h2.symm, h1.symm, h3, h1 ▸ h4⟩⟩))

theorem absTD_addTransition (T : TableTD) (ks : List Nat) (f p : Nat) (hf : f < 2 ^ 16) (hk : ks.length < 64)
    (g : Nat) (hg : g < 2 ^ 16) (n : Nat) (hn : n < 64) (p' : Nat) (ks' : List Nat) :
    HasRuleTD (addTransitionTD T ks f p) (bitsAr g n) p' ks' ↔
      HasRuleTD T (bitsAr g n) p' ks' ∨ (g = f ∧ n = ks.length ∧ ks' = ks ∧ p' = p) := by
  unfold addTransitionTD
  rw [absTD_add T p (symAsgn f) (symAsgn_length f), bitsAr, agrees_withArity _ _ _ (by rw [symAsgn_length]; omega),
    agrees_symAsgn_lt hg hf, arOK_withArity_lt _ hn hk]
  exact or_congr Iff.rfl ⟨fun ⟨h1, h2, h3, h4⟩ => ⟨h3, h4, h2, h1⟩, fun ⟨h1, h2, h3, h4⟩ => ⟨h4, h3, h1, h2⟩⟩

theorem hasRuleTD_ofRulesTD_gen (rs : List Rule) (ρ : Nat → Bool) (p : Nat) (ks : List Nat) :
    HasRuleTD (ofRulesTD rs) ρ p ks ↔
      ∃ r, r ∈ rs ∧ r.kids = ks ∧ r.parent = p ∧ agrees ρ (symAsgn r.sym) 0 = true ∧ arOK ρ ks.length = true :=
  (hasRuleTD_foldl_construct arAsgn Rule.kids (fun r => symAsgn r.sym) Rule.parent ρ p ks rs
    (fun r _ => symAsgn_length r.sym) []).trans (or_iff_right (hasRuleTD_nil ρ p ks))

theorem absTD_ofRules (rs : List Rule) (hrs : ∀ r, r ∈ rs → r.sym < 2 ^ 16 ∧ r.kids.length < 64) (g : Nat) (hg : g < 2 ^ 16)
    (n : Nat) (hn : n < 64) (p : Nat) (ks : List Nat) :
    HasRuleTD (ofRulesTD rs) (bitsAr g n) p ks ↔ (⟨g, ks, p⟩ : Rule) ∈ rs ∧ n = ks.length := by
  rw [hasRuleTD_ofRulesTD_gen]
  constructor
  · rintro ⟨r, hr, rfl, rfl, h1, h2⟩
    rw [bitsAr, agrees_withArity _ _ _ (Nat.le_of_eq (symAsgn_length _)), agrees_symAsgn_lt hg (hrs r hr).1] at h1
    exact ⟨h1 ▸ hr, (arOK_withArity_lt _ hn (hrs r hr).2).mp h2⟩
  · rintro ⟨hr, rfl⟩
    exact ⟨_, hr, rfl, rfl, agrees_bitsAr_self g _, arOK_withArity_self _ _⟩

theorem absRulesTD_ofRules (rs : List Rule) (syms : List Nat) (hrs : ∀ r, r ∈ rs → r.sym < 2 ^ 16 ∧ r.kids.length < 64)
    (hs : ∀ f, f ∈ syms → f < 2 ^ 16) (r : Rule) : r ∈ absRulesTD syms (ofRulesTD rs) ↔ r.sym ∈ syms ∧ r ∈ rs := by
  rw [mem_absRulesTD]
  constructor
  · rintro ⟨h1, n, hn, h2⟩
    exact ⟨h1, ((absTD_ofRules rs hrs r.sym (hs _ h1) n hn r.parent r.kids).mp h2).1⟩
  · rintro ⟨h1, h2⟩
    exact ⟨h1, r.kids.length, (hrs r h2).2,
      (absTD_ofRules rs hrs r.sym (hs _ h1) _ (hrs r h2).2 r.parent r.kids).mpr ⟨h2, rfl⟩⟩

theorem absTD_union (T₁ T₂ : TableTD) (ρ : Nat → Bool) (p : Nat) (ks : List Nat) :
    HasRuleTD (unionTD T₁ T₂) ρ p ks ↔ HasRuleTD T₁ ρ p ks ∨ HasRuleTD T₂ ρ p ks := by
  unfold HasRuleTD unionTD
  rw [getTD_mapKeys]
  split
  · rw [apply2_eval, mem_unionTS]
  · next hn =>
    simp only [List.mem_append, not_or] at hn
    rw [getTD_not_key hn.1, getTD_not_key hn.2]
    simp [eval]

/-- `UnionDisjointStates`: the MTBDDs of the right operand overwrite those of the left one -/
theorem getTD_unionDisjTD (T₁ T₂ : TableTD) (p : Nat) :
    getTD (unionDisjTD T₁ T₂) p = if p ∈ keysTD T₂ then getTD T₂ p else getTD T₁ p :=
  get_foldl_copy getTD setTD getTD_setTD (fun e : Nat × MTD => e.1) (getTD T₂) T₂ T₁ p

theorem absTD_unionDisj (T₁ T₂ : TableTD) (hd : ∀ p, p ∈ keysTD T₁ → p ∉ keysTD T₂) (ρ : Nat → Bool) (p : Nat)
    (ks : List Nat) : HasRuleTD (unionDisjTD T₁ T₂) ρ p ks ↔ HasRuleTD T₁ ρ p ks ∨ HasRuleTD T₂ ρ p ks := by
  unfold HasRuleTD
  rw [getTD_unionDisjTD]
  split
  · next h2 =>
    have h1 : p ∉ keysTD T₁ := fun h1 => hd p h1 h2
    rw [getTD_not_key h1]; simp [eval]
  · next h2 => rw [getTD_not_key h2]; simp [eval]

theorem absRulesTD_union (syms : List Nat) (T₁ T₂ : TableTD) (r : Rule) :
    r ∈ absRulesTD syms (unionTD T₁ T₂) ↔ r ∈ absRulesTD syms T₁ ∨ r ∈ absRulesTD syms T₂ :=
  mem_absRulesTD_or (absTD_union T₁ T₂) r

/-- the entries of the bottom-up table are what `GetMtbdd` returns (true for the hash map of the C++; in the model: no
duplicate tuple and no entry for the empty tuple, which has its own field) -/
def TableOk (T : Table) : Prop := ∀ e, e ∈ T.entries → e.1 ≠ [] ∧ getE T.entries e.1 = e.2

/-- every MTBDD of the bottom-up table is ordered, reduced and over the 16 symbol variables (true of loaded tables:
`tableWF_ofRules`; for another number of variables: `BddTraverse.TableWFn`) -/
def TableWF (T : Table) : Prop := ∀ ks, WF (T.get ks) ∧ Below 16 (T.get ks)

theorem tableOk_empty : TableOk Table.empty := by intro e he; cases he

theorem tableOk_set {T : Table} (h : TableOk T) (ks : List Nat) (m : MT) : TableOk (T.set ks m) := by
  unfold Table.set
  split
  · exact h
  · next hks =>
    intro e he
    simp only [setE, List.mem_cons, List.mem_filter, bne_iff_ne] at he
    rcases he with rfl | ⟨he, hne⟩
    · exact ⟨hks, by simp [setE, getE]⟩
    · refine ⟨(h e he).1, ?_⟩
      show getE (setE T.entries ks m) e.1 = e.2
      rw [getE_setE, if_neg (fun e' => hne e'.symm)]
      exact (h e he).2

theorem tableOk_addCube {T : Table} (h : TableOk T) (ks : List Nat) (asgn : List (Option Bool)) (p : Nat) :
    TableOk (addCube T ks asgn p) := tableOk_set h _ _

theorem tableOk_ofRules (rs : List Rule) : TableOk (ofRules rs) :=
  List.foldlRecOn rs _ tableOk_empty (fun _ h _ _ => tableOk_addCube h _ _ _)

theorem tableOk_unionDisj {T₁ T₂ : Table} (h1 : TableOk T₁) (h2 : TableOk T₂)
    (hd : ∀ k, k ∈ T₁.entries.map (·.1) → k ∉ T₂.entries.map (·.1)) : TableOk (unionDisj T₁ T₂) := by
  intro e he
  simp only [unionDisj, List.mem_append] at he ⊢
  rw [getE_append]
  rcases he with he | he
  · rw [if_pos (List.mem_map_of_mem he)]
    exact h2 e he
  · rw [if_neg (hd e.1 (List.mem_map_of_mem he))]
    exact h1 e he

theorem tableWF_empty : TableWF Table.empty := by
  intro ks
  unfold Table.get Table.empty
  split <;> exact ⟨trivial, trivial⟩

theorem tableWF_set {T : Table} (h : TableWF T) (ks : List Nat) (m : MT) (hm : WF m ∧ Below 16 m) :
    TableWF (T.set ks m) := by
  intro ks'
  rw [get_set]
  split
  · exact hm
  · exact h ks'

theorem tableWF_addCube {T : Table} (h : TableWF T) (ks : List Nat) (asgn : List (Option Bool)) (hl : asgn.length = 16)
    (p : Nat) : TableWF (addCube T ks asgn p) :=
  tableWF_set h _ _ ⟨apply2_wf _ _ _ (h ks).1 (construct_wf _ _ _),
    apply2_below _ _ _ (h ks).2 (by have := construct_below asgn [p] ([] : List Nat); rwa [hl] at this)⟩

theorem tableWF_ofRules (rs : List Rule) : TableWF (ofRules rs) :=
  List.foldlRecOn rs _ tableWF_empty (fun _ h _ _ => tableWF_addCube h _ _ (symAsgn_length _) _)

theorem getE_mem {es : List (List Nat × MT)} {ks : List Nat} (h : ks ∈ es.map (·.1)) : (ks, getE es ks) ∈ es := by
  induction es with
  | nil => cases h
  | cons e es ih =>
    obtain ⟨k, m⟩ := e
    simp only [getE]
    by_cases hk : k = ks
    · subst hk; simp
    · rw [if_neg hk]
      simp only [List.map_cons, List.mem_cons] at h
      rcases h with h | h
      · exact absurd h.symm hk
      · exact List.mem_cons_of_mem _ (ih h)

theorem pairs_hasRule {T : Table} (hT : TableOk T) (ρ : Nat → Bool) (ks : List Nat) (p : Nat) :
    (∃ e, e ∈ pairs T ∧ e.1 = ks ∧ p ∈ eval e.2 ρ) ↔ HasRule T ρ ks p := by
  unfold HasRule Table.get pairs
  constructor
  · rintro ⟨e, he, rfl, hp⟩
    rcases List.mem_cons.mp he with rfl | he
    · simpa using hp
    · rw [if_neg (hT e he).1, (hT e he).2]; exact hp
  · intro h
    by_cases hk : ks = []
    · rw [if_pos hk] at h
      exact ⟨([], T.nullary), List.mem_cons_self, hk.symm, h⟩
    · have hkey : ks ∈ T.entries.map (·.1) := (List.mem_cons.mp (hasRule_key h)).resolve_left hk
      rw [if_neg hk] at h
      exact ⟨(ks, getE T.entries ks), List.mem_cons_of_mem _ (getE_mem hkey), rfl, h⟩

theorem pairs_get {T : Table} (hT : TableOk T) {e : List Nat × MT} (he : e ∈ pairs T) :
    e.1 ∈ T.keys ∧ e.2 = T.get e.1 := by
  unfold pairs at he
  unfold Table.keys Table.get
  rcases List.mem_cons.mp he with rfl | he
  · exact ⟨List.mem_cons_self, by simp⟩
  · exact ⟨List.mem_cons_of_mem _ (List.mem_map.mpr ⟨e, he, rfl⟩), by rw [if_neg (hT e he).1, (hT e he).2]⟩

theorem mem_invertLeaf {p : Nat} {ks : List Nat} {lhs : List Nat} {rhs : List (List Nat)} {x : List Nat} :
    x ∈ invertLeaf p ks lhs rhs ↔ x ∈ rhs ∨ (x = ks ∧ p ∈ lhs) := by
  by_cases h : p ∈ lhs
  · rw [invertLeaf, if_pos (List.contains_iff_mem.mpr h), mem_insT, or_comm, and_iff_left h]
  · rw [invertLeaf, if_neg (fun hc => h (List.contains_iff_mem.mp hc))]
    exact (or_iff_left (fun h' => h h'.2)).symm

/-- `invert (bdd.ExtendWith (c, 16), acc)` for the state `p` and a pair of the bottom-up table, for any cube `c` on the
upper variables: the tuple of the pair goes to the leaves for the valuations in `c` that have a rule to `p` -/
theorem mem_eval_invert (p : Nat) (ρ : Nat → Bool) (c : List (Option Bool)) (e : List Nat × MT) (acc : MTD)
    (ks : List Nat) :
    ks ∈ eval (apply2 (invertLeaf p e.1) (extendWith c 16 e.2 []) acc) ρ ↔
      ks ∈ eval acc ρ ∨ (ks = e.1 ∧ agrees (fun j => ρ (j + 16)) c 0 = true ∧ p ∈ eval e.2 ρ) := by
  rw [apply2_eval, mem_invertLeaf, extendWith_eval]
  refine or_congr Iff.rfl (and_congr_right fun _ => ?_)
  by_cases ha : agrees (fun j => ρ (j + 16)) c 0 = true
  · rw [if_pos ha, and_iff_right ha]
  · rw [if_neg ha]; exact ⟨fun h => absurd h List.not_mem_nil, fun h => absurd h.1 ha⟩

theorem mem_eval_invert_pre (pre : Nat → List (Option Bool)) (p : Nat) (ρ : Nat → Bool) (ks : List Nat) (acc : MTD)
    (e : List Nat × MT) :
    ks ∈ eval (apply2 (invertLeaf p e.1) (extendWith (pre e.1.length) 16 e.2 []) acc) ρ ↔
      ks ∈ eval acc ρ ∨ (e.1 = ks ∧ agrees (fun j => ρ (j + 16)) (pre ks.length) 0 = true ∧ p ∈ eval e.2 ρ) :=
  (mem_eval_invert p ρ _ e acc ks).trans
    (or_congr Iff.rfl ⟨fun ⟨h, h'⟩ => ⟨h.symm, h ▸ h'⟩, fun ⟨h, h'⟩ => ⟨h.symm, h ▸ h'⟩⟩)

/-- the two loops of `GetTopDownAut` over the collected states `L`, for any loop body `step` that puts the tuple of a pair
into the leaves for the valuations with a rule to the state and the condition `A` on the number of children -/
theorem invert_loops {step : Nat → MTD → List Nat × MT → MTD} {A : (Nat → Bool) → Nat → Prop}
    (hstep : ∀ p ρ ks acc e, ks ∈ eval (step p acc e) ρ ↔ ks ∈ eval acc ρ ∨ (e.1 = ks ∧ A ρ ks.length ∧ p ∈ eval e.2 ρ))
    {T : Table} (hT : TableOk T) (L : List Nat) (ρ : Nat → Bool) (p : Nat) (ks : List Nat) :
    ks ∈ eval (getTD (L.foldl (fun R p => setTD R p ((pairs T).foldl (step p) (getTD R p))) []) p) ρ ↔
      p ∈ L ∧ A ρ ks.length ∧ HasRule T ρ ks p := by
  have inner : ∀ q acc, ks ∈ eval ((pairs T).foldl (step q) acc) ρ ↔
      ks ∈ eval acc ρ ∨ ∃ e, e ∈ pairs T ∧ e.1 = ks ∧ A ρ ks.length ∧ q ∈ eval e.2 ρ :=
    fun q acc => foldl_or_exists _ (fun acc => ks ∈ eval acc ρ) _ _ acc (fun acc e _ => hstep q ρ ks acc e)
  refine (foldl_or_exists _ (fun R => ks ∈ eval (getTD R p) ρ)
    (fun q => q = p ∧ ∃ e, e ∈ pairs T ∧ e.1 = ks ∧ A ρ ks.length ∧ p ∈ eval e.2 ρ) L [] ?_).trans ?_
  · intro R q _
    rw [getTD_setTD]
    by_cases hq : q = p
    · subst hq; rw [if_pos rfl, inner, and_iff_right rfl]
    · rw [if_neg hq]; exact (or_iff_left (fun h => hq h.1)).symm
  · rw [or_iff_right (fun h : ks ∈ eval (getTD [] p) ρ => absurd h List.not_mem_nil), ← pairs_hasRule hT]
    exact ⟨fun ⟨q, hq, e, e', he', h1, h2, h3⟩ => ⟨e ▸ hq, h2, e', he', h1, h3⟩,
      fun ⟨hp, h2, e', he', h1, h3⟩ => ⟨p, hp, rfl, e', he', h1, h2, h3⟩⟩

theorem mem_tdStates {T : Table} {F : List Nat} {p : Nat} :
    p ∈ tdStates T F ↔ p ∈ F ∨ ∃ ks, ks ∈ T.keys ∧ p ∈ ks := by
  simp only [tdStates, mem_dedupL, List.mem_append, List.mem_flatMap, Table.keys, List.mem_cons, List.mem_map]
  constructor
  · rintro (h | ⟨e, he, hp⟩)
    · exact Or.inl h
    · exact Or.inr ⟨e.1, Or.inr ⟨e, he, rfl⟩, hp⟩
  · rintro (h | ⟨ks, (rfl | ⟨e, he, rfl⟩), hp⟩)
    · exact Or.inl h
    · cases hp
    · exact Or.inr ⟨e, he, hp⟩

/-- **the inversion, for every valuation of the 22 variables**: the top-down table has the rule `ρ(ks) → p` iff `p` is one
of the states collected by `GetTopDownAut` (a final state or a state occurring in a tuple of the table), the arity bits
of `ρ` hold `|ks|` (modulo 64) and the bottom-up table has the rule -/
theorem absTD_invert_gen {T : Table} (hT : TableOk T) (F : List Nat) (ρ : Nat → Bool) (p : Nat) (ks : List Nat) :
    HasRuleTD (getTopDownAut T F) ρ p ks ↔ p ∈ tdStates T F ∧ arOK ρ ks.length = true ∧ HasRule T ρ ks p :=
  invert_loops (A := fun ρ n => arOK ρ n = true) (mem_eval_invert_pre arAsgn) hT (tdStates T F) ρ p ks

theorem absTD_invert_withArity {T : Table} (hT : TableOk T) (hW : TableWF T) (F : List Nat) (ρ : Nat → Bool) (n p : Nat)
    (ks : List Nat) :
    HasRuleTD (getTopDownAut T F) (withArity ρ n) p ks ↔
      p ∈ tdStates T F ∧ n % 64 = ks.length % 64 ∧ HasRule T ρ ks p := by
  rw [absTD_invert_gen hT, arOK_withArity]
  unfold HasRule
  rw [eval_withArity ρ _ (hW ks).2]

theorem absTD_invert {T : Table} (hT : TableOk T) (hW : TableWF T) (F : List Nat) (ρ : Nat → Bool) (p : Nat)
    (ks : List Nat) (hp : p ∈ tdStates T F) :
    HasRuleTD (getTopDownAut T F) (withArity ρ ks.length) p ks ↔ HasRule T ρ ks p :=
  (absTD_invert_withArity hT hW F ρ _ p ks).trans ⟨fun h => h.2.2, fun h => ⟨hp, rfl, h⟩⟩

theorem absTD_invert_arity {T : Table} (hT : TableOk T) (F : List Nat) (ρ : Nat → Bool) (p : Nat) (ks : List Nat)
    (n : Nat) (hn : n < 64) (hk : ks.length < 64) (h : HasRuleTD (getTopDownAut T F) (withArity ρ n) p ks) :
    n = ks.length :=
  (arOK_withArity_lt ρ hn hk).mp ((absTD_invert_gen hT F _ p ks).mp h).2.1

theorem absRulesTD_getTopDownAut {T : Table} (hT : TableOk T) (hW : TableWF T) (F syms : List Nat) (r : Rule) :
    r ∈ absRulesTD syms (getTopDownAut T F) ↔ r ∈ absRules syms T ∧ r.parent ∈ tdStates T F := by
  rw [mem_absRulesTD, mem_absRules]
  simp only [bitsAr, absTD_invert_withArity hT hW]
  constructor
  · rintro ⟨hs, n, _, h1, _, h3⟩
    exact ⟨⟨hs, h3⟩, h1⟩
  · rintro ⟨⟨hs, h3⟩, h1⟩
    exact ⟨hs, r.kids.length % 64, Nat.mod_lt _ (by decide), h1, Nat.mod_mod _ _, h3⟩

theorem tdStates_closed (syms : List Nat) (T : Table) (F : List Nat) : TdClosed (absRules syms T) (tdStates T F) := by
  intro r hr _ k hk
  exact mem_tdStates.mpr (Or.inr ⟨r.kids, hasRule_key (mem_absRules.mp hr).2, hk⟩)

theorem getTopDownAut_lang {T : Table} (hT : TableOk T) (hW : TableWF T) (F syms : List Nat) (t : Tree) :
    accepts (absTD syms (getTopDownAut T F) F) t = accepts (absBU syms T F) t := by
  rw [← keepParents_lang (absBU syms T F) (tdStates T F) (fun q hq => mem_tdStates.mpr (Or.inl hq))
    (tdStates_closed syms T F) t]
  apply Isx.accepts_congr_sets
  · intro r
    show r ∈ absRulesTD syms (getTopDownAut T F) ↔ _
    rw [absRulesTD_getTopDownAut hT hW]
    simp only [keepParents, absBU, List.mem_filter, List.contains_iff_mem]
  · intro q; exact Iff.rfl

/-- the rules that `GetTopDownAut` drops: the parent is neither final nor a child anywhere, so it is unreachable top-down -/
theorem getTopDownAut_dropped (T : Table) (syms F : List Nat) {p : Nat} (hp : p ∉ tdStates T F) :
    ¬ TdReachable (absBU syms T F) p := by
  intro h
  exact hp (tdReachable_sub_closed (A := absBU syms T F) (fun q hq => mem_tdStates.mpr (Or.inl hq))
    (tdStates_closed syms T F) _ h)

def TableTDWF (T : TableTD) : Prop := ∀ p, WF (getTD T p)

/-- the symbols `syms` cover the table: every valuation that has a rule is (as far as the rule goes) one of the
valuations of a symbol of `syms` with some arity below 64 -/
def SymsCompleteTD (syms : List Nat) (T : TableTD) : Prop :=
  ∀ ρ p ks, HasRuleTD T ρ p ks → ∃ f, f ∈ syms ∧ ∃ n, n < 64 ∧ HasRuleTD T (bitsAr f n) p ks

theorem mem_leaves {α : Type} {m : Node (List α)} (hm : WF m) {x : α} :
    x ∈ (voidApply1 m).flatMap id ↔ ∃ ρ, x ∈ eval m ρ := by
  simp only [List.mem_flatMap, id]
  constructor
  · rintro ⟨l, hl, hx⟩
    obtain ⟨ρ, e⟩ := (mem_voidApply1 hm).mp hl
    exact ⟨ρ, by rw [e]; exact hx⟩
  · rintro ⟨ρ, h⟩
    exact ⟨eval m ρ, (mem_voidApply1 hm).mpr ⟨ρ, rfl⟩, h⟩

theorem mem_leafTuples {m : MTD} (hm : WF m) {ks : List Nat} : ks ∈ leafTuples m ↔ ∃ ρ, ks ∈ eval m ρ := mem_leaves hm

theorem mem_skelTD {T : TableTD} {F : List Nat} (hT : TableTDWF T) {r : Rule} :
    r ∈ (skelTD T F).rules ↔ r.sym = 0 ∧ ∃ ρ, HasRuleTD T ρ r.parent r.kids := by
  simp only [skelTD, List.mem_flatMap, List.mem_map]
  constructor
  · rintro ⟨p, _, ks, hks, rfl⟩
    exact ⟨rfl, (mem_leafTuples (hT p)).mp hks⟩
  · rintro ⟨h0, ρ, h⟩
    refine ⟨r.parent, hasRuleTD_key h, r.kids, (mem_leafTuples (hT _)).mpr ⟨ρ, h⟩, ?_⟩
    cases r; simp only at h0; subst h0; rfl

theorem sameSkel_skelTD {syms : List Nat} {T : TableTD} (F : List Nat) (hT : TableTDWF T) (hc : SymsCompleteTD syms T) :
    SameSkel (skelTD T F) (absTD syms T F) := by
  refine ⟨fun r hr => ?_, fun r hr => ?_⟩
  · obtain ⟨_, ρ, h⟩ := (mem_skelTD hT).mp hr
    obtain ⟨f, hf, n, hn, h'⟩ := hc ρ _ _ h
    exact ⟨⟨f, r.kids, r.parent⟩, mem_absRulesTD.mpr ⟨hf, n, hn, h'⟩, rfl, rfl⟩
  · obtain ⟨_, n, _, h⟩ := mem_absRulesTD.mp hr
    exact ⟨⟨0, r.kids, r.parent⟩, (mem_skelTD hT).mpr ⟨rfl, _, h⟩, rfl, rfl⟩

theorem apply1_id_eval {α : Type} [DecidableEq α] (m : Node α) (ρ : Nat → Bool) : eval (apply1 id m) ρ = eval m ρ := by
  rw [apply1_eval]; rfl

theorem hasRuleTD_removeUnreachableTD (T : TableTD) (F : List Nat) (ρ : Nat → Bool) (p : Nat) (ks : List Nat) :
    HasRuleTD (removeUnreachableTD T F) ρ p ks ↔ HasRuleTD T ρ p ks ∧ p ∈ tdReach (skelTD T F) := by
  unfold HasRuleTD removeUnreachableTD
  rw [getTD_mapKeys (tdReach (skelTD T F)) (fun p => apply1 id (getTD T p))]
  split
  · next h => rw [apply1_id_eval]; exact ⟨fun h' => ⟨h', h⟩, fun h' => h'.1⟩
  · next h => simp [eval, h]

theorem wf_getTD_mapKeys (L : List Nat) {g : Nat → MTD} (h : ∀ p, WF (g p)) (p : Nat) :
    WF (getTD (L.map (fun p => (p, g p))) p) := by
  rw [getTD_mapKeys]
  by_cases hp : p ∈ L
  · rw [if_pos hp]; exact h p
  · rw [if_neg hp]; trivial

theorem tableTDWF_removeUnreachableTD {T : TableTD} (hT : TableTDWF T) (F : List Nat) :
    TableTDWF (removeUnreachableTD T F) := by
  unfold removeUnreachableTD
  -- `intro` and `exact` bring the goal to weak head normal form, which would run `tdReach`
  generalize tdReach (skelTD T F) = L
  exact fun p => wf_getTD_mapKeys L (fun p => apply1_wf _ (hT p)) p

theorem symsCompleteTD_sub {syms : List Nat} {T T' : TableTD} (C : Nat → List Nat → Prop)
    (h : ∀ ρ p ks, HasRuleTD T' ρ p ks ↔ HasRuleTD T ρ p ks ∧ C p ks) (hc : SymsCompleteTD syms T) :
    SymsCompleteTD syms T' := by
  intro ρ p ks hr
  obtain ⟨h1, h2⟩ := (h ρ p ks).mp hr
  obtain ⟨f, hf, n, hn, h'⟩ := hc ρ p ks h1
  exact ⟨f, hf, n, hn, (h _ p ks).mpr ⟨h', h2⟩⟩

theorem absTD_removeUnreachable {syms : List Nat} {T : TableTD} (F : List Nat) (hT : TableTDWF T)
    (hc : SymsCompleteTD syms T) :
    SetEqTA (absTD syms (removeUnreachableTD T F) F) (removeUnreachable (absTD syms T F)) := by
  refine ⟨fun r => ?_, fun q => Iff.rfl⟩
  rw [mem_rules_removeUnreachable, ← mem_tdReach_skel (sameSkel_skelTD F hT hc) (fun q => Iff.rfl), absTD_rules,
    absTD_rules]
  exact mem_absRulesTD_and (hasRuleTD_removeUnreachableTD T F) r

theorem removeUnreachableTD_lang {syms : List Nat} {T : TableTD} (F : List Nat) (hT : TableTDWF T)
    (hc : SymsCompleteTD syms T) (t : Tree) :
    accepts (absTD syms (removeUnreachableTD T F) F) t = accepts (absTD syms T F) t := by
  rw [(absTD_removeUnreachable F hT hc).lang, removeUnreachable_lang]

theorem mem_usefulTD {syms : List Nat} {T : TableTD} (F : List Nat) (hT : TableTDWF T) (hc : SymsCompleteTD syms T)
    (q : Nat) : q ∈ usefulTD T F ↔ q ∈ prodStates (absTD syms T F) ∧ q ∈ tdReach (absTD syms T F) := by
  unfold usefulTD
  rw [mem_prodStates_skel (sameSkel_removeUnreachable (sameSkel_skelTD F hT hc) (fun q => Iff.rfl)),
    mem_prodStates_removeUnreachable]

theorem mem_restrictLeaf {U : List Nat} {l : List (List Nat)} {ks : List Nat} :
    ks ∈ restrictLeaf U l ↔ ks ∈ l ∧ ∀ k, k ∈ ks → k ∈ U := by
  simp only [restrictLeaf, mem_normT, List.mem_filter, List.all_eq_true, List.contains_iff_mem]

theorem hasRuleTD_restrictTD (T : TableTD) (U : List Nat) (ρ : Nat → Bool) (p : Nat) (ks : List Nat) :
    HasRuleTD (restrictTD T U) ρ p ks ↔ HasRuleTD T ρ p ks ∧ p ∈ U ∧ ∀ k, k ∈ ks → k ∈ U := by
  unfold HasRuleTD restrictTD
  rw [getTD_mapKeys _ (fun p => apply1 (restrictLeaf U) (getTD T p))]
  by_cases hp : p ∈ (keysTD T).filter (fun p => U.contains p)
  · rw [if_pos hp, apply1_eval, mem_restrictLeaf]
    exact and_congr_right fun _ => (and_iff_right (List.contains_iff_mem.mp (List.mem_filter.mp hp).2)).symm
  · rw [if_neg hp]
    exact ⟨fun h => absurd h List.not_mem_nil,
      fun ⟨h, hU, _⟩ => absurd (List.mem_filter.mpr ⟨hasRuleTD_key h, List.contains_iff_mem.mpr hU⟩) hp⟩

theorem tableTDWF_restrictTD {T : TableTD} (hT : TableTDWF T) (U : List Nat) : TableTDWF (restrictTD T U) :=
  fun p => wf_getTD_mapKeys _ (fun p => apply1_wf _ (hT p)) p

theorem absTD_restrictTD (syms : List Nat) (T : TableTD) (F U : List Nat) :
    SetEqTA (absTD syms (restrictTD T U) (F.filter (fun q => U.contains q))) (restrict (absTD syms T F) U) := by
  refine ⟨fun r => ?_, fun q => Iff.rfl⟩
  rw [mem_rules_restrict, absTD_rules, absTD_rules]
  exact mem_absRulesTD_and (hasRuleTD_restrictTD T U) r

theorem removeUselessTD_eq (T : TableTD) (F : List Nat) : removeUselessTD T F =
    (removeUnreachableTD (restrictTD T (usefulTD T F)) (F.filter (fun q => (usefulTD T F).contains q)),
      F.filter (fun q => (usefulTD T F).contains q)) := rfl

theorem absTD_removeUseless {syms : List Nat} {T : TableTD} (F : List Nat) (hT : TableTDWF T)
    (hc : SymsCompleteTD syms T) :
    SetEqTA (absTD syms (removeUselessTD T F).1 (removeUselessTD T F).2) (removeUseless (absTD syms T F)) := by
  rw [removeUselessTD_eq]
  dsimp only
  exact ((absTD_removeUnreachable _ (tableTDWF_restrictTD hT _)
    (symsCompleteTD_sub _ (hasRuleTD_restrictTD T (usefulTD T F)) hc)).trans
      (setEqTA_removeUnreachable (absTD_restrictTD syms T F (usefulTD T F)))).trans
    (removeUseless_alt _ _ (mem_usefulTD F hT hc))

theorem removeUselessTD_lang {syms : List Nat} {T : TableTD} (F : List Nat) (hT : TableTDWF T)
    (hc : SymsCompleteTD syms T) (t : Tree) :
    accepts (absTD syms (removeUselessTD T F).1 (removeUselessTD T F).2) t = accepts (absTD syms T F) t := by
  rw [(absTD_removeUseless F hT hc).lang, removeUseless_lang]

/-- **"leaving no useless state"** (top-down): every state and every rule of the abstraction of the result of
`RemoveUselessStates` takes part in an accepting run -/
theorem removeUselessTD_useful {syms : List Nat} {T : TableTD} (F : List Nat) (hT : TableTDWF T)
    (hc : SymsCompleteTD syms T) :
    (∀ q, Occurs (absTD syms (removeUselessTD T F).1 (removeUselessTD T F).2) q →
      UsefulState (absTD syms (removeUselessTD T F).1 (removeUselessTD T F).2) q) ∧
    (∀ r, r ∈ (absTD syms (removeUselessTD T F).1 (removeUselessTD T F).2).rules →
      UsefulRule (absTD syms (removeUselessTD T F).1 (removeUselessTD T F).2) r) :=
  (absTD_removeUseless F hT hc).allUseful ⟨removeUseless_post_state _, removeUseless_post_rule _⟩

def SymsCompleteBU (syms : List Nat) (T : Table) : Prop :=
  ∀ ρ ks p, HasRule T ρ ks p → ∃ f, f ∈ syms ∧ HasRule T (bits f) ks p

theorem mem_leafParents {m : MT} (hm : WF m) {p : Nat} : p ∈ leafParents m ↔ ∃ ρ, p ∈ eval m ρ := mem_leaves hm

theorem mem_skelBU {T : Table} {F : List Nat} (hT : TableWF T) {r : Rule} :
    r ∈ (skelBU T F).rules ↔ r.sym = 0 ∧ ∃ ρ, HasRule T ρ r.kids r.parent := by
  simp only [skelBU, List.mem_flatMap, List.mem_map]
  constructor
  · rintro ⟨ks, _, p, hp, rfl⟩
    exact ⟨rfl, (mem_leafParents (hT ks).1).mp hp⟩
  · rintro ⟨h0, ρ, h⟩
    refine ⟨r.kids, hasRule_key h, r.parent, (mem_leafParents (hT _).1).mpr ⟨ρ, h⟩, ?_⟩
    cases r; simp only at h0; subst h0; rfl

theorem sameSkel_skelBU {syms : List Nat} {T : Table} (F : List Nat) (hT : TableWF T) (hc : SymsCompleteBU syms T) :
    SameSkel (skelBU T F) (absBU syms T F) := by
  refine ⟨fun r hr => ?_, fun r hr => ?_⟩
  · obtain ⟨_, ρ, h⟩ := (mem_skelBU hT).mp hr
    obtain ⟨f, hf, h'⟩ := hc ρ _ _ h
    exact ⟨⟨f, r.kids, r.parent⟩, mem_absRules.mpr ⟨hf, h'⟩, rfl, rfl⟩
  · obtain ⟨_, h⟩ := mem_absRules.mp hr
    exact ⟨⟨0, r.kids, r.parent⟩, (mem_skelBU hT).mpr ⟨rfl, _, h⟩, rfl, rfl⟩

theorem removeUnreachableBU_eq (T : Table) (F : List Nat) : removeUnreachableBU T F =
    (⟨T.nullary, T.entries.filter (fun e => e.1.all (fun q => (prodStates (skelBU T F)).contains q))⟩,
      F.filter (fun q => (prodStates (skelBU T F)).contains q)) := rfl

theorem hasRule_removeUnreachableBU (T : Table) (F : List Nat) (ρ : Nat → Bool) (ks : List Nat) (p : Nat) :
    HasRule (removeUnreachableBU T F).1 ρ ks p ↔
      HasRule T ρ ks p ∧ ∀ k, k ∈ ks → k ∈ prodStates (skelBU T F) := by
  rw [removeUnreachableBU_eq]
  unfold HasRule Table.get
  by_cases hk : ks = []
  · subst hk; simp
  · simp only [hk, if_false]
    rw [getE_filter_keys (fun ks => ks.all (fun q => (prodStates (skelBU T F)).contains q))]
    simp only [List.all_eq_true, List.contains_iff_mem]
    by_cases h : ∀ k, k ∈ ks → k ∈ prodStates (skelBU T F)
    · rw [if_pos h]; exact (and_iff_left h).symm
    · rw [if_neg h]; exact ⟨fun h' => absurd h' List.not_mem_nil, fun h' => absurd h'.2 h⟩

theorem absBU_removeUnreachable {syms : List Nat} {T : Table} (F : List Nat) (hT : TableWF T)
    (hc : SymsCompleteBU syms T) :
    SetEqTA (absBU syms (removeUnreachableBU T F).1 (removeUnreachableBU T F).2)
      (restrict (absBU syms T F) (prodStates (absBU syms T F))) := by
  have hP := mem_prodStates_skel (sameSkel_skelBU F hT hc)
  refine ⟨fun r => ?_, fun q => ?_⟩
  · rw [mem_rules_restrict, absBU_rules, absBU_rules, mem_absRules_and (hasRule_removeUnreachableBU T F)]
    simp only [hP]
    exact and_congr_right fun hr => (and_iff_right_of_imp (prodStates_closed (absBU syms T F) r hr)).symm
  · rw [removeUnreachableBU_eq, mem_final_restrict]
    simp only [absBU, List.mem_filter, List.contains_iff_mem, hP]

theorem removeUnreachableBU_lang {syms : List Nat} {T : Table} (F : List Nat) (hT : TableWF T)
    (hc : SymsCompleteBU syms T) (t : Tree) :
    accepts (absBU syms (removeUnreachableBU T F).1 (removeUnreachableBU T F).2) t = accepts (absBU syms T F) t := by
  rw [(absBU_removeUnreachable F hT hc).lang, restrict_lang _ _ (prodStates_closed _)]

theorem mem_usefulLeaf {U l : List Nat} {p : Nat} : p ∈ usefulLeaf U l ↔ p ∈ l ∧ p ∈ U := by
  simp only [usefulLeaf, List.mem_filter, List.contains_iff_mem]

theorem removeUselessBU_eq (T : Table) (F : List Nat) : removeUselessBU T F =
    (⟨apply1 (usefulLeaf (tdReach (restrict (skelBU T F) (prodStates (skelBU T F))))) T.nullary,
      (T.entries.filter (fun e => e.1.all (fun q =>
        (tdReach (restrict (skelBU T F) (prodStates (skelBU T F)))).contains q))).map
          (fun e => (e.1, apply1 (usefulLeaf (tdReach (restrict (skelBU T F) (prodStates (skelBU T F))))) e.2))⟩,
      F.filter (fun q => (prodStates (skelBU T F)).contains q)) := rfl

theorem hasRule_removeUselessBU (T : Table) (F : List Nat) (ρ : Nat → Bool) (ks : List Nat) (p : Nat) :
    HasRule (removeUselessBU T F).1 ρ ks p ↔
      HasRule T ρ ks p ∧ p ∈ tdReach (restrict (skelBU T F) (prodStates (skelBU T F))) ∧
        ∀ k, k ∈ ks → k ∈ tdReach (restrict (skelBU T F) (prodStates (skelBU T F))) := by
  rw [removeUselessBU_eq]
  generalize tdReach (restrict (skelBU T F) (prodStates (skelBU T F))) = U
  unfold HasRule Table.get
  by_cases hk : ks = []
  · subst hk
    simp only [if_true, apply1_eval, mem_usefulLeaf, List.not_mem_nil, false_implies, implies_true, and_true]
  · simp only [hk, if_false]
    rw [getE_map_vals _ rfl, getE_filter_keys (fun ks => ks.all (fun q => U.contains q)), apply1_eval, mem_usefulLeaf]
    simp only [List.all_eq_true, List.contains_iff_mem]
    by_cases h : ∀ k, k ∈ ks → k ∈ U
    · rw [if_pos h]; exact and_congr_right fun _ => (and_iff_left h).symm
    · rw [if_neg h]; exact ⟨fun h' => absurd h'.1 List.not_mem_nil, fun h' => absurd h'.2.2 h⟩

theorem absBU_removeUseless {syms : List Nat} {T : Table} (F : List Nat) (hT : TableWF T)
    (hc : SymsCompleteBU syms T) :
    SetEqTA (absBU syms (removeUselessBU T F).1 (removeUselessBU T F).2) (removeUseless (absBU syms T F)) := by
  have hS := sameSkel_skelBU F hT hc
  have hP := mem_prodStates_skel hS
  have hU : ∀ q, q ∈ tdReach (restrict (skelBU T F) (prodStates (skelBU T F))) ↔ q ∈ usefulStates (absBU syms T F) := by
    intro q
    rw [usefulStates_eq]
    refine mem_tdReach_skel (sameSkel_restrict hS hP) (fun q => ?_) q
    rw [mem_final_restrict, mem_final_restrict, hP]
    exact Iff.rfl
  refine ⟨fun r => ?_, fun q => ?_⟩
  · rw [removeUseless_rules_iff, absBU_rules, absBU_rules, mem_absRules_and (hasRule_removeUselessBU T F)]
    simp only [hU]
  · rw [removeUseless_eq, removeUselessBU_eq, removeUnreachable_final, mem_final_restrict]
    simp only [absBU, List.mem_filter, List.contains_iff_mem, hP]

theorem removeUselessBU_lang {syms : List Nat} {T : Table} (F : List Nat) (hT : TableWF T)
    (hc : SymsCompleteBU syms T) (t : Tree) :
    accepts (absBU syms (removeUselessBU T F).1 (removeUselessBU T F).2) t = accepts (absBU syms T F) t := by
  rw [(absBU_removeUseless F hT hc).lang, removeUseless_lang]

/-- **"leaving no useless state"** (bottom-up) -/
theorem removeUselessBU_useful {syms : List Nat} {T : Table} (F : List Nat) (hT : TableWF T)
    (hc : SymsCompleteBU syms T) :
    (∀ q, Occurs (absBU syms (removeUselessBU T F).1 (removeUselessBU T F).2) q →
      UsefulState (absBU syms (removeUselessBU T F).1 (removeUselessBU T F).2) q) ∧
    (∀ r, r ∈ (absBU syms (removeUselessBU T F).1 (removeUselessBU T F).2).rules →
      UsefulRule (absBU syms (removeUselessBU T F).1 (removeUselessBU T F).2) r) :=
  (absBU_removeUseless F hT hc).allUseful ⟨removeUseless_post_state _, removeUseless_post_rule _⟩

theorem symsCompleteBU_ofRules {syms : List Nat} {rs : List Rule} (hs : ∀ r, r ∈ rs → r.sym ∈ syms) :
    SymsCompleteBU syms (ofRules rs) := by
  intro ρ ks p h
  obtain ⟨r, hr, h1, h2, _⟩ := (hasRule_ofRules rs ρ ks p).mp h
  exact ⟨r.sym, hs r hr, (hasRule_ofRules rs _ ks p).mpr ⟨r, hr, h1, h2, agrees_bits_self _⟩⟩

theorem symsCompleteTD_ofRulesTD {syms : List Nat} {rs : List Rule} (hs : ∀ r, r ∈ rs → r.sym ∈ syms) :
    SymsCompleteTD syms (ofRulesTD rs) := by
  intro ρ p ks h
  obtain ⟨r, hr, h1, h2, _, _⟩ := (hasRuleTD_ofRulesTD_gen rs ρ p ks).mp h
  exact ⟨r.sym, hs r hr, ks.length % 64, Nat.mod_lt _ (by decide),
    (hasRuleTD_ofRulesTD_gen rs _ p ks).mpr ⟨r, hr, h1, h2, agrees_bitsAr_self _ _, arOK_withArity_mod _ _⟩⟩

def TableTDBelow (T : TableTD) : Prop := ∀ p, Below 22 (getTD T p)

theorem tableTD_nil : TableTDWF [] ∧ TableTDBelow [] := ⟨fun _ => trivial, fun _ => trivial⟩

theorem tableTD_set {T : TableTD} (h : TableTDWF T ∧ TableTDBelow T) (p : Nat) (m : MTD) (hm : WF m ∧ Below 22 m) :
    TableTDWF (setTD T p m) ∧ TableTDBelow (setTD T p m) := by
  constructor
  · intro p'; rw [getTD_setTD]; split
    · exact hm.1
    · exact h.1 p'
  · intro p'; rw [getTD_setTD]; split
    · exact hm.2
    · exact h.2 p'

theorem tableTD_addCube {T : TableTD} (h : TableTDWF T ∧ TableTDBelow T) (p : Nat) (asgn : List (Option Bool))
    (hl : asgn.length = 16) (ks : List Nat) :
    TableTDWF (addCubeTD T p asgn ks) ∧ TableTDBelow (addCubeTD T p asgn ks) :=
  tableTD_set h _ _ ⟨apply2_wf _ _ _ (h.1 p) (construct_wf _ _ _),
    apply2_below _ _ _ (h.2 p) (by
      have := construct_below (asgn ++ arAsgn ks.length) [ks] ([] : List (List Nat))
      rwa [List.length_append, hl, arAsgn_length] at this)⟩

theorem tableTD_ofRulesTD (rs : List Rule) : TableTDWF (ofRulesTD rs) ∧ TableTDBelow (ofRulesTD rs) :=
  List.foldlRecOn (motive := fun T => TableTDWF T ∧ TableTDBelow T) rs _ tableTD_nil
    (fun _ h _ _ => tableTD_addCube h _ _ (symAsgn_length _) _)

theorem pairs_wf {T : Table} (hT : TableOk T) (hW : TableWF T) : ∀ e, e ∈ pairs T → WF e.2 ∧ Below 16 e.2 := by
  intro e he
  rcases List.mem_cons.mp he with rfl | he
  · have := hW []; simpa [Table.get] using this
  · have := hW e.1
    unfold Table.get at this
    rwa [if_neg (hT e he).1, (hT e he).2] at this

/-- the `ExtendWith` call of `GetTopDownAut`: the arity prefix is put on the variables 16 … 21 -/
theorem extendWith_arAsgn_wf {m : MT} (hm : WF m ∧ Below 16 m) (n : Nat) :
    WF (extendWith (arAsgn n) 16 m []) ∧ Below 22 (extendWith (arAsgn n) 16 m []) := by
  have h := constructOn_wf (fun x => x + 16) (fun i => by omega) (arAsgn n) m ([] : List Nat) hm.1 (by simpa using hm.2)
  rwa [arAsgn_length] at h

theorem invertStep_wf (p : Nat) {acc : MTD} {e : List Nat × MT} (ha : WF acc ∧ Below 22 acc)
    (he : WF e.2 ∧ Below 16 e.2) : WF (invertStep p acc e) ∧ Below 22 (invertStep p acc e) :=
  ⟨apply2_wf _ _ _ (extendWith_arAsgn_wf he _).1 ha.1, apply2_below _ _ _ (extendWith_arAsgn_wf he _).2 ha.2⟩

theorem tableTD_getTopDownAut_of_pairs {T : Table} (h : ∀ e, e ∈ pairs T → WF e.2 ∧ Below 16 e.2) (F : List Nat) :
    TableTDWF (getTopDownAut T F) ∧ TableTDBelow (getTopDownAut T F) :=
  List.foldlRecOn (motive := fun R => TableTDWF R ∧ TableTDBelow R) _ _ tableTD_nil (fun _ hR q _ => tableTD_set hR _ _
    (List.foldlRecOn (motive := fun m => WF m ∧ Below 22 m) _ _ ⟨hR.1 q, hR.2 q⟩
      (fun _ ha e he => invertStep_wf q ha (h e he))))

theorem tableTD_getTopDownAut {T : Table} (hT : TableOk T) (hW : TableWF T) (F : List Nat) :
    TableTDWF (getTopDownAut T F) ∧ TableTDBelow (getTopDownAut T F) :=
  tableTD_getTopDownAut_of_pairs (pairs_wf hT hW) F

theorem symsCompleteTD_getTopDownAut {syms : List Nat} {T : Table} (hT : TableOk T) (hW : TableWF T)
    (hc : SymsCompleteBU syms T) (F : List Nat) : SymsCompleteTD syms (getTopDownAut T F) := by
  intro ρ p ks h
  obtain ⟨h1, _, h3⟩ := (absTD_invert_gen hT F ρ p ks).mp h
  obtain ⟨f, hf, h'⟩ := hc ρ ks p h3
  exact ⟨f, hf, ks.length % 64, Nat.mod_lt _ (by decide),
    (absTD_invert_withArity hT hW F _ _ p ks).mpr ⟨h1, Nat.mod_mod _ _, h'⟩⟩

theorem symsCompleteBU_sub {syms : List Nat} {T T' : Table} (C : List Nat → Nat → Prop)
    (h : ∀ ρ ks p, HasRule T' ρ ks p ↔ HasRule T ρ ks p ∧ C ks p) (hc : SymsCompleteBU syms T) :
    SymsCompleteBU syms T' := by
  intro ρ ks p hr
  obtain ⟨h1, h2⟩ := (h ρ ks p).mp hr
  obtain ⟨f, hf, h'⟩ := hc ρ ks p h1
  exact ⟨f, hf, (h _ ks p).mpr ⟨h', h2⟩⟩

/-- a number below `2 ^ k` with the bits `g 0 … g (k - 1)`: `Glue.toNum` of the assignment that spells them -/
theorem exists_bits (g : Nat → Bool) (k : Nat) : ∃ n, n < 2 ^ k ∧ ∀ j, j < k → n.testBit j = g j := by
  have hc : Glue.isConcrete ((List.range k).map fun j => some (g j)) = true := by
    simp [Glue.isConcrete]
  have e := Glue.bitsLE_toNum _ hc
  rw [List.length_map, List.length_range] at e
  refine ⟨Glue.toNum ((List.range k).map fun j => some (g j)), ?_, fun j hj => ?_⟩
  · have := Glue.toNum_bitsLE k (Glue.toNum ((List.range k).map fun j => some (g j)))
    rw [e] at this
    rw [this]; exact Nat.mod_lt _ (Nat.two_pow_pos k)
  · have := Glue.bitsLE_getElem? k (Glue.toNum ((List.range k).map fun j => some (g j))) j hj
    rw [e, List.getElem?_map, List.getElem?_range hj] at this
    exact (Option.some.inj (Option.some.inj this)).symm

/-- the accumulator of `CondColApplyFunctor` after the traversal of the MTBDD of a state and the BDD of the symbol `f`:
the tuples of the rules for the valuations whose symbol part is `f`, for any value of the arity bits -/
theorem mem_collectTD {m : MTD} (hm : WF m) (f : Nat) (ks : List Nat) :
    ks ∈ collectTD m f ↔ ∃ ρ, agrees ρ (symAsgn f) 0 = true ∧ ks ∈ eval m ρ :=
  mem_condCol hm f ks

theorem mem_collectTD_iff {m : MTD} (hm : WF m) (hb : Below 22 m) (f : Nat) (ks : List Nat) :
    ks ∈ collectTD m f ↔ ∃ n, n < 64 ∧ ks ∈ eval m (bitsAr f n) := by
  rw [mem_collectTD hm]
  constructor
  · rintro ⟨ρ, h1, h2⟩
    obtain ⟨n, hn, hbits⟩ := exists_bits (fun j => ρ (j + 16)) 6
    refine ⟨n, hn, ?_⟩
    have h16 := (agrees_symAsgn_iff ρ f).mp h1
    rw [eval_congr_of_below (x := 22) (ρ' := ρ) ?_ hb]
    · exact h2
    · intro i hi
      unfold bitsAr withArity bits
      by_cases h : i < 16
      · rw [if_pos h]; exact (h16 i h).symm
      · rw [if_neg h, hbits _ (by omega)]
        congr 1; omega
  · rintro ⟨n, _, h⟩
    exact ⟨bitsAr f n, agrees_bitsAr_self f n, h⟩

theorem collectTD_absRulesTD {T : TableTD} (hT : TableTDWF T) (hb : TableTDBelow T) (f p : Nat) (ks : List Nat) :
    ks ∈ collectTD (getTD T p) f ↔ (⟨f, ks, p⟩ : Rule) ∈ absRulesTD [f] T := by
  rw [mem_collectTD_iff (hT p) (hb p), mem_absRulesTD]
  simp [HasRuleTD]

theorem key_of_leafTuples {T : TableTD} {p : Nat} {ks : List Nat} (h : ks ∈ leafTuples (getTD T p)) : p ∈ keysTD T := by
  apply Classical.byContradiction
  intro hn
  rw [getTD_not_key hn] at h
  simp [leafTuples, voidApply1] at h

theorem skelTD_rule {T : TableTD} {F : List Nat} {p : Nat} {ks : List Nat} (h : ks ∈ leafTuples (getTD T p)) :
    (⟨0, ks, p⟩ : Rule) ∈ (skelTD T F).rules := by
  simp only [skelTD, List.mem_flatMap, List.mem_map]
  exact ⟨p, key_of_leafTuples h, ks, h, rfl⟩

theorem skelTD_rule_inv {T : TableTD} {F : List Nat} {r : Rule} (h : r ∈ (skelTD T F).rules) :
    r.kids ∈ leafTuples (getTD T r.parent) := by
  simp only [skelTD, List.mem_flatMap, List.mem_map] at h
  obtain ⟨p, _, ks, hks, rfl⟩ := h
  exact hks

/-- the invariant of the loop: `ws` the stack, `processed` the hash set of the functor, `R` the result so far -/
structure WlInv (T : TableTD) (F ws processed : List Nat) (R : TableTD) : Prop where
  ws_reach : ∀ q, q ∈ ws → TdReachable (skelTD T F) q
  done : ∀ p, p ∈ keysTD R → TdReachable (skelTD T F) p ∧ getTD R p = apply1 id (getTD T p)
  fin : ∀ q, q ∈ F → q ∈ ws ∨ q ∈ keysTD R
  kids : ∀ p, p ∈ keysTD R → ∀ ks, ks ∈ leafTuples (getTD T p) → ∀ k, k ∈ ks → k ∈ processed
  proc : ∀ q, q ∈ processed → q ∈ ws ∨ q ∈ keysTD R

theorem wlInv_init (T : TableTD) (F : List Nat) : WlInv T F F.reverse [] [] where
  ws_reach := fun q hq => TdReachable.final (List.mem_reverse.mp hq)
  done := fun p hp => by cases hp
  fin := fun q hq => Or.inl (List.mem_reverse.mpr hq)
  kids := fun p hp => by cases hp
  proc := fun q hq => by cases hq

theorem mem_wlNew {T : TableTD} {p : Nat} {processed : List Nat} {q : Nat} :
    q ∈ dedupL (((leafTuples (getTD T p)).flatMap id).filter (fun q => !processed.contains q)) ↔
      (∃ ks, ks ∈ leafTuples (getTD T p) ∧ q ∈ ks) ∧ q ∉ processed := by
  simp only [mem_dedupL, List.mem_filter, List.mem_flatMap, id, Bool.not_eq_true', ← Bool.not_eq_true,
    List.contains_iff_mem]

theorem wlInv_step {T : TableTD} {F ws processed : List Nat} {R : TableTD} {p : Nat}
    (h : WlInv T F (p :: ws) processed R) :
    WlInv T F
      ((dedupL (((leafTuples (getTD T p)).flatMap id).filter (fun q => !processed.contains q))).reverse ++ ws)
      (processed ++ dedupL (((leafTuples (getTD T p)).flatMap id).filter (fun q => !processed.contains q)))
      (setTD R p (apply1 id (getTD T p))) := by
  have hp : TdReachable (skelTD T F) p := h.ws_reach p List.mem_cons_self
  -- a state on the old stack or with an MTBDD is on the new stack or has an MTBDD: `p` is popped and gets its MTBDD
  have moved : ∀ {new : List Nat} {m : MTD} q, q ∈ p :: ws ∨ q ∈ keysTD R → q ∈ new ++ ws ∨ q ∈ keysTD (setTD R p m) := by
    rintro new m q (hq | hq)
    · rcases List.mem_cons.mp hq with rfl | hq
      · exact Or.inr ((keysTD_setTD _ _ _ _).mpr (Or.inl rfl))
      · exact Or.inl (List.mem_append_right _ hq)
    · exact Or.inr ((keysTD_setTD _ _ _ _).mpr (Or.inr hq))
  constructor
  · intro q hq
    rcases List.mem_append.mp hq with hq | hq
    · obtain ⟨⟨ks, hks, hq⟩, _⟩ := mem_wlNew.mp (List.mem_reverse.mp hq)
      exact TdReachable.step (r := ⟨0, ks, p⟩) (skelTD_rule hks) hp hq
    · exact h.ws_reach q (List.mem_cons_of_mem _ hq)
  · intro p' hp'
    rw [getTD_setTD]
    by_cases e : p = p'
    · subst e; exact ⟨hp, if_pos rfl⟩
    · rw [if_neg e]
      exact h.done p' (((keysTD_setTD _ _ _ _).mp hp').resolve_left (Ne.symm e))
  · exact fun q hq => moved q (h.fin q hq)
  · intro p' hp' ks hks k hk
    rcases (keysTD_setTD _ _ _ _).mp hp' with rfl | hp'
    · by_cases hpr : k ∈ processed
      · exact List.mem_append_left _ hpr
      · exact List.mem_append_right _ (mem_wlNew.mpr ⟨⟨ks, hks, hk⟩, hpr⟩)
    · exact List.mem_append_left _ (h.kids p' hp' ks hks k hk)
  · intro q hq
    rcases List.mem_append.mp hq with hq | hq
    · exact moved q (h.proc q hq)
    · exact Or.inl (List.mem_append_left _ (List.mem_reverse.mpr hq))

theorem tdUnreachLoop_cons (T : TableTD) (fuel p : Nat) (ws processed : List Nat) (R : TableTD) :
    tdUnreachLoop T (fuel + 1) (p :: ws) processed R =
      tdUnreachLoop T fuel
        ((dedupL (((leafTuples (getTD T p)).flatMap id).filter (fun q => !processed.contains q))).reverse ++ ws)
        (processed ++ dedupL (((leafTuples (getTD T p)).flatMap id).filter (fun q => !processed.contains q)))
        (setTD R p (apply1 id (getTD T p))) := by
  rw [tdUnreachLoop]

theorem tdUnreachLoop_inv {T : TableTD} {F : List Nat} {R' : TableTD} (fuel : Nat) : ∀ (ws processed : List Nat)
    (R : TableTD), WlInv T F ws processed R → tdUnreachLoop T fuel ws processed R = some R' →
    ∃ pr, WlInv T F [] pr R' := by
  induction fuel with
  | zero =>
    intro ws processed R h e
    cases ws with
    | nil => cases e; exact ⟨processed, h⟩
    | cons p ws => cases e
  | succ fuel ih =>
    intro ws processed R h e
    cases ws with
    | nil => cases e; exact ⟨processed, h⟩
    | cons p ws => rw [tdUnreachLoop_cons] at e; exact ih _ _ _ (wlInv_step h) e

theorem wlInv_complete {T : TableTD} {F pr : List Nat} {R : TableTD} (h : WlInv T F [] pr R) {q : Nat}
    (hq : TdReachable (skelTD T F) q) : q ∈ keysTD R := by
  induction hq with
  | final hq => exact (h.fin _ hq).elim (fun h' => by cases h') id
  | @step r k hr _ hk ih =>
    exact (h.proc k (h.kids r.parent ih r.kids (skelTD_rule_inv hr) k hk)).elim (fun h' => by cases h') id

theorem tdUnreachWL_correct {T : TableTD} {F : List Nat} {fuel : Nat} {R : TableTD}
    (h : tdUnreachWL T F fuel = some R) (p : Nat) : getTD R p = getTD (removeUnreachableTD T F) p := by
  obtain ⟨pr, hI⟩ := tdUnreachLoop_inv fuel _ _ _ (wlInv_init T F) h
  unfold removeUnreachableTD
  rw [getTD_mapKeys (tdReach (skelTD T F)) (fun p => apply1 id (getTD T p))]
  by_cases hk : p ∈ keysTD R
  · rw [if_pos ((tdReach_iff _ _).mpr (hI.done p hk).1)]; exact (hI.done p hk).2
  · rw [if_neg (fun hr => hk (wlInv_complete hI ((tdReach_iff _ _).mp hr))), getTD_not_key hk]

theorem absTD_congr {syms : List Nat} {T T' : TableTD} (F : List Nat) (h : ∀ p, getTD T p = getTD T' p) :
    SetEqTA (absTD syms T F) (absTD syms T' F) := by
  refine ⟨fun r => ?_, fun _ => Iff.rfl⟩
  rw [absTD_rules, absTD_rules, mem_absRulesTD, mem_absRulesTD]
  unfold HasRuleTD
  simp only [h]

theorem tdUnreachWL_abs {syms : List Nat} {T : TableTD} {F : List Nat} {fuel : Nat} {R : TableTD}
    (h : tdUnreachWL T F fuel = some R) : SetEqTA (absTD syms R F) (absTD syms (removeUnreachableTD T F) F) :=
  absTD_congr F (tdUnreachWL_correct h)

def allKids (T : TableTD) : List Nat := (keysTD T).flatMap (fun p => (leafTuples (getTD T p)).flatMap id)

/-- the work-list answers within `|stack| + |states of K not yet processed|` rounds, `K` any list that holds the states in the
leaves -/
theorem tdUnreachLoop_total_sup (T : TableTD) (K : List Nat)
    (hK : ∀ p ks q, ks ∈ leafTuples (getTD T p) → q ∈ ks → q ∈ K) :
    ∀ (fuel : Nat) (ws processed : List Nat) (R : TableTD),
    ws.length + unseen K processed ≤ fuel → ∃ R', tdUnreachLoop T fuel ws processed R = some R'
  | fuel, [], processed, R, _ => by cases fuel <;> exact ⟨R, by simp [tdUnreachLoop]⟩
  | 0, _ :: _, _, _, h => by simp at h
  | fuel + 1, p :: ws, processed, R, h => by
    rw [tdUnreachLoop_cons]
    apply tdUnreachLoop_total_sup T K hK fuel
    have hc := unseen_append (U := K)
      (dedupL (((leafTuples (getTD T p)).flatMap id).filter (fun q => !processed.contains q))) processed
      (nodup_dedupL _) (fun q hq => by
        obtain ⟨⟨ks, hks, hq'⟩, hnp⟩ := mem_wlNew.mp hq
        exact ⟨hK p ks q hks hq', hnp⟩)
    simp only [List.length_append, List.length_reverse, List.length_cons] at h ⊢
    omega

theorem tdUnreachWL_total_sup (T : TableTD) (K : List Nat)
    (hK : ∀ p ks q, ks ∈ leafTuples (getTD T p) → q ∈ ks → q ∈ K) (F : List Nat) :
    ∀ fuel, F.length + K.length ≤ fuel → ∃ R, tdUnreachWL T F fuel = some R := by
  intro fuel h
  unfold tdUnreachWL
  apply tdUnreachLoop_total_sup T K hK
  have : unseen K [] ≤ K.length := List.countP_le_length
  rw [List.length_reverse]
  omega

theorem tdUnreachWL_total (T : TableTD) (F : List Nat) :
    ∃ R, tdUnreachWL T F (F.length + (allKids T).length) = some R :=
  tdUnreachWL_total_sup T (allKids T) (fun p ks q hks hq => by
    simp only [allKids, List.mem_flatMap, id]
    exact ⟨p, key_of_leafTuples hks, ks, hks, hq⟩) F _ (Nat.le_refl _)

theorem tdUnreachWL_spec (T : TableTD) (F : List Nat) :
    ∃ R, tdUnreachWL T F (F.length + (allKids T).length) = some R ∧
      ∀ p, getTD R p = getTD (removeUnreachableTD T F) p := by
  obtain ⟨R, h⟩ := tdUnreachWL_total T F
  exact ⟨R, h, tdUnreachWL_correct h⟩

theorem absTD_ofRulesTD_setEq (rs : List Rule) (syms F : List Nat)
    (hrs : ∀ r, r ∈ rs → r.sym < 2 ^ 16 ∧ r.kids.length < 64 ∧ r.sym ∈ syms) (hs : ∀ f, f ∈ syms → f < 2 ^ 16) :
    SetEqTA (absTD syms (ofRulesTD rs) F) ⟨rs, F⟩ := by
  refine ⟨fun r => ?_, fun q => Iff.rfl⟩
  show r ∈ absRulesTD syms (ofRulesTD rs) ↔ r ∈ rs
  rw [absRulesTD_ofRules rs syms (fun r hr => ⟨(hrs r hr).1, (hrs r hr).2.1⟩) hs]
  exact ⟨fun h => h.2, fun h => ⟨(hrs r h).2.2, h⟩⟩

theorem absBU_ofRules_setEq (rs : List Rule) (syms F : List Nat)
    (hrs : ∀ r, r ∈ rs → r.sym < 2 ^ 16 ∧ r.sym ∈ syms) (hs : ∀ f, f ∈ syms → f < 2 ^ 16) :
    SetEqTA (absBU syms (ofRules rs) F) ⟨rs, F⟩ := by
  refine ⟨fun r => ?_, fun q => Iff.rfl⟩
  show r ∈ absRules syms (ofRules rs) ↔ r ∈ rs
  rw [absRules_ofRules rs syms (fun r hr => (hrs r hr).1) hs]
  exact ⟨fun h => h.2, fun h => ⟨(hrs r h).2, h⟩⟩

theorem absTD_unionDisj_setEq (syms : List Nat) (T₁ T₂ : TableTD) (F₁ F₂ : List Nat)
    (hd : ∀ p, p ∈ keysTD T₁ → p ∉ keysTD T₂) :
    SetEqTA (absTD syms (unionDisjTD T₁ T₂) (F₁ ++ F₂)) (unionDisjoint (absTD syms T₁ F₁) (absTD syms T₂ F₂)) := by
  refine ⟨fun r => ?_, fun q => Iff.rfl⟩
  show r ∈ absRulesTD syms _ ↔ r ∈ absRulesTD syms T₁ ++ absRulesTD syms T₂
  rw [List.mem_append]
  exact mem_absRulesTD_or (absTD_unionDisj T₁ T₂ hd) r

theorem absTD_union_setEq (syms : List Nat) (T₁ T₂ : TableTD) (F₁ F₂ : List Nat) :
    SetEqTA (absTD syms (unionTD T₁ T₂) (F₁ ++ F₂)) (unionDisjoint (absTD syms T₁ F₁) (absTD syms T₂ F₂)) := by
  refine ⟨fun r => ?_, fun q => Iff.rfl⟩
  show r ∈ absRulesTD syms _ ↔ r ∈ absRulesTD syms T₁ ++ absRulesTD syms T₂
  rw [List.mem_append, absRulesTD_union]

namespace BddAbsTDEx

/-- `a → 1`, `b → 1`, `g(1,1) → 2`, `a → 3` (3 is neither final nor a child), `g(4,1) → 2` (4 has no rule), `b → 5`,
`h(5) → 6` (6 is neither final nor a child); the final state is 2 -/
def rsA : List Rule := [⟨0, [], 1⟩, ⟨1, [], 1⟩, ⟨2, [1, 1], 2⟩, ⟨0, [], 3⟩, ⟨2, [4, 1], 2⟩, ⟨1, [], 5⟩, ⟨3, [5], 6⟩]
def finA : List Nat := [2]
def syms : List Nat := [0, 1, 2, 3]

def showRules (rs : List Rule) : List (Nat × List Nat × Nat) := rs.map (fun r => (r.sym, r.kids, r.parent))

def tdA : TableTD := getTopDownAut (ofRules rsA) finA

#guard showRules (absRulesTD syms (ofRulesTD rsA)) ==
  [(3, [5], 6), (1, [], 5), (2, [1, 1], 2), (2, [4, 1], 2), (0, [], 3), (0, [], 1), (1, [], 1)]
-- the arity is in the variables 16 … 21: the MTBDD of the state 2 has the tuples under arity 2 only
#guard eval (getTD (ofRulesTD rsA) 2) (bitsAr 2 2) == [[1, 1], [4, 1]]
#guard eval (getTD (ofRulesTD rsA) 2) (bitsAr 2 0) == []
#guard eval (getTD (ofRulesTD rsA) 1) (bitsAr 1 0) == [[]]
#guard collectTD (getTD (ofRulesTD rsA) 2) 2 == [[1, 1], [4, 1]]
#guard collectTD (getTD (ofRulesTD rsA) 2) 0 == []
-- `GetTopDownAut`: the states 3 and 6 are not collected, their rules are dropped
#guard tdStates (ofRules rsA) finA == [2, 5, 4, 1]
#guard showRules (absRulesTD syms tdA) == [(0, [], 1), (1, [], 1), (1, [], 5), (2, [1, 1], 2), (2, [4, 1], 2)]
#guard !(absRulesTD syms tdA).contains ⟨0, [], 3⟩ && (absRules syms (ofRules rsA)).contains ⟨0, [], 3⟩
#guard showRules (absRulesTD syms (unionTD (ofRulesTD [⟨0, [], 1⟩]) (ofRulesTD [⟨1, [], 1⟩, ⟨2, [1], 7⟩]))) ==
  [(0, [], 1), (1, [], 1), (2, [1], 7), (0, [], 1), (1, [], 1)]
#guard showRules (absRulesTD syms (unionDisjTD (ofRulesTD [⟨0, [], 1⟩]) (ofRulesTD [⟨1, [], 8⟩, ⟨2, [8], 7⟩]))) ==
  [(1, [], 8), (2, [8], 7), (0, [], 1)]
-- `UnionDisjointStates` on tables that are NOT disjoint: the rule `a → 1` of the left operand is lost
#guard showRules (absRulesTD syms (unionDisjTD (ofRulesTD [⟨0, [], 1⟩]) (ofRulesTD [⟨1, [], 1⟩]))) == [(1, [], 1)]
#guard taEq (absTD syms (removeUnreachableTD tdA finA) finA) (removeUnreachable (absTD syms tdA finA))
#guard showRules (absRulesTD syms (removeUnreachableTD tdA finA)) ==
  [(2, [1, 1], 2), (2, [4, 1], 2), (0, [], 1), (1, [], 1)]
#guard (tdUnreachWL tdA finA 10).map (fun R => showRules (absRulesTD syms R)) ==
  some [(0, [], 1), (1, [], 1), (2, [1, 1], 2), (2, [4, 1], 2)]
#guard (tdUnreachWL tdA finA 2).isNone
#guard usefulTD tdA finA == [1, 2]
#guard taEq (absTD syms (removeUselessTD tdA finA).1 (removeUselessTD tdA finA).2) (removeUseless (absTD syms tdA finA))
#guard showRules (absRulesTD syms (removeUselessTD tdA finA).1) == [(2, [1, 1], 2), (0, [], 1), (1, [], 1)]
#guard showRules (absRules syms (removeUnreachableBU (ofRules rsA) finA).1) ==
  [(0, [], 1), (0, [], 3), (1, [], 1), (1, [], 5), (3, [5], 6), (2, [1, 1], 2)]
#guard taEq (absBU syms (removeUnreachableBU (ofRules rsA) finA).1 (removeUnreachableBU (ofRules rsA) finA).2)
  (restrict (absBU syms (ofRules rsA) finA) (prodStates (absBU syms (ofRules rsA) finA)))
#guard showRules (absRules syms (removeUselessBU (ofRules rsA) finA).1) == [(0, [], 1), (1, [], 1), (2, [1, 1], 2)]
#guard taEq (absBU syms (removeUselessBU (ofRules rsA) finA).1 (removeUselessBU (ofRules rsA) finA).2)
  (removeUseless (absBU syms (ofRules rsA) finA))

theorem okA : TableOk (ofRules rsA) := tableOk_ofRules _
theorem wfA : TableWF (ofRules rsA) := tableWF_ofRules _
theorem completeA : SymsCompleteBU syms (ofRules rsA) := symsCompleteBU_ofRules (by decide +kernel)
theorem wfTdA : TableTDWF tdA := (tableTD_getTopDownAut okA wfA finA).1
theorem completeTdA : SymsCompleteTD syms tdA := symsCompleteTD_getTopDownAut okA wfA completeA finA

example : HasRuleTD (ofRulesTD rsA) (bitsAr 2 2) 2 [4, 1] :=
  (absTD_ofRules rsA (by decide +kernel) 2 (by decide +kernel) 2 (by decide +kernel) 2 [4, 1]).mpr (by decide +kernel)
example : ¬ HasRuleTD (ofRulesTD rsA) (bitsAr 2 3) 2 [4, 1] :=
  fun h => absurd ((absTD_ofRules rsA (by decide +kernel) 2 (by decide +kernel) 3 (by decide +kernel) 2 [4, 1]).mp h).2 (by decide +kernel)
example : HasRuleTD (addTransitionTD (ofRulesTD rsA) [2] 3 7) (bitsAr 3 1) 7 [2] :=
  (absTD_addTransition _ [2] 3 7 (by decide +kernel) (by decide +kernel) 3 (by decide +kernel) 1 (by decide +kernel) 7 [2]).mpr
    (Or.inr ⟨rfl, rfl, rfl, rfl⟩)
example : HasRuleTD (unionTD (ofRulesTD [⟨0, [], 1⟩]) (ofRulesTD rsA)) (bitsAr 2 2) 2 [1, 1] :=
  (absTD_union _ _ _ _ _).mpr (Or.inr ((absTD_ofRules rsA (by decide +kernel) 2 (by decide +kernel) 2 (by decide +kernel) 2 [1, 1]).mpr (by decide +kernel)))
example : ∀ p, p ∈ keysTD (ofRulesTD [⟨0, [], 1⟩]) → p ∉ keysTD (ofRulesTD [⟨1, [], 8⟩, ⟨2, [8], 7⟩]) := by decide +kernel
example : HasRuleTD tdA (withArity (bits 2) 2) 2 [1, 1] :=
  (absTD_invert okA wfA finA (bits 2) 2 [1, 1] (by decide +kernel)).mpr
    ((absBU_ofRules rsA (by decide +kernel) 2 (by decide +kernel) [1, 1] 2).mpr (by decide +kernel))
-- the rule of the state 3 is dropped although the bottom-up table has it
example : ¬ HasRuleTD tdA (withArity (bits 0) 0) 3 [] ∧ HasRule (ofRules rsA) (bits 0) [] 3 :=
  ⟨fun h => absurd ((absTD_invert_gen okA finA _ 3 []).mp h).1 (by decide +kernel),
   (absBU_ofRules rsA (by decide +kernel) 0 (by decide +kernel) [] 3).mpr (by decide +kernel)⟩
example (t : Tree) : accepts (absTD syms tdA finA) t = accepts (absBU syms (ofRules rsA) finA) t :=
  getTopDownAut_lang okA wfA finA syms t
example (t : Tree) : accepts (absTD syms (removeUselessTD tdA finA).1 (removeUselessTD tdA finA).2) t =
    accepts (absBU syms (ofRules rsA) finA) t := by
  rw [removeUselessTD_lang finA wfTdA completeTdA]; exact getTopDownAut_lang okA wfA finA syms t
example : SetEqTA (absBU syms (removeUselessBU (ofRules rsA) finA).1 (removeUselessBU (ofRules rsA) finA).2)
    (removeUseless (absBU syms (ofRules rsA) finA)) := absBU_removeUseless finA wfA completeA
example (R : TableTD) (h : tdUnreachWL tdA finA 10 = some R) :
    SetEqTA (absTD syms R finA) (removeUnreachable (absTD syms tdA finA)) :=
  (tdUnreachWL_abs h).trans (absTD_removeUnreachable finA wfTdA completeTdA)
/-- a hand-made table: `2 → (1,1)` under the arity bit 17, `1 → ()` -/
def tdB : TableTD := [(2, .node 17 (.leaf []) (.leaf [[1, 1]])), (1, .leaf [[]]), (7, .leaf [[]])]
example : tdUnreachWL tdB [2] 5 = some [(1, .leaf [[]]), (2, .node 17 (.leaf []) (.leaf [[1, 1]]))] := by decide +kernel
example : ∀ p, getTD [(1, Node.leaf [[]]), (2, .node 17 (.leaf []) (.leaf [[1, 1]]))] p =
    getTD (removeUnreachableTD tdB [2]) p := tdUnreachWL_correct (fuel := 5) (by decide +kernel)

end BddAbsTDEx

end BddAbsTD
end Vata
