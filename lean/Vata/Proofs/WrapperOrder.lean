import Vata.Proofs.WrapperInv
import Vata.Proofs.TimbukNorm
/-!
# The wrapper `ExplicitTreeAut`: load / dump through the alphabet objects, and the order of first occurrence (C13 / C19)

Loading a description into an EMPTY automaton (fresh state dictionary, its `OnTheFlyAlphabet` in any reachable state) and
dumping with the dictionary the load returned gives exactly the final states and the transitions of the description, in
`std::set` order (`dumpW_loadW`), and that text depends only on the SETS of final states and transitions (`dumpOf_congr`).  The
property file draws the conclusion (`C19_wrapper_alphabet_order_invariant`): two descriptions with the same sets, loaded on alphabets
with the same content, give automata that differ by bijective renumberings of states and symbols, and their dumps are equal.
-/
namespace Vata.Wrapper
open Vata Vata.LoadDump Vata.Dict Vata.Timbuk

theorem backName_otf (yd : SymDict) (n : Nat) : (Alphabet.otf yd n).backName = backSym yd := by
  funext f
  simp only [Alphabet.backName, Alphabet.back, backSym]
  cases yd.bwd? f <;> rfl

theorem dumpWith_backSym (A : TA) (sd : StateDict) (yd : SymDict) : dumpWith A sd (backSym yd) = dumpTA A sd yd := rfl

theorem dumpWith_otf (A : TA) (sd : StateDict) (yd : SymDict) (n : Nat) :
    dumpWith A sd (Alphabet.otf yd n).backName = dumpTA A sd yd := by
  rw [backName_otf]; rfl

theorem aut?_lt {w : World} {i : Nat} {A : WAut} (h : w.aut? i = .ok A) : i < w.auts.length :=
  (List.getElem?_eq_some_iff.mp (aut?_ok h)).1

theorem loadW_after {w : World} {i : Nat} {d : AutDesc} {sd : StateDict} {r : World × StateDict}
    (e : loadW w i d sd = .ok r) :
    ∃ A yd n, w.aut? i = .ok A ∧ w.alpha? A.alpha = .ok (.otf yd n) ∧
      r.1.aut? i = .ok ⟨⟨A.core.rules ++ (loadFromW ⟨sd, 0, yd, n⟩ d).1.rules,
        A.core.final ++ (loadFromW ⟨sd, 0, yd, n⟩ d).1.final⟩, A.alpha⟩ ∧
      r.1.alpha? A.alpha = .ok (.otf (loadFromW ⟨sd, 0, yd, n⟩ d).2.yd (loadFromW ⟨sd, 0, yd, n⟩ d).2.next) ∧
      r.2 = (loadFromW ⟨sd, 0, yd, n⟩ d).2.sd := by
  obtain ⟨A, yd, n, hA, hal, e1, e2⟩ := loadW_spec e
  refine ⟨A, yd, n, hA, hal, ?_, ?_, e2⟩
  · rw [e1]; unfold World.aut?
    simp only [List.getElem?_set_self (aut?_lt hA)]
  · rw [e1]; unfold World.alpha?
    simp only [List.getElem?_set_self (alpha?_lt hal)]

theorem loadW_succeeds {w : World} {i : Nat} {A : WAut} {yd : SymDict} {n : Nat} (hA : w.aut? i = .ok A)
    (hal : w.alpha? A.alpha = .ok (.otf yd n)) (d : AutDesc) (sd : StateDict) : ∃ r, loadW w i d sd = .ok r := by
  unfold loadW; simp only [hA, hal]; exact ⟨_, rfl⟩

/-- a load throws `NotImplementedException` on a `DirectAlphabet`, the world unchanged -/
theorem loadW_direct {w : World} {i : Nat} {A : WAut} (hA : w.aut? i = .ok A) (hal : w.alpha? A.alpha = .ok .direct)
    (d : AutDesc) (sd : StateDict) : loadW w i d sd = .error "Not implemented: GetSymbolTransl" := by
  unfold loadW; simp only [hA, hal]

/-- **C13 through the wrapper**: load into an empty automaton with a fresh state dictionary, then dump with the
dictionary that the load filled -/
theorem dumpW_loadW {w : World} (hw : Reach w) {i a : Nat} {yd : SymDict} {n : Nat} (hA : w.aut? i = .ok ⟨⟨[], []⟩, a⟩)
    (hal : w.alpha? a = .ok (.otf yd n)) (d : AutDesc) :
    ∃ w' sd, loadW w i d [] = .ok (w', sd) ∧ dumpW w' i sd = .ok (dumpOf d.final d.trans) ∧
      loadTA d [] yd = .ok ((loadFrom ⟨[], 0, yd⟩ d).1, sd, (loadFrom ⟨[], 0, yd⟩ d).2.yd) ∧
      w'.aut? i = .ok ⟨(loadFrom ⟨[], 0, yd⟩ d).1, a⟩ ∧
      w'.alpha? a = .ok (.otf (loadFrom ⟨[], 0, yd⟩ d).2.yd (loadFrom ⟨[], 0, yd⟩ d).2.yd.length) := by
  obtain ⟨r, hr⟩ := loadW_succeeds hA hal d []
  obtain ⟨A', yd', n', hA', hal', a1, a2, a3⟩ := loadW_after hr
  rw [hA] at hA'; cases hA'
  rw [hal] at hal'; cases hal'
  obtain ⟨hyd, hn⟩ := (reach_ok hw).alphas _ (alpha?_mem hal)
  subst hn
  have e := loadFromW_toW ⟨[], 0, yd⟩ d
  simp only [LSt.toW] at e
  simp only [e, List.nil_append] at a1 a2 a3
  refine ⟨r.1, r.2, hr, ?_, ?_, a1, a2⟩
  · unfold dumpW
    simp only [a1, a2, dumpWith_otf, a3]
    exact dump_loadFrom ⟨[], 0, yd⟩ (LoadDump.init_ok hyd) d
  · rw [a3]; rfl

theorem dumpOf_congr {f₁ f₂ : List String} {t₁ t₂ : List (List String × String × String)} (hf : f₁ ≈ f₂) (ht : t₁ ≈ t₂) :
    dumpOf f₁ t₁ = dumpOf f₂ t₂ := by
  unfold dumpOf normDesc
  simp only [ofS]
  rw [norm_congr ltStr_strictTotal (sameSet_map hf String.toList),
    norm_congr ltTrans_strictTotal (sameSet_map ht fun t => (t.1.map String.toList, t.2.1.toList, t.2.2.toList))]

theorem reach_run {w : World} (h : Reach w) (ops : List Op) : Reach (run w ops) := by
  induction ops generalizing w with
  | nil => exact h
  | cons o os ih =>
    simp only [run]
    split
    · rename_i w' e; exact ih (.step o h e)
    · exact ih h

/-- in a `Ranked` world two rules of automata on the same `OnTheFlyAlphabet` with the same symbol number have the same
number of children: "symbol = number" and "symbol with its arity" coincide -/
theorem ranked_same_arity {w : World} (h : w.Ranked) {A B : WAut} (hA : A ∈ w.auts) (hB : B ∈ w.auts)
    (hab : A.alpha = B.alpha) {d : SymDict} {n : Nat} (hal : w.alphas[A.alpha]? = some (.otf d n)) {r r' : Rule}
    (hr : r ∈ A.core.rules) (hr' : r' ∈ B.core.rules) (e : r.sym = r'.sym) : r.kids.length = r'.kids.length := by
  obtain ⟨nm, e1⟩ := h A hA _ hal r hr
  obtain ⟨nm', e2⟩ := h B hB _ (hab ▸ hal) r' hr'
  rw [e, e2] at e1
  have := Option.some.inj e1
  exact (congrArg Prod.snd this).symm

end Vata.Wrapper
