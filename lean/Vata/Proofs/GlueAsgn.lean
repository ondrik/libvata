import Vata.Glue
import Vata.BddAbs
/-!
# `SymbolicVarAsgn`: the model of `Vata/Glue.lean` does what the class is used for

`SymbolicVarAsgn(n, k)` for `n ≤ 31` is the `n`-bit binary representation of `k` with variable 0 (the FIRST character of
`ToString()`) the least significant bit, and `operator++` is `+1` modulo `2^length()` on it; beyond 32 variables the
constructor is undefined behaviour, and with exactly 32 variable 31 is the OR of the bits 31 … 63 (so `maskTest` defines it;
`ofNum_32_high` shows it on `2^32`). String constructor and
`ToString` are inverse; `operator<` is a strict total order which, on concrete assignments of one length, is the order of
the numbers.
-/
namespace Vata.Glue

theorem isConcrete_some_cons (b : Bool) (r : Asgn) : isConcrete (some b :: r) = isConcrete r := rfl

theorem bitsLE_length (s n : Nat) : (bitsLE s n).length = s := by
  induction s generalizing n with
  | zero => rfl
  | succ s ih => simp [bitsLE, ih]

theorem toNum_bitsLE (s n : Nat) : toNum (bitsLE s n) = n % 2 ^ s := by
  induction s generalizing n with
  | zero => simp [bitsLE, toNum, Nat.mod_one]
  | succ s ih =>
    simp only [bitsLE, toNum, ih]
    rw [Nat.pow_succ', Nat.mod_mul]
    have h2 : n % 2 = 0 ∨ n % 2 = 1 := by omega
    rcases h2 with h2 | h2 <;> simp [h2]

theorem bitsLE_getElem? (s n i : Nat) (h : i < s) : (bitsLE s n)[i]? = some (some (n.testBit i)) := by
  induction s generalizing n i with
  | zero => omega
  | succ s ih =>
    cases i with
    | zero =>
      simp only [bitsLE, List.getElem?_cons_zero, Nat.testBit_zero]
    | succ i =>
      simp only [bitsLE, List.getElem?_cons_succ]
      rw [ih (n / 2) i (by omega), Nat.testBit_succ]

theorem bitsLE_eq_range_map (s n : Nat) : bitsLE s n = (List.range s).map (fun i => some (n.testBit i)) := by
  apply List.ext_getElem?
  intro i
  by_cases h : i < s
  · rw [bitsLE_getElem? s n i h]
    simp [h]
  · have h1 : (bitsLE s n).length ≤ i := by rw [bitsLE_length]; omega
    rw [List.getElem?_eq_none h1, List.getElem?_eq_none (by simp; omega)]

theorem isConcrete_bitsLE (s n : Nat) : isConcrete (bitsLE s n) = true := by
  induction s generalizing n with
  | zero => rfl
  | succ s ih => simp [bitsLE, isConcrete] at *; exact ih _

theorem ofNumFrom_eq (n : Nat) : ∀ (k i : Nat), i + k ≤ 31 →
    ofNumFrom n i k = some ((List.range' i k).map (fun j => some (n.testBit j)))
  | 0, _, _ => rfl
  | k + 1, i, h => by
    have h1 : maskTest n i = some (n.testBit i) := by
      unfold maskTest; rw [if_pos (by omega)]
    simp only [ofNumFrom, h1, ofNumFrom_eq n k (i + 1) (by omega), List.range'_succ, List.map_cons]

theorem ofNum_eq_bitsLE {size : Nat} (n : Nat) (h : size ≤ 31) : ofNum size n = some (bitsLE size n) := by
  unfold ofNum
  rw [ofNumFrom_eq n size 0 (by omega), bitsLE_eq_range_map, List.range_eq_range']

theorem ofNumFrom_none (n : Nat) : ∀ (k i : Nat), 32 < i + k → i ≤ 32 → ofNumFrom n i k = none
  | 0, i, h, h' => by omega
  | k + 1, i, h, h' => by
    by_cases hi : i = 32
    · subst hi
      simp [ofNumFrom, maskTest]
    · have := ofNumFrom_none n k (i + 1) (by omega) (by omega)
      simp only [ofNumFrom, this]
      cases maskTest n i <;> rfl

theorem ofNumFrom_isSome (n : Nat) : ∀ (k i : Nat), i + k ≤ 32 → (ofNumFrom n i k).isSome = true
  | 0, _, _ => rfl
  | k + 1, i, h => by
    have h1 : ∃ b, maskTest n i = some b := by
      unfold maskTest
      by_cases h31 : i < 31
      · exact ⟨_, if_pos h31⟩
      · have : i = 31 := by omega
        subst this
        exact ⟨_, rfl⟩
    obtain ⟨b, hb⟩ := h1
    have := ofNumFrom_isSome n k (i + 1) (by omega)
    obtain ⟨r, hr⟩ := Option.isSome_iff_exists.1 this
    simp [ofNumFrom, hb, hr]

/-- the constructor is undefined behaviour exactly beyond 32 variables -/
theorem ofNum_eq_none_iff (size n : Nat) : ofNum size n = none ↔ 32 < size := by
  constructor
  · intro h
    by_cases h' : size ≤ 32
    · have := ofNumFrom_isSome n size 0 (by omega)
      unfold ofNum at h
      rw [h] at this
      exact absurd this (by simp)
    · omega
  · intro h
    exact ofNumFrom_none n size 0 (by omega) (by omega)

/-- with exactly 32 variables, variable 31 does not hold bit 31 of the number but the OR of the bits 31 … 63: here bit 31
of `2^32` is 0, yet the variable is `ONE` -/
theorem ofNum_32_high : (ofNum 32 (2 ^ 32)).map (fun a => get a 31) = some (some (some true)) ∧ (2 ^ 32).testBit 31 = false := by
  decide

/-- the model of `BddAbs` / `LoadDump` for the 16-bit symbol assignments is this constructor -/
theorem ofNum_symbol_size (f : Nat) : ofNum SYMBOL_SIZE f = some (BddAbs.symAsgn f) := by
  rw [ofNum_eq_bitsLE f (by decide), bitsLE_eq_range_map]
  rfl

theorem zeroSymbol_eq : zeroSymbol = some (List.replicate 16 (some false)) := by decide

theorem toNum_cons_true (r : Asgn) : toNum (some true :: r) = 1 + 2 * toNum r := rfl
theorem toNum_cons_false (r : Asgn) : toNum (some false :: r) = 2 * toNum r := Nat.zero_add _

theorem bitsLE_toNum : ∀ (a : Asgn), isConcrete a = true → bitsLE a.length (toNum a) = a
  | [], _ => rfl
  | none :: _, h => nomatch h
  | some false :: r, h => by
    rw [List.length_cons, toNum_cons_false, bitsLE, Nat.mul_mod_right, Nat.mul_div_cancel_left _ (by decide),
      bitsLE_toNum r h]
    rfl
  | some true :: r, h => by
    rw [List.length_cons, toNum_cons_true, bitsLE, Nat.add_mul_mod_self_left, Nat.add_mul_div_left _ _ (by decide),
      Nat.zero_add, bitsLE_toNum r h]
    rfl

theorem toNum_lt : ∀ (a : Asgn), toNum a < 2 ^ a.length
  | [] => by simp [toNum]
  | v :: r => by
    have ih := toNum_lt r
    simp only [toNum, List.length_cons, Nat.pow_succ]
    split <;> omega

theorem toNum_append : ∀ (a b : Asgn), toNum (a ++ b) = toNum a + 2 ^ a.length * toNum b
  | [], b => by simp [toNum]
  | v :: a, b => by
    simp only [List.cons_append, toNum, toNum_append a b, List.length_cons, Nat.pow_succ]
    rw [Nat.mul_add, Nat.mul_comm (2 ^ a.length) 2, Nat.mul_assoc]
    omega

theorem inc_length : ∀ (a : Asgn), (inc a).length = a.length
  | [] => rfl
  | some false :: r => rfl
  | some true :: r => by simp [inc, inc_length r]
  | none :: r => by simp [inc, inc_length r]

theorem inc_concrete : ∀ (a : Asgn), isConcrete a = true → isConcrete (inc a) = true
  | [], _ => rfl
  | some false :: _, h => h
  | some true :: r, h => inc_concrete r h
  | none :: _, h => nomatch h

theorem toNum_inc : ∀ (a : Asgn), isConcrete a = true → toNum (inc a) = (toNum a + 1) % 2 ^ a.length
  | [], _ => rfl
  | some false :: r, _ => by
    have := toNum_lt r
    rw [inc, toNum_cons_true, toNum_cons_false, List.length_cons, Nat.pow_succ, Nat.mod_eq_of_lt (by omega)]
    omega
  | some true :: r, h => by
    rw [inc, toNum_cons_true, toNum_cons_false, List.length_cons, Nat.pow_succ, toNum_inc r h,
      show 1 + 2 * toNum r + 1 = 2 * (toNum r + 1) by omega, Nat.mul_comm (2 ^ r.length) 2, Nat.mul_mod_mul_left]
  | none :: _, h => nomatch h

theorem inc_wrap (n : Nat) : inc (List.replicate n (some true)) = List.replicate n (some false) := by
  induction n with
  | zero => rfl
  | succ n ih => simp [List.replicate_succ, inc, ih]

theorem inc_bitsLE (s k : Nat) : inc (bitsLE s k) = bitsLE s (k + 1) := by
  have h1 := bitsLE_toNum (inc (bitsLE s k)) (inc_concrete _ (isConcrete_bitsLE s k))
  rw [inc_length, bitsLE_length, toNum_inc _ (isConcrete_bitsLE s k), toNum_bitsLE, bitsLE_length] at h1
  rw [← h1]
  have h2 := bitsLE_toNum (bitsLE s (k + 1)) (isConcrete_bitsLE s (k + 1))
  rw [bitsLE_length, toNum_bitsLE] at h2
  rw [← h2]
  congr 1
  exact Nat.mod_add_mod k (2 ^ s) 1

theorem charVal?_valChar (v : Val) : charVal? (valChar v) = some v := by
  cases v with
  | none => rfl
  | some b => cases b <;> rfl

theorem valChar_of_charVal? {c : Char} {v : Val} (h : charVal? c = some v) : valChar v = c := by
  unfold charVal? at h
  split at h
  · cases h; simp [valChar, *]
  · split at h
    · cases h; simp [valChar, *]
    · split at h
      · cases h; simp [valChar, *]
      · cases h

theorem ofStr_toStr : ∀ (a : Asgn), ofStr (toStr a) = some a
  | [] => rfl
  | v :: r => by
    have ih := ofStr_toStr r
    unfold toStr at ih ⊢
    simp only [List.map_cons, ofStr, charVal?_valChar, ih]

theorem toStr_ofStr : ∀ (s : List Char) (a : Asgn), ofStr s = some a → toStr a = s
  | [], a, h => by cases h; rfl
  | c :: r, a, h => by
    simp only [ofStr] at h
    cases hc : charVal? c with
    | none => rw [hc] at h; cases h
    | some v =>
      rw [hc] at h
      cases hr : ofStr r with
      | none => rw [hr] at h; cases h
      | some a' =>
        rw [hr] at h
        cases h
        have ih := toStr_ofStr r a' hr
        unfold toStr at ih ⊢
        simp [valChar_of_charVal? hc, ih]

/-- the constructor throws exactly on a character other than `0`, `1`, `X` -/
theorem ofStr_isSome_iff : ∀ (s : List Char), (ofStr s).isSome = true ↔ ∀ c ∈ s, c = '0' ∨ c = '1' ∨ c = 'X'
  | [] => by simp [ofStr]
  | c :: r => by
    have ih := ofStr_isSome_iff r
    simp only [ofStr, List.mem_cons, forall_eq_or_imp]
    rw [← ih]
    unfold charVal?
    by_cases h0 : c = '0'
    · subst h0; cases hr : ofStr r <;> simp
    · by_cases h1 : c = '1'
      · subst h1; cases hr : ofStr r <;> simp
      · by_cases hx : c = 'X'
        · subst hx; cases hr : ofStr r <;> simp
        · simp [h0, h1, hx]

theorem toStr_length (a : Asgn) : (toStr a).length = length a := by simp [toStr, length]

theorem ofStr_length {s : List Char} {a : Asgn} (h : ofStr s = some a) : a.length = s.length := by
  rw [← toStr_ofStr s a h, toStr_length]; rfl

theorem get_set_eq (a : Asgn) (i : Nat) (v : Val) (h : i < a.length) : get (set a i v) i = some v := by
  simp [get, set, h]

theorem get_set_ne (a : Asgn) (i j : Nat) (v : Val) (h : i ≠ j) : get (set a i v) j = get a j := by
  simp [get, set, List.getElem?_set_ne h]

theorem set_length (a : Asgn) (i : Nat) (v : Val) : (set a i v).length = a.length := by simp [set]

theorem addVariablesUpTo_eq (a : Asgn) (m : Nat) :
    addVariablesUpTo a m = a ++ List.replicate (m + 1 - a.length) none := by
  unfold addVariablesUpTo
  simp only
  split
  · rfl
  · have : m + 1 - a.length = 0 := by omega
    simp [this]

theorem addVariablesUpTo_length (a : Asgn) (m : Nat) : (addVariablesUpTo a m).length = max a.length (m + 1) := by
  rw [addVariablesUpTo_eq]; simp; omega

theorem toStr_addVariablesUpTo (a : Asgn) (m : Nat) :
    toStr (addVariablesUpTo a m) = toStr a ++ List.replicate (m + 1 - a.length) 'X' := by
  rw [addVariablesUpTo_eq]; simp [toStr, valChar]

theorem get_addVariablesUpTo_old (a : Asgn) (m i : Nat) (h : i < a.length) : get (addVariablesUpTo a m) i = get a i := by
  rw [addVariablesUpTo_eq]; simp [get, List.getElem?_append_left h]

theorem get_addVariablesUpTo_new (a : Asgn) (m i : Nat) (h : a.length ≤ i) (h' : i ≤ m) :
    get (addVariablesUpTo a m) i = some none := by
  rw [addVariablesUpTo_eq]
  simp only [get]
  rw [List.getElem?_append_right h, List.getElem?_replicate, if_pos (by omega)]

theorem toStr_append (a p : Asgn) : toStr (append a p) = toStr a ++ toStr p := by simp [toStr, append]

theorem get_append_new (a p : Asgn) (i : Nat) : get (append a p) (a.length + i) = get p i := by
  simp only [get, append]
  rw [List.getElem?_append_right (by omega), Nat.add_sub_cancel_left]

theorem mem_allSyms : ∀ (a c : Asgn), c ∈ allSyms a ↔ agrees c a = true
  | [], c => by cases c <;> simp [allSyms, agrees]
  | none :: r, c => by
    simp only [allSyms, List.mem_append, List.mem_map]
    constructor
    · rintro (⟨x, hx, rfl⟩ | ⟨x, hx, rfl⟩) <;> simpa [agrees] using (mem_allSyms r x).1 hx
    · intro h
      match c, h with
      | some false :: cs, h => exact Or.inl ⟨cs, (mem_allSyms r cs).2 (by simpa [agrees] using h), rfl⟩
      | some true :: cs, h => exact Or.inr ⟨cs, (mem_allSyms r cs).2 (by simpa [agrees] using h), rfl⟩
  | some b :: r, c => by
    simp only [allSyms, List.mem_map]
    constructor
    · rintro ⟨x, hx, rfl⟩
      simpa [agrees] using (mem_allSyms r x).1 hx
    · intro h
      match c, h with
      | some c0 :: cs, h =>
        simp only [agrees, Bool.and_eq_true, beq_iff_eq] at h
        exact ⟨cs, (mem_allSyms r cs).2 h.2, by rw [h.1]⟩

theorem forall_nat_iff {p : Nat → Prop} : (∀ i, p i) ↔ p 0 ∧ ∀ i, p (i + 1) :=
  ⟨fun h => ⟨h 0, fun i => h (i + 1)⟩, fun h i => by cases i with | zero => exact h.1 | succ i => exact h.2 i⟩

theorem agrees_iff : ∀ (c a : Asgn), agrees c a = true ↔
    c.length = a.length ∧ isConcrete c = true ∧ ∀ (i : Nat) (b : Bool), a[i]? = some (some b) → c[i]? = some (some b)
  | [], [] => ⟨fun _ => ⟨rfl, rfl, fun _ _ h => nomatch h⟩, fun _ => rfl⟩
  | [], _ :: _ => ⟨fun h => (nomatch h), fun h => (nomatch h.1)⟩
  | x :: _, [] => ⟨fun h => (by cases x <;> cases h), fun h => (nomatch h.1)⟩
  | none :: _, _ :: _ => ⟨fun h => (nomatch h), fun h => (nomatch h.2.1)⟩
  | some c0 :: cs, none :: r => by
    -- the condition on the indices, split into index 0 and the rest
    rw [forall_nat_iff, show agrees (some c0 :: cs) (none :: r) = agrees cs r from rfl, agrees_iff cs r]
    simp only [List.getElem?_cons_zero, List.getElem?_cons_succ, List.length_cons, Nat.add_right_cancel_iff,
      isConcrete_some_cons, Option.some.injEq, reduceCtorEq, false_imp_iff, implies_true, true_and]
  | some c0 :: cs, some b0 :: r => by
    rw [forall_nat_iff, show agrees (some c0 :: cs) (some b0 :: r) = (c0 == b0 && agrees cs r) from rfl,
      Bool.and_eq_true, beq_iff_eq, agrees_iff cs r]
    simp only [List.getElem?_cons_zero, List.getElem?_cons_succ, List.length_cons, Nat.add_right_cancel_iff,
      isConcrete_some_cons, Option.some.injEq, forall_eq']
    exact ⟨fun ⟨h0, hl, hc, h⟩ => ⟨hl, hc, h0, h⟩, fun ⟨hl, hc, h0, h⟩ => ⟨h0, hl, hc, h⟩⟩

theorem allSyms_pairwise {R : Asgn → Asgn → Prop} (hcons : ∀ (b : Bool) {x y : Asgn}, R x y → R (some b :: x) (some b :: y))
    (h01 : ∀ x y : Asgn, R (some false :: x) (some true :: y)) : ∀ (a : Asgn), (allSyms a).Pairwise R
  | [] => List.pairwise_singleton R []
  | none :: r => by
    rw [allSyms, List.pairwise_append]
    refine ⟨(allSyms_pairwise hcons h01 r).map _ (fun _ _ => hcons false),
      (allSyms_pairwise hcons h01 r).map _ (fun _ _ => hcons true), ?_⟩
    intro x hx y hy
    obtain ⟨x', _, rfl⟩ := List.mem_map.mp hx
    obtain ⟨y', _, rfl⟩ := List.mem_map.mp hy
    exact h01 x' y'
  | some b :: r => by
    rw [allSyms]
    exact (allSyms_pairwise hcons h01 r).map _ (fun _ _ => hcons b)

theorem allSyms_nodup : ∀ (a : Asgn), (allSyms a).Nodup :=
  allSyms_pairwise (fun _ _ _ hxy e => hxy (List.cons.inj e).2)
    (fun _ _ e => Bool.false_ne_true (Option.some.inj (List.cons.inj e).1))

theorem allSyms_length : ∀ (a : Asgn), (allSyms a).length = 2 ^ a.count none
  | [] => by simp [allSyms]
  | none :: r => by
    simp only [allSyms, List.length_append, List.length_map, allSyms_length r, List.count_cons_self, Nat.pow_succ]
    omega
  | some b :: r => by
    simp only [allSyms, List.length_map, allSyms_length r]
    rw [List.count_cons_of_ne (by simp)]

/-- the coded order: lexicographic with variable 0 most significant and `0` before `1` (the order of the `ToString()`s) -/
theorem allSyms_sorted : ∀ (a : Asgn), (allSyms a).Pairwise (fun x y => lexLt x y = true) :=
  allSyms_pairwise (fun b _ _ hxy => by rw [lexLt, hxy]; cases b <;> rfl) (fun _ _ => rfl)

theorem allSyms_concrete : ∀ (a : Asgn), isConcrete a = true → allSyms a = [a]
  | [], _ => rfl
  | none :: r, h => by simp [isConcrete] at h
  | some b :: r, h => by
    simp only [isConcrete, List.all_cons, Bool.and_eq_true] at h
    simp [allSyms, allSyms_concrete r (by simpa [isConcrete] using h.2)]

/-- the rank of a value in the coded order `0 < X < 1` -/
def rank : Val → Nat
  | some false => 0
  | none => 1
  | some true => 2

theorem cmpVal_lt (x y : Val) : cmpVal x y = .lt ↔ rank x < rank y := by
  rcases x with _ | _ | _ <;> rcases y with _ | _ | _ <;> decide

theorem cmpVal_gt (x y : Val) : cmpVal x y = .gt ↔ rank y < rank x := by
  rcases x with _ | _ | _ <;> rcases y with _ | _ | _ <;> decide

theorem cmpVal_eq (x y : Val) : cmpVal x y = .eq ↔ x = y := by
  rcases x with _ | _ | _ <;> rcases y with _ | _ | _ <;> decide

theorem rank_inj {x y : Val} : rank x = rank y → x = y := by
  rcases x with _ | _ | _ <;> rcases y with _ | _ | _ <;> decide

theorem ltLoop_cons (x y : Val) (xs ys : List Val) :
    ltLoop (x :: xs) (y :: ys) = (decide (rank x < rank y) || (decide (x = y) && ltLoop xs ys)) := by
  simp only [ltLoop]
  cases h : cmpVal x y with
  | lt =>
    have := (cmpVal_lt x y).1 h
    simp [this]
  | gt =>
    have := (cmpVal_gt x y).1 h
    have hne : x ≠ y := by intro e; subst e; omega
    have : ¬ rank x < rank y := by omega
    simp [this, hne]
  | eq =>
    have := (cmpVal_eq x y).1 h
    subst this
    simp

/-- on lists of one length the loop is core's lexicographic order on the ranks -/
theorem ltLoop_iff : ∀ {xs ys : List Val}, xs.length = ys.length → (ltLoop xs ys = true ↔ xs.map rank < ys.map rank)
  | [], [], _ => by simp [ltLoop]
  | [], _ :: _, h => by simp at h
  | _ :: _, [], h => by simp at h
  | x :: xs, y :: ys, h => by
    rw [ltLoop_cons, List.map_cons, List.map_cons, List.cons_lt_cons_iff, ← ltLoop_iff (Nat.succ.inj h)]
    simp only [Bool.or_eq_true, decide_eq_true_eq, Bool.and_eq_true]
    exact or_congr_right (and_congr_left' ⟨congrArg rank, rank_inj⟩)

theorem lt_of_length_lt {a b : Asgn} (h : a.length < b.length) : lt a b = true := by
  unfold lt
  rw [if_pos (by rw [decide_eq_true h, Bool.true_or])]
  exact decide_eq_true h

theorem lt_of_length_gt {a b : Asgn} (h : b.length < a.length) : lt a b = false := by
  unfold lt
  rw [if_pos (by rw [decide_eq_true h, Bool.or_true])]
  exact decide_eq_false (Nat.lt_asymm h)

theorem lt_of_length_eq {a b : Asgn} (h : a.length = b.length) : lt a b = ltLoop a.reverse b.reverse := by
  unfold lt
  rw [h, if_neg (by rw [decide_eq_false (Nat.lt_irrefl _)]; exact Bool.false_ne_true)]

/-- `operator<` is the lexicographic order on (length, ranks from the highest index) -/
theorem lt_iff (a b : Asgn) : lt a b = true ↔
    a.length < b.length ∨ a.length = b.length ∧ a.reverse.map rank < b.reverse.map rank := by
  rcases Nat.lt_trichotomy a.length b.length with h | h | h
  · simp [lt_of_length_lt h, h]
  · rw [lt_of_length_eq h, ltLoop_iff (by rw [List.length_reverse, List.length_reverse, h])]
    simp [h]
  · rw [lt_of_length_gt h]
    simp only [Bool.false_eq_true, false_iff, not_or, not_and]
    exact ⟨Nat.lt_asymm h, fun e => absurd e (Nat.ne_of_gt h)⟩

theorem lt_irrefl (a : Asgn) : lt a a = false :=
  Bool.eq_false_iff.mpr fun h => ((lt_iff a a).mp h).elim (Nat.lt_irrefl _) fun h => List.lt_irrefl _ h.2

theorem lt_trans {a b c : Asgn} (h1 : lt a b = true) (h2 : lt b c = true) : lt a c = true := by
  rw [lt_iff] at h1 h2 ⊢
  rcases h1 with h1 | ⟨e1, h1⟩ <;> rcases h2 with h2 | ⟨e2, h2⟩
  · exact Or.inl (Nat.lt_trans h1 h2)
  · exact Or.inl (e2 ▸ h1)
  · exact Or.inl (e1 ▸ h2)
  · exact Or.inr ⟨e1.trans e2, List.lt_trans h1 h2⟩

theorem lt_asymm {a b : Asgn} (h1 : lt a b = true) : lt b a = false := by
  cases h : lt b a with
  | false => rfl
  | true => have := lt_trans h1 h; rw [lt_irrefl] at this; cases this

/-- two different assignments are comparable: `operator<` is a strict TOTAL order (usable as the order of `std::map` keys) -/
theorem lt_total {a b : Asgn} (h : a ≠ b) : lt a b = true ∨ lt b a = true := by
  rw [lt_iff, lt_iff]
  rcases Nat.lt_trichotomy a.length b.length with hl | hl | hl
  · exact Or.inl (Or.inl hl)
  · rcases Std.Trichotomous.rel_or_eq_or_rel_swap (r := (· < · : List Nat → List Nat → Prop))
      (a := a.reverse.map rank) (b := b.reverse.map rank) with h' | h' | h'
    · exact Or.inl (Or.inr ⟨hl, h'⟩)
    · exact absurd (List.reverse_inj.mp ((List.map_inj_right fun _ _ => rank_inj).mp h')) h
    · exact Or.inr (Or.inr ⟨hl.symm, h'⟩)
  · exact Or.inr (Or.inl hl)

theorem ltLoop_iff_toNum : ∀ (xs ys : List Val), xs.length = ys.length → isConcrete xs = true → isConcrete ys = true →
    (ltLoop xs ys = true ↔ toNum xs.reverse < toNum ys.reverse)
  | [], [], _, _, _ => by simp [ltLoop, toNum]
  | [], _ :: _, h, _, _ => by simp at h
  | _ :: _, [], h, _, _ => by simp at h
  | x :: xs, y :: ys, hl, hx, hy => by
    simp only [isConcrete, List.all_cons, Bool.and_eq_true] at hx hy
    have hl' : xs.length = ys.length := by simpa using hl
    have ih := ltLoop_iff_toNum xs ys hl' (by simpa [isConcrete] using hx.2) (by simpa [isConcrete] using hy.2)
    rw [ltLoop_cons]
    simp only [Bool.or_eq_true, decide_eq_true_eq, Bool.and_eq_true, List.reverse_cons, toNum_append, List.length_reverse]
    rw [ih, hl']
    have bx := toNum_lt xs.reverse
    have by' := toNum_lt ys.reverse
    rw [List.length_reverse] at bx by'
    rw [hl'] at bx
    generalize toNum xs.reverse = p at *
    generalize toNum ys.reverse = q at *
    generalize 2 ^ ys.length = w at *
    cases x with
    | none => simp at hx
    | some bx' =>
      cases y with
      | none => simp at hy
      | some by'' =>
        cases bx' <;> cases by'' <;> simp [rank, toNum] <;> omega

theorem lt_iff_toNum {a b : Asgn} (hl : a.length = b.length) (ha : isConcrete a = true) (hb : isConcrete b = true) :
    lt a b = true ↔ toNum a < toNum b := by
  rw [lt_of_length_eq hl]
  have := ltLoop_iff_toNum a.reverse b.reverse (by rw [List.length_reverse, List.length_reverse, hl])
    (by simpa [isConcrete] using ha) (by simpa [isConcrete] using hb)
  rwa [List.reverse_reverse, List.reverse_reverse] at this

end Vata.Glue
