import Vata.SymbolCounter
import Vata.Proofs.GlueAsgn
import Vata.Proofs.AssocList
/-!
# Proofs about the symbol-code counter (`Vata/SymbolCounter.lean`)

`operator++` as coded (an index loop with the condition `i < length()`) is the binary increment `Glue.inc`, whatever the
fuel, so the `k`-th value the counter hands out is the binary code of `k` and the first `2^n` values are distinct.  The
seeded loop (`i + 1 < length()`) never carries into the top variable: its counter has period `2^n`, not `2^(n+1)`.
-/
namespace Vata
namespace SymbolCounter
open Glue BddLoad

theorem get_mid (pre : Asgn) (v : Val) (r : Asgn) : get (pre ++ v :: r) pre.length = some v := by
  simp [Glue.get]

theorem set_mid (pre : Asgn) (v w : Val) (r : Asgn) : set (pre ++ v :: r) pre.length w = pre ++ w :: r := by
  simp [Glue.set]

/-- the loop from index `|pre|` up to `stop = |pre| + |mid|`: the variables of `mid` are incremented (carry out of `mid`
dropped), the rest is untouched.  Any fuel `≥ |mid|` gives this result. -/
theorem incLoop_spec : ∀ (mid pre suf : Asgn) (stop fuel : Nat), stop = pre.length + mid.length → mid.length ≤ fuel →
    incLoop (fun i => decide (i < stop)) fuel pre.length (pre ++ (mid ++ suf)) = pre ++ (inc mid ++ suf)
  | [], pre, suf, stop, fuel, hs, _ => by
    cases fuel with
    | zero => rfl
    | succ fuel =>
      have : ¬ pre.length < stop := by simp at hs; omega
      simp [incLoop, this, inc]
  | v :: r, pre, suf, stop, fuel, hs, hf => by
    cases fuel with
    | zero => simp at hf
    | succ fuel =>
      have hc : pre.length < stop := by simp at hs; omega
      -- the rest of the loop, after the variable `|pre|` was given the value `w`
      have rest : ∀ w : Val, incLoop (fun i => decide (i < stop)) fuel (pre.length + 1) (pre ++ w :: (r ++ suf)) =
          pre ++ w :: (inc r ++ suf) := by
        intro w
        have := incLoop_spec r (pre ++ [w]) suf stop fuel (by simp at hs ⊢; omega) (by simp at hf; omega)
        simpa using this
      simp only [incLoop, hc, decide_true, if_true, List.cons_append, get_mid]
      match v with
      | some false => simp only [set_mid, inc, List.cons_append]
      | some true => simp only [set_mid, inc, List.cons_append]; exact rest _
      | none => simp only [inc, List.cons_append]; exact rest _

theorem incCoded_fuel (a : Asgn) (fuel : Nat) (h : a.length ≤ fuel) :
    incLoop (fun i => decide (i < length a)) fuel 0 a = inc a := by
  have := incLoop_spec a [] [] (length a) fuel (by simp [length]) h
  simpa using this

theorem incCoded_eq (a : Asgn) : incCoded a = inc a := incCoded_fuel a _ (Nat.le_refl _)

theorem incNoTopCarry_fuel (low : Asgn) (top : Val) (fuel : Nat) (h : low.length ≤ fuel) :
    incLoop (fun i => decide (i + 1 < length (low ++ [top]))) fuel 0 (low ++ [top]) = inc low ++ [top] := by
  have e : (fun i => decide (i + 1 < length (low ++ [top]))) = (fun i => decide (i < low.length)) := by
    funext i; simp [length]
  rw [e]
  have := incLoop_spec low [] [top] low.length fuel (by simp) h
  simpa using this

theorem incNoTopCarry_snoc (low : Asgn) (top : Val) : incNoTopCarry (low ++ [top]) = inc low ++ [top] :=
  incNoTopCarry_fuel low top _ (by simp [length])

theorem incNoTopCarry_nil : incNoTopCarry [] = [] := rfl

/-- the seeded `operator++` differs from the real one exactly on `1…1 0`-like inputs; the smallest: -/
theorem incNoTopCarry_ne : incNoTopCarry [some true, some false] ≠ inc [some true, some false] := by decide

theorem zero_eq_bitsLE : ∀ n, zero n = bitsLE n 0
  | 0 => rfl
  | n + 1 => by
    have := zero_eq_bitsLE n
    simp only [zero] at this ⊢
    simp [List.replicate_succ, bitsLE, this]

theorem zero_succ (n : Nat) : zero (n + 1) = zero n ++ [some false] := by
  simp [zero, List.replicate_succ']

theorem bitsLE_mod (n j : Nat) : bitsLE n (j % 2 ^ n) = bitsLE n j := by
  have := bitsLE_toNum (bitsLE n j) (isConcrete_bitsLE n j)
  rwa [bitsLE_length, toNum_bitsLE] at this

theorem bitsLE_inj {n j k : Nat} (hj : j < 2 ^ n) (hk : k < 2 ^ n) (h : bitsLE n j = bitsLE n k) : j = k := by
  have := congrArg toNum h
  rwa [toNum_bitsLE, toNum_bitsLE, Nat.mod_eq_of_lt hj, Nat.mod_eq_of_lt hk] at this

theorem iter_inc_bitsLE (n : Nat) : ∀ (k j : Nat), iter inc k (bitsLE n j) = bitsLE n (j + k)
  | 0, _ => rfl
  | k + 1, j => by
    rw [iter, inc_bitsLE, iter_inc_bitsLE n k (j + 1)]
    congr 1; omega

/-- after `k` increments the counter is the binary code of `k` (variable 0 = least significant bit; modulo `2^n`) -/
theorem iter_inc_zero (n k : Nat) : iter inc k (zero n) = bitsLE n k := by
  rw [zero_eq_bitsLE, iter_inc_bitsLE, Nat.zero_add]

theorem iter_noTop_bitsLE (n : Nat) (top : Val) : ∀ (k j : Nat),
    iter incNoTopCarry k (bitsLE n j ++ [top]) = bitsLE n (j + k) ++ [top]
  | 0, _ => rfl
  | k + 1, j => by
    rw [iter, incNoTopCarry_snoc, inc_bitsLE, iter_noTop_bitsLE n top k (j + 1)]
    congr 2; omega

theorem iter_noTop_zero (n k : Nat) : iter incNoTopCarry k (zero (n + 1)) = bitsLE n k ++ [some false] := by
  rw [zero_succ, zero_eq_bitsLE, iter_noTop_bitsLE, Nat.zero_add]

theorem iter_noTop_period (n k : Nat) :
    iter incNoTopCarry (k + 2 ^ n) (zero (n + 1)) = iter incNoTopCarry k (zero (n + 1)) := by
  rw [iter_noTop_zero, iter_noTop_zero, ← bitsLE_mod n (k + 2 ^ n), Nat.add_mod_right, bitsLE_mod]

theorem handOut_eq (step : Asgn → Asgn) : ∀ (m : Nat) (a : Asgn),
    handOut step m a = (List.range m).map (fun k => iter step k a)
  | 0, _ => rfl
  | m + 1, a => by
    rw [handOut, handOut_eq step m (step a), List.range_succ_eq_map]
    simp [iter, Function.comp_def]

theorem handOut_length (step : Asgn → Asgn) (m : Nat) (a : Asgn) : (handOut step m a).length = m := by
  rw [handOut_eq]; simp

theorem handOut_getElem (step : Asgn → Asgn) (m : Nat) (a : Asgn) (k : Nat) (h : k < (handOut step m a).length) :
    (handOut step m a)[k] = iter step k a := by
  simp [handOut_eq]

theorem handOut_inc (n m : Nat) : handOut inc m (zero n) = (List.range m).map (bitsLE n) := by
  rw [handOut_eq]
  apply List.map_congr_left
  intro k _
  exact iter_inc_zero n k

theorem map_bitsLE_nodup (n m : Nat) (h : m ≤ 2 ^ n) : ((List.range m).map (bitsLE n)).Nodup := by
  unfold List.Nodup
  rw [List.pairwise_map]
  refine List.Pairwise.imp_of_mem ?_ (List.nodup_range (n := m))
  intro i j hi hj hij e
  exact hij (bitsLE_inj (Nat.lt_of_lt_of_le (List.mem_range.mp hi) h) (Nat.lt_of_lt_of_le (List.mem_range.mp hj) h) e)

theorem handOut_inc_nodup (n m : Nat) (h : m ≤ 2 ^ n) : (handOut inc m (zero n)).Nodup := by
  rw [handOut_inc]; exact map_bitsLE_nodup n m h

theorem trsWith_spec (step : Asgn → Asgn) : ∀ (fs : List String) (d : List (String × Asgn)) (z : Asgn), fs.Nodup →
    (∀ f ∈ fs, f ∉ d.map (·.1)) →
    trsWith step ⟨d, z⟩ fs = ⟨d ++ fs.zip (handOut step fs.length z), iter step fs.length z⟩
  | [], d, z, _, _ => by simp [trsWith, handOut, iter]
  | f :: fs, d, z, hn, hd => by
    have hf : d.lookup f = none := lookup_eq_none_iff_keys.mpr (hd f (List.mem_cons_self ..))
    have hn' := List.nodup_cons.mp hn
    have step1 : (trWith step ⟨d, z⟩ f).2 = ⟨d ++ [(f, z)], step z⟩ := by simp [trWith, hf]
    rw [trsWith, step1, trsWith_spec step fs (d ++ [(f, z)]) (step z) hn'.2]
    · simp [handOut, iter]
    · intro g hg
      simp only [List.map_append, List.map_cons, List.map_nil, List.mem_append, List.mem_singleton, not_or]
      exact ⟨hd g (List.mem_cons_of_mem _ hg), fun e => hn'.1 (e ▸ hg)⟩

theorem trsWith_init_mem (step : Asgn → Asgn) (n : Nat) (fs : List String) (hn : fs.Nodup) (i : Nat) (hi : i < fs.length) :
    (fs[i], iter step i (zero n)) ∈ (trsWith step (initW n) fs).dict := by
  rw [initW, trsWith_spec step fs [] (zero n) hn (by simp)]
  simp only [List.nil_append]
  rw [List.mem_iff_getElem]
  refine ⟨i, by simp [handOut_length, hi], ?_⟩
  simp [handOut_getElem]

theorem trsWith_init_dict (step : Asgn → Asgn) (n : Nat) (fs : List String) (hn : fs.Nodup) :
    (trsWith step (initW n) fs).dict = fs.zip (handOut step fs.length (zero n)) ∧
    (trsWith step (initW n) fs).next = iter step fs.length (zero n) := by
  rw [initW, trsWith_spec step fs [] (zero n) hn (by simp)]
  simp

theorem zip_right_inj {α β : Type} : ∀ {l : List α} {r : List β}, r.Nodup → ∀ {a b : α} {c : β},
    (a, c) ∈ l.zip r → (b, c) ∈ l.zip r → a = b
  | [], _, _, _, _, _, h, _ => by simp at h
  | _ :: _, [], _, _, _, _, h, _ => by simp at h
  | x :: l, y :: r, hr, a, b, c, h1, h2 => by
    have hr' := List.nodup_cons.mp hr
    simp only [List.zip_cons_cons, List.mem_cons, Prod.mk.injEq] at h1 h2
    rcases h1 with ⟨h1a, h1c⟩ | h1
    · rcases h2 with ⟨h2a, _⟩ | h2
      · rw [h1a, h2a]
      · exact absurd (h1c ▸ (List.of_mem_zip h2).2) hr'.1
    · rcases h2 with ⟨_, h2c⟩ | h2
      · exact absurd (h2c ▸ (List.of_mem_zip h1).2) hr'.1
      · exact zip_right_inj hr'.2 h1 h2

theorem trWith_inc : trWith Glue.inc = AlphaC.tr := by
  funext a f
  unfold trWith AlphaC.tr
  cases a.dict.lookup f <;> rfl

theorem initW_16 : AlphaC.init = some (initW 16) := by
  rw [alphaC_init]; rfl

theorem symAsgn_inj {j k : Nat} (hj : j < symbolCodes) (hk : k < symbolCodes) (h : BddAbs.symAsgn j = BddAbs.symAsgn k) :
    j = k := by
  rw [symAsgn_eq_bitsLE, symAsgn_eq_bitsLE] at h
  exact bitsLE_inj (n := 16) hj hk h

theorem incCoded_eq_inc : incCoded = inc := funext incCoded_eq

theorem handOut_noTop (n m : Nat) :
    handOut incNoTopCarry m (zero (n + 1)) = (List.range m).map (fun k => bitsLE n k ++ [some false]) := by
  rw [handOut_eq]
  apply List.map_congr_left
  intro k _
  exact iter_noTop_zero n k

theorem handOut_noTop_nodup (n m : Nat) (h : m ≤ 2 ^ n) : (handOut incNoTopCarry m (zero (n + 1))).Nodup := by
  rw [handOut_noTop]
  have := map_bitsLE_nodup n m h
  have h2 : (List.range m).map (fun k => bitsLE n k ++ [some false]) =
      ((List.range m).map (bitsLE n)).map (· ++ [some false]) := by simp
  rw [h2]
  exact List.Pairwise.map _ (fun a b hab e => hab (List.append_cancel_right e)) this

/-- the value after the `2^n`-th is the first again -/
theorem handOut_noTop_not_nodup (n m : Nat) (h : 2 ^ n < m) : ¬ (handOut incNoTopCarry m (zero (n + 1))).Nodup := by
  have hp : 0 < 2 ^ n := Nat.pow_pos (by decide)
  obtain ⟨m', rfl⟩ : ∃ m', m = m' + 1 := ⟨m - 1, by omega⟩
  intro hn
  rw [handOut] at hn
  apply (List.nodup_cons.mp hn).1
  rw [handOut_eq]
  refine List.mem_map.mpr ⟨2 ^ n - 1, List.mem_range.mpr (by omega), ?_⟩
  show iter incNoTopCarry (2 ^ n - 1 + 1) (zero (n + 1)) = zero (n + 1)
  have := iter_noTop_period n 0
  rw [Nat.zero_add] at this
  rw [Nat.sub_add_cancel hp, this]; rfl

/-- a name that was translated as the `i`-th new name of a fresh alphabet is translated to the `i`-th counter value
ever after (the alphabet is not changed) -/
theorem trWith_known (step : Asgn → Asgn) (n : Nat) (fs : List String) (hn : fs.Nodup) (i : Nat) (hi : i < fs.length) :
    trWith step (trsWith step (initW n) fs) fs[i] = (iter step i (zero n), trsWith step (initW n) fs) := by
  have hm := trsWith_init_mem step n fs hn i hi
  have hk : ((trsWith step (initW n) fs).dict.map (·.1)).Nodup := by
    rw [(trsWith_init_dict step n fs hn).1, List.map_fst_zip (by simp [handOut_length])]
    exact hn
  simp only [trWith, lookup_of_mem hk hm]

end SymbolCounter
end Vata
