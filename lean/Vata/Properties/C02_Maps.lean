import Vata.Proofs.UnionIsectMaps
import Vata.Proofs.UnionIsectMapsTD
import Vata.Proofs.UnionIsectMapsTotal
import Vata.Proofs.UnionIsectMapsBU
import Vata.Proofs.UnionModel
/-!
# C02 (translation maps) – `Union`, `Intersection`, `IntersectionBU` with caller-supplied maps AS CODED

> C02: For any explicit tree automata A and B, Union … return an automaton accepting exactly L(A) ∪ L(B), and Intersection
> and IntersectionBU return automata accepting exactly L(A) ∩ L(B).  The state-translation maps they report name, for every
> state of the result, the operand state or state pair it stands for …

`Vata/Properties/C02.lean` covers the calls without maps, with two SEPARATE (possibly pre-filled) union maps and with an
EMPTY product map.  This file closes its open item "`Union` called with the SAME map object for both operands, or
`Intersection` / `IntersectionBU` called with a pre-filled `ProductTranslMap`, are not modelled".

## How the C++ is read into the model (`Vata/UnionIsectMaps.lean`, the quoted lines are there)

* **`Union(lhs, rhs, &m, &m)`** (`src/explicit_tree_union.cc`): both `StateToStateTranslWeak` objects hold a reference to the
  same `unordered_map`, so the pass over `rhs` starts from the map the pass over `lhs` left.  `unionSameMapOrd oA oB A B m0`:
  counter from `max(second+1)` over the entry map, `weakTrAll` over `lhs` then over `rhs` continuing map AND counter; the
  result is `ReindexStates` of both operands into one automaton, and the one map.  The visiting orders (hash order) are
  parameters; `unionSameMap` instantiates them with list order.
* **`Intersection(lhs, rhs, &m)`** (`src/explicit_tree_isect.cc`): fresh numbers are `pTranslMap->size()` – there is NO counter
  and no look at the numbers already in the map; every pair of final states is inserted-or-found and ALWAYS pushed
  (`stack.push_back(&*u)`); a child pair is pushed only `if (u.second)`, i.e. only when it was not in the map.
  `isectTDFrom A B m0 fuel` = `initPairs` (first loop) + `isectLoop` of `Vata/IsectModel.lean` (unchanged) from `m0`, output
  returned as it is.  Fuel: `none` only when the fuel is too small; `isectFromFuel A B = |F_A×F_B| + |Q_A|·|Q_B|` always
  suffices (`C02_isect_prefilled_total`), for every entry map.
* **`IntersectionBU(lhs, rhs, &m)`** (`src/explicit_tree_isect_bu.cc`): `isectBUFrom A B m0 fuel` = leaf phase + `buLoop` of
  `Vata/IsectBU.lean` (unchanged) from `m0`, output returned as it is (no certificate check).
* A `PMap` / `SMap` is an association list standing for an `unordered_map`: keys are meant to be distinct, `length` is
  `size()`.  Hash iteration orders are list orders (the union theorems hold for all orders; the product theorems
  characterise the rules as a set).

All runs quoted in the `…_counterexample` theorems were replayed on the real library (`/repo/_build/src/libvata.a`,
public API `ExplicitTreeAut::Union / Intersection / IntersectionBU`): rules, final states and maps agree with the model
number by number.

## Findings (API preconditions the C++ neither documents precisely nor checks)

* `Union` with one map object: state NUMBERS shared by the operands are identified; the result is the two rule sets glued
  on common numbers (`C02_union_same_map_glues`), exact iff that juxtaposition is exact, in particular for disjoint state
  sets (`C02_union_same_map_lang`); otherwise the language can be too large (`C02_union_same_map_counterexample`).  The
  header says the operands' states "may be overlapping" – true only for two different map objects.
* `Intersection` with a non-empty map (header: `@param[out]`): pre-filled pairs other than pairs of final states are never
  explored ⇒ language too small (`C02_isect_prefilled_unexplored_counterexample`); in particular passing the map filled by
  a previous `Intersection` of the same operands returns an automaton with the empty language
  (`C02_isect_prefilled_reuse_counterexample`).  Numbers not below `size()` collide with fresh numbers ⇒ language too large
  (`C02_isect_prefilled_collision_counterexample`).  Precondition for exactness: `MapOk m0` and every pre-filled pair is a
  pair of final states or has no matching rules (`C02_isect_prefilled_lang`) – in practice "empty on entry".
* `IntersectionBU` with a non-empty map: collisions as above, language too small
  (`C02_isectBU_prefilled_collision_counterexample`); pre-filled pairs ARE processed when reached (examples in
  `Vata/Proofs/UnionIsectMapsBU.lean`).
-/
namespace Vata.Props

/-! ### Union, one map for both operands -/

/-- `Union(lhs, rhs, &m, &m)` **glues**: the result IS the image of the juxtaposed rule sets `unionDisjoint A B`
(`A.rules ++ B.rules`, `A.final ++ B.final`) under the one map on exit; that map is injective, extends the (injective) map
on entry and knows every state of both operands.  For all visiting orders that cover the states. -/
theorem C02_union_same_map_glues (oA oB : List Nat) (A B : TA) (m0 : SMap)
    (hoA : ∀ q, q ∈ A.states → q ∈ oA) (hoB : ∀ q, q ∈ B.states → q ∈ oB) (hi : Um.Inj m0) :
    (unionSameMapOrd oA oB A B m0).1 = reindex (applyMap (unionSameMapOrd oA oB A B m0).2) (unionDisjoint A B) ∧
    Um.Inj (unionSameMapOrd oA oB A B m0).2 ∧ Um.Ext m0 (unionSameMapOrd oA oB A B m0).2 ∧
    InjOnStates (applyMap (unionSameMapOrd oA oB A B m0).2) (unionDisjoint A B) ∧
    (∀ q, q ∈ A.states ∨ q ∈ B.states → ∃ n, (unionSameMapOrd oA oB A B m0).2.lookup q = some n) :=
  unionSameMapOrd_glues oA oB A B m0 hoA hoB hi

example : (unionSameMap UnionSameEx.exA UnionSameEx.exB []).1 =
    reindex (applyMap (unionSameMap UnionSameEx.exA UnionSameEx.exB []).2) (unionDisjoint UnionSameEx.exA UnionSameEx.exB) :=
  (unionSameMap_glues _ _ [] Um.inj_nil).1
example : (unionSameMap UnionSameEx.exA UnionSameEx.exB []).2 = [(1, 0), (0, 1)] := by decide

/-- `Union(lhs, rhs, &m, &m)` accepts exactly `L(A) ∪ L(B)` when no state number occurs in both operands (the API
precondition of the aliased call); the pre-filled map only has to be injective -/
theorem C02_union_same_map_lang (oA oB : List Nat) (A B : TA) (m0 : SMap)
    (hoA : ∀ q, q ∈ A.states → q ∈ oA) (hoB : ∀ q, q ∈ B.states → q ∈ oB) (hi : Um.Inj m0)
    (hdis : ∀ q, q ∈ A.states → q ∉ B.states) (t : Tree) :
    accepts (unionSameMapOrd oA oB A B m0).1 t = (accepts A t || accepts B t) :=
  unionSameMapOrd_lang oA oB A B m0 hoA hoB hi hdis t

example : (∀ q, q ∈ UnionSameEx.exA.states → q ∉ UnionSameEx.exB7.states) ∧ Um.Inj [(0, 4)] :=
  ⟨by decide, smapInjB_sound (by decide)⟩
example (t : Tree) : accepts (unionSameMap UnionSameEx.exA UnionSameEx.exB7 [(0, 4)]).1 t =
    (accepts UnionSameEx.exA t || accepts UnionSameEx.exB7 t) :=
  unionSameMap_lang _ _ _ (smapInjB_sound (by decide)) (by decide) t

/-- in general the aliased call is exact if and only if juxtaposing the two rule sets (identifying equal state numbers)
is exact -/
theorem C02_union_same_map_exact_iff (oA oB : List Nat) (A B : TA) (m0 : SMap)
    (hoA : ∀ q, q ∈ A.states → q ∈ oA) (hoB : ∀ q, q ∈ B.states → q ∈ oB) (hi : Um.Inj m0) :
    (∀ t, accepts (unionSameMapOrd oA oB A B m0).1 t = (accepts A t || accepts B t)) ↔
    (∀ t, accepts (unionDisjoint A B) t = (accepts A t || accepts B t)) := by
  constructor
  · intro h t; rw [← unionSameMapOrd_lang_glued oA oB A B m0 hoA hoB hi t]; exact h t
  · intro h t; rw [unionSameMapOrd_lang_glued oA oB A B m0 hoA hoB hi t]; exact h t

/-- **counterexample (finding, API precondition).**  `A = {a → 0, h(0) → 1; F = {1}}` (`L = {h(a)}`),
`B = {b → 0; F = {0}}` (`L = {b}`): `Union(A, B, &m, &m)` with an empty `m` returns `a → 1, h(1) → 0, b → 1; F = {0, 1}`, which
accepts `a` and `h(b)`; `Union(A, B, &m1, &m2)` with two maps does not.  The hypothesis `hdis` of
`C02_union_same_map_lang` cannot be dropped. -/
theorem C02_union_same_map_counterexample :
    accepts (unionSameMap UnionSameEx.exA UnionSameEx.exB []).1 UnionSameEx.tA = true ∧
    accepts UnionSameEx.exA UnionSameEx.tA = false ∧ accepts UnionSameEx.exB UnionSameEx.tA = false ∧
    accepts (unionSameMap UnionSameEx.exA UnionSameEx.exB []).1 UnionSameEx.tHB = true ∧
    accepts UnionSameEx.exA UnionSameEx.tHB = false ∧ accepts UnionSameEx.exB UnionSameEx.tHB = false ∧
    accepts (unionModel UnionSameEx.exA UnionSameEx.exB [] []).1 UnionSameEx.tA = false ∧
    accepts (unionModel UnionSameEx.exA UnionSameEx.exB [] []).1 UnionSameEx.tHB = false := by decide +kernel

/-! ### Intersection, pre-filled map -/

/-- what `Intersection(lhs, rhs, &m)` returns for a map that is `MapOk` on entry (numbers below the size, injective – e.g.
empty, or returned by an earlier product): the map on exit is `MapOk`, extends the map on entry and contains all pairs
of final states; the result is, as a set of rules and of final states, the product restricted to the EXPLORED pairs –
the pairs of final states and the pairs that were not in the map on entry – numbered by the map; the children of its
rules are in the map -/
theorem C02_isect_prefilled_is_explored_product {A B : TA} {m0 : PMap} {fuel : Nat} {P : TA} {m : PMap}
    (hok : Isx.MapOk m0) (h : isectTDFrom A B m0 fuel = some (P, m)) :
    Isx.MapOk m ∧ Isx.Ext m0 m ∧ (∀ p, p ∈ A.final → ∀ p', p' ∈ B.final → (p, p') ∈ m.dom) ∧
    (∀ ρ, ρ ∈ P.rules ↔ ρ ∈ (prodOn A B (exploredPairs A B m0 m) (lookupF m)).rules) ∧
    (∀ x, x ∈ P.final ↔ x ∈ (prodOn A B (exploredPairs A B m0 m) (lookupF m)).final) ∧
    (∀ r, r ∈ A.rules → ∀ r', r' ∈ B.rules → r'.sym = r.sym → r'.kids.length = r.kids.length →
      (r.parent, r'.parent) ∈ exploredPairs A B m0 m → ∀ pr, pr ∈ r.kids.zip r'.kids → pr ∈ m.dom) :=
  isectTDFrom_spec hok h

example : exploredPairs IsectFromEx.exA IsectFromEx.exA [((0, 0), 0)] [((0, 0), 0), ((1, 1), 1)] = [(1, 1)] := by decide

/-- **exactness with a pre-filled map**: `MapOk m0` and every pre-filled pair is a pair of final states or has no pair
of matching rules.  Both hypotheses are necessary (`C02_isect_prefilled_unexplored_counterexample`,
`C02_isect_prefilled_collision_counterexample`); both are decidable (`pmapOkB`, `prefillOkB`). -/
theorem C02_isect_prefilled_lang {A B : TA} {m0 : PMap} {fuel : Nat} {P : TA} {m : PMap}
    (hok : pmapOkB m0 = true) (hpre : prefillOkB A B m0 = true)
    (h : isectTDFrom A B m0 fuel = some (P, m)) (t : Tree) : accepts P t = (accepts A t && accepts B t) :=
  isectTDFrom_lang (pmapOkB_sound hok) (prefillOkB_sound hpre) h t

example : pmapOkB [((8, 9), 0)] = true ∧ prefillOkB IsectFromEx.exA IsectFromEx.exA [((8, 9), 0)] = true ∧
    (isectTDFrom IsectFromEx.exA IsectFromEx.exA [((8, 9), 0)] 6).isSome = true := by decide
example : pmapOkB [((1, 1), 0)] = true ∧ prefillOkB IsectFromEx.exA IsectFromEx.exA [((1, 1), 0)] = true := by decide

/-- for every `MapOk` entry map the result accepts ONLY trees of the intersection (it can only lose trees), and the
reported map is injective -/
theorem C02_isect_prefilled_sound {A B : TA} {m0 : PMap} {fuel : Nat} {P : TA} {m : PMap}
    (hok : pmapOkB m0 = true) (h : isectTDFrom A B m0 fuel = some (P, m)) :
    (∀ t, accepts P t = true → accepts A t = true ∧ accepts B t = true) ∧ InjOn (lookupF m) m.dom :=
  ⟨fun t ht => isectTDFrom_sound (pmapOkB_sound hok) h t ht, isectTDFrom_map_inj (pmapOkB_sound hok) h⟩

example : pmapOkB [((0, 0), 0)] = true ∧ (isectTDFrom IsectFromEx.exA IsectFromEx.exA [((0, 0), 0)] 6).isSome = true := by
  decide

/-- totality: the fuel `|F_A × F_B| + |Q_A|·|Q_B|` is enough for every entry map -/
theorem C02_isect_prefilled_total (A B : TA) (m0 : PMap) (fuel : Nat) (hf : isectFromFuel A B ≤ fuel) :
    (isectTDFrom A B m0 fuel).isSome = true := isectTDFrom_total A B m0 fuel hf

example : isectFromFuel IsectFromEx.exA IsectFromEx.exA = 5 := by decide

/-- **counterexample (finding).**  `A = {a → 0, h(0) → 1; F = {1}}`, `m = {(0,0) ↦ 0}` on entry (a `MapOk` map):
`Intersection(A, A, &m)` returns the single rule `h(0) → 1`, `F = {1}`, map `{(0,0) ↦ 0, (1,1) ↦ 1}` – the empty language,
but `h(a) ∈ L(A) ∩ L(A)`: the child pair `(0,0)` of the rule `h(0,0) → (1,1)` is found in the map and not pushed, so the
leaf rule `a → (0,0)` is never written.  The hypothesis `hpre` of `C02_isect_prefilled_lang` cannot be dropped. -/
theorem C02_isect_prefilled_unexplored_counterexample :
    pmapOkB [((0, 0), 0)] = true ∧
    IsectFromEx.obs (isectTDFrom IsectFromEx.exA IsectFromEx.exA [((0, 0), 0)] 6) =
      some ([⟨2, [0], 1⟩], [1], [((0, 0), 0), ((1, 1), 1)]) ∧
    (isectTDFrom IsectFromEx.exA IsectFromEx.exA [((0, 0), 0)] 6).map (fun r => accepts r.1 IsectFromEx.tHA) = some false ∧
    accepts IsectFromEx.exA IsectFromEx.tHA = true :=
  ⟨by decide +kernel, by decide +kernel, by decide +kernel, by decide +kernel⟩

/-- **counterexample (finding): re-using the map object.**  `AutBase::ProductTranslMap m; Intersection(A, A, &m);
Intersection(A, A, &m);` – the second call finds every child pair in the map, explores the pair of final states only
and returns `h(1) → 0; F = {0}`: the empty language. -/
theorem C02_isect_prefilled_reuse_counterexample :
    IsectFromEx.obs (isectTDFrom IsectFromEx.exA IsectFromEx.exA [] 6) =
      some ([⟨2, [1], 0⟩, ⟨0, [], 1⟩], [0], [((1, 1), 0), ((0, 0), 1)]) ∧
    pmapOkB [((1, 1), 0), ((0, 0), 1)] = true ∧
    IsectFromEx.obs (isectTDFrom IsectFromEx.exA IsectFromEx.exA [((1, 1), 0), ((0, 0), 1)] 6) =
      some ([⟨2, [1], 0⟩], [0], [((1, 1), 0), ((0, 0), 1)]) ∧
    (isectTDFrom IsectFromEx.exA IsectFromEx.exA [((1, 1), 0), ((0, 0), 1)] 6).map (fun r => accepts r.1 IsectFromEx.tHA) =
      some false ∧
    accepts IsectFromEx.exA IsectFromEx.tHA = true :=
  ⟨by decide +kernel, by decide +kernel, by decide +kernel, by decide +kernel, by decide +kernel⟩

/-- **counterexample (finding): numbers not below the size.**  `m = {(1,1) ↦ 1}` on entry: the fresh number `size() = 1`
is given to `(0,0)` as well; the result `h(1) → 1, a → 1; F = {1}` accepts `a` and `h(h(a))`.  The hypothesis `hok` of
`C02_isect_prefilled_lang` / `C02_isect_prefilled_sound` cannot be dropped. -/
theorem C02_isect_prefilled_collision_counterexample :
    prefillOkB IsectFromEx.exA IsectFromEx.exA [((1, 1), 1)] = true ∧ pmapOkB [((1, 1), 1)] = false ∧
    IsectFromEx.obs (isectTDFrom IsectFromEx.exA IsectFromEx.exA [((1, 1), 1)] 6) =
      some ([⟨2, [1], 1⟩, ⟨0, [], 1⟩], [1], [((1, 1), 1), ((0, 0), 1)]) ∧
    (isectTDFrom IsectFromEx.exA IsectFromEx.exA [((1, 1), 1)] 6).map
      (fun r => (accepts r.1 IsectFromEx.tA, accepts r.1 IsectFromEx.tHHA)) = some (true, true) ∧
    accepts IsectFromEx.exA IsectFromEx.tA = false ∧ accepts IsectFromEx.exA IsectFromEx.tHHA = false :=
  ⟨by decide +kernel, by decide +kernel, by decide +kernel, by decide +kernel, by decide +kernel, by decide +kernel⟩

/-! ### IntersectionBU -/

/-- from the empty map the as-coded `IntersectionBU` (no certificate check) is the certified model `isectBU`, hence exact
with an injective map -/
theorem C02_isectBU_from_empty (A B : TA) (fuel : Nat) :
    isectBUFrom A B [] fuel = isectBU A B fuel ∧
    (∀ P m, isectBUFrom A B [] fuel = some (P, m) →
      (∀ t, accepts P t = (accepts A t && accepts B t)) ∧ InjOn (lookupF m) m.dom) :=
  ⟨isectBUFrom_nil A B fuel, fun _ _ h => ⟨isectBUFrom_lang_empty h, isectBUFrom_map_inj_empty h⟩⟩

example : (isectBUFrom IsectBUFromEx.exA IsectBUFromEx.exA [] 6).isSome = true := by decide

/-- **counterexample (finding): `IntersectionBU` with numbers not below the size.**  `m = {(1,1) ↦ 1}` on entry: the leaf
pair `(0,0)` gets `size() = 1`; the entry of `(1,1)` is skipped by `newStates.count(p->second)` and never marked final:
`a → 1, h(1) → 1; F = {}`, the empty language, but `h(a)` is in the intersection -/
theorem C02_isectBU_prefilled_collision_counterexample :
    IsectBUFromEx.obs (isectBUFrom IsectBUFromEx.exA IsectBUFromEx.exA [((1, 1), 1)] 6) =
      some ([⟨0, [], 1⟩, ⟨2, [1], 1⟩], [], [((1, 1), 1), ((0, 0), 1)]) ∧
    (isectBUFrom IsectBUFromEx.exA IsectBUFromEx.exA [((1, 1), 1)] 6).map (fun r => accepts r.1 IsectBUFromEx.tHA) =
      some false ∧
    accepts IsectBUFromEx.exA IsectBUFromEx.tHA = true :=
  ⟨by decide +kernel, by decide +kernel, by decide +kernel⟩

/-! ### what a caller may rely on -/

/-- **entry point × map situation**, in one statement.
* `Union`, maps absent / fresh (empty) / pre-filled, TWO map objects: exact when the pre-filled maps are injective with
  disjoint images (trivial for empty maps).
* `Union`, ONE map object for both operands: the language of the two rule sets glued on common state numbers; exact
  when the operands' state sets are disjoint.
* `Intersection`, map absent / empty: exact, injective map.  Pre-filled: with `pmapOkB m0` never too large and the map
  stays injective; exact when moreover `prefillOkB A B m0`.  A result is returned for every entry map with the fuel
  `isectFromFuel`.
* `IntersectionBU`, map absent / empty: exact, injective map.  (Pre-filled: examples and counterexample only.) -/
theorem C02_maps_statement (A B : TA) :
    -- Union, two maps
    (∀ mL mR, Um.Inj mL → Um.Inj mR → Um.Disj mL mR →
      ∀ t, accepts (unionModel A B mL mR).1 t = (accepts A t || accepts B t)) ∧
    (∀ t, accepts (unionModel A B [] []).1 t = (accepts A t || accepts B t)) ∧
    -- Union, one map
    (∀ m0, Um.Inj m0 → (∀ t, accepts (unionSameMap A B m0).1 t = accepts (unionDisjoint A B) t) ∧
      ((∀ q, q ∈ A.states → q ∉ B.states) → ∀ t, accepts (unionSameMap A B m0).1 t = (accepts A t || accepts B t))) ∧
    -- Intersection
    (∀ fuel P m, isectTDFrom A B [] fuel = some (P, m) →
      (∀ t, accepts P t = (accepts A t && accepts B t)) ∧ InjOn (lookupF m) m.dom) ∧
    (∀ m0 fuel P m, pmapOkB m0 = true → isectTDFrom A B m0 fuel = some (P, m) →
      (∀ t, accepts P t = true → accepts A t = true ∧ accepts B t = true) ∧ InjOn (lookupF m) m.dom ∧ Isx.Ext m0 m ∧
      (prefillOkB A B m0 = true → ∀ t, accepts P t = (accepts A t && accepts B t))) ∧
    (∀ m0 fuel, isectFromFuel A B ≤ fuel → (isectTDFrom A B m0 fuel).isSome = true) ∧
    -- IntersectionBU
    (∀ fuel P m, isectBUFrom A B [] fuel = some (P, m) →
      (∀ t, accepts P t = (accepts A t && accepts B t)) ∧ InjOn (lookupF m) m.dom) := by
  refine ⟨fun mL mR hL hR hD t => unionModel_lang A B mL mR hL hR hD t, fun t => unionModel_lang_empty A B t, ?_, ?_, ?_,
    fun m0 fuel hf => isectTDFrom_total A B m0 fuel hf, fun fuel P m h => (C02_isectBU_from_empty A B fuel).2 P m h⟩
  · intro m0 hi
    exact ⟨fun t => unionSameMap_lang_glued A B m0 hi t, fun hdis t => unionSameMap_lang A B m0 hi hdis t⟩
  · intro fuel P m h
    exact ⟨fun t => isectTDFrom_lang_empty h t, isectTDFrom_map_inj Isx.mapOk_nil h⟩
  · intro m0 fuel P m hok h
    exact ⟨fun t ht => isectTDFrom_sound (pmapOkB_sound hok) h t ht, isectTDFrom_map_inj (pmapOkB_sound hok) h,
      (isectTDFrom_spec (pmapOkB_sound hok) h).2.1, fun hpre t => C02_isect_prefilled_lang hok hpre h t⟩

-- the statement speaks about runs that exist
example : (isectTDFrom IsectFromEx.exA IsectFromEx.exA [] 6).isSome = true ∧
    (isectTDFrom IsectFromEx.exA IsectFromEx.exA [((8, 9), 0)] 6).isSome = true ∧
    (isectBUFrom IsectBUFromEx.exA IsectBUFromEx.exA [] 6).isSome = true := by decide

/-!
## still not proved

* **`IntersectionBU` with a non-empty entry map.**  No general theorem.  Conjecture (supported by the `decide`d runs in
  `Vata/Proofs/UnionIsectMapsBU.lean`, by the replay on the real library, and by a random comparison of 4000 pairs of
  3-state automata with `pmapOkB` entry maps against the reference `isIsectM`: no difference, whereas `isectTDFrom`
  differed on 226 of them): `pmapOkB m0` alone makes `isectBUFrom A B m0` exact, because every written rule pushes its
  parent entry whether or not the pair was new.  The proof needs the invariant of `Vata/Proofs/IsectBUInv.lean` redone
  without `NumOk` (entry `i` carries number `i`) and with "popped" in place of "in the map" in the completeness clause.
  Fuel / totality of `isectBUFrom` for non-empty maps is not proved either.
* `C02_isect_prefilled_lang` is a sufficient condition; the exact characterisation is
  `C02_isect_prefilled_is_explored_product` (product restricted to the explored pairs).  No "iff" in terms of the
  languages is proved (a pre-filled unexplored pair is harmless also when it is useless in the product).
* The union theorems are stated for visiting orders as parameters, the product models use list order for the hash
  iteration orders; the theorems do not depend on the order, the concrete numbers do.
* The entry maps are association lists; the theorems do not assume distinct keys, but only lists with distinct keys stand
  for a C++ map (`length = size()`).
* `Union` with one map is modelled for the explicit tree automata only; the NFA `Union`
  (`src/explicit_finite_union.cc`) also builds two weak translators over the caller's maps and is not covered here.
-/
end Vata.Props
