import Vata.Proofs.FunctorCachesDownOptSim
import Vata.Proofs.FunctorCachesDownRun
/-!
# `CheckDownwardTreeInclusion<…, OptDownwardInclusionFunctor, …>` with its caches returns what the cache-free model returns

The simulation of `expand` (`expandO_rel`, `Vata/Proofs/FunctorCachesDownOptSim.lean`) is lifted through the loop over the
final states of the smaller automaton to the whole exploration and to the certify-then-trust models, for EVERY allocator, with
the library's deleter; at the end of a run the invariant of `lteCache` holds and `incl_` is still empty.
-/
namespace Vata
namespace FCD
open Vata.InclDown
open Vata.InclUp (normS prodWit Wit)

theorem rootLoopO_rel {o : Ord} (hr : ∀ q, o.leB q q = true) (pick : List Nat → Nat) (A B : TA) (wit : Wit) (fuel : Nat)
    (FB : List Nat) : ∀ (fs : List Nat) (fo : FO) (stC : StO) (cc : List Pair) (st : St), DRelO o [] fo stC cc st →
    viewO (rootLoopO o .lib pick A B wit fuel FB fs fo stC) = rootLoop o A B wit fuel FB fs cc st ∧
    ∀ s, rootLoopO o .lib pick A B wit fuel FB fs fo stC = some (.ok s) → HInvD o s.h ∧ s.incl = [] := by
  intro fs
  induction fs with
  | nil =>
    intro fo stC cc st h
    exact ⟨by simp only [rootLoopO, rootLoop, viewO, show stC.nonIncl.map (derefN stC.h) = _ from h.base.eni,
        show stC.trues = _ from h.base.etr],
      fun s hs => by cases hs; exact ⟨h.base.hi, h.eincl⟩⟩
  | cons f fs ih =>
    intro fo stC cc st h
    obtain ⟨l1, _, l3, l4⟩ := hLookupD_spec pick h.base.hi FB
    have h2 := (h.heap l1 (fun a _ ha => l4 a ha) (fun _ hx => hx)).collect (rootsO [] fo stC)
      (fun _ ha => mem_rootsO.mpr (by
        rcases ha with ⟨_, hx, _⟩ | hcc | hant | hni
        · cases hx
        · exact Or.inr (Or.inl hcc)
        · exact Or.inr (Or.inr (Or.inl hant))
        · exact Or.inr (Or.inr (Or.inr (Or.inr (Or.inl hni))))))
    simp only [rootLoopO, rootLoop]
    rw [l3]
    by_cases hp : byPre o f FB = true
    · rw [if_pos hp, if_pos hp]; exact ih _ _ _ _ h2
    · rw [if_neg hp, if_neg hp]
      have hcall : CallRelG (DRelO o []) (wrapO o .lib pick [] (fun fr => expandO o .lib pick A B wit fuel [] fr))
          (expand o A B wit fuel []) :=
        wrapO_rel hr pick (fun _ hx => by cases hx)
          (fun q a Q fz => expandO_rel hr pick A B wit fuel (Frames.root a Q ([] ++ fz)) q)
      rcases (bodyG_rel hcall hcall A B wit normS f FB fo _ cc st h2).inv with ⟨e1, e2⟩ |
        ⟨⟨v, fo1, st'⟩, ⟨_, cc1V, stV⟩, e1, e2, rfl, hb⟩
      · rw [e1, e2]; exact ⟨rfl, nofun⟩
      · rw [e1, e2]
        cases v with
        | holds =>
          exact ih _ _ _ _
            ⟨⟨hb.base.hi, hb.base.ok, hb.base.lcc, hb.base.lni, hb.base.ecc, hb.base.eni,
              congrArg (addTrue · (f, FB)) hb.base.etr⟩, hb.lant, hb.econs, hb.eincl⟩
        | fails t => exact ⟨rfl, nofun⟩

theorem DRelO.init (o : Ord) : DRelO o [] ⟨[], [], []⟩ ⟨[], [], [], {}⟩ [] ⟨[], []⟩ :=
  ⟨DRel.init o, (fun _ hx => by cases hx), rfl, rfl⟩

theorem runO_rel {o : Ord} (hr : ∀ q, o.leB q q = true) (pick : List Nat → Nat) (A B : TA) (fuel : Nat) :
    viewO (runO o .lib pick A B fuel) = rootLoop o A B (prodWit A) fuel (normS B.final) (dedup A.final) [] ⟨[], []⟩ ∧
    ∀ s, runO o .lib pick A B fuel = some (.ok s) → HInvD o s.h ∧ s.incl = [] :=
  rootLoopO_rel hr pick A B (prodWit A) fuel (normS B.final) (dedup A.final) _ _ [] _ (DRelO.init o)

/-- **the `Opt` exploration with all its containers and caches = the cache-free exploration**: same `return true` /
`return false` (with the same ghost witness), `none` at the same fuel, and on `return true` the antichain `nonIncl_` read through
the heap and the ghost set are those of `InclDown.rootLoop`; for every allocator -/
theorem runO_eq {o : Ord} (hr : ∀ q, o.leB q q = true) (pick : List Nat → Nat) (A B : TA) (fuel : Nat) :
    viewO (runO o .lib pick A B fuel) =
      rootLoop o A B (prodWit A) fuel (normS B.final) (dedup A.final) [] ⟨[], []⟩ :=
  (runO_rel hr pick A B fuel).1

theorem truesOfO_eq_view (rc : Option (Except Tree StO)) :
    truesOfO rc = match viewO rc with
      | none => none
      | some (.ok st) => some (.ok st.trues)
      | some (.error w) => some (.error w) := by
  cases rc with
  | none => rfl
  | some x => cases x <;> rfl

theorem truesOfO_runO_eq {o : Ord} (hr : ∀ q, o.leB q q = true) (pick : List Nat → Nat) (A B : TA) (fuel : Nat) :
    truesOfO (runO o .lib pick A B fuel) = InclDown.run o A B fuel := by
  rw [truesOfO_eq_view, runO_eq hr]; rfl

theorem rawVerdictO_runO_eq {o : Ord} (hr : ∀ q, o.leB q q = true) (pick : List Nat → Nat) (A B : TA) (fuel : Nat) :
    rawVerdictO (runO o .lib pick A B fuel) = (InclDown.run o A B fuel).map (fun r => match r with
      | .ok _ => true
      | .error _ => false) := by
  rw [← truesOfO_runO_eq hr pick]
  cases runO o .lib pick A B fuel with
  | none => rfl
  | some x => cases x <;> rfl

theorem rawVerdictO_eq_plain {o : Ord} (hr : ∀ q, o.leB q q = true) (pick pick' : List Nat → Nat) (A B : TA) (fuel : Nat) :
    rawVerdictO (runO o .lib pick A B fuel) = rawVerdictD (runC o .lib pick' A B fuel) := by
  rw [rawVerdictO_runO_eq hr, rawVerdictD_runC_eq hr]
  cases InclDown.run o A B fuel with
  | none => rfl
  | some x => cases x <;> rfl

/-- for every allocator `ANTICHAINS_DOWN_REC_OPT_NOSIM` with `biggerTypeCache`, `lteCache`, the
library's deleter and all containers of the `Opt` functor returns exactly what the cache-free model `inclDownOpt` returns -/
theorem inclDownOpt_cached_eq (pick : List Nat → Nat) (A B : TA) (fuel : Nat) :
    inclDownOptC .lib pick A B fuel = inclDownOpt A B fuel := by
  unfold inclDownOptC inclDownOpt inclDownRec
  rw [truesOfO_runO_eq idOrd_refl]

/-- … with the preorder parameter (`ANTICHAINS_DOWN_REC_OPT_SIM`) -/
theorem inclDownOptSim_cached_eq (pick : List Nat → Nat) (A B : TA) (R : Rel) (fuel : Nat) :
    inclDownOptSimC .lib pick A B R fuel = inclDownSim A B R fuel := by
  unfold inclDownOptSimC inclDownSim
  rw [truesOfO_runO_eq (ordOf_refl R A B)]

theorem checkInclDownOpt_cached_eq (pick : List Nat → Nat) (A B : TA) (fuel : Nat) :
    checkInclDownOptC .lib pick A B fuel = inclDownOpt (removeUseless A) (removeUseless B) fuel :=
  inclDownOpt_cached_eq pick _ _ fuel

/-- **the invariant at the end of a run** and **`incl_` is never filled** (library's deleter, every allocator) -/
theorem runO_heap_sound {o : Ord} (hr : ∀ q, o.leB q q = true) (pick : List Nat → Nat) (A B : TA) (fuel : Nat) {s : StO}
    (hf : runO o .lib pick A B fuel = some (.ok s)) : HInvD o s.h ∧ heapOKD o s.h = true ∧ s.incl = [] :=
  have h := (runO_rel hr pick A B fuel).2 s hf
  ⟨h.1, heapOKD_of_HInvD h.1, h.2⟩

end FCD
end Vata
