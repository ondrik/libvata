import Vata.Proofs.ListExt
import Vata.Proofs.ContainerLemmas
/-!
# Counting over a finite universe

The work-list loops of the models mark what they have met (a `visited` / `reached` / `processed` list, the domain of a translation
map, an antichain) and push only what was not marked.  What bounds their iterations is the number of elements of a fixed list `U`
(all states, all pairs of states, all pairs (state, set of states) …) that are not marked yet: `U.countP (fun x => !c x)` for the
Boolean test `c` "is marked".  `countP_lt_of_new` is the one counting fact; `countP_not_lt` is its form for such a test, `unseen U S`
the case `c := S.contains`.  `InclUp.subsets` / `pairUniv` is the universe of the antichain algorithms (pairs of a state and a set
of states), with the fact that a cover test which is upward closed in the set can be asked about the set cut down to the universe
(`uncovered_lt`).
-/
namespace Vata

/-- what one projection of a mapped option says about another: from `o.map f = some b`, the value of `o.map (p ∘ f)`; lets a fact
about a closed run be read off a stronger one without evaluating the run again -/
theorem Option.map_of_map {α β γ : Type} {o : Option α} {f : α → β} {b : β} (h : o.map f = some b) (p : β → γ) :
    o.map (fun a => p (f a)) = some (p b) := by
  cases o with
  | none => cases h
  | some a => exact congrArg (fun x => some (p x)) (Option.some.inj h)

theorem Option.isSome_of_map {α β : Type} {o : Option α} {f : α → β} {b : β} (h : o.map f = some b) : o.isSome = true :=
  Option.isSome_map.symm.trans (congrArg Option.isSome h)

theorem countP_lt_of_new {α : Type} {p q : α → Bool} {l : List α} (hmono : ∀ x, x ∈ l → p x = true → q x = true)
    (hnew : ∃ x, x ∈ l ∧ q x = true ∧ p x ≠ true) : l.countP p < l.countP q := by
  obtain ⟨x, hx, hqx, hpx⟩ := hnew
  -- `p` counts the same in `l` and in `l.filter q`, where it misses `x`
  have e : l.countP p = (l.filter q).countP p := by
    rw [List.countP_filter]
    refine List.countP_congr fun a ha => ?_
    cases hp : p a
    · simp
    · simp [hmono a ha hp]
  rw [e, List.countP_eq_length_filter (p := q)]
  refine Nat.lt_of_le_of_ne List.countP_le_length fun he => hpx ?_
  exact List.countP_eq_length.mp he x (List.mem_filter.mpr ⟨hx, hqx⟩)

variable {α : Type}

theorem countP_not_le {c c' : α → Bool} {U : List α} (h : ∀ x, x ∈ U → c x = true → c' x = true) :
    U.countP (fun x => !c' x) ≤ U.countP (fun x => !c x) :=
  List.countP_mono_left fun x hx hc' => by
    cases hc : c x with
    | false => rfl
    | true => rw [h x hx hc] at hc'; exact hc'

theorem countP_not_lt {c c' : α → Bool} {U : List α} (h : ∀ x, x ∈ U → c x = true → c' x = true) {x : α} (hx : x ∈ U)
    (h0 : c x = false) (h1 : c' x = true) : U.countP (fun x => !c' x) < U.countP (fun x => !c x) :=
  countP_lt_of_new
    (fun y hy hc' => by
      cases hc : c y with
      | false => rfl
      | true => rw [h y hy hc] at hc'; exact hc')
    ⟨x, hx, by rw [h0]; rfl, by rw [h1]; exact Bool.false_ne_true⟩

section unseen
variable [BEq α] [LawfulBEq α]

/-- the elements of `U` that are not in `S` -/
def unseen (U S : List α) : Nat := U.countP (fun x => !S.contains x)

omit [LawfulBEq α] in
theorem unseen_le_length (U S : List α) : unseen U S ≤ U.length := List.countP_le_length

omit [LawfulBEq α] in
theorem unseen_nil (U : List α) : unseen U [] = U.length := List.countP_eq_length.mpr fun _ _ => rfl

theorem unseen_mono {U S S' : List α} (h : ∀ x, x ∈ S → x ∈ S') : unseen U S' ≤ unseen U S :=
  countP_not_le fun x _ hx => List.contains_iff_mem.mpr (h x (List.contains_iff_mem.mp hx))

theorem unseen_lt {U S S' : List α} (h : ∀ x, x ∈ S → x ∈ S') {x : α} (hx : x ∈ U) (hn : x ∉ S) (hin : x ∈ S') :
    unseen U S' < unseen U S :=
  countP_not_lt (fun y _ hy => List.contains_iff_mem.mpr (h y (List.contains_iff_mem.mp hy))) hx
    (Bool.eq_false_iff.mpr fun hc => hn (List.contains_iff_mem.mp hc)) (List.contains_iff_mem.mpr hin)

theorem unseen_cons_lt {U S : List α} {x : α} (hx : x ∈ U) (hn : x ∉ S) : unseen U (x :: S) < unseen U S :=
  unseen_lt (fun _ h => List.mem_cons_of_mem _ h) hx hn List.mem_cons_self

theorem unseen_snoc_lt {U S : List α} {x : α} (hx : x ∈ U) (hn : x ∉ S) : unseen U (S ++ [x]) < unseen U S :=
  unseen_lt (fun _ h => List.mem_append_left _ h) hx hn (List.mem_append_right _ List.mem_cons_self)

/-- appending a duplicate-free list of new elements of `U` lowers the count by its length -/
theorem unseen_append {U : List α} : ∀ (new S : List α), new.Nodup → (∀ q, q ∈ new → q ∈ U ∧ q ∉ S) →
    unseen U (S ++ new) + new.length ≤ unseen U S
  | [], S, _, _ => by rw [List.append_nil]; exact Nat.le_refl _
  | x :: rest, S, hn, h => by
    have hn' := List.nodup_cons.mp hn
    have ih := unseen_append rest (S ++ [x]) hn'.2 fun q hq =>
      ⟨(h q (List.mem_cons_of_mem _ hq)).1, fun hm => (List.mem_append.mp hm).elim (h q (List.mem_cons_of_mem _ hq)).2
        fun hm => hn'.1 (List.mem_singleton.mp hm ▸ hq)⟩
    have h1 := unseen_snoc_lt (h x List.mem_cons_self).1 (h x List.mem_cons_self).2
    rw [List.append_assoc, List.singleton_append] at ih
    rw [List.length_cons]
    omega

end unseen

/-- a measure that no step of a fold raises is not raised by the fold -/
theorem foldl_measure_le {σ α : Type} (μ : σ → Nat) {f : σ → α → σ} {l : List α}
    (h : ∀ s a, a ∈ l → μ (f s a) ≤ μ s) (s : σ) : μ (l.foldl f s) ≤ μ s :=
  List.foldlRecOn (motive := fun s' => μ s' ≤ μ s) l f (Nat.le_refl _) fun s' hs a ha => Nat.le_trans (h s' a ha) hs

namespace InclUp

def subsets : List Nat → List (List Nat)
  | [] => [[]]
  | x :: l => subsets l ++ (subsets l).map (fun T => x :: T)

theorem filter_mem_subsets (p : Nat → Bool) (l : List Nat) : l.filter p ∈ subsets l := by
  induction l with
  | nil => exact List.mem_singleton.mpr rfl
  | cons x l ih =>
    rw [subsets, List.mem_append, List.mem_map, List.filter_cons]
    split
    · exact Or.inr ⟨_, ih, rfl⟩
    · exact Or.inl ih

theorem length_subsets (l : List Nat) : (subsets l).length = 2 ^ l.length := by
  induction l with
  | nil => rfl
  | cons x l ih => rw [subsets, List.length_append, List.length_map, ih, List.length_cons, Nat.pow_succ, Nat.mul_two]

end InclUp

open InclUp (subsets filter_mem_subsets length_subsets)

/-- every subset of the elements of `U` has the same elements as a member of `subsets U` -/
theorem subsets_cover (U s : List Nat) (h : ∀ x, x ∈ s → x ∈ U) : ∃ u, u ∈ subsets U ∧ ∀ x, x ∈ u ↔ x ∈ s :=
  ⟨_, filter_mem_subsets (fun x => s.contains x) U, fun x => by
    rw [List.mem_filter, List.contains_iff_mem]
    exact ⟨fun hx => hx.2, fun hx => ⟨h x hx, hx⟩⟩⟩

/-- a strictly increasing list inside a strictly increasing list is one of its sublists: it is what the filter keeps -/
theorem sorted_mem_subsets {U S : List Nat} (hU : U.Pairwise (· < ·)) (hS : S.Pairwise (· < ·)) (h : ∀ x, x ∈ S → x ∈ U) :
    S ∈ subsets U := by
  have e : S = U.filter (fun x => S.contains x) := pairwise_lt_ext hS (hU.filter _) fun x => by
    rw [List.mem_filter, List.contains_iff_mem]
    exact ⟨fun hx => ⟨h x hx, hx⟩, fun hx => hx.2⟩
  exact e ▸ filter_mem_subsets _ U

/-- the pairs (element of `Q`, sublist of `R`) -/
def pairUniv {β : Type} (Q : List β) (R : List Nat) : List (β × List Nat) :=
  Q.flatMap (fun q => (subsets R).map (fun T => (q, T)))

theorem length_pairUniv {β : Type} (Q : List β) (R : List Nat) : (pairUniv Q R).length = Q.length * 2 ^ R.length := by
  induction Q with
  | nil => exact (Nat.zero_mul _).symm
  | cons q Q ih =>
    rw [pairUniv, List.flatMap_cons, List.length_append, List.length_map, length_subsets, List.length_cons, Nat.add_mul,
      Nat.one_mul, Nat.add_comm]
    exact congrArg (· + _) ih

theorem mem_pairUniv {β : Type} {Q : List β} {R : List Nat} {q : β} (hq : q ∈ Q) (S : List Nat) :
    (q, R.filter fun x => S.contains x) ∈ pairUniv Q R :=
  List.mem_flatMap.mpr ⟨q, hq, List.mem_map.mpr ⟨_, filter_mem_subsets _ _, rfl⟩⟩

/-- For cover tests `c`, `c'` on pairs (state, set) that are upward closed in the set (asked only of sets inside `R`): if `c'`
covers what `c` covers, and a pair `(q, S)` with `q ∈ Q`, `S ⊆ R` that `c` did not cover is covered by `c'`, fewer pairs of the
universe are left uncovered.  The witness in the universe is `S` cut down to a sublist of `R`, which has the same elements as `S`. -/
theorem uncovered_lt {β : Type} {Q : List β} {R : List Nat} {c c' : β → List Nat → Bool}
    (hup : ∀ q {S S'}, (∀ x, x ∈ S → x ∈ R) → (∀ x, x ∈ S → x ∈ S') → c q S = true → c q S' = true)
    (hup' : ∀ q {S S'}, (∀ x, x ∈ S → x ∈ R) → (∀ x, x ∈ S → x ∈ S') → c' q S = true → c' q S' = true)
    (hmono : ∀ q S, c q S = true → c' q S = true) {q : β} {S : List Nat} (hq : q ∈ Q) (hS : ∀ x, x ∈ S → x ∈ R)
    (hold : c q S = false) (hnew : c' q S = true) :
    (pairUniv Q R).countP (fun p => !c' p.1 p.2) < (pairUniv Q R).countP (fun p => !c p.1 p.2) := by
  refine countP_not_lt (fun p _ => hmono p.1 p.2) (mem_pairUniv hq S) (Bool.eq_false_iff.mpr fun h => ?_)
    (hup' q hS (fun x hx => List.mem_filter.mpr ⟨hS x hx, List.contains_iff_mem.mpr hx⟩) hnew)
  exact Bool.eq_false_iff.mp hold
    (hup q (fun x hx => (List.mem_filter.mp hx).1) (fun x hx => List.contains_iff_mem.mp (List.mem_filter.mp hx).2) h)

theorem exists_map_eq {α β : Type} {f : α → β} : ∀ l' : List β, (∀ b, b ∈ l' → ∃ a, f a = b) → ∃ l : List α, l.map f = l'
  | [], _ => ⟨[], rfl⟩
  | b :: l', h =>
    let ⟨a, ha⟩ := h b List.mem_cons_self
    let ⟨l, hl⟩ := exists_map_eq l' fun b hb => h b (List.mem_cons_of_mem _ hb)
    ⟨a :: l, by rw [List.map_cons, ha, hl]⟩

end Vata
