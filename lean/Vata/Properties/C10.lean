import Vata.Nfa
import Vata.NfaEmbed
import Vata.NfaOps
import Vata.Proofs.NfaOps
import Vata.Properties.C10_StartSymbols
import Vata.Properties.RefTotal
/-!
# C10 – Finite-automata union, intersection, reversal, trimming, witness are exact

> For nondeterministic finite word automata, Union and UnionDisjointStates accept exactly the union of the operand
> languages, Intersection exactly their intersection, and Reverse exactly the mirror images of the accepted words.
> RemoveUnreachableStates and RemoveUselessStates keep the language, and GetCandidateTree returns an automaton whose
> language is a subset of the original that is empty only if the original language is empty.

## How the statement is read into the model

* **Specification (L0).**  `Vata.W.NFA` and `acceptsW N w` (`Vata/Nfa.lean`): `w` labels a path from a start state to a
  final state (`acceptsW_iff`, `Path` in `Vata/Proofs/NfaOps.lean`; restated as `C09_accepts_iff_path`).  The language
  statements are pointwise Boolean equations: `acceptsW U w = (acceptsW A w || acceptsW B w)` is "`U` accepts exactly
  the union", `… && …` the intersection, `acceptsW R w = acceptsW N w.reverse` "exactly the mirror images".
  `NfaReach N q` / `NfaCoReach N q` (`Vata/Proofs/NfaOps.lean`) are "`q` is reachable from a start state" / "a final
  state is reachable from `q`".
* **Model of the code** (`Vata/NfaOps.lean`, executable, compared with the real C++ by the correspondence check):
  `nfaUnion` / `nfaUnionWith fA fB` (`Union`: both operands reindexed into one result), `nfaMap` (`ReindexStates`),
  `nfaUnionDisjoint` (`UnionDisjointStates`: componentwise union), `nfaIsect` / `nfaIntersection` (`Intersection`:
  product on the pairs reachable from the pairs of start states, numbered in order of discovery, followed by
  `RemoveUselessStates`), `nfaProdOn` (the product on a given set of pairs with a given numbering), `nfaReverse`
  (`Reverse`, defined in `Vata/NfaEmbed.lean`), `nfaRemoveUnreachable`, `nfaRemoveUseless` (as coded: unreachable –
  reverse – unreachable – reverse), `nfaCandidate` (`GetCandidateTree`: breadth-first search for the first final state,
  then `RemoveUselessStates`).  The start symbols of the C++ (a set of symbols attached to each start state) are not part
  of THIS model; `Vata.NFAS` (`Vata/NfaStart.lean`) is `Vata.W.NFA` plus the map `startStateToSymbols_`, every operation
  `nfas…` is the operation of this file on the projection `toNFA` paired with what the C++ does to the map, and
  `Vata/Properties/C10_StartSymbols.lean` proves that the language never depends on the symbols and what symbols every start
  state of a result shows (`C10_with_start_symbols` at the end of this file restates the property for `NFAS`).
* **Reference (oracle of the check).**  `isUnionW`, `isIsectW`, `equivW`, `emptyW` (`Vata/NfaEmbed.lean`) decide the
  language equations above for the automata the real code returned; `C10_reference_checkers_exact` says that each of
  their verdicts is the truth.
-/
namespace Vata.Props
open Vata.W

/-- a computed automaton is compared with a written one field by field: the three lists have decidable equality, so the
kernel alone evaluates the operation -/
theorem nfa_eq_mk {N : NFA} {s f : List Nat} {t : List (Nat × Nat × Nat)} (h : N.start = s ∧ N.final = f ∧ N.trans = t) :
    N = ⟨s, f, t⟩ := by
  obtain ⟨rfl, rfl, rfl⟩ := h
  rfl

/-! ### Union -/

/-- the model of `Union` accepts exactly the union of the operand languages (no hypothesis: the model numbers the
states of `A` by `0 … |A|-1` and those of `B` by `|A| … |A|+|B|-1`, which is injective with disjoint images) -/
theorem C10_union_exact (A B : NFA) (w : List Nat) :
    acceptsW (nfaUnion A B) w = (acceptsW A w || acceptsW B w) := nfaUnion_lang A B w

-- overlapping state numbers; the first operand accepts the empty word
example : nfaUnion ⟨[0], [0], [(0, 5, 0)]⟩ ⟨[0, 1], [1], [(0, 7, 1)]⟩ =
    ⟨[0, 1, 2], [0, 2], [(0, 5, 0), (1, 7, 2)]⟩ := nfa_eq_mk (by decide +kernel)
example : acceptsW (nfaUnion ⟨[0], [0], [(0, 5, 0)]⟩ ⟨[0, 1], [1], [(0, 7, 1)]⟩) [5, 7] = false := by decide +kernel

/-- `Union` with arbitrary translation maps: exact when each map is injective on the states of its operand and the
two images are disjoint.  All three hypotheses are needed (a map that merges two states, or two images that share a
state, glue paths together and can add words); the code satisfies them by handing out fresh numbers. -/
theorem C10_unionWith_exact (fA fB : Nat → Nat) (A B : NFA) (w : List Nat)
    (hA : NfaInjOn fA (nfaStates A)) (hB : NfaInjOn fB (nfaStates B))
    (hdis : ∀ p, p ∈ nfaStates A → ∀ q, q ∈ nfaStates B → fA p ≠ fB q) :
    acceptsW (nfaUnionWith fA fB A B) w = (acceptsW A w || acceptsW B w) :=
  nfaUnionWith_lang fA fB A B w hA hB hdis

example : NfaInjOn (fun q => 2 * q) (nfaStates ⟨[0], [0], [(0, 5, 0)]⟩) ∧
    NfaInjOn (fun q => 2 * q + 1) (nfaStates ⟨[0, 1], [1], [(0, 7, 1)]⟩) ∧
    ∀ p, p ∈ nfaStates ⟨[0], [0], [(0, 5, 0)]⟩ → ∀ q, q ∈ nfaStates ⟨[0, 1], [1], [(0, 7, 1)]⟩ →
      (fun q => 2 * q) p ≠ (fun q => 2 * q + 1) q :=
  ⟨fun _ _ _ _ h => by dsimp only at h; omega, fun _ _ _ _ h => by dsimp only at h; omega,
    fun _ _ _ _ => by dsimp only; omega⟩
-- without disjoint images the union is too big: both operands mapped by the identity, `[5, 7]` is accepted
example : acceptsW (nfaUnionWith id id ⟨[0], [0], [(0, 5, 0)]⟩ ⟨[0, 1], [1], [(0, 7, 1)]⟩) [5, 7] = true ∧
    (acceptsW ⟨[0], [0], [(0, 5, 0)]⟩ [5, 7] || acceptsW ⟨[0, 1], [1], [(0, 7, 1)]⟩ [5, 7]) = false := by decide +kernel

/-- the model of `ReindexStates` keeps the language when the map is injective on the states of the automaton; without
injectivity the language can only grow -/
theorem C10_reindex_exact (f : Nat → Nat) (N : NFA) (w : List Nat) :
    (NfaInjOn f (nfaStates N) → acceptsW (nfaMap f N) w = acceptsW N w) ∧
    (acceptsW N w = true → acceptsW (nfaMap f N) w = true) :=
  ⟨nfaMap_inj_lang f N w, nfaMap_lang_ge f N w⟩

example : NfaInjOn (fun q => q + 10) (nfaStates ⟨[0, 1], [1], [(0, 7, 1)]⟩) := fun _ _ _ _ h => Nat.add_right_cancel h
-- a map that merges the two states adds the empty word
example : acceptsW (nfaMap (fun _ => 0) ⟨[0], [1], [(0, 7, 1)]⟩) [] = true ∧
    acceptsW ⟨[0], [1], [(0, 7, 1)]⟩ [] = false := by decide +kernel

/-! ### UnionDisjointStates -/

/-- the model of `UnionDisjointStates` accepts exactly the union **when the operands have no state in common**.  The
hypothesis is the precondition of the C++ function (it is what the name says; an `assert` guards it); without it only
`⊇` holds: the componentwise union can accept more (second example) -/
theorem C10_unionDisjoint_exact (A B : NFA) (w : List Nat) :
    ((∀ q, q ∈ nfaStates A → q ∈ nfaStates B → False) →
      acceptsW (nfaUnionDisjoint A B) w = (acceptsW A w || acceptsW B w)) ∧
    ((acceptsW A w || acceptsW B w) = true → acceptsW (nfaUnionDisjoint A B) w = true) :=
  ⟨nfaUnionDisjoint_lang A B w, nfaUnionDisjoint_lang_ge A B w⟩

example : ∀ q, q ∈ nfaStates ⟨[0], [0], [(0, 5, 0)]⟩ → q ∈ nfaStates ⟨[1, 2], [2], [(1, 7, 2)]⟩ → False := by decide +kernel
example : acceptsW (nfaUnionDisjoint ⟨[0], [0], [(0, 5, 0)]⟩ ⟨[0, 1], [1], [(0, 7, 1)]⟩) [5, 7] = true ∧
    (acceptsW ⟨[0], [0], [(0, 5, 0)]⟩ [5, 7] || acceptsW ⟨[0, 1], [1], [(0, 7, 1)]⟩ [5, 7]) = false := by decide +kernel

/-! ### Intersection -/

/-- the model of `Intersection` accepts exactly the intersection: `nfaIsect` (which runs the pair exploration long
enough) unconditionally, and `nfaIntersection` for every fuel with which it returns a result; the number of rounds
used by `nfaIsect` always suffices -/
theorem C10_intersection_exact (A B : NFA) :
    (∀ w, acceptsW (nfaIsect A B) w = (acceptsW A w && acceptsW B w)) ∧
    (∀ fuel P, nfaIntersection A B fuel = some P → ∀ w, acceptsW P w = (acceptsW A w && acceptsW B w)) ∧
    (∃ P, nfaIntersection A B (nfaJointAll A B).length = some P) :=
  ⟨nfaIsect_lang A B, nfaIntersection_lang A B, _, NfaC.nfaIntersection_full A B⟩

-- both operands accept the empty word; of the two pairs of start states only (0,0) is useful ((1,0) leads nowhere);
-- in the explored pair (2,0) only the second component is a start state, so it is not a start state of the product
example : nfaIsect ⟨[0, 1], [0, 2], [(0, 5, 2), (2, 5, 2)]⟩ ⟨[0], [0], [(0, 5, 0), (0, 6, 0)]⟩ =
    ⟨[0], [0, 2], [(0, 5, 2), (2, 5, 2)]⟩ := nfa_eq_mk (by decide +kernel)
example : nfaIntersection ⟨[0, 1], [0, 2], [(0, 5, 2), (2, 5, 2)]⟩ ⟨[0], [0], [(0, 5, 0), (0, 6, 0)]⟩ 0 = none := by
  decide +kernel

/-- the product certificate: for *any* set `D` of pairs that contains the pairs of start states and is closed under
joint successors, and *any* numbering `m` that is injective on `D`, the product automaton on `D` accepts exactly the
intersection.  This is the invariant of the product construction independent of the exploration order and of the
concrete numbering (the C++ numbers product states in the iteration order of its containers); the Boolean form
`nfaProdCertB` is what can be run on a dumped translation map.  Injectivity is needed: a numbering that merges two
pairs glues their paths. -/
theorem C10_product_certificate (A B : NFA) (D : List (Nat × Nat)) (m : Nat × Nat → Nat) :
    ((∀ p, p ∈ nfaStartPairs A B → p ∈ D) → NfaPairClosed A B D → NfaPairInjOn m D →
      ∀ w, acceptsW (nfaProdOn A B D m) w = (acceptsW A w && acceptsW B w)) ∧
    (nfaProdCertB A B D m = true → ∀ w, acceptsW (nfaProdOn A B D m) w = (acceptsW A w && acceptsW B w)) :=
  ⟨fun hs hc hi w => nfaProd_cert A B D m w hs hc hi, fun h w => nfaProdCertB_lang h w⟩

example : (∀ p, p ∈ nfaStartPairs ⟨[0, 1], [0, 2], [(0, 5, 2), (2, 5, 2)]⟩ ⟨[0], [0], [(0, 5, 0), (0, 6, 0)]⟩ →
      p ∈ [(0, 0), (1, 0), (2, 0)]) ∧
    NfaPairClosed ⟨[0, 1], [0, 2], [(0, 5, 2), (2, 5, 2)]⟩ ⟨[0], [0], [(0, 5, 0), (0, 6, 0)]⟩ [(0, 0), (1, 0), (2, 0)] ∧
    NfaPairInjOn (fun p => 3 * p.1 + p.2) [(0, 0), (1, 0), (2, 0)] :=
  nfaProdCertB_sound (by decide +kernel)
-- a set of pairs that is not closed is refused
example : nfaProdCertB ⟨[0, 1], [0, 2], [(0, 5, 2), (2, 5, 2)]⟩ ⟨[0], [0], [(0, 5, 0), (0, 6, 0)]⟩ [(0, 0), (1, 0)]
    (fun p => 3 * p.1 + p.2) = false := by decide +kernel

/-! ### Reverse -/

/-- the model of `Reverse` (edges reversed, start and final states swapped) accepts exactly the mirror images -/
theorem C10_reverse_exact (N : NFA) (w : List Nat) : acceptsW (nfaReverse N) w = acceptsW N w.reverse :=
  nfaReverse_lang N w

example : nfaReverse ⟨[0, 3], [2, 3], [(0, 5, 1), (1, 6, 2)]⟩ = ⟨[2, 3], [0, 3], [(1, 5, 0), (2, 6, 1)]⟩ := nfa_eq_mk (by decide +kernel)
example : acceptsW (nfaReverse ⟨[0, 3], [2, 3], [(0, 5, 1), (1, 6, 2)]⟩) [6, 5] = true ∧
    acceptsW ⟨[0, 3], [2, 3], [(0, 5, 1), (1, 6, 2)]⟩ [6, 5] = false := by decide +kernel

/-! ### RemoveUnreachableStates, RemoveUselessStates -/

/-- both trimming operations keep the language -/
theorem C10_trimming_preserves (N : NFA) (w : List Nat) :
    acceptsW (nfaRemoveUnreachable N) w = acceptsW N w ∧ acceptsW (nfaRemoveUseless N) w = acceptsW N w :=
  ⟨nfaRemoveUnreachable_lang N w, nfaRemoveUseless_lang N w⟩

-- state 3 is dead (reachable, no way to a final state), state 4 unreachable, start state 2 leads only to 3
example : nfaRemoveUnreachable ⟨[0, 2], [0, 1, 4], [(0, 0, 1), (1, 1, 1), (2, 0, 3), (4, 0, 1)]⟩ =
    ⟨[0, 2], [0, 1], [(0, 0, 1), (1, 1, 1), (2, 0, 3)]⟩ := nfa_eq_mk (by decide +kernel)
example : nfaRemoveUseless ⟨[0, 2], [0, 1, 4], [(0, 0, 1), (1, 1, 1), (2, 0, 3), (4, 0, 1)]⟩ =
    ⟨[0], [0, 1], [(0, 0, 1), (1, 1, 1)]⟩ := nfa_eq_mk (by decide +kernel)

/-- what `RemoveUnreachableStates` keeps: all start states, exactly the final states that are reachable and exactly
the transitions whose source is reachable; the search reaches exactly the reachable states -/
theorem C10_removeUnreachable_post (N : NFA) :
    (nfaRemoveUnreachable N).start = N.start ∧
    (∀ q, q ∈ (nfaRemoveUnreachable N).final ↔ q ∈ N.final ∧ NfaReach N q) ∧
    (∀ e, e ∈ (nfaRemoveUnreachable N).trans ↔ e ∈ N.trans ∧ NfaReach N e.1) ∧
    (∀ q, q ∈ nfaReachable N ↔ NfaReach N q) :=
  ⟨nfaRemoveUnreachable_start N, mem_nfaRemoveUnreachable_final N, mem_nfaRemoveUnreachable_trans N,
    mem_nfaReachable_iff N⟩

example : nfaReachable ⟨[0, 2], [0, 1, 4], [(0, 0, 1), (1, 1, 1), (2, 0, 3), (4, 0, 1)]⟩ = [0, 2, 1, 3] := by decide +kernel

/-- what `RemoveUselessStates` keeps: exactly the transitions from a reachable state to a state from which a final
state is reachable, the start states from which a final state is reachable, the reachable final states -/
theorem C10_removeUseless_post (N : NFA) :
    (∀ p a q, (p, a, q) ∈ (nfaRemoveUseless N).trans ↔ (p, a, q) ∈ N.trans ∧ NfaReach N p ∧ NfaCoReach N q) ∧
    (∀ s, s ∈ (nfaRemoveUseless N).start ↔ s ∈ N.start ∧ NfaCoReach N s) ∧
    (∀ f, f ∈ (nfaRemoveUseless N).final ↔ f ∈ N.final ∧ NfaReach N f) :=
  ⟨mem_nfaRemoveUseless_trans N, mem_nfaRemoveUseless_start N, mem_nfaRemoveUseless_final N⟩

example : (nfaRemoveUseless ⟨[0, 2], [0, 1, 4], [(0, 0, 1), (1, 1, 1), (2, 0, 3), (4, 0, 1)]⟩).start = [0] := by decide +kernel

/-- the result of `RemoveUselessStates` is trim: every state that occurs in it is useful in the original automaton
and, which is stronger, in the result itself -/
theorem C10_removeUseless_trim (N : NFA) (q : Nat) (hq : q ∈ nfaStates (nfaRemoveUseless N)) :
    (NfaReach N q ∧ NfaCoReach N q) ∧ (NfaReach (nfaRemoveUseless N) q ∧ NfaCoReach (nfaRemoveUseless N) q) :=
  ⟨nfaRemoveUseless_states_useful N q hq, nfaRemoveUseless_trim N q hq⟩

example : 1 ∈ nfaStates (nfaRemoveUseless ⟨[0, 2], [0, 1, 4], [(0, 0, 1), (1, 1, 1), (2, 0, 3), (4, 0, 1)]⟩) := by
  decide +kernel

/-! ### GetCandidateTree (witness) -/

/-- the model of `GetCandidateTree`: its language is a subset of the original language, and it is non-empty exactly
when the original language is non-empty -/
theorem C10_witness (N : NFA) :
    (∀ w, acceptsW (nfaCandidate N) w = true → acceptsW N w = true) ∧
    ((∃ w, acceptsW (nfaCandidate N) w = true) ↔ ∃ w, acceptsW N w = true) :=
  ⟨nfaCandidate_sub_lang N, nfaCandidate_nonempty_iff N⟩

-- no start state is final, the first final state found is 2 (via the second start state)
example : nfaCandidate ⟨[0, 1], [2, 4], [(0, 5, 3), (1, 6, 2), (3, 5, 4), (2, 5, 2)]⟩ = ⟨[1], [2], [(1, 6, 2)]⟩ := nfa_eq_mk (by decide +kernel)
-- a start state is final: the witness accepts the empty word only
example : nfaCandidate ⟨[0, 1], [1, 2], [(0, 5, 2)]⟩ = ⟨[1], [1], []⟩ := nfa_eq_mk (by decide +kernel)

/-- … in the words of the statement: the witness is empty only if the original language is empty -/
theorem C10_witness_empty_only_if_empty (N : NFA) (h : ∀ w, acceptsW (nfaCandidate N) w = false) (w : List Nat) :
    acceptsW N w = false := by
  cases hw : acceptsW N w
  · rfl
  · obtain ⟨v, hv⟩ := (nfaCandidate_nonempty_iff N).mpr ⟨w, hw⟩
    rw [h v] at hv; cases hv

-- an automaton with an empty language: the only final state is unreachable
example : nfaCandidate ⟨[0], [2], [(0, 5, 1), (2, 5, 2)]⟩ = ⟨[], [], []⟩ := nfa_eq_mk (by decide +kernel)

/-- the test the driver applies to the results of trimming and witness: a sub-automaton (start states, final states
and transitions all taken from `N`) accepts a subset of the language; `nfaSubB` is its Boolean form -/
theorem C10_subautomaton_sublanguage (R N : NFA) (w : List Nat) :
    ((∀ q, q ∈ R.start → q ∈ N.start) → (∀ q, q ∈ R.final → q ∈ N.final) → (∀ e, e ∈ R.trans → e ∈ N.trans) →
      acceptsW R w = true → acceptsW N w = true) ∧
    (nfaSubB R N = true → acceptsW R w = true → acceptsW N w = true) :=
  ⟨sub_nfa_sub_lang R N w, fun h => nfaSubB_lang h w⟩

example : nfaSubB ⟨[1], [2], [(1, 6, 2)]⟩ ⟨[0, 1], [2, 4], [(0, 5, 3), (1, 6, 2), (3, 5, 4), (2, 5, 2)]⟩ = true := by
  decide +kernel

/-! ### the checkers applied to the automata returned by the real code -/

/-- every verdict of the four reference checkers (is-union, is-intersection, language equivalence, emptiness) is
exact -/
theorem C10_reference_checkers_exact :
    (∀ U A B fuel b, isUnionW U A B fuel = some b →
      (b = true ↔ ∀ w, acceptsW U w = (acceptsW A w || acceptsW B w))) ∧
    (∀ P A B fuel b, isIsectW P A B fuel = some b →
      (b = true ↔ ∀ w, acceptsW P w = (acceptsW A w && acceptsW B w))) ∧
    (∀ A B fuel b, equivW A B fuel = some b → (b = true ↔ ∀ w, acceptsW A w = acceptsW B w)) ∧
    (∀ A fuel b, emptyW A fuel = some b → (b = true ↔ ∀ w, acceptsW A w = false)) :=
  ⟨isUnionW_iff, isIsectW_iff, equivW_iff, emptyW_iff⟩

example : isUnionW ⟨[0, 1, 2], [0, 2], [(0, 5, 0), (1, 7, 2)]⟩ ⟨[0], [0], [(0, 5, 0)]⟩ ⟨[0, 1], [1], [(0, 7, 1)]⟩ 10 =
    some true := by decide +kernel
example : isUnionW ⟨[0, 1], [0, 1], [(0, 5, 0), (0, 7, 1)]⟩ ⟨[0], [0], [(0, 5, 0)]⟩ ⟨[0, 1], [1], [(0, 7, 1)]⟩ 10 =
    some false := by decide +kernel
example : isIsectW ⟨[0], [0, 2], [(0, 5, 2), (2, 5, 2)]⟩ ⟨[0, 1], [0, 2], [(0, 5, 2), (2, 5, 2)]⟩
    ⟨[0], [0], [(0, 5, 0), (0, 6, 0)]⟩ 10 = some true := by decide +kernel
example : equivW ⟨[0, 2], [0, 1, 4], [(0, 0, 1), (1, 1, 1), (2, 0, 3), (4, 0, 1)]⟩
    ⟨[0], [0, 1], [(0, 0, 1), (1, 1, 1)]⟩ 10 = some true := by decide +kernel
example : emptyW ⟨[0], [2], [(0, 5, 1), (2, 5, 2)]⟩ 10 = some true ∧
    emptyW ⟨[0, 1], [2, 4], [(0, 5, 3), (1, 6, 2), (3, 5, 4), (2, 5, 2)]⟩ 10 = some false := by decide +kernel

/-! ### the property for the automata WITH their start symbols, and against the reference -/

/-- **C10 for the class as it is** – word automata carrying `startStateToSymbols_` (model `Vata.NFAS`), whatever the symbols
are: `Union` accepts exactly the union, `UnionDisjointStates` exactly the union for state-disjoint operands, `Intersection`
exactly the intersection (for every fuel with which the exploration returns, and it returns), `Reverse` exactly the mirror
images, both trimming operations keep the language, and the witness automaton accepts a subset that is non-empty exactly when
the language is.  (What the START SYMBOLS of the results are is `C10_start_*_spec` in `C10_StartSymbols.lean`.) -/
theorem C10_with_start_symbols (A B : NFAS) (w : List Nat) :
    acceptsW (nfasUnion A B).toNFA w = (acceptsW A.toNFA w || acceptsW B.toNFA w) ∧
    ((∀ q, q ∈ nfaStates A.toNFA → q ∈ nfaStates B.toNFA → False) →
      acceptsW (nfasUnionDisjoint A B).toNFA w = (acceptsW A.toNFA w || acceptsW B.toNFA w)) ∧
    (acceptsW (nfasIsect A B).toNFA w = (acceptsW A.toNFA w && acceptsW B.toNFA w) ∧
      (∀ fuel P, nfasIntersection A B fuel = some P → acceptsW P.toNFA w = (acceptsW A.toNFA w && acceptsW B.toNFA w)) ∧
      ∃ P, nfasIntersection A B (nfaJointAll A.toNFA B.toNFA).length = some P) ∧
    acceptsW (nfasReverse A).toNFA w = acceptsW A.toNFA w.reverse ∧
    (acceptsW (nfasRemoveUnreachable A).toNFA w = acceptsW A.toNFA w ∧
      acceptsW (nfasRemoveUseless A).toNFA w = acceptsW A.toNFA w) ∧
    ((acceptsW (nfasCandidate A).toNFA w = true → acceptsW A.toNFA w = true) ∧
      ((∃ w, acceptsW (nfasCandidate A).toNFA w = true) ↔ ∃ w, acceptsW A.toNFA w = true)) := by
  obtain ⟨h1, h2, h3, h4, h5, h6, h7⟩ := C10_start_languages A B w
  have hi := nfasIntersection_toNFA A B
  refine ⟨h1, fun hd => (C10_unionDisjoint_exact A.toNFA B.toNFA w).1 hd, ⟨h2, fun fuel P h => ?_, ?_⟩, h3, ⟨h4, h5⟩, ⟨h6, h7⟩⟩
  · have e : nfaIntersection A.toNFA B.toNFA fuel = some P.toNFA := by rw [← hi fuel, h]; rfl
    exact (C10_intersection_exact A.toNFA B.toNFA).2.1 fuel P.toNFA e w
  · obtain ⟨P, hP⟩ := (C10_intersection_exact A.toNFA B.toNFA).2.2
    rw [← hi] at hP
    obtain ⟨Q, hQ, _⟩ := Option.map_eq_some_iff.mp hP
    exact ⟨Q, hQ⟩

example : (∀ q, q ∈ nfaStates NfaSEx.exA.toNFA → q ∈ nfaStates (nfasMap (· + 10) NfaSEx.exB).toNFA → False) ∧
    (nfasIntersection NfaSEx.exA NfaSEx.exB 5).isSome = true := by decide +kernel

/-- above the explicit fuel bounds of `C10_reference_total` the reference checkers answer, and on the results of the models
they answer `true` (union, intersection, equivalence after reversal twice and after trimming) resp. the right emptiness verdict
for the witness automaton -/
theorem C10_models_pass_reference (A B : NFA) (fuel : Nat) :
    (fuelBoundW [nfaUnion A B, A, B] ≤ fuel → isUnionW (nfaUnion A B) A B fuel = some true) ∧
    (fuelBoundW [nfaIsect A B, A, B] ≤ fuel → isIsectW (nfaIsect A B) A B fuel = some true) ∧
    (fuelBoundW [nfaRemoveUseless A, A] ≤ fuel → equivW (nfaRemoveUseless A) A fuel = some true) ∧
    (fuelBoundW [nfaRemoveUnreachable A, A] ≤ fuel → equivW (nfaRemoveUnreachable A) A fuel = some true) ∧
    (fuelBoundW [nfaReverse (nfaReverse A), A] ≤ fuel → equivW (nfaReverse (nfaReverse A)) A fuel = some true) ∧
    (fuelBoundW [nfaCandidate A] ≤ fuel → fuelBoundW [A] ≤ fuel → emptyW (nfaCandidate A) fuel = emptyW A fuel) := by
  refine ⟨fun hf => ?_, fun hf => ?_, fun hf => ?_, fun hf => ?_, fun hf => ?_, fun hf hf' => ?_⟩
  · exact (Total.verdicts ((C10_reference_total (nfaUnion A B) A B fuel).1 hf).1).1 (C10_union_exact A B)
  · exact (Total.verdicts ((C10_reference_total (nfaIsect A B) A B fuel).1 hf).2).1 (C10_intersection_exact A B).1
  · exact (Total.verdicts ((C10_reference_total (nfaRemoveUseless A) A A fuel).2.1 hf)).1 fun w => (C10_trimming_preserves A w).2
  · exact (Total.verdicts ((C10_reference_total (nfaRemoveUnreachable A) A A fuel).2.1 hf)).1 fun w => (C10_trimming_preserves A w).1
  · exact (Total.verdicts ((C10_reference_total (nfaReverse (nfaReverse A)) A A fuel).2.1 hf)).1
      fun w => by rw [C10_reverse_exact, C10_reverse_exact, List.reverse_reverse]
  · obtain ⟨b, hb, e⟩ := (C10_reference_total A (nfaCandidate A) A fuel).2.2 hf
    obtain ⟨b', hb', e'⟩ := (C10_reference_total A A A fuel).2.2 hf'
    rw [hb, hb']
    congr 1
    rw [Bool.eq_iff_iff, e, e']
    constructor
    · intro h w; exact C10_witness_empty_only_if_empty A h w
    · intro h w
      cases hw : acceptsW (nfaCandidate A) w
      · rfl
      · have := (C10_witness A).1 w hw
        rw [h w] at this; cases this

example : fuelBoundW [nfaUnion ⟨[0], [0], [(0, 5, 0)]⟩ ⟨[0, 1], [1], [(0, 7, 1)]⟩, ⟨[0], [0], [(0, 5, 0)]⟩,
    ⟨[0, 1], [1], [(0, 7, 1)]⟩] ≤ 64 := by decide +kernel

/-!
## closed since the last refresh of this file

* **"Start symbols. … they are not part of the model `Vata.W.NFA`, so nothing is proved about how the operations treat
  them"** – closed in `Vata/Properties/C10_StartSymbols.lean` (model `Vata.NFAS`, correspondence kind `nfas`): the language
  of every result is independent of the symbols (`C10_start_language_independent`, `C10_start_languages`,
  `C10_start_symbols_irrelevant`; restated for the whole property in `C10_with_start_symbols`); the symbols every start state
  of a result shows (`C10_start_union_spec`, `C10_start_reindex_spec`, `C10_start_unionDisjoint_spec`,
  `C10_start_intersection_spec`, `C10_start_reverse_spec`, `C10_start_trim_spec`, `C10_start_witness_spec`,
  `C10_start_setStart_spec`, `C10_start_setExistingStart_spec`); dump / load with several symbols per state
  (`C10_start_load_spec`, `C10_start_dump_load`); history invariants (`C10_start_history_keys`,
  `C10_start_history_nonempty`, `C10_start_history_stale_unobservable`).
* "No totality theorem for the reference checkers `isUnionW`, `isIsectW`, `equivW`, `emptyW`": `C10_reference_total`
  (`Vata/Properties/RefTotal.lean`), composed with the models in `C10_models_pass_reference`.

## not yet proved

* **Stale start-symbol entries – a finding.**  `Reverse` and `RemoveUnreachableStates` leave entries of non-start states in
  the map; `SetStateStart`, `SetExistingStateStart` and `UnionDisjointStates` read them (`C10_start_stale_observable`:
  symbols invented, symbols lost – the real class behaves like the model).  The specifications of these three calls carry
  the hypothesis "no stale entry is hit", which nothing the API shows implies.
* **`UnionDisjointStates` outside its precondition.**  `C10_unionDisjoint_exact` needs the operands to be
  state-disjoint; for operands that share a state only `⊇` is proved for the model, and the model does not describe the
  C++ there (`map::insert` keeps only the left operand's transitions of a shared source state).
* **Numbering of `Union` and `Intersection`.**  The models fix one numbering (order of first occurrence / order of
  discovery); the C++ numbers in the iteration order of its hash containers.  That the real translation maps are
  injective with disjoint images (resp. injective on the explored pairs) is a hypothesis of `C10_unionWith_exact` and
  `C10_product_certificate`, not derived from a model of the container iteration (the driver checks it on the reported
  maps).
* **`GetCandidateTree`.**  The model scans the start states in list order (the C++ scans a hash set), so which final
  state is found first may differ; the two guarantees of `C10_witness` hold for the model whatever the order of the
  list, but "the model returns the same automaton as the code" is not claimed.
* Load / dump of word automata abstracts the dictionaries to a pair of functions with `g ∘ f = id` on the names, and the
  process-wide symbol alphabet to the protocol numbers of the check (`C10_start_dump_load`).
* The totality bounds of the reference checkers are exponential worst-case bounds, not tight.  `nfaIntersection` is total
  only in the form "the fuel `(nfaJointAll A B).length` suffices".
-/
end Vata.Props
