import Vata.C20Models
/-!
# C20: the call emulator of `expand` never pops an empty stack and never dereferences an iterator at `end()`

`C20M.ubNext m` says that the NEXT transition of the stack machine of `Vata/InclDownStack.lean` would, in the C++, pop the empty
`ExpandCallEmulator`, fail `assert(callEmulator.empty())` at `_end`, switch on a `retAddr` outside `{0, 1, 2}`, or dereference
`top.tupleSetIter` / `top.tupleSetIter2` at `end()`.  `MOk` is an invariant of the machine with the C++ `pop` (`popAll`) that holds
in the initial state of every call of `expand`, is kept by every transition and excludes `ubNext`.

`Chain ra (f :: K)`: the frame `f` made a call with return address `ra` and `K` are the frames saved below it: either `ra = 0`
(the root call: `f` is the uninitialised `top` the first `EXPAND_PUSH` saved, nothing is below) or `ra ∈ {1, 2}`, `f` stands inside
its loop over the lhs tuples (`tupleSetIter` not at the end; for `ra = 2` also `tupleSetIter2`) and the same holds below with
`f.retAddr`.  This is exactly what `EXPAND_POP_RETURN` / `EXPAND_RETURN` rely on.
-/
namespace Vata.C20M
open Vata Vata.InclDown Vata.InclDownStack

def Chain : Nat → List Frame → Prop
  | _, [] => False
  | ra, g :: K =>
    (ra = 0 ∧ K = []) ∨
    ((ra = 1 ∨ ra = 2) ∧ g.tupleSetIter ≠ [] ∧ (ra = 2 → g.tupleSetIter2 ≠ []) ∧ Chain g.retAddr K)

/-- the program points at which `*top.tupleSetIter` may be read -/
def needsIt : PC → Bool
  | .forTuple2 | .forSimI | .simret | .afterSim | .choiceInit | .doChoice | .forCfI | .stdret | .nextchoice
  | .nexttuple => true
  | _ => false

/-- the program points at which `*top.tupleSetIter2` may be read -/
def needsIt2 : PC → Bool
  | .forSimI | .simret | .afterSim => true
  | _ => false

def MOk (m : Machine) : Prop :=
  match m.pc with
  | .call => Chain m.retAddr (m.top :: m.stack)
  | .ret => Chain m.retAddr (m.top :: m.stack)
  | .end => m.stack = []
  | pc => Chain m.top.retAddr m.stack ∧ (needsIt pc = true → m.top.tupleSetIter ≠ []) ∧
      (needsIt2 pc = true → m.top.tupleSetIter2 ≠ [])

theorem chain_ne_nil {ra : Nat} {K : List Frame} (h : Chain ra K) : K ≠ [] := by
  cases K with
  | nil => exact absurd h (by simp [Chain])
  | cons _ _ => simp

theorem chain_ra {ra : Nat} {K : List Frame} (h : Chain ra K) : ra ≤ 2 := by
  cases K with
  | nil => exact absurd h (by simp [Chain])
  | cons g K =>
    simp only [Chain] at h
    omega

theorem mok_init (st : St) (p : Nat) (P : List Nat) : MOk (initM st p P) := by
  simp [MOk, initM, Chain]

/-- inside the invariant the next transition executes no undefined operation -/
theorem mok_no_ub {m : Machine} (h : MOk m) : ubNext m = false := by
  rcases m with ⟨pc, top, K, ws, st, ri, S, ra, found⟩
  cases pc <;> simp only [MOk, ubNext, needsIt, needsIt2] at h ⊢
  · -- ret
    have := chain_ra h
    simp only [decide_eq_false_iff_not]; omega
  · -- forSimI
    obtain ⟨_, h2, h3⟩ := h
    simp [h2, h3]
  · -- choiceInit
    simp [h.2.1]
  · -- forCfI
    simp [h.2.1]
  · -- popReturn
    have := chain_ne_nil h.1
    cases K with
    | nil => exact absurd rfl this
    | cons _ _ => rfl
  · -- end
    simp [h]

/-- inside the invariant a transition of the machine with the C++ `pop` either leads to a state inside the invariant or is the
return at `_end` (never the return from `EXPAND_POP_RETURN` on the empty emulator) -/
theorem mok_next (o : Ord) (A B : TA) (wit : InclUp.Wit) {m : Machine} (h : MOk m) :
    ∀ x, stepM o A B wit popAll m = x → match x with
      | .inl m' => MOk m'
      | .inr r => m.pc = .end ∧ r = (m.found, m.st) := by
  intro x hs
  subst hs
  -- one goal per leaf of `stepM`, in the order of its definition; the step and `MOk` of the two states unfold by computation
  fun_cases stepM o A B wit popAll m
  -- call
  · exact h
  · exact h
  · exact h
  · exact ⟨h, nofun, nofun⟩
  -- ret
  · obtain ⟨⟨⟩, _⟩ | ⟨_, h2, _, h4⟩ := h
    exact ⟨h4, fun _ => h2, nofun⟩
  · obtain ⟨⟨⟩, _⟩ | ⟨_, h2, h3, h4⟩ := h
    exact ⟨h4, fun _ => h2, fun _ => h3 rfl⟩
  · next h1 h2 =>
    obtain ⟨_, hK⟩ | ⟨h0 | h0, _⟩ := h
    · exact hK
    · exact (h1 h0).elim
    · exact (h2 h0).elim
  -- forA
  · exact ⟨h.1, nofun, nofun⟩
  · exact ⟨h.1, nofun, nofun⟩
  · exact ⟨h.1, nofun, nofun⟩
  · exact ⟨h.1, nofun, nofun⟩
  · exact ⟨h.1, nofun, nofun⟩
  -- forTuple
  · exact ⟨h.1, nofun, nofun⟩
  · next he => exact ⟨h.1, fun _ => he ▸ List.cons_ne_nil _ _, nofun⟩
  -- forTuple2
  · exact ⟨h.1, h.2.1, nofun⟩
  · next he => exact ⟨h.1, h.2.1, fun _ => he ▸ List.cons_ne_nil _ _⟩
  -- forSimI: `EXPAND_CALL(2)` leaves `top` inside both loops
  · exact .inr ⟨.inr rfl, h.2.1 rfl, fun _ => h.2.2 rfl, h.1⟩
  · exact h
  -- simret
  · exact h
  · exact h
  -- afterSim
  · exact ⟨h.1, h.2.1, nofun⟩
  · exact ⟨h.1, h.2.1, nofun⟩
  -- choiceInit, doChoice
  · exact ⟨h.1, h.2.1, nofun⟩
  · exact ⟨h.1, h.2.1, nofun⟩
  -- forCfI: `EXPAND_CALL(1)` leaves `top` inside the loop over the lhs tuples
  · exact ⟨h.1, h.2.1, nofun⟩
  · exact ⟨h.1, h.2.1, nofun⟩
  · exact .inr ⟨.inl rfl, h.2.1 rfl, nofun, h.1⟩
  · exact ⟨h.1, nofun, nofun⟩
  · exact ⟨h.1, nofun, nofun⟩
  -- stdret
  · exact ⟨h.1, h.2.1, nofun⟩
  · exact ⟨h.1, h.2.1, nofun⟩
  -- nextchoice
  · exact ⟨h.1, h.2.1, nofun⟩
  · exact ⟨h.1, h.2.1, nofun⟩
  -- nexttuple
  · exact ⟨h.1, nofun, nofun⟩
  -- popReturn
  · exact (chain_ne_nil h.1 rfl).elim
  · exact h.1
  -- end
  · exact ⟨rfl, rfl⟩

/-- **every state the machine passes through** – started at the entry of `expand` for any operands, any contents of
`nonincluded`, any root pair – satisfies the invariant, hence its next transition executes none of the undefined operations -/
theorem stateAfterM_ok (o : Ord) (A B : TA) (wit : InclUp.Wit) : ∀ (n : Nat) (m m' : Machine), MOk m →
    stateAfterM o A B wit popAll n m = some m' → MOk m'
  | 0, m, m', h, hs => by
    simp only [stateAfterM, Option.some.injEq] at hs
    exact hs ▸ h
  | n+1, m, m', h, hs => by
    simp only [stateAfterM] at hs
    split at hs
    · rename_i m1 hm1
      exact stateAfterM_ok o A B wit n m1 m' (mok_next o A B wit h _ hm1) hs
    · cases hs

/-- an answer of `runM` is the result of the last transition of a run of `stateAfterM` -/
theorem runM_exit (o : Ord) (A B : TA) (wit : InclUp.Wit) (pop : Frame → Frame → Frame) : ∀ (n : Nat) (m : Machine)
    (r : Verdict × St), runM o A B wit pop n m = some r →
    ∃ k m', stateAfterM o A B wit pop k m = some m' ∧ stepM o A B wit pop m' = .inr r
  | 0, _, _, h => by simp [runM] at h
  | n+1, m, r, h => by
    simp only [runM] at h
    split at h
    · rename_i m1 hm1
      obtain ⟨k, m', h1, h2⟩ := runM_exit o A B wit pop n m1 r h
      exact ⟨k + 1, m', by simp only [stateAfterM, hm1]; exact h1, h2⟩
    · rename_i r' hr'
      simp only [Option.some.injEq] at h
      subst h
      exact ⟨0, m, rfl, hr'⟩

end Vata.C20M
