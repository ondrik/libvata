import Vata.LtsContainer
import Vata.Proofs.ContainerLemmas
/-!
# `ExplicitLTS` container: vectors, `addTransition`, the loops of `init()` (C16)

Pointwise (`getD`) characterisations of the coded operations; the invariants are in `LtsContainerInv.lean`.
-/
namespace Vata.LC


theorem length_resizeL {α : Type} (d : α) (l : List α) (n : Nat) : (resizeL d l n).length = n := by
  rw [resizeL, List.length_append, List.length_take, List.length_replicate]
  by_cases h : l.length ≤ n
  · rw [Nat.min_eq_right h, Nat.add_sub_of_le h]
  · rw [Nat.min_eq_left (Nat.le_of_not_le h), Nat.sub_eq_zero_of_le (Nat.le_of_not_le h)]; rfl

theorem getD_resizeL {α : Type} (d : α) (l : List α) (n i : Nat) (h : l.length ≤ n) :
    (resizeL d l n).getD i d = l.getD i d := by
  rw [resizeL, List.take_of_length_le h, List.getD_eq_getElem?_getD, List.getD_eq_getElem?_getD]
  by_cases hi : i < l.length
  · rw [List.getElem?_append_left hi]
  · rw [List.getElem?_append_right (Nat.le_of_not_lt hi), List.getElem?_replicate, List.getElem?_eq_none (Nat.le_of_not_lt hi)]
    split <;> rfl

theorem ite_lt_succ {α : Type} (X Y : Nat → α) (k a : Nat) :
    (if k = a then X k else if a < k then X a else Y a) = if a < k + 1 then X a else Y a := by
  by_cases e : k = a
  · rw [if_pos e, ← e, if_pos (Nat.lt_succ_self k)]
  · rw [if_neg e]
    by_cases l : a < k
    · rw [if_pos l, if_pos (Nat.lt_succ_of_lt l)]
    · rw [if_neg l, if_neg (fun h => l (Nat.lt_of_le_of_ne (Nat.le_of_lt_succ h) (Ne.symm e)))]

/-- a loop `for (r = 0; r < j; ++r) v[r] = f(r, v[r])` over a vector -/
theorem foldl_range_set {α : Type} (d : α) (f : Nat → α → α) (l : List α) : ∀ j, j ≤ l.length →
    ((List.range j).foldl (fun l r => l.set r (f r (l.getD r d))) l).length = l.length ∧
    ∀ r, ((List.range j).foldl (fun l r => l.set r (f r (l.getD r d))) l).getD r d =
      if r < j then f r (l.getD r d) else l.getD r d := by
  intro j
  induction j with
  | zero =>
    intro _
    exact ⟨rfl, fun _ => rfl⟩
  | succ j ih =>
    intro hj
    obtain ⟨h1, h2⟩ := ih (Nat.le_of_succ_le hj)
    rw [List.range_succ, List.foldl_append, List.foldl_cons, List.foldl_nil]
    refine ⟨by rw [List.length_set, h1], fun r => ?_⟩
    rw [getD_set, h1, h2 j, if_neg (Nat.lt_irrefl j), h2 r]
    simp only [and_iff_left (Nat.lt_of_succ_le hj)]
    exact ite_lt_succ (fun r => f r (l.getD r d)) (fun r => l.getD r d) j r

theorem map_range_set {α : Type} (n k : Nat) (F G : Nat → α) :
    ((List.range n).map (fun i => if i < k then F i else G i)).set k (F k) =
      (List.range n).map (fun i => if i < k + 1 then F i else G i) := by
  apply List.ext_getElem (by rw [List.length_set, List.length_map, List.length_map])
  intro i h1 h2
  rw [List.getElem_set, List.getElem_map, List.getElem_map, List.getElem_range]
  exact ite_lt_succ F G k i

/-- `if (x >= v.size()) v.resize(x + 1)` -/
theorem length_grow {α : Type} (d : α) (v : List α) (x : Nat) :
    (if v.length ≤ x then resizeL d v (x + 1) else v).length = max v.length (x + 1) := by
  by_cases h : v.length ≤ x
  · rw [if_pos h, length_resizeL, Nat.max_eq_right (Nat.le_succ_of_le h)]
  · rw [if_neg h, Nat.max_eq_left (Nat.lt_of_not_le h)]

theorem getD_grow {α : Type} (d : α) (v : List α) (x i : Nat) :
    (if v.length ≤ x then resizeL d v (x + 1) else v).getD i d = v.getD i d := by
  by_cases h : v.length ≤ x
  · rw [if_pos h]; exact getD_resizeL _ _ _ _ (Nat.le_succ_of_le h)
  · rw [if_neg h]

theorem length_growVec (v : List (List Nat)) (x : Nat) : (growVec v x).length = max v.length (x + 1) := length_grow [] v x

theorem getD_growVec (v : List (List Nat)) (x i : Nat) : (growVec v x).getD i [] = v.getD i [] := getD_grow [] v x i

theorem length_pushAt (v : List (List Nat)) (x y : Nat) : (pushAt v x y).length = v.length := List.length_set

theorem getD_push_grow (v : List (List Nat)) (x y i : Nat) :
    (pushAt (growVec v x) x y).getD i [] = if x = i then v.getD x [] ++ [y] else v.getD i [] := by
  unfold pushAt
  rw [getD_set, getD_growVec, getD_growVec, length_growVec]
  by_cases h : x = i
  · rw [if_pos h, if_pos ⟨h, Nat.lt_of_lt_of_le (Nat.lt_succ_self x) (Nat.le_max_right _ _)⟩]
  · rw [if_neg h, if_neg (fun h' => h h'.1)]

theorem growStates_eq (st x len : Nat) (h : len ≤ st) : growStates st x len = max st (x + 1) := by
  unfold growStates
  by_cases h1 : len ≤ x
  · by_cases h2 : st ≤ x
    · rw [if_pos h1, if_pos h2, Nat.max_eq_right (Nat.le_succ_of_le h2)]
    · rw [if_pos h1, if_neg h2, Nat.max_eq_left (Nat.lt_of_not_le h2)]
  · rw [if_neg h1, Nat.max_eq_left (Nat.le_trans (Nat.lt_of_not_le h1) h)]


theorem addTransition_data_length (c : LtsC) (q a r : Nat) :
    (addTransition c q a r).data.length = max c.data.length (a + 1) := by
  simp only [addTransition, List.length_set]
  exact length_grow _ c.data a

theorem addTransition_entry (c : LtsC) (q a r a' : Nat) :
    (addTransition c q a r).data.getD a' ([], []) =
      if a = a' then (pushAt (growVec (c.data.getD a ([], [])).1 q) q r, pushAt (growVec (c.data.getD a ([], [])).2 r) r q)
      else c.data.getD a' ([], []) := by
  simp only [addTransition]
  rw [getD_set, getD_grow, getD_grow, length_grow]
  by_cases h : a = a'
  · rw [if_pos h, if_pos ⟨h, Nat.lt_of_lt_of_le (Nat.lt_succ_self a) (Nat.le_max_right _ _)⟩]
  · rw [if_neg h, if_neg (fun h' => h h'.1)]

theorem addTransition_post (c : LtsC) (q a r a' q' : Nat) :
    (addTransition c q a r).post a' q' = if a = a' ∧ q = q' then c.post a q ++ [r] else c.post a' q' := by
  unfold LtsC.post
  rw [addTransition_entry]
  by_cases h : a = a'
  · subst h; simp only [if_true, true_and]; rw [getD_push_grow]
  · rw [if_neg h, if_neg (fun h' => h h'.1)]

theorem addTransition_pre (c : LtsC) (q a r a' r' : Nat) :
    (addTransition c q a r).pre a' r' = if a = a' ∧ r = r' then c.pre a r ++ [q] else c.pre a' r' := by
  unfold LtsC.pre
  rw [addTransition_entry]
  by_cases h : a = a'
  · subst h; simp only [if_true, true_and]; rw [getD_push_grow]
  · rw [if_neg h, if_neg (fun h' => h h'.1)]

theorem addTransition_bw (c : LtsC) (q a r : Nat) :
    (addTransition c q a r).bw = c.bw ∧ (addTransition c q a r).ub = c.ub := by
  unfold addTransition; exact ⟨rfl, rfl⟩

theorem addTransition_states (c : LtsC) (q a r : Nat)
    (h1 : (c.data.getD a ([], [])).1.length ≤ c.states) (h2 : (c.data.getD a ([], [])).2.length ≤ c.states) :
    (addTransition c q a r).states = max (max c.states (q + 1)) (r + 1) := by
  simp only [addTransition]
  rw [getD_grow, growStates_eq _ _ _ h1, growStates_eq _ _ _ (Nat.le_trans h2 (Nat.le_max_left _ _))]

theorem addTransition_lens (c : LtsC) (q a r a' : Nat)
    (h : ∀ a, (c.data.getD a ([], [])).1.length ≤ c.states ∧ (c.data.getD a ([], [])).2.length ≤ c.states) :
    ((addTransition c q a r).data.getD a' ([], [])).1.length ≤ (addTransition c q a r).states ∧
    ((addTransition c q a r).data.getD a' ([], [])).2.length ≤ (addTransition c q a r).states := by
  rw [addTransition_states c q a r (h a).1 (h a).2, addTransition_entry]
  have hs : c.states ≤ max (max c.states (q + 1)) (r + 1) := Nat.le_trans (Nat.le_max_left _ _) (Nat.le_max_left _ _)
  have hq : q + 1 ≤ max (max c.states (q + 1)) (r + 1) := Nat.le_trans (Nat.le_max_right _ _) (Nat.le_max_left _ _)
  by_cases e : a = a'
  · rw [if_pos e]
    dsimp only
    rw [length_pushAt, length_pushAt, length_growVec, length_growVec]
    exact ⟨Nat.max_le.2 ⟨Nat.le_trans (h a).1 hs, hq⟩, Nat.max_le.2 ⟨Nat.le_trans (h a).2 hs, Nat.le_max_right _ _⟩⟩
  · rw [if_neg e]
    exact ⟨Nat.le_trans (h a').1 hs, Nat.le_trans (h a').2 hs⟩


theorem initStates_spec (st a : Nat) (snd : List (List Nat)) (bw : List SSet) (h : bw.length = st) :
    (initStates st a snd bw).length = st ∧
    ∀ r, (initStates st a snd bw).getD r default =
      if r < st then (bw.getD r default).init a (snd.getD r []).length else bw.getD r default := by
  obtain ⟨h1, h2⟩ := foldl_range_set default (fun r s => SSet.init s a (snd.getD r []).length) bw st (Nat.le_of_eq h.symm)
  exact ⟨h1.trans h, h2⟩

/-- a set after the rounds `a = 0 … k-1` of `init(a, cnt a)` -/
def initSetF (cnt : Nat → Nat) (s : SSet) (k : Nat) : SSet := (List.range k).foldl (fun s a => s.init a (cnt a)) s

theorem initSetF_succ (cnt : Nat → Nat) (s : SSet) (k : Nat) :
    initSetF cnt s (k + 1) = (initSetF cnt s k).init k (cnt k) := by
  rw [initSetF, List.range_succ, List.foldl_append]; rfl

def resizeBoth (st : Nat) (p : List (List Nat) × List (List Nat)) : List (List Nat) × List (List Nat) :=
  (resizeL [] p.1 st, resizeL [] p.2 st)

theorem initLabel_fold (st : Nat) (data : Data) (bw0 : List SSet) (hbw : bw0.length = st)
    (hl : ∀ a, ((data.getD a ([], [])).2).length ≤ st) : ∀ k, k ≤ data.length →
    ((List.range k).foldl (initLabel st) (data, bw0)).1.length = data.length ∧
    (∀ a, ((List.range k).foldl (initLabel st) (data, bw0)).1.getD a ([], []) =
      if a < k then resizeBoth st (data.getD a ([], [])) else data.getD a ([], [])) ∧
    ((List.range k).foldl (initLabel st) (data, bw0)).2.length = st ∧
    ∀ r, ((List.range k).foldl (initLabel st) (data, bw0)).2.getD r default =
      if r < st then initSetF (fun a => ((data.getD a ([], [])).2.getD r []).length) (bw0.getD r default) k else bw0.getD r default := by
  intro k
  induction k with
  | zero =>
    intro _
    exact ⟨rfl, fun _ => rfl, hbw, fun _ => (ite_self _).symm⟩
  | succ k ih =>
    intro hk
    obtain ⟨i1, i2, i3, i4⟩ := ih (Nat.le_of_succ_le hk)
    rw [List.range_succ, List.foldl_append, List.foldl_cons, List.foldl_nil]
    generalize (List.range k).foldl (initLabel st) (data, bw0) = db at i1 i2 i3 i4 ⊢
    have hs := initStates_spec st k (resizeL [] (db.1.getD k ([], [])).2 st) db.2 i3
    refine ⟨by show (db.1.set k _).length = _; rw [List.length_set, i1], fun a => ?_, hs.1, fun r => ?_⟩
    · show (db.1.set k (resizeBoth st (db.1.getD k ([], [])))).getD a ([], []) = _
      rw [getD_set, i1, i2 a, i2 k, if_neg (Nat.lt_irrefl k)]
      simp only [and_iff_left (Nat.lt_of_succ_le hk)]
      exact ite_lt_succ (fun a => resizeBoth st (data.getD a ([], []))) (fun a => data.getD a ([], [])) k a
    · show (initStates st k (resizeL [] (db.1.getD k ([], [])).2 st) db.2).getD r default = _
      rw [hs.2 r, i4 r, i2 k, if_neg (Nat.lt_irrefl k)]
      by_cases l : r < st
      · rw [if_pos l, if_pos l, if_pos l, initSetF_succ, getD_resizeL _ _ _ _ (hl k)]
      · rw [if_neg l, if_neg l, if_neg l]

/-- the loops of `init()` summarised: the data entries are resized to `states_`, set `r` went through
`init(a, |pre(a)[r]|)` for all labels in increasing order, starting from `bw0[r]` -/
theorem initWith_spec (c : LtsC) (bw0 : List SSet) (hbw : bw0.length = c.states)
    (hl : ∀ a, ((c.data.getD a ([], [])).2).length ≤ c.states) :
    (initWith c bw0).states = c.states ∧ (initWith c bw0).transitions = c.transitions ∧
    (initWith c bw0).data.length = c.data.length ∧
    (∀ a, (initWith c bw0).data.getD a ([], []) =
      if a < c.data.length then resizeBoth c.states (c.data.getD a ([], [])) else c.data.getD a ([], [])) ∧
    (initWith c bw0).bw.length = c.states ∧
    (∀ r, r < c.states → (initWith c bw0).bw.getD r default = initSetF (fun a => ((c.data.getD a ([], [])).2.getD r []).length) (bw0.getD r default) c.data.length) ∧
    (initWith c bw0).ub = (c.ub || (initWith c bw0).bw.any (·.bad)) := by
  obtain ⟨i1, i2, i3, i4⟩ := initLabel_fold c.states c.data bw0 hbw hl c.data.length (Nat.le_refl _)
  exact ⟨rfl, rfl, i1, i2, i3, fun r hr => (i4 r).trans (if_pos hr), rfl⟩

/-- the repaired `init()` summarised: every set starts as the empty set with the range of the current labels -/
theorem init_spec (c : LtsC) (hl : ∀ a, ((c.data.getD a ([], [])).2).length ≤ c.states) :
    (init c).states = c.states ∧ (init c).transitions = c.transitions ∧
    (init c).data.length = c.data.length ∧
    (∀ a, (init c).data.getD a ([], []) =
      if a < c.data.length then resizeBoth c.states (c.data.getD a ([], [])) else c.data.getD a ([], [])) ∧
    (init c).bw.length = c.states ∧
    (∀ r, r < c.states → (init c).bw.getD r default = initSetF (fun a => ((c.data.getD a ([], [])).2.getD r []).length) (SSet.new c.data.length) c.data.length) ∧
    (init c).ub = (c.ub || (init c).bw.any (·.bad)) := by
  have h := initWith_spec c (List.replicate c.states (SSet.new c.data.length)) List.length_replicate hl
  refine ⟨h.1, h.2.1, h.2.2.1, h.2.2.2.1, h.2.2.2.2.1, fun r hr => ?_, h.2.2.2.2.2.2⟩
  have := h.2.2.2.2.2.1 r hr
  rw [getD_replicate _ _ _ _ hr] at this
  exact this

end Vata.LC
