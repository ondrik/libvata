import Vata.Proofs.BddIsectApply
/-!
C08: the top-down symbolic intersection is total.  With `apply2S_spec` (`Vata/Proofs/BddIsectApply.lean`) the loop keeps the
invariant `TInv` (a pair of the map is in the work-set or has its entry, the pure product for the current map), so the
certificate check `tdCertB` never fails on what the loop computes: the model IS its loop (`bddIsectTDFrom_eq_loop`).  Every
entry taken from the work-set is a new pair of the universe `tdU` (`FInv`), so the fuel `tdFuel` suffices.
The bottom-up model is treated in `Vata/Proofs/BddIsectBUTotal.lean`.
-/
namespace Vata
namespace BddIsect
open M BddAbs BddAbsTD

variable {c0 : Nat}

/-- the pair `pr` with the number `k` has been processed: its tuples only hold discovered pairs and the table holds the
pure product for the current map -/
def DoneTD (TA TB : TableTD) (m : PMap) (R : TableTD) (pr : Nat × Nat) (k : Nat) : Prop :=
  (∀ ll, ll ∈ voidApply2 (getTD TA pr.1) (getTD TB pr.2) → ∀ c, c ∈ (allZips ll.1 ll.2).flatten → c ∈ m.dom) ∧
  getTD R k = apply2 (prodTS (lookupF m)) (getTD TA pr.1) (getTD TB pr.2)

theorem DoneTD.mono {TA TB : TableTD} {m m' : PMap} {R : TableTD} {pr : Nat × Nat} {k : Nat}
    (h : DoneTD TA TB m R pr k) (he : Isx.Ext m m') : DoneTD TA TB m' R pr k :=
  ⟨fun ll hl c hc => he.dom (h.1 ll hl c hc), by rw [h.2]; exact apply2_ext leafSpecTD he _ _ h.1⟩

structure TInv (c0 : Nat) (TA TB : TableTD) (s : St) (R : TableTD) : Prop where
  good : Good c0 s
  cov : ∀ pr k, s.map.lookup pr = some k → (k, pr) ∈ s.ws ∨ DoneTD TA TB s.map R pr k
  keys : ∀ x, x ∈ keysTD R → ∃ pr, s.map.lookup pr = some x

theorem TInv.pop {TA TB : TableTD} {s : St} {R : TableTD} {x : Nat} {pr : Nat × Nat} {rest : WS}
    (h : TInv c0 TA TB s R) (hw : s.ws = (x, pr) :: rest) {r : St × MTD}
    (sp : Spec prodTS (fun a b => (allZips a b).flatten) c0 s (getTD TA pr.1) (getTD TB pr.2) r) :
    TInv c0 TA TB (r.1.erase x) (setTD R x r.2) := by
  have hx : s.map.lookup pr = some x := h.good.ws_map (x, pr) (by rw [hw]; exact List.mem_cons_self)
  have hx' := sp.step.ext _ _ hx
  refine ⟨sp.good.erase x, ?_, ?_⟩
  · intro pr' k' (hk : r.1.map.lookup pr' = some k')
    by_cases hkx : k' = x
    · subst hkx
      cases sp.good.num.lookup_inj hk hx'
      refine Or.inr ⟨sp.dom, ?_⟩
      rw [getTD_setTD, if_pos rfl]
      exact sp.val
    · have keep : (k', pr') ∈ r.1.ws → (k', pr') ∈ (r.1.erase x).ws := fun hm => mem_wsErase.mpr ⟨hm, hkx⟩
      rcases sp.step.new pr' k' hk with h1 | ⟨_, h2, _⟩
      · rcases h.cov pr' k' h1 with h3 | h3
        · exact Or.inl (keep (sp.step.ws_mono _ h3))
        · refine Or.inr ⟨(h3.mono sp.step.ext).1, ?_⟩
          rw [getTD_setTD, if_neg (fun e => hkx e.symm)]
          exact (h3.mono sp.step.ext).2
      · exact Or.inl (keep h2)
  · intro y hy
    rcases (keysTD_setTD R x _ y).mp hy with rfl | hy
    · exact ⟨pr, hx'⟩
    · obtain ⟨pr', hp⟩ := h.keys y hy
      exact ⟨pr', sp.step.ext _ _ hp⟩

theorem tdLoop_inv {TA TB : TableTD} {fuel : Nat} {s : St} {R : TableTD} {r : St × TableTD}
    (h : tdLoop TA TB fuel s R = some r) (hi : TInv c0 TA TB s R) :
    TInv c0 TA TB r.1 r.2 ∧ r.1.ws = [] ∧ Isx.Ext s.map r.1.map := by
  have := tdLoop_induct (P := TInv c0 TA TB)
    (fun s' _ _ pr _ hw hP => hP.pop hw (apply2S_spec leafSpecTD c0 s' (getTD TA pr.1) (getTD TB pr.2) hP.good)) fuel s R h hi
  exact ⟨this.1, this.2, tdLoop_pres (ext_pres s.map) h (Isx.Ext.refl _)⟩

theorem mem_flatten_allZips {a b : List (List Nat)} {c : Nat × Nat} :
    c ∈ (allZips a b).flatten ↔ ∃ ks, ks ∈ a ∧ ∃ ks', ks' ∈ b ∧ c ∈ ks.zip ks' := by
  simp only [allZips, List.mem_flatten, List.mem_flatMap, List.mem_map]
  constructor
  · rintro ⟨l, ⟨ks, hk, ks', hk', rfl⟩, hc⟩; exact ⟨ks, hk, ks', hk', hc⟩
  · rintro ⟨ks, hk, ks', hk', hc⟩; exact ⟨_, ⟨ks, hk, ks', hk', rfl⟩, hc⟩

theorem tinv_cert {TA TB : TableTD} {FA FB : List Nat} {s : St} {R : TableTD} {F : List Nat}
    (h : TInv c0 TA TB s R) (hw : s.ws = []) (hF : ∀ pr, pr ∈ finalPairsL FA FB → pr ∈ s.map.dom)
    (hFe : F = (finalPairsL FA FB).map (lookupF s.map)) : tdCertB TA FA TB FB s.map R F = true := by
  have done : ∀ pr, pr ∈ s.map.dom → DoneTD TA TB s.map R pr (lookupF s.map pr) := by
    intro pr hpr
    obtain ⟨k, hk⟩ := Isx.mem_dom_iff.mp hpr
    rw [Isx.lookupF_of hk]
    rcases h.cov pr k hk with h1 | h1
    · rw [hw] at h1; cases h1
    · exact h1
  simp only [tdCertB, tdClosedB, tdTableB, Bool.and_eq_true, List.all_eq_true, List.contains_iff_mem, beq_iff_eq,
    List.mem_map]
  refine ⟨⟨⟨?_, ?_, ?_⟩, hF⟩, hFe⟩
  · intro pr hpr ll hl ks hk ks' hk' c hc
    exact (done pr hpr).1 ll hl c (mem_flatten_allZips.mpr ⟨ks, hk, ks', hk', hc⟩)
  · intro pr hpr
    exact (done pr hpr).2
  · intro x hx
    obtain ⟨pr, hp⟩ := h.keys x hx
    exact ⟨pr, Isx.mem_dom_iff.mpr ⟨x, hp⟩, Isx.lookupF_of hp⟩

theorem tinv_init (c0 : Nat) (TA TB : TableTD) (ps : List (Nat × Nat)) : TInv c0 TA TB (translL ⟨[], [], c0⟩ ps).1 [] := by
  obtain ⟨⟨g, st, _, _⟩, _⟩ := translL_spec ps _ (good_init c0)
  refine ⟨g, fun pr k hk => ?_, fun x hx => by cases hx⟩
  rcases st.new pr k hk with h1 | ⟨_, h2, _⟩
  · cases h1
  · exact Or.inl h2

/-- **the certificate check of the top-down model never fails**: the model IS its loop -/
theorem bddIsectTDFrom_eq_loop (c0 : Nat) (TA : TableTD) (FA : List Nat) (TB : TableTD) (FB : List Nat) (fuel : Nat) :
    bddIsectTDFrom c0 TA FA TB FB fuel =
      (tdLoop TA TB fuel (translL ⟨[], [], c0⟩ (finalPairsL FA FB)).1 []).map
        (fun r => (r.2, (translL ⟨[], [], c0⟩ (finalPairsL FA FB)).2, r.1.map)) := by
  unfold bddIsectTDFrom
  split
  next h => rw [h]; rfl
  next s R h =>
    obtain ⟨⟨_, _, hd, _⟩, hv⟩ := translL_spec (finalPairsL FA FB) _ (good_init c0)
    obtain ⟨h1, h2, h3⟩ := tdLoop_inv h (tinv_init c0 TA TB _)
    rw [h, if_pos (tinv_cert h1 h2 (fun pr hpr => h3.dom (hd pr hpr)) ?_)]; rfl
    rw [hv]
    exact (h3.map_lookupF hd).symm

theorem bddIsectTDFrom_none_iff {TA : TableTD} {FA : List Nat} {TB : TableTD} {FB : List Nat} {fuel : Nat} :
    bddIsectTDFrom c0 TA FA TB FB fuel = none ↔
      tdLoop TA TB fuel (translL ⟨[], [], c0⟩ (finalPairsL FA FB)).1 [] = none := by
  rw [bddIsectTDFrom_eq_loop, Option.map_eq_none_iff]

def tdU (TA : TableTD) (FA : List Nat) (TB : TableTD) (FB : List Nat) : List (Nat × Nat) :=
  allPairs (FA ++ tdKids TA) (FB ++ tdKids TB)

theorem mem_tdKids {T : TableTD} {p : Nat} {l : List (List Nat)} {ks : List Nat} {q : Nat} (hl : l ∈ voidApply1 (getTD T p))
    (hk : ks ∈ l) (hq : q ∈ ks) : q ∈ tdKids T := by
  simp only [tdKids, leafTuples, List.mem_flatMap, id]
  refine ⟨p, ?_, ks, ⟨l, hl, hk⟩, hq⟩
  apply Classical.byContradiction
  intro hn
  rw [getTD_not_key hn] at hl
  simp only [voidApply1, List.mem_singleton] at hl
  subst hl
  cases hk

theorem zips_in_U {TA : TableTD} {FA : List Nat} {TB : TableTD} {FB : List Nat} {p q : Nat}
    {ll : List (List Nat) × List (List Nat)} (hl : ll ∈ voidApply2 (getTD TA p) (getTD TB q)) {c : Nat × Nat}
    (hc : c ∈ (allZips ll.1 ll.2).flatten) : c ∈ tdU TA FA TB FB := by
  obtain ⟨ks, hk, ks', hk', hz⟩ := mem_flatten_allZips.mp hc
  obtain ⟨h1, h2⟩ := voidApply2_sub _ _ ll hl
  obtain ⟨c1, c2⟩ := c
  obtain ⟨h3, h4⟩ := List.of_mem_zip hz
  exact mem_allPairs.mpr ⟨List.mem_append_right _ (mem_tdKids h1 hk h3), List.mem_append_right _ (mem_tdKids h2 hk' h4)⟩

/-- the discipline of the work-set w.r.t. the universe `U` and the pairs `done` already taken from it -/
structure FInv (U : List (Nat × Nat)) (s : St) (done : List (Nat × Nat)) : Prop where
  dom_U : ∀ p, p ∈ s.map.dom → p ∈ U
  disj : ∀ w, w ∈ s.ws → w.2 ∉ done
  done_dom : ∀ p, p ∈ done → p ∈ s.map.dom

theorem FInv.pop {U : List (Nat × Nat)} {s s' : St} {done : List (Nat × Nat)} {x : Nat} {pr : Nat × Nat}
    {rest : WS} (h : FInv U s done) (hg : Good c0 s) (hw : s.ws = (x, pr) :: rest) (hg' : Good c0 (s'.erase x))
    (st : Step s s')
    (hU : ∀ c, c ∈ s'.map.dom → c ∈ s.map.dom ∨ c ∈ U) : FInv U (s'.erase x) (pr :: done) := by
  have hx : s.map.lookup pr = some x := hg.ws_map (x, pr) (by rw [hw]; exact List.mem_cons_self)
  refine ⟨?_, ?_, ?_⟩
  · intro c hc
    rcases hU c hc with h1 | h1
    · exact h.dom_U c h1
    · exact h1
  · intro w hw' hd
    obtain ⟨h1, h2⟩ := mem_wsErase.mp hw'
    rcases List.mem_cons.mp hd with h3 | h3
    · have := hg'.ws_map w hw'
      change s'.map.lookup w.2 = some w.1 at this
      rw [h3, st.ext _ _ hx] at this
      exact h2 (Option.some.inj this).symm
    · rcases st.ws_new w h1 with h4 | h4
      · exact h.disj w h4 h3
      · exact Isx.lookup_none_iff.mp h4 (h.done_dom _ h3)
  · intro p hp
    rcases List.mem_cons.mp hp with h1 | h1
    · rw [h1]; exact Isx.mem_dom_iff.mpr ⟨x, st.ext _ _ hx⟩
    · exact st.ext.dom (h.done_dom p h1)

/-- the first entry of the work-set is a pair of `U` that was not taken before: taking it leaves fewer -/
theorem FInv.head_lt {U : List (Nat × Nat)} {s : St} {done : List (Nat × Nat)} {x : Nat} {pr : Nat × Nat}
    {rest : WS} (h : FInv U s done) (hg : Good c0 s) (hw : s.ws = (x, pr) :: rest) :
    unseen U (pr :: done) < unseen U done :=
  have hm : (x, pr) ∈ s.ws := hw ▸ List.mem_cons_self
  unseen_cons_lt (h.dom_U pr (Isx.mem_dom_iff.mpr ⟨x, hg.ws_map _ hm⟩)) (h.disj _ hm)

theorem tdLoop_total {TA : TableTD} {FA : List Nat} {TB : TableTD} {FB : List Nat} (fuel : Nat) :
    ∀ (s : St) (R : TableTD) (done : List (Nat × Nat)), Good c0 s → FInv (tdU TA FA TB FB) s done →
      unseen (tdU TA FA TB FB) done ≤ fuel → (tdLoop TA TB fuel s R).isSome = true := by
  induction fuel with
  | zero =>
    intro s R done hg hf hc
    rw [tdLoop]
    cases hw : s.ws with
    | nil => rfl
    | cons e rest => have := hf.head_lt hg (x := e.1) (pr := e.2) hw; omega
  | succ fuel ih =>
    intro s R done hg hf hc
    rw [tdLoop]
    split
    · rfl
    · rename_i x pr rest hw
      have sp := apply2S_spec leafSpecTD c0 s (getTD TA pr.1) (getTD TB pr.2) hg
      have := hf.head_lt hg hw
      refine ih _ _ (pr :: done) (sp.good.erase x) (hf.pop hg hw (sp.good.erase x) sp.step ?_) (by omega)
      intro c hc
      exact (sp.back c hc).imp id (fun ⟨ll, hl, h1⟩ => zips_in_U hl h1)

theorem FInv.init {U : List (Nat × Nat)} {s : St} (h : ∀ p, p ∈ s.map.dom → p ∈ U) : FInv U s [] :=
  ⟨h, fun _ _ hd => (by cases hd), fun _ hp => (by cases hp)⟩

theorem tdU_length (TA : TableTD) (FA : List Nat) (TB : TableTD) (FB : List Nat) :
    (tdU TA FA TB FB).length = tdFuel TA FA TB FB := by
  rw [tdU, tdFuel, allPairs_eq, Isx.length_allPairs2, List.length_append, List.length_append]

theorem bddIsectTDFrom_isSome_of_le (c0 : Nat) {TA : TableTD} {FA : List Nat} {TB : TableTD} {FB : List Nat} {fuel : Nat}
    (hle : tdFuel TA FA TB FB ≤ fuel) : (bddIsectTDFrom c0 TA FA TB FB fuel).isSome = true := by
  obtain ⟨⟨g, _, _, hb⟩, _⟩ := translL_spec (finalPairsL FA FB) _ (good_init c0)
  have hf : FInv (tdU TA FA TB FB) (translL ⟨[], [], c0⟩ (finalPairsL FA FB)).1 [] := by
    refine FInv.init (fun p hp => (hb p hp).elim (fun h1 => by cases h1) (fun h1 => ?_))
    obtain ⟨h2, h3⟩ := mem_allPairs.mp h1
    exact mem_allPairs.mpr ⟨List.mem_append_left _ h2, List.mem_append_left _ h3⟩
  have ht := tdLoop_total (FA := FA) (FB := FB) fuel _ [] [] g hf
    (Nat.le_trans (unseen_le_length _ _) (tdU_length TA FA TB FB ▸ hle))
  rw [bddIsectTDFrom_eq_loop, Option.isSome_map]
  exact ht

theorem bddIsectTDFrom_isSome (c0 : Nat) (TA : TableTD) (FA : List Nat) (TB : TableTD) (FB : List Nat) :
    (bddIsectTDFrom c0 TA FA TB FB (tdFuel TA FA TB FB)).isSome = true :=
  bddIsectTDFrom_isSome_of_le c0 (Nat.le_refl _)

theorem bddIsectTDRef_isSome (TA : TableTD) (FA : List Nat) (TB : TableTD) (FB : List Nat) :
    (bddIsectTDRef TA FA TB FB).isSome = true := bddIsectTDFrom_isSome 0 TA FA TB FB

/-- **the top-down symbolic intersection, total and correct**: with the fuel `tdFuel` the model returns a table whose
abstraction accepts exactly the intersection, and a translation map with the values `0 … n-1` -/
theorem bddIsectTDRef_lang (TA : TableTD) (FA : List Nat) (TB : TableTD) (FB : List Nat) (hA : ArityOK TA)
    (hB : ArityOK TB) :
    ∃ R F m, bddIsectTDRef TA FA TB FB = some (R, F, m) ∧
      (∀ syms t, accepts (absTD syms R F) t = (accepts (absTD syms TA FA) t && accepts (absTD syms TB FB) t)) ∧
      m.map Prod.snd = List.range m.length := by
  cases h : bddIsectTDRef TA FA TB FB with
  | none => have := bddIsectTDRef_isSome TA FA TB FB; rw [h] at this; simp at this
  | some r =>
    obtain ⟨R, F, m⟩ := r
    exact ⟨R, F, m, rfl, fun syms t => bddIsectTD_lang h hA hB syms t, (bddIsect_numbers_dense.1 h).1⟩

end BddIsect
end Vata
