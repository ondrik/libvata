import Vata.Proofs.UnionStoreCoded
import Vata.Proofs.RenameCodedValue
/-!
# `Union` on the rule store – proofs, part 2: the FULL store invariant of the result

A `ReindexStates(dst, …)` that does not throw, from a source without empty cluster / tuple set, leaves exactly
`foldl AddTransition (SetStatesFinal dst finals') rules'` (`RenameCoded.reindexInto_opt_value` – the answer to the first item of the
"still not proved" list of `C14_Coded`); here for the weak translators of `Union` (`weak_run_exact`), whence `Store.Inv` of the result.
-/
namespace Vata.UnionStoreCoded
open Vata.Store Vata.RenameCoded

theorem weak_run_exact (src dst : Store) (m : SMap) (c : Nat) (hne : NoEmpty src) :
    (reindexInto (weakT .counter) src dst ⟨m, c⟩ true).dst =
      ((iterate src).map (mapRule (gd (fun k => (weakTrAll (lookupOrder src true) m c).1.lookup k)))).foldl addTransition
        (setFinals dst (src.final.map (gd (fun k => (weakTrAll (lookupOrder src true) m c).1.lookup k)))) := by
  obtain ⟨e1, e2, _⟩ := weak_run src dst m c
  rw [reindexInto_value (lawful_weakT .counter) src dst _ hne e1, e2]

theorem inv_setFinals {s : Store} (h : Inv s) (qs : List Nat) : Inv (setFinals s qs) := inv_step h (.setFinals qs)

theorem weak_run_inv (src dst : Store) (m : SMap) (c : Nat) (hs : Inv src) (hd : Inv dst) :
    Inv (reindexInto (weakT .counter) src dst ⟨m, c⟩ true).dst := by
  rw [weak_run_exact src dst m c (noEmpty_of_inv hs)]
  exact inv_foldl_add (inv_setFinals hd _) _

end Vata.UnionStoreCoded
