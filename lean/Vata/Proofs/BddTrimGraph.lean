import Vata.BddTrimGraph
import Vata.Proofs.BddAbsTD
/-!
# `Util::Graph` and `TwoWayDict` (`Vata/BddTrimGraph.lean`): what a lookup returns, the edge sets after each operation
-/
namespace Vata
namespace BddTrimCoded

theorem length_ins_le (x : Nat) (l : List Nat) : (ins x l).length ≤ l.length + 1 := by
  unfold ins; split <;> simp

theorem filter_congr_mem {l : List Nat} {S S' : List Nat} (h : ∀ q, q ∈ S ↔ q ∈ S') :
    l.filter (fun q => S.contains q) = l.filter (fun q => S'.contains q) := by
  apply List.filter_congr
  intro q _
  rw [Bool.eq_iff_iff]
  simp only [List.contains_iff_mem]
  exact h q

theorem findBwd_some {β : Type} [BEq β] [LawfulBEq β] {d : List (Nat × β)} {v : β} {n : Nat} (h : findBwd d v = some n) :
    (n, v) ∈ d := by
  obtain ⟨e, he, rfl⟩ := Option.map_eq_some_iff.mp h
  have hv : e.2 = v := by simpa using List.find?_some he
  exact hv ▸ List.mem_of_find?_eq_some he

theorem findBwd_none {β : Type} [BEq β] [LawfulBEq β] {d : List (Nat × β)} {v : β} (h : findBwd d v = none) (n : Nat) :
    (n, v) ∉ d := fun hm => by
  have := List.find?_eq_none.mp (Option.map_eq_none_iff.mp h) _ hm
  simp at this

theorem findFwd_some {β : Type} {d : List (Nat × β)} {n : Nat} {s : β} (h : findFwd d n = some s) : (n, s) ∈ d := by
  obtain ⟨e, he, rfl⟩ := Option.map_eq_some_iff.mp h
  have hn : e.1 = n := by simpa using List.find?_some he
  exact hn ▸ List.mem_of_find?_eq_some he

theorem findFwd_none {β : Type} {d : List (Nat × β)} {n : Nat} (h : findFwd d n = none) (s : β) : (n, s) ∉ d := fun hm => by
  have := List.find?_eq_none.mp (Option.map_eq_none_iff.mp h) _ hm
  simp at this

theorem findFwd_of_mem {β : Type} {d : List (Nat × β)} (hf : ∀ n s s', (n, s) ∈ d → (n, s') ∈ d → s = s') {n : Nat} {s : β}
    (h : (n, s) ∈ d) : findFwd d n = some s := by
  cases hd : findFwd d n with
  | none => exact absurd h (findFwd_none hd s)
  | some s' => rw [hf n s s' h (findFwd_some hd)]

structure DictOk {β : Type} (size : Nat) (d : List (Nat × β)) : Prop where
  lt : ∀ n v, (n, v) ∈ d → n < size
  funN : ∀ n v v', (n, v) ∈ d → (n, v') ∈ d → v = v'

theorem mem_push {β : Type} {d : List (Nat × β)} {k : Nat} {v : β} {e : Nat × β} : e ∈ d ++ [(k, v)] ↔ e ∈ d ∨ e = (k, v) := by
  rw [List.mem_append, List.mem_singleton]

theorem DictOk.mono {β : Type} {size size' : Nat} {d : List (Nat × β)} (h : DictOk size d) (hle : size ≤ size') :
    DictOk size' d :=
  ⟨fun n v hm => Nat.lt_of_lt_of_le (h.lt n v hm) hle, h.funN⟩

/-- `insert(make_pair(AddNode(), v))` -/
theorem DictOk.push {β : Type} {size : Nat} {d : List (Nat × β)} (h : DictOk size d) (v : β) :
    DictOk (size + 1) (d ++ [(size, v)]) := by
  have new : ∀ {v'}, (size, v') ∉ d := fun hm => Nat.lt_irrefl _ (h.lt _ _ hm)
  refine ⟨fun n v' hm => ?_, fun n v1 v2 h1 h2 => ?_⟩
  · rcases mem_push.mp hm with hm | hm
    · exact Nat.lt_succ_of_lt (h.lt n v' hm)
    · cases hm; exact Nat.lt_succ_self _
  · rcases mem_push.mp h1 with h1 | h1 <;> rcases mem_push.mp h2 with h2 | h2
    · exact h.funN n v1 v2 h1 h2
    · cases h2; exact absurd h1 new
    · cases h1; exact absurd h2 new
    · cases h1; cases h2; rfl

theorem inj_push {β : Type} {d : List (Nat × β)} (hinj : ∀ n n' v, (n, v) ∈ d → (n', v) ∈ d → n = n') {k : Nat} {v : β}
    (hnew : ∀ n, (n, v) ∉ d) : ∀ n n' v', (n, v') ∈ d ++ [(k, v)] → (n', v') ∈ d ++ [(k, v)] → n = n' := by
  intro n n' v' h1 h2
  rcases mem_push.mp h1 with h1 | h1 <;> rcases mem_push.mp h2 with h2 | h2
  · exact hinj n n' v' h1 h2
  · cases h2; exact absurd h1 (hnew _)
  · cases h1; exact absurd h2 (hnew _)
  · cases h1; cases h2; rfl

theorem mem_ing_addEdge {G : Graph} {src dst x m : Nat} :
    m ∈ (G.addEdge src dst).ing x ↔ m ∈ G.ing x ∨ (x = dst ∧ m = src) := by
  show m ∈ (if x = dst then ins src (G.ing x) else G.ing x) ↔ _
  split
  · next h => simp [mem_ins, h]
  · next h => simp [h]

theorem mem_egr_addEdge {G : Graph} {src dst x m : Nat} :
    m ∈ (G.addEdge src dst).egr x ↔ m ∈ G.egr x ∨ (x = src ∧ m = dst) := by
  show m ∈ (if x = src then ins dst (G.egr x) else G.egr x) ↔ _
  split
  · next h => simp [mem_ins, h]
  · next h => simp [h]

theorem mem_ing_eraseIng {G : Graph} {a x n m : Nat} :
    m ∈ (G.eraseIng a x).ing n ↔ m ∈ G.ing n ∧ ¬ (n = a ∧ m = x) := by
  show m ∈ (if n = a then (G.ing n).filter (fun y => y != x) else G.ing n) ↔ _
  split
  · next h => simp [h]
  · next h => simp [h]

theorem mem_egr_eraseEgr {G : Graph} {a x n m : Nat} :
    m ∈ (G.eraseEgr a x).egr n ↔ m ∈ G.egr n ∧ ¬ (n = a ∧ m = x) := by
  show m ∈ (if n = a then (G.egr n).filter (fun y => y != x) else G.egr n) ↔ _
  split
  · next h => simp [h]
  · next h => simp [h]

/-- `for (a : l) GetEgress(a).erase(x)`: the ingress sets stay, exactly the edges `a → x` with `a ∈ l` go -/
theorem foldl_eraseEgr (x : Nat) (l : List Nat) (G : Graph) :
    (l.foldl (fun G a => G.eraseEgr a x) G).ing = G.ing ∧
    (∀ n m, m ∈ (l.foldl (fun G a => G.eraseEgr a x) G).egr n ↔ m ∈ G.egr n ∧ ¬ (n ∈ l ∧ m = x)) ∧
    ∀ n, ((l.foldl (fun G a => G.eraseEgr a x) G).egr n).Sublist (G.egr n) := by
  induction l generalizing G with
  | nil => exact ⟨rfl, fun n m => by simp, fun n => List.Sublist.refl _⟩
  | cons a l ih =>
    obtain ⟨h1, h2, h3⟩ := ih (G.eraseEgr a x)
    refine ⟨h1, fun n m => ?_, fun n => (h3 n).trans ?_⟩
    · rw [List.foldl_cons, h2, mem_egr_eraseEgr, List.mem_cons]
      exact ⟨fun ⟨⟨h, k1⟩, k2⟩ => ⟨h, fun ⟨k, e⟩ => k.elim (fun k => k1 ⟨k, e⟩) (fun k => k2 ⟨k, e⟩)⟩,
        fun ⟨h, k⟩ => ⟨⟨h, fun ⟨k1, e⟩ => k ⟨Or.inl k1, e⟩⟩, fun ⟨k2, e⟩ => k ⟨Or.inr k2, e⟩⟩⟩
    · show (if n = a then (G.egr n).filter (fun y => y != x) else G.egr n).Sublist _
      split
      · exact List.filter_sublist
      · exact List.Sublist.refl _

end BddTrimCoded
end Vata
