import Vata.Proofs.ListFacts
import Vata.Proofs.LtsEnginePot
/-!
# The LTS simulation engine: the pruning loops of `processRemove`

`enqueueToRemove`, `decrStep` (one `SharedCounter::decr`), `decrBlock` (all decrements after one pair of blocks was
erased), `pruneCol`, `pruneRow` and the fold over `preList`, with the "lagging counter" invariant `JInv`: while the
decrements for an erased pair are being executed the counters of `b1` exceed their specification by the number of
decrements still to come.  The loops are walked on pairs (state, history) for an arbitrary history (`prune_trace`), so that the
instrumented engines of `Vata/LtsEngineCalls*.lean` are covered by the same induction; `prunePhase_spec` is the case without
history.
-/
namespace Vata.LE
open Vata.L

theorem slotL_congr {e e' : Eng} {i a : Nat} (h : e'.remv i a = e.remv i a) : slotL e' i a = slotL e i a := by
  unfold slotL; rw [h]

/-- `enqueueToRemove` writes one slot: the old list with `q` added, in one of the four ways of `SharedList::append` -/
theorem enqueue_shape (e : Eng) (i a q : Nat) :
    ∃ r' n', (flat r').Perm (q :: slotL e i a) ∧
      enqueueToRemove e i a q = { e with
        rem := setRem e.rem i a (some r')
        nextId := n'
        queue := if (e.remv i a).isSome = true then e.queue else (i, a) :: e.queue } := by
  unfold enqueueToRemove slotL
  cases e.remv i a with
  | none => exact ⟨_, _, .refl _, rfl⟩
  | some r =>
    cases r with
    | nil => exact ⟨_, _, .refl _, rfl⟩
    | cons s rest =>
      obtain ⟨id, seg⟩ := s
      by_cases hsh : sharedId e i a id = true
      · exact ⟨_, _, .refl _, by simp only [hsh, if_true]; rfl⟩
      · refine ⟨(id, seg ++ [q]) :: rest, e.nextId, ?_, by simp only [hsh]; rfl⟩
        simp only [flat, List.flatMap_cons, List.append_assoc, List.singleton_append]
        exact List.perm_middle

theorem enqueue_spec (e : Eng) (i a q : Nat) :
    let e' := enqueueToRemove e i a q
    e'.part = e.part ∧ e'.rel = e.rel ∧ e'.inset = e.inset ∧ e'.cnt = e.cnt ∧
      (∀ i' a', ¬ (i' = i ∧ a' = a) → e'.remv i' a' = e.remv i' a') ∧
      (e'.remv i a).isSome = true ∧ (slotL e' i a).Perm (q :: slotL e i a) ∧
      e'.queue = (if (e.remv i a).isSome = true then e.queue else (i, a) :: e.queue) := by
  intro e'
  obtain ⟨r', n', hperm, he'⟩ := enqueue_shape e i a q
  have hrem : ∀ i' a', e'.remv i' a' = if i' = i ∧ a' = a then some r' else e.remv i' a' := fun i' a' => by
    rw [remv_eq, show e' = _ from he']; exact rget_setRem _ _ _ _ _ _
  have hia := hrem i a
  rw [if_pos ⟨rfl, rfl⟩] at hia
  refine ⟨by rw [show e' = _ from he'], by rw [show e' = _ from he'], by rw [show e' = _ from he'],
    by rw [show e' = _ from he'], fun i' a' hne => by rw [hrem, if_neg hne], by rw [hia]; rfl, ?_,
    by rw [show e' = _ from he']⟩
  rw [slotL_some hia]
  exact hperm

/-- queue and slots still agree after `enqueueToRemove` -/
theorem enqueue_qok {e : Eng} (qk : QOK e) {i : Nat} (hi : i < e.part.length) (a q : Nat) :
    QOK (enqueueToRemove e i a q) := by
  obtain ⟨p1, _, _, _, p5, p6, _, p8⟩ := enqueue_spec e i a q
  -- the queue gets `(i, a)` unless it has it
  have hmem : ∀ k, k ∈ (enqueueToRemove e i a q).queue ↔ k ∈ (i, a) :: e.queue := by
    intro k
    rw [p8]
    by_cases hs : (e.remv i a).isSome = true
    · rw [if_pos hs]
      exact ⟨List.mem_cons_of_mem _, fun h => (List.mem_cons.mp h).elim (fun h' => h' ▸ (qk.hiff i a).mp hs) id⟩
    · rw [if_neg hs]
  refine ⟨?_, fun i' a' => ?_, fun i' a' hin => ?_⟩
  · rw [p8]
    by_cases hs : (e.remv i a).isSome = true
    · rw [if_pos hs]; exact qk.hnd
    · rw [if_neg hs]; exact List.nodup_cons.mpr ⟨fun hin => hs ((qk.hiff i a).mpr hin), qk.hnd⟩
  · rw [hmem]
    by_cases hk : i' = i ∧ a' = a
    · rw [hk.1, hk.2]; exact ⟨fun _ => List.mem_cons_self, fun _ => p6⟩
    · rw [p5 i' a' hk, qk.hiff i' a', mem_cons_pair hk]
  · rw [p1]
    by_cases hk : i' = i ∧ a' = a
    · rw [hk.1]; exact hi
    · exact qk.hlt i' a' ((mem_cons_pair hk).mp ((hmem _).mp hin))

/-! ### the lagging-counter invariant -/

/-- `e` inside the pruning loops that started in `s1` (the state right after the split phase), `B` a bound on the potential.
`ks` are the decrements `(label, state)` still due for the pair just erased from row `b1`: the counters of `b1` lag by their
multiplicity in `ks` (`hC`), and no key of `ks` is on its slot yet (`hK`).  `hF`: where the specification of a counter is zero,
the state is on the slot, or the specification was zero in `s1` already, or the decrement is still due; `hmono`: slots only grow
from `s1` on.  `hD`, `hN` are those of `Sem`.  With `ks = []` the row `b1` plays no part (`JInv.change`); between rows it is `0`. -/
structure JInv (L : LTS) (B : Nat) (s1 : Eng) (b1 : Nat) (e : Eng) (ks : List (Nat × Nat)) : Prop where
  wf : WF L e
  qk : QOK e
  hC : ∀ i a q, i < e.part.length → a ∈ e.ins i →
    e.cntv i a q = cntSpec L e i a q + (if i = b1 then ks.count (a, q) else 0)
  hD : ∀ i a q q', i < e.part.length → q ∈ slotL e i a → (q, a, q') ∈ L.edges → ¬ e.U i q'
  hN : ∀ i a, i < e.part.length → (slotL e i a).Nodup ∧ ∀ q, q ∈ slotL e i a → q < L.n
  hF : ∀ i a q, i < e.part.length → a ∈ e.ins i → cntSpec L e i a q = 0 →
    q ∈ slotL e i a ∨ cntSpec L s1 i a q = 0 ∨ (i = b1 ∧ 0 < ks.count (a, q))
  hK : ∀ a q, q ∈ slotL e b1 a → ks.count (a, q) = 0
  hKin : ∀ k, k ∈ ks → k.1 ∈ e.ins b1 ∧ k.2 < L.n
  hmono : ∀ i a q, q ∈ slotL s1 i a → q ∈ slotL e i a
  hpot : pot L e ≤ B

variable {B : Nat}

/-- with no decrement due, a specification that is zero was zero in `s1` already, unless the state is on the slot -/
theorem JInv.spec_zero {L : LTS} {s1 e : Eng} {b1 : Nat} (j : JInv L B s1 b1 e []) {i a q : Nat} (hi : i < e.part.length)
    (ha : a ∈ e.ins i) (h0 : cntSpec L e i a q = 0) : q ∈ slotL e i a ∨ cntSpec L s1 i a q = 0 :=
  (j.hF i a q hi ha h0).imp_right fun h => h.resolve_right fun h' => Nat.lt_irrefl 0 h'.2

theorem JInv.change {L : LTS} {s1 e : Eng} {b1 : Nat} (j : JInv L B s1 b1 e []) (b2 : Nat) : JInv L B s1 b2 e [] := by
  refine ⟨j.wf, j.qk, fun i a q hi ha => ?_, j.hD, j.hN, fun i a q hi ha h0 => (j.spec_zero hi ha h0).imp_right Or.inl,
    fun _ _ _ => rfl, fun k hk => (by cases hk), j.hmono, j.hpot⟩
  rw [j.hC i a q hi ha]
  split <;> split <;> rfl

theorem cntSpec_congr {L : LTS} {e e' : Eng} (h1 : e'.part = e.part) (h2 : e'.rel = e.rel) (i a q : Nat) :
    cntSpec L e' i a q = cntSpec L e i a q := by
  simp only [cntSpec, Eng.row, h1, h2]

theorem U_congr {e e' : Eng} (h1 : e'.part = e.part) (h2 : e'.rel = e.rel) (i r : Nat) : e'.U i r ↔ e.U i r := by
  simp only [Eng.U, Eng.row, h1, h2]

/-- the counter update of `decr` -/
def decrCnt (e : Eng) (i a q : Nat) : Eng := { e with cnt := setCnt e.cnt i a q (e.cntv i a q - 1) }

theorem decrStep_eq (i a : Nat) (e : Eng) (q : Nat) :
    decrStep i a e q =
      if (e.cntv i a q - 1 == 0) = true then enqueueToRemove (decrCnt e i a q) i a q else decrCnt e i a q := rfl

theorem cntv_decrCnt (e : Eng) (i a q i' a' q' : Nat) :
    (decrCnt e i a q).cntv i' a' q' = if i' = i ∧ a' = a ∧ q' = q then e.cntv i a q - 1 else e.cntv i' a' q' :=
  cget_setCnt _ _ _ _ _ _ _ _

/-- lowering one positive counter: the number of positive counters drops exactly when it reaches zero -/
theorem posCnt_lower {L : LTS} {e e' : Eng} {b1 a q : Nat} (hp : e'.part = e.part)
    (hcnt : ∀ i' a' q', e'.cntv i' a' q' = if i' = b1 ∧ a' = a ∧ q' = q then e.cntv b1 a q - 1 else e.cntv i' a' q')
    (hk : (b1, a, q) ∈ keysOf L e.part.length) (hpos : 1 ≤ e.cntv b1 a q) :
    posCnt L e' + (if e.cntv b1 a q - 1 = 0 then 1 else 0) ≤ posCnt L e := by
  unfold posCnt
  rw [hp]
  by_cases hz : e.cntv b1 a q - 1 = 0
  · rw [if_pos hz]
    refine countP_lt_of_new (fun k _ hk' => ?_) ⟨(b1, a, q), hk, decide_eq_true hpos, ?_⟩
    · rw [hcnt] at hk'
      split at hk'
      · next h => rw [← h.1, ← h.2.1, ← h.2.2] at hpos; exact decide_eq_true hpos
      · exact hk'
    · rw [hcnt, if_pos ⟨rfl, rfl, rfl⟩, hz]; exact Bool.false_ne_true
  · rw [if_neg hz, Nat.add_zero]
    refine Nat.le_of_eq (List.countP_congr fun k _ => ?_)
    rw [hcnt]
    by_cases hk' : k.1 = b1 ∧ k.2.1 = a ∧ k.2.2 = q
    · rw [if_pos hk', hk'.1, hk'.2.1, hk'.2.2, decide_eq_true_iff, decide_eq_true_iff]
      exact ⟨fun _ => hpos, fun _ => Nat.pos_of_ne_zero hz⟩
    · rw [if_neg hk']

/-! ### one `decr`: what it leaves alone, the counters, queue and slots, the measure -/

theorem decrStep_frame (i a : Nat) (e : Eng) (q : Nat) :
    (decrStep i a e q).part = e.part ∧ (decrStep i a e q).rel = e.rel ∧ (decrStep i a e q).inset = e.inset := by
  rw [decrStep_eq]
  split
  · obtain ⟨p1, p2, p3, _⟩ := enqueue_spec (decrCnt e i a q) i a q
    exact ⟨p1, p2, p3⟩
  · exact ⟨rfl, rfl, rfl⟩

theorem cntv_decrStep (i a : Nat) (e : Eng) (q i' a' q' : Nat) :
    (decrStep i a e q).cntv i' a' q' = if i' = i ∧ a' = a ∧ q' = q then e.cntv i a q - 1 else e.cntv i' a' q' := by
  rw [decrStep_eq]
  split
  · rw [cntv_eq, (enqueue_spec (decrCnt e i a q) i a q).2.2.2.1]
    exact cntv_decrCnt e i a q i' a' q'
  · exact cntv_decrCnt e i a q i' a' q'

/-- queue and slots after one `decr`: `q` goes on the slot `(i, a)` exactly when the counter reaches zero -/
theorem decrStep_slots {e : Eng} (qk : QOK e) {i : Nat} (hi : i < e.part.length) (a q : Nat) :
    QOK (decrStep i a e q) ∧ ∀ i' a', (slotL (decrStep i a e q) i' a').Perm
      (if e.cntv i a q - 1 = 0 ∧ i' = i ∧ a' = a then q :: slotL e i' a' else slotL e i' a') := by
  rw [decrStep_eq]
  by_cases hz : (e.cntv i a q - 1 == 0) = true
  · rw [if_pos hz]
    obtain ⟨_, _, _, _, p5, _, p7, _⟩ := enqueue_spec (decrCnt e i a q) i a q
    refine ⟨enqueue_qok (e := decrCnt e i a q) ⟨qk.hnd, qk.hiff, qk.hlt⟩ hi a q, fun i' a' => ?_⟩
    by_cases hk' : i' = i ∧ a' = a
    · rw [if_pos ⟨eq_of_beq hz, hk'⟩, hk'.1, hk'.2]; exact p7
    · rw [if_neg (fun h => hk' h.2)]; exact .of_eq (slotL_congr (p5 i' a' hk'))
  · rw [if_neg hz]
    refine ⟨⟨qk.hnd, qk.hiff, qk.hlt⟩, fun i' a' => ?_⟩
    rw [if_neg (fun h => hz (by rw [h.1]; rfl))]
    exact .refl _

/-- the measure does not grow by a `decr` of a positive counter -/
theorem pot_decrStep {L : LTS} {e : Eng} {b1 a q : Nat} (hb1 : b1 < e.part.length) (ha : a < labels L)
    (hq : q < L.n) (hpos : 1 ≤ e.cntv b1 a q) : pot L (decrStep b1 a e q) ≤ pot L e := by
  have hc := posCnt_lower (L := L) (decrStep_frame b1 a e q).1 (cntv_decrStep b1 a e q)
    ((mem_keysOf L _ b1 a q).mpr ⟨hb1, ha, hq⟩) hpos
  -- the queue grows only when the counter reaches zero, and then there is one positive counter less
  have hq' : (decrStep b1 a e q).queue.length ≤ e.queue.length + if e.cntv b1 a q - 1 = 0 then 1 else 0 := by
    rw [decrStep_eq]
    by_cases hz : (e.cntv b1 a q - 1 == 0) = true
    · rw [if_pos hz, if_pos (eq_of_beq hz), (enqueue_spec (decrCnt e b1 a q) b1 a q).2.2.2.2.2.2.2]
      split
      · exact Nat.le_succ _
      · exact Nat.le_refl _
    · rw [if_neg hz]; exact Nat.le_add_right _ _
  unfold pot
  rw [(decrStep_frame b1 a e q).1]
  omega

/-- One pending decrement is executed: `e'` is `e` with the counter of `(b1, a, q)` lowered by one and, if that made it
zero, with `q` put on the slot `(b1, a)`.  The counter was `specification + lag`, so it reaches zero only when `q` has
no `a`-successor left in the row and no further decrement of this key is pending. -/
theorem JInv.pop {L : LTS} {s1 e e' : Eng} {b1 a q : Nat} {ks : List (Nat × Nat)} (hb1 : b1 < e.part.length)
    (j : JInv L B s1 b1 e ((a, q) :: ks)) (hp : e'.part = e.part) (hr : e'.rel = e.rel) (hi : e'.inset = e.inset)
    (qk : QOK e')
    (hcnt : ∀ i' a' q', e'.cntv i' a' q' = if i' = b1 ∧ a' = a ∧ q' = q then e.cntv b1 a q - 1 else e.cntv i' a' q')
    (hslot : ∀ i' a', (slotL e' i' a').Perm
      (if e.cntv b1 a q - 1 = 0 ∧ i' = b1 ∧ a' = a then q :: slotL e i' a' else slotL e i' a'))
    (hpot : pot L e' ≤ B) : JInv L B s1 b1 e' ks := by
  have hain : a ∈ e.ins b1 := (j.hKin (a, q) List.mem_cons_self).1
  have hv : e.cntv b1 a q - 1 = cntSpec L e b1 a q + ks.count (a, q) := by
    rw [j.hC b1 a q hb1 hain, if_pos rfl, List.count_cons_self]; rfl
  have hz0 : e.cntv b1 a q - 1 = 0 → cntSpec L e b1 a q = 0 ∧ ks.count (a, q) = 0 := fun h =>
    Nat.add_eq_zero_iff.mp (hv ▸ h)
  have hcount : ∀ a' q', ¬ (a' = a ∧ q' = q) → ((a, q) :: ks).count (a', q') = ks.count (a', q') := fun a' q' hne =>
    List.count_cons_of_ne (fun h => hne ⟨(Prod.mk.inj h).1.symm, (Prod.mk.inj h).2.symm⟩)
  have hins : ∀ i', e'.ins i' = e.ins i' := Eng.ins_congr hi
  have hspec := cntSpec_congr (L := L) hp hr
  have hmem : ∀ i' a' x, x ∈ slotL e' i' a' ↔
      x ∈ slotL e i' a' ∨ (e.cntv b1 a q - 1 = 0 ∧ i' = b1 ∧ a' = a ∧ x = q) := by
    intro i' a' x
    rw [(hslot i' a').mem_iff]
    by_cases h : e.cntv b1 a q - 1 = 0 ∧ i' = b1 ∧ a' = a
    · rw [if_pos h, List.mem_cons]
      exact ⟨fun h' => h'.elim (fun e => Or.inr ⟨h.1, h.2.1, h.2.2, e⟩) Or.inl,
        fun h' => h'.elim Or.inr (fun h'' => Or.inl h''.2.2.2)⟩
    · rw [if_neg h]
      exact ⟨Or.inl, fun h' => h'.elim id (fun h'' => absurd ⟨h''.1, h''.2.1, h''.2.2.1⟩ h)⟩
  refine ⟨WF.congr hp hr hi j.wf, qk, fun i' a' q' hi' ha' => ?_, fun i' a' x x' hi' hx hed => ?_,
    fun i' a' hi' => ⟨(hslot i' a').nodup_iff.mpr ?_, fun x hx => ?_⟩, fun i' a' x hi' ha' h0 => ?_,
    fun a' x hx => ?_,
    fun k hk => ⟨by rw [hins]; exact (j.hKin k (List.mem_cons_of_mem _ hk)).1, (j.hKin k (List.mem_cons_of_mem _ hk)).2⟩,
    fun i' a' x hx => (hmem i' a' x).mpr (Or.inl (j.hmono i' a' x hx)), hpot⟩
  · rw [hp] at hi'
    rw [hins] at ha'
    rw [hcnt, hspec]
    by_cases hk : i' = b1 ∧ a' = a ∧ q' = q
    · rw [if_pos hk, hk.1, hk.2.1, hk.2.2, if_pos rfl]; exact hv
    · rw [if_neg hk, j.hC i' a' q' hi' ha']
      by_cases hi1 : i' = b1
      · rw [if_pos hi1, if_pos hi1, hcount a' q' (fun h => hk ⟨hi1, h⟩)]
      · rw [if_neg hi1, if_neg hi1]
  · rw [hp] at hi'
    rw [U_congr hp hr]
    rcases (hmem i' a' x).mp hx with h | ⟨hz, h1, h2, h3⟩
    · exact j.hD i' a' x x' hi' h hed
    · subst h1; subst h2; subst h3
      exact cntSpec_eq_zero.mp (hz0 hz).1 x' hed
  · rw [hp] at hi'
    by_cases h : e.cntv b1 a q - 1 = 0 ∧ i' = b1 ∧ a' = a
    · rw [if_pos h, h.2.1, h.2.2]
      refine List.nodup_cons.mpr ⟨fun hq => ?_, (j.hN b1 a hb1).1⟩
      -- a state on the slot has no pending decrement
      have := j.hK a q hq
      rw [List.count_cons_self] at this
      cases this
    · rw [if_neg h]; exact (j.hN i' a' hi').1
  · rw [hp] at hi'
    rcases (hmem i' a' x).mp hx with h | ⟨_, _, _, h3⟩
    · exact (j.hN i' a' hi').2 x h
    · rw [h3]; exact (j.hKin (a, q) List.mem_cons_self).2
  · rw [hp] at hi'
    rw [hins] at ha'
    rw [hspec] at h0
    rw [hmem]
    rcases j.hF i' a' x hi' ha' h0 with h | h | ⟨h1, h2⟩
    · exact Or.inl (Or.inl h)
    · exact Or.inr (Or.inl h)
    · by_cases hk : a' = a ∧ x = q
      · -- the key of this decrement: still lagging, or the counter is zero now and `q` went to the slot
        by_cases hl : 0 < ks.count (a', x)
        · exact Or.inr (Or.inr ⟨h1, hl⟩)
        · rw [h1, hk.1, hk.2] at h0
          rw [hk.1, hk.2] at hl
          exact Or.inl (Or.inr ⟨by rw [hv, h0, Nat.eq_zero_of_not_pos hl], h1, hk.1, hk.2⟩)
      · rw [hcount a' x hk] at h2
        exact Or.inr (Or.inr ⟨h1, h2⟩)
  · rcases (hmem b1 a' x).mp hx with h | ⟨hz, _, h2, h3⟩
    · exact Nat.le_zero.mp (j.hK a' x h ▸ List.count_le_count_cons)
    · rw [h2, h3]; exact (hz0 hz).2

/-- one `decr` (+ `enqueueToRemove` when the counter reaches zero) -/
theorem decrStep_spec {L : LTS} {s1 e : Eng} {b1 a q : Nat} {ks : List (Nat × Nat)} (hb1 : b1 < e.part.length)
    (j : JInv L B s1 b1 e ((a, q) :: ks)) :
    JInv L B s1 b1 (decrStep b1 a e q) ks ∧ (decrStep b1 a e q).part = e.part ∧ (decrStep b1 a e q).rel = e.rel ∧
      (decrStep b1 a e q).inset = e.inset := by
  have hk := j.hKin (a, q) List.mem_cons_self
  have hpos : 1 ≤ e.cntv b1 a q := by
    rw [j.hC b1 a q hb1 hk.1, if_pos rfl, List.count_cons_self]
    exact Nat.le_add_left 1 _
  have f := decrStep_frame b1 a e q
  obtain ⟨qk, hslot⟩ := decrStep_slots j.qk hb1 a q
  exact ⟨j.pop hb1 f.1 f.2.1 f.2.2 qk (cntv_decrStep b1 a e q) hslot
    (Nat.le_trans (pot_decrStep hb1 (j.wf.ins_lt hb1 hk.1) hk.2 hpos) j.hpot), f⟩

/-! ### the keys of one erased pair -/

/-- the keys decremented by `decrBlock` -/
def decrKeys (L : LTS) (e : Eng) (b1 b2 : Nat) : List (Nat × Nat) :=
  ((e.ins b2).filter (fun a => (e.ins b1).contains a)).flatMap (fun a =>
    (e.block b2).flatMap (fun elem => (pre L a elem).map (fun p => (a, p))))

/-! ### counting the keys -/

/-- number of `a`-edges from `q` whose target satisfies `P` -/
def edgeCnt (L : LTS) (a q : Nat) (P : Nat → Bool) : Nat :=
  L.edges.countP (fun ed => ed.1 == q && ed.2.1 == a && P ed.2.2)

theorem countP_or {α : Type} (p p1 p2 : α → Bool) (l : List α) (h : ∀ x, x ∈ l → p x = (p1 x || p2 x))
    (hd : ∀ x, x ∈ l → ¬ (p1 x = true ∧ p2 x = true)) : l.countP p = l.countP p1 + l.countP p2 := by
  induction l with
  | nil => rfl
  | cons x l ih =>
    have ih' := ih (fun y hy => h y (List.mem_cons_of_mem _ hy)) (fun y hy => hd y (List.mem_cons_of_mem _ hy))
    have hdx := hd x List.mem_cons_self
    rw [List.countP_cons, List.countP_cons, List.countP_cons, ih', h x List.mem_cons_self]
    cases h1 : p1 x
    · rw [Bool.false_or, if_neg Bool.false_ne_true]
      omega
    · have h2 : p2 x = false := Bool.eq_false_iff.mpr fun h2 => hdx ⟨h1, h2⟩
      rw [h2, Bool.or_false, if_pos rfl, if_neg Bool.false_ne_true]
      omega

theorem edgeCnt_or (L : LTS) (a q : Nat) (P P1 P2 : Nat → Bool) (h : ∀ r, P r = (P1 r || P2 r))
    (hd : ∀ r, ¬ (P1 r = true ∧ P2 r = true)) : edgeCnt L a q P = edgeCnt L a q P1 + edgeCnt L a q P2 := by
  unfold edgeCnt
  apply countP_or
  · intro ed _
    rw [h]; cases (ed.1 == q && ed.2.1 == a) <;> simp
  · intro ed _ hc
    simp only [Bool.and_eq_true] at hc
    exact hd ed.2.2 ⟨hc.1.2, hc.2.2⟩

theorem count_pre (L : LTS) (a q elem : Nat) :
    ((pre L a elem).map (fun p => (a, p))).count (a, q) = edgeCnt L a q (fun r => r == elem) := by
  unfold pre edgeCnt
  rw [List.count_eq_countP, List.countP_map, List.countP_map, List.countP_filter]
  apply List.countP_congr
  intro ed _
  simp only [Function.comp, Bool.and_eq_true, beq_iff_eq, Prod.mk.injEq, true_and]
  constructor
  · rintro ⟨h1, h2, h3⟩; exact ⟨⟨h1, h2⟩, h3⟩
  · rintro ⟨⟨h1, h2⟩, h3⟩; exact ⟨h1, h2, h3⟩

theorem count_block (L : LTS) (a q : Nat) (blk : List Nat) (hb : blk.Nodup) :
    (blk.flatMap (fun elem => (pre L a elem).map (fun p => (a, p)))).count (a, q) =
      edgeCnt L a q (fun r => blk.contains r) := by
  induction blk with
  | nil =>
    simp only [List.flatMap_nil, List.count_nil, edgeCnt]
    symm
    rw [List.countP_eq_zero]
    intro ed _; simp
  | cons x blk ih =>
    have hnd := List.nodup_cons.mp hb
    rw [List.flatMap_cons, List.count_append, count_pre, ih hnd.2]
    symm
    apply edgeCnt_or
    · intro r
      simp only [List.contains_cons]
    · intro r hc
      simp only [beq_iff_eq, List.contains_iff_mem] at hc
      exact hnd.1 (hc.1 ▸ hc.2)

theorem count_labels (a q : Nat) (as : List Nat) (has : as.Nodup) (g : Nat → List (Nat × Nat))
    (hg : ∀ a' k, k ∈ g a' → k.1 = a') :
    (as.flatMap g).count (a, q) = if a ∈ as then (g a).count (a, q) else 0 := by
  induction as with
  | nil => simp
  | cons x as ih =>
    have hnd := List.nodup_cons.mp has
    rw [List.flatMap_cons, List.count_append, ih hnd.2]
    by_cases hax : a = x
    · subst hax
      simp [hnd.1]
    · have h0 : (g x).count (a, q) = 0 := by
        rw [List.count_eq_zero]
        intro hm
        exact hax (hg x _ hm)
      simp [hax, h0]

/-- how often a key is decremented: once for every edge into the erased block -/
theorem count_decrKeys {L : LTS} {e : Eng} (w : WF L e) {b1 b2 : Nat} (hb2 : b2 < e.part.length) (a q : Nat)
    (ha : a ∈ e.ins b1) :
    (decrKeys L e b1 b2).count (a, q) = edgeCnt L a q (fun r => (e.block b2).contains r) := by
  unfold decrKeys
  have hnd : (e.ins b2).Nodup := (w.hinset b2 hb2).1.1
  rw [count_labels a q _ (List.Pairwise.filter _ hnd)]
  · rw [count_block L a q _ (w.hnd b2)]
    split
    · rfl
    · rename_i hnot
      symm
      unfold edgeCnt
      rw [List.countP_eq_zero]
      intro ed hed hc
      simp only [Bool.and_eq_true, beq_iff_eq, List.contains_iff_mem] at hc
      apply hnot
      rw [List.mem_filter]
      refine ⟨(w.mem_ins hb2 a).mpr ⟨ed.2.2, hc.2, (hasIn_iff L a ed.2.2).mpr ⟨ed.1, ?_⟩⟩, by simpa using ha⟩
      obtain ⟨x, y, z⟩ := ed
      simp only at hc ⊢
      rw [← hc.1.2]; exact hed
  · intro a' k hk
    simp only [List.mem_flatMap, List.mem_map] at hk
    obtain ⟨_, _, _, _, h⟩ := hk
    rw [← h]

/-! ### erasing one pair of blocks -/

/-- `relation_.erase(col)` in row `b1` -/
def eraseRel (e : Eng) (b1 col : Nat) : Eng :=
  { e with rel := e.rel.set b1 ((e.row b1).filter (fun c => c != col)) }

theorem eraseRel_row {e : Eng} {b1 : Nat} (col : Nat) (hb1 : b1 < e.rel.length) (i : Nat) :
    (eraseRel e b1 col).row i = if i = b1 then (e.row b1).filter (fun c => c != col) else e.row i := by
  simp only [Eng.row, eraseRel, List.getD_eq_getElem?_getD, List.getElem?_set]
  by_cases h : i = b1
  · subst h; simp [hb1]
  · have : ¬ b1 = i := fun e => h e.symm
    simp [h, this]

theorem cntSpec_edgeCnt (L : LTS) (e : Eng) (i a q : Nat) :
    cntSpec L e i a q = edgeCnt L a q (fun r => (e.row i).contains (blockOf e.part r)) := rfl

/-- the specification of the counter of `b1` drops by the number of edges into the erased block -/
theorem cntSpec_erase {L : LTS} {e : Eng} (hL : LtsOK L) (w : WF L e) {b1 col : Nat} (hb1 : b1 < e.part.length)
    (hcol : col ∈ e.row b1) (a q : Nat) :
    cntSpec L e b1 a q = cntSpec L (eraseRel e b1 col) b1 a q +
      edgeCnt L a q (fun r => (e.block col).contains r) := by
  have hrow := eraseRel_row (e := e) col (by rw [w.hrel]; exact hb1) b1
  rw [if_pos rfl] at hrow
  rw [cntSpec_edgeCnt, cntSpec_edgeCnt, hrow]
  have hpart : (eraseRel e b1 col).part = e.part := rfl
  rw [hpart]
  have h2 : edgeCnt L a q (fun r => (e.block col).contains r) = edgeCnt L a q (fun r => blockOf e.part r == col) := by
    unfold edgeCnt
    apply List.countP_congr
    intro ed hed
    have hdst := (hL ed hed).2
    simp only [Bool.and_eq_true, beq_iff_eq, List.contains_iff_mem]
    constructor
    · rintro ⟨h1, h3⟩; exact ⟨h1, w.blockOf_eq h3⟩
    · rintro ⟨h1, h3⟩; exact ⟨h1, h3 ▸ (w.blockOf_mem hdst).2⟩
  rw [h2]
  apply edgeCnt_or
  · intro r
    by_cases hr : blockOf e.part r = col
    · rw [hr]; simp [hcol]
    · have : (blockOf e.part r == col) = false := by simpa using hr
      rw [this, Bool.or_false]
      simp only [List.contains_eq_mem, List.mem_filter, bne_iff_ne, ne_eq, hr, not_false_eq_true, and_true]
  · intro r hc
    simp only [List.contains_iff_mem, List.mem_filter, bne_iff_ne, ne_eq, beq_iff_eq] at hc
    exact hc.1.2 hc.2

theorem eraseRel_sub {e : Eng} {b1 : Nat} (col : Nat) (hb1 : b1 < e.rel.length) {i c : Nat}
    (h : c ∈ (eraseRel e b1 col).row i) : c ∈ e.row i := by
  rw [eraseRel_row col hb1] at h
  by_cases hi : i = b1
  · rw [if_pos hi] at h; rw [hi]; exact (List.mem_filter.mp h).1
  · rw [if_neg hi] at h; exact h

theorem WF.eraseRel {L : LTS} {e : Eng} (w : WF L e) {b1 col : Nat} (hb1 : b1 < e.part.length) (hne : col ≠ b1) :
    WF L (eraseRel e b1 col) := by
  have hb1r : b1 < e.rel.length := by rw [w.hrel]; exact hb1
  have hrow := eraseRel_row (e := e) col hb1r
  refine ⟨(List.length_set ..).trans w.hrel, w.hins, w.hdisj, w.hnd, w.hcov, w.hne,
    fun i c hc => w.hrow i c (eraseRel_sub col hb1r hc), fun i hi => ?_, w.hinset, fun i => ?_⟩
  · rw [hrow]
    by_cases h : i = b1
    · rw [if_pos h, ← h]
      exact List.mem_filter.mpr ⟨w.hrefl i hi, bne_iff_ne.mpr (fun hc => hne (by rw [← hc, h]))⟩
    · rw [if_neg h]; exact w.hrefl i hi
  · rw [hrow]
    by_cases h : i = b1
    · rw [if_pos h]; exact List.Pairwise.filter _ (w.hrownd b1)
    · rw [if_neg h]; exact w.hrownd i

theorem mem_decrKeys (L : LTS) (e : Eng) (b1 b2 a p : Nat) :
    (a, p) ∈ decrKeys L e b1 b2 ↔ a ∈ e.ins b2 ∧ a ∈ e.ins b1 ∧ ∃ elem, elem ∈ e.block b2 ∧ (p, a, elem) ∈ L.edges := by
  simp only [decrKeys, List.mem_flatMap, List.mem_map, List.mem_filter, List.contains_iff_mem, mem_pre,
    Prod.mk.injEq]
  constructor
  · rintro ⟨a', ⟨h1, h2⟩, elem, h3, p', h4, rfl, rfl⟩
    exact ⟨h1, h2, elem, h3, h4⟩
  · rintro ⟨h1, h2, elem, h3, h4⟩
    exact ⟨a, ⟨h1, h2⟩, elem, h3, p, h4, rfl, rfl⟩

/-- The pair `(b1, col)` is erased: the specification of the counters of `b1` drops by the edges into block `col`, and
these are exactly the decrements that `decrBlock` is going to execute. -/
theorem JInv.erase {L : LTS} {s1 e : Eng} {b1 col : Nat} (hL : LtsOK L) (j : JInv L B s1 b1 e [])
    (hb1 : b1 < e.part.length) (hcol : col ∈ e.row b1) (hne : col ≠ b1) :
    JInv L B s1 b1 (eraseRel e b1 col) (decrKeys L e b1 col) := by
  have w := j.wf
  have hb1r : b1 < e.rel.length := by rw [w.hrel]; exact hb1
  have hspec_other : ∀ i a q, i ≠ b1 → cntSpec L (eraseRel e b1 col) i a q = cntSpec L e i a q := by
    intro i a q hi
    rw [cntSpec_edgeCnt, cntSpec_edgeCnt, eraseRel_row col hb1r, if_neg hi]; rfl
  have hkeys : ∀ a q, a ∈ e.ins b1 →
      (decrKeys L e b1 col).count (a, q) = edgeCnt L a q (fun r => (e.block col).contains r) :=
    fun a q ha => count_decrKeys w (w.hrow b1 col hcol) a q ha
  refine ⟨w.eraseRel hb1 hne, ⟨j.qk.hnd, j.qk.hiff, j.qk.hlt⟩, fun i a q hi ha => ?_,
    fun i a q q' hi hq hed hu => j.hD i a q q' hi hq hed (eraseRel_sub col hb1r hu), j.hN,
    fun i a q hi ha h0 => ?_, fun a q hq => List.count_eq_zero.mpr fun hm => ?_, fun k hk => ?_, j.hmono, j.hpot⟩
  · show e.cntv i a q = _
    rw [j.hC i a q hi ha]
    by_cases hib : i = b1
    · rw [hib] at ha ⊢
      rw [if_pos rfl, if_pos rfl, hkeys a q ha, cntSpec_erase hL w hb1 hcol a q]; rfl
    · rw [if_neg hib, if_neg hib, hspec_other i a q hib]
  · by_cases hib : i = b1
    · rw [hib] at hi ha h0 ⊢
      by_cases hz : cntSpec L e b1 a q = 0
      · exact (j.spec_zero hi ha hz).imp_right Or.inl
      · -- the specification drops to zero by this erasure: the decrements are pending
        refine Or.inr (Or.inr ⟨rfl, ?_⟩)
        have hsp := cntSpec_erase hL w hb1 hcol a q
        rw [h0, Nat.zero_add] at hsp
        rw [hkeys a q ha, ← hsp]
        exact Nat.pos_of_ne_zero hz
    · rw [hspec_other i a q hib] at h0
      exact (j.spec_zero hi ha h0).imp_right Or.inl
  · -- a state on the slot has no edge into the row, in particular none into block `col`
    obtain ⟨_, _, elem, helem, hed⟩ := (mem_decrKeys L e b1 col a q).mp hm
    refine j.hD b1 a q elem hb1 hq hed ?_
    show blockOf e.part elem ∈ e.row b1
    rw [w.blockOf_eq helem]
    exact hcol
  · obtain ⟨a, p⟩ := k
    obtain ⟨_, ha, elem, _, hed⟩ := (mem_decrKeys L e b1 col a p).mp hk
    exact ⟨ha, (hL _ hed).1⟩

/-! ### the loops on (state, history) pairs

An instrumented engine (`Vata/LtsEngineCalls*.lean`) runs the same loops on pairs: every `decr` also writes a history.  The
loops are defined once for any history type `τ` and any emission `dem` per `decr`, and walked once (`prune_trace`), carrying
`JInv` and any predicate on (state, history) that a due `decr` keeps (`PruneOK`).  What the loops do to partition, insets and
rows needs no invariant (`pruneRowT_rel`, `pruneT_frame`).  The loops of `Vata/LtsEngine.lean` are the instance `τ = Unit`. -/

-- `(decrStepT dem i a et q).1` is `decrStep i a et.1 q` by projection; unfolding `decrStep` to compare the two costs a million
-- heartbeats per step, and nothing below looks inside it
attribute [local irreducible] decrStep

section pairs
variable {τ : Type} (dem : Nat → Nat → Eng → Nat → τ → τ)

/-- `decr(a, q)` on the counter of block `i`, and what it writes to the history -/
def decrStepT (i a : Nat) (et : Eng × τ) (q : Nat) : Eng × τ := (decrStep i a et.1 q, dem i a et.1 q et.2)

def decrAllT (b1 : Nat) (et : Eng × τ) (ks : List (Nat × Nat)) : Eng × τ :=
  ks.foldl (fun et k => decrStepT dem b1 k.1 et k.2) et

def decrBlockT (L : LTS) (et : Eng × τ) (b1 b2 : Nat) : Eng × τ :=
  (et.1.ins b2).foldl (fun (et : Eng × τ) a =>
    if (et.1.ins b1).contains a then
      (et.1.block b2).foldl (fun (et : Eng × τ) elem => (pre L a elem).foldl (decrStepT dem b1 a) et) et
    else et) et

def pruneColT (L : LTS) (mask : List Nat) (b1 : Nat) (et : Eng × τ) (col : Nat) : Eng × τ :=
  if mask.contains col then
    decrBlockT dem L ({ et.1 with rel := et.1.rel.set b1 ((et.1.row b1).filter (fun c => c != col)) }, et.2) b1 col
  else et

def pruneRowT (L : LTS) (mask : List Nat) (et : Eng × τ) (b1 : Nat) : Eng × τ :=
  (et.1.row b1).foldl (pruneColT dem L mask b1) et

/-- erasing the columns `cs` of row `b1` one after the other, each with its decrements -/
def eraseColsT (L : LTS) (b1 : Nat) (et : Eng × τ) (cs : List Nat) : Eng × τ :=
  cs.foldl (fun et col => decrBlockT dem L (eraseRel et.1 b1 col, et.2) b1 col) et

theorem decrBlockT_fst (L : LTS) (et : Eng × τ) (b1 b2 : Nat) : (decrBlockT dem L et b1 b2).1 = decrBlock L et.1 b1 b2 := by
  refine fst_foldl _ _ (fun s a => ?_) _ _
  split
  · exact fst_foldl _ _ (fun s' elem => fst_foldl _ _ (fun _ _ => rfl) (pre L a elem) s') _ s
  · rfl

theorem pruneColT_fst (L : LTS) (mask : List Nat) (b1 : Nat) (et : Eng × τ) (col : Nat) :
    (pruneColT dem L mask b1 et col).1 = pruneCol L mask b1 et.1 col := by
  unfold pruneColT pruneCol
  split
  · exact decrBlockT_fst dem L _ b1 col
  · rfl

theorem pruneRowT_fst (L : LTS) (mask : List Nat) (et : Eng × τ) (b1 : Nat) :
    (pruneRowT dem L mask et b1).1 = pruneRow L mask et.1 b1 :=
  fst_foldl _ _ (pruneColT_fst dem L mask b1) _ _

/-- forgetting the history gives the loops of `processRemove` -/
theorem pruneT_fst (L : LTS) (mask : List Nat) (pl : List Nat) (et : Eng × τ) :
    (pl.foldl (pruneRowT dem L mask) et).1 = pl.foldl (pruneRow L mask) et.1 :=
  fst_foldl _ _ (pruneRowT_fst dem L mask) _ _

theorem decrAllT_frame (b1 : Nat) (ks : List (Nat × Nat)) (et : Eng × τ) :
    (decrAllT dem b1 et ks).1.part = et.1.part ∧ (decrAllT dem b1 et ks).1.rel = et.1.rel ∧
      (decrAllT dem b1 et ks).1.inset = et.1.inset :=
  List.foldlRecOn (motive := fun (et' : Eng × τ) => et'.1.part = et.1.part ∧ et'.1.rel = et.1.rel ∧ et'.1.inset = et.1.inset)
    ks _ ⟨rfl, rfl, rfl⟩ fun et' h k _ =>
      have g := decrStep_frame b1 k.1 et'.1 k.2
      ⟨g.1.trans h.1, g.2.1.trans h.2.1, g.2.2.trans h.2.2⟩

theorem decrAllT_append (b1 : Nat) (et : Eng × τ) (k1 k2 : List (Nat × Nat)) :
    decrAllT dem b1 et (k1 ++ k2) = decrAllT dem b1 (decrAllT dem b1 et k1) k2 :=
  List.foldl_append ..

theorem decr_blockT (L : LTS) (b1 a : Nat) (blk : List Nat) (et : Eng × τ) :
    blk.foldl (fun (et : Eng × τ) elem => (pre L a elem).foldl (decrStepT dem b1 a) et) et =
      decrAllT dem b1 et (blk.flatMap (fun elem => (pre L a elem).map (fun p => (a, p)))) := by
  simp only [decrAllT, List.foldl_flatMap, List.foldl_map]

theorem decrBlockT_eq_aux (L : LTS) (e0 : Eng) (b1 b2 : Nat) (as : List Nat) (et : Eng × τ) (hp : et.1.part = e0.part)
    (hi : et.1.inset = e0.inset) :
    as.foldl (fun (et : Eng × τ) a =>
      if (et.1.ins b1).contains a then
        (et.1.block b2).foldl (fun (et : Eng × τ) elem => (pre L a elem).foldl (decrStepT dem b1 a) et) et
      else et) et =
    decrAllT dem b1 et ((as.filter (fun a => (e0.ins b1).contains a)).flatMap (fun a =>
      (e0.block b2).flatMap (fun elem => (pre L a elem).map (fun p => (a, p))))) := by
  induction as generalizing et with
  | nil => rfl
  | cons a as ih =>
    have hins : et.1.ins b1 = e0.ins b1 := Eng.ins_congr hi b1
    have hblk : et.1.block b2 = e0.block b2 := by simp only [Eng.block, hp]
    simp only [List.foldl_cons, List.filter_cons, hins, hblk]
    by_cases hc : (e0.ins b1).contains a = true
    · rw [if_pos hc, if_pos hc, List.flatMap_cons, decrAllT_append, decr_blockT]
      obtain ⟨f1, _, f3⟩ := decrAllT_frame dem b1
        ((e0.block b2).flatMap (fun elem => (pre L a elem).map (fun p => (a, p)))) et
      exact ih _ (f1.trans hp) (f3.trans hi)
    · rw [if_neg hc, if_neg hc]
      exact ih et hp hi

/-- the three nested loops for one erased pair execute the decrements of one list of keys -/
theorem decrBlockT_eq (L : LTS) (et : Eng × τ) (b1 b2 : Nat) :
    decrBlockT dem L et b1 b2 = decrAllT dem b1 et (decrKeys L et.1 b1 b2) :=
  decrBlockT_eq_aux dem L et.1 b1 b2 (et.1.ins b2) et rfl rfl

/-- `pruneRow` erases the marked columns of the row -/
theorem pruneRowT_eq (L : LTS) (mask : List Nat) (et : Eng × τ) (b1 : Nat) :
    pruneRowT dem L mask et b1 = eraseColsT dem L b1 et ((et.1.row b1).filter (fun c => mask.contains c)) :=
  List.foldl_filter.symm

theorem decrBlockT_frame (L : LTS) (et : Eng × τ) (b1 b2 : Nat) :
    (decrBlockT dem L et b1 b2).1.part = et.1.part ∧ (decrBlockT dem L et b1 b2).1.rel = et.1.rel ∧
      (decrBlockT dem L et b1 b2).1.inset = et.1.inset :=
  decrBlockT_eq dem L et b1 b2 ▸ decrAllT_frame dem b1 _ et

/-- the loops leave partition and insets alone, whatever the state -/
theorem pruneRowT_frame (L : LTS) (mask : List Nat) (et : Eng × τ) (b1 : Nat) :
    (pruneRowT dem L mask et b1).1.part = et.1.part ∧ (pruneRowT dem L mask et b1).1.inset = et.1.inset :=
  List.foldlRecOn (motive := fun (et' : Eng × τ) => et'.1.part = et.1.part ∧ et'.1.inset = et.1.inset) _ _ ⟨rfl, rfl⟩
    fun et' h col _ => by
      by_cases hm : mask.contains col = true
      · have f := decrBlockT_frame dem L (eraseRel et'.1 b1 col, et'.2) b1 col
        rw [pruneColT, if_pos hm]
        exact ⟨f.1.trans h.1, f.2.2.trans h.2⟩
      · rw [pruneColT, if_neg hm]; exact h

theorem set_row_self {e : Eng} {b1 : Nat} (hb : b1 < e.rel.length) : e.rel.set b1 (e.row b1) = e.rel := by
  rw [Eng.row, List.getD_eq_getElem?_getD, List.getElem?_eq_getElem hb]
  exact List.set_getElem_self hb

/-- the relation after the columns `cs` of row `b1` were erased, whatever the state -/
theorem eraseColsT_rel (L : LTS) (b1 : Nat) : ∀ (cs : List Nat) (et : Eng × τ), b1 < et.1.rel.length →
    (eraseColsT dem L b1 et cs).1.rel = et.1.rel.set b1 ((et.1.row b1).filter (fun c => !cs.contains c)) := by
  intro cs
  induction cs with
  | nil =>
    intro et hb
    have h : (et.1.row b1).filter (fun c => !([] : List Nat).contains c) = et.1.row b1 :=
      List.filter_eq_self.mpr fun _ _ => rfl
    rw [h]
    exact (set_row_self hb).symm
  | cons c cs ih =>
    intro et hb
    have hrel : (decrBlockT dem L (eraseRel et.1 b1 c, et.2) b1 c).1.rel =
        et.1.rel.set b1 ((et.1.row b1).filter (fun x => x != c)) := (decrBlockT_frame dem L _ b1 c).2.1
    have hrow : (decrBlockT dem L (eraseRel et.1 b1 c, et.2) b1 c).1.row b1 = (et.1.row b1).filter (fun x => x != c) := by
      rw [Eng.row, hrel, getD_set_of_lt [] hb, if_pos rfl]
    rw [eraseColsT, List.foldl_cons, ← eraseColsT, ih _ (by rw [hrel, List.length_set]; exact hb), hrel, hrow,
      List.set_set, List.filter_filter]
    congr 1
    refine List.filter_congr fun x _ => ?_
    rw [List.contains_cons, Bool.not_or, Bool.and_comm]; rfl

/-- `for (col : row) if (mask[col]) relation_.erase(col)` (with the decrements in between): row `b1` loses its marked columns -/
theorem pruneRowT_rel (L : LTS) (mask : List Nat) (et : Eng × τ) (b1 : Nat) (hb : b1 < et.1.rel.length) :
    (pruneRowT dem L mask et b1).1.rel = et.1.rel.set b1 ((et.1.row b1).filter (fun c => !mask.contains c)) := by
  rw [pruneRowT_eq, eraseColsT_rel dem L b1 _ et hb]
  congr 1
  refine List.filter_congr fun x hx => ?_
  rw [Bool.eq_iff_iff, Bool.not_eq_true', Bool.not_eq_true', ← Bool.not_eq_true, ← Bool.not_eq_true,
    List.contains_iff_mem, List.contains_iff_mem, List.mem_filter, List.contains_iff_mem]
  exact not_congr ⟨And.right, fun h => ⟨hx, h⟩⟩

/-- the loops over the rows `pl`: partition and insets stay, the rows in `pl` lose their marked columns -/
theorem pruneT_frame (L : LTS) (mask : List Nat) : ∀ (pl : List Nat) (et : Eng × τ), (∀ b, b ∈ pl → b < et.1.rel.length) →
    (pl.foldl (pruneRowT dem L mask) et).1.part = et.1.part ∧ (pl.foldl (pruneRowT dem L mask) et).1.inset = et.1.inset ∧
      ∀ i, (pl.foldl (pruneRowT dem L mask) et).1.row i =
        if i ∈ pl then (et.1.row i).filter (fun c => !mask.contains c) else et.1.row i := by
  intro pl
  induction pl with
  | nil => exact fun et _ => ⟨rfl, rfl, fun i => (if_neg List.not_mem_nil).symm⟩
  | cons b pl ih =>
    intro et hpl
    have hb := hpl b List.mem_cons_self
    have r2 : ∀ i, (pruneRowT dem L mask et b).1.row i =
        if i = b then (et.1.row b).filter (fun c => !mask.contains c) else et.1.row i := fun i => by
      rw [Eng.row, pruneRowT_rel dem L mask et b hb, getD_set_of_lt [] hb]; rfl
    obtain ⟨p2, i2⟩ := pruneRowT_frame dem L mask et b
    obtain ⟨p3, i3, r3⟩ := ih (pruneRowT dem L mask et b) (fun c hc => by
      rw [pruneRowT_rel dem L mask et b hb, List.length_set]; exact hpl c (List.mem_cons_of_mem _ hc))
    refine ⟨p3.trans p2, i3.trans i2, fun i => ?_⟩
    rw [List.foldl_cons, r3 i, r2 i]
    by_cases hib : i = b
    · -- a row that occurs twice is filtered twice
      subst hib
      rw [if_pos rfl, if_pos (List.mem_cons_self (a := i) (l := pl))]
      by_cases hpl' : i ∈ pl
      · rw [if_pos hpl', List.filter_filter]
        exact List.filter_congr fun x _ => Bool.and_self _
      · rw [if_neg hpl']
    · rw [if_neg hib]
      by_cases hpl' : i ∈ pl
      · rw [if_pos hpl', if_pos (List.mem_cons_of_mem _ hpl')]
      · rw [if_neg hpl', if_neg (fun h => (List.mem_cons.mp h).elim hib hpl')]

end pairs

section walk
variable {τ : Type} {dem : Nat → Nat → Eng → Nat → τ → τ} {L : LTS} {s1 : Eng} {G : Eng → τ → Prop}

/-- what a predicate on (state, history) has to satisfy to be carried through the pruning loops: erasing a pair of the relation
keeps it, and so does every `decr` that `JInv` says is due -/
structure PruneOK (L : LTS) (B : Nat) (s1 : Eng) (dem : Nat → Nat → Eng → Nat → τ → τ) (G : Eng → τ → Prop) : Prop where
  erase : ∀ e t b1 col, G e t → G (eraseRel e b1 col) t
  decr : ∀ e t b1 a q ks, b1 < e.part.length → JInv L B s1 b1 e ((a, q) :: ks) → hasOut L a q = true → G e t →
    G (decrStep b1 a e q) (dem b1 a e q t)

theorem decrAllT_spec (ok : PruneOK L B s1 dem G) {b1 : Nat} : ∀ (ks : List (Nat × Nat)) (et : Eng × τ),
    b1 < et.1.part.length → JInv L B s1 b1 et.1 ks → (∀ k, k ∈ ks → hasOut L k.1 k.2 = true) → G et.1 et.2 →
    JInv L B s1 b1 (decrAllT dem b1 et ks).1 [] ∧ G (decrAllT dem b1 et ks).1 (decrAllT dem b1 et ks).2 := by
  intro ks
  induction ks with
  | nil => exact fun _ _ j _ g => ⟨j, g⟩
  | cons k ks ih =>
    obtain ⟨a, q⟩ := k
    intro et hb1 j hk g
    obtain ⟨j', h1, _, _⟩ := decrStep_spec hb1 j
    exact ih (decrStepT dem b1 a et q) (h1 ▸ hb1) j' (fun k' hk' => hk k' (List.mem_cons_of_mem _ hk'))
      (ok.decr et.1 et.2 b1 a q ks hb1 j (hk (a, q) List.mem_cons_self) g)

theorem eraseColsT_spec (ok : PruneOK L B s1 dem G) (hL : LtsOK L) {b1 : Nat} :
    ∀ (cs : List Nat) (et : Eng × τ), cs.Nodup → (∀ c, c ∈ cs → c ∈ et.1.row b1 ∧ c ≠ b1) → JInv L B s1 b1 et.1 [] →
      b1 < et.1.part.length → G et.1 et.2 →
      JInv L B s1 b1 (eraseColsT dem L b1 et cs).1 [] ∧ G (eraseColsT dem L b1 et cs).1 (eraseColsT dem L b1 et cs).2 := by
  intro cs
  induction cs with
  | nil => exact fun et _ _ j _ g => ⟨j, g⟩
  | cons c cs ih =>
    intro et hnd hin j hb1 g
    have hnd' := List.nodup_cons.mp hnd
    -- the pair `(b1, c)` is erased and its decrements are executed
    obtain ⟨j2, g2⟩ := decrAllT_spec ok (decrKeys L (eraseRel et.1 b1 c) b1 c) (eraseRel et.1 b1 c, et.2) hb1
      (j.erase hL hb1 (hin c List.mem_cons_self).1 (hin c List.mem_cons_self).2)
      (fun k hk => by
        obtain ⟨_, _, elem, _, hed⟩ := (mem_decrKeys L _ b1 c k.1 k.2).mp hk
        exact (hasOut_iff L k.1 k.2).mpr ⟨elem, hed⟩)
      (ok.erase _ _ b1 c g)
    rw [← decrBlockT_eq] at j2 g2
    obtain ⟨f1, f2, _⟩ := decrBlockT_frame dem L (eraseRel et.1 b1 c, et.2) b1 c
    exact ih _ hnd'.2 (fun x hx => by
      have := hin x (List.mem_cons_of_mem _ hx)
      rw [Eng.row, f2, ← Eng.row, eraseRel_row c (by rw [j.wf.hrel]; exact hb1), if_pos rfl]
      exact ⟨List.mem_filter.mpr ⟨this.1, bne_iff_ne.mpr (fun h => hnd'.1 (h ▸ hx))⟩, this.2⟩) j2
      (by rw [f1]; exact hb1) g2

theorem pruneRowT_spec (ok : PruneOK L B s1 dem G) (hL : LtsOK L) (mask : List Nat) {b1 : Nat} {et : Eng × τ}
    (j : JInv L B s1 b1 et.1 []) (hb1 : b1 < et.1.part.length) (hnm : b1 ∉ mask) (g : G et.1 et.2) :
    JInv L B s1 b1 (pruneRowT dem L mask et b1).1 [] ∧ G (pruneRowT dem L mask et b1).1 (pruneRowT dem L mask et b1).2 := by
  rw [pruneRowT_eq]
  exact eraseColsT_spec ok hL _ et (List.Pairwise.filter _ (j.wf.hrownd b1))
    (fun c hc => ⟨(List.mem_filter.mp hc).1, fun h => hnm (h ▸ List.contains_iff_mem.mp (List.mem_filter.mp hc).2)⟩) j hb1 g

/-- The pruning loops of `processRemove` with a history, for the rows `pl` (none of them marked). -/
theorem prune_trace (ok : PruneOK L B s1 dem G) (hL : LtsOK L) (mask : List Nat) :
    ∀ (pl : List Nat) (et : Eng × τ), (∀ b, b ∈ pl → b < et.1.part.length ∧ b ∉ mask) → JInv L B s1 0 et.1 [] →
      G et.1 et.2 →
      JInv L B s1 0 (pl.foldl (pruneRowT dem L mask) et).1 [] ∧
        G (pl.foldl (pruneRowT dem L mask) et).1 (pl.foldl (pruneRowT dem L mask) et).2 := by
  intro pl
  induction pl with
  | nil => exact fun et _ j g => ⟨j, g⟩
  | cons b pl ih =>
    intro et hpl j g
    obtain ⟨j2, g2⟩ := pruneRowT_spec ok hL mask (j.change b) (hpl b List.mem_cons_self).1 (hpl b List.mem_cons_self).2 g
    exact ih (pruneRowT dem L mask et b)
      (fun c hc => by rw [(pruneRowT_frame dem L mask et b).1]; exact hpl c (List.mem_cons_of_mem _ hc)) (j2.change 0) g2

end walk

/-! ### the loops of `processRemove`: the empty history -/

/-- nothing to keep: the instance that gives the statements about the plain loops -/
theorem pruneOK_unit (L : LTS) (s1 : Eng) : PruneOK L B s1 (fun _ _ _ _ (t : Unit) => t) (fun _ _ => True) :=
  ⟨fun _ _ _ _ _ => trivial, fun _ _ _ _ _ _ _ _ _ _ => trivial⟩

theorem prunePhase_spec {L : LTS} {s1 : Eng} (mask : List Nat) (hL : LtsOK L) :
    ∀ (pl : List Nat) (e : Eng), (∀ b, b ∈ pl → b < e.part.length ∧ b ∉ mask) → JInv L B s1 0 e [] →
      JInv L B s1 0 (pl.foldl (pruneRow L mask) e) [] ∧ (pl.foldl (pruneRow L mask) e).part = e.part ∧
      (pl.foldl (pruneRow L mask) e).inset = e.inset ∧
      ∀ i, (pl.foldl (pruneRow L mask) e).row i =
        if i ∈ pl then (e.row i).filter (fun c => !mask.contains c) else e.row i := by
  intro pl e hpl j
  have h1 := (prune_trace (pruneOK_unit L s1) hL mask pl (e, ()) hpl j trivial).1
  have h2 := pruneT_frame (fun _ _ _ _ (t : Unit) => t) L mask pl (e, ()) (fun b hb => by rw [j.wf.hrel]; exact (hpl b hb).1)
  rw [pruneT_fst] at h1 h2
  exact ⟨h1, h2⟩

theorem pruneRow_frame (L : LTS) (mask : List Nat) (e : Eng) (b1 : Nat) :
    (pruneRow L mask e b1).part = e.part ∧ (pruneRow L mask e b1).inset = e.inset := by
  have h := pruneRowT_frame (fun _ _ _ _ (t : Unit) => t) L mask (e, ()) b1
  rwa [pruneRowT_fst] at h

end Vata.LE
