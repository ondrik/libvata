import Vata.Proofs.LtsEngineCallsRun
import Vata.Proofs.LtsContainer
import Vata.Proofs.SmartSetFresh
/-!
# The instrumented LTS engine: the `SmartSet` calls of `ExplicitLTS::buildDelta1` are inside the discipline, for every LTS

`deltaOK_of_ltsOKB : ltsOKB L = true → DeltaOK L`.

```
delta1.resize(this->data_.size(), Util::SmartSet(this->states_));
for (a …) for (q = 0; q < data_[a].first.size(); ++q) delta1[a].init(q, delta1[a].count(q) + data_[a].first[q].size());
```
Every `q` is visited once and in increasing order, so `init(q, c)` never meets a member: with `c > 0` it appends `(q, c)` behind an
intact `last_`; with `c = 0` it erases nothing (and the last key, being smaller than `q`, is not `q`: `last_` stays intact).
The set `delta1[a]` ends as the states `< data_[a].first.size()` with a positive number of `a`-successors, which is `dItems L a`
(`data_[a].first.size()` = `srcBound L a` is at most `L.n` and above every source of an `a`-edge).
-/
namespace Vata.LEC
open Vata.L Vata.LE Vata.LU


theorem srcBound_le {L : LTS} (hL : LtsOK L) (a : Nat) : srcBound L a ≤ L.n := by
  refine List.foldlRecOn L.edges _ (motive := (· ≤ L.n)) (Nat.zero_le _) (fun m hm e he => ?_)
  by_cases h : (e.2.1 == a) = true
  · rw [if_pos h]; exact Nat.max_le.2 ⟨hm, (hL e he).1⟩
  · rw [if_neg h]; exact hm

theorem srcBound_mono (a : Nat) (l : List (Nat × Nat × Nat)) (m : Nat) :
    m ≤ l.foldl (fun m e => if e.2.1 == a then max m (e.1 + 1) else m) m := by
  refine List.foldlRecOn l _ (motive := (m ≤ ·)) (Nat.le_refl m) (fun x hx e _ => ?_)
  by_cases h : (e.2.1 == a) = true
  · rw [if_pos h]; exact Nat.le_trans hx (Nat.le_max_left _ _)
  · rw [if_neg h]; exact hx

theorem lt_srcBound {L : LTS} {q a r : Nat} (h : (q, a, r) ∈ L.edges) : q < srcBound L a := by
  obtain ⟨l1, l2, he⟩ := List.append_of_mem h
  unfold srcBound
  rw [he, List.foldl_append, List.foldl_cons]
  refine Nat.lt_of_lt_of_le ?_ (srcBound_mono a l2 _)
  rw [if_pos (beq_self_eq_true a)]
  exact Nat.lt_of_lt_of_le (Nat.lt_succ_self q) (Nat.le_max_right _ _)

theorem filter_range_add (p : Nat → Bool) (m : Nat) : ∀ k, (∀ q, m ≤ q → q < m + k → p q = false) →
    (List.range (m + k)).filter p = (List.range m).filter p := by
  intro k
  induction k with
  | zero =>
    intro _
    exact rfl
  | succ k ih =>
    intro h
    rw [← Nat.add_assoc, List.range_succ, List.filter_append, ih (fun q h1 h2 => h q h1 (by omega))]
    simp [h (m + k) (by omega) (by omega)]

theorem dBuilt_eq {L : LTS} (hL : LtsOK L) (a : Nat) :
    dBuilt (fun q => (post L a q).length) (srcBound L a) = dItems L a := by
  unfold dBuilt dItems delta1
  have hle := srcBound_le hL a
  have e : L.n = srcBound L a + (L.n - srcBound L a) := by omega
  rw [e, filter_range_add]
  · congr 1
    apply List.filter_congr
    intro q _
    exact post_pos_iff L a q
  · intro q h1 _
    apply Bool.eq_false_iff.2
    intro hq
    obtain ⟨r, hr⟩ := (hasOut_iff L a q).1 hq
    have := lt_srcBound hr
    omega


theorem inits_ok (o R : Nat) (f : Nat → Nat) : ∀ (m : Nat) (aw : SS.AWorld), m ≤ R → aw[o]? = some ⟨[], R, false⟩ →
    SS.okAll aw ((List.range m).map (fun q => SS.Op.init o q (f q))) = true ∧
      SS.aRun aw ((List.range m).map (fun q => SS.Op.init o q (f q))) = aw.set o ⟨dBuilt f m, R, false⟩ := by
  intro m
  induction m with
  | zero =>
    intro aw _ h
    exact ⟨rfl, (set_of_getElem? h).symm⟩
  | succ m ih =>
    intro aw hm h
    obtain ⟨h1, h2⟩ := ih aw (by omega) h
    have hlo := lt_of_getElem? h
    have hget : (aw.set o ⟨dBuilt f m, R, false⟩)[o]? = some ⟨dBuilt f m, R, false⟩ := List.getElem?_set_self hlo
    have hfresh : ∀ kc, kc ∈ dBuilt f m → kc.1 ≠ m := fun kc hkc => Nat.ne_of_lt (dBuilt_key_lt hkc)
    have hok : SS.ok (aw.set o ⟨dBuilt f m, R, false⟩) (SS.Op.init o m (f m)) = true := by
      simp only [SS.ok, hget, Bool.not_false, Bool.or_true, Bool.and_true, decide_eq_true_eq]
      omega
    have hst : SS.aStep (aw.set o ⟨dBuilt f m, R, false⟩) (SS.Op.init o m (f m)) = aw.set o ⟨dBuilt f (m + 1), R, false⟩ := by
      simp only [SS.aStep, hget, dBuilt_succ]
      by_cases hc : 0 < f m
      · have hc' : f m > 0 := hc
        rw [if_pos hc', if_pos hc, aSet_fresh _ _ _ hfresh, List.set_set]
      · have hc' : ¬ f m > 0 := hc
        rw [if_neg hc', if_neg hc, aErase_fresh _ _ hfresh, List.set_set]
        cases hl : (dBuilt f m).getLast? with
        | none => rfl
        | some bc =>
          obtain ⟨b, c⟩ := bc
          have hb : (b == m) = false := by simpa using hfresh (b, c) (List.mem_of_getLast? hl)
          simp only [hb]; rfl
    rw [List.range_succ, List.map_append, okAll_append, aRun_append, h1, h2]
    refine ⟨?_, ?_⟩
    · simp only [List.map_cons, List.map_nil, SS.okAll, hok, Bool.and_self]
    · simp only [List.map_cons, List.map_nil, SS.aRun, hst]


theorem copies_ok (R : Nat) : ∀ (k : Nat) (aw : SS.AWorld), aw[0]? = some ⟨[], R, false⟩ →
    SS.okAll aw ((List.range k).map (fun _ => SS.Op.copy 0)) = true ∧
      SS.aRun aw ((List.range k).map (fun _ => SS.Op.copy 0)) = aw ++ List.replicate k ⟨[], R, false⟩ := by
  intro k
  induction k with
  | zero =>
    intro aw _
    exact ⟨rfl, by simp [SS.aRun]⟩
  | succ k ih =>
    intro aw h
    obtain ⟨h1, h2⟩ := ih aw h
    have h0 : (aw ++ List.replicate k (⟨[], R, false⟩ : SS.A))[0]? = some ⟨[], R, false⟩ := by
      rw [List.getElem?_append_left (lt_of_getElem? h)]; exact h
    rw [List.range_succ, List.map_append, okAll_append, aRun_append, h1, h2]
    refine ⟨?_, ?_⟩
    · have := lt_of_getElem? h
      simp [SS.okAll, SS.ok]; omega
    · simp only [List.map_cons, List.map_nil, SS.aRun, SS.aStep, h0, List.append_assoc]
      rw [List.replicate_succ']


/-- the world while `buildDelta1` fills the sets: `delta1[a]` is complete for `a < k` -/
def dWorld (L : LTS) (k : Nat) : SS.AWorld :=
  ⟨[], L.n, false⟩ :: (List.range (labels L)).map (fun a => if a < k then ⟨dItems L a, L.n, false⟩ else ⟨[], L.n, false⟩)

theorem dWorld_get (L : LTS) (k : Nat) {a : Nat} (ha : a < labels L) :
    (dWorld L k)[a + 1]? = some (if a < k then ⟨dItems L a, L.n, false⟩ else ⟨[], L.n, false⟩) := by
  simp [dWorld, ha]

theorem dWorld_step (L : LTS) (k : Nat) : (dWorld L k).set (k + 1) ⟨dItems L k, L.n, false⟩ = dWorld L (k + 1) := by
  unfold dWorld
  rw [List.set_cons_succ]
  exact congrArg _ (LC.map_range_set (labels L) k (fun a => (⟨dItems L a, L.n, false⟩ : SS.A)) (fun _ => ⟨[], L.n, false⟩))

theorem labels_loop {L : LTS} (hL : LtsOK L) : ∀ k, k ≤ labels L →
    SS.okAll (dWorld L 0) ((List.range k).flatMap (fun a =>
        (List.range (srcBound L a)).map (fun q => SS.Op.init (a + 1) q (post L a q).length))) = true ∧
      SS.aRun (dWorld L 0) ((List.range k).flatMap (fun a =>
        (List.range (srcBound L a)).map (fun q => SS.Op.init (a + 1) q (post L a q).length))) = dWorld L k := by
  intro k
  induction k with
  | zero =>
    intro _
    exact ⟨rfl, rfl⟩
  | succ k ih =>
    intro hk
    obtain ⟨h1, h2⟩ := ih (by omega)
    have hget : (dWorld L k)[k + 1]? = some ⟨[], L.n, false⟩ := by
      rw [dWorld_get L k (by omega), if_neg (Nat.lt_irrefl k)]
    obtain ⟨g1, g2⟩ := inits_ok (k + 1) L.n (fun q => (post L k q).length) (srcBound L k) (dWorld L k) (srcBound_le hL k) hget
    rw [dBuilt_eq hL k, dWorld_step L] at g2
    rw [List.range_succ, List.flatMap_append, okAll_append, aRun_append, h1, h2]
    simp only [List.flatMap_cons, List.flatMap_nil, List.append_nil, g1, g2, Bool.and_self, and_self]

theorem dWorld_zero (L : LTS) : dWorld L 0 = [⟨[], L.n, false⟩] ++ List.replicate (labels L) ⟨[], L.n, false⟩ := by
  unfold dWorld
  simp only [Nat.not_lt_zero, if_false, List.map_const', List.length_range]
  rfl

theorem dWorld_full (L : LTS) : dWorld L (labels L) = aDelta L := by
  unfold dWorld aDelta
  congr 1
  apply List.map_congr_left
  intro a ha
  rw [if_pos (List.mem_range.1 ha)]

/-- **`buildDelta1` is inside the `SmartSet` discipline and builds the sets `delta1[a]`, for every LTS whose edges are in
range** -/
theorem deltaOK_of_LtsOK {L : LTS} (hL : LtsOK L) : DeltaOK L := by
  obtain ⟨c1, c2⟩ := copies_ok L.n (labels L) [⟨[], L.n, false⟩] rfl
  obtain ⟨l1, l2⟩ := labels_loop hL (labels L) (Nat.le_refl _)
  rw [← dWorld_zero] at c2
  unfold DeltaOK delta1T
  refine ⟨?_, ?_⟩
  · show (SS.ok [] (SS.Op.new L.n) && SS.okAll [SS.aMk L.n] _) = true
    rw [okAll_append]
    show (true && (SS.okAll [⟨[], L.n, false⟩] _ && SS.okAll (SS.aRun [⟨[], L.n, false⟩] _) _)) = true
    rw [c1, c2, l1]; rfl
  · show SS.aRun [SS.aMk L.n] _ = _
    rw [aRun_append]
    show SS.aRun (SS.aRun [⟨[], L.n, false⟩] _) _ = _
    rw [c2, l2, dWorld_full]

theorem deltaOK_of_ltsOKB {L : LTS} (h : ltsOKB L = true) : DeltaOK L := deltaOK_of_LtsOK (ltsOK_of_B h)

end Vata.LEC
