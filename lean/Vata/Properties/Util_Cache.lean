import Vata.Proofs.CacheModel
/-!
# Utility classes `Util::Cache<T, Deleter>`, `Util::CachedBinaryOp<T1, T2, V>` and `expl_bu_index.hh` (support C01, C07, C09)

> Every inclusion algorithm on explicit tree automata keeps its macro-states (sets of states) INTERNED in a `Cache<StateSet>`:
> a macro-state is a `shared_ptr` to the one object with that value, antichains and work-lists hold such pointers, and the
> comparison `lte` of two macro-states is memoised in a `CachedBinaryOp` keyed by the two RAW POINTERS.  The models of the
> algorithms (`Vata/InclUp.lean`, `Vata/InclDown.lean`, `Vata/InclUpSim.lean`) treat a macro-state as a value and the comparison as
> a pure function.  This file states what makes that reading of the real classes legitimate – in particular under ADDRESS
> REUSE: a memo entry keyed by a pointer must die with the object, otherwise a new object allocated at the same address
> inherits a stale answer.  The same `Cache` (as `TupleCache`) interns the state tuples of EVERY explicit tree automaton: the
> tuple set of a rule cluster is a `std::set` of POINTERS, which is a set of tuples only because of interning.

## How the statement is read into the model

* **Specification (L0).**  Objects are values; a handle denotes the value it points to; a memoised call denotes the value of the
  pure function (`Cfg.F`, `Cfg.G`) on the denoted values; the index denotes the relation "rule `r` has state `q` at position `i`".
* **Model of the code (L2).**  `Vata/CacheModel.lean`: `Cache::store_` as value ↦ (address, `use_count`), `shared_ptr` variables and the
  temporary of the running statement, `DeleteElementF` (user deleter, then `store_.erase`), the three containers of
  `CachedBinaryOp` with `lookup` / `invalidateFirst` / `invalidateSecond` / `clear` loop by loop, the deleter wiring of
  `tree_incl_down.hh` / `explicit_tree_incl_down.cc` / `explicit_tree_incl_up.cc` (`Wiring.lib`), and two wrong wirings.  The
  ALLOCATOR is a parameter of every `lookup` step: any address that no live object has, in particular the address of a dead object.
  `BU.bottomUpIndex`, `BU.bottomUpIndex2`: the loops of `expl_bu_index.hh` on vectors with `resize`.
* **Correspondence (L3).**  kind `cacheh` (`harness/ops/op_cacheh.inc`, `Driver/CacheChk.lean`, `tools/gen_cacheh.py`): histories on the real
  classes with `T = std::set<size_t>` / `OrdVector<size_t>`; the harness prints a number per distinct address, so address reuse
  by the real allocator is OBSERVED and replayed by the model; after every step every container is read back.
-/
namespace Vata.Props
open Vata.CM

/-! ### the histories of the theorems exist -/

/-- a valid history is one whose every statement is inside the contract; its end state is reachable -/
theorem Util_Cache_reach_of_run {α : Type} [DecidableEq α] {c : Cfg α} {n : Nat} {ops : List (Op α)} {s : Sys α} {as : List Ans}
    (h : CM.run c (Sys.init α n) ops = some (s, as)) : Reach c s :=
  run_reach (Reach.init n) h

/-- non-vacuity of everything below: the history with address reuse of theorem 4 is a valid history for each wiring -/
example : (CM.run (setCfg .lib) (Sys.init (List Nat) 2) staleHistory).isSome = true ∧
    (CM.run (setCfg .firstTwice) (Sys.init (List Nat) 2) staleHistory).isSome = true := by decide

/-! ### (1) interning -/

/-- **Interning.**  In every reachable state (any history of `lookup` / `find` / handle copy / handle release / memoised calls,
    any allocator, any wiring of the deleter): two non-null handles are pointer-equal iff the objects they point to have equal
    values; each points to a live object whose `use_count` is the number of handles that point to it. -/
theorem Util_Cache_interning {α : Type} [DecidableEq α] {c : Cfg α} {s : Sys α} (h : Reach c s) {i j a b : Nat}
    (hi : s.slots[i]? = some (some a)) (hj : s.slots[j]? = some (some b)) :
    ∃ va vb, byId s.store a = some (va, s.slots.count (some a)) ∧ byId s.store b = some (vb, s.slots.count (some b)) ∧
      (a = b ↔ va = vb) :=
  interning h hi hj

/-- three handles, two values: the two handles to `{1}` share one object with `use_count` 2 -/
example : (CM.run (setCfg .lib) (Sys.init (List Nat) 3) [.lookup 0 [1] 0, .lookup 1 [2] 1, .lookup 2 [1] 5]).map
    (fun x => (x.1.slots, x.1.store)) = some ([some 0, some 1, some 0], [([2], 1, 1), ([1], 0, 2)]) := by decide +kernel

/-- `store_` is a bijection between live values and live addresses; no entry without a handle (so the `weak_ptr` of an entry is
    never expired when `Cache::lookup` turns it into a `shared_ptr`) -/
theorem Util_Cache_store_bijective {α : Type} [DecidableEq α] {c : Cfg α} {s : Sys α} (h : Reach c s) {v v' : α} {id id' n n' : Nat}
    (hm : (v, id, n) ∈ s.store) (hm' : (v', id', n') ∈ s.store) :
    (v = v' ↔ id = id') ∧ 0 < n ∧ n = s.slots.count (some id) :=
  store_bijective h hm hm'

/-- no leak: when the last handle is gone the cache is empty (`assert(this->empty())` in `~Cache()`), and with the library's
    wiring so are the memo tables -/
theorem Util_Cache_no_leak {α : Type} [DecidableEq α] {c : Cfg α} {s : Sys α} (h : Reach c s) (hn : ∀ x ∈ s.slots, x = none) :
    s.store = [] ∧ (c.wiring = .lib → (∀ k, aget s.lte.store k = none) ∧ (∀ k, aget s.ev.store k = none)) :=
  ⟨no_leak h hn, fun hw => no_leak_memo h hw hn⟩

example : (CM.run (setCfg .lib) (Sys.init (List Nat) 2) (staleHistory ++ [.release 0, .release 1])).map
    (fun x => (x.1.slots, x.1.store.length, x.1.lte.store.length)) = some ([none, none], 0, 0) := by decide +kernel

/-! ### (2) memo soundness under address reuse -/

/-- **No entry for a dead identity.**  With the deleter wired as the library wires it, every key of `lteCache` consists of two
    LIVE addresses, every key of `evalTransitionsCache` has a live second component – and the stored answer is the function
    value on the objects that are at these addresses NOW. -/
theorem Util_Cache_memo_live {α : Type} [DecidableEq α] {c : Cfg α} {s : Sys α} (h : Reach c s) (hw : c.wiring = .lib) :
    (∀ a b r, aget s.lte.store (a, b) = some r →
      a ∈ ids s.store ∧ b ∈ ids s.store ∧
      ∃ va na vb nb, byId s.store a = some (va, na) ∧ byId s.store b = some (vb, nb) ∧ r = c.F va vb) ∧
    (∀ k b r, aget s.ev.store (k, b) = some r →
      b ∈ ids s.store ∧ ∃ vb nb, byId s.store b = some (vb, nb) ∧ r = c.G k vb) :=
  ⟨fun a b r hr => ⟨((memo_live h hw).1 a b r hr).1, ((memo_live h hw).1 a b r hr).2, (memo_entries_sound h hw).1 a b r hr⟩,
   fun k b r hr => ⟨(memo_live h hw).2 k b r hr, (memo_entries_sound h hw).2 k b r hr⟩⟩

/-- **Memo soundness.**  `lteCache.lookup(x.get(), y.get(), f)` answers `F (*x) (*y)`, whatever was memoised before and
    whichever addresses were reused; the same for the library's `lte` (pointer-equality shortcut, `F` reflexive) and for
    `evalTransitionsCache.lookup(key, y.get(), g)`. -/
theorem Util_Cache_memo_sound {α : Type} [DecidableEq α] {c : Cfg α} {s s' : Sys α} (h : Reach c s) (hw : c.wiring = .lib)
    {i j : Nat} {ans : Ans} :
    (CM.step c s (.memo i j) = some (s', ans) →
      ∃ a b va na vb nb, s.slots[i]? = some (some a) ∧ s.slots[j]? = some (some b) ∧ byId s.store a = some (va, na) ∧
        byId s.store b = some (vb, nb) ∧ ans = .bool (c.F va vb)) ∧
    ((∀ v, c.F v v = true) → CM.step c s (.lte i j) = some (s', ans) →
      ∃ a b va na vb nb, s.slots[i]? = some (some a) ∧ s.slots[j]? = some (some b) ∧ byId s.store a = some (va, na) ∧
        byId s.store b = some (vb, nb) ∧ ans = .bool (c.F va vb)) ∧
    (∀ k, CM.step c s (.eval k i) = some (s', ans) →
      ∃ b vb nb, s.slots[i]? = some (some b) ∧ byId s.store b = some (vb, nb) ∧ ans = .nat (c.G k vb)) :=
  ⟨memo_sound h hw, fun hr => lte_sound h hw hr, fun _ => eval_sound h hw⟩

/-- the hypotheses are satisfiable after an address was reused: the last statement of `staleHistory` is such a call, and `⊆`
    is reflexive -/
example : ((CM.run (setCfg .lib) (Sys.init (List Nat) 2) (staleHistory.take 5)).bind
    (fun x => CM.step (setCfg .lib) x.1 (.memo 0 1))).isSome = true := by decide

example (v : List Nat) : (setCfg .lib).F v v = true := by
  simp only [setCfg, subsetB, List.all_eq_true]
  intro a ha
  simpa using ha

/-- **A cache that never frees needs no invalidation.**  In a history in which no object dies (`ReachND`) every memo entry is
    the function value on the two live objects for ANY wiring of the deleter: the situation of `MacroStateCache` (its
    `std::list` nodes live as long as the functor) with the `subsetMap_` / `subsetNotMap_` memo tables of the NFA inclusion
    functors (`explicit_finite_incl_fctor_cache.hh`, `explicit_finite_congr_fctor_cache_opt.hh`), and of an upward / downward
    tree inclusion run up to the first death of a macro-state. -/
theorem Util_Cache_memo_sound_noDeath {α : Type} [DecidableEq α] {c : Cfg α} {s : Sys α} (h : ReachND c s) :
    (∀ a b r, aget s.lte.store (a, b) = some r →
      ∃ va na vb nb, byId s.store a = some (va, na) ∧ byId s.store b = some (vb, nb) ∧ r = c.F va vb) ∧
    (∀ k b r, aget s.ev.store (k, b) = some r → ∃ vb nb, byId s.store b = some (vb, nb) ∧ r = c.G k vb) :=
  memo_entries_sound (c := libCfg c) (reachND_lib h).1 rfl

/-- a history without a death under the wiring that does nothing -/
example : ReachND (setCfg .none) ({ store := [([1], 0, 1)], slots := [some 0] } : Sys (List Nat)) :=
  ReachND.step (op := .lookup 0 [1] 0) (a := .ptr (some 0)) (ReachND.init 1) rfl (by decide)

/-! ### (3) the secondary indices -/

/-- **Index exactness.**  In every reachable state, for ANY wiring: the entries listed by `storeMap1_` (`storeMap2_`) are exactly
    the entries of `store_`, each filed under its own first (second) component and listed once; consequently the
    `assert(j != storeMapN_.end())` inside the two invalidations never fires (in the NDEBUG build: no dereference of `end()`). -/
theorem Util_Cache_index_exact {α : Type} [DecidableEq α] {c : Cfg α} {s : Sys α} (h : Reach c s) (k : Nat × Nat) :
    ((k ∈ akeys s.lte.store ↔ ∃ l, (k.1, l) ∈ s.lte.map1 ∧ k ∈ l) ∧ (k ∈ akeys s.lte.store ↔ ∃ l, (k.2, l) ∈ s.lte.map2 ∧ k ∈ l)) ∧
    ((∀ x l, (x, l) ∈ s.lte.map1 → l.Nodup ∧ ∀ k ∈ l, k.1 = x) ∧ (∀ y l, (y, l) ∈ s.lte.map2 → l.Nodup ∧ ∀ k ∈ l, k.2 = y)) ∧
    (∀ id, deleterAsserts s id = true) :=
  ⟨(index_exact h).1.exact_mem k, (index_exact h).1.filed, deleter_asserts h⟩

/-- the same for the table with a plain first key (`evalTransitionsCache`) -/
theorem Util_Cache_index_exact_eval {α : Type} [DecidableEq α] {c : Cfg α} {s : Sys α} (h : Reach c s) (k : (Nat × Nat) × Nat) :
    ((k ∈ akeys s.ev.store ↔ ∃ l, (k.1, l) ∈ s.ev.map1 ∧ k ∈ l) ∧ (k ∈ akeys s.ev.store ↔ ∃ l, (k.2, l) ∈ s.ev.map2 ∧ k ∈ l)) ∧
    ((∀ x l, (x, l) ∈ s.ev.map1 → l.Nodup ∧ ∀ k ∈ l, k.1 = x) ∧ (∀ y l, (y, l) ∈ s.ev.map2 → l.Nodup ∧ ∀ k ∈ l, k.2 = y)) :=
  ⟨(index_exact h).2.exact_mem k, (index_exact h).2.filed⟩

/-- the class on its own (no cache around it): `lookup`, both invalidations and `clear` keep the representation invariant, and an
    invalidation removes exactly the entries with that component -/
theorem Util_Cache_binop_invariant {κ₁ κ₂ β : Type} [DecidableEq κ₁] [DecidableEq κ₂] {op : BinOp κ₁ κ₂ β} (h : op.Inv) (x : κ₁)
    (y : κ₂) (f : κ₁ → κ₂ → β) (k : κ₁ × κ₂) :
    (op.lookup x y f).1.Inv ∧ (op.invalidateFirst x).Inv ∧ (op.invalidateSecond y).Inv ∧ op.clear.Inv ∧
    (aget (op.invalidateFirst x).store k = if k.1 = x then none else aget op.store k) ∧
    (aget (op.invalidateSecond y).store k = if k.2 = y then none else aget op.store k) ∧
    (aget (op.lookup x y f).1.store k = if k = (x, y) then some (op.lookup x y f).2 else aget op.store k) :=
  ⟨BinOp.lookup_inv h x y f, BinOp.invalidateFirst_inv h x, BinOp.invalidateSecond_inv h y, BinOp.clear_inv op,
    BinOp.invalidateFirst_store h x k, BinOp.invalidateSecond_store h y k, BinOp.lookup_store op x y f k⟩

example : (BinOp.empty : BinOp Nat Nat Bool).Inv := BinOp.empty_inv

/-- an emptied set stays in the OTHER index (as in the C++): after `invalidateSecond(1)` the key `0` of `storeMap1_` maps to `{}` -/
example : let op := ((BinOp.empty : BinOp Nat Nat Bool).lookup 0 1 (fun _ _ => true)).1.invalidateSecond 1
    op.store = [] ∧ op.map1 = [(0, [])] ∧ op.map2 = [] := by decide

/-! ### (4) the wiring matters -/

/-- **Counterexample.**  With the deleter calling `invalidateFirst` twice instead of `invalidateFirst` + `invalidateSecond`
    (or with no invalidation at all) the history "intern `{1}`, `{1,2}`; compare; drop `{1,2}`; intern `{5}` at the reused
    address; compare" answers `{1} ⊆ {5}` with the stale `true`; the library's wiring answers `false`. -/
theorem Util_Cache_wiring_counterexample :
    ((CM.run (setCfg .firstTwice) (Sys.init (List Nat) 2) staleHistory).map (·.2) =
      some [.ptr (some 0), .ptr (some 1), .bool true, .unit, .ptr (some 1), .bool true] ∧ subsetB [1] [5] = false) ∧
    (CM.run (setCfg .none) (Sys.init (List Nat) 2) staleHistory).map (·.2) =
      some [.ptr (some 0), .ptr (some 1), .bool true, .unit, .ptr (some 1), .bool true] ∧
    (CM.run (setCfg .lib) (Sys.init (List Nat) 2) staleHistory).map (·.2) =
      some [.ptr (some 0), .ptr (some 1), .bool true, .unit, .ptr (some 1), .bool false] :=
  ⟨stale_answer_firstTwice, stale_answer_none, fresh_answer_lib⟩

/-! ### (5) the bottom-up index of the explicit upward inclusion -/

/-- **Index contents.**  For clusters that use their symbols with one rank (`BU.Ranked`; the rank is part of a symbol of the
    library's alphabets) and any symbol translation `tr`: `bottomUpIndex[q][a][i]` and `bottomUpIndex2[a][i][q]` hold exactly
    the rules with translated symbol `a` and state `q` at position `i`; `leaves[a]` exactly the leaf rules with symbol `a`. -/
theorem Util_Cache_bu_index (tr : Nat → Nat) (gs : List BU.Group) (hr : BU.Ranked gs) (r : Rule) (q a i : Nat) :
    (r ∈ BU.look1 (BU.bottomUpIndex tr gs).1 q a i ↔ r ∈ BU.rulesOf tr gs ∧ r.sym = a ∧ r.kids[i]? = some q) ∧
    (r ∈ BU.look2 (BU.bottomUpIndex2 tr gs).1 a i q ↔ r ∈ BU.rulesOf tr gs ∧ r.sym = a ∧ r.kids[i]? = some q) ∧
    (r ∈ BU.lookLeaves (BU.bottomUpIndex tr gs).2 a ↔ r ∈ BU.rulesOf tr gs ∧ r.sym = a ∧ r.kids = []) ∧
    (r ∈ BU.lookLeaves (BU.bottomUpIndex2 tr gs).2 a ↔ r ∈ BU.rulesOf tr gs ∧ r.sym = a ∧ r.kids = []) :=
  ⟨BU.mem_look1 tr gs hr r q a i, BU.mem_look2 tr gs hr r a i q, BU.mem_leaves1 tr gs hr r a, BU.mem_leaves2 tr gs hr r a⟩

namespace CacheEx
/-- `a -> 0`, `f(0,0) -> 1`, `f(0,1) -> 1`, `g(1) -> 0` with `a ↦ 2, f ↦ 0, g ↦ 1` -/
def gs : List BU.Group := [⟨0, 10, [[]]⟩, ⟨1, 11, [[0, 0], [0, 1]]⟩, ⟨0, 12, [[1]]⟩]
def tr (a : Nat) : Nat := if a = 10 then 2 else if a = 11 then 0 else 1
end CacheEx

example : BU.Ranked CacheEx.gs := BU.ranked_of_rankedB (by decide)

example : BU.look1 (BU.bottomUpIndex CacheEx.tr CacheEx.gs).1 0 0 0 = [⟨0, [0, 0], 1⟩, ⟨0, [0, 1], 1⟩] ∧
    BU.look2 (BU.bottomUpIndex2 CacheEx.tr CacheEx.gs).1 0 1 1 = [⟨0, [0, 1], 1⟩] ∧
    BU.lookLeaves (BU.bottomUpIndex CacheEx.tr CacheEx.gs).2 2 = [⟨2, [], 0⟩] := by decide +kernel

/-- the contract is needed (outside it the real code drops a leaf rule, resp. writes past the end of a vector) -/
theorem Util_Cache_bu_index_needs_ranked :
    ((⟨7, [], 0⟩ : Rule) ∈ BU.rulesOf id [⟨0, 7, [[1], []]⟩] ∧ BU.lookLeaves (BU.bottomUpIndex id [⟨0, 7, [[1], []]⟩]).2 7 = []) ∧
    ((⟨7, [1, 2], 0⟩ : Rule) ∈ BU.rulesOf id [⟨0, 7, [[1], [1, 2]]⟩] ∧
      BU.look2 (BU.bottomUpIndex2 id [⟨0, 7, [[1], [1, 2]]⟩]).1 7 1 2 = []) :=
  ⟨BU.unranked_loses_leaf, BU.unranked_loses_position⟩

/-!
## Not proved / outside the model

* The order of the elements inside a cell of the index, and that a rule is listed ONCE per position (the correspondence check
  compares the sorted cells with multiplicities; the theorems speak about membership).
* `~Cache()` / destruction order ("antichains need to be declared after the cache", `tree_incl_down.hh`): a handle that outlives
  its cache is outside the model (the harness keeps the library's declaration order).
* `MacroStateCache` / `MapToList` of the NFA functors (`explicit_finite_incl_fctor_cache.hh`,
  `explicit_finite_congr_fctor_cache_opt.hh`) are covered only as the special case "no object dies" of this model
  (`Util_Cache_memo_sound_noDeath`); the classes themselves are not run by the `cacheh` harness (the tables are private members of
  the functors and are exercised through the NFA inclusion cases of C09).  Read, not modelled: `MacroStateCache::insert` never
  shares the EMPTY macro-state (`areEqual` answers false for two empty sets), so for it "pointer-equal iff value-equal" holds only
  in the direction pointer-equal ⇒ value-equal; this costs sharing, not soundness.
* Exceptions thrown by the memoised function or by the allocator in the middle of `lookup` (an entry with `V()` would stay).
-/
end Vata.Props
