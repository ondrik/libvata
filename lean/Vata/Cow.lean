/-! feasibility probe (throw-away): copy-on-write store refines independent values (two levels) -/
namespace Vata.C

abbrev Body := Nat × List Nat            -- (symbol, children)
abbrev RuleT := Nat × Body               -- (parent, body)

/-- handles point to maps, maps send states to clusters, clusters hold rule bodies -/
structure Heap where
  hl   : List Nat                 -- live handles
  hmap : Nat → Nat                -- handle ↦ map id
  ment : Nat → Nat → Option Nat   -- map id ↦ state ↦ cluster id
  mkeys : Nat → List Nat          -- map id ↦ states that have an entry (enumeration of `ment`)
  cl   : Nat → List Body          -- cluster id ↦ bodies
  next : Nat                      -- all ids in use are < next

def upd {β : Type} (f : Nat → β) (k : Nat) (v : β) : Nat → β := fun x => if x = k then v else f x
@[simp] theorem upd_same {β} (f : Nat → β) (k v) : upd f k v k = v := by simp [upd]
@[simp] theorem upd_other {β} (f : Nat → β) {k x : Nat} (v) (h : x ≠ k) : upd f k v x = f x := by simp [upd, h]

/-- value seen through a handle -/
def val (H : Heap) (h : Nat) (r : RuleT) : Prop :=
  ∃ c, H.ment (H.hmap h) r.1 = some c ∧ r.2 ∈ H.cl c

/-- number of live handles pointing to map `m` -/
def mapRefs (H : Heap) (m : Nat) : Nat := (H.hl.filter (fun h => H.hmap h == m)).length
/-- cluster `c` is referenced from an entry of a map other than `m`, or from another state of `m` -/
def clusterSharedB (H : Heap) (m q c : Nat) : Bool :=
  H.hl.any (fun h => (H.mkeys (H.hmap h)).any (fun s => (H.ment (H.hmap h) s == some c) && !(H.hmap h == m && s == q)))

structure Inv (H : Heap) : Prop where
  keys : ∀ m s c, H.ment m s = some c → s ∈ H.mkeys m
  lt_m : ∀ h, h ∈ H.hl → H.hmap h < H.next
  lt_c : ∀ m s c, H.ment m s = some c → c < H.next

/-- step 1: make the map of handle `h` unique -/
def uniqueMap (H : Heap) (h : Nat) : Heap :=
  if mapRefs H (H.hmap h) ≤ 1 then H else
    let m := H.hmap h; let m' := H.next
    { H with hmap := upd H.hmap h m', ment := upd H.ment m' (H.ment m), mkeys := upd H.mkeys m' (H.mkeys m), next := H.next + 1 }

/-- step 2+3: make the cluster of `q` in the (unique) map of `h` unique, then insert the body -/
def addUnique (H : Heap) (h q : Nat) (b : Body) : Heap :=
  let m := H.hmap h
  match H.ment m q with
  | none =>
    let c' := H.next
    { H with ment := upd H.ment m (upd (H.ment m) q (some c')), mkeys := upd H.mkeys m (q :: H.mkeys m),
             cl := upd H.cl c' [b], next := H.next + 1 }
  | some c =>
    if clusterSharedB H m q c then
      let c' := H.next
      { H with ment := upd H.ment m (upd (H.ment m) q (some c')), cl := upd H.cl c' (b :: H.cl c), next := H.next + 1 }
    else
      { H with cl := upd H.cl c (b :: H.cl c) }

def add (H : Heap) (h q : Nat) (b : Body) : Heap := addUnique (uniqueMap H h) h q b

/-! ### step 1 does not change any value and makes the map unique -/
theorem uniqueMap_val (H : Heap) (hI : Inv H) (h h' : Nat) (hh' : h' ∈ H.hl) (r : RuleT) :
    val (uniqueMap H h) h' r ↔ val H h' r := by
  unfold uniqueMap
  split
  · exact Iff.rfl
  · simp only [val]
    by_cases e : h' = h
    · subst e; simp
    · have hne : H.hmap h' ≠ H.next := Nat.ne_of_lt (hI.lt_m h' hh')
      simp [upd_other _ _ e, upd_other _ _ hne]


/-- the map of `h` is not used by any other live handle -/
def MapUnique (H : Heap) (h : Nat) : Prop := ∀ h', h' ∈ H.hl → h' ≠ h → H.hmap h' ≠ H.hmap h

theorem not_shared {H : Heap} {m q c : Nat} (hs : clusterSharedB H m q c = false)
    {h' s : Nat} (hh' : h' ∈ H.hl) (hk : s ∈ H.mkeys (H.hmap h')) (he : H.ment (H.hmap h') s = some c) :
    H.hmap h' = m ∧ s = q := by
  simp only [clusterSharedB, List.any_eq_false] at hs
  have h1 := hs h' hh'
  simp only [Bool.not_eq_true, List.any_eq_false] at h1
  have := h1 s hk
  simp only [he, beq_self_eq_true, Bool.true_and, Bool.not_eq_true', Bool.not_eq_false', Bool.and_eq_true,
    beq_iff_eq] at this
  simpa using this

/-- a cluster id of `H` is not the fresh one -/
theorem Inv.cl_fresh {H : Heap} (hI : Inv H) {m s c : Nat} (hc : H.ment m s = some c) (X : List Body) :
    upd H.cl H.next X c = H.cl c := upd_other _ _ (Nat.ne_of_lt (hI.lt_c m s c hc))

/-- `val` reads `hmap`, `ment` and `cl` only.  A heap that sends `(m, q)` to the fresh cluster `H.next` with contents `X` and
agrees with `H` there otherwise: the handles of map `m` see `X` at `q`, nothing else changes -/
theorem val_fresh {H : Heap} (hI : Inv H) (m q : Nat) (X : List Body) (mk : Nat → List Nat) (nx h : Nat) (r : RuleT) :
    val { H with ment := upd H.ment m (upd (H.ment m) q (some H.next)), mkeys := mk, cl := upd H.cl H.next X, next := nx } h r ↔
      if H.hmap h = m ∧ r.1 = q then r.2 ∈ X else val H h r := by
  simp only [val]
  split
  · next e => simp only [e.1, e.2, upd_same, Option.some.injEq, exists_eq_left']
  · next e =>
    have : upd H.ment m (upd (H.ment m) q (some H.next)) (H.hmap h) r.1 = H.ment (H.hmap h) r.1 := by
      by_cases em : H.hmap h = m
      · rw [em, upd_same, upd_other _ _ fun eq => e ⟨em, eq⟩]
      · rw [upd_other _ _ em]
    rw [this]
    exact exists_congr fun c => and_congr_right fun hc => by rw [hI.cl_fresh hc]

/-- what the insertion does to the value of EVERY live handle: the rule `(q, b)` is added to the handles that share the map of
`h`, and to no other -/
theorem addUnique_val (H : Heap) (hI : Inv H) (h q : Nat) (b : Body) {h' : Nat} (hh' : h' ∈ H.hl) (r : RuleT) :
    val (addUnique H h q b) h' r ↔ val H h' r ∨ (H.hmap h' = H.hmap h ∧ r = (q, b)) := by
  -- at a handle of the map of `h` and the key `q`, `val H` reads the old entry
  have old : H.hmap h' = H.hmap h ∧ r.1 = q → (val H h' r ↔ ∃ c, H.ment (H.hmap h) q = some c ∧ r.2 ∈ H.cl c) :=
    fun e => by rw [val, e.1, e.2]
  have eq : H.hmap h' = H.hmap h ∧ r.1 = q → (r.2 = b ↔ r = (q, b)) :=
    fun e => ⟨fun hb => Prod.ext e.2 hb, fun hr => by rw [hr]⟩
  have new : ¬ (H.hmap h' = H.hmap h ∧ r.1 = q) → ¬ (H.hmap h' = H.hmap h ∧ r = (q, b)) :=
    fun e e' => e ⟨e'.1, by rw [e'.2]⟩
  unfold addUnique
  simp only []
  split
  · next hn =>
    rw [val_fresh hI]
    split
    · next e =>
      rw [old e, hn, List.mem_singleton, eq e]
      simp [e.1]
    · next e => rw [or_iff_left (new e)]
  · next c hc0 =>
    split
    · rw [val_fresh hI]
      split
      · next e =>
        rw [old e, hc0, List.mem_cons, eq e]
        simp [e.1, or_comm]
      · next e => rw [or_iff_left (new e)]
    · -- in place: by `not_shared` the cluster `c` is read at `(H.hmap h, q)` only
      next hsh =>
      have hsh' : clusterSharedB H (H.hmap h) q c = false := by simpa using hsh
      simp only [val]
      constructor
      · rintro ⟨c2, hc2, hb⟩
        by_cases ec : c2 = c
        · subst ec
          have := not_shared hsh' hh' (hI.keys _ _ _ hc2) hc2
          rw [upd_same, List.mem_cons] at hb
          exact hb.elim (fun hb => .inr ⟨this.1, Prod.ext this.2 hb⟩) fun hb => .inl ⟨c2, hc2, hb⟩
        · rw [upd_other _ _ ec] at hb; exact .inl ⟨c2, hc2, hb⟩
      · rintro (⟨c2, hc2, hb⟩ | ⟨e, rfl⟩)
        · refine ⟨c2, hc2, ?_⟩
          by_cases ec : c2 = c
          · subst ec; rw [upd_same]; exact List.mem_cons_of_mem _ hb
          · rw [upd_other _ _ ec]; exact hb
        · exact ⟨c, by rw [e]; exact hc0, by rw [upd_same]; exact List.mem_cons_self⟩

theorem addUnique_self (H : Heap) (hI : Inv H) (h q : Nat) (b : Body) (hh : h ∈ H.hl) (r : RuleT) :
    val (addUnique H h q b) h r ↔ val H h r ∨ r = (q, b) := by
  rw [addUnique_val H hI h q b hh, and_iff_right rfl]

theorem addUnique_other (H : Heap) (hI : Inv H) (h q : Nat) (b : Body) (hu : MapUnique H h)
    (h' : Nat) (hh' : h' ∈ H.hl) (hne : h' ≠ h) (r : RuleT) :
    val (addUnique H h q b) h' r ↔ val H h' r := by
  rw [addUnique_val H hI h q b hh', or_iff_left fun e => hu h' hh' hne e.1]

#print axioms addUnique_self
#print axioms addUnique_other
end Vata.C
