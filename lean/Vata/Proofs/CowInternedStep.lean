import Vata.Proofs.CowInternedRefine
/-!
Named automata over one tuple cache: one call, histories, liveness of cache entries. The invariant `Inv'` is the
reference-count invariant of the heap (`CowHeapX.InvX`), the cache consistent with the live tuple-set nodes and the outside
holders (`CI`), and every element of a tuple set is one `cell`. A call of the library keeps it and acts on `absV` (automaton
name ⇀ `Store.Store` of tuple VALUES) like `CowHeapX.specStepX` on independent values – proved through one lemma per kind of
call: the heap moves as `stepX` and the cache by acquire / release steps, or the heap stays. First the calls of
`Vata/CowInterned.lean` (`stepC_lib`), then `ContainsTransition` on a named automaton (`containsMI_lib`: two `find`s through the
possibly shared map and cluster nodes, `tupleLookup` of the asked tuple – a temporary –, comparison of POINTERS, death of the
temporary; it answers what `Store.contains` answers on the VALUE), then all calls of `Vata/CowInterned2.lean` (`stepC2_lib`: moves
and the storage-sharing results are guarded release cascades). A call fails only on an impossible allocator choice; when no
automaton and no outside holder is left the cache is empty.
-/
namespace Vata.CowI
open Vata.CowHeap (upd)
open Vata.CowHeap3 (Heap valM valC hmap_mem)
open Vata.CowHeapX (HeapX stepX absX specStepX specInitX InvX ValX HOpX absX_of_mem absX_of_not_mem)
open Vata.StoreI (CacheSt lookupC acquireC releaseC derefC CInv deref_of_sub acquireC_sub releaseC_sub)
open Vata.CM (StoreLe)

structure Inv' (s : Sys) : Prop where
  /-- use counts of map / cluster / tuple-set nodes = number of referrers, no garbage (`CowHeap3.Inv`) -/
  heap : InvX s.hx
  /-- use count of a cache entry = number of cells of live tuple-set nodes holding it (a shared node ONCE) + outside
      holders; cache keys and addresses are unambiguous; every pointer held is an entry -/
  cache : CI (s.hx.core, s.cache) s.ext
  /-- tuple sets hold cells -/
  cells : CellsV (absX s.hx)

def specV (a : Nat → Option ValX) : Option HOpX → (Nat → Option ValX)
  | some op => specStepX a op
  | none => a

theorem inv_init : Inv' init := by
  refine ⟨CowHeapX.invX_init, StoreI.cinv_nil, fun h s hs => ?_⟩
  rw [show absX init.hx = specInitX from CowHeapX.absX_init] at hs
  cases hs

theorem absV_eq (s : Sys) : absV s = fun k => (absX s.hx k).map (derefS s.cache) := rfl

theorem absV_of_mem {s : Sys} {h : Nat} (hh : h ∈ s.hx.core.hl) :
    absV s h = some (derefS s.cache ⟨valM s.hx.core (s.hx.core.hmap h), s.hx.fin h⟩) := by
  show (absX s.hx h).map _ = _
  rw [absX_of_mem hh, Option.map_some]

theorem absV_of_not_mem {s : Sys} {h : Nat} (hh : h ∉ s.hx.core.hl) : absV s h = none := by
  show (absX s.hx h).map _ = _
  rw [absX_of_not_mem hh, Option.map_none]

/-- a call that acts on the heap as `stepX … op'` and on the cache by acquire / release steps from `c₀` -/
theorem frame {HX : HeapX} (hI : InvX HX) (hcv : CellsV (absX HX)) {c₀ : CacheSt} {R₀ : List Nat} (h0 : CInv c₀ R₀)
    {op' : HOpX} (hop : cellOp2 op') {c' : CacheSt} {E' : List Nat} (hci : CI ((stepX HX op').core, c') E')
    (hsub : StoreLe c' c₀) :
    Inv' ⟨stepX HX op', c', E'⟩ ∧
      absV ⟨stepX HX op', c', E'⟩ = fun k => (specStepX (absX HX) op' k).map (derefS c₀) := by
  obtain ⟨e, hI'⟩ := CowHeapX.cowX_refines_values hI op'
  refine ⟨⟨hI', hci, e ▸ cellsV_step hcv hop⟩, funext fun k => ?_⟩
  show (absX (stepX HX op') k).map (derefS c') = _
  rw [absX_map_congr hI' (fun id hid => (deref_of_sub hci h0 hsub (List.mem_append_left _ hid)).symm) k, e]

/-- a call that leaves the heap alone and changes the cache and the holders without moving a tuple the heap refers to -/
theorem same_heap {s : Sys} (h : Inv' s) {c' : CacheSt} {E' : List Nat} (hci : CI (s.hx.core, c') E')
    (hd : ∀ id, id ∈ refsT s.hx.core → derefC c' id = derefC s.cache id) :
    Inv' ⟨s.hx, c', E'⟩ ∧ absV ⟨s.hx, c', E'⟩ = absV s :=
  ⟨⟨h.heap, hci, h.cells⟩, funext fun k => absX_map_congr h.heap hd k⟩

/-- a call that acts on the heap as `stepX … op'` (a call that does not look at tuples) and on the cache by release steps:
    `S'` is what the threaded primitive returns, `fin` the members `finalStates_` -/
theorem step_core {s : Sys} (h : Inv' s) {op' : HOpX} (hop : simpleOp2 op') {S' : HC} {fin : Nat → List Nat}
    (e : stepX s.hx op' = ⟨S'.1, fin⟩) (hok : Keeps S' (s.hx.core, s.cache) s.ext) :
    Inv' (withCore s S' fin) ∧ absV (withCore s S' fin) = specStepX (absV s) op' := by
  rw [show withCore s S' fin = ⟨stepX s.hx op', S'.2, s.ext⟩ by rw [e]; rfl]
  obtain ⟨f1, f2⟩ := frame h.heap h.cells h.cache (simpleOp2_cellOp2 hop) (hok.1.of_fst (by rw [e])) hok.2
  exact ⟨f1, by rw [f2, absV_eq s, specStepX_map_simple s.cache (absX s.hx) hop]⟩

theorem step_same_cache {s : Sys} (h : Inv' s) {op' : HOpX} (hop : simpleOp2 op')
    (hr : refsT (stepX s.hx op').core = refsT s.hx.core) :
    Inv' { s with hx := stepX s.hx op' } ∧ absV { s with hx := stepX s.hx op' } = specStepX (absV s) op' :=
  step_core h hop (S' := ((stepX s.hx op').core, s.cache)) rfl (.refl (h.cache.of_refsT hr rfl))

theorem refsT_stepX_copy (HX : HeapX) (src dst : Nat) :
    refsT (stepX HX (.copy src dst true true)).core = refsT HX.core := by
  simp only [stepX]
  split
  · exact refsT_step_copy HX.core src dst
  · rfl

theorem refsT_stepX_setFinal (HX : HeapX) (h q : Nat) : refsT (stepX HX (.setFinal h q)).core = refsT HX.core := by
  simp only [stepX]
  split <;> rfl

theorem add_eq (s : Sys) {h : Nat} (hh : h ∈ s.hx.core.hl) (c₁ c' : CacheSt) (q f p : Nat) :
    withCore s ((internalAddI .lib (s.hx.core, c₁) h q f p).1, c') s.hx.fin =
    ⟨stepX s.hx (.add h q (f, cell p)), c', s.ext⟩ := by
  rw [withCore, stepX, ← internalAddI_fst .lib (s.hx.core, c₁) h q f p hh]

theorem specStepX_add_dead (a : Nat → Option ValX) {h : Nat} (hh : a h = none) (q : Nat) (v : Nat × List Nat) :
    specStepX a (.add h q v) = a := by
  simp only [specStepX, hh]

/-- `internalAddTransition(p, f, q)` on the live automaton `h` with a pointer held in `E`; `c₀ → c₁` was a `lookup` (or
    nothing), `c'` is reached from the cache after the insertion by acquire / release steps -/
theorem add_core {s : Sys} (h : Inv' s) {hd : Nat} (hh : hd ∈ s.hx.core.hl) {c₁ : CacheSt} {E : List Nat} (q f : Nat)
    {p : Nat} (hp : p ∈ E) (hci1 : CI (s.hx.core, c₁) E)
    (hstab : ∀ id, id ∈ refsT s.hx.core → derefC c₁ id = derefC s.cache id)
    {c' : CacheSt} {E' : List Nat} (hci' : CI ((stepX s.hx (.add hd q (f, cell p))).core, c') E') (hsub : StoreLe c' c₁) :
    Inv' ⟨stepX s.hx (.add hd q (f, cell p)), c', E'⟩ ∧
    absV ⟨stepX s.hx (.add hd q (f, cell p)), c', E'⟩ = specStepX (absV s) (.add hd q (f, derefC c₁ p)) := by
  obtain ⟨f1, f2⟩ := frame h.heap h.cells hci1 (op' := .add hd q (f, cell p)) ⟨p, rfl⟩ hci' hsub
  refine ⟨f1, ?_⟩
  rw [f2, specStepX_map_add c₁ (absX s.hx) hd q f p (h.cells hd)]
  · exact congrArg (specStepX · _) (funext fun k => absX_map_congr h.heap hstab k)
  · intro st hst
    rw [absX_of_mem hh] at hst
    cases hst
    intro qc hqc ft hft l hl id hid e
    exact CInv.deref_inj hci1 (List.mem_append_left _ (mentions_live h.heap hh qc hqc ft hft l hl id hid))
      (List.mem_append_right _ hp) e

theorem stepC_lib {s s' : Sys} {op : Op} (h : Inv' s) (hs : stepC .lib s op = some s') :
    Inv' s' ∧ absV s' = specV (absV s) (valOp s op) := by
  have hc : CInv s.cache (refsT s.hx.core ++ s.ext) := h.cache
  cases op with
  | new hd =>
    obtain rfl := Option.some.inj hs
    exact step_same_cache h (op' := .new hd) trivial (refsT_step_new s.hx.core hd)
  | copy src dst =>
    obtain rfl := Option.some.inj hs
    exact step_same_cache h (op' := .copy src dst true true) ⟨rfl, rfl⟩ (refsT_stepX_copy s.hx src dst)
  | setFinal hd q =>
    obtain rfl := Option.some.inj hs
    exact step_same_cache h (op' := .setFinal hd q) trivial (refsT_stepX_setFinal s.hx hd q)
  | assign src dst =>
    obtain rfl := Option.some.inj hs
    exact step_core h (op' := .assign src dst) trivial (by rw [stepX, assignI_fst])
      (assignI_ok (S := (s.hx.core, s.cache)) h.heap hc src dst)
  | destroy hd =>
    obtain rfl := Option.some.inj hs
    exact step_core h (op' := .destroy hd) trivial (by rw [stepX, destroyI_fst])
      (destroyI_ok (S := (s.hx.core, s.cache)) h.heap hc hd)
  | clear hd =>
    obtain rfl := Option.some.inj hs
    exact step_core h (op' := .clear hd) trivial (by rw [stepX, clearI_fst])
      (clearI_ok (S := (s.hx.core, s.cache)) h.heap hc hd)
  | add hd r ch =>
    by_cases hh : hd ∈ s.hx.core.hl
    · rw [stepC, if_pos hh] at hs
      cases hl : lookupC s.cache r.kids ch with
      | none => rw [hl] at hs; cases hs
      | some x =>
        obtain ⟨c₁, p⟩ := x
        simp only [hl] at hs
        obtain rfl := Option.some.inj hs
        -- the temporary `p` is an outside holder until it dies
        obtain ⟨h1, d1, k1⟩ := CInv.lookupC hc hl
        have hci1 : CI (s.hx.core, c₁) (p :: s.ext) := h1.perm List.perm_middle.symm
        obtain ⟨a1, a2⟩ := internalAddI_ok (S := (s.hx.core, c₁)) h.heap hh r.parent r.sym List.mem_cons_self hci1
        have e := internalAddI_fst .lib (s.hx.core, c₁) hd r.parent r.sym p hh
        rw [add_eq s hh]
        generalize internalAddI .lib (s.hx.core, c₁) hd r.parent r.sym p = S₂ at a1 a2 e ⊢
        have a3 : CI (S₂.1, releaseC .lib S₂.2 p) s.ext := CInv.releaseC (a1.perm List.perm_middle)
        have a4 : StoreLe (releaseC .lib S₂.2 p) c₁ := (releaseC_sub S₂.2 p).trans a2
        have := add_core h hh r.parent r.sym List.mem_cons_self hci1
          (fun id hid => deref_of_sub hc h1 k1 (List.mem_append_left _ hid)) (c' := releaseC .lib S₂.2 p) (E' := s.ext)
          (a3.of_fst e) a4
        rw [d1] at this
        exact this
    · rw [stepC, if_neg hh] at hs
      obtain rfl := Option.some.inj hs
      exact ⟨h, (specStepX_add_dead _ (absV_of_not_mem hh) _ _).symm⟩
  | addPtr hd q f p =>
    by_cases hcnd : hd ∈ s.hx.core.hl ∧ p ∈ s.ext
    · rw [stepC, if_pos hcnd] at hs
      obtain rfl := Option.some.inj hs
      obtain ⟨a1, a2⟩ := internalAddI_ok (S := (s.hx.core, s.cache)) h.heap hcnd.1 q f hcnd.2 hc
      rw [add_eq s hcnd.1, valOp, if_pos hcnd.2]
      exact add_core h hcnd.1 q f hcnd.2 hc (fun _ _ => rfl)
        (a1.of_fst (internalAddI_fst .lib (s.hx.core, s.cache) hd q f p hcnd.1)) a2
    · rw [stepC, if_neg hcnd] at hs
      obtain rfl := Option.some.inj hs
      refine ⟨h, ?_⟩
      rw [valOp]
      split
      · rename_i hp
        exact (specStepX_add_dead _ (absV_of_not_mem fun x => hcnd ⟨x, hp⟩) _ _).symm
      · rfl
  | envLookup t ch =>
    cases hl : lookupC s.cache t ch with
    | none => rw [stepC, hl] at hs; cases hs
    | some x =>
      obtain ⟨c₁, p⟩ := x
      rw [stepC, hl] at hs
      obtain rfl := Option.some.inj hs
      obtain ⟨h1, _, k1⟩ := CInv.lookupC hc hl
      exact same_heap h (h1.perm List.perm_middle.symm)
        fun id hid => deref_of_sub hc h1 k1 (List.mem_append_left _ hid)
  | envCopy p =>
    rw [stepC] at hs
    split at hs
    · rename_i hp
      obtain rfl := Option.some.inj hs
      have h1 : CI (s.hx.core, acquireC s.cache p) (p :: s.ext) := (CInv.acquireC hc hp).perm List.perm_middle.symm
      exact same_heap h h1 fun id hid =>
        (deref_of_sub h1 hc (acquireC_sub _ _) (List.mem_append_left _ hid)).symm
    · cases hs
      exact ⟨h, rfl⟩
  | envRelease p =>
    rw [stepC] at hs
    split at hs
    · rename_i hp
      obtain rfl := Option.some.inj hs
      have h3 : CI (s.hx.core, releaseC .lib s.cache p) (s.ext.erase p) :=
        CInv.releaseC (hc.perm (((List.perm_cons_erase hp).append_left _).trans List.perm_middle))
      exact same_heap h h3 fun id hid =>
        (deref_of_sub h3 hc (releaseC_sub _ _) (List.mem_append_left _ hid)).symm
    · cases hs
      exact ⟨h, rfl⟩

theorem foldl_toList (a : Nat → Option ValX) (o : Option HOpX) : o.toList.foldl specStepX a = specV a o := by
  cases o <;> rfl

theorem runFrom_lib {s s' : Sys} {ops : List Op} (h : Inv' s) (hs : runFrom .lib s ops = some s') :
    Inv' s' ∧ absV s' = (valOps s ops).foldl specStepX (absV s) := by
  induction ops generalizing s with
  | nil => cases hs; exact ⟨h, rfl⟩
  | cons op ops ih =>
    rw [runFrom] at hs
    cases h1 : stepC .lib s op with
    | none => rw [h1] at hs; cases hs
    | some s₁ =>
      rw [h1] at hs
      obtain ⟨hi, ha⟩ := stepC_lib h h1
      obtain ⟨hi', ha'⟩ := ih hi hs
      exact ⟨hi', by rw [ha', ha, valOps, h1, List.foldl_append, foldl_toList]⟩

theorem valOp_noPtr (s : Sys) {op : Op} (h : noPtr op = true) : valOp s op = valOp0 op := by
  cases op <;> first | rfl | cases h

/-- without `addPtr` the value-level history does not depend on the run -/
theorem valOps_noPtr {s s' : Sys} {ops : List Op} (hnp : ∀ op, op ∈ ops → noPtr op = true)
    (hs : runFrom .lib s ops = some s') : valOps s ops = ops.filterMap valOp0 := by
  induction ops generalizing s with
  | nil => rfl
  | cons op ops ih =>
    rw [runFrom] at hs
    cases h1 : stepC .lib s op with
    | none => rw [h1] at hs; cases hs
    | some s₁ =>
      rw [h1] at hs
      rw [valOps, h1, valOp_noPtr s (hnp op List.mem_cons_self)]
      show (valOp0 op).toList ++ valOps s₁ ops = _
      rw [ih (fun o ho => hnp o (List.mem_cons_of_mem _ ho)) hs, List.filterMap_cons]
      cases valOp0 op <;> rfl

/-- the address a call offers for a new cache node -/
def opChoice : Op → Option Nat
  | .add _ _ ch => some ch
  | .envLookup _ ch => some ch
  | _ => none

theorem isSome_ite_some {α : Type} (g : Prop) [Decidable g] (a b : α) : (if g then some a else some b).isSome = true := by
  split <;> rfl

theorem stepC_isSome (md : Mode) (s : Sys) (op : Op) (h : ∀ ch, opChoice op = some ch → ch ∉ StoreI.liveIds s.cache) :
    (stepC md s op).isSome = true := by
  cases op with
  | add hd r ch =>
    obtain ⟨x, hl⟩ := Option.isSome_iff_exists.1 (StoreI.lookupC_isSome (t := r.kids) (h ch rfl))
    rw [stepC, hl]
    exact isSome_ite_some _ _ _
  | envLookup t ch =>
    obtain ⟨x, hl⟩ := Option.isSome_iff_exists.1 (StoreI.lookupC_isSome (t := t) (h ch rfl))
    rw [stepC, hl]
    rfl
  | addPtr _ _ _ _ | envCopy _ | envRelease _ => exact isSome_ite_some _ _ _
  | new _ | copy _ _ | assign _ _ | destroy _ | clear _ | setFinal _ _ => rfl

theorem opChoice_setChoice {ch ch' : Nat} {op : Op} (h : opChoice (setChoice ch op) = some ch') : ch' = ch := by
  cases op <;> cases h <;> rfl

/-- the history actually played against the allocator -/
def playedOps (alloc : List Nat → Nat) : Sys → List Op → List Op
  | _, [] => []
  | s, op :: ops =>
    setChoice (alloc (StoreI.liveIds s.cache)) op ::
      (match stepC .lib s (setChoice (alloc (StoreI.liveIds s.cache)) op) with
       | none => []
       | some s' => playedOps alloc s' ops)

/-- against a fair allocator (never the address of a live tuple) every history runs to the end -/
theorem runA_lib {alloc : List Nat → Nat} (hf : ∀ l, alloc l ∉ l) {s : Sys} (h : Inv' s) (ops : List Op) :
    ∃ s', runA .lib alloc s ops = some s' ∧ Inv' s' ∧
      absV s' = (valOps s (playedOps alloc s ops)).foldl specStepX (absV s) := by
  induction ops generalizing s with
  | nil => exact ⟨s, rfl, h, rfl⟩
  | cons op ops ih =>
    obtain ⟨s₁, h1⟩ := Option.isSome_iff_exists.1 (stepC_isSome .lib s (setChoice (alloc (StoreI.liveIds s.cache)) op)
      fun ch hch => opChoice_setChoice hch ▸ hf _)
    obtain ⟨hi, ha⟩ := stepC_lib h h1
    obtain ⟨s', hr, hi', ha'⟩ := ih hi
    refine ⟨s', by rw [runA, h1]; exact hr, hi', ?_⟩
    rw [ha', ha, playedOps, valOps, h1, List.foldl_append, foldl_toList]

/-- the tuple set the two `find`s of `ContainsTransition` arrive at, at the level of values -/
theorem contains_derefS (c : CacheSt) (H : Heap) (m : Nat) (fin : List Nat) (r : Rule) :
    Store.contains (derefS c ⟨valM H m, fin⟩) r =
      (match (H.ment m).lookup r.parent with
       | none => false
       | some cn =>
         match (H.cent cn).lookup r.sym with
         | none => false
         | some ts => ((H.tdat ts).map (derefCell c)).contains r.kids) := by
  unfold Store.contains derefS valM
  simp only [lookup_map_vals]
  cases (H.ment m).lookup r.parent with
  | none => rfl
  | some cn =>
    simp only [Option.map_some]
    unfold valC
    simp only [lookup_map_vals]
    cases (H.cent cn).lookup r.sym <;> rfl

theorem containsMI_isSome (s : Sys) (h : Nat) (r : Rule) {ch : Nat} (hch : ch ∉ StoreI.liveIds s.cache) :
    (containsMI s h r ch).isSome = true := by
  obtain ⟨x, hl⟩ := Option.isSome_iff_exists.1 (StoreI.lookupC_isSome (t := r.kids) hch)
  rw [containsMI, hl]
  split
  · split
    · rfl
    · split <;> rfl
  · rfl

theorem containsMI_lib {s s' : Sys} {h : Nat} {r : Rule} {ch : Nat} {b : Bool} (hi : Inv' s)
    (hc : containsMI s h r ch = some (s', b)) :
    Inv' s' ∧ absV s' = absV s ∧
      b = (match absV s h with
           | some v => Store.contains v r
           | none => false) := by
  have hcv : CInv s.cache (refsT s.hx.core ++ s.ext) := hi.cache
  unfold containsMI at hc
  by_cases hh : h ∈ s.hx.core.hl
  · rw [if_pos hh] at hc
    rw [absV_of_mem hh]
    simp only
    rw [contains_derefS]
    cases hq : (s.hx.core.ment (s.hx.core.hmap h)).lookup r.parent with
    | none =>
      simp only [hq] at hc
      cases hc
      exact ⟨hi, rfl, rfl⟩
    | some cn =>
      simp only [hq] at hc ⊢
      cases hf : (s.hx.core.cent cn).lookup r.sym with
      | none =>
        simp only [hf] at hc
        cases hc
        exact ⟨hi, rfl, rfl⟩
      | some ts =>
        simp only [hf] at hc ⊢
        cases hl : lookupC s.cache r.kids ch with
        | none => rw [hl] at hc; cases hc
        | some x =>
          obtain ⟨c₁, p⟩ := x
          simp only [hl] at hc
          cases hc
          have hcn : cn ∈ s.hx.core.cl := hi.heap.mc.pt _ (hmap_mem hi.heap hh) cn (mem_of_lookup_snd hq)
          have hts : ts ∈ s.hx.core.tl := hi.heap.ct.pt _ hcn ts (mem_of_lookup_snd hf)
          have hcells : CellsT (s.hx.core.tdat ts) :=
            hi.cells h _ (absX_of_mem hh) (r.parent, valC s.hx.core cn)
              (List.mem_map.2 ⟨(r.parent, cn), mem_of_lookup hq, rfl⟩) (r.sym, s.hx.core.tdat ts)
              (List.mem_map.2 ⟨(r.sym, ts), mem_of_lookup hf, rfl⟩)
          obtain ⟨h3, hd⟩ := CInv.lookup_release hcv hl
          obtain ⟨g1, g2⟩ := same_heap hi (E' := s.ext) h3 fun id hid => hd id (List.mem_append_left _ hid)
          refine ⟨g1, g2, ?_⟩
          rw [hcells.contains_cell, hcells.map_derefCell]
          exact CInv.contains_lookup hcv hl fun a ha => List.mem_append_left _ (mem_refsT hts ha)
  · rw [if_neg hh] at hc
    cases hc
    exact ⟨hi, rfl, by rw [absV_of_not_mem hh]⟩

/-- a call whose guard fails is invisible at the value level too -/
theorem noop {s : Sys} (h : Inv' s) {op' : HOpX} (hop : simpleOp2 op') (e : stepX s.hx op' = s.hx) :
    specStepX (absV s) op' = absV s :=
  (step_core h hop (S' := (s.hx.core, s.cache)) e (.refl h.cache)).2.symm

/-- A guarded call of `stepC2`: under the guard `g` the threaded primitive returns `S'` and `stepX … op'` is `⟨S'.1, fin⟩`;
    otherwise nothing happens on either side. -/
theorem guarded_core {s s' : Sys} (h : Inv' s) {op' : HOpX} (hop : simpleOp2 op') {g : Prop} [Decidable g] {S' : HC}
    {fin : Nat → List Nat} (hx : stepX s.hx op' = if g then ⟨S'.1, fin⟩ else s.hx)
    (hok : g → Keeps S' (s.hx.core, s.cache) s.ext) (hs : (if g then some (withCore s S' fin) else some s) = some s') :
    Inv' s' ∧ absV s' = specStepX (absV s) op' := by
  by_cases hg : g
  · rw [if_pos hg] at hs hx
    obtain rfl := Option.some.inj hs
    exact step_core h hop hx (hok hg)
  · rw [if_neg hg] at hs hx
    obtain rfl := Option.some.inj hs
    exact ⟨h, (noop h hop hx).symm⟩

theorem stepC2_lib {s s' : Sys} {op : Op2} (h : Inv' s) (hs : stepC2 .lib s op = some s') :
    Inv' s' ∧ absV s' = specV (absV s) (valOp2 s op) := by
  have hc : CI (s.hx.core, s.cache) s.ext := h.cache
  have hI : CowHeap3.Inv s.hx.core := h.heap
  cases op with
  | base op => exact stepC_lib h hs
  | move src dst =>
    exact guarded_core h (op' := .move src dst) trivial (S' := moveI (s.hx.core, s.cache) src dst) rfl
      (fun _ => .refl hc) hs
  | moveAssign src dst =>
    exact guarded_core h (op' := .moveAssign src dst) trivial (S' := moveAssignI (s.hx.core, s.cache) src dst)
      (by rw [moveAssignI_fst]; rfl) (fun hg => moveAssignI_ok hI hg.1 hg.2.1 hg.2.2 hc) hs
  | shareAll src dst keepF =>
    exact guarded_core h (op' := .shareAll src dst keepF) trivial (S' := shareAllI (s.hx.core, s.cache) src dst)
      (by rw [shareAllI_fst]; rfl) (fun _ => shareAllI_ok hI src dst hc) hs
  | shareClusters src dst keep =>
    exact guarded_core h (op' := .shareClusters src dst keep) trivial
      (S' := shareClustersI (s.hx.core, s.cache) src dst keep) (by rw [shareClustersI_fst]; rfl)
      (fun _ => shareClustersI_ok hI src dst keep hc) hs
  | unionDisj a b dst =>
    exact guarded_core h (op' := .unionDisj a b dst) trivial (S' := unionDisjI (s.hx.core, s.cache) a b dst)
      (by rw [unionDisjI_fst]; rfl) (fun hg => unionDisjI_ok hI hg.1 hg.2.2 b hc) hs
  | query hd r ch =>
    cases hq : containsMI s hd r ch with
    | none => rw [stepC2, hq] at hs; cases hs
    | some x =>
      rw [stepC2, hq] at hs
      obtain rfl := Option.some.inj hs
      exact ⟨(containsMI_lib h hq).1, (containsMI_lib h hq).2.1⟩

theorem runFrom2_lib {s s' : Sys} {ops : List Op2} (h : Inv' s) (hs : runFrom2 .lib s ops = some s') :
    Inv' s' ∧ absV s' = (valOps2 s ops).foldl specStepX (absV s) := by
  induction ops generalizing s with
  | nil => cases hs; exact ⟨h, rfl⟩
  | cons op ops ih =>
    rw [runFrom2] at hs
    cases h1 : stepC2 .lib s op with
    | none => rw [h1] at hs; cases hs
    | some s₁ =>
      rw [h1] at hs
      obtain ⟨hi, ha⟩ := stepC2_lib h h1
      obtain ⟨hi', ha'⟩ := ih hi hs
      exact ⟨hi', by rw [ha', ha, valOps2, h1, List.foldl_append, foldl_toList]⟩

theorem run2_lib {s' : Sys} {ops : List Op2} (hs : run2 .lib ops = some s') :
    Inv' s' ∧ absV s' = (valOps2 init ops).foldl specStepX (absV init) :=
  runFrom2_lib inv_init hs

theorem opChoice2_base (op : Op) : opChoice2 (.base op) = opChoice op := by
  cases op <;> rfl

theorem use_count {s : Sys} (h : Inv' s) {v : List Nat} {id rc : Nat} (hm : (v, id, rc) ∈ s.cache) :
    rc = (refsT s.hx.core).count id + s.ext.count id ∧ 0 < rc := by
  rw [← List.count_append]
  exact h.cache.cnt v id rc hm

theorem held_is_live {s : Sys} (h : Inv' s) {id : Nat} (hid : id ∈ refsT s.hx.core ++ s.ext) :
    ∃ v rc, (v, id, rc) ∈ s.cache ∧ derefC s.cache id = v := by
  obtain ⟨v, rc, hm⟩ := h.cache.live id hid
  exact ⟨v, rc, hm, h.cache.derefC_eq hm⟩

/-- all entries die when all automata die (and nobody outside holds a pointer): the `assert(this->empty())` of `~Cache()` -/
theorem no_leak {s : Sys} (h : Inv' s) (hl : s.hx.core.hl = []) (he : s.ext = []) : s.cache = [] := by
  have hc : CInv s.cache (refsT s.hx.core ++ s.ext) := h.cache
  rw [refsT, (CowHeapX.no_garbageX h.heap hl).2.2, he] at hc
  exact hc.eq_nil

theorem inv_of_invB {s : Sys} (h : invB s = true) (hcells : CellsV (absX s.hx)) : Inv' s := by
  unfold invB at h
  simp only [Bool.and_eq_true] at h
  exact ⟨(CowHeapX.invBX_iff s.hx).1 h.1, StoreI.cinv_of_cacheInvB h.2, hcells⟩

end Vata.CowI
