import Vata.CowHeapX
import Vata.Proofs.CowHeap3
/-!
Proofs for `Vata/CowHeapX.lean`: the copy-on-write heap of `Vata/CowHeap3.lean` with final-state sets, move, and the operations
that share storage on purpose (`RemoveUnreachableStates`, `RemoveUselessStates`, `UnionDisjointStates`). Every `HOpX` keeps the
reference-count invariant and acts on the handle values like `specStepX`; so handles behave as independent values, a handle
that is not a target of an operation keeps its value, and nothing is left allocated when the last handle is gone.
-/
namespace Vata.CowHeapX

open Vata.CowHeap (upd upd_same upd_other upd_upd_same upd_self map_upd ite_upd_other ite_upd_other' HOp Val specStep)
open Vata.CowHeap3 (Heap dropHandle uniqueMap valM valC mout Lvl InvP Inv Owns abs abs_of_mem abs_of_not_mem abs_isSome
  abs_isNone val_upd val_upd_other hmap_mem replaceMap_spec cow3_refines_values)

variable {H : Heap}

theorem mout_insertEntries (H : Heap) (m : Nat) (ins : List (Nat × Nat)) :
    mout (insertEntries H m ins) = upd (mout H) m (mout H m ++ ins.map Prod.snd) :=
  (map_upd (List.map Prod.snd) H.ment m _).trans (congrArg (upd (mout H) m) List.map_append)

theorem insertEntries_inv {pm pc pt : List Nat} {m : Nat} {ins : List (Nat × Nat)} (h : InvP H pm pc pt)
    (hm : m ∈ H.ml) (hins : ∀ c, c ∈ ins.map Prod.snd → c ∈ H.cl) : InvP (insertEntries H m ins) pm pc pt := by
  refine ⟨h.hm, ?_, h.ct⟩
  rw [mout_insertEntries]
  exact Lvl.setR (new := ins.map Prod.snd) (h.mc.bump (ins.map Prod.snd) hins) hm (mout H m ++ ins.map Prod.snd) []
    (fun _ => (Nat.add_zero _).trans List.count_append)

theorem abs_insertEntries {h : Nat} (o : Owns H h) (ins : List (Nat × Nat)) :
    abs (insertEntries H (H.hmap h) ins) =
      upd (abs H) h (some (valM H (H.hmap h) ++ ins.map (fun kc => (kc.1, valC H kc.2)))) :=
  CowHeap3.abs_of_valM_upd o rfl rfl
    ((map_upd (List.map fun kc : Nat × Nat => (kc.1, valC H kc.2)) H.ment (H.hmap h) _).trans
      (congrArg (upd (valM H) (H.hmap h)) List.map_append))

theorem missing_map {β γ : Type} (f : β → γ) (acc l : List (Nat × β)) :
    (missing acc l).map (fun kc => (kc.1, f kc.2)) =
      missing (acc.map (fun kc => (kc.1, f kc.2))) (l.map (fun kc => (kc.1, f kc.2))) := by
  induction l generalizing acc with
  | nil => rfl
  | cons kc l ih =>
    simp only [missing, List.map_cons, lookup_map_vals, Option.isSome_map]
    split
    · exact ih acc
    · rw [List.map_cons, ih (acc ++ [kc]), List.map_append]
      rfl

theorem mem_missing {β : Type} {acc l : List (Nat × β)} {x : Nat × β} (h : x ∈ missing acc l) : x ∈ l := by
  induction l generalizing acc with
  | nil => exact h
  | cons kc l ih =>
    rw [missing] at h
    split at h
    · exact List.mem_cons_of_mem _ (ih h)
    · exact (List.mem_cons.mp h).elim (fun e => e ▸ List.mem_cons_self) (fun h' => List.mem_cons_of_mem _ (ih h'))

theorem moveCore_spec (hI : Inv H) {src dst : Nat} (hs : src ∈ H.hl) (hd : dst ∉ H.hl) :
    abs (moveCore H src dst) = upd (upd (abs H) src none) dst (some (valM H (H.hmap src))) ∧
      Inv (moveCore H src dst) := by
  have hd' : dst ∉ (dropHandle H src).hl := fun hm => hd (List.mem_of_mem_erase hm)
  refine ⟨?_, CowHeap3.addHandle_inv (CowHeap3.dropHandle_inv hI hs) hd'⟩
  rw [moveCore, CowHeap3.abs_addHandle, CowHeap3.abs_dropHandle hI.hm.rnd]
  rfl

theorem moveAssignCore_spec (hI : Inv H) {src dst : Nat} (hs : src ∈ H.hl) (hd : dst ∈ H.hl) (hne : src ≠ dst) :
    abs (moveAssignCore H src dst) = upd (upd (abs H) src none) dst (some (valM H (H.hmap src))) ∧
      Inv (moveAssignCore H src dst) := by
  have hd' : dst ∈ (dropHandle H src).hl := (List.mem_erase_of_ne (fun e => hne e.symm)).mpr hd
  refine ⟨?_, CowHeap3.releaseMap_inv (CowHeap3.retarget_inv (h := dst) (CowHeap3.dropHandle_inv hI hs) hd')⟩
  rw [moveAssignCore, (CowHeap3.releaseMap_same _ _).eqAbs, CowHeap3.abs_retarget (H := dropHandle H src) _ hd',
    CowHeap3.abs_dropHandle hI.hm.rnd]
  rfl

theorem moveCore_nodes (H : Heap) (src dst : Nat) :
    (moveCore H src dst).ml = H.ml ∧ (moveCore H src dst).mrc = H.mrc ∧ (moveCore H src dst).ment = H.ment ∧
    (moveCore H src dst).cl = H.cl ∧ (moveCore H src dst).crc = H.crc ∧ (moveCore H src dst).cent = H.cent ∧
    (moveCore H src dst).tl = H.tl ∧ (moveCore H src dst).trc = H.trc ∧ (moveCore H src dst).tdat = H.tdat ∧
    (moveCore H src dst).next = H.next ∧ (moveCore H src dst).hmap dst = H.hmap src :=
  ⟨rfl, rfl, rfl, rfl, rfl, rfl, rfl, rfl, rfl, rfl, upd_same _ _ _⟩

theorem step_new_dead (hI : Inv H) {dst : Nat} (hd : dst ∉ H.hl) :
    abs (CowHeap3.step H (.new dst)) = upd (abs H) dst (some []) ∧ Inv (CowHeap3.step H (.new dst)) := by
  simp only [CowHeap3.step, if_neg hd]
  exact CowHeap3.new_spec hI hd

theorem step_copy_live (hI : Inv H) {src dst : Nat} (hs : src ∈ H.hl) (hd : dst ∉ H.hl) :
    abs (CowHeap3.step H (.copy src dst)) = upd (abs H) dst (some (valM H (H.hmap src))) ∧
      Inv (CowHeap3.step H (.copy src dst)) := by
  simp only [CowHeap3.step, if_pos (And.intro hs hd)]
  exact abs_of_mem hs ▸ CowHeap3.copy_spec hI hs hd

theorem shareAllCore_spec (hI : Inv H) {src dst : Nat} (hs : src ∈ H.hl) (hd : dst ∉ H.hl) :
    abs (shareAllCore H src dst) = upd (abs H) dst (some (valM H (H.hmap src))) ∧ Inv (shareAllCore H src dst) := by
  have hne : src ≠ dst := fun e => hd (e ▸ hs)
  obtain ⟨h2, h1⟩ := step_new_dead hI hd
  unfold shareAllCore
  generalize CowHeap3.step H (.new dst) = H1 at h1 h2
  have hs1 := (val_upd_other h2 hs hne).1
  have hd1 := (val_upd h2).1
  obtain ⟨h3, h4⟩ := CowHeap3.assign_spec h1 hs1 hd1
  rw [CowHeap3.step, if_pos (And.intro hs1 (And.intro hd1 hne))]
  rw [h2, upd_upd_same, upd_other _ _ hne, abs_of_mem hs] at h3
  exact ⟨h3, h4⟩

theorem shareClustersCore_spec (hI : Inv H) {src dst : Nat} (hs : src ∈ H.hl) (hd : dst ∉ H.hl) (keep : Nat → Bool) :
    abs (shareClustersCore H src dst keep) =
        upd (abs H) dst (some ((valM H (H.hmap src)).filter (fun kc => keep kc.1))) ∧
      Inv (shareClustersCore H src dst keep) := by
  have hne : src ≠ dst := fun e => hd (e ▸ hs)
  obtain ⟨h2, h1⟩ := step_new_dead hI hd
  obtain ⟨g1, g2, g3, g4⟩ := replaceMap_spec h1 (val_upd h2).1 [] (fun _ hc => nomatch hc)
  rw [h2, upd_upd_same] at g2
  unfold shareClustersCore
  simp only
  rw [show freshMap (CowHeap3.step H (.new dst)) dst = CowHeap3.replaceMap (CowHeap3.step H (.new dst)) dst [] from rfl]
  generalize CowHeap3.replaceMap (CowHeap3.step H (.new dst)) dst [] = H1 at g1 g2 g3 g4
  -- `H1` : `dst` has a fresh empty map node of its own, `src` is as it was
  have hdv := val_upd (v := []) g2
  have hsv := val_upd_other g2 hs hne
  constructor
  · rw [abs_insertEntries ⟨g1, hdv.1, g4⟩, g2, upd_upd_same, hdv.2, List.nil_append, ← hsv.2]
    show _ = upd _ _ (some (List.filter _ ((H1.ment (H1.hmap src)).map _)))
    rw [List.filter_map]
    rfl
  · apply insertEntries_inv g1 (hmap_mem g1 hdv.1)
    intro c hc
    obtain ⟨kc, hkc, e⟩ := List.mem_map.mp hc
    exact g1.mc.pt _ (hmap_mem g1 hsv.1) c (List.mem_map.mpr ⟨kc, (List.mem_filter.mp hkc).1, e⟩)

theorem unionDisjCore_spec (hI : Inv H) {a b dst : Nat} (ha : a ∈ H.hl) (hb : b ∈ H.hl) (hd : dst ∉ H.hl) :
    abs (unionDisjCore H a b dst) =
        upd (abs H) dst (some (valM H (H.hmap a) ++ missing (valM H (H.hmap a)) (valM H (H.hmap b)))) ∧
      Inv (unionDisjCore H a b dst) := by
  have hne : b ≠ dst := fun e => hd (e ▸ hb)
  obtain ⟨h2, h1⟩ := step_copy_live hI ha hd
  obtain ⟨g1, g2, g3, g4⟩ := CowHeap3.uniqueMap_spec h1 (val_upd h2).1
  rw [h2] at g2
  unfold unionDisjCore
  simp only
  generalize uniqueMap (CowHeap3.step H (.copy a dst)) dst = H1 at g1 g2 g3 g4
  -- `H1` : `dst` has a map node of its own with the value of `a`, `b` is as it was
  have hdv := val_upd g2
  have hbv := val_upd_other g2 hb hne
  constructor
  · rw [abs_insertEntries ⟨g1, hdv.1, g4⟩, g2, upd_upd_same, missing_map (valC H1)]
    show upd (abs H) dst (some (valM H1 (H1.hmap dst) ++ missing (valM H1 (H1.hmap dst)) (valM H1 (H1.hmap b)))) = _
    rw [hdv.2, hbv.2]
  · apply insertEntries_inv g1 (hmap_mem g1 hdv.1)
    intro c hc
    obtain ⟨kc, hkc, e⟩ := List.mem_map.mp hc
    exact g1.mc.pt _ (hmap_mem g1 hbv.1) c (List.mem_map.mpr ⟨kc, mem_missing hkc, e⟩)

/-- the reference-count invariant of the shared part (the final sets are plain values: nothing to maintain) -/
def InvX (H : HeapX) : Prop := Inv H.core

theorem invX_init : InvX initX := CowHeap3.inv_init

theorem invBX_iff (H : HeapX) : invBX H = true ↔ InvX H := CowHeap3.invB_iff H.core

theorem absX_of_mem {H : HeapX} {x : Nat} (hx : x ∈ H.core.hl) :
    absX H x = some ⟨valM H.core (H.core.hmap x), H.fin x⟩ := if_pos hx
theorem absX_of_not_mem {H : HeapX} {x : Nat} (hx : x ∉ H.core.hl) : absX H x = none := if_neg hx

theorem absX_eq (H : HeapX) (x : Nat) : absX H x = (abs H.core x).map (fun v => ⟨v, H.fin x⟩) := by
  by_cases hx : x ∈ H.core.hl
  · rw [absX_of_mem hx, abs_of_mem hx]; rfl
  · rw [absX_of_not_mem hx, abs_of_not_mem hx]; rfl

theorem absX_isSome {H : HeapX} {x : Nat} : (absX H x).isSome = true ↔ x ∈ H.core.hl := by
  rw [absX_eq, Option.isSome_map, abs_isSome]
theorem absX_isNone {H : HeapX} {x : Nat} : (absX H x).isNone = true ↔ x ∉ H.core.hl := by
  rw [absX_eq, Option.isNone_map, abs_isNone]

theorem absX_clusters (H : HeapX) (x : Nat) : (absX H x).map (·.clusters) = abs H.core x := by
  rw [absX_eq, Option.map_map]
  exact Option.map_id'

theorem absX_init : absX initX = specInitX := rfl

theorem absX_upd_some {HX : HeapX} {core' : Heap} {d : Nat} {v : Val} (f : List Nat)
    (hc : abs core' = upd (abs HX.core) d (some v)) :
    absX ⟨core', upd HX.fin d f⟩ = upd (absX HX) d (some ⟨v, f⟩) := by
  funext x
  rw [absX_eq]
  show (abs core' x).map (fun v => (⟨v, upd HX.fin d f x⟩ : ValX)) = _
  rw [hc]
  by_cases e : x = d
  · rw [e, upd_same, upd_same, upd_same]; rfl
  · rw [upd_other _ _ e, upd_other _ _ e, upd_other _ _ e, absX_eq]

theorem absX_upd_none {HX : HeapX} {core' : Heap} {d : Nat} (hc : abs core' = upd (abs HX.core) d none) :
    absX ⟨core', HX.fin⟩ = upd (absX HX) d none := by
  funext x
  rw [absX_eq, hc]
  by_cases e : x = d
  · rw [e, upd_same, upd_same]; rfl
  · rw [upd_other _ _ e, upd_other _ _ e, absX_eq]

theorem absX_same {HX : HeapX} {core' : Heap} (hc : abs core' = abs HX.core) : absX ⟨core', HX.fin⟩ = absX HX := by
  funext x
  rw [absX_eq, absX_eq, hc]

variable {HX : HeapX}

theorem fin_only {h : Nat} (hh : h ∈ HX.core.hl) (f : List Nat) :
    absX ⟨HX.core, upd HX.fin h f⟩ = upd (absX HX) h (some ⟨valM HX.core (HX.core.hmap h), f⟩) :=
  absX_upd_some f (CowHeap3.upd_abs_self hh).symm

theorem absX_move {core' : Heap} {src dst : Nat} {v : Val} (hI : InvX HX) (f : List Nat)
    (hc : abs core' = upd (upd (abs HX.core) src none) dst (some v)) :
    absX ⟨core', upd HX.fin dst f⟩ = upd (upd (absX HX) src none) dst (some ⟨v, f⟩) := by
  have h3 : absX ⟨dropHandle HX.core src, HX.fin⟩ = upd (absX HX) src none :=
    absX_upd_none (CowHeap3.abs_dropHandle hI.hm.rnd src)
  rw [← h3]
  apply absX_upd_some (HX := ⟨dropHandle HX.core src, HX.fin⟩)
  rw [hc, CowHeap3.abs_dropHandle hI.hm.rnd src]

/-- every operation (final states, selective copy, move, move assignment, the three sharing operations and those of `CowHeap3.HOp`)
    keeps the reference-count invariant at all three levels and acts on the handle values exactly like the value-level
    specification -/
theorem cowX_refines_values (hI : InvX HX) (op : HOpX) :
    absX (stepX HX op) = specStepX (absX HX) op ∧ InvX (stepX HX op) := by
  -- the guards of `specStepX` on `absX HX` are the guards of `stepX`; when they fail nothing happens, when they hold the
  -- `_spec` lemma of the operation says what is written through the target on the shared part, and `absX_upd_some` adds
  -- the final states
  cases op with
  | new h =>
    simp only [stepX, specStepX, absX_isSome, CowHeap3.step]
    split
    · exact ⟨rfl, hI⟩
    · next hh => exact (CowHeap3.new_spec hI hh).imp_left (absX_upd_some [])
  | copy src dst ct cf =>
    simp only [stepX, specStepX, absX_isSome, absX_isNone]
    split
    · next hc =>
      rw [absX_of_mem hc.1]
      cases ct
      · exact (step_new_dead hI hc.2).imp_left (absX_upd_some _)
      · exact (step_copy_live hI hc.1 hc.2).imp_left (absX_upd_some _)
    · exact ⟨rfl, hI⟩
  | assign src dst =>
    simp only [stepX, specStepX, absX_isSome, CowHeap3.step]
    split
    · next hc =>
      rw [absX_of_mem hc.1]
      exact (abs_of_mem hc.1 ▸ CowHeap3.assign_spec hI hc.1 hc.2.1).imp_left (absX_upd_some _)
    · exact ⟨rfl, hI⟩
  | move src dst =>
    simp only [stepX, specStepX, absX_isSome, absX_isNone]
    split
    · next hc =>
      rw [absX_of_mem hc.1]
      exact (moveCore_spec hI hc.1 hc.2).imp_left (absX_move hI _)
    · exact ⟨rfl, hI⟩
  | moveAssign src dst =>
    simp only [stepX, specStepX, absX_isSome]
    split
    · next hc =>
      rw [absX_of_mem hc.1]
      exact (moveAssignCore_spec hI hc.1 hc.2.1 hc.2.2).imp_left (absX_move hI _)
    · exact ⟨rfl, hI⟩
  | add h q v =>
    simp only [stepX, specStepX, CowHeap3.step]
    split
    · next hh =>
      rw [absX_of_mem hh]
      have := (CowHeap3.add_spec hI hh q v).imp_left (absX_upd_some (HX.fin h))
      rwa [upd_self] at this
    · next hh => rw [absX_of_not_mem hh]; exact ⟨rfl, hI⟩
  | setFinal h _ | setFinals h _ | eraseFinal h =>
    simp only [stepX, specStepX]
    split
    · next hh => rw [absX_of_mem hh]; exact ⟨fin_only hh _, hI⟩
    · next hh => rw [absX_of_not_mem hh]; exact ⟨rfl, hI⟩
  | clear h =>
    simp only [stepX, specStepX]
    split
    · next hh => rw [absX_of_mem hh]; exact (CowHeap3.clear_spec hI hh).imp_left (absX_upd_some [])
    · next hh =>
      rw [absX_of_not_mem hh, show CowHeap3.step HX.core (.clear h) = HX.core from if_neg hh]
      exact ⟨rfl, hI⟩
  | destroy h => exact (cow3_refines_values hI (.destroy h)).imp_left absX_upd_none
  | shareAll src dst keepF =>
    simp only [stepX, specStepX, absX_isSome, absX_isNone]
    split
    · next hc =>
      rw [absX_of_mem hc.1]
      exact (shareAllCore_spec hI hc.1 hc.2).imp_left (absX_upd_some _)
    · exact ⟨rfl, hI⟩
  | shareClusters src dst keep =>
    simp only [stepX, specStepX, absX_isSome, absX_isNone]
    split
    · next hc =>
      rw [absX_of_mem hc.1]
      exact (shareClustersCore_spec hI hc.1 hc.2 keep).imp_left (absX_upd_some _)
    · exact ⟨rfl, hI⟩
  | unionDisj a b dst =>
    simp only [stepX, specStepX]
    split
    · next hc =>
      rw [absX_of_mem hc.1, absX_of_mem hc.2.1]
      simp only [if_pos (absX_isNone.mpr hc.2.2)]
      exact (unionDisjCore_spec hI hc.1 hc.2.1 hc.2.2).imp_left (absX_upd_some _)
    · next hc =>
      refine ⟨?_, hI⟩
      by_cases ha : a ∈ HX.core.hl
      · by_cases hb : b ∈ HX.core.hl
        · rw [absX_of_mem ha, absX_of_mem hb]
          simp only [if_neg (fun hs => hc ⟨ha, hb, absX_isNone.mp hs⟩)]
        · rw [absX_of_mem ha, absX_of_not_mem hb]
      · rw [absX_of_not_mem ha]

theorem invX_step (hI : InvX HX) (op : HOpX) : InvX (stepX HX op) := (cowX_refines_values hI op).2

theorem history_refinesX (hI : InvX HX) (ops : List HOpX) :
    absX (ops.foldl stepX HX) = ops.foldl specStepX (absX HX) ∧ InvX (ops.foldl stepX HX) :=
  List.foldl_rel (r := fun H a => absX H = a ∧ InvX H) ⟨rfl, hI⟩
    (fun op _ _ _ h => h.1 ▸ cowX_refines_values h.2 op)

/-- for every operation history the handles behave as independent values -/
theorem history_isolationX (ops : List HOpX) : absX (ops.foldl stepX initX) = ops.foldl specStepX specInitX := by
  rw [(history_refinesX invX_init ops).1, absX_init]

theorem history_invX (ops : List HOpX) : InvX (ops.foldl stepX initX) := (history_refinesX invX_init ops).2

theorem no_garbageX (hI : InvX HX) (hl : HX.core.hl = []) : HX.core.ml = [] ∧ HX.core.cl = [] ∧ HX.core.tl = [] :=
  CowHeap3.no_garbage3 hI hl

theorem specStepX_other (a : Nat → Option ValX) (op : HOpX) (x : Nat) (hx : x ∉ targets op) :
    specStepX a op x = a x := by
  cases op with
  | new h => exact ite_upd_other' _ _ (List.ne_of_not_mem_cons hx)
  | copy _ h _ _ | assign _ h | shareAll _ h _ | shareClusters _ h _ =>
    exact ite_upd_other _ _ (List.ne_of_not_mem_cons hx)
  | move s h | moveAssign s h =>
    rw [specStepX]
    split
    · rw [upd_other _ _ (List.ne_of_not_mem_cons (List.not_mem_of_not_mem_cons hx)),
        upd_other _ _ (List.ne_of_not_mem_cons hx)]
    · rfl
  | add h _ _ | setFinal h _ | setFinals h _ | eraseFinal h | clear h =>
    rw [specStepX]
    cases a h with
    | none => rfl
    | some s => exact upd_other _ _ (List.ne_of_not_mem_cons hx)
  | destroy h => exact upd_other _ _ (List.ne_of_not_mem_cons hx)
  | unionDisj p q h =>
    rw [specStepX]
    cases a p with
    | none => rfl
    | some s =>
      cases a q with
      | none => rfl
      | some t => exact ite_upd_other _ _ (List.ne_of_not_mem_cons hx)

theorem stepX_other (hI : InvX HX) (op : HOpX) (x : Nat) (hx : x ∉ targets op) :
    absX (stepX HX op) x = absX HX x := by
  rw [(cowX_refines_values hI op).1]
  exact specStepX_other _ op x hx

/-- a handle that is never a target keeps its value through any sequence of operations – whatever happens to the handles
    it shares storage with (in particular to the operands it was computed from) -/
theorem untouched_keeps_value (hI : InvX HX) (ops : List HOpX) (x : Nat) (hx : ∀ op, op ∈ ops → x ∉ targets op) :
    absX (ops.foldl stepX HX) x = absX HX x := by
  rw [(history_refinesX hI ops).1]
  exact foldl_keeps (· x) (fun a op hop => specStepX_other a op x (hx op hop)) _

/-- `ReindexStates(dst, …)` (hence `Union`) writes into `dst` only -/
theorem reindexOps_targets (s : ValX) (dst : Nat) (idx : Nat → Nat) (addFinal : Bool) (op : HOpX)
    (hop : op ∈ reindexOps s dst idx addFinal) : targets op = [dst] := by
  unfold reindexOps at hop
  rcases List.mem_append.mp hop with h | h
  · split at h
    · obtain ⟨q, _, e⟩ := List.mem_map.mp h
      rw [← e]; rfl
    · cases h
  · obtain ⟨r, _, e⟩ := List.mem_map.mp h
    rw [← e]; rfl

theorem reindexOps_other (hI : InvX HX) (s : ValX) (dst : Nat) (idx : Nat → Nat) (addFinal : Bool) (x : Nat)
    (hx : x ≠ dst) : absX ((reindexOps s dst idx addFinal).foldl stepX HX) x = absX HX x := by
  apply untouched_keeps_value hI
  intro op hop
  rw [reindexOps_targets s dst idx addFinal op hop]
  exact fun h => hx (List.mem_singleton.mp h)

theorem core_ofHOp (HX : HeapX) (op : HOp) : (stepX HX (ofHOp op)).core = CowHeap3.step HX.core op := by
  cases op with
  | copy src dst =>
    by_cases hc : src ∈ HX.core.hl ∧ dst ∉ HX.core.hl
    · rw [ofHOp, stepX, if_pos hc]; rfl
    · rw [ofHOp, stepX, if_neg hc, CowHeap3.step, if_neg hc]
  | _ => rfl

theorem core_history_ofHOp (HX : HeapX) (ops : List HOp) :
    ((ops.map ofHOp).foldl stepX HX).core = ops.foldl CowHeap3.step HX.core := by
  induction ops generalizing HX with
  | nil => rfl
  | cons op ops ih => rw [List.map_cons, List.foldl_cons, List.foldl_cons, ih, core_ofHOp]

/-- on the operations of the smaller model the shared part of the heap is the heap of `Vata/CowHeap3.lean`, and the rule
    containers read through the handles are the same -/
theorem extends_CowHeap3 (ops : List HOp) (x : Nat) :
    ((ops.map ofHOp).foldl stepX initX).core = ops.foldl CowHeap3.step CowHeap3.init ∧
    (absX ((ops.map ofHOp).foldl stepX initX) x).map (·.clusters) = abs (ops.foldl CowHeap3.step CowHeap3.init) x := by
  have h := core_history_ofHOp initX ops
  refine ⟨h, ?_⟩
  rw [absX_clusters, h]
  rfl

/-! the value of `UnionDisjointStates` when the state sets are disjoint (what the C++ `assert`s) -/

theorem missing_of_disjoint {β : Type} (acc l : List (Nat × β)) (hnd : (l.map Prod.fst).Nodup)
    (hdis : ∀ kc, kc ∈ l → acc.lookup kc.1 = none) : missing acc l = l := by
  induction l generalizing acc with
  | nil => rfl
  | cons kc l ih =>
    rw [List.map_cons, List.nodup_cons] at hnd
    simp only [missing, hdis kc List.mem_cons_self, Option.isSome_none, Bool.false_eq_true, if_false]
    congr 1
    apply ih _ hnd.2
    intro kc' hkc'
    rw [List.lookup_append, hdis kc' (List.mem_cons_of_mem _ hkc')]
    have hne : kc'.1 ≠ kc.1 := fun e => hnd.1 (e ▸ List.mem_map.mpr ⟨kc', hkc', rfl⟩)
    simp [hne]

theorem copy_value (hI : InvX HX) {src dst : Nat} {s : ValX} (hs : absX HX src = some s) (hd : absX HX dst = none)
    (ct cf : Bool) :
    absX (stepX HX (.copy src dst ct cf)) dst =
      some ⟨if ct then s.clusters else [], if cf then s.final else []⟩ := by
  rw [(cowX_refines_values hI _).1]
  simp only [specStepX, hs, hd, Option.isSome_some, Option.isNone_none, and_self, if_true, upd_same, Option.map_some]

/-- the move constructor: `dst` holds what `src` held, `src` is gone -/
theorem move_value (hI : InvX HX) {src dst : Nat} {s : ValX} (hs : absX HX src = some s) (hd : absX HX dst = none) :
    absX (stepX HX (.move src dst)) dst = some s ∧ absX (stepX HX (.move src dst)) src = none := by
  have hne : src ≠ dst := by intro e; rw [e, hd] at hs; cases hs
  rw [(cowX_refines_values hI _).1]
  simp only [specStepX, hs, hd, Option.isSome_some, Option.isNone_none, and_self, if_true, upd_same,
    upd_other _ _ hne]

/-- move assignment: `dst` holds what `src` held (its old value is released), `src` is gone -/
theorem moveAssign_value (hI : InvX HX) {src dst : Nat} {s t : ValX} (hs : absX HX src = some s)
    (hd : absX HX dst = some t) (hne : src ≠ dst) :
    absX (stepX HX (.moveAssign src dst)) dst = some s ∧ absX (stepX HX (.moveAssign src dst)) src = none := by
  rw [(cowX_refines_values hI _).1]
  simp only [specStepX, hs, hd, Option.isSome_some, ne_eq, hne, not_false_eq_true, and_self, if_true, upd_same,
    upd_other _ _ hne]

/-- `RemoveUselessStates` with `remaining == 0` (and `RemoveUnreachableStates` returning `*this`, `keepF = fun _ => true`):
    the result has the rules of the operand and the kept final states -/
theorem shareAll_value (hI : InvX HX) {src dst : Nat} {s : ValX} (hs : absX HX src = some s) (hd : absX HX dst = none)
    (keepF : Nat → Bool) :
    absX (stepX HX (.shareAll src dst keepF)) dst = some ⟨s.clusters, s.final.filter keepF⟩ := by
  rw [(cowX_refines_values hI _).1]
  simp only [specStepX, hs, hd, Option.isSome_some, Option.isNone_none, and_self, if_true, upd_same, Option.map_some]

/-- `RemoveUnreachableStates` : the result has the clusters of the kept states and the final states of the operand -/
theorem shareClusters_value (hI : InvX HX) {src dst : Nat} {s : ValX} (hs : absX HX src = some s)
    (hd : absX HX dst = none) (keep : Nat → Bool) :
    absX (stepX HX (.shareClusters src dst keep)) dst =
      some ⟨s.clusters.filter (fun kc => keep kc.1), s.final⟩ := by
  rw [(cowX_refines_values hI _).1]
  simp only [specStepX, hs, hd, Option.isSome_some, Option.isNone_none, and_self, if_true, upd_same, Option.map_some]

/-- `UnionDisjointStates` -/
theorem unionDisj_value (hI : InvX HX) {a b dst : Nat} {s t : ValX} (ha : absX HX a = some s) (hb : absX HX b = some t)
    (hd : absX HX dst = none) :
    absX (stepX HX (.unionDisj a b dst)) dst = some (unionStore s t) := by
  rw [(cowX_refines_values hI _).1]
  simp only [specStepX, ha, hb, hd, Option.isNone_none, if_true, upd_same]

namespace CowExX

/-- automaton 1 with rules `5 ← 7()`, `6 ← 8(5)`, `4 ← 9(4)` and final state 6; automaton 2 := `RemoveUnreachableStates(1)`
    (state 4 is dropped: new map node, cluster nodes of 5 and 6 shared); then both are modified -/
def ops1 : List HOpX :=
  [.new 1, .add 1 5 (7, []), .add 1 6 (8, [5]), .add 1 4 (9, [4]), .setFinal 1 6,
   .shareClusters 1 2 (fun q => q == 5 || q == 6)]
def H1 : HeapX := ops1.foldl stepX initX

/-- the two objects have different map nodes, but the entries for 5 and 6 are the same cluster nodes, now with use
    count 2 -/
example : H1.core.hmap 1 = 0 ∧ H1.core.hmap 2 = 8 ∧ H1.core.ment 0 = [(5, 1), (6, 3), (4, 5)] ∧
    H1.core.ment 8 = [(5, 1), (6, 3)] ∧ H1.core.crc 1 = 2 ∧ H1.core.crc 3 = 2 ∧ H1.core.crc 5 = 1 ∧
    H1.core.ml = [8, 0] := by decide +kernel
example : absX H1 2 = some ⟨[(5, [(7, [[]])]), (6, [(8, [[5]])])], [6]⟩ := by decide +kernel
example : invBX H1 = true := by decide +kernel
example : InvX H1 := history_invX ops1

def ops2 : List HOpX :=
  ops1 ++ [.add 2 5 (7, [5, 5]), .add 1 6 (8, [6]), .setFinal 2 5, .eraseFinal 1, .new 4, .add 4 10 (7, []),
    .setFinal 4 10, .unionDisj 2 4 5, .add 4 10 (7, [10]), .clear 2]
def H2 : HeapX := ops2.foldl stepX initX

/-- neither write is visible through the other object; the union (object 5) shares the clusters of both operands and is
    not affected by the later `add` to 4 and `Clear` of 2 -/
example : absX H2 1 = some ⟨[(5, [(7, [[]])]), (6, [(8, [[5], [6]])]), (4, [(9, [[4]])])], []⟩ ∧
    absX H2 2 = some ⟨[], []⟩ ∧
    absX H2 4 = some ⟨[(10, [(7, [[], [10]])])], [10]⟩ ∧
    absX H2 5 = some ⟨[(5, [(7, [[], [5, 5]])]), (6, [(8, [[5]])]), (10, [(7, [[]])])], [6, 5, 10]⟩ := by
  decide +kernel
example : invBX H2 = true := by decide +kernel
example : absX H2 = ops2.foldl specStepX specInitX := history_isolationX ops2

def ops3 : List HOpX :=
  ops2 ++ [.move 5 6, .copy 6 7 false true, .shareAll 1 8 (fun q => q == 6), .moveAssign 6 2, .copy 4 5 true false,
    .assign 8 4, .setFinals 7 [1, 6, 2]]
def H3 : HeapX := ops3.foldl stepX initX

example : absX H3 5 = some ⟨[(10, [(7, [[], [10]])])], []⟩ ∧ absX H3 6 = none ∧
    absX H3 2 = some ⟨[(5, [(7, [[], [5, 5]])]), (6, [(8, [[5]])]), (10, [(7, [[]])])], [6, 5, 10]⟩ ∧
    absX H3 7 = some ⟨[], [6, 5, 10, 1, 2]⟩ ∧
    absX H3 8 = some ⟨[(5, [(7, [[]])]), (6, [(8, [[5], [6]])]), (4, [(9, [[4]])])], []⟩ ∧
    absX H3 4 = absX H3 8 := by
  decide +kernel
/-- `shareAll` : objects 1, 8 and (after the assignment) 4 use one map node -/
example : H3.core.hmap 8 = H3.core.hmap 1 ∧ H3.core.hmap 4 = H3.core.hmap 1 ∧ H3.core.mrc (H3.core.hmap 1) = 3 := by
  decide +kernel
example : invBX H3 = true := by decide +kernel

/-- destroying the remaining objects frees everything at all three levels -/
def H4 : HeapX :=
  (ops1 ++ ([.unionDisj 1 2 3, .move 3 4, .add 4 5 (7, [5]), .destroy 1, .destroy 2] : List HOpX)).foldl stepX initX
example : H4.core.hl = [4] ∧ H4.core.ml = [9] ∧ H4.core.cl = [10, 5, 3] ∧ H4.core.tl = [11, 6, 4] ∧
    absX H4 4 = some ⟨[(5, [(7, [[], [5]])]), (6, [(8, [[5]])]), (4, [(9, [[4]])])], [6]⟩ := by
  decide +kernel
example : (stepX H4 (.destroy 4)).core.hl = [] ∧ (stepX H4 (.destroy 4)).core.ml = [] ∧
    (stepX H4 (.destroy 4)).core.cl = [] ∧ (stepX H4 (.destroy 4)).core.tl = [] := by
  decide +kernel

/-- the invariant is not trivial: in `H1` the cluster node 1 (state 5) is shared by the map nodes of objects 1 and 2 (use
    count 2).  With that use count set to 1 the checker rejects the heap, and a write through object 2 becomes visible
    through object 1 (the operand of `RemoveUnreachableStates` would change when the result is modified) -/
def Hbad : HeapX := { H1 with core := { H1.core with crc := fun _ => 1 } }
example : invBX Hbad = false := by decide +kernel
example : absX (stepX H1 (.add 2 5 (8, []))) 1 = absX H1 1 := by decide +kernel
example : absX (stepX Hbad (.add 2 5 (8, []))) 1 =
    some ⟨[(5, [(7, [[]]), (8, [[]])]), (6, [(8, [[5]])]), (4, [(9, [[4]])])], [6]⟩ ∧
    absX (stepX Hbad (.add 2 5 (8, []))) 1 ≠ absX Hbad 1 := by decide +kernel

example : unionStore ⟨[(5, [(7, [[]])])], [5]⟩ ⟨[(6, [(8, [[5]])])], [6]⟩ =
    ⟨[(5, [(7, [[]])]), (6, [(8, [[5]])])], [5, 6]⟩ := by decide +kernel
/-- `unordered_map::insert` does not overwrite: with a common key the entry of the left operand wins -/
example : (unionStore ⟨[(5, [(7, [[]])])], [5]⟩ ⟨[(5, [(8, [[5]])]), (6, [])], [5]⟩).clusters =
    [(5, [(7, [[]])]), (6, [])] := by decide +kernel

/-- `Union(1, 2)` into the new object 3 through `ReindexStates` with the renaming `q ↦ q + 10` resp. `q ↦ q + 20` -/
def opsU : List HOpX :=
  [.new 3] ++ reindexOps ⟨[(5, [(7, [[]])]), (6, [(8, [[5]])])], [6]⟩ 3 (· + 10) true ++
    reindexOps ⟨[(5, [(7, [[], [5, 5]])])], [5]⟩ 3 (· + 20) true
example : absX (opsU.foldl stepX H1) 3 =
    some ⟨[(15, [(7, [[]])]), (16, [(8, [[15]])]), (25, [(7, [[], [25, 25]])])], [16, 25]⟩ ∧
    absX (opsU.foldl stepX H1) 1 = absX H1 1 := by decide +kernel

end CowExX

end Vata.CowHeapX
