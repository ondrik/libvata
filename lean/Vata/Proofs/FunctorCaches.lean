import Vata.FunctorCaches
import Vata.Proofs.NfaInclTotal
import Vata.Proofs.NfaInclCongrTotal
import Vata.Proofs.LockStep
/-!
# The caches of the two inclusion functors are transparent (properties C09)

Model: `Vata/FunctorCaches.lean`.  The method is the one of `Props.Util_Cache_memo_sound_noDeath`: the objects
of `MacroStateCache` never die and are never modified, so an invariant of the form "every entry of every memo table is a
TRUE fact about the VALUES at the two addresses" is kept by every step, and under it every cached answer equals the answer
computed from the values.  For the antichain functor this gives exact equality with `nfaInclAC` for all operands, every fuel
and both variants of `areEqual`; for the congruence functor the reading of `usedRules_` as "`*y ⊆ *b`" also needs that in
`U = A ⊎ B` a rule adds no state of `B` that its left-hand side did not have, and equality with `nfaInclCongr` needs disjoint
states and either a cache that interns the empty set (`se = true`) or `NoHalfEmpty` (`cached_real_ne`: without it the
library's cache, which gives the empty set a new address every time, really does more work).
-/
namespace Vata
open Vata.W

namespace FC
open NfaIncl

theorem mlHas_iff {m : PtrMap} {k v : Nat} : mlHas m k v = true ↔ (k, v) ∈ m := by
  simp [mlHas]

theorem mlHas_false_iff {m : PtrMap} {k v : Nat} : mlHas m k v = false ↔ (k, v) ∉ m := by
  rw [← mlHas_iff]; cases mlHas m k v <;> simp

theorem mem_mlAdd {m : PtrMap} {k v : Nat} {e : Nat × Nat} : e ∈ mlAdd m k v ↔ e = (k, v) ∨ e ∈ m := by
  unfold mlAdd
  split
  · next h =>
    have h' : (k, v) ∈ m := by simpa using h
    constructor
    · exact Or.inr
    · rintro (rfl | h)
      · exact h'
      · exact h
  · simp

theorem mlAdd_of_not_has {m : PtrMap} {k v : Nat} (h : mlHas m k v = false) : mlAdd m k v = (k, v) :: m := by
  unfold mlAdd; unfold mlHas at h; rw [if_neg (by rw [h]; simp)]

theorem mlHasKey_iff {m : PtrMap} {k : Nat} : mlHasKey m k = true ↔ ∃ v, (k, v) ∈ m := by
  simp only [mlHasKey, List.any_eq_true, beq_iff_eq]
  constructor
  · rintro ⟨e, he, rfl⟩; exact ⟨e.2, he⟩
  · rintro ⟨v, hv⟩; exact ⟨(k, v), hv, rfl⟩

theorem val_append_left {mc : MCache} {ext : MCache} {id : Nat} (h : id < mc.length) : val (mc ++ ext) id = val mc id := by
  simp only [val, List.getD_eq_getElem?_getD, List.getElem?_append_left h]

theorem val_append_new (mc : MCache) (k : Nat) (v : List Nat) : val (mc ++ [(k, v)]) mc.length = v := by
  simp [val, List.getD_eq_getElem?_getD]

theorem val_eq_getElem {mc : MCache} {id : Nat} (h : id < mc.length) : val mc id = mc[id].2 := by
  simp [val, List.getD_eq_getElem?_getD, List.getElem?_eq_getElem h]

theorem val_prefix {mc mc' : MCache} (h : mc <+: mc') {id : Nat} (hi : id < mc.length) : val mc' id = val mc id := by
  obtain ⟨e, rfl⟩ := h; exact val_append_left hi

theorem lt_prefix {mc mc' : MCache} (h : mc <+: mc') {id : Nat} (hi : id < mc.length) : id < mc'.length :=
  Nat.lt_of_lt_of_le hi h.length_le

structure MCInv (mc : MCache) : Prop where
  sorted : ∀ o, o ∈ mc → List.Pairwise (· < ·) o.2
  key : ∀ o, o ∈ mc → o.1 = sumL o.2

theorem MCInv.nil : MCInv [] := ⟨by simp, by simp⟩

theorem MCInv.val_sorted {mc : MCache} (h : MCInv mc) {id : Nat} (hi : id < mc.length) : List.Pairwise (· < ·) (val mc id) := by
  rw [val_eq_getElem hi]; exact h.sorted _ (List.getElem_mem hi)

/-- the cache is injective: on all values when it interns the empty set, on the non-empty values otherwise -/
def MCInj (se : Bool) (mc : MCache) : Prop :=
  ∀ i j, i < mc.length → j < mc.length → val mc i = val mc j → (se = true ∨ val mc i ≠ []) → i = j

theorem areEqual_eq {se : Bool} {l r : List Nat} (h : areEqual se l r = true) (hl : List.Pairwise (· < ·) l)
    (hr : List.Pairwise (· < ·) r) : l = r := by
  simp only [areEqual, Bool.and_eq_true, beq_iff_eq, List.all_eq_true, List.contains_iff_mem] at h
  -- `l ⊆ r` and equal lengths: the same elements, hence the same sorted list
  exact pairwise_lt_ext hl hr fun x =>
    ⟨h.2 x, subset_of_nodup_length (hl.imp Nat.ne_of_lt) h.2 (Nat.le_of_eq h.1.1.symm) x⟩

theorem areEqual_self {se : Bool} {v : List Nat} (h : se = true ∨ v ≠ []) : areEqual se v v = true := by
  simp only [areEqual, Bool.and_eq_true, beq_iff_eq, List.all_eq_true, List.contains_iff_mem, Bool.or_eq_true,
    Bool.not_eq_true', Bool.or_self, List.isEmpty_eq_false_iff]
  refine ⟨⟨trivial, ?_⟩, fun x hx => by simpa using hx⟩
  rcases h with h | h
  · exact Or.inl h
  · exact Or.inr h

/-- `cache_.insert(sum(v), v)`: the cache grows by at most the new object, the returned address holds `v` -/
theorem intern_spec (se : Bool) {mc : MCache} (h : MCInv mc) {v : List Nat} (hv : List.Pairwise (· < ·) v) :
    mc <+: (intern se mc v).1 ∧ (intern se mc v).2 < (intern se mc v).1.length ∧
    val (intern se mc v).1 (intern se mc v).2 = v ∧ MCInv (intern se mc v).1 := by
  unfold intern mcInsert
  split
  · next i hi =>
    obtain ⟨hlt, hp, _⟩ := List.findIdx?_eq_some_iff_getElem.mp hi
    simp only [Bool.and_eq_true, beq_iff_eq] at hp
    refine ⟨List.prefix_refl _, hlt, ?_, h⟩
    rw [val_eq_getElem hlt]
    exact areEqual_eq hp.2 (h.sorted _ (List.getElem_mem hlt)) hv
  · refine ⟨⟨_, rfl⟩, by simp, val_append_new _ _ _, ?_, ?_⟩
    · intro o ho
      rcases List.mem_append.mp ho with ho | ho
      · exact h.sorted o ho
      · simp only [List.mem_singleton] at ho; subst ho; exact hv
    · intro o ho
      rcases List.mem_append.mp ho with ho | ho
      · exact h.key o ho
      · simp only [List.mem_singleton] at ho; subst ho; rfl

theorem intern_inj (se : Bool) {mc : MCache} (h : MCInv mc) (hj : MCInj se mc) {v : List Nat} :
    MCInj se (intern se mc v).1 := by
  unfold intern mcInsert
  split
  · exact hj
  · next hn =>
    have hnone := List.findIdx?_eq_none_iff.mp hn
    intro i j hi hj' he hne
    simp only [List.length_append, List.length_singleton] at hi hj'
    have key : ∀ k, k < mc.length → val mc k = v → (se = true ∨ v ≠ []) → False := by
      intro k hk hkv hne'
      have := hnone _ (List.getElem_mem hk)
      rw [val_eq_getElem hk] at hkv
      have hkey := h.key _ (List.getElem_mem hk)
      simp only [Bool.and_eq_false_iff, beq_eq_false_iff_ne] at this
      rcases this with h1 | h2
      · exact h1 (by rw [hkey, hkv])
      · rw [hkv, areEqual_self hne'] at h2; cases h2
    by_cases hi' : i < mc.length
    · by_cases hj'' : j < mc.length
      · rw [val_append_left hi', val_append_left hj''] at he
        rw [val_append_left hi'] at hne
        exact hj i j hi' hj'' he hne
      · have : j = mc.length := by omega
        subst this
        rw [val_append_left hi', val_append_new] at he
        rw [val_append_left hi'] at hne
        exact (key i hi' he (he ▸ hne)).elim
    · have : i = mc.length := by omega
      subst this
      by_cases hj'' : j < mc.length
      · rw [val_append_new, val_append_left hj''] at he
        rw [val_append_new] at hne
        exact (key j hj'' he.symm hne).elim
      · omega

/-- every entry of `subsetMap_` is a true `⊆` between the values at the two addresses, every entry of `subsetNotMap_` a true `⊄` -/
structure MemoOK (c : ACaches) : Prop where
  sub : ∀ a b, (a, b) ∈ c.sub → a < c.mc.length ∧ b < c.mc.length ∧ Vata.subB (val c.mc a) (val c.mc b) = true
  nsub : ∀ a b, (a, b) ∈ c.nsub → a < c.mc.length ∧ b < c.mc.length ∧ Vata.subB (val c.mc a) (val c.mc b) = false

theorem MemoOK.empty : MemoOK {} := ⟨by simp, by simp⟩

theorem MemoOK.ext {c : ACaches} (h : MemoOK c) {mc' : MCache} (he : c.mc <+: mc') : MemoOK { c with mc := mc' } := by
  constructor
  · intro a b hab
    obtain ⟨ha, hb, hs⟩ := h.sub a b hab
    exact ⟨lt_prefix he ha, lt_prefix he hb, by simp only [val_prefix he ha, val_prefix he hb]; exact hs⟩
  · intro a b hab
    obtain ⟨ha, hb, hs⟩ := h.nsub a b hab
    exact ⟨lt_prefix he ha, lt_prefix he hb, by simp only [val_prefix he ha, val_prefix he hb]; exact hs⟩

theorem lteC_spec {c : ACaches} (h : MemoOK c) {l r : Nat} (hl : l < c.mc.length) (hr : r < c.mc.length) :
    (lteC .lib c l r).2 = Vata.subB (val c.mc l) (val c.mc r) ∧ MemoOK (lteC .lib c l r).1 ∧ (lteC .lib c l r).1.mc = c.mc := by
  unfold lteC
  by_cases h1 : mlHas c.sub l r = true
  · rw [if_pos h1]; exact ⟨((h.sub l r (mlHas_iff.mp h1)).2.2).symm, h, rfl⟩
  rw [if_neg h1]
  by_cases h2 : mlHas c.nsub l r = true
  · rw [if_pos h2]; exact ⟨((h.nsub l r (mlHas_iff.mp h2)).2.2).symm, h, rfl⟩
  rw [if_neg h2]
  by_cases h3 : Vata.subB (val c.mc l) (val c.mc r) = true
  · rw [if_pos h3]
    refine ⟨h3.symm, ⟨fun a b hab => ?_, h.nsub⟩, rfl⟩
    rcases mem_mlAdd.mp hab with he | he
    · cases he; exact ⟨hl, hr, h3⟩
    · exact h.sub a b he
  · rw [if_neg h3]
    have h3' := Bool.eq_false_iff.mpr h3
    refine ⟨h3'.symm, ⟨h.sub, fun a b hab => ?_⟩, rfl⟩
    rcases mem_mlAdd.mp hab with he | he
    · cases he; exact ⟨hl, hr, h3'⟩
    · exact h.nsub a b he

theorem gteC_spec {c : ACaches} (h : MemoOK c) {l r : Nat} (hl : l < c.mc.length) (hr : r < c.mc.length) :
    (gteC .lib c l r).2 = Vata.subB (val c.mc r) (val c.mc l) ∧ MemoOK (gteC .lib c l r).1 ∧ (gteC .lib c l r).1.mc = c.mc :=
  lteC_spec h hr hl

def AValid (mc : MCache) (l : List AIt) : Prop := ∀ i, i ∈ l → i.id < mc.length

theorem AValid.ext {mc mc' : MCache} {l : List AIt} (h : AValid mc l) (he : mc <+: mc') : AValid mc' l :=
  fun i hi => lt_prefix he (h i hi)

theorem map_deref_ext {mc mc' : MCache} {l : List AIt} (h : AValid mc l) (he : mc <+: mc') :
    l.map (AIt.deref mc') = l.map (AIt.deref mc) := by
  apply List.map_congr_left
  intro i hi
  simp only [AIt.deref, val_prefix he (h i hi)]

theorem lteC_cmpSpec : CmpSpec ACaches.mc (fun mc a => a < mc.length) (fun c => val c.mc) MemoOK (lteC .lib) Vata.subB :=
  fun _ _ _ h ha hb => lteC_spec h ha hb

/-- `contains` / `refine` on caches `c` whose macro-state cache is `mc`: the memo tables may grow, `mc` stays, so a chain of
them is read against the one `mc` -/
theorem containsC_spec (q id : Nat) (P : List AIt) {c : ACaches} {mc : MCache} (hmc : c.mc = mc) (h : MemoOK c)
    (hid : id < mc.length) (hv : AValid mc P) :
    (containsC .lib q id P c).2 = subsumed (P.map (AIt.deref mc)) q (val mc id) ∧
    MemoOK (containsC .lib q id P c).1 ∧ (containsC .lib q id P c).1.mc = mc := by
  subst hmc
  rw [subsumed, List.any_map, ← elim_find?_any]
  exact find_spec (F := containsC .lib q id) (kt := fun i : AIt => i.q == q) (ad := AIt.id) lteC_cmpSpec
    (fun _ _ e => by rw [e]) (fun _ => rfl) (fun _ _ _ => rfl) P c h hid hv

def keepB (mc : MCache) (q id : Nat) (i : AIt) : Bool := !(i.q == q && Vata.subB (val mc id) (val mc i.id))

theorem refineC_spec (q id : Nat) (P : List AIt) {c : ACaches} {mc : MCache} (hmc : c.mc = mc) (h : MemoOK c)
    (hid : id < mc.length) (hv : AValid mc P) :
    (refineC .lib q id P c).2 = P.filter (keepB mc q id) ∧
    MemoOK (refineC .lib q id P c).1 ∧ (refineC .lib q id P c).1.mc = mc := by
  subst hmc
  -- `refine` asks `gteC .lib c i.id id`, the specification speaks of `lteC .lib c id i.id`: in the mode `.lib` the two are the same
  -- if-chain, which is what the last `rfl` (one step of `refineC`) checks
  exact erase_spec (F := refineC .lib q id) (kt := fun i : AIt => i.q == q) (ad := AIt.id) lteC_cmpSpec
    (fun _ _ e => by rw [e]) (fun _ => rfl) (fun _ _ _ => rfl) P c h hid hv

theorem refine_map_deref (mc : MCache) (q id : Nat) (P : List AIt) :
    refine (P.map (AIt.deref mc)) q (val mc id) = (P.filter (keepB mc q id)).map (AIt.deref mc) := by
  unfold refine
  rw [List.filter_map]
  rfl

theorem insNextC_map (mc : MCache) (it : AIt) : ∀ l : List AIt,
    (insNextC mc it l).map (AIt.deref mc) = insNext (it.deref mc) (l.map (AIt.deref mc))
  | [] => rfl
  | x :: l => by
    have : itemLtC mc it x = itemLt (it.deref mc) (x.deref mc) := rfl
    simp only [insNextC, insNext, List.map_cons, this]
    split
    · rfl
    · simp only [List.map_cons, insNextC_map mc it l]

theorem insNextC_perm (mc : MCache) (it : AIt) : ∀ l : List AIt, (insNextC mc it l).Perm (it :: l)
  | [] => List.Perm.refl _
  | x :: l => by
    simp only [insNextC]
    split
    · exact List.Perm.refl _
    · exact ((insNextC_perm mc it l).cons x).trans (List.Perm.swap it x l)

theorem mem_insNextC {mc : MCache} {it x : AIt} {l : List AIt} : x ∈ insNextC mc it l ↔ x = it ∨ x ∈ l := by
  rw [(insNextC_perm mc it l).mem_iff, List.mem_cons]

/-- the cached state read through its pointers is the cache-free state, and every memo entry is a true fact -/
structure ARel (cst : ASt) (st : St) : Prop where
  ac : cst.antichain.map (AIt.deref cst.c.mc) = st.antichain
  nx : cst.next.map (AIt.deref cst.c.mc) = st.next
  perm : cst.nextIns.Perm cst.next
  vac : AValid cst.c.mc cst.antichain
  vnx : AValid cst.c.mc cst.next
  memo : MemoOK cst.c
  mci : MCInv cst.c.mc

theorem ARel.ext {cst : ASt} {st : St} (h : ARel cst st) {mc' : MCache} (he : cst.c.mc <+: mc') (hi : MCInv mc') :
    ARel { cst with c := { cst.c with mc := mc' } } st :=
  ⟨by simp only; rw [map_deref_ext h.vac he]; exact h.ac,
   by simp only; rw [map_deref_ext h.vnx he]; exact h.nx,
   h.perm, h.vac.ext he, h.vnx.ext he, h.memo.ext he, hi⟩

theorem filter_contains_filter {l l' : List AIt} (hp : l'.Perm l) (p : AIt → Bool) :
    l.filter (fun i => (l'.filter p).contains i) = l.filter p := by
  apply List.filter_congr
  intro i hi
  have : i ∈ l' := hp.mem_iff.mpr hi
  rw [Bool.eq_iff_iff]
  simp [List.mem_filter, this]

theorem ARel.setC {cst : ASt} {st : St} (h : ARel cst st) {c' : ACaches} (hm : MemoOK c') (hc : c'.mc = cst.c.mc) :
    ARel { cst with c := c' } st :=
  ⟨by simp only [hc]; exact h.ac, by simp only [hc]; exact h.nx, h.perm, by simp only [hc]; exact h.vac,
   by simp only [hc]; exact h.vnx, hm, by simp only [hc]; exact h.mci⟩

theorem AValid.filter {mc : MCache} {l : List AIt} (h : AValid mc l) (p : AIt → Bool) : AValid mc (l.filter p) :=
  fun i hi => h i (List.mem_filter.mp hi).1

theorem AValid.snoc {mc : MCache} {l : List AIt} (h : AValid mc l) {it : AIt} (hi : it.id < mc.length) :
    AValid mc (l ++ [it]) := by
  intro i hm
  rcases List.mem_append.mp hm with hm | hm
  · exact h i hm
  · simp only [List.mem_singleton] at hm; subst hm; exact hi

/-- `AddNewPairToAntichain` + `AddToNext` -/
theorem addPairC_rel {cst : ASt} {st : St} (h : ARel cst st) {it : AIt} (hit : it.id < cst.c.mc.length) :
    ARel (addPairC .lib cst it) (addPair st (it.deref cst.c.mc)) ∧ (addPairC .lib cst it).c.mc = cst.c.mc := by
  have hvi : AValid cst.c.mc cst.nextIns := fun i hi => h.vnx i (h.perm.mem_iff.mp hi)
  obtain ⟨e1, m1, c1⟩ := containsC_spec it.q it.id cst.antichain rfl h.memo hit h.vac
  obtain ⟨e2, m2, c2⟩ := refineC_spec it.q it.id cst.antichain c1 m1 hit h.vac
  obtain ⟨e3, m3, c3⟩ := containsC_spec it.q it.id cst.nextIns c2 m2 hit hvi
  obtain ⟨e4, m4, c4⟩ := refineC_spec it.q it.id cst.nextIns c3 m3 hit hvi
  have hsub : subsumed (cst.nextIns.map (AIt.deref cst.c.mc)) it.q (val cst.c.mc it.id) =
      subsumed st.next it.q (val cst.c.mc it.id) := by
    rw [← h.nx]; unfold subsumed; exact (h.perm.map _).any_eq
  rw [h.ac] at e1
  rw [hsub] at e3
  have hd : (it.deref cst.c.mc).q = it.q ∧ (it.deref cst.c.mc).S = val cst.c.mc it.id := ⟨rfl, rfl⟩
  unfold addPairC addPair
  simp only
  rw [e1, hd.1, hd.2]
  by_cases hs : subsumed st.antichain it.q (val cst.c.mc it.id) = true
  · rw [if_pos hs, if_pos hs]; exact ⟨h.setC m1 c1, c1⟩
  rw [if_neg hs, if_neg hs]
  have hac : (cst.antichain.filter (keepB cst.c.mc it.q it.id) ++ [it]).map (AIt.deref cst.c.mc) =
      refine st.antichain it.q (val cst.c.mc it.id) ++ [it.deref cst.c.mc] := by
    rw [← h.ac, refine_map_deref]; simp
  rw [e2, e3]
  -- the memo tables are set at the end: the lists do not depend on them
  by_cases hn : subsumed st.next it.q (val cst.c.mc it.id) = true
  · rw [if_pos hn, if_pos hn]
    exact ⟨ARel.setC (cst := ⟨cst.antichain.filter (keepB cst.c.mc it.q it.id) ++ [it], cst.next, cst.nextIns, cst.c⟩)
      (st := ⟨refine st.antichain it.q (val cst.c.mc it.id) ++ [it.deref cst.c.mc], st.next⟩)
      ⟨hac, h.nx, h.perm, (h.vac.filter _).snoc hit, h.vnx, h.memo, h.mci⟩ m3 c3, c3⟩
  rw [if_neg hn, if_neg hn, e4, c4, filter_contains_filter h.perm]
  refine ⟨ARel.setC (cst := ⟨cst.antichain.filter (keepB cst.c.mc it.q it.id) ++ [it],
    insNextC cst.c.mc it (cst.next.filter (keepB cst.c.mc it.q it.id)),
    cst.nextIns.filter (keepB cst.c.mc it.q it.id) ++ [it], cst.c⟩)
    (st := ⟨refine st.antichain it.q (val cst.c.mc it.id) ++ [it.deref cst.c.mc],
      insNext (it.deref cst.c.mc) (refine st.next it.q (val cst.c.mc it.id))⟩)
    ⟨hac, ?_, ?_, (h.vac.filter _).snoc hit, ?_, h.memo, h.mci⟩ m4 c4, rfl⟩
  · rw [insNextC_map, ← h.nx]
    exact congrArg _ (refine_map_deref _ _ _ _).symm
  · exact ((h.perm.filter _).append_right [it]).trans
      ((List.perm_append_singleton _ _).trans (insNextC_perm _ _ _).symm)
  · intro i hi
    rcases mem_insNextC.mp hi with rfl | hi
    · exact hit
    · exact h.vnx i (List.mem_filter.mp hi).1

theorem internA_rel (se : Bool) {cst : ASt} {st : St} (h : ARel cst st) {v : List Nat} (hv : List.Pairwise (· < ·) v) :
    ARel { cst with c := { cst.c with mc := (intern se cst.c.mc v).1 } } st ∧
    (intern se cst.c.mc v).2 < (intern se cst.c.mc v).1.length ∧
    val (intern se cst.c.mc v).1 (intern se cst.c.mc v).2 = v ∧ cst.c.mc <+: (intern se cst.c.mc v).1 := by
  obtain ⟨he, hlt, hval, hinv⟩ := intern_spec se h.mci hv
  exact ⟨h.ext he hinv, hlt, hval, he⟩

theorem initACc_rel (se : Bool) (A B : NFA) {S0 : List Nat} (hS0 : List.Pairwise (· < ·) S0) :
    ∀ (ss : List Nat) (cst : ASt) (st : St), ARel cst st →
    ExceptRel ARel (initACc .lib se A B S0 ss cst) (initAC A B S0 ss st)
  | [], _, _, h => .ok h
  | s :: ss, cst, st, h => by
    unfold initACc initAC
    split
    · exact .error _
    · obtain ⟨h1, hlt, hval, _⟩ := internA_rel se h hS0
      obtain ⟨h2, _⟩ := addPairC_rel h1 (it := ⟨s, (intern se cst.c.mc S0).2, []⟩) hlt
      have : AIt.deref (intern se cst.c.mc S0).1 ⟨s, (intern se cst.c.mc S0).2, []⟩ = ⟨s, S0, []⟩ := by
        simp only [AIt.deref, hval]
      simp only at h2
      rw [this] at h2
      exact initACc_rel se A B hS0 ss _ _ h2

theorem macroStep_sorted (N : NFA) (S : List Nat) (a : Nat) : List.Pairwise (· < ·) (macroStep N S a) :=
  normS_sorted _

theorem makePostC_rel (se : Bool) (A B : NFA) (it : AIt) (S : List Nat) :
    ∀ (es : List (Nat × Nat × Nat)) (cst : ASt) (st : St), ARel cst st → it.id < cst.c.mc.length →
    val cst.c.mc it.id = S → ExceptRel ARel (makePostC .lib se A B it es cst) (makePost A B ⟨it.q, S, it.w⟩ es st)
  | [], _, _, h, _, _ => .ok h
  | e :: es, cst, st, h, hid, hS => by
    unfold makePostC makePost
    simp only
    split
    · rw [hS]
      split
      · exact .error _
      · obtain ⟨h1, hlt, hval, hext⟩ := internA_rel se h (macroStep_sorted B S e.2.1)
        obtain ⟨h2, hmc⟩ := addPairC_rel h1
          (it := ⟨e.2.2, (intern se cst.c.mc (macroStep B S e.2.1)).2, it.w ++ [e.2.1]⟩) hlt
        have : AIt.deref (intern se cst.c.mc (macroStep B S e.2.1)).1
            ⟨e.2.2, (intern se cst.c.mc (macroStep B S e.2.1)).2, it.w ++ [e.2.1]⟩ =
            ⟨e.2.2, macroStep B S e.2.1, it.w ++ [e.2.1]⟩ := by
          simp only [AIt.deref, hval]
        simp only at h2 hmc
        rw [this] at h2
        refine makePostC_rel se A B it S es _ _ h2 ?_ ?_
        · rw [hmc]; exact lt_prefix hext hid
        · rw [hmc, val_prefix hext hid]; exact hS
    · exact makePostC_rel se A B it S es cst st h hid hS

abbrev RFin : Option (Res ASt) → Option (Res (List Item)) → Prop :=
  OptRel (ExceptRel fun cst P => ∃ st, ARel cst st ∧ P = st.antichain)

theorem viewA_of_RFin {rc : Option (Res ASt)} {rb : Option (Res (List Item))} (h : RFin rc rb) : viewA rc = rb := by
  cases h with
  | none => rfl
  | some h =>
    cases h with
    | error w => rfl
    | ok h =>
      obtain ⟨st, hr, rfl⟩ := h
      simp only [viewA, derefA, hr.ac]

theorem loopACc_rel (se : Bool) (A B : NFA) : ∀ (n : Nat) (cst : ASt) (st : St), ARel cst st →
    RFin (loopACc .lib se A B n cst) (loopAC A B n st)
  | 0, _, _, _ => .none
  | n+1, cst, st, h => by
    unfold loopACc loopAC
    cases hn : cst.next with
    | nil =>
      have : st.next = [] := by rw [← h.nx, hn]; rfl
      simp only [this]
      exact .some (.ok ⟨st, h, rfl⟩)
    | cons it rest =>
      have hst : st.next = ⟨it.q, val cst.c.mc it.id, it.w⟩ :: rest.map (AIt.deref cst.c.mc) := by rw [← h.nx, hn]; rfl
      simp only [hst]
      have hit : it.id < cst.c.mc.length := h.vnx it (by rw [hn]; exact List.mem_cons_self)
      have h' : ARel { cst with next := rest, nextIns := cst.nextIns.erase it }
          ⟨st.antichain, rest.map (AIt.deref cst.c.mc)⟩ := by
        refine ⟨h.ac, rfl, ?_, h.vac, ?_, h.memo, h.mci⟩
        · have := h.perm.erase it
          rw [hn, List.erase_cons_head] at this
          exact this
        · intro i hi; exact h.vnx i (by rw [hn]; exact List.mem_cons_of_mem _ hi)
      rcases (makePostC_rel se A B it _ A.trans _ _ h' hit rfl).inv with ⟨w, hc, hb⟩ | ⟨cst', st', hc, hb, hr⟩
      · rw [hc, hb]; exact .some (.error w)
      · rw [hc, hb]; exact loopACc_rel se A B n cst' st' hr

theorem runACc_rel (se : Bool) (A B : NFA) (fuel : Nat) : RFin (runACc .lib se A B fuel) (runAC A B fuel) := by
  unfold runACc runAC
  have h0 : ARel ⟨[], [], [], {}⟩ ⟨[], []⟩ :=
    ⟨rfl, rfl, List.Perm.refl _, (by intro i hi; cases hi), (by intro i hi; cases hi), MemoOK.empty, MCInv.nil⟩
  rcases (initACc_rel se A B (normS_sorted B.start) A.start _ _ h0).inv with ⟨w, hc, hb⟩ | ⟨cst', st', hc, hb, hr⟩
  · rw [hc, hb]; exact .some (.error w)
  · rw [hc, hb]; exact loopACc_rel se A B fuel cst' st' hr

theorem runACc_eq (se : Bool) (A B : NFA) (fuel : Nat) : viewA (runACc .lib se A B fuel) = runAC A B fuel :=
  viewA_of_RFin (runACc_rel se A B fuel)

theorem memoOKB_of_MemoOK {c : ACaches} (h : MemoOK c) : memoOKB c = true := by
  simp only [memoOKB, Bool.and_eq_true, List.all_eq_true, Bool.not_eq_true']
  exact ⟨fun p hp => (h.sub p.1 p.2 hp).2.2, fun p hp => (h.nsub p.1 p.2 hp).2.2⟩

theorem runACc_memo_sound (se : Bool) (A B : NFA) (fuel : Nat) {c : ACaches}
    (h : finalMemoA (runACc .lib se A B fuel) = some c) : MemoOK c ∧ memoOKB c = true := by
  have hr := runACc_rel se A B fuel
  generalize runACc .lib se A B fuel = rc at hr h
  generalize runAC A B fuel = rb at hr
  cases hr with
  | none => cases h
  | some hr =>
    cases hr with
    | error w => cases h
    | ok hr =>
      obtain ⟨st, hrel, _⟩ := hr
      cases h
      exact ⟨hrel.memo, memoOKB_of_MemoOK hrel.memo⟩

theorem nfaInclAC_eq_finish (A B : NFA) (fuel : Nat) : nfaInclAC A B fuel = finishAC A B (runAC A B fuel) := by
  unfold nfaInclAC
  cases runAC A B fuel with
  | none => rfl
  | some r => cases r <;> rfl

/-- **C09, antichain functor: the macro-state cache and the subset memo are transparent.**  For all operands, every fuel
and both variants of `areEqual`, the functor with its caches returns exactly what the cache-free model returns: the same
verdict with the same antichain, the same witness, `none` at the same fuel. -/
theorem nfaInclAC_cached_eq (se : Bool) (A B : NFA) (fuel : Nat) : nfaInclACc .lib se A B fuel = nfaInclAC A B fuel := by
  rw [nfaInclAC_eq_finish, nfaInclACc, runACc_eq]

theorem checkNfaInclAC_cached_eq (se : Bool) (A B : NFA) (fuel : Nat) :
    checkNfaInclACc .lib se A B fuel = checkNfaInclAC A B fuel :=
  nfaInclAC_cached_eq se _ _ fuel

def CValid (mc : MCache) (l : List CIt) : Prop := ∀ i, i ∈ l → i.x < mc.length ∧ i.y < mc.length

theorem CValid.ext {mc mc' : MCache} {l : List CIt} (h : CValid mc l) (he : mc <+: mc') : CValid mc' l :=
  fun i hi => ⟨lt_prefix he (h i hi).1, lt_prefix he (h i hi).2⟩

theorem map_derefC_ext {mc mc' : MCache} {l : List CIt} (h : CValid mc l) (he : mc <+: mc') :
    l.map (CIt.deref mc') = l.map (CIt.deref mc) := by
  apply List.map_congr_left
  intro i hi
  simp only [CIt.deref, val_prefix he (h i hi).1, val_prefix he (h i hi).2]

/-- the rules `Yᵢ → Xᵢ ∪ Yᵢ` read through the pointers -/
def drules (mc : MCache) (l : List CIt) : List CRule := l.map (fun i => (val mc i.x, val mc i.y))

theorem rulesOf_map_deref (mc : MCache) (l : List CIt) : rulesOf (l.map (CIt.deref mc)) = drules mc l := by
  simp only [rulesOf, drules, List.map_map]; rfl

/-- the shape of every pair explored on `U = A ⊎ B` and `B`: the right component consists of states of `B`, and the left
component has no state of `B` that the right one lacks -/
def StructR (B : NFA) (r : CRule) : Prop :=
  (∀ y, y ∈ r.2 → y ∈ nfaStates B) ∧ (∀ x, x ∈ r.1 → x ∈ nfaStates B → x ∈ r.2)

/-- **the invariant of `usedRules_`**: an entry `b ↦ y` is a true fact about the two values: `*y ⊆ *b` -/
def UsedOK (mc : MCache) (u : PtrMap) : Prop :=
  ∀ k v, (k, v) ∈ u → k < mc.length ∧ v < mc.length ∧ ∀ x, x ∈ val mc v → x ∈ val mc k

theorem UsedOK.ext {mc mc' : MCache} {u : PtrMap} (h : UsedOK mc u) (he : mc <+: mc') : UsedOK mc' u := by
  intro k v hkv
  obtain ⟨hk, hv, hs⟩ := h k v hkv
  refine ⟨lt_prefix he hk, lt_prefix he hv, ?_⟩
  rw [val_prefix he hk, val_prefix he hv]; exact hs

def GoodRules (B : NFA) (mc : MCache) (l : List CIt) : Prop :=
  ∀ r, r ∈ l → r.x < mc.length ∧ r.y < mc.length ∧ StructR B (val mc r.x, val mc r.y)

/-- the set under construction contains `*b` and has no other state of `B` -/
structure SweepInv (B : NFA) (mc : MCache) (b : Nat) (set : List Nat) : Prop where
  lo : ∀ x, x ∈ val mc b → x ∈ set
  hi : ∀ x, x ∈ set → x ∈ nfaStates B → x ∈ val mc b

/-- under the invariant the shortcut through `usedRules_` answers what `MatchPair` answers -/
theorem firesC_eq {B : NFA} {vis : Bool} {mc : MCache} {b : Nat} {u : PtrMap} {r : CIt} {set : List Nat}
    (hu : UsedOK mc u) (hs : SweepInv B mc b set) :
    firesC .lib vis mc b u r set = Vata.subB (val mc r.y) set := by
  unfold firesC
  cases vis with
  | false => rfl
  | true =>
    simp only [if_true]
    cases hm : mlHas u b r.y with
    | false => simp
    | true =>
      obtain ⟨_, _, hsub⟩ := hu b r.y (mlHas_iff.mp hm)
      have : Vata.subB (val mc r.y) set = true := subB_iff.mpr (fun x hx => hs.lo x (hsub x hx))
      simp [this]

/-- one sweep with the shortcut through `usedRules_` is the sweep of the cache-free model over the rules read through the pointers
(`drules`): each test agrees by `firesC_eq`; a rule that fires keeps `SweepInv` because of its shape (`StructR`), and the entry
recorded for it is a fact (`UsedOK`) -/
theorem sweepC_spec (B : NFA) (vis : Bool) {mc : MCache} (s : List Nat) {b : Nat} (hb : b < mc.length) :
    ∀ (rs un : List CIt) (set : List Nat) (ap : Bool) (u : PtrMap),
    GoodRules B mc rs → GoodRules B mc un → SweepInv B mc b set → UsedOK mc u →
    UsedOK mc (sweepC .lib vis mc s b rs un set ap u).1 ∧
    (match (sweepC .lib vis mc s b rs un set ap u).2 with
     | none => sweep s (drules mc rs) (drules mc un) set ap = none
     | some t => sweep s (drules mc rs) (drules mc un) set ap = some (drules mc t.1, t.2.1, t.2.2) ∧
        GoodRules B mc t.1 ∧ SweepInv B mc b t.2.1)
  | [], un, set, ap, u, _, hun, hs, hu => by
    refine ⟨hu, ?_⟩
    simp only [sweepC, sweep, drules, List.map_nil, List.map_reverse]
    exact ⟨trivial, fun r hr => hun r (List.mem_reverse.mp hr), hs⟩
  | r :: rs, un, set, ap, u, hrs, hun, hs, hu => by
    have hr := hrs r List.mem_cons_self
    have hrs' : GoodRules B mc rs := fun r' h => hrs r' (List.mem_cons_of_mem _ h)
    unfold sweepC
    rw [firesC_eq hu hs]
    simp only [drules, List.map_cons]
    unfold sweep
    simp only
    by_cases hm : Vata.subB (val mc r.y) set = true
    · rw [if_pos hm, if_pos hm]
      have hm' := subB_iff.mp hm
      have hs' : SweepInv B mc b (normS (set ++ val mc r.x ++ val mc r.y)) := by
        constructor
        · intro x hx
          exact mem_normS.mpr (List.mem_append_left _ (List.mem_append_left _ (hs.lo x hx)))
        · intro x hx hxB
          rcases List.mem_append.mp (mem_normS.mp hx) with h | h
          · rcases List.mem_append.mp h with h | h
            · exact hs.hi x h hxB
            · exact hs.hi x (hm' x (hr.2.2.2 x h hxB)) hxB
          · exact hs.hi x (hm' x h) hxB
      have hu' : UsedOK mc (if vis = true then u else mlAdd u b r.y) := by
        cases vis with
        | true => exact hu
        | false =>
          intro k v hkv
          rcases mem_mlAdd.mp hkv with he | he
          · cases he
            exact ⟨hb, hr.2.1, fun x hx => hs.hi x (hm' x hx) (hr.2.2.1 x hx)⟩
          · exact hu k v he
      generalize normS (set ++ val mc r.x ++ val mc r.y) = set' at *
      by_cases hsub : Vata.subB s set' = true
      · rw [if_pos hsub, if_pos hsub]; exact ⟨hu', rfl⟩
      · rw [if_neg hsub, if_neg hsub]
        exact sweepC_spec B vis s hb rs un _ true _ hrs' hun hs' hu'
    · rw [if_neg hm, if_neg hm]
      have hun' : GoodRules B mc (r :: un) := by
        intro r' h
        rcases List.mem_cons.mp h with rfl | h
        · exact hr
        · exact hun r' h
      exact sweepC_spec B vis s hb rs (r :: un) set ap u hrs' hun' hs hu

/-- … hence the closure loops agree, sweep by sweep -/
theorem closeLoopC_spec (B : NFA) (vis : Bool) {mc : MCache} (s : List Nat) {b : Nat} (hb : b < mc.length) :
    ∀ (n : Nat) (rules : List CIt) (set : List Nat) (u : PtrMap),
    GoodRules B mc rules → SweepInv B mc b set → UsedOK mc u →
    UsedOK mc (closeLoopC .lib vis mc s b n rules set u).1 ∧
    (closeLoopC .lib vis mc s b n rules set u).2 = closeLoop s n (drules mc rules) set
  | 0, _, _, _, _, _, hu => ⟨hu, rfl⟩
  | n+1, rules, set, u, hr, hs, hu => by
    have hsp := sweepC_spec B vis s hb rules [] set false u hr (fun _ h => by cases h) hs hu
    unfold closeLoopC closeLoop
    have hnil : drules mc [] = [] := rfl
    rw [hnil] at hsp
    generalize sweepC .lib vis mc s b rules [] set false u = res at hsp
    obtain ⟨u', o⟩ := res
    cases o with
    | none =>
      simp only at hsp
      simp only [hsp.2]
      exact ⟨hsp.1, trivial⟩
    | some t =>
      obtain ⟨un, set', ap⟩ := t
      simp only at hsp
      simp only [hsp.2.1]
      cases ap with
      | false => exact ⟨hsp.1, rfl⟩
      | true => exact closeLoopC_spec B vis s hb n un set' u' hsp.2.2.1 hsp.2.2.2 hsp.1

theorem inClosureC_spec (B : NFA) {mc : MCache} {u : PtrMap} {rules : List CIt} (s : List Nat) {b : Nat}
    (hb : b < mc.length) (hr : GoodRules B mc rules) (hu : UsedOK mc u) :
    UsedOK mc (inClosureC .lib mc u rules s b).1 ∧
    (inClosureC .lib mc u rules s b).2 = inClosure (drules mc rules) s (val mc b) := by
  unfold inClosureC inClosure
  have := closeLoopC_spec B (mlHasKey u b) s hb (rules.length + 1) rules (val mc b) u hr
    ⟨fun _ h => h, fun _ h _ => h⟩ hu
  simp only [drules, List.length_map] at this ⊢
  exact this

/-- no reachable pair of macro-states has exactly one empty component (then the library's `areEqual`, which never identifies
two empty sets, behaves like an interning cache on every pair that is enqueued) -/
def NoHalfEmpty (U B : NFA) : Prop := ∀ w, (mrun U w).isEmpty = (mrun B w).isEmpty

theorem mem_foldl_macroStep (N : NFA) : ∀ (w : List Nat) (S S' : List Nat), (∀ x, x ∈ S ↔ x ∈ S') →
    ∀ x, x ∈ w.foldl (macroStep N) S ↔ x ∈ w.foldl (stepW N) S'
  | [], _, _, h => h
  | a :: w, S, S', h => by
    simp only [List.foldl_cons]
    apply mem_foldl_macroStep N w
    intro x
    unfold macroStep
    rw [mem_normS]
    exact ⟨stepW_mono N (fun y hy => (h y).mp hy) a x, stepW_mono N (fun y hy => (h y).mpr hy) a x⟩

theorem mem_mrun (N : NFA) (w : List Nat) (x : Nat) : x ∈ mrun N w ↔ x ∈ run N w :=
  mem_foldl_macroStep N w _ _ (fun _ => mem_normS) x

/-- a pair reached by its word in `A ⊎ B` (disjoint states) has the shape `StructR`: a run that ends in a state of `B` started in `B` -/
theorem _root_.Vata.NfaIncl.CWordOK.structR {A B : NFA} (hdis : ∀ q, q ∈ nfaStates A → q ∈ nfaStates B → False) {i : CItem}
    (hi : CWordOK (nfaUnionDisjoint A B) B i) : StructR B (i.X, i.Y) := by
  refine ⟨hi.y_states, fun x hx hxB => (hi.2 x).mpr ?_⟩
  obtain ⟨s, hs, hp⟩ := (mem_run_iff _ i.w x).mp ((hi.1 x).mp hx)
  rcases List.mem_append.mp hs with hsA | hsB
  · exact (hdis x (path_union_left hdis hp (start_mem_nfaStates hsA)).2 hxB).elim
  · exact (mem_run_iff B i.w x).mpr ⟨s, hsB, (path_union_right hdis hp (start_mem_nfaStates hsB)).1⟩

theorem isEmpty_congr {l l' : List Nat} (h : ∀ x, x ∈ l ↔ x ∈ l') : l.isEmpty = l'.isEmpty := by
  rw [Bool.eq_iff_iff, List.isEmpty_iff, List.isEmpty_iff, List.eq_nil_iff_forall_not_mem, List.eq_nil_iff_forall_not_mem]
  exact forall_congr' fun x => not_congr (h x)

/-- … and its components are empty when the macro-states `NoHalfEmpty` speaks of are -/
theorem _root_.Vata.NfaIncl.CWordOK.isEmpty {U B : NFA} {i : CItem} (hi : CWordOK U B i) :
    i.X.isEmpty = (mrun U i.w).isEmpty ∧ i.Y.isEmpty = (mrun B i.w).isEmpty :=
  ⟨isEmpty_congr fun x => (hi.1 x).trans (mem_mrun U i.w x).symm,
   isEmpty_congr fun x => (hi.2 x).trans (mem_mrun B i.w x).symm⟩

/-- the cached state read through its pointers is the cache-free state (`rel`, `nx`, `vis`); every pointer is valid, the entries of
`usedRules_` are facts, the cache is well formed and injective (`MCInj se`), and every pair is reached by its word -/
structure CRel (se : Bool) (A B : NFA) (cst : CStC) (st : CSt) : Prop where
  rel : cst.relation.map (CIt.deref cst.c.mc) = st.relation
  nx : cst.next.map (CIt.deref cst.c.mc) = st.next
  vis : cst.c.visited.map (fun p => (val cst.c.mc p.1, val cst.c.mc p.2)) = st.visited
  vrel : CValid cst.c.mc cst.relation
  vnx : CValid cst.c.mc cst.next
  vvis : ∀ p, p ∈ cst.c.visited → p.1 < cst.c.mc.length ∧ p.2 < cst.c.mc.length
  used : UsedOK cst.c.mc cst.c.used
  mci : MCInv cst.c.mc
  inj : MCInj se cst.c.mc
  wd : ∀ i, i ∈ st.next ++ st.relation → CWordOK (nfaUnionDisjoint A B) B i

theorem map_vis_ext {mc mc' : MCache} {v : PtrMap} (hv : ∀ p, p ∈ v → p.1 < mc.length ∧ p.2 < mc.length) (he : mc <+: mc') :
    v.map (fun p => (val mc' p.1, val mc' p.2)) = v.map (fun p => (val mc p.1, val mc p.2)) := by
  apply List.map_congr_left
  intro p hp
  simp only [val_prefix he (hv p hp).1, val_prefix he (hv p hp).2]

theorem CRel.ext {se : Bool} {A B : NFA} {cst : CStC} {st : CSt} (h : CRel se A B cst st) {mc' : MCache}
    (he : cst.c.mc <+: mc') (hi : MCInv mc') (hj : MCInj se mc') :
    CRel se A B { cst with c := { cst.c with mc := mc' } } st :=
  ⟨by simp only; rw [map_derefC_ext h.vrel he]; exact h.rel,
   by simp only; rw [map_derefC_ext h.vnx he]; exact h.nx,
   by simp only; rw [map_vis_ext h.vvis he]; exact h.vis,
   h.vrel.ext he, h.vnx.ext he, fun p hp => ⟨lt_prefix he (h.vvis p hp).1, lt_prefix he (h.vvis p hp).2⟩,
   h.used.ext he, hi, hj, h.wd⟩

theorem intern2_spec (se : Bool) {mc : MCache} (h : MCInv mc) (hj : MCInj se mc) {v1 v2 : List Nat}
    (h1 : List.Pairwise (· < ·) v1) (h2 : List.Pairwise (· < ·) v2) :
    mc <+: (intern se (intern se mc v1).1 v2).1 ∧
    (intern se mc v1).2 < (intern se (intern se mc v1).1 v2).1.length ∧
    (intern se (intern se mc v1).1 v2).2 < (intern se (intern se mc v1).1 v2).1.length ∧
    val (intern se (intern se mc v1).1 v2).1 (intern se mc v1).2 = v1 ∧
    val (intern se (intern se mc v1).1 v2).1 (intern se (intern se mc v1).1 v2).2 = v2 ∧
    MCInv (intern se (intern se mc v1).1 v2).1 ∧ MCInj se (intern se (intern se mc v1).1 v2).1 := by
  obtain ⟨e1, l1, v1', i1⟩ := intern_spec se h h1
  obtain ⟨e2, l2, v2', i2⟩ := intern_spec se i1 h2
  exact ⟨e1.trans e2, lt_prefix e2 l1, l2, by rw [val_prefix e2 l1]; exact v1', v2', i2, intern_inj se i1 (intern_inj se h hj)⟩

theorem CRel.push {se : Bool} {A B : NFA} {cst : CStC} {st : CSt} (h : CRel se A B cst st) (br : Bool) {x y : Nat}
    {w X Y : List Nat} (hx : x < cst.c.mc.length) (hy : y < cst.c.mc.length) (hX : val cst.c.mc x = X)
    (hY : val cst.c.mc y = Y) (hv : mlHas cst.c.visited x y = false)
    (hw : CWordOK (nfaUnionDisjoint A B) B ⟨X, Y, w⟩) :
    CRel se A B ⟨cst.relation, addNextC br cst.next ⟨x, y, w⟩, ⟨cst.c.mc, mlAdd cst.c.visited x y, cst.c.used⟩⟩
      ⟨st.relation, addNext br st.next ⟨X, Y, w⟩, (X, Y) :: st.visited⟩ := by
  have hnew : CIt.deref cst.c.mc ⟨x, y, w⟩ = ⟨X, Y, w⟩ := by simp only [CIt.deref, hX, hY]
  have hmem : ∀ i, i ∈ addNextC br cst.next ⟨x, y, w⟩ → i = ⟨x, y, w⟩ ∨ i ∈ cst.next := by
    intro i hi
    cases br with
    | true => exact (List.mem_append.mp hi).symm.imp_left List.mem_singleton.mp
    | false => exact List.mem_cons.mp hi
  refine ⟨h.rel, ?_, ?_, h.vrel, ?_, ?_, h.used, h.mci, h.inj, ?_⟩
  · cases br with
    | true => simp only [addNextC, addNext, if_true, List.map_append, List.map_cons, List.map_nil, hnew, h.nx]
    | false => simp only [addNextC, addNext, Bool.false_eq_true, if_false, List.map_cons, hnew, h.nx]
  · simp only
    rw [mlAdd_of_not_has hv, List.map_cons, h.vis, hX, hY]
  · intro i hi
    rcases hmem i hi with rfl | hi
    · exact ⟨hx, hy⟩
    · exact h.vnx i hi
  · intro p hp
    rcases mem_mlAdd.mp hp with rfl | hp
    · exact ⟨hx, hy⟩
    · exact h.vvis p hp
  · intro i hi
    rcases List.mem_append.mp hi with hi | hi
    · rcases mem_addNext.mp hi with rfl | hi
      · exact hw
      · exact h.wd i (List.mem_append_left _ hi)
    · exact h.wd i (List.mem_append_right _ hi)

/-- `MakePostForAut`: the cache only grows (beyond `mc0`), the states stay related -/
theorem congrPostC_rel {se : Bool} {A B : NFA} (hdis : ∀ q, q ∈ nfaStates A → q ∈ nfaStates B → False)
    (hne : se = true ∨ NoHalfEmpty (nfaUnionDisjoint A B) B) (br : Bool) (w X Y : List Nat)
    (hw : CWordOK (nfaUnionDisjoint A B) B ⟨X, Y, w⟩) :
    ∀ (as : List Nat) (cst : CStC) (st : CSt) (mc0 : MCache), CRel se A B cst st → mc0 <+: cst.c.mc →
    ExceptRel (fun cst st => CRel se A B cst st ∧ mc0 <+: cst.c.mc)
      (congrPostC se (nfaUnionDisjoint A B) B br w X Y as cst) (congrPost (nfaUnionDisjoint A B) B br ⟨X, Y, w⟩ as st)
  | [], _, _, _, h, he0 => .ok ⟨h, he0⟩
  | a :: as, cst, st, mc0, h, he0 => by
    unfold congrPostC congrPost
    simp only
    have hw' : CWordOK (nfaUnionDisjoint A B) B ⟨macroStep (nfaUnionDisjoint A B) X a, macroStep B Y a, w ++ [a]⟩ :=
      csucc_ok hw a
    obtain ⟨hext, hx, hy, hvx, hvy, hinv, hinj⟩ := intern2_spec se h.mci h.inj
      (macroStep_sorted (nfaUnionDisjoint A B) X a) (macroStep_sorted B Y a)
    have hrec := congrPostC_rel hdis hne br w X Y hw as
    have h' := h.ext hext hinv hinj
    generalize macroStep (nfaUnionDisjoint A B) X a = X' at *
    generalize macroStep B Y a = Y' at *
    generalize (intern se cst.c.mc X').2 = x at *
    generalize intern se (intern se cst.c.mc X').1 Y' = r at *
    by_cases hacc : (W.accepting (nfaUnionDisjoint A B) X' != W.accepting B Y') = true
    · rw [if_pos hacc, if_pos hacc]; exact .error _
    rw [if_neg hacc, if_neg hacc]
    by_cases hemp : (X'.isEmpty && Y'.isEmpty) = true
    · rw [if_pos hemp, if_pos hemp]
      exact hrec cst st mc0 h he0
    rw [if_neg hemp, if_neg hemp]
    -- the two new macro-states are non-empty, or the cache interns the empty set
    have hnz : (se = true ∨ X' ≠ []) ∧ (se = true ∨ Y' ≠ []) := by
      rcases hne with hse | hnh
      · exact ⟨Or.inl hse, Or.inl hse⟩
      · have : X'.isEmpty = Y'.isEmpty := hw'.isEmpty.1.trans ((hnh (w ++ [a])).trans hw'.isEmpty.2.symm)
        rw [this, Bool.and_self] at hemp
        have hy' : Y' ≠ [] := fun h0 => hemp (h0 ▸ rfl)
        have hx' : X' ≠ [] := by
          intro h0; rw [h0] at this
          rw [List.isEmpty_eq_false_iff.mpr hy'] at this; cases this
        exact ⟨Or.inr hx', Or.inr hy'⟩
    -- so the pair was visited iff its two addresses are in `visitedPairs_`
    have hvis : mlHas cst.c.visited x r.2 = st.visited.contains (X', Y') := by
      rw [Bool.eq_iff_iff, mlHas_iff, List.contains_iff_mem, ← h'.vis, List.mem_map]
      constructor
      · intro hm
        exact ⟨_, hm, by rw [hvx, hvy]⟩
      · rintro ⟨p, hp, he⟩
        simp only [Prod.mk.injEq] at he
        have hp1 := h'.vvis p hp
        have e1 : p.1 = x := hinj _ _ hp1.1 hx (by rw [he.1, hvx]) (by rw [he.1]; exact hnz.1)
        have e2 : p.2 = r.2 := hinj _ _ hp1.2 hy (by rw [he.2, hvy]) (by rw [he.2]; exact hnz.2)
        rw [← e1, ← e2]; exact hp
    rw [hvis]
    by_cases hv : st.visited.contains (X', Y') = true
    · rw [if_pos hv, if_pos hv]
      exact hrec _ st mc0 h' (he0.trans hext)
    · rw [if_neg hv, if_neg hv]
      exact hrec _ _ mc0 (h'.push br hx hy hvx hvy (hvis.trans (Bool.eq_false_iff.mpr hv)) hw') (he0.trans hext)

/-- `relation_.push_back(make_pair(&s, &b))` -/
theorem CRel.snoc {se : Bool} {A B : NFA} {cst : CStC} {st : CSt} (h : CRel se A B cst st) {s b : Nat} {w X Y : List Nat}
    (hs : s < cst.c.mc.length) (hb : b < cst.c.mc.length) (hX : val cst.c.mc s = X) (hY : val cst.c.mc b = Y)
    (hw : CWordOK (nfaUnionDisjoint A B) B ⟨X, Y, w⟩) :
    CRel se A B ⟨cst.relation ++ [⟨s, b, w⟩], cst.next, cst.c⟩ ⟨st.relation ++ [⟨X, Y, w⟩], st.next, st.visited⟩ := by
  refine ⟨?_, h.nx, h.vis, ?_, h.vnx, h.vvis, h.used, h.mci, h.inj, ?_⟩
  · simp only [List.map_append, List.map_cons, List.map_nil, h.rel, CIt.deref, hX, hY]
  · intro i hi
    rcases List.mem_append.mp hi with hi | hi
    · exact h.vrel i hi
    · simp only [List.mem_singleton] at hi; subst hi; exact ⟨hs, hb⟩
  · intro i hi
    simp only [List.mem_append, List.mem_singleton] at hi
    rcases hi with hi | hi | rfl
    · exact h.wd i (List.mem_append_left _ hi)
    · exact h.wd i (List.mem_append_right _ hi)
    · exact hw

abbrev RFinC (se : Bool) (A B : NFA) : Option (Res CStC) → Option (Res (List CItem)) → Prop :=
  OptRel (ExceptRel fun cst R => ∃ st, CRel se A B cst st ∧ R = st.relation)

theorem viewC_of_RFinC {se : Bool} {A B : NFA} {rc : Option (Res CStC)} {rb : Option (Res (List CItem))}
    (h : RFinC se A B rc rb) : viewC rc = rb := by
  cases h with
  | none => rfl
  | some h =>
    cases h with
    | error w => rfl
    | ok h =>
      obtain ⟨st, hr, rfl⟩ := h
      simp only [viewC, derefC, hr.rel]

/-- `next_.get`: the picked pair leaves the work-list (its two sets were interned again before, `usedRules_` may have grown) -/
theorem CRel.pop {se : Bool} {A B : NFA} {cst : CStC} {st : CSt} (h : CRel se A B cst st) {it : CIt} {rest : List CIt}
    (hn : cst.next = it :: rest) {u' : PtrMap} (hu : UsedOK cst.c.mc u') :
    CRel se A B ⟨cst.relation, rest, ⟨cst.c.mc, cst.c.visited, u'⟩⟩
      ⟨st.relation, rest.map (CIt.deref cst.c.mc), st.visited⟩ := by
  have hst : st.next = it.deref cst.c.mc :: rest.map (CIt.deref cst.c.mc) := by rw [← h.nx, hn]; rfl
  refine ⟨h.rel, rfl, h.vis, h.vrel, fun i hi => h.vnx i (hn ▸ List.mem_cons_of_mem _ hi), h.vvis, hu, h.mci, h.inj,
    fun i hi => h.wd i ?_⟩
  rw [hst]
  exact (List.mem_append.mp hi).elim (fun h' => List.mem_append_left _ (List.mem_cons_of_mem _ h')) (List.mem_append_right _)

/-- the two loops run in lock step: `CRel` is kept by every picked pair.  `hne` is needed where `MakePost` looks a successor up in
`visitedPairs_` by address: that agrees with the look-up by value only if the cache is injective on both components, i.e. it
interns the empty set or no pair has exactly one empty component (pairs of two empty sets are dropped before the look-up) -/
theorem loopCongrC_rel {se : Bool} {A B : NFA} (hdis : ∀ q, q ∈ nfaStates A → q ∈ nfaStates B → False)
    (hne : se = true ∨ NoHalfEmpty (nfaUnionDisjoint A B) B) (br : Bool) :
    ∀ (n : Nat) (cst : CStC) (st : CSt), CRel se A B cst st →
    RFinC se A B (loopCongrC .lib se (nfaUnionDisjoint A B) B br n cst) (loopCongr (nfaUnionDisjoint A B) B br n st)
  | 0, _, _, _ => .none
  | n+1, cst, st, h => by
    unfold loopCongrC loopCongr
    cases hn : cst.next with
    | nil =>
      have : st.next = [] := by rw [← h.nx, hn]; rfl
      simp only [this]
      exact .some (.ok ⟨st, h, rfl⟩)
    | cons it rest =>
      have hst : st.next = ⟨val cst.c.mc it.x, val cst.c.mc it.y, it.w⟩ :: rest.map (CIt.deref cst.c.mc) := by
        rw [← h.nx, hn]; rfl
      simp only [hst]
      have hmem' : it.deref cst.c.mc ∈ st.next := by rw [hst]; exact List.mem_cons_self
      have hit := h.vnx it (hn ▸ List.mem_cons_self)
      have hw : CWordOK (nfaUnionDisjoint A B) B ⟨val cst.c.mc it.x, val cst.c.mc it.y, it.w⟩ :=
        h.wd _ (List.mem_append_left _ hmem')
      obtain ⟨hext, hs, hb, hvs, hvb, hinv, hinj⟩ := intern2_spec se h.mci h.inj
        (h.mci.val_sorted hit.1) (h.mci.val_sorted hit.2)
      have h' := h.ext hext hinv hinj
      have hvrest : CValid cst.c.mc rest := fun i hi => h.vnx i (hn ▸ List.mem_cons_of_mem _ hi)
      generalize (intern se cst.c.mc (val cst.c.mc it.x)).2 = s at *
      generalize intern se (intern se cst.c.mc (val cst.c.mc it.x)).1 (val cst.c.mc it.y) = r at *
      -- the rules of the closure test: the pairs still in the work-list and those of the relation
      have hderef : (rest.reverse ++ cst.relation).map (CIt.deref r.1) =
          (rest.map (CIt.deref cst.c.mc)).reverse ++ st.relation := by
        rw [List.map_append, List.map_reverse, h'.rel, map_derefC_ext hvrest hext]
      have hgood : GoodRules B r.1 (rest.reverse ++ cst.relation) := by
        intro i hi
        have hi' : i ∈ cst.next ∨ i ∈ cst.relation :=
          (List.mem_append.mp hi).imp_left (fun hi => hn ▸ List.mem_cons_of_mem _ (List.mem_reverse.mp hi))
        have hv : i.x < r.1.length ∧ i.y < r.1.length := hi'.elim (h'.vnx i) (h'.vrel i)
        refine ⟨hv.1, hv.2, (h'.wd (i.deref r.1) ?_).structR hdis⟩
        exact hi'.elim (fun hi => List.mem_append_left _ (h'.nx ▸ List.mem_map_of_mem hi))
          (fun hi => List.mem_append_right _ (h'.rel ▸ List.mem_map_of_mem hi))
      obtain ⟨hu', hcl⟩ := inClosureC_spec B (val cst.c.mc it.x) hb hgood h'.used
      rw [hvb, ← rulesOf_map_deref, hderef] at hcl
      have hpop := h'.pop hn hu'
      rw [map_derefC_ext hvrest hext] at hpop
      rw [hcl]
      by_cases hc : inClosure (rulesOf ((rest.map (CIt.deref cst.c.mc)).reverse ++ st.relation))
          (val cst.c.mc it.x) (val cst.c.mc it.y) = true
      · rw [if_pos hc, if_pos hc]
        exact loopCongrC_rel hdis hne br n _ _ hpop
      · rw [if_neg hc, if_neg hc]
        rcases (congrPostC_rel hdis hne br it.w (val cst.c.mc it.x) (val cst.c.mc it.y) hw
          (postSyms (nfaUnionDisjoint A B) B (val cst.c.mc it.x) (val cst.c.mc it.y)) _ _ _ hpop
          (List.prefix_refl _)).inv with ⟨w, hc, hb'⟩ | ⟨cst', st', hc, hb', hr1, hr2⟩
        · rw [hc, hb']; exact .some (.error w)
        · rw [hc, hb']
          apply loopCongrC_rel hdis hne br n
          exact hr1.snoc (lt_prefix hr2 hs) (lt_prefix hr2 hb) (by rw [val_prefix hr2 hs]; exact hvs)
            (by rw [val_prefix hr2 hb]; exact hvb) hw

theorem runCongrC_rel {se : Bool} {A B : NFA} (hdis : ∀ q, q ∈ nfaStates A → q ∈ nfaStates B → False)
    (hne : se = true ∨ NoHalfEmpty (nfaUnionDisjoint A B) B) (br : Bool) (fuel : Nat) :
    RFinC se A B (runCongrC .lib se (nfaUnionDisjoint A B) B br fuel) (runCongr (nfaUnionDisjoint A B) B br fuel) := by
  unfold runCongrC runCongr
  simp only
  split
  · exact .some (.error _)
  · obtain ⟨hext, hs, hb, hvs, hvb, hinv, hinj⟩ := intern2_spec se MCInv.nil (fun i j hi => by cases hi)
      (normS_sorted (nfaUnionDisjoint A B).start) (normS_sorted B.start)
    apply loopCongrC_rel hdis hne br fuel
    refine ⟨rfl, ?_, ?_, (fun i hi => by cases hi), ?_, ?_, (fun k v hkv => by cases hkv), hinv, hinj, ?_⟩
    · simp only [List.map_cons, List.map_nil, CIt.deref, hvs, hvb]
    · simp only [List.map_cons, List.map_nil, hvs, hvb]
    · intro i hi; simp only [List.mem_singleton] at hi; subst hi; exact ⟨hs, hb⟩
    · intro p hp; simp only [List.mem_singleton] at hp; subst hp; exact ⟨hs, hb⟩
    · intro i hi
      simp only [List.append_nil, List.mem_singleton] at hi; subst hi
      exact ⟨fun _ => mem_normS, fun _ => mem_normS⟩

theorem runCongrC_eq {se : Bool} {A B : NFA} (hdis : ∀ q, q ∈ nfaStates A → q ∈ nfaStates B → False)
    (hne : se = true ∨ NoHalfEmpty (nfaUnionDisjoint A B) B) (br : Bool) (fuel : Nat) :
    viewC (runCongrC .lib se (nfaUnionDisjoint A B) B br fuel) = runCongr (nfaUnionDisjoint A B) B br fuel :=
  viewC_of_RFinC (runCongrC_rel hdis hne br fuel)

theorem usedOKB_of_UsedOK {c : CCaches} (h : UsedOK c.mc c.used) : usedOKB c = true := by
  simp only [usedOKB, List.all_eq_true]
  exact fun p hp => subB_iff.mpr (h p.1 p.2 hp).2.2

theorem runCongrC_used_sound {se : Bool} {A B : NFA} (hdis : ∀ q, q ∈ nfaStates A → q ∈ nfaStates B → False)
    (hne : se = true ∨ NoHalfEmpty (nfaUnionDisjoint A B) B) (br : Bool) (fuel : Nat) {c : CCaches}
    (h : finalMemoC (runCongrC .lib se (nfaUnionDisjoint A B) B br fuel) = some c) :
    UsedOK c.mc c.used ∧ usedOKB c = true := by
  have hr := runCongrC_rel hdis hne br fuel
  generalize runCongrC .lib se (nfaUnionDisjoint A B) B br fuel = rc at hr h
  generalize runCongr (nfaUnionDisjoint A B) B br fuel = rb at hr
  cases hr with
  | none => cases h
  | some hr =>
    cases hr with
    | error w => cases h
    | ok hr =>
      obtain ⟨st, hrel, _⟩ := hr
      cases h
      exact ⟨hrel.used, usedOKB_of_UsedOK hrel.used⟩

theorem nfaInclCongr_eq_finish (A B : NFA) (br : Bool) (fuel : Nat) :
    nfaInclCongr A B br fuel = finishCongr A B (runCongr (nfaUnionDisjoint A B) B br fuel) := by
  unfold nfaInclCongr
  cases runCongr (nfaUnionDisjoint A B) B br fuel with
  | none => rfl
  | some r => cases r <;> rfl

/-- **C09, congruence functor: the macro-state cache, `visitedPairs_` and `usedRules_` are transparent.**  For operands with
disjoint states (what `SanitizeAutsForInclusion` produces), both orders and every fuel the functor with its caches returns
exactly what the cache-free model returns, provided the cache interns the empty set (`se = true`) or no pair with exactly
one empty component is reachable. -/
theorem nfaInclCongr_cached_eq {se : Bool} {A B : NFA} (hdis : ∀ q, q ∈ nfaStates A → q ∈ nfaStates B → False)
    (hne : se = true ∨ NoHalfEmpty (nfaUnionDisjoint A B) B) (br : Bool) (fuel : Nat) :
    nfaInclCongrC .lib se A B br fuel = nfaInclCongr A B br fuel := by
  rw [nfaInclCongr_eq_finish, nfaInclCongrC, runCongrC_eq hdis hne]

theorem checkNfaInclCongr_cached_eq {se : Bool} (A B : NFA)
    (hne : se = true ∨ NoHalfEmpty (nfaUnionDisjoint (nfaSanitize A B).1 (nfaSanitize A B).2) (nfaSanitize A B).2)
    (br : Bool) (fuel : Nat) : checkNfaInclCongrC .lib se A B br fuel = checkNfaInclCongr A B br fuel :=
  nfaInclCongr_cached_eq (sanitize_disjoint A B) hne br fuel

theorem witness_iff {A B : NFA} {w : List Nat} (h : (acceptsW A w && !acceptsW B w) = true) : false = true ↔ InclW A B := by
  simp only [Bool.and_eq_true, Bool.not_eq_true'] at h
  exact iff_of_false Bool.false_ne_true (not_inclW_of_witness h.1 h.2)

theorem finishAC_iff {A B : NFA} {r : Option (Res (List Item))} {b : Bool} {c : Cert}
    (h : finishAC A B r = some (b, c)) : b = true ↔ InclW A B :=
  match r, h with
  | none, h => by cases h
  | some (.ok _), h => by obtain ⟨hc, rfl⟩ := ite_some_inv h; exact iff_of_true rfl (nfaUpCertB_incl hc)
  | some (.error _), h => by obtain ⟨hc, rfl⟩ := ite_some_inv h; exact witness_iff hc

theorem finishCongr_iff {A B : NFA} {r : Option (Res (List CItem))} {b : Bool} {c : Cert}
    (h : finishCongr A B r = some (b, c)) : b = true ↔ InclW A B :=
  match r, h with
  | none, h => by cases h
  | some (.ok _), h => by obtain ⟨hc, rfl⟩ := ite_some_inv h; exact iff_of_true rfl (congrCertB_incl hc)
  | some (.error _), h => by obtain ⟨hc, rfl⟩ := ite_some_inv h; exact witness_iff hc

theorem rawVerdictA_true {r : Option (Res ASt)} (h : rawVerdictA r = some true) : ∃ st, r = some (.ok st) :=
  match r, h with
  | some (.ok st), _ => ⟨st, rfl⟩

theorem rawVerdictC_true {r : Option (Res CStC)} (h : rawVerdictC r = some true) : ∃ st, r = some (.ok st) :=
  match r, h with
  | some (.ok st), _ => ⟨st, rfl⟩

theorem nfaInclACc_none {mode : MemoMode} {se : Bool} {A B : NFA} {fuel : Nat}
    (h : rawVerdictA (runACc mode se A B fuel) = some true) (hn : ¬ InclW A B) : nfaInclACc mode se A B fuel = none := by
  obtain ⟨st, hr⟩ := rawVerdictA_true h
  rw [nfaInclACc, hr]
  exact ite_none_of nfaUpCertB_incl hn

theorem nfaInclCongrC_none {um : UsedMode} {se : Bool} {A B : NFA} {br : Bool} {fuel : Nat}
    (h : rawVerdictC (runCongrC um se (nfaUnionDisjoint A B) B br fuel) = some true) (hn : ¬ InclW A B) :
    nfaInclCongrC um se A B br fuel = none := by
  obtain ⟨st, hr⟩ := rawVerdictC_true h
  rw [nfaInclCongrC, hr]
  exact ite_none_of congrCertB_incl hn

/-- the certifying cached antichain model never returns a wrong verdict, in any memo mode and for any `areEqual` -/
theorem nfaInclACc_iff {mode : MemoMode} {se : Bool} {A B : NFA} {fuel : Nat} {b : Bool} {c : Cert}
    (h : nfaInclACc mode se A B fuel = some (b, c)) : b = true ↔ InclW A B :=
  finishAC_iff h

/-- the certifying cached congruence model never returns a wrong verdict, in any mode, for any `areEqual`, also when pairs
with an empty component are enqueued repeatedly -/
theorem nfaInclCongrC_iff {um : UsedMode} {se : Bool} {A B : NFA} {br : Bool} {fuel : Nat} {b : Bool} {c : Cert}
    (h : nfaInclCongrC um se A B br fuel = some (b, c)) : b = true ↔ InclW A B :=
  finishCongr_iff h

theorem checkNfaInclCongrC_iff {um : UsedMode} {se : Bool} {A B : NFA} {br : Bool} {fuel : Nat} {b : Bool} {c : Cert}
    (h : checkNfaInclCongrC um se A B br fuel = some (b, c)) : b = true ↔ InclW A B := by
  rw [← sanitize_incl A B]; exact nfaInclCongrC_iff h

theorem path_split {N : NFA} : ∀ (u : List Nat) {p q : Nat} {v : List Nat}, Path N p (u ++ v) q →
    ∃ r, Path N p u r ∧ Path N r v q
  | [], p, _, _, h => ⟨p, .nil p, h⟩
  | a :: u, _, _, _, h => by
    cases h with
    | cons he hp =>
      obtain ⟨r, h1, h2⟩ := path_split u hp
      exact ⟨r, .cons he h1, h2⟩

theorem noHalfEmpty_of_incl {A B : NFA} (hdis : ∀ q, q ∈ nfaStates A → q ∈ nfaStates B → False)
    (hco : ∀ q, q ∈ nfaStates A → NfaCoReach A q) (hincl : InclW A B) : NoHalfEmpty (nfaUnionDisjoint A B) B := by
  intro w
  rw [Bool.eq_iff_iff, List.isEmpty_iff, List.isEmpty_iff]
  constructor
  · intro hU
    apply List.eq_nil_iff_forall_not_mem.mpr
    intro x hx
    obtain ⟨s, hs, hp⟩ := (mem_run_iff B w x).mp ((mem_mrun B w x).mp hx)
    have : x ∈ mrun (nfaUnionDisjoint A B) w := by
      rw [mem_mrun, mem_run_iff]
      exact ⟨s, List.mem_append_right _ hs, hp.mono (fun e he => List.mem_append_right _ he)⟩
    rw [hU] at this; cases this
  · intro hB
    apply List.eq_nil_iff_forall_not_mem.mpr
    intro x hx
    have hBno : ∀ r, r ∈ run B w → False := by
      intro r hr
      have : r ∈ mrun B w := (mem_mrun B w r).mpr hr
      rw [hB] at this; cases this
    obtain ⟨s, hs, hp⟩ := (mem_run_iff _ w x).mp ((mem_mrun _ w x).mp hx)
    rcases List.mem_append.mp hs with hsA | hsB
    · obtain ⟨hpA, hxA⟩ := path_union_left hdis hp (start_mem_nfaStates hsA)
      obtain ⟨f, hf, v, hv⟩ := hco x hxA
      have hacc : acceptsW A (w ++ v) = true := (acceptsW_iff A _).mpr ⟨s, hsA, f, hf, hpA.append hv⟩
      obtain ⟨s', hs', q, _, hq⟩ := (acceptsW_iff B _).mp (hincl _ hacc)
      obtain ⟨r, hr, _⟩ := path_split w hq
      exact hBno r ((mem_run_iff B w r).mpr ⟨s', hs', hr⟩)
    · obtain ⟨hpB, _⟩ := path_union_right hdis hp (start_mem_nfaStates hsB)
      exact hBno x ((mem_run_iff B w x).mpr ⟨s, hsB, hpB⟩)

theorem coReach_nfaMap {f : Nat → Nat} {N : NFA} (h : ∀ q, q ∈ nfaStates N → NfaCoReach N q) :
    ∀ q, q ∈ nfaStates (nfaMap f N) → NfaCoReach (nfaMap f N) q := by
  intro q hq
  obtain ⟨q0, hq0, rfl⟩ := mem_nfaStates_nfaMap.mp hq
  obtain ⟨p, hp, w, hw⟩ := h q0 hq0
  exact ⟨_, List.mem_map_of_mem hp, w, hw.nfaMap⟩

theorem sanitize_coreach (A B : NFA) : ∀ q, q ∈ nfaStates (nfaSanitize A B).1 → NfaCoReach (nfaSanitize A B).1 q :=
  coReach_nfaMap (fun q hq => (nfaRemoveUseless_trim A q hq).2)

/-- **C09, congruence functor behind the dispatcher, the library's cache (`areEqual` never identifies empty sets): on every
positive instance the functor with its caches returns exactly what the cache-free model returns.** -/
theorem checkNfaInclCongr_cached_eq_of_incl (A B : NFA) (h : InclW A B) (br : Bool) (fuel : Nat) :
    checkNfaInclCongrC .lib false A B br fuel = checkNfaInclCongr A B br fuel :=
  checkNfaInclCongr_cached_eq A B
    (Or.inr (noHalfEmpty_of_incl (sanitize_disjoint A B) (sanitize_coreach A B) ((sanitize_incl A B).mpr h))) br fuel

namespace FCEx
open NfaInclEx

/-- a pair on which the pre-repair memo of the antichain functor (defect D8) changes the verdict; `L(A) ⊄ L(B)`: `b a a` -/
def exD8A : NFA := ⟨[0], [1, 0], [(1, 1, 0), (1, 0, 1), (0, 1, 1)]⟩
def exD8B : NFA := ⟨[2], [2, 3], [(3, 0, 2), (2, 1, 3), (3, 1, 3)]⟩

theorem exD8_not_incl : ¬ InclW exD8A exD8B := fun h => by
  have := h [1, 0, 0] (by decide)
  revert this; decide

/-- **D8 changes a verdict.**  With the pre-repair recording (`lte` / `gte` store the converse of a failed comparison) the
exploration of `exD8A ⊆ exD8B` ends with `return true` although the inclusion does not hold; the repaired code answers
`false`. -/
theorem d8_changes_verdict :
    rawVerdictA (runACc .preRepair false exD8A exD8B 20) = some true ∧
    rawVerdictA (runACc .lib false exD8A exD8B 20) = some false ∧ ¬ InclW exD8A exD8B :=
  ⟨by decide +kernel, by decide +kernel, exD8_not_incl⟩

theorem d8_certificate_rejects : nfaInclACc .preRepair false exD8A exD8B 20 = none :=
  nfaInclACc_none d8_changes_verdict.1 exD8_not_incl

/-- **D8 makes the exploration diverge** on the regression pair `exMemoA` / `exMemoB` (as the dispatcher renumbers it:
`exSanA` / `exSanB`): the repaired code is done after 10 picked pairs, the pre-repair code is still running after 100 (in
the model's order the contents of the work-list repeat with period 4 from the 8th pick on, up to the ghost words, while
the caches no longer change; the statement here is the bounded one) -/
theorem d8_diverges :
    (runACc .preRepair false exSanA exSanB 100).isNone = true ∧
    rawVerdictA (runACc .lib false exSanA exSanB 11) = some true ∧
    (checkNfaInclACc .preRepair false exMemoA exMemoB 100).isNone = true := by
  have h : (runACc .preRepair false exSanA exSanB 100).isNone = true := by decide +kernel
  refine ⟨h, by decide +kernel, ?_⟩
  -- the dispatcher hands `exSanA`, `exSanB` to the functor: it is the same run
  have e : nfaSanitize exMemoA exMemoB = (exSanA, exSanB) := rfl
  rw [Option.isNone_iff_eq_none] at h ⊢
  rw [checkNfaInclACc, e, nfaInclACc, h]
  rfl

/-- a pair on which the seeded change of `usedRules_.contains` changes the verdict; `L(A) ⊄ L(B)`: `b a a` -/
def exSwA : NFA := ⟨[0], [1], [(1, 0, 0), (0, 1, 1), (1, 0, 1)]⟩
def exSwB : NFA := ⟨[2], [2, 3], [(2, 1, 2), (2, 0, 3), (2, 1, 3)]⟩

theorem exSw_disjoint : ∀ q, q ∈ nfaStates exSwA → q ∈ nfaStates exSwB → False := by decide

theorem exSw_not_incl : ¬ InclW exSwA exSwB := fun h => by
  have := h [1, 0, 0] (by decide)
  revert this; decide

/-- **the swapped `usedRules_.contains` changes a verdict**: the breadth-first exploration ends with `return true` (relation
`{({0,2},{2}), ({1,2,3},{2,3})}`) although the inclusion does not hold; the library's code answers `false` -/
theorem swapped_changes_verdict :
    rawVerdictC (runCongrC .swapped false (nfaUnionDisjoint exSwA exSwB) exSwB true 20) = some true ∧
    rawVerdictC (runCongrC .lib false (nfaUnionDisjoint exSwA exSwB) exSwB true 20) = some false ∧
    ¬ InclW exSwA exSwB :=
  ⟨by decide +kernel, by decide +kernel, exSw_not_incl⟩

theorem swapped_certificate_rejects : nfaInclCongrC .swapped false exSwA exSwB true 20 = none :=
  nfaInclCongrC_none swapped_changes_verdict.1 exSw_not_incl

def exHA : NFA := ⟨[0], [0], [(0, 0, 1), (0, 1, 1), (1, 0, 1)]⟩
def exHB : NFA := ⟨[5], [5], []⟩

theorem exH_disjoint : ∀ q, q ∈ nfaStates exHA → q ∈ nfaStates exHB → False := by decide

/-- **the empty-set quirk of `MacroStateCache` is visible.**  `L(exHA) = L(exHB) = {ε}`, `exHA` has a useless state: the pair
`({1}, ∅)` is reachable.  The library's cache gives the empty set a new address at every `insert`, `visitedPairs_` never
recognises the pair and it is enqueued after every expansion: the cache-free model (and a cache that interns the empty set)
are done with fuel 3, the library's cache needs fuel 5. -/
theorem cached_real_ne :
    verdict (nfaInclCongr exHA exHB true 3) = some true ∧
    nfaInclCongrC .lib false exHA exHB true 3 = none ∧
    verdict (nfaInclCongrC .lib false exHA exHB true 5) = some true ∧
    ¬ NoHalfEmpty (nfaUnionDisjoint exHA exHB) exHB := by
  refine ⟨by decide +kernel, by decide +kernel, by decide +kernel, ?_⟩
  intro h
  have := h [0]
  revert this; decide

/-- a negative instance on which, behind the dispatcher, the quirk changes the ORDER of the exploration (a pair with an empty
component is discarded because of its own second copy and expanded only when that copy is picked): both runs answer `false`,
with different (valid) witnesses, evaluated in `Props.C09_empty_set_quirk` (2).  So `checkNfaInclCongr_cached_eq_of_incl` does
not extend to negative instances. -/
def exWA : NFA := ⟨[0], [0], [(1, 0, 0), (0, 2, 1), (0, 0, 1)]⟩
def exWB : NFA := ⟨[10], [12, 10], [(11, 2, 10), (12, 1, 13), (12, 2, 12)]⟩

theorem exMemo_incl : InclW exMemoA exMemoB := by
  obtain ⟨c, h⟩ := verdict_some (r := nfaInclAC exMemoA exMemoB 20) (b := true) (by decide +kernel)
  exact (nfaInclAC_iff h).mp rfl

/-- the run of the repository's code (`MemoMode.lib`) on the regression pair of D8 (evaluated once; quoted below and in
`C09_Caches`): 6 objects, 4 + 9 memo entries -/
theorem exSan_run : (finalMemoA (runACc .lib false exSanA exSanB 20)).map
    (fun c => (c.mc.length, c.sub.length, c.nsub.length, memoOKB c)) = some (6, 4, 9, true) := by decide +kernel

example : (finalMemoA (runACc .lib false exSanA exSanB 20)).map (fun c => (c.mc.length, c.sub.length, c.nsub.length)) =
    some (6, 4, 9) := Option.map_of_map exSan_run (fun t => (t.1, t.2.1, t.2.2.1))
example : nfaInclACc .lib false exSanA exSanB 20 = nfaInclAC exSanA exSanB 20 := nfaInclAC_cached_eq _ _ _ _
example : ∃ c, finalMemoA (runACc .lib false exSanA exSanB 20) = some c ∧ MemoOK c := by
  obtain ⟨c, hc⟩ := Option.isSome_iff_exists.mp
    (Option.isSome_of_map exSan_run)
  exact ⟨c, hc, (runACc_memo_sound _ _ _ _ hc).1⟩
example : (finalMemoC (runCongrC .lib false (nfaUnionDisjoint exSanA exSanB) exSanB true 20)).map
    (fun c => (c.mc.length, c.visited.length, c.used)) = some (14, 11, [(6, 6), (1, 9), (4, 7)]) := by decide +kernel
example : checkNfaInclCongrC .lib false exMemoA exMemoB true 20 = checkNfaInclCongr exMemoA exMemoB true 20 :=
  checkNfaInclCongr_cached_eq_of_incl _ _ exMemo_incl _ _
example : NoHalfEmpty (nfaUnionDisjoint (nfaSanitize exMemoA exMemoB).1 (nfaSanitize exMemoA exMemoB).2)
    (nfaSanitize exMemoA exMemoB).2 :=
  noHalfEmpty_of_incl (sanitize_disjoint _ _) (sanitize_coreach _ _) ((sanitize_incl _ _).mpr exMemo_incl)
example : nfaInclCongrC .lib true exHA exHB true 3 = nfaInclCongr exHA exHB true 3 :=
  nfaInclCongr_cached_eq exH_disjoint (Or.inl rfl) _ _
example : nfaInclCongrC .lib true exSwA exSwB false 20 = nfaInclCongr exSwA exSwB false 20 :=
  nfaInclCongr_cached_eq exSw_disjoint (Or.inl rfl) _ _

end FCEx

end FC
end Vata
