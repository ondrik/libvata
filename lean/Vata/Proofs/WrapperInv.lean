import Vata.Proofs.Wrapper
import Vata.Proofs.TrimCodedResult
/-!
# The wrapper `ExplicitTreeAut`: invariants of reachable worlds

Every public call keeps `World.Ok` (every alphabet object two-way, counter at the size).  Along calls that do not by-pass
the alphabet (`Safe`, `ReachSafe`) every rule of every automaton carries the number that its alphabet gives to (some
name, its number of children).  `ToString (trans)` throws exactly for an unregistered symbol of an `OnTheFlyAlphabet`.
-/
namespace Vata.Wrapper
open Vata Vata.LoadDump Vata.Dict

theorem loadW_spec {w : World} {i : Nat} {d : AutDesc} {sd : StateDict} {r : World × StateDict}
    (e : loadW w i d sd = .ok r) :
    ∃ A yd n, w.aut? i = .ok A ∧ w.alpha? A.alpha = .ok (.otf yd n) ∧
      r.1 = { alphas := w.alphas.set A.alpha
                (.otf (loadFromW ⟨sd, 0, yd, n⟩ d).2.yd (loadFromW ⟨sd, 0, yd, n⟩ d).2.next),
              auts := w.auts.set i
                ⟨⟨A.core.rules ++ (loadFromW ⟨sd, 0, yd, n⟩ d).1.rules, A.core.final ++ (loadFromW ⟨sd, 0, yd, n⟩ d).1.final⟩,
                  A.alpha⟩ } ∧
      r.2 = (loadFromW ⟨sd, 0, yd, n⟩ d).2.sd := by
  obtain ⟨A, hA, e⟩ := ok_of_match e
  split at e
  · cases e
  · cases e
  · rename_i yd n hal
    cases e
    exact ⟨A, yd, n, hA, hal, rfl, rfl⟩

/-- the alphabet translates the rule's symbol number back to a `StringRank` whose rank is the rule's number of
children.  (A `DirectAlphabet` back-translates every number to rank 0 and nothing can be loaded through it: no claim.) -/
def RankedIn : Alphabet → Rule → Prop
  | .otf d _, r => ∃ name, d.bwd? r.sym = some (name, r.kids.length)
  | .direct, _ => True

def World.Ranked (w : World) : Prop :=
  ∀ A, A ∈ w.auts → ∀ al, w.alphas[A.alpha]? = some al → ∀ r, r ∈ A.core.rules → RankedIn al r

def SymSub (B : TA) (As : List Rule) : Prop :=
  ∀ r, r ∈ B.rules → ∃ r', r' ∈ As ∧ r'.sym = r.sym ∧ r'.kids.length = r.kids.length

/-- the calls that do not by-pass the alphabet (everything not listed is safe without condition, in particular every
load, on any alphabet, with any state dictionary) -/
def Safe (w : World) : Op → Prop
  | .setAlphabet i a => ∀ A, w.aut? i = .ok A → A.core.rules = [] ∨ a = A.alpha
  | .addTransition i kids sym parent =>
    ∀ A al, w.aut? i = .ok A → w.alpha? A.alpha = .ok al → RankedIn al ⟨sym, kids, parent⟩
  | .removeUnreachable i => ∀ A, w.aut? i = .ok A → unreachAlpha A.core A.alpha = A.alpha
  | .removeUseless i => ∀ A, w.aut? i = .ok A → A.alpha = 0
  | .unionDisjoint i j => ∀ L R, w.aut? i = .ok L → w.aut? j = .ok R → L.alpha = R.alpha
  | .translateSymbols i g =>
    ∀ A al, w.aut? i = .ok A → w.alpha? A.alpha = .ok al → ∀ r, r ∈ A.core.rules → RankedIn al (mapSym g r)
  | .reduce i c =>
    ∀ A, w.aut? i = .ok A → SymSub (c A.core) A.core.rules ∧ unreachAlpha (c A.core) A.alpha = A.alpha
  | .core1 k i f =>
    ∀ A al, w.aut? i = .ok A → w.alpha? A.alpha = .ok al → k.alpha A.alpha = A.alpha ∧
      ∀ r, r ∈ (f A.core).rules →
        (∃ r', r' ∈ A.core.rules ∧ r'.sym = r.sym ∧ r'.kids.length = r.kids.length) ∨ RankedIn al r
  | .core2 _ i j f =>
    ∀ L R, w.aut? i = .ok L → w.aut? j = .ok R →
      L.alpha = 0 ∧ R.alpha = 0 ∧ SymSub (f L.core R.core) (L.core.rules ++ R.core.rules)
  | _ => True

inductive ReachSafe : World → Prop where
  | init : ReachSafe World.init
  | step {w w' : World} (o : Op) : ReachSafe w → Safe w o → step w o = .ok w' → ReachSafe w'

theorem ReachSafe.reach {w : World} (h : ReachSafe w) : Reach w := by
  induction h with
  | init => exact .init
  | step o _ _ e ih => exact .step o ih e

theorem RankedIn.same {al : Alphabet} {r r' : Rule} (h : RankedIn al r') (e1 : r'.sym = r.sym)
    (e2 : r'.kids.length = r.kids.length) : RankedIn al r := by
  cases al with
  | direct => trivial
  | otf d n => obtain ⟨nm, e⟩ := h; exact ⟨nm, by rw [← e1, ← e2]; exact e⟩

theorem RankedIn.ext {d d' : SymDict} {n n' : Nat} {r : Rule} (h : RankedIn (.otf d n) r) (hd : d.Ok) (hd' : d'.Ok)
    (hs : Sub d d') : RankedIn (.otf d' n') r := by
  obtain ⟨nm, e⟩ := h
  exact ⟨nm, hd'.bwd_fwd.mpr (hs _ _ (hd.bwd_fwd.mp e))⟩

theorem RankedIn.ofRuleIn {d : SymDict} {n : Nat} {r : Rule} (hd : d.Ok) (h : RuleIn d r) : RankedIn (.otf d n) r := by
  obtain ⟨nm, e⟩ := h
  exact ⟨nm, hd.bwd_fwd.mpr e⟩

theorem push_ranked {w : World} (h : w.Ranked) (T : TA) (a : Nat)
    (hB : ∀ al, w.alphas[a]? = some al → ∀ r, r ∈ T.rules → RankedIn al r) : (w.push ⟨T, a⟩).Ranked := by
  intro A hA al hal r hr
  simp only [World.push, List.mem_append, List.mem_singleton] at hA
  rcases hA with hA | hA
  · exact h A hA al hal r hr
  · subst hA; exact hB al hal r hr

theorem setAut_ranked {w : World} (h : w.Ranked) (i : Nat) (T : TA) (a : Nat)
    (hB : ∀ al, w.alphas[a]? = some al → ∀ r, r ∈ T.rules → RankedIn al r) :
    ({ w with auts := w.auts.set i ⟨T, a⟩ } : World).Ranked := by
  intro A hA al hal r hr
  rcases List.mem_or_eq_of_mem_set hA with hA | hA
  · exact h A hA al hal r hr
  · subst hA; exact hB al hal r hr

theorem addAlpha_ranked {w : World} (hok : w.Ok) (h : w.Ranked) (al : Alphabet) :
    ({ w with alphas := w.alphas ++ [al] } : World).Ranked := by
  intro A hA al' hal r hr
  have hal2 : (w.alphas ++ [al])[A.alpha]? = some al' := hal
  rw [List.getElem?_append_left (hok.alpha A hA)] at hal2
  exact h A hA al' hal2 r hr

theorem unreachCoded_sub (A : TA) {r : Rule} (hr : r ∈ (TrimCoded.unreachCoded A).rules) : r ∈ A.rules :=
  (List.mem_filter.mp ((TrimCoded.mem_unreachCoded_rules A r).mp hr)).1

theorem uselessCoded_sub (A : TA) {r : Rule} (hr : r ∈ (TrimCoded.uselessCoded A).rules) : r ∈ A.rules := by
  rw [TrimCoded.uselessCoded_eq] at hr
  have h2 := ((TrimCoded.preUnreach_equiv A).1 r).mp (unreachCoded_sub _ hr)
  exact (List.mem_filter.mp h2).1

/-- an alphabet object grows: the world stays `Ranked` if the new object translates back whatever the old one did -/
theorem setAlpha_ranked {w : World} (h : w.Ranked) {a : Nat} {al al' : Alphabet} (hal : w.alphas[a]? = some al)
    (hext : ∀ r, RankedIn al r → RankedIn al' r) : ({ w with alphas := w.alphas.set a al' } : World).Ranked := by
  intro B hB x hx r hr
  have hx' : (w.alphas.set a al')[B.alpha]? = some x := hx
  by_cases hsame : a = B.alpha
  · rw [← hsame, List.getElem?_set_self (List.getElem?_eq_some_iff.mp hal).1] at hx'
    cases hx'
    exact hext r (h B hB al (hsame ▸ hal) r hr)
  · rw [List.getElem?_set_ne hsame] at hx'
    exact h B hB x hx' r hr

/-- `Ok` is kept by every call (a new automaton takes its alphabet from an operand, or the global one; an assigned
alphabet exists); `Ranked` is kept by every safe call -/
theorem step_inv {w w' : World} (hok : w.Ok) (o : Op) (e : step w o = .ok w') :
    w'.Ok ∧ (w.Ranked → Safe w o → w'.Ranked) := by
  cases o with
  | newAut =>
    cases e
    exact ⟨push_ok hok _ hok.zero_lt, fun h _ => push_ranked h _ _ (fun al _ r hr => by cases hr)⟩
  | copyAut i ct cf =>
    obtain ⟨A, hA, e⟩ := ok_of_match e
    cases e
    refine ⟨push_ok hok _ (hok.alpha A (aut?_mem hA)), fun h _ =>
      push_ranked h _ _ (fun al hal r hr => h A (aut?_mem hA) al hal r ?_)⟩
    cases ct
    · cases hr
    · exact hr
  | assign dst src =>
    obtain ⟨_, A, _, hA, e⟩ := ok_of_match₂ e
    cases e
    exact ⟨setAut_ok hok _ _ (hok.alpha A (aut?_mem hA)), fun h _ => setAut_ranked h _ _ _ (h A (aut?_mem hA))⟩
  | newOtf => cases e; exact ⟨addAlpha_ok hok _ ⟨ok_nil, rfl⟩, fun h _ => addAlpha_ranked hok h _⟩
  | copyOtf a =>
    simp only [step] at e
    split at e
    · rename_i d n hal; cases e
      exact ⟨addAlpha_ok hok _ (hok.alphas _ (alpha?_mem hal)), fun h _ => addAlpha_ranked hok h _⟩
    · cases e
    · cases e
  | newDirect => cases e; exact ⟨addAlpha_ok hok _ trivial, fun h _ => addAlpha_ranked hok h _⟩
  | setAlphabet i a =>
    simp only [step] at e
    split at e
    · rename_i A al0 hA hal0; cases e
      refine ⟨setAut_ok hok _ _ (alpha?_lt hal0), fun h hs => setAut_ranked h _ _ _ (fun al hal r hr => ?_)⟩
      rcases hs A hA with hn | ha
      · rw [hn] at hr; cases hr
      · subst ha; exact h A (aut?_mem hA) al hal r hr
    · cases e
    · cases e
  | load i d sd =>
    simp only [step] at e
    split at e
    · rename_i r0 hr0; cases e
      obtain ⟨A, yd, n, hA, hal, e1, _⟩ := loadW_spec hr0
      rw [e1]
      have hyd := hok.alphas _ (alpha?_mem hal)
      obtain ⟨y, yr⟩ := loadFromW_y sd 0 yd n hyd.1 hyd.2 d
      refine ⟨setAut_ok (setAlpha_ok hok A.alpha ⟨y.ok, y.sync⟩) i _
        (Nat.lt_of_lt_of_eq (alpha?_lt hal) List.length_set.symm), fun h _ =>
        setAut_ranked (setAlpha_ranked h (alpha?_ok hal) (fun r hr => hr.ext hyd.1 y.ok y.sub)) i _ _
          (fun al hal' r hr => ?_)⟩
      have ha : (w.alphas.set A.alpha _)[A.alpha]? = some al := hal'
      rw [List.getElem?_set_self (alpha?_lt hal)] at ha
      cases ha
      rcases List.mem_append.mp hr with hr | hr
      · exact (h A (aut?_mem hA) _ (alpha?_ok hal) r hr).ext hyd.1 y.ok y.sub
      · exact RankedIn.ofRuleIn y.ok (yr r hr)
    · cases e
  | addTransition i kids sym parent =>
    obtain ⟨A, hA, e⟩ := ok_of_match e
    cases e
    refine ⟨setAut_ok hok _ _ (hok.alpha A (aut?_mem hA)), fun h hs =>
      setAut_ranked h _ _ _ (fun al hal r hr => ?_)⟩
    rcases List.mem_append.mp hr with hr | hr
    · exact h A (aut?_mem hA) al hal r hr
    · rw [List.mem_singleton] at hr; subst hr
      exact hs A al hA (alpha?_of_getElem? hal)
  | setFinal i q =>
    obtain ⟨A, hA, e⟩ := ok_of_match e
    cases e
    exact ⟨setAut_ok hok _ _ (hok.alpha A (aut?_mem hA)), fun h _ => setAut_ranked h _ _ _ (h A (aut?_mem hA))⟩
  | clear i =>
    obtain ⟨A, hA, e⟩ := ok_of_match e
    cases e
    exact ⟨setAut_ok hok _ _ (hok.alpha A (aut?_mem hA)), fun h _ =>
      setAut_ranked h _ _ _ (fun al _ r hr => by cases hr)⟩
  | removeUnreachable i =>
    obtain ⟨A, hA, e⟩ := ok_of_match e
    cases e
    refine ⟨push_ok hok _ (unreachAlpha_lt hok _ (hok.alpha A (aut?_mem hA))), fun h hs =>
      push_ranked h _ _ (fun al hal r hr => ?_)⟩
    rw [hs A hA] at hal
    exact h A (aut?_mem hA) al hal r (unreachCoded_sub _ hr)
  | removeUseless i =>
    obtain ⟨A, hA, e⟩ := ok_of_match e
    cases e
    refine ⟨push_ok hok _ hok.zero_lt, fun h hs => push_ranked h _ _ (fun al hal r hr => ?_)⟩
    rw [← hs A hA] at hal
    exact h A (aut?_mem hA) al hal r (uselessCoded_sub _ hr)
  | unionDisjoint i j =>
    obtain ⟨L, R, hL, hR, e⟩ := ok_of_match₂ e
    cases e
    refine ⟨push_ok hok _ (hok.alpha L (aut?_mem hL)), fun h hs => push_ranked h _ _ (fun al hal r hr => ?_)⟩
    rcases List.mem_append.mp hr with hr | hr
    · exact h L (aut?_mem hL) al hal r hr
    · rw [hs L R hL hR] at hal
      exact h R (aut?_mem hR) al hal r hr
  | translateSymbols i g =>
    obtain ⟨A, hA, e⟩ := ok_of_match e
    cases e
    refine ⟨push_ok hok _ (hok.alpha A (aut?_mem hA)), fun h hs => push_ranked h _ _ (fun al hal r hr => ?_)⟩
    obtain ⟨r0, hr0, rfl⟩ := List.mem_map.mp hr
    exact hs A al hA (alpha?_of_getElem? hal) r0 hr0
  | reindex i f =>
    obtain ⟨A, hA, e⟩ := ok_of_match e
    cases e
    refine ⟨push_ok hok _ (hok.alpha A (aut?_mem hA)), fun h _ => push_ranked h _ _ (fun al hal r hr => ?_)⟩
    obtain ⟨r0, hr0, rfl⟩ := List.mem_map.mp hr
    exact (h A (aut?_mem hA) al hal r0 hr0).same rfl (List.length_map _).symm
  | reduce i c =>
    obtain ⟨A, hA, e⟩ := ok_of_match e
    cases e
    refine ⟨push_ok hok _ (unreachAlpha_lt hok _ (hok.alpha A (aut?_mem hA))), fun h hs =>
      push_ranked h _ _ (fun al hal r hr => ?_)⟩
    obtain ⟨s1, s2⟩ := hs A hA
    rw [s2] at hal
    obtain ⟨r', hr', e1, e2⟩ := s1 r (unreachCoded_sub _ hr)
    exact (h A (aut?_mem hA) al hal r' hr').same e1 e2
  | core1 k i f =>
    obtain ⟨A, hA, e⟩ := ok_of_match e
    split at e
    · cases e
    · cases e
    · rename_i al0 _ hal0 _; cases e
      refine ⟨push_ok hok _ (K1.alpha_lt hok _ (hok.alpha A (aut?_mem hA))), fun h hs =>
        push_ranked h _ _ (fun al hal r hr => ?_)⟩
      obtain ⟨s1, s2⟩ := hs A al0 hA hal0
      rw [s1, alpha?_ok hal0] at hal
      cases hal
      rcases s2 r hr with ⟨r', hr', e1, e2⟩ | hr2
      · exact (h A (aut?_mem hA) al0 (alpha?_ok hal0) r' hr').same e1 e2
      · exact hr2
  | core2 k i j f =>
    obtain ⟨L, R, hL, hR, e⟩ := ok_of_match₂ e
    cases e
    refine ⟨push_ok hok _ hok.zero_lt, fun h hs => push_ranked h _ _ (fun al hal r hr => ?_)⟩
    obtain ⟨s1, s2, s3⟩ := hs L R hL hR
    obtain ⟨r', hr', e1, e2⟩ := s3 r hr
    rcases List.mem_append.mp hr' with hr1 | hr1
    · rw [← s1] at hal; exact (h L (aut?_mem hL) al hal r' hr1).same e1 e2
    · rw [← s2] at hal; exact (h R (aut?_mem hR) al hal r' hr1).same e1 e2

theorem reach_ok {w : World} (h : Reach w) : w.Ok := by
  induction h with
  | init => exact worldInit_ok
  | step o _ e ih => exact (step_inv ih o e).1

theorem reachSafe_ranked {w : World} (h : ReachSafe w) : w.Ranked := by
  induction h with
  | init => intro A hA; cases hA
  | step o hw hs e ih => exact (step_inv (reach_ok hw.reach) o e).2 ih hs

theorem toStringW_error_iff {w : World} {i : Nat} {A : WAut} {al : Alphabet} (hA : w.aut? i = .ok A)
    (hal : w.alpha? A.alpha = .ok al) (t : Rule) :
    (∃ msg, toStringW w i t = .error msg) ↔ ∃ d n, al = .otf d n ∧ d.bwd? t.sym = none := by
  unfold toStringW World.alphaOf
  simp only [hA, hal]
  cases al with
  | direct => simp [Alphabet.back]
  | otf d n =>
    simp only [Alphabet.back]
    cases hb : d.bwd? t.sym with
    | none => simp [hb]
    | some k => simp [hb]

theorem toStringW_error_msg {w : World} {i : Nat} {A : WAut} {d : SymDict} {n : Nat} (hA : w.aut? i = .ok A)
    (hal : w.alpha? A.alpha = .ok (.otf d n)) (t : Rule) (hb : d.bwd? t.sym = none) :
    toStringW w i t = .error (noTransl t.sym) := by
  unfold toStringW World.alphaOf
  simp only [hA, hal, Alphabet.back, hb]

theorem toStringW_ok {w : World} {i : Nat} {A : WAut} {d : SymDict} {n : Nat} {k : String × Nat} (hA : w.aut? i = .ok A)
    (hal : w.alpha? A.alpha = .ok (.otf d n)) (t : Rule) (hb : d.bwd? t.sym = some k) :
    toStringW w i t = .ok (k.1 ++ "(" ++ joinNums t.kids ++ ") -> " ++ toString t.parent) := by
  unfold toStringW World.alphaOf
  simp only [hA, hal, Alphabet.back, hb]

end Vata.Wrapper
