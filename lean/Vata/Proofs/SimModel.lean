import Vata.Spec
import Vata.Proofs.Rename
import Vata.Proofs.Rounds
/-!
# The reference simulations `downSimRef` / `upSimRef` (C04) and the quotient `reduce` (C05)

The refinement loop starts from all pairs of states and filters by the Boolean transfer check; every simulation survives
each round, and `|Q|² + 1` rounds reach the fixed point, so the result is the greatest simulation on `A.states`, a
preorder.  Collapsing states equivalent under it keeps the language.
-/
namespace Vata

def RelOf (R : Rel) : Nat → Nat → Prop := fun q r => (q, r) ∈ R

instance (R : Rel) (q r : Nat) : Decidable (RelOf R q r) := inferInstanceAs (Decidable ((q, r) ∈ R))

namespace SimModel

theorem mem_allPairs {Q : List Nat} {q r : Nat} : (q, r) ∈ allPairs Q ↔ q ∈ Q ∧ r ∈ Q :=
  mem_flatMap_map_pair

theorem length_allPairs (Q : List Nat) : (allPairs Q).length = Q.length * Q.length :=
  length_flatMap_map _ Q Q

theorem kidsRel_iff (R : Rel) : ∀ ks ks' : List Nat, kidsRel R ks ks' = true ↔ All2 (RelOf R) ks ks'
  | [], [] => by simp only [kidsRel, true_iff]; exact All2.nil
  | [], _ :: _ => by
    simp only [kidsRel, Bool.false_eq_true, false_iff]
    intro h; cases h
  | _ :: _, [] => by
    simp only [kidsRel, Bool.false_eq_true, false_iff]
    intro h; cases h
  | k :: ks, k' :: ks' => by
    simp only [kidsRel, Bool.and_eq_true, List.contains_iff_mem, kidsRel_iff R ks ks']
    constructor
    · rintro ⟨h1, h2⟩; exact All2.cons h1 h2
    · intro h
      cases h with
      | cons h1 h2 => exact ⟨h1, h2⟩

theorem downOk_iff (A : TA) (R : Rel) (q r : Nat) :
    downOk A R q r = true ↔ ∀ ρ, ρ ∈ A.rules → ρ.parent = q →
      ∃ σ, σ ∈ A.rules ∧ σ.parent = r ∧ σ.sym = ρ.sym ∧ All2 (RelOf R) ρ.kids σ.kids := by
  simp only [downOk, List.all_eq_true, Bool.or_eq_true, bne_iff_ne, ne_eq, List.any_eq_true, Bool.and_eq_true,
    beq_iff_eq, kidsRel_iff, ← Decidable.imp_iff_not_or, and_assoc]

theorem upOk_iff (A : TA) (R : Rel) (q r : Nat) :
    upOk A R q r = true ↔ (q ∈ A.final → r ∈ A.final) ∧
      ∀ ρ, ρ ∈ A.rules → ∀ i, ρ.kids[i]? = some q →
        ∃ σ, σ ∈ A.rules ∧ σ.sym = ρ.sym ∧ σ.kids = setAt ρ.kids i r ∧ RelOf R ρ.parent σ.parent := by
  simp only [upOk, List.all_eq_true, Bool.or_eq_true, bne_iff_ne, ne_eq, List.any_eq_true, Bool.and_eq_true,
    beq_iff_eq, Bool.not_eq_true', ← Bool.not_eq_true, List.contains_iff_mem, List.mem_range, RelOf,
    ← Decidable.imp_iff_not_or, and_assoc]
  -- the model lets `i` range over the positions of `ρ.kids` only
  refine and_congr Iff.rfl (forall_congr' fun ρ => forall_congr' fun _ => forall_congr' fun i => ?_)
  exact ⟨fun h hi => h (List.getElem?_eq_some_iff.mp hi).1 hi, fun h _ hi => h hi⟩

/-! `refineIter ok` is a round loop that filters by `ok` (`Vata/Proofs/Rounds.lean`) -/

theorem refineIter_sub (ok : Rel → Nat → Nat → Bool) (n : Nat) (R : Rel) (p : Nat × Nat) (h : p ∈ refineIter ok n R) : p ∈ R :=
  Rounds.filter_sub (iter := refineIter ok) (ok := fun R p => ok R p.1 p.2) n R p h

theorem refineIter_contains (ok : Rel → Nat → Nat → Bool) (P : Nat × Nat → Prop)
    (hstep : ∀ R : Rel, (∀ p, P p → p ∈ R) → ∀ p, P p → ok R p.1 p.2 = true) (n : Nat) (R : Rel) (h : ∀ p, P p → p ∈ R)
    (p : Nat × Nat) (hp : P p) : p ∈ refineIter ok n R :=
  Rounds.filter_contains (iter := refineIter ok) (ok := fun R p => ok R p.1 p.2) P hstep n R h p hp

/-- with more rounds than pairs, the loop stops at a relation all of whose pairs pass the test -/
theorem refineIter_stable (ok : Rel → Nat → Nat → Bool) (n : Nat) (R : Rel) (h : R.length < n) (p : Nat × Nat)
    (hp : p ∈ refineIter ok n R) : ok (refineIter ok n R) p.1 p.2 = true :=
  Rounds.filter_stable (iter := refineIter ok) (ok := fun R p => ok R p.1 p.2) n R (Nat.le_of_lt h) p hp

end SimModel

open SimModel

theorem isDownSimB_iff (A : TA) (R : Rel) : isDownSimB A R = true ↔ DownSim A (RelOf R) := by
  simp only [isDownSimB, List.all_eq_true, downOk_iff, DownSim]
  constructor
  · intro h q r hqr; exact h (q, r) hqr
  · intro h p hp; exact h p.1 p.2 hp

theorem isUpSimB_iff (A : TA) (R : Rel) : isUpSimB A R = true ↔ IsUpSim A (RelOf R) := by
  simp only [isUpSimB, List.all_eq_true, upOk_iff, IsUpSim]
  constructor
  · intro h q r hqr; exact h (q, r) hqr
  · intro h p hp; exact h p.1 p.2 hp


/-! a concrete automaton for the non-vacuity examples:
`a → 0`, `a → 1`, `f(0,1) → 2`, `f(1,0) → 3`, `g(2) → 4`, final `{2, 3}`;  `0 ≃ 1`, `2 ≃ 3`, and `4` is simulated by nothing else -/
def SimModel.exA : TA := ⟨[⟨0, [], 0⟩, ⟨0, [], 1⟩, ⟨1, [0, 1], 2⟩, ⟨1, [1, 0], 3⟩, ⟨2, [2], 4⟩], [2, 3]⟩
def SimModel.exH : Nat → Nat := fun q => if q = 1 then 0 else if q = 3 then 2 else q

example : isDownSimB exA [(0, 1), (1, 0), (2, 3)] = true ∧ DownSim exA (RelOf [(0, 1), (1, 0), (2, 3)]) :=
  ⟨by decide, (isDownSimB_iff _ _).mp (by decide)⟩
example : isDownSimB exA [(2, 4)] = false ∧ ¬ DownSim exA (RelOf [(2, 4)]) :=
  ⟨by decide, fun h => absurd ((isDownSimB_iff _ _).mpr h) (by decide)⟩
example : isUpSimB exA [(3, 2), (4, 0)] = true ∧ IsUpSim exA (RelOf [(3, 2), (4, 0)]) :=
  ⟨by decide, (isUpSimB_iff _ _).mp (by decide)⟩
example : isUpSimB exA [(0, 1)] = false ∧ ¬ IsUpSim exA (RelOf [(0, 1)]) :=
  ⟨by decide, fun h => absurd ((isUpSimB_iff _ _).mpr h) (by decide)⟩

theorem downSimRef_sub (A : TA) {q r : Nat} (h : (q, r) ∈ downSimRef A) : q ∈ A.states ∧ r ∈ A.states :=
  mem_allPairs.mp (refineIter_sub (downOk A) _ _ _ h)

theorem upSimRef_sub (A : TA) {q r : Nat} (h : (q, r) ∈ upSimRef A) : q ∈ A.states ∧ r ∈ A.states :=
  mem_allPairs.mp (refineIter_sub (upOk A) _ _ _ h)

theorem downSimRef_contains (A : TA) (S : Nat → Nat → Prop) (hS : DownSim A S) (q r : Nat)
    (hq : q ∈ A.states) (hr : r ∈ A.states) : S q r → (q, r) ∈ downSimRef A := by
  intro hqr
  refine refineIter_contains (downOk A) (fun p => S p.1 p.2 ∧ p.1 ∈ A.states ∧ p.2 ∈ A.states) ?_ _ _ ?_
    (q, r) ⟨hqr, hq, hr⟩
  · intro R hR p hp
    rw [downOk_iff]
    intro ρ hρ hpar
    obtain ⟨σ, hσ, h1, h2, h3⟩ := hS p.1 p.2 hp.1 ρ hρ hpar
    refine ⟨σ, hσ, h1, h2, h3.mono ?_⟩
    intro a b ha hb hab
    exact hR (a, b) ⟨hab, kid_mem_states hρ ha, kid_mem_states hσ hb⟩
  · intro p hp
    exact mem_allPairs.mpr hp.2

theorem upSimRef_contains (A : TA) (S : Nat → Nat → Prop) (hS : IsUpSim A S) (q r : Nat)
    (hq : q ∈ A.states) (hr : r ∈ A.states) : S q r → (q, r) ∈ upSimRef A := by
  intro hqr
  refine refineIter_contains (upOk A) (fun p => S p.1 p.2 ∧ p.1 ∈ A.states ∧ p.2 ∈ A.states) ?_ _ _ ?_
    (q, r) ⟨hqr, hq, hr⟩
  · intro R hR p hp
    rw [upOk_iff]
    refine ⟨(hS p.1 p.2 hp.1).1, ?_⟩
    intro ρ hρ i hi
    obtain ⟨σ, hσ, h1, h2, h3⟩ := (hS p.1 p.2 hp.1).2 ρ hρ i hi
    exact ⟨σ, hσ, h1, h2, hR (ρ.parent, σ.parent) ⟨h3, parent_mem_states hρ, parent_mem_states hσ⟩⟩
  · intro p hp
    exact mem_allPairs.mpr hp.2

example : DownSim exA (RelOf [(0, 1), (1, 0), (2, 3)]) ∧ 2 ∈ exA.states ∧ 3 ∈ exA.states ∧ RelOf [(0, 1), (1, 0), (2, 3)] 2 3 :=
  ⟨(isDownSimB_iff _ _).mp (by decide +kernel), by decide +kernel, by decide +kernel, by decide +kernel⟩
example : IsUpSim exA (RelOf [(3, 2), (4, 0)]) ∧ 3 ∈ exA.states ∧ 2 ∈ exA.states ∧ RelOf [(3, 2), (4, 0)] 3 2 :=
  ⟨(isUpSimB_iff _ _).mp (by decide +kernel), by decide +kernel, by decide +kernel, by decide +kernel⟩

/-- the final Boolean check of the driver never fails: `|Q|² + 1` rounds reach the fixed point -/
theorem downSimRef_check (A : TA) : isDownSimB A (downSimRef A) = true := by
  simp only [isDownSimB, List.all_eq_true]
  intro p hp
  exact refineIter_stable (downOk A) _ _ (by rw [length_allPairs]; exact Nat.lt_succ_self _) p hp

theorem upSimRef_check (A : TA) : isUpSimB A (upSimRef A) = true := by
  simp only [isUpSimB, List.all_eq_true]
  intro p hp
  exact refineIter_stable (upOk A) _ _ (by rw [length_allPairs]; exact Nat.lt_succ_self _) p hp

theorem downSimRef_sim (A : TA) : DownSim A (RelOf (downSimRef A)) := (isDownSimB_iff A _).mp (downSimRef_check A)

theorem upSimRef_sim (A : TA) : IsUpSim A (RelOf (upSimRef A)) := (isUpSimB_iff A _).mp (upSimRef_check A)

/-- C04: `downSimRef A` is the greatest downward simulation on the states of `A` -/
theorem downSimRef_greatest (A : TA) :
    DownSim A (RelOf (downSimRef A)) ∧
    ∀ S : Nat → Nat → Prop, DownSim A S → ∀ q r, q ∈ A.states → r ∈ A.states → S q r → (q, r) ∈ downSimRef A :=
  ⟨downSimRef_sim A, fun S hS q r hq hr => downSimRef_contains A S hS q r hq hr⟩

theorem upSimRef_greatest (A : TA) :
    IsUpSim A (RelOf (upSimRef A)) ∧
    ∀ S : Nat → Nat → Prop, IsUpSim A S → ∀ q r, q ∈ A.states → r ∈ A.states → S q r → (q, r) ∈ upSimRef A :=
  ⟨upSimRef_sim A, fun S hS q r hq hr => upSimRef_contains A S hS q r hq hr⟩

example : (2, 3) ∈ downSimRef exA ∧ (0, 1) ∈ downSimRef exA ∧ (4, 2) ∉ downSimRef exA := by decide +kernel
example : (3, 2) ∈ upSimRef exA ∧ (4, 0) ∈ upSimRef exA ∧ (0, 1) ∉ upSimRef exA := by decide +kernel

namespace SimModel

theorem downSim_id (A : TA) : DownSim A (fun q r => q = r) := (SimTo.of_sub fun _ h => h).downSim

theorem downSim_comp (A : TA) {R R' : Nat → Nat → Prop} (hR : DownSim A R) (hR' : DownSim A R') :
    DownSim A (fun a c => ∃ b, R a b ∧ R' b c) := (hR.simTo.comp hR'.simTo).downSim

theorem setAt_eq_set : ∀ (ks : List Nat) (i r : Nat), setAt ks i r = ks.set i r
  | [], _, _ => rfl
  | _ :: _, 0, _ => rfl
  | k :: ks, i+1, r => congrArg (k :: ·) (setAt_eq_set ks i r)

theorem setAt_self (ks : List Nat) (i q : Nat) (h : ks[i]? = some q) : setAt ks i q = ks := by
  obtain ⟨hi, rfl⟩ := List.getElem?_eq_some_iff.mp h
  rw [setAt_eq_set, List.set_getElem_self]

theorem getElem?_setAt (ks : List Nat) (i q r : Nat) (h : ks[i]? = some q) : (setAt ks i r)[i]? = some r := by
  rw [setAt_eq_set, List.getElem?_set_self (List.getElem?_eq_some_iff.mp h).1]

theorem setAt_setAt (ks : List Nat) (i r s : Nat) : setAt (setAt ks i r) i s = setAt ks i s := by
  rw [setAt_eq_set, setAt_eq_set, setAt_eq_set, List.set_set]

theorem upSim_id (A : TA) : IsUpSim A (fun q r => q = r) := by
  intro q r hqr
  refine ⟨fun h => hqr ▸ h, ?_⟩
  intro ρ hρ i hi
  exact ⟨ρ, hρ, rfl, by rw [← hqr, setAt_self _ _ _ hi], rfl⟩

theorem upSim_comp (A : TA) {R R' : Nat → Nat → Prop} (hR : IsUpSim A R) (hR' : IsUpSim A R') :
    IsUpSim A (fun a c => ∃ b, R a b ∧ R' b c) := by
  intro q s hqs
  obtain ⟨r, hqr, hrs⟩ := hqs
  refine ⟨fun h => (hR' r s hrs).1 ((hR q r hqr).1 h), ?_⟩
  intro ρ hρ i hi
  obtain ⟨σ, hσ, h1, h2, h3⟩ := (hR q r hqr).2 ρ hρ i hi
  have hi' : σ.kids[i]? = some r := by rw [h2]; exact getElem?_setAt _ _ _ _ hi
  obtain ⟨τ, hτ, k1, k2, k3⟩ := (hR' r s hrs).2 σ hσ i hi'
  exact ⟨τ, hτ, k1.trans h1, by rw [k2, h2, setAt_setAt], ⟨_, h3, k3⟩⟩

end SimModel

theorem greatest_downSim_preorder (A : TA) :
    (∀ q, q ∈ A.states → (q, q) ∈ downSimRef A) ∧
    (∀ a b c, (a, b) ∈ downSimRef A → (b, c) ∈ downSimRef A → (a, c) ∈ downSimRef A) := by
  refine ⟨?_, ?_⟩
  · intro q hq
    exact downSimRef_contains A _ (downSim_id A) q q hq hq rfl
  · intro a b c hab hbc
    exact downSimRef_contains A _ (downSim_comp A (downSimRef_sim A) (downSimRef_sim A)) a c
      (downSimRef_sub A hab).1 (downSimRef_sub A hbc).2 ⟨b, hab, hbc⟩

theorem greatest_upSim_preorder (A : TA) :
    (∀ q, q ∈ A.states → (q, q) ∈ upSimRef A) ∧
    (∀ a b c, (a, b) ∈ upSimRef A → (b, c) ∈ upSimRef A → (a, c) ∈ upSimRef A) := by
  refine ⟨?_, ?_⟩
  · intro q hq
    exact upSimRef_contains A _ (upSim_id A) q q hq hq rfl
  · intro a b c hab hbc
    exact upSimRef_contains A _ (upSim_comp A (upSimRef_sim A) (upSimRef_sim A)) a c
      (upSimRef_sub A hab).1 (upSimRef_sub A hbc).2 ⟨b, hab, hbc⟩

example : 4 ∈ exA.states ∧ (0, 1) ∈ downSimRef exA ∧ (1, 0) ∈ downSimRef exA := by decide +kernel

/-- `collapse_lang` where the representative map only has to be given on the states of `A` -/
theorem collapse_lang_on (A : TA) (R : Nat → Nat → Prop) (hR : DownSim A R) (h : Nat → Nat)
    (hh : ∀ q, q ∈ A.states → R q (h q) ∧ R (h q) q) (hRt : ∀ a b c, R a b → R b c → R a c) (t : Tree) :
    accepts (reindex h A) t = accepts A t :=
  collapse_lang_of hR ⟨fun _ hρ => ⟨parent_mem_states hρ, fun _ hk => kid_mem_states hρ hk⟩, fun _ => final_mem_states⟩
    hh hRt t

/-- C05: the quotient by (any choice of representatives of) downward-simulation equivalence keeps the language.
The hypothesis is asked for the states of `A` only (for `q ∉ A.states` it could never hold, since
`downSimRef A ⊆ A.states × A.states`). -/
theorem reduce_lang (A : TA) (h : Nat → Nat)
    (hh : ∀ q, q ∈ A.states → (q, h q) ∈ downSimRef A ∧ (h q, q) ∈ downSimRef A) (t : Tree) :
    accepts (reindex h A) t = accepts A t :=
  collapse_lang_on A (RelOf (downSimRef A)) (downSimRef_sim A) h hh (greatest_downSim_preorder A).2 t

/-- the model of `Reduce`: quotient, then removal of the unreachable states (whose correctness is a hypothesis here) -/
theorem reduce_trim_lang (hU : ∀ (B : TA) (t : Tree), accepts (removeUnreachable B) t = accepts B t)
    (A : TA) (h : Nat → Nat)
    (hh : ∀ q, q ∈ A.states → (q, h q) ∈ downSimRef A ∧ (h q, q) ∈ downSimRef A) (t : Tree) :
    accepts (removeUnreachable (reindex h A)) t = accepts A t := by
  rw [hU, reduce_lang A h hh t]

example : ∀ q, q ∈ exA.states → (q, exH q) ∈ downSimRef exA ∧ (exH q, q) ∈ downSimRef exA := by decide +kernel

/-- why the hypothesis of `reduce_lang` is restricted to `A.states`: asked for all `q` it is unsatisfiable -/
theorem reduce_hyp_all_unsat (A : TA) (h : Nat → Nat) :
    ¬ ∀ q, (q, h q) ∈ downSimRef A ∧ (h q, q) ∈ downSimRef A := by
  intro hh
  have h1 := (downSimRef_sub A (hh (A.states.sum + 1)).1).1
  have := le_sum_of_mem h1
  omega
example : (reindex exH exA).states = [0, 2, 4] := by decide

end Vata
