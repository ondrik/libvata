import Vata.Proofs.TrimModel
import Vata.Proofs.IsectModel
/-!
Tree automata compared by what the trimming procedures see of them.  `SetEqTA`: the same rules and final states as sets
(hence the same language, runs, occurring and useful states); `SameSkel`: the same (parent, children) pairs whatever the
symbols, which is all that top-down reachability and productivity depend on.  `removeUseless_alt`: restricting to the
productive states among the reachable ones before removing the unreachable states gives `removeUseless`.
-/
namespace Vata
namespace BddAbsTD

def SkelSub (A B : TA) : Prop := ∀ r, r ∈ A.rules → ∃ r', r' ∈ B.rules ∧ r'.parent = r.parent ∧ r'.kids = r.kids

def SameSkel (A B : TA) : Prop := SkelSub A B ∧ SkelSub B A

theorem SameSkel.symm {A B : TA} (h : SameSkel A B) : SameSkel B A := ⟨h.2, h.1⟩

theorem tdReachable_skel {A B : TA} (h : SkelSub A B) (hf : ∀ q, q ∈ A.final → q ∈ B.final) {q : Nat}
    (hq : TdReachable A q) : TdReachable B q := by
  induction hq with
  | final hq => exact TdReachable.final (hf _ hq)
  | @step r k hr _ hk ih =>
    obtain ⟨r', hr', e1, e2⟩ := h r hr
    exact TdReachable.step hr' (by rw [e1]; exact ih) (by rw [e2]; exact hk)

theorem prodClosed_skel {A B : TA} (h : SkelSub A B) {P : List Nat} (hP : ProdClosed B P) : ProdClosed A P := by
  intro r hr hk
  obtain ⟨r', hr', e1, e2⟩ := h r hr
  rw [← e1]
  exact hP r' hr' (by rw [e2]; exact hk)

theorem productive_skel {A B : TA} (h : SkelSub A B) {q : Nat} : Productive A q → Productive B q :=
  fun ⟨t, ht⟩ => (prodStates_iff B q).mp
    (reach_sub_closed A (prodStates B) (prodClosed_skel h (prodStates_closed B)) t q ht)

theorem mem_tdReach_skel {A B : TA} (h : SameSkel A B) (hf : ∀ q, q ∈ A.final ↔ q ∈ B.final) (q : Nat) :
    q ∈ tdReach A ↔ q ∈ tdReach B := by
  rw [tdReach_iff, tdReach_iff]
  exact ⟨tdReachable_skel h.1 (fun q => (hf q).mp), tdReachable_skel h.2 (fun q => (hf q).mpr)⟩

theorem mem_prodStates_skel {A B : TA} (h : SameSkel A B) (q : Nat) : q ∈ prodStates A ↔ q ∈ prodStates B := by
  rw [prodStates_iff, prodStates_iff]
  exact ⟨productive_skel h.1, productive_skel h.2⟩

theorem removeUnreachable_final (A : TA) : (removeUnreachable A).final = A.final := rfl

theorem skelSub_restrict {A B : TA} (h : SkelSub A B) {P P' : List Nat} (hP : ∀ q, q ∈ P → q ∈ P') :
    SkelSub (restrict A P) (restrict B P') := by
  intro r hr
  obtain ⟨hr, h1, h2⟩ := mem_rules_restrict.mp hr
  obtain ⟨r', hr', e1, e2⟩ := h r hr
  exact ⟨r', mem_rules_restrict.mpr ⟨hr', by rw [e1]; exact hP _ h1, by rw [e2]; exact fun k hk => hP _ (h2 k hk)⟩, e1, e2⟩

theorem sameSkel_restrict {A B : TA} (h : SameSkel A B) {P P' : List Nat} (hP : ∀ q, q ∈ P ↔ q ∈ P') :
    SameSkel (restrict A P) (restrict B P') :=
  ⟨skelSub_restrict h.1 (fun q => (hP q).mp), skelSub_restrict h.2 (fun q => (hP q).mpr)⟩

theorem skelSub_removeUnreachable {A B : TA} (h : SkelSub A B) (hR : ∀ q, q ∈ tdReach A → q ∈ tdReach B) :
    SkelSub (removeUnreachable A) (removeUnreachable B) := by
  intro r hr
  obtain ⟨hr, h1⟩ := mem_rules_removeUnreachable.mp hr
  obtain ⟨r', hr', e1, e2⟩ := h r hr
  exact ⟨r', mem_rules_removeUnreachable.mpr ⟨hr', by rw [e1]; exact hR _ h1⟩, e1, e2⟩

theorem sameSkel_removeUnreachable {A B : TA} (h : SameSkel A B) (hf : ∀ q, q ∈ A.final ↔ q ∈ B.final) :
    SameSkel (removeUnreachable A) (removeUnreachable B) :=
  ⟨skelSub_removeUnreachable h.1 (fun q => (mem_tdReach_skel h hf q).mp),
    skelSub_removeUnreachable h.2 (fun q => (mem_tdReach_skel h hf q).mpr)⟩

def SetEqTA (A B : TA) : Prop := (∀ r, r ∈ A.rules ↔ r ∈ B.rules) ∧ (∀ q, q ∈ A.final ↔ q ∈ B.final)

theorem SetEqTA.lang {A B : TA} (h : SetEqTA A B) (t : Tree) : accepts A t = accepts B t :=
  Isx.accepts_congr_sets h.1 h.2 t

theorem SetEqTA.skel {A B : TA} (h : SetEqTA A B) : SameSkel A B :=
  ⟨fun r hr => ⟨r, (h.1 r).mp hr, rfl, rfl⟩, fun r hr => ⟨r, (h.1 r).mpr hr, rfl, rfl⟩⟩

theorem SetEqTA.trans {A B C : TA} (h : SetEqTA A B) (h' : SetEqTA B C) : SetEqTA A C :=
  ⟨fun r => (h.1 r).trans (h'.1 r), fun q => (h.2 q).trans (h'.2 q)⟩

theorem SetEqTA.symm {A B : TA} (h : SetEqTA A B) : SetEqTA B A := ⟨fun r => (h.1 r).symm, fun q => (h.2 q).symm⟩

theorem setEqTA_removeUnreachable {A B : TA} (h : SetEqTA A B) : SetEqTA (removeUnreachable A) (removeUnreachable B) := by
  refine ⟨fun r => ?_, h.2⟩
  rw [mem_rules_removeUnreachable, mem_rules_removeUnreachable, h.1 r, mem_tdReach_skel h.skel h.2]

/-- the top-down `RemoveUselessStates` restricts to the productive states among the REACHABLE ones before removing the
unreachable states; the result is the same as with all productive states -/
theorem removeUseless_alt (A : TA) (U : List Nat) (hU : ∀ q, q ∈ U ↔ q ∈ prodStates A ∧ q ∈ tdReach A) :
    SetEqTA (removeUnreachable (restrict A U)) (removeUseless A) := by
  rw [removeUseless_eq]
  have hsub : ∀ r, r ∈ (restrict A U).rules → r ∈ (restrict A (prodStates A)).rules := fun r hr => by
    obtain ⟨h0, h1, h2⟩ := mem_rules_restrict.mp hr
    exact mem_rules_restrict.mpr ⟨h0, ((hU _).mp h1).1, fun k hk => ((hU _).mp (h2 k hk)).1⟩
  have hfin : ∀ q, q ∈ (restrict A U).final ↔ q ∈ (restrict A (prodStates A)).final := fun q => by
    rw [mem_final_restrict, mem_final_restrict]
    exact and_congr_right fun h1 => ⟨fun h2 => ((hU _).mp h2).1, fun h2 => (hU _).mpr ⟨h2, tdReach_final A _ h1⟩⟩
  have mono : ∀ q, TdReachable (restrict A U) q → TdReachable (restrict A (prodStates A)) q :=
    fun q => tdReachable_skel (fun r hr => ⟨r, hsub r hr, rfl, rfl⟩) (fun q => (hfin q).mp)
  have back : ∀ q, TdReachable (restrict A (prodStates A)) q → TdReachable (restrict A U) q := by
    intro q hq
    induction hq with
    | final hq => exact TdReachable.final ((hfin _).mpr hq)
    | @step r k hr _ hk ih =>
      obtain ⟨h0, h1, h2⟩ := mem_rules_restrict.mp hr
      have hpU : r.parent ∈ U := tdReachable_restrict_mem ih
      have hpR : r.parent ∈ tdReach A := ((hU _).mp hpU).2
      exact TdReachable.step (mem_rules_restrict.mpr
        ⟨h0, hpU, fun k hk => (hU _).mpr ⟨h2 k hk, tdReach_closed A r h0 hpR k hk⟩⟩) ih hk
  refine ⟨fun r => ?_, hfin⟩
  rw [mem_rules_removeUnreachable, mem_rules_removeUnreachable, tdReach_iff, tdReach_iff]
  constructor
  · rintro ⟨hr, hp⟩; exact ⟨hsub r hr, mono _ hp⟩
  · rintro ⟨hr, hp⟩
    have hp' := back _ hp
    exact ⟨mem_rules_restrict.mpr ⟨(mem_rules_restrict.mp hr).1, tdReachable_restrict_mem hp',
      fun k hk => tdReachable_restrict_mem (back _ (TdReachable.step hr hp hk))⟩, hp'⟩

theorem mem_prodStates_removeUnreachable (A : TA) (q : Nat) :
    q ∈ prodStates (removeUnreachable A) ↔ q ∈ prodStates A ∧ q ∈ tdReach A := by
  rw [prodStates_iff, prodStates_iff, tdReach_iff]
  constructor
  · rintro ⟨t, ht⟩
    refine ⟨⟨t, reach_mono _ A (fun r hr => (mem_rules_removeUnreachable.mp hr).1) t q ht⟩, ?_⟩
    cases t with
    | node f ts =>
      rw [reach, mem_post'] at ht
      obtain ⟨r, hr, _, _, e⟩ := ht
      rw [← e]
      exact (tdReach_iff A _).mp (mem_rules_removeUnreachable.mp hr).2
  · rintro ⟨hp, hr⟩
    exact productive_removeUnreachable hp hr

theorem removeUseless_rules_iff (A : TA) (r : Rule) :
    r ∈ (removeUseless A).rules ↔
      r ∈ A.rules ∧ r.parent ∈ usefulStates A ∧ ∀ k, k ∈ r.kids → k ∈ usefulStates A := by
  rw [removeUseless_eq, mem_rules_removeUnreachable, usefulStates_eq]
  constructor
  · rintro ⟨hr, hp⟩
    exact ⟨(mem_rules_restrict.mp hr).1, hp, fun k hk => tdReach_closed _ r hr hp k hk⟩
  · rintro ⟨hr, hp, hk⟩
    refine ⟨mem_rules_restrict.mpr ⟨hr, ?_, fun k hk' => ?_⟩, hp⟩
    · exact tdReachable_restrict_mem ((tdReach_iff _ _).mp hp)
    · exact tdReachable_restrict_mem ((tdReach_iff _ _).mp (hk k hk'))

mutual
theorem valid_mono (A B : TA) (h : ∀ r, r ∈ A.rules → r ∈ B.rules) : ∀ (ρ : RunT), ρ.valid A = true → ρ.valid B = true
  | .node r ks => by
    simp only [RunT.valid, Bool.and_eq_true, List.contains_iff_mem]
    intro ⟨h1, h2⟩
    exact ⟨h r h1, validL_mono A B h ks r.kids h2⟩
theorem validL_mono (A B : TA) (h : ∀ r, r ∈ A.rules → r ∈ B.rules) :
    ∀ (ρs : List RunT) (qs : List Nat), RunT.validL A ρs qs = true → RunT.validL B ρs qs = true
  | [], [] => by simp [RunT.validL]
  | [], _ :: _ => by simp [RunT.validL]
  | _ :: _, [] => by simp [RunT.validL]
  | ρ :: ρs, q :: qs => by
    simp only [RunT.validL, Bool.and_eq_true]
    intro ⟨⟨h1, h2⟩, h3⟩
    exact ⟨⟨h1, valid_mono A B h ρ h2⟩, validL_mono A B h ρs qs h3⟩
end

theorem SetEqTA.acceptingRun {A B : TA} (h : SetEqTA A B) {ρ : RunT} (hρ : AcceptingRun A ρ) : AcceptingRun B ρ :=
  ⟨valid_mono A B (fun r => (h.1 r).mp) ρ hρ.1, (h.2 _).mp hρ.2⟩

theorem SetEqTA.occurs {A B : TA} (h : SetEqTA A B) (q : Nat) : Occurs A q ↔ Occurs B q :=
  or_congr (h.2 q) (exists_congr fun r => and_congr (h.1 r) Iff.rfl)

theorem SetEqTA.mem_states {A B : TA} (h : SetEqTA A B) (q : Nat) : q ∈ A.states ↔ q ∈ B.states := by
  rw [Vata.mem_states, Vata.mem_states, h.occurs]

theorem SetEqTA.allUseful {A B : TA} (h : SetEqTA A B)
    (hB : (∀ q, Occurs B q → UsefulState B q) ∧ (∀ r, r ∈ B.rules → UsefulRule B r)) :
    (∀ q, Occurs A q → UsefulState A q) ∧ (∀ r, r ∈ A.rules → UsefulRule A r) := by
  constructor
  · intro q hq
    obtain ⟨ρ, h1, h2⟩ := hB.1 q ((h.occurs q).mp hq)
    exact ⟨ρ, h.symm.acceptingRun h1, h2⟩
  · intro r hr
    obtain ⟨ρ, h1, h2⟩ := hB.2 r ((h.1 r).mp hr)
    exact ⟨ρ, h.symm.acceptingRun h1, h2⟩

end BddAbsTD
end Vata
