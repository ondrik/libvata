import Vata.BddAbs
import Vata.Proofs.MtbddOps
import Vata.Proofs.NormS
import Vata.Isect
import Vata.Proofs.AssocList
/-!
Property C08: the leaf operations of the symbolic bottom-up tables lift to rule sets.
With `HasRule T ρ ks p` (`p ∈ eval (GetMtbdd ks) ρ`: the rule `ρ(ks) → p` is in the table `T`): what `AddTransition`
(`absBU_add`), loading a rule list (`hasRule_ofRules`), the unions and the `SetMtbdd` of `Intersection` do to the rules,
for every valuation `ρ` and then for the numbered symbols of the executable `absRules`.  Everything follows from
`apply2_eval` (the apply is pointwise on the leaves) and `construct_eval_agrees`.
-/
namespace Vata
namespace BddAbs
open M InclUp

theorem foldl_or_exists {τ γ : Type} (f : τ → γ → τ) (R : τ → Prop) (Q : γ → Prop) (cs : List γ) (T : τ)
    (h : ∀ T c, c ∈ cs → (R (f T c) ↔ R T ∨ Q c)) : R (cs.foldl f T) ↔ R T ∨ ∃ c, c ∈ cs ∧ Q c :=
  foldl_or (I := fun _ => True) cs T trivial fun T c hc _ => ⟨trivial, h T c hc⟩

theorem mem_unionS {a b : List Nat} {x : Nat} : x ∈ unionS a b ↔ x ∈ a ∨ x ∈ b := by
  simp only [unionS, mem_normS, List.mem_append]

theorem mem_prodS {tr : Nat × Nat → Nat} {a b : List Nat} {x : Nat} :
    x ∈ prodS tr a b ↔ ∃ p₁ p₂, p₁ ∈ a ∧ p₂ ∈ b ∧ tr (p₁, p₂) = x := by
  simp only [prodS, mem_normS, List.mem_flatMap, List.mem_map]
  constructor
  · rintro ⟨p₁, h1, p₂, h2, h⟩; exact ⟨p₁, p₂, h1, h2, h⟩
  · rintro ⟨p₁, p₂, h1, h2, h⟩; exact ⟨p₁, h1, p₂, h2, h⟩

/-! `getE` and `BddAbsTD.getTD` are `List.lookup` with the default `leaf ∅`. -/

theorem getE_eq_lookup (es : List (List Nat × MT)) (ks : List Nat) : getE es ks = (es.lookup ks).getD (.leaf []) := by
  induction es with
  | nil => rfl
  | cons e es ih => obtain ⟨k, m⟩ := e; rw [getE, ih, lookup_cons_ite]; split <;> rfl

/-! a loop of `SetMtbdd`s over a table with the equation `hgs` of its `GetMtbdd` (`get_set`, `BddAbsTD.getTD_setTD`) -/
section foldlSet
variable {τ κ υ ε : Type} [DecidableEq κ] (get : τ → κ → υ) (set : τ → κ → υ → τ)
  (hgs : ∀ R k k' v, get (set R k v) k' = if k = k' then v else get R k') (fk : ε → κ) (fv : ε → υ)
include hgs

theorem get_foldl_set_of_not_mem : ∀ (L : List ε) (R : τ) {k : κ}, k ∉ L.map fk →
    get (L.foldl (fun R e => set R (fk e) (fv e)) R) k = get R k
  | [], _, _, _ => rfl
  | e :: L, R, k, h => by
    rw [List.map_cons, List.mem_cons, not_or] at h
    rw [List.foldl_cons, get_foldl_set_of_not_mem L _ h.2, hgs, if_neg (Ne.symm h.1)]

theorem get_foldl_set_of_mem : ∀ (L : List ε) (R : τ) {k : κ} {v : υ}, (∀ e, e ∈ L → fk e = k → fv e = v) →
    k ∈ L.map fk → get (L.foldl (fun R e => set R (fk e) (fv e)) R) k = v
  | e :: L, R, k, v, hv, hk => by
    rw [List.foldl_cons]
    by_cases hL : k ∈ L.map fk
    · exact get_foldl_set_of_mem L _ (fun e' he' => hv e' (List.mem_cons_of_mem _ he')) hL
    · have he : fk e = k := ((List.mem_cons.mp hk).resolve_right hL).symm
      rw [get_foldl_set_of_not_mem get set hgs fk fv L _ hL, hgs, if_pos he, hv e List.mem_cons_self he]

/-- a loop that copies the values `src k` to the keys of `L` -/
theorem get_foldl_copy (src : κ → υ) (L : List ε) (R : τ) (k : κ) [Decidable (k ∈ L.map fk)] :
    get (L.foldl (fun R e => set R (fk e) (src (fk e))) R) k = if k ∈ L.map fk then src k else get R k := by
  split
  · exact get_foldl_set_of_mem get set hgs fk (fun e => src (fk e)) L R (fun e _ h => by rw [h]) ‹_›
  · exact get_foldl_set_of_not_mem get set hgs fk (fun e => src (fk e)) L R ‹_›

end foldlSet

/-- the lookup after `SetMtbdd`: the new pair in front, the old pairs of the key removed -/
theorem getE_setE (es : List (List Nat × MT)) (ks ks' : List Nat) (m : MT) :
    getE (setE es ks m) ks' = if ks = ks' then m else getE es ks' := by
  rw [getE_eq_lookup, getE_eq_lookup, setE, lookup_cons_ite, lookup_filter_keys (fun k => k != ks)]
  by_cases h : ks = ks'
  · rw [if_pos h, if_pos h]; rfl
  · rw [if_neg h, if_neg h, if_pos (bne_iff_ne.mpr (Ne.symm h))]

theorem get_set (T : Table) (ks ks' : List Nat) (m : MT) :
    (T.set ks m).get ks' = if ks = ks' then m else T.get ks' := by
  unfold Table.set Table.get
  by_cases h : ks = []
  · subst h
    by_cases h' : ks' = []
    · subst h'; simp
    · have : ¬ ([] : List Nat) = ks' := fun e => h' e.symm
      simp [h', this]
  · by_cases h' : ks' = []
    · subst h'; simp [h]
    · simp only [h, h', if_false]
      exact getE_setE _ _ _ _

theorem getE_not_key {es : List (List Nat × MT)} {ks : List Nat} (h : ks ∉ es.map (·.1)) : getE es ks = .leaf [] := by
  rw [getE_eq_lookup, lookup_eq_none_iff_keys.mpr h]; rfl

theorem getE_append (es es' : List (List Nat × MT)) (ks : List Nat) :
    getE (es ++ es') ks = if ks ∈ es.map (·.1) then getE es ks else getE es' ks := by
  simp only [getE_eq_lookup, List.lookup_append]
  split
  · next h => obtain ⟨m, hm⟩ := Option.isSome_iff_exists.mp (lookup_isSome_iff_keys.mpr h); rw [hm]; rfl
  · next h => rw [lookup_eq_none_iff_keys.mpr h]; rfl

theorem getE_mapKeys (L : List (List Nat)) (g : List Nat → MT) (ks : List Nat) :
    getE (L.map (fun k => (k, g k))) ks = if ks ∈ L then g ks else .leaf [] := by
  rw [getE_eq_lookup, lookup_map_keys]; split <;> rfl

theorem getE_filter_keys (pred : List Nat → Bool) (ks : List Nat) (es : List (List Nat × MT)) :
    getE (es.filter (fun e => pred e.1)) ks = if pred ks = true then getE es ks else .leaf [] := by
  rw [getE_eq_lookup, getE_eq_lookup, lookup_filter_keys]; split <;> rfl

theorem getE_map_vals (g : MT → MT) (hg : g (.leaf []) = .leaf []) (es : List (List Nat × MT)) (ks : List Nat) :
    getE (es.map (fun e => (e.1, g e.2))) ks = g (getE es ks) := by
  rw [getE_eq_lookup, getE_eq_lookup, lookup_map_vals]
  cases es.lookup ks
  · exact hg.symm
  · rfl

theorem hasRule_empty (ρ : Nat → Bool) (ks : List Nat) (p : Nat) : ¬ HasRule Table.empty ρ ks p := by
  unfold HasRule Table.get Table.empty
  split <;> simp [getE, eval]

theorem hasRule_key {T : Table} {ρ : Nat → Bool} {ks : List Nat} {p : Nat} (h : HasRule T ρ ks p) : ks ∈ T.keys := by
  unfold HasRule Table.get at h
  unfold Table.keys
  by_cases hk : ks = []
  · subst hk; exact List.mem_cons_self
  · rw [if_neg hk] at h
    refine List.mem_cons_of_mem _ ?_
    apply Classical.byContradiction
    intro hn
    rw [getE_not_key hn] at h
    simp [eval] at h

theorem mem_absRules {syms : List Nat} {T : Table} {r : Rule} :
    r ∈ absRules syms T ↔ r.sym ∈ syms ∧ HasRule T (bits r.sym) r.kids r.parent := by
  simp only [absRules, List.mem_flatMap, List.mem_map]
  constructor
  · rintro ⟨ks, _, f, hf, p, hp, rfl⟩
    exact ⟨hf, hp⟩
  · rintro ⟨hf, hp⟩
    exact ⟨r.kids, hasRule_key hp, r.sym, hf, r.parent, hp, rfl⟩

theorem absBU_rules (syms : List Nat) (T : Table) (F : List Nat) : (absBU syms T F).rules = absRules syms T := rfl

theorem mem_absRules_and {syms : List Nat} {T T' : Table} {C : List Nat → Nat → Prop}
    (h : ∀ ρ ks p, HasRule T' ρ ks p ↔ HasRule T ρ ks p ∧ C ks p) (r : Rule) :
    r ∈ absRules syms T' ↔ r ∈ absRules syms T ∧ C r.kids r.parent := by
  simp only [mem_absRules, h, and_assoc]

theorem absBU_add (T : Table) (ks : List Nat) (asgn : List (Option Bool)) (p : Nat)
    (ρ : Nat → Bool) (ks' : List Nat) (p' : Nat) :
    HasRule (addCube T ks asgn p) ρ ks' p' ↔
      HasRule T ρ ks' p' ∨ (ks' = ks ∧ p' = p ∧ agrees ρ asgn 0 = true) := by
  unfold HasRule addCube
  rw [get_set]
  by_cases h : ks = ks'
  · subst h
    rw [if_pos rfl, apply2_eval, mem_unionS, construct_eval_agrees]
    by_cases ha : agrees ρ asgn 0 = true <;> simp [ha]
  · rw [if_neg h]
    have : ¬ ks' = ks := fun e => h e.symm
    simp [this]

/-- the cube of the `n` low bits of `f` (`SymbolicVarAsgn (n, f)`) holds the valuations with these bits -/
theorem agrees_range (ρ : Nat → Bool) (f n : Nat) :
    agrees ρ ((List.range n).map (fun j => some (f.testBit j))) 0 = true ↔ ∀ j, j < n → ρ j = f.testBit j := by
  rw [agrees_iff]
  simp only [Nat.zero_add, List.getElem?_map, Option.map_eq_some_iff, List.getElem?_eq_some_iff, List.getElem_range,
    List.length_range, Option.some.injEq]
  exact ⟨fun h j hj => h j _ ⟨j, ⟨hj, rfl⟩, rfl⟩, fun h j b ⟨_, ⟨hj, e⟩, e'⟩ => e' ▸ e ▸ h j hj⟩

theorem agrees_symAsgn_iff (ρ : Nat → Bool) (f : Nat) :
    agrees ρ (symAsgn f) 0 = true ↔ ∀ j, j < 16 → ρ j = f.testBit j := agrees_range ρ f 16

theorem agrees_symAsgn (g f : Nat) : agrees (bits g) (symAsgn f) 0 = true ↔ ∀ j, j < 16 → g.testBit j = f.testBit j :=
  agrees_symAsgn_iff (bits g) f

theorem agrees_bits_self (f : Nat) : agrees (bits f) (symAsgn f) 0 = true :=
  (agrees_symAsgn f f).mpr (fun _ _ => rfl)

theorem low_bits_eq_iff (k a b : Nat) : (∀ j, j < k → a.testBit j = b.testBit j) ↔ a % 2 ^ k = b % 2 ^ k := by
  constructor
  · intro h
    apply Nat.eq_of_testBit_eq
    intro i
    rw [Nat.testBit_mod_two_pow, Nat.testBit_mod_two_pow]
    by_cases hi : i < k
    · rw [h i hi]
    · simp [hi]
  · intro h j hj
    have h1 := Nat.testBit_mod_two_pow a k j
    have h2 := Nat.testBit_mod_two_pow b k j
    simp only [hj, decide_true, Bool.true_and] at h1 h2
    rw [← h1, ← h2, h]

theorem agrees_symAsgn_lt {g f : Nat} (hg : g < 2 ^ 16) (hf : f < 2 ^ 16) :
    agrees (bits g) (symAsgn f) 0 = true ↔ g = f := by
  rw [agrees_symAsgn, low_bits_eq_iff, Nat.mod_eq_of_lt hg, Nat.mod_eq_of_lt hf]

/-- the accumulator of `CondColApplyFunctor` after the traversal of an MTBDD and the BDD of the code `f` (the dumps,
`BddLoad.collectBU` and `BddAbsTD.collectTD`): what the leaves hold for the valuations whose symbol part is `f` -/
theorem mem_condCol {α : Type} {m : Node (List α)} (hm : WF m) (f : Nat) (x : α) :
    x ∈ (voidApply2 m (construct (symAsgn f) true false)).flatMap (fun lb => if lb.2 then lb.1 else []) ↔
      ∃ ρ, agrees ρ (symAsgn f) 0 = true ∧ x ∈ eval m ρ := by
  simp only [List.mem_flatMap]
  constructor
  · rintro ⟨⟨l, b⟩, hlb, hx⟩
    cases b with
    | false => simp at hx
    | true =>
      obtain ⟨ρ, h1, h2⟩ := (mem_voidApply2 l true m _ hm (construct_wf _ _ _)).mp hlb
      rw [construct_eval_agrees] at h2
      refine ⟨ρ, ?_, by rw [h1]; simpa using hx⟩
      apply Classical.byContradiction
      intro hn
      rw [if_neg hn] at h2
      cases h2
  · rintro ⟨ρ, h1, h2⟩
    refine ⟨(eval m ρ, true), (mem_voidApply2 _ true m _ hm (construct_wf _ _ _)).mpr ⟨ρ, rfl, ?_⟩, by simpa using h2⟩
    rw [construct_eval_agrees, if_pos h1]

theorem absBU_addTransition (T : Table) (ks : List Nat) (f p : Nat) (hf : f < 2 ^ 16)
    (g : Nat) (hg : g < 2 ^ 16) (ks' : List Nat) (p' : Nat) :
    HasRule (addTransition T ks f p) (bits g) ks' p' ↔
      HasRule T (bits g) ks' p' ∨ (g = f ∧ ks' = ks ∧ p' = p) := by
  unfold addTransition
  rw [absBU_add, agrees_symAsgn_lt hg hf]
  exact or_congr Iff.rfl ⟨fun ⟨h1, h2, h3⟩ => ⟨h3, h1, h2⟩, fun ⟨h1, h2, h3⟩ => ⟨h2, h3, h1⟩⟩

theorem hasRule_foldl_addCube {γ : Type} (kids : γ → List Nat) (asgn : γ → List (Option Bool)) (parent : γ → Nat)
    (ρ : Nat → Bool) (ks : List Nat) (p : Nat) (cs : List γ) (T : Table) :
    HasRule (cs.foldl (fun T c => addCube T (kids c) (asgn c) (parent c)) T) ρ ks p ↔
      HasRule T ρ ks p ∨ ∃ c, c ∈ cs ∧ kids c = ks ∧ parent c = p ∧ agrees ρ (asgn c) 0 = true :=
  foldl_or_exists _ (HasRule · ρ ks p) _ cs T (fun T _ _ =>
    (absBU_add T _ _ _ ρ ks p).trans (or_congr Iff.rfl (and_congr eq_comm (and_congr eq_comm Iff.rfl))))

theorem hasRule_ofRules (rs : List Rule) (ρ : Nat → Bool) (ks : List Nat) (p : Nat) :
    HasRule (ofRules rs) ρ ks p ↔ ∃ r, r ∈ rs ∧ r.kids = ks ∧ r.parent = p ∧ agrees ρ (symAsgn r.sym) 0 = true :=
  (hasRule_foldl_addCube Rule.kids (fun r => symAsgn r.sym) Rule.parent ρ ks p rs Table.empty).trans
    (or_iff_right (hasRule_empty ρ ks p))

theorem absBU_ofRules (rs : List Rule) (hrs : ∀ r, r ∈ rs → r.sym < 2 ^ 16) (g : Nat) (hg : g < 2 ^ 16)
    (ks : List Nat) (p : Nat) : HasRule (ofRules rs) (bits g) ks p ↔ (⟨g, ks, p⟩ : Rule) ∈ rs := by
  rw [hasRule_ofRules]
  constructor
  · rintro ⟨r, hr, rfl, rfl, h⟩
    rw [(agrees_symAsgn_lt hg (hrs r hr)).mp h]; exact hr
  · intro h
    exact ⟨_, h, rfl, rfl, (agrees_symAsgn_lt hg (hrs _ h)).mpr rfl⟩

theorem absRules_ofRules (rs : List Rule) (syms : List Nat) (hrs : ∀ r, r ∈ rs → r.sym < 2 ^ 16)
    (hs : ∀ f, f ∈ syms → f < 2 ^ 16) (r : Rule) : r ∈ absRules syms (ofRules rs) ↔ r.sym ∈ syms ∧ r ∈ rs := by
  rw [mem_absRules]
  exact and_congr_right (fun h1 => absBU_ofRules rs hrs r.sym (hs _ h1) r.kids r.parent)

theorem absBU_union (T₁ T₂ : Table) (ρ : Nat → Bool) (ks : List Nat) (p : Nat) :
    HasRule (unionT T₁ T₂) ρ ks p ↔ HasRule T₁ ρ ks p ∨ HasRule T₂ ρ ks p := by
  unfold HasRule unionT Table.get
  by_cases hk : ks = []
  · simp only [hk, if_true]
    rw [apply2_eval, mem_unionS]
  · simp only [hk, if_false]
    rw [getE_mapKeys]
    split
    · rw [apply2_eval, mem_unionS]
    · next hn =>
      simp only [List.mem_append, not_or] at hn
      rw [getE_not_key hn.1, getE_not_key hn.2]
      simp [eval]

/-- `Union` of tables with disjoint non-empty tuples (as after `ReindexStates`) -/
theorem absBU_unionDisj (T₁ T₂ : Table) (hd : ∀ k, k ∈ T₁.entries.map (·.1) → k ∉ T₂.entries.map (·.1))
    (ρ : Nat → Bool) (ks : List Nat) (p : Nat) :
    HasRule (unionDisj T₁ T₂) ρ ks p ↔ HasRule T₁ ρ ks p ∨ HasRule T₂ ρ ks p := by
  unfold HasRule unionDisj Table.get
  by_cases hk : ks = []
  · simp only [hk, if_true]
    rw [apply2_eval, mem_unionS]
  · simp only [hk, if_false]
    rw [getE_append]
    split
    · next h2 =>
      have h1 : ks ∉ T₁.entries.map (·.1) := fun h1 => hd ks h1 h2
      rw [getE_not_key h1]
      simp [eval]
    · next h2 =>
      rw [getE_not_key h2]
      simp [eval]

theorem mem_absRules_or {syms : List Nat} {T T₁ T₂ : Table}
    (h : ∀ ρ ks p, HasRule T ρ ks p ↔ HasRule T₁ ρ ks p ∨ HasRule T₂ ρ ks p) (r : Rule) :
    r ∈ absRules syms T ↔ r ∈ absRules syms T₁ ∨ r ∈ absRules syms T₂ := by
  simp only [mem_absRules, h, and_or_left]

theorem absRules_union (syms : List Nat) (T₁ T₂ : Table) (r : Rule) :
    r ∈ absRules syms (unionT T₁ T₂) ↔ r ∈ absRules syms T₁ ∨ r ∈ absRules syms T₂ :=
  mem_absRules_or (absBU_union T₁ T₂) r

theorem absBU_isect (tr : Nat × Nat → Nat) (T T₁ T₂ : Table) (ks₁ ks₂ ks : List Nat) (ρ : Nat → Bool)
    (ks' : List Nat) (p : Nat) :
    HasRule (isectAt tr T T₁ T₂ ks₁ ks₂ ks) ρ ks' p ↔
      if ks = ks' then ∃ p₁ p₂, HasRule T₁ ρ ks₁ p₁ ∧ HasRule T₂ ρ ks₂ p₂ ∧ tr (p₁, p₂) = p
      else HasRule T ρ ks' p := by
  unfold HasRule isectAt
  rw [get_set]
  split
  · rw [apply2_eval, mem_prodS]
  · exact Iff.rfl

/-- … in terms of the product automaton of `Vata/Isect.lean`: when `T₁`, `T₂` hold the rules of `A`, `B`, the MTBDD set
for the product tuple of `ks₁`, `ks₂` holds the rules of `prodRules A B D m` made of an `A`-rule on `ks₁` and a `B`-rule on
`ks₂` (for parents in `D`; `D` = all pairs in the C++ at this point) -/
theorem absBU_isect_prod (A B : TA) (D : List (Nat × Nat)) (m : Nat × Nat → Nat) (T T₁ T₂ : Table)
    (ks₁ ks₂ : List Nat) (hl : ks₂.length = ks₁.length) (f : Nat)
    (h₁ : ∀ p, HasRule T₁ (bits f) ks₁ p ↔ (⟨f, ks₁, p⟩ : Rule) ∈ A.rules)
    (h₂ : ∀ p, HasRule T₂ (bits f) ks₂ p ↔ (⟨f, ks₂, p⟩ : Rule) ∈ B.rules)
    (hD : ∀ p₁ p₂, (⟨f, ks₁, p₁⟩ : Rule) ∈ A.rules → (⟨f, ks₂, p₂⟩ : Rule) ∈ B.rules → (p₁, p₂) ∈ D) (p : Nat) :
    HasRule (isectAt m T T₁ T₂ ks₁ ks₂ ((ks₁.zip ks₂).map m)) (bits f) ((ks₁.zip ks₂).map m) p ↔
      ∃ r, r ∈ A.rules ∧ ∃ r', r' ∈ B.rules ∧ r.sym = f ∧ r'.sym = f ∧ r.kids = ks₁ ∧ r'.kids = ks₂ ∧
        m (r.parent, r'.parent) = p ∧
        (⟨f, (ks₁.zip ks₂).map m, p⟩ : Rule) ∈ prodRules A B D m := by
  rw [absBU_isect, if_pos rfl]
  constructor
  · rintro ⟨p₁, p₂, hp1, hp2, hp⟩
    have hr1 := (h₁ p₁).mp hp1
    have hr2 := (h₂ p₂).mp hp2
    refine ⟨_, hr1, _, hr2, rfl, rfl, rfl, rfl, hp, ?_⟩
    rw [mem_prodRules]
    exact ⟨_, hr1, _, hr2, rfl, hl, hD p₁ p₂ hr1 hr2, by rw [← hp]⟩
  · rintro ⟨r, hr, r', hr', hs, hs', hk, hk', hp, _⟩
    refine ⟨r.parent, r'.parent, (h₁ _).mpr ?_, (h₂ _).mpr ?_, hp⟩
    · rw [← hs, ← hk]; exact hr
    · rw [← hs', ← hk']; exact hr'

namespace BddAbsEx

/-- `a → 1`, `b → 1`, `g(1,1) → 2` -/
def rsA : List Rule := [⟨0, [], 1⟩, ⟨1, [], 1⟩, ⟨2, [1, 1], 2⟩]
/-- `a → 3`, `b → 4`, `g(3,3) → 9`, `g(4,4) → 9` -/
def rsB : List Rule := [⟨0, [], 3⟩, ⟨1, [], 4⟩, ⟨2, [3, 3], 9⟩, ⟨2, [4, 4], 9⟩]

def showRules (rs : List Rule) : List (Nat × List Nat × Nat) := rs.map (fun r => (r.sym, r.kids, r.parent))

#guard showRules (absRules [0, 1, 2, 3] (ofRules rsA)) == [(0, [], 1), (1, [], 1), (2, [1, 1], 2)]
#guard showRules (absRules [0, 1, 2, 3] (ofRules rsB)) == [(0, [], 3), (1, [], 4), (2, [4, 4], 9), (2, [3, 3], 9)]
-- the nullary MTBDD of `rsB` branches on the bit 0 of the symbol (`a` = 0, `b` = 1) and on the higher bits
#guard eval ((ofRules rsB).get []) (bits 0) == [3]
#guard eval ((ofRules rsB).get []) (bits 1) == [4]
#guard eval ((ofRules rsB).get []) (bits 2) == []
#guard showRules (absRules [0, 1, 2] (unionT (ofRules rsA) (ofRules rsB))) ==
  [(0, [], 1), (0, [], 3), (1, [], 1), (1, [], 4), (2, [1, 1], 2), (2, [4, 4], 9), (2, [3, 3], 9)]
#guard showRules (absRules [0, 1, 2] (unionDisj (ofRules rsA) (ofRules rsB))) ==
  [(0, [], 1), (0, [], 3), (1, [], 1), (1, [], 4), (2, [4, 4], 9), (2, [3, 3], 9), (2, [1, 1], 2)]
-- a cube with a don't-care: the symbols 0 and 1 (bit 0 free, the other 15 bits 0)
#guard showRules (absRules [0, 1, 2] (addCube Table.empty [7] (none :: (List.replicate 15 (some false))) 5)) ==
  [(0, [7], 5), (1, [7], 5)]
-- intersection on the leaves and on the tuples `(1,1)`/`(3,3)` with the pairing `10·x + y`
#guard showRules (absRules [0, 1, 2]
    (isectAt (fun p => 10 * p.1 + p.2) (isectAt (fun p => 10 * p.1 + p.2) Table.empty (ofRules rsA) (ofRules rsB) [] [] [])
      (ofRules rsA) (ofRules rsB) [1, 1] [3, 3] [13, 13])) == [(0, [], 13), (1, [], 14), (2, [13, 13], 29)]

example : HasRule (ofRules rsA) (bits 2) [1, 1] 2 :=
  (absBU_ofRules rsA (by decide +kernel) 2 (by decide +kernel) [1, 1] 2).mpr (by decide +kernel)
example : ¬ HasRule (ofRules rsA) (bits 2) [1, 1] 1 :=
  fun h => absurd ((absBU_ofRules rsA (by decide +kernel) 2 (by decide +kernel) [1, 1] 1).mp h) (by decide +kernel)
example : HasRule (unionT (ofRules rsA) (ofRules rsB)) (bits 1) [] 4 :=
  (absBU_union _ _ _ _ _).mpr (Or.inr ((absBU_ofRules rsB (by decide +kernel) 1 (by decide +kernel) [] 4).mpr (by decide +kernel)))
example : HasRule (addTransition (ofRules rsA) [2] 3 7) (bits 3) [2] 7 :=
  (absBU_addTransition _ [2] 3 7 (by decide +kernel) 3 (by decide +kernel) [2] 7).mpr (Or.inr ⟨rfl, rfl, rfl⟩)
-- the hypothesis of `absBU_unionDisj` on the example (tuples `(1,1)` against `(3,3)`, `(4,4)`)
example : ∀ k, k ∈ (ofRules rsA).entries.map (·.1) → k ∉ (ofRules rsB).entries.map (·.1) := by decide +kernel

end BddAbsEx

theorem nil_mem_keys (T : Table) : [] ∈ T.keys := List.mem_cons_self

theorem mem_keys_set {T : Table} {ks kk : List Nat} {m : MT} : kk ∈ (T.set ks m).keys ↔ kk = ks ∨ kk ∈ T.keys := by
  unfold Table.set Table.keys
  by_cases h : ks = []
  · subst h
    rw [if_pos rfl, List.mem_cons, or_iff_right_of_imp Or.inl]
  · rw [if_neg h, setE, List.map_cons, List.mem_cons, List.mem_cons, List.mem_cons, List.mem_map, List.mem_map]
    constructor
    · rintro (h1 | h1 | ⟨e, he, rfl⟩)
      · exact Or.inr (Or.inl h1)
      · exact Or.inl h1
      · exact Or.inr (Or.inr ⟨e, (List.mem_filter.mp he).1, rfl⟩)
    · rintro (h1 | h1 | ⟨e, he, rfl⟩)
      · exact Or.inr (Or.inl h1)
      · exact Or.inl h1
      · by_cases hk : e.1 = ks
        · exact Or.inr (Or.inl hk)
        · exact Or.inr (Or.inr ⟨e, List.mem_filter.mpr ⟨he, bne_iff_ne.mpr hk⟩, rfl⟩)

end BddAbs
end Vata
