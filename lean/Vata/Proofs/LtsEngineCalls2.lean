import Vata.LtsEngineCalls2
import Vata.Proofs.LtsEngineCalls
/-!
# The engine instrumented with `SharedCounter` / `SharedList` calls, by its phases: trace erasure

`instrJ`: the engine of `Vata/LtsEngineCalls2.lean` is an instrumented engine in the sense of `Vata/Proofs/LtsEngineInstr.lean`; its
pruning loops are `pruneRowT (demJ L)` of `Vata/Proofs/LtsEnginePrune.lean`, its "initialize counters" is `countersT`.  Forgetting the
histories gives the plain engine of `Vata/LtsEngine.lean` (`stateAfterJ_fst`, `trace_erasure2`).
-/
namespace Vata.LEC2
open Vata.L Vata.LE Vata.LU Vata.LEC

/-- the calls of one split of `fastSplit`: the copy constructor of the counter -/
def emitFJ (_e : Eng) (b : Nat) (_rest _new : List Nat) (t : Tr2) : Tr2 := t.addSC [SC.Op.copyCtor b]

/-- the calls of one split of `split`: the copy constructor, `copyLabels`, the copies of the remove lists -/
def emitJ (L : LTS) (e : Eng) (b : Nat) (rest new : List Nat) (t : Tr2) : Tr2 :=
  (t.addSC [SC.Op.copyCtor b, SC.Op.copyLabels e.part.length b ((splitBlockCore L e b rest new).ins e.part.length)]).addSL
    (copyT L (splitBlockCore L e b rest new) b e.part.length)

theorem fastSplitStepJ_eq (L : LTS) (part0 : List (List Nat)) (rm : List Nat) :
    fastSplitStepJ L part0 rm = fStepT (splitBlockCore L) emitFJ part0 rm := by
  funext et b
  unfold fastSplitStepJ fStepT
  cases trySplit (et.1.block b) (tmpOf part0 rm b) with
  | none => rfl
  | some rn => rfl

theorem splitStepJ_eq (L : LTS) (part0 : List (List Nat)) (rm : List Nat) :
    splitStepJ L part0 rm = gStepT (stepS L) (emitJ L) part0 rm := by
  funext emt b
  unfold splitStepJ gStepT stepS
  cases trySplit (emt.1.1.block b) (tmpOf part0 rm b) with
  | none => rfl
  | some rn => rfl

/-- what one `decr` writes to the two histories -/
def demJ (L : LTS) (i a : Nat) (e : Eng) (q : Nat) (t : Tr2) : Tr2 :=
  (t.addSC [SC.Op.decr i a q]).addSL (if e.cntv i a q - 1 == 0 then [SL.Op.append (slot L i a) q] else [])

/-- what "initialize counters" writes in front of the labels of a block, for one label, behind the labels -/
def preJ (cfg : SC.Cfg) (e : Eng) (b1 : Nat) (t : Tr2) : Tr2 := t.addSC [SC.Op.resize b1 (resizeArg cfg (e.ins b1))]
def slotJ (L : LTS) (b1 : Nat) (e : Eng) (a : Nat) (t : Tr2) : Tr2 := (initSlotJ L b1 (e, t) a).2
def postJ (_e : Eng) (b1 : Nat) (t : Tr2) : Tr2 := t.addSC [SC.Op.init b1]

theorem initCountersJ_eq (L : LTS) (cfg : SC.Cfg) : initCountersJ L cfg = countersT L (preJ cfg) postJ (slotJ L) := rfl

theorem initRefineJ_eq (L : LTS) : initRefineJ L = refineT L emitFJ := by
  funext et
  unfold initRefineJ refineT fastSplitJ fastT
  simp only [fastSplitStepJ_eq]

/-- the engine of `Vata/LtsEngineCalls2.lean` by its phases -/
def instrJ (L : LTS) (cfg : SC.Cfg) (part : List (List Nat)) (rel : Rel) : Instr L part rel Tr2 where
  t0 := Tr2.empty.addSC (part.map (fun _ => SC.Op.new))
  emitF := emitFJ
  prn := fun _ t => t
  ctr := initCountersJ L cfg
  take := fun b a t => t.addSL [SL.Op.take (slot L b a)]
  emitS := emitJ L
  prune := fun mask pl x => pl.foldl (pruneRowJ L mask) (x.1, x.2.addSL [SL.Op.release])
  pr := processRemoveJ L
  sa := stateAfterJ L cfg part rel
  run := engineRunJ L
  ctr_fst := countersT_fst L (preJ cfg) postJ (slotJ L)
  prune_fst := fun mask pl _ => pruneT_fst (demJ L) L mask pl _
  pr_eq := fun et b a => by
    unfold processRemoveJ
    cases et.1.remv b a with
    | none => rfl
    | some remove =>
      simp only []
      unfold splitJ splitT
      rw [splitStepJ_eq]
  sa_zero := by
    show engineInitJ L cfg part rel = _
    unfold engineInitJ
    rw [initRefineJ_eq]
    rfl
  sa_succ := fun _ => rfl
  run_zero := fun _ => by rw [engineRunJ]
  run_succ := fun _ _ => by rw [engineRunJ]; rfl

/-- a completed `computeSimulation`: nothing was done (`size = 0`), or `run()` ended after some number of iterations and the
destructors ran -/
theorem computeSimulationJ_some {L : LTS} {cfg : SC.Cfg} {part : List (List Nat)} {rel : Rel} {size : Nat} {R : Rel} {t : Tr2}
    (h : computeSimulationJ L cfg part rel size = some (R, t)) :
    (size = 0 ∧ R = [] ∧ t = Tr2.empty) ∨
      ∃ k, size ≠ 0 ∧ R = buildResult (stateAfterJ L cfg part rel k).1 size ∧
        t = (stateAfterJ L cfg part rel k).2.addSC (finishT (stateAfterJ L cfg part rel k).1) ∧
        (stateAfterJ L cfg part rel k).1.queue = [] := by
  unfold computeSimulationJ at h
  split at h
  · rename_i hs
    exact Or.inl ⟨eq_of_beq hs, (Prod.mk.inj (Option.some.inj h)).1.symm, (Prod.mk.inj (Option.some.inj h)).2.symm⟩
  · rename_i hs
    obtain ⟨et, hr, he⟩ := Option.map_eq_some_iff.mp h
    obtain ⟨k, hk, hq⟩ := (instrJ L cfg part rel).run_some (fuelBound L) 0 et hr
    rw [hk] at hq he
    exact Or.inr ⟨k, fun h0 => hs (by rw [h0]; rfl), (Prod.mk.inj he).1.symm, (Prod.mk.inj he).2.symm, hq⟩

theorem stateAfterJ_fst (L : LTS) (cfg : SC.Cfg) (part : List (List Nat)) (rel : Rel) :
    ∀ k, (stateAfterJ L cfg part rel k).1 = stateAfter L part rel k :=
  (instrJ L cfg part rel).sa_fst

/-- **trace erasure**: the engine instrumented with counter / remove-list calls returns what the plain engine returns -/
theorem trace_erasure2 (L : LTS) (cfg : SC.Cfg) (part : List (List Nat)) (rel : Rel) (size : Nat) :
    (computeSimulationJ L cfg part rel size).map (·.1) = computeSimulation L part rel size := by
  unfold computeSimulationJ computeSimulation
  split
  · rfl
  · have h0 : (engineInitJ L cfg part rel).1 = engineInit L part rel := stateAfterJ_fst L cfg part rel 0
    have hr := fun fuel et => (instrJ L cfg part rel).run_fst fuel et
    rw [Option.map_map, ← h0, ← hr, Option.map_map]
    rfl

end Vata.LEC2
