import Vata.Proofs.LtsUtilSC4

/-!
# `SharedCounter` as coded refines a table of numbers (part 5: the theorems)

Model: section `namespace SC` of `Vata/LtsUtil.lean`; invariant `Vata.LU.SC.Inv` (in `LtsUtilSC.lean`).
-/
namespace Vata.LU.SC
open P

theorem inv_empty (cfg : Cfg) : Inv cfg World.empty [] := by
  refine ⟨rfl, fun i => by simp [World.empty], ?_, List.nodup_nil, ?_⟩
  · intro i c a hc; simp [World.empty] at hc
  · intro p hp; simp [World.empty, Mem.empty] at hp

/-- A `decr` inside the discipline: what the call returns, with everything `decr_inv` says about it. -/
theorem step_decr {cfg : Cfg} {w : World} {aw : AWorld} {i l q : Nat} (hinv : Inv cfg w aw)
    (hok : ok cfg aw (.decr i l q) = true) :
    ∃ r : Mem × Cnt × Nat, step cfg w (.decr i l q) = some (⟨r.1, w.cnts.set i (some r.2.1)⟩, aOut cfg aw (.decr i l q)) ∧
      Inv cfg ⟨r.1, w.cnts.set i (some r.2.1)⟩ (aStep cfg aw (.decr i l q)) ∧ NoSharedWrite cfg w.cnts w.mem r.1 := by
  rw [ok] at hok
  split at hok
  · rename_i a idx ha hk
    simp only [Bool.and_eq_true, beq_iff_eq, decide_eq_true_eq] at hok
    obtain ⟨m, cs⟩ := w
    obtain ⟨c, hc⟩ := hinv.live_some ha
    obtain ⟨r, e1, e2, e3, e4⟩ := decr_inv hinv hc ha hk hok.1.1 hok.1.2 hok.2
    refine ⟨r, ?_, ?_, e4⟩
    · simp only [step, World.cnt, hc, e1, Option.map_some, aOut, ha, hk, e3]
    · simp only [aStep, ha, hk]; exact e2
  · cases hok

/-- One call inside the discipline: the class is defined there, keeps the invariant, follows the table of numbers,
and returns what the table says. -/
theorem step_refines {cfg : Cfg} {w : World} {aw : AWorld} {op : Op} (hinv : Inv cfg w aw)
    (hok : ok cfg aw op = true) :
    ∃ w' out, step cfg w op = some (w', out) ∧ Inv cfg w' (aStep cfg aw op) ∧ out = aOut cfg aw op := by
  obtain ⟨m, cs⟩ := w
  cases op with
  | new => exact ⟨_, _, rfl, append_cnt hinv, rfl⟩
  | copyCtor i =>
    rw [ok] at hok
    cases ha : aw.getD i none with
    | none => rw [ha] at hok; cases hok
    | some a =>
      obtain ⟨c, hc⟩ := hinv.live_some ha
      exact ⟨_, [], by simp only [step, World.cnt, hc], append_cnt hinv, rfl⟩
  | resize i n =>
    rw [ok] at hok
    split at hok
    · rename_i a ha
      obtain ⟨c, hc⟩ := hinv.live_some ha
      exact ⟨_, [], by simp only [step, World.cnt, hc], resize_inv (n := n) hinv hc ha (beq_iff_eq.1 hok), rfl⟩
    · cases hok
  | set i l q n =>
    rw [ok] at hok
    split at hok
    · rename_i a idx ha hk
      simp only [Bool.and_eq_true, beq_iff_eq, decide_eq_true_eq] at hok
      obtain ⟨c, hc⟩ := hinv.live_some ha
      obtain ⟨mc, e1, e2⟩ := set_inv hinv hc ha hk hok.1.1.1 hok.1.1.2 hok.1.2 hok.2
      refine ⟨⟨mc.1, cs.set i (some mc.2)⟩, [], ?_, ?_, rfl⟩
      · simp only [step, World.cnt, hc, e1, Option.map_some]
      · simp only [aStep, ha, hk]; exact e2
    · cases hok
  | init i =>
    rw [ok] at hok
    split at hok
    · rename_i a ha
      obtain ⟨c, hc⟩ := hinv.live_some ha
      refine ⟨⟨(initRows cfg m c).1, cs.set i (some (initRows cfg m c).2)⟩, [], ?_, ?_, rfl⟩
      · simp only [step, World.cnt, hc]
      · simp only [aStep, ha]; exact init_inv hinv hc ha (beq_iff_eq.1 hok)
    · cases hok
  | decr i l q =>
    obtain ⟨_, e, g, _⟩ := step_decr hinv hok
    exact ⟨_, _, e, g, rfl⟩
  | copyLabels i j labels =>
    rw [ok, Bool.and_eq_true, Bool.and_eq_true, bne_iff_ne] at hok
    obtain ⟨⟨h1, h2⟩, hok⟩ := hok
    split at hok
    · rename_i ad s had has
      rw [Bool.and_eq_true, beq_iff_eq, beq_iff_eq] at hok
      obtain ⟨d, hd⟩ := hinv.live_some had
      obtain ⟨src, hsrc⟩ := hinv.live_some has
      obtain ⟨mc, e1, e2⟩ := copyLabels_inv hinv h1 h2 hd had hok.1 hsrc has hok.2
      refine ⟨⟨mc.1, cs.set i (some mc.2)⟩, [], ?_, ?_, rfl⟩
      · simp only [step, World.cnt, hd, hsrc, if_neg h1, e1, Option.map_some]
      · simp only [aStep, has]; exact e2
    · cases hok
  | destroy i =>
    rw [ok] at hok
    split at hok
    · rename_i a ha
      obtain ⟨c, hc⟩ := hinv.live_some ha
      exact ⟨_, [], by simp only [step, World.cnt, hc], destroy_inv hinv hc ha (bne_iff_ne.1 hok), rfl⟩
    · cases hok


/-- A positive entry of the table is what `get` returns (in the filling and in the running phase). -/
theorem get_refines {cfg : Cfg} {w : World} {aw : AWorld} {i l q idx : Nat} {a : A} {c : Cnt}
    (hinv : Inv cfg w aw) (ha : aw.getD i none = some a) (hc : w.cnt i = some c) (hk : keyIdx cfg l q = some idx)
    (hidx : idx < a.rows * cfg.rowSize) (hpos : 0 < a.at idx) : get cfg w.mem c l q = some (a.at idx) := by
  obtain ⟨hloc, row, F⟩ := focus (m := w.mem) (cs := w.cnts) hinv hc ha hk hidx
  unfold get
  simp only [hloc, F.hr]
  cases hd : row.data with
  | none => exact congrArg some (F.rowInv.master.trans (((F.rowInv.noData hd).2.sum_eq F.col (rowOf_idx ▸ hpos)).trans rowOf_idx))
  | some p => exact congrArg some (F.cell_eq hd hpos)


/-- Running phase: the reference count cell of a row is the number of (counter, row) pairs of the world
that point to it, and that number is at least 1. -/
theorem refcount_eq_sharers {cfg : Cfg} {w : World} {aw : AWorld} {i r p : Nat} {a : A} {c : Cnt} {row : Row}
    (hinv : Inv cfg w aw) (ha : aw.getD i none = some a) (hc : w.cnt i = some c) (hph : a.phase = .running)
    (hr : c[r]? = some row) (hd : row.data = some p) :
    cell w.mem p cfg.rowSize = refs p w.cnts ∧ 1 ≤ refs p w.cnts := by
  have hold : CntInv cfg w.mem w.cnts c a := hinv.cnt i c a hc ha
  exact ⟨((hold.rows r row hr).data p hd).run hph, refs_pos_of_get hc hr hd⟩

/-- Filling phase: a row under construction has exactly one owner and count 0 ("one column so far") or 1. -/
theorem refcount_filling {cfg : Cfg} {w : World} {aw : AWorld} {i r p : Nat} {a : A} {c : Cnt} {row : Row}
    (hinv : Inv cfg w aw) (ha : aw.getD i none = some a) (hc : w.cnt i = some c) (hph : a.phase = .filling)
    (hr : c[r]? = some row) (hd : row.data = some p) :
    refs p w.cnts = 1 ∧ (cell w.mem p cfg.rowSize = 0 ∨ cell w.mem p cfg.rowSize = 1) := by
  have hold : CntInv cfg w.mem w.cnts c a := hinv.cnt i c a hc ha
  obtain ⟨h1, _, h3⟩ := ((hold.rows r row hr).data p hd).fill hph
  exact ⟨h1, by rcases h3 with h | h; exact Or.inr h; exact Or.inl h.1⟩

/-- A row in the allocator's free list is referenced by no live counter ("no row freed while shared"),
and the free list has no duplicates ("no double free"). -/
theorem free_not_referenced {cfg : Cfg} {w : World} {aw : AWorld} (hinv : Inv cfg w aw) :
    w.mem.free.Nodup ∧
    ∀ p, p ∈ w.mem.free → ∀ (i : Nat) (c : Cnt) (r : Nat) (row : Row),
      w.cnt i = some c → c[r]? = some row → row.data ≠ some p := by
  refine ⟨hinv.nodup, ?_⟩
  intro p hp i c r row hc hr hd
  have := refs_pos_of_get (cs := w.cnts) hc hr hd
  have := (hinv.free p hp).2
  omega

theorem row_wellformed {cfg : Cfg} {w : World} {aw : AWorld} {i r p : Nat} {c : Cnt} {row : Row}
    (hinv : Inv cfg w aw) (hc : w.cnt i = some c) (hr : c[r]? = some row) (hd : row.data = some p) :
    p < w.mem.next ∧ (w.mem.cells.get p).length = cfg.rowSize + 1 :=
  hinv.ref (refs_pos_of_get (cs := w.cnts) hc hr hd)

/-- "Copy before the first write to a shared row": a `decr` never writes a data column of a row that has
two or more sharers. -/
theorem decr_no_shared_write {cfg : Cfg} {w w' : World} {aw : AWorld} {i l q : Nat} {out : List Nat}
    (hinv : Inv cfg w aw) (hok : ok cfg aw (.decr i l q) = true) (h : step cfg w (.decr i l q) = some (w', out)) :
    ∀ p, 2 ≤ refs p w.cnts → ∀ col, col < cfg.rowSize → cell w'.mem p col = cell w.mem p col := by
  obtain ⟨r, e, _, e4⟩ := step_decr hinv hok
  cases e.symm.trans h
  exact e4

/-- A `decr` on counter `i` changes nothing another live counter `j` observes: `j` is the same object, its
table is the same, and `get` of every positive entry returns the same number before and after. -/
theorem decr_other_unchanged {cfg : Cfg} {w w' : World} {aw : AWorld} {i j l q : Nat} {out : List Nat} {a : A} {c : Cnt}
    (hinv : Inv cfg w aw) (hok : ok cfg aw (.decr i l q) = true) (h : step cfg w (.decr i l q) = some (w', out))
    (hji : j ≠ i) (ha : aw.getD j none = some a) (hc : w.cnt j = some c) :
    w'.cnt j = some c ∧ (aStep cfg aw (.decr i l q)).getD j none = some a ∧
    ∀ l' q' idx', keyIdx cfg l' q' = some idx' → idx' < a.rows * cfg.rowSize → 0 < a.at idx' →
      get cfg w'.mem c l' q' = get cfg w.mem c l' q' := by
  obtain ⟨r, e, g2, _⟩ := step_decr hinv hok
  cases e.symm.trans h
  have hc' : World.cnt ⟨r.1, w.cnts.set i (some r.2.1)⟩ j = some c := (getD_set_ne _ hji ..).trans hc
  have ha' : (aStep cfg aw (.decr i l q)).getD j none = some a := by
    simp only [aStep]
    split
    · exact (getD_set_ne _ hji ..).trans ha
    · exact ha
  refine ⟨hc', ha', fun l' q' idx' hk hidx hpos => ?_⟩
  rw [get_refines g2 ha' hc' hk hidx hpos, get_refines hinv ha hc hk hidx hpos]


/-- a history of calls on the class as coded; `none` = some call was undefined -/
def run (cfg : Cfg) : World → List Op → Option (World × List (List Nat))
  | w, [] => some (w, [])
  | w, op :: ops =>
    match step cfg w op with
    | none => none
    | some (w', out) => (run cfg w' ops).map (fun r => (r.1, out :: r.2))

def aRun (cfg : Cfg) : AWorld → List Op → AWorld × List (List Nat)
  | aw, [] => (aw, [])
  | aw, op :: ops => ((aRun cfg (aStep cfg aw op) ops).1, aOut cfg aw op :: (aRun cfg (aStep cfg aw op) ops).2)

def okAll (cfg : Cfg) : AWorld → List Op → Bool
  | _, [] => true
  | aw, op :: ops => ok cfg aw op && okAll cfg (aStep cfg aw op) ops

/-- Along every history inside the discipline the class is defined, returns what the table of numbers
returns and ends in a world that satisfies the invariant against the final table. -/
theorem run_refines {cfg : Cfg} : ∀ (ops : List Op) {w : World} {aw : AWorld}, Inv cfg w aw → okAll cfg aw ops = true →
    ∃ w', run cfg w ops = some (w', (aRun cfg aw ops).2) ∧ Inv cfg w' (aRun cfg aw ops).1
  | [], w, aw, hinv, _ => ⟨w, rfl, hinv⟩
  | op :: ops, w, aw, hinv, hok => by
    simp only [okAll, Bool.and_eq_true] at hok
    obtain ⟨w1, out, h1, h2, h3⟩ := step_refines hinv hok.1
    obtain ⟨w', g1, g2⟩ := run_refines ops h2 hok.2
    refine ⟨w', ?_, g2⟩
    simp only [run, h1, g1, Option.map_some, aRun, h3]

theorem run_refines_empty {cfg : Cfg} (ops : List Op) (hok : okAll cfg [] ops = true) :
    ∃ w', run cfg World.empty ops = some (w', (aRun cfg [] ops).2) ∧ Inv cfg w' (aRun cfg [] ops).1 :=
  run_refines ops (inv_empty cfg) hok

/-- every world reachable inside the discipline satisfies the invariant (so `get_refines`, `refcount_eq_sharers`,
`free_not_referenced` hold in it) -/
theorem reachable_inv {cfg : Cfg} {ops : List Op} {w' : World} {outs : List (List Nat)}
    (hok : okAll cfg [] ops = true) (h : run cfg World.empty ops = some (w', outs)) :
    Inv cfg w' (aRun cfg [] ops).1 ∧ outs = (aRun cfg [] ops).2 := by
  obtain ⟨w'', g1, g2⟩ := run_refines_empty ops hok
  rw [h] at g1
  simp only [Option.some.injEq, Prod.mk.injEq] at g1
  obtain ⟨g1, g3⟩ := g1
  subst g1
  exact ⟨g2, g3⟩


/-! ## non-vacuity: a concrete history through every branch of the class

Layout of `SimulationEngine::init` for 2 labels over 2 states, `delta1 = [{0, 1}, {0}]`, `rowSize = 2`: key indices
`(0,0) ↦ 0`, `(0,1) ↦ 1`, `(1,0) ↦ 2`; label 0 = row 0, label 1 = row 1.  The history fills a counter (a row with two
columns: count 1, kept by `init()`; a row with one column: count 0, reclaimed by `init()`), shares it twice with
`copyLabels`, and decrements through all four branches of `decr` (copy on write into a RECYCLED row, in place, everything
in `master_`, `master_ = 2` with reclaim, `master_ = data_[col]` on a shared row without reclaim), then destroys all. -/
namespace Ex

def exCfg : Cfg := mkCfg 2 2 7 [[0, 1], [0]]

def exOps : List Op :=
  [.new, .resize 0 2, .set 0 0 0 3, .set 0 0 1 1, .set 0 1 0 2, .init 0, .copyCtor 0, .copyLabels 1 0 [0, 1],
   .decr 1 0 0, .decr 0 0 1, .decr 0 1 0, .decr 1 0 0, .decr 1 0 0, .decr 1 0 1, .new, .copyLabels 2 0 [1, 0],
   .decr 0 0 0, .destroy 1, .destroy 0, .destroy 2]

/-- the history is inside the discipline (hypothesis of `run_refines`, and of `step_refines` at every step) -/
example : okAll exCfg [] exOps = true := by decide +kernel

example : aRun exCfg [] exOps =
    ([none, none, none], [[], [], [], [], [], [], [], [], [2], [0], [1], [1], [0], [0], [], [], [2], [], [], []]) := by
  decide +kernel

/-- `run_refines` on it: the class as coded returns the same numbers … -/
example : (run exCfg World.empty exOps).map (·.2) = some (aRun exCfg [] exOps).2 := by decide +kernel

/-- … and ends with both rows back in the free list, each once -/
example : (run exCfg World.empty exOps).map (fun r => (r.1.mem.free, r.1.mem.next)) = some ([0, 1], 2) := by decide +kernel

example : ∃ w', run exCfg World.empty exOps = some (w', (aRun exCfg [] exOps).2) ∧ Inv exCfg w' (aRun exCfg [] exOps).1 :=
  run_refines_empty exOps (by decide +kernel)

/-- `step_refines` at a non-trivial point: the copy-on-write `decr` after the first `copyLabels` -/
example : ok exCfg (aRun exCfg [] (exOps.take 8)).1 (.decr 1 0 0) = true := by decide +kernel

/-- at that point row 0 (address 0) has two sharers and its count cell says so (`refcount_eq_sharers`), -/
example : (run exCfg World.empty (exOps.take 8)).map (fun r => (refs 0 r.1.cnts, cell r.1.mem 0 exCfg.rowSize)) =
    some (2, 2) := by decide +kernel

/-- `get_refines`: both counters observe 3 at `(label 0, state 0)`; after the `decr` on counter 1, counter 0 still
observes 3 (`decr_other_unchanged`), counter 1 observes 2 in its private copy, which is the recycled row 1 -/
example : (run exCfg World.empty (exOps.take 8)).map
      (fun r => ((r.1.cnt 0).bind (fun c => get exCfg r.1.mem c 0 0), (r.1.cnt 1).bind (fun c => get exCfg r.1.mem c 0 0))) =
    some (some 3, some 3) := by decide +kernel

example : (run exCfg World.empty (exOps.take 9)).map
      (fun r => ((r.1.cnt 0).bind (fun c => get exCfg r.1.mem c 0 0), (r.1.cnt 1).bind (fun c => get exCfg r.1.mem c 0 0),
                 (r.1.cnt 1).map (fun c => c.map (·.data)))) =
    some (some 3, some 2, some [some 1, none]) := by decide +kernel

/-- outside the discipline the class is NOT defined / does not follow the table: a second `set` of the same key … -/
example : ok exCfg (aRun exCfg [] (exOps.take 3)).1 (.set 0 0 0 5) = false := by decide +kernel

/-- … and `decr` of an entry that is 0 -/
example : ok exCfg (aRun exCfg [] (exOps.take 14)).1 (.decr 1 0 1) = false := by decide +kernel

/-- `get_refines` is restricted to POSITIVE entries, and has to be: a column that was never `set` holds whatever the
allocator's initializer left there (here the harness' poison 7; with the engine's allocator, uninitialized memory).
Three key indices in one row of size 3, two of them set: `get` of the third returns 7 where the table says 0. -/
example : (run (mkCfg 3 3 7 [[0, 1, 2]]) World.empty [.new, .resize 0 1, .set 0 0 0 3, .set 0 0 1 1, .init 0]).bind
      (fun r => (r.1.cnt 0).bind (fun c => get (mkCfg 3 3 7 [[0, 1, 2]]) r.1.mem c 0 2)) = some 7 ∧
    ((aRun (mkCfg 3 3 7 [[0, 1, 2]]) [] [.new, .resize 0 1, .set 0 0 0 3, .set 0 0 1 1, .init 0]).1.getD 0 none).map
      (fun a => a.at 2) = some 0 := by decide +kernel

end Ex

end Vata.LU.SC
