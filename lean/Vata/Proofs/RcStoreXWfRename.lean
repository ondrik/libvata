import Vata.Proofs.RcStoreXHist
/-!
# `WfInv` along histories (C17: canonicity at store level for the full operation set)

One operation keeps the store ordered and reduced exactly when its side condition `opOkW` holds (`stepS_wfInv_iff`,
`Vata/Proofs/RcStoreXOps.lean`).  Here:

* `opOkW_of_opOk` : the strong condition (strict monotonicity on the occurring variables, root variable below the offset)
  implies the weak, exact one
* `runX_wfInv`, `runX_wfInv_of_mono`, `okFromW_iff`
-/
namespace Vata.RcSX
open Vata.RcS

/-- the strong condition (strict monotonicity on the variables that occur) implies the weak one (the assertions) in a store
    satisfying both invariants -/
theorem opOkW_of_opOk {s : Store} (op : Op) (hi : WInv s []) (w : WfInv s) (ok : opOk s op = true) : opOkW s op = true := by
  cases op with
  | rename a dst tab =>
    simp only [opOk, opOkW] at ok ⊢
    split
    · rename_i ra hfa hfd
      simp only [hfa, hfd] at ok
      exact renOkT_of_strictMono ok (diagram_wf hi w (hi.rin ra (root_mem hfa)))
    · rfl
  | extendWith a dst asgn off =>
    simp only [opOk, opOkW] at ok ⊢
    split
    · rename_i ra hfa hfd
      simp only [hfa, hfd] at ok
      split
      · rfl
      · rename_i k _
        exact vltB_iff.mpr ((vltB_iff.mp ok).mono (Nat.le_add_right _ _))
    · rfl
  | _ => rfl

theorem foldlX_wfInv (F : Fns) : ∀ (ops : List Op) (x : XStore), WInv x.st [] → WfInv x.st → okFrom opOkW F x ops = true →
    WfInv (ops.foldl (stepX F) x).st
  | [], _, _, w, _ => w
  | op :: ops, x, h, w, ok => by
    simp only [okFrom, Bool.and_eq_true] at ok
    exact foldlX_wfInv F ops (stepX F x op) (stepS_winv F x.dv op h).1 (stepS_wfInv F x.dv op h w ok.1) ok.2

theorem okFromW_of_okFrom (F : Fns) : ∀ (ops : List Op) (x : XStore), WInv x.st [] → WfInv x.st → okFrom opOk F x ops = true →
    okFrom opOkW F x ops = true
  | [], _, _, _, _ => rfl
  | op :: ops, x, h, w, ok => by
    simp only [okFrom, Bool.and_eq_true] at ok ⊢
    have okw := opOkW_of_opOk op h w ok.1
    exact ⟨okw, okFromW_of_okFrom F ops (stepX F x op) (stepS_winv F x.dv op h).1 (stepS_wfInv F x.dv op h w okw) ok.2⟩

theorem monoW_of_mono {F : Fns} {ops : List Op} (m : Mono F ops) : MonoW F ops :=
  okFromW_of_okFrom F ops xempty inv_empty.1 wfInv_empty m

/-- after every history that passes the assertions, every allocated inner node is reduced and ordered -/
theorem runX_wfInv (F : Fns) (ops : List Op) (m : MonoW F ops) : WfInv (runX F ops).st :=
  foldlX_wfInv F ops xempty inv_empty.1 wfInv_empty m

theorem runX_wfInv_of_mono (F : Fns) (ops : List Op) (m : Mono F ops) : WfInv (runX F ops).st :=
  runX_wfInv F ops (monoW_of_mono m)

theorem okFromW_iff (F : Fns) : ∀ (ops : List Op) (x : XStore), WInv x.st [] → WfInv x.st →
    (okFrom opOkW F x ops = true ↔ ∀ n, WfInv ((ops.take n).foldl (stepX F) x).st)
  | [], x, _, w => by
    simp only [okFrom, List.take_nil, List.foldl_nil, true_iff]
    exact fun _ => w
  | op :: ops, x, h, w => by
    simp only [okFrom, Bool.and_eq_true]
    constructor
    · rintro ⟨o1, o2⟩ n
      cases n with
      | zero => exact w
      | succ n =>
        simp only [List.take_succ_cons, List.foldl_cons]
        exact (okFromW_iff F ops (stepX F x op) (stepS_winv F x.dv op h).1 (stepS_wfInv F x.dv op h w o1)).mp o2 n
    · intro hall
      have w1 : WfInv (stepX F x op).st := by
        have := hall 1
        simpa only [List.take_succ_cons, List.take_zero, List.foldl_cons, List.foldl_nil] using this
      have o1 := (stepS_wfInv_iff F x.dv op h w).mp w1
      refine ⟨o1, (okFromW_iff F ops (stepX F x op) (stepS_winv F x.dv op h).1 w1).mpr (fun n => ?_)⟩
      have := hall (n+1)
      simpa only [List.take_succ_cons, List.foldl_cons] using this

end Vata.RcSX
