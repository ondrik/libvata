import Vata.Proofs.InclDownStackStepsTop
/-!
# The stack machine against the recursive model: `expand`, `checkInternal`, the certified wrapper

The machine models are monotone in the bound on the transitions, and the recursive model terminates: so every answer of the
stack machine (any bound) is the answer of the recursive model for the fuel `fuelBoundD A B + 1`, whence exactness; and for a
bound above `stepsOf A B (fuelBoundD A B + 1)` the certified wrapper over the machine equals that recursive model, whence totality.
(The direction from the recursive model to the machine, with the count, is in `Vata/Proofs/InclDownStackStepsTop.lean`.)
-/
namespace Vata
namespace InclDownStack
open InclDown
open InclUp (normS Wit)

section
variable {o : Ord} {A B : TA} {wit : Wit}

theorem expandStack_mono {pop : Frame → Frame → Frame} {n k : Nat} {st : St} {p : Nat} {P : List Nat}
    {r : Verdict × St} (h : expandStack o A B wit pop n st p P = some r) (hk : n ≤ k) :
    expandStack o A B wit pop k st p P = some r := runM_mono h hk

theorem rootLoopS_mono {pop : Frame → Frame → Frame} {n k : Nat} (hk : n ≤ k) {FB : List Nat} :
    ∀ (fs : List Nat) (st : St) (r : Except Tree St), rootLoopS o A B wit pop n FB fs st = some r →
      rootLoopS o A B wit pop k FB fs st = some r
  | [], st, r, h => by simpa [rootLoopS] using h
  | f :: fs, st, r, h => by
    simp only [rootLoopS] at h ⊢
    split at h
    · cases h
    · next st1 heq => rw [expandStack_mono heq hk]; exact rootLoopS_mono hk fs st1 r h
    · next w st1 heq => rw [expandStack_mono heq hk]; exact h

end

theorem runS_mono {o : Ord} {A B : TA} {pop : Frame → Frame → Frame} {n k : Nat} (hk : n ≤ k)
    {r : Except Tree (List Pair)} (h : runS o A B pop n = some r) : runS o A B pop k = some r := by
  unfold runS at h ⊢
  split at h
  · cases h
  · next st heq => rw [rootLoopS_mono hk _ _ _ heq]; exact h
  · next w heq => rw [rootLoopS_mono hk _ _ _ heq]; exact h

theorem runS_eq_runN {o : Ord} (hr : OrdRefl o) {A B : TA} {k : Nat} {r : Except Tree (List Pair)}
    (h : runS o A B popAll k = some r) : runN o A B (fuelBoundD A B + 1) = some r := by
  obtain ⟨r', hr'⟩ := runN_terminates (o := o) hr (A := A) (B := B) (fuel := fuelBoundD A B + 1) (by omega)
  have h1 := runS_mono (Nat.le_max_left k (stepsOf A B (fuelBoundD A B + 1))) h
  have h2 := runS_of_runN_n hr' (Nat.le_max_right k (stepsOf A B (fuelBoundD A B + 1)))
  rw [h1] at h2
  rw [hr']
  exact h2.symm

end InclDownStack

open InclDown InclDownStack

theorem inclDownNonrecStack_eq {A B : TA} {k : Nat} {r : Bool × InclUp.Cert}
    (h : inclDownNonrecStack A B k = some r) : inclDownNonrec A B (fuelBoundD A B + 1) = some r := by
  unfold inclDownNonrecStack at h
  cases hrun : runS idOrd A B popAll k with
  | none => rw [hrun] at h; simp [finish] at h
  | some res =>
    unfold inclDownNonrec
    rw [runS_eq_runN ordRefl_id hrun, ← hrun]
    exact h

/-- with a bound above `stepsOf A B (fuelBoundD A B + 1)` on the transitions of one `expand` the wrapper over the stack machine
IS the recursive model with the fuel `fuelBoundD A B + 1` (also where the final check refuses: both are `none`) -/
theorem inclDownNonrecStack_eq_rec {A B : TA} {k : Nat} (hk : stepsOf A B (fuelBoundD A B + 1) ≤ k) :
    inclDownNonrecStack A B k = inclDownNonrec A B (fuelBoundD A B + 1) := by
  cases h : inclDownNonrec A B (fuelBoundD A B + 1) with
  | some r => exact inclDownNonrecStack_of_rec_n h hk
  | none =>
    cases h2 : inclDownNonrecStack A B k with
    | none => rfl
    | some r => rw [inclDownNonrecStack_eq h2] at h; cases h

theorem inclDownNonrecStack_complete {A B : TA} (hA : KidsProductive A) {k : Nat}
    (hk : stepsOf A B (fuelBoundD A B + 1) ≤ k) :
    (Incl A B → ∃ c, inclDownNonrecStack A B k = some (true, c)) ∧
    (¬ Incl A B → ∃ c, inclDownNonrecStack A B k = some (false, c)) :=
  inclDownNonrecStack_eq_rec hk ▸ inclDownNonrec_complete hA (Nat.lt_succ_self _)

end Vata
