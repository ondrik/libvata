import Vata.FunctorCachesDownOpt
import Vata.Proofs.LockStep
/-!
# The functor's `operator()` over any functor state: a simulation relation is preserved (C01, C07)

The combinators `forAllLG` … `bodyG` of `Vata/FunctorCachesDownOpt.lean` against `InclDown.forAllL` … `InclDown.body`, for an
arbitrary relation `R` between (functor state, global state) on the cached side and (`childrenCache`, `St`) on the value side:
if the calls of `expand` preserve `R`, the whole `operator()` does (`bodyG_rel`).  The combinators `forAllLC` … `bodyC` of the
plain functor (`Vata/FunctorCachesDown.lean`) are the instance `φ = List CP`, `σ = StC` (`bodyC_eq`).
-/
namespace Vata
namespace FCD
open Vata.InclDown
open Vata.InclUp (normS prodWit Wit)

section
variable {φ σ : Type} {R : φ → σ → List Pair → St → Prop}

/-- the results of a cached call and of its value-level twin in lock step: both out of fuel, or the same verdict and related
states -/
abbrev RetRelG {γ : Type} (R : φ → σ → List Pair → St → Prop) :
    Option (γ × φ × σ) → Option (γ × List Pair × St) → Prop :=
  OptRel fun (v, ccC, stC) (v', cc, st) => v = v' ∧ R ccC stC cc st

theorem retRelG_some {γ : Type} {v : γ} {ccC : φ} {stC : σ} {cc : List Pair} {st : St} (h : R ccC stC cc st) :
    RetRelG R (some (v, ccC, stC)) (some (v, cc, st)) := .some ⟨rfl, h⟩

def StepRelG {γ : Type} (R : φ → σ → List Pair → St → Prop) (fC : φ → σ → Option (γ × φ × σ))
    (f : List Pair → St → Option (γ × List Pair × St)) : Prop :=
  ∀ ccC stC cc st, R ccC stC cc st → RetRelG R (fC ccC stC) (f cc st)

def CallRelG (R : φ → σ → List Pair → St → Prop) (cC : CallG φ σ) (c : Call) : Prop :=
  ∀ q Q, StepRelG R (fun cc st => cC cc st q Q) (fun cc st => c cc st q Q)

theorem forAllLG_rel {α : Type} {fC : α → φ → σ → RetG φ σ} {f : α → List Pair → St → Ret}
    (hf : ∀ a, StepRelG R (fC a) (f a)) (l : List α) : StepRelG R (forAllLG fC l) (forAllL f l) := by
  induction l with
  | nil => exact fun ccC stC cc st h => retRelG_some h
  | cons a l ih =>
    intro ccC stC cc st h
    rcases (hf a ccC stC cc st h).inv with ⟨e1, e2⟩ | ⟨⟨v, ccC', stC'⟩, ⟨_, cc', st'⟩, e1, e2, rfl, hr⟩
    · simp only [forAllLG, forAllL, e1, e2]; exact .none
    · cases v with
      | holds => simp only [forAllLG, forAllL, e1, e2]; exact ih _ _ _ _ hr
      | fails w => simp only [forAllLG, forAllL, e1, e2]; exact retRelG_some hr

variable {cC c1C c2C : CallG φ σ} {c c1 c2 : Call}

theorem allPosG_rel (hc : CallRelG R cC c) (lhs rhs : List Nat) : StepRelG R (allPosG cC lhs rhs) (allPos c lhs rhs) :=
  forAllLG_rel (α := Nat × Nat) (fC := fun lr cc st => cC cc st lr.1 [lr.2]) (f := fun lr cc st => c cc st lr.1 [lr.2])
    (fun lr => hc lr.1 [lr.2]) (lhs.zip rhs)

theorem anyTupleG_rel (hc : CallRelG R cC c) (lhs : List Nat) (W : List (List Nat)) :
    StepRelG R (anyTupleG cC lhs W) (anyTuple c lhs W) := by
  induction W with
  | nil => exact fun ccC stC cc st h => retRelG_some h
  | cons w W ih =>
    intro ccC stC cc st h
    rcases (allPosG_rel hc lhs w ccC stC cc st h).inv with ⟨e1, e2⟩ | ⟨⟨v, ccC', stC'⟩, ⟨_, cc', st'⟩, e1, e2, rfl, hr⟩
    · simp only [anyTupleG, anyTuple, e1, e2]; exact .none
    · cases v with
      | holds => simp only [anyTupleG, anyTuple, e1, e2]; exact retRelG_some hr
      | fails t => simp only [anyTupleG, anyTuple, e1, e2]; exact ih _ _ _ _ hr

theorem consTG_rel (t : Tree) {rc : Option (Option (List Tree) × φ × σ)}
    {r : Option (Option (List Tree) × List Pair × St)} (h : RetRelG R rc r) : RetRelG R (consTG t rc) (consT t r) := by
  rcases h.inv with ⟨rfl, rfl⟩ | ⟨⟨v, ccC', stC'⟩, ⟨_, cc', st'⟩, rfl, rfl, rfl, hr⟩
  · exact .none
  · cases v <;> exact retRelG_some hr

theorem tryPosG_rel (hc : CallRelG R cC c) (wit : Wit) (post : List Nat → List Nat) (W : List (List Nat)) (cs : List Nat)
    (ls : List Nat) : ∀ i, StepRelG R (tryPosG cC wit post W cs i ls) (tryPos c wit post W cs i ls) := by
  induction ls with
  | nil => exact fun i ccC stC cc st h => retRelG_some h
  | cons l ls ih =>
    intro i ccC stC cc st h
    simp only [tryPosG, tryPos]
    by_cases he : (posSet post W cs i).isEmpty = true
    · rw [if_pos he, if_pos he]; exact consTG_rel _ (ih (i+1) _ _ _ _ h)
    · rw [if_neg he, if_neg he]
      rcases (hc l (posSet post W cs i) ccC stC cc st h).inv with ⟨e1, e2⟩ | ⟨⟨v, ccC', stC'⟩, ⟨_, cc', st'⟩, e1, e2, rfl, hr⟩
      · simp only at e1 e2; simp only [e1, e2]; exact .none
      · simp only at e1 e2
        cases v with
        | holds => simp only [e1, e2]; exact retRelG_some hr
        | fails t => simp only [e1, e2]; exact consTG_rel _ (ih (i+1) _ _ _ _ hr)

theorem oneCfG_rel (hc : CallRelG R cC c) (wit : Wit) (post : List Nat → List Nat) (f : Nat) (lhs : List Nat)
    (W : List (List Nat)) (cs : List Nat) :
    StepRelG R (oneCfG cC wit post f lhs W cs) (oneCf c wit post f lhs W cs) := fun ccC stC cc st h => by
  rcases (tryPosG_rel hc wit post W cs lhs 0 ccC stC cc st h).inv with ⟨e1, e2⟩ | ⟨⟨v, ccC', stC'⟩, ⟨_, cc', st'⟩, e1, e2, rfl, hr⟩
  · simp only [oneCfG, oneCf, e1, e2]; exact .none
  · cases v <;> (simp only [oneCfG, oneCf, e1, e2]; exact retRelG_some hr)

theorem cfAllG_rel {oneC : List Nat → φ → σ → RetG φ σ} {one : List Nat → List Pair → St → Ret}
    (h1 : ∀ cs, StepRelG R (oneC cs) (one cs)) (n : Nat) (m : Nat) :
    ∀ cs, StepRelG R (cfAllG oneC n m cs) (cfAll one n m cs) := by
  induction m with
  | zero => exact h1
  | succ m ih => exact fun cs => forAllLG_rel (fun i => ih (i :: cs)) _

theorem procTupleG_rel (hc1 : CallRelG R c1C c1) (hc2 : CallRelG R c2C c2) (wit : Wit) (post : List Nat → List Nat) (f : Nat)
    (W : List (List Nat)) (lhs : List Nat) :
    StepRelG R (procTupleG c1C c2C wit post f W lhs) (procTuple c1 c2 wit post f W lhs) := fun ccC stC cc st h => by
  rcases (anyTupleG_rel hc1 lhs W ccC stC cc st h).inv with ⟨e1, e2⟩ | ⟨⟨v, ccC', stC'⟩, ⟨_, cc', st'⟩, e1, e2, rfl, hr⟩
  · simp only [procTupleG, procTuple, e1, e2]; exact .none
  · cases v with
    | true => simp only [procTupleG, procTuple, e1, e2]; exact retRelG_some hr
    | false =>
      simp only [procTupleG, procTuple, e1, e2]
      exact cfAllG_rel (fun cs => oneCfG_rel hc2 wit post f lhs W cs) _ _ _ _ _ _ _ hr

theorem procGroupG_rel (hc1 : CallRelG R c1C c1) (hc2 : CallRelG R c2C c2) (A B : TA) (wit : Wit) (post : List Nat → List Nat)
    (p : Nat) (P : List Nat) (f n : Nat) :
    StepRelG R (procGroupG c1C c2C A B wit post p P f n) (procGroup c1 c2 A B wit post p P f n) :=
  fun ccC stC cc st h => by
  simp only [procGroupG, procGroup]
  by_cases hn : n = 0
  · rw [if_pos hn, if_pos hn]
    by_cases hW : (rhsTuples B P f n).isEmpty = true
    · rw [if_pos hW, if_pos hW]; exact retRelG_some h
    · rw [if_neg hW, if_neg hW]; exact retRelG_some h
  · rw [if_neg hn, if_neg hn]
    by_cases hW : (rhsTuples B P f n).isEmpty = true
    · rw [if_pos hW, if_pos hW]; exact retRelG_some h
    · rw [if_neg hW, if_neg hW]
      exact forAllLG_rel (fun lhs => procTupleG_rel hc1 hc2 wit post f _ lhs) _ _ _ _ _ h

theorem bodyG_rel (hc1 : CallRelG R c1C c1) (hc2 : CallRelG R c2C c2) (A B : TA) (wit : Wit) (post : List Nat → List Nat)
    (p : Nat) (P : List Nat) :
    StepRelG R (bodyG c1C c2C A B wit post p P) (body c1 c2 A B wit post p P) :=
  forAllLG_rel (α := Nat × Nat) (fC := fun g => procGroupG c1C c2C A B wit post p P g.1 g.2)
    (f := fun g => procGroup c1 c2 A B wit post p P g.1 g.2)
    (fun g => procGroupG_rel hc1 hc2 A B wit post p P g.1 g.2) (lhsGroups A p)

end

theorem forAllLC_eq {α : Type} (f : α → List CP → StC → RetC) : forAllLC f = forAllLG f := by
  funext l
  induction l with
  | nil => rfl
  | cons a l ih => funext cc st; rw [forAllLC, forAllLG, ih]; rcases f a cc st with _ | ⟨_ | _, _, _⟩ <;> rfl

theorem allPosC_eq (call : CallC) : allPosC call = allPosG call := by
  funext lhs rhs; rw [allPosC, allPosG, forAllLC_eq]

theorem anyTupleC_eq (call : CallC) (lhs : List Nat) : anyTupleC call lhs = anyTupleG call lhs := by
  funext W
  induction W with
  | nil => rfl
  | cons w W ih => funext cc st; rw [anyTupleC, anyTupleG, allPosC_eq, ih]; rcases allPosG call lhs w cc st with _ | ⟨_ | _, _, _⟩ <;> rfl

theorem consTC_eq (t : Tree) : consTC t = consTG t := by
  funext r
  match r with
  | none => rfl
  | some (none, _, _) => rfl
  | some (some _, _, _) => rfl

theorem tryPosC_eq (call : CallC) (wit : Wit) (post : List Nat → List Nat) (W : List (List Nat)) (cs : List Nat)
    (ls : List Nat) : ∀ i, tryPosC call wit post W cs i ls = tryPosG call wit post W cs i ls := by
  induction ls with
  | nil => exact fun _ => rfl
  | cons l ls ih =>
    intro i
    funext cc st
    simp only [tryPosC, tryPosG, consTC_eq, ih]
    by_cases he : (posSet post W cs i).isEmpty = true
    · rw [if_pos he, if_pos he]
    · rw [if_neg he, if_neg he]
      rcases call cc st l (posSet post W cs i) with _ | ⟨_ | _, _, _⟩ <;> rfl

theorem oneCfC_eq (call : CallC) (wit : Wit) (post : List Nat → List Nat) (f : Nat) (lhs : List Nat) (W : List (List Nat)) :
    oneCfC call wit post f lhs W = oneCfG call wit post f lhs W := by
  funext cs cc st; rw [oneCfC, oneCfG, tryPosC_eq]; rcases tryPosG call wit post W cs 0 lhs cc st with _ | ⟨_ | _, _, _⟩ <;> rfl

theorem cfAllC_eq (one : List Nat → List CP → StC → RetC) (n : Nat) : ∀ m, cfAllC one n m = cfAllG one n m
  | 0 => rfl
  | m+1 => by funext cs cc st; rw [cfAllC, cfAllG, forAllLC_eq]; simp only [cfAllC_eq one n m]

theorem procTupleC_eq (c1 c2 : CallC) (wit : Wit) (post : List Nat → List Nat) (f : Nat) (W : List (List Nat)) :
    procTupleC c1 c2 wit post f W = procTupleG c1 c2 wit post f W := by
  funext lhs cc st; rw [procTupleC, procTupleG, anyTupleC_eq, oneCfC_eq, cfAllC_eq]; rcases anyTupleG c1 lhs W cc st with _ | ⟨_ | _, _, _⟩ <;> rfl

theorem bodyC_eq (c1 c2 : CallC) (A B : TA) (wit : Wit) (post : List Nat → List Nat) (p : Nat) (P : List Nat) :
    bodyC c1 c2 A B wit post p P = bodyG c1 c2 A B wit post p P := by
  funext cc st
  rw [bodyC, bodyG, forAllLC_eq]
  congr 1
  funext g cc st
  rw [procGroupC, procGroupG, procTupleC_eq, forAllLC_eq]

end FCD
end Vata
