import Vata.Proofs.LtsEngineCalls
import Vata.Proofs.LtsUtilSRHist
import Vata.Proofs.LtsContainer
/-!
# The instrumented LTS engine: the `SplittingRelation` calls are inside the discipline `SR.ok` along the whole run

`GoodR L e t`: the `SplittingRelation` history `t.sr` emitted so far is inside `SR.ok` from the object as constructed
(`SplittingRelation relation_(lts.states())`: capacity `L.n`, not initialised) and leads to the value `e.rel` – the rows of the
engine model.  What each phase owes (`Instr.always`, `Vata/Proofs/LtsEngineInstr.lean`):

* `init_okR`: the rows of a well-formed state are an admissible argument of `relation_.init(index)`.
* `split_okR`: `relation_.split(block->index_)` is inside the discipline – the index is a block, the block is in its own row
  (`WF.hrefl`; `split` keeps the diagonal and the pruning loops never erase it), and there is room for one more block
  (blocks are non-empty and disjoint: at most `L.n` of them AFTER the split).
* `initPrune_goodR`: the erase loops of "prune relation" (`erases_outer`).
* `pruneRow_rel`: one erase loop over row `b1` with a mask has the effect of `SR.Op.eraseRow b1 mask` on the value.
-/
namespace Vata.LEC
open Vata.L Vata.LE Vata.LU


theorem srOkAll_append : ∀ (t u : List SR.Op) (a : SR.A),
    SR.okAll a (t ++ u) = (SR.okAll a t && SR.okAll (SR.aRun a t).1 u)
  | [], _, _ => by simp [SR.okAll, SR.aRun]
  | op :: t, u, a => by simp only [List.cons_append, SR.okAll, SR.aRun, srOkAll_append t u, Bool.and_assoc]

theorem srARun_append : ∀ (t u : List SR.Op) (a : SR.A), (SR.aRun a (t ++ u)).1 = (SR.aRun (SR.aRun a t).1 u).1
  | [], _, _ => rfl
  | op :: t, u, a => by simp only [List.cons_append, SR.aRun, srARun_append t u]

def GoodR (L : LTS) (e : Eng) (t : Tr) : Prop :=
  SR.okAll ⟨[], L.n, false⟩ t.sr = true ∧ (SR.aRun ⟨[], L.n, false⟩ t.sr).1 = ⟨e.rel, L.n, true⟩

theorem GoodR.add {L : LTS} {e e' : Eng} {t : Tr} {ops : List SR.Op} (g : GoodR L e t)
    (h1 : SR.okAll ⟨e.rel, L.n, true⟩ ops = true) (h2 : (SR.aRun ⟨e.rel, L.n, true⟩ ops).1 = ⟨e'.rel, L.n, true⟩) :
    GoodR L e' (t.addSR ops) := by
  refine ⟨?_, ?_⟩
  · show SR.okAll _ (t.sr ++ ops) = true
    rw [srOkAll_append, g.1, g.2, h1]; rfl
  · show (SR.aRun _ (t.sr ++ ops)).1 = _
    rw [srARun_append, g.2, h2]

theorem GoodR.congr {L : LTS} {e e' : Eng} {t t' : Tr} (g : GoodR L e t) (h1 : e'.rel = e.rel) (h2 : t'.sr = t.sr) :
    GoodR L e' t' := by
  unfold GoodR; rw [h1, h2]; exact g


theorem split_okR {L : LTS} {e : Eng} {t : Tr} {b : Nat} {rest new : List Nat} (w : WF L e) (s : SplitOK e b rest new)
    (e' : Eng) (hrel : e'.rel = (splitBlockCore L e b rest new).rel) (g : GoodR L e t) :
    GoodR L e' (t.addSR [SR.Op.split b]) := by
  have hlen := (core_wf w s).len_le
  rw [core_length] at hlen
  have hrefl : (e.rel.getD b []).contains b = true := by
    have := w.hrefl b s.hb
    simpa [Eng.row] using this
  refine g.add ?_ ?_
  · simp only [SR.okAll, SR.ok, Bool.and_true, Bool.true_and, Bool.and_eq_true, decide_eq_true_eq, hrefl, w.hrel]
    exact ⟨s.hb, by omega⟩
  · rw [hrel]; rfl


/-- `for (col = row.begin(); col != row.end(); ++col) if (mask[*col]) relation_.erase(col)` on the rows of the engine model
is `SR.Op.eraseRow b1 mask` on the value of `Vata/LtsUtil.lean` -/
theorem pruneRow_rel (L : LTS) (mask : List Nat) (e : Eng) (b1 : Nat) (hb : b1 < e.rel.length) :
    (pruneRow L mask e b1).rel = e.rel.set b1 ((e.rel.getD b1 []).filter (fun c => !mask.contains c)) := by
  rw [← pruneRowT_fst (fun _ _ _ _ (t : Unit) => t) L mask (e, ())]
  exact pruneRowT_rel _ L mask (e, ()) b1 hb

theorem eraseRow_goodR {L : LTS} {e : Eng} {t : Tr} (mask : List Nat) {b1 : Nat} (hb : b1 < e.rel.length)
    (g : GoodR L e t) : GoodR L (pruneRow L mask e b1) (t.addSR [SR.Op.eraseRow b1 mask]) := by
  refine g.add ?_ ?_
  · simp [SR.okAll, SR.ok, hb]
  · rw [pruneRow_rel L mask e b1 hb]; rfl

/-- the loop over `preList` of `processRemove` -/
theorem pruneI_goodR {L : LTS} (mask : List Nat) : ∀ (pl : List Nat) (et : IE), (∀ b, b ∈ pl → b < et.1.rel.length) →
    GoodR L et.1 et.2 →
    GoodR L (pl.foldl (fun (et : IE) b1 => (pruneRow L mask et.1 b1, et.2.addSR [SR.Op.eraseRow b1 mask])) et).1
      (pl.foldl (fun (et : IE) b1 => (pruneRow L mask et.1 b1, et.2.addSR [SR.Op.eraseRow b1 mask])) et).2 := by
  intro pl
  induction pl with
  | nil =>
    intro _ _ g
    exact g
  | cons b pl ih =>
    intro et hpl g
    simp only [List.foldl_cons]
    have hb := hpl b List.mem_cons_self
    refine ih _ ?_ (eraseRow_goodR mask hb g)
    intro c hc
    show c < (pruneRow L mask et.1 b).rel.length
    rw [pruneRow_rel L mask et.1 b hb, List.length_set]
    exact hpl c (List.mem_cons_of_mem _ hc)


/-- the rows of a well-formed engine state are an admissible argument of `init`: at most `L.n` rows, entries in range, no
duplicates -/
theorem init_okR {L : LTS} {e : Eng} (w : WF L e) : SR.ok ⟨[], L.n, false⟩ (SR.Op.init e.rel) = true := by
  have hlen := w.len_le
  simp only [SR.ok, Bool.not_false, Bool.true_and, Bool.and_eq_true, decide_eq_true_eq, List.all_eq_true,
    Bool.not_eq_true']
  refine ⟨by rw [w.hrel]; exact hlen, ?_⟩
  intro r hr
  obtain ⟨i, hi, rfl⟩ := List.getElem_of_mem hr
  have hrow : e.rel[i] = e.row i := by
    simp [Eng.row, List.getD_eq_getElem?_getD, List.getElem?_eq_getElem hi]
  rw [hrow]
  refine ⟨fun j hj => ?_, SR.P.hasDup_eq_false_iff.mpr (w.hrownd i)⟩
  rw [w.hrel]
  exact w.hrow i j hj

theorem initBlocks_goodR {L : LTS} {obj : Nat → Nat} {part : List (List Nat)} {rel : Rel} (ss : List SS.Op)
    (hp : isPartition part L.n = true) (hc : isConsistent part rel = true) :
    GoodR L (initBlocksI L obj part rel ⟨ss, []⟩).1 (initBlocksI L obj part rel ⟨ss, []⟩).2 := by
  have w := initBlocks_wf (L := L) hp hc
  have hsr : (initBlocksI L obj part rel ⟨ss, []⟩).2.sr = [SR.Op.init (initBlocks L part rel).rel] := rfl
  refine ⟨?_, ?_⟩
  · rw [hsr]
    simp only [SR.okAll, init_okR w, Bool.and_self]
  · rw [hsr]; rfl


theorem erases_inner (N b1 : Nat) (m : Nat → List Nat) : ∀ (as : List Nat) (rel : List (List Nat)), b1 < rel.length →
    SR.okAll ⟨rel, N, true⟩ (as.map (fun a => SR.Op.eraseRow b1 (m a))) = true ∧
    (SR.aRun ⟨rel, N, true⟩ (as.map (fun a => SR.Op.eraseRow b1 (m a)))).1 =
      ⟨rel.set b1 (as.foldl (fun row a => row.filter (fun c => !(m a).contains c)) (rel.getD b1 [])), N, true⟩ := by
  intro as
  induction as with
  | nil =>
    intro rel hb
    refine ⟨rfl, ?_⟩
    simp only [List.map_nil, SR.aRun, List.foldl_nil]
    congr 1
    symm
    apply set_of_getElem?
    simp [List.getD_eq_getElem?_getD, List.getElem?_eq_getElem hb]
  | cons a as ih =>
    intro rel hb
    have hb' : b1 < (rel.set b1 ((rel.getD b1 []).filter (fun c => !(m a).contains c))).length := by
      rw [List.length_set]; exact hb
    obtain ⟨h1, h2⟩ := ih _ hb'
    have hget : (rel.set b1 ((rel.getD b1 []).filter (fun c => !(m a).contains c))).getD b1 [] =
        (rel.getD b1 []).filter (fun c => !(m a).contains c) := by
      simp [List.getD_eq_getElem?_getD, List.getElem?_set_self hb]
    rw [hget, List.set_set] at h2
    refine ⟨?_, ?_⟩
    · simp only [List.map_cons, SR.okAll, SR.ok, SR.aStep, Bool.true_and, Bool.and_eq_true, decide_eq_true_eq]
      exact ⟨hb, h1⟩
    · simp only [List.map_cons, SR.aRun, SR.aStep, List.foldl_cons]
      exact h2

/-- the rows while the pruning phase runs: the rows `< k` are done -/
def prunedTo (rel0 : List (List Nat)) (F : Nat → List Nat → List Nat) (k : Nat) : List (List Nat) :=
  (List.range rel0.length).map (fun i => if i < k then F i (rel0.getD i []) else rel0.getD i [])

theorem prunedTo_zero (rel0 : List (List Nat)) (F : Nat → List Nat → List Nat) : prunedTo rel0 F 0 = rel0 := by
  unfold prunedTo
  apply List.ext_getElem (by rw [List.length_map, List.length_range])
  intro i _ h2
  rw [List.getElem_map, List.getElem_range, if_neg (Nat.not_lt_zero _), List.getD_eq_getElem?_getD,
    List.getElem?_eq_getElem h2]
  rfl

theorem prunedTo_getD (rel0 : List (List Nat)) (F : Nat → List Nat → List Nat) (k : Nat) {i : Nat} (hi : i < rel0.length) :
    (prunedTo rel0 F k).getD i [] = if i < k then F i (rel0.getD i []) else rel0.getD i [] := by
  rw [prunedTo, List.getD_eq_getElem?_getD, List.getElem?_map, List.getElem?_range hi]
  rfl

theorem prunedTo_succ (rel0 : List (List Nat)) (F : Nat → List Nat → List Nat) (k : Nat) :
    (prunedTo rel0 F k).set k (F k (rel0.getD k [])) = prunedTo rel0 F (k + 1) :=
  LC.map_range_set rel0.length k (fun i => F i (rel0.getD i [])) (fun i => rel0.getD i [])

theorem erases_outer (N : Nat) (as : Nat → List Nat) (m : Nat → List Nat) (rel0 : List (List Nat)) : ∀ k, k ≤ rel0.length →
    SR.okAll ⟨rel0, N, true⟩ ((List.range k).flatMap (fun b1 => (as b1).map (fun a => SR.Op.eraseRow b1 (m a)))) = true ∧
    (SR.aRun ⟨rel0, N, true⟩ ((List.range k).flatMap (fun b1 => (as b1).map (fun a => SR.Op.eraseRow b1 (m a))))).1 =
      ⟨prunedTo rel0 (fun i row => (as i).foldl (fun row a => row.filter (fun c => !(m a).contains c)) row) k, N, true⟩ := by
  intro k
  induction k with
  | zero =>
    intro _
    exact ⟨rfl, by rw [prunedTo_zero]; rfl⟩
  | succ k ih =>
    intro hk
    obtain ⟨h1, h2⟩ := ih (by omega)
    have hlen : (prunedTo rel0 (fun i row => (as i).foldl (fun row a => row.filter (fun c => !(m a).contains c)) row) k).length =
        rel0.length := by simp [prunedTo]
    obtain ⟨g1, g2⟩ := erases_inner N k m (as k) _ (by rw [hlen]; omega)
    rw [prunedTo_getD _ _ _ (by omega), if_neg (Nat.lt_irrefl k),
      prunedTo_succ rel0 (fun i row => (as i).foldl (fun row a => row.filter (fun c => !(m a).contains c)) row) k] at g2
    rw [List.range_succ, List.flatMap_append, srOkAll_append, srARun_append, h1, h2]
    simp only [List.flatMap_cons, List.flatMap_nil, List.append_nil, g1, g2, Bool.and_self, and_self]

theorem foldl_filter_mask (n : Nat) (p : Nat → Nat → Bool) : ∀ (as : List Nat) (row : List Nat), (∀ c, c ∈ row → c < n) →
    as.foldl (fun row a => row.filter (fun c => !((List.range n).filter (p a)).contains c)) row =
      as.foldl (fun row a => row.filter (fun c => !p a c)) row := by
  intro as
  induction as with
  | nil =>
    intro _ _
    exact rfl
  | cons a as ih =>
    intro row h
    simp only [List.foldl_cons]
    have : row.filter (fun c => !((List.range n).filter (p a)).contains c) = row.filter (fun c => !p a c) := by
      apply List.filter_congr
      intro c hc
      have hcn := h c hc
      cases hp : p a c <;> simp [hp, hcn]
    rw [this]
    exact ih _ (fun c hc => h c (List.mem_filter.1 hc).1)

theorem initPrune_goodR {L : LTS} {et : IE} (w : WF L et.1) (g : GoodR L et.1 et.2) :
    GoodR L (initPruneI L et).1 (initPruneI L et).2 := by
  obtain ⟨h1, h2⟩ := erases_outer L.n (fun b1 => outLabels L (et.1.block b1))
    (fun a => (List.range et.1.part.length).filter (fun col => noPre L et.1 a col)) et.1.rel et.1.rel.length (Nat.le_refl _)
  have hops : (initPruneI L et).2 = et.2.addSR ((List.range et.1.rel.length).flatMap (fun b1 =>
      (outLabels L (et.1.block b1)).map (fun a =>
        SR.Op.eraseRow b1 ((List.range et.1.part.length).filter (fun col => noPre L et.1 a col))))) := by
    rw [w.hrel]; rfl
  rw [hops]
  refine g.add h1 ?_
  rw [h2]
  congr 1
  show _ = (initPrune L et.1).rel
  unfold prunedTo initPrune
  rw [w.hrel]
  apply List.map_congr_left
  intro i hi
  rw [if_pos (List.mem_range.1 hi)]
  exact foldl_filter_mask et.1.part.length (noPre L et.1) _ _ (fun c hc => w.hrow i c hc)


theorem initCountersI_frameR (L : LTS) (so : Nat) (et : IE) :
    (initCountersI L so et).1.rel = et.1.rel ∧ (initCountersI L so et).2.sr = et.2.sr := by
  unfold initCountersI
  refine List.foldlRecOn _ _ (motive := fun (x : IE) => x.1.rel = et.1.rel ∧ x.2.sr = et.2.sr) ⟨rfl, rfl⟩ (fun x hx b1 _ => ?_)
  refine List.foldlRecOn _ _ (motive := fun (y : IE) => y.1.rel = et.1.rel ∧ y.2.sr = et.2.sr) hx (fun y hy a _ => ?_)
  exact ⟨(initSlot_frame L b1 y.1 a).2.1.trans hy.1, hy.2⟩

theorem stateAfter_goodR {L : LTS} (hL : LtsOK L) {part : List (List Nat)} {rel : Rel}
    (hp : isPartition part L.n = true) (hc : isConsistent part rel = true) (htr : RelTrans part rel) :
    ∀ k, GoodR L (stateAfterI L part rel k).1 (stateAfterI L part rel k).2 := by
  have h := (instrI L part rel).always hL hp hc htr (GoodR L) (GoodR L) (GoodR L) (GoodR L)
    (initBlocks_goodR (obj := objI L) (delta1T L) hp hc)
    (fun e t b rest new w sok g => split_okR w sok _ rfl (g.congr rfl rfl))
    (fun e t w g => initPrune_goodR (et := (e, t)) w g)
    (fun e t _ _ _ _ _ g => g.congr (initCountersI_frameR L _ (e, t)).1 (initCountersI_frameR L _ (e, t)).2)
    (fun _ _ _ g => g.congr rfl rfl)
    (fun e t b rest new w qk sok g => split_okR w sok _ (split_refine w qk sok).2.2.2.2.1 (g.congr rfl rfl))
    (fun j hpl g => pruneI_goodR _ _ _ (fun c hc => by rw [j.wf.hrel]; exact (hpl c hc).1) g)
  exact h

end Vata.LEC
