import Vata.Proofs.InclUpInv
import Vata.Proofs.TrimModel
/-!
# Completing the tree of a `return false` of the upward exploration to a counterexample

The upward code returns `false` at a pair `(q, t)` whose macro-state is empty although `q` need not be final.  The model
(`InclUp.complete`) completes `t` by an upward search to a tree accepted by `A` and not by `B`: witness trees of the
productive states (`prodWit`), then from `(q, t)` up to a final state (the table that `complete` builds inline; it is named
`searchTable` here).  Both are rounds until nothing is added (`growIter`).  The search finds a final state when the children
of all rules of `A` are productive and the state is reachable top-down from a final state; hence on a trimmed `A`
(`Trimmed A`, e.g. `removeUseless A'` or `allUsefulB A = true`) the final check of the certifying models never loses a
`false` (`complete_check`).
-/
namespace Vata
namespace InclUp

def states (L : Wit) : List Nat := L.map (·.1)

theorem lookupT_eq (L : Wit) (q : Nat) : lookupT L q = (L.find? (fun p => p.1 == q)).map (·.2) := by
  unfold lookupT
  cases L.find? (fun p => p.1 == q) <;> rfl

theorem lookupT_some {L : Wit} {q : Nat} {t : Tree} (h : lookupT L q = some t) : (q, t) ∈ L := by
  rw [lookupT_eq] at h
  obtain ⟨p, hp, rfl⟩ := Option.map_eq_some_iff.mp h
  have hq : (p.1 == q) = true := List.find?_some (p := fun p : Nat × Tree => p.1 == q) hp
  exact beq_iff_eq.mp hq ▸ List.mem_of_find?_eq_some hp

theorem lookupT_isSome {L : Wit} {q : Nat} : (lookupT L q).isSome = true ↔ q ∈ states L := by
  rw [lookupT_eq, Option.isSome_map, List.find?_isSome, states, List.mem_map]
  exact exists_congr fun _ => and_congr_right fun _ => beq_iff_eq

theorem lookupT_of_mem {L : Wit} {q : Nat} (h : q ∈ states L) : ∃ t, lookupT L q = some t :=
  Option.isSome_iff_exists.mp (lookupT_isSome.mpr h)

theorem lookupT_cons_self (q : Nat) (t : Tree) (W : Wit) : lookupT ((q, t) :: W) q = some t := by
  simp [lookupT]

theorem kidsWit_iff {W : Wit} {ks : List Nat} : ∀ {ts : List Tree},
    kidsWit W ks = some ts ↔ All2 (fun k t => lookupT W k = some t) ks ts := by
  induction ks with
  | nil => exact ⟨fun h => Option.some.inj h ▸ .nil, fun h => by cases h; rfl⟩
  | cons k ks ih =>
    intro ts'
    constructor
    · intro h
      unfold kidsWit at h
      split at h
      · next t ts h1 h2 => exact Option.some.inj h ▸ .cons h1 (ih.mp h2)
      · cases h
    · rintro (_ | ⟨hd, tl⟩)
      rw [kidsWit, hd, ih.mpr tl]

theorem kidsWit_some_of_states {W : Wit} {ks : List Nat} (h : ∀ k, k ∈ ks → k ∈ states W) :
    ∃ ts, kidsWit W ks = some ts :=
  (Prof.chooseR ks fun k hk => lookupT_of_mem (h k hk)).imp fun _ => kidsWit_iff.mpr

theorem states_of_kidsWit {W : Wit} : ∀ {ks : List Nat} {ts : List Tree}, kidsWit W ks = some ts →
    ∀ k, k ∈ ks → k ∈ states W := fun h k hk =>
  ((kidsWit_iff.mp h).exists_right k hk).elim fun _ ht => lookupT_isSome.mp (ht.2 ▸ rfl)

theorem kidsWit_match {A : TA} {W : Wit} (hW : ∀ e, e ∈ W → e.1 ∈ reach A e.2) {ks : List Nat} {ts : List Tree}
    (h : kidsWit W ks = some ts) : matchKids ks (reachL A ts) = true :=
  matchKids_iff.mpr (All2.reachL ((kidsWit_iff.mp h).mono fun _ _ _ _ ht => hW _ (lookupT_some ht)))

theorem kidsWit_mem {W : Wit} {ks : List Nat} {ts : List Tree} (h : kidsWit W ks = some ts) (k : Nat) (t : Tree)
    (hk : k ∈ ks) (ht : lookupT W k = some t) : t ∈ ts :=
  ((kidsWit_iff.mp h).exists_right k hk).elim fun _ ht' => Option.some.inj (ht'.2.symm.trans ht) ▸ ht'.1

def growOne (build : Wit → Rule → Option Tree) (L : Wit) (ρ : Rule) : Wit :=
  if (lookupT L ρ.parent).isSome then L else
    match build L ρ with
    | some t => L ++ [(ρ.parent, t)]
    | none => L

theorem growStep_eq (A : TA) (build : Wit → Rule → Option Tree) (L : Wit) :
    growStep A build L = A.rules.foldl (growOne build) L := rfl

theorem growOne_cases (build : Wit → Rule → Option Tree) (L : Wit) (ρ : Rule) :
    (growOne build L ρ = L ∧ (ρ.parent ∈ states L ∨ build L ρ = none)) ∨
    ∃ t, ρ.parent ∉ states L ∧ build L ρ = some t ∧ growOne build L ρ = L ++ [(ρ.parent, t)] := by
  unfold growOne
  by_cases h : (lookupT L ρ.parent).isSome = true
  · exact Or.inl ⟨if_pos h, Or.inl (lookupT_isSome.mp h)⟩
  · rw [if_neg h]
    cases ht : build L ρ with
    | some t => exact Or.inr ⟨t, fun hm => h (lookupT_isSome.mpr hm), rfl, rfl⟩
    | none => exact Or.inl ⟨rfl, Or.inr rfl⟩

theorem growFold_sub (build : Wit → Rule → Option Tree) (Rs : List Rule) (L : Wit) :
    (∀ e, e ∈ L → e ∈ Rs.foldl (growOne build) L) ∧ L.length ≤ (Rs.foldl (growOne build) L).length := by
  refine List.foldlRecOn Rs (growOne build) (motive := fun L' => (∀ e, e ∈ L → e ∈ L') ∧ L.length ≤ L'.length)
    ⟨fun _ h => h, Nat.le_refl _⟩ fun L' h ρ _ => ?_
  rcases growOne_cases build L' ρ with ⟨he, _⟩ | ⟨t, _, _, he⟩
  · rw [he]; exact h
  · rw [he, List.length_append]
    exact ⟨fun e he => List.mem_append_left _ (h.1 e he), Nat.le_trans h.2 (Nat.le_add_right _ _)⟩

theorem growFold_inv (build : Wit → Rule → Option Tree) (Q : Nat × Tree → Prop) (Rs : List Rule) (L : Wit)
    (hb : ∀ L ρ t, ρ ∈ Rs → (∀ e, e ∈ L → Q e) → build L ρ = some t → Q (ρ.parent, t)) (hL : ∀ e, e ∈ L → Q e) :
    ∀ e, e ∈ Rs.foldl (growOne build) L → Q e := by
  refine List.foldlRecOn Rs (growOne build) (motive := fun L' => ∀ e, e ∈ L' → Q e) hL fun L' hL' ρ hρ => ?_
  rcases growOne_cases build L' ρ with ⟨he, _⟩ | ⟨t, _, ht, he⟩
  · rw [he]; exact hL'
  · rw [he]
    exact fun e h => (List.mem_append.mp h).elim (hL' e) fun h => List.mem_singleton.mp h ▸ hb L' ρ t hρ hL' ht

theorem growFold_fix (build : Wit → Rule → Option Tree) (Rs : List Rule) : ∀ L : Wit,
    (Rs.foldl (growOne build) L).length = L.length → ∀ ρ, ρ ∈ Rs → ρ.parent ∈ states L ∨ build L ρ = none := by
  induction Rs with
  | nil => exact fun _ _ _ h => nomatch h
  | cons ρ Rs ih =>
    intro L hlen ρ' hρ'
    rw [List.foldl_cons] at hlen
    have h2 := (growFold_sub build Rs (growOne build L ρ)).2
    rcases growOne_cases build L ρ with ⟨he, hc⟩ | ⟨t, _, _, he⟩
    · rw [he] at hlen
      exact (List.mem_cons.mp hρ').elim (· ▸ hc) (ih L hlen ρ')
    · rw [he, List.length_append] at h2
      rw [he] at hlen
      exact absurd (hlen ▸ h2) (Nat.not_succ_le_self _)

theorem growFold_new (build : Wit → Rule → Option Tree) (Rs : List Rule) : ∀ L : Wit,
    (Rs.foldl (growOne build) L).length ≠ L.length →
      ∃ ρ, ρ ∈ Rs ∧ ρ.parent ∉ states L ∧ ρ.parent ∈ states (Rs.foldl (growOne build) L) := by
  induction Rs with
  | nil => exact fun _ h => absurd rfl h
  | cons ρ Rs ih =>
    intro L hlen
    rw [List.foldl_cons] at hlen ⊢
    rcases growOne_cases build L ρ with ⟨he, _⟩ | ⟨t, hn, _, he⟩
    · rw [he] at hlen ⊢
      exact (ih L hlen).imp fun ρ' h => ⟨List.mem_cons_of_mem _ h.1, h.2⟩
    · refine ⟨ρ, List.mem_cons_self, hn, List.mem_map.mpr ⟨(ρ.parent, t), ?_, rfl⟩⟩
      exact (growFold_sub build Rs (growOne build L ρ)).1 (ρ.parent, t)
        (he ▸ List.mem_append_right _ (List.mem_singleton.mpr rfl))

/-- the rules whose parent is in the table; a round that adds an entry raises it, so `|Δ| + 1` rounds reach the fixpoint -/
def pCount (Rs : List Rule) (S : List Nat) : Nat := Rs.countP (fun r => S.contains r.parent)

/-! `growIter step` is a round loop (`Vata/Proofs/Rounds.lean`) -/

theorem growIter_inv (step : Wit → Wit) (I : Wit → Prop) (hI : ∀ L, I L → I (step L)) (n : Nat) (L : Wit) (h : I L) :
    I (growIter step n L) :=
  Rounds.inv (iter := growIter step) (stop := fun W => (step W).length == W.length) I hI n L h

theorem growIter_fix (A : TA) (build : Wit → Rule → Option Tree) (n : Nat) (L : Wit)
    (h : A.rules.length < n + pCount A.rules (states L)) :
    (growStep A build (growIter (growStep A build) n L)).length = (growIter (growStep A build) n L).length := by
  refine Rounds.fixes (iter := growIter (growStep A build)) (fun L => pCount A.rules (states L)) A.rules.length
    (fun _ => List.countP_le_length) (fun L hne => ?_) n L h
  -- a round that changes the length gives a tree to the parent of a rule that had none
  obtain ⟨ρ, h1, h2, h3⟩ := growFold_new build A.rules L hne
  refine countP_lt_of_new (fun r _ hr => ?_)
    ⟨ρ, h1, List.contains_iff_mem.mpr h3, fun hc => h2 (List.contains_iff_mem.mp hc)⟩
  obtain ⟨e, he, hq⟩ := List.mem_map.mp (List.contains_iff_mem.mp hr)
  exact List.contains_iff_mem.mpr (List.mem_map.mpr ⟨e, (growFold_sub build A.rules L).1 e he, hq⟩)

theorem growIter_closed (A : TA) (build : Wit → Rule → Option Tree) (L : Wit) :
    ∀ ρ, ρ ∈ A.rules → ρ.parent ∈ states (growIter (growStep A build) (A.rules.length + 1) L) ∨
      build (growIter (growStep A build) (A.rules.length + 1) L) ρ = none :=
  growFold_fix build A.rules _ (growIter_fix A build (A.rules.length + 1) L (by omega))

theorem buildWit_sound {A : TA} {W : Wit} {ρ : Rule} {t : Tree} (hρ : ρ ∈ A.rules)
    (hW : ∀ e, e ∈ W → e.1 ∈ reach A e.2) (h : buildWit W ρ = some t) : ρ.parent ∈ reach A t := by
  unfold buildWit at h
  obtain ⟨ts, hts, rfl⟩ := Option.map_eq_some_iff.mp h
  exact mem_reach_node.mpr ⟨ρ, hρ, rfl, kidsWit_match hW hts, rfl⟩

theorem prodWit_sound (A : TA) : ∀ e, e ∈ prodWit A → e.1 ∈ reach A e.2 := by
  apply growIter_inv _ (fun L => ∀ e, e ∈ L → e.1 ∈ reach A e.2)
  · intro L hL
    rw [growStep_eq]
    exact growFold_inv buildWit _ A.rules L (fun L ρ t hρ hL' ht => buildWit_sound hρ hL' ht) hL
  · intro e h; simp at h

theorem prodWit_complete {A : TA} {q : Nat} (h : Productive A q) : q ∈ states (prodWit A) := by
  obtain ⟨t, ht⟩ := h
  apply reach_sub_closed A (states (prodWit A)) _ t q ht
  intro r hr hk
  rcases growIter_closed A buildWit [] r hr with h | h
  · exact h
  · obtain ⟨ts, hts⟩ := kidsWit_some_of_states (W := prodWit A) hk
    have : buildWit (prodWit A) r = some (Tree.node r.sym ts) := by
      unfold buildWit; rw [hts]; rfl
    rw [show growIter (growStep A buildWit) (A.rules.length + 1) [] = prodWit A from rfl, this] at h
    cases h

def searchTable (A : TA) (q : Nat) (t : Tree) : Wit :=
  growIter (growStep A (buildCtx (prodWit A))) (A.rules.length + 1) [(q, t)]

theorem not_reach_of_kid {B : TA} {f : Nat} {ts : List Tree} {t : Tree} (ht : t ∈ ts)
    (he : ∀ x, x ∉ reach B t) : ∀ x, x ∉ reach B (.node f ts) := by
  intro x hx
  obtain ⟨r, _, _, hm, _⟩ := Vata.mem_reach_node.mp hx
  obtain ⟨k, _, hk⟩ := hm.exists_left t ht
  exact he k hk

def CtxOK (A B : TA) (e : Nat × Tree) : Prop := e.1 ∈ reach A e.2 ∧ ∀ x, x ∉ reach B e.2

theorem buildCtx_some {W L : Wit} {ρ : Rule} {t : Tree} (h : buildCtx W L ρ = some t) :
    ∃ pt ts, pt ∈ L ∧ pt.1 ∈ ρ.kids ∧ kidsWit (pt :: W) ρ.kids = some ts ∧ t = .node ρ.sym ts := by
  unfold buildCtx at h
  obtain ⟨ts, hts, rfl⟩ := Option.map_eq_some_iff.mp h
  obtain ⟨pt, hpt, hf⟩ := List.exists_of_findSome?_eq_some hts
  split at hf
  · next hc => exact ⟨pt, ts, hpt, List.contains_iff_mem.mp hc, hf, rfl⟩
  · cases hf

theorem buildCtx_sound {A B : TA} {W L : Wit} {ρ : Rule} {t : Tree} (hρ : ρ ∈ A.rules)
    (hW : ∀ e, e ∈ W → e.1 ∈ reach A e.2) (hL : ∀ e, e ∈ L → CtxOK A B e) (h : buildCtx W L ρ = some t) :
    CtxOK A B (ρ.parent, t) := by
  obtain ⟨pt, ts, hpt, hk, hts, rfl⟩ := buildCtx_some h
  have hW' : ∀ e, e ∈ pt :: W → e.1 ∈ reach A e.2 := by
    intro e he
    rcases List.mem_cons.mp he with rfl | he
    · exact (hL _ hpt).1
    · exact hW e he
  exact ⟨mem_reach_node.mpr ⟨ρ, hρ, rfl, kidsWit_match hW' hts, rfl⟩,
    not_reach_of_kid (kidsWit_mem hts pt.1 pt.2 hk (lookupT_cons_self pt.1 pt.2 W)) (hL _ hpt).2⟩

theorem searchTable_ok {A B : TA} {q : Nat} {t : Tree} (h : CtxOK A B (q, t)) :
    ∀ e, e ∈ searchTable A q t → CtxOK A B e := by
  apply growIter_inv _ (fun L => ∀ e, e ∈ L → CtxOK A B e)
  · intro L hL
    rw [growStep_eq]
    exact growFold_inv _ _ A.rules L
      (fun L ρ t hρ hL' ht => buildCtx_sound hρ (prodWit_sound A) hL' ht) hL
  · intro e he
    rw [List.mem_singleton.mp he]; exact h

theorem searchTable_start (A : TA) (q : Nat) (t : Tree) : q ∈ states (searchTable A q t) := by
  have : (q, t) ∈ searchTable A q t := by
    apply growIter_inv _ (fun L => (q, t) ∈ L)
    · intro L he
      rw [growStep_eq]; exact (growFold_sub _ A.rules L).1 _ he
    · simp
  exact List.mem_map.mpr ⟨_, this, rfl⟩

theorem searchTable_closed {A : TA} {q : Nat} {t : Tree} {ρ : Rule} (hρ : ρ ∈ A.rules) {k : Nat} (hk : k ∈ ρ.kids)
    (hkL : k ∈ states (searchTable A q t)) (hprod : ∀ k', k' ∈ ρ.kids → Productive A k') :
    ρ.parent ∈ states (searchTable A q t) := by
  rcases growIter_closed A (buildCtx (prodWit A)) [(q, t)] ρ hρ with h | h
  · exact h
  · exfalso
    change buildCtx (prodWit A) (searchTable A q t) ρ = none at h
    unfold buildCtx at h
    have h' := Option.map_eq_none_iff.mp h
    obtain ⟨pt, hpt, hq⟩ := List.mem_map.mp hkL
    have := List.findSome?_eq_none_iff.mp h' pt hpt
    rw [if_pos (by rw [hq]; exact List.contains_iff_mem.mpr hk)] at this
    obtain ⟨ts, hts⟩ := kidsWit_some_of_states (W := pt :: prodWit A) (ks := ρ.kids) (fun k' hk' => by
      have := prodWit_complete (hprod k' hk')
      exact List.mem_map.mpr (by
        obtain ⟨e, he, hq'⟩ := List.mem_map.mp this
        exact ⟨e, List.mem_cons_of_mem _ he, hq'⟩))
    rw [hts] at this; cases this

theorem search_complete {A : TA} (hprod : ∀ r, r ∈ A.rules → ∀ k, k ∈ r.kids → Productive A k) {q : Nat}
    (t : Tree) (hq : TdReachable A q) : ∃ p, p ∈ states (searchTable A q t) ∧ p ∈ A.final := by
  have : ∀ p, TdReachable A p → p ∈ states (searchTable A q t) →
      ∃ p', p' ∈ states (searchTable A q t) ∧ p' ∈ A.final := by
    intro p hp
    induction hp with
    | final hf => exact fun h => ⟨_, h, hf⟩
    | @step r k hr _ hk ih => exact fun h => ih (searchTable_closed hr hk h (hprod r hr))
  exact this q hq (searchTable_start A q t)

theorem complete_ok {A B : TA} {q : Nat} {t : Tree} (h : ErrOK A B (q, t))
    (hf : q ∈ A.final ∨ ∃ p, p ∈ states (searchTable A q t) ∧ p ∈ A.final) :
    accepts A (complete A q t) = true ∧ accepts B (complete A q t) = false := by
  unfold complete
  split
  · next hc => exact sep_of_final h (List.contains_iff_mem.mp hc)
  · next hc =>
    have hqf : q ∉ A.final := fun hm => hc (List.contains_iff_mem.mpr hm)
    have hctx : CtxOK A B (q, t) := by
      refine ⟨h.1, ?_⟩
      rcases h.2 with h2 | h2
      · exact absurd h2.1 hqf
      · exact h2
    have hall := searchTable_ok hctx
    rcases hf with hf | ⟨p, hp, hpf⟩
    · exact absurd hf hqf
    · simp only
      have hL : growIter (growStep A (buildCtx (prodWit A))) (A.rules.length + 1) [(q, t)] = searchTable A q t :=
        rfl
      rw [hL]
      split
      · next pt hpt =>
        have h1 := List.mem_of_find?_eq_some hpt
        have h2 := List.find?_some hpt
        exact ⟨accepts_of_reach (hall pt h1).1 (List.contains_iff_mem.mp h2),
          accepts_false_of_empty (hall pt h1).2⟩
      · next hn =>
        obtain ⟨e, he, hq⟩ := List.mem_map.mp hp
        have := List.find?_eq_none.mp hn e he
        rw [hq] at this
        exact absurd (List.contains_iff_mem.mpr hpf) this

def Trimmed (A : TA) : Prop :=
  (∀ r, r ∈ A.rules → ∀ k, k ∈ r.kids → Productive A k) ∧ (∀ r, r ∈ A.rules → TdReachable A r.parent)

theorem trimmed_of_allGood {A : TA} (h : AllGood A) : Trimmed A :=
  ⟨fun r hr k hk => (h k (Or.inr ⟨r, hr, Or.inr hk⟩)).1, fun r hr => (h _ (Or.inr ⟨r, hr, Or.inl rfl⟩)).2⟩

theorem trimmed_removeUseless (A : TA) : Trimmed (removeUseless A) := trimmed_of_allGood (allGood_removeUseless A)

theorem trimmed_of_allUsefulB {A : TA} (h : allUsefulB A = true) : Trimmed A := trimmed_of_allGood (allGood_of_allUsefulB h)

theorem complete_check {A B : TA} (hA : Trimmed A) {q : Nat} {t : Tree} (he : ErrOK A B (q, t)) :
    (accepts A (complete A q t) && !accepts B (complete A q t)) = true := by
  have hq : TdReachable A q := by
    cases t with
    | node f ts =>
      obtain ⟨r, hr, _, _, hp⟩ := mem_reach_node.mp he.1
      exact (show r.parent = q from hp) ▸ hA.2 r hr
  obtain ⟨h1, h2⟩ := complete_ok he (Or.inr (search_complete hA.1 t hq))
  rw [h1, h2]; rfl

end InclUp
end Vata
