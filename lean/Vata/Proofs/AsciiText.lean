/-!
# The characters of an ASCII string without UTF-8 decoding

`String.toList` decodes UTF-8, which the kernel evaluates slowly.  A string is its UTF-8 bytes, and a string literal reduces to the
encoding of its characters; where all bytes are below 128 (`isAscii`) the characters are the bytes (`asciiChars`).
`charsOf s` is `asciiChars s` for such a string and `s.toList` otherwise, so `toList_eq_charsOf` may be rewritten with in front
of any evaluation, whatever the string.
-/
namespace Vata

theorem utf8EncodeChar_ascii (c : Char) (h : (String.utf8EncodeChar c).all (· < 128) = true) :
    (String.utf8EncodeChar c).map (fun b => Char.ofNat b.toNat) = [c] := by
  have hv : c.val.toNat ≤ 0x7f := by
    -- the first byte of a longer encoding is at least `0xc0`
    apply Decidable.byContradiction
    intro hn
    unfold String.utf8EncodeChar at h
    simp only [if_neg hn] at h
    split at h
    · simp [UInt8.lt_iff_toNat_lt] at h; omega
    · split at h
      · simp [UInt8.lt_iff_toNat_lt] at h; omega
      · simp [UInt8.lt_iff_toNat_lt] at h; omega
  unfold String.utf8EncodeChar
  simp only [if_pos hv, List.map]
  rw [UInt8.toNat_ofNat', Nat.mod_eq_of_lt (by omega), ← Char.toNat, Char.ofNat_toNat]

theorem flatMap_utf8EncodeChar_ascii (l : List Char)
    (h : (l.flatMap String.utf8EncodeChar).all (· < 128) = true) :
    (l.flatMap String.utf8EncodeChar).map (fun b => Char.ofNat b.toNat) = l := by
  induction l with
  | nil => rfl
  | cons c l ih =>
    rw [List.flatMap_cons, List.all_append, Bool.and_eq_true] at h
    rw [List.flatMap_cons, List.map_append, utf8EncodeChar_ascii c h.1, ih h.2]
    rfl

def isAscii (s : String) : Bool := s.toByteArray.data.toList.all (· < 128)

def asciiChars (s : String) : List Char := s.toByteArray.data.toList.map (fun b => Char.ofNat b.toNat)

theorem toList_eq_asciiChars (s : String) (h : isAscii s = true) : s.toList = asciiChars s := by
  obtain ⟨l, rfl⟩ := s.exists_eq_ofList
  unfold isAscii at h
  rw [String.toByteArray_ofList, List.utf8Encode, List.data_toByteArray] at h
  rw [asciiChars, String.toByteArray_ofList, List.utf8Encode, List.data_toByteArray, String.toList_ofList,
    flatMap_utf8EncodeChar_ascii l h]

def charsOf (s : String) : List Char := if isAscii s then asciiChars s else s.toList

theorem toList_eq_charsOf : String.toList = charsOf := by
  funext s
  unfold charsOf
  split
  · exact toList_eq_asciiChars s ‹_›
  · rfl

end Vata
