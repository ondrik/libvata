import Vata.Proofs.LtsEngineSem
/-!
# The LTS simulation engine: the termination measure

`pot L e = |queue| + (n - #blocks)·(m + m·n) + #positive counters` (`m` labels, `n` states).  Creating a block costs at
most `m` queue entries and `m·n` positive counters; a counter that reaches zero pays for the queue entry it may create.
-/
namespace Vata.LE
open Vata.L

/-- all counter keys `(block, label, state)` of `len` blocks -/
def keysOf (L : LTS) (len : Nat) : List (Nat × Nat × Nat) :=
  (List.range len).flatMap (fun i => (List.range (labels L)).flatMap (fun a => (List.range L.n).map (fun q => (i, a, q))))

def posCnt (L : LTS) (e : Eng) : Nat :=
  (keysOf L e.part.length).countP (fun k => decide (0 < e.cntv k.1 k.2.1 k.2.2))

def pot (L : LTS) (e : Eng) : Nat :=
  e.queue.length + (L.n - e.part.length) * (labels L + labels L * L.n) + posCnt L e

theorem mem_keysOf (L : LTS) (len i a q : Nat) :
    (i, a, q) ∈ keysOf L len ↔ i < len ∧ a < labels L ∧ q < L.n := by
  simp only [keysOf, List.mem_flatMap, List.mem_map, List.mem_range, Prod.mk.injEq]
  constructor
  · rintro ⟨i', hi', a', ha', q', hq', h1, h2, h3⟩
    exact ⟨h1 ▸ hi', h2 ▸ ha', h3 ▸ hq'⟩
  · rintro ⟨h1, h2, h3⟩
    exact ⟨i, h1, a, h2, q, h3, rfl, rfl, rfl⟩

theorem length_blockKeys (m n i : Nat) :
    ((List.range m).flatMap (fun a => (List.range n).map (fun q => (i, a, q)))).length = m * n := by
  rw [length_flatMap_map (fun a q => (i, a, q)), List.length_range, List.length_range]

theorem keysOf_succ (L : LTS) (len : Nat) :
    keysOf L (len + 1) = keysOf L len ++
      (List.range (labels L)).flatMap (fun a => (List.range L.n).map (fun q => (len, a, q))) := by
  simp [keysOf, List.range_succ, List.flatMap_append]

/-- a duplicate-free list of numbers below `n` has at most `n` elements -/
theorem length_le_of_nodup_lt {l : List Nat} {n : Nat} (hl : l.Nodup) (h : ∀ x, x ∈ l → x < n) : l.length ≤ n :=
  List.length_range (n := n) ▸ hl.length_le_of_subset (fun x hx => List.mem_range.mpr (h x hx))

/-- there are at most `n` blocks -/
theorem WF.len_le {L : LTS} {e : Eng} (w : WF L e) : e.part.length ≤ L.n := by
  -- the first states of the blocks are pairwise different states
  have hmem : ∀ i, i < e.part.length → (e.block i).headD 0 ∈ e.block i := by
    intro i hi
    cases hb : e.block i with
    | nil => exact absurd hb (w.hne i hi)
    | cons x l => exact List.mem_cons_self
  have hnd : ((List.range e.part.length).map (fun i => (e.block i).headD 0)).Nodup := by
    rw [List.nodup_iff_pairwise_ne, List.pairwise_map]
    refine List.Pairwise.imp_of_mem ?_ (List.pairwise_lt_range (n := e.part.length))
    intro i j hi hj hij heq
    exact Nat.ne_of_lt hij
      (w.hdisj i j _ (hmem i (List.mem_range.mp hi)) (heq ▸ hmem j (List.mem_range.mp hj)))
  have := length_le_of_nodup_lt hnd (n := L.n) (fun x hx => by
    obtain ⟨i, hi, hxi⟩ := List.mem_map.mp hx
    exact w.lt_of_mem (hxi ▸ hmem i (List.mem_range.mp hi)))
  rw [List.length_map, List.length_range] at this
  exact this

/-- the labels of an inset are labels of the system -/
theorem WF.ins_lt {L : LTS} {e : Eng} (w : WF L e) {i a : Nat} (hi : i < e.part.length) (ha : a ∈ e.ins i) :
    a < labels L := by
  obtain ⟨q, _, hq⟩ := (w.mem_ins hi a).mp ha
  obtain ⟨p, hp⟩ := (hasIn_iff L a q).mp hq
  exact label_lt L hp

theorem WF.ins_length_le {L : LTS} {e : Eng} (w : WF L e) {i : Nat} (hi : i < e.part.length) :
    (e.ins i).length ≤ labels L :=
  length_le_of_nodup_lt (w.hinset i hi).1.1 (fun _ ha => w.ins_lt hi ha)

/-! ### the measure does not grow when a block is split -/

/-- a new block brings at most `m·n` positive counters -/
theorem posCnt_succ_le (L : LTS) {e e' : Eng} (hlen : e'.part.length = e.part.length + 1)
    (hc : ∀ i a q, i < e.part.length → e'.cntv i a q = e.cntv i a q) :
    posCnt L e' ≤ posCnt L e + labels L * L.n := by
  unfold posCnt
  rw [hlen, keysOf_succ, List.countP_append]
  refine Nat.add_le_add (Nat.le_of_eq (List.countP_congr fun k hk => ?_))
    (Nat.le_trans List.countP_le_length (Nat.le_of_eq (length_blockKeys _ _ _)))
  rw [hc k.1 k.2.1 k.2.2 ((mem_keysOf L _ k.1 k.2.1 k.2.2).mp hk).1]

/-- the price of a block covers its queue entries and positive counters -/
theorem pot_arith {q q' p p' m mn n len : Nat} (hq : q' ≤ q + m) (hp : p' ≤ p + mn) (hlen : len + 1 ≤ n) :
    q' + (n - (len + 1)) * (m + mn) + p' ≤ q + (n - len) * (m + mn) + p := by
  have : n - len = (n - (len + 1)) + 1 := by omega
  rw [this, Nat.add_mul, Nat.one_mul]
  generalize (n - (len + 1)) * (m + mn) = X
  omega

theorem pot_split {L : LTS} {e : Eng} {b : Nat} {rest new : List Nat} (w : WF L e) (s : SplitOK e b rest new) :
    pot L (copySlots (splitBlockCore L e b rest new) b e.part.length) ≤ pot L e := by
  have wc := core_wf w s
  have hbne : e.part.length ≠ b := Ne.symm (Nat.ne_of_lt s.hb)
  have hlt : e.part.length < (splitBlockCore L e b rest new).part.length := by rw [core_length]; exact Nat.lt_succ_self _
  obtain ⟨c1, _, _, _, c5, _, _, _⟩ := copySlots_spec (splitBlockCore L e b rest new) b e.part.length hbne
    (wc.hinset e.part.length hlt).1.1
  have hlen : (copySlots (splitBlockCore L e b rest new) b e.part.length).part.length = e.part.length + 1 := by
    rw [c1, core_length]
  have hq : (copySlots (splitBlockCore L e b rest new) b e.part.length).queue.length ≤ e.queue.length + labels L := by
    rw [copySlots_queue _ _ _ hbne, List.length_append, List.length_reverse, List.length_map, Nat.add_comm]
    exact Nat.add_le_add_left (Nat.le_trans (List.length_filter_le _ _) (wc.ins_length_le hlt)) _
  have hpos := posCnt_succ_le L hlen (fun i a q hi => by
    rw [c5, if_neg (fun h => Nat.ne_of_lt hi h.1)]; rfl)
  unfold pot
  rw [hlen]
  exact pot_arith hq hpos (core_length (L := L) (e := e) (b := b) (rest := rest) (new := new) ▸ wc.len_le)

end Vata.LE
