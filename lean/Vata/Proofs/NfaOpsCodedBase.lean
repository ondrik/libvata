import Vata.NfaOpsCoded
import Vata.Proofs.NfaOps
import Vata.Proofs.NfaStart
/-!
# Coded word-automata operations: basic facts (orders, clusters, set-equal automata)
-/
namespace Vata.NfaC
open Vata.W

theorem NfaOrd.ident_ok : NfaOrd.ident.Ok := ⟨fun _ _ => Iff.rfl, fun _ _ => Iff.rfl, fun _ _ => Iff.rfl⟩
theorem NfaOrd.rev_ok : NfaOrd.rev.Ok :=
  ⟨fun _ _ => List.mem_reverse, fun _ _ => List.mem_reverse, fun _ _ => List.mem_reverse⟩

theorem mem_iterSet {f : List Nat → List Nat} (hf : ∀ l x, x ∈ f l ↔ x ∈ l) {l : List Nat} {x : Nat} :
    x ∈ iterSet f l ↔ x ∈ l := by
  rw [iterSet, List.mem_eraseDups, hf]

theorem mem_insT {T : List (Nat × Nat × Nat)} {e x : Nat × Nat × Nat} : x ∈ insT T e ↔ x ∈ T ∨ x = e := mem_insNew

theorem mem_nfaClusterOf {o : NfaOrd} (ho : o.Ok) {N : NFA} {q a x : Nat} :
    (∃ c, c ∈ nfaClusterOf o N q ∧ c.1 = a ∧ x ∈ c.2) ↔ (q, a, x) ∈ N.trans := by
  simp only [nfaClusterOf, List.mem_map]
  constructor
  · rintro ⟨c, ⟨a', _, rfl⟩, rfl, hx⟩
    simp only at hx
    rw [mem_iterSet ho.1] at hx
    simp only [List.mem_map, List.mem_filter, beq_iff_eq] at hx
    obtain ⟨⟨p, b, y⟩, ⟨⟨he, h1⟩, h2⟩, h3⟩ := hx
    simp only at h1 h2 h3
    subst h1; subst h2; subst h3
    exact he
  · intro he
    refine ⟨_, ⟨a, ?_, rfl⟩, rfl, ?_⟩
    · rw [mem_iterSet ho.2.1]
      simp only [List.mem_map, List.mem_filter, beq_iff_eq]
      exact ⟨(q, a, x), ⟨he, rfl⟩, rfl⟩
    · simp only
      rw [mem_iterSet ho.1]
      simp only [List.mem_map, List.mem_filter, beq_iff_eq]
      exact ⟨(q, a, x), ⟨⟨he, rfl⟩, rfl⟩, rfl⟩

/-- the symbols of a cluster are distinct: `find` by symbol finds THE entry -/
theorem nfaClusterOf_find {o : NfaOrd} {N : NFA} {q : Nat} {c : Nat × List Nat} (hc : c ∈ nfaClusterOf o N q) :
    (nfaClusterOf o N q).find? (fun d => d.1 == c.1) = some c := by
  simp only [nfaClusterOf, List.mem_map] at hc ⊢
  obtain ⟨a, ha, rfl⟩ := hc
  simp only
  generalize iterSet o.syms _ = L at ha ⊢
  induction L with
  | nil => exact nomatch ha
  | cons b L ih =>
    simp only [List.map_cons, List.find?_cons]
    by_cases hb : b = a
    · subst hb; simp
    · have : (b == a) = false := by simpa using hb
      simp only [this]
      rcases List.mem_cons.mp ha with h | h
      · exact absurd h.symm hb
      · exact ih h

theorem nfaClusterOf_isEmpty {o : NfaOrd} (ho : o.Ok) {N : NFA} {q : Nat} (h : (nfaClusterOf o N q).isEmpty = true) :
    ∀ a x, (q, a, x) ∉ N.trans := by
  intro a x he
  obtain ⟨c, hc, _⟩ := (mem_nfaClusterOf ho).mpr he
  rw [List.isEmpty_iff] at h
  rw [h] at hc
  exact nomatch hc

theorem mem_nfaClusterTargets {o : NfaOrd} (ho : o.Ok) {N : NFA} {q x : Nat} :
    x ∈ nfaClusterTargets o N q ↔ ∃ a, (q, a, x) ∈ N.trans := by
  simp only [nfaClusterTargets, List.mem_flatMap]
  constructor
  · rintro ⟨c, hc, hx⟩; exact ⟨c.1, (mem_nfaClusterOf ho).mp ⟨c, hc, rfl, hx⟩⟩
  · rintro ⟨a, he⟩
    obtain ⟨c, hc, _, hx⟩ := (mem_nfaClusterOf ho).mpr he
    exact ⟨c, hc, hx⟩


theorem NfaSetEq.reverse {R N : NFA} (h : NfaSetEq R N) : NfaSetEq (nfaReverse R) (nfaReverse N) := by
  refine ⟨h.2.1, h.1, ?_⟩
  rintro ⟨p, a, q⟩
  rw [mem_nfaReverse_trans, mem_nfaReverse_trans]
  exact h.2.2 _

/-- Boolean form (for `decide`d examples) -/
def nfaSetEqB (R N : NFA) : Bool := nfaSubB R N && nfaSubB N R

end Vata.NfaC
