import Vata.Proofs.RcStoreXRel
/-!
# C18 (extended) – node lifetime over ALL `OndriksMTBDD` operations, and the relative release theorem

> Across any sequence of creating, copying, assigning, combining and destroying MTBDDs, no MTBDD that is still alive ever
> changes the function it denotes, no node is released while a live MTBDD or node refers to it, and no node is released
> twice. Once every MTBDD created by construction, copy or apply has been destroyed, the process-wide node store is back
> to the size it had before.

This file closes two items of the "not yet proved" list of `Vata/Properties/C18.lean`:
(1) the operations that were missing from the history model, (2) "the size it had before" relative to an ARBITRARY
earlier point of the history instead of the empty store.

## How the C++ is read into the model (`Vata/RcStoreX.lean`, on top of `Vata/RcStore.lean`)

* The store (`RcS.Store`: allocated ids, contents, counters, the two unique tables, live handles, ghost `freed` / `err`) and
  the five old operations are those of C18.  `RcSX.Op` adds, each mirroring the C++ statement by statement on the store:
  - `.apply1 a dst` – `Apply1Functor::recDescend` (leaf: `spawnLeaf(f(data))`; inner: descend low, high, then
    `low == high ? low : spawnInternal(low, high, var)`), `IncrementRefCnt(root)`;
  - `.apply3 a b c dst` – `Apply3Functor::classifyCase` (`br3`), `recDescend` (`var` = variable of the LAST branched node);
  - `.project a dst vars` – `projectNode` with `pred(var) = var ∈ vars` and `applyFunc` = the binary apply of the history
    (`Apply2Functor::operator()(node, node)`: no counter is touched); the projected children are spawned BEFORE the apply
    and are not released afterwards – exactly as in the code;
  - `.rename a dst tab` – `renameNode` (`renamer(var) = tab[var]`, identity outside), always `spawnInternal`, no reduction test;
  - `.extendWith a dst asgn offset` – the 4-argument `constructMTBDD(asgn, root_, GetDefaultValue(), var ↦ var + offset)`:
    early exit for "leaf with the default value", `spawnLeaf(default)`, the loop, disposal of an unreferenced sink when
    nothing was built, `IncrementRefCnt`;  `defaultValue_` of every handle is tracked in `XStore.dv` as the constructors and
    functors compute it;
  - `.getPrefix a dst asgn offset` – the `while` loop of `GetMtbddForPrefix`, `IncrementRefCnt(newRoot)`.
* `runX F ops` is the state after the history `ops` from process start, for arbitrary leaf operations `F.f1/f2/f3`.
  Operations whose handles are not in the required state are skipped (such a program does not exist).
* Abstracted: the memo tables `ht` of the apply functors (raw pointers, no counter involved); leaf values and handle
  names are `Nat`.  Fuel: all recursions are fuel-indexed with the fuel computed by the caller; the theorems below
  include `err = false`, i.e. the fuel was never exhausted (totality).

## The observation about `Project`

`projectNode` leaves nodes with counter 0 in the unique tables (`C18_ext_project_leaks`).  Therefore, for arbitrary
histories the invariant is "counter = number of referrers" WITHOUT "no allocated node has counter 0"; the latter, and
everything that depends on it (`all_released`, relative release), is proved for histories without `project` and refuted by
`decide`d histories with `project`.
-/
namespace Vata.RcSX.Ex

/-- three handles with shared sub-graphs -/
def exH₁ : List RcSX.Op :=
  [.construct 0 [some true, none, some false] 5 0, .construct 1 [some false, some true] 7 0, .apply 0 1 2]
/-- every new operation, a copy, an assignment – none of them writes handle 0, 1 or 2 -/
def exH₂ : List RcSX.Op :=
  [.apply1 2 3, .apply3 0 1 2 4, .rename 0 5 [1, 2, 3], .extendWith 1 6 [some true] 3, .getPrefix 6 7 [some true] 3,
   .copy 3 8, .assign 4 8]

/-- leaf operations with addition as the binary one (as in the library's unit test of `Project`) -/
def addFns : Fns := ⟨fun x => x + 1, fun x y => x + y, fun x y z => x + y + z⟩

/-- `x₀ ∧ ¬x₁ ↦ 5`, else `1`; project both variables out; destroy the result; destroy the operand -/
def exLeak : List RcSX.Op :=
  [.construct 0 [some true, some false] 5 1, .project 0 1 [0, 1], .destroy 1, .destroy 0]

end Vata.RcSX.Ex

namespace Vata.Props
open Vata.RcS Vata.RcSX Vata.RcSX.Ex

/-- `rc_inv` for every history over the extended operation set: the counter of every allocated node is the number of
`low`/`high` fields of allocated inner nodes plus the number of live handles that hold it; every entry of either unique
table points to an allocated node with exactly that contents; a node with counter 0 is referred to by nothing -/
theorem C18_ext_rc_inv (F : Fns) (ops : List RcSX.Op) :
    (∀ n, n ∈ (runX F ops).st.ids → (runX F ops).st.rc n = indeg (runX F ops).st n + handlesTo (runX F ops).st n) ∧
    (∀ v n, (v, n) ∈ (runX F ops).st.leafT → n ∈ (runX F ops).st.ids ∧ (runX F ops).st.dat n = .leaf v) ∧
    (∀ lo hi var n, ((lo, hi, var), n) ∈ (runX F ops).st.intT →
      n ∈ (runX F ops).st.ids ∧ (runX F ops).st.dat n = .int lo hi var) ∧
    (∀ n, n ∈ (runX F ops).st.ids → (runX F ops).st.rc n = 0 →
      n ∉ roots (runX F ops).st ∧
      ∀ m, m ∈ (runX F ops).st.ids → ∀ lo hi var, (runX F ops).st.dat m = .int lo hi var → lo ≠ n ∧ hi ≠ n) := by
  have hw := runX_winv F ops
  refine ⟨?_, fun v n hm => (hw.leafOk v n).mp hm, fun lo hi' var n hm => (hw.intOk (lo, hi', var) n).mp hm,
    fun n hn hz => hw.zero_unreferenced hn hz⟩
  intro n hn
  have := hw.j n hn
  rw [cnt_nil] at this
  exact this

/-- the unique tables are exactly the allocated nodes (each found under its contents, keys unique) after every history -/
theorem C18_ext_tables_exact (F : Fns) (ops : List RcSX.Op) :
    (∀ n v, n ∈ (runX F ops).st.ids → (runX F ops).st.dat n = .leaf v → find v (runX F ops).st.leafT = some n) ∧
    (∀ n lo hi var, n ∈ (runX F ops).st.ids → (runX F ops).st.dat n = .int lo hi var →
      find (lo, hi, var) (runX F ops).st.intT = some n) ∧
    KeysNodup (runX F ops).st.leafT ∧ KeysNodup (runX F ops).st.intT ∧ KeysNodup (runX F ops).st.hs ∧
    (runX F ops).st.ids.Nodup :=
  xtables_exact F ops

/-- every node reachable from the root of a live handle is allocated and has never been deleted -/
theorem C18_ext_no_premature_free (F : Fns) (ops : List RcSX.Op) (h r : Nat) (hm : (h, r) ∈ (runX F ops).st.hs) (n : Nat)
    (hr : Reach (runX F ops).st.dat r n) : n ∈ (runX F ops).st.ids ∧ n ∉ (runX F ops).st.freed :=
  xno_premature_free F ops h r hm n hr

/-- no node is deleted twice, a deleted node is not allocated, no assertion of the code failed (`refcnt > 0` before every
decrement, exactly one entry erased by `disposeOf…Node`), and no recursion of the model ran out of fuel -/
theorem C18_ext_no_double_free (F : Fns) (ops : List RcSX.Op) :
    (runX F ops).st.freed.Nodup ∧ (∀ n, n ∈ (runX F ops).st.freed → n ∉ (runX F ops).st.ids) ∧
    (runX F ops).st.err = false :=
  xno_double_free F ops

/-- a handle that is live after `ops` is live with the same root and the same denotation after any continuation in which
it is not the target of an operation (it may be read by all eleven kinds of operations) -/
theorem C18_ext_denotation_stable (F : Fns) (ops more : List RcSX.Op) (h r : Nat) (hm : (h, r) ∈ (runX F ops).st.hs)
    (ht : ∀ op, op ∈ more → op.target ≠ h) :
    (h, r) ∈ (runX F (ops ++ more)).st.hs ∧
    ∀ ρ, denote (runX F (ops ++ more)).st r ρ = denote (runX F ops).st r ρ :=
  xdenotation_stable F ops more h r hm ht

/-- without `project` there is no garbage between operations: no allocated node has counter 0 -/
theorem C18_ext_no_garbage (F : Fns) (ops : List RcSX.Op) (np : NoProj ops) (n : Nat) (hn : n ∈ (runX F ops).st.ids) :
    (runX F ops).st.rc n ≠ 0 := runX_nz F ops np n hn

/-- without `project`: (1) whenever no handle is live both unique tables are empty and no node is allocated; (2) this is
the case after the destructors of all live handles -/
theorem C18_ext_all_released (F : Fns) (ops : List RcSX.Op) (np : NoProj ops) :
    ((runX F ops).st.hs = [] → tableSizes (runX F ops).st = tableSizes empty ∧ (runX F ops).st.ids = []) ∧
    (tableSizes (runX F (ops ++ destroyAllX (runX F ops).st)).st = tableSizes empty ∧
      (runX F (ops ++ destroyAllX (runX F ops).st)).st.ids = []) :=
  ⟨xall_released F ops np, xall_released_destroyAll F ops np⟩

/-! ### non-vacuity: a history that uses every operation -/

theorem C18_ext_exH_sizes : tableSizes (runX stdFns exH₁).st = (3, 7) ∧ tableSizes (runX stdFns (exH₁ ++ exH₂)).st = (8, 22) ∧
    (runX stdFns (exH₁ ++ exH₂)).st.hs.length = 9 ∧ (runX stdFns (exH₁ ++ exH₂)).st.err = false := by decide +kernel
example : tableSizes (runX stdFns exH₁).st = (3, 7) ∧ tableSizes (runX stdFns (exH₁ ++ exH₂)).st = (8, 22) ∧
    (runX stdFns (exH₁ ++ exH₂)).st.hs.length = 9 ∧ (runX stdFns (exH₁ ++ exH₂)).st.err = false := C18_ext_exH_sizes
example : NoProj exH₁ ∧ NoProj exH₂ := by decide
-- `C18_ext_denotation_stable`: handle 2 is live after `exH₁` and is not a target in `exH₂`
example : (2, 9) ∈ (runX stdFns exH₁).st.hs ∧ ∀ op, op ∈ exH₂ → op.target ≠ 2 := by decide +kernel
example : (2, 9) ∈ (runX stdFns (exH₁ ++ exH₂)).st.hs :=
  (C18_ext_denotation_stable stdFns exH₁ exH₂ 2 9 (by decide +kernel) (by decide +kernel)).1
-- `C18_ext_all_released`: 30 nodes were allocated in total, all are deleted by the destructors
example : (runX stdFns ((exH₁ ++ exH₂) ++ destroyAllX (runX stdFns (exH₁ ++ exH₂)).st)).st.freed.length = 30 ∧
    (runX stdFns ((exH₁ ++ exH₂) ++ destroyAllX (runX stdFns (exH₁ ++ exH₂)).st)).st.next = 30 := by decide +kernel

/-! ### `Project` leaks -/

/-- **`all_released` FAILS with `project`**: after `exLeak` no handle is live and no assertion failed, but the leaf `6`
(= 1 + 5, the projected low child, spawned by `projectNode` and only read by `applyFunc`) is still in `leafCache_`, with
counter 0.  (With the real library: `VerifLeafCacheSize()` stays 1 for ever.) -/
theorem C18_ext_project_leaks :
    (runX addFns exLeak).st.hs = [] ∧ (runX addFns exLeak).st.err = false ∧
    tableSizes (runX addFns exLeak).st = (1, 0) ∧ (runX addFns exLeak).st.ids = [4] ∧
    (runX addFns exLeak).st.dat 4 = .leaf 6 ∧ (runX addFns exLeak).st.rc 4 = 0 := by decide +kernel

-- without the `project` the same history releases everything
example : tableSizes (runX addFns [.construct 0 [some true, some false] 5 1, .destroy 0]).st = (0, 0) := by decide

/-! ### the relative release theorem -/

/-- **relative release.**  For every history `h₁ ++ h₂` without `project` such that
* no handle that is live after `h₁` is the target of an operation of `h₂` (it is not assigned, not destroyed – and not
  constructed / copied / applied into, which would be skipped anyway), and
* every handle that is live after `h₁ ++ h₂` was live after `h₁` (every handle created in `h₂` has been destroyed in `h₂`),

the allocated nodes, the entries of `leafCache_` and the entries of `internalCache_` after `h₁ ++ h₂` are exactly those
after `h₁`; in particular both tables have the sizes they had after `h₁`. -/
theorem C18_relative_release (F : Fns) (h₁ h₂ : List RcSX.Op) (np₁ : NoProj h₁) (np₂ : NoProj h₂)
    (hold : ∀ op, op ∈ h₂ → find op.target (runX F h₁).st.hs = none)
    (hnew : ∀ h, (find h (runX F (h₁ ++ h₂)).st.hs).isSome → (find h (runX F h₁).st.hs).isSome) :
    (∀ n, n ∈ (runX F (h₁ ++ h₂)).st.ids ↔ n ∈ (runX F h₁).st.ids) ∧
    (∀ e, e ∈ (runX F (h₁ ++ h₂)).st.leafT ↔ e ∈ (runX F h₁).st.leafT) ∧
    (∀ e, e ∈ (runX F (h₁ ++ h₂)).st.intT ↔ e ∈ (runX F h₁).st.intT) ∧
    tableSizes (runX F (h₁ ++ h₂)).st = tableSizes (runX F h₁).st ∧
    (runX F (h₁ ++ h₂)).st.ids.length = (runX F h₁).st.ids.length :=
  xrelative_release F h₁ h₂ np₁ np₂ hold hnew

/-- **relative release, destructor form** (only the syntactic hypothesis remains): after any `h₁` and any continuation
`h₂` (both without `project`) none of whose operations has a handle live after `h₁` as its target, the destructors of the
handles that are live now and were not live after `h₁` bring the node store back to exactly what it was after `h₁` -/
theorem C18_relative_release_destroyNew (F : Fns) (h₁ h₂ : List RcSX.Op) (np₁ : NoProj h₁) (np₂ : NoProj h₂)
    (hold : ∀ op, op ∈ h₂ → find op.target (runX F h₁).st.hs = none) :
    let d := destroyNew (runX F h₁).st (runX F (h₁ ++ h₂)).st
    (∀ n, n ∈ (runX F (h₁ ++ (h₂ ++ d))).st.ids ↔ n ∈ (runX F h₁).st.ids) ∧
    (∀ e, e ∈ (runX F (h₁ ++ (h₂ ++ d))).st.leafT ↔ e ∈ (runX F h₁).st.leafT) ∧
    (∀ e, e ∈ (runX F (h₁ ++ (h₂ ++ d))).st.intT ↔ e ∈ (runX F h₁).st.intT) ∧
    tableSizes (runX F (h₁ ++ (h₂ ++ d))).st = tableSizes (runX F h₁).st ∧
    (runX F (h₁ ++ (h₂ ++ d))).st.ids.length = (runX F h₁).st.ids.length :=
  xrelative_release_destroyNew F h₁ h₂ np₁ np₂ hold

-- the hypotheses hold for `exH₁`, `exH₂` (a non-empty store before, 23 nodes allocated and released in between)
example : ∀ op, op ∈ exH₂ → find op.target (runX stdFns exH₁).st.hs = none := by decide +kernel
example : destroyNew (runX stdFns exH₁).st (runX stdFns (exH₁ ++ exH₂)).st =
    [.destroy 8, .destroy 7, .destroy 6, .destroy 5, .destroy 4, .destroy 3] := by decide +kernel
example : tableSizes (runX stdFns (exH₁ ++ (exH₂ ++ destroyNew (runX stdFns exH₁).st (runX stdFns (exH₁ ++ exH₂)).st))).st
    = tableSizes (runX stdFns exH₁).st :=
  (C18_relative_release_destroyNew stdFns exH₁ exH₂ (by decide +kernel) (by decide +kernel) (by decide +kernel)).2.2.2.1
-- and for the first form, with the explicit destructors as part of `h₂`
example : (runX stdFns (exH₁ ++ (exH₂ ++ [.destroy 8, .destroy 7, .destroy 6, .destroy 5, .destroy 4, .destroy 3]))).st.hs
    = (runX stdFns exH₁).st.hs ∧ (runX stdFns exH₁).st.ids.length = 10 := by decide +kernel

/-- **the hypothesis "no `project`" cannot be dropped**, neither for `h₂` nor for `h₁`:
(1) `h₂ = [project, destroy]` creates and destroys one handle and leaves one more leaf in `leafCache_`;
(2) after an `h₁` that contains a `project` (which left the counter-0 leaf `6` behind), `h₂ = [construct the constant 6,
destroy it]` finds that leaf, refers to it and releases it: `leafCache_` is SMALLER than it was after `h₁`.
In both cases the two handle hypotheses of `C18_relative_release` hold. -/
theorem C18_relative_release_needs_noProj :
    (let h₁ : List RcSX.Op := [.construct 0 [some true, some false] 5 1]
     let h₂ : List RcSX.Op := [.project 0 1 [0, 1], .destroy 1]
     (∀ op, op ∈ h₂ → find op.target (runX addFns h₁).st.hs = none) ∧
     (runX addFns (h₁ ++ h₂)).st.hs = (runX addFns h₁).st.hs ∧
     tableSizes (runX addFns h₁).st = (2, 2) ∧ tableSizes (runX addFns (h₁ ++ h₂)).st = (3, 2)) ∧
    (let h₁ : List RcSX.Op := [.construct 0 [some true, some false] 5 1, .project 0 1 [0, 1]]
     let h₂ : List RcSX.Op := [.construct 2 [] 6 6, .destroy 2]
     (∀ op, op ∈ h₂ → find op.target (runX addFns h₁).st.hs = none) ∧
     (runX addFns (h₁ ++ h₂)).st.hs = (runX addFns h₁).st.hs ∧
     tableSizes (runX addFns h₁).st = (4, 2) ∧ tableSizes (runX addFns (h₁ ++ h₂)).st = (3, 2)) := by decide +kernel

/-!
## still not proved

* The relative theorem for histories WITH `project` in a weakened form (e.g. "the nodes reachable from the live handles
  are the same, the tables differ only by counter-0 nodes") is not stated; only the failure of the exact form is shown.
* The second invariant of `Vata/Proofs/StoreBuild.lean` (`WfInv`: every allocated inner node is reduced and ordered) and
  hence "pointer equality of roots = equality of the denoted functions" is NOT extended to the new operations (it is false
  after a `rename` with a non-monotone table, and would need `Below offset` side conditions for `extendWith`).
* The `VoidApply` traversals are not in the history model (they do not touch the store).  The memo tables `ht` are not
  modelled.
* Leaf values and handle names are `Nat`; the destructor of a user-defined leaf type is not modelled.
* That the model and `OndriksMTBDD<T>` agree step by step is the correspondence check of a driver
  (`RcSX.runTrace : Nat → List RcSX.Op → List RcSX.Report`), not a theorem.
-/
end Vata.Props
