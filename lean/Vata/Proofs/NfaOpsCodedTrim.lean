import Vata.Proofs.NfaOpsCodedBase
import Vata.Proofs.Closure
/-!
# `Reverse`, `RemoveUnreachableStates`, `RemoveUselessStates` as coded refine the relation-level models
-/
namespace Vata.NfaC
open Vata.W

theorem mem_nfasReverseCoded_trans {o : NfaOrd} (ho : o.Ok) (f : Bool) (A : NFAS) (t : Nat × Nat × Nat) :
    t ∈ (nfasReverseCoded o f A).trans ↔ (t.2.2, t.2.1, t.1) ∈ A.trans := by
  show t ∈ (iterSet o.srcs (A.trans.map (·.1))).foldl (fun T p =>
    (nfaClusterOf o A.toNFA p).foldl (fun T c => c.2.foldl (fun T q => insT T (q, c.1, p)) T) T) [] ↔ _
  rw [mem_foldl_of_step (fun T t => t ∈ T) (fun p t => ∃ c, c ∈ nfaClusterOf o A.toNFA p ∧ ∃ q, q ∈ c.2 ∧ t = (q, c.1, p))]
  · constructor
    · rintro (h | ⟨p, _, c, hc, q, hq, rfl⟩)
      · exact nomatch h
      · exact (mem_nfaClusterOf ho).mp ⟨c, hc, rfl, hq⟩
    · intro h
      obtain ⟨c, hc, ha, hq⟩ := (mem_nfaClusterOf ho).mpr h
      refine Or.inr ⟨t.2.2, ?_, c, hc, t.1, hq, ?_⟩
      · rw [mem_iterSet ho.2.2]; exact List.mem_map.mpr ⟨_, h, rfl⟩
      · rw [ha]
  · intro T p t
    rw [mem_foldl_of_step (fun T t => t ∈ T) (fun (c : Nat × List Nat) t => ∃ q, q ∈ c.2 ∧ t = (q, c.1, p))]
    intro T c t
    rw [mem_foldl_of_step (fun T t => t ∈ T) (fun (q : Nat) t => t = (q, c.1, p))]
    intro T q t
    exact mem_insT

/-- `Reverse` as coded is `nfaReverse` (the transitions as a set) -/
theorem nfasReverseCoded_setEq {o : NfaOrd} (ho : o.Ok) (f : Bool) (A : NFAS) :
    NfaSetEq (nfasReverseCoded o f A).toNFA (nfaReverse A.toNFA) := by
  refine ⟨fun _ => Iff.rfl, fun _ => Iff.rfl, ?_⟩
  rintro ⟨p, a, q⟩
  rw [mem_nfaReverse_trans]
  exact mem_nfasReverseCoded_trans ho f A (p, a, q)

theorem smFold_insert_has (L : List Nat) (m : SymMap) (q : Nat) :
    smHas (L.foldl (fun m s => smInsert m s []) m) q = (smHas m q || L.contains q) := by
  rw [smHas, NfaS.smFind_foldl_insert (fun s => s) (fun _ => []), ← smHas, NfaS.smHas_append, NfaS.smHas_map_nil]

theorem smFold_insert_get (L : List Nat) (m : SymMap) (q : Nat) :
    smGet (L.foldl (fun m s => smInsert m s []) m) q = smGet m q := by
  rw [smGet, NfaS.smFind_foldl_insert (fun s => s) (fun _ => []), ← smGet]
  cases h : smHas m q with
  | true => exact NfaS.smGet_append_of_has h
  | false => rw [NfaS.smGet_append_of_not_has h, NfaS.smGet_map_nil, NfaS.smGet_eq_nil_of_not_has h]

/-- the start-symbol map of the current `Reverse`: the same entries as the relation-level model -/
theorem nfasReverseCoded_syms {o : NfaOrd} (ho : o.Ok) (A : NFAS) (q : Nat) :
    smHas (nfasReverseCoded o true A).startSyms q = smHas (nfasReverse A).startSyms q ∧
    (nfasReverseCoded o true A).symsOf q = (nfasReverse A).symsOf q := by
  constructor
  · rw [nfasReverse_has]
    show smHas ((iterSet o.sts A.final).foldl (fun m s => smInsert m s []) A.startSyms) q = _
    rw [smFold_insert_has]
    congr 1
    rw [Bool.eq_iff_iff, List.contains_iff_mem, List.contains_iff_mem, mem_iterSet ho.1]
  · rw [nfasReverse_symsOf]
    exact smFold_insert_get _ _ _


/-- the `while` loop is the reachability loop of `Vata/Proofs/Closure.lean` (`unreachIns` is `Closure.push`); the `continue`
on a missing cluster is the round without successors -/
theorem unreachLoop_eq (o : NfaOrd) (N : NFA) : ∀ (f : Nat) (σ : List Nat × List Nat),
    unreachLoop o N f σ =
      if (Closure.reachLoop (nfaClusterTargets o N) f σ).2.isEmpty then some (Closure.reachLoop (nfaClusterTargets o N) f σ).1
      else none
  | 0, _ => rfl
  | _+1, (_, []) => rfl
  | f+1, (R, s :: W) => by
    rw [unreachLoop, Closure.reachLoop, ← unreachLoop_eq o N f]
    split
    · next he => rw [nfaClusterTargets, List.isEmpty_iff.mp he]; rfl
    · rfl

/-- the set `reachableStates` at the end is the set of reachable states -/
theorem nfaReachCoded_spec {o : NfaOrd} (ho : o.Ok) (N : NFA) (fuel : Nat) (R : List Nat)
    (h : nfaReachCoded o N fuel = some R) : ∀ q, q ∈ R ↔ q ∈ nfaReachable N := by
  intro q
  rw [nfaReachCoded, unreachLoop_eq] at h
  split at h
  · next he =>
    cases h
    have hs := Closure.reachLoop_sat (lfp_nfaReach N) (fun _ _ => mem_nfaClusterTargets ho) fuel (unreachInit o N)
      (Closure.sat_init (fun c => (mem_iterSet ho.1).symm) (fun _ => NfaReach.of_start) fun x hx => List.mem_reverse.mpr hx)
      fun x hx => List.mem_reverse.mp hx
    rw [List.isEmpty_iff.mp he] at hs
    rw [mem_nfaReachable_iff]
    exact hs.exact (lfp_nfaReach N) q
  · cases h

theorem nfaReachCoded_total {o : NfaOrd} (ho : o.Ok) (N : NFA) : ∃ R, nfaReachCoded o N (unreachFuel o N) = some R := by
  rw [nfaReachCoded, unreachLoop_eq, Closure.reachLoop_done (fun _ _ => mem_nfaClusterTargets ho)
    (K := N.trans.map (·.2.2)) (fun _ x ⟨a, he⟩ => List.mem_map.mpr ⟨_, he, rfl⟩)]
  · exact ⟨_, rfl⟩
  · show (iterSet o.sts N.start).reverse.length + _ ≤ _
    rw [List.length_reverse]
    exact Nat.add_le_add_left (Nat.le_trans (unseen_le_length _ _) (Nat.le_of_eq (List.length_map _))) _

/-- one turn of the loop that builds the result from `reachableStates` -/
def unreachStep (A res : NFAS) (q : Nat) : NFAS :=
  let res1 := if A.final.contains q then nfasSetFinal res q else res
  ⟨⟨res1.start, res1.final, res1.trans ++ A.trans.filter (fun e => e.1 == q)⟩, res1.startSyms⟩

theorem unreachBuild_eq (o : NfaOrd) (A : NFAS) (R : List Nat) :
    unreachBuild o A R = (iterSet o.sts R).foldl (unreachStep A) ⟨⟨A.start, [], []⟩, A.startSyms⟩ := rfl

theorem unreachStep_spec (A res : NFAS) (q : Nat) :
    (unreachStep A res q).start = res.start ∧ (unreachStep A res q).startSyms = res.startSyms ∧
    (∀ n, n ∈ (unreachStep A res q).final ↔ n ∈ res.final ∨ (n = q ∧ n ∈ A.final)) ∧
    (∀ e, e ∈ (unreachStep A res q).trans ↔ e ∈ res.trans ∨ (e ∈ A.trans ∧ e.1 = q)) := by
  have htr : ∀ (T : List (Nat × Nat × Nat)) e, e ∈ T ++ A.trans.filter (fun e => e.1 == q) ↔ e ∈ T ∨ (e ∈ A.trans ∧ e.1 = q) :=
    fun T e => by simp only [List.mem_append, List.mem_filter, beq_iff_eq]
  by_cases hf : A.final.contains q = true
  · simp only [unreachStep, if_pos hf]
    refine ⟨rfl, rfl, fun n => NfaS.mem_insN.trans (or_congr_right ⟨fun h => ⟨h, ?_⟩, And.left⟩), htr res.trans⟩
    exact h ▸ List.contains_iff_mem.mp hf
  · simp only [unreachStep, if_neg hf]
    refine ⟨trivial, trivial, fun n => ⟨Or.inl, fun h => h.elim id (fun h' => ?_)⟩, htr res.trans⟩
    exact absurd (List.contains_iff_mem.mpr (h'.1 ▸ h'.2)) hf

/-- the result automaton built from the states `L` -/
theorem unreachBuild_spec (A : NFAS) : ∀ (L : List Nat) (res : NFAS),
    (L.foldl (unreachStep A) res).start = res.start ∧ (L.foldl (unreachStep A) res).startSyms = res.startSyms ∧
    (∀ n, n ∈ (L.foldl (unreachStep A) res).final ↔ n ∈ res.final ∨ (n ∈ L ∧ n ∈ A.final)) ∧
    (∀ e, e ∈ (L.foldl (unreachStep A) res).trans ↔ e ∈ res.trans ∨ (e ∈ A.trans ∧ e.1 ∈ L)) := by
  intro L
  induction L with
  | nil => exact fun res => ⟨rfl, rfl, fun n => by simp, fun e => by simp⟩
  | cons q L ih =>
    intro res
    obtain ⟨h1, h2, h3, h4⟩ := ih (unreachStep A res q)
    obtain ⟨s1, s2, s3, s4⟩ := unreachStep_spec A res q
    refine ⟨h1.trans s1, h2.trans s2, fun n => ?_, fun e => ?_⟩
    · rw [List.foldl_cons, h3, s3]; simp only [List.mem_cons, or_and_right, or_assoc]
    · rw [List.foldl_cons, h4, s4]; simp only [List.mem_cons, and_or_left, or_assoc]

theorem nfasUnreachCodedF_isSome {o : NfaOrd} (ho : o.Ok) (A : NFAS) :
    ∃ R, nfaReachCoded o A.toNFA (unreachFuel o A.toNFA) = some R ∧
      nfasUnreachCoded o A = unreachBuild o A R := by
  obtain ⟨R, hR⟩ := nfaReachCoded_total ho A.toNFA
  exact ⟨R, hR, by simp [nfasUnreachCoded, nfasUnreachCodedF, hR]⟩

/-- `RemoveUnreachableStates` as coded: the same start states, start symbols, and (as sets) final states and transitions as
the relation-level model -/
theorem nfasUnreachCoded_setEq {o : NfaOrd} (ho : o.Ok) (A : NFAS) :
    NfaSetEq (nfasUnreachCoded o A).toNFA (nfaRemoveUnreachable A.toNFA) ∧
    (nfasUnreachCoded o A).startSyms = A.startSyms ∧ (nfasUnreachCoded o A).start = A.start := by
  obtain ⟨R, hR, e⟩ := nfasUnreachCodedF_isSome ho A
  have hspec := nfaReachCoded_spec ho _ _ _ hR
  obtain ⟨h1, h2, h3, h4⟩ := unreachBuild_spec A (iterSet o.sts R) ⟨⟨A.start, [], []⟩, A.startSyms⟩
  rw [e, unreachBuild_eq]
  refine ⟨⟨?_, ?_, ?_⟩, h2, h1⟩
  · intro q; rw [nfaRemoveUnreachable_start]; exact Iff.of_eq (congrArg (q ∈ ·) h1)
  · intro q
    rw [nfaRemoveUnreachable_eq]
    simp only [nfaRestrict, List.mem_filter, List.contains_iff_mem]
    refine (h3 q).trans ?_
    rw [mem_iterSet ho.1, hspec]
    constructor
    · rintro (h | ⟨h, h'⟩)
      · exact nomatch h
      · exact ⟨h', h⟩
    · rintro ⟨h, h'⟩; exact Or.inr ⟨h', h⟩
  · intro e
    rw [nfaRemoveUnreachable_eq]
    simp only [nfaRestrict, List.mem_filter, List.contains_iff_mem]
    refine (h4 e).trans ?_
    rw [mem_iterSet ho.1, hspec]
    constructor
    · rintro (h | h)
      · exact nomatch h
      · exact h
    · exact Or.inr


theorem NfaSetEq.path {R N : NFA} (h : NfaSetEq R N) {p q : Nat} {w : List Nat} : Path R p w q ↔ Path N p w q :=
  ⟨Path.mono (fun e => (h.2.2 e).mp), Path.mono (fun e => (h.2.2 e).mpr)⟩

theorem NfaSetEq.reach {R N : NFA} (h : NfaSetEq R N) (q : Nat) : NfaReach R q ↔ NfaReach N q :=
  ⟨fun ⟨s, hs, w, hp⟩ => ⟨s, (h.1 s).mp hs, w, h.path.mp hp⟩, fun ⟨s, hs, w, hp⟩ => ⟨s, (h.1 s).mpr hs, w, h.path.mpr hp⟩⟩

theorem NfaSetEq.removeUnreachable {R N : NFA} (h : NfaSetEq R N) :
    NfaSetEq (nfaRemoveUnreachable R) (nfaRemoveUnreachable N) := by
  have hr : ∀ q, (∃ s, s ∈ R.start ∧ ∃ w, Path R s w q) ↔ (∃ s, s ∈ N.start ∧ ∃ w, Path N s w q) := h.reach
  refine ⟨?_, ?_, ?_⟩
  · intro q; rw [nfaRemoveUnreachable_start, nfaRemoveUnreachable_start]; exact h.1 q
  · intro q; rw [mem_nfaRemoveUnreachable_final, mem_nfaRemoveUnreachable_final, h.2.1, hr]
  · intro e; rw [mem_nfaRemoveUnreachable_trans, mem_nfaRemoveUnreachable_trans, h.2.2, hr]

/-- `RemoveUselessStates` as coded is, as sets, the relation-level `nfaRemoveUseless` – for every iteration order, and also
with the `Reverse` of before the repair D5 (which differs in the start-symbol map only) -/
theorem nfasUselessCoded_setEq {o : NfaOrd} (ho : o.Ok) (f : Bool) (A : NFAS) :
    NfaSetEq (nfasUselessCoded o f A).toNFA (nfaRemoveUseless A.toNFA) := by
  unfold nfasUselessCoded nfaRemoveUseless
  have h1 := (nfasUnreachCoded_setEq ho A).1
  have h2 := (nfasReverseCoded_setEq ho f (nfasUnreachCoded o A)).trans h1.reverse
  have h3 := (nfasUnreachCoded_setEq ho (nfasReverseCoded o f (nfasUnreachCoded o A))).1.trans h2.removeUnreachable
  exact (nfasReverseCoded_setEq ho f _).trans h3.reverse



/-- the same entries (presence and content) at every state -/
def SymObsEq (X Y : NFAS) : Prop := ∀ q, smHas X.startSyms q = smHas Y.startSyms q ∧ X.symsOf q = Y.symsOf q

theorem SymObsEq.reverse {o : NfaOrd} (ho : o.Ok) {X Y : NFAS} (h : SymObsEq X Y) (hf : ∀ q, q ∈ X.final ↔ q ∈ Y.final) :
    SymObsEq (nfasReverseCoded o true X) (nfasReverse Y) := by
  intro q
  obtain ⟨h1, h2⟩ := nfasReverseCoded_syms ho X q
  refine ⟨?_, ?_⟩
  · rw [h1, nfasReverse_has, nfasReverse_has, (h q).1]
    congr 1
    rw [Bool.eq_iff_iff, List.contains_iff_mem, List.contains_iff_mem]; exact hf q
  · rw [h2, nfasReverse_symsOf, nfasReverse_symsOf]; exact (h q).2

theorem SymObsEq.unreach {o : NfaOrd} (ho : o.Ok) {X Y : NFAS} (h : SymObsEq X Y) :
    SymObsEq (nfasUnreachCoded o X) (nfasRemoveUnreachable Y) := by
  intro q
  have e := (nfasUnreachCoded_setEq ho X).2.1
  refine ⟨?_, ?_⟩
  · rw [e]; exact (h q).1
  · show smGet (nfasUnreachCoded o X).startSyms q = _
    rw [e]; exact (h q).2

/-- the current `RemoveUselessStates` as coded leaves the same start-symbol entries as the relation-level model -/
theorem nfasUselessCoded_syms {o : NfaOrd} (ho : o.Ok) (A : NFAS) :
    SymObsEq (nfasUselessCoded o true A) (nfasRemoveUseless A) := by
  unfold nfasUselessCoded nfasRemoveUseless
  have s1 := (nfasUnreachCoded_setEq ho A).1
  have h2 : SymObsEq (nfasReverseCoded o true (nfasUnreachCoded o A)) (nfasReverse (nfasRemoveUnreachable A)) :=
    SymObsEq.reverse ho (SymObsEq.unreach ho (fun _ => ⟨rfl, rfl⟩)) s1.2.1
  have s3 : NfaSetEq (nfasUnreachCoded o (nfasReverseCoded o true (nfasUnreachCoded o A))).toNFA
      (nfasRemoveUnreachable (nfasReverse (nfasRemoveUnreachable A))).toNFA := by
    -- spelt on `NFA`, as the lemmas give it; matching the two spellings by unification would unfold the search
    rw [nfasRemoveUnreachable_toNFA, nfasReverse_toNFA, nfasRemoveUnreachable_toNFA]
    exact (nfasUnreachCoded_setEq ho _).1.trans ((nfasReverseCoded_setEq ho true _).trans s1.reverse).removeUnreachable
  exact (h2.unreach ho).reverse ho s3.2.1

end Vata.NfaC
