import Vata.LoadDump
import Vata.Proofs.Timbuk
import Vata.Proofs.Rename
import Vata.Proofs.PropAux
import Vata.Proofs.Dict
/-!
# Loading and dumping through the dictionaries (properties C13, C19)

About the model `Vata/LoadDump.lean` of `LoadFromAutDesc (desc, stateDict)` / `DumpToAutDesc (stateDict)`.  Everything rests
on `Dict.Ok` and `Dict.Tr` (`Proofs/Dict.lean`): the invariant of a dictionary filled by a weak translator whose counter is its
size, and what a run of the translator does to any dictionary.  A load, from ANY translator state, is the description translated
by the forward maps it leaves (`loadFrom_spec`); with two-way dictionaries this gives the round trips (C13) and, by renaming,
the independence of the language from the numbering (C19).
`LoadFromAutDesc (desc, stateDict)` restarts the state counter at 0, so with a pre-filled state dictionary two names get one
number and both properties break (`LoadDumpEx.prefilled_clash` and the theorems after it).

The expected values of `LoadDumpTest` (in the model file) are the answers of the real library, taken with a probe that is not part of
this tree (`probe/probe.cc`: it loads the texts of `LoadDumpTest.d1`, of the second load and of the pre-filled case and prints final
states, rules, both maps of the state dictionary, the forward map of the alphabet's dictionary and the dump): identical numbers,
dictionaries, dumps and exception texts, including the clash `p ↦ 0, q ↦ 0` with backward map `0 ↦ p` of the pre-filled case.
-/
namespace Vata

namespace LoadDump
open Dict

structure LSt.Ok (s : LSt) : Prop where
  sd : s.sd.Ok
  cnt : s.cnt = s.sd.length
  yd : s.yd.Ok

/-- the state names of a transition, in the order of their translation -/
def stNames (t : List String × String × String) : List String := t.1 ++ [t.2.2]
/-- the key of the symbol of a transition: `StringRank (symbol, children.size ())` -/
def symKey (t : List String × String × String) : String × Nat := (t.2.1, t.1.length)

def ruleOf (s : LSt) (t : List String × String × String) : Rule :=
  ⟨s.yd.get (symKey t), t.1.map s.sd.get, s.sd.get t.2.2⟩

structure Covers (s : LSt) (t : List String × String × String) : Prop where
  kids : ∀ q, q ∈ t.1 → q ∈ s.sd.keys
  parent : t.2.2 ∈ s.sd.keys
  sym : symKey t ∈ s.yd.keys

/-- from `s` to `s'` the state names `Q` and the symbol keys `Y` were translated -/
structure Step (s s' : LSt) (Q : List String) (Y : List (String × Nat)) : Prop where
  sd : Tr s.sd s.cnt s'.sd s'.cnt Q
  yd : Tr s.yd s.yd.length s'.yd s'.yd.length Y

theorem Step.refl (s : LSt) : Step s s [] [] := ⟨Tr.refl _ _, Tr.refl _ _⟩

theorem Step.trans {s s' s'' : LSt} {Q Q' : List String} {Y Y' : List (String × Nat)} (h : Step s s' Q Y)
    (h' : Step s' s'' Q' Y') : Step s s'' (Q ++ Q') (Y ++ Y') := ⟨h.sd.trans h'.sd, h.yd.trans h'.yd⟩

theorem Step.ok {s s' : LSt} {Q : List String} {Y : List (String × Nat)} (h : Step s s' Q Y) (hs : s.Ok) : s'.Ok :=
  ⟨(h.sd.ok hs.sd hs.cnt).1, (h.sd.ok hs.sd hs.cnt).2, (h.yd.ok hs.yd rfl).1⟩

theorem trState_spec (s : LSt) (q : String) :
    Step s (trState s q).2 [q] [] ∧ (trState s q).2.sd.fwd? q = some (trState s q).1 :=
  ⟨⟨(weak_tr s.sd s.cnt q).1, Tr.refl _ _⟩, (weak_tr s.sd s.cnt q).2⟩

theorem trSym_spec (s : LSt) (k : String × Nat) :
    Step s (trSym s k).2 [] [k] ∧ (trSym s k).2.yd.fwd? k = some (trSym s k).1 :=
  ⟨⟨Tr.refl _ _, weak_tr_size s.yd k⟩, (weak_tr s.yd s.yd.length k).2⟩

theorem trStates_spec (s : LSt) (qs : List String) :
    Step s (trStates s qs).2 qs [] ∧ (trStates s qs).1 = qs.map (trStates s qs).2.sd.get := by
  induction qs generalizing s with
  | nil => exact ⟨Step.refl s, rfl⟩
  | cons q qs ih =>
    obtain ⟨h1, r1⟩ := trState_spec s q
    obtain ⟨h2, r2⟩ := ih (trState s q).2
    refine ⟨h1.trans h2, ?_⟩
    simp only [trStates, List.map_cons]
    rw [← r2, get_of_fwd (h2.sd.sub _ _ r1)]

theorem regSyms_spec (s : LSt) (ps : List (String × Int)) :
    Step s (regSyms s ps) [] (ps.map (fun p => (p.1, rankKey p.2))) := by
  induction ps generalizing s with
  | nil => exact Step.refl s
  | cons p ps ih => exact (trSym_spec s (p.1, rankKey p.2)).1.trans (ih _)

theorem ruleOf_lift {s s' : LSt} {Q : List String} {Y : List (String × Nat)} (h : Step s s' Q Y)
    {t : List String × String × String} (hc : Covers s t) : ruleOf s' t = ruleOf s t := by
  unfold ruleOf
  rw [h.yd.sub.get hc.sym, h.sd.sub.get hc.parent, List.map_congr_left (fun q hq => h.sd.sub.get (hc.kids q hq))]

theorem Covers.lift {s s' : LSt} {Q : List String} {Y : List (String × Nat)} (h : Step s s' Q Y)
    {t : List String × String × String} (hc : Covers s t) : Covers s' t :=
  ⟨fun q hq => h.sd.sub.keys (hc.kids q hq), h.sd.sub.keys hc.parent, h.yd.sub.keys hc.sym⟩

theorem trRule_spec (s : LSt) (t : List String × String × String) :
    Step s (trRule s t).2 (stNames t) [symKey t] ∧ (trRule s t).1 = ruleOf (trRule s t).2 t ∧
      Covers (trRule s t).2 t := by
  obtain ⟨h1, r1⟩ := trStates_spec s t.1
  obtain ⟨h2, r2⟩ := trSym_spec (trStates s t.1).2 (t.2.1, t.1.length)
  obtain ⟨h3, r3⟩ := trState_spec (trSym (trStates s t.1).2 (t.2.1, t.1.length)).2 t.2.2
  have h23 := h2.trans h3
  have hst : Step s _ (stNames t) [symKey t] := h1.trans h23
  refine ⟨hst, ?_, ?_⟩
  · exact congr (congr (congrArg Rule.mk (get_of_fwd (h3.yd.sub _ _ r2)).symm)
      (r1.trans (List.map_congr_left fun q hq => (h23.sd.sub.get (h1.sd.mem hq)).symm)))
      (get_of_fwd r3).symm
  · exact ⟨fun q hq => hst.sd.mem (List.mem_append_left _ hq),
      hst.sd.mem (List.mem_append_right _ (List.mem_singleton.mpr rfl)), hst.yd.mem (List.mem_singleton.mpr rfl)⟩

theorem trRules_spec (s : LSt) (ts : List (List String × String × String)) :
    Step s (trRules s ts).2 (ts.flatMap stNames) (ts.map symKey) ∧
      (trRules s ts).1 = ts.map (ruleOf (trRules s ts).2) ∧ ∀ t, t ∈ ts → Covers (trRules s ts).2 t := by
  induction ts generalizing s with
  | nil => exact ⟨Step.refl s, rfl, by simp⟩
  | cons t ts ih =>
    obtain ⟨h1, r1, c1⟩ := trRule_spec s t
    obtain ⟨h2, r2, c2⟩ := ih (trRule s t).2
    refine ⟨h1.trans h2, ?_, ?_⟩
    · simp only [trRules, List.map_cons]
      rw [← r2, r1, ruleOf_lift h2 c1]
    · intro t' ht'
      rcases List.mem_cons.mp ht' with e | hm
      · rw [e]; exact Covers.lift h2 c1
      · exact c2 t' hm

def stateNames (d : AutDesc) : List String := d.final ++ d.trans.flatMap stNames
def symKeys (d : AutDesc) : List (String × Nat) :=
  d.symbols.map (fun p => (p.1, rankKey p.2)) ++ d.trans.map symKey

/-- a load, from ANY translator state: the automaton is the description translated by the dictionaries the load leaves -/
theorem loadFrom_spec (s : LSt) (d : AutDesc) :
    Step s (loadFrom s d).2 (stateNames d) (symKeys d) ∧
      (loadFrom s d).1.final = d.final.map (loadFrom s d).2.sd.get ∧
      (loadFrom s d).1.rules = d.trans.map (ruleOf (loadFrom s d).2) ∧
      ∀ t, t ∈ d.trans → Covers (loadFrom s d).2 t := by
  have h0 := regSyms_spec s d.symbols
  obtain ⟨h1, r1⟩ := trStates_spec (regSyms s d.symbols) d.final
  obtain ⟨h2, r2, c2⟩ := trRules_spec (trStates (regSyms s d.symbols) d.final).2 d.trans
  refine ⟨h0.trans (h1.trans h2), ?_, r2, c2⟩
  show (trStates (regSyms s d.symbols) d.final).1 = _
  rw [r1]
  exact List.map_congr_left (fun q hq => (h2.sd.sub.get (h1.sd.mem hq)).symm)



theorem mapE_ok {α β : Type} (f : α → Except String β) (g : α → β) (l : List α)
    (H : ∀ a, a ∈ l → f a = .ok (g a)) : mapE f l = .ok (l.map g) := by
  induction l with
  | nil => rfl
  | cons a as ih =>
    simp only [mapE, List.map_cons]
    rw [H a List.mem_cons_self, ih (fun a' ha' => H a' (List.mem_cons_of_mem _ ha'))]

open Timbuk

theorem sameSet_norm_map {α β : Type} [DecidableEq β] (lt : β → β → Bool) (f : α → β) (g : β → α)
    (hgf : ∀ a, g (f a) = a) (l : List α) : SameSet ((norm lt (l.map f)).map g) l := by
  intro x
  simp only [List.mem_map, mem_norm]
  constructor
  · rintro ⟨y, ⟨a, ha, rfl⟩, rfl⟩; rw [hgf]; exact ha
  · intro hx; exact ⟨f x, ⟨x, hx, rfl⟩, hgf x⟩

theorem normDesc_name (d : AutDesc) : (normDesc d).name = d.name := String.ofList_toList
theorem normDesc_symbols (d : AutDesc) : (normDesc d).symbols ≈ d.symbols :=
  sameSet_norm_map ltSym (fun p : String × Int => (p.1.toList, p.2)) (fun p => (String.ofList p.1, p.2))
    (fun a => by simp) d.symbols
theorem normDesc_states (d : AutDesc) : (normDesc d).states ≈ d.states :=
  sameSet_norm_map ltStr String.toList String.ofList (fun _ => String.ofList_toList) d.states
theorem normDesc_final (d : AutDesc) : (normDesc d).final ≈ d.final :=
  sameSet_norm_map ltStr String.toList String.ofList (fun _ => String.ofList_toList) d.final
theorem normDesc_trans (d : AutDesc) : (normDesc d).trans ≈ d.trans :=
  sameSet_norm_map ltTrans
    (fun t : List String × String × String => (t.1.map String.toList, t.2.1.toList, t.2.2.toList))
    (fun t => (t.1.map String.ofList, String.ofList t.2.1, String.ofList t.2.2))
    (fun a => by simp) d.trans
theorem normDesc_symbols_nil (d : AutDesc) (h : d.symbols = []) : (normDesc d).symbols = [] := by
  simp [normDesc, ofS, Desc.toS, h, norm, setInsertAll]
theorem normDesc_states_nil (d : AutDesc) (h : d.states = []) : (normDesc d).states = [] := by
  simp [normDesc, ofS, Desc.toS, h, norm, setInsertAll]

/-- what a dump returns: no name, no symbols, no states; the final states and the transitions in `std::set` order -/
def dumpOf (final : List String) (trans : List (List String × String × String)) : AutDesc :=
  normDesc { name := "", symbols := [], states := [], final := final, trans := trans }

section
variable (final : List String) (trans : List (List String × String × String))

theorem dumpOf_name : (dumpOf final trans).name = "" := normDesc_name ⟨"", [], [], final, trans⟩
theorem dumpOf_symbols : (dumpOf final trans).symbols = [] := normDesc_symbols_nil ⟨"", [], [], final, trans⟩ rfl
theorem dumpOf_states : (dumpOf final trans).states = [] := normDesc_states_nil ⟨"", [], [], final, trans⟩ rfl
theorem dumpOf_final : (dumpOf final trans).final ≈ final := normDesc_final ⟨"", [], [], final, trans⟩
theorem dumpOf_trans : (dumpOf final trans).trans ≈ trans := normDesc_trans ⟨"", [], [], final, trans⟩

end

def nameOf (sd : StateDict) (q : Nat) : String := (sd.bwd? q).getD ""
def symNameOf (yd : SymDict) (f : Nat) : String := ((yd.bwd? f).map (·.1)).getD ""
def namedRule (sd : StateDict) (yd : SymDict) (r : Rule) : List String × String × String :=
  (r.kids.map (nameOf sd), symNameOf yd r.sym, nameOf sd r.parent)

structure Dumpable (A : TA) (sd : StateDict) (yd : SymDict) : Prop where
  named : ∀ q, q ∈ A.states → ∃ n, sd.bwd? q = some n
  inj : ∀ q q', q ∈ A.states → q' ∈ A.states → sd.bwd? q = sd.bwd? q' → q = q'
  ranked : ∀ r, r ∈ A.rules → ∃ nm, yd.bwd? r.sym = some (nm, r.kids.length)

theorem backState_nameOf {sd : StateDict} {q : Nat} (h : ∃ n, sd.bwd? q = some n) :
    backState sd q = .ok (nameOf sd q) := by
  obtain ⟨n, hn⟩ := h
  simp [backState, nameOf, hn]

theorem backSym_symNameOf {yd : SymDict} {f : Nat} (h : ∃ k, yd.bwd? f = some k) :
    backSym yd f = .ok (symNameOf yd f) := by
  obtain ⟨k, hk⟩ := h
  simp [backSym, symNameOf, hk]

theorem bwd?_eq_of_nameOf_eq {sd : StateDict} {q q' : Nat} (hq : ∃ n, sd.bwd? q = some n) (hq' : ∃ n, sd.bwd? q' = some n)
    (e : nameOf sd q = nameOf sd q') : sd.bwd? q = sd.bwd? q' := by
  obtain ⟨n, e1⟩ := hq
  obtain ⟨n', e2⟩ := hq'
  rw [nameOf, nameOf, e1, e2] at e
  rw [e1, e2]
  exact congrArg some e

theorem dumpTA_dumpable {A : TA} {sd : StateDict} {yd : SymDict} (hD : Dumpable A sd yd) :
    dumpTA A sd yd = .ok (dumpOf (A.final.map (nameOf sd)) (A.rules.map (namedRule sd yd))) := by
  unfold dumpTA
  rw [mapE_ok (backState sd) (nameOf sd) A.final
      (fun q hq => backState_nameOf (hD.named q (final_mem_states hq))),
    mapE_ok (dumpRule sd yd) (namedRule sd yd) A.rules ?_]
  · rfl
  · intro r hr
    unfold dumpRule namedRule
    rw [mapE_ok (backState sd) (nameOf sd) r.kids
        (fun q hq => backState_nameOf (hD.named q (kid_mem_states hr hq))),
      backSym_symNameOf (by obtain ⟨nm, h⟩ := hD.ranked r hr; exact ⟨_, h⟩),
      backState_nameOf (hD.named _ (parent_mem_states hr))]

theorem nameOf_get {sd : StateDict} (h : sd.Ok) {q : String} (hq : q ∈ sd.keys) : nameOf sd (sd.get q) = q := by
  unfold nameOf; rw [h.bwd_get hq]; rfl

theorem symNameOf_get {yd : SymDict} (h : yd.Ok) {k : String × Nat} (hk : k ∈ yd.keys) :
    symNameOf yd (yd.get k) = k.1 := by
  unfold symNameOf; rw [h.bwd_get hk]; rfl

theorem loadFrom_dumpable (s : LSt) (hs : s.Ok) (d : AutDesc) :
    Dumpable (loadFrom s d).1 (loadFrom s d).2.sd (loadFrom s d).2.yd := by
  obtain ⟨h, rf, rr, hc⟩ := loadFrom_spec s d
  have o := h.ok hs
  have hnamed : ∀ q, q ∈ (loadFrom s d).1.states → ∃ n, (loadFrom s d).2.sd.bwd? q = some n := by
    intro q hq
    rcases Rn.mem_states.mp hq with ⟨r, hr, hcase⟩ | hfin
    · rw [rr] at hr
      obtain ⟨t, ht, rfl⟩ := List.mem_map.mp hr
      rcases hcase with e | hk
      · rw [e]; exact ⟨_, o.sd.bwd_get (hc t ht).parent⟩
      · obtain ⟨n, hn, rfl⟩ := List.mem_map.mp hk
        exact ⟨_, o.sd.bwd_get ((hc t ht).kids n hn)⟩
    · rw [rf] at hfin
      obtain ⟨n, hn, rfl⟩ := List.mem_map.mp hfin
      exact ⟨_, o.sd.bwd_get ((h.sd.keys n).mpr (Or.inr (List.mem_append_left _ hn)))⟩
  refine ⟨hnamed, ?_, ?_⟩
  · intro q q' hq _ e
    obtain ⟨n, hn⟩ := hnamed q hq
    exact o.sd.injective.2 q q' n hn (e ▸ hn)
  · intro r hr
    rw [rr] at hr
    obtain ⟨t, ht, rfl⟩ := List.mem_map.mp hr
    exact ⟨t.2.1, by simpa [ruleOf, symKey] using o.yd.bwd_get (hc t ht).sym⟩

theorem namedRule_ruleOf {s : LSt} (hs : s.Ok) {t : List String × String × String} (hc : Covers s t) :
    namedRule s.sd s.yd (ruleOf s t) = t := by
  unfold namedRule ruleOf
  simp only
  rw [symNameOf_get hs.yd hc.sym, nameOf_get hs.sd hc.parent, map_map_eq_self (fun q hq => nameOf_get hs.sd (hc.kids q hq))]
  rfl

theorem dump_loadFrom (s : LSt) (hs : s.Ok) (d : AutDesc) :
    dumpTA (loadFrom s d).1 (loadFrom s d).2.sd (loadFrom s d).2.yd = .ok (dumpOf d.final d.trans) := by
  obtain ⟨h, rf, rr, hc⟩ := loadFrom_spec s d
  have o := h.ok hs
  rw [dumpTA_dumpable (loadFrom_dumpable s hs d), rf, rr,
    map_map_eq_self (fun q hq => nameOf_get o.sd (h.sd.mem (List.mem_append_left _ hq))),
    map_map_eq_self (fun t ht => namedRule_ruleOf o (hc t ht))]

end LoadDump

open LoadDump Dict Timbuk

theorem LoadDump.init_ok {yd : SymDict} (h : yd.Ok) : (⟨[], 0, yd⟩ : LSt).Ok := ⟨ok_nil, rfl, h⟩

/-- What `loadTA` on a fresh state dictionary and an alphabet in use (`yd.Ok`; `[]` for a fresh one) returns: both
dictionaries are `Ok` afterwards (distinct keys, values `0, 1, 2, …` in order of first occurrence, hence injective in both
directions: `Dict.Ok.bwd_fwd`, `Dict.Ok.get_inj`); the state dictionary knows exactly the state names that occur in the
final states and the transitions (NOT those of `d.states`); the symbol dictionary keeps what it knew and gains exactly the
keys `(name, size_t rank)` of `d.symbols` and `(symbol, number of children)` of the transitions; the automaton is the
description translated by these dictionaries. -/
theorem load_spec (d : AutDesc) (yd : SymDict) (hyd : yd.Ok) :
    ∃ A sd yd', loadTA d [] yd = .ok (A, sd, yd') ∧ sd.Ok ∧ yd'.Ok ∧ Sub yd yd' ∧
      (∀ q, q ∈ sd.keys ↔ q ∈ stateNames d) ∧ (∀ k, k ∈ yd'.keys ↔ k ∈ yd.keys ∨ k ∈ symKeys d) ∧
      A.final = d.final.map sd.get ∧
      A.rules = d.trans.map (fun t => ⟨yd'.get (t.2.1, t.1.length), t.1.map sd.get, sd.get t.2.2⟩) := by
  obtain ⟨h, rf, rr, _⟩ := loadFrom_spec ⟨[], 0, yd⟩ d
  have o := h.ok (init_ok hyd)
  refine ⟨_, _, _, rfl, o.sd, o.yd, h.yd.sub, ?_, h.yd.keys, rf, rr⟩
  intro q; rw [h.sd.keys]; simp [keys]

/-- **C13** load then dump, on a fresh state dictionary and an alphabet that may already be in use (the alphabet is
shared by all automata): the load succeeds, the dictionaries are injective afterwards (`Dict.Ok`), the dump with these
dictionaries succeeds and has the same final states and the same transitions, under the same names.  No hypothesis on
`d` is needed – in particular not `d.Ranked`: the alphabet's keys are pairs (name, number of children), so a name used
with two ranks is two symbols, and the dump writes each rule with its own children. -/
theorem load_dump_roundtrip_shared (d : AutDesc) (yd : SymDict) (hyd : yd.Ok) :
    ∃ A sd yd' d', loadTA d [] yd = .ok (A, sd, yd') ∧ sd.Ok ∧ yd'.Ok ∧ dumpTA A sd yd' = .ok d' ∧
      d'.final ≈ d.final ∧ d'.trans ≈ d.trans := by
  obtain ⟨h, _⟩ := loadFrom_spec ⟨[], 0, yd⟩ d
  have o := h.ok (init_ok hyd)
  exact ⟨_, _, _, _, rfl, o.sd, o.yd, dump_loadFrom ⟨[], 0, yd⟩ (init_ok hyd) d, dumpOf_final _ _, dumpOf_trans _ _⟩

/-- **C13** `load_dump_roundtrip_shared` for empty initial dictionaries -/
theorem load_dump_roundtrip (d : AutDesc) :
    ∃ A sd yd d', loadTA d [] [] = .ok (A, sd, yd) ∧ sd.Ok ∧ yd.Ok ∧ dumpTA A sd yd = .ok d' ∧
      d'.final ≈ d.final ∧ d'.trans ≈ d.trans :=
  load_dump_roundtrip_shared d [] ok_nil


theorem dump_fields {A : TA} {sd : StateDict} {yd : SymDict} {d' : AutDesc} (h : dumpTA A sd yd = .ok d') :
    d'.name = "" ∧ d'.symbols = [] ∧ d'.states = [] := by
  unfold dumpTA at h
  split at h
  · cases h
  · split at h
    · cases h
    · cases h
      exact ⟨dumpOf_name _ _, dumpOf_symbols _ _, dumpOf_states _ _⟩

/-- **C13** dump → serialize → parse → load → dump.  For ANY automaton and dictionaries for which the dump succeeds and
yields good names (`d₁.WellFormed`): the text of `DumpToString` is accepted by `LoadFromString` (fresh state dictionary,
any alphabet `yd₀` in use), and dumping the loaded automaton gives the same final states and transitions again. -/
theorem dump_load_dump (A : TA) (sd : StateDict) (yd yd₀ : SymDict) (hyd₀ : yd₀.Ok) (d₁ : AutDesc)
    (hd : dumpTA A sd yd = .ok d₁) (hwf : d₁.WellFormed) :
    ∃ A' sd' yd' d₃, dumpString A sd yd = .ok (serialize d₁) ∧
      loadString (serialize d₁) [] yd₀ = .ok (A', sd', yd') ∧ sd'.Ok ∧ yd'.Ok ∧
      dumpTA A' sd' yd' = .ok d₃ ∧ d₃.final ≈ d₁.final ∧ d₃.trans ≈ d₁.trans := by
  obtain ⟨d₂, hp, hf, ht⟩ := parse_serialize d₁ hwf
  obtain ⟨A', sd', yd', d₃, hl, hsd, hyd, hd3, hf3, ht3⟩ := load_dump_roundtrip_shared d₂ yd₀ hyd₀
  refine ⟨A', sd', yd', d₃, ?_, ?_, hsd, hyd, hd3, fun x => (hf3 x).trans (hf x), fun x => (ht3 x).trans (ht x)⟩
  · unfold dumpString; rw [hd]
  · unfold loadString; rw [hp]; exact hl

theorem LoadDump.dumpOf_wellFormed_of {final : List String} {trans : List (List String × String × String)}
    (hf : ∀ q ∈ final, goodName q.toList = true)
    (ht : ∀ t ∈ trans, (∀ k ∈ t.1, goodName k.toList = true) ∧ goodName t.2.1.toList = true ∧
      goodName t.2.2.toList = true) : (dumpOf final trans).WellFormed := by
  refine (AutDesc.wellFormed_iff _).mpr ⟨?_, ?_, ?_, ?_, ?_⟩
  · rw [dumpOf_name]; exact fun _ h => nomatch h
  · rw [dumpOf_symbols]; exact fun _ h => nomatch h
  · rw [dumpOf_states]; exact fun _ h => nomatch h
  · exact fun q hq => hf q ((dumpOf_final _ _ q).mp hq)
  · exact fun t h => ht t ((dumpOf_trans _ _ t).mp h)

theorem LoadDump.dumpOf_wellFormed (d : AutDesc) (hwf : d.WellFormed) : (dumpOf d.final d.trans).WellFormed :=
  dumpOf_wellFormed_of ((AutDesc.wellFormed_iff d).mp hwf).2.2.2.1 ((AutDesc.wellFormed_iff d).mp hwf).2.2.2.2

/-- **C13** the whole chain from a well-formed description: load it, dump to text, load the text (fresh state dictionary,
the alphabet as the first load left it), dump: the final states and transitions of `d` again. -/
theorem text_roundtrip (d : AutDesc) (hwf : d.WellFormed) :
    ∃ A sd yd txt A' sd' yd' d₃, loadTA d [] [] = .ok (A, sd, yd) ∧ dumpString A sd yd = .ok txt ∧
      loadString txt [] yd = .ok (A', sd', yd') ∧ dumpTA A' sd' yd' = .ok d₃ ∧
      d₃.final ≈ d.final ∧ d₃.trans ≈ d.trans := by
  obtain ⟨h, _⟩ := loadFrom_spec ⟨[], 0, []⟩ d
  have o := h.ok (init_ok ok_nil)
  have hd := dump_loadFrom ⟨[], 0, []⟩ (init_ok ok_nil) d
  obtain ⟨A', sd', yd', d₃, h1, h2, _, _, h3, hf, ht⟩ :=
    dump_load_dump _ _ _ _ o.yd _ hd (dumpOf_wellFormed d hwf)
  exact ⟨_, _, _, _, A', sd', yd', d₃, rfl, h1, h2, h3,
    fun x => (hf x).trans (dumpOf_final _ _ x), fun x => (ht x).trans (dumpOf_trans _ _ x)⟩



namespace LoadDump

theorem mem_stateNames {d : AutDesc} {q : String} :
    q ∈ stateNames d ↔ q ∈ d.final ∨ ∃ t, t ∈ d.trans ∧ (q ∈ t.1 ∨ q = t.2.2) := by
  simp only [stateNames, stNames, List.mem_append, List.mem_flatMap, List.mem_singleton]

theorem mem_symKeys {d : AutDesc} {k : String × Nat} :
    k ∈ symKeys d ↔ (∃ p, p ∈ d.symbols ∧ (p.1, rankKey p.2) = k) ∨ ∃ t, t ∈ d.trans ∧ symKey t = k := by
  simp [symKeys]

theorem stateNames_congr {d₁ d₂ : AutDesc} (hf : d₁.final ≈ d₂.final) (ht : d₁.trans ≈ d₂.trans) (q : String) :
    q ∈ stateNames d₁ ↔ q ∈ stateNames d₂ := by
  rw [mem_stateNames, mem_stateNames, hf q]
  exact or_congr Iff.rfl (exists_congr fun t => and_congr (ht t) Iff.rfl)

theorem symKeys_congr {d₁ d₂ : AutDesc} (hs : d₁.symbols ≈ d₂.symbols) (ht : d₁.trans ≈ d₂.trans)
    (k : String × Nat) : k ∈ symKeys d₁ ↔ k ∈ symKeys d₂ := by
  rw [mem_symKeys, mem_symKeys]
  exact or_congr (exists_congr fun p => and_congr (hs p) Iff.rfl) (exists_congr fun t => and_congr (ht t) Iff.rfl)

end LoadDump

/-- an automaton given by names (transitions `ts` with symbol keys `sk`, final states `fin`), numbered through two pairs of
injective dictionaries that have the same keys and know its names; `ts'`, `fin'` list the same sets in another order.  The
second numbering is the image of the first under the bijections `transfer` of the state and symbol numbers -/
theorem transfer_numbered {κ : Type} [DecidableEq κ] {sd₁ sd₂ : Dict String} {yd₁ yd₂ : Dict κ}
    (os1 : sd₁.Ok) (os2 : sd₂.Ok) (oy1 : yd₁.Ok) (oy2 : yd₂.Ok)
    (hks : ∀ q, q ∈ sd₁.keys ↔ q ∈ sd₂.keys) (hky : ∀ k, k ∈ yd₁.keys ↔ k ∈ yd₂.keys)
    (sk : List String × String × String → κ) {ts ts' : List (List String × String × String)} {fin fin' : List String}
    (ht : ts ≈ ts') (hf : fin ≈ fin')
    (hcov : ∀ t, t ∈ ts → (∀ q, q ∈ t.1 → q ∈ sd₁.keys) ∧ t.2.2 ∈ sd₁.keys ∧ sk t ∈ yd₁.keys)
    (hfin : ∀ q, q ∈ fin → q ∈ sd₁.keys) {A₁ A₂ : TA}
    (r1 : A₁.rules = ts.map (fun t => ⟨yd₁.get (sk t), t.1.map sd₁.get, sd₁.get t.2.2⟩)) (f1 : A₁.final = fin.map sd₁.get)
    (r2 : A₂.rules = ts'.map (fun t => ⟨yd₂.get (sk t), t.1.map sd₂.get, sd₂.get t.2.2⟩))
    (f2 : A₂.final = fin'.map sd₂.get) :
    (Function.Injective (transfer sd₁ sd₂) ∧ Function.Surjective (transfer sd₁ sd₂)) ∧
      (Function.Injective (transfer yd₁ yd₂) ∧ Function.Surjective (transfer yd₁ yd₂)) ∧
      (∀ q, q ∈ sd₁.keys → transfer sd₁ sd₂ (sd₁.get q) = sd₂.get q) ∧
      (∀ k, k ∈ yd₁.keys → transfer yd₁ yd₂ (yd₁.get k) = yd₂.get k) ∧
      A₂.rules ≈ (translateSymbols (transfer yd₁ yd₂) (reindex (transfer sd₁ sd₂) A₁)).rules ∧
      A₂.final ≈ (translateSymbols (transfer yd₁ yd₂) (reindex (transfer sd₁ sd₂) A₁)).final ∧
      ∀ t, accepts A₂ (t.mapSyms (transfer yd₁ yd₂)) = accepts A₁ t := by
  have hh := fun q (hq : q ∈ sd₁.keys) => transfer_get sd₂ os1 hq
  have hg := fun k (hk : k ∈ yd₁.keys) => transfer_get yd₂ oy1 hk
  have e : translateSymbols (transfer yd₁ yd₂) (reindex (transfer sd₁ sd₂) A₁) =
      ⟨ts.map (fun t => ⟨yd₂.get (sk t), t.1.map sd₂.get, sd₂.get t.2.2⟩), fin.map sd₂.get⟩ := by
    simp only [translateSymbols, reindex, r1, f1, List.map_map, TA.mk.injEq]
    refine ⟨List.map_congr_left fun t htm => ?_, List.map_congr_left fun n hn => hh n (hfin n hn)⟩
    obtain ⟨hkid, hpar, hsym⟩ := hcov t htm
    simp only [Function.comp, mapSym, mapRule, List.map_map]
    rw [hg _ hsym, hh _ hpar,
      List.map_congr_left (f := transfer sd₁ sd₂ ∘ sd₁.get) (g := sd₂.get) (fun q hq => hh q (hkid q hq))]
  have hrules : A₂.rules ≈ (translateSymbols (transfer yd₁ yd₂) (reindex (transfer sd₁ sd₂) A₁)).rules :=
    fun r => by rw [e, r2]; exact (sameSet_map ht _ r).symm
  have hfinal : A₂.final ≈ (translateSymbols (transfer yd₁ yd₂) (reindex (transfer sd₁ sd₂) A₁)).final :=
    fun q => by rw [e, f2]; exact (sameSet_map hf _ q).symm
  have ih := transfer_injective os1 os2 hks
  have ig := transfer_injective oy1 oy2 hky
  refine ⟨⟨ih, transfer_surjective os1 os2 hks⟩, ⟨ig, transfer_surjective oy1 oy2 hky⟩, hh, hg, hrules, hfinal, fun t => ?_⟩
  rw [lang_perm_invariant A₂ _ hrules hfinal, translateSymbols_lang _ (fun a b e => ig e),
    reindex_inj_lang _ A₁ (fun q q' _ _ e => ih e)]

/-- **C19** the order in which the description lists symbols, final states and transitions (hence the numbering of the
states and the symbols) does not matter.  Two descriptions with the same sets of symbols, final states and transitions
(e.g. permutations of each other), loaded on fresh state dictionaries from the same alphabet: the second automaton is the
image of the first under a bijection `h` of the state numbers and a bijection `g` of the symbol numbers (`h`, `g`
translate the first numbering to the second, name by name), and it accepts the `g`-renamed trees of the first. -/
theorem load_lang_perm (d₁ d₂ : AutDesc) (yd : SymDict) (hyd : yd.Ok) (hs : d₁.symbols ≈ d₂.symbols)
    (hf : d₁.final ≈ d₂.final) (ht : d₁.trans ≈ d₂.trans) :
    ∃ A₁ sd₁ yd₁ A₂ sd₂ yd₂ h g, loadTA d₁ [] yd = .ok (A₁, sd₁, yd₁) ∧ loadTA d₂ [] yd = .ok (A₂, sd₂, yd₂) ∧
      (Function.Injective h ∧ Function.Surjective h) ∧ (Function.Injective g ∧ Function.Surjective g) ∧
      (∀ q, q ∈ sd₁.keys → h (sd₁.get q) = sd₂.get q) ∧ (∀ k, k ∈ yd₁.keys → g (yd₁.get k) = yd₂.get k) ∧
      (∀ r, r ∈ A₂.rules ↔ r ∈ (translateSymbols g (reindex h A₁)).rules) ∧
      (∀ q, q ∈ A₂.final ↔ q ∈ (translateSymbols g (reindex h A₁)).final) ∧
      ∀ t, accepts A₂ (t.mapSyms g) = accepts A₁ t := by
  obtain ⟨A₁, sd₁, yd₁, l1, os1, oy1, _, ks1, ky1, f1, r1⟩ := load_spec d₁ yd hyd
  obtain ⟨A₂, sd₂, yd₂, l2, os2, oy2, _, ks2, ky2, f2, r2⟩ := load_spec d₂ yd hyd
  exact ⟨A₁, sd₁, yd₁, A₂, sd₂, yd₂, transfer sd₁ sd₂, transfer yd₁ yd₂, l1, l2,
    transfer_numbered os1 os2 oy1 oy2 (fun q => by rw [ks1, ks2]; exact stateNames_congr hf ht q)
      (fun k => by rw [ky1, ky2]; exact or_congr Iff.rfl (symKeys_congr hs ht k)) symKey ht hf
      (fun t htm => ⟨fun q hq => (ks1 q).mpr (mem_stateNames.mpr (Or.inr ⟨t, htm, Or.inl hq⟩)),
        (ks1 _).mpr (mem_stateNames.mpr (Or.inr ⟨t, htm, Or.inr rfl⟩)),
        (ky1 _).mpr (Or.inr (mem_symKeys.mpr (Or.inr ⟨t, htm, rfl⟩)))⟩)
      (fun n hn => (ks1 n).mpr (mem_stateNames.mpr (Or.inl hn))) r1 f1 r2 f2⟩

namespace LoadDump
mutual
theorem mapSyms_surjective (g : Nat → Nat) (gs : Function.Surjective g) : ∀ t : Tree, ∃ t', Tree.mapSyms g t' = t
  | .node f ts => by
    obtain ⟨f', hf⟩ := gs f
    obtain ⟨ts', hts⟩ := mapSymsL_surjective g gs ts
    exact ⟨.node f' ts', by rw [Tree.mapSyms, hf, hts]⟩
theorem mapSymsL_surjective (g : Nat → Nat) (gs : Function.Surjective g) :
    ∀ ts : List Tree, ∃ ts', Tree.mapSymsL g ts' = ts
  | [] => ⟨[], rfl⟩
  | t :: ts => by
    obtain ⟨t', ht⟩ := mapSyms_surjective g gs t
    obtain ⟨ts', hts⟩ := mapSymsL_surjective g gs ts
    exact ⟨t' :: ts', by rw [Tree.mapSymsL, ht, hts]⟩
end

theorem reload_lang (A : TA) (sd : StateDict) (yd : SymDict) (hyd : yd.Ok) (hD : Dumpable A sd yd) (d : AutDesc)
    (hf : d.final ≈ A.final.map (nameOf sd)) (ht : d.trans ≈ A.rules.map (namedRule sd yd)) :
    ∃ A' sd' yd', loadTA d [] yd = .ok (A', sd', yd') ∧ sd'.Ok ∧ yd'.Ok ∧ Dict.Sub yd yd' ∧
      ∃ h, InjOnStates h A ∧ (∀ r, r ∈ A'.rules ↔ r ∈ (reindex h A).rules) ∧
        (∀ q, q ∈ A'.final ↔ q ∈ (reindex h A).final) ∧ ∀ t, accepts A' t = accepts A t := by
  obtain ⟨A', sd', yd', l, os, oy, sub, ks, _, f', hr'⟩ := load_spec d yd hyd
  have hrule : ∀ r, r ∈ A.rules →
      (⟨yd'.get ((namedRule sd yd r).2.1, (namedRule sd yd r).1.length), (namedRule sd yd r).1.map sd'.get,
        sd'.get (namedRule sd yd r).2.2⟩ : Rule) = mapRule (fun q => sd'.get (nameOf sd q)) r := by
    intro r hr
    obtain ⟨nm, hnm⟩ := hD.ranked r hr
    have e1 : symNameOf yd r.sym = nm := by simp [symNameOf, hnm]
    have e2 : yd'.get (nm, r.kids.length) = r.sym := get_of_fwd (sub _ _ (hyd.bwd_fwd.mp hnm))
    simp only [namedRule, List.length_map, List.map_map, mapRule, e1, e2]
    rfl
  have hrules : ∀ r, r ∈ A'.rules ↔ r ∈ (reindex (fun q => sd'.get (nameOf sd q)) A).rules := by
    intro r'
    rw [hr', sameSet_map ht _ r', List.map_map]
    exact iff_of_eq (congrArg (r' ∈ ·) (List.map_congr_left hrule))
  have hfinal : ∀ q, q ∈ A'.final ↔ q ∈ (reindex (fun q => sd'.get (nameOf sd q)) A).final := by
    intro q'
    rw [f', sameSet_map hf _ q', List.map_map]
    rfl
  have hkey : ∀ q, q ∈ A.states → nameOf sd q ∈ sd'.keys := by
    intro q hq
    rw [ks, mem_stateNames]
    rcases Rn.mem_states.mp hq with ⟨r, hr, hc⟩ | hfin
    · refine Or.inr ⟨namedRule sd yd r, (ht _).mpr (List.mem_map.mpr ⟨r, hr, rfl⟩), ?_⟩
      rcases hc with hc | hc
      · right; rw [hc]; rfl
      · left; exact List.mem_map.mpr ⟨q, hc, rfl⟩
    · exact Or.inl ((hf _).mpr (List.mem_map.mpr ⟨q, hfin, rfl⟩))
  have hinj : InjOnStates (fun q => sd'.get (nameOf sd q)) A := by
    intro q q' hq hq' e
    exact hD.inj q q' hq hq' (bwd?_eq_of_nameOf_eq (hD.named q hq) (hD.named q' hq')
      (os.get_inj (hkey q hq) (hkey q' hq') e))
  refine ⟨A', sd', yd', l, os, oy, sub, _, hinj, hrules, hfinal, ?_⟩
  intro t
  rw [lang_perm_invariant A' _ hrules hfinal, reindex_inj_lang _ A hinj]

end LoadDump

/-- **C19** an automaton is equivalent to its dumped-and-reloaded form.  For any automaton with dictionaries that name
its states injectively and contain its symbols with their ranks (`Dumpable`; the alphabet in the state that the weak
translator keeps, `yd.Ok`): the dump succeeds, and loading the dumped description (fresh state dictionary, the same
alphabet) gives an automaton with the same language (it is `A` with the states renumbered). -/
theorem dump_reload_lang (A : TA) (sd : StateDict) (yd : SymDict) (hyd : yd.Ok) (hD : Dumpable A sd yd) :
    ∃ d₁ A' sd' yd', dumpTA A sd yd = .ok d₁ ∧ loadTA d₁ [] yd = .ok (A', sd', yd') ∧
      ∀ t, accepts A' t = accepts A t := by
  obtain ⟨A', sd', yd', l, _, _, _, _, _, _, _, hl⟩ :=
    reload_lang A sd yd hyd hD (dumpOf (A.final.map (nameOf sd)) (A.rules.map (namedRule sd yd)))
      (dumpOf_final _ _) (dumpOf_trans _ _)
  exact ⟨_, A', sd', yd', dumpTA_dumpable hD, l, hl⟩

/-- **C19** the same through the text (`DumpToString`, then `LoadFromString`), when the names are good -/
theorem dump_reload_text_lang (A : TA) (sd : StateDict) (yd : SymDict) (hyd : yd.Ok) (hD : Dumpable A sd yd)
    (hwf : (dumpOf (A.final.map (nameOf sd)) (A.rules.map (namedRule sd yd))).WellFormed) :
    ∃ txt A' sd' yd', dumpString A sd yd = .ok txt ∧ loadString txt [] yd = .ok (A', sd', yd') ∧
      ∀ t, accepts A' t = accepts A t := by
  obtain ⟨d₂, hp, hf, ht⟩ := parse_serialize _ hwf
  obtain ⟨A', sd', yd', l, _, _, _, _, _, _, _, hl⟩ :=
    reload_lang A sd yd hyd hD d₂ (fun x => (hf x).trans (dumpOf_final _ _ x)) (fun x => (ht x).trans (dumpOf_trans _ _ x))
  refine ⟨serialize (dumpOf (A.final.map (nameOf sd)) (A.rules.map (namedRule sd yd))), A', sd', yd', ?_, ?_, hl⟩
  · unfold dumpString; rw [dumpTA_dumpable hD]
  · unfold loadString; rw [hp]; exact l

/-- **C19** for loaded automata, the whole chain: load a well-formed description, dump it to text, load the text
(fresh state dictionary, the alphabet as it is): the two automata have the same language -/
theorem load_dump_reload_lang (d : AutDesc) (yd : SymDict) (hyd : yd.Ok) (hwf : d.WellFormed) :
    ∃ A sd yd' txt A' sd' yd'', loadTA d [] yd = .ok (A, sd, yd') ∧ dumpString A sd yd' = .ok txt ∧
      loadString txt [] yd' = .ok (A', sd', yd'') ∧ ∀ t, accepts A' t = accepts A t := by
  obtain ⟨h, _⟩ := loadFrom_spec ⟨[], 0, yd⟩ d
  have o := h.ok (init_ok hyd)
  have hD := loadFrom_dumpable ⟨[], 0, yd⟩ (init_ok hyd) d
  have e := (dumpTA_dumpable hD).symm.trans (dump_loadFrom ⟨[], 0, yd⟩ (init_ok hyd) d)
  have hwf' := dumpOf_wellFormed d hwf
  rw [← Except.ok.inj e] at hwf'
  obtain ⟨txt, A', sd', yd'', h1, h2, h3⟩ := dump_reload_text_lang _ _ _ o.yd hD hwf'
  exact ⟨_, _, _, txt, A', sd', yd'', rfl, h1, h2, h3⟩


/-- The dump writes only the NAME of a symbol.  When the transitions use every symbol name with one number of children
(`d.Ranked`), rules of the loaded automaton whose symbols have the same name have the same symbol (without it they need
not: `LoadDumpEx.unranked_names`). -/
theorem load_ranked_names (d : AutDesc) (yd : SymDict) (hyd : yd.Ok) (hr : d.Ranked) :
    ∃ A sd yd', loadTA d [] yd = .ok (A, sd, yd') ∧
      ∀ r r', r ∈ A.rules → r' ∈ A.rules → symNameOf yd' r.sym = symNameOf yd' r'.sym → r.sym = r'.sym := by
  obtain ⟨h, _, rr, hc⟩ := loadFrom_spec ⟨[], 0, yd⟩ d
  have o := h.ok (init_ok hyd)
  refine ⟨_, _, _, rfl, ?_⟩
  intro r r' hr1 hr2 e
  rw [rr] at hr1 hr2
  obtain ⟨t, ht, rfl⟩ := List.mem_map.mp hr1
  obtain ⟨t', ht', rfl⟩ := List.mem_map.mp hr2
  have n1 : symNameOf (loadFrom ⟨[], 0, yd⟩ d).2.yd (ruleOf (loadFrom ⟨[], 0, yd⟩ d).2 t).sym = t.2.1 :=
    symNameOf_get o.yd (hc t ht).sym
  have n2 : symNameOf (loadFrom ⟨[], 0, yd⟩ d).2.yd (ruleOf (loadFrom ⟨[], 0, yd⟩ d).2 t').sym = t'.2.1 :=
    symNameOf_get o.yd (hc t' ht').sym
  rw [n1, n2] at e
  have : symKey t = symKey t' := by simp only [symKey, e, hr t ht t' ht' e]
  simp only [ruleOf, this]


namespace LoadDumpEx
open TimbukEx

-- `exD` (names with `-` and `>`, `f` with two ranks, duplicates, unsorted) and `exE` are well-formed
example : exD.WellFormed ∧ exE.WellFormed ∧ exE.Ranked ∧ ¬ exD.Ranked := by decide +kernel

example : loadTA exE [] [] = .ok
    (⟨[⟨1, [1, 0], 0⟩, ⟨0, [], 1⟩, ⟨1, [0, 0], 1⟩], [0, 1, 0]⟩, [("r", 0), ("q", 1)], [(("a", 0), 0), (("f", 2), 1)]) := rfl

example : dumpTA ⟨[⟨1, [1, 0], 0⟩, ⟨0, [], 1⟩, ⟨1, [0, 0], 1⟩], [0, 1, 0]⟩ [("r", 0), ("q", 1)]
    [(("a", 0), 0), (("f", 2), 1)] = .ok
    ⟨"", [], [], ["q", "r"], [([], "a", "q"), (["q", "r"], "f", "r"), (["r", "r"], "f", "q")]⟩ := rfl

example : ∃ A sd yd d', loadTA exD [] [] = .ok (A, sd, yd) ∧ sd.Ok ∧ yd.Ok ∧ dumpTA A sd yd = .ok d' ∧
    d'.final ≈ exD.final ∧ d'.trans ≈ exD.trans := load_dump_roundtrip exD

def ydUsed : SymDict := [(("a", 0), 0), (("g", 1), 1), (("f", 3), 2)]
theorem ydUsed_ok : ydUsed.Ok := ⟨by decide, by decide⟩

example : ∃ A sd yd' d', loadTA exD [] ydUsed = .ok (A, sd, yd') ∧ sd.Ok ∧ yd'.Ok ∧ dumpTA A sd yd' = .ok d' ∧
    d'.final ≈ exD.final ∧ d'.trans ≈ exD.trans := load_dump_roundtrip_shared exD ydUsed ydUsed_ok

example : ∃ A sd yd txt A' sd' yd' d₃, loadTA exE [] [] = .ok (A, sd, yd) ∧ dumpString A sd yd = .ok txt ∧
    loadString txt [] yd = .ok (A', sd', yd') ∧ dumpTA A' sd' yd' = .ok d₃ ∧
    d₃.final ≈ exE.final ∧ d₃.trans ≈ exE.trans := text_roundtrip exE (by decide +kernel)

/-- `exE` with everything listed in another order -/
def exE' : AutDesc :=
  { name := "B", symbols := [("f", 2), ("a", 0)], states := [], final := ["q", "r"],
    trans := [(["r", "r"], "f", "q"), (["q", "r"], "f", "r"), ([], "a", "q")] }

theorem exE_exE' : exE.symbols ≈ exE'.symbols ∧ exE.final ≈ exE'.final ∧ exE.trans ≈ exE'.trans := by
  refine ⟨fun x => ?_, fun x => ?_, fun x => ?_⟩ <;> simp [exE, exE'] <;> grind

/-- the two loads number states and symbols differently (here both numberings are swapped) -/
example : loadTA exE' [] [] = .ok
    (⟨[⟨0, [1, 1], 0⟩, ⟨0, [0, 1], 1⟩, ⟨1, [], 0⟩], [0, 1]⟩, [("q", 0), ("r", 1)], [(("f", 2), 0), (("a", 0), 1)]) := rfl

example : ∃ A₁ sd₁ yd₁ A₂ sd₂ yd₂ h g, loadTA exE [] [] = .ok (A₁, sd₁, yd₁) ∧ loadTA exE' [] [] = .ok (A₂, sd₂, yd₂) ∧
    (Function.Injective h ∧ Function.Surjective h) ∧ (Function.Injective g ∧ Function.Surjective g) ∧
    (∀ q, q ∈ sd₁.keys → h (sd₁.get q) = sd₂.get q) ∧ (∀ k, k ∈ yd₁.keys → g (yd₁.get k) = yd₂.get k) ∧
    (∀ r, r ∈ A₂.rules ↔ r ∈ (translateSymbols g (reindex h A₁)).rules) ∧
    (∀ q, q ∈ A₂.final ↔ q ∈ (translateSymbols g (reindex h A₁)).final) ∧
    ∀ t, accepts A₂ (t.mapSyms g) = accepts A₁ t :=
  load_lang_perm exE exE' [] ok_nil exE_exE'.1 exE_exE'.2.1 exE_exE'.2.2

/-- a dumpable automaton that was not loaded: states 5 and 7, symbols 0 (`a`, rank 0) and 2 (`f`, rank 2) -/
def exA : TA := ⟨[⟨0, [], 5⟩, ⟨2, [5, 5], 7⟩, ⟨2, [7, 5], 7⟩], [7]⟩
def exSd : StateDict := [("q5", 5), ("top", 7), ("other", 1)]
def exYd : SymDict := [(("a", 0), 0), (("b", 0), 1), (("f", 2), 2)]

theorem exYd_ok : exYd.Ok := ⟨by decide, by decide⟩
theorem exA_dumpable : Dumpable exA exSd exYd := by
  have hst : ∀ q, q ∈ exA.states → q = 5 ∨ q = 7 := by decide +kernel
  refine ⟨?_, ?_, ?_⟩
  · intro q hq; rcases hst q hq with rfl | rfl <;> exact ⟨_, rfl⟩
  · intro q q' hq hq' e
    rcases hst q hq with rfl | rfl <;> rcases hst q' hq' with rfl | rfl <;> first | rfl | (exfalso; revert e; decide +kernel)
  · intro r hr
    simp only [exA, List.mem_cons, List.not_mem_nil, or_false] at hr
    rcases hr with rfl | rfl | rfl <;> exact ⟨_, rfl⟩

example : ∃ d₁ A' sd' yd', dumpTA exA exSd exYd = .ok d₁ ∧ loadTA d₁ [] exYd = .ok (A', sd', yd') ∧
    ∀ t, accepts A' t = accepts exA t := dump_reload_lang exA exSd exYd exYd_ok exA_dumpable

example : dumpTA exA exSd exYd = .ok
    ⟨"", [], [], ["top"], [([], "a", "q5"), (["q5", "q5"], "f", "top"), (["top", "q5"], "f", "top")]⟩ := rfl

example : (dumpOf (exA.final.map (nameOf exSd)) (exA.rules.map (namedRule exSd exYd))).WellFormed := by decide +kernel

example : ∃ A sd yd' txt A' sd' yd'', loadTA exD [] ydUsed = .ok (A, sd, yd') ∧ dumpString A sd yd' = .ok txt ∧
    loadString txt [] yd' = .ok (A', sd', yd'') ∧ ∀ t, accepts A' t = accepts A t :=
  load_dump_reload_lang exD ydUsed ydUsed_ok (by decide +kernel)

example : ∃ txt A' sd' yd', dumpString exA exSd exYd = .ok txt ∧ loadString txt [] exYd = .ok (A', sd', yd') ∧
    ∀ t, accepts A' t = accepts exA t := dump_reload_text_lang exA exSd exYd exYd_ok exA_dumpable (by decide +kernel)

/-- `dump_load_dump` on an automaton that was not loaded, reloading on another alphabet -/
example : ∃ A' sd' yd' d₃, dumpString exA exSd exYd = .ok (serialize (dumpOf ["top"]
      [([], "a", "q5"), (["q5", "q5"], "f", "top"), (["top", "q5"], "f", "top")])) ∧
    loadString (serialize (dumpOf ["top"] [([], "a", "q5"), (["q5", "q5"], "f", "top"), (["top", "q5"], "f", "top")]))
      [] ydUsed = .ok (A', sd', yd') ∧ sd'.Ok ∧ yd'.Ok ∧ dumpTA A' sd' yd' = .ok d₃ ∧
    d₃.final ≈ (dumpOf ["top"] [([], "a", "q5"), (["q5", "q5"], "f", "top"), (["top", "q5"], "f", "top")]).final ∧
    d₃.trans ≈ (dumpOf ["top"] [([], "a", "q5"), (["q5", "q5"], "f", "top"), (["top", "q5"], "f", "top")]).trans :=
  dump_load_dump exA exSd exYd ydUsed ydUsed_ok _ rfl (by decide +kernel)

/-- without `Ranked`: in the load of `exD` the rules `f(q0, q1) -> q-` and `f(q0, q1, >r) -> q0` have symbols with the
same name `f` but different numbers -/
theorem unranked_names : ∃ A sd yd, loadTA exD [] [] = .ok (A, sd, yd) ∧
    ∃ r r', r ∈ A.rules ∧ r' ∈ A.rules ∧ symNameOf yd r.sym = symNameOf yd r'.sym ∧ r.sym ≠ r'.sym :=
  ⟨_, _, _, rfl, ⟨0, [0, 1], 2⟩, ⟨4, [0, 1, 3], 0⟩, by decide +kernel, by decide +kernel, by decide +kernel, by decide +kernel⟩

example : ∃ A sd yd', loadTA exE [] ydUsed = .ok (A, sd, yd') ∧
    ∀ r r', r ∈ A.rules → r' ∈ A.rules → symNameOf yd' r.sym = symNameOf yd' r'.sym → r.sym = r'.sym :=
  load_ranked_names exE ydUsed ydUsed_ok (by decide)


def pre0 : AutDesc := { name := "", symbols := [], states := [], final := ["p"], trans := [([], "b", "p")] }
def preSd : StateDict := [("p", 0)]
example : loadTA pre0 [] [] = .ok (⟨[⟨0, [], 0⟩], [0]⟩, preSd, [(("b", 0), 0)]) := rfl
theorem preSd_ok : preSd.Ok := ⟨by decide, by decide⟩

/-- a second description, loaded with the SAME state dictionary: `a -> q`, `b -> p`, final state `p` -/
def preD : AutDesc :=
  { name := "", symbols := [], states := [], final := ["p"], trans := [([], "a", "q"), ([], "b", "p")] }
def preYd : SymDict := [(("b", 0), 0)]

/-- `LoadFromAutDesc (desc, stateDict)` restarts the state counter at 0: the new name `q` gets the number 0 that `p`
has.  The forward map then has `p ↦ 0` and `q ↦ 0`, the backward map still `0 ↦ p` (the real library prints
"backward mapping for 0 already found: p" and carries on, the `assert (false)` being compiled out). -/
theorem prefilled_clash : ∃ A sd yd, loadTA preD preSd preYd = .ok (A, sd, yd) ∧
    sd = [("p", 0), ("q", 0)] ∧ sd.fwd? "p" = some 0 ∧ sd.fwd? "q" = some 0 ∧ sd.bwd? 0 = some "p" ∧
    A.rules = [⟨1, [], 0⟩, ⟨0, [], 0⟩] ∧ A.final = [0] :=
  ⟨_, _, _, rfl, rfl, rfl, rfl, rfl, rfl, rfl⟩

theorem prefilled_not_injective : ∃ A sd yd, loadTA preD preSd preYd = .ok (A, sd, yd) ∧
    ¬ (∀ k k' v, sd.fwd? k = some v → sd.fwd? k' = some v → k = k') :=
  ⟨_, _, _, rfl, fun h => absurd (h "p" "q" 0 rfl rfl) (by decide)⟩

/-- … the round trip fails: the dump has `a -> p` instead of `a -> q` -/
theorem prefilled_roundtrip_fails : ∃ A sd yd d', loadTA preD preSd preYd = .ok (A, sd, yd) ∧
    dumpTA A sd yd = .ok d' ∧ ([], "a", "q") ∈ preD.trans ∧ ([], "a", "q") ∉ d'.trans ∧ ([], "a", "p") ∈ d'.trans ∧
    ([], "a", "p") ∉ preD.trans :=
  ⟨_, _, _, ⟨"", [], [], ["p"], [([], "a", "p"), ([], "b", "p")]⟩, rfl, rfl, by decide +kernel, by decide +kernel, by decide +kernel, by decide +kernel⟩

/-- … and the language is wrong: the loaded automaton accepts the leaf `a` (symbol number 1), which the description
does not (`q` is not final); the load with a fresh state dictionary is right -/
theorem prefilled_language_changes :
    (∃ A sd yd, loadTA preD preSd preYd = .ok (A, sd, yd) ∧ yd.fwd? ("a", 0) = some 1 ∧
      accepts A (.node 1 []) = true) ∧
    (∃ A sd yd, loadTA preD [] preYd = .ok (A, sd, yd) ∧ yd.fwd? ("a", 0) = some 1 ∧
      accepts A (.node 1 []) = false) :=
  ⟨⟨_, _, _, rfl, rfl, by decide +kernel⟩, ⟨_, _, _, rfl, rfl, by decide +kernel⟩⟩

/-- with the counter at the size of the dictionary the same load is fine -/
example : (loadFrom ⟨preSd, preSd.length, preYd⟩ preD).2.sd = [("p", 0), ("q", 1)] := rfl

end LoadDumpEx

end Vata
