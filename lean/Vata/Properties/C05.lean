import Vata.Lang
import Vata.Proofs.SimExampleRuns
import Vata.Proofs.TrimModel
import Vata.Proofs.PropAux
import Vata.Proofs.Equivariance
/-!
# C05 – Reduce preserves the language and never grows the automaton

> For any explicit tree automaton A, Reduce returns an automaton that accepts exactly the trees A accepts, has at most
> as many states and at most as many rules as A, and whose every state is the image of at least one state of A.

## How the statement is read into the model

* **Specification (L0).**  `LangEq` / `accepts` for the language; `A.states` (`Vata/Ref.lean`) is the duplicate-free
  list of the states occurring in `A`, so `A.states.length` is the number of states; `A.rules.length` the number of
  rules (of the rule *list*: it is the number of distinct rules when the list has no duplicates, as for automata read
  back from the C++ rule sets).
* **Model of the code.**  `ExplicitTreeAutCore::Reduce` computes the downward simulation, restricts it to its symmetric
  part, takes a quotient projection `h` (state ↦ representative of its class), applies `CollapseStates h` and then
  `RemoveUnreachableStates`.  The model is `removeUnreachable (reindex h A)` with `reindex` = image automaton (model of
  `CollapseStates`, C14), `removeUnreachable` = model of `RemoveUnreachableStates` (C03), for **any** map `h` that sends
  every state of `A` to a state equivalent to it in the greatest downward simulation `downSimRef A` (C04).  Which
  representative the C++ picks (`GetQuotientProjection`, hash-map order) is thereby irrelevant; that the map it uses
  has this property is the explicit hypothesis `hh` (it follows from C04 for the relation the code computes).
  The hypothesis is asked on `A.states` only: `downSimRef A ⊆ A.states × A.states`, so asked for all `q` it would be
  unsatisfiable (`reduce_hyp_all_unsat`).
* **The map as the code computes it.**  Two topic files (which import this one) remove the hypothesis:
  `Vata/Properties/C05_ReduceModel.lean` – `reduceModel A order` computes the collapse map with the matrix loops of
  `RestrictToSymmetric` / `GetQuotientProjection` from `downSimRef A` (`C05_model`, `C05_model_projection`); and
  `Vata/Properties/C05_Pipeline.lean` – `SimPipe.reduceAsCoded A` is `Reduce` end to end (`ComputeSimulation` as coded with the
  model of the LTS engine, the class models of `BinaryRelation` / `DiscontBinaryRelation`, `CollapseStates`,
  `RemoveUnreachableStates`): `C05_pipeline` is the property for it, with no hypothesis but `Ranked A`.
-/
namespace Vata.Props

/-- `Reduce` keeps the language: quotient by simulation equivalence, then removal of the unreachable states
(`reduce_trim_lang` with its hypothesis discharged by `removeUnreachable_lang`) -/
theorem C05_reduce_lang (A : TA) (h : Nat → Nat)
    (hh : ∀ q, q ∈ A.states → (q, h q) ∈ downSimRef A ∧ (h q, q) ∈ downSimRef A) :
    LangEq (removeUnreachable (reindex h A)) A :=
  fun t => reduce_trim_lang removeUnreachable_lang A h hh t

example : ∀ q, q ∈ SimModel.exA.states → (q, SimModel.exH q) ∈ downSimRef SimModel.exA ∧
    (SimModel.exH q, q) ∈ downSimRef SimModel.exA := by
  rw [SimModel.exA_downSimRef]
  decide
example : (removeUnreachable (reindex SimModel.exH SimModel.exA)).rules = [⟨0, [], 0⟩, ⟨0, [], 0⟩, ⟨1, [0, 0], 2⟩, ⟨1, [0, 0], 2⟩] ∧
    SimModel.exA.rules.length = 5 := by decide +kernel

/-- the quotient step alone (`CollapseStates` with the projection) already keeps the language -/
theorem C05_quotient_lang (A : TA) (h : Nat → Nat)
    (hh : ∀ q, q ∈ A.states → (q, h q) ∈ downSimRef A ∧ (h q, q) ∈ downSimRef A) : LangEq (reindex h A) A :=
  fun t => reduce_lang A h hh t

example : (reindex SimModel.exH SimModel.exA).states = [0, 2, 4] ∧ SimModel.exA.states.length = 5 := by decide

/-- the principle: collapsing along *any* transitive downward simulation `R` to `R`-equivalent representatives keeps
the language (this is where "the simulation must be a genuine downward simulation" enters) -/
theorem C05_collapse_principle (A : TA) (R : Nat → Nat → Prop) (hR : DownSim A R) (h : Nat → Nat)
    (hh : ∀ q, q ∈ A.states → R q (h q) ∧ R (h q) q) (hRt : ∀ a b c, R a b → R b c → R a c) :
    LangEq (reindex h A) A := fun t => collapse_lang_on A R hR h hh hRt t

example : DownSim SimModel.exA (RelOf (downSimRef SimModel.exA)) ∧
    (∀ a b c, RelOf (downSimRef SimModel.exA) a b → RelOf (downSimRef SimModel.exA) b c → RelOf (downSimRef SimModel.exA) a c) :=
  ⟨downSimRef_sim _, (greatest_downSim_preorder _).2⟩

/-- `Reduce` never grows the automaton and invents no state: at most as many states, at most as many rules, and every
state of the result is the image of a state of `A` under the collapse map – for every map `h`, no hypothesis needed -/
theorem C05_never_grows (A : TA) (h : Nat → Nat) :
    (removeUnreachable (reindex h A)).states.length ≤ A.states.length ∧
    (removeUnreachable (reindex h A)).rules.length ≤ A.rules.length ∧
    ∀ q', q' ∈ (removeUnreachable (reindex h A)).states → ∃ q, q ∈ A.states ∧ q' = h q :=
  ⟨PropAux.states_reduce_length h A, PropAux.rules_reduce_length h A, fun _ hq => PropAux.states_reduce hq⟩

example : (removeUnreachable (reindex SimModel.exH SimModel.exA)).states = [0, 2] ∧ SimModel.exA.states = [0, 1, 2, 3, 4] := by
  decide +kernel

/-- the size of the quotient: when the collapse map is a quotient projection (`IsQuotProj`: it sends every state to a
simulation-equivalent state *and* equivalent states to the same state) the result has at most as many states as there
are classes of downward-simulation equivalence (`simClasses A`, computed by picking representatives with a fold over
`A.states`), which is at most the number of states; and the size does not depend on which representatives are picked -/
theorem C05_quotient_size (A : TA) (h h' : Nat → Nat) (hh : IsQuotProj A h) (hh' : IsQuotProj A h') :
    (removeUnreachable (reindex h A)).states.length ≤ simClasses A ∧ simClasses A ≤ A.states.length ∧
    (removeUnreachable (reindex h' A)).states.length = (removeUnreachable (reindex h A)).states.length ∧
    (removeUnreachable (reindex h' A)).rules.length = (removeUnreachable (reindex h A)).rules.length :=
  ⟨reduce_states_le_simClasses A h hh.2, simClasses_le_states A,
   (reduce_size_choice_independent A h h' hh hh').1, (reduce_size_choice_independent A h h' hh hh').2⟩

example : IsQuotProj SimModel.exA (repOf SimModel.exA) := repOf_isQuotProj _
example : simClasses SimModel.exA = 3 ∧ SimModel.exA.states.length = 5 ∧
    (removeUnreachable (reindex (repOf SimModel.exA) SimModel.exA)).states = [0, 2] := by decide +kernel
-- "equivalent states to the same state" is needed for the bound: the identity satisfies the hypothesis of
-- `C05_reduce_lang` but keeps 4 states, more than the 3 classes
example : (∀ q, q ∈ SimModel.exA.states → (q, id q) ∈ downSimRef SimModel.exA ∧ (id q, q) ∈ downSimRef SimModel.exA) ∧
    (removeUnreachable (reindex id SimModel.exA)).states.length = 4 := by
  rw [SimModel.exA_downSimRef]
  decide +kernel

/-- an executable quotient projection exists: `repOf A q` is the first state of `A.states` equivalent to `q`; with it
the model of `Reduce` is the closed term `reduceRef A`, which keeps the language, is bounded by the number of classes
and commutes with every renaming that is injective on the states -/
theorem C05_canonical_reduce (A : TA) :
    IsQuotProj A (repOf A) ∧ LangEq (reduceRef A) A ∧ (reduceRef A).states.length ≤ simClasses A ∧
    ∀ f, InjOnStates f A → reduceRef (reindex f A) = reindex f (reduceRef A) ∧ simClasses (reindex f A) = simClasses A :=
  ⟨repOf_isQuotProj A, reduceRef_lang A, reduceRef_states_le_simClasses A,
   fun f hf => ⟨reduceRef_reindex_eq f A hf, simClasses_equivariant f A hf⟩⟩

example : List.map (repOf SimModel.exA) [0, 1, 2, 3, 4] = [0, 0, 2, 2, 4] ∧ InjOnStates EqvEx.exF SimModel.exA :=
  ⟨by decide +kernel, EqvEx.exF_inj_simA⟩
example : (reduceRef (reindex EqvEx.exF SimModel.exA)).states = [40, 26] := by decide +kernel

/-!
## closed since the last refresh of this file

* **"That the collapse map the C++ derives (`RestrictToSymmetric` + `GetQuotientProjection` on the relation returned by
  `ComputeSimulation`) satisfies the hypothesis `hh` (and is a quotient projection) is not a theorem about a model of these
  two functions"** – closed twice: for the list-of-rows model of the two functions on the reference relation
  (`C05_model_projection`, `C05_model`, `C05_model_order_independent` in `C05_ReduceModel.lean`), and for the class-level
  functions (`BinRel.Disc.restrictToSymmetric`, `BinRel.Disc.quotProj` on the flat matrix with the two-way dictionary) applied to
  the relation `ComputeSimulation` as coded returns (`C05_pipeline`, `C05_pipeline_refines_reduceModel`, `C05_pipeline_matrix`,
  `C05_pipeline_class_level` in `C05_Pipeline.lean`; the class theorems are `Util_BinRel_restrictToSymmetric`,
  `Util_BinRel_quotient_equiv`, `Util_BinRel_discont`).  `Reduce` as coded always returns and never grows the automaton
  (`C05_pipeline_never_grows`), and hash order has no influence on the size of the result (`C05_pipeline_size`).
* **"the statement with `eraseDups` on both sides is not proved"** – closed: third conjunct of `C05_model` /
  `C05_model_never_grows` / `C05_pipeline`.
* Totality of the reference decider the outputs are compared with: `C05_reference_total` (`Vata/Properties/RefTotal.lean`),
  composed with `Reduce` as coded in `C05_pipeline_passes_reference`.

## not yet proved

* The order of the rule list stands for the hash order of the C++ (the order in which the translation to an LTS meets the
  states, `SimPipe.downOrder`); all statements hold for every order, but the order itself is not an object of the model.
* `Ranked A` is a hypothesis of the language statement for `Reduce` as coded (it always holds for the explicit encoding,
  whose symbols are (name, rank) pairs); without it the downward encoding is wrong (`C04_downward_via_lts_needs_ranked`),
  though `Reduce` still returns and does not grow the automaton.
* `CollapseStates` / `RemoveUnreachableStates` inside `Reduce` are the relation-level models `reindex` / `removeUnreachable`
  (C14, C03), not the store-level models of `Vata/Store.lean`; the engine inside treats its helper classes as values (C16).
* The model is sensitive to a realistic slip (`C05_model_skip_row0_changes_language`), but that the C++ loops are the loops
  of the model is the `binrel` correspondence check, not a theorem.
* Minimality of the result (no two remaining states simulation-equivalent) is not claimed by the property and not proved.
-/
end Vata.Props
