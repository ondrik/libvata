import Vata.UnionIsectMaps
import Vata.Proofs.UnionModel
import Vata.Proofs.PropAux
/-!
# Property C02 – `Union` with ONE translation map for both operands (`unionSameMap`, `Vata/UnionIsectMaps.lean`)

With one map a state NUMBER is translated once, whichever operand it comes from.  So the result is the image, under one
injective map, of the plain juxtaposition `unionDisjoint A B` of the two rule sets – the operands GLUED on their common
state numbers.  Hence the language is `L(A) ∪ L(B)` when the operands have disjoint state sets, in general the call is
exact iff the juxtaposition is exact, and with overlapping state numbers the language can be too large
(`Props.C02_union_same_map_counterexample`).
All theorems hold for every visiting order that covers the states (hash order of the C++) and for every injective
pre-filled map.
-/
namespace Vata
namespace Usm

theorem reindex_unionDisjoint (f : Nat → Nat) (A B : TA) :
    reindex f (unionDisjoint A B) = unionWith f f A B := by
  simp only [reindex, unionDisjoint, unionWith, List.map_append]

theorem applyMap_ext {m m' : SMap} (h : Um.Ext m m') {q : Nat} (hq : ∃ n, m.lookup q = some n) :
    applyMap m' q = applyMap m q := by
  obtain ⟨n, hn⟩ := hq
  rw [Um.applyMap_of_lookup hn, Um.applyMap_of_lookup (h q n hn)]

theorem passes {oA oB : List Nat} {m0 : SMap} {c : Nat} (hb : Um.Below m0 c) (hi : Um.Inj m0) :
    Um.Inj (weakTrAll oB (weakTrAll oA m0 c).1 (weakTrAll oA m0 c).2).1 ∧
    Um.Ext m0 (weakTrAll oA m0 c).1 ∧
    Um.Ext (weakTrAll oA m0 c).1 (weakTrAll oB (weakTrAll oA m0 c).1 (weakTrAll oA m0 c).2).1 ∧
    (∀ q, q ∈ oA → ∃ n, (weakTrAll oA m0 c).1.lookup q = some n) ∧
    (∀ q, q ∈ oB → ∃ n, (weakTrAll oB (weakTrAll oA m0 c).1 (weakTrAll oA m0 c).2).1.lookup q = some n) := by
  have g1 := Um.weakTrAll_grow oA m0 c hb
  have hb1 := g1.below hb
  have g2 := Um.weakTrAll_grow oB _ _ hb1
  exact ⟨g2.inj (g1.inj hi), g1.ext, g2.ext, Um.weakTrAll_total oA m0 c, Um.weakTrAll_total oB _ _⟩

end Usm

/-- **one map glues**: the result of `Union(lhs, rhs, &m, &m)` is the image of the juxtaposed rule sets
`unionDisjoint A B` under the ONE final map, which is injective (as an association list and on the states of both
operands), extends the map on entry and knows every state of both operands -/
theorem unionSameMapOrd_glues (oA oB : List Nat) (A B : TA) (m0 : SMap)
    (hoA : ∀ q, q ∈ A.states → q ∈ oA) (hoB : ∀ q, q ∈ B.states → q ∈ oB) (hi : Um.Inj m0) :
    (unionSameMapOrd oA oB A B m0).1 = reindex (applyMap (unionSameMapOrd oA oB A B m0).2) (unionDisjoint A B) ∧
    Um.Inj (unionSameMapOrd oA oB A B m0).2 ∧ Um.Ext m0 (unionSameMapOrd oA oB A B m0).2 ∧
    InjOnStates (applyMap (unionSameMapOrd oA oB A B m0).2) (unionDisjoint A B) ∧
    (∀ q, q ∈ A.states ∨ q ∈ B.states → ∃ n, (unionSameMapOrd oA oB A B m0).2.lookup q = some n) := by
  obtain ⟨h1, h2, h3, h4, h5⟩ := Usm.passes (oA := oA) (oB := oB) (Um.below_unionCnt_left m0 m0) hi
  have htot : ∀ q, q ∈ A.states ∨ q ∈ B.states →
      ∃ n, (weakTrAll oB (weakTrAll oA m0 (unionCnt m0 m0)).1 (weakTrAll oA m0 (unionCnt m0 m0)).2).1.lookup q = some n := by
    rintro q (hq | hq)
    · obtain ⟨n, hn⟩ := h4 q (hoA q hq)
      exact ⟨n, h3 q n hn⟩
    · exact h5 q (hoB q hq)
  refine ⟨?_, h1, fun p n hp => h3 p n (h2 p n hp), ?_, htot⟩
  · show unionWith _ _ A B = _
    rw [Usm.reindex_unionDisjoint, unionWith_eq, unionWith_eq]
    congr 1
    exact reindex_congr _ _ _ (fun q hq => (Usm.applyMap_ext h3 (h4 q (hoA q hq))).symm)
  · exact Um.injOn_of h1 (fun q hq => htot q (PropAux.mem_states_unionDisjoint.mp hq))

theorem unionSameMapOrd_lang_glued (oA oB : List Nat) (A B : TA) (m0 : SMap)
    (hoA : ∀ q, q ∈ A.states → q ∈ oA) (hoB : ∀ q, q ∈ B.states → q ∈ oB) (hi : Um.Inj m0) (t : Tree) :
    accepts (unionSameMapOrd oA oB A B m0).1 t = accepts (unionDisjoint A B) t := by
  obtain ⟨h1, _, _, h4, _⟩ := unionSameMapOrd_glues oA oB A B m0 hoA hoB hi
  rw [h1]
  exact reindex_inj_lang _ _ h4 t

/-- exactly the union when no state number occurs in both operands: the API precondition of calling `Union` with one
map object -/
theorem unionSameMapOrd_lang (oA oB : List Nat) (A B : TA) (m0 : SMap)
    (hoA : ∀ q, q ∈ A.states → q ∈ oA) (hoB : ∀ q, q ∈ B.states → q ∈ oB) (hi : Um.Inj m0)
    (hdis : ∀ q, q ∈ A.states → q ∉ B.states) (t : Tree) :
    accepts (unionSameMapOrd oA oB A B m0).1 t = (accepts A t || accepts B t) := by
  rw [unionSameMapOrd_lang_glued oA oB A B m0 hoA hoB hi t, unionDisjoint_lang A B hdis t]

theorem unionSameMap_glues (A B : TA) (m0 : SMap) (hi : Um.Inj m0) :
    (unionSameMap A B m0).1 = reindex (applyMap (unionSameMap A B m0).2) (unionDisjoint A B) ∧
    Um.Inj (unionSameMap A B m0).2 ∧ Um.Ext m0 (unionSameMap A B m0).2 ∧
    InjOnStates (applyMap (unionSameMap A B m0).2) (unionDisjoint A B) ∧
    (∀ q, q ∈ A.states ∨ q ∈ B.states → ∃ n, (unionSameMap A B m0).2.lookup q = some n) :=
  unionSameMapOrd_glues _ _ A B m0 (fun _ h => Um.mem_visitOrder.mpr h) (fun _ h => Um.mem_visitOrder.mpr h) hi

theorem unionSameMap_lang_glued (A B : TA) (m0 : SMap) (hi : Um.Inj m0) (t : Tree) :
    accepts (unionSameMap A B m0).1 t = accepts (unionDisjoint A B) t :=
  unionSameMapOrd_lang_glued _ _ A B m0 (fun _ h => Um.mem_visitOrder.mpr h) (fun _ h => Um.mem_visitOrder.mpr h) hi t

theorem unionSameMap_lang (A B : TA) (m0 : SMap) (hi : Um.Inj m0) (hdis : ∀ q, q ∈ A.states → q ∉ B.states) (t : Tree) :
    accepts (unionSameMap A B m0).1 t = (accepts A t || accepts B t) :=
  unionSameMapOrd_lang _ _ A B m0 (fun _ h => Um.mem_visitOrder.mpr h) (fun _ h => Um.mem_visitOrder.mpr h) hi hdis t

namespace UnionSameEx

/-- `a → 0`, `h(0) → 1`, final `1`: the language is `{h(a)}` -/
def exA : TA := ⟨[⟨0, [], 0⟩, ⟨2, [0], 1⟩], [1]⟩
/-- `b → 0`, final `0`: the language is `{b}`; the state number `0` also occurs in `exA` -/
def exB : TA := ⟨[⟨1, [], 0⟩], [0]⟩
/-- `b → 7`, final `7`: the same language with a state number that does not occur in `exA` -/
def exB7 : TA := ⟨[⟨1, [], 7⟩], [7]⟩
def tA : Tree := .node 0 []
def tB : Tree := .node 1 []
def tHA : Tree := .node 2 [.node 0 []]
def tHB : Tree := .node 2 [.node 1 []]

def obs (r : TA × SMap) : List Rule × List Nat × SMap := (r.1.rules, r.1.final, r.2)

-- one map: the state `0` of `exB` is known when the second pass reaches it and keeps the number `1` of `exA`'s state `0`
example : obs (unionSameMap exA exB []) = ([⟨0, [], 1⟩, ⟨2, [1], 0⟩, ⟨1, [], 1⟩], [0, 1], [(1, 0), (0, 1)]) := by decide +kernel
-- two maps (`unionModel`): it gets the fresh number `2`
example : (unionModel exA exB [] []).1.rules = [⟨0, [], 1⟩, ⟨2, [1], 0⟩, ⟨1, [], 2⟩] := by decide +kernel
-- disjoint state numbers: one map behaves like two
example : obs (unionSameMap exA exB7 []) = ([⟨0, [], 1⟩, ⟨2, [1], 0⟩, ⟨1, [], 2⟩], [0, 2], [(1, 0), (0, 1), (7, 2)]) := by
  decide +kernel
-- a pre-filled map: fresh numbers start above its numbers
example : obs (unionSameMap exA exB7 [(0, 4)]) = ([⟨0, [], 4⟩, ⟨2, [4], 5⟩, ⟨1, [], 6⟩], [5, 6], [(0, 4), (1, 5), (7, 6)]) := by
  decide +kernel

/-- the hypothesis "disjoint state sets" of `unionSameMap_lang` is satisfiable, and the theorem applies -/
example : ∀ q, q ∈ exA.states → q ∉ exB7.states := by decide +kernel
example (t : Tree) : accepts (unionSameMap exA exB7 []).1 t = (accepts exA t || accepts exB7 t) :=
  unionSameMap_lang exA exB7 [] Um.inj_nil (by decide) t
example : accepts (unionSameMap exA exB7 []).1 tHA = true ∧ accepts (unionSameMap exA exB7 []).1 tB = true ∧
    accepts (unionSameMap exA exB7 []).1 tA = false ∧ accepts (unionSameMap exA exB7 []).1 tHB = false := by decide +kernel

end UnionSameEx

end Vata
