import Vata.Proofs.ListExt
/-! feasibility probe (throw-away): reference-counted node store, recursive release keeps the counting invariant -/
namespace Vata.R

inductive Data where
  | leaf (v : Nat)
  | int (lo hi var : Nat)
deriving DecidableEq

def contrib (dat : Nat → Data) (n m : Nat) : Nat :=
  match dat m with
  | .leaf _ => 0
  | .int lo hi _ => (if lo = n then 1 else 0) + (if hi = n then 1 else 0)

theorem contrib_leaf {dat : Nat → Data} {m v : Nat} (h : dat m = .leaf v) (n : Nat) : contrib dat n m = 0 := by
  unfold contrib; rw [h]
theorem contrib_int {dat : Nat → Data} {m lo hi var : Nat} (h : dat m = .int lo hi var) (n : Nat) :
    contrib dat n m = (if lo = n then 1 else 0) + (if hi = n then 1 else 0) := by
  unfold contrib; rw [h]

/-- number of references to `n` from the allocated internal nodes `ids` -/
def indegL (ids : List Nat) (dat : Nat → Data) (n : Nat) : Nat := (ids.map (contrib dat n)).sum

def cnt (x : Nat) (l : List Nat) : Nat := l.count x

theorem cnt_cons (x y : Nat) (l : List Nat) : cnt x (y :: l) = (if y = x then 1 else 0) + cnt x l := by
  simp only [cnt, List.count_cons, beq_iff_eq]; omega

theorem indegL_erase (dat : Nat → Data) (x n : Nat) : ∀ (ids : List Nat), n ∈ ids → ids.Nodup →
    indegL (ids.erase n) dat x + contrib dat x n = indegL ids dat x
  | [], h, _ => by simp at h
  | m :: ms, h, hnd => by
    by_cases e : m = n
    · subst e
      simp only [List.erase_cons_head, indegL, List.map_cons, List.sum_cons]
      omega
    · have hn' : n ∈ ms := by
        rcases List.mem_cons.mp h with h | h
        · exact absurd h.symm e
        · exact h
      have hnd' : ms.Nodup := (List.nodup_cons.mp hnd).2
      have ih := indegL_erase dat x n ms hn' hnd'
      rw [List.erase_cons_tail (by simpa using e)]
      simp only [indegL, List.map_cons, List.sum_cons] at ih ⊢
      omega

structure Store where
  ids  : List Nat               -- allocated node ids (no duplicates)
  dat  : Nat → Data             -- contents (meaningful on `ids`)
  rc   : Nat → Nat              -- reference counters
  roots : List Nat              -- roots held by live handles (with multiplicity)

/-- the counting invariant with a multiset of pending decrements -/
def J (ids : List Nat) (dat : Nat → Data) (rc : Nat → Nat) (roots pending : List Nat) : Prop :=
  ∀ n, n ∈ ids → rc n = indegL ids dat n + cnt n roots + cnt n pending

def decrRc (rc : Nat → Nat) (n : Nat) : Nat → Nat := fun x => if x = n then rc n - 1 else rc x

/-- `recursivelyDeleteMTBDDNode` with fuel, on (ids, rc) -/
def release (dat : Nat → Data) : Nat → List Nat → (Nat → Nat) → Nat → Option (List Nat × (Nat → Nat))
  | 0, _, _, _ => none
  | fuel+1, ids, rc, n =>
    if rc n ≤ 1 then
      match dat n with
      | .leaf _ => some (ids.erase n, decrRc rc n)
      | .int lo hi _ =>
        match release dat fuel (ids.erase n) (decrRc rc n) lo with
        | none => none
        | some (ids', rc') => release dat fuel ids' rc' hi
    else some (ids, decrRc rc n)

/-- `Closed` = children of allocated internal nodes are allocated. -/
def Closed (ids : List Nat) (dat : Nat → Data) : Prop :=
  ∀ m, m ∈ ids → ∀ lo hi var, dat m = .int lo hi var → lo ∈ ids ∧ hi ∈ ids

theorem contrib_le_indegL {ids : List Nat} {dat : Nat → Data} {m : Nat} (hm : m ∈ ids) (x : Nat) :
    contrib dat x m ≤ indegL ids dat x :=
  le_sum_of_mem (List.mem_map.mpr ⟨m, hm, rfl⟩)

theorem ne_of_indegL_zero {ids : List Nat} {dat : Nat → Data} {n : Nat} (h0 : indegL ids dat n = 0) {m lo hi var : Nat}
    (hm : m ∈ ids) (hd : dat m = .int lo hi var) : lo ≠ n ∧ hi ≠ n := by
  have hle := contrib_le_indegL (dat := dat) hm n
  rw [contrib_int hd, h0] at hle
  constructor <;> intro e <;> rw [if_pos e] at hle <;> omega

theorem cnt_pos {x : Nat} {l : List Nat} (h : x ∈ l) : 0 < cnt x l := List.count_pos_iff.mpr h

/-- one pending decrement of `n` is carried out -/
theorem J.decr {ids : List Nat} {dat : Nat → Data} {rc : Nat → Nat} {roots P : List Nat} {n : Nat}
    (hJ : J ids dat rc roots (n :: P)) : J ids dat (decrRc rc n) roots P := by
  intro x hx
  have := hJ x hx
  rw [cnt_cons] at this
  by_cases e : x = n
  · subst e; simp only [decrRc, if_true] at this ⊢; omega
  · simp only [decrRc, e, if_false, Ne.symm e] at this ⊢; omega

/-- a node whose counter is 0 is referred to by nobody; without it the rest is closed again, and the references from it to
    its children are the only ones the counters of the rest no longer account for -/
theorem free_core {ids : List Nat} {dat : Nat → Data} {rc : Nat → Nat} {roots P : List Nat} {n : Nat}
    (hnd : ids.Nodup) (hn : n ∈ ids) (hJ : J ids dat rc roots P) (hz : rc n = 0) (hC : Closed ids dat) :
    n ∉ P ∧ n ∉ roots ∧ (∀ m, m ∈ ids → ∀ lo hi var, dat m = .int lo hi var → lo ≠ n ∧ hi ≠ n) ∧
    Closed (ids.erase n) dat ∧
    (∀ x, x ∈ ids.erase n → rc x = indegL (ids.erase n) dat x + contrib dat x n + cnt x roots + cnt x P) := by
  have hrc := hJ n hn
  have hCn : ∀ m, m ∈ ids → ∀ lo hi var, dat m = .int lo hi var → lo ≠ n ∧ hi ≠ n :=
    fun m hm lo hi var hd => ne_of_indegL_zero (by omega) hm hd
  refine ⟨fun hp => by have := cnt_pos hp; omega, fun hp => by have := cnt_pos hp; omega, hCn, ?_, ?_⟩
  · intro m hm lo hi var hd
    have hmS := List.mem_of_mem_erase hm
    obtain ⟨h1, h2⟩ := hC m hmS lo hi var hd
    obtain ⟨h3, h4⟩ := hCn m hmS lo hi var hd
    exact ⟨(List.mem_erase_of_ne h3).mpr h1, (List.mem_erase_of_ne h4).mpr h2⟩
  · intro x hx
    have h1 := hJ x (List.mem_of_mem_erase hx)
    have h2 := indegL_erase dat x n ids hn hnd
    omega

/-- main lemma: releasing one pending reference to `n` re-establishes the invariant for the rest. -/
theorem release_J (dat : Nat → Data) (roots : List Nat) : ∀ (fuel : Nat) (ids : List Nat) (rc : Nat → Nat) (n : Nat)
    (P : List Nat) (ids' : List Nat) (rc' : Nat → Nat),
    ids.Nodup → n ∈ ids → J ids dat rc roots (n :: P) → (∀ p, p ∈ P → p ∈ ids) → (∀ r, r ∈ roots → r ∈ ids) → Closed ids dat →
    release dat fuel ids rc n = some (ids', rc') →
      J ids' dat rc' roots P ∧ ids'.Nodup ∧ (∀ p, p ∈ P → p ∈ ids') ∧ (∀ r, r ∈ roots → r ∈ ids') ∧ Closed ids' dat
  | 0, _, _, _, _, _, _, _, _, _, _, _, _, h => by simp [release] at h
  | fuel+1, ids, rc, n, P, ids', rc', hnd, hn, hJ, hP, hR, hC, h => by
    simp only [release] at h
    have hrc := hJ n hn
    rw [cnt_cons, if_pos rfl] at hrc
    split at h
    · rename_i hle
      -- the counter drops to zero: nobody else refers to `n`
      obtain ⟨hPn, hRn, hCn, hC', hJx⟩ := free_core hnd hn hJ.decr (by simp only [decrRc, if_true]; omega) hC
      have hnd' : (ids.erase n).Nodup := hnd.erase n
      have hmem : ∀ x, x ∈ ids → x ≠ n → x ∈ ids.erase n := fun x hx hxn => (List.mem_erase_of_ne hxn).mpr hx
      have hP' : ∀ p, p ∈ P → p ∈ ids.erase n := fun p hp => hmem p (hP p hp) (fun e => hPn (e ▸ hp))
      have hR' : ∀ r, r ∈ roots → r ∈ ids.erase n := fun r hr => hmem r (hR r hr) (fun e => hRn (e ▸ hr))
      split at h
      · rename_i v hd
        cases h
        refine ⟨fun x hx => ?_, hnd', hP', hR', hC'⟩
        have := hJx x hx
        rw [contrib_leaf hd] at this
        omega
      · rename_i lo hi var hd
        obtain ⟨hlo, hhi⟩ := hC n hn lo hi var hd
        obtain ⟨hlon, hhin⟩ := hCn n hn lo hi var hd
        -- the invariant on the remaining nodes, with the children of `n` pending
        have hJ1 : J (ids.erase n) dat (decrRc rc n) roots (lo :: hi :: P) := by
          intro x hx
          have := hJx x hx
          rw [contrib_int hd] at this
          rw [cnt_cons, cnt_cons]
          omega
        split at h
        · cases h
        · rename_i ids1 rc1 h1
          have hP1 : ∀ p, p ∈ hi :: P → p ∈ ids.erase n := fun p hp =>
            (List.mem_cons.mp hp).elim (fun e => e ▸ hmem _ hhi hhin) (hP' p)
          obtain ⟨hJ2, hnd2, hP2, hR2, hC2⟩ := release_J dat roots fuel (ids.erase n) (decrRc rc n) lo (hi :: P) ids1 rc1
            hnd' (hmem lo hlo hlon) hJ1 hP1 hR' hC' h1
          exact release_J dat roots fuel ids1 rc1 hi P ids' rc' hnd2 (hP2 hi List.mem_cons_self) hJ2
            (fun p hp => hP2 p (List.mem_cons_of_mem _ hp)) hR2 hC2 h
    · cases h
      exact ⟨hJ.decr, hnd, hP, hR, hC⟩

#print axioms release_J
end Vata.R
