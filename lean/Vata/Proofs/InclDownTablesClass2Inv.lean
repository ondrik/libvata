import Vata.Proofs.InclDownTablesClass2Lift
/-!
# The relative-completeness invariant of the downward exploration (identity preorder; property C07)

`GI A B ws cc st` – the invariant of one functor with the pending calls `ws`:

* `Inv` of `Vata/Proofs/InclDownInv.lean` (what `childrenCache` covers is subsumed by `trues ++ ws`, every pair of `trues` is closed
  relative to `trues ++ ws`, every entry of `nonincluded` carries a separating tree);
* **relative completeness**: no entry of `nonincluded` implies a pair that is subsumed by `trues ++ ws` (a pair concluded `true`
  under the pending calls is never implied by an entry of `nonincluded`);
* no pair of `trues ++ ws` has an empty right-hand set (the functor never calls `expand` with an empty set).

`LeI` – "later": what `childrenCache` covers stays covered, what `nonincluded` implies stays implied, `trues` grows.

`body_nofail`: when the pair `(x, X)` is subsumed by a CLOSED pair `(x, S')`, `S' ⊆ X`, the body of the call for `(x, X)` cannot
fail, provided the recursive calls do not fail on subsumed pairs (`RCall`) – the induction step of relative completeness.  The
paper argument: a failing choice function of `(x, X)` restricts to a choice function of `(x, S')`, which has a subsumed position;
the call for that position is a call on a subsumed pair.
-/
namespace Vata
namespace InclDownTables
open InclDown
open InclUp (normS prodWit Wit)

variable {A B : Vata.TA} {ws : List Pair}

theorem setLe_id {P' P : List Nat} : setLe idOrd P' P = true ↔ ∀ s, s ∈ P' → s ∈ P := by
  simp [setLe, idOrd]

theorem covers_id {X : List Pair} {p : Nat} {P : List Nat} : covers idOrd X p P = true ↔ Sub X p P := by
  simp only [covers, List.any_eq_true, Bool.and_eq_true, setLe_id]
  constructor
  · rintro ⟨x, hx, h1, h2⟩
    have : p = x.1 := by simpa [idOrd] using h1
    exact ⟨x.2, by rw [this]; exact hx, h2⟩
  · rintro ⟨S', hx, h⟩
    exact ⟨(p, S'), hx, by simp [idOrd], h⟩

theorem byPre_id (p : Nat) (P : List Nat) : byPre idOrd p P = false := by
  simp [byPre, idOrd]

/-- `isNoninclusionImplied` -/
def Impl (ni : List (Nat × List Nat × Tree)) (p : Nat) (P : List Nat) : Prop :=
  ∃ e, e ∈ ni ∧ e.1 = p ∧ ∀ s, s ∈ P → s ∈ e.2.1

theorem niFind_isSome_iff {ni : List (Nat × List Nat × Tree)} {p : Nat} {P : List Nat} :
    (niFind idOrd ni p P).isSome = true ↔ Impl ni p P := by
  unfold niFind Impl
  rw [List.find?_isSome]
  constructor
  · rintro ⟨e, he, h⟩
    simp only [Bool.and_eq_true, setLe_id] at h
    exact ⟨e, he, by simpa [idOrd] using h.1, h.2⟩
  · rintro ⟨e, he, h1, h2⟩
    refine ⟨e, he, ?_⟩
    simp only [Bool.and_eq_true, setLe_id]
    exact ⟨by simp [idOrd, h1], h2⟩

theorem niFind_none_iff {ni : List (Nat × List Nat × Tree)} {p : Nat} {P : List Nat} :
    niFind idOrd ni p P = none ↔ ¬ Impl ni p P := by
  rw [← niFind_isSome_iff]
  cases niFind idOrd ni p P <;> simp

theorem sub_mono {X X' : List Pair} {k : Nat} {S S' : List Nat} (hX : ∀ x, x ∈ X → x ∈ X') (hS : ∀ s, s ∈ S → s ∈ S')
    (h : Sub X k S) : Sub X' k S' := by
  obtain ⟨S0, h1, h2⟩ := h
  exact ⟨S0, hX _ h1, fun s hs => hS s (h2 s hs)⟩

theorem sub_ccAdd_mono {cc : List Pair} {p x : Nat} {P X : List Nat} (h : Sub cc x X) : Sub (ccAdd idOrd cc p P) x X := by
  unfold ccAdd
  split
  · exact h
  · obtain ⟨S0, h1, h2⟩ := h
    -- the pair `(x, S0)` stays, or the new pair replaces it
    cases hk : (idOrd.leA x p && setLe idOrd P S0) with
    | false => exact ⟨S0, List.mem_append_left _ (List.mem_filter.mpr ⟨h1, by simp only [hk, Bool.not_false]⟩), h2⟩
    | true =>
      simp only [Bool.and_eq_true, setLe_id] at hk
      have hx : x = p := by simpa [idOrd] using hk.1
      exact ⟨P, by rw [hx]; exact List.mem_append_right _ List.mem_cons_self, fun s hs => h2 s (hk.2 s hs)⟩

theorem sub_ccAdd_self (cc : List Pair) (p : Nat) (P : List Nat) : Sub (ccAdd idOrd cc p P) p P := by
  unfold ccAdd
  split
  · next h => exact covers_id.mp h
  · exact ⟨P, List.mem_append_right _ List.mem_cons_self, fun s hs => hs⟩

theorem impl_niAdd_mono {ni : List (Nat × List Nat × Tree)} {p x : Nat} {P X : List Nat} {w : Tree} (h : Impl ni x X) :
    Impl (niAdd idOrd ni p P w) x X := by
  unfold niAdd
  split
  · exact h
  · obtain ⟨e, h1, h2, h3⟩ := h
    cases hk : (idOrd.leA p e.1 && setLe idOrd e.2.1 P) with
    | false => exact ⟨e, List.mem_append_left _ (List.mem_filter.mpr ⟨h1, by simp only [hk, Bool.not_false]⟩), h2, h3⟩
    | true =>
      simp only [Bool.and_eq_true, setLe_id] at hk
      have hx : p = e.1 := by simpa [idOrd] using hk.1
      exact ⟨(p, P, w), List.mem_append_right _ List.mem_cons_self, by rw [hx, h2], fun s hs => hk.2 s (h3 s hs)⟩

theorem impl_niAdd_self (ni : List (Nat × List Nat × Tree)) (p : Nat) (P : List Nat) (w : Tree) :
    Impl (niAdd idOrd ni p P w) p P := by
  unfold niAdd
  split
  · next h => exact niFind_isSome_iff.mp h
  · exact ⟨(p, P, w), List.mem_append_right _ List.mem_cons_self, rfl, fun s hs => hs⟩

def GI (A B : Vata.TA) (ws cc : List Pair) (st : St) : Prop :=
  Inv idOrd A B ws cc st ∧ (∀ x X, Sub (st.trues ++ ws) x X → ¬ Impl st.nonIncl x X) ∧
    (∀ t, t ∈ st.trues ++ ws → t.2 ≠ [])

def LeI (cc : List Pair) (st : St) (cc' : List Pair) (st' : St) : Prop :=
  (∀ x X, Sub cc x X → Sub cc' x X) ∧ (∀ x X, Impl st.nonIncl x X → Impl st'.nonIncl x X) ∧
    (∀ t, t ∈ st.trues → t ∈ st'.trues)

def frameI (A B : Vata.TA) (ws : List Pair) : Frame where
  G := GI A B ws
  Le := LeI
  refl := fun _ _ => ⟨fun _ _ h => h, fun _ _ h => h, fun _ h => h⟩
  trans := fun h1 h2 => ⟨fun x X h => h2.1 x X (h1.1 x X h), fun x X h => h2.2.1 x X (h1.2.1 x X h),
    fun t h => h2.2.2 t (h1.2.2 t h)⟩

def RCall (A B : Vata.TA) (ws : List Pair) (call : Call) : Prop :=
  ∀ y Y cc st, Y ≠ [] → GI A B ws cc st → Sub (st.trues ++ ws) y Y → ∀ w c' s', call cc st y Y ≠ some (.fails w, c', s')

def NoFail (F : List Pair → St → Ret) (cc : List Pair) (st : St) : Prop := ∀ w c' s', F cc st ≠ some (.fails w, c', s')

/-- `Good` for one function: the agreement part is trivial -/
abbrev Good1 (Φ : Frame) {α : Type} (R : α → α → Prop) (F : Step α) : Prop := Good Φ R F F F

theorem good_procGroup {Φ : Frame} {call : Call} (hc : CallGood Φ call call call) (wit : Wit) (post : List Nat → List Nat)
    (p : Nat) (P : List Nat) {g : Nat × Nat} (hg : g ∈ lhsGroups A p) :
    Good1 Φ sameKind (procGroup call call A B wit post p P g.1 g.2) := by
  rw [funext fun cc => funext fun st => procGroup_eq_procLeaf call call A B wit post p P hg cc st]
  exact good_procLeaf hc wit post g.1 g.1 _ _

theorem nofail_forAllL {Φ : Frame} {α : Type} {f : α → List Pair → St → Ret} (cc0 : List Pair) (st0 : St) (l : List α)
    (hg : ∀ a, a ∈ l → Good1 Φ sameKind (f a))
    (hn : ∀ a, a ∈ l → ∀ cc st, Φ.G cc st → Φ.Le cc0 st0 cc st → NoFail (f a) cc st) :
    ∀ cc st, Φ.G cc st → Φ.Le cc0 st0 cc st → NoFail (forAllL f l) cc st := by
  induction l with
  | nil => exact fun _ _ _ _ _ _ _ h => nomatch h
  | cons a l ih =>
    intro cc st hG hle w c' s' h
    rw [forAllL] at h
    rcases hr : f a cc st with _ | ⟨_ | w1, cc1, st1⟩ <;> rw [hr] at h
    · cases h
    · obtain ⟨g1, l1, _⟩ := (hg a List.mem_cons_self cc st hG).2 _ _ _ hr
      exact ih (fun b hb => hg b (List.mem_cons_of_mem _ hb)) (fun b hb => hn b (List.mem_cons_of_mem _ hb))
        cc1 st1 g1 (Φ.trans hle l1) w c' s' h
    · exact hn a List.mem_cons_self cc st hG hle w1 cc1 st1 hr

theorem nofail_cfAll {Φ : Frame} {one : List Nat → List Pair → St → Ret} (n : Nat) (cc0 : List Pair) (st0 : St)
    (hg : ∀ cs, Good1 Φ sameKind (one cs)) (m : Nat) :
    ∀ (cs : List Nat),
      (∀ cs', cs'.length = m → (∀ c, c ∈ cs' → c < n) → ∀ cc st, Φ.G cc st → Φ.Le cc0 st0 cc st →
        NoFail (one (cs' ++ cs)) cc st) →
      ∀ cc st, Φ.G cc st → Φ.Le cc0 st0 cc st → NoFail (cfAll one n m cs) cc st := by
  induction m with
  | zero => exact fun cs H => H [] rfl (fun _ hc => absurd hc List.not_mem_nil)
  | succ m ih =>
    intro cs H
    refine nofail_forAllL (f := fun i cc st => cfAll one n m (i :: cs) cc st) cc0 st0 _
      (fun i _ => good_cfAll n hg m (i :: cs)) (fun i hi => ih (i :: cs) (fun cs' hl hlt => ?_))
    rw [List.append_cons]
    exact H (cs' ++ [i]) (by rw [List.length_append, hl]; rfl) (fun c hc =>
      (List.mem_append.mp hc).elim (hlt c) (fun h => List.mem_singleton.mp h ▸ List.mem_range.mp hi))

theorem tryPos_nofail {call : Call} (hc : CallGood (frameI A B ws) call call call)
    (hrc : RCall A B ws call) (wit : Wit) (W : List (List Nat)) (cs : List Nat) (T0 : List Pair) :
    ∀ (ls : List Nat) (i : Nat) (cc : List Pair) (st : St), GI A B ws cc st → (∀ t, t ∈ T0 → t ∈ st.trues) →
      (∃ j k, ls[j]? = some k ∧ Sub (T0 ++ ws) k (rawSet W cs (i + j))) →
      ∀ ts c' s', tryPos call wit normS W cs i ls cc st ≠ some (some ts, c', s') := by
  intro ls
  induction ls with
  | nil =>
    rintro _ _ _ _ _ ⟨_, _, hk, _⟩
    cases hk
  | cons l ls ih =>
    intro i cc st hG hT ⟨j, k, hk, hs⟩ ts c' s' h
    -- the later positions, after a step that led to the good state `(cc1, st1)`
    have later : ∀ {t : Tree} {cc1 : List Pair} {st1 : St}, GI A B ws cc1 st1 → (∀ t, t ∈ T0 → t ∈ st1.trues) →
        consT t (tryPos call wit normS W cs (i + 1) ls cc1 st1) = some (some ts, c', s') → ∀ j', j = j' + 1 → False := by
      intro t cc1 st1 hG1 hT1 h1 j' hj
      subst hj
      obtain ⟨r₁, e1, e2⟩ := consT_some h1
      cases r₁ with
      | none => cases e2
      | some ts' =>
        refine ih (i + 1) cc1 st1 hG1 hT1 ⟨j', k, hk, ?_⟩ ts' c' s' e1
        rw [Nat.add_right_comm, Nat.add_assoc]; exact hs
    simp only [tryPos] at h
    by_cases hS : (posSet normS W cs i).isEmpty = true
    · rw [if_pos hS] at h
      cases j with
      | succ j' => exact later hG hT h j' rfl
      | zero =>
        -- the set of a subsumed position is not empty
        obtain ⟨S0, h1, h2⟩ := hs
        obtain ⟨s, hs0⟩ := List.exists_mem_of_ne_nil _ (hG.2.2 _ (app_mono hT _ h1))
        have := InclUp.mem_normS.mpr (h2 s hs0)
        rw [show normS (rawSet W cs (i + 0)) = [] from List.isEmpty_iff.mp hS] at this
        cases this
    · rw [if_neg hS] at h
      have hne : posSet normS W cs i ≠ [] := fun h0 => hS (by rw [h0]; rfl)
      rcases hr : call cc st l (posSet normS W cs i) with _ | ⟨_ | w, cc1, st1⟩
      · rw [hr] at h; cases h
      · rw [hr] at h; cases h
      · rw [hr] at h
        cases j with
        | succ j' =>
          obtain ⟨g1, l1, _⟩ := (hc l _ hne cc st hG).2 _ _ _ hr
          exact later g1 (fun t ht => l1.2.2 t (hT t ht)) h j' rfl
        | zero =>
          cases hk
          exact hrc l _ cc st hne hG (sub_mono (app_mono hT) (fun s hs => InclUp.mem_normS.mpr hs) hs) w cc1 st1 hr

theorem oneCf_nofail {call : Call} (hc : CallGood (frameI A B ws) call call call)
    (hrc : RCall A B ws call) (wit : Wit) (f : Nat) (lhs : List Nat) (W : List (List Nat)) (cs : List Nat) (T0 : List Pair)
    (cc : List Pair) (st : St) (hG : GI A B ws cc st) (hT : ∀ t, t ∈ T0 → t ∈ st.trues)
    (hpos : ∃ j k, lhs[j]? = some k ∧ Sub (T0 ++ ws) k (rawSet W cs j)) :
    NoFail (oneCf call wit normS f lhs W cs) cc st := by
  intro w c' s' h
  unfold oneCf at h
  split at h
  · cases h
  · next ts cc1 st1 heq =>
    obtain ⟨j, k, hk, hs⟩ := hpos
    exact tryPos_nofail hc hrc wit W cs T0 lhs 0 cc st hG hT ⟨j, k, hk, by rw [Nat.zero_add]; exact hs⟩ ts cc1 st1 heq
  · cases h

def cfOf (W : List (List Nat)) (cs : List Nat) (σ : Rule) : Nat :=
  (((W.zip cs).find? (fun wc => wc.1 == σ.kids)).map (·.2)).getD 0

theorem cfOf_lt {W : List (List Nat)} {cs : List Nat} {n : Nat} (hn : 0 < n) (hcs : ∀ c, c ∈ cs → c < n) (σ : Rule) :
    cfOf W cs σ < n := by
  unfold cfOf
  cases hf : (W.zip cs).find? (fun wc => wc.1 == σ.kids) with
  | none => simpa using hn
  | some wc =>
    simp only [Option.map_some, Option.getD_some]
    exact hcs _ (List.of_mem_zip (a := wc.1) (b := wc.2) (List.mem_of_find?_eq_some hf)).2

theorem cfOf_zip {W : List (List Nat)} {cs : List Nat} (hl : cs.length = W.length) {σ : Rule} (hσ : σ.kids ∈ W) :
    (σ.kids, cfOf W cs σ) ∈ W.zip cs := by
  obtain ⟨c, hc, _⟩ := zip_mem_of_length hσ hl
  unfold cfOf
  cases hf : (W.zip cs).find? (fun wc => wc.1 == σ.kids) with
  | none =>
    have := List.find?_eq_none.mp hf _ hc
    simp at this
  | some wc =>
    have h1 := List.mem_of_find?_eq_some hf
    have h2 := List.find?_some hf
    simp only [beq_iff_eq] at h2
    simp only [Option.map_some, Option.getD_some]
    rw [← h2]
    exact h1

theorem rulesOf_mono {B : Vata.TA} {S' X : List Nat} {f n : Nat} (h : ∀ s, s ∈ S' → s ∈ X) {σ : Rule}
    (hσ : σ ∈ rulesOf B S' f n) : σ ∈ rulesOf B X f n := by
  obtain ⟨h1, h2, h3, h4⟩ := mem_rulesOf.mp hσ
  exact mem_rulesOf.mpr ⟨h1, h _ h2, h3, h4⟩

theorem pos_of_closed {T : List Pair} {x : Nat} {S' X : List Nat} (hsub : ∀ s, s ∈ S' → s ∈ X)
    (hcl : ClosedAt idOrd A B T (x, S')) {ρ : Rule} (hρ : ρ ∈ A.rules) (hp : ρ.parent = x) (hn : 0 < ρ.kids.length)
    {cs : List Nat} (hl : cs.length = (rhsTuples B X ρ.sym ρ.kids.length).length) (hcs : ∀ c, c ∈ cs → c < ρ.kids.length) :
    ∃ j k, ρ.kids[j]? = some k ∧ Sub T k (rawSet (rhsTuples B X ρ.sym ρ.kids.length) cs j) := by
  obtain ⟨i, k, hk, hs⟩ := hcl ρ hρ hp (cfOf (rhsTuples B X ρ.sym ρ.kids.length) cs) (fun r _ => cfOf_lt hn hcs r)
  refine ⟨i, k, hk, sub_mono (fun _ h => h) ?_ (subR_id_iff.mp hs)⟩
  intro s hs'
  obtain ⟨σ, hσ, hcσ, hget⟩ := mem_sset.mp hs'
  have hσX := rulesOf_mono hsub hσ
  have hW : σ.kids ∈ rhsTuples B X ρ.sym ρ.kids.length := mem_rhsTuples.mpr ⟨σ, hσX, rfl⟩
  have := cfOf_zip hl hW
  exact mem_rawSet.mpr ⟨σ.kids, _, this, hcσ, hget⟩

theorem rhs_ne_of_closed {T : List Pair} {x : Nat} {S' X : List Nat} (hsub : ∀ s, s ∈ S' → s ∈ X)
    (hcl : ClosedAt idOrd A B T (x, S')) (hne : ∀ t, t ∈ T → t.2 ≠ []) {ρ : Rule} (hρ : ρ ∈ A.rules) (hp : ρ.parent = x) :
    rhsTuples B X ρ.sym ρ.kids.length ≠ [] := by
  have hex : ∃ σ, σ ∈ rulesOf B S' ρ.sym ρ.kids.length := by
    cases hR : rulesOf B S' ρ.sym ρ.kids.length with
    | cons σ R => exact ⟨σ, List.mem_cons_self⟩
    | nil =>
      exfalso
      have hcl' := hcl ρ hρ hp (fun _ => 0) (fun r hr => by rw [hR] at hr; cases hr)
      obtain ⟨i, k, _, hs⟩ := hcl'
      obtain ⟨S0, h1, h2⟩ := subR_id_iff.mp hs
      have hne0 := hne _ h1
      obtain ⟨s, hs0⟩ := List.exists_mem_of_ne_nil _ hne0
      have := h2 s hs0
      rw [hR] at this
      simp [sset] at this
  obtain ⟨σ, hσ⟩ := hex
  exact List.ne_nil_of_mem (mem_rhsTuples.mpr ⟨σ, rulesOf_mono hsub hσ, rfl⟩)

theorem body_nofail {call : Call} (hc : CallGood (frameI A B ws) call call call)
    (hrc : RCall A B ws call) (wit : Wit) (x : Nat) (S' X : List Nat) (hsub : ∀ s, s ∈ S' → s ∈ X)
    (cc : List Pair) (st : St) (hG : GI A B ws cc st) (hcl : ClosedAt idOrd A B (st.trues ++ ws) (x, S')) :
    NoFail (body call call A B wit normS x X) cc st := by
  refine nofail_forAllL (Φ := frameI A B ws) cc st _ (fun g hg => good_procGroup hc wit normS x X hg)
    (fun g hg cc1 st1 hG1 hle1 => ?_) cc st hG ((frameI A B ws).refl _ _)
  obtain ⟨f, n⟩ := g
  obtain ⟨ρ0, r1, r2, r3, r4⟩ := mem_lhsGroups.mp hg
  have hW0 : ¬ (rhsTuples B X f n).isEmpty = true := fun h0 =>
    rhs_ne_of_closed hsub hcl hG.2.2 r1 r2 (r3 ▸ r4 ▸ List.isEmpty_iff.mp h0)
  intro w c' s' h
  cases n with
  | zero =>
    rw [procGroup_zero, if_neg hW0] at h
    cases h
  | succ n =>
    rw [procGroup_succ, if_neg hW0] at h
    revert h
    refine nofail_forAllL (Φ := frameI A B ws) cc st _ (fun lhs _ => good_procTuple hc wit normS f f _ lhs)
      (fun lhs hlhs cc2 st2 hG2 hle2 w2 c2 s2 h2 => ?_) cc1 st1 hG1 hle1 w c' s'
    obtain ⟨ρ, q1, q2, q3, q4, q5⟩ := mem_lhsTuples.mp hlhs
    rw [procTuple_eq] at h2
    rcases hr : anyTuple call lhs (rhsTuples B X f (n+1)) cc2 st2 with _ | ⟨_ | _, cc3, st3⟩ <;>
      simp only [bindS, hr] at h2
    · cases h2
    · -- phase 1 found no bigger tuple: every choice function has a subsumed position
      obtain ⟨g3, l3, _⟩ := (good_anyTuple hc lhs (rhsTuples B X f (n+1)) cc2 st2 hG2).2 _ _ _ hr
      refine nofail_cfAll (Φ := frameI A B ws) lhs.length cc st
        (fun cs => good_oneCf hc wit normS f f lhs (rhsTuples B X f (n+1)) cs) _ []
        (fun cs' hl hlt cc4 st4 hG4 hle4 => ?_) cc3 st3 g3 ((frameI A B ws).trans hle2 l3) w2 c2 s2 h2
      rw [List.append_nil]
      refine oneCf_nofail hc hrc wit f lhs _ cs' st.trues cc4 st4 hG4 hle4.2.2 ?_
      have hpos := pos_of_closed (cs := cs') hsub hcl q1 q2 (q4 ▸ Nat.succ_pos n)
        (by rw [q3, q4]; exact hl) (by rw [q5]; exact hlt)
      rwa [q3, q4, q5] at hpos
    · cases h2

end InclDownTables
end Vata
