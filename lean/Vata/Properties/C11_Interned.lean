import Vata.Proofs.CowInternedStep
/-!
# C11 (and C12) – several NAMED automata sharing tuple sets copy-on-write over ONE tuple cache

> C11.  Explicit tree automata are values: after copy construction / assignment the copy and the original can be modified
> (AddTransition, SetStateFinal, Clear, destruction) independently of one another, although the implementation shares the
> transition storage copy-on-write at three levels …
> C12.  … iterating the automaton yields each distinct rule added since the last Clear exactly once …

`Vata/Properties/C12_Interned.lean` ("still not proved"): *"a copy of the automaton is modelled as an eager copy of its tuple
sets; the equivalence with copy-on-write sharing of tuple sets (`CowHeap`) for tuple liveness is argued in the header, not
proved.  Named automata with assignment between them, and `internalAddTransition` with a foreign pointer, are not
modelled."*  `Vata/Properties/C11*.lean` treat the copy-on-write heap with tuple sets of tuple VALUES.  This file closes the
gap: the copy-on-write heap whose tuple SETS hold identities of the one process-wide tuple cache.

## How the C++ is read into the model (`Vata/CowInterned.lean`)

* `Sys.hx` is literally the heap of `Vata/CowHeapX.lean` (`CowHeap3.Heap`: handle → map node → cluster node → tuple-set
  node, a `use_count` per node, plus the member `finalStates_` per handle).  An element of a tuple-set node is the
  one-element list `cell p = [p]`, `p` the address of the interned tuple – `insTuple (cell p)` is `std::set<TuplePtr>::insert`
  comparing POINTERS.  `Sys.cache` is literally `StoreI.CacheSt` = `CM.Sys.store` (`Cache::store_`: tuple ↦ (address,
  `use_count`)) with `lookupC` / `acquireC` / `releaseC` of `Vata/StoreInterned.lean`.  `Sys.ext`: `TuplePtr`s held outside
  of tuple sets (temporaries, `info->children_` of `RemoveUselessStates`).
* The heap primitives of `CowHeap3` are re-coded THREADED with their effect on the cache, in the order of the C++:
  `releaseTsI` (`~TuplePtrSet()` inside the release of the last `TuplePtrSetPtr`: every `TuplePtr` of the set destroyed),
  the cascades `releaseClusterI` / `releaseMapI`; `addToClusterUniqueI` = `uniqueTuplePtrSet(f)->insert(p)`
  (`new TuplePtrSet()` / in place when `unique()` / `new TuplePtrSet(*tupleSet)`: every pointer of the shared set copied;
  then `insert`: the pointer copied iff no equal pointer is there; the old `TuplePtrSetPtr` released).  Clones of map and
  cluster nodes, copy construction and assignment of automata copy `shared_ptr`s to NODES only – no `acquireC` there; an
  off-by-one in any of the use counts, or a set copy that forgets the tuple pointers (`Mode.rawCopy`), is a different model.
  `…_fst` (`Vata/Proofs/CowInternedOps.lean`): the heap component of every threaded primitive IS the `CowHeap3` primitive.
* Calls (`Op`): `new`, `copy`, `assign`, `destroy`, `add` (= `AddTransition`: temporary `tupleLookup(children)`,
  `internalAddTransition`, death of the temporary), `addPtr` (= `internalAddTransition(p, f, q)` with a `TuplePtr` of the
  caller: `src/explicit_tree_useless.cc:167`, `src/explicit_tree_candidate.cc:170`), `clear`, `setFinal`, and what anybody may
  do with tuple pointers at any time: `envLookup`, `envCopy`, `envRelease`.
* **Allocator**: a call that may create a cache node carries the address offered; `stepC = none` iff it is the address of a
  live tuple (`C11_interned_total`).  Theorems "for all `ops` with `run .lib ops = some s`" hold for every allocator.
* **Abstracted**: pointer / hash ORDER in the containers (lists in insertion order); the weak-pointer control block of the
  cache is folded into the map entry; calls on dead automata, constructors over live names and `addPtr` with a pointer the
  caller does not hold are not C++ programs (no-ops); move operations and the storage-sharing library operations of
  `CowHeapX` (`shareAll`, `shareClusters`, `unionDisj`) are not threaded here.

## What is proved

`C11_interned_refines_values` (+ `_noPtr`, `_step`, `_isolated`), `C11_interned_cache_inv`, `C11_interned_no_leak`,
`C11_interned_pointer_eq_iff_tuple_eq`, `C11_interned_total`, `C11_interned_fair_allocator`,
`C11_interned_heap_is_CowHeapX`, and the regression `C11_interned_regression_rawCopy`.
-/
namespace Vata.Props
open Vata.CowI
open Vata.CowHeapX (specStepX specInitX)

theorem C11_absV_init : absV CowI.init = specInitX := by
  funext h
  show (CowHeapX.absX CowHeapX.initX h).map _ = _
  rw [CowHeapX.absX_init]
  rfl

/-- **Every automaton denotes the value the value-level specification gives it.**  For every history of calls on named
    automata (construction, copy, assignment, destruction, `AddTransition`, `internalAddTransition` with a foreign pointer,
    `Clear`, `SetStateFinal`, pointer traffic of the environment), every allocator and every interleaving: the store of tuple
    VALUES seen through the pointers of automaton `h` (`absV s h`; `none` = dead) is what the specification of independent
    values `CowHeapX.specStepX` (each call changes the value of its target only) computes from the value-level reading of
    the history – so copies stay isolated although they share map / cluster / tuple-set nodes and tuple identities. -/
theorem C11_interned_refines_values {ops : List Op} {s : Sys} (h : run .lib ops = some s) :
    absV s = (valOps CowI.init ops).foldl specStepX specInitX := by
  rw [← C11_absV_init]
  exact (runFrom_lib inv_init h).2

/-- without `addPtr` the value-level reading of the history is the call-by-call translation `valOp0` -/
theorem C11_interned_refines_values_noPtr {ops : List Op} {s : Sys} (h : run .lib ops = some s)
    (hnp : ∀ op, op ∈ ops → noPtr op = true) :
    absV s = (ops.filterMap valOp0).foldl specStepX specInitX := by
  rw [C11_interned_refines_values h, valOps_noPtr hnp h]

/-- one call in a reachable state: the values change as specified (for `addPtr`: the inserted tuple is what the pointer of
    the caller denotes at the time of the call) -/
theorem C11_interned_refines_values_step {ops : List Op} {s s' : Sys} {op : Op} (h : run .lib ops = some s)
    (hs : stepC .lib s op = some s') : absV s' = specV (absV s) (valOp s op) :=
  (stepC_lib (runFrom_lib inv_init h).1 hs).2

/-- isolation, read off: an automaton that is not the target of the call keeps its value – whatever it shares -/
theorem C11_interned_isolated {ops : List Op} {s s' : Sys} {op : Op} (h : run .lib ops = some s)
    (hs : stepC .lib s op = some s') (x : Nat)
    (hx : ∀ o, valOp s op = some o → x ∉ CowHeapX.targets o) : absV s' x = absV s x := by
  rw [C11_interned_refines_values_step h hs]
  cases hv : valOp s op with
  | none => rfl
  | some o => exact CowHeapX.specStepX_other _ o x (hx o hv)

/-- **The cache invariant under sharing.**  In every reachable state, for every cache entry `(v, id, rc)`:
    `rc` = number of tuple-set CELLS holding `id`, every live tuple-set node counted ONCE however many clusters / maps /
    automata share it, + number of outside holders (temporaries); `rc > 0`;
    and no entry dies while a live set (or a temporary) holds it: every such pointer is an entry and dereferences to its
    tuple. -/
theorem C11_interned_cache_inv {ops : List Op} {s : Sys} (h : run .lib ops = some s) :
    (∀ v id rc, (v, id, rc) ∈ s.cache → rc = (refsT s.hx.core).count id + s.ext.count id ∧ 0 < rc) ∧
    (∀ id, id ∈ refsT s.hx.core ++ s.ext → ∃ v rc, (v, id, rc) ∈ s.cache ∧ StoreI.derefC s.cache id = v) ∧
    CowHeapX.InvX s.hx := by
  have hi := (runFrom_lib inv_init h).1
  exact ⟨fun v id rc hm => use_count hi hm, fun id hid => held_is_live hi hid, hi.heap⟩

/-- **All entries die when all automata die**: when the last automaton is gone (and no temporary is left) every node of
    every level has been freed and the cache is empty – the `assert(this->empty())` of `~Cache()`.  (`s.ext = []` cannot be
    dropped: `C11_interned_holder_keeps_entry`.) -/
theorem C11_interned_no_leak {ops : List Op} {s : Sys} (h : run .lib ops = some s) (hl : s.hx.core.hl = [])
    (he : s.ext = []) : s.cache = [] ∧ s.hx.core.ml = [] ∧ s.hx.core.cl = [] ∧ s.hx.core.tl = [] := by
  have hi := (runFrom_lib inv_init h).1
  exact ⟨no_leak hi hl he, CowHeapX.no_garbageX hi.heap hl⟩

/-- a pointer held outside keeps its entry alive after the death of all automata -/
theorem C11_interned_holder_keeps_entry :
    (run .lib [.new 1, .add 1 ⟨7, [3, 4], 5⟩ 100, .envCopy 100, .destroy 1]).map
      (fun s => (s.hx.core.hl, s.cache, s.ext)) = some ([], [([3, 4], 100, 1)], [100]) := by decide +kernel

/-- two entries hold equal tuples iff they have the same address; two pointers held anywhere (in tuple sets of whatever
    automata, or outside) are equal iff the tuples they denote are equal – what makes the pointer comparison of
    `std::set<TuplePtr>` a comparison of tuples across ALL automata of the process -/
theorem C11_interned_pointer_eq_iff_tuple_eq {ops : List Op} {s : Sys} (h : run .lib ops = some s) :
    (∀ v v' id id' rc rc', (v, id, rc) ∈ s.cache → (v', id', rc') ∈ s.cache → (v = v' ↔ id = id')) ∧
    (∀ a b, a ∈ refsT s.hx.core ++ s.ext → b ∈ refsT s.hx.core ++ s.ext →
      (StoreI.derefC s.cache a = StoreI.derefC s.cache b ↔ a = b)) := by
  have hc : StoreI.CInv s.cache (refsT s.hx.core ++ s.ext) := (runFrom_lib inv_init h).1.cache
  exact ⟨fun _ _ _ _ _ _ => hc.tuple_eq_iff_id_eq, fun a b ha hb => ⟨hc.deref_inj ha hb, fun e => by rw [e]⟩⟩

/-- a call fails only on an impossible allocator choice (the address of a live tuple) -/
theorem C11_interned_total (md : Mode) (s : Sys) (op : Op)
    (h : ∀ ch, opChoice op = some ch → ch ∉ StoreI.liveIds s.cache) : (stepC md s op).isSome = true :=
  stepC_isSome md s op h

/-- the hypothesis of `C11_interned_total` is needed: the allocator cannot return the address of a live tuple -/
theorem C11_interned_total_sharp :
    run .lib [.new 1, .add 1 ⟨7, [3, 4], 5⟩ 100, .add 1 ⟨7, [4], 5⟩ 100] = none := by decide +kernel

/-- against every fair allocator (never the address of a live tuple; dead addresses may be recycled at once) every history
    runs to its end, keeps the invariants and refines the values -/
theorem C11_interned_fair_allocator {alloc : List Nat → Nat} (hf : ∀ l, alloc l ∉ l) (ops : List Op) :
    ∃ s, runA .lib alloc CowI.init ops = some s ∧ Inv' s ∧
      absV s = (valOps CowI.init (playedOps alloc CowI.init ops)).foldl specStepX specInitX := by
  obtain ⟨s, h1, h2, h3⟩ := runA_lib hf inv_init ops
  exact ⟨s, h1, h2, by rw [h3, C11_absV_init]⟩

/-- the heap component of a call of the library IS the call of the copy-on-write heap of `Vata/CowHeapX.lean` on cells
    (so all theorems of `Vata/Properties/C11*.lean` about node sharing and use counts of nodes apply verbatim) -/
theorem C11_interned_heap_is_CowHeapX {s s' : Sys} {op : Op} (hs : stepC .lib s op = some s') :
    s'.hx = match heapOp s op with
            | some o => CowHeapX.stepX s.hx o
            | none => s.hx := by
  cases op with
  | new | copy | setFinal | assign | destroy | clear =>
    simp only [stepC, Option.some.injEq] at hs
    subst hs
    simp [heapOp, withCore, CowHeapX.stepX, assignI_fst, destroyI_fst, clearI_fst]
  | add h r ch =>
    simp only [stepC] at hs
    by_cases hh : h ∈ s.hx.core.hl
    · simp only [hh, if_true] at hs
      cases hl : StoreI.lookupC s.cache r.kids ch with
      | none => simp [hl] at hs
      | some x =>
        obtain ⟨c₁, p⟩ := x
        simp only [hl, Option.some.injEq] at hs
        subst hs
        rw [add_eq s hh]
        simp [heapOp, hl]
    · simp only [hh, if_false, Option.some.injEq] at hs
      subst hs
      cases hl : StoreI.lookupC s.cache r.kids ch <;> simp [heapOp, hl, CowHeapX.stepX, CowHeap3.step, hh]
  | addPtr h q f p =>
    simp only [stepC] at hs
    by_cases hc : h ∈ s.hx.core.hl ∧ p ∈ s.ext
    · simp only [hc, and_self, if_true, Option.some.injEq] at hs
      subst hs
      rw [add_eq s hc.1]
      simp [heapOp, hc.2]
    · simp only [hc, if_false, Option.some.injEq] at hs
      subst hs
      by_cases hp : p ∈ s.ext
      · have hh : h ∉ s.hx.core.hl := fun x => hc ⟨x, hp⟩
        simp [heapOp, hp, CowHeapX.stepX, CowHeap3.step, hh]
      · simp [heapOp, hp]
  | envLookup t ch =>
    simp only [stepC] at hs
    cases hl : StoreI.lookupC s.cache t ch with
    | none => simp [hl] at hs
    | some x => simp only [hl, Option.some.injEq] at hs; subst hs; simp [heapOp]
  | envCopy | envRelease =>
    simp only [stepC] at hs
    split at hs <;> (simp only [Option.some.injEq] at hs; subst hs; simp [heapOp])

/-! ### regression and non-vacuity -/

/-- automaton 2 is a copy of automaton 1 (they share everything), gets a second rule (which clones map, cluster and tuple
    set), then automaton 1 is cleared -/
def C11_opsR : List Op :=
  [.new 1, .add 1 ⟨7, [3, 4], 5⟩ 100, .copy 1 2, .add 2 ⟨7, [4], 5⟩ 101, .clear 1]

/-- **Regression.**  A copy of the tuple set that duplicates the set WITHOUT acquiring the tuple pointers
    (`Mode.rawCopy`): the use count of the tuple `[3, 4]` stays 1 although two sets hold its address, `Clear` of the original
    destroys the entry, and the copy holds a dangling identity (its rule `7([3, 4]) → 5` reads as garbage).  The library
    keeps the entry (use count 1 after the clear) and the copy keeps both rules. -/
theorem C11_interned_regression_rawCopy :
    ((run .rawCopy C11_opsR).map (fun s => (danglingB s, invB s)) = some (true, false) ∧
     (run .rawCopy C11_opsR).map (fun s => s.cache) = some [([4], 101, 1)] ∧
     (run .rawCopy C11_opsR).map (fun s => absV s 2) = some (some ⟨[(5, [(7, [[], [4]])])], []⟩)) ∧
    ((run .lib C11_opsR).map (fun s => (danglingB s, invB s)) = some (false, true) ∧
     (run .lib C11_opsR).map (fun s => s.cache) = some [([4], 101, 1), ([3, 4], 100, 1)] ∧
     (run .lib C11_opsR).map (fun s => absV s 1) = some (some ⟨[], []⟩) ∧
     (run .lib C11_opsR).map (fun s => absV s 2) = some (some ⟨[(5, [(7, [[3, 4], [4]])])], []⟩)) := by
  refine ⟨by decide +kernel, by decide +kernel⟩

/-- sharing is real: after the copy ONE tuple-set node holds the one pointer, the use count of the tuple is 1 (an eager copy
    would give 2), and both automata denote the same value -/
example : (run .lib (C11_opsR.take 3)).map (fun s => (s.hx.core.tl, refsT s.hx.core)) = some ([2], [100]) ∧
    (run .lib (C11_opsR.take 3)).map (fun s => s.cache) = some [([3, 4], 100, 1)] ∧
    (run .lib (C11_opsR.take 3)).map (fun s => (s.hx.core.hmap 1 == s.hx.core.hmap 2, absV s 1 == absV s 2)) =
      some (true, true) := by
  decide +kernel

/-- a history with a foreign pointer: the caller copies the pointer out of automaton 1, inserts it into automaton 2, drops
    it; automaton 1 dies – automaton 2 keeps the tuple alive; address 102 is fresh, 100 would be refused -/
def C11_opsP : List Op :=
  [.new 1, .add 1 ⟨7, [3, 4], 5⟩ 100, .envCopy 100, .new 2, .addPtr 2 6 8 100, .envRelease 100, .destroy 1,
   .add 2 ⟨9, [], 6⟩ 102, .setFinal 2 6]

example : (run .lib C11_opsP).map (fun s => s.cache) = some [([3, 4], 100, 1), ([], 102, 1)] ∧
    (run .lib C11_opsP).map (fun s => (refsT s.hx.core, s.ext, invB s)) = some ([102, 100], [], true) ∧
    (run .lib C11_opsP).map (fun s => absV s 1) = some none ∧
    (run .lib C11_opsP).map (fun s => absV s 2) = some (some ⟨[(6, [(8, [[3, 4]]), (9, [[]])])], [6]⟩) := by
  decide +kernel

/-- the hypotheses of the theorems are satisfiable: the two histories run, and the value-level reading of the second is -/
example : (run .lib C11_opsR).isSome = true ∧ (run .lib C11_opsP).isSome = true ∧
    valOps CowI.init C11_opsP =
      [.new 1, .add 1 5 (7, [3, 4]), .new 2, .add 2 6 (8, [3, 4]), .destroy 1, .add 2 6 (9, []), .setFinal 2 6] := by
  refine ⟨by decide +kernel, by decide +kernel, by rfl⟩

example : absV ((run .lib C11_opsP).getD CowI.init) 2 = some ⟨[(6, [(8, [[3, 4]]), (9, [[]])])], [6]⟩ := by decide +kernel

/-- with the recycling allocator of `Vata/StoreInterned.lean` -/
example : (runA .lib StoreI.lowAlloc CowI.init C11_opsR).map (fun s => s.cache) =
      some [([4], 1, 1), ([3, 4], 0, 1)] ∧
    (runA .lib StoreI.lowAlloc CowI.init C11_opsR).map (fun s => absV s 2) =
      some (some ⟨[(5, [(7, [[3, 4], [4]])])], []⟩) := by
  decide +kernel

/-!
## still not proved

* Move construction / move assignment and the storage-sharing library operations of `Vata/CowHeapX.lean` (`shareAll`,
  `shareClusters`, `unionDisj`, selective copy) are not threaded with the cache (they copy node pointers only, so the
  threading would be the identity on the cache; not done).  `ContainsTransition` (a temporary interned for the duration of
  the call) is in `Vata/StoreInterned.lean` for one automaton, not here.
* The eager-copy model of `Vata/StoreInterned.lean` (`copyOutI`) is not formally related to this one (both are proved to
  refine the value store; no theorem states "a tuple is live here iff it is live there" directly).
* `invB s = true` is proved for reachable states only as far as `InvX` and `CInv` go (`C11_interned_cache_inv`); the
  duplicate-freeness of the cache LIST that `StoreI.cacheInvB` also tests follows from the map discipline of `aset` / `adel`
  and is not proved here (it is evaluated on the examples).
* The pointer ORDER of `std::set<TuplePtr>` (iteration order depends on addresses) is abstracted to insertion order.
-/

end Vata.Props
