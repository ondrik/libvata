import Vata.IsectModel
/-!
# Executable model of `IntersectionBU` (`src/explicit_tree_isect_bu.cc`), property C02

Definitions only (core Lean, linked into the driver); the theorems are in `Vata/Proofs/IsectBU.lean`.

The C++ builds the product bottom-up, so only pairs `(p, q)` that label a common tree are ever created:

* **leaf phase**: for every pair of leaf rules `a → p` of `A`, `a → q` of `B` the pair `(p, q)` is inserted into the
  translation map (`pTranslMap->insert(make_pair(pair, pTranslMap->size()))`, the size is the fresh number), the rule
  `a → m(p,q)` is added, the pair is marked final when both components are, and the map entry is pushed on the stack;
* **loop**: an entry `((p, q), k)` is popped; when `k ∈ newStates` it is skipped, otherwise `k` is added to `newStates`,
  the state is marked final when both components are, and every pair of rules `f(…p…) → p'` of `A` and `f(…q…) → q'` of `B`
  having `p` resp. `q` at the SAME position (the bottom-up index `lhsIndex[p][f][i]`, `rhsIndex[q][f][i]`) is examined:
  the parent pair `(p', q')` is inserted TENTATIVELY (`isNewState`), the children pairs are looked up; when one of them is
  unknown, or is the just inserted parent pair itself (`isSelfLoopToNewState`), the tentative entry is erased again and
  the rule pair is skipped; otherwise the rule `f(m(children)) → m(p',q')` is added and the entry is pushed.

`buMatching` lists the examined rule pairs in list order (the C++ iterates hash containers: symbols, positions, rules);
a pair of rules is listed once per common position, as in the C++.  The ranked alphabet of the C++ (a symbol has one
arity; `assert(rhsTrans.children().size() == lhsTrans.children().size())`) appears as the arity test in `buMatching`
and `buLeafPairs`.  The tests `genericLookup(*lhs.transitions_, …)` of the C++ (is the component the parent of a rule
at all?) always succeed on discovered pairs and are left out.

The loop has fuel (one unit per pop).  The result is returned *certify-then-trust*, only after the Boolean check
`buCertB`: the numbering is injective, the discovered set `D` of pairs is BOTTOM-UP CLOSED (`buClosedB`: the parent pair of
two matching rules all of whose children pairs are in `D` is in `D`), the rules of the result are exactly (as a set) the
product rules all of whose children pairs are in `D`, numbered by the map, and the final states are exactly the numbers
of the pairs of `D` with two final components.  `Vata/Proofs/IsectBU.lean` proves that such a product accepts exactly
the intersection (`isect_bu_cert`, `isectBU_lang`), `Vata/Proofs/IsectBUInv.lean` that the check can never fail on what
the loop computes (`isectBU_eq_loop`), `Vata/Proofs/IsectBUTotal.lean` that the fuel `isectBUFuel` suffices.
-/
namespace Vata

/-- an entry of the stack: a pointer to an element of the translation map, i.e. a pair with its number -/
abbrev BUEntry := (Nat × Nat) × Nat

/-- `pTranslMap->insert(make_pair(p, pTranslMap->size()))`: the map, the number of `p`, and `isNewState` -/
def buInsert (m : PMap) (p : Nat × Nat) : PMap × Nat × Bool :=
  match m.lookup p with
  | some n => (m, n, false)
  | none => (m ++ [(p, m.length)], m.length, true)

/-- `pTranslMap->erase(p)` -/
def buErase (m : PMap) (p : Nat × Nat) : PMap := m.filter (fun e => !(e.1 == p))

/-- the pairs of leaf rules with the same symbol -/
def buLeafPairs (A B : TA) : List (Rule × Rule) :=
  (A.rules.filter (fun r => r.kids.isEmpty)).flatMap (fun r =>
    (B.rules.filter (fun r' => r'.kids.isEmpty && r'.sym == r.sym)).map (fun r' => (r, r')))

/-- the leaf phase: map, stack, rules, final states -/
def buLeafPhase (A B : TA) : List (Rule × Rule) → PMap → List BUEntry → List Rule → List Nat →
    PMap × List BUEntry × List Rule × List Nat
  | [], m, st, rs, fs => (m, st, rs, fs)
  | rr :: rest, m, st, rs, fs =>
    let i := buInsert m (rr.1.parent, rr.2.parent)
    buLeafPhase A B rest i.1 (((rr.1.parent, rr.2.parent), i.2.1) :: st) (rs ++ [⟨rr.1.sym, [], i.2.1⟩])
      (if A.final.contains rr.1.parent && B.final.contains rr.2.parent then fs ++ [i.2.1] else fs)

/-- the rule pairs examined for a popped pair `pr`: same symbol and arity, `pr.1` and `pr.2` at a common position -/
def buMatching (A B : TA) (pr : Nat × Nat) : List (Rule × Rule) :=
  A.rules.flatMap (fun r => (List.range r.kids.length).flatMap (fun i =>
    if r.kids[i]? == some pr.1 then
      (B.rules.filter (fun r' => r'.sym == r.sym && r'.kids.length == r.kids.length && r'.kids[i]? == some pr.2)).map
        (fun r' => (r, r'))
    else []))

/-- the children tuple of the product rule; `none` (`allTupleInProduct = false`) when a children pair is unknown or is
the tentatively inserted parent pair -/
def buKidsTr (m : PMap) (isNew : Bool) (par : Nat × Nat) : List (Nat × Nat) → Option (List Nat)
  | [] => some []
  | c :: cs =>
    match m.lookup c with
    | none => none
    | some n => if isNew && c == par then none else (buKidsTr m isNew par cs).map (n :: ·)

/-- the body of the innermost loop for one pair of rules -/
def buProcPair (r r' : Rule) (m : PMap) (st : List BUEntry) (rs : List Rule) : PMap × List BUEntry × List Rule :=
  let i := buInsert m (r.parent, r'.parent)
  match buKidsTr i.1 i.2.2 (r.parent, r'.parent) (r.kids.zip r'.kids) with
  | none => (if i.2.2 then buErase i.1 (r.parent, r'.parent) else i.1, st, rs)
  | some tuple => (i.1, ((r.parent, r'.parent), i.2.1) :: st, rs ++ [⟨r.sym, tuple, i.2.1⟩])

def buProcAll : List (Rule × Rule) → PMap → List BUEntry → List Rule → PMap × List BUEntry × List Rule
  | [], m, st, rs => (m, st, rs)
  | rr :: rest, m, st, rs =>
    buProcAll rest (buProcPair rr.1 rr.2 m st rs).1 (buProcPair rr.1 rr.2 m st rs).2.1 (buProcPair rr.1 rr.2 m st rs).2.2

/-- the work-list loop (`ns` is `newStates`); `none` when the fuel ends before the stack is empty -/
def buLoop (A B : TA) : Nat → PMap → List BUEntry → List Nat → List Rule → List Nat → Option (PMap × List Rule × List Nat)
  | 0, m, st, _, rs, fs => if st.isEmpty then some (m, rs, fs) else none
  | _+1, m, [], _, rs, fs => some (m, rs, fs)
  | n+1, m, e :: st, ns, rs, fs =>
    if ns.contains e.2 then buLoop A B n m st ns rs fs
    else
      buLoop A B n (buProcAll (buMatching A B e.1) m st rs).1 (buProcAll (buMatching A B e.1) m st rs).2.1 (e.2 :: ns)
        (buProcAll (buMatching A B e.1) m st rs).2.2
        (if A.final.contains e.1.1 && B.final.contains e.1.2 then fs ++ [e.2] else fs)

/-! ### the product on a bottom-up closed set of pairs, and the certificate check -/

/-- the product rules all of whose children pairs are in `D`, numbered by `m` -/
def prodRulesBU (A B : TA) (D : List (Nat × Nat)) (m : Nat × Nat → Nat) : List Rule :=
  A.rules.flatMap (fun r => (B.rules.filter (fun r' => r'.sym == r.sym && r'.kids.length == r.kids.length
      && (r.kids.zip r'.kids).all (fun pr => D.contains pr))).map
    (fun r' => ⟨r.sym, (r.kids.zip r'.kids).map m, m (r.parent, r'.parent)⟩))

/-- the numbers of the pairs of `D` with two final components -/
def prodFinalBU (A B : TA) (D : List (Nat × Nat)) (m : Nat × Nat → Nat) : List Nat :=
  (D.filter (fun pr => A.final.contains pr.1 && B.final.contains pr.2)).map m

def prodBU (A B : TA) (D : List (Nat × Nat)) (m : Nat × Nat → Nat) : TA := ⟨prodRulesBU A B D m, prodFinalBU A B D m⟩

/-- `D` is bottom-up closed: it contains the parent pair of matching rules all of whose children pairs are in `D` -/
def buClosedB (A B : TA) (D : List (Nat × Nat)) : Bool :=
  A.rules.all (fun r => B.rules.all (fun r' =>
    !(r'.sym == r.sym && r'.kids.length == r.kids.length && (r.kids.zip r'.kids).all (fun pr => D.contains pr)) ||
      D.contains (r.parent, r'.parent)))

/-- different pairs have different numbers (checked on all entries) -/
def pmapInjB (m : PMap) : Bool := m.all (fun e => m.all (fun e' => e.2 != e'.2 || e.1 == e'.1))

/-- the certificate check on the output of the loop -/
def buCertB (A B : TA) (m : PMap) (rs : List Rule) (fs : List Nat) : Bool :=
  pmapInjB m && buClosedB A B m.dom && rulesEq rs (prodRulesBU A B m.dom (lookupF m)) &&
    seteq fs (prodFinalBU A B m.dom (lookupF m))

/-- model of `IntersectionBU`: the product automaton and the translation map -/
def isectBU (A B : TA) (fuel : Nat) : Option (TA × PMap) :=
  let l := buLeafPhase A B (buLeafPairs A B) [] [] [] []
  match buLoop A B fuel l.1 l.2.1 [] l.2.2.1 l.2.2.2 with
  | none => none
  | some (m, rs, fs) => if buCertB A B m rs fs then some (⟨rs, fs⟩, m) else none

/-- a generous bound on the number of pops: every push belongs to a pair of leaf rules or to a processed pair of states
together with a pair of rules and a position -/
def isectBUFuel (A B : TA) : Nat :=
  A.rules.length * B.rules.length +
    (A.states.length * B.states.length) *
      (A.rules.length * B.rules.length * (A.rules.foldl (fun a r => max a r.kids.length) 0)) + 1

def isectBURef (A B : TA) : Option (TA × PMap) := isectBU A B (isectBUFuel A B)

end Vata
