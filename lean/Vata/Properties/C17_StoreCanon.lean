import Vata.Proofs.RcStoreXWfRename
import Vata.Properties.C17_StoreOps
/-!
# C17 at STORE level – canonicity ("pointer equality = equality of functions") after the extended operations

> (C17) Two MTBDDs compare equal exactly when they denote the same function.

`OndriksMTBDD::operator==` compares the root pointers.  `Vata/Proofs/StoreRefine.lean` proves "roots equal ⟺ same function"
for histories over construct / copy / assign / apply2 / destroy (`handle_eq_iff_same_function`).  This file extends it to the
full operation set of `Vata/RcStoreX.lean` (unary / ternary apply, `Project`, `Rename`, `ExtendWith`, `GetMtbddForPrefix`; the
C++ is quoted there and in `Vata/RcStoreXMono.lean`).

## How the C++ is read

* Store, operations, histories: `RcSX.runX F ops` (see the header of `Vata/Properties/C18_Extended.lean`).
  `find h s.hs` = `getRoot()` of handle `h`; `getValue s h ρ` = `GetValue` under the total assignment `ρ`.
* The invariant: `WInv` (counters, the two unique tables are EXACT: an entry for every allocated node and nothing else, keys
  unique – hash-consing) holds after every history (`runX_winv`).  `WfInv` = every allocated inner node has `low ≠ high`
  (reduced) and children with smaller variables (ordered; larger variables are nearer the root, as `constructMTBDD` builds them).
* `WfInv` does NOT hold after every history.  Two operations put a variable on a node without any test:
  - `renameNode` (`spawnInternal(lowTree, highTree, renamer(var))`); it `assert`s `lowTree != highTree` and
    `GetVarFromInternal(child) < newVar`.  `RcSX.renOkT` is the conjunction of these assertions; it follows from
    "the renamer is strictly monotone on the variables that occur below the root" (`strictMonoOn … (varsBelow …)`).
  - `ExtendWith(asgn, offset)` (4-argument `constructMTBDD` with `var ↦ var + offset`) stacks the variables
    `offset + i` on top of the root and asserts NOTHING.  The result is ordered iff the root variable is below `offset`
    (or no node is built).  The library's only call is `ExtendWith(prefix, SYMBOL_SIZE)` on diagrams over the symbol
    variables, which satisfies it.  This second condition was forced by the proof; `C17_store_low_offset_extendWith_breaks_canonicity`
    shows it cannot be dropped.
  `Mono F ops` (decidable, `Vata/RcStoreXMono.lean`): every EXECUTED `rename` is strictly monotone on the occurring variables
  and every executed `extendWith` has `root variable < offset`.  `MonoW F ops` (weaker, also decidable): every executed
  `rename` passes the assertions of `renameNode`, and in every executed `extendWith` the first node stacked on the root (for
  the first `ZERO`/`ONE` position `k` of `asgn`, if any) has `root variable < offset + k`.  `Mono → MonoW` (`monoW_of_mono`),
  and `MonoW` is EXACT: it holds iff the store is ordered and reduced after every prefix of the history
  (`C17_store_wf_exact`).

## Abstracted

The memo tables of the functors; leaf values and handle names are `Nat`.  Fuel: see `C18_Extended` (never exhausted).
Stores may contain the garbage left by `Project` (nodes with counter 0): nothing here needs "no counter is 0".
-/
namespace Vata.RcSX.Ex
open Vata.RcS

/-- every operation of the extended set; the two renamings are monotone on the variables that occur (`x₀ ↦ 1, x₂ ↦ 3` on a
    diagram over `x₀, x₂`; `x₀ ↦ 0, x₁ ↦ 2, x₂ ↦ 5`), the extension uses offset 3 above the variables `0, 1` -/
def exCanon : List RcSX.Op :=
  [.construct 0 [some true, none, some false] 5 0, .construct 1 [some false, some true] 7 0, .apply 0 1 2,
   .apply1 2 3, .apply3 0 1 2 4, .rename 0 5 [1, 2, 3], .project 2 9 [1], .extendWith 1 6 [some true] 3,
   .getPrefix 6 7 [some true] 3, .copy 3 8, .assign 4 8, .destroy 3, .rename 2 10 [0, 2, 5], .apply 10 5 11]

/-- `x₀ ∧ x₁ ↦ 5`, renamed with the swap `x₀ ↦ 1, x₁ ↦ 0` -/
def exSwap : List RcSX.Op := [.construct 0 [some true, some true] 5 0, .rename 0 1 [1, 0]]

/-- `x₀ ↦ 5`, extended by the prefix `x₀ = 1` at offset 0 (not above the root variable) -/
def exLowOffset : List RcSX.Op := [.construct 0 [some true] 5 0, .extendWith 0 1 [some true] 0]

end Vata.RcSX.Ex

namespace Vata.Props
open Vata.RcS Vata.RcSX Vata.RcSX.Ex

/-- ONE operation of the extended set, executed in a store that satisfies both invariants, preserves both, provided a
`rename` passes the assertions of `renameNode` and an `extendWith` that builds a node has its offset above the root variable
(`opOkW`; every other operation: no condition) -/
theorem C17_store_wf_step (F : Fns) (dv : Nat → Nat) (s : Store) (op : RcSX.Op) (hw : WInv s []) (w : WfInv s)
    (ok : opOkW s op = true) : WInv (stepS F dv s op) [] ∧ WfInv (stepS F dv s op) :=
  ⟨(stepS_winv F dv op hw).1, stepS_wfInv F dv op hw w ok⟩

/-- … and the condition is exact: in a store satisfying both invariants the operation keeps the store ordered and reduced
IFF `opOkW` holds.  For an executed `rename` this says: the result is ordered and reduced iff the three `assert`s of
`renameNode` hold at every inner node of the operand. -/
theorem C17_store_wf_step_exact (F : Fns) (dv : Nat → Nat) (s : Store) (op : RcSX.Op) (hw : WInv s []) (w : WfInv s) :
    WfInv (stepS F dv s op) ↔ opOkW s op = true :=
  stepS_wfInv_iff F dv op hw w

/-- the assertions of `renameNode` (`renOkT`), at tree level: they hold iff the renamed diagram is ordered and reduced
(no assumption on the operand) -/
theorem C17_rename_asserts_iff_wf (ren : Nat → Nat) (t : M.Node Nat) : renOkT ren t = true ↔ M.WF (M.rename ren t) :=
  renOkT_iff_wf ren t

/-- `MonoW` is exact at history level: the store is ordered and reduced after EVERY prefix of the history iff every
executed `rename` passes the assertions and every executed `extendWith` stacks its first node above the root variable -/
theorem C17_store_wf_exact (F : Fns) (ops : List RcSX.Op) : MonoW F ops ↔ ∀ n, WfInv (runX F (ops.take n)).st :=
  okFromW_iff F ops xempty inv_empty.1 wfInv_empty

/-- (1) After every `Mono` history over ALL operations of `RcSX.Op` the store is ordered, reduced and hash-consed:
every allocated inner node has `low ≠ high` and children with smaller variables (`WfInv`), the two unique tables contain
exactly the allocated nodes under unique keys, and consequently every allocated node unfolds to an ordered, reduced diagram -/
theorem C17_store_wf_extended (F : Fns) (ops : List RcSX.Op) (m : Mono F ops) :
    WfInv (runX F ops).st ∧
    (∀ n v, n ∈ (runX F ops).st.ids → (runX F ops).st.dat n = .leaf v → find v (runX F ops).st.leafT = some n) ∧
    (∀ n lo hi var, n ∈ (runX F ops).st.ids → (runX F ops).st.dat n = .int lo hi var →
      find (lo, hi, var) (runX F ops).st.intT = some n) ∧
    KeysNodup (runX F ops).st.leafT ∧ KeysNodup (runX F ops).st.intT ∧
    (∀ n, n ∈ (runX F ops).st.ids → M.WF (unfold (runX F ops).st.dat (n+1) n)) :=
  have w := runX_wfInv_of_mono F ops m
  have t := xtables_exact F ops
  ⟨w, t.1, t.2.1, t.2.2.1, t.2.2.2.1, fun _ hn => diagram_wf (runX_winv F ops) w hn⟩

/-- the same under the weaker condition "every executed `rename` passes the C++ assertions" -/
theorem C17_store_wf_extended_asserts (F : Fns) (ops : List RcSX.Op) (m : MonoW F ops) :
    WfInv (runX F ops).st ∧ (∀ n, n ∈ (runX F ops).st.ids → M.WF (unfold (runX F ops).st.dat (n+1) n)) :=
  have w := runX_wfInv F ops m
  ⟨w, fun _ hn => diagram_wf (runX_winv F ops) w hn⟩

/-- strict monotonicity on the occurring variables implies the assertions -/
theorem C17_store_mono_implies_asserts (F : Fns) (ops : List RcSX.Op) (m : Mono F ops) : MonoW F ops := monoW_of_mono m

/-- (2) "Two MTBDDs compare equal exactly when they denote the same function", for the full operation set: after any
history passing the assertions (in particular any `Mono` history), two live handles have the same root pointer iff
`GetValue` agrees on every total assignment -/
theorem C17_store_equality_extended_asserts (F : Fns) (ops : List RcSX.Op) (m : MonoW F ops) {a b ra rb : Nat}
    (ha : find a (runX F ops).st.hs = some ra) (hb : find b (runX F ops).st.hs = some rb) :
    ra = rb ↔ ∀ asg, getValue (runX F ops).st a asg = getValue (runX F ops).st b asg := by
  have hw := runX_winv F ops
  have := WInv.node_eq_iff_same_function hw (runX_wfInv F ops m) (hw.rin ra (root_mem ha)) (hw.rin rb (root_mem hb))
  simp only [getValue, ha, hb, Option.map_some, Option.some.injEq]
  exact this

theorem C17_store_equality_extended (F : Fns) (ops : List RcSX.Op) (m : Mono F ops) {a b ra rb : Nat}
    (ha : find a (runX F ops).st.hs = some ra) (hb : find b (runX F ops).st.hs = some rb) :
    ra = rb ↔ ∀ asg, getValue (runX F ops).st a asg = getValue (runX F ops).st b asg :=
  C17_store_equality_extended_asserts F ops (monoW_of_mono m) ha hb

/-- the same for arbitrary allocated nodes (not only roots; also the garbage nodes left by `Project`) -/
theorem C17_store_node_equality_extended (F : Fns) (ops : List RcSX.Op) (m : Mono F ops) {n₁ n₂ : Nat}
    (h₁ : n₁ ∈ (runX F ops).st.ids) (h₂ : n₂ ∈ (runX F ops).st.ids) :
    n₁ = n₂ ↔ ∀ ρ, denote (runX F ops).st n₁ ρ = denote (runX F ops).st n₂ ρ :=
  WInv.node_eq_iff_same_function (runX_winv F ops) (runX_wfInv_of_mono F ops m) h₁ h₂

/-- (3) `Mono` cannot be dropped: after renaming `x₀ ∧ x₁ ↦ 5` with the swap of `x₀` and `x₁` (which fails the assertion
`GetVarFromInternal(highTree) < newVar` of `renameNode`; a release build does not notice) the handles 0 and 1 denote the
same function but have different roots, i.e. `operator==` answers `false` -/
theorem C17_store_nonmonotone_rename_breaks_canonicity :
    ¬ Mono stdFns exSwap ∧ ¬ MonoW stdFns exSwap ∧
    find 0 (runX stdFns exSwap).st.hs = some 3 ∧ find 1 (runX stdFns exSwap).st.hs = some 5 ∧
    (∀ asg, getValue (runX stdFns exSwap).st 0 asg = getValue (runX stdFns exSwap).st 1 asg) ∧
    ¬ WfInv (runX stdFns exSwap).st := by
  have h0 : find 0 (runX stdFns exSwap).st.hs = some 3 := by decide +kernel
  have h1 : find 1 (runX stdFns exSwap).st.hs = some 5 := by decide +kernel
  have u0 : unfold (runX stdFns exSwap).st.dat 4 3 = .node 1 (.leaf 0) (.node 0 (.leaf 0) (.leaf 5)) := by decide +kernel
  have u1 : unfold (runX stdFns exSwap).st.dat 6 5 = .node 0 (.leaf 0) (.node 1 (.leaf 0) (.leaf 5)) := by decide +kernel
  refine ⟨by decide +kernel, by decide +kernel, h0, h1, ?_, ?_⟩
  · intro asg
    simp only [getValue, h0, h1, Option.map_some, denote, u0, u1, M.eval]
    cases asg 0 <;> cases asg 1 <;> rfl
  · intro w
    have h4 := (w.ord 5 (by decide +kernel) 1 4 0 (by decide +kernel)).2
    have d4 : (runX stdFns exSwap).st.dat 4 = .int 1 0 1 := by decide +kernel
    rw [d4] at h4
    exact absurd h4 (by simp [VLt])

/-- the condition on `ExtendWith` cannot be dropped either: extending `x₀ ↦ 5` by the prefix `x₀ = 1` at offset 0 puts a
second `x₀` node on top of the root; handles 0 and 1 denote the same function and have different roots.  (No assertion of
the C++ fails here.) -/
theorem C17_store_low_offset_extendWith_breaks_canonicity :
    ¬ Mono stdFns exLowOffset ∧ ¬ MonoW stdFns exLowOffset ∧
    find 0 (runX stdFns exLowOffset).st.hs = some 2 ∧ find 1 (runX stdFns exLowOffset).st.hs = some 3 ∧
    (∀ asg, getValue (runX stdFns exLowOffset).st 0 asg = getValue (runX stdFns exLowOffset).st 1 asg) := by
  have h0 : find 0 (runX stdFns exLowOffset).st.hs = some 2 := by decide +kernel
  have h1 : find 1 (runX stdFns exLowOffset).st.hs = some 3 := by decide +kernel
  have u0 : unfold (runX stdFns exLowOffset).st.dat 3 2 = .node 0 (.leaf 0) (.leaf 5) := by decide +kernel
  have u1 : unfold (runX stdFns exLowOffset).st.dat 4 3 = .node 0 (.leaf 0) (.node 0 (.leaf 0) (.leaf 5)) := by decide +kernel
  refine ⟨by decide +kernel, by decide +kernel, h0, h1, ?_⟩
  intro asg
  simp only [getValue, h0, h1, Option.map_some, denote, u0, u1, M.eval]
  cases asg 0 <;> rfl

/-! ### non-vacuity -/

/-- a history over every operation (two renamings, a projection, an extension) is `Mono` -/
theorem C17_store_exCanon_mono : Mono stdFns exCanon := by decide +kernel
/-- the run of `exCanon`, evaluated once: its handle table, and a further monotone renaming passes the check in the store reached -/
theorem C17_store_exCanon_run : (runX stdFns exCanon).st.hs =
      [(11, 40), (10, 33), (8, 26), (7, 6), (6, 30), (9, 29), (5, 28), (4, 26), (2, 9), (1, 6), (0, 3)] ∧
    opOkW (runX stdFns exCanon).st (.rename 0 12 [1, 2, 3]) = true := by decide +kernel
example : (runX stdFns exCanon).st.hs =
    [(11, 40), (10, 33), (8, 26), (7, 6), (6, 30), (9, 29), (5, 28), (4, 26), (2, 9), (1, 6), (0, 3)] := C17_store_exCanon_run.1
-- hence all 32 allocated nodes (garbage of the projection included) are ordered and reduced …
example : WfInv (runX stdFns exCanon).st := (C17_store_wf_extended stdFns exCanon C17_store_exCanon_mono).1
example : M.WF (unfold (runX stdFns exCanon).st.dat 41 40) := by
  have hw := runX_winv stdFns exCanon
  have w := (C17_store_wf_extended stdFns exCanon C17_store_exCanon_mono).1
  have hf : find 11 (runX stdFns exCanon).st.hs = some 40 := by rw [C17_store_exCanon_run.1]; rfl
  -- with the store a variable, elaboration does not evaluate the history to normalise the goal
  generalize (runX stdFns exCanon).st = s at hw w hf ⊢
  exact diagram_wf hw w (hw.rin 40 (root_mem hf))
-- … stripping the prefix added by `ExtendWith` gives back the SAME pointer (handles 1 and 7), so they denote the same function
example : ∀ asg, getValue (runX stdFns exCanon).st 1 asg = getValue (runX stdFns exCanon).st 7 asg :=
  (C17_store_equality_extended stdFns exCanon C17_store_exCanon_mono (a := 1) (b := 7) (ra := 6) (rb := 6)
    (by rw [C17_store_exCanon_run.1]; rfl) (by rw [C17_store_exCanon_run.1]; rfl)).mp rfl
-- … and handles 5 and 10 (two renamings) have different roots, hence denote different functions
example : ¬ ∀ asg, getValue (runX stdFns exCanon).st 5 asg = getValue (runX stdFns exCanon).st 10 asg := fun h =>
  absurd ((C17_store_equality_extended stdFns exCanon C17_store_exCanon_mono (a := 5) (b := 10) (ra := 28) (rb := 33)
    (by rw [C17_store_exCanon_run.1]; rfl) (by rw [C17_store_exCanon_run.1]; rfl)).mpr h) (by decide)
-- the weak condition is strictly weaker: the table `x₀ ↦ 1, x₁ ↦ 0, x₂ ↦ 2` on `node 2 (node 0 …) (node 1 …)` is monotone along
-- the edges of the diagram (all the C++ asserts) but not on the set of occurring variables; an extension whose first
-- `ZERO`/`ONE` position is 2 stacks the variable `0 + 2` on the root variable 1; one without such a position builds nothing
example : MonoW stdFns [.construct 0 [some true, none, some false] 5 0, .construct 1 [none, some true, some true] 7 0,
      .apply 0 1 2, .rename 2 3 [1, 0, 2]] ∧
    ¬ Mono stdFns [.construct 0 [some true, none, some false] 5 0, .construct 1 [none, some true, some true] 7 0,
      .apply 0 1 2, .rename 2 3 [1, 0, 2]] := by decide +kernel
example : MonoW stdFns [.construct 0 [some true, some true] 5 0, .extendWith 0 1 [none, none, some true] 0] ∧
    ¬ Mono stdFns [.construct 0 [some true, some true] 5 0, .extendWith 0 1 [none, none, some true] 0] := by decide +kernel
example : MonoW stdFns [.construct 0 [none, some true, some true] 5 0, .extendWith 0 1 [none, none] 0] ∧
    ¬ Mono stdFns [.construct 0 [none, some true, some true] 5 0, .extendWith 0 1 [none, none] 0] := by decide +kernel
-- `C17_store_wf_step`: its hypotheses hold in the store reached by `exCanon`, e.g. for a further monotone renaming
example : WInv (runX stdFns exCanon).st [] ∧ WfInv (runX stdFns exCanon).st ∧
    opOkW (runX stdFns exCanon).st (.rename 0 12 [1, 2, 3]) = true :=
  ⟨runX_winv _ _, (C17_store_wf_extended stdFns exCanon C17_store_exCanon_mono).1, C17_store_exCanon_run.2⟩

/-!
## still not proved

* `MonoW` is necessary and sufficient for "`WfInv` after every prefix" (`C17_store_wf_exact`), but canonicity of the LIVE
  handles alone could survive a violation that only produced garbage or was destroyed again; no exact criterion for
  "pointer equality = semantic equality on the live handles" is given (only the two `decide`d histories above, where it fails).
* `Mono` / `MonoW` are conditions on the history as executed from process start (they inspect the store in which each
  `rename` / `extendWith` runs); there is no static criterion on the operation list alone.
* That `MonoW` coincides with "a debug build of the C++ does not abort in `renameNode`" rests on the reading of the three
  `assert`s into `renOkT`; it is not a theorem.  `RcSX.monoW` is available for a driver.
* The memo tables `ht` of the functors and the `VoidApply` traversals are not modelled (as in `C17_StoreOps`).
-/
end Vata.Props
