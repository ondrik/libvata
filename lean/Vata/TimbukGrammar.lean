import Vata.Proofs.TimbukLex
/-!
# A declarative grammar of the texts the Timbuk parser accepts (property C13) – definitions

Three layers, all about `src/timbuk_parser-nobison.cc` (`parse_timbuk`):

1. **the grammar** (`Prop`s, existential decompositions of strings, no searching, no state): `Lines`, `Words`, `Numeral`,
   `Token`, `HeaderLine`, `TransitionsLine`, `KidList`, `Lhs`, `TransLine`, `HeaderPart`, `RulePart`, `Reads`, `Accepted`;
2. **the reader** (executable, stateless, two passes over the lines, no flags): `readHeader`, `readLhs`, `readTransLine`,
   `readHeaderPart`, `readRulePart`, `readText`, `acceptedB`;
3. the parser model `parseC` of `Vata/Timbuk.lean` (one pass, five flags, early exits).

`Vata/Proofs/TimbukGrammar*.lean` prove 1 ⇔ 2 ⇔ 3.
-/
namespace Vata.Timbuk
open Vata.T (splitDelim joinWith)

/-! ## 1. the grammar -/

/-- `split_delim(str, '\n')`: the text is the lines joined by `\n`; no line contains `\n`; there is at least one line
(the empty text has the one line `""`; a final `\n` gives a last empty line). -/
def Lines (t : Str) (ls : List Str) : Prop := ls ≠ [] ∧ (∀ l ∈ ls, '\n' ∉ l) ∧ t = joinWith '\n' ls

/-- `trim` + the `read_word` loop: the line is `g₀ w₁ g₁ w₂ … wₙ gₙ` – every `wᵢ` non-empty without white space
(`Word`), every `gᵢ` white space (`std::isspace`, "C" locale: blank `\t \n \v \f \r`), the inner gaps non-empty
(`HeadWs rest`: what follows a word is empty or starts with a white character). -/
inductive Words : Str → List Str → Prop
  | nil {g : Str} : AllWs g → Words g []
  | cons {g w rest : Str} {ws : List Str} : AllWs g → Word w → HeadWs rest → Words rest ws →
      Words (g ++ w ++ rest) (w :: ws)

/-- a non-empty string of decimal digits -/
def Digits (ds : Str) : Prop := ds ≠ [] ∧ ∀ c ∈ ds, isDigit c = true
/-- what follows the digits: anything that does not start with a digit (it is left in the stream, i.e. ignored) -/
def NoDigitHead (s : Str) : Prop := ∀ c, s.head? = some c → isDigit c = false

/-- `Convert::FromString<int>`, i.e. `std::istringstream iss(str); iss >> result` for `int`: an optional sign `+` / `-`,
at least one decimal digit, the LONGEST run of digits counts, whatever follows is ignored (`1x`, `3:4`), leading zeros are
fine, the value must be an `int` (else `failbit`, hence `std::invalid_argument`). -/
inductive Numeral : Str → Int → Prop
  | pos {ds junk : Str} : Digits ds → NoDigitHead junk → (digitsVal ds : Int) ≤ intMax →
      Numeral (ds ++ junk) (digitsVal ds)
  | plus {ds junk : Str} : Digits ds → NoDigitHead junk → (digitsVal ds : Int) ≤ intMax →
      Numeral ('+' :: (ds ++ junk)) (digitsVal ds)
  | minus {ds junk : Str} : Digits ds → NoDigitHead junk → intMin ≤ - (digitsVal ds : Int) →
      Numeral ('-' :: (ds ++ junk)) (- (digitsVal ds : Int))

/-- `parse_colonned_token` on a word: `name` (rank −1) or `name:numeral` – the FIRST colon splits, the name may be empty -/
inductive Token : Str → Str → Int → Prop
  | plain {w : Str} : ':' ∉ w → Token w w (-1)
  | ranked {name num : Str} {v : Int} : ':' ∉ name → Numeral num v → Token (name ++ ':' :: num) name v

/-- every word is a token -/
inductive Tokens : List Str → List (Str × Int) → Prop
  | nil : Tokens [] []
  | cons {w n : Str} {r : Int} {ws : List Str} {ps : List (Str × Int)} : Token w n r → Tokens ws ps →
      Tokens (w :: ws) ((n, r) :: ps)

/-- `HeaderLine l k ps`: `l` is a header line of kind `k` with the tokens `ps`.
`Ops tok*`, `States tok*`, `Final States tok*` (the ranks of states are parsed – and must be numerals – but dropped);
`Automaton` or `Automaton name`: the name is ANY word (not a token: `A:x` is a name), recorded as `[(name, -1)]`, no name
as `[]`. -/
inductive HeaderLine : Str → HKind → List (Str × Int) → Prop
  | ops {l : Str} {ws : List Str} {ps : List (Str × Int)} : Words l (kwOps :: ws) → Tokens ws ps → HeaderLine l .ops ps
  | states {l : Str} {ws : List Str} {ps : List (Str × Int)} : Words l (kwStates :: ws) → Tokens ws ps →
      HeaderLine l .states ps
  | final {l : Str} {ws : List Str} {ps : List (Str × Int)} : Words l (kwFinal :: kwStates :: ws) → Tokens ws ps →
      HeaderLine l .final ps
  | autNone {l : Str} : Words l [kwAutomaton] → HeaderLine l .aut []
  | autName {l nm : Str} : Words l [kwAutomaton, nm] → HeaderLine l .aut [(nm, -1)]

/-- the first word is `Transitions`; the rest of the line is ignored (`are_transitions = true; continue;`) -/
def TransitionsLine (l : Str) : Prop := ∃ ws, Words l (kwTransitions :: ws)

/-- `->` is not a substring -/
def NoArrowIn (s : Str) : Prop := ¬ ∃ p q, s = p ++ '-' :: '>' :: q

/-- the text between the parentheses: pieces `pad kid pad` joined by commas (`split_delim(…, ',')`, then `trim`, then
`contains_whitespace`); a kid may be EMPTY (`a(q, )`); exactly one piece with an empty kid means no children (`a()`,
`a( )`: the test `state_tuple.size() == 1 && state_tuple[0] == ""` comes after the trimming) -/
inductive KidList : Str → List Str → Prop
  | none {g : Str} : AllWs g → KidList g []
  | some {pieces : List (Str × Str × Str)} : pieces ≠ [] →
      (∀ p ∈ pieces, AllWs p.1 ∧ NoWs p.2.1 ∧ ',' ∉ p.2.1 ∧ AllWs p.2.2) → pieces.map (·.2.1) ≠ [[]] →
      KidList (joinWith ',' (pieces.map (fun p => p.1 ++ p.2.1 ++ p.2.2))) (pieces.map (·.2.1))

/-- the trimmed left-hand side: a bare label (no white space, no parenthesis), or `label gap ( body )` where the label is
non-empty, starts and ends with a non-white character, contains no parenthesis – but MAY contain white space (`a b(q)`) –,
and the body contains no `)` (it may contain `(`: `a(b(c)`). -/
inductive Lhs : Str → Str → List Str → Prop
  | leaf {lab : Str} : lab ≠ [] → NoWs lab → '(' ∉ lab → ')' ∉ lab → Lhs lab lab []
  | app {lab g body : Str} {kids : List Str} : lab ≠ [] → HeadOk lab → LastOk lab → '(' ∉ lab → ')' ∉ lab →
      AllWs g → ')' ∉ body → KidList body kids → Lhs (lab ++ g ++ '(' :: (body ++ [')'])) lab kids

/-- `TransLine l lab kids rhs`: `l` is `pad lhs pad -> pad rhs pad`, the `->` being the FIRST one of the line (none inside
`lhs pad`), `rhs` one non-empty word (it may contain `->`, parentheses, anything but white space). -/
inductive TransLine : Str → Str → List Str → Str → Prop
  | mk {pre lhs b a rhs post lab : Str} {kids : List Str} : AllWs pre → AllWs b → AllWs a → AllWs post →
      Lhs lhs lab kids → NoArrowIn (lhs ++ b) → rhs ≠ [] → NoWs rhs →
      TransLine (pre ++ lhs ++ b ++ '-' :: '>' :: (a ++ rhs ++ post)) lab kids rhs

/-- the abstract syntax of a text: the header lines (kind, tokens) and the rules (children, symbol, parent), in the order
of the text -/
structure Reading where
  hdr : List (HKind × List (Str × Int))
  rules : List Trans
deriving Repr, DecidableEq

/-- the lines before the `Transitions` line: blank (`trim(line).empty()`) or header lines -/
inductive HeaderPart : List Str → List (HKind × List (Str × Int)) → Prop
  | nil : HeaderPart [] []
  | blank {l : Str} {ls : List Str} {hs : List (HKind × List (Str × Int))} : AllWs l → HeaderPart ls hs →
      HeaderPart (l :: ls) hs
  | line {l : Str} {k : HKind} {ps : List (Str × Int)} {ls : List Str} {hs : List (HKind × List (Str × Int))} :
      HeaderLine l k ps → HeaderPart ls hs → HeaderPart (l :: ls) ((k, ps) :: hs)

/-- the lines after the `Transitions` line: blank or transition lines -/
inductive RulePart : List Str → List Trans → Prop
  | nil : RulePart [] []
  | blank {l : Str} {ls : List Str} {rs : List Trans} : AllWs l → RulePart ls rs → RulePart (l :: ls) rs
  | line {l lab rhs : Str} {kids : List Str} {ls : List Str} {rs : List Trans} : TransLine l lab kids rhs →
      RulePart ls rs → RulePart (l :: ls) ((kids, lab, rhs) :: rs)

/-- **`Reads t R`**: the text `t` is: header part, a `Transitions` line, rule part; every header keyword at most once. -/
structure Reads (t : Str) (R : Reading) : Prop where
  split : ∃ (hdr : List Str) (trl : Str) (rules : List Str), Lines t (hdr ++ trl :: rules) ∧ HeaderPart hdr R.hdr ∧
    TransitionsLine trl ∧ RulePart rules R.rules
  once : (R.hdr.map (·.1)).Nodup

/-- **the accepted texts** -/
def Accepted (t : Str) : Prop := ∃ R, Reads t R

/-- **the rejected texts, by the first offence in text order** (`C13_rejected_iff`: exactly the complement of `Accepted`):
the lines are all blank or header lines (no `Transitions` line); or a line of the header part is neither blank, nor a
`Transitions` line, nor a header line (unknown keyword, bad rank, `Final` without `States`, two names after `Automaton`);
or some header keyword occurs twice before the `Transitions` line; or a line after the `Transitions` line is neither blank
nor a transition line. -/
inductive Rejected (t : Str) : Prop
  | noTransitions {ls : List Str} {hs : List (HKind × List (Str × Int))} : Lines t ls → HeaderPart ls hs → Rejected t
  | badHeader {pre post : List Str} {l : Str} {hs : List (HKind × List (Str × Int))} : Lines t (pre ++ l :: post) →
      HeaderPart pre hs → ¬ AllWs l → ¬ TransitionsLine l → (∀ k ps, ¬ HeaderLine l k ps) → Rejected t
  | repeated {hdr rules : List Str} {trl : Str} {hs : List (HKind × List (Str × Int))} :
      Lines t (hdr ++ trl :: rules) → HeaderPart hdr hs → TransitionsLine trl → ¬ (hs.map (·.1)).Nodup → Rejected t
  | badRule {hdr pre post : List Str} {trl l : Str} {hs : List (HKind × List (Str × Int))} :
      Lines t (hdr ++ trl :: (pre ++ l :: post)) → HeaderPart hdr hs → TransitionsLine trl → ¬ AllWs l →
      (∀ lab kids rhs, ¬ TransLine l lab kids rhs) → Rejected t

/-! ## the description a reading denotes -/

/-- all tokens of the header lines of kind `k` (at most one line when the kinds are `Nodup`) -/
def secToks (hs : List (HKind × List (Str × Int))) (k : HKind) : List (Str × Int) :=
  (hs.filter (fun h => h.1 == k)).flatMap (·.2)

/-- the name on the (last) `Automaton` line; empty when there is none or it carries no name -/
def nameOf (hs : List (HKind × List (Str × Int))) : Str :=
  hs.foldl (fun n h => if h.1 = .aut then (h.2.map (·.1)).headD [] else n) []

/-- the description: the sections as `std::set`s (sorted, duplicate-free: `norm`) -/
def Reading.desc (R : Reading) : Desc where
  name := nameOf R.hdr
  symbols := norm ltSym (secToks R.hdr .ops)
  states := norm ltStr ((secToks R.hdr .states).map (·.1))
  final := norm ltStr ((secToks R.hdr .final).map (·.1))
  trans := norm ltTrans R.rules

/-! ## 2. the reader -/

def optOk {α : Type} : Except String α → Option α
  | .ok a => some a
  | .error _ => none

/-- a header line from its words -/
def readHeader (ws : List Str) : Option (HKind × List (Str × Int)) :=
  let first := ws.headD []
  if first = kwAutomaton then
    if ws.tail.tail ≠ [] then none else some (.aut, ws.tail.map (fun n => (n, -1)))
  else if first = kwOps then (optOk (parseTokens ws.tail)).map (fun ps => (HKind.ops, ps))
  else if first = kwStates then (optOk (parseTokens ws.tail)).map (fun ps => (HKind.states, ps))
  else if first = kwFinal then
    if ws.tail.headD [] ≠ kwStates then none
    else (optOk (parseTokens ws.tail.tail)).map (fun ps => (HKind.final, ps))
  else none

/-- the trimmed left-hand side: (children, label) -/
def readLhs (lhs : Str) : Option (List Str × Str) :=
  match lhs.dropWhile (fun c => c != '(') with
  | [] => if lhs.contains ')' || containsWs lhs || lhs.isEmpty then none else some ([], lhs)
  | _ :: inner =>
    let lab0 := lhs.takeWhile (fun c => c != '(')
    if lab0.contains ')' then none
    else
      match inner.dropWhile (fun c => c != ')') with
      | [] => none
      | _ :: after =>
        if after ≠ [] then none
        else
          let lab := trim lab0
          if lab.isEmpty then none
          else
            let states := (splitDelim ',' (inner.takeWhile (fun c => c != ')'))).map trim
            if states.any containsWs then none
            else some (if states = [[]] then [] else states, lab)

/-- a transition line -/
def readTransLine (l : Str) : Option Trans :=
  match splitArrow (trim l) with
  | none => none
  | some (a, b) =>
    if (trim b).isEmpty || containsWs (trim b) then none
    else
      match readLhs (trim a) with
      | none => none
      | some (kids, lab) => some (kids, lab, trim b)

def isBlankLine (l : Str) : Bool := decide (trim l = [])
def isTransitionsLine (l : Str) : Bool := decide ((readWords (trim l)).headD [] = kwTransitions)

/-- first pass: the header lines up to the `Transitions` line, and the lines after it -/
def readHeaderPart : List Str → Option (List (HKind × List (Str × Int)) × List Str)
  | [] => none
  | l :: ls =>
    if isBlankLine l then readHeaderPart ls
    else if isTransitionsLine l then some ([], ls)
    else
      match readHeader (readWords (trim l)) with
      | none => none
      | some h =>
        match readHeaderPart ls with
        | none => none
        | some (hs, rest) => some (h :: hs, rest)

/-- second pass: the rules -/
def readRulePart : List Str → Option (List Trans)
  | [] => some []
  | l :: ls =>
    if isBlankLine l then readRulePart ls
    else
      match readTransLine l with
      | none => none
      | some r =>
        match readRulePart ls with
        | none => none
        | some rs => some (r :: rs)

def readLines (ls : List Str) : Option Reading :=
  match readHeaderPart ls with
  | none => none
  | some (hs, rest) =>
    match readRulePart rest with
    | none => none
    | some rs => if (hs.map (·.1)).Nodup then some ⟨hs, rs⟩ else none

/-- the reading of a text, if it has one -/
def readText (t : Str) : Option Reading := readLines (splitDelim '\n' t)

/-- **the Boolean grammar check** -/
def acceptedB (t : Str) : Bool := (readText t).isSome

/-! ## what a header line does to the parser state -/

def applyItem (st : PState) (h : HKind × List (Str × Int)) : PState :=
  match h.1 with
  | .ops => { st with opsP := true, d := { st.d with symbols := setInsertAll ltSym st.d.symbols h.2 } }
  | .aut => { st with autP := true, d := { st.d with name := (h.2.map (·.1)).headD [] } }
  | .states => { st with statesP := true, d := { st.d with states := setInsertAll ltStr st.d.states (h.2.map (·.1)) } }
  | .final => { st with finalP := true, d := { st.d with final := setInsertAll ltStr st.d.final (h.2.map (·.1)) } }

/-- the header items in turn, failing on a kind whose flag is set -/
def runItems : PState → List (HKind × List (Str × Int)) → Option PState
  | st, [] => some st
  | st, h :: hs => if st.flag h.1 then none else runItems (applyItem st h) hs

end Vata.Timbuk
