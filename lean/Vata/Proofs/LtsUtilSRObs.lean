import Vata.Proofs.LtsUtilSRChain
import Vata.Proofs.LtsUtilCA

/-!
# `SplittingRelation` — what the invariant reads from a state, and the primitive writes

`P.Obs` / `P.obs`: everything the invariant reads from a state (`T`), so that every primitive write is described by
ONE record equation (`setRight_obs`, …, `obs_setCell`, `alloc_spec`) and the reasoning about shapes is free of `T`.-/
namespace Vata.LU.SR
namespace P
open CA (Pop)

structure Obs where
  gr : Ptr → Option Ptr
  gl : Ptr → Option Ptr
  gd : Ptr → Option Ptr
  gu : Ptr → Option Ptr
  col : Nat → Nat
  row : Nat → Nat
  next : Nat
  free : List Nat
  size : Nat
  nr : Nat
  nc : Nat

def obs (s : T) : Obs :=
  ⟨getRight s, getLeft s, getDown s, getUp s, fun a => (s.cells.get a).col, fun a => (s.cells.get a).row,
   s.next, s.free, s.size, s.rows.length, s.cols.length⟩

theorem eq_upd {g g' : Ptr → Option Ptr} {p v : Ptr} (hp : g' p = some v) (h : ∀ q, q ≠ p → g' q = g q) :
    g' = upd g p v := by
  funext q; unfold upd; split
  · rename_i e; rw [e, hp]
  · rename_i e; exact h q e

theorem obs_setCell (s : T) (a : Nat) (c : Cell) :
    obs { s with cells := s.cells.set a c } =
      { obs s with gr := upd (obs s).gr (.cell a) c.right, gl := upd (obs s).gl (.cell a) c.left,
                   gd := upd (obs s).gd (.cell a) c.down, gu := upd (obs s).gu (.cell a) c.up,
                   col := updN (obs s).col a c.col, row := updN (obs s).row a c.row } := by
  have hsame : (s.cells.set a c).get a = c := Heap.get_set_same _ _ _
  have hne : ∀ b, Ptr.cell b ≠ .cell a → (s.cells.set a c).get b = s.cells.get b :=
    fun b hb => Heap.get_set_ne _ _ (fun e => hb (e ▸ rfl))
  simp only [obs, Obs.mk.injEq, and_true]
  refine ⟨eq_upd (congrArg (fun x : Cell => some x.right) hsame) (fun q hq => ?_), eq_upd (congrArg (fun x : Cell => some x.left) hsame) (fun q hq => ?_),
    eq_upd (congrArg (fun x : Cell => some x.down) hsame) (fun q hq => ?_), eq_upd (congrArg (fun x : Cell => some x.up) hsame) (fun q hq => ?_),
    funext fun b => ?_, funext fun b => ?_⟩
  · cases q with
    | cell b => exact congrArg (fun x : Cell => some x.right) (hne b hq)
    | _ => rfl
  · cases q with
    | cell b => exact congrArg (fun x : Cell => some x.left) (hne b hq)
    | rowS k => cases k <;> rfl
    | _ => rfl
  · cases q with
    | cell b => exact congrArg (fun x : Cell => some x.down) (hne b hq)
    | _ => rfl
  · cases q with
    | cell b => exact congrArg (fun x : Cell => some x.up) (hne b hq)
    | colS k => cases k <;> rfl
    | _ => rfl
  · simp only [updN, Heap.get_set]; split <;> rfl
  · simp only [updN, Heap.get_set]; split <;> rfl


theorem obs_modCell (s : T) (a : Nat) (c : Cell) :
    obs { s with cells := s.cells.set a c } =
      { obs s with gr := upd (obs s).gr (.cell a) c.right, gl := upd (obs s).gl (.cell a) c.left,
                   gd := upd (obs s).gd (.cell a) c.down, gu := upd (obs s).gu (.cell a) c.up,
                   col := updN (obs s).col a c.col, row := updN (obs s).row a c.row } := obs_setCell s a c

theorem gr_cell (s : T) (a : Nat) : (obs s).gr (.cell a) = some (s.cells.get a).right := rfl
theorem gl_cell (s : T) (a : Nat) : (obs s).gl (.cell a) = some (s.cells.get a).left := rfl
theorem gd_cell (s : T) (a : Nat) : (obs s).gd (.cell a) = some (s.cells.get a).down := rfl
theorem gu_cell (s : T) (a : Nat) : (obs s).gu (.cell a) = some (s.cells.get a).up := rfl
theorem col_cell (s : T) (a : Nat) : (obs s).col a = (s.cells.get a).col := rfl
theorem row_cell (s : T) (a : Nat) : (obs s).row a = (s.cells.get a).row := rfl

theorem right_of {s : T} {a : Nat} {q : Ptr} (h : (obs s).gr (.cell a) = some q) : (s.cells.get a).right = q :=
  Option.some.inj h
theorem left_of {s : T} {a : Nat} {q : Ptr} (h : (obs s).gl (.cell a) = some q) : (s.cells.get a).left = q :=
  Option.some.inj h
theorem down_of {s : T} {a : Nat} {q : Ptr} (h : (obs s).gd (.cell a) = some q) : (s.cells.get a).down = q :=
  Option.some.inj h
theorem up_of {s : T} {a : Nat} {q : Ptr} (h : (obs s).gu (.cell a) = some q) : (s.cells.get a).up = q :=
  Option.some.inj h

@[simp] theorem upd_gr_self (s : T) (a : Nat) : upd (obs s).gr (.cell a) (s.cells.get a).right = (obs s).gr :=
  upd_eta _ _ _ rfl
@[simp] theorem upd_gl_self (s : T) (a : Nat) : upd (obs s).gl (.cell a) (s.cells.get a).left = (obs s).gl :=
  upd_eta _ _ _ rfl
@[simp] theorem upd_gd_self (s : T) (a : Nat) : upd (obs s).gd (.cell a) (s.cells.get a).down = (obs s).gd :=
  upd_eta _ _ _ rfl
@[simp] theorem upd_gu_self (s : T) (a : Nat) : upd (obs s).gu (.cell a) (s.cells.get a).up = (obs s).gu :=
  upd_eta _ _ _ rfl
@[simp] theorem updN_col_self (s : T) (a : Nat) : updN (obs s).col a (s.cells.get a).col = (obs s).col :=
  updN_eta _ rfl
@[simp] theorem updN_row_self (s : T) (a : Nat) : updN (obs s).row a (s.cells.get a).row = (obs s).row :=
  updN_eta _ rfl

/-! The sentinels live in the vectors `rows_` / `columns_`: one component of a pair is written, the other one stays. -/

theorem map_getElem?_set {α β : Type} (f : α → β) {l : List α} {i : Nat} (hi : i < l.length) (x : α) (k : Nat) :
    ((l.set i x)[k]?).map f = if k = i then some (f x) else (l[k]?).map f := by
  rw [List.getElem?_set]
  by_cases h : i = k
  · subst h; simp [hi]
  · simp [h, Ne.symm h]

theorem map_getElem?_some {α β : Type} (f : α → β) {l : List α} {i : Nat} (h : i < l.length) :
    ∃ y, (l[i]?).map f = some y := ⟨f l[i], by rw [List.getElem?_eq_getElem h]; rfl⟩

theorem map_getElem?_getD {α β : Type} (f : α → β) {l : List α} {i : Nat} (hi : i < l.length) (d : α) :
    (l[i]?).map f = some (f (l.getD i d)) := by
  rw [List.getD_eq_getElem?_getD, List.getElem?_eq_getElem hi]; rfl

theorem lt_of_map_getElem? {α β : Type} {f : α → β} {l : List α} {i : Nat} {y : β} (h : (l[i]?).map f = some y) :
    i < l.length := by
  obtain ⟨x, hx, -⟩ := Option.map_eq_some_iff.1 h
  exact (List.getElem?_eq_some_iff.1 hx).1

theorem obs_setRow (s : T) {i : Nat} (hi : i < s.rows.length) (x : Ptr × Ptr) :
    obs { s with rows := s.rows.set i x } =
      { obs s with gr := upd (obs s).gr (.rowS i) x.1, gl := upd (obs s).gl (.rowS (i + 1)) x.2 } := by
  simp only [obs, Obs.mk.injEq, List.length_set, and_true]
  refine ⟨eq_upd ((map_getElem?_set Prod.fst hi x i).trans (if_pos rfl)) (fun q hq => ?_),
    eq_upd ((map_getElem?_set Prod.snd hi x i).trans (if_pos rfl)) (fun q hq => ?_), rfl, rfl⟩
  · cases q with
    | rowS k => exact (map_getElem?_set Prod.fst hi x k).trans (if_neg (fun e : k = i => hq (e ▸ rfl)))
    | _ => rfl
  · cases q with
    | rowS k => cases k with
      | zero => rfl
      | succ k => exact (map_getElem?_set Prod.snd hi x k).trans (if_neg (fun e : k = i => hq (e ▸ rfl)))
    | _ => rfl

theorem obs_setCol (s : T) {i : Nat} (hi : i < s.cols.length) (x : Ptr × Ptr) :
    obs { s with cols := s.cols.set i x } =
      { obs s with gd := upd (obs s).gd (.colS i) x.1, gu := upd (obs s).gu (.colS (i + 1)) x.2 } := by
  simp only [obs, Obs.mk.injEq, List.length_set, and_true]
  refine ⟨rfl, rfl, eq_upd ((map_getElem?_set Prod.fst hi x i).trans (if_pos rfl)) (fun q hq => ?_),
    eq_upd ((map_getElem?_set Prod.snd hi x i).trans (if_pos rfl)) (fun q hq => ?_)⟩
  · cases q with
    | colS k => exact (map_getElem?_set Prod.fst hi x k).trans (if_neg (fun e : k = i => hq (e ▸ rfl)))
    | _ => rfl
  · cases q with
    | colS k => cases k with
      | zero => rfl
      | succ k => exact (map_getElem?_set Prod.snd hi x k).trans (if_neg (fun e : k = i => hq (e ▸ rfl)))
    | _ => rfl

theorem setRight_obs {s : T} {p q : Ptr} (v : Ptr) (h : (obs s).gr p = some q) :
    ∃ s', setRight s p v = some s' ∧ obs s' = { obs s with gr := upd (obs s).gr p v } := by
  cases p with
  | cell a => exact ⟨_, rfl, by rw [obs_setCell]; simp⟩
  | rowS i =>
    have hi : i < s.rows.length := lt_of_map_getElem? h
    exact ⟨_, if_pos hi, by
      rw [obs_setRow s hi, upd_eta (obs s).gl (.rowS (i + 1)) _ (map_getElem?_getD Prod.snd hi default)]⟩
  | null => cases h
  | colS k => cases h

theorem setLeft_obs {s : T} {p q : Ptr} (v : Ptr) (h : (obs s).gl p = some q) :
    ∃ s', setLeft s p v = some s' ∧ obs s' = { obs s with gl := upd (obs s).gl p v } := by
  cases p with
  | cell a => exact ⟨_, rfl, by rw [obs_setCell]; simp⟩
  | rowS k =>
    cases k with
    | zero => cases h
    | succ i =>
      have hi : i < s.rows.length := lt_of_map_getElem? h
      exact ⟨_, if_pos hi, by
        rw [obs_setRow s hi, upd_eta (obs s).gr (.rowS i) _ (map_getElem?_getD Prod.fst hi default)]⟩
  | null => cases h
  | colS k => cases h

theorem setDown_obs {s : T} {p q : Ptr} (v : Ptr) (h : (obs s).gd p = some q) :
    ∃ s', setDown s p v = some s' ∧ obs s' = { obs s with gd := upd (obs s).gd p v } := by
  cases p with
  | cell a => exact ⟨_, rfl, by rw [obs_setCell]; simp⟩
  | colS i =>
    have hi : i < s.cols.length := lt_of_map_getElem? h
    exact ⟨_, if_pos hi, by
      rw [obs_setCol s hi, upd_eta (obs s).gu (.colS (i + 1)) _ (map_getElem?_getD Prod.snd hi default)]⟩
  | null => cases h
  | rowS k => cases h

theorem setUp_obs {s : T} {p q : Ptr} (v : Ptr) (h : (obs s).gu p = some q) :
    ∃ s', setUp s p v = some s' ∧ obs s' = { obs s with gu := upd (obs s).gu p v } := by
  cases p with
  | cell a => exact ⟨_, rfl, by rw [obs_setCell]; simp⟩
  | colS k =>
    cases k with
    | zero => cases h
    | succ i =>
      have hi : i < s.cols.length := lt_of_map_getElem? h
      exact ⟨_, if_pos hi, by
        rw [obs_setCol s hi, upd_eta (obs s).gd (.colS i) _ (map_getElem?_getD Prod.fst hi default)]⟩
  | null => cases h
  | rowS k => cases h

theorem setRowSecond_eq (s : T) (i : Nat) (v : Ptr) : setRowSecond s i v = setLeft s (.rowS (i + 1)) v := rfl
theorem setColSecond_eq (s : T) (i : Nat) (v : Ptr) : setColSecond s i v = setUp s (.colS (i + 1)) v := rfl

theorem rows_first {s : T} {i : Nat} {q : Ptr} (h : (obs s).gr (.rowS i) = some q) :
    ∃ rw, s.rows[i]? = some rw ∧ rw.1 = q := Option.map_eq_some_iff.1 h
theorem rows_second {s : T} {i : Nat} {q : Ptr} (h : (obs s).gl (.rowS (i + 1)) = some q) :
    ∃ rw, s.rows[i]? = some rw ∧ rw.2 = q := Option.map_eq_some_iff.1 h
theorem cols_first {s : T} {i : Nat} {q : Ptr} (h : (obs s).gd (.colS i) = some q) :
    ∃ rw, s.cols[i]? = some rw ∧ rw.1 = q := Option.map_eq_some_iff.1 h
theorem cols_second {s : T} {i : Nat} {q : Ptr} (h : (obs s).gu (.colS (i + 1)) = some q) :
    ∃ rw, s.cols[i]? = some rw ∧ rw.2 = q := Option.map_eq_some_iff.1 h
theorem rows_second_getD {s : T} {i : Nat} {q : Ptr} (h : (obs s).gl (.rowS (i + 1)) = some q) :
    (s.rows.getD i default).2 = q := by
  obtain ⟨rw, h1, h2⟩ := rows_second h
  rw [List.getD_eq_getElem?_getD, h1]; exact h2
theorem cols_second_getD {s : T} {i : Nat} {q : Ptr} (h : (obs s).gu (.colS (i + 1)) = some q) :
    (s.cols.getD i default).2 = q := by
  obtain ⟨rw, h1, h2⟩ := cols_second h
  rw [List.getD_eq_getElem?_getD, h1]; exact h2

theorem gr_rowS_some {s : T} {i : Nat} (h : i < (obs s).nr) : ∃ q, (obs s).gr (.rowS i) = some q :=
  map_getElem?_some _ h
theorem gl_rowS_some {s : T} {i : Nat} (h : i < (obs s).nr) : ∃ q, (obs s).gl (.rowS (i + 1)) = some q :=
  map_getElem?_some _ h
theorem gd_colS_some {s : T} {i : Nat} (h : i < (obs s).nc) : ∃ q, (obs s).gd (.colS i) = some q :=
  map_getElem?_some _ h
theorem gu_colS_some {s : T} {i : Nat} (h : i < (obs s).nc) : ∃ q, (obs s).gu (.colS (i + 1)) = some q :=
  map_getElem?_some _ h

theorem gr_lastP_some {s : T} {i : Nat} (l : List Nat) (h : i < (obs s).nr) :
    ∃ q, (obs s).gr (lastP (.rowS i) l) = some q := by
  rcases lastP_cases l (.rowS i) with ⟨_, h2⟩ | ⟨a, _, h2⟩ <;> rw [h2]
  · exact gr_rowS_some h
  · exact ⟨_, gr_cell s a⟩

theorem gd_lastP_some {s : T} {i : Nat} (l : List Nat) (h : i < (obs s).nc) :
    ∃ q, (obs s).gd (lastP (.colS i) l) = some q := by
  rcases lastP_cases l (.colS i) with ⟨_, h2⟩ | ⟨a, _, h2⟩ <;> rw [h2]
  · exact gd_colS_some h
  · exact ⟨_, gd_cell s a⟩

/-- what `alloc` does, as far as the invariant can see: nothing but the cell `t` changes, and `t` comes out of the
allocator's store or is new (`CA.Pop`) -/
structure AllocRel (o o1 : Obs) (t : Nat) : Prop where
  gr : ∀ p, p ≠ .cell t → o1.gr p = o.gr p
  gl : ∀ p, p ≠ .cell t → o1.gl p = o.gl p
  gd : ∀ p, p ≠ .cell t → o1.gd p = o.gd p
  gu : ∀ p, p ≠ .cell t → o1.gu p = o.gu p
  col : ∀ a, a ≠ t → o1.col a = o.col a
  row : ∀ a, a ≠ t → o1.row a = o.row a
  size : o1.size = o.size
  nr : o1.nr = o.nr
  nc : o1.nc = o.nc
  pop : Pop o.free o1.free o.next o1.next t

theorem obs_setCell_next (s : T) (a k : Nat) (c : Cell) :
    obs { s with next := k, cells := s.cells.set a c } = { obs { s with cells := s.cells.set a c } with next := k } := rfl

/-- `new Element` at the address `s.next`, with any content -/
theorem allocRel_new (s : T) (c : Cell) (hnd : s.free.Nodup) (hlt : ∀ a ∈ s.free, a < s.next) :
    AllocRel (obs s) (obs { s with next := s.next + 1, cells := s.cells.set s.next c }) s.next := by
  rw [obs_setCell_next, obs_setCell]
  exact ⟨fun p hp => upd_ne _ _ hp, fun p hp => upd_ne _ _ hp, fun p hp => upd_ne _ _ hp, fun p hp => upd_ne _ _ hp,
    fun a ha => updN_ne _ _ ha, fun a ha => updN_ne _ _ ha, rfl, rfl, rfl, .new hnd hlt⟩

theorem alloc_spec (s : T) (hnd : s.free.Nodup) (hlt : ∀ a ∈ s.free, a < s.next) :
    AllocRel (obs s) (obs (alloc s).2) (alloc s).1 := by
  cases hf : s.free with
  | nil =>
    have ha : alloc s = (s.next, { s with next := s.next + 1, cells := s.cells.set s.next default }) := by
      unfold alloc; rw [hf]
    rw [ha]
    exact allocRel_new s default hnd hlt
  | cons p f =>
    have ha : alloc s = (p, { s with free := f }) := by
      unfold alloc; rw [hf]
    have e2 : obs { s with free := f } = { obs s with free := f } := rfl
    rw [ha, e2]
    refine ⟨fun _ _ => rfl, fun _ _ => rfl, fun _ _ => rfl, fun _ _ => rfl, fun _ _ => rfl, fun _ _ => rfl, rfl, rfl, rfl, ?_⟩
    show Pop s.free f s.next s.next p
    rw [hf]
    exact .cons (hf ▸ hnd) (hf ▸ hlt)

end P
end Vata.LU.SR
