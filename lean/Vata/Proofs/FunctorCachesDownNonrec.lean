import Vata.FunctorCachesDownNonrec
import Vata.Proofs.FunctorCachesDownSim
/-!
# The caches of the non-recursive downward inclusion algorithm are transparent – with the library's deleter (C01)

Model: `Vata/FunctorCachesDownNonrec.lean`; cache-free model: `InclDown.expandN` / `cachedCall` / `rootLoopN`.

The simulation relation is `FCD.DRel` (of `Vata/Proofs/FunctorCachesDownSim.lean`) on the projection of the state that forgets
the variable `S` and the pool of reclaimed frames: the handles left in reclaimed frames are never compared, they only keep
objects alive longer, so every `hCollect` whose roots contain the handles the relation speaks about preserves it
(`DRel.collect`).  The simulation itself is an induction on the depth of the emulated calls.
-/
namespace Vata
namespace FCD
open Vata.InclDown
open Vata.FCU (Heap hval hLookup hCollect Live pickLeast)
open Vata.InclUp (normS prodWit Wit)

def DRelN (o : Ord) (ctx : List (Nat × List Nat)) (cc : List CP) (s : StN) (ccV : List Pair) (st : St) : Prop :=
  DRel o ctx cc ⟨s.nonIncl, s.trues, s.h⟩ ccV st

theorem mem_rootsN {bf : Nat} {frozen : List Nat} {cc : List CP} {st : StN} {a : Nat} :
    a ∈ rootsN bf frozen cc st ↔ a = bf ∨ a = st.S ∨ a ∈ frozen ∨ (∃ x, x ∈ cc ∧ x.2 = a) ∨
      (∃ x, x ∈ st.nonIncl ∧ x.2.1 = a) ∨ a ∈ st.pool.flatMap FrameN.handles := by
  simp only [rootsN, List.mem_cons, List.mem_append, List.mem_map, or_assoc]

/-- the deaths of the model keep the relation: the frozen handles, `S`, `top.childrenCache` and `nonincluded` are roots -/
theorem DRelN.collect {o : Ord} {ctx : List (Nat × List Nat)} {ccC : List CP} {s : StN} {cc : List Pair} {st : St}
    (h : DRelN o ctx ccC s cc st) (bf : Nat) {frozen : List Nat} (hroots : ∀ x, x ∈ ctx → x.1 ∈ frozen ∨ x.1 = s.S) :
    DRelN o ctx ccC { s with h := hCollect .lib (rootsN bf frozen ccC s) s.h } cc st := by
  refine DRel.collect h _ (fun a ha => mem_rootsN.mpr ?_)
  rcases ha with ⟨x, hx, rfl⟩ | hcc | hni
  · rcases hroots x hx with hx | hx
    · exact Or.inr (Or.inr (Or.inl hx))
    · exact Or.inr (Or.inl hx)
  · exact Or.inr (Or.inr (Or.inr (Or.inl hcc)))
  · exact Or.inr (Or.inr (Or.inr (Or.inr (Or.inl hni))))

/-- `S = biggerTypeCache.lookup(Q)` with any allocator: afterwards `S` is live with value `Q` -/
theorem lookupS_rel {o : Ord} (pick : List Nat → Nat) {ctx : List (Nat × List Nat)} {ccC : List CP} {s : StN}
    {cc : List Pair} {st : St} (h : DRelN o ctx ccC s cc st) (bf : Nat) {frozen : List Nat}
    (hroots : ∀ x, x ∈ ctx → x.1 ∈ frozen) (Q : List Nat) :
    DRelN o (((lookupS .lib pick bf frozen ccC s Q).S, Q) :: ctx) ccC (lookupS .lib pick bf frozen ccC s Q) cc st := by
  obtain ⟨l1, l2, l3, l4⟩ := hLookupD_spec pick h.hi Q
  have h2 : DRelN o (((hLookup pick s.h Q).2, Q) :: ctx) ccC { s with h := (hLookup pick s.h Q).1, S := (hLookup pick s.h Q).2 }
      cc st := (DRel.heap h l1 (fun a _ ha => l4 a ha) (fun _ hx => hx)).cons l2 l3
  exact h2.collect bf (fun x hx => (List.mem_cons.mp hx).elim (fun e => Or.inr (e ▸ rfl)) (fun hx => Or.inl (hroots x hx)))

/-- the result of an emulated call against the result of `expandN`: same verdict, the caller's cache is passed through, `S` is
the argument again -/
abbrev RetRelN (o : Ord) (ctx : List (Nat × List Nat)) (S0 : Nat) (ccV : List Pair) : Option (Verdict × StN) → Ret → Prop :=
  OptRel fun (v, s') (v', cc', st') => v = v' ∧ cc' = ccV ∧ s'.S = S0 ∧ DRelN o ctx [] s' [] st'

/-- the hypothesis on the emulated call used by both call sites: `fz` are the handles of `top.childrenCache`, frozen while
the call runs -/
def CalleeOK (o : Ord) (ctx : List (Nat × List Nat)) (e : List Nat → StN → Nat → Option (Verdict × StN)) (c : Call) : Prop :=
  ∀ q Q (fz : List (Nat × List Nat)) (s : StN) (st : St) (ccV : List Pair),
    DRelN o ((s.S, Q) :: (ctx ++ fz)) [] s [] st →
    RetRelN o ((s.S, Q) :: (ctx ++ fz)) s.S ccV (e (fz.map (·.1)) s q) (c ccV st q Q)

/-- the emulated call with `top.childrenCache` frozen, seen from the frame that makes it -/
theorem CalleeOK.call {o : Ord} {ctx : List (Nat × List Nat)} {e : List Nat → StN → Nat → Option (Verdict × StN)} {c : Call}
    (he : CalleeOK o ctx e c) {ccC : List CP} {s : StN} {cc : List Pair} {st : St} (q : Nat) {Q : List Nat}
    (h : DRelN o ((s.S, Q) :: ctx) ccC s cc st) :
    (e (ccC.map (·.2)) s q = none ∧ c cc st q Q = none) ∨
    ∃ v s' st', e (ccC.map (·.2)) s q = some (v, s') ∧ c cc st q Q = some (v, cc, st') ∧ s'.S = s.S ∧
      DRelN o ((s.S, Q) :: ctx) ccC s' cc st' := by
  have hh := he q Q _ s st cc (DRel.freeze h)
  rw [List.map_map] at hh
  rcases hh.inv with hn | ⟨⟨v, s'⟩, ⟨_, _, st'⟩, e1, e2, rfl, rfl, hS, hrel⟩
  · exact Or.inl hn
  · exact Or.inr ⟨v, s', st', e1, e2, hS, DRel.thaw (ctx := (s.S, Q) :: ctx) h.ecc hrel⟩

theorem callSimN_rel {o : Ord} (pick : List Nat → Nat) {ctx : List (Nat × List Nat)} {bf : Nat} {frozen : List Nat}
    {e : List Nat → StN → Nat → Option (Verdict × StN)} {c : Call} (hroots : ∀ x, x ∈ ctx → x.1 ∈ frozen)
    (he : CalleeOK o ctx e c) : CallRelG (DRelN o ctx) (callSimN .lib pick bf frozen e) c := fun q Q ccC s cc st h => by
  simp only [callSimN]
  rcases he.call q (lookupS_rel pick h bf hroots Q) with ⟨e1, e2⟩ | ⟨v, s', st', e1, e2, _, hrel⟩
  · rw [e1, e2]; exact .none
  · rw [e1, e2]
    exact retRelG_some (DRelN.collect (DRel.tail hrel) bf (fun x hx => Or.inl (hroots x hx)))

/-- the call site of the loop over the choice functions, with the tests and updates of `childrenCache` / `nonincluded` -/
theorem callStdN_rel {o : Ord} (hr : ∀ q, o.leB q q = true) (pick : List Nat → Nat) {ctx : List (Nat × List Nat)} {bf : Nat}
    {frozen : List Nat} {e : List Nat → StN → Nat → Option (Verdict × StN)} {c : Call}
    (hroots : ∀ x, x ∈ ctx → x.1 ∈ frozen) (he : CalleeOK o ctx e c) :
    CallRelG (DRelN o ctx) (callStdN o .lib pick bf frozen e) (cachedCall o c) := fun q Q ccC s cc st h => by
  have h2 := lookupS_rel pick h bf hroots Q
  simp only [callStdN, cachedCall]
  generalize lookupS .lib pick bf frozen ccC s Q = s2 at h2 ⊢
  obtain ⟨ha, hQ⟩ := h2.ok _ List.mem_cons_self
  obtain ⟨e0, m0, c0⟩ := coversC_spec hr ccC q s2.S rfl h2.hi ha h2.lcc
  rw [h2.ecc, hQ] at e0
  have h3 : DRelN o ((s2.S, Q) :: ctx) ccC { s2 with h := (coversC o ccC q s2.S s2.h).1 } cc st := DRel.sameStore h2 m0 c0
  rw [e0]
  by_cases hc : covers o cc q Q = true
  · rw [if_pos hc, if_pos hc]
    exact retRelG_some (DRel.tail h3)
  rw [if_neg hc, if_neg hc]
  rcases he.call (s := { s2 with h := (coversC o ccC q s2.S s2.h).1 }) q h3 with
    ⟨e1, e2⟩ | ⟨v, s', st', e1, e2, hS, hrel⟩
  · rw [e1, e2]; exact .none
  · rw [e1, e2]
    have hS : s'.S = s2.S := hS
    obtain ⟨ha', hQ'⟩ := hrel.ok _ List.mem_cons_self
    cases v with
    | holds =>
      obtain ⟨e4, m4, c4⟩ := refC_spec hr true (fun x : CP => o.leA x.1 q) (·.2) s2.S ccC rfl hrel.hi ha' hrel.lcc
      simp only []
      generalize refC o true (fun x : CP => o.leA x.1 q) (·.2) s2.S ccC s'.h = r4 at e4 m4 c4 ⊢
      have h4 : DRelN o ctx (r4.2 ++ [(q, s2.S)]) { s' with h := r4.1 }
          (cc.filter (fun x => !(o.leA x.1 q && setLe o Q x.2)) ++ [(q, Q)]) st' := by
        refine (DRel.tail hrel).update m4 c4 (fun x hx => ?_) hrel.lni ?_ hrel.eni hrel.etr
        · rcases List.mem_append.mp hx with hx | hx
          · exact hrel.lcc x (List.mem_filter.mp (e4 ▸ hx)).1
          · exact List.mem_singleton.mp hx ▸ ha'
        · have hf : (fun x : CP => !(o.leA x.1 q && cmpV o true s'.h x.2 s2.S)) =
              ((fun x : Pair => !(o.leA x.1 q && setLe o Q x.2)) ∘ derefP s'.h) := by
            funext x; simp only [cmpV, cmpS, Function.comp, derefP, if_true, hQ']
          rw [e4, List.map_append, ← hrel.ecc, List.filter_map, hf]
          simp only [List.map_cons, List.map_nil, derefP, hQ']
      exact retRelG_some (h4.collect bf (fun x hx => Or.inl (hroots x hx)))
    | fails t =>
      obtain ⟨e4, m4, c4, s4⟩ := niAddC_spec hr s'.nonIncl q s2.S t hrel.hi ha' hrel.lni
      rw [hrel.eni, hQ'] at e4
      have h4 : DRelN o ctx ccC { s' with nonIncl := _, h := _ } cc ⟨niAdd o st'.nonIncl q Q t, st'.trues⟩ :=
        (DRel.tail hrel).update m4 c4 hrel.lcc (fun x hx => (s4 x hx).elim (hrel.lni x) (fun e => e ▸ ha')) hrel.ecc e4
          hrel.etr
      exact retRelG_some (h4.collect bf (fun x hx => Or.inl (hroots x hx)))

theorem expandNC_rel {o : Ord} (hr : ∀ q, o.leB q q = true) (pick : List Nat → Nat) (A B : TA) (wit : Wit) (bf : Nat) :
    ∀ (fuel : Nat) {ws : List CP} {outer : List Nat} {wsV : List Pair} {ctx : List (Nat × List Nat)} {P : List Nat}
      (pb : Option Nat) (p : Nat) (s : StN) (st : St) (ccV : List Pair), Frames ctx ws wsV outer s.S P →
    DRelN o ctx [] s [] st →
    RetRelN o ctx s.S ccV (expandNC o .lib pick A B wit bf fuel ws outer pb s p)
      (expandN o A B wit fuel wsV ccV st p P) := by
  intro fuel
  induction fuel with
  | zero => intros; exact .none
  | succ fuel ih =>
    intro ws outer wsV ctx P pb p s st ccV F h
    obtain ⟨ha, hP⟩ := h.ok _ F.arg
    simp only [expandNC, expandN]
    rw [hP]
    by_cases hc0 : byPre o p P = true
    · rw [if_pos hc0, if_pos hc0]; exact .some ⟨rfl, rfl, rfl, h⟩
    rw [if_neg hc0, if_neg hc0]
    -- the two tests, the second on the heap the first left
    obtain ⟨e1, m1, c1⟩ := coversC_spec hr ws p s.S rfl h.hi ha (fun x hx => let ⟨_, hV⟩ := F.wsC x hx; (h.ok _ hV).1)
    obtain ⟨e2, m2, c2⟩ := niFindC_spec hr s.nonIncl p s.S c1 m1 ha h.lni
    rw [F.wsV _ h.ok, hP] at e1
    rw [h.eni, hP] at e2
    -- workset.contains
    rw [e1]
    by_cases hc1 : covers o wsV p P = true
    · rw [if_pos hc1, if_pos hc1]; exact .some ⟨rfl, rfl, rfl, DRel.sameStore h m1 c1⟩
    rw [if_neg hc1, if_neg hc1]
    -- nonincluded.contains
    rw [← e2]
    cases (niFindC o s.nonIncl p s.S (coversC o ws p s.S s.h).1).2 with
    | some x => exact .some ⟨rfl, rfl, rfl, DRel.sameStore h m2 c2⟩
    | none =>
      simp only [Option.map_none]
      -- EXPAND_PUSH, clear(): the stale frame goes
      have h2 : DRelN o ctx []
          { s with h := (niFindC o s.nonIncl p s.S (coversC o ws p s.S s.h).1).1, pool := s.pool.drop 1 } [] st :=
        DRel.sameStore h m2 c2
      have h3 := DRelN.collect h2 bf (frozen := s.S :: ws.map (·.2) ++ outer) (fun x hx => Or.inl (F.roots x hx))
      have hP3 := (h3.ok _ F.arg).2
      have hcallee : CalleeOK o ctx
          (fun extra => expandNC o .lib pick A B wit bf fuel ((p, s.S) :: ws) (outer ++ extra) (some s.S))
          (expandN o A B wit fuel ((p, P) :: wsV)) := fun q Q fz s1 st1 ccV1 hrel =>
        ih (some s.S) q s1 st1 ccV1 ((F.freeze (fun x hx => List.mem_map_of_mem hx)).push p s1.S Q) hrel
      rw [show hval _ s.S = P from hP3]
      rcases (bodyG_rel (callSimN_rel pick (bf := bf) F.roots hcallee) (callStdN_rel hr pick (bf := bf) F.roots hcallee)
          A B wit (fun l => normS (maxElems o l [])) p P [] _ [] st h3).inv with ⟨e5, e6⟩ |
            ⟨⟨v, cc1, s'⟩, ⟨_, cc1V, stV⟩, e5, e6, rfl, hb⟩
      · rw [e5, e6]; exact .none
      · rw [e5, e6]
        have hP' := (hb.ok _ F.arg).2
        cases v with
        | holds =>
          simp only [show hval s'.h s.S = P from hP']
          exact .some ⟨rfl, rfl, rfl, hb.hi, hb.ok, (fun _ hx => by cases hx), hb.lni, rfl, hb.eni,
            congrArg (addTrue · (p, P)) hb.etr⟩
        | fails t =>
          exact .some ⟨rfl, rfl, rfl, hb.hi, hb.ok, (fun _ hx => by cases hx), hb.lni, rfl, hb.eni, h.etr⟩

theorem rootLoopNC_rel {o : Ord} (hr : ∀ q, o.leB q q = true) (pick : List Nat → Nat) (A B : TA) (wit : Wit) (fuel : Nat)
    (bf : Nat) (FB : List Nat) : ∀ (fs : List Nat) (s : StN) (st : St), DRelN o [(bf, FB)] [] s [] st →
    viewN (rootLoopNC o .lib pick A B wit fuel bf fs s) = rootLoopN o A B wit fuel FB fs st ∧
    ∀ s', rootLoopNC o .lib pick A B wit fuel bf fs s = some (.ok s') → HInvD o s'.h := by
  intro fs
  induction fs with
  | nil =>
    intro s st h
    exact ⟨by simp only [rootLoopNC, rootLoopN, viewN, show s.nonIncl.map (derefN s.h) = _ from h.eni,
        show s.trues = _ from h.etr],
      fun s' hs => by cases hs; exact h.hi⟩
  | cons f fs ih =>
    intro s st h
    have h0 : DRelN o [(bf, FB)] [] { s with S := bf, pool := [] } [] st := h
    have hh := expandNC_rel hr pick A B wit bf fuel (outer := []) none f { s with S := bf, pool := [] } st []
      (Frames.root bf FB []) h0
    simp only [rootLoopNC, rootLoopN]
    rcases hh.inv with ⟨e1, e2⟩ | ⟨⟨v, s'⟩, ⟨_, _, st'⟩, e1, e2, rfl, rfl, _, hrel⟩
    · rw [e1, e2]; exact ⟨rfl, nofun⟩
    · rw [e1, e2]
      cases v with
      | holds =>
        have h1 : DRelN o [(bf, FB)] [] { s' with S := bf, pool := [] } [] st' := hrel
        exact ih _ _
          (h1.collect bf (frozen := []) (fun x hx => Or.inr (by rw [List.mem_singleton.mp hx])))
      | fails t => exact ⟨rfl, nofun⟩

theorem runNC_rel {o : Ord} (hr : ∀ q, o.leB q q = true) (pick : List Nat → Nat) (A B : TA) (fuel : Nat) :
    viewN (runNC o .lib pick A B fuel) = rootLoopN o A B (prodWit A) fuel (normS B.final) (dedup A.final) ⟨[], []⟩ ∧
    ∀ s, runNC o .lib pick A B fuel = some (.ok s) → HInvD o s.h := by
  obtain ⟨l1, l2, l3, _⟩ := hLookupD_spec pick (HInvD.empty o) (normS B.final)
  exact rootLoopNC_rel hr pick A B (prodWit A) fuel _ _ _ _ _
    ⟨l1, fun x hx => by rw [List.mem_singleton.mp hx]; exact ⟨l2, l3⟩, (fun _ hx => by cases hx),
      (fun _ hx => by cases hx), rfl, rfl, rfl⟩

/-- **`checkInternal` with its caches = the cache-free `rootLoopN`**: same `return true` / `return false` (with the same ghost
witness), `none` at the same fuel, and on `return true` `nonincluded` read through the heap and the ghost set agree; for every
allocator -/
theorem runNC_eq {o : Ord} (hr : ∀ q, o.leB q q = true) (pick : List Nat → Nat) (A B : TA) (fuel : Nat) :
    viewN (runNC o .lib pick A B fuel) =
      rootLoopN o A B (prodWit A) fuel (normS B.final) (dedup A.final) ⟨[], []⟩ :=
  (runNC_rel hr pick A B fuel).1

theorem truesOfN_runNC_eq {o : Ord} (hr : ∀ q, o.leB q q = true) (pick : List Nat → Nat) (A B : TA) (fuel : Nat) :
    truesOfN (runNC o .lib pick A B fuel) = InclDown.runN o A B fuel := by
  have e : truesOfN (runNC o .lib pick A B fuel) = match viewN (runNC o .lib pick A B fuel) with
      | none => none
      | some (.ok st) => some (.ok st.trues)
      | some (.error w) => some (.error w) := by
    cases runNC o .lib pick A B fuel with
    | none => rfl
    | some x => cases x <;> rfl
  rw [e, runNC_eq hr]; rfl

theorem rawVerdictN_runNC_eq {o : Ord} (hr : ∀ q, o.leB q q = true) (pick : List Nat → Nat) (A B : TA) (fuel : Nat) :
    rawVerdictN (runNC o .lib pick A B fuel) = (InclDown.runN o A B fuel).map (fun r => match r with
      | .ok _ => true
      | .error _ => false) := by
  rw [← truesOfN_runNC_eq hr pick]
  cases runNC o .lib pick A B fuel with
  | none => rfl
  | some x => cases x <;> rfl

/-- **C01**: for every allocator `ANTICHAINS_DOWN_NONREC_NOSIM` with `biggerTypeCache`, `lteCache` and the
library's deleter returns exactly what the cache-free model `inclDownNonrec` returns -/
theorem inclDownNonrec_cached_eq (pick : List Nat → Nat) (A B : TA) (fuel : Nat) :
    inclDownNonrecC .lib pick A B fuel = inclDownNonrec A B fuel := by
  unfold inclDownNonrecC inclDownNonrec
  rw [truesOfN_runNC_eq idOrd_refl]

theorem inclDownNonrecSim_cached_eq (pick : List Nat → Nat) (A B : TA) (R : Rel) (fuel : Nat) :
    inclDownNonrecSimC .lib pick A B R fuel = inclDownNonrecSim A B R fuel := by
  unfold inclDownNonrecSimC inclDownNonrecSim
  rw [truesOfN_runNC_eq (ordOf_refl R A B)]

theorem checkInclDownNonrec_cached_eq (pick : List Nat → Nat) (A B : TA) (fuel : Nat) :
    checkInclDownNonrecC .lib pick A B fuel = checkInclDownNonrec A B fuel :=
  inclDownNonrec_cached_eq pick _ _ fuel

theorem runNC_heap_sound {o : Ord} (hr : ∀ q, o.leB q q = true) (pick : List Nat → Nat) (A B : TA) (fuel : Nat) {s : StN}
    (hf : runNC o .lib pick A B fuel = some (.ok s)) : HInvD o s.h ∧ heapOKD o s.h = true :=
  have h := (runNC_rel hr pick A B fuel).2 s hf
  ⟨h, heapOKD_of_HInvD h⟩

end FCD
end Vata
