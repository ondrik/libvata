import Vata.Glue
import Vata.Proofs.AssocList
/-!
# `TwoWayDict`: the representation invariant of the model of `Vata/Glue.lean`

`IsMap` (distinct keys) is what `std::map` / `std::unordered_map` guarantee of an association list; `TwoWayDict.Inv` says
that both members are maps and `bwdMap_` is the inverse relation of `fwdMap_`. Every operation keeps it inside its
contract (the `assert`s, modelled by `insertOk`), and it makes the two translations inverse bijections; outside the
contract, under `NDEBUG`, the bijection breaks (`Props.Util_Glue_dict_contract_needed`).
-/
set_option linter.unusedSectionVars false
set_option linter.unusedSimpArgs false
namespace Vata.Glue

section
variable {α β : Type} [DecidableEq α] [DecidableEq β]

def IsMap (m : List (α × β)) : Prop := (m.map Prod.fst).Nodup

theorem isMap_nil : IsMap ([] : List (α × β)) := by simp [IsMap]

theorem lookup_eq_some_iff_mem {m : List (α × β)} (hm : IsMap m) {a : α} {b : β} : m.lookup a = some b ↔ (a, b) ∈ m :=
  ⟨mem_of_lookup, lookup_of_mem hm⟩

theorem isMap_append_single {m : List (α × β)} (hm : IsMap m) {a : α} (b : β) (h : m.lookup a = none) : IsMap (m ++ [(a, b)]) := by
  unfold IsMap at *
  rw [List.map_append, List.nodup_append]
  refine ⟨hm, by simp, ?_⟩
  intro x hx y hy
  simp at hy
  subst hy
  intro e; subst e
  exact lookup_eq_none_iff_keys.1 h hx

theorem mapInsert_of_none {m : List (α × β)} {a : α} (b : β) (h : m.lookup a = none) : mapInsert m a b = (m ++ [(a, b)], true) := by
  simp [mapInsert, h]

theorem mapInsert_of_some {m : List (α × β)} {a : α} (b : β) {b' : β} (h : m.lookup a = some b') : mapInsert m a b = (m, false) := by
  simp [mapInsert, h]

theorem isMap_mapInsert {m : List (α × β)} (hm : IsMap m) (a : α) (b : β) : IsMap (mapInsert m a b).1 := by
  cases h : m.lookup a with
  | none => rw [mapInsert_of_none b h]; exact isMap_append_single hm b h
  | some b' => rw [mapInsert_of_some b h]; exact hm

theorem isMap_mapOfList (l : List (α × β)) : IsMap (mapOfList l) := by
  unfold mapOfList
  have : ∀ (l : List (α × β)) (m : List (α × β)), IsMap m → IsMap (l.foldl (fun m e => (mapInsert m e.1 e.2).1) m) := by
    intro l
    induction l with
    | nil => intro m hm; exact hm
    | cons e r ih => intro m hm; exact ih _ (isMap_mapInsert hm _ _)
  exact this l [] isMap_nil

theorem lookup_mapInsert (m : List (α × β)) (a x : α) (b : β) :
    (mapInsert m a b).1.lookup x = if x = a then some ((m.lookup a).getD b) else m.lookup x := by
  cases h : m.lookup a with
  | some b' =>
    rw [mapInsert_of_some b h]
    by_cases hx : x = a
    · subst hx; simp [h]
    · simp [hx]
  | none =>
    rw [mapInsert_of_none b h]
    simp only [List.lookup_append, Option.getD_none]
    by_cases hx : x = a
    · subst hx; simp [h, List.lookup_cons]
    · have : (x == a) = false := by simpa using hx
      simp [hx, List.lookup_cons, this]

structure TwoWayDict.Inv (d : TwoWayDict α β) : Prop where
  fwdMap : IsMap d.fwd
  bwdMap : IsMap d.bwd
  inverse : ∀ a b, (a, b) ∈ d.fwd ↔ (b, a) ∈ d.bwd

namespace TwoWayDict

theorem inv_empty : (empty : TwoWayDict α β).Inv := ⟨isMap_nil, isMap_nil, by simp [empty]⟩

theorem inv_default : ({} : TwoWayDict α β).Inv := ⟨isMap_nil, isMap_nil, by simp⟩

theorem insert_of_ok {d : TwoWayDict α β} {a : α} {b : β} (ok : d.insertOk a b = true) :
    d.insert a b = (⟨d.fwd ++ [(a, b)], d.bwd ++ [(b, a)]⟩, (a, b), true) := by
  simp only [insertOk, Bool.and_eq_true, Option.isNone_iff_eq_none] at ok
  simp only [insert, mapInsert_of_none _ ok.1, mapInsert_of_none _ ok.2]
  simp [List.lookup_append, ok.1, List.lookup_cons]

theorem inv_insert {d : TwoWayDict α β} (h : d.Inv) {a : α} {b : β} (ok : d.insertOk a b = true) : (d.insert a b).1.Inv := by
  rw [insert_of_ok ok]
  simp only [insertOk, Bool.and_eq_true, Option.isNone_iff_eq_none] at ok
  refine ⟨isMap_append_single h.fwdMap b ok.1, isMap_append_single h.bwdMap a ok.2, ?_⟩
  intro x y
  simp only [List.mem_append, List.mem_singleton, Prod.mk.injEq]
  rw [h.inverse x y]
  constructor
  · rintro (h1 | ⟨h1, h2⟩)
    · exact Or.inl h1
    · exact Or.inr ⟨h2, h1⟩
  · rintro (h1 | ⟨h1, h2⟩)
    · exact Or.inl h1
    · exact Or.inr ⟨h2, h1⟩

theorem translate_inverse {d : TwoWayDict α β} (h : d.Inv) (a : α) (b : β) :
    d.translateFwd a = some b ↔ d.translateBwd b = some a := by
  unfold translateFwd translateBwd
  rw [lookup_eq_some_iff_mem h.fwdMap, lookup_eq_some_iff_mem h.bwdMap, h.inverse]

theorem translateFwd_injective {d : TwoWayDict α β} (h : d.Inv) {a a' : α} {b : β}
    (h1 : d.translateFwd a = some b) (h2 : d.translateFwd a' = some b) : a = a' := by
  have e1 := (translate_inverse h a b).1 h1
  have e2 := (translate_inverse h a' b).1 h2
  rw [e1] at e2
  exact Option.some.inj e2

theorem translateBwd_injective {d : TwoWayDict α β} (h : d.Inv) {b b' : β} {a : α}
    (h1 : d.translateBwd b = some a) (h2 : d.translateBwd b' = some a) : b = b' := by
  have e1 := (translate_inverse h a b).2 h1
  have e2 := (translate_inverse h a b').2 h2
  rw [e1] at e2
  exact Option.some.inj e2

theorem find_spec (d : TwoWayDict α β) (a : α) (b : β) :
    (d.findFwd a = (d.translateFwd a).map (fun y => (a, y))) ∧ (d.findBwd b = (d.translateBwd b).map (fun x => (b, x))) ∧
      d.at? a = d.translateFwd a := ⟨rfl, rfl, rfl⟩

theorem getReverseMap_spec {d : TwoWayDict α β} (h : d.Inv) :
    IsMap d.getReverseMap ∧ ∀ a b, d.getReverseMap.lookup b = some a ↔ d.translateFwd a = some b :=
  ⟨h.bwdMap, fun a b => (translate_inverse h a b).symm⟩

theorem bwd_perm {d : TwoWayDict α β} (h : d.Inv) : d.bwd.Perm (d.fwd.map Prod.swap) := by
  apply (List.perm_ext_iff_of_nodup ?_ ?_).2
  · intro e
    obtain ⟨b, a⟩ := e
    rw [← h.inverse a b]
    simp only [List.mem_map, Prod.exists, Prod.swap_prod_mk, Prod.mk.injEq]
    constructor
    · intro hm; exact ⟨a, b, hm, rfl, rfl⟩
    · rintro ⟨x, y, hm, rfl, rfl⟩; exact hm
  · exact nodup_of_map _ h.bwdMap
  · have hf : d.fwd.Nodup := nodup_of_map _ h.fwdMap
    refine nodup_map_of_inj ?_ hf
    intro x y hxy
    have := congrArg Prod.swap hxy
    simpa using this

theorem size_eq {d : TwoWayDict α β} (h : d.Inv) : d.size = d.getReverseMap.length := by
  have := (bwd_perm h).length_eq
  simp [size, getReverseMap, this]

theorem ofMapLoop_some : ∀ (m : List (α × β)) (bw r : List (β × α)), ofMapLoop m bw = some r →
    r = bw ++ m.map Prod.swap ∧ (IsMap bw → IsMap r)
  | [], bw, r, h => by
    simp only [ofMapLoop, Option.some.injEq] at h
    subst h; simp
  | (a, b) :: m, bw, r, h => by
    simp only [ofMapLoop] at h
    cases hl : bw.lookup b with
    | some a' => rw [mapInsert_of_some a hl] at h; simp at h
    | none =>
      rw [mapInsert_of_none a hl] at h
      obtain ⟨e, hm⟩ := ofMapLoop_some m _ r h
      refine ⟨by simp [e], fun hb => hm (isMap_append_single hb a hl)⟩

theorem ofMapLoop_isSome_of_nodup : ∀ (m : List (α × β)) (bw : List (β × α)),
    ((bw.map Prod.fst) ++ m.map Prod.snd).Nodup → (ofMapLoop m bw).isSome = true
  | [], bw, _ => rfl
  | (a, b) :: m, bw, hn => by
    have hl : bw.lookup b = none := by
      rw [lookup_eq_none_iff_keys]
      intro hb
      rw [List.nodup_append] at hn
      exact hn.2.2 b hb b (by simp) rfl
    simp only [ofMapLoop, mapInsert_of_none a hl]
    apply ofMapLoop_isSome_of_nodup
    simpa [List.append_assoc] using hn

theorem ofMap_inv {m : List (α × β)} (hm : IsMap m) {d : TwoWayDict α β} (h : ofMap m = some d) :
    d.Inv ∧ d.fwd = m ∧ d.bwd = m.map Prod.swap := by
  unfold ofMap at h
  cases hl : ofMapLoop m [] with
  | none => rw [hl] at h; cases h
  | some bw =>
    rw [hl] at h
    cases h
    obtain ⟨e, hb⟩ := ofMapLoop_some m [] bw hl
    simp only [List.nil_append] at e
    refine ⟨⟨hm, hb isMap_nil, ?_⟩, rfl, e⟩
    intro a b
    subst e
    simp only [List.mem_map, Prod.exists, Prod.swap_prod_mk, Prod.mk.injEq]
    constructor
    · intro hm; exact ⟨a, b, hm, rfl, rfl⟩
    · rintro ⟨x, y, hm, rfl, rfl⟩; exact hm

/-- the constructor from a map throws exactly when two keys have the same value -/
theorem ofMap_eq_none_iff (m : List (α × β)) : ofMap m = none ↔ ¬ (m.map Prod.snd).Nodup := by
  unfold ofMap
  constructor
  · intro h hn
    have hs := ofMapLoop_isSome_of_nodup m [] (by simpa using hn)
    cases hl : ofMapLoop m [] with
    | none => rw [hl] at hs; cases hs
    | some bw => rw [hl] at h; cases h
  · intro h
    cases hl : ofMapLoop m [] with
    | none => rfl
    | some bw =>
      exfalso
      apply h
      obtain ⟨e, hb⟩ := ofMapLoop_some m [] bw hl
      have := hb isMap_nil
      subst e
      simpa [IsMap, List.map_map, Function.comp_def] using this

/-- `for (e : es) d.Insert(e)`: the shape of `Union` and of both helpers of `util.cc` -/
def insertList (d : TwoWayDict α β) : List (α × β) → TwoWayDict α β
  | [] => d
  | e :: r => insertList (d.insert e.1 e.2).1 r

theorem union_eq_insertList (d r : TwoWayDict α β) : d.union r = insertList d r.fwd := by
  unfold union
  generalize r.fwd = es
  induction es generalizing d with
  | nil => rfl
  | cons e es ih => simp only [List.foldl_cons, insertList]; exact ih _

theorem lookup_none_of_nodup {γ δ : Type} [DecidableEq γ] [DecidableEq δ] {l : List (γ × δ)} {k : γ} {ks : List γ}
    (h : (l.map Prod.fst ++ k :: ks).Nodup) : l.lookup k = none :=
  lookup_eq_none_iff_keys.mpr fun hk => (List.nodup_append.mp h).2.2 k hk k List.mem_cons_self rfl

theorem nodup_append_single {γ δ : Type} {l : List (γ × δ)} {k : γ} (v : δ) {ks : List γ}
    (h : (l.map Prod.fst ++ k :: ks).Nodup) : ((l ++ [(k, v)]).map Prod.fst ++ ks).Nodup := by
  rw [List.map_append, List.append_assoc]
  exact h

theorem insertList_fwd : ∀ (es : List (α × β)) (d : TwoWayDict α β),
    ((d.fwd ++ es).map Prod.fst).Nodup → (insertList d es).fwd = d.fwd ++ es
  | [], d, _ => (List.append_nil _).symm
  | (a, b) :: es, d, h => by
    rw [List.map_append] at h
    have e : (d.insert a b).1.fwd = d.fwd ++ [(a, b)] :=
      congrArg Prod.fst (mapInsert_of_none b (lookup_none_of_nodup h))
    rw [insertList, insertList_fwd es, e, List.append_assoc]
    · rfl
    · rw [e, List.map_append]; exact nodup_append_single b h

theorem insertList_bwd : ∀ (es : List (α × β)) (d : TwoWayDict α β),
    (d.bwd.map Prod.fst ++ es.map Prod.snd).Nodup → (insertList d es).bwd = d.bwd ++ es.map Prod.swap
  | [], d, _ => (List.append_nil _).symm
  | (a, b) :: es, d, h => by
    have e : (d.insert a b).1.bwd = d.bwd ++ [(b, a)] :=
      congrArg Prod.fst (mapInsert_of_none a (lookup_none_of_nodup h))
    rw [insertList, insertList_bwd es, e, List.append_assoc]
    · rfl
    · rw [e]; exact nodup_append_single a h

theorem insertList_inv : ∀ (es : List (α × β)) (d : TwoWayDict α β), d.Inv →
    ((d.fwd ++ es).map Prod.fst).Nodup → (d.bwd.map Prod.fst ++ es.map Prod.snd).Nodup → (insertList d es).Inv
  | [], d, h, _, _ => h
  | (a, b) :: es, d, h, hk, hv => by
    rw [List.map_append] at hk
    have ok : d.insertOk a b = true := by
      rw [insertOk, lookup_none_of_nodup hk, lookup_none_of_nodup hv]
      rfl
    rw [insertList]
    apply insertList_inv es _ (inv_insert h ok)
    · rw [insert_of_ok ok, List.map_append]; exact nodup_append_single b hk
    · rw [insert_of_ok ok]; exact nodup_append_single a hv

theorem insertList_empty {es : List (α × β)} (hk : (es.map Prod.fst).Nodup) (hv : (es.map Prod.snd).Nodup) :
    (insertList empty es).Inv ∧ (insertList empty es).fwd = es ∧ (insertList empty es).bwd = es.map Prod.swap :=
  ⟨insertList_inv es empty inv_empty hk hv, insertList_fwd es empty hk, insertList_bwd es empty hv⟩

theorem inv_union {d r : TwoWayDict α β} (hd : d.Inv) (hr : r.Inv)
    (hk : ∀ a ∈ r.fwd.map Prod.fst, a ∉ d.fwd.map Prod.fst) (hv : ∀ b ∈ r.bwd.map Prod.fst, b ∉ d.bwd.map Prod.fst) :
    (d.union r).Inv ∧ (d.union r).fwd = d.fwd ++ r.fwd ∧ (d.union r).bwd = d.bwd ++ r.fwd.map Prod.swap := by
  rw [union_eq_insertList]
  have hk' : ((d.fwd ++ r.fwd).map Prod.fst).Nodup := by
    rw [List.map_append, List.nodup_append]
    exact ⟨hd.fwdMap, hr.fwdMap, fun x hx y hy e => hk y hy (e ▸ hx)⟩
  have hvals : r.fwd.map Prod.snd = (r.fwd.map Prod.swap).map Prod.fst := by
    simp [List.map_map, Function.comp_def]
  have hv' : (d.bwd.map Prod.fst ++ r.fwd.map Prod.snd).Nodup := by
    rw [List.nodup_append]
    refine ⟨hd.bwdMap, ?_, ?_⟩
    · rw [hvals]
      exact ((bwd_perm hr).map Prod.fst).nodup_iff.1 hr.bwdMap
    · intro x hx y hy e
      subst e
      have : x ∈ r.bwd.map Prod.fst := by
        rw [hvals] at hy
        exact ((bwd_perm hr).map Prod.fst).mem_iff.2 hy
      exact hv x this hx
  exact ⟨insertList_inv _ _ hd hk' hv', insertList_fwd _ _ hk', insertList_bwd _ _ hv'⟩

end TwoWayDict
end

end Vata.Glue
