import Vata.Lang
import Vata.Incl
import Vata.UpCert
import Vata.DownCert
import Vata.Proofs.InclUp
import Vata.Proofs.InclUpTotal
import Vata.Proofs.Sanitize
import Vata.Proofs.SimModel
import Vata.Proofs.InclDown
import Vata.Proofs.InclDownInv
import Vata.Proofs.InclDownTotal
import Vata.Proofs.InclUpSim
import Vata.Proofs.InclUpSimInv
import Vata.Proofs.InclUpSimTotal
import Vata.Properties.Dispatch
/-!
# C01 – Explicit tree-automata inclusion is exact under every algorithm selection

> For any two explicit tree automata A and B over a ranked alphabet, the inclusion check returns true exactly when every
> tree accepted by A is also accepted by B.  This holds for every implemented parameter selection (upward; downward
> non-recursive; downward recursive with or without the implication cache; each with or without a simulation preorder
> computed on the disjoint union of the prepared operands), and therefore all selections return the same verdict on the
> same pair.

## How the statement is read into the model

* **Specification (L0).**  `accepts A t` (`Vata/Basic.lean`) is the run semantics of a tree automaton `A : TA`;
  `Incl A B := ∀ t, accepts A t = true → accepts B t = true` (`Vata/Lang.lean`) is "every tree accepted by `A` is also
  accepted by `B`".
* **Reference (oracle of the check).**  `inclM A B fuel` (profile saturation over both automata, `Vata/Lang.lean`) and
  the older two-automata version `inclRef` (`Vata/Basic.lean`).  They are what the verdicts of *all eight* parameter
  selections of the real `CheckInclusion` are compared with; `C01_reference_exact` says that every verdict of the
  reference is the truth, so a disagreement of any selection with it is a failing input.
* **Model of the code, upward.**  `checkInclUp A B fuel` (`Vata/InclUp.lean`) mirrors `CheckInclusion` for the selection
  *upward, no simulation*: `SanitizeAutsForInclusion` (= `removeUseless` on both operands) followed by the work-list /
  antichain exploration `InclUp.run` of `ExplicitUpwardInclusion::checkInternal`; `inclUp` is the exploration alone (on
  operands the caller has trimmed).  `none` means "fuel exhausted / internal check failed", it is never a verdict.
* **Model of the code, upward with simulation** (`Vata/InclUpSim.lean`).  `InclUpSim.run R A B fuel` mirrors the same
  `checkInternal` for a relation `R` (`ANTICHAINS_UP_SIM`): macro-states minimised through `ind`/`inv` (states simulated by
  another member are dropped), a pair `(q, S)` skipped when a state of `S` simulates `q` (`checkIntersection(ind[q], S)`),
  `contains`/`refine` modulo the relation (`(p, P)` subsumes `(q, S)` when `q ≼ p` and every state of `P` is simulated by
  a state of `S`).  `inclUpSim A B R fuel` ends certify-then-trust: a `true` only after `R` has been validated (`isUpSimB`
  on `unionDisjoint A B`, disjoint operands) and the final antichain has passed `upCertSimB A B R`; a `false` only with
  a checked tree.  `checkInclUpSim A B fuel` is the command-line `CheckInclusion`: `sanitize`, the greatest upward
  simulation `upSimRef` of the disjoint union of the prepared operands, then the pruned exploration (the library entry
  point passes the caller's operands and relation through, `C01_dispatch` item 4).
* **Models of the code, downward** (`Vata/InclDown.lean`).  `InclDown.run o A B fuel` mirrors the recursive algorithm
  (`CheckDownwardTreeInclusion` with `DownwardInclusionFunctor::expand`: work-set, `childrenCache`, the antichain
  `nonincluded`, phase 1 "a positionwise bigger tuple", then the choice functions), `InclDown.runN o A B fuel` the
  non-recursive one (`ExplicitDownwardInclusion::expand`, the call emulator rendered by recursion with the same order of
  tests and the same caching discipline).  Both are parametrised by a preorder `o : InclDown.Ord` used for pruning;
  `idOrd` gives the `NOSIM` selections, `ordOf R A B` the `SIM` selections for a relation `R` on the disjoint union.
  Every run ends *certify-then-trust*: `true` is returned only with the collected set `X` of pairs after the Boolean check
  `downCertB` / `downCertRB` (the hypotheses of `down_cert_incl` / `down_certR_incl`), `false` only with a tree after the
  check `accepts A w && !accepts B w`.  The verdict functions are `inclDownRec`, `inclDownNonrec`, `inclDownSim`,
  `inclDownNonrecSim` (the exploration on operands the caller has prepared; the `Sim` variants first *validate* the given
  relation: `isDownSimB (unionDisjoint A B) R` and disjoint operands, otherwise `none`) and `checkInclDownRec`,
  `checkInclDownNonrec` (= `CheckInclusion`: `removeUseless` on both operands first).  `inclDownOpt`
  (`OptDownwardInclusionFunctor`, the "implication cache") is *by definition* the same function as `inclDownRec`: in the
  C++ the extra cache `incl_` is never filled (argument in the header of `Vata/InclDown.lean`).  Fuel = nesting depth
  of the calls.
* **Preparation of the operands.**  `sanitize A B` (`Vata/Sanitize.lean`) is `SanitizeAutsForInclusion` in full:
  `removeUseless` on both operands, then `ReindexStates` of both through weak translators that share ONE counter (the map
  is cleared between the operands); it returns the two prepared automata and the counter.  `checkInclUpSan` runs the
  exploration `inclUp` on these (trimmed AND renumbered) operands; `C01_downward_prepared_exact` runs the four downward
  explorations on them, the `Sim` ones with the greatest downward simulation `downSimRef` of their disjoint union (the
  relation of C04) – "a simulation preorder computed on the disjoint union of the prepared operands".
* **Certificate principles.**  `UpCert` / `DownCert` (and `UpCertSim`: modulo an upward simulation of the disjoint union,
  `DownCertR`: modulo language preorders) are the invariants on
  which the upward antichain algorithm and the downward algorithms rest: whatever search produces a set `X` of pairs with
  these closure properties has established inclusion.
* **Dispatch.**  `Vata.Gen.explDispatch` (`Vata/Generated/Tables.lean`) is the `switch (params.GetOptions())` of
  `ExplicitTreeAutCore::CheckInclusion`, regenerated from the C++ sources on every run; `Vata/Properties/Dispatch.lean`
  proves by evaluation which option words are implemented, that every other word throws, and that each case passes the
  operands / relation its option word announces.  The correspondence "callee `explUp` ↦ `checkInclUp`, `explDownNonrec` ↦
  `checkInclDownNonrec` / `inclDownNonrecSim`, `downRec` ↦ `checkInclDownRec` / `inclDownOpt` / `inclDownSim`" is the
  reading of the table, not a theorem.  `C01Sel` (end of the file) lists the eight selections with their models and option
  words; `C01_every_selection_exact_total` is the first sentence of the property as one theorem.
* **Around the algorithms.**  The reference deciders are total above an explicit bound (`Vata/Properties/RefTotal.lean`);
  the utility classes the algorithms are built from – macro-state cache and memo tables, `OrdVector`, the antichain
  containers – and the command-line option handling that produces the option word have models and theorems of their own
  (`Vata/Properties/Util_Cache.lean`, `CacheWiring.lean`, `Util_OrdVector.lean`, `Util_Antichain.lean`, `Util_CliArgs.lean`).
-/
namespace Vata.Props
open Vata.InclUp

/-- the set of pairs of a `true` – the part of a certificate that can be compared by evaluation -/
def Verdict.closedSet : Cert → Option (List (Nat × List Nat))
  | .closed X => some X
  | .witness _ => none

theorem Verdict.eq_closed {o : Option (Bool × Cert)} {b : Bool} {X : List (Nat × List Nat)}
    (h : o.map (fun r => (r.1, Verdict.closedSet r.2)) = some (b, some X)) : o = some (b, .closed X) := by
  match o, h with
  | some (_, .closed _), h => cases h; rfl

/-! ### the reference the eight selections are compared with -/

/-- every verdict of the reference decision procedure is exact -/
theorem C01_reference_exact (A B : TA) (fuel : Nat) (b : Bool) (h : inclM A B fuel = some b) :
    b = true ↔ Incl A B := inclM_iff A B fuel b h

theorem inclM_exG_exH : inclM InclUpEx.exG InclUpEx.exH 10 = some false := by decide +kernel

theorem inclM_exH_exG : inclM InclUpEx.exH InclUpEx.exG 10 = some true := by decide +kernel

example : inclM InclUpEx.exG InclUpEx.exH 10 = some false := inclM_exG_exH
example : inclM InclUpEx.exH InclUpEx.exG 10 = some true := inclM_exH_exG

/-- … and so is every verdict of the two-automata profile reference -/
theorem C01_reference_pair_exact (A B : TA) (fuel : Nat) (b : Bool) (h : inclRef A B fuel = some b) :
    b = true ↔ Incl A B := inclRef_iff A B fuel b h

example : inclRef InclUpEx.exEven InclUpEx.exAll 10 = some true := by decide

/-! ### selection "upward, no simulation": the model of the code is exact and total -/

/-- the model of `CheckInclusion` (upward, no simulation; arbitrary operands, sanitised first): every verdict is exact,
and a verdict is returned for every fuel above the explicit bound `2·|Δ_A'|·2^|Δ_B'|` of the sanitised operands -/
theorem C01_upward_model_exact (A B : TA) :
    (∀ fuel b c, checkInclUp A B fuel = some (b, c) → (b = true ↔ Incl A B)) ∧
    (∀ fuel, fuelBound (removeUseless A) (removeUseless B) < fuel →
      (Incl A B → ∃ c, checkInclUp A B fuel = some (true, c)) ∧
      (¬ Incl A B → ∃ c, checkInclUp A B fuel = some (false, c))) :=
  ⟨fun _ _ _ h => checkInclUp_iff h, fun _ hf => checkInclUp_complete A B hf⟩

example : ∃ c, checkInclUp TotalEx.exU InclUpEx.exA 100 = some (true, c) := Verdict.exists_cert (by decide +kernel)
example : fuelBound (removeUseless InclUpEx.exG) (removeUseless InclUpEx.exH) < 100 := by decide +kernel

/-- the exploration `checkInternal` alone: every verdict is exact on *any* operands; it is total (and then right) when
the smaller operand is trimmed – the hypothesis `Trimmed A` is needed, because the code answers `false` as soon as a
macro-state is empty, which is only justified when every state of `A` lies on an accepting run
(`InclUp.TotalEx.exU` is a counterexample to totality without it) -/
theorem C01_upward_core_exact (A B : TA) :
    (∀ fuel b c, inclUp A B fuel = some (b, c) → (b = true ↔ Incl A B)) ∧
    (Trimmed A → ∀ fuel, fuelBound A B < fuel →
      (Incl A B → ∃ c, inclUp A B fuel = some (true, c)) ∧ (¬ Incl A B → ∃ c, inclUp A B fuel = some (false, c))) :=
  ⟨fun _ _ _ h => inclUp_iff h, fun hA _ hf => inclUp_complete hA hf⟩

example : Trimmed InclUpEx.exG ∧ fuelBound InclUpEx.exG InclUpEx.exH < 97 :=
  ⟨trimmed_of_allUsefulB (by decide), by decide⟩
example : ∃ c, inclUp InclUpEx.exG InclUpEx.exH 97 = some (false, c) := Verdict.exists_cert (by decide +kernel)

/-- the exploration terminates (with `true` or `false`) on all operands, trimmed or not -/
theorem C01_upward_terminates (A B : TA) (fuel : Nat) (hf : fuelBound A B < fuel) : ∃ r, run A B fuel = some r :=
  run_terminates hf

example : ∃ r, run TotalEx.exU InclUpEx.exA 9 = some r := C01_upward_terminates _ _ _ (by decide)

/-- what a verdict of the model carries: `true` comes with an antichain that is an upward certificate without bad
pair, `false` with a tree accepted by `A` and rejected by `B` -/
theorem C01_upward_verdict_certified (A B : TA) (fuel : Nat) (b : Bool) (c : Cert)
    (h : inclUp A B fuel = some (b, c)) :
    match c with
    | .closed X => b = true ∧ UpCert A B X ∧ NoBad A B X
    | .witness w => b = false ∧ accepts A w = true ∧ accepts B w = false := inclUp_cert h

example : inclUp InclUpEx.exH InclUpEx.exG 10 = some (true, .closed [(3, [1]), (4, [1]), (9, [2])]) :=
  Verdict.eq_closed (by decide +kernel)

/-- the final `processed` antichain of a `return true` of the exploration passes the certificate check -/
theorem C01_upward_antichain_closed (A B : TA) (fuel : Nat) (P : List Item) (h : run A B fuel = some (.ok P)) :
    upCertB A B (pairs P) = true := run_ok_cert h

example : ∃ P, run InclUpEx.exH InclUpEx.exG 10 = some (.ok P) := ⟨_, rfl⟩

/-! ### the principles behind the upward and the downward selections -/

/-- soundness of the two kinds of certificates: a set `X` of pairs (state of `A`, macro-state of `B`) that is closed
under the post-image of the rules of `A` up to subsumption and has no bad pair (upward), or that is closed under the
choice-function expansion and covers the final states (downward: `workset`/`childrenCache` of `expand`), proves
inclusion -/
theorem C01_certificates (A B : TA) (X : List (Nat × List Nat)) :
    (UpCert A B X → (∀ q S, (q, S) ∈ X → q ∈ A.final → ∃ s, s ∈ S ∧ s ∈ B.final) → Incl A B) ∧
    (DownCert A B X → (∀ f, f ∈ A.final → Sub X f B.final) → Incl A B) :=
  ⟨fun hX hok => up_cert_incl A B X hX hok, fun hX hroot => down_cert_incl A B X hX hroot⟩

example : UpCert InclUpEx.exH InclUpEx.exG [(3, [1]), (4, [1]), (9, [2])] ∧
    ∀ q S, (q, S) ∈ [(3, [1]), (4, [1]), (9, [2])] → q ∈ InclUpEx.exH.final → ∃ s, s ∈ S ∧ s ∈ InclUpEx.exG.final :=
  upCertB_sound (by decide +kernel)
example : DownCert InclUpEx.exA InclUpEx.exAB [(1, [3])] ∧ ∀ f, f ∈ InclUpEx.exA.final → Sub [(1, [3])] f InclUpEx.exAB.final :=
  downCertB_sound (by decide +kernel)

/-- the Boolean checker the driver applies to antichains is sound for the upward certificate -/
theorem C01_upward_certificate_check (A B : TA) (X : List (Nat × List Nat)) (h : upCertB A B X = true) : Incl A B :=
  upCertB_incl h

example : upCertB InclUpEx.exH InclUpEx.exG [(3, [1]), (4, [1]), (9, [2])] = true := by decide

/-! ### "all selections return the same verdict" -/

/-- any verdict of the model of the upward selection equals any verdict of the reference (which is what every other
selection is compared with), for all fuels -/
theorem C01_upward_agrees_reference (A B : TA) (fuel fuel' : Nat) (b b' : Bool) (c : Cert)
    (h : checkInclUp A B fuel = some (b, c)) (h' : inclM A B fuel' = some b') : b = b' :=
  Verdict.eq_of_iff (checkInclUp_iff h) (inclM_iff A B fuel' b' h')

example : (checkInclUp InclUpEx.exG InclUpEx.exH 10).map (·.1) = some false ∧ inclM InclUpEx.exG InclUpEx.exH 10 = some false :=
  ⟨by decide +kernel, inclM_exG_exH⟩

/-- sanitising the operands (`SanitizeAutsForInclusion`: useless-state removal) does not change the question asked -/
theorem C01_sanitise_preserves (A B : TA) : Incl (removeUseless A) (removeUseless B) ↔ Incl A B :=
  incl_removeUseless A B

example : (removeUseless TotalEx.exU).rules = [⟨0, [], 1⟩] ∧ TotalEx.exU.rules.length = 2 := by decide

/-- `SanitizeAutsForInclusion` in full (model `sanitize`: useless-state removal, then dense renumbering of both operands
with one shared counter): both languages are preserved – hence the inclusion question –, both results are trimmed
(`allUsefulB`), the first has exactly the states `0..k-1`, the second exactly `k..n-1` where `n` is the returned
counter, so the state sets are disjoint, all states are below `n`, and `n = |Q_A'| + |Q_B'|` -/
theorem C01_sanitise_model (A B : TA) :
    (∀ t, accepts (sanitize A B).1 t = accepts A t ∧ accepts (sanitize A B).2.1 t = accepts B t) ∧
    (Incl (sanitize A B).1 (sanitize A B).2.1 ↔ Incl A B) ∧
    (allUsefulB (sanitize A B).1 = true ∧ allUsefulB (sanitize A B).2.1 = true) ∧
    (∀ x, (x ∈ (sanitize A B).1.states ↔ x < (sanitize A B).1.states.length) ∧
      (x ∈ (sanitize A B).2.1.states ↔ (sanitize A B).1.states.length ≤ x ∧ x < (sanitize A B).2.2)) ∧
    (∀ q, q ∈ (sanitize A B).1.states → q ∉ (sanitize A B).2.1.states) ∧
    (∀ q, q ∈ (sanitize A B).1.states ∨ q ∈ (sanitize A B).2.1.states → q < (sanitize A B).2.2) ∧
    (sanitize A B).2.2 = (sanitize A B).1.states.length + (sanitize A B).2.1.states.length :=
  ⟨sanitize_lang A B, checkIncl_sanitized A B, sanitize_trimmed A B, sanitize_dense A B, sanitize_disjoint A B,
    sanitize_bound A B, (sanitize_count A B).1⟩

example : ((sanitize SanEx.exA SanEx.exB).1.rules, (sanitize SanEx.exA SanEx.exB).2.1.rules, (sanitize SanEx.exA SanEx.exB).2.2) =
    ([⟨0, [], 1⟩, ⟨1, [1, 1], 0⟩], [⟨0, [], 2⟩, ⟨3, [], 2⟩, ⟨1, [2, 2], 2⟩], 3) := by decide +kernel
-- the operands of the example overlap (state `7` in both) and the first one is not trimmed
example : 7 ∈ SanEx.exA.states ∧ 7 ∈ SanEx.exB.states ∧ allUsefulB SanEx.exA = false := by decide +kernel

/-- what the two upward models and the four downward explorations answer on the prepared operands of `SanEx.exA`, `SanEx.exB`
(fuel 20), in the order of `C01Sel.all`.  One evaluation: the runs share the prepared operands and the computed relations -/
theorem sanEx_verdicts (A' B' : TA) (R : Rel) (hA' : A' = (sanitize SanEx.exA SanEx.exB).1)
    (hB' : B' = (sanitize SanEx.exA SanEx.exB).2.1) (hR : R = downSimRef (unionDisjoint A' B')) :
    (checkInclUpSan SanEx.exA SanEx.exB 20).map (·.1) = some true ∧
    (checkInclUpSim SanEx.exA SanEx.exB 20).map (·.1) = some true ∧
    (inclDownNonrec A' B' 20).map (·.1) = some true ∧ (inclDownNonrecSim A' B' R 20).map (·.1) = some true ∧
    (inclDownRec A' B' 20).map (·.1) = some true ∧ (inclDownSim A' B' R 20).map (·.1) = some true := by
  rw [hR, hA', hB']; decide +kernel

/-- the same with the operands exchanged: every model answers `false` -/
theorem sanEx_verdicts_rev (A' B' : TA) (R : Rel) (hA' : A' = (sanitize SanEx.exB SanEx.exA).1)
    (hB' : B' = (sanitize SanEx.exB SanEx.exA).2.1) (hR : R = downSimRef (unionDisjoint A' B')) :
    (checkInclUpSan SanEx.exB SanEx.exA 20).map (·.1) = some false ∧
    (checkInclUpSim SanEx.exB SanEx.exA 20).map (·.1) = some false ∧
    (inclDownNonrec A' B' 20).map (·.1) = some false ∧ (inclDownNonrecSim A' B' R 20).map (·.1) = some false ∧
    (inclDownRec A' B' 20).map (·.1) = some false ∧ (inclDownSim A' B' R 20).map (·.1) = some false := by
  rw [hR, hA', hB']; decide +kernel

/-- the selection "upward, no simulation" on the operands exactly as the code prepares them (trimmed and renumbered):
every verdict is exact, and a verdict is returned for every fuel above the explicit bound -/
theorem C01_upward_sanitised_exact (A B : TA) :
    (∀ fuel b c, checkInclUpSan A B fuel = some (b, c) → (b = true ↔ Incl A B)) ∧
    (∀ fuel, fuelBound (sanitize A B).1 (sanitize A B).2.1 < fuel →
      (Incl A B → ∃ c, checkInclUpSan A B fuel = some (true, c)) ∧
      (¬ Incl A B → ∃ c, checkInclUpSan A B fuel = some (false, c))) :=
  ⟨fun _ _ _ h => checkInclUpSan_iff h, fun _ hf =>
    Verdict.complete_of_total (inclUp_total (trimmed_of_allUsefulB (sanitize_trimmed A B).1) hf) checkInclUpSan_iff⟩

example : ∃ c, checkInclUpSan SanEx.exA SanEx.exB 20 = some (true, c) :=
  Verdict.exists_cert (sanEx_verdicts _ _ _ rfl rfl rfl).1
example : ∃ c, checkInclUpSan SanEx.exB SanEx.exA 20 = some (false, c) :=
  Verdict.exists_cert (sanEx_verdicts_rev _ _ _ rfl rfl rfl).1

/-! ### the downward selections: models of the code, exact and total -/

/-- selection "downward, recursive, no simulation" (`ANTICHAINS_DOWN_REC_NOSIM`): the model `checkInclDownRec` of
`CheckInclusion` (arbitrary operands, useless states removed first): every verdict is exact, and a verdict is returned for
every fuel above the explicit bound `|Q_A'|·2^|Q_B'|` on the nesting depth of the calls -/
theorem C01_downward_rec_model_exact (A B : TA) :
    (∀ fuel b c, checkInclDownRec A B fuel = some (b, c) → (b = true ↔ Incl A B)) ∧
    (∀ fuel, InclDown.fuelBoundD (removeUseless A) (removeUseless B) < fuel →
      (Incl A B → ∃ c, checkInclDownRec A B fuel = some (true, c)) ∧
      (¬ Incl A B → ∃ c, checkInclDownRec A B fuel = some (false, c))) :=
  ⟨fun _ _ _ h => checkInclDownRec_iff h, fun _ hf => checkInclDownRec_complete A B hf⟩

-- the first operand has the useless rule `h(7) → 1`; both verdicts occur
example : ∃ c, checkInclDownRec InclDownEx.exUs InclDownEx.exA 10 = some (true, c) :=
  Verdict.exists_cert (by decide +kernel)
example : ∃ c, checkInclDownRec InclDownEx.exG InclDownEx.exH 10 = some (false, c) :=
  Verdict.exists_cert (by decide +kernel)
example : InclDown.fuelBoundD (removeUseless InclDownEx.exG) (removeUseless InclDownEx.exH) < 17 := by decide +kernel

/-- selection "downward, non-recursive, no simulation" (`ANTICHAINS_DOWN_NONREC_NOSIM`), model `checkInclDownNonrec` -/
theorem C01_downward_nonrec_model_exact (A B : TA) :
    (∀ fuel b c, checkInclDownNonrec A B fuel = some (b, c) → (b = true ↔ Incl A B)) ∧
    (∀ fuel, InclDown.fuelBoundD (removeUseless A) (removeUseless B) < fuel →
      (Incl A B → ∃ c, checkInclDownNonrec A B fuel = some (true, c)) ∧
      (¬ Incl A B → ∃ c, checkInclDownNonrec A B fuel = some (false, c))) :=
  ⟨fun _ _ _ h => checkInclDownNonrec_iff h, fun _ hf => checkInclDownNonrec_complete A B hf⟩

example : ∃ c, checkInclDownNonrec InclDownEx.exUs InclDownEx.exA 10 = some (true, c) :=
  Verdict.exists_cert (by decide +kernel)
example : ∃ c, checkInclDownNonrec InclDownEx.exU1 InclDownEx.exU2 10 = some (false, c) :=
  Verdict.exists_cert (by decide +kernel)

/-- "recursive with or without the implication cache": the model of `OptDownwardInclusionFunctor` IS the model of
`DownwardInclusionFunctor` (first component, by definition – the justification is the argument about the C++ in
`Vata/InclDown.lean`, not a theorem); hence its verdicts are exact as well -/
theorem C01_downward_cache_same_computation (A B : TA) (fuel : Nat) :
    inclDownOpt A B fuel = inclDownRec A B fuel ∧
    (∀ b c, inclDownOpt A B fuel = some (b, c) → (b = true ↔ Incl A B)) :=
  ⟨rfl, fun _ _ h => inclDownOpt_iff h⟩

example : ∃ c, inclDownOpt InclDownEx.exG InclDownEx.exH 10 = some (false, c) :=
  Verdict.exists_cert (by decide +kernel)

/-- the two downward explorations alone (no simulation): every verdict is exact on *any* operands; they are total (and
then right) when the children of all rules of `A` are productive – the hypothesis is needed, because the code skips an
empty set of a choice function, which is only justified when the state at that position accepts some tree
(`InclDownEx.exUs` is a counterexample to totality without it, see below) -/
theorem C01_downward_core_exact (A B : TA) :
    (∀ fuel b c, inclDownRec A B fuel = some (b, c) → (b = true ↔ Incl A B)) ∧
    (∀ fuel b c, inclDownNonrec A B fuel = some (b, c) → (b = true ↔ Incl A B)) ∧
    (InclDown.KidsProductive A → ∀ fuel, InclDown.fuelBoundD A B < fuel →
      ((Incl A B → ∃ c, inclDownRec A B fuel = some (true, c)) ∧
        (¬ Incl A B → ∃ c, inclDownRec A B fuel = some (false, c))) ∧
      ((Incl A B → ∃ c, inclDownNonrec A B fuel = some (true, c)) ∧
        (¬ Incl A B → ∃ c, inclDownNonrec A B fuel = some (false, c)))) :=
  ⟨fun _ _ _ h => inclDownRec_iff h, fun _ _ _ h => inclDownNonrec_iff h,
    fun hA _ hf => ⟨inclDownRec_complete hA hf, inclDownNonrec_complete hA hf⟩⟩

example : InclDown.KidsProductive InclDownEx.exG ∧ InclDown.fuelBoundD InclDownEx.exG InclDownEx.exH < 17 :=
  ⟨(trimmed_of_allUsefulB (by decide +kernel)).1, by decide +kernel⟩
-- without the hypothesis: the exploration answers `false` with a tree `A` does not accept, the model refuses
example : inclDownRec InclDownEx.exUs InclDownEx.exA 10 = none ∧
    InclDown.run InclDown.idOrd InclDownEx.exUs InclDownEx.exA 10 = some (.error (.node 3 [.node 0 []])) ∧
    accepts InclDownEx.exUs (.node 3 [.node 0 []]) = false := ⟨rfl, rfl, by decide⟩

/-- what a verdict of the recursive model carries: `true` comes with a set of pairs that is a downward certificate
covering the final states, `false` with a tree accepted by `A` and rejected by `B` -/
theorem C01_downward_verdict_certified (A B : TA) (fuel : Nat) (b : Bool) (c : Cert)
    (h : inclDownRec A B fuel = some (b, c)) :
    match c with
    | .closed X => b = true ∧ DownCert A B X ∧ ∀ f, f ∈ A.final → Sub X f B.final
    | .witness w => b = false ∧ accepts A w = true ∧ accepts B w = false := inclDownRec_cert h

example : inclDownRec InclDownEx.exS1 InclDownEx.exS2 10 = some (true, .closed [(1, [3, 4]), (5, [6]), (2, [9])]) :=
  Verdict.eq_closed (by decide +kernel)

/-- the explorations proper (no final check involved), for any pruning preorder `o` that is reflexive and sound for the
languages of the states (`LangOrd`), on an `A` whose rule children are productive: the set collected by a `return true`
of the recursive exploration passes the certificate check, the tree of a `return false` separates the languages, and the
exploration ends within the bound; the same for the non-recursive exploration when `o` is moreover transitive.  So the
final checks of the models never refuse: `none` means "fuel exhausted" only -/
theorem C01_downward_exploration_certified (o : InclDown.Ord) (A B : TA)
    (hO : LangOrd A B (InclDown.leAP o) (InclDown.leBP o) (InclDown.leABP o)) (hr : InclDown.OrdRefl o)
    (hA : InclDown.KidsProductive A) (fuel : Nat) :
    ((∀ X, InclDown.run o A B fuel = some (.ok X) → downCertRB o A B X = true) ∧
      (∀ w, InclDown.run o A B fuel = some (.error w) → accepts A w = true ∧ accepts B w = false) ∧
      (InclDown.fuelBoundD A B < fuel → ∃ r, InclDown.run o A B fuel = some r)) ∧
    (InclDown.OrdTrans o →
      (∀ X, InclDown.runN o A B fuel = some (.ok X) → downCertRB o A B X = true) ∧
      (∀ w, InclDown.runN o A B fuel = some (.error w) → accepts A w = true ∧ accepts B w = false) ∧
      (InclDown.fuelBoundD A B < fuel → ∃ r, InclDown.runN o A B fuel = some r)) :=
  ⟨⟨fun _ h => InclDown.run_ok_cert hO hr hA h, fun _ h => InclDown.run_error_sound hO hr hA h,
      fun h => InclDown.run_terminates hr h⟩,
    fun ht => ⟨fun _ h => InclDown.runN_spec hO hr ht hA h, fun _ h => InclDown.runN_spec hO hr ht hA h,
      fun h => InclDown.runN_terminates hr h⟩⟩

-- the hypotheses hold for the identity on trimmed operands and for a validated simulation
example : LangOrd InclDownEx.exH InclDownEx.exG (InclDown.leAP InclDown.idOrd) (InclDown.leBP InclDown.idOrd)
      (InclDown.leABP InclDown.idOrd) ∧ InclDown.OrdRefl InclDown.idOrd ∧ InclDown.OrdTrans InclDown.idOrd ∧
    InclDown.KidsProductive InclDownEx.exH :=
  ⟨InclDown.idOrd_langOrd _ _, InclDown.ordRefl_id, InclDown.ordTrans_id, (trimmed_of_allUsefulB (by decide +kernel)).1⟩
example : InclDown.run InclDown.idOrd InclDownEx.exH InclDownEx.exG 10 = some (.ok [(3, [1]), (4, [1]), (9, [2])]) := rfl
example : LangOrd InclDownEx.exS1 InclDownEx.exS2 (InclDown.leAP (InclDown.ordOf [(5, 6)] InclDownEx.exS1 InclDownEx.exS2))
    (InclDown.leBP (InclDown.ordOf [(5, 6)] InclDownEx.exS1 InclDownEx.exS2))
    (InclDown.leABP (InclDown.ordOf [(5, 6)] InclDownEx.exS1 InclDownEx.exS2)) :=
  InclDown.ordOf_langOrd (by decide +kernel) (by decide +kernel)

/-- the Boolean checker the models apply to the collected sets is exactly the downward certificate, and a checked set
proves the inclusion -/
theorem C01_downward_certificate_check (A B : TA) (X : List (Nat × List Nat)) :
    (downCertB A B X = true ↔ DownCert A B X ∧ ∀ f, f ∈ A.final → Sub X f B.final) ∧
    (downCertB A B X = true → Incl A B) :=
  ⟨downCertB_iff A B X, fun h => downCertB_incl h⟩

example : downCertB InclDownEx.exH InclDownEx.exG [(3, [1]), (4, [1]), (9, [2])] = true ∧
    downCertB InclDownEx.exH InclDownEx.exG [(9, [2])] = false := by decide +kernel

/-! ### the downward selections with a simulation preorder -/

/-- soundness of pruning modulo preorders: relations `RA` (on `A`), `RB` (on `B`), `RAB` (from `A` to `B`) that are
sound for the languages of the states (`LangOrd`), and a set `X` of pairs closed under the choice-function expansion
*up to* these relations (`DownCertR`, `SubR`: the pair is implied by the preorder, or a pair `(k', S')` of `X` has
`k ≤ k'` and every state of `S'` below a state of `S`) that covers the final states: inclusion holds -/
theorem C01_certificates_modulo_preorder (A B : TA) (RA RB RAB : Nat → Nat → Prop) (hO : LangOrd A B RA RB RAB)
    (X : List (Nat × List Nat)) (hX : DownCertR RA RB RAB A B X)
    (hroot : ∀ f, f ∈ A.final → SubR RA RB RAB X f B.final) : Incl A B :=
  down_certR_incl A B RA RB RAB hO X hX hroot

-- the hypotheses on a concrete pair: the relations given by `5 ≤ 6` and the set `{(1,{3,4}), (2,{9})}`
example : DownCertR (InclDown.leAP (InclDown.ordOf [(5, 6)] InclDownEx.exS1 InclDownEx.exS2))
      (InclDown.leBP (InclDown.ordOf [(5, 6)] InclDownEx.exS1 InclDownEx.exS2))
      (InclDown.leABP (InclDown.ordOf [(5, 6)] InclDownEx.exS1 InclDownEx.exS2)) InclDownEx.exS1 InclDownEx.exS2
      [(1, [3, 4]), (2, [9])] ∧
    ∀ f, f ∈ InclDownEx.exS1.final → SubR (InclDown.leAP (InclDown.ordOf [(5, 6)] InclDownEx.exS1 InclDownEx.exS2))
      (InclDown.leBP (InclDown.ordOf [(5, 6)] InclDownEx.exS1 InclDownEx.exS2))
      (InclDown.leABP (InclDown.ordOf [(5, 6)] InclDownEx.exS1 InclDownEx.exS2)) [(1, [3, 4]), (2, [9])] f
      InclDownEx.exS2.final := downCertRB_sound (by decide +kernel)
-- with the pair `5 ≤ 6` the set `{(1,{3,4}), (2,{9})}` is a certificate; with the identity it is not
example : downCertRB (InclDown.ordOf [(5, 6)] InclDownEx.exS1 InclDownEx.exS2) InclDownEx.exS1 InclDownEx.exS2
      [(1, [3, 4]), (2, [9])] = true ∧
    downCertRB InclDown.idOrd InclDownEx.exS1 InclDownEx.exS2 [(1, [3, 4]), (2, [9])] = false := by decide +kernel

/-- selections "downward (recursive / non-recursive) with simulation" for a GIVEN relation `R` on the disjoint union:
the models validate `R` (a downward simulation on `unionDisjoint A B`, the operands disjoint) and then prune with it;
every verdict is exact on any operands and for any `R`; when the validation passes and the rule children of `A` are
productive, the recursive model returns the right verdict for every fuel above the bound, and so does the non-recursive
one if `R` is moreover transitive (it prunes the sets of the choice functions to their maximal elements and caches
subsumed pairs) -/
theorem C01_downward_sim_exact (A B : TA) (R : Rel) :
    (∀ fuel b c, inclDownSim A B R fuel = some (b, c) → (b = true ↔ Incl A B)) ∧
    (∀ fuel b c, inclDownNonrecSim A B R fuel = some (b, c) → (b = true ↔ Incl A B)) ∧
    (InclDown.KidsProductive A → isDownSimB (unionDisjoint A B) R = true → InclDown.disjointB A B = true →
      ∀ fuel, InclDown.fuelBoundD A B < fuel →
        ((Incl A B → ∃ c, inclDownSim A B R fuel = some (true, c)) ∧
          (¬ Incl A B → ∃ c, inclDownSim A B R fuel = some (false, c))) ∧
        ((∀ a b c, (a, b) ∈ R → (b, c) ∈ R → (a, c) ∈ R) →
          (Incl A B → ∃ c, inclDownNonrecSim A B R fuel = some (true, c)) ∧
          (¬ Incl A B → ∃ c, inclDownNonrecSim A B R fuel = some (false, c)))) :=
  ⟨fun _ _ _ h => inclDownSim_iff h, fun _ _ _ h => inclDownNonrecSim_iff h,
    fun hA hsim hdis _ hf => ⟨inclDownSim_complete hA hsim hdis hf,
      fun hR => inclDownNonrecSim_complete hA hsim hdis hR hf⟩⟩

-- the runs on the trimmed, disjoint pair `exS1`, `exS2` with the relation `{(5,6)}` that the examples below (and those of
-- C07) quote, each evaluated once
theorem exS_downSim :
    inclDownSim InclDownEx.exS1 InclDownEx.exS2 [(5, 6)] 10 = some (true, .closed [(1, [3, 4]), (2, [9])]) :=
  Verdict.eq_closed (by decide +kernel)
theorem exS_downNonrecSim :
    inclDownNonrecSim InclDownEx.exS1 InclDownEx.exS2 [(5, 6)] 10 = some (true, .closed [(1, [3, 4]), (2, [9])]) :=
  Verdict.eq_closed (by decide +kernel)
theorem exS_ref : inclM InclDownEx.exS1 InclDownEx.exS2 10 = some true := by decide +kernel
theorem exS_up : (checkInclUp InclDownEx.exS1 InclDownEx.exS2 20).map (·.1) = some true := by decide +kernel
theorem exS_downNonrec : (checkInclDownNonrec InclDownEx.exS1 InclDownEx.exS2 10).map (·.1) = some true := by
  decide +kernel
theorem exS_downRec : (checkInclDownRec InclDownEx.exS1 InclDownEx.exS2 10).map (·.1) = some true := by decide +kernel

example : inclDownSim InclDownEx.exS1 InclDownEx.exS2 [(5, 6)] 10 = some (true, .closed [(1, [3, 4]), (2, [9])]) ∧
    inclDownNonrecSim InclDownEx.exS1 InclDownEx.exS2 [(5, 6)] 10 = some (true, .closed [(1, [3, 4]), (2, [9])]) :=
  ⟨exS_downSim, exS_downNonrecSim⟩
example : InclDown.KidsProductive InclDownEx.exS1 ∧ isDownSimB (unionDisjoint InclDownEx.exS1 InclDownEx.exS2) [(5, 6)] = true ∧
    InclDown.disjointB InclDownEx.exS1 InclDownEx.exS2 = true ∧ InclDown.fuelBoundD InclDownEx.exS1 InclDownEx.exS2 < 49 :=
  ⟨(trimmed_of_allUsefulB (by decide +kernel)).1, by decide +kernel, by decide +kernel, by decide +kernel⟩
-- a relation that is not a simulation, or operands that overlap, are refused (no verdict)
example : inclDownSim InclDownEx.exS1 InclDownEx.exS2 [(1, 3)] 10 = none ∧ inclDownSim InclDownEx.exA InclDownEx.exA [] 10 = none :=
  by decide +kernel

/-- all four downward explorations on the operands exactly as the code prepares them (`A' = (sanitize A B).1`,
`B' = (sanitize A B).2.1`: trimmed, renumbered, disjoint), the two `Sim` ones with the simulation preorder computed on the
disjoint union of the prepared operands (`R` = the greatest downward simulation `downSimRef` of `unionDisjoint A' B'`, the
relation of C04): no hypothesis is left – the validation of `R` passes, `R` is transitive, the rule children of `A'` are
productive.  Every verdict is exact for the ORIGINAL question `Incl A B`, and for every fuel above the bound each of the
four returns the right verdict -/
theorem C01_downward_prepared_exact (A B A' B' : TA) (R : Rel) (hA' : A' = (sanitize A B).1)
    (hB' : B' = (sanitize A B).2.1) (hR : R = downSimRef (unionDisjoint A' B')) :
    (∀ fuel b c, (inclDownRec A' B' fuel = some (b, c) ∨ inclDownNonrec A' B' fuel = some (b, c) ∨
        inclDownSim A' B' R fuel = some (b, c) ∨ inclDownNonrecSim A' B' R fuel = some (b, c)) → (b = true ↔ Incl A B)) ∧
    (∀ fuel, InclDown.fuelBoundD A' B' < fuel →
      (Incl A B → (∃ c, inclDownRec A' B' fuel = some (true, c)) ∧ (∃ c, inclDownNonrec A' B' fuel = some (true, c)) ∧
        (∃ c, inclDownSim A' B' R fuel = some (true, c)) ∧ (∃ c, inclDownNonrecSim A' B' R fuel = some (true, c))) ∧
      (¬ Incl A B → (∃ c, inclDownRec A' B' fuel = some (false, c)) ∧ (∃ c, inclDownNonrec A' B' fuel = some (false, c)) ∧
        (∃ c, inclDownSim A' B' R fuel = some (false, c)) ∧ (∃ c, inclDownNonrecSim A' B' R fuel = some (false, c)))) := by
  subst hA' hB'
  -- `subst hR` would unfold `downSimRef` looking for a variable on the right
  rw [hR]
  have hK : InclDown.KidsProductive (sanitize A B).1 := (trimmed_of_allUsefulB (sanitize_trimmed A B).1).1
  have hsim := downSimRef_check (unionDisjoint (sanitize A B).1 (sanitize A B).2.1)
  have hdis : InclDown.disjointB (sanitize A B).1 (sanitize A B).2.1 = true :=
    InclDown.disjointB_iff.mpr (sanitize_disjoint A B)
  have htr := (greatest_downSim_preorder (unionDisjoint (sanitize A B).1 (sanitize A B).2.1)).2
  have hq := checkIncl_sanitized A B
  refine ⟨fun fuel b c h => ?_, fun fuel hf => ?_⟩
  · rcases h with h | h | h | h
    · exact (inclDownRec_iff h).trans hq
    · exact (inclDownNonrec_iff h).trans hq
    · exact (inclDownSim_iff h).trans hq
    · exact (inclDownNonrecSim_iff h).trans hq
  · have h1 := inclDownRec_complete hK hf
    have h2 := inclDownNonrec_complete hK hf
    have h3 := inclDownSim_complete hK hsim hdis hf
    have h4 := inclDownNonrecSim_complete hK hsim hdis htr hf
    rw [hq] at h1 h2 h3 h4
    exact ⟨fun hi => ⟨h1.1 hi, h2.1 hi, h3.1 hi, h4.1 hi⟩, fun hn => ⟨h1.2 hn, h2.2 hn, h3.2 hn, h4.2 hn⟩⟩

-- the operands of the example overlap and the first is not trimmed; the prepared ones are `0,1` / `2`; the computed
-- simulation relates the two states of `A'` to the state of `B'` (and `0` to `1`)
example : downSimRef (unionDisjoint (sanitize SanEx.exA SanEx.exB).1 (sanitize SanEx.exA SanEx.exB).2.1) =
    [(1, 1), (1, 2), (0, 0), (0, 2), (2, 2)] := by decide +kernel
example : ∃ c, inclDownSim (sanitize SanEx.exA SanEx.exB).1 (sanitize SanEx.exA SanEx.exB).2.1
    (downSimRef (unionDisjoint (sanitize SanEx.exA SanEx.exB).1 (sanitize SanEx.exA SanEx.exB).2.1)) 20 = some (true, c) :=
  Verdict.exists_cert (sanEx_verdicts _ _ _ rfl rfl rfl).2.2.2.2.2
example : ∃ c, inclDownNonrecSim (sanitize SanEx.exB SanEx.exA).1 (sanitize SanEx.exB SanEx.exA).2.1
    (downSimRef (unionDisjoint (sanitize SanEx.exB SanEx.exA).1 (sanitize SanEx.exB SanEx.exA).2.1)) 20 = some (false, c) :=
  Verdict.exists_cert (sanEx_verdicts_rev _ _ _ rfl rfl rfl).2.2.2.1

/-! ### the selection "upward with simulation" -/

/-- the "context language" property of an upward simulation `S` (identity on siblings, respecting finality) of an
automaton `U`: if `r` simulates `q`, every context `c` that leads from `q` to a final state accepts every tree that `r`
labels – this is why a state simulated by another member of a macro-state, and a pair whose `A`-state is simulated by a
member of its macro-state, can be dropped -/
theorem C01_upward_sim_context (U : TA) (S : Nat → Nat → Prop) (hS : IsUpSim U S) (c : InclUpSim.Ctx) (q r : Nat)
    (t' : Tree) (hqr : S q r) (hr : r ∈ reach U t') (h : accepting U (c.reachFrom U [q]) = true) :
    accepts U (c.plug t') = true := InclUpSim.upSim_ctx_accepts U S hS c hqr hr h

-- `g(□)` leads from `1` to the final `3`; `12` simulates `1`; `a` is labelled `12`: `g(a)` is accepted
example : accepts (unionDisjoint InclUpSimEx.exP InclUpSimEx.exQ)
    (InclUpSim.Ctx.plug (.node 2 [] .hole []) (.node 0 [])) = true :=
  C01_upward_sim_context _ (RelOf (upSimRef (unionDisjoint InclUpSimEx.exP InclUpSimEx.exQ))) (upSimRef_sim _)
    (.node 2 [] .hole []) 1 12 (.node 0 []) (by decide +kernel) (by decide +kernel) (by decide +kernel)

/-- soundness of upward pruning modulo a simulation: `S` a reflexive and transitive upward simulation of the disjoint
union of `A` and `B` (disjoint states); a set `X` of pairs whose first components are states of `A`, closed under the
post-image of the rules of `A` *up to* `S` (`UpCertSim`: the parent is simulated by a state of the post-image – the pair
is skipped –, or a pair `(p, P)` of `X` has `parent ≼ p` and every state of `P` is simulated by a state of the
post-image) and without bad pair: inclusion holds -/
theorem C01_upward_sim_certificates (A B : TA) (S : Nat → Nat → Prop) (hS : IsUpSim (unionDisjoint A B) S)
    (hrefl : ∀ q, S q q) (htr : ∀ a b c, S a b → S b c → S a c) (hdis : ∀ q, q ∈ A.states → q ∉ B.states)
    (X : List (Nat × List Nat)) (hX : InclUpSim.UpCertSim A B S X) (hkeys : InclUpSim.KeysIn A X) (hok : NoBad A B X) :
    Incl A B := InclUpSim.up_cert_sim_incl A B S hS hrefl htr hdis X hX hkeys hok

-- the hypotheses on a concrete pair: the closure of `{1 ≼ 2, 10 ≼ 12}` and the set `{(2,{12}), (3,{11})}`
example : IsUpSim (unionDisjoint InclUpSimEx.exP InclUpSimEx.exQ) (InclUpSim.Star (RelOf InclUpSimEx.exR)) ∧
    InclUpSim.UpCertSim InclUpSimEx.exP InclUpSimEx.exQ (InclUpSim.LeqP InclUpSimEx.exR) [(2, [12]), (3, [11])] ∧
    InclUpSim.KeysIn InclUpSimEx.exP [(2, [12]), (3, [11])] ∧ NoBad InclUpSimEx.exP InclUpSimEx.exQ [(2, [12]), (3, [11])] :=
  ⟨InclUpSim.upSim_star _ ((isUpSimB_iff _ _).mp (by decide +kernel)), upCertSimB_sound (by decide +kernel)⟩

/-- the Boolean checker the model applies to the final antichain is exactly that certificate (for the reflexive closure
of the given relation), and a checked antichain with a validated relation proves the inclusion -/
theorem C01_upward_sim_certificate_check (A B : TA) (R : Rel) (X : List (Nat × List Nat)) :
    (upCertSimB A B R X = true ↔
      InclUpSim.UpCertSim A B (InclUpSim.LeqP R) X ∧ InclUpSim.KeysIn A X ∧ NoBad A B X) ∧
    (isUpSimB (unionDisjoint A B) R = true → InclDown.disjointB A B = true → upCertSimB A B R X = true → Incl A B) :=
  ⟨upCertSimB_iff A B R X, fun h₁ h₂ h₃ => upCertSimB_incl h₁ h₂ h₃⟩

-- with `1 ≼ 2`, `10 ≼ 12` the set `{(2,{12}), (3,{11})}` is a certificate; with the empty relation it is not
example : upCertSimB InclUpSimEx.exP InclUpSimEx.exQ InclUpSimEx.exR [(2, [12]), (3, [11])] = true ∧
    upCertSimB InclUpSimEx.exP InclUpSimEx.exQ [] [(2, [12]), (3, [11])] = false := by decide +kernel

/-- selection "upward with simulation" for a GIVEN relation `R` on the disjoint union: the model validates `R` (an
upward simulation on `unionDisjoint A B`, the operands disjoint) before it trusts a `true`; every verdict is exact on any
operands and for any `R`; when `A` is trimmed, the validation passes and `R` is transitive and reflexive on the parents
of the rules, the right verdict is returned for every fuel above the bound of the plain upward algorithm -/
theorem C01_upward_sim_exact (A B : TA) (R : Rel) :
    (∀ fuel b c, inclUpSim A B R fuel = some (b, c) → (b = true ↔ Incl A B)) ∧
    (Trimmed A → InclUpSim.Valid R A B → ∀ fuel, fuelBound A B < fuel →
      (Incl A B → ∃ c, inclUpSim A B R fuel = some (true, c)) ∧
      (¬ Incl A B → ∃ c, inclUpSim A B R fuel = some (false, c))) :=
  ⟨fun _ _ _ h => inclUpSim_iff h, fun hA hV _ hf => InclUpSim.inclUpSim_complete hV hA hf⟩

example : inclUpSim InclUpSimEx.exP InclUpSimEx.exQ InclUpSimEx.exR 20 = some (true, .closed [(2, [12]), (3, [11])]) :=
  InclUpSim.InvEx.exP_upSim
example : ∃ c, inclUpSim InclUpEx.exG InclUpEx.exH (upSimRef (unionDisjoint InclUpEx.exG InclUpEx.exH)) 20 =
    some (false, c) := Verdict.exists_cert (by decide +kernel)
example : Trimmed InclUpSimEx.exP ∧ InclUpSim.Valid InclUpSimEx.exR InclUpSimEx.exP InclUpSimEx.exQ ∧
    fuelBound InclUpSimEx.exP InclUpSimEx.exQ < 321 :=
  ⟨trimmed_of_allUsefulB (by decide +kernel), ⟨by decide +kernel, by decide +kernel, InclUpSim.preorderB_sound (by decide +kernel)⟩, by decide +kernel⟩
-- a relation that is not an upward simulation, or operands that overlap, never yield a `true`
example : inclUpSim InclUpSimEx.exP InclUpSimEx.exQ [(1, 11)] 20 = none ∧
    inclUpSim InclUpEx.exA InclUpEx.exA [] 20 = none := by decide +kernel

/-- what a verdict of the model carries: `true` comes with a validated relation and an antichain that is a certificate
modulo it, `false` with a tree accepted by `A` and rejected by `B` -/
theorem C01_upward_sim_verdict_certified (A B : TA) (R : Rel) (fuel : Nat) (b : Bool) (c : Cert)
    (h : inclUpSim A B R fuel = some (b, c)) :
    match c with
    | .closed X => b = true ∧ IsUpSim (unionDisjoint A B) (RelOf R) ∧ (∀ q, q ∈ A.states → q ∉ B.states) ∧
        InclUpSim.UpCertSim A B (InclUpSim.LeqP R) X ∧ InclUpSim.KeysIn A X ∧ NoBad A B X
    | .witness w => b = false ∧ accepts A w = true ∧ accepts B w = false := inclUpSim_cert h

example : ∃ c, inclUpSim InclUpSimEx.exP2 InclUpSimEx.exQ2 (upSimRef (unionDisjoint InclUpSimEx.exP2 InclUpSimEx.exQ2)) 20 =
    some (true, c) := Verdict.exists_cert (by decide +kernel)

/-- the pruned exploration proper (no final check involved), for a relation `R` that passes the validation and is
transitive and reflexive on the parents of the rules: the antichain of a `return true` passes the certificate check, a
`return false` at `(q, t)` has `q ∈ reach A t` and either `q` final and `t ∉ L(B)` or no state of `B` labels `t`
(`ErrOK`; on a trimmed `A` it refutes the inclusion), and the exploration ends within the bound.  So the final checks of
the model never refuse: `none` means "fuel exhausted" only -/
theorem C01_upward_sim_exploration_certified (A B : TA) (R : Rel) (hV : InclUpSim.Valid R A B) (fuel : Nat) :
    (∀ P, InclUpSim.run R A B fuel = some (.ok P) → upCertSimB A B R (pairs P) = true ∧ Incl A B) ∧
    (∀ e, InclUpSim.run R A B fuel = some (.error e) → ErrOK A B e ∧ (Trimmed A → ¬ Incl A B)) ∧
    (fuelBound A B < fuel → ∃ r, InclUpSim.run R A B fuel = some r) :=
  ⟨fun _ h => ⟨InclUpSim.run_ok_cert hV.pre.trans hV.simHyp.fin h, (InclUpSim.run_sound hV).1 _ h⟩,
    fun _ h => ⟨InclUpSim.run_error_ok hV.simHyp h, fun hA => (InclUpSim.run_sound hV).2 hA _ h⟩,
    fun h => InclUpSim.run_terminates hV.pre h⟩

example : InclUpSim.run InclUpSimEx.exR InclUpSimEx.exP InclUpSimEx.exQ 20 =
    some (.ok [⟨2, [12], .node 0 []⟩, ⟨3, [11], .node 2 [.node 0 []]⟩]) := rfl

/-- the selection "upward with simulation" as the command line runs it (`checkInclUpSim`: operands prepared by `sanitize`,
the greatest upward simulation of their disjoint union, the pruned exploration): no hypothesis is left – the validation
passes, the relation is a preorder, the first operand is trimmed.  Every verdict is exact for the ORIGINAL question
`Incl A B`, and the right verdict is returned for every fuel above the bound -/
theorem C01_upward_sim_prepared_exact (A B : TA) :
    (∀ fuel b c, checkInclUpSim A B fuel = some (b, c) → (b = true ↔ Incl A B)) ∧
    (∀ fuel, fuelBound (sanitize A B).1 (sanitize A B).2.1 < fuel →
      (Incl A B → ∃ c, checkInclUpSim A B fuel = some (true, c)) ∧
      (¬ Incl A B → ∃ c, checkInclUpSim A B fuel = some (false, c))) :=
  ⟨fun _ _ _ h => checkInclUpSim_iff h, fun _ hf => checkInclUpSim_complete A B hf⟩

-- the operands of the example overlap and the first is not trimmed
example : ∃ c, checkInclUpSim SanEx.exA SanEx.exB 20 = some (true, c) :=
  Verdict.exists_cert (sanEx_verdicts _ _ _ rfl rfl rfl).2.1
example : ∃ c, checkInclUpSim SanEx.exB SanEx.exA 20 = some (false, c) :=
  Verdict.exists_cert (sanEx_verdicts_rev _ _ _ rfl rfl rfl).2.1
example : fuelBound (sanitize SanEx.exA SanEx.exB).1 (sanitize SanEx.exA SanEx.exB).2.1 < 33 := by decide +kernel

/-- any verdict of the upward selection with a relation – whatever the relation – equals any verdict of the reference
and of the upward selection without relation -/
theorem C01_upward_sim_agrees (A B : TA) (R : Rel) (f₀ f₁ f₂ f₃ : Nat) (b₀ b₁ b₂ b₃ : Bool) (c₁ c₂ c₃ : Cert)
    (h₀ : inclM A B f₀ = some b₀) (h₁ : inclUpSim A B R f₁ = some (b₁, c₁))
    (h₂ : checkInclUpSim A B f₂ = some (b₂, c₂)) (h₃ : checkInclUp A B f₃ = some (b₃, c₃)) :
    b₁ = b₀ ∧ b₂ = b₀ ∧ b₃ = b₀ :=
  have e₀ := inclM_iff A B f₀ b₀ h₀
  ⟨Verdict.eq_of_iff (inclUpSim_iff h₁) e₀, Verdict.eq_of_iff (checkInclUpSim_iff h₂) e₀,
    Verdict.eq_of_iff (checkInclUp_iff h₃) e₀⟩

example : inclM InclUpSimEx.exP InclUpSimEx.exQ 10 = some true ∧
    (inclUpSim InclUpSimEx.exP InclUpSimEx.exQ InclUpSimEx.exR 20).map (·.1) = some true ∧
    (checkInclUpSim InclUpSimEx.exP InclUpSimEx.exQ 20).map (·.1) = some true ∧
    (checkInclUp InclUpSimEx.exP InclUpSimEx.exQ 20).map (·.1) = some true :=
  ⟨by decide +kernel, congrArg _ InclUpSim.InvEx.exP_upSim, by decide +kernel⟩

/-! ### "all selections return the same verdict", for the modelled selections -/

/-- any verdicts of the models of seven of the eight selections (the eighth, upward with a relation, is
`C01_upward_sim_agrees` above) (upward; downward non-recursive; downward recursive
without and with the cache functor; downward recursive / non-recursive with a given relation `R`) on the same pair, and
any verdict of the reference, are equal – whatever the fuels and whatever `R` -/
theorem C01_modelled_selections_agree (A B : TA) (R : Rel) (f₀ f₁ f₂ f₃ f₄ f₅ f₆ : Nat) (b₀ b₁ b₂ b₃ b₄ b₅ b₆ : Bool)
    (c₁ c₂ c₃ c₄ c₅ c₆ : Cert)
    (h₀ : inclM A B f₀ = some b₀)
    (h₁ : checkInclUp A B f₁ = some (b₁, c₁))
    (h₂ : checkInclDownNonrec A B f₂ = some (b₂, c₂))
    (h₃ : checkInclDownRec A B f₃ = some (b₃, c₃))
    (h₄ : inclDownOpt (removeUseless A) (removeUseless B) f₄ = some (b₄, c₄))
    (h₅ : inclDownSim A B R f₅ = some (b₅, c₅))
    (h₆ : inclDownNonrecSim A B R f₆ = some (b₆, c₆)) :
    b₁ = b₀ ∧ b₂ = b₀ ∧ b₃ = b₀ ∧ b₄ = b₀ ∧ b₅ = b₀ ∧ b₆ = b₀ :=
  have e₀ := inclM_iff A B f₀ b₀ h₀
  ⟨Verdict.eq_of_iff (checkInclUp_iff h₁) e₀, Verdict.eq_of_iff (checkInclDownNonrec_iff h₂) e₀,
    Verdict.eq_of_iff (checkInclDownRec_iff h₃) e₀,
    Verdict.eq_of_iff ((inclDownOpt_iff h₄).trans (incl_removeUseless A B)) e₀,
    Verdict.eq_of_iff (inclDownSim_iff h₅) e₀, Verdict.eq_of_iff (inclDownNonrecSim_iff h₆) e₀⟩

-- all seven return a verdict on the trimmed, disjoint pair `exS1`, `exS2` with the relation `{(5,6)}`
example : inclM InclDownEx.exS1 InclDownEx.exS2 10 = some true ∧
    (checkInclUp InclDownEx.exS1 InclDownEx.exS2 20).map (·.1) = some true ∧
    (checkInclDownNonrec InclDownEx.exS1 InclDownEx.exS2 10).map (·.1) = some true ∧
    (checkInclDownRec InclDownEx.exS1 InclDownEx.exS2 10).map (·.1) = some true ∧
    (inclDownOpt (removeUseless InclDownEx.exS1) (removeUseless InclDownEx.exS2) 10).map (·.1) = some true ∧
    (inclDownSim InclDownEx.exS1 InclDownEx.exS2 [(5, 6)] 10).map (·.1) = some true ∧
    (inclDownNonrecSim InclDownEx.exS1 InclDownEx.exS2 [(5, 6)] 10).map (·.1) = some true :=
  -- `inclDownOpt` on the sanitised operands is `checkInclDownRec` by definition
  ⟨exS_ref, exS_up, exS_downNonrec, exS_downRec, exS_downRec, congrArg _ exS_downSim, congrArg _ exS_downNonrecSim⟩

/-! ### "every implemented parameter selection": the dispatcher -/

/-- the `switch` of `ExplicitTreeAutCore::CheckInclusion`, as regenerated from the sources: (1) exactly the eight option
words `UP_NOSIM`, `UP_SIM`, `DOWN_NONREC_NOSIM`, `DOWN_NONREC_SIM`, `DOWN_REC_NOSIM`, `DOWN_REC_SIM`, `DOWN_REC_OPT_NOSIM`,
`DOWN_REC_OPT_SIM` have a case, no word twice; (2) every other word reaches `default`, which throws; (3) in every case
the callee matches the direction / recursion / cache bits of the word (upward ↦ `explUp`, downward non-recursive ↦
`explDownNonrec`, downward recursive ↦ `downRec` with the plain resp. the `Opt` functor); (4) a case with the simulation
bit passes the given relation and the original operands, a case without it the identity and the sanitised copies;
(5) the named option words are the bit combinations their names say -/
theorem C01_dispatch (c : Gen.Case) (hc : c ∈ Gen.explDispatch) :
    Dispatch.sameWords (Dispatch.words Gen.explDispatch) [0, 16, 2, 18, 10, 26, 14, 30] = true ∧
    (Dispatch.words Gen.explDispatch).Nodup ∧
    Gen.explDispatchDefaultThrows = true ∧
    Dispatch.treeConsistent c = true ∧ Dispatch.simConsistent c = true ∧
    (Gen.namedWords.lookup "ANTICHAINS_UP_NOSIM" = some 0 ∧
      Gen.namedWords.lookup "ANTICHAINS_UP_SIM" = some Dispatch.fSim ∧
      Gen.namedWords.lookup "ANTICHAINS_DOWN_NONREC_NOSIM" = some Dispatch.fDir ∧
      Gen.namedWords.lookup "ANTICHAINS_DOWN_NONREC_SIM" = some (Dispatch.fDir ||| Dispatch.fSim) ∧
      Gen.namedWords.lookup "ANTICHAINS_DOWN_REC_NOSIM" = some (Dispatch.fDir ||| Dispatch.fRec) ∧
      Gen.namedWords.lookup "ANTICHAINS_DOWN_REC_OPT_NOSIM" = some (Dispatch.fDir ||| Dispatch.fRec ||| Dispatch.fCache) ∧
      Gen.namedWords.lookup "ANTICHAINS_DOWN_REC_SIM" = some (Dispatch.fDir ||| Dispatch.fRec ||| Dispatch.fSim) ∧
      Gen.namedWords.lookup "ANTICHAINS_DOWN_REC_OPT_SIM" =
        some (Dispatch.fDir ||| Dispatch.fRec ||| Dispatch.fCache ||| Dispatch.fSim)) := by
  have ht := Dispatch.tree_consistent
  have hs := Dispatch.sim_consistent
  simp only [List.all_append, Bool.and_eq_true, List.all_eq_true] at ht hs
  have hn := Dispatch.named_words
  exact ⟨Dispatch.implemented_expl, Dispatch.no_duplicate_cases.1, Dispatch.default_throws.1, ht.1.1 c hc, hs.1.1.1 c hc,
    hn.1, hn.2.1, hn.2.2.1, hn.2.2.2.1, hn.2.2.2.2.1, hn.2.2.2.2.2.1, hn.2.2.2.2.2.2.1, hn.2.2.2.2.2.2.2.1⟩

example : (⟨"ANTICHAINS_DOWN_REC_OPT_SIM", 30, "downRec", "OptDownwardInclusionFunctor", "-", "false", "given"⟩ : Gen.Case) ∈
    Gen.explDispatch := by decide +kernel
-- the consistency predicates are not trivially true: a case that sanitises although the simulation bit is set, or that
-- calls the upward code for a downward word, is refused
example : Dispatch.simConsistent ⟨"X", 16, "explUp", "-", "-", "true", "given"⟩ = false ∧
    Dispatch.treeConsistent ⟨"X", 2, "explUp", "-", "-", "true", "identity"⟩ = false := by decide +kernel

/-! ### the shape of the verdicts of the other three downward verdict functions -/

/-- what a verdict of the non-recursive model and of the two `Sim` models carries (the analogue of
`C01_downward_verdict_certified`, which is about `inclDownRec`; `inclDownOpt` is `inclDownRec`): `true` comes with a set
of pairs that passed the certificate check – the downward certificate covering the final states for `inclDownNonrec`, the
certificate modulo the preorder `ordOf R A B` of a VALIDATED relation (a downward simulation of the disjoint union of
disjoint operands) for `inclDownSim` / `inclDownNonrecSim` –, `false` with a tree accepted by `A` and rejected by `B` -/
theorem C01_downward_verdicts_certified (A B : TA) (R : Rel) (fuel : Nat) (b : Bool) (c : Cert) :
    (inclDownNonrec A B fuel = some (b, c) →
      match c with
      | .closed X => b = true ∧ DownCert A B X ∧ ∀ f, f ∈ A.final → Sub X f B.final
      | .witness w => b = false ∧ accepts A w = true ∧ accepts B w = false) ∧
    ((inclDownSim A B R fuel = some (b, c) ∨ inclDownNonrecSim A B R fuel = some (b, c)) →
      isDownSimB (unionDisjoint A B) R = true ∧ InclDown.disjointB A B = true ∧
      match c with
      | .closed X => b = true ∧ downCertRB (InclDown.ordOf R A B) A B X = true
      | .witness w => b = false ∧ accepts A w = true ∧ accepts B w = false) := by
  refine ⟨fun h => ?_, fun h => ?_⟩
  · have := InclDown.finish_cert h
    cases c with
    | closed X => exact ⟨this.1, downCertB_sound this.2⟩
    | witness w => exact this
  · rcases h with h | h
    · obtain ⟨h1, h2, h3⟩ := InclDown.sim_cond h
      have := InclDown.finish_cert h3
      cases c <;> exact ⟨h1, h2, this⟩
    · obtain ⟨h1, h2, h3⟩ := InclDown.sim_cond h
      have := InclDown.finish_cert h3
      cases c <;> exact ⟨h1, h2, this⟩

example : inclDownNonrec InclDownEx.exS1 InclDownEx.exS2 10 = some (true, .closed [(1, [3, 4]), (5, [6]), (2, [9])]) ∧
    inclDownNonrecSim InclDownEx.exS1 InclDownEx.exS2 [(5, 6)] 10 = some (true, .closed [(1, [3, 4]), (2, [9])]) :=
  ⟨Verdict.eq_closed (by decide +kernel), exS_downNonrecSim⟩

/-! ### ONE theorem for "every implemented parameter selection"

The eight selections of the statement as a type, each with the model that stands for it when the operands are prepared as
the code prepares them (`sanitize`: useless states removed, both operands renumbered with one shared counter) and – for
the selections with the simulation bit – the relation is the one "computed on the disjoint union of the prepared
operands" (`upSimRef` resp. `downSimRef` of `unionDisjoint A' B'`; that `ComputeSimulation` as coded returns these is
C04, `C04_pipeline_upward` / `C04_pipeline_downward`).  `C01Sel.word` is the option word of the selection; the eight words
are exactly the `case` labels of the regenerated dispatcher (`C01_selections_are_the_dispatch_cases`). -/

/-- the eight implemented selections: direction / recursion / implication cache / simulation -/
inductive C01Sel where
  | upNoSim | upSim | downNonrecNoSim | downNonrecSim | downRecNoSim | downRecSim | downRecOptNoSim | downRecOptSim
  deriving DecidableEq, Repr

/-- all of them -/
def C01Sel.all : List C01Sel :=
  [.upNoSim, .upSim, .downNonrecNoSim, .downNonrecSim, .downRecNoSim, .downRecSim, .downRecOptNoSim, .downRecOptSim]

/-- the option word (`InclParam::GetOptions()`) of a selection -/
def C01Sel.word : C01Sel → Nat
  | .upNoSim => 0 | .upSim => 16 | .downNonrecNoSim => 2 | .downNonrecSim => 18
  | .downRecNoSim => 10 | .downRecSim => 26 | .downRecOptNoSim => 14 | .downRecOptSim => 30

/-- the model of a selection on the prepared operands (with the computed relation where the selection uses one).  The
two `Opt` selections run the model of the plain functor (`inclDownOpt` is `inclDownRec` by definition; with a relation the
`Opt` functor is modelled by `inclDownSim`, see the header of `Vata/InclDown.lean`) -/
def C01Sel.model (s : C01Sel) (A B : TA) (fuel : Nat) : Option (Bool × Cert) :=
  let A' := (sanitize A B).1
  let B' := (sanitize A B).2.1
  match s with
  | .upNoSim => checkInclUpSan A B fuel
  | .upSim => checkInclUpSim A B fuel
  | .downNonrecNoSim => inclDownNonrec A' B' fuel
  | .downNonrecSim => inclDownNonrecSim A' B' (downSimRef (unionDisjoint A' B')) fuel
  | .downRecNoSim => inclDownRec A' B' fuel
  | .downRecSim => inclDownSim A' B' (downSimRef (unionDisjoint A' B')) fuel
  | .downRecOptNoSim => inclDownOpt A' B' fuel
  | .downRecOptSim => inclDownSim A' B' (downSimRef (unionDisjoint A' B')) fuel

/-- the explicit fuel bound above which the model of a selection answers: `2·|Δ_A'|·2^|Δ_B'|` (upward, one unit per
processed pair) resp. `|Q_A'|·2^|Q_B'|` (downward, nesting depth of the calls) of the prepared operands -/
def C01Sel.bound (s : C01Sel) (A B : TA) : Nat :=
  match s with
  | .upNoSim | .upSim => fuelBound (sanitize A B).1 (sanitize A B).2.1
  | _ => InclDown.fuelBoundD (sanitize A B).1 (sanitize A B).2.1

/-- **every selection has a model that is exact and total** – the first sentence of the property as one theorem: for
each of the eight selections, every verdict of its model is the truth of `L(A) ⊆ L(B)` for the ORIGINAL operands, and for
every fuel above the explicit bound the model returns that verdict.  No hypothesis on `A`, `B` -/
theorem C01_every_selection_exact_total (s : C01Sel) (A B : TA) :
    (∀ fuel b c, s.model A B fuel = some (b, c) → (b = true ↔ Incl A B)) ∧
    (∀ fuel, s.bound A B < fuel →
      (Incl A B → ∃ c, s.model A B fuel = some (true, c)) ∧ (¬ Incl A B → ∃ c, s.model A B fuel = some (false, c))) := by
  have hd := C01_downward_prepared_exact A B _ _ _ rfl rfl rfl
  cases s with
  | upNoSim => exact C01_upward_sanitised_exact A B
  | upSim => exact C01_upward_sim_prepared_exact A B
  | downNonrecNoSim =>
    exact ⟨fun f b c h => hd.1 f b c (Or.inr (Or.inl h)),
      fun f hf => ⟨fun hi => ((hd.2 f hf).1 hi).2.1, fun hn => ((hd.2 f hf).2 hn).2.1⟩⟩
  | downNonrecSim =>
    exact ⟨fun f b c h => hd.1 f b c (Or.inr (Or.inr (Or.inr h))),
      fun f hf => ⟨fun hi => ((hd.2 f hf).1 hi).2.2.2, fun hn => ((hd.2 f hf).2 hn).2.2.2⟩⟩
  -- the `Opt` selections run the models of the plain functor
  | downRecNoSim | downRecOptNoSim =>
    exact ⟨fun f b c h => hd.1 f b c (Or.inl h),
      fun f hf => ⟨fun hi => ((hd.2 f hf).1 hi).1, fun hn => ((hd.2 f hf).2 hn).1⟩⟩
  | downRecSim | downRecOptSim =>
    exact ⟨fun f b c h => hd.1 f b c (Or.inr (Or.inr (Or.inl h))),
      fun f hf => ⟨fun hi => ((hd.2 f hf).1 hi).2.2.1, fun hn => ((hd.2 f hf).2 hn).2.2.1⟩⟩

/-- all eight models answer on the overlapping, untrimmed pair of `SanEx` – `true` one way, `false` the other
(`sanEx_verdicts`, `sanEx_verdicts_rev`; the `Opt` selections run the models of the plain functor) -/
theorem C01Sel.verdicts_on_SanEx (s : C01Sel) : (s.model SanEx.exA SanEx.exB 20).map (·.1) = some true ∧
    (s.model SanEx.exB SanEx.exA 20).map (·.1) = some false := by
  have t := sanEx_verdicts _ _ _ rfl rfl rfl
  have f := sanEx_verdicts_rev _ _ _ rfl rfl rfl
  cases s with
  | upNoSim => exact ⟨t.1, f.1⟩
  | upSim => exact ⟨t.2.1, f.2.1⟩
  | downNonrecNoSim => exact ⟨t.2.2.1, f.2.2.1⟩
  | downNonrecSim => exact ⟨t.2.2.2.1, f.2.2.2.1⟩
  | downRecNoSim | downRecOptNoSim => exact ⟨t.2.2.2.2.1, f.2.2.2.2.1⟩
  | downRecSim | downRecOptSim => exact ⟨t.2.2.2.2.2, f.2.2.2.2.2⟩

example : ∀ s : C01Sel, (∃ c, s.model SanEx.exA SanEx.exB 20 = some (true, c)) ∧
    (∃ c, s.model SanEx.exB SanEx.exA 20 = some (false, c)) :=
  fun s => ⟨Verdict.exists_cert (C01Sel.verdicts_on_SanEx s).1, Verdict.exists_cert (C01Sel.verdicts_on_SanEx s).2⟩
example : ∀ s : C01Sel, s.bound SanEx.exA SanEx.exB < 33 := by intro s; cases s <;> decide

/-- **"and therefore all selections return the same verdict on the same pair"**: any verdict of the model of any
selection equals any verdict of the model of any other selection and any verdict of the reference, whatever the fuels -/
theorem C01_every_selection_same_verdict (s s' : C01Sel) (A B : TA) (f f' f₀ : Nat) (b b' b₀ : Bool) (c c' : Cert)
    (h : s.model A B f = some (b, c)) (h' : s'.model A B f' = some (b', c')) (h₀ : inclM A B f₀ = some b₀) :
    b = b' ∧ b = b₀ :=
  have e := (C01_every_selection_exact_total s A B).1 f b c h
  ⟨Verdict.eq_of_iff e ((C01_every_selection_exact_total s' A B).1 f' b' c' h'),
    Verdict.eq_of_iff e (inclM_iff A B f₀ b₀ h₀)⟩

example : (C01Sel.upSim.model SanEx.exA SanEx.exB 20).map (·.1) = some true ∧
    (C01Sel.downNonrecSim.model SanEx.exA SanEx.exB 20).map (·.1) = some true ∧ inclM SanEx.exA SanEx.exB 20 = some true :=
  ⟨(C01Sel.verdicts_on_SanEx _).1, (C01Sel.verdicts_on_SanEx _).1, by decide +kernel⟩

/-- the eight selections are exactly the implemented cases: their option words are the `case` labels of the regenerated
`switch` (no other word has a case, every other word throws – `C01_dispatch`), pairwise different, and each is the word its
name says (direction / recursion / cache / simulation bits) -/
theorem C01_selections_are_the_dispatch_cases :
    Dispatch.sameWords (Dispatch.words Gen.explDispatch) (C01Sel.all.map C01Sel.word) = true ∧
    (C01Sel.all.map C01Sel.word).Nodup ∧ (∀ s : C01Sel, s ∈ C01Sel.all) ∧
    (∀ s : C01Sel, Dispatch.has s.word Dispatch.fDir = decide (s ≠ .upNoSim ∧ s ≠ .upSim) ∧
      Dispatch.has s.word Dispatch.fSim = decide (s = .upSim ∨ s = .downNonrecSim ∨ s = .downRecSim ∨ s = .downRecOptSim) ∧
      Dispatch.has s.word Dispatch.fRec =
        decide (s = .downRecNoSim ∨ s = .downRecSim ∨ s = .downRecOptNoSim ∨ s = .downRecOptSim) ∧
      Dispatch.has s.word Dispatch.fCache = decide (s = .downRecOptNoSim ∨ s = .downRecOptSim)) :=
  by
  -- the flag masks are looked up by name in the regenerated table; `flags_are_bits` has evaluated them
  have hf := Dispatch.flags_are_bits
  simp only [List.cons.injEq] at hf
  obtain ⟨-, hDir, hCache, hRec, hSim, -⟩ := hf
  refine ⟨Dispatch.implemented_expl, by decide +kernel, fun s => by cases s <;> decide, fun s => ?_⟩
  rw [hDir, hSim, hRec, hCache]
  cases s <;> decide

example : C01Sel.all.map C01Sel.word = [0, 16, 2, 18, 10, 26, 14, 30] := rfl

/-!
## closed since the last refresh of this file

* "No totality theorem for the reference deciders `inclM` / `inclRef`": `C01_reference_total`,
  `C01_reference_total_decides` (`Vata/Properties/RefTotal.lean`; bound `fuelBoundM [A, B] ≤ 2^(|Q_A|+|Q_B|)`, and
  `driver_two_operand_verdicts`: the driver's fuel suffices for operands of at most 9 states each).
* "the analogous shape statement for the other three verdict functions … is not spelled out":
  `C01_downward_verdicts_certified`.
* "The address-keyed caches … are replaced by value comparison" – the classes behind that replacement now have models of
  their own, checked against the real classes by histories: `Util::Cache` + `CachedBinaryOp` (`Vata/CacheModel.lean`;
  `Util_Cache_interning`: two handles are pointer-equal iff the interned sets are equal; `Util_Cache_memo_sound`: a memoised
  `lte` answers the function value whatever was memoised before and whichever addresses were reused, PROVIDED the deleter
  purges both key positions – which is what the deleter lambdas of the three sites denote now,
  `Vata.CacheWiring.cache_wiring_is_lib`, re-checked on every run), the macro-state container `OrdVector`
  (`Util_OrdVector_history`, `Util_OrdVector_eq`: `==` is equality of the denoted sets), the antichain containers
  (`Util_Antichain_offer_history`, `Util_Antichain_any_history_2C`) and the bottom-up index of the upward algorithm
  (`Util_Cache_bu_index`).  What is still open about them is the last item below.
* "That the relation the C++ `ComputeSimulation` returns … is C04": C04 now has the route as coded end to end
  (`C04_pipeline_downward`, `C04_pipeline_upward` in `Vata/Properties/C04_Pipeline.lean`).
* The first sentence of the property as ONE statement over the eight selections: `C01_every_selection_exact_total`,
  `C01_every_selection_same_verdict`, `C01_selections_are_the_dispatch_cases`.
* How a user of the binary reaches the option words: `Vata/Properties/Util_CliArgs.lean` (`Util_CliArgs_incl_word_spec`:
  the word is the flag-wise reading of the `-o` options; `Util_CliArgs_every_selection_reachable_partial`: every case of the
  explicit dispatcher is reachable by some option string; `Util_CliArgs_unimplemented`: every other accepted combination
  reaches `default`, which throws).

## not yet proved

* **Upward with a simulation outside its preconditions.**  Every verdict of `inclUpSim` is exact unconditionally
  (`C01_upward_sim_exact`); a verdict is only guaranteed when the given relation passes the validation (an upward
  simulation of the disjoint union, operands with disjoint states), is transitive and reflexive on the parents of the
  rules, and the smaller operand is trimmed.  The C++ library entry point passes the caller's operands and relation
  through unchecked (`C01_dispatch`, item 4) – on operands that share a state number the pruned exploration can end with
  `return true` although the inclusion is false (`InclUpSimEx`, the pair `exDeep`/`exA`); the model then refuses.  On the
  prepared operands with the computed relation all preconditions hold (`C01_upward_sim_prepared_exact`).  That the
  relation the C++ `ComputeSimulation` returns for `TA_UPWARD` is `upSimRef` of the union is C04 (`C04_pipeline_upward`: the
  route as coded returns `upSimRef` on an automaton without useless states – which the union of the prepared operands is).
  Hash-container iteration orders are replaced by list order: which of several simulation-equivalent states represents
  them in a minimised macro-state may differ from the C++ run (the verdict does not depend on it).
* **"With or without the implication cache"**: the model of the `Opt` functor is the model of the plain functor by
  definition (`C01_downward_cache_same_computation`, first component is `rfl`).  That `OptDownwardInclusionFunctor`
  never fills its cache `incl_` is an argument about the C++ source (header of `Vata/InclDown.lean`), not a theorem.
* **The downward `Sim` selections outside their preconditions.**  Every verdict is exact unconditionally
  (`C01_downward_sim_exact`), but a verdict is only guaranteed when the given relation passes the validation (a downward
  simulation on the disjoint union, operands with disjoint states), the rule children of the smaller operand are
  productive and – for the non-recursive variant – the relation is transitive.  The C++ passes the caller's relation and
  the caller's operands through unchecked (`C01_dispatch`, item 4); on the prepared operands with the computed relation
  all preconditions hold (`C01_downward_prepared_exact`).  That the relation the C++ `ComputeSimulation` returns is
  `downSimRef` of the union is C04 (`C04_pipeline_downward`, for the route as coded with the model of the engine).
* **Link between the dispatch table and the models.**  `C01_dispatch` / `C01_selections_are_the_dispatch_cases` are about
  the table regenerated from the sources; which Lean model stands for which callee of the table (`C01Sel.model`) is the
  reading given in the header, not a theorem.  The same holds at the other end: `Util_CliArgs_*` is about a model of
  `cli/parse_args.cc` / `cli/operations.hh`; with `sim=yes` the command line calls `ComputeSimulation` before the dispatcher
  (`perform`, `Util_CliArgs_perform_examples`), the library entry point takes whatever relation the caller passes.
* The non-recursive algorithm's **call emulator** (explicit stack of frames, `EXPAND_CALL` / `EXPAND_RETURN` macros) is
  modelled by recursion (`InclDown.expandN`); hash-container iteration orders are replaced by list order.
* **Containers and caches inside the algorithms.**  The models of the algorithms keep their macro-states, antichains and
  work-lists in lists of values and compare by value; the real classes (`Cache`, `CachedBinaryOp`, `OrdVector`,
  `Antichain2Cv2`, `Antichain1C`, `SequentialAntichain1C`) have separate models with history theorems (`Util_Cache_*`,
  `Util_OrdVector_*`, `Util_Antichain_*`, see the "closed" list).  No theorem connects the two layers: "the work-list of
  `InclUp.run` IS a history of `Antichain2Cv2` operations" is not stated, and that `lte` is only ever asked about live
  macro-states (the hypothesis under which `Util_Cache_memo_sound` speaks) is the call discipline of the algorithms, read
  off the sources.  Destruction order of cache and antichains (`tree_incl_down.hh`) is outside the cache model.
  For the upward algorithm WITHOUT simulation the two layers are now connected: `C01_upward_caches_transparent`
  (`Vata/Properties/C01_Caches.lean`: the algorithm with `biggerTypeCache`, `lteCache`, `evalTransitionsCache` over a heap with
  dying objects and an arbitrary allocator equals `inclUp`); the other selections remain open in this sense.
* No lower bound on the fuel the reference deciders need is proved.  The fuel bounds of the models (`fuelBound`,
  `fuelBoundD`) and of the references (`fuelBoundM`) are exponential worst-case bounds, not tight.
-/
end Vata.Props
