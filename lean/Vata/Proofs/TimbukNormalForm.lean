import Vata.Proofs.TimbukNorm
import Vata.Proofs.Timbuk
/-!
# Normal forms of descriptions: idempotence, exact round trip, permutations, parse results (property C13)

What `parseC (serializeC d)` returns is `d.normalize`, and the serializer is blind to order, duplicates and to `anonymous`
for the empty name (`serializeC d.normalize = serializeC d`); hence `serializeC ∘ parseC ∘ serializeC = serializeC`.
EVERY result of the parser (any text) is in `std::set` order – it is the description of a reading, whose sections are
`norm`s (`Reading.desc_sorted`) – so layouts of two
descriptions with the same name and the same SETS in each section parse alike.
-/
namespace Vata.Timbuk

theorem serTokens_eq_normalize (d : Desc) : serTokens d = d.normalize := rfl

theorem roundTrip_eq_normalize (d : Desc) : roundTrip d = d.normalize := by
  simp only [roundTrip, Desc.normalize, norm_idem ltSym_strictTotal, norm_idem ltStr_strictTotal,
    norm_idem ltTrans_strictTotal]

theorem normalize_name_nonempty (d : Desc) : d.normalize.name.isEmpty = false := serTokens_name_nonempty d

theorem normalize_idem (d : Desc) : d.normalize.normalize = d.normalize := by
  have hn := normalize_name_nonempty d
  show Desc.mk _ _ _ _ _ = _
  simp only [hn]
  simp only [Desc.normalize, norm_idem ltSym_strictTotal, norm_idem ltStr_strictTotal,
    norm_idem ltTrans_strictTotal]
  simp

theorem serializeC_normalize (d : Desc) : serializeC d.normalize = serializeC d := by
  have h1 : lineOps d.normalize = lineOps d := by
    simp only [lineOps, Desc.normalize, norm_idem ltSym_strictTotal]
  have h2 : lineAut d.normalize = lineAut d := by
    have hn := normalize_name_nonempty d
    simp only [lineAut, hn]
    rfl
  have h3 : lineStates d.normalize = lineStates d := by
    simp only [lineStates, Desc.normalize, norm_idem ltStr_strictTotal]
  have h4 : lineFinal d.normalize = lineFinal d := by
    simp only [lineFinal, Desc.normalize, norm_idem ltStr_strictTotal]
  have h5 : norm ltTrans d.normalize.trans = norm ltTrans d.trans := norm_idem ltTrans_strictTotal _
  simp only [serializeC, h1, h2, h3, h4, h5]

theorem serializeC_congr {d d' : Desc} (hname : d.name = d'.name) (hsym : ∀ x, x ∈ d.symbols ↔ x ∈ d'.symbols)
    (hst : ∀ x, x ∈ d.states ↔ x ∈ d'.states) (hfin : ∀ x, x ∈ d.final ↔ x ∈ d'.final)
    (htr : ∀ x, x ∈ d.trans ↔ x ∈ d'.trans) : serializeC d = serializeC d' := by
  simp only [serializeC, lineOps, lineAut, lineStates, lineFinal, hname, norm_congr ltSym_strictTotal hsym,
    norm_congr ltStr_strictTotal hst, norm_congr ltStr_strictTotal hfin, norm_congr ltTrans_strictTotal htr]

theorem serialize_parse_serializeC (d : Desc) (h : WF d) :
    ∃ d', parseC (serializeC d) = .ok d' ∧ serializeC d' = serializeC d :=
  ⟨roundTrip d, parseC_serializeC d h, by rw [roundTrip_eq_normalize, serializeC_normalize]⟩

theorem Desc.sortedB_iff (d : Desc) : d.sortedB = true ↔
    Sorted ltSym d.symbols ∧ Sorted ltStr d.states ∧ Sorted ltStr d.final ∧ Sorted ltTrans d.trans := by
  simp only [Desc.sortedB, Bool.and_eq_true, Timbuk.sortedB_iff ltSym_strictTotal,
    Timbuk.sortedB_iff ltStr_strictTotal, Timbuk.sortedB_iff ltTrans_strictTotal, and_assoc]

theorem normalize_of_sorted {d : Desc} (hs : d.sortedB = true) (hn : d.name ≠ []) : d.normalize = d := by
  obtain ⟨h1, h2, h3, h4⟩ := (Desc.sortedB_iff d).mp hs
  have : d.name.isEmpty = false := by simpa using hn
  simp only [Desc.normalize, this, norm_of_sorted ltSym_strictTotal h1, norm_of_sorted ltStr_strictTotal h2,
    norm_of_sorted ltStr_strictTotal h3, norm_of_sorted ltTrans_strictTotal h4]
  simp

theorem normalize_sorted (d : Desc) : d.normalize.sortedB = true :=
  (Desc.sortedB_iff _).mpr ⟨norm_sorted ltSym_strictTotal _, norm_sorted ltStr_strictTotal _,
    norm_sorted ltStr_strictTotal _, norm_sorted ltTrans_strictTotal _⟩

theorem sorted_of_normalize_eq {d : Desc} (h : d.normalize = d) : d.sortedB = true ∧ d.name ≠ [] := by
  refine ⟨by rw [← h]; exact normalize_sorted d, ?_⟩
  have := normalize_name_nonempty d
  rw [h] at this
  simpa using this

theorem Reading.desc_sorted (R : Reading) : R.desc.sortedB = true :=
  (Desc.sortedB_iff _).mpr ⟨norm_sorted ltSym_strictTotal _, norm_sorted ltStr_strictTotal _,
    norm_sorted ltStr_strictTotal _, norm_sorted ltTrans_strictTotal _⟩

/-- **every description that `parse_timbuk` returns is in `std::set` order**, whatever the text -/
theorem parseC_sorted {s : Str} {d : Desc} (h : parseC s = .ok d) : d.sortedB = true := by
  obtain ⟨R, _, rfl⟩ := (parseC_ok_iff_reads s d).mp h
  exact R.desc_sorted

structure Desc.SameSets (d d' : Desc) : Prop where
  name : d.name = d'.name
  symbols : ∀ x, x ∈ d.symbols ↔ x ∈ d'.symbols
  states : ∀ x, x ∈ d.states ↔ x ∈ d'.states
  final : ∀ x, x ∈ d.final ↔ x ∈ d'.final
  trans : ∀ x, x ∈ d.trans ↔ x ∈ d'.trans

structure Desc.PermOf (d d' : Desc) : Prop where
  name : d.name = d'.name
  symbols : d.symbols.Perm d'.symbols
  states : d.states.Perm d'.states
  final : d.final.Perm d'.final
  trans : d.trans.Perm d'.trans

theorem Desc.PermOf.sameSets {d d' : Desc} (h : d.PermOf d') : d.SameSets d' :=
  ⟨h.name, fun _ => h.symbols.mem_iff, fun _ => h.states.mem_iff, fun _ => h.final.mem_iff, fun _ => h.trans.mem_iff⟩

theorem sameSet_of_sameSetB {α : Type} [DecidableEq α] {l l' : List α} (h : sameSetB l l' = true) :
    ∀ x, x ∈ l ↔ x ∈ l' := by
  simp only [sameSetB, Bool.and_eq_true, List.all_eq_true, List.contains_eq_mem, decide_eq_true_eq] at h
  exact fun x => ⟨h.1 x, h.2 x⟩

theorem Desc.sameSets_of_sameSetsB {d d' : Desc} (h : d.sameSetsB d' = true) : d.SameSets d' := by
  simp only [Desc.sameSetsB, Bool.and_eq_true, decide_eq_true_eq] at h
  obtain ⟨⟨⟨⟨h1, h2⟩, h3⟩, h4⟩, h5⟩ := h
  exact ⟨h1, sameSet_of_sameSetB h2, sameSet_of_sameSetB h3, sameSet_of_sameSetB h4, sameSet_of_sameSetB h5⟩

theorem Desc.SameSets.wf {d d' : Desc} (h : d.SameSets d') (hw : WF d) : WF d' where
  name := h.name ▸ hw.name
  symbols := fun p hp => hw.symbols p ((h.symbols p).mpr hp)
  states := fun p hp => hw.states p ((h.states p).mpr hp)
  final := fun p hp => hw.final p ((h.final p).mpr hp)
  trans := fun p hp => hw.trans p ((h.trans p).mpr hp)

theorem Layout.result_congr {d d' : Desc} (h : d.SameSets d') {F F' : Layout}
    (hk : ∀ k, k ∈ F.kinds ↔ k ∈ F'.kinds) : F.result d = F'.result d' := by
  simp only [Layout.result, hk, h.name, norm_congr ltSym_strictTotal h.symbols, norm_congr ltStr_strictTotal h.states,
    norm_congr ltStr_strictTotal h.final, norm_congr ltTrans_strictTotal h.trans]

theorem parseC_layout_sameSet {d d' : Desc} (hw : WF d) (h : d.SameSets d') {F F' : Layout} (hF : F.Ok d)
    (hF' : F'.Ok d') (hk : ∀ k, k ∈ F.kinds ↔ k ∈ F'.kinds) : parseC F.text = parseC F'.text := by
  rw [parseC_layout d hw F hF, parseC_layout d' (h.wf hw) F' hF', Layout.result_congr h hk]

theorem secWords_trans_irrelevant (d : Desc) (ts : List Trans) (k : HKind) :
    secWords { d with trans := ts } k = secWords d k := by
  cases k <;> rfl

theorem HLine.ok_trans_irrelevant {l : HLine} {d : Desc} (h : l.Ok d) (ts : List Trans) :
    l.Ok { d with trans := ts } :=
  ⟨h.pre, h.post, h.gaps, by rw [secWords_trans_irrelevant]; exact h.words⟩

def Layout.withTls (F : Layout) (tls : List (List Str × TLine)) : Layout := { F with tls := tls }

theorem Layout.withTls_ok {F : Layout} {d : Desc} (hF : F.Ok d) {tls : List (List Str × TLine)}
    (htls : ∀ p ∈ tls, (∀ b ∈ p.1, Blank b) ∧ p.2.Ok) :
    (F.withTls tls).Ok { d with trans := tls.map (·.2.trans) } :=
  ⟨fun p hp => ⟨(hF.hdr p hp).1, HLine.ok_trans_irrelevant (hF.hdr p hp).2 _⟩, hF.nodup, hF.trBlanks, hF.trPre,
    hF.trPost, htls, hF.endBlanks, rfl⟩

/-- other transition lines that denote the same SET of transitions (any order, any multiplicity, any spelling) give
a text with the same parse result -/
theorem parseC_withTls {d : Desc} (hw : WF d) {F : Layout} (hF : F.Ok d) {tls : List (List Str × TLine)}
    (htls : ∀ p ∈ tls, (∀ b ∈ p.1, Blank b) ∧ p.2.Ok)
    (hset : ∀ t, t ∈ tls.map (·.2.trans) ↔ t ∈ F.tls.map (·.2.trans)) :
    parseC (F.withTls tls).text = parseC F.text := by
  have hs : d.SameSets { d with trans := tls.map (·.2.trans) } :=
    ⟨rfl, fun _ => Iff.rfl, fun _ => Iff.rfl, fun _ => Iff.rfl, fun t => by rw [← hF.trans]; exact (hset t).symm⟩
  exact (parseC_layout_sameSet hw hs hF (Layout.withTls_ok hF htls) (fun _ => Iff.rfl)).symm

def Layout.withHdr (F : Layout) (hdr : List (List Str × HLine)) : Layout := { F with hdr := hdr }

def Desc.withSections (d : Desc) (syms : List (Str × Int)) (sts fin : List Str) : Desc :=
  { d with symbols := syms, states := sts, final := fin }

/-- other header lines – the same sections in any order, with any white space – whose `Ops` / `States` / `Final States`
words are taken from lists `syms`, `sts`, `fin` with the same SETS as the sections of `d` (any order, any multiplicity)
give a text with the same parse result -/
theorem parseC_withHdr {d : Desc} (hw : WF d) {F : Layout} (hF : F.Ok d) {syms : List (Str × Int)} {sts fin : List Str}
    (h1 : ∀ x, x ∈ syms ↔ x ∈ d.symbols) (h2 : ∀ x, x ∈ sts ↔ x ∈ d.states) (h3 : ∀ x, x ∈ fin ↔ x ∈ d.final)
    {hdr : List (List Str × HLine)}
    (hok : ∀ p ∈ hdr, (∀ b ∈ p.1, Blank b) ∧ p.2.Ok (d.withSections syms sts fin))
    (hnd : (hdr.map (·.2.kind)).Nodup) (hk : ∀ k, k ∈ hdr.map (·.2.kind) ↔ k ∈ F.kinds) :
    parseC (F.withHdr hdr).text = parseC F.text := by
  have hs : d.SameSets (d.withSections syms sts fin) :=
    ⟨rfl, fun x => (h1 x).symm, fun x => (h2 x).symm, fun x => (h3 x).symm, fun _ => Iff.rfl⟩
  have hF' : (F.withHdr hdr).Ok (d.withSections syms sts fin) :=
    ⟨hok, hnd, hF.trBlanks, hF.trPre, hF.trPost, hF.tls, hF.endBlanks, hF.trans⟩
  exact (parseC_layout_sameSet hw hs hF hF' (fun k => (hk k).symm)).symm

end Vata.Timbuk

namespace Vata

theorem Timbuk.ofS_toS (d : Desc) : ofS d.toS = d := by
  cases d
  simp [ofS, Desc.toS, Function.comp_def]

theorem Timbuk.toS_ofS (d : AutDesc) : (ofS d).toS = d := by
  cases d
  simp [ofS, Desc.toS, Function.comp_def]

end Vata
