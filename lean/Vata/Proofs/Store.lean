import Vata.Store
import Vata.Proofs.AssocList
/-!
# C12 – the three-level rule store refines a pair of sets (proofs for `Vata/Store.lean`)

The representation invariant `Inv` (unique keys at both map levels, no empty cluster, no empty tuple set, no duplicate
tuple) is preserved by every operation.  Under it every view of the store (`iterate`, `down`, `acceptTrans`, `contains`,
`usedStates`, …) is duplicate-free and agrees with the pair of sets `specRun ops`, for every operation list `ops`.
-/
namespace Vata.Store

def KeysNodup {β : Type} (l : List (Nat × β)) : Prop := (l.map Prod.fst).Nodup

theorem keysNodup_nil {β : Type} : KeysNodup ([] : List (Nat × β)) := List.nodup_nil

theorem keysNodup_cons {β : Type} {k : Nat} {v : β} {l : List (Nat × β)} :
    KeysNodup ((k, v) :: l) ↔ (∀ v', (k, v') ∉ l) ∧ KeysNodup l := by
  simp only [KeysNodup, List.map_cons, List.nodup_cons, List.mem_map, not_exists, not_and]
  constructor
  · rintro ⟨h1, h2⟩
    exact ⟨fun v' hm => h1 (k, v') hm rfl, h2⟩
  · rintro ⟨h1, h2⟩
    refine ⟨?_, h2⟩
    rintro ⟨k', v'⟩ hm e
    simp only at e
    subst e
    exact h1 v' hm

theorem lookup_cons' {β : Type} (a k : Nat) (b : β) (l : List (Nat × β)) :
    List.lookup a ((k, b) :: l) = if a = k then some b else List.lookup a l :=
  (lookup_cons_ite a k b l).trans (ite_congr (propext eq_comm) (fun _ => rfl) fun _ => rfl)

theorem mem_iff_lookup {β : Type} {l : List (Nat × β)} (hnd : KeysNodup l) {k : Nat} {v : β} :
    (k, v) ∈ l ↔ l.lookup k = some v := ⟨lookup_of_mem hnd, mem_of_lookup⟩

theorem upsert_upsert {β : Type} (k : Nat) (g1 g2 : Option β → β) (l : List (Nat × β)) :
    upsert k g2 (upsert k g1 l) = upsert k (fun o => g2 (some (g1 o))) l := by
  induction l with
  | nil => simp [upsert]
  | cons kv l ih =>
    obtain ⟨k0, v0⟩ := kv
    by_cases e : k0 = k
    · simp only [upsert, if_pos e]
    · simp only [upsert, if_neg e, ih]

theorem mem_insTuple {t t' : List Nat} {ts : TupleSet} : t' ∈ insTuple t ts ↔ t' ∈ ts ∨ t' = t := mem_insNew
theorem nodup_insTuple (t : List Nat) {ts : TupleSet} (h : ts.Nodup) : (insTuple t ts).Nodup := nodup_insNew h
theorem insTuple_ne_nil (t : List Nat) (ts : TupleSet) : insTuple t ts ≠ [] := by
  intro h
  have : t ∈ insTuple t ts := mem_insTuple.mpr (Or.inr rfl)
  rw [h] at this
  simp at this

theorem mem_insN {x y : Nat} {l : List Nat} : y ∈ insN x l ↔ y ∈ l ∨ y = x := mem_insNew
theorem nodup_insN (x : Nat) {l : List Nat} (h : l.Nodup) : (insN x l).Nodup := nodup_insNew h

/-- the store's update-or-create is `alter` on keys `Nat` -/
theorem upsert_eq_alter {β : Type} (k : Nat) (g : Option β → β) (l : List (Nat × β)) : upsert k g l = alter k g l := by
  induction l with
  | nil => rfl
  | cons e l ih => obtain ⟨k', v⟩ := e; rw [upsert, alter, ih]

theorem lookup_upsert {β : Type} (k k' : Nat) (g : Option β → β) (l : List (Nat × β)) :
    (upsert k g l).lookup k' = if k' = k then some (g (l.lookup k)) else l.lookup k' :=
  upsert_eq_alter k g l ▸ lookup_alter k k' g l

theorem keys_upsert {β : Type} (k : Nat) (g : Option β → β) (l : List (Nat × β)) :
    (upsert k g l).map Prod.fst = insN k (l.map Prod.fst) :=
  upsert_eq_alter k g l ▸ keys_alter k g l

theorem forall_upsert {β : Type} {P : β → Prop} (k : Nat) (g : Option β → β) {l : List (Nat × β)}
    (h0 : P (g none)) (h1 : ∀ v, P v → P (g (some v))) (hl : ∀ kv, kv ∈ l → P kv.2) :
    ∀ kv, kv ∈ upsert k g l → P kv.2 :=
  upsert_eq_alter k g l ▸ forall_alter k g h0 h1 hl

theorem map_upsert {β γ : Type} (h : β → γ) (k : Nat) (g : Option β → β) (g' : Option γ → γ) (l : List (Nat × β))
    (h0 : h (g none) = g' none) (h1 : ∀ v, (k, v) ∈ l → h (g (some v)) = g' (some (h v))) :
    (upsert k g l).map (fun kv => (kv.1, h kv.2)) = upsert k g' (l.map (fun kv => (kv.1, h kv.2))) := by
  induction l with
  | nil => simp only [upsert, List.map_cons, List.map_nil, h0]
  | cons kv l ih =>
    obtain ⟨k0, v0⟩ := kv
    simp only [upsert, List.map_cons]
    by_cases e : k0 = k
    · subst e
      simp only [if_true, List.map_cons]
      rw [h1 v0 List.mem_cons_self]
    · simp only [e, if_false, List.map_cons]
      rw [ih fun v hv => h1 v (List.mem_cons_of_mem _ hv)]

theorem count_flatMap_upsert {β : Type} (x : Nat) (h : β → List Nat) (k : Nat) (g : Option β → β)
    (l : List (Nat × β)) (d : Nat)
    (hg : List.count x (h (g (l.lookup k))) = (match l.lookup k with | none => 0 | some v => List.count x (h v)) + d) :
    List.count x ((upsert k g l).flatMap (fun kv => h kv.2)) = List.count x (l.flatMap (fun kv => h kv.2)) + d := by
  induction l with
  | nil => simpa [upsert] using hg
  | cons kv l ih =>
    obtain ⟨k0, v0⟩ := kv
    simp only [upsert]
    by_cases e : k0 = k
    · subst e
      simp only [lookup_cons_ite, if_true] at hg
      simp only [if_true, List.flatMap_cons, List.count_append, hg]
      omega
    · simp only [lookup_cons_ite, e, if_false] at hg
      simp only [e, if_false, List.flatMap_cons, List.count_append, ih hg]
      omega

theorem count_insN (x p : Nat) (ps : List Nat) :
    List.count x (insN p ps) = List.count x ps + (if ps.contains p then 0 else if x = p then 1 else 0) := by
  unfold insN
  split
  · rfl
  · by_cases e : x = p
    · subst e; simp [List.count_append]
    · simp [List.count_append, e, Ne.symm e]

theorem mem_foldl_insN {x : Nat} (l init : List Nat) :
    x ∈ l.foldl (fun acc q => insN q acc) init ↔ x ∈ init ∨ x ∈ l := mem_foldl_insNew l init

theorem nodup_foldl_insN (l : List Nat) {init : List Nat} (h : init.Nodup) :
    (l.foldl (fun acc q => insN q acc) init).Nodup := nodup_foldl_insNew l h

theorem keysNodup_upsert {β : Type} (k : Nat) (g : Option β → β) {l : List (Nat × β)} (hnd : KeysNodup l) :
    KeysNodup (upsert k g l) := by
  rw [KeysNodup, keys_upsert]
  exact nodup_insN k hnd

theorem upsert_ne_nil {β : Type} (k : Nat) (g : Option β → β) (l : List (Nat × β)) : upsert k g l ≠ [] := by
  cases l with
  | nil => simp [upsert]
  | cons kv l =>
    obtain ⟨k0, v0⟩ := kv
    simp only [upsert]
    split <;> simp

structure ClusterInv (c : Cluster) : Prop where
  keys : KeysNodup c
  nonempty : c ≠ []
  tuples : ∀ ft, ft ∈ c → ft.2 ≠ [] ∧ ft.2.Nodup

structure Inv (s : Store) : Prop where
  keys : KeysNodup s.clusters
  clusters : ∀ qc, qc ∈ s.clusters → ClusterInv qc.2
  final : s.final.Nodup

def NoEmptyC (c : Cluster) : Prop := ∀ ft, ft ∈ c → ft.2 ≠ []

def NoEmpty (s : Store) : Prop := ∀ qc, qc ∈ s.clusters → qc.2 ≠ [] ∧ NoEmptyC qc.2

theorem noEmpty_of_inv {s : Store} (h : Inv s) : NoEmpty s :=
  fun qc hqc => ⟨(h.clusters qc hqc).nonempty, fun ft hft => ((h.clusters qc hqc).tuples ft hft).1⟩

theorem inv_empty : Inv empty := ⟨keysNodup_nil, by intro qc h; simp [empty] at h, List.nodup_nil⟩

theorem addToCluster_inv (f : Nat) (t : List Nat) {c : Cluster} (hk : KeysNodup c)
    (ht : ∀ ft, ft ∈ c → ft.2 ≠ [] ∧ ft.2.Nodup) : ClusterInv (addToCluster f t c) := by
  refine ⟨keysNodup_upsert _ _ hk, upsert_ne_nil _ _ _, ?_⟩
  apply forall_upsert (P := fun ts : TupleSet => ts ≠ [] ∧ ts.Nodup)
  · exact ⟨insTuple_ne_nil _ _, nodup_insTuple _ List.nodup_nil⟩
  · intro ts hts
    exact ⟨insTuple_ne_nil _ _, nodup_insTuple _ hts.2⟩
  · exact ht

theorem inv_addTransition {s : Store} (h : Inv s) (r : Rule) : Inv (addTransition s r) := by
  refine ⟨keysNodup_upsert _ _ h.keys, ?_, h.final⟩
  apply forall_upsert (P := ClusterInv)
  · exact addToCluster_inv _ _ keysNodup_nil (by intro ft hft; simp at hft)
  · intro c hc
    exact addToCluster_inv _ _ hc.keys hc.tuples
  · exact h.clusters

theorem inv_step {s : Store} (h : Inv s) (op : Op) : Inv (step s op) := by
  cases op with
  | add r => exact inv_addTransition h r
  | setFinal q => exact ⟨h.keys, h.clusters, nodup_insN q h.final⟩
  | setFinals qs => exact ⟨h.keys, h.clusters, nodup_foldl_insN qs h.final⟩
  | eraseFinal => exact ⟨h.keys, h.clusters, List.nodup_nil⟩
  | clear => exact inv_empty

theorem inv_foldl {s : Store} (h : Inv s) (ops : List Op) : Inv (ops.foldl step s) :=
  List.foldlRecOn ops step h (fun _ hs op _ => inv_step hs op)

/-! ### lookups with default (what `uniqueCluster` / `uniqueTuplePtrSet` start from) -/

def clusterOf (s : Store) (q : Nat) : Cluster := (s.clusters.lookup q).getD []
def tuplesOf (c : Cluster) (f : Nat) : TupleSet := (c.lookup f).getD []

theorem contains_eq (s : Store) (r : Rule) :
    contains s r = (tuplesOf (clusterOf s r.parent) r.sym).contains r.kids := by
  unfold contains clusterOf tuplesOf
  cases s.clusters.lookup r.parent with
  | none => simp
  | some c =>
    simp only [Option.getD_some]
    cases c.lookup r.sym with
    | none => simp
    | some ts => simp

theorem tuplesOf_addToCluster (f f' : Nat) (t : List Nat) (c : Cluster) :
    tuplesOf (addToCluster f t c) f' = if f' = f then insTuple t (tuplesOf c f) else tuplesOf c f' := by
  unfold tuplesOf addToCluster
  rw [lookup_upsert]
  split <;> simp

theorem clusterOf_addTransition (s : Store) (r : Rule) (q : Nat) :
    clusterOf (addTransition s r) q =
      if q = r.parent then addToCluster r.sym r.kids (clusterOf s r.parent) else clusterOf s q := by
  unfold clusterOf addTransition addToMap
  simp only [lookup_upsert]
  split <;> simp

theorem contains_addTransition (s : Store) (r r' : Rule) :
    contains (addTransition s r) r' = true ↔ contains s r' = true ∨ r' = r := by
  rw [contains_eq, contains_eq, clusterOf_addTransition]
  by_cases hp : r'.parent = r.parent
  · rw [if_pos hp, tuplesOf_addToCluster]
    by_cases hs : r'.sym = r.sym
    · rw [if_pos hs, List.contains_iff_mem, mem_insTuple, List.contains_iff_mem, hp, hs]
      constructor
      · rintro (h | h)
        · exact Or.inl h
        · right
          cases r; cases r'; simp_all
      · rintro (h | h)
        · exact Or.inl h
        · right; rw [h]
    · rw [if_neg hs, hp]
      constructor
      · exact Or.inl
      · rintro (h | h)
        · exact h
        · exact absurd (by rw [h]) hs
  · rw [if_neg hp]
    constructor
    · exact Or.inl
    · rintro (h | h)
      · exact h
      · exact absurd (by rw [h]) hp

theorem mem_flatCluster {q : Nat} {c : Cluster} {r : Rule} :
    r ∈ flatCluster q c ↔ r.parent = q ∧ ∃ ts, (r.sym, ts) ∈ c ∧ r.kids ∈ ts := by
  simp only [flatCluster, List.mem_flatMap, List.mem_map]
  constructor
  · rintro ⟨⟨f, ts⟩, hft, t, ht, e⟩
    subst e
    exact ⟨rfl, ts, hft, ht⟩
  · rintro ⟨hq, ts, hft, ht⟩
    refine ⟨(r.sym, ts), hft, r.kids, ht, ?_⟩
    cases r; simp_all

theorem mem_iterate {s : Store} {r : Rule} :
    r ∈ iterate s ↔ ∃ c, (r.parent, c) ∈ s.clusters ∧ ∃ ts, (r.sym, ts) ∈ c ∧ r.kids ∈ ts := by
  simp only [iterate, List.mem_flatMap, mem_flatCluster]
  constructor
  · rintro ⟨⟨q, c⟩, hqc, hq, h⟩
    simp only at hq h
    subst hq
    exact ⟨c, hqc, h⟩
  · rintro ⟨c, hqc, h⟩
    exact ⟨(r.parent, c), hqc, rfl, h⟩

/-- membership by two lookups needs only the uniqueness of the keys at both levels -/
theorem contains_iff_of_keys {s : Store} (hk : KeysNodup s.clusters) (hck : ∀ qc, qc ∈ s.clusters → KeysNodup qc.2) (r : Rule) :
    contains s r = true ↔ r ∈ iterate s := by
  rw [mem_iterate]
  unfold contains
  constructor
  · intro hc
    split at hc
    · cases hc
    · rename_i c hl
      have hm := mem_of_lookup hl
      refine ⟨c, hm, ?_⟩
      split at hc
      · cases hc
      · rename_i ts hl2
        exact ⟨ts, mem_of_lookup hl2, List.contains_iff_mem.mp hc⟩
  · rintro ⟨c, hm, ts, hm2, ht⟩
    rw [lookup_of_mem hk hm]
    simp only
    rw [lookup_of_mem (hck _ hm) hm2]
    simp only
    exact List.contains_iff_mem.mpr ht

theorem contains_iff_mem_iterate {s : Store} (h : Inv s) (r : Rule) : contains s r = true ↔ r ∈ iterate s :=
  contains_iff_of_keys h.keys (fun qc hqc => (h.clusters qc hqc).keys) r

/-- a flattening has no duplicates when the pieces have none and an element tells the key of the entry it comes from -/
theorem nodup_flatMap_key {α β κ : Type} {l : List α} {f : α → List β} (ka : α → κ) (kb : β → κ)
    (hk : (l.map ka).Nodup) (hf : ∀ a, a ∈ l → (f a).Nodup)
    (hkb : ∀ a, a ∈ l → ∀ b, b ∈ f a → kb b = ka a) :
    (l.flatMap f).Nodup := by
  rw [List.nodup_iff_pairwise_ne, List.pairwise_flatMap]
  refine ⟨hf, (List.pairwise_map.mp (List.nodup_iff_pairwise_ne.mp hk)).imp_of_mem ?_⟩
  intro a b ha hb hab x hx y hy e
  exact hab (by rw [← hkb a ha x hx, ← hkb b hb y hy, e])

theorem nodup_flatCluster (q : Nat) {c : Cluster} (hk : KeysNodup c) (ht : ∀ ft, ft ∈ c → ft.2.Nodup) :
    (flatCluster q c).Nodup := by
  refine nodup_flatMap_key Prod.fst Rule.sym hk (fun ft hft => ?_) (fun ft _ r hr => ?_)
  · exact List.pairwise_map.mpr ((ht ft hft).imp (fun hab e => hab (Rule.mk.inj e).2.1))
  · obtain ⟨t, _, e⟩ := List.mem_map.mp hr
    rw [← e]

theorem nodup_iterate {s : Store} (h : Inv s) : (iterate s).Nodup :=
  nodup_flatMap_key Prod.fst Rule.parent h.keys
    (fun qc hqc => nodup_flatCluster qc.1 (h.clusters qc hqc).keys (fun ft hft => ((h.clusters qc hqc).tuples ft hft).2))
    (fun _ _ _ hr => (mem_flatCluster.mp hr).1)

theorem mem_down {s : Store} (h : Inv s) {q : Nat} {r : Rule} : r ∈ down s q ↔ r ∈ iterate s ∧ r.parent = q := by
  unfold down
  rw [mem_iterate]
  split
  · rename_i hl
    constructor
    · intro hr; simp at hr
    · rintro ⟨⟨c, hm, _⟩, hq⟩
      rw [← hq, lookup_of_mem h.keys hm] at hl
      cases hl
  · rename_i c hl
    rw [mem_flatCluster]
    constructor
    · rintro ⟨hq, hts⟩
      refine ⟨⟨c, ?_, hts⟩, hq⟩
      rw [hq]; exact mem_of_lookup hl
    · rintro ⟨⟨c', hm, hts⟩, hq⟩
      rw [← hq, lookup_of_mem h.keys hm] at hl
      cases hl
      exact ⟨hq, hts⟩

theorem nodup_down {s : Store} (h : Inv s) (q : Nat) : (down s q).Nodup := by
  unfold down
  split
  · exact List.nodup_nil
  · rename_i c hl
    have hc := h.clusters _ (mem_of_lookup hl)
    exact nodup_flatCluster q hc.keys (fun ft hft => (hc.tuples ft hft).2)

/-- no cluster and no tuple set is empty: every cluster holds a rule -/
theorem exists_rule_of_mem {s : Store} (h : Inv s) {q : Nat} {c : Cluster} (hm : (q, c) ∈ s.clusters) :
    ∃ r, r ∈ iterate s ∧ r.parent = q := by
  have hc := h.clusters _ hm
  cases hcc : c with
  | nil => exact absurd hcc hc.nonempty
  | cons ft c' =>
    have hft : ft ∈ c := by rw [hcc]; exact List.mem_cons_self
    cases hts : ft.2 with
    | nil => exact absurd hts (hc.tuples _ hft).1
    | cons t ts' =>
      exact ⟨⟨ft.1, t, q⟩, mem_iterate.mpr ⟨c, hm, ft.2, hft, by rw [hts]; exact List.mem_cons_self⟩, rfl⟩

theorem downEmpty_iff {s : Store} (h : Inv s) (q : Nat) :
    downEmpty s q = true ↔ ∀ r, r ∈ iterate s → r.parent ≠ q := by
  unfold downEmpty
  constructor
  · intro hn r hr hq
    obtain ⟨c, hm, _⟩ := mem_iterate.mp hr
    rw [← hq, lookup_of_mem h.keys hm] at hn
    cases hn
  · intro hall
    cases hl : s.clusters.lookup q with
    | none => rfl
    | some c =>
      obtain ⟨r, hr, hq⟩ := exists_rule_of_mem h (mem_of_lookup hl)
      exact absurd hq (hall r hr)

theorem mem_acceptTrans {s : Store} (h : Inv s) {r : Rule} :
    r ∈ acceptTrans s ↔ r ∈ iterate s ∧ r.parent ∈ s.final := by
  simp only [acceptTrans, List.mem_flatMap, mem_down h]
  constructor
  · rintro ⟨q, hq, hr, e⟩
    rw [e]; exact ⟨hr, hq⟩
  · rintro ⟨hr, hq⟩
    exact ⟨r.parent, hq, hr, rfl⟩

theorem nodup_acceptTrans {s : Store} (h : Inv s) : (acceptTrans s).Nodup :=
  nodup_flatMap_key id Rule.parent (by rw [List.map_id]; exact h.final) (fun q _ => nodup_down h q)
    (fun _ _ _ hr => ((mem_down h).mp hr).2)

theorem mem_foldl_rules {x : Nat} (rs : List Rule) (init : List Nat) :
    x ∈ rs.foldl (fun acc r => insN r.parent (r.kids.foldl (fun a y => insN y a) acc)) init ↔
      x ∈ init ∨ ∃ r, r ∈ rs ∧ (x = r.parent ∨ x ∈ r.kids) := by
  refine mem_foldl_of_step (fun b x => x ∈ b) (fun r x => x = r.parent ∨ x ∈ r.kids) _ (fun b r x => ?_) rs init x
  rw [mem_insN, mem_foldl_insN, or_assoc]
  exact or_congr Iff.rfl or_comm

theorem nodup_foldl_rules (rs : List Rule) {init : List Nat} (h : init.Nodup) :
    (rs.foldl (fun acc r => insN r.parent (r.kids.foldl (fun a y => insN y a) acc)) init).Nodup :=
  List.foldlRecOn rs _ h (fun _ hacc _ _ => nodup_insN _ (nodup_foldl_insN _ hacc))

theorem mem_usedStates {s : Store} {x : Nat} :
    x ∈ usedStates s ↔ x ∈ s.final ∨ ∃ r, r ∈ iterate s ∧ (x = r.parent ∨ x ∈ r.kids) := by
  unfold usedStates
  simp only
  rw [mem_foldl_insN, mem_foldl_rules]
  constructor
  · rintro ((h | h) | h)
    · simp at h
    · exact Or.inr h
    · exact Or.inl h
  · rintro (h | h)
    · exact Or.inr h
    · exact Or.inl (Or.inr h)

theorem nodup_usedStates (s : Store) : (usedStates s).Nodup := by
  unfold usedStates
  exact nodup_foldl_insN _ (nodup_foldl_rules _ List.nodup_nil)

theorem transEmpty_iff {s : Store} (h : Inv s) : transEmpty s = true ↔ iterate s = [] := by
  unfold transEmpty
  cases hcl : s.clusters with
  | nil => exact iff_of_true rfl (by rw [iterate, hcl]; rfl)
  | cons qc m =>
    obtain ⟨r, hr, _⟩ := exists_rule_of_mem (q := qc.1) (c := qc.2) h (by rw [hcl]; exact List.mem_cons_self)
    exact iff_of_false Bool.false_ne_true (fun he => by rw [he] at hr; cases hr)

structure Refines (s : Store) (a : Abs) : Prop where
  inv : Inv s
  rules : ∀ r, r ∈ iterate s ↔ r ∈ a.rules
  final : ∀ q, q ∈ s.final ↔ q ∈ a.final

theorem refines_empty : Refines empty ⟨[], []⟩ :=
  ⟨inv_empty, by intro r; simp [empty, iterate], by intro q; simp [empty]⟩

theorem mem_iterate_addTransition {s : Store} (h : Inv s) (r r' : Rule) :
    r' ∈ iterate (addTransition s r) ↔ r' ∈ iterate s ∨ r' = r := by
  rw [← contains_iff_mem_iterate (inv_addTransition h r), ← contains_iff_mem_iterate h, contains_addTransition]

theorem refines_step {s : Store} {a : Abs} (h : Refines s a) (op : Op) : Refines (step s op) (specStep a op) := by
  refine ⟨inv_step h.inv op, ?_, ?_⟩
  · intro r'
    cases op with
    | add r =>
      simp only [step, specStep, List.mem_cons]
      rw [mem_iterate_addTransition h.inv, h.rules]
      exact Or.comm
    | setFinal q => exact h.rules r'
    | setFinals qs => exact h.rules r'
    | eraseFinal => exact h.rules r'
    | clear => simp [step, specStep, clear, iterate]
  · intro q'
    cases op with
    | add r => exact h.final q'
    | setFinal q =>
      simp only [step, specStep, setFinal, List.mem_cons]
      rw [mem_insN, h.final]
      exact Or.comm
    | setFinals qs =>
      simp only [step, specStep, setFinals, List.mem_append]
      rw [mem_foldl_insN, h.final]
      exact Or.comm
    | eraseFinal => simp [step, specStep, eraseFinal]
    | clear => simp [step, specStep, clear]

theorem refines_foldl {s : Store} {a : Abs} (h : Refines s a) (ops : List Op) :
    Refines (ops.foldl step s) (ops.foldl specStep a) :=
  List.foldl_rel (r := Refines) h (fun op _ _ _ h => refines_step h op)

theorem refines_run (ops : List Op) : Refines (run ops) (specRun ops) := refines_foldl refines_empty ops

theorem store_inv (ops : List Op) : Inv (run ops) := (refines_run ops).inv

theorem iterate_exact (ops : List Op) :
    (iterate (run ops)).Nodup ∧ ∀ r, r ∈ iterate (run ops) ↔ r ∈ (specRun ops).rules :=
  ⟨nodup_iterate (store_inv ops), (refines_run ops).rules⟩

theorem final_exact (ops : List Op) :
    (run ops).final.Nodup ∧ ∀ q, q ∈ (run ops).final ↔ q ∈ (specRun ops).final :=
  ⟨(store_inv ops).final, (refines_run ops).final⟩

theorem isFinal_exact (ops : List Op) (q : Nat) : isFinal (run ops) q = true ↔ q ∈ (specRun ops).final := by
  unfold isFinal
  rw [List.contains_iff_mem]
  exact (refines_run ops).final q

theorem acceptTrans_exact (ops : List Op) :
    (acceptTrans (run ops)).Nodup ∧
      ∀ r, r ∈ acceptTrans (run ops) ↔ r ∈ (specRun ops).rules ∧ r.parent ∈ (specRun ops).final := by
  have h := refines_run ops
  refine ⟨nodup_acceptTrans h.inv, ?_⟩
  intro r
  rw [mem_acceptTrans h.inv, h.rules, h.final]

theorem down_exact (ops : List Op) (q : Nat) :
    (down (run ops) q).Nodup ∧ ∀ r, r ∈ down (run ops) q ↔ r ∈ (specRun ops).rules ∧ r.parent = q := by
  have h := refines_run ops
  refine ⟨nodup_down h.inv q, ?_⟩
  intro r
  rw [mem_down h.inv, h.rules]

theorem downEmpty_exact (ops : List Op) (q : Nat) :
    downEmpty (run ops) q = true ↔ ∀ r, r ∈ (specRun ops).rules → r.parent ≠ q := by
  have h := refines_run ops
  rw [downEmpty_iff h.inv]
  constructor
  · intro hh r hr; exact hh r ((h.rules r).mpr hr)
  · intro hh r hr; exact hh r ((h.rules r).mp hr)

theorem contains_exact (ops : List Op) (r : Rule) : contains (run ops) r = true ↔ r ∈ (specRun ops).rules := by
  have h := refines_run ops
  rw [contains_iff_mem_iterate h.inv, h.rules]

theorem usedStates_exact (ops : List Op) :
    (usedStates (run ops)).Nodup ∧
      ∀ q, q ∈ usedStates (run ops) ↔
        q ∈ (specRun ops).final ∨ ∃ r, r ∈ (specRun ops).rules ∧ (q = r.parent ∨ q ∈ r.kids) := by
  have h := refines_run ops
  refine ⟨nodup_usedStates _, ?_⟩
  intro q
  rw [mem_usedStates, h.final]
  constructor
  · rintro (hq | ⟨r, hr, hq⟩)
    · exact Or.inl hq
    · exact Or.inr ⟨r, (h.rules r).mp hr, hq⟩
  · rintro (hq | ⟨r, hr, hq⟩)
    · exact Or.inl hq
    · exact Or.inr ⟨r, (h.rules r).mpr hr, hq⟩

theorem transEmpty_exact (ops : List Op) : transEmpty (run ops) = true ↔ (specRun ops).rules = [] := by
  have h := refines_run ops
  rw [transEmpty_iff h.inv, List.eq_nil_iff_forall_not_mem, List.eq_nil_iff_forall_not_mem]
  exact forall_congr' (fun r => not_congr (h.rules r))

theorem keysNodupB_iff {β : Type} (l : List (Nat × β)) : keysNodupB l = true ↔ KeysNodup l := by
  induction l with
  | nil => simp [keysNodupB, KeysNodup]
  | cons kv l ih =>
    obtain ⟨k, v⟩ := kv
    simp only [keysNodupB, Bool.and_eq_true, ih, KeysNodup, List.map_cons, List.nodup_cons]
    apply and_congr_left'
    simp only [Bool.not_eq_true', List.any_eq_false, beq_iff_eq, List.mem_map, not_exists, not_and]

theorem nodupB_iff (ts : List (List Nat)) : nodupB ts = true ↔ ts.Nodup := by
  induction ts with
  | nil => simp [nodupB]
  | cons t ts ih =>
    simp only [nodupB, Bool.and_eq_true, ih, List.nodup_cons, Bool.not_eq_true', ← Bool.not_eq_true,
      List.contains_iff_mem]

theorem nodupNB_iff (l : List Nat) : nodupNB l = true ↔ l.Nodup := by
  induction l with
  | nil => simp [nodupNB]
  | cons t ts ih =>
    simp only [nodupNB, Bool.and_eq_true, ih, List.nodup_cons, Bool.not_eq_true', ← Bool.not_eq_true,
      List.contains_iff_mem]

theorem clusterInvB_iff (c : Cluster) : clusterInvB c = true ↔ ClusterInv c := by
  simp only [clusterInvB, Bool.and_eq_true, keysNodupB_iff, List.all_eq_true, nodupB_iff, Bool.not_eq_true',
    List.isEmpty_eq_false_iff]
  constructor
  · rintro ⟨⟨h1, h2⟩, h3⟩
    exact ⟨h1, h2, h3⟩
  · rintro ⟨h1, h2, h3⟩
    exact ⟨⟨h1, h2⟩, h3⟩

theorem invB_iff (s : Store) : invB s = true ↔ Inv s := by
  simp only [invB, Bool.and_eq_true, keysNodupB_iff, List.all_eq_true, clusterInvB_iff, nodupNB_iff]
  constructor
  · rintro ⟨⟨h1, h2⟩, h3⟩
    exact ⟨h1, h2, h3⟩
  · rintro ⟨h1, h2, h3⟩
    exact ⟨⟨h1, h2⟩, h3⟩

/-! a concrete history: one symbol with tuples of different lengths, re-insertion, clear, finals -/
namespace StoreEx

def r1 : Rule := ⟨7, [], 1⟩
def r2 : Rule := ⟨7, [1, 1], 1⟩       -- same symbol number, other arity, same cluster
def r3 : Rule := ⟨8, [1, 2], 2⟩
def r4 : Rule := ⟨7, [2], 3⟩

def ops1 : List Op :=
  [.add r1, .setFinal 2, .add r2, .add r3, .add r1, .setFinals [3, 2, 5], .add r4, .add r3]

example : run ops1 =
    ⟨[(1, [(7, [[], [1, 1]])]), (2, [(8, [[1, 2]])]), (3, [(7, [[2]])])], [2, 3, 5]⟩ := by decide +kernel
example : iterate (run ops1) = [r1, r2, r3, r4] := by decide +kernel
example : acceptTrans (run ops1) = [r3, r4] := by decide +kernel
example : down (run ops1) 1 = [r1, r2] ∧ down (run ops1) 4 = [] := by decide +kernel
example : contains (run ops1) r2 = true ∧ contains (run ops1) ⟨7, [1], 1⟩ = false := by decide +kernel
example : usedStates (run ops1) = [1, 2, 3, 5] := by decide +kernel
example : invB (run ops1) = true := by decide +kernel
example : Inv (run ops1) := store_inv ops1
example : transEmpty (run ops1) = false ∧ transEmpty (run (ops1 ++ [.clear])) = true := by decide +kernel
/-- `Clear` also forgets the final states, `EraseFinalStates` keeps the rules -/
example : run (ops1 ++ [.clear, .add r4]) = ⟨[(3, [(7, [[2]])])], []⟩ := by decide +kernel
example : (run (ops1 ++ [.eraseFinal])).final = [] ∧ iterate (run (ops1 ++ [.eraseFinal])) = [r1, r2, r3, r4] := by
  decide +kernel
/-- the invariant is not trivial: these stores violate it (duplicate key / empty cluster / empty tuple set / duplicate tuple) -/
example : invB ⟨[(1, [(7, [[]])]), (1, [(8, [[]])])], []⟩ = false ∧ invB ⟨[(1, [])], []⟩ = false ∧
    invB ⟨[(1, [(7, [])])], []⟩ = false ∧ invB ⟨[(1, [(7, [[2], [2]])])], []⟩ = false := by decide +kernel
/-- without the invariant the iterator would yield a rule twice -/
example : iterate ⟨[(1, [(7, [[2], [2]])])], []⟩ = [⟨7, [2], 1⟩, ⟨7, [2], 1⟩] := by decide +kernel

end StoreEx

end Vata.Store
