/-!
What can be said of a decider from "it returns something" and "whatever it returns is exact", whatever it decides: the
verdict layer shared by the models of the tree and of the word automata.  A decider returns `Option Bool`, or
`Option (Bool × κ)` when the verdict comes with a certificate.
-/
namespace Vata

/-- from "returns something" and "everything returned is exact" to "returns the exact verdict" -/
theorem Total.decides {o : Option Bool} {Q : Prop} (hs : o.isSome = true) (hi : ∀ b, o = some b → (b = true ↔ Q)) :
    ∃ b, o = some b ∧ (b = true ↔ Q) := by
  cases o with
  | none => cases hs
  | some b => exact ⟨b, rfl, hi b rfl⟩

theorem Total.verdicts {o : Option Bool} {Q : Prop} (h : ∃ b, o = some b ∧ (b = true ↔ Q)) :
    (Q → o = some true) ∧ (¬ Q → o = some false) := by
  obtain ⟨b, hb, hq⟩ := h
  subst hb
  cases b
  · exact ⟨fun q => absurd (hq.mpr q) (by simp), fun _ => rfl⟩
  · exact ⟨fun _ => rfl, fun nq => absurd (hq.mp rfl) nq⟩

/-- two deciders of the same statement return the same verdict -/
theorem Total.decides_eq {o o' : Option Bool} {Q : Prop} (h : ∃ b, o = some b ∧ (b = true ↔ Q))
    (h' : ∃ b, o' = some b ∧ (b = true ↔ Q)) : o = o' := by
  obtain ⟨b, hb, hq⟩ := h
  obtain ⟨b', hb', hq'⟩ := h'
  rw [hb, hb', Bool.eq_iff_iff.mpr (hq.trans hq'.symm)]

/-- two Booleans that are each the truth of the same statement are equal -/
theorem Verdict.eq_of_iff {P : Prop} {b b' : Bool} (h : b = true ↔ P) (h' : b' = true ↔ P) : b = b' :=
  Bool.eq_iff_iff.mpr (h.trans h'.symm)

/-- a certified result is `(b, _)` as soon as its first component evaluates to `b` (certificates hold trees or words, whose
equality is not decidable: the examples evaluate the verdict and leave the certificate) -/
theorem Verdict.exists_cert {α β : Type} {o : Option (α × β)} {b : α} (h : o.map (·.1) = some b) : ∃ c, o = some (b, c) := by
  cases o with
  | none => cases h
  | some r => exact ⟨r.2, by cases h; rfl⟩

/-- a certifying decider that answers, and only rightly, gives the right answer in both polarities -/
theorem Verdict.complete_of_total {κ : Type} {r : Option (Bool × κ)} {I : Prop} (ht : ∃ b c, r = some (b, c))
    (hiff : ∀ {b c}, r = some (b, c) → (b = true ↔ I)) :
    (I → ∃ c, r = some (true, c)) ∧ (¬ I → ∃ c, r = some (false, c)) := by
  obtain ⟨b, c, h⟩ := ht
  cases b with
  | true => exact ⟨fun _ => ⟨c, h⟩, fun hn => absurd ((hiff h).mp rfl) hn⟩
  | false => exact ⟨(fun hi => nomatch (hiff h).mpr hi), fun _ => ⟨c, h⟩⟩

end Vata
