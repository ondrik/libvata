import Vata.Proofs.BddUnionCodedTD
/-!
C08: the bottom-up BDD `Union` / `UnionDisjointStates` as coded.

The keys of a bottom-up table are children TUPLES: a tuple `ks` is renumbered to `ks.map f`; the empty tuple stays the empty
tuple for both operands, its MTBDDs (per object) are united at the end.
-/
namespace Vata
namespace BddUnionCoded
open M BddAbs BddAbsTD Um

theorem keys_eq_pairs (T : Table) : (pairs T).map (·.1) = T.keys := rfl

theorem get_pureLoopBU_of_not_mem (M : SMap) (T R0 : Table) {ks' : List Nat}
    (h : ks' ∉ T.keys.map (fun k => k.map (applyMap M))) : (pureLoopBU M T (pairs T) R0).get ks' = R0.get ks' :=
  get_foldl_set_of_not_mem Table.get Table.set get_set (fun e : List Nat × MT => e.1.map (applyMap M))
    (fun e => apply1 (rwBU M) (T.get e.1)) (pairs T) R0 (by rwa [← keys_eq_pairs, List.map_map] at h)

theorem get_pureLoopBU_of_mem (M : SMap) (T R0 : Table)
    (hinj : ∀ k k', k ∈ T.keys → k' ∈ T.keys → k.map (applyMap M) = k'.map (applyMap M) → k = k') {ks : List Nat}
    (hp : ks ∈ T.keys) : (pureLoopBU M T (pairs T) R0).get (ks.map (applyMap M)) = apply1 (rwBU M) (T.get ks) := by
  obtain ⟨e₀, he₀, rfl⟩ := List.mem_map.mp (keys_eq_pairs T ▸ hp)
  exact get_foldl_set_of_mem Table.get Table.set get_set (fun e : List Nat × MT => e.1.map (applyMap M))
    (fun e => apply1 (rwBU M) (T.get e.1)) (pairs T) R0
    (fun e he h => by rw [hinj e.1 e₀.1 (List.mem_map_of_mem he) hp h]) (List.mem_map_of_mem he₀)

theorem mem_rwBU (M : SMap) (l : List Nat) (p' : Nat) : p' ∈ rwBU M l ↔ ∃ p, p ∈ l ∧ p' = applyMap M p := by
  simp only [rwBU, InclUp.mem_normS, List.mem_map, eq_comm]

theorem pass_specBU (M : SMap) (T R0 : Table)
    (hinj : ∀ k k', k ∈ T.keys → k' ∈ T.keys → k.map (applyMap M) = k'.map (applyMap M) → k = k')
    (ρ : Nat → Bool) (ks' : List Nat) (p' : Nat) :
    HasRule (pureLoopBU M T (pairs T) R0) ρ ks' p' ↔
      Img (List.map (applyMap M)) (applyMap M) T.get ρ ks' p' ∨
        (ks' ∉ T.keys.map (fun k => k.map (applyMap M)) ∧ HasRule R0 ρ ks' p') :=
  pass_spec (fun _ => get_pureLoopBU_of_mem M T R0 hinj) (fun _ => get_pureLoopBU_of_not_mem M T R0) (mem_rwBU M)
    (fun _ _ _ => hasRule_key) hinj ρ ks' p'

theorem hasRule_set_nil_ne (T : Table) (m : MT) (ρ : Nat → Bool) {ks' : List Nat} (p' : Nat) (h : ks' ≠ []) :
    HasRule (T.set [] m) ρ ks' p' ↔ HasRule T ρ ks' p' := by
  unfold HasRule
  rw [get_set, if_neg (fun e => h e.symm)]

theorem img_nil (f : Nat → Nat) (T : Table) (ρ : Nat → Bool) (p' : Nat) :
    Img (List.map f) f T.get ρ [] p' ↔ ∃ p, p ∈ eval (T.get []) ρ ∧ p' = f p := by
  constructor
  · rintro ⟨ks, p, h, e1, e2⟩
    rw [List.map_eq_nil_iff.mp e1.symm] at h
    exact ⟨p, h, e2⟩
  · rintro ⟨p, h, e2⟩
    exact ⟨[], p, h, rfl, e2⟩

/-- the table `Union` returns (two passes, then the nullary MTBDDs united): exactly the translated rules of both operands,
when the maps are injective on the key tuples and send the non-empty key tuples of the two tables to different tuples -/
theorem buUnion_rules (ML MR : SMap) (T₁ T₂ : Table)
    (h1 : ∀ k k', k ∈ T₁.keys → k' ∈ T₁.keys → k.map (applyMap ML) = k'.map (applyMap ML) → k = k')
    (h2 : ∀ k k', k ∈ T₂.keys → k' ∈ T₂.keys → k.map (applyMap MR) = k'.map (applyMap MR) → k = k')
    (hd : ∀ k k', k ∈ T₁.keys → k' ∈ T₂.keys → k ≠ [] → k.map (applyMap ML) ≠ k'.map (applyMap MR))
    (ρ : Nat → Bool) (ks' : List Nat) (p' : Nat) :
    HasRule (((pureLoopBU MR T₂ (pairs T₂)
        ((pureLoopBU ML T₁ (pairs T₁) Table.empty).set [] (apply1 (rwBU ML) (T₁.get [])))).set []
          (apply1 (rwBU MR) (T₂.get []))).set []
        (apply2 unionS (apply1 (rwBU ML) (T₁.get [])) (apply1 (rwBU MR) (T₂.get [])))) ρ ks' p' ↔
      Img (List.map (applyMap ML)) (applyMap ML) T₁.get ρ ks' p' ∨ Img (List.map (applyMap MR)) (applyMap MR) T₂.get ρ ks' p' := by
  by_cases hk : ks' = []
  · subst hk
    unfold HasRule
    rw [get_set, if_pos rfl, apply2_eval, mem_unionS, apply1_eval, apply1_eval, mem_rwBU, mem_rwBU, img_nil, img_nil]
  · rw [hasRule_set_nil_ne _ _ _ _ hk, hasRule_set_nil_ne _ _ _ _ hk]
    refine two_passes (pass_specBU MR T₂ _ h2 ρ ks' p') ((hasRule_set_nil_ne _ _ _ _ hk).trans (pass_specBU ML T₁ _ h1 ρ ks' p'))
      (hasRule_empty _ _ _) ?_
    rintro ⟨ks, p, hr, e, _⟩ hm
    obtain ⟨k', hk', hke⟩ := List.mem_map.mp hm
    exact hd ks k' (hasRule_key hr) hk' (fun h0 => hk (by rw [e, h0]; rfl)) (by rw [← e, hke])

theorem mem_absRules_img (syms : List Nat) (f : Nat → Nat) (T : Table) (r : Rule) :
    r ∈ (absRules syms T).map (mapRule f) ↔ r.sym ∈ syms ∧ Img (List.map f) f T.get (bits r.sym) r.kids r.parent := by
  rw [List.mem_map]
  constructor
  · rintro ⟨r₀, hr₀, rfl⟩
    obtain ⟨hs, h⟩ := mem_absRules.mp hr₀
    exact ⟨hs, r₀.kids, r₀.parent, h, rfl, rfl⟩
  · rintro ⟨hs, ks, p, h, e1, e2⟩
    refine ⟨⟨r.sym, ks, p⟩, mem_absRules.mpr ⟨hs, h⟩, ?_⟩
    obtain ⟨s, k, q⟩ := r
    simp only [mapRule] at *
    rw [e1, e2]

theorem mem_orderLoopBU_key {T : Table} {ks : List Nat} {q : Nat} (h : ks ∈ T.keys) (hq : q ∈ ks) :
    q ∈ orderLoopBU T (pairs T) := by
  rw [← keys_eq_pairs] at h
  obtain ⟨e, he, rfl⟩ := List.mem_map.mp h
  exact List.mem_flatMap.mpr ⟨e, he, List.mem_append_left _ hq⟩

theorem mem_orderLoopBU_parent {T : Table} {ρ : Nat → Bool} {ks : List Nat} {p : Nat} (h : HasRule T ρ ks p) :
    p ∈ orderLoopBU T (pairs T) := by
  have hk := hasRule_key h
  rw [← keys_eq_pairs] at hk
  obtain ⟨e, he, rfl⟩ := List.mem_map.mp hk
  refine List.mem_flatMap.mpr ⟨e, he, List.mem_append_right _ ?_⟩
  exact List.mem_flatMap.mpr ⟨_, eval_mem_voidApply1 ρ _, h⟩

theorem keys_sub_allStates_BU (A : AutBU) {ks : List Nat} {q : Nat} (h : ks ∈ A.T.keys) (hq : q ∈ ks) : q ∈ A.allStates :=
  List.mem_append_left _ (List.mem_append_left _ (mem_orderLoopBU_key h hq))

theorem abs_states_sub_BU (syms : List Nat) (A : AutBU) {q : Nat} (h : q ∈ (A.abs syms).states) : q ∈ A.allStates := by
  rcases Vata.mem_states.mp h with hf | ⟨r, hr, hq⟩
  · exact List.mem_append_left _ (List.mem_append_right _ hf)
  · obtain ⟨_, hr⟩ := mem_absRules.mp hr
    refine List.mem_append_left _ (List.mem_append_left _ ?_)
    rcases hq with hq | hq
    · exact hq ▸ mem_orderLoopBU_parent hr
    · exact mem_orderLoopBU_key (hasRule_key hr) hq

theorem buUnionFrom_maps (c0 fresh : Nat) (lhs rhs : AutBU) (oL oR : Option SMap) (hne : lhs.tid ≠ rhs.tid) :
    (buUnionFrom c0 fresh lhs rhs oL oR).2.1 = (wAll (orderBU lhs) (oL.getD [], c0)).1 ∧
    (buUnionFrom c0 fresh lhs rhs oL oR).2.2 =
      (wAll (orderBU rhs) (oR.getD [], (wAll (orderBU lhs) (oL.getD [], c0)).2)).1 := by
  unfold buUnionFrom
  rw [if_neg hne]
  dsimp only
  rw [(reindexBU_spec rhs _ _).1, (reindexBU_spec lhs _ _).1]
  exact ⟨rfl, rfl⟩

theorem buUnionFrom_result (c0 fresh : Nat) (lhs rhs : AutBU) (oL oR : Option SMap) (hne : lhs.tid ≠ rhs.tid) :
    (buUnionFrom c0 fresh lhs rhs oL oR).1 =
      ⟨fresh, ((pureLoopBU (buUnionFrom c0 fresh lhs rhs oL oR).2.2 rhs.T (pairs rhs.T)
          ((pureLoopBU (buUnionFrom c0 fresh lhs rhs oL oR).2.1 lhs.T (pairs lhs.T) Table.empty).set []
            (apply1 (rwBU (buUnionFrom c0 fresh lhs rhs oL oR).2.1) (lhs.T.get [])))).set []
          (apply1 (rwBU (buUnionFrom c0 fresh lhs rhs oL oR).2.2) (rhs.T.get []))).set []
        (apply2 unionS (apply1 (rwBU (buUnionFrom c0 fresh lhs rhs oL oR).2.1) (lhs.T.get []))
          (apply1 (rwBU (buUnionFrom c0 fresh lhs rhs oL oR).2.2) (rhs.T.get []))),
        ([] ++ lhs.fin.map (applyMap (buUnionFrom c0 fresh lhs rhs oL oR).2.1)) ++
          rhs.fin.map (applyMap (buUnionFrom c0 fresh lhs rhs oL oR).2.2)⟩ := by
  obtain ⟨m1, m2⟩ := buUnionFrom_maps c0 fresh lhs rhs oL oR hne
  rw [m1, m2]
  unfold buUnionFrom
  rw [if_neg hne]
  dsimp only
  have s1 := reindexBU_spec lhs ⟨fresh, Table.empty, []⟩ (oL.getD [], c0)
  obtain ⟨e1, n1⟩ := s1.2 _ (Ext.refl _)
  obtain ⟨e2, n2⟩ := (reindexBU_spec rhs (reindexBU lhs ⟨fresh, Table.empty, []⟩ (oL.getD [], c0)).1
    (oR.getD [], (reindexBU lhs ⟨fresh, Table.empty, []⟩ (oL.getD [], c0)).2.2.2)).2 _ (Ext.refl _)
  rw [e2, n2, e1, n1, s1.1]

/-- the bottom-up `Union` on distinct tables is a `UnionRun`: injectivity on the states gives injectivity on the key tuples -/
theorem buUnionRun (c0 fresh : Nat) (lhs rhs : AutBU) (oL oR : Option SMap) (syms : List Nat) (hne : lhs.tid ≠ rhs.tid) :
    UnionRun (lhs.abs syms) (rhs.abs syms) ((buUnionFrom c0 fresh lhs rhs oL oR).1.abs syms) (orderBU lhs) (orderBU rhs)
      (oL.getD []) (oR.getD []) (buUnionFrom c0 fresh lhs rhs oL oR).2.1 (buUnionFrom c0 fresh lhs rhs oL oR).2.2 c0 where
  mapL := (buUnionFrom_maps c0 fresh lhs rhs oL oR hne).1
  mapR := (buUnionFrom_maps c0 fresh lhs rhs oL oR hne).2
  statesL := abs_states_sub_BU syms lhs
  statesR := abs_states_sub_BU syms rhs
  setEq := fun iA iB dAB => by
    rw [buUnionFrom_result c0 fresh lhs rhs oL oR hne]
    refine ⟨fun r => ?_, fun q => by simp [unionWith, reindex, absBU, AutBU.abs]⟩
    show r ∈ absRules syms _ ↔ r ∈ (absRules syms lhs.T).map (mapRule _) ++ (absRules syms rhs.T).map (mapRule _)
    rw [List.mem_append, mem_absRules_img, mem_absRules_img, mem_absRules, and_or_left.symm]
    refine and_congr_right fun _ => buUnion_rules _ _ lhs.T rhs.T ?_ ?_ ?_ _ _ _
    · exact fun k k' hk hk' => map_inj_of_injOn (S := (· ∈ lhs.allStates)) (fun q hq q' => iA q q' hq)
        (fun q hq => keys_sub_allStates_BU lhs hk hq) (fun q hq => keys_sub_allStates_BU lhs hk' hq)
    · exact fun k k' hk hk' => map_inj_of_injOn (S := (· ∈ rhs.allStates)) (fun q hq q' => iB q q' hq)
        (fun q hq => keys_sub_allStates_BU rhs hk hq) (fun q hq => keys_sub_allStates_BU rhs hk' hq)
    · intro k k' hk hk' hne' he
      cases k with
      | nil => exact hne' rfl
      | cons q k =>
        cases k' with
        | nil => cases he
        | cons q' k' =>
          exact dAB q q' (keys_sub_allStates_BU lhs hk List.mem_cons_self)
            (keys_sub_allStates_BU rhs hk' List.mem_cons_self) (List.cons.inj he).1

theorem get_copyLoopBU (T₂ : Table) (L : List (List Nat × MT)) (R : Table) (ks : List Nat) :
    (L.foldl (fun R e => R.set e.1 (T₂.get e.1)) R).get ks = if ks ∈ L.map (·.1) then T₂.get ks else R.get ks :=
  get_foldl_copy Table.get Table.set get_set (fun e : List Nat × MT => e.1) T₂.get L R ks

/-- the table of the bottom-up `UnionDisjointStates` (distinct tables) holds exactly the rules of both operands when no
non-empty tuple is a key of both tables -/
theorem buUnionDisj_rules (T₁ T₂ : Table) (hd : ∀ k, k ∈ T₁.keys → k ∈ T₂.keys → k = [])
    (ρ : Nat → Bool) (ks : List Nat) (p : Nat) :
    HasRule (((pairs T₂).foldl (fun R e => R.set e.1 (T₂.get e.1)) T₁).set [] (apply2 unionS (T₁.get []) (T₂.get []))) ρ ks p ↔
      HasRule T₁ ρ ks p ∨ HasRule T₂ ρ ks p := by
  by_cases hk : ks = []
  · subst hk
    unfold HasRule
    rw [get_set, if_pos rfl, apply2_eval, mem_unionS]
  · rw [hasRule_set_nil_ne _ _ _ _ hk]
    unfold HasRule
    rw [get_copyLoopBU, keys_eq_pairs]
    split
    · next h2 =>
      constructor
      · exact Or.inr
      · rintro (h | h)
        · exact absurd (hd ks (hasRule_key h) h2) hk
        · exact h
    · next h2 =>
      constructor
      · exact Or.inl
      · rintro (h | h)
        · exact h
        · exact absurd (hasRule_key h) h2

theorem buUnionDisj_setEq (syms : List Nat) (T₁ T₂ : Table) (F₁ F₂ : List Nat)
    (hd : ∀ k, k ∈ T₁.keys → k ∈ T₂.keys → k = []) :
    SetEqTA (absBU syms (((pairs T₂).foldl (fun R e => R.set e.1 (T₂.get e.1)) T₁).set []
        (apply2 unionS (T₁.get []) (T₂.get []))) (F₁ ++ F₂))
      (unionDisjoint (absBU syms T₁ F₁) (absBU syms T₂ F₂)) := by
  refine ⟨fun r => ?_, fun q => Iff.rfl⟩
  show r ∈ absRules syms _ ↔ r ∈ absRules syms T₁ ++ absRules syms T₂
  rw [List.mem_append, mem_absRules, mem_absRules, mem_absRules, buUnionDisj_rules T₁ T₂ hd, and_or_left]

theorem keys_disj_of_states_BU (lhs rhs : AutBU) (hdis : ∀ q, q ∈ lhs.allStates → q ∉ rhs.allStates) :
    ∀ k, k ∈ lhs.T.keys → k ∈ rhs.T.keys → k = [] := by
  intro k h1 h2
  cases k with
  | nil => rfl
  | cons q k =>
    exact absurd (keys_sub_allStates_BU rhs h2 List.mem_cons_self)
      (hdis q (keys_sub_allStates_BU lhs h1 List.mem_cons_self))

end BddUnionCoded
end Vata
