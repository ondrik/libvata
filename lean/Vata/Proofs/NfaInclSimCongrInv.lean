import Vata.NfaInclSim
import Vata.Proofs.NfaInclSimEquiv
/-!
# The exploration of the congruence functor with `NormalFormRelSimulation` is right by itself

For state-disjoint operands, `U = A ⊎ B` and a relation `R` that is a simulation on `U` (`NfaSim`; neither reflexivity nor
transitivity is used) the exploration is the loop of `Vata/Proofs/NfaInclCongr.lean` with the test `inClosureSim R`.
The idea: take the simulation pairs as rules (`simRules`).  Then `applyRule` stays inside the congruence class, so a
pair skipped by `MakePost` is in the congruence closure of `simRules R ∪ next_ ∪ relation_`; and the simulation pairs are
themselves a bisimulation up to congruence.  So `return false` at `w` ⇒ `A` accepts `w`, `B` does not; `return true` ⇒
`simRules R ∪ relation_` is a certificate (`CongrCert`); the model is total above `fuelBoundCongr`.
-/
namespace Vata
open Vata.W
namespace NfaIncl

theorem mem_simRules {R : Rel} {p : CRule} : p ∈ simRules R ↔ ∃ r s, (r, s) ∈ R ∧ p = ([s], [s, r]) := by
  simp only [simRules, List.mem_map]
  constructor
  · rintro ⟨q, hq, rfl⟩; exact ⟨q.1, q.2, hq, rfl⟩
  · rintro ⟨r, s, h, rfl⟩; exact ⟨(r, s), h, rfl⟩

/-- adding states that are each simulated by a state of the set stays in the congruence class -/
theorem congrCl_add_sim {T : List CRule} {R : Rel} (hT : ∀ p, p ∈ simRules R → p ∈ T) :
    ∀ (L S : List Nat), (∀ x, x ∈ L → ∃ s, s ∈ S ∧ (x, s) ∈ R) → CongrCl T S (S ++ L)
  | [], S, _ => .refl (by simp)
  | x :: L, S, h => by
    obtain ⟨s, hs, hxs⟩ := h x List.mem_cons_self
    have h1 : CongrCl T S (normS (S ++ [s] ++ [s, x])) :=
      congrCl_fire (hT _ (mem_simRules.mpr ⟨x, s, hxs, rfl⟩)) (Or.inl fun y hy => List.mem_singleton.mp hy ▸ hs)
    have h2 : CongrCl T S (S ++ [x]) := by
      refine .trans h1 (.refl fun y => ?_)
      simp only [mem_normS, List.mem_append, List.mem_cons, List.not_mem_nil, or_false]
      constructor
      · rintro ((h | rfl) | rfl | rfl)
        · exact Or.inl h
        · exact Or.inl hs
        · exact Or.inl hs
        · exact Or.inr rfl
      · exact fun h => h.elim (fun h => Or.inl (Or.inl h)) (fun h => Or.inr (Or.inr h))
    rw [List.append_cons]
    exact .trans h2 (congrCl_add_sim hT L (S ++ [x]) fun y hy =>
      (h y (List.mem_cons_of_mem _ hy)).imp fun _ hs => ⟨List.mem_append_left _ hs.1, hs.2⟩)

theorem congrCl_applyRule {T : List CRule} {R : Rel} (hT : ∀ p, p ∈ simRules R → p ∈ T) (S : List Nat) :
    CongrCl T S (applyRuleSim R S) := by
  refine .trans (congrCl_add_sim hT _ S fun x hx => ?_) (.refl (fun x => mem_normS.symm))
  obtain ⟨p, hp, rfl⟩ := List.mem_map.mp hx
  rw [List.mem_filter, List.contains_iff_mem] at hp
  exact ⟨p.2, hp.2, hp.1⟩

/-- firing a rule with `AddSubSet` -/
theorem congrCl_fire_sim {T : List CRule} {R : Rel} (hT : ∀ p, p ∈ simRules R → p ∈ T) {r : CRule} (hr : r ∈ T)
    {b set : List Nat} (hset : CongrCl T b set) (hm : matchPair set r.2 = true) :
    CongrCl T b (normS (set ++ applyRuleSim R r.1 ++ applyRuleSim R r.2)) := by
  have h1 : CongrCl T set (normS (set ++ r.1 ++ r.2)) := congrCl_fire hr (Or.inr (matchPair_sub hm))
  have h2 : CongrCl T (set ++ r.1 ++ r.2) (set ++ applyRuleSim R r.1 ++ applyRuleSim R r.2) :=
    .union (.union (.rfl' set) (congrCl_applyRule hT r.1)) (congrCl_applyRule hT r.2)
  exact .trans hset (.trans h1 (.trans (.refl (fun x => mem_normS)) (.trans h2 (.refl (fun x => mem_normS.symm)))))

theorem isSubSetB_sub {l r : List Nat} (h : isSubSetB l r = true) : ∀ x, x ∈ l → x ∈ r := by
  simp only [isSubSetB, Bool.and_eq_true, subB_iff] at h
  exact h.2

theorem sweepSim_sound {T : List CRule} {R : Rel} (hT : ∀ p, p ∈ simRules R → p ∈ T) {s b : List Nat} :
    ∀ (rs un : List CRule) (set : List Nat) (ap : Bool),
    (∀ r, r ∈ rs → r ∈ T) → (∀ r, r ∈ un → r ∈ T) → CongrCl T b set → SweepOK T s b (sweepSim R s rs un set ap)
  | [], un, _, _, _, hun, hset => ⟨fun r hr => hun r (List.mem_reverse.mp hr), hset⟩
  | r :: rs, un, set, ap, hrs, hun, hset => by
    have hrs' : ∀ r', r' ∈ rs → r' ∈ T := fun r' h => hrs r' (List.mem_cons_of_mem _ h)
    have hr : r ∈ T := hrs r List.mem_cons_self
    unfold sweepSim
    by_cases hm : matchPair set r.2 = true
    · have hset' := congrCl_fire_sim hT hr hset hm
      rw [if_pos hm]
      by_cases hsub : isSubSetB s (normS (set ++ applyRuleSim R r.1 ++ applyRuleSim R r.2)) = true
      · rw [if_pos hsub]; exact ⟨_, hset', isSubSetB_sub hsub⟩
      · rw [if_neg hsub]; exact sweepSim_sound hT rs un _ true hrs' hun hset'
    · rw [if_neg hm]
      exact sweepSim_sound hT rs (r :: un) set ap hrs' (List.forall_mem_cons.mpr ⟨hr, hun⟩) hset

theorem closeLoopSim_sound {T : List CRule} {R : Rel} (hT : ∀ p, p ∈ simRules R → p ∈ T) {s b : List Nat} :
    ∀ (n : Nat) (rules : List CRule) (set : List Nat),
    (∀ r, r ∈ rules → r ∈ T) → CongrCl T b set → closeLoopSim R s n rules set = some true →
      ∃ set', CongrCl T b set' ∧ ∀ x, x ∈ s → x ∈ set'
  | 0, _, _, _, _, h => nomatch h
  | n+1, rules, set, hrules, hset, h => by
    have hsw := sweepSim_sound hT (s := s) rules [] set false hrules (fun _ => nofun) hset
    unfold closeLoopSim at h
    split at h
    · next hsw' => rw [hsw'] at hsw; exact hsw
    · next un set' ap hsw' =>
      rw [hsw'] at hsw
      cases ap with
      | true => exact closeLoopSim_sound hT n un set' hsw.1 hsw.2 h
      | false => exact ⟨set', hsw.2, isSubSetB_sub (Option.some.inj h)⟩

/-- a pair with `b ⊆ s` that passes the test of `MakePost` is in the congruence closure of the rules and the simulation -/
theorem inClosureSim_sound {R : Rel} {rules : List CRule} {s b : List Nat} (hbs : ∀ x, x ∈ b → x ∈ s)
    (h : inClosureSim R rules s b = some true) : CongrCl (simRules R ++ rules) s b := by
  have hT : ∀ p, p ∈ simRules R → p ∈ simRules R ++ rules := fun p hp => List.mem_append_left _ hp
  obtain ⟨set, hset, hs⟩ := closeLoopSim_sound hT (b := b) _ rules _ (fun _ h => List.mem_append_right _ h)
    (congrCl_applyRule hT b) h
  exact .of_sandwich (.rfl' s) hset hbs hs

theorem simRules_bisim {U : NFA} {R : Rel} (hR : NfaSim U R) {T : List CRule} (hT : ∀ p, p ∈ simRules R → p ∈ T)
    {p : CRule} (hp : p ∈ simRules R) :
    W.accepting U p.1 = W.accepting U p.2 ∧ ∀ a, CongrCl T (stepW U p.1 a) (stepW U p.2 a) := by
  obtain ⟨r, s, hrs, rfl⟩ := mem_simRules.mp hp
  constructor
  · rw [Bool.eq_iff_iff]
    simp only [accepting_iff, List.mem_cons, List.not_mem_nil, or_false]
    constructor
    · rintro ⟨q, rfl, hf⟩; exact ⟨q, Or.inl rfl, hf⟩
    · rintro ⟨q, rfl | rfl, hf⟩
      · exact ⟨q, rfl, hf⟩
      · exact ⟨s, rfl, (hR q s hrs).1 hf⟩
  · intro a
    -- every successor of `r` is simulated by a successor of `s`
    refine .trans (congrCl_add_sim hT (stepW U [r] a) (stepW U [s] a) fun x hx => ?_)
      (.refl fun x => (mem_stepW_append U [s] [r] a x).symm)
    obtain ⟨p0, hp0, he⟩ := mem_stepW.mp hx
    rw [List.mem_singleton.mp hp0] at he
    obtain ⟨s', he', hr'⟩ := (hR r s hrs).2 a x he
    exact ⟨s', mem_stepW.mpr ⟨s, List.mem_singleton.mpr rfl, he'⟩, hr'⟩


theorem loopCongrSim_eq (U B : NFA) (R : Rel) : ∀ (n : Nat) (st : CSt),
    loopCongrSim U B R n st = loopSkip (inClosureSim R) U B false n st
  | 0, _ => rfl
  | n+1, st => by
    rw [loopCongrSim, loopSkip]
    simp only [loopCongrSim_eq U B R n]
    rfl

theorem congrSimFunctor_eq (U B : NFA) (R : Rel) (fuel : Nat) :
    congrSimFunctor U B R fuel = runSkip (inClosureSim R) U B false fuel := by
  unfold congrSimFunctor runSkip
  simp only [loopCongrSim_eq]

/-- a `return false` is justified, a `return true` leaves a certificate (with the simulation pairs as rules) -/
theorem congrSimFunctor_inv {A B : NFA} (hdis : ∀ q, q ∈ nfaStates A → q ∈ nfaStates B → False) {R : Rel}
    (hR : NfaSim (nfaUnionDisjoint A B) R) {fuel : Nat} :
    (∀ w, congrSimFunctor (nfaUnionDisjoint A B) B R fuel = some (.error w) →
      acceptsW A w = true ∧ acceptsW B w = false) ∧
    (∀ Rl, congrSimFunctor (nfaUnionDisjoint A B) B R fuel = some (.ok Rl) →
      CongrCert A B (simRules R ++ rulesOf Rl)) := by
  rw [congrSimFunctor_eq]
  exact runSkip_inv hdis (fun _ hT _ hp => simRules_bisim hR hT hp)
    fun _ _ hit _ h => inClosureSim_sound hit.y_sub_x h


theorem sweepSim_length {R : Rel} {s : List Nat} :
    ∀ (rs un : List CRule) (set : List Nat) (ap : Bool) un' set' ap',
    sweepSim R s rs un set ap = some (un', set', ap') →
      un'.length ≤ un.length + rs.length ∧ (ap' = true → ap = true ∨ un'.length < un.length + rs.length)
  | [], un, set, ap, un', set', ap', h => by
    simp only [sweepSim, Option.some.injEq, Prod.mk.injEq] at h
    obtain ⟨rfl, _, rfl⟩ := h
    simp only [List.length_reverse, List.length_nil, Nat.add_zero, Nat.le_refl, true_and]
    exact Or.inl
  | r :: rs, un, set, ap, un', set', ap', h => by
    unfold sweepSim at h
    by_cases hm : matchPair set r.2 = true
    · rw [if_pos hm] at h
      by_cases hsub : isSubSetB s (normS (set ++ applyRuleSim R r.1 ++ applyRuleSim R r.2)) = true
      · rw [if_pos hsub] at h; cases h
      · rw [if_neg hsub] at h
        have := sweepSim_length rs un _ true un' set' ap' h
        rw [List.length_cons]
        exact ⟨by omega, fun _ => Or.inr (by omega)⟩
    · rw [if_neg hm] at h
      have := sweepSim_length rs (r :: un) set ap un' set' ap' h
      rw [List.length_cons] at this ⊢
      exact ⟨by omega, fun h' => (this.2 h').imp id (by omega)⟩

theorem closeLoopSim_not_stuck {R : Rel} {s : List Nat} : ∀ (n : Nat) (rules : List CRule) (set : List Nat),
    rules.length < n → ∃ b, closeLoopSim R s n rules set = some b
  | 0, _, _, h => absurd h (Nat.not_lt_zero _)
  | n+1, rules, set, h => by
    unfold closeLoopSim
    split
    · exact ⟨_, rfl⟩
    · next un set' ap hsw =>
      have hl := sweepSim_length rules [] set false un set' ap hsw
      split
      · next hap =>
        apply closeLoopSim_not_stuck n
        rcases hl.2 hap with h' | h'
        · cases h'
        · simp only [List.length_nil, Nat.zero_add] at h'; omega
      · exact ⟨_, rfl⟩

theorem congrSimFunctor_terminates {A B : NFA} {R : Rel} {fuel : Nat} (h : fuelBoundCongr A B < fuel) :
    ∃ r, congrSimFunctor (nfaUnionDisjoint A B) B R fuel = some r := by
  rw [congrSimFunctor_eq]
  exact runSkip_terminates
    (fun rules X Y => closeLoopSim_not_stuck (R := R) (s := X) _ rules (applyRuleSim R Y) (Nat.lt_succ_self _)) h

end NfaIncl

open NfaIncl


/-- the UNCHECKED verdict of the congruence functor with a simulation is exact (state-disjoint operands, `R` a simulation on
`A ⊎ B`) -/
theorem nfaInclCongrSimRaw_iff {A B : NFA} {R : Rel} (hdis : ∀ q, q ∈ nfaStates A → q ∈ nfaStates B → False)
    (hR : NfaSim (nfaUnionDisjoint A B) R) {fuel : Nat} {b : Bool}
    (h : nfaInclCongrSimRaw A B R fuel = some b) : b = true ↔ InclW A B := by
  unfold nfaInclCongrSimRaw at h
  split at h
  · cases h
  · next Rl hr =>
    cases h
    exact iff_of_true rfl (congr_cert_sound ((congrSimFunctor_inv hdis hR).2 Rl hr))
  · next w hr =>
    cases h
    obtain ⟨h1, h2⟩ := (congrSimFunctor_inv hdis hR).1 w hr
    exact iff_of_false Bool.false_ne_true (not_inclW_of_witness h1 h2)

/-- … and total above the bound (any relation, any operands) -/
theorem nfaInclCongrSimRaw_total (A B : NFA) (R : Rel) {fuel : Nat} (hf : fuelBoundCongr A B < fuel) :
    ∃ b, nfaInclCongrSimRaw A B R fuel = some b := by
  obtain ⟨r, hr⟩ := congrSimFunctor_terminates (R := R) hf
  unfold nfaInclCongrSimRaw
  rw [hr]
  cases r <;> exact ⟨_, rfl⟩

theorem CongrCert.congr {A B : NFA} {T T' : List CRule} (h : CongrCert A B T) (he : ∀ p, p ∈ T ↔ p ∈ T') :
    CongrCert A B T' :=
  ⟨h.1, h.2.1.mono (fun p hp => (he p).mp hp),
    fun p hp => ⟨(h.2.2 p ((he p).mpr hp)).1, fun a => ((h.2.2 p ((he p).mpr hp)).2 a).mono (fun p hp => (he p).mp hp)⟩⟩

/-- the final check of the certify-then-trust model never fails under the hypotheses: the checked model is total -/
theorem nfaInclCongrSim_total {A B : NFA} {R : Rel} (hdis : ∀ q, q ∈ nfaStates A → q ∈ nfaStates B → False)
    (hR : NfaSim (nfaUnionDisjoint A B) R) {fuel : Nat} (hf : fuelBoundCongr A B < fuel) :
    ∃ b, nfaInclCongrSim A B R fuel = some b := by
  obtain ⟨r, hr⟩ := congrSimFunctor_terminates (R := R) hf
  unfold nfaInclCongrSim
  rw [hr]
  cases r with
  | ok Rl =>
    have hc := (congrSimFunctor_inv hdis hR).2 Rl hr
    have hc' : CongrCert A B (rulesOf Rl ++ simRules R) :=
      hc.congr (fun p => by simp only [List.mem_append]; exact Or.comm)
    simp only
    rw [if_pos (congrCertB_complete hc')]
    exact ⟨_, rfl⟩
  | error w =>
    obtain ⟨h1, h2⟩ := (congrSimFunctor_inv hdis hR).1 w hr
    simp only
    rw [h1, h2]
    exact ⟨_, rfl⟩

end Vata
