import Vata.Proofs.NfaOpsCodedTrim
/-!
# `GetCandidateTree` as coded: for every scan order the automaton handed to `RemoveUselessStates` is a sub-automaton of the
input that accepts a word whenever the input does; the search ends within `candFuel` turns
-/
namespace Vata.NfaC
open Vata.W

abbrev candCl (N : NFA) (act : Nat) : List (Nat × Nat × Nat) := N.trans.filter (fun e => e.1 == act)


theorem candSee_res (st : CandSt) (x : Nat) : (candSee st x).res = st.res := by
  unfold candSee; split <;> rfl

/-- `candSee` is insert-if-new-and-push with a FIFO work-list -/
theorem ext_candSee (st : CandSt) (x : Nat) :
    Closure.Ext [x] (st.seen, st.queue) ((candSee st x).seen, (candSee st x).queue) := by
  unfold candSee
  split
  · next h => exact Closure.Ext.old (List.contains_iff_mem.mp h)
  · next h =>
    exact Closure.Ext.new (σ := (st.seen, st.queue)) (fun hm => h (List.contains_iff_mem.mpr hm))
      (fun _ => List.mem_append.trans (or_congr_right List.mem_singleton)) (Nat.le_of_eq List.length_append)

theorem mem_candSee_seen {st : CandSt} {x q : Nat} : q ∈ (candSee st x).seen ↔ q ∈ st.seen ∨ q = x :=
  ((ext_candSee st x).marked q).trans (or_congr_right List.mem_singleton)

theorem mem_candSee_queue {st : CandSt} {x q : Nat} :
    q ∈ (candSee st x).queue ↔ q ∈ st.queue ∨ (q = x ∧ x ∉ st.seen) :=
  ((ext_candSee st x).work q).trans (or_congr_right
    ⟨fun h => ⟨List.mem_singleton.mp h.1, List.mem_singleton.mp h.1 ▸ h.2⟩, fun h => ⟨List.mem_singleton.mpr h.1, h.1 ▸ h.2⟩⟩)

theorem candSee_queue_length (st : CandSt) (x : Nat) : (candSee st x).queue.length ≤ st.queue.length + 1 := by
  unfold candSee
  split
  · omega
  · simp


/-- `res` holds whole clusters only -/
def CandWhole (N : NFA) (T : List (Nat × Nat × Nat)) : Prop :=
  ∀ e, e ∈ T → ∀ e', e' ∈ N.trans → e'.1 = e.1 → e' ∈ T

theorem candInsCluster_same (A : NFAS) (act : Nat) (res : NFAS) :
    (candInsCluster A act res).start = res.start ∧ (candInsCluster A act res).final = res.final ∧
    (candInsCluster A act res).startSyms = res.startSyms := by
  unfold candInsCluster; split <;> exact ⟨rfl, rfl, rfl⟩

theorem candInsCluster_trans (A : NFAS) (act : Nat) (res : NFAS) (hw : CandWhole A.toNFA res.trans) :
    (∀ e, e ∈ (candInsCluster A act res).trans ↔ e ∈ res.trans ∨ e ∈ candCl A.toNFA act) ∧
    CandWhole A.toNFA (candInsCluster A act res).trans := by
  unfold candInsCluster
  split
  · rename_i h
    rw [List.any_eq_true] at h
    obtain ⟨e0, he0, h0⟩ := h
    simp only [beq_iff_eq] at h0
    refine ⟨fun e => ⟨Or.inl, fun h' => h'.elim id (fun h'' => ?_)⟩, hw⟩
    obtain ⟨h1, h2⟩ := mem_cand_cl.mp h''
    exact hw e0 he0 e h1 (h2.trans h0.symm)
  · refine ⟨fun e => List.mem_append, ?_⟩
    intro e he e' he' h1
    rcases List.mem_append.mp he with h | h
    · exact List.mem_append_left _ (hw e h e' he' h1)
    · exact List.mem_append_right _ (mem_cand_cl.mpr ⟨he', h1.trans (mem_cand_cl.mp h).2⟩)


/-- between two turns of the `while` loop -/
structure CandL (A : NFAS) (st : CandSt) : Prop where
  inv : CandInv A.toNFA st.queue st.seen st.res.trans
  whole : CandWhole A.toNFA st.res.trans
  hstart : ∀ s, s ∈ st.res.start ↔ s ∈ A.start
  hfin : st.res.final = []

/-- what the search returns: a sub-automaton that accepts a word -/
def CandGood (A : NFAS) (r : NFAS) : Prop := NfaSub r.toNFA A.toNFA ∧ ∃ w, acceptsW r.toNFA w = true

/-- the inner loops have run over the targets `xs` of `act` without meeting a final state: all are seen, the new ones
queued (`ext`), the cluster of `act` copied (at the first target) -/
structure CandSeg (A : NFAS) (act : Nat) (xs : List Nat) (st st' : CandSt) : Prop where
  nf : ∀ x, x ∈ xs → x ∉ A.final
  ext : Closure.Ext xs (st.seen, st.queue) (st'.seen, st'.queue)
  start : st'.res.start = st.res.start
  final : st'.res.final = st.res.final
  whole : CandWhole A.toNFA st.res.trans → CandWhole A.toNFA st'.res.trans
  trans : CandWhole A.toNFA st.res.trans →
    ∀ e, e ∈ st'.res.trans ↔ e ∈ st.res.trans ∨ (xs ≠ [] ∧ e ∈ candCl A.toNFA act)

/-- the inner loops: the first final target `x` ends the search, with the cluster of `act` copied; otherwise `CandSeg` -/
theorem candInner_seg (A : NFAS) (act : Nat) : ∀ (xs : List Nat) (st : CandSt),
    match candInner A act xs st with
    | .inl r => ∃ x, x ∈ xs ∧ x ∈ A.final ∧ r.start = st.res.start ∧ r.final = insN st.res.final x ∧
        (CandWhole A.toNFA st.res.trans → ∀ e, e ∈ r.trans ↔ e ∈ st.res.trans ∨ e ∈ candCl A.toNFA act)
    | .inr st' => CandSeg A act xs st st' := by
  intro xs
  induction xs with
  | nil =>
    intro st
    show CandSeg A act [] st st
    exact ⟨fun _ h => (nomatch h), Closure.Ext.refl _, rfl, rfl, id, fun _ e => by simp⟩
  | cons x xs ih =>
    intro st
    simp only [candInner, candSee_res]
    by_cases hf : A.final.contains x = true
    · rw [if_pos hf]
      exact ⟨x, List.mem_cons_self, List.contains_iff_mem.mp hf, (candInsCluster_same A act _).1,
        (candInsCluster_same A act _).2.1, fun hw => (candInsCluster_trans A act (nfasSetFinal st.res x) hw).1⟩
    · rw [if_neg hf]
      have htr := candInsCluster_trans A act st.res
      obtain ⟨hs, hfn, _⟩ := candInsCluster_same A act st.res
      have h := ih ⟨(candSee st x).seen, (candSee st x).queue, candInsCluster A act st.res⟩
      revert h
      split
      · rintro ⟨y, hy, hyf, h1, h2, h3⟩
        exact ⟨y, List.mem_cons_of_mem _ hy, hyf, h1.trans hs, hfn ▸ h2,
          fun hw e => by rw [h3 (htr hw).2, (htr hw).1, or_assoc, or_self]⟩
      · intro g
        refine ⟨fun y hy => ?_, (ext_candSee st x).trans g.ext, g.start.trans hs, g.final.trans hfn,
          fun hw => g.whole (htr hw).2, fun hw e => ?_⟩
        · rcases List.mem_cons.mp hy with rfl | hy
          · exact fun h => hf (List.contains_iff_mem.mpr h)
          · exact g.nf y hy
        · rw [g.trans (htr hw).2, (htr hw).1]
          exact ⟨fun h => h.elim (fun h => h.elim Or.inl fun h => Or.inr ⟨List.cons_ne_nil _ _, h⟩)
            fun h => Or.inr ⟨List.cons_ne_nil _ _, h.2⟩, fun h => h.elim (fun h => Or.inl (Or.inl h)) fun h => Or.inl (Or.inr h.2)⟩

/-- a turn that expands `act` without meeting a final state keeps the loop invariant -/
theorem CandL.turn {o : NfaOrd} (ho : o.Ok) {A : NFAS} {st st' : CandSt} {act : Nat} {rest : List Nat}
    (hq : st.queue = act :: rest) (inv : CandL A st)
    (seg : CandSeg A act (nfaClusterTargets o A.toNFA act) ⟨st.seen, rest, st.res⟩ st') : CandL A st' := by
  have htg : ∀ q, q ∈ nfaClusterTargets o A.toNFA act ↔ nfaE A.toNFA act q := fun q => mem_nfaClusterTargets ho
  refine ⟨(hq ▸ inv.inv).expand htg seg.nf seg.ext.marked seg.ext.work
    (fun e => (seg.trans inv.whole e).trans (or_congr_right ⟨fun h => mem_cand_cl.mp h.2, fun h => ⟨?_, mem_cand_cl.mpr h⟩⟩)),
    seg.whole inv.whole, fun s => seg.start ▸ inv.hstart s, seg.final.trans inv.hfin⟩
  exact List.ne_nil_of_mem ((htg e.2.2).mpr ⟨e.2.1, by rw [← h.2]; exact h.1⟩)

/-- partial correctness of the search loop: a returned automaton is a sub-automaton of the input, non-empty when the input
is -/
theorem candLoop_spec {o : NfaOrd} (ho : o.Ok) (A : NFAS) : ∀ (fuel : Nat) (st : CandSt) (r : NFAS), CandL A st →
    candLoop o A fuel st = some r →
      NfaSub r.toNFA A.toNFA ∧ ((∃ w, acceptsW A.toNFA w = true) → ∃ w, acceptsW r.toNFA w = true) := by
  intro fuel
  induction fuel with
  | zero => intro _ _ _ h; simp [candLoop] at h
  | succ n ih =>
    intro st r inv h
    simp only [candLoop] at h
    split at h
    · rename_i hq
      cases h
      refine ⟨⟨fun s hs => (inv.hstart s).mp hs, ?_, inv.inv.hT⟩, ?_⟩
      · intro q hq'
        rw [show st.res.toNFA.final = [] from inv.hfin] at hq'
        exact nomatch hq'
      · exact fun ⟨w, hw⟩ => absurd hw ((hq ▸ inv.inv).not_accepts w)
    · rename_i act rest hq
      split at h
      · -- no cluster: a turn without targets
        rename_i he
        refine ih _ r (inv.turn ho hq ?_) h
        rw [show nfaClusterTargets o A.toNFA act = [] by simp [nfaClusterTargets, List.isEmpty_iff.mp he]]
        exact candInner_seg A act [] _
      · have seg := candInner_seg A act (nfaClusterTargets o A.toNFA act) ⟨st.seen, rest, st.res⟩
        split at h
        · rename_i r' hr'
          cases h
          rw [hr'] at seg
          obtain ⟨x, hx, hxf, h1, h2, h3⟩ := seg
          replace h3 := h3 inv.whole
          obtain ⟨a, hax⟩ := (mem_nfaClusterTargets ho).mp hx
          obtain ⟨s, hs, w, hp⟩ := inv.inv.hreach act (inv.inv.hq act (hq ▸ List.mem_cons_self))
          have hst : ∀ s, s ∈ r.start ↔ s ∈ A.start := fun s => h1 ▸ inv.hstart s
          exact And.imp_right (fun h _ => h) (NfaSub.of_path (fun s => (hst s).mp) (by rw [h2, inv.hfin]; rfl) hxf
            (fun e he => ((h3 e).mp he).elim (inv.inv.hT e) fun h => (mem_cand_cl.mp h).1) ((hst s).mpr hs)
            ((hp.mono (N := ⟨[], [], st.res.trans⟩) (M := r.toNFA) fun e he => (h3 e).mpr (Or.inl he)).snoc
              ((h3 _).mpr (Or.inr (mem_cand_cl.mpr ⟨hax, rfl⟩)))))
        · rename_i st' hst'
          rw [hst'] at seg
          exact ih st' r (inv.turn ho hq seg) h

theorem candLoop_total {o : NfaOrd} (ho : o.Ok) (A : NFAS) : ∀ (fuel : Nat) (st : CandSt),
    Closure.mu (A.trans.map (·.2.2)) (st.seen, st.queue) < fuel → ∃ r, candLoop o A fuel st = some r := by
  intro fuel
  induction fuel with
  | zero => intro _ h; omega
  | succ n ih =>
    intro st h
    simp only [candLoop]
    split
    · exact ⟨_, rfl⟩
    · rename_i act rest hq
      have h' : Closure.mu (A.trans.map (·.2.2)) (st.seen, rest) < n := by
        simp only [Closure.mu, hq, List.length_cons] at h ⊢; omega
      split
      · exact ih _ h'
      · have seg := candInner_seg A act (nfaClusterTargets o A.toNFA act) ⟨st.seen, rest, st.res⟩
        split
        · exact ⟨_, rfl⟩
        · rename_i st' hst'
          rw [hst'] at seg
          refine ih _ (Nat.lt_of_le_of_lt (seg.ext.mu _ fun x hx => ?_) h')
          obtain ⟨a, he⟩ := (mem_nfaClusterTargets ho).mp hx
          exact List.mem_map.mpr ⟨_, he, rfl⟩


/-- the state of the scan after the start states described by `D` -/
structure CandScan (A : NFAS) (D : Nat → Prop) (st : CandSt) : Prop where
  hq : ∀ q, q ∈ st.queue ↔ q ∈ st.seen
  hseen : ∀ q, q ∈ st.seen ↔ D q
  hstart : ∀ q, q ∈ st.res.start ↔ D q
  hfin : st.res.final = []
  htr : st.res.trans = []
  hnf : ∀ q, D q → q ∉ A.final

theorem CandScan.congr {A : NFAS} {D D' : Nat → Prop} {st : CandSt} (h : ∀ q, D q ↔ D' q) (s : CandScan A D st) :
    CandScan A D' st :=
  ⟨s.hq, fun q => (s.hseen q).trans (h q), fun q => (s.hstart q).trans (h q), s.hfin, s.htr,
    fun q hq => s.hnf q ((h q).mpr hq)⟩

theorem candStartLoop_spec (A : NFAS) : ∀ (ss : List Nat) (D : Nat → Prop) (st : CandSt), CandScan A D st →
    (∀ q, D q → q ∈ A.start) → (∀ s, s ∈ ss → s ∈ A.start) →
    match candStartLoop true A ss st with
    | .inl r => CandGood A r
    | .inr st' => CandScan A (fun q => D q ∨ q ∈ ss) st' := by
  intro ss
  induction ss with
  | nil => exact fun D st h _ _ => h.congr (fun q => ⟨Or.inl, fun h' => h'.elim id (fun h'' => nomatch h'')⟩)
  | cons s ss ih' =>
    intro D st h hD hss
    simp only [candStartLoop, Bool.true_and, candSee_res]
    have hst : ∀ q, q ∈ (nfasSetExistingStart st.res s (A.symsOf s)).start ↔ D q ∨ q = s :=
      fun q => by rw [← h.hstart q]; exact NfaS.mem_insN
    have hD' : ∀ q, D q ∨ q = s → q ∈ A.start := fun q hq => hq.elim (hD q) fun e => e ▸ hss s List.mem_cons_self
    by_cases hf : A.final.contains s = true
    · rw [if_pos hf]
      show CandGood A _
      exact NfaSub.of_path (s := s) (fun q hq => hD' q ((hst q).mp hq)) (congrArg (insN · s) h.hfin)
        (List.contains_iff_mem.mp hf) (fun e (he : e ∈ st.res.trans) => by rw [h.htr] at he; exact nomatch he)
        ((hst s).mpr (Or.inr rfl)) (.nil s)
    · rw [if_neg hf]
      have ih := ih' (fun q => D q ∨ q = s)
        ⟨(candSee st s).seen, (candSee st s).queue, nfasSetExistingStart st.res s (A.symsOf s)⟩
        ⟨fun q => ?_, fun q => by simp only [mem_candSee_seen, h.hseen], hst, h.hfin, h.htr, ?_⟩ hD'
        (fun q hq => hss q (List.mem_cons_of_mem _ hq))
      · revert ih
        split
        · exact id
        · intro ih
          exact ih.congr (fun q => by rw [List.mem_cons, or_assoc])
      · -- queue and seen grow together
        unfold candSee
        split
        · exact h.hq q
        · simp only [List.mem_append, h.hq q]
      · rintro q (h' | h')
        · exact h.hnf q h'
        · rw [h']; exact fun h' => hf (List.contains_iff_mem.mpr h')

theorem candStartLoop_len (A : NFAS) (f : Bool) : ∀ (ss : List Nat) (st st' : CandSt),
    candStartLoop f A ss st = .inr st' → st'.queue.length ≤ st.queue.length + ss.length := by
  intro ss
  induction ss with
  | nil => intro st st' h; simp only [candStartLoop] at h; cases h; simp
  | cons s ss ih =>
    intro st st' h
    simp only [candStartLoop] at h
    split at h
    · cases h
    · have := ih _ st' h
      have h2 := candSee_queue_length st s
      simp only [List.length_cons] at this ⊢
      omega

/-- **`GetCandidateTree` as coded, before the final `RemoveUselessStates`**: for every scan order, a returned automaton is a
sub-automaton of the input and accepts some word whenever the input does -/
theorem nfasCandidateCodedRaw_spec {o : NfaOrd} (ho : o.Ok) (A : NFAS) (fuel : Nat) (r : NFAS)
    (h : nfasCandidateCodedRaw o true A fuel = some r) :
    NfaSub r.toNFA A.toNFA ∧ ((∃ w, acceptsW A.toNFA w = true) → ∃ w, acceptsW r.toNFA w = true) := by
  unfold nfasCandidateCodedRaw at h
  have hsp := candStartLoop_spec A (iterSet o.sts A.start) (fun _ => False) ⟨[], [], nfasEmpty⟩
    ⟨fun _ => Iff.rfl, fun _ => ⟨fun h => (nomatch h), False.elim⟩, fun _ => ⟨fun h => (nomatch h), False.elim⟩, rfl, rfl,
      fun _ h => h.elim⟩ (fun _ h => h.elim) (fun s hs => (mem_iterSet ho.1).mp hs)
  split at h
  · rename_i r' hr'
    cases h
    rw [hr'] at hsp
    exact ⟨hsp.1, fun _ => hsp.2⟩
  · rename_i st hst
    rw [hst] at hsp
    refine candLoop_spec ho A fuel st r ?_ h
    have hD : ∀ q, q ∈ st.seen ↔ q ∈ A.start := by
      intro q; rw [hsp.hseen, mem_iterSet ho.1]; exact ⟨fun h' => h'.elim False.elim id, Or.inr⟩
    refine ⟨hsp.htr ▸ CandInv.init hD hsp.hq fun q hq => hsp.hnf q ((hsp.hseen q).mp hq), ?_, ?_, hsp.hfin⟩
    · intro e he; rw [hsp.htr] at he; exact nomatch he
    · intro s; rw [hsp.hstart, mem_iterSet ho.1]; exact ⟨fun h' => h'.elim False.elim id, Or.inr⟩

/-- **totality**: `candFuel` turns suffice -/
theorem nfasCandidateCodedRaw_total {o : NfaOrd} (ho : o.Ok) (A : NFAS) (f : Bool) :
    ∃ r, nfasCandidateCodedRaw o f A (candFuel o A.toNFA) = some r := by
  unfold nfasCandidateCodedRaw
  split
  · exact ⟨_, rfl⟩
  · rename_i st hst
    apply candLoop_total ho
    have h1 := candStartLoop_len A f _ _ st hst
    have h2 : unseen (A.trans.map (·.2.2)) st.seen ≤ A.trans.length :=
      Nat.le_trans (unseen_le_length _ _) (Nat.le_of_eq (List.length_map _))
    simp only [List.length_nil, Nat.zero_add] at h1
    show st.queue.length + unseen (A.trans.map (·.2.2)) st.seen < candFuel o A.toNFA
    unfold candFuel
    omega

end Vata.NfaC
