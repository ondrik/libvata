import Vata.TaSim
/-! Sub-automata have sub-languages; rule-closed sets of states (`ProdClosed`) and the restriction to one keeps `reach`. -/
namespace Vata

theorem matchKids_mono {qs : List Nat} {ss ss' : List (List Nat)}
    (h : All2 (fun s s' => ∀ q, q ∈ s → q ∈ s') ss ss') : matchKids qs ss = true → matchKids qs ss' = true := by
  induction h generalizing qs with
  | nil => exact id
  | cons hd _ ih =>
    cases qs with
    | nil => exact id
    | cons q qs =>
      simp only [matchKids, Bool.and_eq_true, List.contains_iff_mem]
      exact fun ⟨h1, h2⟩ => ⟨hd q h1, ih h2⟩

/-- sub-automaton ⇒ sub-language (monotonicity of `reach`) -/
theorem reach_mono (A B : TA) (h : ∀ r, r ∈ A.rules → r ∈ B.rules) : ∀ (t : Tree) (q : Nat), q ∈ reach A t → q ∈ reach B t :=
  fun t q => (SimTo.of_sub h).reach t q q rfl

theorem accepts_sub {P Q : TA} (hr : ∀ r, r ∈ P.rules → r ∈ Q.rules) (hf : ∀ q, q ∈ P.final → q ∈ Q.final) (t : Tree) :
    accepts P t = true → accepts Q t = true :=
  (SimTo.of_sub hr).accepts (fun q hq => ⟨q, hf q hq, rfl⟩) t

/-- a set `P` of states closed under the rules (contains the parent of every rule whose children are in it) -/
def ProdClosed (A : TA) (P : List Nat) : Prop := ∀ r, r ∈ A.rules → (∀ k, k ∈ r.kids → k ∈ P) → r.parent ∈ P

/-- every state that can label a tree is in every rule-closed set: `reach` only yields productive states -/
theorem reach_sub_closed (A : TA) (P : List Nat) (hP : ProdClosed A P) : ∀ (t : Tree) (q : Nat), q ∈ reach A t → q ∈ P := by
  refine tree_induction fun f ts ih q => ?_
  rw [mem_reach_node]
  rintro ⟨r, hr, _, hk, rfl⟩
  refine hP r hr fun k hk' => ?_
  obtain ⟨t, ht, hkt⟩ := hk.exists_right k hk'
  exact ih t ht k hkt

/-- restriction to the rules all of whose states are in `P` -/
def restrict (A : TA) (P : List Nat) : TA :=
  ⟨A.rules.filter (fun r => P.contains r.parent && r.kids.all (fun k => P.contains k)), A.final.filter (fun q => P.contains q)⟩

theorem matchKids_self {qs : List Nat} {ss ss' : List (List Nat)}
    (h : All2 (fun s s' => ∀ q, q ∈ s → q ∈ s') ss ss') : True := trivial

/-- removing the rules that mention a state outside a rule-closed set does not change `reach` -/
theorem reach_restrict (A : TA) (P : List Nat) (hP : ProdClosed A P) :
    ∀ (t : Tree) (q : Nat), q ∈ reach A t → q ∈ reach (restrict A P) t := by
  refine tree_induction fun f ts ih q hq => ?_
  have hqP := reach_sub_closed A P hP _ q hq
  rw [mem_reach_node] at hq ⊢
  obtain ⟨r, hr, hs, hk, rfl⟩ := hq
  refine ⟨r, ?_, hs, hk.mono fun k t _ ht => ih t ht k, rfl⟩
  simp only [restrict, List.mem_filter, Bool.and_eq_true, List.contains_iff_mem, List.all_eq_true]
  refine ⟨hr, hqP, fun k hk' => ?_⟩
  obtain ⟨t, _, hkt⟩ := hk.exists_right k hk'
  exact reach_sub_closed A P hP t k hkt

theorem reachL_restrict (A : TA) (P : List Nat) (hP : ProdClosed A P) :
    ∀ ts : List Tree, All2 (fun s s' => ∀ q, q ∈ s → q ∈ s') (reachL A ts) (reachL (restrict A P) ts)
  | [] => All2.nil
  | t :: ts => All2.cons (reach_restrict A P hP t) (reachL_restrict A P hP ts)

theorem restrict_lang (A : TA) (P : List Nat) (hP : ProdClosed A P) (t : Tree) :
    accepts (restrict A P) t = accepts A t := by
  rw [Bool.eq_iff_iff]
  refine ⟨accepts_sub (fun r hr => (List.mem_filter.mp hr).1) (fun q hq => (List.mem_filter.mp hq).1) t, ?_⟩
  simp only [accepts_iff_reach]
  rintro ⟨q, hq, hf⟩
  refine ⟨q, reach_restrict A P hP t q hq, ?_⟩
  simp only [restrict, List.mem_filter, List.contains_iff_mem]
  exact ⟨hf, reach_sub_closed A P hP t q hq⟩

#print axioms restrict_lang
end Vata
