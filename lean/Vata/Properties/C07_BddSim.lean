import Vata.Proofs.BddSim
import Vata.Proofs.InclDown
import Vata.Proofs.InclDownInv
import Vata.Proofs.InclDownTotal
import Vata.Proofs.Sanitize
import Vata.Proofs.UsefulAux
/-!
# C07 – the relation `ComputeSimulation` computes on a bottom-up BDD automaton, and the inclusion pruned by it

`BDDBUTreeAutCore::CheckInclusion`, case `ANTICHAINS_DOWN_REC_SIM` ("downward + simulation"), sanitises both operands
(`A'`, `B'`, `n` states in all), forms `U = UnionDisjointStates(A', B')`, calls
`U.ComputeSimulation(TA_DOWNWARD, SetNumStates(n))` – i.e. `BDDBUTreeAutCore::ComputeDownwardSimulation(n)` – converts both
operands to the top-down encoding and runs the recursive downward inclusion with that relation as the pruning preorder.
`Vata/Properties/C07.lean` (`C07_bu_downward_sim_exact`) models the relation by the reference `downSimRef U`; here it is
the model of the code as written, `Vata.BddSim.bddDownSim U n` (`Vata/BddSim.lean`, theorems `Vata/Proofs/BddSim.lean`;
checked against the real function by the `bddsim` cases: `harness/ops/op_bddsim.inc`, `Driver/BddSimChk.lean`).
-/
namespace Vata.Props
open Vata.InclUp

/-- the relation returned by `ComputeDownwardSimulation(n)` is a downward simulation on the automaton (every related
pair passes the transfer condition), whatever iteration order the hash containers produce -/
theorem C07_bddsim_simulation {A : TA} {n fuel : Nat} {o : BddSim.Order} (ok : o.Ok A) {R : Rel}
    (h : BddSim.bddDownSimOrd A n o fuel = some R) : isDownSimB A R = true ∧ DownSim A (RelOf R) :=
  ⟨(isDownSimB_iff A R).mpr (BddSim.bddDownSimOrd_spec ok h).1, (BddSim.bddDownSimOrd_spec ok h).1⟩

/-- the run on `exB` in the standard order returns `exR` (up to the order of the pairs) -/
theorem exB_run : (BddSim.bddDownSimOrd BddSimEx.exB 7 (BddSim.stdOrder BddSimEx.exB) 25).map
    (fun R => relEq R BddSimEx.exR) = some true :=
  (by decide : BddSim.fuelBound BddSimEx.exB = 25) ▸ BddSimEx.exB_run

example : BddSim.bddDownSimOrd BddSimEx.exB 7 (BddSim.stdOrder BddSimEx.exB) 25 ≠ none ∧
    (BddSim.stdOrder BddSimEx.exB).Ok BddSimEx.exB :=
  ⟨fun h => (nomatch (h ▸ exB_run : Option.map _ none = some true)), BddSim.stdOrder_ok _⟩

/-- … exactly the greatest downward simulation of the automaton restricted to the states that own a top-down entry
(final states and states that occur in a children tuple); in particular it is contained in the greatest one, reflexive
on those states and transitive, and a state that is only a parent of rules is unrelated even to itself -/
theorem C07_bddsim_greatest_on_entry_states {A : TA} {n fuel : Nat} {R : Rel}
    (h : BddSim.bddDownSim A n fuel = some R) :
    (∀ q r, (q, r) ∈ R ↔ q ∈ BddSim.tdStates A ∧ r ∈ BddSim.tdStates A ∧ (q, r) ∈ downSimRef A) ∧
    (∀ q, (q, q) ∈ R ↔ q ∈ A.final ∨ ∃ ρ, ρ ∈ A.rules ∧ q ∈ ρ.kids) ∧
    (∀ a b c, (a, b) ∈ R → (b, c) ∈ R → (a, c) ∈ R) :=
  ⟨bddDownSim_char h, fun q => (bddDownSim_refl h q).trans BddSim.mem_tdStates,
    fun _ _ _ hab hbc => bddDownSim_trans h hab hbc⟩

example : (BddSim.bddDownSim BddSimEx.exB 7 25).map (fun R => relEq R BddSimEx.exR) = some true ∧
    (6, 6) ∉ BddSimEx.exR ∧ (6, 6) ∈ downSimRef BddSimEx.exB :=
  ⟨exB_run, by decide +kernel, by rw [BddSimEx.exB_ref]; decide⟩

/-- the relation does not depend on the iteration orders the code leaves to the hash containers and the MTBDD
traversal, nor on the order in which pairs are taken out of `remove`; nor on "ghost" keys of the table (tuples whose MTBDD
is empty everywhere, left behind by `RemoveUselessStates`) as long as the same states own a top-down entry -/
theorem C07_bddsim_order_independent {A : TA} {n n' fuel fuel' : Nat} {o o' : BddSim.Order} (ok : o.Ok A)
    (ok' : o'.Ok A) (hQ : ∀ q, q ∈ o.Q ↔ q ∈ o'.Q) {R R' : Rel} (h : BddSim.bddDownSimOrd A n o fuel = some R)
    (h' : BddSim.bddDownSimOrd A n' o' fuel' = some R') : relEq R R' = true :=
  BddSim.bddDownSimOrd_order_indep ok ok' hQ h h'

example : (BddSim.revOrder BddSimEx.exB (fun k => 7 * k + 3)).Ok BddSimEx.exB ∧
    (∀ q, q ∈ (BddSim.stdOrder BddSimEx.exB).Q ↔ q ∈ (BddSim.revOrder BddSimEx.exB (fun k => 7 * k + 3)).Q) ∧
    BddSim.bddDownSimOrd BddSimEx.exB 9 (BddSim.revOrder BddSimEx.exB (fun k => 7 * k + 3)) 30 ≠ none :=
  ⟨BddSim.revOrder_ok _, fun q => by simp [BddSim.revOrder, BddSim.stdOrder],
    fun h => (nomatch (h ▸ BddSimEx.exB_revRun : Option.map _ none = some true))⟩

/-- the refinement loop terminates: at most (number of tuples of the table)² iterations, for every iteration order;
`none` is returned only for a state outside the matrix -/
theorem C07_bddsim_terminates {A : TA} {n fuel : Nat} {o : BddSim.Order} (ok : o.Ok A)
    (hf : o.T.length * o.T.length ≤ fuel) :
    ((∀ q, q ∈ A.states ∨ q ∈ o.Q → q < n) → ∃ R, BddSim.bddDownSimOrd A n o fuel = some R) ∧
    (BddSim.bddDownSimOrd A n o fuel = none ↔ ∃ q, (q ∈ A.states ∨ q ∈ o.Q) ∧ n ≤ q) :=
  ⟨fun hn => BddSim.bddDownSimOrd_total ok (fun q hq => hn q (Or.inl hq)) (fun q hq => hn q (Or.inr hq)) hf,
    BddSim.bddDownSimOrd_none ok hf⟩

example : (∀ q, q ∈ BddSimEx.exB.states → q < 7) ∧ BddSim.fuelBound BddSimEx.exB = 25 := by decide +kernel

/-- **the pruned inclusion is exact**: the recursive downward inclusion model (`inclDownSim`, `Vata/InclDown.lean`) run with
ANY relation the simulation code returns for the disjoint union of disjoint operands passes its validation of the
relation, so every verdict is exact; and when the rule children of the left operand are productive it returns the
right verdict for every fuel above the bound.  The model needs of the relation only (a) – reflexivity is supplied by the
comparison functions themselves (`ordOf`: `q == r || …`), transitivity is not used by the recursive variant -/
theorem C07_bddsim_pruned_inclusion_exact {A' B' : TA} {n fuel₀ : Nat} {o : BddSim.Order}
    (ok : o.Ok (unionDisjoint A' B')) {R : Rel} (h : BddSim.bddDownSimOrd (unionDisjoint A' B') n o fuel₀ = some R)
    (hdis : InclDown.disjointB A' B' = true) :
    (∀ fuel b c, inclDownSim A' B' R fuel = some (b, c) → (b = true ↔ Incl A' B')) ∧
    (InclDown.KidsProductive A' → ∀ fuel, InclDown.fuelBoundD A' B' < fuel →
      (Incl A' B' → ∃ c, inclDownSim A' B' R fuel = some (true, c)) ∧
      (¬ Incl A' B' → ∃ c, inclDownSim A' B' R fuel = some (false, c))) :=
  ⟨fun _ _ _ hv => inclDownSim_iff hv,
    fun hK _ hf => inclDownSim_complete hK (C07_bddsim_simulation ok h).1 hdis hf⟩

/-- the non-recursive variant additionally asks for transitivity: the computed relation has it -/
theorem C07_bddsim_transitive {A : TA} {n fuel : Nat} {o : BddSim.Order} (ok : o.Ok A) {R : Rel}
    (h : BddSim.bddDownSimOrd A n o fuel = some R) : ∀ a b c, (a, b) ∈ R → (b, c) ∈ R → (a, c) ∈ R := by
  intro a b c hab hbc
  rw [BddSim.bddDownSimOrd_greatest ok h] at hab hbc ⊢
  obtain ⟨ha, _, S, hS, hab⟩ := hab
  obtain ⟨_, hc, S', hS', hbc⟩ := hbc
  exact ⟨ha, hc, _, SimModel.downSim_comp A hS hS', b, hab, hbc⟩

theorem tdReachable_entry {A : TA} {q : Nat} (h : TdReachable A q) : q ∈ BddSim.tdStates A := by
  rw [BddSim.mem_tdStates]
  cases h with
  | final hf => exact Or.inl hf
  | step hr _ hk => exact Or.inr ⟨_, hr, hk⟩

/-- in a disjoint union of automata without useless states every state owns a top-down entry -/
theorem entry_of_useful_union {A' B' : TA} (hA : ∀ q, Occurs A' q → UsefulState A' q)
    (hB : ∀ q, Occurs B' q → UsefulState B' q) :
    ∀ q, q ∈ (unionDisjoint A' B').states → q ∈ BddSim.tdStates (unionDisjoint A' B') := by
  intro q hq
  rw [mem_states] at hq
  have key : Occurs A' q ∨ Occurs B' q := by
    rcases hq with h | ⟨r, hr, h⟩
    · rcases List.mem_append.mp h with h | h
      · exact Or.inl (Or.inl h)
      · exact Or.inr (Or.inl h)
    · rcases List.mem_append.mp hr with hr | hr
      · exact Or.inl (Or.inr ⟨r, hr, h⟩)
      · exact Or.inr (Or.inr ⟨r, hr, h⟩)
  rw [BddSim.mem_tdStates]
  rcases key with h | h
  · rcases BddSim.mem_tdStates.mp (tdReachable_entry (UsefulAux.usefulState_good (hA q h)).2) with k | ⟨r, hr, k⟩
    · exact Or.inl (List.mem_append_left _ k)
    · exact Or.inr ⟨r, List.mem_append_left _ hr, k⟩
  · rcases BddSim.mem_tdStates.mp (tdReachable_entry (UsefulAux.usefulState_good (hB q h)).2) with k | ⟨r, hr, k⟩
    · exact Or.inl (List.mem_append_right _ k)
    · exact Or.inr ⟨r, List.mem_append_right _ hr, k⟩

/-- the recursive exploration on the operands as the code prepares them, pruned by ANY relation that is a downward simulation of
their disjoint union: the remaining preconditions of `C01_downward_sim_exact` hold (disjoint, rule children productive), every
verdict is exact for the ORIGINAL question and is returned above the bound.  The relation may be the greatest simulation
(`C07_bu_downward_sim_exact`) or what the simulation code returns (`C07_bddsim_bu_downward_sim_exact`) -/
theorem inclDownSim_prepared (A B : TA) {R : Rel}
    (hsim : isDownSimB (unionDisjoint (sanitize A B).1 (sanitize A B).2.1) R = true) :
    (∀ fuel b c, inclDownSim (sanitize A B).1 (sanitize A B).2.1 R fuel = some (b, c) → (b = true ↔ Incl A B)) ∧
    (∀ fuel, InclDown.fuelBoundD (sanitize A B).1 (sanitize A B).2.1 < fuel →
      (Incl A B → ∃ c, inclDownSim (sanitize A B).1 (sanitize A B).2.1 R fuel = some (true, c)) ∧
      (¬ Incl A B → ∃ c, inclDownSim (sanitize A B).1 (sanitize A B).2.1 R fuel = some (false, c))) := by
  refine ⟨fun _ _ _ h => (inclDownSim_iff h).trans (checkIncl_sanitized A B), fun _ hf => ?_⟩
  rw [← checkIncl_sanitized A B]
  exact inclDownSim_complete (trimmed_of_allUsefulB (sanitize_trimmed A B).1).1 hsim
    (InclDown.disjointB_iff.mpr (sanitize_disjoint A B)) hf

/-- **the route of the bottom-up selection "downward + simulation", with the relation as the code computes it.**
`(A', B', n) = sanitize A B`, `U` their disjoint union: the simulation code returns a relation `R` within `fuelBound U`
iterations (all states are below `n`); on `U` – no useless states – `R` is the greatest downward simulation `downSimRef U`
(no pair is lost for want of a top-down entry); the recursive downward inclusion pruned by `R` answers the ORIGINAL
question exactly, and does answer for every fuel above its bound.  No hypothesis is left -/
theorem C07_bddsim_bu_downward_sim_exact (A B A' B' U : TA) (n : Nat) (hA' : A' = (sanitize A B).1)
    (hB' : B' = (sanitize A B).2.1) (hn : n = (sanitize A B).2.2) (hU : U = unionDisjoint A' B') :
    ∃ R, BddSim.bddDownSim U n (BddSim.fuelBound U) = some R ∧ relEq R (downSimRef U) = true ∧
      (∀ fuel b c, inclDownSim A' B' R fuel = some (b, c) → (b = true ↔ Incl A B)) ∧
      (∀ fuel, InclDown.fuelBoundD A' B' < fuel →
        (Incl A B → ∃ c, inclDownSim A' B' R fuel = some (true, c)) ∧
        (¬ Incl A B → ∃ c, inclDownSim A' B' R fuel = some (false, c))) := by
  subst hA' hB' hn hU
  have hbound : ∀ q, q ∈ (unionDisjoint (sanitize A B).1 (sanitize A B).2.1).states → q < (sanitize A B).2.2 := by
    intro q hq
    apply sanitize_bound A B q
    rw [mem_states] at hq
    rcases hq with h | ⟨r, hr, h⟩
    · rcases List.mem_append.mp h with h | h
      · exact Or.inl (final_mem_states h)
      · exact Or.inr (final_mem_states h)
    · rcases List.mem_append.mp hr with hr | hr
      · rcases h with h | h
        · exact Or.inl (h ▸ parent_mem_states hr)
        · exact Or.inl (kid_mem_states hr h)
      · rcases h with h | h
        · exact Or.inr (h ▸ parent_mem_states hr)
        · exact Or.inr (kid_mem_states hr h)
  obtain ⟨R, hR⟩ := bddDownSim_total hbound (Nat.le_refl _)
  have huse := sanitize_useful A B
  exact ⟨R, hR, bddDownSim_eq_downSimRef hR (entry_of_useful_union huse.1.1 huse.2.1),
    inclDownSim_prepared A B (bddDownSim_downSim hR)⟩

-- operands that overlap (state 7 in both), the first not trimmed: the simulation code runs on the sanitised union and
-- the pruned inclusion gives both verdicts
example : ((BddSim.bddDownSim (unionDisjoint (sanitize SanEx.exA SanEx.exB).1 (sanitize SanEx.exA SanEx.exB).2.1)
      (sanitize SanEx.exA SanEx.exB).2.2 20).bind
    (fun R => inclDownSim (sanitize SanEx.exA SanEx.exB).1 (sanitize SanEx.exA SanEx.exB).2.1 R 20)).map (·.1) = some true := by
  decide +kernel
example : ((BddSim.bddDownSim (unionDisjoint (sanitize SanEx.exB SanEx.exA).1 (sanitize SanEx.exB SanEx.exA).2.1)
      (sanitize SanEx.exB SanEx.exA).2.2 20).bind
    (fun R => inclDownSim (sanitize SanEx.exB SanEx.exA).1 (sanitize SanEx.exB SanEx.exA).2.1 R 20)).map (·.1) = some false := by
  decide +kernel

/-!
## what this file closes / leaves open in `Vata/Properties/C07.lean` ("not yet proved")

* closes, at the rule-set abstraction, the last sentence of the item "The `SIM` selections …": *"That the relation computed
  by `ComputeSimulation` on the BDD union inside the bottom-up route is `downSimRef` of the union is C04 (explicit encoding;
  the BDD simulation code has no model)"* – the BDD simulation code now has a model (`Vata.BddSim.bddDownSim`), the model is
  proved to return `downSimRef` on the sanitised union (`C07_bddsim_bu_downward_sim_exact`) and, on arbitrary automata, the
  greatest simulation restricted to the states with a top-down entry (`C07_bddsim_greatest_on_entry_states`);
* still open (item "The encodings themselves"): the model reads the MTBDDs as functions symbol ↦ leaf; that the apply
  functors of the real MTBDD package act pointwise is taken from C17 / C08 (`Vata/Proofs/MtbddOps.lean`), not re-proved
  here.  The three views the model takes of the automaton are linked to the MTBDD-level table models of C08 by
  `BddSim.tuples_bridge`, `BddSim.tdStates_bridge`, `BddSim.up_bridge`; the link from the model to the C++ is the `bddsim`
  correspondence check.
-/
end Vata.Props
