import Vata.Proofs.LtsUtil
/-!
# Utility classes inside the LTS simulation engine (support C16, C04): `SmartSet`, `SharedCounter`, `SharedList`,
# `CachingAllocator` / `CachingArrayAllocator`, `SplittingRelation`

> `Vata/LtsEngine.lean` (the model of `SimulationEngine`, property C16, whose output feeds the simulation-based
> reductions of C04) treats five helper classes as VALUES: a `SmartSet` is a list of `(key, count)` pairs in iteration
> order, the `SharedCounter`s are a table of numbers, a `SharedList` is a list of segments that is shared iff its id occurs
> elsewhere, the `SplittingRelation` is the list of its rows, the allocators do not exist.  This file states what makes that
> reading of the real classes legitimate.

## How the statement is read into the model

* **Specification (L0 / value).**  `Vata/LtsUtil.lean`, second half of each section: `SS.A`/`SS.aStep` (`aAdd`, `aRemove` ARE
  `insAdd`, `insRemove` of the engine model: `Util_LtsUtil_values_are_engine_values`), `SC.A`/`SC.aStep` (a number per key
  index), `SL.A`/`SL.aStep` (segments, `sharedId`), `SR.A`/`SR.aStep` (`aSplit` IS `relSplit`; erasing through the row
  iterator is `filter`), `CA.A` (the set of live objects).  The CALL DISCIPLINE of the engine is the Boolean `ok` of each
  section (e.g. `decr` only on a positive counter of a running block, `copyLabels` only into a freshly copy-constructed
  counter from a running one, `set` once per key before `init()`, `erase` only through the iterator of the row being
  iterated, `split(i)` only for a reflexive `i` below the capacity, insertion of a NEW key into a `SmartSet` only while
  `last_` is intact).
* **Model of the code (L2).**  `Vata/LtsUtil.lean`, first half of each section: the classes AS CODED – heaps of cells with
  explicit addresses, `index_`/`key_`/`labelMap_` arithmetic (`locate`: `index / rowSize`, `index % rowSize`), the
  reference count in the last cell of a counter row, `refCount_` of list nodes, the four links of every relation cell and
  the `offsetof` sentinels (`rowEnd(i)` and `rowBegin(i+1)` are the same address), free lists that keep stale content.
  `none` = the C++ has no defined behaviour (violated `assert`, out-of-range index, dangling pointer).
* **Correspondence (L3).**  kind `ltsutil` (`harness/ops/op_ltsutil.inc`, `Driver/LtsUtilChk.lean`, `tools/gen_ltsutil.py`):
  histories of calls on the REAL classes; after every step the whole state is read back – iteration order and counts of
  every set; master, row pointer, every cell and the reference count of every counter row, `get` of every keyed pair, the
  allocator's free list; `next_`/`refCount_`/`subList_` of every list node, every vector, both free lists; rows AND columns
  of the relation by iteration, all four links of every cell, the sentinels, the free list – and compared with `step`
  exactly and with `aStep` where the theorems below decide.
-/
namespace Vata.Props
open Vata.LU

/-! ## the values are the engine model's values -/

/-- the value-side functions of `Vata/LtsUtil.lean` are the functions `Vata/LtsEngine.lean` computes with -/
theorem Util_LtsUtil_values_are_engine_values :
    (∀ s a, SS.aAdd s a = Vata.LE.insAdd s a) ∧ (∀ s a, SS.aRemove s a = Vata.LE.insRemove s a) ∧
    (∀ s, SS.aKeys s = Vata.LE.insKeys s) ∧ (∀ rel i, SR.aSplit rel i = Vata.LE.relSplit rel i) ∧
    (∀ r : SL.RemList, SL.flat r = Vata.LE.flat r) ∧
    (∀ mask row, Glue.eraseEach mask row = row.filter (fun c => !mask.contains c)) :=
  ⟨Glue.aAdd_eq_insAdd, Glue.aRemove_eq_insRemove, Glue.aKeys_eq_insKeys, Glue.aSplit_eq_relSplit, Glue.flat_eq,
    Glue.eraseEach_eq_filter⟩

example : SS.aAdd [(3, 1), (5, 2)] 5 = [(3, 1), (5, 3)] ∧ SR.aSplit [[0, 1], [1]] 1 = [[0, 1, 2], [1, 2], [1, 2]] := by decide +kernel

/-! ## `CachingAllocator` -/

/-- for every history of `operator()` / `reclaim` in which only live objects are reclaimed: the free list never holds a
live object nor an object twice, live objects are pairwise different – so an allocation never hands out a live object -/
theorem Util_LtsUtil_CachingAllocator_history (ops : List CA.Op) {a : CA.T} {live : CA.A}
    (h : CA.run CA.mk [] ops = some (a, live)) :
    CA.Inv a live ∧ (CA.alloc a).1 ∉ live ∧ CA.Inv (CA.alloc a).2 ((CA.alloc a).1 :: live) :=
  ⟨CA.run_refines CA.inv_mk ops h, (CA.alloc_spec (CA.run_refines CA.inv_mk ops h)).1,
    (CA.alloc_spec (CA.run_refines CA.inv_mk ops h)).2.1⟩

example : CA.run CA.mk [] [.alloc, .alloc, .reclaim 0, .alloc, .reclaim 1] = some (⟨[1], 2, 3⟩, [0]) := by decide

/-- recycling is LIFO and leaves the object's content alone; the initializer runs once per allocation -/
theorem Util_LtsUtil_CachingAllocator_lifo (a : CA.T) (p : Nat) :
    CA.alloc (CA.reclaim a p) = (p, { a with inits := a.inits + 1 }) := rfl

/-! ## `SmartSet` -/

/-- HISTORY THEOREM.  Every history of `SmartSet` calls inside the discipline (`SS.ok`) is defined on the class as coded,
and afterwards every live set shows exactly its value: iteration order with counts, `size`, `empty`, `contains`, `count` -/
theorem Util_LtsUtil_SmartSet_history {ops : List SS.Op} (hok : SS.okAll [] ops = true) :
    ∃ w, SS.run [] ops = some w ∧ w.length = (SS.aRun [] ops).length ∧
      ∀ (i : Nat) (s : SS.T) (a : SS.A), w[i]? = some s → (SS.aRun [] ops)[i]? = some a →
        SS.toList s = some a.items ∧ s.size = a.items.length ∧ SS.isEmpty s = some a.items.isEmpty ∧
        s.index.length = a.range ∧
        ∀ k, k < a.range → SS.contains s k = some ((SS.aKeys a.items).contains k) ∧
          SS.count s k = some (SS.aCount a.items k) :=
  SS.run_observe hok

/-- one call: defined, and the representation invariant / refinement relation `SS.RW` is re-established for the value
after the abstract step (the relation contains: the cells behind `head_` are pairwise different live cells with pairwise
different keys and positive counts, `index_[k]` is the predecessor of the cell of `k` or null, `size_` is their number,
`last_` is the last cell unless the value is flagged `dangling`) -/
theorem Util_LtsUtil_SmartSet_step {w : SS.World} {aw : SS.AWorld} {op : SS.Op} (h : SS.RW w aw)
    (hok : SS.ok aw op = true) : ∃ w', SS.step w op = some w' ∧ SS.RW w' (SS.aStep aw op) :=
  SS.step_refines h hok

/-- FINDING (outside the engine's discipline): `erase()` does not repair `last_` when the erased element is the last one;
the next insertion of a new key dereferences the deleted cell.  On the model: no defined behaviour.  The engine never
inserts into a set it has removed from (`Block` constructors: the parent only `removeStrict`s, the child only `add`s;
`init`: `assignFlat` clears first), so C16 is not affected. -/
theorem Util_LtsUtil_SmartSet_dangling_last :
    ((SS.add (SS.mk 4) 1).bind (fun s => SS.remove s 1 false)).bind (fun s => SS.add s 2) = none ∧
    (∀ {s : SS.T} {a : SS.A} {k : Nat}, SS.R s a → a.dangling = true → k < a.range →
      (SS.aKeys a.items).contains k = false → SS.add s k = none) := by
  refine ⟨by decide, ?_⟩
  intro s a k hr hd hk hc
  apply SS.add_undefined hr
  rintro ⟨_, h | h⟩
  · rw [hc] at h; cases h
  · rw [hd] at h; cases h

/-- the discipline is exactly the domain on which the class as coded is defined (histories without self-assignment) -/
theorem Util_LtsUtil_SmartSet_discipline_tight {ops : List SS.Op} (hself : ∀ i, SS.Op.assign i i ∈ ops → False) :
    (SS.run [] ops).isSome = SS.okAll [] ops := SS.run_defined_iff hself

example : SS.okAll [] [.new 4, .add 0 1, .add 0 3, .add 0 1, .removeStrict 0 1, .new 4, .assignFlat 1 0, .copy 0] = true := by
  decide

/-! ## `SharedCounter` (with the `CachingArrayAllocator` it draws its rows from) -/

/-- HISTORY THEOREM.  Every history of counter calls inside the engine's discipline (`resize`, `set` once per key with a
positive count, `init()`; `decr` only on a positive counter of a running block; `copyLabels` only into a freshly
copy-constructed counter from a running one; destructor) is defined on the class as coded, every `decr` returns what the
plain table of numbers returns (old value - 1), and the final world satisfies the invariant `SC.Inv` against the final
table – for any key layout and any row size (31, 63, …), labels sharing a row or spanning several rows included -/
theorem Util_LtsUtil_SharedCounter_history {cfg : SC.Cfg} (ops : List SC.Op) (hok : SC.okAll cfg [] ops = true) :
    ∃ w', SC.run cfg SC.World.empty ops = some (w', (SC.aRun cfg [] ops).2) ∧ SC.Inv cfg w' (SC.aRun cfg [] ops).1 :=
  SC.run_refines_empty ops hok

/-- in every world satisfying the invariant, `get` of a positive counter is the number in the table (a counter that is 0
in a row that still has data may read anything: poison, stale or decremented cells – the engine never reads it) -/
theorem Util_LtsUtil_SharedCounter_get {cfg : SC.Cfg} {w : SC.World} {aw : SC.AWorld} {i l q idx : Nat} {a : SC.A} {c : SC.Cnt}
    (hinv : SC.Inv cfg w aw) (ha : aw.getD i none = some a) (hc : w.cnt i = some c) (hk : SC.keyIdx cfg l q = some idx)
    (hidx : idx < a.rows * cfg.rowSize) (hpos : 0 < a.at idx) : SC.get cfg w.mem c l q = some (a.at idx) :=
  SC.get_refines hinv ha hc hk hidx hpos

/-- REFERENCE COUNT = NUMBER OF SHARERS: the last cell of a row that a running counter points to holds the number of
(counter, row) pairs of the whole world that point to it (≥ 1); a row in the allocator's free list is referenced by no live
counter and is there once ("no row freed while shared", "no double free"); every referenced row is allocated and has
`rowSize + 1` cells -/
theorem Util_LtsUtil_SharedCounter_refcount {cfg : SC.Cfg} {w : SC.World} {aw : SC.AWorld} (hinv : SC.Inv cfg w aw) :
    (∀ {i r p : Nat} {a : SC.A} {c : SC.Cnt} {row : SC.Row}, aw.getD i none = some a → w.cnt i = some c →
      a.phase = .running → c[r]? = some row → row.data = some p →
      SC.cell w.mem p cfg.rowSize = SC.P.refs p w.cnts ∧ 1 ≤ SC.P.refs p w.cnts) ∧
    w.mem.free.Nodup ∧
    (∀ p, p ∈ w.mem.free → ∀ (i : Nat) (c : SC.Cnt) (r : Nat) (row : SC.Row),
      w.cnt i = some c → c[r]? = some row → row.data ≠ some p) ∧
    (∀ {i r p : Nat} {c : SC.Cnt} {row : SC.Row}, w.cnt i = some c → c[r]? = some row → row.data = some p →
      p < w.mem.next ∧ (w.mem.cells.get p).length = cfg.rowSize + 1) :=
  ⟨fun ha hc hph hr hd => SC.refcount_eq_sharers hinv ha hc hph hr hd, (SC.free_not_referenced hinv).1,
    (SC.free_not_referenced hinv).2, fun hc hr hd => SC.row_wellformed hinv hc hr hd⟩

/-- COPY ON WRITE: a `decr` inside the discipline never writes a data column of a row that has two or more sharers, and
changes nothing another live counter observes -/
theorem Util_LtsUtil_SharedCounter_copy_on_write {cfg : SC.Cfg} {w w' : SC.World} {aw : SC.AWorld} {i l q : Nat}
    {out : List Nat} (hinv : SC.Inv cfg w aw) (hok : SC.ok cfg aw (.decr i l q) = true)
    (h : SC.step cfg w (.decr i l q) = some (w', out)) :
    (∀ p, 2 ≤ SC.P.refs p w.cnts → ∀ col, col < cfg.rowSize → SC.cell w'.mem p col = SC.cell w.mem p col) ∧
    (∀ {j : Nat} {a : SC.A} {c : SC.Cnt}, j ≠ i → aw.getD j none = some a → w.cnt j = some c →
      w'.cnt j = some c ∧ (SC.aStep cfg aw (.decr i l q)).getD j none = some a ∧
      ∀ l' q' idx', SC.keyIdx cfg l' q' = some idx' → idx' < a.rows * cfg.rowSize → 0 < a.at idx' →
        SC.get cfg w'.mem c l' q' = SC.get cfg w.mem c l' q') :=
  ⟨SC.decr_no_shared_write hinv hok h, fun hji ha hc => SC.decr_other_unchanged hinv hok h hji ha hc⟩

example : SC.okAll SC.Ex.exCfg [] SC.Ex.exOps = true := by decide +kernel

/-- THE KEY LAYOUT of `SimulationEngine::init` as coded (`key_`, `labelMap_`; `delta1[a]` duplicate-free with states below
`states`): the `j`-th state of `delta1[a]` gets key index `off a + j` (consecutive, label after label), and its row
`(off a + j) / rowSize` lies in `[labelMap_[a].first, labelMap_[a].second)` – also when the label ends exactly at a row
boundary or spans several rows.  Hence `copyLabels(labels, parent)` copies the row of every keyed pair of every label in
`labels`, and the new block's value agrees with the parent's there -/
theorem Util_LtsUtil_SharedCounter_layout {rowSize states poison : Nat} {delta1 : List (List Nat)}
    (hd : ∀ d ∈ delta1, d.Nodup ∧ ∀ q ∈ d, q < states) {a j : Nat} (ha : a < delta1.length)
    (hj : j < (delta1.getD a []).length)
    (hsmall : SC.Layout.off delta1 a + (delta1.getD a []).length < 2 ^ 64) :
    (SC.mkCfg rowSize states poison delta1).key.getD (a * states + (delta1.getD a []).getD j 0) 0 =
        SC.Layout.off delta1 a + j ∧
    ((SC.mkCfg rowSize states poison delta1).labelMap.getD a (0, 0)).1 ≤ (SC.Layout.off delta1 a + j) / rowSize ∧
    (SC.Layout.off delta1 a + j) / rowSize < ((SC.mkCfg rowSize states poison delta1).labelMap.getD a (0, 0)).2 ∧
    (∀ {labels : List Nat} {srcRows : Nat}, a ∈ labels →
      ((SC.mkCfg rowSize states poison delta1).labelMap.getD a (0, 0)).2 ≤ srcRows →
      (SC.Layout.off delta1 a + j) / rowSize ∈ SC.copiedRows (SC.mkCfg rowSize states poison delta1) labels srcRows) :=
  ⟨SC.Layout.layout_key hd ha hj, (SC.Layout.layout_row_in_range hd ha hj hsmall).1,
    (SC.Layout.layout_row_in_range hd ha hj hsmall).2,
    fun hal hrows => SC.Layout.copiedRows_covers hd hal ha hj hsmall hrows⟩

/-- … and on values: after `copyLabels i j labels` the new counter holds the parent's number at every key index whose row was
copied, is `running`, and has that row -/
theorem Util_LtsUtil_SharedCounter_copyLabels_value (cfg : SC.Cfg) (aw : SC.AWorld) (i j : Nat) (labels : List Nat)
    (s : SC.A) (idx : Nat) (hi : i < aw.length) (hs : aw.getD j none = some s) (hrs : 0 < cfg.rowSize)
    (hrow : idx / cfg.rowSize ∈ SC.copiedRows cfg labels s.rows) :
    ∃ child, (SC.aStep cfg aw (.copyLabels i j labels)).getD i none = some child ∧ child.at idx = s.at idx ∧
      idx < child.rows * cfg.rowSize ∧ child.phase = .running :=
  SC.Layout.aStep_copyLabels_at cfg aw i j labels s idx hi hs hrs hrow

/-- 31 counters per row (plus the reference count) below 4096 states, 63 from 4096 states on -/
theorem Util_LtsUtil_getRowSize {n : Nat} : (n < 4096 → SC.getRowSize n = 31) ∧ (4096 ≤ n → n < 16384 → SC.getRowSize n = 63) :=
  ⟨SC.getRowSize_small, SC.getRowSize_medium⟩

example : (SC.mkLayout 31 31 [List.range 31, [0, 5]]).2 = [(0, 1), (1, 2)] := by decide

/-! ## `SharedList` -/

/-- HISTORY THEOREM.  Every history of the engine's `SharedList` calls (`append` = `enqueueToRemove`, `copy`, the lists made by
`init`, detaching a list, iterating it, `unsafeRelease` with the reclaiming deleter) inside the discipline is defined on
the class as coded, keeps the invariant `SL.Inv`, and every observable result (the flag of `append`, the elements
iterated) is what the value – lists of segments, a head being shared iff its id occurs behind another handle – says -/
theorem Util_LtsUtil_SharedList_history (n : Nat) (ops : List SL.Op) (hok : SL.okAll (SL.A.mk0 n) ops = true) :
    ∃ W' outs, SL.run (SL.World.mk0 n) ops = some (W', outs) ∧ SL.Inv W' (SL.aRun (SL.A.mk0 n) ops) ∧
      SL.Agree outs (SL.aOuts (SL.A.mk0 n) ops) :=
  SL.run_refines n ops hok

/-- in every reachable world the stored reference count of a node on a chain is the number of its referrers: handles
pointing to it plus nodes on chains whose `next_` points to it -/
theorem Util_LtsUtil_SharedList_refcount {n : Nat} {ops : List SL.Op} {W : SL.World} {outs : List (List Nat)}
    (hok : SL.okAll (SL.A.mk0 n) ops = true) (hrun : SL.run (SL.World.mk0 n) ops = some (W, outs)) :
    ∃ liveN : List Nat, liveN.Nodup ∧ (∀ m, m ∈ liveN ↔ SL.OnChain W m) ∧
      ∀ m ∈ liveN, (W.w.nodes.get m).rc =
        (W.detached :: W.slots).count (some m) + liveN.countP (fun m' => (W.w.nodes.get m').next == some m) :=
  SL.reachable_rc hok hrun

/-- in every reachable world the two free lists hold nothing twice, no node that is on a chain, and no vector of such a
node -/
theorem Util_LtsUtil_SharedList_free_lists {n : Nat} {ops : List SL.Op} {W : SL.World} {outs : List (List Nat)}
    (hok : SL.okAll (SL.A.mk0 n) ops = true) (hrun : SL.run (SL.World.mk0 n) ops = some (W, outs)) :
    W.w.nfree.Nodup ∧ W.w.vfree.Nodup ∧
    (∀ m, SL.OnChain W m → m ∉ W.w.nfree ∧ ∃ v, (W.w.nodes.get m).sub = some v ∧ v ∉ W.w.vfree) :=
  SL.reachable_free hok hrun

example : SL.okAll (SL.A.mk0 3) SL.Ex.ops = true := by decide

/-! ## `SplittingRelation` -/

/-- HISTORY THEOREM.  Every history on a new `SplittingRelation(m)` inside the discipline (one `init(index)` with in-range,
duplicate-free rows; `split(i)` of a reflexive index below the capacity; erasing through the iterator of the row being
iterated – the engine's loop, which reads `right_` of the cell it has just reclaimed) is defined on the class as coded,
`split` returns the old `size()`, and afterwards `size()`, every `row(i)` AND every `column(i)` iterate exactly the value:
the rows as lists, `split` = `relSplit` of the engine model, the erase loop = `filter`; column `j` lists the rows containing
`j` in increasing order -/
theorem Util_LtsUtil_SplittingRelation_history (m : Nat) (ops : List SR.Op) (hok : SR.okAll ⟨[], m, false⟩ ops = true)
    (hin : (SR.aRun ⟨[], m, false⟩ ops).1.inited = true) :
    ∃ s', SR.run (SR.mk m) ops = some (s', (SR.aRun ⟨[], m, false⟩ ops).2) ∧
      s'.size = (SR.aRun ⟨[], m, false⟩ ops).1.rel.length ∧
      ∀ i, i < (SR.aRun ⟨[], m, false⟩ ops).1.rel.length →
        (SR.rowCells s' i).map (·.map (·.2)) = some ((SR.aRun ⟨[], m, false⟩ ops).1.rel.getD i []) ∧
        (SR.colCells s' i).map (·.map (·.2)) = some (SR.aCol (SR.aRun ⟨[], m, false⟩ ops).1.rel i) := by
  obtain ⟨s', h1, h2⟩ := SR.run_refines_mk m ops hok
  have hinv : SR.Inv s' (SR.aRun ⟨[], m, false⟩ ops).1.rel := by
    have := h2.2; rw [hin] at this; simpa using this
  exact ⟨s', h1, SR.size_refines hinv, fun i hi => ⟨SR.rowCells_refines hinv hi, SR.colCells_refines hinv hi⟩⟩

/-- … and the final state satisfies the invariant `SR.Inv` (inside `SR.Rep`): the row lists and the column lists hold the
same cells, each closed doubly linked list runs between its two sentinels with `left_`/`right_` resp. `up_`/`down_`
mutually inverse, `rows_[i]`/`columns_[j]` point to the first and last cell (or to the sentinels when empty), cells are
allocated, pairwise different and not in the free list -/
theorem Util_LtsUtil_SplittingRelation_invariant (m : Nat) (ops : List SR.Op) (hok : SR.okAll ⟨[], m, false⟩ ops = true) :
    ∃ s', SR.run (SR.mk m) ops = some (s', (SR.aRun ⟨[], m, false⟩ ops).2) ∧ SR.Rep s' (SR.aRun ⟨[], m, false⟩ ops).1 :=
  SR.run_refines_mk m ops hok

/-- the single operations, from any state that satisfies the invariant -/
theorem Util_LtsUtil_SplittingRelation_ops {s : SR.T} {rel : List (List Nat)} (h : SR.Inv s rel) {i : Nat}
    (hi : i < rel.length) :
    (∀ mask, ∃ s', SR.eraseRow s i mask = some s' ∧
      SR.Inv s' (rel.set i ((rel.getD i []).filter (fun c => !mask.contains c)))) ∧
    (rel.length < s.rows.length → (rel.getD i []).contains i = true →
      ∃ s', SR.split s i = some s' ∧ SR.Inv s' (SR.aSplit rel i)) :=
  ⟨fun mask => SR.eraseRow_refines h hi mask, fun hcap hrefl => SR.split_refines h hi hcap hrefl⟩

/-- `split(i)` makes the new index related exactly like `i` plus both directions between them: the new row is the row of
`i` followed by the new index (so it contains `i`, `i` being reflexive), and an old row contains the new index iff it
contains `i` (row `i` itself does) -/
theorem Util_LtsUtil_SplittingRelation_split_value (rel : List (List Nat)) (i : Nat) :
    (SR.aSplit rel i).length = rel.length + 1 ∧
    (SR.aSplit rel i).getD rel.length [] = rel.getD i [] ++ [rel.length] ∧
    (∀ {r : Nat}, r < rel.length → (∀ c ∈ rel.getD r [], c < rel.length) →
      (rel.length ∈ (SR.aSplit rel i).getD r [] ↔ i ∈ rel.getD r [])) :=
  ⟨SR.aSplit_length rel i, SR.aSplit_last rel i, fun hr hlt => SR.aSplit_mem_new rel i hr hlt⟩

/-- the free list of the relation's allocator holds nothing twice and never a cell that is linked into a row -/
theorem Util_LtsUtil_SplittingRelation_free_list {s : SR.T} {rel : List (List Nat)} (h : SR.Inv s rel) :
    s.free.Nodup ∧ (∀ a ∈ s.free, a < s.next) ∧
    ∀ i, i < rel.length → ∀ l, SR.rowCells s i = some l → ∀ ac ∈ l, ac.1 ∉ s.free ∧ ac.1 < s.next := by
  obtain ⟨R, C, hs, _⟩ := h
  refine ⟨hs.mem.fnd, hs.mem.flt, ?_⟩
  intro i hi l hl ac hac
  rw [hs.rowCells_eq hi] at hl
  obtain rfl := Option.some.inj hl
  obtain ⟨a, ha, rfl⟩ := List.mem_map.1 hac
  exact ⟨hs.mem.nfree i a ha, hs.mem.lt i a ha⟩

example : SR.okAll ⟨[], 5, false⟩ SR.Ex.ops = true := by decide

/-! ## what is NOT covered

* The engine's own code around the classes (which calls it makes, in which order) is `Vata/LtsEngine.lean` with the proofs in
  `Vata/Proofs/LtsEngine*.lean`; that every call sequence of the engine satisfies the `ok` predicates of this file is read off
  the C++ (`SimulationEngine::init`, `split`, `processRemove`) and checked by the `lts` histories of the harness, not proved.
* `SharedCounter`: 64-bit wrap-around of `master_ += count` / of the reference count is not modelled (`Nat`); outside the
  discipline the model mirrors the code (e.g. `get` of a counter that is 0 in a row with data returns the cell content).
* `SmartSet::operator<<`, `SharedList::release` (does not compile: refers to a member `counter_` that does not exist; never
  instantiated), `SharedCounter::operator<<`, the private `checkCol`/`checkRow` (assert-only) are not modelled.
-/

end Vata.Props
