import Vata.Proofs.RenameCodedEv
import Vata.Proofs.GlueTransl
import Vata.Proofs.Rename
import Vata.Proofs.UnionModel
/-!
# C14 as coded – part 3: what `ReindexStates` leaves behind

Parts 1 and 2 combined: with any lawful translator a (possibly interrupted) run leaves in the destination the images, under
the translator's FINAL container, of a prefix of the final states and of the rules (`Left`).  The rest are facts about the
strict / weak / total translators and `TranslateSymbols` that `Vata/Properties/C14_Coded.lean` uses.
-/
namespace Vata.RenameCoded
open Vata.Store

/-- what a (possibly interrupted) `ReindexStates(dst, …)` leaves in `d`: the images of a prefix `fpre` of the final states (if
they were asked for) and of a prefix `rpre` of the rules in iteration order; everything when nothing was thrown -/
structure Left (h : Nat → Nat) (src dst : Store) (af : Bool) (thrown : Option Nat) (d : Store) : Prop where
  ex : ∃ fpre fsuf rpre rsuf, (if af then src.final else []) = fpre ++ fsuf ∧ iterate src = rpre ++ rsuf ∧
    (thrown = none → fsuf = [] ∧ rsuf = []) ∧ (fsuf ≠ [] → rpre = []) ∧
    (∀ x, contains d x = true ↔ contains dst x = true ∨ ∃ r, r ∈ rpre ∧ x = mapRule h r) ∧
    (∀ q, q ∈ d.final ↔ q ∈ dst.final ∨ ∃ p, p ∈ fpre ∧ q = h p)
  winv : WInv dst → WInv d

/-- a run that threw nothing: both prefixes are the whole lists -/
theorem Left.complete {h : Nat → Nat} {src dst d : Store} {af : Bool} (l : Left h src dst af none d) :
    (∀ x, contains d x = true ↔ contains dst x = true ∨ ∃ r, r ∈ iterate src ∧ x = mapRule h r) ∧
    (∀ q, q ∈ d.final ↔ q ∈ dst.final ∨ ∃ p, p ∈ (if af then src.final else []) ∧ q = h p) := by
  obtain ⟨fpre, fsuf, rpre, rsuf, e1, e2, e3, _, e5, e6⟩ := l.ex
  obtain ⟨rfl, rfl⟩ := e3 rfl
  rw [List.append_nil] at e1 e2
  rw [e1, e2]
  exact ⟨e5, e6⟩

/-- the destination of a run with a stateless translator – also of an interrupted one – as a fold of store events: the images of
a prefix of the final states, then a prefix of the events of the clusters -/
theorem reindexInto_evs (g : Nat → Option Nat) (src dst : Store) (af : Bool) :
    ∃ fpre fsuf pre suf, (if af then src.final else []) = fpre ++ fsuf ∧
      clusterEvs (gd g) src.clusters = pre ++ suf ∧
      ((reindexInto (optT g) src dst () af).thrown = none → fsuf = [] ∧ suf = []) ∧ (fsuf ≠ [] → pre = []) ∧
      (reindexInto (optT g) src dst () af).dst = pre.foldl stepEv (setFinals dst (fpre.map (gd g))) := by
  cases af with
  | false =>
    obtain ⟨pre, suf, e1, e2, e3⟩ := clustersLoop_ev g src.clusters dst
    refine ⟨[], [], pre, suf, rfl, e1, ?_, fun h => absurd rfl h, ?_⟩
    · intro h
      exact ⟨rfl, e2 (by simpa [reindexInto] using h)⟩
    · simpa [reindexInto, setFinals] using e3
  | true =>
    obtain ⟨fpre, fsuf, f1, f2, hd⟩ := finalsLoop_fold g src.final dst
    rw [foldl_setFinal] at hd
    cases hr : (finalsLoop (optT g) src.final dst ()).thrown with
    | some k =>
      refine ⟨fpre, fsuf, [], _, f1, rfl, ?_, fun _ => rfl, ?_⟩
      · intro h; simp [reindexInto, hr] at h
      · simp only [reindexInto, if_true, hr, List.foldl_nil]; exact hd
    | none =>
      have := f2 hr
      subst this
      obtain ⟨pre, suf, e1, e2, e3⟩ := clustersLoop_ev g src.clusters (finalsLoop (optT g) src.final dst ()).dst
      refine ⟨fpre, [], pre, suf, f1, e1, ?_, fun h => absurd rfl h, ?_⟩
      · intro h
        refine ⟨rfl, e2 ?_⟩
        simpa [reindexInto, hr] using h
      · simp only [reindexInto, if_true, hr]
        rw [e3, hd]

theorem reindexInto_opt (g : Nat → Option Nat) (src dst : Store) (af : Bool) :
    Left (gd g) src dst af (reindexInto (optT g) src dst () af).thrown (reindexInto (optT g) src dst () af).dst := by
  obtain ⟨fpre, fsuf, pre, suf, k1, k2, k3, k4, k5⟩ := reindexInto_evs g src dst af
  have hrules : (iterate src).map (mapRule (gd g)) = rulesOf pre ++ rulesOf suf := by
    rw [← rulesOf_append, ← k2, rulesOf_clusterEvs (gd g) src.clusters src.final]
  obtain ⟨rpre, rsuf, r1, r2, r3⟩ := List.map_eq_append_iff.mp hrules
  refine ⟨⟨fpre, fsuf, rpre, rsuf, k1, r1, ?_, ?_, ?_, ?_⟩, ?_⟩
  · intro h
    obtain ⟨h1, h2⟩ := k3 h
    refine ⟨h1, ?_⟩
    subst h2
    simp only [rulesOf, List.filterMap_nil, List.map_eq_nil_iff] at r3
    exact r3
  · intro h
    have := k4 h
    subst this
    simp only [rulesOf, List.filterMap_nil, List.map_eq_nil_iff] at r2
    exact r2
  · intro x
    rw [k5, contains_foldl_stepEv, ← r2]
    simp only [List.mem_map, @eq_comm _ x]
    exact Iff.rfl  -- `contains` reads the clusters, which `setFinals` leaves alone
  · intro q
    rw [k5, final_foldl_stepEv]
    simp only [setFinals, mem_foldl_insN, List.mem_map, @eq_comm _ q]
  · intro hw
    rw [k5]
    exact winv_foldl_stepEv pre (winv_setFinals hw (fpre.map (gd g)) _ rfl rfl)

/-- any lawful translator object: the run leaves the images under the FINAL container of the translator -/
theorem reindexInto_lawful {σ : Type} {T : Transl σ} {view : σ → Nat → Option Nat} (L : Lawful T view)
    (src dst : Store) (st : σ) (af : Bool) :
    Left (gd (view (reindexInto T src dst st af).tr)) src dst af (reindexInto T src dst st af).thrown
      (reindexInto T src dst st af).dst := by
  have h := reindexInto_gen L src dst st af
  have hk : ∀ k, (reindexInto T src dst st af).thrown = some k → view (reindexInto T src dst st af).tr k = none := by
    intro k hk
    have := (appSeq_thrown (T := T) (lookupOrder src af) st k (by rw [← h.keys]; exact hk)).2
    rw [← h.keys] at this
    exact L.miss _ _ this
  have hrep := h.replay (view (reindexInto T src dst st af).tr) (Le.refl _) hk
  have := reindexInto_opt (view (reindexInto T src dst st af).tr) src dst af
  rw [hrep] at this
  exact this

theorem appSeq_strict (m : List (Nat × Nat)) : ∀ (ks : List Nat),
    appSeq strictT ks m = (ks.find? (fun k => (m.lookup k).isNone), m)
  | [] => rfl
  | k :: ks => by
    simp only [appSeq, List.find?_cons]
    cases h : m.lookup k with
    | none => simp [strictT, Glue.strict, h]
    | some v =>
      have : strictT.app m k = some (v, m) := by simp [strictT, Glue.strict, h]
      rw [this]
      simp only [Option.isNone_some]
      exact appSeq_strict m ks

theorem lawful_weakT (f : Glue.Alloc) : Lawful (weakT f) (fun st q => st.map.lookup q) := by
  refine ⟨?_, ?_, ?_⟩
  · intro st q q' st' h
    rw [weakT_app] at h
    simp only [Option.some.injEq, Prod.mk.injEq] at h
    rw [← h.1, ← h.2]
    exact Glue.weakMap_lookup_self _ _ _
  · intro st q q' st' h x y hx
    rw [weakT_app] at h
    simp only [Option.some.injEq, Prod.mk.injEq] at h
    rw [← h.2]
    exact Glue.weakMap_ext _ _ _ hx
  · intro st q h
    rw [weakT_app] at h
    cases h

theorem appSeq_weak_none (f : Glue.Alloc) : ∀ (ks : List Nat) (st : WeakSt), (appSeq (weakT f) ks st).1 = none
  | [], _ => rfl
  | k :: ks, st => by
    simp only [appSeq, weakT_app]
    exact appSeq_weak_none f ks _

def WeakOk (st : WeakSt) : Prop := Glue.InjMap st.map ∧ ∀ x y, st.map.lookup x = some y → y < st.cnt

theorem weakOk_step (st : WeakSt) (q q' : Nat) (st' : WeakSt) (h : WeakOk st)
    (ha : (weakT .counter).app st q = some (q', st')) : WeakOk st' := by
  rw [weakT_app] at ha
  simp only [Option.some.injEq, Prod.mk.injEq] at ha
  obtain ⟨_, e⟩ := ha
  subst e
  -- `WeakOk` is `Um.Inj ∧ Um.Below`, and this step is `weakTr`
  have g := Um.weakTr_grow st.map st.cnt q h.2
  rw [Glue.weakMap_eq_weakTr] at g
  exact ⟨g.inj h.1, g.below h.2⟩

theorem symLoop_fold (g : Nat → Option Nat) : ∀ (rs : List Rule) (dst : Store),
    FoldRun (fun s r => addTransition s (mapSym (gd g) r)) (symLoop (optT g) rs dst ()) dst rs
  | [], dst => .nil dst
  | r :: rs, dst => .app fun v hv => by subst hv; exact .cons (symLoop_fold g rs _)

theorem inv_foldl_add {s : Store} (h : Inv s) : ∀ (rs : List Rule), Inv (rs.foldl addTransition s) := by
  intro rs
  induction rs generalizing s with
  | nil => exact h
  | cons r rs ih => exact ih (inv_addTransition h r)

theorem mem_iterate_foldl_add {s : Store} (h : Inv s) (x : Rule) : ∀ (rs : List Rule),
    x ∈ iterate (rs.foldl addTransition s) ↔ x ∈ iterate s ∨ x ∈ rs := by
  intro rs
  induction rs generalizing s with
  | nil => simp
  | cons r rs ih =>
    rw [List.foldl_cons, ih (inv_addTransition h r), mem_iterate_addTransition h, List.mem_cons, or_assoc]

theorem final_foldl_add : ∀ (rs : List Rule) (s : Store), (rs.foldl addTransition s).final = s.final
  | [], _ => rfl
  | _ :: rs, _ => final_foldl_add rs _

theorem inv_noTrans (fin : List Nat) (h : fin.Nodup) : Inv ⟨[], fin⟩ :=
  ⟨keysNodup_nil, (by intro qc hqc; cases hqc), h⟩

theorem rule_keys_mem_mapKeys {s : Store} {r : Rule} (hr : r ∈ iterate s) :
    r.parent ∈ mapKeys s.clusters ∧ ∀ k, k ∈ r.kids → k ∈ mapKeys s.clusters := by
  obtain ⟨c, hc, ts, hts, ht⟩ := mem_iterate.mp hr
  simp only [mapKeys, clusterKeys, List.mem_flatMap, List.mem_cons, List.mem_flatten]
  exact ⟨⟨(r.parent, c), hc, Or.inl rfl⟩, fun k hk => ⟨(r.parent, c), hc, Or.inr ⟨(r.sym, ts), hts, r.kids, ht, hk⟩⟩⟩

theorem mem_mapKeys {s : Store} (h : Inv s) (k : Nat) :
    k ∈ mapKeys s.clusters ↔ ∃ r, r ∈ iterate s ∧ (k = r.parent ∨ k ∈ r.kids) := by
  constructor
  · simp only [mapKeys, clusterKeys, List.mem_flatMap, List.mem_cons, List.mem_flatten]
    rintro ⟨qc, hqc, hk | ⟨ft, hft, t, ht, hkt⟩⟩
    · obtain ⟨r, hr, e⟩ := exists_rule_of_mem (q := qc.1) (c := qc.2) h hqc
      exact ⟨r, hr, Or.inl (hk.trans e.symm)⟩
    · obtain ⟨q, c⟩ := qc
      obtain ⟨f, ts⟩ := ft
      exact ⟨⟨f, t, q⟩, mem_iterate.mpr ⟨c, hqc, ts, hft, ht⟩, Or.inr hkt⟩
  · rintro ⟨r, hr, rfl | hk⟩
    · exact (rule_keys_mem_mapKeys hr).1
    · exact (rule_keys_mem_mapKeys hr).2 k hk

theorem mem_lookupOrder {s : Store} (h : Inv s) (k : Nat) : k ∈ lookupOrder s true ↔ k ∈ usedStates s := by
  rw [mem_usedStates, lookupOrder, List.mem_append, mem_mapKeys h]
  simp

theorem appSeq_total_none (h : Nat → Nat) : ∀ (ks : List Nat), (appSeq (totalT h) ks ()).1 = none
  | [] => rfl
  | _ :: ks => by
    simp only [appSeq, totalT]
    exact appSeq_total_none h ks

theorem appSeq_hit {σ : Type} {T : Transl σ} {view : σ → Nat → Option Nat} (L : Lawful T view) :
    ∀ (ks : List Nat) (st : σ), (appSeq T ks st).1 = none → ∀ k, k ∈ ks → view (appSeq T ks st).2 k ≠ none
  | [], _, _, k, hk => by cases hk
  | x :: ks, st, h, k, hk => by
    simp only [appSeq] at h ⊢
    cases ha : T.app st x with
    | none => rw [ha] at h; cases h
    | some p =>
      obtain ⟨x', st'⟩ := p
      rw [ha] at h
      simp only at h ⊢
      rcases List.mem_cons.mp hk with e | hk'
      · subst e
        have := appSeq_le L ks st' _ _ (L.hit st k x' st' ha)
        rw [this]
        simp
      · exact appSeq_hit L ks st' h k hk'

end Vata.RenameCoded
