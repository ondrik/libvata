import Vata.CowHeapFAUnion
import Vata.Proofs.CowHeapFACand2
import Vata.Proofs.NfaUnionCoded
/-!
`Union` through the heap model is `nfasUnionWith` (proofs for `Vata/CowHeapFAUnion.lean`, property C11 / C10). The value the
block `new d; reindex a d fA; reindex b d fB` leaves denotes `nfasUnionWith fA fB A B` up to list order (no injectivity needed
for that; the language is the union once the translators are injective with disjoint images). The coded `ReindexStates` /
`Union` of `Vata/NfaLoadDump.lean` are the same up to list order, so the heap model agrees with `(nfaUnionCoded …).1`.
-/
namespace Vata.CowHeapFA

open Vata Vata.W Vata.NfaS Vata.NfaLD
open Vata.CowHeap (upd upd_same upd_other upd_upd_same)

theorem vNew_toNFAS : vNew.toNFAS = nfasEmpty := rfl

theorem nfasUnionWith_eq (fA fB : Nat → Nat) (A B : NFAS) :
    nfasUnionDisjoint (nfasUnionDisjoint nfasEmpty (nfasMap fA A)) (nfasMap fB B) = nfasUnionWith fA fB A B := rfl

theorem nfasUnionWith_eq' (fA fB : Nat → Nat) (A B : NFAS) :
    nfasUnionDisjoint (nfasMap fA A) (nfasMap fB B) = nfasUnionWith fA fB A B := rfl

theorem vUnion_denote (fA fB : Nat → Nat) (A B : FAVal) (hA : TuplesOk A.trans) (hB : TuplesOk B.trans) :
    NEquiv (vUnion fA fB A B).toNFAS (nfasUnionWith fA fB A.toNFAS B.toNFAS) := by
  have h1 := vReindex_denote fA A vNew hA
  have h2 := vReindex_denote fB B (vReindex fA A vNew) hB
  have h3 := h2.trans' (nfasUnionDisjoint_congr h1 (NEquiv.refl (nfasMap fB B.toNFAS)))
  rw [vNew_toNFAS, nfasUnionWith_eq] at h3
  exact h3

theorem vUnion_lang (fA fB : Nat → Nat) (A B : FAVal) (hA : TuplesOk A.trans) (hB : TuplesOk B.trans)
    (hiA : NfaInjOn fA (nfaStates A.toNFA)) (hiB : NfaInjOn fB (nfaStates B.toNFA))
    (hdis : ∀ p, p ∈ nfaStates A.toNFA → ∀ q, q ∈ nfaStates B.toNFA → fA p ≠ fB q) (w : List Nat) :
    acceptsW (vUnion fA fB A B).toNFA w = (acceptsW A.toNFA w || acceptsW B.toNFA w) :=
  ((vUnion_denote fA fB A B hA hB).lang w).trans (nfasUnionWith_lang fA fB A.toNFAS B.toNFAS w hiA hiB hdis)

theorem nfasReindexInto_nequiv (D : NFAS) (f : Nat → Nat) (A : NFAS) :
    NEquiv (nfasReindexInto D f A) (nfasUnionDisjoint D (nfasMap f A)) := by
  obtain ⟨h1, h2, h3, _⟩ := nfasReindexInto_spec D f A
  refine ⟨fun q => ?_, fun q => ?_, fun e => ?_, fun p => ?_⟩
  · rw [h3 q]
    show _ ↔ q ∈ D.start ++ A.start.map f
    rw [List.mem_append]
  · rw [h2 q]
    show _ ↔ q ∈ D.final ++ A.final.map f
    rw [List.mem_append]
  · rw [show (nfasReindexInto D f A).trans = _ from h1]
    exact Iff.rfl
  · exact nfasReindexInto_syms D f A p

theorem nfaUnionCodedFrom_nequiv (c : Nat) (oA oB : List Nat) (A B : NFAS) (mL mR : SMap) :
    NEquiv (nfaUnionCodedFrom c oA oB A B mL mR).1
      (nfasUnionWith (applyMap (nfaUnionCodedFrom c oA oB A B mL mR).2.1)
        (applyMap (nfaUnionCodedFrom c oA oB A B mL mR).2.2) A B) := by
  show NEquiv (nfasReindexInto (nfasReindexInto nfasEmpty (applyMap (weakTrAll oA mL c).1) A)
      (applyMap (weakTrAll oB mR (weakTrAll oA mL c).2).1) B) _
  have h1 := nfasReindexInto_nequiv nfasEmpty (applyMap (weakTrAll oA mL c).1) A
  have h2 := nfasReindexInto_nequiv (nfasReindexInto nfasEmpty (applyMap (weakTrAll oA mL c).1) A)
    (applyMap (weakTrAll oB mR (weakTrAll oA mL c).2).1) B
  have h3 := h2.trans' (nfasUnionDisjoint_congr h1 (NEquiv.refl (nfasMap (applyMap (weakTrAll oB mR (weakTrAll oA mL c).2).1) B)))
  rw [nfasUnionWith_eq] at h3
  exact h3

theorem vUnion_nfaUnionCoded (A B : FAVal) (pL pR : Option SMap) (hA : TuplesOk A.trans) (hB : TuplesOk B.trans) :
    NEquiv (vUnion (applyMap (unionMaps A B pL pR).1) (applyMap (unionMaps A B pL pR).2) A B).toNFAS
      (nfaUnionCoded A.toNFAS B.toNFAS pL pR).1 :=
  (vUnion_denote _ _ A B hA hB).trans'
    (nfaUnionCodedFrom_nequiv (unionCnt (pL.getD []) (pR.getD [])) (nfaVisitOrder A.toNFAS) (nfaVisitOrder B.toNFAS)
      A.toNFAS B.toNFAS (pL.getD []) (pR.getD [])).symm

theorem spec_unionOps (e : Nat → Option FAVal) (a b dst : Nat) (fA fB : Nat → Nat) (A B : FAVal)
    (ha : e a = some A) (hb : e b = some B) (hd : e dst = none) :
    (unionOps a b dst fA fB).foldl specStep e = upd e dst (some (vUnion fA fB A B)) := by
  have had : a ≠ dst := fun h => by rw [h, hd] at ha; cases ha
  have hbd : b ≠ dst := fun h => by rw [h, hd] at hb; cases hb
  show specStep (specStep (specStep e (.new dst)) (.reindex a dst fA)) (.reindex b dst fB) = _
  rw [specStep_new_dead hd,
    specStep_reindex_live fA ((upd_other _ _ had).trans ha) (upd_same _ _ _) had, upd_upd_same,
    specStep_reindex_live fB ((upd_other _ _ hbd).trans hb) (upd_same _ _ _) hbd, upd_upd_same]
  rfl

theorem fa_union_block (ops : List Op) (a b dst : Nat) (fA fB : Nat → Nat) (A B : FAVal)
    (ha : absFA (exec ops) a = some A) (hb : absFA (exec ops) b = some B) (hd : absFA (exec ops) dst = none) :
    absFA (exec (ops ++ unionOps a b dst fA fB)) = upd (absFA (exec ops)) dst (some (vUnion fA fB A B)) := by
  rw [absFA_exec_append, spec_unionOps _ a b dst fA fB A B ha hb hd]

theorem nfasUnionWith_congr (fA fB : Nat → Nat) {A A' B B' : NFAS} (h : NEquiv A A') (h' : NEquiv B B')
    (hA : NfaInjOn fA A.start) (hB : NfaInjOn fB B.start) :
    NEquiv (nfasUnionWith fA fB A B) (nfasUnionWith fA fB A' B') := by
  have := nfasUnionDisjoint_congr (nfasMap_congr fA h hA) (nfasMap_congr fB h' hB)
  rw [nfasUnionWith_eq', nfasUnionWith_eq'] at this
  exact this

/-- `Union` on the automata the objects denote: operands live, target dead ⇒ the target denotes `nfasUnionWith`; nothing
    happens otherwise (not what the block does then – `BlkOk` excludes it: `Union` returns a NEW object, its operands exist) -/
def denUnion (e : Nat → Option NFAS) (a b dst : Nat) (fA fB : Nat → Nat) : Nat → Option NFAS :=
  match e a, e b with
  | some A, some B => if (e dst).isNone then upd e dst (some (nfasUnionWith fA fB A B)) else e
  | _, _ => e

def denBlk (e : Nat → Option NFAS) : Blk → (Nat → Option NFAS)
  | .op o => denStep e o
  | .union a b dst fA fB => denUnion e a b dst fA fB

/-- what the block fold theorem asks of a block executed in the environment `e` of values: a single operation satisfies
    `FoldOk`; for `Union` the operands are live, the target is not, and each translator is injective on the start states of
    its operand -/
def BlkOk (e : Nat → Option FAVal) : Blk → Prop
  | .op o => FoldOk e o
  | .union a b dst fA fB =>
    (∃ A, e a = some A ∧ NfaInjOn fA A.mem.start) ∧ (∃ B, e b = some B ∧ NfaInjOn fB B.mem.start) ∧ e dst = none

theorem denUnion_congr {e e' : Nat → Option NFAS} (hab : EnvEq e e') (x y dst : Nat) (fA fB : Nat → Nat)
    (hA : ∀ A, e x = some A → NfaInjOn fA A.start) (hB : ∀ B, e y = some B → NfaInjOn fB B.start) :
    EnvEq (denUnion e x y dst fA fB) (denUnion e' x y dst fA fB) :=
  envEq_bind2 hab x y (fun _ _ _ _ ha hc h1 h2 =>
    envEq_res hab dst (nfasUnionWith_congr fA fB h1 h2 (hA _ ha) (hB _ hc)))

/-- `Den` along one block, from any heap -/
theorem Den.block {H : HeapFA} {e : Nat → Option NFAS} (h : Den H e) (b : Blk) (hok : BlkOk (absFA H) b) :
    Den (b.ops.foldl step H) (denBlk e b) := by
  cases b with
  | op o => exact h.next o hok
  | union x y dst fA fB =>
    obtain ⟨⟨A, hA, iA⟩, ⟨B, hB, iB⟩, hd⟩ := hok
    refine ⟨h.valid.foldl _, EnvEq.trans ?_ (denUnion_congr h.eq x y dst fA fB
      (fun _ hX => Option.some.inj ((den_some hA).symm.trans hX) ▸ iA)
      (fun _ hX => Option.some.inj ((den_some hB).symm.trans hX) ▸ iB))⟩
    show EnvEq (den (absFA ((unionOps x y dst fA fB).foldl step H))) (denUnion (den (absFA H)) x y dst fA fB)
    rw [(fa_history_refines h.valid.inv _).1, spec_unionOps _ x y dst fA fB A B hA hB hd, den_upd]
    simp only [denUnion, den_some hA, den_some hB, den_none hd, Option.isNone_none, if_true, Option.map_some]
    exact envEq_upd2 (EnvEq.refl _) dst (vUnion_denote fA fB A B (h.valid.wf x A hA).tup (h.valid.wf y B hB).tup)

theorem Den.blocks : ∀ (bs : List Blk) {H : HeapFA} {e : Nat → Option NFAS}, Den H e →
    (∀ n (h : n < bs.length), BlkOk (absFA ((blkOps (bs.take n)).foldl step H)) bs[n]) →
      Den ((blkOps bs).foldl step H) (bs.foldl denBlk e)
  | [], _, _, h, _ => h
  | b :: bs, H, _, h, hok => by
    have e : ∀ l : List Blk, (blkOps (b :: l)).foldl step H = (blkOps l).foldl step (b.ops.foldl step H) := fun l => by
      unfold blkOps; rw [List.flatMap_cons, List.foldl_append]
    rw [e]
    exact Den.blocks bs (h.block b (hok 0 (Nat.succ_pos _)))
      (fun n hn => e (bs.take n) ▸ hok (n + 1) (Nat.succ_lt_succ hn))

theorem fa_history_fold_blocks (bs : List Blk)
    (hok : ∀ n (h : n < bs.length), BlkOk (absFA (execB (bs.take n))) bs[n]) :
    EnvEq (den (absFA (execB bs))) (bs.foldl denBlk den0) :=
  (Den.blocks bs Den.init hok).eq

theorem foldl_denBlk_ops (ops : List Op) (e : Nat → Option NFAS) :
    (ops.map Blk.op).foldl denBlk e = ops.foldl denStep e := by
  induction ops generalizing e with
  | nil => rfl
  | cons o ops ih => exact ih (denStep e o)

theorem blkOps_map_op (ops : List Op) : blkOps (ops.map Blk.op) = ops := by
  unfold blkOps
  induction ops with
  | nil => rfl
  | cons o ops ih => simp [Blk.ops, List.flatMap_cons] at ih ⊢; exact ih

end Vata.CowHeapFA
