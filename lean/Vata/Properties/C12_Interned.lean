import Vata.Proofs.StoreInterned
/-!
# C12 (and C11) – the rule store with INTERNED children tuples: the tuple cache composed with the store

> C12.  After any sequence of AddTransition, SetStateFinal, SetStatesFinal, EraseFinalStates and Clear on an explicit tree
> automaton, iterating the automaton yields each distinct rule added since the last Clear exactly once and nothing else,
> and ContainsTransition answers true exactly for those rules. …

The theorems of `Vata/Properties/C12.lean` are about `Store.run`, a store that keeps the children tuples of a tuple set as
VALUES.  The C++ keeps `TuplePtr`s (`shared_ptr` to a tuple interned in the process-wide `globalTupleCache_`), orders and
compares them BY POINTER (`std::set<TuplePtr>`), and `ContainsTransition`, the duplicate detection of `AddTransition` and
`operator*` of the iterators go through the cache.  `Vata/Properties/C12.lean`, "not yet proved": *"Between tuple cache and
store: interning is a theorem about the cache class, value comparison is the store model; no theorem composes the two."*
This file composes them.

## How the C++ is read into the model (`Vata/StoreInterned.lean`)

* State `StoreI.Sys`: `cache` = `Cache::store_` (tuple ↦ (address of the interned tuple, `use_count`); the same
  representation and the same accessors `CM.aget / aset / adel / byId` as `CM.Sys.store` of `Vata/CacheModel.lean`),
  `clusters` = `*transitions_` with sets of ADDRESSES, `final` = `finalStates_`, `ext` = the `TuplePtr`s held by the rest
  of the process (other automata over the same global cache, copies of this automaton, temporaries of callers).
* `lookupC` = `Cache::lookup` (insert-or-find; found: `use_count + 1`; new node: count 1 at the address `ch` the allocator
  returns), `acquireC` = copy of a `TuplePtr`, `releaseC` = destructor of a `TuplePtr` (decrement; at 0
  `DeleteElementF`: `store_.erase(*v)`), `derefC` = `*p`.
* `addI` = `AddTransition`: the temporary `tupleLookup(children)`, the three `unique…` look-ups-or-inserts, `std::set::insert`
  comparing pointers (a copy of the pointer is made iff a node is inserted), death of the temporary.
  `containsI` = `ContainsTransition`: two `find`s, and only then `tupleLookup` – which INTERNS the asked tuple for the
  duration of the call (a node is created and destroyed when the tuple is unknown).  `clearI` = `Clear` (and the
  destructor, as far as tuples are concerned): every `TuplePtr` of every tuple set is released; `EraseFinalStates`.
  `copyOutI`, `envLookupI`, `envReleaseI`: what the environment may do at any time (copy the automaton, intern tuples of
  its own, drop pointers one by one – so copies die in any order and interleaved with everything else).
* **Allocator**: every call that may create a cache node carries the address offered by the allocator; the only
  requirement is that it is not the address of a LIVE tuple (`stepI = none` otherwise, and only then: `C12_interned_total`).
  Addresses of dead tuples may be reused immediately.  A theorem "for all `ops` such that `runI .lib ops = some s`" is
  therefore a theorem for every allocator and every behaviour of the environment.
* **Abstracted**: hash / pointer ORDER inside the containers (lists in insertion order; the theorems are about sets and
  "no rule twice"); copy-on-write sharing of whole tuple sets between automata (`Vata/CowHeap*.lean`) – a copy is an eager
  copy here, which gives the same liveness of tuples but larger `use_count`s; the weak-pointer control block is folded
  into the map entry.

## What is proved

`C12_interned_inv` (the invariant of every reachable state), `C12_interned_refines_values` /
`C12_interned_refines_values_alloc` (dereferencing the interned store gives exactly the value store of C12, for every
history, environment and allocator), `C12_interned_pointer_eq_iff_tuple_eq`, the transferred views
`C12_interned_iteration_exact`, `C12_interned_contains_exact`, `C12_interned_view_transfer`, `C12_interned_total`, `C12_interned_fair_allocator`,
`C12_interned_no_leak`, `C12_interned_cache_is_Util_Cache`, and the two regressions `C12_interned_regression_noErase`, `C12_interned_regression_rawSets`.
-/
namespace Vata.Props
open Vata.Store Vata.StoreI

/-- **Invariant of the interned store.**  In every state reachable by the library (any history, any allocator, any
    environment):
    two cache entries hold equal tuples iff they have the same address ("two live identities never hold equal tuples",
    and one identity holds one tuple);
    every pointer stored in a tuple set or held by the environment points to a cache entry (nothing dangles);
    the `use_count` of every entry is positive and is exactly the number of pointers to it. -/
theorem C12_interned_inv {ops : List OpI} {s : Sys} (h : runI .lib ops = some s) :
    (∀ v v' id id' rc rc', (v, id, rc) ∈ s.cache → (v', id', rc') ∈ s.cache → (v = v' ↔ id = id')) ∧
    (∀ p, p ∈ allIds s.clusters ++ s.ext → ∃ v rc, (v, p, rc) ∈ s.cache ∧ derefC s.cache p = v) ∧
    (∀ v id rc, (v, id, rc) ∈ s.cache → 0 < rc ∧ rc = (allIds s.clusters ++ s.ext).count id) := by
  have hi : CInv s.cache (allIds s.clusters ++ s.ext) := (runI_lib h).1
  refine ⟨fun _ _ _ _ _ _ => hi.tuple_eq_iff_id_eq, ?_, ?_⟩
  · intro p hp
    obtain ⟨v, rc, hm⟩ := hi.live p hp
    exact ⟨v, rc, hm, hi.derefC_eq hm⟩
  · intro v id rc hm
    exact ⟨(hi.cnt v id rc hm).2, (hi.cnt v id rc hm).1⟩

/-- **Refinement.**  For every history of the interned store – with `ContainsTransition` calls, copies, and arbitrary
    activity of the other users of the global cache in between, and whatever addresses the allocator hands out –
    dereferencing the pointers of the final state gives exactly the value store of C12 after the same mutating calls. -/
theorem C12_interned_refines_values {ops : List OpI} {s : Sys} (h : runI .lib ops = some s) :
    StoreI.abs s = Store.run (ops.filterMap toStoreOp) := (runI_lib h).2

/-- the same for a plain C12 history `ops` played against an arbitrary allocator `al` (step number ↦ offered address) -/
theorem C12_interned_refines_values_alloc (al : Nat → Nat) (ops : List Store.Op) {s : Sys}
    (h : runI .lib (liftOps al 0 ops) = some s) : StoreI.abs s = Store.run ops := by
  rw [C12_interned_refines_values h, filterMap_liftOps]

/-- **Totality.**  A call fails in the model only when the address it offers for a new node is the address of a live
    tuple – something no allocator does.  (No invariant is needed, and it holds in every mode.) -/
theorem C12_interned_total (m : Mode) (s : Sys) (op : OpI)
    (h : ∀ ch, opChoice op = some ch → ch ∉ liveIds s.cache) : (stepI m s op).isSome = true :=
  stepI_isSome m s op h

/-- the hypothesis of `C12_interned_total` cannot be dropped: offering the address of a live tuple is refused -/
example : stepI .lib ⟨[([1, 2], 100, 1)], [(1, [(7, [100])])], [], []⟩ (.add ⟨7, [3], 1⟩ 100) = none := by decide +kernel

/-- **Every history runs to the end against every fair allocator.**  Let the allocator be any function from the set of
    live addresses to an address that is not live (`runA` plays the history with its offers).  Then the whole run is
    defined, its final state satisfies the invariant and dereferences to the value store of C12. -/
theorem C12_interned_fair_allocator {alloc : List Nat → Nat} (hf : ∀ l, alloc l ∉ l) (ops : List OpI) :
    ∃ s, runA .lib alloc StoreI.empty ops = some s ∧ StoreI.Inv s ∧
      StoreI.abs s = Store.run (ops.filterMap toStoreOp) :=
  runA_lib hf inv_empty ops

/-- fair allocators exist, e.g. the one that always recycles the lowest dead address -/
theorem C12_interned_lowAlloc_fair (l : List Nat) : lowAlloc l ∉ l := lowAlloc_fair l

/-- **Pointer equality is tuple equality** on the pointers that exist in a reachable state: this is what makes the
    pointer-ordered `std::set<TuplePtr>` a set of tuples. -/
theorem C12_interned_pointer_eq_iff_tuple_eq {ops : List OpI} {s : Sys} (h : runI .lib ops = some s) {p p' : Nat}
    (hp : p ∈ allIds s.clusters ++ s.ext) (hp' : p' ∈ allIds s.clusters ++ s.ext) :
    p = p' ↔ derefC s.cache p = derefC s.cache p' := by
  have hi : CInv s.cache (allIds s.clusters ++ s.ext) := (runI_lib h).1
  exact ⟨fun e => by rw [e], hi.deref_inj hp hp'⟩

/-- **Iteration, transferred.**  Walking the three levels and dereferencing every `TuplePtr` (`operator*`) yields no
    rule twice and exactly the rules added since the last `Clear`. -/
theorem C12_interned_iteration_exact {ops : List OpI} {s : Sys} (h : runI .lib ops = some s) :
    (iterateI s).Nodup ∧ ∀ r, r ∈ iterateI s ↔ r ∈ (specRun (ops.filterMap toStoreOp)).rules := by
  rw [iterateI_eq, C12_interned_refines_values h]
  exact iterate_exact _

/-- **`ContainsTransition`, transferred.**  In a reachable state the call – which interns the asked tuple, compares
    POINTERS in the tuple set and drops the temporary – answers `true` exactly for the rules added since the last `Clear`;
    it leaves a state that satisfies the invariant and dereferences to the same value store (whatever the allocator did if
    a node had to be created for the asked tuple). -/
theorem C12_interned_contains_exact {ops : List OpI} {s s' : Sys} (h : runI .lib ops = some s) {r : Rule} {ch : Nat}
    {b : Bool} (hc : containsI .lib s r ch = some (s', b)) :
    (b = true ↔ r ∈ (specRun (ops.filterMap toStoreOp)).rules) ∧ StoreI.abs s' = StoreI.abs s ∧ StoreI.Inv s' := by
  obtain ⟨hi, ha, hb⟩ := containsI_lib (runI_lib h).1 hc
  refine ⟨?_, ha, hi⟩
  rw [hb, C12_interned_refines_values h]
  exact contains_exact _ r

/-- **Every other view transfers.**  `GetAcceptTrans`, `operator[]`, `GetUsedStates`, `AreTransitionsEmpty`,
    `IsStateFinal`, the iterator objects of `Vata/StoreIter.lean` … are functions `V` of the dereferenced store; each gives on
    the interned store what it gives on the value store, so every `C12_*` theorem applies verbatim. -/
theorem C12_interned_view_transfer {β : Type} (V : Store.Store → β) {ops : List OpI} {s : Sys}
    (h : runI .lib ops = some s) : V (StoreI.abs s) = V (Store.run (ops.filterMap toStoreOp)) := by
  rw [C12_interned_refines_values h]

/-- for instance: `GetAcceptTrans` through the pointers -/
theorem C12_interned_acceptTrans_exact {ops : List OpI} {s : Sys} (h : runI .lib ops = some s) :
    (acceptTrans (StoreI.abs s)).Nodup ∧ ∀ r, r ∈ acceptTrans (StoreI.abs s) ↔
      r ∈ (specRun (ops.filterMap toStoreOp)).rules ∧ r.parent ∈ (specRun (ops.filterMap toStoreOp)).final := by
  rw [C12_interned_refines_values h]
  exact acceptTrans_exact _

/-- **No leak.**  Once the automaton is cleared (or destroyed) and nobody else holds a tuple the cache is empty – the
    `assert(this->empty())` of `~Cache()`. -/
theorem C12_interned_no_leak {ops : List OpI} {s : Sys} (h : runI .lib ops = some s) (hc : s.clusters = [])
    (he : s.ext = []) : s.cache = [] := no_leak (runI_lib h).1 hc he

/-- **The cache component is the `Util::Cache` model.**  The cache state of `StoreI.Sys` has the type of `CM.Sys.store`
    (`Vata/CacheModel.lean`, the class model checked against the real `Util::Cache`), and the primitives the store uses are
    the effects on that map of the primitives of the class model: `Cache::lookup` = `CM.intern`, the copy of a `TuplePtr`
    = `CM.dupTmp`, its destructor = `CM.dropTmp` with the default (empty) user deleter. -/
theorem C12_interned_cache_is_Util_Cache (s : CM.Sys (List Nat)) :
    (∀ v ch, s.tmp = none → (∀ e, e ∈ s.store → 0 < e.2.2) →
      (CM.intern s v ch).map (fun r => (r.1.store, r.2)) = lookupC s.store v ch) ∧
    (∀ i id, s.tmp = none → s.slots[i]? = some (some id) → (CM.byId s.store id).isSome = true →
      (CM.dupTmp s i).map (·.store) = some (acquireC s.store id)) ∧
    (∀ id, s.tmp = some id → (CM.dropTmp .none s).store = releaseC .lib s.store id) :=
  ⟨lookupC_eq_intern s, acquireC_eq_dupTmp s,
    releaseC_eq_dropTmp s⟩

/-- the executable invariant test (`StoreI.invB`, for the driver) is sound -/
theorem C12_interned_invB_sound {s : Sys} (h : invB s = true) : StoreI.Inv s := inv_of_invB h

/-! ### non-vacuity: a history with a duplicate, another user of the cache, a copy, deaths and ADDRESS REUSE -/

namespace InternedEx
def r1 : Rule := ⟨7, [1, 2], 1⟩
def r2 : Rule := ⟨7, [1, 2], 2⟩      -- the same children tuple in another cluster: the same pointer
def r3 : Rule := ⟨8, [3], 1⟩
def r4 : Rule := ⟨7, [], 1⟩

/-- `[1,2]` is interned at 100 and used twice; the environment interns `[9]` at 101 and takes a copy of the automaton;
    `Clear`; the copy's pointers are dropped, so `[1,2]` dies; `[3]` is then interned AT THE ADDRESS 100 of the dead tuple;
    a `ContainsTransition` for the unknown tuple `[5]` creates and destroys a node at 102 -/
def ops : List OpI :=
  [.add r1 100, .add r2 555, .add r1 556, .setFinal 1, .envLookup [9] 101, .copyOut, .clear,
   .envRelease 100, .envRelease 100, .add r3 100, .add r4 102, .query ⟨8, [5], 1⟩ 103, .setFinal 2]

def final : Sys :=
  { cache := [([9], 101, 1), ([3], 100, 1), ([], 102, 1)], clusters := [(1, [(8, [100]), (7, [102])])], final := [2],
    ext := [101] }
end InternedEx

example : runI .lib InternedEx.ops = some InternedEx.final := by decide +kernel
example : StoreI.abs InternedEx.final = Store.run (InternedEx.ops.filterMap toStoreOp) ∧
    iterateI InternedEx.final = [InternedEx.r3, InternedEx.r4] ∧ invB InternedEx.final = true := by decide +kernel
/-- the state before the `Clear`: one entry for `[1,2]` with four pointers (two sets + the two of the copy) -/
example : runI .lib (InternedEx.ops.take 6) =
    some { cache := [([9], 101, 1), ([1, 2], 100, 4)], clusters := [(1, [(7, [100])]), (2, [(7, [100])])], final := [1],
           ext := [101, 100, 100] } := by decide +kernel
/-- `ContainsTransition` in the final state: pointer comparison gives the answers of the value store -/
example : (containsI .lib InternedEx.final InternedEx.r3 200).map (·.2) = some true ∧
    (containsI .lib InternedEx.final InternedEx.r1 200).map (·.2) = some false ∧
    (containsI .lib InternedEx.final ⟨8, [9], 1⟩ 200).map (·.2) = some false := by decide +kernel
/-- an allocator-driven history (`C12_interned_refines_values_alloc`): the allocator always offers 100 + step number -/
example : (runI .lib (liftOps (fun n => 100 + n) 0 StoreEx.ops1)).map StoreI.abs = some (Store.run StoreEx.ops1) := by
  decide +kernel
/-- the same calls against the eagerly recycling allocator `lowAlloc` (the addresses written in the calls are ignored,
    the environment drops its two copies of pointer 0): `[1,2]` lives at 0, `[9]` at 1; after the deaths `[3]` is put at the
    recycled 0, `[]` at 2 -/
example : runA .lib lowAlloc StoreI.empty
    [.add InternedEx.r1 0, .add InternedEx.r2 0, .add InternedEx.r1 0, .setFinal 1, .envLookup [9] 0, .copyOut, .clear,
     .envRelease 0, .envRelease 0, .add InternedEx.r3 0, .add InternedEx.r4 0, .query ⟨8, [5], 1⟩ 0, .setFinal 2] =
    some { cache := [([9], 1, 1), ([3], 0, 1), ([], 2, 1)], clusters := [(1, [(8, [0]), (7, [2])])], final := [2],
           ext := [1] } := by decide +kernel
/-- no leak on the example: drop the last outside pointer and clear -/
example : (runI .lib (InternedEx.ops ++ [.envRelease 101, .clear])).map (·.cache) = some [] := by decide +kernel

/-! ### regressions: a realistic slip gives a wrong `ContainsTransition` on a concrete history -/

/-- **Deleter without `store_.erase(*v)`.**  `r1 = 7([1,2]) → 1` is added and the automaton cleared: the tuple `[1,2]`
    dies but its entry stays.  `7([3]) → 1` is added and its tuple is allocated at the recycled address 100.  Asking for
    `r1` the cache answers the stale entry – address 100 – which IS in the tuple set: `true`, although `r1` is gone (the
    value store and the library model say `false`). -/
theorem C12_interned_regression_noErase :
    let ops : List OpI := [.add ⟨7, [1, 2], 1⟩ 100, .clear, .add ⟨7, [3], 1⟩ 100]
    ((runI .noErase ops).bind (fun s => containsI .noErase s ⟨7, [1, 2], 1⟩ 200)).map (·.2) = some true ∧
    ((runI .lib ops).bind (fun s => containsI .lib s ⟨7, [1, 2], 1⟩ 200)).map (·.2) = some false ∧
    Store.contains (Store.run (ops.filterMap toStoreOp)) ⟨7, [1, 2], 1⟩ = false := by decide +kernel

/-- **Tuple sets that do not own their elements** (identity reuse with stale set entries).  After
    `AddTransition(7([1,2]) → 1)` the temporary dies, the tuple with it, the set keeps the stale address 100.
    `ContainsTransition(7([3]) → 1)` interns `[3]` – the allocator reuses address 100 – and finds "it" in the set: `true`
    for a rule that was never added. -/
theorem C12_interned_regression_rawSets :
    let ops : List OpI := [.add ⟨7, [1, 2], 1⟩ 100]
    ((runI .rawSets ops).bind (fun s => containsI .rawSets s ⟨7, [3], 1⟩ 100)).map (·.2) = some true ∧
    ((runI .lib ops).bind (fun s => containsI .lib s ⟨7, [3], 1⟩ 100)).map (·.2) = none ∧
    ((runI .lib ops).bind (fun s => containsI .lib s ⟨7, [3], 1⟩ 101)).map (·.2) = some false ∧
    Store.contains (Store.run (ops.filterMap toStoreOp)) ⟨7, [3], 1⟩ = false := by decide +kernel

/-- and the broken states violate the invariant test -/
example : (runI .noErase [.add ⟨7, [1, 2], 1⟩ 100, .clear, .add ⟨7, [3], 1⟩ 100]).map StoreI.invB = some false ∧
    (runI .rawSets [.add ⟨7, [1, 2], 1⟩ 100]).map StoreI.invB = some false := by decide +kernel

/-!
## still not proved

* **Sharing of tuple sets.**  A copy of the automaton is modelled as an eager copy of its tuple sets owned by the
  environment; the real copy shares `shared_ptr<TuplePtrSet>`s and un-shares on write (`uniqueTuplePtrSet`).  That the two
  give the same LIVENESS of every tuple (which is all the refinement uses) is argued in the header of
  `Vata/StoreInterned.lean`, not proved against `Vata/CowHeap*.lean`; the `use_count` numbers of this model are those of
  the eager copy, not the real ones.
* **Several automata as first-class handles.**  The theorems are about ONE automaton against an arbitrary environment
  (which covers every other automaton over the same cache by symmetry); a state with n named automata and
  assignment between them is not modelled, nor are the set operations (`Union`, …) that insert `TuplePtr`s of another
  automaton directly (`internalAddTransition` with a foreign pointer) – sound by `C12_interned_pointer_eq_iff_tuple_eq`
  only because all automata use the one global cache.  The constructor with a NON-global `tupleCache` argument is not modelled.
* **Allocators with memory.**  `C12_interned_fair_allocator` is about allocators that decide from the set of live
  addresses; an allocator whose offer depends on more (the order of the frees, say) is covered by the per-history form
  (`C12_interned_refines_values`, `C12_interned_total`: every sequence of offers that avoids live addresses) but has
  no `runA`-style totality theorem of its own.
* `invB` (with `Nodup` of keys and addresses) is proved SOUND for `Inv`; that every reachable state passes `invB` (no
  duplicate map entries at all) is not proved – `Inv` speaks about entries as a set.
* The broken modes `noErase` / `rawSets` are only good for the two regressions: in an inconsistent state the
  bookkeeping of `use_count`s by address is arbitrary among entries with the same address.
* Order of the containers, iterator invalidation, and that `addI`, `containsI`, `clearI` transcribe the C++ faithfully
  (correspondence check of the driver only): as in `Vata/Properties/C12.lean`.
-/
end Vata.Props
