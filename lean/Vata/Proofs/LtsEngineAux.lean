import Vata.LtsEngine
import Vata.Proofs.AssocList
import Vata.Proofs.ContainerLemmas
/-!
# Container lemmas for the LTS simulation engine model (`Vata/LtsEngine.lean`)

`lset`/`getD`, the counter and remove tables, `blockOf`, duplicate-free lists as sets, `rotateAfter`/`trySplit`, `SmartSet` lists
(`insAdd`, `insRemove`), the views of the LTS (`labels`, `hasIn`, `hasOut`, `bwLabels`, `pre`, `post`, `delta1`), `dedupF`, `relSplit`.
-/
namespace Vata.LE
open Vata.L

theorem getD_lset {α : Type} (d : α) (l : List α) (k j : Nat) (v : α) :
    (lset d l k v).getD j d = if j = k then v else l.getD j d := by
  unfold lset
  split
  · exact getD_set_of_lt d ‹_› v j
  · rw [getD_concat, getD_append_replicate, List.length_append, List.length_replicate]
    have : l.length + (k - l.length) = k := by omega
    rw [this]

def cget (cnt : List (List (List Nat))) (i a q : Nat) : Nat := ((cnt.getD i []).getD a []).getD q 0
def rget (rem : List (List (Option RemList))) (i a : Nat) : Option RemList := (rem.getD i []).getD a none

theorem cntv_eq (e : Eng) (i a q : Nat) : e.cntv i a q = cget e.cnt i a q := rfl
theorem remv_eq (e : Eng) (i a : Nat) : e.remv i a = rget e.rem i a := rfl

/-- writing entry `(i, a)` of a table of rows (`setRem`, `setCntRow`) and reading entry `(i', a')` -/
theorem getD_lset_lset {α : Type} (d : α) (t : List (List α)) (i a : Nat) (v : α) (i' a' : Nat) :
    ((lset [] t i (lset d (t.getD i []) a v)).getD i' []).getD a' d =
      if i' = i ∧ a' = a then v else (t.getD i' []).getD a' d := by
  rw [getD_lset]
  by_cases hi : i' = i
  · rw [if_pos hi, getD_lset, hi]
    by_cases ha : a' = a
    · rw [if_pos ha, if_pos ⟨rfl, ha⟩]
    · rw [if_neg ha, if_neg (fun h => ha h.2)]
  · rw [if_neg hi, if_neg (fun h => hi h.1)]

theorem rget_setRem (rem : List (List (Option RemList))) (i a : Nat) (v : Option RemList) (i' a' : Nat) :
    rget (setRem rem i a v) i' a' = if i' = i ∧ a' = a then v else rget rem i' a' :=
  getD_lset_lset none rem i a v i' a'

theorem cget_setCntRow (cnt : List (List (List Nat))) (i a : Nat) (row : List Nat) (i' a' q' : Nat) :
    cget (setCntRow cnt i a row) i' a' q' = if i' = i ∧ a' = a then row.getD q' 0 else cget cnt i' a' q' := by
  unfold cget setCntRow
  rw [getD_lset_lset]
  split <;> rfl

theorem cget_setCnt (cnt : List (List (List Nat))) (i a q v i' a' q' : Nat) :
    cget (setCnt cnt i a q v) i' a' q' = if i' = i ∧ a' = a ∧ q' = q then v else cget cnt i' a' q' := by
  show cget (setCntRow cnt i a (lset 0 ((cnt.getD i []).getD a []) q v)) i' a' q' = _
  rw [cget_setCntRow, getD_lset]
  by_cases h : i' = i ∧ a' = a
  · rw [if_pos h, h.1, h.2]
    by_cases hq : q' = q
    · rw [if_pos hq, if_pos ⟨rfl, rfl, hq⟩]
    · rw [if_neg hq, if_neg (fun h => hq h.2.2)]; rfl
  · rw [if_neg h, if_neg (fun h' => h ⟨h'.1, h'.2.1⟩)]

/-- a loop whose body only writes counters only writes counters -/
theorem foldl_cnt_only {α : Type} (f : Eng → α → Eng) (hf : ∀ e x, f e x = { e with cnt := (f e x).cnt })
    (l : List α) (e : Eng) : l.foldl f e = { e with cnt := (l.foldl f e).cnt } :=
  List.foldlRecOn (motive := fun e' => e' = { e with cnt := e'.cnt }) l f rfl fun e' h x _ => by rw [hf e' x, h]

/-- a loop over a duplicate-free work list `ks`, with an invariant that speaks of the elements already visited -/
theorem foldl_done {σ κ : Type} (f : σ → κ → σ) (P : σ → List κ → Prop) :
    ∀ (ks : List κ) (s : σ) (done : List κ), ks.Nodup → (∀ k, k ∈ ks → k ∉ done) →
      (∀ s done k, k ∈ ks → k ∉ done → P s done → P (f s k) (k :: done)) →
      P s done → P (ks.foldl f s) (ks.reverse ++ done) := by
  intro ks
  induction ks with
  | nil => exact fun _ _ _ _ _ h => h
  | cons k ks ih =>
    intro s done hn hnd hstep h
    have hn' := List.nodup_cons.mp hn
    rw [List.foldl_cons, List.reverse_cons, List.append_assoc]
    exact ih (f s k) (k :: done) hn'.2
      (fun c hc hm => (List.mem_cons.mp hm).elim (fun e => hn'.1 (e ▸ hc)) (hnd c (List.mem_cons_of_mem _ hc)))
      (fun s d c hc => hstep s d c (List.mem_cons_of_mem _ hc))
      (hstep s done k List.mem_cons_self (hnd k List.mem_cons_self) h)

/-- the first component of a loop on pairs whose body acts on the first component as `f` does -/
theorem fst_foldl {σ τ α : Type} (g : σ × τ → α → σ × τ) (f : σ → α → σ) (h : ∀ s x, (g s x).1 = f s.1 x)
    (l : List α) (s : σ × τ) : (l.foldl g s).1 = l.foldl f s.1 :=
  (List.foldl_hom Prod.fst (fun s x => (h s x).symm)).symm

theorem blockOf_eq (part : List (List Nat)) (q i : Nat)
    (hdisj : ∀ i j q, q ∈ part.getD i [] → q ∈ part.getD j [] → i = j)
    (h : q ∈ part.getD i []) : blockOf part q = i := by
  have hi : i < part.length := lt_of_mem_getD h
  have hget : ∀ j (hj : j < part.length), part[j] = part.getD j [] := fun j hj => (getD_eq_getElem hj []).symm
  refine (List.findIdx_eq hi).mpr ⟨?_, fun j hji => ?_⟩
  · rw [hget i hi]; exact List.contains_iff_mem.mpr h
  · rw [hget j (Nat.lt_trans hji hi)]
    refine Bool.eq_false_iff.mpr fun hc => ?_
    exact Nat.ne_of_lt hji (hdisj j i q (List.contains_iff_mem.mp hc) h)

theorem blockOf_lt (part : List (List Nat)) (q : Nat) (h : ∃ i, q ∈ part.getD i []) :
    blockOf part q < part.length ∧ q ∈ part.getD (blockOf part q) [] := by
  obtain ⟨i, hi⟩ := h
  have hlt : blockOf part q < part.length :=
    List.findIdx_lt_length_of_exists ⟨part.getD i [], getD_mem _ _ _ (lt_of_mem_getD hi), List.contains_iff_mem.mpr hi⟩
  refine ⟨hlt, ?_⟩
  have := @List.findIdx_getElem _ (fun b : List Nat => b.contains q) part hlt
  rw [List.getD_eq_getElem?_getD, List.getElem?_eq_getElem hlt]
  exact List.contains_iff_mem.mp this

/-- consing another key does not change the membership of a key -/
theorem mem_cons_pair {i a i' a' : Nat} {l : List (Nat × Nat)} (hk : ¬ (i' = i ∧ a' = a)) :
    (i', a') ∈ (i, a) :: l ↔ (i', a') ∈ l :=
  ⟨fun h => (List.mem_cons.mp h).resolve_left (fun h' => hk ⟨(Prod.mk.inj h').1, (Prod.mk.inj h').2⟩),
    List.mem_cons_of_mem _⟩

/-- counting in a set that is the disjoint union of two others -/
theorem countP_split {α : Type} [DecidableEq α] (p : α → Bool) {A B C : List α} (hA : A.Nodup) (hB : B.Nodup)
    (hC : C.Nodup) (hdisj : ∀ x, x ∈ B → x ∈ C → False) (h : ∀ x, x ∈ A ↔ x ∈ B ∨ x ∈ C) :
    A.countP p = B.countP p + C.countP p := by
  have hBC : (B ++ C).Nodup := List.nodup_append.mpr ⟨hB, hC, fun a ha b hb e => hdisj a ha (e ▸ hb)⟩
  have hperm : A.Perm (B ++ C) := (List.perm_ext_iff_of_nodup hA hBC).mpr (fun x => by rw [h x, List.mem_append])
  rw [hperm.countP_eq, List.countP_append]

theorem exists_not_mem_of_length_lt {α : Type} {l t : List α} (hl : l.Nodup) (hlen : t.length < l.length) :
    ∃ x, x ∈ l ∧ x ∉ t := by
  refine Classical.byContradiction fun hn => ?_
  have := hl.length_le_of_subset (l₂ := t) (fun x hx => Classical.byContradiction fun hc => hn ⟨x, hx, hc⟩)
  omega

/-- `rotateAfter x l` lists the other elements of `l` -/
theorem rotateAfter_perm {l : List Nat} {x : Nat} (hx : x ∈ l) : (x :: rotateAfter x l).Perm l := by
  have hi : l.idxOf x < l.length := List.idxOf_lt_length_iff.mpr hx
  have h := List.take_append_drop (l.idxOf x) l
  rw [List.drop_eq_getElem_cons hi, List.getElem_idxOf hi] at h
  exact ((List.perm_append_comm.cons x).trans List.perm_middle.symm).trans (.of_eq h)

theorem nodup_rotateAfter {l : List Nat} {x : Nat} (hl : l.Nodup) (hx : x ∈ l) : (rotateAfter x l).Nodup :=
  (List.nodup_cons.mp ((rotateAfter_perm hx).nodup_iff.mpr hl)).2

theorem mem_rotateAfter {l : List Nat} {x : Nat} (hl : l.Nodup) (hx : x ∈ l) (q : Nat) :
    q ∈ rotateAfter x l ↔ q ∈ l ∧ q ≠ x := by
  have hp := rotateAfter_perm hx
  have hnd := List.nodup_cons.mp (hp.nodup_iff.mpr hl)
  rw [← hp.mem_iff, List.mem_cons]
  exact ⟨fun h => ⟨Or.inr h, fun e => hnd.1 (e ▸ h)⟩, fun ⟨h, hne⟩ => h.resolve_left hne⟩

/-- what `trySplit` returns when it splits -/
theorem trySplit_some {blk tmp rest new : List Nat} (hb : blk.Nodup) (ht : tmp.Nodup)
    (hsub : ∀ x, x ∈ tmp → x ∈ blk) (h : trySplit blk tmp = some (rest, new)) :
    (∀ q, q ∈ new ↔ q ∈ tmp) ∧ (∀ q, q ∈ rest ↔ q ∈ blk ∧ q ∉ tmp) ∧ rest.Nodup ∧ new.Nodup ∧
      rest ≠ [] ∧ new ≠ [] := by
  unfold trySplit at h
  split at h
  · cases h
  · rename_i hlen
    split at h
    · cases h
    · rename_i last hlast
      -- `tmp = ys ++ [last]`, the new block is `last :: ys`
      obtain ⟨ys, hys⟩ := List.getLast?_eq_some_iff.mp hlast
      subst hys
      rw [List.dropLast_concat] at h
      have hpiv : (ys.getLast?).getD last ∈ ys ++ [last] := by
        cases hp : ys.getLast? with
        | none => exact List.mem_append_right _ List.mem_cons_self
        | some p => exact List.mem_append_left _ (List.mem_of_getLast? hp)
      simp only [Option.some.injEq, Prod.mk.injEq] at h
      obtain ⟨h1, h2⟩ := h
      subst h2
      have hnew := List.perm_append_singleton last ys
      have hrest : ∀ q, q ∈ rest ↔ q ∈ blk ∧ q ∉ ys ++ [last] := by
        intro q
        rw [← h1, List.mem_filter, mem_rotateAfter hb (hsub _ hpiv)]
        simp only [Bool.not_eq_true', List.contains_eq_mem, decide_eq_false_iff_not]
        exact ⟨fun ⟨⟨a, _⟩, b⟩ => ⟨a, b⟩, fun ⟨a, b⟩ => ⟨⟨a, fun e => b (e ▸ hpiv)⟩, b⟩⟩
      refine ⟨fun q => hnew.mem_iff.symm, hrest, ?_, hnew.nodup_iff.mp ht, ?_, List.cons_ne_nil _ _⟩
      · rw [← h1]; exact List.Pairwise.filter _ (nodup_rotateAfter hb (hsub _ hpiv))
      · have hlt : (ys ++ [last]).length < blk.length :=
          Nat.lt_of_le_of_ne (ht.length_le_of_subset hsub) (by simpa using hlen)
        obtain ⟨x, hx, hxt⟩ := exists_not_mem_of_length_lt hb hlt
        intro e
        have := (hrest x).mpr ⟨hx, hxt⟩
        rw [e] at this; cases this

/-- … and when it does not -/
theorem trySplit_none {blk tmp : List Nat} (ht : tmp.Nodup)
    (hsub : ∀ x, x ∈ tmp → x ∈ blk) (hne : tmp ≠ []) (h : trySplit blk tmp = none) : ∀ x, x ∈ blk → x ∈ tmp := by
  unfold trySplit at h
  split at h
  · rename_i hlen
    exact subset_of_nodup_length ht hsub (Nat.le_of_eq (by simpa using hlen : tmp.length = blk.length).symm)
  · split at h
    · rename_i hl
      exact absurd (List.getLast?_eq_none_iff.mp hl) hne
    · cases h

/-- the count stored for a key (0 = absent) -/
def insCount : List (Nat × Nat) → Nat → Nat
  | [], _ => 0
  | (b, c) :: s, a => if b == a then c else insCount s a

/-- keys pairwise different, stored counts positive -/
def InsOK (s : List (Nat × Nat)) : Prop := (insKeys s).Nodup ∧ ∀ p, p ∈ s → 0 < p.2

theorem insOK_nil : InsOK [] := ⟨List.nodup_nil, fun _ h => by cases h⟩

theorem insOK_tail {b c : Nat} {s : List (Nat × Nat)} (h : InsOK ((b, c) :: s)) : InsOK s :=
  ⟨(List.nodup_cons.mp h.1).2, fun p hp => h.2 p (List.mem_cons_of_mem _ hp)⟩

theorem insOK_cons {b c : Nat} {s : List (Nat × Nat)} (hb : b ∉ insKeys s) (hc : 0 < c) (h : InsOK s) :
    InsOK ((b, c) :: s) :=
  ⟨List.nodup_cons.mpr ⟨hb, h.1⟩, fun p hp => (List.mem_cons.mp hp).elim (fun e => e ▸ hc) (h.2 p)⟩

theorem insAdd_cons (b c : Nat) (s : List (Nat × Nat)) (a : Nat) :
    insAdd ((b, c) :: s) a = if b = a then (b, c + 1) :: s else (b, c) :: insAdd s a := by
  simp only [insAdd, beq_iff_eq]

theorem insRemove_cons (b c : Nat) (s : List (Nat × Nat)) (a : Nat) :
    insRemove ((b, c) :: s) a =
      if b = a then (if c ≤ 1 then s else (b, c - 1) :: s) else (b, c) :: insRemove s a := by
  simp only [insRemove, beq_iff_eq]

theorem insCount_cons (b c : Nat) (s : List (Nat × Nat)) (a : Nat) :
    insCount ((b, c) :: s) a = if b = a then c else insCount s a := by
  simp only [insCount, beq_iff_eq]

/-- the count of a key is its entry read by `List.lookup` -/
theorem insCount_eq (s : List (Nat × Nat)) (a : Nat) : insCount s a = (s.lookup a).getD 0 := by
  induction s with
  | nil => rfl
  | cons p s ih => obtain ⟨b, c⟩ := p; rw [insCount_cons, ih, lookup_cons_ite]; split <;> rfl

/-- `SmartSet::add` is update-or-create with "one more" -/
theorem insAdd_eq (s : List (Nat × Nat)) (a : Nat) : insAdd s a = alter a (fun o => o.getD 0 + 1) s := by
  induction s with
  | nil => rfl
  | cons p s ih => obtain ⟨b, c⟩ := p; rw [insAdd_cons, alter, ih]; rfl

theorem mem_insKeys_insAdd (s : List (Nat × Nat)) (a x : Nat) :
    x ∈ insKeys (insAdd s a) ↔ x ∈ insKeys s ∨ x = a := by
  rw [insAdd_eq]; exact (keys_alter a _ s ▸ mem_insNew : x ∈ (alter a _ s).map Prod.fst ↔ _)

theorem insOK_insAdd {s : List (Nat × Nat)} (h : InsOK s) (a : Nat) : InsOK (insAdd s a) := by
  rw [insAdd_eq]
  exact ⟨(keys_alter a _ s ▸ nodup_insNew h.1 : ((alter a _ s).map Prod.fst).Nodup),
    forall_alter (P := fun c => 0 < c) a _ Nat.one_pos (fun _ _ => Nat.succ_pos _) h.2⟩

theorem insCount_insAdd (s : List (Nat × Nat)) (a x : Nat) :
    insCount (insAdd s a) x = insCount s x + (if x = a then 1 else 0) := by
  rw [insCount_eq, insAdd_eq, lookup_alter, insCount_eq]
  by_cases h : x = a
  · rw [if_pos h, if_pos h, h]; rfl
  · rw [if_neg h, if_neg h]; rfl

theorem insCount_eq_zero {s : List (Nat × Nat)} (a : Nat) (h : a ∉ insKeys s) : insCount s a = 0 := by
  rw [insCount_eq, lookup_eq_none_iff_keys.mpr h]; rfl

theorem insCount_pos_iff {s : List (Nat × Nat)} (h : InsOK s) (a : Nat) : 0 < insCount s a ↔ a ∈ insKeys s := by
  rw [insCount_eq]
  refine Iff.trans ?_ (lookup_isSome_iff_keys (l := s))
  cases hl : s.lookup a with
  | none => exact ⟨fun h0 => absurd h0 (Nat.lt_irrefl 0), fun h0 => nomatch h0⟩
  | some c => exact ⟨fun _ => rfl, fun _ => h.2 _ (mem_of_lookup hl)⟩

theorem mem_insKeys_insRemove (s : List (Nat × Nat)) (a x : Nat) :
    x ∈ insKeys (insRemove s a) → x ∈ insKeys s := by
  induction s with
  | nil => exact id
  | cons p s ih =>
    obtain ⟨b, c⟩ := p
    rw [insRemove_cons]
    split
    · split
      · exact List.mem_cons_of_mem _
      · exact id
    · show x ∈ b :: insKeys (insRemove s a) → x ∈ b :: insKeys s
      rw [List.mem_cons, List.mem_cons]
      exact Or.imp_right ih

theorem insOK_insRemove {s : List (Nat × Nat)} (h : InsOK s) (a : Nat) : InsOK (insRemove s a) := by
  induction s with
  | nil => exact insOK_nil
  | cons p s ih =>
    obtain ⟨b, c⟩ := p
    have hb : b ∉ insKeys s := (List.nodup_cons.mp h.1).1
    rw [insRemove_cons]
    split
    · split
      · exact insOK_tail h
      · exact insOK_cons hb (by omega) (insOK_tail h)
    · exact insOK_cons (fun hm => hb (mem_insKeys_insRemove s a b hm)) (h.2 (b, c) List.mem_cons_self)
        (ih (insOK_tail h))

theorem insCount_insRemove {s : List (Nat × Nat)} (h : InsOK s) (a x : Nat) :
    insCount (insRemove s a) x = insCount s x - (if x = a then 1 else 0) := by
  induction s with
  | nil => exact (Nat.zero_sub _).symm
  | cons p s ih =>
    obtain ⟨b, c⟩ := p
    have hb : b ∉ insKeys s := (List.nodup_cons.mp h.1).1
    have hc : 0 < c := h.2 (b, c) List.mem_cons_self
    rw [insRemove_cons, insCount_cons]
    by_cases hba : b = a
    · rw [if_pos hba]
      by_cases hbx : b = x
      · -- the key is hit: it disappears (count 1) or its count drops
        have hxa : x = a := hbx ▸ hba
        rw [if_pos hbx, if_pos hxa]
        by_cases hc1 : c ≤ 1
        · rw [if_pos hc1, ← hbx, insCount_eq_zero b hb]; omega
        · rw [if_neg hc1, insCount_cons, if_pos hbx]
      · have hxa : ¬ x = a := fun e => hbx (hba.trans e.symm)
        rw [if_neg hbx, if_neg hxa]
        by_cases hc1 : c ≤ 1
        · rw [if_pos hc1]; rfl
        · rw [if_neg hc1, insCount_cons, if_neg hbx]; rfl
    · rw [if_neg hba, insCount_cons]
      by_cases hbx : b = x
      · have hxa : ¬ x = a := fun e => hba (hbx.trans e)
        rw [if_pos hbx, if_pos hbx, if_neg hxa]; rfl
      · rw [if_neg hbx, if_neg hbx]
        exact ih (insOK_tail h)

theorem label_lt (L : LTS) {e : Nat × Nat × Nat} (h : e ∈ L.edges) : e.2.1 < labels L :=
  le_foldl_max (fun e : Nat × Nat × Nat => e.2.1 + 1) h 0

theorem hasIn_iff (L : LTS) (a r : Nat) : hasIn L a r = true ↔ ∃ p, (p, a, r) ∈ L.edges := by
  simp only [hasIn, List.any_eq_true, Bool.and_eq_true, beq_iff_eq]
  constructor
  · rintro ⟨⟨p, _, _⟩, he, rfl, rfl⟩; exact ⟨p, he⟩
  · exact fun ⟨p, hp⟩ => ⟨(p, a, r), hp, rfl, rfl⟩

theorem hasOut_iff (L : LTS) (a q : Nat) : hasOut L a q = true ↔ ∃ r, (q, a, r) ∈ L.edges := by
  simp only [hasOut, List.any_eq_true, Bool.and_eq_true, beq_iff_eq]
  constructor
  · rintro ⟨⟨_, _, r⟩, he, rfl, rfl⟩; exact ⟨r, he⟩
  · exact fun ⟨r, hr⟩ => ⟨(q, a, r), hr, rfl, rfl⟩

theorem mem_bwLabels (L : LTS) (a r : Nat) : a ∈ bwLabels L r ↔ hasIn L a r = true := by
  simp only [bwLabels, List.mem_filter, List.mem_range]
  constructor
  · exact fun h => h.2
  · intro h
    obtain ⟨p, hp⟩ := (hasIn_iff L a r).mp h
    exact ⟨label_lt L hp, h⟩

theorem nodup_bwLabels (L : LTS) (r : Nat) : (bwLabels L r).Nodup := List.Pairwise.filter _ List.nodup_range

theorem mem_pre (L : LTS) (a r p : Nat) : p ∈ pre L a r ↔ (p, a, r) ∈ L.edges := by
  simp only [pre, List.mem_map, List.mem_filter, Bool.and_eq_true, beq_iff_eq]
  constructor
  · rintro ⟨⟨_, _, _⟩, ⟨he, rfl, rfl⟩, rfl⟩; exact he
  · exact fun h => ⟨(p, a, r), ⟨h, rfl, rfl⟩, rfl⟩

theorem mem_post (L : LTS) (a q r : Nat) : r ∈ post L a q ↔ (q, a, r) ∈ L.edges := by
  simp only [post, List.mem_map, List.mem_filter, Bool.and_eq_true, beq_iff_eq]
  constructor
  · rintro ⟨⟨_, _, _⟩, ⟨he, rfl, rfl⟩, rfl⟩; exact he
  · exact fun h => ⟨(q, a, r), ⟨h, rfl, rfl⟩, rfl⟩

theorem mem_delta1 (L : LTS) (a q : Nat) : q ∈ delta1 L a ↔ q < L.n ∧ hasOut L a q = true := by
  simp only [delta1, List.mem_filter, List.mem_range]

theorem mem_dedupF (seen l : List Nat) (x : Nat) : x ∈ dedupF seen l ↔ x ∈ l ∧ x ∉ seen := by
  induction l generalizing seen with
  | nil => simp [dedupF]
  | cons y l ih =>
    simp only [dedupF]
    split
    · rename_i hs
      have hs' : y ∈ seen := by simpa using hs
      rw [ih, List.mem_cons]
      constructor
      · rintro ⟨h1, h2⟩; exact ⟨Or.inr h1, h2⟩
      · rintro ⟨h1 | h1, h2⟩
        · exact absurd (h1 ▸ hs') h2
        · exact ⟨h1, h2⟩
    · rename_i hs
      have hs' : y ∉ seen := by simpa using hs
      rw [List.mem_cons, ih, List.mem_cons, List.mem_cons]
      constructor
      · rintro (h | ⟨h1, h2⟩)
        · exact ⟨Or.inl h, h ▸ hs'⟩
        · exact ⟨Or.inr h1, fun hc => h2 (Or.inr hc)⟩
      · rintro ⟨h1 | h1, h2⟩
        · exact Or.inl h1
        · by_cases hxy : x = y
          · exact Or.inl hxy
          · exact Or.inr ⟨h1, fun hc => hc.elim hxy h2⟩

theorem nodup_dedupF (seen l : List Nat) : (dedupF seen l).Nodup := by
  induction l generalizing seen with
  | nil => exact List.nodup_nil
  | cons y l ih =>
    simp only [dedupF]
    split
    · exact ih seen
    · refine List.nodup_cons.mpr ⟨?_, ih _⟩
      rw [mem_dedupF]
      rintro ⟨_, h2⟩
      exact h2 List.mem_cons_self

theorem relSplit_length (rel : List (List Nat)) (i : Nat) : (relSplit rel i).length = rel.length + 1 := by
  rw [relSplit, List.length_append, List.length_map]; rfl

theorem relSplit_getD (rel : List (List Nat)) (i k : Nat) :
    (relSplit rel i).getD k [] =
      if k = rel.length then rel.getD i [] ++ [rel.length]
      else if (rel.getD k []).contains i then rel.getD k [] ++ [rel.length] else rel.getD k [] := by
  unfold relSplit
  rw [getD_concat, List.length_map, getD_map_default _ [] [] rfl]

end Vata.LE
