import Vata.BddTrimCodedBU
import Vata.Proofs.BddTrimGraph
/-!
C08: the bottom-up `RemoveUnreachableStates` as coded: every answer is correct.

`buUnreachCoded` (`Vata/BddTrimCodedBU.lean`) mirrors the work-list of `src/bdd_bu_tree_aut_unreach.cc`.  Here: for every
`some` answer the set `reachable` is the set `prodStates (skelBU T F)` of the abstract model `removeUnreachableBU`, the result
table has the same rules (`HasRule`) and the final states are the same list (`bu_unreach_coded_spec`); the language corollary
`bu_unreach_coded_lang`.  Hypothesis `TableOk T` (`Vata/Proofs/BddAbsTD.lean`: the keys of `T.entries` are non-empty and every
entry is the one `GetMtbdd` finds for its key, i.e. `T.entries` is a map; it holds of every table built by `SetMtbdd`,
`tableOk_ofRules`).  Totality: `Vata/Proofs/BddTrimCodedBU5.lean` (`bu_unreach_coded_total`).
-/
namespace Vata
namespace BddTrimCoded
open M BddAbs BddAbsTD

variable {T : Table} {F : List Nat}

theorem skel_rule_nullary {p : Nat} (h : p ∈ leafParents T.nullary) :
    (⟨0, [], p⟩ : Rule) ∈ (skelBU T F).rules := by
  simp only [skelBU, List.mem_flatMap, List.mem_map]
  exact ⟨[], by simp [Table.keys], p, by simpa [Table.get] using h, rfl⟩

theorem skel_rule_entry (hT : TableOk T) {e : List Nat × MT} (he : e ∈ T.entries) {p : Nat}
    (h : p ∈ leafParents e.2) : (⟨0, e.1, p⟩ : Rule) ∈ (skelBU T F).rules := by
  simp only [skelBU, List.mem_flatMap, List.mem_map]
  refine ⟨e.1, ?_, p, ?_, rfl⟩
  · simp only [Table.keys, List.mem_cons, List.mem_map]; exact Or.inr ⟨e, he, rfl⟩
  · simp only [Table.get, if_neg (hT e he).1, (hT e he).2]; exact h

/-- the converse of `skel_rule_nullary` and `skel_rule_entry` -/
theorem skel_rule_inv {r : Rule} (h : r ∈ (skelBU T F).rules) :
    (r.kids = [] ∧ r.parent ∈ leafParents T.nullary) ∨ ∃ m, (r.kids, m) ∈ T.entries ∧ r.parent ∈ leafParents m := by
  simp only [skelBU, List.mem_flatMap, List.mem_map] at h
  obtain ⟨ks, hks, p, hp, rfl⟩ := h
  by_cases hn : ks = []
  · subst hn
    exact Or.inl ⟨rfl, by simpa [Table.get] using hp⟩
  · simp only [Table.keys, List.mem_cons, hn, false_or] at hks
    simp only [Table.get, if_neg hn] at hp
    exact Or.inr ⟨_, getE_mem hks, hp⟩

/-- `workset` is a hash set here (`ins`), not a stack: the same relation -/
theorem ext_collectStep (s : List Nat × List Nat) (q : Nat) : Closure.Ext [q] s (collectStep s q) := by
  unfold collectStep
  split
  · next h => exact Closure.Ext.old (List.contains_iff_mem.mp h)
  · next h => exact Closure.Ext.new (fun hm => h (List.contains_iff_mem.mpr hm)) (fun _ => mem_ins) (length_ins_le q s.2)

/-- `reachFunc(bdd)`: the states in the leaves become reachable, the new ones enter the work-list -/
theorem ext_collect (s : List Nat × List Nat) (m : MT) : Closure.Ext (leafParents m) s (collect s m) :=
  Closure.Ext.foldl ext_collectStep _ s

/-- the tuple was processed: its states and the states in its leaves are reachable, the result has an MTBDD for it -/
def Processed (st : BuSt) (e : List Nat × MT) : Prop :=
  (∀ q, q ∈ e.1 → q ∈ st.reach) ∧ (∀ q, q ∈ leafParents e.2 → q ∈ st.reach) ∧ e.1 ∈ st.result.entries.map (·.1)

structure ScanOK (T : Table) (F : List Nat) (s : Nat) (st st' : BuSt) (l : List (List Nat × MT)) : Prop where
  reach_mono : ∀ x, x ∈ st.reach → x ∈ st'.reach
  ws_mono : ∀ x, x ∈ st.ws → x ∈ st'.ws
  new_ws : ∀ x, x ∈ st'.reach → x ∈ st.reach ∨ x ∈ st'.ws
  sound : (∀ x, x ∈ st.reach → x ∈ prodStates (skelBU T F)) → ∀ x, x ∈ st'.reach → x ∈ prodStates (skelBU T F)
  tup_mono : ∀ e, e ∈ st.tuples → e ∈ st'.tuples
  done : ∀ e, e ∈ l → e ∈ st'.tuples ∨ Processed st' e
  kept : ∀ e, e ∈ st'.tuples → e ∈ st.tuples ∨ (e ∈ l ∧ (s ∈ e.1 → ∃ q, q ∈ e.1 ∧ q ∉ st.reach))
  nullary : st'.result.nullary = st.result.nullary
  keys_mono : ∀ k, k ∈ st.result.entries.map (·.1) → k ∈ st'.result.entries.map (·.1)
  res : ∀ e, e ∈ st'.result.entries → e ∈ st.result.entries ∨ (e ∈ l ∧ ∀ q, q ∈ e.1 → q ∈ st'.reach)

theorem scanOK_nil (T : Table) (F : List Nat) (s : Nat) (st : BuSt) : ScanOK T F s st st [] :=
  ⟨fun _ => id, fun _ => id, fun _ => Or.inl, fun h => h, fun _ => id, fun _ h => (nomatch h), fun _ => Or.inl, rfl,
    fun _ => id, fun _ => Or.inl⟩

theorem Processed.mono {st st' : BuSt} {e : List Nat × MT} (h : Processed st e)
    (hr : ∀ x, x ∈ st.reach → x ∈ st'.reach)
    (hk : ∀ k, k ∈ st.result.entries.map (·.1) → k ∈ st'.result.entries.map (·.1)) : Processed st' e :=
  ⟨fun q hq => hr q (h.1 q hq), fun q hq => hr q (h.2.1 q hq), hk _ h.2.2⟩

theorem scanOK_trans {s : Nat} {st st1 st2 : BuSt} {l1 l2 : List (List Nat × MT)}
    (h1 : ScanOK T F s st st1 l1) (h2 : ScanOK T F s st1 st2 l2) : ScanOK T F s st st2 (l1 ++ l2) where
  reach_mono x hx := h2.reach_mono x (h1.reach_mono x hx)
  ws_mono x hx := h2.ws_mono x (h1.ws_mono x hx)
  new_ws x hx := by
    rcases h2.new_ws x hx with h | h
    · rcases h1.new_ws x h with h | h
      · exact Or.inl h
      · exact Or.inr (h2.ws_mono x h)
    · exact Or.inr h
  sound h := h2.sound (h1.sound h)
  tup_mono e he := h2.tup_mono e (h1.tup_mono e he)
  done e he := by
    rcases List.mem_append.mp he with he | he
    · rcases h1.done e he with h | h
      · exact Or.inl (h2.tup_mono e h)
      · exact Or.inr (h.mono h2.reach_mono h2.keys_mono)
    · exact h2.done e he
  kept e he := by
    rcases h2.kept e he with h | ⟨h, h'⟩
    · rcases h1.kept e h with h | ⟨h, h'⟩
      · exact Or.inl h
      · exact Or.inr ⟨List.mem_append.mpr (Or.inl h), h'⟩
    · refine Or.inr ⟨List.mem_append.mpr (Or.inr h), fun hs => ?_⟩
      obtain ⟨q, hq, hn⟩ := h' hs
      exact ⟨q, hq, fun hr => hn (h1.reach_mono q hr)⟩
  nullary := h2.nullary.trans h1.nullary
  keys_mono k hk := h2.keys_mono k (h1.keys_mono k hk)
  res e he := by
    rcases h2.res e he with h | ⟨h, h'⟩
    · rcases h1.res e h with h | ⟨h, h'⟩
      · exact Or.inl h
      · exact Or.inr ⟨List.mem_append.mpr (Or.inl h), fun q hq => h2.reach_mono q (h' q hq)⟩
    · exact Or.inr ⟨List.mem_append.mpr (Or.inr h), h'⟩

theorem mem_setE {es : List (List Nat × MT)} {ks : List Nat} {m : MT} {e : List Nat × MT} (h : e ∈ setE es ks m) :
    e = (ks, m) ∨ e ∈ es := by
  simp only [setE, List.mem_cons, List.mem_filter] at h
  exact h.elim Or.inl (fun h => Or.inr h.1)

theorem mem_keys_setE {es : List (List Nat × MT)} {ks : List Nat} {m : MT} {k : List Nat} :
    k ∈ (setE es ks m).map (·.1) ↔ k = ks ∨ k ∈ es.map (·.1) := by
  simp only [setE, List.map_cons, List.mem_cons, List.mem_map, List.mem_filter]
  constructor
  · rintro (h | ⟨e, ⟨he, _⟩, rfl⟩)
    · exact Or.inl h
    · exact Or.inr ⟨e, he, rfl⟩
  · rintro (h | ⟨e, he, rfl⟩)
    · exact Or.inl h
    · by_cases hk : e.1 = ks
      · exact Or.inl hk
      · exact Or.inr ⟨e, ⟨he, by simpa using hk⟩, rfl⟩

theorem Table.set_of_ne (T : Table) {ks : List Nat} (h : ks ≠ []) (m : MT) :
    T.set ks m = ⟨T.nullary, setE T.entries ks m⟩ := by
  unfold Table.set; rw [if_neg h]

theorem scanOK_step (hT : TableOk T) (F : List Nat) (s : Nat) (st : BuSt) {e : List Nat × MT}
    (he : e ∈ T.entries) : ScanOK T F s st (scanStep s st e) [e] := by
  unfold scanStep
  split
  · next hc =>
    simp only [Bool.and_eq_true, List.contains_iff_mem, List.all_eq_true] at hc
    have ec := ext_collect (st.reach, st.ws) e.2
    have c1 := ec.marked
    rw [Table.set_of_ne _ (hT e he).1]
    have hk : ∀ q, q ∈ e.1 → q ∈ (collect (st.reach, st.ws) e.2).1 := fun q hq => (c1 q).mpr (Or.inl (hc.2 q hq))
    refine ⟨fun x hx => (c1 x).mpr (Or.inl hx), fun _ => ec.work_mono, fun _ => ec.new_work,
      fun h x hx => ?_, fun _ => id, fun e' he' => ?_, fun _ => Or.inl, rfl, fun k hk => mem_keys_setE.mpr (Or.inr hk),
      fun e' he' => ?_⟩
    · rcases (c1 x).mp hx with h' | h'
      · exact h x h'
      · exact prodStates_closed _ _ (skel_rule_entry hT he h') (fun k hk => h k (hc.2 k hk))
    · cases List.mem_singleton.mp he'
      exact Or.inr ⟨hk, fun q hq => (c1 q).mpr (Or.inr hq), mem_keys_setE.mpr (Or.inl rfl)⟩
    · rcases mem_setE he' with rfl | h
      · exact Or.inr ⟨List.mem_singleton.mpr rfl, hk⟩
      · exact Or.inl h
  · next hc =>
    simp only [Bool.and_eq_true, List.contains_iff_mem, List.all_eq_true, not_and] at hc
    refine ⟨fun _ => id, fun _ => id, fun _ => Or.inl, fun h => h, fun e' he' => List.mem_append.mpr (Or.inl he'),
      fun e' he' => Or.inl (List.mem_append.mpr (Or.inr he')), fun e' he' => ?_, rfl, fun _ => id, fun _ => Or.inl⟩
    rcases List.mem_append.mp he' with h | h
    · exact Or.inl h
    · refine Or.inr ⟨h, fun hs => ?_⟩
      cases List.mem_singleton.mp h
      exact Classical.byContradiction fun hn =>
        hc hs fun q hq => Classical.byContradiction fun hq' => hn ⟨q, hq, hq'⟩

theorem scanOK_fold (hT : TableOk T) (F : List Nat) (s : Nat) : ∀ (l : List (List Nat × MT)) (st : BuSt),
    (∀ e, e ∈ l → e ∈ T.entries) → ScanOK T F s st (l.foldl (scanStep s) st) l
  | [], st, _ => scanOK_nil T F s st
  | e :: l, st, h =>
    scanOK_trans (l1 := [e]) (scanOK_step hT F s st (h e List.mem_cons_self))
      (scanOK_fold hT F s l (scanStep s st e) (fun e' he' => h e' (List.mem_cons_of_mem _ he')))

/-- the scan only erases: a tuple that is left was there before, or is one the scan has met -/
theorem mem_scanFold_tuples (s : Nat) (l : List (List Nat × MT)) (st : BuSt) {e' : List Nat × MT}
    (h : e' ∈ (l.foldl (scanStep s) st).tuples) : e' ∈ st.tuples ∨ e' ∈ l := by
  induction l generalizing st with
  | nil => exact Or.inl h
  | cons e0 l ih =>
    rcases ih _ h with h' | h'
    · unfold scanStep at h'
      split at h'
      · exact Or.inl h'
      · exact (List.mem_append.mp h').imp_right fun h' => List.mem_cons.mpr (Or.inl (List.mem_singleton.mp h'))
    · exact Or.inr (List.mem_cons_of_mem _ h')

structure BuInv (T : Table) (F : List Nat) (st : BuSt) : Prop where
  sound : ∀ x, x ∈ st.reach → x ∈ prodStates (skelBU T F)
  null : ∀ x, x ∈ leafParents T.nullary → x ∈ st.reach
  tup_sub : ∀ e, e ∈ st.tuples → e ∈ T.entries
  cover : ∀ e, e ∈ T.entries → e ∈ st.tuples ∨ Processed st e
  pending : ∀ e, e ∈ st.tuples → (∀ q, q ∈ e.1 → q ∈ st.reach) → ∃ q, q ∈ e.1 ∧ q ∈ st.ws
  nullary : st.result.nullary = T.nullary
  res : ∀ e, e ∈ st.result.entries → e ∈ T.entries ∧ ∀ q, q ∈ e.1 → q ∈ st.reach

/-- `tuples.erase(StateTuple())` removes nothing from the entries of a table that is a map -/
theorem mem_tuples_init (hT : TableOk T) (e : List Nat × MT) :
    e ∈ T.entries.filter (fun e => e.1 != []) ↔ e ∈ T.entries := by
  simp only [List.mem_filter, bne_iff_ne, ne_eq, and_iff_left_iff_imp]
  exact fun he => (hT e he).1

theorem buInv_init (hT : TableOk T) (F : List Nat) : BuInv T F (buUnreachInit T) := by
  have ec := ext_collect ([], []) T.nullary
  have c1 := ec.marked
  have hf := mem_tuples_init hT
  refine ⟨fun x hx => ?_, fun x hx => (c1 x).mpr (Or.inr hx), fun e he => (hf e).mp he, fun e he => Or.inl ((hf e).mpr he),
    fun e he hr => ?_, ?_, fun e he => ?_⟩
  · rcases (c1 x).mp hx with h | h
    · cases h
    · exact prodStates_closed _ _ (skel_rule_nullary h) (fun k hk => by cases hk)
  · have hne := (hT e ((hf e).mp he)).1
    obtain ⟨q, hq⟩ := List.exists_mem_of_ne_nil _ hne
    refine ⟨q, hq, ?_⟩
    exact (ec.new_work (hr q hq)).elim (fun h => by cases h) id
  · simp [buUnreachInit, Table.set]
  · simp [buUnreachInit, Table.set, Table.empty] at he

theorem buInv_step (hT : TableOk T) {r ws : List Nat} {s : Nat} {tu : List (List Nat × MT)}
    {R : Table} (h : BuInv T F ⟨r, s :: ws, tu, R⟩) : BuInv T F (tu.foldl (scanStep s) ⟨r, ws, [], R⟩) := by
  have hs := scanOK_fold hT F s tu ⟨r, ws, [], R⟩ h.tup_sub
  refine ⟨hs.sound h.sound, fun x hx => hs.reach_mono x (h.null x hx), fun e he => ?_, fun e he => ?_, fun e he hr => ?_,
    hs.nullary.trans h.nullary, fun e he => ?_⟩
  · rcases hs.kept e he with h' | h'
    · cases h'
    · exact h.tup_sub e h'.1
  · rcases h.cover e he with h' | h'
    · exact hs.done e h'
    · exact Or.inr (Processed.mono (st := ⟨r, s :: ws, tu, R⟩) h' hs.reach_mono hs.keys_mono)
  · rcases hs.kept e he with h' | ⟨h1, h2⟩
    · cases h'
    · by_cases hall : ∀ q, q ∈ e.1 → q ∈ r
      · have hse : s ∉ e.1 := by
          intro hse
          obtain ⟨q, hq, hn⟩ := h2 hse
          exact hn (hall q hq)
        obtain ⟨q, hq, hw⟩ := h.pending e h1 hall
        rcases List.mem_cons.mp hw with rfl | hw
        · exact absurd hq hse
        · exact ⟨q, hq, hs.ws_mono q hw⟩
      · have : ∃ q, q ∈ e.1 ∧ q ∉ r := Classical.byContradiction (fun hn =>
          hall (fun q hq => Classical.byContradiction (fun hq' => hn ⟨q, hq, hq'⟩)))
        obtain ⟨q, hq, hn⟩ := this
        exact ⟨q, hq, (hs.new_ws q (hr q hq)).elim (fun h' => absurd h' hn) id⟩
  · rcases hs.res e he with h' | ⟨h1, h2⟩
    · exact ⟨(h.res e h').1, fun q hq => hs.reach_mono q ((h.res e h').2 q hq)⟩
    · exact ⟨h.tup_sub e h1, h2⟩

theorem buUnreachLoop_inv (hT : TableOk T) {fuel : Nat} {st st' : BuSt} (h : BuInv T F st)
    (e : buUnreachLoop fuel st = some st') : BuInv T F st' ∧ st'.ws = [] := by
  induction fuel generalizing st with
  | zero =>
    obtain ⟨r, _ | ⟨s, ws⟩, tu, R⟩ := st
    · cases e; exact ⟨h, rfl⟩
    · cases e
  | succ fuel ih =>
    obtain ⟨r, _ | ⟨s, ws⟩, tu, R⟩ := st
    · cases e; exact ⟨h, rfl⟩
    · exact ih (buInv_step hT h) e

theorem buInv_closed {st : BuSt} (h : BuInv T F st) (hw : st.ws = []) :
    ProdClosed (skelBU T F) st.reach := by
  intro r hr hk
  rcases skel_rule_inv hr with ⟨_, h2⟩ | ⟨m, hm, h2⟩
  · exact h.null _ h2
  · rcases h.cover _ hm with h' | h'
    · obtain ⟨q, _, hq⟩ := h.pending _ h' hk
      rw [hw] at hq; cases hq
    · exact h'.2.1 _ h2

theorem buInv_reach {st : BuSt} (h : BuInv T F st) (hw : st.ws = []) (q : Nat) :
    q ∈ st.reach ↔ q ∈ prodStates (skelBU T F) :=
  ⟨h.sound q, prodStates_least (buInv_closed h hw) q⟩

theorem buInv_hasRule (hT : TableOk T) {st : BuSt} (h : BuInv T F st) (hw : st.ws = [])
    (ρ : Nat → Bool) (ks : List Nat) (p : Nat) :
    HasRule st.result ρ ks p ↔ HasRule T ρ ks p ∧ ∀ k, k ∈ ks → k ∈ st.reach := by
  unfold HasRule Table.get
  by_cases hks : ks = []
  · subst hks; simp [h.nullary]
  · simp only [if_neg hks]
    by_cases hm : ks ∈ st.result.entries.map (·.1)
    · obtain ⟨h1, h2⟩ := h.res _ (getE_mem hm)
      have := (hT _ h1).2
      simp only at this
      rw [this]
      exact ⟨fun h' => ⟨h', h2⟩, fun h' => h'.1⟩
    · rw [getE_not_key hm]
      simp only [eval, List.not_mem_nil, false_iff, not_and]
      intro h1 h2
      apply hm
      have hk : ks ∈ T.entries.map (·.1) := by
        apply Classical.byContradiction
        intro hn
        rw [getE_not_key hn] at h1
        simp [eval] at h1
      rcases h.cover _ (getE_mem hk) with h' | h'
      · obtain ⟨q, _, hq⟩ := h.pending _ h' h2
        rw [hw] at hq; cases hq
      · exact h'.2.2

/-- **`RemoveUnreachableStates` (bottom-up) as coded, the states.**  At the end of the work-list loop `reachable` is the
set of the bottom-up reachable (= productive) states of the leaf-visit skeleton, the work-list is empty, and no remaining
tuple has all its states reachable. -/
theorem bu_unreach_coded_reach {T : Table} (hT : TableOk T) (F : List Nat) {fuel : Nat} {st : BuSt}
    (h : buUnreachSt T fuel = some st) :
    (∀ q, q ∈ st.reach ↔ q ∈ prodStates (skelBU T F)) ∧ st.ws = [] ∧
    (∀ e, e ∈ st.tuples → ∃ q, q ∈ e.1 ∧ q ∉ st.reach) := by
  obtain ⟨hi, hw⟩ := buUnreachLoop_inv hT (buInv_init hT F) h
  refine ⟨buInv_reach hi hw, hw, fun e he => ?_⟩
  apply Classical.byContradiction
  intro hn
  obtain ⟨q, _, hq⟩ := hi.pending e he (fun q hq => Classical.byContradiction (fun hq' => hn ⟨q, hq, hq'⟩))
  rw [hw] at hq; cases hq

/-- **`RemoveUnreachableStates` (bottom-up) as coded: every answer is the answer of the abstract model**
`removeUnreachableBU`: the same rules, the same list of final states. -/
theorem bu_unreach_coded_spec {T : Table} (hT : TableOk T) (F : List Nat) {fuel : Nat} {R : Table × List Nat}
    (h : buUnreachCoded T F fuel = some R) :
    (∀ ρ ks p, HasRule R.1 ρ ks p ↔ HasRule (removeUnreachableBU T F).1 ρ ks p) ∧ R.2 = (removeUnreachableBU T F).2 := by
  unfold buUnreachCoded at h
  cases hst : buUnreachSt T fuel with
  | none => rw [hst] at h; cases h
  | some st =>
    rw [hst] at h
    simp only [Option.map_some, Option.some.injEq] at h
    subst h
    obtain ⟨hi, hw⟩ := buUnreachLoop_inv hT (buInv_init hT F) hst
    have hr := buInv_reach hi hw
    refine ⟨fun ρ ks p => ?_, ?_⟩
    · rw [hasRule_removeUnreachableBU, buInv_hasRule hT hi hw]
      simp only [hr]
    · exact filter_congr_mem hr

theorem setEqTA_of_hasRule {syms : List Nat} {T T' : Table} {F F' : List Nat}
    (h : ∀ ρ ks p, HasRule T ρ ks p ↔ HasRule T' ρ ks p) (hF : F = F') : SetEqTA (absBU syms T F) (absBU syms T' F') := by
  subst hF
  refine ⟨fun r => ?_, fun q => Iff.rfl⟩
  show r ∈ absRules syms T ↔ r ∈ absRules syms T'
  rw [mem_absRules, mem_absRules, h]

/-- **`RemoveUnreachableStates` (bottom-up) as coded keeps the language.**  (The C++ prunes the bottom-up unreachable,
i.e. unproductive, states only: the top-down unreachable ones stay.) -/
theorem bu_unreach_coded_lang {syms : List Nat} {T : Table} (hO : TableOk T) (hT : TableWF T)
    (hc : SymsCompleteBU syms T) (F : List Nat) {fuel : Nat} {R : Table × List Nat}
    (h : buUnreachCoded T F fuel = some R) (t : Tree) :
    accepts (absBU syms R.1 R.2) t = accepts (absBU syms T F) t := by
  obtain ⟨h1, h2⟩ := bu_unreach_coded_spec hO F h
  rw [(setEqTA_of_hasRule h1 h2).lang, removeUnreachableBU_lang F hT hc]

theorem bu_unreach_coded_abs {syms : List Nat} {T : Table} (hO : TableOk T) (hT : TableWF T)
    (hc : SymsCompleteBU syms T) (F : List Nat) {fuel : Nat} {R : Table × List Nat}
    (h : buUnreachCoded T F fuel = some R) :
    SetEqTA (absBU syms R.1 R.2) (restrict (absBU syms T F) (prodStates (absBU syms T F))) := by
  obtain ⟨h1, h2⟩ := bu_unreach_coded_spec hO F h
  exact (setEqTA_of_hasRule h1 h2).trans (absBU_removeUnreachable F hT hc)

end BddTrimCoded
end Vata
