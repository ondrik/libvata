import Vata.Proofs.TrimCodedLoop
import Vata.Proofs.TrimCodedUnreach
import Vata.Proofs.TrimSkel
/-!
# `RemoveUselessStates` as coded, part 3: the results

`prodCoded A` is `prodStates A` (as a set); `uselessCoded A` / `unreachCoded A` have the final states of
`removeUseless A` / `removeUnreachable A` (equal lists) and the same rules (as sets: `TAEquiv`); languages, the
specification notions `TdReachable`, `Occurs`, `UsefulState`, `UsefulRule` only depend on the sets.
-/
namespace Vata.TrimCoded
open Vata BddAbsTD

def TAEquiv (A B : TA) : Prop := (∀ r, r ∈ A.rules ↔ r ∈ B.rules) ∧ (∀ q, q ∈ A.final ↔ q ∈ B.final)

theorem TAEquiv.refl (A : TA) : TAEquiv A A := ⟨fun _ => Iff.rfl, fun _ => Iff.rfl⟩
theorem TAEquiv.symm {A B : TA} (h : TAEquiv A B) : TAEquiv B A := ⟨fun r => (h.1 r).symm, fun q => (h.2 q).symm⟩
theorem TAEquiv.trans {A B C : TA} (h : TAEquiv A B) (h' : TAEquiv B C) : TAEquiv A C :=
  ⟨fun r => (h.1 r).trans (h'.1 r), fun q => (h.2 q).trans (h'.2 q)⟩

/-! `TAEquiv` is `BddAbsTD.SetEqTA` of `Vata/Proofs/TrimSkel.lean`; what follows reads that family under the name used here. -/

theorem TAEquiv.lang {A B : TA} (h : TAEquiv A B) (t : Tree) : accepts A t = accepts B t :=
  Isx.accepts_congr_sets h.1 h.2 t

theorem TAEquiv.tdReachable {A B : TA} (h : TAEquiv A B) {q : Nat} (hq : TdReachable A q) : TdReachable B q :=
  tdReachable_skel (SetEqTA.skel h).1 (fun q => (h.2 q).mp) hq

theorem TAEquiv.occurs {A B : TA} (h : TAEquiv A B) {q : Nat} (hq : Occurs A q) : Occurs B q :=
  (SetEqTA.occurs h q).mp hq

theorem validL_congr {A B : TA} (h : ∀ r, r ∈ A.rules ↔ r ∈ B.rules) :
    ∀ (ρs : List RunT) (qs : List Nat), RunT.validL A ρs qs = RunT.validL B ρs qs := fun ρs qs =>
  Bool.eq_iff_iff.mpr ⟨validL_mono A B (fun r => (h r).mp) ρs qs, validL_mono B A (fun r => (h r).mpr) ρs qs⟩

theorem TAEquiv.removeUnreachable {A B : TA} (h : TAEquiv A B) : TAEquiv (removeUnreachable A) (removeUnreachable B) :=
  setEqTA_removeUnreachable h

theorem unreachCoded_equiv (A : TA) : TAEquiv (unreachCoded A) (removeUnreachable A) :=
  ⟨mem_unreachCoded_rules A, fun q => by rw [unreachCoded, unreachWith_final]; exact Iff.rfl⟩

theorem unreachCoded_final (A : TA) : (unreachCoded A).final = (removeUnreachable A).final :=
  unreachWith_final testOwners A

section final
variable {A : TA} {σ : St} {s1 : Nat} (h : Inv A σ s1 []) (hw : σ.work = [])
include h hw

omit h in
theorem done_of_final {x : Nat} (hx : x ∈ σ.reach) : Done σ x := ⟨hx, by rw [hw]; exact List.not_mem_nil⟩

/-- the transition `j` fired (is in `reachableTransitions`) iff all its children are in `reachableStates` -/
theorem fired_iff {j : Nat} {r : Rule} (hr : A.rules[j]? = some r) : j ∈ σ.rtrans ↔ ∀ k, k ∈ r.kids → k ∈ σ.reach := by
  obtain ⟨c, hc, hmem, hnil⟩ := h.cs j r hr
  constructor
  · intro hj k hk
    obtain ⟨r', hr', hi⟩ := h.rt j hj
    rw [hc] at hi
    have hce : c = [] := (Info.mk.inj (Option.some.inj hi)).2
    by_cases hd : Done σ k
    · exact hd.1
    · have := (hmem k).mpr ⟨hk, Or.inl hd⟩
      rw [hce] at this
      exact absurd this List.not_mem_nil
  · intro hk
    refine (hnil ?_).1
    rw [List.eq_nil_iff_forall_not_mem]
    intro x hx
    obtain ⟨h1, h2⟩ := (hmem x).mp hx
    rcases h2 with h2 | ⟨_, h2⟩
    · exact h2 (done_of_final hw (hk x h1))
    · exact absurd h2 List.not_mem_nil

omit hw in
theorem fired_parent {j : Nat} {r : Rule} (hr : A.rules[j]? = some r) (hj : j ∈ σ.rtrans) : r.parent ∈ σ.reach := by
  obtain ⟨c, hc, _, hnil⟩ := h.cs j r hr
  obtain ⟨r', hr', hi⟩ := h.rt j hj
  rw [hc] at hi
  exact (hnil (Info.mk.inj (Option.some.inj hi)).2).2

theorem reach_closed : ProdClosed A σ.reach := by
  intro r hr hk
  obtain ⟨j, hj⟩ := List.getElem?_of_mem hr
  exact fired_parent h hj ((fired_iff h hw hj).mpr hk)

theorem mem_reach_iff (q : Nat) : q ∈ σ.reach ↔ q ∈ prodStates A :=
  ⟨h.sound q, prodStates_least (reach_closed h hw) q⟩

theorem fired_restrict {j : Nat} {r : Rule} (hr : A.rules[j]? = some r) (hj : j ∈ σ.rtrans) :
    r ∈ (restrict A (prodStates A)).rules :=
  mem_rules_restrict.mpr ⟨List.mem_of_getElem? hr, (mem_reach_iff h hw _).mp (fired_parent h hr hj),
    fun k hk => (mem_reach_iff h hw _).mp ((fired_iff h hw hr).mp hj k hk)⟩

/-- the rules handed to `RemoveUnreachableStates` on the slow path are those of the restriction to the productive states -/
theorem mem_slow_rules (r : Rule) :
    r ∈ σ.rtrans.filterMap (fun j => (σ.infos[j]?).map (·.rule)) ↔ r ∈ (restrict A (prodStates A)).rules := by
  rw [List.mem_filterMap]
  constructor
  · rintro ⟨j, hj, he⟩
    obtain ⟨r', hr', hi⟩ := h.rt j hj
    rw [hi] at he
    cases he
    exact fired_restrict h hw hr' hj
  · intro hr
    obtain ⟨hrA, _, hk⟩ := mem_rules_restrict.mp hr
    obtain ⟨j, hj⟩ := List.getElem?_of_mem hrA
    have hjf : j ∈ σ.rtrans := (fired_iff h hw hj).mpr (fun k hk' => (mem_reach_iff h hw _).mpr (hk k hk'))
    obtain ⟨r', hr', hi⟩ := h.rt j hjf
    refine ⟨j, hjf, ?_⟩
    rw [hi, ← getElem?_inj hj hr']
    rfl

/-- when `remaining == 0` every transition fired: sharing `transitions_` is the same as adding the fired ones -/
theorem mem_fast_rules (hrem : σ.remaining = 0) (r : Rule) : r ∈ A.rules ↔ r ∈ (restrict A (prodStates A)).rules := by
  refine ⟨fun hrA => ?_, fun hr => (mem_rules_restrict.mp hr).1⟩
  obtain ⟨j, hj⟩ := List.getElem?_of_mem hrA
  refine fired_restrict h hw hj (Classical.byContradiction fun hm => ?_)
  have := h.cnt
  have := nodup_length_lt h.rtnd (fun _ => h.rt_bound) (lt_of_getElem? hj) hm
  omega

end final

/-- the two loops of `RemoveUselessStates` compute exactly the productive states -/
theorem mem_prodCoded (A : TA) (q : Nat) : q ∈ prodCoded A ↔ q ∈ prodStates A := by
  obtain ⟨⟨s1, h⟩, hw⟩ := finalSt_inv A (dec := decOne) (fun _ => Nat.le_refl 1)
  exact mem_reach_iff h hw q

/-- the work-list is empty when the fuel `|rules|` is used up (totality of `finalSt`) -/
theorem finalSt_work (A : TA) : (finalSt decOne A).work = [] :=
  (finalSt_inv A (dec := decOne) (fun _ => Nat.le_refl 1)).2

theorem remaining_zero_sound (A : TA) (h0 : (finalSt decOne A).remaining = 0) (r : Rule) (hr : r ∈ A.rules) :
    r ∈ (restrict A (prodStates A)).rules := by
  obtain ⟨⟨s1, h⟩, hw⟩ := finalSt_inv A (dec := decOne) (fun _ => Nat.le_refl 1)
  exact (mem_fast_rules h hw h0 r).mp hr

/-- the automaton handed to `RemoveUnreachableStates` -/
def preUnreach (A : TA) : TA :=
  let σ := finalSt decOne A
  ⟨if σ.remaining == 0 then A.rules else σ.rtrans.filterMap (fun j => (σ.infos[j]?).map (·.rule)),
    A.final.filter (fun q => σ.reach.contains q)⟩

theorem uselessCoded_eq (A : TA) : uselessCoded A = unreachCoded (preUnreach A) := by
  unfold uselessCoded uselessWith finish preUnreach unreachCoded
  simp only
  split <;> rfl

theorem preUnreach_final (A : TA) : (preUnreach A).final = (restrict A (prodStates A)).final := by
  unfold preUnreach restrict
  simp only
  apply List.filter_congr
  intro q _
  rw [Bool.eq_iff_iff, List.contains_iff_mem, List.contains_iff_mem]
  exact mem_prodCoded A q

theorem preUnreach_equiv (A : TA) : TAEquiv (preUnreach A) (restrict A (prodStates A)) := by
  obtain ⟨⟨s1, h⟩, hw⟩ := finalSt_inv A (dec := decOne) (fun _ => Nat.le_refl 1)
  constructor
  · intro r
    unfold preUnreach
    simp only
    by_cases h0 : (finalSt decOne A).remaining = 0
    · rw [if_pos (by simpa using h0)]
      exact mem_fast_rules h hw h0 r
    · rw [if_neg (by simpa using h0)]
      exact mem_slow_rules h hw r
  · intro q
    rw [preUnreach_final]

theorem uselessCoded_final (A : TA) : (uselessCoded A).final = (removeUseless A).final := by
  rw [uselessCoded_eq, unreachCoded_final, removeUseless_eq]
  exact preUnreach_final A

theorem uselessCoded_equiv (A : TA) : TAEquiv (uselessCoded A) (removeUseless A) := by
  rw [uselessCoded_eq, removeUseless_eq]
  exact (unreachCoded_equiv _).trans (preUnreach_equiv A).removeUnreachable

end Vata.TrimCoded
