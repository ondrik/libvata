import Vata.Proofs.TrimCodedInit
/-!
# `RemoveUselessStates` as coded, part 2: the work-list loop (`mainLoop`)

`Inv A σ s0 pend`: the loop invariant; `s0` is the state popped last and `pend` the part of `stateMap[s0]` that the
inner `for` has not processed yet (`pend = []` between two iterations of the `while`).  The invariant contains the
C++ assertion `assert(childrenSet_.count(state))` of `reachedBy` (`Inv.assert_holds`), which is what makes every
transition fire at most once, which is what makes `remaining == 0` imply "every transition fired".
-/
namespace Vata.TrimCoded

/-- `x` has been popped from the work-list -/
def Done (σ : St) (x : Nat) : Prop := x ∈ σ.reach ∧ x ∉ σ.work

theorem done_pushState (σ : St) (p x : Nat) : Done (σ.pushState p) x ↔ Done σ x := by
  obtain ⟨R, W, e, hR, hW, _⟩ := pushState_spec σ p
  rw [e]
  unfold Done
  rw [hR, hW]
  by_cases hp : p ∈ σ.reach
  · exact ⟨fun h => ⟨h.1.elim id (fun e => e ▸ hp), fun hx => h.2 (Or.inl hx)⟩,
      fun h => ⟨Or.inl h.1, fun hx => hx.elim h.2 (fun e => e.2 hp)⟩⟩
  · exact ⟨fun h => ⟨h.1.resolve_right (fun e => h.2 (Or.inr ⟨e, hp⟩)), fun hx => h.2 (Or.inl hx)⟩,
      fun h => ⟨Or.inl h.1, fun hx => hx.elim h.2 (fun e => hp (e.1 ▸ h.1))⟩⟩

structure Inv (A : TA) (σ : St) (s0 : Nat) (pend : List Nat) : Prop where
  wsub : ∀ q, q ∈ σ.work → q ∈ σ.reach
  wnd : σ.work.Nodup
  sound : ∀ q, q ∈ σ.reach → q ∈ prodStates A
  cs : ∀ j r, A.rules[j]? = some r → ∃ c, σ.infos[j]? = some ⟨r, c⟩ ∧
        (∀ x, x ∈ c ↔ x ∈ r.kids ∧ (¬ Done σ x ∨ (x = s0 ∧ j ∈ pend))) ∧
        (c = [] → j ∈ σ.rtrans ∧ r.parent ∈ σ.reach)
  rt : ∀ j, j ∈ σ.rtrans → ∃ r, A.rules[j]? = some r ∧ σ.infos[j]? = some ⟨r, []⟩
  rtnd : σ.rtrans.Nodup
  sm : ∀ s j, j ∈ smGet σ.smap s ↔ ∃ r, A.rules[j]? = some r ∧ s ∈ r.kids
  smnd : ∀ s, (smGet σ.smap s).Nodup
  cnt : A.rules.length ≤ σ.remaining + σ.rtrans.length
  pendnd : pend.Nodup
  pendsub : ∀ j, j ∈ pend → j ∈ smGet σ.smap s0
  s0done : pend ≠ [] → Done σ s0

theorem inv_init (A : TA) (s0 : Nat) : Inv A (initLoop A A.rules.length) s0 [] := by
  have h := initLoop_inv A A.rules.length (Nat.le_refl _)
  have hnd : ∀ x, ¬ Done (initLoop A A.rules.length) x := by
    intro x hx
    exact hx.2 ((h.workmem x).mpr hx.1)
  constructor
  · intro q hq; exact (h.workmem q).mp hq
  · exact h.worknd
  · intro q hq
    obtain ⟨j, r, hr, _, hk, hp⟩ := h.src q hq
    rw [← hp]
    exact prodStates_closed A r (List.mem_of_getElem? hr) (fun x hx => by rw [hk] at hx; cases hx)
  · intro j r hj
    refine ⟨dedupL r.kids, ?_, ?_, ?_⟩
    · rw [h.infos, List.getElem?_map, hj]; rfl
    · intro x
      rw [mem_dedupL]
      constructor
      · intro hx; exact ⟨hx, Or.inl (hnd x)⟩
      · intro hx; exact hx.1
    · intro hc
      have hk := dedupL_eq_nil hc
      have hjr := (h.rt j).mpr ⟨r, hj, lt_of_getElem? hj, hk⟩
      exact ⟨hjr, h.leafp j hjr r hj⟩
  · intro j hj
    obtain ⟨r, h1, _, h3⟩ := (h.rt j).mp hj
    refine ⟨r, h1, ?_⟩
    rw [h.infos, List.getElem?_map, h1]
    simp only [Option.map_some, mkInfo, h3]
    rfl
  · exact h.rtnd
  · intro s j
    rw [h.sm]
    constructor
    · rintro ⟨r, h1, _, h3⟩; exact ⟨r, h1, h3⟩
    · rintro ⟨r, h1, h3⟩; exact ⟨r, h1, lt_of_getElem? h1, h3⟩
  · exact h.smnd
  · exact h.cnt
  · exact List.nodup_nil
  · intro j hj; exact absurd hj List.not_mem_nil
  · intro hp; exact absurd rfl hp

/-- the assertion `assert(childrenSet_.count(state))` in `reachedBy` never fails -/
theorem Inv.assert_holds {A : TA} {σ : St} {s0 j : Nat} {rest : List Nat} (h : Inv A σ s0 (j :: rest)) :
    ∃ r c, A.rules[j]? = some r ∧ σ.infos[j]? = some ⟨r, c⟩ ∧ s0 ∈ c := by
  obtain ⟨r, hr, hs⟩ := (h.sm s0 j).mp (h.pendsub j List.mem_cons_self)
  obtain ⟨c, hc, hmem, _⟩ := h.cs j r hr
  exact ⟨r, c, hr, hc, (hmem s0).mpr ⟨hs, Or.inr ⟨rfl, List.mem_cons_self⟩⟩⟩

theorem Inv.rt_bound {A : TA} {σ : St} {s0 : Nat} {pend : List Nat} (h : Inv A σ s0 pend) {i : Nat} (hi : i ∈ σ.rtrans) :
    i < A.rules.length :=
  let ⟨_, hr, _⟩ := h.rt i hi; lt_of_getElem? hr

theorem Inv.rt_lt {A : TA} {σ : St} {s0 : Nat} {pend : List Nat} (h : Inv A σ s0 pend) :
    σ.rtrans.length ≤ A.rules.length :=
  nodup_length_le _ _ h.rtnd fun _ => h.rt_bound

/-- the state after `reachedBy` returned `false` -/
def eraseSt (σ : St) (j : Nat) (r : Rule) (c : List Nat) : St := { σ with infos := σ.infos.set j ⟨r, c⟩ }
/-- the state after `reachedBy` returned `true`, before the insertion of the parent -/
def fireSt (dec : Rule → Nat) (σ : St) (j : Nat) (r : Rule) : St :=
  { σ with infos := σ.infos.set j ⟨r, []⟩, rtrans := σ.rtrans ++ [j], remaining := σ.remaining - dec r }

theorem innerStep_fire {dec : Rule → Nat} {s : Nat} {σ : St} {j : Nat} {r : Rule} {c : List Nat}
    (hc : σ.infos[j]? = some ⟨r, c⟩) (he : c.filter (fun x => x != s) = []) :
    innerStep dec s σ j = (fireSt dec σ j r).pushState r.parent := by
  unfold innerStep
  rw [hc]
  simp only [Info.reachedBy, he, List.isEmpty_nil, if_true]
  rfl

theorem innerStep_nofire {dec : Rule → Nat} {s : Nat} {σ : St} {j : Nat} {r : Rule} {c : List Nat}
    (hc : σ.infos[j]? = some ⟨r, c⟩) (he : c.filter (fun x => x != s) ≠ []) :
    innerStep dec s σ j = eraseSt σ j r (c.filter (fun x => x != s)) := by
  unfold innerStep
  rw [hc]
  simp only [Info.reachedBy, List.isEmpty_eq_false_iff.mpr he, Bool.false_eq_true, if_false]
  rfl

theorem pushState_fireSt (dec : Rule → Nat) (σ : St) (j : Nat) (r : Rule) (p : Nat) :
    (fireSt dec σ j r).pushState p = fireSt dec (σ.pushState p) j r := by
  show (if σ.reach.contains p then _ else _) = _
  unfold St.pushState
  split <;> rfl

theorem Inv.pushState {A : TA} {σ : St} {s0 : Nat} {pend : List Nat} (h : Inv A σ s0 pend) {p : Nat}
    (hp : p ∈ prodStates A) : Inv A (σ.pushState p) s0 pend := by
  have hD := done_pushState σ p
  obtain ⟨R, W, e, hR, hW, _, hWnd⟩ := pushState_spec σ p
  rw [e] at hD ⊢
  exact {
    wsub := fun q hq => (hR q).mpr (((hW q).mp hq).imp (h.wsub q) (fun e => e.1))
    wnd := hWnd h.wsub h.wnd
    sound := fun q hq => ((hR q).mp hq).elim (h.sound q) (fun e => e ▸ hp)
    cs := fun j r hr => by
      obtain ⟨c, h1, h2, h3⟩ := h.cs j r hr
      exact ⟨c, h1, fun x => by rw [h2, hD], fun hc => ⟨(h3 hc).1, (hR _).mpr (Or.inl (h3 hc).2)⟩⟩
    rt := h.rt
    rtnd := h.rtnd
    sm := h.sm
    smnd := h.smnd
    cnt := h.cnt
    pendnd := h.pendnd
    pendsub := h.pendsub
    s0done := fun hne => (hD s0).mpr (h.s0done hne) }

/-- the transition at the head of the pending list has not fired: its children set still contains `s0` -/
theorem Inv.head_not_fired {A : TA} {σ : St} {s0 j : Nat} {rest : List Nat} (h : Inv A σ s0 (j :: rest)) :
    j ∉ σ.rtrans := by
  intro hj
  obtain ⟨_, c, _, hc, hs0⟩ := h.assert_holds
  obtain ⟨_, _, hi⟩ := h.rt j hj
  rw [hi] at hc
  cases hc
  cases hs0

/-- while a transition is pending, not all transitions have fired -/
theorem Inv.pending_lt {A : TA} {σ : St} {s0 j : Nat} {rest : List Nat} (h : Inv A σ s0 (j :: rest)) :
    σ.rtrans.length < A.rules.length :=
  let ⟨_, _, hr, _⟩ := h.assert_holds
  nodup_length_lt h.rtnd (fun _ => h.rt_bound) (lt_of_getElem? hr) h.head_not_fired

/-- the invariant after `reachedBy (s0)` on the transition `j` at the head of the pending list: its children set loses
`s0`; if the set is empty now, `j` is among the fired transitions `rt'` (its parent having been inserted already) -/
theorem Inv.reachedBy {A : TA} {σ : St} {s0 j : Nat} {rest : List Nat} (h : Inv A σ s0 (j :: rest)) {r : Rule}
    {c : List Nat} (hr : A.rules[j]? = some r) (hc : σ.infos[j]? = some ⟨r, c⟩) (rt' : List Nat) (rem' : Nat)
    (hrt : ∀ i, i ∈ rt' ↔ i ∈ σ.rtrans ∨ (i = j ∧ c.filter (fun x => x != s0) = [])) (hnd : rt'.Nodup)
    (hcnt : A.rules.length ≤ rem' + rt'.length) (hp : c.filter (fun x => x != s0) = [] → r.parent ∈ σ.reach) :
    Inv A { σ with infos := σ.infos.set j ⟨r, c.filter (fun x => x != s0)⟩, rtrans := rt', remaining := rem' } s0 rest where
  wsub := h.wsub
  wnd := h.wnd
  sound := h.sound
  cs := fun j' r' hr' => by
    by_cases hj : j' = j
    · subst hj
      cases getElem?_inj hr' hr
      refine ⟨_, List.getElem?_set_self (lt_of_getElem? hc), fun x => ?_,
        fun e => ⟨(hrt j').mpr (Or.inr ⟨rfl, e⟩), hp e⟩⟩
      obtain ⟨c', hc', hmem, _⟩ := h.cs j' _ hr
      rw [hc] at hc'
      cases hc'
      rw [List.mem_filter, hmem, bne_iff_ne]
      constructor
      · rintro ⟨⟨h1, h2 | ⟨h2, _⟩⟩, h3⟩
        · exact ⟨h1, Or.inl h2⟩
        · exact absurd h2 h3
      · rintro ⟨h1, h2 | ⟨_, h2⟩⟩
        · exact ⟨⟨h1, Or.inl h2⟩, fun hx => h2 (hx ▸ h.s0done (List.cons_ne_nil _ _))⟩
        · exact absurd h2 (List.nodup_cons.mp h.pendnd).1
    · obtain ⟨c2, h1, h2, h3⟩ := h.cs j' r' hr'
      refine ⟨c2, by rw [List.getElem?_set_ne (Ne.symm hj)]; exact h1, fun x => ?_,
        fun e => ⟨(hrt j').mpr (Or.inl (h3 e).1), (h3 e).2⟩⟩
      rw [h2]
      simp only [List.mem_cons, hj, false_or]
      exact Iff.rfl
  rt := fun i hi => by
    rcases (hrt i).mp hi with hi | ⟨rfl, e⟩
    · obtain ⟨r', h1, h2⟩ := h.rt i hi
      refine ⟨r', h1, ?_⟩
      rw [List.getElem?_set_ne]
      · exact h2
      · intro e
        exact h.head_not_fired (e ▸ hi)
    · exact ⟨r, hr, e ▸ List.getElem?_set_self (lt_of_getElem? hc)⟩
  rtnd := hnd
  sm := h.sm
  smnd := h.smnd
  cnt := hcnt
  pendnd := (List.nodup_cons.mp h.pendnd).2
  pendsub := fun j' hj' => h.pendsub j' (List.mem_cons_of_mem _ hj')
  s0done := fun _ => h.s0done (List.cons_ne_nil _ _)

/-- `--remaining` on a counter that may be `0` already, and one more fired transition -/
theorem fire_cnt {n rem len d : Nat} (h : n ≤ rem + len) (hd : d ≤ 1) : n ≤ rem - d + (len + 1) :=
  calc n ≤ rem + len := h
    _ ≤ (rem - d + 1) + len :=
      Nat.add_le_add_right (Nat.le_trans (Nat.le_add_of_sub_le (Nat.le_refl _)) (Nat.add_le_add_left hd _)) _
    _ = rem - d + (len + 1) := by rw [Nat.add_assoc, Nat.add_comm 1]

theorem innerStep_inv {A : TA} {dec : Rule → Nat} (hdec : ∀ r, dec r ≤ 1) {σ : St} {s0 j : Nat} {rest : List Nat}
    (h : Inv A σ s0 (j :: rest)) : Inv A (innerStep dec s0 σ j) s0 rest := by
  obtain ⟨r, c, hr, hc, _⟩ := h.assert_holds
  obtain ⟨c', hc', hmem, _⟩ := h.cs j r hr
  rw [hc] at hc'
  cases hc'
  by_cases he : c.filter (fun x => x != s0) = []
  · -- every child of the fired rule is reachable, so the parent is productive; it is inserted first
    have hkids : ∀ x, x ∈ r.kids → x ∈ σ.reach := by
      intro x hx
      by_cases hd : Done σ x
      · exact hd.1
      · by_cases hxs : x = s0
        · exact hxs ▸ (h.s0done (List.cons_ne_nil _ _)).1
        · have : x ∈ c.filter (fun x => x != s0) :=
            List.mem_filter.mpr ⟨(hmem x).mpr ⟨hx, Or.inl hd⟩, bne_iff_ne.mpr hxs⟩
          rw [he] at this
          cases this
    have hpar : r.parent ∈ prodStates A :=
      prodStates_closed A r (List.mem_of_getElem? hr) (fun x hx => h.sound x (hkids x hx))
    have hp := h.pushState hpar (p := r.parent)
    rw [innerStep_fire hc he, pushState_fireSt]
    obtain ⟨R, W, e, hR, _⟩ := pushState_spec σ r.parent
    rw [e] at hp ⊢
    have := hp.reachedBy hr hc (σ.rtrans ++ [j]) (σ.remaining - dec r)
      (fun i => by rw [List.mem_append, List.mem_singleton, and_iff_left he])
      (nodup_snoc h.rtnd h.head_not_fired)
      (by rw [List.length_append]; exact fire_cnt h.cnt (hdec r))
      (fun _ => (hR _).mpr (Or.inr rfl))
    rw [he] at this
    exact this
  · rw [innerStep_nofire hc he]
    exact h.reachedBy hr hc σ.rtrans σ.remaining (fun i => (or_iff_left (fun e => he e.2)).symm) h.rtnd h.cnt
      (fun e => absurd e he)

/-- work-list length + number of transitions that have not fired -/
def measure (A : TA) (σ : St) : Nat := σ.work.length + (A.rules.length - σ.rtrans.length)

/-- firing: one more state on the work-list at most, one more fired transition (of at most `n`) -/
theorem measure_fire {w' w n j : Nat} {l : List Nat} (hw : w' ≤ w + 1) (hl : (l ++ [j]).length ≤ n) :
    w' + (n - (l ++ [j]).length) ≤ w + (n - l.length) := by
  rw [List.length_append, List.length_singleton] at hl ⊢
  omega

theorem innerStep_measure {A : TA} {dec : Rule → Nat} {σ : St} {s0 j : Nat} {rest : List Nat}
    (h : Inv A σ s0 (j :: rest)) : measure A (innerStep dec s0 σ j) ≤ measure A σ := by
  obtain ⟨r, c, _, hc, _⟩ := h.assert_holds
  by_cases he : c.filter (fun x => x != s0) = []
  · obtain ⟨R, W, e, _, _, hlen, _⟩ := pushState_spec (fireSt dec σ j r) r.parent
    rw [innerStep_fire hc he, e]
    exact measure_fire hlen (by rw [List.length_append]; exact h.pending_lt)
  · rw [innerStep_nofire hc he]
    exact Nat.le_refl _

theorem inner_inv {A : TA} {dec : Rule → Nat} (hdec : ∀ r, dec r ≤ 1) {s0 : Nat} (pend : List Nat) (σ : St)
    (h : Inv A σ s0 pend) : Inv A (pend.foldl (innerStep dec s0) σ) s0 [] ∧
      measure A (pend.foldl (innerStep dec s0) σ) ≤ measure A σ := by
  induction pend generalizing σ with
  | nil => exact ⟨h, Nat.le_refl _⟩
  | cons j rest ih =>
    obtain ⟨h1, h2⟩ := ih _ (innerStep_inv hdec h)
    exact ⟨h1, Nat.le_trans h2 (innerStep_measure h)⟩

theorem inv_pop {A : TA} {σ : St} {s0 s : Nat} {w : List Nat} (h : Inv A σ s0 []) (hw : σ.work = s :: w) :
    Inv A { σ with work := w } s (smGet σ.smap s) := by
  have hsR : s ∈ σ.reach := h.wsub s (by rw [hw]; exact List.mem_cons_self)
  have hnd := h.wnd
  rw [hw] at hnd
  have hsw : s ∉ w := (List.nodup_cons.mp hnd).1
  have hDs : Done { σ with work := w } s := ⟨hsR, hsw⟩
  have hD : ∀ x, x ≠ s → (Done { σ with work := w } x ↔ Done σ x) := by
    intro x hx
    unfold Done
    simp only [hw, List.mem_cons, hx, false_or]
  have hDs' : ¬ Done σ s := fun hd => hd.2 (by rw [hw]; exact List.mem_cons_self)
  constructor
  · intro q hq
    exact h.wsub q (by rw [hw]; exact List.mem_cons_of_mem _ hq)
  · exact (List.nodup_cons.mp hnd).2
  · exact h.sound
  · intro j r hr
    obtain ⟨c, h1, h2, h3⟩ := h.cs j r hr
    refine ⟨c, h1, ?_, h3⟩
    intro x
    rw [h2]
    by_cases hx : x = s
    · subst hx
      constructor
      · rintro ⟨hk, _⟩
        exact ⟨hk, Or.inr ⟨rfl, (h.sm x j).mpr ⟨r, hr, hk⟩⟩⟩
      · rintro ⟨hk, _⟩
        exact ⟨hk, Or.inl hDs'⟩
    · rw [hD x hx]
      simp only [List.not_mem_nil, and_false, or_false, hx, false_and]
  · exact h.rt
  · exact h.rtnd
  · exact h.sm
  · exact h.smnd
  · exact h.cnt
  · exact h.smnd s
  · intro j hj; exact hj
  · intro _; exact hDs

/-- one iteration of the `while`: a state without an entry in `stateMap` has the empty vector -/
theorem mainLoop_cons (dec : Rule → Nat) (f : Nat) {σ : St} {s : Nat} {w : List Nat} (hw : σ.work = s :: w) :
    mainLoop dec (f + 1) σ = mainLoop dec f ((smGet σ.smap s).foldl (innerStep dec s) { σ with work := w }) := by
  rw [mainLoop, hw]
  dsimp only [smGet]
  cases σ.smap.lookup s <;> rfl

theorem mainLoop_inv {A : TA} {dec : Rule → Nat} (hdec : ∀ r, dec r ≤ 1) (f : Nat) (σ : St) (s0 : Nat)
    (h : Inv A σ s0 []) (hm : measure A σ ≤ f) :
    (∃ s1, Inv A (mainLoop dec f σ) s1 []) ∧ (mainLoop dec f σ).work = [] := by
  induction f generalizing σ s0 with
  | zero =>
    exact ⟨⟨s0, h⟩, List.eq_nil_of_length_eq_zero (Nat.eq_zero_of_add_eq_zero_right (Nat.le_zero.mp hm))⟩
  | succ f ih =>
    cases hw : σ.work with
    | nil => rw [mainLoop, hw]; exact ⟨⟨s0, h⟩, hw⟩
    | cons s w =>
      rw [mainLoop_cons dec f hw]
      obtain ⟨h1, h2⟩ := inner_inv hdec _ _ (inv_pop h hw)
      refine ih _ s h1 (Nat.le_trans h2 (Nat.le_of_succ_le_succ (Nat.le_trans (Nat.le_of_eq ?_) hm)))
      -- popping decreases the measure by one
      unfold measure
      rw [hw]
      exact (Nat.succ_add w.length _).symm

theorem measure_init (A : TA) : measure A (initLoop A A.rules.length) ≤ A.rules.length := by
  have h := initLoop_inv A A.rules.length (Nat.le_refl _)
  have := h.wlen
  have := (inv_init A 0).rt_lt
  unfold measure
  omega

/-- the final state: the invariant holds and the work-list is empty (totality: the fuel `|rules|` suffices) -/
theorem finalSt_inv (A : TA) {dec : Rule → Nat} (hdec : ∀ r, dec r ≤ 1) :
    (∃ s1, Inv A (finalSt dec A) s1 []) ∧ (finalSt dec A).work = [] :=
  mainLoop_inv hdec _ _ 0 (inv_init A 0) (measure_init A)

end Vata.TrimCoded
