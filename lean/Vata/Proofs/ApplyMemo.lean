import Vata.ApplyMemo
import Vata.Proofs.RcStoreXOps
import Vata.Proofs.StoreRefine
/-!
# The memo tables of the apply functors are transparent (property C17)

Theorems about `Vata/ApplyMemo.lean`.

* the three `recDescend`s are instances of one recursion scheme (`RcSX.Descent`, `Vata/Proofs/StoreBuild.lean`); for the scheme:
  `Descent.replay`: a finished memo-free run `(s₁, r)` can be REPLAYED in every later store `s' ⊒ s₁` that arose by allocations
  only (`Ext`): it returns the same node `r` and leaves `s'` as it is (all its spawns hit the unique tables);
  `MemoDescent.runM_eq`: hence the run with the memo table computes exactly what the memo-free one computes – the same store, the
  same root – when the table only holds replayable entries (`MemoOK`), in particular from the empty table of `ht.clear()`; the
  table it leaves is again `MemoOK`;
* the binary apply: `recDescend_replay`, `recDescendM_eq`, `apply2Memo_eq`; `recDescendM_grows`: the invariant of a call – the
  store only grows (`Ext`: every allocated node stays allocated with its contents) and no node is released (`freed` unchanged)
  between `ht.clear()` and the end of the call;
* the unary and the ternary apply: `apply1Memo_eq`, `apply3Memo_eq`;
* `memo_survives_wrong`: a table that SURVIVES across calls is wrong as soon as a result node dies and its address is re-used
  (by `decide`), and dangling even without re-use.
-/
namespace Vata.RcS

/-! ## 1. unique-table hits persist when the store grows -/

theorem find_leaf_persist {s s' : Store} (h : WInv s []) (h' : WInv s' []) (e : Ext s s') {v n : Nat}
    (hf : find v s.leafT = some n) : find v s'.leafT = some n := by
  obtain ⟨hn, hd⟩ := (h.leafOk v n).mp (find_some_mem hf)
  refine mem_find h'.leafK ((h'.leafOk v n).mpr ⟨e.ids n hn, ?_⟩)
  rw [e.dat n (h.fresh n hn)]; exact hd

theorem find_int_persist {s s' : Store} (h : WInv s []) (h' : WInv s' []) (e : Ext s s') {k : IKey} {n : Nat}
    (hf : find k s.intT = some n) : find k s'.intT = some n := by
  obtain ⟨hn, hd⟩ := (h.intOk k n).mp (find_some_mem hf)
  refine mem_find h'.intK ((h'.intOk k n).mpr ⟨e.ids n hn, ?_⟩)
  rw [e.dat n (h.fresh n hn)]; exact hd

theorem find_cons_self {κ : Type} [DecidableEq κ] (k : κ) (n : Nat) (t : List (κ × Nat)) : find k ((k, n) :: t) = some n := by
  simp [find]

/-- after `spawnLeaf s v` the leaf table has `v ↦ result` -/
theorem spawnLeaf_find (s : Store) (v : Nat) : find v (spawnLeaf s v).1.leafT = some (spawnLeaf s v).2 := by
  unfold spawnLeaf
  split
  · rename_i n hf; exact hf
  · exact find_cons_self _ _ _

theorem spawnInternal_find (s : Store) (lo hi var : Nat) :
    find (lo, hi, var) (spawnInternal s lo hi var).1.intT = some (spawnInternal s lo hi var).2 := by
  unfold spawnInternal
  split
  · rename_i n hf; exact hf
  · exact find_cons_self _ _ _

/-- a spawn can be replayed in every larger store: it hits the table -/
theorem spawnLeaf_replay {s s' : Store} {v : Nat} (h : WInv s []) (h' : WInv s' []) (e : Ext (spawnLeaf s v).1 s') :
    spawnLeaf s' v = (s', (spawnLeaf s v).2) := by
  have hf := find_leaf_persist (spawnLeaf_inv h).1 h' e (spawnLeaf_find s v)
  conv => lhs; unfold spawnLeaf
  rw [hf]

theorem spawnInternal_replay {s s' : Store} {lo hi var : Nat} (h : WInv s []) (hlo : lo ∈ s.ids) (hhi : hi ∈ s.ids)
    (h' : WInv s' []) (e : Ext (spawnInternal s lo hi var).1 s') :
    spawnInternal s' lo hi var = (s', (spawnInternal s lo hi var).2) := by
  have hf := find_int_persist (spawnInternal_inv h hlo hhi).1 h' e (spawnInternal_find s lo hi var)
  conv => lhs; unfold spawnInternal
  rw [hf]

end Vata.RcS

/-! ## 2. replay and the memo table, for the recursion scheme of the three functors -/

namespace Vata.RcSX
open Vata.RcS

theorem joinNode_replay {s s' : Store} {lo hi var : Nat} (h : WInv s []) (hlo : lo ∈ s.ids) (hhi : hi ∈ s.ids)
    (h' : WInv s' []) (e : Ext (joinNode s lo hi var).1 s') : joinNode s' lo hi var = (s', (joinNode s lo hi var).2) := by
  by_cases heq : lo = hi
  · simp only [joinNode, if_pos heq]
  · simp only [joinNode, if_neg heq] at e ⊢
    exact spawnInternal_replay h hlo hhi h' e

variable {κ : Type}

/-- **replay**: a finished `run` returns the same node and changes nothing in any later, larger store -/
theorem Descent.replay (D : Descent κ) : ∀ (fuel : Nat) (s : Store) (k : κ), WInv s [] → (∀ n ∈ D.nodes k, n ∈ s.ids) →
    D.size k < fuel → ∀ (fuel' : Nat) (s' : Store), WInv s' [] → Ext (D.run fuel s k).1 s' → D.size k < fuel' →
    D.run fuel' s' k = (s', (D.run fuel s k).2)
  | 0, _, _, _, _, hf => absurd hf (Nat.not_lt_zero _)
  | fuel+1, s, k, h, hk, hf => by
    intro fuel' s' h' e hf'
    obtain ⟨fuel', rfl⟩ := Nat.exists_eq_add_one_of_ne_zero (Nat.ne_zero_of_lt hf')
    have e0 : Ext s s' := (D.built (fuel+1) s k h hk hf).1.ext.trans e
    have hst' : D.step s'.dat k = D.step s.dat k := D.step_congr (fun n hn => e0.dat n (h.fresh n (hk n hn)))
    rw [D.run_succ] at e
    rw [D.run_succ fuel' s' k, D.run_succ fuel s k, hst']
    cases hst : D.step s.dat k with
    | leaf v =>
      rw [hst] at e
      exact spawnLeaf_replay h h' e
    | node lo hi var =>
      rw [hst] at e
      obtain ⟨klo, khi, llo, lhi⟩ := D.step_node h hk hst
      have flo := Nat.lt_of_lt_of_le llo (Nat.le_of_lt_succ hf)
      have fhi := Nat.lt_of_lt_of_le lhi (Nat.le_of_lt_succ hf)
      have b1 := (D.built fuel s lo h klo flo).1
      have khi1 : ∀ n ∈ D.nodes hi, n ∈ (D.run fuel s lo).1.ids := fun n hn => b1.ext.ids n (khi n hn)
      have b2 := (D.built fuel _ hi b1.inv khi1 fhi).1
      have m1 := (b1.keep b2).1
      have e3 : Ext (D.run fuel (D.run fuel s lo).1 hi).1 s' := (built_joinNode var b2.inv m1 b2.mem).1.ext.trans e
      have r1 := D.replay fuel s lo h klo flo fuel' s' h' (b2.ext.trans e3) (Nat.lt_of_lt_of_le llo (Nat.le_of_lt_succ hf'))
      have r2 := D.replay fuel _ hi b1.inv khi1 fhi fuel' s' h' e3 (Nat.lt_of_lt_of_le lhi (Nat.le_of_lt_succ hf'))
      simp only [Step.exec, r1, r2]
      exact joinNode_replay b2.inv m1 b2.mem h' e

/-- carrying a step out with the memo table `ht`: the result is entered under the key `k` -/
def Step.execM (runM : Store → List (κ × Nat) → κ → Store × Nat × List (κ × Nat)) (s : Store) (ht : List (κ × Nat))
    (k : κ) : Step κ → Store × Nat × List (κ × Nat)
  | .leaf v => ((spawnLeaf s v).1, (spawnLeaf s v).2, (k, (spawnLeaf s v).2) :: ht)
  | .node lo hi var =>
    let r1 := runM s ht lo
    let r2 := runM r1.1 r1.2.2 hi
    if r1.2.1 = r2.2.1 then (r2.1, r1.2.1, (k, r1.2.1) :: r2.2.2)
    else
      let r3 := spawnInternal r2.1 r1.2.1 r2.2.1 var
      (r3.1, r3.2, (k, r3.2) :: r2.2.2)

/-- the scheme with a memo table: look the argument up; otherwise compute as `run` does, threading the table through the two
recursive calls, and insert the result -/
structure MemoDescent (κ : Type) [DecidableEq κ] extends Descent κ where
  runM : Nat → Store → List (κ × Nat) → κ → Store × Nat × List (κ × Nat)
  runM_succ : ∀ fuel s ht k, runM (fuel+1) s ht k =
    match find k ht with
    | some r => (s, r, ht)
    | none => (step s.dat k).execM (runM fuel) s ht k

/-- every entry of the table can be replayed in the store `s` and in every larger one -/
def Descent.MemoOK (D : Descent κ) (s : Store) (ht : List (κ × Nat)) : Prop :=
  ∀ k r, (k, r) ∈ ht → ∀ (fuel : Nat) (s' : Store), WInv s' [] → Ext s s' → D.size k < fuel → D.run fuel s' k = (s', r)

theorem Descent.memoOK_nil (D : Descent κ) (s : Store) : D.MemoOK s [] := fun _ _ h => nomatch h

theorem Descent.MemoOK.mono {D : Descent κ} {s s₁ : Store} {ht : List (κ × Nat)} (h : D.MemoOK s ht) (e : Ext s s₁) :
    D.MemoOK s₁ ht :=
  fun k r hm fuel s' h' e' hf => h k r hm fuel s' h' (e.trans e') hf

theorem Descent.MemoOK.cons {D : Descent κ} {s : Store} {ht : List (κ × Nat)} {k : κ} {r : Nat} (h : D.MemoOK s ht)
    (hn : ∀ (fuel : Nat) (s' : Store), WInv s' [] → Ext s s' → D.size k < fuel → D.run fuel s' k = (s', r)) :
    D.MemoOK s ((k, r) :: ht) := by
  intro k' r' hm
  rcases List.mem_cons.mp hm with heq | hm
  · cases heq; exact hn
  · exact h k' r' hm

/-- **`runM` = `run`**: the same store and the same node, from any table whose entries are replayable; the table left behind is
replayable again -/
theorem MemoDescent.runM_eq [DecidableEq κ] (D : MemoDescent κ) : ∀ (fuel : Nat) (s : Store) (ht : List (κ × Nat)) (k : κ),
    WInv s [] → (∀ n ∈ D.nodes k, n ∈ s.ids) → D.size k < fuel → D.MemoOK s ht →
    ∃ ht', D.runM fuel s ht k = ((D.run fuel s k).1, (D.run fuel s k).2, ht') ∧ D.MemoOK (D.run fuel s k).1 ht'
  | 0, _, _, _, _, _, hf, _ => absurd hf (Nat.not_lt_zero _)
  | fuel+1, s, ht, k, h, hk, hf, hm => by
    rw [D.runM_succ]
    cases hfind : find k ht with
    | some r =>
      rw [hm k r (find_some_mem hfind) (fuel+1) s h (Ext.refl s) hf]
      exact ⟨ht, rfl, hm⟩
    | none =>
      -- the whole call can be replayed later: the entry inserted at the end is sound
      have hnew := D.replay (fuel+1) s k h hk hf
      have eall := (D.built (fuel+1) s k h hk hf).1.ext
      have hrun := D.run_succ fuel s k
      cases hst : D.step s.dat k with
      | leaf v =>
        rw [hst] at hrun
        rw [hrun] at hnew eall ⊢
        exact ⟨_, rfl, (hm.mono eall).cons hnew⟩
      | node lo hi var =>
        rw [hst] at hrun
        rw [hrun] at hnew ⊢
        obtain ⟨klo, khi, llo, lhi⟩ := D.step_node h hk hst
        have flo := Nat.lt_of_lt_of_le llo (Nat.le_of_lt_succ hf)
        have fhi := Nat.lt_of_lt_of_le lhi (Nat.le_of_lt_succ hf)
        have b1 := (D.built fuel s lo h klo flo).1
        obtain ⟨ht1, q1, ok1⟩ := D.runM_eq fuel s ht lo h klo flo hm
        have khi1 : ∀ n ∈ D.nodes hi, n ∈ (D.run fuel s lo).1.ids := fun n hn => b1.ext.ids n (khi n hn)
        have b2 := (D.built fuel _ hi b1.inv khi1 fhi).1
        obtain ⟨ht2, q2, ok2⟩ := D.runM_eq fuel _ ht1 hi b1.inv khi1 fhi ok1
        simp only [Step.execM, Step.exec, q1, q2] at hnew ⊢
        refine ⟨_, ?_, (ok2.mono (built_joinNode var b2.inv (b1.keep b2).1 b2.mem).1.ext).cons hnew⟩
        unfold joinNode
        split <;> rfl

end Vata.RcSX

namespace Vata.RcS
open Vata.R (Data)
open Vata.RcSX (Step Descent MemoDescent joinNode)

/-! ## 3. binary apply -/

/-- `recDescendM` follows the scheme -/
def memo2 (f : Nat → Nat → Nat) : MemoDescent (Nat × Nat) where
  toDescent := descend2 f
  runM fuel s ht k := recDescendM f fuel s ht k.1 k.2
  runM_succ fuel s ht k := by
    simp only [descend2, step2]
    rw [apply_ite (Step.execM _ s ht k)]
    rfl

/-- **replay**: a finished `recDescend` returns the same node and changes nothing in any later, larger store -/
theorem recDescend_replay (f : Nat → Nat → Nat) : ∀ (fuel : Nat) (s : Store) (n1 n2 : Nat), WInv s [] → n1 ∈ s.ids →
    n2 ∈ s.ids → n1 + n2 < fuel → ∀ (fuel' : Nat) (s' : Store), WInv s' [] → Ext (recDescend f fuel s n1 n2).1 s' →
    n1 + n2 < fuel' → recDescend f fuel' s' n1 n2 = (s', (recDescend f fuel s n1 n2).2) :=
  fun fuel s n1 n2 h h1 h2 => (memo2 f).replay fuel s (n1, n2) h (forall_mem_pair.mpr ⟨h1, h2⟩)

/-- every entry of the table can be replayed in the store `s` and in every larger one -/
def MemoOK (f : Nat → Nat → Nat) (s : Store) (ht : Memo) : Prop :=
  ∀ a b r, ((a, b), r) ∈ ht → ∀ (fuel : Nat) (s' : Store), WInv s' [] → Ext s s' → a + b < fuel →
    recDescend f fuel s' a b = (s', r)

theorem memoOK_iff {f : Nat → Nat → Nat} {s : Store} {ht : Memo} : MemoOK f s ht ↔ (memo2 f).MemoOK s ht :=
  ⟨fun h k r => h k.1 k.2 r, fun h a b r => h (a, b) r⟩

theorem memoOK_nil (f : Nat → Nat → Nat) (s : Store) : MemoOK f s [] := fun _ _ _ h => by cases h

/-- **`recDescend` with the memo table = `recDescend` without**: the same store and the same node, from any table whose entries
are replayable; the table left behind is replayable again -/
theorem recDescendM_eq (f : Nat → Nat → Nat) : ∀ (fuel : Nat) (s : Store) (ht : Memo) (n1 n2 : Nat), WInv s [] →
    n1 ∈ s.ids → n2 ∈ s.ids → n1 + n2 < fuel → MemoOK f s ht →
    (recDescendM f fuel s ht n1 n2).1 = (recDescend f fuel s n1 n2).1 ∧
    (recDescendM f fuel s ht n1 n2).2.1 = (recDescend f fuel s n1 n2).2 ∧
    MemoOK f (recDescend f fuel s n1 n2).1 (recDescendM f fuel s ht n1 n2).2.2 := by
  intro fuel s ht n1 n2 h h1 h2 hf hm
  obtain ⟨ht', q, ok⟩ := (memo2 f).runM_eq fuel s ht (n1, n2) h (forall_mem_pair.mpr ⟨h1, h2⟩) hf (memoOK_iff.mp hm)
  rw [show recDescendM f fuel s ht n1 n2 = _ from q]
  exact ⟨rfl, rfl, memoOK_iff.mpr ok⟩

/-- **`apply2Memo_eq`**: the apply as coded (table cleared, then `recDescend` with the table) returns the same store – in
particular the same root for the new handle – as the memo-free apply of the store model, after any history -/
theorem apply2Memo_eq (f : Nat → Nat → Nat) {s : Store} (hi : WInv s []) (a b dst : Nat) :
    apply2M f s a b dst = apply2 f s a b dst := by
  unfold apply2M apply2
  cases hfa : find a s.hs with
  | none => rfl
  | some ra =>
    cases hfb : find b s.hs with
    | none => rfl
    | some rb =>
      cases hfd : find dst s.hs with
      | some _ => rfl
      | none =>
        have hra : ra ∈ s.ids := hi.rin ra (root_mem hfa)
        have hrb : rb ∈ s.ids := hi.rin rb (root_mem hfb)
        obtain ⟨e1, e2, _⟩ := recDescendM_eq f (ra + rb + 1) s [] ra rb hi hra hrb (Nat.lt_succ_self _) (memoOK_nil f s)
        simp only [e1, e2]

theorem apply2Memo_run (f : Nat → Nat → Nat) (ops : List Op) (a b dst : Nat) :
    apply2M f (runF f ops) a b dst = runF f (ops ++ [.apply a b dst]) := by
  rw [apply2Memo_eq f (runF_inv f ops).1, runF_snoc]; rfl

/-! ### the invariant of a call: the store only grows, nothing is released -/

/-- between `ht.clear()` and the end of the call: every allocated node stays allocated with its contents, the handles are
untouched (`Ext`), no node is released (`freed` unchanged), no assertion fails – so a node id in the table cannot die, let
alone be re-used, while the table is in use -/
theorem recDescendM_grows (f : Nat → Nat → Nat) {fuel : Nat} {s : Store} {ht : Memo} {n1 n2 : Nat} (h : WInv s [])
    (h1 : n1 ∈ s.ids) (h2 : n2 ∈ s.ids) (hf : n1 + n2 < fuel) (hm : MemoOK f s ht) :
    Ext s (recDescendM f fuel s ht n1 n2).1 ∧ (recDescendM f fuel s ht n1 n2).1.freed = s.freed ∧
    WInv (recDescendM f fuel s ht n1 n2).1 [] ∧ (recDescendM f fuel s ht n1 n2).2.1 ∈ (recDescendM f fuel s ht n1 n2).1.ids := by
  obtain ⟨e1, e2, _⟩ := recDescendM_eq f fuel s ht n1 n2 h h1 h2 hf hm
  have b := (built_recDescend f fuel s n1 n2 h h1 h2 hf).1
  rw [e1, e2]
  exact ⟨b.ext, b.freed, b.inv, b.mem⟩

/-! ## 3b. unary and ternary apply: the memo-free models are those of `Vata/RcStoreX.lean` -/

theorem recDescend1_eq (g : Nat → Nat) : ∀ (fuel : Nat) (s : Store) (n : Nat),
    recDescend1 g fuel s n = RcSX.recDescend1 g fuel s n
  | 0, _, _ => rfl
  | fuel+1, s, n => by
    cases hd : s.dat n <;> simp only [recDescend1, RcSX.recDescend1, hd, joinNode, recDescend1_eq g fuel]

/-- `recDescend1M` follows the scheme -/
def memo1 (g : Nat → Nat) : MemoDescent Nat where
  toDescent := RcSX.descend1 g
  runM := recDescend1M g
  runM_succ fuel s ht n := by
    cases hfind : find n ht <;> simp only [recDescend1M, hfind, RcSX.descend1, RcSX.step1]
    cases hd : s.dat n <;> rfl

/-- **`apply1Memo_eq`**: the unary apply as coded returns the same store as the memo-free one -/
theorem apply1Memo_eq (g : Nat → Nat) {s : Store} (hi : WInv s []) (a dst : Nat) : apply1M g s a dst = apply1 g s a dst := by
  unfold apply1M apply1
  split
  · rename_i ra hfa hfd
    obtain ⟨_, q, _⟩ := (memo1 g).runM_eq (ra + 1) s [] ra hi (List.forall_mem_singleton.mpr (hi.rin ra (root_mem hfa)))
      (Nat.lt_succ_self _) (Descent.memoOK_nil _ s)
    simp only [show recDescend1M g (ra + 1) s [] ra = _ from q, recDescend1_eq]
    rfl
  · rfl

theorem br3_eq (d1 d2 d3 : Data) : br3 d1 d2 d3 = RcSX.br3 d1 d2 d3 := by
  cases d1 <;> cases d2 <;> cases d3 <;> rfl

theorem recDescend3_eq (f : Nat → Nat → Nat → Nat) : ∀ (fuel : Nat) (s : Store) (n1 n2 n3 : Nat),
    recDescend3 f fuel s n1 n2 n3 = RcSX.recDescend3 f fuel s n1 n2 n3
  | 0, _, _, _, _ => rfl
  | fuel+1, s, n1, n2, n3 => by
    simp only [recDescend3, RcSX.recDescend3, joinNode, br3_eq, recDescend3_eq f fuel]

/-- `recDescend3M` follows the scheme -/
def memo3 (f : Nat → Nat → Nat → Nat) : MemoDescent (Nat × Nat × Nat) where
  toDescent := RcSX.descend3 f
  runM fuel s ht k := recDescend3M f fuel s ht k.1 k.2.1 k.2.2
  runM_succ fuel s ht k := by
    simp only [RcSX.descend3, RcSX.step3, ← br3_eq]
    rw [apply_ite (Step.execM _ s ht k)]
    rfl

/-- **`apply3Memo_eq`**: the ternary apply as coded returns the same store as the memo-free one -/
theorem apply3Memo_eq (f : Nat → Nat → Nat → Nat) {s : Store} (hi : WInv s []) (a b c dst : Nat) :
    apply3M f s a b c dst = apply3 f s a b c dst := by
  unfold apply3M apply3
  split
  · rename_i ra rb rc hfa hfb hfc hfd
    obtain ⟨_, q, _⟩ := (memo3 f).runM_eq (ra + rb + rc + 1) s [] (ra, rb, rc) hi
      (RcSX.forall_mem_triple.mpr ⟨hi.rin ra (root_mem hfa), hi.rin rb (root_mem hfb), hi.rin rc (root_mem hfc)⟩)
      (Nat.lt_succ_self _) (Descent.memoOK_nil _ s)
    simp only [show recDescend3M f (ra + rb + rc + 1) s [] ra rb rc = _ from q, recDescend3_eq]
    rfl
  · rfl

/-! ## 4. a table that survives the call -/

namespace MemoEx

def fadd (x y : Nat) : Nat := x + y

/-- the constants 1 and 2 (handles 0, 1; nodes 0, 1) -/
def s₂ : Store := construct (construct empty 0 [] 1 1) 1 [] 2 2
/-- handle 2 = `apply(+)(0, 1)`: the leaf 3 is node 2; the table remembers `(0, 1) ↦ 2` -/
def r₃ : Store × Memo := apply2Keep fadd s₂ [] 0 1 2
/-- handle 2 dies: node 2 is released -/
def s₄ : Store := destroy r₃.1 2
/-- the constant 7 (handle 3): the allocator hands the address 2 out again -/
def s₅ : Store := constructLeafReuse s₄ 3 7
/-- the same apply again, with the table that survived -/
def r₆ : Store × Memo := apply2Keep fadd s₅ r₃.2 0 1 4
/-- … and without address re-use (ids are never re-used in `RcStore`): the constant 7 is node 3 -/
def s₅' : Store := construct s₄ 3 [] 7 7
def r₆' : Store × Memo := apply2Keep fadd s₅' r₃.2 0 1 4

def zeroAsgn : Nat → Bool := fun _ => false

end MemoEx

open MemoEx in
/-- **a memo table that survives across calls is wrong**: `1 + 2` is computed (node 2, remembered under the addresses `(0, 1)`),
the result dies, its address is re-used for the constant 7, and the surviving table answers the repeated `1 + 2` with the
node at that address: `7`.  The table cleared per call (`apply2M`) gives `3`.  Without address re-use the surviving table
hands out a node that is not allocated any more (a dangling pointer) -/
theorem memo_survives_wrong :
    r₃.2 = [((0, 1), 2)] ∧ s₄.freed = [2] ∧ find 3 s₅.hs = some 2 ∧
    getValue r₆.1 4 zeroAsgn = some 7 ∧ r₆.1.err = false ∧
    getValue (apply2M fadd s₅ 0 1 4) 4 zeroAsgn = some 3 ∧
    (find 4 r₆'.1.hs = some 2 ∧ 2 ∉ r₆'.1.ids) := by
  decide

-- non-vacuity of `apply2Memo_eq` / `apply1Memo_eq`: a history with shared sub-diagrams, where the table is hit
example : Inv (runF applyOp RefineEx.ops) := runF_inv _ _
-- the pair `(7, 7)` descends to `(2, 2)`, `(6, 6)`, which both reach the pair of leaves `(0, 0)`: six entries for seven calls
example : (recDescendM applyOp 20 (runF applyOp RefineEx.ops) [] 7 7).2.2.map (·.1) =
      [(7, 7), (6, 6), (3, 3), (2, 2), (0, 0), (1, 1)] ∧
    (recDescendM applyOp 20 (runF applyOp RefineEx.ops) [] 7 7).2.1 = (recDescend applyOp 20 (runF applyOp RefineEx.ops) 7 7).2 := by
  decide
example : apply2M applyOp (runF applyOp RefineEx.ops) 5 1 7 = runF applyOp (RefineEx.ops ++ [.apply 5 1 7]) :=
  apply2Memo_run applyOp RefineEx.ops 5 1 7
example : find 7 (apply3M (fun x y z => x + y + z) (runF applyOp RefineEx.ops) 5 1 6 7).hs = some 15 ∧
    find 7 (apply3 (fun x y z => x + y + z) (runF applyOp RefineEx.ops) 5 1 6 7).hs = some 15 := by decide
example : apply3M (fun x y z => x + y + z) (runF applyOp RefineEx.ops) 5 1 6 7 =
    apply3 (fun x y z => x + y + z) (runF applyOp RefineEx.ops) 5 1 6 7 := apply3Memo_eq _ (runF_inv _ _).1 5 1 6 7
example : find 7 (apply1M (fun v => v % 2) (runF applyOp RefineEx.ops) 5 7).hs =
    find 7 (apply1 (fun v => v % 2) (runF applyOp RefineEx.ops) 5 7).hs :=
  congrArg (fun s => find 7 s.hs) (apply1Memo_eq _ (runF_inv _ _).1 5 7)

-- the new store-level models of the unary and the ternary apply against the tree-level ones (`Vata/MtbddOps.lean`), evaluated:
-- the diagram of the result is `M.apply1` / `M.apply3` of the diagrams of the operands (roots 8, 2, 9 of the handles 5, 1, 6)
#guard diagram (apply3M (fun x y z => x + y + z) (runF applyOp RefineEx.ops) 5 1 6 7) 15 ==
  M.apply3 (fun x y z => x + y + z) (diagram (runF applyOp RefineEx.ops) 8) (diagram (runF applyOp RefineEx.ops) 2)
    (diagram (runF applyOp RefineEx.ops) 9)
#guard find 7 (apply1M (fun v => v % 2) (runF applyOp RefineEx.ops) 5 7).hs == some 11
#guard diagram (apply1M (fun v => v % 2) (runF applyOp RefineEx.ops) 5 7) 11 ==
  M.apply1 (fun v => v % 2) (diagram (runF applyOp RefineEx.ops) 8)
#guard diagram (apply1M (fun _ => 4) (runF applyOp RefineEx.ops) 5 7) 10 == .leaf 4

end Vata.RcS
