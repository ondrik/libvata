import Vata.TaLts
import Vata.Proofs.SimModel
import Vata.Proofs.ListExt
import Vata.Proofs.ContainerLemmas
/-!
# The TA → LTS encodings have the simulations of the automaton (property C04)

Models: `Vata/TaLts.lean` (`TranslateDownward`, `TranslateUpward` after the repair,
`Compute{Downward,Upward}Simulation(size)`).  Both routes go the same way, for EVERY numbering `idx` of the states that
is injective with values below the bound (`IdxOk`): a simulation of `A` extends to a simulation of the LTS inside the
initial relation (tuple nodes related component-wise, environment nodes through their parents), and a simulation of the
LTS restricted to the state nodes is a simulation of `A`; hence the greatest ones agree on the state nodes.  Downward
needs `A` ranked (a counterexample shows it cannot be dropped); upward needs every state to own a rule (`AllOwnRule`)
and `N = (parents A).length = transitions_->size() ≤ size`, and the code before the repair is shown wrong for a
non-identity numbering.
-/
namespace Vata.TaLts
open Vata Vata.L

theorem pos_eq_idxOf {α : Type} [DecidableEq α] (x : α) : ∀ l : List α, pos x l = l.idxOf x
  | [] => rfl
  | y :: ys => by
    rw [pos, List.idxOf_cons, pos_eq_idxOf x ys]
    by_cases h : x = y
    · rw [if_pos h, h, beq_self_eq_true]; rfl
    · rw [if_neg h, beq_false_of_ne (Ne.symm h)]; rfl

theorem pos_lt {α : Type} [DecidableEq α] {x : α} {l : List α} (h : x ∈ l) : pos x l < l.length := by
  rw [pos_eq_idxOf]; exact List.idxOf_lt_length_of_mem h

theorem getElem?_pos {α : Type} [DecidableEq α] {l : List α} {x : α} (h : x ∈ l) : l[pos x l]? = some x := by
  rw [pos_eq_idxOf]; exact getElem?_idxOf h

theorem pos_getElem {α : Type} [DecidableEq α] {l : List α} {i : Nat} {x : α} (hnd : l.Nodup) (h : l[i]? = some x) :
    pos x l = i := by
  rw [pos_eq_idxOf]; exact idxOf_of_getElem? hnd h

theorem pos_inj {α : Type} [DecidableEq α] {x y : α} {l : List α} (h : x ∈ l) (he : pos x l = pos y l) : x = y :=
  idxOf_inj h (by rwa [pos_eq_idxOf, pos_eq_idxOf] at he)

theorem mem_dedupG {α : Type} [DecidableEq α] {y : α} : ∀ {l : List α}, y ∈ dedupG l ↔ y ∈ l
  | [] => Iff.rfl
  | x :: xs => by
    simp only [dedupG, List.mem_cons, List.mem_filter, decide_eq_true_eq, mem_dedupG (l := xs)]
    by_cases hy : y = x
    · simp only [hy, true_or]
    · simp only [hy, false_or, ne_eq, not_false_eq_true, and_true]

theorem nodup_dedupG {α : Type} [DecidableEq α] : ∀ l : List α, (dedupG l).Nodup
  | [] => List.nodup_nil
  | _ :: xs =>
    List.nodup_cons.mpr ⟨fun h => of_decide_eq_true (List.mem_filter.mp h).2 rfl,
      (nodup_dedupG xs).sublist List.filter_sublist⟩

theorem ltsSize_le_iff {B : Nat} : ∀ (edges : List (Nat × Nat × Nat)) (n0 : Nat),
    ltsSize n0 edges ≤ B ↔ n0 ≤ B ∧ ∀ e, e ∈ edges → e.1 < B ∧ e.2.2 < B
  | [], n0 => by simp [ltsSize]
  | e :: es, n0 => by
    rw [show ltsSize n0 (e :: es) = ltsSize (max n0 (max (e.1 + 1) (e.2.2 + 1))) es from rfl, ltsSize_le_iff es,
      List.forall_mem_cons, Nat.max_le, Nat.max_le, and_assoc]
    rfl

theorem le_ltsSize (edges : List (Nat × Nat × Nat)) (n0 : Nat) : n0 ≤ ltsSize n0 edges :=
  ((ltsSize_le_iff edges n0).mp (Nat.le_refl _)).1

theorem lt_ltsSize {edges : List (Nat × Nat × Nat)} {e : Nat × Nat × Nat} (he : e ∈ edges) (n0 : Nat) :
    e.1 < ltsSize n0 edges ∧ e.2.2 < ltsSize n0 edges :=
  ((ltsSize_le_iff edges n0).mp (Nat.le_refl _)).2 e he

theorem all2_getElem? {α β : Type} {R : α → β → Prop} : ∀ {l : List α} {l' : List β}, All2 R l l' →
    ∀ (i : Nat) (a : α), l[i]? = some a → ∃ b, l'[i]? = some b ∧ R a b
  | _, _, All2.nil, _, _, h => by cases h
  | _, _, All2.cons hd _, 0, _, h => ⟨_, rfl, Option.some.inj h ▸ hd⟩
  | _, _, All2.cons _ tl, i+1, a, h => all2_getElem? tl i a h

theorem all2_of_getElem? {α β : Type} {R : α → β → Prop} : ∀ (l : List α) (l' : List β), l.length = l'.length →
    (∀ (i : Nat) (a : α), l[i]? = some a → ∃ b, l'[i]? = some b ∧ R a b) → All2 R l l'
  | [], [], _, _ => All2.nil
  | [], _ :: _, h, _ => by cases h
  | _ :: _, [], h, _ => by cases h
  | a :: l, b :: l', hl, h => by
    obtain ⟨b', hb', hab⟩ := h 0 a rfl
    cases hb'
    exact All2.cons hab (all2_of_getElem? l l' (Nat.succ.inj hl) (fun i x hx => h (i + 1) x hx))

theorem mem_symList {A : TA} {a : Nat} : a ∈ symList A ↔ ∃ ρ, ρ ∈ A.rules ∧ ρ.sym = a := by
  simp only [symList, mem_dedupG, List.mem_map]

theorem sym_mem_symList {A : TA} {ρ : Rule} (hρ : ρ ∈ A.rules) : ρ.sym ∈ symList A := mem_symList.mpr ⟨ρ, hρ, rfl⟩

theorem mem_lhsList {A : TA} {t : List Nat} : t ∈ lhsList A ↔ ∃ ρ, ρ ∈ A.rules ∧ ρ.kids.length ≠ 1 ∧ ρ.kids = t := by
  simp only [lhsList, mem_dedupG, List.mem_map, List.mem_filter, bne_iff_ne, ne_eq, and_assoc]

theorem kids_mem_lhsList {A : TA} {ρ : Rule} (hρ : ρ ∈ A.rules) (h : ρ.kids.length ≠ 1) : ρ.kids ∈ lhsList A :=
  mem_lhsList.mpr ⟨ρ, hρ, h, rfl⟩

theorem mem_states_of_lhs {A : TA} {t : List Nat} (ht : t ∈ lhsList A) {p : Nat} (hp : p ∈ t) : p ∈ A.states := by
  obtain ⟨ρ, hρ, _, rfl⟩ := mem_lhsList.mp ht
  exact kid_mem_states hρ hp

theorem downDest_of_ne (A : TA) (n : Nat) (idx : Nat → Nat) {ks : List Nat} (h : ks.length ≠ 1) :
    downDest A n idx ks = lhsNode A n ks := by
  match ks, h with
  | [], _ => rfl
  | [_], h => exact absurd rfl h
  | _ :: _ :: _, _ => rfl

theorem lhsNode_ge (A : TA) (n : Nat) (t : List Nat) : n ≤ lhsNode A n t := Nat.le_add_right _ _

theorem lhsNode_inj {A : TA} {n : Nat} {t t' : List Nat} (ht : t ∈ lhsList A)
    (h : lhsNode A n t = lhsNode A n t') : t = t' :=
  pos_inj ht (Nat.add_left_cancel h)

/-- all that either encoding asks of the numbering `idx` of the states: injective on the states of `A`, values below
`bound` (the LTS numbers its other nodes from `bound` on) -/
structure IdxOk (A : TA) (bound : Nat) (idx : Nat → Nat) : Prop where
  inj : ∀ q r, q ∈ A.states → r ∈ A.states → idx q = idx r → q = r
  lt : ∀ q, q ∈ A.states → idx q < bound

theorem mem_downEdges {A : TA} {n : Nat} {idx : Nat → Nat} {e : Nat × Nat × Nat} :
    e ∈ (translateDownward A n idx).edges ↔
      (∃ ρ, ρ ∈ A.rules ∧ e = (idx ρ.parent, pos ρ.sym (symList A), downDest A n idx ρ.kids)) ∨
      ∃ t, t ∈ lhsList A ∧ ∃ i p, t[i]? = some p ∧ e = (lhsNode A n t, (symList A).length + i, idx p) := by
  simp only [translateDownward, downEdges1, downEdges2, List.mem_append, List.mem_map, List.mem_flatMap,
    Prod.exists, List.mem_zipIdx_iff_getElem?, @eq_comm _ _ e]
  exact or_congr Iff.rfl (exists_congr fun t => and_congr Iff.rfl exists_comm)

theorem rule_edge_mem {A : TA} (n : Nat) (idx : Nat → Nat) {ρ : Rule} (hρ : ρ ∈ A.rules) :
    (idx ρ.parent, pos ρ.sym (symList A), downDest A n idx ρ.kids) ∈ (translateDownward A n idx).edges :=
  mem_downEdges.mpr (Or.inl ⟨ρ, hρ, rfl⟩)

theorem lhs_edge_mem {A : TA} (n : Nat) (idx : Nat → Nat) {t : List Nat} (ht : t ∈ lhsList A) {i p : Nat}
    (hip : t[i]? = some p) : (lhsNode A n t, (symList A).length + i, idx p) ∈ (translateDownward A n idx).edges :=
  mem_downEdges.mpr (Or.inr ⟨t, ht, i, p, hip, rfl⟩)

theorem edge_from_state_down {A : TA} {n : Nat} {idx : Nat → Nat} (hidx : IdxOk A n idx) {q : Nat} (hq : q ∈ A.states)
    {a d : Nat} (he : (idx q, a, d) ∈ (translateDownward A n idx).edges) :
    ∃ ρ, ρ ∈ A.rules ∧ ρ.parent = q ∧ a = pos ρ.sym (symList A) ∧ d = downDest A n idx ρ.kids := by
  rcases mem_downEdges.mp he with ⟨ρ, hρ, h⟩ | ⟨t, _, _, _, _, h⟩
  · simp only [Prod.mk.injEq] at h
    exact ⟨ρ, hρ, hidx.inj _ _ (parent_mem_states hρ) hq h.1.symm, h.2⟩
  · have h1 := hidx.lt q hq
    have h2 := lhsNode_ge A n t
    simp only [Prod.mk.injEq] at h
    omega

theorem edge_from_lhs {A : TA} {n : Nat} {idx : Nat → Nat} (hidx : IdxOk A n idx) {t : List Nat} (ht : t ∈ lhsList A)
    {a d : Nat} (he : (lhsNode A n t, a, d) ∈ (translateDownward A n idx).edges) :
    ∃ i p, t[i]? = some p ∧ a = (symList A).length + i ∧ d = idx p := by
  rcases mem_downEdges.mp he with ⟨ρ, hρ, h⟩ | ⟨t', ht', i, p, hip, h⟩
  · have h1 := hidx.lt _ (parent_mem_states hρ)
    have h2 := lhsNode_ge A n t
    simp only [Prod.mk.injEq] at h
    omega
  · simp only [Prod.mk.injEq] at h
    rw [lhsNode_inj ht h.1]
    exact ⟨i, p, hip, h.2⟩

/-- `S` extended to the nodes of the downward LTS: state nodes as `S` relates the states, tuple nodes component-wise.
A downward simulation of `A` becomes a simulation of the LTS (`downExt_isSim`). -/
def downExt (A : TA) (n : Nat) (idx : Nat → Nat) (S : Nat → Nat → Prop) (x y : Nat) : Prop :=
  (∃ q r, q ∈ A.states ∧ r ∈ A.states ∧ S q r ∧ x = idx q ∧ y = idx r) ∨
  (∃ t t', t ∈ lhsList A ∧ t' ∈ lhsList A ∧ All2 S t t' ∧ x = lhsNode A n t ∧ y = lhsNode A n t')

theorem downExt_dest (A : TA) (n : Nat) (idx : Nat → Nat) (S : Nat → Nat → Prop) {ρ σ : Rule}
    (hρ : ρ ∈ A.rules) (hσ : σ ∈ A.rules) (h : All2 S ρ.kids σ.kids) :
    downExt A n idx S (downDest A n idx ρ.kids) (downDest A n idx σ.kids) := by
  have hlen := all2_length h
  by_cases h1 : ρ.kids.length = 1
  · obtain ⟨p, hk⟩ := List.length_eq_one_iff.mp h1
    obtain ⟨p', hk'⟩ := List.length_eq_one_iff.mp (hlen ▸ h1)
    have hp : p ∈ ρ.kids := hk ▸ List.mem_singleton.mpr rfl
    have hp' : p' ∈ σ.kids := hk' ▸ List.mem_singleton.mpr rfl
    rw [hk, hk'] at h ⊢
    cases h with
    | cons hpp _ => exact Or.inl ⟨p, p', kid_mem_states hρ hp, kid_mem_states hσ hp', hpp, rfl, rfl⟩
  · have h1' : σ.kids.length ≠ 1 := hlen ▸ h1
    rw [downDest_of_ne A n idx h1, downDest_of_ne A n idx h1']
    exact Or.inr ⟨ρ.kids, σ.kids, kids_mem_lhsList hρ h1, kids_mem_lhsList hσ h1', h, rfl, rfl⟩

theorem downExt_isSim (A : TA) (n : Nat) (idx : Nat → Nat) (hidx : IdxOk A n idx) (S : Nat → Nat → Prop)
    (hS : DownSim A S) : IsSim (translateDownward A n idx) (downExt A n idx S) := by
  intro x y hxy a x' he
  rcases hxy with ⟨q, r, hq, hr, hqr, rfl, rfl⟩ | ⟨t, t', ht, ht', htt, rfl, rfl⟩
  · obtain ⟨ρ, hρ, hpq, rfl, rfl⟩ := edge_from_state_down hidx hq he
    obtain ⟨σ, hσ, hσp, hσs, hk⟩ := hS q r hqr ρ hρ hpq
    exact ⟨_, hσp ▸ hσs ▸ rule_edge_mem n idx hσ, downExt_dest A n idx S hρ hσ hk⟩
  · obtain ⟨i, p, hip, rfl, rfl⟩ := edge_from_lhs hidx ht he
    obtain ⟨p', hp', hpp⟩ := all2_getElem? htt i p hip
    exact ⟨_, lhs_edge_mem n idx ht' hp', Or.inl ⟨p, p', mem_states_of_lhs ht (List.mem_of_getElem? hip),
      mem_states_of_lhs ht' (List.mem_of_getElem? hp'), hpp, rfl, rfl⟩⟩

theorem downExt_lt (A : TA) (n : Nat) (idx : Nat → Nat) (hidx : IdxOk A n idx) (S : Nat → Nat → Prop) (x y : Nat)
    (h : downExt A n idx S x y) : (x, y) ∈ fullRel (translateDownward A n idx).n := by
  have hn : n ≤ (translateDownward A n idx).n := le_ltsSize _ _
  have hnode : ∀ t, t ∈ lhsList A → lhsNode A n t < (translateDownward A n idx).n := by
    intro t ht
    obtain ⟨ρ, hρ, h1, rfl⟩ := mem_lhsList.mp ht
    have := (lt_ltsSize (rule_edge_mem n idx hρ) n).2
    rwa [downDest_of_ne A n idx h1] at this
  apply mem_fullRel.mpr
  rcases h with ⟨q, r, hq, hr, _, rfl, rfl⟩ | ⟨t, t', ht, ht', _, rfl, rfl⟩
  · exact ⟨Nat.lt_of_lt_of_le (hidx.lt _ hq) hn, Nat.lt_of_lt_of_le (hidx.lt _ hr) hn⟩
  · exact ⟨hnode t ht, hnode t' ht'⟩

/-- a relation on the nodes read back on the states: the converse direction (`downRestr_downSim`) -/
def downRestr (A : TA) (idx : Nat → Nat) (R : Nat → Nat → Prop) (q r : Nat) : Prop :=
  q ∈ A.states ∧ r ∈ A.states ∧ R (idx q) (idx r)

theorem downRestr_downSim (A : TA) (n : Nat) (idx : Nat → Nat) (hidx : IdxOk A n idx) (hrk : Ranked A)
    (R : Nat → Nat → Prop) (hR : IsSim (translateDownward A n idx) R) : DownSim A (downRestr A idx R) := by
  rintro q r ⟨hq, hr, hqr⟩ ρ hρ rfl
  obtain ⟨d, hd, hRd⟩ := hR _ _ hqr _ _ (rule_edge_mem n idx hρ)
  obtain ⟨σ, hσ, hσp, h2, rfl⟩ := edge_from_state_down hidx hr hd
  have hσs : σ.sym = ρ.sym := (pos_inj (sym_mem_symList hρ) h2).symm
  have hlen : ρ.kids.length = σ.kids.length := hrk ρ σ hρ hσ hσs.symm
  refine ⟨σ, hσ, hσp, hσs, ?_⟩
  by_cases hl : ρ.kids.length = 1
  · obtain ⟨p, hk⟩ := List.length_eq_one_iff.mp hl
    obtain ⟨p', hk'⟩ := List.length_eq_one_iff.mp (hlen ▸ hl)
    have hp : p ∈ ρ.kids := hk ▸ List.mem_singleton.mpr rfl
    have hp' : p' ∈ σ.kids := hk' ▸ List.mem_singleton.mpr rfl
    rw [hk, hk'] at hRd ⊢
    exact All2.cons ⟨kid_mem_states hρ hp, kid_mem_states hσ hp', hRd⟩ All2.nil
  · have hl' : σ.kids.length ≠ 1 := hlen ▸ hl
    rw [downDest_of_ne A n idx hl, downDest_of_ne A n idx hl'] at hRd
    apply all2_of_getElem? _ _ hlen
    intro i p hip
    obtain ⟨d2, hd2, hRd2⟩ := hR _ _ hRd _ _ (lhs_edge_mem n idx (kids_mem_lhsList hρ hl) hip)
    obtain ⟨j, p', hjp, hj, rfl⟩ := edge_from_lhs hidx (kids_mem_lhsList hσ hl') hd2
    cases Nat.add_left_cancel hj
    exact ⟨p', hjp, kid_mem_states hρ (List.mem_of_getElem? hip),
      kid_mem_states hσ (List.mem_of_getElem? hjp), hRd2⟩

/-- **C04, downward route.**  For a ranked automaton and every numbering `idx` of its states that is injective with
values `< numStates`: the LTS engine (greatest simulation inside the full relation on the nodes, output restricted to the
indices `< numStates`) relates `idx q` to `idx r` iff `(q, r)` is in the greatest downward simulation of `A`. -/
theorem translateDownward_correct (A : TA) (numStates : Nat) (idx : Nat → Nat) (hidx : IdxOk A numStates idx)
    (hrk : Ranked A) (q r : Nat) (hq : q ∈ A.states) (hr : r ∈ A.states) :
    (idx q, idx r) ∈ ltsSimOut (translateDownward A numStates idx)
        (fullRel (translateDownward A numStates idx).n) numStates ↔ (q, r) ∈ downSimRef A := by
  rw [restrict_output]
  constructor
  · rintro ⟨_, _, h⟩
    exact downSimRef_contains A _
      (downRestr_downSim A numStates idx hidx hrk _ (ltsSimRef_sim _ _)) q r hq hr ⟨hq, hr, h⟩
  · intro h
    refine ⟨hidx.lt q hq, hidx.lt r hr, ?_⟩
    exact ltsSimRef_contains _ _ _ (downExt_isSim A numStates idx hidx _ (downSimRef_sim A))
      (downExt_lt A numStates idx hidx _) _ _ (Or.inl ⟨q, r, hq, hr, h, rfl, rfl⟩)

theorem mem_readBack {A : TA} {idx : Nat → Nat} {R : L.Rel} {q r : Nat} :
    (q, r) ∈ readBack A idx R ↔ q ∈ A.states ∧ r ∈ A.states ∧ (idx q, idx r) ∈ R := by
  simp only [readBack, List.mem_filter, SimModel.mem_allPairs, List.contains_iff_mem, and_assoc]

/-- the relation `ComputeDownwardSimulation(size)` returns (model) is `downSimRef A` -/
theorem downSimViaLts_iff (A : TA) (numStates : Nat) (idx : Nat → Nat) (hidx : IdxOk A numStates idx)
    (hrk : Ranked A) (q r : Nat) : (q, r) ∈ downSimViaLts A numStates idx ↔ (q, r) ∈ downSimRef A := by
  unfold downSimViaLts
  rw [mem_readBack]
  constructor
  · rintro ⟨hq, hr, h⟩
    exact (translateDownward_correct A numStates idx hidx hrk q r hq hr).mp h
  · intro h
    obtain ⟨hq, hr⟩ := downSimRef_sub A h
    exact ⟨hq, hr, (translateDownward_correct A numStates idx hidx hrk q r hq hr).mpr h⟩

def idxOkB (A : TA) (bound : Nat) (idx : Nat → Nat) : Bool :=
  A.states.all (fun q => decide (idx q < bound) && A.states.all (fun r => idx q != idx r || q == r))

theorem idxOkB_iff {A : TA} {bound : Nat} {idx : Nat → Nat} : idxOkB A bound idx = true ↔ IdxOk A bound idx := by
  simp only [idxOkB, List.all_eq_true, Bool.and_eq_true, decide_eq_true_eq, Bool.or_eq_true, bne_iff_ne, ne_eq,
    beq_iff_eq, ← Decidable.imp_iff_not_or]
  exact ⟨fun h => ⟨fun q r hq hr => (h q hq).2 r hr, fun q hq => (h q hq).1⟩,
    fun h q hq => ⟨h.lt q hq, fun r hr => h.inj q r hq hr⟩⟩

theorem rankedB_iff {A : TA} : rankedB A = true ↔ Ranked A := by
  simp only [rankedB, List.all_eq_true, Bool.or_eq_true, bne_iff_ne, ne_eq, beq_iff_eq, Ranked,
    ← Decidable.imp_iff_not_or]
  exact ⟨fun h ρ σ hρ hσ => h ρ hρ σ hσ, fun h ρ hρ σ hσ => h ρ σ hρ hσ⟩
/-- non-vacuity: a ranked automaton with a binary symbol, a non-identity numbering into `0..4` -/
example : IdxOk TaLtsEx.exA 5 (TaLtsEx.perm [3, 0, 4, 1, 2]) ∧ Ranked TaLtsEx.exA ∧ 2 ∈ TaLtsEx.exA.states ∧
    3 ∈ TaLtsEx.exA.states ∧ (2, 3) ∈ downSimRef TaLtsEx.exA ∧ (4, 2) ∉ downSimRef TaLtsEx.exA :=
  ⟨idxOkB_iff.mp (by decide +kernel), rankedB_iff.mp (by decide +kernel), by decide +kernel, by decide +kernel, by decide +kernel, by decide +kernel⟩

/-- without `Ranked` the encoding is wrong: with `a(0) → 1` and `a → 2` (one symbol, two arities) the node of the empty
tuple has no successors, like the node of the state `0`, so the LTS lets `2` simulate `1`; no downward simulation does. -/
theorem translateDownward_unranked_counterexample :
    IdxOk TaLtsEx.exU 3 id ∧ ¬ Ranked TaLtsEx.exU ∧
    (1, 2) ∈ downSimViaLts TaLtsEx.exU 3 id ∧ (1, 2) ∉ downSimRef TaLtsEx.exU :=
  ⟨idxOkB_iff.mp (by decide +kernel), fun h => absurd (rankedB_iff.mpr h) (by decide +kernel), by decide +kernel, by decide +kernel⟩

theorem eq_setAt_of_eraseIdx : ∀ (ks ks' : List Nat) (i q r : Nat), ks[i]? = some q → ks'[i]? = some r →
    ks'.eraseIdx i = ks.eraseIdx i → ks' = setAt ks i r
  | [], _, _, _, _, h, _, _ => by cases h
  | _ :: _, [], _, _, _, _, h, _ => by cases h
  | k :: ks, k' :: ks', 0, q, r, _, h', he => by
    cases h'
    exact congrArg (k' :: ·) he
  | k :: ks, k' :: ks', i+1, q, r, h, h', he => by
    injection he with he1 he2
    rw [he1]
    exact congrArg (k :: ·) (eq_setAt_of_eraseIdx ks ks' i q r h h' he2)

theorem mem_parents {A : TA} {q : Nat} : q ∈ parents A ↔ ∃ ρ, ρ ∈ A.rules ∧ ρ.parent = q := by
  simp only [parents, mem_dedupG, List.mem_map]

theorem parents_mem_states {A : TA} {q : Nat} (h : q ∈ parents A) : q ∈ A.states := by
  obtain ⟨ρ, hρ, rfl⟩ := mem_parents.mp h
  exact parent_mem_states hρ

theorem mem_envList {A : TA} {idx : Nat → Nat} {e : Env} :
    e ∈ envList A idx ↔ ∃ ρ, ρ ∈ A.rules ∧ 2 ≤ ρ.kids.length ∧ ∃ i, i < ρ.kids.length ∧ e = mkEnv A idx ρ i := by
  simp only [envList, mem_dedupG, List.mem_flatMap, envsOf]
  constructor
  · rintro ⟨ρ, hρ, he⟩
    split at he
    · cases he
    · rename_i hl
      obtain ⟨i, hi, rfl⟩ := List.mem_map.mp he
      exact ⟨ρ, hρ, by omega, i, List.mem_range.mp hi, rfl⟩
  · rintro ⟨ρ, hρ, hl, i, hi, rfl⟩
    refine ⟨ρ, hρ, ?_⟩
    rw [if_neg (by omega)]
    exact List.mem_map.mpr ⟨i, List.mem_range.mpr hi, rfl⟩

theorem envNode_gt (A : TA) (idx : Nat → Nat) (e : Env) : (parents A).length < envNode A idx e := by
  unfold envNode; omega

theorem envNode_inj {A : TA} {idx : Nat → Nat} {e e' : Env} (he : e ∈ envList A idx)
    (h : envNode A idx e = envNode A idx e') : e = e' :=
  pos_inj he (by unfold envNode at h; omega)

/-- the edges of one rule in the upward LTS, by arity: from the leaf node `(parents A).length` for a leaf rule, from
the child for a unary rule; from arity 2 on each child goes, under the extra symbol, to the environment node of its position -/
def RuleEdge (A : TA) (idx : Nat → Nat) (ρ : Rule) (e : Nat × Nat × Nat) : Prop :=
  (ρ.kids = [] ∧ e = ((parents A).length, pos ρ.sym (symList A), idx ρ.parent)) ∨
  (∃ p, ρ.kids = [p] ∧ e = (idx p, pos ρ.sym (symList A), idx ρ.parent)) ∨
  (2 ≤ ρ.kids.length ∧ ∃ i p, ρ.kids[i]? = some p ∧
    e = (idx p, (symList A).length, envNode A idx (mkEnv A idx ρ i)))

theorem mem_upRuleEdges {A : TA} {idx : Nat → Nat} {ρ : Rule} {e : Nat × Nat × Nat} :
    e ∈ upRuleEdges A idx ρ ↔ RuleEdge A idx ρ e := by
  unfold upRuleEdges RuleEdge
  split
  · rename_i hk
    simp only [hk, List.mem_singleton, true_and, List.length_nil]
    constructor
    · intro h; exact Or.inl h
    · rintro (h | ⟨p, h, _⟩ | ⟨h, _⟩)
      · exact h
      · cases h
      · omega
  · rename_i p hk
    simp only [hk, List.mem_singleton, List.length_singleton]
    constructor
    · intro h; exact Or.inr (Or.inl ⟨p, rfl, h⟩)
    · rintro (⟨h, _⟩ | ⟨p', h, h'⟩ | ⟨h, _⟩)
      · cases h
      · simp only [List.cons.injEq, and_true] at h
        rw [h]; exact h'
      · omega
  · rename_i h0 h1
    have hl : 2 ≤ ρ.kids.length := by
      match hk : ρ.kids with
      | [] => exact absurd hk h0
      | [p] => exact absurd hk (h1 p)
      | _ :: _ :: _ => simp
    simp only [List.mem_map]
    constructor
    · rintro ⟨pi, hpi, rfl⟩
      exact Or.inr (Or.inr ⟨hl, pi.2, pi.1, List.mem_zipIdx_iff_getElem?.mp hpi, rfl⟩)
    · rintro (⟨h, _⟩ | ⟨p', h, _⟩ | ⟨_, i, p, hip, rfl⟩)
      · exact absurd h h0
      · exact absurd h (h1 p')
      · exact ⟨(p, i), List.mem_zipIdx_iff_getElem?.mpr hip, rfl⟩

theorem mem_upEdges {A : TA} {idx : Nat → Nat} {e : Nat × Nat × Nat} :
    e ∈ (translateUpward A idx).1.edges ↔
      (∃ ρ, ρ ∈ A.rules ∧ RuleEdge A idx ρ e) ∨
      (∃ env, env ∈ envList A idx ∧ e = (envNode A idx env, env.symbol, env.state)) := by
  simp only [translateUpward, upEdges, upEnvEdges, List.mem_append, List.mem_flatMap, List.mem_map, mem_upRuleEdges, id,
    @eq_comm _ e]

theorem edge_from_state {A : TA} {idx : Nat → Nat} (hidx : IdxOk A (parents A).length idx) {r : Nat}
    (hr : r ∈ A.states) {a d : Nat} (he : (idx r, a, d) ∈ (translateUpward A idx).1.edges) :
    (∃ σ, σ ∈ A.rules ∧ σ.kids = [r] ∧ a = pos σ.sym (symList A) ∧ d = idx σ.parent) ∨
    (∃ σ, σ ∈ A.rules ∧ 2 ≤ σ.kids.length ∧ ∃ j, σ.kids[j]? = some r ∧ a = (symList A).length ∧
      d = envNode A idx (mkEnv A idx σ j)) := by
  have hlt := hidx.lt r hr
  rcases mem_upEdges.mp he with ⟨σ, hσ, h⟩ | ⟨env, _, h⟩
  · rcases h with ⟨_, h⟩ | ⟨p, hk, h⟩ | ⟨hl, j, p, hjp, h⟩
    · simp only [Prod.mk.injEq] at h; omega
    · simp only [Prod.mk.injEq] at h
      have hp : p ∈ A.states := kid_mem_states hσ (by rw [hk]; exact List.mem_singleton.mpr rfl)
      have : p = r := hidx.inj p r hp hr h.1.symm
      exact Or.inl ⟨σ, hσ, by rw [hk, this], h.2.1, h.2.2⟩
    · simp only [Prod.mk.injEq] at h
      have hp : p ∈ A.states := kid_mem_states hσ (List.mem_of_getElem? hjp)
      have : p = r := hidx.inj p r hp hr h.1.symm
      exact Or.inr ⟨σ, hσ, hl, j, by rw [hjp, this], h.2.1, h.2.2⟩
  · simp only [Prod.mk.injEq] at h
    have := envNode_gt A idx env
    omega

theorem edge_from_env {A : TA} {idx : Nat → Nat} (hidx : IdxOk A (parents A).length idx) {e : Env} {a d : Nat} (h : (envNode A idx e, a, d) ∈ (translateUpward A idx).1.edges) :
    a = e.symbol ∧ d = e.state := by
  have hgt := envNode_gt A idx e
  rcases mem_upEdges.mp h with ⟨σ, hσ, h⟩ | ⟨env, henv, h⟩
  · rcases h with ⟨_, h⟩ | ⟨p, hk, h⟩ | ⟨hl, j, p, hjp, h⟩
    · simp only [Prod.mk.injEq] at h; omega
    · simp only [Prod.mk.injEq] at h
      have := hidx.lt p (kid_mem_states hσ (by rw [hk]; exact List.mem_singleton.mpr rfl))
      omega
    · simp only [Prod.mk.injEq] at h
      have := hidx.lt p (kid_mem_states hσ (List.mem_of_getElem? hjp))
      omega
  · simp only [Prod.mk.injEq] at h
    have : env = e := envNode_inj henv h.1.symm
    rw [this] at h
    exact ⟨h.2.1, h.2.2⟩

theorem mem_blockRel {blocks : List (List Nat)} {brel : Rel} {x y : Nat} :
    (x, y) ∈ blockRel blocks brel ↔ ∃ i j, (i, j) ∈ brel ∧ x ∈ blocks.getD i [] ∧ y ∈ blocks.getD j [] := by
  simp only [blockRel, List.mem_flatMap, List.mem_map, Prod.mk.injEq]
  constructor
  · rintro ⟨ij, hij, x', hx', y', hy', rfl, rfl⟩; exact ⟨ij.1, ij.2, hij, hx', hy'⟩
  · rintro ⟨i, j, hij, hx, hy⟩; exact ⟨(i, j), hij, x, hx, y, hy, rfl, rfl⟩

theorem mem_getD_map {α : Type} (H : List α) (f : α → List Nat) (i x : Nat) :
    x ∈ (H.map f).getD i [] ↔ ∃ k, H[i]? = some k ∧ x ∈ f k := by
  rw [List.getD_eq_getElem?_getD, List.getElem?_map]
  cases H[i]? with
  | none => simp
  | some k => simp

def envBlock (A : TA) (idx : Nat → Nat) (k : List Nat × Nat × Nat) : List Nat :=
  ((envList A idx).filter (fun e => decide (e.key = k))).map (envNode A idx)

theorem mem_envBlock {A : TA} {idx : Nat → Nat} {k : List Nat × Nat × Nat} {x : Nat} :
    x ∈ envBlock A idx k ↔ ∃ e, e ∈ envList A idx ∧ e.key = k ∧ x = envNode A idx e := by
  simp only [envBlock, List.mem_map, List.mem_filter, decide_eq_true_eq, and_assoc, @eq_comm _ x]

theorem upBase_cases (A : TA) : upBase A = 3 ∧ (0 < (dedupG A.final).length ∧ (dedupG A.final).length < (parents A).length) ∨
    upBase A = 2 ∧ ¬ (0 < (dedupG A.final).length ∧ (dedupG A.final).length < (parents A).length) := by
  unfold upBase
  split
  · rename_i h; exact Or.inl ⟨rfl, h⟩
  · rename_i h; exact Or.inr ⟨rfl, h⟩

/-- the initial relation the C++ gives as a partition and a relation on its blocks (`mem_upInit`), in words: state nodes
(respecting finality if final and non-final states have separate blocks, `upBase A = 3`), the leaf node with itself,
environments with equal keys -/
def UpInit (A : TA) (idx : Nat → Nat) (x y : Nat) : Prop :=
  (∃ q r, q ∈ parents A ∧ r ∈ parents A ∧ (upBase A = 3 → q ∈ A.final → r ∈ A.final) ∧ x = idx q ∧ y = idx r) ∨
  (x = (parents A).length ∧ y = (parents A).length) ∨
  (∃ e e', e ∈ envList A idx ∧ e' ∈ envList A idx ∧ e.key = e'.key ∧ x = envNode A idx e ∧ y = envNode A idx e')

theorem upInit_env {A : TA} {idx : Nat → Nat} {x y : Nat}
    (h : ∃ i j k, (headKeys A idx)[i]? = some k ∧ (headKeys A idx)[j]? = some k ∧
      x ∈ ((headKeys A idx).map (envBlock A idx)).getD i [] ∧ y ∈ ((headKeys A idx).map (envBlock A idx)).getD j []) :
    UpInit A idx x y := by
  obtain ⟨i, j, k, hi, hj, hx, hy⟩ := h
  obtain ⟨k1, hk1, hx⟩ := (mem_getD_map _ _ _ _).mp hx
  obtain ⟨k2, hk2, hy⟩ := (mem_getD_map _ _ _ _).mp hy
  rw [hi] at hk1; rw [hj] at hk2
  cases hk1; cases hk2
  obtain ⟨e, he, hek, rfl⟩ := mem_envBlock.mp hx
  obtain ⟨e', he', hek', rfl⟩ := mem_envBlock.mp hy
  exact Or.inr (Or.inr ⟨e, e', he, he', hek.trans hek'.symm, rfl, rfl⟩)

theorem env_blocks_of_key {A : TA} {idx : Nat → Nat} {e e' : Env} (he : e ∈ envList A idx) (he' : e' ∈ envList A idx)
    (hk : e.key = e'.key) : ∃ i k, (headKeys A idx)[i]? = some k ∧
      envNode A idx e ∈ ((headKeys A idx).map (envBlock A idx)).getD i [] ∧
      envNode A idx e' ∈ ((headKeys A idx).map (envBlock A idx)).getD i [] := by
  have hmem : e.key ∈ headKeys A idx := mem_dedupG.mpr (List.mem_map.mpr ⟨e, he, rfl⟩)
  obtain ⟨i, hi⟩ := List.mem_iff_getElem?.mp hmem
  refine ⟨i, e.key, hi, ?_, ?_⟩
  · exact (mem_getD_map _ _ _ _).mpr ⟨e.key, hi, mem_envBlock.mpr ⟨e, he, rfl, rfl⟩⟩
  · exact (mem_getD_map _ _ _ _).mpr ⟨e.key, hi, mem_envBlock.mpr ⟨e', he', hk.symm, rfl⟩⟩

theorem mem_finBlock {A : TA} {idx : Nat → Nat} {x : Nat} :
    x ∈ ((parents A).filter (fun q => A.final.contains q)).map idx ↔ ∃ q, q ∈ parents A ∧ q ∈ A.final ∧ x = idx q := by
  simp only [List.mem_map, List.mem_filter, List.contains_iff_mem, and_assoc, @eq_comm _ x]

theorem contains_false_iff {l : List Nat} {q : Nat} : l.contains q = false ↔ q ∉ l := by
  rw [← Bool.not_eq_true, List.contains_iff_mem]

theorem mem_nonfinBlock {A : TA} {idx : Nat → Nat} {x : Nat} :
    x ∈ ((parents A).filter (fun q => !A.final.contains q)).map idx ↔ ∃ q, q ∈ parents A ∧ q ∉ A.final ∧ x = idx q := by
  simp only [List.mem_map, List.mem_filter, Bool.not_eq_true', contains_false_iff, and_assoc, @eq_comm _ x]

def envPairs (A : TA) (idx : Nat → Nat) (base : Nat) : Rel :=
  (List.range (headKeys A idx).length).flatMap (fun i =>
      ((List.range (headKeys A idx).length).filter (fun j => (headKeys A idx)[i]? == (headKeys A idx)[j]?)).map
        (fun j => (base + i, base + j)))

theorem mem_envPairs {A : TA} {idx : Nat → Nat} {base a b : Nat} : (a, b) ∈ envPairs A idx base ↔
    ∃ i j k, (headKeys A idx)[i]? = some k ∧ (headKeys A idx)[j]? = some k ∧ a = base + i ∧ b = base + j := by
  simp only [envPairs, List.mem_flatMap, List.mem_map, List.mem_filter, List.mem_range, beq_iff_eq, Prod.mk.injEq]
  constructor
  · rintro ⟨i, hi, j, ⟨hj, hij⟩, rfl, rfl⟩
    exact ⟨i, j, _, List.getElem?_eq_getElem hi, hij ▸ List.getElem?_eq_getElem hi, rfl, rfl⟩
  · rintro ⟨i, j, k, hi, hj, rfl, rfl⟩
    exact ⟨i, (List.getElem?_eq_some_iff.mp hi).1, j, ⟨(List.getElem?_eq_some_iff.mp hj).1, hi.trans hj.symm⟩, rfl, rfl⟩

theorem upPartition_three {A : TA} {idx : Nat → Nat} (h : upBase A = 3) : upPartition A idx =
    ((parents A).filter (fun q => A.final.contains q)).map idx ::
    ((parents A).filter (fun q => !A.final.contains q)).map idx :: [(parents A).length] ::
    (headKeys A idx).map (envBlock A idx) := by
  simp only [upPartition, h, if_true, List.cons_append, List.nil_append]
  rfl

theorem upPartition_two {A : TA} {idx : Nat → Nat} (h : upBase A = 2) : upPartition A idx =
    (parents A).map idx :: [(parents A).length] :: (headKeys A idx).map (envBlock A idx) := by
  simp only [upPartition, h]
  rfl

def baseRel (b : Nat) : Rel := if b = 3 then [(0, 0), (1, 0), (1, 1), (2, 2)] else [(0, 0), (1, 1)]

theorem upBase_eq (A : TA) : upBase A = 2 ∨ upBase A = 3 :=
  (upBase_cases A).elim (fun h => Or.inr h.1) (fun h => Or.inl h.1)

theorem upBlockRel_eq (A : TA) (idx : Nat → Nat) :
    upBlockRel A idx = baseRel (upBase A) ++ envPairs A idx (upBase A) := by
  unfold upBlockRel baseRel
  rcases upBase_eq A with h | h <;> rw [h] <;> rfl

theorem baseRel_spec {b : Nat} (hb : b = 2 ∨ b = 3) : (∀ i, i < b → (i, i) ∈ baseRel b) ∧
    (∀ p, p ∈ baseRel b → p.1 < b ∧ p.2 < b) ∧
    ∀ p, p ∈ baseRel b → ∀ q, q ∈ baseRel b → p.2 = q.1 → (p.1, q.2) ∈ baseRel b := by
  rcases hb with rfl | rfl <;> decide

theorem upBlockRel_three {A : TA} {idx : Nat → Nat} (h : upBase A = 3) : upBlockRel A idx =
    (0, 0) :: (1, 0) :: (1, 1) :: (2, 2) :: envPairs A idx 3 := by
  rw [upBlockRel_eq, h]; rfl

theorem upBlockRel_two {A : TA} {idx : Nat → Nat} (h : upBase A = 2) : upBlockRel A idx =
    (0, 0) :: (1, 1) :: envPairs A idx 2 := by
  rw [upBlockRel_eq, h]; rfl

theorem upInit_of_mem_three {A : TA} {idx : Nat → Nat} (h : upBase A = 3) {x y : Nat}
    (hxy : (x, y) ∈ blockRel (upPartition A idx) (upBlockRel A idx)) : UpInit A idx x y := by
  obtain ⟨i, j, hij, hx, hy⟩ := mem_blockRel.mp hxy
  rw [upBlockRel_three h] at hij
  rw [upPartition_three h] at hx hy
  simp only [List.mem_cons, Prod.mk.injEq] at hij
  rcases hij with ⟨rfl, rfl⟩ | ⟨rfl, rfl⟩ | ⟨rfl, rfl⟩ | ⟨rfl, rfl⟩ | hij
  · simp only [List.getD_cons_zero] at hx hy
    obtain ⟨q, hq, _, rfl⟩ := mem_finBlock.mp hx
    obtain ⟨r, hr, hrf, rfl⟩ := mem_finBlock.mp hy
    exact Or.inl ⟨q, r, hq, hr, fun _ _ => hrf, rfl, rfl⟩
  · simp only [List.getD_cons_zero, List.getD_cons_succ] at hx hy
    obtain ⟨q, hq, hqf, rfl⟩ := mem_nonfinBlock.mp hx
    obtain ⟨r, hr, hrf, rfl⟩ := mem_finBlock.mp hy
    exact Or.inl ⟨q, r, hq, hr, fun _ _ => hrf, rfl, rfl⟩
  · simp only [List.getD_cons_zero, List.getD_cons_succ] at hx hy
    obtain ⟨q, hq, hqf, rfl⟩ := mem_nonfinBlock.mp hx
    obtain ⟨r, hr, hrf, rfl⟩ := mem_nonfinBlock.mp hy
    exact Or.inl ⟨q, r, hq, hr, fun _ h' => absurd h' hqf, rfl, rfl⟩
  · simp only [List.getD_cons_zero, List.getD_cons_succ, List.mem_singleton] at hx hy
    exact Or.inr (Or.inl ⟨hx, hy⟩)
  · obtain ⟨i', j', k, hi', hj', rfl, rfl⟩ := mem_envPairs.mp hij
    rw [Nat.add_comm 3 i'] at hx
    rw [Nat.add_comm 3 j'] at hy
    simp only [List.getD_cons_succ] at hx hy
    exact upInit_env ⟨i', j', k, hi', hj', hx, hy⟩

theorem upInit_of_mem_two {A : TA} {idx : Nat → Nat} (h : upBase A = 2) {x y : Nat}
    (hxy : (x, y) ∈ blockRel (upPartition A idx) (upBlockRel A idx)) : UpInit A idx x y := by
  obtain ⟨i, j, hij, hx, hy⟩ := mem_blockRel.mp hxy
  rw [upBlockRel_two h] at hij
  rw [upPartition_two h] at hx hy
  simp only [List.mem_cons, Prod.mk.injEq] at hij
  rcases hij with ⟨rfl, rfl⟩ | ⟨rfl, rfl⟩ | hij
  · simp only [List.getD_cons_zero, List.mem_map] at hx hy
    obtain ⟨q, hq, rfl⟩ := hx
    obtain ⟨r, hr, rfl⟩ := hy
    exact Or.inl ⟨q, r, hq, hr, fun h' => (by rw [h] at h'; cases h'), rfl, rfl⟩
  · simp only [List.getD_cons_zero, List.getD_cons_succ, List.mem_singleton] at hx hy
    exact Or.inr (Or.inl ⟨hx, hy⟩)
  · obtain ⟨i', j', k, hi', hj', rfl, rfl⟩ := mem_envPairs.mp hij
    rw [Nat.add_comm 2 i'] at hx
    rw [Nat.add_comm 2 j'] at hy
    simp only [List.getD_cons_succ] at hx hy
    exact upInit_env ⟨i', j', k, hi', hj', hx, hy⟩

theorem mem_of_upInit_three {A : TA} {idx : Nat → Nat} (h : upBase A = 3) {x y : Nat} (hxy : UpInit A idx x y) :
    (x, y) ∈ blockRel (upPartition A idx) (upBlockRel A idx) := by
  apply mem_blockRel.mpr
  rw [upBlockRel_three h, upPartition_three h]
  rcases hxy with ⟨q, r, hq, hr, hf, rfl, rfl⟩ | ⟨rfl, rfl⟩ | ⟨e, e', he, he', hk, rfl, rfl⟩
  · by_cases hqf : q ∈ A.final
    · refine ⟨0, 0, by simp, ?_, ?_⟩
      · simp only [List.getD_cons_zero]; exact mem_finBlock.mpr ⟨q, hq, hqf, rfl⟩
      · simp only [List.getD_cons_zero]; exact mem_finBlock.mpr ⟨r, hr, hf h hqf, rfl⟩
    · by_cases hrf : r ∈ A.final
      · refine ⟨1, 0, by simp, ?_, ?_⟩
        · simp only [List.getD_cons_zero, List.getD_cons_succ]; exact mem_nonfinBlock.mpr ⟨q, hq, hqf, rfl⟩
        · simp only [List.getD_cons_zero]; exact mem_finBlock.mpr ⟨r, hr, hrf, rfl⟩
      · refine ⟨1, 1, by simp, ?_, ?_⟩
        · simp only [List.getD_cons_zero, List.getD_cons_succ]; exact mem_nonfinBlock.mpr ⟨q, hq, hqf, rfl⟩
        · simp only [List.getD_cons_zero, List.getD_cons_succ]; exact mem_nonfinBlock.mpr ⟨r, hr, hrf, rfl⟩
  · refine ⟨2, 2, by simp, ?_, ?_⟩ <;> simp only [List.getD_cons_zero, List.getD_cons_succ, List.mem_singleton]
  · obtain ⟨i, k, hi, hx, hy⟩ := env_blocks_of_key he he' hk
    refine ⟨i + 3, i + 3, ?_, ?_, ?_⟩
    · simp only [List.mem_cons]
      right; right; right; right
      exact mem_envPairs.mpr ⟨i, i, k, hi, hi, Nat.add_comm _ _, Nat.add_comm _ _⟩
    · simp only [List.getD_cons_succ]; exact hx
    · simp only [List.getD_cons_succ]; exact hy

theorem mem_of_upInit_two {A : TA} {idx : Nat → Nat} (h : upBase A = 2) {x y : Nat} (hxy : UpInit A idx x y) :
    (x, y) ∈ blockRel (upPartition A idx) (upBlockRel A idx) := by
  apply mem_blockRel.mpr
  rw [upBlockRel_two h, upPartition_two h]
  rcases hxy with ⟨q, r, hq, hr, hf, rfl, rfl⟩ | ⟨rfl, rfl⟩ | ⟨e, e', he, he', hk, rfl, rfl⟩
  · refine ⟨0, 0, by simp, ?_, ?_⟩
    · simp only [List.getD_cons_zero]; exact List.mem_map.mpr ⟨q, hq, rfl⟩
    · simp only [List.getD_cons_zero]; exact List.mem_map.mpr ⟨r, hr, rfl⟩
  · refine ⟨1, 1, by simp, ?_, ?_⟩ <;> simp only [List.getD_cons_zero, List.getD_cons_succ, List.mem_singleton]
  · obtain ⟨i, k, hi, hx, hy⟩ := env_blocks_of_key he he' hk
    refine ⟨i + 2, i + 2, ?_, ?_, ?_⟩
    · simp only [List.mem_cons]
      right; right
      exact mem_envPairs.mpr ⟨i, i, k, hi, hi, Nat.add_comm _ _, Nat.add_comm _ _⟩
    · simp only [List.getD_cons_succ]; exact hx
    · simp only [List.getD_cons_succ]; exact hy

theorem mem_upInit {A : TA} {idx : Nat → Nat} {x y : Nat} :
    (x, y) ∈ blockRel (upPartition A idx) (upBlockRel A idx) ↔ UpInit A idx x y := by
  rcases upBase_cases A with ⟨h, _⟩ | ⟨h, _⟩
  · exact ⟨upInit_of_mem_three h, mem_of_upInit_three h⟩
  · exact ⟨upInit_of_mem_two h, mem_of_upInit_two h⟩

theorem upInit_states {A : TA} {idx : Nat → Nat} (hown : AllOwnRule A) {q r : Nat} (hq : q ∈ A.states)
    (hr : r ∈ A.states) (hf : q ∈ A.final → r ∈ A.final) : UpInit A idx (idx q) (idx r) :=
  Or.inl ⟨q, r, mem_parents.mpr (hown q hq), mem_parents.mpr (hown r hr), fun _ => hf, rfl, rfl⟩

theorem final_of_upInit {A : TA} {idx : Nat → Nat} (hidx : IdxOk A (parents A).length idx) (hown : AllOwnRule A)
    {q r : Nat} (hq : q ∈ A.states) (hr : r ∈ A.states) (h : UpInit A idx (idx q) (idx r)) :
    q ∈ A.final → r ∈ A.final := by
  intro hqf
  have hlt := hidx.lt q hq
  rcases h with ⟨q', r', hq', hr', hf, h1, h2⟩ | ⟨h1, _⟩ | ⟨e, _, _, _, _, h1, _⟩
  · have hqq : q = q' := hidx.inj q q' hq (parents_mem_states hq') h1
    have hrr : r = r' := hidx.inj r r' hr (parents_mem_states hr') h2
    subst hqq; subst hrr
    rcases upBase_cases A with ⟨h3, _⟩ | ⟨_, hn⟩
    · exact hf h3 hqf
    · have hqd : q ∈ dedupG A.final := mem_dedupG.mpr hqf
      have hpos : 0 < (dedupG A.final).length := List.length_pos_of_mem hqd
      have hsub := subset_of_nodup_length (l₂ := parents A) (nodup_dedupG A.final)
        (fun x hx => mem_parents.mpr (hown x (final_mem_states (mem_dedupG.mp hx))))
        (by omega) r hr'
      exact mem_dedupG.mp hsub
  · omega
  · have := envNode_gt A idx e
    omega

theorem env_of_upInit {A : TA} {idx : Nat → Nat} (hidx : IdxOk A (parents A).length idx) {e : Env}
    (he : e ∈ envList A idx) {y : Nat} (h : UpInit A idx (envNode A idx e) y) :
    ∃ e', e' ∈ envList A idx ∧ y = envNode A idx e' ∧ e.key = e'.key := by
  have hgt := envNode_gt A idx e
  rcases h with ⟨q', _, hq', _, _, h1, _⟩ | ⟨h1, _⟩ | ⟨e1, e', he1, he', hk, h1, h2⟩
  · have := hidx.lt q' (parents_mem_states hq')
    omega
  · omega
  · have : e1 = e := envNode_inj he1 h1.symm
    subst this
    exact ⟨e', he', h2, hk⟩

theorem mkEnv_mem {A : TA} {idx : Nat → Nat} {ρ : Rule} (hρ : ρ ∈ A.rules) (hl : 2 ≤ ρ.kids.length) {i p : Nat}
    (hi : ρ.kids[i]? = some p) : mkEnv A idx ρ i ∈ envList A idx :=
  mem_envList.mpr ⟨ρ, hρ, hl, i, (List.getElem?_eq_some_iff.mp hi).1, rfl⟩

/-- `S` extended to the nodes of the upward LTS: state nodes as `S` relates the states; two environment nodes when they
have the same key (siblings, position, symbol) and `S` relates their parents -/
def upExt (A : TA) (idx : Nat → Nat) (S : Nat → Nat → Prop) (x y : Nat) : Prop :=
  (∃ q r, q ∈ A.states ∧ r ∈ A.states ∧ S q r ∧ x = idx q ∧ y = idx r) ∨
  (∃ e e', e ∈ envList A idx ∧ e' ∈ envList A idx ∧ e.key = e'.key ∧
    (∃ p p', p ∈ A.states ∧ p' ∈ A.states ∧ S p p' ∧ e.state = idx p ∧ e'.state = idx p') ∧
    x = envNode A idx e ∧ y = envNode A idx e')

theorem env_edge_mem {A : TA} {idx : Nat → Nat} {e : Env} (he : e ∈ envList A idx) :
    (envNode A idx e, e.symbol, e.state) ∈ (translateUpward A idx).1.edges :=
  mem_upEdges.mpr (Or.inr ⟨e, he, rfl⟩)

theorem upExt_isSim (A : TA) (idx : Nat → Nat) (hidx : IdxOk A (parents A).length idx) (S : Nat → Nat → Prop)
    (hS : IsUpSim A S) : IsSim (translateUpward A idx).1 (upExt A idx S) := by
  intro x y hxy a x' he
  rcases hxy with ⟨q, r, hq, hr, hqr, rfl, rfl⟩ | ⟨e, e', he1, he1', hk, ⟨p, p', hp, hp', hpp, hep, hep'⟩, rfl, rfl⟩
  · rcases edge_from_state hidx hq he with ⟨ρ, hρ, hk, ha, hd⟩ | ⟨ρ, hρ, hl, i, hi, ha, hd⟩
    · obtain ⟨σ, hσ, hσs, hσk, hpar⟩ := (hS q r hqr).2 ρ hρ 0 (by rw [hk]; rfl)
      rw [hk] at hσk
      refine ⟨idx σ.parent, ?_, ?_⟩
      · apply mem_upEdges.mpr; left
        exact ⟨σ, hσ, Or.inr (Or.inl ⟨r, hσk, by rw [ha, hσs]⟩)⟩
      · rw [hd]
        exact Or.inl ⟨ρ.parent, σ.parent, parent_mem_states hρ, parent_mem_states hσ, hpar, rfl, rfl⟩
    · obtain ⟨σ, hσ, hσs, hσk, hpar⟩ := (hS q r hqr).2 ρ hρ i hi
      have hi' : σ.kids[i]? = some r := by rw [hσk]; exact SimModel.getElem?_setAt _ _ _ _ hi
      have hl' : 2 ≤ σ.kids.length := by rw [hσk, SimModel.setAt_eq_set, List.length_set]; exact hl
      refine ⟨envNode A idx (mkEnv A idx σ i), ?_, ?_⟩
      · apply mem_upEdges.mpr; left
        exact ⟨σ, hσ, Or.inr (Or.inr ⟨hl', i, r, hi', by rw [ha]⟩)⟩
      · rw [hd]
        refine Or.inr ⟨_, _, mkEnv_mem hρ hl hi, mkEnv_mem hσ hl' hi', ?_, ?_, rfl, rfl⟩
        · simp only [Env.key, mkEnv, hσk, SimModel.setAt_eq_set, List.eraseIdx_set_eq, hσs]
        · exact ⟨ρ.parent, σ.parent, parent_mem_states hρ, parent_mem_states hσ, hpar, rfl, rfl⟩
  · obtain ⟨ha, hd⟩ := edge_from_env hidx he
    refine ⟨e'.state, ?_, ?_⟩
    · have hsym : e'.symbol = e.symbol := by
        simp only [Env.key, Prod.mk.injEq] at hk
        exact hk.2.2.symm
      rw [ha, ← hsym]; exact env_edge_mem he1'
    · rw [hd, hep, hep']
      exact Or.inl ⟨p, p', hp, hp', hpp, rfl, rfl⟩

theorem upExt_init (A : TA) (idx : Nat → Nat) (hown : AllOwnRule A) (S : Nat → Nat → Prop) (hS : IsUpSim A S)
    (x y : Nat) (h : upExt A idx S x y) : (x, y) ∈ blockRel (upPartition A idx) (upBlockRel A idx) := by
  apply mem_upInit.mpr
  rcases h with ⟨q, r, hq, hr, hqr, rfl, rfl⟩ | ⟨e, e', he, he', hk, _, rfl, rfl⟩
  · exact upInit_states hown hq hr (hS q r hqr).1
  · exact Or.inr (Or.inr ⟨e, e', he, he', hk, rfl, rfl⟩)

theorem upRestr_upSim (A : TA) (idx : Nat → Nat) (hidx : IdxOk A (parents A).length idx) (hown : AllOwnRule A)
    (R : Nat → Nat → Prop) (hR : IsSim (translateUpward A idx).1 R)
    (hRI : ∀ x y, R x y → (x, y) ∈ blockRel (upPartition A idx) (upBlockRel A idx)) :
    IsUpSim A (downRestr A idx R) := by
  rintro q r ⟨hq, hr, hqr⟩
  refine ⟨final_of_upInit hidx hown hq hr (mem_upInit.mp (hRI _ _ hqr)), ?_⟩
  intro ρ hρ i hi
  by_cases hl : 2 ≤ ρ.kids.length
  · have he : (idx q, (symList A).length, envNode A idx (mkEnv A idx ρ i)) ∈ (translateUpward A idx).1.edges :=
      mem_upEdges.mpr (Or.inl ⟨ρ, hρ, Or.inr (Or.inr ⟨hl, i, q, hi, rfl⟩)⟩)
    obtain ⟨d, hd, hRd⟩ := hR _ _ hqr _ _ he
    have hm : pos ρ.sym (symList A) < (symList A).length := pos_lt (sym_mem_symList hρ)
    rcases edge_from_state hidx hr hd with ⟨σ, hσ, _, ha, _⟩ | ⟨σ, hσ, hl', j, hj, _, hdj⟩
    · have := pos_lt (sym_mem_symList hσ)
      omega
    · have hρe := mkEnv_mem (idx := idx) hρ hl hi
      have hσe := mkEnv_mem (idx := idx) hσ hl' hj
      rw [hdj] at hRd
      obtain ⟨e', he', hee, hk⟩ := env_of_upInit hidx hρe (mem_upInit.mp (hRI _ _ hRd))
      have : e' = mkEnv A idx σ j := (envNode_inj hσe hee).symm
      subst this
      simp only [Env.key, mkEnv, Prod.mk.injEq] at hk
      obtain ⟨hk1, hk2, hk3⟩ := hk
      subst hk2
      have hσs : σ.sym = ρ.sym := (pos_inj (sym_mem_symList hρ) hk3).symm
      have hσk : σ.kids = setAt ρ.kids i r := eq_setAt_of_eraseIdx _ _ _ _ _ hi hj hk1.symm
      refine ⟨σ, hσ, hσs, hσk, parent_mem_states hρ, parent_mem_states hσ, ?_⟩
      obtain ⟨d2, hd2, hRd2⟩ := hR _ _ hRd _ _ (env_edge_mem hρe)
      obtain ⟨_, hd2'⟩ := edge_from_env hidx hd2
      rw [hd2'] at hRd2
      exact hRd2
  · match hk : ρ.kids, hl, hi with
    | [], _, hi => simp at hi
    | [p], _, hi =>
      have hi0 : i = 0 := by
        cases i with
        | zero => rfl
        | succ i => simp at hi
      subst hi0
      have hpq : p = q := by simpa [hk] using hi
      subst hpq
      have he : (idx p, pos ρ.sym (symList A), idx ρ.parent) ∈ (translateUpward A idx).1.edges :=
        mem_upEdges.mpr (Or.inl ⟨ρ, hρ, Or.inr (Or.inl ⟨p, hk, rfl⟩)⟩)
      obtain ⟨d, hd, hRd⟩ := hR _ _ hqr _ _ he
      have hm : pos ρ.sym (symList A) < (symList A).length := pos_lt (sym_mem_symList hρ)
      rcases edge_from_state hidx hr hd with ⟨σ, hσ, hσk, ha, hdσ⟩ | ⟨σ, hσ, _, j, _, ha, _⟩
      · have hσs : σ.sym = ρ.sym := (pos_inj (sym_mem_symList hρ) ha).symm
        refine ⟨σ, hσ, hσs, by rw [hσk]; rfl, parent_mem_states hρ, parent_mem_states hσ, ?_⟩
        rw [← hdσ]; exact hRd
      · omega
    | _ :: _ :: _, hl, _ => simp at hl

/-- **C04, upward route (repaired code).**  For an automaton in which every state owns a rule and every numbering `idx`
of its states that is injective with values `< transitions_->size()` (hence a bijection onto `0..N-1`): the LTS engine
(greatest simulation inside the relation given by the partition and the relation on its blocks, output restricted to the
indices `< size`, `N ≤ size`) relates `idx q` to `idx r` iff `(q, r)` is in the greatest upward simulation of `A`. -/
theorem translateUpward_correct (A : TA) (size : Nat) (idx : Nat → Nat) (hidx : IdxOk A (parents A).length idx)
    (hsize : (parents A).length ≤ size) (hown : AllOwnRule A) (q r : Nat) (hq : q ∈ A.states) (hr : r ∈ A.states) :
    (idx q, idx r) ∈ ltsSimOut (translateUpward A idx).1
        (blockRel (translateUpward A idx).2.1 (translateUpward A idx).2.2) size ↔ (q, r) ∈ upSimRef A := by
  rw [restrict_output]
  show _ ∧ _ ∧ (idx q, idx r) ∈ ltsSimRef (translateUpward A idx).1 (blockRel (upPartition A idx) (upBlockRel A idx)) ↔ _
  constructor
  · rintro ⟨_, _, h⟩
    exact upSimRef_contains A _
      (upRestr_upSim A idx hidx hown _ (ltsSimRef_sim _ _) (fun x y hxy => ltsSimRef_sub _ _ (x, y) hxy))
      q r hq hr ⟨hq, hr, h⟩
  · intro h
    have h1 := hidx.lt q hq
    have h2 := hidx.lt r hr
    refine ⟨by omega, by omega, ?_⟩
    exact ltsSimRef_contains _ _ _ (upExt_isSim A idx hidx _ (upSimRef_sim A))
      (upExt_init A idx hown _ (upSimRef_sim A)) _ _ (Or.inl ⟨q, r, hq, hr, h, rfl, rfl⟩)

/-- the relation `ComputeUpwardSimulation(size)` returns (model of the repaired code) is `upSimRef A` -/
theorem upSimViaLts_iff (A : TA) (size : Nat) (idx : Nat → Nat) (hidx : IdxOk A (parents A).length idx)
    (hsize : (parents A).length ≤ size) (hown : AllOwnRule A) (q r : Nat) :
    (q, r) ∈ upSimViaLts A size idx ↔ (q, r) ∈ upSimRef A := by
  unfold upSimViaLts
  rw [mem_readBack]
  constructor
  · rintro ⟨hq, hr, h⟩
    exact (translateUpward_correct A size idx hidx hsize hown q r hq hr).mp h
  · intro h
    obtain ⟨hq, hr⟩ := upSimRef_sub A h
    exact ⟨hq, hr, (translateUpward_correct A size idx hidx hsize hown q r hq hr).mpr h⟩

theorem allOwnRuleB_iff {A : TA} : allOwnRuleB A = true ↔ AllOwnRule A := by
  simp only [allOwnRuleB, List.all_eq_true, List.any_eq_true, beq_iff_eq, AllOwnRule]

/-! `TaLtsEx.exB` under the numbering `perm [2, 9, 3, 1, 0]` (a bijection of its states onto `0..3`): the hypotheses of
`upSimViaLts_iff`, the reference relation and the relation read back, each evaluated once; quoted below and in `Properties/C04`. -/
theorem _root_.Vata.TaLtsEx.exB_perm_hyps :
    IdxOk TaLtsEx.exB (parents TaLtsEx.exB).length (TaLtsEx.perm [2, 9, 3, 1, 0]) ∧
    (parents TaLtsEx.exB).length = 4 ∧ AllOwnRule TaLtsEx.exB :=
  ⟨idxOkB_iff.mp (by decide +kernel), by decide +kernel, allOwnRuleB_iff.mp (by decide +kernel)⟩
theorem _root_.Vata.TaLtsEx.exB_upSimRef : (3, 4) ∈ upSimRef TaLtsEx.exB ∧ (2, 4) ∉ upSimRef TaLtsEx.exB := by decide +kernel
theorem _root_.Vata.TaLtsEx.exB_upSimViaLts :
    (3, 4) ∈ upSimViaLts TaLtsEx.exB 4 (TaLtsEx.perm [2, 9, 3, 1, 0]) ∧
    (2, 4) ∉ upSimViaLts TaLtsEx.exB 4 (TaLtsEx.perm [2, 9, 3, 1, 0]) := by decide +kernel

/-- non-vacuity: final and non-final states, binary rules, a non-identity numbering onto `0..3` -/
example : IdxOk TaLtsEx.exB (parents TaLtsEx.exB).length (TaLtsEx.perm [2, 9, 3, 1, 0]) ∧
    (parents TaLtsEx.exB).length ≤ 4 ∧ AllOwnRule TaLtsEx.exB ∧ 3 ∈ TaLtsEx.exB.states ∧ 4 ∈ TaLtsEx.exB.states ∧
    (3, 4) ∈ upSimRef TaLtsEx.exB ∧ (2, 4) ∉ upSimRef TaLtsEx.exB :=
  ⟨TaLtsEx.exB_perm_hyps.1, Nat.le_of_eq TaLtsEx.exB_perm_hyps.2.1, TaLtsEx.exB_perm_hyps.2.2, by decide +kernel, by decide +kernel,
    TaLtsEx.exB_upSimRef⟩

/-- **the code before the repair** (`stateIndex[envIndexPair.first.state_]`: the parent of an environment, already an LTS
index, is translated once more).  Automaton: `F = {4,2,3}`, `a → 0,2,3,4`, `b → 0,4`, `g(2,0) → 2`, `g(4,0) → 0`;
numbering `0 ↦ 2, 2 ↦ 3, 3 ↦ 1, 4 ↦ 0` (a bijection of the states onto `0..3`; the two look-ups the old code makes,
`stateIndex[3]` and `stateIndex[2]`, are on states of the automaton).  The old code relates `2` to `4`: the environment
`g(□,0) → 2` then points to the node of state `3` (= `idx (idx 2)`), and `g(□,0) → 0` to the node of `2` (= `idx (idx 0)`),
and `3` is upward-simulated by `2`.  But `2` is not upward-simulated by `4` (`g(2,0) → 2` vs `g(4,0) → 0`, `2` is final, `0`
is not), and the repaired code does not relate them. -/
theorem translateUpward_old_counterexample :
    IdxOk TaLtsEx.exB (parents TaLtsEx.exB).length (TaLtsEx.perm [2, 9, 3, 1, 0]) ∧
    (parents TaLtsEx.exB).length = 4 ∧ AllOwnRule TaLtsEx.exB ∧
    (∀ e, e ∈ envList TaLtsEx.exB (TaLtsEx.perm [2, 9, 3, 1, 0]) → e.state ∈ TaLtsEx.exB.states) ∧
    (2, 4) ∈ upSimViaLtsOld TaLtsEx.exB 4 (TaLtsEx.perm [2, 9, 3, 1, 0]) ∧
    (2, 4) ∉ upSimRef TaLtsEx.exB ∧
    (2, 4) ∉ upSimViaLts TaLtsEx.exB 4 (TaLtsEx.perm [2, 9, 3, 1, 0]) ∧
    upSimViaLtsOld TaLtsEx.exB 4 id = upSimViaLts TaLtsEx.exB 4 id :=
  ⟨TaLtsEx.exB_perm_hyps.1, TaLtsEx.exB_perm_hyps.2.1, TaLtsEx.exB_perm_hyps.2.2, by decide +kernel, by decide +kernel,
    TaLtsEx.exB_upSimRef.2, TaLtsEx.exB_upSimViaLts.2, by decide +kernel⟩

/-! The initial relation of the upward encoding is a preorder on the nodes (precondition of the engine, C16). -/

theorem upInit_refl {A : TA} {idx : Nat → Nat} (hown : AllOwnRule A) :
    (∀ q, q ∈ A.states → (idx q, idx q) ∈ blockRel (upPartition A idx) (upBlockRel A idx)) ∧
    ((parents A).length, (parents A).length) ∈ blockRel (upPartition A idx) (upBlockRel A idx) ∧
    (∀ e, e ∈ envList A idx → (envNode A idx e, envNode A idx e) ∈ blockRel (upPartition A idx) (upBlockRel A idx)) :=
  ⟨fun _ hq => mem_upInit.mpr (upInit_states hown hq hq id), mem_upInit.mpr (Or.inr (Or.inl ⟨rfl, rfl⟩)),
   fun e he => mem_upInit.mpr (Or.inr (Or.inr ⟨e, e, he, he, rfl, rfl, rfl⟩))⟩

theorem upInit_trans {A : TA} {idx : Nat → Nat} (hidx : IdxOk A (parents A).length idx) (x y z : Nat)
    (hxy : (x, y) ∈ blockRel (upPartition A idx) (upBlockRel A idx))
    (hyz : (y, z) ∈ blockRel (upPartition A idx) (upBlockRel A idx)) :
    (x, z) ∈ blockRel (upPartition A idx) (upBlockRel A idx) := by
  apply mem_upInit.mpr
  rcases mem_upInit.mp hxy with ⟨q, r, hq, hr, hf, rfl, rfl⟩ | ⟨rfl, rfl⟩ | ⟨e, e', he, he', hk, rfl, rfl⟩
  · have hlt := hidx.lt r (parents_mem_states hr)
    rcases mem_upInit.mp hyz with ⟨r', s, hr', hs, hf', h1, rfl⟩ | ⟨h1, _⟩ | ⟨e, _, _, _, _, h1, _⟩
    · have : r = r' := hidx.inj r r' (parents_mem_states hr) (parents_mem_states hr') h1
      subst this
      exact Or.inl ⟨q, s, hq, hs, fun h3 hqf => hf' h3 (hf h3 hqf), rfl, rfl⟩
    · omega
    · have := envNode_gt A idx e
      omega
  · rcases mem_upInit.mp hyz with ⟨r', _, hr', _, _, h1, _⟩ | ⟨_, rfl⟩ | ⟨e, _, _, _, _, h1, _⟩
    · have := hidx.lt r' (parents_mem_states hr')
      omega
    · exact Or.inr (Or.inl ⟨rfl, rfl⟩)
    · have := envNode_gt A idx e
      omega
  · have hgt := envNode_gt A idx e'
    rcases mem_upInit.mp hyz with ⟨r', _, hr', _, _, h1, _⟩ | ⟨h1, _⟩ | ⟨e1, e2, he1, he2, hk', h1, rfl⟩
    · have := hidx.lt r' (parents_mem_states hr')
      omega
    · omega
    · have : e' = e1 := envNode_inj he' h1
      subst this
      exact Or.inr (Or.inr ⟨e, e2, he, he2, hk.trans hk', rfl, rfl⟩)

end Vata.TaLts
