import Vata.Nfa
import Vata.NfaEmbed
import Vata.NfaOps
import Vata.Proofs.NfaOps
import Vata.Proofs.PropAux
import Vata.Proofs.NfaIncl
import Vata.Proofs.NfaInclTotal
import Vata.Proofs.NfaInclCongr
import Vata.Proofs.NfaInclCongrTotal
import Vata.Properties.Dispatch
/-!
# C09 – Finite-automata inclusion is exact for antichain and congruence algorithms

> For any two nondeterministic finite word automata A and B (a word is accepted when it labels a path from a start
> state to a final state), the inclusion check returns true exactly when every word accepted by A is accepted by B.
> This holds for the antichain algorithm and for the congruence algorithm in depth-first and breadth-first order, and
> all of them agree.

## How the statement is read into the model

* **Specification (L0).**  `Vata.W.NFA` (`Vata/Nfa.lean`: `start final : List Nat`, `trans : List (source × symbol ×
  target)`; several start states, start states that are final, unreachable and dead states, nondeterminism are all
  expressible).  `acceptsW N w` is acceptance by forward subset simulation (`run`, `stepW`);
  `C09_accepts_iff_path` shows that it is literally "`w` labels a path from a start state to a final state"
  (`Path`, `Vata/Proofs/NfaOps.lean`).  `InclW A B := ∀ w, acceptsW A w = true → acceptsW B w = true`
  (`Vata/NfaEmbed.lean`) is "every word accepted by `A` is accepted by `B`".
* **Reference (oracle of the check).**  `inclW A B fuel` (`Vata/NfaEmbed.lean`): both automata are embedded into the
  tree-automata engine over a unary signature and the profile saturation `forallTrees` decides
  `∀ w, ¬ acceptsW A w ∨ acceptsW B w`.  This is what the four verdicts of the real `CheckInclusion`
  (`antichains`, `congr` depth-first, `congr` breadth-first, default) are compared with in `Driver/NfaHist.lean`.
  `W.inclRef A B fuel` (`Vata/Nfa.lean`) is a second, independent reference that works on NFAs directly (saturation of
  the pairs of macro-states `(run A w, run B w)`).  `none` means "fuel exhausted", it is never a verdict.
* **Models of the code** (`Vata/NfaIncl.lean`), for the options without a simulation relation.
  - *Dispatcher.*  `nfaSanitize A B` is `SanitizeAutsForInclusion`: `nfaRemoveUseless` on both operands, then renumbering
    of `A` with `0 … |A|-1` and of `B` with `|A| … |A|+|B|-1`; `checkNfaInclAC A B fuel` and
    `checkNfaInclCongr A B breadth fuel` are `CheckInclusion` with `ANTICHAINS_NOSIM` resp. `CONGR_DEPTH_NOSIM`
    (`breadth = false`) / `CONGR_BREADTH_NOSIM` (`breadth = true`).
  - *Antichain algorithm* `nfaInclAC` (`ExplicitFAInclusionFunctorCache`): `Init`, the antichain `antichain_` and the
    ordered work-list `next_` of pairs (state of `A`, macro-state of `B`) with the subsumption tests of
    `AddNewPairToAntichain` / `AddToNext`, `MakePost`; exploration `NfaIncl.runAC`.
  - *Congruence algorithm* `nfaInclCongr` (`ExplicitFACongrFunctorCacheOpt`): the dispatcher's reduction to
    `L(A ⊎ B) = L(B)`, `relation_`, the vector `next_` with `push_back` (depth) or insertion at the front (breadth),
    `visitedPairs_`, the congruence closure by rewriting (`inClosure`), `MakePost` on both macro-states; exploration
    `NfaIncl.runCongr`.
  Both end certify-then-trust: `true` only with the final antichain / relation after the Boolean checks `nfaUpCertB` /
  `congrCertB`, `false` only with a word after the check `acceptsW A w && !acceptsW B w`; `none` = fuel exhausted (one
  unit per picked pair).  The macro-state cache and the memo tables of the C++ (`subsetMap_`, `usedRules_`) are
  transparent and not part of these models: macro-states are sorted duplicate-free lists compared by value.  (The classes
  this reading rests on – `OrdVector`, the ordered antichain work-list, a cache that never frees with memo tables keyed by
  addresses – have models and theorems of their own: `Vata/Properties/Util_OrdVector.lean`, `Util_Antichain.lean`,
  `Util_Cache.lean`; see the end of the file for what connects them to the algorithms and what does not.)
* **Certificate principles.**  `NfaUpCert A B X`: a set of pairs (state, macro-state) that subsumes the start pairs, is
  closed under the post-image *up to subsumption* and has no bad pair (antichain).  `CongrCert A B R`: disjoint operands,
  the start macro-states of `A ⊎ B` and `B` congruent modulo `R`, and `R` a *bisimulation up to congruence*
  (`NfaIncl.BisimUpTo`, `NfaIncl.CongrCl` = the least equivalence containing `R` closed under union; Bonchi–Pous).
  `W.closedB` / `W.HasInit` / `W.bad` (`Vata/Nfa.lean`) is the older principle without pruning.
* **Dispatch.**  `Vata.Gen.faDispatch` is the `switch (params.GetOptions())` of `ExplicitFiniteAutCore::CheckInclusion`,
  regenerated from the sources on every run (`Vata/Properties/Dispatch.lean`).
-/
namespace Vata.Props
open Vata.W

/-! ### the specification is the one of the statement -/

/-- `acceptsW` (forward subset simulation) is acceptance in the sense of the statement: the word labels a path from a
start state to a final state -/
theorem C09_accepts_iff_path (N : NFA) (w : List Nat) :
    acceptsW N w = true ↔ ∃ s, s ∈ N.start ∧ ∃ q, q ∈ N.final ∧ Path N s w q := acceptsW_iff N w

-- two start states, a start state that is final, nondeterminism on symbol 0, a dead state 3
example : acceptsW ⟨[0, 2], [0, 1], [(0, 0, 1), (0, 0, 3), (1, 1, 1), (2, 0, 3)]⟩ [0, 1, 1] = true ∧
    acceptsW ⟨[0, 2], [0, 1], [(0, 0, 1), (0, 0, 3), (1, 1, 1), (2, 0, 3)]⟩ [] = true ∧
    acceptsW ⟨[0, 2], [0, 1], [(0, 0, 1), (0, 0, 3), (1, 1, 1), (2, 0, 3)]⟩ [1] = false := by decide +kernel

/-! ### the references all algorithm selections are compared with -/

/-- every verdict of the reference decision procedure is exact -/
theorem C09_reference_exact (A B : NFA) (fuel : Nat) (b : Bool) (h : inclW A B fuel = some b) :
    b = true ↔ InclW A B := inclW_iff A B fuel b h

-- the smaller operand uses only symbol 0, the bigger one also symbol 1 and accepts the empty word
example : inclW ⟨[0], [1], [(0, 0, 1)]⟩ ⟨[0, 2], [0, 1], [(0, 0, 1), (1, 1, 1), (2, 0, 3)]⟩ 10 = some true := by decide +kernel
example : inclW ⟨[0, 2], [0, 1], [(0, 0, 1), (1, 1, 1), (2, 0, 3)]⟩ ⟨[0], [1], [(0, 0, 1)]⟩ 10 = some false := by decide +kernel

/-- … and so is every verdict of the second reference, which saturates pairs of macro-states of the NFAs directly -/
theorem C09_reference_nfa_exact (A B : NFA) (fuel : Nat) (b : Bool) (h : W.inclRef A B fuel = some b) :
    b = true ↔ InclW A B := W.inclRef_iff A B fuel b h

example : W.inclRef ⟨[0], [1], [(0, 0, 1)]⟩ ⟨[0, 2], [0, 1], [(0, 0, 1), (1, 1, 1), (2, 0, 3)]⟩ 10 = some true := by
  decide +kernel
example : W.inclRef ⟨[0, 2], [0, 1], [(0, 0, 1), (1, 1, 1), (2, 0, 3)]⟩ ⟨[0], [1], [(0, 0, 1)]⟩ 10 = some false := by
  decide +kernel

/-- the decision procedure behind `inclW` (and behind the checkers of C10): for any Boolean combination `φ` of
word-acceptance by finitely many NFAs, every verdict is exact.  The second conjunct on the right is the value of `φ` on
"rejected by all", which is what trees that are not words contribute; for inclusion it is trivially true. -/
theorem C09_boolean_combination_exact (Ns : List NFA) (φ : List Bool → Bool) (fuel : Nat) (b : Bool)
    (h : forallWords Ns φ fuel = some b) :
    b = true ↔ (∀ w, φ (Ns.map (fun N => acceptsW N w)) = true) ∧ φ (Ns.map (fun _ => false)) = true :=
  forallWords_iff Ns φ fuel b h

-- "no word is accepted by both": true for the languages {0} and {ε, 1}
example : forallWords [⟨[0], [1], [(0, 0, 1)]⟩, ⟨[0], [0, 1], [(0, 1, 1)]⟩]
    (fun v => match v with | [a, b] => !(a && b) | _ => false) 10 = some true := by decide +kernel

/-! ### "all of them agree" -/

/-- two exact verdicts on the same pair are equal: any verdict of the one reference equals any verdict of the other,
for all fuels.  (This one is about the two references; the agreement of the models of the three algorithms with each
other and with the reference is `C09_all_algorithms_agree`.) -/
theorem C09_verdicts_agree (A B : NFA) (fuel fuel' : Nat) (b b' : Bool)
    (h : inclW A B fuel = some b) (h' : W.inclRef A B fuel' = some b') : b = b' :=
  Verdict.eq_of_iff (inclW_iff A B fuel b h) (W.inclRef_iff A B fuel' b' h')

example : inclW ⟨[0, 2], [0, 1], [(0, 0, 1), (1, 1, 1), (2, 0, 3)]⟩ ⟨[0], [1], [(0, 0, 1)]⟩ 10 = some false ∧
    W.inclRef ⟨[0, 2], [0, 1], [(0, 0, 1), (1, 1, 1), (2, 0, 3)]⟩ ⟨[0], [1], [(0, 0, 1)]⟩ 7 = some false := by decide +kernel

/-- the verdict of the reference does not depend on the fuel -/
theorem C09_reference_fuel_independent (A B : NFA) (fuel fuel' : Nat) (b b' : Bool)
    (h : inclW A B fuel = some b) (h' : inclW A B fuel' = some b') : b = b' :=
  Verdict.eq_of_iff (inclW_iff A B fuel b h) (inclW_iff A B fuel' b' h')

example : inclW ⟨[0], [1], [(0, 0, 1)]⟩ ⟨[0, 2], [0, 1], [(0, 0, 1), (1, 1, 1), (2, 0, 3)]⟩ 10 = some true ∧
    inclW ⟨[0], [1], [(0, 0, 1)]⟩ ⟨[0, 2], [0, 1], [(0, 0, 1), (1, 1, 1), (2, 0, 3)]⟩ 25 = some true := by decide +kernel

/-! ### the preparation done by `CheckInclusion` before either algorithm -/

/-- `SanitizeAutsForInclusion` (useless-state removal, then reindexing of each operand) does not change the question
asked.  The hypotheses say that the two translation maps are injective on the states of the trimmed operands; this is
needed (a map that merges two states can enlarge the language) and holds in the code because fresh consecutive numbers
are handed out. -/
theorem C09_preparation_preserves (A B : NFA) (fA fB : Nat → Nat)
    (hA : NfaInjOn fA (nfaStates (nfaRemoveUseless A))) (hB : NfaInjOn fB (nfaStates (nfaRemoveUseless B))) :
    InclW (nfaMap fA (nfaRemoveUseless A)) (nfaMap fB (nfaRemoveUseless B)) ↔ InclW A B := by
  simp only [InclW, nfaMap_inj_lang _ _ _ hA, nfaMap_inj_lang _ _ _ hB, nfaRemoveUseless_lang]

-- the dead state 3 and the unreachable state 4 are removed, the survivors are renumbered injectively
example : nfaStates (nfaRemoveUseless ⟨[0, 2], [0, 1], [(0, 0, 1), (1, 1, 1), (2, 0, 3), (4, 0, 1)]⟩) = [0, 0, 1, 0, 1, 1, 1] ∧
    NfaInjOn (fun q => q + 7) (nfaStates (nfaRemoveUseless ⟨[0, 2], [0, 1], [(0, 0, 1), (1, 1, 1), (2, 0, 3), (4, 0, 1)]⟩)) :=
  ⟨by decide +kernel, fun p _ q _ h => Nat.add_right_cancel h⟩

/-- the reduction used by the congruence algorithm (`newSmaller = UnionDisjointStates(newSmaller, newBigger)`, then
equivalence of the start sets of `A ∪ B` and `B`): on operands with disjoint states, `L(A) ⊆ L(B)` iff `A ∪ B` and `B`
accept the same words.  Disjointness is needed for `nfaUnionDisjoint` to be the union (C10) and is what
`SanitizeAutsForInclusion` establishes. -/
theorem C09_congruence_reduction (A B : NFA) (hdis : ∀ q, q ∈ nfaStates A → q ∈ nfaStates B → False) :
    InclW A B ↔ ∀ w, acceptsW (nfaUnionDisjoint A B) w = acceptsW B w := by
  simp only [InclW, nfaUnionDisjoint_lang A B _ hdis]
  exact forall_congr' fun w => by cases acceptsW A w <;> cases acceptsW B w <;> simp

example : ∀ q, q ∈ nfaStates ⟨[0], [1], [(0, 0, 1)]⟩ →
    q ∈ nfaStates ⟨[2, 4], [2, 3], [(2, 0, 3), (3, 1, 3), (4, 0, 5)]⟩ → False := by decide +kernel

/-! ### the principle behind the product explorations (without pruning) -/

/-- soundness of an explored set of product states: a set `P` of pairs (macro-state of `A`, macro-state of `B`) that
contains the pair of the start sets, is closed under the simultaneous step on every symbol of `A` and contains no pair
that is accepting in `A` and not accepting in `B` proves the inclusion.  (All three conditions are up to equality of
macro-states as sets.)  This is the principle without the antichain subsumption and without the congruence closure. -/
theorem C09_closed_pairs_certificate (A B : NFA) (P : List W.Pair) (hI : W.HasInit A B P)
    (hc : W.closedB A B P = true) (hb : ∀ p, p ∈ P → W.bad A B p = false) : InclW A B :=
  W.incl_of_closed_pairs A B P hI hc hb

example : W.HasInit ⟨[0], [1], [(0, 0, 1)]⟩ ⟨[0, 2], [0, 1], [(0, 0, 1), (1, 1, 1), (2, 0, 3)]⟩
      [([0], [0, 2]), ([1], [1, 3]), ([], [])] ∧
    W.closedB ⟨[0], [1], [(0, 0, 1)]⟩ ⟨[0, 2], [0, 1], [(0, 0, 1), (1, 1, 1), (2, 0, 3)]⟩
      [([0], [0, 2]), ([1], [1, 3]), ([], [])] = true ∧
    ∀ p, p ∈ [([0], [0, 2]), ([1], [1, 3]), ([], [])] →
      W.bad ⟨[0], [1], [(0, 0, 1)]⟩ ⟨[0, 2], [0, 1], [(0, 0, 1), (1, 1, 1), (2, 0, 3)]⟩ p = false :=
  ⟨⟨_, List.mem_cons_self, fun _ => Iff.rfl, fun _ => Iff.rfl⟩, by decide +kernel, by decide +kernel⟩
-- a set that is not closed is refused: the successor of the start pair is missing
example : W.closedB ⟨[0], [1], [(0, 0, 1)]⟩ ⟨[0, 2], [0, 1], [(0, 0, 1), (1, 1, 1), (2, 0, 3)]⟩
    [([0], [0, 2]), ([], [])] = false := by decide

/-! ### the antichain algorithm: model of the code, exact and total -/

/-- `CheckInclusion` with `ANTICHAINS_NOSIM` (model `checkNfaInclAC`: sanitise, then the antichain exploration): every
verdict is exact, and for every fuel above the explicit bound of the sanitised operands the right verdict is returned -/
theorem C09_antichain_model_exact (A B : NFA) :
    (∀ fuel b c, checkNfaInclAC A B fuel = some (b, c) → (b = true ↔ InclW A B)) ∧
    (∀ fuel, NfaIncl.fuelBoundAC (nfaSanitize A B).1 (nfaSanitize A B).2 < fuel →
      (InclW A B → ∃ c, checkNfaInclAC A B fuel = some (true, c)) ∧
      (¬ InclW A B → ∃ c, checkNfaInclAC A B fuel = some (false, c))) :=
  ⟨fun _ _ _ h => checkNfaInclAC_iff h, fun _ hf => checkNfaInclAC_complete A B hf⟩

-- the regression pair of the repaired subset memo (shared state names, nondeterminism), both directions
theorem exMemo_antichain : (checkNfaInclAC NfaInclEx.exMemoA NfaInclEx.exMemoB 20).map (·.1) = some true := by
  decide +kernel
theorem exMemo_antichain_rev : (checkNfaInclAC NfaInclEx.exMemoB NfaInclEx.exMemoA 20).map (·.1) = some false := by
  decide +kernel

example : (checkNfaInclAC NfaInclEx.exMemoA NfaInclEx.exMemoB 20).map (·.1) = some true ∧
    (checkNfaInclAC NfaInclEx.exMemoB NfaInclEx.exMemoA 20).map (·.1) = some false := ⟨exMemo_antichain, exMemo_antichain_rev⟩

/-- the exploration alone, on ANY operands (no trimming, no disjointness needed): exact, and total above the bound -/
theorem C09_antichain_core_exact (A B : NFA) :
    (∀ fuel b c, nfaInclAC A B fuel = some (b, c) → (b = true ↔ InclW A B)) ∧
    (∀ fuel, NfaIncl.fuelBoundAC A B < fuel →
      (InclW A B → ∃ c, nfaInclAC A B fuel = some (true, c)) ∧
      (¬ InclW A B → ∃ c, nfaInclAC A B fuel = some (false, c))) :=
  ⟨fun _ _ _ h => nfaInclAC_iff h, fun _ hf => nfaInclAC_complete hf⟩

example : NfaIncl.fuelBoundAC NfaInclEx.exAstar NfaInclEx.exABstar = 32 := by decide
example : ∃ c, nfaInclAC NfaInclEx.exAAB NfaInclEx.exAplus 10 = some (false, c) := ⟨_, rfl⟩

/-! ### the congruence algorithm, depth-first and breadth-first: model of the code, exact and total -/

/-- `CheckInclusion` with `CONGR_DEPTH_NOSIM` (`breadth = false`) and `CONGR_BREADTH_NOSIM` (`breadth = true`), model
`checkNfaInclCongr`: every verdict is exact, and for every fuel above the explicit bound the right verdict is returned –
in either search order -/
theorem C09_congruence_model_exact (A B : NFA) (breadth : Bool) :
    (∀ fuel b c, checkNfaInclCongr A B breadth fuel = some (b, c) → (b = true ↔ InclW A B)) ∧
    (∀ fuel, NfaIncl.fuelBoundCongr (nfaSanitize A B).1 (nfaSanitize A B).2 < fuel →
      (InclW A B → ∃ c, checkNfaInclCongr A B breadth fuel = some (true, c)) ∧
      (¬ InclW A B → ∃ c, checkNfaInclCongr A B breadth fuel = some (false, c))) :=
  ⟨fun _ _ _ h => checkNfaInclCongr_iff h, fun _ hf => checkNfaInclCongr_complete A B hf⟩

-- the regression pair again, in either search order
theorem exMemo_congr (breadth : Bool) :
    (checkNfaInclCongr NfaInclEx.exMemoA NfaInclEx.exMemoB breadth 20).map (·.1) = some true := by
  rw [checkNfaInclCongr, nfaInclCongr_verdict (NfaIncl.sanitize_disjoint _ _)]
  cases breadth <;> decide +kernel
theorem exMemo_congr_rev (breadth : Bool) :
    (checkNfaInclCongr NfaInclEx.exMemoB NfaInclEx.exMemoA breadth 20).map (·.1) = some false := by
  rw [checkNfaInclCongr, nfaInclCongr_verdict (NfaIncl.sanitize_disjoint _ _)]
  cases breadth <;> decide +kernel

example : (checkNfaInclCongr NfaInclEx.exMemoA NfaInclEx.exMemoB true 20).map (·.1) = some true ∧
    (checkNfaInclCongr NfaInclEx.exMemoA NfaInclEx.exMemoB false 20).map (·.1) = some true ∧
    (checkNfaInclCongr NfaInclEx.exMemoB NfaInclEx.exMemoA true 20).map (·.1) = some false :=
  ⟨exMemo_congr true, exMemo_congr false, exMemo_congr_rev true⟩

/-- the exploration alone: every verdict is exact on any operands; on operands with disjoint state sets (what the
dispatcher establishes – the reduction to `L(A ⊎ B) = L(B)` needs it) it is total above the bound -/
theorem C09_congruence_core_exact (A B : NFA) (breadth : Bool) :
    (∀ fuel b c, nfaInclCongr A B breadth fuel = some (b, c) → (b = true ↔ InclW A B)) ∧
    ((∀ q, q ∈ nfaStates A → q ∈ nfaStates B → False) → ∀ fuel, NfaIncl.fuelBoundCongr A B < fuel →
      (InclW A B → ∃ c, nfaInclCongr A B breadth fuel = some (true, c)) ∧
      (¬ InclW A B → ∃ c, nfaInclCongr A B breadth fuel = some (false, c))) :=
  ⟨fun _ _ _ h => nfaInclCongr_iff h, fun hdis _ hf => nfaInclCongr_complete hdis hf⟩

example : (∀ q, q ∈ nfaStates NfaInclEx.exAstar → q ∈ nfaStates NfaInclEx.exABstar → False) ∧
    NfaIncl.fuelBoundCongr NfaInclEx.exAstar NfaInclEx.exABstar = 9 := ⟨by decide, by decide⟩
-- operands that share state names are refused by the exploration alone (no verdict), the dispatcher renames them
example : (nfaInclCongr NfaInclEx.exMemoA NfaInclEx.exMemoB true 20).isNone = true := by decide +kernel

/-! ### what the verdicts carry, and the two pruning principles -/

/-- a `true` of the antichain model comes with an antichain certificate, a `true` of the congruence model with a
bisimulation up to congruence; a `false` of either comes with a word accepted by `A` and rejected by `B` -/
theorem C09_verdicts_certified (A B : NFA) (breadth : Bool) (fuel : Nat) (c : NfaIncl.Cert) :
    (nfaInclAC A B fuel = some (true, c) → ∃ X, c = .antichain X ∧ NfaUpCert A B X) ∧
    (nfaInclAC A B fuel = some (false, c) → ∃ w, c = .witness w ∧ acceptsW A w = true ∧ acceptsW B w = false) ∧
    (nfaInclCongr A B breadth fuel = some (true, c) → ∃ R, c = .relation R ∧ CongrCert A B R) ∧
    (nfaInclCongr A B breadth fuel = some (false, c) →
      ∃ w, c = .witness w ∧ acceptsW A w = true ∧ acceptsW B w = false) :=
  ⟨nfaInclAC_true_sound, nfaInclAC_false_sound, nfaInclCongr_true_sound, nfaInclCongr_false_sound⟩

example : nfaInclAC NfaInclEx.exAAB NfaInclEx.exAplus 10 = some (false, .witness [0, 0, 1]) ∧
    nfaInclCongr NfaInclEx.exAAB NfaInclEx.exAplus false 10 = some (false, .witness [0, 0, 1]) ∧
    nfaInclCongr NfaInclEx.exAstar NfaInclEx.exABstar true 10 = some (true, .relation [([0, 1], [1])]) := ⟨rfl, rfl, rfl⟩

/-- soundness of the antichain pruning: a set `X` of pairs (state of `A`, macro-state of `B`) that subsumes the start
pairs, is closed under the post-image UP TO SUBSUMPTION by a smaller macro-state, and has no pair with a final state and a
rejecting macro-state, proves the inclusion; the Boolean check of the model establishes these conditions -/
theorem C09_antichain_certificate (A B : NFA) (X : List (Nat × List Nat)) :
    (NfaUpCert A B X → InclW A B) ∧ (nfaUpCertB A B X = true → NfaUpCert A B X) :=
  ⟨nfa_up_cert_incl, nfaUpCertB_sound⟩

-- subsumption is used: the successor `(1, {3,4})` by `a` is only covered by the smaller `(1, {3})`
example : NfaUpCert ⟨[0], [1], [(0, 0, 1), (0, 1, 1)]⟩ ⟨[2], [3], [(2, 0, 3), (2, 0, 4), (2, 1, 3)]⟩ [(0, [2]), (1, [3])] :=
  nfaUpCertB_sound (by decide +kernel)

/-- soundness of the congruence pruning (bisimulation up to congruence): if `R` is a bisimulation up to congruence in
`U`, then its congruence closure is a bisimulation (first component); hence disjoint operands whose start macro-states
`start_A ∪ start_B` and `start_B` are congruent modulo such an `R` (in `U = A ⊎ B`) satisfy the inclusion (second); the
Boolean check of the model is exactly this condition (third) -/
theorem C09_congruence_certificate (A B : NFA) (R : List NfaIncl.CRule) :
    (∀ U : NFA, NfaIncl.BisimUpTo U R → ∀ X Y, NfaIncl.CongrCl R X Y →
      W.accepting U X = W.accepting U Y ∧ ∀ a, NfaIncl.CongrCl R (stepW U X a) (stepW U Y a)) ∧
    (CongrCert A B R → InclW A B) ∧
    (congrCertB A B R = true ↔ CongrCert A B R) :=
  ⟨fun _ hR _ _ h => NfaIncl.congrCl_bisim hR h, congr_cert_sound, congrCertB_iff⟩

/-- the relation of a finished exploration of disjoint operands is a certificate (by the invariant of the exploration, no
check is evaluated) -/
theorem congrCert_of_run {A B : NFA} (hdis : ∀ q, q ∈ nfaStates A → q ∈ nfaStates B → False) {breadth : Bool} {fuel : Nat}
    {R : List NfaIncl.CRule}
    (h : (NfaIncl.runCongr (nfaUnionDisjoint A B) B breadth fuel).bind (fun r => r.toOption.map NfaIncl.rulesOf) = some R) :
    CongrCert A B R := by
  cases hr : NfaIncl.runCongr (nfaUnionDisjoint A B) B breadth fuel with
  | none => rw [hr] at h; cases h
  | some r =>
    rw [hr] at h
    cases r with
    | error w => cases h
    | ok P => cases h; exact NfaIncl.runCongr_ok_cert hdis hr

-- the relation returned for the (sanitised) regression pair needs the closure: it is not a plain bisimulation
example : CongrCert NfaInclEx.exSanA NfaInclEx.exSanB NfaInclEx.exSanR ∧
    NfaInclEx.plainBisimB (nfaUnionDisjoint NfaInclEx.exSanA NfaInclEx.exSanB) NfaInclEx.exSanR = false :=
  ⟨congrCert_of_run (breadth := true) (fuel := 20) (by decide +kernel) (by decide +kernel), by decide +kernel⟩

/-- the explorations proper (no final check involved): the antichain of a finished `true` run passes `nfaUpCertB`, the
relation of a finished `true` congruence run (disjoint operands) is a `CongrCert`, the word of a `false` run of either
separates the languages, and both end within their bounds.  So the final checks never refuse: `none` means "fuel
exhausted" only -/
theorem C09_explorations_certified (A B : NFA) (breadth : Bool) (fuel : Nat) :
    ((∀ P, NfaIncl.runAC A B fuel = some (.ok P) → nfaUpCertB A B (P.map (fun i => (i.q, i.S))) = true) ∧
      (∀ w, NfaIncl.runAC A B fuel = some (.error w) → acceptsW A w = true ∧ acceptsW B w = false) ∧
      (NfaIncl.fuelBoundAC A B < fuel → ∃ r, NfaIncl.runAC A B fuel = some r)) ∧
    ((∀ q, q ∈ nfaStates A → q ∈ nfaStates B → False) →
      (∀ R, NfaIncl.runCongr (nfaUnionDisjoint A B) B breadth fuel = some (.ok R) → CongrCert A B (NfaIncl.rulesOf R)) ∧
      (∀ w, NfaIncl.runCongr (nfaUnionDisjoint A B) B breadth fuel = some (.error w) →
        acceptsW A w = true ∧ acceptsW B w = false)) ∧
    (NfaIncl.fuelBoundCongr A B < fuel → ∃ r, NfaIncl.runCongr (nfaUnionDisjoint A B) B breadth fuel = some r) :=
  ⟨⟨fun _ h => NfaIncl.runAC_ok_cert h, fun _ h => NfaIncl.runAC_error_ok h, fun h => NfaIncl.runAC_terminates h⟩,
    fun hdis => ⟨fun _ h => NfaIncl.runCongr_ok_cert hdis h, fun _ h => NfaIncl.runCongr_error_ok hdis h⟩,
    fun h => NfaIncl.runCongr_terminates h⟩

theorem exists_ok {ε α : Type} : ∀ {r : Option (Except ε α)}, r.any Except.isOk = true → ∃ x, r = some (.ok x)
  | some (.ok x), _ => ⟨x, rfl⟩

example : ∃ P, NfaIncl.runAC NfaInclEx.exMemoA NfaInclEx.exMemoB 20 = some (.ok P) := exists_ok (by decide +kernel)
example : ∃ R, NfaIncl.runCongr (nfaUnionDisjoint NfaInclEx.exAstar NfaInclEx.exABstar) NfaInclEx.exABstar true 10 =
    some (.ok R) := exists_ok (by decide +kernel)

/-! ### the dispatcher's preparation, from a model of `SanitizeAutsForInclusion` -/

/-- `nfaSanitize` (useless-state removal, then the renumbering with one shared counter): both languages are preserved –
hence the inclusion question –, and the state sets of the results are disjoint.  No injectivity hypothesis is left
(compare `C09_preparation_preserves`) -/
theorem C09_sanitise_model (A B : NFA) :
    (∀ w, acceptsW (nfaSanitize A B).1 w = acceptsW A w ∧ acceptsW (nfaSanitize A B).2 w = acceptsW B w) ∧
    (InclW (nfaSanitize A B).1 (nfaSanitize A B).2 ↔ InclW A B) ∧
    (∀ q, q ∈ nfaStates (nfaSanitize A B).1 → q ∈ nfaStates (nfaSanitize A B).2 → False) :=
  ⟨fun w => ⟨NfaIncl.sanitize_fst_lang A B w, NfaIncl.sanitize_snd_lang A B w⟩, NfaIncl.sanitize_incl A B,
    NfaIncl.sanitize_disjoint A B⟩

-- the operands of the regression pair share the state names 0..3; after sanitising: 0,1,2 and 3..6
example : (nfaSanitize NfaInclEx.exMemoA NfaInclEx.exMemoB).1.trans = NfaInclEx.exSanA.trans ∧
    (nfaSanitize NfaInclEx.exMemoA NfaInclEx.exMemoB).2.trans = NfaInclEx.exSanB.trans := by decide +kernel

/-! ### "all of them agree", for the models of the code -/

/-- any verdicts of the models of the antichain algorithm, of the congruence algorithm in depth-first and in
breadth-first order, and of the reference, on the same pair are equal – whatever the fuels -/
theorem C09_all_algorithms_agree (A B : NFA) (f₀ f₁ f₂ f₃ : Nat) (b₀ b₁ b₂ b₃ : Bool) (c₁ c₂ c₃ : NfaIncl.Cert)
    (h₀ : inclW A B f₀ = some b₀)
    (h₁ : checkNfaInclAC A B f₁ = some (b₁, c₁))
    (h₂ : checkNfaInclCongr A B false f₂ = some (b₂, c₂))
    (h₃ : checkNfaInclCongr A B true f₃ = some (b₃, c₃)) :
    b₁ = b₀ ∧ b₂ = b₀ ∧ b₃ = b₀ := by
  have e₀ := inclW_iff A B f₀ b₀ h₀
  have e₁ := checkNfaInclAC_iff h₁
  have e₂ := checkNfaInclCongr_iff h₂
  have e₃ := checkNfaInclCongr_iff h₃
  exact ⟨Verdict.eq_of_iff e₁ e₀, Verdict.eq_of_iff e₂ e₀, Verdict.eq_of_iff e₃ e₀⟩

example : inclW NfaInclEx.exAAB NfaInclEx.exAplus 10 = some false ∧
    (checkNfaInclAC NfaInclEx.exAAB NfaInclEx.exAplus 10).map (·.1) = some false ∧
    (checkNfaInclCongr NfaInclEx.exAAB NfaInclEx.exAplus false 10).map (·.1) = some false ∧
    (checkNfaInclCongr NfaInclEx.exAAB NfaInclEx.exAplus true 10).map (·.1) = some false := by decide +kernel

/-! ### the dispatcher -/

/-- the `switch` of `ExplicitFiniteAutCore::CheckInclusion`, as regenerated from the sources: (1) exactly the option words
`ANTICHAINS_NOSIM`, `ANTICHAINS_SIM`, `CONGR_DEPTH_NOSIM`, `CONGR_BREADTH_NOSIM`, `CONGR_DEPTH_SIM`, `CONGR_DEPTH_EQUIV_NOSIM`,
`CONGR_BREADTH_EQUIV_NOSIM` have a case, no word twice; (2) every other word reaches `default`, which throws; (3) in every
case the algorithm and search-order bits match the functor and the product-set order (`depth` / `breadth`), and (4) the
simulation bit decides between "given relation, original operands" and "identity, sanitised copies"; (5) the named words
are the bit combinations their names say -/
theorem C09_dispatch (c : Gen.Case) (hc : c ∈ Gen.faDispatch) :
    Dispatch.sameWords (Dispatch.words Gen.faDispatch) [0, 16, 33, 1, 17, 65, 97] = true ∧
    (Dispatch.words Gen.faDispatch).Nodup ∧
    Gen.faDispatchDefaultThrows = true ∧
    Dispatch.faConsistent c = true ∧ Dispatch.simConsistent c = true ∧
    (Gen.namedWords.lookup "ANTICHAINS_NOSIM" = some 0 ∧
      Gen.namedWords.lookup "CONGR_DEPTH_NOSIM" = some Dispatch.fAlg ∧
      Gen.namedWords.lookup "CONGR_BREADTH_NOSIM" = some (Dispatch.fAlg ||| Dispatch.fOrder)) := by
  have hf := Dispatch.fa_consistent
  have hs := Dispatch.sim_consistent
  simp only [List.all_append, Bool.and_eq_true, List.all_eq_true] at hf hs
  have hn := Dispatch.named_words
  exact ⟨Dispatch.implemented_fa, Dispatch.no_duplicate_cases.2.2.2, Dispatch.default_throws.2.2.2, hf c hc, hs.2 c hc,
    hn.2.2.2.2.2.2.2.2.1, hn.2.2.2.2.2.2.2.2.2.1, hn.2.2.2.2.2.2.2.2.2.2⟩

example : (⟨"CONGR_BREADTH_NOSIM", 33, "faCongr", "ExplicitFACongrFunctorCacheOpt", "breadth", "true", "identity"⟩ : Gen.Case) ∈
    Gen.faDispatch := by decide +kernel
-- not trivially true: the breadth word with the depth-first product set would be refused
example : Dispatch.faConsistent ⟨"X", 33, "faCongr", "-", "depth", "true", "identity"⟩ = false := by decide +kernel

/-! ### ONE theorem for "the antichain algorithm and the congruence algorithm in depth-first and breadth-first order" -/

/-- the three algorithms of the statement -/
inductive C09Alg where
  | antichain | congrDepth | congrBreadth
  deriving DecidableEq, Repr

/-- the option word of an algorithm (`ANTICHAINS_NOSIM`, `CONGR_DEPTH_NOSIM`, `CONGR_BREADTH_NOSIM`) -/
def C09Alg.word : C09Alg → Nat
  | .antichain => 0 | .congrDepth => 1 | .congrBreadth => 33

/-- the model of `CheckInclusion` with that option word (arbitrary operands; the dispatcher sanitises them first) -/
def C09Alg.model (a : C09Alg) (A B : NFA) (fuel : Nat) : Option (Bool × NfaIncl.Cert) :=
  match a with
  | .antichain => checkNfaInclAC A B fuel
  | .congrDepth => checkNfaInclCongr A B false fuel
  | .congrBreadth => checkNfaInclCongr A B true fuel

/-- the explicit fuel bound (one unit per picked pair) of the sanitised operands -/
def C09Alg.bound (a : C09Alg) (A B : NFA) : Nat :=
  match a with
  | .antichain => NfaIncl.fuelBoundAC (nfaSanitize A B).1 (nfaSanitize A B).2
  | _ => NfaIncl.fuelBoundCongr (nfaSanitize A B).1 (nfaSanitize A B).2

/-- **every algorithm has a model that is exact and total, and all of them agree** – the property as one theorem: for
each of the three algorithms every verdict of its model is the truth of `L(A) ⊆ L(B)`, the model returns that verdict for
every fuel above the explicit bound, and any two verdicts (of any two algorithms, and of the reference `inclW`) on the same
pair are equal.  No hypothesis on `A`, `B` -/
theorem C09_every_algorithm_exact_total (a : C09Alg) (A B : NFA) :
    (∀ fuel b c, a.model A B fuel = some (b, c) → (b = true ↔ InclW A B)) ∧
    (∀ fuel, a.bound A B < fuel →
      (InclW A B → ∃ c, a.model A B fuel = some (true, c)) ∧ (¬ InclW A B → ∃ c, a.model A B fuel = some (false, c))) ∧
    (∀ (a' : C09Alg) f f' b b' c c', a.model A B f = some (b, c) → a'.model A B f' = some (b', c') → b = b') ∧
    (∀ f f₀ b b₀ c, a.model A B f = some (b, c) → inclW A B f₀ = some b₀ → b = b₀) := by
  have ex : ∀ (a : C09Alg) fuel b c, a.model A B fuel = some (b, c) → (b = true ↔ InclW A B) := by
    intro a fuel b c h
    cases a with
    | antichain => exact checkNfaInclAC_iff h
    | congrDepth => exact checkNfaInclCongr_iff h
    | congrBreadth => exact checkNfaInclCongr_iff h
  refine ⟨ex a, ?_, fun a' f f' b b' c c' h h' => ?_, fun f f₀ b b₀ c h h₀ => ?_⟩
  · cases a with
    | antichain => exact fun _ hf => checkNfaInclAC_complete A B hf
    | congrDepth => exact fun _ hf => checkNfaInclCongr_complete A B hf
    | congrBreadth => exact fun _ hf => checkNfaInclCongr_complete A B hf
  · exact Verdict.eq_of_iff (ex a f b c h) (ex a' f' b' c' h')
  · exact Verdict.eq_of_iff (ex a f b c h) (inclW_iff A B f₀ b₀ h₀)

-- all three answer on the regression pair of the repaired subset memo – `true` one way, `false` the other
example : ∀ a : C09Alg, (a.model NfaInclEx.exMemoA NfaInclEx.exMemoB 20).map (·.1) = some true ∧
    (a.model NfaInclEx.exMemoB NfaInclEx.exMemoA 20).map (·.1) = some false
  | .antichain => ⟨exMemo_antichain, exMemo_antichain_rev⟩
  | .congrDepth => ⟨exMemo_congr false, exMemo_congr_rev false⟩
  | .congrBreadth => ⟨exMemo_congr true, exMemo_congr_rev true⟩

/-- the three algorithms are cases of the regenerated dispatcher, under the words their names say: algorithm bit for the
congruence algorithm, search-order bit for breadth-first -/
theorem C09_algorithms_are_dispatch_cases (a : C09Alg) :
    (Dispatch.words Gen.faDispatch).contains a.word = true ∧
    Dispatch.has a.word Dispatch.fAlg = decide (a ≠ .antichain) ∧
    Dispatch.has a.word Dispatch.fOrder = decide (a = .congrBreadth) ∧
    Dispatch.has a.word Dispatch.fSim = false ∧ Dispatch.has a.word Dispatch.fEquiv = false := by
  have hb := Dispatch.flags_are_bits
  simp only [List.cons.injEq, and_true] at hb
  obtain ⟨hAlg, _, _, _, hSim, hOrder, hEquiv⟩ := hb
  rw [hAlg, hSim, hOrder, hEquiv]
  cases a <;> decide

/-!
## closed since the last refresh of this file

* "No totality theorem for the references `inclW` / `W.inclRef`": `C09_reference_total`, `C09_reference_bound`
  (`Vata/Properties/RefTotal.lean`; bound `fuelBoundW [A, B] = 2^(|start ∪ targets of A| + |… of B|)`).
* The property as ONE statement over the three algorithms: `C09_every_algorithm_exact_total`,
  `C09_algorithms_are_dispatch_cases`.
* **"Transparent caches are assumed transparent"** – partly closed, class by class (each class is modelled as coded and
  compared with the real class by histories):
  - macro-states are `OrdVector<StateType>`: `==` is equality and `IsSubsetOf` inclusion of the denoted sets, `<` is a strict
    total order, whatever history built the objects (`Util_OrdVector_eq`, `Util_OrdVector_isSubsetOf`,
    `Util_OrdVector_lt_strict_total_order`, `Util_OrdVector_history`) – "sorted duplicate-free lists compared by value" is what
    the real class is;
  - the work-list `next_` of the antichain functor is an `OrderedAntichain2C`: with the `Less` of
    `explicit_finite_incl_fctor_cache.hh` and the subset comparator, work-list and antichain always hold the same nodes, every
    `get` returns a least stored pair, the antichain invariant holds, in any interleaving of `AddToNext` and `get`
    (`Util_Antichain_worklist_history`, `Util_Antichain_get_least`, `Util_Antichain_offer_step`);
  - a cache that never frees needs no invalidation: in a history in which no object dies every memo entry keyed by two
    addresses is the function value on the two objects at these addresses – the situation of `MacroStateCache` with
    `subsetMap_` / `subsetNotMap_` (`Util_Cache_memo_sound_noDeath`).
* Start symbols of the operands: the word automata WITH their start symbols are modelled in `Vata/NfaStart.lean`
  (`Vata/Properties/C10_StartSymbols.lean`); the inclusion functors never mention `startStateToSymbols_` (read off
  `explicit_finite_incl*.hh`), so the models of this file are models on `NFAS.toNFA`.
* From `argv` to the option word: `Util_CliArgs_incl_word_spec`, `Util_CliArgs_every_selection_reachable_partial`; the two
  `EQUIV` words are the only implemented ones that no command line produces, and `equiv` always throws
  (`Util_CliArgs_equiv_selections_unreachable`).

## not yet proved

* The selections **with a simulation relation** (`ANTICHAINS_SIM`, `CONGR_DEPTH_SIM`) and the **equivalence** functor
  (`CONGR_DEPTH_EQUIV_NOSIM`, `CONGR_BREADTH_EQUIV_NOSIM`: `ExplicitFACongrEquivFunctor`) are implemented according to
  `C09_dispatch` but have no model; nothing is proved about pruning modulo a simulation on word automata.  (From the
  command line none of the four can be run to a verdict: `ComputeSimulation` throws `NotImplementedException` for
  `expl_fa`, and `equiv` throws "Equivalence not implemented" – the first read off `explicit_finite_sim.cc`, the second
  `Util_CliArgs_equiv_selections_unreachable`.)
* **Between the algorithm models and the container models there is no theorem.**  `NfaIncl.runAC` keeps `antichain_` and
  `next_` in its own lists; "these lists are the content of an `OrderedAntichain2C` history" is not stated.  Still assumed
  for the real functors: (a) the third criterion of the real `Less` is an ADDRESS (`StateSet*`), total on stored pairs only
  if the macro-state cache interns equal sets – it does, except that `MacroStateCache::insert` never shares the EMPTY
  macro-state (`areEqual` answers false for two empty sets; read off the source, not modelled; see the end of
  `Vata/Properties/Util_Cache.lean`), and the instantiation proved total in `Util_Antichain_worklist_history` compares the
  sets themselves; (b) `MacroStateCache` / `MapToList`
  themselves are not run by the cache harness (they are private to the functors); (c) `usedRules_` of the congruence
  functor and the subset memo of the antichain functor (repaired: only established facts are recorded) are covered by (the
  no-death case of) the memo theorem only as far as they are memo tables of a pure function; the argument why they do
  not change a verdict is in the header of `Vata/NfaIncl.lean` (the regression pair `exMemoA` / `exMemoB` of the memo defect
  is among the examples).  Iteration orders of hash containers are replaced by list order.
  Items (b)/(c) are now CLOSED for inclusion by `Vata/Properties/C09_Caches.lean`: `C09_antichain_caches_transparent`
  (unconditional) and `C09_congruence_caches_transparent` (exact equality for sanitised operands; with the library's
  macro-state cache never sharing the empty set the exploration order can differ on negative instances:
  `C09_empty_set_quirk`, verdicts do not), with the regressions `C09_regression_D8`, `C09_regression_usedRules_swapped`.
* **Numbering of `nfaSanitize`.**  The model numbers the states in order of first occurrence, the C++ in the order of its
  hash containers; all theorems are independent of the numbering (they use injectivity and the disjoint ranges only), but
  "the model hands out the same numbers as the code" is not claimed.
* **Link between the dispatch table and the models.**  `C09_dispatch` is about the table regenerated from the sources;
  which Lean model stands for which callee (`faAntichain` ↦ `checkNfaInclAC`, `faCongr` with `depth` / `breadth` ↦
  `checkNfaInclCongr · · false / true`, i.e. `C09Alg.model`) is the reading of the table, not a theorem.
* The models and the references are total with explicit fuel bounds; all bounds are exponential worst-case bounds, not
  tight.
-/
end Vata.Props
