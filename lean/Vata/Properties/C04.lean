import Vata.Spec
import Vata.Proofs.SimExampleRuns
import Vata.Proofs.TaLts
import Vata.Proofs.Equivariance
/-!
# C04 – Tree-automata simulations returned are the greatest downward/upward simulations

> For an explicit tree automaton whose states are numbered 0..n-1 and n is passed as the number of states, the downward
> simulation returned relates q to r exactly when every rule a(q1..qk)->q can be answered by a rule a(r1..rk)->r whose
> children pairwise simulate q1..qk, taken as the greatest such relation.  For an automaton without useless states the
> upward simulation returned is the greatest relation in which q related to r implies that r is final whenever q is and
> that every rule using q at some child position is answered by a rule using r at the same position with identical
> siblings and a related parent.  Both results are therefore reflexive and transitive and do not depend on how the
> states happen to be numbered.

## How the statement is read into the model

* **Specification (L0).**  `DownSim A S` (`Vata/Reduce.lean`; alias `IsDownSim` in `Vata/Spec.lean`): `S q r` implies
  that every rule `a(q₁..qₖ) → q` is answered by a rule `a(r₁..rₖ) → r` with `S qᵢ rᵢ` for all `i`.
  `IsUpSim A S` (`Vata/Spec.lean`): `S q r` implies `q ∈ F → r ∈ F` and every rule with `q` at child position `i` is
  answered by a rule with the same symbol, `r` at position `i`, *identical* siblings (`setAt ρ.kids i r`) and `S`-related
  parents.  "The greatest such relation" is the union of all relations with the property; the theorems characterise
  membership by `∃ S, … ∧ S q r`.
* **Model of the code.**  `downSimRef A`, `upSimRef A` (`Vata/Ref.lean`): start from all pairs of states of `A` and
  delete pairs that violate the condition until nothing changes (`refineIter`, `|Q|²+1` rounds).  They are the relations
  the output of `ComputeSimulation` is compared with pair by pair (`relEq`).  `RelOf R q r` is `(q, r) ∈ R`.
  The relations are on `A.states` (the states occurring in `A`); the preconditions of the C++ interface ("numbered
  `0..n-1`", "`n` passed as the number of states", "no useless states" for the upward direction) are preconditions of
  the *call*, the model needs none of them, so the theorems hold for every `A`.
* **Checkers.**  `isDownSimB`, `isUpSimB`: the Boolean tests "is a downward / upward simulation" applied to the
  relation the real code returns.
* **The route of the C++.**  Second half of this file: the translation to an LTS as coded, with the engine represented by
  its specification.  `Vata/Properties/C04_Pipeline.lean` (which imports this file) closes the route: the fresh translator,
  the translations as coded, the MODEL of the engine (`Vata/LtsEngine.lean`, C16), the matrix `buildResult` fills and the
  `StateDiscontBinaryRelation` read through `get` (class model `Vata/BinRel.lean`, `Vata/Properties/Util_BinRel.lean`) –
  `C04_pipeline_statement` there is the property in its own words for that composition.
-/
namespace Vata.Props

/-- the downward simulation of the model relates `q` to `r` exactly when `q`, `r` are states of `A` and *some* downward
simulation relates them – it is the greatest downward simulation (on the states of `A`), and it is one itself -/
theorem C04_downward_greatest (A : TA) :
    DownSim A (RelOf (downSimRef A)) ∧
    ∀ q r, (q, r) ∈ downSimRef A ↔ q ∈ A.states ∧ r ∈ A.states ∧ ∃ S, DownSim A S ∧ S q r :=
  ⟨downSimRef_sim A, fun q r =>
    ⟨fun h => ⟨(downSimRef_sub A h).1, (downSimRef_sub A h).2, RelOf (downSimRef A), downSimRef_sim A, h⟩,
     fun ⟨hq, hr, S, hS, hqr⟩ => downSimRef_contains A S hS q r hq hr hqr⟩⟩

example : DownSim SimModel.exA (RelOf [(0, 1), (1, 0), (2, 3)]) ∧ 2 ∈ SimModel.exA.states ∧ 3 ∈ SimModel.exA.states :=
  ⟨(isDownSimB_iff _ _).mp (by decide +kernel), by decide +kernel, by decide +kernel⟩
example : (2, 3) ∈ downSimRef SimModel.exA ∧ (0, 1) ∈ downSimRef SimModel.exA ∧ (4, 2) ∉ downSimRef SimModel.exA := by
  rw [SimModel.exA_downSimRef]
  decide

/-- the same for the upward simulation (identity on siblings, finality respected) -/
theorem C04_upward_greatest (A : TA) :
    IsUpSim A (RelOf (upSimRef A)) ∧
    ∀ q r, (q, r) ∈ upSimRef A ↔ q ∈ A.states ∧ r ∈ A.states ∧ ∃ S, IsUpSim A S ∧ S q r :=
  ⟨upSimRef_sim A, fun q r =>
    ⟨fun h => ⟨(upSimRef_sub A h).1, (upSimRef_sub A h).2, RelOf (upSimRef A), upSimRef_sim A, h⟩,
     fun ⟨hq, hr, S, hS, hqr⟩ => upSimRef_contains A S hS q r hq hr hqr⟩⟩

example : IsUpSim SimModel.exA (RelOf [(3, 2), (4, 0)]) ∧ 3 ∈ SimModel.exA.states ∧ 2 ∈ SimModel.exA.states :=
  ⟨(isUpSimB_iff _ _).mp (by decide +kernel), by decide +kernel, by decide +kernel⟩
example : (3, 2) ∈ upSimRef SimModel.exA ∧ (4, 0) ∈ upSimRef SimModel.exA ∧ (0, 1) ∉ upSimRef SimModel.exA := by
  rw [SimModel.exA_upSimRef]
  decide

/-- both results are reflexive (on the states of `A`) and transitive -/
theorem C04_preorder (A : TA) :
    ((∀ q, q ∈ A.states → (q, q) ∈ downSimRef A) ∧
      ∀ a b c, (a, b) ∈ downSimRef A → (b, c) ∈ downSimRef A → (a, c) ∈ downSimRef A) ∧
    ((∀ q, q ∈ A.states → (q, q) ∈ upSimRef A) ∧
      ∀ a b c, (a, b) ∈ upSimRef A → (b, c) ∈ upSimRef A → (a, c) ∈ upSimRef A) :=
  ⟨greatest_downSim_preorder A, greatest_upSim_preorder A⟩

example : SimModel.exA.states = [0, 1, 2, 3, 4] ∧ (0, 1) ∈ downSimRef SimModel.exA ∧ (1, 0) ∈ downSimRef SimModel.exA := by
  rw [SimModel.exA_downSimRef]
  decide

/-- the Boolean checkers applied to a returned relation decide exactly the two specifications -/
theorem C04_checkers_exact (A : TA) (R : Rel) :
    (isDownSimB A R = true ↔ DownSim A (RelOf R)) ∧ (isUpSimB A R = true ↔ IsUpSim A (RelOf R)) :=
  ⟨isDownSimB_iff A R, isUpSimB_iff A R⟩

example : isDownSimB SimModel.exA [(0, 1), (1, 0), (2, 3)] = true ∧ isDownSimB SimModel.exA [(2, 4)] = false ∧
    isUpSimB SimModel.exA [(3, 2), (4, 0)] = true ∧ isUpSimB SimModel.exA [(0, 1)] = false := by decide +kernel

/-- what a downward simulation is for: a related state accepts (reaches the root of) every tree the smaller one does -/
theorem C04_downward_simulation_language (A : TA) (S : Nat → Nat → Prop) (hS : DownSim A S) (t : Tree) (q r : Nat)
    (hqr : S q r) (hq : q ∈ reach A t) : r ∈ reach A t := downSim_lang A S hS t q r hqr hq

example : (2, 3) ∈ downSimRef SimModel.exA ∧ 2 ∈ reach SimModel.exA (.node 1 [.node 0 [], .node 0 []]) := by
  rw [SimModel.exA_downSimRef]
  decide

/-! ## the route of the C++: translation to an LTS, LTS engine, reading the result back

`TaLts.translateDownward A size idx` / `TaLts.translateUpward A idx` (`Vata/TaLts.lean`) mirror `TranslateDownward` /
`TranslateUpward` of `src/explicit_tree_transl.hh` (nodes for the states through the translation map `idx`, one node per
child tuple of length `≠ 1` resp. one node per environment plus the leaf node, symbol and position labels, the initial
partition and the relation on its blocks); `TaLts.downSimViaLts` / `TaLts.upSimViaLts` add the LTS engine – represented
by its specification `ltsSimRef` (C16), output restricted to the indices `< size` – and the reading back through the
translation map (`StateDiscontBinaryRelation(ltsSim, translMap)`).  `TaLts.IdxOk A b idx`: `idx` is injective on
`A.states` with values `< b`. -/

/-- downward route: for a ranked automaton (each symbol has one arity – always the case for the explicit encoding, whose
symbols are (name, rank) pairs) and EVERY numbering of the states that is injective with values below the `size` passed,
the relation obtained through the LTS is `downSimRef A`, the greatest downward simulation -/
theorem C04_downward_via_lts (A : TA) (size : Nat) (idx : Nat → Nat) (hidx : TaLts.IdxOk A size idx)
    (hrk : TaLts.Ranked A) :
    (∀ q r, q ∈ A.states → r ∈ A.states →
      ((idx q, idx r) ∈ L.ltsSimOut (TaLts.translateDownward A size idx)
        (L.fullRel (TaLts.translateDownward A size idx).n) size ↔ (q, r) ∈ downSimRef A)) ∧
    ∀ q r, (q, r) ∈ TaLts.downSimViaLts A size idx ↔ (q, r) ∈ downSimRef A :=
  ⟨fun q r hq hr => TaLts.translateDownward_correct A size idx hidx hrk q r hq hr,
   fun q r => TaLts.downSimViaLts_iff A size idx hidx hrk q r⟩

example : TaLts.IdxOk TaLtsEx.exA 5 (TaLtsEx.perm [3, 0, 4, 1, 2]) ∧ TaLts.Ranked TaLtsEx.exA ∧
    (2, 3) ∈ TaLts.downSimViaLts TaLtsEx.exA 5 (TaLtsEx.perm [3, 0, 4, 1, 2]) :=
  ⟨TaLts.idxOkB_iff.mp (by decide +kernel), TaLts.rankedB_iff.mp (by decide +kernel), by decide +kernel⟩

/-- the hypothesis "ranked" cannot be dropped: with one symbol used with two arities the downward encoding relates
states that no downward simulation relates -/
theorem C04_downward_via_lts_needs_ranked :
    TaLts.IdxOk TaLtsEx.exU 3 id ∧ ¬ TaLts.Ranked TaLtsEx.exU ∧
    (1, 2) ∈ TaLts.downSimViaLts TaLtsEx.exU 3 id ∧ (1, 2) ∉ downSimRef TaLtsEx.exU :=
  TaLts.translateDownward_unranked_counterexample

/-- upward route (the repaired code): for an automaton in which every state owns a rule (true without useless states) and
EVERY numbering of the states that is injective with values `< N`, `N` = the number of states owning a rule
(`transitions_->size()`), `N ≤ size`: the relation obtained through the LTS is `upSimRef A`, the greatest upward
simulation -/
theorem C04_upward_via_lts (A : TA) (size : Nat) (idx : Nat → Nat)
    (hidx : TaLts.IdxOk A (TaLts.parents A).length idx) (hsize : (TaLts.parents A).length ≤ size)
    (hown : TaLts.AllOwnRule A) :
    (∀ q r, q ∈ A.states → r ∈ A.states →
      ((idx q, idx r) ∈ L.ltsSimOut (TaLts.translateUpward A idx).1
        (TaLts.blockRel (TaLts.translateUpward A idx).2.1 (TaLts.translateUpward A idx).2.2) size ↔
       (q, r) ∈ upSimRef A)) ∧
    ∀ q r, (q, r) ∈ TaLts.upSimViaLts A size idx ↔ (q, r) ∈ upSimRef A :=
  ⟨fun q r hq hr => TaLts.translateUpward_correct A size idx hidx hsize hown q r hq hr,
   fun q r => TaLts.upSimViaLts_iff A size idx hidx hsize hown q r⟩

example : TaLts.IdxOk TaLtsEx.exB (TaLts.parents TaLtsEx.exB).length (TaLtsEx.perm [2, 9, 3, 1, 0]) ∧
    (TaLts.parents TaLtsEx.exB).length ≤ 4 ∧ TaLts.AllOwnRule TaLtsEx.exB ∧
    (3, 4) ∈ TaLts.upSimViaLts TaLtsEx.exB 4 (TaLtsEx.perm [2, 9, 3, 1, 0]) :=
  ⟨TaLtsEx.exB_perm_hyps.1, Nat.le_of_eq TaLtsEx.exB_perm_hyps.2.1, TaLtsEx.exB_perm_hyps.2.2, TaLtsEx.exB_upSimViaLts.1⟩

/-- consequently the relations do not depend on the numbering chosen by the translation map -/
theorem C04_via_lts_numbering_independent (A : TA) (size : Nat) (idx idx' : Nat → Nat) :
    (TaLts.IdxOk A size idx → TaLts.IdxOk A size idx' → TaLts.Ranked A →
      ∀ q r, (q, r) ∈ TaLts.downSimViaLts A size idx ↔ (q, r) ∈ TaLts.downSimViaLts A size idx') ∧
    (TaLts.IdxOk A (TaLts.parents A).length idx → TaLts.IdxOk A (TaLts.parents A).length idx' →
      (TaLts.parents A).length ≤ size → TaLts.AllOwnRule A →
      ∀ q r, (q, r) ∈ TaLts.upSimViaLts A size idx ↔ (q, r) ∈ TaLts.upSimViaLts A size idx') :=
  ⟨fun h h' hrk q r => (TaLts.downSimViaLts_iff A size idx h hrk q r).trans
      (TaLts.downSimViaLts_iff A size idx' h' hrk q r).symm,
   fun h h' hs ho q r => (TaLts.upSimViaLts_iff A size idx h hs ho q r).trans
      (TaLts.upSimViaLts_iff A size idx' h' hs ho q r).symm⟩

example : TaLts.IdxOk TaLtsEx.exB 4 (TaLtsEx.perm [2, 9, 3, 1, 0]) ∧ TaLts.IdxOk TaLtsEx.exB 4 (TaLtsEx.perm [0, 9, 1, 2, 3]) ∧
    TaLts.Ranked TaLtsEx.exB ∧ TaLts.AllOwnRule TaLtsEx.exB ∧ (TaLts.parents TaLtsEx.exB).length = 4 :=
  ⟨TaLts.idxOkB_iff.mp (by decide +kernel), TaLts.idxOkB_iff.mp (by decide +kernel), TaLts.rankedB_iff.mp (by decide +kernel),
    TaLts.allOwnRuleB_iff.mp (by decide +kernel), by decide +kernel⟩

/-- the code BEFORE the repair of `TranslateUpward` (finding D3: `stateIndex[envIndexPair.first.state_]` translates the
parent of an environment a second time) returns a wrong relation for a non-identity numbering, and the right one for the
identity numbering – which is why the defect is invisible when the states are met in the order `0, 1, 2, …` -/
theorem C04_upward_via_lts_old_code_wrong :
    TaLts.IdxOk TaLtsEx.exB (TaLts.parents TaLtsEx.exB).length (TaLtsEx.perm [2, 9, 3, 1, 0]) ∧
    (TaLts.parents TaLtsEx.exB).length = 4 ∧ TaLts.AllOwnRule TaLtsEx.exB ∧
    (∀ e, e ∈ TaLts.envList TaLtsEx.exB (TaLtsEx.perm [2, 9, 3, 1, 0]) → e.state ∈ TaLtsEx.exB.states) ∧
    (2, 4) ∈ TaLts.upSimViaLtsOld TaLtsEx.exB 4 (TaLtsEx.perm [2, 9, 3, 1, 0]) ∧
    (2, 4) ∉ upSimRef TaLtsEx.exB ∧
    (2, 4) ∉ TaLts.upSimViaLts TaLtsEx.exB 4 (TaLtsEx.perm [2, 9, 3, 1, 0]) ∧
    TaLts.upSimViaLtsOld TaLtsEx.exB 4 id = TaLts.upSimViaLts TaLtsEx.exB 4 id :=
  TaLts.translateUpward_old_counterexample

/-! ## "do not depend on how the states happen to be numbered" -/

/-- renaming the automaton itself: for every map `f` that is injective on the states of `A`, the greatest downward /
upward simulation of the renamed automaton relates `f q` to `f r` exactly when the one of `A` relates `q` to `r`, and it
consists of nothing but such pairs – the relation is determined by the automaton up to the names of its states.
(`C04_via_lts_numbering_independent` above is the other reading: the numbering chosen INSIDE `ComputeSimulation`.) -/
theorem C04_numbering_independent (f : Nat → Nat) (A : TA) (hf : InjOnStates f A) :
    (∀ q r, q ∈ A.states → r ∈ A.states →
      (((f q, f r) ∈ downSimRef (reindex f A) ↔ (q, r) ∈ downSimRef A) ∧
       ((f q, f r) ∈ upSimRef (reindex f A) ↔ (q, r) ∈ upSimRef A))) ∧
    (∀ x y, (x, y) ∈ downSimRef (reindex f A) ↔ ∃ q r, (q, r) ∈ downSimRef A ∧ x = f q ∧ y = f r) ∧
    (∀ x y, (x, y) ∈ upSimRef (reindex f A) ↔ ∃ q r, (q, r) ∈ upSimRef A ∧ x = f q ∧ y = f r) :=
  ⟨fun _ _ hq hr => ⟨downSim_equivariant f A hf hq hr, upSim_equivariant f A hf hq hr⟩,
   downSimRef_reindex_image f A hf, upSimRef_reindex_image f A hf⟩

example : InjOnStates EqvEx.exF SimModel.exA := EqvEx.exF_inj_simA
example : (reindex EqvEx.exF SimModel.exA).states = [40, 33, 26, 19, 12] ∧
    (26, 19) ∈ downSimRef (reindex EqvEx.exF SimModel.exA) ∧ (2, 3) ∈ downSimRef SimModel.exA := by
  rw [SimModel.exA_downSimRef]
  decide +kernel

/-!
## closed since the last refresh of this file

* **"The LTS engine inside the route is represented by its specification `ltsSimRef` …, not by a model of the
  partition-refinement code"** – closed in `Vata/Properties/C04_Pipeline.lean`: `SimPipe.computeSimDown` /
  `SimPipe.computeSimUp` run the MODEL of the engine (`LE.computeSimulation1` / `LE.computeSimulation`, C16) between the
  translations as coded and the result classes; `C04_pipeline_downward`, `C04_pipeline_upward` (the composition returns a
  relation and it is the greatest simulation), `C04_pipeline_downward_total`.
* **"that the partition is a partition of ALL nodes … and that the relation on the block numbers is itself reflexive and
  transitive … is only tested, not proved"** – closed: `C04_pipeline_engine_preconditions` (`LtsOK`, `isPartition`,
  `isConsistent`, `RelTrans`, and `LE.initRel` = `TaLts.blockRel`); the hypotheses on the numbering are discharged for the
  fresh translators by `C04_pipeline_numbering`.
* The property in its own words for the composition ("states numbered `0..n-1` and `n` passed"; "an automaton without
  useless states"; "reflexive and transitive"): `C04_pipeline_statement`; independence of the names of the states and of
  `n` for the composition: `C04_pipeline_numbering_independent`, `C04_pipeline_preorder_and_independence`.
* `C04_numbering_independent`, which this block used to cite, was missing from the file; it is stated above.
* The containers the relation travels in are modelled as coded (`Vata/Properties/Util_BinRel.lean`: `Util_BinRel_buildResult`,
  `Util_BinRel_discont`, `Util_BinRel_index`), and so are the helper classes inside the engine
  (`Vata/Properties/Util_LtsUtil.lean`).
* The same relation for the BDD bottom-up encoding: the model of `BDDBUTreeAutCore::ComputeDownwardSimulation` returns
  `downSimRef` restricted to the states that own a top-down entry (`C07_bddsim_greatest_on_entry_states` in
  `Vata/Properties/C07_BddSim.lean`).

## not yet proved

* The numberings "in order of first encounter" of the C++ hash tables are modelled by the order of `A.rules`
  (`SimPipe.downOrder`, `SimPipe.upOrder`); the theorems hold for every `A`, hence for every order of the rules, but "the
  rule list of the model is the iteration order of the hash tables" is not an object of the model.  The environment table
  of `TranslateUpward` is modelled with all four fields of `Env` as the key (the C++ hashes all four but its `operator==`
  omits `state_`; with cached hash codes this is the same unless two 64-bit hashes collide).
* Outside `A.states` (e.g. numbers below `n` that occur nowhere in the automaton; for the upward route also final states
  that occur in no rule) the model relation is empty and the dictionary of the result has no entry: `SimPipe.discRel` lists
  pairs of translated states only and `Disc.get` throws (`BinRel.Disc.get_unknown`), as the C++ does.
* **Preconditions that cannot be dropped.**  `Ranked A` for the downward route (`C04_downward_via_lts_needs_ranked`; it
  always holds for the explicit encoding).  For the upward route every state must own a rule and – unless `n = 0` – there
  must be a leaf rule (`SimPipe.LeafOk`, `C04_pipeline_upward_needs_leaf`): both hold for an automaton without useless
  states with `n` = its number of states (`C04_pipeline_upward_trimmed`); on `a(0) → 0` with `n = 1`, or on the automaton
  without rules with `n > 0`, the C++ violates the engine's preconditions (observed: out-of-bounds write in
  `SimulationEngine::makeBlock` resp. an empty block).  Both inputs have useless states and are outside the property.
* The engine model inside the pipeline treats the helper classes (`SmartSet`, `SharedCounter`, `SharedList`,
  `SplittingRelation`) as values; that the classes as coded implement these values is `Util_LtsUtil_*`, that every call the
  engine makes is inside the discipline those theorems assume is read off the sources (see C16).
-/
end Vata.Props
