import Vata.Proofs.InclDownTablesDump
import Vata.Proofs.InclDownTotal
/-!
# `expandT` on tables whose left side is NOT symbol-deterministic: the specification of the exploration

Without `SymDet` the traversal as coded makes one call per pair of LEAVES (a class of ranked symbols, or several classes merged by the
cache of `VoidApply2Functor`), the abstract model `InclDown.expand` on the dump one call per ranked symbol.  The two runs are no
longer equal call for call.  What remains true, and is all the analysis of the exploration (`Vata/Proofs/InclDownInv.lean`) needs:

* `CallsCover TA TB A B` – every call of the traversal with a non-empty left leaf IS a group of `p` in `A` (its ghost symbol
  `reprSym`, its `lhsTuples`, its `rhsTuples` against `B`), and every group of `p` is DELIVERED by some call with the same two tuple
  sets (`callsCover_pathOrder`: it holds for the dumps in path order of any `TabOK` tables – no `SymDet`);
* the closure condition of a group depends on the two tuple SETS only (`groupOK_transfer`), hence the traversal as coded satisfies the
  specification of `InclDown.body` (`bodyT_spec`), `expandT` that of `InclDown.expand` (`expandT_spec`: the invariant `Inv` – every
  pair of `trues` closed, every entry of `nonincluded` refuted by its tree, everything the `childrenCache` covers subsumed), and the
  run on the tables returns a set that passes the certificate check of the dumps or a separating tree (`runTD_spec`);
* the run on the tables ends within the same bound on the fuel (`runTD_terminates`).
-/
namespace Vata
namespace InclDownTables
open BddAbsTD BddTraverse InclDown
open InclUp (normS prodWit Wit)

variable {o : Ord} {TA TB : TableTD} {A B : Vata.TA}

/-- every call with a non-empty left leaf is a group of `p` (symbol = the ghost symbol of the call), every group of `p` is
delivered by a call with the same tuple sets – weaker than `GroupsAgree` (no order, multiplicities free) -/
def CallsCover (TA TB : TableTD) (A B : Vata.TA) : Prop :=
  ∀ p P,
    (∀ c, c ∈ travDown TA TB p P → c.2.1 ≠ [] →
      ∃ g, g ∈ lhsGroups A p ∧ g.1 = reprSym c.1 ∧ c.2.1 = lhsTuples A p g.1 g.2 ∧ c.2.2 = rhsTuples B P g.1 g.2) ∧
    (∀ g, g ∈ lhsGroups A p →
      ∃ c, c ∈ travDown TA TB p P ∧ c.2.1 = lhsTuples A p g.1 g.2 ∧ c.2.2 = rhsTuples B P g.1 g.2)

theorem groupsAgree_callsCover {TA TB : TableTD} {A B : Vata.TA} (h : GroupsAgree TA TB A B) : CallsCover TA TB A B := by
  intro p P
  have hp := h p P
  unfold groupItems at hp
  constructor
  · intro c hc hne
    have hm : callItem c ∈ (neCalls (travDown TA TB p P)).map callItem :=
      List.mem_map_of_mem (List.mem_filter.mpr ⟨hc, by simpa using hne⟩)
    rw [hp] at hm
    obtain ⟨g, hg, he⟩ := List.mem_map.mp hm
    simp only [callItem, Prod.mk.injEq] at he
    exact ⟨g, hg, he.1, he.2.1.symm, he.2.2.symm⟩
  · intro g hg
    have hm : (g.1, lhsTuples A p g.1 g.2, rhsTuples B P g.1 g.2) ∈
        (lhsGroups A p).map (fun g => (g.1, lhsTuples A p g.1 g.2, rhsTuples B P g.1 g.2)) :=
      List.mem_map.mpr ⟨g, hg, rfl⟩
    rw [← hp] at hm
    obtain ⟨c, hc, he⟩ := List.mem_map.mp hm
    simp only [callItem, Prod.mk.injEq] at he
    exact ⟨c, (List.mem_filter.mp hc).1, he.2.1, he.2.2⟩

theorem groupOK_transfer {o : Ord} {A B : Vata.TA} {ws : List Pair} {p : Nat} {P : List Nat} {f n f' n' : Nat}
    {T : List Pair} (hL : lhsTuples A p f' n' = lhsTuples A p f n) (hW : rhsTuples B P f' n' = rhsTuples B P f n)
    (h : GroupOK o A B ws p P f n T) : GroupOK o A B ws p P f' n' T := by
  intro ρ' g1 g2 g3 g4 c hc
  obtain ⟨ρ, k1, k2, k3, k4, k5⟩ := mem_lhsTuples.mp (hL ▸ mem_lhsTuples.mpr ⟨ρ', g1, g2, g3, g4, rfl⟩)
  obtain ⟨rep, hrep⟩ := rhsTuples_rep B P f' n'
  -- the rules of `(f, n)` choose through the rules of `(f', n')` with the same children
  have hin : ∀ σ, σ ∈ rulesOf B P ρ.sym ρ.kids.length → rep σ.kids ∈ rulesOf B P ρ'.sym ρ'.kids.length ∧
      (rep σ.kids).kids = σ.kids := by
    intro σ hσ
    rw [k3, k4] at hσ
    rw [g3, g4]
    exact hrep _ (hW ▸ mem_rhsTuples.mpr ⟨σ, hσ, rfl⟩)
  obtain ⟨i, k, hk, hs⟩ := h ρ k1 k2 k3 k4 (fun σ => c (rep σ.kids)) (fun σ hσ => k5 ▸ hc _ (hin σ hσ).1)
  refine ⟨i, k, k5 ▸ hk, subR_mono (fun x hx => hx) (fun s hs' => ?_) hs⟩
  obtain ⟨σ, hσ, hcσ, hget⟩ := mem_sset.mp hs'
  obtain ⟨r1, r2⟩ := hin σ hσ
  exact mem_sset.mpr ⟨rep σ.kids, r1, hcσ, by rw [r2]; exact hget⟩

theorem bodyT_spec (hcv : CallsCover TA TB A B) {ws : List Pair} {call1 call2 : Call} {wit : Wit}
    {post : List Nat → List Nat} (hF : FctorOK o A B ws call1 call2 wit post) (p : Nat) (P : List Nat) :
    Spec o A B ws (bodyT call1 call2 TA TB wit post p P) (fun T => ClosedAt o A B (T ++ ws) (p, P))
      (Refutes A B p P) := by
  unfold bodyT
  have key := forAllL_spec (o := o) (A := A) (B := B) (ws := ws)
    (f := actLeaf call1 call2 wit post)
    (Qh := fun (c : LeafCall) T => ∀ g, g ∈ lhsGroups A p → c.2.1 = lhsTuples A p g.1 g.2 →
      c.2.2 = rhsTuples B P g.1 g.2 → GroupOK o A B ws p P g.1 g.2 T) (Qf := Refutes A B p P)
    (fun c T T' hT h g hg e1 e2 => mono_groupOK o A B ws p P g.1 g.2 T T' hT (h g hg e1 e2))
    (travDown TA TB p P)
    (fun c hc => by
      by_cases hne : c.2.1 = []
      · -- `if (lhs.empty()) return;`
        intro cc st v cc' st' h hI
        unfold actLeaf at h
        rw [hne, procLeaf_nil] at h
        cases h
        refine ⟨hI, fun x hx => hx, ?_⟩
        intro g hg e1 _ ρ g1 g2 g3 g4
        have : ρ.kids ∈ lhsTuples A p g.1 g.2 := mem_lhsTuples.mpr ⟨ρ, g1, g2, g3, g4, rfl⟩
        rw [← e1, hne] at this
        cases this
      · obtain ⟨g0, hg0, e0, eL, eW⟩ := (hcv p P).1 c hc hne
        have hs := procGroup_spec hF p P g0.1 g0.2 hg0
        intro cc st v cc' st' h hI
        have h' : procGroup call1 call2 A B wit post p P g0.1 g0.2 cc st = some (v, cc', st') := by
          rw [procGroup_eq_procLeaf call1 call2 A B wit post p P hg0, ← eL, ← eW, e0]
          exact h
        obtain ⟨k1, k2, k3⟩ := hs cc st v cc' st' h' hI
        refine ⟨k1, k2, ?_⟩
        cases v with
        | fails w => exact k3
        | holds =>
          intro g _ e1 e2
          exact groupOK_transfer (by rw [← e1, eL]) (by rw [← e2, eW]) k3)
  refine spec_weaken ?_ (fun _ h => h) key
  intro T h ρ g1 g2 c hc
  have hg : (ρ.sym, ρ.kids.length) ∈ lhsGroups A p := mem_lhsGroups.mpr ⟨ρ, g1, g2, rfl, rfl⟩
  obtain ⟨cl, hcl, e1, e2⟩ := (hcv p P).2 _ hg
  exact h cl hcl _ hg e1 e2 ρ g1 g2 rfl rfl c hc

theorem expandT_spec {o : Ord} {TA TB : TableTD} {A B : Vata.TA} (hcv : CallsCover TA TB A B) {wit : Wit}
    (hO : LangOrd A B (leAP o) (leBP o) (leABP o)) (hr : OrdRefl o) (hW : WitOK A wit) :
    ∀ (fuel : Nat) (ws : List Pair), CallSpec o A B ws (expandT o TA TB wit fuel ws) := by
  intro fuel
  induction fuel with
  | zero => exact fun _ _ _ _ _ _ _ _ h => nomatch h
  | succ fuel ih =>
    intro ws p P
    simp only [expandT_succ]
    exact expandStep_spec hO hr (bodyT_spec hcv ⟨hO, ih _, ih _, postOK_normS hr, hW⟩ p P)

theorem runTD_spec {o : Ord} {TA TB : TableTD} {A B : Vata.TA} (hcv : CallsCover TA TB A B)
    (hO : LangOrd A B (leAP o) (leBP o) (leABP o)) (hr : OrdRefl o)
    (hA : ∀ r, r ∈ A.rules → ∀ k, k ∈ r.kids → Productive A k) {fuel : Nat} {res : Except Tree (List Pair)}
    (h : runTD o TA A.final TB B.final (prodWit A) fuel = some res) : RunPost (downCertRB o A B) A B res := by
  have hW := witOK_prodWit hA
  have hc := expandT_spec hcv hO hr hW fuel []
  rw [runTD_eq_runOf, rootLoopT_eq_with] at h
  exact runWith_spec hr (fun f => bodyT_spec hcv ⟨hO, hc, hc, postOK_normS hr, hW⟩ f _) h

theorem bodyT_total (hcv : CallsCover TA TB A B) {call1 call2 : Call} {wit : Wit}
    {post : List Nat → List Nat} (hc1 : TotalCall A B call1) (hc2 : TotalCall A B call2)
    (hps : ∀ l s, s ∈ post l → s ∈ l) (p : Nat) (P : List Nat) (cc : List Pair) (st : St) :
    bodyT call1 call2 TA TB wit post p P cc st ≠ none := by
  refine forAllL_total _ (fun c hc cc st => ?_) cc st
  unfold actLeaf
  by_cases hne : c.2.1 = []
  · rw [hne, procLeaf_nil]
    exact Option.some_ne_none _
  · obtain ⟨g0, hg0, e0, eL, eW⟩ := (hcv p P).1 c hc hne
    rw [eL, eW, ← e0, ← procGroup_eq_procLeaf call1 call2 A B wit post p P hg0]
    exact procGroup_total hc1 hc2 hps p P g0.1 g0.2 cc st

theorem expandT_total (hr : OrdRefl o) (hcv : CallsCover TA TB A B)
    {wit : Wit} (fuel : Nat) :
    ∀ (ws : List Pair), muD o A B ws < fuel → TotalCall A B (expandT o TA TB wit fuel ws) := by
  induction fuel with
  | zero => exact fun _ h => nomatch h
  | succ fuel ih =>
    intro ws h cc st p P hp hP
    rw [expandT_succ]
    refine expandStep_ne_none (fun hws => ?_)
    have hc := ih ((p, P) :: ws) (Nat.lt_of_lt_of_le (muD_push_lt hr hp hP hws) (Nat.le_of_lt_succ h))
    exact bodyT_total hcv hc hc (fun _ _ hs => InclUp.mem_normS.mp hs) p P [] st

theorem runTD_terminates (hr : OrdRefl o) (hcv : CallsCover TA TB A B)
    {fuel : Nat} (h : fuelBoundD A B < fuel) : ∃ r, runTD o TA A.final TB B.final (prodWit A) fuel = some r := by
  have hc : TotalCall A B (expandT o TA TB (prodWit A) fuel []) :=
    expandT_total hr hcv fuel [] (Nat.lt_of_le_of_lt (muD_le o A B []) h)
  rw [runTD_eq_runOf, rootLoopT_eq_with]
  exact runOf_some (rootLoopWith_ne_none
    (fun f cc st => bodyT_total hcv hc hc (fun _ _ hs => InclUp.mem_normS.mp hs) f _ cc st) _ _ _ _)

theorem inclDownTrav_iff {o : Ord} {TA TB : TableTD} {A B : Vata.TA} (hcv : CallsCover TA TB A B)
    (hO : LangOrd A B (leAP o) (leBP o) (leABP o)) (hr : OrdRefl o) (hA : KidsProductive A) {fuel : Nat} {b : Bool}
    (h : inclDownTrav o TA A.final TB B.final (prodWit A) fuel = some b) : b = true ↔ Incl A B := by
  unfold inclDownTrav at h
  rcases hrun : runTD o TA A.final TB B.final (prodWit A) fuel with _ | (w | X) <;> rw [hrun] at h
  · cases h
  · cases h
    have hw : accepts A w = true ∧ accepts B w = false := runTD_spec hcv hO hr hA hrun
    exact ⟨fun hb => (nomatch hb), fun hi => nomatch (hi w hw.1).symm.trans hw.2⟩
  · cases h
    exact ⟨fun _ => downCertRB_incl hO (runTD_spec hcv hO hr hA hrun), fun _ => rfl⟩

theorem inclDownTrav_total {o : Ord} (hr : OrdRefl o) {TA TB : TableTD} {A B : Vata.TA} (hcv : CallsCover TA TB A B)
    {fuel : Nat} (h : fuelBoundD A B < fuel) : ∃ b, inclDownTrav o TA A.final TB B.final (prodWit A) fuel = some b := by
  obtain ⟨r, hr'⟩ := runTD_terminates hr hcv h
  unfold inclDownTrav
  rw [hr']
  cases r with
  | ok X => exact ⟨true, rfl⟩
  | error w => exact ⟨false, rfl⟩

/-- the certified verdict (certify-then-trust against `A`, `B`) IS the plain one: the check never refuses -/
theorem finish_runTD_eq {TA TB : TableTD} {A B : Vata.TA} (hcv : CallsCover TA TB A B) (hA : KidsProductive A) (fuel : Nat) :
    finish (downCertB A B) A B (runTD idOrd TA A.final TB B.final (prodWit A) fuel) =
      verdictOf (runTD idOrd TA A.final TB B.final (prodWit A) fuel) := by
  exact finish_eq_verdictOf fun _ hres => runPost_id (runTD_spec hcv (idOrd_langOrd A B) ordRefl_id hA hres)

theorem callsCover_pathOrder {n : Nat} {ar : Nat → Nat} {syms : List Nat} {TA TB : TableTD} (FA FB : List Nat)
    (h : Tabs n ar syms TA TB) : CallsCover TA TB (pathOrder syms TA FA) (pathOrder syms TB FB) := by
  intro p P
  have hu := unionAllTD_wf h.okB.wf P
  have hcalls := voidApply2Calls_symItems (h.okA.wf p).1 hu.1 (h.okA.wf p).2 hu.2
  have hgr := groupItems_pathOrder FA FB h p P
  constructor
  · -- a call is a first occurrence among the symbol items; those with a non-empty left leaf are the groups
    intro c hc hne
    have hm : symItem c ∈ neIt (symItems (getTD TA p) (unionAllTD TB P) 0 (2 ^ n)) :=
      List.mem_filter.mpr ⟨(firsts_sublist _ _).subset (hcalls ▸ List.mem_map_of_mem hc), by simpa [symItem] using hne⟩
    rw [hgr] at hm
    obtain ⟨g, hg, e⟩ := List.mem_map.mp hm
    exact ⟨g, hg, congrArg Prod.fst e, (congrArg (·.2.1) e).symm, (congrArg (·.2.2) e).symm⟩
  · intro g hg
    have hm : (g.1, lhsTuples (pathOrder syms TA FA) p g.1 g.2, rhsTuples (pathOrder syms TB FB) P g.1 g.2) ∈
        neIt (symItems (getTD TA p) (unionAllTD TB P) 0 (2 ^ n)) := hgr ▸ List.mem_map.mpr ⟨g, hg, rfl⟩
    have hd := firsts_cover (seen := []) (List.mem_filter.mp hm).1
    rw [List.nil_append, ← hcalls, List.map_map] at hd
    obtain ⟨c, hc, e⟩ := List.mem_map.mp hd
    exact ⟨c, hc, congrArg Prod.fst e, congrArg Prod.snd e⟩

end InclDownTables
end Vata
