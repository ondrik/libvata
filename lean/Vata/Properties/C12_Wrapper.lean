import Vata.Proofs.WrapperOrder
import Vata.CliArgs -- `DecidableEq (Except ε α)`
/-!
# C12 / C13 / C19 – the public wrapper `ExplicitTreeAut`: alphabets and symbol translation on top of the core

What `C12.lean` leaves out – there symbols are numbers and the public wrapper `ExplicitTreeAut` (alphabet / symbol translation on
top of the core) is not modelled –, and the wrapper-level readings of C13 (load ∘ dump) and C19 (registering the symbols in a
different order).

## how the C++ is read into the model (`Vata/Wrapper.lean`)

* `include/vata/explicit_tree_aut.hh`, `src/explicit_tree_aut.cc`: the wrapper owns `core_` and every method forwards
  (`Wrapper.wrapperForwards`, extracted by reading each body).  The state that the wrapper adds to the core's rules and
  final states is the `alphabet_` pointer: a `World` is a heap of alphabet objects (`alphas`, index 0 = the process-wide
  `globalAlphabet_`) and a list of automata, each a core `TA` with the index of its alphabet.  `Wrapper.step` is one public
  call (`Wrapper.Op`), `Wrapper.Reach` the worlds reachable from program start, `dumpW` / `toStringW` the observers.
* `OnTheFlyAlphabet` = dictionary + counter `nextSymbol_` (a field of the model, not derived); `DirectAlphabet` = no
  forward translation (`NotImplementedException`), back translation `n ↦ (ToString n, 0)`.
* which operation gives which alphabet to its result was read off the constructors used in `src/explicit_tree_*.cc`
  (table in `Vata/Wrapper.lean`) and CHECKED on the real library (probe `scratch/probe.cc` of this task: pointer
  comparisons `res.GetAlphabet () == own / global` after each operation, the texts of `ToString`, of the dump and of the
  exceptions): all lines of the table, the `ToString` format `a() -> 1`, `No translation for 1`,
  `Not implemented: GetSymbolTransl`, `Not implemented: Complement not implemented for the given alphabet type` agree.

## what is abstracted

Cores are `Vata.TA` (lists as sets); `Union` / `Intersection` / `IntersectionBU` / `GetCandidateTree` / `Complement` / the
quotient of `Reduce` enter as functions on cores (their results are specified elsewhere; here only the alphabet of the
result matters); moves are not modelled; indices into the heap that do not exist are model-level errors.

## findings (genuine behaviour of the library, reproduced with the probe)

* **results lose the alphabet.**  `Union`, `Intersection`, `IntersectionBU`, `RemoveUselessStates`, `GetCandidateTree`,
  `Complement`, and `RemoveUnreachableStates` / `Reduce` whenever something is removed, return an automaton on the GLOBAL
  alphabet, whatever the alphabet of the operands (`ExplicitTreeAutCore res (lhs.cache_)` takes the default argument
  `globalAlphabet_`).  For an automaton on an alphabet of its own (`SetAlphabet`, as in `examples/example14.cc`) the result's
  symbol numbers are then read through the wrong dictionary: `ToString` / `DumpToString` throw `No translation for n`, or –
  once the global alphabet has registered other symbols – silently print OTHER SYMBOL NAMES
  (`C12_wrapper_result_alphabet_defect`).  `UnionDisjointStates` keeps `lhs`'s alphabet and never looks at `rhs`'s.
  No operation compares the alphabets of its operands.
* `GetDown`, `LoadFromAutDesc (desc, params)`, `LoadFromAutDesc (desc, stateTransl, params)` and the template
  `RemoveUnreachableStates (rel, index)` are declared in the public header and defined nowhere (`Wrapper.undefinedMethods`).
-/
namespace Vata.Props
open Vata.Wrapper Vata.LoadDump Vata.Dict Vata.Timbuk

/-! ## (a) the forwarding table -/

/-- The kernel decodes `toList` of a string literal byte by byte, which is slow; it compares two literals, and reads a
literal as `String.ofList` of its characters, much faster.  The two tests of the table are evaluated in these forms. -/
theorem toList_beq_dash (s : String) : (s.toList == ['-']) = (s == "-") := by
  rw [Bool.eq_iff_iff, beq_iff_eq, beq_iff_eq, ← String.toList_inj, String.toList_ofList]

/-- every wrapper method of `wrapperForwardsSame` calls the core method of its own name; the other entries are the
documented exceptions (constructors, moves, four declared-but-undefined methods, `PrintSimulationMapping`) -/
theorem C12_wrapper_forwarding_sane :
    forwardsSane = true ∧ wrapperForwardsSame.length = 55 ∧ wrapperForwardsOther.length = 10 ∧
      undefinedMethods = ["GetDown", "LoadFromAutDesc(desc,params)", "LoadFromAutDesc(desc,stateTransl,params)",
        "RemoveUnreachableStates(rel,index)"] := by
  refine ⟨?_, by decide +kernel, by decide +kernel, by simp only [undefinedMethods, toList_beq_dash]; decide +kernel⟩
  simp only [forwardsSane, wrapperForwardsSame, methodName, List.all_cons, List.all_nil, Bool.and_true, Bool.and_eq_true]
  repeat' apply And.intro
  -- one goal per entry: `String.toList_ofList` on its two literals leaves two character lists to compare
  all_goals
    repeat rewrite [String.toList_ofList]
    decide +kernel

/-! ## (b) symbol numbers and (name, rank) -/

/-- **every alphabet object of every reachable world is two-way**: after ANY sequence of public calls (loads with
pre-filled state dictionaries, raw `AddTransition`, `SetAlphabet`, copies of alphabets, operations, calls that throw), in
every `OnTheFlyAlphabet`: `nextSymbol_` is the number of registered symbols, the numbers in use are exactly
`0 … nextSymbol_ - 1`, every number has exactly one `(name, rank)` and every `(name, rank)` exactly one number. -/
theorem C12_wrapper_alphabet_two_way {w : World} (h : Reach w) {a : Nat} {d : SymDict} {n : Nat}
    (ha : w.alphas[a]? = some (.otf d n)) :
    n = d.length ∧ (∀ k v, d.bwd? v = some k ↔ d.fwd? k = some v) ∧
      (∀ v, (∃ k, d.bwd? v = some k) ↔ v < n) ∧
      (∀ v k k', d.bwd? v = some k → d.bwd? v = some k' → k = k') ∧
      (∀ k v v', d.fwd? k = some v → d.fwd? k = some v' → v = v') ∧
      (∀ k k' v, d.fwd? k = some v → d.fwd? k' = some v → k = k') := by
  obtain ⟨hd, hn⟩ := (reach_ok h).alphas _ (List.mem_of_getElem? ha)
  refine ⟨hn, fun k v => hd.bwd_fwd, ?_, ?_, ?_, ?_⟩
  · intro v
    rw [hn]
    constructor
    · rintro ⟨k, e⟩
      exact hd.mem_vals.mp (List.mem_map.mpr ⟨(k, v), bwd?_some_mem e, rfl⟩)
    · intro hv; exact hd.bwd_some_of_lt hv
  · intro v k k' e e'; rw [e] at e'; exact Option.some.inj e'
  · intro k v v' e e'; rw [e] at e'; exact Option.some.inj e'
  · intro k k' v e e'
    have := hd.bwd_fwd.mpr e
    rw [hd.bwd_fwd.mpr e'] at this
    exact (Option.some.inj this).symm

def exOwn : AutDesc :=
  { name := "A", symbols := [("a", 0), ("f", 2)], states := ["q", "r"], final := ["r"],
    trans := [([], "a", "q"), (["q", "q"], "f", "r")] }
def exOther : AutDesc :=
  { name := "C", symbols := [], states := ["p"], final := ["p"], trans := [([], "zz", "p"), (["p", "p"], "g", "p")] }
/-- a world with two alphabets in use -/
def exW : World := run World.init [.newAut, .newOtf, .setAlphabet 0 1, .load 0 exOwn [], .newAut, .load 1 TimbukEx.exD []]
example : Reach exW := reach_run .init _
example : exW.alphas[1]? = some (.otf [(("a", 0), 0), (("f", 2), 1)] 2) := by decide +kernel

/-- **everything that came in through an alphabet is ranked.**  Along calls that do not by-pass the alphabet (`Safe`:
any load on any alphabet with any state dictionary, construction, copies, assignment, new alphabets, `SetStateFinal`,
`Clear`, `ReindexStates`; `SetAlphabet` on an automaton without rules; `AddTransition` with a number obtained from the
alphabet for that arity; operations whose result stays on the operands' alphabet): for every rule of every automaton,
the automaton's `OnTheFlyAlphabet` translates the rule's symbol number back to a `StringRank` whose rank IS the rule's
number of children.  Hence two rules (of automata on the same alphabet) with the same symbol number have the same number
of children: the core's "symbol = number" and the L0 "symbol with its arity" coincide. -/
theorem C12_wrapper_symbols_ranked {w : World} (h : ReachSafe w) :
    w.Ranked ∧
    ∀ A B, A ∈ w.auts → B ∈ w.auts → A.alpha = B.alpha → ∀ d n, w.alphas[A.alpha]? = some (.otf d n) →
      ∀ r r', r ∈ A.core.rules → r' ∈ B.core.rules → r.sym = r'.sym → r.kids.length = r'.kids.length :=
  ⟨reachSafe_ranked h, fun _ _ hA hB hab _ _ hal _ _ hr hr' e =>
    ranked_same_arity (reachSafe_ranked h) hA hB hab hal hr hr' e⟩

/-- non-vacuity: construct, own alphabet, load, a second automaton on the same alphabet, trim the first (on the global
alphabet trimming is safe; here the automaton is on alphabet 1, so only the operations that keep the alphabet are used) -/
example : ReachSafe (run World.init [.newAut, .newOtf, .setAlphabet 0 1, .load 0 TimbukEx.exE [], .copyAut 0 true true,
    .load 1 TimbukEx.exD [("x", 5)], .reindex 1 (· + 1), .unionDisjoint 0 1]) := by
  refine .step (.unionDisjoint 0 1) (.step (.reindex 1 (· + 1)) (.step (.load 1 TimbukEx.exD [("x", 5)])
    (.step (.copyAut 0 true true) (.step (.load 0 TimbukEx.exE []) (.step (.setAlphabet 0 1) (.step .newOtf
    (.step .newAut .init trivial rfl) trivial rfl) ?_ rfl) trivial rfl) trivial rfl) trivial rfl) trivial rfl) ?_ rfl
  · intro A hA; cases hA; exact Or.inl rfl
  · intro L R hL hR; cases hL; cases hR; rfl

/-- **the raw API is not ranked**: `AddTransition (children, symbol, parent)` takes a NUMBER; one number at two arities is
a reachable state (and its alphabet does not know the number: `ToString` throws) -/
theorem C12_wrapper_raw_addTransition_unranked :
    ∃ w, Reach w ∧ ¬ w.Ranked ∧
      ∃ A r r', w.auts[0]? = some A ∧ r ∈ A.core.rules ∧ r' ∈ A.core.rules ∧ r.sym = r'.sym ∧
        r.kids.length ≠ r'.kids.length ∧ toStringW w 0 r = .error "No translation for 7" := by
  refine ⟨run World.init [.newAut, .addTransition 0 [] 7 0, .addTransition 0 [0, 0] 7 0], reach_run .init _, ?_,
    ⟨⟨[⟨7, [], 0⟩, ⟨7, [0, 0], 0⟩], []⟩, 0⟩, ⟨7, [], 0⟩, ⟨7, [0, 0], 0⟩, rfl, by simp, by simp, rfl, by simp,
    by decide +kernel⟩
  intro h
  obtain ⟨nm, e⟩ := h ⟨⟨[⟨7, [], 0⟩, ⟨7, [0, 0], 0⟩], []⟩, 0⟩ (List.mem_singleton.mpr rfl) (.otf [] 0) rfl ⟨7, [], 0⟩
    (by simp)
  cases e

/-! ### the alphabet of results (defect) -/

/-- `examples/example14.cc` up to the operation: an automaton on an alphabet of its own, loaded, then
`RemoveUselessStates ()` (automaton 1) -/
def exDefect : World := run World.init [.newAut, .newOtf, .setAlphabet 0 1, .load 0 exOwn [], .removeUseless 0]

/-- **the result of an operation is on the global alphabet, not on its operand's** (as in the real library, see the
header): the trimmed copy (automaton 1) of an automaton on alphabet 1 points to alphabet 0; its rules still carry the
numbers of alphabet 1; `ToString` and the dump of the original work, those of the result throw; and after the global
alphabet has registered two other symbols the dump of the result silently shows THEIR names. -/
theorem C12_wrapper_result_alphabet_defect :
    Reach exDefect ∧
    (exDefect.auts.map (·.alpha) = [1, 0]) ∧
    toStringW exDefect 0 ⟨1, [1, 1], 0⟩ = .ok "f(1, 1) -> 0" ∧
    toStringW exDefect 1 ⟨1, [1, 1], 0⟩ = .error "No translation for 1" ∧
    dumpW exDefect 0 [("r", 0), ("q", 1)] = .ok (⟨"", [], [], ["r"], [([], "a", "q"), (["q", "q"], "f", "r")]⟩ : AutDesc) ∧
    dumpW exDefect 1 [("r", 0), ("q", 1)] = .error "No translation for 0" ∧
    dumpW (run exDefect [.newAut, .load 2 exOther []]) 1 [("r", 0), ("q", 1)] =
      .ok (⟨"", [], [], ["r"], [([], "zz", "q"), (["q", "q"], "g", "r")]⟩ : AutDesc) :=
  ⟨reach_run .init _, by decide +kernel⟩

/-- `UnionDisjointStates (lhs, rhs)` of automata on DIFFERENT alphabets is not rejected: the result is on `lhs`'s
alphabet and contains `rhs`'s rules with `rhs`'s numbers – here number 0 is `a` (rank 0) for `lhs` and was `zz` for `rhs`,
number 1 is `f` (rank 2): the rule `g(p, p) -> p` of `rhs` is printed as `f(0, 0) -> 0`. -/
theorem C12_wrapper_mixed_alphabets_unchecked :
    ∃ w, Reach w ∧ (w.auts.map (·.alpha) = [1, 0, 1]) ∧
      toStringW w 1 ⟨1, [0, 0], 0⟩ = .ok "g(0, 0) -> 0" ∧ toStringW w 2 ⟨1, [0, 0], 0⟩ = .ok "f(0, 0) -> 0" :=
  ⟨run World.init [.newAut, .newOtf, .setAlphabet 0 1, .load 0 exOwn [], .newAut, .load 1 exOther [], .unionDisjoint 0 1],
    reach_run .init _, by decide +kernel⟩

/-! ## (c) `ToString (trans)` -/

/-- **`ToString` throws iff the symbol is not registered**: for an automaton of a reachable world, `ToString (trans)`
throws exactly when the automaton's alphabet is an `OnTheFlyAlphabet` and the symbol number is not smaller than its
`nextSymbol_` (equivalently: the reverse map has no entry); the exception text is `No translation for <number>`;
otherwise the result is `name(c₁, …, cₖ) -> parent` with the registered name.  On a `DirectAlphabet` it never throws. -/
theorem C12_wrapper_tostring_total {w : World} (h : Reach w) {i : Nat} {A : WAut} (hA : w.auts[i]? = some A) (t : Rule) :
    ∃ al, w.alphas[A.alpha]? = some al ∧
      ((∃ msg, toStringW w i t = .error msg) ↔ ∃ d n, al = .otf d n ∧ n ≤ t.sym) ∧
      (∀ d n, al = .otf d n → n ≤ t.sym → toStringW w i t = .error ("No translation for " ++ toString t.sym)) ∧
      (∀ d n, al = .otf d n → t.sym < n → ∃ k, d.bwd? t.sym = some k ∧ d.fwd? k = some t.sym ∧
        toStringW w i t = .ok (k.1 ++ "(" ++ joinNums t.kids ++ ") -> " ++ toString t.parent)) := by
  have hok := reach_ok h
  have hA' : w.aut? i = .ok A := by unfold World.aut?; rw [hA]
  have hlt := hok.alpha A (List.mem_of_getElem? hA)
  obtain ⟨al, hal⟩ : ∃ al, w.alphas[A.alpha]? = some al := ⟨w.alphas[A.alpha], List.getElem?_eq_getElem hlt⟩
  have hal' : w.alpha? A.alpha = .ok al := by unfold World.alpha?; rw [hal]
  have key : ∀ d n, al = .otf d n → (d.bwd? t.sym = none ↔ n ≤ t.sym) := by
    intro d n e
    subst e
    obtain ⟨hd, hn⟩ := hok.alphas _ (List.mem_of_getElem? hal)
    rw [hn]; exact hd.bwd_none
  refine ⟨al, hal, ?_, ?_, ?_⟩
  · rw [toStringW_error_iff hA' hal' t]
    constructor
    · rintro ⟨d, n, e, hb⟩; exact ⟨d, n, e, (key d n e).mp hb⟩
    · rintro ⟨d, n, e, hb⟩; exact ⟨d, n, e, (key d n e).mpr hb⟩
  · intro d n e hn
    subst e
    exact toStringW_error_msg hA' hal' t ((key d n rfl).mpr hn)
  · intro d n e hn
    subst e
    obtain ⟨hd, hn'⟩ := hok.alphas _ (List.mem_of_getElem? hal)
    obtain ⟨k, hk⟩ := hd.bwd_some_of_lt (hn' ▸ hn)
    exact ⟨k, hk, hd.bwd_fwd.mp hk, toStringW_ok hA' hal' t hk⟩

example : exW.auts[0]? = some ⟨⟨[⟨0, [], 1⟩, ⟨1, [1, 1], 0⟩], [0]⟩, 1⟩ := by decide +kernel
example : toStringW exW 0 ⟨1, [1, 1], 0⟩ = .ok "f(1, 1) -> 0" ∧ toStringW exW 0 ⟨0, [], 1⟩ = .ok "a() -> 1" ∧
    toStringW exW 0 ⟨2, [], 1⟩ = .error "No translation for 2" := by decide +kernel

/-- on a `DirectAlphabet`: `ToString` never throws and prints the number; loading throws -/
example : ∃ w, Reach w ∧ toStringW w 0 ⟨7, [0, 0], 0⟩ = .ok "7(0, 0) -> 0" ∧
    loadW w 0 exOwn [] = .error "Not implemented: GetSymbolTransl" :=
  ⟨run World.init [.newAut, .addTransition 0 [0, 0] 7 0, .newDirect, .setAlphabet 0 1], reach_run .init _,
    by decide +kernel, by decide +kernel⟩

/-! ## C13 / C19 through the wrapper -/

/-- **C13 through the wrapper.**  `LoadFromAutDesc (desc, stateDict)` with an empty `stateDict` into an empty automaton
whose alphabet is an `OnTheFlyAlphabet` (in whatever state the program left it), then `DumpToAutDesc (stateDict)`: the
load succeeds, the dump succeeds and is exactly the final states and the transitions of the description in `std::set`
order (no name, no symbols, no states). -/
theorem C13_wrapper_load_dump {w : World} (hw : Reach w) {i a : Nat} {yd : SymDict} {n : Nat}
    (hA : w.aut? i = .ok ⟨⟨[], []⟩, a⟩) (hal : w.alpha? a = .ok (.otf yd n)) (d : AutDesc) :
    ∃ w' sd, loadW w i d [] = .ok (w', sd) ∧ dumpW w' i sd = .ok (dumpOf d.final d.trans) := by
  obtain ⟨w', sd, h1, h2, _⟩ := dumpW_loadW hw hA hal d
  exact ⟨w', sd, h1, h2⟩

/-- two fresh automata, each on a fresh alphabet of its own -/
def exFresh : World := run World.init [.newAut, .newOtf, .setAlphabet 0 1, .newAut, .newOtf, .setAlphabet 1 2]
example : Reach exFresh ∧ exFresh.aut? 0 = .ok ⟨⟨[], []⟩, 1⟩ ∧ exFresh.alpha? 1 = .ok (.otf [] 0) ∧
    exFresh.aut? 1 = .ok ⟨⟨[], []⟩, 2⟩ ∧ exFresh.alpha? 2 = .ok (.otf [] 0) :=
  ⟨reach_run .init _, rfl, rfl, rfl, rfl⟩

/-- **C19 through the wrapper: the order of first occurrence does not matter.**  The same description up to the order
(and repetition) of its symbols, final states and transitions, loaded with fresh state dictionaries into two empty
automata whose `OnTheFlyAlphabet`s have the same content `yd` (two FRESH alphabets: `yd = []`): both loads succeed; the
symbol numbers that the two alphabets hand out differ by a bijection `g` (name by name), the state numbers by a bijection
`h`; the second automaton is the `h`,`g`-image of the first and accepts exactly the `g`-renamed trees; and the renumbering
is undone by the dump: `DumpToAutDesc` of the two automata (each with its own alphabet and dictionary) is THE SAME
description. -/
theorem C19_wrapper_alphabet_order_invariant {w₁ w₂ : World} (hw₁ : Reach w₁) (hw₂ : Reach w₂) {i₁ i₂ a₁ a₂ : Nat}
    {yd : SymDict} {n₁ n₂ : Nat} (hA₁ : w₁.aut? i₁ = .ok ⟨⟨[], []⟩, a₁⟩) (hA₂ : w₂.aut? i₂ = .ok ⟨⟨[], []⟩, a₂⟩)
    (hal₁ : w₁.alpha? a₁ = .ok (.otf yd n₁)) (hal₂ : w₂.alpha? a₂ = .ok (.otf yd n₂))
    (d₁ d₂ : AutDesc) (hs : d₁.symbols ≈ d₂.symbols) (hf : d₁.final ≈ d₂.final) (ht : d₁.trans ≈ d₂.trans) :
    ∃ w₁' sd₁ w₂' sd₂ A₁ A₂ yd₁ yd₂ h g,
      loadW w₁ i₁ d₁ [] = .ok (w₁', sd₁) ∧ loadW w₂ i₂ d₂ [] = .ok (w₂', sd₂) ∧
      w₁'.aut? i₁ = .ok ⟨A₁, a₁⟩ ∧ w₂'.aut? i₂ = .ok ⟨A₂, a₂⟩ ∧
      w₁'.alpha? a₁ = .ok (.otf yd₁ yd₁.length) ∧ w₂'.alpha? a₂ = .ok (.otf yd₂ yd₂.length) ∧
      (Function.Injective h ∧ Function.Surjective h) ∧ (Function.Injective g ∧ Function.Surjective g) ∧
      (∀ q, q ∈ sd₁.keys → h (sd₁.get q) = sd₂.get q) ∧ (∀ k, k ∈ yd₁.keys → g (yd₁.get k) = yd₂.get k) ∧
      (∀ r, r ∈ A₂.rules ↔ r ∈ (translateSymbols g (reindex h A₁)).rules) ∧
      (∀ q, q ∈ A₂.final ↔ q ∈ (translateSymbols g (reindex h A₁)).final) ∧
      (∀ t, accepts A₂ (t.mapSyms g) = accepts A₁ t) ∧
      ∃ dd, dumpW w₁' i₁ sd₁ = .ok dd ∧ dumpW w₂' i₂ sd₂ = .ok dd := by
  obtain ⟨w₁', sd₁, l1, du1, lt1, au1, al1⟩ := dumpW_loadW hw₁ hA₁ hal₁ d₁
  obtain ⟨w₂', sd₂, l2, du2, lt2, au2, al2⟩ := dumpW_loadW hw₂ hA₂ hal₂ d₂
  have hyd : yd.Ok := ((reach_ok hw₁).alphas _ (alpha?_mem hal₁)).1
  obtain ⟨A₁, s₁, y₁, A₂, s₂, y₂, h, g, e1, e2, hh, hg, kh, kg, hr, hfin, hacc⟩ :=
    load_lang_perm d₁ d₂ yd hyd hs hf ht
  rw [lt1] at e1; rw [lt2] at e2
  cases e1; cases e2
  refine ⟨w₁', _, w₂', _, _, _, _, _, h, g, l1, l2, au1, au2, al1, al2, hh, hg, kh, kg, hr, hfin, hacc,
    dumpOf d₁.final d₁.trans, du1, ?_⟩
  rw [du2, dumpOf_congr hf ht]

/-- non-vacuity: `exE` and `exE'` list the same things in different orders; loaded into the two fresh automata of
`exFresh` the alphabets number `a`, `f` as 0, 1 and as 1, 0 -/
example : TimbukEx.exE.symbols ≈ LoadDumpEx.exE'.symbols ∧ TimbukEx.exE.final ≈ LoadDumpEx.exE'.final ∧
    TimbukEx.exE.trans ≈ LoadDumpEx.exE'.trans := LoadDumpEx.exE_exE'
example : (run exFresh [.load 0 TimbukEx.exE [], .load 1 LoadDumpEx.exE' []]).alphas =
    [.otf [] 0, .otf [(("a", 0), 0), (("f", 2), 1)] 2, .otf [(("f", 2), 0), (("a", 0), 1)] 2] := by decide +kernel

/-!
## still not proved

* The forwarding table is a transcription of `src/explicit_tree_aut.cc` checked for internal sanity only
  (`C12_wrapper_forwarding_sane`); that each wrapper body really is the listed call is not a theorem (candidate for
  regeneration from the sources).  Iterator / `AcceptTrans` / `DownAccessor` wrapper classes (pure pimpl forwarding) and
  the move constructor / move assignment (which leave `core_ == nullptr`: every later call on the moved-from object is
  undefined behaviour under `NDEBUG`) are not modelled.
* `C12_wrapper_symbols_ranked` is about `Safe` call sequences; for `Union`, `Intersection`, `IntersectionBU`,
  `GetCandidateTree`, `Complement`, `CollapseStates` and the quotient of `Reduce` the condition "the result uses only
  (symbol, arity) pairs of the operands (or of the alphabet)" is a hypothesis on the function in the `Op` (`Safe`), not
  derived from the models of these operations; for `RemoveUnreachableStates`, `RemoveUselessStates`, `ReindexStates`,
  `UnionDisjointStates`, `TranslateSymbols` it is proved from the coded models.
* `Complement` reads the ranks from the alphabet (all registered symbols, also those of other automata sharing it): the
  connection of `Op.core1 .complement` with the complement models of `Vata/Compl*.lean` (signature := the alphabet's
  dictionary) is not made.
* The text level (`LoadFromString` / `DumpToString` = parser / serializer around the calls modelled here) is in
  `C13_LoadDump.lean` for the shared global alphabet and not restated for worlds.
* `C19_wrapper_alphabet_order_invariant` needs the two alphabets to start with the same content and the automata to be
  empty; for alphabets with different content the symbol bijection exists only between the symbols of the description.
* That `Wrapper.step` is a faithful transcription of the C++ is supported by the probe run quoted in the header only.
-/
end Vata.Props
