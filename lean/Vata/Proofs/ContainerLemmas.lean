/-!
# Positions of lists read with a default (`List.getD`)

The models read vectors, tables of rows and pools through `getD`; the core library states its facts about positions for
`l[i]?`.  Here are their `getD` forms: after `set`, after an element appended, under `map`, for `range` and `replicate`, inside and
outside the bounds.
-/
namespace Vata

theorem getD_set {α : Type} (l : List α) (i k : Nat) (v d : α) :
    (l.set i v).getD k d = if i = k ∧ i < l.length then v else l.getD k d := by
  rw [List.getD_eq_getElem?_getD, List.getD_eq_getElem?_getD, List.getElem?_set]
  by_cases h1 : i = k
  · rw [if_pos h1]
    by_cases h2 : i < l.length
    · rw [if_pos h2, if_pos ⟨h1, h2⟩]; rfl
    · rw [if_neg h2, if_neg (fun h => h2 h.2), List.getElem?_eq_none (h1 ▸ Nat.le_of_not_lt h2)]
  · rw [if_neg h1, if_neg (fun h => h1 h.1)]

theorem ext_getD {α : Type} {d : α} {l l' : List α} (hl : l.length = l'.length)
    (h : ∀ k, k < l.length → l.getD k d = l'.getD k d) : l = l' := by
  apply List.ext_getElem hl
  intro k h1 h2
  have := h k h1
  rwa [List.getD_eq_getElem?_getD, List.getD_eq_getElem?_getD, List.getElem?_eq_getElem h1, List.getElem?_eq_getElem h2]
    at this

theorem getD_range {n k : Nat} (hk : k < n) (d : Nat) : (List.range n).getD k d = k := by
  rw [List.getD_eq_getElem?_getD, List.getElem?_range hk]; rfl

theorem getD_map {α β : Type} (f : α → β) (l : List α) {k : Nat} (hk : k < l.length) (d : α) (d' : β) :
    (l.map f).getD k d' = f (l.getD k d) := by
  rw [List.getD_eq_getElem?_getD, List.getD_eq_getElem?_getD, List.getElem?_map, List.getElem?_eq_getElem hk]; rfl

theorem lt_of_getElem? {α : Type} {l : List α} {j : Nat} {a : α} (h : l[j]? = some a) : j < l.length :=
  (List.getElem?_eq_some_iff.mp h).1

theorem set_of_getElem? {α : Type} {l : List α} {i : Nat} {x : α} (h : l[i]? = some x) : l.set i x = l := by
  obtain ⟨hi, rfl⟩ := List.getElem?_eq_some_iff.1 h
  exact List.set_getElem_self hi

theorem getD_of_length_le {α : Type} (d : α) (l : List α) (i : Nat) (h : l.length ≤ i) : l.getD i d = d := by
  rw [List.getD_eq_getElem?_getD, List.getElem?_eq_none h]; rfl

/-- a pool of optional objects read by `(l[k]?).join` is read with the default `none` -/
theorem join_getElem? {α : Type} (l : List (Option α)) (k : Nat) : (l[k]?).join = l.getD k none := by
  rw [List.getD_eq_getElem?_getD]; cases l[k]? <;> rfl

theorem getD_of_getElem? {α : Type} {l : List α} {i : Nat} {x : α} (h : l[i]? = some x) (d : α) : l.getD i d = x := by
  rw [List.getD_eq_getElem?_getD, h]; rfl

theorem getD_eq_getElem {α : Type} {l : List α} {i : Nat} (h : i < l.length) (d : α) : l.getD i d = l[i] :=
  getD_of_getElem? (List.getElem?_eq_getElem h) d

/-- inside the bounds the default does not matter -/
theorem getD_of_lt {α : Type} {l : List α} {k : Nat} (hk : k < l.length) (a b : α) : l.getD k a = l.getD k b := by
  rw [List.getD_eq_getElem?_getD, List.getD_eq_getElem?_getD, List.getElem?_eq_getElem hk]; rfl

theorem lt_of_getD_ne {α : Type} {d : α} {l : List α} {i : Nat} (h : l.getD i d ≠ d) : i < l.length :=
  Nat.lt_of_not_le fun hn => h (getD_of_length_le d l i hn)

/-- only the rows inside a table have elements -/
theorem lt_of_mem_getD {α : Type} {l : List (List α)} {i : Nat} {x : α} (h : x ∈ l.getD i []) : i < l.length :=
  lt_of_getD_ne (d := []) fun e => List.not_mem_nil (e ▸ h)

theorem lt_of_getD_eq_some {α : Type} {l : List (Option α)} {i : Nat} {x : α} (h : l.getD i none = some x) : i < l.length :=
  lt_of_getD_ne (d := none) fun e => nomatch h.symm.trans e

theorem getD_mem {α : Type} (d : α) (l : List α) (i : Nat) (h : i < l.length) : l.getD i d ∈ l := by
  rw [List.getD_eq_getElem?_getD, List.getElem?_eq_getElem h]
  exact List.getElem_mem h

theorem mem_iff_getD {α : Type} (d : α) (l : List α) (x : α) : x ∈ l ↔ ∃ i, i < l.length ∧ l.getD i d = x := by
  constructor
  · intro h
    obtain ⟨i, hi, he⟩ := List.getElem_of_mem h
    exact ⟨i, hi, by rw [List.getD_eq_getElem?_getD, List.getElem?_eq_getElem hi, ← he]; rfl⟩
  · rintro ⟨i, hi, he⟩
    rw [← he]; exact getD_mem d l i hi

theorem getD_set_of_lt {α : Type} (d : α) {l : List α} {k : Nat} (hk : k < l.length) (v : α) (j : Nat) :
    (l.set k v).getD j d = if j = k then v else l.getD j d := by
  rw [getD_set]
  by_cases hjk : j = k
  · rw [if_pos ⟨hjk.symm, hk⟩, if_pos hjk]
  · rw [if_neg (fun h => hjk h.1.symm), if_neg hjk]

theorem getD_set_self {α : Type} {l : List α} {i : Nat} (h : i < l.length) (x d : α) : (l.set i x).getD i d = x := by
  rw [getD_set, if_pos ⟨rfl, h⟩]

theorem getD_set_ne {α : Type} (l : List α) {i j : Nat} (h : j ≠ i) (x d : α) : (l.set i x).getD j d = l.getD j d := by
  rw [getD_set, if_neg fun c => h c.1.symm]

theorem getD_concat {α : Type} (d : α) (l : List α) (w : α) (i : Nat) :
    (l ++ [w]).getD i d = if i = l.length then w else l.getD i d := by
  rw [List.getD_eq_getElem?_getD, List.getD_eq_getElem?_getD]
  rcases Nat.lt_trichotomy i l.length with h | h | h
  · rw [List.getElem?_append_left h, if_neg (Nat.ne_of_lt h)]
  · subst h; rw [List.getElem?_concat_length, if_pos rfl]; rfl
  · rw [if_neg (Nat.ne_of_gt h), List.getElem?_eq_none (Nat.le_of_lt h),
      List.getElem?_eq_none (by rw [List.length_append]; exact h)]

theorem getD_concat_of_lt {α : Type} (l : List α) (x d : α) {j : Nat} (h : j < l.length) : (l ++ [x]).getD j d = l.getD j d := by
  rw [getD_concat, if_neg (Nat.ne_of_lt h)]

theorem getD_concat_length {α : Type} (l : List α) (x d : α) : (l ++ [x]).getD l.length d = x := by
  rw [getD_concat, if_pos rfl]

theorem getD_set_append {α : Type} (d : α) (l : List α) (b : Nat) (v w : α) (hb : b < l.length) (i : Nat) :
    (l.set b v ++ [w]).getD i d = if i = b then v else if i = l.length then w else l.getD i d := by
  rw [getD_concat, List.length_set, getD_set_of_lt d hb]
  by_cases hib : i = b
  · rw [if_pos hib, if_pos hib, if_neg (by omega)]
  · rw [if_neg hib, if_neg hib]

/-- padding with the default is invisible to `getD` -/
theorem getD_append_replicate {α : Type} (d : α) (l : List α) (n i : Nat) :
    (l ++ List.replicate n d).getD i d = l.getD i d := by
  induction n with
  | zero => rw [List.replicate_zero, List.append_nil]
  | succ n ih =>
    rw [List.replicate_succ', ← List.append_assoc, getD_concat, ih]
    split
    · rename_i h
      rw [getD_of_length_le d l i (by rw [h, List.length_append]; omega)]
    · rfl

theorem getD_replicate {α : Type} (d d' : α) (n i : Nat) (h : i < n) : (List.replicate n d).getD i d' = d := by
  rw [List.getD_eq_getElem?_getD, List.getElem?_replicate, if_pos h]; rfl

theorem getD_map_getElem {α β : Type} (g : α → β) (l : List α) (d : β) {i : Nat} (h : i < l.length) :
    (l.map g).getD i d = g l[i] := by
  rw [List.getD_eq_getElem?_getD, List.getElem?_map, List.getElem?_eq_getElem h]
  rfl

theorem getD_map_range {β : Type} (f : Nat → β) {n i : Nat} (hi : i < n) (d : β) : ((List.range n).map f).getD i d = f i := by
  rw [List.getD_eq_getElem?_getD, List.getElem?_map, List.getElem?_range hi]; rfl

/-- a map that sends default to default commutes with `getD` everywhere -/
theorem getD_map_default {α β : Type} (f : α → β) (d : α) (d' : β) (hf : f d = d') (l : List α) (i : Nat) :
    (l.map f).getD i d' = f (l.getD i d) := by
  rw [List.getD_eq_getElem?_getD, List.getD_eq_getElem?_getD, List.getElem?_map]
  cases l[i]? with
  | none => exact hf.symm
  | some x => rfl

/-! Positions found by `idxOf`. -/

theorem getElem?_idxOf {α : Type} [BEq α] [LawfulBEq α] {l : List α} {x : α} (h : x ∈ l) : l[l.idxOf x]? = some x := by
  have hlt : l.idxOf x < l.length := List.idxOf_lt_length_of_mem h
  rw [List.getElem?_eq_getElem hlt, List.getElem_idxOf hlt]

theorem getD_idxOf {α : Type} [BEq α] [LawfulBEq α] {l : List α} {x : α} (h : x ∈ l) (d : α) : l.getD (l.idxOf x) d = x :=
  getD_of_getElem? (getElem?_idxOf h) d

theorem idxOf_inj {α : Type} [BEq α] [LawfulBEq α] {l : List α} {p q : α} (hp : p ∈ l) (h : l.idxOf p = l.idxOf q) : p = q := by
  have hq : q ∈ l := List.idxOf_lt_length_iff.mp (h ▸ List.idxOf_lt_length_of_mem hp)
  exact Option.some.inj ((getElem?_idxOf hp).symm.trans (h ▸ getElem?_idxOf hq))

theorem idxOf_of_getElem? {α : Type} [BEq α] [LawfulBEq α] {l : List α} {k : Nat} {x : α} (hn : l.Nodup) (h : l[k]? = some x) :
    l.idxOf x = k := by
  obtain ⟨hk, rfl⟩ := List.getElem?_eq_some_iff.mp h
  exact hn.idxOf_getElem k hk

end Vata
