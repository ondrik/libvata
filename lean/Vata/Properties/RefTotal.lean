import Vata.Proofs.MultiTotal
import Vata.Proofs.PairTotal
/-!
# Totality of the exact reference deciders (C01–C03, C05–C10, C14, C15, C19)

Every property whose correspondence check asks a *language-level* question of the implementation's output uses one of
the fuel-bounded reference deciders `inclM`, `equivM`, `emptyM`, `isUnionM`, `isIsectM`, `isComplM` (`Vata/Lang.lean`,
all instances of the profile engine `forallTrees` of `Vata/Multi.lean`), their word-automata versions `inclW`, `equivW`,
`emptyW`, `isUnionW`, `isIsectW` (`Vata/NfaEmbed.lean`, the same engine through the embedding `toTA`), or one of the two
older pair engines `inclRef` (`Vata/Basic.lean`) and `W.inclRef` (`Vata/Nfa.lean`).  Their `_iff` theorems say: *every
`some b` is exact*.  This file adds the other half: **above an explicit fuel bound they never return `none`**, so
together "for `fuel ≥ bound` the decider returns `some b` with `b = true ↔ <the language statement>`".

* **The bound.**  `fuelBoundM [A₁,…,Aₙ] = ∏ 2^|parents Aᵢ|` where `parents A` are the states that head a rule
  (`fuelBoundM_le_states`: at most `2^(Σ |states Aᵢ|)`); for words `fuelBoundW Ns = fuelBoundM (Ns.map toTA)
  = ∏ 2^|start ∪ targets of Nᵢ|` (`fuelBoundW_eq_pow`); for the complement check the alphabet automaton `univ Sg` has one
  state, `fuelBoundCompl C A Sg ≤ 2^(|states C| + |states A| + 1)` whatever the size of `Sg` (`fuelBoundCompl_le_states`).
* **Why it is a bound** (`Vata/Proofs/SatTotal.lean`).  One unit of fuel is one round of the saturation loop.  A round
  that does not stop appends at least one profile that is not set-equal to any stored one, and nothing is ever removed:
  *no round wastes fuel*.  Every stored profile is the profile of a tree, so it is set-equal to a tuple of subsets of the
  parent states; the number of such tuples not yet represented strictly decreases per round.  (A semantic variant,
  `msat_total_of_cover`: the loop needs at most as many rounds as there are classes of profiles of trees.)  The bound
  is pessimistic: a round adds *all* new profiles of one more level of tree height, so the number of rounds actually
  needed is the height at which the last class appears, not the number of classes.
* **The driver's constant** is treated in the last section.

C04 does not appear: its checks (`simdown`, `simup`) compare relations and use no fuel-bounded decider.
-/
namespace Vata.Props
open Vata.W Vata.Total

/-! ### the engine (C19: every language law checked by the driver is an instance) -/

/-- **C19 / engine.**  For every list of automata, every Boolean combination `φ` of the acceptance vector and every fuel
above `fuelBoundM As`, the engine returns a verdict, and the verdict is "`φ` holds for the acceptance vector of every
tree" -/
theorem C19_reference_total (As : List TA) (φ : List Bool → Bool) (fuel : Nat) (h : fuelBoundM As ≤ fuel) :
    ∃ b, forallTrees As φ fuel = some b ∧ (b = true ↔ ∀ t, φ (As.map (fun A => accepts A t)) = true) :=
  Total.decides (forallTrees_total As φ fuel h) (fun b hb => forallTrees_iff As φ fuel b hb)

example : fuelBoundM [MultiTotalEx.exEven, MultiTotalEx.exAll] ≤ 8 ∧
    forallTrees [MultiTotalEx.exEven, MultiTotalEx.exAll] (fun v => match v with | [a, b] => !a || b | _ => false) 8
      = some true := by decide +kernel

/-- the bound in terms of the numbers of states: `2^n` rounds suffice for automata with `n` states altogether -/
theorem C19_reference_bound (As : List TA) : fuelBoundM As ≤ 2 ^ (As.map (fun A => A.states.length)).sum :=
  fuelBoundM_le_states As

example : fuelBoundM [MultiTotalEx.exEven, MultiTotalEx.exAll] = 8 ∧
    2 ^ ([MultiTotalEx.exEven, MultiTotalEx.exAll].map (fun A => A.states.length)).sum = 8 := ⟨by decide, by decide⟩

/-- more fuel never changes a verdict, so "some fuel gives `b`" and "all fuel above the bound gives `b`" coincide -/
theorem C19_reference_fuel_irrelevant (As : List TA) (φ : List Bool → Bool) (fuel fuel' : Nat) (b b' : Bool)
    (h : forallTrees As φ fuel = some b) (h' : forallTrees As φ fuel' = some b') : b = b' := by
  rw [Bool.eq_iff_iff, forallTrees_iff As φ fuel b h, forallTrees_iff As φ fuel' b' h']

example : forallTrees [MultiTotalEx.exEven] (fun v => match v with | [a] => !a | _ => false) 3 = some false ∧
    forallTrees [MultiTotalEx.exEven] (fun v => match v with | [a] => !a | _ => false) 7 = some false :=
  by decide +kernel

/-! ### tree automata -/

/-- **C01 (also the reference of C07 and C15).**  Above the bound both inclusion references return the right verdict -/
theorem C01_reference_total (A B : TA) (fuel : Nat) (h : fuelBoundM [A, B] ≤ fuel) :
    (Incl A B → inclM A B fuel = some true ∧ inclRef A B fuel = some true) ∧
    (¬ Incl A B → inclM A B fuel = some false ∧ inclRef A B fuel = some false) := by
  have h1 := Total.verdicts (inclM_decides A B fuel h)
  have h2 := Total.verdicts (inclRef_decides A B fuel h)
  exact ⟨fun q => ⟨h1.1 q, h2.1 q⟩, fun q => ⟨h1.2 q, h2.2 q⟩⟩

example : fuelBoundM [MultiTotalEx.exAll, MultiTotalEx.exEven] ≤ 8 ∧
    inclM MultiTotalEx.exAll MultiTotalEx.exEven 8 = some false ∧
    inclRef MultiTotalEx.exAll MultiTotalEx.exEven 8 = some false := by decide +kernel

/-- the `∃ b` form for `inclM` -/
theorem C01_reference_total_decides (A B : TA) (fuel : Nat) (h : fuelBoundM [A, B] ≤ fuel) :
    ∃ b, inclM A B fuel = some b ∧ (b = true ↔ Incl A B) := inclM_decides A B fuel h

example : ∃ b, inclM MultiTotalEx.exEven MultiTotalEx.exAll 8 = some b ∧
    (b = true ↔ Incl MultiTotalEx.exEven MultiTotalEx.exAll) := C01_reference_total_decides _ _ 8 (by decide)

/-- **C07**: the explicit reference the BDD inclusions are compared with is `inclM` -/
theorem C07_reference_total (A B : TA) (fuel : Nat) (h : fuelBoundM [A, B] ≤ fuel) :
    ∃ b, inclM A B fuel = some b ∧ (b = true ↔ Incl A B) := inclM_decides A B fuel h

example : ∃ b, inclM MultiTotalEx.exAll MultiTotalEx.exEven 8 = some b ∧
    (b = true ↔ Incl MultiTotalEx.exAll MultiTotalEx.exEven) := C07_reference_total _ _ 8 (by decide)

/-- **C02.**  "`R` is the union" / "`R` is the intersection" are decided above the bound of the three automata -/
theorem C02_reference_total (R A B : TA) (fuel : Nat) (h : fuelBoundM [R, A, B] ≤ fuel) :
    (∃ b, isUnionM R A B fuel = some b ∧ (b = true ↔ ∀ t, accepts R t = (accepts A t || accepts B t))) ∧
    (∃ b, isIsectM R A B fuel = some b ∧ (b = true ↔ ∀ t, accepts R t = (accepts A t && accepts B t))) :=
  ⟨isUnionM_decides R A B fuel h, isIsectM_decides R A B fuel h⟩

example : fuelBoundM [MultiTotalEx.exAll, MultiTotalEx.exEven, MultiTotalEx.exAll] ≤ 16 ∧
    isUnionM MultiTotalEx.exAll MultiTotalEx.exEven MultiTotalEx.exAll 16 = some true ∧
    isIsectM MultiTotalEx.exAll MultiTotalEx.exEven MultiTotalEx.exAll 16 = some false :=
  by decide +kernel

/-- **C08**: the same two checkers and language equivalence, applied to the dumps of the BDD-encoded results -/
theorem C08_reference_total (R A B : TA) (fuel : Nat) (h : fuelBoundM [R, A, B] ≤ fuel) :
    (∃ b, isUnionM R A B fuel = some b ∧ (b = true ↔ ∀ t, accepts R t = (accepts A t || accepts B t))) ∧
    (∃ b, isIsectM R A B fuel = some b ∧ (b = true ↔ ∀ t, accepts R t = (accepts A t && accepts B t))) ∧
    (fuelBoundM [R, A] ≤ fuel → ∃ b, equivM R A fuel = some b ∧ (b = true ↔ LangEq R A)) :=
  ⟨isUnionM_decides R A B fuel h, isIsectM_decides R A B fuel h, fun h' => equivM_decides R A fuel h'⟩

example : fuelBoundM [MultiTotalEx.exEven, MultiTotalEx.exEven, MultiTotalEx.exAll] ≤ 32 ∧
    isIsectM MultiTotalEx.exEven MultiTotalEx.exEven MultiTotalEx.exAll 32 = some true := by decide +kernel

/-- **C03 (also the reference of C05, C14).**  Language equivalence and emptiness are decided above their bounds -/
theorem C03_reference_total (A B : TA) (fuel : Nat) :
    (fuelBoundM [A, B] ≤ fuel → ∃ b, equivM A B fuel = some b ∧ (b = true ↔ LangEq A B)) ∧
    (fuelBoundM [A] ≤ fuel → ∃ b, emptyM A fuel = some b ∧ (b = true ↔ LangEmpty A)) :=
  ⟨fun h => equivM_decides A B fuel h, fun h => emptyM_decides A fuel h⟩

example : fuelBoundM [MultiTotalEx.exEven, MultiTotalEx.exAll] ≤ 8 ∧ fuelBoundM [MultiTotalEx.exEven] ≤ 8 ∧
    equivM MultiTotalEx.exEven MultiTotalEx.exAll 8 = some false ∧ emptyM MultiTotalEx.exEven 8 = some false :=
  by decide +kernel

/-- **C05**: `Reduce` preserves the language – decided by `equivM` above the bound -/
theorem C05_reference_total (R A : TA) (fuel : Nat) (h : fuelBoundM [R, A] ≤ fuel) :
    (LangEq R A → equivM R A fuel = some true) ∧ (¬ LangEq R A → equivM R A fuel = some false) :=
  Total.verdicts (equivM_decides R A fuel h)

example : fuelBoundM [MultiTotalEx.exAll, MultiTotalEx.exAll] ≤ 4 ∧
    equivM MultiTotalEx.exAll MultiTotalEx.exAll 4 = some true := ⟨by decide, by decide⟩

/-- **C14**: an injective renaming preserves the language (`equivM`), a collapsing one can only enlarge it (`inclM`) -/
theorem C14_reference_total (A R : TA) (fuel : Nat) (h : fuelBoundM [A, R] ≤ fuel) :
    (∃ b, equivM A R fuel = some b ∧ (b = true ↔ LangEq A R)) ∧
    (∃ b, inclM A R fuel = some b ∧ (b = true ↔ Incl A R)) :=
  ⟨equivM_decides A R fuel h, inclM_decides A R fuel h⟩

example : fuelBoundM [MultiTotalEx.exEven, MultiTotalEx.exAll] ≤ 8 ∧
    equivM MultiTotalEx.exEven MultiTotalEx.exAll 8 = some false ∧
    inclM MultiTotalEx.exEven MultiTotalEx.exAll 8 = some true := by decide +kernel

/-- **C15**: "the witness automaton is a sub-language" (`inclM`) and "empty only for an empty language" (`emptyM`) -/
theorem C15_reference_total (R A : TA) (fuel : Nat) (h : fuelBoundM [R, A] ≤ fuel) :
    (∃ b, inclM R A fuel = some b ∧ (b = true ↔ Incl R A)) ∧
    (∃ b, emptyM R fuel = some b ∧ (b = true ↔ LangEmpty R)) ∧
    (∃ b, emptyM A fuel = some b ∧ (b = true ↔ LangEmpty A)) := by
  have hR : fuelBoundM [R] ≤ fuel := by
    refine Nat.le_trans ?_ h
    simp only [fuelBoundM, Nat.mul_one]
    exact Nat.le_mul_of_pos_right _ (Nat.pow_pos (by decide))
  have hA : fuelBoundM [A] ≤ fuel := by
    refine Nat.le_trans ?_ h
    simp only [fuelBoundM, Nat.mul_one]
    exact Nat.le_mul_of_pos_left _ (Nat.pow_pos (by decide))
  exact ⟨inclM_decides R A fuel h, emptyM_decides R fuel hR, emptyM_decides A fuel hA⟩

example : fuelBoundM [MultiTotalEx.exEven, MultiTotalEx.exAll] ≤ 8 ∧
    inclM MultiTotalEx.exEven MultiTotalEx.exAll 8 = some true ∧ emptyM MultiTotalEx.exEven 8 = some false ∧
    emptyM MultiTotalEx.exAll 8 = some false := by decide +kernel

/-- **C06.**  "`C` is the complement of `A` over the ranked alphabet `Sg`" is decided above the bound; the alphabet enters
the bound by a factor of at most `2` -/
theorem C06_reference_total (C A : TA) (Sg : List (Nat × Nat)) (fuel : Nat) (h : fuelBoundCompl C A Sg ≤ fuel) :
    ∃ b, isComplM C A Sg fuel = some b ∧
      (b = true ↔ ∀ t, (overSig Sg t = true → accepts C t = !accepts A t) ∧
        (overSig Sg t = false → accepts C t = false)) :=
  isComplM_decides C A Sg fuel h

theorem C06_reference_bound (C A : TA) (Sg : List (Nat × Nat)) :
    fuelBoundCompl C A Sg ≤ 2 ^ (C.states.length + A.states.length + 1) :=
  fuelBoundCompl_le_states C A Sg

/-- odd heights: the complement of `exEven` over `{a:0, f:1}` -/
def RefTotalEx.exOdd : TA := ⟨[⟨0, [], 0⟩, ⟨1, [0], 1⟩, ⟨1, [1], 0⟩], [1]⟩

example : fuelBoundCompl RefTotalEx.exOdd MultiTotalEx.exEven [(0, 0), (1, 1)] ≤ 32 ∧
    isComplM RefTotalEx.exOdd MultiTotalEx.exEven [(0, 0), (1, 1)] 32 = some true ∧
    isComplM MultiTotalEx.exAll MultiTotalEx.exEven [(0, 0), (1, 1)] 32 = some false :=
  by decide +kernel

/-! ### word automata -/

/-- **C09.**  Above the bound both word-inclusion references return the right verdict -/
theorem C09_reference_total (A B : NFA) (fuel : Nat) (h : fuelBoundW [A, B] ≤ fuel) :
    (InclW A B → inclW A B fuel = some true ∧ W.inclRef A B fuel = some true) ∧
    (¬ InclW A B → inclW A B fuel = some false ∧ W.inclRef A B fuel = some false) := by
  have h1 := Total.verdicts (inclW_decides A B fuel h)
  have h2 := Total.verdicts (W.inclRef_decides A B fuel h)
  exact ⟨fun q => ⟨h1.1 q, h2.1 q⟩, fun q => ⟨h1.2 q, h2.2 q⟩⟩

example : fuelBoundW [MultiTotalEx.nAll, MultiTotalEx.nAB] ≤ 8 ∧
    inclW MultiTotalEx.nAll MultiTotalEx.nAB 8 = some false ∧ W.inclRef MultiTotalEx.nAll MultiTotalEx.nAB 8 = some false ∧
    inclW MultiTotalEx.nAB MultiTotalEx.nAll 8 = some true ∧ W.inclRef MultiTotalEx.nAB MultiTotalEx.nAll 8 = some true :=
  by decide +kernel

/-- the bound for words, in terms of the automata: `|start ∪ targets| ≤ |start| + |trans|` -/
theorem C09_reference_bound (Ns : List NFA) :
    fuelBoundW Ns = 2 ^ (Ns.map (fun N => (nfaTargets N).length)).sum ∧
    ∀ N, N ∈ Ns → (nfaTargets N).length ≤ N.start.length + N.trans.length :=
  ⟨fuelBoundW_eq_pow Ns, fun N _ => nfaTargets_length_le N⟩

example : fuelBoundW [MultiTotalEx.nAB, MultiTotalEx.nAll] = 8 := by decide

/-- **C10.**  The checkers of union, intersection, equivalence (reversal, trimming) and emptiness on words are decided
above their bounds -/
theorem C10_reference_total (R A B : NFA) (fuel : Nat) :
    (fuelBoundW [R, A, B] ≤ fuel →
      (∃ b, isUnionW R A B fuel = some b ∧ (b = true ↔ ∀ w, acceptsW R w = (acceptsW A w || acceptsW B w))) ∧
      (∃ b, isIsectW R A B fuel = some b ∧ (b = true ↔ ∀ w, acceptsW R w = (acceptsW A w && acceptsW B w)))) ∧
    (fuelBoundW [R, A] ≤ fuel → ∃ b, equivW R A fuel = some b ∧ (b = true ↔ ∀ w, acceptsW R w = acceptsW A w)) ∧
    (fuelBoundW [A] ≤ fuel → ∃ b, emptyW A fuel = some b ∧ (b = true ↔ ∀ w, acceptsW A w = false)) :=
  ⟨fun h => ⟨isUnionW_decides R A B fuel h, isIsectW_decides R A B fuel h⟩,
    fun h => equivW_decides R A fuel h, fun h => emptyW_decides A fuel h⟩

example : fuelBoundW [MultiTotalEx.nAll, MultiTotalEx.nAB, MultiTotalEx.nAll] ≤ 16 ∧
    isUnionW MultiTotalEx.nAll MultiTotalEx.nAB MultiTotalEx.nAll 16 = some true ∧
    isIsectW MultiTotalEx.nAB MultiTotalEx.nAB MultiTotalEx.nAll 16 = some true ∧
    equivW MultiTotalEx.nAB MultiTotalEx.nAll 16 = some false ∧ emptyW MultiTotalEx.nAB 16 = some false :=
  by decide +kernel

/-! ### the constant of the compiled driver

`Driver/Main.lean`, `Driver/BddChk.lean`, `Driver/MetaChk.lean` and `Driver/NfaHist.lean` each define `FUEL := 1000000`
and call every decider with it.  `driverFuel` is a copy of that number (the `Vata` library cannot import the driver).

`2^19 = 524288 ≤ 1000000 < 1048576 = 2^20`.  So the proved bound is below `FUEL` **exactly when the operands of one call
have at most 19 rule-heading states altogether**:

* every call on one or two operands of at most 9 states each (`inclM`, `equivM`, `emptyM`, `inclRef`, and the word
  versions): bound `≤ 2^18 = 262144` – covered (`driver_fuel_two`, `driver_fuel_two_W`);
* the three-operand calls (`isUnionM`, `isIsectM`, `isUnionW`, `isIsectW`; `isComplM` with `|C| + |A| + 1`): covered as
  long as the three automata have at most 19 states altogether, e.g. up to 6 states each, or a result of 9 states with
  operands of 5 states each (`driver_fuel_suffices`, `driver_fuel_compl`);
* **not covered by the bound**: three operands of 9 states each (`2^27 = 134217728`), and in general from 20 states
  altogether on (`driver_fuel_worst`).  There the driver *could* in principle see `none`; it then prints
  `error fuel(…)`, never a verdict.  This is a statement about the proved worst-case bound, not an observed failure: the
  number of rounds actually needed is the tree height at which the last new profile appears, and since every round
  that does not stop adds a profile, round `k` works on at least `k` stored profiles and compares each of their
  successors with all of them (all pairs of them for a binary symbol): a run of a million rounds is far beyond the time
  limit of a case long before the fuel runs out.
-/

/-- copy of `FUEL` of `Driver/Main.lean` (and `BddChk`, `MetaChk`, `NfaHist`) -/
def driverFuel : Nat := 1000000

/-- operands with at most 19 states altogether are below the driver's fuel -/
theorem driver_fuel_suffices (As : List TA) (h : (As.map (fun A => A.states.length)).sum ≤ 19) :
    fuelBoundM As ≤ driverFuel :=
  Nat.le_trans (fuelBoundM_le_of_states As 19 h) (by decide)

/-- the sharper form: only the states that head a rule count -/
theorem driver_fuel_suffices' (As : List TA) (h : (As.map (fun A => (parents A).length)).sum ≤ 19) :
    fuelBoundM As ≤ driverFuel := by
  rw [fuelBoundM_eq_pow]
  exact Nat.le_trans (Nat.pow_le_pow_right (by decide) h) (by decide)

theorem driver_fuel_suffices_W (Ns : List NFA) (h : (Ns.map (fun N => (nfaTargets N).length)).sum ≤ 19) :
    fuelBoundW Ns ≤ driverFuel := by
  rw [fuelBoundW_eq_pow]
  exact Nat.le_trans (Nat.pow_le_pow_right (by decide) h) (by decide)

/-- one or two operands of at most 9 states: always covered (`2^18 ≤ FUEL`) -/
theorem driver_fuel_two (A B : TA) (hA : A.states.length ≤ 9) (hB : B.states.length ≤ 9) :
    fuelBoundM [A, B] ≤ driverFuel ∧ fuelBoundM [A] ≤ driverFuel := by
  constructor
  · apply driver_fuel_suffices
    simp only [List.map_cons, List.map_nil, List.sum_cons, List.sum_nil]; omega
  · apply driver_fuel_suffices
    simp only [List.map_cons, List.map_nil, List.sum_cons, List.sum_nil]; omega

theorem driver_fuel_two_W (A B : NFA) (hA : (nfaTargets A).length ≤ 9) (hB : (nfaTargets B).length ≤ 9) :
    fuelBoundW [A, B] ≤ driverFuel ∧ fuelBoundW [A] ≤ driverFuel := by
  constructor
  · apply driver_fuel_suffices_W
    simp only [List.map_cons, List.map_nil, List.sum_cons, List.sum_nil]; omega
  · apply driver_fuel_suffices_W
    simp only [List.map_cons, List.map_nil, List.sum_cons, List.sum_nil]; omega

/-- three operands: covered up to 19 states altogether -/
theorem driver_fuel_three (R A B : TA) (h : R.states.length + A.states.length + B.states.length ≤ 19) :
    fuelBoundM [R, A, B] ≤ driverFuel := by
  apply driver_fuel_suffices
  simp only [List.map_cons, List.map_nil, List.sum_cons, List.sum_nil]; omega

theorem driver_fuel_compl (C A : TA) (Sg : List (Nat × Nat)) (h : C.states.length + A.states.length ≤ 18) :
    fuelBoundCompl C A Sg ≤ driverFuel :=
  Nat.le_trans (fuelBoundCompl_le_states C A Sg)
    (Nat.le_trans (Nat.pow_le_pow_right (by decide) (by omega : C.states.length + A.states.length + 1 ≤ 19)) (by decide))

/-- hence: the driver's inclusion / equivalence / emptiness references always answer on operands of at most 9 states,
and answer correctly -/
theorem driver_two_operand_verdicts (A B : TA) (hA : A.states.length ≤ 9) (hB : B.states.length ≤ 9) :
    (∃ b, inclM A B driverFuel = some b ∧ (b = true ↔ Incl A B)) ∧
    (∃ b, equivM A B driverFuel = some b ∧ (b = true ↔ LangEq A B)) ∧
    (∃ b, emptyM A driverFuel = some b ∧ (b = true ↔ LangEmpty A)) :=
  ⟨inclM_decides A B _ (driver_fuel_two A B hA hB).1, equivM_decides A B _ (driver_fuel_two A B hA hB).1,
    emptyM_decides A _ (driver_fuel_two A B hA hB).2⟩

example : MultiTotalEx.exEven.states.length ≤ 9 ∧ MultiTotalEx.exAll.states.length ≤ 9 := ⟨by decide, by decide⟩

/-- the arithmetic of the worst generated sizes: two operands of 9 states are covered with room to spare, 19 states
altogether is the last covered total, three operands of 9 states are not covered by the bound -/
theorem driver_fuel_worst :
    2 ^ (9 + 9) = 262144 ∧ 2 ^ (9 + 9) ≤ driverFuel ∧ 2 ^ 19 ≤ driverFuel ∧ driverFuel < 2 ^ 20 ∧
    2 ^ (9 + 9 + 9) = 134217728 ∧ driverFuel < 2 ^ (9 + 9 + 9) := by decide +kernel

/-- the bound really takes these values: automata with `n` rule-heading states each -/
def RefTotalEx.chain (n : Nat) : TA := ⟨(List.range n).map (fun q => ⟨0, [], q⟩), []⟩

example : fuelBoundM [RefTotalEx.chain 9, RefTotalEx.chain 9] = 262144 := by decide
example : driverFuel < fuelBoundM [RefTotalEx.chain 9, RefTotalEx.chain 9, RefTotalEx.chain 2] := by decide

/-!
## Not yet proved

* **Tightness.**  The bound counts classes of profiles, the loop needs only as many rounds as the tree height at which the
  last class appears; no lower bound on the number of rounds is proved (the examples `inclM exEven exAll 1 = none`,
  `inclRef exAll exEven 0 = none` only show that *some* fuel is needed).  In particular it is not proved that the driver
  can or cannot see `none` on three operands of 9 states: the proved bound (`2^27`) is above `FUEL` there.
* `driverFuel` is a copy of the driver's constant, not the constant itself (the library cannot import the driver).

## Closes (items of the "not yet proved" blocks)

* C01: "No totality theorem for the reference deciders `inclM`/`inclRef`" – `C01_reference_total`.
* C03: "No totality theorem for the reference deciders `equivM`, `emptyM`" – `C03_reference_total`.
* C06: "No totality theorem for the decider `isComplM`" – `C06_reference_total`, `C06_reference_bound`.
* C09: "No totality theorem for the references `inclW` / `W.inclRef`" – `C09_reference_total`.
* C10: "No totality theorem for the reference checkers `isUnionW`, `isIsectW`, `equivW`, `emptyW`" – `C10_reference_total`.
-/
end Vata.Props
