import Vata.CounterRows
import Vata.Proofs.LtsUtilCA
import Vata.Proofs.LtsEngineCalls2SCRun
/-!
# The counter rows: `getRowSize`, block bounds of every `SharedCounter` call, the wrongly sized allocator

Proofs for `Vata/CounterRows.lean`; user-facing statements in `Vata/Properties/C20_CounterRows.lean`.
-/
namespace Vata.CR
open Vata.L Vata.LU Vata.LEC2

theorem sqrt_mono {m n : Nat} (h : m ≤ n) : Nat.sqrt m ≤ Nat.sqrt n :=
  SC.le_sqrt_of_sq_le (Nat.le_trans (Nat.sqrt_le m) h)

theorem go_mono {t t' : Nat} (h : t ≤ t') : ∀ (fuel r : Nat), SC.getRowSize.go t fuel r ≤ SC.getRowSize.go t' fuel r := by
  intro fuel
  induction fuel with
  | zero => intro r; exact Nat.le_refl _
  | succ f ih =>
    intro r
    simp only [SC.getRowSize.go]
    by_cases h1 : r ≤ t
    · have h2 : r ≤ t' := by omega
      rw [if_pos h1, if_pos h2]; exact ih _
    · rw [if_neg h1]
      split
      · exact Nat.le_trans (by omega) (getRowSize_go_ge t' f (r * 2))
      · exact Nat.le_refl _

theorem getRowSize_mono {m n : Nat} (h : m ≤ n) : SC.getRowSize m ≤ SC.getRowSize n :=
  Nat.sub_le_sub_right (go_mono (Nat.div_le_div_right (sqrt_mono h)) 64 32) 1

/-- the third band: 127 from 16384 states up to 65535 -/
theorem getRowSize_large {n : Nat} (h1 : 16384 ≤ n) (h2 : n < 65536) : SC.getRowSize n = 127 := by
  have h3 : Nat.sqrt n < 256 := SC.sqrt_lt_of_lt_sq (by omega)
  have h4 : 128 ≤ Nat.sqrt n := SC.le_sqrt_of_sq_le (by omega)
  have h5 : 32 ≤ Nat.sqrt n / 2 := by omega
  have h6 : 64 ≤ Nat.sqrt n / 2 := by omega
  have h7 : ¬ 128 ≤ Nat.sqrt n / 2 := by omega
  simp [SC.getRowSize, SC.getRowSize.go, h5, h6, h7]

theorem getRowSize_ge_31 (n : Nat) : 31 ≤ SC.getRowSize n := by
  have := getRowSize_mono (Nat.zero_le n)
  rw [SC.getRowSize_small (n := 0) (by omega)] at this
  exact this

/-- the two sizes differ exactly from 4096 states on, when the other argument is below 4096 -/
theorem getRowSize_lt_iff {l n : Nat} (hl : l < 4096) : SC.getRowSize l < SC.getRowSize n ↔ 4096 ≤ n := by
  rw [SC.getRowSize_small hl]
  constructor
  · intro h
    apply Nat.le_of_not_lt
    intro hn
    rw [SC.getRowSize_small hn] at h
    omega
  · intro h
    have := getRowSize_mono h
    rw [SC.getRowSize_medium (n := 4096) (by omega) (by omega)] at this
    omega

theorem keyOf_eq_kx (cfg : SC.Cfg) (l q : Nat) : keyOf cfg l q = kx cfg l q := rfl

/-- with a block of `rowSize + 1` cells every access of every call is inside the block -/
theorem cellsOf_lt (cfg : SC.Cfg) (hrs : 0 < cfg.rowSize) (op : SC.Op) : ∀ j ∈ cellsOf cfg op, j < cfg.rowSize + 1 := by
  intro j hj
  cases op with
  | set i l q n | decr i l q =>
    simp only [cellsOf, List.mem_append, List.mem_cons, List.mem_nil_iff, or_false, List.mem_range] at hj
    have := Nat.mod_lt (keyOf cfg l q) hrs
    omega
  | init i | destroy i | copyLabels i k ls =>
    simp only [cellsOf, List.mem_cons, List.mem_nil_iff, or_false] at hj
    omega
  | new | copyCtor i | resize i n => cases hj

theorem opInBlock_of_le (c : Ctor) (cfg : SC.Cfg) (hrs : 0 < cfg.rowSize) (hc : cfg.rowSize + 1 ≤ c.allocSize) (op : SC.Op) :
    opInBlock c cfg op = true := by
  unfold opInBlock
  rw [List.all_eq_true]
  intro j hj
  have := cellsOf_lt cfg hrs op j hj
  exact decide_eq_true (by omega)

/-- the calls that touch a row block (all but the constructors and `resize`) -/
def touchesBlock : SC.Op → Bool
  | .set _ _ _ _ => true
  | .decr _ _ _ => true
  | .init _ => true
  | .destroy _ => true
  | .copyLabels _ _ _ => true
  | _ => false

/-- the reference-count cell `data_[rowSize_]` is among the accesses of every call that touches a block -/
theorem rowSize_mem_cellsOf (cfg : SC.Cfg) {op : SC.Op} (h : touchesBlock op = true) : cfg.rowSize ∈ cellsOf cfg op := by
  cases op <;> simp [touchesBlock] at h <;> simp [cellsOf]

/-- with a block of at most `rowSize` cells every call that touches a block has an access outside -/
theorem opInBlock_false (c : Ctor) (cfg : SC.Cfg) (hc : c.allocSize ≤ cfg.rowSize) {op : SC.Op}
    (h : touchesBlock op = true) : opInBlock c cfg op = false := by
  unfold opInBlock
  rw [List.all_eq_false]
  exact ⟨cfg.rowSize, rowSize_mem_cellsOf cfg h, by simp; omega⟩

theorem firstOverflow_none (c : Ctor) (cfg : SC.Cfg) : ∀ (ops : List SC.Op),
    (∀ op ∈ ops, opInBlock c cfg op = true) → firstOverflow c cfg ops = none := by
  intro ops
  induction ops with
  | nil =>
    intro _
    exact rfl
  | cons op ops ih =>
    intro h
    have h1 := h op (by simp)
    unfold opInBlock at h1
    rw [List.all_eq_true] at h1
    have : (cellsOf cfg op).find? (fun j => !decide (j < c.allocSize)) = none := by
      rw [List.find?_eq_none]
      intro j hj
      have := h1 j hj
      simp at this ⊢
      exact this
    unfold firstOverflow
    rw [this]
    exact ih (fun op' h' => h op' (by simp [h']))

theorem firstOverflow_some (c : Ctor) (cfg : SC.Cfg) : ∀ (ops : List SC.Op) {op : SC.Op},
    op ∈ ops → opInBlock c cfg op = false → ∃ op' j, firstOverflow c cfg ops = some (op', j) ∧ op' ∈ ops ∧
      j ∈ cellsOf cfg op' ∧ c.allocSize ≤ j := by
  intro ops
  induction ops with
  | nil =>
    intro _ h _
    exact by cases h
  | cons o ops ih =>
    intro op hmem hf
    unfold firstOverflow
    cases hfind : (cellsOf cfg o).find? (fun j => !decide (j < c.allocSize)) with
    | some j =>
      have h1 := List.find?_some hfind
      have h2 := List.mem_of_find?_eq_some hfind
      simp at h1
      exact ⟨o, j, rfl, by simp, h2, h1⟩
    | none =>
      rw [List.find?_eq_none] at hfind
      rcases List.mem_cons.1 hmem with h | h
      · subst h
        unfold opInBlock at hf
        rw [List.all_eq_false] at hf
        obtain ⟨j, hj, hlt⟩ := hf
        have := hfind j hj
        simp at this hlt
        omega
      · obtain ⟨op', j, g1, g2, g3, g4⟩ := ih h hf
        exact ⟨op', j, g1, by simp [g2], g3, g4⟩

/-- every call of a history inside the discipline is inside the discipline in the table world reached before it -/
theorem ok_at_split {cfg : SC.Cfg} {pre post : List SC.Op} {op : SC.Op}
    (h : SC.okAll cfg [] (pre ++ op :: post) = true) :
    SC.okAll cfg [] pre = true ∧ SC.ok cfg (SC.aRun cfg [] pre).1 op = true := by
  rw [sc_okAll_append, sc_okAll_cons] at h
  simp only [Bool.and_eq_true] at h
  exact ⟨h.1, h.2.1⟩

/-- `set` / `decr` inside the discipline: the `key_` access is in range, the key is the one `locate` computes, and the row
index is below the number of rows of the counter object in the table world -/
theorem ok_key_row {cfg : SC.Cfg} {aw : SC.AWorld} {op : SC.Op} (hok : SC.ok cfg aw op = true) :
    (∀ x, keyCellOf cfg op = some x → x < cfg.key.length) ∧
    (∀ i r, rowIdxOf cfg op = some (i, r) → ∃ a, aw.getD i none = some a ∧ r < a.rows) := by
  cases op with
  | set i l q n | decr i l q =>
    simp only [SC.ok] at hok
    cases ha : aw.getD i none with
    | none => rw [ha] at hok; cases hok
    | some a =>
      rw [ha] at hok
      unfold SC.keyIdx at hok
      by_cases hk : l * cfg.states + q < cfg.key.length ∧ 0 < cfg.rowSize
      · rw [if_pos hk] at hok
        simp only [Bool.and_eq_true, decide_eq_true_eq] at hok
        refine ⟨fun x hx => ?_, fun i' r hr => ?_⟩
        · cases hx; exact hk.1
        · cases hr
          exact ⟨a, ha, SC.P.div_lt_rows hok.1.2⟩
      · rw [if_neg hk] at hok; cases hok
  | init i | destroy i | copyLabels i k ls | new | copyCtor i | resize i n =>
    exact ⟨fun x hx => (by cases hx), fun i r hr => (by cases hr)⟩

/-- the number of rows of a live counter object is the number of rows of its table -/
theorem inv_cnt_len {cfg : SC.Cfg} {W : SC.World} {aw : SC.AWorld} (hinv : SC.Inv cfg W aw)
    {i : Nat} {a : SC.A} (ha : aw.getD i none = some a) : ∃ c, W.cnt i = some c ∧ c.length = a.rows := by
  obtain ⟨c, hc⟩ := hinv.live_some ha
  exact ⟨c, hc, (hinv.cnt i c a hc ha).len⟩

theorem allocV_eq_alloc (cfg : SC.Cfg) (m : SC.Mem) : allocV (cfg.rowSize + 1) cfg.poison m = SC.alloc cfg m := by
  unfold allocV SC.alloc SC.poisonRow
  cases m.free <;> rfl

theorem allocV_len (asz poison : Nat) (m : SC.Mem) :
    ((allocV asz poison m).2.cells.get (allocV asz poison m).1).length = asz := by
  unfold allocV
  cases m.free <;> simp [Heap.get_set_same]

/-- as coded (`asz = rowSize_ + 1`) the two writes are inside the block and the result is that of `SC.set` -/
theorem setFreshB_asCoded (cfg : SC.Cfg) (m : SC.Mem) {col : Nat} (count : Nat) (hcol : col < cfg.rowSize) :
    setFreshB (cfg.rowSize + 1) cfg m col count =
      some ((SC.alloc cfg m).1, SC.setCell (SC.setCell (SC.alloc cfg m).2 (SC.alloc cfg m).1 cfg.rowSize 0) (SC.alloc cfg m).1 col count) := by
  have hl := allocV_len (cfg.rowSize + 1) cfg.poison m
  unfold setFreshB
  simp only
  rw [allocV_eq_alloc] at hl ⊢
  have h1 : setCellB (SC.alloc cfg m).2 (SC.alloc cfg m).1 cfg.rowSize 0 =
      some (SC.setCell (SC.alloc cfg m).2 (SC.alloc cfg m).1 cfg.rowSize 0) := by
    unfold setCellB; rw [if_pos (by omega)]
  rw [h1]
  simp only
  have h2 : setCellB (SC.setCell (SC.alloc cfg m).2 (SC.alloc cfg m).1 cfg.rowSize 0) (SC.alloc cfg m).1 col count =
      some (SC.setCell (SC.setCell (SC.alloc cfg m).2 (SC.alloc cfg m).1 cfg.rowSize 0) (SC.alloc cfg m).1 col count) := by
    unfold setCellB; rw [if_pos (by rw [SC.P.setCell_len]; omega)]
  rw [h2]; rfl

/-- with an allocator of at most `rowSize_` cells the very first write to a fresh block, `row.data_[rowSize_] = 0`, is outside -/
theorem setFreshB_overflow (asz : Nat) (cfg : SC.Cfg) (m : SC.Mem) (col count : Nat) (h : asz ≤ cfg.rowSize) :
    setFreshB asz cfg m col count = none := by
  have hl := allocV_len asz cfg.poison m
  unfold setFreshB
  simp only
  have h1 : setCellB (allocV asz cfg.poison m).2 (allocV asz cfg.poison m).1 cfg.rowSize 0 = none := by
    unfold setCellB; rw [if_neg (by omega)]
  rw [h1]

/-- all blocks referenced by live counters of `W` have exactly `n` cells and come from the allocator -/
def BlocksSized (W : SC.World) (n : Nat) : Prop :=
  ∀ (i : Nat) (c : SC.Cnt) (r : Nat) (row : SC.Row) (p : Nat), W.cnt i = some c → c[r]? = some row → row.data = some p →
    (W.mem.cells.get p).length = n ∧ p < W.mem.next

/-- one call `op` of a history, at the moment it is made: the class as coded is defined before and at the call, every block
access index is below `rowSize + 1`, the `key_` access and the `data_[rowIndex]` access are in range, and all blocks referenced
before and after the call have exactly `rowSize + 1` cells -/
theorem call_safe {cfg : SC.Cfg} (hrs : 0 < cfg.rowSize) {pre post : List SC.Op} {op : SC.Op}
    (h : SC.okAll cfg [] (pre ++ op :: post) = true) :
    ∃ W outs W' out, SC.run cfg SC.World.empty pre = some (W, outs) ∧ SC.step cfg W op = some (W', out) ∧
      (∀ j ∈ cellsOf cfg op, j < cfg.rowSize + 1) ∧
      (∀ x, keyCellOf cfg op = some x → x < cfg.key.length) ∧
      (∀ i r, rowIdxOf cfg op = some (i, r) → ∃ c, W.cnt i = some c ∧ r < c.length) ∧
      BlocksSized W (cfg.rowSize + 1) ∧ BlocksSized W' (cfg.rowSize + 1) := by
  obtain ⟨hpre, hop⟩ := ok_at_split h
  obtain ⟨W, hrun, hinv⟩ := SC.run_refines_empty pre hpre
  obtain ⟨W', out, hstep, hinv', _⟩ := SC.step_refines hinv hop
  refine ⟨W, _, W', out, hrun, hstep, cellsOf_lt cfg hrs op, (ok_key_row hop).1, ?_, ?_, ?_⟩
  · intro i r hr
    obtain ⟨a, ha, hlt⟩ := (ok_key_row hop).2 i r hr
    obtain ⟨c, hc, hlen⟩ := inv_cnt_len hinv ha
    exact ⟨c, hc, by omega⟩
  · intro i c r row p hc hr hp; exact (SC.row_wellformed hinv hc hr hp).symm
  · intro i c r row p hc hr hp; exact (SC.row_wellformed hinv' hc hr hp).symm

end Vata.CR
