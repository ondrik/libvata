import Vata.Proofs.BddTraverse
/-!
# C07 – the BDD inclusion algorithms read their automata through MTBDD traversals

`Vata/Properties/C07.lean` proves "every verdict is exact" for models that read the BDD encoding as the identity on `TA`:
where the C++ calls `ForeachUpSymbolFromTupleAndTupleSetDo` / `ForeachDownSymbolFromStateAndStateSetDo`, the models iterate
over "the rules of the automaton", i.e. symbol by symbol.  The code does something else: it unites the MTBDDs of the
right-hand side (`UnionApplyFunctor`), runs a `VoidApply2Functor` over the MTBDD of the left-hand side and the united one, and
calls the inclusion functor once per pair of LEAVES reached – once per *class* of symbols (a path of the combined diagram),
never per symbol, and through a cache of visited node pairs.  `Vata/BddTraverse.lean` models the two traversals as coded on
the table models of C08 (`Vata/BddAbs.lean`, `Vata/BddAbsTD.lean`) and `CheckUpwardTreeInclusion` on top of the upward one;
here are the consequences for C07 (theorems: `Vata/Proofs/BddTraverse.lean`).
-/
namespace Vata.Props
open Vata.M Vata.BddAbs Vata.BddAbsTD Vata.BddTraverse Vata.InclUp

/-- **what the upward traversal enumerates.**  For any tables, tuple `ks` and tuple set: every valuation `ρ` of the symbol
variables lies in exactly one class of the traversal (the paths of the combined MTBDD partition the symbols), and the
callback of that class receives exactly the data the per-symbol loop of the abstract model computes for `ρ`: the left set is
`{p | ρ(ks) → p ∈ A}` (the very leaf, as a sorted vector), the right set is `{q | ρ(k) → q ∈ B, k ∈ tupleSet}` -/
theorem C07_traverse_up_spec (TA TB : Table) (ks : List Nat) (tuples : List (List Nat)) (ρ : Nat → Bool) :
    (travUpP TA TB ks tuples).countP (fun c => inPath ρ c.1) = 1 ∧
    ∀ c, c ∈ travUpP TA TB ks tuples → inPath ρ c.1 = true →
      c.2.1 = eval (TA.get ks) ρ ∧ (∀ p, p ∈ c.2.1 ↔ HasRule TA ρ ks p) ∧
      (∀ q, q ∈ c.2.2 ↔ ∃ k, k ∈ tuples ∧ HasRule TB ρ k q) :=
  foreachUp_spec TA TB ks tuples ρ

-- two symbol bits: four paths for the empty tuple (the class of the symbols 0, 1 of `A` is split because `B` tests bit 0)
#guard (travUpP TravEx.TA2 TravEx.TB2 [] [[]]).map symItem == [(0, [1], [3]), (1, [1], [4]), (2, [1], [3]), (3, [], [4])]
#guard (travUpP TravEx.TA2 TravEx.TB2 [] [[]]).map (fun c => inPath (bits 2) c.1) == [false, false, true, false]

/-- **what the code really calls** (`VoidApply2Functor` with its cache of visited node pairs, cleared per traversal): every
call is the call of one of the classes above, and the pair of leaves of every class is delivered by some call; on ordered
reduced tables over `n` symbol bits no class is empty – it contains the concrete symbol `reprSym π < 2 ^ n`, its smallest -/
theorem C07_traverse_up_calls {n : Nat} (TA TB : Table) (hA : TableWFn n TA) (hB : TableWFn n TB) (ks : List Nat)
    (tuples : List (List Nat)) :
    (∀ c, c ∈ travUp TA TB ks tuples → c ∈ travUpP TA TB ks tuples) ∧
    (∀ c, c ∈ travUpP TA TB ks tuples → ∃ c', c' ∈ travUp TA TB ks tuples ∧ c'.2 = c.2) ∧
    (∀ c, c ∈ travUpP TA TB ks tuples → reprSym c.1 < 2 ^ n ∧ inPath (bits (reprSym c.1)) c.1 = true ∧
      ∀ f, inPath (bits f) c.1 = true → reprSym c.1 ≤ f) :=
  ⟨fun _ => voidApply2Calls_sub _ _, fun _ => voidApply2Calls_cover _ _, fun _ hc => foreachUp_class_nonempty hA hB ks tuples hc⟩

-- the cache drops the second visit of the pair of leaves `([1], [3])`
#guard (travUp TravEx.TA2 TravEx.TB2 [] [[]]).map symItem == [(0, [1], [3]), (1, [1], [4]), (3, [], [4])]
example : TableWFn 2 TravEx.TA2 ∧ TableWFn 2 TravEx.TB2 := ⟨TravEx.TA2_wf, TravEx.TB2_wf⟩

/-- the united right-hand MTBDD does not depend on the order in which the tuple set is enumerated (`std::set` order in the
code, list order in the model): equal tuple SETS give the identical diagram, hence the same classes -/
theorem C07_traverse_union_order {n : Nat} {T : Table} (hT : TableWFn n T) {l₁ l₂ : List (List Nat)}
    (h : ∀ k, k ∈ l₁ ↔ k ∈ l₂) : unionAll T l₁ = unionAll T l₂ := by
  refine (eq_iff_sem (unionAll_wf hT l₁).1 (unionAll_wf hT l₂).1).mpr (fun ρ => ?_)
  refine pairwise_lt_ext (sorted_eval_unionAll T ρ l₁) (sorted_eval_unionAll T ρ l₂) (fun q => ?_)
  simp only [mem_eval_unionAll, h]

example : unionAll TravEx.TB2 [[3, 3], [4, 4], [4, 3]] = unionAll TravEx.TB2 [[4, 3], [4, 4], [3, 3], [4, 4]] :=
  C07_traverse_union_order TravEx.TB2_wf (by intro k; simp only [List.mem_cons, List.not_mem_nil, or_false]; grind)

/-- **the callback's effect depends only on the two sets.**  For ANY callback whose repetition has no effect (`Idem`: a
successful call marks its pair of leaves, the mark survives later calls, a call on a marked pair changes nothing – a
stopped traversal is an error and ends both runs), on ordered reduced diagrams over `n` variables, these three runs are the
same: (1) the loop over all `2 ^ n` symbols in increasing order, calling the callback with the two leaves the symbol
selects (what the abstract models do); (2) one call per class (path) of the combined diagram; (3) the calls of
`VoidApply2Functor` as coded, with its cache.  The symbol handed to the callback is ghost (used for the witness trees); in (2)
and (3) it is the smallest symbol of the class -/
theorem C07_traverse_symbols_vs_classes {α β σ ε : Type} [DecidableEq α] [DecidableEq β]
    {act : Nat × α × β → σ → Except ε σ} {D : α × β → σ → Prop} (hI : Idem act (fun i => i.2) D) (n : Nat)
    (a : Node α) (b : Node β) (wa : WF a) (wb : WF b) (ba : Below n a) (bb : Below n b) (s : σ) :
    runL act ((List.range (2 ^ n)).map (fun f => (f, eval a (bits f), eval b (bits f)))) s =
      runL act ((voidApply2P a b).map symItem) s ∧
    runL act ((voidApply2Calls a b).map symItem) s = runL act ((voidApply2P a b).map symItem) s := by
  have h1 := symLoop_eq_trav hI n a b 0 wa wb ba bb s
  have h2 := voidApply2Calls_run hI a b reprSym s
  refine ⟨?_, h2⟩
  simpa [symItems, travItems, symItem_eq] using h1

/-- `UpwardInclusionFunctor::operator()` is such a callback: once it has run on `(lhs, rhs)`, every pair `(p, rhs)`, `p ∈ lhs`,
is subsumed by the antichain, stays subsumed, and a second run changes nothing -/
theorem C07_traverse_up_functor_idempotent (FA FB : List Nat) (ts : List Tree) :
    Idem (actUp FA FB ts) (fun i => i.2)
      (fun (k : List Nat × List Nat) (st : InclUpBdd.St) => ∀ p, p ∈ k.1 → Subsumed st.antichain p k.2) :=
  idem_actUp FA FB ts

example : actUp [2] [9] [] (0, [1], [3]) ⟨[], []⟩ = .ok ⟨[⟨1, [3], .node 0 []⟩], [⟨1, [3], .node 0 []⟩]⟩ := rfl
example : actUp [2] [9] [] (7, [1], [3]) ⟨[⟨1, [3], .node 0 []⟩], []⟩ = .ok ⟨[⟨1, [3], .node 0 []⟩], []⟩ := rfl

/-- **refinement, one traversal.**  On ordered reduced tables over `n` symbol bits (a tuple listed once in the table of `A`)
`ForeachUpSymbolFromTupleAndTupleSetDo(A, B, ks, S₁ × … × Sₙ, upFctor)` as coded acts on the antichain and the work-set exactly like
`InclUpBdd.foreachUp` of the abstract model on the dumped automata `absBU [0 … 2ⁿ-1] T F` -/
theorem C07_traverse_up_refines (n : Nat) (TA TB : Table) (FA FB : List Nat) (hA : TableWFn n TA) (hB : TableWFn n TB)
    (hk : TA.keys.Nodup) (ks : List Nat) (Ss : List (List Nat)) (ts : List Tree) (st : InclUpBdd.St) :
    foreachUpT TA TB FA FB ks Ss ts st =
      InclUpBdd.foreachUp (absBU (List.range (2 ^ n)) TA FA) (absBU (List.range (2 ^ n)) TB FB) ks Ss ts
        (absBU (List.range (2 ^ n)) TA FA).rules st :=
  foreachUpT_eq_abs n TA TB FA FB hA hB hk ks Ss ts st

/-- **refinement, the algorithm.**  `CheckUpwardTreeInclusion` run on the transition tables through the symbolic traversals
(`runT`) IS the run of the abstract model `InclUpBdd.run` on the automata the tables denote over all `2 ^ n` symbols – the
same antichain (with the same ghost trees), the same counterexample, the same fuel; hence the uncertified verdict of the
traversal-based algorithm is the certified verdict of `inclUpBdd`, and it is exact -/
theorem C07_traverse_upward_algorithm (n : Nat) (TA TB : Table) (FA FB : List Nat) (hA : TableWFn n TA) (hB : TableWFn n TB)
    (hk : TA.keys.Nodup) (fuel : Nat) :
    runT TA FA TB FB fuel =
      InclUpBdd.run (absBU (List.range (2 ^ n)) TA FA) (absBU (List.range (2 ^ n)) TB FB) fuel ∧
    inclUpTrav TA FA TB FB fuel =
      (inclUpBdd (absBU (List.range (2 ^ n)) TA FA) (absBU (List.range (2 ^ n)) TB FB) fuel).map (·.1) ∧
    (∀ b, inclUpTrav TA FA TB FB fuel = some b →
      (b = true ↔ Incl (absBU (List.range (2 ^ n)) TA FA) (absBU (List.range (2 ^ n)) TB FB))) :=
  ⟨runT_eq_run n TA TB FA FB hA hB hk fuel, inclUpTrav_eq n TA TB FA FB hA hB hk fuel,
    fun _ h => inclUpTrav_iff n TA TB FA FB hA hB hk h⟩

-- both sides evaluated on the two-bit example (runs with their ghost trees), both directions
#guard TravEx.showRun (runT TravEx.TA2 [2] TravEx.TB2 [9] 10) ==
  TravEx.showRun (InclUpBdd.run (absBU (List.range 4) TravEx.TA2 [2]) (absBU (List.range 4) TravEx.TB2 [9]) 10)
#guard inclUpTrav TravEx.TA2 [2] TravEx.TB2 [9] 10 == some true && inclUpTrav TravEx.TB2 [9] TravEx.TA2 [2] 10 == some false
example : TravEx.TA2.keys.Nodup := TravEx.TA2_keys

/-- **loaded automata** (`AddTransition` for every rule, 16-bit symbols; C08 gives `HasRule (ofRules rs) … ↔ rule ∈ rs`): the
hypotheses above hold, and every verdict of the traversal-based upward algorithm on the loaded tables is exact for the
automata that were loaded -/
theorem C07_traverse_upward_loaded (A B : TA) (hA : ∀ r, r ∈ A.rules → r.sym < 2 ^ 16) (hB : ∀ r, r ∈ B.rules → r.sym < 2 ^ 16) :
    (TableWFn 16 (ofRules A.rules) ∧ TableWFn 16 (ofRules B.rules) ∧ (ofRules A.rules).keys.Nodup) ∧
    ∀ fuel b, inclUpTrav (ofRules A.rules) A.final (ofRules B.rules) B.final fuel = some b → (b = true ↔ Incl A B) :=
  ⟨⟨tableWF_ofRules _, tableWF_ofRules _, keys_ofRules _⟩, fun _ _ h => inclUpTrav_ofRules A B hA hB h⟩

-- the automata of defect D9 (`g(a,b)`), loaded into 16-bit tables: `false`, the converse `true`
#guard inclUpTrav (ofRules BddAbsEx.rsA) [2] (ofRules BddAbsEx.rsB) [9] 10 == some false
#guard inclUpTrav (ofRules BddAbsEx.rsB) [9] (ofRules BddAbsEx.rsA) [2] 10 == some true
example : (∀ r, r ∈ BddAbsEx.rsA → r.sym < 2 ^ 16) ∧ (∀ r, r ∈ BddAbsEx.rsB → r.sym < 2 ^ 16) := ⟨by decide, by decide⟩

/-- **what the downward traversal enumerates.**  For any top-down tables, state `p` and state set `P`: every valuation `ρ` of
the 16 symbol and 6 arity variables lies in exactly one class, whose callback receives `{ks | ρ(ks) → p ∈ A}` and
`{ks | ρ(ks) → q ∈ B, q ∈ P}`; the calls of the code (with the cache) are calls of these classes and deliver every pair of
leaves; and for a callback whose repetition has no effect the cache is transparent -/
theorem C07_traverse_down_spec (TA TB : TableTD) (p : Nat) (P : List Nat) :
    (∀ ρ, (travDownP TA TB p P).countP (fun c => inPath ρ c.1) = 1 ∧
      ∀ c, c ∈ travDownP TA TB p P → inPath ρ c.1 = true →
        c.2.1 = eval (getTD TA p) ρ ∧ (∀ ks, ks ∈ c.2.1 ↔ HasRuleTD TA ρ p ks) ∧
        (∀ ks, ks ∈ c.2.2 ↔ ∃ q, q ∈ P ∧ HasRuleTD TB ρ q ks)) ∧
    (∀ c, c ∈ travDown TA TB p P → c ∈ travDownP TA TB p P) ∧
    (∀ c, c ∈ travDownP TA TB p P → ∃ c', c' ∈ travDown TA TB p P ∧ c'.2 = c.2) ∧
    (∀ {σ ε : Type} {act : List (List Nat) × List (List Nat) → σ → Except ε σ}
      {D : List (List Nat) × List (List Nat) → σ → Prop}, Idem act (fun i => i) D → ∀ s,
      foreachDownT TA TB p P act s = runL act ((travDownP TA TB p P).map (·.2)) s) :=
  ⟨fun ρ => foreachDown_spec TA TB p P ρ, fun _ => voidApply2Calls_sub _ _, fun _ => voidApply2Calls_cover _ _, fun hI s => by
    unfold foreachDownT travDown travDownP
    rw [voidApply2Calls_eq_firsts, runL_map, runL_map]
    exact runL_firsts (act := fun i s => _) ⟨fun h => hI.done h, fun hd h => hI.keep hd h, fun hd => hI.skip hd⟩ _ [] s
      (fun _ h => nomatch h)⟩

#guard (travDown (ofRulesTD BddAbsEx.rsB) (ofRulesTD BddAbsEx.rsA) 9 [2]).map (·.2) == [([], []), ([[3, 3], [4, 4]], [[1, 1]])]

/-- **the downward traversal against the abstract downward model**, for LOADED top-down tables: the abstract `InclDown.body`
iterates over the groups `(f, n)` of `lhsGroups A p` with the tuple sets `lhsTuples A p f n`, `rhsTuples B P f n`; the class of
the symbol `f` with arity `n` hands exactly these two sets (as sets) to `DownwardInclusionFunctor::operator()`, and its left
set is empty – the functor returns at once – exactly when `(f, n)` is not a group of `p` -/
theorem C07_traverse_down_loaded (A B : TA) (hA : ∀ r, r ∈ A.rules → r.sym < 2 ^ 16 ∧ r.kids.length < 64)
    (hB : ∀ r, r ∈ B.rules → r.sym < 2 ^ 16 ∧ r.kids.length < 64) (p : Nat) (P : List Nat) {f n : Nat} (hf : f < 2 ^ 16)
    (hn : n < 64) {c : Path × List (List Nat) × List (List Nat)}
    (hc : c ∈ travDownP (ofRulesTD A.rules) (ofRulesTD B.rules) p P) (hp : inPath (bitsAr f n) c.1 = true) :
    (∀ ks, ks ∈ c.2.1 ↔ ks ∈ InclDown.lhsTuples A p f n) ∧ (∀ ks, ks ∈ c.2.2 ↔ ks ∈ InclDown.rhsTuples B P f n) ∧
    (c.2.1 ≠ [] ↔ (f, n) ∈ InclDown.lhsGroups A p) := by
  obtain ⟨_, h1, h2⟩ := (foreachDown_spec _ _ p P (bitsAr f n)).2 c hc hp
  have l1 : ∀ ks, ks ∈ c.2.1 ↔ ks ∈ InclDown.lhsTuples A p f n := by
    intro ks
    rw [h1, absTD_ofRules A.rules hA f hf n hn, InclDown.mem_lhsTuples]
    constructor
    · rintro ⟨hr, rfl⟩; exact ⟨_, hr, rfl, rfl, rfl, rfl⟩
    · rintro ⟨r, hr, rfl, rfl, rfl, rfl⟩; exact ⟨hr, rfl⟩
  refine ⟨l1, fun ks => ?_, ?_⟩
  · rw [h2, InclDown.mem_rhsTuples]
    constructor
    · rintro ⟨q, hq, hr⟩
      rw [absTD_ofRules B.rules hB f hf n hn] at hr
      exact ⟨_, InclDown.mem_rulesOf.mpr ⟨hr.1, hq, rfl, hr.2.symm⟩, rfl⟩
    · rintro ⟨r, hr, rfl⟩
      obtain ⟨g1, g2, rfl, rfl⟩ := InclDown.mem_rulesOf.mp hr
      exact ⟨r.parent, g2, (absTD_ofRules B.rules hB _ hf _ hn _ _).mpr ⟨g1, rfl⟩⟩
  · rw [InclDown.mem_lhsGroups]
    constructor
    · intro hne
      obtain ⟨ks, hks⟩ := List.exists_mem_of_ne_nil _ hne
      obtain ⟨r, hr, e1, e2, e3, _⟩ := InclDown.mem_lhsTuples.mp ((l1 ks).mp hks)
      exact ⟨r, hr, e1, e2, e3⟩
    · rintro ⟨r, hr, e1, e2, e3⟩ he
      have : r.kids ∈ c.2.1 := (l1 _).mpr (InclDown.mem_lhsTuples.mpr ⟨r, hr, e1, e2, e3, rfl⟩)
      rw [he] at this
      cases this

#guard InclDown.lhsTuples ⟨BddAbsEx.rsB, [9]⟩ 9 2 2 == [[3, 3], [4, 4]] && InclDown.rhsTuples ⟨BddAbsEx.rsA, [2]⟩ [2] 2 2 == [[1, 1]]
#guard (travDownP (ofRulesTD BddAbsEx.rsB) (ofRulesTD BddAbsEx.rsA) 9 [2]).any
  (fun c => inPath (bitsAr 2 2) c.1 && c.2 == ([[3, 3], [4, 4]], [[1, 1]]))
example : ∀ r, r ∈ BddAbsEx.rsB → r.sym < 2 ^ 16 ∧ r.kids.length < 64 := by decide

/-!
## what this file closes / leaves open in `Vata/Properties/C07.lean` ("not yet proved")

* item **"The encodings themselves"**, for the part *"the traversals `ForeachUpSymbolFromTupleAndTupleSetDo` /
  `ForeachDownSymbolFromStateAndStateSetDo` as MTBDD applies [are] replaced by 'the rules of the automaton'"*:
  - CLOSED for the bottom-up encoding / upward algorithm: the traversal is modelled as coded (union by `apply2`, `VoidApply2Functor`
    with its node-pair cache, callback per pair of leaves) and `CheckUpwardTreeInclusion` on the tables is proved EQUAL, run for
    run, to the abstract model `InclUpBdd.run` on the dumped automata (`C07_traverse_upward_algorithm`); with C08
    (`absBU_ofRules`) this gives exactness for loaded automata without reading the encoding as the identity
    (`C07_traverse_upward_loaded`).  The 16-bit symbol encoding enters as `n = 16`: `absBU (List.range (2 ^ 16))`.
  - for the top-down encoding / downward algorithms: CLOSED at the level of the traversal (`C07_traverse_down_spec`,
    `C07_traverse_down_loaded`: the callback receives exactly the tuple sets the abstract `InclDown.body` computes per group).
    OPEN: the run-for-run refinement of `expand`/`DownwardInclusionFunctor` on the tables (the downward functor is not
    idempotent in the sense used here – it recurses and fills caches –, the abstract model iterates the groups in list
    order, the code in path order; the verdict is order-independent by `C07_td_downward_models_exact`, but the equality of
    the two runs is not proved).
* still open from that item: `GetTopDownAut` inside the inclusion route (its table-level correctness is C08,
  `absTD_invert`), the model of `StateTupleSet` leaves as `std::set` order (the model uses the sorted vectors of
  `BddAbsTD`), and the link from these models to the C++ (there is no `traverse` driver kind).
* not modelled: the tuple map of the transition table is a hash map; `Table.keys` (list order) stands for its iteration
  order; `runT_eq_run` holds for every order (any `Table` with `keys.Nodup`).
-/
end Vata.Props
