import Vata.Proofs.CliArgs
import Vata.Proofs.CliArgsHelpText
/-!
# The command line of the `vata` binary – the help text against the code, and facts about `performOperation`
-/
namespace Vata.CliArgs
open Vata.Dispatch (fRec)

def hasInfix (pat : Str) : Str → Bool
  | [] => pat.isEmpty
  | c :: r => pat.isPrefixOf (c :: r) || hasInfix pat r

/-- the text between the first two `'` of a line -/
def quoted (l : Str) : Option Str :=
  match l.dropWhile (· != '\'') with
  | [] => none
  | _ :: r => if r.contains '\'' then some (r.takeWhile (· != '\'')) else none

/-- the options a block of help lines marks with `(default)` -/
def claimedDefaults (lines : List Str) : List Str :=
  lines.filterMap (fun l => if hasInfix (lit "(default)") l then quoted l else none)

def listedOptions (lines : List Str) : List Str := lines.filterMap quoted

/-- the option lines below the line of a command: the lines after the one starting with `    <cmd> ` up to the next line
that is not indented by six blanks -/
def sectionOf (cmd : Str) (lines : List Str) : List Str :=
  ((lines.dropWhile (fun l => !(lit "    " ++ cmd ++ lit " ").isPrefixOf l)).drop 1).takeWhile
    (fun l => (lit "      ").isPrefixOf l)

/-- … of `VATA_USAGE_COMMANDS` (the model's strings; `usageCommands_chars`: = `sectionOf cmd usageCommandsL`) -/
def helpSection (cmd : String) : List Str := sectionOf (lit cmd) (usageCommands.map String.toList)

theorem helpSection_eq (cmd : String) : helpSection cmd = sectionOf (lit cmd) usageCommandsL := by
  unfold helpSection; rw [usageCommands_chars]

def helpLine (s : Str) : Prop := s ∈ usageCommands.map String.toList ∨ s ∈ usageFlags.map String.toList

theorem helpLine_iff (s : Str) : helpLine s ↔ s ∈ usageCommandsL ∨ s ∈ usageFlagsL := by
  unfold helpLine; rw [usageCommands_chars, usageFlags_chars]

/-- `name=value` as a pair -/
def asPair (s : Str) : Str × Str := (s.takeWhile (· != '='), (s.dropWhile (· != '=')).drop 1)

/-- the `incl` block of the help text, read once: the options it lists; the ones it marks `(default)`; these, read as a map,
are exactly the map `CheckInclusion` works with when no option is given; every listed `name=value` is accepted (and nothing
else is, `checkInclusionOpts_ok_iff`: the listed words are the two words of each block); the two options listed for `rec` -/
theorem help_incl :
    (listedOptions (helpSection "incl")).map String.ofList =
      ["alg=antichains", "alg=congr", "dir=down", "dir=up", "sim=yes", "sim=no", "order=depth", "order=breadth", "optC=yes",
       "optC=no", "rec=no", "rec=yes", "timeS=yes", "timeS=no"] ∧
    (claimedDefaults (helpSection "incl")).map String.ofList =
      ["alg=antichains", "dir=up", "sim=no", "order=depth", "optC=no", "rec=no", "timeS=yes"] ∧
    insertAll ((claimedDefaults (helpSection "incl")).map asPair) [] = inclDefaults [] ∧
    ((listedOptions (helpSection "incl")).map asPair).all (fun kv => (checkInclusionOpts [kv]).toOption.isSome) = true ∧
    (listedOptions (helpSection "incl")).filter (fun o => (lit "rec=").isPrefixOf o) = [lit "rec=no", lit "rec=yes"] := by
  rw [helpSection_eq]; decide +kernel

theorem help_incl_defaults : (claimedDefaults (helpSection "incl")).map String.ofList =
    ["alg=antichains", "dir=up", "sim=no", "order=depth", "optC=no", "rec=no", "timeS=yes"] := help_incl.2.1

/-- the help text: `rec=no` is "recursive", `rec=yes` "non-recursive" -/
theorem help_rec_lines :
    "               'rec=no'   : recursive version of the algorithm (default)\n" ∈ usageCommands ∧
    "               'rec=yes'  : non-recursive version of the algorithm\n" ∈ usageCommands :=
  ⟨List.mem_of_getElem? (i := 30) rfl, List.mem_of_getElem? (i := 31) rfl⟩

/-- the code: `rec=no` CLEARS `FLAG_MASK_RECURSIVE`, `rec=yes` sets it … -/
theorem coded_rec {opts : Options} (hs : SortedMap opts) {c : InclChoice} (h : checkInclusionOpts opts = .ok c) :
    (optVal opts "rec" "no" = lit "no" → Vata.Dispatch.has c.word fRec = false) ∧
    (optVal opts "rec" "no" = lit "yes" → Vata.Dispatch.has c.word fRec = true) := by
  have h3 := ((checkInclusionOpts_ok_iff hs c).mp h).2.2.1
  have hw := (word_spec c).2.2.1
  rw [hw]
  cases hr : c.recursive
  · rw [hr] at h3; simp only [Bool.false_eq_true, if_false] at h3
    rw [h3]; exact ⟨fun _ => rfl, fun e => absurd e (by decide)⟩
  · rw [hr] at h3; simp only [if_true] at h3
    rw [h3]; exact ⟨fun e => absurd e (by decide), fun _ => rfl⟩

/-- … and in every tree-automata dispatcher the cases with that bit are the RECURSIVE implementations (`downRec`: the
recursive `CheckDownwardTreeInclusion`, `viaTopDown`: the same through the top-down encoding), the cases without it the
non-recursive ones (`explUp`, `bddUp`, `explDownNonrec`) -/
theorem rec_bit_is_recursive :
    (Vata.Gen.explDispatch ++ Vata.Gen.tdDispatch ++ Vata.Gen.buDispatch).all (fun c =>
      Vata.Dispatch.has c.word fRec == (c.callee == "downRec" || c.callee == "viaTopDown")) = true := by
  simp only [Vata.Dispatch.flag_values]; decide +kernel

/-- with no options at all the word is 0 = `ANTICHAINS_UP_NOSIM`: upward, NON-recursive, no simulation -/
theorem default_word : (checkInclusionOpts []).map (·.word) = .ok 0 ∧
    Vata.Gen.namedWords.lookup "ANTICHAINS_UP_NOSIM" = some 0 := by
  refine ⟨?_, Vata.Dispatch.named_words.1⟩
  simp only [InclChoice.word, Vata.Dispatch.flag_values]; decide +kernel

theorem help_sim_defaults : (claimedDefaults (helpSection "sim")).map String.ofList = ["dir=down", "dir=fwd"] := by
  rw [helpSection_eq]; decide +kernel

/-- the help text claims `dir=fwd` as the default for finite automata; the code inserts `dir=down` whatever the
representation (the option handling of `ComputeSimulation` does not look at it): without `-o` the relation is
`TA_DOWNWARD`; `FA_FORWARD` / `FA_BACKWARD` only on request -/
theorem coded_sim_default : computeSimulationOpts [] = .ok relDown ∧
    computeSimulationOpts [(lit "dir", lit "fwd")] = .ok relFwd ∧
    computeSimulationOpts [(lit "dir", lit "bwd")] = .ok relBwd ∧
    computeSimulationOpts [(lit "dir", lit "up")] = .ok relUp := by decide +kernel

theorem help_red : (listedOptions (helpSection "red")).map String.ofList = ["dir=down", "dir=up"] ∧
    (claimedDefaults (helpSection "red")).map String.ofList = ["dir=down"] := by rw [helpSection_eq]; decide +kernel

/-- `red`: the default is `dir=down` as claimed; the listed `dir=up` is refused with `Unimplemented.` -/
theorem coded_red : computeReductionOpts [] = .ok () ∧
    computeReductionOpts [(lit "dir", lit "up")] = .error (lit "Unimplemented.") := by decide +kernel

theorem help_equiv : (listedOptions (helpSection "equiv")).map String.ofList = ["order=depth", "order=breadth"] := by
  rw [helpSection_eq]; decide +kernel

/-- the representation / format defaults of the flags block, and "(stronger than -p)" -/
theorem help_flags :
    "       Choices: 'expl'   : explicit (default)\n" ∈ usageFlags ∧
    "       Formats: 'timbuk'  : Timbuk format (default)\n" ∈ usageFlags ∧
    "    -s                      Prune useless states first (stronger than -p)\n" ∈ usageFlags :=
  ⟨List.mem_of_getElem? (i := 4) rfl, List.mem_of_getElem? (i := 9) rfl, List.mem_of_getElem? (i := 14) rfl⟩

theorem coded_flag_defaults : ({} : Arguments).representation = .expl ∧ ({} : Arguments).inputFormat = .timbuk ∧
    ({} : Arguments).outputFormat = .timbuk := ⟨rfl, rfl, rfl⟩

/-- `-p` / `-s` have NO effect on `witness`, `incl`, `equiv`, `sim` (silently ignored) -/
theorem perform_prune_ignored (a : Arguments) (h : prunes a.command = false) (p s : Bool) :
    perform { a with pruneUnreachable := p, pruneUseless := s } = perform a := by
  unfold perform
  simp only [h, Bool.false_and, Bool.false_eq_true, if_false]

/-- `-s` is "stronger than `-p`": with `-s` given, `-p` changes nothing -/
theorem perform_useless_wins (a : Arguments) (h : a.pruneUseless = true) (p : Bool) :
    perform { a with pruneUnreachable := p } = perform a := by
  unfold perform
  simp only [h, if_true]

/-- `-n`: nothing is written to the standard output -/
theorem perform_no_output (a : Arguments) (h : a.dontOutputResult = true) : (perform a).out = [] := by
  unfold perform
  extract_lets
  clear_value *
  -- `split` rewrites the `if a.dontOutputResult` of the last branch with `h`
  split
  · rfl
  · split <;> rfl

/-- the commands that prune, each with both flags, on the recording automaton: `-s` alone, `-p` alone, both, none -/
theorem perform_prune_examples :
    String.ofList (perform { command := .load, operands := 1, fileName1 := lit "A", pruneUseless := true }).out =
      "dump(us(ld(A,));A>0)\n" ∧
    String.ofList (perform { command := .load, operands := 1, fileName1 := lit "A", pruneUnreachable := true }).out =
      "dump(ur(ld(A,));A>0)\n" ∧
    String.ofList (perform { command := .load, operands := 1, fileName1 := lit "A", pruneUnreachable := true, pruneUseless := true }).out =
      "dump(us(ld(A,));A>0)\n" ∧
    String.ofList (perform { command := .witness, operands := 1, fileName1 := lit "A", pruneUseless := true }).out =
      "dump(cand(ld(A,));A>0)\n" ∧
    String.ofList (perform { command := .union, operands := 2, fileName1 := lit "B", fileName2 := lit "A", pruneUnreachable := true }).out =
      "dump(union(ur(ld(B,)),ur(ld(A,)));A_2>1,B_1>0)\n" := by decide +kernel

/-- which dictionary the dump uses: the first operand's for `load` / `witness` / `red`; NONE for `cmpl` unless the
representation is `expl_fa`; the union / product dictionary for `union` / `isect` -/
theorem perform_dump_examples :
    String.ofList (perform { command := .cmpl, operands := 1, fileName1 := lit "A" }).out =
      "dump(cmpl(ld(A,)))\n" ∧
    String.ofList (perform { command := .cmpl, operands := 1, fileName1 := lit "A", representation := .explFa }).out =
      "dump(cmpl(ld(A,));A>0)\n" ∧
    String.ofList (perform { command := .red, operands := 1, fileName1 := lit "A" }).out =
      "dump(red(ld(A,));A>0)\n" ∧
    String.ofList (perform { command := .isect, operands := 2, fileName1 := lit "A", fileName2 := lit "B" }).out =
      "dump(isect(ld(A,),ld(B,));[A_1|B_2]>0)\n" := by decide +kernel

/-- `incl` with `sim=yes`: the simulation is computed BEFORE the dispatcher is reached – on the disjoint union for the
antichain algorithms, but with `alg=congr` on the default-constructed (empty) automaton `unionAut` while the union replaces
`smaller` -/
theorem perform_incl_sim_examples :
    ((perform { command := .incl, operands := 2, fileName1 := lit "A", fileName2 := lit "B",
                 options := [(lit "sim", lit "yes")] }).log.drop 4).map String.ofList =
      ["sim(udisj(ri(us(ld(A,))),ri(us(ld(B,)))),1,2)", "incl(ri(us(ld(A,))),ri(us(ld(B,))),16)"] ∧
    ((perform { command := .incl, operands := 2, fileName1 := lit "A", fileName2 := lit "B",
                 options := [(lit "alg", lit "congr"), (lit "sim", lit "yes")] }).log.drop 4).map String.ofList =
      ["sim(0,1,2)", "incl(udisj(ri(us(ld(A,))),ri(us(ld(B,)))),ri(us(ld(B,))),17)"] := by decide +kernel

end Vata.CliArgs
