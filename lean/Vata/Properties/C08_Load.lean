import Vata.Proofs.BddLoad
/-!
# C08 / C13 (continued) – the Timbuk layer of the BDD encodings

> A Timbuk automaton loaded into either BDD encoding and dumped again denotes the same language as in the explicit
> encoding.  (C08)
> … and for every automaton in any of the four encodings, dumping it and loading the text again yields the same rules and
> final states under the same state names.  (C13)

`C08.lean` and `C08_Tables.lean` start from rule lists with symbol NUMBERS.  This file covers what lies between an
`AutDescription` and the tables, for both symbolic encodings (`-r bdd-bu`, `-r bdd-td`): `LoadableAut::LoadFromAutDesc` /
`DumpToAutDesc`, `loadFromAutDescExplicit` / `…Symbolic`, `dumpToAutDescExplicit` / `…Symbolic`, the symbol dictionary of
`SymbolicTreeAutBase::OnTheFlyAlphabet` with its 16-bit counter, the state dictionary, `addArityToSymbol`.  Composed with
the text layer of `C13.lean` (`parse_serialize`) it gives the round trips through the text.

## How the statements are read into the model

* **Model** (`Vata/BddLoad.lean`, executable; `Driver/BddLoadChk.lean` compares it with the real classes after every
  step of generated histories, kind `bddload`).  `loadBU par A sd yd d` / `loadTD …` is `LoadFromAutDesc (desc, stateDict,
  params)` into the automaton `A` on the alphabet `yd`; the result is a `Run`: the automaton (`BddAbs.Table` /
  `BddAbsTD.TableTD` and the final states), the translators (`st.sd` the state dictionary, `st.yd` the alphabet) and the
  exception `err` that ended the load (the automaton and the dictionaries are then what the C++ leaves behind).
  `dumpBU par names yd A` / `dumpTD …` is `DumpToAutDesc`, with `names = .dict sd` (`StateBackTranslStrict`) or
  `.numeric` (`Convert::ToString`).
* **The alphabet** `yd : Dict String` maps a symbol NAME to the number `k` of its allocation; the code the class stores is
  `BddAbs.symAsgn k`, the 16 low bits of `k` (`C08_load_alphabet_as_coded`).  `yd.Ok` (distinct names, `i`-th number `i`) is
  the invariant of every alphabet that loads have filled; it holds for the empty one.
* **"the same rules and final states under the same names"** is `d'.final ≈ d.final ∧ d'.trans ≈ d.trans` (`≈`: the same
  set), as in `C13.lean`.
* **Rules of a table**: `BddAbs.HasRule T ρ ks p` ("the table has `ρ(ks) → p`", `ρ` a valuation of the 16 symbol variables)
  and `BddAbsTD.HasRuleTD T ρ p ks` (`ρ` a valuation of the 16 symbol and the 6 arity variables; `bitsAr k n` = symbol `k`
  with arity prefix `n`).

## The limits of the code

* **Number of symbols.**  Exactly `2^16 = 65 536` names per alphabet (which is process-wide for the library's
  `globalAlphabet_`).  The 65 537th name gets the code of the FIRST name again (`operator++` drops the carry), the load
  succeeds, the library only logs `backward mapping for … already found`; from then on the dump lists every transition
  under all names that share its code (`C08_load_dump_exact`, `C08_load_alphabet_wraps`).  Confirmed on the real library
  (`bddload` cases with the step `F:65535:1024:0`).
* **Arity.**  None for the round trip, in either encoding: bottom-up the arity is the length of the key tuple; top-down
  `addArityToSymbol` keeps the 6 low bits of the arity (the `assert` is compiled out) and the dump ignores the arity
  variables, so transitions with 64, 65, 128 children come back (`C08_load_dump_roundtrip` has no arity hypothesis).  What
  breaks at 64 is the SEPARATION by the prefix: the rule with 64 children sits under the prefix of arity 0
  (`C08_load_arity_prefix`), where `GetMtbddForArity (mtbdd, 0)` – used by the top-down inclusion, intersection and
  simulation code – finds it among the leaf rules.
* **Equal names, different arities**: ONE symbol (the dictionary is keyed by the name, `ToStringSymbolType` drops the
  rank); no `Ranked` hypothesis is needed anywhere (`C08_load_names_not_ranks`).
* **Don't-care positions in the dump.**  The explicit dump emits one rule per NAME of the alphabet whose code lies in the
  cube (for symbolically loaded rules: possibly several names, possibly none); the symbolic dump emits one rule per PATH of
  the MTBDD (per parent state in its leaf), not per concrete symbol – and cuts the path at the variable of the root
  (`C08_load_symbolic_roundtrip_fails`).
-/
namespace Vata.Props
open Vata.Timbuk Vata.Dict Vata.M Vata.BddAbs Vata.BddAbsTD Vata.BddLoad

/-- **load, then dump** – both encodings.  A description loaded with the explicit parameter into a new automaton with a
fresh state dictionary, on an alphabet that may be in use but holds at most `2^16` names after the load: the load does
not throw, the dump with the dictionaries of the load succeeds and has the same final states and the same transitions
under the same names; `name` and `symbols` are empty; `states` lists the final states and the children (bottom-up; a
state that is only a parent is NOT listed) resp. all states (top-down).  No hypothesis on ranks or arities. -/
theorem C08_load_dump_roundtrip (d : AutDesc) (yd : BddLoad.SymDict) (hyd : yd.Ok) :
    ((loadBU .explicit {} [] yd d).st.yd.length ≤ symbolCodes →
      ∃ d', dumpBU .explicit (.dict (loadBU .explicit {} [] yd d).st.sd) (loadBU .explicit {} [] yd d).st.yd
          (loadBU .explicit {} [] yd d).aut = .ok d' ∧ (loadBU .explicit {} [] yd d).err = none ∧
        d'.final ≈ d.final ∧ d'.trans ≈ d.trans ∧ d'.states ≈ d.final ++ d.trans.flatMap (·.1) ∧
        d'.name = "" ∧ d'.symbols = []) ∧
    ((loadTD .explicit {} [] yd d).st.yd.length ≤ symbolCodes →
      ∃ d', dumpTD .explicit (.dict (loadTD .explicit {} [] yd d).st.sd) (loadTD .explicit {} [] yd d).st.yd
          (loadTD .explicit {} [] yd d).aut = .ok d' ∧ (loadTD .explicit {} [] yd d).err = none ∧
        d'.final ≈ d.final ∧ d'.trans ≈ d.trans ∧ d'.states ≈ d.final ++ d.trans.flatMap (fun t => t.2.2 :: t.1) ∧
        d'.name = "" ∧ d'.symbols = []) :=
  ⟨fun hl => let ⟨d', h1, h2, h3, h4, h5⟩ := dump_load_bu_exact d yd hyd
    ⟨d', h1, h2, h3, (explRun_bu d yd hyd).trans_of_dump hl h4, h5⟩,
   fun hl => let ⟨d', h1, h2, h3, h4, h5⟩ := dump_load_td_exact d yd hyd
    ⟨d', h1, h2, h3, (explRun_td d yd hyd).trans_of_dump hl h4, h5⟩⟩

/-- `exD`: `f` with 2 and 3 children, `a` with 0 and 1, duplicates, a final state in no transition; an alphabet in use -/
example : BddLoadEx.ydUsed.Ok ∧ (loadBU .explicit {} [] BddLoadEx.ydUsed BddLoadEx.exD).st.yd.length ≤ symbolCodes ∧
    (loadTD .explicit {} [] BddLoadEx.ydUsed BddLoadEx.exD).st.yd.length ≤ symbolCodes :=
  ⟨BddLoadEx.ydUsed_ok, BddLoadEx.exD_bound_bu, BddLoadEx.exD_bound_td⟩
/-- executed: the parent is numbered before the children (`r ↦ 0` from the final states, `lonely ↦ 1`, `q ↦ 2`); `f` is
the 4th name of the alphabet, `a` was there -/
example : (loadBU .explicit {} [] BddLoadEx.ydUsed BddLoadEx.exD).st.sd = [("r", 0), ("lonely", 1), ("q", 2)] ∧
    (loadBU .explicit {} [] BddLoadEx.ydUsed BddLoadEx.exD).st.yd = [("g", 0), ("a", 1), ("h", 2), ("f", 3)] := by
  decide +kernel

/-- **what the dump of a loaded automaton is, exactly** – no bound on the alphabet.  The dump succeeds, has the final
states of the description, and lists every transition of the description under EVERY name of the alphabet whose
allocation number has the same 16 low bits as that of its symbol (`k % 2^16`: the same code).  Within `2^16` names that is
the symbol itself (`C08_load_dump_roundtrip`); beyond, names share codes. -/
theorem C08_load_dump_exact (d : AutDesc) (yd : BddLoad.SymDict) (hyd : yd.Ok) :
    (∃ d', dumpBU .explicit (.dict (loadBU .explicit {} [] yd d).st.sd) (loadBU .explicit {} [] yd d).st.yd
        (loadBU .explicit {} [] yd d).aut = .ok d' ∧ (loadBU .explicit {} [] yd d).err = none ∧ d'.final ≈ d.final ∧
      (∀ x, x ∈ d'.trans ↔ ∃ t, t ∈ d.trans ∧ ∃ f k, (f, k) ∈ (loadBU .explicit {} [] yd d).st.yd ∧
        k % 2 ^ 16 = (loadBU .explicit {} [] yd d).st.yd.get t.2.1 % 2 ^ 16 ∧ x = (t.1, f, t.2.2))) ∧
    (∃ d', dumpTD .explicit (.dict (loadTD .explicit {} [] yd d).st.sd) (loadTD .explicit {} [] yd d).st.yd
        (loadTD .explicit {} [] yd d).aut = .ok d' ∧ (loadTD .explicit {} [] yd d).err = none ∧ d'.final ≈ d.final ∧
      (∀ x, x ∈ d'.trans ↔ ∃ t, t ∈ d.trans ∧ ∃ f k, (f, k) ∈ (loadTD .explicit {} [] yd d).st.yd ∧
        k % 2 ^ 16 = (loadTD .explicit {} [] yd d).st.yd.get t.2.1 % 2 ^ 16 ∧ x = (t.1, f, t.2.2))) := by
  obtain ⟨d₁, a1, a2, a3, a4, _⟩ := dump_load_bu_exact d yd hyd
  obtain ⟨d₂, b1, b2, b3, b4, _⟩ := dump_load_td_exact d yd hyd
  exact ⟨⟨d₁, a1, a2, a3, a4⟩, ⟨d₂, b1, b2, b3, b4⟩⟩

example : (fillAlphabet 70000).Ok := fillAlphabet_ok _

/-- **Finding (limit of the code): the 65 537th symbol.**  On an alphabet that holds `2^16` names more than the number `k`
of the name `a` – e.g. exactly `2^16` names and `a` the first one – a new name `b` gets the code of `a`.  The load of
`b -> q` succeeds, and the dump of the loaded automaton contains `a -> q` besides `b -> q`: a transition the description
does not have, under a symbol it does not mention.  Both encodings.  (The alphabet of the library is global: the limit is
on all symbol names a process ever loads into BDD automata.) -/
theorem C08_load_alphabet_wraps (yd : BddLoad.SymDict) (hyd : yd.Ok) (a b q : String) (k : Nat) (ha : (a, k) ∈ yd)
    (hb : b ∉ yd.keys) (hlen : yd.length = k + symbolCodes) :
    (∃ d', dumpBU .explicit (.dict (loadBU .explicit {} [] yd (leafDesc b q)).st.sd)
        (loadBU .explicit {} [] yd (leafDesc b q)).st.yd (loadBU .explicit {} [] yd (leafDesc b q)).aut = .ok d' ∧
      ([], b, q) ∈ d'.trans ∧ ([], a, q) ∈ d'.trans ∧ ([], a, q) ∉ (leafDesc b q).trans) ∧
    (∃ d', dumpTD .explicit (.dict (loadTD .explicit {} [] yd (leafDesc b q)).st.sd)
        (loadTD .explicit {} [] yd (leafDesc b q)).st.yd (loadTD .explicit {} [] yd (leafDesc b q)).aut = .ok d' ∧
      ([], b, q) ∈ d'.trans ∧ ([], a, q) ∈ d'.trans ∧ ([], a, q) ∉ (leafDesc b q).trans) ∧
    symAsgn (k + symbolCodes) = symAsgn k :=
  ⟨(dump_load_bu_exact (leafDesc b q) yd hyd).imp fun _ h =>
    ⟨h.1, alias_of_dump q ha hb hlen (leafDesc_load_bu yd q hb).1 (leafDesc_load_bu yd q hb).2 h.2.2.2.1⟩,
   (dump_load_td_exact (leafDesc b q) yd hyd).imp fun _ h =>
    ⟨h.1, alias_of_dump q ha hb hlen (leafDesc_load_td yd q hb).1 (leafDesc_load_td yd q hb).2 h.2.2.2.1⟩,
   symAsgn_wrap k⟩

/-- an alphabet of exactly `2^16` names whose first name is `""`, and the new name `b` -/
example : (fillAlphabet symbolCodes).Ok ∧ (fillAlphabet symbolCodes).length = 0 + symbolCodes ∧
    ("", 0) ∈ fillAlphabet symbolCodes ∧ "b" ∉ (fillAlphabet symbolCodes).keys := alias_at_wrap_instance

/-- **equal names with different arities are ONE symbol.**  The cube of a transition's symbol depends on the symbol NAME
alone; two transitions with the same name and any numbers of children are stored under the same symbol code `k`
(bottom-up under their two tuples, top-down under their two arity prefixes); two transitions with different names get
different numbers and – on an alphabet within `2^16` names – disjoint cubes. -/
theorem C08_load_names_not_ranks (d : AutDesc) (yd : BddLoad.SymDict) (hyd : yd.Ok) (t t' : BddLoad.Trans) (ht : t ∈ d.trans)
    (ht' : t' ∈ d.trans) :
    (t.2.1 = t'.2.1 →
      (∃ k, HasRule (loadBU .explicit {} [] yd d).aut.tbl (bits k)
          (t.1.map (loadBU .explicit {} [] yd d).st.sd.get) ((loadBU .explicit {} [] yd d).st.sd.get t.2.2) ∧
        HasRule (loadBU .explicit {} [] yd d).aut.tbl (bits k)
          (t'.1.map (loadBU .explicit {} [] yd d).st.sd.get) ((loadBU .explicit {} [] yd d).st.sd.get t'.2.2)) ∧
      (∃ k, HasRuleTD (loadTD .explicit {} [] yd d).aut.tbl (bitsAr k (t.1.length % 64))
          ((loadTD .explicit {} [] yd d).st.sd.get t.2.2) (t.1.map (loadTD .explicit {} [] yd d).st.sd.get) ∧
        HasRuleTD (loadTD .explicit {} [] yd d).aut.tbl (bitsAr k (t'.1.length % 64))
          ((loadTD .explicit {} [] yd d).st.sd.get t'.2.2) (t'.1.map (loadTD .explicit {} [] yd d).st.sd.get))) ∧
    (t.2.1 ≠ t'.2.1 →
      (loadBU .explicit {} [] yd d).st.yd.get t.2.1 ≠ (loadBU .explicit {} [] yd d).st.yd.get t'.2.1 ∧
      ((loadBU .explicit {} [] yd d).st.yd.length ≤ symbolCodes → ∀ ρ,
        ¬ (agrees ρ (cube .explicit (loadBU .explicit {} [] yd d).st t) 0 = true ∧
           agrees ρ (cube .explicit (loadBU .explicit {} [] yd d).st t') 0 = true))) := by
  have hB := explRun_bu d yd hyd
  refine ⟨fun h => ⟨⟨(loadBU .explicit {} [] yd d).st.yd.get t.2.1, ?_, ?_⟩,
    ⟨(loadTD .explicit {} [] yd d).st.yd.get t.2.1, hasRuleTD_of_trans d yd hyd ht, ?_⟩⟩, fun h => ?_⟩
  · exact (hB.rule _ _ _).mpr ⟨t, ht, rfl, rfl, agrees_bits_self _, trivial⟩
  · exact (hB.rule _ _ _).mpr ⟨t', ht', rfl, rfl, by rw [← h]; exact agrees_bits_self _, trivial⟩
  · have := hasRuleTD_of_trans d yd hyd ht'
    rwa [← h] at this
  · -- different names have different numbers (the dictionary is injective), hence within `2^16` names different codes
    have hne : (loadBU .explicit {} [] yd d).st.yd.get t.2.1 ≠ (loadBU .explicit {} [] yd d).st.yd.get t'.2.1 :=
      fun e => h (hB.ok.yd.get_inj ((hB.cov t ht).sym rfl) ((hB.cov t' ht').sym rfl) e)
    exact ⟨hne, fun hlim ρ ⟨h1, h2⟩ => hne (code_unique
      (Nat.lt_of_lt_of_le (hB.ok.yd.get_lt ((hB.cov t ht).sym rfl)) hlim)
      (Nat.lt_of_lt_of_le (hB.ok.yd.get_lt ((hB.cov t' ht').sym rfl)) hlim) h1 h2)⟩

/-- `f(q, q) -> r` and `f(q, r, q) -> r` of `exD` -/
example : ((["q", "q"], "f", "r") : BddLoad.Trans) ∈ BddLoadEx.exD.trans ∧ ((["q", "r", "q"], "f", "r") : BddLoad.Trans) ∈ BddLoadEx.exD.trans ∧
    ¬ BddLoadEx.exD.Ranked := by decide +kernel

/-- **the arity prefix keeps rules of different arity apart in the top-down table** (either parameter): two rules that
the loaded table holds for the same valuation of the 22 variables have the same number of children modulo 64 – the same
number when every transition has fewer than 64 children.  **At 64** the separation fails: the rule of a transition with
64 children is stored under the arity prefix 0 (`addArityToSymbol` keeps the 6 low bits; the assertion
`arity <= MAX_SYMBOL_ARITY` is compiled out), together with the leaf rules. -/
theorem C08_load_arity_prefix (par : Param) (d : AutDesc) (yd : BddLoad.SymDict) (hyd : yd.Ok) :
    (∀ ρ p p' ks ks', HasRuleTD (loadTD par {} [] yd d).aut.tbl ρ p ks → HasRuleTD (loadTD par {} [] yd d).aut.tbl ρ p' ks' →
      ks.length % 64 = ks'.length % 64) ∧
    ((∀ t, t ∈ d.trans → t.1.length < arityCodes) →
      ∀ ρ p p' ks ks', HasRuleTD (loadTD par {} [] yd d).aut.tbl ρ p ks → HasRuleTD (loadTD par {} [] yd d).aut.tbl ρ p' ks' →
        ks.length = ks'.length) ∧
    (∀ t, t ∈ d.trans → t.1.length = 64 →
      HasRuleTD (loadTD .explicit {} [] yd d).aut.tbl (bitsAr ((loadTD .explicit {} [] yd d).st.yd.get t.2.1) 0)
        ((loadTD .explicit {} [] yd d).st.sd.get t.2.2) (t.1.map (loadTD .explicit {} [] yd d).st.sd.get) ∧
      (t.1.map (loadTD .explicit {} [] yd d).st.sd.get).length = 64) := by
  have hmod : ∀ ρ p p' ks ks', HasRuleTD (loadTD par {} [] yd d).aut.tbl ρ p ks →
      HasRuleTD (loadTD par {} [] yd d).aut.tbl ρ p' ks' → ks.length % 64 = ks'.length % 64 :=
    fun _ _ _ _ _ h h' => arOK_mod (arOK_of_loadTD par d yd hyd h).2 (arOK_of_loadTD par d yd hyd h').2
  refine ⟨hmod, fun har ρ p p' ks ks' h h' => ?_, fun t ht h64 => ?_⟩
  · obtain ⟨t, ht, e⟩ := (arOK_of_loadTD par d yd hyd h).1
    obtain ⟨t', ht', e'⟩ := (arOK_of_loadTD par d yd hyd h').1
    have l1 : ks.length < 64 := e ▸ har t ht
    have l2 : ks'.length < 64 := e' ▸ har t' ht'
    have := hmod ρ p p' ks ks' h h'
    rwa [Nat.mod_eq_of_lt l1, Nat.mod_eq_of_lt l2] at this
  · have := hasRuleTD_of_trans d yd hyd ht
    rw [h64] at this
    exact ⟨this, by rw [List.length_map, h64]⟩

/-- `ex64`: the leaf rule `a -> q` and `f(q, …, q) -> q` with 64 children share the arity prefix 0 -/
example : ((List.replicate 64 "q", "f", "q") : BddLoad.Trans) ∈ BddLoadEx.ex64.trans ∧
    (List.replicate 64 "q").length = 64 ∧ (([], "a", "q") : BddLoad.Trans) ∈ BddLoadEx.ex64.trans := by decide +kernel

/-- **the reader of the arity prefix**, `BDDTDTreeAutCore::GetMtbddForArity (GetMtbdd (p), n)` (`tuplesForArity`: the tuples
in the leaves of `GetMtbddForPrefix (SymbolicVarAsgn (6, n), 16)`; the top-down inclusion, intersection and simulation
code reads the table through it): of a loaded table it shows only tuples with `n` children modulo 64, and it shows the
tuple of every transition under the prefix of its number of children modulo 64 – 64 children under 0, 65 under 1. -/
theorem C08_load_arity_reader (par : Param) (d : AutDesc) (yd : BddLoad.SymDict) (hyd : yd.Ok) :
    (∀ p n ks, ks ∈ tuplesForArity (loadTD par {} [] yd d).aut.tbl p n → ks.length % 64 = n % 64) ∧
    (∀ t, t ∈ d.trans → t.1.map (loadTD .explicit {} [] yd d).st.sd.get ∈
      tuplesForArity (loadTD .explicit {} [] yd d).aut.tbl ((loadTD .explicit {} [] yd d).st.sd.get t.2.2)
        (t.1.length % 64)) := by
  -- `GetMtbddForPrefix (arAsgn n, 16)` evaluates the MTBDD under `withArity ρ n` (`prefix_valuation`)
  refine ⟨fun _ _ _ h => tuplesForArity_mod par d yd hyd h, fun t ht => ?_⟩
  · obtain ⟨hT, hB⟩ := table_loadTD .explicit {} yd hyd d tableTD_nil
    unfold tuplesForArity
    rw [mem_leafTuples (getPrefix_wf _ _ (hT _)).1]
    refine ⟨bits ((loadTD .explicit {} [] yd d).st.yd.get t.2.1), ?_⟩
    rw [getPrefix_eval _ _ _ (hT _), eval_congr_of_below (prefix_valuation _ _) (hB _)]
    exact hasRuleTD_of_trans d yd hyd ht

/-- executed on `ex64`: under the prefix 0 the leaf rule and the rule with 64 children, nothing under 1 -/
example : arityLens (loadTD .explicit {} [] [] BddLoadEx.ex64).aut 0 = [0, 64] ∧
    arityLens (loadTD .explicit {} [] [] BddLoadEx.ex64).aut 1 = [] := by decide +kernel

/-- **the order of the rules does not matter.**  Two descriptions with the same sets of final states and transitions
(permutations of each other, repetitions allowed), loaded with the explicit parameter from the same alphabet on fresh
state dictionaries (alphabets within `2^16` names afterwards): the tree automaton that the second table denotes
(`absBU` / `absTD` over all symbols of the alphabet) accepts exactly the `g`-renamed trees of the first, where `g` is the
bijection of the symbol numbers that translates the first numbering to the second, name by name.  Top-down: transitions
with fewer than 64 children (`absTD` reads the rules off the arity prefixes `0 … 63`).  And the two encodings of one
description denote the same language. -/
theorem C08_load_order_independent (d₁ d₂ : AutDesc) (yd : BddLoad.SymDict) (hyd : yd.Ok) (hf : d₁.final ≈ d₂.final)
    (ht : d₁.trans ≈ d₂.trans) :
    ((loadBU .explicit {} [] yd d₁).st.yd.length ≤ symbolCodes → (loadBU .explicit {} [] yd d₂).st.yd.length ≤ symbolCodes →
      ∃ g, (Function.Injective g ∧ Function.Surjective g) ∧
        (∀ k, k ∈ (loadBU .explicit {} [] yd d₁).st.yd.keys →
          g ((loadBU .explicit {} [] yd d₁).st.yd.get k) = (loadBU .explicit {} [] yd d₂).st.yd.get k) ∧
        ∀ t, accepts (absBU (loadBU .explicit {} [] yd d₂).st.yd.vals (loadBU .explicit {} [] yd d₂).aut.tbl
            (loadBU .explicit {} [] yd d₂).aut.fin) (t.mapSyms g) =
          accepts (absBU (loadBU .explicit {} [] yd d₁).st.yd.vals (loadBU .explicit {} [] yd d₁).aut.tbl
            (loadBU .explicit {} [] yd d₁).aut.fin) t) ∧
    ((loadTD .explicit {} [] yd d₁).st.yd.length ≤ symbolCodes → (loadTD .explicit {} [] yd d₂).st.yd.length ≤ symbolCodes →
      (∀ t, t ∈ d₁.trans → t.1.length < arityCodes) →
      ∃ g, (Function.Injective g ∧ Function.Surjective g) ∧
        (∀ k, k ∈ (loadTD .explicit {} [] yd d₁).st.yd.keys →
          g ((loadTD .explicit {} [] yd d₁).st.yd.get k) = (loadTD .explicit {} [] yd d₂).st.yd.get k) ∧
        ∀ t, accepts (absTD (loadTD .explicit {} [] yd d₂).st.yd.vals (loadTD .explicit {} [] yd d₂).aut.tbl
            (loadTD .explicit {} [] yd d₂).aut.fin) (t.mapSyms g) =
          accepts (absTD (loadTD .explicit {} [] yd d₁).st.yd.vals (loadTD .explicit {} [] yd d₁).aut.tbl
            (loadTD .explicit {} [] yd d₁).aut.fin) t) ∧
    ((loadBU .explicit {} [] yd d₁).st.yd.length ≤ symbolCodes → (∀ t, t ∈ d₁.trans → t.1.length < arityCodes) →
      ∀ t, accepts (absTD (loadTD .explicit {} [] yd d₁).st.yd.vals (loadTD .explicit {} [] yd d₁).aut.tbl
          (loadTD .explicit {} [] yd d₁).aut.fin) t =
        accepts (absBU (loadBU .explicit {} [] yd d₁).st.yd.vals (loadBU .explicit {} [] yd d₁).aut.tbl
          (loadBU .explicit {} [] yd d₁).aut.fin) t) := by
  refine ⟨fun h1 h2 => ?_, fun h1 h2 har => ?_, fun h1 har t => ?_⟩
  · obtain ⟨_, g, _, hg, _, hgk, hl⟩ := perm_core (explLoad_bu {} yd hyd d₁).1 (explLoad_bu {} yd hyd d₂).1 hf ht
    refine ⟨g, hg, hgk, fun t => ?_⟩
    rw [absBU_loaded d₂ yd hyd h2, absBU_loaded d₁ yd hyd h1, hl]
  · obtain ⟨_, g, _, hg, _, hgk, hl⟩ := perm_core (explLoad_td {} yd hyd d₁).1 (explLoad_td {} yd hyd d₂).1 hf ht
    refine ⟨g, hg, hgk, fun t => ?_⟩
    rw [absTD_loaded d₂ yd hyd h2 (fun t' ht' => har t' ((ht t').mpr ht')), absTD_loaded d₁ yd hyd h1 har, hl]
  · -- both are the explicit encoding of the numbered rules; the translators do not depend on the encoding
    have e := (loadBU_st_eq_loadTD .explicit {} {} [] yd d₁).1
    rw [absBU_loaded d₁ yd hyd h1, absTD_loaded d₁ yd hyd (by rw [← e]; exact h1) har, e]

example : BddLoadEx.exD.final ≈ BddLoadEx.exD'.final ∧ BddLoadEx.exD.trans ≈ BddLoadEx.exD'.trans ∧
    (loadBU .explicit {} [] BddLoadEx.ydUsed BddLoadEx.exD').st.yd.length ≤ symbolCodes ∧
    (loadTD .explicit {} [] BddLoadEx.ydUsed BddLoadEx.exD').st.yd.length ≤ symbolCodes ∧
    (∀ t, t ∈ BddLoadEx.exD.trans → t.1.length < arityCodes) :=
  ⟨BddLoadEx.exD_exD'.1, BddLoadEx.exD_exD'.2, BddLoadEx.exD'_bound_bu, BddLoadEx.exD'_bound_td, by decide⟩
/-- the two loads number the states differently (`r ↦ 0, lonely ↦ 1, q ↦ 2` against `lonely ↦ 0, r ↦ 1, q ↦ 2`) -/
example : (loadBU .explicit {} [] BddLoadEx.ydUsed BddLoadEx.exD').st.sd = [("lonely", 0), ("r", 1), ("q", 2)] := by
  decide +kernel

/-- **dump, load, dump.**  The explicit dump of a loaded automaton, loaded again (explicit parameter, fresh state
dictionary, the alphabet as it is) and dumped: the same final states and transitions – as long as the alphabet holds at
most `2^16` names at the end.  With `C13.lean` (`parse_serialize`; the dump of a description with good names is well
formed) this is the round trip "dumping it and loading the text again" for the two BDD encodings. -/
theorem C08_load_dump_reload (d : AutDesc) (yd : BddLoad.SymDict) (hyd : yd.Ok) :
    (∃ d', dumpBU .explicit (.dict (loadBU .explicit {} [] yd d).st.sd) (loadBU .explicit {} [] yd d).st.yd
        (loadBU .explicit {} [] yd d).aut = .ok d' ∧
      ((loadBU .explicit {} [] (loadBU .explicit {} [] yd d).st.yd d').st.yd.length ≤ symbolCodes →
        ∃ d'', dumpBU .explicit (.dict (loadBU .explicit {} [] (loadBU .explicit {} [] yd d).st.yd d').st.sd)
            (loadBU .explicit {} [] (loadBU .explicit {} [] yd d).st.yd d').st.yd
            (loadBU .explicit {} [] (loadBU .explicit {} [] yd d).st.yd d').aut = .ok d'' ∧
          d''.final ≈ d'.final ∧ d''.trans ≈ d'.trans ∧ d''.final ≈ d.final ∧ d''.trans ≈ d.trans)) ∧
    (∃ d', dumpTD .explicit (.dict (loadTD .explicit {} [] yd d).st.sd) (loadTD .explicit {} [] yd d).st.yd
        (loadTD .explicit {} [] yd d).aut = .ok d' ∧
      ((loadTD .explicit {} [] (loadTD .explicit {} [] yd d).st.yd d').st.yd.length ≤ symbolCodes →
        ∃ d'', dumpTD .explicit (.dict (loadTD .explicit {} [] (loadTD .explicit {} [] yd d).st.yd d').st.sd)
            (loadTD .explicit {} [] (loadTD .explicit {} [] yd d).st.yd d').st.yd
            (loadTD .explicit {} [] (loadTD .explicit {} [] yd d).st.yd d').aut = .ok d'' ∧
          d''.final ≈ d'.final ∧ d''.trans ≈ d'.trans ∧ d''.final ≈ d.final ∧ d''.trans ≈ d.trans)) := by
  have hB := (explRun_bu d yd hyd).toExplLoad
  have hT := (explRun_td d yd hyd).toExplLoad
  obtain ⟨d₁, a1, _, a3, a4, _⟩ := dump_load_bu_exact d yd hyd
  obtain ⟨d₂, b1, _, b3, b4, _⟩ := dump_load_td_exact d yd hyd
  refine ⟨⟨d₁, a1, fun hl => ?_⟩, ⟨d₂, b1, fun hl => ?_⟩⟩
  · obtain ⟨d'', g1, _, g3, g4, _⟩ := dump_load_bu_exact d₁ _ hB.ok.yd
    have hE' := (explRun_bu d₁ _ hB.ok.yd).toExplLoad
    exact ⟨d'', g1, hB.reload hE' hl a3 a4 g3 (hE'.trans_of_dump hl g4)⟩
  · obtain ⟨d'', g1, _, g3, g4, _⟩ := dump_load_td_exact d₂ _ hT.ok.yd
    have hE' := (explRun_td d₂ _ hT.ok.yd).toExplLoad
    exact ⟨d'', g1, hT.reload hE' hl b3 b4 g3 (hE'.trans_of_dump hl g4)⟩

/-- `LoadFromString` of what the serializer wrote: the parser runs on the characters of the description, the `String` is
not built (encoding and decoding it is most of the work of evaluating `parseTimbuk (serialize d)`) -/
theorem loadTextObj_serialize (yd : BddLoad.SymDict) (o : Obj) (par : Param) (d : AutDesc) :
    loadTextObj yd o par (serialize d) =
      match parseC (serializeC (ofS d)) with
      | .error e => (o, yd, some ("Error: '" ++ e ++ "' while parsing \n" ++ serialize d))
      | .ok d' => loadObj yd o par d'.toS := by
  rw [loadTextObj, parseText, parseTimbuk_serialize_eq]
  cases parseC (serializeC (ofS d)) <;> rfl

/-- the reload step, with the dump as a description -/
theorem step_reload (w : World) (k : Nat) (par : Param) :
    BddLoad.step w (.reload k par) =
      match w.objs[k]? with
      | none => (w, some "no such automaton")
      | some o =>
        match dumpObj w.yd o par with
        | .error e => (w, some e)
        | .ok d =>
          let r := loadTextObj w.yd (Obj.fresh o.isBU true) par (serialize d)
          (⟨r.2.1, w.objs ++ [r.1]⟩, r.2.2) := by
  simp only [BddLoad.step, dumpText]
  cases w.objs[k]? with
  | none => rfl
  | some o =>
    dsimp only
    cases dumpObj w.yd o par <;> rfl

/-- executed through the text (`step`: dump, `serialize`, `parseTimbuk`, load): the reloaded automaton 1 dumps as 0 does -/
example : (let w := BddLoad.run {} [.loadDesc true true .explicit BddLoadEx.exD, .reload 0 .explicit]
    (w.objs.map (fun o => (dumpObj w.yd o .explicit).toOption.map (fun d => (d.final, d.trans))))) =
    [some (["lonely", "r"], [([], "a", "q"), (["q", "q"], "f", "r"), (["q", "r", "q"], "f", "r"), (["r"], "a", "q")]),
     some (["lonely", "r"], [([], "a", "q"), (["q", "q"], "f", "r"), (["q", "r", "q"], "f", "r"), (["r"], "a", "q")])] := by
  simp only [BddLoad.run, step_reload, loadTextObj_serialize]
  decide +kernel

/-- **the loaded tables, for every valuation and either parameter, exceptions included.**  After `LoadFromAutDesc` (fresh
state dictionary) into an automaton `A` the table holds the old rules and, for every transition that was loaded – all
of them, or those before the first one whose symbol `loadFromAutDescSymbolic` rejects (`loaded`) –, the rules
`ρ(children) → parent` for the valuations `ρ` in the cube of its symbol (`cube`: the code of its name, or the assignment
its 16 characters spell); top-down with the number of children in the arity variables.  The exception is that of the
rejected symbol; the symbolic parameter leaves the alphabet alone. -/
theorem C08_load_tables (par : Param) (yd : BddLoad.SymDict) (hyd : yd.Ok) (d : AutDesc) :
    (∀ (A : AutBU) ρ ks p, HasRule (loadBU par A [] yd d).aut.tbl ρ ks p ↔ HasRule A.tbl ρ ks p ∨
      ∃ t, t ∈ (loaded par d.trans).1 ∧ t.1.map (loadBU par A [] yd d).st.sd.get = ks ∧
        (loadBU par A [] yd d).st.sd.get t.2.2 = p ∧ agrees ρ (cube par (loadBU par A [] yd d).st t) 0 = true) ∧
    (∀ (A : AutTD) ρ p ks, HasRuleTD (loadTD par A [] yd d).aut.tbl ρ p ks ↔ HasRuleTD A.tbl ρ p ks ∨
      ∃ t, t ∈ (loaded par d.trans).1 ∧ t.1.map (loadTD par A [] yd d).st.sd.get = ks ∧
        (loadTD par A [] yd d).st.sd.get t.2.2 = p ∧ agrees ρ (cube par (loadTD par A [] yd d).st t) 0 = true ∧
        arOK ρ ks.length = true) ∧
    (∀ (A : AutBU), (loadBU par A [] yd d).err = (loaded par d.trans).2.map (·.2) ∧
      (par = .explicit → (loadBU par A [] yd d).err = none) ∧ (par = .symbolic → (loadBU par A [] yd d).st.yd = yd)) ∧
    (∀ (A : AutBU) (B : AutTD) sd, (loadBU par A sd yd d).st = (loadTD par B sd yd d).st ∧
      (loadBU par A sd yd d).err = (loadTD par B sd yd d).err) :=
  ⟨fun A ρ ks p => hasRule_loadBU par A yd hyd d ρ ks p, fun A ρ p ks => hasRuleTD_loadTD par A yd hyd d ρ p ks,
   fun A => loadBU_err par A yd hyd d, fun A B sd => loadBU_st_eq_loadTD par A B sd yd d⟩

/-- `exSBad`: the second transition in the list has the symbol `01`: the first is loaded, the exception is the size error -/
example : (loaded .symbolic BddLoadEx.exSBad.trans).1 = [([], "0000000000000000", "q")] ∧
    (loadBU .symbolic {} [] [] BddLoadEx.exSBad).err = some (errSymbolSize "01") ∧
    (loadBU .symbolic {} [] [] BddLoadEx.exSBad).st.sd = [("q", 0), ("p", 1)] := by decide +kernel

/-- **the symbolic parameter: what load and dump denote** (bottom-up).  (1) A description whose symbols are all accepted
(16 characters out of `0 1 X`), loaded with the symbolic parameter into a new automaton with a fresh state dictionary:
the alphabet is not touched, the symbolic dump succeeds, has the same final states and denotes the same rules – for every
valuation `ρ` of the 16 symbol variables, the (children, parent) pairs of the dumped transitions whose symbol string has
`ρ` in its cube (a string of whatever length, don't-care beyond its end) are those of the transitions of the description
whose symbol has.  (2) For ANY bottom-up automaton with a well-formed table the symbolic dump denotes the table. -/
theorem C08_load_symbolic_denotation (d : AutDesc) (yd : BddLoad.SymDict) (hyd : yd.Ok) (hv : SymValid d) :
    (∃ d', dumpBU .symbolic (.dict (loadBU .symbolic {} [] yd d).st.sd) (loadBU .symbolic {} [] yd d).st.yd
        (loadBU .symbolic {} [] yd d).aut = .ok d' ∧
      (loadBU .symbolic {} [] yd d).err = none ∧ (loadBU .symbolic {} [] yd d).st.yd = yd ∧
      d'.final ≈ d.final ∧ d'.name = "" ∧ d'.symbols = [] ∧
      ∀ (ρ : Nat → Bool) (ks : List String) (p : String),
        (∃ f a, (ks, f, p) ∈ d'.trans ∧ cubeOfStr f = some a ∧ agrees ρ a 0 = true) ↔
        (∃ t a, t ∈ d.trans ∧ t.1 = ks ∧ t.2.2 = p ∧ symOfStr t.2.1 = .ok a ∧ agrees ρ a 0 = true)) ∧
    (∀ (A : AutBU), TableOk A.tbl → TableWF A.tbl → ∀ ρ ks p, HasRule A.tbl ρ ks p ↔
      ∃ f a, (ks, f, p) ∈ (rawSymBU A).trans ∧ cubeOfStr f = some a ∧ agrees ρ a 0 = true) :=
  ⟨sym_load_dump_denotes d yd hyd hv, fun _ hT hW ρ ks p => sym_dump_denotes hT hW ρ ks p⟩

example : SymValid BddLoadEx.exS := BddLoadEx.exS_valid
/-- executed: the cubes `0X0…01` and `1X0…01` of `exS` stay apart (different tuples), every path has 16 characters -/
example : (dumpBU .symbolic (.dict (loadBU .symbolic {} [] [] BddLoadEx.exS).st.sd) [] (loadBU .symbolic {} [] [] BddLoadEx.exS).aut).toOption.map
    (·.trans) = some [([], "0000000000000000", "q"), (["p"], "1X00000000000001", "q"), (["q", "q"], "0X00000000000001", "p")] := by
  decide +kernel

/-- **symbolic dump, symbolic load – partial.**  The round trip through the symbolic format holds for the dumps all of
whose symbols have the full 16 characters: then `loadFromAutDescSymbolic` accepts the dumped description (same alphabet,
fresh state dictionary), and the symbolic dump of the reloaded automaton has the same final states and denotes the same
rules as the original description. -/
theorem C08_load_symbolic_roundtrip_partial (d : AutDesc) (yd : BddLoad.SymDict) (hyd : yd.Ok) (hv : SymValid d) :
    ∃ d', dumpBU .symbolic (.dict (loadBU .symbolic {} [] yd d).st.sd) (loadBU .symbolic {} [] yd d).st.yd
        (loadBU .symbolic {} [] yd d).aut = .ok d' ∧
      ((∀ x, x ∈ d'.trans → x.2.1.toList.length = 16) →
        ∃ d'', (loadBU .symbolic {} [] yd d').err = none ∧
          dumpBU .symbolic (.dict (loadBU .symbolic {} [] yd d').st.sd) (loadBU .symbolic {} [] yd d').st.yd
            (loadBU .symbolic {} [] yd d').aut = .ok d'' ∧
          d''.final ≈ d.final ∧
          ∀ (ρ : Nat → Bool) (ks : List String) (p : String),
            (∃ f a, (ks, f, p) ∈ d''.trans ∧ cubeOfStr f = some a ∧ agrees ρ a 0 = true) ↔
            (∃ t a, t ∈ d.trans ∧ t.1 = ks ∧ t.2.2 = p ∧ symOfStr t.2.1 = .ok a ∧ agrees ρ a 0 = true)) := by
  obtain ⟨d', h1, _, _, h4, _, _, h7⟩ := sym_load_dump_denotes d yd hyd hv
  refine ⟨d', h1, fun h16 => ?_⟩
  have hT := (table_loadBU .symbolic {} yd hyd d tableOk_empty tableWF_empty).1
  have hd' : d' = (rawSymBU (loadBU .symbolic {} [] yd d).aut).named (nameOf (loadBU .symbolic {} [] yd d).st.sd) := by
    unfold dumpBU dumpRaw at h1
    simp only at h1
    split at h1
    · cases h1
    · cases h1; rfl
  -- the dumped symbols spell assignments; with 16 characters each the loader accepts them
  have hv' : SymValid d' := by
    intro t ht
    have ht' := ht
    rw [hd'] at ht'
    obtain ⟨a, ha⟩ := sym_dump_wellformed hT _ ht'
    exact ⟨a, symOfStr_of_cubeOfStr ha (h16 t ht)⟩
  obtain ⟨d'', g1, g2, _, g4, _, _, g7⟩ := sym_load_dump_denotes d' yd hyd hv'
  refine ⟨d'', g2, g1, fun q => (g4 q).trans (h4 q), fun ρ ks p => ?_⟩
  rw [g7 ρ ks p, ← h7 ρ ks p]
  constructor
  · rintro ⟨t, a, ht, rfl, rfl, ha, hag⟩
    exact ⟨t.2.1, a, ht, symOfStr_cubeOfStr ha, hag⟩
  · rintro ⟨f, a, hm, hf, hag⟩
    exact ⟨(ks, f, p), a, hm, rfl, rfl, symOfStr_of_cubeOfStr hf (h16 _ hm), hag⟩

/-- `exS` satisfies the hypothesis (see the executed dump above) -/
example : SymValid BddLoadEx.exS := BddLoadEx.exS_valid

/-- **Finding: the symbolic dump of the bottom-up encoding does not round-trip; the top-down encoding has none.**
`GetPaths` starts from the empty assignment and extends it only up to the variable of the ROOT of the MTBDD
(`AddVariablesUpTo`), so `dumpToAutDescSymbolic` prints symbols SHORTER than `SYMBOL_SIZE` whenever the highest variables
are don't-cares: the rule `XXXXXXXXXXXXXXXX -> q` is dumped with the EMPTY symbol (the Timbuk parser rejects the line
` -> q`), `01XXXXXXXXXXXXXX(p) -> q` as `01(p) -> q` (`loadFromAutDescSymbolic` throws `Invalid symbols size (symbol =
01).  The symbol size needs to be 16.`).  `BDDTDTreeAutCore::dumpToAutDescSymbolic` throws `NotImplementedException`. -/
theorem C08_load_symbolic_roundtrip_fails :
    SymValid exAllX ∧ SymValid exHighX ∧
    (dumpBU .symbolic (.dict (loadBU .symbolic {} [] [] exAllX).st.sd) [] (loadBU .symbolic {} [] [] exAllX).aut).toOption.map
        (·.trans) = some [([], "", "q")] ∧
    (loadBU .symbolic {} [] [] { exAllX with trans := [([], "", "q")] }).err = some (errSymbolSize "") ∧
    (dumpBU .symbolic (.dict (loadBU .symbolic {} [] [] exHighX).st.sd) [] (loadBU .symbolic {} [] [] exHighX).aut).toOption.map
        (·.trans) = some [(["p"], "01", "q")] ∧
    (loadBU .symbolic {} [] [] { exHighX with trans := [(["p"], "01", "q")] }).err = some (errSymbolSize "01") ∧
    (BddLoad.step (BddLoad.run {} [.loadDesc true true .symbolic exAllX]) (.reload 0 .symbolic)).2 =
      some ("Error: 'parse_timbuk: invalid transition \" -> q\"' while parsing \n" ++
        "Ops \nAutomaton anonymous\nStates q \nFinal States q \nTransitions\n -> q\n") ∧
    (BddLoad.step (BddLoad.run {} [.loadDesc true true .symbolic exHighX]) (.reload 0 .symbolic)).2 = some (errSymbolSize "01") ∧
    (∀ nm yd A, dumpTD .symbolic nm yd A = .error errNotImplSymbolicTD) := by
  refine ⟨exAllX_valid, exHighX_valid, by decide +kernel, by decide +kernel, by decide +kernel, by decide +kernel,
    ?_, ?_, fun _ _ _ => rfl⟩
  all_goals
    simp only [BddLoad.run, step_reload, loadTextObj_serialize]
    decide +kernel

/-- **the numbering** (both encodings, both parameters): the translators keep their invariants, translate exactly the
state names of the final states and of the loaded transitions (parent first) and – with the explicit parameter – the
symbol names of the loaded transitions; the automaton is the result of `AddTransition` for the loaded transitions under
the dictionaries the load leaves. -/
theorem C08_load_numbering {τ : Type} (setFinal : τ → Nat → τ) (add : τ → CRule → τ) (par : Param) (A : τ) (yd : BddLoad.SymDict)
    (hyd : yd.Ok) (d : AutDesc) :
    Step ⟨[], 0, yd⟩ (loadDesc setFinal add par A ⟨[], 0, yd⟩ d).st (stateNames par d)
        ((loaded par d.trans).1.flatMap (symNames par)) ∧
      (loadDesc setFinal add par A ⟨[], 0, yd⟩ d).aut =
        ((loaded par d.trans).1.map (crule par (loadDesc setFinal add par A ⟨[], 0, yd⟩ d).st)).foldl add
          ((d.final.map (loadDesc setFinal add par A ⟨[], 0, yd⟩ d).st.sd.get).foldl setFinal A) ∧
      (loadDesc setFinal add par A ⟨[], 0, yd⟩ d).err = (loaded par d.trans).2.map (·.2) ∧
      ∀ t, t ∈ (loaded par d.trans).1 → Covers par (loadDesc setFinal add par A ⟨[], 0, yd⟩ d).st t :=
  loadDesc_spec setFinal add par A ⟨[], 0, yd⟩ (init_ok hyd) d

example : (⟨[], 0, BddLoadEx.ydUsed⟩ : LSt).Ok := init_ok BddLoadEx.ydUsed_ok

/-- **the dictionary of assignments as coded.**  The class stores 16-variable assignments and increments `nextSymbol_`
with `SymbolicVarAsgn::operator++` (which drops the carry out of variable 15); the model stores allocation numbers.
Translating a name in the dictionary of assignments (`AlphaC.tr`, on top of `Glue.postInc`) gives the assignment of the
number the model hands out and the dictionary the new model dictionary stands for; the fresh alphabet is `absAlpha []`;
and the number `k + 2^16` stands for the assignment of `k`. -/
theorem C08_load_alphabet_as_coded (s : LSt) (f : String) (k : Nat) :
    (absAlpha s.yd).tr f = (symAsgn (trSym s f).1, absAlpha (trSym s f).2.yd) ∧
    AlphaC.init = some (absAlpha []) ∧ symAsgn (k + symbolCodes) = symAsgn k ∧
    Glue.inc (symAsgn k) = symAsgn (k + 1) :=
  ⟨alphaC_refines s f, alphaC_init, symAsgn_wrap k, inc_symAsgn k⟩

/-- the counter after `2^16 - 1` increments is `1…1`; one more and it is `0…0` again -/
example : Glue.inc (symAsgn 65535) = symAsgn 0 ∧ symAsgn 65535 = List.replicate 16 (some true) := by
  refine ⟨?_, by decide⟩
  rw [inc_symAsgn]; exact symAsgn_wrap 0

/-!
## what this file closes, and what stays open

Closes, from the "not yet proved" block of `C08.lean`: "the Timbuk layer (`addArityToSymbol`, the symbol dictionary that
hands out the 16-bit numbers, state names) is not modelled here" and "Symbols `≥ 2^16` are outside the theorems" (now:
`C08_load_dump_exact`, `C08_load_alphabet_wraps`); from `C08_Tables.lean` the hypothesis `r.kids.length < 64` is explained
(`C08_load_arity_prefix`).

Not proved here:
* the dumps with numeric state names (`DumpToAutDesc (params)`, `Names.numeric`) are modelled and checked by the driver;
  the theorems are stated for the dictionary of the load (a round trip "under the same names" needs names);
* a state dictionary that is not fresh (`LoadFromAutDesc` into a loaded automaton with its dictionary: the counter
  restarts at 0 and names clash – the finding `C13_prefilled_state_dictionary_clash` applies verbatim, the translator is
  the same template); modelled (`Op.load (some k)`) and checked by the driver, no theorem;
* the textual (not only denotational) equality `dumpSym (loadSym (dumpSym A)) = dumpSym A` for full-width dumps (it needs
  the canonicity of the MTBDDs under an injective renaming of the leaves);
* the symbolic load into the TOP-DOWN encoding has the table theorem (`C08_load_tables`) but no dump to round-trip with
  (`NotImplementedException`); its explicit dump lists a symbolic rule under every name whose code lies in the cube
  (`mem_rawExplTD`), not stated as a property;
* the text layer (parser / serializer) is `C13.lean`; `C08_load_dump_reload` is stated on descriptions.
-/
end Vata.Props
