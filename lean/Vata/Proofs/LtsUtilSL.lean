import Vata.LtsUtil
import Vata.Proofs.LtsUtilCA
import Vata.Proofs.ContainerLemmas
import Vata.Proofs.ListExt

/-!
# `SharedList` (+ the two caching allocators of the engine) as coded refines lists of segments

The invariant `P.InvG` is stated for an arbitrary list of handles; what makes the proofs go through is `InvG.key`: a
reference count is `> 1` iff the id occurs behind another handle.  Six generic transitions (new node, `push_back`,
`copy()`, move, free, drop) preserve the invariant; `LtsUtilSL2.lean` instantiates them for `World`/`A`.
What an allocation does to either store is `CA.Pop` (inside `AddNode`).
-/

namespace Vata.LU.SL
namespace P
open CA (Pop)


def at' {α : Type} (l : List (Option α)) (k : Nat) : Option α := l.getD k none

theorem at'_eq {α : Type} (l : List (Option α)) (k : Nat) : at' l k = (l[k]?).getD none :=
  List.getD_eq_getElem?_getD

theorem at'_nil {α : Type} (k : Nat) : at' ([] : List (Option α)) k = none := rfl

@[simp] theorem at'_cons_zero {α : Type} (x : Option α) (l : List (Option α)) : at' (x :: l) 0 = x := by
  simp [at']

@[simp] theorem at'_cons_succ {α : Type} (x : Option α) (l : List (Option α)) (k : Nat) :
    at' (x :: l) (k + 1) = at' l k := by
  simp [at']

theorem at'_lt {α : Type} {l : List (Option α)} {k : Nat} {x : α} (h : at' l k = some x) : k < l.length :=
  lt_of_getD_eq_some h

theorem at'_mem {α : Type} {l : List (Option α)} {k : Nat} {x : α} (h : at' l k = some x) : some x ∈ l :=
  h ▸ getD_mem none l k (at'_lt h)

theorem mem_at' {α : Type} {l : List (Option α)} {x : α} (h : some x ∈ l) : ∃ k, at' l k = some x :=
  ((mem_iff_getD none l _).mp h).imp fun _ => And.right

theorem at'_set {α : Type} {l : List (Option α)} {k : Nat} (h : k < l.length) (x : Option α) (j : Nat) :
    at' (l.set k x) j = if j = k then x else at' l j := getD_set_of_lt none h x j

theorem at'_set_self {α : Type} {l : List (Option α)} {k : Nat} (h : k < l.length) (x : Option α) :
    at' (l.set k x) k = x := getD_set_self h x none

theorem at'_set_ne {α : Type} (l : List (Option α)) {k j : Nat} (h : j ≠ k) (x : Option α) :
    at' (l.set k x) j = at' l j := getD_set_ne l h x none

theorem set_at'_self {α : Type} {l : List (Option α)} {k : Nat} {x : Option α} (hx : at' l k = x) : l.set k x = l := by
  subst hx
  by_cases h : k < l.length
  · rw [at'_eq, List.getElem?_eq_getElem h]; exact List.set_getElem_self h
  · exact List.set_eq_of_length_le (Nat.le_of_not_lt h)

theorem forall_at'_set_ne {α : Type} {l : List (Option α)} {k : Nat} (hk : k < l.length) {x : Option α} {P : α → Prop}
    (h : ∀ j L, j ≠ k → at' l j = some L → P L) (hx : ∀ L, x = some L → P L) :
    ∀ j L, at' (l.set k x) j = some L → P L := by
  intro j L hL
  rw [at'_set hk] at hL
  by_cases e : j = k
  · rw [if_pos e] at hL; exact hx L hL
  · rw [if_neg e] at hL; exact h j L e hL

theorem forall_at'_set {α : Type} {l : List (Option α)} {k : Nat} (hk : k < l.length) {x : Option α} {P : α → Prop}
    (h : ∀ j L, at' l j = some L → P L) (hx : ∀ L, x = some L → P L) : ∀ j L, at' (l.set k x) j = some L → P L :=
  forall_at'_set_ne hk (fun j L _ => h j L) hx

theorem exists_at'_set {α : Type} {l : List (Option α)} {k : Nat} (hk : k < l.length) {x : Option α} {Q : α → Prop}
    (h : ∃ j L, at' l j = some L ∧ Q L) (hx : ∀ L, at' l k = some L → Q L → ∃ L', x = some L' ∧ Q L') :
    ∃ j L, at' (l.set k x) j = some L ∧ Q L := by
  obtain ⟨j, L, hj, hq⟩ := h
  by_cases e : j = k
  · subst e
    obtain ⟨L', rfl, hq'⟩ := hx L hj hq
    exact ⟨j, L', at'_set_self hk _, hq'⟩
  · exact ⟨j, L, by rw [at'_set_ne _ e]; exact hj, hq⟩

theorem inj_on_cons {β : Type} {g : Nat → β} {a : Nat} {l : List Nat} (h : ∀ i ∈ l, ∀ j ∈ l, g i = g j → i = j)
    (ha : ∀ j ∈ l, g a ≠ g j) : ∀ i ∈ a :: l, ∀ j ∈ a :: l, g i = g j → i = j := by
  intro i hi j hj hij
  rcases List.mem_cons.1 hi with e | hi' <;> rcases List.mem_cons.1 hj with e' | hj'
  · rw [e, e']
  · exact absurd (e ▸ hij) (ha j hj')
  · exact absurd (e' ▸ hij.symm) (ha i hi')
  · exact h i hi' j hj' hij

theorem count_set_at {l : List (Option Nat)} {k : Nat} (h : k < l.length) (a b : Option Nat) :
    (l.set k a).count b + (if at' l k = b then 1 else 0) = l.count b + (if a = b then 1 else 0) := by
  induction l generalizing k with
  | nil => simp at h
  | cons y l ih =>
    cases k with
    | zero =>
      simp only [List.set_cons_zero, List.count_cons, at'_cons_zero, beq_iff_eq]
      omega
    | succ k =>
      have := ih (Nat.lt_of_succ_lt_succ h)
      simp only [List.set_cons_succ, List.count_cons, at'_cons_succ, beq_iff_eq]
      omega

theorem count_set_some {l : List (Option Nat)} {k : Nat} (h : k < l.length) (hk : at' l k = none) (a b : Nat) :
    (l.set k (some a)).count (some b) = l.count (some b) + (if b = a then 1 else 0) := by
  have c := count_set_at h (some a) (some b)
  simp only [hk, Option.some.injEq, reduceCtorEq, if_false, Nat.add_zero, @eq_comm _ a b] at c
  exact c

theorem count_set_none {l : List (Option Nat)} {k a : Nat} (hk : at' l k = some a) (b : Nat) :
    (l.set k none).count (some b) + (if b = a then 1 else 0) = l.count (some b) := by
  have c := count_set_at (at'_lt hk) none (some b)
  simp only [hk, Option.some.injEq, reduceCtorEq, if_false, Nat.add_zero, @eq_comm _ a b] at c
  exact c

theorem two_le_count_iff {l : List (Option Nat)} {k : Nat} {a : Nat} (h : at' l k = some a) :
    2 ≤ l.count (some a) ↔ ∃ k', k' ≠ k ∧ at' l k' = some a := by
  have hlt := at'_lt h
  have c := count_set_none h a
  rw [if_pos rfl] at c
  have hm : 1 ≤ (l.set k none).count (some a) ↔ ∃ k', k' ≠ k ∧ at' l k' = some a := by
    rw [Nat.succ_le_iff, List.count_pos_iff]
    constructor
    · intro hm
      obtain ⟨k', hk'⟩ := mem_at' hm
      rw [at'_set hlt] at hk'
      by_cases e : k' = k
      · rw [if_pos e] at hk'; cases hk'
      · rw [if_neg e] at hk'; exact ⟨k', e, hk'⟩
    · rintro ⟨k', e, hk'⟩
      exact at'_mem (k := k') (by rw [at'_set_ne _ e]; exact hk')
  rw [← hm]; omega

theorem one_count {l : List (Option Nat)} {k : Nat} {a : Nat} (h : at' l k = some a) : 1 ≤ l.count (some a) :=
  List.count_pos_iff.2 (at'_mem h)

def ids (L : RemList) : List Nat := L.map (·.1)

@[simp] theorem ids_nil : ids [] = [] := rfl
@[simp] theorem ids_cons (sg : Seg) (L : RemList) : ids (sg :: L) = sg.1 :: ids L := rfl
@[simp] theorem ids_append (L L' : RemList) : ids (L ++ L') = ids L ++ ids L' := by simp [ids]

theorem mem_ids_split {i : Nat} {L : RemList} (h : i ∈ ids L) : ∃ L1 s L2, L = L1 ++ (i, s) :: L2 := by
  unfold ids at h
  obtain ⟨sg, hsg, rfl⟩ := List.mem_map.1 h
  obtain ⟨L1, L2, rfl⟩ := List.append_of_mem hsg
  exact ⟨L1, sg.2, L2, rfl⟩

/-- the chain behind handle `h` carries the value list `L` (`f` : id ↦ address) -/
def Rep (w : W) (f : Nat → Nat) : Option Nat → RemList → Prop
  | none, [] => True
  | some n, sg :: rest =>
    n = f sg.1 ∧ (∃ v, (w.nodes.get n).sub = some v ∧ w.vecs.get v = sg.2) ∧ Rep w f (w.nodes.get n).next rest
  | none, _ :: _ => False
  | some _, [] => False

@[simp] theorem Rep_none_nil (w : W) (f : Nat → Nat) : Rep w f none [] = True := by simp [Rep]
@[simp] theorem Rep_none_cons (w : W) (f : Nat → Nat) (sg : Seg) (r : RemList) : Rep w f none (sg :: r) = False := by
  simp [Rep]
@[simp] theorem Rep_some_nil (w : W) (f : Nat → Nat) (n : Nat) : Rep w f (some n) [] = False := by simp [Rep]
theorem Rep_some_cons (w : W) (f : Nat → Nat) (n : Nat) (sg : Seg) (r : RemList) :
    Rep w f (some n) (sg :: r) =
      (n = f sg.1 ∧ (∃ v, (w.nodes.get n).sub = some v ∧ w.vecs.get v = sg.2) ∧ Rep w f (w.nodes.get n).next r) := by
  simp [Rep]

theorem Rep_none {w : W} {f : Nat → Nat} {L : RemList} (h : Rep w f none L) : L = [] := by
  cases L with
  | nil => rfl
  | cons sg r => simp at h

theorem Rep_none_iff {w : W} {f : Nat → Nat} {h : Option Nat} : Rep w f h [] ↔ h = none := by
  cases h <;> simp

theorem Rep_some {w : W} {f : Nat → Nat} {n : Nat} {L : RemList} (h : Rep w f (some n) L) :
    ∃ i s r, L = (i, s) :: r ∧ n = f i ∧ (∃ v, (w.nodes.get n).sub = some v ∧ w.vecs.get v = s) ∧
      Rep w f (w.nodes.get n).next r := by
  cases L with
  | nil => simp at h
  | cons sg r =>
    rw [Rep_some_cons] at h
    exact ⟨sg.1, sg.2, r, rfl, h⟩

theorem Rep_cons {w : W} {f : Nat → Nat} {h : Option Nat} {sg : Seg} {r : RemList} :
    Rep w f h (sg :: r) ↔ h = some (f sg.1) ∧ (∃ v, (w.nodes.get (f sg.1)).sub = some v ∧ w.vecs.get v = sg.2) ∧
      Rep w f (w.nodes.get (f sg.1)).next r := by
  cases h with
  | none => simp
  | some n =>
    rw [Rep_some_cons]
    constructor
    · rintro ⟨rfl, h⟩; exact ⟨rfl, h⟩
    · rintro ⟨e, h⟩; cases e; exact ⟨rfl, h⟩

theorem Rep_suffix {w : W} {f : Nat → Nat} {h : Option Nat} {L1 : RemList} {sg : Seg} {L2 : RemList}
    (hr : Rep w f h (L1 ++ sg :: L2)) : Rep w f (some (f sg.1)) (sg :: L2) := by
  induction L1 generalizing h with
  | nil => exact (Rep_cons.1 hr).1 ▸ hr
  | cons x L1 ih => exact ih (Rep_cons.1 hr).2.2

theorem Rep_det {w : W} {f : Nat → Nat} {h : Option Nat} {L L' : RemList}
    (hinj : ∀ i ∈ ids L, ∀ j ∈ ids L', f i = f j → i = j)
    (hr : Rep w f h L) (hr' : Rep w f h L') : L = L' := by
  induction L generalizing h L' with
  | nil => rw [Rep_none_iff.1 hr] at hr'; exact (Rep_none hr').symm
  | cons sg r ih =>
    obtain ⟨rfl, ⟨v0, hv0, hs0⟩, hrest0⟩ := Rep_cons.1 hr
    obtain ⟨i, s, r', rfl, hn, ⟨v, hv, hs⟩, hrest⟩ := Rep_some hr'
    have hi : sg.1 = i := hinj sg.1 (by simp) i (by simp) hn
    have hvv : v0 = v := by rw [hv0] at hv; exact Option.some.inj hv
    have hss : sg.2 = s := by rw [← hs0, ← hs, hvv]
    have : r = r' := ih (fun a ha b hb => hinj a (by simp [ha]) b (by simp [hb])) hrest0 hrest
    subst this
    cases sg; simp at hi hss; simp [hi, hss]

theorem Rep_congr {w w' : W} {f f' : Nat → Nat} {h : Option Nat} {L : RemList}
    (hag : ∀ i ∈ ids L, f' i = f i ∧ (w'.nodes.get (f i)).next = (w.nodes.get (f i)).next ∧
      (w'.nodes.get (f i)).sub = (w.nodes.get (f i)).sub ∧
      ∀ v, (w.nodes.get (f i)).sub = some v → w'.vecs.get v = w.vecs.get v)
    (hr : Rep w f h L) : Rep w' f' h L := by
  induction L generalizing h with
  | nil => exact Rep_none_iff.2 (Rep_none_iff.1 hr)
  | cons sg r ih =>
    obtain ⟨rfl, ⟨v, hv, hs⟩, hrest⟩ := Rep_cons.1 hr
    obtain ⟨h1, h2, h3, h4⟩ := hag sg.1 (by simp)
    rw [Rep_cons, h1, h2, h3]
    exact ⟨rfl, ⟨v, hv, (h4 v hv).trans hs⟩, ih (fun i hi => hag i (by simp [hi])) hrest⟩

theorem Rep_length {w : W} {f f' : Nat → Nat} {h : Option Nat} {L L' : RemList}
    (hr : Rep w f h L) (hr' : Rep w f' h L') : L.length = L'.length := by
  induction L generalizing h L' with
  | nil => rw [Rep_none_iff.1 hr] at hr'; rw [Rep_none hr']
  | cons sg r ih =>
    obtain ⟨rfl, _, hrest⟩ := Rep_cons.1 hr
    obtain ⟨i, s, r', rfl, _, _, hrest'⟩ := Rep_some hr'
    simp [ih hrest hrest']

def RepH (w : W) (f : Nat → Nat) (h : Option Nat) : Option RemList → Prop
  | none => h = none
  | some L => L ≠ [] ∧ Rep w f h L

theorem RepH_none_left {w : W} {f : Nat → Nat} {o : Option RemList} (h : RepH w f none o) : o = none := by
  cases o with
  | none => rfl
  | some L => exact absurd (Rep_none h.2) h.1

theorem RepH_some_left {w : W} {f : Nat → Nat} {n : Nat} {o : Option RemList} (h : RepH w f (some n) o) :
    ∃ i s r, o = some ((i, s) :: r) ∧ n = f i ∧ (∃ v, (w.nodes.get n).sub = some v ∧ w.vecs.get v = s) ∧
      Rep w f (w.nodes.get n).next r := by
  cases o with
  | none => simp [RepH] at h
  | some L =>
    obtain ⟨i, s, r, rfl, h2⟩ := Rep_some h.2
    exact ⟨i, s, r, rfl, h2⟩

theorem RepH.imp {w w' : W} {f f' : Nat → Nat} {h : Option Nat} {o : Option RemList} (hr : RepH w f h o)
    (hi : ∀ L, o = some L → Rep w f h L → Rep w' f' h L) : RepH w' f' h o := by
  cases o with
  | none => exact hr
  | some L => exact ⟨hr.1, hi L rfl hr.2⟩

theorem rep_set {w : W} {f : Nat → Nat} {hc : List (Option Nat)} {ha : List (Option RemList)} {k : Nat}
    (hk : k < hc.length) (hk' : k < ha.length) {y : Option Nat} {x : Option RemList}
    (h : ∀ j, RepH w f (at' hc j) (at' ha j)) (hkk : RepH w f y x) :
    ∀ j, RepH w f (at' (hc.set k y) j) (at' (ha.set k x) j) := by
  intro j
  rw [at'_set hk, at'_set hk']
  by_cases e : j = k
  · rw [if_pos e, if_pos e]; exact hkk
  · rw [if_neg e, if_neg e]; exact h j


structure FreeOK (w : W) : Prop where
  nnd : w.nfree.Nodup
  nlt : ∀ n ∈ w.nfree, n < w.nnext
  nrc : ∀ n ∈ w.nfree, (w.nodes.get n).rc = 1
  vnd : w.vfree.Nodup
  vlt : ∀ v ∈ w.vfree, v < w.vnext

def isPred (w : W) (f : Nat → Nat) (i : Nat) : Nat → Bool :=
  fun j => (w.nodes.get (f j)).next == some (f i)

structure InvG (w : W) (hc : List (Option Nat)) (ha : List (Option RemList)) (nid : Nat)
    (live : List Nat) (f : Nat → Nat) : Prop where
  len : hc.length = ha.length
  rep : ∀ k, RepH w f (at' hc k) (at' ha k)
  nd : live.Nodup
  lt : ∀ i ∈ live, i < nid
  inj : ∀ i ∈ live, ∀ j ∈ live, f i = f j → i = j
  sub : ∀ k L, at' ha k = some L → ∀ i ∈ ids L, i ∈ live
  ndl : ∀ k L, at' ha k = some L → (ids L).Nodup
  reach : ∀ i ∈ live, ∃ k L, at' ha k = some L ∧ i ∈ ids L
  rc : ∀ i ∈ live, (w.nodes.get (f i)).rc = hc.count (some (f i)) + live.countP (isPred w f i)
  node : ∀ i ∈ live, f i < w.nnext ∧ f i ∉ w.nfree ∧
    ∃ v, (w.nodes.get (f i)).sub = some v ∧ v < w.vnext ∧ v ∉ w.vfree ∧ w.vecs.get v ≠ []
  subinj : ∀ i ∈ live, ∀ j ∈ live, (w.nodes.get (f i)).sub = (w.nodes.get (f j)).sub → i = j
  free : FreeOK w


variable {w : W} {hc : List (Option Nat)} {ha : List (Option RemList)} {nid : Nat} {live : List Nat} {f : Nat → Nat}

theorem InvG.head_none (I : InvG w hc ha nid live f) {k : Nat} (h : at' hc k = none) : at' ha k = none := by
  have := I.rep k
  rw [h] at this
  exact RepH_none_left this

theorem InvG.head_none' (I : InvG w hc ha nid live f) {k : Nat} (h : at' ha k = none) : at' hc k = none := by
  have := I.rep k
  rw [h] at this
  exact this

theorem InvG.head_some (I : InvG w hc ha nid live f) {k : Nat} {L : RemList} (h : at' ha k = some L) :
    ∃ l, at' hc k = some l := by
  have := I.rep k
  rw [h] at this
  cases hh : at' hc k with
  | none => rw [hh] at this; exact absurd (Rep_none this.2) this.1
  | some l => exact ⟨l, rfl⟩

theorem InvG.head (I : InvG w hc ha nid live f) {k n : Nat} (h : at' hc k = some n) :
    ∃ i s r, at' ha k = some ((i, s) :: r) ∧ n = f i ∧ i ∈ live ∧
      (∃ v, (w.nodes.get n).sub = some v ∧ w.vecs.get v = s) ∧ Rep w f (w.nodes.get n).next r := by
  have := I.rep k
  rw [h] at this
  obtain ⟨i, s, r, h1, h2, h3, h4⟩ := RepH_some_left this
  exact ⟨i, s, r, h1, h2, I.sub k _ h1 i (by simp), h3, h4⟩

theorem InvG.head_val (I : InvG w hc ha nid live f) {k i : Nat} (hk : at' hc k = some (f i)) (hi : i ∈ live) :
    ∃ s r, at' ha k = some ((i, s) :: r) := by
  obtain ⟨i', s, r, h3, h4, h5, _⟩ := I.head hk
  obtain rfl : i = i' := I.inj i hi i' h5 h4
  exact ⟨s, r, h3⟩

theorem InvG.head_of_val (I : InvG w hc ha nid live f) {k i : Nat} {s : List Nat} {r : RemList}
    (h : at' ha k = some ((i, s) :: r)) :
    at' hc k = some (f i) ∧ (∃ v, (w.nodes.get (f i)).sub = some v ∧ w.vecs.get v = s) ∧
      Rep w f (w.nodes.get (f i)).next r := by
  have := I.rep k
  rw [h] at this
  exact Rep_cons.1 this.2

theorem InvG.occ (I : InvG w hc ha nid live f) {k i : Nat} {L1 L2 : RemList} {s : List Nat}
    (h : at' ha k = some (L1 ++ (i, s) :: L2)) : i ∈ live ∧ Rep w f (some (f i)) ((i, s) :: L2) := by
  refine ⟨I.sub k _ h i (by simp), ?_⟩
  have := I.rep k
  rw [h] at this
  exact Rep_suffix this.2

theorem InvG.occ_next (I : InvG w hc ha nid live f) {k i : Nat} {L1 L2 : RemList} {s : List Nat}
    (h : at' ha k = some (L1 ++ (i, s) :: L2)) : Rep w f (w.nodes.get (f i)).next L2 :=
  (Rep_cons.1 (I.occ h).2).2.2

theorem InvG.suffix_eq (I : InvG w hc ha nid live f) {k k' i : Nat} {L1 L2 L1' L2' : RemList} {s s' : List Nat}
    (h : at' ha k = some (L1 ++ (i, s) :: L2)) (h' : at' ha k' = some (L1' ++ (i, s') :: L2')) :
    s = s' ∧ L2 = L2' := by
  have h1 := (I.occ h).2
  have h2 := (I.occ h').2
  have : (i, s) :: L2 = (i, s') :: L2' := by
    refine Rep_det ?_ h1 h2
    intro a ha' b hb hab
    exact I.inj a (I.sub k _ h a (by simp at ha' ⊢; rcases ha' with e | e <;> simp [e]))
      b (I.sub k' _ h' b (by simp at hb ⊢; rcases hb with e | e <;> simp [e])) hab
  simp at this
  exact this

theorem InvG.pred_of_val (I : InvG w hc ha nid live f) {k i j : Nat} {L1 L2 : RemList} {sj si : List Nat}
    (h : at' ha k = some (L1 ++ (j, sj) :: (i, si) :: L2)) : isPred w f i j = true := by
  simp [isPred, (Rep_cons.1 (I.occ_next h)).1]

theorem InvG.next_val (I : InvG w hc ha nid live f) {j m : Nat} (hj : j ∈ live)
    (h : (w.nodes.get (f j)).next = some m) :
    ∃ k L1 sj i si L2, at' ha k = some (L1 ++ (j, sj) :: (i, si) :: L2) ∧ m = f i ∧ i ∈ live := by
  obtain ⟨k, L, hk, hjL⟩ := I.reach j hj
  obtain ⟨L1, sj, L2', rfl⟩ := mem_ids_split hjL
  have h3 := I.occ_next hk
  rw [h] at h3
  obtain ⟨i, si, L2, rfl, hm, _, _⟩ := Rep_some h3
  refine ⟨k, L1, sj, i, si, L2, hk, hm, I.sub k _ hk i (by simp)⟩

theorem InvG.next_none_val (I : InvG w hc ha nid live f) {k j : Nat} {L1 L2 : RemList} {sj : List Nat}
    (hk : at' ha k = some (L1 ++ (j, sj) :: L2))
    (h : (w.nodes.get (f j)).next = none) : L2 = [] := by
  have h3 := I.occ_next hk
  rw [h] at h3
  exact Rep_none h3

theorem InvG.pred_iff (I : InvG w hc ha nid live f) {i j : Nat} (hi : i ∈ live) (hj : j ∈ live) :
    isPred w f i j = true ↔ ∃ k L1 sj si L2, at' ha k = some (L1 ++ (j, sj) :: (i, si) :: L2) := by
  constructor
  · intro h
    simp only [isPred, beq_iff_eq] at h
    obtain ⟨k, L1, sj, i', si, L2, hk, hm, hi'⟩ := I.next_val hj h
    have : i = i' := I.inj i hi i' hi' hm
    subst this
    exact ⟨k, L1, sj, si, L2, hk⟩
  · rintro ⟨k, L1, sj, si, L2, hk⟩
    exact I.pred_of_val hk

theorem InvG.head_not_later (I : InvG w hc ha nid live f) {k i j : Nat} {s sj si : List Nat} {r L1 L2 : RemList}
    (h : at' ha k = some ((i, s) :: r)) (h' : at' ha k = some (L1 ++ (j, sj) :: (i, si) :: L2)) : False := by
  have hnd := I.ndl k _ h
  rw [h] at h'
  have e := Option.some.inj h'
  cases L1 with
  | nil =>
    simp at e
    obtain ⟨⟨rfl, _⟩, rfl⟩ := e
    simp at hnd
  | cons x L1 =>
    simp at e
    obtain ⟨_, rfl⟩ := e
    simp at hnd

def elsewhere (ha : List (Option RemList)) (k i : Nat) : Prop := ∃ k' L, k' ≠ k ∧ at' ha k' = some L ∧ i ∈ ids L

/-- the count of a head is `> 1` iff its id occurs behind another handle -/
theorem InvG.key (I : InvG w hc ha nid live f) {k i : Nat} (hk : at' hc k = some (f i)) (hi : i ∈ live) :
    1 < (w.nodes.get (f i)).rc ↔ elsewhere ha k i := by
  rw [I.rc i hi]
  have h1 := one_count hk
  constructor
  · intro h
    by_cases h2 : 2 ≤ hc.count (some (f i))
    · obtain ⟨k', hne, hk'⟩ := (two_le_count_iff hk).1 h2
      obtain ⟨s, r, h3⟩ := I.head_val hk' hi
      exact ⟨k', _, hne, h3, by simp⟩
    · have : 0 < live.countP (isPred w f i) := by omega
      obtain ⟨j, hj, hp⟩ := List.countP_pos_iff.1 this
      obtain ⟨k', L1, sj, si, L2, hk'⟩ := (I.pred_iff hi hj).1 hp
      refine ⟨k', _, ?_, hk', by simp⟩
      intro e
      subst e
      obtain ⟨s, r, h3⟩ := I.head_val hk hi
      exact I.head_not_later h3 hk'
  · rintro ⟨k', L, hne, hk', hiL⟩
    obtain ⟨L1, s, L2, rfl⟩ := mem_ids_split hiL
    rcases List.eq_nil_or_concat L1 with e | ⟨L0, x, e⟩
    · subst e
      have := (I.head_of_val (by simpa using hk')).1
      have := (two_le_count_iff hk).2 ⟨k', hne, this⟩
      omega
    · subst e
      have hk2 : at' ha k' = some (L0 ++ (x.1, x.2) :: (i, s) :: L2) := by
        rw [hk']; simp
      have hx : x.1 ∈ live := (I.occ hk2).1
      have := I.pred_of_val hk2
      have : 0 < live.countP (isPred w f i) := List.countP_pos_iff.2 ⟨x.1, hx, this⟩
      omega

theorem InvG.rc_ne_one (I : InvG w hc ha nid live f) {k i : Nat} (hk : at' hc k = some (f i)) (hi : i ∈ live) :
    (w.nodes.get (f i)).rc ≠ 1 ↔ elsewhere ha k i := by
  rw [← I.key hk hi]
  have := one_count hk
  have := I.rc i hi
  omega

theorem elsewhere_set (ha : List (Option RemList)) (k : Nat) (x : Option RemList) (i : Nat) :
    elsewhere (ha.set k x) k i ↔ elsewhere ha k i :=
  exists_congr fun _ => exists_congr fun _ => and_congr_right fun hne => by rw [at'_set_ne _ hne]

/-- all nodes behind a head that has a second referrer are reachable from another handle -/
theorem InvG.elsewhere_of_head (I : InvG w hc ha nid live f) {k i : Nat} {s : List Nat} {r : RemList}
    (h : at' ha k = some ((i, s) :: r)) (hel : elsewhere ha k i) : ∀ j ∈ ids ((i, s) :: r), elsewhere ha k j := by
  obtain ⟨k', L, hne, h', hi⟩ := hel
  obtain ⟨L1, s', L2, rfl⟩ := mem_ids_split hi
  have h0 : at' ha k = some ([] ++ (i, s) :: r) := by simpa using h
  obtain ⟨rfl, rfl⟩ := I.suffix_eq h0 h'
  exact fun j hj => ⟨k', _, hne, h', by rw [ids_append]; exact List.mem_append_right _ hj⟩

theorem InvG.len_le (I : InvG w hc ha nid live f) {k : Nat} {L : RemList} (h : at' ha k = some L) :
    L.length ≤ w.nnext := by
  have h1 : (ids L).length ≤ live.length := List.Nodup.length_le_of_subset (I.ndl k L h) (fun i hi => I.sub k L h i hi)
  have h2 : (live.map f).length ≤ (List.range w.nnext).length := by
    apply List.Nodup.length_le_of_subset
    · exact nodup_map_of_injOn I.nd I.inj
    · intro x hx
      obtain ⟨i, hi, rfl⟩ := List.mem_map.1 hx
      exact List.mem_range.2 (I.node i hi).1
  simp [ids] at h1 h2
  omega

/-! ### generic transition 1: a new node in front of handle `k` -/

/-- `w'` is `w` plus one node `n` (fresh or recycled) with vector `v` (fresh or recycled) -/
structure AddNode (w w' : W) (n v : Nat) (nx : Option Nat) (l : List Nat) : Prop where
  pn : Pop w.nfree w'.nfree w.nnext w'.nnext n
  pv : Pop w.vfree w'.vfree w.vnext w'.vnext v
  node : w'.nodes.get n = ⟨nx, some v, 1⟩
  nodes : ∀ m, m ≠ n → w'.nodes.get m = w.nodes.get m
  vec : w'.vecs.get v = l
  vecs : ∀ u, u ≠ v → w'.vecs.get u = w.vecs.get u

section addNode
variable {w' : W} {n v : Nat} {nx : Option Nat} {l : List Nat}

def upd (f : Nat → Nat) (nid n : Nat) : Nat → Nat := fun i => if i = nid then n else f i

theorem upd_self (f : Nat → Nat) (nid n : Nat) : upd f nid n nid = n := by simp [upd]

theorem upd_live (I : InvG w hc ha nid live f) (n : Nat) {i : Nat} (hi : i ∈ live) : upd f nid n i = f i := by
  have := I.lt i hi
  simp [upd]; omega

theorem AddNode.free (A : AddNode w w' n v nx l) (F : FreeOK w) : FreeOK w' :=
  ⟨A.pn.nd, A.pn.flt, fun m hm => by
    rw [A.nodes m (fun e => A.pn.nf (e ▸ hm))]; exact F.nrc m (A.pn.sub m hm), A.pv.nd, A.pv.flt⟩

theorem AddNode.ne (A : AddNode w w' n v nx l) (I : InvG w hc ha nid live f) {i : Nat} (hi : i ∈ live) : f i ≠ n :=
  A.pn.ne (I.node i hi).1 (I.node i hi).2.1

theorem AddNode.vne (A : AddNode w w' n v nx l) (I : InvG w hc ha nid live f) {i u : Nat} (hi : i ∈ live)
    (hu : (w.nodes.get (f i)).sub = some u) : u ≠ v := by
  obtain ⟨_, _, u', h1, h2, h3, _⟩ := I.node i hi
  obtain rfl : u = u' := Option.some.inj (hu.symm.trans h1)
  exact A.pv.ne h2 h3

theorem AddNode.rep (A : AddNode w w' n v nx l) (I : InvG w hc ha nid live f) {h : Option Nat} {L : RemList}
    (hL : ∀ i ∈ ids L, i ∈ live) (hr : Rep w f h L) : Rep w' (upd f nid n) h L := by
  refine Rep_congr ?_ hr
  intro i hi
  have hi' := hL i hi
  have hn := A.nodes _ (A.ne I hi')
  refine ⟨upd_live I n hi', by rw [hn], by rw [hn], ?_⟩
  intro u hu
  exact A.vecs u (A.vne I hi' hu)

theorem AddNode.not_head (A : AddNode w w' n v nx l) (I : InvG w hc ha nid live f) (k : Nat) : at' hc k ≠ some n := by
  intro hk
  obtain ⟨i, _, _, _, h2, h3, _⟩ := I.head hk
  exact A.ne I h3 h2.symm

theorem AddNode.isPred_live (A : AddNode w w' n v nx l) (I : InvG w hc ha nid live f) {i j : Nat}
    (hi : i ∈ live) (hj : j ∈ live) : isPred w' (upd f nid n) i j = isPred w f i j := by
  simp only [isPred, upd_live I n hi, upd_live I n hj, A.nodes _ (A.ne I hj)]

theorem AddNode.isPred_new (A : AddNode w w' n v nx l) (I : InvG w hc ha nid live f) {i : Nat}
    (hi : i ∈ live) : isPred w' (upd f nid n) i nid = (nx == some (f i)) := by
  simp only [isPred, upd_live I n hi, upd_self, A.node]

theorem AddNode.isPred_to_new (A : AddNode w w' n v nx l) (I : InvG w hc ha nid live f) {k : Nat}
    (hk : at' hc k = nx) : ∀ j ∈ nid :: live, ¬ isPred w' (upd f nid n) nid j = true := by
  intro j hj hp
  simp only [isPred, upd_self, beq_iff_eq] at hp
  rcases List.mem_cons.1 hj with e | e
  · subst e
    rw [upd_self, A.node] at hp
    exact A.not_head I k (hk.trans hp)
  · rw [upd_live I n e, A.nodes _ (A.ne I e)] at hp
    obtain ⟨_, _, _, i, _, _, _, h2, h3⟩ := I.next_val e hp
    exact A.ne I h3 h2.symm

theorem AddNode.rc_new (A : AddNode w w' n v nx l) (I : InvG w hc ha nid live f) {k : Nat}
    (hlt : k < hc.length) (hk : at' hc k = nx) :
    (w'.nodes.get (upd f nid n nid)).rc =
      (hc.set k (some n)).count (some (upd f nid n nid)) + (nid :: live).countP (isPred w' (upd f nid n) nid) := by
  have h0 : (nid :: live).countP (isPred w' (upd f nid n) nid) = 0 :=
    List.countP_eq_zero.2 (A.isPred_to_new I hk)
  have h1 : hc.count (some n) = 0 := by
    rw [List.count_eq_zero]
    intro hm
    obtain ⟨k', hk'⟩ := mem_at' hm
    exact A.not_head I k' hk'
  have c := count_set_at hlt (some n) (some n)
  rw [if_neg (A.not_head I k), if_pos rfl, h1] at c
  rw [h0, upd_self, A.node]
  show 1 = _
  omega

theorem AddNode.rc_live (A : AddNode w w' n v nx l) (I : InvG w hc ha nid live f) {k : Nat}
    (hlt : k < hc.length) (hk : at' hc k = nx) {i : Nat} (hi : i ∈ live) :
    (w'.nodes.get (upd f nid n i)).rc =
      (hc.set k (some n)).count (some (upd f nid n i)) + (nid :: live).countP (isPred w' (upd f nid n) i) := by
  rw [upd_live I n hi, A.nodes _ (A.ne I hi), I.rc i hi, List.countP_cons, A.isPred_new I hi]
  have h1 : live.countP (isPred w' (upd f nid n) i) = live.countP (isPred w f i) :=
    List.countP_congr (fun j hj => by rw [A.isPred_live I hi hj])
  rw [h1]
  have := count_set_at hlt (some n) (some (f i))
  rw [hk] at this
  have h2 : ¬ (some n = some (f i)) := fun e => A.ne I hi (Option.some.inj e).symm
  simp only [h2, if_false] at this
  simp only [beq_iff_eq]
  omega

theorem AddNode.inv (A : AddNode w w' n v nx l) (I : InvG w hc ha nid live f) {k : Nat}
    (hlt : k < hc.length) (hk : at' hc k = nx) (hl : l ≠ []) :
    InvG w' (hc.set k (some n)) (ha.set k (some ((nid, l) :: (at' ha k).getD []))) (nid + 1) (nid :: live)
      (upd f nid n) := by
  have hlt' : k < ha.length := I.len ▸ hlt
  -- the old value behind handle `k` (the empty list if there was none)
  obtain ⟨hold, hnd0, hrep0⟩ : (∀ i ∈ ids ((at' ha k).getD []), i ∈ live) ∧ (ids ((at' ha k).getD [])).Nodup ∧
      Rep w f nx ((at' ha k).getD []) := by
    have hr := I.rep k
    rw [hk] at hr
    cases ho : at' ha k with
    | none => rw [ho] at hr; exact ⟨fun _ h => (nomatch h), List.nodup_nil, Rep_none_iff.2 hr⟩
    | some L => rw [ho] at hr; exact ⟨I.sub k L ho, I.ndl k L ho, hr.2⟩
  have hnid : nid ∉ live := fun h => Nat.lt_irrefl _ (I.lt nid h)
  refine
    { len := by rw [List.length_set, List.length_set]; exact I.len
      rep := rep_set hlt hlt' (fun j => (I.rep j).imp fun L e => A.rep I (I.sub j L e)) ⟨by simp, ?_⟩
      nd := List.nodup_cons.2 ⟨hnid, I.nd⟩
      lt := List.forall_mem_cons.2 ⟨Nat.lt_succ_self _, fun i hi => Nat.lt_succ_of_lt (I.lt i hi)⟩
      inj := inj_on_cons (fun i hi j hj hij => ?_) (fun j hj hij => ?_)
      sub := forall_at'_set hlt' (fun j L hL i hi => List.mem_cons_of_mem _ (I.sub j L hL i hi)) (fun L e i hi => ?_)
      ndl := forall_at'_set hlt' I.ndl (fun L e => ?_)
      reach := fun i hi => ?_
      rc := List.forall_mem_cons.2 ⟨A.rc_new I hlt hk, fun i hi => A.rc_live I hlt hk hi⟩
      node := fun i hi => ?_
      subinj := inj_on_cons (g := fun i => (w'.nodes.get (upd f nid n i)).sub) (fun i hi j hj hij => ?_)
        (fun j hj hij => ?_)
      free := A.free I.free }
  · rw [Rep_some_cons, A.node]
    exact ⟨(upd_self _ _ _).symm, ⟨v, rfl, A.vec⟩, A.rep I hold hrep0⟩
  · rw [upd_live I n hi, upd_live I n hj] at hij
    exact I.inj i hi j hj hij
  · rw [upd_self, upd_live I n hj] at hij
    exact A.ne I hj hij.symm
  · cases e
    rcases List.mem_cons.1 hi with rfl | e
    · exact List.mem_cons_self ..
    · exact List.mem_cons_of_mem _ (hold i e)
  · cases e
    exact List.nodup_cons.2 ⟨fun h => hnid (hold _ h), hnd0⟩
  · rcases List.mem_cons.1 hi with rfl | e
    · exact ⟨k, _, at'_set_self hlt' _, by simp⟩
    · exact exists_at'_set hlt' (I.reach i e) (fun L hL hiL => ⟨_, rfl, by rw [hL]; simp [hiL]⟩)
  · rcases List.mem_cons.1 hi with rfl | e
    · rw [upd_self, A.node]
      exact ⟨A.pn.lt, A.pn.nf, v, rfl, A.pv.lt, A.pv.nf, by rw [A.vec]; exact hl⟩
    · rw [upd_live I n e, A.nodes _ (A.ne I e)]
      obtain ⟨h1, h2, u, h3, h4, h5, h6⟩ := I.node i e
      refine ⟨Nat.lt_of_lt_of_le h1 A.pn.mono, fun h => h2 (A.pn.sub _ h), u, h3, Nat.lt_of_lt_of_le h4 A.pv.mono,
        fun h => h5 (A.pv.sub _ h), ?_⟩
      rw [A.vecs u (A.vne I e h3)]
      exact h6
  · simp only [upd_live I n hi, upd_live I n hj, A.nodes _ (A.ne I hi), A.nodes _ (A.ne I hj)] at hij
    exact I.subinj i hi j hj hij
  · simp only [upd_self, upd_live I n hj, A.node, A.nodes _ (A.ne I hj)] at hij
    exact A.vne I hj hij.symm rfl

end addNode


theorem nil_or_cons {α : Type} (l : List α) : l = [] ∨ ∃ a f, l = a :: f := by
  cases l with
  | nil => exact Or.inl rfl
  | cons a f => exact Or.inr ⟨a, f, rfl⟩

theorem allocVec_spec (w : W) (hnd : w.vfree.Nodup) (hlt : ∀ u ∈ w.vfree, u < w.vnext) :
    Pop w.vfree (allocVec w).2.vfree w.vnext (allocVec w).2.vnext (allocVec w).1 ∧ (allocVec w).2.nodes = w.nodes ∧
      (allocVec w).2.nfree = w.nfree ∧ (allocVec w).2.nnext = w.nnext ∧
      ∀ u, u ≠ (allocVec w).1 → (allocVec w).2.vecs.get u = w.vecs.get u := by
  rcases nil_or_cons w.vfree with hv | ⟨v, f, hv⟩
  · have e : allocVec w = (w.vnext, { w with vnext := w.vnext + 1, vecs := w.vecs.set w.vnext [] }) := by
      unfold allocVec; rw [hv]
    rw [e]
    exact ⟨.new hnd hlt, rfl, rfl, rfl, fun u hu => Heap.get_set_ne _ _ hu⟩
  · have e : allocVec w = (v, { w with vfree := f }) := by unfold allocVec; rw [hv]
    rw [e, hv]
    exact ⟨.cons (hv ▸ hnd) (hv ▸ hlt), rfl, rfl, rfl, fun _ _ => rfl⟩

/-- the initializer of the node allocator: node `n` gets the cleared vector `v` -/
def linkW (w : W) (n v : Nat) : W :=
  { w with vecs := w.vecs.set v [], nodes := w.nodes.set n { w.nodes.get n with sub := some v } }

/-- `removeAllocator_()`: a node with count 1 and an empty vector; its `next_` is whatever it was -/
theorem allocNode_add {w : W} (F : FreeOK w) :
    ∃ v nx, AddNode w (allocNode w).2 (allocNode w).1 v nx [] := by
  -- the node: popped (count 1 as in the store) or new
  obtain ⟨n, w1, e, pn, hrc, hnodes, hvecs, hvf, hvn⟩ : ∃ n w1, allocNode w = (n, linkW (allocVec w1).2 n (allocVec w1).1) ∧
      Pop w.nfree w1.nfree w.nnext w1.nnext n ∧ (w1.nodes.get n).rc = 1 ∧ (∀ m, m ≠ n → w1.nodes.get m = w.nodes.get m) ∧
      w1.vecs = w.vecs ∧ w1.vfree = w.vfree ∧ w1.vnext = w.vnext := by
    rcases nil_or_cons w.nfree with hf | ⟨n, f, hf⟩
    · exact ⟨w.nnext, { w with nnext := w.nnext + 1, nodes := w.nodes.set w.nnext ⟨none, none, 1⟩ },
        by unfold allocNode; rw [hf]; rfl, .new F.nnd F.nlt,
        congrArg Node.rc (Heap.get_set_same _ _ _), fun m hm => Heap.get_set_ne _ _ hm, rfl, rfl, rfl⟩
    · refine ⟨n, { w with nfree := f }, by unfold allocNode; rw [hf]; rfl, ?_,
        F.nrc n (by rw [hf]; exact List.mem_cons_self ..), fun _ _ => rfl, rfl, rfl, rfl⟩
      rw [hf]; exact .cons (hf ▸ F.nnd) (hf ▸ F.nlt)
  obtain ⟨pv, hn2, hnf2, hnn2, hv2⟩ := allocVec_spec w1 (hvf ▸ F.vnd) (by rw [hvf, hvn]; exact F.vlt)
  rw [hvf, hvn] at pv
  rw [e]
  refine ⟨(allocVec w1).1, (w1.nodes.get n).next, ?_, pv, ?_, fun m hm => ?_, Heap.get_set_same _ _ _, fun u hu => ?_⟩
  · show Pop w.nfree (allocVec w1).2.nfree w.nnext (allocVec w1).2.nnext n
    rw [hnf2, hnn2]; exact pn
  · show ((allocVec w1).2.nodes.set n _).get n = _
    rw [Heap.get_set_same, hn2]
    cases hh : w1.nodes.get n
    rw [hh] at hrc
    exact congrArg (Node.mk _ _) hrc
  · show ((allocVec w1).2.nodes.set n _).get m = _
    rw [Heap.get_set_ne _ _ hm, hn2]; exact hnodes m hm
  · show ((allocVec w1).2.vecs.set _ _).get u = _
    rw [Heap.get_set_ne _ _ hu, hv2 u hu, hvecs]

/-- `next_` and the vector of the new node are overwritten -/
theorem AddNode.set {w w1 : W} {n v : Nat} {nx0 : Option Nat} {l0 : List Nat} (A : AddNode w w1 n v nx0 l0)
    (nx : Option Nat) (l : List Nat) :
    AddNode w { w1 with nodes := w1.nodes.set n ⟨nx, some v, 1⟩, vecs := w1.vecs.set v l } n v nx l :=
  ⟨A.pn, A.pv, Heap.get_set_same _ _ _, fun m hm => (Heap.get_set_ne _ _ hm).trans (A.nodes m hm),
   Heap.get_set_same _ _ _, fun u hu => (Heap.get_set_ne _ _ hu).trans (A.vecs u hu)⟩

theorem AddNode.append {w w1 : W} {n v : Nat} {nx0 : Option Nat} (A : AddNode w w1 n v nx0 []) (nx : Option Nat)
    (x : Nat) : ∃ w', pushBack (setNext w1 n nx) n x = some w' ∧ AddNode w w' n v nx [x] := by
  refine ⟨_, ?_, A.set nx [x]⟩
  simp only [pushBack, setNext, Heap.get_set_same, A.node, A.vec, List.nil_append]

theorem newList_add {w : W} (F : FreeOK w) (l : List Nat) :
    AddNode w (newList w l).2 (newList w l).1 w.vnext none l :=
  ⟨.new F.nnd F.nlt, .new F.vnd F.vlt, Heap.get_set_same _ _ _, fun _ hm => Heap.get_set_ne _ _ hm,
   Heap.get_set_same _ _ _, fun _ hu => Heap.get_set_ne _ _ hu⟩

/-! ### worlds that differ only in parts `Rep` does not read -/

theorem Rep_same {w w' : W} {f : Nat → Nat} {h : Option Nat} {L : RemList}
    (hn : ∀ m, (w'.nodes.get m).next = (w.nodes.get m).next ∧ (w'.nodes.get m).sub = (w.nodes.get m).sub)
    (hv : w'.vecs = w.vecs) (hr : Rep w f h L) : Rep w' f h L :=
  Rep_congr (fun i _ => ⟨rfl, (hn _).1, (hn _).2, fun _ _ => by rw [hv]⟩) hr

theorem RepH_same {w w' : W} {f : Nat → Nat} {h : Option Nat} {o : Option RemList}
    (hn : ∀ m, (w'.nodes.get m).next = (w.nodes.get m).next ∧ (w'.nodes.get m).sub = (w.nodes.get m).sub)
    (hv : w'.vecs = w.vecs) (hr : RepH w f h o) : RepH w' f h o :=
  hr.imp fun _ _ => Rep_same hn hv

theorem isPred_same {w w' : W} {f : Nat → Nat}
    (hn : ∀ m, (w'.nodes.get m).next = (w.nodes.get m).next) (i j : Nat) : isPred w' f i j = isPred w f i j := by
  simp only [isPred, hn]

/-! ### generic transition 2: `push_back` on an unshared head -/

def pushW (w : W) (v x : Nat) : W := { w with vecs := w.vecs.set v (w.vecs.get v ++ [x]) }

theorem push_rep (I : InvG w hc ha nid live f) {i v x : Nat} (hi : i ∈ live) (hv : (w.nodes.get (f i)).sub = some v)
    {h : Option Nat} {L : RemList} (hL : ∀ j ∈ ids L, j ∈ live ∧ j ≠ i) (hr : Rep w f h L) :
    Rep (pushW w v x) f h L := by
  refine Rep_congr ?_ hr
  intro j hj
  refine ⟨rfl, rfl, rfl, ?_⟩
  intro u hu
  have : u ≠ v := by
    intro e
    subst e
    exact (hL j hj).2 (I.subinj j (hL j hj).1 i hi (by rw [hu, hv]))
  exact Heap.get_set_ne _ _ this

theorem push_inv (I : InvG w hc ha nid live f) {k i v x : Nat} {s : List Nat} {r : RemList}
    (hk : at' ha k = some ((i, s) :: r)) (hv : (w.nodes.get (f i)).sub = some v)
    (hun : ¬ elsewhere ha k i) :
    InvG (pushW w v x) hc (ha.set k (some ((i, s ++ [x]) :: r))) nid live f := by
  have hlt' : k < ha.length := at'_lt hk
  have hi : i ∈ live := I.sub k _ hk i (by simp)
  obtain ⟨hhead, ⟨v0, hv0, hs0⟩, hrest⟩ := I.head_of_val hk
  obtain rfl : v0 = v := Option.some.inj (hv0.symm.trans hv)
  have hnd := I.ndl k _ hk
  rw [ids_cons, List.nodup_cons] at hnd
  refine
    { I with
      len := by rw [List.length_set]; exact I.len
      rep := fun k' => ?_
      sub := forall_at'_set hlt' I.sub (fun L e => by cases e; exact I.sub k ((i, s) :: r) hk)
      ndl := forall_at'_set hlt' I.ndl (fun L e => by cases e; exact I.ndl k ((i, s) :: r) hk)
      reach := fun j hj => exists_at'_set hlt' (I.reach j hj)
        (fun L hL hjL => ⟨_, rfl, by rw [hk] at hL; cases hL; exact hjL⟩)
      node := fun j hj => ?_
      free := ⟨I.free.nnd, I.free.nlt, I.free.nrc, I.free.vnd, I.free.vlt⟩ }
  · by_cases e : k' = k
    · subst e
      rw [at'_set_self hlt', hhead]
      refine ⟨by simp, ?_⟩
      rw [Rep_some_cons]
      refine ⟨rfl, ⟨v0, hv0, ?_⟩, ?_⟩
      · show (w.vecs.set v0 _).get v0 = _
        rw [Heap.get_set_same, hs0]
      · refine push_rep I hi hv0 ?_ hrest
        intro j hj
        exact ⟨I.sub k' _ hk j (by simp [hj]), fun e => hnd.1 (e ▸ hj)⟩
    · rw [at'_set_ne _ e]
      exact (I.rep k').imp fun L ho => push_rep I hi hv0 fun j hj =>
        ⟨I.sub k' L ho j hj, fun e' => hun ⟨k', L, e, ho, e' ▸ hj⟩⟩
  · obtain ⟨h1, h2, u, h3, h4, h5, h6⟩ := I.node j hj
    refine ⟨h1, h2, u, h3, h4, h5, ?_⟩
    show (w.vecs.set v0 _).get u ≠ []
    rw [Heap.get_set]
    split
    · simp
    · exact h6

/-! ### generic transition 3: `copy()` into an empty handle -/

/-- the count of node `e` becomes `c`: `copy()` and the last step of `release` -/
def setRc (w : W) (e c : Nat) : W := { w with nodes := w.nodes.set e { w.nodes.get e with rc := c } }

theorem setRc_get (w : W) (e c m : Nat) :
    ((setRc w e c).nodes.get m).next = (w.nodes.get m).next ∧ ((setRc w e c).nodes.get m).sub = (w.nodes.get m).sub := by
  simp only [setRc, Heap.get_set]
  split
  · rename_i h; subst h; simp
  · simp

theorem setRc_rc (w : W) (e c m : Nat) :
    ((setRc w e c).nodes.get m).rc = if m = e then c else (w.nodes.get m).rc := by
  simp only [setRc, Heap.get_set]
  split
  · simp
  · simp

/-- the invariant after the count of a live node is written: what speaks of the handles is shown in `w` -/
theorem setRc_inv (I : InvG w hc ha nid live f) {i : Nat} (hi : i ∈ live) (c : Nat)
    {hc' : List (Option Nat)} {ha' : List (Option RemList)} (len : hc'.length = ha'.length)
    (rep : ∀ k, RepH w f (at' hc' k) (at' ha' k))
    (sub : ∀ k L, at' ha' k = some L → ∀ i ∈ ids L, i ∈ live) (ndl : ∀ k L, at' ha' k = some L → (ids L).Nodup)
    (reach : ∀ i ∈ live, ∃ k L, at' ha' k = some L ∧ i ∈ ids L)
    (rc : ∀ j ∈ live, (if f j = f i then c else (w.nodes.get (f j)).rc) =
      hc'.count (some (f j)) + live.countP (isPred w f j)) :
    InvG (setRc w (f i) c) hc' ha' nid live f :=
  { I with
    len, sub, ndl, reach
    rep := fun k => RepH_same (setRc_get w (f i) c) rfl (rep k)
    rc := fun j hj => by
      rw [setRc_rc, rc j hj]
      exact congrArg _ (List.countP_congr fun a _ => by rw [isPred_same fun m => (setRc_get w (f i) c m).1])
    node := fun j hj => by rw [(setRc_get w (f i) c _).2]; exact I.node j hj
    subinj := fun a ha b hb hab => by
      rw [(setRc_get w (f i) c _).2, (setRc_get w (f i) c _).2] at hab
      exact I.subinj a ha b hb hab
    free := ⟨I.free.nnd, I.free.nlt, fun m hm => by
      rw [setRc_rc, if_neg fun e : m = f i => (I.node i hi).2.1 (e ▸ hm)]; exact I.free.nrc m hm, I.free.vnd, I.free.vlt⟩ }

theorem copy_inv (I : InvG w hc ha nid live f) {s t l : Nat} (hs : at' hc s = some l) (hlt : t < hc.length)
    (ht : at' hc t = none) : InvG (copy w l) (hc.set t (some l)) (ha.set t (at' ha s)) nid live f := by
  have hlt' : t < ha.length := I.len ▸ hlt
  have hta : at' ha t = none := I.head_none ht
  obtain ⟨i, sg, r, hsa, rfl, hi, _, _⟩ := I.head hs
  refine setRc_inv I hi ((w.nodes.get (f i)).rc + 1) (by rw [List.length_set, List.length_set]; exact I.len)
    (rep_set hlt hlt' I.rep (by rw [← hs]; exact I.rep s))
    (forall_at'_set hlt' I.sub (I.sub s))
    (forall_at'_set hlt' I.ndl (I.ndl s))
    (fun j hj => exists_at'_set hlt' (I.reach j hj) (fun L hL _ => by rw [hta] at hL; cases hL))
    (fun j hj => ?_)
  rw [count_set_some hlt ht]
  by_cases e : f j = f i
  · obtain rfl : j = i := I.inj j hj i hi e
    rw [if_pos rfl, if_pos rfl, I.rc j hj, Nat.add_right_comm]
  · rw [if_neg e, if_neg e, I.rc j hj]; rfl

/-! ### generic transition 4: a handle moves from `k1` to the empty handle `k2` -/

theorem move_inv (I : InvG w hc ha nid live f) {k1 k2 l : Nat} (h1 : at' hc k1 = some l) (hlt : k2 < hc.length)
    (h2 : at' hc k2 = none) :
    InvG w ((hc.set k1 none).set k2 (some l)) ((ha.set k1 none).set k2 (at' ha k1)) nid live f := by
  have hlt' : k2 < ha.length := I.len ▸ hlt
  have h2a : at' ha k2 = none := I.head_none h2
  have hlt1 : k1 < hc.length := at'_lt h1
  have hlt1' : k1 < ha.length := I.len ▸ hlt1
  have hne : k2 ≠ k1 := by intro e; rw [e, h1] at h2; cases h2
  have hlt2 : k2 < (hc.set k1 none).length := by rw [List.length_set]; exact hlt
  have hlt2' : k2 < (ha.set k1 none).length := by rw [List.length_set]; exact hlt'
  refine
    { I with
      len := by simp only [List.length_set]; exact I.len
      rep := rep_set hlt2 hlt2' (rep_set hlt1 hlt1' I.rep (show RepH w f none none from rfl))
        (by rw [← h1]; exact I.rep k1)
      sub := forall_at'_set hlt2' (forall_at'_set hlt1' I.sub (fun L e => by cases e))
        (fun L e => I.sub k1 L e)
      ndl := forall_at'_set hlt2' (forall_at'_set hlt1' I.ndl (fun L e => by cases e))
        (fun L e => I.ndl k1 L e)
      reach := fun j hj => ?_
      rc := fun j hj => ?_ }
  · obtain ⟨k', L, h3, h4⟩ := I.reach j hj
    by_cases e1 : k' = k1
    · exact ⟨k2, L, by rw [at'_set_self hlt2', ← e1]; exact h3, h4⟩
    · have e2 : k' ≠ k2 := by intro e; rw [e, h2a] at h3; cases h3
      exact ⟨k', L, by rw [at'_set_ne _ e2, at'_set_ne _ e1]; exact h3, h4⟩
  · rw [I.rc j hj, count_set_some hlt2 (by rw [at'_set_ne _ hne]; exact h2), ← count_set_none h1 (f j)]

/-! ### generic transition 5: the head of handle `k` has count 1 and goes to the free lists -/

def optL (r : RemList) : Option RemList := if r = [] then none else some r

theorem optL_eq_some {r L : RemList} (h : optL r = some L) : L = r ∧ r ≠ [] := by
  unfold optL at h
  split at h
  · simp at h
  · exact ⟨(Option.some.inj h).symm, by assumption⟩

theorem optL_ne {r : RemList} (h : r ≠ []) : optL r = some r := by simp [optL, h]

def freeW (w : W) (e v : Nat) : W := { w with vfree := v :: w.vfree, nfree := e :: w.nfree }

theorem free_inv (I : InvG w hc ha nid live f) {k i v : Nat} {s : List Nat} {r : RemList}
    (hk : at' ha k = some ((i, s) :: r)) (hv : (w.nodes.get (f i)).sub = some v)
    (hrc : (w.nodes.get (f i)).rc = 1) :
    InvG (freeW w (f i) v) (hc.set k (w.nodes.get (f i)).next) (ha.set k (optL r)) nid (live.erase i) f := by
  have hlt' : k < ha.length := at'_lt hk
  have hlt : k < hc.length := I.len ▸ hlt'
  have hi : i ∈ live := I.sub k _ hk i (by simp)
  obtain ⟨hhead, _, hrest⟩ := I.head_of_val hk
  have hnd := I.ndl k _ hk
  rw [ids_cons, List.nodup_cons] at hnd
  -- nothing else refers to the head
  have hun : ¬ elsewhere ha k i := fun h => (I.rc_ne_one hhead hi).2 h hrc
  have hmem : ∀ j, j ∈ live.erase i ↔ j ≠ i ∧ j ∈ live := fun j => I.nd.mem_erase_iff
  have hperm : live.Perm (i :: live.erase i) := List.perm_cons_erase hi
  have hfne : ∀ j, j ∈ live.erase i → f j ≠ f i := by
    intro j hj e
    exact ((hmem j).1 hj).1 (I.inj j ((hmem j).1 hj).2 i hi e)
  obtain ⟨hn1, hn2, v', hn3, hn4, hn5, hn6⟩ := I.node i hi
  have : v' = v := by rw [hn3] at hv; exact Option.some.inj hv
  subst this
  have hsame : ∀ m, ((freeW w (f i) v').nodes.get m).next = (w.nodes.get m).next ∧
      ((freeW w (f i) v').nodes.get m).sub = (w.nodes.get m).sub := fun m => ⟨rfl, rfl⟩
  refine
    { len := by rw [List.length_set, List.length_set]; exact I.len
      rep := rep_set hlt hlt' (fun j => RepH_same hsame rfl (I.rep j)) ?_
      nd := I.nd.erase i
      lt := fun j hj => I.lt j ((hmem j).1 hj).2
      inj := fun a ha' b hb => I.inj a ((hmem a).1 ha').2 b ((hmem b).1 hb).2
      sub := forall_at'_set_ne hlt'
        (fun j L e hL a ha' => (hmem a).2 ⟨fun e' => hun ⟨j, L, e, hL, e' ▸ ha'⟩, I.sub j L hL a ha'⟩)
        (fun L e a ha' => by
          obtain ⟨rfl, -⟩ := optL_eq_some e
          exact (hmem a).2 ⟨fun e' => hnd.1 (e' ▸ ha'), I.sub k _ hk a (List.mem_cons_of_mem _ ha')⟩)
      ndl := forall_at'_set hlt' I.ndl (fun L e => by obtain ⟨rfl, -⟩ := optL_eq_some e; exact hnd.2)
      reach := fun j hj => exists_at'_set hlt' (I.reach j ((hmem j).1 hj).2) (fun L hL hjL => ?_)
      rc := fun j hj => ?_
      node := fun j hj => ?_
      subinj := fun a ha' b hb => I.subinj a ((hmem a).1 ha').2 b ((hmem b).1 hb).2
      free := ⟨List.nodup_cons.2 ⟨hn2, I.free.nnd⟩, List.forall_mem_cons.2 ⟨hn1, I.free.nlt⟩,
        List.forall_mem_cons.2 ⟨hrc, I.free.nrc⟩, List.nodup_cons.2 ⟨hn5, I.free.vnd⟩,
        List.forall_mem_cons.2 ⟨hn4, I.free.vlt⟩⟩ }
  · by_cases hr : r = []
    · subst hr
      exact Rep_none_iff.1 hrest
    · rw [optL_ne hr]
      exact ⟨hr, Rep_same hsame rfl hrest⟩
  · rw [hk] at hL
    cases hL
    rcases List.mem_cons.1 hjL with e | e
    · exact absurd e ((hmem j).1 hj).1
    · exact ⟨r, optL_ne (fun hr => by rw [hr] at e; cases e), e⟩
  · obtain ⟨hji, hjl⟩ := (hmem j).1 hj
    show (w.nodes.get (f j)).rc = _ + (live.erase i).countP (isPred w f j)
    rw [I.rc j hjl, hperm.countP_eq, List.countP_cons]
    have c := count_set_at hlt (w.nodes.get (f i)).next (some (f j))
    rw [hhead] at c
    have hne : ¬ (some (f i) = some (f j)) := fun e => hfne j hj (Option.some.inj e).symm
    simp only [hne, if_false] at c
    simp only [isPred, beq_iff_eq]
    omega
  · obtain ⟨hji, hjl⟩ := (hmem j).1 hj
    obtain ⟨h1, h2, u, h3, h4, h5, h6⟩ := I.node j hjl
    refine ⟨h1, List.not_mem_cons_of_ne_of_not_mem (hfne j hj) h2, u, h3, h4,
      List.not_mem_cons_of_ne_of_not_mem (fun e => ?_) h5, h6⟩
    subst e
    exact hji (I.subinj j hjl i hi (by rw [h3, hn3]))

/-! ### generic transition 6: handle `k` is dropped, its head has another referrer -/

theorem drop_inv (I : InvG w hc ha nid live f) {k e : Nat} (hk : at' hc k = some e)
    (hrc : (w.nodes.get e).rc ≠ 1) :
    InvG (setRc w e (dec64 (w.nodes.get e).rc)) (hc.set k none) (ha.set k none) nid live f := by
  have hlt : k < hc.length := at'_lt hk
  have hlt' : k < ha.length := I.len ▸ hlt
  obtain ⟨i, s, r, hka, rfl, hi, _, _⟩ := I.head hk
  have hel := I.elsewhere_of_head hka ((I.rc_ne_one hk hi).1 hrc)
  refine setRc_inv I hi _ (by rw [List.length_set, List.length_set]; exact I.len)
    (rep_set hlt hlt' I.rep rfl)
    (forall_at'_set hlt' I.sub (fun L e => by cases e))
    (forall_at'_set hlt' I.ndl (fun L e => by cases e))
    (fun j hj => ?_) (fun j hj => ?_)
  · -- what was reachable through the dropped handle is reachable through the other referrer of its head
    obtain ⟨k', L, h1, h2⟩ := I.reach j hj
    by_cases e : k' = k
    · subst e
      rw [hka] at h1
      cases h1
      obtain ⟨k0, L0, hne0, hk0, hj0⟩ := hel j h2
      exact ⟨k0, L0, by rw [at'_set_ne _ hne0]; exact hk0, hj0⟩
    · exact ⟨k', L, by rw [at'_set_ne _ e]; exact h1, h2⟩
  · have c := count_set_none hk (f j)
    have hj' := I.rc j hj
    by_cases e : f j = f i
    · obtain rfl : j = i := I.inj j hj i hi e
      rw [if_pos rfl] at c ⊢
      unfold dec64
      split <;> omega
    · rw [if_neg e] at c ⊢
      omega


theorem iter_spec {h : Option Nat} {L : RemList} (hr : Rep w f h L) (hne : ∀ sg ∈ L, sg.2 ≠ [])
    {fuel : Nat} (hf : L.length ≤ fuel) : iter fuel w h = some (flat L) := by
  induction L generalizing h fuel with
  | nil =>
    rw [Rep_none_iff.1 hr]
    cases fuel <;> simp [iter, flat]
  | cons sg r ih =>
    obtain ⟨rfl, ⟨v, hv, hs⟩, hrest⟩ := Rep_cons.1 hr
    cases fuel with
    | zero => simp at hf
    | succ fuel =>
      have h1 : ¬ (w.vecs.get v).isEmpty = true := by
        rw [hs]
        have := hne sg (by simp)
        simpa using this
      simp only [iter, hv, h1]
      rw [ih hrest (fun a ha' => hne a (by simp [ha'])) (by simp at hf; omega)]
      simp [flat, hs]

theorem InvG.seg_ne (I : InvG w hc ha nid live f) {k : Nat} {L : RemList} (h : at' ha k = some L) :
    ∀ sg ∈ L, sg.2 ≠ [] := by
  intro sg hsg
  obtain ⟨L1, L2, rfl⟩ := List.append_of_mem hsg
  obtain ⟨hi, hr⟩ := I.occ (i := sg.1) (s := sg.2) h
  obtain ⟨_, ⟨v, hv, hs⟩, _⟩ := Rep_cons.1 hr
  obtain ⟨_, _, u, h3, _, _, h6⟩ := I.node sg.1 hi
  obtain rfl : v = u := Option.some.inj (hv.symm.trans h3)
  rw [← hs]; exact h6

theorem InvG.iter_eq (I : InvG w hc ha nid live f) (k : Nat) :
    SL.iter w.nnext w (at' hc k) = some (match at' ha k with | some r => flat r | none => []) := by
  have hr := I.rep k
  cases ho : at' ha k with
  | none =>
    rw [ho] at hr
    have : at' hc k = none := hr
    rw [this]
    cases w.nnext <;> simp [SL.iter]
  | some L =>
    rw [ho] at hr
    exact iter_spec hr.2 (I.seg_ne ho) (I.len_le ho)

theorem release_spec (k : Nat) (L : RemList) :
    ∀ {w : W} {hc : List (Option Nat)} {ha : List (Option RemList)} {live : List Nat} {fuel : Nat},
      InvG w hc ha nid live f → at' ha k = optL L → L.length ≤ fuel →
      ∃ w' out live', release fuel w (at' hc k) = some (w', out) ∧
        InvG w' (hc.set k none) (ha.set k none) nid live' f ∧
        (∃ L1 L2, L = L1 ++ L2 ∧ out = (ids L1).map f ∧ (∀ i ∈ ids L1, ¬ elsewhere ha k i) ∧
          (∀ i ∈ ids L2, elsewhere ha k i) ∧ (∀ j, j ∈ live' ↔ j ∈ live ∧ j ∉ ids L1)) := by
  induction L with
  | nil =>
    intro w hc ha live fuel I hk _
    have hk' : at' ha k = none := by simpa [optL] using hk
    have hck := I.head_none' hk'
    refine ⟨w, [], live, ?_, ?_, [], [], rfl, rfl, by simp, by simp, by simp⟩
    · rw [hck]; cases fuel <;> simp [release]
    · rw [set_at'_self hck, set_at'_self hk']; exact I
  | cons sg r ih =>
    intro w hc ha live fuel I hk hf
    obtain ⟨i, s⟩ := sg
    rw [optL_ne (by simp)] at hk
    have hlt' : k < ha.length := at'_lt hk
    have hlt : k < hc.length := I.len ▸ hlt'
    obtain ⟨hhead, _, _⟩ := I.head_of_val hk
    have hi : i ∈ live := I.sub k _ hk i (by simp)
    obtain ⟨_, _, v, hv, _⟩ := I.node i hi
    cases fuel with
    | zero => simp at hf
    | succ fuel =>
      rw [hhead]
      by_cases hrc : (w.nodes.get (f i)).rc = 1
      · have I' := free_inv I hk hv hrc
        obtain ⟨w', out, live', h1, h2, L1, L2, h3, h4, h5, h6, h7⟩ :=
          ih I' (at'_set_self hlt' _) (by simp at hf; omega)
        rw [at'_set_self hlt] at h1
        simp only [elsewhere_set] at h5 h6
        refine ⟨w', f i :: out, live', ?_, ?_, (i, s) :: L1, L2, by simp [h3], by simp [h4],
          List.forall_mem_cons.2 ⟨fun h => (I.rc_ne_one hhead hi).2 h hrc, h5⟩, h6, fun j => ?_⟩
        · simp only [release, hrc, if_true, hv]
          have h1' : release fuel (freeW w (f i) v) (w.nodes.get (f i)).next = some (w', out) := h1
          unfold freeW at h1'
          rw [h1']
        · rw [List.set_set, List.set_set] at h2
          exact h2
        · rw [h7 j, I.nd.mem_erase_iff, ids_cons, List.mem_cons, not_or, and_assoc, and_left_comm]
      · refine ⟨_, [], live, ?_, drop_inv I hhead hrc, [], (i, s) :: r, rfl, rfl, by simp,
          I.elsewhere_of_head hk ((I.rc_ne_one hhead hi).1 hrc), by simp⟩
        simp only [release, hrc, if_false]
        rfl

end P
end Vata.LU.SL
