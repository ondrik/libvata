import Vata.ReduceCoded
import Vata.Proofs.SimPipeline
import Vata.Proofs.RenameCodedValue
import Vata.Proofs.TrimCodedResult
/-!
# `Reduce` on the store, part 1: the composition refines `SimPipe.reduceAsCoded`

* the keys of the collapse map `GetQuotientProjection` writes are exactly the states (`keys_collapseMap`), so the strict look-ups
  `collapseMap.at(…)` of `CollapseStates` never throw, and the store it returns is, as a VALUE, the store `AddTransition` builds
  from the images of the rules in iteration order (`collapse_strict_value`; hence the full store invariant);
* so it yields the rules / final states of the relation-level `reindex (applyMap m)` (`collapse_strict_ok`);
* the coded `RemoveUnreachableStates` on it yields those of the relation-level `removeUnreachable`
  (`reduceCodedOn_spec`).
-/
namespace Vata.ReduceCoded
open Vata Vata.Store Vata.RenameCoded Vata.TrimCoded Vata.SimPipe Vata.BinRel

theorem keys_projToMap (order : List Nat) (proj : List (Option Nat)) (hl : proj.length = order.length) :
    (projToMap order proj).map Prod.fst = order := by
  unfold projToMap
  rw [List.map_map]
  have : (Prod.fst ∘ fun p : Nat × Option Nat => (p.1, projTarget order p.1 p.2)) = Prod.fst := rfl
  rw [this, List.map_fst_zip (by omega)]

/-- the collapse map `Reduce` hands to `CollapseStates` has exactly the states as keys, in the order of the translator -/
theorem keys_collapseMap (A : TA) (m : List (Nat × Nat)) (h : collapseMapAsCoded A = some m) :
    m.map Prod.fst = downOrder A := by
  obtain ⟨R0, he, hm⟩ := collapseMapAsCoded_spec A
  rw [hm] at h
  injection h with h
  subst h
  apply keys_projToMap
  rw [(RM.quotientProjectionIdx_general _).len]
  have hsq := Mat.square_toBMat (resultMat A.states.length R0)
  have heng := down_engine_eq A _ _ R0 he
  have hR0 : ∀ p, p ∈ R0 → p.1 < A.states.length ∧ p.2 < A.states.length :=
    fun p hp => ltsSimOut_lt ((heng p.1 p.2).mp hp)
  obtain ⟨_, hsz, _⟩ := resultMat_spec A.states.length R0 hR0
  rw [(RM.restrictToSymmetric_spec hsq).1.1, hsz, length_downOrder]

theorem collapseMap_covers (A : TA) (m : List (Nat × Nat)) (h : collapseMapAsCoded A = some m) {q : Nat}
    (hq : q ∈ A.states) : ∃ v, m.lookup q = some v :=
  Option.isSome_iff_exists.mp (lookup_isSome_iff_keys.mpr (by rw [keys_collapseMap A m h]; exact mem_downOrder.mpr hq))

/-- **the collapsed store as a value**: under the hypotheses of `collapse_strict_ok`, `CollapseStates(m)` returns the store
`AddTransition` builds from the images of the rules (in the source's iteration order) on top of the images of the final
states – and that store satisfies the full store invariant -/
theorem collapse_strict_value (S : Store) (hS : Inv S) (m : List (Nat × Nat))
    (hm : ∀ q, q ∈ usedStates S → ∃ v, m.lookup q = some v) :
    collapseCoded strictT S m =
      .ok (((iterate S).map (mapRule (applyMap m))).foldl addTransition (setFinals empty (S.final.map (applyMap m))), m) ∧
    Inv (((iterate S).map (mapRule (applyMap m))).foldl addTransition (setFinals empty (S.final.map (applyMap m)))) := by
  have hg := (reindexInto_gen lawful_strictT S empty m true).keys
  rw [appSeq_strict] at hg
  have hfind : (lookupOrder S true).find? (fun k => (m.lookup k).isNone) = none := by
    rw [List.find?_eq_none]
    intro k hk
    obtain ⟨v, hv⟩ := hm k ((mem_lookupOrder hS k).mp hk)
    simp [hv]
  rw [hfind] at hg
  have hthr : (reindexInto strictT S empty m true).thrown = none := congrArg Prod.fst hg
  have htr : (reindexInto strictT S empty m true).tr = m := congrArg Prod.snd hg
  have hval := reindexInto_value lawful_strictT S empty m (noEmpty_of_inv hS) hthr
  rw [htr] at hval
  have hgd : ∀ q, q ∈ usedStates S → gd (fun k => m.lookup k) q = applyMap m q := fun q hq => gd_eq_applyMap (hm q hq)
  have e1 : (iterate S).map (mapRule (gd (fun k => m.lookup k))) = (iterate S).map (mapRule (applyMap m)) := by
    apply List.map_congr_left
    intro r hr
    exact mapRule_congr (hgd _ (mem_usedStates.mpr (Or.inr ⟨r, hr, Or.inl rfl⟩)))
      (fun k hk => hgd _ (mem_usedStates.mpr (Or.inr ⟨r, hr, Or.inr hk⟩)))
  have e2 : S.final.map (gd (fun k => m.lookup k)) = S.final.map (applyMap m) := by
    apply List.map_congr_left
    intro q hq
    exact hgd _ (mem_usedStates.mpr (Or.inl hq))
  rw [e1, e2] at hval
  constructor
  · unfold collapseCoded reindexCoded Run.toExcept
    rw [hthr, htr, hval]
  · apply inv_foldl_add
    exact inv_noTrans _ (nodup_foldl_insN _ List.nodup_nil)

/-- hence it does not throw, leaves the map alone and returns a store that satisfies the weak invariant and yields exactly the
images under `applyMap map` -/
theorem collapse_strict_ok (S : Store) (hS : Inv S) (m : List (Nat × Nat))
    (hm : ∀ q, q ∈ usedStates S → ∃ v, m.lookup q = some v) :
    ∃ d, collapseCoded strictT S m = .ok (d, m) ∧ WInv d ∧
      (∀ x, x ∈ iterate d ↔ ∃ r, r ∈ iterate S ∧ x = mapRule (applyMap m) r) ∧
      (∀ q, q ∈ d.final ↔ ∃ p, p ∈ S.final ∧ q = applyMap m p) := by
  obtain ⟨hv, hi⟩ := collapse_strict_value S hS m hm
  refine ⟨_, hv, WInv.of_inv hi, fun x => ?_, fun q => ?_⟩
  · have h0 : Inv (setFinals empty (S.final.map (applyMap m))) := inv_noTrans _ (nodup_foldl_insN _ List.nodup_nil)
    rw [mem_iterate_foldl_add h0]
    simp only [iterate, setFinals, empty, List.flatMap_nil, List.not_mem_nil, false_or, List.mem_map, @eq_comm _ x]
  · rw [final_foldl_add]
    simp only [setFinals, empty, mem_foldl_insN, List.not_mem_nil, false_or, List.mem_map, @eq_comm _ q]

theorem reduceCodedOn_eq (simA : TA) (S : Store) :
    reduceCodedOn simA S =
      match collapseMapAsCoded simA with
      | none => .simFailed
      | some m =>
        match collapseCoded strictT S m with
        | .error e => .threw e.1
        | .ok aut => .ok (unreachCoded (RenameCoded.toTA aut.1)) := by
  unfold reduceCodedOn collapseMapAsCoded
  simp only
  cases h : computeSimDownDisc simA simA.states.length with
  | none => rfl
  | some sim =>
    simp only
    cases h2 : sim.restrictToSymmetric.quotProj <;> rfl

theorem taEquiv_reindex {A B : TA} (h : TAEquiv A B) (f : Nat → Nat) : TAEquiv (reindex f A) (reindex f B) := by
  constructor
  · intro r
    rw [reindex_rules, reindex_rules]
    constructor
    · rintro ⟨x, hx, e⟩; exact ⟨x, (h.1 x).mp hx, e⟩
    · rintro ⟨x, hx, e⟩; exact ⟨x, (h.1 x).mpr hx, e⟩
  · intro q
    rw [reindex_final, reindex_final]
    constructor
    · rintro ⟨x, hx, e⟩; exact ⟨x, (h.2 x).mp hx, e⟩
    · rintro ⟨x, hx, e⟩; exact ⟨x, (h.2 x).mpr hx, e⟩

theorem usedStates_toTA (S : Store) (q : Nat) : q ∈ usedStates S ↔ q ∈ (RenameCoded.toTA S).states := by
  rw [mem_usedStates, mem_states]
  simp only [RenameCoded.toTA]
  constructor
  · rintro (hf | ⟨r, hr, hc | hc⟩)
    · exact Or.inl hf
    · exact Or.inr ⟨r, hr, Or.inl hc.symm⟩
    · exact Or.inr ⟨r, hr, Or.inr hc⟩
  · rintro (hf | ⟨r, hr, hc | hc⟩)
    · exact Or.inl hf
    · exact Or.inr ⟨r, hr, Or.inl hc.symm⟩
    · exact Or.inr ⟨r, hr, Or.inr hc⟩

/-- for a store that satisfies the store invariant and yields the rule / final sets of `simA`:
the simulation pipeline returns a collapse map `m`; `CollapseStates(m)` does not throw and returns a store `d` (weak invariant,
every rule once) that yields the sets of `reindex (applyMap m) simA`; the answer is `unreachCoded` of it, which yields the sets of
the answer of `SimPipe.reduceAsCoded simA` -/
theorem reduceCodedOn_spec (simA : TA) (S : Store) (hS : Inv S) (heq : TAEquiv (RenameCoded.toTA S) simA) :
    ∃ m d, collapseMapAsCoded simA = some m ∧ collapseCoded strictT S m = .ok (d, m) ∧ WInv d ∧
      TAEquiv (RenameCoded.toTA d) (reindex (applyMap m) simA) ∧
      reduceCodedOn simA S = .ok (unreachCoded (RenameCoded.toTA d)) ∧
      reduceAsCoded simA = some (removeUnreachable (reindex (applyMap m) simA)) ∧
      TAEquiv (unreachCoded (RenameCoded.toTA d)) (removeUnreachable (reindex (applyMap m) simA)) := by
  obtain ⟨B, hB⟩ := reduceAsCoded_total simA
  obtain ⟨m, hm, hBm⟩ := reduceAsCoded_shape simA B hB
  have hcov : ∀ q, q ∈ usedStates S → ∃ v, m.lookup q = some v := by
    intro q hq
    exact collapseMap_covers simA m hm ((BddAbsTD.SetEqTA.mem_states heq q).mp ((usedStates_toTA S q).mp hq))
  obtain ⟨d, hd, hw, hr, hf⟩ := collapse_strict_ok S hS m hcov
  have h1 : TAEquiv (RenameCoded.toTA d) (reindex (applyMap m) (RenameCoded.toTA S)) := by
    constructor
    · intro x
      rw [reindex_rules]
      exact hr x
    · intro q
      rw [reindex_final]
      exact hf q
  have h2 : TAEquiv (RenameCoded.toTA d) (reindex (applyMap m) simA) := h1.trans (taEquiv_reindex heq _)
  refine ⟨m, d, hm, hd, hw, h2, ?_, ?_, ?_⟩
  · rw [reduceCodedOn_eq, hm]
    simp only [hd]
  · rw [hB, hBm]
  · exact (unreachCoded_equiv (RenameCoded.toTA d)).trans h2.removeUnreachable

theorem specRun_add_rules : ∀ (rs : List Rule) (a : Abs),
    ((rs.map Op.add).foldl specStep a).rules = rs.reverse ++ a.rules ∧ ((rs.map Op.add).foldl specStep a).final = a.final
  | [], a => by simp
  | r :: rs, a => by
    rw [List.map_cons, List.foldl_cons]
    obtain ⟨h1, h2⟩ := specRun_add_rules rs (specStep a (Op.add r))
    rw [h1, h2]
    simp [specStep]

/-- the store the loader builds satisfies the store invariant and yields the rule / final sets of the automaton -/
theorem ofTA_spec (A : TA) : Inv (ofTA A) ∧ TAEquiv (RenameCoded.toTA (ofTA A)) A := by
  unfold ofTA
  have h := refines_run (A.rules.map Op.add ++ [Op.setFinals A.final])
  have e : specRun (A.rules.map Op.add ++ [Op.setFinals A.final]) = ⟨A.rules.reverse, A.final⟩ := by
    unfold specRun
    rw [List.foldl_append]
    obtain ⟨h1, h2⟩ := specRun_add_rules A.rules ⟨[], []⟩
    simp only [List.foldl_cons, List.foldl_nil, specStep]
    rw [h1, h2]
    simp
  rw [e] at h
  refine ⟨h.inv, ?_, ?_⟩
  · intro r
    simp only [RenameCoded.toTA]
    rw [h.rules]
    simp
  · intro q
    simp only [RenameCoded.toTA]
    rw [h.final]

theorem reduceFullyCoded_spec (A : TA) :
    ∃ m d, collapseMapAsCoded A = some m ∧ collapseCoded strictT (ofTA A) m = .ok (d, m) ∧ WInv d ∧
      TAEquiv (RenameCoded.toTA d) (reindex (applyMap m) A) ∧
      reduceFullyCoded A = .ok (unreachCoded (RenameCoded.toTA d)) ∧
      reduceAsCoded A = some (removeUnreachable (reindex (applyMap m) A)) ∧
      TAEquiv (unreachCoded (RenameCoded.toTA d)) (removeUnreachable (reindex (applyMap m) A)) :=
  reduceCodedOn_spec A (ofTA A) (ofTA_spec A).1 (ofTA_spec A).2

theorem reduceStoreCoded_spec (S : Store) (hS : Inv S) :
    ∃ m d, collapseMapAsCoded (RenameCoded.toTA S) = some m ∧ collapseCoded strictT S m = .ok (d, m) ∧ WInv d ∧
      TAEquiv (RenameCoded.toTA d) (reindex (applyMap m) (RenameCoded.toTA S)) ∧
      reduceStoreCoded S = .ok (unreachCoded (RenameCoded.toTA d)) ∧
      reduceAsCoded (RenameCoded.toTA S) = some (removeUnreachable (reindex (applyMap m) (RenameCoded.toTA S))) ∧
      TAEquiv (unreachCoded (RenameCoded.toTA d)) (removeUnreachable (reindex (applyMap m) (RenameCoded.toTA S))) :=
  reduceCodedOn_spec (RenameCoded.toTA S) S hS (TAEquiv.refl _)

theorem reduceCodedOn_collapsed_inv (simA : TA) (S : Store) (hS : Inv S) (heq : TAEquiv (RenameCoded.toTA S) simA)
    (m : List (Nat × Nat)) (d : Store) (hm : collapseMapAsCoded simA = some m) (hd : collapseCoded strictT S m = .ok (d, m)) :
    Inv d ∧ d = ((iterate S).map (mapRule (applyMap m))).foldl addTransition (setFinals empty (S.final.map (applyMap m))) := by
  have hcov : ∀ q, q ∈ usedStates S → ∃ v, m.lookup q = some v := by
    intro q hq
    exact collapseMap_covers simA m hm ((BddAbsTD.SetEqTA.mem_states heq q).mp ((usedStates_toTA S q).mp hq))
  obtain ⟨h1, h2⟩ := collapse_strict_value S hS m hcov
  rw [h1] at hd
  injection hd with hd
  injection hd with hd _
  rw [← hd]
  exact ⟨h2, rfl⟩

end Vata.ReduceCoded
