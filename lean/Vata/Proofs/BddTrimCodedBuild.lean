import Vata.Proofs.BddTrimCoded
/-!
C08: the construction of the AND/OR graph of the top-down `RemoveUselessStates` as coded meets `Spec`.

The construction is decomposed into primitive updates (`newOr`, `newAnd`, `addEdgeB` in the two directions, `addTerm`, the
pop of the work-list); each keeps the invariant `SInv` and only EXTENDS the state (`Ext`).  `buildLoop_spec`: every result of the loop
meets `Spec`.
-/
namespace Vata
namespace BddTrimCoded
open M BddAbs BddAbsTD

structure Ext (B B' : Build) : Prop where
  orS : ∀ e, e ∈ B.orN → e ∈ B'.orN
  andS : ∀ e, e ∈ B.andN → e ∈ B'.andN
  termS : ∀ n, n ∈ B.term → n ∈ B'.term
  egrS : ∀ x m, m ∈ B.G.egr x → m ∈ B'.G.egr x
  ingS : ∀ x m, m ∈ B.G.ing x → m ∈ B'.G.ing x

theorem Ext.refl (B : Build) : Ext B B := ⟨fun _ h => h, fun _ h => h, fun _ h => h, fun _ _ h => h, fun _ _ h => h⟩
theorem Ext.trans {B B' B'' : Build} (h : Ext B B') (h' : Ext B' B'') : Ext B B'' :=
  ⟨fun e he => h'.orS e (h.orS e he), fun e he => h'.andS e (h.andS e he), fun e he => h'.termS e (h.termS e he),
   fun x m he => h'.egrS x m (h.egrS x m he), fun x m he => h'.ingS x m (h.ingS x m he)⟩

/-- the tuple `t` of the state with node `n` has been entered into the graph -/
def Done (B : Build) (n : Nat) (t : List Nat) : Prop :=
  (t = [] → n ∈ B.term) ∧ (t ≠ [] → ∃ a, (a, t) ∈ B.andN ∧ n ∈ B.G.egr a)

theorem Done.mono {B B' : Build} (h : Ext B B') {n : Nat} {t : List Nat} (hd : Done B n t) : Done B' n t :=
  ⟨fun e => h.termS n (hd.1 e), fun e => by
    obtain ⟨a, h1, h2⟩ := hd.2 e
    exact ⟨a, h.andS _ h1, h.egrS _ _ h2⟩⟩

/-- every state of the tuple of an AND node has its OR node among the inputs of the AND node -/
def FullAt (B : Build) (a : Nat) (t : List Nat) : Prop := ∀ s, s ∈ t → ∃ m, (m, s) ∈ B.orN ∧ m ∈ B.G.ing a

theorem FullAt.mono {B B' : Build} (h : Ext B B') {a : Nat} {t : List Nat} (hf : FullAt B a t) : FullAt B' a t := by
  intro s hs
  obtain ⟨m, h1, h2⟩ := hf s hs
  exact ⟨m, h.orS _ h1, h.ingS _ _ h2⟩

/-- the state `p` with the node `n` is on the work-list, or in work, or all its tuples have been entered -/
def Handled (T : TableTD) (cur : Option (Nat × Nat)) (B : Build) (n p : Nat) : Prop :=
  (n, p) ∈ B.ws ∨ some (n, p) = cur ∨ ∀ t, t ∈ leafTuples (getTD T p) → Done B n t

theorem Handled.mono {T : TableTD} {cur : Option (Nat × Nat)} {B B' : Build} (h : Ext B B') (hw : ∀ e, e ∈ B.ws → e ∈ B'.ws)
    {n p : Nat} : Handled T cur B n p → Handled T cur B' n p :=
  Or.imp (hw _) (Or.imp_right fun hd t ht => (hd t ht).mono h)

structure DictInv (T : TableTD) (F : List Nat) (B : Build) : Prop where
  or : DictOk B.G.size B.orN
  and : DictOk B.G.size B.andN
  orInj : ∀ n n' s, (n, s) ∈ B.orN → (n', s) ∈ B.orN → n = n'
  disj : ∀ n s t, (n, s) ∈ B.orN → (n, t) ∉ B.andN
  andNe : ∀ a t, (a, t) ∈ B.andN → t ≠ []
  reach : ∀ n s, (n, s) ∈ B.orN → s ∈ tdReach (skelTD T F)

/-- the two kinds of edges: from the OR node of a state of a tuple to the AND node of the tuple, and from the AND node of
a tuple to the OR node of a state that has the tuple in a leaf -/
def EdgeOk (T : TableTD) (B : Build) (x y : Nat) : Prop :=
  (∃ s t, (x, s) ∈ B.orN ∧ (y, t) ∈ B.andN ∧ s ∈ t) ∨
  (∃ t p, (x, t) ∈ B.andN ∧ (y, p) ∈ B.orN ∧ t ∈ leafTuples (getTD T p))

theorem EdgeOk.mono {T : TableTD} {B B' : Build} (h : Ext B B') {x y : Nat} : EdgeOk T B x y → EdgeOk T B' x y :=
  Or.imp (fun ⟨s, t, h1, h2, h3⟩ => ⟨s, t, h.orS _ h1, h.andS _ h2, h3⟩)
    (fun ⟨t, p, h1, h2, h3⟩ => ⟨t, p, h.andS _ h1, h.orS _ h2, h3⟩)

structure EdgeInv (T : TableTD) (B : Build) : Prop where
  fresh : ∀ x m, B.G.size ≤ x → m ∉ B.G.ing x ∧ m ∉ B.G.egr x
  egr : ∀ x y, y ∈ B.G.egr x → EdgeOk T B x y
  ing : ∀ x y, y ∈ B.G.ing x → EdgeOk T B y x
  sym : ∀ a t m, (a, t) ∈ B.andN → m ∈ B.G.ing a → a ∈ B.G.egr m

/-- the invariant of the construction (`cur`: the pair being processed, `none` at the head of the `while` loop) -/
structure SInv (T : TableTD) (F : List Nat) (cur : Option (Nat × Nat)) (B : Build) : Prop
    extends DictInv T F B, EdgeInv T B where
  termOk : ∀ n, n ∈ B.term → ∃ p, (n, p) ∈ B.orN ∧ [] ∈ leafTuples (getTD T p)
  wsOr : ∀ e, e ∈ B.ws → e ∈ B.orN
  doneI : ∀ n p, (n, p) ∈ B.orN → Handled T cur B n p

variable {T : TableTD} {F : List Nat} {cur : Option (Nat × Nat)}

theorem SInv.orEgr {B : Build} (hI : SInv T F cur B) (n s a : Nat) (hn : (n, s) ∈ B.orN) (ha : a ∈ B.G.egr n) :
    ∃ t, (a, t) ∈ B.andN := by
  rcases hI.egr n a ha with ⟨_, t, _, h, _⟩ | ⟨t, _, h, _, _⟩
  · exact ⟨t, h⟩
  · exact absurd h (hI.disj n s t hn)

theorem SInv.orIng {B : Build} (hI : SInv T F cur B) (n s a : Nat) (hn : (n, s) ∈ B.orN) (ha : a ∈ B.G.ing n) :
    ∃ t, (a, t) ∈ B.andN := by
  rcases hI.ing n a ha with ⟨_, t, _, h, _⟩ | ⟨t, _, h, _, _⟩
  · exact absurd h (hI.disj n s t hn)
  · exact ⟨t, h⟩

theorem SInv.andIng {B : Build} (hI : SInv T F cur B) (a : Nat) (t : List Nat) (m : Nat) (ha : (a, t) ∈ B.andN)
    (hm : m ∈ B.G.ing a) : ∃ s, s ∈ t ∧ (m, s) ∈ B.orN := by
  rcases hI.ing a m hm with ⟨s, t', h1, h2, h3⟩ | ⟨_, p, _, h, _⟩
  · exact ⟨s, hI.and.funN a t' t h2 ha ▸ h3, h1⟩
  · exact absurd ha (hI.disj a p t h)

theorem SInv.andEgr {B : Build} (hI : SInv T F cur B) (a : Nat) (t : List Nat) (m : Nat) (ha : (a, t) ∈ B.andN)
    (hm : m ∈ B.G.egr a) : ∃ p, (m, p) ∈ B.orN ∧ t ∈ leafTuples (getTD T p) := by
  rcases hI.egr a m hm with ⟨s, _, h, _, _⟩ | ⟨t', p, h1, h2, h3⟩
  · exact absurd ha (hI.disj a s t h)
  · exact ⟨p, h2, hI.and.funN a t' t h1 ha ▸ h3⟩

def newOr (B : Build) (s : Nat) : Build :=
  { B with G := B.G.addNode.1, orN := B.orN ++ [(B.G.addNode.2, s)], ws := (B.G.addNode.2, s) :: B.ws }

theorem mem_newOr_orN {B : Build} {s : Nat} {e : Nat × Nat} : e ∈ (newOr B s).orN ↔ e ∈ B.orN ∨ e = (B.G.size, s) :=
  mem_push

theorem newOr_ext (B : Build) (s : Nat) : Ext B (newOr B s) :=
  ⟨fun _ h => List.mem_append_left _ h, fun _ h => h, fun _ h => h, fun _ _ h => h, fun _ _ h => h⟩

theorem newOr_inv {B : Build} (hI : SInv T F cur B) {s : Nat} (hn : ∀ n, (n, s) ∉ B.orN) (hr : s ∈ tdReach (skelTD T F)) :
    SInv T F cur (newOr B s) :=
  -- the new node `B.G.size` is no node of the dictionaries and has no edges
  have old : ∀ {e}, e ∈ B.orN → e ∈ (newOr B s).orN := fun h => mem_newOr_orN.mpr (Or.inl h)
  { hI with
    or := hI.or.push s
    and := hI.and.mono (Nat.le_succ _)
    fresh := fun x m hx => hI.fresh x m (Nat.le_of_succ_le hx)
    orInj := inj_push hI.orInj hn
    disj := fun n s' t h => by
      rcases mem_newOr_orN.mp h with h | h
      · exact hI.disj n s' t h
      · cases h; exact fun h' => Nat.lt_irrefl _ (hI.and.lt _ _ h')
    egr := fun x y h => (hI.egr x y h).mono (newOr_ext B s)
    ing := fun x y h => (hI.ing x y h).mono (newOr_ext B s)
    termOk := fun n h => (hI.termOk n h).imp fun _ h => ⟨old h.1, h.2⟩
    reach := fun n s' h => by
      rcases mem_newOr_orN.mp h with h | h
      · exact hI.reach n s' h
      · cases h; exact hr
    wsOr := fun e he => by
      rcases List.mem_cons.mp he with rfl | he
      · exact mem_newOr_orN.mpr (Or.inr rfl)
      · exact old (hI.wsOr e he)
    doneI := fun n p h => by
      rcases mem_newOr_orN.mp h with h | h
      · exact (hI.doneI n p h).mono (newOr_ext B s) fun _ => List.mem_cons_of_mem _
      · exact Or.inl (h ▸ List.mem_cons_self) }

theorem fresh_addEdge {G : Graph} (hf : ∀ x m, G.size ≤ x → m ∉ G.ing x ∧ m ∉ G.egr x) {src dst : Nat}
    (hs : src < G.size) (hd : dst < G.size) (x m : Nat) (hx : G.size ≤ x) :
    m ∉ (G.addEdge src dst).ing x ∧ m ∉ (G.addEdge src dst).egr x :=
  ⟨fun h => (mem_ing_addEdge.mp h).elim (hf x m hx).1 fun e => Nat.lt_irrefl _ (e.1 ▸ Nat.lt_of_lt_of_le hd hx),
   fun h => (mem_egr_addEdge.mp h).elim (hf x m hx).2 fun e => Nat.lt_irrefl _ (e.1 ▸ Nat.lt_of_lt_of_le hs hx)⟩

def addEdgeB (B : Build) (src dst : Nat) : Build := { B with G := B.G.addEdge src dst }

theorem addEdgeB_ext (B : Build) (src dst : Nat) : Ext B (addEdgeB B src dst) :=
  ⟨fun _ h => h, fun _ h => h, fun _ h => h, fun _ _ h => mem_egr_addEdge.mpr (Or.inl h),
   fun _ _ h => mem_ing_addEdge.mpr (Or.inl h)⟩

theorem addEdge_inv {B : Build} (hI : SInv T F cur B) {src dst : Nat} (hs : src < B.G.size) (hd : dst < B.G.size)
    (he : EdgeOk T B src dst) : SInv T F cur (addEdgeB B src dst) :=
  { hI with
    fresh := fresh_addEdge hI.fresh hs hd
    egr := fun x y h => by
      rcases mem_egr_addEdge.mp h with h | ⟨rfl, rfl⟩
      · exact hI.egr x y h
      · exact he
    ing := fun x y h => by
      rcases mem_ing_addEdge.mp h with h | ⟨rfl, rfl⟩
      · exact hI.ing x y h
      · exact he
    sym := fun a t m h1 h2 => by
      rcases mem_ing_addEdge.mp h2 with h2 | ⟨rfl, rfl⟩
      · exact mem_egr_addEdge.mpr (Or.inl (hI.sym a t m h1 h2))
      · exact mem_egr_addEdge.mpr (Or.inr ⟨rfl, rfl⟩)
    doneI := fun n p h => (hI.doneI n p h).mono (addEdgeB_ext B src dst) fun _ => id }

def newAnd (B : Build) (t : List Nat) : Build :=
  { B with G := B.G.addNode.1, andN := B.andN ++ [(B.G.addNode.2, t)] }

theorem mem_newAnd_andN {B : Build} {t : List Nat} {e : Nat × List Nat} :
    e ∈ (newAnd B t).andN ↔ e ∈ B.andN ∨ e = (B.G.size, t) :=
  mem_push

theorem newAnd_ext (B : Build) (t : List Nat) : Ext B (newAnd B t) :=
  ⟨fun _ h => h, fun _ h => List.mem_append_left _ h, fun _ h => h, fun _ _ h => h, fun _ _ h => h⟩

theorem newAnd_inv {B : Build} (hI : SInv T F cur B) {t : List Nat} (hne : t ≠ []) : SInv T F cur (newAnd B t) :=
  { hI with
    or := hI.or.mono (Nat.le_succ _)
    and := hI.and.push t
    fresh := fun x m hx => hI.fresh x m (Nat.le_of_succ_le hx)
    disj := fun n s t' h h' => by
      rcases mem_newAnd_andN.mp h' with h' | h'
      · exact hI.disj n s t' h h'
      · cases h'; exact Nat.lt_irrefl _ (hI.or.lt _ _ h)
    egr := fun x y h => (hI.egr x y h).mono (newAnd_ext B t)
    ing := fun x y h => (hI.ing x y h).mono (newAnd_ext B t)
    sym := fun a t' m h1 h2 => by
      rcases mem_newAnd_andN.mp h1 with h1 | h1
      · exact hI.sym a t' m h1 h2
      · cases h1; exact absurd h2 (hI.fresh _ m (Nat.le_refl _)).1
    andNe := fun a t' h => by
      rcases mem_newAnd_andN.mp h with h | h
      · exact hI.andNe a t' h
      · cases h; exact hne
    doneI := fun n' p' h => (hI.doneI n' p' h).mono (newAnd_ext B t) fun _ => id }

/-- `termNodes_.insert(procNode_)` -/
def addTerm (B : Build) (n : Nat) : Build := { B with term := ins n B.term }

theorem addTerm_ext (B : Build) (n : Nat) : Ext B (addTerm B n) :=
  ⟨fun _ h => h, fun _ h => h, fun _ h => mem_ins.mpr (Or.inl h), fun _ _ h => h, fun _ _ h => h⟩

theorem addTerm_inv {B : Build} (hI : SInv T F cur B) {n p : Nat} (hn : (n, p) ∈ B.orN)
    (ht : [] ∈ leafTuples (getTD T p)) : SInv T F cur (addTerm B n) :=
  { hI with
    termOk := fun n' h => by
      rcases mem_ins.mp h with h | rfl
      · exact hI.termOk n' h
      · exact ⟨p, hn, ht⟩
    doneI := fun n' p' h => (hI.doneI n' p' h).mono (addTerm_ext B n) fun _ => id }

theorem stateStep_some {a : Nat} {B : Build} {s n : Nat} (h : findBwd B.orN s = some n) :
    stateStep a B s = addEdgeB B n a := by
  unfold stateStep; rw [h]; rfl

theorem stateStep_none {a : Nat} {B : Build} {s : Nat} (h : findBwd B.orN s = none) :
    stateStep a B s = addEdgeB (newOr B s) B.G.size a := by
  unfold stateStep; rw [h]; rfl

theorem tupleStep_nil (proc : Nat) (B : Build) : tupleStep proc B [] = addTerm B proc := rfl

theorem tupleStep_some {proc : Nat} {B : Build} {t : List Nat} (hne : t ≠ []) {a : Nat} (h : findBwd B.andN t = some a) :
    tupleStep proc B t = addEdgeB B a proc := by
  unfold tupleStep; rw [if_neg (by simpa using hne), h]; rfl

theorem tupleStep_none {proc : Nat} {B : Build} {t : List Nat} (hne : t ≠ []) (h : findBwd B.andN t = none) :
    tupleStep proc B t = addEdgeB (t.foldl (stateStep B.G.size) (newAnd B t)) B.G.size proc := by
  unfold tupleStep; rw [if_neg (by simpa using hne), h]; rfl

theorem initBuild_eq (F : List Nat) : initBuild F = F.foldl newOr ⟨Graph.empty, [], [], [], []⟩ := rfl

theorem buildLoop_nil (T : TableTD) (fuel : Nat) {B : Build} (h : B.ws = []) : buildLoop T fuel B = some B := by
  rw [buildLoop]; simp only [h]

theorem buildLoop_zero (T : TableTD) {B : Build} {e : Nat × Nat} {ws : List (Nat × Nat)} (h : B.ws = e :: ws) :
    buildLoop T 0 B = none := by
  rw [buildLoop]; simp only [h]

theorem buildLoop_succ (T : TableTD) (fuel : Nat) {B : Build} {n s : Nat} {ws : List (Nat × Nat)} (h : B.ws = (n, s) :: ws) :
    buildLoop T (fuel + 1) B = buildLoop T fuel ((leafTuples (getTD T s)).foldl (tupleStep n) { B with ws := ws }) := by
  rw [buildLoop]; simp only [h]

theorem stateStep_inv {B : Build} (hI : SInv T F cur B) {a s : Nat} {t : List Nat} (ha : (a, t) ∈ B.andN) (hs : s ∈ t)
    (hr : s ∈ tdReach (skelTD T F)) :
    let B' := stateStep a B s
    SInv T F cur B' ∧ Ext B B' ∧ B'.andN = B.andN ∧ ∃ m, (m, s) ∈ B'.orN ∧ m ∈ B'.G.ing a := by
  dsimp only
  cases h : findBwd B.orN s with
  | none =>
    rw [stateStep_none h]
    have hn : (B.G.size, s) ∈ (newOr B s).orN := mem_newOr_orN.mpr (Or.inr rfl)
    have h1 := newOr_inv hI (findBwd_none h) hr
    exact ⟨addEdge_inv h1 (h1.or.lt _ _ hn) (h1.and.lt _ _ ha) (Or.inl ⟨s, t, hn, ha, hs⟩),
      (newOr_ext B s).trans (addEdgeB_ext _ _ _), rfl, B.G.size, hn, mem_ing_addEdge.mpr (Or.inr ⟨rfl, rfl⟩)⟩
  | some n =>
    rw [stateStep_some h]
    have hn := findBwd_some h
    exact ⟨addEdge_inv hI (hI.or.lt _ _ hn) (hI.and.lt _ _ ha) (Or.inl ⟨s, t, hn, ha, hs⟩), addEdgeB_ext _ _ _, rfl, n, hn,
      mem_ing_addEdge.mpr (Or.inr ⟨rfl, rfl⟩)⟩

theorem stateFold_inv {a : Nat} {t : List Nat} (l : List Nat) {B : Build} (hI : SInv T F cur B) (ha : (a, t) ∈ B.andN)
    (hl : ∀ s, s ∈ l → s ∈ t ∧ s ∈ tdReach (skelTD T F)) :
    let B' := l.foldl (stateStep a) B
    SInv T F cur B' ∧ Ext B B' ∧ B'.andN = B.andN ∧ FullAt B' a l := by
  induction l generalizing B with
  | nil => exact ⟨hI, Ext.refl _, rfl, fun _ h => nomatch h⟩
  | cons s l ih =>
    obtain ⟨h1, h2, h3, m, h5, h6⟩ := stateStep_inv hI ha (hl s List.mem_cons_self).1 (hl s List.mem_cons_self).2
    obtain ⟨k1, k2, k3, k4⟩ := ih h1 (h3 ▸ ha) (fun s' hs' => hl s' (List.mem_cons_of_mem _ hs'))
    refine ⟨k1, h2.trans k2, k3.trans h3, fun s' hs' => ?_⟩
    rcases List.mem_cons.mp hs' with rfl | hs'
    · exact ⟨m, k2.orS _ h5, k2.ingS _ _ h6⟩
    · exact k4 s' hs'

def Full (B : Build) : Prop := ∀ a t, (a, t) ∈ B.andN → FullAt B a t

theorem Full.mono {B B' : Build} (hF : Full B) (h : Ext B B') (he : B'.andN = B.andN) : Full B' :=
  fun a t hat => (hF a t (he ▸ hat)).mono h

theorem tupleStep_inv {B : Build} {n p : Nat} (hI : SInv T F (some (n, p)) B) (hn : (n, p) ∈ B.orN) (hF : Full B)
    {tuple : List Nat} (ht : tuple ∈ leafTuples (getTD T p)) :
    let B' := tupleStep n B tuple
    SInv T F (some (n, p)) B' ∧ Ext B B' ∧ Full B' ∧ Done B' n tuple := by
  dsimp only
  by_cases hne : tuple = []
  · subst hne
    exact ⟨addTerm_inv hI hn ht, addTerm_ext B n, hF.mono (addTerm_ext B n) rfl,
      fun _ => mem_ins.mpr (Or.inr rfl), fun h => absurd rfl h⟩
  · cases h : findBwd B.andN tuple with
    | some a =>
      rw [tupleStep_some hne h]
      have ha := findBwd_some h
      exact ⟨addEdge_inv hI (hI.and.lt _ _ ha) (hI.or.lt _ _ hn) (Or.inr ⟨tuple, p, ha, hn, ht⟩), addEdgeB_ext _ _ _,
        hF.mono (addEdgeB_ext _ _ _) rfl,
        fun e => absurd e hne, fun _ => ⟨a, ha, mem_egr_addEdge.mpr (Or.inr ⟨rfl, rfl⟩)⟩⟩
    | none =>
      rw [tupleStep_none hne h]
      -- the new AND node `B.G.size`, then the loop over the states of the tuple, then the edge to `n`
      have ha : (B.G.size, tuple) ∈ (newAnd B tuple).andN := mem_newAnd_andN.mpr (Or.inr rfl)
      obtain ⟨k1, k2, k3, k4⟩ := stateFold_inv tuple (newAnd_inv hI hne) ha fun s hs =>
        ⟨hs, tdReach_closed (skelTD T F) ⟨0, tuple, p⟩ (skelTD_rule ht) (hI.reach n p hn) s hs⟩
      have hx := (newAnd_ext B tuple).trans k2
      have ha2 : (B.G.size, tuple) ∈ (tuple.foldl (stateStep B.G.size) (newAnd B tuple)).andN := k3 ▸ ha
      have hn2 := hx.orS _ hn
      refine ⟨addEdge_inv k1 (k1.and.lt _ _ ha2) (k1.or.lt _ _ hn2) (Or.inr ⟨tuple, p, ha2, hn2, ht⟩),
        hx.trans (addEdgeB_ext _ _ _), fun a' t' h' => ?_,
        fun e => absurd e hne, fun _ => ⟨B.G.size, ha2, mem_egr_addEdge.mpr (Or.inr ⟨rfl, rfl⟩)⟩⟩
      rcases mem_newAnd_andN.mp (k3 ▸ h' : (a', t') ∈ (newAnd B tuple).andN) with h'' | h''
      · exact (hF a' t' h'').mono (hx.trans (addEdgeB_ext _ _ _))
      · cases h''; exact k4.mono (addEdgeB_ext _ _ _)

theorem tupleFold_inv {n p : Nat} (l : List (List Nat)) {B : Build} (hI : SInv T F (some (n, p)) B) (hn : (n, p) ∈ B.orN)
    (hF : Full B) (hl : ∀ t, t ∈ l → t ∈ leafTuples (getTD T p)) :
    let B' := l.foldl (tupleStep n) B
    SInv T F (some (n, p)) B' ∧ Ext B B' ∧ Full B' ∧ ∀ t, t ∈ l → Done B' n t := by
  induction l generalizing B with
  | nil => exact ⟨hI, Ext.refl _, hF, fun _ h => nomatch h⟩
  | cons t l ih =>
    obtain ⟨h1, h2, h3, h4⟩ := tupleStep_inv hI hn hF (hl t List.mem_cons_self)
    obtain ⟨k1, k2, k3, k4⟩ := ih h1 (h2.orS _ hn) h3 (fun t' ht' => hl t' (List.mem_cons_of_mem _ ht'))
    refine ⟨k1, h2.trans k2, k3, fun t' ht' => ?_⟩
    rcases List.mem_cons.mp ht' with rfl | ht'
    · exact h4.mono k2
    · exact k4 t' ht'

/-- `procPair = workset.top(); workset.pop();` -/
theorem SInv.pop {B : Build} (hI : SInv T F none B) {n s : Nat} {ws : List (Nat × Nat)} (hs : B.ws = (n, s) :: ws) :
    SInv T F (some (n, s)) { B with ws := ws } :=
  { hI with
    wsOr := fun e he => hI.wsOr e (hs ▸ List.mem_cons_of_mem _ he)
    doneI := fun n' p' h' => by
      rcases hI.doneI n' p' h' with h1 | h1 | h1
      · rcases List.mem_cons.mp (hs ▸ h1) with h1 | h1
        · exact Or.inr (Or.inl (congrArg some h1))
        · exact Or.inl h1
      · cases h1
      · exact Or.inr (Or.inr h1) }

theorem SInv.finish {B : Build} {n p : Nat} (hI : SInv T F (some (n, p)) B)
    (hd : ∀ t, t ∈ leafTuples (getTD T p) → Done B n t) : SInv T F none B :=
  { hI with
    doneI := fun n' p' h' => by
      rcases hI.doneI n' p' h' with h1 | h1 | h1
      · exact Or.inl h1
      · cases h1; exact Or.inr (Or.inr hd)
      · exact Or.inr (Or.inr h1) }

theorem buildLoop_inv {fuel : Nat} {B B' : Build} (hI : SInv T F none B) (hF : Full B) (h : buildLoop T fuel B = some B') :
    SInv T F none B' ∧ Full B' ∧ B'.ws = [] ∧ Ext B B' := by
  induction fuel generalizing B with
  | zero =>
    cases hs : B.ws with
    | nil => rw [buildLoop_nil _ _ hs] at h; cases h; exact ⟨hI, hF, hs, Ext.refl _⟩
    | cons e ws => rw [buildLoop_zero _ hs] at h; cases h
  | succ fuel ih =>
    cases hs : B.ws with
    | nil => rw [buildLoop_nil _ _ hs] at h; cases h; exact ⟨hI, hF, hs, Ext.refl _⟩
    | cons e ws =>
      obtain ⟨n, s⟩ := e
      rw [buildLoop_succ _ _ hs] at h
      obtain ⟨k1, k2, k3, k4⟩ := tupleFold_inv (leafTuples (getTD T s)) (hI.pop hs) (hI.wsOr _ (hs ▸ List.mem_cons_self))
        hF (fun _ h => h)
      obtain ⟨j1, j2, j3, j4⟩ := ih (k1.finish k4) k3 h
      exact ⟨j1, j2, j3, Ext.trans (B' := { B with ws := ws }) ⟨fun _ h => h, fun _ h => h, fun _ h => h, fun _ _ h => h,
        fun _ _ h => h⟩ (k2.trans j4)⟩

theorem initFold_build (l : List Nat) {B : Build} (hI : SInv T F none B) (hnd : l.Nodup)
    (hnot : ∀ f, f ∈ l → ∀ n, (n, f) ∉ B.orN) (hr : ∀ f, f ∈ l → f ∈ tdReach (skelTD T F)) :
    let B' := l.foldl newOr B
    SInv T F none B' ∧ Ext B B' ∧ (∀ f, f ∈ l → ∃ n, (n, f) ∈ B'.orN) ∧ B'.andN = B.andN := by
  induction l generalizing B with
  | nil => exact ⟨hI, Ext.refl _, (fun _ h => nomatch h), rfl⟩
  | cons f l ih =>
    obtain ⟨hf, hnd⟩ := List.nodup_cons.mp hnd
    obtain ⟨k1, k2, k3, k4⟩ := ih (newOr_inv hI (hnot f List.mem_cons_self) (hr f List.mem_cons_self)) hnd
      (fun f' hf' n hm => by
        rcases mem_newOr_orN.mp hm with hm | hm
        · exact hnot f' (List.mem_cons_of_mem _ hf') n hm
        · cases hm; exact hf hf')
      (fun f' hf' => hr f' (List.mem_cons_of_mem _ hf'))
    refine ⟨k1, (newOr_ext B f).trans k2, fun f' hf' => ?_, k4⟩
    rcases List.mem_cons.mp hf' with rfl | hf'
    · exact ⟨B.G.size, k2.orS _ (mem_newOr_orN.mpr (Or.inr rfl))⟩
    · exact k3 f' hf'

/-- **the construction as coded meets `Spec`** (for a duplicate-free list of final states – `GetFinalStates()` is a set) -/
theorem buildLoop_spec (hF : F.Nodup) {fuel : Nat} {B : Build} (h : buildLoop T fuel (initBuild F) = some B) :
    Spec T F B := by
  have h0 : SInv T F none ⟨Graph.empty, [], [], [], []⟩ := by
    refine ⟨⟨⟨?_, ?_⟩, ⟨?_, ?_⟩, ?_, ?_, ?_, ?_⟩, ⟨fun _ _ _ => ⟨fun h => (nomatch h), fun h => (nomatch h)⟩, ?_, ?_, ?_⟩, ?_, ?_, ?_⟩
    all_goals (intros; first | (rename_i hm; cases hm) | (rename_i hm _; cases hm))
  obtain ⟨i1, _, i3, i5⟩ := initFold_build F h0 hF (fun _ _ _ hm => nomatch hm) (fun f hf => tdReach_final (skelTD T F) f hf)
  obtain ⟨hI, hFull, hws, hext⟩ := buildLoop_inv i1 (fun a t hat => by rw [i5] at hat; cases hat) (initBuild_eq F ▸ h)
  exact {
    orFun := hI.or.funN, orInj := hI.orInj, disj := hI.disj, orEgr := hI.orEgr, orIng := hI.orIng, sym := hI.sym,
    andIng := hI.andIng, andEgr := hI.andEgr, andFull := fun a t s h hs => hFull a t h s hs, andNe := hI.andNe, termOk := hI.termOk, reach := hI.reach,
    done := fun n p t hnp ht => by
      rcases hI.doneI n p hnp with h1 | h1 | h1
      · exact nomatch hws ▸ h1
      · cases h1
      · exact h1 t ht
    fin := fun f hf => (i3 f hf).imp fun _ hn => hext.orS _ hn }

end BddTrimCoded
end Vata
