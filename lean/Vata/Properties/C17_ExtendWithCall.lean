import Vata.Proofs.ExtendWithCall
import Vata.Properties.C17_StoreCanon
/-!
# C17 / C08 – the library's one `ExtendWith` call is inside the precondition that canonicity needs

> (C17) Two MTBDDs compare equal exactly when they denote the same function.
> (C08) The symbolic transition tables denote the rule sets of the automata (here: `GetTopDownAut`).

`Vata/Properties/C17_StoreCanon.lean` proves canonicity of the node store for the full operation set under the side condition
`RcSX.opOk`: every executed `ExtendWith(asgn, offset)` has `root variable < offset`
(`C17_store_low_offset_extendWith_breaks_canonicity`: it is needed).  That file had not read the call site.  This one does.

## How the C++ is read

* `grep -rn ExtendWith src include cli`: the definition (`src/mtbdd/ondriks_mtbdd.hh:595`) and ONE call,
  `src/bdd_bu_tree_aut_core.cc:207` in `BDDBUTreeAutCore::GetTopDownAut`:

      SymbolType prefix(BDDTDTreeAutCore::SYMBOL_ARITY_LENGTH, checkedTuple.size());      // SYMBOL_ARITY_LENGTH = 6
      TransMTBDD extendedBdd = tupleBddPair.second.ExtendWith(prefix, Symbolic::SYMBOL_SIZE);   // SYMBOL_SIZE = 16

  inside `for (state : states) for (tupleBddPair : transTable_)`.  The operand is an MTBDD STORED in the bottom-up table
  (`ExtCall.stored T`: `nullaryMtbdd_` and the values of the hash map); the call is the first argument of
  `BddAbsTD.invertStep` (`ExtCall.invertStep_eq`, by `rfl`), `ExtCall.extendCalls` lists the calls of one `GetTopDownAut`.
* Which MTBDDs a bottom-up table stores (`SetMtbdd` is called at `bdd_bu_tree_aut_core.cc:66` `AddTransition`, `:114/:123`
  `ReindexStates` (an `Apply1`), `bdd_bu_tree_aut_union.cc:44/81`, `bdd_bu_tree_aut_union_disj.cc:43/58/61`,
  `bdd_bu_tree_aut_isect.cc:88/168`, `bdd_bu_tree_aut_unreach.cc:99/128` (copies), `bdd_bu_tree_aut_useless.cc:276` (an
  `Apply1`)): results of `Apply1` / `Apply2` over stored MTBDDs and over `TransMTBDD(symbol, {parent}, ∅)`, the cube of
  `symbol`.  `ExtCall.BuiltBU` is the closure of `Table.empty` under the models of these (`addCube`, `unionT`, `unionDisj`,
  `isectAt`, `removeUnreachableBU`, `removeUselessBU`).  Apply functors never introduce variables, a cube of length `n` uses the
  variables `< n`.
* The length of `symbol`: `LoadFromAutDescWithStateSymbolTransl` (`bdd_bu_tree_aut_core.hh:108`) throws unless
  `symbolStr.size() == SYMBOL_SIZE`; the `assert(symbol.length() == SYMBOL_SIZE)` in `BDDBUTreeAutCore::AddTransition`
  (`bdd_bu_tree_aut_core.cc:56`) is COMMENTED OUT and the public `BDDBottomUpTreeAut::AddTransition` forwards any
  `SymbolicVarAsgn`.  Hence the explicit hypothesis `asgn.length ≤ 16` in `BuiltBU.addCube`;
  `C17_long_symbol_leaves_the_precondition` shows what happens without it (a finding, see the end).

## Abstracted

Tables are association lists, state sets sorted lists; the hash-map iteration order does not matter for these statements.
`ReindexStates` with its stateful translator is modelled in `Vata/BddUnionCoded.lean` (`rewrite`), not as a `BuiltBU`
constructor.  At store level leaves are numbers: `mapLeaf c` recodes the state sets.
-/
namespace Vata.ExtCall.Ex
open Vata.M Vata.BddAbs Vata.BddAbsTD

/-- the table with the rules `1() → 1`, `2(1,1) → 2` as `AddTransition` stores it (literal cubes, so that `decide` can run) -/
def exT : Table := ⟨construct (symAsgn 1) [1] [], [([1, 1], construct (symAsgn 2) [2] [])]⟩

#guard (ofRules [⟨1, [], 1⟩, ⟨2, [1, 1], 2⟩]).nullary == exT.nullary
#guard (ofRules [⟨1, [], 1⟩, ⟨2, [1, 1], 2⟩]).entries == exT.entries

/-- a history of the store model: two cubes over the variables `0 … 2`, their union, and the two `ExtendWith(prefix, 16)` of a
`GetTopDownAut` (arity 2 and arity 0) -/
def exH : List RcSX.Op :=
  [.construct 0 [some true, none, some false] 5 0, .construct 1 [some false, some true] 7 0, .apply 0 1 2,
   .extendWith 2 3 (arAsgn 2) 16, .extendWith 1 4 (arAsgn 0) 16]

end Vata.ExtCall.Ex

namespace Vata.Props
open Vata.M Vata.BddAbs Vata.BddAbsTD Vata.ExtCall Vata.ExtCall.Ex Vata.RcS Vata.RcSX

/-- (1) Every MTBDD stored in a bottom-up table built by the modelled operations (`AddTransition` with a symbol of at most 16
positions – any numbered symbol, `addTransition`, is one –, `Union`, `UnionDisjointStates`, `Intersection`, the two trimming
operations) is ordered and reduced, all its variables are `< SYMBOL_SIZE = 16`, in particular its root variable is; and the
table satisfies the invariant `TableWF` of the C08 files. -/
theorem C17_bu_table_vars_below_symbol_size {T : Table} (h : BuiltBU T) :
    (∀ m, m ∈ stored T → WF m ∧ (∀ v, v ∈ nodeVars m → v < symbolSize) ∧ rootLt symbolSize m = true) ∧ TableWF T :=
  ⟨fun m hm =>
    have g := entWF_stored.mp (entWF_built h) m hm
    ⟨g.1, below_iff_vars.mp g.2, rootLt_of_below g.2⟩,
   entWF_tableWF (entWF_built h)⟩

/-- the same from the hypotheses `TableOk`, `TableWF` the C08 theorems carry (so every table they speak about is covered) -/
theorem C17_bu_tableWF_vars_below_symbol_size {T : Table} (hO : TableOk T) (hW : TableWF T) :
    ∀ m, m ∈ stored T → WF m ∧ (∀ v, v ∈ nodeVars m → v < symbolSize) ∧ rootLt symbolSize m = true := fun m hm =>
  have g := entWF_stored.mp (tableWF_entWF hO hW) m hm
  ⟨g.1, below_iff_vars.mp g.2, rootLt_of_below g.2⟩

/-- every table loaded by `AddTransition`s of numbered symbols is `BuiltBU` (the bits above the 16th are not looked at) -/
theorem C17_ofRules_built (rs : List Rule) : BuiltBU (ofRules rs) :=
  List.foldlRecOn rs _ BuiltBU.empty (fun _ h _ _ => BuiltBU.addCube _ _ _ h (Nat.le_of_eq (symAsgn_length _)))

/-- (2) The call `tupleBddPair.second.ExtendWith(prefix, SYMBOL_SIZE)` of `GetTopDownAut`, for every collected state and every
pair of a `BuiltBU` table: the operand is stored in the table, its root variable is `< offset = 16` (the precondition of
canonicity), the result `extendedBdd` – literally the diagram `invertStep` feeds to the inverter – is ordered and reduced
(`M.WF`, hence canonical: `C17` at tree level) and uses variables `< 22 = SYMBOL_SIZE + SYMBOL_ARITY_LENGTH` only; so does the
whole top-down table returned. -/
theorem C17_library_extendWith_call_inside_precondition {T : Table} (h : BuiltBU T) (final : List Nat) :
    (∀ c, c ∈ extendCalls T final →
      c.2.2 ∈ stored T ∧ rootLt symbolSize c.2.2 = true ∧
      (∀ acc, invertStep c.1 acc c.2 = apply2 (invertLeaf c.1 c.2.1) (extendedBdd c.2) acc) ∧
      WF (extendedBdd c.2) ∧ (∀ v, v ∈ nodeVars (extendedBdd c.2) → v < symbolSize + arityLength)) ∧
    TableTDWF (getTopDownAut T final) ∧ TableTDBelow (getTopDownAut T final) := by
  have hE := entWF_built h
  refine ⟨fun c hc => ?_, getTopDownAut_wf_of_entWF hE final⟩
  simp only [extendCalls, List.mem_flatMap, List.mem_map] at hc
  obtain ⟨p, _, e, he, hce⟩ := hc
  subst hce
  have g := pairs_good hE e he
  have hs : e.2 ∈ stored T := by
    rcases List.mem_cons.mp he with he | he
    · rw [he]; exact List.mem_cons_self
    · exact List.mem_cons_of_mem _ (List.mem_map_of_mem he)
  exact ⟨hs, rootLt_of_below g.2, fun acc => invertStep_eq p acc e, (extendedBdd_wf g).1,
    below_iff_vars.mp (extendedBdd_wf g).2⟩

/-- (2, store level) In the store model of `Vata/RcStoreX.lean`: if the live handle `a` holds (a leaf-recoded copy of) an MTBDD
stored in a `BuiltBU` table, then the library's call `.extendWith a dst prefix 16` satisfies the side condition `opOk` of
`Vata/RcStoreXMono.lean` (and the exact one, `opOkW`), whatever `prefix` and `dst`; hence, from a store satisfying the two
invariants, the call leaves the store hash-consed, ordered and reduced. -/
theorem C17_library_extendWith_call_store_opOk {T : Table} (h : BuiltBU T) {m : MT} (hm : m ∈ stored T)
    (c : List Nat → Nat) {s : Store} {a ra : Nat} (ha : find a s.hs = some ra)
    (hd : unfold s.dat (ra+1) ra = mapLeaf c m) (dst : Nat) (pre : List (Option Bool)) :
    opOk s (.extendWith a dst pre symbolSize) = true ∧
    (WInv s [] → WfInv s → opOkW s (.extendWith a dst pre symbolSize) = true ∧
      ∀ F dv, WInv (stepS F dv s (.extendWith a dst pre symbolSize)) [] ∧
        WfInv (stepS F dv s (.extendWith a dst pre symbolSize))) := by
  have g := entWF_stored.mp (entWF_built h) m hm
  have ok : opOk s (.extendWith a dst pre symbolSize) = true :=
    opOk_extendWith_of_below dst pre ha (by rw [hd]; exact (below_mapLeaf c).mpr g.2)
  refine ⟨ok, fun hw w => ?_⟩
  have okw := opOkW_of_opOk _ hw w ok
  exact ⟨okw, fun F dv => C17_store_wf_step F dv s _ hw w okw⟩

/-- the general form: any live handle whose diagram only has variables below the offset -/
theorem C17_store_extendWith_opOk_of_vars_below {s : Store} {a ra offset : Nat} (ha : find a s.hs = some ra)
    (hv : ∀ v, v ∈ nodeVars (unfold s.dat (ra+1) ra) → v < offset) (dst : Nat) (pre : List (Option Bool)) :
    opOk s (.extendWith a dst pre offset) = true :=
  opOk_extendWith_of_below dst pre ha (below_iff_vars.mpr hv)

/-- The bound on the symbol length in `BuiltBU.addCube` cannot be dropped, and the C++ does not enforce it in
`AddTransition` (the `assert` is commented out): after `AddTransition((), symbol, 1)` with a 17-position symbol whose last
position is `ONE`, the stored MTBDD has root variable 16, the call `ExtendWith(prefix, 16)` of `GetTopDownAut` is OUTSIDE the
precondition and `extendedBdd` has two nodes with variable 16 on one path: it is not ordered. -/
theorem C17_long_symbol_leaves_the_precondition :
    longCube.length = 17 ∧ stored ⟨construct longCube [1] [], []⟩ = [.node 16 (.leaf []) (.leaf [1])] ∧
    rootLt symbolSize (Node.node 16 (.leaf []) (.leaf [1]) : MT) = false ∧
    extendedBdd ([], .node 16 (.leaf []) (.leaf [1])) =
      .node 21 (.node 20 (.node 19 (.node 18 (.node 17 (.node 16 (.node 16 (.leaf []) (.leaf [1])) (.leaf [])) (.leaf []))
        (.leaf [])) (.leaf [])) (.leaf [])) (.leaf []) ∧
    ¬ WF (extendedBdd ([], .node 16 (.leaf []) (.leaf [1]))) := by
  refine ⟨by decide +kernel, by decide +kernel, by decide +kernel, by decide +kernel, ?_⟩
  rw [← wfB_iff]
  decide +kernel

#guard longTable.nullary == (.node 16 (.leaf []) (.leaf [1]) : MT)

/-! ### non-vacuity -/

-- (3) a `decide`d run on a small table: both calls of `GetTopDownAut` (arity 0 on the nullary MTBDD, arity 2 on the MTBDD of
-- the tuple (1,1)) have their root variable (15) below 16, the results are ordered, reduced and over the variables `< 22`
example : (stored exT).map nodeVars =
    [[15, 14, 13, 12, 11, 10, 9, 8, 7, 6, 5, 4, 3, 2, 1, 0], [15, 14, 13, 12, 11, 10, 9, 8, 7, 6, 5, 4, 3, 2, 1, 0]] := by decide +kernel
example : (pairs exT).all (fun e => rootLt 16 e.2 && wfB (extendedBdd e) && belowB 22 (extendedBdd e)) = true := by decide +kernel
example : (pairs exT).map (fun e => (nodeVars (extendedBdd e)).take 7) =
    [[21, 20, 19, 18, 17, 16, 15], [21, 20, 19, 18, 17, 16, 15]] := by decide +kernel
-- the hypotheses of the theorems hold of it and of the loaded tables
example : EntWF exT := entWF_stored.mpr (fun m hm => by
  have h : (stored exT).all (fun m => wfB m && belowB 16 m) = true := by decide +kernel
  have := List.all_eq_true.mp h m hm
  simp only [Bool.and_eq_true] at this
  exact ⟨wfB_iff.mp this.1, belowB_iff.mp this.2⟩)
example : BuiltBU (ofRules BddAbsTDEx.rsA) := C17_ofRules_built _
example : BuiltBU (unionDisj (ofRules BddAbsTDEx.rsA) (removeUselessBU (ofRules BddAbsTDEx.rsA) BddAbsTDEx.finA).1) :=
  .unionDisj (C17_ofRules_built _) (.useless _ (C17_ofRules_built _))
example : (extendCalls (ofRules BddAbsTDEx.rsA) BddAbsTDEx.finA).length = 16 := by decide
-- store level: the history with the two calls is `Mono`, so canonicity (`C17_store_equality_extended`) applies to it
example : Mono stdFns exH := by decide +kernel
example : (runX stdFns exH).st.hs = [(4, 21), (3, 15), (2, 9), (1, 6), (0, 3)] := by decide +kernel
example : nodeVars (unfold (runX stdFns exH).st.dat 16 15) = [21, 20, 19, 18, 17, 16, 2, 1, 0, 0, 1, 0] := by decide +kernel
example : find 2 (runX stdFns (exH.take 3)).st.hs = some 9 ∧
    nodeVars (unfold (runX stdFns (exH.take 3)).st.dat 10 9) = [2, 1, 0, 0, 1, 0] := by decide +kernel

/-!
## Remark: `Rename`

`grep -rn "Rename\b\|renameNode" src include cli unit_tests`: `OndriksMTBDD::Rename` (`src/mtbdd/ondriks_mtbdd.hh:751`) and
`renameNode` (`:427`, recursive calls `:446/:447`, called from `Rename` `:756`) are DEFINED there and called from NO library or
CLI code path (`src/`, `include/`, `cli/`).  The only caller is the unit test `renaming`
(`unit_tests/ondriks_mtbdd_c_test.cc:909`) with the renamer `x_i ↦ y_i` (`i = 0 … 3`) whose indices come from a first-use
dictionary (`translateVarNameToIndex`, `:352`): `x0 … x3` get `0 … 3` from the first test formula, the `y_i` get `4, 5, …` in
the order in which `renameNode` first finishes a node of `x_i` (post-order; on the test diagram `x0, x1, x2, x3`), i.e. the
renamer is monotone there; a non-monotone one would trip the `assert`s of `renameNode` in that (debug) test build.
So: no library code path calls `Rename` with a non-monotone renamer – none calls it at all; likewise `GetMtbddForPrefix` has one
caller (`src/bdd_td_tree_aut_core.hh:616`, offset `SYMBOL_SIZE`).  (Read from the sources; the order of the dictionary in the
unit test was traced by hand, not proved.)

## still not proved

* FINDING (not a theorem about the C++, a reading): nothing in `BDDBUTreeAutCore::AddTransition` bounds `symbol.length()` (the
  `assert` at `bdd_bu_tree_aut_core.cc:56` is commented out; the top-down twin `bdd_td_tree_aut_core.cc:86` has it).  Only
  `LoadFromAutDesc…` checks the length.  A client calling the public `BDDBottomUpTreeAut::AddTransition` with a longer symbol
  gets MTBDDs outside `Below 16`, and a later `GetTopDownAut` stacks the arity variables `16 … 21` on them without any test
  (`C17_long_symbol_leaves_the_precondition`): unordered diagrams in the shared store, canonicity lost.  With the CLI (which
  only loads) the precondition holds.
* `ReindexStates` (`Apply1` with the stateful translator, `Vata/BddUnionCoded.lean` `rewrite` / `reindexBU`) is not a
  constructor of `BuiltBU`; it is an `Apply1`, so `apply1_wf` / `apply1_below` would give the same, but the coded `Union` /
  `Intersection` of `BddUnionCoded` / `BddIsect` are not connected to `BuiltBU` here (only their table-level operations are).
* Store level: `C17_library_extendWith_call_store_opOk` ASSUMES that the handle holds the diagram of a stored table MTBDD
  (`unfold … = mapLeaf c m`).  There is no theorem that a store HISTORY consisting of `construct`s with `asgn.length ≤ 16`,
  applies and `extendWith … 16` on never-extended operands is `Mono` (it needs the invariant "every handle that was not produced
  by `extendWith` is `Below 16`" over `RcSX.runX`); `exH` is one `decide`d instance.
* The top-down MTBDDs (variables `< 22`) are never extended by the library; that no second `ExtendWith` hits an already extended
  diagram is read from the call site (the operand type is a bottom-up table entry), not a theorem over a whole-library model.
-/
end Vata.Props
