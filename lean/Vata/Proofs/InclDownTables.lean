import Vata.InclDownTables
import Vata.Proofs.InclDownInv
/-!
# `expandT` on the tables against `InclDown.expand`: the refinement from an agreement of the GROUPS

`GroupsAgree TA TB A B`: for every pair `(p, P)` the calls of the traversal with a non-empty left leaf are – in the same order,
with the same leaves as LISTS – the groups of `p` in `A` with their `lhsTuples` / `rhsTuples`.  From it the two bodies are equal (`bodyT_eq`),
hence the two runs (`expandT_eq_of_body`, `runTD_eq_of_body`; `expandT_eq`, `runTD_eq`).  `Vata/Proofs/InclDownTablesDump.lean` derives the agreement for the dump in path order.
-/
namespace Vata
namespace InclDownTables
open BddAbsTD BddTraverse InclDown
open InclUp (normS prodWit Wit)

abbrev LS := List (List Nat)
abbrev It := Nat × LS × LS

/-- the calls with a non-empty left leaf (the others return at once) -/
def neCalls (l : List LeafCall) : List LeafCall := l.filter (fun c => !c.2.1.isEmpty)

def callItem (c : LeafCall) : Nat × List (List Nat) × List (List Nat) := (reprSym c.1, c.2.1, c.2.2)

def groupItems (A B : Vata.TA) (p : Nat) (P : List Nat) : List (Nat × List (List Nat) × List (List Nat)) :=
  (lhsGroups A p).map (fun g => (g.1, lhsTuples A p g.1 g.2, rhsTuples B P g.1 g.2))

def GroupsAgree (TA TB : TableTD) (A B : Vata.TA) : Prop :=
  ∀ p P, (neCalls (travDown TA TB p P)).map callItem = groupItems A B p P

theorem forAllL_congr {α : Type} {f f' : α → List Pair → St → Ret} {l : List α} (h : ∀ a, a ∈ l → f a = f' a)
    (cc : List Pair) (st : St) : forAllL f l cc st = forAllL f' l cc st := by
  induction l generalizing cc st with
  | nil => rfl
  | cons a l ih =>
    rw [forAllL, forAllL, h a List.mem_cons_self]
    rcases f' a cc st with _ | ⟨_ | w, cc', st'⟩
    · rfl
    · exact ih (fun b hb => h b (List.mem_cons_of_mem _ hb)) cc' st'
    · rfl

theorem forAllL_map {α β : Type} (g : α → β) (f : β → List Pair → St → Ret) (l : List α) (cc : List Pair)
    (st : St) :
    forAllL f (l.map g) cc st = forAllL (fun a => f (g a)) l cc st := by
  induction l generalizing cc st with
  | nil => rfl
  | cons a l ih =>
    rw [List.map_cons, forAllL, forAllL]
    rcases f (g a) cc st with _ | ⟨_ | w, cc', st'⟩
    · rfl
    · exact ih cc' st'
    · rfl

theorem forAllL_filter {α : Type} (f : α → List Pair → St → Ret) (keep : α → Bool)
    (h : ∀ a, keep a = false → ∀ cc st, f a cc st = some (.holds, cc, st)) (l : List α) (cc : List Pair) (st : St) :
    forAllL f (l.filter keep) cc st = forAllL f l cc st := by
  induction l generalizing cc st with
  | nil => rfl
  | cons a l ih =>
    rw [List.filter_cons]
    cases hk : keep a with
    | false =>
      rw [if_neg Bool.false_ne_true, forAllL, h a hk cc st]
      exact ih cc st
    | true =>
      rw [if_pos rfl, forAllL, forAllL]
      rcases f a cc st with _ | ⟨_ | w, cc', st'⟩
      · rfl
      · exact ih cc' st'
      · rfl

theorem procLeaf_nil (call1 call2 : Call) (wit : Wit) (post : List Nat → List Nat) (f : Nat) (W : List (List Nat))
    (cc : List Pair) (st : St) : procLeaf call1 call2 wit post f [] W cc st = some (.holds, cc, st) := rfl

/-- for a group of `p`, `procGroup` of the abstract model IS the functor on the two tuple sets: the arity the functor reads
off the first tuple is the arity of the group -/
theorem procGroup_eq_procLeaf (call1 call2 : Call) (A B : Vata.TA) (wit : Wit) (post : List Nat → List Nat) (p : Nat)
    (P : List Nat) {g : Nat × Nat} (hg : g ∈ lhsGroups A p) (cc : List Pair) (st : St) :
    procGroup call1 call2 A B wit post p P g.1 g.2 cc st =
      procLeaf call1 call2 wit post g.1 (lhsTuples A p g.1 g.2) (rhsTuples B P g.1 g.2) cc st := by
  obtain ⟨ρ, h1, h2, h3, h4⟩ := mem_lhsGroups.mp hg
  have hmem : ρ.kids ∈ lhsTuples A p g.1 g.2 := mem_lhsTuples.mpr ⟨ρ, h1, h2, h3, h4, rfl⟩
  cases hL : lhsTuples A p g.1 g.2 with
  | nil => rw [hL] at hmem; cases hmem
  | cons l L =>
    have hl : l.length = g.2 := by
      have : l ∈ lhsTuples A p g.1 g.2 := by rw [hL]; exact List.mem_cons_self
      obtain ⟨ρ', _, _, _, e4, e5⟩ := mem_lhsTuples.mp this
      rw [← e5]; exact e4
    unfold procGroup procLeaf
    simp only [hL, List.isEmpty_cons, Bool.false_eq_true, if_false, List.headD_cons, hl]

def fItem (call1 call2 : Call) (wit : Wit) (post : List Nat → List Nat) (i : It) : List Pair → St → Ret :=
  procLeaf call1 call2 wit post i.1 i.2.1 i.2.2

def neIt (l : List It) : List It := l.filter (fun i => !i.2.1.isEmpty)

/-- `if (lhs.empty()) return;`: the items with an empty left leaf can be dropped -/
theorem forAllL_neIt (call1 call2 : Call) (wit : Wit) (post : List Nat → List Nat) (l : List It) (cc : List Pair)
    (st : St) : forAllL (fItem call1 call2 wit post) (neIt l) cc st = forAllL (fItem call1 call2 wit post) l cc st := by
  refine forAllL_filter _ _ (fun i hi cc st => ?_) _ cc st
  have : i.2.1 = [] := List.isEmpty_iff.mp (by simpa using hi)
  unfold fItem
  rw [this]; rfl

theorem bodyT_items (call1 call2 : Call) (TA TB : TableTD) (wit : Wit) (post : List Nat → List Nat) (p : Nat) (P : List Nat)
    (cc : List Pair) (st : St) :
    bodyT call1 call2 TA TB wit post p P cc st =
      forAllL (fItem call1 call2 wit post) ((voidApply2Calls (getTD TA p) (unionAllTD TB P)).map symItem) cc st := by
  unfold bodyT travDown
  rw [forAllL_map]; rfl

theorem neCalls_map_callItem (TA TB : TableTD) (p : Nat) (P : List Nat) :
    (neCalls (travDown TA TB p P)).map callItem =
      neIt ((voidApply2Calls (getTD TA p) (unionAllTD TB P)).map symItem) := by
  unfold neCalls neIt travDown
  rw [List.filter_map]
  rfl

theorem bodyT_eq {TA TB : TableTD} {A B : Vata.TA} (h : GroupsAgree TA TB A B) (call1 call2 : Call) (wit : Wit)
    (post : List Nat → List Nat) (p : Nat) (P : List Nat) (cc : List Pair) (st : St) :
    bodyT call1 call2 TA TB wit post p P cc st = body call1 call2 A B wit post p P cc st := by
  rw [bodyT_items, ← forAllL_neIt, ← neCalls_map_callItem, h p P]
  unfold body groupItems
  rw [forAllL_map]
  exact forAllL_congr (fun g hg => funext fun cc => funext fun st =>
    (procGroup_eq_procLeaf call1 call2 A B wit post p P hg cc st).symm) cc st

theorem expandT_succ (o : Ord) (TA TB : TableTD) (wit : Wit) (fuel : Nat) (ws cc : List Pair) (st : St) (p : Nat)
    (P : List Nat) :
    expandT o TA TB wit (fuel+1) ws cc st p P =
      expandStep o (bodyT (expandT o TA TB wit fuel ((p, P) :: ws)) (expandT o TA TB wit fuel ((p, P) :: ws)) TA TB wit
        normS p P) ws cc st p P := rfl

theorem rootLoopT_eq_with (o : Ord) (TA TB : TableTD) (wit : Wit) (fuel : Nat) (FB : List Nat) (fs : List Nat)
    (cc : List Pair) (st : St) : rootLoopT o TA TB wit fuel FB fs cc st =
      rootLoopWith o (fun f => bodyT (expandT o TA TB wit fuel []) (expandT o TA TB wit fuel []) TA TB wit normS f FB)
        FB fs cc st := by
  induction fs generalizing cc st with
  | nil => rfl
  | cons f fs ih =>
    simp only [rootLoopT, rootLoopWith, ih]
    rfl

theorem runTD_eq_runOf (o : Ord) (TA : TableTD) (FA : List Nat) (TB : TableTD) (FB : List Nat) (wit : Wit)
    (fuel : Nat) :
    runTD o TA FA TB FB wit fuel = runOf (rootLoopT o TA TB wit fuel (normS FB) (dedup FA) [] ⟨[], []⟩) := rfl

theorem expandT_eq_of_body {TA TB : TableTD} {A B : Vata.TA}
    (h : ∀ call1 call2 wit post p P cc st, bodyT call1 call2 TA TB wit post p P cc st = body call1 call2 A B wit post p P cc st)
    (o : Ord) (wit : Wit) : ∀ fuel, expandT o TA TB wit fuel = expand o A B wit fuel
  | 0 => rfl
  | n+1 => by
    funext ws cc st p P
    rw [expandT_succ, expand_succ, expandT_eq_of_body h o wit n]
    exact congrArg (expandStep o · ws cc st p P) (funext fun _ => funext fun _ => h ..)

theorem runTD_eq_of_body {TA TB : TableTD} {A B : Vata.TA}
    (h : ∀ call1 call2 wit post p P cc st, bodyT call1 call2 TA TB wit post p P cc st = body call1 call2 A B wit post p P cc st)
    (o : Ord) (fuel : Nat) : runTD o TA A.final TB B.final (prodWit A) fuel = run o A B fuel := by
  rw [runTD_eq_runOf, run_eq_runOf, rootLoopT_eq_with, rootLoop_eq_with, expandT_eq_of_body h]
  exact congrArg (fun bd => runOf (rootLoopWith o bd _ _ _ _))
    (funext fun _ => funext fun _ => funext fun _ => h ..)

/-- **run for run**: `expand` on the tables is `expand` of the abstract model – same verdict, same `childrenCache`, same
antichain `nonincluded` (with the witness trees), same set of concluded pairs, same fuel -/
theorem expandT_eq {TA TB : TableTD} {A B : Vata.TA} (h : GroupsAgree TA TB A B) (o : Ord) (wit : Wit) :
    ∀ fuel, expandT o TA TB wit fuel = expand o A B wit fuel :=
  expandT_eq_of_body (bodyT_eq h) o wit

theorem runTD_eq {TA TB : TableTD} {A B : Vata.TA} (h : GroupsAgree TA TB A B) (o : Ord) (fuel : Nat) :
    runTD o TA A.final TB B.final (prodWit A) fuel = run o A B fuel :=
  runTD_eq_of_body (bodyT_eq h) o fuel

end InclDownTables
end Vata
