import Vata.Proofs.LtsEngineCalls2SC
/-!
# The `SharedCounter` call discipline along `init`: constructors, `resize`, `set`, `init()`

Phases: all counters are `fresh` after `makeBlock` / the initial refinement (`SC.Op.new`, `SC.Op.copyCtor`); "initialize
counters" takes block after block through `resize` (→ `filling`), the `set`s of every label of its inset, and `init()`
(→ `running`).
-/
namespace Vata.LEC2
open Vata.L Vata.LE Vata.LU

abbrev freshA : SC.A := ⟨0, [], .fresh⟩

/-- all counters constructed, none resized -/
abbrev allFresh : Nat → SC.Phase := fun _ => .fresh

section
variable {L : LTS} {cfg : SC.Cfg}


theorem news_run (cfg : SC.Cfg) {α : Type} : ∀ (l : List α) (aw : SC.AWorld),
    SC.okAll cfg aw (l.map (fun _ => SC.Op.new)) = true ∧
    (SC.aRun cfg aw (l.map (fun _ => SC.Op.new))).1 = aw ++ List.replicate l.length (some freshA) := by
  intro l
  induction l with
  | nil =>
    intro aw
    exact by simp [SC.okAll, SC.aRun]
  | cons x l ih =>
    intro aw
    obtain ⟨h1, h2⟩ := ih (aw ++ [some freshA])
    refine ⟨?_, ?_⟩
    · simp only [List.map_cons, sc_okAll_cons, SC.ok, Bool.true_and]; exact h1
    · simp only [List.map_cons, sc_aRun_cons]
      show (SC.aRun cfg (aw ++ [some freshA]) _).1 = _
      rw [h2, List.append_assoc, List.length_cons, List.replicate_succ]; rfl

theorem initBlocksJ_goodC (cfg : SC.Cfg) (L : LTS) (part : List (List Nat)) (rel : Rel) :
    GoodC L cfg (initBlocksJ L part rel Tr2.empty).1 (initBlocksJ L part rel Tr2.empty).2 allFresh := by
  obtain ⟨h1, h2⟩ := news_run cfg part []
  have hsc : (initBlocksJ L part rel Tr2.empty).2.sc = part.map (fun _ => SC.Op.new) := rfl
  have hlen : (initBlocksJ L part rel Tr2.empty).1.part.length = part.length := by simp [initBlocksJ, initBlocks]
  refine ⟨by rw [hsc]; exact h1, ?_⟩
  rw [hsc, h2]
  refine ⟨by rw [hlen]; simp, fun i hi => ⟨freshA, ?_, rfl, fun h => absurd rfl h⟩⟩
  rw [hlen] at hi
  simp [List.getD_eq_getElem?_getD, hi]

/-- the copy constructor of the counter of one more block (`fastSplit`) -/
theorem ctor_goodC {e e' : Eng} {t t' : Tr2} {b : Nat} (g : GoodC L cfg e t allFresh) (ht : t'.sc = t.sc ++ [SC.Op.copyCtor b])
    (hb : b < e.part.length) (hp : e'.part.length = e.part.length + 1) : GoodC L cfg e' t' allFresh := by
  refine g.add ht ⟨?_, ?_⟩
  · obtain ⟨A, hA, _⟩ := g.2.blk b hb
    rw [sc_okAll_single]
    show ((SC.aRun cfg [] t.sc).1.getD b none).isSome = true
    rw [hA]; rfl
  · exact g.2.push hp (fun _ _ => ⟨rfl, fun h => absurd rfl h⟩) rfl (fun h => absurd rfl h)


theorem resizeArg_ge (cfg : SC.Cfg) : ∀ (ins : List Nat) (m : Nat),
    m ≤ ins.foldl (fun m a => max m (cfg.labelMap.getD a (0, 0)).2) m ∧
    ∀ a, a ∈ ins → (lm cfg a).2 ≤ ins.foldl (fun m a => max m (cfg.labelMap.getD a (0, 0)).2) m := by
  intro ins
  induction ins with
  | nil =>
    intro m
    exact ⟨Nat.le_refl _, fun _ h => by cases h⟩
  | cons x ins ih =>
    intro m
    obtain ⟨h1, h2⟩ := ih (max m (cfg.labelMap.getD x (0, 0)).2)
    simp only [List.foldl_cons]
    refine ⟨Nat.le_trans (Nat.le_max_left _ _) h1, fun a ha => ?_⟩
    rcases List.mem_cons.mp ha with h | h
    · rw [h]; exact Nat.le_trans (Nat.le_max_right _ _) h1
    · exact h2 a h

/-- `b1->counter_.resize(size)` -/
theorem resize_goodC (ok : CfgOK L cfg) {e : Eng} {t : Tr2} {ph ph' : Nat → SC.Phase} {b1 : Nat} (g : GoodC L cfg e t ph)
    (hb1 : b1 < e.part.length) (hph : ph b1 = .fresh) (hlab : ∀ a, a ∈ e.ins b1 → a < labels L)
    (hz : ∀ a q, a ∈ e.ins b1 → e.cntv b1 a q = 0) (hph1 : ph' b1 = .filling) (hph2 : ∀ i, i ≠ b1 → ph' i = ph i) :
    GoodC L cfg e (t.addSC [SC.Op.resize b1 (resizeArg cfg (e.ins b1))]) ph' := by
  obtain ⟨A, hA, hAph, _⟩ := g.2.blk b1 hb1
  rw [hph] at hAph
  refine g.add rfl ⟨?_, ?_⟩
  · rw [sc_okAll_single]
    simp only [SC.ok, hA, hAph]
    rfl
  · refine g.2.upd hA rfl rfl (fun _ _ _ _ => rfl) hph1.symm hph2 (fun _ => ⟨by simp, fun a q ha hq => ?_⟩)
    exact ⟨(Nat.div_lt_iff_lt_mul ok.rs).mp (Nat.lt_of_lt_of_le (ok.rng a q (hlab a ha) hq).2 ((resizeArg_ge cfg (e.ins b1) 0).2 a ha)),
      by rw [SC.P.at_replicate_zero, hz a q ha]⟩


/-- the counter loop of one slot of "initialize counters", state by state: every non-zero count is `set` into a cell that is
still zero -/
theorem cntFold_goodC (ok : CfgOK L cfg) {ph : Nat → SC.Phase} {b1 a : Nat} (c : Nat → Nat) (hph : ph b1 = .filling) :
    ∀ (qs : List Nat) (e : Eng) (t : Tr2), qs.Nodup → (∀ q, q ∈ qs → q ∈ delta1 L a ∧ e.cntv b1 a q = 0) →
      (∀ q, initCount L e b1 a q = c q) → b1 < e.part.length → (∀ a', a' ∈ e.ins b1 → a' < labels L) → a ∈ e.ins b1 →
      GoodC L cfg e t ph →
      GoodC L cfg (qs.foldl (cntStep L b1 a) e)
        (t.addSC ((qs.filter (fun q => c q != 0)).map (fun q => SC.Op.set b1 a q (c q)))) ph := by
  intro qs
  induction qs with
  | nil => exact fun e t _ _ _ _ _ _ g => g.congr rfl rfl rfl (List.append_nil _)
  | cons q qs ih =>
    intro e t hnd hqs hcnt hb1 hlab ha g
    have hnd' := List.nodup_cons.mp hnd
    obtain ⟨hq, hz⟩ := hqs q List.mem_cons_self
    rw [List.foldl_cons, List.filter_cons]
    unfold cntStep
    rw [hcnt q]
    by_cases h0 : c q = 0
    · rw [h0]
      exact ih e t hnd'.2 (fun x hx => hqs x (List.mem_cons_of_mem _ hx)) hcnt hb1 hlab ha g
    · have hne : (c q == 0) = false := by simpa using h0
      have hne' : (c q != 0) = true := by simpa using h0
      rw [hne, hne']
      have hcv : ∀ i a' q', ({ e with cnt := setCnt e.cnt b1 a q (c q) } : Eng).cntv i a' q' =
          if i = b1 ∧ a' = a ∧ q' = q then c q else e.cntv i a' q' := fun i a' q' => cget_setCnt _ _ _ _ _ _ _ _
      have g1 : GoodC L cfg { e with cnt := setCnt e.cnt b1 a q (c q) } (t.addSC [SC.Op.set b1 a q (c q)]) ph :=
        set_goodC ok g rfl hb1 hph hlab ha hq hz (Nat.pos_of_ne_zero h0) rfl rfl hcv
      refine (ih { e with cnt := setCnt e.cnt b1 a q (c q) } _ hnd'.2 (fun x hx => ?_)
        (fun x => (initCount_congr rfl rfl b1 a x).trans (hcnt x)) hb1 hlab ha g1).congr rfl rfl rfl (by simp [Tr2.addSC])
      rw [hcv, if_neg (fun h : b1 = b1 ∧ a = a ∧ x = q => hnd'.1 (h.2.2 ▸ hx))]
      exact hqs x (List.mem_cons_of_mem _ hx)

/-- `b1->counter_.set(a, q, count)` for all `q ∈ delta1[a]` with `count != 0` -/
theorem slot_goodC (ok : CfgOK L cfg) {et : JE} {ph : Nat → SC.Phase} {b1 a : Nat} (g : GoodC L cfg et.1 et.2 ph)
    (hb1 : b1 < et.1.part.length) (hph : ph b1 = .filling) (hlab : ∀ a', a' ∈ et.1.ins b1 → a' < labels L)
    (ha : a ∈ et.1.ins b1) (hz : ∀ q, et.1.cntv b1 a q = 0) :
    GoodC L cfg (initSlotJ L b1 et a).1 (initSlotJ L b1 et a).2 ph := by
  have h := cntFold_goodC ok (fun q => initCount L et.1 b1 a q) hph (delta1 L a) et.1 et.2 (nodup_delta1 L a)
    (fun q hq => ⟨hq, hz q⟩) (fun _ => rfl) hb1 hlab ha g
  -- behind the counter loop `initSlot` touches the remove lists and the queue only
  show GoodC L cfg (initSlot L b1 et.1 a) _ ph
  unfold initSlot
  simp only []
  split <;> exact h.congr rfl rfl rfl rfl


theorem init_goodC {e : Eng} {t : Tr2} {ph ph' : Nat → SC.Phase} {b1 : Nat} (g : GoodC L cfg e t ph)
    (hb1 : b1 < e.part.length) (hph : ph b1 = .filling) (hph1 : ph' b1 = .running) (hph2 : ∀ i, i ≠ b1 → ph' i = ph i) :
    GoodC L cfg e (t.addSC [SC.Op.init b1]) ph' := by
  obtain ⟨A, hA, hAph, hbv⟩ := g.2.blk b1 hb1
  rw [hph] at hAph
  refine g.add rfl ⟨?_, ?_⟩
  · rw [sc_okAll_single]
    simp only [SC.ok, hA, hAph]
    rfl
  · rw [sc_aRun_single]
    simp only [SC.aStep, hA]
    exact g.2.upd hA rfl rfl (fun _ _ _ _ => rfl) hph1.symm hph2
      (fun _ => ⟨(hbv (by rw [hph]; simp)).vlen, (hbv (by rw [hph]; simp)).agree⟩)


theorem destroys_ok (cfg : SC.Cfg) : ∀ (is : List Nat) (aw : SC.AWorld), is.Nodup →
    (∀ i, i ∈ is → ∃ A, aw.getD i none = some A ∧ A.phase = .running) →
    SC.okAll cfg aw (is.map SC.Op.destroy) = true ∧
    (SC.aRun cfg aw (is.map SC.Op.destroy)).1.length = aw.length ∧
    ∀ j, (SC.aRun cfg aw (is.map SC.Op.destroy)).1.getD j none = if j ∈ is then none else aw.getD j none := by
  intro is
  induction is with
  | nil => intro aw _ _; exact ⟨rfl, rfl, fun j => by simp [SC.aRun]⟩
  | cons i is ih =>
    intro aw hnd hl
    have hnd' := List.nodup_cons.mp hnd
    obtain ⟨A, hA, hph⟩ := hl i List.mem_cons_self
    have hiw : i < aw.length := lt_of_getD_eq_some hA
    obtain ⟨h1, h2, h3⟩ := ih (aw.set i none) hnd'.2 (fun x hx => by
      obtain ⟨Ax, hAx, hphx⟩ := hl x (List.mem_cons_of_mem _ hx)
      exact ⟨Ax, by rw [getD_set_ne _ fun e : x = i => hnd'.1 (e ▸ hx)]; exact hAx, hphx⟩)
    simp only [List.map_cons, sc_okAll_cons, sc_aRun_cons]
    have hstep : SC.aStep cfg aw (SC.Op.destroy i) = aw.set i none := rfl
    rw [hstep]
    refine ⟨?_, by rw [h2, List.length_set], fun j => ?_⟩
    · rw [h1, Bool.and_true]
      simp only [SC.ok, hA, hph]
      rfl
    · rw [h3 j, getD_set_of_lt none hiw]
      by_cases hji : j = i
      · subst hji
        simp
      · simp [hji]

end

end Vata.LEC2
