import Vata.NfaOps
import Vata.Proofs.Rounds
import Vata.Proofs.Closure
/-!
# Language theorems for the word-automata operations (property C10)

`acceptsW` is characterised by paths (`acceptsW_iff`); every operation of `Vata/NfaOps.lean` is then handled by a
path transformation.
-/
namespace Vata
open Vata.W


inductive Path (N : NFA) : Nat → List Nat → Nat → Prop
  | nil (q : Nat) : Path N q [] q
  | cons {p a r : Nat} {w : List Nat} {q : Nat} : (p, a, r) ∈ N.trans → Path N r w q → Path N p (a :: w) q

theorem mem_stepW {N : NFA} {S : List Nat} {a q : Nat} :
    q ∈ stepW N S a ↔ ∃ p, p ∈ S ∧ (p, a, q) ∈ N.trans := by
  simp only [stepW, List.mem_map, List.mem_filter, Bool.and_eq_true, List.contains_iff_mem, beq_iff_eq]
  constructor
  · rintro ⟨⟨p, b, r⟩, ⟨he, hp, hb⟩, hr⟩
    simp only at hp hb hr
    subst hb; subst hr
    exact ⟨p, hp, he⟩
  · rintro ⟨p, hp, he⟩; exact ⟨(p, a, q), ⟨he, hp, rfl⟩, rfl⟩

theorem Path.snoc {N : NFA} {p r q a : Nat} {w : List Nat} (h : Path N p w r) (he : (r, a, q) ∈ N.trans) :
    Path N p (w ++ [a]) q := by
  induction h with
  | nil r => exact .cons he (.nil q)
  | cons h1 _ ih => exact .cons h1 (ih he)

theorem Path.append {N : NFA} {p r q : Nat} {u v : List Nat} (h1 : Path N p u r) (h2 : Path N r v q) :
    Path N p (u ++ v) q := by
  induction h1 with
  | nil r => exact h2
  | cons h1 _ ih => exact .cons h1 (ih h2)

theorem mem_foldl_stepW (N : NFA) : ∀ (w : List Nat) (S : List Nat) (q : Nat),
    q ∈ w.foldl (stepW N) S ↔ ∃ s, s ∈ S ∧ Path N s w q := by
  intro w
  induction w with
  | nil =>
    intro S q
    simp only [List.foldl_nil]
    constructor
    · intro h; exact ⟨q, h, .nil q⟩
    · rintro ⟨s, hs, hp⟩; cases hp; exact hs
  | cons a w ih =>
    intro S q
    rw [List.foldl_cons, ih]
    constructor
    · rintro ⟨r, hr, hp⟩
      obtain ⟨p, hpS, he⟩ := mem_stepW.mp hr
      exact ⟨p, hpS, .cons he hp⟩
    · rintro ⟨s, hs, hp⟩
      cases hp with
      | cons he hp' => exact ⟨_, mem_stepW.mpr ⟨s, hs, he⟩, hp'⟩

theorem mem_run_iff (N : NFA) (w : List Nat) (q : Nat) : q ∈ run N w ↔ ∃ s, s ∈ N.start ∧ Path N s w q :=
  mem_foldl_stepW N w N.start q

theorem acceptsW_iff (N : NFA) (w : List Nat) :
    acceptsW N w = true ↔ ∃ s, s ∈ N.start ∧ ∃ q, q ∈ N.final ∧ Path N s w q := by
  simp only [W.acceptsW, W.accepting, List.any_eq_true, List.contains_iff_mem, mem_run_iff]
  constructor
  · rintro ⟨q, ⟨s, hs, hp⟩, hf⟩; exact ⟨s, hs, q, hf, hp⟩
  · rintro ⟨s, hs, q, hf, hp⟩; exact ⟨q, ⟨s, hs, hp⟩, hf⟩

theorem Path.map {N M : NFA} (f : Nat → Nat) (h : ∀ p a q, (p, a, q) ∈ N.trans → (f p, a, f q) ∈ M.trans)
    {p q : Nat} {w : List Nat} (hp : Path N p w q) : Path M (f p) w (f q) := by
  induction hp with
  | nil q => exact .nil _
  | cons he _ ih => exact .cons (h _ _ _ he) ih

theorem Path.mono {N M : NFA} (h : ∀ e, e ∈ N.trans → e ∈ M.trans) {p q : Nat} {w : List Nat}
    (hp : Path N p w q) : Path M p w q :=
  Path.map (fun x => x) (fun _ _ _ he => h _ he) hp

/-- a path that starts in a set `X` which the transitions of `U` cannot leave, and on which they are transitions
of `A`, is a path of `A` (and ends in `X`) -/
theorem Path.restrict {U A : NFA} (X : Nat → Prop)
    (h : ∀ p a q, (p, a, q) ∈ U.trans → X p → (p, a, q) ∈ A.trans ∧ X q)
    {p q : Nat} {w : List Nat} (hp : Path U p w q) : X p → Path A p w q ∧ X q := by
  induction hp with
  | nil q => intro hx; exact ⟨.nil _, hx⟩
  | cons he _ ih =>
    intro hx
    obtain ⟨h1, h2⟩ := h _ _ _ he hx
    obtain ⟨h3, h4⟩ := ih h2
    exact ⟨.cons h1 h3, h4⟩


theorem mem_nfaReverse_trans {N : NFA} {p a q : Nat} : (p, a, q) ∈ (nfaReverse N).trans ↔ (q, a, p) ∈ N.trans := by
  simp only [nfaReverse, List.mem_map]
  constructor
  · rintro ⟨⟨x, b, y⟩, he, heq⟩
    simp only [Prod.mk.injEq] at heq
    obtain ⟨h1, h2, h3⟩ := heq
    subst h1; subst h2; subst h3
    exact he
  · intro he; exact ⟨(q, a, p), he, rfl⟩

theorem Path.reverse {N : NFA} {p q : Nat} {w : List Nat} (hp : Path N p w q) :
    Path (nfaReverse N) q w.reverse p := by
  induction hp with
  | nil q => exact .nil _
  | cons he _ ih =>
    rw [List.reverse_cons]
    exact ih.snoc (mem_nfaReverse_trans.mpr he)

theorem Path.of_reverse {N : NFA} {p q : Nat} {w : List Nat} (hp : Path (nfaReverse N) q w p) :
    Path N p w.reverse q := by
  induction hp with
  | nil q => exact .nil _
  | cons he _ ih =>
    rw [List.reverse_cons]
    exact ih.snoc (mem_nfaReverse_trans.mp he)

theorem path_nfaReverse_iff {N : NFA} {p q : Nat} {w : List Nat} :
    Path (nfaReverse N) q w p ↔ Path N p w.reverse q := by
  constructor
  · exact Path.of_reverse
  · intro h; have := h.reverse; rwa [List.reverse_reverse] at this

theorem nfaReverse_lang (N : NFA) (w : List Nat) : acceptsW (nfaReverse N) w = acceptsW N w.reverse := by
  rw [Bool.eq_iff_iff, acceptsW_iff, acceptsW_iff]
  constructor
  · rintro ⟨s, hs, q, hq, hp⟩; exact ⟨q, hq, s, hs, path_nfaReverse_iff.mp hp⟩
  · rintro ⟨s, hs, q, hq, hp⟩; exact ⟨q, hq, s, hs, path_nfaReverse_iff.mpr hp⟩

example : acceptsW ⟨[0], [2], [(0, 7, 1), (1, 8, 2)]⟩ [7, 8] = true ∧
    acceptsW (nfaReverse ⟨[0], [2], [(0, 7, 1), (1, 8, 2)]⟩) [8, 7] = true ∧
    acceptsW (nfaReverse ⟨[0], [2], [(0, 7, 1), (1, 8, 2)]⟩) [7, 8] = false := by decide +kernel


theorem sub_nfa_sub_lang (R N : NFA) (w : List Nat)
    (hs : ∀ q, q ∈ R.start → q ∈ N.start) (hf : ∀ q, q ∈ R.final → q ∈ N.final)
    (ht : ∀ e, e ∈ R.trans → e ∈ N.trans) : acceptsW R w = true → acceptsW N w = true := by
  rw [acceptsW_iff, acceptsW_iff]
  rintro ⟨s, h1, q, h2, hp⟩
  exact ⟨s, hs s h1, q, hf q h2, hp.mono ht⟩

theorem nfaSubB_sound {R N : NFA} (h : nfaSubB R N = true) :
    (∀ q, q ∈ R.start → q ∈ N.start) ∧ (∀ q, q ∈ R.final → q ∈ N.final) ∧ (∀ e, e ∈ R.trans → e ∈ N.trans) := by
  simp only [nfaSubB, Bool.and_eq_true, List.all_eq_true, List.contains_iff_mem] at h
  exact ⟨h.1.1, h.1.2, h.2⟩

theorem nfaSubB_lang {R N : NFA} (h : nfaSubB R N = true) (w : List Nat) :
    acceptsW R w = true → acceptsW N w = true := by
  obtain ⟨h1, h2, h3⟩ := nfaSubB_sound h
  exact sub_nfa_sub_lang R N w h1 h2 h3

example : nfaSubB ⟨[0], [2], [(0, 7, 1), (1, 8, 2)]⟩ ⟨[0, 3], [2, 3], [(0, 7, 1), (1, 8, 2), (1, 8, 1)]⟩ = true ∧
    acceptsW ⟨[0], [2], [(0, 7, 1), (1, 8, 2)]⟩ [7, 8] = true := by decide +kernel


theorem mem_nfaStates {N : NFA} {q : Nat} :
    q ∈ nfaStates N ↔ q ∈ N.start ∨ q ∈ N.final ∨ ∃ e, e ∈ N.trans ∧ (q = e.1 ∨ q = e.2.2) := by
  simp only [nfaStates, List.mem_append, List.mem_flatMap, List.mem_cons, List.not_mem_nil, or_false, or_assoc]

theorem mem_nfaStates_unionDisjoint {A B : NFA} {q : Nat} :
    q ∈ nfaStates (nfaUnionDisjoint A B) ↔ q ∈ nfaStates A ∨ q ∈ nfaStates B := by
  simp only [nfaStates, nfaUnionDisjoint, List.mem_append, List.flatMap_append]
  exact (or_congr or_or_or_comm Iff.rfl).trans or_or_or_comm

theorem src_mem_nfaStates {N : NFA} {p a q : Nat} (h : (p, a, q) ∈ N.trans) : p ∈ nfaStates N :=
  mem_nfaStates.mpr (Or.inr (Or.inr ⟨_, h, Or.inl rfl⟩))

theorem tgt_mem_nfaStates {N : NFA} {p a q : Nat} (h : (p, a, q) ∈ N.trans) : q ∈ nfaStates N :=
  mem_nfaStates.mpr (Or.inr (Or.inr ⟨_, h, Or.inr rfl⟩))

theorem start_mem_nfaStates {N : NFA} {q : Nat} (h : q ∈ N.start) : q ∈ nfaStates N :=
  mem_nfaStates.mpr (Or.inl h)

theorem final_mem_nfaStates {N : NFA} {q : Nat} (h : q ∈ N.final) : q ∈ nfaStates N :=
  mem_nfaStates.mpr (Or.inr (Or.inl h))

theorem path_union_left {A B : NFA} (hdis : ∀ q, q ∈ nfaStates A → q ∈ nfaStates B → False)
    {p q : Nat} {w : List Nat} (hp : Path (nfaUnionDisjoint A B) p w q) (hx : p ∈ nfaStates A) :
    Path A p w q ∧ q ∈ nfaStates A := by
  refine Path.restrict (fun x => x ∈ nfaStates A) ?_ hp hx
  intro p a q he hpA
  rcases List.mem_append.mp he with h | h
  · exact ⟨h, tgt_mem_nfaStates h⟩
  · exact (hdis p hpA (src_mem_nfaStates h)).elim

theorem path_union_right {A B : NFA} (hdis : ∀ q, q ∈ nfaStates A → q ∈ nfaStates B → False)
    {p q : Nat} {w : List Nat} (hp : Path (nfaUnionDisjoint A B) p w q) (hx : p ∈ nfaStates B) :
    Path B p w q ∧ q ∈ nfaStates B := by
  refine Path.restrict (fun x => x ∈ nfaStates B) ?_ hp hx
  intro p a q he hpB
  rcases List.mem_append.mp he with h | h
  · exact (hdis p (src_mem_nfaStates h) hpB).elim
  · exact ⟨h, tgt_mem_nfaStates h⟩

/-- without disjointness the union only over-approximates -/
theorem nfaUnionDisjoint_lang_ge (A B : NFA) (w : List Nat) :
    (acceptsW A w || acceptsW B w) = true → acceptsW (nfaUnionDisjoint A B) w = true := by
  rw [Bool.or_eq_true]
  rintro (h | h)
  · exact sub_nfa_sub_lang A _ w (fun _ h => List.mem_append_left _ h) (fun _ h => List.mem_append_left _ h)
      (fun _ h => List.mem_append_left _ h) h
  · exact sub_nfa_sub_lang B _ w (fun _ h => List.mem_append_right _ h) (fun _ h => List.mem_append_right _ h)
      (fun _ h => List.mem_append_right _ h) h

theorem nfaUnionDisjoint_lang (A B : NFA) (w : List Nat)
    (hdis : ∀ q, q ∈ nfaStates A → q ∈ nfaStates B → False) :
    acceptsW (nfaUnionDisjoint A B) w = (acceptsW A w || acceptsW B w) := by
  rw [Bool.eq_iff_iff, Bool.or_eq_true]
  constructor
  · intro h
    obtain ⟨s, hs, q, hq, hp⟩ := (acceptsW_iff _ _).mp h
    rcases List.mem_append.mp hs with hsA | hsB
    · obtain ⟨hpA, hqA⟩ := path_union_left hdis hp (start_mem_nfaStates hsA)
      left
      rcases List.mem_append.mp hq with hf | hf
      · exact (acceptsW_iff _ _).mpr ⟨s, hsA, q, hf, hpA⟩
      · exact (hdis q hqA (final_mem_nfaStates hf)).elim
    · obtain ⟨hpB, hqB⟩ := path_union_right hdis hp (start_mem_nfaStates hsB)
      right
      rcases List.mem_append.mp hq with hf | hf
      · exact (hdis q (final_mem_nfaStates hf) hqB).elim
      · exact (acceptsW_iff _ _).mpr ⟨s, hsB, q, hf, hpB⟩
  · exact fun h => nfaUnionDisjoint_lang_ge A B w (Bool.or_eq_true _ _ ▸ h)

/-- non-vacuity of the disjointness hypothesis, and its necessity: with a shared state the union accepts more -/
example : (∀ q, q ∈ nfaStates ⟨[0], [1], [(0, 7, 1)]⟩ → q ∈ nfaStates ⟨[2], [3], [(2, 8, 3)]⟩ → False) := by decide
example : acceptsW (nfaUnionDisjoint ⟨[0], [1], [(0, 7, 1)]⟩ ⟨[1], [2], [(1, 8, 2)]⟩) [7, 8] = true ∧
    acceptsW ⟨[0], [1], [(0, 7, 1)]⟩ [7, 8] = false ∧ acceptsW ⟨[1], [2], [(1, 8, 2)]⟩ [7, 8] = false := by decide +kernel

def NfaInjOn (f : Nat → Nat) (S : List Nat) : Prop := ∀ p, p ∈ S → ∀ q, q ∈ S → f p = f q → p = q

theorem mem_nfaMap_trans {f : Nat → Nat} {N : NFA} {x a y : Nat} :
    (x, a, y) ∈ (nfaMap f N).trans ↔ ∃ p q, (p, a, q) ∈ N.trans ∧ x = f p ∧ y = f q := by
  simp only [nfaMap, List.mem_map]
  constructor
  · rintro ⟨⟨p, b, q⟩, he, heq⟩
    simp only [Prod.mk.injEq] at heq
    obtain ⟨h1, h2, h3⟩ := heq
    subst h2
    exact ⟨p, q, he, h1.symm, h3.symm⟩
  · rintro ⟨p, q, he, rfl, rfl⟩; exact ⟨(p, a, q), he, rfl⟩

theorem mem_nfaStates_nfaMap {f : Nat → Nat} {N : NFA} {x : Nat} :
    x ∈ nfaStates (nfaMap f N) ↔ ∃ q, q ∈ nfaStates N ∧ x = f q := by
  constructor
  · intro h
    rcases mem_nfaStates.mp h with h | h | ⟨⟨p, a, q⟩, he, h⟩
    · obtain ⟨q, hq, rfl⟩ := List.mem_map.mp h; exact ⟨q, start_mem_nfaStates hq, rfl⟩
    · obtain ⟨q, hq, rfl⟩ := List.mem_map.mp h; exact ⟨q, final_mem_nfaStates hq, rfl⟩
    · obtain ⟨p', q', he', h1, h2⟩ := mem_nfaMap_trans.mp he
      rcases h with h | h
      · exact ⟨p', src_mem_nfaStates he', h.trans h1⟩
      · exact ⟨q', tgt_mem_nfaStates he', h.trans h2⟩
  · rintro ⟨q, hq, rfl⟩
    rcases mem_nfaStates.mp hq with h | h | ⟨⟨p, a, r⟩, he, h⟩
    · exact start_mem_nfaStates (List.mem_map.mpr ⟨q, h, rfl⟩)
    · exact final_mem_nfaStates (List.mem_map.mpr ⟨q, h, rfl⟩)
    · have he' : (f p, a, f r) ∈ (nfaMap f N).trans := mem_nfaMap_trans.mpr ⟨p, r, he, rfl, rfl⟩
      rcases h with h | h
      · rw [h]; exact src_mem_nfaStates he'
      · rw [h]; exact tgt_mem_nfaStates he'

theorem Path.nfaMap {f : Nat → Nat} {N : NFA} {p q : Nat} {w : List Nat} (hp : Path N p w q) :
    Path (nfaMap f N) (f p) w (f q) :=
  Path.map f (fun p _ q he => mem_nfaMap_trans.mpr ⟨p, q, he, rfl, rfl⟩) hp

theorem path_nfaMap_inv {f : Nat → Nat} {N : NFA} (hinj : NfaInjOn f (nfaStates N))
    {x y : Nat} {w : List Nat} (hp : Path (nfaMap f N) x w y) :
    ∀ s, s ∈ nfaStates N → x = f s → ∃ q, q ∈ nfaStates N ∧ y = f q ∧ Path N s w q := by
  induction hp with
  | nil x => intro s hs hx; exact ⟨s, hs, hx, .nil s⟩
  | cons he _ ih =>
    intro s hs hx
    obtain ⟨p, r, he', h1, h2⟩ := mem_nfaMap_trans.mp he
    have hps : p = s := hinj p (src_mem_nfaStates he') s hs (h1.symm.trans hx)
    rw [hps] at he'
    obtain ⟨q, hq, hy, hpq⟩ := ih r (tgt_mem_nfaStates he') h2
    exact ⟨q, hq, hy, .cons he' hpq⟩

/-- every word of `N` is accepted by any image of `N` (no injectivity needed) -/
theorem nfaMap_lang_ge (f : Nat → Nat) (N : NFA) (w : List Nat) :
    acceptsW N w = true → acceptsW (nfaMap f N) w = true := by
  rw [acceptsW_iff, acceptsW_iff]
  rintro ⟨s, hs, q, hq, hp⟩
  exact ⟨f s, List.mem_map.mpr ⟨s, hs, rfl⟩, f q, List.mem_map.mpr ⟨q, hq, rfl⟩, hp.nfaMap⟩

theorem nfaMap_inj_lang (f : Nat → Nat) (N : NFA) (w : List Nat) (hinj : NfaInjOn f (nfaStates N)) :
    acceptsW (nfaMap f N) w = acceptsW N w := by
  rw [Bool.eq_iff_iff, acceptsW_iff, acceptsW_iff]
  constructor
  · rintro ⟨s', hs', q', hq', hp⟩
    obtain ⟨s, hs, rfl⟩ := List.mem_map.mp hs'
    obtain ⟨q0, hq0, hq0'⟩ := List.mem_map.mp hq'
    obtain ⟨q, hq, hy, hpq⟩ := path_nfaMap_inv hinj hp s (start_mem_nfaStates hs) rfl
    have : q0 = q := hinj q0 (final_mem_nfaStates hq0) q hq (hq0'.trans hy)
    rw [this] at hq0
    exact ⟨s, hs, q, hq0, hpq⟩
  · exact fun h => (acceptsW_iff _ _).mp (nfaMap_lang_ge f N w ((acceptsW_iff _ _).mpr h))

theorem nfaUnionWith_lang (fA fB : Nat → Nat) (A B : NFA) (w : List Nat)
    (hA : NfaInjOn fA (nfaStates A)) (hB : NfaInjOn fB (nfaStates B))
    (hdis : ∀ p, p ∈ nfaStates A → ∀ q, q ∈ nfaStates B → fA p ≠ fB q) :
    acceptsW (nfaUnionWith fA fB A B) w = (acceptsW A w || acceptsW B w) := by
  rw [nfaUnionWith, nfaUnionDisjoint_lang, nfaMap_inj_lang fA A w hA, nfaMap_inj_lang fB B w hB]
  intro x h1 h2
  obtain ⟨p, hp, rfl⟩ := mem_nfaStates_nfaMap.mp h1
  obtain ⟨q, hq, h⟩ := mem_nfaStates_nfaMap.mp h2
  exact hdis p hp q hq h

/-- non-vacuity: two automata sharing the state names, separated by the translation maps -/
example : NfaInjOn (fun q => 2 * q) (nfaStates ⟨[0], [1], [(0, 7, 1)]⟩) ∧
    NfaInjOn (fun q => 2 * q + 1) (nfaStates ⟨[0], [1], [(0, 8, 1)]⟩) ∧
    (∀ p, p ∈ nfaStates ⟨[0], [1], [(0, 7, 1)]⟩ → ∀ q, q ∈ nfaStates ⟨[0], [1], [(0, 8, 1)]⟩ →
      (fun q => 2 * q) p ≠ (fun q => 2 * q + 1) q) := by
  refine ⟨?_, ?_, ?_⟩
  · intro p _ q _ h; simp only at h; omega
  · intro p _ q _ h; simp only at h; omega
  · intro p _ q _ h; simp only at h; omega


theorem mem_nfaStateList {N : NFA} {q : Nat} : q ∈ nfaStateList N ↔ q ∈ nfaStates N := by
  simp only [nfaStateList, List.mem_eraseDups]

theorem nfaUnion_lang (A B : NFA) (w : List Nat) : acceptsW (nfaUnion A B) w = (acceptsW A w || acceptsW B w) := by
  apply nfaUnionWith_lang
  · intro p hp q _ h
    exact idxOf_inj (mem_nfaStateList.mpr hp) h
  · intro p hp q _ h
    exact idxOf_inj (mem_nfaStateList.mpr hp) (Nat.add_left_cancel h)
  · intro p hp q _ h
    have : (nfaStateList A).idxOf p < (nfaStateList A).length :=
      List.idxOf_lt_length_iff.mpr (mem_nfaStateList.mpr hp)
    omega

example : acceptsW (nfaUnion ⟨[0], [1], [(0, 7, 1)]⟩ ⟨[0], [1], [(0, 8, 1)]⟩) [8] = true ∧
    acceptsW (nfaUnion ⟨[0], [1], [(0, 7, 1)]⟩ ⟨[0], [1], [(0, 8, 1)]⟩) [7] = true ∧
    acceptsW (nfaUnion ⟨[0], [1], [(0, 7, 1)]⟩ ⟨[0], [1], [(0, 8, 1)]⟩) [7, 8] = false := by decide +kernel


theorem mem_nfaSucc {N : NFA} {S : List Nat} {q : Nat} :
    q ∈ nfaSucc N S ↔ ∃ p, p ∈ S ∧ ∃ a, (p, a, q) ∈ N.trans := by
  simp only [nfaSucc, List.mem_map, List.mem_filter, List.contains_iff_mem]
  constructor
  · rintro ⟨⟨p, a, r⟩, ⟨he, hp⟩, hr⟩
    simp only at hp hr
    subst hr
    exact ⟨p, hp, a, he⟩
  · rintro ⟨p, hp, a, he⟩; exact ⟨(p, a, q), ⟨he, hp⟩, rfl⟩

theorem nfaClosedB_iff {N : NFA} {S : List Nat} :
    nfaClosedB N S = true ↔ ∀ p a q, p ∈ S → (p, a, q) ∈ N.trans → q ∈ S := by
  simp only [nfaClosedB, List.all_eq_true, List.contains_iff_mem, mem_nfaSucc]
  constructor
  · intro h p a q hp he; exact h q ⟨p, hp, a, he⟩
  · rintro h q ⟨p, hp, a, he⟩; exact h p a q hp he

theorem nfaRestrict_lang (N : NFA) (R : List Nat) (w : List Nat) (hst : ∀ s, s ∈ N.start → s ∈ R)
    (hcl : nfaClosedB N R = true) : acceptsW (nfaRestrict N R) w = acceptsW N w := by
  rw [Bool.eq_iff_iff]
  constructor
  · apply sub_nfa_sub_lang
    · intro q h; exact h
    · intro q h; exact (List.mem_filter.mp h).1
    · intro e h; exact (List.mem_filter.mp h).1
  · rw [acceptsW_iff, acceptsW_iff]
    rintro ⟨s, hs, q, hq, hp⟩
    have hcl' := nfaClosedB_iff.mp hcl
    have hstep : ∀ p a q, (p, a, q) ∈ N.trans → p ∈ R → (p, a, q) ∈ (nfaRestrict N R).trans ∧ q ∈ R := by
      intro p a q he hpR
      exact ⟨List.mem_filter.mpr ⟨he, List.contains_iff_mem.mpr hpR⟩, hcl' p a q hpR he⟩
    obtain ⟨h1, h2⟩ := Path.restrict (fun x => x ∈ R) hstep hp (hst s hs)
    exact ⟨s, hs, q, List.mem_filter.mpr ⟨hq, List.contains_iff_mem.mpr h2⟩, h1⟩

/-- a round of the two saturations: what the successors `L` hold and `S` lacks is appended -/
theorem mem_grow {α : Type} [BEq α] [LawfulBEq α] {S L : List α} {x : α} :
    x ∈ S ++ (L.filter (fun q => !S.contains q)).eraseDups ↔ x ∈ S ∨ x ∈ L := by
  rw [List.mem_append, List.mem_eraseDups, List.mem_filter, Bool.not_eq_true', ← Bool.not_eq_true, List.contains_iff_mem]
  exact ⟨fun h => h.elim Or.inl fun h => Or.inr h.1,
    fun h => h.elim Or.inl fun h => Classical.byCases Or.inl fun hn => Or.inr ⟨h, hn⟩⟩

/-- a round that does not end the loop lowers `unseen K`, when all successors lie in `K` -/
theorem unseen_grow_lt {α : Type} [BEq α] [LawfulBEq α] {K S L : List α} (hK : ∀ q, q ∈ L → q ∈ K)
    (hc : L.all S.contains = false) :
    unseen K (S ++ (L.filter (fun q => !S.contains q)).eraseDups) < unseen K S := by
  rw [← Bool.not_eq_true, List.all_eq_true, Classical.not_forall] at hc
  obtain ⟨y, hy⟩ := hc
  rw [Classical.not_imp, List.contains_iff_mem] at hy
  exact unseen_lt (fun _ h => List.mem_append_left _ h) (hK y hy.1) hy.2 (mem_grow.mpr (Or.inr hy.1))

theorem start_sub_nfaReachable (N : NFA) (s : Nat) (h : s ∈ N.start) : s ∈ nfaReachable N :=
  Rounds.inv (iter := nfaReachIter N) (stop := nfaClosedB N) (fun S => s ∈ S) (fun _ h => List.mem_append_left _ h) _ _ h

theorem nfaRemoveUnreachable_lang (N : NFA) (w : List Nat) :
    acceptsW (nfaRemoveUnreachable N) w = acceptsW N w := by
  simp only [nfaRemoveUnreachable]
  split
  · rename_i h; exact nfaRestrict_lang N _ w (start_sub_nfaReachable N) h
  · rfl

theorem nfaRemoveUseless_lang (N : NFA) (w : List Nat) : acceptsW (nfaRemoveUseless N) w = acceptsW N w := by
  simp only [nfaRemoveUseless, nfaReverse_lang, nfaRemoveUnreachable_lang, List.reverse_reverse]

/-- non-vacuity: state 3 is unreachable, state 4 is reachable but useless -/
example : (nfaRemoveUnreachable ⟨[0], [2], [(0, 7, 1), (1, 8, 2), (3, 7, 2), (1, 9, 4)]⟩).trans
      = [(0, 7, 1), (1, 8, 2), (1, 9, 4)] ∧
    (nfaRemoveUseless ⟨[0], [2], [(0, 7, 1), (1, 8, 2), (3, 7, 2), (1, 9, 4)]⟩).trans = [(0, 7, 1), (1, 8, 2)] ∧
    acceptsW (nfaRemoveUseless ⟨[0], [2], [(0, 7, 1), (1, 8, 2), (3, 7, 2), (1, 9, 4)]⟩) [7, 8] = true := by decide +kernel

/-- the closure check of `nfaRemoveUnreachable` never fails: a round that does not end the loop reaches a new target -/
theorem nfaReachable_closed (N : NFA) : nfaClosedB N (nfaReachable N) = true :=
  Rounds.stops (iter := nfaReachIter N) (next := nfaGrow N) (unseen (N.trans.map (·.2.2)))
    (fun _ => unseen_grow_lt fun _ hq => (mem_nfaSucc.mp hq).elim fun _ ⟨_, _, he⟩ => List.mem_map.mpr ⟨_, he, rfl⟩) _ _
    (Nat.le_trans (unseen_le_length _ _) (Nat.le_of_eq (List.length_map _)))

/-- the fallback branch of the certifying form is dead code -/
theorem nfaRemoveUnreachable_eq (N : NFA) : nfaRemoveUnreachable N = nfaRestrict N (nfaReachable N) := by
  simp only [nfaRemoveUnreachable, nfaReachable_closed, if_true]

/-- `nfaReachable N` lies in every set that holds the start states and is closed under the transitions -/
theorem nfaReachable_least (N : NFA) (T : Nat → Prop) (hs : ∀ s, s ∈ N.start → T s)
    (hc : ∀ p a q, (p, a, q) ∈ N.trans → T p → T q) : ∀ q, q ∈ nfaReachable N → T q :=
  Rounds.inv (iter := nfaReachIter N) (stop := nfaClosedB N) (fun S => ∀ q, q ∈ S → T q)
    (fun S h q hq => (mem_grow.mp hq).elim (h q) fun hq =>
      (mem_nfaSucc.mp hq).elim fun p ⟨hp, a, he⟩ => hc p a q he (h p hp)) _ _ hs

/-- `nfaReachable` is exactly the set of states reachable from a start state -/
theorem mem_nfaReachable_iff (N : NFA) (q : Nat) :
    q ∈ nfaReachable N ↔ ∃ s, s ∈ N.start ∧ ∃ w, Path N s w q := by
  constructor
  · exact nfaReachable_least N (fun q => ∃ s, s ∈ N.start ∧ ∃ w, Path N s w q) (fun s hs => ⟨s, hs, [], .nil s⟩)
      (fun p a q he ⟨s, hs, w, hw⟩ => ⟨s, hs, w ++ [a], hw.snoc he⟩) q
  · rintro ⟨s, hs, w, hp⟩
    have hcl := nfaClosedB_iff.mp (nfaReachable_closed N)
    exact (Path.restrict (A := N) (fun x => x ∈ nfaReachable N)
      (fun p a q he hpR => ⟨he, hcl p a q hpR he⟩) hp (start_sub_nfaReachable N s hs)).2

theorem mem_nfaRemoveUnreachable_trans (N : NFA) (e : Nat × Nat × Nat) :
    e ∈ (nfaRemoveUnreachable N).trans ↔ e ∈ N.trans ∧ ∃ s, s ∈ N.start ∧ ∃ w, Path N s w e.1 := by
  rw [nfaRemoveUnreachable_eq, ← mem_nfaReachable_iff]
  simp only [nfaRestrict, List.mem_filter, List.contains_iff_mem]

theorem mem_nfaRemoveUnreachable_final (N : NFA) (q : Nat) :
    q ∈ (nfaRemoveUnreachable N).final ↔ q ∈ N.final ∧ ∃ s, s ∈ N.start ∧ ∃ w, Path N s w q := by
  rw [nfaRemoveUnreachable_eq, ← mem_nfaReachable_iff]
  simp only [nfaRestrict, List.mem_filter, List.contains_iff_mem]

theorem nfaRemoveUnreachable_start (N : NFA) : (nfaRemoveUnreachable N).start = N.start := by
  rw [nfaRemoveUnreachable_eq]; rfl


def NfaReach (N : NFA) (q : Nat) : Prop := ∃ s, s ∈ N.start ∧ ∃ w, Path N s w q
def NfaCoReach (N : NFA) (q : Nat) : Prop := ∃ f, f ∈ N.final ∧ ∃ w, Path N q w f

theorem NfaReach.path {N : NFA} {p q : Nat} {w : List Nat} (h : NfaReach N p) (hp : Path N p w q) : NfaReach N q := by
  obtain ⟨s, hs, u, hu⟩ := h
  exact ⟨s, hs, u ++ w, hu.append hp⟩

theorem NfaCoReach.path {N : NFA} {p q : Nat} {w : List Nat} (h : NfaCoReach N q) (hp : Path N p w q) :
    NfaCoReach N p := by
  obtain ⟨f, hf, v, hv⟩ := h
  exact ⟨f, hf, w ++ v, hp.append hv⟩

theorem NfaReach.step {N : NFA} {p a q : Nat} (h : NfaReach N p) (he : (p, a, q) ∈ N.trans) : NfaReach N q :=
  h.path (.cons he (.nil q))

theorem NfaCoReach.step {N : NFA} {p a q : Nat} (h : NfaCoReach N q) (he : (p, a, q) ∈ N.trans) : NfaCoReach N p :=
  h.path (.cons he (.nil q))

theorem NfaReach.of_start {N : NFA} {s : Nat} (h : s ∈ N.start) : NfaReach N s := ⟨s, h, [], .nil s⟩
theorem NfaCoReach.of_final {N : NFA} {f : Nat} (h : f ∈ N.final) : NfaCoReach N f := ⟨f, h, [], .nil f⟩

def NfaC.nfaE (N : NFA) (p q : Nat) : Prop := ∃ a, (p, a, q) ∈ N.trans

theorem NfaC.lfp_nfaReach (N : NFA) : Closure.Lfp (Closure.reachC (· ∈ N.start) (NfaC.nfaE N)) (NfaReach N) :=
  Closure.lfp_reach (fun _ => NfaReach.of_start) (fun _ _ ⟨_, he⟩ h => h.step he) fun S hI hE _ ⟨s, hs, _, hp⟩ =>
    (Path.restrict (A := N) S (fun p a q he hp => ⟨he, hE p q ⟨a, he⟩ hp⟩) hp (hI s hs)).2

theorem nfaReach_reverse {M : NFA} {q : Nat} : NfaReach (nfaReverse M) q ↔ NfaCoReach M q := by
  constructor
  · rintro ⟨f, hf, w, hp⟩; exact ⟨f, hf, w.reverse, path_nfaReverse_iff.mp hp⟩
  · rintro ⟨f, hf, w, hp⟩
    refine ⟨f, hf, w.reverse, path_nfaReverse_iff.mpr ?_⟩
    rw [List.reverse_reverse]; exact hp

theorem path_nfaRemoveUnreachable {N : NFA} {p q : Nat} {w : List Nat} (hr : NfaReach N p) :
    Path (nfaRemoveUnreachable N) p w q ↔ Path N p w q := by
  constructor
  · intro h; exact h.mono (fun e he => ((mem_nfaRemoveUnreachable_trans N e).mp he).1)
  · intro h
    refine (Path.restrict (NfaReach N) ?_ h hr).1
    intro p a q he hp
    exact ⟨(mem_nfaRemoveUnreachable_trans N _).mpr ⟨he, hp⟩, hp.step he⟩

theorem nfaCoReach_unreach {N : NFA} {q : Nat} :
    NfaCoReach (nfaRemoveUnreachable N) q ↔ NfaReach N q ∧ NfaCoReach N q := by
  constructor
  · rintro ⟨f, hf, w, hp⟩
    obtain ⟨hf1, hf2⟩ := (mem_nfaRemoveUnreachable_final N f).mp hf
    have hpN : Path N q w f := hp.mono (fun e he => ((mem_nfaRemoveUnreachable_trans N e).mp he).1)
    refine ⟨?_, f, hf1, w, hpN⟩
    cases hp with
    | nil => exact hf2
    | cons he _ => exact ((mem_nfaRemoveUnreachable_trans N _).mp he).2
  · rintro ⟨hr, f, hf, w, hp⟩
    exact ⟨f, (mem_nfaRemoveUnreachable_final N f).mpr ⟨hf, hr.path hp⟩, w, (path_nfaRemoveUnreachable hr).mpr hp⟩

theorem mem_nfaRemoveUseless_trans (N : NFA) (p a q : Nat) :
    (p, a, q) ∈ (nfaRemoveUseless N).trans ↔ (p, a, q) ∈ N.trans ∧ NfaReach N p ∧ NfaCoReach N q := by
  rw [nfaRemoveUseless, mem_nfaReverse_trans, mem_nfaRemoveUnreachable_trans, mem_nfaReverse_trans,
    mem_nfaRemoveUnreachable_trans]
  show _ ∧ NfaReach (nfaReverse (nfaRemoveUnreachable N)) q ↔ _
  rw [nfaReach_reverse, nfaCoReach_unreach]
  constructor
  · rintro ⟨⟨he, hp⟩, _, hq⟩; exact ⟨he, hp, hq⟩
  · rintro ⟨he, hp, hq⟩; exact ⟨⟨he, hp⟩, NfaReach.step hp he, hq⟩

theorem nfaReverse_start (M : NFA) : (nfaReverse M).start = M.final := rfl
theorem nfaReverse_final (M : NFA) : (nfaReverse M).final = M.start := rfl

theorem mem_nfaRemoveUseless_start (N : NFA) (s : Nat) :
    s ∈ (nfaRemoveUseless N).start ↔ s ∈ N.start ∧ NfaCoReach N s := by
  rw [nfaRemoveUseless, nfaReverse_start, mem_nfaRemoveUnreachable_final, nfaReverse_final, nfaRemoveUnreachable_start]
  refine (and_congr_right fun _ => nfaReach_reverse.trans nfaCoReach_unreach).trans ?_
  exact ⟨fun ⟨hs, _, hc⟩ => ⟨hs, hc⟩, fun ⟨hs, hc⟩ => ⟨hs, NfaReach.of_start hs, hc⟩⟩

theorem mem_nfaRemoveUseless_final (N : NFA) (f : Nat) :
    f ∈ (nfaRemoveUseless N).final ↔ f ∈ N.final ∧ NfaReach N f := by
  rw [nfaRemoveUseless, nfaReverse_final, nfaRemoveUnreachable_start, nfaReverse_start]
  exact mem_nfaRemoveUnreachable_final N f

theorem path_nfaRemoveUseless {N : NFA} {p q : Nat} {w : List Nat} (hp : Path N p w q) :
    NfaReach N p → NfaCoReach N q → Path (nfaRemoveUseless N) p w q := by
  induction hp with
  | nil q => intro _ _; exact .nil q
  | cons he hp' ih =>
    intro hr hc
    exact .cons ((mem_nfaRemoveUseless_trans N _ _ _).mpr ⟨he, hr, hc.path hp'⟩) (ih (hr.step he) hc)

theorem nfaRemoveUseless_states_useful (N : NFA) (q : Nat) (hq : q ∈ nfaStates (nfaRemoveUseless N)) :
    NfaReach N q ∧ NfaCoReach N q := by
  rcases mem_nfaStates.mp hq with h | h | ⟨⟨p, a, r⟩, he, h⟩
  · obtain ⟨h1, h2⟩ := (mem_nfaRemoveUseless_start N q).mp h
    exact ⟨NfaReach.of_start h1, h2⟩
  · obtain ⟨h1, h2⟩ := (mem_nfaRemoveUseless_final N q).mp h
    exact ⟨h2, NfaCoReach.of_final h1⟩
  · obtain ⟨h1, h2, h3⟩ := (mem_nfaRemoveUseless_trans N p a r).mp he
    rcases h with h | h
    · rw [h]; exact ⟨h2, h3.step h1⟩
    · rw [h]; exact ⟨h2.step h1, h3⟩

/-- the result of `RemoveUselessStates` is trim: each of its states lies on an accepting path of the result -/
theorem nfaRemoveUseless_trim (N : NFA) (q : Nat) (hq : q ∈ nfaStates (nfaRemoveUseless N)) :
    NfaReach (nfaRemoveUseless N) q ∧ NfaCoReach (nfaRemoveUseless N) q := by
  obtain ⟨hr, hc⟩ := nfaRemoveUseless_states_useful N q hq
  constructor
  · obtain ⟨s, hs, u, hu⟩ := hr
    exact ⟨s, (mem_nfaRemoveUseless_start N s).mpr ⟨hs, hc.path hu⟩, u,
      path_nfaRemoveUseless hu (NfaReach.of_start hs) hc⟩
  · obtain ⟨f, hf, v, hv⟩ := hc
    exact ⟨f, (mem_nfaRemoveUseless_final N f).mpr ⟨hf, hr.path hv⟩, v,
      path_nfaRemoveUseless hv hr (NfaCoReach.of_final hf)⟩


def NfaPairInjOn (m : Nat × Nat → Nat) (D : List (Nat × Nat)) : Prop :=
  ∀ p, p ∈ D → ∀ p', p' ∈ D → m p = m p' → p = p'

def NfaPairClosed (A B : NFA) (D : List (Nat × Nat)) : Prop :=
  ∀ p, p ∈ D → ∀ (a : Nat) (q : Nat × Nat), (p.1, a, q.1) ∈ A.trans → (p.2, a, q.2) ∈ B.trans → q ∈ D

theorem mem_nfaStartPairs {A B : NFA} {p : Nat × Nat} :
    p ∈ nfaStartPairs A B ↔ p.1 ∈ A.start ∧ p.2 ∈ B.start := by
  simp only [nfaStartPairs, List.mem_flatMap, List.mem_map]
  constructor
  · rintro ⟨a, ha, b, hb, rfl⟩; exact ⟨ha, hb⟩
  · rintro ⟨ha, hb⟩; exact ⟨p.1, ha, p.2, hb, rfl⟩

theorem mem_nfaJoint {A B : NFA} {p : Nat × Nat} {x : Nat × (Nat × Nat)} :
    x ∈ nfaJoint A B p ↔ (p.1, x.1, x.2.1) ∈ A.trans ∧ (p.2, x.1, x.2.2) ∈ B.trans := by
  simp only [nfaJoint, List.mem_flatMap, List.mem_map, List.mem_filter, Bool.and_eq_true, beq_iff_eq]
  constructor
  · rintro ⟨⟨p1, a, q1⟩, ⟨he, h1⟩, ⟨p2, b, q2⟩, ⟨he', h2, h3⟩, rfl⟩
    simp only at h1 h2 h3
    subst h1; subst h2; subst h3
    exact ⟨he, he'⟩
  · rintro ⟨h1, h2⟩
    exact ⟨(p.1, x.1, x.2.1), ⟨h1, rfl⟩, (p.2, x.1, x.2.2), ⟨h2, rfl, rfl⟩, rfl⟩

theorem mem_nfaProdOn_trans {A B : NFA} {D : List (Nat × Nat)} {m : Nat × Nat → Nat} {x a y : Nat} :
    (x, a, y) ∈ (nfaProdOn A B D m).trans ↔
      ∃ p, p ∈ D ∧ ∃ q : Nat × Nat, (p.1, a, q.1) ∈ A.trans ∧ (p.2, a, q.2) ∈ B.trans ∧ x = m p ∧ y = m q := by
  simp only [nfaProdOn, List.mem_flatMap, List.mem_map, mem_nfaJoint]
  constructor
  · rintro ⟨p, hp, ⟨b, q⟩, ⟨h1, h2⟩, heq⟩
    simp only [Prod.mk.injEq] at heq
    obtain ⟨e1, e2, e3⟩ := heq
    simp only at h1 h2 e2
    subst e2
    exact ⟨p, hp, q, h1, h2, e1.symm, e3.symm⟩
  · rintro ⟨p, hp, q, h1, h2, rfl, rfl⟩
    exact ⟨p, hp, (a, q), ⟨h1, h2⟩, rfl⟩

theorem mem_nfaProdOn_final {A B : NFA} {D : List (Nat × Nat)} {m : Nat × Nat → Nat} {y : Nat} :
    y ∈ (nfaProdOn A B D m).final ↔ ∃ p, p ∈ D ∧ p.1 ∈ A.final ∧ p.2 ∈ B.final ∧ y = m p := by
  simp only [nfaProdOn, List.mem_map, List.mem_filter, Bool.and_eq_true, List.contains_iff_mem]
  constructor
  · rintro ⟨p, ⟨hp, h1, h2⟩, rfl⟩; exact ⟨p, hp, h1, h2, rfl⟩
  · rintro ⟨p, hp, h1, h2, rfl⟩; exact ⟨p, ⟨hp, h1, h2⟩, rfl⟩

theorem path_nfaProdOn_proj {A B : NFA} {D : List (Nat × Nat)} {m : Nat × Nat → Nat}
    (hc : NfaPairClosed A B D) (hinj : NfaPairInjOn m D) {x y : Nat} {w : List Nat}
    (hp : Path (nfaProdOn A B D m) x w y) :
    ∀ p, p ∈ D → x = m p → ∃ q, q ∈ D ∧ y = m q ∧ Path A p.1 w q.1 ∧ Path B p.2 w q.2 := by
  induction hp with
  | nil x => intro p hp hx; exact ⟨p, hp, hx, .nil _, .nil _⟩
  | cons he _ ih =>
    intro p hp hx
    obtain ⟨p0, hp0, r, h1, h2, e1, e2⟩ := mem_nfaProdOn_trans.mp he
    have : p0 = p := hinj p0 hp0 p hp (e1.symm.trans hx)
    rw [this] at h1 h2
    obtain ⟨q, hq, hy, hA, hB⟩ := ih r (hc p hp _ r h1 h2) e2
    exact ⟨q, hq, hy, .cons h1 hA, .cons h2 hB⟩

theorem path_nfaProdOn_pair {A B : NFA} {D : List (Nat × Nat)} {m : Nat × Nat → Nat}
    (hc : NfaPairClosed A B D) : ∀ (w : List Nat) (p1 p2 q1 q2 : Nat), (p1, p2) ∈ D →
      Path A p1 w q1 → Path B p2 w q2 → Path (nfaProdOn A B D m) (m (p1, p2)) w (m (q1, q2)) ∧ (q1, q2) ∈ D := by
  intro w
  induction w with
  | nil =>
    intro p1 p2 q1 q2 hp hA hB
    cases hA; cases hB
    exact ⟨.nil _, hp⟩
  | cons a w ih =>
    intro p1 p2 q1 q2 hp hA hB
    cases hA with
    | cons h1 hA' =>
      cases hB with
      | cons h2 hB' =>
        rename_i r1 r2
        have hr : (r1, r2) ∈ D := hc (p1, p2) hp a (r1, r2) h1 h2
        obtain ⟨h3, h4⟩ := ih r1 r2 q1 q2 hr hA' hB'
        exact ⟨.cons (mem_nfaProdOn_trans.mpr ⟨(p1, p2), hp, (r1, r2), h1, h2, rfl, rfl⟩) h3, h4⟩

theorem nfaProd_cert (A B : NFA) (D : List (Nat × Nat)) (m : Nat × Nat → Nat) (w : List Nat)
    (hstart : ∀ p, p ∈ nfaStartPairs A B → p ∈ D) (hc : NfaPairClosed A B D) (hinj : NfaPairInjOn m D) :
    acceptsW (nfaProdOn A B D m) w = (acceptsW A w && acceptsW B w) := by
  rw [Bool.eq_iff_iff, Bool.and_eq_true, acceptsW_iff, acceptsW_iff, acceptsW_iff]
  constructor
  · rintro ⟨x, hx, y, hy, hp⟩
    obtain ⟨p, hp0, rfl⟩ := List.mem_map.mp hx
    obtain ⟨q, hq, hyq, hA, hB⟩ := path_nfaProdOn_proj hc hinj hp p (hstart p hp0) rfl
    obtain ⟨q', hq', hf1, hf2, hyq'⟩ := mem_nfaProdOn_final.mp hy
    have : q' = q := hinj q' hq' q hq (hyq'.symm.trans hyq)
    rw [this] at hf1 hf2
    obtain ⟨hs1, hs2⟩ := mem_nfaStartPairs.mp hp0
    exact ⟨⟨p.1, hs1, q.1, hf1, hA⟩, ⟨p.2, hs2, q.2, hf2, hB⟩⟩
  · rintro ⟨⟨s1, hs1, q1, hf1, hA⟩, ⟨s2, hs2, q2, hf2, hB⟩⟩
    have hp0 : (s1, s2) ∈ nfaStartPairs A B := mem_nfaStartPairs.mpr ⟨hs1, hs2⟩
    obtain ⟨h1, h2⟩ := path_nfaProdOn_pair (m := m) hc w s1 s2 q1 q2 (hstart _ hp0) hA hB
    exact ⟨m (s1, s2), List.mem_map.mpr ⟨_, hp0, rfl⟩, m (q1, q2),
      mem_nfaProdOn_final.mpr ⟨_, h2, hf1, hf2, rfl⟩, h1⟩

theorem nfaProdCertB_sound {A B : NFA} {D : List (Nat × Nat)} {m : Nat × Nat → Nat}
    (h : nfaProdCertB A B D m = true) :
    (∀ p, p ∈ nfaStartPairs A B → p ∈ D) ∧ NfaPairClosed A B D ∧ NfaPairInjOn m D := by
  simp only [nfaProdCertB, Bool.and_eq_true, List.all_eq_true, List.contains_iff_mem, Bool.or_eq_true,
    bne_iff_ne, beq_iff_eq] at h
  obtain ⟨⟨h1, h2⟩, h3⟩ := h
  refine ⟨h1, ?_, ?_⟩
  · intro p hp a q hA hB
    exact h2 p hp (a, q) (mem_nfaJoint.mpr ⟨hA, hB⟩)
  · intro p hp p' hp' he
    rcases h3 p hp p' hp' with h | h
    · exact (h he).elim
    · exact h

theorem nfaProdCertB_lang {A B : NFA} {D : List (Nat × Nat)} {m : Nat × Nat → Nat}
    (h : nfaProdCertB A B D m = true) (w : List Nat) :
    acceptsW (nfaProdOn A B D m) w = (acceptsW A w && acceptsW B w) := by
  obtain ⟨h1, h2, h3⟩ := nfaProdCertB_sound h
  exact nfaProd_cert A B D m w h1 h2 h3

/-- non-vacuity: `A` = words over {7,8} ending in 8, `B` = words of even length; three reachable pairs -/
example : nfaProdCertB ⟨[0], [1], [(0, 7, 0), (0, 8, 0), (0, 8, 1)]⟩ ⟨[0], [0], [(0, 7, 1), (0, 8, 1), (1, 7, 0), (1, 8, 0)]⟩
      [(0, 0), (0, 1), (1, 1), (1, 0)] (fun p => 2 * p.1 + p.2) = true ∧
    acceptsW (nfaProdOn ⟨[0], [1], [(0, 7, 0), (0, 8, 0), (0, 8, 1)]⟩ ⟨[0], [0], [(0, 7, 1), (0, 8, 1), (1, 7, 0), (1, 8, 0)]⟩
      [(0, 0), (0, 1), (1, 1), (1, 0)] (fun p => 2 * p.1 + p.2)) [7, 8] = true := by decide +kernel


theorem mem_nfaPairSucc {A B : NFA} {D : List (Nat × Nat)} {q : Nat × Nat} :
    q ∈ nfaPairSucc A B D ↔ ∃ p, p ∈ D ∧ ∃ a, (p.1, a, q.1) ∈ A.trans ∧ (p.2, a, q.2) ∈ B.trans := by
  simp only [nfaPairSucc, List.mem_flatMap, List.mem_map]
  constructor
  · rintro ⟨p, hp, x, hx, rfl⟩
    exact ⟨p, hp, x.1, mem_nfaJoint.mp hx⟩
  · rintro ⟨p, hp, a, h1, h2⟩
    exact ⟨p, hp, (a, q), mem_nfaJoint.mpr ⟨h1, h2⟩, rfl⟩

theorem nfaPairClosedB_iff {A B : NFA} {D : List (Nat × Nat)} :
    nfaPairClosedB A B D = true ↔ NfaPairClosed A B D := by
  simp only [nfaPairClosedB, List.all_eq_true, List.contains_iff_mem, mem_nfaPairSucc, NfaPairClosed]
  constructor
  · intro h p hp a q hA hB; exact h q ⟨p, hp, a, hA, hB⟩
  · rintro h q ⟨p, hp, a, hA, hB⟩; exact h p hp a q hA hB

theorem sub_nfaPairIter (A B : NFA) (n : Nat) (D : List (Nat × Nat)) (x : Nat × Nat) (h : x ∈ D) :
    x ∈ nfaPairIter A B n D :=
  Rounds.inv (iter := nfaPairIter A B) (stop := nfaPairClosedB A B) (fun S => x ∈ S)
    (fun _ h => List.mem_append_left _ h) _ _ h

theorem nfaIntersection_lang (A B : NFA) (fuel : Nat) (P : NFA) (h : nfaIntersection A B fuel = some P)
    (w : List Nat) : acceptsW P w = (acceptsW A w && acceptsW B w) := by
  simp only [nfaIntersection] at h
  split at h
  · rename_i hc
    obtain rfl := Option.some.inj h
    rw [nfaRemoveUseless_lang]
    apply nfaProd_cert
    · intro p hp
      exact sub_nfaPairIter A B _ _ p (List.mem_eraseDups.mpr hp)
    · exact nfaPairClosedB_iff.mp hc
    · intro p hp q _ he
      exact idxOf_inj hp he
  · cases h

example : ((nfaIntersection ⟨[0], [1], [(0, 7, 0), (0, 8, 0), (0, 8, 1)]⟩
      ⟨[0], [0], [(0, 7, 1), (0, 8, 1), (1, 7, 0), (1, 8, 0)]⟩ 5).map (fun P => (acceptsW P [7, 8], acceptsW P [8])))
    = some (true, false) := by decide +kernel

theorem mem_nfaJointAll {A B : NFA} {p : Nat × Nat} {a : Nat} {q : Nat × Nat} :
    (p, a, q) ∈ nfaJointAll A B ↔ (p.1, a, q.1) ∈ A.trans ∧ (p.2, a, q.2) ∈ B.trans := by
  simp only [nfaJointAll, List.mem_flatMap, List.mem_map, List.mem_filter, beq_iff_eq]
  constructor
  · rintro ⟨⟨p1, a1, q1⟩, he, ⟨p2, a2, q2⟩, ⟨he', h1⟩, heq⟩
    simp only [Prod.mk.injEq] at heq h1
    obtain ⟨e1, e2, e3⟩ := heq
    subst e1; subst e2; subst e3; subst h1
    exact ⟨he, he'⟩
  · rintro ⟨h1, h2⟩
    exact ⟨(p.1, a, q.1), h1, (p.2, a, q.2), ⟨h2, rfl⟩, rfl⟩

namespace NfaC

/-- the set of pairs the relation-level model `nfaIsect` explores -/
def nfaIsectPairs (A B : NFA) : List (Nat × Nat) :=
  nfaPairIter A B (nfaJointAll A B).length (nfaStartPairs A B).eraseDups

theorem nfaIsectPairs_start (A B : NFA) (p : Nat × Nat) (hp : p ∈ nfaStartPairs A B) : p ∈ nfaIsectPairs A B :=
  sub_nfaPairIter A B _ _ p (List.mem_eraseDups.mpr hp)

/-- the number of rounds always suffices: every new pair is the target of a joint transition -/
theorem nfaIsectPairs_closedB (A B : NFA) : nfaPairClosedB A B (nfaIsectPairs A B) = true :=
  Rounds.stops (iter := nfaPairIter A B) (next := fun D => D ++ ((nfaPairSucc A B D).filter (fun q => !D.contains q)).eraseDups)
    (unseen ((nfaJointAll A B).map (·.2.2)))
    (fun _ => unseen_grow_lt fun q hq => (mem_nfaPairSucc.mp hq).elim fun p ⟨_, a, h⟩ =>
      List.mem_map.mpr ⟨(p, a, q), mem_nfaJointAll.mpr h, rfl⟩) _ _
    (Nat.le_trans (unseen_le_length _ _) (Nat.le_of_eq (List.length_map _)))

theorem nfaIsectPairs_closed (A B : NFA) : NfaPairClosed A B (nfaIsectPairs A B) :=
  nfaPairClosedB_iff.mp (nfaIsectPairs_closedB A B)

/-- … and lie in every set that holds the start pairs and is closed under joint transitions -/
theorem nfaIsectPairs_least (A B : NFA) (T : Nat × Nat → Prop) (hs : ∀ p, p ∈ nfaStartPairs A B → T p)
    (hc : ∀ p, T p → ∀ (a : Nat) (q : Nat × Nat), (p.1, a, q.1) ∈ A.trans → (p.2, a, q.2) ∈ B.trans → T q) :
    ∀ p, p ∈ nfaIsectPairs A B → T p :=
  Rounds.inv (iter := nfaPairIter A B) (stop := nfaPairClosedB A B) (fun S => ∀ p, p ∈ S → T p)
    (fun S h q hq => (mem_grow.mp hq).elim (h q) fun hq =>
      (mem_nfaPairSucc.mp hq).elim fun p ⟨hp, a, hA, hB⟩ => hc p (h p hp) a q hA hB)
    _ _ fun p hp => hs p (List.mem_eraseDups.mp hp)

/-- with that many rounds `Intersection` answers: the trimmed product on `nfaIsectPairs`, numbered by position -/
theorem nfaIntersection_full (A B : NFA) : nfaIntersection A B (nfaJointAll A B).length =
    some (nfaRemoveUseless (nfaProdOn A B (nfaIsectPairs A B) (fun p => (nfaIsectPairs A B).idxOf p))) :=
  if_pos (nfaIsectPairs_closedB A B)

theorem nfaIsect_eq (A B : NFA) :
    nfaIsect A B = nfaRemoveUseless (nfaProdOn A B (nfaIsectPairs A B) (fun p => (nfaIsectPairs A B).idxOf p)) := by
  rw [nfaIsect, nfaIntersection_full]; rfl

end NfaC

theorem nfaIsect_lang (A B : NFA) (w : List Nat) : acceptsW (nfaIsect A B) w = (acceptsW A w && acceptsW B w) := by
  rw [NfaC.nfaIsect_eq, nfaRemoveUseless_lang]
  exact nfaProd_cert A B _ _ w (NfaC.nfaIsectPairs_start A B) (NfaC.nfaIsectPairs_closed A B)
    fun p hp q _ he => idxOf_inj hp he

example : acceptsW (nfaIsect ⟨[0], [1], [(0, 7, 0), (0, 8, 0), (0, 8, 1)]⟩
      ⟨[0], [0], [(0, 7, 1), (0, 8, 1), (1, 7, 0), (1, 8, 0)]⟩) [7, 8] = true ∧
    (nfaIsect ⟨[0], [1], [(0, 7, 0), (0, 8, 0), (0, 8, 1)]⟩
      ⟨[0], [0], [(0, 7, 1), (0, 8, 1), (1, 7, 0), (1, 8, 0)]⟩).trans.length = 5 := by decide +kernel


def NfaSub (R N : NFA) : Prop :=
  (∀ q, q ∈ R.start → q ∈ N.start) ∧ (∀ q, q ∈ R.final → q ∈ N.final) ∧ (∀ e, e ∈ R.trans → e ∈ N.trans)

theorem NfaSub.lang {R N : NFA} (h : NfaSub R N) (w : List Nat) : acceptsW R w = true → acceptsW N w = true :=
  sub_nfa_sub_lang R N w h.1 h.2.1 h.2.2

theorem NfaSub.refl (N : NFA) : NfaSub N N := ⟨fun _ h => h, fun _ h => h, fun _ h => h⟩

/-- below `N`, and the one final state is reached from a start state: a sub-automaton that accepts a word -/
theorem NfaSub.of_path {R N : NFA} {s x : Nat} {w : List Nat} (hst : ∀ q, q ∈ R.start → q ∈ N.start)
    (hfin : R.final = [x]) (hx : x ∈ N.final) (htr : ∀ e, e ∈ R.trans → e ∈ N.trans) (hs : s ∈ R.start)
    (hp : Path R s w x) : NfaSub R N ∧ ∃ w, acceptsW R w = true := by
  refine ⟨⟨hst, fun q hq => ?_, htr⟩, w, (acceptsW_iff _ _).mpr ⟨s, hs, x, hfin ▸ List.mem_singleton.mpr rfl, hp⟩⟩
  rw [hfin, List.mem_singleton] at hq
  exact hq ▸ hx

namespace NfaC

def NfaSetEq (R N : NFA) : Prop :=
  (∀ q, q ∈ R.start ↔ q ∈ N.start) ∧ (∀ q, q ∈ R.final ↔ q ∈ N.final) ∧ (∀ e, e ∈ R.trans ↔ e ∈ N.trans)

theorem NfaSetEq.refl (N : NFA) : NfaSetEq N N := ⟨fun _ => Iff.rfl, fun _ => Iff.rfl, fun _ => Iff.rfl⟩
theorem NfaSetEq.symm {R N : NFA} (h : NfaSetEq R N) : NfaSetEq N R :=
  ⟨fun q => (h.1 q).symm, fun q => (h.2.1 q).symm, fun e => (h.2.2 e).symm⟩
theorem NfaSetEq.trans {R M N : NFA} (h : NfaSetEq R M) (h' : NfaSetEq M N) : NfaSetEq R N :=
  ⟨fun q => (h.1 q).trans (h'.1 q), fun q => (h.2.1 q).trans (h'.2.1 q), fun e => (h.2.2 e).trans (h'.2.2 e)⟩

theorem NfaSetEq.sub {R N : NFA} (h : NfaSetEq R N) : NfaSub R N :=
  ⟨fun q => (h.1 q).mp, fun q => (h.2.1 q).mp, fun e => (h.2.2 e).mp⟩

theorem NfaSetEq.lang {R N : NFA} (h : NfaSetEq R N) (w : List Nat) : acceptsW R w = acceptsW N w := by
  rw [Bool.eq_iff_iff]
  exact ⟨h.sub.lang w, h.symm.sub.lang w⟩

end NfaC

theorem mem_cand_cl {N : NFA} {act : Nat} {e : Nat × Nat × Nat} :
    e ∈ N.trans.filter (fun e => e.1 == act) ↔ e ∈ N.trans ∧ e.1 = act := by
  simp only [List.mem_filter, beq_iff_eq]

theorem mem_cand_tg {N : NFA} {act q : Nat} :
    q ∈ (N.trans.filter (fun e => e.1 == act)).map (·.2.2) ↔ ∃ a, (act, a, q) ∈ N.trans := by
  simp only [List.mem_map, mem_cand_cl]
  constructor
  · rintro ⟨⟨p, a, r⟩, ⟨he, h1⟩, h2⟩
    simp only at h1 h2
    subst h1; subst h2
    exact ⟨a, he⟩
  · rintro ⟨a, he⟩; exact ⟨(act, a, q), ⟨he, rfl⟩, rfl⟩

/-- the invariant of the breadth-first search for a final state: it is the reachability loop of `Vata/Proofs/Closure.lean`
(`sat`: every seen state is reachable, and a seen state off the queue has all its targets seen) that has met no final state
yet; `hreach` is reachability INSIDE the transitions copied so far, which the word of the witness needs -/
structure CandInv (N : NFA) (queue seen : List Nat) (T : List (Nat × Nat × Nat)) : Prop where
  hT : ∀ e, e ∈ T → e ∈ N.trans
  hq : ∀ q, q ∈ queue → q ∈ seen
  hnf : ∀ q, q ∈ seen → q ∉ N.final
  hreach : ∀ q, q ∈ seen → ∃ s, s ∈ N.start ∧ ∃ w, Path ⟨[], [], T⟩ s w q
  sat : Closure.Sat (Closure.reachC (· ∈ N.start) (NfaC.nfaE N)) (NfaReach N) seen queue

theorem CandInv.init {N : NFA} {queue seen : List Nat} (hs : ∀ q, q ∈ seen ↔ q ∈ N.start)
    (hq : ∀ q, q ∈ queue ↔ q ∈ seen) (hnf : ∀ q, q ∈ seen → q ∉ N.final) : CandInv N queue seen [] :=
  ⟨fun _ h => (nomatch h), fun q => (hq q).mp, hnf, fun q h => ⟨q, (hs q).mp h, [], .nil q⟩,
    Closure.sat_init (fun c => (hs c).symm) (fun _ => NfaReach.of_start) fun q => (hq q).mpr⟩

/-- the head of the queue is expanded: its transitions are copied, its targets `l` (none of them final) are seen, those that
are new are queued – in whatever order -/
theorem CandInv.expand {N : NFA} {act : Nat} {queue seen queue' seen' l : List Nat} {T T' : List (Nat × Nat × Nat)}
    (inv : CandInv N (act :: queue) seen T) (hl : ∀ q, q ∈ l ↔ NfaC.nfaE N act q) (hnf : ∀ q, q ∈ l → q ∉ N.final)
    (hs : ∀ q, q ∈ seen' ↔ q ∈ seen ∨ q ∈ l) (hq : ∀ q, q ∈ queue' ↔ q ∈ queue ∨ (q ∈ l ∧ q ∉ seen))
    (hT : ∀ e, e ∈ T' ↔ e ∈ T ∨ (e ∈ N.trans ∧ e.1 = act)) : CandInv N queue' seen' T' := by
  have hact := inv.hq act List.mem_cons_self
  have hmono : ∀ e, e ∈ T → e ∈ T' := fun e h => (hT e).mpr (Or.inl h)
  refine ⟨fun e he => ((hT e).mp he).elim (inv.hT e) And.left, fun q h => ?_, fun q h => ?_, fun q h => ?_,
    inv.sat.pop_mem (NfaC.lfp_nfaReach N) hact hl hs hq⟩
  · exact (hs q).mpr (((hq q).mp h).imp (fun h => inv.hq q (List.mem_cons_of_mem _ h)) And.left)
  · exact ((hs q).mp h).elim (inv.hnf q) (hnf q)
  · rcases (hs q).mp h with h | h
    · obtain ⟨s, hs', w, hp⟩ := inv.hreach q h
      exact ⟨s, hs', w, hp.mono hmono⟩
    · obtain ⟨a, he⟩ := (hl q).mp h
      obtain ⟨s, hs', w, hp⟩ := inv.hreach act hact
      exact ⟨s, hs', w ++ [a], (hp.mono hmono).snoc ((hT _).mpr (Or.inr ⟨he, rfl⟩))⟩

/-- the search does not run dry when some word is accepted: the final state of that word would have been seen -/
theorem CandInv.not_accepts {N : NFA} {seen : List Nat} {T : List (Nat × Nat × Nat)} (inv : CandInv N [] seen T)
    (w : List Nat) : ¬ acceptsW N w = true := fun hw => by
  obtain ⟨s, hs, q, hq, hp⟩ := (acceptsW_iff N w).mp hw
  exact inv.hnf q ((inv.sat.exact (NfaC.lfp_nfaReach N) q).mpr ⟨s, hs, w, hp⟩) hq

/-- the search returns a sub-automaton of the input that accepts a word whenever the input does -/
theorem nfaCandLoop_spec (N : NFA) : ∀ (n : Nat) (queue seen : List Nat) (T : List (Nat × Nat × Nat)),
    CandInv N queue seen T → NfaSub (nfaCandLoop N n queue seen T) N ∧
      ((∃ w, acceptsW N w = true) → ∃ w, acceptsW (nfaCandLoop N n queue seen T) w = true) := by
  intro n
  induction n with
  | zero => exact fun _ _ _ _ => ⟨NfaSub.refl N, id⟩
  | succ n ih =>
    intro queue seen T inv
    cases queue with
    | nil =>
      exact ⟨⟨fun _ h => h, fun _ h => (nomatch h), inv.hT⟩, fun hne => absurd hne.choose_spec (inv.not_accepts _)⟩
    | cons act queue =>
      simp only [nfaCandLoop]
      split
      · rename_i f hf
        obtain ⟨a, he⟩ := mem_cand_tg.mp (List.mem_of_find?_eq_some hf)
        obtain ⟨s, hs, w, hp⟩ := inv.hreach act (inv.hq act List.mem_cons_self)
        exact And.imp_right (fun h _ => h) (NfaSub.of_path (fun _ h => h) rfl (List.contains_iff_mem.mp (List.find?_some hf))
          (fun e he => (List.mem_append.mp he).elim (inv.hT e) fun h => (mem_cand_cl.mp h).1) hs
          ((hp.mono fun e he => List.mem_append_left _ he).snoc (List.mem_append_right _ (mem_cand_cl.mpr ⟨he, rfl⟩))))
      · rename_i hnone
        rw [List.find?_eq_none] at hnone
        have hnew : ∀ q, q ∈ (((N.trans.filter (fun e => e.1 == act)).map (·.2.2)).filter
            (fun q => !seen.contains q)).eraseDups ↔
              q ∈ (N.trans.filter (fun e => e.1 == act)).map (·.2.2) ∧ q ∉ seen := fun q => by
          rw [List.mem_eraseDups, List.mem_filter, Bool.not_eq_true', ← Bool.not_eq_true, List.contains_iff_mem]
        exact ih _ _ _ (inv.expand (fun q => mem_cand_tg) (fun q hq hf => hnone q hq (List.contains_iff_mem.mpr hf))
          (fun q => mem_grow) (fun q => by rw [List.mem_append, hnew]) (fun e => by rw [List.mem_append, mem_cand_cl]))

theorem nfaCandidateRaw_spec (N : NFA) : NfaSub (nfaCandidateRaw N) N ∧
    ((∃ w, acceptsW N w = true) → ∃ w, acceptsW (nfaCandidateRaw N) w = true) := by
  unfold nfaCandidateRaw
  split
  · rename_i s hs
    have hss : s ∈ N.start := List.mem_of_find?_eq_some hs
    refine ⟨⟨fun q hq => ?_, fun q hq => ?_, fun _ h => nomatch h⟩,
      fun _ => ⟨[], (acceptsW_iff _ _).mpr ⟨s, ?_, s, List.mem_singleton.mpr rfl, .nil s⟩⟩⟩
    · rcases List.mem_append.mp hq with h | h
      · exact (List.takeWhile_sublist _).subset h
      · rw [List.mem_singleton.mp h]; exact hss
    · rw [List.mem_singleton.mp hq]; exact List.contains_iff_mem.mp (List.find?_some hs)
    · exact List.mem_append_right _ (List.mem_singleton.mpr rfl)
  · rename_i hnone
    rw [List.find?_eq_none] at hnone
    exact nfaCandLoop_spec N _ _ _ _ (CandInv.init (fun _ => List.mem_eraseDups) (fun _ => Iff.rfl)
      fun q hq hf => hnone q (List.mem_eraseDups.mp hq) (List.contains_iff_mem.mpr hf))

theorem nfaCandidateRaw_sub (N : NFA) : NfaSub (nfaCandidateRaw N) N := (nfaCandidateRaw_spec N).1

theorem nfaCandidate_sub_lang (N : NFA) (w : List Nat) :
    acceptsW (nfaCandidate N) w = true → acceptsW N w = true := by
  rw [nfaCandidate, nfaRemoveUseless_lang]
  exact (nfaCandidateRaw_sub N).lang w

theorem nfaCandidate_nonempty_iff (N : NFA) :
    (∃ w, acceptsW (nfaCandidate N) w = true) ↔ ∃ w, acceptsW N w = true := by
  constructor
  · rintro ⟨w, hw⟩; exact ⟨w, nfaCandidate_sub_lang N w hw⟩
  · intro hne
    obtain ⟨w, hw⟩ := (nfaCandidateRaw_spec N).2 hne
    exact ⟨w, by rw [nfaCandidate, nfaRemoveUseless_lang]; exact hw⟩

/-- non-vacuity: the search stops at the first final state found (2), the branch to 3 is dropped -/
example : (nfaCandidate ⟨[0], [2, 4], [(0, 7, 1), (1, 8, 2), (1, 9, 3), (3, 7, 4)]⟩).trans = [(0, 7, 1), (1, 8, 2)] ∧
    acceptsW (nfaCandidate ⟨[0], [2, 4], [(0, 7, 1), (1, 8, 2), (1, 9, 3), (3, 7, 4)]⟩) [7, 8] = true ∧
    acceptsW ⟨[0], [2, 4], [(0, 7, 1), (1, 8, 2), (1, 9, 3), (3, 7, 4)]⟩ [7, 9, 7] = true ∧
    acceptsW (nfaCandidate ⟨[0], [2, 4], [(0, 7, 1), (1, 8, 2), (1, 9, 3), (3, 7, 4)]⟩) [7, 9, 7] = false := by decide +kernel

end Vata
