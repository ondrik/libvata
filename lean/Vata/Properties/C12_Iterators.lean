import Vata.Proofs.StoreIter
/-!
# C12 / C20 – the iterator protocol of the rule container

Topic file beside `Vata/Properties/C12.lean` and `Vata/Properties/C20.lean`.

`C12.lean` proves what a COMPLETE traversal yields, with the three traversals given as list-valued views of the store
(`Store.iterate`, `Store.acceptTrans`, `Store.down`).  Here the C++ iterator OBJECTS are modelled
(`Vata/StoreIter.lean`): `ExplicitTreeAutCoreUtil::Iterator`, `AcceptTransIterator` and `DownAccessorIterator` as state
machines over a store – `begin()` (`begin`, `acceptBegin`, `downBegin`), `operator++` (`iterStep`, `acceptStep`,
`downStep`, lifted to `Machine.next`), `operator*` (`iterGet`, …, lifted to `Machine.deref`), comparison with `end()`
(the state `.fin`) – mirroring the control flow of the C++, including the places where `operator++`, `init()` and the
constructors take `begin()` of an inner container and dereference it without an emptiness test.  Executing such a step on
an empty container, incrementing a past-the-end inner iterator and incrementing `end()` lead to the state `.stuck`;
`operator*` on a position in an empty tuple set is `none`.

## How the statement is read into the model

* `(M).posAt n` is the iterator object after `n` increments of `begin()`; `Machine.traverse` / `iterAll` / `acceptAll` /
  `downAll` is the loop `for (it = begin(); it != end(); ++it) out.push_back(*it);` with outcome `done out` (reached
  `end()`), `stuck out` (undefined behaviour after `out`) or `more out` (fuel exhausted).
* Histories, the specification `specRun` and the store `run ops` are those of `C12.lean`.
* The order of a traversal is the storage order of the model (insertion order); the real order is the hash order of
  `unordered_map`.  What is proved about order is that the iterator objects follow the storage order of the container
  they walk – `operator*` after `n` increments is the `n`-th element of the list view – not that this order equals the
  real one.
-/
namespace Vata.Props
open Vata.Store

/-! ### `Iterator` (`begin()` … `end()` of the automaton) -/

/-- For every history: the `n`-th increment of `begin()` (`n` below the number of stored rules) is a proper position –
neither `end()` nor stuck – whose `operator*` is the `n`-th rule of the view `iterate`; after exactly `|iterate|`
increments the iterator equals `end()`; and the range-`for` loop terminates normally having yielded `iterate` in order.
Partial traversals are covered by the first clause. -/
theorem C12_iterator_protocol (ops : List Op) :
    (∀ n (hn : n < (iterate (run ops)).length),
      (∃ a, (iterM (run ops)).posAt n = .at a) ∧
      deref (run ops) ((iterM (run ops)).posAt n) = some (iterate (run ops))[n]) ∧
    (iterM (run ops)).posAt (iterate (run ops)).length = .fin ∧
    iterAll (run ops) = .done (iterate (run ops)) :=
  iter_protocol (noEmpty_of_inv (store_inv ops))

example : (List.range 5).map (iterM (run StoreEx.ops1)).posAt =
    [.at (0, 0, 0), .at (0, 0, 1), .at (1, 0, 0), .at (2, 0, 0), .fin] ∧
    iterAll (run StoreEx.ops1) = .done [StoreEx.r1, StoreEx.r2, StoreEx.r3, StoreEx.r4] := by decide +kernel
example : (List.range 5).map (iterM (run IterEx.ops2)).posAt =
    [.at (0, 0, 0), .at (0, 1, 0), .at (0, 1, 1), .at (1, 0, 0), .fin] := by decide +kernel

/-- The loop over the iterator object yields each distinct rule added since the last `Clear` exactly once and nothing
else (the first sentence of C12, now for the iterator protocol instead of the list view). -/
theorem C12_iterator_protocol_yields_exact (ops : List Op) :
    ∃ out, iterAll (run ops) = .done out ∧ out.Nodup ∧ ∀ r, r ∈ out ↔ r ∈ (specRun ops).rules :=
  ⟨_, (iter_protocol (noEmpty_of_inv (store_inv ops))).2.2, (iterate_exact ops).1, (iterate_exact ops).2⟩

example : iterAll (run (StoreEx.ops1 ++ [.clear, .add StoreEx.r4])) = .done [StoreEx.r4] := by decide +kernel

/-- Iterator comparison: two iterators obtained from `begin()` by different numbers of increments (up to and including
`end()`) are different positions, so `it1 == it2` / `it != end()` identify the progress of a traversal. -/
theorem C12_iterator_protocol_comparison (ops : List Op) {n m : Nat} (hn : n ≤ (iterate (run ops)).length)
    (hm : m ≤ (iterate (run ops)).length) (e : (iterM (run ops)).posAt n = (iterM (run ops)).posAt m) : n = m :=
  iter_positions_distinct (store_inv ops) hn hm e

example : (iterM (run StoreEx.ops1)).posAt 1 ≠ (iterM (run StoreEx.ops1)).posAt 2 := by decide +kernel

/-! ### `AcceptTransIterator` (`GetAcceptTrans()`) -/

/-- The same protocol for `AcceptTransIterator` against the view `acceptTrans`: it walks the final states, `find`s the
cluster of each, skips the final states without a cluster, and yields the rules of the found clusters in order. -/
theorem C12_iterator_protocol_acceptTrans (ops : List Op) :
    (∀ n (hn : n < (acceptTrans (run ops)).length),
      (∃ a, (acceptM (run ops)).posAt n = .at a) ∧
      (acceptM (run ops)).deref ((acceptM (run ops)).posAt n) = some (acceptTrans (run ops))[n]) ∧
    (acceptM (run ops)).posAt (acceptTrans (run ops)).length = .fin ∧
    acceptAll (run ops) = .done (acceptTrans (run ops)) :=
  acceptIter_protocol (noEmpty_of_inv (store_inv ops))

/-- final states `[3, 2, 1]`, state 3 has no cluster and is skipped by `init()` -/
example : (List.range 5).map (acceptM (run IterEx.ops2)).posAt =
    [.at (1, 1, 0, 0), .at (2, 0, 0, 0), .at (2, 0, 1, 0), .at (2, 0, 1, 1), .fin] ∧
    acceptAll (run StoreEx.ops1) = .done [StoreEx.r3, StoreEx.r4] := by decide +kernel

/-- The loop over `GetAcceptTrans()` yields exactly the present rules whose parent is final, each once. -/
theorem C12_iterator_protocol_acceptTrans_yields_exact (ops : List Op) :
    ∃ out, acceptAll (run ops) = .done out ∧ out.Nodup ∧
      ∀ r, r ∈ out ↔ r ∈ (specRun ops).rules ∧ r.parent ∈ (specRun ops).final :=
  ⟨_, (acceptIter_protocol (noEmpty_of_inv (store_inv ops))).2.2, (acceptTrans_exact ops).1, (acceptTrans_exact ops).2⟩

example : acceptAll (run (StoreEx.ops1 ++ [.eraseFinal])) = .done [] := by decide +kernel

/-! ### `DownAccessor` / `DownAccessorIterator` (`GetDown(q)`, `operator[]`) -/

/-- The same protocol for `DownAccessorIterator` against the view `down … q`; `DownAccessor::empty()` is the view
`downEmpty`, and it is true exactly when `begin() == end()`, exactly when the accessor yields nothing. -/
theorem C12_iterator_protocol_down (ops : List Op) (q : Nat) :
    ((∀ n (hn : n < (down (run ops) q).length),
        (∃ a, (downM (run ops) q).posAt n = .at a) ∧
        (downM (run ops) q).deref ((downM (run ops) q).posAt n) = some (down (run ops) q)[n]) ∧
      (downM (run ops) q).posAt (down (run ops) q).length = .fin ∧
      downAll (run ops) q = .done (down (run ops) q)) ∧
    (downIterEmpty (run ops) q = downEmpty (run ops) q ∧
      (downIterEmpty (run ops) q = true ↔ downBegin (run ops) q = .fin) ∧
      (downIterEmpty (run ops) q = true ↔ down (run ops) q = [])) :=
  ⟨downIter_protocol (noEmpty_of_inv (store_inv ops)) q, downIter_empty (store_inv ops) q⟩

example : (List.range 4).map (downM (run IterEx.ops2) 1).posAt = [.at (0, 0), .at (1, 0), .at (1, 1), .fin] ∧
    downAll (run StoreEx.ops1) 1 = .done [StoreEx.r1, StoreEx.r2] ∧ downAll (run StoreEx.ops1) 5 = .done [] ∧
    downIterEmpty (run StoreEx.ops1) 5 = true ∧ downIterEmpty (run StoreEx.ops1) 1 = false := by decide +kernel

/-- The loop over `aut[q]` yields exactly the present rules with parent `q`, each once. -/
theorem C12_iterator_protocol_down_yields_exact (ops : List Op) (q : Nat) :
    ∃ out, downAll (run ops) q = .done out ∧ out.Nodup ∧ ∀ r, r ∈ out ↔ r ∈ (specRun ops).rules ∧ r.parent = q :=
  ⟨_, (downIter_protocol (noEmpty_of_inv (store_inv ops)) q).2.2, (down_exact ops q).1, (down_exact ops q).2⟩

/-! ### C20: the unchecked `begin()`s are never taken of an empty container -/

/-- PARTIAL (model-level content of "never dereferences a past-the-end iterator" for the three transition iterators, for
every history of the mutating calls): during a complete traversal – all increments of `begin()` up to and including the
one that reaches `end()` – no step is undefined (no `begin()` of an empty cluster is dereferenced, no past-the-end inner
iterator is incremented, no constructor `assert` fails), and every `operator*` before `end()` dereferences a proper
tuple iterator.  Partial because it is a theorem about the state machines of `Vata/StoreIter.lean` over the value model
of the container; that they transcribe the C++ faithfully, and everything about addresses (iterator invalidation by a
mutating call, comparing a live `std::set` iterator with a value-initialised one as `operator==` does), is outside. -/
theorem C20_iterators_never_dereference_empty_partial (ops : List Op) :
    (∀ n, n ≤ (iterate (run ops)).length →
      (iterM (run ops)).posAt n ≠ .stuck ∧
      (n < (iterate (run ops)).length → (deref (run ops) ((iterM (run ops)).posAt n)).isSome = true)) ∧
    (∀ n, n ≤ (acceptTrans (run ops)).length →
      (acceptM (run ops)).posAt n ≠ .stuck ∧
      (n < (acceptTrans (run ops)).length →
        ((acceptM (run ops)).deref ((acceptM (run ops)).posAt n)).isSome = true)) ∧
    (∀ q n, n ≤ (down (run ops) q).length →
      (downM (run ops) q).posAt n ≠ .stuck ∧
      (n < (down (run ops) q).length →
        ((downM (run ops) q).deref ((downM (run ops) q).posAt n)).isSome = true)) :=
  have hs := noEmpty_of_inv (store_inv ops)
  ⟨iter_safe hs, acceptIter_safe hs, downIter_safe hs⟩

/-- four rules: the increments 0 … 4 are not stuck (the 4th is `end()`); incrementing `end()` is -/
example : (∀ n, n < 5 → (iterM (run StoreEx.ops1)).posAt n ≠ .stuck) ∧
    (iterM (run StoreEx.ops1)).posAt 4 = .fin ∧ (iterM (run StoreEx.ops1)).posAt 5 = .stuck := by decide +kernel

/-- PARTIAL (the hypothesis is needed and is exactly "no empty inner container"): for ANY store value – not only those
produced by histories – the loop over `Iterator` completes without undefined behaviour if and only if no cluster and no
tuple set is empty; the three concrete stores `bad1` (empty first cluster), `bad2` (an empty tuple set), `bad3` (an empty
later cluster) violate the invariant and make the state machines stuck: on `bad2` the `operator++` onto the empty tuple
set is harmless, the following `operator*` is `none` and the loop stops as `stuck` after one rule. -/
theorem C20_iterators_stuck_without_invariant_partial :
    (∀ s : Store, (∃ fuel out, (iterM s).traverse fuel = .done out) ↔ NoEmpty s) ∧
    (¬ Inv IterEx.bad1 ∧ begin IterEx.bad1 = .stuck ∧ acceptBegin IterEx.bad1 = .stuck ∧
      downBegin IterEx.bad1 1 = .stuck) ∧
    (¬ Inv IterEx.bad2 ∧ next IterEx.bad2 (begin IterEx.bad2) = .at (0, 1, 0) ∧
      deref IterEx.bad2 (.at (0, 1, 0)) = none ∧ next IterEx.bad2 (.at (0, 1, 0)) = .stuck ∧
      (iterM IterEx.bad2).traverse 5 = .stuck [⟨7, [2], 1⟩]) ∧
    (¬ Inv IterEx.bad3 ∧ next IterEx.bad3 (begin IterEx.bad3) = .stuck ∧ acceptBegin IterEx.bad3 = .stuck) := by
  have h := iter_stuck_without_inv
  have hb := IterEx.bad_not_inv
  exact ⟨iter_done_iff, ⟨hb.1, h.1.2.1, h.1.2.2.1, h.1.2.2.2⟩,
    ⟨hb.2.1, h.2.1.2.2.1, h.2.1.2.2.2.1, h.2.1.2.2.2.2.1, h.2.1.2.2.2.2.2.1⟩,
    ⟨hb.2.2.1, h.2.2.2.2.1, h.2.2.2.2.2.2.1⟩⟩

example : NoEmpty (run StoreEx.ops1) := noEmpty_of_inv (store_inv _)

/-!
## what this file closes, and what stays open

Closes, from the "not yet proved" block of `C12.lean`, the item **"Order and iterator protocol"** as far as the iterator
objects are concerned: `begin()`/`end()`, `operator++`, `operator*`, the end state of `Iterator` / `AcceptTransIterator` /
`DownAccessorIterator`, `DownAccessor::empty()`, partial traversals (`posAt n` for every `n`) and iterator comparison
(`C12_iterator_protocol_comparison`) are now modelled and proved against the list views for every history.
Adds to `C20.lean` the iterator clause announced in the doc comment of `C20_store_invariant_partial` ("the transition
iterators of the C++ rely on no empty cluster, no empty tuple set"): it is now a theorem, with its converse.

Still open:
* the real iteration order (hash order of `unordered_map`) versus the insertion order of the model;
* iterator invalidation: an iterator is a triple of indices into ONE store value; what happens to a live iterator when a
  mutating call (or copy-on-write un-sharing) changes the container is not modelled;
* `operator==` of the C++ compares `tupleIterator_` with a value-initialised `TuplePtrSet::const_iterator()` of no
  container; that this comparison is well defined and false for live positions is a property of the standard library,
  modelled here as "the state is `.fin`";
* incrementing `end()` and dereferencing `end()` are `stuck` / `none` in the model (caller errors), nothing is proved about
  callers never doing so;
* that the state machines are faithful transcriptions of the C++ is a matter for the correspondence check of the driver
  (`iterAll`, `acceptAll`, `downAll`, `noEmptyB` are executable), not a theorem.
-/
end Vata.Props
