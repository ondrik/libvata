import Vata.Proofs.RcStoreHist
/-!
# Pointer equality is semantic equality: refinement from the node store to diagrams (C17, C18)

The diagram of a node is its unfolding (`Vata/Proofs/StoreBuild.lean`): injective on allocated nodes by hash-consing, ordered and
reduced by the second invariant `WfInv`, so that by `M.canonicity` pointer equality is equality of the denoted functions.  The
store operations compute the tree operations on the diagrams (`apply2_adds`, `construct_adds`, `Vata/Proofs/RcStoreHist.lean`);
here: what that means for the handles after a history.
-/
namespace Vata.RcS

theorem unfold_injective {s : Store} (hi : Inv s) {r₁ r₂ : Nat} (h₁ : r₁ ∈ s.ids) (h₂ : r₂ ∈ s.ids)
    (he : unfold s.dat (r₁+1) r₁ = unfold s.dat (r₂+1) r₂) : r₁ = r₂ :=
  hi.1.diagram_inj h₁ h₂ he


theorem unfold_wf (f : Nat → Nat → Nat) (ops : List Op) (n : Nat) (hn : n ∈ (runF f ops).ids) :
    M.WF (unfold (runF f ops).dat (n+1) n) :=
  diagram_wf (runF_inv f ops).1 (runF_wfInv f ops) hn

theorem WInv.node_eq_iff_same_function {s : Store} {P : List Nat} (hi : WInv s P) (w : WfInv s) {r₁ r₂ : Nat}
    (h₁ : r₁ ∈ s.ids) (h₂ : r₂ ∈ s.ids) : r₁ = r₂ ↔ ∀ ρ, denote s r₁ ρ = denote s r₂ ρ := by
  constructor
  · intro e ρ; rw [e]
  · intro he
    exact hi.diagram_inj h₁ h₂ (M.canonicity _ _ (diagram_wf hi w h₁) (diagram_wf hi w h₂) he)

/-- after every operation list, two live handles have the same root pointer (`operator==` of `OndriksMTBDD`) iff they
    denote the same function -/
theorem handle_eq_iff_same_function (f : Nat → Nat → Nat) (ops : List Op) {h₁ h₂ r₁ r₂ : Nat}
    (hm₁ : (h₁, r₁) ∈ (runF f ops).hs) (hm₂ : (h₂, r₂) ∈ (runF f ops).hs) :
    r₁ = r₂ ↔ ∀ ρ, denote (runF f ops) r₁ ρ = denote (runF f ops) r₂ ρ :=
  have hi := runF_inv f ops
  hi.1.node_eq_iff_same_function (runF_wfInv f ops) (hi.1.rin r₁ (List.mem_map_of_mem hm₁))
    (hi.1.rin r₂ (List.mem_map_of_mem hm₂))

/-- the same in terms of the observers: `find h hs` is `getRoot()`, `getValue` is `GetValue` -/
theorem handle_eq_iff_same_getValue (f : Nat → Nat → Nat) (ops : List Op) {h₁ h₂ r₁ r₂ : Nat}
    (hf₁ : find h₁ (runF f ops).hs = some r₁) (hf₂ : find h₂ (runF f ops).hs = some r₂) :
    find h₁ (runF f ops).hs = find h₂ (runF f ops).hs ↔
      ∀ ρ, getValue (runF f ops) h₁ ρ = getValue (runF f ops) h₂ ρ := by
  have := handle_eq_iff_same_function f ops (find_some_mem hf₁) (find_some_mem hf₂)
  simp only [getValue, hf₁, hf₂, Option.map_some, Option.some.injEq]
  exact this


theorem WInv.find_frame {s s' : Store} {t : Nat} {P P' : List Nat} (hi : WInv s P) (hi' : WInv s' P') (fr : Frame t s s')
    {h r : Nat} (hf : find h s.hs = some r) (ht : h ≠ t) : find h s'.hs = some r ∧ diagram s' r = diagram s r :=
  have := hi.frame_denote fr (find_some_mem hf) ht
  ⟨mem_find hi'.hsK this.1, this.2.1⟩

/-- the copy constructor `OndriksMTBDD dst(src)`: the new handle has the root of the source; no diagram changes -/
theorem copy_refines {s : Store} {src dst r : Nat} (hs : find src s.hs = some r) (hd : find dst s.hs = none) :
    find dst (copy s src dst).hs = some r ∧ find src (copy s src dst).hs = some r ∧
    ∀ n, diagram (copy s src dst) n = diagram s n := by
  have hne : dst ≠ src := fun e => by rw [e, hs] at hd; cases hd
  simp only [copy, hs, hd]
  refine ⟨find_addHandle _ _ _, ?_, fun n => rfl⟩
  show find src ((dst, r) :: s.hs) = some r
  simp only [find, hne, if_false]
  exact hs

/-- `dst = src` (`operator=`) for two different live handles: `dst` gets the root of `src`, whose diagram is unchanged -/
theorem assign_refines {s : Store} {src dst r r' : Nat} (hi : WInv s []) (hne : src ≠ dst) (hs : find src s.hs = some r)
    (hd : find dst s.hs = some r') :
    find dst (assign s src dst).hs = some r ∧ find src (assign s src dst).hs = some r ∧
    diagram (assign s src dst) r = diagram s r := by
  obtain ⟨⟨i1, f1, -⟩, n1⟩ := destroy_ok (h := dst) hi
  obtain ⟨s1, d1⟩ := hi.find_frame i1 f1 hs hne
  obtain ⟨c1, c2, c3⟩ := copy_refines s1 (Option.eq_none_iff_forall_ne_some.mpr fun r hf => n1 r (find_some_mem hf))
  simp only [assign, hne, if_false, hs, hd]
  exact ⟨c1, c2, (c3 r).trans d1⟩

theorem runF_snoc (f : Nat → Nat → Nat) (ops : List Op) (op : Op) : runF f (ops ++ [op]) = stepF f (runF f ops) op := by
  simp [runF, List.foldl_append]

/-- after any operation list, `OndriksMTBDD h(asgn, v, d)` for a fresh handle name `h` creates a handle
    whose root unfolds to the tree-model diagram `M.construct asgn v d` and which denotes the cube function: `v` on the
    assignments that agree with `asgn`, `d` elsewhere -/
theorem construct_denotes (f : Nat → Nat → Nat) (ops : List Op) (h : Nat) (asgn : List (Option Bool)) (v d : Nat)
    (hf : find h (runF f ops).hs = none) :
    ∃ r, find h (runF f (ops ++ [.construct h asgn v d])).hs = some r ∧
      unfold (runF f (ops ++ [.construct h asgn v d])).dat (r+1) r = M.construct asgn v d ∧
      ∀ ρ, denote (runF f (ops ++ [.construct h asgn v d])) r ρ = if M.agrees ρ asgn 0 = true then v else d := by
  rw [runF_snoc]
  obtain ⟨r, h1, h2⟩ := (construct_adds (asgn := asgn) (v := v) (d := d) (runF_inv f ops).1 hf).1.root
  exact ⟨r, h1, h2, fun ρ => (congrArg (M.eval · ρ) h2).trans (M.construct_eval_agrees asgn v d ρ)⟩

/-- after any operation list, `OndriksMTBDD dst = apply(a, b)` for live `a`, `b` and a fresh name `dst`
    creates a handle whose root unfolds to `M.apply2 f` of the operands' diagrams and which denotes the pointwise `f` of
    the operands (which are still live, with the same roots and diagrams) -/
theorem apply_denotes (f : Nat → Nat → Nat) (ops : List Op) (a b dst ra rb : Nat)
    (ha : find a (runF f ops).hs = some ra) (hb : find b (runF f ops).hs = some rb)
    (hd : find dst (runF f ops).hs = none) :
    ∃ r, find dst (runF f (ops ++ [.apply a b dst])).hs = some r ∧
      find a (runF f (ops ++ [.apply a b dst])).hs = some ra ∧ find b (runF f (ops ++ [.apply a b dst])).hs = some rb ∧
      unfold (runF f (ops ++ [.apply a b dst])).dat (r+1) r =
        M.apply2 f (unfold (runF f (ops ++ [.apply a b dst])).dat (ra+1) ra)
          (unfold (runF f (ops ++ [.apply a b dst])).dat (rb+1) rb) ∧
      ∀ ρ, denote (runF f (ops ++ [.apply a b dst])) r ρ =
        f (denote (runF f (ops ++ [.apply a b dst])) ra ρ) (denote (runF f (ops ++ [.apply a b dst])) rb ρ) := by
  rw [runF_snoc]
  have hi := (runF_inv f ops).1
  obtain ⟨⟨i1, f1, ⟨r, h1, h2⟩, -⟩, -⟩ := apply2_adds f hi ha hb hd
  have nea : a ≠ dst := fun e => by rw [e, hd] at ha; cases ha
  have neb : b ≠ dst := fun e => by rw [e, hd] at hb; cases hb
  obtain ⟨a1, a2⟩ := hi.find_frame i1 f1 ha nea
  obtain ⟨b1, b2⟩ := hi.find_frame i1 f1 hb neb
  have key : diagram (apply2 f (runF f ops) a b dst) r =
      M.apply2 f (diagram (apply2 f (runF f ops) a b dst) ra) (diagram (apply2 f (runF f ops) a b dst) rb) := by
    rw [a2, b2]; exact h2
  exact ⟨r, h1, a1, b1, key, fun ρ => (congrArg (M.eval · ρ) key).trans (M.apply2_eval f ρ _ _)⟩

theorem copy_denotes (f : Nat → Nat → Nat) (ops : List Op) (src dst r : Nat)
    (hs : find src (runF f ops).hs = some r) (hd : find dst (runF f ops).hs = none) :
    find dst (runF f (ops ++ [.copy src dst])).hs = some r ∧ find src (runF f (ops ++ [.copy src dst])).hs = some r ∧
    ∀ ρ, denote (runF f (ops ++ [.copy src dst])) r ρ = denote (runF f ops) r ρ := by
  rw [runF_snoc]
  obtain ⟨c1, c2, c3⟩ := copy_refines hs hd
  exact ⟨c1, c2, fun ρ => congrArg (M.eval · ρ) (c3 r)⟩

theorem assign_denotes (f : Nat → Nat → Nat) (ops : List Op) (src dst r r' : Nat) (hne : src ≠ dst)
    (hs : find src (runF f ops).hs = some r) (hd : find dst (runF f ops).hs = some r') :
    find dst (runF f (ops ++ [.assign src dst])).hs = some r ∧ find src (runF f (ops ++ [.assign src dst])).hs = some r ∧
    ∀ ρ, denote (runF f (ops ++ [.assign src dst])) r ρ = denote (runF f ops) r ρ := by
  rw [runF_snoc]
  obtain ⟨c1, c2, c3⟩ := assign_refines (runF_inv f ops).1 hne hs hd
  exact ⟨c1, c2, fun ρ => congrArg (M.eval · ρ) c3⟩


theorem getValue_of_find {s : Store} {h r : Nat} (hf : find h s.hs = some r) (ρ : Nat → Bool) :
    getValue s h ρ = some (denote s r ρ) := by
  simp only [getValue, hf, Option.map_some]

theorem construct_getValue (f : Nat → Nat → Nat) (ops : List Op) (h : Nat) (asgn : List (Option Bool)) (v d : Nat)
    (hf : find h (runF f ops).hs = none) (ρ : Nat → Bool) :
    getValue (runF f (ops ++ [.construct h asgn v d])) h ρ = some (if M.agrees ρ asgn 0 = true then v else d) := by
  obtain ⟨r, h1, _, h3⟩ := construct_denotes f ops h asgn v d hf
  rw [getValue_of_find h1, h3]

theorem getValue_eq_some {s : Store} {h v : Nat} {ρ : Nat → Bool} (hv : getValue s h ρ = some v) :
    ∃ r, find h s.hs = some r ∧ denote s r ρ = v := by
  cases hf : find h s.hs with
  | none => rw [getValue, hf] at hv; cases hv
  | some r => exact ⟨r, rfl, Option.some.inj ((getValue_of_find hf ρ).symm.trans hv)⟩

theorem copy_getValue (f : Nat → Nat → Nat) (ops : List Op) (src dst r : Nat)
    (hs : find src (runF f ops).hs = some r) (hd : find dst (runF f ops).hs = none) (ρ : Nat → Bool) :
    getValue (runF f (ops ++ [.copy src dst])) dst ρ = getValue (runF f ops) src ρ ∧
    getValue (runF f (ops ++ [.copy src dst])) src ρ = getValue (runF f ops) src ρ := by
  obtain ⟨c1, c2, c3⟩ := copy_denotes f ops src dst r hs hd
  rw [getValue_of_find c1, getValue_of_find c2, getValue_of_find hs, c3]
  exact ⟨rfl, rfl⟩

theorem assign_getValue (f : Nat → Nat → Nat) (ops : List Op) (src dst r r' : Nat) (hne : src ≠ dst)
    (hs : find src (runF f ops).hs = some r) (hd : find dst (runF f ops).hs = some r') (ρ : Nat → Bool) :
    getValue (runF f (ops ++ [.assign src dst])) dst ρ = getValue (runF f ops) src ρ ∧
    getValue (runF f (ops ++ [.assign src dst])) src ρ = getValue (runF f ops) src ρ := by
  obtain ⟨c1, c2, c3⟩ := assign_denotes f ops src dst r r' hne hs hd
  rw [getValue_of_find c1, getValue_of_find c2, getValue_of_find hs, c3]
  exact ⟨rfl, rfl⟩

namespace RefineEx

/-- cubes over different assignment lists that denote the same function (handles 0, 1), two applies with swapped
    operands (handles 3, 4), a destructor in between, further constructions and applies -/
def ops : List Op :=
  [.construct 0 [some true, none] 5 0, .construct 1 [some true] 5 0, .construct 2 [some false, some true] 7 0,
   .apply 0 2 3, .apply 2 1 4, .destroy 0, .construct 5 [none, some true] 7 0, .apply 5 1 6]

/-- the run of `ops`, evaluated once (quoted below and in `Properties/C17`, `C17_Memo`, `C18`, `C20`): handles, nodes, the sizes
of the unique tables, the unfoldings of two inner nodes -/
theorem ops_run : (runF applyOp ops).hs = [(6, 9), (5, 8), (4, 7), (3, 7), (2, 5), (1, 2)] ∧
    (runF applyOp ops).ids = [9, 8, 7, 6, 5, 4, 3, 2, 1, 0] ∧ tableSizes (runF applyOp ops) = (3, 7) ∧
    unfold (runF applyOp ops).dat 8 7 = .node 1 (.node 0 (.leaf 0) (.leaf 5)) (.node 0 (.leaf 7) (.leaf 5)) ∧
    unfold (runF applyOp ops).dat 10 9 = .node 1 (.node 0 (.leaf 0) (.leaf 5)) (.leaf 7) := by decide +kernel
theorem ops_hs : (runF applyOp ops).hs = [(6, 9), (5, 8), (4, 7), (3, 7), (2, 5), (1, 2)] := ops_run.1
theorem ops_ids : (runF applyOp ops).ids = [9, 8, 7, 6, 5, 4, 3, 2, 1, 0] := ops_run.2.1

example : (runF applyOp ops).hs = [(6, 9), (5, 8), (4, 7), (3, 7), (2, 5), (1, 2)] ∧
    (runF applyOp ops).ids = [9, 8, 7, 6, 5, 4, 3, 2, 1, 0] ∧ tableSizes (runF applyOp ops) = (3, 7) :=
  ⟨ops_hs, ops_ids, ops_run.2.2.1⟩

example : Inv (runF applyOp ops) ∧ 7 ∈ (runF applyOp ops).ids ∧ 9 ∈ (runF applyOp ops).ids :=
  ⟨runF_inv _ _, by rw [ops_ids]; decide, by rw [ops_ids]; decide⟩
example : unfold (runF applyOp ops).dat 8 7 = .node 1 (.node 0 (.leaf 0) (.leaf 5)) (.node 0 (.leaf 7) (.leaf 5)) ∧
    unfold (runF applyOp ops).dat 10 9 = .node 1 (.node 0 (.leaf 0) (.leaf 5)) (.leaf 7) := ops_run.2.2.2
example : M.WF (unfold (runF applyOp ops).dat 8 7) := unfold_wf applyOp ops 7 (by rw [ops_ids]; decide)
example : WfInv (runF applyOp ops) := runF_wfInv _ _

-- `handle_eq_iff_same_function`: handles 3 and 4 (max is commutative; handles 0 and 1 denote the same function) have the
-- same root; handles 5 and 6 have different roots, hence denote different functions
example : (3, 7) ∈ (runF applyOp ops).hs ∧ (4, 7) ∈ (runF applyOp ops).hs ∧ (5, 8) ∈ (runF applyOp ops).hs ∧
    (6, 9) ∈ (runF applyOp ops).hs := by rw [ops_hs]; decide
example : ¬ ∀ ρ, denote (runF applyOp ops) 8 ρ = denote (runF applyOp ops) 9 ρ := fun h =>
  absurd ((handle_eq_iff_same_function applyOp ops (h₁ := 5) (h₂ := 6) (by rw [ops_hs]; decide)
    (by rw [ops_hs]; decide)).mpr h) (by decide)

theorem ops_find : find 7 (runF applyOp ops).hs = none ∧ find 5 (runF applyOp ops).hs = some 8 ∧
    find 1 (runF applyOp ops).hs = some 2 := by rw [ops_hs]; decide
example : find 7 (runF applyOp ops).hs = none ∧ find 5 (runF applyOp ops).hs = some 8 ∧
    find 1 (runF applyOp ops).hs = some 2 ∧ (5 : Nat) ≠ 1 := ⟨ops_find.1, ops_find.2.1, ops_find.2.2, by decide⟩
example : ∃ r, find 7 (runF applyOp (ops ++ [.apply 5 1 7])).hs = some r ∧
    ∀ ρ, denote (runF applyOp (ops ++ [.apply 5 1 7])) r ρ =
      applyOp (denote (runF applyOp (ops ++ [.apply 5 1 7])) 8 ρ) (denote (runF applyOp (ops ++ [.apply 5 1 7])) 2 ρ) :=
  let ⟨r, h1, _, _, _, h5⟩ := apply_denotes applyOp ops 5 1 7 8 2 ops_find.2.1 ops_find.2.2 ops_find.1
  ⟨r, h1, h5⟩
-- the new apply result is the node that handle 6 already has (same function, same pointer)
theorem ops_apply_find : find 7 (runF applyOp (ops ++ [.apply 5 1 7])).hs = some 9 := by decide +kernel
example : find 7 (runF applyOp (ops ++ [.apply 5 1 7])).hs = some 9 := ops_apply_find
example : ∀ ρ, getValue (runF applyOp (ops ++ [.construct 7 [none, some false] 3 4])) 7 ρ =
    some (if M.agrees ρ [none, some false] 0 = true then 3 else 4) :=
  construct_getValue applyOp ops 7 _ 3 4 ops_find.1
example : find 1 (runF applyOp (ops ++ [.assign 5 1])).hs = some 8 :=
  (assign_denotes applyOp ops 5 1 8 2 (by decide) ops_find.2.1 ops_find.2.2).1
example : find 7 (runF applyOp (ops ++ [.copy 5 7])).hs = some 8 :=
  (copy_denotes applyOp ops 5 7 8 ops_find.2.1 ops_find.1).1

end RefineEx

end Vata.RcS
