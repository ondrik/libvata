import Vata.BinRel
import Vata.Proofs.ReduceModel
import Vata.Proofs.ContainerLemmas
import Vata.Proofs.AssocList
import Vata.Proofs.LockStep
/-!
The model of `binary_relation.hh` (`Vata/BinRel.lean`).

The model is the C++ as coded: a flat vector of `rowSize²` cells, entry `(r, c)` in cell `r * rowSize + c`, `realloc`
copying row by row, the in-place loops of `split`, `transposed`, `RestrictToSymmetric`, ….  `WF m` is the class
invariant (`size ≤ rowSize`, `data.size = rowSize * rowSize`).  Every member function gets a `_spec` theorem in terms
of `get` on the cells below the capacity; `Refines` relates the flat matrix to the abstract model `ARel` (size, capacity,
a function `Nat → Nat → Bool`), each `Refines.X` transports `X_spec`, and `runC_refines` / `history` is the statement
for arbitrary histories of operations.  `RestrictToSymmetric` and `GetQuotientProjection` are shown to be the
relation-level functions of `Vata/ReduceModel.lean` on the corner.
-/
namespace Vata
namespace BinRel


theorem forN_zero {σ : Type} (f : Nat → σ → σ) (s : σ) : forN 0 f s = s := rfl

theorem forN_succ {σ : Type} (n : Nat) (f : Nat → σ → σ) (s : σ) : forN (n + 1) f s = f n (forN n f s) := by
  simp [forN, List.range_succ, List.foldl_append]

theorem forN_eq_forR {σ : Type} (n : Nat) (f : Nat → σ → σ) (s : σ) : forN n f s = forR 0 n f s := by
  rw [forN, forR, List.range_eq_range', Nat.sub_zero]

theorem forR_ind {σ : Type} (P : Nat → σ → Prop) {lo hi : Nat} {f : Nat → σ → σ} {s : σ} (hle : lo ≤ hi) (h0 : P lo s)
    (hs : ∀ i s, lo ≤ i → i < hi → P i s → P (i + 1) (f i s)) : P hi (forR lo hi f s) := by
  obtain ⟨k, rfl⟩ := Nat.exists_eq_add_of_le hle
  clear hle
  rw [forR, Nat.add_sub_cancel_left]
  induction k generalizing lo s with
  | zero => exact h0
  | succ k ih =>
    rw [List.range'_succ, List.foldl_cons, ← Nat.add_assoc, Nat.add_right_comm]
    exact ih (hs lo s (Nat.le_refl _) (Nat.lt_add_of_pos_right (Nat.succ_pos k)) h0)
      (fun i s h1 h2 => hs i s (Nat.le_of_succ_le h1) (by rw [← Nat.add_assoc, Nat.add_right_comm]; exact h2))

theorem forN_ind {σ : Type} (P : Nat → σ → Prop) {n : Nat} {f : Nat → σ → σ} {s : σ} (h0 : P 0 s)
    (hs : ∀ i s, i < n → P i s → P (i + 1) (f i s)) : P n (forN n f s) := by
  rw [forN_eq_forR]
  exact forR_ind P (Nat.zero_le n) h0 (fun i s _ hi => hs i s hi)

def pairs (n k : Nat) : List (Nat × Nat) := (List.range n).flatMap (fun i => (List.range k).map (fun j => (i, j)))

theorem mem_pairs {n k : Nat} {p : Nat × Nat} : p ∈ pairs n k ↔ p.1 < n ∧ p.2 < k :=
  mem_flatMap_map_pair.trans (and_congr List.mem_range List.mem_range)

theorem forN_forN {σ : Type} (n k : Nat) (f : Nat → Nat → σ → σ) (s : σ) :
    forN n (fun i s => forN k (fun j s => f i j s) s) s = (pairs n k).foldl (fun s p => f p.1 p.2 s) s := by
  simp only [forN, pairs, List.foldl_flatMap, List.foldl_map]

theorem nodup_pairs (n k : Nat) : (pairs n k).Nodup := by
  unfold pairs List.Nodup
  rw [List.pairwise_flatMap]
  refine ⟨?_, ?_⟩
  · intro i _
    rw [List.pairwise_map]
    exact List.Pairwise.imp (fun hab e => hab (congrArg Prod.snd e)) (List.nodup_range (n := k))
  · apply List.Pairwise.imp _ (List.nodup_range (n := n))
    intro a b hab x hx1 y hx2 e
    obtain ⟨_, _, e1⟩ := List.mem_map.1 hx1
    obtain ⟨_, _, e2⟩ := List.mem_map.1 hx2
    rw [← e1, ← e2] at e
    exact hab (congrArg Prod.fst e)


theorem addr_inj {rs r c r' c' : Nat} (hc : c < rs) (hc' : c' < rs) : r * rs + c = r' * rs + c' ↔ r = r' ∧ c = c' := by
  constructor
  · intro h
    have h1 := congrArg (· / rs) h
    have h2 := congrArg (· % rs) h
    have hp : 0 < rs := Nat.lt_of_le_of_lt (Nat.zero_le c) hc
    simp only [Nat.mul_comm _ rs, Nat.mul_add_div hp, Nat.mul_add_mod, Nat.div_eq_of_lt hc, Nat.div_eq_of_lt hc',
      Nat.mod_eq_of_lt hc, Nat.mod_eq_of_lt hc', Nat.add_zero] at h1 h2
    exact ⟨h1, h2⟩
  · rintro ⟨rfl, rfl⟩; rfl

theorem addr_lt {rs r c : Nat} (hr : r < rs) (hc : c < rs) : r * rs + c < rs * rs :=
  Nat.lt_of_lt_of_le (Nat.add_lt_add_left hc _) (by rw [← Nat.succ_mul]; exact Nat.mul_le_mul_right rs hr)

def cell (t : Array Bool) (rs r c : Nat) : Bool := t.getD (r * rs + c) false

theorem cell_set {t : Array Bool} {rs r c : Nat} {v : Bool} {r' c' : Nat} (hc : c < rs) (hc' : c' < rs)
    (hin : r * rs + c < t.size) :
    cell (t.setIfInBounds (r * rs + c) v) rs r' c' = if r' = r ∧ c' = c then v else cell t rs r' c' := by
  simp only [cell, Array.getD_eq_getD_getElem?, Array.getElem?_setIfInBounds]
  by_cases h : r' = r ∧ c' = c
  · obtain ⟨rfl, rfl⟩ := h
    simp [hin]
  · rw [if_neg (fun e => h ((addr_inj hc' hc).1 e.symm)), if_neg h]

theorem get_eq_cell (m : Mat) (r c : Nat) : m.get r c = cell m.data m.rowSize r c := rfl

theorem cell_replicate {k rs r c : Nat} {d : Bool} (h : r * rs + c < k) : cell (Array.replicate k d) rs r c = d := by
  simp [cell, Array.getD_eq_getD_getElem?, h]

theorem and_lt_succ {A : Prop} {x k : Nat} : (A ∧ x < k + 1) ↔ (A ∧ x = k) ∨ (A ∧ x < k) :=
  ⟨fun h => (Nat.lt_succ_iff_lt_or_eq.1 h.2).elim (fun hl => Or.inr ⟨h.1, hl⟩) (fun he => Or.inl ⟨h.1, he⟩),
    fun h => h.elim (fun h => ⟨h.1, h.2 ▸ Nat.lt_succ_self _⟩) (fun h => ⟨h.1, Nat.lt_succ_of_lt h.2⟩)⟩

theorem and_lt_succ' {A : Prop} {x k : Nat} : (A ∧ x < k + 1) ↔ (x = k ∧ A) ∨ (A ∧ x < k) :=
  and_lt_succ.trans (or_congr And.comm Iff.rfl)

theorem ite_or {α : Type} {p q r : Prop} [Decidable p] [Decidable q] [Decidable r] {a b : α} (h : r ↔ p ∨ q) :
    (if p then a else if q then a else b) = if r then a else b := by
  by_cases hp : p
  · rw [if_pos hp, if_pos (h.2 (Or.inl hp))]
  · rw [if_neg hp, ite_cond_congr (propext (h.trans (or_iff_right hp)))]

/-- one round of a loop that writes cell by cell: the cells written so far (`P`) hold `a`, the others `b`; the round
writes `v` into the cell singled out by `e` -/
theorem ite_step {α : Type} {e P P' : Prop} [Decidable e] [Decidable P] [Decidable P'] {v a b : α}
    (hP : P' ↔ e ∨ P) (hv : e → v = a) : (if e then v else if P then a else b) = if P' then a else b :=
  (ite_congr rfl hv (fun _ => rfl)).trans (ite_or hP)

theorem ite_step' {α : Type} {e P P' : Prop} [Decidable e] [Decidable P] [Decidable P'] {v a b : α}
    (hP : P' ↔ e ∨ P) (hv : e → v = a) : (if P then a else if e then v else b) = if P' then a else b :=
  (ite_congr rfl (fun _ => rfl) (fun _ => ite_congr rfl hv (fun _ => rfl))).trans (ite_or (hP.trans or_comm))

theorem mem_cons_pair {r c : Nat} {p : Nat × Nat} {cs : List (Nat × Nat)} :
    (r, c) ∈ p :: cs ↔ (r = p.1 ∧ c = p.2) ∨ (r, c) ∈ cs :=
  List.mem_cons.trans (or_congr Prod.ext_iff Iff.rfl)


def WF (m : Mat) : Prop := m.size ≤ m.rowSize ∧ m.data.size = m.rowSize * m.rowSize

namespace Mat

theorem wf_set {m : Mat} (h : WF m) (r c : Nat) (v : Bool) : WF (m.set r c v) :=
  ⟨h.1, (Array.size_setIfInBounds ..).trans h.2⟩

@[simp] theorem set_size (m : Mat) (r c : Nat) (v : Bool) : (m.set r c v).size = m.size := rfl
@[simp] theorem set_rowSize (m : Mat) (r c : Nat) (v : Bool) : (m.set r c v).rowSize = m.rowSize := rfl

theorem get_set_cap {m : Mat} (h : WF m) {r c : Nat} (hr : r < m.rowSize) (hc : c < m.rowSize) (v : Bool) (r' : Nat)
    {c' : Nat} (hc' : c' < m.rowSize) : (m.set r c v).get r' c' = if r' = r ∧ c' = c then v else m.get r' c' :=
  cell_set hc hc' (by rw [h.2]; exact addr_lt hr hc)

theorem get_set {m : Mat} (h : WF m) {r c r' c' : Nat} (hr : r < m.size) (hc : c < m.size) (_hr' : r' < m.size)
    (hc' : c' < m.size) (v : Bool) : (m.set r c v).get r' c' = if (r', c') = (r, c) then v else m.get r' c' := by
  rw [get_set_cap h (Nat.lt_of_lt_of_le hr h.1) (Nat.lt_of_lt_of_le hc h.1) v r' (Nat.lt_of_lt_of_le hc' h.1)]
  simp only [Prod.mk.injEq]

theorem wf_reset {m : Mat} (h : WF m) (v : Bool) : WF (m.reset v) :=
  ⟨h.1, Array.size_replicate.trans h.2⟩

theorem get_reset {m : Mat} (h : WF m) (v : Bool) {r c : Nat} (hr : r < m.rowSize) (hc : c < m.rowSize) :
    (m.reset v).get r c = v :=
  cell_replicate (by rw [h.2]; exact addr_lt hr hc)

/-- what an in-place operation leaves: size, capacity and the invariant of `m`, and `F` in the cells of every row (the
columns below the capacity) -/
structure Upd (m m' : Mat) (F : Nat → Nat → Bool) : Prop where
  size : m'.size = m.size
  rowSize : m'.rowSize = m.rowSize
  wf : WF m'
  get : ∀ r c, c < m.rowSize → m'.get r c = F r c

theorem Upd.congr {m m' : Mat} {F G : Nat → Nat → Bool} (h : Upd m m' F) (e : ∀ r c, c < m.rowSize → F r c = G r c) :
    Upd m m' G :=
  ⟨h.size, h.rowSize, h.wf, fun r c hc => (h.get r c hc).trans (e r c hc)⟩

theorem Upd.trans {m d d' : Mat} {F G : Nat → Nat → Bool} (h1 : Upd m d F) (h2 : Upd d d' G) : Upd m d' G :=
  ⟨h2.size.trans h1.size, h2.rowSize.trans h1.rowSize, h2.wf, fun r c hc => h2.get r c (h1.rowSize ▸ hc)⟩

end Mat



namespace Mat

theorem copyCells_spec (src : Array Bool) (rs nrs i n : Nat) (t : Array Bool) (hn : n ≤ nrs) (hi : i < nrs)
    (ht : t.size = nrs * nrs) :
    (copyCells src (i * rs) n t (i * nrs)).size = nrs * nrs ∧
    ∀ r c, c < nrs → cell (copyCells src (i * rs) n t (i * nrs)) nrs r c =
      if r = i ∧ c < n then cell src rs i c else cell t nrs r c := by
  unfold copyCells
  refine forN_ind (fun j t' => t'.size = nrs * nrs ∧ ∀ r c, c < nrs → cell t' nrs r c =
      if r = i ∧ c < j then cell src rs i c else cell t nrs r c)
    ⟨ht, fun r c _ => (if_neg (fun h => Nat.not_lt_zero _ h.2)).symm⟩ ?_
  intro j t' hj ⟨h1, h2⟩
  have hjn : j < nrs := Nat.lt_of_lt_of_le hj hn
  refine ⟨(Array.size_setIfInBounds ..).trans h1, fun r c hc => ?_⟩
  rw [cell_set hjn hc (by rw [h1]; exact addr_lt hi hjn), h2 r c hc]
  exact ite_step and_lt_succ (fun e => by rw [e.2]; rfl)

/-- `realloc`: a fresh `nrs × nrs` vector filled with `d`, the old corner copied row by row -/
theorem realloc_spec {m : Mat} (nrs : Nat) (d : Bool) (hn : m.size ≤ nrs) :
    (m.realloc nrs d).rowSize = nrs ∧ (m.realloc nrs d).size = m.size ∧ (m.realloc nrs d).data.size = nrs * nrs ∧
    ∀ r c, r < nrs → c < nrs → (m.realloc nrs d).get r c = if r < m.size ∧ c < m.size then m.get r c else d := by
  have key := forN_ind (n := m.size) (s := (Array.replicate (nrs * nrs) d, 0, 0))
    (f := fun _ (st : Array Bool × Nat × Nat) =>
      (copyCells m.data st.2.1 m.size st.1 st.2.2, st.2.1 + m.rowSize, st.2.2 + nrs))
    (fun i st => st.2.1 = i * m.rowSize ∧ st.2.2 = i * nrs ∧ st.1.size = nrs * nrs ∧ ∀ r c, r < nrs → c < nrs →
      cell st.1 nrs r c = if c < m.size ∧ r < i then cell m.data m.rowSize r c else d)
    ⟨(Nat.zero_mul _).symm, (Nat.zero_mul _).symm, Array.size_replicate, fun r c hr hc => by
      rw [cell_replicate (addr_lt hr hc), if_neg (fun h => Nat.not_lt_zero _ h.2)]⟩ ?_
  · exact ⟨rfl, rfl, key.2.2.1, fun r c hr hc => (key.2.2.2 r c hr hc).trans (ite_cond_congr (propext And.comm))⟩
  · intro i ⟨t, so, d0⟩ hi ⟨h1, h2, h3, h4⟩
    subst h1 h2
    obtain ⟨c1, c2⟩ := copyCells_spec m.data m.rowSize nrs i m.size t hn (Nat.lt_of_lt_of_le hi hn) h3
    refine ⟨(Nat.succ_mul ..).symm, (Nat.succ_mul ..).symm, c1, fun r c hr hc => ?_⟩
    rw [c2 r c hc, h4 r c hr hc]
    exact ite_step and_lt_succ' (fun e => by rw [e.1])

theorem growRow_of_lt {rs n : Nat} (h : n < rs) : growRow rs n = rs := by
  unfold growRow growRowF
  rw [if_neg (fun hh => Nat.lt_irrefl _ (Nat.lt_of_lt_of_le h hh.2))]

theorem growRow_zero (n : Nat) : growRow 0 n = 0 := by
  unfold growRow growRowF
  rw [if_neg (fun hh => Nat.lt_irrefl _ hh.1)]

theorem growRowF_spec (n : Nat) : ∀ (f rs : Nat), 0 < rs → n < rs * 2 ^ f → n < growRowF f rs n ∧ rs ≤ growRowF f rs n
  | 0, rs, _, h => ⟨by rwa [Nat.pow_zero, Nat.mul_one] at h, Nat.le_refl _⟩
  | f + 1, rs, hp, h => by
    unfold growRowF
    by_cases hc : 0 < rs ∧ rs ≤ n
    · rw [if_pos hc, Nat.shiftLeft_eq, Nat.pow_one]
      have := growRowF_spec n f (rs * 2) (Nat.mul_pos hp (Nat.succ_pos 1))
        (by rw [Nat.mul_assoc, ← Nat.pow_succ']; exact h)
      exact ⟨this.1, Nat.le_trans (Nat.le_mul_of_pos_right rs (Nat.succ_pos 1)) this.2⟩
    · rw [if_neg hc]
      exact ⟨Nat.lt_of_not_le (fun h' => hc ⟨hp, h'⟩), Nat.le_refl _⟩

theorem growRow_spec (rs n : Nat) (hp : 0 < rs) : n < growRow rs n ∧ rs ≤ growRow rs n :=
  growRowF_spec n (n + 1) rs hp
    (Nat.lt_of_lt_of_le (Nat.lt_trans (Nat.lt_succ_self n) Nat.lt_two_pow_self) (Nat.le_mul_of_pos_left _ hp))

theorem grow_spec {m : Mat} (h : WF m) (hp : 0 < m.rowSize) (n : Nat) (d : Bool) :
    WF (m.grow n d) ∧ n < (m.grow n d).rowSize ∧ m.rowSize ≤ (m.grow n d).rowSize ∧ (m.grow n d).size = m.size ∧
    (m.grow n d).rowSize = growRow m.rowSize n ∧
    ∀ r c, r < (m.grow n d).rowSize → c < (m.grow n d).rowSize →
      (m.grow n d).get r c = if r < m.size ∧ c < m.size then m.get r c else d := by
  obtain ⟨g1, g2⟩ := growRow_spec m.rowSize n hp
  have hn : m.size ≤ growRow m.rowSize n := Nat.le_trans h.1 g2
  obtain ⟨h1, h2, h3, h4⟩ := realloc_spec (m := m) (growRow m.rowSize n) d hn
  unfold grow
  rw [h1]
  exact ⟨⟨by rw [h1, h2]; exact hn, by rw [h1, h3]⟩, g1, g2, h2, rfl, h4⟩

@[simp] theorem resize_size (m : Mat) (n : Nat) (d : Bool) : (m.resize n d).size = n := rfl

/-- `resize` inside the capacity only moves `size_`: `data_` is not touched, new entries are NOT initialised -/
theorem resize_nogrow {m : Mat} {n : Nat} (d : Bool) (hn : n ≤ m.rowSize) : m.resize n d = { m with size := n } := by
  unfold resize
  rw [if_neg (Nat.not_lt.2 hn)]

/-- … so every cell reads as before, whatever `defVal` is -/
theorem get_resize_nogrow {m : Mat} {n : Nat} (d : Bool) (hn : n ≤ m.rowSize) (r c : Nat) :
    (m.resize n d).get r c = m.get r c := by
  rw [resize_nogrow d hn]; rfl

theorem resize_of_lt {m : Mat} {n : Nat} (d : Bool) (hn : m.rowSize < n) :
    m.resize n d = { m.grow n d with size := n } := by
  unfold resize
  rw [if_pos hn]

/-- `resize` beyond the capacity: the old corner is kept, every other cell of the new capacity holds `defVal` -/
theorem resize_grow {m : Mat} (h : WF m) (hp : 0 < m.rowSize) {n : Nat} (d : Bool) (hn : m.rowSize < n) :
    (m.resize n d).rowSize = growRow m.rowSize n ∧ n < (m.resize n d).rowSize ∧
    ∀ r c, r < (m.resize n d).rowSize → c < (m.resize n d).rowSize →
      (m.resize n d).get r c = if r < m.size ∧ c < m.size then m.get r c else d := by
  obtain ⟨_, g2, _, _, g5, g6⟩ := grow_spec h hp n d
  rw [resize_of_lt d hn]
  exact ⟨g5, g2, g6⟩

theorem wf_resize {m : Mat} (h : WF m) (hp : 0 < m.rowSize) (n : Nat) (d : Bool) :
    WF (m.resize n d) ∧ 0 < (m.resize n d).rowSize := by
  by_cases hn : m.rowSize < n
  · obtain ⟨g1, g2, g3, _⟩ := grow_spec h hp n d
    rw [resize_of_lt d hn]
    exact ⟨⟨Nat.le_of_lt g2, g1.2⟩, Nat.lt_of_lt_of_le hp g3⟩
  · rw [resize_nogrow d (Nat.le_of_not_lt hn)]
    exact ⟨⟨Nat.le_of_not_lt hn, h.2⟩, hp⟩

/-- **`resize` keeps every old entry** (growing or not, enlarging or shrinking) -/
theorem get_resize_old {m : Mat} (h : WF m) (hp : 0 < m.rowSize) (n : Nat) (d : Bool) {r c : Nat} (hr : r < m.size)
    (hc : c < m.size) : (m.resize n d).get r c = m.get r c := by
  by_cases hn : m.rowSize < n
  · obtain ⟨_, g2, g3⟩ := resize_grow h hp d hn
    have hlt : m.size < (m.resize n d).rowSize := Nat.lt_of_le_of_lt h.1 (Nat.lt_trans hn g2)
    rw [g3 r c (Nat.lt_trans hr hlt) (Nat.lt_trans hc hlt), if_pos ⟨hr, hc⟩]
  · exact get_resize_nogrow d (Nat.le_of_not_lt hn) r c

/-- **new entries after a reallocating `resize`** hold `defVal` -/
theorem get_resize_new {m : Mat} (h : WF m) (hp : 0 < m.rowSize) {n : Nat} (d : Bool) (hn : m.rowSize < n) {r c : Nat}
    (hr : r < n) (hc : c < n) (hnew : m.size ≤ r ∨ m.size ≤ c) : (m.resize n d).get r c = d := by
  obtain ⟨_, g2, g3⟩ := resize_grow h hp d hn
  rw [g3 r c (Nat.lt_trans hr g2) (Nat.lt_trans hc g2),
    if_neg (fun hh => hnew.elim (Nat.not_le.2 hh.1) (Nat.not_le.2 hh.2))]

end Mat



namespace Mat

/-- the prologue `if (size_ >= rowSize_) grow(size_ + 1)`: afterwards there is room for one more row and column -/
theorem ensure_spec {m : Mat} (h : WF m) (hp : 0 < m.rowSize) :
    WF m.ensure ∧ 0 < m.ensure.rowSize ∧ m.ensure.size = m.size ∧ m.size < m.ensure.rowSize ∧
    (m.size < m.rowSize → m.ensure = m) ∧
    (m.rowSize ≤ m.size → m.ensure.rowSize = growRow m.rowSize (m.size + 1) ∧
      ∀ r c, r < m.ensure.rowSize → c < m.ensure.rowSize →
        m.ensure.get r c = if r < m.size ∧ c < m.size then m.get r c else false) := by
  unfold ensure
  by_cases hg : m.size ≥ m.rowSize
  · rw [if_pos hg]
    obtain ⟨g1, g2, g3, g4, g5, g6⟩ := grow_spec h hp (m.size + 1) false
    exact ⟨g1, Nat.lt_of_lt_of_le hp g3, g4, Nat.lt_of_succ_lt g2, fun hh => absurd hh (Nat.not_lt.2 hg),
      fun _ => ⟨g5, g6⟩⟩
  · rw [if_neg hg]
    exact ⟨h, hp, rfl, Nat.lt_of_not_le hg, fun _ => rfl, fun hh => absurd hh hg⟩

theorem get_ensure_old {m : Mat} (h : WF m) (hp : 0 < m.rowSize) {r c : Nat} (hr : r < m.size) (hc : c < m.size) :
    m.ensure.get r c = m.get r c := by
  obtain ⟨_, _, _, e4, e5, e6⟩ := ensure_spec h hp
  by_cases hg : m.size < m.rowSize
  · rw [e5 hg]
  · rw [(e6 (Nat.le_of_not_lt hg)).2 r c (Nat.lt_trans hr e4) (Nat.lt_trans hc e4), if_pos ⟨hr, hc⟩]

/-- **`alloc`**: returns the old size, the relation has one more element, old entries are kept; the new row and column are
`false` when the capacity had to grow and otherwise whatever the cells held -/
theorem alloc_spec {m : Mat} (h : WF m) (hp : 0 < m.rowSize) :
    m.alloc.2 = m.size ∧ m.alloc.1.size = m.size + 1 ∧ WF m.alloc.1 ∧ 0 < m.alloc.1.rowSize ∧
    (∀ r c, r < m.size → c < m.size → m.alloc.1.get r c = m.get r c) ∧
    (m.size < m.rowSize → m.alloc.1 = { m with size := m.size + 1 }) ∧
    (m.rowSize ≤ m.size → ∀ r c, r < m.alloc.1.rowSize → c < m.alloc.1.rowSize →
      m.alloc.1.get r c = if r < m.size ∧ c < m.size then m.get r c else false) := by
  obtain ⟨e1, e2, e3, e4, e5, e6⟩ := ensure_spec h hp
  rw [show m.alloc = ({ m.ensure with size := m.ensure.size + 1 }, m.ensure.size) from rfl]
  refine ⟨e3, congrArg (· + 1) e3, ⟨Nat.succ_le_of_lt (e3 ▸ e4), e1.2⟩, e2,
    fun r c hr hc => get_ensure_old h hp hr hc, fun hg => ?_, fun hg => (e6 hg).2⟩
  show ({ m.ensure with size := m.ensure.size + 1 } : Mat) = _
  rw [e5 hg]

/-- the in-place part of `split` when there is room: the new column `n` copies column `i`, the new row `n` copies row
`i`, the new diagonal entry is `reflexive`; every other cell of the capacity is untouched -/
theorem splitCore_spec {m : Mat} (h : WF m) (hroom : m.size < m.rowSize) {i : Nat} (hi : i < m.size) (refl : Bool) :
    ∃ d : Array Bool, m.splitCore i refl = (⟨d, m.rowSize, m.size + 1⟩, m.size) ∧ d.size = m.rowSize * m.rowSize ∧
    ∀ r c, c < m.rowSize → cell d m.rowSize r c =
      if r = m.size ∧ c = m.size then refl
      else if r = m.size ∧ c < m.size then m.get i c
      else if c = m.size ∧ r < m.size then m.get r i
      else m.get r c := by
  have hicap : i < m.rowSize := Nat.lt_trans hi hroom
  -- the column loop: column `i` is read, column `size` written
  have h1 := forN_ind (n := m.size) (s := m.data)
    (f := fun r t => t.setIfInBounds (r * m.rowSize + m.size) (t.getD (r * m.rowSize + i) false))
    (fun r0 t => t.size = m.rowSize * m.rowSize ∧ ∀ r c, c < m.rowSize →
      cell t m.rowSize r c = if c = m.size ∧ r < r0 then m.get r i else m.get r c)
    ⟨h.2, fun r c _ => (if_neg (fun h => Nat.not_lt_zero _ h.2)).symm⟩
    (fun r0 t hr0 ⟨t1, t2⟩ => ⟨(Array.size_setIfInBounds ..).trans t1, fun r c hc => by
      rw [cell_set hroom hc (by rw [t1]; exact addr_lt (Nat.lt_trans hr0 hroom) hroom), t2 r c hc]
      refine ite_step and_lt_succ' (fun e => ?_)
      rw [e.1]
      exact (t2 r0 i hicap).trans (if_neg (fun h => Nat.ne_of_lt hi h.1))⟩)
  -- the row copy: row `i` is read, row `size` written
  have h2 := forN_ind (n := m.size)
    (f := fun c t => t.setIfInBounds (m.size * m.rowSize + c) (t.getD (i * m.rowSize + c) false))
    (fun c0 t => t.size = m.rowSize * m.rowSize ∧ ∀ r c, c < m.rowSize → cell t m.rowSize r c =
      if r = m.size ∧ c < c0 then m.get i c
      else if c = m.size ∧ r < m.size then m.get r i else m.get r c)
    ⟨h1.1, fun r c hc => (h1.2 r c hc).trans (if_neg (fun h => Nat.not_lt_zero _ h.2)).symm⟩
    (fun c0 t hc0 ⟨t1, t2⟩ => ⟨(Array.size_setIfInBounds ..).trans t1, fun r c hc => by
      have hc0cap : c0 < m.rowSize := Nat.lt_trans hc0 hroom
      rw [cell_set hc0cap hc (by rw [t1]; exact addr_lt hroom hc0cap), t2 r c hc]
      refine ite_step and_lt_succ (fun e => ?_)
      rw [e.2]
      exact (t2 i c0 hc0cap).trans ((if_neg (fun h => Nat.ne_of_lt hi h.1)).trans
        (if_neg (fun h => Nat.ne_of_lt hc0 h.1)))⟩)
  refine ⟨_, rfl, (Array.size_setIfInBounds ..).trans h2.1, fun r c hc => ?_⟩
  rw [cell_set hroom hc (by rw [h2.1]; exact addr_lt hroom hroom), h2.2 r c hc]

/-- **`split(i, reflexive)`** inside the bounds: the new element `n = size` is a copy of `i` (row and column), its
diagonal entry is `reflexive`, all old entries are kept; the function returns `n` -/
theorem split_spec {m : Mat} (h : WF m) (hp : 0 < m.rowSize) {i : Nat} (hi : i < m.size) (refl : Bool) :
    (m.split i refl).2 = m.size ∧ (m.split i refl).1.size = m.size + 1 ∧ WF (m.split i refl).1 ∧
    0 < (m.split i refl).1.rowSize ∧
    ∀ r c, r ≤ m.size → c ≤ m.size → (m.split i refl).1.get r c =
      if r = m.size ∧ c = m.size then refl
      else m.get (if r = m.size then i else r) (if c = m.size then i else c) := by
  obtain ⟨e1, e2, e3, e4, _, _⟩ := ensure_spec h hp
  obtain ⟨d, he, hs, hg⟩ := splitCore_spec e1 (e3 ▸ e4) (i := i) (e3 ▸ hi) refl
  rw [split, he]
  refine ⟨e3, congrArg (· + 1) e3, ⟨Nat.succ_le_of_lt (e3 ▸ e4), hs⟩, e2, fun r c hr hc => ?_⟩
  rw [get_eq_cell, hg r c (Nat.lt_of_le_of_lt hc e4), e3]
  by_cases h1 : r = m.size ∧ c = m.size
  · rw [if_pos h1, if_pos h1]
  · rw [if_neg h1, if_neg h1]
    by_cases hr' : r = m.size
    · have hcn : c < m.size := Nat.lt_of_le_of_ne hc (fun e => h1 ⟨hr', e⟩)
      rw [if_pos ⟨hr', hcn⟩, if_pos hr', if_neg (Nat.ne_of_lt hcn), get_ensure_old h hp hi hcn]
    · have hrn : r < m.size := Nat.lt_of_le_of_ne hr hr'
      rw [if_neg (fun hh => hr' hh.1), if_neg hr']
      by_cases hc' : c = m.size
      · rw [if_pos ⟨hc', hrn⟩, if_pos hc', get_ensure_old h hp hrn hi]
      · rw [if_neg (fun hh => hc' hh.1), if_neg hc', get_ensure_old h hp hrn (Nat.lt_of_le_of_ne hc hc')]

end Mat



namespace Mat

/-- a run of `set`s whose value depends on the target entry only: the last write wins, so it does not matter how often
an entry is written -/
theorem foldl_set_fun (g : Nat → Nat → Bool) : ∀ (cs : List (Nat × Nat)) (m : Mat), WF m →
    (∀ p, p ∈ cs → p.1 < m.size ∧ p.2 < m.size) →
    Upd m (cs.foldl (fun m p => m.set p.1 p.2 (g p.1 p.2)) m) (fun r c => if (r, c) ∈ cs then g r c else m.get r c)
  | [], m, h, _ => ⟨rfl, rfl, h, fun r c _ => (if_neg List.not_mem_nil).symm⟩
  | p :: cs, m, h, hb => by
    have hp := hb p List.mem_cons_self
    obtain ⟨i1, i2, i3, i4⟩ := foldl_set_fun g cs (m.set p.1 p.2 (g p.1 p.2)) (wf_set h _ _ _)
      (fun q hq => hb q (List.mem_cons_of_mem _ hq))
    refine ⟨i1, i2, i3, fun r c hc => ?_⟩
    rw [List.foldl_cons, i4 r c hc,
      get_set_cap h (Nat.lt_of_lt_of_le hp.1 h.1) (Nat.lt_of_lt_of_le hp.2 h.1) _ r hc]
    exact ite_step' mem_cons_pair (fun e => by rw [e.1, e.2])

theorem foldl_set_own (g : Nat → Nat → Bool → Bool) : ∀ (cs : List (Nat × Nat)) (m m' : Mat),
    m' = cs.foldl (fun m p => m.set p.1 p.2 (g p.1 p.2 (m.get p.1 p.2))) m → WF m → cs.Nodup →
    (∀ p, p ∈ cs → p.1 < m.size ∧ p.2 < m.size) →
    Upd m m' (fun r c => if (r, c) ∈ cs then g r c (m.get r c) else m.get r c)
  | [], m, _, e, h, _, _ => e ▸ ⟨rfl, rfl, h, fun r c _ => (if_neg List.not_mem_nil).symm⟩
  | p :: cs, m, m', e, h, hnd, hb => by
    have hp := hb p List.mem_cons_self
    obtain ⟨hpn, hnd'⟩ := List.nodup_cons.mp hnd
    obtain ⟨i1, i2, i3, i4⟩ := foldl_set_own g cs (m.set p.1 p.2 (g p.1 p.2 (m.get p.1 p.2))) m' e (wf_set h _ _ _) hnd'
      (fun q hq => hb q (List.mem_cons_of_mem _ hq))
    refine ⟨i1, i2, i3, fun r c hc => ?_⟩
    rw [i4 r c hc, get_set_cap h (Nat.lt_of_lt_of_le hp.1 h.1) (Nat.lt_of_lt_of_le hp.2 h.1) _ r hc]
    by_cases he : r = p.1 ∧ c = p.2
    · rw [if_pos he, if_pos (mem_cons_pair.2 (Or.inl he)), he.1, he.2, if_neg hpn]
    · rw [if_neg he]
      exact ite_cond_congr (propext (mem_cons_pair.trans (or_iff_right he)).symm)

/-- **the constructor** `BinaryRelation(size, defVal, rowSize)`: every cell of the capacity holds `defVal` -/
theorem mk'_spec (size : Nat) (d : Bool) {rs : Nat} (hp : 0 < rs) :
    WF (mk' size d rs) ∧ 0 < (mk' size d rs).rowSize ∧ (mk' size d rs).size = size ∧
    (mk' size d rs).rowSize = (if rs < size then growRow rs size else rs) ∧
    ∀ r c, r < (mk' size d rs).rowSize → c < (mk' size d rs).rowSize → (mk' size d rs).get r c = d := by
  have h0 : WF ({ data := Array.replicate (rs * rs) d, rowSize := rs, size := 0 } : Mat) :=
    ⟨Nat.zero_le _, Array.size_replicate⟩
  obtain ⟨w1, w2⟩ := wf_resize h0 hp size d
  refine ⟨w1, w2, rfl, ?_⟩
  unfold mk'
  by_cases hg : rs < size
  · obtain ⟨g1, _, g3⟩ := resize_grow h0 hp d hg
    rw [if_pos hg]
    exact ⟨g1, fun r c hr hc => (g3 r c hr hc).trans (if_neg (fun h => Nat.not_lt_zero _ h.1))⟩
  · rw [if_neg hg, resize_nogrow d (Nat.le_of_not_lt hg)]
    exact ⟨rfl, fun r c hr hc => cell_replicate (addr_lt hr hc)⟩

/-- **`buildResult`** of the simulation engines: a fresh relation, `resize(n)`, then `set(r, c, true)` for a list of pairs
below `n` (which may repeat) holds exactly those pairs -/
theorem buildResult_spec (n : Nat) (ps : List (Nat × Nat)) (hb : ∀ p, p ∈ ps → p.1 < n ∧ p.2 < n) :
    WF (ps.foldl (fun m p => m.set p.1 p.2 true) ((mk' 0 false 16).resize n false)) ∧
    (ps.foldl (fun m p => m.set p.1 p.2 true) ((mk' 0 false 16).resize n false)).size = n ∧
    ∀ r c, r < n → c < n →
      (ps.foldl (fun m p => m.set p.1 p.2 true) ((mk' 0 false 16).resize n false)).get r c = decide ((r, c) ∈ ps) := by
  obtain ⟨k1, k2, k3, _, k5⟩ := mk'_spec 0 false (rs := 16) (by decide)
  obtain ⟨w1, _⟩ := wf_resize k1 k2 n false
  have hcap : ∀ {x}, x < n → x < ((mk' 0 false 16).resize n false).rowSize := fun hx => Nat.lt_of_lt_of_le hx w1.1
  -- the relation the pairs are written into is empty, reallocated or not
  have hcell : ∀ r c, r < n → c < n → ((mk' 0 false 16).resize n false).get r c = false := fun r c hr hc => by
    by_cases hg : (mk' 0 false 16).rowSize < n
    · exact get_resize_new k1 k2 false hg hr hc (Or.inl (k3 ▸ Nat.zero_le _))
    · rw [get_resize_nogrow false (Nat.le_of_not_lt hg)]
      exact k5 r c (Nat.lt_of_lt_of_le hr (Nat.le_of_not_lt hg)) (Nat.lt_of_lt_of_le hc (Nat.le_of_not_lt hg))
  obtain ⟨i1, _, i3, i4⟩ := foldl_set_fun (fun _ _ => true) ps _ w1 hb
  refine ⟨i3, i1, fun r c hr hc => ?_⟩
  rw [i4 r c (hcap hc), hcell r c hr hc]
  by_cases hm : (r, c) ∈ ps
  · rw [if_pos hm, decide_eq_true hm]
  · rw [if_neg hm, decide_eq_false hm]

/-- the vector-of-rows constructor on the whole capacity: the corner is the given square matrix, the other cells are
those of the empty relation it starts from -/
theorem ofRows_cells (rows : List (List Bool)) :
    Upd ((mk' 0 false 16).resize rows.length false) (ofRows rows) (fun r c =>
      if r < rows.length ∧ c < rows.length then (rows.getD r []).getD c false
      else ((mk' 0 false 16).resize rows.length false).get r c) := by
  obtain ⟨w1, w2, _⟩ := mk'_spec 0 false (rs := 16) (by decide)
  unfold ofRows
  rw [forN_forN]
  exact (foldl_set_fun (fun r c => (rows.getD r []).getD c false) (pairs rows.length rows.length) _
    (wf_resize w1 w2 rows.length false).1 (fun p hp => mem_pairs.mp hp)).congr
    (fun r c _ => ite_cond_congr (propext (mem_pairs (p := (r, c)))))

theorem ofRows_spec (rows : List (List Bool)) :
    WF (ofRows rows) ∧ 0 < (ofRows rows).rowSize ∧ (ofRows rows).size = rows.length ∧
    ∀ r c, r < rows.length → c < rows.length → (ofRows rows).get r c = (rows.getD r []).getD c false := by
  obtain ⟨w1, w2, _⟩ := mk'_spec 0 false (rs := 16) (by decide)
  obtain ⟨v1, v2⟩ := wf_resize w1 w2 rows.length false
  have u := ofRows_cells rows
  refine ⟨u.wf, u.rowSize ▸ v2, u.size, fun r c hr hc => ?_⟩
  rw [u.get r c (Nat.lt_of_lt_of_le hc v1.1), if_pos ⟨hr, hc⟩]

/-- **`transposed(dst)`** into another object: `dst` is resized (with the rules of `resize`) and its corner becomes the
transposed corner of `*this`; `*this` is a value here, so it is unchanged -/
theorem transposedInto_spec {m dst : Mat} (hd : WF dst) (hp : 0 < dst.rowSize) :
    Upd (dst.resize m.size false) (m.transposedInto dst) (fun r c =>
      if r < m.size ∧ c < m.size then m.get c r else (dst.resize m.size false).get r c) := by
  have hmem : ∀ p : Nat × Nat, p ∈ (pairs m.size m.size).map (fun p => (p.2, p.1)) ↔ p.1 < m.size ∧ p.2 < m.size := by
    intro p
    rw [List.mem_map]
    exact ⟨fun ⟨q, hq, e⟩ => e ▸ (mem_pairs.1 hq).symm, fun h => ⟨(p.2, p.1), mem_pairs.2 h.symm, rfl⟩⟩
  have u := foldl_set_fun (fun r c => m.get c r) _ _ (wf_resize hd hp m.size false).1 (fun p hp => (hmem p).1 hp)
  rw [List.foldl_map] at u
  unfold transposedInto
  rw [forN_forN]
  exact u.congr (fun r c _ => ite_cond_congr (propext (hmem (r, c))))

theorem forN_set_own (g : Nat → Nat → Bool → Bool) {m m' : Mat} (h : WF m)
    (e : m' = forN m.size (fun i a => forN m.size (fun j a => a.set i j (g i j (a.get i j))) a) m) :
    Upd m m' (fun r c => if r < m.size ∧ c < m.size then g r c (m.get r c) else m.get r c) :=
  (foldl_set_own g (pairs m.size m.size) m m' (e.trans (forN_forN ..)) h (nodup_pairs _ _)
    (fun _ hp => mem_pairs.mp hp)).congr (fun r c _ => ite_cond_congr (propext (mem_pairs (p := (r, c)))))

theorem andWith_spec {m : Mat} (h : WF m) (rhs : Mat) :
    Upd m (m.andWith rhs) (fun r c => if r < m.size ∧ c < m.size then (m.get r c && rhs.get r c) else m.get r c) :=
  forN_set_own (fun r c b => b && rhs.get r c) h rfl

theorem andSelf_spec {m : Mat} (h : WF m) : Upd m m.andSelf m.get :=
  (forN_set_own (fun _ _ b => b && b) h (m' := m.andSelf) rfl).congr (fun r c _ => by rw [Bool.and_self, ite_self])

/-- one round of the outer loop of `r.transposed(r)`: row `i` is copied onto column `i` (the entry `(i, i)` is read after
it has been written, with the value it had) -/
theorem rowToCol {d : Mat} (h : WF d) {n : Nat} (hn : d.size = n) {i : Nat} (hi : i < n) :
    Upd d (forN n (fun j d' => d'.set j i (d'.get i j)) d) (fun r c => if c = i ∧ r < n then d.get i r else d.get r c) := by
  subst hn
  have hic : i < d.rowSize := Nat.lt_of_lt_of_le hi h.1
  refine forN_ind (fun j (d' : Mat) => Upd d d' (fun r c => if c = i ∧ r < j then d.get i r else d.get r c))
    ⟨rfl, rfl, h, fun r c _ => (if_neg (fun hh => Nat.not_lt_zero _ hh.2)).symm⟩ ?_
  intro j d' hj ⟨f1, f2, f3, f4⟩
  have hjc : j < d.rowSize := Nat.lt_of_lt_of_le hj h.1
  refine ⟨f1, f2, wf_set f3 _ _ _, fun r c hc => ?_⟩
  rw [get_set_cap f3 (f2 ▸ hjc) (f2 ▸ hic) _ r (f2 ▸ hc), f4 r c hc, f4 i j hjc,
    if_neg (fun hh : j = i ∧ i < j => Nat.lt_irrefl _ (hh.1 ▸ hh.2))]
  exact ite_step and_lt_succ' (fun e => by rw [e.1])

/-- **`r.transposed(r)`** (source and destination the same object): the loop reads entries it has already overwritten;
the outcome is that the part above the diagonal is mirrored onto the part below it – not the transposed relation -/
theorem transposedSelf_spec {m : Mat} (h : WF m) :
    Upd m m.transposedSelf (fun r c => if r < m.size ∧ c < m.size ∧ c < r then m.get c r else m.get r c) := by
  unfold transposedSelf
  rw [resize_nogrow false h.1]
  -- after round `i` the columns below `i` hold, below the diagonal, the mirrored entries
  have key := forN_ind (n := m.size) (s := m)
    (f := fun i d => forN m.size (fun j d => d.set j i (d.get i j)) d)
    (fun i (d : Mat) => Upd m d (fun r c => if r < m.size ∧ c < r ∧ c < i then m.get c r else m.get r c))
    ⟨rfl, rfl, h, fun r c _ => (if_neg (fun hh => Nat.not_lt_zero _ hh.2.2)).symm⟩ ?_
  · refine key.congr (fun r c _ => ite_cond_congr (propext ?_))
    exact ⟨fun hh => ⟨hh.1, Nat.lt_trans hh.2.1 hh.1, hh.2.1⟩, fun hh => ⟨hh.1, hh.2.2, hh.2.1⟩⟩
  · intro i d hi hd
    refine (hd.trans (rowToCol hd.wf hd.size hi)).congr (fun r c hc => ?_)
    by_cases hci : c = i ∧ r < m.size
    · obtain ⟨rfl, hr⟩ := hci
      rw [if_pos ⟨rfl, hr⟩, hd.get c r (Nat.lt_of_lt_of_le hr h.1)]
      -- row `c` holds mirrored entries to the left of the diagonal, original ones from there on
      rcases Nat.lt_trichotomy r c with hlt | rfl | hgt
      · rw [if_pos ⟨hi, hlt, hlt⟩, if_neg (fun hh => Nat.lt_asymm hlt hh.2.1)]
      · rw [if_neg (fun hh => Nat.lt_irrefl _ hh.2.1), if_neg (fun hh => Nat.lt_irrefl _ hh.2.1)]
      · rw [if_neg (fun hh => Nat.lt_asymm hgt hh.2.1), if_pos ⟨hr, hgt, Nat.lt_succ_self _⟩]
    · rw [if_neg hci, hd.get r c hc]
      exact ite_cond_congr (propext (and_congr_right fun hr => and_congr_right fun _ =>
        ⟨Nat.lt_succ_of_lt, fun hlt => Nat.lt_of_le_of_ne (Nat.le_of_lt_succ hlt) (fun e => hci ⟨e, hr⟩)⟩))

end Mat


theorem flatMap_ite {α β : Type} (q : α → Bool) (F : α → List β) :
    ∀ l : List α, l.flatMap (fun i => if q i then F i else []) = (l.filter q).flatMap F
  | [] => rfl
  | x :: l => by
    rw [List.flatMap_cons, flatMap_ite q F l, List.filter_cons]
    by_cases h : q x = true
    · rw [if_pos h, if_pos h, List.flatMap_cons]
    · rw [if_neg h, if_neg h, List.nil_append]

theorem range_filter_eq {k n : Nat} (hk : k < n) : (List.range n).filter (fun j => j == k) = [k] := by
  rw [List.filter_beq, List.count_range, if_pos hk]
  rfl

theorem pairs_filter_row (f : Nat → Nat → Bool) {n k : Nat} (hk : k < n) :
    ((pairs n n).filter (fun p => f p.1 p.2 && p.1 == k)).map Prod.snd = (List.range n).filter (fun c => f k c) := by
  have inner : ∀ i, ((List.map (fun j => (i, j)) (List.range n)).filter (fun p => f p.1 p.2 && p.1 == k)).map Prod.snd =
      if i == k then (List.range n).filter (fun c => f k c) else [] := by
    intro i
    rw [List.filter_map, List.map_map]
    show List.map (fun j => j) (List.filter (fun j => f i j && i == k) (List.range n)) = _
    rw [List.map_id']
    by_cases h : i = k
    · subst h
      rw [beq_self_eq_true, if_pos rfl]
      exact List.filter_congr (fun j _ => Bool.and_true _)
    · rw [beq_false_of_ne h, if_neg Bool.false_ne_true]
      exact List.filter_eq_nil_iff.2 (fun j _ => by rw [Bool.and_false]; exact Bool.false_ne_true)
  unfold pairs
  rw [List.filter_flatMap, List.map_flatMap, funext inner, flatMap_ite, range_filter_eq hk]
  exact List.flatMap_singleton _ _

theorem pairs_filter_col (f : Nat → Nat → Bool) {n k : Nat} (hk : k < n) :
    ((pairs n n).filter (fun p => f p.1 p.2 && p.2 == k)).map Prod.fst = (List.range n).filter (fun r => f r k) := by
  have inner : ∀ i, ((List.map (fun j => (i, j)) (List.range n)).filter (fun p => f p.1 p.2 && p.2 == k)).map Prod.fst =
      if f i k then [i] else [] := by
    intro i
    rw [List.filter_map, List.map_map]
    show List.map (fun _ => i) (List.filter (fun j => f i j && j == k) (List.range n)) = _
    rw [← List.filter_filter, range_filter_eq hk, List.filter_cons]
    cases f i k <;> rfl
  unfold pairs
  rw [List.filter_flatMap, List.map_flatMap, funext inner, flatMap_ite, List.flatMap_singleton']

theorem getD_pushAt (dst : List (List Nat)) (r x k : Nat) :
    (Mat.pushAt dst r x).getD k [] = if k = r ∧ k < dst.length then dst.getD k [] ++ [x] else dst.getD k [] := by
  rw [Mat.pushAt, List.getD_eq_getElem?_getD, List.getD_eq_getElem?_getD, List.getElem?_modify]
  by_cases hk : k < dst.length
  · rw [List.getElem?_eq_getElem hk]
    by_cases hr : r = k
    · rw [if_pos ⟨hr.symm, hk⟩]; show (if r = k then dst[k] ++ [x] else dst[k]) = _; rw [if_pos hr]; rfl
    · rw [if_neg (fun h => hr h.1.symm)]; show (if r = k then dst[k] ++ [x] else dst[k]) = _; rw [if_neg hr]; rfl
  · rw [List.getElem?_eq_none (Nat.le_of_not_lt hk), if_neg (fun h => hk h.2)]; rfl

theorem length_pushAt (dst : List (List Nat)) (r x : Nat) : (Mat.pushAt dst r x).length = dst.length :=
  List.length_modify ..

/-- a run of conditional `push_back`s: row `k` receives, in order, the values of the steps that address it -/
theorem foldl_push (cond : Nat × Nat → Bool) (key val : Nat × Nat → Nat) : ∀ (ps : List (Nat × Nat)) (dst : List (List Nat)),
    (ps.foldl (fun dst p => if cond p then Mat.pushAt dst (key p) (val p) else dst) dst).length = dst.length ∧
    ∀ k, k < dst.length → (ps.foldl (fun dst p => if cond p then Mat.pushAt dst (key p) (val p) else dst) dst).getD k [] =
      dst.getD k [] ++ (ps.filter (fun p => cond p && key p == k)).map val
  | [], dst => ⟨rfl, fun k _ => (List.append_nil _).symm⟩
  | p :: ps, dst => by
    rw [List.foldl_cons]
    by_cases hc : cond p = true
    · obtain ⟨i1, i2⟩ := foldl_push cond key val ps (Mat.pushAt dst (key p) (val p))
      rw [if_pos hc]
      refine ⟨i1.trans (length_pushAt ..), fun k hk => ?_⟩
      rw [i2 k ((length_pushAt ..).symm ▸ hk), getD_pushAt, List.filter_cons, hc, Bool.true_and]
      by_cases hkk : key p = k
      · rw [hkk, if_pos ⟨rfl, hk⟩, beq_self_eq_true, if_pos rfl, List.map_cons, List.append_assoc]; rfl
      · rw [if_neg (fun h => hkk h.1.symm), beq_false_of_ne hkk, if_neg Bool.false_ne_true]
    · obtain ⟨i1, i2⟩ := foldl_push cond key val ps dst
      rw [if_neg hc]
      refine ⟨i1, fun k hk => ?_⟩
      rw [i2 k hk, List.filter_cons, Bool.eq_false_iff.2 hc, Bool.false_and, if_neg Bool.false_ne_true]

theorem length_resizeL {α : Type} (l : List α) (n : Nat) (d : α) : (resizeL l n d).length = n := by
  rw [resizeL, List.length_append, List.length_take, List.length_replicate, Nat.add_comm, Nat.sub_add_min_cancel]

theorem getD_resizeL (l : List (List Nat)) (n k : Nat) (hk : k < n) : (resizeL l n []).getD k [] = l.getD k [] := by
  rw [resizeL, List.getD_eq_getElem?_getD, List.getD_eq_getElem?_getD, List.getElem?_append, List.length_take]
  by_cases h : k < l.length
  · rw [if_pos (Nat.lt_min.2 ⟨hk, h⟩), List.getElem?_take_of_lt hk]
  · rw [if_neg (fun h' => h (Nat.lt_min.1 h').2), List.getElem?_replicate, List.getElem?_eq_none (Nat.le_of_not_lt h)]
    split <;> rfl

namespace Mat

theorem pushPairs_spec (m : Mat) (key val : Nat × Nat → Nat) (dst : List (List Nat)) (g : Nat → List Nat)
    (hg : ∀ k, k < m.size →
      ((pairs m.size m.size).filter (fun p => m.get p.1 p.2 && key p == k)).map val = g k) :
    (pairs m.size m.size).foldl (fun dst p => if m.get p.1 p.2 then pushAt dst (key p) (val p) else dst)
      (resizeL dst m.size []) = (List.range m.size).map (fun k => dst.getD k [] ++ g k) := by
  obtain ⟨i1, i2⟩ := foldl_push (fun p => m.get p.1 p.2) key val (pairs m.size m.size) (resizeL dst m.size [])
  rw [length_resizeL] at i1 i2
  apply ext_getD
  · rw [i1, List.length_map, List.length_range]
  · intro k hk
    rw [i1] at hk
    rw [i2 k hk, getD_resizeL _ _ _ hk, hg k hk, getD_map _ _ (by rw [List.length_range]; exact hk) 0, getD_range hk]

theorem buildIndex_eq_fold (m : Mat) (dst : List (List Nat)) :
    m.buildIndex dst = (pairs m.size m.size).foldl
      (fun dst p => if m.get p.1 p.2 then pushAt dst p.1 p.2 else dst) (resizeL dst m.size []) := by
  unfold buildIndex
  rw [forN_forN]
  rfl

theorem buildInvIndex_eq_fold (m : Mat) (dst : List (List Nat)) :
    m.buildInvIndex dst = (pairs m.size m.size).foldl
      (fun dst p => if m.get p.1 p.2 then pushAt dst p.2 p.1 else dst) (resizeL dst m.size []) := by
  unfold buildInvIndex
  rw [forN_forN]

/-- **`buildIndex(dst)`**: row `r` of the result is what `dst[r]` held before (nothing, for a fresh vector) followed by
exactly the columns related to `r`, in increasing order -/
theorem buildIndex_spec (m : Mat) (dst : List (List Nat)) :
    m.buildIndex dst = (List.range m.size).map (fun r => dst.getD r [] ++ (List.range m.size).filter (fun c => m.get r c)) := by
  rw [buildIndex_eq_fold]
  exact pushPairs_spec m Prod.fst Prod.snd dst _ (fun k hk => by rw [pairs_filter_row _ hk])

/-- **`buildInvIndex(dst)`**: row `c` of the result is the old `dst[c]` followed by exactly the rows related to `c`, in
increasing order -/
theorem buildInvIndex_spec (m : Mat) (dst : List (List Nat)) :
    m.buildInvIndex dst =
      (List.range m.size).map (fun c => dst.getD c [] ++ (List.range m.size).filter (fun r => m.get r c)) := by
  rw [buildInvIndex_eq_fold]
  exact pushPairs_spec m Prod.snd Prod.fst dst _ (fun k hk => by rw [pairs_filter_col _ hk])

theorem buildIndex2_spec (m : Mat) (ind inv : List (List Nat)) :
    m.buildIndex2 ind inv = (m.buildIndex ind, m.buildInvIndex inv) := by
  rw [buildIndex_eq_fold, buildInvIndex_eq_fold, buildIndex2, forN_forN]
  generalize pairs m.size m.size = ps
  generalize resizeL ind m.size [] = a
  generalize resizeL inv m.size [] = b
  induction ps generalizing a b with
  | nil => rfl
  | cons p ps ih =>
    rw [List.foldl_cons, List.foldl_cons, List.foldl_cons]
    cases m.get p.1 p.2 <;> exact ih _ _

end Mat



theorem foldl_congr_mem {α β : Type} {f g : α → β → α} (l : List β) (a : α) (h : ∀ a x, x ∈ l → f a x = g a x) :
    l.foldl f a = l.foldl g a :=
  List.foldl_rel (r := Eq) rfl (fun x hx c _ e => e ▸ h c x hx)

namespace Mat

@[simp] theorem length_toBMat (m : Mat) : m.toBMat.length = m.size := by simp [toBMat]

theorem square_toBMat (m : Mat) : RM.Square m.size m.toBMat := by
  refine ⟨length_toBMat m, ?_⟩
  intro row hrow
  simp only [toBMat, List.mem_map] at hrow
  obtain ⟨_, _, e⟩ := hrow
  rw [← e]; simp

theorem mget_toBMat {m : Mat} {r c : Nat} (hr : r < m.size) (hc : c < m.size) : mget m.toBMat r c = m.get r c := by
  simp [mget, toBMat, List.getD_eq_getElem?_getD, hr, hc]

theorem bmat_ext {n : Nat} {a b : BMat} (ha : RM.Square n a) (hb : RM.Square n b)
    (h : ∀ i j, i < n → j < n → mget a i j = mget b i j) : a = b := by
  apply List.ext_getElem (by rw [ha.1, hb.1])
  intro i h1 h2
  have la := ha.2 a[i] (List.getElem_mem h1)
  have lb := hb.2 b[i] (List.getElem_mem h2)
  apply List.ext_getElem (by rw [la, lb])
  intro j g1 g2
  have := h i j (by rw [← ha.1]; exact h1) (by rw [← la]; exact g1)
  simp only [mget, List.getD_eq_getElem?_getD, List.getElem?_eq_getElem h1, List.getElem?_eq_getElem h2,
    List.getElem?_eq_getElem g1, List.getElem?_eq_getElem g2, Option.getD_some] at this
  exact this

theorem toBMat_set {m : Mat} (h : WF m) {r c : Nat} (hr : r < m.size) (hc : c < m.size) (v : Bool) :
    (m.set r c v).toBMat = mset m.toBMat r c v := by
  apply bmat_ext (n := m.size) (square_toBMat (m.set r c v)) (RM.square_mset (square_toBMat m) _ _ _)
  intro i j hi hj
  rw [RM.mget_mset (square_toBMat m) hr hc, mget_toBMat (m := m.set r c v) hi hj, mget_toBMat hi hj,
    get_set_cap h (Nat.lt_of_lt_of_le hr h.1) (Nat.lt_of_lt_of_le hc h.1) v i (Nat.lt_of_lt_of_le hj h.1)]


def SymRel (m : Mat) (a : Mat) (b : BMat) : Prop :=
  WF a ∧ a.size = m.size ∧ a.rowSize = m.rowSize ∧ a.toBMat = b ∧
    ∀ r c, c < m.rowSize → ¬ (r < m.size ∧ c < m.size) → a.get r c = m.get r c

theorem symStep_refines {m a : Mat} {b : BMat} (h : SymRel m a b) {row col : Nat} (hr : row < m.size) (hc : col < m.size) :
    SymRel m (symStep row a col) (Vata.symStep row b col) := by
  obtain ⟨w, s, rs, e, fr⟩ := h
  have hr' : row < a.size := s ▸ hr
  have hc' : col < a.size := s ▸ hc
  have w1 := wf_set w row col (a.get row col && a.get col row)
  refine ⟨wf_set w1 _ _ _, s, rs, ?_, fun r c hcc hout => ?_⟩
  · unfold symStep Vata.symStep
    rw [toBMat_set w1 hc' hr', toBMat_set w hr' hc', ← mget_toBMat hr' hc', ← mget_toBMat hc' hr', e]
  · have hne : ∀ {x y : Nat}, x < m.size → y < m.size → ¬ (r = x ∧ c = y) := fun hx hy hh => hout ⟨hh.1 ▸ hx, hh.2 ▸ hy⟩
    unfold symStep
    rw [get_set_cap w1 (Nat.lt_of_lt_of_le hc' w.1) (Nat.lt_of_lt_of_le hr' w.1) _ r (rs ▸ hcc), if_neg (hne hc hr),
      get_set_cap w (Nat.lt_of_lt_of_le hr' w.1) (Nat.lt_of_lt_of_le hc' w.1) _ r (rs ▸ hcc), if_neg (hne hr hc),
      fr r c hcc hout]

/-- the flat `RestrictToSymmetric` **refines** `Vata.restrictToSymmetric` of `Vata/ReduceModel.lean`; cells outside
the corner are not touched -/
theorem restrictToSymmetric_refines {m : Mat} (h : WF m) :
    WF m.restrictToSymmetric ∧ m.restrictToSymmetric.size = m.size ∧ m.restrictToSymmetric.rowSize = m.rowSize ∧
    m.restrictToSymmetric.toBMat = Vata.restrictToSymmetric m.toBMat ∧
    ∀ r c, c < m.rowSize → ¬ (r < m.size ∧ c < m.size) → m.restrictToSymmetric.get r c = m.get r c := by
  unfold restrictToSymmetric Vata.restrictToSymmetric forN
  rw [length_toBMat]
  refine List.foldl_rel (r := SymRel m) ⟨h, rfl, rfl, rfl, fun _ _ _ _ => rfl⟩ (fun row hrow a b hab => ?_)
  unfold symRow Vata.symRow forR
  refine List.foldl_rel (r := SymRel m) hab (fun col hcol a' b' hab' => ?_)
  have hcol' : col < m.size := by have := List.mem_range'_1.1 hcol; omega
  exact symStep_refines hab' (List.mem_range.1 hrow) hcol'

/-- **`RestrictToSymmetric` = R ∩ R⁻¹** on the corner -/
theorem restrictToSymmetric_spec {m : Mat} (h : WF m) {r c : Nat} (hr : r < m.size) (hc : c < m.size) :
    m.restrictToSymmetric.get r c = (m.get r c && m.get c r) := by
  obtain ⟨_, k2, _, k4, _⟩ := restrictToSymmetric_refines h
  rw [← mget_toBMat (m := m.restrictToSymmetric) (by rw [k2]; exact hr) (by rw [k2]; exact hc), k4,
    (RM.restrictToSymmetric_full (square_toBMat m)).2 r c hr hc, mget_toBMat hr hc, mget_toBMat hc hr]

end Mat



namespace Mat

/-- the flat `GetQuotientProjection` **refines** (is equal to) `Vata.quotientProjectionIdx` on the corner -/
theorem quotProj_refines (m : Mat) : m.quotProj = quotientProjectionIdx m.toBMat := by
  unfold quotProj quotientProjectionIdx forN
  rw [length_toBMat]
  apply foldl_congr_mem
  intro proj row hrow
  have hrow' : row < m.size := List.mem_range.mp hrow
  show m.qpRow proj row = Vata.qpRow m.toBMat m.size proj row
  unfold qpRow Vata.qpRow
  split
  · rfl
  · unfold forR
    apply foldl_congr_mem
    intro proj' col hcol
    have hcol' : col < m.size := by have := List.mem_range'_1.mp hcol; omega
    unfold qpStep Vata.qpStep
    rw [mget_toBMat hrow' hcol']

structure IsEquiv (m : Mat) : Prop where
  refl : ∀ i, i < m.size → m.get i i = true
  symm : ∀ i j, i < m.size → j < m.size → m.get i j = true → m.get j i = true
  trans : ∀ i j k, i < m.size → j < m.size → k < m.size → m.get i j = true → m.get j k = true → m.get i k = true

theorem idxEquiv_of_isEquiv {m : Mat} (h : IsEquiv m) :
    RM.IdxEquiv m.toBMat m.toBMat.length (fun i j => i = j ∨ (i < m.size ∧ j < m.size ∧ m.get i j = true)) := by
  refine ⟨fun i => Or.inl rfl, ?_, ?_, ?_⟩
  · rintro i j (e | ⟨hi, hj, hg⟩)
    · exact Or.inl e.symm
    · exact Or.inr ⟨hj, hi, h.symm i j hi hj hg⟩
  · rintro i j k (e | ⟨hi, hj, hg⟩) (e' | ⟨hj', hk, hg'⟩)
    · exact Or.inl (e.trans e')
    · rw [e]; exact Or.inr ⟨hj', hk, hg'⟩
    · rw [← e']; exact Or.inr ⟨hi, hj, hg⟩
    · exact Or.inr ⟨hi, hk, h.trans i j k hi hj hk hg hg'⟩
  · intro r c hrc hc
    rw [length_toBMat] at hc
    rw [mget_toBMat (by omega) hc]
    constructor
    · intro hg; exact Or.inr ⟨by omega, hc, hg⟩
    · rintro (e | ⟨_, _, hg⟩)
      · omega
      · exact hg

/-- **`GetQuotientProjection` on an equivalence**: every index is mapped to the LEAST index of its class (so two
indices get the same image iff they are equivalent) -/
theorem quotProj_equiv {m : Mat} (h : IsEquiv m) :
    m.quotProj.length = m.size ∧
    ∀ i, i < m.size → ∃ k, m.quotProj.getD i none = some k ∧ k ≤ i ∧ m.get k i = true ∧
      (∀ j, j < m.size → m.get j i = true → k ≤ j) ∧
      (∀ j, j < m.size → (m.get i j = true ↔ m.quotProj.getD j none = some k)) := by
  obtain ⟨s1, s2, s3⟩ := RM.quotientProjectionIdx_spec (idxEquiv_of_isEquiv h)
  rw [← quotProj_refines, length_toBMat] at s1 s2 s3
  unfold RM.pget at s2 s3
  have hrel : ∀ {k i}, i < m.size → (k = i ∨ (k < m.size ∧ i < m.size ∧ m.get k i = true)) → m.get k i = true :=
    fun {_ i} hi e => e.elim (fun e => e ▸ h.refl i hi) (fun e => e.2.2)
  refine ⟨s1, fun i hi => ?_⟩
  obtain ⟨k, hk1, hk2, hk3⟩ := s2 i hi
  have hki := hrel hi hk3
  have hk : k < m.size := Nat.lt_of_le_of_lt hk2 hi
  refine ⟨k, hk1, hk2, hki, fun j hj hji => ?_, fun j hj => ⟨fun hij => ?_, fun hjk => ?_⟩⟩
  · obtain ⟨k', hk1', hk2', _⟩ := s2 j hj
    have := s3 j i hj hi (Or.inr ⟨hj, hi, hji⟩)
    rw [hk1, hk1'] at this
    cases this
    exact hk2'
  · rw [← s3 i j hi hj (Or.inr ⟨hi, hj, hij⟩), hk1]
  · obtain ⟨k', hk1', _, hk3'⟩ := s2 j hj
    rw [hjk] at hk1'
    cases hk1'
    exact h.trans i k j hi hk hj (h.symm k i hk hi hki) (hrel hj hk3')

end Mat


/-- the abstract model of a `BinaryRelation`: the size, the capacity and a two-dimensional Boolean function (what the
cells below the capacity hold; the relation proper is its restriction to the indices below `size`) -/
structure ARel where
  size : Nat
  cap : Nat
  rel : Nat → Nat → Bool

namespace ARel

def mk' (size : Nat) (d : Bool) (rs : Nat) : ARel :=
  ⟨size, if rs < size then Mat.growRow rs size else rs, fun _ _ => d⟩

def set (a : ARel) (r c : Nat) (v : Bool) : ARel :=
  { a with rel := fun r' c' => if r' = r ∧ c' = c then v else a.rel r' c' }

def reset (a : ARel) (v : Bool) : ARel := { a with rel := fun _ _ => v }

/-- beyond the capacity: the corner survives, everything else is `d`; inside the capacity: only the size moves -/
def resize (a : ARel) (n : Nat) (d : Bool) : ARel :=
  if a.cap < n then ⟨n, Mat.growRow a.cap n, fun r c => if r < a.size ∧ c < a.size then a.rel r c else d⟩
  else { a with size := n }

def ensure (a : ARel) : ARel :=
  if a.size ≥ a.cap then
    ⟨a.size, Mat.growRow a.cap (a.size + 1), fun r c => if r < a.size ∧ c < a.size then a.rel r c else false⟩
  else a

def alloc (a : ARel) : ARel × Nat := ({ a.ensure with size := a.ensure.size + 1 }, a.ensure.size)

def split (a : ARel) (i : Nat) (refl : Bool) : ARel × Nat :=
  (⟨a.ensure.size + 1, a.ensure.cap, fun r c =>
      if r = a.size ∧ c = a.size then refl
      else if r = a.size ∧ c < a.size then a.ensure.rel i c
      else if c = a.size ∧ r < a.size then a.ensure.rel r i
      else a.ensure.rel r c⟩, a.size)

def ofRows (rows : List (List Bool)) : ARel :=
  { (mk' 0 false 16).resize rows.length false with
    rel := fun r c => if r < rows.length ∧ c < rows.length then (rows.getD r []).getD c false
      else ((mk' 0 false 16).resize rows.length false).rel r c }

def transposedInto (a dst : ARel) : ARel :=
  { dst.resize a.size false with
    rel := fun r c => if r < a.size ∧ c < a.size then a.rel c r else (dst.resize a.size false).rel r c }

/-- `r.transposed(r)`: the part above the diagonal is mirrored onto the part below it -/
def transposedSelf (a : ARel) : ARel :=
  { a with rel := fun r c => if r < a.size ∧ c < a.size ∧ c < r then a.rel c r else a.rel r c }

def andWith (a b : ARel) : ARel :=
  { a with rel := fun r c => if r < a.size ∧ c < a.size then (a.rel r c && b.rel r c) else a.rel r c }

def rsym (a : ARel) : ARel :=
  { a with rel := fun r c => if r < a.size ∧ c < a.size then (a.rel r c && a.rel c r) else a.rel r c }

def rows (a : ARel) : BMat := (List.range a.size).map (fun r => (List.range a.size).map (fun c => a.rel r c))

def sym (a : ARel) (r c : Nat) : Bool := a.rel r c && a.rel c r

def index (a : ARel) (pre : List (List Nat)) : List (List Nat) :=
  (List.range a.size).map (fun r => pre.getD r [] ++ (List.range a.size).filter (fun c => a.rel r c))

def invIndex (a : ARel) (pre : List (List Nat)) : List (List Nat) :=
  (List.range a.size).map (fun c => pre.getD c [] ++ (List.range a.size).filter (fun r => a.rel r c))

def print (a : ARel) : String :=
  forN a.size (fun i s => forN a.size (fun j s => s ++ (if a.rel i j then "1" else "0")) s ++ "\n") ""

end ARel

/-- the flat matrix **denotes** the abstract relation: same size and capacity, and every cell below the capacity holds
the value of the two-dimensional function -/
def Refines (m : Mat) (a : ARel) : Prop :=
  WF m ∧ 0 < m.rowSize ∧ m.size = a.size ∧ m.rowSize = a.cap ∧ ∀ r c, r < a.cap → c < a.cap → m.get r c = a.rel r c

namespace Refines

variable {m : Mat} {a : ARel}

theorem size_eq (h : Refines m a) : m.size = a.size := h.2.2.1
theorem cap_eq (h : Refines m a) : m.rowSize = a.cap := h.2.2.2.1

theorem get_cap (h : Refines m a) {r c : Nat} (hr : r < a.cap) (hc : c < a.cap) :
    m.get r c = a.rel r c := h.2.2.2.2 r c hr hc

theorem lt_cap (h : Refines m a) {r : Nat} (hr : r < a.size) : r < a.cap :=
  Nat.lt_of_lt_of_le hr (h.size_eq ▸ h.cap_eq ▸ h.1.1)

theorem get_eq (h : Refines m a) {r c : Nat} (hr : r < a.size) (hc : c < a.size) :
    m.get r c = a.rel r c := h.get_cap (h.lt_cap hr) (h.lt_cap hc)

theorem update {m m' : Mat} {a : ARel} (h : Refines m a) {F rel' : Nat → Nat → Bool} (hu : Mat.Upd m m' F)
    (hg : ∀ r c, r < a.cap → c < a.cap → F r c = rel' r c) : Refines m' { a with rel := rel' } :=
  ⟨hu.wf, hu.rowSize ▸ h.2.1, hu.size.trans h.size_eq, hu.rowSize.trans h.cap_eq,
    fun r c hr hc => (hu.get r c (h.cap_eq ▸ hc)).trans (hg r c hr hc)⟩

theorem mk' (size : Nat) (d : Bool) {rs : Nat} (hp : 0 < rs) : Refines (Mat.mk' size d rs) (ARel.mk' size d rs) := by
  obtain ⟨w1, w2, w3, w4, w5⟩ := Mat.mk'_spec size d hp
  exact ⟨w1, w2, w3, w4, fun r c hr hc => w5 r c (w4 ▸ hr) (w4 ▸ hc)⟩

theorem set (h : Refines m a) {r c : Nat} (hr : r < a.size) (hc : c < a.size) (v : Bool) :
    Refines (m.set r c v) (a.set r c v) :=
  h.update ⟨rfl, rfl, Mat.wf_set h.1 _ _ _, fun r' _ hc' =>
      Mat.get_set_cap h.1 (h.cap_eq ▸ h.lt_cap hr) (h.cap_eq ▸ h.lt_cap hc) v r' hc'⟩
    (fun r' c' hr' hc' => by rw [h.get_cap hr' hc'])

theorem reset (h : Refines m a) (v : Bool) : Refines (m.reset v) (a.reset v) :=
  ⟨Mat.wf_reset h.1 v, h.2.1, h.size_eq, h.cap_eq, fun _ _ hr hc => Mat.get_reset h.1 v (h.cap_eq ▸ hr) (h.cap_eq ▸ hc)⟩

theorem withSize (h : Refines m a) {n : Nat} (hn : n ≤ a.cap) : Refines { m with size := n } { a with size := n } :=
  ⟨⟨h.cap_eq ▸ hn, h.1.2⟩, h.2.1, rfl, h.cap_eq, h.2.2.2.2⟩

theorem grow (h : Refines m a) (n : Nat) (d : Bool) :
    Refines (m.grow n d)
      ⟨a.size, Mat.growRow a.cap n, fun r c => if r < a.size ∧ c < a.size then a.rel r c else d⟩ ∧
    n < Mat.growRow a.cap n := by
  obtain ⟨g1, g2, g3, g4, g5, g6⟩ := Mat.grow_spec h.1 h.2.1 n d
  rw [h.cap_eq] at g5
  refine ⟨⟨g1, Nat.lt_of_lt_of_le h.2.1 g3, g4.trans h.size_eq, g5, fun r c hr hc => ?_⟩, g5 ▸ g2⟩
  rw [g6 r c (g5 ▸ hr) (g5 ▸ hc), h.size_eq]
  exact ite_congr rfl (fun hin => h.get_eq hin.1 hin.2) (fun _ => rfl)

theorem resize {m : Mat} {a : ARel} (h : Refines m a) (n : Nat) (d : Bool) : Refines (m.resize n d) (a.resize n d) := by
  unfold ARel.resize
  by_cases hn : a.cap < n
  · rw [if_pos hn, Mat.resize_of_lt d (h.cap_eq ▸ hn)]
    exact (h.grow n d).1.withSize (Nat.le_of_lt (h.grow n d).2)
  · rw [if_neg hn, Mat.resize_nogrow d (h.cap_eq ▸ Nat.le_of_not_lt hn)]
    exact h.withSize (Nat.le_of_not_lt hn)

theorem ensure (h : Refines m a) : Refines m.ensure a.ensure ∧ a.ensure.size = a.size ∧ a.size < a.ensure.cap := by
  unfold Mat.ensure ARel.ensure
  rw [h.size_eq, h.cap_eq]
  by_cases hg : a.size ≥ a.cap
  · rw [if_pos hg, if_pos hg]
    exact ⟨(h.grow _ false).1, rfl, Nat.lt_of_succ_lt (h.grow _ false).2⟩
  · rw [if_neg hg, if_neg hg]
    exact ⟨h, rfl, Nat.lt_of_not_le hg⟩

theorem alloc (h : Refines m a) : Refines m.alloc.1 a.alloc.1 ∧ m.alloc.2 = a.alloc.2 := by
  obtain ⟨⟨w, p, s, rs, g⟩, hs, hc⟩ := ensure h
  unfold Mat.alloc ARel.alloc
  exact ⟨⟨⟨Nat.succ_le_of_lt (s ▸ rs ▸ hs ▸ hc), w.2⟩, p, congrArg (· + 1) s, rs, g⟩, s⟩

theorem split (h : Refines m a) {i : Nat} (hi : i < a.size) (refl : Bool) :
    Refines (m.split i refl).1 (a.split i refl).1 ∧ (m.split i refl).2 = (a.split i refl).2 := by
  obtain ⟨he, hs, hc⟩ := ensure h
  have hes : m.ensure.size = a.size := he.size_eq.trans hs
  have hic : i < a.ensure.cap := Nat.lt_trans hi hc
  obtain ⟨d, hd, hds, hg⟩ := Mat.splitCore_spec he.1 (hes ▸ he.cap_eq ▸ hc) (i := i) (hes ▸ hi) refl
  rw [Mat.split, hd]
  unfold ARel.split
  refine ⟨⟨⟨Nat.succ_le_of_lt (hes ▸ he.cap_eq ▸ hc), hds⟩, he.2.1, congrArg (· + 1) he.size_eq, he.cap_eq,
    fun r c hr hc' => ?_⟩, hes⟩
  rw [get_eq_cell, hg r c (he.cap_eq ▸ hc'), hes, he.get_cap hic hc', he.get_cap hr hic, he.get_cap hr hc']

theorem ofRows (rows : List (List Bool)) : Refines (Mat.ofRows rows) (ARel.ofRows rows) :=
  have hb := resize (mk' 0 false (rs := 16) (by decide)) rows.length false
  hb.update (Mat.ofRows_cells rows) (fun _ _ hr hc => ite_congr rfl (fun _ => rfl) (fun _ => hb.get_cap hr hc))

theorem transposedInto {m dst : Mat} {a d : ARel} (hm : Refines m a) (hd : Refines dst d) :
    Refines (m.transposedInto dst) (a.transposedInto d) := by
  have hb := resize hd a.size false
  have u := Mat.transposedInto_spec (m := m) hd.1 hd.2.1
  rw [hm.size_eq] at u
  exact hb.update u (fun _ _ hr hc => ite_congr rfl (fun hin => hm.get_eq hin.2 hin.1) (fun _ => hb.get_cap hr hc))

theorem andWith {m rhs : Mat} {a b : ARel} (hm : Refines m a) (hr : Refines rhs b) (hs : a.size = b.size) :
    Refines (m.andWith rhs) (a.andWith b) := by
  refine hm.update (Mat.andWith_spec hm.1 rhs) (fun r c hr' hc' => ?_)
  rw [hm.size_eq, hm.get_cap hr' hc']
  exact ite_congr rfl (fun hin => by rw [hr.get_eq (hs ▸ hin.1) (hs ▸ hin.2)]) (fun _ => rfl)

theorem andSelf (hm : Refines m a) : Refines m.andSelf (a.andWith a) :=
  hm.update (Mat.andSelf_spec hm.1) (fun r c hr' hc' => by rw [hm.get_cap hr' hc', Bool.and_self, ite_self])

theorem rsym (hm : Refines m a) : Refines m.restrictToSymmetric a.rsym := by
  obtain ⟨k1, k2, k3, _, k5⟩ := Mat.restrictToSymmetric_refines hm.1
  refine hm.update ⟨k2, k3, k1, fun _ _ _ => rfl⟩ (fun r c hr' hc' => ?_)
  show _ = if r < a.size ∧ c < a.size then (a.rel r c && a.rel c r) else a.rel r c
  by_cases hin : r < a.size ∧ c < a.size
  · rw [if_pos hin, Mat.restrictToSymmetric_spec hm.1 (hm.size_eq ▸ hin.1) (hm.size_eq ▸ hin.2), hm.get_cap hr' hc',
      hm.get_cap hc' hr']
  · rw [if_neg hin, k5 r c (hm.cap_eq ▸ hc') (hm.size_eq ▸ hin), hm.get_cap hr' hc']

theorem transposedSelf (hm : Refines m a) : Refines m.transposedSelf a.transposedSelf :=
  hm.update (Mat.transposedSelf_spec hm.1) (fun r c hr' hc' => by rw [hm.size_eq, hm.get_cap hr' hc', hm.get_cap hc' hr'])

end Refines


theorem forN_sim {σ τ : Type} (R : Nat → σ → τ → Prop) {n : Nat} {f : Nat → σ → σ} {g : Nat → τ → τ} {s : σ} {t : τ}
    (h0 : R 0 s t) (hs : ∀ i s t, i < n → R i s t → R (i + 1) (f i s) (g i t)) : R n (forN n f s) (forN n g t) :=
  forN_ind (fun i s' => R i s' (forN i g t)) h0 (fun i s' hi h => by rw [forN_succ]; exact hs i s' _ hi h)

/-- two loop bodies that agree wherever an invariant of the first one holds compute the same -/
theorem forN_congr_inv {σ : Type} (I : Nat → σ → Prop) {n : Nat} {f g : Nat → σ → σ} {s : σ} (h0 : I 0 s)
    (hI : ∀ i s, i < n → I i s → I (i + 1) (f i s)) (hfg : ∀ i s, i < n → I i s → f i s = g i s) :
    forN n f s = forN n g s :=
  (forN_ind (fun i t => I i t ∧ t = forN i g s) ⟨h0, rfl⟩
    (fun i t hi ⟨h1, h2⟩ => ⟨hI i t hi h1, by rw [forN_succ, ← h2, hfg i t hi h1]⟩)).2

theorem forN_congr {σ : Type} {n : Nat} {f g : Nat → σ → σ} (h : ∀ i s, i < n → f i s = g i s) (s : σ) :
    forN n f s = forN n g s :=
  forN_congr_inv (fun _ _ => True) trivial (fun _ _ _ _ => trivial) (fun i s hi _ => h i s hi)

def cl2Step (sym : Nat → Nat → Bool) (i : Nat) (st : List Nat × List Nat) : List Nat × List Nat :=
  let j := findHead sym i st.2
  if j < st.2.length then (st.1.set i j, st.2) else (st.1.set i st.2.length, st.2 ++ [i])

def cl1Step (sym : Nat → Nat → Bool) (i : Nat) (st : List Nat × List Nat) : List Nat × List Nat :=
  let j := findHead sym i st.2
  if j < st.2.length then (st.1.set i (st.2.getD j 0), st.2) else (st.1.set i i, st.2 ++ [i])

theorem classes2_eq (sym : Nat → Nat → Bool) (n : Nat) : classes2 sym n = forN n (cl2Step sym) (List.replicate n 0, []) := rfl
theorem classes1_eq (sym : Nat → Nat → Bool) (n : Nat) : classes1 sym n = (forN n (cl1Step sym) (List.replicate n 0, [])).1 := rfl

section
variable {sym : Nat → Nat → Bool} {i : Nat} {st : List Nat × List Nat}

theorem findHead_lt {hd : List Nat} (hf : findHead sym i hd < hd.length) :
    hd.getD (findHead sym i hd) 0 ∈ hd ∧ sym i (hd.getD (findHead sym i hd) 0) = true := by
  rw [List.getD_eq_getElem?_getD, List.getElem?_eq_getElem hf]
  exact ⟨List.getElem_mem hf, List.findIdx_getElem (p := fun h => sym i h) (w := hf)⟩

theorem findHead_ge {hd : List Nat} (hf : ¬ findHead sym i hd < hd.length) :
    ∀ x ∈ hd, sym i x = false :=
  List.findIdx_eq_length.1 (Nat.le_antisymm List.findIdx_le_length (Nat.le_of_not_lt hf))

theorem cl1Step_pos (hf : findHead sym i st.2 < st.2.length) :
    cl1Step sym i st = (st.1.set i (st.2.getD (findHead sym i st.2) 0), st.2) := if_pos hf

theorem cl1Step_neg (hf : ¬ findHead sym i st.2 < st.2.length) :
    cl1Step sym i st = (st.1.set i i, st.2 ++ [i]) := if_neg hf

theorem cl2Step_pos (hf : findHead sym i st.2 < st.2.length) :
    cl2Step sym i st = (st.1.set i (findHead sym i st.2), st.2) := if_pos hf

theorem cl2Step_neg (hf : ¬ findHead sym i st.2 < st.2.length) :
    cl2Step sym i st = (st.1.set i st.2.length, st.2 ++ [i]) := if_neg hf

theorem cl2Step_snd : (cl2Step sym i st).2 = (cl1Step sym i st).2 := by
  by_cases hf : findHead sym i st.2 < st.2.length
  · rw [cl1Step_pos hf, cl2Step_pos hf]
  · rw [cl1Step_neg hf, cl2Step_neg hf]

theorem cl1Step_heads_lt (ih : ∀ h, h ∈ st.2 → h < i) :
    ∀ h, h ∈ (cl1Step sym i st).2 → h < i + 1 := by
  intro h hh
  by_cases hf : findHead sym i st.2 < st.2.length
  · rw [cl1Step_pos hf] at hh
    exact Nat.lt_succ_of_lt (ih h hh)
  · rw [cl1Step_neg hf] at hh
    rcases List.mem_append.1 hh with x | x
    · exact Nat.lt_succ_of_lt (ih h x)
    · rw [List.mem_singleton.1 x]; exact Nat.lt_succ_self _

end

theorem cl1_heads_lt (sym : Nat → Nat → Bool) (n : Nat) :
    ∀ h, h ∈ (forN n (cl1Step sym) (List.replicate n 0, [])).2 → h < n :=
  forN_ind (fun i (st : List Nat × List Nat) => ∀ h, h ∈ st.2 → h < i) (fun _ h => nomatch h)
    (fun _ _ _ ih => cl1Step_heads_lt ih)

structure SymEquiv (sym : Nat → Nat → Bool) (n : Nat) : Prop where
  refl : ∀ i, i < n → sym i i = true
  symm : ∀ i j, i < n → j < n → sym i j = true → sym j i = true
  trans : ∀ i j k, i < n → j < n → k < n → sym i j = true → sym j k = true → sym i k = true

def Least (sym : Nat → Nat → Bool) (l : Nat) : Prop := ∀ k, k < l → sym l k = false

def Done (sym : Nat → Nat → Bool) (l : List Nat) (i : Nat) : Prop :=
  ∀ k, k < i → Least sym (l.getD k 0) ∧ l.getD k 0 ≤ k ∧ sym k (l.getD k 0) = true

theorem Done.set {sym : Nat → Nat → Bool} {l : List Nat} {i v : Nat} (hi : i < l.length) (h1 : Least sym v) (h2 : v ≤ i)
    (h3 : sym i v = true) (hd : Done sym l i) : Done sym (l.set i v) (i + 1) := by
  intro k hk
  rw [getD_set]
  by_cases hki : i = k
  · rw [if_pos ⟨hki, hi⟩, ← hki]; exact ⟨h1, h2, h3⟩
  · rw [if_neg (fun x => hki x.1)]
    exact hd k (Nat.lt_of_le_of_ne (Nat.le_of_lt_succ hk) (Ne.symm hki))

/-- invariant of `buildClasses(headIndex)` on an equivalence: the heads are the least elements of the classes met so
far, and the indices below `i` are done -/
structure Cl1Inv (sym : Nat → Nat → Bool) (n i : Nat) (st : List Nat × List Nat) : Prop where
  len : st.1.length = n
  heads : ∀ h, h ∈ st.2 ↔ (Least sym h ∧ h < i)
  done : Done sym st.1 i

theorem cl1_step {sym : Nat → Nat → Bool} {n : Nat} (hE : SymEquiv sym n) {i : Nat} (hi : i < n)
    {st : List Nat × List Nat} (h : Cl1Inv sym n i st) : Cl1Inv sym n (i + 1) (cl1Step sym i st) := by
  by_cases hf : findHead sym i st.2 < st.2.length
  · -- `i` joins the class of a head
    rw [cl1Step_pos hf]
    obtain ⟨hmem, hsym⟩ := findHead_lt hf
    obtain ⟨hleast, hlt⟩ := (h.heads _).1 hmem
    refine ⟨(List.length_set ..).trans h.len, fun x => ?_, h.done.set (h.len ▸ hi) hleast (Nat.le_of_lt hlt) hsym⟩
    rw [h.heads x, and_lt_succ]
    refine (or_iff_right (fun hx => ?_)).symm
    have := hx.1 _ (hx.2 ▸ hlt)
    rw [hx.2, hsym] at this
    exact Bool.noConfusion this
  · -- `i` is the least element of a new class
    rw [cl1Step_neg hf]
    have hnone := findHead_ge hf
    have hleast : Least sym i := by
      intro k hk
      cases hs : sym i k with
      | false => rfl
      | true =>
        obtain ⟨d1, d2, d3⟩ := h.done k hk
        have hmem := (h.heads _).2 ⟨d1, Nat.lt_of_le_of_lt d2 hk⟩
        have hkn := Nat.lt_trans hk hi
        have := hE.trans i k _ hi hkn (Nat.lt_of_le_of_lt d2 hkn) hs d3
        rw [hnone _ hmem] at this
        exact Bool.noConfusion this
    refine ⟨(List.length_set ..).trans h.len, fun x => ?_, h.done.set (h.len ▸ hi) hleast (Nat.le_refl _) (hE.refl i hi)⟩
    rw [List.mem_append, List.mem_singleton, h.heads x, and_lt_succ, or_comm]
    exact or_congr_left ⟨fun e => ⟨e ▸ hleast, e⟩, And.right⟩

/-- **`buildClasses(headIndex)` on an equivalence**: every index is mapped to the least index of its class -/
theorem classes1_equiv {sym : Nat → Nat → Bool} {n : Nat} (hE : SymEquiv sym n) :
    (classes1 sym n).length = n ∧
    ∀ k, k < n → (classes1 sym n).getD k 0 ≤ k ∧ sym k ((classes1 sym n).getD k 0) = true ∧
      ∀ j, j < n → sym k j = true → (classes1 sym n).getD k 0 ≤ j := by
  have inv : Cl1Inv sym n n (forN n (cl1Step sym) (List.replicate n 0, [])) :=
    forN_ind (fun i st => Cl1Inv sym n i st)
      ⟨List.length_replicate, fun _ => ⟨fun h => (nomatch h), fun h => absurd h.2 (Nat.not_lt_zero _)⟩,
        fun _ hk => absurd hk (Nat.not_lt_zero _)⟩
      (fun i st hi h => cl1_step hE hi h)
  rw [classes1_eq]
  refine ⟨inv.len, fun k hk => ?_⟩
  obtain ⟨d1, d2, d3⟩ := inv.done k hk
  refine ⟨d2, d3, fun j hj hkj => Nat.le_of_not_lt (fun hlt => ?_)⟩
  have hvn := Nat.lt_of_le_of_lt d2 hk
  have h2 := hE.trans _ k j hvn hk hj (hE.symm k _ hk hvn d3) hkj
  rw [d1 j hlt] at h2
  exact Bool.noConfusion h2

/-- the two overloads of `buildClasses` agree: `headIndex[i] = head[index[i]]` -/
theorem classes1_classes2 (sym : Nat → Nat → Bool) (n : Nat) :
    classes1 sym n = (classes2 sym n).1.map (fun j => (classes2 sym n).2.getD j 0) := by
  have key := forN_sim (fun i (s t : List Nat × List Nat) => s.2 = t.2 ∧ s.1.length = n ∧ t.1.length = n ∧
      ∀ k, k < i → t.1.getD k 0 < t.2.length ∧ s.1.getD k 0 = t.2.getD (t.1.getD k 0) 0)
    (f := cl1Step sym) (g := cl2Step sym) (s := (List.replicate n 0, [])) (t := (List.replicate n 0, [])) (n := n)
    ⟨rfl, List.length_replicate, List.length_replicate, fun k hk => absurd hk (Nat.not_lt_zero _)⟩ ?_
  · obtain ⟨_, k2, k3, k4⟩ := key
    rw [classes1_eq, classes2_eq]
    refine ext_getD (d := 0) (by rw [k2, List.length_map, k3]) (fun k hk => ?_)
    rw [(k4 k (k2 ▸ hk)).2, getD_map _ _ (by rw [k3, ← k2]; exact hk) 0]
  · intro i s t hi ⟨e, l1, l2, hd⟩
    -- the entry written in round `i`, and the earlier ones
    have step : ∀ {v w : Nat} {hd' : List Nat}, w < hd'.length → v = hd'.getD w 0 →
        (∀ k, k < i → t.1.getD k 0 < hd'.length ∧ t.2.getD (t.1.getD k 0) 0 = hd'.getD (t.1.getD k 0) 0) →
        ∀ k, k < i + 1 → (t.1.set i w).getD k 0 < hd'.length ∧
          (s.1.set i v).getD k 0 = hd'.getD ((t.1.set i w).getD k 0) 0 := by
      intro v w hd' hw hv hold k hk
      rw [getD_set, getD_set, l1, l2]
      by_cases hki : i = k
      · rw [if_pos ⟨hki, hi⟩, if_pos ⟨hki, hi⟩]; exact ⟨hw, hv⟩
      · have hk' : k < i := Nat.lt_of_le_of_ne (Nat.le_of_lt_succ hk) (Ne.symm hki)
        rw [if_neg (fun h => hki h.1), if_neg (fun h => hki h.1), (hd k hk').2]
        exact hold k hk'
    by_cases hf : findHead sym i t.2 < t.2.length
    · rw [cl1Step_pos (e ▸ hf), cl2Step_pos hf, e]
      exact ⟨rfl, (List.length_set ..).trans l1, (List.length_set ..).trans l2,
        step hf rfl (fun k hk => ⟨(hd k hk).1, rfl⟩)⟩
    · rw [cl1Step_neg (e ▸ hf), cl2Step_neg hf, e]
      exact ⟨rfl, (List.length_set ..).trans l1, (List.length_set ..).trans l2,
        step (by rw [List.length_append]; exact Nat.lt_succ_self _) (getD_concat_length ..).symm (fun k hk =>
          ⟨by rw [List.length_append]; exact Nat.lt_succ_of_lt (hd k hk).1, (getD_concat_of_lt _ _ _ (hd k hk).1).symm⟩)⟩


/-! `buildClasses` looks at `sym` below `n` only -/

section
variable {sym sym' : Nat → Nat → Bool} {n : Nat} (h : ∀ i j, i < n → j < n → sym i j = sym' i j)
include h

theorem findHead_congr {i : Nat} (hi : i < n) : ∀ {hd : List Nat}, (∀ x, x ∈ hd → x < i) → findHead sym i hd = findHead sym' i hd
  | [], _ => rfl
  | x :: hd, hl => by
    unfold findHead
    rw [List.findIdx_cons, List.findIdx_cons, h i x hi (Nat.lt_trans (hl x List.mem_cons_self) hi)]
    exact congrArg (fun k => bif sym' i x then 0 else k + 1)
      (findHead_congr hi (fun y hy => hl y (List.mem_cons_of_mem _ hy)))

theorem cl2_congr :
    forN n (cl2Step sym) (List.replicate n 0, []) = forN n (cl2Step sym') (List.replicate n 0, []) :=
  forN_congr_inv (fun i st => ∀ x, x ∈ st.2 → x < i) (fun _ h => nomatch h)
    (fun i st _ ih => by rw [cl2Step_snd]; exact cl1Step_heads_lt ih)
    (fun i st hi hl => by unfold cl2Step; rw [findHead_congr h hi hl])

theorem classes2_congr : classes2 sym n = classes2 sym' n := by rw [classes2_eq, classes2_eq, cl2_congr h]

theorem classes1_congr : classes1 sym n = classes1 sym' n := by
  rw [classes1_classes2, classes1_classes2, classes2_congr h]

end


namespace Ident

theorem symEquiv (a : Ident) : SymEquiv a.sym a.size := by
  refine ⟨fun i _ => by simp [sym], fun i j _ _ h => ?_, fun i j k _ _ _ h1 h2 => ?_⟩
  · simp only [sym, beq_iff_eq] at h ⊢; exact h.symm
  · simp only [sym, beq_iff_eq] at h1 h2 ⊢; exact h1.trans h2

/-- **`Identity::buildClasses(headIndex)`**: every index is its own class -/
theorem classes1_eq_range (a : Ident) : a.classes1 = List.range a.size := by
  obtain ⟨h1, h2⟩ := classes1_equiv a.symEquiv
  refine ext_getD (d := 0) (by rw [List.length_range]; exact h1) (fun k hk => ?_)
  rw [getD_range (h1 ▸ hk)]
  exact (eq_of_beq (h2 k (h1 ▸ hk)).2.1).symm

/-- **`Identity::buildClasses(index, head)`**: `index[i] = i`, `head = 0, 1, …, size-1` -/
theorem classes2_eq_range (a : Ident) : a.classes2 = (List.range a.size, List.range a.size) := by
  have key := forN_ind (n := a.size) (f := cl2Step a.sym) (s := (List.replicate a.size 0, []))
    (fun i (st : List Nat × List Nat) => st.2 = List.range i ∧ st.1.length = a.size ∧ ∀ k, k < i → st.1.getD k 0 = k)
    ⟨rfl, List.length_replicate, fun k hk => absurd hk (Nat.not_lt_zero _)⟩ ?_
  · obtain ⟨k1, k2, k3⟩ := key
    rw [classes2, classes2_eq]
    refine Prod.ext (ext_getD (d := 0) (by rw [List.length_range]; exact k2) (fun k hk => ?_)) k1
    rw [k3 k (k2 ▸ hk)]
    exact (getD_range (k2 ▸ hk) 0).symm
  · intro i st hi ⟨h1, h2, h3⟩
    -- no earlier index is related to `i`: a new head
    have hnf : ¬ findHead a.sym i st.2 < st.2.length := fun hf => by
      obtain ⟨hm, hs⟩ := findHead_lt hf
      have hs' : i = st.2.getD (findHead a.sym i st.2) 0 := eq_of_beq hs
      rw [← hs', h1] at hm
      exact Nat.lt_irrefl i (List.mem_range.1 hm)
    rw [cl2Step_neg hnf, h1, List.length_range]
    refine ⟨List.range_succ.symm, (List.length_set ..).trans h2, fun k hk => ?_⟩
    rw [getD_set, h2]
    by_cases hki : i = k
    · rw [if_pos ⟨hki, hi⟩, hki]
    · rw [if_neg (fun h => hki h.1)]
      exact h3 k (Nat.lt_of_le_of_ne (Nat.le_of_lt_succ hk) (Ne.symm hki))

end Ident


namespace Mat

theorem symEquiv_of_isEquiv {m : Mat} (h : IsEquiv m) : SymEquiv m.sym m.size := by
  refine ⟨fun i hi => ?_, fun i j _ _ hs => ?_, fun i j k hi hj hk h1 h2 => ?_⟩
  · rw [sym, h.refl i hi]; rfl
  · rw [sym, Bool.and_comm]; exact hs
  · rw [sym, Bool.and_eq_true] at h1 h2 ⊢
    exact ⟨h.trans i j k hi hj hk h1.1 h2.1, h.trans k j i hk hj hi h2.2 h1.2⟩

theorem quotProj_eq_classes1 {m : Mat} (h : IsEquiv m) : m.quotProj = (classes1 m.sym m.size).map some := by
  obtain ⟨q1, q2⟩ := quotProj_equiv h
  obtain ⟨c1, c2⟩ := classes1_equiv (symEquiv_of_isEquiv h)
  refine ext_getD (d := none) (by rw [q1, List.length_map, c1]) (fun k hk => ?_)
  rw [q1] at hk
  obtain ⟨a, ha1, ha2, ha3, ha4, _⟩ := q2 k hk
  obtain ⟨b1, b2, b3⟩ := c2 k hk
  rw [ha1, getD_map _ _ (c1.symm ▸ hk) 0]
  -- both are the least index of the class of `k`
  rw [sym, Bool.and_eq_true] at b2
  have hka : m.sym k a = true := by rw [sym, ha3, h.symm a k (Nat.lt_of_le_of_lt ha2 hk) hk ha3]; rfl
  exact congrArg some (Nat.le_antisymm (ha4 _ (Nat.lt_of_le_of_lt b1 hk) b2.2) (b3 a (Nat.lt_of_le_of_lt ha2 hk) hka))

end Mat


abbrev APool := List ARel

def stepA (p : APool) : Op → Option (APool × Out)
  | .new size d rs => if 0 < rs then some (p ++ [ARel.mk' size d rs], .none) else none
  | .ofRows rows => if rows.all (fun r => r.length == rows.length) then some (p ++ [ARel.ofRows rows], .none) else none
  | .copy k => do let a ← p[k]?; some (p ++ [a], .none)
  | .assign k j => do let _ ← p[k]?; let a ← p[j]?; some (p.set k a, .none)
  | .set k r c v => do
    let a ← p[k]?
    if r < a.size ∧ c < a.size then some (p.set k (a.set r c v), .none) else none
  | .reset k v => do let a ← p[k]?; some (p.set k (a.reset v), .none)
  | .resize k n d => do let a ← p[k]?; some (p.set k (a.resize n d), .none)
  | .alloc k => do let a ← p[k]?; let r := a.alloc; some (p.set k r.1, .nat r.2)
  | .split k i refl => do
    let a ← p[k]?
    if i < a.size then let r := a.split i refl; some (p.set k r.1, .nat r.2) else none
  | .transp k j => do
    let a ← p[k]?
    let d ← p[j]?
    some (p.set j (if k = j then a.transposedSelf else a.transposedInto d), .none)
  | .and k j => do
    let a ← p[k]?
    let d ← p[j]?
    if a.size = d.size then some (p.set k (if k = j then a.andWith a else a.andWith d), .none) else none
  | .rsym k => do let a ← p[k]?; some (p.set k a.rsym, .none)
  | .get k r c => do
    let a ← p[k]?
    if r < a.size ∧ c < a.size then some (p, .bool (a.rel r c)) else none
  | .sym k r c => do
    let a ← p[k]?
    if r < a.size ∧ c < a.size then some (p, .bool (a.sym r c)) else none
  | .index k pre => do let a ← p[k]?; some (p, .idx (a.index pre))
  | .invIndex k pre => do let a ← p[k]?; some (p, .idx (a.invIndex pre))
  | .index2 k pre1 pre2 => do let a ← p[k]?; some (p, .idx2 (a.index pre1) (a.invIndex pre2))
  | .quot k => do let a ← p[k]?; some (p, .onats (quotientProjectionIdx a.rows))
  | .classes1 k => do let a ← p[k]?; some (p, .nats (classes1 a.sym a.size))
  | .classes2 k => do let a ← p[k]?; let r := classes2 a.sym a.size; some (p, .classes r.1 r.2)
  | .print k => do let a ← p[k]?; some (p, .text a.print)

def runA (p : APool) : List Op → APool × List (Option Out)
  | [] => (p, [])
  | op :: ops =>
    match stepA p op with
    | some (p', o) => let r := runA p' ops; (r.1, some o :: r.2)
    | none => let r := runA p ops; (r.1, none :: r.2)

def PoolRef (pc : Pool) (pa : APool) : Prop :=
  pc.length = pa.length ∧ ∀ (k : Nat) (m : Mat) (a : ARel), pc[k]? = some m → pa[k]? = some a → Refines m a

namespace PoolRef

theorem lookup {pc : Pool} {pa : APool} (h : PoolRef pc pa) (k : Nat) : OptRel Refines pc[k]? pa[k]? := by
  by_cases hk : k < pc.length
  · rw [List.getElem?_eq_getElem hk, List.getElem?_eq_getElem (h.1 ▸ hk)]
    exact .some (h.2 k _ _ (List.getElem?_eq_getElem hk) (List.getElem?_eq_getElem (h.1 ▸ hk)))
  · rw [List.getElem?_eq_none (Nat.le_of_not_lt hk), List.getElem?_eq_none (h.1 ▸ Nat.le_of_not_lt hk)]
    exact .none

theorem append {pc : Pool} {pa : APool} (h : PoolRef pc pa) {m : Mat} {a : ARel} (hm : Refines m a) :
    PoolRef (pc ++ [m]) (pa ++ [a]) := by
  refine ⟨by rw [List.length_append, List.length_append, h.1]; rfl, fun k m' a' h1 h2 => ?_⟩
  by_cases hk : k < pc.length
  · rw [List.getElem?_append_left hk] at h1
    rw [List.getElem?_append_left (h.1 ▸ hk)] at h2
    exact h.2 k m' a' h1 h2
  · rw [List.getElem?_append_right (Nat.le_of_not_lt hk), List.getElem?_singleton] at h1
    rw [List.getElem?_append_right (h.1 ▸ Nat.le_of_not_lt hk), ← h.1, List.getElem?_singleton] at h2
    by_cases h0 : k - pc.length = 0
    · rw [if_pos h0] at h1 h2
      cases h1; cases h2; exact hm
    · rw [if_neg h0] at h1; cases h1

theorem set {pc : Pool} {pa : APool} (h : PoolRef pc pa) (k : Nat) {m : Mat} {a : ARel} (hm : Refines m a) :
    PoolRef (pc.set k m) (pa.set k a) := by
  refine ⟨by simp [h.1], ?_⟩
  intro j m' a' h1 h2
  rw [List.getElem?_set] at h1 h2
  by_cases hj : k = j
  · rw [if_pos hj] at h1 h2
    by_cases hl : k < pc.length
    · rw [if_pos hl] at h1
      rw [if_pos (by rw [← h.1]; exact hl)] at h2
      cases h1; cases h2; exact hm
    · rw [if_neg hl] at h1; cases h1
  · rw [if_neg hj] at h1 h2
    exact h.2 j m' a' h1 h2

end PoolRef


namespace Refines

variable {m : Mat} {a : ARel}

theorem sym_eq (h : Refines m a) {r c : Nat} (hr : r < a.size) (hc : c < a.size) :
    m.sym r c = a.sym r c := by
  unfold Mat.sym ARel.sym
  rw [h.get_eq hr hc, h.get_eq hc hr]

theorem toBMat_eq (h : Refines m a) : m.toBMat = a.rows := by
  unfold Mat.toBMat ARel.rows
  rw [h.size_eq]
  exact List.map_congr_left fun r hr => List.map_congr_left fun c hc =>
    h.get_eq (List.mem_range.mp hr) (List.mem_range.mp hc)

theorem index_eq (h : Refines m a) (pre : List (List Nat)) : m.buildIndex pre = a.index pre := by
  rw [Mat.buildIndex_spec, ARel.index, h.size_eq]
  exact List.map_congr_left fun r hr => congrArg (pre.getD r [] ++ ·)
    (List.filter_congr fun c hc => h.get_eq (List.mem_range.mp hr) (List.mem_range.mp hc))

theorem invIndex_eq (h : Refines m a) (pre : List (List Nat)) :
    m.buildInvIndex pre = a.invIndex pre := by
  rw [Mat.buildInvIndex_spec, ARel.invIndex, h.size_eq]
  exact List.map_congr_left fun c hc => congrArg (pre.getD c [] ++ ·)
    (List.filter_congr fun r hr => h.get_eq (List.mem_range.mp hr) (List.mem_range.mp hc))

theorem quot_eq (h : Refines m a) : m.quotProj = quotientProjectionIdx a.rows := by
  rw [Mat.quotProj_refines, h.toBMat_eq]

theorem classes1_eq (h : Refines m a) : classes1 m.sym m.size = classes1 a.sym a.size := by
  rw [h.size_eq]
  exact classes1_congr (fun i j hi hj => h.sym_eq hi hj)

theorem classes2_eq (h : Refines m a) : classes2 m.sym m.size = classes2 a.sym a.size := by
  rw [h.size_eq]
  exact classes2_congr (fun i j hi hj => h.sym_eq hi hj)

theorem print_eq (h : Refines m a) : m.print = a.print := by
  unfold Mat.print ARel.print
  rw [h.size_eq]
  exact forN_congr (fun i s hi => congrArg (· ++ "\n") (forN_congr (fun j s' hj => by rw [h.get_eq hi hj]) s)) ""

end Refines


/-- the results of one step on related pools: related pools and the same returned value -/
def StepRel (x : Pool × Out) (y : APool × Out) : Prop := PoolRef x.1 y.1 ∧ x.2 = y.2

theorem step_refines {pc : Pool} {pa : APool} (h : PoolRef pc pa) (op : Op) : OptRel StepRel (stepC pc op) (stepA pa op) := by
  cases op with
  | new size d rs => exact .guard Iff.rfl (fun hp => ⟨h.append (Refines.mk' size d hp), rfl⟩)
  | ofRows rows => exact .guard Iff.rfl (fun _ => ⟨h.append (Refines.ofRows rows), rfl⟩)
  | copy k => exact (h.lookup k).bind (fun m a hr => .some ⟨h.append hr, rfl⟩)
  | assign k j => exact (h.lookup k).bind (fun _ _ _ => (h.lookup j).bind (fun m a hr => .some ⟨h.set k hr, rfl⟩))
  | set k r c v =>
    exact (h.lookup k).bind (fun m a hr => .guard (hr.size_eq ▸ Iff.rfl) (fun hb => ⟨h.set k (hr.set hb.1 hb.2 v), rfl⟩))
  | reset k v => exact (h.lookup k).bind (fun m a hr => .some ⟨h.set k (hr.reset v), rfl⟩)
  | resize k n d => exact (h.lookup k).bind (fun m a hr => .some ⟨h.set k (hr.resize n d), rfl⟩)
  | alloc k => exact (h.lookup k).bind (fun m a hr => .some ⟨h.set k hr.alloc.1, congrArg Out.nat hr.alloc.2⟩)
  | split k i refl =>
    exact (h.lookup k).bind (fun m a hr => .guard (hr.size_eq ▸ Iff.rfl)
      (fun hb => ⟨h.set k (hr.split hb refl).1, congrArg Out.nat (hr.split hb refl).2⟩))
  | transp k j =>
    refine (h.lookup k).bind (fun m a hr => (h.lookup j).bind (fun d b hd => .some ⟨h.set j ?_, rfl⟩))
    split
    · exact hr.transposedSelf
    · exact hr.transposedInto hd
  | and k j =>
    refine (h.lookup k).bind (fun m a hr => (h.lookup j).bind (fun d b hd => ?_))
    refine .guard (hr.size_eq ▸ hd.size_eq ▸ Iff.rfl) (fun hs => ⟨h.set k ?_, rfl⟩)
    split
    · exact hr.andSelf
    · exact hr.andWith hd hs
  | rsym k => exact (h.lookup k).bind (fun m a hr => .some ⟨h.set k hr.rsym, rfl⟩)
  | get k r c =>
    exact (h.lookup k).bind (fun m a hr => .guard (hr.size_eq ▸ Iff.rfl)
      (fun hb => ⟨h, congrArg Out.bool (hr.get_eq hb.1 hb.2)⟩))
  | sym k r c =>
    exact (h.lookup k).bind (fun m a hr => .guard (hr.size_eq ▸ Iff.rfl)
      (fun hb => ⟨h, congrArg Out.bool (hr.sym_eq hb.1 hb.2)⟩))
  | index k pre => exact (h.lookup k).bind (fun m a hr => .some ⟨h, congrArg Out.idx (hr.index_eq pre)⟩)
  | invIndex k pre => exact (h.lookup k).bind (fun m a hr => .some ⟨h, congrArg Out.idx (hr.invIndex_eq pre)⟩)
  | index2 k pre1 pre2 =>
    exact (h.lookup k).bind (fun m a hr => .some ⟨h, by rw [Mat.buildIndex2_spec, hr.index_eq, hr.invIndex_eq]⟩)
  | quot k => exact (h.lookup k).bind (fun m a hr => .some ⟨h, congrArg Out.onats hr.quot_eq⟩)
  | classes1 k => exact (h.lookup k).bind (fun m a hr => .some ⟨h, congrArg Out.nats hr.classes1_eq⟩)
  | classes2 k => exact (h.lookup k).bind (fun m a hr => .some ⟨h, by rw [hr.classes2_eq]⟩)
  | print k => exact (h.lookup k).bind (fun m a hr => .some ⟨h, congrArg Out.text hr.print_eq⟩)

/-- **the history theorem**: whatever operations are applied to a pool of relations, in whatever order, the flat
matrices (cells `r * rowSize + c`, reallocation, in-place loops) keep denoting the abstract relations, the two
interpreters refuse the same steps, and every step returns the same value -/
theorem runC_refines : ∀ (ops : List Op) {pc : Pool} {pa : APool}, PoolRef pc pa →
    PoolRef (runC pc ops).1 (runA pa ops).1 ∧ (runC pc ops).2 = (runA pa ops).2
  | [], _, _, h => ⟨h, rfl⟩
  | op :: ops, pc, pa, h => by
    unfold runC runA
    rcases (step_refines h op).inv with ⟨hc, ha⟩ | ⟨⟨pc', o⟩, ⟨pa', o'⟩, hc, ha, hp, ho⟩ <;> rw [hc, ha]
    · exact ⟨(runC_refines ops h).1, congrArg (none :: ·) (runC_refines ops h).2⟩
    · exact ⟨(runC_refines ops hp).1, by simp only [(runC_refines ops hp).2, show o = o' from ho]⟩

/-- from the empty pool: the observable state of every live relation (size and all entries below it) and all returned
values are those of the abstract model -/
theorem history (ops : List Op) :
    (runC [] ops).2 = (runA [] ops).2 ∧ (runC [] ops).1.map (fun m => (m.size, m.toBMat)) =
      (runA [] ops).1.map (fun a => (a.size, a.rows)) := by
  obtain ⟨h1, h2⟩ := runC_refines ops (pc := []) (pa := []) ⟨rfl, fun k m a hk _ => by simp at hk⟩
  refine ⟨h2, ?_⟩
  apply List.ext_getElem (by simp [h1.1])
  intro k g1 g2
  simp only [List.length_map] at g1 g2
  have hr := h1.2 k _ _ (List.getElem?_eq_getElem g1) (List.getElem?_eq_getElem g2)
  simp only [List.getElem_map]
  rw [hr.size_eq, hr.toBMat_eq]


namespace Mat

def isHead (m : Mat) (k : Nat) : Prop := m.quotProj.getD k none = some k

/-- **`GetQuotientProjection` on ANY relation** (the documentation calls the result undefined unless the relation is an
equivalence; the release build, which has no `assert`, computes this): only the entries above the diagonal are read;
an index is a *head* iff no earlier head is related to it (row = the head, column = the index); every index is mapped
to itself if it is a head, and otherwise to the LAST earlier head that is related to it (a later row overwrites what
an earlier one wrote) -/
theorem quotProj_general (m : Mat) :
    m.quotProj.length = m.size ∧
    ∀ i, i < m.size → ∃ k, m.quotProj.getD i none = some k ∧ k ≤ i ∧ m.isHead k ∧ (k = i ∨ m.get k i = true) ∧
      (∀ k', m.isHead k' → k < k' → k' < i → m.get k' i = false) ∧
      (k = i → ∀ k', m.isHead k' → k' < i → m.get k' i = false) := by
  have inv := RM.quotientProjectionIdx_general m.toBMat
  rw [length_toBMat, ← quotProj_refines] at inv
  refine ⟨inv.len, fun i hi => ?_⟩
  -- a head below `i` that is related to `i` forces an image between that head and `i`
  have claimed : ∀ k', m.isHead k' → k' < i → m.get k' i = true → ∃ k, m.quotProj.getD i none = some k ∧ k' ≤ k ∧ k < i :=
    fun k' hk' h1 h3 => inv.claimed k' i hk' h1 hi ((mget_toBMat (Nat.lt_trans h1 hi) hi).trans h3)
  cases hp : m.quotProj.getD i none with
  | none => exact absurd hp (inv.done i hi hi)
  | some k =>
    obtain ⟨_, r2, r3, r4⟩ := inv.rep i k hp
    refine ⟨k, rfl, r2, r3, r4.imp id (fun e => (mget_toBMat (Nat.lt_trans e.1 hi) hi).symm.trans e.2),
      fun k' hk' h1 h2 => Bool.eq_false_iff.2 (fun hg => ?_), fun hki k' hk' h2 => Bool.eq_false_iff.2 (fun hg => ?_)⟩
    · obtain ⟨k2, e2, h3, _⟩ := claimed k' hk' h2 hg
      exact absurd (Option.some.inj (hp.symm.trans e2) ▸ h3) (Nat.not_le.2 h1)
    · obtain ⟨k2, e2, _, h4⟩ := claimed k' hk' h2 hg
      exact absurd (hki ▸ Option.some.inj (hp.symm.trans e2) ▸ h4) (Nat.lt_irrefl _)

end Mat


theorem mapM_ok {α β : Type} {f : α → Except String β} {g : α → β} : ∀ (l : List α), (∀ x, x ∈ l → f x = .ok (g x)) →
    l.mapM f = .ok (l.map g)
  | [], _ => rfl
  | x :: l, h => by
    rw [List.mapM_cons, h x List.mem_cons_self, mapM_ok l (fun y hy => h y (List.mem_cons_of_mem _ hy))]
    rfl

namespace Dict

theorem lookup_append_none {l : List (Nat × Nat)} {k v : Nat} (h : l.lookup k = none) :
    (l ++ [(k, v)]).lookup k = some v := lookup_snoc_self h v

theorem foldl_addFresh : ∀ (ps l : List (Nat × Nat)), (∀ p, p ∈ ps → l.lookup p.1 = none) → (ps.map (·.1)).Nodup →
    ps.foldl (fun l p => if (l.lookup p.1).isSome then l else l ++ [(p.1, p.2)]) l = l ++ ps
  | [], l, _, _ => (List.append_nil l).symm
  | p :: ps, l, h, hn => by
    rw [List.map_cons, List.nodup_cons] at hn
    rw [List.foldl_cons, h p List.mem_cons_self, Option.isSome_none, if_neg Bool.false_ne_true,
      foldl_addFresh ps (l ++ [(p.1, p.2)]) (fun q hq => ?_) hn.2, List.append_assoc]
    · rfl
    · rw [List.lookup_append, h q (List.mem_cons_of_mem _ hq), Option.none_or, List.lookup_cons,
        beq_false_of_ne (fun e => hn.1 (List.mem_map.2 ⟨q, hq, e⟩))]
      rfl

theorem ofList_aux (ps : List (Nat × Nat)) (d : Dict)
    (h1 : ∀ p, p ∈ ps → d.fwd.lookup p.1 = none) (h2 : ∀ p, p ∈ ps → d.bwd.lookup p.2 = none)
    (n1 : (ps.map (·.1)).Nodup) (n2 : (ps.map (·.2)).Nodup) :
    (ps.foldl (fun d p => d.insert p.1 p.2) d).fwd = d.fwd ++ ps ∧
    (ps.foldl (fun d p => d.insert p.1 p.2) d).bwd = d.bwd ++ ps.map (fun p => (p.2, p.1)) := by
  constructor
  · rw [← foldl_addFresh ps d.fwd h1 n1]
    exact (List.foldl_hom Dict.fwd (fun _ _ => rfl)).symm
  · rw [← foldl_addFresh (ps.map (fun p => (p.2, p.1))) d.bwd
      (fun q hq => by obtain ⟨p, hp, e⟩ := List.mem_map.1 hq; rw [← e]; exact h2 p hp)
      (by rw [List.map_map]; exact n2), List.foldl_map]
    exact (List.foldl_hom Dict.bwd (fun _ _ => rfl)).symm

theorem ofList_spec {ps : List (Nat × Nat)} (n1 : (ps.map (·.1)).Nodup) (n2 : (ps.map (·.2)).Nodup) :
    (ofList ps).fwd = ps ∧ (ofList ps).bwd = ps.map (fun p => (p.2, p.1)) := by
  have := ofList_aux ps empty (fun _ _ => rfl) (fun _ _ => rfl) n1 n2
  rwa [show empty.fwd = [] from rfl, show empty.bwd = [] from rfl, List.nil_append, List.nil_append] at this

end Dict

namespace Disc

/-- **`DiscontBinaryRelation(rel, dict)::get`**: the entry of `rel` at the indices the dictionary gives -/
theorem get_ofRel {rel : Mat} {ps : List (Nat × Nat)} (n1 : (ps.map (·.1)).Nodup) (n2 : (ps.map (·.2)).Nodup)
    {x y i j : Nat} (hx : (x, i) ∈ ps) (hy : (y, j) ∈ ps) :
    (ofRel rel (Dict.ofList ps)).get x y = .ok (rel.get i j) := by
  have hf := (Dict.ofList_spec n1 n2).1
  simp only [get, getIdx, at', ofRel, hf, lookup_of_mem n1 hx, lookup_of_mem n1 hy]
  rfl

/-- a state that is not in the dictionary: `get` throws (`std::runtime_error` from the const translator) -/
theorem get_unknown {rel : Mat} {ps : List (Nat × Nat)} (n1 : (ps.map (·.1)).Nodup) (n2 : (ps.map (·.2)).Nodup)
    {x y : Nat} (hx : ps.lookup x = none) : (ofRel rel (Dict.ofList ps)).get x y = .error "runtime_error" := by
  have hf := (Dict.ofList_spec n1 n2).1
  simp only [get, getIdx, at', ofRel, hf, hx]
  rfl

theorem size_ofRel (rel : Mat) (d : Dict) : (ofRel rel d).size = rel.size := rfl

theorem restrictToSymmetric_rel (d : Disc) : d.restrictToSymmetric.rel = d.rel.restrictToSymmetric ∧
    d.restrictToSymmetric.dict = d.dict ∧ d.restrictToSymmetric.cnt = d.cnt := ⟨rfl, rfl, rfl⟩

/-- **`DiscontBinaryRelation::GetQuotientProjection` refines `projToMap`** of `Vata/ReduceModel.lean`: when the
dictionary numbers the states in the order `order` (`order[i]` is the state with inner index `i`), the map produced is
`projToMap order` of the inner vector, which is `quotientProjectionIdx` of the inner matrix -/
theorem quotProj_eq_projToMap (d : Disc) (order : List Nat) (hlen : order.length = d.rel.size)
    (hb : ∀ i, i < order.length → d.dict.bwd.lookup i = order[i]?) :
    d.quotProj = .ok (projToMap order (quotientProjectionIdx d.rel.toBMat)) := by
  rw [← Mat.quotProj_refines]
  obtain ⟨q1, q2⟩ := Mat.quotProj_general d.rel
  have hget : ∀ i (hi : i < order.length) (a : Nat), order.getD i a = order[i] := fun i hi a => getD_eq_getElem hi a
  have htr : ∀ i (hi : i < order.length), d.dict.translateBwd i = .ok order[i] := fun i hi => by
    rw [Dict.translateBwd, hb i hi, List.getElem?_eq_getElem hi]; rfl
  unfold quotProj projToMap
  rw [mapM_ok (g := fun p => (order.getD p.2 0, projTarget order (order.getD p.2 0) p.1))]
  · refine congrArg Except.ok (List.ext_getElem ?_ (fun i g1 g2 => ?_))
    · rw [List.length_map, List.length_map, List.length_zip, List.length_zip, List.length_range, q1, hlen,
        Nat.min_self]
    · rw [List.length_map, List.length_zip, List.length_range, q1, Nat.min_self] at g1
      rw [List.getElem_map, List.getElem_map, List.getElem_zip, List.getElem_zip, List.getElem_range,
        hget i (hlen ▸ g1)]
  · intro x hx
    obtain ⟨i, hi, e⟩ := List.mem_iff_getElem.1 hx
    rw [List.length_zip, List.length_range, q1, Nat.min_self] at hi
    rw [List.getElem_zip, List.getElem_range] at e
    obtain ⟨k, hk1, hk2, _⟩ := q2 i hi
    have hi' : i < order.length := hlen ▸ hi
    have hk' : k < order.length := Nat.lt_of_le_of_lt hk2 hi'
    rw [List.getD_eq_getElem?_getD, List.getElem?_eq_getElem (q1.symm ▸ hi), Option.getD_some] at hk1
    rw [← e, hk1]
    show (do let k' ← d.dict.translateBwd i; let v ← d.dict.translateBwd k; pure (k', v)) = _
    rw [htr i hi', htr k hk', hget i hi', projTarget, hget k hk']
    rfl

end Disc


namespace Mat

theorem eq_false_or_iff_imp {x y : Bool} : (x = false ∨ y = true) ↔ (x = true → y = true) := by
  cases x <;> simp

theorem isEquivB_iff (m : Mat) : m.isEquivB = true ↔ IsEquiv m := by
  simp only [isEquivB, Bool.and_eq_true, List.all_eq_true, List.mem_range, Bool.or_eq_true, Bool.not_eq_true',
    eq_false_or_iff_imp]
  constructor
  · rintro ⟨⟨h1, h2⟩, h3⟩
    exact ⟨h1, fun i j hi hj => h2 i hi j hj, fun i j k hi hj hk g1 g2 => h3 i hi j hj k hk ⟨g1, g2⟩⟩
  · intro h
    exact ⟨⟨h.refl, fun i hi j hj => h.symm i j hi hj⟩, fun i hi j hj k hk g => h.trans i j k hi hj hk g.1 g.2⟩

theorem isSymEquivB_sound {m : Mat} (h : m.isSymEquivB = true) : SymEquiv m.sym m.size := by
  simp only [isSymEquivB, Bool.and_eq_true, List.all_eq_true, List.mem_range, Bool.or_eq_true, Bool.not_eq_true',
    eq_false_or_iff_imp] at h
  obtain ⟨h1, h3⟩ := h
  refine ⟨fun i hi => ?_, fun i j _ _ hs => ?_, fun i j k hi hj hk g1 g2 => h3 i hi j hj k hk ⟨g1, g2⟩⟩
  · rw [sym, h1 i hi]; rfl
  · rw [sym, Bool.and_comm]; exact hs

end Mat


namespace BinRelEx
open Mat

deriving instance DecidableEq for Except

/-- `BinaryRelation r(3, false, 2)` (the constructor has to grow: capacity 4), three entries set -/
def exM : Mat := (((Mat.mk' 3 false 2).set 0 1 true).set 1 0 true).set 1 2 true

theorem exM_wf : WF exM ∧ 0 < exM.rowSize := by unfold WF; decide
example : exM.rowSize = 4 ∧ exM.size = 3 ∧
    exM.toBMat = [[false, true, false], [true, false, true], [false, false, false]] := by decide

example : (exM.set 2 0 true).get 2 0 = true ∧ (exM.set 2 0 true).get 0 1 = exM.get 0 1 :=
  ⟨by rw [get_set exM_wf.1 (by decide) (by decide) (by decide) (by decide)]; simp,
   by rw [get_set exM_wf.1 (by decide) (by decide) (by decide) (by decide)]; simp⟩

-- `resize` beyond the capacity (4 < 6: capacity 8): old entries kept, new ones `defVal`
example : exM.rowSize < 6 := by decide
example : (exM.resize 6 true).rowSize = 8 ∧ (exM.resize 6 true).toBMat =
    [[false, true, false, true, true, true], [true, false, true, true, true, true], [false, false, false, true, true, true],
     [true, true, true, true, true, true], [true, true, true, true, true, true], [true, true, true, true, true, true]] := by
  decide +kernel

/-- **stale cells 1**: `BinaryRelation r(2, false, 2); r.set(1,1,true); r.resize(1); r.resize(2, false);` -/
def stale1 : Mat := (((Mat.mk' 2 false 2).set 1 1 true).resize 1 false).resize 2 false
/-- the entry removed by shrinking is back after growing again, although `defVal = false` was asked for -/
theorem stale1_shows_old_entry : stale1.size = 2 ∧ stale1.get 1 1 = true := by decide

/-- **stale cells 2**: `BinaryRelation r(0, true, 4); r.resize(3);` – `resize`'s `defVal` defaults to `false` -/
def stale2 : Mat := (Mat.mk' 0 true 4).resize 3 false
/-- … but all nine entries are `true`, the constructor's `defVal` -/
theorem stale2_all_true : stale2.toBMat = [[true, true, true], [true, true, true], [true, true, true]] := by decide

/-- the same with `alloc()`, which has no `defVal` at all -/
example : ((Mat.mk' 1 true 4).alloc).1.toBMat = [[true, true], [true, true]] := by decide

-- `split` exactly at the capacity (`r(2, true, 2)`: size 2 = rowSize 2): grows to 4, copies row and column 1
example : WF (Mat.mk' 2 true 2) ∧ 0 < (Mat.mk' 2 true 2).rowSize ∧ 1 < (Mat.mk' 2 true 2).size ∧
    (Mat.mk' 2 true 2).size ≥ (Mat.mk' 2 true 2).rowSize := by unfold WF; decide
example : ((exM.split 1 false).1.toBMat, (exM.split 1 false).2) =
    ([[false, true, false, true], [true, false, true, false], [false, false, false, false], [true, false, true, false]], 3) := by
  decide +kernel

-- the index builders, into an empty and into a used vector
example : exM.buildIndex [] = [[1], [0, 2], []] ∧ exM.buildInvIndex [] = [[1], [0], [1]] ∧
    exM.buildIndex [[7], [], [8, 9], [5]] = [[7, 1], [0, 2], [8, 9]] ∧
    exM.buildIndex2 [] [[4]] = ([[1], [0, 2], []], [[4, 1], [0], [1]]) := by decide +kernel

-- `transposed` into a smaller object, and into itself
example : WF (Mat.mk' 1 true 2) ∧ 0 < (Mat.mk' 1 true 2).rowSize := by unfold WF; decide
example : (exM.transposedInto (Mat.mk' 1 true 2)).toBMat = [[false, true, false], [true, false, false], [false, true, false]] := by
  decide +kernel
/-- `r.transposed(r)` is NOT the transposed relation: `(2,1)` gets `(1,2)` but `(1,2)` keeps its value -/
theorem transposedSelf_not_transposed :
    exM.transposedSelf.toBMat = [[false, true, false], [true, false, true], [false, true, false]] := by decide +kernel

example : exM.restrictToSymmetric.toBMat = [[false, true, false], [true, false, false], [false, false, false]] := by
  decide +kernel

/-- an equivalence with the classes `{0, 2}` and `{1, 3}` -/
def exE : Mat := Mat.ofRows [[true, false, true, false], [false, true, false, true], [true, false, true, false],
  [false, true, false, true]]
theorem exE_equiv : IsEquiv exE := (isEquivB_iff exE).mp (by decide +kernel)
example : exE.quotProj = [some 0, some 1, some 0, some 1] ∧ classes1 exE.sym exE.size = [0, 1, 0, 1] ∧
    classes2 exE.sym exE.size = ([0, 1, 0, 1], [0, 1]) := by decide +kernel

/-- a preorder that is not symmetric (`0 ≤ 1 ≤ 2`): the two "class" functions disagree – `GetQuotientProjection` sends
`2` to the LAST related head … -/
def exP : Mat := Mat.ofRows [[true, true, true], [false, true, true], [false, false, true]]
example : ¬ IsEquiv exP := fun h => by
  have := (isEquivB_iff exP).mpr h
  revert this; decide +kernel
/-- … here every index goes to `0`, because `1` is claimed by `0` before its own row is reached -/
theorem exP_quotProj : exP.quotProj = [some 0, some 0, some 0] := by decide +kernel
example : exP.quotProj = [some 0, some 0, some 0] := exP_quotProj
/-- `buildClasses` looks at `sym`, for which every index is alone -/
example : classes1 exP.sym exP.size = [0, 1, 2] := by decide +kernel
/-- a relation where a later head overwrites: heads `0` and `1`, index `2` related to both goes to `1` -/
example : (Mat.ofRows [[true, false, true], [false, true, true], [false, false, true]]).quotProj = [some 0, some 1, some 1] := by
  decide +kernel

example : (Ident.mk 3).classes1 = [0, 1, 2] ∧ (Ident.mk 3).classes2 = ([0, 1, 2], [0, 1, 2]) := by decide

/-- a history: construct at capacity 2, grow by `split`, shrink, grow back (stale), copy, transpose into the copy,
`&=`, `RestrictToSymmetric`, queries; one refused step (`set` outside the size) -/
def exOps : List Op :=
  [.new 2 false 2, .set 0 0 1 true, .split 0 1 true, .resize 0 1 false, .resize 0 3 true, .copy 0, .set 1 2 0 true,
   .transp 1 0, .set 0 5 5 true, .and 0 1, .rsym 1, .index 0 [], .quot 1, .alloc 1]

example : (runC [] exOps).2 =
    [some .none, some .none, some (.nat 2), some .none, some .none, some .none, some .none, some .none, none, some .none,
     some .none, some (.idx [[2], [], [0, 2]]), some (.onats [some 0, some 1, some 0]), some (.nat 3)] ∧
    (runC [] exOps).1.map (fun m => m.toBMat) =
      [[[false, false, true], [false, false, false], [true, false, true]],
       [[false, false, true, false], [false, false, false, false], [true, false, true, false], [false, false, false, false]]] := by
  decide +kernel

/-- `DiscontBinaryRelation(exE, {5↦0, 9↦1, 7↦2, 4↦3})` -/
def exD : Disc := Disc.ofRel exE (Dict.ofList [(5, 0), (9, 1), (7, 2), (4, 3)])
example : exD.get 5 7 = .ok true ∧ exD.get 5 9 = .ok false ∧ exD.get 5 6 = .error "runtime_error" := by decide +kernel
example : [5, 9, 7, 4].length = exD.rel.size ∧ ∀ i, i < [5, 9, 7, 4].length → exD.dict.bwd.lookup i = [5, 9, 7, 4][i]? := by
  decide +kernel
example : exD.quotProj = .ok [(5, 5), (9, 9), (7, 5), (4, 9)] := by decide +kernel

/-- **the index counter of a relation built from (relation, dictionary) starts at 0**: `set` on a state the dictionary
does not know gives it the inner index `0` – the index of state `5` – so the new state `6` is an alias of `5`
(`TwoWayDict::Insert` reports "backward mapping for 0 already found" and, without `assert`, carries on) -/
theorem counter_restarts_at_zero :
    (exD.set 6 6 false true).get 5 5 = .ok false ∧ (exD.set 6 6 false true).get 6 7 = .ok true ∧
    (exD.set 6 6 false true).dict.fwd.lookup 6 = some 0 ∧ (exD.set 6 6 false true).dict.bwd.lookup 0 = some 5 := by
  decide +kernel

/-- `set` on two new states translates both in one argument list: the inner numbering depends on the (unspecified)
order of evaluation -/
example : ((Disc.mk' 2 false 2).set 10 20 true true).dict.fwd = [(20, 0), (10, 1)] ∧
    ((Disc.mk' 2 false 2).set 10 20 true false).dict.fwd = [(10, 0), (20, 1)] := by decide +kernel

/-- a relation constructed with a size whose states were not all introduced: the index builders throw -/
example : ((Disc.mk' 2 false 2).set 10 10 true true).buildIndex = .error "out_of_range" := by decide +kernel

end BinRelEx

end BinRel
end Vata
