import Vata.Proofs.NfaInclSimACInv
/-!
# The models of `ANTICHAINS_SIM` are total

With `R` reflexive on the states of the operands and transitive the exploration ends within
`fuelBoundAC A B = 2 · (|I_A| + |Δ_A|) · 2^(|I_B| + |Δ_B|)` picked pairs (`NfaIncl.runACSim_terminates`: the measure of
`Vata/Proofs/NfaInclExpl.lean` for the cover order modulo `R`); above the bound the unchecked and the checked model both return
the right verdict (state-disjoint operands, `R` a simulation preorder on `A ⊎ B`).
-/
namespace Vata
open Vata.W
open NfaIncl

/-- above the bound the exploration returns a verdict (`R` reflexive on the states of `A ⊎ B` and transitive) -/
theorem nfaInclACSimRaw_total {A B : NFA} {R : Rel}
    (hrefl : ∀ q, q ∈ nfaStates (nfaUnionDisjoint A B) → (q, q) ∈ R)
    (ht : ∀ p q r, (p, q) ∈ R → (q, r) ∈ R → (p, r) ∈ R) {fuel : Nat} (hf : fuelBoundAC A B < fuel) :
    ∃ b, nfaInclACSimRaw A B R fuel = some b := by
  obtain ⟨r, hr⟩ := runACSim_terminates (preOn_of_pre hrefl ht) hf
  unfold nfaInclACSimRaw
  rw [hr]
  cases r with
  | ok P => exact ⟨_, rfl⟩
  | error w => exact ⟨_, rfl⟩

/-- … hence the right one, when `R` is a simulation preorder on the disjoint union of state-disjoint operands -/
theorem nfaInclACSimRaw_complete {A B : NFA} {R : Rel} (hdis : ∀ q, q ∈ nfaStates A → q ∈ nfaStates B → False)
    (hR : NfaSimPre (nfaUnionDisjoint A B) R) {fuel : Nat} (hf : fuelBoundAC A B < fuel) :
    (InclW A B → nfaInclACSimRaw A B R fuel = some true) ∧
    (¬ InclW A B → nfaInclACSimRaw A B R fuel = some false) :=
  Total.verdicts ((nfaInclACSimRaw_total hR.2.1 hR.2.2 hf).imp fun _ hb => ⟨hb, nfaInclACSimRaw_iff hdis hR hb⟩)

end Vata
