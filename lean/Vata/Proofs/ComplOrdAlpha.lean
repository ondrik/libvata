import Vata.Proofs.ComplOrd
/-!
# The alphabet as `Compute` reads it: one rank per symbol number

* `dictSg_of_nodup`: when the symbol numbers of the dictionary are pairwise distinct, `symbolMap` / `ranks` hold exactly the
  listed ranked symbols; `mem_dictSg_of_oneRank`: when a number may be listed several times but always with the same rank,
  they hold the same SET of ranked symbols.
* `tdW_eq_raw`: when the rules of `A` use the symbol `f` with the rank `n` only, the set `W` the code collects
  (`transitionIndex[state][symbol]`, no look at the lengths) is the `W` of the model.
-/
namespace Vata
namespace Compl

theorem mem_dictSg_sub : ∀ {Sg : List (Nat × Nat)} {fa : Nat × Nat}, fa ∈ dictSg Sg → fa ∈ Sg
  | [], _, h => h
  | gb :: Sg, fa, h => by
    simp only [dictSg, List.mem_cons, List.mem_filter] at h
    rcases h with h | ⟨h, _⟩
    · exact h ▸ List.mem_cons_self
    · exact List.mem_cons_of_mem _ (mem_dictSg_sub h)

/-- every listed symbol number is in `symbolMap`, with the rank of its first entry -/
theorem dictSg_covers : ∀ {Sg : List (Nat × Nat)} {fa : Nat × Nat}, fa ∈ Sg → ∃ n, (fa.1, n) ∈ dictSg Sg
  | gb :: Sg, fa, h => by
    rcases List.mem_cons.mp h with rfl | h
    · exact ⟨fa.2, List.mem_cons_self⟩
    · obtain ⟨n, hn⟩ := dictSg_covers h
      by_cases e : fa.1 = gb.1
      · exact ⟨gb.2, by rw [e]; exact List.mem_cons_self⟩
      · refine ⟨n, ?_⟩
        simp only [dictSg, List.mem_cons, List.mem_filter]
        right
        exact ⟨hn, by simpa using e⟩

theorem oneRankB_iff {Sg : List (Nat × Nat)} :
    oneRankB Sg = true ↔ ∀ f n m, (f, n) ∈ Sg → (f, m) ∈ Sg → n = m := by
  simp only [oneRankB, List.all_eq_true, Bool.or_eq_true, bne_iff_ne, ne_eq, beq_iff_eq, Prod.forall]
  constructor
  · intro h f n m h1 h2
    rcases h f m h2 f n h1 with h | h
    · exact absurd rfl h
    · exact h
  · intro h f m h2 g n h1
    by_cases e : g = f
    · subst e; exact Or.inr (h g n m h1 h2)
    · exact Or.inl e

theorem mem_dictSg_of_oneRank {Sg : List (Nat × Nat)} (h : oneRankB Sg = true) (fa : Nat × Nat) :
    fa ∈ dictSg Sg ↔ fa ∈ Sg := by
  constructor
  · exact mem_dictSg_sub
  · intro hfa
    obtain ⟨n, hn⟩ := dictSg_covers hfa
    have : n = fa.2 := oneRankB_iff.mp h fa.1 n fa.2 (mem_dictSg_sub hn) hfa
    rw [this] at hn
    exact hn

theorem dictSg_of_nodup : ∀ {Sg : List (Nat × Nat)}, (Sg.map Prod.fst).Nodup → dictSg Sg = Sg
  | [], _ => rfl
  | fa :: Sg, h => by
    rw [List.map_cons, List.nodup_cons] at h
    rw [dictSg, dictSg_of_nodup h.2]
    congr 1
    apply List.filter_eq_self.mpr
    intro gb hgb
    simp only [bne_iff_ne, ne_eq]
    intro e
    exact h.1 (e ▸ List.mem_map_of_mem hgb)

theorem ranksRespectedB_iff {A : TA} {Sg : List (Nat × Nat)} :
    ranksRespectedB A Sg = true ↔ ∀ r f n, r ∈ A.rules → (f, n) ∈ Sg → r.sym = f → r.kids.length = n := by
  simp only [ranksRespectedB, List.all_eq_true, Bool.or_eq_true, bne_iff_ne, ne_eq, beq_iff_eq, Prod.forall]
  constructor
  · intro h r f n hr hfa e
    rcases h r hr f n hfa with h | h
    · exact absurd e.symm h
    · exact h
  · intro h r hr f n hfa
    by_cases e : f = r.sym
    · exact Or.inr (h r f n hr hfa e.symm)
    · exact Or.inl e

theorem tdW_eq_raw {A : TA} {f n : Nat} (h : ∀ r, r ∈ A.rules → r.sym = f → r.kids.length = n) (P : List Nat) :
    tdWRaw A P f = tdW A P f n := by
  unfold tdWRaw tdW
  congr 2
  funext q
  congr 1
  apply List.filter_congr
  intro r hr
  by_cases e : r.sym = f
  · simp [e, h r hr e]
  · simp [e]

end Compl
end Vata
