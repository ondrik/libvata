import Vata.Proofs.AntichainTwo
/-!
`OrderedAntichain2C` (`Vata.AC.Ord`): an `Antichain2Cv2` plus a `std::set` of iterators into it.
`lt` is the `Less` template argument (applied to `(key, value)`), assumed irreflexive and transitive throughout
(`std::set` needs a strict weak order).

* `OWeak` – holds after ANY history: the antichain is well-formed, the ordered set is strictly ascending, and every
  element of the ordered set refers to a live node of the antichain (no dangling iterator).
* `OInv` – holds as long as `insert` is used inside its (asserted) contract "no equivalent element present": the
  ordered set and the antichain hold the same nodes.  Then `get` returns a least stored element and removes exactly it.
-/
set_option linter.unusedSectionVars false
namespace Vata.AC.Ord
variable {κ β : Type} [DecidableEq κ]

/-- what `std::set` needs of `Less` (here: irreflexive, transitive) -/
structure StrictOrd (lt : κ × β → κ × β → Bool) : Prop where
  irrefl : ∀ a, lt a a = false
  trans : ∀ a b c, lt a b = true → lt b c = true → lt a c = true

def Sorted (lt : κ × β → κ × β → Bool) (l : List (Entry κ β)) : Prop := l.Pairwise (fun a b => ltE lt a b = true)

theorem ltE_irrefl {lt : κ × β → κ × β → Bool} (h : StrictOrd lt) (e : Entry κ β) : ltE lt e e = false := h.irrefl _
theorem ltE_trans {lt : κ × β → κ × β → Bool} (h : StrictOrd lt) {a b c : Entry κ β}
    (h1 : ltE lt a b = true) (h2 : ltE lt b c = true) : ltE lt a c = true := h.trans _ _ _ h1 h2

theorem ltE_ne {lt : κ × β → κ × β → Bool} (h : StrictOrd lt) {a b : Entry κ β} (hab : ltE lt a b = true) : a ≠ b :=
  fun e => Bool.false_ne_true ((ltE_irrefl h b).symm.trans (e ▸ hab))

theorem sorted_not_mem_tail {lt : κ × β → κ × β → Bool} (h : StrictOrd lt) {x : Entry κ β} {xs : List (Entry κ β)}
    (hs : Sorted lt (x :: xs)) : x ∉ xs :=
  fun hx => ltE_ne h ((List.pairwise_cons.1 hs).1 x hx) rfl

theorem mem_setInsert_sub (lt : κ × β → κ × β → Bool) (e : Entry κ β) (l : List (Entry κ β)) (y : Entry κ β)
    (hy : y ∈ setInsert lt e l) : y = e ∨ y ∈ l := by
  induction l with
  | nil => exact Or.inl (List.mem_singleton.1 hy)
  | cons x xs ih =>
    rw [setInsert] at hy
    by_cases h1 : ltE lt e x = true
    · rw [if_pos h1] at hy; exact List.mem_cons.1 hy
    · rw [if_neg h1] at hy
      by_cases h2 : ltE lt x e = true
      · rw [if_pos h2] at hy
        rcases List.mem_cons.1 hy with h | h
        · exact Or.inr (h ▸ List.mem_cons_self)
        · exact (ih h).imp id (List.mem_cons_of_mem _)
      · rw [if_neg h2] at hy; exact Or.inr hy

theorem mem_setInsert_old (lt : κ × β → κ × β → Bool) (e : Entry κ β) (l : List (Entry κ β)) (y : Entry κ β)
    (hy : y ∈ l) : y ∈ setInsert lt e l := by
  induction l with
  | nil => cases hy
  | cons x xs ih =>
    unfold setInsert
    split
    · exact List.mem_cons_of_mem _ hy
    · split
      · exact (List.mem_cons.1 hy).elim (fun h => h ▸ List.mem_cons_self) (fun h => List.mem_cons_of_mem _ (ih h))
      · exact hy

theorem sorted_setInsert {lt : κ × β → κ × β → Bool} (h : StrictOrd lt) (e : Entry κ β) {l : List (Entry κ β)}
    (hs : Sorted lt l) : Sorted lt (setInsert lt e l) := by
  induction l with
  | nil => exact List.pairwise_singleton _ _
  | cons x xs ih =>
    have hs' := List.pairwise_cons.1 hs
    unfold setInsert
    split
    · rename_i h1
      exact List.pairwise_cons.2 ⟨List.forall_mem_cons.2 ⟨h1, fun y hy => ltE_trans h h1 (hs'.1 y hy)⟩, hs⟩
    · split
      · rename_i h2
        exact List.pairwise_cons.2 ⟨fun y hy => (mem_setInsert_sub lt e xs y hy).elim (fun e' => e' ▸ h2) (hs'.1 y),
          ih hs'.2⟩
      · exact hs

theorem setErase_sublist (lt : κ × β → κ × β → Bool) (e : Entry κ β) (l : List (Entry κ β)) :
    (setErase lt e l).Sublist l := by
  induction l with
  | nil => exact List.Sublist.refl _
  | cons x xs ih =>
    unfold setErase
    split
    · exact ih.cons_cons _
    · split
      · exact List.Sublist.refl _
      · exact List.sublist_cons_self _ _

theorem not_mem_setErase {lt : κ × β → κ × β → Bool} (h : StrictOrd lt) (e : Entry κ β) {l : List (Entry κ β)}
    (hs : Sorted lt l) : e ∉ setErase lt e l := by
  induction l with
  | nil => exact List.not_mem_nil
  | cons x xs ih =>
    have hs' := List.pairwise_cons.1 hs
    unfold setErase
    split
    · rename_i h1
      exact fun hm => (List.mem_cons.1 hm).elim (fun e' => ltE_ne h h1 e'.symm) (ih hs'.2)
    · rename_i h1
      split
      · rename_i h2
        exact fun hm => (List.mem_cons.1 hm).elim (ltE_ne h h2) (fun hm => h1 (hs'.1 e hm))
      · exact fun hm => h1 (hs'.1 e hm)

theorem mem_setErase_of_mem {lt : κ × β → κ × β → Bool} (h : StrictOrd lt) (e : Entry κ β) {l : List (Entry κ β)}
    (hs : Sorted lt l) (he : e ∈ l) (y : Entry κ β) (hy : y ∈ l) (hye : y ≠ e) : y ∈ setErase lt e l := by
  induction l with
  | nil => cases hy
  | cons x xs ih =>
    have hs' := List.pairwise_cons.1 hs
    unfold setErase
    split
    · rename_i h1
      have hex : e ∈ xs := (List.mem_cons.1 he).resolve_left (fun e' => ltE_ne h h1 e'.symm)
      exact (List.mem_cons.1 hy).elim (fun e' => e' ▸ List.mem_cons_self) (fun hy => List.mem_cons_of_mem _ (ih hs'.2 hex hy))
    · rename_i h1
      split
      · exact hy
      · have hex : e = x := (List.mem_cons.1 he).resolve_right (fun he => h1 (hs'.1 e he))
        exact (List.mem_cons.1 hy).resolve_left (fun e' => hye (e'.trans hex.symm))

theorem setFind_spec {lt : κ × β → κ × β → Bool} (h : StrictOrd lt) (e : Entry κ β) (l : List (Entry κ β)) :
    setFind lt e l ∈ setInsert lt e l ∧ ltE lt e (setFind lt e l) = false ∧ ltE lt (setFind lt e l) e = false := by
  induction l with
  | nil => exact ⟨List.mem_cons_self, ltE_irrefl h e, ltE_irrefl h e⟩
  | cons x xs ih =>
    unfold setFind setInsert
    split
    · exact ⟨List.mem_cons_self, ltE_irrefl h e, ltE_irrefl h e⟩
    · split
      · exact ⟨List.mem_cons_of_mem _ ih.1, ih.2⟩
      · rename_i h1 h2
        exact ⟨List.mem_cons_self, Bool.eq_false_iff.2 h1, Bool.eq_false_iff.2 h2⟩

theorem setFind_new (lt : κ × β → κ × β → Bool) (e : Entry κ β) (l : List (Entry κ β))
    (hne : ∀ x, x ∈ l → ltE lt e x = true ∨ ltE lt x e = true) : setFind lt e l = e := by
  induction l with
  | nil => rfl
  | cons x xs ih =>
    unfold setFind
    split
    · rfl
    · split
      · exact ih (fun y hy => hne y (List.mem_cons_of_mem _ hy))
      · rename_i h1 h2
        exact ((hne x List.mem_cons_self).elim h1 h2).elim

theorem mem_setInsert_new {lt : κ × β → κ × β → Bool} (h : StrictOrd lt) (e : Entry κ β) (l : List (Entry κ β))
    (hne : ∀ x, x ∈ l → ltE lt e x = true ∨ ltE lt x e = true) : e ∈ setInsert lt e l := by
  have := (setFind_spec h e l).1
  rwa [setFind_new lt e l hne] at this

/-- the eraser folded over the removed nodes -/
def eraseAll (lt : κ × β → κ × β → Bool) (l : List (Entry κ β)) (es : List (Entry κ β)) : List (Entry κ β) :=
  es.foldl (fun s e => setErase lt e s) l

theorem eraseAll_sublist (lt : κ × β → κ × β → Bool) (es : List (Entry κ β)) (l : List (Entry κ β)) :
    (eraseAll lt l es).Sublist l := by
  induction es generalizing l with
  | nil => exact List.Sublist.refl _
  | cons e es ih => exact (ih (setErase lt e l)).trans (setErase_sublist lt e l)

theorem not_mem_eraseAll {lt : κ × β → κ × β → Bool} (h : StrictOrd lt) (es : List (Entry κ β)) {l : List (Entry κ β)}
    (hs : Sorted lt l) (e : Entry κ β) (he : e ∈ es) : e ∉ eraseAll lt l es := by
  induction es generalizing l with
  | nil => cases he
  | cons x xs ih =>
    rcases List.mem_cons.1 he with rfl | he
    · exact fun hm => not_mem_setErase h e hs ((eraseAll_sublist lt xs _).subset hm)
    · exact ih (hs.sublist (setErase_sublist lt x l)) he

theorem mem_eraseAll {lt : κ × β → κ × β → Bool} (h : StrictOrd lt) (es : List (Entry κ β)) {l : List (Entry κ β)}
    (hs : Sorted lt l) (hes : ∀ e, e ∈ es → e ∈ l) (hnd : es.Nodup) (y : Entry κ β) (hy : y ∈ l) (hye : y ∉ es) :
    y ∈ eraseAll lt l es := by
  induction es generalizing l with
  | nil => exact hy
  | cons x xs ih =>
    have hnd' := List.nodup_cons.1 hnd
    have keep : ∀ z, z ∈ l → z ≠ x → z ∈ setErase lt x l := mem_setErase_of_mem h x hs (hes x List.mem_cons_self)
    exact ih (hs.sublist (setErase_sublist lt x l))
      (fun e he => keep e (hes e (List.mem_cons_of_mem _ he)) (fun h' => hnd'.1 (h' ▸ he))) hnd'.2
      (keep y hy (fun h' => hye (h' ▸ List.mem_cons_self))) (fun h' => hye (List.mem_cons_of_mem _ h'))

/-- after ANY history: no dangling iterator -/
def OWeak (lt : κ × β → κ × β → Bool) (o : State κ β) : Prop :=
  Two.WF o.ac ∧ Two.IdsOk o.ac ∧ Sorted lt o.data ∧ ∀ e : Entry κ β, e ∈ o.data → e.2 ∈ Two.listOf o.ac e.1

/-- inside the contract of `insert`: the ordered set holds exactly the nodes of the antichain -/
def OInv (lt : κ × β → κ × β → Bool) (o : State κ β) : Prop :=
  OWeak lt o ∧ ∀ e : Entry κ β, e.2 ∈ Two.listOf o.ac e.1 → e ∈ o.data

theorem oweak_init (lt : κ × β → κ × β → Bool) : OWeak lt (init : State κ β) :=
  ⟨Two.wf_nil, Two.idsOk_nil, List.Pairwise.nil, fun _ h => nomatch h⟩

theorem oinv_init (lt : κ × β → κ × β → Bool) : OInv lt (init : State κ β) :=
  ⟨oweak_init lt, fun _ h => nomatch h⟩

theorem refine_ac (lt : κ × β → κ × β → Bool) (o : State κ β) (cands : List κ) (Q : β) (cmp : β → β → Bool) :
    (refine lt o cands Q cmp).ac = Two.refineD cmp Q o.ac cands := Two.refine_fst ..

theorem refine_data (lt : κ × β → κ × β → Bool) (o : State κ β) (cands : List κ) (Q : β) (cmp : β → β → Bool) :
    (refine lt o cands Q cmp).data = eraseAll lt o.data (Two.erased cmp Q o.ac cands) := Two.refine_snd ..

theorem sublist_refine (lt : κ × β → κ × β → Bool) {o : State κ β} (hk : (Two.keys o.ac).Nodup) (cands : List κ) (Q : β)
    (cmp : β → β → Bool) (k : κ) : (Two.listOf (refine lt o cands Q cmp).ac k).Sublist (Two.listOf o.ac k) :=
  refine_ac lt o cands Q cmp ▸ Two.sublist_refineD _ _ _ hk k

theorem mem_refine_ac (lt : κ × β → κ × β → Bool) {o : State κ β} (hk : (Two.keys o.ac).Nodup) (cands : List κ) (Q : β)
    (cmp : β → β → Bool) (e : Entry κ β) :
    e.2 ∈ Two.listOf (refine lt o cands Q cmp).ac e.1 ↔
      e.2 ∈ Two.listOf o.ac e.1 ∧ e ∉ Two.erased cmp Q o.ac cands := by
  rw [refine_ac, Two.mem_refineD _ _ _ hk, Two.mem_erased cmp Q cands hk]
  exact and_congr_right (fun hin => ⟨fun h h' => h ⟨h'.1, h'.2.2⟩, fun h h' => h ⟨h'.1, hin, h'.2⟩⟩)

theorem oweak_refine {lt : κ × β → κ × β → Bool} (h : StrictOrd lt) {o : State κ β} (cands : List κ) (Q : β)
    (cmp : β → β → Bool) (ho : OWeak lt o) : OWeak lt (refine lt o cands Q cmp) := by
  obtain ⟨h1, h2, h3, h4⟩ := ho
  refine ⟨?_, Two.idsOk_of_sublist (sublist_refine lt h1.1 cands Q cmp) h2, ?_, fun e he => ?_⟩
  · rw [refine_ac]; exact Two.wf_refineD _ _ _ h1
  · rw [refine_data]; exact h3.sublist (eraseAll_sublist _ _ _)
  · rw [refine_data] at he
    exact (mem_refine_ac lt h1.1 cands Q cmp e).2
      ⟨h4 e ((eraseAll_sublist _ _ _).subset he), fun hx => not_mem_eraseAll h _ h3 e hx he⟩

theorem oinv_refine {lt : κ × β → κ × β → Bool} (h : StrictOrd lt) {o : State κ β} (cands : List κ) (Q : β)
    (cmp : β → β → Bool) (ho : OInv lt o) : OInv lt (refine lt o cands Q cmp) := by
  refine ⟨oweak_refine h cands Q cmp ho.1, fun e he => ?_⟩
  obtain ⟨⟨h1, h2, h3, _⟩, h5⟩ := ho
  obtain ⟨hin, hne⟩ := (mem_refine_ac lt h1.1 cands Q cmp e).1 he
  rw [refine_data]
  exact mem_eraseAll h _ h3 (fun x hx => h5 x ((Two.mem_erased cmp Q cands h1.1 x).1 hx).2.1)
    (Two.nodup_erased cmp Q cands h1.1 (Two.listOf_nodup_of_idsOk h2)) e (h5 e hin) hne

theorem oweak_insert {lt : κ × β → κ × β → Bool} (h : StrictOrd lt) {o : State κ β} {i : Nat}
    (hf : ∀ k a, a ∈ Two.listOf o.ac k → a.1 ≠ i) (q : κ) (Q : β) (ho : OWeak lt o) : OWeak lt (insert lt o i q Q) := by
  obtain ⟨h1, h2, h3, h4⟩ := ho
  refine ⟨Two.wf_insert h1 _ _ _, Two.idsOk_insert h2 hf _ _, sorted_setInsert h _ h3, fun e he => ?_⟩
  show e.2 ∈ Two.listOf (Two.insert o.ac i q Q) e.1
  rw [Two.mem_listOf_insert]
  rcases mem_setInsert_sub lt _ _ e he with rfl | he
  · exact Or.inr ⟨rfl, rfl⟩
  · exact Or.inl (h4 e he)

/-- `insert` inside its contract: no element equivalent to the new one is in the ordered set -/
theorem oinv_insert {lt : κ × β → κ × β → Bool} (h : StrictOrd lt) {o : State κ β} {i : Nat}
    (hf : ∀ k a, a ∈ Two.listOf o.ac k → a.1 ≠ i) (q : κ) (Q : β)
    (hne : ∀ x, x ∈ o.data → ltE lt (q, i, Q) x = true ∨ ltE lt x (q, i, Q) = true)
    (ho : OInv lt o) : OInv lt (insert lt o i q Q) := by
  refine ⟨oweak_insert h hf q Q ho.1, fun e he => ?_⟩
  replace he : e.2 ∈ Two.listOf (Two.insert o.ac i q Q) e.1 := he
  show e ∈ setInsert lt (q, i, Q) o.data
  rcases Two.mem_listOf_insert.1 he with he | ⟨hq, he⟩
  · exact mem_setInsert_old lt _ _ e (ho.2 e he)
  · rw [show e = (q, i, Q) from Prod.ext hq he]
    exact mem_setInsert_new h _ _ hne

theorem eq_of_id_eq {d : Two.Data κ β} (hi : Two.IdsOk d) {k : κ} {a b : Nat × β}
    (ha : a ∈ Two.listOf d k) (hb : b ∈ Two.listOf d k) (hab : a.1 = b.1) : a = b :=
  List.Pairwise.forall_of_forall_of_flip (R := fun a b : Nat × β => a.1 = b.1 → a = b) (fun _ _ _ => rfl)
    ((List.pairwise_map.1 (hi.1 k)).imp (fun h e => absurd e h))
    ((List.pairwise_map.1 (hi.1 k)).imp (fun h e => absurd e.symm h)) ha hb hab

theorem get_some {o o' : State κ β} {e : Entry κ β} (hg : get o = some (e, o')) :
    ∃ r, o.data = e :: r ∧ o' = ⟨Two.remove o.ac e.1 e.2.1, r⟩ := by
  unfold get at hg
  cases hd : o.data with
  | nil => rw [hd] at hg; cases hg
  | cons x r => rw [hd] at hg; cases hg; exact ⟨r, rfl, rfl⟩

theorem sublist_get {o o' : State κ β} {e : Entry κ β} (hk : (Two.keys o.ac).Nodup) (hg : get o = some (e, o')) (k : κ) :
    (Two.listOf o'.ac k).Sublist (Two.listOf o.ac k) := by
  obtain ⟨_, _, rfl⟩ := get_some hg
  exact Two.sublist_remove _ _ hk k

theorem mem_get_ac {lt : κ × β → κ × β → Bool} {o o' : State κ β} {e : Entry κ β} (ho : OWeak lt o)
    (hg : get o = some (e, o')) (y : Entry κ β) :
    y.2 ∈ Two.listOf o'.ac y.1 ↔ y.2 ∈ Two.listOf o.ac y.1 ∧ y ≠ e := by
  obtain ⟨h1, h2, _, h4⟩ := ho
  obtain ⟨r, hd, rfl⟩ := get_some hg
  have hein := h4 e (hd ▸ List.mem_cons_self)
  show y.2 ∈ Two.listOf (Two.remove o.ac e.1 e.2.1) y.1 ↔ _
  rw [Two.listOf_remove _ _ h1.1]
  by_cases hk : y.1 = e.1
  · rw [if_pos hk, ← hk, List.mem_filter, bne_iff_ne]
    refine and_congr_right (fun hyin => ⟨fun hid he => hid (he ▸ rfl), fun hne hid => hne ?_⟩)
    exact Prod.ext hk (eq_of_id_eq h2 hyin (hk ▸ hein) hid)
  · rw [if_neg hk]
    exact ⟨fun hy => ⟨hy, fun he => hk (he ▸ rfl)⟩, fun hy => hy.1⟩

theorem oweak_get {lt : κ × β → κ × β → Bool} (h : StrictOrd lt) {o o' : State κ β} {e : Entry κ β}
    (ho : OWeak lt o) (hg : get o = some (e, o')) : OWeak lt o' := by
  have hmem := mem_get_ac ho hg
  obtain ⟨h1, h2, h3, h4⟩ := ho
  obtain ⟨r, hd, rfl⟩ := get_some hg
  rw [hd] at h3 h4
  refine ⟨Two.wf_remove _ _ h1, Two.idsOk_of_sublist (Two.sublist_remove _ _ h1.1) h2, (List.pairwise_cons.1 h3).2,
    fun y hy => (hmem y).2 ⟨h4 y (List.mem_cons_of_mem _ hy), fun he => sorted_not_mem_tail h h3 (he ▸ hy)⟩⟩

theorem get_spec {lt : κ × β → κ × β → Bool} (h : StrictOrd lt) {o o' : State κ β} {e : Entry κ β}
    (ho : OInv lt o) (hg : get o = some (e, o')) :
    e.2 ∈ Two.listOf o.ac e.1 ∧
      (∀ k n, n ∈ Two.listOf o.ac k → (k, n) = e ∨ ltE lt e (k, n) = true) ∧
      (∀ k, Two.listOf o'.ac k = if k = e.1 then (Two.listOf o.ac e.1).filter (fun P => P.1 != e.2.1) else Two.listOf o.ac k) ∧
      OInv lt o' := by
  have hw' := oweak_get h ho.1 hg
  have hmem := mem_get_ac ho.1 hg
  obtain ⟨⟨h1, _, h3, h4⟩, h5⟩ := ho
  obtain ⟨r, hd, rfl⟩ := get_some hg
  rw [hd] at h3 h4 h5
  refine ⟨h4 e List.mem_cons_self, fun k n hn => ?_, fun k => Two.listOf_remove _ _ h1.1 k, hw', fun y hy => ?_⟩
  · exact (List.mem_cons.1 (h5 (k, n) hn)).imp id ((List.pairwise_cons.1 h3).1 _)
  · obtain ⟨hy1, hy2⟩ := (hmem y).1 hy
    exact (List.mem_cons.1 (h5 y hy1)).resolve_left hy2

theorem get_none_iff {lt : κ × β → κ × β → Bool} {o : State κ β} (ho : OInv lt o) :
    get o = none ↔ ∀ k, Two.listOf o.ac k = [] := by
  unfold get
  cases hd : o.data with
  | nil =>
    refine ⟨fun _ k => List.eq_nil_iff_forall_not_mem.2 (fun n hn => ?_), fun _ => rfl⟩
    have := ho.2 (k, n) hn
    rw [hd] at this; cases this
  | cons x r =>
    refine ⟨nofun, fun hall => ?_⟩
    have := ho.1.2.2.2 x (hd ▸ List.mem_cons_self)
    rw [hall] at this; cases this

theorem offer_ac (lt : κ × β → κ × β → Bool) (o : State κ β) (up down : List κ) (le : β → β → Bool) (i : Nat) (q : κ) (Q : β) :
    (offer lt o up down le i q Q).ac = Two.offer o.ac up down le i q Q := by
  unfold offer Two.offer contains
  split
  · rfl
  · rw [Two.refine0_eq, ← refine_ac lt]; rfl

/-- `Less` distinguishes different pairs (the one of the inclusion checker: size, then key, then the set) -/
def Total (lt : κ × β → κ × β → Bool) : Prop := ∀ a b, lt a b = false → lt b a = false → a = b

theorem oinv_offer {lt : κ × β → κ × β → Bool} (h : StrictOrd lt) (htot : Total lt) {le : β → β → Bool}
    (hlrf : ∀ a, le a a = true) {o : State κ β} {up down : List κ} {q : κ} (hq : Two.listOf o.ac q ≠ [] → q ∈ up)
    {i : Nat} (hf : ∀ k a, a ∈ Two.listOf o.ac k → a.1 ≠ i) (Q : β) (ho : OInv lt o) :
    OInv lt (offer lt o up down le i q Q) := by
  unfold offer
  cases hcon : contains o up Q le with
  | true => exact ho
  | false =>
    have hr := oinv_refine h down Q (fun P Q => le Q P) ho
    have hsub := sublist_refine lt ho.1.1.1 down Q (fun P Q => le Q P)
    refine oinv_insert h (fun k a ha => hf k a ((hsub k).subset ha)) q Q (fun x hx => ?_) hr
    have hxin := (hsub x.1).subset (hr.1.2.2.2 x hx)
    cases h1 : ltE lt (q, i, Q) x with
    | true => exact Or.inl rfl
    | false =>
      cases h2 : ltE lt x (q, i, Q) with
      | true => exact Or.inr rfl
      | false =>
        -- an equivalent element is, `Less` being total, the pair `(q, Q)` itself: `contains` would have answered true
        have e := htot _ _ h1 h2
        rw [Prod.mk.injEq] at e
        have e2 : Q = x.2.2 := e.2
        refine absurd ((Two.contains_iff _ _ _ _).2 ⟨q, hq ?_, x.2, e.1 ▸ hxin, by rw [← e2]; exact hlrf Q⟩) ?_
        · exact List.ne_nil_of_mem (e.1 ▸ hxin)
        · rw [show Two.contains o.ac up Q le = contains o up Q le from rfl, hcon]; exact Bool.false_ne_true

inductive WOp (κ β : Type) where
  | offer (q : κ) (Q : β)
  | get

/-- one step of a work-list history; the node identities come from a counter -/
def wstep (lt : κ × β → κ × β → Bool) (up down : κ → List κ) (le : β → β → Bool) (s : State κ β × Nat) :
    WOp κ β → State κ β × Nat
  | .offer q Q => if contains s.1 (up q) Q le then s else (offer lt s.1 (up q) (down q) le s.2 q Q, s.2 + 1)
  | .get => match get s.1 with
    | some (_, o') => (o', s.2)
    | none => s

def wrun (lt : κ × β → κ × β → Bool) (up down : κ → List κ) (le : β → β → Bool) (s : State κ β × Nat) (ops : List (WOp κ β)) :
    State κ β × Nat := ops.foldl (wstep lt up down le) s

/-- history theorem for the ordered work-list: after ANY interleaving of offers (the `AddToNext` combination) and `get`s,
the ordered set and the antichain hold the same nodes (so – `get_spec` – every `get` returns a least stored element), the
node identities are unique and below the counter, and the antichain invariant holds -/
theorem wrun_inv {lt : κ × β → κ × β → Bool} (h : StrictOrd lt) (htot : Total lt) {kle : κ → κ → Bool} {le : β → β → Bool}
    (hkrf : ∀ a, kle a a = true) (hlrf : ∀ a, le a a = true) {up down : κ → List κ}
    (hup : ∀ q p, p ∈ up q ↔ kle q p = true) (hdown : ∀ q p, p ∈ down q ↔ kle p q = true)
    (ops : List (WOp κ β)) {s : State κ β × Nat} (ho : OInv lt s.1) (hb : Two.IdsBelow s.1.ac s.2) (ha : Two.Anti kle le s.1.ac) :
    OInv lt (wrun lt up down le s ops).1 ∧ Two.IdsBelow (wrun lt up down le s ops).1.ac (wrun lt up down le s ops).2 ∧
      Two.Anti kle le (wrun lt up down le s ops).1.ac := by
  refine List.foldlRecOn (motive := fun s => OInv lt s.1 ∧ Two.IdsBelow s.1.ac s.2 ∧ Two.Anti kle le s.1.ac)
    ops (wstep lt up down le) ⟨ho, hb, ha⟩ (fun s ⟨ho, hb, ha⟩ op _ => ?_)
  cases op with
  | offer q Q =>
    rw [wstep]
    split
    · exact ⟨ho, hb, ha⟩
    · refine ⟨oinv_offer h htot hlrf (fun _ => (hup q q).2 (hkrf q)) (Two.idsBelow_fresh hb) Q ho, ?_, ?_⟩
      · show Two.IdsBelow (offer lt s.1 (up q) (down q) le s.2 q Q).ac (s.2 + 1)
        rw [offer_ac]; exact (Two.objInv_offer ⟨ho.1.1, ho.1.2.1, hb⟩ ..).2.2
      · show Two.Anti kle le (offer lt s.1 (up q) (down q) le s.2 q Q).ac
        rw [offer_ac]; exact Two.offer_anti ho.1.1.1 (fun p _ => ⟨hup q p, hdown q p⟩) _ _ ha
  | get =>
    rw [wstep]
    cases hg : get s.1 with
    | none => exact ⟨ho, hb, ha⟩
    | some x =>
      have hsub := sublist_get ho.1.1.1 hg
      exact ⟨(get_spec h ho hg).2.2.2, Two.idsBelow_of_sublist hsub hb,
        fun k k' a b ha' hb' hab => ha k k' a b ((hsub k).subset ha') ((hsub k').subset hb') hab⟩

def PoolWeak (lt : κ × β → κ × β → Bool) (P : Pool κ β) : Prop :=
  ∀ o, o ∈ P.objs → OWeak lt o ∧ Two.IdsBelow o.ac P.next

theorem obj_weak {lt : κ × β → κ × β → Bool} {P : Pool κ β} (h : PoolWeak lt P) (o : Nat) :
    OWeak lt (obj P o) ∧ Two.IdsBelow (obj P o).ac P.next :=
  forall_getD h ⟨oweak_init lt, Two.idsBelow_nil _⟩ o

theorem setObj_weak {lt : κ × β → κ × β → Bool} {P : Pool κ β} (h : PoolWeak lt P) (o : Nat) {d : State κ β}
    (hd : OWeak lt d ∧ Two.IdsBelow d.ac P.next) : PoolWeak lt (setObj P o d) :=
  forall_mem_set h (fun _ => id) hd o

theorem setObj_bump_weak {lt : κ × β → κ × β → Bool} {P : Pool κ β} (h : PoolWeak lt P) (o : Nat) {d : State κ β}
    (hd : OWeak lt d ∧ Two.IdsBelow d.ac (P.next + 1)) : PoolWeak lt { setObj P o d with next := P.next + 1 } :=
  forall_mem_set h (fun _ hd => ⟨hd.1, fun k a ha => Nat.lt_succ_of_lt (hd.2 k a ha)⟩) hd o

theorem oweak_offer {lt : κ × β → κ × β → Bool} (h : StrictOrd lt) {o : State κ β} (up down : List κ) (le : β → β → Bool)
    {i : Nat} (hf : ∀ k a, a ∈ Two.listOf o.ac k → a.1 ≠ i) (q : κ) (Q : β) (ho : OWeak lt o) :
    OWeak lt (offer lt o up down le i q Q) := by
  unfold offer
  split
  · exact ho
  · exact oweak_insert h (fun k a ha => hf k a ((sublist_refine lt ho.1.1 down Q _ k).subset ha)) q Q
      (oweak_refine h down Q (fun P Q => le Q P) ho)

theorem step_weak {lt : κ × β → κ × β → Bool} (h : StrictOrd lt) (P : Pool κ β) (op : Op κ β) (hp : PoolWeak lt P) :
    PoolWeak lt (step lt P op).1 := by
  cases op with
  | contains o c Q cmp => exact hp
  | refine o c Q cmp =>
    obtain ⟨h1, h2⟩ := obj_weak hp o
    exact setObj_weak hp o ⟨oweak_refine h _ _ _ h1, Two.idsBelow_of_sublist (sublist_refine lt h1.1.1 c Q cmp) h2⟩
  | insert o q Q =>
    obtain ⟨h1, h2⟩ := obj_weak hp o
    exact setObj_bump_weak hp o ⟨oweak_insert h (Two.idsBelow_fresh h2) _ _ h1, Two.idsBelow_insert h2 _ _⟩
  | get o =>
    obtain ⟨h1, h2⟩ := obj_weak hp o
    rw [step]
    cases hg : get (obj P o) with
    | none => exact hp
    | some x => exact setObj_weak hp o ⟨oweak_get h h1 hg, Two.idsBelow_of_sublist (sublist_get h1.1.1 hg) h2⟩
  | lookup o k => exact hp
  | empty o => exact hp
  | clear o => exact setObj_weak hp o ⟨oweak_init lt, Two.idsBelow_nil _⟩
  | offer o up down le q Q =>
    obtain ⟨h1, h2⟩ := obj_weak hp o
    rw [step]
    split
    · exact hp
    · refine setObj_bump_weak hp o ⟨oweak_offer h _ _ _ (Two.idsBelow_fresh h2) _ _ h1, ?_⟩
      rw [offer_ac]
      exact (Two.objInv_offer ⟨h1.1, h1.2.1, h2⟩ ..).2.2

/-- history theorem for the class as such (in or out of the contract of `insert`): after ANY list of operations every
element of the ordered set refers to a live node of the antichain, the ordered set is strictly ascending, the antichain
is well-formed -/
theorem run_weak {lt : κ × β → κ × β → Bool} (h : StrictOrd lt) (ops : List (Op κ β)) {P : Pool κ β} (hp : PoolWeak lt P) :
    PoolWeak lt (run lt P ops) := by
  induction ops generalizing P with
  | nil => exact hp
  | cons op ops ih => exact ih (step_weak h P op hp)

end Vata.AC.Ord
