import Vata.BddLoad
import Vata.Proofs.LoadDump
import Vata.Proofs.BddAbsTD
import Vata.Proofs.GlueAsgn
/-!
C08, C13: the Timbuk layer of the BDD encodings (`Vata/BddLoad.lean`).  A load is described by the dictionaries it leaves:
the `AddTransition` calls are the transitions of the description – up to the first one whose symbol is rejected –
translated by the final dictionaries.  From this follow the rules of the loaded tables for every valuation, what the three
implemented dumps list, the round trips load–dump and dump–load–dump, and their limits: `2^16` names (the 65 537th name
gets the code of the first), 64 children (the arity prefix keeps 6 bits), and the symbolic dump, whose symbol strings are
cut at the root variable and rejected by `loadFromAutDescSymbolic`.
-/
namespace Vata
namespace BddLoad
open Dict M BddAbs BddAbsTD

/-- the invariant of the translators of a load: both dictionaries number their names `0, 1, …` without repetition
(`Dict.Ok`) and the state counter is the next state number -/
structure LSt.Ok (s : LSt) : Prop where
  sd : s.sd.Ok
  cnt : s.cnt = s.sd.length
  yd : s.yd.Ok

/-- from `s` to `s'` the state names `Q` and the symbol names `Y` were translated -/
structure Step (s s' : LSt) (Q : List String) (Y : List String) : Prop where
  ok : s'.Ok
  sd : Sub s.sd s'.sd
  yd : Sub s.yd s'.yd
  sdKeys : ∀ q, q ∈ s'.sd.keys ↔ q ∈ s.sd.keys ∨ q ∈ Q
  ydKeys : ∀ k, k ∈ s'.yd.keys ↔ k ∈ s.yd.keys ∨ k ∈ Y
  ydLen : Y = [] → s'.yd = s.yd

theorem Step.refl {s : LSt} (h : s.Ok) : Step s s [] [] :=
  ⟨h, Sub.refl _, Sub.refl _, by simp, by simp, fun _ => rfl⟩

theorem Step.trans {s s' s'' : LSt} {Q Q' : List String} {Y Y' : List String} (h : Step s s' Q Y)
    (h' : Step s' s'' Q' Y') : Step s s'' (Q ++ Q') (Y ++ Y') :=
  ⟨h'.ok, h.sd.trans h'.sd, h.yd.trans h'.yd,
    fun q => by rw [h'.sdKeys, h.sdKeys, List.mem_append, or_assoc],
    fun k => by rw [h'.ydKeys, h.ydKeys, List.mem_append, or_assoc],
    fun e => by
      have e1 : Y = [] := (List.append_eq_nil_iff.mp e).1
      have e2 : Y' = [] := (List.append_eq_nil_iff.mp e).2
      rw [h'.ydLen e2, h.ydLen e1]⟩

theorem Step.congr {s s' : LSt} {Q Q' : List String} {Y Y' : List String} (h : Step s s' Q Y) (eQ : Q = Q')
    (eY : Y = Y') : Step s s' Q' Y' := by subst eQ; subst eY; exact h

theorem trState_spec (s : LSt) (hs : s.Ok) (q : String) :
    Step s (trState s q).2 [q] [] ∧ (trState s q).2.sd.fwd? q = some (trState s q).1 := by
  obtain ⟨a, r⟩ := weak_tr s.sd s.cnt q
  exact ⟨⟨⟨(a.ok hs.sd hs.cnt).1, (a.ok hs.sd hs.cnt).2, hs.yd⟩, a.sub, Sub.refl _, a.keys, by simp [trState], fun _ => rfl⟩, r⟩

theorem trSym_spec (s : LSt) (hs : s.Ok) (k : String) :
    Step s (trSym s k).2 [] [k] ∧ (trSym s k).2.yd.fwd? k = some (trSym s k).1 := by
  have b := weak_tr_size s.yd k
  exact ⟨⟨⟨hs.sd, hs.cnt, (b.ok hs.yd rfl).1⟩, Sub.refl _, b.sub, by simp [trSym], b.keys, fun e => by cases e⟩,
    (weak_tr s.yd s.yd.length k).2⟩

theorem trStates_spec (s : LSt) (hs : s.Ok) (qs : List String) :
    Step s (trStates s qs).2 qs [] ∧ (trStates s qs).1 = qs.map (trStates s qs).2.sd.get := by
  induction qs generalizing s with
  | nil => exact ⟨Step.refl hs, rfl⟩
  | cons q qs ih =>
    obtain ⟨h1, r1⟩ := trState_spec s hs q
    obtain ⟨h2, r2⟩ := ih (trState s q).2 h1.ok
    refine ⟨(h1.trans h2).congr rfl rfl, ?_⟩
    simp only [trStates, List.map_cons]
    rw [← r2, get_of_fwd (h2.sd _ _ r1)]

/-- the state names of a transition, in the order of their translation: the parent first -/
def stNames (t : Trans) : List String := t.2.2 :: t.1

def symNames (par : Param) (t : Trans) : List String :=
  match par with
  | .explicit => [t.2.1]
  | .symbolic => []

def symErr (par : Param) (t : Trans) : Option String :=
  match par with
  | .explicit => none
  | .symbolic =>
    match symOfStr t.2.1 with
    | .ok _ => none
    | .error e => some e

def cube (par : Param) (s : LSt) (t : Trans) : Cube :=
  match par with
  | .explicit => symAsgn (s.yd.get t.2.1)
  | .symbolic =>
    match symOfStr t.2.1 with
    | .ok a => a
    | .error _ => []

def crule (par : Param) (s : LSt) (t : Trans) : CRule := ⟨t.1.map s.sd.get, cube par s t, s.sd.get t.2.2⟩

theorem symErr_symbolic (t : Trans) :
    symErr .symbolic t = match symOfStr t.2.1 with | .ok _ => none | .error e => some e := by
  unfold symErr; dsimp only

theorem cube_explicit (s : LSt) (t : Trans) : cube .explicit s t = symAsgn (s.yd.get t.2.1) := rfl

theorem cube_symbolic (s : LSt) (t : Trans) :
    cube .symbolic s t = match symOfStr t.2.1 with | .ok a => a | .error _ => [] := by
  unfold cube; dsimp only

/-- the dictionaries of `s` know every name of the transition `t` (the symbol name only when symbols are translated), so
that no later step of the load changes the rule `crule par s t` it stands for (`crule_lift`) -/
structure Covers (par : Param) (s : LSt) (t : Trans) : Prop where
  kids : ∀ q, q ∈ t.1 → q ∈ s.sd.keys
  parent : t.2.2 ∈ s.sd.keys
  sym : par = .explicit → t.2.1 ∈ s.yd.keys

theorem crule_lift {par : Param} {s s' : LSt} {Q : List String} {Y : List String} (h : Step s s' Q Y)
    {t : Trans} (hc : Covers par s t) : crule par s' t = crule par s t := by
  unfold crule
  have hk : t.1.map s'.sd.get = t.1.map s.sd.get := List.map_congr_left (fun q hq => h.sd.get (hc.kids q hq))
  have hp : s'.sd.get t.2.2 = s.sd.get t.2.2 := h.sd.get hc.parent
  have hcube : cube par s' t = cube par s t := by
    cases par with
    | explicit => rw [cube_explicit, cube_explicit, h.yd.get (hc.sym rfl)]
    | symbolic => rfl
  rw [hk, hp, hcube]

theorem Covers.lift {par : Param} {s s' : LSt} {Q : List String} {Y : List String} (h : Step s s' Q Y)
    {t : Trans} (hc : Covers par s t) : Covers par s' t :=
  ⟨fun q hq => h.sd.keys (hc.kids q hq), h.sd.keys hc.parent, fun e => h.yd.keys (hc.sym e)⟩

theorem trRule_spec (par : Param) (s : LSt) (hs : s.Ok) (t : Trans) :
    Step s (trRule par s t).2 (stNames t) (symNames par t) ∧
      (trRule par s t).1 = (match symErr par t with
        | none => .ok (crule par (trRule par s t).2 t)
        | some e => .error e) ∧
      Covers par (trRule par s t).2 t := by
  obtain ⟨h1, r1⟩ := trState_spec s hs t.2.2
  obtain ⟨h2, r2⟩ := trStates_spec (trState s t.2.2).2 h1.ok t.1
  have h12 : Step s (trStates (trState s t.2.2).2 t.1).2 (stNames t) [] := h1.trans h2
  have hkeys : ∀ q, q ∈ stNames t → q ∈ (trStates (trState s t.2.2).2 t.1).2.sd.keys :=
    fun q hq => (h12.sdKeys q).mpr (Or.inr hq)
  have hkids : ∀ q, q ∈ t.1 → q ∈ (trStates (trState s t.2.2).2 t.1).2.sd.keys :=
    fun q hq => hkeys q (List.mem_cons_of_mem _ hq)
  have hpget : (trStates (trState s t.2.2).2 t.1).2.sd.get t.2.2 = (trState s t.2.2).1 := get_of_fwd (h2.sd _ _ r1)
  cases par with
  | explicit =>
    obtain ⟨h3, r3⟩ := trSym_spec (trStates (trState s t.2.2).2 t.1).2 h2.ok t.2.1
    have hT : trRule .explicit s t =
        (.ok ⟨(trStates (trState s t.2.2).2 t.1).1, symAsgn (trSym (trStates (trState s t.2.2).2 t.1).2 t.2.1).1,
          (trState s t.2.2).1⟩, (trSym (trStates (trState s t.2.2).2 t.1).2 t.2.1).2) := rfl
    rw [hT]
    refine ⟨(h12.trans h3).congr (List.append_nil _) rfl, ?_, fun q hq => h3.sd.keys (hkids q hq),
      h3.sd.keys (hkeys _ List.mem_cons_self), fun _ => (h3.ydKeys _).mpr (Or.inr (List.mem_singleton.mpr rfl))⟩
    rw [r2, ← hpget, ← get_of_fwd r3]
    rfl
  | symbolic =>
    unfold trRule symErr crule cube
    dsimp only
    -- `symOfStr` is not to be evaluated: its result is a variable from here on
    generalize symOfStr t.2.1 = r
    cases r with
    | error e => exact ⟨h12, rfl, hkids, hkeys _ List.mem_cons_self, fun e => nomatch e⟩
    | ok a =>
      refine ⟨h12, ?_, hkids, hkeys _ List.mem_cons_self, fun e => nomatch e⟩
      dsimp only
      rw [r2, hpget]

/-- the part of a transition list that is loaded, and the rejected transition with its exception -/
def loaded (par : Param) : List Trans → List Trans × Option (Trans × String)
  | [] => ([], none)
  | t :: ts =>
    match symErr par t with
    | some e => ([], some (t, e))
    | none => (t :: (loaded par ts).1, (loaded par ts).2)

def badNames (b : Option (Trans × String)) : List String :=
  match b with
  | none => []
  | some (t, _) => stNames t

theorem loaded_explicit (ts : List Trans) : loaded .explicit ts = (ts, none) := by
  induction ts with
  | nil => rfl
  | cons t ts ih => rw [loaded, ih]; rfl

theorem foldl_stepTrans_err {τ : Type} (add : τ → CRule → τ) (par : Param) (ts : List Trans) (r : Run τ) (e : String)
    (h : r.err = some e) : ts.foldl (stepTrans add par) r = r := by
  induction ts with
  | nil => rfl
  | cons t ts ih =>
    rw [List.foldl_cons]
    have : stepTrans add par r t = r := by simp only [stepTrans, h]
    rw [this, ih]

/-- one transition on a run without exception: the rule is added unless its symbol is rejected -/
theorem stepTrans_eq {τ : Type} (add : τ → CRule → τ) (par : Param) {r : Run τ} (hr : r.err = none) (hs : r.st.Ok)
    (t : Trans) :
    stepTrans add par r t = match symErr par t with
      | none => ⟨add r.aut (crule par (trRule par r.st t).2 t), (trRule par r.st t).2, none⟩
      | some e => ⟨r.aut, (trRule par r.st t).2, some e⟩ := by
  simp only [stepTrans, hr]
  rw [show trRule par r.st t = (_, (trRule par r.st t).2) from Prod.ext (trRule_spec par r.st hs t).2.1 rfl]
  cases symErr par t <;> rfl

theorem foldl_stepTrans_spec {τ : Type} (add : τ → CRule → τ) (par : Param) (ts : List Trans) (r : Run τ)
    (hr : r.err = none) (hs : r.st.Ok) :
    Step r.st (ts.foldl (stepTrans add par) r).st ((loaded par ts).1.flatMap stNames ++ badNames (loaded par ts).2)
        ((loaded par ts).1.flatMap (symNames par)) ∧
      (ts.foldl (stepTrans add par) r).aut =
        ((loaded par ts).1.map (crule par (ts.foldl (stepTrans add par) r).st)).foldl add r.aut ∧
      (ts.foldl (stepTrans add par) r).err = (loaded par ts).2.map (·.2) ∧
      ∀ t, t ∈ (loaded par ts).1 → Covers par (ts.foldl (stepTrans add par) r).st t := by
  induction ts generalizing r with
  | nil => exact ⟨Step.refl hs, rfl, hr, by simp [loaded]⟩
  | cons t ts ih =>
    obtain ⟨h1, _, c1⟩ := trRule_spec par r.st hs t
    rw [List.foldl_cons, stepTrans_eq add par hr hs]
    cases he : symErr par t with
    | some e =>
      rw [foldl_stepTrans_err add par ts _ e rfl]
      simp only [loaded, he, List.flatMap_nil, List.nil_append, badNames, List.map_nil, List.foldl_nil, Option.map_some]
      have hy : symNames par t = [] := by
        cases par with
        | explicit => cases he
        | symbolic => rfl
      exact ⟨h1.congr rfl hy, trivial, trivial, by simp⟩
    | none =>
      obtain ⟨h2, r2, e2, c2⟩ := ih ⟨add r.aut (crule par (trRule par r.st t).2 t), (trRule par r.st t).2, none⟩ rfl h1.ok
      simp only [loaded, he]
      refine ⟨(h1.trans h2).congr (by simp) (by simp), ?_, e2, ?_⟩
      · rw [r2, List.map_cons, List.foldl_cons, crule_lift h2 c1]
      · intro t' ht'
        rcases List.mem_cons.mp ht' with e | hm
        · rw [e]; exact c1.lift h2
        · exact c2 t' hm

theorem foldl_setFinal_BU (qs : List Nat) (A : AutBU) :
    (qs.foldl AutBU.setFinal A).tbl = A.tbl ∧ (qs.foldl AutBU.setFinal A).fin = A.fin ++ qs := by
  induction qs generalizing A with
  | nil => simp
  | cons q qs ih => simp [List.foldl_cons, ih, AutBU.setFinal]

theorem foldl_setFinal_TD (qs : List Nat) (A : AutTD) :
    (qs.foldl AutTD.setFinal A).tbl = A.tbl ∧ (qs.foldl AutTD.setFinal A).fin = A.fin ++ qs := by
  induction qs generalizing A with
  | nil => simp
  | cons q qs ih => simp [List.foldl_cons, ih, AutTD.setFinal]

def stateNames (par : Param) (d : AutDesc) : List String :=
  d.final ++ ((loaded par d.trans).1.flatMap stNames ++ badNames (loaded par d.trans).2)

theorem loadDesc_spec {τ : Type} (setFinal : τ → Nat → τ) (add : τ → CRule → τ) (par : Param) (A : τ) (s : LSt)
    (hs : s.Ok) (d : AutDesc) :
    Step s (loadDesc setFinal add par A s d).st (stateNames par d) ((loaded par d.trans).1.flatMap (symNames par)) ∧
      (loadDesc setFinal add par A s d).aut =
        ((loaded par d.trans).1.map (crule par (loadDesc setFinal add par A s d).st)).foldl add
          ((d.final.map (loadDesc setFinal add par A s d).st.sd.get).foldl setFinal A) ∧
      (loadDesc setFinal add par A s d).err = (loaded par d.trans).2.map (·.2) ∧
      ∀ t, t ∈ (loaded par d.trans).1 → Covers par (loadDesc setFinal add par A s d).st t := by
  obtain ⟨h1, r1⟩ := trStates_spec s hs d.final
  obtain ⟨h2, r2, e2, c2⟩ := foldl_stepTrans_spec add par d.trans
    ⟨(trStates s d.final).1.foldl setFinal A, (trStates s d.final).2, none⟩ rfl h1.ok
  refine ⟨(h1.trans h2).congr (by simp [stateNames]) (by simp), ?_, e2, c2⟩
  have hf : (trStates s d.final).1 = d.final.map (loadDesc setFinal add par A s d).st.sd.get := by
    rw [r1]
    exact List.map_congr_left (fun q hq => (h2.sd.get ((h1.sdKeys q).mpr (Or.inr hq))).symm)
  have key : (loadDesc setFinal add par A s d).aut =
      List.foldl add (List.foldl setFinal A (trStates s d.final).1)
        (List.map (crule par (loadDesc setFinal add par A s d).st) (loaded par d.trans).1) := r2
  rw [key, hf]

theorem mem_loaded {par : Param} {ts : List Trans} {t : Trans} (h : t ∈ (loaded par ts).1) :
    t ∈ ts ∧ symErr par t = none := by
  induction ts with
  | nil => cases h
  | cons t' ts ih =>
    simp only [loaded] at h
    cases he : symErr par t' with
    | some e => rw [he] at h; cases h
    | none =>
      rw [he] at h
      rcases List.mem_cons.mp h with e | hm
      · rw [e]; exact ⟨List.mem_cons_self, he⟩
      · exact ⟨List.mem_cons_of_mem _ (ih hm).1, (ih hm).2⟩

theorem loaded_of_noErr {par : Param} {ts : List Trans} (h : ∀ t, t ∈ ts → symErr par t = none) :
    loaded par ts = (ts, none) := by
  induction ts with
  | nil => rfl
  | cons t ts ih =>
    simp only [loaded, h t List.mem_cons_self, ih (fun t' ht' => h t' (List.mem_cons_of_mem _ ht'))]

/-- `loadFromAutDescSymbolic` accepts the strings of 16 characters over `0 1 X` -/
theorem symOfStr_ok_iff {f : String} {a : Cube} :
    symOfStr f = .ok a ↔ f.toList.length = 16 ∧ Glue.ofStr f.toList = some a := by
  unfold symOfStr
  by_cases hl : f.toList.length = 16
  · rw [if_neg (show ¬ f.toList.length ≠ symbolSize from fun h => h hl), and_iff_right hl]
    cases Glue.ofStr f.toList with
    | none => exact ⟨fun h => (nomatch h), fun h => (nomatch h)⟩
    | some a' => exact ⟨fun h => congrArg some (Except.ok.inj h), fun h => congrArg Except.ok (Option.some.inj h)⟩
  · rw [if_pos (show f.toList.length ≠ symbolSize from hl)]
    exact ⟨fun h => (nomatch h), fun h => absurd h.1 hl⟩

theorem symOfStr_length {f : String} {a : Cube} (h : symOfStr f = .ok a) : a.length = 16 := by
  obtain ⟨hl, ha⟩ := symOfStr_ok_iff.mp h
  rw [Glue.ofStr_length ha, hl]

theorem cube_length {par : Param} (s : LSt) {t : Trans} (h : symErr par t = none) : (cube par s t).length = 16 := by
  cases par with
  | explicit => exact symAsgn_length _
  | symbolic =>
    rw [symErr_symbolic] at h
    rw [cube_symbolic]
    cases hs : symOfStr t.2.1 with
    | ok a => exact symOfStr_length hs
    | error e => rw [hs] at h; cases h

theorem foldl_add_BU (crs : List CRule) (A : AutBU) :
    (crs.foldl AutBU.add A).tbl = crs.foldl (fun T c => addCube T c.kids c.asgn c.parent) A.tbl ∧
      (crs.foldl AutBU.add A).fin = A.fin :=
  ⟨(List.foldl_hom AutBU.tbl (fun _ _ => rfl)).symm, List.foldlRecOn (motive := fun B : AutBU => B.fin = A.fin) crs _ rfl (fun _ h _ _ => h)⟩

theorem foldl_add_TD (crs : List CRule) (A : AutTD) :
    (crs.foldl AutTD.add A).tbl = crs.foldl (fun T c => addCubeTD T c.parent c.asgn c.kids) A.tbl ∧
      (crs.foldl AutTD.add A).fin = A.fin :=
  ⟨(List.foldl_hom AutTD.tbl (fun _ _ => rfl)).symm, List.foldlRecOn (motive := fun B : AutTD => B.fin = A.fin) crs _ rfl (fun _ h _ _ => h)⟩

theorem keys_foldl_addCube {γ : Type} (kids : γ → List Nat) (asgn : γ → Cube) (parent : γ → Nat) (ks : List Nat)
    (cs : List γ) (T : Table) (h : ks ∈ (cs.foldl (fun T c => addCube T (kids c) (asgn c) (parent c)) T).keys) :
    ks ∈ T.keys ∨ ∃ c, c ∈ cs ∧ kids c = ks :=
  List.foldlRecOn (motive := fun T' : Table => ks ∈ T'.keys → ks ∈ T.keys ∨ ∃ c, c ∈ cs ∧ kids c = ks)
    cs (fun T c => addCube T (kids c) (asgn c) (parent c)) Or.inl
    (fun _ ih c hc h => (mem_keys_set.mp h).elim (fun e => Or.inr ⟨c, hc, e.symm⟩) ih) h

theorem keysTD_foldl_addCubeTD {γ : Type} (kids : γ → List Nat) (asgn : γ → Cube) (parent : γ → Nat) (p : Nat)
    (cs : List γ) (T : TableTD) (h : p ∈ keysTD (cs.foldl (fun T c => addCubeTD T (parent c) (asgn c) (kids c)) T)) :
    p ∈ keysTD T ∨ ∃ c, c ∈ cs ∧ parent c = p :=
  List.foldlRecOn (motive := fun T' => p ∈ keysTD T' → p ∈ keysTD T ∨ ∃ c, c ∈ cs ∧ parent c = p)
    cs _ Or.inl (fun _ ih c hc h => ((keysTD_setTD _ _ _ _).mp h).elim (fun e => Or.inr ⟨c, hc, e.symm⟩) ih) h

theorem init_ok {yd : SymDict} (h : yd.Ok) : (⟨[], 0, yd⟩ : LSt).Ok := ⟨ok_nil, rfl, h⟩

theorem loadBU_aut (par : Param) (A : AutBU) (yd : SymDict) (hyd : yd.Ok) (d : AutDesc) :
    (loadBU par A [] yd d).aut.tbl =
        (loaded par d.trans).1.foldl (fun T t => addCube T (t.1.map (loadBU par A [] yd d).st.sd.get)
          (cube par (loadBU par A [] yd d).st t) ((loadBU par A [] yd d).st.sd.get t.2.2)) A.tbl ∧
      (loadBU par A [] yd d).aut.fin = A.fin ++ d.final.map (loadBU par A [] yd d).st.sd.get := by
  have h := (loadDesc_spec AutBU.setFinal AutBU.add par A ⟨[], 0, yd⟩ (init_ok hyd) d).2.1
  unfold loadBU
  rw [h, (foldl_add_BU _ _).1, (foldl_add_BU _ _).2, (foldl_setFinal_BU _ _).1, (foldl_setFinal_BU _ _).2, List.foldl_map]
  exact ⟨rfl, rfl⟩

theorem loadTD_aut (par : Param) (A : AutTD) (yd : SymDict) (hyd : yd.Ok) (d : AutDesc) :
    (loadTD par A [] yd d).aut.tbl =
        (loaded par d.trans).1.foldl (fun T t => addCubeTD T ((loadTD par A [] yd d).st.sd.get t.2.2)
          (cube par (loadTD par A [] yd d).st t) (t.1.map (loadTD par A [] yd d).st.sd.get)) A.tbl ∧
      (loadTD par A [] yd d).aut.fin = A.fin ++ d.final.map (loadTD par A [] yd d).st.sd.get := by
  have h := (loadDesc_spec AutTD.setFinal AutTD.add par A ⟨[], 0, yd⟩ (init_ok hyd) d).2.1
  unfold loadTD
  rw [h, (foldl_add_TD _ _).1, (foldl_add_TD _ _).2, (foldl_setFinal_TD _ _).1, (foldl_setFinal_TD _ _).2, List.foldl_map]
  exact ⟨rfl, rfl⟩

/-- the exception of a load is that of the first rejected symbol (never with the explicit parameter); the alphabet is
extended by the symbol names of the transitions before it (not at all with the symbolic parameter) -/
theorem loadBU_err (par : Param) (A : AutBU) (yd : SymDict) (hyd : yd.Ok) (d : AutDesc) :
    (loadBU par A [] yd d).err = (loaded par d.trans).2.map (·.2) ∧
    (par = .explicit → (loadBU par A [] yd d).err = none) ∧
    (par = .symbolic → (loadBU par A [] yd d).st.yd = yd) := by
  obtain ⟨h1, _, h3, _⟩ := loadDesc_spec AutBU.setFinal AutBU.add par A ⟨[], 0, yd⟩ (init_ok hyd) d
  refine ⟨h3, ?_, ?_⟩
  · rintro rfl
    exact h3.trans (by rw [loaded_explicit]; rfl)
  · rintro rfl
    exact h1.ydLen (List.flatMap_eq_nil_iff.mpr (fun _ _ => rfl))

theorem loadBU_st_eq_loadTD (par : Param) (A : AutBU) (B : AutTD) (sd : StateDict) (yd : SymDict) (d : AutDesc) :
    (loadBU par A sd yd d).st = (loadTD par B sd yd d).st ∧ (loadBU par A sd yd d).err = (loadTD par B sd yd d).err := by
  unfold loadBU loadTD loadDesc
  refine List.foldl_rel (r := fun (r : Run AutBU) (r' : Run AutTD) => r.st = r'.st ∧ r.err = r'.err) ⟨rfl, rfl⟩ ?_
  intro t _ r r' ⟨h1, h2⟩
  simp only [stepTrans, h1, h2]
  cases r'.err with
  | some e => exact ⟨h1, h2⟩
  | none => rcases trRule par r'.st t with ⟨⟨e⟩ | ⟨c⟩, s'⟩ <;> exact ⟨rfl, rfl⟩

/-- **the rules of the bottom-up table after a load** (fresh state dictionary): the old ones and, for every loaded
transition, the rules `ρ(children) → parent` for the valuations `ρ` in the cube of its symbol -/
theorem hasRule_loadBU (par : Param) (A : AutBU) (yd : SymDict) (hyd : yd.Ok) (d : AutDesc) (ρ : Nat → Bool)
    (ks : List Nat) (p : Nat) :
    HasRule (loadBU par A [] yd d).aut.tbl ρ ks p ↔ HasRule A.tbl ρ ks p ∨
      ∃ t, t ∈ (loaded par d.trans).1 ∧ t.1.map (loadBU par A [] yd d).st.sd.get = ks ∧
        (loadBU par A [] yd d).st.sd.get t.2.2 = p ∧ agrees ρ (cube par (loadBU par A [] yd d).st t) 0 = true := by
  rw [(loadBU_aut par A yd hyd d).1]
  exact hasRule_foldl_addCube _ _ _ ρ ks p _ A.tbl

/-- … of the top-down table: the arity variables hold the number of children (its 6 low bits) -/
theorem hasRuleTD_loadTD (par : Param) (A : AutTD) (yd : SymDict) (hyd : yd.Ok) (d : AutDesc) (ρ : Nat → Bool)
    (p : Nat) (ks : List Nat) :
    HasRuleTD (loadTD par A [] yd d).aut.tbl ρ p ks ↔ HasRuleTD A.tbl ρ p ks ∨
      ∃ t, t ∈ (loaded par d.trans).1 ∧ t.1.map (loadTD par A [] yd d).st.sd.get = ks ∧
        (loadTD par A [] yd d).st.sd.get t.2.2 = p ∧ agrees ρ (cube par (loadTD par A [] yd d).st t) 0 = true ∧
        arOK ρ ks.length = true := by
  rw [(loadTD_aut par A yd hyd d).1]
  exact hasRuleTD_foldl_construct arAsgn _ _ _ ρ p ks _ (fun t ht => cube_length _ (mem_loaded ht).2) A.tbl

theorem table_loadBU (par : Param) (A : AutBU) (yd : SymDict) (hyd : yd.Ok) (d : AutDesc) (hA : TableOk A.tbl)
    (hW : TableWF A.tbl) : TableOk (loadBU par A [] yd d).aut.tbl ∧ TableWF (loadBU par A [] yd d).aut.tbl := by
  rw [(loadBU_aut par A yd hyd d).1]
  exact ⟨List.foldlRecOn _ _ hA (fun _ h _ _ => tableOk_addCube h _ _ _),
    List.foldlRecOn _ _ hW (fun _ h t ht => tableWF_addCube h _ _ (cube_length _ (mem_loaded ht).2) _)⟩

theorem table_loadTD (par : Param) (A : AutTD) (yd : SymDict) (hyd : yd.Ok) (d : AutDesc)
    (hA : TableTDWF A.tbl ∧ TableTDBelow A.tbl) :
    TableTDWF (loadTD par A [] yd d).aut.tbl ∧ TableTDBelow (loadTD par A [] yd d).aut.tbl := by
  rw [(loadTD_aut par A yd hyd d).1]
  exact List.foldlRecOn (motive := fun T => TableTDWF T ∧ TableTDBelow T) _ _ hA
    (fun _ h t ht => tableTD_addCube h _ _ (cube_length _ (mem_loaded ht).2) _)

/-- the accumulator of the bottom-up `CondColApplyFunctor` for the code `k`: the parents of the rules for the
valuations whose symbol part is `k` -/
theorem mem_collectBU {m : MT} (hm : WF m) (k : Nat) (p : Nat) :
    p ∈ collectBU m k ↔ ∃ ρ, agrees ρ (symAsgn k) 0 = true ∧ p ∈ eval m ρ :=
  mem_condCol hm k p

theorem pairs_of_hasRule {T : Table} (hT : TableOk T) {ρ : Nat → Bool} {ks : List Nat} {p : Nat}
    (h : HasRule T ρ ks p) : (ks, T.get ks) ∈ pairs T := by
  obtain ⟨e, he, rfl, _⟩ := (pairs_hasRule hT ρ ks p).mpr h
  rw [← (pairs_get hT he).2]; exact he

/-- **the transitions of the bottom-up `dumpToAutDescExplicit`** (before the back translation of the states): the rules
`ρ(ks) → p` of the table for the valuations `ρ` in the cube of the code of a name of the alphabet -/
theorem mem_rawExplBU {yd : SymDict} {A : AutBU} (hT : TableOk A.tbl) (hW : TableWF A.tbl) (ks : List Nat) (f : String)
    (p : Nat) :
    (ks, f, p) ∈ (rawExplBU yd A).trans ↔
      ∃ k, (f, k) ∈ yd ∧ ∃ ρ, agrees ρ (symAsgn k) 0 = true ∧ HasRule A.tbl ρ ks p := by
  simp only [rawExplBU, List.mem_flatMap, List.mem_map, Prod.mk.injEq]
  constructor
  · rintro ⟨e, he, y, hy, q, hq, rfl, rfl, rfl⟩
    have hm := (pairs_get hT he).2
    rw [hm] at hq
    obtain ⟨ρ, h1, h2⟩ := (mem_collectBU (hW e.1).1 y.2 q).mp hq
    exact ⟨y.2, hy, ρ, h1, h2⟩
  · rintro ⟨k, hk, ρ, h1, h2⟩
    refine ⟨(ks, A.tbl.get ks), pairs_of_hasRule hT h2, (f, k), hk, p, ?_, rfl, rfl, rfl⟩
    exact (mem_collectBU (hW ks).1 k p).mpr ⟨ρ, h1, h2⟩

/-- **the transitions of the top-down `dumpToAutDescExplicit`**: for any value of the arity variables -/
theorem mem_rawExplTD {yd : SymDict} {A : AutTD} (hT : TableTDWF A.tbl) (ks : List Nat) (f : String) (p : Nat) :
    (ks, f, p) ∈ (rawExplTD yd A).trans ↔
      ∃ k, (f, k) ∈ yd ∧ ∃ ρ, agrees ρ (symAsgn k) 0 = true ∧ HasRuleTD A.tbl ρ p ks := by
  simp only [rawExplTD, transOfTD, List.mem_flatMap, List.mem_map, Prod.mk.injEq]
  constructor
  · rintro ⟨q, _, y, hy, ks', hks, rfl, rfl, rfl⟩
    obtain ⟨ρ, h1, h2⟩ := (mem_collectTD (hT q) y.2 ks').mp hks
    exact ⟨y.2, hy, ρ, h1, h2⟩
  · rintro ⟨k, hk, ρ, h1, h2⟩
    exact ⟨p, hasRuleTD_key h2, (f, k), hk, ks, (mem_collectTD (hT p) k ks).mpr ⟨ρ, h1, h2⟩, rfl, rfl, rfl⟩

/-- **the transitions of the bottom-up `dumpToAutDescSymbolic`**: a path of `GetPaths` with a parent in its leaf -/
theorem mem_rawSymBU {A : AutBU} (hT : TableOk A.tbl) (ks : List Nat) (f : String) (p : Nat) :
    (ks, f, p) ∈ (rawSymBU A).trans ↔
      (ks, A.tbl.get ks) ∈ pairs A.tbl ∧ ∃ pl, pl ∈ getPaths (A.tbl.get ks) ∧ p ∈ pl.2 ∧
        f = String.ofList (Glue.toStr pl.1) := by
  simp only [rawSymBU, List.mem_flatMap, List.mem_map, Prod.mk.injEq]
  constructor
  · rintro ⟨e, he, pl, hpl, q, hq, rfl, rfl, rfl⟩
    have hm := (pairs_get hT he).2
    refine ⟨by rw [← hm]; exact he, pl, by rw [← hm]; exact hpl, hq, rfl⟩
  · rintro ⟨he, pl, hpl, hq, rfl⟩
    exact ⟨_, he, pl, hpl, p, hq, rfl, rfl, rfl⟩

open Timbuk LoadDump

theorem code_unique {ρ : Nat → Bool} {k g : Nat} (hk : k < 2 ^ 16) (hg : g < 2 ^ 16)
    (h1 : agrees ρ (symAsgn k) 0 = true) (h2 : agrees ρ (symAsgn g) 0 = true) : k = g := by
  rw [agrees_symAsgn_iff] at h1 h2
  exact (agrees_symAsgn_lt hk hg).mp ((agrees_symAsgn k g).mpr (fun j hj => (h1 j hj).symm.trans (h2 j hj)))

theorem cubes_meet_iff (k g : Nat) :
    (∃ ρ, agrees ρ (symAsgn k) 0 = true ∧ agrees ρ (symAsgn g) 0 = true) ↔ k % 2 ^ 16 = g % 2 ^ 16 := by
  rw [← low_bits_eq_iff]
  constructor
  · rintro ⟨ρ, h1, h2⟩ j hj
    rw [agrees_symAsgn_iff] at h1 h2
    exact (h1 j hj).symm.trans (h2 j hj)
  · intro h
    exact ⟨bits k, agrees_bits_self k, (agrees_symAsgn k g).mpr h⟩

/-- the cube of a code depends on its 16 low bits only: the code `k + 2^16` IS the code `k` -/
theorem symAsgn_wrap (k : Nat) : symAsgn (k + symbolCodes) = symAsgn k := by
  unfold symAsgn
  refine List.map_congr_left (fun i hi => congrArg some ?_)
  exact (low_bits_eq_iff 16 _ _).mpr (Nat.add_mod_right k (2 ^ 16)) i (List.mem_range.mp hi)

theorem mem_named_trans (nm : Nat → String) (r : Raw) (x : List String × String × String) :
    x ∈ (r.named nm).trans ↔ ∃ y, y ∈ r.trans ∧ x = (y.1.map nm, y.2.1, nm y.2.2) := by
  unfold Raw.named
  rw [normDesc_trans _ x]
  simp only [List.mem_map, eq_comm]

theorem mem_named_final (nm : Nat → String) (r : Raw) (q : String) :
    q ∈ (r.named nm).final ↔ ∃ n, n ∈ r.final ∧ q = nm n := by
  unfold Raw.named
  rw [normDesc_final _ q]
  simp only [List.mem_map, eq_comm]

theorem mem_named_states (nm : Nat → String) (r : Raw) (q : String) :
    q ∈ (r.named nm).states ↔ ∃ n, n ∈ r.states ∧ q = nm n := by
  unfold Raw.named
  rw [normDesc_states _ q]
  simp only [List.mem_map, eq_comm]

theorem named_name_symbols (nm : Nat → String) (r : Raw) : (r.named nm).name = "" ∧ (r.named nm).symbols = [] :=
  ⟨normDesc_name _, normDesc_symbols_nil _ rfl⟩

theorem dumpRaw_dict {sd : StateDict} {r : Raw} (h : ∀ q, q ∈ r.used → ∃ n, sd.bwd? q = some n) :
    dumpRaw (.dict sd) r = .ok (r.named (nameOf sd)) := by
  unfold dumpRaw
  simp only
  have : r.used.find? (fun q => (sd.bwd? q).isNone) = none := by
    rw [List.find?_eq_none]
    intro q hq
    obtain ⟨n, hn⟩ := h q hq
    simp [hn]
  rw [this]

theorem nameOf_get {sd : StateDict} (h : sd.Ok) {q : String} (hq : q ∈ sd.keys) : nameOf sd (sd.get q) = q :=
  LoadDump.nameOf_get h hq

theorem named_image {sd : StateDict} (h : sd.Ok) {S : String → Prop} (hS : ∀ q, S q → q ∈ sd.keys) {l : List Nat}
    (hl : ∀ n, n ∈ l ↔ ∃ q, S q ∧ n = sd.get q) (q : String) : (∃ n, n ∈ l ∧ q = nameOf sd n) ↔ S q := by
  constructor
  · rintro ⟨n, hn, rfl⟩
    obtain ⟨q', hq', rfl⟩ := (hl n).mp hn
    rw [nameOf_get h (hS _ hq')]; exact hq'
  · intro hq
    exact ⟨_, (hl _).mpr ⟨q, hq, rfl⟩, (nameOf_get h (hS q hq)).symm⟩

/-- what a load on a fresh state dictionary leaves in the state translator (either parameter, either encoding), when no
symbol is rejected -/
structure Loaded (par : Param) (d : AutDesc) (st : LSt) : Prop where
  ok : st.Ok
  keys : ∀ q, q ∈ st.sd.keys ↔ q ∈ d.final ∨ ∃ t, t ∈ d.trans ∧ (q = t.2.2 ∨ q ∈ t.1)
  cov : ∀ t, t ∈ d.trans → Covers par st t

namespace Loaded
variable {par : Param} {d : AutDesc} {st : LSt} (h : Loaded par d st)
include h

theorem named_kids {t : Trans} (ht : t ∈ d.trans) : (t.1.map st.sd.get).map (nameOf st.sd) = t.1 := by
  rw [List.map_map]
  conv => rhs; rw [← List.map_id t.1]
  exact List.map_congr_left (fun q hq => nameOf_get h.ok.sd ((h.cov t ht).kids q hq))

theorem named_parent {t : Trans} (ht : t ∈ d.trans) : nameOf st.sd (st.sd.get t.2.2) = t.2.2 :=
  nameOf_get h.ok.sd (h.cov t ht).parent

theorem final_key {q : String} (hq : q ∈ d.final) : q ∈ st.sd.keys := (h.keys q).mpr (Or.inl hq)

theorem dump_ok {r : Raw} {S : String → Prop} (hS : ∀ q, S q → q ∈ st.sd.keys)
    (hfin : r.final = d.final.map st.sd.get) (hst : ∀ n, n ∈ r.states ↔ ∃ q, S q ∧ n = st.sd.get q)
    (htr : ∀ y, y ∈ r.trans → ∃ t, t ∈ d.trans ∧ y.1 = t.1.map st.sd.get ∧ y.2.2 = st.sd.get t.2.2) :
    dumpRaw (.dict st.sd) r = .ok (r.named (nameOf st.sd)) ∧ (r.named (nameOf st.sd)).final ≈ d.final ∧
      ∀ q, q ∈ (r.named (nameOf st.sd)).states ↔ S q := by
  have hfin' : ∀ n, n ∈ r.final ↔ ∃ q, q ∈ d.final ∧ n = st.sd.get q := fun n => by
    rw [hfin]; simp only [List.mem_map, eq_comm]
  have hname : ∀ {q}, q ∈ st.sd.keys → ∃ n, st.sd.bwd? (st.sd.get q) = some n := fun hq => ⟨_, h.ok.sd.bwd_get hq⟩
  refine ⟨dumpRaw_dict ?_, fun q => (mem_named_final _ _ q).trans (named_image h.ok.sd (fun _ => h.final_key) hfin' q),
    fun q => (mem_named_states _ _ q).trans (named_image h.ok.sd hS hst q)⟩
  intro n hn
  simp only [Raw.used, List.mem_append, List.mem_flatMap, List.mem_singleton] at hn
  rcases hn with (hn | hn) | ⟨y, hy, hn⟩
  · obtain ⟨q, hq, rfl⟩ := (hfin' n).mp hn
    exact hname (h.final_key hq)
  · obtain ⟨q, hq, rfl⟩ := (hst n).mp hn
    exact hname (hS q hq)
  · obtain ⟨t, ht, e1, e2⟩ := htr y hy
    rcases hn with hn | rfl
    · rw [e1] at hn
      obtain ⟨q, hq, rfl⟩ := List.mem_map.mp hn
      exact hname ((h.cov t ht).kids q hq)
    · rw [e2]; exact hname (h.cov t ht).parent

end Loaded

/-- `Loaded` for the parameter "explicit", with what the load did to the alphabet `yd` it found: `st.yd` extends `yd` by the
symbol names of `d` -/
structure ExplLoad (yd : SymDict) (d : AutDesc) (st : LSt) : Prop extends Loaded .explicit d st where
  sub : Sub yd st.yd
  ydKeys : ∀ k, k ∈ st.yd.keys ↔ k ∈ yd.keys ∨ ∃ t, t ∈ d.trans ∧ k = t.2.1

theorem mem_stateNames {par : Param} {d : AutDesc} (hd : loaded par d.trans = (d.trans, none)) (q : String) :
    q ∈ stateNames par d ↔ q ∈ d.final ∨ ∃ t, t ∈ d.trans ∧ (q = t.2.2 ∨ q ∈ t.1) := by
  simp only [stateNames, hd, badNames, List.append_nil, List.mem_append, List.mem_flatMap, stNames, List.mem_cons]

theorem loaded_of_spec {par : Param} {yd : SymDict} {d : AutDesc} {st : LSt} {Y : List String}
    (hd : loaded par d.trans = (d.trans, none)) (h : Step ⟨[], 0, yd⟩ st (stateNames par d) Y)
    (hc : ∀ t, t ∈ (loaded par d.trans).1 → Covers par st t) : Loaded par d st := by
  rw [hd] at hc
  refine ⟨h.ok, fun q => ?_, hc⟩
  rw [h.sdKeys, mem_stateNames hd]
  exact or_iff_right (fun hq => absurd hq List.not_mem_nil)

theorem explLoad_of_spec {yd : SymDict} {d : AutDesc} {st : LSt}
    (h : Step ⟨[], 0, yd⟩ st (stateNames .explicit d) ((loaded .explicit d.trans).1.flatMap (symNames .explicit)))
    (hc : ∀ t, t ∈ (loaded .explicit d.trans).1 → Covers .explicit st t) : ExplLoad yd d st := by
  refine ⟨loaded_of_spec (loaded_explicit _) h hc, h.yd, fun k => ?_⟩
  rw [h.ydKeys]
  simp only [loaded_explicit, symNames, List.mem_flatMap, List.mem_singleton]

theorem explLoad_bu (A : AutBU) (yd : SymDict) (hyd : yd.Ok) (d : AutDesc) :
    ExplLoad yd d (loadBU .explicit A [] yd d).st ∧ (loadBU .explicit A [] yd d).err = none := by
  obtain ⟨h1, _, _, h4⟩ := loadDesc_spec AutBU.setFinal AutBU.add .explicit A ⟨[], 0, yd⟩ (init_ok hyd) d
  exact ⟨explLoad_of_spec h1 h4, (loadBU_err .explicit A yd hyd d).2.1 rfl⟩

theorem explLoad_td (A : AutTD) (yd : SymDict) (hyd : yd.Ok) (d : AutDesc) :
    ExplLoad yd d (loadTD .explicit A [] yd d).st ∧ (loadTD .explicit A [] yd d).err = none := by
  rw [← (loadBU_st_eq_loadTD .explicit {} A [] yd d).1, ← (loadBU_st_eq_loadTD .explicit {} A [] yd d).2]
  exact explLoad_bu {} yd hyd d

namespace ExplLoad
variable {yd : SymDict} {d : AutDesc} {st : LSt} (h : ExplLoad yd d st)
include h

theorem sym_mem {t : Trans} (ht : t ∈ d.trans) : (t.2.1, st.yd.get t.2.1) ∈ st.yd :=
  fwd?_some_mem (fwd_get ((h.cov t ht).sym rfl))

theorem alias_unique (hlim : st.yd.length ≤ symbolCodes) {f : String} {k : Nat} (hk : (f, k) ∈ st.yd) {t : Trans}
    (ht : t ∈ d.trans) (hm : k % 2 ^ 16 = st.yd.get t.2.1 % 2 ^ 16) : f = t.2.1 := by
  have hkl : k < 2 ^ 16 := Nat.lt_of_lt_of_le (h.ok.yd.mem_vals.mp (List.mem_map.mpr ⟨(f, k), hk, rfl⟩)) hlim
  have hgl : st.yd.get t.2.1 < 2 ^ 16 := Nat.lt_of_lt_of_le (h.ok.yd.get_lt ((h.cov t ht).sym rfl)) hlim
  rw [Nat.mod_eq_of_lt hkl, Nat.mod_eq_of_lt hgl] at hm
  have b1 : st.yd.bwd? k = some f := h.ok.yd.bwd_iff.mpr hk
  have b2 : st.yd.bwd? k = some t.2.1 := by rw [hm]; exact h.ok.yd.bwd_get ((h.cov t ht).sym rfl)
  exact Option.some.inj (b1.symm.trans b2)

theorem trans_of_dump (hlim : st.yd.length ≤ symbolCodes) {d' : AutDesc}
    (h4 : ∀ x, x ∈ d'.trans ↔ ∃ t, t ∈ d.trans ∧ ∃ f k, (f, k) ∈ st.yd ∧
      k % 2 ^ 16 = st.yd.get t.2.1 % 2 ^ 16 ∧ x = (t.1, f, t.2.2)) : d'.trans ≈ d.trans := by
  intro x
  rw [h4]
  constructor
  · rintro ⟨t, ht, f, k, hk, hm, rfl⟩
    rw [h.alias_unique hlim hk ht hm]; exact ht
  · intro hx
    exact ⟨x, hx, x.2.1, _, h.sym_mem hx, rfl, rfl⟩

end ExplLoad

/-- What `LoadFromAutDesc (d, fresh dictionary, "explicit")` into an empty automaton on the alphabet `yd` leaves, in either
encoding: the dictionaries `st` (`ExplLoad`), the final states `fin`, and the rules `Has ρ ks p` of the table for every valuation
– those of the transitions, under the code of their symbol's name and the condition `Ar` on what the table keeps of the number
of children above the symbol variables (nothing bottom-up, the arity prefix top-down). -/
structure ExplRun (yd : SymDict) (d : AutDesc) (st : LSt) (fin : List Nat)
    (Has : (Nat → Bool) → List Nat → Nat → Prop) (Ar : (Nat → Bool) → Nat → Prop) : Prop extends ExplLoad yd d st where
  fin_eq : fin = d.final.map st.sd.get
  rule : ∀ ρ ks p, Has ρ ks p ↔ ∃ t, t ∈ d.trans ∧ t.1.map st.sd.get = ks ∧ st.sd.get t.2.2 = p ∧
    agrees ρ (symAsgn (st.yd.get t.2.1)) 0 = true ∧ Ar ρ ks.length
  /-- the variables above the symbol can be set to fit any number of children -/
  ar_fit : ∀ ρ n, ∃ ρ', (∀ c : Cube, c.length = 16 → agrees ρ' c 0 = agrees ρ c 0) ∧ Ar ρ' n

namespace ExplRun
variable {yd : SymDict} {d : AutDesc} {st : LSt} {fin : List Nat} {Has : (Nat → Bool) → List Nat → Nat → Prop}
  {Ar : (Nat → Bool) → Nat → Prop} (h : ExplRun yd d st fin Has Ar)
include h

/-- every transition is in the table under the code of its own symbol -/
theorem has_own {t : Trans} (ht : t ∈ d.trans) :
    ∃ ρ, agrees ρ (symAsgn (st.yd.get t.2.1)) 0 = true ∧ Has ρ (t.1.map st.sd.get) (st.sd.get t.2.2) := by
  obtain ⟨ρ', h1, h2⟩ := h.ar_fit (bits (st.yd.get t.2.1)) (t.1.map st.sd.get).length
  have := (h1 _ (symAsgn_length _)).trans (agrees_bits_self _)
  exact ⟨ρ', this, (h.rule _ _ _).mpr ⟨t, ht, rfl, rfl, this, h2⟩⟩

/-- **the explicit dump of a loaded automaton, exactly** (either encoding, no bound on the alphabet), from what the raw dump
`r` holds: the final states; `(ks, f, p)` for the names `f` of the alphabet whose code meets a rule `ρ(ks) → p` of the table
(`mem_rawExplBU`, `mem_rawExplTD`); as `states` the numbers of a set `S` of translated names.  The dump with the dictionaries
of the load succeeds, has the final states of the description, lists `S` as `states` and every transition under EVERY name
whose allocation number agrees with that of its symbol on the 16 low bits. -/
theorem dump {r : Raw} {S : String → Prop} (hS : ∀ q, S q → q ∈ st.sd.keys) (hfin : r.final = fin)
    (hst : ∀ n, n ∈ r.states ↔ ∃ q, S q ∧ n = st.sd.get q)
    (hraw : ∀ ks f p, (ks, f, p) ∈ r.trans ↔ ∃ k, (f, k) ∈ st.yd ∧ ∃ ρ, agrees ρ (symAsgn k) 0 = true ∧ Has ρ ks p) :
    ∃ d', dumpRaw (.dict st.sd) r = .ok d' ∧ d'.final ≈ d.final ∧
      (∀ x, x ∈ d'.trans ↔ ∃ t, t ∈ d.trans ∧ ∃ f k, (f, k) ∈ st.yd ∧
        k % 2 ^ 16 = st.yd.get t.2.1 % 2 ^ 16 ∧ x = (t.1, f, t.2.2)) ∧
      (∀ q, q ∈ d'.states ↔ S q) ∧ d'.name = "" ∧ d'.symbols = [] := by
  -- the cubes of two codes meet iff the codes agree on the 16 low bits; the upper variables are chosen by `ar_fit`
  have htr : ∀ ks f p, (ks, f, p) ∈ r.trans ↔ ∃ t, t ∈ d.trans ∧ ks = t.1.map st.sd.get ∧ p = st.sd.get t.2.2 ∧
      ∃ k, (f, k) ∈ st.yd ∧ k % 2 ^ 16 = st.yd.get t.2.1 % 2 ^ 16 := by
    intro ks f p
    rw [hraw]
    constructor
    · rintro ⟨k, hk, ρ, h1, h2⟩
      obtain ⟨t, ht, e1, e2, h3, _⟩ := (h.rule ρ ks p).mp h2
      exact ⟨t, ht, e1.symm, e2.symm, k, hk, (cubes_meet_iff _ _).mp ⟨ρ, h1, h3⟩⟩
    · rintro ⟨t, ht, rfl, rfl, k, hk, hm⟩
      obtain ⟨ρ, h1, h2⟩ := (cubes_meet_iff _ _).mpr hm
      obtain ⟨ρ', e, h3⟩ := h.ar_fit ρ (t.1.map st.sd.get).length
      exact ⟨k, hk, ρ', (e _ (symAsgn_length _)).trans h1,
        (h.rule _ _ _).mpr ⟨t, ht, rfl, rfl, (e _ (symAsgn_length _)).trans h2, h3⟩⟩
  obtain ⟨h1, h2, h3⟩ := h.dump_ok hS (hfin.trans h.fin_eq) hst (fun ⟨ks, f, p⟩ hy => by
    obtain ⟨t, ht, e1, e2, _⟩ := (htr ks f p).mp hy
    exact ⟨t, ht, e1, e2⟩)
  refine ⟨_, h1, h2, fun x => ?_, h3, (named_name_symbols _ _).1, (named_name_symbols _ _).2⟩
  rw [mem_named_trans]
  constructor
  · rintro ⟨⟨ks, f, p⟩, hy, rfl⟩
    obtain ⟨t, ht, rfl, rfl, k, hk, hm⟩ := (htr ks f p).mp hy
    refine ⟨t, ht, f, k, hk, hm, ?_⟩
    simp only
    rw [h.named_kids ht, h.named_parent ht]
  · rintro ⟨t, ht, f, k, hk, hm, rfl⟩
    refine ⟨(t.1.map st.sd.get, f, st.sd.get t.2.2), (htr _ _ _).mpr ⟨t, ht, rfl, rfl, k, hk, hm⟩, ?_⟩
    simp only
    rw [h.named_kids ht, h.named_parent ht]

end ExplRun

theorem explRun_bu (d : AutDesc) (yd : SymDict) (hyd : yd.Ok) :
    ExplRun yd d (loadBU .explicit {} [] yd d).st (loadBU .explicit {} [] yd d).aut.fin
      (HasRule (loadBU .explicit {} [] yd d).aut.tbl) (fun _ _ => True) where
  toExplLoad := (explLoad_bu {} yd hyd d).1
  fin_eq := (loadBU_aut .explicit {} yd hyd d).2
  rule := fun ρ ks p => by
    rw [hasRule_loadBU .explicit {} yd hyd d, loaded_explicit, or_iff_right (hasRule_empty ρ ks p)]
    exact exists_congr fun _ => and_congr_right fun _ => and_congr_right fun _ => and_congr_right fun _ =>
      (and_iff_left trivial).symm
  ar_fit := fun ρ _ => ⟨ρ, fun _ _ => rfl, trivial⟩

theorem explRun_td (d : AutDesc) (yd : SymDict) (hyd : yd.Ok) :
    ExplRun yd d (loadTD .explicit {} [] yd d).st (loadTD .explicit {} [] yd d).aut.fin
      (fun ρ ks p => HasRuleTD (loadTD .explicit {} [] yd d).aut.tbl ρ p ks) (fun ρ n => arOK ρ n = true) where
  toExplLoad := (explLoad_td {} yd hyd d).1
  fin_eq := (loadTD_aut .explicit {} yd hyd d).2
  rule := fun ρ ks p => by
    rw [hasRuleTD_loadTD .explicit {} yd hyd d, loaded_explicit, or_iff_right (hasRuleTD_nil ρ p ks)]
    exact Iff.rfl
  ar_fit := fun ρ n =>
    ⟨withArity ρ (n % 64), fun c hc => agrees_withArity ρ _ c (Nat.le_of_eq hc), arOK_withArity_mod ρ n⟩

theorem pairs_kids_loadBU (par : Param) (yd : SymDict) (hyd : yd.Ok) (d : AutDesc) {e : List Nat × MT}
    (he : e ∈ pairs (loadBU par {} [] yd d).aut.tbl) (hne : e.1 ≠ []) :
    ∃ t, t ∈ (loaded par d.trans).1 ∧ e.1 = t.1.map (loadBU par {} [] yd d).st.sd.get := by
  have hk : e.1 ∈ (loadBU par {} [] yd d).aut.tbl.keys := List.mem_map_of_mem (f := (·.1)) he
  rw [(loadBU_aut par {} yd hyd d).1] at hk
  rcases keys_foldl_addCube _ _ _ e.1 _ _ hk with h | ⟨t, ht, e'⟩
  · exact absurd (List.mem_singleton.mp h) hne
  · exact ⟨t, ht, e'.symm⟩

theorem mem_statesBU {d : AutDesc} {R : Run AutBU} (hfin : R.aut.fin = d.final.map R.st.sd.get)
    (hkids : ∀ e, e ∈ pairs R.aut.tbl → e.1 ≠ [] → ∃ t, t ∈ d.trans ∧ e.1 = t.1.map R.st.sd.get)
    (hpairs : ∀ t, t ∈ d.trans → ∃ m, (t.1.map R.st.sd.get, m) ∈ pairs R.aut.tbl) (n : Nat) :
    n ∈ R.aut.fin ++ (pairs R.aut.tbl).flatMap (·.1) ↔
      ∃ q, (q ∈ d.final ∨ ∃ t, t ∈ d.trans ∧ q ∈ t.1) ∧ n = R.st.sd.get q := by
  rw [List.mem_append, List.mem_flatMap, hfin, List.mem_map]
  constructor
  · rintro (⟨q, hq, rfl⟩ | ⟨e, he, hn⟩)
    · exact ⟨q, Or.inl hq, rfl⟩
    · obtain ⟨t, ht, e'⟩ := hkids e he (fun h => by rw [h] at hn; cases hn)
      rw [e'] at hn
      obtain ⟨q, hq, rfl⟩ := List.mem_map.mp hn
      exact ⟨q, Or.inr ⟨t, ht, hq⟩, rfl⟩
  · rintro ⟨q, hq | ⟨t, ht, hq⟩, rfl⟩
    · exact Or.inl ⟨q, hq, rfl⟩
    · obtain ⟨m, hm⟩ := hpairs t ht
      exact Or.inr ⟨_, hm, List.mem_map_of_mem hq⟩

/-- **the dump of a loaded bottom-up automaton, exactly** (no bound on the alphabet).  A description loaded with the
explicit parameter into a new automaton with a fresh state dictionary on an alphabet that may be in use (`yd.Ok`): the dump
with the dictionaries of the load succeeds, has the final states of the description, lists as `states` the final states
and the children, and lists every transition of the description under EVERY name of the alphabet whose allocation number
agrees with that of its symbol on the 16 low bits (the same code). -/
theorem dump_load_bu_exact (d : AutDesc) (yd : SymDict) (hyd : yd.Ok) :
    ∃ d', dumpBU .explicit (.dict (loadBU Param.explicit ({} : AutBU) [] yd d).st.sd)
        (loadBU Param.explicit ({} : AutBU) [] yd d).st.yd (loadBU Param.explicit ({} : AutBU) [] yd d).aut = .ok d' ∧
      (loadBU Param.explicit ({} : AutBU) [] yd d).err = none ∧
      d'.final ≈ d.final ∧
      (∀ x, x ∈ d'.trans ↔ ∃ t, t ∈ d.trans ∧ ∃ f k, (f, k) ∈ (loadBU Param.explicit ({} : AutBU) [] yd d).st.yd ∧
        k % 2 ^ 16 = (loadBU Param.explicit ({} : AutBU) [] yd d).st.yd.get t.2.1 % 2 ^ 16 ∧ x = (t.1, f, t.2.2)) ∧
      d'.states ≈ d.final ++ d.trans.flatMap (·.1) ∧ d'.name = "" ∧ d'.symbols = [] := by
  have hR := explRun_bu d yd hyd
  obtain ⟨hT, hW⟩ := table_loadBU .explicit {} yd hyd d tableOk_empty tableWF_empty
  have hkids := fun e => pairs_kids_loadBU .explicit yd hyd d (e := e)
  rw [loaded_explicit] at hkids
  have hst := mem_statesBU hR.fin_eq hkids (fun t ht =>
    let ⟨_, _, hρ⟩ := hR.has_own ht; ⟨_, pairs_of_hasRule hT hρ⟩)
  obtain ⟨d', h1, h2, h3, h4, h5⟩ := hR.dump
    (fun q hq => hq.elim hR.final_key (fun ⟨t, ht, hq⟩ => (hR.cov t ht).kids q hq)) rfl hst (mem_rawExplBU hT hW)
  exact ⟨d', h1, (explLoad_bu {} yd hyd d).2, h2, h3,
    fun q => (h4 q).trans (by simp only [List.mem_append, List.mem_flatMap]), h5⟩

theorem mem_rawExplTD_states (yd : SymDict) (A : AutTD) (n : Nat) :
    n ∈ (rawExplTD yd A).states ↔ n ∈ A.fin ∨ n ∈ keysTD A.tbl ∨ ∃ x, x ∈ (rawExplTD yd A).trans ∧ n ∈ x.1 := by
  simp only [rawExplTD, List.mem_append, List.mem_flatMap, List.mem_cons]
  refine or_congr Iff.rfl ⟨?_, ?_⟩
  · rintro ⟨p, hp, rfl | ⟨x, hx, hn⟩⟩
    · exact Or.inl hp
    · exact Or.inr ⟨x, ⟨p, hp, hx⟩, hn⟩
  · rintro (hp | ⟨x, ⟨p, hp, hx⟩, hn⟩)
    · exact ⟨n, hp, Or.inl rfl⟩
    · exact ⟨p, hp, Or.inr ⟨x, hx, hn⟩⟩

/-- a transition under the code of its symbol and the prefix of its number of children modulo 64 -/
theorem hasRuleTD_of_trans (d : AutDesc) (yd : SymDict) (hyd : yd.Ok) {t : Trans} (ht : t ∈ d.trans) :
    HasRuleTD (loadTD .explicit {} [] yd d).aut.tbl
      (bitsAr ((loadTD .explicit {} [] yd d).st.yd.get t.2.1) (t.1.length % 64))
      ((loadTD .explicit {} [] yd d).st.sd.get t.2.2) (t.1.map (loadTD .explicit {} [] yd d).st.sd.get) := by
  refine ((explRun_td d yd hyd).rule _ _ _).mpr ⟨t, ht, rfl, rfl, agrees_bitsAr_self _ _, ?_⟩
  rw [List.length_map]; exact arOK_withArity_mod _ _

/-- **the dump of a loaded top-down automaton, exactly** (no bound on the alphabet): as `dump_load_bu_exact`; the
`states` of the dump are all states of the description (final states, parents and children).  No hypothesis on ranks or
arities: the dump collects the tuples for every value of the arity variables, so a transition with 64 or more children
comes back as well. -/
theorem dump_load_td_exact (d : AutDesc) (yd : SymDict) (hyd : yd.Ok) :
    ∃ d', dumpTD .explicit (.dict (loadTD Param.explicit ({} : AutTD) [] yd d).st.sd)
        (loadTD Param.explicit ({} : AutTD) [] yd d).st.yd (loadTD Param.explicit ({} : AutTD) [] yd d).aut = .ok d' ∧
      (loadTD Param.explicit ({} : AutTD) [] yd d).err = none ∧
      d'.final ≈ d.final ∧
      (∀ x, x ∈ d'.trans ↔ ∃ t, t ∈ d.trans ∧ ∃ f k, (f, k) ∈ (loadTD Param.explicit ({} : AutTD) [] yd d).st.yd ∧
        k % 2 ^ 16 = (loadTD Param.explicit ({} : AutTD) [] yd d).st.yd.get t.2.1 % 2 ^ 16 ∧ x = (t.1, f, t.2.2)) ∧
      d'.states ≈ d.final ++ d.trans.flatMap (fun t => t.2.2 :: t.1) ∧ d'.name = "" ∧ d'.symbols = [] := by
  have hR := explRun_td d yd hyd
  obtain ⟨hT, _⟩ := table_loadTD .explicit {} yd hyd d tableTD_nil
  have hraw := fun ks f p => mem_rawExplTD (yd := (loadTD .explicit {} [] yd d).st.yd) hT ks f p
  have hkeys : ∀ n, n ∈ keysTD (loadTD .explicit {} [] yd d).aut.tbl →
      ∃ t, t ∈ d.trans ∧ (loadTD .explicit {} [] yd d).st.sd.get t.2.2 = n := by
    intro n hn
    rw [(loadTD_aut .explicit {} yd hyd d).1, loaded_explicit] at hn
    exact (keysTD_foldl_addCubeTD _ _ _ n _ _ hn).elim (fun h => nomatch h) id
  have hst : ∀ n, n ∈ (rawExplTD (loadTD .explicit {} [] yd d).st.yd (loadTD .explicit {} [] yd d).aut).states ↔
      ∃ q, q ∈ (loadTD .explicit {} [] yd d).st.sd.keys ∧ n = (loadTD .explicit {} [] yd d).st.sd.get q := by
    intro n
    rw [mem_rawExplTD_states, hR.fin_eq, List.mem_map]
    constructor
    · rintro (⟨q, hq, rfl⟩ | hp | ⟨⟨ks, f, q⟩, hx, hn⟩)
      · exact ⟨q, hR.final_key hq, rfl⟩
      · obtain ⟨t, ht, e⟩ := hkeys n hp
        exact ⟨t.2.2, (hR.cov t ht).parent, e.symm⟩
      · obtain ⟨_, _, ρ, _, h2⟩ := (hraw ks f q).mp hx
        obtain ⟨t, ht, rfl, _⟩ := (hR.rule ρ ks q).mp h2
        obtain ⟨q', hq', rfl⟩ := List.mem_map.mp hn
        exact ⟨q', (hR.cov t ht).kids q' hq', rfl⟩
    · rintro ⟨q, hq, rfl⟩
      rcases (hR.keys q).mp hq with hq | ⟨t, ht, rfl | hq⟩
      · exact Or.inl ⟨q, hq, rfl⟩
      · obtain ⟨_, _, hρ⟩ := hR.has_own ht
        exact Or.inr (Or.inl (hasRuleTD_key hρ))
      · obtain ⟨ρ, h1, hρ⟩ := hR.has_own ht
        exact Or.inr (Or.inr ⟨_, (hraw _ t.2.1 _).mpr ⟨_, hR.sym_mem ht, ρ, h1, hρ⟩, List.mem_map_of_mem hq⟩)
  obtain ⟨d', h1, h2, h3, h4, h5⟩ := hR.dump (fun _ hq => hq) rfl hst hraw
  refine ⟨d', h1, (explLoad_td {} yd hyd d).2, h2, h3, fun q => (h4 q).trans ?_, h5⟩
  rw [hR.keys q]
  simp only [List.mem_append, List.mem_flatMap, List.mem_cons]

theorem trSym_new (s : LSt) {f : String} (h : f ∉ s.yd.keys) :
    (trSym s f).1 = s.yd.length ∧ (trSym s f).2.yd = s.yd ++ [(f, s.yd.length)] := by
  have hn : s.yd.fwd? f = none := fwd?_eq_none.mpr h
  simp [trSym, Dict.weak, hn, Dict.insert]

theorem trSym_old (s : LSt) {f : String} {k : Nat} (h : s.yd.fwd? f = some k) :
    (trSym s f).1 = k ∧ (trSym s f).2.yd = s.yd := by
  simp [trSym, Dict.weak, h]

/-- the description with the single transition `b -> q` (no final state) -/
def leafDesc (b q : String) : AutDesc := { name := "", symbols := [], states := [], final := [], trans := [([], b, q)] }

theorem leafDesc_load_bu (yd : SymDict) {b : String} (q : String) (hb : b ∉ yd.keys) :
    (loadBU .explicit {} [] yd (leafDesc b q)).st.yd.get b = yd.length ∧
      (loadBU .explicit {} [] yd (leafDesc b q)).st.yd = yd ++ [(b, yd.length)] := by
  have hn : yd.fwd? b = none := fwd?_eq_none.mpr hb
  have h2 : (loadBU .explicit {} [] yd (leafDesc b q)).st.yd = yd ++ [(b, yd.length)] := by
    simp [loadBU, loadDesc, leafDesc, stepTrans, trRule, trStates, trState, trSym, Dict.weak, hn, Dict.insert]
  refine ⟨?_, h2⟩
  rw [h2]
  apply get_of_fwd
  rw [fwd?_append_none hn]; simp [fwd?]

theorem leafDesc_load_td (yd : SymDict) {b : String} (q : String) (hb : b ∉ yd.keys) :
    (loadTD .explicit {} [] yd (leafDesc b q)).st.yd.get b = yd.length ∧
      (loadTD .explicit {} [] yd (leafDesc b q)).st.yd = yd ++ [(b, yd.length)] := by
  rw [← (loadBU_st_eq_loadTD .explicit {} {} [] yd (leafDesc b q)).1]
  exact leafDesc_load_bu yd q hb

theorem alias_of_dump {yd yd' : SymDict} {a b : String} (q : String) {k : Nat} (ha : (a, k) ∈ yd) (hb : b ∉ yd.keys)
    (hlen : yd.length = k + symbolCodes) (hg : yd'.get b = yd.length) (hy : yd' = yd ++ [(b, yd.length)]) {d' : AutDesc}
    (h4 : ∀ x, x ∈ d'.trans ↔ ∃ t, t ∈ (leafDesc b q).trans ∧ ∃ f k, (f, k) ∈ yd' ∧
      k % 2 ^ 16 = yd'.get t.2.1 % 2 ^ 16 ∧ x = (t.1, f, t.2.2)) :
    ([], b, q) ∈ d'.trans ∧ ([], a, q) ∈ d'.trans ∧ ([], a, q) ∉ (leafDesc b q).trans := by
  have hab : a ≠ b := fun e => hb (e ▸ List.mem_map.mpr ⟨(a, k), ha, rfl⟩)
  refine ⟨(h4 _).mpr ⟨([], b, q), List.mem_singleton.mpr rfl, b, yd.length, ?_, ?_, rfl⟩,
    (h4 _).mpr ⟨([], b, q), List.mem_singleton.mpr rfl, a, k, ?_, ?_, rfl⟩, by simp [leafDesc, hab]⟩
  · rw [hy]; simp
  · rw [hg]
  · rw [hy]; exact List.mem_append_left _ ha
  · rw [hg, hlen]; exact (Nat.add_mod_right k (2 ^ 16)).symm

/-- an alphabet with `n` names (`""`, `"z"`, `"zz"`, …) in the state the translator leaves it -/
def fillAlphabet (n : Nat) : SymDict := (List.range n).map (fun i => (String.ofList (List.replicate i 'z'), i))

theorem fillAlphabet_ok (n : Nat) : (fillAlphabet n).Ok := by
  refine ⟨?_, ?_⟩
  · unfold fillAlphabet Dict.keys
    rw [List.map_map]
    refine List.Pairwise.map _ ?_ (List.nodup_range (n := n))
    intro i j hij e
    apply hij
    have := congrArg (fun s => s.toList.length) e
    simpa using this
  · unfold fillAlphabet Dict.vals
    rw [List.map_map, List.length_map, List.length_range]
    show List.map (fun i => i) (List.range n) = List.range n
    exact List.map_id' _

theorem fillAlphabet_length (n : Nat) : (fillAlphabet n).length = n := by simp [fillAlphabet]

theorem fillAlphabet_mem {n i : Nat} (h : i < n) : (String.ofList (List.replicate i 'z'), i) ∈ fillAlphabet n :=
  List.mem_map.mpr ⟨i, List.mem_range.mpr h, rfl⟩

theorem fillAlphabet_key {n : Nat} {f : String} (h : f ∈ (fillAlphabet n).keys) : ∃ i, f = String.ofList (List.replicate i 'z') := by
  unfold fillAlphabet Dict.keys at h
  rw [List.map_map] at h
  obtain ⟨i, _, rfl⟩ := List.mem_map.mp h
  exact ⟨i, rfl⟩

theorem alias_at_wrap_instance :
    (fillAlphabet symbolCodes).Ok ∧ (fillAlphabet symbolCodes).length = 0 + symbolCodes ∧
    ("", 0) ∈ fillAlphabet symbolCodes ∧ "b" ∉ (fillAlphabet symbolCodes).keys := by
  refine ⟨fillAlphabet_ok _, by rw [fillAlphabet_length]; rfl, fillAlphabet_mem (i := 0) (by decide), ?_⟩
  intro h
  obtain ⟨i, hi⟩ := fillAlphabet_key h
  have := congrArg String.toList hi
  simp only [String.toList_ofList] at this
  have h0 : 'b' ∈ List.replicate i 'z' := by rw [← this]; decide
  have := List.eq_of_mem_replicate h0
  exact absurd this (by decide)

theorem arOK_of_loadTD (par : Param) (d : AutDesc) (yd : SymDict) (hyd : yd.Ok) {ρ : Nat → Bool} {p : Nat} {ks : List Nat}
    (h : HasRuleTD (loadTD par {} [] yd d).aut.tbl ρ p ks) :
    (∃ t, t ∈ d.trans ∧ t.1.length = ks.length) ∧ arOK ρ ks.length = true := by
  rcases (hasRuleTD_loadTD par {} yd hyd d ρ p ks).mp h with h | ⟨t, ht, e, _, _, har⟩
  · exact absurd h (hasRuleTD_nil ρ p ks)
  · exact ⟨⟨t, (mem_loaded ht).1, by rw [← e, List.length_map]⟩, har⟩

theorem arAsgn_get (n j : Nat) (hj : j < 6) : decide ((arAsgn n)[j]? = some (some true)) = n.testBit j := by
  unfold arAsgn
  rw [List.getElem?_map, List.getElem?_range hj]
  cases h : n.testBit j <;> simp [h]

/-- the valuation under which `GetMtbddForPrefix (arAsgn n, 16)` reads the MTBDD agrees with `withArity ρ n` on the 22
variables -/
theorem prefix_valuation (ρ : Nat → Bool) (n i : Nat) (hi : i < 22) :
    (if i < 16 then ρ i else decide ((arAsgn n)[i - 16]? = some (some true))) = withArity ρ n i := by
  unfold withArity
  by_cases h16 : i < 16
  · rw [if_pos h16, if_pos h16]
  · rw [if_neg h16, if_neg h16]; exact arAsgn_get n _ (by omega)

/-- **`GetMtbddForArity`**: every tuple that `GetMtbddForArity (GetMtbdd (p), n)` shows of a loaded top-down table (either
parameter) has `n` children modulo 64 -/
theorem tuplesForArity_mod (par : Param) (d : AutDesc) (yd : SymDict) (hyd : yd.Ok) {p n : Nat} {ks : List Nat}
    (h : ks ∈ tuplesForArity (loadTD par {} [] yd d).aut.tbl p n) : ks.length % 64 = n % 64 := by
  obtain ⟨hT, hB⟩ := table_loadTD par {} yd hyd d tableTD_nil
  unfold tuplesForArity at h
  obtain ⟨ρ, hρ⟩ := (mem_leafTuples (getPrefix_wf _ _ (hT p)).1).mp h
  rw [getPrefix_eval _ _ _ (hT p), eval_congr_of_below (prefix_valuation ρ n) (hB p)] at hρ
  exact arOK_mod (arOK_of_loadTD par d yd hyd hρ).2 (arOK_withArity_self ρ n)

def ruleOf (st : LSt) (t : Trans) : Rule := ⟨st.yd.get t.2.1, t.1.map st.sd.get, st.sd.get t.2.2⟩

theorem explBU_eq_ofRules (d : AutDesc) (yd : SymDict) (hyd : yd.Ok) :
    (loadBU .explicit {} [] yd d).aut.tbl = ofRules (d.trans.map (ruleOf (loadBU .explicit {} [] yd d).st)) := by
  rw [(loadBU_aut .explicit {} yd hyd d).1, loaded_explicit, ofRules, List.foldl_map]
  rfl

theorem explTD_eq_ofRulesTD (d : AutDesc) (yd : SymDict) (hyd : yd.Ok) :
    (loadTD .explicit {} [] yd d).aut.tbl = ofRulesTD (d.trans.map (ruleOf (loadTD .explicit {} [] yd d).st)) := by
  rw [(loadTD_aut .explicit {} yd hyd d).1, loaded_explicit, ofRulesTD, List.foldl_map]
  rfl

/-- two descriptions with the same sets of final states and transitions, loaded from the same alphabet on fresh state
dictionaries: the numbered automata are images of each other under bijections of the state and symbol numbers -/
theorem perm_core {d₁ d₂ : AutDesc} {yd : SymDict} {st₁ st₂ : LSt} (h₁ : ExplLoad yd d₁ st₁) (h₂ : ExplLoad yd d₂ st₂)
    (hf : d₁.final ≈ d₂.final) (ht : d₁.trans ≈ d₂.trans) :
    ∃ h g, (Function.Injective h ∧ Function.Surjective h) ∧ (Function.Injective g ∧ Function.Surjective g) ∧
      (∀ q, q ∈ st₁.sd.keys → h (st₁.sd.get q) = st₂.sd.get q) ∧ (∀ k, k ∈ st₁.yd.keys → g (st₁.yd.get k) = st₂.yd.get k) ∧
      ∀ t, accepts ⟨d₂.trans.map (ruleOf st₂), d₂.final.map st₂.sd.get⟩ (t.mapSyms g) =
        accepts ⟨d₁.trans.map (ruleOf st₁), d₁.final.map st₁.sd.get⟩ t := by
  obtain ⟨bh, bg, hh, hg, _, _, hl⟩ := transfer_numbered h₁.ok.sd h₂.ok.sd h₁.ok.yd h₂.ok.yd
    (fun q => by
      rw [h₁.keys, h₂.keys, hf q]
      exact or_congr Iff.rfl (exists_congr fun t => and_congr (ht t) Iff.rfl))
    (fun k => by
      rw [h₁.ydKeys, h₂.ydKeys]
      exact or_congr Iff.rfl (exists_congr fun t => and_congr (ht t) Iff.rfl))
    (·.2.1) ht hf (fun t htm => ⟨(h₁.cov t htm).kids, (h₁.cov t htm).parent, (h₁.cov t htm).sym rfl⟩)
    (fun n hn => h₁.final_key hn) (A₁ := ⟨d₁.trans.map (ruleOf st₁), d₁.final.map st₁.sd.get⟩)
    (A₂ := ⟨d₂.trans.map (ruleOf st₂), d₂.final.map st₂.sd.get⟩) rfl rfl rfl rfl
  exact ⟨_, _, bh, bg, hh, hg, hl⟩

theorem ExplLoad.ruleOf_ok {yd : SymDict} {d : AutDesc} {st : LSt} (h : ExplLoad yd d st)
    (hlim : st.yd.length ≤ symbolCodes) :
    (∀ r, r ∈ d.trans.map (ruleOf st) → r.sym < 2 ^ 16 ∧ r.sym ∈ st.yd.vals) ∧ ∀ f, f ∈ st.yd.vals → f < 2 ^ 16 := by
  have hlim' : st.yd.length ≤ 2 ^ 16 := hlim
  refine ⟨fun r hr => ?_, fun f hf => Nat.lt_of_lt_of_le (h.ok.yd.mem_vals.mp hf) hlim'⟩
  obtain ⟨t, ht, rfl⟩ := List.mem_map.mp hr
  exact ⟨Nat.lt_of_lt_of_le (h.ok.yd.get_lt ((h.cov t ht).sym rfl)) hlim', List.mem_map.mpr ⟨_, h.sym_mem ht, rfl⟩⟩

theorem absBU_loaded (d : AutDesc) (yd : SymDict) (hyd : yd.Ok)
    (hlim : (loadBU .explicit {} [] yd d).st.yd.length ≤ symbolCodes) (t : Tree) :
    accepts (absBU (loadBU .explicit {} [] yd d).st.yd.vals (loadBU .explicit {} [] yd d).aut.tbl
        (loadBU .explicit {} [] yd d).aut.fin) t =
      accepts ⟨d.trans.map (ruleOf (loadBU .explicit {} [] yd d).st),
        d.final.map (loadBU .explicit {} [] yd d).st.sd.get⟩ t := by
  obtain ⟨h1, h2⟩ := (explLoad_bu {} yd hyd d).1.ruleOf_ok hlim
  rw [explBU_eq_ofRules d yd hyd, (loadBU_aut .explicit {} yd hyd d).2]
  exact (absBU_ofRules_setEq _ _ _ h1 h2).lang t

theorem absTD_loaded (d : AutDesc) (yd : SymDict) (hyd : yd.Ok)
    (hlim : (loadTD .explicit {} [] yd d).st.yd.length ≤ symbolCodes)
    (har : ∀ t, t ∈ d.trans → t.1.length < arityCodes) (t : Tree) :
    accepts (absTD (loadTD .explicit {} [] yd d).st.yd.vals (loadTD .explicit {} [] yd d).aut.tbl
        (loadTD .explicit {} [] yd d).aut.fin) t =
      accepts ⟨d.trans.map (ruleOf (loadTD .explicit {} [] yd d).st),
        d.final.map (loadTD .explicit {} [] yd d).st.sd.get⟩ t := by
  obtain ⟨h1, h2⟩ := (explLoad_td {} yd hyd d).1.ruleOf_ok hlim
  rw [explTD_eq_ofRulesTD d yd hyd, (loadTD_aut .explicit {} yd hyd d).2]
  refine (absTD_ofRulesTD_setEq _ _ _ (fun r hr => ⟨(h1 r hr).1, ?_, (h1 r hr).2⟩) h2).lang t
  obtain ⟨t', ht', rfl⟩ := List.mem_map.mp hr
  simp only [ruleOf, List.length_map]
  exact har t' ht'

theorem exists_agrees (p : Cube) : ∃ ρ, agrees ρ p 0 = true := by
  refine ⟨fun i => p[i]? == some (some true), ?_⟩
  rw [agrees_iff]
  intro j b hj
  simp only [Nat.zero_add, hj]
  cases b <;> simp

/-- the assignment that a symbol string of ANY length denotes (what a reader of the symbolic dump makes of it) -/
def cubeOfStr (f : String) : Option Cube := Glue.ofStr f.toList

theorem cubeOfStr_toStr (a : Cube) : cubeOfStr (String.ofList (Glue.toStr a)) = some a := by
  unfold cubeOfStr; rw [String.toList_ofList]; exact Glue.ofStr_toStr a

theorem symOfStr_cubeOfStr {f : String} {a : Cube} (h : symOfStr f = .ok a) : cubeOfStr f = some a :=
  (symOfStr_ok_iff.mp h).2

theorem symOfStr_of_cubeOfStr {f : String} {a : Cube} (h : cubeOfStr f = some a) (hl : f.toList.length = 16) :
    symOfStr f = .ok a :=
  symOfStr_ok_iff.mpr ⟨hl, h⟩

/-- **the symbolic dump denotes the table** (any bottom-up automaton whose table is well formed): for every valuation
`ρ` of the symbol variables the table holds the rule `ρ(ks) → p` iff the dump lists a transition `(ks, f, p)` whose symbol
string `f` – an assignment of whatever length, don't-care beyond its end – has `ρ` in its cube -/
theorem sym_dump_denotes {A : AutBU} (hT : TableOk A.tbl) (hW : TableWF A.tbl) (ρ : Nat → Bool) (ks : List Nat) (p : Nat) :
    HasRule A.tbl ρ ks p ↔
      ∃ f a, (ks, f, p) ∈ (rawSymBU A).trans ∧ cubeOfStr f = some a ∧ agrees ρ a 0 = true := by
  constructor
  · intro h
    obtain ⟨path, hp, hag⟩ := getPaths_complete (hW ks).1 ρ
    refine ⟨String.ofList (Glue.toStr path), path, ?_, cubeOfStr_toStr path, hag⟩
    exact (mem_rawSymBU hT ks _ p).mpr ⟨pairs_of_hasRule hT h, (path, eval (A.tbl.get ks) ρ), hp, h, rfl⟩
  · rintro ⟨f, a, hm, hf, hag⟩
    obtain ⟨_, pl, hpl, hp, rfl⟩ := (mem_rawSymBU hT ks f p).mp hm
    rw [cubeOfStr_toStr] at hf
    cases hf
    have := getPaths_sound (hW ks).1 hpl ρ hag
    unfold HasRule
    rw [this]; exact hp

theorem rawSymBU_hasRule {A : AutBU} (hT : TableOk A.tbl) (hW : TableWF A.tbl) {ks : List Nat} {f : String} {p : Nat}
    (h : (ks, f, p) ∈ (rawSymBU A).trans) : ∃ ρ, HasRule A.tbl ρ ks p := by
  obtain ⟨_, pl, _, _, rfl⟩ := (mem_rawSymBU hT ks f p).mp h
  obtain ⟨ρ, hρ⟩ := exists_agrees pl.1
  exact ⟨ρ, (sym_dump_denotes hT hW ρ ks p).mpr ⟨_, pl.1, h, cubeOfStr_toStr _, hρ⟩⟩

def SymValid (d : AutDesc) : Prop := ∀ t, t ∈ d.trans → ∃ a, symOfStr t.2.1 = .ok a

theorem SymValid.noErr {d : AutDesc} (h : SymValid d) : ∀ t, t ∈ d.trans → symErr .symbolic t = none := by
  intro t ht
  obtain ⟨a, ha⟩ := h t ht
  rw [symErr_symbolic, ha]

theorem symLoad_bu (A : AutBU) (yd : SymDict) (hyd : yd.Ok) (d : AutDesc) (hv : SymValid d) :
    Loaded .symbolic d (loadBU .symbolic A [] yd d).st ∧ (loadBU .symbolic A [] yd d).st.yd = yd ∧
      (loadBU .symbolic A [] yd d).err = none := by
  obtain ⟨h1, _, _, h4⟩ := loadDesc_spec AutBU.setFinal AutBU.add .symbolic A ⟨[], 0, yd⟩ (init_ok hyd) d
  obtain ⟨e1, _, e3⟩ := loadBU_err .symbolic A yd hyd d
  have hd := loaded_of_noErr hv.noErr
  exact ⟨loaded_of_spec hd h1 h4, e3 rfl, by rw [e1, hd]; rfl⟩

/-- **the symbolic load denotes the description**: the rules of the table of a symbolic load (no rejected symbol) into
the empty bottom-up automaton, for every valuation of the symbol variables -/
theorem sym_load_denotes (d : AutDesc) (yd : SymDict) (hyd : yd.Ok) (hv : SymValid d) (ρ : Nat → Bool) (ks : List Nat)
    (p : Nat) :
    HasRule (loadBU .symbolic {} [] yd d).aut.tbl ρ ks p ↔
      ∃ t a, t ∈ d.trans ∧ symOfStr t.2.1 = .ok a ∧ agrees ρ a 0 = true ∧
        t.1.map (loadBU .symbolic {} [] yd d).st.sd.get = ks ∧ (loadBU .symbolic {} [] yd d).st.sd.get t.2.2 = p := by
  rw [hasRule_loadBU .symbolic {} yd hyd d, loaded_of_noErr hv.noErr, or_iff_right (hasRule_empty ρ ks p)]
  constructor
  · rintro ⟨t, ht, e1, e2, hag⟩
    obtain ⟨a, ha⟩ := hv t ht
    rw [cube_symbolic, ha] at hag
    exact ⟨t, a, ht, ha, hag, e1, e2⟩
  · rintro ⟨t, a, ht, ha, hag, e1, e2⟩
    refine ⟨t, ht, e1, e2, ?_⟩
    rw [cube_symbolic, ha]; exact hag

/-- **symbolic load then symbolic dump.**  A description whose symbols are all accepted, loaded with the symbolic parameter
into a new bottom-up automaton with a fresh state dictionary: the alphabet is not touched, the symbolic dump with the
dictionary of the load succeeds, has the same final states, and DENOTES the same rules: for every valuation `ρ` of the 16
symbol variables, the (children, parent) pairs of the dumped transitions whose symbol string has `ρ` in its cube are those
of the transitions of the description whose symbol has.  (The strings themselves differ: the dump lists the paths of the
MTBDDs, cut at the variable of the root.) -/
theorem sym_load_dump_denotes (d : AutDesc) (yd : SymDict) (hyd : yd.Ok) (hv : SymValid d) :
    ∃ d', dumpBU .symbolic (.dict (loadBU .symbolic {} [] yd d).st.sd) (loadBU .symbolic {} [] yd d).st.yd
        (loadBU .symbolic {} [] yd d).aut = .ok d' ∧
      (loadBU .symbolic {} [] yd d).err = none ∧ (loadBU .symbolic {} [] yd d).st.yd = yd ∧
      d'.final ≈ d.final ∧ d'.name = "" ∧ d'.symbols = [] ∧
      ∀ (ρ : Nat → Bool) (ks : List String) (p : String),
        (∃ f a, (ks, f, p) ∈ d'.trans ∧ cubeOfStr f = some a ∧ agrees ρ a 0 = true) ↔
        (∃ t a, t ∈ d.trans ∧ t.1 = ks ∧ t.2.2 = p ∧ symOfStr t.2.1 = .ok a ∧ agrees ρ a 0 = true) := by
  obtain ⟨hS, hyd', herr⟩ := symLoad_bu {} yd hyd d hv
  obtain ⟨hT, hW⟩ := table_loadBU .symbolic {} yd hyd d tableOk_empty tableWF_empty
  have hfin : _ = d.final.map _ := (loadBU_aut .symbolic {} yd hyd d).2
  have hden := sym_load_denotes d yd hyd hv
  have hkids := fun e => pairs_kids_loadBU .symbolic yd hyd d (e := e)
  rw [loaded_of_noErr hv.noErr] at hkids
  generalize loadBU .symbolic {} [] yd d = R at hS hyd' herr hT hW hfin hden hkids ⊢
  have hst := mem_statesBU hfin hkids (fun t ht => by
    obtain ⟨a, ha⟩ := hv t ht
    obtain ⟨ρ, hρ⟩ := exists_agrees a
    exact ⟨_, pairs_of_hasRule hT ((hden ρ _ _).mpr ⟨t, a, ht, ha, hρ, rfl, rfl⟩)⟩)
  obtain ⟨h1, h2, _⟩ := hS.dump_ok (r := rawSymBU R.aut)
    (fun q hq => hq.elim hS.final_key (fun ⟨t, ht, hq⟩ => (hS.cov t ht).kids q hq)) hfin hst (fun ⟨ks, f, p⟩ hy => by
      obtain ⟨ρ, hr⟩ := rawSymBU_hasRule hT hW hy
      obtain ⟨t, _, ht, _, _, e1, e2⟩ := (hden ρ ks p).mp hr
      exact ⟨t, ht, e1.symm, e2.symm⟩)
  refine ⟨_, h1, herr, hyd', h2, (named_name_symbols _ _).1, (named_name_symbols _ _).2, fun ρ ks p => ?_⟩
  constructor
  · rintro ⟨f, a, hm, hf, hag⟩
    obtain ⟨⟨ks', f', p'⟩, hy, e⟩ := (mem_named_trans _ _ _).mp hm
    simp only [Prod.mk.injEq] at e
    obtain ⟨rfl, rfl, rfl⟩ := e
    obtain ⟨t, a', ht, ha', hag', e1, e2⟩ := (hden ρ ks' p').mp ((sym_dump_denotes hT hW ρ ks' p').mpr ⟨f, a, hy, hf, hag⟩)
    refine ⟨t, a', ht, ?_, ?_, ha', hag'⟩
    · rw [← e1, hS.named_kids ht]
    · rw [← e2, hS.named_parent ht]
  · rintro ⟨t, a, ht, rfl, rfl, ha, hag⟩
    obtain ⟨f, a', hy, hf, hag'⟩ := (sym_dump_denotes hT hW ρ _ _).mp ((hden ρ _ _).mpr ⟨t, a, ht, ha, hag, rfl, rfl⟩)
    refine ⟨f, a', (mem_named_trans _ _ _).mpr ⟨_, hy, ?_⟩, hf, hag'⟩
    simp only
    rw [hS.named_kids ht, hS.named_parent ht]

theorem sym_dump_wellformed {A : AutBU} (hT : TableOk A.tbl) (nm : Nat → String) {x : List String × String × String}
    (hx : x ∈ ((rawSymBU A).named nm).trans) : ∃ a, cubeOfStr x.2.1 = some a := by
  obtain ⟨⟨ks, f, p⟩, hy, rfl⟩ := (mem_named_trans _ _ _).mp hx
  obtain ⟨_, pl, _, _, rfl⟩ := (mem_rawSymBU hT ks f p).mp hy
  exact ⟨pl.1, cubeOfStr_toStr _⟩

/-- the leaf rule for ALL symbols, and a unary rule for the symbols `01…` -/
def exAllX : AutDesc :=
  { name := "", symbols := [], states := [], final := ["q"], trans := [([], "XXXXXXXXXXXXXXXX", "q")] }
def exHighX : AutDesc :=
  { name := "", symbols := [], states := [], final := [], trans := [(["p"], "01XXXXXXXXXXXXXX", "q")] }

/-- a string given by its characters (string literals: the characters are compared one by one, not the strings) -/
theorem symOfStr_ofList {l : List Char} {a : Cube} (hl : l.length = 16) (h : Glue.ofStr l = some a) :
    symOfStr (String.ofList l) = .ok a :=
  symOfStr_of_cubeOfStr (by rw [cubeOfStr, String.toList_ofList]; exact h) (by rw [String.toList_ofList]; exact hl)

theorem exAllX_valid : SymValid exAllX := by
  intro t ht
  simp only [exAllX, List.mem_singleton] at ht
  subst ht
  exact ⟨List.replicate 16 none, symOfStr_ofList (l := List.replicate 16 'X') rfl rfl⟩

theorem exHighX_valid : SymValid exHighX := by
  intro t ht
  simp only [exHighX, List.mem_singleton] at ht
  subst ht
  exact ⟨some false :: some true :: List.replicate 14 none,
    symOfStr_ofList (l := '0' :: '1' :: List.replicate 14 'X') rfl rfl⟩

theorem ExplLoad.length_le {yd : SymDict} {d : AutDesc} {st : LSt} (hyd : yd.Ok) (h : ExplLoad yd d st) :
    yd.length ≤ st.yd.length :=
  Sub.length_le hyd h.ok.yd h.sub

/-- a second load of the dump `d'` of a loaded automaton, on the alphabet the first load left: a description `d''` with the
final states and transitions of `d'` (`g3`, `g4`, repeated in the conclusion) has those of the original description `d`,
because with at most `2^16` names at the end no two names share a code, so that `d'` lists each transition of `d` under its
own name only (`trans_of_dump`) -/
theorem ExplLoad.reload {yd : SymDict} {d d' d'' : AutDesc} {st st' : LSt} (hE : ExplLoad yd d st)
    (hE' : ExplLoad st.yd d' st') (hl : st'.yd.length ≤ symbolCodes) (k3 : d'.final ≈ d.final)
    (k4 : ∀ x, x ∈ d'.trans ↔ ∃ t, t ∈ d.trans ∧ ∃ f k, (f, k) ∈ st.yd ∧
      k % 2 ^ 16 = st.yd.get t.2.1 % 2 ^ 16 ∧ x = (t.1, f, t.2.2))
    (g3 : d''.final ≈ d'.final) (g4 : d''.trans ≈ d'.trans) :
    d''.final ≈ d'.final ∧ d''.trans ≈ d'.trans ∧ d''.final ≈ d.final ∧ d''.trans ≈ d.trans :=
  have k4 := hE.trans_of_dump (Nat.le_trans (hE'.length_le hE.ok.yd) hl) k4
  ⟨g3, g4, fun q => (g3 q).trans (k3 q), fun x => (g4 x).trans (k4 x)⟩

/-! `Vata/BddLoad.lean` keeps for every name the NUMBER of its allocation and reads the stored code off its 16 low bits.
The class stores the assignments themselves and a counter that is an assignment, incremented by
`SymbolicVarAsgn::operator++` (`Glue.inc`: the carry out of variable 15 is dropped).  The two agree: -/

/-- `OnTheFlyAlphabet` as coded: the forward map of `symbolDict_` (insertion order) and `nextSymbol_` -/
structure AlphaC where
  dict : List (String × Glue.Asgn)
  next : Glue.Asgn
deriving DecidableEq

/-- `OnTheFlyAlphabet ()`: `nextSymbol_ (Symbolic::GetZeroSymbol ())` -/
def AlphaC.init : Option AlphaC := Glue.zeroSymbol.map (fun z => ⟨[], z⟩)

/-- `TranslatorWeak (symbolDict_, [&](const StringSymbolType&){ return nextSymbol_++; })` applied to a name: `find`; if
absent `result = nextSymbol_++` (the postfix increment returns the old value), `insert (name, result)` -/
def AlphaC.tr (a : AlphaC) (f : String) : Glue.Asgn × AlphaC :=
  match a.dict.lookup f with
  | some c => (c, a)
  | none => ((Glue.postInc a.next).1, ⟨a.dict ++ [(f, (Glue.postInc a.next).1)], (Glue.postInc a.next).2⟩)

/-- the dictionary of assignments that the dictionary of allocation numbers stands for -/
def absAlpha (yd : SymDict) : AlphaC := ⟨yd.map (fun e => (e.1, symAsgn e.2)), symAsgn yd.length⟩

theorem symAsgn_eq_bitsLE (n : Nat) : symAsgn n = Glue.bitsLE 16 n := (Glue.bitsLE_eq_range_map 16 n).symm

theorem inc_symAsgn (n : Nat) : Glue.inc (symAsgn n) = symAsgn (n + 1) := by
  rw [symAsgn_eq_bitsLE, symAsgn_eq_bitsLE]; exact Glue.inc_bitsLE 16 n

theorem alphaC_init : AlphaC.init = some (absAlpha []) := by
  unfold AlphaC.init Glue.zeroSymbol
  rw [Glue.ofNum_symbol_size 0]
  rfl

theorem lookup_absAlpha (yd : SymDict) (f : String) :
    (yd.map (fun e => (e.1, symAsgn e.2))).lookup f = (yd.fwd? f).map symAsgn := by
  induction yd with
  | nil => rfl
  | cons e yd ih =>
    obtain ⟨k, v⟩ := e
    simp only [List.map_cons, List.lookup_cons, fwd?]
    by_cases h : k = f
    · subst h; simp
    · have hne : ¬ f = k := fun e => h e.symm
      have : (f == k) = false := by simp [hne]
      rw [this, if_neg h]; exact ih

/-- **the model of the alphabet refines the class**: translating a name in the dictionary of assignments as coded gives the
assignment of the number the model hands out, and the dictionary of assignments that the new model dictionary stands for.
In particular the `2^16 + k`-th name gets the assignment of the `k`-th (`symAsgn_wrap`). -/
theorem alphaC_refines (s : LSt) (f : String) :
    (absAlpha s.yd).tr f = (symAsgn (trSym s f).1, absAlpha (trSym s f).2.yd) := by
  unfold AlphaC.tr
  simp only [absAlpha]
  rw [lookup_absAlpha]
  cases h : s.yd.fwd? f with
  | some k =>
    obtain ⟨h1, h2⟩ := trSym_old s h
    simp only [Option.map_some, h1, h2]
  | none =>
    obtain ⟨h1, h2⟩ := trSym_new s (fwd?_eq_none.mp h)
    simp only [Option.map_none, h1, h2, Glue.postInc, inc_symAsgn, List.map_append, List.map_cons, List.map_nil,
      List.length_append, List.length_cons, List.length_nil]

namespace BddLoadEx

/-- `f` with two and with three children, `a` as a leaf and as a unary symbol, duplicates, unsorted, a final state that
occurs in no transition -/
def exD : AutDesc :=
  { name := "A", symbols := [("f", 2)], states := ["q", "r"], final := ["r", "lonely"],
    trans := [(["q", "q"], "f", "r"), ([], "a", "q"), (["q", "r", "q"], "f", "r"), (["r"], "a", "q"), ([], "a", "q")] }

/-- the same sets, another order -/
def exD' : AutDesc :=
  { name := "", symbols := [], states := [], final := ["lonely", "r", "r"],
    trans := [(["r"], "a", "q"), (["q", "r", "q"], "f", "r"), ([], "a", "q"), (["q", "q"], "f", "r")] }

theorem exD_exD' : exD.final ≈ exD'.final ∧ exD.trans ≈ exD'.trans := by
  refine ⟨fun x => ?_, fun x => ?_⟩ <;> simp [exD, exD'] <;> grind

/-- an alphabet in use -/
def ydUsed : SymDict := [("g", 0), ("a", 1), ("h", 2)]
theorem ydUsed_ok : ydUsed.Ok := ⟨by decide, by decide⟩

theorem exD_bound_bu : (loadBU .explicit {} [] ydUsed exD).st.yd.length ≤ symbolCodes := by decide +kernel
theorem exD'_bound_bu : (loadBU .explicit {} [] ydUsed exD').st.yd.length ≤ symbolCodes := by decide +kernel
theorem exD_bound_td : (loadTD .explicit {} [] ydUsed exD).st.yd.length ≤ symbolCodes := by decide +kernel
theorem exD'_bound_td : (loadTD .explicit {} [] ydUsed exD').st.yd.length ≤ symbolCodes := by decide +kernel

/-- a leaf rule and a rule with 64 children -/
def ex64 : AutDesc :=
  { name := "", symbols := [], states := [], final := ["q"],
    trans := [([], "a", "q"), (List.replicate 64 "q", "f", "q")] }

/-- symbolic: overlapping cubes -/
def exS : AutDesc :=
  { name := "", symbols := [], states := [], final := ["q"],
    trans := [([], "0000000000000000", "q"), (["q", "q"], "0X00000000000001", "p"), (["p"], "1X00000000000001", "q")] }

theorem exS_valid : SymValid exS := by
  intro t ht
  simp only [exS, List.mem_cons, List.not_mem_nil, or_false] at ht
  rcases ht with rfl | rfl | rfl
  · exact ⟨symAsgn 0, symOfStr_ofList (l := List.replicate 16 '0') rfl rfl⟩
  · exact ⟨some false :: none :: (List.replicate 13 (some false) ++ [some true]),
      symOfStr_ofList (l := '0' :: 'X' :: (List.replicate 13 '0' ++ ['1'])) rfl rfl⟩
  · exact ⟨some true :: none :: (List.replicate 13 (some false) ++ [some true]),
      symOfStr_ofList (l := '1' :: 'X' :: (List.replicate 13 '0' ++ ['1'])) rfl rfl⟩

/-- a symbolic description with a rejected symbol in the middle -/
def exSBad : AutDesc :=
  { name := "", symbols := [], states := [], final := ["q"],
    trans := [([], "0000000000000000", "q"), (["q"], "01", "p"), (["p"], "1X00000000000001", "q")] }

end BddLoadEx

end BddLoad
end Vata
