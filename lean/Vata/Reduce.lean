import Vata.Trim
/-! Image automaton `reindex h A` (C14), downward simulations, quotient by simulation equivalence (C05) -/
namespace Vata

def mapRule (h : Nat → Nat) (r : Rule) : Rule := ⟨r.sym, r.kids.map h, h r.parent⟩
def reindex (h : Nat → Nat) (A : TA) : TA := ⟨A.rules.map (mapRule h), A.final.map h⟩

/-- the graph of `h` is a simulation from `A` to its image -/
theorem simTo_reindex (h : Nat → Nat) (A : TA) : SimTo A (reindex h A) (fun q q' => q' = h q) := by
  rintro ρ hρ _ rfl
  exact ⟨mapRule h ρ, List.mem_map.mpr ⟨ρ, hρ, rfl⟩, rfl, rfl, All2.map_right h fun _ _ => rfl⟩

/-- C14, any map: the image automaton accepts at least the original language -/
theorem reindex_mono (h : Nat → Nat) (A : TA) : ∀ (t : Tree) (q : Nat), q ∈ reach A t → h q ∈ reach (reindex h A) t :=
  fun t q => (simTo_reindex h A).reach t q _ rfl

theorem reindexL_mono (h : Nat → Nat) (A : TA) :
    ∀ ts : List Tree, All2 (fun s s' => ∀ q, q ∈ s → h q ∈ s') (reachL A ts) (reachL (reindex h A) ts) :=
  fun ts => ((simTo_reindex h A).reachL ts).mono fun _ _ _ _ hc q hq => hc q _ rfl hq

/-! ### downward simulations -/
def DownSim (A : TA) (R : Nat → Nat → Prop) : Prop :=
  ∀ q r, R q r → ∀ ρ, ρ ∈ A.rules → ρ.parent = q →
    ∃ σ, σ ∈ A.rules ∧ σ.parent = r ∧ σ.sym = ρ.sym ∧ All2 R ρ.kids σ.kids

theorem DownSim.simTo {A : TA} {R : Nat → Nat → Prop} (hR : DownSim A R) : SimTo A A R :=
  fun ρ hρ r hqr => hR ρ.parent r hqr ρ hρ rfl

theorem SimTo.downSim {A : TA} {R : Nat → Nat → Prop} (h : SimTo A A R) : DownSim A R :=
  fun _ r hqr ρ hρ hp => h ρ hρ r (hp ▸ hqr)

-- simulation ⇒ inclusion of the languages of states
theorem downSim_lang (A : TA) (R : Nat → Nat → Prop) (hR : DownSim A R) :
    ∀ (t : Tree) (q r : Nat), R q r → q ∈ reach A t → r ∈ reach A t :=
  hR.simTo.reach

theorem downSim_langL (A : TA) (R : Nat → Nat → Prop) (hR : DownSim A R) :
    ∀ ts : List Tree, ∀ s, s ∈ reachL A ts → ∀ q r, R q r → q ∈ s → r ∈ s := by
  intro ts s hs
  rw [reachL_eq_map] at hs
  obtain ⟨t, _, rfl⟩ := List.mem_map.mp hs
  exact downSim_lang A R hR t

/-- `P` holds of every state that occurs in `A` -/
def CoversStates (A : TA) (P : Nat → Prop) : Prop :=
  (∀ ρ, ρ ∈ A.rules → P ρ.parent ∧ ∀ k, k ∈ ρ.kids → P k) ∧ ∀ q, q ∈ A.final → P q

/-- the quotient simulates back: `x` is answered by every state above a member of its fibre -/
theorem simTo_collapse {A : TA} {R : Nat → Nat → Prop} (hR : DownSim A R) {h : Nat → Nat} {P : Nat → Prop}
    (hP : CoversStates A P) (hh : ∀ q, P q → R q (h q) ∧ R (h q) q) (hRt : ∀ a b c, R a b → R b c → R a c) :
    SimTo (reindex h A) A (fun x q => ∃ p, P p ∧ h p = x ∧ R p q) := by
  rintro ρ' hρ' q ⟨p, hPp, hp, hpq⟩
  obtain ⟨ρ, hρ, rfl⟩ := List.mem_map.mp hρ'
  have hp : h p = h ρ.parent := hp
  -- ρ.parent ~ h ρ.parent = h p ~ p ≤ q
  have hpar : R ρ.parent q := hRt _ _ _ (hRt _ _ _ (hh _ (hP.1 ρ hρ).1).1 (hp ▸ (hh p hPp).2)) hpq
  obtain ⟨σ, hσ, h1, h2, h3⟩ := hR _ _ hpar ρ hρ rfl
  exact ⟨σ, hσ, h1, h2, All2.map_left h (h3.mono fun k _ hk _ hkk => ⟨k, (hP.1 ρ hρ).2 k hk, rfl, hkk⟩)⟩

/-- C05: collapsing every state to a simulation-equivalent representative keeps the language; the representative map is asked
for on a set `P` that covers the states of `A` only -/
theorem collapse_lang_of {A : TA} {R : Nat → Nat → Prop} (hR : DownSim A R) {h : Nat → Nat} {P : Nat → Prop}
    (hP : CoversStates A P) (hh : ∀ q, P q → R q (h q) ∧ R (h q) q) (hRt : ∀ a b c, R a b → R b c → R a c) (t : Tree) :
    accepts (reindex h A) t = accepts A t := by
  rw [Bool.eq_iff_iff]
  refine ⟨(simTo_collapse hR hP hh hRt).accepts ?_ t, (simTo_reindex h A).accepts ?_ t⟩
  · intro x hx
    obtain ⟨f, hf, rfl⟩ := List.mem_map.mp hx
    exact ⟨f, hf, f, hP.2 f hf, rfl, hRt _ _ _ (hh f (hP.2 f hf)).1 (hh f (hP.2 f hf)).2⟩
  · exact fun q hq => ⟨h q, List.mem_map.mpr ⟨q, hq, rfl⟩, rfl⟩

theorem coversStates_true (A : TA) : CoversStates A fun _ => True :=
  ⟨fun _ _ => ⟨trivial, fun _ _ => trivial⟩, fun _ _ => trivial⟩

theorem collapse_lang (A : TA) (R : Nat → Nat → Prop) (hR : DownSim A R) (h : Nat → Nat)
    (hh : ∀ q, R q (h q) ∧ R (h q) q) (hRt : ∀ a b c, R a b → R b c → R a c) (t : Tree) :
    accepts (reindex h A) t = accepts A t :=
  collapse_lang_of hR (coversStates_true A) (fun q _ => hh q) hRt t

/-- a state the quotient reaches is the image of a state `A` reaches -/
theorem collapse_reach (A : TA) (R : Nat → Nat → Prop) (hR : DownSim A R) (h : Nat → Nat)
    (hh : ∀ q, R q (h q) ∧ R (h q) q) (hRt : ∀ a b c, R a b → R b c → R a c) (t : Tree) (x : Nat)
    (hx : x ∈ reach (reindex h A) t) : ∃ q, q ∈ reach A t ∧ h q = x := by
  -- `x` is the image of the parent of the rule applied at the root
  obtain ⟨p, rfl⟩ : ∃ p, h p = x := by
    cases t with
    | node f ts =>
      obtain ⟨ρ', hρ', -, -, hp⟩ := mem_post'.mp (by rw [reach] at hx; exact hx)
      obtain ⟨ρ, -, rfl⟩ := List.mem_map.mp hρ'
      exact ⟨ρ.parent, hp⟩
  exact ⟨p, (simTo_collapse hR (coversStates_true A) (fun q _ => hh q) hRt).reach t _ p
    ⟨p, trivial, rfl, hRt _ _ _ (hh p).1 (hh p).2⟩ hx, rfl⟩

theorem collapse_reachL (A : TA) (R : Nat → Nat → Prop) (hR : DownSim A R) (h : Nat → Nat)
    (hh : ∀ q, R q (h q) ∧ R (h q) q) (hRt : ∀ a b c, R a b → R b c → R a c) :
    ∀ ts : List Tree, All2 (fun s' s => (∀ x, x ∈ s' → ∃ q, q ∈ s ∧ h q = x) ∧ (∀ q r, R q r → q ∈ s → r ∈ s))
      (reachL (reindex h A) ts) (reachL A ts) := by
  intro ts
  rw [reachL_eq_map, reachL_eq_map]
  exact All2.map_left _ (All2.map_right _ fun t _ => ⟨collapse_reach A R hR h hh hRt t, downSim_lang A R hR t⟩)

#print axioms collapse_lang
end Vata
