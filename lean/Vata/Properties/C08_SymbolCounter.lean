import Vata.Proofs.SymbolCounter
/-!
# C08 / C13 – the counter that hands out the symbol codes: `SymbolicVarAsgn::operator++`

> A Timbuk automaton loaded into either BDD encoding and dumped again denotes the same language as in the explicit
> encoding.  (C08)
> … dumping it and loading the text again yields the same rules and final states under the same state names.  (C13)

Both rest on: **different symbol names get different 16-bit codes.**  The BDD alphabet
(`SymbolicTreeAutBase::OnTheFlyAlphabet`, `include/vata/aut_base.hh`) gives a new name the value of `nextSymbol_++`, where
`nextSymbol_` is a `SymbolicVarAsgn` of `SYMBOL_SIZE = 16` variables that starts as `GetZeroSymbol ()` and is stepped by
`SymbolicVarAsgn::operator++` (`src/sym_var_asgn.cc`), a ripple-carry loop over the packed two-bit representation.

## how the C++ is read

* `operator++` is mirrored as an index loop (`SymbolCounter.incLoop`, `Vata/SymbolCounter.lean`, the C++ text is quoted
  there): index `i`, `GetIthVariableValue` / `SetIthVariableValue` = `Glue.get` / `Glue.set` on the list of values (the
  packed bytes are `Glue.Packed`, refinement in `Vata/Proofs/GluePacked.lean`), `ZERO` → set `ONE` and return, `ONE` → set
  `ZERO` and go on, `DONT_CARE` → go on (`assert (false)` compiled out), the LOOP CONDITION is a parameter:
  `i < length()` is `incCoded`, the seeded `i + 1 < length()` is `incNoTopCarry`.  The loop takes fuel; `length()` is
  enough and every larger fuel gives the same result (`C08_symbol_inc_as_coded`): total, fuel not observable.
* the alphabet: `BddLoad.AlphaC` (the forward map of `symbolDict_` in insertion order, and `nextSymbol_`), its translator
  `AlphaC.tr` (existing, `Vata/Proofs/BddLoad.lean`) with the increment as a parameter is `SymbolCounter.trWith`
  (`trWith Glue.inc = AlphaC.tr`), a sequence of names is `trsWith`.  `handOut step m a` are the values of `m` successive
  `nextSymbol_++`.
* the model of the loads (`Vata/BddLoad.lean`) keeps allocation NUMBERS (`SymDict`) and reads the code of number `k` as
  `symAsgn k`; `C08_load_alphabet_as_coded` (existing) ties that to `AlphaC`.  `C08_symbol_codes_distinct_dict` is the
  statement on that dictionary.

## abstracted

The backward map of `symbolDict_` (never read by load or dump; its `insert` only logs on a clash), the hash order of the
forward map (the dictionary is a list in insertion order; `lookup` finds the unique entry since names are distinct).

## results

* `C08_symbol_inc_as_coded`                  the index loop is `Glue.inc`, for every sufficient fuel
* `C08_symbol_codes_distinct`                `2^n` increments from `0…0` give the `2^n` binary codes, pairwise distinct; only
                                             the `2^n`-th increment returns to `0…0`
* `C08_symbol_codes_distinct_alphabet`       up to `2^16` distinct names loaded into the fresh alphabet as coded: the `i`-th
                                             gets `symAsgn i`, two names never share a code
* `C08_symbol_codes_distinct_dict`           the same on the dictionary of `BddLoad`; `C08_symbol_codes_distinct_dict_sharp`:
                                             the bound `2^16` cannot be raised
* `C08_symbol_codes_no_top_carry_repeat`     the seeded loop: the counter on `n ≥ 1` variables has period `2^(n-1)`; the first
                                             `2^(n-1)` codes are distinct and the next one is the first again
* `C08_symbol_codes_no_top_carry_n4`         `n = 4` by `decide`
* `C08_symbol_codes_no_top_carry_two_names`  consequence for the dictionary: the first and the `(2^(n-1)+1)`-th name have one
                                             code (`n = 16`: the 32 769th name)
-/
namespace Vata.Props
open Vata.Glue Vata.BddAbs Vata.BddLoad Vata.SymbolCounter

/-- **`operator++` as coded is `Glue.inc`.**  The index loop `for (i = 0; i < length(); ++i)` over
`GetIthVariableValue` / `SetIthVariableValue`, with any fuel `≥ length()`, computes the list-recursive `Glue.inc` (which the
rest of the development uses): on a concrete assignment `+1` modulo `2^length()` (`Glue.toNum_inc`). -/
theorem C08_symbol_inc_as_coded (a : Asgn) :
    incCoded a = Glue.inc a ∧
    (∀ fuel, a.length ≤ fuel → incLoop (fun i => decide (i < length a)) fuel 0 a = Glue.inc a) ∧
    (isConcrete a = true → toNum (incCoded a) = (toNum a + 1) % 2 ^ a.length) :=
  ⟨incCoded_eq a, incCoded_fuel a, fun h => by rw [incCoded_eq]; exact toNum_inc a h⟩

example : incCoded [some true, some true, some false, some true] = [some false, some false, some true, some true] := by
  decide

/-- **the codes are distinct.**  Iterating `++` (as coded) from the all-zero assignment of `n` variables: the `k`-th value
is the binary code of `k` (variable 0 = least significant bit), the first `2^n` values handed out are exactly the `2^n` codes
`bitsLE n 0, …, bitsLE n (2^n - 1)`, pairwise distinct, and two of the counter values agree only when the numbers of
increments agree modulo `2^n` (so the first return to `0…0` is the `2^n`-th increment). -/
theorem C08_symbol_codes_distinct (n : Nat) :
    (∀ k, iter incCoded k (zero n) = bitsLE n k) ∧
    handOut incCoded (2 ^ n) (zero n) = (List.range (2 ^ n)).map (bitsLE n) ∧
    (handOut incCoded (2 ^ n) (zero n)).Nodup ∧
    (∀ j k, iter incCoded j (zero n) = iter incCoded k (zero n) ↔ j % 2 ^ n = k % 2 ^ n) := by
  rw [incCoded_eq_inc]
  refine ⟨iter_inc_zero n, handOut_inc n _, handOut_inc_nodup n _ (Nat.le_refl _), fun j k => ?_⟩
  rw [iter_inc_zero, iter_inc_zero]
  constructor
  · intro h
    have := congrArg toNum h
    rwa [toNum_bitsLE, toNum_bitsLE] at this
  · intro h
    rw [← bitsLE_mod n j, ← bitsLE_mod n k, h]

example : handOut incCoded 4 (zero 2) =
    [[some false, some false], [some true, some false], [some false, some true], [some true, some true]] := by decide

/-- **the first `2^16` names of an alphabet get distinct codes** (the alphabet as coded: `AlphaC`, `nextSymbol_++` with the
index-loop increment).  `fs` are the distinct new names in the order the loads meet them.  The translator with the as-coded
increment is the existing `AlphaC.tr`; the fresh alphabet is `initW 16`; afterwards the dictionary pairs the `i`-th name with
`symAsgn i`, the counter is `symAsgn |fs|`, translating the `i`-th name again gives `symAsgn i` and leaves the alphabet
alone, and **two names with one code are one name**.
Hypotheses: `fs.Nodup` (a name met again is found by `find`, it does not step the counter); `|fs| ≤ 2^16` is needed, see
`C08_symbol_codes_distinct_dict_sharp` / `C08_load_alphabet_wraps`. -/
theorem C08_symbol_codes_distinct_alphabet (fs : List String) (hn : fs.Nodup) (hl : fs.length ≤ 2 ^ 16) :
    trWith incCoded = AlphaC.tr ∧ AlphaC.init = some (initW 16) ∧
    (trsWith incCoded (initW 16) fs).dict = fs.zip ((List.range fs.length).map symAsgn) ∧
    (trsWith incCoded (initW 16) fs).next = symAsgn fs.length ∧
    (∀ i (hi : i < fs.length), AlphaC.tr (trsWith incCoded (initW 16) fs) fs[i] =
      (symAsgn i, trsWith incCoded (initW 16) fs)) ∧
    (∀ f g c, (f, c) ∈ (trsWith incCoded (initW 16) fs).dict → (g, c) ∈ (trsWith incCoded (initW 16) fs).dict → f = g) := by
  rw [incCoded_eq_inc]
  obtain ⟨hd, hx⟩ := trsWith_init_dict Glue.inc 16 fs hn
  have hcodes : handOut Glue.inc fs.length (zero 16) = (List.range fs.length).map symAsgn := by
    rw [handOut_inc]
    exact List.map_congr_left (fun k _ => (symAsgn_eq_bitsLE k).symm)
  refine ⟨trWith_inc, initW_16, ?_, ?_, ?_, ?_⟩
  · rw [hd, hcodes]
  · rw [hx, iter_inc_zero, symAsgn_eq_bitsLE]
  · intro i hi
    rw [← trWith_inc, trWith_known Glue.inc 16 fs hn i hi, iter_inc_zero, symAsgn_eq_bitsLE]
  · intro f g c h1 h2
    rw [hd] at h1 h2
    exact zip_right_inj (handOut_inc_nodup 16 _ hl) h1 h2

example : (trsWith incCoded (initW 16) ["a", "f", "g"]).dict =
    [("a", symAsgn 0), ("f", symAsgn 1), ("g", symAsgn 2)] ∧ ["a", "f", "g"].Nodup ∧ ["a", "f", "g"].length ≤ 2 ^ 16 := by
  decide +kernel

/-- **the same on the dictionary the load model uses** (`BddLoad.SymDict`: name ↦ allocation number, the stored code of
number `k` is `symAsgn k`; invariant `Dict.Ok`, kept by every load: `C08_load_numbering`): as long as the alphabet holds
at most `2^16` names, two names whose codes agree are the same name. -/
theorem C08_symbol_codes_distinct_dict (yd : BddLoad.SymDict) (hyd : yd.Ok) (hlen : yd.length ≤ symbolCodes)
    (a b : String) (ka kb : Nat) (ha : (a, ka) ∈ yd) (hb : (b, kb) ∈ yd) (hc : symAsgn ka = symAsgn kb) : a = b := by
  have h1 : ka < yd.length := hyd.mem_vals.mp (List.mem_map.mpr ⟨_, ha, rfl⟩)
  have h2 : kb < yd.length := hyd.mem_vals.mp (List.mem_map.mpr ⟨_, hb, rfl⟩)
  have e : ka = kb := symAsgn_inj (Nat.lt_of_lt_of_le h1 hlen) (Nat.lt_of_lt_of_le h2 hlen) hc
  subst e
  exact hyd.injective.1 a b ka (hyd.fwd_iff.mpr ha) (hyd.fwd_iff.mpr hb)

example : (fillAlphabet 3).Ok ∧ (fillAlphabet 3).length ≤ symbolCodes ∧ ("z", 1) ∈ fillAlphabet 3 :=
  ⟨fillAlphabet_ok 3, by decide, by decide⟩

/-- the hypothesis `yd.length ≤ 2^16` of `C08_symbol_codes_distinct_dict` cannot be dropped: with `2^16 + 1` names the
first and the last have one code (this is the existing finding `C08_load_alphabet_wraps`). -/
theorem C08_symbol_codes_distinct_dict_sharp :
    ∃ (yd : BddLoad.SymDict) (a b : String) (ka kb : Nat), yd.Ok ∧ yd.length = symbolCodes + 1 ∧ (a, ka) ∈ yd ∧
      (b, kb) ∈ yd ∧ symAsgn ka = symAsgn kb ∧ a ≠ b := by
  refine ⟨fillAlphabet (symbolCodes + 1), "", String.ofList (List.replicate symbolCodes 'z'), 0, symbolCodes,
    fillAlphabet_ok _, by simp [fillAlphabet], ?_, ?_, ?_, ?_⟩
  · exact List.mem_map.mpr ⟨0, List.mem_range.mpr (by decide +kernel), rfl⟩
  · exact List.mem_map.mpr ⟨symbolCodes, List.mem_range.mpr (by decide +kernel), rfl⟩
  · have := symAsgn_wrap 0
    rw [Nat.zero_add] at this
    exact this.symm
  · intro e
    have := congrArg (fun s => s.toList.length) e
    simp only [String.toList_ofList, List.length_replicate] at this
    exact absurd this (by decide +kernel)

/-- **the seeded loop bound `i + 1 < length()`: the carry never reaches the top variable.**  On `n ≥ 1` variables the seeded
`++` increments the `n - 1` low variables and leaves the top one alone (`incNoTopCarry (low ++ [top]) = inc low ++ [top]`),
so from `0…0` the `k`-th value is the code of `k` on `n - 1` variables followed by `ZERO`; the counter has period
`2^(n-1)`: the `2^(n-1)`-th increment returns to `0…0`, the assignment handed out first.  The first `2^(n-1)` values handed
out are still distinct (the defect shows exactly at the `(2^(n-1)+1)`-th symbol), any longer run repeats. -/
theorem C08_symbol_codes_no_top_carry_repeat (n : Nat) (hn : 1 ≤ n) :
    (∀ (low : Asgn) (top : Val), incNoTopCarry (low ++ [top]) = Glue.inc low ++ [top]) ∧
    (∀ k, iter incNoTopCarry k (zero n) = bitsLE (n - 1) k ++ [some false]) ∧
    iter incNoTopCarry (2 ^ (n - 1)) (zero n) = zero n ∧
    (∀ k, iter incNoTopCarry (k + 2 ^ (n - 1)) (zero n) = iter incNoTopCarry k (zero n)) ∧
    (handOut incNoTopCarry (2 ^ (n - 1)) (zero n)).Nodup ∧
    (∀ m, 2 ^ (n - 1) < m → ¬ (handOut incNoTopCarry m (zero n)).Nodup) := by
  obtain ⟨n, rfl⟩ : ∃ n', n = n' + 1 := ⟨n - 1, by omega⟩
  simp only [Nat.add_sub_cancel]
  refine ⟨incNoTopCarry_snoc, iter_noTop_zero n, ?_, iter_noTop_period n, handOut_noTop_nodup n _ (Nat.le_refl _),
    fun m hm => handOut_noTop_not_nodup n m hm⟩
  have := iter_noTop_period n 0
  rw [Nat.zero_add] at this
  exact this

/-- `n = 4` by evaluation: the 8th increment of the seeded counter is `0000` again, 9 symbols do not get 9 codes – while
the loop as coded hands out 16 distinct codes and returns to `0000` with the 16th increment only. -/
theorem C08_symbol_codes_no_top_carry_n4 :
    iter incNoTopCarry 8 (zero 4) = zero 4 ∧
    (handOut incNoTopCarry 9 (zero 4))[8]? = (handOut incNoTopCarry 9 (zero 4))[0]? ∧
    ¬ (handOut incNoTopCarry 9 (zero 4)).Nodup ∧
    (handOut incCoded 16 (zero 4)).Nodup ∧ iter incCoded 8 (zero 4) ≠ zero 4 ∧ iter incCoded 16 (zero 4) = zero 4 := by
  decide +kernel

/-- **two names with one code.**  The alphabet as coded with the seeded increment, on `n ≥ 1` variables (`n = 16` in the
library): among `2^(n-1) + 1` (or more) distinct names the first and the `(2^(n-1)+1)`-th are different names, both are in the
dictionary with the code `0…0`, and the translator returns `0…0` for both – the rules of the two symbols are stored under
one code, and a dump (which asks the table for every name's code) prints each of them under both names. -/
theorem C08_symbol_codes_no_top_carry_two_names (n : Nat) (hn : 1 ≤ n) (fs : List String) (hnd : fs.Nodup)
    (hl : 2 ^ (n - 1) < fs.length) :
    fs[0]'(Nat.lt_of_le_of_lt (Nat.zero_le _) hl) ≠ fs[2 ^ (n - 1)] ∧
    (fs[0]'(Nat.lt_of_le_of_lt (Nat.zero_le _) hl), zero n) ∈ (trsWith incNoTopCarry (initW n) fs).dict ∧
    (fs[2 ^ (n - 1)], zero n) ∈ (trsWith incNoTopCarry (initW n) fs).dict ∧
    (trWith incNoTopCarry (trsWith incNoTopCarry (initW n) fs) (fs[0]'(Nat.lt_of_le_of_lt (Nat.zero_le _) hl))).1 = zero n ∧
    (trWith incNoTopCarry (trsWith incNoTopCarry (initW n) fs) fs[2 ^ (n - 1)]).1 = zero n := by
  have hp : 0 < 2 ^ (n - 1) := Nat.pow_pos (by decide +kernel)
  have h0 : 0 < fs.length := by omega
  have hper : iter incNoTopCarry (2 ^ (n - 1)) (zero n) = zero n := (C08_symbol_codes_no_top_carry_repeat n hn).2.2.1
  have m0 := trsWith_init_mem incNoTopCarry n fs hnd 0 h0
  have m1 := trsWith_init_mem incNoTopCarry n fs hnd _ hl
  have k0 := trWith_known incNoTopCarry n fs hnd 0 h0
  have k1 := trWith_known incNoTopCarry n fs hnd _ hl
  rw [hper] at m1 k1
  refine ⟨?_, m0, m1, by rw [k0]; rfl, by rw [k1]⟩
  intro e
  have := (List.getElem_inj hnd).mp e
  omega

/-- the instance `n = 16` (the library): the 32 769th symbol name gets the code of the first -/
theorem C08_symbol_codes_no_top_carry_two_names_16 (fs : List String) (hnd : fs.Nodup) (hl : 32768 < fs.length) :
    fs[0]'(by omega) ≠ fs[32768] ∧
    (trWith incNoTopCarry (trsWith incNoTopCarry (initW 16) fs) (fs[0]'(by omega))).1 = zero 16 ∧
    (trWith incNoTopCarry (trsWith incNoTopCarry (initW 16) fs) fs[32768]).1 = zero 16 := by
  have := C08_symbol_codes_no_top_carry_two_names 16 (by decide) fs hnd hl
  exact ⟨this.1, this.2.2.2.1, this.2.2.2.2⟩

/-- `n = 4`, nine names, evaluated: `s0` and `s8` share the code `0000` under the seeded increment; under the increment as
coded the nine codes are distinct. -/
example :
    (trsWith incNoTopCarry (initW 4) ["s0", "s1", "s2", "s3", "s4", "s5", "s6", "s7", "s8"]).dict.lookup "s8" =
      some (zero 4) ∧
    (trsWith incNoTopCarry (initW 4) ["s0", "s1", "s2", "s3", "s4", "s5", "s6", "s7", "s8"]).dict.lookup "s0" =
      some (zero 4) ∧
    ((trsWith incCoded (initW 4) ["s0", "s1", "s2", "s3", "s4", "s5", "s6", "s7", "s8"]).dict.map (·.2)).Nodup := by
  decide +kernel

/-!
## still not proved

* The consequence of the seeded variant is proved on the alphabet as coded (`AlphaC` / `trWith`): two names, one code.  That
  `dump (load (text))` then invents rules is NOT re-proved for the variant: the load/dump model `Vata/BddLoad.lean` reads
  the code of the allocation number `k` as `symAsgn k` (the increment is not a parameter there), so the existing
  `C08_load_alphabet_wraps` (aliasing ⇒ a dumped transition the description does not have, both encodings) speaks about
  the wrap at `2^16`; for the variant the same argument would start at `2^15` names, with `symAsgn (k % 2^15)` in place of
  `symAsgn k`.
* The packed representation: `incLoop` works on the list of values through `Glue.get` / `Glue.set`; that the bytes of
  `vars_` refine these (`GetIthVariableValue`, `SetIthVariableValue` on two-bit fields) is `Vata/Proofs/GluePacked.lean`
  (`setRaw_refines`), not composed here into a statement about `incLoop` on `Glue.Packed`.
* `operator++` on an assignment with `DONT_CARE` values (outside the contract; the alphabet never produces one) is modelled
  (the loop goes on) but only `incCoded = Glue.inc` is stated about it.
-/
end Vata.Props
