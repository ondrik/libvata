import Vata.Proofs.BddUnionCodedBU
import Vata.Proofs.BddShare
/-!
C08: the `ShareTransTable` branch of the bottom-up `Union` / `UnionDisjointStates`.

The abstraction of a bottom-up handle splits into the rules of the shared table object and the rules of the object's own
nullary MTBDD (`absBU_split`); the shared branch yields the handle `BddShare.sharedRes`, so clause S of `BddShare.pre` gives
the exact language (`buShared_lang`, from `BddShare.shared_lang`).
-/
namespace Vata
namespace BddUnionCoded
open M BddAbs BddAbsTD Um

theorem mem_tblRules {syms : List Nat} {T : Table} {r : Rule} :
    r ∈ tblRules syms T ↔ r.kids ≠ [] ∧ r.sym ∈ syms ∧ HasRule T (bits r.sym) r.kids r.parent := by
  unfold tblRules
  rw [mem_absRules]
  unfold HasRule Table.get
  by_cases hk : r.kids = []
  · simp [hk, eval]
  · simp [hk]

theorem mem_nulRules {syms : List Nat} {T : Table} {r : Rule} :
    r ∈ (nulRules syms T).map BddShare.leafRule ↔ r.kids = [] ∧ r.sym ∈ syms ∧ HasRule T (bits r.sym) r.kids r.parent := by
  unfold nulRules HasRule
  simp only [List.mem_map, List.mem_flatMap]
  constructor
  · rintro ⟨x, ⟨f, hf, p, hp, rfl⟩, rfl⟩
    exact ⟨rfl, hf, by simpa [BddShare.leafRule, Table.get] using hp⟩
  · rintro ⟨hk, hs, h⟩
    obtain ⟨s, k, q⟩ := r
    simp only at hk hs h
    subst hk
    exact ⟨(s, q), ⟨s, hs, q, by simpa [Table.get] using h, rfl⟩, rfl⟩

theorem absBU_split (syms : List Nat) (T : Table) (F : List Nat) :
    SetEqTA (absBU syms T F) ⟨tblRules syms T ++ (nulRules syms T).map BddShare.leafRule, F⟩ := by
  refine ⟨fun r => ?_, fun q => Iff.rfl⟩
  show r ∈ absRules syms T ↔ _
  rw [List.mem_append, mem_tblRules, mem_nulRules, mem_absRules]
  by_cases hk : r.kids = []
  · simp [hk]
  · simp [hk]

theorem tblRules_congr (syms : List Nat) {T T' : Table} (h : T.entries = T'.entries) : tblRules syms T = tblRules syms T' := by
  unfold tblRules; rw [h]

/-- **the shared branch under clause S**: the result accepts exactly the union -/
theorem buShared_lang (syms : List Nat) (lhs rhs : AutBU) (hs : lhs.T.entries = rhs.T.entries)
    (hS : sharedClauseS syms lhs rhs = true) (t : Tree) :
    accepts ((buShared lhs rhs).abs syms) t = (accepts (lhs.abs syms) t || accepts (rhs.abs syms) t) := by
  have h := BddShare.shared_lang (σ := shareSt syms lhs) (hi := shareHnd syms lhs) (hj := shareHnd syms rhs) rfl hS t
  have e1 : accepts (lhs.abs syms) t = (shareSt syms lhs).lang (shareHnd syms lhs) t :=
    (absBU_split syms lhs.T lhs.fin).lang t
  have e2 : accepts (rhs.abs syms) t = (shareSt syms lhs).lang (shareHnd syms rhs) t := by
    have := (absBU_split syms rhs.T rhs.fin).lang t
    rw [← tblRules_congr syms hs] at this
    exact this
  rw [e1, e2, ← h]
  show accepts ((buShared lhs rhs).abs syms) t = accepts ⟨tblRules syms lhs.T ++
    (nulRules syms lhs.T ++ nulRules syms rhs.T).map BddShare.leafRule, lhs.fin ++ rhs.fin⟩ t
  refine Isx.accepts_congr_sets (fun r => ?_) (fun q => ?_) t
  case refine_2 => exact Iff.rfl
  show r ∈ absRules syms _ ↔ r ∈ tblRules syms lhs.T ++ (nulRules syms lhs.T ++ nulRules syms rhs.T).map BddShare.leafRule
  rw [List.map_append, List.mem_append, List.mem_append, mem_tblRules, mem_nulRules, mem_nulRules, mem_absRules]
  unfold HasRule
  have eT : (buShared lhs rhs).T = lhs.T.set [] (apply2 unionS (lhs.T.get []) (rhs.T.get [])) := rfl
  rw [eT]
  by_cases hk : r.kids = []
  · rw [hk, get_set, if_pos rfl, apply2_eval, mem_unionS]
    simp only [ne_eq, not_true_eq_false, false_and, true_and, false_or, and_or_left]
  · rw [get_set, if_neg (fun e => hk e.symm)]
    simp [hk]

end BddUnionCoded
end Vata
