import Vata.Proofs.LtsEngine
/-!
# C16 – the partition–relation simulation engine as coded computes the greatest simulation

`Vata/LtsEngine.lean` (namespace `Vata.LE`) is an executable model of class `SimulationEngine` of
`src/explicit_lts_sim.cc` at the granularity of the code: state = partition (blocks as their circular state lists),
block relation (rows in row order), `inset` per block, counters `cnt[block][label][state]`, remove lists per
(block, label) (segments with node ids, so that `SharedList::append` is reproduced exactly), LIFO queue; functions
`engineInit` (`makeBlock`, relation index, `fastSplit(delta1[a])`, pruning, counters / remove lists / queue),
`processRemove` (`buildPre`, `split` = `internalSplit` + `trySplit` + `relation_.split` + `copyLabels` + copies of the
remove lists, the pruning loops with `decr` and `enqueueToRemove`), `engineRun`, `buildResult`, `computeSimulation`
and the two overloads.  What is abstracted to values is listed at the top of that file.

The corollaries below are stated with the Boolean preconditions

* `ltsOKB L`            every edge connects states `< n` (the driver's precondition);
* `isPartition part n`  what `init` asserts (plus: no empty block, asserted by `makeBlock`);
* `isConsistent part rel`  what `init` asserts: the block relation is reflexive;
* `isTransB rel`        transitivity of the block relation – **not asserted by the C++ but needed**
                        (`C16_engine_needs_transitivity`).

The relation on states that corresponds to (partition, block relation) is `initRel part rel`
(`C16_engine_initial_relation`: it is the relation the driver computes, reflexive and transitive).
-/
namespace Vata.Props
open Vata.L Vata.LE

/-- **the engine's output is the reference.**  Whatever `computeSimulation` returns contains `(q, r)` exactly when
`ltsSimOut` does, i.e. when `q, r < k` and `(q, r)` lies in the greatest simulation inside the initial relation. -/
theorem C16_engine_output_is_reference (L : LTS) (part : List (List Nat)) (rel : Rel) (k : Nat) (R : Rel)
    (hL : ltsOKB L = true) (hp : isPartition part L.n = true) (hc : isConsistent part rel = true)
    (ht : isTransB rel = true) (h : computeSimulation L part rel k = some R) :
    ∀ q r, (q, r) ∈ R ↔ (q, r) ∈ ltsSimOut L (initRel part rel) k :=
  engine_result_eq (ltsOK_of_B hL) hp hc (relTrans_of_B ht) k R h

example : ltsOKB EngEx.L1 = true ∧ isPartition EngEx.part1 EngEx.L1.n = true ∧
    isConsistent EngEx.part1 EngEx.rel1 = true ∧ isTransB EngEx.rel1 = true ∧
    computeSimulation EngEx.L1 EngEx.part1 EngEx.rel1 3 = some [(0, 0), (0, 1), (2, 2), (1, 1)] ∧
    ltsSimOut EngEx.L1 (initRel EngEx.part1 EngEx.rel1) 3 = [(0, 0), (0, 1), (1, 1), (2, 2)] := by decide +kernel

/-- **termination**: with its internal fuel `fuelBound L = n·(m + m·n) + 1` (`n` states, `m = labels L`) the model
never answers `none`.  Every call of `processRemove` lowers
`|queue| + (n − #blocks)·(m + m·n) + #{positive counters (block, label, state)}`, which is `≤ n·(m + m·n)` after `init`. -/
theorem C16_engine_terminates (L : LTS) (part : List (List Nat)) (rel : Rel) (k : Nat)
    (hL : ltsOKB L = true) (hp : isPartition part L.n = true) (hc : isConsistent part rel = true)
    (ht : isTransB rel = true) : ∃ R, computeSimulation L part rel k = some R :=
  engine_total (ltsOK_of_B hL) hp hc (relTrans_of_B ht) k

example : fuelBound EngEx.L1 = 25 ∧ (computeSimulation EngEx.L1 EngEx.part1 EngEx.rel1 3).isSome = true := by decide +kernel

/-- both, against the specification `IsSim`: the engine returns a relation and it contains `(q, r)` exactly when
`q, r < k` and some simulation inside the initial relation relates `q` and `r` -/
theorem C16_engine_computes_greatest_simulation (L : LTS) (part : List (List Nat)) (rel : Rel) (k : Nat)
    (hL : ltsOKB L = true) (hp : isPartition part L.n = true) (hc : isConsistent part rel = true)
    (ht : isTransB rel = true) :
    ∃ R, computeSimulation L part rel k = some R ∧ ∀ q r, (q, r) ∈ R ↔
      q < k ∧ r < k ∧ ∃ S : Nat → Nat → Prop, IsSim L S ∧ (∀ a b, S a b → (a, b) ∈ initRel part rel) ∧ S q r :=
  engine_spec (ltsOK_of_B hL) hp hc (relTrans_of_B ht) k

-- a simulation inside the initial relation of the example, as the right-hand side requires
example : IsSim EngEx.L1 (RelOf [(0, 1), (2, 2)]) ∧
    (∀ p, p ∈ [(0, 1), (2, 2)] → p ∈ initRel EngEx.part1 EngEx.rel1) :=
  ⟨(isLtsSimB_iff _ _).mp (by decide +kernel), by decide +kernel⟩

/-- **the invariant of the loop**: after `init` and after each of the first `k` iterations of `run` (for every `k`)
the relation on states induced by (partition, block relation) contains the greatest simulation inside the initial
relation – nothing that must stay is ever removed – and lies inside the initial relation.  (The full invariant
`Vata.LE.Inv`, proved by `engine_invariant_always`, also says: the counters count the successors inside the row, states
on a remove list have no successor inside the row, and the relation is a simulation up to the pending remove lists.) -/
theorem C16_engine_invariant (L : LTS) (part : List (List Nat)) (rel : Rel) (k : Nat)
    (hL : ltsOKB L = true) (hp : isPartition part L.n = true) (hc : isConsistent part rel = true)
    (ht : isTransB rel = true) :
    (∀ q r, (q, r) ∈ ltsSimRef L (initRel part rel) → (stateAfter L part rel k).R q r) ∧
    (∀ q r, q < L.n → r < L.n → (stateAfter L part rel k).R q r → (q, r) ∈ initRel part rel) :=
  (engine_invariant_always (ltsOK_of_B hL) hp hc (relTrans_of_B ht) k).between (initRel_lt hp)

-- a run that really iterates: two calls of `processRemove`, each splitting a block (see `EngEx.L3`)
example : ltsOKB EngEx.L3 = true ∧ isPartition [[0, 1, 2, 3]] EngEx.L3.n = true ∧
    (stateAfter EngEx.L3 [[0, 1, 2, 3]] [(0, 0)] 0).queue = [(1, 0)] ∧
    (stateAfter EngEx.L3 [[0, 1, 2, 3]] [(0, 0)] 1).part = [[2], [3, 0], [1]] ∧
    (stateAfter EngEx.L3 [[0, 1, 2, 3]] [(0, 0)] 1).queue = [(1, 0)] ∧
    (stateAfter EngEx.L3 [[0, 1, 2, 3]] [(0, 0)] 2).part = [[2], [3], [1], [0]] ∧
    (stateAfter EngEx.L3 [[0, 1, 2, 3]] [(0, 0)] 2).queue = [] := by decide +kernel

/-- **no partition given**: `computeSimulation(outputSize)` returns the greatest simulation of the system restricted to
the states below the output size, `computeSimulation()` the greatest simulation; both always return (`0 < n` is what
the constructor of the engine asserts) -/
theorem C16_engine_default (L : LTS) (k : Nat) (hL : ltsOKB L = true) (hn : 0 < L.n) :
    (∃ R, computeSimulation1 L k = some R ∧ ∀ q r, (q, r) ∈ R ↔ (q, r) ∈ ltsSimOut L (fullRel L.n) k) ∧
    (∃ R, computeSimulation0 L = some R ∧ ∀ q r, (q, r) ∈ R ↔ (q, r) ∈ ltsSimRef L (fullRel L.n)) := by
  obtain ⟨R1, h1⟩ := engine1_total (ltsOK_of_B hL) hn k
  obtain ⟨R0, h0⟩ := engine0_total (ltsOK_of_B hL) hn
  exact ⟨⟨R1, h1, engine1_result_eq (ltsOK_of_B hL) hn k R1 h1⟩, ⟨R0, h0, engine0_result_eq (ltsOK_of_B hL) hn R0 h0⟩⟩

example : ltsOKB exL = true ∧ 0 < exL.n ∧ computeSimulation1 exL 2 = some [(0, 0), (0, 1), (1, 1)] ∧
    computeSimulation0 exL = some [(2, 2), (2, 0), (2, 1), (0, 0), (0, 1), (1, 1)] := by decide +kernel

/-- **the initial relation**: `initRel part rel` is the relation on states the driver computes from partition and block
relation; it is reflexive on `0..n-1` and transitive (the hypotheses `hrefl`, `htrans` of `C16_preorder`), so the
engine's result is a preorder on `0..n-1` -/
theorem C16_engine_initial_relation (L : LTS) (part : List (List Nat)) (rel : Rel)
    (hL : ltsOKB L = true) (hp : isPartition part L.n = true) (hc : isConsistent part rel = true)
    (ht : isTransB rel = true) :
    (∀ p, p ∈ initRel part rel ↔
      p ∈ (fullRel L.n).filter (fun p => rel.contains (blockOf part p.1, blockOf part p.2))) ∧
    (∀ q, q < L.n → (q, q) ∈ initRel part rel) ∧
    (∀ a b c, (a, b) ∈ initRel part rel → (b, c) ∈ initRel part rel → (a, c) ∈ initRel part rel) ∧
    (∀ q, q < L.n → (q, q) ∈ ltsSimRef L (initRel part rel)) ∧
    (∀ a b c, (a, b) ∈ ltsSimRef L (initRel part rel) → (b, c) ∈ ltsSimRef L (initRel part rel) →
      (a, c) ∈ ltsSimRef L (initRel part rel)) := by
  have h1 := initRel_refl hp hc
  have h2 := initRel_trans (part := part) (relTrans_of_B ht)
  have h3 := ltsSimRef_preorder L (initRel part rel) (fun e he => (ltsOK_of_B hL e he).2) h1 h2
  exact ⟨initRel_eq_filter hp, h1, h2, h3.1, h3.2⟩

example : initRel EngEx.part1 EngEx.rel1 = [(0, 0), (0, 1), (0, 2), (1, 0), (1, 1), (1, 2), (2, 2)] := by decide +kernel

/-- **transitivity of the block relation is needed** although `init` only asserts reflexivity: on this input all
asserted preconditions hold, the block relation is not transitive, and the engine returns 12 pairs without `(4, 3)`,
which belongs to the greatest simulation inside the initial relation.  (The real library returns the same 12 pairs.) -/
theorem C16_engine_needs_transitivity :
    ltsOKB EngEx.L2 = true ∧ isPartition EngEx.part2 EngEx.L2.n = true ∧
    isConsistent EngEx.part2 EngEx.rel2 = true ∧ isTransB EngEx.rel2 = false ∧
    computeSimulation EngEx.L2 EngEx.part2 EngEx.rel2 5 =
      some [(0, 0), (0, 4), (0, 1), (0, 3), (0, 2), (4, 4), (1, 0), (1, 1), (1, 3), (3, 3), (2, 4), (2, 2)] ∧
    (4, 3) ∈ ltsSimOut EngEx.L2 (initRel EngEx.part2 EngEx.rel2) 5 :=
  EngEx.nontransitive_counterexample

/-!
## which "not yet proved" items of `C16.lean` this file closes

* **"The engine itself is not modelled."**  Closed: `Vata/LtsEngine.lean` models `init`, `fastSplit`, `split`,
  `internalSplit`, `trySplit`, `buildPre`, `processRemove`, `enqueueToRemove`, `run`, `buildResult` and the three
  overloads; `C16_engine_output_is_reference`, `C16_engine_terminates`, `C16_engine_invariant` are theorems about that
  model (invariant, partial correctness, termination – no certificate check is involved).
* **"Partition and relation on blocks."**  Closed: `initRel`, `C16_engine_initial_relation` (it is the driver's
  relation, reflexive, transitive), `buildResult` is part of the model (`Vata.LE.mem_buildResult`).
* Still open: "Output size" (the dimension of the returned `BinaryRelation` is not a notion of the model; the model
  returns the list of the pairs that `buildResult` sets, in the order it sets them).

## what is not proved here

* The model is tied to the C++ by reading the code and by comparison of final outputs (60 000 generated cases, with and
  without transitive block relations, identical to the output of the real class); intermediate states of the C++
  (block numbering, order inside the lists) are not observable through the public interface and were not compared.
* Reference-counted sharing (`SharedCounter` rows, `SharedList` nodes, allocators) is abstracted to values; that the C++
  sharing implements these values (copy-on-write in `decr`, the `master_` bookkeeping, `unsafeRelease`) is not proved.
* That the C++ assertions (`b1->index_ != *col`, `assert(row.master_)`, `assert(remove)`, `checkList`) never fail is not
  stated separately; it follows informally from the invariant (reflexive pairs are never erased: `WF.hrefl`; a
  decremented counter is positive: `decrStep_spec`; a queued slot is non-empty: `QOK.hiff`).
* The order in which the result pairs are listed, and the independence of the *intermediate* states from the visiting
  order, are not stated (the final relation is unique by `C16_engine_output_is_reference`).
-/
end Vata.Props
