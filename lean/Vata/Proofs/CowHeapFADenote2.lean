import Vata.Proofs.CowHeapFADenote
/-!
# What the values of the finite-automaton heap model denote – part 2: the work-list loop of `RemoveUnreachableStates`

With one cluster per state (`KeysNodup`) the successors the loop sees through `lookup` are those of the automaton the value
denotes (`succ_iff`), so the loop – `Closure.reachLoop`, run on enough fuel – returns its reachable states (`mem_reachStates`), hence
`vUnreach_denote`, `vUseless_denote`; the congruences of `nfasReverse` / `nfasRemoveUnreachable` for `NEquiv`;
preservation of the representation invariant `WFV` by every value-level operation.
-/
namespace Vata.CowHeapFA

open Vata.Store (Cluster upsert insTuple addToCluster addToMap KeysNodup)
open Vata.CowHeap (Val)
open Vata.CowHeapX (missing mem_missing)

/-- what `insert(first, last)` adds: for every key that is new, the first entry with that key -/
theorem mem_missing_iff {β : Type} {acc l : List (Nat × β)} {x : Nat × β} :
    x ∈ missing acc l ↔ acc.lookup x.1 = none ∧ l.lookup x.1 = some x.2 := by
  induction l generalizing acc with
  | nil => exact ⟨fun h => (nomatch h), fun h => (nomatch h.2)⟩
  | cons kc l ih =>
    obtain ⟨k, c⟩ := kc
    obtain ⟨k', c'⟩ := x
    rw [missing, Store.lookup_cons']
    by_cases ha : (acc.lookup k).isSome = true
    · rw [if_pos ha, ih]
      refine and_congr_right fun hn => ?_
      rw [if_neg (fun e => by rw [← e, hn] at ha; cases ha)]
    · have hn := Option.not_isSome_iff_eq_none.mp ha
      rw [if_neg ha, List.mem_cons, ih, List.lookup_append, List.lookup_cons, List.lookup_nil]
      by_cases e : k' = k
      · rw [e, if_pos rfl, hn, beq_self_eq_true]
        exact ⟨fun h => h.elim (fun e => ⟨rfl, by cases e; rfl⟩) (fun h => nomatch h.1),
          fun h => Or.inl (by cases h.2; rfl)⟩
      · rw [if_neg e, beq_false_of_ne e, Option.or_none]
        exact ⟨fun h => h.elim (fun h => absurd (congrArg Prod.fst h) e) id, Or.inr⟩

/-- the keys `insert(first, last)` adds are new … -/
theorem missing_keys_new {β : Type} {acc l : List (Nat × β)} {x : Nat × β} (h : x ∈ missing acc l) :
    acc.lookup x.1 = none :=
  (mem_missing_iff.mp h).1

/-- … and the container keeps one entry per key -/
theorem keysNodup_append_missing {β : Type} {acc : List (Nat × β)} (l : List (Nat × β)) (ha : KeysNodup acc) :
    KeysNodup (acc ++ missing acc l) := by
  induction l generalizing acc with
  | nil => rwa [missing, List.append_nil]
  | cons kc l ih =>
    rw [missing]
    split
    · exact ih ha
    · rename_i hn
      rw [← List.singleton_append, ← List.append_assoc]
      refine ih ?_
      unfold KeysNodup at ha ⊢
      rw [List.map_append, List.nodup_append]
      refine ⟨ha, List.nodup_cons.mpr ⟨List.not_mem_nil, List.nodup_nil⟩, fun a ha1 b hb e => ?_⟩
      rw [List.mem_singleton.mp hb] at e
      exact lookup_eq_none_iff_keys.mp (Option.not_isSome_iff_eq_none.mp hn) (e ▸ ha1)

theorem keysNodup_missing_nil {β : Type} (l : List (Nat × β)) : KeysNodup (missing [] l) :=
  keysNodup_append_missing l (acc := []) Store.keysNodup_nil

theorem lookup_pick {β : Type} (es : List (Nat × β)) (keys : List Nat) (k : Nat) :
    (pick es keys).lookup k = if k ∈ keys then es.lookup k else none := by
  induction keys with
  | nil => rfl
  | cons q keys ih =>
    rw [pick, List.filterMap_cons]
    cases hq : es.lookup q with
    | none =>
      rw [Option.map_none]
      show (pick es keys).lookup k = _
      rw [ih]
      by_cases e : k = q
      · rw [e, if_pos List.mem_cons_self, hq]
        split <;> rfl
      · simp only [List.mem_cons, e, false_or]
    | some c =>
      rw [Option.map_some]
      show ((q, c) :: pick es keys).lookup k = _
      rw [Store.lookup_cons', ih]
      by_cases e : k = q
      · rw [e, if_pos rfl, if_pos List.mem_cons_self, hq]
      · simp only [List.mem_cons, e, false_or, if_false]

/-- the entries `RemoveUnreachableStates` / `GetCandidateTree` end up with -/
theorem mem_missing_pick {β : Type} {es : List (Nat × β)} {keys : List Nat} {x : Nat × β} :
    x ∈ missing [] (pick es keys) ↔ x.1 ∈ keys ∧ es.lookup x.1 = some x.2 := by
  rw [mem_missing_iff, lookup_pick]
  constructor
  · rintro ⟨_, h⟩
    split at h
    · exact ⟨‹_›, h⟩
    · cases h
  · rintro ⟨h1, h2⟩
    exact ⟨rfl, by rw [if_pos h1, h2]⟩

theorem mem_clTrans {q : Nat} {c : Cluster} {e : Nat × Nat × Nat} :
    e ∈ clTrans q c ↔ e.1 = q ∧ ∃ st, st ∈ c ∧ e.2.1 = st.1 ∧ ∃ r, r ∈ st.2 ∧ e.2.2 = r.headD 0 := by
  simp only [clTrans, List.mem_flatMap, List.mem_map]
  constructor
  · rintro ⟨st, hst, r, hr, rfl⟩; exact ⟨rfl, st, hst, rfl, r, hr, rfl⟩
  · rintro ⟨h1, st, hst, h2, r, hr, h3⟩
    refine ⟨st, hst, r, hr, ?_⟩
    rw [← h1, ← h2, ← h3]

theorem mem_transOf {t : Val} {e : Nat × Nat × Nat} : e ∈ transOf t ↔ ∃ c, (e.1, c) ∈ t ∧ e ∈ clTrans e.1 c := by
  rw [transOf_eq, List.mem_flatMap]
  constructor
  · rintro ⟨qc, hqc, h⟩
    have := (mem_clTrans.mp h).1
    refine ⟨qc.2, ?_, ?_⟩
    · rw [this]; exact hqc
    · rw [this]; exact h
  · rintro ⟨c, hc, h⟩; exact ⟨(e.1, c), hc, h⟩

theorem mem_targets {q p : Nat} {c : Cluster} : q ∈ targets c ↔ ∃ a, (p, a, q) ∈ clTrans p c := by
  simp only [targets, clTrans, List.mem_flatMap, List.mem_map]
  constructor
  · rintro ⟨st, hst, r, hr, rfl⟩; exact ⟨st.1, st, hst, r, hr, rfl⟩
  · rintro ⟨a, st, hst, r, hr, e⟩
    exact ⟨st, hst, r, hr, congrArg (fun x => x.2.2) e⟩

/-- with one cluster per state the successors the loops see (through the cluster `find` returns) are those of the automaton -/
theorem succ_iff {t : Val} (hk : KeysNodup t) {p q : Nat} : q ∈ succOf t p ↔ ∃ a, (p, a, q) ∈ transOf t := by
  rw [mem_succOf]
  constructor
  · rintro ⟨c, hl, hq⟩
    obtain ⟨a, ha⟩ := (mem_targets (p := p)).mp hq
    exact ⟨a, mem_transOf.mpr ⟨c, mem_of_lookup hl, ha⟩⟩
  · rintro ⟨a, ha⟩
    obtain ⟨c, hc, h⟩ := mem_transOf.mp ha
    exact ⟨c, lookup_of_mem hk hc, mem_targets.mpr ⟨a, h⟩⟩

/-- `reachableStates` at the end of `RemoveUnreachableStates`: exactly the states reachable from the start states -/
theorem mem_reachStates (v : FAVal) (hk : KeysNodup v.trans) (q : Nat) : q ∈ reachStates v ↔ NfaReach v.toNFA q := by
  have hs0 : ∀ x, x ∈ v.toNFA.start ↔ x ∈ v.mem.start.foldl Vata.insN [] := fun x =>
    ((mem_foldl_insN _ _ x).trans (or_iff_right List.not_mem_nil)).symm
  have hm := reachStates_mu v
  show q ∈ reachLoop v.trans ((v.mem.start.foldl Vata.insN []).length + (transOf v.trans).length + 1)
    (v.mem.start.foldl Vata.insN []) (v.mem.start.foldl Vata.insN []).reverse ↔ _
  generalize v.mem.start.foldl Vata.insN [] = s0 at hs0 hm ⊢
  rw [reachLoop_eq]
  exact (Closure.reachLoop_spec (σ := (s0, s0.reverse)) (NfaC.lfp_nfaReach v.toNFA) (fun _ _ => succ_iff hk)
    (fun _ x ⟨a, he⟩ => List.mem_map.mpr ⟨_, he, rfl⟩)
    (Closure.sat_init hs0 (fun _ => NfaReach.of_start) fun x hx => List.mem_reverse.mpr hx)
    (fun x hx => List.mem_reverse.mp hx) hm).2 q

theorem mem_foldl_finalFilter (F reach init : List Nat) (x : Nat) :
    x ∈ reach.foldl (fun f q => if F.contains q then Vata.insN f q else f) init ↔ x ∈ init ∨ (x ∈ reach ∧ x ∈ F) := by
  rw [mem_foldl_of_step (fun b x => x ∈ b) (fun q x => x = q ∧ q ∈ F) _ (fun b q x => ?_)]
  · exact or_congr Iff.rfl ⟨fun ⟨q, hq, e, hf⟩ => e ▸ ⟨hq, hf⟩, fun ⟨hq, hf⟩ => ⟨x, hq, rfl, hf⟩⟩
  · split
    · rename_i h
      exact NfaS.mem_insN.trans (or_congr Iff.rfl (iff_self_and.mpr fun _ => List.contains_iff_mem.mp h))
    · rename_i h
      exact (or_iff_left fun h' => h (List.contains_iff_mem.mpr h'.2)).symm

/-- the transitions of the clusters taken over under the keys `keys` -/
theorem mem_transOf_missing_pick {t : Val} (hk : KeysNodup t) (keys : List Nat) (e : Nat × Nat × Nat) :
    e ∈ transOf (missing [] (pick t keys)) ↔ e ∈ transOf t ∧ e.1 ∈ keys := by
  rw [mem_transOf, mem_transOf]
  constructor
  · rintro ⟨c, hc, h⟩
    obtain ⟨h1, h2⟩ := mem_missing_pick.mp hc
    exact ⟨⟨c, mem_of_lookup h2, h⟩, h1⟩
  · rintro ⟨⟨c, hc, h⟩, h1⟩
    exact ⟨c, mem_missing_pick.mpr ⟨h1, lookup_of_mem hk hc⟩, h⟩

/-- `RemoveUnreachableStates` -/
theorem vUnreach_denote (v : FAVal) (hk : KeysNodup v.trans) :
    NEquiv (vUnreach v).toNFAS (nfasRemoveUnreachable v.toNFAS) := by
  refine ⟨fun q => ?_, fun q => ?_, fun e => ?_, fun _ => rfl⟩
  · show q ∈ v.mem.start ↔ q ∈ (nfaRemoveUnreachable v.toNFA).start
    rw [nfaRemoveUnreachable_start]; rfl
  · show q ∈ (reachStates v).foldl (fun f q => if v.mem.final.contains q then Vata.insN f q else f) [] ↔
      q ∈ (nfaRemoveUnreachable v.toNFA).final
    rw [mem_foldl_finalFilter, mem_nfaRemoveUnreachable_final, mem_reachStates v hk]
    simp only [List.not_mem_nil, false_or]
    exact ⟨fun h => ⟨h.2, h.1⟩, fun h => ⟨h.2, h.1⟩⟩
  · show e ∈ transOf (missing [] (pick v.trans (reachStates v))) ↔ e ∈ (nfaRemoveUnreachable v.toNFA).trans
    rw [mem_transOf_missing_pick hk, mem_nfaRemoveUnreachable_trans, mem_reachStates v hk]
    rfl

theorem nfasReverse_congr {A B : NFAS} (h : NEquiv A B) : NEquiv (nfasReverse A) (nfasReverse B) := by
  refine .of_setEq h.setEq.reverse fun q => ?_
  show smFind (A.startSyms ++ (A.final.filter (fun f => !smHas A.startSyms f)).map (fun f => (f, []))) q =
    smFind (B.startSyms ++ (B.final.filter (fun f => !smHas B.startSyms f)).map (fun f => (f, []))) q
  apply smFind_congr_append q (h.syms q)
  rw [smFind_map_nil, smFind_map_nil]
  have : q ∈ A.final.filter (fun f => !smHas A.startSyms f) ↔ q ∈ B.final.filter (fun f => !smHas B.startSyms f) := by
    simp only [List.mem_filter, smHas, h.syms q, h.final q]
  simp only [this]

theorem nfasRemoveUnreachable_congr {A B : NFAS} (h : NEquiv A B) :
    NEquiv (nfasRemoveUnreachable A) (nfasRemoveUnreachable B) :=
  .of_setEq h.setEq.removeUnreachable h.syms

theorem nfasRemoveUseless_congr {A B : NFAS} (h : NEquiv A B) : NEquiv (nfasRemoveUseless A) (nfasRemoveUseless B) :=
  nfasReverse_congr (nfasRemoveUnreachable_congr (nfasReverse_congr (nfasRemoveUnreachable_congr h)))

theorem keysNodup_foldl_upsert {α β : Type} (key : α → Nat) (g : α → Option β → β) (src : List α)
    {l : List (Nat × β)} (h : KeysNodup l) : KeysNodup (src.foldl (fun l a => upsert (key a) (g a) l) l) :=
  List.foldlRecOn src _ h (fun _ hl _ _ => Store.keysNodup_upsert _ _ hl)

theorem keysNodup_vReverse (v : FAVal) : KeysNodup (vReverse v).trans :=
  keysNodup_foldl_upsert (α := Nat × Nat × Nat) (fun e => e.2.2)
    (fun e o => addToCluster e.2.1 [e.1] (o.getD [])) _ Store.keysNodup_nil

theorem keysNodup_vUnreach (v : FAVal) : KeysNodup (vUnreach v).trans := keysNodup_missing_nil _

/-- a tuple set, a cluster holds non-empty tuples only -/
def TsOk (ts : Store.TupleSet) : Prop := ∀ r, r ∈ ts → r ≠ []
def ClOk (c : Cluster) : Prop := ∀ st, st ∈ c → TsOk st.2

theorem tsOk_insTuple {t : List Nat} {ts : Store.TupleSet} (ht : t ≠ []) (h : TsOk ts) : TsOk (insTuple t ts) :=
  fun r hr => (Store.mem_insTuple.mp hr).elim (h r) (fun e => e ▸ ht)

theorem clOk_addToCluster (a r : Nat) {c : Cluster} (h : ClOk c) : ClOk (addToCluster a [r] c) :=
  Store.forall_upsert (P := TsOk) a _ (tsOk_insTuple (List.cons_ne_nil _ _) (fun _ h => nomatch h))
    (fun _ hts => tsOk_insTuple (List.cons_ne_nil _ _) hts) h

theorem tuplesOk_addToMap (l a r : Nat) {t : Val} (h : TuplesOk t) : TuplesOk (addToMap l a [r] t) :=
  Store.forall_upsert (P := ClOk) l _ (clOk_addToCluster a r (fun _ h => nomatch h))
    (fun _ hc => clOk_addToCluster a r hc) h

theorem clOk_reindexCluster (idx : Nat → Nat) {src c : Cluster} (hs : ClOk src) (hc : ClOk c) :
    ClOk (reindexCluster idx src c) := by
  refine List.foldlRecOn src _ hc (fun c hc st hst => ?_)
  have key : ∀ ts, TsOk ts → TsOk (st.2.foldl (fun ts (t : List Nat) => insTuple (t.map idx) ts) ts) :=
    fun ts hts => List.foldlRecOn st.2 _ hts (fun ts hts t ht =>
      tsOk_insTuple (fun e => hs st hst t ht (List.map_eq_nil_iff.mp e)) hts)
  exact Store.forall_upsert (P := TsOk) st.1 _ (key [] (fun _ h => nomatch h)) key hc

theorem wfv_vNew : WFV vNew := ⟨Store.keysNodup_nil, fun _ h => nomatch h⟩
theorem wfv_vAdd (l a r : Nat) {v : FAVal} (h : WFV v) : WFV (vAdd l a r v) :=
  ⟨Store.keysNodup_upsert _ _ h.keys, tuplesOk_addToMap l a r h.tup⟩
theorem wfv_vReverse (v : FAVal) : WFV (vReverse v) :=
  ⟨keysNodup_vReverse v, List.foldlRecOn (transOf v.trans) _ (fun _ h => nomatch h)
    (fun _ ht e _ => tuplesOk_addToMap e.2.2 e.2.1 e.1 ht)⟩

theorem wfv_pick (v : FAVal) (h : TuplesOk v.trans) (m : Members) (keys : List Nat) :
    WFV ⟨m, missing [] (pick v.trans keys)⟩ := by
  refine ⟨keysNodup_missing_nil _, ?_⟩
  intro qc hqc
  exact h qc (mem_of_lookup (mem_missing_pick.mp hqc).2)

theorem wfv_vUnionDisj {s t : FAVal} (hs : WFV s) (ht : WFV t) : WFV (vUnionDisj s t) := by
  refine ⟨keysNodup_append_missing _ hs.keys, ?_⟩
  intro qc hqc
  rcases List.mem_append.mp hqc with h | h
  · exact hs.tup qc h
  · exact ht.tup qc (mem_missing h)

theorem wfv_vReindex (idx : Nat → Nat) {s d : FAVal} (hs : WFV s) (hd : WFV d) : WFV (vReindex idx s d) :=
  ⟨keysNodup_foldl_upsert (α := Nat × Cluster) (fun qc => idx qc.1)
    (fun qc o => reindexCluster idx qc.2 (o.getD [])) _ hd.keys,
   List.foldlRecOn s.trans _ hd.tup (fun _ ht qc hqc => Store.forall_upsert (P := ClOk) (idx qc.1) _
    (clOk_reindexCluster idx (hs.tup qc hqc) (fun _ h => nomatch h))
    (fun _ hc => clOk_reindexCluster idx (hs.tup qc hqc) hc) ht)⟩

/-- `RemoveUselessStates` = `RemoveUnreachableStates().Reverse().RemoveUnreachableStates().Reverse()` -/
theorem vUseless_denote (v : FAVal) (hk : KeysNodup v.trans) :
    NEquiv (vUseless v).toNFAS (nfasRemoveUseless v.toNFAS) := by
  have h1 := vUnreach_denote v hk
  have h2 := (vReverse_denote (vUnreach v)).trans' (nfasReverse_congr h1)
  have h3 := (vUnreach_denote (vReverse (vUnreach v)) (keysNodup_vReverse _)).trans' (nfasRemoveUnreachable_congr h2)
  exact (vReverse_denote _).trans' (nfasReverse_congr h3)

end Vata.CowHeapFA
