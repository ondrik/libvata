import Vata.Proofs.RcStoreW
/-!
# A counter of `w` bits wraps after `2^w` copies: the node is released while handles are alive (properties C18 / C20)

The history `narrowHist w v` = "construct the constant `v` (handle 0, one leaf, node 0); copy handle 0 to the handles
`1 … 2^w`; destroy handle 0".  The leaf then has `2^w + 1` referrers; its `w`-bit counter holds `(2^w + 1) mod 2^w`, the
destructor of handle 0 decrements it to 0 and `recursivelyDeleteMTBDDNode` deletes the leaf although the `2^w` copies are
alive.  Proved for every `w` by induction on the number of copies.
-/
namespace Vata.RcSW
open Vata.RcS

/-- the handle table after `construct 0`, `copy 0 1`, …, `copy 0 k` -/
def hsK : Nat → List (Nat × Nat)
  | 0 => [(0, 0)]
  | k+1 => (k+1, 0) :: hsK k

theorem find_hsK_zero : ∀ k, find 0 (hsK k) = some 0
  | 0 => rfl
  | k+1 => by simp only [hsK, find]; rw [if_neg (by omega)]; exact find_hsK_zero k

theorem find_hsK_fresh : ∀ k j, k < j → find j (hsK k) = none
  | 0, j, h => by simp only [hsK, find]; rw [if_neg (by omega)]
  | k+1, j, h => by simp only [hsK, find]; rw [if_neg (by omega)]; exact find_hsK_fresh k j (by omega)

theorem mem_hsK : ∀ k j, j ≤ k → (j, 0) ∈ hsK k
  | 0, j, h => by cases Nat.le_zero.mp h; exact List.mem_cons_self
  | k+1, j, h => by
    by_cases e : j = k+1
    · subst e; simp [hsK]
    · exact List.mem_cons_of_mem _ (mem_hsK k j (by omega))

/-- the store after `construct 0 [] v v` and `k` copies: one leaf (node 0) whose `w`-bit counter holds `(1+k) mod 2^w` -/
structure NS (w v k : Nat) (s : Store) : Prop where
  ids   : s.ids = [0]
  dat   : s.dat 0 = .leaf v
  rc    : s.rc 0 = (1 + k) % 2^w
  leafT : s.leafT = [(v, 0)]
  intT  : s.intT = []
  hs    : s.hs = hsK k
  freed : s.freed = []

theorem NS_construct (w : Nat) (f : Nat → Nat → Nat) (v : Nat) : NS w v 0 (stepF w f empty (.construct 0 [] v v)) := by
  constructor <;>
    simp [stepF, construct, empty, find, spawnLeaf, allocLeaf, addHandle, incRef, setF, incrRc, hsK]

theorem NS_copy (w : Nat) (f : Nat → Nat → Nat) (v k : Nat) {s : Store} (h : NS w v k s) :
    NS w v (k+1) (stepF w f s (.copy 0 (k+1))) := by
  have h1 : find 0 s.hs = some 0 := by rw [h.hs]; exact find_hsK_zero k
  have h2 : find (k+1) s.hs = none := by rw [h.hs]; exact find_hsK_fresh k (k+1) (by omega)
  simp only [stepF, copy, h1, h2]
  refine ⟨h.ids, h.dat, ?_, h.leafT, h.intT, ?_, h.freed⟩
  · simp only [addHandle, incRef, incrRc, if_true, h.rc]
    rw [Nat.mod_add_mod, Nat.add_assoc]
  · simp only [addHandle, h.hs, hsK]

theorem foldl_copies (w : Nat) (f : Nat → Nat → Nat) (v : Nat) : ∀ k,
    NS w v k ((copies k).foldl (stepF w f) (stepF w f empty (.construct 0 [] v v)))
  | 0 => NS_construct w f v
  | k+1 => by
    simp only [copies, List.foldl_append, List.foldl_cons, List.foldl_nil]
    exact NS_copy w f v k (foldl_copies w f v k)

theorem wrap_dec (p : Nat) (hp : 0 < p) : ((1 + p) % p + p - 1) % p = 0 := by
  rw [Nat.add_mod_right]
  by_cases h1 : p = 1
  · subst h1; rfl
  · have : 1 % p = 1 := Nat.mod_eq_of_lt (by omega)
    rw [this]
    have : 1 + p - 1 = p := by omega
    rw [this, Nat.mod_self]

theorem release_leaf (w fuel : Nat) (s : Store) (n v : Nat) (ht : (decRef w s n).rc n = 0) (hd : s.dat n = .leaf v) :
    release w (fuel+1) s n = disposeLeaf (decRef w s n) n v := by
  simp only [release, if_pos ht, hd]

theorem destroy_wrapped (w : Nat) (f : Nat → Nat → Nat) (v : Nat) {s : Store} (h : NS w v (2^w) s) :
    (stepF w f s (.destroy 0)).ids = [] ∧ (stepF w f s (.destroy 0)).freed = [0] ∧
    (stepF w f s (.destroy 0)).hs = (hsK (2^w)).erase (0, 0) ∧
    tableSizes (stepF w f s (.destroy 0)) = (0, 0) ∧ (stepF w f s (.destroy 0)).dat 0 = .leaf v := by
  have h1 : find 0 s.hs = some 0 := by rw [h.hs]; exact find_hsK_zero _
  have hz : (s.rc 0 + 2^w - 1) % 2^w = 0 := by rw [h.rc]; exact wrap_dec _ (Nat.two_pow_pos w)
  have e : stepF w f s (.destroy 0) = disposeLeaf (decRef w { s with hs := s.hs.erase (0, 0) } 0) 0 v := by
    simp only [stepF, destroy, h1]
    exact release_leaf w _ _ 0 v (by simp only [decRef, decrRc, if_true]; exact hz) h.dat
  rw [e]
  refine ⟨?_, ?_, ?_, ?_, h.dat⟩
  · show s.ids.erase 0 = []
    rw [h.ids]; rfl
  · show 0 :: s.freed = [0]
    rw [h.freed]
  · show s.hs.erase (0, 0) = _
    rw [h.hs]
  · show ((eraseKey v s.leafT).length, s.intT.length) = (0, 0)
    rw [h.leafT, h.intT, eraseKey, List.filter_cons_of_neg (by simp)]; rfl

end Vata.RcSW
