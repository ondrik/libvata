import Vata.ArityPrefix
import Vata.Proofs.BddLoad
import Vata.Proofs.BddIsect
/-!
The arity prefix of `Vata/ArityPrefix.lean`: the code of a ranked symbol (16 symbol bits, then 6 arity bits) is injective
within its bounds; the two seeded variants (`arity % 63`, `append` one variable short) collide.
-/
namespace Vata
namespace ArityPrefix
open M BddAbs BddAbsTD

theorem arAsgn_eq_bitsLE (n : Nat) : arAsgn n = Glue.bitsLE 6 n := (Glue.bitsLE_eq_range_map 6 n).symm

/-- `SymbolType prefix(SYMBOL_ARITY_LENGTH, arity)` never runs into the undefined shift (6 ≤ 31) and is the list of the 6
low bits of `arity` -/
theorem arityPrefix_eq (n : Nat) : arityPrefix n = some (arAsgn n) := by
  rw [arityPrefix, SYMBOL_ARITY_LENGTH, Glue.ofNum_eq_bitsLE n (by decide), arAsgn_eq_bitsLE]

theorem addArityToSymbol_eq (sym ar : Nat) : addArityToSymbol (symAsgn sym) ar = some (rankedAsgn sym ar) := by
  rw [addArityToSymbol, arityPrefix_eq]; rfl

/-- the ranked symbol is what `BddAbsTD.addCubeTD` puts into the MTBDD -/
theorem rankedAsgn_eq_symArAsgn (sym ar : Nat) : rankedAsgn sym ar = symArAsgn sym ar := rfl

theorem rankedAsgn_length (sym ar : Nat) : (rankedAsgn sym ar).length = SYMBOL_TOTAL_SIZE := by
  simp [rankedAsgn, Glue.append, symAsgn, arAsgn, SYMBOL_TOTAL_SIZE, Glue.SYMBOL_SIZE, SYMBOL_ARITY_LENGTH]

theorem rankedCode_eq (sym ar : Nat) : rankedCode sym ar = sym % 2 ^ 16 + 2 ^ 16 * (ar % 2 ^ 6) := by
  rw [rankedCode, rankedAsgn, Glue.append, Glue.toNum_append, symAsgn_length, arAsgn_eq_bitsLE, Glue.toNum_bitsLE,
    BddLoad.symAsgn_eq_bitsLE, Glue.toNum_bitsLE]

theorem rankedCode_lt (sym ar : Nat) : rankedCode sym ar < 2 ^ 22 := by
  rw [rankedCode_eq]
  have h1 : sym % 2 ^ 16 < 2 ^ 16 := Nat.mod_lt _ (by decide)
  have h2 : ar % 2 ^ 6 < 2 ^ 6 := Nat.mod_lt _ (by decide)
  generalize sym % 2 ^ 16 = a at h1 ⊢
  generalize ar % 2 ^ 6 = b at h2 ⊢
  omega

theorem rankedCode_eq_iff (sym ar sym' ar' : Nat) :
    rankedCode sym ar = rankedCode sym' ar' ↔ sym % 2 ^ 16 = sym' % 2 ^ 16 ∧ ar % 64 = ar' % 64 := by
  rw [rankedCode_eq, rankedCode_eq, show (64 : Nat) = 2 ^ 6 from rfl]
  have h1 : sym % 2 ^ 16 < 2 ^ 16 := Nat.mod_lt _ (by decide)
  have h2 : sym' % 2 ^ 16 < 2 ^ 16 := Nat.mod_lt _ (by decide)
  generalize sym % 2 ^ 16 = a at h1 ⊢
  generalize sym' % 2 ^ 16 = a' at h2 ⊢
  generalize ar % 2 ^ 6 = b
  generalize ar' % 2 ^ 6 = b'
  refine ⟨fun h => ?_, fun ⟨e1, e2⟩ => by rw [e1, e2]⟩
  have e : a = a' := by
    have := congrArg (· % 2 ^ 16) h
    rwa [Nat.add_mul_mod_self_left, Nat.add_mul_mod_self_left, Nat.mod_eq_of_lt h1, Nat.mod_eq_of_lt h2] at this
  subst e
  exact ⟨rfl, Nat.eq_of_mul_eq_mul_left (by decide) (Nat.add_left_cancel h)⟩

theorem rankedCode_injective {sym ar sym' ar' : Nat} (hs : sym < 2 ^ 16) (ha : ar < 64) (hs' : sym' < 2 ^ 16)
    (ha' : ar' < 64) (h : rankedCode sym ar = rankedCode sym' ar') : sym = sym' ∧ ar = ar' := by
  have := (rankedCode_eq_iff sym ar sym' ar').mp h
  rwa [Nat.mod_eq_of_lt hs, Nat.mod_eq_of_lt hs', Nat.mod_eq_of_lt ha, Nat.mod_eq_of_lt ha'] at this

theorem rankedAsgn_injective {sym ar sym' ar' : Nat} (hs : sym < 2 ^ 16) (ha : ar < 64) (hs' : sym' < 2 ^ 16)
    (ha' : ar' < 64) (h : rankedAsgn sym ar = rankedAsgn sym' ar') : sym = sym' ∧ ar = ar' :=
  rankedCode_injective hs ha hs' ha' (by rw [rankedCode, rankedCode, h])

theorem agrees_rankedAsgn (ρ : Nat → Bool) (sym ar : Nat) :
    agrees ρ (rankedAsgn sym ar) 0 = (agrees ρ (symAsgn sym) 0 && arOK ρ ar) :=
  agrees_withAr ρ (symAsgn sym) (symAsgn_length sym) ar

theorem agrees_bitsAr_rankedAsgn {g m f n : Nat} (hg : g < 2 ^ 16) (hm : m < 64) (hf : f < 2 ^ 16) (hn : n < 64) :
    agrees (bitsAr g m) (rankedAsgn f n) 0 = true ↔ g = f ∧ m = n := by
  rw [agrees_rankedAsgn, Bool.and_eq_true, bitsAr, agrees_withArity _ _ _ (Nat.le_of_eq (symAsgn_length _)),
    agrees_symAsgn_lt hg hf, arOK_withArity_lt _ hm hn]

theorem arAsgnMod63_63 : arAsgnMod63 63 = arAsgnMod63 0 := by decide

theorem rankedAsgnMod63_collides (sym : Nat) : rankedAsgnMod63 sym 63 = rankedAsgnMod63 sym 0 := by
  rw [rankedAsgnMod63, rankedAsgnMod63, arAsgnMod63_63]

theorem rankedCodeMod63_collides (sym : Nat) : rankedCodeMod63 sym 63 = rankedCodeMod63 sym 0 := by
  rw [rankedCodeMod63, rankedCodeMod63, rankedAsgnMod63_collides]

theorem rankedAsgnMod63_lt {ar : Nat} (h : ar < 63) (sym : Nat) : rankedAsgnMod63 sym ar = rankedAsgn sym ar := by
  rw [rankedAsgnMod63, arAsgnMod63, Nat.mod_eq_of_lt h]; rfl

theorem arAsgn_dropLast (n : Nat) : (arAsgn n).dropLast = (List.range 5).map (fun i => some (n.testBit i)) := by
  simp [arAsgn, List.range_succ]

theorem testBit_add_32 (n i : Nat) (hi : i < 5) : (n + 32).testBit i = n.testBit i :=
  (low_bits_eq_iff 5 (n + 32) n).mpr (Nat.add_mod_right n 32) i hi

theorem arAsgn_dropLast_add_32 (n : Nat) : (arAsgn (n + 32)).dropLast = (arAsgn n).dropLast := by
  rw [arAsgn_dropLast, arAsgn_dropLast]
  apply List.map_congr_left
  intro i hi
  rw [testBit_add_32 n i (List.mem_range.mp hi)]

theorem arAsgn_ne_nil (n : Nat) : arAsgn n ≠ [] := by simp [arAsgn, List.range_succ]

theorem appendOneShort_arAsgn (a : Glue.Asgn) (n : Nat) : appendOneShort a (arAsgn n) = a ++ (arAsgn n).dropLast ++ [none] := by
  unfold appendOneShort
  split
  · next h => exact absurd h (arAsgn_ne_nil n)
  · next h => rw [h]

theorem appendOneShort_collides (a : Glue.Asgn) (r : Nat) :
    appendOneShort a (arAsgn r) = appendOneShort a (arAsgn (r + 32)) := by
  rw [appendOneShort_arAsgn, appendOneShort_arAsgn, arAsgn_dropLast_add_32]

theorem rankedAsgnShort_collides (sym r : Nat) : rankedAsgnShort sym r = rankedAsgnShort sym (r + 32) :=
  appendOneShort_collides _ r

theorem arAsgnShort_eq (n : Nat) : arAsgnShort n = (arAsgn n).dropLast ++ [none] := by
  rw [arAsgnShort, appendOneShort_arAsgn]; rfl

theorem arAsgnShort_collides (r : Nat) : arAsgnShort r = arAsgnShort (r + 32) := appendOneShort_collides [] r

theorem rankedAsgnShort_eq (sym n : Nat) : rankedAsgnShort sym n = symAsgn sym ++ arAsgnShort n := by
  rw [rankedAsgnShort, appendOneShort_arAsgn, arAsgnShort_eq, List.append_assoc]

theorem preOK_short (ρ : Nat → Bool) (n : Nat) :
    preOK ρ (arAsgnShort n) = true ↔ ∀ j, j < 5 → ρ (j + 16) = n.testBit j := by
  rw [preOK, arAsgnShort_eq, arAsgn_dropLast, agrees_append, Bool.and_eq_true, agrees_range]
  simp [agrees]

end ArityPrefix
end Vata
