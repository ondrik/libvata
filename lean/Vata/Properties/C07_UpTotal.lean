import Vata.Proofs.InclUpBddTotal
import Vata.Properties.C07
/-!
# C07 – the bottom-up upward inclusion terminates within an explicit bound and always returns the exact verdict

Property served (C07): *for any two tree automata loaded into the top-down or the bottom-up BDD encoding, each implemented
inclusion algorithm … returns true exactly when the language of the first is contained in the language of the second.*
`Vata/Properties/C07.lean` proves that every verdict the models RETURN is exact, and lists under "not yet proved" that no fuel
is proved to suffice for the bottom-up upward exploration `InclUpBdd.run`, so that the selections `C07Sel.buUp`
(`ANTICHAINS_UP_NOSIM`) and `C07Sel.buUpSim` (`ANTICHAINS_UP_SIM`) were missing from `C07_total_selections`.  This file closes
that item: "returns true exactly when" now also has its "returns" half for these two selections.

## How the C++ is read into the model

Nothing new is modelled: `InclUpBdd.run` (`Vata/InclUpBdd.lean`) is the existing as-coded model of
`CheckUpwardTreeInclusion` (`src/tree_incl_up.hh`) with `UpwardInclusionFunctor` (`src/up_tree_incl_fctor.hh`), the repaired
version; `while (workset.get(procState, procSet))` is `InclUpBdd.loop`, ONE unit of fuel per pair taken from `workset`, `none`
= fuel exhausted.  The fuel is the only artefact of the model the C++ does not have; the theorems below say it is harmless:
with more than `fuelBoundBdd A B = 2 · |Δ_A| · 2^|Δ_B|` units (`|Δ|` = number of rules) the model never runs out, hence the C++
loop performs at most that many iterations (on the abstract reading of the encoding, see below).

The measure argument (`Vata/Proofs/InclUpBddTotal.lean`): a pair enters `workset` only in `addToWorkset`, which the functor
reaches only after `antichain.contains(…)` failed, i.e. together with `cachePair` putting the pair into `antichain`; then
the number of pairs (state of `A`, set of states of `B`) not subsumed by `antichain` drops (`refine` erases only pairs above
the new one).  `2 · (#pairs not subsumed) + |workset|` therefore never grows inside an iteration and drops by one when the
iteration takes its pair from `workset`.

## What is abstracted

As everywhere in C07 the BDD encoding is read as the identity on `TA` (justified by C08 and, for the traversal,
`Vata/Properties/C07_Traverse.lean`); hash-container order is list order (the bound holds for every order, since it is a bound
on a measure, not on a particular run).  States/sets are counted through the RULES (`parents`): the bound is in the number of
rules, which is at least the number of states that can occur in a pair.  The bound is not tight (`C07_bu_upward_bound_generous`).

No hypothesis on the operands is needed (contrast the explicit upward model, `inclUp_total`, which needs `Trimmed A`): this
code has no exit on an empty macro-state, it returns `false` only for a pair whose `A`-state is final, and the tree of that
pair is itself the counterexample (`InclUpBdd.run_error_ok`).
-/
namespace Vata.Props
open Vata.InclUp Vata.InclUpBdd

/-- **termination of the exploration.**  With more than `2 · |Δ_A| · 2^|Δ_B|` units of fuel (one unit = one pair taken from
`workset`) `InclUpBdd.run` – and likewise the code before the repair, `runOld` – ends with a result; above the bound the result
does not depend on the fuel.  No hypothesis on `A`, `B` -/
theorem C07_bu_upward_terminates (A B : TA) :
    fuelBoundBdd A B = 2 * (A.rules.length * 2 ^ B.rules.length) ∧
    (∀ fuel, fuelBoundBdd A B < fuel → ∃ r, InclUpBdd.run A B fuel = some r) ∧
    (∀ fuel, fuelBoundBdd A B < fuel → ∃ r, InclUpBdd.runOld A B fuel = some r) ∧
    (∀ f₁ f₂, fuelBoundBdd A B < f₁ → fuelBoundBdd A B < f₂ → InclUpBdd.run A B f₁ = InclUpBdd.run A B f₂) :=
  ⟨rfl, fun _ h => InclUpBdd.run_terminates h, fun _ h => InclUpBdd.runOld_terminates h,
    fun _ _ h₁ h₂ => InclUpBdd.run_fuel_irrelevant h₁ h₂⟩

example : fuelBoundBdd InclUpBddEx.cexA InclUpBddEx.cexB = 96 := by decide
example : ∃ r, InclUpBdd.run InclUpBddEx.cexA InclUpBddEx.cexB 97 = some r :=
  (C07_bu_upward_terminates _ _).2.1 97 (by decide)

/-- **the measure behind the bound**, as a statement about one iteration of `while (workset.get(…))`: when the body
(`procTuples`, all tuples of the transition table) ends without `failProcessing`, the measure `phiB` of the state after the
iteration is strictly smaller than before it; at the start it is at most `fuelBoundBdd A B` -/
theorem C07_bu_upward_measure (A B : TA) (P : List Item) (it : Item) (rest : List Item) (st' : InclUpBdd.St)
    (h : procTuples (procTuple A B) it (tuplesOf A) ⟨P, rest⟩ = .ok st') :
    phiB A B st' < phiB A B ⟨P, it :: rest⟩ ∧ phiB A B ⟨[], []⟩ ≤ fuelBoundBdd A B := by
  refine ⟨?_, phiB_init_le A B⟩
  have h1 := phiB_procTuples (procTuple_phi A B) h
  have h2 : phiB A B ⟨P, rest⟩ + 1 = phiB A B ⟨P, it :: rest⟩ := by
    unfold phiB; simp only [List.length_cons]; omega
  omega

/-- **the certified model on ANY operands**: above the bound `inclUpBdd A B fuel` returns `(true, _)` when `L(A) ⊆ L(B)` and
`(false, _)` when not, and the answer (with its certificate) does not depend on the fuel -/
theorem C07_bu_upward_model_total (A B : TA) (fuel : Nat) (hf : fuelBoundBdd A B < fuel) :
    (Incl A B → ∃ c, inclUpBdd A B fuel = some (true, c)) ∧
    (¬ Incl A B → ∃ c, inclUpBdd A B fuel = some (false, c)) ∧
    (∀ fuel', fuelBoundBdd A B < fuel' → inclUpBdd A B fuel' = inclUpBdd A B fuel) :=
  ⟨(inclUpBdd_complete A B hf).1, (inclUpBdd_complete A B hf).2, fun _ hf' => inclUpBdd_fuel_irrelevant hf' hf⟩

/-- **the two upward selections of the bottom-up encoding return the exact verdict above the bound**:
`C07Sel.buUp` (`ANTICHAINS_UP_NOSIM`, `CheckInclusion` sanitises first: the bound is that of the sanitised operands) and
`C07Sel.buUpSim` (`ANTICHAINS_UP_SIM`, the operands as passed, whatever relation `R` the caller passes).  No hypothesis on
`A`, `B`, `R` -/
theorem C07_bu_upward_total (A B : TA) (R : Rel) :
    (∀ fuel, fuelBoundBdd (removeUseless A) (removeUseless B) < fuel →
      (Incl A B → ∃ c, C07Sel.buUp.model R A B fuel = some (true, c)) ∧
      (¬ Incl A B → ∃ c, C07Sel.buUp.model R A B fuel = some (false, c))) ∧
    (∀ fuel, fuelBoundBdd A B < fuel →
      (Incl A B → ∃ c, C07Sel.buUpSim.model R A B fuel = some (true, c)) ∧
      (¬ Incl A B → ∃ c, C07Sel.buUpSim.model R A B fuel = some (false, c))) :=
  -- `inclUpBddSim` ignores the relation: it is `inclUpBdd` by definition
  ⟨fun _ hf => checkInclUpBdd_complete A B hf, fun _ hf => inclUpBdd_complete A B hf⟩

/-- the same for `ANTICHAINS_UP_SIM` as the COMMAND LINE runs it (operands prepared by `sanitize`, the upward simulation of the
union computed and ignored) -/
theorem C07_bu_upward_sim_cli_total (A B : TA) (fuel : Nat)
    (hf : fuelBoundBdd (sanitize A B).1 (sanitize A B).2.1 < fuel) :
    (Incl A B → ∃ c, checkInclUpBddSim A B fuel = some (true, c)) ∧
    (¬ Incl A B → ∃ c, checkInclUpBddSim A B fuel = some (false, c)) := by
  have := inclUpBdd_complete (sanitize A B).1 (sanitize A B).2.1 hf
  rw [checkIncl_sanitized] at this
  exact this

-- both polarities, with `decide`d bounds
theorem cex_bounds : fuelBoundBdd (removeUseless InclUpBddEx.cexA) (removeUseless InclUpBddEx.cexB) < 97 ∧
    fuelBoundBdd (removeUseless InclUpBddEx.cexB) (removeUseless InclUpBddEx.cexA) < 97 := by decide +kernel

example : fuelBoundBdd (removeUseless InclUpBddEx.cexA) (removeUseless InclUpBddEx.cexB) < 97 ∧
    fuelBoundBdd (removeUseless InclUpBddEx.cexB) (removeUseless InclUpBddEx.cexA) < 97 := cex_bounds
example : ∃ c, C07Sel.buUp.model [] InclUpBddEx.cexA InclUpBddEx.cexB 97 = some (false, c) :=
  ((C07_bu_upward_total InclUpBddEx.cexA InclUpBddEx.cexB []).1 97 cex_bounds.1).2
    (inclUpBdd_false cexA_cexB_run)
example : ∃ c, C07Sel.buUp.model [] InclUpBddEx.cexB InclUpBddEx.cexA 97 = some (true, c) :=
  ((C07_bu_upward_total InclUpBddEx.cexB InclUpBddEx.cexA []).1 97 cex_bounds.2).1
    (inclUpBdd_true cexB_cexA_run)
example : ∃ c, C07Sel.buUpSim.model [(1, 9)] InclUpBddEx.cexA InclUpBddEx.cexB 97 = some (false, c) :=
  ((C07_bu_upward_total InclUpBddEx.cexA InclUpBddEx.cexB [(1, 9)]).2 97 (by decide +kernel)).2
    (inclUpBdd_false cexA_cexB_run)
example : ∃ c, C07Sel.buUpSim.model [(1, 9)] InclUpBddEx.cexB InclUpBddEx.cexA 97 = some (true, c) :=
  ((C07_bu_upward_total InclUpBddEx.cexB InclUpBddEx.cexA [(1, 9)]).2 97 (by decide +kernel)).1
    (inclUpBdd_true cexB_cexA_run)
-- the verdicts themselves, computed at the bound
example : (C07Sel.buUp.model [] InclUpBddEx.cexA InclUpBddEx.cexB 97).map (·.1) = some false ∧
    (C07Sel.buUp.model [] InclUpBddEx.cexB InclUpBddEx.cexA 97).map (·.1) = some true ∧
    (C07Sel.buUpSim.model [(1, 9)] InclUpBddEx.cexA InclUpBddEx.cexB 97).map (·.1) = some false ∧
    (C07Sel.buUpSim.model [(1, 9)] InclUpBddEx.cexB InclUpBddEx.cexA 97).map (·.1) = some true := by decide +kernel
-- no trimming hypothesis: on the untrimmed `exU ⊆ {a}` the selection without sanitising (`buUpSim`) answers `true` as well
example : allUsefulB InclUp.TotalEx.exU = false ∧ fuelBoundBdd InclUp.TotalEx.exU InclUpEx.exA < 9 ∧
    (C07Sel.buUpSim.model [] InclUp.TotalEx.exU InclUpEx.exA 9).map (·.1) = some true := by decide +kernel

/-- the bound is sufficient, not necessary: on the pair of defect D9 (bound 96) ten units suffice; and some fuel IS needed:
with one unit the model of `exEven ⊆ exAll` gives up -/
theorem C07_bu_upward_bound_generous :
    fuelBoundBdd InclUpBddEx.cexA InclUpBddEx.cexB = 96 ∧
    (inclUpBdd InclUpBddEx.cexA InclUpBddEx.cexB 10).map (·.1) = some false ∧
    inclUpBdd InclUpBddEx.exEven InclUpBddEx.exAll 1 = none := ⟨by decide +kernel, congrArg _ cexA_cexB_run, rfl⟩

/-! ### all seven selections -/

/-- the fuel bound of a selection (number of pairs taken from the work-list for the upward selections, nesting depth of the
calls for the downward ones), on the operands the selection really runs on -/
def C07Sel.bound (s : C07Sel) (A B : TA) : Nat :=
  match s with
  | .tdRec | .tdRecOpt => InclDown.fuelBoundD (removeUseless A) (removeUseless B)
  | .tdRecSim | .tdRecOptSim => InclDown.fuelBoundD A B
  | .buUp => fuelBoundBdd (removeUseless A) (removeUseless B)
  | .buUpSim => fuelBoundBdd A B
  | .buDownSim => InclDown.fuelBoundD (sanitize A B).1 (sanitize A B).2.1

/-- what a selection needs from its caller for a GUARANTEED verdict: nothing, except for the two top-down `SIM` selections,
which pass the caller's relation and operands through unchecked – there the relation must be a downward simulation of the
disjoint union, the operands disjoint and the rule children of `A` productive -/
def C07Sel.Pre (s : C07Sel) (R : Rel) (A B : TA) : Prop :=
  match s with
  | .tdRecSim | .tdRecOptSim =>
    InclDown.KidsProductive A ∧ isDownSimB (unionDisjoint A B) R = true ∧ InclDown.disjointB A B = true
  | _ => True

/-- **every implemented BDD selection returns the exact verdict for every fuel above its explicit bound** – the five
selections that prepare their operands or need no preparation (`tdRec`, `tdRecOpt`, `buUp`, `buUpSim`, `buDownSim`)
unconditionally, the two top-down `SIM` selections under `C07Sel.Pre`.  Combines `C07_total_selections`,
`C07_td_downward_models_exact` and `C07_bu_upward_total` -/
theorem C07_total_all_selections (s : C07Sel) (R : Rel) (A B : TA) (hpre : s.Pre R A B) (fuel : Nat)
    (hf : s.bound A B < fuel) :
    (Incl A B → ∃ c, s.model R A B fuel = some (true, c)) ∧
    (¬ Incl A B → ∃ c, s.model R A B fuel = some (false, c)) := by
  have hT := C07_total_selections A B R
  have hU := C07_bu_upward_total A B R
  have hS := (C07_td_downward_models_exact A B R).2.2.2.2
  cases s with
  | tdRec => exact ⟨fun hi => ((hT.1 fuel hf).1 hi).1, fun hn => ((hT.1 fuel hf).2 hn).1⟩
  | tdRecOpt => exact ⟨fun hi => ((hT.1 fuel hf).1 hi).2, fun hn => ((hT.1 fuel hf).2 hn).2⟩
  | tdRecSim => exact hS hpre.1 hpre.2.1 hpre.2.2 fuel hf
  | tdRecOptSim => exact hS hpre.1 hpre.2.1 hpre.2.2 fuel hf
  | buUp => exact hU.1 fuel hf
  | buUpSim => exact hU.2 fuel hf
  | buDownSim => exact hT.2 fuel hf

/-- … hence above the bound, under the precondition, a selection's verdict is a function of `Incl A B` alone: two runs
(any fuels above the bound, any admissible relations) give the same Boolean, which is `true` exactly for inclusion -/
theorem C07_all_selections_decide (s : C07Sel) (R : Rel) (A B : TA) (hpre : s.Pre R A B) (fuel : Nat)
    (hf : s.bound A B < fuel) : ∃ b c, s.model R A B fuel = some (b, c) ∧ (b = true ↔ Incl A B) := by
  have h := C07_total_all_selections s R A B hpre fuel hf
  by_cases hi : Incl A B
  · obtain ⟨c, hc⟩ := h.1 hi
    exact ⟨true, c, hc, ⟨fun _ => hi, fun _ => rfl⟩⟩
  · obtain ⟨c, hc⟩ := h.2 hi
    exact ⟨false, c, hc, ⟨fun hb => Bool.noConfusion hb, fun hi' => absurd hi' hi⟩⟩

-- the precondition and the bound hold for all seven selections on the trimmed, disjoint pair `exS1`, `exS2` with `{(5,6)}`
example : ∀ s : C07Sel, s.Pre [(5, 6)] InclDownEx.exS1 InclDownEx.exS2 := by
  intro s
  cases s
  case tdRecSim => exact ⟨(trimmed_of_allUsefulB (by decide +kernel)).1, by decide +kernel, by decide +kernel⟩
  case tdRecOptSim => exact ⟨(trimmed_of_allUsefulB (by decide +kernel)).1, by decide +kernel, by decide +kernel⟩
  all_goals exact True.intro
example : ∀ s : C07Sel, s.bound InclDownEx.exS1 InclDownEx.exS2 < 400 := by
  intro s; cases s <;> decide +kernel
-- the precondition of the `SIM` selections cannot be dropped from the model's guarantee: a relation that is no simulation
-- is refused by the validation (`none` for every fuel), see `inclDownSim` in `Vata/InclDown.lean`
example : (C07Sel.tdRecSim.model [(1, 3)] InclDownEx.exS1 InclDownEx.exS2 400) = none := by decide

/-!
## closes (of the "not yet proved" list of `Vata/Properties/C07.lean`)

* "**No termination bound for the bottom-up upward exploration** `InclUpBdd.run` … So `buUp` and `buUpSim` are missing from
  `C07_total_selections`" – closed by `C07_bu_upward_terminates`, `C07_bu_upward_total`, `C07_total_all_selections`.
* In the item on `ANTICHAINS_UP_SIM` the sentence "`inclUpBdd` is exact on any operands but a verdict is only guaranteed on
  trimmed ones" is superseded: a verdict is guaranteed on ANY operands (`C07_bu_upward_model_total`).

## still not proved

* The bound is in the number of RULES (`2 · |Δ_A| · 2^|Δ_B|`), not of states, and is not tight
  (`C07_bu_upward_bound_generous`); no lower bound on the number of iterations is proved.
* The fuel counts pairs taken from `workset` only; the work INSIDE an iteration (the `for` over the transition table, the
  `pick` loop over the choices, the MTBDD traversal) is a terminating structural recursion in the model, but no bound on its
  cost is stated.
* All of it is about the model on the abstract automaton (identity reading of the encoding; see the first item of the "not yet
  proved" list of `Vata/Properties/C07.lean` and `Vata/Properties/C07_Traverse.lean`): that the real MTBDD traversal delivers
  the events the model iterates over is not part of this file.
* The two top-down `SIM` selections stay conditional (`C07Sel.Pre`); outside the precondition only exactness of returned
  verdicts is known (`C07_td_downward_models_exact`).
-/
end Vata.Props
