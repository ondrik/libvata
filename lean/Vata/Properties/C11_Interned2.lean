import Vata.Properties.C11_Interned
import Vata.Proofs.CowInternedEager
/-!
# C11 / C12 – the copy-on-write model and the eager-copy model of interned tuple sets agree; moves, storage-sharing results
and `ContainsTransition` for named automata over the one tuple cache

> C11.  Explicit tree automata are values: after copy construction / assignment the copy and the original can be modified
> (AddTransition, SetStateFinal, Clear, destruction) independently of one another, although the implementation shares the
> transition storage copy-on-write at three levels …
> C12.  … iterating the automaton yields each distinct rule added since the last Clear exactly once and nothing else, and
> ContainsTransition answers true exactly for those rules.

`Vata/Properties/C11_Interned.lean` ("still not proved"): *"The eager-copy model of `Vata/StoreInterned.lean` (`copyOutI`) is not
formally related to this one …  Move construction / move assignment and the storage-sharing library operations of
`Vata/CowHeapX.lean` (`shareAll`, `shareClusters`, `unionDisj`) are not threaded with the cache …  `ContainsTransition` … is in
`Vata/StoreInterned.lean` for one automaton, not here."*  This file closes the three items.

## How the C++ is read into the model (`Vata/CowInterned2.lean`, on top of `Vata/CowInterned.lean`)

* **Histories** `Op2` = the calls `Op` of `Vata/CowInterned.lean` (`base`) plus
  `move` (`transitions_(std::move(aut.transitions_))`: the root pointer changes its owner, NO use count changes, the
  moved-from name is dead), `moveAssign` (`shared_ptr::operator=(shared_ptr&&)` = `shared_ptr(std::move(r)).swap(*this)`:
  the OLD map pointer of the target is released – the cascade `releaseMapI` → `releaseClusterI` → `releaseTsI` may run
  `~TuplePtrSet()` and destroy `TuplePtr`s), `shareAll` (`RemoveUselessStates`, nothing removed:
  `ExplicitTreeAutCore result(cache_); result.transitions_ = transitions_;`), `shareClusters` (`RemoveUnreachableStates`:
  `result.transitions_ = Ptr(new Map()); for (state : reachable) result.transitions_->insert(make_pair(state, iter->second))`),
  `unionDisj` (`UnionDisjointStates`: `ExplicitTreeAutCore res(lhs); res.uniqueClusterMap()->insert(rhs…begin(), rhs…end())`)
  and `query` (`ContainsTransition`).  The heap actions are those of `Vata/CowHeapX.lean` re-coded over heap × cache with the
  THREADED releases of `Vata/CowInterned.lean` (`…_fst`: the heap component of every threaded action IS the `CowHeapX` action);
  they copy and release `shared_ptr`s to NODES only, so the only way they reach a `TuplePtr` is a release cascade that
  frees a tuple set.  Guards as in `CowHeapX.stepX` (calls that are not C++ programs are no-ops).
* **`containsMI`** = `ContainsTransition` on the automaton named `h`: `transitions_->find(parent)`, `cluster.find(symbol)` –
  through the possibly SHARED map / cluster nodes, no `unique…` call, nothing cloned –, then `tupleLookup(children)` (a
  temporary `TuplePtr`: the asked tuple is INTERNED for the duration of the call, a node is created and destroyed if it is
  unknown; the allocator offer `ch` is part of the call), `tuplePtrSet.find` comparing POINTERS (`contains (cell p)`), death
  of the temporary.  When one of the two `find`s fails nothing is interned.
* **The eager-copy reading** `projI s h : Option StoreI.Sys` of automaton `h` in the copy-on-write world `s`: tuple sets of
  `h` as lists of identities (`toI`), `final`, `ext` := the identities every OTHER live automaton would hold after an eager
  copy (`heldBy`, one occurrence per automaton, map entry, cluster entry and set element) ++ the outside holders, and the
  cache with the same tuples at the same addresses and `use_count` := number of eager holders (`eagerCache`).  This is
  the world `Vata/StoreInterned.lean` talks about ("a copy of the automaton is an EAGER copy of its tuple sets owned by the
  environment").
* **Abstracted**: as in `Vata/Properties/C11_Interned.lean` (container order, control block folded into the map entry).

## What is proved

`C11_interned_models_agree` (+ `_counts`, `_liveness`, `_add`, `_contains`, `_other`), `C11_interned_refines_values2`,
`C11_interned_cache_inv2`, `C11_interned_no_leak2`, `C11_interned_total2`, `C11_interned_move_touches_no_tuple`,
`C11_interned_threaded_is_CowHeapX`, `C11_interned_conservative`, `C12_interned_contains_exact_multi` (+ `_iterate`).
-/
namespace Vata.Props
open Vata.CowI
open Vata.CowHeapX (specStepX specInitX ValX)

/-! ### 1. the two models agree -/

/-- **The copy-on-write world, seen from one automaton, IS a world of the eager-copy model.**  Let `s` be reachable by any
    history of calls on any number of named automata (copies, assignments, moves, storage-sharing results, queries,
    pointer traffic – every allocator, every interleaving) and let automaton `x` be alive with value `v`.  Then the
    eager-copy reading `t = projI s x`
    * satisfies the invariant `StoreI.Inv` of `Vata/StoreInterned.lean` (use count = number of holders, nothing dangles, one
      address per tuple and one tuple per address) – so every theorem of `Vata/Properties/C12_Interned.lean` that starts
      from `StoreI.Inv` applies to each automaton of the copy-on-write world;
    * has the value store `v` (the value-level views coincide);
    * has the same tuples at the same addresses in its cache as the real cache (an entry is alive in one iff in the other);
    * holds exactly the identities the real world holds (in live tuple-set nodes, every shared node ONCE, or outside). -/
theorem C11_interned_models_agree {ops : List Op2} {s : Sys} (h : run2 .lib ops = some s) {x : Nat} {v : ValX}
    (hv : absV s x = some v) :
    ∃ t, projI s x = some t ∧ StoreI.Inv t ∧ StoreI.abs t = v ∧
      (∀ w id, (∃ rc, (w, id, rc) ∈ t.cache) ↔ (∃ rc, (w, id, rc) ∈ s.cache)) ∧
      (∀ id, id ∈ StoreI.refs t ↔ id ∈ refsT s.hx.core ++ s.ext) := by
  have hi := (run2_lib h).1
  obtain ⟨t, ht, hit, hat⟩ := projI_sound hi hv
  refine ⟨t, ht, hit, hat, fun w id => ?_, fun id => ?_⟩
  · rw [projI_cache ht]
    exact eager_same_entries s w id
  · rw [← mem_eagerRefs hi.heap, ← List.count_pos_iff, ← List.count_pos_iff, count_refs_projI ht]

/-- **Sharing holds an identity ONCE where the eager copy holds it once per automaton.**  For every cache entry the real
    `use_count` (cells of live tuple-set nodes + outside holders) is at most the `use_count` of the eager reading, both
    are positive, and the eager one is the number of holders of the projection.  (Strictly smaller on
    `C11_ex_counts`: 1 against 5.) -/
theorem C11_interned_models_agree_counts {ops : List Op2} {s : Sys} (h : run2 .lib ops = some s) {x : Nat}
    {t : StoreI.Sys} (ht : projI s x = some t) {w : List Nat} {id rc : Nat} (hm : (w, id, rc) ∈ s.cache) :
    ∃ rc', (w, id, rc') ∈ t.cache ∧ rc' = (StoreI.refs t).count id ∧ 0 < rc ∧ rc ≤ rc' := by
  have hi := (run2_lib h).1
  have hc := use_count hi hm
  refine ⟨(eagerRefs s).count id, ?_, (count_refs_projI ht id).symm, hc.2, ?_⟩
  · rw [projI_cache ht]
    exact mem_eagerCache.2 ⟨rfl, rc, hm⟩
  · have := shared_count_le_eager hi.heap id
    unfold eagerRefs
    rw [List.count_append]
    omega

/-- **No identity dies while some automaton's value contains its tuple – in both models.**  Every children tuple that
    occurs in the value of a live automaton `x` is an entry of the real cache with a positive use count, held by a live
    tuple-set node, and an entry (same address) of the cache of the eager reading of ANY live automaton `y`, with a
    positive use count there. -/
theorem C11_interned_models_agree_liveness {ops : List Op2} {s : Sys} (h : run2 .lib ops = some s) {x : Nat} {v : ValX}
    (hv : absV s x = some v) {tup : List Nat} (htup : tup ∈ tuplesOf v) {y : Nat} {t : StoreI.Sys}
    (ht : projI s y = some t) :
    ∃ id rc rc', (tup, id, rc) ∈ s.cache ∧ 0 < rc ∧ id ∈ refsT s.hx.core ∧
      (tup, id, rc') ∈ t.cache ∧ 0 < rc' ∧ id ∈ StoreI.refs t := by
  have hi := (run2_lib h).1
  obtain ⟨id, rc, hm, hid⟩ := tuple_live hi hv htup
  have hm' : (tup, id, (eagerRefs s).count id) ∈ t.cache := by
    rw [projI_cache ht]
    exact mem_eagerCache.2 ⟨rfl, rc, hm⟩
  have hpos := ((projI_inv hi ht).cnt _ _ _ hm').2
  refine ⟨id, rc, _, hm, (use_count hi hm).2, hid, hm', hpos, ?_⟩
  rw [← List.count_pos_iff, count_refs_projI ht]
  exact hpos

/-- **`AddTransition` agrees.**  The call on automaton `x` of the copy-on-write world (which may clone a shared map node,
    cluster node and tuple set and copy every `TuplePtr` of the set) and the call of the one-automaton model on the
    eager reading, with the same allocator offer: the latter succeeds too, keeps `StoreI.Inv`, and its value store is the
    value store of the eager reading of the new world. -/
theorem C11_interned_models_agree_add {ops : List Op2} {s s' : Sys} (h : run2 .lib ops = some s) {x : Nat} {r : Rule}
    {ch : Nat} (hs : stepC2 .lib s (.base (.add x r ch)) = some s') {t : StoreI.Sys} (ht : projI s x = some t) :
    ∃ t' u, StoreI.addI .lib t r ch = some t' ∧ StoreI.Inv t' ∧ projI s' x = some u ∧ StoreI.abs t' = StoreI.abs u :=
  agree_add (run2_lib h).1 hs ht

/-- **`ContainsTransition` agrees.**  With an offer the allocator can make (not the address of a live tuple – the same
    condition in both models) the call on automaton `x` of the copy-on-write world and the call of the one-automaton model
    on the eager reading both succeed, give the SAME answer (that of `Store.contains` on the value), change no value
    and keep the invariants. -/
theorem C11_interned_models_agree_contains {ops : List Op2} {s : Sys} (h : run2 .lib ops = some s) {x : Nat} (r : Rule)
    {ch : Nat} {t : StoreI.Sys} (ht : projI s x = some t) (hch : ch ∉ StoreI.liveIds s.cache) :
    ∃ s' t' b, containsMI s x r ch = some (s', b) ∧ StoreI.containsI .lib t r ch = some (t', b) ∧
      Inv' s' ∧ absV s' = absV s ∧ StoreI.Inv t' ∧ StoreI.abs t' = StoreI.abs t ∧
      b = Store.contains (StoreI.abs t) r :=
  agree_contains r (run2_lib h).1 ht hch

/-- **Whatever the others do is environment activity.**  A call that does not target `x` (calls on other automata –
    including copies of `x`, assignments FROM `x`, results sharing the storage of `x` –, pointer traffic, queries) leaves
    the value store of the eager reading of `x` unchanged, as `copyOut` / `envLookup` / `envRelease` do in
    `Vata/StoreInterned.lean`. -/
theorem C11_interned_models_agree_other {ops : List Op2} {s s' : Sys} {op : Op2} (h : run2 .lib ops = some s)
    (hs : stepC2 .lib s op = some s') {x : Nat} (hx : ∀ o, valOp2 s op = some o → x ∉ CowHeapX.targets o)
    {t : StoreI.Sys} (ht : projI s x = some t) :
    ∃ u, projI s' x = some u ∧ StoreI.Inv u ∧ StoreI.abs u = StoreI.abs t := by
  have hi := (run2_lib h).1
  obtain ⟨hi', hv⟩ := stepC2_lib hi hs
  have hvx : absV s' x = absV s x := by
    rw [hv]
    cases ho : valOp2 s op with
    | none => rfl
    | some o => exact CowHeapX.specStepX_other _ o x (hx o ho)
  rw [projI_abs hi ht] at hvx
  exact projI_sound hi' hvx

/-! ### 2. move and the storage-sharing results threaded with the cache -/

/-- **Every automaton denotes the value the value-level specification gives it** – now for histories with moves,
    `shareAll` / `shareClusters` / `unionDisj` results and `ContainsTransition` calls (extends
    `C11_interned_refines_values`): `specStepX` moves the value with a move (the source dies), gives the result of a
    sharing operation the filtered / united value, and changes nothing else. -/
theorem C11_interned_refines_values2 {ops : List Op2} {s : Sys} (h : run2 .lib ops = some s) :
    absV s = (valOps2 CowI.init ops).foldl specStepX specInitX := by
  rw [← C11_absV_init]
  exact (run2_lib h).2

/-- one call in a reachable state -/
theorem C11_interned_refines_values2_step {ops : List Op2} {s s' : Sys} {op : Op2} (h : run2 .lib ops = some s)
    (hs : stepC2 .lib s op = some s') : absV s' = specV (absV s) (valOp2 s op) :=
  (stepC2_lib (run2_lib h).1 hs).2

/-- **The cache invariant under sharing** for the extended histories (extends `C11_interned_cache_inv`): use count =
    number of tuple-set CELLS holding the address (every shared node once) + outside holders, positive; no entry dies
    while a live set or a temporary holds it; the reference-count invariant of the three node levels. -/
theorem C11_interned_cache_inv2 {ops : List Op2} {s : Sys} (h : run2 .lib ops = some s) :
    (∀ v id rc, (v, id, rc) ∈ s.cache → rc = (refsT s.hx.core).count id + s.ext.count id ∧ 0 < rc) ∧
    (∀ id, id ∈ refsT s.hx.core ++ s.ext → ∃ v rc, (v, id, rc) ∈ s.cache ∧ StoreI.derefC s.cache id = v) ∧
    CowHeapX.InvX s.hx := by
  have hi := (run2_lib h).1
  exact ⟨fun v id rc hm => use_count hi hm, fun id hid => held_is_live hi hid, hi.heap⟩

/-- all entries die when all automata die (extends `C11_interned_no_leak`) -/
theorem C11_interned_no_leak2 {ops : List Op2} {s : Sys} (h : run2 .lib ops = some s) (hl : s.hx.core.hl = [])
    (he : s.ext = []) : s.cache = [] ∧ s.hx.core.ml = [] ∧ s.hx.core.cl = [] ∧ s.hx.core.tl = [] := by
  have hi := (run2_lib h).1
  exact ⟨no_leak hi hl he, CowHeapX.no_garbageX hi.heap hl⟩

/-- a call fails only on an impossible allocator choice (extends `C11_interned_total`; `query` offers an address too) -/
theorem C11_interned_total2 (md : Mode) (s : Sys) (op : Op2)
    (h : ∀ ch, opChoice2 op = some ch → ch ∉ StoreI.liveIds s.cache) : (stepC2 md s op).isSome = true := by
  cases op with
  | base op => exact stepC_isSome md s op fun ch hch => h ch (by rw [opChoice2_base]; exact hch)
  | query hd r ch =>
    rw [stepC2, Option.isSome_map]
    exact containsMI_isSome s hd r (h ch rfl)
  | move _ _ | moveAssign _ _ | shareAll _ _ _ | shareClusters _ _ _ | unionDisj _ _ _ => exact isSome_ite_some _ _ _

/-- **A move touches no tuple pointer and no node**: the cache, the tuple-set nodes and all use counts are literally
    unchanged (`std::move` of the root `shared_ptr`). -/
theorem C11_interned_move_touches_no_tuple {s s' : Sys} {src dst : Nat} (hs : stepC2 .lib s (.move src dst) = some s') :
    s'.cache = s.cache ∧ s'.ext = s.ext ∧ refsT s'.hx.core = refsT s.hx.core ∧ s'.hx.core.trc = s.hx.core.trc ∧
      s'.hx.core.crc = s.hx.core.crc ∧ s'.hx.core.mrc = s.hx.core.mrc := by
  simp only [stepC2] at hs
  split at hs
  · rw [← Option.some.inj hs]
    exact ⟨rfl, rfl, rfl, rfl, rfl, rfl⟩
  · rw [← Option.some.inj hs]
    exact ⟨rfl, rfl, rfl, rfl, rfl, rfl⟩

/-- the heap component of every threaded action IS the action of the copy-on-write heap of `Vata/CowHeapX.lean` -/
theorem C11_interned_threaded_is_CowHeapX (S : HC) (a b dst : Nat) (keep : Nat → Bool) :
    (moveI S a dst).1 = CowHeapX.moveCore S.1 a dst ∧
    (moveAssignI S a dst).1 = CowHeapX.moveAssignCore S.1 a dst ∧
    (shareAllI S a dst).1 = CowHeapX.shareAllCore S.1 a dst ∧
    (shareClustersI S a dst keep).1 = CowHeapX.shareClustersCore S.1 a dst keep ∧
    (unionDisjI S a b dst).1 = CowHeapX.unionDisjCore S.1 a b dst :=
  ⟨moveI_fst S a dst, moveAssignI_fst S a dst, shareAllI_fst S a dst, shareClustersI_fst S a dst keep,
    unionDisjI_fst S a b dst⟩

/-- the extended histories are conservative over those of `Vata/CowInterned.lean` -/
theorem C11_interned_conservative (md : Mode) (s : Sys) (ops : List Op) :
    runFrom2 md s (ops.map Op2.base) = runFrom md s ops := by
  induction ops generalizing s with
  | nil => rfl
  | cons op ops ih =>
    simp only [List.map_cons, runFrom2, runFrom, stepC2]
    cases stepC md s op with
    | none => rfl
    | some s' => exact ih s'

/-! ### 3. `ContainsTransition` for named automata -/

/-- **`ContainsTransition`, for any automaton of a copy-on-write world.**  In every reachable state the call on automaton
    `x` – which walks the shared nodes, interns the asked tuple, compares POINTERS and drops the temporary – answers what
    `Store.contains` answers on the VALUE the value-level specification gives to `x` after the history (`false` on a dead
    name); it changes the value of no automaton, keeps the invariant, and is the `query` step of the histories (so any
    history can go on after it). -/
theorem C12_interned_contains_exact_multi {ops : List Op2} {s s' : Sys} (h : run2 .lib ops = some s) {x : Nat}
    {r : Rule} {ch : Nat} {b : Bool} (hc : containsMI s x r ch = some (s', b)) :
    b = (match (valOps2 CowI.init ops).foldl specStepX specInitX x with
         | some v => Store.contains v r
         | none => false) ∧
    absV s' = absV s ∧ Inv' s' ∧ stepC2 .lib s (.query x r ch) = some s' := by
  obtain ⟨a1, a2, a3⟩ := containsMI_lib (run2_lib h).1 hc
  refine ⟨?_, a2, a1, ?_⟩
  · rw [← C11_interned_refines_values2 h]
    exact a3
  · simp only [stepC2, hc, Option.map_some]

/-- … and for a value with unique state / symbol keys (`Store.invB`, which every `Store.run` value satisfies) the answer
    is `true` exactly for the rules the iteration of the value yields.  (That ALL values of `specStepX` satisfy
    `Store.invB` is not proved – see below; without unique keys `find` sees the first entry only:
    `C12_contains_needs_keys`.) -/
theorem C12_interned_contains_exact_multi_iterate {ops : List Op2} {s s' : Sys} (h : run2 .lib ops = some s) {x : Nat}
    {v : ValX} (hv : absV s x = some v) (hinv : Store.invB v = true) {r : Rule} {ch : Nat} {b : Bool}
    (hc : containsMI s x r ch = some (s', b)) : b = true ↔ r ∈ Store.iterate v := by
  obtain ⟨_, _, a3⟩ := containsMI_lib (run2_lib h).1 hc
  rw [hv] at a3
  simp only at a3
  rw [a3]
  exact Store.contains_iff_mem_iterate ((Store.invB_iff v).1 hinv) r

theorem C12_contains_needs_keys :
    Store.contains ⟨[(1, [(7, [[]])]), (1, [(8, [[]])])], []⟩ ⟨8, [], 1⟩ = false ∧
    (⟨8, [], 1⟩ : Rule) ∈ Store.iterate ⟨[(1, [(7, [[]])]), (1, [(8, [[]])])], []⟩ := by decide +kernel

/-! ### non-vacuity -/

/-- automaton 1 gets a rule; 2 is a copy, moved to 3, which gets a second rule (cloning map, cluster); 4 shares the whole
    map of 1; 5 shares the clusters of 3 for state 5; 6 is the disjoint union of 1 and 3; a query on 6 for a known rule (no
    node created: the offer 102 is unused); `SetStateFinal`; then 1 is move-assigned to 3 -/
def C11_ex_ops : List Op2 :=
  [.base (.new 1), .base (.add 1 ⟨7, [3, 4], 5⟩ 100), .base (.copy 1 2), .move 2 3, .base (.add 3 ⟨8, [4], 6⟩ 101),
   .shareAll 1 4 (fun _ => true), .shareClusters 3 5 (fun q => q == 5), .unionDisj 1 3 6,
   .query 6 ⟨8, [4], 6⟩ 102, .base (.setFinal 1 5), .moveAssign 1 3]

/-- before the move assignment five automata are alive over TWO tuple-set nodes: the real use counts are 1 and 1, an eager
    copy would hold `[3, 4]` five times and `[4]` twice -/
theorem C11_ex_counts :
    (run2 .lib (C11_ex_ops.take 10)).map (fun s => (s.hx.core.hl, s.hx.core.tl, refsT s.hx.core)) =
      some ([6, 5, 4, 3, 1], [5, 2], [101, 100]) ∧
    (run2 .lib (C11_ex_ops.take 10)).map (fun s => (s.cache, invB s)) =
      some ([([3, 4], 100, 1), ([4], 101, 1)], true) ∧
    (run2 .lib (C11_ex_ops.take 10)).map (fun s => (eagerRefs s, eagerCache s)) =
      some ([100, 101, 100, 100, 100, 101, 100], [([3, 4], 100, 5), ([4], 101, 2)]) := by
  decide +kernel

/-- the eager reading of automaton 6 there, and it passes the executable invariant test of `Vata/StoreInterned.lean` -/
example : (run2 .lib (C11_ex_ops.take 10)).map (fun s => (projI s 6).map (fun t => (t, StoreI.invB t))) =
    some (some ({ cache := [([3, 4], 100, 5), ([4], 101, 2)], clusters := [(5, [(7, [100])]), (6, [(8, [101])])],
                  final := [], ext := [100, 100, 100, 101, 100] }, true)) := by decide +kernel

/-- the values at the end: 1 and 2 are dead (moved from), 3 took over the value of 1 with its final state, 6 keeps both rules
    although 3 – from which it got the cluster of state 6 – was overwritten -/
example : (run2 .lib C11_ex_ops).map (fun s => [1, 2, 3, 4, 5, 6].map (absV s)) =
    some [none, none, some ⟨[(5, [(7, [[3, 4]])])], [5]⟩, some ⟨[(5, [(7, [[3, 4]])])], []⟩,
          some ⟨[(5, [(7, [[3, 4]])])], []⟩, some ⟨[(5, [(7, [[3, 4]])]), (6, [(8, [[4]])])], []⟩] ∧
    (run2 .lib C11_ex_ops).map (fun s => (s.cache, invB s)) = some ([([3, 4], 100, 1), ([4], 101, 1)], true) := by
  decide +kernel

/-- a move assignment can kill tuples: the old value of the target was the last holder of `[4]` -/
example : (run2 .lib [.base (.new 1), .base (.add 1 ⟨7, [3, 4], 5⟩ 100), .base (.new 2), .base (.add 2 ⟨8, [4], 6⟩ 101),
      .moveAssign 1 2]).map (fun s => (s.hx.core.hl, s.cache, s.hx.core.tl, invB s)) =
    some ([2], [([3, 4], 100, 1)], [2], true) := by decide +kernel

/-- `ContainsTransition` on the union automaton 6 (its nodes are shared with 1, 3, 4, 5): a known rule; an unknown tuple
    (a cache node is created at 102 and destroyed: the cache is unchanged); and the offer 100 – the address of a live
    tuple – is refused -/
example :
    (run2 .lib (C11_ex_ops.take 8)).bind (fun s => (containsMI s 6 ⟨8, [4], 6⟩ 102).map (·.2)) = some true ∧
    (run2 .lib (C11_ex_ops.take 8)).bind (fun s => (containsMI s 6 ⟨8, [9], 6⟩ 102).map (fun x => (x.2, x.1.cache))) =
      some (false, [([3, 4], 100, 1), ([4], 101, 1)]) ∧
    (run2 .lib (C11_ex_ops.take 8)).bind (fun s => (containsMI s 6 ⟨8, [9], 6⟩ 100).map (·.2)) = none ∧
    (run2 .lib (C11_ex_ops.take 8)).bind (fun s => (containsMI s 2 ⟨7, [3, 4], 5⟩ 102).map (·.2)) = some false := by
  decide +kernel

/-- the hypotheses of the theorems are satisfiable: the history runs, automaton 6 is alive, its value passes `Store.invB`,
    and the value-level reading of the history has 10 calls (the query is invisible) -/
example : (run2 .lib C11_ex_ops).isSome = true ∧
    (run2 .lib C11_ex_ops).map (fun s => (absV s 6).map Store.invB) = some (some true) ∧
    (valOps2 CowI.init C11_ex_ops).length = 10 := by
  decide +kernel

/-!
## still not proved

* The agreement of the two models is stated per STATE (`projI` of every reachable copy-on-write state is a consistent state
  of the eager-copy model with the same value, the same live tuples at the same addresses, the same set of held
  identities) and per CALL up to the value store (`_add`, `_contains`, `_other`); that `projI` commutes with the calls
  LITERALLY (`addI .lib (projI s x) r ch = projI s' x`, including the order of the cache list) is not proved, and a history
  of the copy-on-write world is not translated into one `StoreI.OpI` history (`copyOut` / `envRelease` sequences).
* `C11_interned_models_agree_counts` gives `≤` between the real and the eager use count; the exact eager count (number of
  paths automaton → map entry → cluster entry → cell) is its definition, not related to `use_count`s of NODES.
* That every value of `CowHeapX.specStepX` satisfies `Store.invB` (unique state / symbol keys; `unionStore` and the filters
  keep it) is not proved; `C12_interned_contains_exact_multi_iterate` takes it as a (decidable, on the example `true`)
  hypothesis.  The main form `C12_interned_contains_exact_multi` needs no such hypothesis.
* For `shareAll` / `shareClusters` / `unionDisj` the threaded actions are proved to keep the invariants and refine the
  values; that they leave the cache LITERALLY unchanged (the only release they perform hits a fresh empty map node or only
  decrements) is evaluated on the example, proved only for `move`.
* `SetStatesFinal`, `EraseFinalStates`, the selective copy constructor and `ReindexStates` of `CowHeapX` are not in `Op2`
  (they touch no tuple pointer; `ReindexStates` is a sequence of `add` / `setFinal`).  The constructor with a NON-global tuple
  cache, the pointer ORDER of `std::set<TuplePtr>`: as in `Vata/Properties/C11_Interned.lean`.
-/

end Vata.Props
