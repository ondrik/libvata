import Vata.NfaInclSim
import Vata.Proofs.NfaIncl
/-!
# The antichain principle modulo a simulation on word automata; the verdicts of `nfaInclACSim`

The certificate of a `true` (start states covered modulo `R`, the hypothesis `hstart` of `nfa_up_cert_sim_incl`; `NfaUpCertSim`:
every successor of a pair either skipped because a state of the successor macro-state simulates it, or covered modulo `R`; no
bad pair) implies `L(A) ⊆ L(B)` when
`R` is a transitive simulation on `A ⊎ B` and the operands are state-disjoint, because a simulation transports accepting
paths.  Under these hypotheses every verdict of the model is exact.
-/
namespace Vata
open Vata.W
open NfaIncl

theorem relGet_iff {R : Rel} {p q : Nat} : relGet R p q = true ↔ (p, q) ∈ R := by
  simp [relGet]

theorem isNfaSimB_iff {U : NFA} {R : Rel} : isNfaSimB U R = true ↔ NfaSim U R := by
  simp only [isNfaSimB, List.all_eq_true, Bool.and_eq_true, Bool.or_eq_true, Bool.not_eq_true', List.any_eq_true,
    beq_iff_eq, bne_iff_ne, ne_eq, relGet_iff, List.contains_iff_mem]
  constructor
  · intro h p q hpq
    obtain ⟨h1, h2⟩ := h (p, q) hpq
    constructor
    · intro hf
      rcases h1 with h1 | h1
      · have : U.final.contains p = true := List.contains_iff_mem.mpr hf
        simp only at h1
        rw [h1] at this; cases this
      · exact h1
    · intro a p' he
      rcases h2 (p, a, p') he with hne | ⟨e', he', ⟨h3, h4⟩, h5⟩
      · exact (hne rfl).elim
      · obtain ⟨x, b, q'⟩ := e'
        simp only at h3 h4 h5
        subst h3; subst h4
        exact ⟨q', he', h5⟩
  · intro h pq hpq
    obtain ⟨h1, h2⟩ := h pq.1 pq.2 hpq
    constructor
    · cases hc : U.final.contains pq.1 with
      | false => exact Or.inl rfl
      | true => exact Or.inr (h1 (List.contains_iff_mem.mp hc))
    · intro e he
      by_cases hne : e.1 = pq.1
      · right
        obtain ⟨q', he', hr⟩ := h2 e.2.1 e.2.2 (by rw [← hne]; exact he)
        exact ⟨(pq.2, e.2.1, q'), he', ⟨rfl, rfl⟩, hr⟩
      · exact Or.inl hne

theorem isNfaSimPreB_iff {U : NFA} {R : Rel} : isNfaSimPreB U R = true ↔ NfaSimPre U R := by
  unfold isNfaSimPreB NfaSimPre
  rw [Bool.and_eq_true, Bool.and_eq_true, isNfaSimB_iff]
  simp only [List.all_eq_true, relGet_iff, Bool.or_eq_true, bne_iff_ne, ne_eq]
  constructor
  · rintro ⟨⟨h1, h2⟩, h3⟩
    refine ⟨h1, h2, ?_⟩
    intro p q r hpq hqr
    rcases h3 (p, q) hpq (q, r) hqr with h | h
    · exact (h rfl).elim
    · exact h
  · rintro ⟨h1, h2, h3⟩
    refine ⟨⟨h1, h2⟩, ?_⟩
    intro pq hpq qr hqr
    by_cases he : pq.2 = qr.1
    · right
      have hqr' : (pq.2, qr.2) ∈ R := by rw [he]; exact hqr
      exact h3 pq.1 pq.2 qr.2 hpq hqr'
    · exact Or.inl he

namespace NfaIncl

theorem sim_path {U : NFA} {R : Rel} (hR : NfaSim U R) {p f : Nat} {w : List Nat} (hp : Path U p w f)
    (hf : f ∈ U.final) : ∀ q, (p, q) ∈ R → ∃ f', Path U q w f' ∧ f' ∈ U.final := by
  induction hp with
  | nil f => intro q hpq; exact ⟨q, .nil q, (hR f q hpq).1 hf⟩
  | @cons p a r w f he _ ih =>
    intro q hpq
    obtain ⟨q', he', hr⟩ := (hR p q hpq).2 a r he
    obtain ⟨f', hp', hf'⟩ := ih hf q' hr
    exact ⟨f', .cons he' hp', hf'⟩

/-- `lss ≤ rss` modulo `R`: every state of `lss` is simulated by a state of `rss` -/
def Lte (R : Rel) (lss rss : List Nat) : Prop := ∀ x, x ∈ lss → ∃ y, y ∈ rss ∧ (x, y) ∈ R

theorem lteSim_iff {R : Rel} {l r : List Nat} : lteSim R l r = true ↔ Lte R l r := by
  simp only [lteSim, List.all_eq_true, List.any_eq_true, relGet_iff, Lte]

theorem Lte.step {U : NFA} {R : Rel} (hR : NfaSim U R) {S T : List Nat} (h : Lte R S T) (a : Nat) :
    Lte R (stepW U S a) (stepW U T a) := by
  intro x hx
  obtain ⟨p, hp, he⟩ := mem_stepW.mp hx
  obtain ⟨y, hy, hpy⟩ := h p hp
  obtain ⟨y', he', hr⟩ := (hR p y hpy).2 a x he
  exact ⟨y', mem_stepW.mpr ⟨y, hy, he'⟩, hr⟩

theorem Lte.trans {R : Rel} (ht : ∀ p q r, (p, q) ∈ R → (q, r) ∈ R → (p, r) ∈ R) {S T V : List Nat}
    (h1 : Lte R S T) (h2 : Lte R T V) : Lte R S V := by
  intro x hx
  obtain ⟨y, hy, hxy⟩ := h1 x hx
  obtain ⟨z, hz, hyz⟩ := h2 y hy
  exact ⟨z, hz, ht x y z hxy hyz⟩

end NfaIncl

/-- the certificate of a `true` of the antichain functor with a simulation, in `U = A ⊎ B`: closure and no bad pair; the clause
for the start pairs, which `NfaUpCert` has, needs `A` and `B` apart and is `hstart` of `nfa_up_cert_sim_incl` -/
def NfaUpCertSim (U : NFA) (R : Rel) (X : List (Nat × List Nat)) : Prop :=
  (∀ P, P ∈ X → ∀ a c', (P.1, a, c') ∈ U.trans →
    (∃ s, s ∈ stepW U P.2 a ∧ (c', s) ∈ R) ∨ ∃ P', P' ∈ X ∧ (c', P'.1) ∈ R ∧ Lte R P'.2 (stepW U P.2 a)) ∧
  (∀ P, P ∈ X → P.1 ∈ U.final → W.accepting U P.2 = true)

namespace NfaIncl

/-- a state below a pair of the certificate is included in every macro-state above the pair -/
theorem upCertSim_path {U : NFA} {R : Rel} {X : List (Nat × List Nat)} (hR : NfaSim U R)
    (ht : ∀ p q r, (p, q) ∈ R → (q, r) ∈ R → (p, r) ∈ R) (hX : NfaUpCertSim U R X)
    {p f : Nat} {w : List Nat} (hp : Path U p w f) (hf : f ∈ U.final) :
    ∀ P, P ∈ X → (p, P.1) ∈ R → ∀ S, Lte R P.2 S → W.accepting U (w.foldl (stepW U) S) = true := by
  induction hp with
  | nil f =>
    intro P hP hpP S hS
    obtain ⟨x, hx, hxf⟩ := accepting_iff.mp (hX.2 P hP ((hR f P.1 hpP).1 hf))
    obtain ⟨y, hy, hxy⟩ := hS x hx
    exact accepting_iff.mpr ⟨y, hy, (hR x y hxy).1 hxf⟩
  | @cons p a r w f he hp' ih =>
    intro P hP hpP S hS
    obtain ⟨c', hec, hrc⟩ := (hR p P.1 hpP).2 a r he
    simp only [List.foldl_cons]
    rcases hX.1 P hP a c' hec with ⟨s, hs, hcs⟩ | ⟨P', hP', hcP', hl⟩
    · -- skipped by `checkSmallerInBigger`: a state of the successor macro-state simulates `r`
      obtain ⟨s', hs', hss'⟩ := (hS.step hR a) s hs
      have hrs' : (r, s') ∈ R := ht r s s' (ht r c' s hrc hcs) hss'
      obtain ⟨f', hpf, hff⟩ := sim_path hR hp' hf s' hrs'
      exact accepting_iff.mpr ⟨f', (mem_foldl_stepW U w _ f').mpr ⟨s', hs', hpf⟩, hff⟩
    · exact ih hf P' hP' (ht r c' P'.1 hrc hcP') _ (hl.trans ht (hS.step hR a))

end NfaIncl

/-- the antichain principle modulo a simulation: a certificate whose start states are covered implies inclusion -/
theorem nfa_up_cert_sim_incl {A B : NFA} {R : Rel} {X : List (Nat × List Nat)}
    (hdis : ∀ q, q ∈ nfaStates A → q ∈ nfaStates B → False)
    (hR : NfaSim (nfaUnionDisjoint A B) R) (ht : ∀ p q r, (p, q) ∈ R → (q, r) ∈ R → (p, r) ∈ R)
    (hstart : ∀ s, s ∈ A.start → ∃ P, P ∈ X ∧ (s, P.1) ∈ R ∧ Lte R P.2 B.start)
    (hX : NfaUpCertSim (nfaUnionDisjoint A B) R X) : InclW A B := by
  intro w hA
  obtain ⟨s, hs, f, hf, hp⟩ := (acceptsW_iff A w).mp hA
  obtain ⟨P, hP, hsP, hl⟩ := hstart s hs
  exact accepts_of_union_right hdis (upCertSim_path hR ht hX (hp.mono fun e he => List.mem_append_left _ he)
    (List.mem_append_left _ hf) P hP hsP B.start hl)

theorem nfaUpCertSimB_sound {A B : NFA} {R : Rel} {X : List (Nat × List Nat)} (h : nfaUpCertSimB A B R X = true) :
    (∀ s, s ∈ A.start → ∃ P, P ∈ X ∧ (s, P.1) ∈ R ∧ Lte R P.2 B.start) ∧
    NfaUpCertSim (nfaUnionDisjoint A B) R X := by
  simp only [nfaUpCertSimB, Bool.and_eq_true, List.all_eq_true, List.any_eq_true, Bool.or_eq_true, bne_iff_ne, ne_eq,
    Bool.not_eq_true', relGet_iff, lteSim_iff, smallerInBigger] at h
  obtain ⟨⟨h1, h2⟩, h3⟩ := h
  refine ⟨?_, ?_, ?_⟩
  · intro s hs
    obtain ⟨P, hP, h⟩ := h1 s hs
    exact ⟨P, hP, h⟩
  · intro P hP a c' he
    rcases h2 P hP (P.1, a, c') he with (hne | ⟨s, hs, hr⟩) | ⟨P', hP', hr, hl⟩
    · exact (hne rfl).elim
    · exact Or.inl ⟨s, hs, hr⟩
    · exact Or.inr ⟨P', hP', hr, hl⟩
  · intro P hP hf
    rcases h3 P hP with hnf | hacc
    · have : (nfaUnionDisjoint A B).final.contains P.1 = true := List.contains_iff_mem.mpr hf
      rw [hnf] at this; cases this
    · exact hacc

/-- a verdict of the model of `ANTICHAINS_SIM` comes with an antichain that passed `nfaUpCertSimB` or with a word that
passed the counterexample check -/
theorem nfaInclACSim_inv {A B : NFA} {R : Rel} {fuel : Nat} {b : Bool} (h : nfaInclACSim A B R fuel = some b) :
    (b = true ∧ ∃ X, nfaUpCertSimB A B R X = true) ∨
    (b = false ∧ ∃ w, acceptsW A w = true ∧ acceptsW B w = false) := by
  unfold nfaInclACSim at h
  split at h
  · cases h
  · split at h
    · next hc => cases h; exact Or.inl ⟨rfl, _, hc⟩
    · cases h
  · next w _ =>
    split at h
    · next hc =>
      cases h
      rw [Bool.and_eq_true, Bool.not_eq_true'] at hc
      exact Or.inr ⟨rfl, w, hc⟩
    · cases h

/-- every verdict of the model of `ANTICHAINS_SIM` is exact when the operands are state-disjoint and `R` is a transitive
simulation on `A ⊎ B` -/
theorem nfaInclACSim_iff {A B : NFA} {R : Rel} (hdis : ∀ q, q ∈ nfaStates A → q ∈ nfaStates B → False)
    (hR : NfaSim (nfaUnionDisjoint A B) R) (ht : ∀ p q r, (p, q) ∈ R → (q, r) ∈ R → (p, r) ∈ R)
    {fuel : Nat} {b : Bool} (h : nfaInclACSim A B R fuel = some b) : b = true ↔ InclW A B := by
  rcases nfaInclACSim_inv h with ⟨rfl, _, hc⟩ | ⟨rfl, _, hA, hB⟩
  · obtain ⟨h1, h2⟩ := nfaUpCertSimB_sound hc
    exact iff_of_true rfl (nfa_up_cert_sim_incl hdis hR ht h1 h2)
  · exact iff_of_false Bool.false_ne_true (not_inclW_of_witness hA hB)

end Vata
