import Vata.Proofs.UnionCounter
/-!
# C02 / C10 / C08 – where may the fresh-state counter of `Union` start?

> C02: … `Union` with caller-supplied translation maps yields exactly the union of the two languages; the maps it reports are
> injective on the operands' states with disjoint images.  (C10: the same code for word automata, C08: for both BDD encodings.)

## How the C++ is read into the model (`Vata/UnionCounter.lean`, `Vata/UnionModel.lean`)

`src/explicit_tree_union.cc` (and, textually the same, `src/explicit_finite_aut_core.cc`, `src/bdd_td_tree_aut_union.cc`,
`src/bdd_bu_tree_aut_union.cc`):
```
StateType stateCnt = 0;
for (const auto& statePair : *pTranslMapLhs) stateCnt = std::max(stateCnt, statePair.second + 1);
for (const auto& statePair : *pTranslMapRhs) stateCnt = std::max(stateCnt, statePair.second + 1);
auto translFunc = [&stateCnt](const StateType&){return stateCnt++;};
StateToStateTranslWeak stateTransLhs(*pTranslMapLhs, translFunc);
StateToStateTranslWeak stateTransRhs(*pTranslMapRhs, translFunc);
```
`unionModelFrom c0 A B mL mR` is `unionModel` (the two weak translators `weakTrAll` over the maps as association lists, ONE
counter threaded through both passes, `ReindexStates` of both operands = `unionWith`) with the value `c0` that `stateCnt` has
when the first state is translated as a PARAMETER.  `unionModelFrom (unionCnt mL mR) = unionModel` (repaired code) and
`unionModelFrom 0 = unionModelOld` (code before D11 / D19 / D20), both by `rfl`.  `cntZero`, `cntKeysRight`, `cntNoSucc` are
the wrong start values that occurred (original defect, two seeded changes).

Abstracted: hash iteration order (`unionModelFromOrd` takes the visiting orders as parameters; the sufficiency theorems hold
for all orders covering the operands' states; the necessity witnesses use the list order `visitOrder` – for `chainTA` only
the position of ONE state in the order matters, see below); `StateType` is unbounded `Nat`; the explicit-tree model is the
one used for all four copies (the word / BDD copies differ in `ReindexStates`, not in the counter code).

## Result: "above every pre-filled VALUE of both maps" is exactly the condition

* `C02_union_counter_sufficient` – any `c0` with `Below mL c0 ∧ Below mR c0` is right (maps and language).
* `C02_union_counter_necessary`  – for ANY maps and any `c0` with a pre-filled value `v ≥ c0` (no other hypothesis on the maps)
  there are operands – `pointTA p` (no rule, final state `p`, the key of `v`) and `chainTA K (v - c0)` (`v - c0 + 1` states
  unknown to the other map, no final state) – with EMPTY languages whose "union" accepts the leaf `b`.
* `C02_union_counter_exact`      – the equivalence.
* `C02_union_counter_zero_wrong`, `C02_union_counter_keys_wrong`, `C02_union_counter_nosucc_wrong` – the three wrong variants,
  each with a `decide`d witness in which the pre-filled maps satisfy the precondition (injective, disjoint images).
-/
namespace Vata.Props

/-- The repaired code is the instance `c0 = unionCnt mL mR` of the parametrised model, the code before the repair the
instance `c0 = 0`. -/
theorem C02_union_counter_instances (A B : TA) (mL mR : SMap) :
    unionModelFrom (unionCnt mL mR) A B mL mR = unionModel A B mL mR ∧
    unionModelFrom 0 A B mL mR = unionModelOld A B mL mR := ⟨rfl, rfl⟩

/-- SUFFICIENT.  For injective pre-filled maps with disjoint images, ANY start `c0` of the counter above all their values
gives injective final maps with disjoint images (as association lists, and hence on the operands' states) that extend the
pre-filled ones, and the result accepts exactly `L(A) ∪ L(B)`. -/
theorem C02_union_counter_sufficient (c0 : Nat) (A B : TA) (mL mR : SMap)
    (hbL : Um.Below mL c0) (hbR : Um.Below mR c0) (hL : Um.Inj mL) (hR : Um.Inj mR) (hD : Um.Disj mL mR) :
    Um.Inj (unionModelFrom c0 A B mL mR).2.1 ∧ Um.Inj (unionModelFrom c0 A B mL mR).2.2 ∧
    Um.Disj (unionModelFrom c0 A B mL mR).2.1 (unionModelFrom c0 A B mL mR).2.2 ∧
    InjOnStates (applyMap (unionModelFrom c0 A B mL mR).2.1) A ∧
    InjOnStates (applyMap (unionModelFrom c0 A B mL mR).2.2) B ∧
    (∀ q q', q ∈ A.states → q' ∈ B.states →
      applyMap (unionModelFrom c0 A B mL mR).2.1 q ≠ applyMap (unionModelFrom c0 A B mL mR).2.2 q') ∧
    ∀ t, accepts (unionModelFrom c0 A B mL mR).1 t = (accepts A t || accepts B t) := by
  have hoA : ∀ q, q ∈ A.states → q ∈ visitOrder A := fun _ h => Um.mem_visitOrder.mpr h
  have hoB : ∀ q, q ∈ B.states → q ∈ visitOrder B := fun _ h => Um.mem_visitOrder.mpr h
  obtain ⟨h1, h2, h3⟩ := unionModelFromOrd_maps_inj c0 (visitOrder A) (visitOrder B) A B mL mR hbL hbR hL hR hD
  obtain ⟨h4, h5, h6⟩ := unionModelFromOrd_maps_ok c0 _ _ A B mL mR hoA hoB hbL hbR hL hR hD
  exact ⟨h1, h2, h3, h4, h5, h6, fun t => unionModelFromOrd_lang c0 _ _ A B mL mR hoA hoB hbL hbR hL hR hD t⟩

/-- The same for every visiting order of the hash containers that covers the operands' states. -/
theorem C02_union_counter_sufficient_ord (c0 : Nat) (oA oB : List Nat) (A B : TA) (mL mR : SMap)
    (hoA : ∀ q, q ∈ A.states → q ∈ oA) (hoB : ∀ q, q ∈ B.states → q ∈ oB)
    (hbL : Um.Below mL c0) (hbR : Um.Below mR c0) (hL : Um.Inj mL) (hR : Um.Inj mR) (hD : Um.Disj mL mR) (t : Tree) :
    accepts (unionModelFromOrd c0 oA oB A B mL mR).1 t = (accepts A t || accepts B t) :=
  unionModelFromOrd_lang c0 oA oB A B mL mR hoA hoB hbL hbR hL hR hD t

/-- NECESSARY.  Whatever the pre-filled maps are: if the start `c0` is NOT above all their values there are operands `A`, `B`
(built from the offending binding `p ↦ v`, `c0` and the key bound of the other map) and a tree that the result accepts
although it is in neither language. -/
theorem C02_union_counter_necessary (c0 : Nat) (mL mR : SMap) (h : ¬ (Um.Below mL c0 ∧ Um.Below mR c0)) :
    ∃ A B t, accepts (unionModelFrom c0 A B mL mR).1 t = true ∧ accepts A t = false ∧ accepts B t = false := by
  by_cases hl : Um.Below mL c0
  · have hr : ¬ Um.Below mR c0 := fun hr => h ⟨hl, hr⟩
    obtain ⟨p, v, hp, hv⟩ := not_below hr
    exact ⟨chainTA (keyBound mL) (v - c0), pointTA p, leafB, unionModelFrom_bad_right c0 mL mR hp hv,
      Uc.accepts_chain _ _ _, Uc.accepts_point _ _⟩
  · obtain ⟨p, v, hp, hv⟩ := not_below hl
    exact ⟨pointTA p, chainTA (keyBound mR) (v - c0), leafB, unionModelFrom_bad_left c0 mL mR hp hv,
      Uc.accepts_point _ _, Uc.accepts_chain _ _ _⟩

/-- The explicit witnesses of `C02_union_counter_necessary`: a value `v ≥ c0` under the key `p` of the left (right) map. -/
theorem C02_union_counter_necessary_witness (c0 : Nat) (mL mR : SMap) (p v : Nat) (hv : c0 ≤ v) :
    (mL.lookup p = some v →
      accepts (unionModelFrom c0 (pointTA p) (chainTA (keyBound mR) (v - c0)) mL mR).1 leafB = true) ∧
    (mR.lookup p = some v →
      accepts (unionModelFrom c0 (chainTA (keyBound mL) (v - c0)) (pointTA p) mL mR).1 leafB = true) ∧
    (∀ K d t, accepts (pointTA p) t = false ∧ accepts (chainTA K d) t = false) :=
  ⟨fun hp => unionModelFrom_bad_left c0 mL mR hp hv, fun hp => unionModelFrom_bad_right c0 mL mR hp hv,
    fun K d t => ⟨Uc.accepts_point p t, Uc.accepts_chain K d t⟩⟩

/-- EXACT.  For pre-filled maps satisfying the precondition, the result of `Union` is right for all operands iff the counter
starts above every pre-filled value. -/
theorem C02_union_counter_exact (c0 : Nat) (mL mR : SMap) (hL : Um.Inj mL) (hR : Um.Inj mR) (hD : Um.Disj mL mR) :
    (∀ A B t, accepts (unionModelFrom c0 A B mL mR).1 t = (accepts A t || accepts B t)) ↔
      (Um.Below mL c0 ∧ Um.Below mR c0) := by
  constructor
  · intro hall
    apply Classical.byContradiction
    intro hn
    obtain ⟨A, B, t, h1, h2, h3⟩ := C02_union_counter_necessary c0 mL mR hn
    rw [hall A B t, h2, h3] at h1
    cases h1
  · rintro ⟨hbL, hbR⟩ A B t
    exact (C02_union_counter_sufficient c0 A B mL mR hbL hbR hL hR hD).2.2.2.2.2.2 t

/-! ## the three wrong variants, each with a decided witness (the pre-filled maps satisfy the precondition) -/

/-- `StateType stateCnt = 0;` without the loops (D11 / D19 / D20): left map `5 ↦ 0`. -/
theorem C02_union_counter_zero_wrong :
    smapInjB [(5, 0)] = true ∧ smapInjB [] = true ∧ smapDisjB [(5, 0)] [] = true ∧
    cntZero [(5, 0)] [] = 0 ∧
    accepts (unionModelFrom (cntZero [(5, 0)] []) (pointTA 5) (chainTA 0 0) [(5, 0)] []).1 leafB = true ∧
    accepts (pointTA 5) leafB = false ∧ accepts (chainTA 0 0) leafB = false ∧
    accepts (unionModel (pointTA 5) (chainTA 0 0) [(5, 0)] []).1 leafB = false := by decide +kernel

/-- the maximum over the KEYS of the right map instead of its values: right map `0 ↦ 3`, the counter starts at `1`; the
left operand has `3` fresh states, the last one gets the number `3`. -/
theorem C02_union_counter_keys_wrong :
    smapInjB [] = true ∧ smapInjB [(0, 3)] = true ∧ smapDisjB [] [(0, 3)] = true ∧
    cntKeysRight [] [(0, 3)] = 1 ∧ unionCnt [] [(0, 3)] = 4 ∧
    accepts (unionModelFrom (cntKeysRight [] [(0, 3)]) (chainTA 0 2) (pointTA 0) [] [(0, 3)]).1 leafB = true ∧
    accepts (chainTA 0 2) leafB = false ∧ accepts (pointTA 0) leafB = false ∧
    accepts (unionModel (chainTA 0 2) (pointTA 0) [] [(0, 3)]).1 leafB = false := by decide +kernel

/-- `statePair.second` instead of `statePair.second + 1`: left map `5 ↦ 3`, the counter starts AT `3`. -/
theorem C02_union_counter_nosucc_wrong :
    smapInjB [(5, 3)] = true ∧ smapInjB [] = true ∧ smapDisjB [(5, 3)] [] = true ∧
    cntNoSucc [(5, 3)] [] = 3 ∧ unionCnt [(5, 3)] [] = 4 ∧
    accepts (unionModelFrom (cntNoSucc [(5, 3)] []) (pointTA 5) (chainTA 0 0) [(5, 3)] []).1 leafB = true ∧
    accepts (pointTA 5) leafB = false ∧ accepts (chainTA 0 0) leafB = false ∧
    accepts (unionModel (pointTA 5) (chainTA 0 0) [(5, 3)] []).1 leafB = false := by decide +kernel

/-- The wrong variants are NOT wrong on empty maps (why the defect survived the usual calls): all four starts coincide. -/
theorem C02_union_counter_variants_empty :
    cntZero [] [] = unionCnt [] [] ∧ cntKeysRight [] [] = unionCnt [] [] ∧ cntNoSucc [] [] = unionCnt [] [] := by decide

/-! ## non-vacuity -/

-- hypotheses of `C02_union_counter_sufficient` with a start strictly larger than `unionCnt` and non-empty maps
example : Um.Below [(5, 0), (6, 1)] 7 ∧ Um.Below [(7, 3)] 7 ∧ Um.Inj [(5, 0), (6, 1)] ∧ Um.Inj [(7, 3)] ∧
    Um.Disj [(5, 0), (6, 1)] [(7, 3)] ∧ unionCnt [(5, 0), (6, 1)] [(7, 3)] = 4 :=
  ⟨(Um.below_unionCnt_left _ [(7, 3)]).mono (by decide +kernel), (Um.below_unionCnt_right [(5, 0), (6, 1)] _).mono (by decide +kernel),
    smapInjB_sound (by decide +kernel), smapInjB_sound (by decide +kernel), smapDisjB_sound (by decide +kernel), by decide +kernel⟩
-- … and what the model returns for it
example : (unionModelFrom 7 UnionEx.exA UnionEx.exB9 [(5, 0), (6, 1)] [(7, 3)]).2 = ([(5, 0), (6, 1)], [(7, 3), (9, 7)]) ∧
    accepts (unionModelFrom 7 UnionEx.exA UnionEx.exB9 [(5, 0), (6, 1)] [(7, 3)]).1 UnionEx.tHA = true ∧
    accepts (unionModelFrom 7 UnionEx.exA UnionEx.exB9 [(5, 0), (6, 1)] [(7, 3)]).1 UnionEx.tA = false := by decide +kernel
-- hypothesis of `C02_union_counter_necessary`: the value 3 of the right map is not below 1
example : ¬ (Um.Below [] 1 ∧ Um.Below [(0, 3)] 1) := fun h => absurd (h.2 0 3 (by decide)) (by decide)
-- the general witness instantiated: value `7` under key `2` of the left map, start `4`, right map with keys up to `9`
example : accepts (unionModelFrom 4 (pointTA 2) (chainTA (keyBound [(9, 1)]) (7 - 4)) [(2, 7)] [(9, 1)]).1 leafB = true ∧
    (unionModelFrom 4 (pointTA 2) (chainTA (keyBound [(9, 1)]) (7 - 4)) [(2, 7)] [(9, 1)]).2.2 =
      [(9, 1), (10, 4), (11, 5), (12, 6), (13, 7)] := by decide +kernel

/-!
## still not proved

* The theorems are about the explicit-tree instance of the counter code.  That the word-automaton copy and the two BDD copies
  are instances of the same parametrised model is NOT proved here (their own models: `Vata/Properties/C10_Coded.lean`,
  `C08_UnionCoded.lean` with `tdUnionFrom` / `buUnionFrom`); only the counter code is textually identical.
* `C02_union_counter_necessary` constructs its operands for the list order `visitOrder`; for an arbitrary hash order of the
  chain operand the colliding state is a different one (the `v - c0 + 1`-th newly visited), which is not stated.
* Wrap-around of a bounded `StateType` is not modelled.
-/
end Vata.Props
