import Vata.Proofs.Store
import Vata.Properties.C12_Iterators
/-!
# C12 – Rule container, iterators and lookups reflect exactly the rules added

> After any sequence of AddTransition, SetStateFinal, SetStatesFinal, EraseFinalStates and Clear on an explicit tree
> automaton, iterating the automaton yields each distinct rule added since the last Clear exactly once and nothing else,
> and ContainsTransition answers true exactly for those rules. GetAcceptTrans yields exactly the rules whose parent is
> final, indexing by a state yields exactly the rules with that parent, GetUsedStates is exactly the set of states
> occurring in rules or the final set, and AreTransitionsEmpty is true exactly when no rule is present.

(quantifier: for all finite sequences of the mutating calls (with repeated rules, nullary rules, one symbol used with
several arities, final states without rules) interleaved with the read-only views)

## How the statement is read into the model

* **Histories.**  `Store.Op` (`Vata/Store.lean`) has one constructor per mutating call of the statement – `add r`
  (`AddTransition`), `setFinal q` (`SetStateFinal`), `setFinals qs` (`SetStatesFinal`), `eraseFinal`
  (`EraseFinalStates`), `clear` (`Clear`) – and a history is any `ops : List Op`.  A rule is a `Rule` of
  `Vata/Basic.lean` (symbol number, list of children of any length, parent), so repeated rules, nullary rules and one
  symbol number with several arities are all histories.
* **Specification (L0).**  `Store.specRun ops : Store.Abs` is a pair of plain lists read as sets: `specStep` conses the
  rule of an `add` onto `rules`, conses / appends the states of `setFinal` / `setFinals` onto `final`, empties `final` on
  `eraseFinal` and empties both on `clear` (the C++ `Clear` calls `EraseFinalStates`).  Hence
  `r ∈ (specRun ops).rules` says literally "`r` was added since the last `Clear`", and `q ∈ (specRun ops).final` says
  "`q` was made final since the last `EraseFinalStates` or `Clear`".  Nothing is ever removed or de-duplicated in the
  specification; "each distinct rule exactly once" is the `Nodup` half of the theorems about the model.
* **Model of the code.**  `Store.run ops : Store.Store` executes the history on the three-level container
  state ↦ (symbol ↦ set of child tuples) plus the final-state set, with the `insert`-or-find discipline of
  `internalAddTransition` (`upsert`, `insTuple`, `insN`); the views `iterate` (range-for / `Iterator`), `contains`
  (`ContainsTransition`), `acceptTrans` (`GetAcceptTrans` / `AcceptTransIterator`: walk the final states, look up the
  cluster of each, skip those without one), `down` / `downEmpty` (`operator[]`, `DownAccessor`), `usedStates`
  (`GetUsedStates`), `transEmpty` (`AreTransitionsEmpty`), `isFinal` and `.final` (`IsStateFinal`, `GetFinalStates`) are
  written after the C++ loops and return lists in storage order.
* The views are pure functions of the store, so "interleaved with the read-only views" adds nothing in the model: a
  theorem about the view after every history is a theorem about every interleaving.
* **The iterator objects.**  In this file a traversal is "the list of what a complete traversal yields".  The C++ iterator
  OBJECTS (`Iterator`, `AcceptTransIterator`, `DownAccessorIterator`: `begin()` / `end()`, `operator++`, `operator*`,
  comparison) are state machines over the store in `Vata/StoreIter.lean`; `Vata/Properties/C12_Iterators.lean` proves them
  against the list views for every history, and `C12_statement` at the end of this file is the whole property with the
  loops over the iterator objects in the place of the views.
-/
namespace Vata.Props
open Vata.Store

/-! ### iteration and `ContainsTransition` -/

/-- iterating the automaton yields no rule twice, and yields exactly the rules added since the last `Clear` -/
theorem C12_iteration_exact (ops : List Op) :
    (iterate (run ops)).Nodup ∧ ∀ r, r ∈ iterate (run ops) ↔ r ∈ (specRun ops).rules :=
  iterate_exact ops

/-- `r1` and `r3` are added twice, `r1`/`r2` use symbol 7 with arities 0 and 2, state 5 is final without rules -/
example : iterate (run StoreEx.ops1) = [StoreEx.r1, StoreEx.r2, StoreEx.r3, StoreEx.r4] ∧
    (specRun StoreEx.ops1).rules =
      [StoreEx.r3, StoreEx.r4, StoreEx.r1, StoreEx.r3, StoreEx.r2, StoreEx.r1] := by decide +kernel
/-- rules added before a `Clear` are gone, in the specification and in the model -/
example : (specRun (StoreEx.ops1 ++ [.clear, .add StoreEx.r4])).rules = [StoreEx.r4] ∧
    iterate (run (StoreEx.ops1 ++ [.clear, .add StoreEx.r4])) = [StoreEx.r4] := by decide +kernel

/-- `ContainsTransition` answers true exactly for the rules added since the last `Clear` -/
theorem C12_contains_exact (ops : List Op) (r : Rule) :
    contains (run ops) r = true ↔ r ∈ (specRun ops).rules :=
  contains_exact ops r

example : contains (run StoreEx.ops1) StoreEx.r2 = true ∧ contains (run StoreEx.ops1) ⟨7, [1], 1⟩ = false ∧
    contains (run (StoreEx.ops1 ++ [.clear])) StoreEx.r2 = false := by decide +kernel

/-! ### `GetAcceptTrans`, indexing by a state -/

/-- `GetAcceptTrans` yields no rule twice, and yields exactly the present rules whose parent is final -/
theorem C12_acceptTrans_exact (ops : List Op) :
    (acceptTrans (run ops)).Nodup ∧
      ∀ r, r ∈ acceptTrans (run ops) ↔ r ∈ (specRun ops).rules ∧ r.parent ∈ (specRun ops).final :=
  acceptTrans_exact ops

example : acceptTrans (run StoreEx.ops1) = [StoreEx.r3, StoreEx.r4] ∧
    acceptTrans (run (StoreEx.ops1 ++ [.eraseFinal])) = [] := by decide +kernel

/-- indexing by a state `q` (`operator[]` / `GetDown`) yields no rule twice and exactly the present rules with parent `q`;
its `empty()` is true exactly when there is no such rule -/
theorem C12_index_by_state_exact (ops : List Op) (q : Nat) :
    ((down (run ops) q).Nodup ∧ ∀ r, r ∈ down (run ops) q ↔ r ∈ (specRun ops).rules ∧ r.parent = q) ∧
    (downEmpty (run ops) q = true ↔ ∀ r, r ∈ (specRun ops).rules → r.parent ≠ q) :=
  ⟨down_exact ops q, downEmpty_exact ops q⟩

example : down (run StoreEx.ops1) 1 = [StoreEx.r1, StoreEx.r2] ∧ down (run StoreEx.ops1) 5 = [] ∧
    downEmpty (run StoreEx.ops1) 5 = true ∧ downEmpty (run StoreEx.ops1) 1 = false := by decide +kernel

/-! ### `GetUsedStates`, `AreTransitionsEmpty`, the final states -/

/-- `GetUsedStates` has no duplicates and is exactly the set of states that are final or occur, as parent or as child, in
a present rule -/
theorem C12_usedStates_exact (ops : List Op) :
    (usedStates (run ops)).Nodup ∧
      ∀ q, q ∈ usedStates (run ops) ↔
        q ∈ (specRun ops).final ∨ ∃ r, r ∈ (specRun ops).rules ∧ (q = r.parent ∨ q ∈ r.kids) :=
  usedStates_exact ops

example : usedStates (run StoreEx.ops1) = [1, 2, 3, 5] ∧
    usedStates (run (StoreEx.ops1 ++ [.clear, .setFinal 9])) = [9] := by decide +kernel

/-- `AreTransitionsEmpty` is true exactly when no rule is present -/
theorem C12_transitionsEmpty_exact (ops : List Op) :
    transEmpty (run ops) = true ↔ (specRun ops).rules = [] :=
  transEmpty_exact ops

example : transEmpty (run StoreEx.ops1) = false ∧ transEmpty (run (StoreEx.ops1 ++ [.clear])) = true ∧
    transEmpty (run [.setFinal 1, .setFinals [2, 3]]) = true := by decide +kernel

/-- `GetFinalStates` has no duplicates and is exactly the set of states made final since the last `EraseFinalStates` /
`Clear`; `IsStateFinal` answers accordingly -/
theorem C12_final_exact (ops : List Op) :
    ((run ops).final.Nodup ∧ ∀ q, q ∈ (run ops).final ↔ q ∈ (specRun ops).final) ∧
    (∀ q, isFinal (run ops) q = true ↔ q ∈ (specRun ops).final) :=
  ⟨final_exact ops, isFinal_exact ops⟩

example : (run StoreEx.ops1).final = [2, 3, 5] ∧ (specRun StoreEx.ops1).final = [3, 2, 5, 2] ∧
    (run (StoreEx.ops1 ++ [.eraseFinal])).final = [] ∧
    iterate (run (StoreEx.ops1 ++ [.eraseFinal])) = iterate (run StoreEx.ops1) := by decide +kernel

/-! ### the representation invariant and the refinement behind all of the above -/

/-- after every history the container is well formed: state keys unique, symbol keys unique in every cluster, no empty
cluster, no empty tuple set, no duplicate tuple, no duplicate final state – and the Boolean checker `invB` (usable on
stores rebuilt from dumps of the real object) decides exactly that -/
theorem C12_invariant (ops : List Op) : Inv (run ops) ∧ invB (run ops) = true :=
  ⟨store_inv ops, (invB_iff _).mpr (store_inv ops)⟩

/-- the invariant is not trivial: a store with a duplicate tuple violates it and its iterator yields a rule twice -/
example : invB ⟨[(1, [(7, [[2], [2]])])], []⟩ = false ∧
    iterate ⟨[(1, [(7, [[2], [2]])])], []⟩ = [⟨7, [2], 1⟩, ⟨7, [2], 1⟩] := by decide +kernel

/-- after every history the container represents the pair of sets of the specification -/
theorem C12_refines (ops : List Op) : Refines (run ops) (specRun ops) := refines_run ops

example : run StoreEx.ops1 =
    ⟨[(1, [(7, [[], [1, 1]])]), (2, [(8, [[1, 2]])]), (3, [(7, [[2]])])], [2, 3, 5]⟩ := by decide +kernel

/-! ### the property in one statement, with the iterator objects -/

/-- **C12, every clause, for every history of the five mutating calls**: the loop `for (it = begin(); it != end(); ++it)` over
the automaton terminates without undefined behaviour and yields each distinct rule added since the last `Clear` exactly once
and nothing else; `ContainsTransition` answers `true` exactly for those rules; the loop over `GetAcceptTrans()` yields exactly
the rules whose parent is final; the loop over `aut[q]` exactly the rules with parent `q`; `GetUsedStates` is exactly the set
of states occurring in rules or in the final set; `AreTransitionsEmpty` is `true` exactly when no rule is present -/
theorem C12_statement (ops : List Op) :
    (∃ out, iterAll (run ops) = .done out ∧ out.Nodup ∧ ∀ r, r ∈ out ↔ r ∈ (specRun ops).rules) ∧
    (∀ r, contains (run ops) r = true ↔ r ∈ (specRun ops).rules) ∧
    (∃ out, acceptAll (run ops) = .done out ∧ out.Nodup ∧
      ∀ r, r ∈ out ↔ r ∈ (specRun ops).rules ∧ r.parent ∈ (specRun ops).final) ∧
    (∀ q, ∃ out, downAll (run ops) q = .done out ∧ out.Nodup ∧ ∀ r, r ∈ out ↔ r ∈ (specRun ops).rules ∧ r.parent = q) ∧
    ((usedStates (run ops)).Nodup ∧ ∀ q, q ∈ usedStates (run ops) ↔
      q ∈ (specRun ops).final ∨ ∃ r, r ∈ (specRun ops).rules ∧ (q = r.parent ∨ q ∈ r.kids)) ∧
    (transEmpty (run ops) = true ↔ (specRun ops).rules = []) :=
  ⟨C12_iterator_protocol_yields_exact ops, C12_contains_exact ops, C12_iterator_protocol_acceptTrans_yields_exact ops,
    C12_iterator_protocol_down_yields_exact ops, C12_usedStates_exact ops, C12_transitionsEmpty_exact ops⟩

example : iterAll (run StoreEx.ops1) = .done [StoreEx.r1, StoreEx.r2, StoreEx.r3, StoreEx.r4] ∧
    acceptAll (run StoreEx.ops1) = .done [StoreEx.r3, StoreEx.r4] ∧ downAll (run StoreEx.ops1) 1 = .done [StoreEx.r1, StoreEx.r2] := by
  decide +kernel

/-!
## closed since the last refresh of this file

* **The iterator protocol** (`begin()` / `end()`, `operator++`, `operator*`, the end state of the three iterators,
  `DownAccessor::empty()`, partial traversals, iterator comparison): `C12_iterator_protocol`,
  `C12_iterator_protocol_yields_exact`, `C12_iterator_protocol_comparison`, `C12_iterator_protocol_acceptTrans`,
  `C12_iterator_protocol_down` (+ the two `…_yields_exact`) in `Vata/Properties/C12_Iterators.lean`; that the unchecked
  `begin()`s inside `operator++` / `init()` are never taken of an empty container, with the converse:
  `C20_iterators_never_dereference_empty_partial`, `C20_iterators_stuck_without_invariant_partial`.  The whole property with
  the iterator objects: `C12_statement`.
* **"Hash-consing. … that the tuple cache makes pointer equality coincide with tuple equality … is assumed, not modelled"** –
  the tuple cache is a `Util::Cache<StateTuple>`; the class is modelled as coded and checked against the real class
  (`Vata/CacheModel.lean`): in every reachable state, for any allocator, two non-null handles are pointer-equal iff the
  objects they point to have equal values (`Util_Cache_interning`, `Util_Cache_store_bijective`).  What is still missing is
  the last step: the store model of this file keeps tuples as values and is not stated over cache handles.
* Sharing with final states, moves and library results (the "Sharing" item): C11, `C11_statement`.

## not yet proved

Every clause of the statement is a theorem about the model `run` for every history over all five mutating calls (none
is missing from `Store.Op`).  What the theorems do not say:

* **Order and iterator invalidation.**  The real containers are `unordered_map`s, the model keeps insertion order; the
  theorems speak about the *set* of yielded rules and "no rule twice", and about the iterator objects following the
  storage order of the container they walk, not about that order being the real one.  An iterator is a triple of indices
  into ONE store value: what happens to a live iterator when a mutating call (or copy-on-write un-sharing) changes the
  container is not modelled; incrementing or dereferencing `end()` is `stuck` / `none` (caller errors, nothing is proved
  about callers never doing so); the comparison of a live `std::set` iterator with a value-initialised one in `operator==`
  is modelled as "the state is `.fin`".
* **Between tuple cache and store.**  See above: interning is a theorem about the cache class, value comparison is the
  store model; no theorem composes the two.
* **The public wrapper** `ExplicitTreeAut` (alphabet / symbol translation on top of the core) is not modelled; symbols
  are numbers.
* That `run`, the views and the iterator state machines are faithful transcriptions of the C++ is established by the
  correspondence check of the driver only, not by a theorem.
-/
end Vata.Props
