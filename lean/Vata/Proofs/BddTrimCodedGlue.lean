import Vata.Proofs.BddTrimCodedBuild
/-!
C08: `RemoveUselessStates` (top-down) as coded is, on the abstraction, `removeUseless`: the analysis computes `usefulTD`
(`usefulCoded_correct`), then the restriction and the final `RemoveUnreachableStates` are those of the abstract model.
-/
namespace Vata
namespace BddTrimCoded
open M BddAbs BddAbsTD

theorem usefulCoded_eq_some {T : TableTD} {F : List Nat} {fuel : Nat} {U : List Nat} :
    usefulCoded T F fuel = some U ↔
      ∃ B P, buildLoop T fuel (initBuild F) = some B ∧ propLoop B.orN fuel (initMark B) = some P ∧ P.useful = U := by
  unfold usefulCoded
  constructor
  · intro h
    split at h
    · cases h
    · next B hB =>
      split at h
      · cases h
      · next P hP => exact ⟨B, P, hB, hP, Option.some.inj h⟩
  · rintro ⟨B, P, hB, hP, rfl⟩
    simp only [hB, hP]

theorem removeUselessTDCoded_eq_some {T : TableTD} {F : List Nat} {fuel fuel' : Nat} {R : TableTD × List Nat} :
    removeUselessTDCoded T F fuel fuel' = some R ↔
      ∃ U R', usefulCoded T F fuel = some U ∧
        tdUnreachWL (restrictCoded T F U).1 (restrictCoded T F U).2 fuel' = some R' ∧ (R', (restrictCoded T F U).2) = R := by
  unfold removeUselessTDCoded
  constructor
  · intro h
    split at h
    · cases h
    · next U hU =>
      dsimp only at h
      split at h
      · cases h
      · next R' hR' => exact ⟨U, R', hU, hR', Option.some.inj h⟩
  · rintro ⟨U, R', hU, hR', rfl⟩
    simp only [hU, hR']

/-- **the coded analysis computes `usefulTD`**: every answer of the two loops (graph construction, propagation) is, as a
set, the set of the productive states of the part of the skeleton reachable from the final states -/
theorem usefulCoded_correct {T : TableTD} {F : List Nat} (hF : F.Nodup) {fuel : Nat} {U : List Nat}
    (h : usefulCoded T F fuel = some U) (q : Nat) : q ∈ U ↔ q ∈ usefulTD T F := by
  obtain ⟨B, P, hB, hP, rfl⟩ := usefulCoded_eq_some.mp h
  exact propLoop_correct (buildLoop_spec hF hB) hP q

theorem takeWhile_all (p : Nat → Bool) (l : List Nat) (h : ∀ x, x ∈ l → p x = true) : l.takeWhile p = l := by
  simpa using List.takeWhile_append_of_pos (l₂ := []) h

theorem takeWhile_length_iff (p : Nat → Bool) (l : List Nat) :
    (l.takeWhile p).length = l.length ↔ ∀ x, x ∈ l → p x = true := by
  refine ⟨fun h => ?_, fun h => by rw [takeWhile_all p l h]⟩
  have e := (List.takeWhile_prefix p).eq_of_length h
  exact List.all_eq_true.mp (e ▸ List.all_takeWhile)

theorem mem_restrictFold (U : List Nat) (ks : List Nat) (l acc : List (List Nat)) :
    ks ∈ l.foldl (fun res tuple =>
      let resultTuple := tuple.takeWhile (fun q => U.contains q)
      if resultTuple.length == tuple.length then insT resultTuple res else res) acc ↔
    ks ∈ acc ∨ (ks ∈ l ∧ ∀ k, k ∈ ks → k ∈ U) := by
  induction l generalizing acc with
  | nil => simp
  | cons t l ih =>
    rw [List.foldl_cons, ih, List.mem_cons]
    dsimp only
    by_cases hall : ∀ x, x ∈ t → U.contains x = true
    · have hU : ∀ k, k ∈ t → k ∈ U := fun k hk => List.contains_iff_mem.mp (hall k hk)
      rw [takeWhile_all _ t hall, if_pos (beq_self_eq_true _), mem_insT]
      constructor
      · rintro ((rfl | h) | ⟨h1, h2⟩)
        · exact Or.inr ⟨Or.inl rfl, hU⟩
        · exact Or.inl h
        · exact Or.inr ⟨Or.inr h1, h2⟩
      · rintro (h | ⟨rfl | h1, h2⟩)
        · exact Or.inl (Or.inr h)
        · exact Or.inl (Or.inl rfl)
        · exact Or.inr ⟨h1, h2⟩
    · rw [if_neg (fun e => hall ((takeWhile_length_iff _ t).mp (eq_of_beq e)))]
      constructor
      · rintro (h | ⟨h1, h2⟩)
        · exact Or.inl h
        · exact Or.inr ⟨Or.inr h1, h2⟩
      · rintro (h | ⟨rfl | h1, h2⟩)
        · exact Or.inl h
        · exact absurd (fun x hx => List.contains_iff_mem.mpr (h2 x hx)) hall
        · exact Or.inr ⟨h1, h2⟩

theorem mem_restrictLeafCoded {U : List Nat} {l : List (List Nat)} {ks : List Nat} :
    ks ∈ restrictLeafCoded U l ↔ ks ∈ l ∧ ∀ k, k ∈ ks → k ∈ U := by
  unfold restrictLeafCoded
  rw [mem_restrictFold]
  simp

/-- `SetMtbdd(state, restrFunc(bdd))` for the useful states that have an MTBDD -/
theorem getTD_restrictCoded (T : TableTD) (F U : List Nat) (p : Nat) :
    getTD (restrictCoded T F U).1 p =
      if p ∈ keysTD T ∧ p ∈ U then apply1 (restrictLeafCoded U) (getTD T p) else .leaf [] := by
  unfold restrictCoded
  simp only [getTD_mapKeys _ (fun p => apply1 (restrictLeafCoded U) (getTD T p)), List.mem_filter, List.contains_iff_mem]

theorem hasRuleTD_restrictCoded (T : TableTD) (F U : List Nat) (ρ : Nat → Bool) (p : Nat) (ks : List Nat) :
    HasRuleTD (restrictCoded T F U).1 ρ p ks ↔ HasRuleTD T ρ p ks ∧ p ∈ U ∧ ∀ k, k ∈ ks → k ∈ U := by
  unfold HasRuleTD
  rw [getTD_restrictCoded]
  split
  · next h =>
    rw [apply1_eval, mem_restrictLeafCoded]
    exact ⟨fun h' => ⟨h'.1, h.2, h'.2⟩, fun h' => ⟨h'.1, h'.2.2⟩⟩
  · next h => exact ⟨fun h' => (nomatch h'), fun h' => absurd ⟨hasRuleTD_key h'.1, h'.2.1⟩ h⟩

theorem tableTDWF_restrictCoded {T : TableTD} (hT : TableTDWF T) (F U : List Nat) : TableTDWF (restrictCoded T F U).1 :=
  fun p => wf_getTD_mapKeys _ (fun p => apply1_wf _ (hT p)) p

theorem absTD_restrictCoded (syms : List Nat) (T : TableTD) (F U : List Nat) :
    SetEqTA (absTD syms (restrictCoded T F U).1 (restrictCoded T F U).2) (restrict (absTD syms T F) U) := by
  refine ⟨fun r => ?_, fun q => Iff.rfl⟩
  rw [mem_rules_restrict, absTD_rules, absTD_rules]
  exact mem_absRulesTD_and (hasRuleTD_restrictCoded T F U) r

/-- **`RemoveUselessStates` (top-down) as coded, on the abstraction, is `removeUseless`** – every answer -/
theorem removeUselessTDCoded_abs {syms : List Nat} {T : TableTD} {F : List Nat} (hF : F.Nodup) (hT : TableTDWF T)
    (hc : SymsCompleteTD syms T) {fuel fuel' : Nat} {R : TableTD × List Nat}
    (h : removeUselessTDCoded T F fuel fuel' = some R) :
    SetEqTA (absTD syms R.1 R.2) (removeUseless (absTD syms T F)) ∧
      R.2 = (removeUselessTD T F).2 := by
  obtain ⟨U, R', hU, hR', rfl⟩ := removeUselessTDCoded_eq_some.mp h
  have hUs := usefulCoded_correct hF hU
  refine ⟨?_, ?_⟩
  · refine (tdUnreachWL_abs hR').trans ?_
    refine (absTD_removeUnreachable _ (tableTDWF_restrictCoded hT F U)
      (symsCompleteTD_sub _ (hasRuleTD_restrictCoded T F U) hc)).trans ?_
    refine (setEqTA_removeUnreachable (absTD_restrictCoded syms T F U)).trans ?_
    exact removeUseless_alt _ _ (fun q => (hUs q).trans (mem_usefulTD F hT hc q))
  · exact filter_congr_mem hUs

end BddTrimCoded
end Vata
