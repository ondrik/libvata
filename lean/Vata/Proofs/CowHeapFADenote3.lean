import Vata.Proofs.CowHeapFADenote2
/-!
# What the values of the finite-automaton heap model denote – part 3: histories

`denStep`: the specification `specStep` of `Vata/CowHeapFA.lean` with every value-level function replaced by the operation
`nfas…` of `Vata/NfaStart.lean`.  `spec_denote_step`: the automata denoted by the values after a step of `specStep` are – up
to list order, handle by handle – what `denStep` makes of the automata denoted before.  `Valid`: the reference-count invariant and the
representation invariant `WFV` of every live value, kept by every operation (`valid_exec`: they hold in every history).
-/
namespace Vata.CowHeapFA

open Vata Vata.W Vata.NfaS
open Vata.CowHeap (upd upd_same upd_other ite_upd_other forall_some_upd map_upd)

/-- every live handle holds a value with the representation invariant -/
def EnvWF (a : Nat → Option FAVal) : Prop := ∀ h v, a h = some v → WFV v

theorem envWF_upd_some {a : Nat → Option FAVal} (ha : EnvWF a) (h : Nat) {v : FAVal} (hv : WFV v) :
    EnvWF (upd a h (some v)) :=
  forall_some_upd ha h fun _ e => Option.some.inj e ▸ hv

theorem envWF_upd_none {a : Nat → Option FAVal} (ha : EnvWF a) (h : Nat) : EnvWF (upd a h none) :=
  forall_some_upd ha h nofun

theorem envWF_ite {a : Nat → Option FAVal} (ha : EnvWF a) {c : Prop} [Decidable c] (h : Nat) {v : FAVal} (hv : WFV v) :
    EnvWF (if c then upd a h (some v) else a) := by
  split
  · exact envWF_upd_some ha h hv
  · exact ha

/-- `EnvWF` carries over from what an operation writes to the whole step (the shapes of `specStep`) -/
theorem envWF_bind {a : Nat → Option FAVal} (ha : EnvWF a) (x : Nat) {k : FAVal → Nat → Option FAVal}
    (hk : ∀ s, WFV s → EnvWF (k s)) : EnvWF (match a x with | some s => k s | none => a) := by
  cases hs : a x with
  | none => exact ha
  | some s => exact hk s (ha x s hs)

theorem envWF_bind2 {a : Nat → Option FAVal} (ha : EnvWF a) (x y : Nat) {k : FAVal → FAVal → Nat → Option FAVal}
    (hk : ∀ s t, WFV s → WFV t → EnvWF (k s t)) : EnvWF (match a x, a y with | some s, some t => k s t | _, _ => a) := by
  cases hs : a x with
  | none => exact ha
  | some s =>
    cases ht : a y with
    | none => exact ha
    | some t => exact hk s t (ha x s hs) (ha y t ht)

theorem wfv_of_trans_eq {v w : FAVal} (h : WFV v) (e : w.trans = v.trans) : WFV w :=
  ⟨e ▸ h.keys, e ▸ h.tup⟩

theorem envWF_specStep {a : Nat → Option FAVal} (ha : EnvWF a) (op : Op) : EnvWF (specStep a op) := by
  have h1 : ∀ (h : Nat) {v : FAVal}, WFV v → EnvWF (upd a h (some v)) := envWF_upd_some ha
  have hR : ∀ (c : Prop) [Decidable c] (h : Nat) {v : FAVal}, WFV v → EnvWF (if c then upd a h (some v) else a) :=
    fun _ _ => envWF_ite ha
  cases op with
  | new h =>
    show EnvWF (if (a h).isSome then a else upd a h (some vNew))
    split
    · exact ha
    · exact h1 h wfv_vNew
  | copy src dst | moveCtor src dst | assign src dst | moveAssign src dst =>
    exact envWF_bind ha src (fun s hs => hR _ dst hs)
  | setFinal h q | setStart h q s | setExistingStart h q S =>
    exact envWF_bind ha h (fun s hs => h1 h (wfv_of_trans_eq hs rfl))
  | add h l s r => exact envWF_bind ha h (fun v hv => h1 h (wfv_vAdd l s r hv))
  | destroy h => exact envWF_upd_none ha h
  | reindex src dst idx => exact envWF_bind2 ha src dst (fun s d hs hd => hR _ dst (wfv_vReindex idx hs hd))
  | unionDisj x y dst => exact envWF_bind2 ha x y (fun s t hs ht => hR _ dst (wfv_vUnionDisj hs ht))
  | unreach src dst => exact envWF_bind ha src (fun s hs => hR _ dst (wfv_pick s hs.tup _ _))
  | reverse src dst => exact envWF_bind ha src (fun s _ => hR _ dst (wfv_vReverse s))
  | candRaw src dst => exact envWF_bind ha src (fun s hs => hR _ dst (wfv_pick s hs.tup _ _))
  | useless src dst => exact envWF_bind ha src (fun s _ => hR _ dst (wfv_vReverse _))
  | candidate src dst => exact envWF_bind ha src (fun s _ => hR _ dst (wfv_vReverse _))

/-- what every history keeps: the reference-count invariant, and every live value is the contents of a map with non-empty
    right-hand sides.  The theorems about histories below start from ANY such heap. -/
structure Valid (H : HeapFA) : Prop where
  inv : InvFA H
  wf : EnvWF (absFA H)

theorem Valid.init : Valid initFA := ⟨invFA_init, fun h v hv => by rw [absFA_init] at hv; cases hv⟩

theorem Valid.next {H : HeapFA} (g : Valid H) (op : Op) : Valid (step H op) :=
  ⟨(fa_refines_values g.inv op).2, (fa_refines_values g.inv op).1 ▸ envWF_specStep g.wf op⟩

theorem Valid.foldl {H : HeapFA} (g : Valid H) (ops : List Op) : Valid (ops.foldl step H) :=
  List.foldlRecOn ops step g (fun _ hb op _ => hb.next op)

theorem valid_exec (ops : List Op) : Valid (exec ops) := Valid.init.foldl ops

def den (a : Nat → Option FAVal) : Nat → Option NFAS := fun h => (a h).map FAVal.toNFAS

def d1 (a : Nat → Option NFAS) (h : Nat) (F : NFAS → NFAS) : Nat → Option NFAS :=
  match a h with
  | some s => upd a h (some (F s))
  | none => a

def dRes (a : Nat → Option NFAS) (src dst : Nat) (F : NFAS → NFAS) : Nat → Option NFAS :=
  match a src with
  | some s => if (a dst).isNone then upd a dst (some (F s)) else a
  | none => a

/-- `specStep` with the operations of `Vata/NfaStart.lean` in place of the value-level functions: what every operation of
    the class does to the AUTOMATA the objects denote -/
def denStep (a : Nat → Option NFAS) : Op → (Nat → Option NFAS)
  | .new h => if (a h).isSome then a else upd a h (some nfasEmpty)
  | .copy src dst | .moveCtor src dst => dRes a src dst id
  | .assign src dst | .moveAssign src dst =>
    match a src with
    | some s => if (a dst).isSome ∧ src ≠ dst then upd a dst (some s) else a
    | none => a
  | .setFinal h q => d1 a h (fun A => nfasSetFinal A q)
  | .setStart h q s => d1 a h (fun A => nfasSetStart A q s)
  | .setExistingStart h q S => d1 a h (fun A => nfasSetExistingStart A q S)
  | .add h l s r => d1 a h (fun A => nfasAddTrans A l s r)
  | .destroy h => upd a h none
  | .reindex src dst idx =>
    match a src, a dst with
    | some s, some d => if src ≠ dst then upd a dst (some (nfasUnionDisjoint d (nfasMap idx s))) else a
    | _, _ => a
  | .unionDisj x y dst =>
    match a x, a y with
    | some s, some t => if (a dst).isNone then upd a dst (some (nfasUnionDisjoint s t)) else a
    | _, _ => a
  | .unreach src dst => dRes a src dst nfasRemoveUnreachable
  | .reverse src dst => dRes a src dst nfasReverse
  | .candRaw src dst => dRes a src dst nfasCandidateRaw
  | .useless src dst => dRes a src dst nfasRemoveUseless
  | .candidate src dst => dRes a src dst nfasCandidate

/-- the same automaton (up to list order) or both dead -/
def ORel : Option NFAS → Option NFAS → Prop
  | some A, some B => NEquiv A B
  | none, none => True
  | _, _ => False

def EnvEq (a b : Nat → Option NFAS) : Prop := ∀ h, ORel (a h) (b h)

theorem ORel.refl (x : Option NFAS) : ORel x x := by
  cases x with
  | none => trivial
  | some A => exact NEquiv.refl A

theorem EnvEq.refl (a : Nat → Option NFAS) : EnvEq a a := fun h => ORel.refl (a h)

theorem den_upd (a : Nat → Option FAVal) (h : Nat) (x : Option FAVal) :
    den (upd a h x) = upd (den a) h (x.map FAVal.toNFAS) :=
  map_upd (Option.map FAVal.toNFAS) a h x

theorem envEq_upd2 {a b : Nat → Option NFAS} (hab : EnvEq a b) (h : Nat) {x y : Option NFAS} (hxy : ORel x y) :
    EnvEq (upd a h x) (upd b h y) := by
  intro k
  by_cases e : k = h
  · rw [e, upd_same, upd_same]; exact hxy
  · rw [upd_other _ _ e, upd_other _ _ e]; exact hab k

theorem den_some {a : Nat → Option FAVal} {h : Nat} {s : FAVal} (e : a h = some s) : den a h = some s.toNFAS := by
  unfold den; rw [e]; rfl
theorem den_none {a : Nat → Option FAVal} {h : Nat} (e : a h = none) : den a h = none := by
  unfold den; rw [e]; rfl
theorem den_isSome (a : Nat → Option FAVal) (h : Nat) : (den a h).isSome = (a h).isSome := Option.isSome_map
theorem den_isNone (a : Nat → Option FAVal) (h : Nat) : (den a h).isNone = (a h).isNone := Option.isNone_map

theorem den_write (a : Nat → Option FAVal) (d : Nat) {v : FAVal} {V : NFAS} (h : NEquiv v.toNFAS V) :
    EnvEq (den (upd a d (some v))) (upd (den a) d (some V)) := by
  rw [den_upd]; exact envEq_upd2 (EnvEq.refl _) d h

theorem den_ite (a : Nat → Option FAVal) {c c' : Prop} [Decidable c] [Decidable c'] (hc : c ↔ c') (d : Nat)
    {v : FAVal} {V : NFAS} (h : NEquiv v.toNFAS V) :
    EnvEq (den (if c then upd a d (some v) else a)) (if c' then upd (den a) d (some V) else den a) := by
  by_cases h' : c
  · rw [if_pos h', if_pos (hc.mp h')]; exact den_write a d h
  · rw [if_neg h', if_neg (fun h'' => h' (hc.mpr h''))]; exact EnvEq.refl _

theorem den_res (a : Nat → Option FAVal) (d : Nat) {v : FAVal} {V : NFAS} (h : NEquiv v.toNFAS V) :
    EnvEq (den (if (a d).isNone then upd a d (some v) else a)) (if (den a d).isNone then upd (den a) d (some V) else den a) :=
  den_ite a (by rw [den_isNone]) d h

/-- the denotation carries over from what an operation writes to the whole step (the shapes of `specStep` / `denStep`) -/
theorem den_bind (a : Nat → Option FAVal) (x : Nat) {k : FAVal → Nat → Option FAVal} {k' : NFAS → Nat → Option NFAS}
    (hk : ∀ s, a x = some s → EnvEq (den (k s)) (k' s.toNFAS)) :
    EnvEq (den (match a x with | some s => k s | none => a)) (match den a x with | some A => k' A | none => den a) := by
  cases hs : a x with
  | none => rw [den_none hs]; exact EnvEq.refl _
  | some s => rw [den_some hs]; exact hk s hs

theorem den_bind2 (a : Nat → Option FAVal) (x y : Nat) {k : FAVal → FAVal → Nat → Option FAVal}
    {k' : NFAS → NFAS → Nat → Option NFAS}
    (hk : ∀ s t, a x = some s → a y = some t → EnvEq (den (k s t)) (k' s.toNFAS t.toNFAS)) :
    EnvEq (den (match a x, a y with | some s, some t => k s t | _, _ => a))
      (match den a x, den a y with | some A, some B => k' A B | _, _ => den a) := by
  cases hs : a x with
  | none => rw [den_none hs]; exact EnvEq.refl _
  | some s =>
    rw [den_some hs]
    cases ht : a y with
    | none => rw [den_none ht]; exact EnvEq.refl _
    | some t => rw [den_some ht]; exact hk s t hs ht

/-- the operations whose denotation needs the precondition the C++ `assert`s: the operands of `UnionDisjointStates` have no
    source state in common -/
def OpOk (a : Nat → Option FAVal) : Op → Prop
  | .unionDisj x y _ => ∀ s t, a x = some s → a y = some t → DisjKeys s t
  | _ => True

/-- `GetCandidateTree` (and its internal step) are excluded: see `vCandidate_sub_lang` -/
def NotCand : Op → Prop
  | .candRaw _ _ => False
  | .candidate _ _ => False
  | _ => True

/-- one step of the specification, seen on the automata: every operation other than `GetCandidateTree` does to the automaton
    its target denotes what the operation of `Vata/NfaStart.lean` does, up to list order; all other handles keep theirs -/
theorem spec_denote_step (a : Nat → Option FAVal) (ha : EnvWF a) (op : Op) (hok : OpOk a op) (hnc : NotCand op) :
    EnvEq (den (specStep a op)) (denStep (den a) op) := by
  cases op with
  | new h =>
    show EnvEq (den (if (a h).isSome then a else upd a h (some vNew))) (if (den a h).isSome then den a else _)
    rw [den_isSome]
    split
    · exact EnvEq.refl _
    · exact den_write a h (NEquiv.refl _)
  | copy src dst | moveCtor src dst => exact den_bind a src (fun s _ => den_res a dst (NEquiv.refl _))
  | assign src dst | moveAssign src dst =>
    exact den_bind a src (fun s _ => den_ite a (by rw [den_isSome]) dst (NEquiv.refl _))
  | setFinal h q | setStart h q s | setExistingStart h q S =>
    exact den_bind a h (fun s _ => den_write a h (NEquiv.of_eq rfl))
  | add h l s r => exact den_bind a h (fun v _ => den_write a h (vAdd_denote l s r v))
  | destroy h => exact den_upd a h none ▸ EnvEq.refl _
  | reindex src dst idx =>
    exact den_bind2 a src dst (fun s d hs _ => den_ite a Iff.rfl dst (vReindex_denote idx s d (ha src s hs).tup))
  | unionDisj x y dst =>
    exact den_bind2 a x y (fun s t hs ht => den_res a dst (vUnionDisj_denote s t (ha y t ht).keys (hok s t hs ht)))
  | unreach src dst => exact den_bind a src (fun s hs => den_res a dst (vUnreach_denote s (ha src s hs).keys))
  | reverse src dst => exact den_bind a src (fun s _ => den_res a dst (vReverse_denote s))
  | useless src dst => exact den_bind a src (fun s hs => den_res a dst (vUseless_denote s (ha src s hs).keys))
  | candRaw src dst | candidate src dst => exact absurd hnc id

/-- heap = `specStep` ≈ `denStep`: one operation on any valid heap -/
theorem Valid.den_step {H : HeapFA} (g : Valid H) (op : Op) (hok : OpOk (absFA H) op) (hnc : NotCand op) :
    EnvEq (den (absFA (step H op))) (denStep (den (absFA H)) op) :=
  (fa_refines_values g.inv op).1 ▸ spec_denote_step _ g.wf op hok hnc

/-- … one more operation after any history -/
theorem fa_history_denote_step (ops : List Op) (op : Op) (hok : OpOk (absFA (exec ops)) op) (hnc : NotCand op) :
    EnvEq (den (absFA (exec (ops ++ [op])))) (denStep (den (absFA (exec ops))) op) :=
  exec_append ops [op] ▸ (valid_exec ops).den_step op hok hnc

/-- the language read through a handle (`none` for a dead handle) -/
def langOf (a : Nat → Option NFAS) (h : Nat) (w : List Nat) : Option Bool := (a h).map (fun A => acceptsW A.toNFA w)

theorem EnvEq.lang {a b : Nat → Option NFAS} (hab : EnvEq a b) (h : Nat) (w : List Nat) : langOf a h w = langOf b h w := by
  have := hab h
  unfold langOf
  cases ha : a h <;> cases hb : b h <;> rw [ha, hb] at this
  · exact absurd this id
  · exact absurd this id
  · exact congrArg some (NEquiv.lang this w)

theorem den_bind_other {a : Nat → Option NFAS} {x y : Nat} {k : NFAS → Nat → Option NFAS} (hk : ∀ s, k s y = a y) :
    (match a x with | some s => k s | none => a) y = a y := by
  cases a x with
  | none => rfl
  | some s => exact hk s

theorem den_bind2_other {a : Nat → Option NFAS} {x x' y : Nat} {k : NFAS → NFAS → Nat → Option NFAS}
    (hk : ∀ s t, k s t y = a y) : (match a x, a x' with | some s, some t => k s t | _, _ => a) y = a y := by
  cases a x with
  | none => rfl
  | some s =>
    cases a x' with
    | none => rfl
    | some t => exact hk s t

theorem denStep_other (a : Nat → Option NFAS) (op : Op) (x : Nat) (hx : x ≠ target op) : denStep a op x = a x := by
  cases op with
  | new h =>
    show (if (a h).isSome then a else upd a h (some nfasEmpty)) x = a x
    split
    · rfl
    · exact upd_other _ _ hx
  | copy src dst | moveCtor src dst | assign src dst | moveAssign src dst | unreach src dst | reverse src dst
  | candRaw src dst | useless src dst | candidate src dst => exact den_bind_other (fun _ => ite_upd_other a _ hx)
  | setFinal h q | setStart h q s | setExistingStart h q S | add h l s r =>
    exact den_bind_other (fun _ => upd_other _ _ hx)
  | destroy h => exact upd_other _ _ hx
  | reindex p q idx | unionDisj p q dst => exact den_bind2_other (fun _ _ => ite_upd_other a _ hx)

end Vata.CowHeapFA
