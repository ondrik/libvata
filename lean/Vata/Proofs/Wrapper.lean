import Vata.Wrapper
import Vata.Proofs.LoadDump
/-!
# The wrapper `ExplicitTreeAut`: the loader with the explicit counter, and the invariant of reachable worlds

The loader with the counter `nextSymbol_` kept as a field (`Wrapper.loadFromW`) computes what the loader of
`Vata/LoadDump.lean` (counter = size of the dictionary) computes, and leaves the counter at the size of the dictionary,
whenever it starts with the counter at the size.  The invariant `World.Ok` of the reachable worlds: the global alphabet
exists and is an `OnTheFlyAlphabet`; every automaton points to an existing alphabet object; every `OnTheFlyAlphabet` has
distinct keys, values `0 … n-1` and `nextSymbol_ = n` (so every symbol NUMBER has exactly one `(name, rank)`).
-/
namespace Vata.Wrapper
open Vata Vata.LoadDump Vata.Dict

/-- the translator state of `Vata/LoadDump.lean`, with `nextSymbol_ == symbolDict_.size ()` -/
def _root_.Vata.LoadDump.LSt.toW (s : LSt) : LStW := ⟨s.sd, s.cnt, s.yd, s.yd.length⟩

theorem trStateW_toW (s : LSt) (q : String) : trStateW s.toW q = ((trState s q).1, (trState s q).2.toW) := rfl

theorem trSymW_toW (s : LSt) (k : String × Nat) : trSymW s.toW k = ((trSym s k).1, (trSym s k).2.toW) := by
  simp only [trSymW, trSym, LSt.toW, weak_counter]

theorem trStatesW_toW (s : LSt) (qs : List String) :
    trStatesW s.toW qs = ((trStates s qs).1, (trStates s qs).2.toW) := by
  induction qs generalizing s with
  | nil => rfl
  | cons q qs ih => simp only [trStatesW, trStates, trStateW_toW, ih]

theorem regSymsW_toW (s : LSt) (ps : List (String × Int)) : regSymsW s.toW ps = (regSyms s ps).toW := by
  induction ps generalizing s with
  | nil => rfl
  | cons p ps ih => simp only [regSymsW, regSyms, trSymW_toW, ih]

theorem trRuleW_toW (s : LSt) (t : List String × String × String) :
    trRuleW s.toW t = ((trRule s t).1, (trRule s t).2.toW) := by
  simp only [trRuleW, trRule, trStatesW_toW, trSymW_toW, trStateW_toW]

theorem trRulesW_toW (s : LSt) (ts : List (List String × String × String)) :
    trRulesW s.toW ts = ((trRules s ts).1, (trRules s ts).2.toW) := by
  induction ts generalizing s with
  | nil => rfl
  | cons t ts ih => simp only [trRulesW, trRules, trRuleW_toW, ih]

theorem loadFromW_toW (s : LSt) (d : AutDesc) : loadFromW s.toW d = ((loadFrom s d).1, (loadFrom s d).2.toW) := by
  simp only [loadFromW, loadFrom, regSymsW_toW, trStatesW_toW, trRulesW_toW]

/-- an `OnTheFlyAlphabet` in a state that the library can produce: distinct keys, the `i`-th registered symbol has the
number `i`, `nextSymbol_` is the number of registered symbols -/
def Alphabet.Ok : Alphabet → Prop
  | .otf d n => d.Ok ∧ n = d.length
  | .direct => True

structure World.Ok (w : World) : Prop where
  global : ∃ d n, w.alphas[0]? = some (.otf d n)
  alpha : ∀ A, A ∈ w.auts → A.alpha < w.alphas.length
  alphas : ∀ al, al ∈ w.alphas → al.Ok

theorem aut?_ok {w : World} {i : Nat} {A : WAut} (h : w.aut? i = .ok A) : w.auts[i]? = some A := by
  unfold World.aut? at h
  split at h
  · rename_i B e; cases h; exact e
  · cases h

theorem aut?_mem {w : World} {i : Nat} {A : WAut} (h : w.aut? i = .ok A) : A ∈ w.auts :=
  List.mem_of_getElem? (aut?_ok h)

theorem alpha?_ok {w : World} {a : Nat} {al : Alphabet} (h : w.alpha? a = .ok al) : w.alphas[a]? = some al := by
  unfold World.alpha? at h
  split at h
  · rename_i B e; cases h; exact e
  · cases h

theorem alpha?_mem {w : World} {a : Nat} {al : Alphabet} (h : w.alpha? a = .ok al) : al ∈ w.alphas :=
  List.mem_of_getElem? (alpha?_ok h)

theorem alpha?_lt {w : World} {a : Nat} {al : Alphabet} (h : w.alpha? a = .ok al) : a < w.alphas.length :=
  (List.getElem?_eq_some_iff.mp (alpha?_ok h)).1

theorem alpha?_of_getElem? {w : World} {a : Nat} {al : Alphabet} (h : w.alphas[a]? = some al) : w.alpha? a = .ok al := by
  unfold World.alpha?; rw [h]

/-- a call that starts with the lookup of an automaton succeeds only if the lookup does (the shape of most cases of
`step`, of `loadW`, `dumpW`) -/
theorem ok_of_match {β : Type} {x : Except String WAut} {G : WAut → Except String β} {b : β}
    (e : (match x with | .error m => Except.error m | .ok A => G A) = .ok b) : ∃ A, x = .ok A ∧ G A = .ok b := by
  cases x with
  | error m => cases e
  | ok A => exact ⟨A, rfl, e⟩

theorem ok_of_match₂ {β : Type} {x y : Except String WAut} {G : WAut → WAut → Except String β} {b : β}
    (e : (match x, y with | .ok L, .ok R => G L R | .error m, _ => .error m | _, .error m => .error m) = .ok b) :
    ∃ L R, x = .ok L ∧ y = .ok R ∧ G L R = .ok b := by
  cases x with
  | error m => cases e
  | ok L =>
    cases y with
    | error m => cases e
    | ok R => exact ⟨L, R, rfl, rfl, e⟩

theorem World.Ok.zero_lt {w : World} (h : w.Ok) : 0 < w.alphas.length := by
  obtain ⟨d, n, e⟩ := h.global
  exact (List.getElem?_eq_some_iff.mp e).1

theorem worldInit_ok : World.init.Ok := by
  refine ⟨⟨[], 0, rfl⟩, ?_, ?_⟩
  · intro A h; cases h
  · intro al h
    simp only [World.init, List.mem_singleton] at h
    subst h; exact ⟨ok_nil, rfl⟩

theorem push_ok {w : World} (h : w.Ok) (A : WAut) (hA : A.alpha < w.alphas.length) : (w.push A).Ok :=
  ⟨h.global, by
    intro B hB
    simp only [World.push, List.mem_append, List.mem_singleton] at hB
    rcases hB with hB | hB
    · exact h.alpha B hB
    · subst hB; exact hA, h.alphas⟩

theorem setAut_ok {w : World} (h : w.Ok) (i : Nat) (A : WAut) (hA : A.alpha < w.alphas.length) :
    ({ w with auts := w.auts.set i A } : World).Ok :=
  ⟨h.global, by
    intro B hB
    rcases List.mem_or_eq_of_mem_set hB with hB | hB
    · exact h.alpha B hB
    · subst hB; exact hA, h.alphas⟩

theorem addAlpha_ok {w : World} (h : w.Ok) (al : Alphabet) (hal : al.Ok) :
    ({ w with alphas := w.alphas ++ [al] } : World).Ok where
  global := by
    obtain ⟨d, n, e⟩ := h.global
    exact ⟨d, n, (List.getElem?_append_left h.zero_lt).trans e⟩
  alpha := fun B hB => Nat.lt_of_lt_of_le (h.alpha B hB) (List.length_append ▸ Nat.le_add_right _ _)
  alphas := fun b hb => (List.mem_append.mp hb).elim (h.alphas b) (fun hb => List.mem_singleton.mp hb ▸ hal)

/-- an alphabet object grows (a load registers symbols in it) -/
theorem setAlpha_ok {w : World} (h : w.Ok) (a : Nat) {d : SymDict} {n : Nat} (hd : (Alphabet.otf d n).Ok) :
    ({ w with alphas := w.alphas.set a (.otf d n) } : World).Ok := by
  refine ⟨?_, fun B hB => ?_, fun al hal => (List.mem_or_eq_of_mem_set hal).elim (h.alphas al) (fun e => e ▸ hd)⟩
  · show ∃ d' n', (w.alphas.set a _)[0]? = some (.otf d' n')
    by_cases h0 : a = 0
    · rw [h0, List.getElem?_set_self h.zero_lt]; exact ⟨_, _, rfl⟩
    · rw [List.getElem?_set_ne h0]; exact h.global
  · show B.alpha < (w.alphas.set a _).length
    rw [List.length_set]; exact h.alpha B hB

theorem unreachAlpha_lt {w : World} (h : w.Ok) (A : TA) {a : Nat} (ha : a < w.alphas.length) :
    unreachAlpha A a < w.alphas.length := by
  unfold unreachAlpha
  split
  · exact ha
  · exact h.zero_lt

theorem K1.alpha_lt {w : World} (h : w.Ok) (k : K1) {a : Nat} (ha : a < w.alphas.length) :
    k.alpha a < w.alphas.length := by
  cases k
  · exact ha
  · exact h.zero_lt
  · exact h.zero_lt

structure YOk (y0 : SymDict) (s : LStW) : Prop where
  ok : s.yd.Ok
  sync : s.next = s.yd.length
  sub : Sub y0 s.yd

/-- the rule's symbol number is the number of `(name, number of children)` in the dictionary `yd` -/
def RuleIn (yd : SymDict) (r : Rule) : Prop := ∃ name, yd.fwd? (name, r.kids.length) = some r.sym

/-- a load on an `Ok` alphabet, with ANY state dictionary and state counter: the alphabet stays `Ok` with its counter at the
size, keeps its translations, and every loaded rule carries the number of (its symbol name, its number of children) -/
theorem loadFromW_y (sd : StateDict) (c : Nat) (yd : SymDict) (n : Nat) (h : yd.Ok) (hn : n = yd.length) (d : AutDesc) :
    YOk yd (loadFromW ⟨sd, c, yd, n⟩ d).2 ∧
      ∀ r, r ∈ (loadFromW ⟨sd, c, yd, n⟩ d).1.rules → RuleIn (loadFromW ⟨sd, c, yd, n⟩ d).2.yd r := by
  subst hn
  rw [show (⟨sd, c, yd, yd.length⟩ : LStW) = (⟨sd, c, yd⟩ : LSt).toW from rfl, loadFromW_toW]
  obtain ⟨st, _, rr, hc⟩ := loadFrom_spec ⟨sd, c, yd⟩ d
  refine ⟨⟨(st.yd.ok h rfl).1, rfl, st.yd.sub⟩, fun r hr => ?_⟩
  rw [rr] at hr
  obtain ⟨t, ht, rfl⟩ := List.mem_map.mp hr
  exact ⟨t.2.1, by simpa [ruleOf, symKey, LSt.toW] using fwd_get (hc t ht).sym⟩

end Vata.Wrapper
