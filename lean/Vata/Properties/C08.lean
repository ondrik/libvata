import Vata.Lang
import Vata.Isect
import Vata.Apply
import Vata.Proofs.Rename
import Vata.Proofs.TrimModel
import Vata.Proofs.IsectModel
import Vata.Proofs.MtbddOps
import Vata.Proofs.BddAbs
import Vata.Proofs.BddAbsLang
import Vata.Properties.C08_Tables
import Vata.Properties.C08_Isect
/-!
# C08 – BDD-encoded automata: load, union, intersection, trimming keep exact languages

> A Timbuk automaton loaded into either BDD encoding and dumped again denotes the same language as in the explicit
> encoding.  For both BDD encodings Union and UnionDisjointStates yield exactly the union, Intersection exactly the
> intersection, RemoveUnreachableStates and RemoveUselessStates keep the language (leaving no useless state after the
> latter), and converting a bottom-up automaton to top-down form keeps the language.  None of these calls changes the
> language of an operand.

## How the statement is read into the model

* **Specification (L0).**  A BDD-encoded automaton denotes the tree automaton whose rules are the paths of its
  transition MTBDDs; after dumping it is an ordinary `TA`.  The specifications are those of C02/C03 on the dumped
  automata: `∀ t, accepts U t = (accepts A t || accepts B t)`, `∀ t, accepts P t = (accepts A t && accepts B t)`,
  `LangEq`, and `UsefulState` / `UsefulRule` (`Vata/Spec.lean`) for "no useless state".
* **Reference / checkers.**  `isUnionM`, `isIsectM`, `equivM` (`Vata/Lang.lean`) and `allUsefulB` (`Vata/Ref.lean`)
  applied to the dumps of the results (and of the operands after the call) of the real BDD operations.
* **Model of the code: the bottom-up transition tables** (`Vata/BddAbs.lean`).  A `BddAbs.Table` is a
  `TransTableWrapper`: the MTBDD `nullaryMtbdd_` for the empty tuple plus a map from non-empty children tuples to MTBDDs
  (default `leaf ∅`); an MTBDD is an `M.Node (List Nat)` over the 16 bits of the symbol (`SymbolicVarAsgn(16, f)`,
  `BddAbs.bits f`) whose leaves are SETS of parent states.  The abstraction is `HasRule T ρ ks p := p ∈ eval (T.get ks) ρ`
  ("the rule `ρ(ks) → p` is in the table"); `absBU syms T final` is the dump: the `TA` with these rules for the symbols
  of the dictionary `syms`.  Modelled operations: `addTransition` / `addCube` (`AddTransition`: `SetMtbdd(ks,
  union(GetMtbdd(ks), MTBDD(symbol, {p}, ∅)))`), `ofRules` (loading a rule list), `unionT` / `unionDisj` (`Union` /
  `UnionDisjointStates`: `UnionApplyFunctor` on the nullary MTBDDs, the tuple maps put together) and `isectAt` (one step
  of `Intersection`: `SetMtbdd(tuple, apply2 IntersectionApplyFunctor lhs rhs)`).
* **What is proved about it.**  (a) the reference and the checker are exact; (b) the tables denote exactly the rules that
  were put in, so load-then-dump keeps the rules and the language, the union tables hold exactly the rules of both
  operands and the dump accepts exactly the union, one intersection step installs exactly the product rules of the two
  tuples (`C08_bu_*`); (c) the abstract constructions (plain union on disjoint states, product on a closed set of pairs,
  trimming) are exact; (d) the MTBDD `apply` is pointwise.
* **The rest of the property** is in two topic files, summarised by `C08_loaded_both_encodings` at the end of this file:
  `Vata/Properties/C08_Tables.lean` – the top-down tables (`BddAbsTD.TableTD`: state ↦ MTBDD over 16 symbol and 6 arity
  variables with sets of children tuples in the leaves), load / dump of both encodings, the top-down unions, `GetTopDownAut`,
  the symbolic trimming of both encodings; `Vata/Properties/C08_Isect.lean` – the two symbolic `Intersection`s with their
  work-lists, translators and product-state counters (`Vata/BddIsect.lean`).  The 16-character `0/1/X` symbols of the Timbuk
  layer and the dictionary helpers are modelled in `Vata/Glue.lean` (`Vata/Properties/Util_Glue.lean`).
-/
namespace Vata.Props

/-- every verdict of the reference checkers applied to the dumped results is exact -/
theorem C08_reference_checkers_exact (R A B : TA) (fuel : Nat) (b : Bool) :
    (isUnionM R A B fuel = some b → (b = true ↔ ∀ t, accepts R t = (accepts A t || accepts B t))) ∧
    (isIsectM R A B fuel = some b → (b = true ↔ ∀ t, accepts R t = (accepts A t && accepts B t))) ∧
    (equivM R A fuel = some b → (b = true ↔ LangEq R A)) :=
  ⟨isUnionM_iff R A B fuel b, isIsectM_iff R A B fuel b, equivM_iff R A fuel b⟩

example : isUnionM (unionDisjoint (reindex (· + 10) RenameEx.exA) RenameEx.exB) RenameEx.exA RenameEx.exB 10 = some true ∧
    isIsectM (isectFull IsectEx.exA IsectEx.exB) IsectEx.exA IsectEx.exB 10 = some true ∧
    equivM (removeUseless TrimEx.exA) TrimEx.exA 10 = some true ∧ equivM TrimEx.exEmpty TrimEx.exA 10 = some false :=
  ⟨by decide +kernel, IsectEx.isectFull_isIsect, TrimEx.removeUseless_equiv, by decide +kernel⟩

/-- "leaving no useless state": the Boolean check applied to the dump of `RemoveUselessStates` is sound -/
theorem C08_no_useless_state_check_sound (A : TA) (h : allUsefulB A = true) :
    (∀ q, Occurs A q → UsefulState A q) ∧ (∀ r, r ∈ A.rules → UsefulRule A r) := allUsefulB_sound A h

example : allUsefulB (removeUseless TrimEx.exA) = true ∧ allUsefulB TrimEx.exA = false := by decide +kernel

/-- the abstract constructions the symbolic operations implement are exact: union of automata with disjoint states,
product on a closed injectively numbered set of pairs containing `F_A × F_B`, removal of useless states.  Partial: only
the abstract constructions; that the BDD operations compute them is `C08_bu_union_lang`, `C08_td_union`, `C08_td_isect`,
`C08_bu_isect`, `C08_td_trim`, `C08_bu_trim` (summarised in `C08_loaded_both_encodings`) -/
theorem C08_abstract_constructions_partial (A B : TA) :
    ((∀ q, q ∈ A.states → q ∉ B.states) → ∀ t, accepts (unionDisjoint A B) t = (accepts A t || accepts B t)) ∧
    (∀ (D : List (Nat × Nat)) (m : Nat × Nat → Nat), Closed A B D → InjOn m D →
      (∀ p, p ∈ A.final → ∀ p', p' ∈ B.final → (p, p') ∈ D) →
      ∀ t, accepts (prodOn A B D m) t = true ↔ accepts A t = true ∧ accepts B t = true) ∧
    LangEq (removeUnreachable A) A ∧ LangEq (removeUseless A) A :=
  ⟨fun hdis t => unionDisjoint_lang A B hdis t, fun D m hc hinj hF t => isect_cert A B D m hc hinj hF t,
   fun t => removeUnreachable_lang A t, fun t => removeUseless_lang A t⟩

example : (∀ q, q ∈ (reindex (· + 10) RenameEx.exA).states → q ∉ RenameEx.exB.states) ∧
    Closed IsectEx.exA IsectEx.exB [(1, 1), (0, 0), (0, 1), (1, 2)] := ⟨by decide +kernel, Isx.isClosedB_iff.mp (by decide +kernel)⟩

/-- the MTBDD `apply` that combines two transition functions (set union for `Union`, pairwise product for
`Intersection`) acts pointwise: for every assignment of the symbol variables the leaf of the result is the leaf
operation applied to the leaves of the operands, and the result is again reduced and ordered.  Partial: the pure apply
only; the leaf operations and the tables around them are `C08_bu_union`, `C08_bu_isect_step` below, and the apply whose leaf
operation has a side effect on the translator (`Intersection`) is `C08_isect_apply_side_effect` -/
theorem C08_apply_pointwise_partial {α β γ : Type} [DecidableEq γ] (f : α → β → γ) (a : M.Node α) (b : M.Node β) :
    (∀ ρ, M.eval (M.apply2 f a b) ρ = f (M.eval a ρ) (M.eval b ρ)) ∧ (M.WF a → M.WF b → M.WF (M.apply2 f a b)) :=
  ⟨fun ρ => M.apply2_eval f ρ a b, M.apply2_wf f a b⟩

-- leaves are sets of states; `apply` with set union on two one-variable diagrams
example : M.apply2 (fun (s s' : List Nat) => s ++ s') (.node 0 (.leaf [1]) (.leaf [])) (.node 0 (.leaf [2]) (.leaf [3])) =
    .node 0 (.leaf [1, 2]) (.leaf [3]) := by simp [M.apply2, M.mk]

/-! ### the bottom-up transition tables denote exactly the rules put into them -/

/-- `AddTransition(ks, f, p)` on a bottom-up table adds exactly the rule `f(ks) → p` (first component: for 16-bit symbol
numbers `f`, `g`); with a symbolic assignment `asgn` (a cube, don't-cares allowed) exactly the rules `ρ(ks) → p` for the
valuations `ρ` in the cube (second component).  Every other rule is kept, none is invented -/
theorem C08_bu_add_transition (T : BddAbs.Table) (ks : List Nat) (p : Nat) :
    (∀ f, f < 2 ^ 16 → ∀ g, g < 2 ^ 16 → ∀ ks' p',
      BddAbs.HasRule (BddAbs.addTransition T ks f p) (BddAbs.bits g) ks' p' ↔
        BddAbs.HasRule T (BddAbs.bits g) ks' p' ∨ (g = f ∧ ks' = ks ∧ p' = p)) ∧
    (∀ asgn ρ ks' p', BddAbs.HasRule (BddAbs.addCube T ks asgn p) ρ ks' p' ↔
        BddAbs.HasRule T ρ ks' p' ∨ (ks' = ks ∧ p' = p ∧ M.agrees ρ asgn 0 = true)) :=
  ⟨fun f hf g hg ks' p' => BddAbs.absBU_addTransition T ks f p hf g hg ks' p',
    fun asgn ρ ks' p' => BddAbs.absBU_add T ks asgn p ρ ks' p'⟩

example : BddAbs.HasRule (BddAbs.addTransition (BddAbs.ofRules BddAbs.BddAbsEx.rsA) [2] 3 7) (BddAbs.bits 3) [2] 7 :=
  ((C08_bu_add_transition _ [2] 7).1 3 (by decide) 3 (by decide) [2] 7).mpr (Or.inr ⟨rfl, rfl, rfl⟩)

/-- "loaded into the (bottom-up) BDD encoding and dumped again": the table built by `AddTransition` for each rule of a
list holds exactly the rules of the list (as a set; symbols are 16-bit numbers), and the dumped automaton – the rules of
the table over a dictionary `syms` that covers the symbols of `A`, with the final states of `A` – accepts exactly the
trees `A` accepts -/
theorem C08_bu_load_dump (A : TA) (hrs : ∀ r, r ∈ A.rules → r.sym < 2 ^ 16) :
    (∀ g, g < 2 ^ 16 → ∀ ks p, BddAbs.HasRule (BddAbs.ofRules A.rules) (BddAbs.bits g) ks p ↔ (⟨g, ks, p⟩ : Rule) ∈ A.rules) ∧
    (∀ syms : List Nat, (∀ f, f ∈ syms → f < 2 ^ 16) → (∀ r, r ∈ A.rules → r.sym ∈ syms) →
      (∀ r, r ∈ (BddAbs.absBU syms (BddAbs.ofRules A.rules) A.final).rules ↔ r ∈ A.rules) ∧
      ∀ t, accepts (BddAbs.absBU syms (BddAbs.ofRules A.rules) A.final) t = accepts A t) :=
  ⟨fun g hg ks p => BddAbs.absBU_ofRules A.rules hrs g hg ks p,
    fun syms hs hc => ⟨BddAbs.mem_absRules_ofRules_cover A syms hrs hs hc, BddAbs.ofRules_lang A syms hrs hs hc⟩⟩

example : (∀ r, r ∈ BddAbs.BddAbsLangEx.exB.rules → r.sym < 2 ^ 16) ∧ (∀ f, f ∈ [0, 1, 2] → f < 2 ^ 16) ∧
    (∀ r, r ∈ BddAbs.BddAbsLangEx.exB.rules → r.sym ∈ [0, 1, 2]) := ⟨by decide +kernel, by decide +kernel, by decide +kernel⟩
-- the dump lists the rules in the order of the table, not of the input
example : (BddAbs.absRules [0, 1, 2, 3] (BddAbs.ofRules BddAbs.BddAbsEx.rsB)).map (fun r => (r.sym, r.kids, r.parent)) =
    [(0, [], 3), (1, [], 4), (2, [4, 4], 9), (2, [3, 3], 9)] := by decide +kernel

/-- `Union` / `UnionDisjointStates` on bottom-up tables.  Rule level: the table-wise union holds exactly the rules of the
two tables, and so does the union "maps put together, nullary MTBDDs united" when no non-empty tuple has an entry in both
tables (`hd`, the situation after the states were renumbered apart).  Language level: for the encodings of `A` and `B` with
disjoint state sets the dump accepts exactly `L(A) ∪ L(B)` -/
theorem C08_bu_union (T₁ T₂ : BddAbs.Table) :
    (∀ ρ ks p, BddAbs.HasRule (BddAbs.unionT T₁ T₂) ρ ks p ↔ BddAbs.HasRule T₁ ρ ks p ∨ BddAbs.HasRule T₂ ρ ks p) ∧
    ((∀ k, k ∈ T₁.entries.map (·.1) → k ∉ T₂.entries.map (·.1)) →
      ∀ ρ ks p, BddAbs.HasRule (BddAbs.unionDisj T₁ T₂) ρ ks p ↔ BddAbs.HasRule T₁ ρ ks p ∨ BddAbs.HasRule T₂ ρ ks p) :=
  ⟨BddAbs.absBU_union T₁ T₂, fun hd => BddAbs.absBU_unionDisj T₁ T₂ hd⟩

example : ∀ k, k ∈ (BddAbs.ofRules BddAbs.BddAbsEx.rsA).entries.map (·.1) →
    k ∉ (BddAbs.ofRules BddAbs.BddAbsEx.rsB).entries.map (·.1) := by decide

/-- "`Union` and `UnionDisjointStates` yield exactly the union", for the bottom-up encoding at the level of languages:
the dump of the union of the tables loaded from `A` and `B` (operands with disjoint state sets, dictionary `syms` covering
their symbols, all symbols 16-bit numbers), with the final states of both, accepts exactly `L(A) ∪ L(B)` – for the
table-wise union without further hypothesis, for the "maps put together" union under the hypothesis that no non-empty
tuple has an entry in both tables -/
theorem C08_bu_union_lang (A B : TA) (syms : List Nat)
    (hA : ∀ r, r ∈ A.rules → r.sym < 2 ^ 16) (hB : ∀ r, r ∈ B.rules → r.sym < 2 ^ 16)
    (hs : ∀ f, f ∈ syms → f < 2 ^ 16) (hcA : ∀ r, r ∈ A.rules → r.sym ∈ syms) (hcB : ∀ r, r ∈ B.rules → r.sym ∈ syms)
    (hdis : ∀ q, q ∈ A.states → q ∉ B.states) :
    (∀ t, accepts (BddAbs.absBU syms (BddAbs.unionT (BddAbs.ofRules A.rules) (BddAbs.ofRules B.rules)) (A.final ++ B.final)) t =
      (accepts A t || accepts B t)) ∧
    ((∀ k, k ∈ (BddAbs.ofRules A.rules).entries.map (·.1) → k ∉ (BddAbs.ofRules B.rules).entries.map (·.1)) →
      ∀ t, accepts (BddAbs.absBU syms (BddAbs.unionDisj (BddAbs.ofRules A.rules) (BddAbs.ofRules B.rules))
        (A.final ++ B.final)) t = (accepts A t || accepts B t)) :=
  ⟨BddAbs.unionT_lang A B syms hA hB hs hcA hcB hdis,
    fun hd => BddAbs.unionDisj_lang A B syms hd hA hB hs hcA hcB hdis⟩

example : (∀ q, q ∈ BddAbs.BddAbsLangEx.exA.states → q ∉ BddAbs.BddAbsLangEx.exB.states) ∧
    (BddAbs.absBU [0, 1, 2] (BddAbs.unionT (BddAbs.ofRules BddAbs.BddAbsLangEx.exA.rules)
      (BddAbs.ofRules BddAbs.BddAbsLangEx.exB.rules)) [2, 9]).rules.length = 7 :=
  ⟨by decide, BddAbs.BddAbsLangEx.unionT_rules_length⟩

/-- one step of the symbolic `Intersection`: `SetMtbdd(ks, apply2 IntersectionApplyFunctor (lhs.GetMtbdd ks₁)
(rhs.GetMtbdd ks₂))` installs for the tuple `ks` exactly the rules `ρ(ks) → tr(p₁, p₂)` with `ρ(ks₁) → p₁` in the left and
`ρ(ks₂) → p₂` in the right table (same symbol valuation `ρ`), and leaves every other tuple alone.  In terms of the product
automaton of C02: when the two tables hold the rules of `A` and `B` and `ks` is the tuple of product states of `ks₁`,
`ks₂`, these are the rules of `prodRules A B D m` built from an `A`-rule on `ks₁` and a `B`-rule on `ks₂` -/
theorem C08_bu_isect_step (tr : Nat × Nat → Nat) (T T₁ T₂ : BddAbs.Table) (ks₁ ks₂ ks : List Nat) :
    (∀ ρ ks' p, BddAbs.HasRule (BddAbs.isectAt tr T T₁ T₂ ks₁ ks₂ ks) ρ ks' p ↔
      if ks = ks' then ∃ p₁ p₂, BddAbs.HasRule T₁ ρ ks₁ p₁ ∧ BddAbs.HasRule T₂ ρ ks₂ p₂ ∧ tr (p₁, p₂) = p
      else BddAbs.HasRule T ρ ks' p) ∧
    (∀ (A B : TA) (D : List (Nat × Nat)) (f : Nat), ks₂.length = ks₁.length →
      (∀ p, BddAbs.HasRule T₁ (BddAbs.bits f) ks₁ p ↔ (⟨f, ks₁, p⟩ : Rule) ∈ A.rules) →
      (∀ p, BddAbs.HasRule T₂ (BddAbs.bits f) ks₂ p ↔ (⟨f, ks₂, p⟩ : Rule) ∈ B.rules) →
      (∀ p₁ p₂, (⟨f, ks₁, p₁⟩ : Rule) ∈ A.rules → (⟨f, ks₂, p₂⟩ : Rule) ∈ B.rules → (p₁, p₂) ∈ D) →
      ∀ p, BddAbs.HasRule (BddAbs.isectAt tr T T₁ T₂ ks₁ ks₂ ((ks₁.zip ks₂).map tr)) (BddAbs.bits f) ((ks₁.zip ks₂).map tr) p ↔
        ∃ r, r ∈ A.rules ∧ ∃ r', r' ∈ B.rules ∧ r.sym = f ∧ r'.sym = f ∧ r.kids = ks₁ ∧ r'.kids = ks₂ ∧
          tr (r.parent, r'.parent) = p ∧ (⟨f, (ks₁.zip ks₂).map tr, p⟩ : Rule) ∈ prodRules A B D tr) :=
  ⟨fun ρ ks' p => BddAbs.absBU_isect tr T T₁ T₂ ks₁ ks₂ ks ρ ks' p,
    fun A B D f hl h₁ h₂ hD p => BddAbs.absBU_isect_prod A B D tr T T₁ T₂ ks₁ ks₂ hl f h₁ h₂ hD p⟩

-- leaves and the tuples `(1,1)` / `(3,3)` of the example with the pairing `10·x + y`
example : (BddAbs.absRules [0, 1, 2]
    (BddAbs.isectAt (fun p => 10 * p.1 + p.2)
      (BddAbs.isectAt (fun p => 10 * p.1 + p.2) BddAbs.Table.empty (BddAbs.ofRules BddAbs.BddAbsEx.rsA)
        (BddAbs.ofRules BddAbs.BddAbsEx.rsB) [] [] [])
      (BddAbs.ofRules BddAbs.BddAbsEx.rsA) (BddAbs.ofRules BddAbs.BddAbsEx.rsB) [1, 1] [3, 3] [13, 13])).map
        (fun r => (r.sym, r.kids, r.parent)) = [(0, [], 13), (1, [], 14), (2, [13, 13], 29)] := by decide +kernel

/-! ### the property for loaded automata, both encodings, in one statement

Corollary of the topic files `Vata/Properties/C08_Tables.lean` (top-down tables, `GetTopDownAut`, symbolic trimming) and
`Vata/Properties/C08_Isect.lean` (the two symbolic intersections with their work-lists). -/

section
open Vata.BddAbs Vata.BddAbsTD Vata.BddIsect

/-- **C08 for automata loaded into either encoding.**  `A`, `B` explicit automata whose symbols are 16-bit numbers of the
dictionary `syms` and whose arities are below 64 (at most `MAX_SYMBOL_ARITY` = 63); "loaded" = the table built by `AddTransition` for
each rule (`ofRulesTD` top-down, `ofRules` bottom-up), "dumped" = the abstraction `absTD` / `absBU` over `syms`.  Then, in
BOTH encodings: (1) load-and-dump keeps the language; (2) for operands with disjoint states the table-wise union accepts
exactly `L(A) ∪ L(B)`; (3) the symbolic `Intersection` returns a result and it accepts exactly `L(A) ∩ L(B)`;
(4) `RemoveUnreachableStates` and `RemoveUselessStates` keep the language and (5) after the latter every remaining state and
rule takes part in an accepting run; (6) `GetTopDownAut` of the bottom-up table keeps the language. -/
theorem C08_loaded_both_encodings (A B : TA) (syms : List Nat)
    (hA : ∀ r, r ∈ A.rules → r.sym < 2 ^ 16 ∧ r.kids.length < 64 ∧ r.sym ∈ syms)
    (hB : ∀ r, r ∈ B.rules → r.sym < 2 ^ 16 ∧ r.kids.length < 64 ∧ r.sym ∈ syms) (hs : ∀ f, f ∈ syms → f < 2 ^ 16) :
    (∀ t, accepts (absTD syms (ofRulesTD A.rules) A.final) t = accepts A t ∧
      accepts (absBU syms (ofRules A.rules) A.final) t = accepts A t) ∧
    ((∀ q, q ∈ A.states → q ∉ B.states) → ∀ t,
      accepts (absTD syms (unionTD (ofRulesTD A.rules) (ofRulesTD B.rules)) (A.final ++ B.final)) t =
        (accepts A t || accepts B t) ∧
      accepts (absBU syms (unionT (ofRules A.rules) (ofRules B.rules)) (A.final ++ B.final)) t =
        (accepts A t || accepts B t)) ∧
    ((∃ R F m, bddIsectTDRef (ofRulesTD A.rules) A.final (ofRulesTD B.rules) B.final = some (R, F, m) ∧
        ∀ t, accepts (absTD syms R F) t = (accepts A t && accepts B t)) ∧
      (∃ R F m, bddIsectBURef (ofRules A.rules) A.final (ofRules B.rules) B.final = some (R, F, m) ∧
        ∀ t, accepts (absBU syms R F) t = (accepts A t && accepts B t))) ∧
    (∀ t, accepts (absTD syms (removeUnreachableTD (ofRulesTD A.rules) A.final) A.final) t = accepts A t ∧
      accepts (absTD syms (removeUselessTD (ofRulesTD A.rules) A.final).1 (removeUselessTD (ofRulesTD A.rules) A.final).2) t =
        accepts A t ∧
      accepts (absBU syms (removeUnreachableBU (ofRules A.rules) A.final).1 (removeUnreachableBU (ofRules A.rules) A.final).2) t =
        accepts A t ∧
      accepts (absBU syms (removeUselessBU (ofRules A.rules) A.final).1 (removeUselessBU (ofRules A.rules) A.final).2) t =
        accepts A t) ∧
    ((∀ q, Occurs (absTD syms (removeUselessTD (ofRulesTD A.rules) A.final).1 (removeUselessTD (ofRulesTD A.rules) A.final).2) q →
        UsefulState (absTD syms (removeUselessTD (ofRulesTD A.rules) A.final).1 (removeUselessTD (ofRulesTD A.rules) A.final).2) q) ∧
      (∀ q, Occurs (absBU syms (removeUselessBU (ofRules A.rules) A.final).1 (removeUselessBU (ofRules A.rules) A.final).2) q →
        UsefulState (absBU syms (removeUselessBU (ofRules A.rules) A.final).1 (removeUselessBU (ofRules A.rules) A.final).2) q)) ∧
    (∀ t, accepts (absTD syms (getTopDownAut (ofRules A.rules) A.final) A.final) t = accepts A t) := by
  have hA' : ∀ r, r ∈ A.rules → r.sym < 2 ^ 16 ∧ r.sym ∈ syms := fun r hr => ⟨(hA r hr).1, (hA r hr).2.2⟩
  have eTD := absTD_ofRulesTD_setEq A.rules syms A.final hA hs
  have eTDB := absTD_ofRulesTD_setEq B.rules syms B.final hB hs
  have eBU := absBU_ofRules_setEq A.rules syms A.final hA' hs
  have lTD : ∀ t, accepts (absTD syms (ofRulesTD A.rules) A.final) t = accepts A t := fun t => eTD.lang t
  have lTDB : ∀ t, accepts (absTD syms (ofRulesTD B.rules) B.final) t = accepts B t := fun t => eTDB.lang t
  have lBU : ∀ t, accepts (absBU syms (ofRules A.rules) A.final) t = accepts A t := fun t => eBU.lang t
  have wTD := (tableTD_ofRulesTD A.rules).1
  have cTD : SymsCompleteTD syms (ofRulesTD A.rules) := symsCompleteTD_ofRulesTD (fun r hr => (hA r hr).2.2)
  have wBU := tableWF_ofRules A.rules
  have cBU : SymsCompleteBU syms (ofRules A.rules) := symsCompleteBU_ofRules (fun r hr => (hA r hr).2.2)
  have tTD := C08_td_trim (syms := syms) A.final wTD cTD
  have tBU := C08_bu_trim (syms := syms) A.final wBU cBU
  refine ⟨fun t => ⟨lTD t, lBU t⟩, fun hdis t => ⟨?_, ?_⟩, C08_isect_loaded A B syms hA hB hs,
    fun t => ⟨?_, ?_, ?_, ?_⟩, ⟨tTD.2.2.2.2.1.1, tBU.2.2.2.2.1⟩, fun t => ?_⟩
  · rw [(C08_td_union syms (ofRulesTD A.rules) (ofRulesTD B.rules) A.final B.final ?_).1 t, lTD, lTDB]
    intro q h1 h2
    exact hdis q ((eTD.mem_states q).mp h1) ((eTDB.mem_states q).mp h2)
  · exact (C08_bu_union_lang A B syms (fun r hr => (hA r hr).1) (fun r hr => (hB r hr).1) hs
      (fun r hr => (hA r hr).2.2) (fun r hr => (hB r hr).2.2) hdis).1 t
  · rw [tTD.2.2.1 t, lTD]
  · rw [tTD.2.2.2.1 t, lTD]
  · rw [tBU.2.2.1 t, lBU]
  · rw [tBU.2.2.2.1 t, lBU]
  · rw [(C08_getTopDownAut (tableOk_ofRules A.rules) wBU A.final syms).2.2.2 t, lBU]

example : (∀ r, r ∈ BddIsectEx.exA.rules → r.sym < 2 ^ 16 ∧ r.kids.length < 64 ∧ r.sym ∈ BddIsectEx.syms) ∧
    (∀ r, r ∈ BddIsectEx.exB.rules → r.sym < 2 ^ 16 ∧ r.kids.length < 64 ∧ r.sym ∈ BddIsectEx.syms) ∧
    (∀ f, f ∈ BddIsectEx.syms → f < 2 ^ 16) := by decide +kernel

end

/-!
## closed since the last refresh of this file

* **"The top-down encoding … has no table model; load / dump, `Union`, `Intersection` and trimming on it are
  correspondence-check-only claims.  So is `GetTopDownAut`"** – closed: `C08_load_dump`, `C08_td_addTransition`,
  `C08_td_union` (table-wise union and `UnionDisjointStates`), `C08_getTopDownAut`, `C08_td_trim`
  (`Vata/Properties/C08_Tables.lean`); `C08_td_isect`, `C08_isect_total`, `C08_isect_loaded` (`Vata/Properties/C08_Isect.lean`).
* **"`C08_bu_isect_step` is ONE `SetMtbdd` of `Intersection`; the work-list … is not modelled for the BDD encoding …, hence no
  theorem 'the symbolic intersection accepts exactly the intersection'"** – closed: `C08_bu_isect` (the result is the
  bottom-up product of C02 on the discovered pairs, injectively numbered), `C08_isect_total` (the model always returns),
  `C08_isect_loaded`; the counter of defect D10: `C20_bdd_isect_numbers_dense_partial`.
* **"Symbolic trimming …: not modelled"** – closed at the level of the leaf visits: the abstraction of the result IS
  `removeUnreachable` / `removeUseless` (C03) of the abstraction, languages are kept, no useless state or rule is left
  (`C08_td_trim`, `C08_bu_trim`, `C08_load_convert_trim`).
* **The 16-bit symbol encoding** of the Timbuk layer: `SymbolicVarAsgn(16, f)` as coded is `BddAbs.symAsgn f`
  (`Util_Glue_asgn_ofNum_limits`), its string form, concretisation and order are `Util_Glue_asgn_string_roundtrip`,
  `Util_Glue_asgn_concretize`, `Util_Glue_asgn_lt_strict_total_order`.  The sets of states in the leaves are
  `OrdVector<StateType>`s, modelled as coded (`Util_OrdVector_history`); the instantiation with state TUPLES
  (`StateTupleSet`, lexicographic order on vectors) is not (see `Vata/Properties/Util_OrdVector.lean`).
* The relation `ComputeSimulation` computes on a bottom-up automaton: `Vata/Properties/C07_BddSim.lean`.
* Totality of the reference checkers applied to the dumps: `C08_reference_total` (`Vata/Properties/RefTotal.lean`).
* The clauses of the property for loaded automata in one theorem: `C08_loaded_both_encodings`.

## not yet proved

* **Inside the symbolic trimming.**  The AND/OR-graph propagation of the top-down `RemoveUselessStates` and the graph
  traversal of the bottom-up one are modelled by their fixpoints (`prodStates` / `tdReach` of `Vata/Ref.lean` on the leaf-visit
  skeletons), not edge by edge; only the work-list of the top-down `RemoveUnreachableStates` is mirrored
  (`tdUnreachWL`, last component of `C08_td_trim`).
* **Unions with renumbering.**  `C08_bu_union_lang` / `C08_td_union` take the disjointness of the state sets as a hypothesis;
  that the `ReindexStates` inside `Union` establishes it is the explicit-encoding fact C02 (`C02_union_model_exact`), not
  re-proved for BDD automata (the top-down `Union` with renumbering into a common table is not modelled), and for the
  "maps put together" unions the hypothesis on the tuple maps / state keys is not derived from the disjointness of the states.
* **The Timbuk layer above the tables.**  `C08_load_dump` / `C08_bu_load_dump` start from a rule list with symbol NUMBERS; the
  symbol dictionary that hands out the 16-bit numbers, `addArityToSymbol` as a function of the dictionary, the arity check
  (arities below 64) and the invariant `ArityOK` for tables obtained in other ways than loading and `GetTopDownAut` are
  hypotheses.  The state names of a dumped union / intersection go through `CreateUnionStringToStateMap` /
  `CreateProductStringToStateMap`: the product names are NOT injective in general (`Util_Glue_productNames_collide`; then the
  dumped intersection has a larger language than the computed automaton) – a finding about the dump, not about the tables.
* **The result cache of `Apply2Functor` and the sharing of MTBDD nodes** are not modelled in the intersections (the model
  calls the leaf operation once per path; `C08_isect_apply_side_effect` shows that additional calls change nothing).  The
  iteration orders of the hash containers are list orders, so the NUMBERS of the product states agree with the C++ only up
  to these orders (the set of values does not depend on them).
* "None of these calls changes the language of an operand": CLOSED by `C08_sharing_history` / `C08_sharing_isolation`
  (`Vata/Properties/C08_Sharing.lean`: handles on shared tables, the exact precondition `pre` of the in-place operations,
  sufficient and clause-wise necessary); what stays open there: tables at the abstraction of rule lists, fresh-table
  operations as reference constructions, `pre` evaluated by the driver on the dumps.
* Symbols `≥ 2^16` and arities `≥ 64` are outside the theorems (the hypotheses are needed: two numbers that agree on the low
  16 bits denote the same assignment).  State numbers are unbounded `Nat`.
-/
end Vata.Props
