import Vata.Lang
import Vata.Candidate
import Vata.Proofs.Candidate
import Vata.Proofs.Store
import Vata.Properties.RefTotal
/-!
# C15 – The witness automaton is a sub-language, empty only for an empty language

> For any explicit tree automaton A, GetCandidateTree returns an automaton whose every accepted tree is accepted by A,
> and which accepts at least one tree whenever A does.

## How the statement is read into the model

* **Specification (L0).**  `Incl C A` (every tree accepted by the witness automaton `C` is accepted by `A`) and
  `(∃ t, accepts A t = true) → ∃ t, accepts C t = true`.
* **Model of the code.**  `candidate A` (`Vata/Candidate.lean`) mirrors `GetCandidateTree`
  (`src/explicit_tree_candidate.cc`): phase 1 over all rules (leaf rules recorded, the others get an info record with
  the set of their children, `remaining` counts open obligations), phase 2 the FIFO work-list that stops at the first
  reached final state (`goto found_`), the choice "all rules if `remaining = 0`, else the recorded ones", and the final
  `RemoveUnreachableStates`.  The only freedom of the C++ is the hash-map order in which the rules are enumerated;
  `candidateOrd ord A` runs the model on the rules enumerated as `ord A.rules`, and the theorems hold for **every**
  enumeration `ord` that lists exactly the rules of `A` (the two hypotheses of `C15_every_enumeration_order`).
* **Checker.**  `candidateOkB A C`: the Boolean contract applied to the automaton `C` the real code returns (rules and
  final states are taken from `A`, and `C` is empty iff `A` is).
-/
namespace Vata.Props

/-- the witness automaton of the model is a sub-automaton (rules and final states are taken from `A`), hence a
sub-language, and it accepts some tree whenever `A` does; put together: it is empty exactly when `A` is -/
theorem C15_witness (A : TA) :
    ((∀ r, r ∈ (candidate A).rules → r ∈ A.rules) ∧ (∀ q, q ∈ (candidate A).final → q ∈ A.final)) ∧
    Incl (candidate A) A ∧
    ((∃ t, accepts A t = true) → ∃ t, accepts (candidate A) t = true) ∧
    (LangEmpty (candidate A) ↔ LangEmpty A) :=
  ⟨candidate_sub A, candidate_incl A, candidate_nonempty A, candidate_empty_iff A⟩

-- the search stops at the first final state; a final state that is not productive (3) and one that is reached later (6)
example : (candidate CandEx.exA).rules = [⟨0, [], 0⟩, ⟨3, [], 4⟩, ⟨1, [0, 0], 1⟩, ⟨4, [1, 4], 5⟩] ∧
    (candidate CandEx.exA).final = [5] ∧ CandEx.exA.final = [5, 3, 6] ∧ accepts CandEx.exA CandEx.exT = true := by decide +kernel
-- empty language although there are rules, a leaf rule and a final state
example : (candidate CandEx.exE).rules = [] ∧ (candidate CandEx.exE).final = [] ∧ isEmptyRef CandEx.exE = true := by decide

/-- the same for every order in which the rules are enumerated (the hash-map order of the C++): `ord` may permute,
repeat or (first part only) drop rules, as long as it lists only rules of `A` / all rules of `A` -/
theorem C15_every_enumeration_order (ord : List Rule → List Rule) (A : TA) :
    ((∀ r, r ∈ ord A.rules → r ∈ A.rules) → Incl (candidateOrd ord A) A) ∧
    ((∀ r, r ∈ A.rules → r ∈ ord A.rules) → (∃ t, accepts A t = true) → ∃ t, accepts (candidateOrd ord A) t = true) :=
  ⟨fun h => candidateOrd_incl ord A h, fun h => candidateOrd_nonempty ord A h⟩

example : (∀ r, r ∈ List.reverse CandEx.exA.rules → r ∈ CandEx.exA.rules) ∧
    (∀ r, r ∈ CandEx.exA.rules → r ∈ List.reverse CandEx.exA.rules) :=
  ⟨fun _ hr => List.mem_reverse.mp hr, fun _ hr => List.mem_reverse.mpr hr⟩
example : (candidateOrd List.reverse CandEx.exA).rules = [⟨3, [], 4⟩, ⟨0, [], 0⟩, ⟨1, [0, 0], 1⟩, ⟨4, [1, 4], 5⟩] := by decide +kernel

/-- the Boolean contract applied to the output of the real code is sound for the property, and the model satisfies it -/
theorem C15_contract_check_sound (A C : TA) :
    (candidateOkB A C = true → Incl C A ∧ ((∃ t, accepts A t = true) → ∃ t, accepts C t = true)) ∧
    candidateOkB A (candidate A) = true :=
  ⟨candidateOkB_sound A C, candidateOkB_candidate A⟩

example : candidateOkB CandEx.exA (candidate CandEx.exA) = true ∧ candidateOkB CandEx.exA ⟨[], []⟩ = false ∧
    candidateOkB CandEx.exA ⟨[⟨7, [], 5⟩], [5]⟩ = false := by decide +kernel

/-! ### the enumeration the container really provides, and the reference -/

/-- the hypothesis of `C15_every_enumeration_order` discharged by C12: take for the enumeration what ITERATING the rule
container yields after any history `ops` of the mutating calls (`Store.iterate (Store.run ops)`, in whatever order the container
stores the rules).  It lists exactly the rules added since the last `Clear`, so for the automaton `A` with these rules (any
final states) the witness automaton computed from that enumeration is a sub-language and is non-empty whenever `A` is -/
theorem C15_enumeration_by_container (ops : List Store.Op) (F : List Nat) :
    let A : TA := ⟨(Store.specRun ops).rules, F⟩
    Incl (candidateOrd (fun _ => Store.iterate (Store.run ops)) A) A ∧
    ((∃ t, accepts A t = true) → ∃ t, accepts (candidateOrd (fun _ => Store.iterate (Store.run ops)) A) t = true) := by
  intro A
  have h := (Store.iterate_exact ops).2
  exact ⟨(C15_every_enumeration_order _ A).1 (fun r hr => (h r).mp hr),
    (C15_every_enumeration_order _ A).2 (fun r hr => (h r).mpr hr)⟩

-- the container yields the rules in another order than they were added, and each once although two were added twice
example : Store.iterate (Store.run Store.StoreEx.ops1) =
      [Store.StoreEx.r1, Store.StoreEx.r2, Store.StoreEx.r3, Store.StoreEx.r4] ∧
    (Store.specRun Store.StoreEx.ops1).rules.length = 6 := by decide

/-- the checks the driver runs on the automaton the real code returns are decided above the explicit bound, and on the model
they come out as the property says: `inclM` answers `true`, and the two emptiness verdicts coincide -/
theorem C15_model_passes_reference (A : TA) (fuel : Nat) (h : fuelBoundM [candidate A, A] ≤ fuel) :
    inclM (candidate A) A fuel = some true ∧ emptyM (candidate A) fuel = emptyM A fuel := by
  obtain ⟨hi, ⟨b₁, hb₁, e₁⟩, ⟨b₂, hb₂, e₂⟩⟩ := C15_reference_total (candidate A) A fuel h
  refine ⟨(Total.verdicts hi).1 (C15_witness A).2.1, ?_⟩
  rw [hb₁, hb₂]
  congr 1
  rw [Bool.eq_iff_iff, e₁, e₂]
  exact (C15_witness A).2.2.2

example : fuelBoundM [candidate CandEx.exE, CandEx.exE] ≤ 64 := by decide

/-!
## closed since the last refresh of this file

* **"The order-independence theorem quantifies over enumerations of the *rule list*; that the iteration of the C++ three-level
  container yields each rule (C12) is a separate property"** – composed: `C15_enumeration_by_container` (with
  `C12_iteration_exact`; for the iterator OBJECTS see `C12_iterator_protocol_yields_exact`).
* Totality of the reference deciders behind the check (`inclM`, `emptyM`): `C15_reference_total`
  (`Vata/Properties/RefTotal.lean`), composed with the model in `C15_model_passes_reference`.
* The same operation on word automata, with and without start symbols: `C10_witness`, `C10_start_witness_spec`.

## not yet proved

* Nothing of the property statement is missing for the model: sub-language and non-emptiness are proved for `candidate`
  and for every enumeration order.
* Not claimed (and not part of the statement): that the witness automaton accepts exactly one tree, or a smallest one.
* The final `RemoveUnreachableStates` of `GetCandidateTree` returns a result that may share storage with the intermediate
  automaton; sharing is C11 and is not composed with `candidate` here.
-/
end Vata.Props
