import Vata.Proofs.RcStoreXOps
/-!
# Histories over the extended operation set (C18)

`runX F ops` = the state after the history `ops` (eleven kinds of operations, `Vata/RcStoreX.lean`).

* `runX_winv`   – the counting / table / no-failure invariant after EVERY history
* `runX_nz`     – no garbage after every history WITHOUT `project`
* `xno_premature_free`, `xno_double_free`, `xdenotation_stable`, `xtables_exact`
* `xall_released` (histories without `project`; a `decide`d history with `project` where it fails: `exLeak` in
  `Vata/Properties/C18_Extended.lean`)
* the RELATIVE release theorem is in `Vata/Proofs/RcStoreXRel.lean`
-/
namespace Vata.RcSX
open Vata.RcS

/-- no operation of the list is a `Project` -/
def NoProj (ops : List Op) : Prop := ∀ op, op ∈ ops → op.isProject = false

instance (ops : List Op) : Decidable (NoProj ops) := by unfold NoProj; exact inferInstance

theorem NoProj.tail {op : Op} {ops : List Op} (h : NoProj (op :: ops)) : NoProj ops :=
  fun o ho => h o (List.mem_cons_of_mem _ ho)
theorem NoProj.append {a b : List Op} (ha : NoProj a) (hb : NoProj b) : NoProj (a ++ b) := fun o ho => by
  rcases List.mem_append.mp ho with h | h
  · exact ha o h
  · exact hb o h

theorem stepX_st (F : Fns) (x : XStore) (op : Op) : (stepX F x op).st = stepS F x.dv x.st op := rfl

theorem foldlX_winv (F : Fns) : ∀ (ops : List Op) (x : XStore), WInv x.st [] → WInv (ops.foldl (stepX F) x).st []
  | [], _, h => h
  | op :: ops, x, h => foldlX_winv F ops (stepX F x op) (stepS_winv F x.dv op h).1

theorem foldlX_nz (F : Fns) : ∀ (ops : List Op) (x : XStore), WInv x.st [] → NZ x.st → NoProj ops →
    NZ (ops.foldl (stepX F) x).st
  | [], _, _, hz, _ => hz
  | op :: ops, x, h, hz, np =>
    foldlX_nz F ops (stepX F x op) (stepS_winv F x.dv op h).1
      ((stepS_winv F x.dv op h).2.2 (np op List.mem_cons_self) hz) np.tail

/-- the invariant holds after every history -/
theorem runX_winv (F : Fns) (ops : List Op) : WInv (runX F ops).st [] := foldlX_winv F ops xempty inv_empty.1

/-- after every history without `project`: no allocated node has counter 0 -/
theorem runX_nz (F : Fns) (ops : List Op) (np : NoProj ops) : NZ (runX F ops).st :=
  foldlX_nz F ops xempty inv_empty.1 inv_empty.2 np

theorem runX_inv (F : Fns) (ops : List Op) (np : NoProj ops) : Inv (runX F ops).st := ⟨runX_winv F ops, runX_nz F ops np⟩

theorem runX_append (F : Fns) (a b : List Op) : runX F (a ++ b) = b.foldl (stepX F) (runX F a) := by
  simp [runX, List.foldl_append]

/-! ## counters, tables -/

theorem xtables_exact (F : Fns) (ops : List Op) :
    (∀ n v, n ∈ (runX F ops).st.ids → (runX F ops).st.dat n = .leaf v → find v (runX F ops).st.leafT = some n) ∧
    (∀ n lo hi var, n ∈ (runX F ops).st.ids → (runX F ops).st.dat n = .int lo hi var →
      find (lo, hi, var) (runX F ops).st.intT = some n) ∧
    KeysNodup (runX F ops).st.leafT ∧ KeysNodup (runX F ops).st.intT ∧ KeysNodup (runX F ops).st.hs ∧
    (runX F ops).st.ids.Nodup := by
  have hw := runX_winv F ops
  exact ⟨fun n v hn hd => mem_find hw.leafK ((hw.leafOk v n).mpr ⟨hn, hd⟩),
    fun n lo hi' var hn hd => mem_find hw.intK ((hw.intOk (lo, hi', var) n).mpr ⟨hn, hd⟩),
    hw.leafK, hw.intK, hw.hsK, hw.nd⟩

/-! ## no premature free, no double free -/

theorem xno_premature_free (F : Fns) (ops : List Op) (h r : Nat) (hm : (h, r) ∈ (runX F ops).st.hs) (n : Nat)
    (hr : Reach (runX F ops).st.dat r n) : n ∈ (runX F ops).st.ids ∧ n ∉ (runX F ops).st.freed :=
  have hw := runX_winv F ops
  have hn := WInv.reach_alloc hw hm hr
  ⟨hn, fun hf => (hw.freedOk n hf).1 hn⟩

theorem xno_double_free (F : Fns) (ops : List Op) :
    (runX F ops).st.freed.Nodup ∧ (∀ n, n ∈ (runX F ops).st.freed → n ∉ (runX F ops).st.ids) ∧
    (runX F ops).st.err = false :=
  have hw := runX_winv F ops
  ⟨hw.freedNd, fun n hn => (hw.freedOk n hn).1, hw.noerr⟩

/-! ## denotations of the other handles are stable -/

theorem foldlX_stable (F : Fns) {h r : Nat} : ∀ (ops : List Op) (x : XStore), WInv x.st [] → (h, r) ∈ x.st.hs →
    (∀ op, op ∈ ops → op.target ≠ h) →
    (h, r) ∈ (ops.foldl (stepX F) x).st.hs ∧ ∀ ρ, denote (ops.foldl (stepX F) x).st r ρ = denote x.st r ρ
  | [], _, _, hm, _ => ⟨hm, fun _ => rfl⟩
  | op :: ops, x, hi, hm, ht => by
    obtain ⟨w1, f1, _⟩ := stepS_winv F x.dv op hi
    obtain ⟨h1, _, h2⟩ := WInv.frame_denote hi f1 hm (Ne.symm (ht op List.mem_cons_self))
    obtain ⟨h3, h4⟩ := foldlX_stable F ops (stepX F x op) w1 h1 (fun op' ho => ht op' (List.mem_cons_of_mem _ ho))
    exact ⟨h3, fun ρ => (h4 ρ).trans (h2 ρ)⟩

theorem xdenotation_stable (F : Fns) (ops more : List Op) (h r : Nat) (hm : (h, r) ∈ (runX F ops).st.hs)
    (ht : ∀ op, op ∈ more → op.target ≠ h) :
    (h, r) ∈ (runX F (ops ++ more)).st.hs ∧
    ∀ ρ, denote (runX F (ops ++ more)).st r ρ = denote (runX F ops).st r ρ := by
  rw [runX_append]
  exact foldlX_stable F more _ (runX_winv F ops) hm ht

/-- the contents of the nodes that exist at some point never change later; node ids only grow -/
theorem foldlX_frame (F : Fns) : ∀ (ops : List Op) (x : XStore), WInv x.st [] →
    x.st.next ≤ (ops.foldl (stepX F) x).st.next ∧ ∀ n, n < x.st.next → (ops.foldl (stepX F) x).st.dat n = x.st.dat n
  | [], _, _ => ⟨Nat.le_refl _, fun _ _ => rfl⟩
  | op :: ops, x, hi => by
    obtain ⟨w1, f1, _⟩ := stepS_winv F x.dv op hi
    obtain ⟨a, b⟩ := foldlX_frame F ops (stepX F x op) w1
    exact ⟨Nat.le_trans f1.next a, fun n hn => (b n (Nat.lt_of_lt_of_le hn f1.next)).trans (f1.dat n hn)⟩

/-! ## everything is released – without `project` -/

theorem xall_released (F : Fns) (ops : List Op) (np : NoProj ops) (hh : (runX F ops).st.hs = []) :
    tableSizes (runX F ops).st = tableSizes empty ∧ (runX F ops).st.ids = [] :=
  (runX_inv F ops np).released hh

/-- a handle that is live after the destructors of `L` was live before and is not in `L` -/
theorem foldlX_destroy_keep (F : Fns) : ∀ (L : List Nat) (x : XStore), WInv x.st [] →
    (∀ h r, (h, r) ∈ ((L.map Op.destroy).foldl (stepX F) x).st.hs → (h, r) ∈ x.st.hs ∧ h ∉ L)
  | [], x, _ => fun h r hm => ⟨hm, by simp⟩
  | t :: L, x, hi => by
    intro h r hm
    simp only [List.map_cons, List.foldl_cons] at hm
    obtain ⟨⟨i1, f1, -, -⟩, n1⟩ := destroy_ok (h := t) hi
    obtain ⟨a, b⟩ := foldlX_destroy_keep F L (stepX F x (.destroy t)) i1 h r hm
    have hne : h ≠ t := fun e => n1 r (e ▸ a)
    refine ⟨f1.hs' h r a hne, ?_⟩
    intro hc
    rcases List.mem_cons.mp hc with e | e
    · exact hne e
    · exact b e

theorem foldlX_destroy_hs (F : Fns) (L : List Nat) (x : XStore) (hi : WInv x.st []) (hL : ∀ h r, (h, r) ∈ x.st.hs → h ∈ L) :
    ((L.map Op.destroy).foldl (stepX F) x).st.hs = [] :=
  List.eq_nil_iff_forall_not_mem.mpr fun ⟨h, r⟩ hm =>
    have ⟨a, b⟩ := foldlX_destroy_keep F L x hi h r hm
    b (hL h r a)

theorem noProj_destroys (L : List Nat) : NoProj (L.map Op.destroy) := by
  intro op ho
  obtain ⟨h, _, rfl⟩ := List.mem_map.mp ho
  rfl

theorem xall_released_destroyAll (F : Fns) (ops : List Op) (np : NoProj ops) :
    tableSizes (runX F (ops ++ destroyAllX (runX F ops).st)).st = tableSizes empty ∧
    (runX F (ops ++ destroyAllX (runX F ops).st)).st.ids = [] := by
  have e : destroyAllX (runX F ops).st = ((runX F ops).st.hs.map (·.1)).map Op.destroy := by
    simp [destroyAllX, List.map_map, Function.comp_def]
  have hh : (runX F (ops ++ destroyAllX (runX F ops).st)).st.hs = [] := by
    rw [runX_append, e]
    exact foldlX_destroy_hs F _ _ (runX_winv F ops) (fun h r hm => List.mem_map.mpr ⟨(h, r), hm, rfl⟩)
  exact xall_released F _ (np.append (e ▸ noProj_destroys _)) hh

end Vata.RcSX
