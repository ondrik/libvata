import Vata.Lang
import Vata.Spec
import Vata.TrimCoded
import Vata.Proofs.TrimCodedResult
import Vata.Proofs.PropAux
/-!
# C03 (coded) – the work-lists of explicit trimming AS CODED

> RemoveUnreachableStates and RemoveUselessStates return an automaton with the same language as their input.  After
> RemoveUnreachableStates every state that still occurs is reachable top-down from a final state; after
> RemoveUselessStates every remaining state and rule takes part in some accepting run.  IsLangEmpty returns true exactly
> when the automaton accepts no tree.

This file closes the two items "the shortcut is not a branch of the model" and "the `remaining` counters are modelled
by rounds" of `Vata/Properties/C03.lean`.

## How the C++ is read into the model (`Vata/TrimCoded.lean`; every definition quotes the lines it mirrors)

* `src/explicit_tree_useless.cc`, `ExplicitTreeAutCore::RemoveUselessStates` → `uselessCoded`:
  the first loop over all transitions (`initLoop`/`initStep`: a leaf transition is pushed to `reachableTransitions`
  and its parent inserted/pushed; a non-leaf transition is appended to `stateMap[s]` and `++remaining` once for every
  element `s` of its `childrenSet_`, a `std::set`, so a REPEATED child is counted once), the `while` over the stack
  `newStates` (`mainLoop`: pop, `stateMap.find`, for every registered info `reachedBy` = erase from `childrenSet_` and
  test emptiness (`innerStep`); when it fires: `push_back`, `--remaining` – ONCE PER TRANSITION, although the counter was
  incremented once per distinct child –, insert/push the parent), the filtering of the final states, the branch
  `if (!remaining)` (share `transitions_`) versus re-adding the fired transitions, and the final call of
  `RemoveUnreachableStates` (`finish`).
  So in the C++ `remaining == 0` does not mean "no pair is waiting" but "as many transitions fired as pairs were
  registered"; it can only hold when every non-leaf transition has exactly one distinct child and fired.  The branch is
  therefore a conservative shortcut; `C03_coded_useless_shortcut_sound` proves it sound.
* `src/explicit_tree_unreach.cc`, `RemoveUnreachableStates` → `unreachCoded`: seed set/stack from the final states,
  `while` loop with `genericLookup` (`clusterOf`) and insert/push of every child (`unreachLoop`, `procCluster`,
  `pushNew`), the repaired shortcut "every cluster owner is reachable → `return *this`" (`testOwners`), else the new
  cluster map built by iterating over `reachableStates` (`R.flatMap (clusterOf A)`).
* `IsLangEmpty` (`explicit_tree_aut_core.hh`) → `isLangEmptyCoded`.
* Hash-container iteration orders are list orders (rule order of the input, insertion order of the sets); the theorems
  hold for every input list, i.e. for every order.  Shared pointers to `TransitionInfo` are indices.
* Fuel: `mainLoop` runs with fuel `|rules|`, `unreachLoop` with `unreachFuel A = |dedup final| + |states|`;
  `C03_coded_total` proves that the work-lists are empty at the end (so no iteration is cut off).
* The slips are the same code with another parameter: `uselessWith decArity …` (`remaining -= arity`),
  `unreachWith testSizes` (the shortcut before commit f15a7dcd).

## Abstracted

* The pointer structure (`transitions_` as a map of maps with shared clusters; `result.transitions_ = transitions_`
  is "the same rule list"): sharing is the subject of C11.  A cluster owner with an EMPTY cluster does not exist in the
  rule-list view.  `pTranslMap` (identity map on the reachable states) is not modelled.
* `std::set` iteration order of `childrenSet_` (insertion order is used; it has no influence, see `Vata/TrimCoded.lean`).
* The relation-parametrised template `RemoveUnreachableStates(rel, index)` of `explicit_tree_unreach.hh` is not modelled.
* `assert`s are not branches of the model; that the one in `reachedBy` never fails is part of the loop invariant
  (`TrimCoded.Inv.assert_holds`).
-/
namespace Vata.Props
open Vata.TrimCoded

/-! ### the computed sets -/

/-- the counters/work-list of `RemoveUselessStates` compute exactly the productive states, the work-list of
`RemoveUnreachableStates` exactly the states reachable top-down from a final state (no hypothesis on `A`) -/
theorem C03_coded_worklists_exact (A : TA) :
    (∀ q, q ∈ prodCoded A ↔ q ∈ prodStates A) ∧ (∀ q, q ∈ prodCoded A ↔ Productive A q) ∧
    (∀ q, q ∈ unreachSet A ↔ q ∈ tdReach A) ∧ (∀ q, q ∈ unreachSet A ↔ TdReachable A q) :=
  ⟨mem_prodCoded A, fun q => (mem_prodCoded A q).trans (prodStates_iff A q),
    mem_unreachSet A, fun q => (mem_unreachSet A q).trans (tdReach_iff A q)⟩

example : prodCoded TrimEx.exA = [0, 4, 1, 5] ∧ unreachSet TrimEx.exA = [1, 3, 2, 0] := by decide +kernel

/-- totality: with the fuel built into `uselessCoded` / `unreachCoded` both work-lists are empty at the end -/
theorem C03_coded_total (A : TA) :
    (finalSt decOne A).work = [] ∧
    (unreachLoop A (unreachFuel A) (dedupL A.final, (dedupL A.final).reverse)).2 = [] :=
  ⟨finalSt_work A, unreachLoop_done A⟩

example : (finalSt decOne TrimEx.exA).rtrans = [0, 3, 1, 4] ∧ (finalSt decOne TrimEx.exA).remaining = 2 := by decide +kernel

/-! ### `RemoveUnreachableStates` as coded -/

/-- `unreachCoded A` and `removeUnreachable A` have equal final-state lists and the same rules up to order and
multiplicity (mutual membership) -/
theorem C03_coded_unreach_same (A : TA) :
    (unreachCoded A).final = (removeUnreachable A).final ∧
    (∀ r, r ∈ (unreachCoded A).rules ↔ r ∈ (removeUnreachable A).rules) :=
  ⟨unreachCoded_final A, mem_unreachCoded_rules A⟩

/-- when the shortcut fires the input is returned AND the filter of the slow path / of `removeUnreachable` removes
nothing (equal lists); conversely the shortcut fires whenever nothing would be removed -/
theorem C03_coded_unreach_shortcut_sound (A : TA) :
    (testOwners A (unreachSet A) = true → unreachCoded A = A ∧ removeUnreachable A = A) ∧
    (testOwners A (unreachSet A) = true ↔ (removeUnreachable A).rules = A.rules) :=
  ⟨shortcut_sound A, shortcut_iff A⟩

-- both branches occur
example : testOwners (removeUnreachable TrimEx.exA) (unreachSet (removeUnreachable TrimEx.exA)) = true ∧
    testOwners TrimEx.exA (unreachSet TrimEx.exA) = false := by decide +kernel

/-- same language -/
theorem C03_coded_unreach_lang (A : TA) : LangEq (unreachCoded A) A :=
  fun t => ((unreachCoded_equiv A).lang t).trans (removeUnreachable_lang A t)

/-- every state that still occurs is reachable top-down from a final state -/
theorem C03_coded_unreach_post (A : TA) (q : Nat) (h : Occurs (unreachCoded A) q) : TdReachable (unreachCoded A) q :=
  (unreachCoded_equiv A).symm.tdReachable (removeUnreachable_post A q ((unreachCoded_equiv A).occurs h))

example : (unreachCoded TrimEx.exA).rules = [⟨1, [0, 0], 1⟩, ⟨2, [2], 3⟩, ⟨0, [], 0⟩] ∧ TrimEx.exA.rules.length = 5 ∧
    accepts (unreachCoded TrimEx.exA) TrimEx.exT = true := by decide +kernel

/-! ### `RemoveUselessStates` as coded -/

/-- `uselessCoded A` and `removeUseless A` have equal final-state lists and the same rules up to order and
multiplicity (mutual membership) -/
theorem C03_coded_useless_same (A : TA) :
    (uselessCoded A).final = (removeUseless A).final ∧
    (∀ r, r ∈ (uselessCoded A).rules ↔ r ∈ (removeUseless A).rules) :=
  ⟨uselessCoded_final A, (uselessCoded_equiv A).1⟩

/-- the branch `if (!remaining)`: when the counter is 0 at the end, every rule of the input survives the restriction
to the productive states, so sharing `transitions_` equals re-adding the fired transitions -/
theorem C03_coded_useless_shortcut_sound (A : TA) (h : (finalSt decOne A).remaining = 0) :
    (restrict A (prodStates A)).rules = A.rules := by
  unfold restrict
  simp only
  rw [List.filter_eq_self]
  intro r hr
  have := remaining_zero_sound A h r hr
  unfold restrict at this
  exact (List.mem_filter.mp this).2

-- the branch is taken on a unary automaton, and not on `exA`
example : (finalSt decOne ⟨[⟨0, [], 0⟩, ⟨1, [0], 1⟩, ⟨2, [1, 1], 2⟩], [2]⟩).remaining = 0 ∧
    (finalSt decOne TrimEx.exA).remaining = 2 := by decide +kernel

/-- same language -/
theorem C03_coded_useless_lang (A : TA) : LangEq (uselessCoded A) A :=
  fun t => ((uselessCoded_equiv A).lang t).trans (removeUseless_lang A t)

/-- every remaining state and every remaining rule takes part in some accepting run -/
theorem C03_coded_useless_post (A : TA) :
    (∀ q, Occurs (uselessCoded A) q → UsefulState (uselessCoded A) q) ∧
    (∀ r, r ∈ (uselessCoded A).rules → UsefulRule (uselessCoded A) r) :=
  BddAbsTD.SetEqTA.allUseful (uselessCoded_equiv A) (allGood_removeUseless A).useful

example : (uselessCoded TrimEx.exA).rules = [⟨1, [0, 0], 1⟩, ⟨0, [], 0⟩] ∧ (uselessCoded TrimEx.exA).final = [1] ∧
    accepts (uselessCoded TrimEx.exA) TrimEx.exT = true ∧ TrimEx.exA.rules.length = 5 := by decide +kernel

/-- `IsLangEmpty` as coded answers `true` exactly when no tree is accepted -/
theorem C03_coded_emptiness_exact (A : TA) : isLangEmptyCoded A = true ↔ LangEmpty A := by
  unfold isLangEmptyCoded
  rw [List.isEmpty_iff, uselessCoded_final, PropAux.removeUseless_final_nil]
  exact isEmptyRef_iff A

example : isLangEmptyCoded TrimEx.exEmpty = true ∧ isLangEmptyCoded TrimEx.exA = false := by decide +kernel

/-! ### regression: the two slips are visible in the model -/

/-- `a → 0`, `f(0,0) → 1`, `g(2) → 1`, final `1`: state `2` is not productive -/
def CodedEx.slip1 : TA := ⟨[⟨0, [], 0⟩, ⟨1, [0, 0], 1⟩, ⟨2, [2], 1⟩], [1]⟩

/-- with the slip `remaining -= arity` (instead of `--remaining`) the counter reaches 0 although `g(2) → 1` never
fired (`f(0,0)` was registered once but subtracts 2): the sharing branch is taken and the useless rule and state
are kept; the code as written removes them -/
theorem C03_coded_regression_remaining :
    (finalSt decArity CodedEx.slip1).remaining = 0 ∧
    (uselessWith decArity testOwners CodedEx.slip1).rules = [⟨0, [], 0⟩, ⟨1, [0, 0], 1⟩, ⟨2, [2], 1⟩] ∧
    allUsefulB (uselessWith decArity testOwners CodedEx.slip1) = false ∧
    (finalSt decOne CodedEx.slip1).remaining = 1 ∧
    (uselessCoded CodedEx.slip1).rules = [⟨0, [], 0⟩, ⟨1, [0, 0], 1⟩] ∧
    allUsefulB (uselessCoded CodedEx.slip1) = true := by decide +kernel

/-- `a → 1`, final `0`: the reachable state `0` owns no rule, the unreachable state `1` owns one -/
def CodedEx.slip2 : TA := ⟨[⟨0, [], 1⟩], [0]⟩

/-- with the OLD shortcut (set SIZES compared, before commit f15a7dcd) the unreachable state `1` and its rule are
kept; the repaired code removes them -/
theorem C03_coded_regression_shortcut :
    testSizes CodedEx.slip2 (unreachSet CodedEx.slip2) = true ∧
    (unreachWith testSizes CodedEx.slip2).rules = [⟨0, [], 1⟩] ∧
    allReachableB (unreachWith testSizes CodedEx.slip2) = false ∧
    testOwners CodedEx.slip2 (unreachSet CodedEx.slip2) = false ∧
    (unreachCoded CodedEx.slip2).rules = [] ∧
    allReachableB (unreachCoded CodedEx.slip2) = true := by decide

/-!
## still not proved

* Rule lists are compared up to order and multiplicity (mutual membership; the final-state lists are equal).  No
  canonical order is fixed: the order in which the C++ result enumerates its rules is a hash order anyway.
* The pointer level (which clusters of the result are shared with the input, `pTranslMap`, cluster owners with an empty
  cluster) is not part of this model; sharing is treated in C11.
* The template `RemoveUnreachableStates(rel, index)` of `explicit_tree_unreach.hh` (antichain pruning with a
  simulation relation) is not modelled here.
* That `remaining` never underflows in the C++ (`size_t`) is not stated as a theorem of its own; the model uses
  truncated subtraction and the proofs only need `(remaining - 1) + 1 ≥ remaining`.  (It follows from the invariant:
  a transition fires at most once and contributed at least 1.)
* The correspondence "model = real C++" is established by testing (`uselessCoded`, `unreachCoded`, `prodCoded`
  against the library on generated inputs), not by proof.
-/
end Vata.Props
