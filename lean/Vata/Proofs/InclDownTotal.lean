import Vata.Proofs.InclDownInv
/-!
# Termination and totality of the downward inclusion models

The explorations end when the fuel (the nesting depth of the calls) exceeds `fuelBoundD A B = |Q_A| · 2^|Q_B|`: a pair is
explored only if the work-set does not cover it, afterwards it does.  Hence on an `A` without unproductive children the
models return a verdict, and so the right one, for every fuel above the bound; the models of `CheckInclusion` (operands
sanitised first) need no hypothesis.
-/
namespace Vata
namespace InclDown
open InclUp (Wit prodWit lookupT normS Cert)

variable {o : Ord} {A B : TA}

/-- the recursive call never runs out of fuel on pairs over the states of `A` and `B` (the induction hypothesis of totality, one
unit of fuel lower) -/
def TotalCall (A B : TA) (call : Call) : Prop :=
  ∀ cc st p P, p ∈ A.states → (∀ s, s ∈ P → s ∈ B.states) → call cc st p P ≠ none

theorem forAllL_total {α : Type} {f : α → List Pair → St → Ret} (as : List α)
    (h : ∀ a, a ∈ as → ∀ cc st, f a cc st ≠ none) (cc : List Pair) (st : St) : forAllL f as cc st ≠ none := by
  induction as generalizing cc st with
  | nil => exact Option.some_ne_none _
  | cons a as ih =>
    simp only [forAllL]
    split
    · next heq => exact absurd heq (h a List.mem_cons_self cc st)
    · exact ih (fun a' ha' => h a' (List.mem_cons_of_mem _ ha')) _ _
    · exact Option.some_ne_none _

theorem allPos_total {call : Call} (hc : TotalCall A B call) {lhs rhs : List Nat}
    (hl : ∀ l, l ∈ lhs → l ∈ A.states) (hr : ∀ s, s ∈ rhs → s ∈ B.states) (cc : List Pair) (st : St) :
    allPos call lhs rhs cc st ≠ none := by
  refine forAllL_total _ (fun lr hlr cc st => ?_) cc st
  obtain ⟨h1, h2⟩ := List.of_mem_zip hlr
  exact hc cc st lr.1 [lr.2] (hl _ h1) (fun s hs => List.mem_singleton.mp hs ▸ hr _ h2)

theorem anyTuple_total {call : Call} (hc : TotalCall A B call) {lhs : List Nat}
    (hl : ∀ l, l ∈ lhs → l ∈ A.states) (W : List (List Nat)) (hW : ∀ w, w ∈ W → ∀ s, s ∈ w → s ∈ B.states)
    (cc : List Pair) (st : St) : anyTuple call lhs W cc st ≠ none := by
  induction W generalizing cc st with
  | nil => exact Option.some_ne_none _
  | cons w W ih =>
    simp only [anyTuple]
    split
    · next heq => exact absurd heq (allPos_total hc hl (hW w List.mem_cons_self) cc st)
    · exact Option.some_ne_none _
    · exact ih (fun w' hw' => hW w' (List.mem_cons_of_mem _ hw')) _ _

theorem rawSet_sub {W : List (List Nat)} {cs : List Nat} {i s : Nat} (h : s ∈ rawSet W cs i) :
    ∃ w, w ∈ W ∧ s ∈ w := by
  obtain ⟨w, c, hz, _, hget⟩ := mem_rawSet.mp h
  exact ⟨w, (List.of_mem_zip hz).1, List.mem_of_getElem? hget⟩

theorem consT_ne_none {t : Tree} {r : Option (Option (List Tree) × List Pair × St)} (h : r ≠ none) :
    consT t r ≠ none := by
  rcases r with _ | ⟨_ | _, _, _⟩
  · exact h
  · exact Option.some_ne_none _
  · exact Option.some_ne_none _

theorem tryPos_total {call : Call} {wit : Wit} {post : List Nat → List Nat} (hc : TotalCall A B call)
    (hps : ∀ l s, s ∈ post l → s ∈ l) {W : List (List Nat)} (hW : ∀ w, w ∈ W → ∀ s, s ∈ w → s ∈ B.states)
    (cs : List Nat) (ls : List Nat) (hl : ∀ l, l ∈ ls → l ∈ A.states) (i : Nat) (cc : List Pair) (st : St) :
    tryPos call wit post W cs i ls cc st ≠ none := by
  induction ls generalizing i cc st with
  | nil => exact Option.some_ne_none _
  | cons l ls ih =>
    have ih := ih (fun l' h => hl l' (List.mem_cons_of_mem _ h)) (i+1)
    simp only [tryPos]
    split
    · exact consT_ne_none (ih _ _)
    · split
      · next heq =>
        refine absurd heq (hc cc st l (posSet post W cs i) (hl l List.mem_cons_self) (fun s hs => ?_))
        obtain ⟨w, hw, hsw⟩ := rawSet_sub (hps _ s hs)
        exact hW w hw s hsw
      · exact Option.some_ne_none _
      · exact consT_ne_none (ih _ _)

theorem oneCf_total {call : Call} {wit : Wit} {post : List Nat → List Nat} (hc : TotalCall A B call)
    (hps : ∀ l s, s ∈ post l → s ∈ l) {W : List (List Nat)} (hW : ∀ w, w ∈ W → ∀ s, s ∈ w → s ∈ B.states)
    (f : Nat) {lhs : List Nat} (hl : ∀ l, l ∈ lhs → l ∈ A.states) (cs : List Nat) (cc : List Pair) (st : St) :
    oneCf call wit post f lhs W cs cc st ≠ none := by
  unfold oneCf
  split
  · next heq => exact absurd heq (tryPos_total hc hps hW cs lhs hl 0 cc st)
  · exact Option.some_ne_none _
  · exact Option.some_ne_none _

theorem cfAll_total {one : List Nat → List Pair → St → Ret} (h : ∀ cs cc st, one cs cc st ≠ none) (n m : Nat)
    (cs : List Nat) (cc : List Pair) (st : St) : cfAll one n m cs cc st ≠ none := by
  induction m generalizing cs cc st with
  | zero => exact h cs cc st
  | succ m ih => exact forAllL_total _ (fun i _ cc st => ih (i :: cs) cc st) cc st

theorem procTuple_total {call1 call2 : Call} {wit : Wit} {post : List Nat → List Nat}
    (hc1 : TotalCall A B call1) (hc2 : TotalCall A B call2) (hps : ∀ l s, s ∈ post l → s ∈ l)
    {W : List (List Nat)} (hW : ∀ w, w ∈ W → ∀ s, s ∈ w → s ∈ B.states) (f : Nat) {lhs : List Nat}
    (hl : ∀ l, l ∈ lhs → l ∈ A.states) (cc : List Pair) (st : St) :
    procTuple call1 call2 wit post f W lhs cc st ≠ none := by
  unfold procTuple
  split
  · next heq => exact absurd heq (anyTuple_total hc1 hl W hW cc st)
  · exact Option.some_ne_none _
  · exact cfAll_total (fun cs cc st => oneCf_total hc2 hps hW f hl cs cc st) _ _ _ _ _

theorem rhsTuples_states {B : TA} {P : List Nat} {f n : Nat} : ∀ w, w ∈ rhsTuples B P f n → ∀ s, s ∈ w → s ∈ B.states := by
  intro w hw s hs
  obtain ⟨σ, hσ, hσw⟩ := mem_rhsTuples.mp hw
  exact kid_mem_states (mem_rulesOf.mp hσ).1 (by rw [hσw]; exact hs)

theorem lhsTuples_states {A : TA} {p f n : Nat} : ∀ lhs, lhs ∈ lhsTuples A p f n → ∀ l, l ∈ lhs → l ∈ A.states := by
  intro lhs hlhs l hl
  obtain ⟨ρ, hρ, _, _, _, hk⟩ := mem_lhsTuples.mp hlhs
  exact kid_mem_states hρ (by rw [hk]; exact hl)

theorem procGroup_total {call1 call2 : Call} {wit : Wit} {post : List Nat → List Nat}
    (hc1 : TotalCall A B call1) (hc2 : TotalCall A B call2) (hps : ∀ l s, s ∈ post l → s ∈ l)
    (p : Nat) (P : List Nat) (f n : Nat) (cc : List Pair) (st : St) :
    procGroup call1 call2 A B wit post p P f n cc st ≠ none := by
  cases n with
  | zero =>
    rw [procGroup_zero]
    split <;> exact Option.some_ne_none _
  | succ n =>
    rw [procGroup_succ]
    split
    · exact Option.some_ne_none _
    · exact forAllL_total _ (fun lhs hlhs cc st =>
        procTuple_total hc1 hc2 hps rhsTuples_states f (lhsTuples_states lhs hlhs) cc st) cc st

theorem body_total {call1 call2 : Call} {wit : Wit} {post : List Nat → List Nat}
    (hc1 : TotalCall A B call1) (hc2 : TotalCall A B call2) (hps : ∀ l s, s ∈ post l → s ∈ l)
    (p : Nat) (P : List Nat) (cc : List Pair) (st : St) : body call1 call2 A B wit post p P cc st ≠ none :=
  forAllL_total _ (fun g _ => procGroup_total hc1 hc2 hps p P g.1 g.2) cc st

def fuelBoundD (A B : TA) : Nat := A.states.length * 2 ^ B.states.length

/-- the measure: the pairs (state of `A`, sublist of the states of `B`) that the work-set does not cover yet -/
def muD (o : Ord) (A B : TA) (ws : List Pair) : Nat :=
  (pairUniv A.states B.states).countP (fun x => !covers o ws x.1 x.2)

theorem muD_le (o : Ord) (A B : TA) (ws : List Pair) : muD o A B ws ≤ fuelBoundD A B :=
  Nat.le_trans List.countP_le_length (Nat.le_of_eq (length_pairUniv A.states B.states))

theorem setLe_mono {S P P' : List Nat} (h : setLe o S P = true) (hP : ∀ s, s ∈ P → s ∈ P') :
    setLe o S P' = true := by
  simp only [setLe, List.all_eq_true, List.any_eq_true] at h ⊢
  intro s' hs'
  obtain ⟨s, hs, hle⟩ := h s' hs'
  exact ⟨s, hP s hs, hle⟩

theorem covers_mono {ws : List Pair} {p : Nat} {P P' : List Nat} (h : covers o ws p P = true)
    (hP : ∀ s, s ∈ P → s ∈ P') : covers o ws p P' = true := by
  simp only [covers, List.any_eq_true, Bool.and_eq_true] at h ⊢
  obtain ⟨x, hx, h1, h2⟩ := h
  exact ⟨x, hx, h1, setLe_mono h2 hP⟩

theorem muD_push_lt (hr : OrdRefl o) {ws : List Pair} {p : Nat} {P : List Nat}
    (hp : p ∈ A.states) (hP : ∀ s, s ∈ P → s ∈ B.states) (hc : covers o ws p P = false) :
    muD o A B ((p, P) :: ws) < muD o A B ws := by
  refine uncovered_lt (c := covers o ws) (c' := covers o ((p, P) :: ws)) (fun _ _ _ _ hS h => covers_mono h hS)
    (fun _ _ _ _ hS h => covers_mono h hS) (fun q S h => ?_) hp hP hc ?_
  · exact (List.any_cons ..).trans (Bool.or_eq_true_iff.mpr (Or.inr h))
  · rw [covers, List.any_cons, hr.reflA p, Bool.true_and, Bool.or_eq_true]
    refine Or.inl ?_
    simp only [setLe, List.all_eq_true, List.any_eq_true]
    exact fun s hs => ⟨s, hs, hr.reflB s⟩

theorem callEnd_ne_none {cc : List Pair} {st : St} {p : Nat} {P : List Nat} {r : Ret} (h : r ≠ none) :
    callEnd o cc st p P r ≠ none := by
  rcases r with _ | ⟨_ | w, cc1, st1⟩
  · exact absurd rfl h
  · exact Option.some_ne_none _
  · exact Option.some_ne_none _

theorem expandStep_ne_none {bd : List Pair → St → Ret} {ws cc : List Pair} {st : St} {p : Nat} {P : List Nat}
    (hb : covers o ws p P = false → bd [] st ≠ none) : expandStep o bd ws cc st p P ≠ none := by
  intro h
  cases expandStep_case h with
  | body hws _ _ _ he => exact callEnd_ne_none (hb hws) he.symm

theorem expand_total (hr : OrdRefl o) {wit : Wit} (fuel : Nat) :
    ∀ (ws : List Pair), muD o A B ws < fuel → TotalCall A B (expand o A B wit fuel ws) := by
  induction fuel with
  | zero => exact fun _ h => nomatch h
  | succ fuel ih =>
    intro ws h cc st p P hp hP
    rw [expand_succ]
    refine expandStep_ne_none (fun hws => ?_)
    have hc := ih ((p, P) :: ws) (Nat.lt_of_lt_of_le (muD_push_lt hr hp hP hws) (Nat.le_of_lt_succ h))
    exact body_total hc hc (fun _ _ hs => InclUp.mem_normS.mp hs) p P [] st

theorem rootLoopWith_ne_none {bd : Nat → List Pair → St → Ret} (hb : ∀ f cc st, bd f cc st ≠ none)
    (FB : List Nat) (fs : List Nat) (cc : List Pair) (st : St) : rootLoopWith o bd FB fs cc st ≠ none := by
  induction fs generalizing cc st with
  | nil => exact Option.some_ne_none _
  | cons f fs ih =>
    simp only [rootLoopWith]
    split
    · exact ih cc st
    · split
      · next heq => exact absurd heq (hb f cc st)
      · exact ih _ _
      · exact Option.some_ne_none _

theorem runOf_some {r : Option (Except Tree St)} (h : r ≠ none) : ∃ res, runOf r = some res := by
  rcases r with _ | (_ | _)
  · exact absurd rfl h
  · exact ⟨_, rfl⟩
  · exact ⟨_, rfl⟩

theorem run_terminates {o : Ord} (hr : OrdRefl o) {A B : TA} {fuel : Nat} (h : fuelBoundD A B < fuel) :
    ∃ r, run o A B fuel = some r := by
  have hc : TotalCall A B (expand o A B (prodWit A) fuel []) :=
    expand_total hr fuel [] (Nat.lt_of_le_of_lt (muD_le o A B []) h)
  rw [run_eq_runOf, rootLoop_eq_with]
  exact runOf_some (rootLoopWith_ne_none
    (fun f cc st => body_total hc hc (fun _ _ hs => InclUp.mem_normS.mp hs) f _ cc st) _ _ _ _)

theorem cachedCall_total {call : Call} (hc : TotalCall A B call) :
    TotalCall A B (cachedCall o call) := by
  intro cc st p P hp hP
  unfold cachedCall
  split
  · simp
  · have := hc cc st p P hp hP
    split
    · next heq => exact absurd heq this
    · simp
    · simp

theorem maxPost_sub (o : Ord) : ∀ (l : List Nat) (s : Nat), s ∈ normS (maxElems o l []) → s ∈ l := by
  intro l s hs
  rcases mem_maxElems (InclUp.mem_normS.mp hs) with h | h
  · exact h
  · exact absurd h List.not_mem_nil

theorem callEndN_ne_none {cc : List Pair} {st : St} {p : Nat} {P : List Nat} {r : Ret} (h : r ≠ none) :
    callEndN cc st p P r ≠ none := by
  rcases r with _ | ⟨_ | w, cc1, st1⟩
  · exact absurd rfl h
  · exact Option.some_ne_none _
  · exact Option.some_ne_none _

theorem expandN_total (hr : OrdRefl o) {wit : Wit} (fuel : Nat) :
    ∀ (ws : List Pair), muD o A B ws < fuel → TotalCall A B (expandN o A B wit fuel ws) := by
  induction fuel with
  | zero => exact fun _ h => nomatch h
  | succ fuel ih =>
    intro ws h cc st p P hp hP he
    cases expandN_case he with
    | body _ hws _ he =>
      have hc := ih ((p, P) :: ws) (Nat.lt_of_lt_of_le (muD_push_lt hr hp hP hws) (Nat.le_of_lt_succ h))
      exact callEndN_ne_none
        (body_total (wit := wit) hc (cachedCall_total (o := o) hc) (maxPost_sub o) p P [] st) he.symm

theorem rootLoopN_total {wit : Wit} {fuel : Nat}
    (hc : TotalCall A B (expandN o A B wit fuel [])) {FB : List Nat} (hFB : ∀ s, s ∈ FB → s ∈ B.states)
    (fs : List Nat) (hfs : ∀ f, f ∈ fs → f ∈ A.states) (st : St) : rootLoopN o A B wit fuel FB fs st ≠ none := by
  induction fs generalizing st with
  | nil => exact Option.some_ne_none _
  | cons f fs ih =>
    simp only [rootLoopN]
    split
    · next heq => exact absurd heq (hc [] st f FB (hfs f List.mem_cons_self) hFB)
    · exact ih (fun f' hf' => hfs f' (List.mem_cons_of_mem _ hf')) _
    · exact Option.some_ne_none _

theorem runN_terminates {o : Ord} (hr : OrdRefl o) {A B : TA} {fuel : Nat} (h : fuelBoundD A B < fuel) :
    ∃ r, runN o A B fuel = some r :=
  have hc : TotalCall A B (expandN o A B (prodWit A) fuel []) :=
    expandN_total hr fuel [] (Nat.lt_of_le_of_lt (muD_le o A B []) h)
  runOf_some (rootLoopN_total hc (FB := normS B.final)
    (fun _ hs => final_mem_states (InclUp.mem_normS.mp hs)) (dedup A.final)
    (fun _ hf => final_mem_states (mem_dedup.mp hf)) ⟨[], []⟩)

theorem total_of_terminates {m : Option (Bool × Cert)} {r : Option (Except Tree (List Pair))}
    (he : m = verdictOf r) (ht : ∃ res, r = some res) : ∃ b c, m = some (b, c) := by
  obtain ⟨res, rfl⟩ := ht
  cases res with
  | ok X => exact ⟨true, .closed X, he⟩
  | error w => exact ⟨false, .witness w, he⟩

end InclDown

open InclDown

theorem inclDownRec_total {A B : TA} (hA : KidsProductive A) {fuel : Nat} (hf : fuelBoundD A B < fuel) :
    ∃ b c, inclDownRec A B fuel = some (b, c) :=
  total_of_terminates (inclDownRec_eq_run hA fuel) (run_terminates ordRefl_id hf)

theorem inclDownRec_complete {A B : TA} (hA : KidsProductive A) {fuel : Nat} (hf : fuelBoundD A B < fuel) :
    (Incl A B → ∃ c, inclDownRec A B fuel = some (true, c)) ∧
    (¬ Incl A B → ∃ c, inclDownRec A B fuel = some (false, c)) :=
  Verdict.complete_of_total (inclDownRec_total hA hf) inclDownRec_iff

theorem inclDownNonrec_total {A B : TA} (hA : KidsProductive A) {fuel : Nat} (hf : fuelBoundD A B < fuel) :
    ∃ b c, inclDownNonrec A B fuel = some (b, c) :=
  total_of_terminates (inclDownNonrec_eq_run hA fuel) (runN_terminates ordRefl_id hf)

theorem inclDownNonrec_complete {A B : TA} (hA : KidsProductive A) {fuel : Nat} (hf : fuelBoundD A B < fuel) :
    (Incl A B → ∃ c, inclDownNonrec A B fuel = some (true, c)) ∧
    (¬ Incl A B → ∃ c, inclDownNonrec A B fuel = some (false, c)) :=
  Verdict.complete_of_total (inclDownNonrec_total hA hf) inclDownNonrec_iff

/-- the models of `CheckInclusion` (operands sanitised first) are total and complete without hypothesis -/
theorem checkInclDownRec_total (A B : TA) {fuel : Nat}
    (hf : fuelBoundD (removeUseless A) (removeUseless B) < fuel) : ∃ b c, checkInclDownRec A B fuel = some (b, c) :=
  inclDownRec_total (kidsProductive_removeUseless A) hf

theorem checkInclDownRec_complete (A B : TA) {fuel : Nat}
    (hf : fuelBoundD (removeUseless A) (removeUseless B) < fuel) :
    (Incl A B → ∃ c, checkInclDownRec A B fuel = some (true, c)) ∧
    (¬ Incl A B → ∃ c, checkInclDownRec A B fuel = some (false, c)) :=
  Verdict.complete_of_total (checkInclDownRec_total A B hf) checkInclDownRec_iff

theorem checkInclDownNonrec_total (A B : TA) {fuel : Nat}
    (hf : fuelBoundD (removeUseless A) (removeUseless B) < fuel) :
    ∃ b c, checkInclDownNonrec A B fuel = some (b, c) :=
  inclDownNonrec_total (kidsProductive_removeUseless A) hf

theorem checkInclDownNonrec_complete (A B : TA) {fuel : Nat}
    (hf : fuelBoundD (removeUseless A) (removeUseless B) < fuel) :
    (Incl A B → ∃ c, checkInclDownNonrec A B fuel = some (true, c)) ∧
    (¬ Incl A B → ∃ c, checkInclDownNonrec A B fuel = some (false, c)) :=
  Verdict.complete_of_total (checkInclDownNonrec_total A B hf) checkInclDownNonrec_iff

theorem inclDownSim_total {A B : TA} {R : Rel} (hA : KidsProductive A)
    (hsim : isDownSimB (unionDisjoint A B) R = true) (hdis : disjointB A B = true) {fuel : Nat}
    (hf : fuelBoundD A B < fuel) : ∃ b c, inclDownSim A B R fuel = some (b, c) :=
  total_of_terminates (inclDownSim_eq_run hA hsim hdis fuel) (run_terminates (ordRefl_ordOf R A B) hf)

theorem inclDownSim_complete {A B : TA} {R : Rel} (hA : KidsProductive A)
    (hsim : isDownSimB (unionDisjoint A B) R = true) (hdis : disjointB A B = true) {fuel : Nat}
    (hf : fuelBoundD A B < fuel) :
    (Incl A B → ∃ c, inclDownSim A B R fuel = some (true, c)) ∧
    (¬ Incl A B → ∃ c, inclDownSim A B R fuel = some (false, c)) :=
  Verdict.complete_of_total (inclDownSim_total hA hsim hdis hf) inclDownSim_iff

theorem inclDownNonrecSim_total {A B : TA} {R : Rel} (hA : KidsProductive A)
    (hsim : isDownSimB (unionDisjoint A B) R = true) (hdis : disjointB A B = true)
    (hR : ∀ a b c, (a, b) ∈ R → (b, c) ∈ R → (a, c) ∈ R) {fuel : Nat}
    (hf : fuelBoundD A B < fuel) : ∃ b c, inclDownNonrecSim A B R fuel = some (b, c) :=
  total_of_terminates (inclDownNonrecSim_eq_run hA hsim hdis hR fuel) (runN_terminates (ordRefl_ordOf R A B) hf)

theorem inclDownNonrecSim_complete {A B : TA} {R : Rel} (hA : KidsProductive A)
    (hsim : isDownSimB (unionDisjoint A B) R = true) (hdis : disjointB A B = true)
    (hR : ∀ a b c, (a, b) ∈ R → (b, c) ∈ R → (a, c) ∈ R) {fuel : Nat} (hf : fuelBoundD A B < fuel) :
    (Incl A B → ∃ c, inclDownNonrecSim A B R fuel = some (true, c)) ∧
    (¬ Incl A B → ∃ c, inclDownNonrecSim A B R fuel = some (false, c)) :=
  Verdict.complete_of_total (inclDownNonrecSim_total hA hsim hdis hR hf) inclDownNonrecSim_iff

namespace InclDownTotalEx
open InclDownEx InclUp

example : fuelBoundD exG exH = 16 := by decide +kernel
example : muD idOrd exG exH [] = 16 := by decide +kernel
example : muD idOrd exG exH [(1, [3])] < muD idOrd exG exH [] :=
  muD_push_lt ordRefl_id (by decide +kernel) (by decide +kernel) (by decide +kernel)
example : ∃ r, run idOrd exG exH 17 = some r := run_terminates ordRefl_id (by decide +kernel)
example : ∃ b c, inclDownRec exG exH 17 = some (b, c) :=
  inclDownRec_total (trimmed_of_allUsefulB (by decide +kernel)).1 (by decide +kernel)
example : ¬ Incl exG exH → ∃ c, inclDownNonrec exG exH 17 = some (false, c) :=
  (inclDownNonrec_complete (trimmed_of_allUsefulB (by decide +kernel)).1 (by decide +kernel)).2
example : fuelBoundD exS1 exS2 = 48 := by decide +kernel
example : Incl exS1 exS2 → ∃ c, inclDownSim exS1 exS2 [(5, 6)] 49 = some (true, c) :=
  (inclDownSim_complete (trimmed_of_allUsefulB (by decide +kernel)).1 (by decide +kernel) (by decide +kernel)
    (by decide +kernel)).1
-- the bound is generous: the runs of the examples need little fuel (bounds 16 and 192)
#guard verdict (inclDownRec exG exH 1) == some false
#guard verdict (inclDownRec exU1 exU2 3) == some false
#guard verdict (inclDownRec exU1 exU2 2) == none
#guard verdict (inclDownRec exU2 exU1 4) == some true
#guard verdict (inclDownRec exU2 exU1 3) == none

end InclDownTotalEx

end Vata
