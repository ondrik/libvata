import Vata.Proofs.CowHeapFA
/-!
# Copy-on-write of the explicit finite automaton core – refinement of the value semantics
(proofs for `Vata/CowHeapFA.lean`, second part)

Every operation acts on the handle values as the value-level `specStep` does and keeps the counting invariant
(`fa_refines_values`): the operations other than `useless` / `candidate` one by one (`stepB_refines`), those two as the blocks of
other operations with temporaries that the library runs (`lib_refines`).  Folded over a history: `fa_history_refines` (from any
heap), `fa_history_isolation` (from the empty one); a handle no operation targets keeps its value (`untouched_keeps_value`);
the invariant after a history (`fa_history_inv`: `CowHeap.no_garbage` applies); `mem_observe`.
-/
namespace Vata.CowHeapFA

open Vata.CowHeap (Heap upd upd_same upd_other upd_upd_same upd_self ite_upd_other Val Inv abs)

/-- the reference-count invariant of the shared part (the three value members need none) -/
def InvFA (H : HeapFA) : Prop := Inv H.core

theorem invFA_init : InvFA initFA := CowHeap.inv_init

theorem invBFA_iff (H : HeapFA) : invBFA H = true ↔ InvFA H := CowHeap.invB_iff H.core

variable {H : HeapFA}

theorem absFA_of_mem {x : Nat} (hx : x ∈ H.core.hl) : absFA H x = some (valOf H x) := if_pos hx
theorem absFA_of_not_mem {x : Nat} (hx : x ∉ H.core.hl) : absFA H x = none := if_neg hx

theorem absFA_eq (H : HeapFA) (x : Nat) : absFA H x = (abs H.core x).map (fun t => ⟨H.mem x, t⟩) := by
  by_cases hx : x ∈ H.core.hl
  · rw [absFA_of_mem hx, CowHeap.abs_of_mem hx]; rfl
  · rw [absFA_of_not_mem hx, CowHeap.abs_of_not_mem hx]; rfl

theorem absFA_isSome {x : Nat} : (absFA H x).isSome = true ↔ x ∈ H.core.hl := by
  by_cases hx : x ∈ H.core.hl <;> simp [absFA, hx]
theorem absFA_isNone {x : Nat} : (absFA H x).isNone = true ↔ x ∉ H.core.hl := by
  by_cases hx : x ∈ H.core.hl <;> simp [absFA, hx]

theorem absFA_init : absFA initFA = specInit := by
  funext x
  simp [absFA, initFA, CowHeap.init, specInit]

/-- a new shared part `core'` whose handle values are those of `H` except at `d`, with members for `d` -/
theorem absFA_upd {core' : Heap} {d : Nat} {o : Option Val} (m : Members)
    (hc : abs core' = upd (abs H.core) d o) :
    absFA ⟨core', upd H.mem d m⟩ = upd (absFA H) d (o.map (fun t => ⟨m, t⟩)) := by
  funext x
  rw [absFA_eq]
  show (abs core' x).map (fun t => (⟨upd H.mem d m x, t⟩ : FAVal)) = _
  rw [hc]
  by_cases e : x = d
  · rw [e, upd_same, upd_same, upd_same]
  · rw [upd_other _ _ e, upd_other _ _ e, upd_other _ _ e, absFA_eq]

section spec
variable {a : Nat → Option FAVal} {src dst : Nat} {s : FAVal}

theorem spec1_some (f : FAVal → FAVal) (hs : a src = some s) : spec1 a src f = upd a src (some (f s)) := by
  unfold spec1; rw [hs]

theorem specRes_some (f : FAVal → FAVal) (hs : a src = some s) (hd : a dst = none) :
    specRes a src dst f = upd a dst (some (f s)) := by
  unfold specRes; rw [hs, hd]; rfl

theorem specStep_new_dead {h : Nat} (hd : a h = none) : specStep a (.new h) = upd a h (some vNew) :=
  if_neg (by rw [hd]; exact Bool.false_ne_true)

theorem specStep_reindex_live {d : FAVal} (idx : Nat → Nat) (hs : a src = some s) (hd : a dst = some d)
    (hne : src ≠ dst) : specStep a (.reindex src dst idx) = upd a dst (some (vReindex idx s d)) := by
  simp only [specStep, hs, hd]
  exact if_pos hne

end spec

theorem ite_ite_and {α : Type} {p q : Prop} [Decidable p] [Decidable q] (x y : α) :
    (if p then (if q then x else y) else y) = if p ∧ q then x else y := by
  by_cases hp : p <;> by_cases hq : q <;> simp [hp, hq]

/-- `specStep` on the values read from a heap: its tests on the operands are the liveness tests of `stepB` -/
theorem absFA_bind (x : Nat) (k : FAVal → Nat → Option FAVal) :
    (match absFA H x with | some s => k s | none => absFA H) = if x ∈ H.core.hl then k (valOf H x) else absFA H := by
  by_cases hx : x ∈ H.core.hl
  · rw [absFA_of_mem hx, if_pos hx]
  · rw [absFA_of_not_mem hx, if_neg hx]

theorem absFA_bind2 (x y : Nat) (k : FAVal → FAVal → Nat → Option FAVal) :
    (match absFA H x, absFA H y with | some s, some t => k s t | _, _ => absFA H) =
      if x ∈ H.core.hl ∧ y ∈ H.core.hl then k (valOf H x) (valOf H y) else absFA H := by
  by_cases hx : x ∈ H.core.hl
  · by_cases hy : y ∈ H.core.hl
    · rw [absFA_of_mem hx, absFA_of_mem hy, if_pos ⟨hx, hy⟩]
    · rw [absFA_of_mem hx, absFA_of_not_mem hy, if_neg (fun h => hy h.2)]
  · rw [absFA_of_not_mem hx, if_neg (fun h => hx h.1)]

/-- an operation that, when `c` holds, makes `core'` of the shared part and writes the value `v` through `d`, and does
    nothing otherwise -/
theorem guarded_refines (hI : InvFA H) {c : Prop} [Decidable c] {core' : Heap} {d : Nat} {v : FAVal}
    (hc : c → Inv core' ∧ abs core' = upd (abs H.core) d (some v.trans)) :
    absFA (if c then ⟨core', upd H.mem d v.mem⟩ else H) = (if c then upd (absFA H) d (some v) else absFA H) ∧
      InvFA (if c then ⟨core', upd H.mem d v.mem⟩ else H) := by
  by_cases h : c
  · rw [if_pos h, if_pos h]
    exact ⟨absFA_upd _ (hc h).2, (hc h).1⟩
  · rw [if_neg h, if_neg h]
    exact ⟨rfl, hI⟩

theorem mut1_refines (hI : InvFA H) (h : Nat) (coreF : Heap → Heap) (f : FAVal → FAVal)
    (hc : h ∈ H.core.hl →
      Inv (coreF H.core) ∧ abs (coreF H.core) = upd (abs H.core) h (some (f (valOf H h)).trans)) :
    absFA (mut1 H h coreF f) = spec1 (absFA H) h f ∧ InvFA (mut1 H h coreF f) := by
  rw [show spec1 (absFA H) h f = _ from absFA_bind h _]
  exact guarded_refines hI hc

theorem res1_refines (hI : InvFA H) (src dst : Nat) (coreF : Heap → Heap) (f : FAVal → FAVal)
    (hc : src ∈ H.core.hl → dst ∉ H.core.hl →
      Inv (coreF H.core) ∧ abs (coreF H.core) = upd (abs H.core) dst (some (f (valOf H src)).trans)) :
    absFA (res1 H src dst coreF f) = specRes (absFA H) src dst f ∧ InvFA (res1 H src dst coreF f) := by
  rw [show specRes (absFA H) src dst f = _ from absFA_bind src _]
  simp only [absFA_isNone, ite_ite_and]
  exact guarded_refines hI (fun h => hc h.1 h.2)

/-- not `useless` / `candidate` -/
def base : Op → Bool
  | .useless _ _ => false
  | .candidate _ _ => false
  | _ => true

theorem stepB_new (hI : InvFA H) (h : Nat) :
    absFA (stepB H (.new h)) = specStep (absFA H) (.new h) ∧ InvFA (stepB H (.new h)) := by
  by_cases hh : h ∈ H.core.hl
  · have e : stepB H (.new h) = H := by
      show (⟨CowHeap.step H.core (.new h), if h ∈ H.core.hl then H.mem else _⟩ : HeapFA) = H
      rw [if_pos hh, show CowHeap.step H.core (.new h) = H.core from if_pos hh]
    rw [e, show specStep (absFA H) (.new h) = absFA H from if_pos (absFA_isSome.mpr hh)]
    exact ⟨rfl, hI⟩
  · have e : stepB H (.new h) = ⟨CowHeap.step H.core (.new h), upd H.mem h vNew.mem⟩ := by
      show (⟨_, if h ∈ H.core.hl then H.mem else _⟩ : HeapFA) = _
      rw [if_neg hh]
    rw [e, specStep_new_dead (absFA_of_not_mem hh)]
    exact ⟨absFA_upd _ (step_new_dead hI hh).2, (step_new_dead hI hh).1.inv⟩

theorem stepB_assign (hI : InvFA H) (src dst : Nat) :
    absFA (stepB H (.assign src dst)) = specStep (absFA H) (.assign src dst) ∧ InvFA (stepB H (.assign src dst)) := by
  rw [show specStep (absFA H) (.assign src dst) = _ from absFA_bind src _]
  simp only [absFA_isSome, ite_ite_and]
  refine guarded_refines (v := ⟨H.mem src, (valOf H src).trans⟩) hI (fun hc => ?_)
  obtain ⟨h1, h2⟩ := CowHeap.cow_refines_values hI (.assign src dst)
  simp only [CowHeap.specStep] at h1
  rw [if_pos ⟨CowHeap.abs_isSome.mpr hc.1, CowHeap.abs_isSome.mpr hc.2.1, hc.2.2⟩, CowHeap.abs_of_mem hc.1] at h1
  exact ⟨h2, h1⟩

theorem stepB_reindex (hI : InvFA H) (src dst : Nat) (idx : Nat → Nat) :
    absFA (stepB H (.reindex src dst idx)) = specStep (absFA H) (.reindex src dst idx) ∧
      InvFA (stepB H (.reindex src dst idx)) := by
  rw [show specStep (absFA H) (.reindex src dst idx) = _ from absFA_bind2 src dst _]
  simp only [ite_ite_and, and_assoc]
  exact guarded_refines hI (fun hc => reindexCore_spec hI hc.2.1 idx (valOf H src).trans)

theorem stepB_unionDisj (hI : InvFA H) (x y dst : Nat) :
    absFA (stepB H (.unionDisj x y dst)) = specStep (absFA H) (.unionDisj x y dst) ∧
      InvFA (stepB H (.unionDisj x y dst)) := by
  rw [show specStep (absFA H) (.unionDisj x y dst) = _ from absFA_bind2 x y _]
  simp only [absFA_isNone, ite_ite_and, and_assoc]
  exact guarded_refines hI (fun hc => unionDisjCore_spec hI hc.1 hc.2.1 hc.2.2)

theorem stepB_refines (hI : InvFA H) (op : Op) (hb : base op = true) :
    absFA (stepB H op) = specStep (absFA H) op ∧ InvFA (stepB H op) := by
  cases op with
  | new h => exact stepB_new hI h
  | copy src dst | moveCtor src dst => exact res1_refines hI src dst (fun c => CowHeap.step c (.copy src dst)) id (fun hs hd => step_copy_live hI hs hd)
  | assign src dst | moveAssign src dst => exact stepB_assign hI src dst
  | setFinal h q | setStart h q a | setExistingStart h q S =>
    -- only a value member of `h` is written: the shared part is as it was
    exact mut1_refines hI h id _ (fun hh => ⟨hI, (CowHeap.upd_abs_self hh).symm⟩)
  | add h l a r =>
    exact mut1_refines hI h (fun c => addCore c h l a r) (vAdd l a r)
      (fun hh => ⟨(addCore_spec hI hh l a r).1.inv, (addCore_spec hI hh l a r).2⟩)
  | destroy h =>
    obtain ⟨h1, h2⟩ := CowHeap.cow_refines_values hI (.destroy h)
    have e := absFA_upd (H.mem h) h1
    rw [upd_self] at e
    exact ⟨e, h2⟩
  | reindex src dst idx => exact stepB_reindex hI src dst idx
  | unionDisj a b dst => exact stepB_unionDisj hI a b dst
  | unreach src dst => exact res1_refines hI src dst (fun c => shareCore c src dst _ true) vUnreach (fun hs hd => shareCore_spec hI hs hd _ true)
  | reverse src dst => exact res1_refines hI src dst (fun c => reverseCore c dst _) vReverse (fun hs hd => reverseCore_spec hI hd _)
  | candRaw src dst => exact res1_refines hI src dst (fun c => shareCore c src dst _ false) vCandRaw (fun hs hd => shareCore_spec hI hs hd _ false)
  | useless src dst | candidate src dst => exact absurd hb Bool.false_ne_true

theorem foldB_refines (ops : List Op) (hb : ops.all base = true) {H : HeapFA} (hI : InvFA H) :
    absFA (ops.foldl stepB H) = ops.foldl specStep (absFA H) ∧ InvFA (ops.foldl stepB H) :=
  List.foldl_rel (r := fun H a => absFA H = a ∧ InvFA H) ⟨rfl, hI⟩
    (fun op hop _ _ h => h.1 ▸ stepB_refines h.2 op (List.all_eq_true.mp hb op hop))

theorem upd_comm {β : Type} (f : Nat → β) {k k' : Nat} (v w : β) (h : k ≠ k') :
    upd (upd f k v) k' w = upd (upd f k' w) k v := by
  funext x
  by_cases e : x = k'
  · rw [e, upd_same, upd_other _ _ (fun e' => h e'.symm), upd_same]
  · rw [upd_other _ _ e]
    by_cases e' : x = k
    · rw [e', upd_same, upd_same]
    · rw [upd_other _ _ e', upd_other _ _ e', upd_other _ _ e]

/-- a temporary: the handle `t`, dead in `a`, is given a value and destroyed again -/
theorem upd_tmp {β : Type} {a b : Nat → Option β} {t : Nat} {v : Option β} (ht : a t = none) (hb : b = upd a t v) :
    upd b t none = a := by
  rw [hb, upd_upd_same, ← ht, upd_self]

/-- on values the temporaries of `RemoveUselessStates` leave no trace -/
theorem spec_useless (a : Nat → Option FAVal) {src dst t : Nat} {s : FAVal} (hs : a src = some s)
    (hd : a dst = none) (h0 : a t = none) (h1 : a (t + 1) = none) (h2 : a (t + 2) = none) (hdt : dst < t) :
    (uselessOps src dst t).foldl specStep a = upd a dst (some (vUseless s)) := by
  have n0 : t ≠ dst := Nat.ne_of_gt hdt
  have n1 : t + 1 ≠ dst := Nat.ne_of_gt (Nat.lt_add_right 1 hdt)
  have n2 : t + 2 ≠ dst := Nat.ne_of_gt (Nat.lt_add_right 2 hdt)
  have t10 : t + 1 ≠ t := Nat.succ_ne_self t
  have t21 : t + 2 ≠ t + 1 := Nat.succ_ne_self (t + 1)
  have t20 : t + 2 ≠ t := Nat.ne_of_gt (Nat.lt_add_of_pos_right (Nat.succ_pos 1))
  show upd (upd (upd (specRes (specRes (specRes (specRes a src t vUnreach) t (t + 1) vReverse) (t + 1) (t + 2) vUnreach)
    (t + 2) dst vReverse) (t + 2) none) (t + 1) none) t none = _
  rw [specRes_some vUnreach hs h0,
    specRes_some vReverse (upd_same _ _ _) (by rw [upd_other _ _ t10]; exact h1),
    specRes_some vUnreach (upd_same _ _ _) (by rw [upd_other _ _ t21, upd_other _ _ t20]; exact h2),
    specRes_some vReverse (upd_same _ _ _)
      (by rw [upd_other _ _ n2.symm, upd_other _ _ n1.symm, upd_other _ _ n0.symm]; exact hd)]
  refine upd_tmp (v := some (vUnreach s)) ?d0 (upd_tmp (v := some (vReverse (vUnreach s))) ?d1
    (upd_tmp (v := some (vUnreach (vReverse (vUnreach s)))) ?d2 ?comm))
  case comm => rw [upd_comm _ _ _ n2, upd_comm _ _ _ n1, upd_comm _ _ _ n0]; rfl
  case d0 => rw [upd_other _ _ n0]; exact h0
  case d1 => rw [upd_other _ _ t10, upd_other _ _ n1]; exact h1
  case d2 => rw [upd_other _ _ t21, upd_other _ _ t20, upd_other _ _ n2]; exact h2

/-- … nor do those of `GetCandidateTree` -/
theorem spec_candidate (a : Nat → Option FAVal) {src dst t : Nat} {s : FAVal} (hs : a src = some s)
    (hd : a dst = none) (h0 : a t = none) (h1 : a (t + 1) = none) (h2 : a (t + 2) = none) (h3 : a (t + 3) = none)
    (hdt : dst < t) :
    (candidateOps src dst t).foldl specStep a = upd a dst (some (vCandidate s)) := by
  have n0 : t ≠ dst := Nat.ne_of_gt hdt
  have hk : ∀ k, a (t + 1 + k) = none → upd a t (some (vCandRaw s)) (t + 1 + k) = none :=
    fun k h => by rw [upd_other _ _ (by omega)]; exact h
  unfold candidateOps
  rw [List.foldl_append, List.foldl_cons, List.foldl_nil, List.foldl_cons,
    show specStep a (.candRaw src t) = upd a t (some (vCandRaw s)) from specRes_some vCandRaw hs h0,
    spec_useless _ (upd_same _ _ _) (by rw [upd_other _ _ n0.symm]; exact hd) (hk 0 h1) (hk 1 h2) (hk 2 h3)
      (Nat.lt_add_right 1 hdt)]
  exact upd_tmp (by rw [upd_other _ _ n0]; exact h0) (upd_comm _ _ _ n0)

/-- the temporaries are numbers of dead handles other than `avoid` -/
theorem absFA_tmp (H : HeapFA) (avoid k : Nat) :
    absFA H (tmpBase H.core avoid + k) = none ∧ avoid < tmpBase H.core avoid := by
  have h1 : avoid ≤ H.core.hl.foldl max avoid := init_le_foldl_max id _ _
  have h2 : ∀ x, x ∈ H.core.hl → x ≤ H.core.hl.foldl max avoid := fun _ hx => le_foldl_max id hx _
  refine ⟨absFA_of_not_mem (fun hm => ?_), Nat.lt_succ_of_le h1⟩
  have : tmpBase H.core avoid + k ≤ H.core.hl.foldl max avoid := h2 _ hm
  unfold tmpBase at this
  omega

/-- a library function that runs the block `ops` of other operations (with temporaries) -/
theorem lib_refines (hI : InvFA H) (src dst : Nat) (f : FAVal → FAVal) (ops : List Op) (hb : ops.all base = true)
    (hs : ∀ s, absFA H src = some s → absFA H dst = none →
      ops.foldl specStep (absFA H) = upd (absFA H) dst (some (f s))) :
    absFA (if src ∈ H.core.hl ∧ dst ∉ H.core.hl then ops.foldl stepB H else H) = specRes (absFA H) src dst f ∧
      InvFA (if src ∈ H.core.hl ∧ dst ∉ H.core.hl then ops.foldl stepB H else H) := by
  rw [show specRes (absFA H) src dst f = _ from absFA_bind src _]
  simp only [absFA_isNone, ite_ite_and]
  by_cases hc : src ∈ H.core.hl ∧ dst ∉ H.core.hl
  · obtain ⟨h1, h2⟩ := foldB_refines ops hb hI
    rw [if_pos hc, if_pos hc, h1, hs _ (absFA_of_mem hc.1) (absFA_of_not_mem hc.2)]
    exact ⟨rfl, h2⟩
  · rw [if_neg hc, if_neg hc]
    exact ⟨rfl, hI⟩

/-- every operation acts on the handle values exactly like the value-level specification, and keeps the
    reference-count invariant -/
theorem fa_refines_values (hI : InvFA H) (op : Op) :
    absFA (step H op) = specStep (absFA H) op ∧ InvFA (step H op) := by
  by_cases hb : base op = true
  · have e : step H op = stepB H op := by
      cases op with
      | useless src dst | candidate src dst => exact absurd hb Bool.false_ne_true
      | _ => rfl
    rw [e]
    exact stepB_refines hI op hb
  · cases op with
    | useless src dst =>
      exact lib_refines hI src dst vUseless (uselessOps src dst (tmpBase H.core dst)) rfl (fun s hs hd =>
        spec_useless _ hs hd (absFA_tmp H dst 0).1 (absFA_tmp H dst 1).1 (absFA_tmp H dst 2).1 (absFA_tmp H dst 0).2)
    | candidate src dst =>
      exact lib_refines hI src dst vCandidate (candidateOps src dst (tmpBase H.core dst)) rfl (fun s hs hd =>
        spec_candidate _ hs hd (absFA_tmp H dst 0).1 (absFA_tmp H dst 1).1 (absFA_tmp H dst 2).1
          (absFA_tmp H dst 3).1 (absFA_tmp H dst 0).2)
    | _ => exact absurd rfl hb

theorem fa_history_refines (hI : InvFA H) (ops : List Op) :
    absFA (ops.foldl step H) = ops.foldl specStep (absFA H) ∧ InvFA (ops.foldl step H) :=
  List.foldl_rel (r := fun H a => absFA H = a ∧ InvFA H) ⟨rfl, hI⟩ (fun op _ _ _ h => h.1 ▸ fa_refines_values h.2 op)

/-- for every operation history the handles behave as independent values -/
theorem fa_history_isolation (ops : List Op) : absFA (exec ops) = ops.foldl specStep specInit := by
  unfold exec
  rw [(fa_history_refines invFA_init ops).1, absFA_init]

theorem fa_history_inv (ops : List Op) : InvFA (exec ops) := (fa_history_refines invFA_init ops).2

theorem exec_append (ops l : List Op) : exec (ops ++ l) = l.foldl step (exec ops) := by
  unfold exec; rw [List.foldl_append]

theorem absFA_exec_append (ops l : List Op) : absFA (exec (ops ++ l)) = l.foldl specStep (absFA (exec ops)) := by
  rw [exec_append, (fa_history_refines (fa_history_inv ops) l).1]

/-- `specStep` reads the values of one or two operands and writes through its target only when they are live: a fact
    about what is written carries over to the whole step -/
theorem spec_bind_other {a : Nat → Option FAVal} {x y : Nat} {k : FAVal → Nat → Option FAVal} (hk : ∀ s, k s y = a y) :
    (match a x with | some s => k s | none => a) y = a y := by
  cases a x with
  | none => rfl
  | some s => exact hk s

theorem spec_bind2_other {a : Nat → Option FAVal} {x x' y : Nat} {k : FAVal → FAVal → Nat → Option FAVal}
    (hk : ∀ s t, k s t y = a y) : (match a x, a x' with | some s, some t => k s t | _, _ => a) y = a y := by
  cases a x with
  | none => rfl
  | some s =>
    cases a x' with
    | none => rfl
    | some t => exact hk s t

/-- an operation never changes the value of a handle other than its target (in particular: a mutation through one handle
    never changes another live handle; the operands of a library function keep their values) -/
theorem specStep_other (a : Nat → Option FAVal) (op : Op) (x : Nat) (hx : x ≠ target op) :
    specStep a op x = a x := by
  cases op with
  | new h =>
    show (if (a h).isSome then a else upd a h (some vNew)) x = a x
    split
    · rfl
    · exact upd_other _ _ hx
  | copy src dst | moveCtor src dst | assign src dst | moveAssign src dst | unreach src dst | reverse src dst
  | candRaw src dst | useless src dst | candidate src dst => exact spec_bind_other (fun _ => ite_upd_other a _ hx)
  | setFinal h q | setStart h q s | setExistingStart h q S | add h l s r =>
    exact spec_bind_other (fun _ => upd_other _ _ hx)
  | destroy h => exact upd_other _ _ hx
  | reindex p q idx | unionDisj p q dst => exact spec_bind2_other (fun _ _ => ite_upd_other a _ hx)

/-- a handle keeps its value – and stays alive or dead – along every history none of whose operations targets it: the result
    of a library function keeps its value when its operands are mutated, assigned to or destroyed afterwards -/
theorem untouched_keeps_value (hI : InvFA H) (ops : List Op) (x : Nat) (hx : ∀ op, op ∈ ops → x ≠ target op) :
    absFA (ops.foldl step H) x = absFA H x := by
  rw [(fa_history_refines hI ops).1]
  exact foldl_keeps (· x) (fun a op hop => specStep_other a op x (hx op hop)) _

theorem trace_aux (ops : List Op) (H : HeapFA) (acc : List HeapFA) :
    ops.foldl (fun (acc : HeapFA × List HeapFA) op => let H := step acc.1 op; (H, acc.2 ++ [H])) (H, acc) =
      (ops.foldl step H,
        acc ++ (List.range ops.length).map (fun i => (ops.take (i + 1)).foldl step H)) := by
  induction ops generalizing H acc with
  | nil => simp
  | cons op ops ih =>
    rw [List.foldl_cons, ih]
    simp only [List.foldl_cons, List.length_cons, List.range_succ_eq_map, List.map_cons, List.map_map,
      List.take_succ_cons, List.take_zero, List.foldl_nil, List.append_assoc, List.singleton_append]
    rfl

/-- `run` lists, for every non-empty prefix of the history, what is read through the live handles after it -/
theorem run_eq (ops : List Op) :
    run ops = (List.range ops.length).map (fun i => observe (exec (ops.take (i + 1)))) := by
  unfold run trace
  rw [trace_aux]
  simp [exec, List.map_map, Function.comp_def]

/-- `observe` shows exactly the live handles with the values read through them -/
theorem mem_observe (H : HeapFA) (h : Nat) (v : FAVal) : (h, v) ∈ observe H ↔ absFA H h = some v := by
  unfold observe absFA
  simp only [List.mem_append, List.mem_map, List.mem_filter, List.mem_range, List.contains_iff_mem,
    List.mem_reverse, decide_eq_true_eq, Prod.mk.injEq]
  constructor
  · rintro (⟨x, ⟨_, hx⟩, rfl, rfl⟩ | ⟨x, ⟨hx, _⟩, rfl, rfl⟩) <;> rw [if_pos hx]
  · intro hv
    by_cases hh : h ∈ H.core.hl
    · rw [if_pos hh] at hv
      by_cases hlt : h < H.core.next
      · exact Or.inl ⟨h, ⟨hlt, hh⟩, rfl, (Option.some.inj hv)⟩
      · exact Or.inr ⟨h, ⟨hh, Nat.le_of_not_lt hlt⟩, rfl, (Option.some.inj hv)⟩
    · rw [if_neg hh] at hv
      cases hv

end Vata.CowHeapFA
