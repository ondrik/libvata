import Vata.Proofs.Glue
/-!
# The glue between names, numbers and BDD variables (supports C08, C13, C02)

> `SymbolicVarAsgn` turns a 16-character `0/1/X` symbol of a Timbuk file into the path of the MTBDDs (C08); `TwoWayDict`
> with the weak / strict translators turns state and symbol names into numbers when an automaton is loaded and back when it
> is dumped (C13); `Union` / `Intersection` report their state renaming through translation maps that
> `CreateUnionStringToStateMap` / `CreateProductStringToStateMap` turn into the dictionary of the result (C02, C08);
> `Convert` prints and parses the numbers.  The models of the automata operations treat all of that as "an injective
> renaming"; this file states what makes that reading of the real classes legitimate – and where it is not.

## How the statement is read into the model

* **Model of the code (L2).**  `Vata/Glue.lean`: every public member as coded, under `NDEBUG` (the way the library is
  built): a compiled-out `assert(false)` is followed by the code that really runs; undefined behaviour is `none`.
* **Specification (L0).**  Numbers (`toNum`, binary representation `bitsLE`), sets of total assignments (`agrees`),
  bijections (`TwoWayDict.Inv`), injectivity (`InjMap`), the decimal notation (`natStr` / `intStr`).
* **Correspondence (L3).**  kind `glue` (`harness/ops/op_glue.inc`, `Driver/GlueChk.lean`, `tools/gen_glue.py`): histories on
  the real classes, every live object read back after every step and compared with the model.

## Findings about the real code (all confirmed on the real classes by the harness)

1. `CreateProductStringToStateMap` builds NON-INJECTIVE names: `[a_1|b_2]` does not determine `(a, b)` when names contain
   `_1|` (`Util_Glue_productNames_collide`).  With `NDEBUG` two product states silently get one name and the dumped
   intersection has a LARGER language than the computed automaton: `vata isect` of two copies of `{v(f), u(g)}` with the states
   named `a_1|b`, `a` resp. `c`, `b_1|c` prints an automaton accepting `{v(f), v(g), u(f), u(g)}` (case line in the
   report; `harness/ops/glue_witness_productNames.txt`; the driver reports every such step, the generator produces them only
   with `GLUE_PRODNAMES=full`).  The names are injective when one operand's names are free of `|`
   (`Util_Glue_productNames_injective`).
2. `SymbolicVarAsgn(size, n)` computes `1 << i` in `int`: undefined behaviour for `size > 32`, and for `size = 32` variable 31
   is the OR of the bits 31 … 63 of `n` (`Util_Glue_asgn_ofNum_limits`).  The library only calls it with `(16, 0)`.
3. `a.append(a)` writes out of range (`appendSelf`); `operator++` on a `DONT_CARE` silently skips the variable;
   `TwoWayDict::Insert` of a present key leaves the forward map alone but still inserts the backward entry
   (`Util_Glue_dict_contract_needed`) – all three are outside the asserted contracts, listed for completeness.
-/
namespace Vata.Props
open Vata.Glue

/-! ### `SymbolicVarAsgn` -/

/-- `SymbolicVarAsgn(size, n)` (`size ≤ 31`) is the `size`-bit binary representation of `n`: variable `i` – the `i`-th
character of `ToString()`, counted from 0 – is bit `i`; its number is `n mod 2^size` -/
theorem Util_Glue_asgn_ofNum {size : Nat} (n : Nat) (h : size ≤ 31) :
    ofNum size n = some (bitsLE size n) ∧ length (bitsLE size n) = size ∧ isConcrete (bitsLE size n) = true ∧
      (∀ i, i < size → get (bitsLE size n) i = some (some (n.testBit i))) ∧ toNum (bitsLE size n) = n % 2 ^ size :=
  ⟨ofNum_eq_bitsLE n h, bitsLE_length size n, isConcrete_bitsLE size n, fun i hi => bitsLE_getElem? size n i hi,
    toNum_bitsLE size n⟩

example : (ofNum 5 6).map toStr = some "01100".toList := by decide

/-- the limits of that constructor: undefined behaviour beyond 32 variables; with exactly 32, variable 31 reads the bits
31 … 63 together.  The 16-variable symbols of the BDD encodings are inside the safe range, and they are the `symAsgn` of
`Vata/BddAbs.lean` -/
theorem Util_Glue_asgn_ofNum_limits :
    (∀ size n, ofNum size n = none ↔ 32 < size) ∧
      ((ofNum 32 (2 ^ 32)).map (fun a => get a 31) = some (some (some true)) ∧ (2 ^ 32).testBit 31 = false) ∧
      (∀ f, ofNum SYMBOL_SIZE f = some (BddAbs.symAsgn f)) ∧ zeroSymbol = some (List.replicate 16 (some false)) :=
  ⟨ofNum_eq_none_iff, ofNum_32_high, ofNum_symbol_size, zeroSymbol_eq⟩

/-- `operator++` is `+1` modulo `2^length()` with variable 0 the least significant bit (on concrete assignments – the
contract); the carry out of the last variable is dropped; it maps the representation of `k` to that of `k + 1` -/
theorem Util_Glue_asgn_inc :
    (∀ a, isConcrete a = true → toNum (inc a) = (toNum a + 1) % 2 ^ length a ∧ isConcrete (inc a) = true ∧
      length (inc a) = length a) ∧
    (∀ n, inc (List.replicate n (some true)) = List.replicate n (some false)) ∧
    (∀ s k, inc (bitsLE s k) = bitsLE s (k + 1)) :=
  ⟨fun a h => ⟨toNum_inc a h, inc_concrete a h, inc_length a⟩, inc_wrap, inc_bitsLE⟩

example : (ofStr "110".toList).map (fun a => toStr (inc a)) = some "001".toList ∧
    (ofStr "111".toList).map (fun a => toStr (inc a)) = some "000".toList := by decide +kernel

/-- string constructor and `ToString` are inverse to each other; the constructor throws exactly on a character other than
`0`, `1`, `X` -/
theorem Util_Glue_asgn_string_roundtrip :
    (∀ a, ofStr (toStr a) = some a) ∧ (∀ s a, ofStr s = some a → toStr a = s ∧ length a = s.length) ∧
      (∀ s, (ofStr s).isSome = true ↔ ∀ c ∈ s, c = '0' ∨ c = '1' ∨ c = 'X') :=
  ⟨ofStr_toStr, fun s a h => ⟨toStr_ofStr s a h, ofStr_length h⟩, ofStr_isSome_iff⟩

example : ofStr "01X".toList = some [some false, some true, none] ∧ ofStr "01x".toList = none := by decide +kernel

/-- `GetVectorOfConcreteSymbols` enumerates exactly the total assignments that agree with the symbolic one, each once,
`2^k` of them for `k` don't cares, in the lexicographic order of their `ToString()` (`0` before `1`, variable 0 first) -/
theorem Util_Glue_asgn_concretize (a : Asgn) :
    (∀ c, c ∈ concretize a ↔ (c.length = a.length ∧ isConcrete c = true ∧
        ∀ (i : Nat) (b : Bool), a[i]? = some (some b) → c[i]? = some (some b))) ∧
      (concretize a).Nodup ∧ (concretize a).length = 2 ^ a.count none ∧
      (concretize a).Pairwise (fun x y => lexLt x y = true) :=
  ⟨fun c => (mem_allSyms a c).trans (agrees_iff c a), allSyms_nodup a, allSyms_length a, allSyms_sorted a⟩

example : (concretize [some true, none, some false, none]).map (fun x => String.ofList (toStr x)) =
    ["1000", "1001", "1100", "1101"] := by decide +kernel

/-- `AddVariablesUpTo(m)` pads with `X` up to index `m` and never shortens; `append` puts the argument's variables behind -/
theorem Util_Glue_asgn_addVariablesUpTo (a p : Asgn) (m : Nat) :
    toStr (addVariablesUpTo a m) = toStr a ++ List.replicate (m + 1 - a.length) 'X' ∧
      length (addVariablesUpTo a m) = max a.length (m + 1) ∧ toStr (append a p) = toStr a ++ toStr p :=
  ⟨toStr_addVariablesUpTo a m, addVariablesUpTo_length a m, toStr_append a p⟩

example : toStr (addVariablesUpTo [some true] 3) = "1XXX".toList ∧ addVariablesUpTo [some true, none] 0 = [some true, none] := by
  decide

/-- `operator<` is a strict total order (irreflexive, transitive, total), shorter assignments first; on concrete
assignments of one length it is the order of the numbers -/
theorem Util_Glue_asgn_lt_strict_total_order :
    (∀ a, lt a a = false) ∧ (∀ a b c, lt a b = true → lt b c = true → lt a c = true) ∧
      (∀ a b, a ≠ b → lt a b = true ∨ lt b a = true) ∧ (∀ a b : Asgn, a.length < b.length → lt a b = true) ∧
      (∀ a b : Asgn, a.length = b.length → isConcrete a = true → isConcrete b = true → (lt a b = true ↔ toNum a < toNum b)) :=
  ⟨lt_irrefl, fun _ _ _ => lt_trans, fun _ _ => lt_total, fun _ _ => lt_of_length_lt, fun _ _ => lt_iff_toNum⟩

example : lt [some true, some false] [some false, some true] = true ∧ lt [none] [some true] = true ∧
    lt [some false] [none] = true := by decide

/-- the packed representation (two bits per variable in a `std::vector<char>`, shift-and-mask access) implements the
sequence of values: constructors, `SetIthVariableValue`, `AddVariablesUpTo` / `append` (`resize` + writes) -/
theorem Util_Glue_asgn_packed (a vals : Asgn) (i : Nat) (hi : i < a.length) (v : Val) :
    Packed.Refines (Packed.ofAsgn a) a ∧ (Packed.ofAsgn a).abs = a.map some ∧
      Packed.Refines ((Packed.ofAsgn a).setRaw i (valCode v)) (set a i v) ∧
      Packed.Refines ((Packed.ofAsgn a).extend vals) (a ++ vals) :=
  ⟨Packed.ofAsgn_refines a, Packed.refines_abs (Packed.ofAsgn_refines a), Packed.setRaw_refines (Packed.ofAsgn_refines a) hi v,
    Packed.extend_refines (Packed.ofAsgn_refines a) vals⟩

example : (Packed.ofAsgn [some true, none, some false, none, some true]).vars = [0xde#8, 0x02#8] := by decide

/-! ### `TwoWayDict` -/

/-- in every history inside the contracts every live dictionary is a bijection between its two maps:
`TranslateFwd` / `TranslateBwd` are inverse, different names have different numbers, `size()` is the size of both maps,
`GetReverseMap()` is the inverse map -/
theorem Util_Glue_dict_history (ops : List Op) (ok : RunOk Glue.StateDict.norm {} ops) (i : Nat) :
    let d := (Glue.run Glue.StateDict.norm {} ops).d i
    d.Inv ∧ (∀ n v, d.translateFwd n = some v ↔ d.translateBwd v = some n) ∧
      (∀ n n' v, d.translateFwd n = some v → d.translateFwd n' = some v → n = n') ∧
      d.size = d.getReverseMap.length ∧ (∀ n v, d.getReverseMap.lookup v = some n ↔ d.translateFwd n = some v) :=
  ⟨(history_inv norm_ok ops {} poolInv_empty ok).d i, history_observe norm_ok ops ok i⟩

example : RunOk Glue.StateDict.norm {} [.dNew, .dInsert 0 "a".toList 1, .dWeak 0 .counter 2 ["b".toList, "a".toList]] := by
  refine ⟨trivial, ?_, ?_, trivial⟩
  · show ((Glue.step Glue.StateDict.norm {} .dNew).d 0).insertOk "a".toList 1 = true
    decide
  · show ∀ e ∈ ((Glue.step Glue.StateDict.norm (Glue.step Glue.StateDict.norm {} .dNew) (.dInsert 0 "a".toList 1)).d 0).bwd, e.1 < 2
    decide

/-- the constructor from a map: returns a dictionary with that forward map, or throws – exactly when two names have the
same number -/
theorem Util_Glue_dict_ctor_from_map {m : List (Name × Nat)} (hm : IsMap m) :
    (∀ d, TwoWayDict.ofMap m = some d → d.Inv ∧ d.fwd = m) ∧ (TwoWayDict.ofMap m = none ↔ ¬ (m.map Prod.snd).Nodup) :=
  ⟨fun _ h => ⟨(TwoWayDict.ofMap_inv hm h).1, (TwoWayDict.ofMap_inv hm h).2.1⟩, TwoWayDict.ofMap_eq_none_iff m⟩

example : TwoWayDict.ofMap [(1, 5), (2, 5)] = (none : Option (TwoWayDict Nat Nat)) := by decide

/-- the contract IS needed: with `NDEBUG`, `Insert` of a present key with a new value leaves `fwdMap_` alone and still adds
the backward entry – afterwards the two maps are not inverse and have different sizes -/
theorem Util_Glue_dict_contract_needed :
    let d : TwoWayDict Nat Nat := ((TwoWayDict.empty.insert 7 1).1.insert 7 2).1
    d.translateFwd 7 = some 1 ∧ d.translateBwd 2 = some 7 ∧ d.size = 1 ∧ d.getReverseMap.length = 2 := by
  decide

/-! ### the translators -/

/-- `TranslatorWeak` with the library's counter functor is the lookup-or-create of `Vata/UnionModel.lean` (one call and a
whole sequence of calls), and on a `TwoWayDict` it is the `Dict.weak` of `Vata/LoadDump.lean` -/
theorem Util_Glue_weak_is_unionModel :
    (∀ m cnt q, Vata.weakTr m cnt q = ((weakMap m (fun _ _ => cnt) q).1, if (m.lookup q).isSome then cnt else cnt + 1)) ∧
      (∀ qs m cnt, (weakMapSeq .counter qs m cnt []).1 = (Vata.weakTrAll qs m cnt).1 ∧
        (weakMapSeq .counter qs m cnt []).2.1 = (Vata.weakTrAll qs m cnt).2) ∧
      (∀ (d : TwoWayDict String Nat) c k, (weakDict d (fun _ _ => c) k).2 = (Vata.Dict.weak d.fwd c k).1 ∧
        (weakDict d (fun _ _ => c) k).1.fwd = (Vata.Dict.weak d.fwd c k).2.1) :=
  ⟨weakMap_eq_weakTr, fun qs m cnt => weakMapSeq_counter_eq_weakTrAll qs m cnt [], fun d c k => weakDict_eq_loadDump d c k⟩

/-- lookup-or-create: afterwards the key translates to the result, no translation was changed, and the map stays
injective when the functor's answer is fresh -/
theorem Util_Glue_weak_injective {m : List (Nat × Nat)} (alloc : Nat → Nat → Nat) (a : Nat) :
    (weakMap m alloc a).1.lookup a = some (weakMap m alloc a).2 ∧
      (∀ x y, m.lookup x = some y → (weakMap m alloc a).1.lookup x = some y) ∧
      (InjMap m → (m.lookup a = none → Fresh m (alloc m.length a)) → InjMap (weakMap m alloc a).1) ∧
      (InjMap m → (m.lookup a = none → Fresh m (alloc (m.length + 1) a)) → InjMap (weak2Map m alloc a).1) :=
  ⟨weakMap_lookup_self m alloc a, fun _ _ h => weakMap_ext m alloc a h, fun hi hf => weakMap_inj hi alloc a hf,
    fun hi hf => weak2Map_inj hi alloc a hf⟩

/-- the order of evaluation: `TranslatorWeak` calls the functor before the insertion (a size-reading functor sees the old
size), `TranslatorWeak2` after inserting a default entry (it sees the new size) -/
theorem Util_Glue_weak_eval_order {m : List (Nat × Nat)} {a : Nat} (h : m.lookup a = none) :
    (weakMap m (fun sz _ => sz) a).2 = m.length ∧ (weak2Map m (fun sz _ => sz) a).2 = m.length + 1 :=
  ⟨weakMap_size_functor h, weak2Map_size_functor h⟩

example : (weakMap (weakMap ([] : List (Nat × Nat)) (fun sz _ => sz) 10).1 (fun sz _ => sz) 20).1 = [(10, 0), (20, 1)] ∧
    (weak2Map (weak2Map ([] : List (Nat × Nat)) (fun sz _ => sz) 10).1 (fun sz _ => sz) 20).1 = [(10, 1), (20, 2)] :=
  weak_size_functor_differ

/-- `TranslatorStrict` (and the `const` call operator of the weak translators) is a pure lookup – a miss is an exception
(`std::runtime_error`), never an insertion; no step of a history that only uses them changes a live object -/
theorem Util_Glue_strict_pure (m : List (Nat × Nat)) (a : Nat) (p : Glue.Pool) (i : Nat) (ks : List Name) (vs : List Nat) :
    strict m a = m.lookup a ∧ weakConst m a = m.lookup a ∧ Glue.step Glue.StateDict.norm p (.dStrict i ks) = p ∧
      Glue.step Glue.StateDict.norm p (.dStrictBwd i vs) = p ∧ Glue.step Glue.StateDict.norm p (.mStrict i vs) = p :=
  ⟨rfl, rfl, rfl, rfl, rfl⟩

/-! ### the dictionary helpers of `util.cc` -/

/-- `CreateUnionStringToStateMap` (repaired, D14): the forward map of the result is exactly `name_1 ↦ translation` for
the left and `name_2 ↦ translation` for the right entries WHOSE STATE HAS A TRANSLATION (pruned states are skipped; no
name can clash); if the numbers are pairwise different the result is a dictionary.  Where the old code was defined it
computed the same. -/
theorem Util_Glue_unionDict {l r : Glue.StateDict} (hl : IsMap l.fwd) (hr : IsMap r.fwd) (tl tr : Option (List (Nat × Nat))) :
    (unionDict l r tl tr).fwd = unionEntries l r tl tr ∧
      (((unionEntries l r tl tr).map Prod.snd).Nodup → (unionDict l r tl tr).Inv) ∧
      (∀ d, unionDictOld l r tl tr = some d → unionDict l r tl tr = d) :=
  ⟨unionDict_fwd hl hr tl tr, fun hv => (unionDict_inv hl hr tl tr hv).1, fun _ h => unionDictOld_eq h⟩

example : (unionDict ⟨[("a".toList, 0), ("b".toList, 1)], [(0, "a".toList), (1, "b".toList)]⟩
    ⟨[("a".toList, 0)], [(0, "a".toList)]⟩ (some [(1, 5)]) none).fwd = [("b_1".toList, 5), ("a_2".toList, 0)] := by decide +kernel

/-- `CreateProductStringToStateMap`: undefined exactly when a component of a pair has no name; otherwise a run of
`Insert`s of `[l_1|r_2] ↦ number`, and a dictionary with exactly these entries when names and numbers are pairwise
different -/
theorem Util_Glue_productDict (l r : Glue.StateDict) (pm : List ((Nat × Nat) × Nat)) :
    (productDict l r pm = none ↔ ∃ e ∈ pm, l.bwd.lookup e.1.1 = none ∨ r.bwd.lookup e.1.2 = none) ∧
      (∀ es, prodEntries l r pm = some es → (es.map Prod.fst).Nodup → (es.map Prod.snd).Nodup →
        ∃ d, productDict l r pm = some d ∧ d.Inv ∧ d.fwd = es ∧ d.bwd = es.map Prod.swap) :=
  ⟨productDict_eq_none_iff l r pm, fun _ he hk hv => productDict_inv he hk hv⟩

/-- the product names are injective when the names of one operand contain no `|` … -/
theorem Util_Glue_productNames_injective {l l' r r' : Name} (h : prodName l r = prodName l' r')
    (hfree : ('|' ∉ l ∧ '|' ∉ l') ∨ ('|' ∉ r ∧ '|' ∉ r')) : l = l' ∧ r = r' := by
  rcases hfree with ⟨h1, h2⟩ | ⟨h1, h2⟩
  · exact prodName_inj_left h1 h2 h
  · exact prodName_inj_right h1 h2 h

/-- … and NOT in general: `(a_1|b, c)` and `(a, b_1|c)` get the same name, the result of the helper is then no dictionary
(one forward entry, two backward entries) -/
theorem Util_Glue_productNames_collide :
    (prodName "a_1|b".toList "c".toList = prodName "a".toList "b_1|c".toList ∧ "a_1|b".toList ≠ "a".toList) ∧
    (let l : Glue.StateDict := ⟨[("a_1|b".toList, 0), ("a".toList, 1)], [(0, "a_1|b".toList), (1, "a".toList)]⟩
     let r : Glue.StateDict := ⟨[("c".toList, 0), ("b_1|c".toList, 1)], [(0, "c".toList), (1, "b_1|c".toList)]⟩
     (productDict l r [((0, 0), 7), ((1, 1), 8)]).map (fun d => (d.fwd.length, d.bwd.length, d.bwd.map Prod.fst)) =
       some (1, 2, [7, 8])) :=
  ⟨prodName_not_injective, productDict_collision⟩

/-- the union names never collide -/
theorem Util_Glue_unionNames_injective (n n' : Name) :
    (name1 n = name1 n' → n = n') ∧ (name2 n = name2 n' → n = n') ∧ name1 n ≠ name2 n' :=
  ⟨name1_inj, name2_inj, name1_ne_name2 n n'⟩

/-! ### `Convert` -/

/-- `FromString<T>(ToString(x)) = x` for unsigned and signed integer types of any width -/
theorem Util_Glue_convert_roundtrip {bits : Nat} :
    (∀ n, n < 2 ^ bits → fromStrUnsigned bits (natStr n) = some n) ∧
      (∀ z : Int, -(2 ^ (bits - 1) : Int) ≤ z → z < 2 ^ (bits - 1) → fromStrSigned bits (intStr z) = some z) :=
  ⟨fun _ h => fromStrUnsigned_natStr h, fun _ h1 h2 => fromStrSigned_intStr h1 h2⟩

example : fromStrSigned 32 (intStr (-2147483648)) = some (-2147483648) := by decide

/-- what `FromString` accepts: exactly  white space* · (`+` | `-`)? · digit+ · anything not starting with a digit;  the value is
that of the digits (trailing garbage ignored), a magnitude outside the type is rejected, a `-` in front of an unsigned
number wraps modulo `2^bits` -/
theorem Util_Glue_convert_accepts :
    (∀ ws ds rest sg, (∀ c ∈ ws, isSpaceC c = true) → ds ≠ [] → (∀ c ∈ ds, c.isDigit = true) →
        (∀ c, rest.head? = some c → c.isDigit = false) → scanInt (ws ++ signChars sg ++ ds ++ rest) = some (sg == some true, ds)) ∧
      (∀ s neg ds, scanInt s = some (neg, ds) → ∃ ws sign rest, s = ws ++ sign ++ ds ++ rest ∧ (∀ c ∈ ws, isSpaceC c = true) ∧
        (sign = [] ∨ sign = ['+'] ∨ sign = ['-']) ∧ (neg = true ↔ sign = ['-']) ∧ ds ≠ [] ∧ (∀ c ∈ ds, c.isDigit = true) ∧
        (∀ c, rest.head? = some c → c.isDigit = false)) ∧
      (∀ bits n, n < 2 ^ bits → fromStrUnsigned bits ('-' :: natStr n) = some ((2 ^ bits - n) % 2 ^ bits)) ∧
      (∀ bits s v, fromStrUnsigned bits s = some v → v < 2 ^ bits) ∧ scanInt [] = none :=
  ⟨scanInt_accepts, fun _ _ _ h => scanInt_shape h, fun _ _ h => fromStrUnsigned_neg h, fun _ _ v h => fromStr_range.1 v h,
    scanInt_nil⟩

example : fromStrSigned 32 " \t+007x".toList = some 7 ∧ fromStrUnsigned 32 "-1".toList = some 4294967295 ∧
    fromStrSigned 32 "2147483648".toList = none ∧ fromStrSigned 32 "".toList = none := by decide +kernel

/-!
## not proved / outside the model

* Keys and values of the dictionary theorems are arbitrary types with decidable equality; the harness instantiates
  `TwoWayDict<std::string, size_t>` (`Glue.StateDict`) and `std::unordered_map<size_t, size_t>` (`StateToStateMap`) only.  Numbers
  are `Nat`: the wrap-around of a counter functor at `2^64` and of `maxVariableIndex + 1` in `AddVariablesUpTo` is not
  modelled (the generator stays below).
* `std::map` / `std::unordered_map` / `std::function` / `std::istringstream` / `std::ostringstream` are modelled from their
  specification (association list with first-wins `insert`; libstdc++'s `num_get` for decimal integers in the "C" locale),
  not from the library sources.  The iteration order of `std::map` (increasing keys) is reproduced by `Glue.StateDict.norm`
  for the comparison; that `norm` sorts is not proved (only that it preserves the entries, `norm_ok`), and the order of a
  hash map is not modelled (the theorems are about entries; where the real order matters – colliding product names or
  values – the driver takes the real object over after checking it entry by entry).
* The concretisation is modelled on the suffix (the recursion of `getAllSymbols` on `pos`), not on the in-place
  mutation of the one working copy; `a.append(a)`, reads / writes at an index `≥ length()` and `SymbolicVarAsgn(size > 32, n)`
  are undefined behaviour and only marked as such (`none`), never executed by the harness.
* The exception texts and `operator<<` of the dictionary are compared at run time only.
* `ToString` of containers (`vecStr`, `setStr`, `mapStr`, `pairStr`) has examples and run-time comparison, no theorem
  (no injectivity claim); `FromString` is modelled for `int`, `unsigned`, `size_t` (the types the library and its tests
  use), not for floating point, `char` or `std::string`.
* `TwoWayDict::Union` is proved inside its contract (`inv_union`); outside it is compared at run time only.
-/
end Vata.Props
