import Vata.LoadDump
import Vata.Proofs.GlueTransl
/-!
# The dictionary of the loaders (`Vata.Dict`) and a run of its weak translator

`Dict.Ok` is the invariant of a dictionary filled by a weak translator whose counter is its size: the keys are distinct and the
`i`-th value is `i`, so the dictionary is two-way.  `Dict.Tr D c D' c' K` says what a run of the translator over the keys `K`
makes of ANY dictionary `D` with ANY counter `c`: the old translations are kept and the keys are those of `D` and of `K`; a
dictionary whose counter is its size stays so.  All loaders (`Proofs/LoadDump`, `NfaLoadDump`, `BddLoad`, `Wrapper`) rest on
`weak_tr`, the case of one call.
-/
namespace Vata

namespace Dict
set_option linter.unusedSectionVars false
variable {κ : Type} [DecidableEq κ]

def keys (D : Dict κ) : List κ := D.map (·.1)
def vals (D : Dict κ) : List Nat := D.map (·.2)

def get (D : Dict κ) (k : κ) : Nat := (D.fwd? k).getD 0

def Sub (D D' : Dict κ) : Prop := ∀ k v, D.fwd? k = some v → D'.fwd? k = some v

theorem Sub.refl (D : Dict κ) : Sub D D := fun _ _ h => h
theorem Sub.trans {D D' D'' : Dict κ} (h : Sub D D') (h' : Sub D' D'') : Sub D D'' := fun k v e => h' k v (h k v e)

/-! `fwd?` is `List.lookup`, `bwd?` the look-up in the swapped list (`Glue.loadDump_fwd?_eq`, `Glue.loadDump_bwd?_eq`) -/

theorem fwd?_some_mem {D : Dict κ} {k : κ} {v : Nat} (h : D.fwd? k = some v) : (k, v) ∈ D :=
  mem_of_lookup ((Glue.loadDump_fwd?_eq D k).symm.trans h)

theorem bwd?_some_mem {D : Dict κ} {k : κ} {v : Nat} (h : D.bwd? v = some k) : (k, v) ∈ D := by
  rw [Glue.loadDump_bwd?_eq] at h
  obtain ⟨⟨a, b⟩, hp, e⟩ := List.mem_map.mp (mem_of_lookup h)
  simp only [Prod.swap_prod_mk, Prod.mk.injEq] at e
  obtain ⟨rfl, rfl⟩ := e
  exact hp

theorem fwd?_eq_none {D : Dict κ} {k : κ} : D.fwd? k = none ↔ k ∉ D.keys := by
  rw [Glue.loadDump_fwd?_eq]
  exact lookup_eq_none_iff_keys

theorem bwd?_eq_none {D : Dict κ} {v : Nat} : D.bwd? v = none ↔ v ∉ D.vals := by
  rw [Glue.loadDump_bwd?_eq, lookup_eq_none_iff_keys, List.map_map]
  exact Iff.rfl

theorem mem_keys_iff {D : Dict κ} {k : κ} : k ∈ D.keys ↔ ∃ v, D.fwd? k = some v := by
  cases h : D.fwd? k with
  | none => simp [fwd?_eq_none.mp h]
  | some v =>
    simp only [Option.some.injEq, exists_eq', iff_true]
    exact List.mem_map.mpr ⟨(k, v), fwd?_some_mem h, rfl⟩

theorem fwd?_of_mem {D : Dict κ} (hn : D.keys.Nodup) {k : κ} {v : Nat} (h : (k, v) ∈ D) : D.fwd? k = some v :=
  (Glue.loadDump_fwd?_eq D k).trans (lookup_of_mem hn h)

theorem bwd?_of_mem {D : Dict κ} (hn : D.vals.Nodup) {k : κ} {v : Nat} (h : (k, v) ∈ D) : D.bwd? v = some k := by
  rw [Glue.loadDump_bwd?_eq]
  refine lookup_of_mem ?_ (List.mem_map.mpr ⟨(k, v), h, rfl⟩)
  rw [List.map_map]
  exact hn

theorem fwd?_append_some {D E : Dict κ} {k : κ} {v : Nat} (h : D.fwd? k = some v) : (D ++ E).fwd? k = some v := by
  rw [Glue.loadDump_fwd?_eq] at h ⊢
  rw [List.lookup_append, h]
  rfl

theorem fwd?_append_none {D E : Dict κ} {k : κ} (h : D.fwd? k = none) : (D ++ E).fwd? k = E.fwd? k := by
  rw [Glue.loadDump_fwd?_eq] at h
  rw [Glue.loadDump_fwd?_eq, Glue.loadDump_fwd?_eq, List.lookup_append, h]
  rfl

structure Ok (D : Dict κ) : Prop where
  keys_nodup : D.keys.Nodup
  dense : D.vals = List.range D.length

theorem ok_nil : Ok ([] : Dict κ) := ⟨by simp [keys], by simp [vals]⟩

theorem Ok.vals_nodup {D : Dict κ} (h : D.Ok) : D.vals.Nodup := by rw [h.dense]; exact List.nodup_range

theorem Ok.mem_vals {D : Dict κ} (h : D.Ok) {v : Nat} : v ∈ D.vals ↔ v < D.length := by
  rw [h.dense, List.mem_range]

theorem Ok.fwd_iff {D : Dict κ} (h : D.Ok) {k : κ} {v : Nat} : D.fwd? k = some v ↔ (k, v) ∈ D :=
  ⟨fwd?_some_mem, fwd?_of_mem h.keys_nodup⟩

theorem Ok.bwd_iff {D : Dict κ} (h : D.Ok) {k : κ} {v : Nat} : D.bwd? v = some k ↔ (k, v) ∈ D :=
  ⟨bwd?_some_mem, bwd?_of_mem h.vals_nodup⟩

theorem Ok.bwd_fwd {D : Dict κ} (h : D.Ok) {k : κ} {v : Nat} : D.bwd? v = some k ↔ D.fwd? k = some v := by
  rw [h.bwd_iff, h.fwd_iff]

theorem get_of_fwd {D : Dict κ} {k : κ} {v : Nat} (h : D.fwd? k = some v) : D.get k = v := by simp [get, h]

theorem fwd_get {D : Dict κ} {k : κ} (h : k ∈ D.keys) : D.fwd? k = some (D.get k) := by
  obtain ⟨v, hv⟩ := mem_keys_iff.mp h
  rw [get_of_fwd hv, hv]

theorem Ok.bwd_get {D : Dict κ} (h : D.Ok) {k : κ} (hk : k ∈ D.keys) : D.bwd? (D.get k) = some k :=
  h.bwd_fwd.mpr (fwd_get hk)

theorem Ok.get_inj {D : Dict κ} (h : D.Ok) {k k' : κ} (hk : k ∈ D.keys) (hk' : k' ∈ D.keys) (e : D.get k = D.get k') :
    k = k' := by
  have h1 := h.bwd_get hk
  have h2 := h.bwd_get hk'
  rw [e, h2] at h1
  exact (Option.some.inj h1).symm

theorem Ok.get_lt {D : Dict κ} (h : D.Ok) {k : κ} (hk : k ∈ D.keys) : D.get k < D.length :=
  h.mem_vals.mp (List.mem_map.mpr ⟨(k, D.get k), fwd?_some_mem (fwd_get hk), rfl⟩)

theorem Sub.get {D D' : Dict κ} (h : Sub D D') {k : κ} (hk : k ∈ D.keys) : D'.get k = D.get k :=
  get_of_fwd (h k _ (fwd_get hk))

theorem Sub.keys {D D' : Dict κ} (h : Sub D D') {k : κ} (hk : k ∈ D.keys) : k ∈ D'.keys :=
  mem_keys_iff.mpr ⟨_, h k _ (fwd_get hk)⟩

theorem Ok.bwd_sub {D D' : Dict κ} (h' : D'.Ok) (h : D.Ok) (s : Sub D D') {n : Nat} {k : κ} (e : D.bwd? n = some k) :
    D'.bwd? n = some k := h'.bwd_fwd.mpr (s _ _ (h.bwd_fwd.mp e))

/-- `(D, c)` has become `(D', c')` after the weak translator was asked for the keys `K` -/
structure Tr (D : Dict κ) (c : Nat) (D' : Dict κ) (c' : Nat) (K : List κ) : Prop where
  sub : Sub D D'
  keys : ∀ k, k ∈ D'.keys ↔ k ∈ D.keys ∨ k ∈ K
  ok : D.Ok → c = D.length → D'.Ok ∧ c' = D'.length

theorem Tr.refl (D : Dict κ) (c : Nat) : Tr D c D c [] :=
  ⟨Sub.refl D, fun k => by simp, fun h e => ⟨h, e⟩⟩

theorem Tr.trans {D D' D'' : Dict κ} {c c' c'' : Nat} {K K' : List κ} (h : Tr D c D' c' K) (h' : Tr D' c' D'' c'' K') :
    Tr D c D'' c'' (K ++ K') :=
  ⟨h.sub.trans h'.sub, fun k => by rw [h'.keys, h.keys, List.mem_append, or_assoc],
    fun hD hc => h'.ok (h.ok hD hc).1 (h.ok hD hc).2⟩

/-- only the SET of translated keys matters -/
theorem Tr.congr {D D' : Dict κ} {c c' : Nat} {K K' : List κ} (h : Tr D c D' c' K) (e : ∀ k, k ∈ K ↔ k ∈ K') :
    Tr D c D' c' K' :=
  ⟨h.sub, fun k => by rw [h.keys, e], h.ok⟩

theorem Tr.mem {D D' : Dict κ} {c c' : Nat} {K : List κ} (h : Tr D c D' c' K) {k : κ} (hk : k ∈ K) : k ∈ D'.keys :=
  (h.keys k).mpr (Or.inr hk)

theorem keys_snoc (D : Dict κ) (k : κ) (v : Nat) : (D ++ [(k, v)]).keys = D.keys ++ [k] := by simp [keys]

/-- one call of the translator, for ANY dictionary and counter -/
theorem weak_tr (D : Dict κ) (c : Nat) (k : κ) :
    Tr D c (D.weak c k).2.1 (D.weak c k).2.2 [k] ∧ (D.weak c k).2.1.fwd? k = some (D.weak c k).1 := by
  unfold weak
  cases h : D.fwd? k with
  | some v =>
    refine ⟨⟨Sub.refl D, fun k' => ⟨Or.inl, ?_⟩, fun hD hc => ⟨hD, hc⟩⟩, h⟩
    rintro (h' | h')
    · exact h'
    · rw [List.mem_singleton.mp h']; exact mem_keys_iff.mpr ⟨v, h⟩
  | none =>
    refine ⟨⟨fun _ _ => fwd?_append_some, fun k' => ?_, fun hD hc => ⟨⟨?_, ?_⟩, ?_⟩⟩, ?_⟩
    · show k' ∈ (D ++ [(k, c)]).keys ↔ _
      rw [keys_snoc, List.mem_append]
    · show (D ++ [(k, c)]).keys.Nodup
      rw [keys_snoc, List.nodup_append]
      refine ⟨hD.keys_nodup, by simp, ?_⟩
      intro a ha b hb e
      rw [e, List.mem_singleton.mp hb] at ha
      exact fwd?_eq_none.mp h ha
    · show (D ++ [(k, c)]).vals = List.range (D ++ [(k, c)]).length
      simp only [vals, List.map_append, List.map_cons, List.map_nil, List.length_append, List.length_cons,
        List.length_nil]
      rw [show D.length + (0 + 1) = D.length.succ from by omega, List.range_succ, hc]
      congr 1
      exact hD.dense
    · simp [insert, hc]
    · show (D ++ [(k, c)]).fwd? k = some c
      rw [fwd?_append_none h]; simp [fwd?]

/-- the counter of a translator that allocates the size of its dictionary is the size again, for ANY dictionary -/
theorem weak_counter (D : Dict κ) (k : κ) : (D.weak D.length k).2.2 = (D.weak D.length k).2.1.length := by
  unfold weak
  cases D.fwd? k <;> simp [insert]

theorem weak_tr_size (D : Dict κ) (k : κ) :
    Tr D D.length (D.weak D.length k).2.1 (D.weak D.length k).2.1.length [k] :=
  weak_counter D k ▸ (weak_tr D D.length k).1

/-- the renumbering from `D₁` to `D₂`: the number that `D₂` gives to the key that has the number `n` in `D₁`; the identity
on the numbers that `D₁` does not use -/
def transfer (D₁ D₂ : Dict κ) (n : Nat) : Nat :=
  match D₁.bwd? n with
  | some k => D₂.get k
  | none => n

theorem transfer_get {D₁ : Dict κ} (D₂ : Dict κ) (h₁ : D₁.Ok) {k : κ} (hk : k ∈ D₁.keys) :
    transfer D₁ D₂ (D₁.get k) = D₂.get k := by
  unfold transfer; rw [h₁.bwd_get hk]

theorem length_eq_of_keys {D₁ D₂ : Dict κ} (h₁ : D₁.Ok) (h₂ : D₂.Ok) (hk : ∀ k, k ∈ D₁.keys ↔ k ∈ D₂.keys) :
    D₁.length = D₂.length := by
  have := ((List.perm_ext_iff_of_nodup h₁.keys_nodup h₂.keys_nodup).mpr hk).length_eq
  simpa [keys] using this

theorem Ok.bwd_none {D : Dict κ} (h : D.Ok) {n : Nat} : D.bwd? n = none ↔ D.length ≤ n := by
  rw [bwd?_eq_none, h.mem_vals]; omega

theorem Ok.bwd_some_of_lt {D : Dict κ} (h : D.Ok) {n : Nat} (hn : n < D.length) : ∃ k, D.bwd? n = some k := by
  cases e : D.bwd? n with
  | some k => exact ⟨k, rfl⟩
  | none => have := h.bwd_none.mp e; omega

theorem mem_keys_of_bwd {D : Dict κ} {n : Nat} {k : κ} (h : D.bwd? n = some k) : k ∈ D.keys :=
  List.mem_map.mpr ⟨(k, n), bwd?_some_mem h, rfl⟩

theorem transfer_injective {D₁ D₂ : Dict κ} (h₁ : D₁.Ok) (h₂ : D₂.Ok) (hk : ∀ k, k ∈ D₁.keys ↔ k ∈ D₂.keys) :
    Function.Injective (transfer D₁ D₂) := by
  have hl := length_eq_of_keys h₁ h₂ hk
  intro n m e
  unfold transfer at e
  cases e1 : D₁.bwd? n with
  | none =>
    cases e2 : D₁.bwd? m with
    | none => simpa [e1, e2] using e
    | some k' =>
      simp only [e1, e2] at e
      have := h₂.get_lt ((hk k').mp (mem_keys_of_bwd e2))
      have := h₁.bwd_none.mp e1
      omega
  | some k =>
    cases e2 : D₁.bwd? m with
    | none =>
      simp only [e1, e2] at e
      have := h₂.get_lt ((hk k).mp (mem_keys_of_bwd e1))
      have := h₁.bwd_none.mp e2
      omega
    | some k' =>
      simp only [e1, e2] at e
      have hkk : k = k' := h₂.get_inj ((hk k).mp (mem_keys_of_bwd e1)) ((hk k').mp (mem_keys_of_bwd e2)) e
      rw [← hkk] at e2
      have := (h₁.bwd_fwd.mp e1).symm.trans (h₁.bwd_fwd.mp e2)
      exact Option.some.inj this

theorem transfer_surjective {D₁ D₂ : Dict κ} (h₁ : D₁.Ok) (h₂ : D₂.Ok) (hk : ∀ k, k ∈ D₁.keys ↔ k ∈ D₂.keys) :
    Function.Surjective (transfer D₁ D₂) := by
  have hl := length_eq_of_keys h₁ h₂ hk
  intro m
  by_cases hm : m < D₂.length
  · obtain ⟨k, e⟩ := h₂.bwd_some_of_lt hm
    refine ⟨D₁.get k, ?_⟩
    rw [transfer_get D₂ h₁ ((hk k).mpr (mem_keys_of_bwd e))]
    exact get_of_fwd (h₂.bwd_fwd.mp e)
  · refine ⟨m, ?_⟩
    unfold transfer
    rw [h₁.bwd_none.mpr (by omega)]

theorem Sub.length_le {D D' : Dict κ} (hD : D.Ok) (hD' : D'.Ok) (h : Sub D D') :
    D.length ≤ D'.length := by
  apply Classical.byContradiction
  intro hn
  have hpos : D.length - 1 < D.length := by omega
  obtain ⟨k, hk⟩ := hD.bwd_some_of_lt hpos
  have hf := h k _ (hD.bwd_fwd.mp hk)
  have : D.length - 1 ∈ D'.vals := List.mem_map.mpr ⟨(k, D.length - 1), fwd?_some_mem hf, rfl⟩
  have := hD'.mem_vals.mp this
  omega

end Dict

theorem Dict.Ok.injective {κ : Type} [DecidableEq κ] {D : Dict κ} (h : D.Ok) :
    (∀ k k' v, D.fwd? k = some v → D.fwd? k' = some v → k = k') ∧
    (∀ v v' k, D.bwd? v = some k → D.bwd? v' = some k → v = v') := by
  constructor
  · intro k k' v h1 h2
    have := (h.bwd_fwd.mpr h1).symm.trans (h.bwd_fwd.mpr h2)
    exact Option.some.inj this
  · intro v v' k h1 h2
    have := (h.bwd_fwd.mp h1).symm.trans (h.bwd_fwd.mp h2)
    exact Option.some.inj this

end Vata
