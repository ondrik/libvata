import Vata.Proofs.TimbukLayoutFile
/-!
# Classes of texts the Timbuk parser rejects (property C13)

Every theorem is about the model `parseC`: the text is answered by `.error` (the model of `throw`), because it has no
reading in the grammar (`parseC_error_iff`): a reading would place the offending line in its header part or its rule part
(`append_cons_cases`), where every line is blank, a header line or a transition line.
* no line whose first word is `Transitions` (`rejects_no_transitions`);
* a line whose first word is an unknown keyword before the `Transitions` line (`rejects_unknown_keyword`);
* a section keyword `Ops` / `Automaton` / `States` / `Final` for the second time before `Transitions` (`rejects_repeated`);
* after the `Transitions` line, a non-blank line that is not a transition (`rejects_bad_transition`, classes `BadTrans`).
-/
namespace Vata.Timbuk
open Vata.T (splitDelim)

def firstWord (line : Str) : Str := (readWord (trim line)).1

def NoTransitionsLine (ls : List Str) : Prop := ∀ l ∈ ls, firstWord l ≠ kwTransitions

theorem firstWord_of_words {l w : Str} {ws : List Str} (h : Words l (w :: ws)) : firstWord l = w := by
  rw [firstWord, readWord_fst, (words_iff l _).mp h]; rfl

theorem headerLine_firstWord {l : Str} {k : HKind} {ps : List (Str × Int)} (h : HeaderLine l k ps) :
    firstWord l = k.kw := by
  obtain ⟨ws, hw⟩ := headerLine_first h
  rw [firstWord, readWord_fst, hw]; rfl

theorem HeaderPart.noTransitions {ls : List Str} {hs : List (HKind × List (Str × Int))} (h : HeaderPart ls hs) :
    NoTransitionsLine ls := by
  intro l hl
  rcases h.mem l hl with hb | ⟨k, ps, hk⟩
  · rw [firstWord, trim_allWs hb]; decide
  · rw [headerLine_firstWord hk]; exact kw_ne_transitions k

/-- two ways of cutting one list at an element: the cuts coincide, or one lies inside the other's tail -/
theorem append_cons_cases {α : Type} : ∀ {a c : List α} {x y : α} {b d : List α}, a ++ x :: b = c ++ y :: d →
    (∃ m, c = a ++ x :: m ∧ b = m ++ y :: d) ∨ (a = c ∧ x = y ∧ b = d) ∨ (∃ m, a = c ++ y :: m ∧ d = m ++ x :: b)
  | [], [], _, _, _, _, h => by injection h with h1 h2; exact Or.inr (Or.inl ⟨rfl, h1, h2⟩)
  | [], z :: c, _, _, _, _, h => by injection h with h1 h2; subst h1; exact Or.inl ⟨c, rfl, h2⟩
  | z :: a, [], _, _, _, _, h => by injection h with h1 h2; subst h1; exact Or.inr (Or.inr ⟨a, rfl, h2.symm⟩)
  | z :: a, w :: c, _, _, _, _, h => by
    injection h with h1 h2; subst h1
    rcases append_cons_cases h2 with ⟨m, rfl, e⟩ | ⟨rfl, e1, e2⟩ | ⟨m, rfl, e⟩
    · exact Or.inl ⟨m, rfl, e⟩
    · exact Or.inr (Or.inl ⟨rfl, e1, e2⟩)
    · exact Or.inr (Or.inr ⟨m, rfl, e⟩)

theorem rejects_no_transitions (t : Str) (h : NoTransitionsLine (splitDelim '\n' t)) : ∃ e, parseC t = .error e := by
  rw [parseC_error_iff]
  rintro ⟨R, ⟨hdr, trl, rules, hl, _, ⟨ws, ht⟩, _⟩, _⟩
  rw [(lines_iff _ _).mp hl] at h
  exact h trl (by simp) (firstWord_of_words ht)

theorem rejects_unknown_keyword (t : Str) (pre post : List Str) (l : Str)
    (hs : splitDelim '\n' t = pre ++ l :: post) (hpre : NoTransitionsLine pre) (hne : trim l ≠ [])
    (h0 : firstWord l ≠ kwTransitions) (hk : ∀ k : HKind, firstWord l ≠ k.kw) : ∃ e, parseC t = .error e := by
  rw [parseC_error_iff]
  rintro ⟨R, ⟨hdr, trl, rules, hl, hh, ⟨ws, ht⟩, _⟩, _⟩
  rw [(lines_iff _ _).mp hl] at hs
  rcases append_cons_cases hs with ⟨m, rfl, _⟩ | ⟨_, rfl, _⟩ | ⟨m, rfl, _⟩
  · exact hpre trl (by simp) (firstWord_of_words ht)
  · exact h0 (firstWord_of_words ht)
  · rcases hh.mem l (by simp) with hb | ⟨k, ps, hl⟩
    · exact hne (trim_allWs hb)
    · exact hk k (headerLine_firstWord hl)

theorem HeaderPart.split {l : Str} {k : HKind} (hw : firstWord l = k.kw) {b : List Str} :
    ∀ {a : List Str} {hs : List (HKind × List (Str × Int))}, HeaderPart (a ++ l :: b) hs →
      ∃ h1 ps h2, hs = h1 ++ (k, ps) :: h2 ∧ HeaderPart b h2
  | [], _, h => by
    cases h with
    | blank hb _ =>
      rw [firstWord, trim_allWs hb] at hw
      exact absurd hw.symm (kw_word k).1
    | line hl hrest =>
      have := kw_injective ((headerLine_firstWord hl).symm.trans hw)
      subst this
      exact ⟨[], _, _, rfl, hrest⟩
  | x :: a, _, h => by
    cases h with
    | blank _ hrest => exact HeaderPart.split hw hrest
    | line _ hrest =>
      obtain ⟨h1, ps, h2, rfl, hb⟩ := HeaderPart.split hw hrest
      exact ⟨_ :: h1, ps, h2, rfl, hb⟩

theorem rejects_repeated (t : Str) (k : HKind) (pre mid post : List Str) (l1 l2 : Str)
    (hs : splitDelim '\n' t = pre ++ l1 :: (mid ++ l2 :: post)) (hpre : NoTransitionsLine pre)
    (hmid : NoTransitionsLine mid) (h1 : firstWord l1 = k.kw) (h2 : firstWord l2 = k.kw) :
    ∃ e, parseC t = .error e := by
  rw [parseC_error_iff]
  rintro ⟨R, ⟨hdr, trl, rules, hl, hh, ⟨ws, ht⟩, _⟩, hn⟩
  have htw := firstWord_of_words ht
  rw [(lines_iff _ _).mp hl] at hs
  -- both lines lie before the `Transitions` line
  rcases append_cons_cases hs with ⟨m, rfl, _⟩ | ⟨_, rfl, _⟩ | ⟨m, rfl, hs'⟩
  · exact hpre trl (by simp) htw
  · exact kw_ne_transitions k (h1.symm.trans htw)
  rcases append_cons_cases hs'.symm with ⟨m', rfl, _⟩ | ⟨_, rfl, _⟩ | ⟨m', rfl, _⟩
  · exact hmid trl (by simp) htw
  · exact kw_ne_transitions k (h2.symm.trans htw)
  obtain ⟨a, ps, b, e, hb⟩ := HeaderPart.split h1 hh
  obtain ⟨a', ps', b', rfl, _⟩ := HeaderPart.split h2 hb
  rw [e] at hn
  simp only [List.map_append, List.map_cons] at hn
  exact (List.nodup_cons.mp (List.nodup_append.mp hn).2.1).1 (by simp)

/-- trimmed lines that are not transitions; `l`, `r`: the text before and after the first `->` -/
inductive BadTrans : Str → Prop
  | noArrow {s : Str} : splitArrow s = none → BadTrans s
  /-- nothing, or more than one word, after the arrow -/
  | badRhs {s l r : Str} : splitArrow s = some (l, r) → (trim r = [] ∨ containsWs (trim r) = true) → BadTrans s
  | noLhs {s l r : Str} : splitArrow s = some (l, r) → trim l = [] → BadTrans s
  /-- no parentheses and white space inside the left-hand side -/
  | twoWords {s l r : Str} : splitArrow s = some (l, r) → '(' ∉ trim l → containsWs (trim l) = true → BadTrans s
  | closeOnly {s l r : Str} : splitArrow s = some (l, r) → '(' ∉ trim l → ')' ∈ trim l → BadTrans s
  | openOnly {s l r : Str} : splitArrow s = some (l, r) → '(' ∈ trim l → ')' ∉ trim l → BadTrans s

theorem readLhs_bad {lhs : Str}
    (h : lhs = [] ∨ ('(' ∉ lhs ∧ containsWs lhs = true) ∨ ('(' ∉ lhs ∧ ')' ∈ lhs) ∨ ('(' ∈ lhs ∧ ')' ∉ lhs)) :
    readLhs lhs = none := by
  rcases h with h | ⟨h1, h2⟩ | ⟨h1, h2⟩ | ⟨h1, h2⟩
  · subst h; rfl
  · rw [readLhs_bare h1, h2, Bool.or_true, Bool.true_or, if_pos rfl]
  · rw [readLhs_bare h1, List.contains_iff_mem.mpr h2, Bool.true_or, Bool.true_or, if_pos rfl]
  · -- neither shape: a bare label has no `(`, an application ends with `)`
    cases hp : readLhs lhs with
    | none => rfl
    | some p =>
      rcases readLhs_some (kids := p.1) (lab := p.2) hp with ⟨h3, _⟩ | ⟨lab0, body, rfl, _⟩
      · exact absurd h1 h3
      · exact absurd (by simp) h2

theorem readTransLine_bad {l : Str} (h : BadTrans (trim l)) : readTransLine l = none := by
  -- with an arrow, either the right-hand side or the left-hand side is bad
  have key : ∀ {a b : Str}, splitArrow (trim l) = some (a, b) → readLhs (trim a) = none → readTransLine l = none := by
    intro a b hs hl
    simp only [readTransLine, hs, hl, ite_self]
  cases h with
  | noArrow h => simp only [readTransLine, h]
  | badRhs h h' =>
    rcases h' with h' | h'
    · simp [readTransLine, h, h']
    · simp [readTransLine, h, h']
  | noLhs h h' => exact key h (readLhs_bad (Or.inl h'))
  | twoWords h h1 h2 => exact key h (readLhs_bad (Or.inr (Or.inl ⟨h1, h2⟩)))
  | closeOnly h h1 h2 => exact key h (readLhs_bad (Or.inr (Or.inr (Or.inl ⟨h1, h2⟩))))
  | openOnly h h1 h2 => exact key h (readLhs_bad (Or.inr (Or.inr (Or.inr ⟨h1, h2⟩))))

theorem rejects_bad_transition (t : Str) (pre post : List Str) (l : Str)
    (hs : splitDelim '\n' t = pre ++ l :: post) (hpre : ∃ x ∈ pre, firstWord x = kwTransitions)
    (hne : trim l ≠ []) (hbad : BadTrans (trim l)) : ∃ e, parseC t = .error e := by
  rw [parseC_error_iff]
  rintro ⟨R, ⟨hdr, trl, rules, hl, hh, _, hr⟩, _⟩
  rw [(lines_iff _ _).mp hl] at hs
  obtain ⟨x, hx, hxw⟩ := hpre
  rcases append_cons_cases hs with ⟨m, rfl, rfl⟩ | ⟨rfl, _, _⟩ | ⟨m, rfl, _⟩
  · rcases hr.mem l (by simp) with hb | ⟨lab, kids, rhs, hl⟩
    · exact hne (trim_allWs hb)
    · have := transLine_read hl
      rw [readTransLine_bad hbad] at this; cases this
  · exact hh.noTransitions x hx hxw
  · exact hh.noTransitions x (by simp [hx]) hxw

end Vata.Timbuk
