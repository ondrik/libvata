import Vata.Proofs.TimbukNormalForm
import Vata.Properties.C13_Layout
/-!
# C13 (continued) – normal forms: `serialize ∘ parse ∘ serialize = serialize`, exact round trip, permutations, duplicates

> For every automaton description, parsing its serialisation gives back the same final states and rules, and for every
> automaton in any of the four encodings, dumping it and loading the text again yields the same rules and final states
> under the same state names. For any input text whatsoever the parser and the loaders either succeed or throw a
> standard exception; they never crash, hang or corrupt memory.

`C13.lean` / `C13_Layout.lean` state the round trip up to "the same SET"; they left open everything that needs the four
containers to be *canonical*: idempotence of `serialize ∘ parse`, the exact answer `.ok d`, and the invariance of the parse
result under permuting (or repeating) rule lines and section words.  This file closes those items.

## How the C++ is read into the model

* `include/vata/util/aut_description.hh`: `typedef std::set<Symbol> SymbolSet; typedef std::set<State> StateSet;
  typedef std::set<Transition> TransitionSet;` with `Symbol = std::pair<std::string, int>`, `State = std::string`,
  `Transition = Triple<std::vector<State>, std::string, State>`, all with the default `std::less`, i.e. `operator<`.
  The model (`Vata/Timbuk.lean`) keeps the list of the elements in iteration order, built by `setInsert` (`std::set::insert`:
  walk to the position, do nothing when the element is there), and transcribes the comparisons: `ltChar` (unsigned bytes),
  `lexLt` (`std::lexicographical_compare` = `std::string` / `std::vector` `operator<`), `ltSym` (`std::pair::operator<`:
  `a.first < b.first || (!(b.first < a.first) && a.second < b.second)`), `ltTrans` (`Triple::operator<`,
  `include/vata/util/triple.hh`: `if (first < rhs.first) return true; else if (first > rhs.first) return false;
  assert(first == rhs.first); if (second < rhs.second) … return third < rhs.third;`).
* `Vata/Proofs/TimbukOrder.lean` proves that these four comparisons, **as transcribed**, are strict total orders
  (`StrictTotal`: irreflexive, transitive, trichotomous).  A slip in a comparison (e.g. `<=` for `<`, a forgotten
  `!(b.first < a.first)`) would make one of the three laws fail.  `C13_triple_asserts_hold`: the two `assert`s inside
  `Triple::operator<` are implied by the two failed comparisons before them.
* `Vata/Proofs/TimbukNorm.lean`: `norm` (insert everything into an empty `std::set`) yields a strictly increasing list,
  depends on the set of elements only, and is idempotent.
* `AutDesc.NormalForm d` (`Vata/TimbukNormal.lean`, decidable): the four lists of `d` are strictly increasing, i.e. they are
  what iterating the C++ sets yields.  `AutDesc.normalize d`: the `std::set` view of `d` with the name the serializer writes.
* Texts are `Timbuk.Layout`s (`Vata/Proofs/TimbukLayoutFile.lean`, see `C13_Layout.lean`); `F.Ok d` says that `F` lists the
  tokens of `d` in the order of `d` – so "permuting the rule lines / the words of a section" is: a layout `F'` of a
  description `d'` whose lists are permutations of those of `d` (`Desc.PermOf`), and "repeating" is `Desc.SameSets`.

Abstracted: nothing new; all statements are about the model (see the end).
-/
namespace Vata.Props
open Vata.Timbuk

/-! ### 1. the C++ comparisons are strict total orders -/

/-- `std::string::operator<`, `std::vector<std::string>::operator<`, `std::pair<std::string,int>::operator<` and
`Triple::operator<`, as the model transcribes them, are strict total orders: `lt a a` never holds, `lt` is transitive, and
two values neither of which is below the other are EQUAL (so `std::set` equivalence is equality) -/
theorem C13_orders_strict_total :
    StrictTotal ltStr ∧ StrictTotal ltTuple ∧ StrictTotal ltSym ∧ StrictTotal ltTrans :=
  ⟨ltStr_strictTotal, ltTuple_strictTotal, ltSym_strictTotal, ltTrans_strictTotal⟩

/-- trichotomy, for each of the four: exactly the shape `a < b ∨ a = b ∨ b < a` -/
theorem C13_orders_trichotomy :
    (∀ a b, ltStr a b = true ∨ a = b ∨ ltStr b a = true) ∧ (∀ a b, ltTuple a b = true ∨ a = b ∨ ltTuple b a = true) ∧
    (∀ a b, ltSym a b = true ∨ a = b ∨ ltSym b a = true) ∧ (∀ a b, ltTrans a b = true ∨ a = b ∨ ltTrans b a = true) :=
  ⟨ltStr_strictTotal.trichotomy, ltTuple_strictTotal.trichotomy, ltSym_strictTotal.trichotomy,
    ltTrans_strictTotal.trichotomy⟩

/-- the constructions, generically: `std::lexicographical_compare` and `std::pair::operator<` over strict total orders are
strict total orders -/
theorem C13_lex_pair_strict_total {α β : Type} {lt₁ : α → α → Bool} {lt₂ : β → β → Bool} (h₁ : StrictTotal lt₁)
    (h₂ : StrictTotal lt₂) : StrictTotal (lexLt lt₁) ∧ StrictTotal (pairLt lt₁ lt₂) :=
  ⟨lexLt_strictTotal h₁, pairLt_strictTotal h₁ h₂⟩

example : ltStr "Q".toList "q".toList = true ∧ ltStr "q".toList "q0".toList = true ∧ ltStr "q0".toList "q".toList = false ∧
    ltStr "q".toList "q".toList = false := by decide
example : ltSym ("a".toList, 2) ("b".toList, 1) = true ∧ ltSym ("a".toList, -1) ("a".toList, 2) = true ∧
    ltSym ("a".toList, 2) ("a".toList, 2) = false := by decide
example : ltTrans ([], "b".toList, "q".toList) (["q".toList], "a".toList, "q".toList) = true ∧
    ltTrans (["q".toList], "a".toList, "q".toList) (["q".toList], "a".toList, "r".toList) = true ∧
    ltTrans (["q".toList], "a".toList, "r".toList) (["q".toList, "q".toList], "a".toList, "q".toList) = true := by decide +kernel
/-- the hypothesis of the generic statement cannot be dropped: over a comparison that is not irreflexive the
lexicographic comparison is not irreflexive either -/
example : lexLt (fun (a b : Nat) => decide (a ≤ b)) [1] [1] = true := by decide

/-- **the `assert`s of `Triple::operator<` cannot fire**: after `first < rhs.first` and `first > rhs.first` both failed,
`first == rhs.first`; likewise for `second` -/
theorem C13_triple_asserts_hold (a b : Trans) :
    (ltTuple a.1 b.1 = false → ltTuple b.1 a.1 = false → a.1 = b.1) ∧
    (ltStr a.2.1 b.2.1 = false → ltStr b.2.1 a.2.1 = false → a.2.1 = b.2.1) :=
  ⟨ltTuple_strictTotal.total, ltStr_strictTotal.total⟩

/-! ### 2. `norm`: the list of a `std::set` -/

/-- the list of a `std::set` is strictly increasing (hence duplicate-free) and has exactly the inserted elements -/
theorem C13_norm_sorted {α : Type} [DecidableEq α] {lt : α → α → Bool} (h : StrictTotal lt) (l : List α) :
    Sorted lt (norm lt l) ∧ (norm lt l).Nodup ∧ ∀ x, x ∈ norm lt l ↔ x ∈ l :=
  ⟨norm_sorted h l, (norm_sorted h l).nodup h, fun x => mem_norm lt x l⟩

/-- `norm` is idempotent; it is the identity exactly on the strictly increasing lists (`sortedB`, executable) -/
theorem C13_norm_idem {α : Type} [DecidableEq α] {lt : α → α → Bool} (h : StrictTotal lt) (l : List α) :
    norm lt (norm lt l) = norm lt l ∧ (norm lt l = l ↔ sortedB lt l = true) :=
  ⟨norm_idem h l, norm_eq_self_iff h l⟩

/-- `norm` is invariant under permutation -/
theorem C13_norm_perm {α : Type} [DecidableEq α] {lt : α → α → Bool} (h : StrictTotal lt) {l₁ l₂ : List α}
    (hp : l₁.Perm l₂) : norm lt l₁ = norm lt l₂ :=
  norm_congr h (fun _ => hp.mem_iff)

/-- … and under duplication: it depends on the SET of elements only; and two sets are equal iff their lists are -/
theorem C13_norm_sameSet {α : Type} [DecidableEq α] {lt : α → α → Bool} (h : StrictTotal lt) (l₁ l₂ : List α) :
    norm lt l₁ = norm lt l₂ ↔ ∀ x, x ∈ l₁ ↔ x ∈ l₂ :=
  ⟨fun e x => by rw [← mem_norm lt x l₁, ← mem_norm lt x l₂, e], norm_congr h⟩

example : norm ltStr ["r".toList, "q".toList, "r".toList, "Q".toList] = ["Q".toList, "q".toList, "r".toList] := by decide
example : ["r".toList, "q".toList, "r".toList, "Q".toList].Perm ["Q".toList, "r".toList, "r".toList, "q".toList] := by
  decide
/-- the order hypothesis cannot be dropped: with a comparison that never answers `true`, `setInsert` appends, and the
result depends on the order of insertion -/
example : norm (fun (_ _ : Nat) => false) [1, 2] ≠ norm (fun (_ _ : Nat) => false) [2, 1] ∧ [1, 2].Perm [2, 1] := by
  decide

/-! ### 3. the serializer is blind to order, multiplicity and `anonymous`; idempotence -/

theorem serialize_toS (d : Desc) : serialize d.toS = String.ofList (serializeC d) := by
  unfold serialize; rw [ofS_toS]

/-- **the exact parse result of a serialisation**: for every well-formed `d`, `parseTimbuk (serialize d)` is `.ok` of the
normal form of `d` – each list sorted by the C++ order without duplicates, the name replaced by `anonymous` if empty -/
theorem C13_parse_serialize_normalize (d : AutDesc) (hwf : d.WellFormed) :
    parseTimbuk (serialize d) = .ok d.normalize := by
  unfold parseTimbuk serialize
  rw [String.toList_ofList, parseC_serializeC (ofS d) (wf_of_wellFormed hwf), roundTrip_eq_normalize]
  rfl

example : TimbukEx.exD.WellFormed := TimbukEx.exD_wf
example : TimbukEx.exD.normalize = ⟨"anonymous", [("a", 0), ("b", 0), ("f", 2), ("f", 3), ("g", 1), ("neg", -1)],
    [">r", "q-", "q0", "q1"], [],
    [([], "a", "q0"), ([], "b", "q1"), (["q-"], "g", ">r"), (["q0", "q1"], "f", "q-"), (["q0", "q1", ">r"], "f", "q0")]⟩ := by
  decide +kernel

/-- the serializer writes the same text for a description and for its normal form -/
theorem C13_serialize_normalize (d : AutDesc) : serialize d.normalize = serialize d := by
  unfold AutDesc.normalize
  rw [serialize_toS, serializeC_normalize]
  rfl

/-- **idempotence, `serialize ∘ parse ∘ serialize = serialize`**: for every well-formed `d` the serialisation parses, and
serialising the parsed description gives the same text again, byte for byte.  (`WellFormed` is needed for the parse to
succeed at all, `TimbukEx.exBad`.) -/
theorem C13_serialize_idempotent (d : AutDesc) (hwf : d.WellFormed) :
    ∃ d', parseTimbuk (serialize d) = .ok d' ∧ serialize d' = serialize d :=
  ⟨d.normalize, C13_parse_serialize_normalize d hwf, C13_serialize_normalize d⟩

/-- the same as a statement about texts: every text `t` that the serializer can write for a well-formed description is a
fixed point of `serialize ∘ parse` -/
theorem C13_serialized_text_fixed (d : AutDesc) (hwf : d.WellFormed) (t : String) (ht : t = serialize d) :
    ∃ d', parseTimbuk t = .ok d' ∧ serialize d' = t := by
  subst ht; exact C13_serialize_idempotent d hwf

/-- the test "the serialisation parses and is serialised to the same text again" on characters: no text is encoded as a `String`
and decoded again -/
theorem reserialize_test_chars (d : AutDesc) :
    (match parseTimbuk (serialize d) with
      | .ok d' => serialize d' == serialize d
      | .error _ => false) =
    (match parseC (serializeC (ofS d)) with
      | .ok d' => serializeC d' == serializeC (ofS d)
      | .error _ => false) := by
  rw [parseTimbuk_serialize_eq]
  cases parseC (serializeC (ofS d)) with
  | error e => rfl
  | ok d' =>
    show (serialize d'.toS == serialize d) = (serializeC d' == serializeC (ofS d))
    rw [serialize_toS, serialize, Bool.eq_iff_iff, beq_iff_eq, beq_iff_eq, String.ofList_inj]

/-- executed on `exD` (unsorted lists, duplicates, the empty name) -/
example : (match parseTimbuk (serialize TimbukEx.exD) with
    | .ok d' => serialize d' == serialize TimbukEx.exD
    | .error _ => false) = true := by
  rw [reserialize_test_chars]; decide +kernel

/-- **the serializer sees the sets only**: two descriptions with the same name and, section by section, the same sets of
symbols, states, final states and rules (in any order, with any repetitions) are written to the same text -/
theorem C13_serialize_order_blind (d d' : AutDesc) (hname : d.name = d'.name) (hsym : d.symbols ≈ d'.symbols)
    (hst : d.states ≈ d'.states) (hfin : d.final ≈ d'.final) (htr : d.trans ≈ d'.trans) :
    serialize d = serialize d' := by
  unfold serialize
  exact congrArg String.ofList (serializeC_congr (congrArg String.toList hname) (sameSet_map hsym _) (sameSet_map hst _)
    (sameSet_map hfin _) (sameSet_map htr _))

example : serialize ⟨"A", [("f", 2), ("a", 0)], ["r", "q"], ["r"], [(["q"], "f", "r"), ([], "a", "q")]⟩ =
    serialize ⟨"A", [("a", 0), ("f", 2), ("a", 0)], ["q", "r", "q"], ["r", "r"],
      [([], "a", "q"), (["q"], "f", "r"), ([], "a", "q")]⟩ := congrArg String.ofList (by decide +kernel)

/-! ### 4. the exact round trip `parseTimbuk (serialize d) = .ok d` -/

theorem ofS_name_ne {d : AutDesc} (h : d.name ≠ "") : (ofS d).name ≠ [] := by
  intro e
  exact h (String.toList_eq_nil_iff.mp e)

/-- **exact round trip**: for a well-formed description that is in normal form (its four lists are what iterating the
C++ `std::set`s yields: strictly increasing) and has a name, parsing the serialisation returns exactly `d` -/
theorem C13_parse_exact_normalised (d : AutDesc) (hwf : d.WellFormed) (hnf : d.NormalForm) (hname : d.name ≠ "") :
    parseTimbuk (serialize d) = .ok d := by
  rw [C13_parse_serialize_normalize d hwf]
  unfold AutDesc.normalize
  rw [normalize_of_sorted hnf (ofS_name_ne hname), toS_ofS]

/-- the two extra hypotheses are exactly what is needed: for well-formed `d` the exact round trip holds IFF `d` is in normal
form and named -/
theorem C13_parse_exact_iff (d : AutDesc) (hwf : d.WellFormed) :
    parseTimbuk (serialize d) = .ok d ↔ d.NormalForm ∧ d.name ≠ "" := by
  constructor
  · intro h
    rw [C13_parse_serialize_normalize d hwf] at h
    injection h with h
    have h' : (ofS d).normalize = ofS d := by
      have := congrArg ofS h
      unfold AutDesc.normalize at this
      rwa [ofS_toS] at this
    obtain ⟨h1, h2⟩ := sorted_of_normalize_eq h'
    refine ⟨h1, ?_⟩
    intro e
    apply h2
    show d.name.toList = []
    rw [e]; rfl
  · rintro ⟨h1, h2⟩
    exact C13_parse_exact_normalised d hwf h1 h2

namespace C13NormalEx
/-- `exE` in `std::set` order -/
def exN : AutDesc := ⟨"A-1", [("a", 0), ("f", 2)], ["q", "r"], ["q", "r"],
  [([], "a", "q"), (["q", "r"], "f", "r"), (["r", "r"], "f", "q")]⟩
example : exN.WellFormed ∧ exN.NormalForm ∧ exN.name ≠ "" := by decide +kernel
/-- not in normal form (`exE`: a repeated final state, the rules out of order), not named (`exD`) -/
example : TimbukEx.exE.WellFormed ∧ ¬ TimbukEx.exE.NormalForm := ⟨TimbukEx.exE_wf, by decide +kernel⟩
example : TimbukEx.exD.WellFormed ∧ TimbukEx.exD.name = "" := ⟨TimbukEx.exD_wf, rfl⟩
example : exN = TimbukEx.exE.normalize := by decide +kernel
end C13NormalEx

/-- **every description the parser returns is in normal form** – for ANY text: the line loop only ever `insert`s into
the four sets -/
theorem C13_parse_result_normal (t : String) (d : AutDesc) (h : parseTimbuk t = .ok d) : d.NormalForm := by
  obtain ⟨d0, hd0, rfl⟩ := (parseTimbuk_ok_iff t d).mp h
  show (ofS d0.toS).sortedB = true
  rw [ofS_toS]
  exact parseC_sorted hd0

/-- **serialise after parse, exactly** (the corrected form of the statement that `C13_Layout.lean` shows false for the
empty name): whatever text `t` was parsed – any layout, any order, repetitions –, if the result `d` is well-formed and
has a name then `serialize d` parses back to exactly `d`; and with or without a name the text `serialize d` is a fixed
point of `serialize ∘ parse` -/
theorem C13_serialize_parse_exact (t : String) (d : AutDesc) (hp : parseTimbuk t = .ok d) (hwf : d.WellFormed) :
    (d.name ≠ "" → parseTimbuk (serialize d) = .ok d) ∧
    (∃ d', parseTimbuk (serialize d) = .ok d' ∧ serialize d' = serialize d) :=
  ⟨fun hname => C13_parse_exact_normalised d hwf (C13_parse_result_normal t d hp) hname,
    C13_serialize_idempotent d hwf⟩

example : ∃ d, (parseTimbuk "States r q r\nAutomaton A\nTransitions\nb -> q\na() -> q\nb->q").toOption = some d ∧
    d.WellFormed ∧ d.name ≠ "" ∧ d = ⟨"A", [], ["q", "r"], [], [([], "a", "q"), ([], "b", "q")]⟩ :=
  ⟨_, by rw [parseTimbuk_ofList]; decide +kernel, by decide +kernel, by decide +kernel, rfl⟩

/-! ### 5. permuting and repeating rule lines and section words -/

/-- **the parse result of a layout depends on the sets only.**  `F` a layout of `d`, `F'` a layout of `d'`, the same
sections present, `d` and `d'` with the same name and section by section the same SETS: the two texts parse to the same
result (and both parses succeed, `C13_layout_sections`). -/
theorem C13_layout_sameSets (d d' : Desc) (hwf : d.wellFormed = true) (hs : d.SameSets d') (F F' : Layout)
    (hF : F.Ok d) (hF' : F'.Ok d') (hk : ∀ k, k ∈ F.kinds ↔ k ∈ F'.kinds) :
    parseTimbuk (String.ofList F.text) = parseTimbuk (String.ofList F'.text) := by
  apply parseTimbuk_congr
  rw [String.toList_ofList, String.toList_ofList]
  exact parseC_layout_sameSet (wf_of_wellFormed hwf) hs hF hF' hk

/-- **permutation invariance.**  A layout lists the words of `Ops`, `States`, `Final States` and the rule lines in the
order of its description; if `F'` is a layout of `d'` whose four lists are permutations of those of `d` (`Desc.PermOf`) –
i.e. `F'` is `F` with the words inside the sections and the rule lines permuted, and arbitrary other white space, blank
lines, section order – then the two texts have the same parse result. -/
theorem C13_permutation_invariant (d d' : Desc) (hwf : d.wellFormed = true) (hp : d.PermOf d') (F F' : Layout)
    (hF : F.Ok d) (hF' : F'.Ok d') (hk : ∀ k, k ∈ F.kinds ↔ k ∈ F'.kinds) :
    parseTimbuk (String.ofList F.text) = parseTimbuk (String.ofList F'.text) :=
  C13_layout_sameSets d d' hwf hp.sameSets F F' hF hF' hk

/-- **duplicates are ignored.**  If the lists of `d'` are those of `d` with elements repeated (any number of times, at
any place: `Desc.SameSets`, executable test `Desc.sameSetsB`), the texts parse alike. -/
theorem C13_duplicates_ignored (d d' : Desc) (hwf : d.wellFormed = true) (hs : d.sameSetsB d' = true) (F F' : Layout)
    (hF : F.Ok d) (hF' : F'.Ok d') (hk : ∀ k, k ∈ F.kinds ↔ k ∈ F'.kinds) :
    parseTimbuk (String.ofList F.text) = parseTimbuk (String.ofList F'.text) :=
  C13_layout_sameSets d d' hwf (Desc.sameSets_of_sameSetsB hs) F F' hF hF' hk

/-- **rule lines, directly on the layout.**  Replacing the rule lines of a layout by ANY rule lines (each with its blank
lines) that denote the same set of rules – a permutation, repetitions, other spellings such as `a()` for `a` – does not
change the parse result. -/
theorem C13_transition_lines_as_set (d : Desc) (hwf : d.wellFormed = true) (F : Layout) (hF : F.Ok d)
    (tls : List (List Str × TLine)) (htls : ∀ p ∈ tls, (∀ b ∈ p.1, Blank b) ∧ p.2.Ok)
    (hset : ∀ t, t ∈ tls.map (·.2.trans) ↔ t ∈ F.tls.map (·.2.trans)) :
    parseTimbuk (String.ofList (F.withTls tls).text) = parseTimbuk (String.ofList F.text) := by
  apply parseTimbuk_congr
  rw [String.toList_ofList, String.toList_ofList]
  exact parseC_withTls (wf_of_wellFormed hwf) hF htls hset

/-- permuting the rule lines (each moves with the blank lines before it) -/
theorem C13_permute_transition_lines (d : Desc) (hwf : d.wellFormed = true) (F : Layout) (hF : F.Ok d)
    (tls : List (List Str × TLine)) (hp : tls.Perm F.tls) :
    parseTimbuk (String.ofList (F.withTls tls).text) = parseTimbuk (String.ofList F.text) :=
  C13_transition_lines_as_set d hwf F hF tls (fun p hp' => hF.tls p (hp.mem_iff.mp hp'))
    (fun _ => (hp.map _).mem_iff)

/-- repeating rule lines: any list of lines drawn from those of the layout that uses each at least once -/
theorem C13_repeat_transition_lines (d : Desc) (hwf : d.wellFormed = true) (F : Layout) (hF : F.Ok d)
    (tls : List (List Str × TLine)) (hm : ∀ p, p ∈ tls ↔ p ∈ F.tls) :
    parseTimbuk (String.ofList (F.withTls tls).text) = parseTimbuk (String.ofList F.text) :=
  C13_transition_lines_as_set d hwf F hF tls (fun p hp' => hF.tls p ((hm p).mp hp'))
    (fun t => by
      simp only [List.mem_map]
      exact ⟨fun ⟨p, hp, e⟩ => ⟨p, (hm p).mp hp, e⟩, fun ⟨p, hp, e⟩ => ⟨p, (hm p).mpr hp, e⟩⟩)

/-- **section words, directly on the layout.**  Replacing the header lines of a layout by ANY header lines with the same
sections (any order of the sections, any white space) whose `Ops` / `States` / `Final States` words are those of lists
`syms`, `sts`, `fin` with the same sets as the sections of `d` – the words permuted, repeated – does not change the parse
result.  (`d.withSections syms sts fin` is `d` with these three lists; name and rules are untouched.) -/
theorem C13_section_words_as_set (d : Desc) (hwf : d.wellFormed = true) (F : Layout) (hF : F.Ok d)
    (syms : List (Str × Int)) (sts fin : List Str) (h1 : syms ≈ d.symbols) (h2 : sts ≈ d.states) (h3 : fin ≈ d.final)
    (hdr : List (List Str × HLine))
    (hok : ∀ p ∈ hdr, (∀ b ∈ p.1, Blank b) ∧ p.2.Ok (d.withSections syms sts fin))
    (hnd : (hdr.map (·.2.kind)).Nodup) (hk : ∀ k, k ∈ hdr.map (·.2.kind) ↔ k ∈ F.kinds) :
    parseTimbuk (String.ofList (F.withHdr hdr).text) = parseTimbuk (String.ofList F.text) := by
  apply parseTimbuk_congr
  rw [String.toList_ofList, String.toList_ofList]
  exact parseC_withHdr (wf_of_wellFormed hwf) hF h1 h2 h3 hok hnd hk

namespace C13NormalEx
/-- a header line / a rule line with the serializer's spacing -/
def hl (k : HKind) (ws : List String) : List Str × HLine := ([], ⟨k, [], ws.map (fun w => ([' '], w.toList)), []⟩)
def tlArgs : List String → Option (Str × Str × List (Str × Str × Str))
  | [] => none
  | k :: ks => some ([], [], ([], k.toList, []) :: ks.map (fun x => ([' '], x.toList, [])))
def tl (sym : String) (kids : List String) (par : String) : List Str × TLine :=
  ([], ⟨[], sym.toList, tlArgs kids, [' '], [' '], par.toList, []⟩)

def dG : Desc := ofS TimbukEx.exE
def G : Layout :=
  ⟨[hl .ops ["a:0", "f:2"], hl .aut ["A-1"], hl .states ["q", "r"], hl .final ["States", "r", "q", "r"]], [], [], [],
   [tl "f" ["q", "r"] "r", tl "a" [] "q", tl "f" ["r", "r"] "q"], [[]]⟩

/-- the words of every section and the rule lines permuted, the sections in another order -/
def dG' : Desc := ofS ⟨"A-1", [("f", 2), ("a", 0)], ["r", "q"], ["q", "r", "r"],
  [([], "a", "q"), (["r", "r"], "f", "q"), (["q", "r"], "f", "r")]⟩
def G' : Layout :=
  ⟨[hl .final ["States", "q", "r", "r"], hl .states ["r", "q"], hl .aut ["A-1"], hl .ops ["f:2", "a:0"]], [], [], [],
   [tl "a" [] "q", tl "f" ["r", "r"] "q", tl "f" ["q", "r"] "r"], [[]]⟩

/-- words and rule lines repeated -/
def dG'' : Desc := ofS ⟨"A-1", [("a", 0), ("f", 2), ("a", 0)], ["q", "r", "q", "q"], ["r", "q"],
  [(["q", "r"], "f", "r"), ([], "a", "q"), (["r", "r"], "f", "q"), ([], "a", "q"), (["q", "r"], "f", "r")]⟩
def G'' : Layout :=
  ⟨[hl .ops ["a:0", "f:2", "a:0"], hl .aut ["A-1"], hl .states ["q", "r", "q", "q"], hl .final ["States", "r", "q"]],
   [], [], [],
   [tl "f" ["q", "r"] "r", tl "a" [] "q", tl "f" ["r", "r"] "q", tl "a" [] "q", tl "f" ["q", "r"] "r"], [[]]⟩

example : String.ofList G.text =
    "Ops a:0 f:2\nAutomaton A-1\nStates q r\nFinal States r q r\nTransitions\nf(q, r) -> r\na -> q\nf(r, r) -> q\n" :=
  congrArg String.ofList (by decide +kernel)
example : String.ofList G'.text =
    "Final States q r r\nStates r q\nAutomaton A-1\nOps f:2 a:0\nTransitions\na -> q\nf(r, r) -> q\nf(q, r) -> r\n" :=
  congrArg String.ofList (by decide +kernel)
example : String.ofList G''.text =
    "Ops a:0 f:2 a:0\nAutomaton A-1\nStates q r q q\nFinal States r q\nTransitions\n" ++
    "f(q, r) -> r\na -> q\nf(r, r) -> q\na -> q\nf(q, r) -> r\n" := by
  rw [← String.ofList_append]; exact congrArg String.ofList (by decide +kernel)
/-- the hypotheses of `C13_permutation_invariant` for `G`, `G'` -/
example : dG.wellFormed = true ∧ G.okB dG = true ∧ G'.okB dG' = true := by decide +kernel
example : dG.PermOf dG' := ⟨rfl, by decide +kernel, by decide +kernel, by decide +kernel, by decide +kernel⟩
example : ∀ k, k ∈ G.kinds ↔ k ∈ G'.kinds := by intro k; cases k <;> decide
/-- the hypotheses of `C13_duplicates_ignored` for `G`, `G''` -/
example : G''.okB dG'' = true ∧ dG.sameSetsB dG'' = true := by decide +kernel
example : ∀ k, k ∈ G.kinds ↔ k ∈ G''.kinds := by intro k; cases k <;> decide
/-- executed -/
example : (parseTimbuk (String.ofList G.text)).toOption = some C13NormalEx.exN ∧
    (parseTimbuk (String.ofList G'.text)).toOption = some C13NormalEx.exN ∧
    (parseTimbuk (String.ofList G''.text)).toOption = some C13NormalEx.exN := by
  simp only [parseTimbuk_ofList]; decide +kernel
/-- `C13_section_words_as_set` for `G` with the header lines of `G''`: the lists, the set equalities (by the executable
test), the lines -/
example : dG.withSections dG''.symbols dG''.states dG''.final = { dG'' with trans := dG.trans } := rfl
example : sameSetB dG''.symbols dG.symbols = true ∧ sameSetB dG''.states dG.states = true ∧
    sameSetB dG''.final dG.final = true := by decide +kernel
example : G''.hdr.all (fun p => p.1.all blankB && p.2.okB (dG.withSections dG''.symbols dG''.states dG''.final)) = true ∧
    nodupB (G''.hdr.map (·.2.kind)) = true := by decide +kernel
example : String.ofList (G.withHdr G''.hdr).text =
    "Ops a:0 f:2 a:0\nAutomaton A-1\nStates q r q q\nFinal States r q\nTransitions\n" ++
    "f(q, r) -> r\na -> q\nf(r, r) -> q\n" := by
  rw [← String.ofList_append]; exact congrArg String.ofList (by decide +kernel)
/-- `C13_permute_transition_lines`, `C13_repeat_transition_lines`: the rule lines reversed, the rule lines twice -/
example : G.tls.reverse.Perm G.tls := List.reverse_perm _
example : ∀ p, p ∈ G.tls ++ G.tls ↔ p ∈ G.tls := by intro p; simp
example : String.ofList (G.withTls G.tls.reverse).text =
    "Ops a:0 f:2\nAutomaton A-1\nStates q r\nFinal States r q r\nTransitions\nf(r, r) -> q\na -> q\nf(q, r) -> r\n" :=
  congrArg String.ofList (by decide +kernel)
end C13NormalEx

/-!
## closed by this file (items of the "still not proved" lists of `C13.lean` / `C13_Layout.lean`)

* "Idempotence `serialize ∘ parse ∘ serialize = serialize`": `C13_serialize_idempotent`, with the exact parse result
  `C13_parse_serialize_normalize`; the order theory it needed: `C13_orders_strict_total`, `C13_norm_idem`.
* "`parseTimbuk (serialize d) = .ok d` … with the name clause corrected": `C13_parse_exact_normalised`, `C13_parse_exact_iff`;
  for parse results: `C13_parse_result_normal`, `C13_serialize_parse_exact` (here the hypothesis `parseTimbuk t = .ok d` IS used).
* "permuting the rule lines or the words of a section does not change the result": `C13_permutation_invariant`,
  `C13_permute_transition_lines`; with repetitions `C13_duplicates_ignored`, `C13_repeat_transition_lines`,
  `C13_transition_lines_as_set`, `C13_section_words_as_set`.

## still not proved

* **Section words word by word.**  For rule lines the invariance is stated on the lines themselves (`Layout.withTls`,
  hypothesis on the lines only).  For the words of `Ops` / `States` / `Final States` it is stated through the permuted
  LISTS (`C13_section_words_as_set`: the new header lines spell `syms`, `sts`, `fin` with `syms ≈ d.symbols` …; or two
  layouts `F.Ok d`, `F'.Ok d'` with `d.PermOf d'`); a form whose only hypothesis is "the words of the new `Ops` line are a
  permutation of the words of the old one" (it needs that the token `name:rank` determines the pair) is not stated.
* **Tokens spelled differently** (`q:5` for a state, `a:+2`, `a:007`): two such spellings of one token are not covered by
  `Layout.Ok`, so the invariance theorems do not speak about texts that mix them (as in `C13_Layout.lean`).
* **Not-`WellFormed` descriptions**: `C13_serialize_order_blind`, `C13_serialize_normalize`, `C13_parse_result_normal` and the
  order / `norm` theorems need no well-formedness; everything that parses a serialisation does (the text may be rejected or
  cut differently, `TimbukEx.exBad`).
* **The C++ containers themselves**: that `std::set::insert` / iteration of libstdc++ behave like `setInsert` / the sorted
  list (for a strict weak order) is the C++ standard's contract, assumed, not proved; the theorems show that the
  comparisons handed to `std::set` satisfy that contract (`C13_orders_strict_total`) as transcribed into the model.
  Agreement of model and compiled code is the generated comparison described in `Vata/Timbuk.lean`, not a theorem.
* The other open items of `C13.lean` (loaders of the other three encodings, robustness of the compiled code on arbitrary
  bytes, a complete characterisation of the rejected texts) are untouched.
-/
end Vata.Props
