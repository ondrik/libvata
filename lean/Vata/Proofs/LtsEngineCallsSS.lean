import Vata.Proofs.LtsEngineCalls
import Vata.Proofs.LtsUtil
/-!
# The instrumented LTS engine: the `SmartSet` calls of the `Block` constructors are inside the discipline `SS.ok`

`SSInv`: the abstract `SmartSet` world (`SS.AWorld`) after the trace shows, at the object number of every block, the `inset`
of the engine model.  `adds_ok` / `ctor2_good`: the calls of one `Block` constructor are inside `SS.ok` and re-establish
`SSInv` (second constructor: every `parent.inset_.removeStrict(a)` hits a member – the parent's inset counts the states of the
block with an incoming `a`-edge and the new block is a part of it; every `add` goes to the set under construction, whose
`last_` is intact).
-/
namespace Vata.LEC
open Vata.L Vata.LE Vata.LU

theorem okAll_append : ∀ (t u : List SS.Op) (aw : SS.AWorld),
    SS.okAll aw (t ++ u) = (SS.okAll aw t && SS.okAll (SS.aRun aw t) u)
  | [], _, _ => by simp [SS.okAll, SS.aRun]
  | op :: t, u, aw => by simp only [List.cons_append, SS.okAll, SS.aRun, okAll_append t u, Bool.and_assoc]

theorem aRun_append : ∀ (t u : List SS.Op) (aw : SS.AWorld), SS.aRun aw (t ++ u) = SS.aRun (SS.aRun aw t) u
  | [], _, _ => rfl
  | op :: t, u, aw => by simp only [List.cons_append, SS.aRun, aRun_append t u]

/-- one `add` to a set whose `last_` is intact -/
theorem add_step {aw : SS.AWorld} {o R a : Nat} {c : List (Nat × Nat)} (hc : aw[o]? = some ⟨c, R, false⟩) (ha : a < R) :
    SS.ok aw (SS.Op.add o a) = true ∧ SS.aStep aw (SS.Op.add o a) = aw.set o ⟨insAdd c a, R, false⟩ := by
  simp [SS.ok, SS.aStep, hc, ha, Glue.aAdd_eq_insAdd]

theorem removeStrict_step {aw : SS.AWorld} {o R a : Nat} {p : List (Nat × Nat)} {dg : Bool} (hp : aw[o]? = some ⟨p, R, dg⟩)
    (ha : a < R) (hm : a ∈ insKeys p) :
    SS.ok aw (SS.Op.removeStrict o a) = true ∧
      SS.aStep aw (SS.Op.removeStrict o a) = aw.set o ⟨insRemove p a, R, dg || SS.erasesLast p a⟩ := by
  simp [SS.ok, SS.aStep, hp, ha, Glue.aRemove_eq_insRemove, Glue.aKeys_eq_insKeys, hm]

theorem adds_ok (o R : Nat) : ∀ (ls : List Nat) (aw : SS.AWorld) (c : List (Nat × Nat)),
    aw[o]? = some ⟨c, R, false⟩ → (∀ a, a ∈ ls → a < R) →
    SS.okAll aw (ls.map (SS.Op.add o)) = true ∧
      SS.aRun aw (ls.map (SS.Op.add o)) = aw.set o ⟨ls.foldl insAdd c, R, false⟩ := by
  intro ls
  induction ls with
  | nil => exact fun aw c hc _ => ⟨rfl, (set_of_getElem? hc).symm⟩
  | cons a ls ih =>
    intro aw c hc hR
    obtain ⟨hok, hstep⟩ := add_step hc (hR a List.mem_cons_self)
    obtain ⟨h1, h2⟩ := ih (aw.set o ⟨insAdd c a, R, false⟩) (insAdd c a)
      (List.getElem?_set_self (lt_of_getElem? hc)) (fun x hx => hR x (List.mem_cons_of_mem _ hx))
    simp only [List.map_cons, SS.okAll, SS.aRun, hstep, hok, h1, h2, Bool.and_self, List.foldl_cons, List.set_set, and_self]

def moveOps (po o : Nat) (ls : List Nat) : List SS.Op := ls.flatMap (fun a => [SS.Op.removeStrict po a, SS.Op.add o a])

def moveF (pc : List (Nat × Nat) × List (Nat × Nat)) (a : Nat) : List (Nat × Nat) × List (Nat × Nat) :=
  (insRemove pc.1 a, insAdd pc.2 a)

theorem moves_ok (po o R : Nat) (hne : po ≠ o) : ∀ (ls : List Nat) (aw : SS.AWorld) (p c : List (Nat × Nat)) (dg : Bool),
    aw[po]? = some ⟨p, R, dg⟩ → aw[o]? = some ⟨c, R, false⟩ → InsOK p → (∀ a, a ∈ ls → a < R) →
    (∀ a, ls.count a ≤ insCount p a) →
    SS.okAll aw (moveOps po o ls) = true ∧
      ∃ dg', SS.aRun aw (moveOps po o ls) =
        (aw.set po ⟨(ls.foldl moveF (p, c)).1, R, dg'⟩).set o ⟨(ls.foldl moveF (p, c)).2, R, false⟩ := by
  intro ls
  induction ls with
  | nil =>
    intro aw p c dg hp hc _ _ _
    refine ⟨rfl, dg, ?_⟩
    show aw = (aw.set po ⟨p, R, dg⟩).set o ⟨c, R, false⟩
    rw [set_of_getElem? hp, set_of_getElem? hc]
  | cons a ls ih =>
    intro aw p c dg hp hc hpo hR hcnt
    have haR := hR a List.mem_cons_self
    have hmem : a ∈ insKeys p := by
      rw [← insCount_pos_iff hpo]
      have := hcnt a
      rw [List.count_cons_self] at this
      omega
    obtain ⟨hok1, hst1⟩ := removeStrict_step hp haR hmem
    obtain ⟨hok2, hst2⟩ := add_step (aw := SS.aStep aw (.removeStrict po a)) (c := c)
      (by rw [hst1, List.getElem?_set_ne hne]; exact hc) haR
    have hcnt' : ∀ x, ls.count x ≤ insCount (insRemove p a) x := by
      intro x
      have := hcnt x
      rw [count_cons_ite] at this
      rw [insCount_insRemove hpo]
      omega
    obtain ⟨h1, dg', h2⟩ := ih (SS.aStep (SS.aStep aw (.removeStrict po a)) (.add o a)) (insRemove p a) (insAdd c a)
      (dg || SS.erasesLast p a)
      (by rw [hst2, hst1, List.getElem?_set_ne (Ne.symm hne), List.getElem?_set_self (lt_of_getElem? hp)])
      (by rw [hst2, hst1, List.getElem?_set_self (by rw [List.length_set]; exact lt_of_getElem? hc)])
      (insOK_insRemove hpo a) (fun x hx => hR x (List.mem_cons_of_mem _ hx)) hcnt'
    refine ⟨?_, dg', ?_⟩
    · show (SS.ok aw _ && (SS.ok (SS.aStep aw _) _ && SS.okAll (SS.aStep (SS.aStep aw _) _) (moveOps po o ls))) = true
      rw [hok1, hok2, h1]; rfl
    · show SS.aRun (SS.aStep (SS.aStep aw _) _) (moveOps po o ls) = _
      rw [h2, hst2, hst1, List.set_comm _ _ (Ne.symm hne) (l := aw.set po _), List.set_set, List.set_set]
      rfl

theorem mkInset_eq (L : LTS) (states : List Nat) : mkInset L states = (states.flatMap (bwLabels L)).foldl insAdd [] := by
  rw [List.foldl_flatMap]; rfl

theorem moveInset_eq (L : LTS) (states : List Nat) (parent : List (Nat × Nat)) :
    moveInset L states parent = (states.flatMap (bwLabels L)).foldl moveF (parent, []) := by
  rw [List.foldl_flatMap]; rfl

theorem bwLabels_lt (L : LTS) {q a : Nat} (h : a ∈ bwLabels L q) : a < labels L := by
  unfold bwLabels at h
  exact List.mem_range.1 (List.mem_filter.1 h).1


/-- the `SmartSet` world shows the engine's insets: object `obj i` is the inset of block `i`, the objects `a + 1` are the sets
`delta1[a]`, and the next set to be created is the inset of the next block -/
structure SSInv (L : LTS) (obj : Nat → Nat) (e : Eng) (aw : SS.AWorld) : Prop where
  hlen : aw.length = obj e.part.length
  hsucc : ∀ k, e.part.length ≤ k → obj (k + 1) = obj k + 1
  hobj : ∀ i, i < e.part.length → ∃ dg, aw[obj i]? = some ⟨e.inset.getD i [], labels L, dg⟩
  hdelta : ∀ a, a < labels L → aw[a + 1]? = some ⟨dItems L a, L.n, false⟩

/-- `obj` numbers the insets of the blocks: no two alike, all behind the objects `0 … labels L` of `buildDelta1` -/
structure ObjOK (L : LTS) (obj : Nat → Nat) : Prop where
  hinj : ∀ i j, obj i = obj j → i = j
  hbase : ∀ i, labels L < obj i

theorem objI_ok (L : LTS) : ObjOK L (objI L) := ⟨fun i j h => by unfold objI at h; omega, fun i => by unfold objI; omega⟩

theorem objR_ok (L : LTS) (n : Nat) : ObjOK L (objR L n) := by
  refine ⟨fun i j h => ?_, fun i => ?_⟩ <;> unfold objR at *
  · by_cases hi : i < n <;> by_cases hj : j < n
    · rw [if_pos hi, if_pos hj] at h; exact Nat.add_left_cancel h
    · rw [if_pos hi, if_neg hj] at h; omega
    · rw [if_neg hi, if_pos hj] at h; omega
    · rw [if_neg hi, if_neg hj] at h; exact Nat.add_left_cancel h
  · by_cases hi : i < n
    · rw [if_pos hi]; exact Nat.lt_of_lt_of_le (Nat.lt_succ_self _) (Nat.le_add_right _ _)
    · rw [if_neg hi]; exact Nat.lt_of_lt_of_le (Nat.lt_succ_of_lt (Nat.lt_succ_self _)) (Nat.le_add_right _ _)

theorem SSInv.congr {L : LTS} {obj : Nat → Nat} {e e' : Eng} {aw : SS.AWorld} (h : SSInv L obj e aw)
    (h1 : e'.part.length = e.part.length) (h2 : e'.inset = e.inset) : SSInv L obj e' aw :=
  ⟨by rw [h1]; exact h.hlen, by rw [h1]; exact h.hsucc, by rw [h1, h2]; exact h.hobj, h.hdelta⟩

theorem ctor2_good {L : LTS} {obj : Nat → Nat} (ho : ObjOK L obj) {e : Eng} {aw : SS.AWorld} (inv : SSInv L obj e aw)
    (w : WF L e) {b : Nat} {rest new : List Nat} (s : SplitOK e b rest new) :
    SS.okAll aw (ctor2T L (obj b) (obj e.part.length) new) = true ∧
      SSInv L obj (splitBlockCore L e b rest new) (SS.aRun aw (ctor2T L (obj b) (obj e.part.length) new)) := by
  obtain ⟨dg, hp⟩ := inv.hobj b s.hb
  have hne : obj b ≠ obj e.part.length := fun h => by have := ho.hinj _ _ h; have := s.hb; omega
  have hp1 : (aw ++ [SS.aMk (labels L)])[obj b]? = some ⟨e.inset.getD b [], labels L, dg⟩ := by
    rw [List.getElem?_append_left (lt_of_getElem? hp)]; exact hp
  have hc1 : (aw ++ [SS.aMk (labels L)])[obj e.part.length]? = some ⟨[], labels L, false⟩ := by
    rw [← inv.hlen, List.getElem?_concat_length]; rfl
  have hins := w.hinset b s.hb
  have hcnt : ∀ a, (new.flatMap (bwLabels L)).count a ≤ insCount (e.inset.getD b []) a := by
    intro a
    rw [count_bwLabels, hins.2 a, cntIn_split L a (w.hnd b) s.hrn s.hnn s.hnew s.hrest]
    exact Nat.le_add_left _ _
  obtain ⟨h1, dg', h2⟩ := moves_ok (obj b) (obj e.part.length) (labels L) hne (new.flatMap (bwLabels L))
    (aw ++ [SS.aMk (labels L)]) (e.inset.getD b []) [] dg hp1 hc1 hins.1
    (fun a ha => by obtain ⟨q, _, hq⟩ := List.mem_flatMap.1 ha; exact bwLabels_lt L hq) hcnt
  have hrun : SS.aRun aw (ctor2T L (obj b) (obj e.part.length) new) =
      SS.aRun (aw ++ [SS.aMk (labels L)]) (moveOps (obj b) (obj e.part.length) (new.flatMap (bwLabels L))) := rfl
  refine ⟨?_, ?_⟩
  · show (SS.ok aw (SS.Op.new _) && SS.okAll (aw ++ [SS.aMk (labels L)]) (moveOps _ _ _)) = true
    rw [h1]; rfl
  · rw [hrun, h2, ← moveInset_eq]
    have hlen' : (splitBlockCore L e b rest new).part.length = e.part.length + 1 := core_length
    refine ⟨?_, ?_, ?_, ?_⟩
    · rw [hlen', List.length_set, List.length_set, List.length_append, inv.hsucc _ (Nat.le_refl _), ← inv.hlen]; rfl
    · intro k hk; rw [hlen'] at hk; exact inv.hsucc k (by omega)
    · intro i hi
      rw [hlen'] at hi
      rcases core_cases w s i with ⟨hib, _, hin⟩ | ⟨hil, _, hin⟩ | ⟨hib, hil, _, hin⟩ <;> rw [hin]
      · exact ⟨dg', by rw [hib, List.getElem?_set_ne (Ne.symm hne), List.getElem?_set_self (lt_of_getElem? hp1)]⟩
      · exact ⟨false, by rw [hil, List.getElem?_set_self (by rw [List.length_set]; exact lt_of_getElem? hc1)]⟩
      · obtain ⟨dgi, hi'⟩ := inv.hobj i (by omega)
        refine ⟨dgi, ?_⟩
        rw [List.getElem?_set_ne (fun h => hil (ho.hinj _ _ h).symm),
          List.getElem?_set_ne (fun h => hib (ho.hinj _ _ h).symm), List.getElem?_append_left (lt_of_getElem? hi')]
        exact hi'
    · intro a ha
      have hb1 := ho.hbase b
      have hb2 := ho.hbase e.part.length
      have hd := inv.hdelta a ha
      rw [List.getElem?_set_ne (by omega), List.getElem?_set_ne (by omega), List.getElem?_append_left (lt_of_getElem? hd)]
      exact hd

end Vata.LEC
