import Vata.Proofs.BddTrimCodedBU4
/-!
C08: the bottom-up symbolic trimming as coded is total.  The work-list loop of `RemoveUnreachableStates` (and the first loop of `RemoveUselessStates`) pops every state
at most once, `leafCount T` (the number of state occurrences in the leaves visited) iterations suffice.
-/
namespace Vata
namespace BddTrimCoded
open M BddAbs BddAbsTD

def allParents (T : Table) : List Nat := leafParents T.nullary ++ T.entries.flatMap (fun e => leafParents e.2)

def leafCount (T : Table) : Nat := (allParents T).length

theorem leafParents_sub_all {T : Table} {e : List Nat × MT} (he : e ∈ T.entries) :
    ∀ q, q ∈ leafParents e.2 → q ∈ allParents T :=
  fun _ hq => List.mem_append.mpr (Or.inr (List.mem_flatMap.mpr ⟨e, he, hq⟩))

theorem scanStep_mu (T : Table) (s : Nat) (st : BuSt) {e : List Nat × MT} (he : e ∈ T.entries) :
    Closure.mu (allParents T) ((scanStep s st e).reach, (scanStep s st e).ws) ≤ Closure.mu (allParents T) (st.reach, st.ws) := by
  unfold scanStep
  split
  · exact (ext_collect _ e.2).mu _ (leafParents_sub_all he)
  · exact Nat.le_refl _

theorem buUnreachLoop_total (T : Table) {fuel : Nat} {st : BuSt} (ht : ∀ e, e ∈ st.tuples → e ∈ T.entries)
    (h : Closure.mu (allParents T) (st.reach, st.ws) ≤ fuel) : ∃ st', buUnreachLoop fuel st = some st' := by
  induction fuel generalizing st with
  | zero =>
    obtain ⟨r, _ | ⟨s, ws⟩, tu, R⟩ := st
    · exact ⟨_, rfl⟩
    · exact absurd h (Nat.not_succ_le_zero _ ∘ Nat.le_trans (Nat.le_add_right _ _))
  | succ fuel ih =>
    obtain ⟨r, _ | ⟨s, ws⟩, tu, R⟩ := st
    · exact ⟨_, rfl⟩
    · refine ih (fun e he => (mem_scanFold_tuples s tu _ he).elim (fun h => nomatch h) (ht e))
        (Nat.le_trans (foldl_measure_le (fun st : BuSt => Closure.mu (allParents T) (st.reach, st.ws))
          (fun st e he => scanStep_mu T s st (ht e he)) ⟨r, ws, [], R⟩) ?_)
      have h : (ws.length + 1) + unseen (allParents T) r ≤ fuel + 1 := h
      show ws.length + unseen (allParents T) r ≤ fuel
      omega

theorem buUnreachInit_mu (T : Table) :
    Closure.mu (allParents T) ((buUnreachInit T).reach, (buUnreachInit T).ws) ≤ leafCount T :=
  Nat.le_trans ((ext_collect ([], []) T.nullary).mu _ fun _ hq => List.mem_append_left _ hq)
    (Nat.le_trans (Nat.le_of_eq (Nat.zero_add _)) (unseen_le_length _ _))

theorem buUnreachSt_total (T : Table) {fuel : Nat} (h : leafCount T ≤ fuel) : ∃ st, buUnreachSt T fuel = some st :=
  buUnreachLoop_total T (fun _ he => (List.mem_filter.mp he).1) (Nat.le_trans (buUnreachInit_mu T) h)

theorem bu_unreach_coded_total (T : Table) (F : List Nat) {fuel : Nat} (h : leafCount T ≤ fuel) :
    ∃ R, buUnreachCoded T F fuel = some R := by
  obtain ⟨st, hst⟩ := buUnreachSt_total T h
  exact ⟨_, by unfold buUnreachCoded; rw [hst]; rfl⟩

theorem buGLoop_total (T : Table) {fuel : Nat} (h : leafCount T ≤ fuel) : ∃ g, buGLoop fuel (buGInit T) = some g := by
  obtain ⟨st, hst⟩ := buUnreachSt_total T h
  have hs := buGLoop_sim fuel (buGInit_sim T)
  rw [show buUnreachLoop fuel (buUnreachInit T) = some st from hst] at hs
  cases hg : buGLoop fuel (buGInit T) with
  | none => rw [hg] at hs; cases hs
  | some g => exact ⟨g, rfl⟩

theorem bu_unreach_coded_spec_total {T : Table} (hT : TableOk T) (F : List Nat) :
    ∃ R, buUnreachCoded T F (leafCount T) = some R ∧
      (∀ ρ ks p, HasRule R.1 ρ ks p ↔ HasRule (removeUnreachableBU T F).1 ρ ks p) ∧ R.2 = (removeUnreachableBU T F).2 := by
  obtain ⟨R, hR⟩ := bu_unreach_coded_total T F (Nat.le_refl _)
  exact ⟨R, hR, bu_unreach_coded_spec hT F hR⟩

end BddTrimCoded
end Vata
