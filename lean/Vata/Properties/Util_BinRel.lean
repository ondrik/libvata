import Vata.Proofs.BinRel
/-!
# Utility classes `BinaryRelation`, `Identity`, `DiscontBinaryRelation` – the matrices that carry every simulation

Supports **C04** (the simulations are returned as a `DiscontBinaryRelation` and read through `get`), **C05** (`Reduce` =
`RestrictToSymmetric` + `GetQuotientProjection` on that relation) and **C16** (the LTS engine writes its result into a
`BinaryRelation` with `resize` + `set`).  Those property files model the relations as lists of pairs / lists of rows and
take the container for granted; this file is about the container: `include/vata/util/binary_relation.hh` modelled AS
CODED (`Vata/BinRel.lean`: one flat `Array Bool` of `rowSize²` cells, entry `(r, c)` in cell `r * rowSize + c`,
reallocation by `realloc`, the loops of the member functions), with the theorems of `Vata/Proofs/BinRel.lean`.  The
correspondence with the real classes is checked by the `binrel` histories (`harness/ops/op_binrel.inc`,
`Driver/BinRelChk.lean`, `tools/gen_binrel.py`): after every step the whole observable state of every live object is
compared with the model.

The corollaries below restate the main results in the vocabulary of the three properties.  `WF m` is the class
invariant (`size ≤ rowSize`, `data.size = rowSize²`); `0 < rowSize` excludes the constructor argument `rowSize = 0`, from
which `grow` would not terminate.

## What the code does NOT promise (modelled as coded, see `BinRelEx` in `Vata/Proofs/BinRel.lean`)

* `resize(n, defVal)` and `alloc()` initialise the new entries only when the capacity is exceeded; otherwise the new
  entries show what the cells hold (`stale1_shows_old_entry`, `stale2_all_true`).
* `buildIndex`/`buildInvIndex` append to the rows the output vector already has (`Util_BinRel_index`).
* `r.transposed(r)` is not the transposed relation (`transposedSelf_not_transposed`).
* `GetQuotientProjection` on a relation that is not an equivalence: `Util_BinRel_quotient_any`.
* `DiscontBinaryRelation(rel, dict)` starts its index counter at 0: `set` on a state outside the dictionary aliases the
  state with inner index 0 (`counter_restarts_at_zero`); `set` on two new states numbers them in the unspecified order
  of evaluation of two function arguments.
-/
namespace Vata.Props
open Vata.BinRel Vata.BinRel.Mat

/-- **get after set** (C04, C16: every entry written is the entry read, no other entry moves) -/
theorem Util_BinRel_get_set {m : Mat} (h : WF m) {r c r' c' : Nat} (hr : r < m.size) (hc : c < m.size)
    (hr' : r' < m.size) (hc' : c' < m.size) (v : Bool) :
    (m.set r c v).get r' c' = if (r', c') = (r, c) then v else m.get r' c' := get_set h hr hc hr' hc' v

example : WF BinRelEx.exM ∧ 1 < BinRelEx.exM.size ∧ 2 < BinRelEx.exM.size := ⟨BinRelEx.exM_wf.1, by decide, by decide⟩

/-- **resize**: old entries survive every `resize`; a `resize` that exceeds the capacity fills all new entries with
`defVal`; a `resize` inside the capacity does not touch `data_` at all (so the new entries are whatever the cells held:
nothing is promised about them) -/
theorem Util_BinRel_resize {m : Mat} (h : WF m) (hp : 0 < m.rowSize) (n : Nat) (d : Bool) :
    (m.resize n d).size = n ∧ WF (m.resize n d) ∧
    (∀ r c, r < m.size → c < m.size → (m.resize n d).get r c = m.get r c) ∧
    (m.rowSize < n → ∀ r c, r < n → c < n → (m.size ≤ r ∨ m.size ≤ c) → (m.resize n d).get r c = d) ∧
    (n ≤ m.rowSize → m.resize n d = { m with size := n }) :=
  ⟨rfl, (wf_resize h hp n d).1, fun _ _ hr hc => get_resize_old h hp n d hr hc,
   fun hn _ _ hr hc hnew => get_resize_new h hp d hn hr hc hnew, fun hn => resize_nogrow d hn⟩

example : BinRelEx.exM.rowSize < 6 ∧ BinRelEx.stale1.get 1 1 = true := ⟨by decide, BinRelEx.stale1_shows_old_entry.2⟩

/-- **C16, `buildResult`**: a FRESH relation, `resize(n)`, then `set(r, s, true)` for a list of pairs below `n` holds
exactly those pairs – this is how the LTS engine hands its result over (the pairs may repeat) -/
theorem Util_BinRel_buildResult (n : Nat) (ps : List (Nat × Nat)) (hb : ∀ p, p ∈ ps → p.1 < n ∧ p.2 < n) {r c : Nat}
    (hr : r < n) (hc : c < n) :
    (ps.foldl (fun m p => m.set p.1 p.2 true) ((Mat.mk' 0 false 16).resize n false)).get r c = decide ((r, c) ∈ ps) :=
  (buildResult_spec n ps hb).2.2 r c hr hc

example : ([(0, 1), (2, 2), (0, 1)].foldl (fun m p => m.set p.1 p.2 true) ((Mat.mk' 0 false 4).resize 3 false)).toBMat =
    [[false, true, false], [false, false, false], [false, false, true]] := by decide +kernel

/-- **split** (the block-splitting step of simulation engines): the new index `size` copies row and column `i`, its
diagonal entry is `reflexive`, every old entry is kept, the old size is returned -/
theorem Util_BinRel_split {m : Mat} (h : WF m) (hp : 0 < m.rowSize) {i : Nat} (hi : i < m.size) (refl : Bool) :
    (m.split i refl).2 = m.size ∧ (m.split i refl).1.size = m.size + 1 ∧ WF (m.split i refl).1 ∧
    ∀ r c, r ≤ m.size → c ≤ m.size → (m.split i refl).1.get r c =
      if r = m.size ∧ c = m.size then refl
      else m.get (if r = m.size then i else r) (if c = m.size then i else c) :=
  ⟨(split_spec h hp hi refl).1, (split_spec h hp hi refl).2.1, (split_spec h hp hi refl).2.2.1,
   (split_spec h hp hi refl).2.2.2.2⟩

example : WF (Mat.mk' 2 true 2) ∧ 0 < (Mat.mk' 2 true 2).rowSize ∧ 1 < (Mat.mk' 2 true 2).size ∧
    (Mat.mk' 2 true 2).size ≥ (Mat.mk' 2 true 2).rowSize := by unfold WF; decide

/-- **buildIndex / buildInvIndex** (C04: the inclusion checkers read the simulation through these indices): row `x` of
the index lists exactly the `y` with `x R y`, row `x` of the inverted index exactly the `y` with `y R x`, both in
increasing order – appended to whatever the output vector held -/
theorem Util_BinRel_index (m : Mat) (pre : List (List Nat)) :
    m.buildIndex pre = (List.range m.size).map (fun r => pre.getD r [] ++ (List.range m.size).filter (fun c => m.get r c)) ∧
    m.buildInvIndex pre = (List.range m.size).map (fun c => pre.getD c [] ++ (List.range m.size).filter (fun r => m.get r c)) ∧
    m.buildIndex [] = (List.range m.size).map (fun r => (List.range m.size).filter (fun c => m.get r c)) ∧
    m.buildInvIndex [] = (List.range m.size).map (fun c => (List.range m.size).filter (fun r => m.get r c)) ∧
    ∀ pre2, m.buildIndex2 pre pre2 = (m.buildIndex pre, m.buildInvIndex pre2) :=
  ⟨buildIndex_spec m pre, buildInvIndex_spec m pre, buildIndex_spec m [], buildInvIndex_spec m [],
    fun p2 => buildIndex2_spec m pre p2⟩

example : BinRelEx.exM.buildIndex [] = [[1], [0, 2], []] ∧ BinRelEx.exM.buildIndex [[7], [], [8, 9], [5]] = [[7, 1], [0, 2], [8, 9]] := by
  decide +kernel

/-- **transposed** into another object (upward simulation = transposed relation in several callers) -/
theorem Util_BinRel_transposed {m dst : Mat} (hd : WF dst) (hp : 0 < dst.rowSize) :
    (m.transposedInto dst).size = m.size ∧ WF (m.transposedInto dst) ∧
    ∀ r c, r < m.size → c < m.size → (m.transposedInto dst).get r c = m.get c r := by
  have u := transposedInto_spec (m := m) hd hp
  refine ⟨u.size, u.wf, fun r c hr hc => ?_⟩
  rw [u.get r c (Nat.lt_of_lt_of_le hc (wf_resize hd hp m.size false).1.1), if_pos ⟨hr, hc⟩]

example : WF (Mat.mk' 1 true 2) ∧ 0 < (Mat.mk' 1 true 2).rowSize := by unfold WF; decide

/-- **C05, step 2: `RestrictToSymmetric` = R ∩ R⁻¹**, and the flat loops are the loops of `Vata.restrictToSymmetric`
(`Vata/ReduceModel.lean`) on the corner -/
theorem Util_BinRel_restrictToSymmetric {m : Mat} (h : WF m) :
    m.restrictToSymmetric.size = m.size ∧ WF m.restrictToSymmetric ∧
    m.restrictToSymmetric.toBMat = Vata.restrictToSymmetric m.toBMat ∧
    ∀ r c, r < m.size → c < m.size → m.restrictToSymmetric.get r c = (m.get r c && m.get c r) :=
  ⟨(restrictToSymmetric_refines h).2.1, (restrictToSymmetric_refines h).1, (restrictToSymmetric_refines h).2.2.2.1,
   fun _ _ hr hc => restrictToSymmetric_spec h hr hc⟩

example : BinRelEx.exM.restrictToSymmetric.toBMat = [[false, true, false], [true, false, false], [false, false, false]] := by
  decide +kernel

/-- **C05, step 3: `GetQuotientProjection` on an equivalence** maps every index to the least index of its class; it
is `Vata.quotientProjectionIdx` of the corner; `buildClasses(headIndex)` computes the same vector -/
theorem Util_BinRel_quotient_equiv {m : Mat} (h : IsEquiv m) :
    m.quotProj = quotientProjectionIdx m.toBMat ∧ m.quotProj = (classes1 m.sym m.size).map some ∧
    ∀ i, i < m.size → ∃ k, m.quotProj.getD i none = some k ∧ k ≤ i ∧ m.get k i = true ∧
      (∀ j, j < m.size → m.get j i = true → k ≤ j) ∧
      (∀ j, j < m.size → (m.get i j = true ↔ m.quotProj.getD j none = some k)) :=
  ⟨quotProj_refines m, quotProj_eq_classes1 h, (quotProj_equiv h).2⟩

example : IsEquiv BinRelEx.exE ∧ BinRelEx.exE.quotProj = [some 0, some 1, some 0, some 1] :=
  ⟨BinRelEx.exE_equiv, by decide +kernel⟩

/-- **`GetQuotientProjection` on ANY relation** ("the result is undefined otherwise" – this is what the release build
computes): heads are the indices no earlier head is related to; every index goes to itself if it is a head and
otherwise to the LAST earlier head related to it; only entries above the diagonal are read -/
theorem Util_BinRel_quotient_any (m : Mat) :
    m.quotProj.length = m.size ∧
    ∀ i, i < m.size → ∃ k, m.quotProj.getD i none = some k ∧ k ≤ i ∧ m.isHead k ∧ (k = i ∨ m.get k i = true) ∧
      (∀ k', m.isHead k' → k < k' → k' < i → m.get k' i = false) ∧
      (k = i → ∀ k', m.isHead k' → k' < i → m.get k' i = false) := quotProj_general m

example : BinRelEx.exP.quotProj = [some 0, some 0, some 0] := BinRelEx.exP_quotProj

/-- **C04 / C05: `DiscontBinaryRelation`**: `get` reads the inner relation at the indices of the dictionary; and
`GetQuotientProjection` is `projToMap order` (`Vata/ReduceModel.lean`) of the inner projection when the dictionary
numbers the states in the order `order` – i.e. `quotientMapWith` of the `Reduce` model is what the two classes compute -/
theorem Util_BinRel_discont {rel : Mat} {ps : List (Nat × Nat)} (n1 : (ps.map (·.1)).Nodup) (n2 : (ps.map (·.2)).Nodup) :
    (∀ x y i j, (x, i) ∈ ps → (y, j) ∈ ps → (Disc.ofRel rel (Dict.ofList ps)).get x y = .ok (rel.get i j)) ∧
    (∀ order : List Nat, order.length = rel.size →
      (∀ i, i < order.length → (Dict.ofList ps).bwd.lookup i = order[i]?) →
      (Disc.ofRel rel (Dict.ofList ps)).quotProj = .ok (projToMap order (quotientProjectionIdx rel.toBMat))) :=
  ⟨fun _ _ _ _ hx hy => Disc.get_ofRel n1 n2 hx hy,
   fun order hlen hb => Disc.quotProj_eq_projToMap (Disc.ofRel rel (Dict.ofList ps)) order hlen hb⟩

example : ([(5, 0), (9, 1), (7, 2), (4, 3)].map (·.1)).Nodup ∧ ([(5, 0), (9, 1), (7, 2), (4, 3)].map (·.2)).Nodup ∧
    [5, 9, 7, 4].length = BinRelEx.exE.size ∧
    ∀ i, i < [5, 9, 7, 4].length → (Dict.ofList [(5, 0), (9, 1), (7, 2), (4, 3)]).bwd.lookup i = [5, 9, 7, 4][i]? := by
  decide +kernel

/-- **`Identity`** (the relation used when no simulation is given): every index is its own class -/
theorem Util_BinRel_identity (a : Ident) :
    a.classes1 = List.range a.size ∧ a.classes2 = (List.range a.size, List.range a.size) :=
  ⟨Ident.classes1_eq_range a, Ident.classes2_eq_range a⟩

example : (Ident.mk 3).classes1 = [0, 1, 2] := by decide

/-- **the history theorem**: for every list of operations (constructors, copy, assignment, `set`, `reset`, `resize`,
`alloc`, `split`, `transposed` – also into the object itself –, `&=`, `RestrictToSymmetric`, and all queries) applied
to a pool of live relations, the flat matrices and the abstract model (`ARel`: size, capacity and a function
`Nat → Nat → Bool`; every operation defined by a closed formula) refuse the same steps, return the same values, and
show the same observable state (size and all entries below the size of every live relation) -/
theorem Util_BinRel_history (ops : List Op) :
    (runC [] ops).2 = (runA [] ops).2 ∧
    (runC [] ops).1.map (fun m => (m.size, m.toBMat)) = (runA [] ops).1.map (fun a => (a.size, a.rows)) := history ops

example : (runC [] BinRelEx.exOps).2.length = 14 ∧ (runC [] BinRelEx.exOps).2[8]? = some none := by decide +kernel

/-!
## Not proved

* Nothing is proved about the C++ itself: the tie between `Vata/BinRel.lean` and `binary_relation.hh` is the `binrel`
  correspondence check (histories, every step compared).
* `size_t` overflow (`rowSize * rowSize`, `r * rowSize + c`) and allocation failure are outside the model (`Nat`).
* The constructor argument `rowSize = 0` is excluded (`0 < rowSize`): `grow` would loop for ever.
* Preconditions (`assert`s: indices below `size`, equal sizes for `&=`, `i < size` for `split`) are hypotheses; the
  release build does not check them and the model says nothing about calls that violate them.
* `DiscontBinaryRelation`: only `get` on a relation built from (relation, dictionary) and `GetQuotientProjection` have
  theorems; `set` (with its evaluation-order dependent numbering and the counter that restarts at 0), the index
  builders with their `std::out_of_range`, `ToString` are modelled and checked against the C++ but have no theorem
  beyond the examples.  The unordered-map iteration order of `ToString`/`operator<<` is not modelled (compared as a set).
* `Identity::buildIndex` and the `operator<<` of the three classes are modelled (`Ident.buildIndex`, `print`) and
  compared, without a theorem.
-/

end Vata.Props
