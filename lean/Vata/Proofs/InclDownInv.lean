import Vata.Proofs.InclDown
import Vata.Proofs.InclUpWitness
/-!
# The exploration of the downward inclusion models: the final check never refuses

`Vata/Proofs/InclDown.lean` shows that every verdict the models return is right, whatever the exploration did.  Here the
exploration itself (`InclDown.run`, `InclDown.runN`) is analysed, for any preorder that is reflexive and sound for the
languages of the states (`LangOrd`), and any table `wit` of trees for the children of the rules of `A`.  The invariant
(`Inv`): what the cache covers is subsumed by the collected pairs and the pending calls, the collected pairs are closed
relative to both, every non-inclusion carries a separating tree.  Hence on a trimmed `A` the models return a verdict
exactly when the exploration ends within the fuel (recursion depth): the certificate check is never the reason for `none`.

A call is analysed as `expandStep` (the tests in their order, then `callEnd` of the result of the body) and the loop
over the final states as `rootLoopWith`, both with the body as a parameter: the algorithm on the tables
(`Vata/Proofs/InclDownTablesClass.lean`) differs in the body only and shares these lemmas.
-/
namespace Vata
namespace InclDown
open InclUp (Wit prodWit lookupT normS Cert)

variable {o : Ord} {A B : TA} {ws : List Pair}

abbrev SubO (o : Ord) (X : List Pair) (k : Nat) (S : List Nat) : Prop := SubR (leAP o) (leBP o) (leABP o) X k S

def ClosedAt (o : Ord) (A B : TA) (X : List Pair) (x : Pair) : Prop :=
  ∀ ρ, ρ ∈ A.rules → ρ.parent = x.1 →
    ∀ c : Rule → Nat, (∀ r, r ∈ rulesOf B x.2 ρ.sym ρ.kids.length → c r < ρ.kids.length) →
      ∃ i k, ρ.kids[i]? = some k ∧ SubO o X k (sset (rulesOf B x.2 ρ.sym ρ.kids.length) c i)

def Refutes (A B : TA) (p : Nat) (P : List Nat) (w : Tree) : Prop := p ∈ reach A w ∧ ∀ s, s ∈ P → s ∉ reach B w

def CcOK (o : Ord) (X : List Pair) (x : Pair) : Prop :=
  ∀ p P, o.leA p x.1 = true → setLe o x.2 P = true → SubO o X p P

/-- the invariant of the exploration: what the cache of the functor covers is subsumed by `trues` and the work-set,
every pair of `trues` is closed relative to `trues` and the work-set, every entry of `nonincluded` carries a separating
tree -/
structure Inv (o : Ord) (A B : TA) (ws cc : List Pair) (st : St) : Prop where
  cc_sub : ∀ x, x ∈ cc → CcOK o (st.trues ++ ws) x
  closed : ∀ x, x ∈ st.trues → ClosedAt o A B (st.trues ++ ws) x
  ni : ∀ e, e ∈ st.nonIncl → Refutes A B e.1 e.2.1 e.2.2

def Post (Qh : List Pair → Prop) (Qf : Tree → Prop) (T : List Pair) : Verdict → Prop
  | .holds => Qh T
  | .fails w => Qf w

def Spec (o : Ord) (A B : TA) (ws : List Pair) (F : List Pair → St → Ret) (Qh : List Pair → Prop)
    (Qf : Tree → Prop) : Prop :=
  ∀ cc st v cc' st', F cc st = some (v, cc', st') → Inv o A B ws cc st →
    Inv o A B ws cc' st' ∧ (∀ x, x ∈ st.trues → x ∈ st'.trues) ∧ Post Qh Qf st'.trues v

def Mono (Q : List Pair → Prop) : Prop := ∀ T T', (∀ x, x ∈ T → x ∈ T') → Q T → Q T'

def CallSpec (o : Ord) (A B : TA) (ws : List Pair) (call : Call) : Prop :=
  ∀ p P, Spec o A B ws (fun cc st => call cc st p P) (fun T => SubO o (T ++ ws) p P) (Refutes A B p P)

theorem ccOK_mono {X X' : List Pair} {x : Pair} (hX : ∀ y, y ∈ X → y ∈ X') (h : CcOK o X x) :
    CcOK o X' x := fun p P h1 h2 => subR_mono hX (fun _ hs => hs) (h p P h1 h2)

theorem ccOK_of_mem {X : List Pair} {x : Pair} (hx : x ∈ X) : CcOK o X x := by
  intro p P h1 h2
  simp only [setLe, List.all_eq_true, List.any_eq_true] at h2
  exact Or.inr ⟨x.1, x.2, hx, h1, h2⟩

theorem covers_ccOK {X cc : List Pair} {p : Nat} {P : List Nat} (h : covers o cc p P = true)
    (hcc : ∀ x, x ∈ cc → CcOK o X x) : SubO o X p P := by
  simp only [covers, List.any_eq_true, Bool.and_eq_true] at h
  obtain ⟨x, hx, h1, h2⟩ := h
  exact hcc x hx p P h1 h2

theorem closedAt_mono {X X' : List Pair} {x : Pair} (hX : ∀ y, y ∈ X → y ∈ X')
    (h : ClosedAt o A B X x) : ClosedAt o A B X' x := by
  intro ρ hρ hp c hc
  obtain ⟨i, k, hk, hs⟩ := h ρ hρ hp c hc
  exact ⟨i, k, hk, subR_mono hX (fun s hs => hs) hs⟩

theorem app_mono {T T' ws : List Pair} (h : ∀ x, x ∈ T → x ∈ T') : ∀ x, x ∈ T ++ ws → x ∈ T' ++ ws := by
  intro x hx
  rcases List.mem_append.mp hx with h1 | h1
  · exact List.mem_append_left _ (h x h1)
  · exact List.mem_append_right _ h1

theorem mono_subO (o : Ord) (ws : List Pair) (k : Nat) (S : List Nat) : Mono (fun T => SubO o (T ++ ws) k S) :=
  fun _ _ h hs => subR_mono (app_mono h) (fun _ hs => hs) hs

theorem spec_weaken {F : List Pair → St → Ret} {Qh Qh' : List Pair → Prop}
    {Qf Qf' : Tree → Prop} (hh : ∀ T, Qh T → Qh' T) (hf : ∀ w, Qf w → Qf' w) (h : Spec o A B ws F Qh Qf) :
    Spec o A B ws F Qh' Qf' := by
  intro cc st v cc' st' he hI
  obtain ⟨h1, h2, h3⟩ := h cc st v cc' st' he hI
  refine ⟨h1, h2, ?_⟩
  cases v with
  | holds => exact hh _ h3
  | fails w => exact hf _ h3

theorem forAllL_spec {α : Type} {f : α → List Pair → St → Ret}
    {Qh : α → List Pair → Prop} {Qf : Tree → Prop} (hmono : ∀ a, Mono (Qh a)) (as : List α)
    (hs : ∀ a, a ∈ as → Spec o A B ws (f a) (Qh a) Qf) :
    Spec o A B ws (forAllL f as) (fun T => ∀ a, a ∈ as → Qh a T) Qf := by
  induction as with
  | nil =>
    intro cc st v cc' st' h hI
    cases h
    exact ⟨hI, fun x hx => hx, fun _ ha => absurd ha List.not_mem_nil⟩
  | cons a as ih =>
    intro cc st v cc' st' h hI
    simp only [forAllL] at h
    split at h
    · cases h
    · next cc1 st1 heq =>
      obtain ⟨hI1, hm1, hq1⟩ := hs a List.mem_cons_self cc st _ cc1 st1 heq hI
      obtain ⟨hI2, hm2, hq2⟩ := ih (fun a' ha' => hs a' (List.mem_cons_of_mem _ ha')) cc1 st1 v cc' st' h hI1
      refine ⟨hI2, fun x hx => hm2 x (hm1 x hx), ?_⟩
      cases v with
      | holds =>
        intro a' ha'
        rcases List.mem_cons.mp ha' with he | ha'
        · rw [he]; exact hmono a _ _ hm2 hq1
        · exact hq2 a' ha'
      | fails w => exact hq2
    · next w cc1 st1 heq =>
      cases h
      exact hs a List.mem_cons_self cc st _ _ _ heq hI

theorem allPos_spec {call : Call} (hc : CallSpec o A B ws call)
    (lhs rhs : List Nat) :
    Spec o A B ws (allPos call lhs rhs) (fun T => ∀ lr, lr ∈ lhs.zip rhs → SubO o (T ++ ws) lr.1 [lr.2])
      (fun _ => True) :=
  forAllL_spec (α := Nat × Nat) (Qh := fun (lr : Nat × Nat) T => SubO o (T ++ ws) lr.1 [lr.2])
    (fun lr => mono_subO o ws lr.1 [lr.2]) (lhs.zip rhs)
    (fun lr _ => spec_weaken (fun _ h => h) (fun _ _ => trivial) (hc lr.1 [lr.2]))

theorem anyTuple_spec {call : Call} (hc : CallSpec o A B ws call)
    (lhs : List Nat) (W : List (List Nat)) : ∀ (cc : List Pair) (st : St) (b : Bool) (cc' : List Pair) (st' : St),
      anyTuple call lhs W cc st = some (b, cc', st') → Inv o A B ws cc st →
        Inv o A B ws cc' st' ∧ (∀ x, x ∈ st.trues → x ∈ st'.trues) ∧
          (b = true → ∃ w, w ∈ W ∧ ∀ lr, lr ∈ lhs.zip w → SubO o (st'.trues ++ ws) lr.1 [lr.2]) := by
  induction W with
  | nil =>
    intro cc st b cc' st' h hI
    cases h
    exact ⟨hI, fun x hx => hx, fun hb => nomatch hb⟩
  | cons w W ih =>
    intro cc st b cc' st' h hI
    simp only [anyTuple] at h
    split at h
    · cases h
    · next cc1 st1 heq =>
      cases h
      obtain ⟨h1, h2, h3⟩ := allPos_spec hc lhs w cc st _ _ _ heq hI
      exact ⟨h1, h2, fun _ => ⟨w, List.mem_cons_self, h3⟩⟩
    · next w' cc1 st1 heq =>
      obtain ⟨h1, h2, _⟩ := allPos_spec hc lhs w cc st _ _ _ heq hI
      obtain ⟨h4, h5, h6⟩ := ih cc1 st1 b cc' st' h h1
      refine ⟨h4, fun x hx => h5 x (h2 x hx), fun hb => ?_⟩
      obtain ⟨w₀, hw₀, hall⟩ := h6 hb
      exact ⟨w₀, List.mem_cons_of_mem _ hw₀, hall⟩

theorem mem_rawSet {W : List (List Nat)} {cs : List Nat} {i s : Nat} :
    s ∈ rawSet W cs i ↔ ∃ w c, (w, c) ∈ W.zip cs ∧ c = i ∧ w[i]? = some s :=
  mem_filterMap_ite.trans Prod.exists

theorem zip_mem_of_length {W : List (List Nat)} {cs : List Nat} {w : List Nat} (h : w ∈ W) (hl : cs.length = W.length) :
    ∃ c, (w, c) ∈ W.zip cs ∧ c ∈ cs := by
  obtain ⟨n, hn⟩ := List.mem_iff_getElem?.mp h
  have hlt : n < cs.length := hl ▸ (List.getElem?_eq_some_iff.mp hn).1
  exact ⟨cs[n], List.mem_iff_getElem?.mpr ⟨n, List.getElem?_zip_eq_some.mpr ⟨hn, List.getElem?_eq_getElem hlt⟩⟩,
    List.getElem_mem hlt⟩

theorem zip_map_mem {g : List Nat → Nat} {W : List (List Nat)} {w : List Nat} {c : Nat}
    (h : (w, c) ∈ W.zip (W.map g)) : w ∈ W ∧ c = g w := by
  obtain ⟨n, hn⟩ := List.mem_iff_getElem?.mp h
  obtain ⟨h1, h2⟩ := List.getElem?_zip_eq_some.mp hn
  rw [List.getElem?_map, h1] at h2
  exact ⟨List.mem_of_getElem? h1, (Option.some.inj h2).symm⟩

def RefAll (A B : TA) (W : List (List Nat)) (cs : List Nat) : Nat → List Nat → List Tree → Prop
  | _, [], [] => True
  | i, l :: ls, t :: ts => Refutes A B l (rawSet W cs i) t ∧ RefAll A B W cs (i+1) ls ts
  | _, _, _ => False

theorem refAll_matchA {W : List (List Nat)} {cs : List Nat} (i : Nat) (ls : List Nat) (ts : List Tree)
    (h : RefAll A B W cs i ls ts) : matchKids ls (reachL A ts) = true := by
  induction ls generalizing i ts with
  | nil => cases ts with
    | nil => rfl
    | cons _ _ => exact h.elim
  | cons l ls ih => cases ts with
    | nil => exact h.elim
    | cons t ts =>
      simp only [reachL, matchKids, Bool.and_eq_true, List.contains_iff_mem]
      exact ⟨h.1.1, ih (i+1) ts h.2⟩

theorem refAll_length {W : List (List Nat)} {cs : List Nat} (i : Nat) (ls : List Nat) (ts : List Tree)
    (h : RefAll A B W cs i ls ts) : ts.length = ls.length := by
  rw [matchKids_length (refAll_matchA i ls ts h), reachL_eq_map, List.length_map]

theorem refAll_get {W : List (List Nat)} {cs : List Nat} {i : Nat} {ls : List Nat} {ts : List Tree}
    (h : RefAll A B W cs i ls ts) {j l : Nat} {t : Tree} (hl : ls[j]? = some l) (ht : ts[j]? = some t) :
    Refutes A B l (rawSet W cs (i + j)) t := by
  induction ls generalizing i j ts with
  | nil => cases hl
  | cons l' ls ih => cases ts with
    | nil => cases ht
    | cons t' ts => cases j with
      | zero => cases hl; cases ht; exact h.1
      | succ j => rw [← Nat.add_assoc, Nat.add_right_comm]; exact ih h.2 hl ht

theorem refAll_matchB {W : List (List Nat)} {cs : List Nat} (i : Nat) (ls : List Nat) (ts : List Tree)
    (h : RefAll A B W cs i ls ts) (ks : List Nat) (j k : Nat) (hk : ks[j]? = some k)
    (hmem : k ∈ rawSet W cs (i + j)) : matchKids ks (reachL B ts) = false := by
  cases hm : matchKids ks (reachL B ts) with
  | false => rfl
  | true =>
    obtain ⟨s, hs, hks⟩ := matchKids_get ks _ hm j k hk
    obtain ⟨t, _, ht, rfl⟩ := reachL_get B ts j s hs
    have hlt : j < ls.length := by
      rw [← refAll_length i ls ts h]; exact (List.getElem?_eq_some_iff.mp ht).1
    exact absurd hks ((refAll_get h (List.getElem?_eq_getElem hlt) ht).2 k hmem)

structure PostOK (o : Ord) (post : List Nat → List Nat) : Prop where
  sub : ∀ l s, s ∈ post l → s ∈ l
  dom : ∀ l s, s ∈ l → ∃ s', s' ∈ post l ∧ o.leB s s' = true

structure OrdRefl (o : Ord) : Prop where
  reflA : ∀ q, o.leA q q = true
  reflB : ∀ s, o.leB s s = true

theorem postOK_normS (hr : OrdRefl o) : PostOK o normS :=
  ⟨fun _ _ h => InclUp.mem_normS.mp h, fun _ s h => ⟨s, InclUp.mem_normS.mpr h, hr.reflB s⟩⟩

theorem subO_self (hr : OrdRefl o) {X : List Pair} {p : Nat} {P : List Nat} (h : (p, P) ∈ X) : SubO o X p P :=
  Or.inr ⟨p, P, h, hr.reflA p, fun s hs => ⟨s, hs, hr.reflB s⟩⟩

theorem refutes_post (hO : LangOrd A B (leAP o) (leBP o) (leABP o))
    {post : List Nat → List Nat} (hp : PostOK o post) {l : Nat} {S : List Nat} {w : Tree}
    (h : Refutes A B l (post S) w) : Refutes A B l S w := by
  refine ⟨h.1, fun s hs hsB => ?_⟩
  obtain ⟨s', hs', hle⟩ := hp.dom S s hs
  exact h.2 s' hs' (hO.hB w s s' hle hsB)

theorem consT_some {t : Tree} {r : Option (Option (List Tree) × List Pair × St)} {r' : Option (List Tree)}
    {cc' : List Pair} {st' : St} (h : consT t r = some (r', cc', st')) :
    ∃ r₁, r = some (r₁, cc', st') ∧ r' = r₁.map (t :: ·) := by
  unfold consT at h
  split at h
  · cases h
    exact ⟨_, rfl, rfl⟩
  · next hne =>
    subst h
    cases r' with
    | none => exact ⟨none, rfl, rfl⟩
    | some ts => exact absurd rfl (hne ts cc' st')

def TryPost (o : Ord) (A B : TA) (ws : List Pair) (W : List (List Nat)) (cs : List Nat) (i : Nat) (ls : List Nat)
    (T : List Pair) : Option (List Tree) → Prop
  | none => ∃ j k, ls[j]? = some k ∧ SubO o (T ++ ws) k (rawSet W cs (i + j))
  | some ts => RefAll A B W cs i ls ts

theorem tryPost_cons {W : List (List Nat)} {cs : List Nat} {i l : Nat}
    {ls : List Nat} {T : List Pair} {t : Tree} (href : Refutes A B l (rawSet W cs i) t) :
    ∀ r, TryPost o A B ws W cs (i+1) ls T r → TryPost o A B ws W cs i (l :: ls) T (r.map (t :: ·))
  | none, ⟨j, k, hk, hs⟩ => ⟨j + 1, k, hk, by rw [← Nat.add_assoc, Nat.add_right_comm]; exact hs⟩
  | some _, h => ⟨href, h⟩

theorem tryPos_spec {call : Call} {wit : Wit} {post : List Nat → List Nat}
    (hO : LangOrd A B (leAP o) (leBP o) (leABP o)) (hc : CallSpec o A B ws call) (hp : PostOK o post)
    (W : List (List Nat)) (cs : List Nat) (ls : List Nat) :
    ∀ (i : Nat) (cc : List Pair) (st : St) (r : Option (List Tree)) (cc' : List Pair) (st' : St),
      tryPos call wit post W cs i ls cc st = some (r, cc', st') → Inv o A B ws cc st →
      (∀ l, l ∈ ls → l ∈ reach A (treeOf wit l)) →
        Inv o A B ws cc' st' ∧ (∀ x, x ∈ st.trues → x ∈ st'.trues) ∧ TryPost o A B ws W cs i ls st'.trues r := by
  induction ls with
  | nil =>
    intro i cc st r cc' st' h hI _
    cases h
    exact ⟨hI, fun x hx => hx, trivial⟩
  | cons l ls ih =>
    intro i cc st r cc' st' h hI hw
    have hw' : ∀ l', l' ∈ ls → l' ∈ reach A (treeOf wit l') := fun l' hl' => hw l' (List.mem_cons_of_mem _ hl')
    simp only [tryPos] at h
    split at h
    · next hemp =>
      -- the set of the position is empty: a tree of the productive child
      have href : Refutes A B l (rawSet W cs i) (treeOf wit l) := by
        refine ⟨hw l List.mem_cons_self, fun s hs => ?_⟩
        obtain ⟨s', hs', _⟩ := hp.dom _ s hs
        rw [show post (rawSet W cs i) = [] from List.isEmpty_iff.mp hemp] at hs'
        cases hs'
      obtain ⟨r₁, h1, rfl⟩ := consT_some h
      obtain ⟨h3, h4, h5⟩ := ih (i+1) cc st r₁ cc' st' h1 hI hw'
      exact ⟨h3, h4, tryPost_cons href r₁ h5⟩
    · split at h
      · cases h
      · next cc1 st1 heq =>
        cases h
        obtain ⟨h4, h5, h6⟩ := hc l _ cc st _ _ _ heq hI
        exact ⟨h4, h5, 0, l, rfl, subR_mono (fun x hx => hx) (fun s hs => hp.sub _ s hs) h6⟩
      · next w cc1 st1 heq =>
        obtain ⟨h4, h5, h6⟩ := hc l _ cc st _ _ _ heq hI
        obtain ⟨r₁, h1, rfl⟩ := consT_some h
        obtain ⟨h7, h8, h9⟩ := ih (i+1) cc1 st1 r₁ cc' st' h1 h4 hw'
        exact ⟨h7, fun x hx => h8 x (h5 x hx), tryPost_cons (refutes_post hO hp h6) r₁ h9⟩

theorem oneCf_spec {call : Call} {wit : Wit} {post : List Nat → List Nat}
    (hO : LangOrd A B (leAP o) (leBP o) (leABP o)) (hc : CallSpec o A B ws call) (hp : PostOK o post)
    (f : Nat) (lhs : List Nat) (W : List (List Nat)) (cs : List Nat)
    (hw : ∀ l, l ∈ lhs → l ∈ reach A (treeOf wit l)) :
    Spec o A B ws (oneCf call wit post f lhs W cs)
      (fun T => ∃ j k, lhs[j]? = some k ∧ SubO o (T ++ ws) k (rawSet W cs j))
      (fun w => ∃ ts, w = .node f ts ∧ RefAll A B W cs 0 lhs ts) := by
  intro cc st v cc' st' h hI
  unfold oneCf at h
  split at h
  · cases h
  · next ts cc1 st1 heq =>
    cases h
    obtain ⟨h4, h5, h6⟩ := tryPos_spec hO hc hp W cs lhs 0 cc st _ _ _ heq hI hw
    exact ⟨h4, h5, ts, rfl, h6⟩
  · next cc1 st1 heq =>
    cases h
    obtain ⟨h4, h5, j, k, hk, hs⟩ := tryPos_spec hO hc hp W cs lhs 0 cc st _ _ _ heq hI hw
    exact ⟨h4, h5, j, k, hk, by simpa using hs⟩

theorem cfAll_spec {one : List Nat → List Pair → St → Ret} {n : Nat}
    {Qh : List Nat → List Pair → Prop} {Qf : List Nat → Tree → Prop} (hmono : ∀ cs, Mono (Qh cs))
    (hone : ∀ cs, Spec o A B ws (one cs) (Qh cs) (Qf cs)) (m : Nat) :
    ∀ (cs : List Nat), Spec o A B ws (cfAll one n m cs)
      (fun T => ∀ cs' : List Nat, cs'.length = m → (∀ c, c ∈ cs' → c < n) → Qh (cs'.reverse ++ cs) T)
      (fun w => ∃ cs' : List Nat, cs'.length = m ∧ (∀ c, c ∈ cs' → c < n) ∧ Qf (cs'.reverse ++ cs) w) := by
  induction m with
  | zero =>
    intro cs
    refine spec_weaken (fun T h cs' hl _ => ?_) (fun w h => ⟨[], rfl, fun _ hc => absurd hc List.not_mem_nil, h⟩) (hone cs)
    rw [List.length_eq_zero_iff.mp hl]
    exact h
  | succ m ih =>
    intro cs
    have key := forAllL_spec (o := o) (A := A) (B := B) (ws := ws)
      (f := fun i cc st => cfAll one n m (i :: cs) cc st)
      (Qh := fun i T => ∀ cs' : List Nat, cs'.length = m → (∀ c, c ∈ cs' → c < n) → Qh (cs'.reverse ++ i :: cs) T)
      (Qf := fun w => ∃ cs' : List Nat, cs'.length = m + 1 ∧ (∀ c, c ∈ cs' → c < n) ∧ Qf (cs'.reverse ++ cs) w)
      (fun i T T' hT h cs' hl hc => hmono _ T T' hT (h cs' hl hc)) (List.range n)
      (fun i hi => spec_weaken (fun _ h => h) (fun w ⟨cs', hl, hc, hq⟩ =>
        ⟨i :: cs', congrArg (· + 1) hl, List.forall_mem_cons.mpr ⟨List.mem_range.mp hi, hc⟩, by
          rw [List.reverse_cons, List.append_assoc]; exact hq⟩) (ih (i :: cs)))
    refine spec_weaken (fun T h cs' hl hc => ?_) (fun _ h => h) key
    cases cs' with
    | nil => cases hl
    | cons i cs'' =>
      rw [List.reverse_cons, List.append_assoc]
      exact h i (List.mem_range.mpr (hc i List.mem_cons_self)) cs'' (Nat.succ.inj hl)
        (fun c hc' => hc c (List.mem_cons_of_mem _ hc'))

theorem mem_dedup {α : Type} [BEq α] [LawfulBEq α] {x : α} {l : List α} : x ∈ dedup l ↔ x ∈ l := by
  induction l with
  | nil => exact Iff.rfl
  | cons y l ih =>
    rw [dedup, List.mem_cons, List.mem_cons, List.mem_filter, ih]
    by_cases he : x = y
    · exact ⟨fun _ => Or.inl he, fun _ => Or.inl he⟩
    · exact ⟨fun h => h.elim Or.inl (fun h => Or.inr h.1), fun h => h.elim Or.inl
        (fun h => Or.inr ⟨h, by rw [Bool.not_eq_true', beq_eq_false_iff_ne]; exact he⟩)⟩

theorem mem_rulesOf {B : TA} {P : List Nat} {f n : Nat} {σ : Rule} :
    σ ∈ rulesOf B P f n ↔ σ ∈ B.rules ∧ σ.parent ∈ P ∧ σ.sym = f ∧ σ.kids.length = n := by
  simp only [rulesOf, List.mem_filter, Bool.and_eq_true, List.contains_iff_mem, beq_iff_eq]
  constructor
  · rintro ⟨h1, ⟨h2, h3⟩, h4⟩; exact ⟨h1, h2, h3, h4⟩
  · rintro ⟨h1, h2, h3, h4⟩; exact ⟨h1, ⟨h2, h3⟩, h4⟩

theorem mem_rhsTuples {B : TA} {P : List Nat} {f n : Nat} {w : List Nat} :
    w ∈ rhsTuples B P f n ↔ ∃ σ, σ ∈ rulesOf B P f n ∧ σ.kids = w := by
  simp only [rhsTuples, mem_dedup, List.mem_map]

theorem mem_lhsTuples {A : TA} {p f n : Nat} {lhs : List Nat} :
    lhs ∈ lhsTuples A p f n ↔ ∃ ρ, ρ ∈ A.rules ∧ ρ.parent = p ∧ ρ.sym = f ∧ ρ.kids.length = n ∧ ρ.kids = lhs := by
  simp only [lhsTuples, mem_dedup, List.mem_map, List.mem_filter, Bool.and_eq_true, beq_iff_eq]
  constructor
  · rintro ⟨ρ, ⟨h1, ⟨h2, h3⟩, h4⟩, h5⟩; exact ⟨ρ, h1, h2, h3, h4, h5⟩
  · rintro ⟨ρ, h1, h2, h3, h4, h5⟩; exact ⟨ρ, ⟨h1, ⟨h2, h3⟩, h4⟩, h5⟩

theorem mem_lhsGroups {A : TA} {p : Nat} {g : Nat × Nat} :
    g ∈ lhsGroups A p ↔ ∃ ρ, ρ ∈ A.rules ∧ ρ.parent = p ∧ ρ.sym = g.1 ∧ ρ.kids.length = g.2 := by
  simp only [lhsGroups, mem_dedup, List.mem_map, List.mem_filter, beq_iff_eq]
  constructor
  · rintro ⟨ρ, ⟨h1, h2⟩, h3⟩
    exact ⟨ρ, h1, h2, by rw [← h3], by rw [← h3]⟩
  · rintro ⟨ρ, h1, h2, h3, h4⟩
    exact ⟨ρ, ⟨h1, h2⟩, by rw [h3, h4]⟩

def WitOK (A : TA) (wit : Wit) : Prop := ∀ r, r ∈ A.rules → ∀ k, k ∈ r.kids → k ∈ reach A (treeOf wit k)

theorem matchKids_treeOf {A : TA} {wit : Wit} (ls : List Nat) (h : ∀ l, l ∈ ls → l ∈ reach A (treeOf wit l)) :
    matchKids ls (reachL A (ls.map (treeOf wit))) = true := by
  induction ls with
  | nil => rfl
  | cons l ls ih =>
    rw [List.map_cons, reachL, matchKids, Bool.and_eq_true, List.contains_iff_mem]
    exact ⟨h l List.mem_cons_self, ih (fun l' hl' => h l' (List.mem_cons_of_mem _ hl'))⟩

theorem refutes_node {p : Nat} {P : List Nat} {f : Nat} {lhs : List Nat} {ts : List Tree}
    (hρ : ∃ ρ, ρ ∈ A.rules ∧ ρ.parent = p ∧ ρ.sym = f ∧ ρ.kids = lhs)
    (hA : matchKids lhs (reachL A ts) = true)
    (hB : ∀ σ, σ ∈ rulesOf B P f ts.length → matchKids σ.kids (reachL B ts) = false) :
    Refutes A B p P (.node f ts) := by
  obtain ⟨ρ, h1, h2, h3, h4⟩ := hρ
  constructor
  · rw [reach, mem_post']
    exact ⟨ρ, h1, h3, by rw [h4]; exact hA, h2⟩
  · intro s hs hsB
    rw [reach, mem_post'] at hsB
    obtain ⟨σ, g1, g2, g3, g4⟩ := hsB
    have hl : σ.kids.length = ts.length := by
      rw [matchKids_length g3, reachL_eq_map]; simp
    have := hB σ (mem_rulesOf.mpr ⟨g1, by rw [g4]; exact hs, g2, hl⟩)
    rw [this] at g3
    cases g3

def TupleOK (o : Ord) (B : TA) (ws : List Pair) (P : List Nat) (f : Nat) (lhs : List Nat) (T : List Pair) : Prop :=
  ∀ c : Rule → Nat, (∀ r, r ∈ rulesOf B P f lhs.length → c r < lhs.length) →
    ∃ i k, lhs[i]? = some k ∧ SubO o (T ++ ws) k (sset (rulesOf B P f lhs.length) c i)

theorem mono_tupleOK (o : Ord) (B : TA) (ws : List Pair) (P : List Nat) (f : Nat) (lhs : List Nat) :
    Mono (TupleOK o B ws P f lhs) := by
  intro T T' hT h c hc
  obtain ⟨i, k, hk, hs⟩ := h c hc
  exact ⟨i, k, hk, subR_mono (app_mono hT) (fun _ hs => hs) hs⟩

theorem zip_get_mem {l w : List Nat} {i k x : Nat} (hk : l[i]? = some k) (hx : w[i]? = some x) : (k, x) ∈ l.zip w :=
  List.mem_iff_getElem?.mpr ⟨i, List.getElem?_zip_eq_some.mpr ⟨hk, hx⟩⟩

theorem rhsTuples_rep (B : TA) (P : List Nat) (f n : Nat) :
    ∃ rep : List Nat → Rule, ∀ w, w ∈ rhsTuples B P f n → rep w ∈ rulesOf B P f n ∧ (rep w).kids = w := by
  refine ⟨fun w => ((rulesOf B P f n).find? (fun σ => σ.kids == w)).getD ⟨0, [], 0⟩, fun w hw => ?_⟩
  obtain ⟨σ, hσ, hσw⟩ := mem_rhsTuples.mp hw
  dsimp only
  cases hf : (rulesOf B P f n).find? (fun σ => σ.kids == w) with
  | none => exact absurd (beq_iff_eq.mpr hσw) (by simpa using List.find?_eq_none.mp hf σ hσ)
  | some τ =>
    have h2 := List.find?_some hf
    exact ⟨List.mem_of_find?_eq_some hf, beq_iff_eq.mp h2⟩

/-- phase 1: a positionwise bigger tuple settles all choice functions -/
theorem tupleOK_of_bigger {B : TA} {P : List Nat} {f : Nat} {lhs w : List Nat}
    {T : List Pair} (hw : w ∈ rhsTuples B P f lhs.length)
    (hall : ∀ lr, lr ∈ lhs.zip w → SubO o (T ++ ws) lr.1 [lr.2]) : TupleOK o B ws P f lhs T := by
  obtain ⟨σ, hσ, rfl⟩ := mem_rhsTuples.mp hw
  intro c hc
  have hi := hc σ hσ
  have hx : σ.kids[c σ]? = some (σ.kids[c σ]'(by rw [(mem_rulesOf.mp hσ).2.2.2]; exact hi)) :=
    List.getElem?_eq_getElem _
  have hk : lhs[c σ]? = some lhs[c σ] := List.getElem?_eq_getElem hi
  refine ⟨c σ, _, hk, subR_mono (fun x hx => hx) (fun s hs => ?_) (hall _ (zip_get_mem hk hx))⟩
  rw [List.mem_singleton.mp hs]
  exact mem_sset.mpr ⟨σ, hσ, rfl, hx⟩

/-- every choice function on the rules induces one on the list of tuples -/
theorem tupleOK_of_cfs {B : TA} {P : List Nat} {f : Nat} {lhs : List Nat} {T : List Pair}
    (h : ∀ cs : List Nat, cs.length = (rhsTuples B P f lhs.length).length → (∀ c, c ∈ cs → c < lhs.length) →
      ∃ j k, lhs[j]? = some k ∧ SubO o (T ++ ws) k (rawSet (rhsTuples B P f lhs.length) cs j)) :
    TupleOK o B ws P f lhs T := by
  obtain ⟨rep, hrep⟩ := rhsTuples_rep B P f lhs.length
  intro c hc
  obtain ⟨j, k, hk, hs⟩ := h ((rhsTuples B P f lhs.length).map (fun w => c (rep w))) (List.length_map _)
    (fun x hx => by
      obtain ⟨w, hw, rfl⟩ := List.mem_map.mp hx
      exact hc _ (hrep w hw).1)
  refine ⟨j, k, hk, subR_mono (fun x hx => hx) (fun s hs' => ?_) hs⟩
  obtain ⟨w, c0, hz, hc0, hget⟩ := mem_rawSet.mp hs'
  obtain ⟨hwW, hc0'⟩ := zip_map_mem (g := fun w => c (rep w)) hz
  obtain ⟨hr1, hr2⟩ := hrep w hwW
  exact mem_sset.mpr ⟨rep w, hr1, by rw [← hc0, hc0'], by rw [hr2]; exact hget⟩

theorem refutes_of_refAll {p : Nat} {P : List Nat} {f : Nat} {lhs : List Nat} {ts : List Tree}
    {cs : List Nat} (hρ : ∃ ρ, ρ ∈ A.rules ∧ ρ.parent = p ∧ ρ.sym = f ∧ ρ.kids = lhs)
    (href : RefAll A B (rhsTuples B P f lhs.length) cs 0 lhs ts)
    (hl : cs.length = (rhsTuples B P f lhs.length).length) (hlt : ∀ c, c ∈ cs → c < lhs.length) :
    Refutes A B p P (.node f ts) := by
  refine refutes_node hρ (refAll_matchA 0 lhs ts href) (fun σ hσ => ?_)
  rw [refAll_length 0 lhs ts href] at hσ
  obtain ⟨c0, hz, hc0⟩ := zip_mem_of_length (mem_rhsTuples.mpr ⟨σ, hσ, rfl⟩) hl
  have hx : σ.kids[c0]? = some (σ.kids[c0]'(by rw [(mem_rulesOf.mp hσ).2.2.2]; exact hlt c0 hc0)) :=
    List.getElem?_eq_getElem _
  exact refAll_matchB 0 lhs ts href σ.kids c0 _ hx (by rw [Nat.zero_add]; exact mem_rawSet.mpr ⟨σ.kids, c0, hz, rfl, hx⟩)

structure FctorOK (o : Ord) (A B : TA) (ws : List Pair) (call1 call2 : Call) (wit : Wit) (post : List Nat → List Nat) :
    Prop where
  ord : LangOrd A B (leAP o) (leBP o) (leABP o)
  call1 : CallSpec o A B ws call1
  call2 : CallSpec o A B ws call2
  post : PostOK o post
  wit : WitOK A wit

theorem procTuple_spec {call1 call2 : Call} {wit : Wit} {post : List Nat → List Nat}
    (h : FctorOK o A B ws call1 call2 wit post) (p : Nat) (P : List Nat) (f : Nat) (lhs : List Nat)
    (hρ : ∃ ρ, ρ ∈ A.rules ∧ ρ.parent = p ∧ ρ.sym = f ∧ ρ.kids = lhs) :
    Spec o A B ws (procTuple call1 call2 wit post f (rhsTuples B P f lhs.length) lhs)
      (TupleOK o B ws P f lhs) (Refutes A B p P) := by
  have hw : ∀ l, l ∈ lhs → l ∈ reach A (treeOf wit l) := by
    obtain ⟨ρ, h1, _, _, h4⟩ := hρ
    exact fun l hl => h.wit ρ h1 l (h4 ▸ hl)
  intro cc st v cc' st' he hI
  unfold procTuple at he
  split at he
  · cases he
  · next cc1 st1 heq =>
    cases he
    obtain ⟨g1, g2, g3⟩ := anyTuple_spec h.call1 lhs _ cc st _ _ _ heq hI
    obtain ⟨w, hw', hall⟩ := g3 rfl
    exact ⟨g1, g2, tupleOK_of_bigger hw' hall⟩
  · next cc1 st1 heq =>
    obtain ⟨g1, g2, _⟩ := anyTuple_spec h.call1 lhs _ cc st _ _ _ heq hI
    obtain ⟨k1, k2, k3⟩ := cfAll_spec (n := lhs.length)
      (Qh := fun cs T => ∃ j k, lhs[j]? = some k ∧ SubO o (T ++ ws) k (rawSet (rhsTuples B P f lhs.length) cs j))
      (fun cs T T' hT ⟨j, k, hk, hs⟩ => ⟨j, k, hk, subR_mono (app_mono hT) (fun _ hs => hs) hs⟩)
      (fun cs => oneCf_spec h.ord h.call2 h.post f lhs _ cs hw) (rhsTuples B P f lhs.length).length [] cc1 st1 v cc' st' he g1
    refine ⟨k1, fun x hx => k2 x (g2 x hx), ?_⟩
    cases v with
    | holds =>
      refine tupleOK_of_cfs (fun cs hl hlt => ?_)
      have := k3 cs.reverse (by rw [List.length_reverse]; exact hl) (fun c hc => hlt c (List.mem_reverse.mp hc))
      rwa [List.reverse_reverse, List.append_nil] at this
    | fails w =>
      obtain ⟨cs', hl, hlt, ts, rfl, href⟩ := k3
      exact refutes_of_refAll hρ href (by rw [List.append_nil, List.length_reverse]; exact hl)
        (fun c hc => hlt c (by rw [List.append_nil] at hc; exact List.mem_reverse.mp hc))

def GroupOK (o : Ord) (A B : TA) (ws : List Pair) (p : Nat) (P : List Nat) (f n : Nat) (T : List Pair) : Prop :=
  ∀ ρ, ρ ∈ A.rules → ρ.parent = p → ρ.sym = f → ρ.kids.length = n →
    ∀ c : Rule → Nat, (∀ r, r ∈ rulesOf B P ρ.sym ρ.kids.length → c r < ρ.kids.length) →
      ∃ i k, ρ.kids[i]? = some k ∧ SubO o (T ++ ws) k (sset (rulesOf B P ρ.sym ρ.kids.length) c i)

theorem mono_groupOK (o : Ord) (A B : TA) (ws : List Pair) (p : Nat) (P : List Nat) (f n : Nat) :
    Mono (GroupOK o A B ws p P f n) :=
  fun T T' hT h ρ h1 h2 h3 h4 => mono_tupleOK o B ws P ρ.sym ρ.kids T T' hT (h ρ h1 h2 h3 h4)

theorem procGroup_zero (call1 call2 : Call) (A B : TA) (wit : Wit) (post : List Nat → List Nat) (p : Nat)
    (P : List Nat) (f : Nat) (cc : List Pair) (st : St) :
    procGroup call1 call2 A B wit post p P f 0 cc st =
      if (rhsTuples B P f 0).isEmpty then some (.fails (.node f []), cc, st) else some (.holds, cc, st) := rfl

theorem procGroup_succ (call1 call2 : Call) (A B : TA) (wit : Wit) (post : List Nat → List Nat) (p : Nat)
    (P : List Nat) (f n : Nat) (cc : List Pair) (st : St) :
    procGroup call1 call2 A B wit post p P f (n+1) cc st =
      if (rhsTuples B P f (n+1)).isEmpty then
        some (.fails (.node f (((lhsTuples A p f (n+1)).headD []).map (treeOf wit))), cc, st)
      else forAllL (procTuple call1 call2 wit post f (rhsTuples B P f (n+1))) (lhsTuples A p f (n+1)) cc st := rfl

theorem refutes_of_rhs_nil {p : Nat} {P : List Nat} {f : Nat} {lhs : List Nat} {ts : List Tree}
    (hρ : ∃ ρ, ρ ∈ A.rules ∧ ρ.parent = p ∧ ρ.sym = f ∧ ρ.kids = lhs) (hA : matchKids lhs (reachL A ts) = true)
    (hemp : rhsTuples B P f ts.length = []) : Refutes A B p P (.node f ts) :=
  refutes_node hρ hA (fun σ hσ => absurd (mem_rhsTuples.mpr ⟨σ, hσ, rfl⟩) (hemp ▸ List.not_mem_nil))

theorem procGroup_spec {call1 call2 : Call} {wit : Wit} {post : List Nat → List Nat}
    (hF : FctorOK o A B ws call1 call2 wit post) (p : Nat) (P : List Nat) (f n : Nat) (hg : (f, n) ∈ lhsGroups A p) :
    Spec o A B ws (procGroup call1 call2 A B wit post p P f n) (GroupOK o A B ws p P f n) (Refutes A B p P) := by
  intro cc st v cc' st' h hI
  obtain ⟨ρ, g1, g2, g3, g4⟩ := mem_lhsGroups.mp hg
  cases n with
  | zero =>
    rw [procGroup_zero] at h
    cases hR : rhsTuples B P f 0 with
    | nil =>
      rw [hR] at h
      cases h
      exact ⟨hI, fun x hx => hx, refutes_of_rhs_nil (lhs := []) (ts := [])
        ⟨ρ, g1, g2, g3, List.length_eq_zero_iff.mp g4⟩ rfl hR⟩
    | cons w W =>
      rw [hR] at h
      cases h
      refine ⟨hI, fun x hx => hx, fun ρ' k1 k2 k3 k4 c hc => ?_⟩
      obtain ⟨σ, hσ, _⟩ := mem_rhsTuples.mp (hR ▸ List.mem_cons_self : w ∈ rhsTuples B P f 0)
      exact absurd (hc σ (by rw [k3, k4]; exact hσ)) (by rw [k4]; exact Nat.not_lt_zero _)
  | succ n =>
    rw [procGroup_succ] at h
    cases hR : rhsTuples B P f (n+1) with
    | nil =>
      -- no rule of the states of `P`: the tree of the first lhs tuple
      rw [hR] at h
      cases h
      refine ⟨hI, fun x hx => hx, ?_⟩
      cases hL : lhsTuples A p f (n+1) with
      | nil => exact absurd (mem_lhsTuples.mpr ⟨ρ, g1, g2, g3, g4, rfl⟩) (hL ▸ List.not_mem_nil)
      | cons lhs L =>
        obtain ⟨ρ', k1, k2, k3, k4, k5⟩ := mem_lhsTuples.mp (hL ▸ List.mem_cons_self : lhs ∈ lhsTuples A p f (n+1))
        refine refutes_of_rhs_nil (lhs := lhs) ⟨ρ', k1, k2, k3, k5⟩
          (matchKids_treeOf lhs (fun l hl => hF.wit ρ' k1 l (k5 ▸ hl))) ?_
        rw [List.length_map, List.headD_cons, ← k5, k4]
        exact hR
    | cons w W =>
      rw [if_neg (by rw [hR]; exact Bool.false_ne_true)] at h
      have key := forAllL_spec (o := o) (A := A) (B := B) (ws := ws)
        (f := procTuple call1 call2 wit post f (rhsTuples B P f (n+1)))
        (Qh := fun lhs T => TupleOK o B ws P f lhs T) (Qf := Refutes A B p P)
        (fun lhs => mono_tupleOK o B ws P f lhs) (lhsTuples A p f (n+1))
        (fun lhs hl => by
          obtain ⟨ρ, k1, k2, k3, k4, k5⟩ := mem_lhsTuples.mp hl
          have := procTuple_spec hF p P f lhs ⟨ρ, k1, k2, k3, k5⟩
          rwa [show lhs.length = n + 1 from k5 ▸ k4] at this)
      obtain ⟨k1, k2, k3⟩ := key cc st v cc' st' h hI
      refine ⟨k1, k2, ?_⟩
      cases v with
      | fails w => exact k3
      | holds =>
        intro ρ g1 g2 g3 g4
        exact g3 ▸ k3 ρ.kids (mem_lhsTuples.mpr ⟨ρ, g1, g2, g3, g4, rfl⟩)

theorem body_spec {call1 call2 : Call} {wit : Wit} {post : List Nat → List Nat}
    (hF : FctorOK o A B ws call1 call2 wit post) (p : Nat) (P : List Nat) :
    Spec o A B ws (body call1 call2 A B wit post p P) (fun T => ClosedAt o A B (T ++ ws) (p, P))
      (Refutes A B p P) := by
  unfold body
  have key := forAllL_spec (o := o) (A := A) (B := B) (ws := ws)
    (f := fun (g : Nat × Nat) => procGroup call1 call2 A B wit post p P g.1 g.2)
    (Qh := fun (g : Nat × Nat) T => GroupOK o A B ws p P g.1 g.2 T) (Qf := Refutes A B p P)
    (fun g => mono_groupOK o A B ws p P g.1 g.2) (lhsGroups A p)
    (fun g hg => procGroup_spec hF p P g.1 g.2 hg)
  refine spec_weaken ?_ (fun _ h => h) key
  intro T h ρ g1 g2
  exact h (ρ.sym, ρ.kids.length) (mem_lhsGroups.mpr ⟨ρ, g1, g2, rfl, rfl⟩) ρ g1 g2 rfl rfl

theorem covers_subO {X X' : List Pair} {p : Nat} {P : List Nat} (h : covers o X p P = true)
    (hX : ∀ x, x ∈ X → x ∈ X') : SubO o X' p P :=
  subR_mono hX (fun _ hs => hs) (subXR_iff.mp (by simp only [subXR, h, Bool.or_true]))

theorem byPre_subO {X : List Pair} {p : Nat} {P : List Nat} (h : byPre o p P = true) : SubO o X p P :=
  subXR_iff.mp (by simp only [subXR, h, Bool.true_or])

theorem niFind_refutes (hO : LangOrd A B (leAP o) (leBP o) (leABP o))
    {ni : List (Nat × List Nat × Tree)} {p : Nat} {P : List Nat} {x : Nat × List Nat × Tree}
    (h : niFind o ni p P = some x) (hni : ∀ e, e ∈ ni → Refutes A B e.1 e.2.1 e.2.2) : Refutes A B p P x.2.2 := by
  unfold niFind at h
  have hx := List.mem_of_find?_eq_some h
  have hc := List.find?_some h
  simp only [Bool.and_eq_true, setLe, List.all_eq_true, List.any_eq_true] at hc
  obtain ⟨h1, h2⟩ := hni x hx
  refine ⟨hO.hA _ _ _ hc.1 h1, fun s hs hsB => ?_⟩
  obtain ⟨s', hs', hle⟩ := hc.2 s hs
  exact h2 s' hs' (hO.hB _ s s' hle hsB)

theorem mem_ccAdd {cc : List Pair} {p : Nat} {P : List Nat} {x : Pair} (h : x ∈ ccAdd o cc p P) :
    x ∈ cc ∨ x = (p, P) := by
  unfold ccAdd at h
  split at h
  · exact Or.inl h
  · rcases List.mem_append.mp h with h | h
    · exact Or.inl (List.mem_filter.mp h).1
    · exact Or.inr (by simpa using h)

theorem mem_niAdd {ni : List (Nat × List Nat × Tree)} {p : Nat} {P : List Nat} {w : Tree}
    {e : Nat × List Nat × Tree} (h : e ∈ niAdd o ni p P w) : e ∈ ni ∨ e = (p, P, w) := by
  unfold niAdd at h
  split at h
  · exact Or.inl h
  · rcases List.mem_append.mp h with h | h
    · exact Or.inl (List.mem_filter.mp h).1
    · exact Or.inr (by simpa using h)

theorem mem_addTrue {X : List Pair} {x y : Pair} : y ∈ addTrue X x ↔ y ∈ X ∨ y = x := mem_insNew

theorem mem_append_cons {α : Type} {t x : α} {T ws : List α} : t ∈ T ++ x :: ws ↔ t = x ∨ t ∈ T ++ ws := by
  rw [List.mem_append, List.mem_cons, List.mem_append, or_left_comm]

theorem mem_addTrue_append {T ws : List Pair} {x t : Pair} : t ∈ addTrue T x ++ ws ↔ t ∈ T ++ x :: ws := by
  rw [mem_append_cons, List.mem_append, mem_addTrue, List.mem_append, or_assoc, or_left_comm]

/-- the end of a call that ran the body for its pair (`processFoundInclusion` / `processFoundNoninclusion`); `r` is the
result of the body -/
def callEnd (o : Ord) (cc : List Pair) (st : St) (p : Nat) (P : List Nat) : Ret → Ret
  | none => none
  | some (.holds, _, st') => some (.holds, ccAdd o cc p P, ⟨st'.nonIncl, addTrue st'.trues (p, P)⟩)
  | some (.fails w, _, st') => some (.fails w, cc, ⟨niAdd o st'.nonIncl p P w, st.trues⟩)

/-- a pair that is closed (relative to `ws'`, which may hold the pair itself) joins the closed pairs -/
theorem closed_addTrue {ws ws' T : List Pair} {x : Pair} (hsub : ∀ y, y ∈ T ++ ws' → y ∈ addTrue T x ++ ws)
    (hcl : ∀ y, y ∈ T → ClosedAt o A B (T ++ ws') y) (hx : ClosedAt o A B (T ++ ws') x) :
    ∀ y, y ∈ addTrue T x → ClosedAt o A B (addTrue T x ++ ws) y := by
  intro y hy
  rcases mem_addTrue.mp hy with h | h
  · exact closedAt_mono hsub (hcl y h)
  · rw [h]; exact closedAt_mono hsub hx

theorem inv_push {ws cc : List Pair} {st : St} (x : Pair) (hI : Inv o A B ws cc st) :
    Inv o A B (x :: ws) [] st :=
  ⟨fun _ h => by simp at h,
   fun y hy => closedAt_mono (fun _ hz => mem_append_cons.mpr (Or.inr hz)) (hI.closed y hy),
   hI.ni⟩

theorem callEnd_spec {ws cc : List Pair} {st : St} {p : Nat} {P : List Nat} {bd : List Pair → St → Ret}
    (hr : OrdRefl o) (hI : Inv o A B ws cc st)
    (hb : Spec o A B ((p, P) :: ws) bd (fun T => ClosedAt o A B (T ++ (p, P) :: ws) (p, P)) (Refutes A B p P))
    {v : Verdict} {cc' : List Pair} {st' : St} (h : callEnd o cc st p P (bd [] st) = some (v, cc', st')) :
    Inv o A B ws cc' st' ∧ (∀ x, x ∈ st.trues → x ∈ st'.trues) ∧
      Post (fun T => SubO o (T ++ ws) p P) (Refutes A B p P) st'.trues v := by
  rcases hbd : bd [] st with _ | ⟨_ | w, cc1, st1⟩ <;> rw [hbd] at h
  · cases h
  · cases h
    obtain ⟨h1, h2, h3⟩ := hb [] st _ _ _ hbd (inv_push (p, P) hI)
    have hsub : ∀ x, x ∈ st1.trues ++ (p, P) :: ws → x ∈ addTrue st1.trues (p, P) ++ ws :=
      fun _ => mem_addTrue_append.mpr
    refine ⟨⟨?_, closed_addTrue hsub h1.closed h3, h1.ni⟩, fun x hx => mem_addTrue.mpr (Or.inl (h2 x hx)), ?_⟩
    · intro x hx
      rcases mem_ccAdd hx with h | h
      · exact ccOK_mono (app_mono (fun y hy => mem_addTrue.mpr (Or.inl (h2 y hy)))) (hI.cc_sub x h)
      · exact ccOK_of_mem (List.mem_append_left _ (mem_addTrue.mpr (Or.inr h)))
    · exact subO_self hr (List.mem_append_left _ (mem_addTrue.mpr (Or.inr rfl)))
  · cases h
    obtain ⟨h1, _, h3⟩ := hb [] st _ _ _ hbd (inv_push (p, P) hI)
    refine ⟨⟨hI.cc_sub, hI.closed, fun e he => ?_⟩, fun x hx => hx, h3⟩
    rcases mem_niAdd he with h | h
    · exact h1.ni e h
    · rw [h]; exact h3

/-- one call of `expand` with the body of the inner functor as a parameter: the algorithm on the rule lists and the
one on the tables (`InclDownTables.expandT`) differ in the body only -/
def expandStep (o : Ord) (bd : List Pair → St → Ret) (ws cc : List Pair) (st : St) (p : Nat) (P : List Nat) : Ret :=
  if covers o ws p P then some (.holds, cc, st)
  else
    match niFind o st.nonIncl p P with
    | some x => some (.fails x.2.2, cc, st)
    | none =>
      if covers o cc p P then some (.holds, cc, st)
      else if byPre o p P then some (.holds, cc, st)
      else callEnd o cc st p P (bd [] st)

theorem expand_succ (o : Ord) (A B : TA) (wit : Wit) (fuel : Nat) (ws cc : List Pair) (st : St) (p : Nat)
    (P : List Nat) :
    expand o A B wit (fuel+1) ws cc st p P =
      expandStep o (body (expand o A B wit fuel ((p, P) :: ws)) (expand o A B wit fuel ((p, P) :: ws)) A B wit normS p P)
        ws cc st p P := rfl

inductive ExpandCase (o : Ord) (bd : List Pair → St → Ret) (ws cc : List Pair) (st : St) (p : Nat) (P : List Nat) :
    Ret → Prop
  | inWorkset : covers o ws p P = true → ExpandCase o bd ws cc st p P (some (.holds, cc, st))
  | nonIncl (x) : covers o ws p P = false → niFind o st.nonIncl p P = some x →
      ExpandCase o bd ws cc st p P (some (.fails x.2.2, cc, st))
  | inCache : covers o ws p P = false → niFind o st.nonIncl p P = none → covers o cc p P = true →
      ExpandCase o bd ws cc st p P (some (.holds, cc, st))
  | byPreorder : covers o ws p P = false → niFind o st.nonIncl p P = none → covers o cc p P = false →
      byPre o p P = true → ExpandCase o bd ws cc st p P (some (.holds, cc, st))
  | body {r} : covers o ws p P = false → niFind o st.nonIncl p P = none → covers o cc p P = false →
      byPre o p P = false → r = callEnd o cc st p P (bd [] st) → ExpandCase o bd ws cc st p P r

theorem expandStep_case {bd : List Pair → St → Ret} {ws cc : List Pair} {st : St} {p : Nat} {P : List Nat}
    {r : Ret} (h : expandStep o bd ws cc st p P = r) : ExpandCase o bd ws cc st p P r := by
  subst h
  unfold expandStep
  cases h1 : covers o ws p P with
  | true => exact .inWorkset h1
  | false =>
    cases h2 : niFind o st.nonIncl p P with
    | some x => exact .nonIncl x h1 h2
    | none =>
      cases h3 : covers o cc p P with
      | true => exact .inCache h1 h2 h3
      | false =>
        cases h4 : byPre o p P with
        | true => exact .byPreorder h1 h2 h3 h4
        | false => exact .body h1 h2 h3 h4 rfl

theorem expandStep_of_case {bd : List Pair → St → Ret} {ws cc : List Pair} {st : St} {p : Nat} {P : List Nat}
    {r : Ret} (h : ExpandCase o bd ws cc st p P r) : expandStep o bd ws cc st p P = r := by
  cases h <;> simp only [expandStep, *, Bool.false_eq_true, if_false, if_true]

theorem expandStep_congr {bd bd' : List Pair → St → Ret} {ws cc : List Pair} {st : St} {p : Nat} {P : List Nat}
    (h : covers o ws p P = false → niFind o st.nonIncl p P = none → bd [] st = bd' [] st) :
    expandStep o bd ws cc st p P = expandStep o bd' ws cc st p P := by
  unfold expandStep
  cases h1 : covers o ws p P with
  | true => rfl
  | false =>
    cases h2 : niFind o st.nonIncl p P with
    | some x => rfl
    | none => rw [h h1 h2]

/-- a call decides its pair when the body, run under the pending call, establishes the closure condition of the pair
or refutes it -/
theorem expandStep_spec {bd : List Pair → St → Ret} {p : Nat} {P : List Nat}
    (hO : LangOrd A B (leAP o) (leBP o) (leABP o)) (hr : OrdRefl o)
    (hb : Spec o A B ((p, P) :: ws) bd (fun T => ClosedAt o A B (T ++ (p, P) :: ws) (p, P)) (Refutes A B p P)) :
    Spec o A B ws (fun cc st => expandStep o bd ws cc st p P) (fun T => SubO o (T ++ ws) p P) (Refutes A B p P) := by
  intro cc st v cc' st' h hI
  cases expandStep_case h with
  | inWorkset hws => exact ⟨hI, fun x hx => hx, covers_subO hws (fun x hx => List.mem_append_right _ hx)⟩
  | nonIncl x _ hx => exact ⟨hI, fun x hx => hx, niFind_refutes hO hx hI.ni⟩
  | inCache _ _ hcc => exact ⟨hI, fun x hx => hx, covers_ccOK hcc hI.cc_sub⟩
  | byPreorder _ _ _ hpre => exact ⟨hI, fun x hx => hx, byPre_subO hpre⟩
  | body _ _ _ _ he =>
    exact callEnd_spec hr hI hb he.symm

theorem expand_spec {wit : Wit} (hO : LangOrd A B (leAP o) (leBP o) (leABP o))
    (hr : OrdRefl o) (hW : WitOK A wit) (fuel : Nat) :
    ∀ (ws : List Pair), CallSpec o A B ws (expand o A B wit fuel ws) := by
  induction fuel with
  | zero => exact fun _ _ _ _ _ _ _ _ h => nomatch h
  | succ fuel ih =>
    intro ws p P
    simp only [expand_succ]
    exact expandStep_spec hO hr (body_spec ⟨hO, ih _, ih _, postOK_normS hr, hW⟩ p P)

/-- the loop over the final states of `A` with the body of the root functor as a parameter -/
def rootLoopWith (o : Ord) (bd : Nat → List Pair → St → Ret) (FB : List Nat) :
    List Nat → List Pair → St → Option (Except Tree St)
  | [], _, st => some (.ok st)
  | f :: fs, cc, st =>
    if byPre o f FB then rootLoopWith o bd FB fs cc st
    else
      match bd f cc st with
      | none => none
      | some (.holds, cc', st') => rootLoopWith o bd FB fs cc' ⟨st'.nonIncl, addTrue st'.trues (f, FB)⟩
      | some (.fails w, _, _) => some (.error w)

theorem rootLoop_eq_with (o : Ord) (A B : TA) (wit : Wit) (fuel : Nat) (FB : List Nat) (fs : List Nat) (cc : List Pair)
    (st : St) : rootLoop o A B wit fuel FB fs cc st =
      rootLoopWith o (fun f => body (expand o A B wit fuel []) (expand o A B wit fuel []) A B wit normS f FB) FB fs cc st := by
  induction fs generalizing cc st with
  | nil => rfl
  | cons f fs ih =>
    simp only [rootLoop, rootLoopWith, ih]
    rfl

def runOf : Option (Except Tree St) → Option (Except Tree (List Pair))
  | none => none
  | some (.ok st) => some (.ok st.trues)
  | some (.error w) => some (.error w)

theorem run_eq_runOf (o : Ord) (A B : TA) (fuel : Nat) :
    run o A B fuel = runOf (rootLoop o A B (prodWit A) fuel (normS B.final) (dedup A.final) [] ⟨[], []⟩) := rfl

def RootPost (o : Ord) (A B : TA) (FB : List Nat) (fs : List Nat) (st : St) : Except Tree St → Prop
  | .ok st' => (∃ cc', Inv o A B [] cc' st') ∧ (∀ x, x ∈ st.trues → x ∈ st'.trues) ∧
      ∀ f, f ∈ fs → SubO o st'.trues f FB
  | .error w => ∃ f, f ∈ fs ∧ Refutes A B f FB w

theorem rootPost_cons {FB : List Nat} {f : Nat} {fs : List Nat} {st st1 : St}
    (hm : ∀ x, x ∈ st.trues → x ∈ st1.trues)
    (hf : ∀ st' : St, (∀ x, x ∈ st1.trues → x ∈ st'.trues) → SubO o st'.trues f FB) {res : Except Tree St}
    (h : RootPost o A B FB fs st1 res) : RootPost o A B FB (f :: fs) st res := by
  cases res with
  | ok st' =>
    obtain ⟨h1, h2, h3⟩ := h
    refine ⟨h1, fun x hx => h2 x (hm x hx), fun f' hf' => ?_⟩
    rcases List.mem_cons.mp hf' with he | hf'
    · rw [he]; exact hf _ h2
    · exact h3 f' hf'
  | error w =>
    obtain ⟨f', hf', href⟩ := h
    exact ⟨f', List.mem_cons_of_mem _ hf', href⟩

theorem inv_addTrue {cc : List Pair} {st : St} {x : Pair} (hI : Inv o A B [] cc st)
    (hx : ClosedAt o A B (st.trues ++ []) x) : Inv o A B [] cc ⟨st.nonIncl, addTrue st.trues x⟩ := by
  have hsub : ∀ y, y ∈ st.trues ++ [] → y ∈ addTrue st.trues x ++ [] :=
    app_mono (fun y hy => mem_addTrue.mpr (Or.inl hy))
  exact ⟨fun y hy => ccOK_mono hsub (hI.cc_sub y hy), closed_addTrue hsub hI.closed hx, hI.ni⟩

theorem rootLoopWith_spec (hr : OrdRefl o) {bd : Nat → List Pair → St → Ret} {FB : List Nat}
    (hb : ∀ f, Spec o A B [] (bd f) (fun T => ClosedAt o A B (T ++ []) (f, FB)) (Refutes A B f FB)) (fs : List Nat) :
    ∀ (cc : List Pair) (st : St) (res : Except Tree St),
      rootLoopWith o bd FB fs cc st = some res → Inv o A B [] cc st → RootPost o A B FB fs st res := by
  induction fs with
  | nil =>
    intro cc st res h hI
    cases h
    exact ⟨⟨cc, hI⟩, fun x hx => hx, fun _ hf => absurd hf List.not_mem_nil⟩
  | cons f fs ih =>
    intro cc st res h hI
    rw [rootLoopWith] at h
    by_cases hpre : byPre o f FB = true
    · rw [if_pos hpre] at h
      exact rootPost_cons (fun x hx => hx) (fun _ _ => byPre_subO hpre) (ih cc st res h hI)
    · rw [if_neg hpre] at h
      split at h
      · cases h
      · next cc1 st1 heq =>
        obtain ⟨g1, g2, g3⟩ := hb f cc st _ _ _ heq hI
        refine rootPost_cons (fun x hx => mem_addTrue.mpr (Or.inl (g2 x hx))) (fun st' h2 => ?_)
          (ih cc1 _ res h (inv_addTrue g1 g3))
        exact subO_self hr (h2 _ (mem_addTrue.mpr (Or.inr rfl)))
      · next w cc1 st1 heq =>
        cases h
        exact ⟨f, List.mem_cons_self, (hb f cc st _ _ _ heq hI).2.2⟩

theorem downCertR_of_inv {cc : List Pair} {st : St} (hI : Inv o A B [] cc st) :
    DownCertR (leAP o) (leBP o) (leABP o) A B st.trues := by
  intro p P hpP ρ hρ hpar c hc
  have := hI.closed (p, P) hpP ρ hρ hpar c hc
  rwa [List.append_nil] at this

theorem inv_init (o : Ord) (A B : TA) : Inv o A B [] [] ⟨[], []⟩ :=
  ⟨fun _ h => absurd h List.not_mem_nil, fun _ h => absurd h List.not_mem_nil, fun _ h => absurd h List.not_mem_nil⟩

theorem witOK_prodWit {A : TA} (hA : ∀ r, r ∈ A.rules → ∀ k, k ∈ r.kids → Productive A k) : WitOK A (prodWit A) := by
  intro r hr k hk
  obtain ⟨t, ht⟩ := InclUp.lookupT_of_mem (InclUp.prodWit_complete (hA r hr k hk))
  have := InclUp.prodWit_sound A _ (InclUp.lookupT_some ht)
  simp only [treeOf, ht, Option.getD_some]
  exact this

def RunPost (certOk : List Pair → Bool) (A B : TA) : Except Tree (List Pair) → Prop
  | .ok X => certOk X = true
  | .error w => accepts A w = true ∧ accepts B w = false

theorem runOf_spec {st₀ : St} {r : Option (Except Tree St)}
    (hr : ∀ res, r = some res → RootPost o A B (normS B.final) (dedup A.final) st₀ res) :
    ∀ {res : Except Tree (List Pair)}, runOf r = some res → RunPost (downCertRB o A B) A B res := by
  intro res h
  rcases r with _ | (w | st)
  · cases h
  · cases h
    obtain ⟨f, hf, h1, h2⟩ := hr _ rfl
    constructor
    · exact accepts_iff_reach.mpr ⟨f, h1, mem_dedup.mp hf⟩
    · cases hb : accepts B w with
      | false => rfl
      | true =>
        obtain ⟨s, hs, hsf⟩ := accepts_iff_reach.mp hb
        exact absurd hs (h2 s (InclUp.mem_normS.mpr hsf))
  · cases h
    obtain ⟨⟨cc, hI⟩, _, hroot⟩ := hr _ rfl
    exact (downCertRB_iff o A B st.trues).mpr ⟨downCertR_of_inv hI, fun f hf =>
      subR_mono (fun x hx => hx) (fun s hs => InclUp.mem_normS.mp hs) (hroot f (mem_dedup.mpr hf))⟩

theorem runWith_spec (hr : OrdRefl o) {bd : Nat → List Pair → St → Ret}
    (hb : ∀ f, Spec o A B [] (bd f) (fun T => ClosedAt o A B (T ++ []) (f, normS B.final))
      (Refutes A B f (normS B.final)))
    {res : Except Tree (List Pair)}
    (h : runOf (rootLoopWith o bd (normS B.final) (dedup A.final) [] ⟨[], []⟩) = some res) :
    RunPost (downCertRB o A B) A B res :=
  runOf_spec (fun res he => rootLoopWith_spec hr hb _ _ _ res he (inv_init o A B)) h

theorem run_spec {o : Ord} {A B : TA} (hO : LangOrd A B (leAP o) (leBP o) (leABP o)) (hr : OrdRefl o)
    (hA : ∀ r, r ∈ A.rules → ∀ k, k ∈ r.kids → Productive A k) {fuel : Nat} {res : Except Tree (List Pair)}
    (h : run o A B fuel = some res) : RunPost (downCertRB o A B) A B res := by
  have hW := witOK_prodWit hA
  have hc := expand_spec hO hr hW fuel []
  rw [run_eq_runOf, rootLoop_eq_with] at h
  exact runWith_spec hr (fun f => body_spec ⟨hO, hc, hc, postOK_normS hr, hW⟩ f _) h

theorem run_ok_cert {o : Ord} {A B : TA} (hO : LangOrd A B (leAP o) (leBP o) (leABP o)) (hr : OrdRefl o)
    (hA : ∀ r, r ∈ A.rules → ∀ k, k ∈ r.kids → Productive A k) {fuel : Nat} {X : List Pair}
    (h : run o A B fuel = some (.ok X)) : downCertRB o A B X = true := run_spec hO hr hA h

theorem run_error_sound {o : Ord} {A B : TA} (hO : LangOrd A B (leAP o) (leBP o) (leABP o)) (hr : OrdRefl o)
    (hA : ∀ r, r ∈ A.rules → ∀ k, k ∈ r.kids → Productive A k) {fuel : Nat} {w : Tree}
    (h : run o A B fuel = some (.error w)) : accepts A w = true ∧ accepts B w = false := run_spec hO hr hA h

structure OrdTrans (o : Ord) : Prop where
  transA : ∀ a b c, o.leA a b = true → o.leA b c = true → o.leA a c = true
  transB : ∀ a b c, o.leB a b = true → o.leB b c = true → o.leB a c = true
  transAAB : ∀ a b s, o.leA a b = true → o.leAB b s = true → o.leAB a s = true
  transABB : ∀ a s s', o.leAB a s = true → o.leB s s' = true → o.leAB a s' = true

theorem mem_maxElems {l acc : List Nat} {s : Nat} (h : s ∈ maxElems o l acc) : s ∈ l ∨ s ∈ acc := by
  induction l generalizing acc with
  | nil => exact Or.inr h
  | cons r rs ih =>
    rw [maxElems] at h
    split at h
    · exact (ih h).elim (fun h => Or.inl (List.mem_cons_of_mem _ h)) Or.inr
    · rcases ih h with h | h
      · exact Or.inl (List.mem_cons_of_mem _ h)
      · rcases List.mem_append.mp h with h | h
        · exact Or.inr (List.mem_filter.mp h).1
        · exact Or.inl (List.mem_singleton.mp h ▸ List.mem_cons_self)

theorem maxElems_dom (hr : OrdRefl o) (ht : OrdTrans o) (l acc : List Nat) (s : Nat) (h : s ∈ l ∨ s ∈ acc) :
    ∃ s', s' ∈ maxElems o l acc ∧ o.leB s s' = true := by
  induction l generalizing acc s with
  | nil => exact ⟨s, h.resolve_left List.not_mem_nil, hr.reflB s⟩
  | cons r rs ih =>
    rw [maxElems]
    split
    · next hany =>
      rcases h with h | h
      · rcases List.mem_cons.mp h with he | h
        · obtain ⟨a, ha, hle⟩ := List.any_eq_true.mp hany
          obtain ⟨s', hs', hle'⟩ := ih acc a (Or.inr ha)
          exact ⟨s', hs', ht.transB _ _ _ (he ▸ hle) hle'⟩
        · exact ih acc s (Or.inl h)
      · exact ih acc s (Or.inr h)
    · -- `r` joins the maximal elements and stays dominated
      have hrmem : r ∈ acc.filter (fun s => !(o.leB s r)) ++ [r] := List.mem_append_right _ List.mem_cons_self
      rcases h with h | h
      · rcases List.mem_cons.mp h with he | h
        · rw [he]; exact ih _ r (Or.inr hrmem)
        · exact ih _ s (Or.inl h)
      · cases hle : o.leB s r with
        | true =>
          obtain ⟨s', hs', hle'⟩ := ih _ r (Or.inr hrmem)
          exact ⟨s', hs', ht.transB _ _ _ hle hle'⟩
        | false =>
          exact ih _ s (Or.inr (List.mem_append_left _ (List.mem_filter.mpr ⟨h, by rw [hle]; rfl⟩)))

theorem postOK_maxElems (hr : OrdRefl o) (ht : OrdTrans o) :
    PostOK o (fun l => normS (maxElems o l [])) := by
  constructor
  · intro l s hs
    rcases mem_maxElems (InclUp.mem_normS.mp hs) with h | h
    · exact h
    · simp at h
  · intro l s hs
    obtain ⟨s', hs', hle⟩ := maxElems_dom hr ht l [] s (Or.inl hs)
    exact ⟨s', InclUp.mem_normS.mpr hs', hle⟩

theorem subO_trans (ht : OrdTrans o) {X : List Pair} {p q : Nat} {P Q : List Nat}
    (h1 : o.leA p q = true) (h2 : setLe o Q P = true) (h : SubO o X q Q) : SubO o X p P := by
  simp only [setLe, List.all_eq_true, List.any_eq_true] at h2
  rcases h with ⟨s, hs, hqs⟩ | ⟨k', S', hx, hqk, hall⟩
  · obtain ⟨s', hs', hle⟩ := h2 s hs
    exact Or.inl ⟨s', hs', ht.transABB _ _ _ (ht.transAAB _ _ _ h1 hqs) hle⟩
  · refine Or.inr ⟨k', S', hx, ht.transA _ _ _ h1 hqk, fun s' hs' => ?_⟩
    obtain ⟨s, hs, hle⟩ := hall s' hs'
    obtain ⟨s'', hs'', hle'⟩ := h2 s hs
    exact ⟨s'', hs'', ht.transB _ _ _ hle hle'⟩

theorem cachedCall_spec {call : Call} (ht : OrdTrans o)
    (hc : CallSpec o A B ws call) : CallSpec o A B ws (cachedCall o call) := by
  intro q Q cc st v cc' st' h hI
  unfold cachedCall at h
  simp only at h
  split at h
  · next hcc =>
    cases h
    exact ⟨hI, fun x hx => hx, covers_ccOK hcc hI.cc_sub⟩
  · split at h
    · cases h
    · next cc1 st1 heq =>
      cases h
      obtain ⟨g1, g2, g3⟩ := hc q Q cc st _ _ _ heq hI
      refine ⟨⟨?_, g1.closed, g1.ni⟩, g2, g3⟩
      intro x hx
      rcases List.mem_append.mp hx with h' | h'
      · exact ccOK_mono (app_mono g2) (hI.cc_sub x (List.mem_filter.mp h').1)
      · simp only [List.mem_singleton] at h'
        rw [h']
        exact fun p P h1 h2 => subO_trans ht h1 h2 g3
    · next w cc1 st1 heq =>
      cases h
      obtain ⟨g1, g2, g3⟩ := hc q Q cc st _ _ _ heq hI
      refine ⟨⟨fun x hx => ccOK_mono (app_mono g2) (hI.cc_sub x hx), g1.closed, ?_⟩, g2, g3⟩
      intro e he
      rcases mem_niAdd he with h' | h'
      · exact g1.ni e h'
      · rw [h']; exact g3

def callEndN (cc : List Pair) (st : St) (p : Nat) (P : List Nat) : Ret → Ret
  | none => none
  | some (.holds, _, st') => some (.holds, cc, ⟨st'.nonIncl, addTrue st'.trues (p, P)⟩)
  | some (.fails w, _, st') => some (.fails w, cc, ⟨st'.nonIncl, st.trues⟩)

inductive ExpandNCase (o : Ord) (ws cc : List Pair) (st : St) (p : Nat) (P : List Nat) (rb : Ret) : Ret → Prop
  | byPreorder : byPre o p P = true → ExpandNCase o ws cc st p P rb (some (.holds, cc, st))
  | inWorkset : byPre o p P = false → covers o ws p P = true → ExpandNCase o ws cc st p P rb (some (.holds, cc, st))
  | nonIncl (x) : byPre o p P = false → covers o ws p P = false → niFind o st.nonIncl p P = some x →
      ExpandNCase o ws cc st p P rb (some (.fails x.2.2, cc, st))
  | body {r} : byPre o p P = false → covers o ws p P = false → niFind o st.nonIncl p P = none →
      r = callEndN cc st p P rb → ExpandNCase o ws cc st p P rb r

theorem expandN_case {wit : Wit} {fuel : Nat} {ws cc : List Pair} {st : St} {p : Nat}
    {P : List Nat} {r : Ret} (h : expandN o A B wit (fuel+1) ws cc st p P = r) :
    ExpandNCase o ws cc st p P
      (body (expandN o A B wit fuel ((p, P) :: ws)) (cachedCall o (expandN o A B wit fuel ((p, P) :: ws))) A B wit
        (fun l => normS (maxElems o l [])) p P [] st) r := by
  subst h
  unfold expandN
  cases h1 : byPre o p P with
  | true => exact .byPreorder h1
  | false =>
    cases h2 : covers o ws p P with
    | true => exact .inWorkset h1 h2
    | false =>
      cases h3 : niFind o st.nonIncl p P with
      | some x => exact .nonIncl x h1 h2 h3
      | none => exact .body h1 h2 h3 rfl

theorem callEndN_spec {ws cc : List Pair} {st : St} {p : Nat} {P : List Nat} {bd : List Pair → St → Ret}
    (hr : OrdRefl o) (hI : Inv o A B ws cc st)
    (hb : Spec o A B ((p, P) :: ws) bd (fun T => ClosedAt o A B (T ++ (p, P) :: ws) (p, P)) (Refutes A B p P))
    {v : Verdict} {cc' : List Pair} {st' : St} (h : callEndN cc st p P (bd [] st) = some (v, cc', st')) :
    Inv o A B ws cc' st' ∧ (∀ x, x ∈ st.trues → x ∈ st'.trues) ∧
      Post (fun T => SubO o (T ++ ws) p P) (Refutes A B p P) st'.trues v := by
  rcases hbd : bd [] st with _ | ⟨_ | w, cc1, st1⟩ <;> rw [hbd] at h
  · cases h
  · -- as `callEnd`, with the cache left as it was
    cases h
    obtain ⟨k1, k2, k3⟩ := callEnd_spec hr hI hb (v := .holds) (by rw [hbd]; rfl)
    exact ⟨⟨fun x hx => ccOK_mono (app_mono k2) (hI.cc_sub x hx), k1.closed, k1.ni⟩, k2, k3⟩
  · cases h
    obtain ⟨h1, _, h3⟩ := hb [] st _ _ _ hbd (inv_push (p, P) hI)
    exact ⟨⟨hI.cc_sub, hI.closed, h1.ni⟩, fun x hx => hx, h3⟩

theorem expandN_spec {wit : Wit} (hO : LangOrd A B (leAP o) (leBP o) (leABP o))
    (hr : OrdRefl o) (ht : OrdTrans o) (hW : WitOK A wit) (fuel : Nat) :
    ∀ (ws : List Pair), CallSpec o A B ws (expandN o A B wit fuel ws) := by
  induction fuel with
  | zero => exact fun _ _ _ _ _ _ _ _ h => nomatch h
  | succ fuel ih =>
    intro ws p P cc st v cc' st' h hI
    have hb := body_spec ⟨hO, ih ((p, P) :: ws), cachedCall_spec ht (ih ((p, P) :: ws)), postOK_maxElems hr ht, hW⟩
      p P
    cases expandN_case h with
    | byPreorder hpre => exact ⟨hI, fun x hx => hx, byPre_subO hpre⟩
    | inWorkset _ hws => exact ⟨hI, fun x hx => hx, covers_subO hws (fun x hx => List.mem_append_right _ hx)⟩
    | nonIncl x _ _ hx => exact ⟨hI, fun x hx => hx, niFind_refutes hO hx hI.ni⟩
    | body _ _ _ he =>
      exact callEndN_spec hr hI hb he.symm

theorem rootLoopN_spec {wit : Wit} (hO : LangOrd A B (leAP o) (leBP o) (leABP o))
    (hr : OrdRefl o) (ht : OrdTrans o) (hW : WitOK A wit) (fuel : Nat) (FB : List Nat) (fs : List Nat) :
    ∀ (st : St) (res : Except Tree St),
      rootLoopN o A B wit fuel FB fs st = some res → Inv o A B [] [] st → RootPost o A B FB fs st res := by
  induction fs with
  | nil =>
    intro st res h hI
    cases h
    exact ⟨⟨[], hI⟩, fun x hx => hx, fun _ hf => absurd hf List.not_mem_nil⟩
  | cons f fs ih =>
    intro st res h hI
    rw [rootLoopN] at h
    have hcall := expandN_spec hO hr ht hW fuel [] f FB
    split at h
    · cases h
    · next cc1 st1 heq =>
      obtain ⟨g1, g2, g3⟩ := hcall [] st _ _ _ heq hI
      refine rootPost_cons g2 (fun st' h2 => ?_) (ih st1 res h ⟨fun _ h => absurd h List.not_mem_nil, g1.closed, g1.ni⟩)
      exact subR_mono (fun x hx => h2 x (by rwa [List.append_nil] at hx)) (fun _ hs => hs) g3
    · next w cc1 st1 heq =>
      cases h
      exact ⟨f, List.mem_cons_self, (hcall [] st _ _ _ heq hI).2.2⟩

theorem runN_spec (hO : LangOrd A B (leAP o) (leBP o) (leABP o)) (hr : OrdRefl o)
    (ht : OrdTrans o) (hA : ∀ r, r ∈ A.rules → ∀ k, k ∈ r.kids → Productive A k) {fuel : Nat}
    {res : Except Tree (List Pair)} (h : runN o A B fuel = some res) : RunPost (downCertRB o A B) A B res :=
  runOf_spec (r := rootLoopN o A B (prodWit A) fuel (normS B.final) (dedup A.final) ⟨[], []⟩)
    (fun res he => rootLoopN_spec hO hr ht (witOK_prodWit hA) fuel _ _ _ res he (inv_init o A B)) h

theorem ordRefl_id : OrdRefl idOrd := ⟨fun q => by simp [idOrd], fun s => by simp [idOrd]⟩

theorem ordTrans_id : OrdTrans idOrd := by
  have htr : ∀ a b c : Nat, (a == b) = true → (b == c) = true → (a == c) = true := fun a b c h1 h2 => by
    rw [beq_iff_eq] at h1 h2 ⊢
    rw [h1, h2]
  exact ⟨htr, htr, fun _ _ _ _ h2 => (nomatch h2), fun _ _ _ h1 _ => (nomatch h1)⟩

theorem ordRefl_ordOf (R : Rel) (A B : TA) : OrdRefl (ordOf R A B) :=
  ⟨fun q => by simp [ordOf], fun s => by simp [ordOf]⟩

theorem reflClosure_trans {R : Rel} {Q : List Nat} (hR : ∀ a b c, (a, b) ∈ R → (b, c) ∈ R → (a, c) ∈ R) {a b c : Nat}
    (h1 : (a == b || (R.contains (a, b) && Q.contains b)) = true)
    (h2 : (b == c || (R.contains (b, c) && Q.contains c)) = true) :
    (a == c || (R.contains (a, c) && Q.contains c)) = true := by
  simp only [Bool.or_eq_true, beq_iff_eq, Bool.and_eq_true, List.contains_iff_mem] at h1 h2 ⊢
  rcases h1 with h1 | ⟨h1, hb⟩
  · rw [h1]; exact h2
  · rcases h2 with h2 | ⟨h2, h3⟩
    · rw [← h2]; exact Or.inr ⟨h1, hb⟩
    · exact Or.inr ⟨hR a b c h1 h2, h3⟩

theorem ordTrans_ordOf {R : Rel} (A B : TA) (hR : ∀ a b c, (a, b) ∈ R → (b, c) ∈ R → (a, c) ∈ R) :
    OrdTrans (ordOf R A B) := by
  refine ⟨fun _ _ _ => reflClosure_trans hR, fun _ _ _ => reflClosure_trans hR, fun a b s h1 h2 => ?_,
    fun a s s' h1 h2 => ?_⟩
  · simp only [ordOf, Bool.or_eq_true, beq_iff_eq, Bool.and_eq_true, List.contains_iff_mem] at h1 h2 ⊢
    rcases h1 with h1 | ⟨h1, _⟩
    · rw [h1]; exact h2
    · exact ⟨hR a b s h1 h2.1, h2.2⟩
  · simp only [ordOf, Bool.or_eq_true, beq_iff_eq, Bool.and_eq_true, List.contains_iff_mem] at h1 h2 ⊢
    rcases h2 with h2 | ⟨h2, h3⟩
    · rw [← h2]; exact h1
    · exact ⟨hR a s s' h1.1 h2, h3⟩

def transRelB (R : Rel) : Bool :=
  R.all (fun ab => R.all (fun bc => !(ab.2 == bc.1) || R.contains (ab.1, bc.2)))

theorem transRelB_sound {R : Rel} (h : transRelB R = true) : ∀ a b c, (a, b) ∈ R → (b, c) ∈ R → (a, c) ∈ R := by
  intro a b c h1 h2
  simp only [transRelB, List.all_eq_true, Bool.or_eq_true, Bool.not_eq_true', beq_eq_false_iff_ne, ne_eq,
    List.contains_iff_mem] at h
  rcases h (a, b) h1 (b, c) h2 with h3 | h3
  · exact absurd rfl h3
  · exact h3

theorem subR_id_iff {X : List Pair} {k : Nat} {S : List Nat} : SubO idOrd X k S ↔ Sub X k S := by
  constructor
  · rintro (⟨s, _, h⟩ | ⟨k', S', hx, hk, hall⟩)
    · simp [leABP, idOrd] at h
    · simp only [leAP, idOrd, beq_iff_eq] at hk
      refine ⟨S', by rw [hk]; exact hx, fun s' hs' => ?_⟩
      obtain ⟨s, hs, hle⟩ := hall s' hs'
      simp only [leBP, idOrd, beq_iff_eq] at hle
      rw [hle]; exact hs
  · rintro ⟨S', hx, hall⟩
    exact Or.inr ⟨k, S', hx, by simp [leAP, idOrd], fun s' hs' => ⟨s', hall s' hs', by simp [leBP, idOrd]⟩⟩

theorem downCertRB_id (A B : TA) (X : List Pair) : downCertRB idOrd A B X = downCertB A B X := by
  rw [Bool.eq_iff_iff, downCertRB_iff, downCertB_iff]
  simp only [DownCertR, DownCert, subR_id_iff]

/-- the children of all rules of `A` are productive (the precondition "no useless states" of the code, as far as it
is used) -/
def KidsProductive (A : TA) : Prop := ∀ r, r ∈ A.rules → ∀ k, k ∈ r.kids → Productive A k

theorem kidsProductive_removeUseless (A : TA) : KidsProductive (removeUseless A) :=
  (InclUp.trimmed_removeUseless A).1

def verdictOf : Option (Except Tree (List Pair)) → Option (Bool × Cert)
  | none => none
  | some (.ok X) => some (true, .closed X)
  | some (.error w) => some (false, .witness w)

theorem finish_eq_verdictOf {certOk : List Pair → Bool} {r : Option (Except Tree (List Pair))}
    (h : ∀ res, r = some res → RunPost certOk A B res) :
    finish certOk A B r = verdictOf r := by
  rcases r with _ | (w | X)
  · rfl
  · have h' : accepts A w = true ∧ accepts B w = false := h _ rfl
    simp only [finish, verdictOf, h'.1, h'.2, Bool.not_false, Bool.and_self, if_true]
  · have h' : certOk X = true := h _ rfl
    simp only [finish, verdictOf, h', if_true]

theorem runPost_id {res : Except Tree (List Pair)} (h : RunPost (downCertRB idOrd A B) A B res) :
    RunPost (downCertB A B) A B res := by
  cases res with
  | ok X => exact (downCertRB_id A B X).symm.trans h
  | error w => exact h

end InclDown

open InclDown

/-- on an `A` without unproductive children the recursive model returns exactly what its exploration found: the final
check never refuses, `none` means that the fuel (the nesting depth of the calls) was exhausted -/
theorem inclDownRec_eq_run {A B : TA} (hA : KidsProductive A) (fuel : Nat) :
    inclDownRec A B fuel = verdictOf (run idOrd A B fuel) := by
  unfold inclDownRec
  exact finish_eq_verdictOf fun _ hres => runPost_id (run_spec (idOrd_langOrd A B) ordRefl_id hA hres)

theorem inclDownNonrec_eq_run {A B : TA} (hA : KidsProductive A) (fuel : Nat) :
    inclDownNonrec A B fuel = verdictOf (runN idOrd A B fuel) := by
  unfold inclDownNonrec
  exact finish_eq_verdictOf fun _ hres =>
    runPost_id (runN_spec (idOrd_langOrd A B) ordRefl_id ordTrans_id hA hres)

/-- the models of `CheckInclusion` (operands sanitised first) need no hypothesis -/
theorem checkInclDownRec_eq_run (A B : TA) (fuel : Nat) :
    checkInclDownRec A B fuel = verdictOf (run idOrd (removeUseless A) (removeUseless B) fuel) :=
  inclDownRec_eq_run (kidsProductive_removeUseless A) fuel

theorem checkInclDownNonrec_eq_run (A B : TA) (fuel : Nat) :
    checkInclDownNonrec A B fuel = verdictOf (runN idOrd (removeUseless A) (removeUseless B) fuel) :=
  inclDownNonrec_eq_run (kidsProductive_removeUseless A) fuel

theorem inclDownSim_eq_run {A B : TA} {R : Rel} (hA : KidsProductive A)
    (hsim : isDownSimB (unionDisjoint A B) R = true) (hdis : disjointB A B = true) (fuel : Nat) :
    inclDownSim A B R fuel = verdictOf (run (ordOf R A B) A B fuel) := by
  unfold inclDownSim
  rw [hsim, hdis]
  simp only [Bool.and_self, if_true]
  exact finish_eq_verdictOf fun _ hres => run_spec (ordOf_langOrd hsim hdis) (ordRefl_ordOf R A B) hA hres

/-- the non-recursive variant prunes the sets of the choice functions and caches subsumed pairs: the relation must be
transitive -/
theorem inclDownNonrecSim_eq_run {A B : TA} {R : Rel} (hA : KidsProductive A)
    (hsim : isDownSimB (unionDisjoint A B) R = true) (hdis : disjointB A B = true)
    (hR : ∀ a b c, (a, b) ∈ R → (b, c) ∈ R → (a, c) ∈ R) (fuel : Nat) :
    inclDownNonrecSim A B R fuel = verdictOf (runN (ordOf R A B) A B fuel) := by
  unfold inclDownNonrecSim
  rw [hsim, hdis]
  simp only [Bool.and_self, if_true]
  exact finish_eq_verdictOf fun _ hres =>
    runN_spec (ordOf_langOrd hsim hdis) (ordRefl_ordOf R A B) (ordTrans_ordOf A B hR) hA hres

namespace InclDownInvEx
open InclDownEx InclUp

-- the hypotheses are satisfiable: trimmed operands, the identity, a validated simulation
example : KidsProductive exG := (trimmed_of_allUsefulB (by decide +kernel)).1
example : KidsProductive exS1 := (trimmed_of_allUsefulB (by decide +kernel)).1
example : OrdRefl (ordOf [(5, 6)] exS1 exS2) ∧ OrdTrans (ordOf [(5, 6)] exS1 exS2) :=
  ⟨ordRefl_ordOf _ _ _, ordTrans_ordOf _ _ (transRelB_sound (by decide +kernel))⟩
example : WitOK exG (prodWit exG) := witOK_prodWit (trimmed_of_allUsefulB (by decide +kernel)).1
-- the invariant on a concrete call: `(1, {3,4})` of `exS1`/`exS2` from the initial state
example : CallSpec idOrd exS1 exS2 [] (expand idOrd exS1 exS2 (prodWit exS1) 5 []) :=
  expand_spec (idOrd_langOrd _ _) ordRefl_id (witOK_prodWit (trimmed_of_allUsefulB (by decide +kernel)).1) 5 []
example : run idOrd exH exG 10 = some (.ok [(3, [1]), (4, [1]), (9, [2])]) := rfl
example : downCertRB idOrd exH exG [(3, [1]), (4, [1]), (9, [2])] = true :=
  run_ok_cert (idOrd_langOrd _ _) ordRefl_id (trimmed_of_allUsefulB (by decide +kernel)).1 (fuel := 10) rfl
example : run idOrd exG exH 10 = some (.error (.node 2 [.node 0 [], .node 1 []])) := rfl
example : accepts exG (.node 2 [.node 0 [], .node 1 []]) = true ∧ accepts exH (.node 2 [.node 0 [], .node 1 []]) = false :=
  run_error_sound (idOrd_langOrd _ _) ordRefl_id (trimmed_of_allUsefulB (by decide +kernel)).1 (fuel := 10) rfl
example : inclDownRec exG exH 10 = verdictOf (run idOrd exG exH 10) :=
  inclDownRec_eq_run (trimmed_of_allUsefulB (by decide +kernel)).1 10
example : inclDownNonrec exU1 exU2 10 = verdictOf (runN idOrd exU1 exU2 10) :=
  inclDownNonrec_eq_run (trimmed_of_allUsefulB (by decide +kernel)).1 10
example : inclDownSim exS1 exS2 [(5, 6)] 10 = verdictOf (run (ordOf [(5, 6)] exS1 exS2) exS1 exS2 10) :=
  inclDownSim_eq_run (trimmed_of_allUsefulB (by decide +kernel)).1 (by decide +kernel) (by decide +kernel) 10
example : inclDownNonrecSim exS1 exS2 [(5, 6)] 10 = verdictOf (runN (ordOf [(5, 6)] exS1 exS2) exS1 exS2 10) :=
  inclDownNonrecSim_eq_run (trimmed_of_allUsefulB (by decide +kernel)).1 (by decide +kernel) (by decide +kernel)
    (transRelB_sound (by decide +kernel)) 10
-- the hypothesis on `A` is needed: `h(7) → 1` with the unproductive state 7 makes the exploration answer `false` with
-- a tree that `A` does not accept, and the model refuses
example : run idOrd exUs exA 10 = some (.error (.node 3 [.node 0 []])) := rfl
example : accepts exUs (.node 3 [.node 0 []]) = false := by decide +kernel
example : inclDownRec exUs exA 10 = none := rfl

end InclDownInvEx

end Vata
