import Vata.Proofs.CowHeapX
/-!
# C11 (extended) – Explicit automata are values: final states, move, results that share storage with their operands

> After an explicit tree or finite automaton is copied, assigned or moved, any later modification of one object (adding
> rules, changing final states, clearing) is never visible through another object, and automata returned by operations
> stay unchanged when their operands are modified or destroyed afterwards.

`Vata/Properties/C11.lean` proves this for the operations of `CowHeap.HOp` (construct, copy, copy-assign, `AddTransition`,
the transition half of `Clear`, destroy).  This file is about the extended model `Vata/CowHeapX.lean`:

* **Specification (L0).**  `CowHeapX.specStepX` on `Nat → Option Store.Store`: every automaton object owns an independent
  value `Store.Store` (rule container `clusters` AND `final`, `Vata/Store.lean`).  An operation of a history
  (`CowHeapX.HOpX`) changes the value of its target handle only (`CowHeapX.targets`; a move also ends its source):
  `setFinal` / `setFinals` / `eraseFinal` / `clear` are `Store.setFinal` / `Store.setFinals` / `Store.eraseFinal` /
  `Store.clear`, `add` is `Store.addTransition`, `copy src dst copyTrans copyFinal` is the selective copy constructor,
  `move` / `moveAssign` hand the value of `src` over to `dst`, `shareAll src dst keepF` (RemoveUselessStates when nothing is
  removed; RemoveUnreachableStates returning `*this`) gives `dst` the rules of `src` and the kept final states,
  `shareClusters src dst keep` (RemoveUnreachableStates) gives `dst` the clusters of the kept states,
  `unionDisj a b dst` (UnionDisjointStates) gives `dst` the union `CowHeapX.unionStore`.
* **Model of the code.**  `CowHeapX.stepX` on `CowHeapX.HeapX` = the three-level reference-counted heap of
  `Vata/CowHeap3.lean` plus a final set per handle.  A move changes the owner of the root pointer without counting;
  `shareAll` makes the result point to the operand's map node; `shareClusters` writes the operand's cluster POINTERS into a
  freshly allocated map node (in place, without `uniqueClusterMap()`); `unionDisj` copies the left operand, clones its map
  node (`uniqueClusterMap()`), and writes the right operand's cluster pointers into the clone.
* **The property** is again the refinement `absX ∘ stepX = specStepX ∘ absX` along every history from the empty heap,
  with the reference-count invariant `InvX` (use count = number of handles / parent entries pointing to the node, at all
  three levels).
-/
namespace Vata.Props
open Vata.CowHeapX (HOpX HeapX stepX absX specStepX specInitX initX InvX invBX targets ValX unionStore ofHOp reindexOps)

/-! ### every history: handles behave as independent values -/

/-- the extended heap model refines the value semantics for every history of operations from the empty heap: what is
read through the handles (rules and final states) after the history is what the independent-values specification
computes -/
theorem C11_ext_history_isolation (ops : List HOpX) :
    absX (ops.foldl stepX initX) = ops.foldl specStepX specInitX :=
  CowHeapX.history_isolationX ops

/-- a history with `RemoveUnreachableStates` (`shareClusters`), writes to operand and result, `UnionDisjointStates`,
`Clear`: the union (object 5) shares cluster nodes with both operands and shows none of the later modifications -/
example : absX (CowHeapX.CowExX.ops2.foldl stepX initX) 5 =
    some ⟨[(5, [(7, [[], [5, 5]])]), (6, [(8, [[5]])]), (10, [(7, [[]])])], [6, 5, 10]⟩ := by decide +kernel
example : CowHeapX.CowExX.H1.core.ment 8 = [(5, 1), (6, 3)] ∧ CowHeapX.CowExX.H1.core.crc 1 = 2 := by decide +kernel

/-- one step, from any heap that satisfies the invariant: every operation acts on the handle values exactly like the
value-level specification and keeps the reference-count invariant.  The hypothesis `InvX H` is needed: on a heap whose
`use_count` is too small a shared cluster node is modified in place (`CowExX.Hbad` below). -/
theorem C11_ext_step_refines_values (H : HeapX) (op : HOpX) (hI : InvX H) :
    absX (stepX H op) = specStepX (absX H) op ∧ InvX (stepX H op) :=
  CowHeapX.cowX_refines_values hI op

example : InvX CowHeapX.CowExX.H1 := (CowHeapX.invBX_iff _).mp (by decide +kernel)
/-- without the invariant the conclusion fails: the operand of `RemoveUnreachableStates` changes when the result is
modified -/
example : invBX CowHeapX.CowExX.Hbad = false ∧
    absX (stepX CowHeapX.CowExX.Hbad (.add 2 5 (8, []))) 1 ≠ absX CowHeapX.CowExX.Hbad 1 := by decide +kernel

/-! ### the reference-count invariant -/

/-- after every history, at all three levels: the `use_count` of every allocated node equals the number of handles /
parent entries pointing to it, pointers go to allocated nodes, every allocated node is in use; the executable checker
decides exactly this -/
theorem C11_ext_invariant (ops : List HOpX) :
    InvX (ops.foldl stepX initX) ∧ invBX (ops.foldl stepX initX) = true :=
  ⟨CowHeapX.history_invX ops, (CowHeapX.invBX_iff _).mpr (CowHeapX.history_invX ops)⟩

example : (CowHeapX.CowExX.ops1.foldl stepX initX).core.ml = [8, 0] := by decide +kernel

/-- the invariant is preserved by every single operation -/
theorem C11_ext_invariant_step (H : HeapX) (op : HOpX) (hI : InvX H) : InvX (stepX H op) := CowHeapX.invX_step hI op

example : InvX CowHeapX.CowExX.H2 := CowHeapX.history_invX _

/-- destruction frees everything: after any history that leaves no live object, no node of any level is left -/
theorem C11_ext_no_garbage (ops : List HOpX) (hl : (ops.foldl stepX initX).core.hl = []) :
    (ops.foldl stepX initX).core.ml = [] ∧ (ops.foldl stepX initX).core.cl = [] ∧
      (ops.foldl stepX initX).core.tl = [] :=
  CowHeapX.no_garbageX (CowHeapX.history_invX ops) hl

example : (stepX CowHeapX.CowExX.H4 (.destroy 4)).core.hl = [] := by decide +kernel

/-! ### never visible through another object -/

/-- after any history, one more operation leaves the value (rules and final states) read through every handle that is
not a target of the operation exactly as it was -/
theorem C11_ext_other_handles_unchanged (ops : List HOpX) (op : HOpX) (x : Nat) (hx : x ∉ targets op) :
    absX (stepX (ops.foldl stepX initX) op) x = absX (ops.foldl stepX initX) x :=
  CowHeapX.stepX_other (CowHeapX.history_invX ops) op x hx

/-- objects 1 and 2 share two cluster nodes after `RemoveUnreachableStates`; a write through 2 is not seen through 1 -/
example : absX (stepX CowHeapX.CowExX.H1 (.add 2 5 (8, []))) 1 = absX CowHeapX.CowExX.H1 1 ∧
    absX (stepX CowHeapX.CowExX.H1 (.add 2 5 (8, []))) 2 ≠ absX CowHeapX.CowExX.H1 2 := by decide +kernel

/-- "automata returned by operations stay unchanged when their operands are modified or destroyed afterwards": after any
history `ops`, an object `x` keeps its value through every continuation `later` in which `x` itself is never a target –
whatever is done to the objects it shares storage with -/
theorem C11_ext_result_survives (ops later : List HOpX) (x : Nat) (hx : ∀ op, op ∈ later → x ∉ targets op) :
    absX ((ops ++ later).foldl stepX initX) x = absX (ops.foldl stepX initX) x := by
  rw [List.foldl_append]
  exact CowHeapX.untouched_keeps_value (CowHeapX.history_invX ops) later x hx

/-- the union of 1 and 2 is moved into 4, written to, and both operands are destroyed: the value stays -/
example : absX CowHeapX.CowExX.H4 4 =
    some ⟨[(5, [(7, [[], [5]])]), (6, [(8, [[5]])]), (4, [(9, [[4]])])], [6]⟩ ∧ absX CowHeapX.CowExX.H4 1 = none := by
  decide +kernel

/-! ### what the operations return -/

/-- move construction and move assignment hand the value over: `dst` holds what `src` held, `src` is gone (and by
`C11_ext_other_handles_unchanged` nothing else changes) -/
theorem C11_ext_move (ops : List HOpX) (src dst : Nat) (s : ValX) (hs : absX (ops.foldl stepX initX) src = some s) :
    (absX (ops.foldl stepX initX) dst = none →
      absX (stepX (ops.foldl stepX initX) (.move src dst)) dst = some s ∧
      absX (stepX (ops.foldl stepX initX) (.move src dst)) src = none) ∧
    (∀ t, absX (ops.foldl stepX initX) dst = some t → src ≠ dst →
      absX (stepX (ops.foldl stepX initX) (.moveAssign src dst)) dst = some s ∧
      absX (stepX (ops.foldl stepX initX) (.moveAssign src dst)) src = none) :=
  ⟨CowHeapX.move_value (CowHeapX.history_invX ops) hs,
   fun _ hd hne => CowHeapX.moveAssign_value (CowHeapX.history_invX ops) hs hd hne⟩

example : absX CowHeapX.CowExX.H2 5 ≠ none ∧ absX CowHeapX.CowExX.H2 6 = none ∧
    absX (stepX CowHeapX.CowExX.H2 (.move 5 6)) 6 = absX CowHeapX.CowExX.H2 5 := by decide +kernel

/-- the selective copy constructor -/
theorem C11_ext_copy (ops : List HOpX) (src dst : Nat) (s : ValX) (copyTrans copyFinal : Bool)
    (hs : absX (ops.foldl stepX initX) src = some s) (hd : absX (ops.foldl stepX initX) dst = none) :
    absX (stepX (ops.foldl stepX initX) (.copy src dst copyTrans copyFinal)) dst =
      some ⟨if copyTrans then s.clusters else [], if copyFinal then s.final else []⟩ :=
  CowHeapX.copy_value (CowHeapX.history_invX ops) hs hd copyTrans copyFinal

example : absX CowHeapX.CowExX.H1 1 ≠ none ∧ absX CowHeapX.CowExX.H1 3 = none := by decide +kernel

/-- results that share storage with an operand on purpose have the intended value:
`shareAll` (RemoveUselessStates with nothing to remove, RemoveUnreachableStates returning `*this`): rules of the operand,
kept final states; `shareClusters` (RemoveUnreachableStates): clusters of the kept states, final states of the operand;
`unionDisj` (UnionDisjointStates): `unionStore` -/
theorem C11_ext_sharing_results (ops : List HOpX) (src dst : Nat) (s : ValX)
    (hs : absX (ops.foldl stepX initX) src = some s) (hd : absX (ops.foldl stepX initX) dst = none) :
    (∀ keepF, absX (stepX (ops.foldl stepX initX) (.shareAll src dst keepF)) dst =
      some ⟨s.clusters, s.final.filter keepF⟩) ∧
    (∀ keep, absX (stepX (ops.foldl stepX initX) (.shareClusters src dst keep)) dst =
      some ⟨s.clusters.filter (fun kc => keep kc.1), s.final⟩) ∧
    (∀ b t, absX (ops.foldl stepX initX) b = some t →
      absX (stepX (ops.foldl stepX initX) (.unionDisj src b dst)) dst = some (unionStore s t)) :=
  ⟨CowHeapX.shareAll_value (CowHeapX.history_invX ops) hs hd,
   CowHeapX.shareClusters_value (CowHeapX.history_invX ops) hs hd,
   fun _ _ hb => CowHeapX.unionDisj_value (CowHeapX.history_invX ops) hs hb hd⟩

example : absX CowHeapX.CowExX.H1 2 = some ⟨[(5, [(7, [[]])]), (6, [(8, [[5]])])], [6]⟩ := by decide +kernel

/-- when the state sets are disjoint (what `UnionDisjointStates` `assert`s) the union is the concatenation of the rule
containers and the union of the final sets -/
theorem C11_ext_union_disjoint (s t : ValX) (hnd : (t.clusters.map Prod.fst).Nodup)
    (hdis : ∀ kc, kc ∈ t.clusters → s.clusters.lookup kc.1 = none) :
    unionStore s t = ⟨s.clusters ++ t.clusters, (Store.setFinals s t.final).final⟩ := by
  unfold unionStore
  rw [CowHeapX.missing_of_disjoint _ _ hnd hdis]

example : unionStore ⟨[(5, [(7, [[]])])], [5]⟩ ⟨[(6, [(8, [[5]])])], [6]⟩ =
    ⟨[(5, [(7, [[]])]), (6, [(8, [[5]])])], [5, 6]⟩ := by decide +kernel

/-- `ReindexStates(dst, index)` (and `Union`, which is two of them into a new object) is a sequence of `SetStateFinal` and
insertions through the `unique…` helpers into `dst`: no other object changes -/
theorem C11_ext_reindex_into (ops : List HOpX) (s : ValX) (dst : Nat) (idx : Nat → Nat) (addFinal : Bool) (x : Nat)
    (hx : x ≠ dst) :
    absX ((reindexOps s dst idx addFinal).foldl stepX (ops.foldl stepX initX)) x = absX (ops.foldl stepX initX) x :=
  CowHeapX.reindexOps_other (CowHeapX.history_invX ops) s dst idx addFinal x hx

example : absX (CowHeapX.CowExX.opsU.foldl stepX CowHeapX.CowExX.H1) 3 =
    some ⟨[(15, [(7, [[]])]), (16, [(8, [[15]])]), (25, [(7, [[], [25, 25]])])], [16, 25]⟩ := by decide +kernel

/-! ### the extended model extends the model of `C11.lean` -/

/-- on histories of the old operations the shared part of the extended heap IS the heap of `Vata/CowHeap3.lean`, and
the rule containers read through the handles are the same -/
theorem C11_ext_conservative (ops : List CowHeap.HOp) (x : Nat) :
    ((ops.map ofHOp).foldl stepX initX).core = ops.foldl CowHeap3.step CowHeap3.init ∧
    (absX ((ops.map ofHOp).foldl stepX initX) x).map (·.clusters) =
      CowHeap3.abs (ops.foldl CowHeap3.step CowHeap3.init) x :=
  CowHeapX.extends_CowHeap3 ops x

example : (absX ((CowHeap3.CowEx3.ops1.map ofHOp).foldl stepX initX) 1).map (·.clusters) =
    some [(5, [(7, [[]]), (8, [[]])])] := by decide +kernel

/-!
## items of the "not yet proved" block of `C11.lean` closed here

* **Final states** – `SetStateFinal`, `SetStatesFinal`, `EraseFinalStates`, the final-state half of `Clear`, and the final
  sets in copy / assignment: operations of `HOpX`, the value is a whole `Store.Store`
  (`C11_ext_history_isolation`, `C11_ext_other_handles_unchanged`).
* **Move** construction / move assignment (`C11_ext_move`), and the selective copy constructor (`C11_ext_copy`).
* **Library operations that return sharing results** – `RemoveUnreachableStates` (both exits: `*this`, and the new map node
  holding the operand's cluster pointers), `RemoveUselessStates` with `result.transitions_ = transitions_`,
  `UnionDisjointStates`, `ReindexStates(dst, …)` / `Union`: `C11_ext_sharing_results`, `C11_ext_result_survives`,
  `C11_ext_reindex_into`.

## still not proved

* that the reachability / usefulness COMPUTATION inside these library operations yields the right `keep` / `keepF` (that
  is the subject of C03/C04): here `keep` is a parameter.  `RemoveUselessStates` with `remaining ≠ 0` builds its result by
  `internalAddTransition` (a sequence of `add`) and is not spelled out as a derived operation.
* state after a move: the moved-from C++ object still exists (null `transitions_`); the model treats it as dead.  Using it
  (other than destroying it or assigning to it, which is `copy src dst` on the heap) is not a C++ program we model.
* explicit finite automata, the process-wide caches, and the faithfulness of `stepX` as a transcription of the C++ remain
  as described in `C11.lean`.
-/
end Vata.Props
