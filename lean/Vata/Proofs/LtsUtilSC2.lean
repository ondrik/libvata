import Vata.Proofs.LtsUtilSC

/-!
# `SharedCounter` as coded refines a table of numbers (part 2: `decr`)
-/
namespace Vata.LU.SC
namespace P

abbrev decA (a : A) (idx : Nat) : A := setA a idx (a.at idx - 1)

/-- from `m` to `m'` no data column of a row with two or more references has been written -/
def NoSharedWrite (cfg : Cfg) (cs : List (Option Cnt)) (m m' : Mem) : Prop :=
  ∀ x, 2 ≤ refs x cs → ∀ col, col < cfg.rowSize → cell m' x col = cell m x col

variable {cfg : Cfg} {m : Mem} {cs : List (Option Cnt)} {aw : AWorld} {i idx p : Nat} {c : Cnt} {a : A} {row : Row}

namespace Focus
variable (F : Focus cfg m cs aw i idx c a row) (hpos : 0 < a.at idx)
include F hpos

/-- `--master_` -/
theorem master_decr : row.master - 1 = sumTo (rowOf cfg (decA a idx) idx) cfg.rowSize := by
  have := F.sum_setA (a.at idx - 1)
  rw [← F.rowInv.master] at this
  show _ = sumTo (rowOf cfg (setA a idx (a.at idx - 1)) idx) _
  generalize sumTo (rowOf cfg (setA a idx (a.at idx - 1)) idx) cfg.rowSize = s at this ⊢
  omega

theorem master_pos : row.master ≠ 0 := by
  have := le_sumTo (f := rowOf cfg a idx) F.col
  rw [rowOf_idx, ← F.rowInv.master] at this
  exact Nat.ne_of_gt (Nat.lt_of_lt_of_le hpos this)

theorem rowInv_decr_none {m' : Mem} {cs' : List (Option Cnt)} (hph : a.phase = .running)
    (hamo : AtMostOne (rowOf cfg (decA a idx) idx) cfg.rowSize) :
    RowInv cfg m' cs' a.phase (rowOf cfg (decA a idx) idx) ⟨row.master - 1, none⟩ :=
  ⟨F.master_decr hpos, fun _ => ⟨(fun h => nomatch hph.symm.trans h), hamo⟩, nofun⟩

theorem rowInv_decr_some {m' : Mem} {cs' : List (Option Cnt)} {q : Nat} (hph : a.phase = .running)
    (hd : row.data = some p) (lt : q < m'.next) (len : (m'.cells.get q).length = cfg.rowSize + 1)
    (hv : cell m' q (idx % cfg.rowSize) = cell m p (idx % cfg.rowSize) - 1)
    (ho : ∀ col, col < cfg.rowSize → col ≠ idx % cfg.rowSize → cell m' q col = cell m p col)
    (run : cell m' q cfg.rowSize = refs q cs') :
    RowInv cfg m' cs' a.phase (rowOf cfg (decA a idx) idx) ⟨row.master - 1, some q⟩ := by
  refine ⟨F.master_decr hpos, nofun, fun q' hq' => ?_⟩
  cases hq'
  refine .of_running hph lt len (F.cols_setA (fun _ => by rw [hv, F.cell_eq hd hpos]) fun col hc hne hp => ?_) run
  rw [ho col hc hne]
  exact (F.rowInv.data p hd).cols col hc hp

end Focus

/-- `decr`, everything in `master_` -/
theorem decr_none (F : Focus cfg m cs aw i idx c a row) (hph : a.phase = .running) (hpos : 0 < a.at idx)
    (hd : row.data = none) :
    Inv cfg ⟨m, cs.set i (some (c.set (idx / cfg.rowSize) ⟨row.master - 1, none⟩))⟩ (aw.set i (some (decA a idx))) ∧
    row.master - 1 = a.at idx - 1 := by
  have hamo := (F.rowInv.noData hd).2
  refine ⟨F.step_quiet _ hd.symm rfl rfl (fun _ h => nomatch hd.symm.trans h) (fun _ _ _ => rfl)
    (F.rowInv_decr_none hpos hph (hamo.mono fun col hc => ?_)), ?_⟩
  · rw [rowOf_setA a idx _ F.vl col hc]
    split
    · rename_i h; rw [h, rowOf_idx]; exact Nat.sub_le ..
    · exact Nat.le_refl _
  · rw [F.rowInv.master, hamo.sum_eq F.col (rowOf_idx ▸ hpos), rowOf_idx]

/-- `decr`, branch "move everything to `master_`": the row is dropped (count - 1, reclaimed at 0) -/
theorem decr_drop (F : Focus cfg m cs aw i idx c a row) (hph : a.phase = .running) (hpos : 0 < a.at idx)
    (hd : row.data = some p) (hcond : row.master = cell m p (idx % cfg.rowSize) ∨ row.master = 2) :
    Inv cfg ⟨release cfg m p, cs.set i (some (c.set (idx / cfg.rowSize) ⟨row.master - 1, none⟩))⟩
      (aw.set i (some (decA a idx))) ∧
    dec64 (cell m p (idx % cfg.rowSize)) = a.at idx - 1 ∧ NoSharedWrite cfg cs m (release cfg m p) := by
  have hdi := F.rowInv.data p hd
  have hv := F.cell_eq hd hpos
  have hrc := hdi.run hph
  have hppos : 0 < refs p cs := refs_pos_of_get F.hc F.hr hd
  have hcnt : cell (release cfg m p) p cfg.rowSize = cell m p cfg.rowSize - 1 :=
    release_cnt (hdi.len ▸ Nat.lt_succ_self _) (hrc ▸ hppos)
  refine ⟨F.step _ (Nat.le_of_eq (release_next ..).symm) nofun
    (fun p' hp' _ => by cases hd.symm.trans hp'; exact ⟨release_same .., by rw [hcnt]; omega⟩)
    (fun p' hp' _ _ => release_get cfg m p fun e => hp' (e ▸ hd))
    (F.rowInv_decr_none hpos hph ?_) (release_nodup _ _ _ F.inv.nodup (F.inv.free_not_ref hppos)) fun x hx => ⟨nofun, ?_⟩,
    by rw [hv, dec64_pos hpos], fun x _ col hc => (release_same cfg m p x).2 col hc⟩
  · -- the remaining columns: all 0 if `master_` was the entry itself, one of them 1 if `master_` was 2
    by_cases hs : sumTo (rowOf cfg a idx) cfg.rowSize = rowOf cfg a idx (idx % cfg.rowSize)
    · refine atMostOne_of_zero (j := idx % cfg.rowSize) fun col hc hne => ?_
      rw [rowOf_setA a idx _ F.vl col hc, if_neg hne]
      exact sumTo_eq_single F.col hs col hc hne
    · apply atMostOne_of_sum_le_one
      have hm2 : row.master = 2 := hcond.resolve_left fun h => hs (by rw [← F.rowInv.master, h, hv, rowOf_idx])
      exact Nat.le_of_eq ((F.master_decr hpos).symm.trans (by rw [hm2]))
  · refine ((release_free cfg m p x).1 hx).imp_right fun ⟨h, h0⟩ => ?_
    subst h
    rw [dec64_pos (hrc ▸ hppos)] at h0
    exact ⟨hd, by omega⟩

/-- `decr`, the row has one sharer: the column is decremented in place -/
theorem decr_inplace (F : Focus cfg m cs aw i idx c a row) (hph : a.phase = .running) (hpos : 0 < a.at idx)
    (hd : row.data = some p) (hrc1 : ¬ cell m p cfg.rowSize > 1) :
    Inv cfg ⟨setCell m p (idx % cfg.rowSize) (dec64 (cell m p (idx % cfg.rowSize))),
        cs.set i (some (c.set (idx / cfg.rowSize) ⟨row.master - 1, some p⟩))⟩ (aw.set i (some (decA a idx))) ∧
    dec64 (cell m p (idx % cfg.rowSize)) = a.at idx - 1 ∧
    NoSharedWrite cfg cs m (setCell m p (idx % cfg.rowSize) (dec64 (cell m p (idx % cfg.rowSize)))) := by
  have hdi := F.rowInv.data p hd
  have hv := F.cell_eq hd hpos
  have hrc := hdi.run hph
  have hp1 : refs p cs = 1 :=
    Nat.le_antisymm (hrc ▸ Nat.le_of_not_lt hrc1) (refs_pos_of_get F.hc F.hr hd)
  have hget : ∀ x, x ≠ p → (setCell m p (idx % cfg.rowSize) (a.at idx - 1)).cells.get x = m.cells.get x :=
    fun x hx => setCell_get_ne _ _ _ _ hx
  have hcolrs : idx % cfg.rowSize ≠ cfg.rowSize := Nat.ne_of_lt F.col
  rw [hv, dec64_pos hpos]
  refine ⟨F.step_quiet _ hd.symm rfl rfl (fun p' hp' => ?_) (fun p' hp' _ => hget p' fun e => hp' (e ▸ hd))
    (F.rowInv_decr_some hpos hph hd hdi.lt ((setCell_len ..).trans hdi.len) ?_ (fun col _ hne => ?_) ?_), rfl,
    fun x hx col _ => cell_of_get (hget x fun e => ?_) col⟩
  · cases hd.symm.trans hp'; exact hp1
  · rw [hv]; exact cell_setCell_same (hdi.len ▸ Nat.lt_succ_of_lt F.col)
  · exact cell_setCell_ne_col _ _ _ _ _ hne
  · rw [cell_setCell_ne_col _ _ _ _ _ (Ne.symm hcolrs), F.refs_row_same (row' := ⟨row.master - 1, some p⟩) hd.symm]; exact hrc
  · rw [e, hp1] at hx; exact absurd hx (by decide)

/-- `decr`, the row has two or more sharers: copy on write -/
theorem decr_copy (F : Focus cfg m cs aw i idx c a row) (hph : a.phase = .running) (hpos : 0 < a.at idx)
    (hd : row.data = some p) :
    Inv cfg ⟨(cow cfg m p (idx % cfg.rowSize)).1,
        cs.set i (some (c.set (idx / cfg.rowSize) ⟨row.master - 1, some (cow cfg m p (idx % cfg.rowSize)).2.1⟩))⟩
      (aw.set i (some (decA a idx))) ∧
    (cow cfg m p (idx % cfg.rowSize)).2.2 = a.at idx - 1 ∧
    NoSharedWrite cfg cs m (cow cfg m p (idx % cfg.rowSize)).1 := by
  have hdi := F.rowInv.data p hd
  have hv := F.cell_eq hd hpos
  have hrc := hdi.run hph
  have hppos : 0 < refs p cs := refs_pos_of_get F.hc F.hr hd
  have hcow := cow_spec (cfg := cfg) (m := m) (cs := cs) (p := p) (col := idx % cfg.rowSize) F.inv.nodup F.inv.free
    (fun x hx => (F.inv.ref hx).1) hppos hdi.len F.col (hv ▸ hpos)
  generalize (cow cfg m p (idx % cfg.rowSize)).1 = m' at *
  generalize (cow cfg m p (idx % cfg.rowSize)).2.1 = q at *
  generalize (cow cfg m p (idx % cfg.rowSize)).2.2 = out at *
  have hA : refs q cs = if row.data = some q then 1 else 0 := by
    rw [hcow.fresh, hd, if_neg fun e => hcow.ne (Option.some.inj e).symm]
  refine ⟨F.step _ hcow.pop.mono (fun q' hq' => by cases hq'; exact hA)
    (fun p' hp' _ => by cases hd.symm.trans hp'; exact ⟨hcow.same, by rw [hcow.cnt]; omega⟩)
    (fun p' hp hp' _ => hcow.other p' (fun e => hp (e ▸ hd)) fun e => hp' (e ▸ rfl))
    (F.rowInv_decr_some hpos hph hd hcow.pop.lt hcow.len hcow.atCol hcow.atOther (hcow.one.trans (F.refs_new rfl hA).symm))
    hcow.pop.nd fun x hx => ⟨fun e => hcow.pop.nf (Option.some.inj e ▸ hx), Or.inl (hcow.pop.sub x hx)⟩,
    by rw [hcow.out, hv], fun x hx col hc => ?_⟩
  · by_cases hxp : x = p
    · subst hxp; exact hcow.same.2 col hc
    · exact cell_of_get (hcow.other x hxp fun e => by rw [e, hcow.fresh] at hx; exact absurd hx (by decide)) col

theorem decr_inv {l q : Nat} (hinv : Inv cfg ⟨m, cs⟩ aw) (hc : cs.getD i none = some c)
    (ha : aw.getD i none = some a) (hk : keyIdx cfg l q = some idx) (hph : a.phase = .running)
    (hidx : idx < a.rows * cfg.rowSize) (hpos : 0 < a.at idx) :
    ∃ r, decr cfg m c l q = some r ∧
      Inv cfg ⟨r.1, cs.set i (some r.2.1)⟩ (aw.set i (some (decA a idx))) ∧ r.2.2 = a.at idx - 1 ∧
      NoSharedWrite cfg cs m r.1 := by
  obtain ⟨hloc, row, F⟩ := focus hinv hc ha hk hidx
  unfold decr
  simp only [hloc, F.hr, if_neg (F.master_pos hpos)]
  cases hd : row.data with
  | none =>
    obtain ⟨h1, h2⟩ := decr_none F hph hpos hd
    exact ⟨_, rfl, h1, h2, fun _ _ _ _ => rfl⟩
  | some p =>
    simp only
    by_cases hcond : row.master = cell m p (idx % cfg.rowSize) ∨ row.master = 2
    · rw [if_pos hcond]
      exact ⟨_, rfl, show Inv cfg ⟨release cfg m p, _⟩ _ ∧ _ ∧ NoSharedWrite cfg cs m (release cfg m p) from
        decr_drop F hph hpos hd hcond⟩
    · rw [if_neg hcond]
      by_cases hrc : cell m p cfg.rowSize > 1
      · rw [if_pos hrc]
        exact ⟨((cow cfg m p (idx % cfg.rowSize)).1, _, _), rfl, decr_copy F hph hpos hd⟩
      · rw [if_neg hrc]
        exact ⟨_, rfl, decr_inplace F hph hpos hd hrc⟩

end P
end Vata.LU.SC
