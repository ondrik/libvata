import Vata.Lang
import Vata.UpCert
import Vata.DownCert
import Vata.Proofs.InclUp
import Vata.Proofs.InclUpTotal
import Vata.Proofs.InclUpBdd
import Vata.Proofs.Sanitize
import Vata.Proofs.SimModel
import Vata.Proofs.InclDown
import Vata.Proofs.InclDownInv
import Vata.Proofs.InclDownTotal
import Vata.Proofs.InclUpSim
import Vata.Properties.Dispatch
import Vata.Properties.C07_BddSim
import Vata.Properties.C01
/-!
# C07 – Inclusion on BDD-encoded (semi-symbolic) tree automata is exact

> For any two tree automata loaded into the top-down or the bottom-up BDD encoding, each implemented inclusion algorithm
> (top-down: downward recursive with or without the implication cache, with or without simulation; bottom-up: upward,
> and downward with simulation) returns true exactly when the language of the first is contained in the language of the
> second.  The verdict equals the one obtained for the same two automata in the explicit encoding; unimplemented
> selections are reported by an exception, never by a wrong verdict.

## How the statement is read into the model

* **Specification (L0).**  A BDD-encoded automaton denotes an ordinary tree automaton (its rules are the paths of the
  transition MTBDDs); the language of the loaded automaton is `accepts A` of the `TA` it was loaded from, and the
  specification of every inclusion call is `Incl A B` (`Vata/Lang.lean`), the same as for C01.
* **Reference.**  `inclM A B fuel` on the automata the BDD objects were loaded from.  The verdict of every implemented
  BDD selection is compared with it; so is (C01) the verdict of every explicit selection, which gives "the verdict
  equals the one obtained in the explicit encoding".
* **Models of the code – on the ABSTRACT automaton.**  The BDD encoding itself is read as the identity on `TA`: the
  MTBDD `GetMtbdd(tuple)` is the function `symbol ↦ {parent | symbol(tuple) → parent}`.  That this reading is right is C08:
  the transition tables of BOTH encodings denote exactly the rules that were added, and `GetTopDownAut` keeps the abstract
  automaton up to rules whose parent is unreachable top-down (`C08_load_dump`, `C08_getTopDownAut` in
  `Vata/Properties/C08_Tables.lean`).  On this reading
  - `inclUpBdd A B fuel` (`Vata/InclUpBdd.lean`) mirrors `CheckUpwardTreeInclusion` with `UpwardInclusionFunctor` and
    `ForeachUpSymbolFromTupleAndTupleSetDo` (bottom-up encoding, `ANTICHAINS_UP_NOSIM`): antichain and work-set of pairs
    `(q, S)`, and for every tuple of the transition table that contains the processed state **one macro-state chosen per
    child position** (the repaired code); `checkInclUpBdd` = `CheckInclusion` (operands sanitised first);
    `inclUpBddOld` is the code BEFORE the repair (one call per tuple with the UNION of the macro-states known for a child –
    defect D9), kept to show that the repair was needed (`C07_old_code_wrong`);
  - the top-down encoding uses the SAME templates `CheckDownwardTreeInclusion` / `DownwardInclusionFunctor` /
    `OptDownwardInclusionFunctor` as the explicit encoding, so the models are those of C01 (`Vata/InclDown.lean`):
    `checkInclDownRec` (`DOWN_REC_NOSIM`), `inclDownOpt` on the sanitised operands (`DOWN_REC_OPT_NOSIM`, the same function by
    definition), `inclDownSim A B R` (`DOWN_REC_SIM`, `DOWN_REC_OPT_SIM`: the caller's relation, validated by the model);
  - the bottom-up selection "upward with simulation" (`ANTICHAINS_UP_SIM`) calls the same `CheckUpwardTreeInclusion`, which
    does not use its relation parameter: the models `inclUpBddSim` / `checkInclUpBddSim` (`Vata/InclUpSim.lean`) are
    `inclUpBdd` on the operands as passed / as prepared by the command line;
  - the bottom-up selection "downward with simulation" (`BDDBUTreeAutCore::CheckInclusion`, case `ANTICHAINS_DOWN_REC_SIM`)
    sanitises both operands, computes the downward simulation on their disjoint union itself, converts to top-down form
    and calls the top-down `DOWN_REC_SIM`: the model is `inclDownSim A' B' (downSimRef (unionDisjoint A' B'))` on
    `(A', B') = sanitize A B` (`C07_bu_downward_sim_exact`); the conversion `GetTopDownAut` is the identity on the abstract
    automaton.  With the relation as the simulation CODE computes it (`BddSim.bddDownSim`, `Vata/BddSim.lean`, checked against
    `BDDBUTreeAutCore::ComputeDownwardSimulation` by the `bddsim` cases) the route is the function `buDownSimRoute` of this
    file, exact and total (`C07_bu_downward_sim_chain`; the theorems about the relation are in
    `Vata/Properties/C07_BddSim.lean`).
  All models end certify-then-trust; `none` = fuel exhausted, never a verdict.  `C07Sel` (end of the file) lists the seven
  selections with their models; `C07_every_selection_exact` is the property as one theorem.
* **Dispatch.**  `Vata.Gen.tdDispatch`, `Vata.Gen.buDispatch` are the two `switch (params.GetOptions())`, regenerated from
  the C++ sources on every run (`Vata/Properties/Dispatch.lean`).
-/
namespace Vata.Props
open Vata.InclUp

/-- every verdict of the reference the BDD verdicts are compared with is exact -/
theorem C07_reference_exact (A B : TA) (fuel : Nat) (b : Bool) (h : inclM A B fuel = some b) :
    b = true ↔ Incl A B := inclM_iff A B fuel b h

-- the shape of defect D9: `g(a,b)` is accepted by `exG` only, the children are reached by different trees
example : inclM InclUpEx.exG InclUpEx.exH 10 = some false ∧ inclM InclUpEx.exH InclUpEx.exG 10 = some true :=
  ⟨inclM_exG_exH, inclM_exH_exG⟩

/-- "the verdict equals the one obtained in the explicit encoding": a verdict that agrees with the reference agrees
with every verdict of the model of the explicit upward selection, for all fuels.  Partial: the BDD verdict `b'` enters
only through the hypothesis that it is a verdict of the reference -/
theorem C07_agrees_with_explicit_partial (A B : TA) (fuel fuel' : Nat) (b b' : Bool) (c : Cert)
    (h : checkInclUp A B fuel = some (b, c)) (h' : inclM A B fuel' = some b') : b = b' :=
  Verdict.eq_of_iff (checkInclUp_iff h) (inclM_iff A B fuel' b' h')

example : (checkInclUp InclUpEx.exG InclUpEx.exH 10).map (·.1) = some false ∧
    inclM InclUpEx.exG InclUpEx.exH 10 = some false := ⟨by decide +kernel, inclM_exG_exH⟩

/-- the encoding-independent principles of the upward (bottom-up encoding) and downward (both encodings) algorithms:
a set of pairs closed under the post-image with one chosen macro-state per child and without bad pair, resp. closed
under choice-function expansion and covering the final states, proves inclusion.  Partial: only the principles; that the
explorations produce such sets is `C07_bu_upward_exploration_certified` (bottom-up, upward) and
`C01_downward_exploration_certified` (the downward templates shared with the explicit encoding) -/
theorem C07_certificates_partial (A B : TA) (X : List (Nat × List Nat)) :
    (UpCert A B X → (∀ q S, (q, S) ∈ X → q ∈ A.final → ∃ s, s ∈ S ∧ s ∈ B.final) → Incl A B) ∧
    (DownCert A B X → (∀ f, f ∈ A.final → Sub X f B.final) → Incl A B) :=
  ⟨fun hX hok => up_cert_incl A B X hX hok, fun hX hroot => down_cert_incl A B X hX hroot⟩

example : UpCert InclUpEx.exH InclUpEx.exG [(3, [1]), (4, [1]), (9, [2])] ∧
    ∀ q S, (q, S) ∈ [(3, [1]), (4, [1]), (9, [2])] → q ∈ InclUpEx.exH.final → ∃ s, s ∈ S ∧ s ∈ InclUpEx.exG.final :=
  upCertB_sound (by decide +kernel)
-- no certificate exists for the false inclusion `exG ⊆ exH`: the merged "antichain" of defect D9 is refused (`{3,4}` is
-- not below the post-image `{3}` of the leaf rule `a`), and so is the true one (the mixed choice `({3},{4})` for `g`
-- has an empty post-image)
example : upCertB InclUpEx.exG InclUpEx.exH [(1, [3, 4]), (2, [9])] = false ∧
    upCertB InclUpEx.exG InclUpEx.exH [(1, [3]), (1, [4]), (2, [9])] = false := by decide

/-! ### bottom-up encoding, upward algorithm: the model of the (repaired) code -/

/-- every verdict of the model of `CheckUpwardTreeInclusion` on the bottom-up encoding is exact – of the exploration on
operands prepared by the caller (`inclUpBdd`) and of `CheckInclusion` with `ANTICHAINS_UP_NOSIM`, which sanitises first
(`checkInclUpBdd`) -/
theorem C07_bu_upward_model_exact (A B : TA) (fuel : Nat) (b : Bool) (c : Cert) :
    (inclUpBdd A B fuel = some (b, c) → (b = true ↔ Incl A B)) ∧
    (checkInclUpBdd A B fuel = some (b, c) → (b = true ↔ Incl A B)) :=
  ⟨fun h => inclUpBdd_iff h, fun h => checkInclUpBdd_iff h⟩

-- the shape of defect D9 (`g(a,b)`, children reached by different trees): the repaired model answers `false`, the converse
-- `true`
theorem cexA_cexB_run :
    inclUpBdd InclUpBddEx.cexA InclUpBddEx.cexB 10 = some (false, .witness (.node 2 [.node 1 [], .node 0 []])) := rfl
theorem cexB_cexA_run :
    inclUpBdd InclUpBddEx.cexB InclUpBddEx.cexA 10 = some (true, .closed [(3, [1]), (4, [1]), (9, [2])]) := rfl

example : (inclUpBdd InclUpBddEx.cexA InclUpBddEx.cexB 10).map (·.1) = some false ∧
    (inclUpBdd InclUpBddEx.cexB InclUpBddEx.cexA 10).map (·.1) = some true ∧
    (checkInclUpBdd InclUpBddEx.cexA InclUpBddEx.cexB 10).map (·.1) = some false :=
  ⟨congrArg (Option.map (·.1)) cexA_cexB_run, congrArg (Option.map (·.1)) cexB_cexA_run, by decide +kernel⟩

/-- what a verdict carries: `true` comes with an antichain that is an upward certificate without bad pair, `false` with
a tree accepted by `A` and rejected by `B` -/
theorem C07_bu_upward_verdict_certified (A B : TA) (fuel : Nat) (b : Bool) (c : Cert)
    (h : inclUpBdd A B fuel = some (b, c)) :
    match c with
    | .closed X => b = true ∧ UpCert A B X ∧ NoBad A B X
    | .witness w => b = false ∧ accepts A w = true ∧ accepts B w = false := inclUpBdd_cert h

example : inclUpBdd InclUpBddEx.cexB InclUpBddEx.cexA 10 = some (true, .closed [(3, [1]), (4, [1]), (9, [2])]) :=
  cexB_cexA_run

/-- the exploration proper (no final check involved): the antichain of a `return true` passes the certificate check,
the tree of a `return false` separates the languages; hence the model answers `none` only when the fuel is exhausted -/
theorem C07_bu_upward_exploration_certified (A B : TA) (fuel : Nat) :
    (∀ P, InclUpBdd.run A B fuel = some (.ok P) → upCertB A B (InclUpBdd.pairs P) = true) ∧
    (∀ e, InclUpBdd.run A B fuel = some (.error e) → accepts A e.2 = true ∧ accepts B e.2 = false) ∧
    (inclUpBdd A B fuel = none ↔ InclUpBdd.run A B fuel = none) :=
  ⟨fun _ h => InclUpBdd.run_ok_cert h, fun _ h => InclUpBdd.run_error_ok h, InclUpBdd.inclUpBdd_eq_none⟩

example : ∃ P, InclUpBdd.run InclUpBddEx.cexB InclUpBddEx.cexA 10 = some (.ok P) := ⟨_, rfl⟩
example : ∃ e, InclUpBdd.run InclUpBddEx.cexA InclUpBddEx.cexB 10 = some (.error e) := ⟨_, rfl⟩

/-- the code BEFORE the repair (the union of all macro-states known for a child, defect D9) is wrong: it answers `true`
on two pairs of automata whose inclusion does not hold -/
theorem C07_old_code_wrong :
    (inclUpBddOld InclUpBddEx.cexA InclUpBddEx.cexB 10 = some true ∧ ¬ Incl InclUpBddEx.cexA InclUpBddEx.cexB) ∧
    (inclUpBddOld InclUpBddEx.cexA2 InclUpBddEx.cexB2 10 = some true ∧ ¬ Incl InclUpBddEx.cexA2 InclUpBddEx.cexB2) :=
  ⟨inclUpBddOld_counterexample, inclUpBddOld_counterexample_union⟩

/-- … and exact only on automata `A` whose rules have at most one child (then no union is ever formed) -/
theorem C07_old_code_partial (A B : TA) (har : ∀ ρ, ρ ∈ A.rules → ρ.kids.length ≤ 1) (fuel : Nat) (b : Bool)
    (h : inclUpBddOld A B fuel = some b) : b = true ↔ Incl A B := inclUpBddOld_partial har h

example : (∀ ρ, ρ ∈ InclUpBddEx.exEven.rules → ρ.kids.length ≤ 1) ∧
    inclUpBddOld InclUpBddEx.exEven InclUpBddEx.exAll 10 = some true ∧
    ¬ ∀ ρ, ρ ∈ InclUpBddEx.cexA.rules → ρ.kids.length ≤ 1 := ⟨by decide +kernel, by decide +kernel, by decide +kernel⟩

/-! ### bottom-up encoding, upward "with simulation": the relation is not used -/

/-- the bottom-up selection `ANTICHAINS_UP_SIM` calls `CheckUpwardTreeInclusion(smaller, bigger, params.GetSimulation())`,
whose third parameter is unnamed and unused (`const Rel& /* preorder */`, `src/tree_incl_up.hh`): the models `inclUpBddSim`
(the library call: the caller's operands, any relation) and `checkInclUpBddSim` (the command line: operands prepared by
`sanitize`, the upward simulation of their union computed and then ignored) run the exploration of `UP_NOSIM`.  The result
does not depend on the relation, and every verdict is exact -/
theorem C07_bu_upward_sim_exact (A B : TA) (R R' : Rel) (fuel : Nat) (b : Bool) (c : Cert) :
    inclUpBddSim A B R fuel = inclUpBddSim A B R' fuel ∧
    (inclUpBddSim A B R fuel = some (b, c) → (b = true ↔ Incl A B)) ∧
    (checkInclUpBddSim A B fuel = some (b, c) → (b = true ↔ Incl A B)) :=
  ⟨rfl, fun h => inclUpBddSim_iff h, fun h => checkInclUpBddSim_iff h⟩

example : (inclUpBddSim InclUpBddEx.cexA InclUpBddEx.cexB [(1, 9)] 10).map (·.1) = some false ∧
    (inclUpBddSim InclUpBddEx.cexB InclUpBddEx.cexA [] 10).map (·.1) = some true ∧
    (checkInclUpBddSim InclUpBddEx.cexA InclUpBddEx.cexB 10).map (·.1) = some false :=
  ⟨congrArg (Option.map (·.1)) cexA_cexB_run, congrArg (Option.map (·.1)) cexB_cexA_run, by decide +kernel⟩

/-- what pruning by an upward simulation WOULD rest on (used by the explicit encoding, C01): a set of pairs closed under
the post-image up to a reflexive and transitive upward simulation of the disjoint union, with first components in `A` and
no bad pair, proves the inclusion -/
theorem C07_upward_sim_certificates (A B : TA) (S : Nat → Nat → Prop) (hS : IsUpSim (unionDisjoint A B) S)
    (hrefl : ∀ q, S q q) (htr : ∀ a b c, S a b → S b c → S a c) (hdis : ∀ q, q ∈ A.states → q ∉ B.states)
    (X : List (Nat × List Nat)) (hX : InclUpSim.UpCertSim A B S X) (hkeys : InclUpSim.KeysIn A X) (hok : NoBad A B X) :
    Incl A B := InclUpSim.up_cert_sim_incl A B S hS hrefl htr hdis X hX hkeys hok

example : InclUpSim.UpCertSim InclUpSimEx.exP InclUpSimEx.exQ (InclUpSim.LeqP InclUpSimEx.exR) [(2, [12]), (3, [11])] ∧
    InclUpSim.KeysIn InclUpSimEx.exP [(2, [12]), (3, [11])] ∧ NoBad InclUpSimEx.exP InclUpSimEx.exQ [(2, [12]), (3, [11])] :=
  upCertSimB_sound (by decide +kernel)

/-! ### top-down encoding: downward recursive, with / without cache, with / without simulation -/

/-- the four selections of `BDDTDTreeAutCore::CheckInclusion` (the same templates as in the explicit encoding): every
verdict of the models is exact; the two `NOSIM` models (`inclDownOpt` is `inclDownRec` by definition) return the right
verdict for every fuel above the bound `|Q_A'|·2^|Q_B'|` of the sanitised operands; so does the `SIM` model when the
given relation passes the validation and the rule children of `A` are productive -/
theorem C07_td_downward_models_exact (A B : TA) (R : Rel) :
    (∀ fuel b c, checkInclDownRec A B fuel = some (b, c) → (b = true ↔ Incl A B)) ∧
    (∀ fuel b c, inclDownOpt (removeUseless A) (removeUseless B) fuel = some (b, c) → (b = true ↔ Incl A B)) ∧
    (∀ fuel b c, inclDownSim A B R fuel = some (b, c) → (b = true ↔ Incl A B)) ∧
    (∀ fuel, InclDown.fuelBoundD (removeUseless A) (removeUseless B) < fuel →
      inclDownOpt (removeUseless A) (removeUseless B) fuel = checkInclDownRec A B fuel ∧
      (Incl A B → ∃ c, checkInclDownRec A B fuel = some (true, c)) ∧
      (¬ Incl A B → ∃ c, checkInclDownRec A B fuel = some (false, c))) ∧
    (InclDown.KidsProductive A → isDownSimB (unionDisjoint A B) R = true → InclDown.disjointB A B = true →
      ∀ fuel, InclDown.fuelBoundD A B < fuel →
        (Incl A B → ∃ c, inclDownSim A B R fuel = some (true, c)) ∧
        (¬ Incl A B → ∃ c, inclDownSim A B R fuel = some (false, c))) :=
  ⟨fun _ _ _ h => checkInclDownRec_iff h,
    fun _ _ _ h => (inclDownOpt_iff h).trans (incl_removeUseless A B),
    fun _ _ _ h => inclDownSim_iff h,
    fun _ hf => ⟨rfl, checkInclDownRec_complete A B hf⟩,
    fun hA hsim hdis _ hf => inclDownSim_complete hA hsim hdis hf⟩

example : (checkInclDownRec InclDownEx.exG InclDownEx.exH 10).map (·.1) = some false ∧
    (inclDownOpt (removeUseless InclDownEx.exUs) (removeUseless InclDownEx.exA) 10).map (·.1) = some true ∧
    inclDownSim InclDownEx.exS1 InclDownEx.exS2 [(5, 6)] 10 = some (true, .closed [(1, [3, 4]), (2, [9])]) :=
  ⟨by decide +kernel, by decide +kernel, exS_downSim⟩
example : InclDown.KidsProductive InclDownEx.exS1 ∧ isDownSimB (unionDisjoint InclDownEx.exS1 InclDownEx.exS2) [(5, 6)] = true ∧
    InclDown.disjointB InclDownEx.exS1 InclDownEx.exS2 = true ∧ InclDown.fuelBoundD InclDownEx.exS1 InclDownEx.exS2 < 49 :=
  ⟨(trimmed_of_allUsefulB (by decide +kernel)).1, by decide +kernel, by decide +kernel, by decide +kernel⟩

/-! ### bottom-up encoding: downward with simulation (via the top-down encoding) -/

/-- the route of the bottom-up case `ANTICHAINS_DOWN_REC_SIM`: sanitise both operands (`A'`, `B'`: trimmed, renumbered,
disjoint), compute the downward simulation on their disjoint union (`R` = the greatest one, `downSimRef`, the relation of
C04), run the recursive downward algorithm pruned by `R`.  No hypothesis is left: the validation of `R` passes and the rule
children of `A'` are productive; every verdict is exact for the ORIGINAL question, and the right verdict is returned for
every fuel above the bound -/
theorem C07_bu_downward_sim_exact (A B A' B' : TA) (R : Rel) (hA' : A' = (sanitize A B).1)
    (hB' : B' = (sanitize A B).2.1) (hR : R = downSimRef (unionDisjoint A' B')) :
    (∀ fuel b c, inclDownSim A' B' R fuel = some (b, c) → (b = true ↔ Incl A B)) ∧
    (∀ fuel, InclDown.fuelBoundD A' B' < fuel →
      (Incl A B → ∃ c, inclDownSim A' B' R fuel = some (true, c)) ∧
      (¬ Incl A B → ∃ c, inclDownSim A' B' R fuel = some (false, c))) := by
  rw [hR, hA', hB']
  exact inclDownSim_prepared A B (downSimRef_check _)

-- operands that overlap (state 7 in both), the first not trimmed; both verdicts
example : ∃ c, inclDownSim (sanitize SanEx.exA SanEx.exB).1 (sanitize SanEx.exA SanEx.exB).2.1
    (downSimRef (unionDisjoint (sanitize SanEx.exA SanEx.exB).1 (sanitize SanEx.exA SanEx.exB).2.1)) 20 = some (true, c) :=
  Verdict.exists_cert (sanEx_verdicts _ _ _ rfl rfl rfl).2.2.2.2.2
example : ∃ c, inclDownSim (sanitize SanEx.exB SanEx.exA).1 (sanitize SanEx.exB SanEx.exA).2.1
    (downSimRef (unionDisjoint (sanitize SanEx.exB SanEx.exA).1 (sanitize SanEx.exB SanEx.exA).2.1)) 20 = some (false, c) :=
  Verdict.exists_cert (sanEx_verdicts_rev _ _ _ rfl rfl rfl).2.2.2.2.2

/-! ### "the verdict equals the one obtained in the explicit encoding" -/

/-- any verdicts of the models of the BDD selections (bottom-up upward; top-down downward without / with cache / with a
given relation) and of the models of the explicit selections (upward, downward non-recursive, downward recursive) on
the same pair, and any verdict of the reference, are equal – whatever the fuels and whatever `R` -/
theorem C07_bdd_agrees_with_explicit (A B : TA) (R : Rel) (f₀ f₁ f₂ f₃ f₄ f₅ f₆ f₇ : Nat)
    (b₀ b₁ b₂ b₃ b₄ b₅ b₆ b₇ : Bool) (c₁ c₂ c₃ c₄ c₅ c₆ c₇ : Cert)
    (h₀ : inclM A B f₀ = some b₀)
    (h₁ : checkInclUpBdd A B f₁ = some (b₁, c₁))
    (h₂ : checkInclDownRec A B f₂ = some (b₂, c₂))
    (h₃ : inclDownOpt (removeUseless A) (removeUseless B) f₃ = some (b₃, c₃))
    (h₄ : inclDownSim A B R f₄ = some (b₄, c₄))
    (h₅ : checkInclUp A B f₅ = some (b₅, c₅))
    (h₆ : checkInclDownNonrec A B f₆ = some (b₆, c₆))
    (h₇ : inclDownNonrecSim A B R f₇ = some (b₇, c₇)) :
    b₁ = b₀ ∧ b₂ = b₀ ∧ b₃ = b₀ ∧ b₄ = b₀ ∧ b₅ = b₀ ∧ b₆ = b₀ ∧ b₇ = b₀ := by
  have e₀ := inclM_iff A B f₀ b₀ h₀
  have e₁ := checkInclUpBdd_iff h₁
  have e₂ := checkInclDownRec_iff h₂
  have e₃ := (inclDownOpt_iff h₃).trans (incl_removeUseless A B)
  have e₄ := inclDownSim_iff h₄
  have e₅ := checkInclUp_iff h₅
  have e₆ := checkInclDownNonrec_iff h₆
  have e₇ := inclDownNonrecSim_iff h₇
  exact ⟨Verdict.eq_of_iff e₁ e₀, Verdict.eq_of_iff e₂ e₀, Verdict.eq_of_iff e₃ e₀, Verdict.eq_of_iff e₄ e₀,
    Verdict.eq_of_iff e₅ e₀, Verdict.eq_of_iff e₆ e₀, Verdict.eq_of_iff e₇ e₀⟩

example : inclM InclDownEx.exS1 InclDownEx.exS2 10 = some true ∧
    (checkInclUpBdd InclDownEx.exS1 InclDownEx.exS2 20).map (·.1) = some true ∧
    (checkInclDownRec InclDownEx.exS1 InclDownEx.exS2 10).map (·.1) = some true ∧
    (inclDownOpt (removeUseless InclDownEx.exS1) (removeUseless InclDownEx.exS2) 10).map (·.1) = some true ∧
    (inclDownSim InclDownEx.exS1 InclDownEx.exS2 [(5, 6)] 10).map (·.1) = some true ∧
    (checkInclUp InclDownEx.exS1 InclDownEx.exS2 20).map (·.1) = some true ∧
    (checkInclDownNonrec InclDownEx.exS1 InclDownEx.exS2 10).map (·.1) = some true ∧
    (inclDownNonrecSim InclDownEx.exS1 InclDownEx.exS2 [(5, 6)] 10).map (·.1) = some true :=
  -- `inclDownOpt` on the sanitised operands is `checkInclDownRec` by definition
  ⟨exS_ref, by decide +kernel, exS_downRec, exS_downRec, congrArg _ exS_downSim, exS_up, exS_downNonrec,
    congrArg _ exS_downNonrecSim⟩

/-! ### "unimplemented selections are reported by an exception" -/

/-- the two dispatchers, as regenerated from the sources: (1) the top-down encoding implements exactly the option words
`DOWN_REC_NOSIM`, `DOWN_REC_OPT_NOSIM`, `DOWN_REC_SIM`, `DOWN_REC_OPT_SIM`, the bottom-up encoding exactly `UP_NOSIM`,
`UP_SIM`, `DOWN_REC_SIM`, no word twice; (2) in both every other of the 2⁷ option words reaches `default`, which throws
`NotImplementedException` – no verdict is fabricated; (3) in every case the callee matches the direction / recursion /
cache bits of its word, and the nested call of the bottom-up "via top-down" case uses a word the top-down dispatcher
implements; (4) a case with the simulation bit passes the given relation and the original operands, a case without it the
identity and the sanitised copies, the "via top-down" case its own computed relation on sanitised copies -/
theorem C07_dispatch (c : Gen.Case) (hc : c ∈ Gen.tdDispatch ∨ c ∈ Gen.buDispatch) :
    (Dispatch.sameWords (Dispatch.words Gen.tdDispatch) [10, 14, 26, 30] = true ∧
      Dispatch.sameWords (Dispatch.words Gen.buDispatch) [0, 16, 26] = true ∧
      (Dispatch.words Gen.tdDispatch).Nodup ∧ (Dispatch.words Gen.buDispatch).Nodup) ∧
    (Gen.tdDispatchDefaultThrows = true ∧ Gen.buDispatchDefaultThrows = true) ∧
    (Dispatch.treeConsistent c = true ∧
      (Dispatch.words Gen.tdDispatch).contains (Dispatch.fDir ||| Dispatch.fRec ||| Dispatch.fSim) = true) ∧
    Dispatch.simConsistent c = true := by
  have ht := Dispatch.tree_consistent
  have hs := Dispatch.sim_consistent
  simp only [List.all_append, Bool.and_eq_true, List.all_eq_true] at ht hs
  refine ⟨⟨Dispatch.implemented_td, Dispatch.implemented_bu, Dispatch.no_duplicate_cases.2.1,
    Dispatch.no_duplicate_cases.2.2.1⟩, ⟨Dispatch.default_throws.2.1, Dispatch.default_throws.2.2.1⟩,
    ⟨?_, Dispatch.via_topdown_target_implemented⟩, ?_⟩
  · rcases hc with hc | hc
    · exact ht.1.2 c hc
    · exact ht.2 c hc
  · rcases hc with hc | hc
    · exact hs.1.1.2 c hc
    · exact hs.1.2 c hc

example : (⟨"ANTICHAINS_UP_NOSIM", 0, "bddUp", "UpwardInclusionFunctor", "-", "true", "identity"⟩ : Gen.Case) ∈
    Gen.buDispatch := by decide +kernel
-- the predicates are not trivially true: "via top-down" with the caller's relation, or the upward code for a downward
-- word, would be refused
example : Dispatch.simConsistent ⟨"X", 26, "viaTopDown", "-", "-", "true", "given"⟩ = false ∧
    Dispatch.treeConsistent ⟨"X", 10, "bddUp", "-", "-", "true", "identity"⟩ = false := by decide +kernel

/-! ### the bottom-up route "downward + simulation" as one function, with the simulation code as written -/

/-- `BDDBUTreeAutCore::CheckInclusion`, case `ANTICHAINS_DOWN_REC_SIM`, end to end: `SanitizeAutsForInclusion`, the disjoint
union, `ComputeDownwardSimulation(n)` AS CODED (`BddSim.bddDownSim`, `Vata/BddSim.lean`, run with its own iteration bound),
then the recursive downward inclusion pruned by the relation it returned (`fuel` = nesting depth of the calls) -/
def buDownSimRoute (A B : TA) (fuel : Nat) : Option (Bool × Cert) :=
  (BddSim.bddDownSim (unionDisjoint (sanitize A B).1 (sanitize A B).2.1) (sanitize A B).2.2
      (BddSim.fuelBound (unionDisjoint (sanitize A B).1 (sanitize A B).2.1))).bind
    (fun R => inclDownSim (sanitize A B).1 (sanitize A B).2.1 R fuel)

/-- **the chain sanitise → union → `bddDownSim` → pruned inclusion is exact and total.**  Every verdict of the route is the
truth of `L(A) ⊆ L(B)` for the ORIGINAL operands, and for every fuel above the bound `|Q_A'|·2^|Q_B'|` of the prepared operands
the route returns that verdict – the simulation code terminates within its bound, its result passes the validation of the
inclusion model, the rule children of the prepared operand are productive.  No hypothesis on `A`, `B`.
(`C07_bu_downward_sim_exact` is the same with the reference relation `downSimRef` in the place of the code's.) -/
theorem C07_bu_downward_sim_chain (A B : TA) :
    (∀ fuel b c, buDownSimRoute A B fuel = some (b, c) → (b = true ↔ Incl A B)) ∧
    (∀ fuel, InclDown.fuelBoundD (sanitize A B).1 (sanitize A B).2.1 < fuel →
      (Incl A B → ∃ c, buDownSimRoute A B fuel = some (true, c)) ∧
      (¬ Incl A B → ∃ c, buDownSimRoute A B fuel = some (false, c))) := by
  obtain ⟨R, hR, _, hex, htot⟩ := C07_bddsim_bu_downward_sim_exact A B _ _ _ _ rfl rfl rfl rfl
  have e : ∀ fuel, buDownSimRoute A B fuel = inclDownSim (sanitize A B).1 (sanitize A B).2.1 R fuel := by
    intro fuel; unfold buDownSimRoute; rw [hR]; rfl
  exact ⟨fun fuel b c h => hex fuel b c (e fuel ▸ h), fun fuel hf => by rw [e fuel]; exact htot fuel hf⟩

-- operands that overlap (state 7 in both), the first not trimmed: both verdicts
example : (buDownSimRoute SanEx.exA SanEx.exB 20).map (·.1) = some true ∧
    (buDownSimRoute SanEx.exB SanEx.exA 20).map (·.1) = some false := by decide +kernel
example : InclDown.fuelBoundD (sanitize SanEx.exA SanEx.exB).1 (sanitize SanEx.exA SanEx.exB).2.1 < 20 := by decide +kernel

/-! ### ONE theorem for "each implemented inclusion algorithm" of the two BDD encodings -/

/-- the seven implemented selections: top-down encoding – downward recursive, without / with the implication cache,
without / with a simulation; bottom-up encoding – upward, upward "with simulation", downward with simulation -/
inductive C07Sel where
  | tdRec | tdRecOpt | tdRecSim | tdRecOptSim | buUp | buUpSim | buDownSim
  deriving DecidableEq, Repr

/-- the option word of a selection; the first four are the cases of the top-down, the last three of the bottom-up dispatcher -/
def C07Sel.word : C07Sel → Nat
  | .tdRec => 10 | .tdRecOpt => 14 | .tdRecSim => 26 | .tdRecOptSim => 30 | .buUp => 0 | .buUpSim => 16 | .buDownSim => 26

/-- the model of a selection (on the abstract automaton).  `R` is the relation the CALLER passes with the selections that
take one (`tdRecSim`, `tdRecOptSim`, `buUpSim`: the dispatchers pass relation and operands through, `C07_dispatch` item 4);
`buDownSim` computes its own relation and ignores `R` -/
def C07Sel.model (s : C07Sel) (R : Rel) (A B : TA) (fuel : Nat) : Option (Bool × Cert) :=
  match s with
  | .tdRec => checkInclDownRec A B fuel
  | .tdRecOpt => inclDownOpt (removeUseless A) (removeUseless B) fuel
  | .tdRecSim => inclDownSim A B R fuel
  | .tdRecOptSim => inclDownSim A B R fuel
  | .buUp => checkInclUpBdd A B fuel
  | .buUpSim => inclUpBddSim A B R fuel
  | .buDownSim => buDownSimRoute A B fuel

/-- **every implemented BDD selection has a model whose every verdict is exact** – whatever relation the caller passes –
**and equals the verdict of every explicit selection** (`C01Sel`, `Vata/Properties/C01.lean`) **and of the reference** on
the same pair -/
theorem C07_every_selection_exact (s : C07Sel) (R : Rel) (A B : TA) (fuel : Nat) (b : Bool) (c : Cert)
    (h : s.model R A B fuel = some (b, c)) :
    (b = true ↔ Incl A B) ∧
    (∀ (s' : C01Sel) f' b' c', s'.model A B f' = some (b', c') → b = b') ∧
    (∀ f₀ b₀, inclM A B f₀ = some b₀ → b = b₀) := by
  have e : b = true ↔ Incl A B := by
    cases s with
    | tdRec => exact checkInclDownRec_iff h
    | tdRecOpt => exact (inclDownOpt_iff h).trans (incl_removeUseless A B)
    | tdRecSim => exact inclDownSim_iff h
    | tdRecOptSim => exact inclDownSim_iff h
    | buUp => exact checkInclUpBdd_iff h
    | buUpSim => exact inclUpBddSim_iff (R := R) h
    | buDownSim => exact (C07_bu_downward_sim_chain A B).1 fuel b c h
  refine ⟨e, fun s' f' b' c' h' => ?_, fun f₀ b₀ h₀ => ?_⟩
  · exact Verdict.eq_of_iff e ((C01_every_selection_exact_total s' A B).1 f' b' c' h')
  · exact Verdict.eq_of_iff e (inclM_iff A B f₀ b₀ h₀)

-- all seven return a verdict on the trimmed, disjoint pair `exS1`, `exS2` with the relation `{(5,6)}`
example : ∀ s : C07Sel, (s.model [(5, 6)] InclDownEx.exS1 InclDownEx.exS2 20).map (·.1) = some true := by
  -- the two top-down `SIM` selections run the same model
  have hsim : (inclDownSim InclDownEx.exS1 InclDownEx.exS2 [(5, 6)] 20).map (·.1) = some true := by decide +kernel
  intro s; cases s
  case tdRecSim => exact hsim
  case tdRecOptSim => exact hsim
  all_goals decide +kernel

/-- the selections whose models are also TOTAL, with explicit bounds: the two top-down `NOSIM` selections and the bottom-up
route "downward + simulation" (for the two upward selections of the bottom-up encoding no bound is proved, for the top-down
`SIM` selections a verdict is guaranteed under the preconditions of `C07_td_downward_models_exact` only) -/
theorem C07_total_selections (A B : TA) (R : Rel) :
    (∀ fuel, InclDown.fuelBoundD (removeUseless A) (removeUseless B) < fuel →
      (Incl A B → (∃ c, C07Sel.tdRec.model R A B fuel = some (true, c)) ∧ ∃ c, C07Sel.tdRecOpt.model R A B fuel = some (true, c)) ∧
      (¬ Incl A B →
        (∃ c, C07Sel.tdRec.model R A B fuel = some (false, c)) ∧ ∃ c, C07Sel.tdRecOpt.model R A B fuel = some (false, c))) ∧
    (∀ fuel, InclDown.fuelBoundD (sanitize A B).1 (sanitize A B).2.1 < fuel →
      (Incl A B → ∃ c, C07Sel.buDownSim.model R A B fuel = some (true, c)) ∧
      (¬ Incl A B → ∃ c, C07Sel.buDownSim.model R A B fuel = some (false, c))) :=
  ⟨fun _ hf => ⟨fun hi => ⟨(checkInclDownRec_complete A B hf).1 hi, (checkInclDownRec_complete A B hf).1 hi⟩,
      fun hn => ⟨(checkInclDownRec_complete A B hf).2 hn, (checkInclDownRec_complete A B hf).2 hn⟩⟩,
    (C07_bu_downward_sim_chain A B).2⟩

example : InclDown.fuelBoundD (removeUseless InclDownEx.exG) (removeUseless InclDownEx.exH) < 17 := by decide +kernel

/-- the seven selections are exactly the implemented cases of the two regenerated dispatchers -/
theorem C07_selections_are_the_dispatch_cases :
    Dispatch.sameWords (Dispatch.words Gen.tdDispatch)
      ([C07Sel.tdRec, .tdRecOpt, .tdRecSim, .tdRecOptSim].map C07Sel.word) = true ∧
    Dispatch.sameWords (Dispatch.words Gen.buDispatch) ([C07Sel.buUp, .buUpSim, .buDownSim].map C07Sel.word) = true :=
  ⟨Dispatch.implemented_td, Dispatch.implemented_bu⟩

/-!
## closed since the last refresh of this file

* **"the BDD simulation code has no model"** (last sentence of the item on the `SIM` selections) – closed at the rule-set
  abstraction: `Vata.BddSim.bddDownSim` models `BDDBUTreeAutCore::ComputeDownwardSimulation(n)` as written; it returns a
  downward simulation for every iteration order (`C07_bddsim_simulation`, `C07_bddsim_order_independent`), terminates within
  (number of tuples)² iterations (`C07_bddsim_terminates`), is the greatest simulation restricted to the states that own a
  top-down entry (`C07_bddsim_greatest_on_entry_states`) and exactly `downSimRef` on the sanitised union
  (`C07_bddsim_bu_downward_sim_exact`); the whole route as one exact and total function: `C07_bu_downward_sim_chain`.
* **"the top-down tables and the inversion have no model"** (item on the encodings) – closed in
  `Vata/Properties/C08_Tables.lean`: `BddAbsTD.TableTD` (16 symbol + 6 arity variables), load / dump (`C08_load_dump`,
  `C08_td_addTransition`), `GetTopDownAut` (`C08_getTopDownAut`: same abstract rules up to parents that are not collected, same
  language); the three views the simulation model takes of a bottom-up automaton are linked to these tables by
  `BddSim.tuples_bridge`, `BddSim.tdStates_bridge`, `BddSim.up_bridge`.
* The property as ONE statement over the seven selections, including "the verdict equals the one obtained in the explicit
  encoding" against all eight explicit selections: `C07_every_selection_exact`, `C07_total_selections`,
  `C07_selections_are_the_dispatch_cases`.
* Totality of the reference the verdicts are compared with: `C07_reference_total` (`Vata/Properties/RefTotal.lean`).
* The containers of `CheckUpwardTreeInclusion` / `CheckDownwardTreeInclusion` (macro-state cache with its memo tables,
  `OrdVector`, antichains) have class models with history theorems, and the deleter wiring of `tree_incl_down.hh` is
  re-checked on every run (`Util_Cache_memo_sound`, `Vata.CacheWiring.cache_wiring_is_lib`, `Util_OrdVector_history`,
  `Util_Antichain_offer_history`); how the command line reaches the option words of the two dispatchers:
  `Util_CliArgs_every_selection_reachable_partial`, `Util_CliArgs_unimplemented`.

## not yet proved

* **The encodings themselves.**  All inclusion models work on the abstract automaton.  The tables of both encodings and
  `GetTopDownAut` are now linked to the abstract automaton (C08, see above), but the traversals
  `ForeachUpSymbolFromTupleAndTupleSetDo` / `ForeachDownSymbolFromStateAndStateSetDo` as MTBDD applies over several
  diagrams at once are still replaced by "for every rule of the automaton": that the apply functors act pointwise is taken
  from C17 / C08 (`Vata/Proofs/MtbddOps.lean`), no theorem says that the collected (symbol, states) events of the real
  traversal are the rules the models iterate over.  Hence "the BDD verdict is exact" is a theorem about models that read
  the encoding through its abstraction.
* **No termination bound for the bottom-up upward exploration** `InclUpBdd.run`: every verdict is exact and `none` means
  "fuel exhausted" (`C07_bu_upward_exploration_certified`), but no fuel is proved to suffice (the explicit upward model
  of C01 has such a bound).  So `buUp` and `buUpSim` are missing from `C07_total_selections`.
* The bottom-up selection **upward with simulation** (`ANTICHAINS_UP_SIM`): modelled by `inclUpBddSim`, which ignores the
  relation because the C++ callee does (`C07_bu_upward_sim_exact`); that the parameter is unused is a reading of
  `src/tree_incl_up.hh`, not a theorem.  The library entry point does not sanitise the operands for this selection
  (`C07_dispatch`, item 4); `inclUpBdd` is exact on any operands but a verdict is only guaranteed on trimmed ones.
* **The `SIM` selections of the top-down encoding outside their preconditions**: exactness is unconditional, a verdict
  is guaranteed only for a relation that passes the validation, disjoint operands and productive rule children
  (`C07_td_downward_models_exact`); the C++ passes the caller's relation through unchecked.  From the command line these
  two selections cannot be run to a verdict at all: with `sim=yes` the CLI first calls `ComputeSimulation` of the
  representation, which throws `NotImplementedException` for `bdd-td` (read off `bdd_td_tree_aut_sim.cc`, see the end of
  `Vata/Properties/Util_CliArgs.lean`); only a library caller can reach them.
* The simulation model reads the MTBDDs as functions symbol ↦ leaf and the hash containers as lists (all iteration orders
  are covered, `C07_bddsim_order_independent`); the upward simulation of the BDD encodings has no model (none is
  implemented for `bdd-td`; the bottom-up `ANTICHAINS_UP_SIM` ignores its relation anyway).
* "With or without the implication cache": identified by definition, see C01.
* **Link between the dispatch tables and the models.**  `C07_dispatch` is about the tables regenerated from the sources
  (and "throws" is the table's record that the `default` branch contains a `throw`); which Lean model stands for which
  callee (`C07Sel.model`) is the reading given in the header, not a theorem.
-/
end Vata.Props
