import Vata.RcStoreXMono
import Vata.Proofs.MtbddOps
/-!
# The side conditions of `Vata/RcStoreXMono.lean`, at tree level (C17)

The assertions of `renameNode` and the offset condition of `ExtendWith` are exactly "the tree that the operation builds is
ordered and reduced": `renOkT_iff_wf`, `extendWith_wf_iff`.  Strict monotonicity on the occurring variables implies the
assertions (`renOkT_of_strictMono`).
-/
namespace Vata.RcSX

theorem strictMonoOn_iff {ren : Nat → Nat} {L : List Nat} :
    strictMonoOn ren L = true ↔ ∀ x, x ∈ L → ∀ y, y ∈ L → x < y → ren x < ren y := by
  unfold strictMonoOn
  simp only [List.all_eq_true, Bool.or_eq_true, Bool.not_eq_true', decide_eq_false_iff_not, decide_eq_true_eq]
  constructor
  · intro h x hx y hy hlt
    rcases h x hx y hy with h' | h'
    · exact absurd hlt h'
    · exact h'
  · intro h x hx y hy
    by_cases hlt : x < y
    · exact Or.inr (h x hx y hy hlt)
    · exact Or.inl hlt

theorem allVars_treeVars : ∀ (a : M.Node Nat), M.AllVars (· ∈ treeVars a) a
  | .leaf _ => trivial
  | .node _ lo hi =>
    ⟨List.mem_cons_self, (allVars_treeVars lo).mono fun _ h => List.mem_cons_of_mem _ (List.mem_append_left _ h),
      (allVars_treeVars hi).mono fun _ h => List.mem_cons_of_mem _ (List.mem_append_right _ h)⟩

theorem topLt_iff {x : Nat} {t : M.Node Nat} : topLt x t = true ↔ M.VarLt x t := by
  cases t <;> simp [topLt, M.VarLt]

/-- the assertions of `renameNode` hold at every inner node iff the renamed diagram is ordered and reduced -/
theorem renOkT_iff_wf (ren : Nat → Nat) : ∀ (t : M.Node Nat), renOkT ren t = true ↔ M.WF (M.rename ren t)
  | .leaf _ => by simp [renOkT, M.rename, M.WF]
  | .node x lo hi => by
    have il := renOkT_iff_wf ren lo
    have ih := renOkT_iff_wf ren hi
    simp only [renOkT, Bool.and_eq_true, decide_eq_true_eq, M.rename, M.WF]
    constructor
    · rintro ⟨⟨⟨⟨hne, tl⟩, th⟩, okl⟩, okh⟩
      exact ⟨hne, M.below_of_wf_varLt (il.mp okl) (topLt_iff.mp tl), M.below_of_wf_varLt (ih.mp okh) (topLt_iff.mp th),
        il.mp okl, ih.mp okh⟩
    · rintro ⟨hne, bl, bh, wl, wh⟩
      exact ⟨⟨⟨⟨hne, topLt_iff.mpr (M.varLt_of_below bl)⟩, topLt_iff.mpr (M.varLt_of_below bh)⟩, il.mpr wl⟩, ih.mpr wh⟩

/-- on an ordered, reduced diagram a renamer that is strictly monotone on the variables that occur passes the assertions of
    `renameNode` -/
theorem renOkT_of_strictMono {ren : Nat → Nat} {a : M.Node Nat} (h : strictMonoOn ren (treeVars a) = true) (wa : M.WF a) :
    renOkT ren a = true :=
  (renOkT_iff_wf ren a).mpr
    (M.rename_wf_on ren (fun x y px py => strictMonoOn_iff.mp h x px y py) (allVars_treeVars a) wa)

/-! ## `ExtendWith`: only the FIRST node that the loop spawns sits on the given root -/

theorem constructLoop_first (tr : Nat → Nat) (sink : M.Node Nat) : ∀ (as : List (Option Bool)) (i : Nat) (p : M.Node Nat)
    (k : Nat), firstSet as = some k → M.WF (M.constructLoop tr sink as i p) → M.VarLt (tr (i + k)) p
  | [], _, _, _, hk, _ => by simp [firstSet] at hk
  | none :: as, i, p, k, hk, h => by
    simp only [M.constructLoop] at h
    simp only [firstSet, Option.map_eq_some_iff] at hk
    obtain ⟨k', hk', rfl⟩ := hk
    have := constructLoop_first tr sink as (i+1) p k' hk' h
    rwa [show i + 1 + k' = i + (k' + 1) by omega] at this
  | some true :: as, i, p, k, hk, h => by
    simp only [M.constructLoop] at h
    simp only [firstSet, Option.some.injEq] at hk
    subst hk
    exact M.varLt_of_below (M.constructLoop_wf_sub tr sink as (i+1) _ h).2.2.1
  | some false :: as, i, p, k, hk, h => by
    simp only [M.constructLoop] at h
    simp only [firstSet, Option.some.injEq] at hk
    subst hk
    exact M.varLt_of_below (M.constructLoop_wf_sub tr sink as (i+1) _ h).2.1

theorem constructLoop_wf_first (tr : Nat → Nat) (htr : ∀ i, tr i < tr (i + 1)) (d : Nat) :
    ∀ (as : List (Option Bool)) (i : Nat) (p : M.Node Nat), M.WF p → p ≠ .leaf d →
      (∀ k, firstSet as = some k → M.VarLt (tr (i + k)) p) → M.WF (M.constructLoop tr (.leaf d) as i p)
  | [], _, _, wp, _, _ => wp
  | none :: as, i, p, wp, hp, hv => by
    refine constructLoop_wf_first tr htr d as (i+1) p wp hp fun k hk => ?_
    have := hv (k+1) (by simp [firstSet, hk])
    rwa [show i + (k + 1) = i + 1 + k by omega] at this
  | some b :: as, i, p, wp, hp, hv => by
    obtain ⟨w, bl, ne⟩ := M.cubeNode_wf (htr i) b wp (M.below_of_wf_varLt wp (hv 0 rfl)) hp
    rw [M.constructLoop_some]
    exact (M.constructLoop_wf tr htr d as (i+1) _ w bl ne).1

/-- `ExtendWith` keeps a diagram ordered and reduced iff the first node stacked on the root (if any) carries a variable above
    the root variable -/
theorem extendWith_wf_iff (asgn : List (Option Bool)) (off : Nat) {a : M.Node Nat} (d : Nat) (wa : M.WF a) :
    M.WF (M.extendWith asgn off a d) ↔ ∀ k, firstSet asgn = some k → M.VarLt (off + k) a := by
  unfold M.extendWith M.constructOn
  split
  · rename_i e
    exact ⟨fun _ _ _ => e ▸ trivial, fun _ => wa⟩
  · rename_i ne
    refine ⟨fun wf k hk => ?_, fun hv => ?_⟩
    · have := constructLoop_first _ _ asgn 0 _ k hk wf
      rwa [show 0 + k + off = off + k by omega] at this
    · refine constructLoop_wf_first _ (fun i => by omega) d asgn 0 a wa ne fun k hk => ?_
      have := hv k hk
      rwa [show off + k = 0 + k + off by omega] at this

end Vata.RcSX
