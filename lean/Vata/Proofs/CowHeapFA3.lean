import Vata.Proofs.CowHeapFA2
import Vata.Proofs.Closure
/-!
# The work-list loops of `RemoveUnreachableStates` / `GetCandidateTree` on finite automata terminate within their fuel
(proofs for `Vata/CowHeapFA.lean`, third part)

Both loops pop one state per turn and push a state only when it enters `reachableStates`, so
`work-list length + number of transition targets not yet reached` (`Closure.mu`) goes down with every turn.
`reachLoop_eq`: `reachLoop` is the reachability loop of `Vata/Proofs/Closure.lean` over the successors `succOf` the clusters
give; `reachStates_done`: `reachStates` returns `reachableStates` of a run of the C++ loop to its end
(`newStates.empty()`), so more fuel than it uses does not change the result.  The loop of `GetCandidateTree` has early
`return`s and its own induction (`candLoop_fuel`, `candSearch_end`, `candSearch_fuel`); its insert-and-push `see` is
`Closure.Ext` (`ext_see`).
-/
namespace Vata.CowHeapFA

open Vata.CowHeap (Val)
open Vata.Closure (Ext)

/-- every target of a cluster `find` returns is the target of a transition -/
theorem targets_in_trans (t : Val) (act : Nat) (c : Store.Cluster) (hl : t.lookup act = some c) (q : Nat)
    (hq : q ∈ targets c) : q ∈ (transOf t).map (fun e => e.2.2) := by
  have hm := Vata.mem_of_lookup hl
  simp only [targets, List.mem_flatMap, List.mem_map] at hq
  obtain ⟨st, hst, r, hr, e⟩ := hq
  simp only [transOf, List.mem_map, List.mem_flatMap]
  exact ⟨(act, st.1, r.headD 0), ⟨(act, c), hm, st, hst, r, hr, rfl⟩, e⟩

/-- the targets of the cluster `find` returns for `act`; none when there is no cluster (`continue`) -/
def succOf (t : Val) (act : Nat) : List Nat := ((t.lookup act).map targets).getD []

theorem mem_succOf {t : Val} {p q : Nat} : q ∈ succOf t p ↔ ∃ c, t.lookup p = some c ∧ q ∈ targets c := by
  unfold succOf
  cases t.lookup p with
  | none => exact ⟨fun h => (nomatch h), fun ⟨_, h, _⟩ => (nomatch h)⟩
  | some c => exact ⟨fun h => ⟨c, rfl, h⟩, fun ⟨_, h, hq⟩ => Option.some.inj h ▸ hq⟩

theorem succOf_in_trans (t : Val) (act q : Nat) (hq : q ∈ succOf t act) : q ∈ (transOf t).map (fun e => e.2.2) :=
  (mem_succOf.mp hq).elim fun c hc => targets_in_trans t act c hc.1 q hc.2

/-- the work-list loop of `RemoveUnreachableStates` is the reachability loop of `Vata/Proofs/Closure.lean` (its inner loop
    body is `Closure.push`) -/
theorem reachLoop_eq (t : Val) : ∀ (n : Nat) (reach stack : List Nat),
    reachLoop t n reach stack = (Closure.reachLoop (succOf t) n (reach, stack)).1
  | 0, _, _ => rfl
  | _ + 1, _, [] => rfl
  | n + 1, reach, act :: stack => by
    rw [reachLoop, Closure.reachLoop, succOf]
    cases t.lookup act with
    | none => exact reachLoop_eq t n reach stack
    | some c => exact reachLoop_eq t n _ _

/-- the fuel of `reachStates` is above the measure of the loop at its start -/
theorem reachStates_mu (v : FAVal) :
    Closure.mu ((transOf v.trans).map (fun e => e.2.2)) (v.mem.start.foldl Vata.insN [], (v.mem.start.foldl Vata.insN []).reverse) ≤
      (v.mem.start.foldl Vata.insN []).length + (transOf v.trans).length + 1 := by
  have := unseen_le_length ((transOf v.trans).map (fun e => e.2.2)) (v.mem.start.foldl Vata.insN [])
  rw [List.length_map] at this
  show (v.mem.start.foldl Vata.insN []).reverse.length +
    unseen ((transOf v.trans).map (fun e => e.2.2)) (v.mem.start.foldl Vata.insN []) ≤ _
  rw [List.length_reverse]
  omega

/-- … so the loop has stopped with `newStates.empty()` -/
theorem reachStates_done (v : FAVal) :
    (Closure.reachLoop (succOf v.trans) ((v.mem.start.foldl Vata.insN []).length + (transOf v.trans).length + 1)
      (v.mem.start.foldl Vata.insN [], (v.mem.start.foldl Vata.insN []).reverse)).2 = [] :=
  Closure.reachLoop_done (E := fun s x => x ∈ succOf v.trans s) (fun _ _ => Iff.rfl)
    (succOf_in_trans v.trans) _ _ (reachStates_mu v)

/-- `if (reachableStates.insert(q).second) newStates.push_back(q);` – the first statement of both loop bodies -/
def see (s : CandSt) (q : Nat) : CandSt :=
  if s.reach.contains q then s else { s with reach := s.reach ++ [q], queue := s.queue ++ [q] }

theorem see_mem (s : CandSt) (q : Nat) : (see s q).mem = s.mem := by unfold see; split <;> rfl
theorem see_keys (s : CandSt) (q : Nat) : (see s q).keys = s.keys := by unfold see; split <;> rfl
theorem see_done (s : CandSt) (q : Nat) : (see s q).done = s.done := by unfold see; split <;> rfl

/-- `see` is insert-if-new-and-push of `Vata/Proofs/Closure.lean`, the work-list being a queue -/
theorem ext_see (s : CandSt) (q : Nat) : Ext [q] (s.reach, s.queue) ((see s q).reach, (see s q).queue) := by
  unfold see
  split
  · next h => exact Ext.old (List.contains_iff_mem.mp h)
  · next h =>
    exact Ext.new (σ := (s.reach, s.queue)) (fun hm => h (List.contains_iff_mem.mpr hm))
      (fun _ => List.mem_append.trans (or_congr_right List.mem_singleton)) (Nat.le_of_eq List.length_append)

theorem mem_see_reach {s : CandSt} {x q : Nat} : q ∈ (see s x).reach ↔ q ∈ s.reach ∨ q = x :=
  ((ext_see s x).marked q).trans (or_congr_right List.mem_singleton)

theorem mem_see_queue {s : CandSt} {x q : Nat} :
    q ∈ (see s x).queue ↔ q ∈ s.queue ∨ (q = x ∧ x ∉ s.reach) :=
  ((ext_see s x).work q).trans (or_congr_right
    ⟨fun h => ⟨List.mem_singleton.mp h.1, List.mem_singleton.mp h.1 ▸ h.2⟩, fun h => ⟨List.mem_singleton.mpr h.1, h.1 ▸ h.2⟩⟩)

theorem see_queue_length (s : CandSt) (q : Nat) : (see s q).queue.length ≤ s.queue.length + 1 := by
  unfold see
  split
  · exact Nat.le_succ _
  · exact Nat.le_of_eq List.length_append

/-- `res.SetStateFinal(q); return res.RemoveUselessStates();` – the `return` of both loop bodies -/
def ret (s : CandSt) (q : Nat) : CandSt :=
  { s with mem := { s.mem with final := Vata.insN s.mem.final q }, done := true }

/-- the body of the loop over the start states up to its `if (this->IsStateFinal(s))` -/
def startStep (v : FAVal) (s : CandSt) (q : Nat) : CandSt :=
  { see s q with mem := { (see s q).mem with start := Vata.insN (see s q).mem.start q,
                                             ssym := smInsert (see s q).mem.ssym q (smGet v.mem.ssym q) } }

/-- the body of the inner loop without its `return`: the cluster of `act` is handed to `insert` in either branch -/
def innerStep (act : Nat) (s : CandSt) (q : Nat) : CandSt := { see s q with keys := (see s q).keys ++ [act] }

theorem candStart_cons (v : FAVal) (q : Nat) (rest : List Nat) (s : CandSt) :
    candStart v (q :: rest) s =
      if v.mem.final.contains q then ret (startStep v s q) q else candStart v rest (startStep v s q) := rfl

theorem candInner_cons (v : FAVal) (act q : Nat) (rest : List Nat) (s : CandSt) :
    candInner v act (q :: rest) s =
      if v.mem.final.contains q then ret (innerStep act s q) q else candInner v act rest (innerStep act s q) := rfl

-- from here on `see` is used through its lemmas only (the unifier would otherwise compare its two branches)
attribute [irreducible] see

theorem candInner_measure (v : FAVal) (U : List Nat) (act : Nat) :
    ∀ (ts : List Nat) (s : CandSt), (∀ q, q ∈ ts → q ∈ U) →
      (candInner v act ts s).queue.length + unseen U (candInner v act ts s).reach ≤
        s.queue.length + unseen U s.reach
  | [], _, _ => Nat.le_refl _
  | q :: ts, s, hts => by
    have h1 : (see s q).queue.length + unseen U (see s q).reach ≤ s.queue.length + unseen U s.reach :=
      (ext_see s q).mu U (fun x hx => List.mem_singleton.mp hx ▸ hts q List.mem_cons_self)
    rw [candInner_cons]
    split
    · exact h1
    · exact Nat.le_trans (candInner_measure v U act ts _ (fun x hx => hts x (List.mem_cons_of_mem _ hx))) h1

theorem candStart_queue (v : FAVal) :
    ∀ (l : List Nat) (s : CandSt), (candStart v l s).queue.length ≤ s.queue.length + l.length
  | [], _ => Nat.le_refl _
  | q :: l, s => by
    have h1 := see_queue_length s q
    rw [candStart_cons]
    split
    · exact Nat.le_trans h1 (Nat.add_le_add_left (Nat.succ_le_succ (Nat.zero_le _)) _)
    · refine Nat.le_trans (candStart_queue v l _) ?_
      show (see s q).queue.length + l.length ≤ _
      rw [List.length_cons]
      omega

theorem candLoop_succ (v : FAVal) (n : Nat) (s : CandSt) :
    candLoop v (n + 1) s =
      if s.done then s else
      match s.queue with
      | [] => s
      | act :: q =>
        match v.trans.lookup act with
        | none => candLoop v n { s with queue := q }
        | some c => candLoop v n (candInner v act (targets c) { s with queue := q }) := rfl

/-- a turn of the `while` loop does nothing after a `return` … -/
theorem candLoop_done (v : FAVal) {s : CandSt} (h : s.done = true) : ∀ n, candLoop v n s = s
  | 0 => rfl
  | n + 1 => by rw [candLoop_succ, if_pos h]

/-- … or with `newStates.empty()` … -/
theorem candLoop_nil (v : FAVal) {s : CandSt} (h : s.queue = []) : ∀ n, candLoop v n s = s
  | 0 => rfl
  | n + 1 => by rw [candLoop_succ, h, ite_self]

/-- … and otherwise pops `actState` and expands the cluster `find` returns, if any -/
theorem candLoop_cons (v : FAVal) {s : CandSt} {act : Nat} {q : List Nat} (hd : s.done = false) (hq : s.queue = act :: q)
    (n : Nat) :
    candLoop v (n + 1) s = candLoop v n (candInner v act (succOf v.trans act) { s with queue := q }) := by
  rw [candLoop_succ, if_neg (by rw [hd]; exact Bool.false_ne_true), hq]
  simp only [succOf]
  cases v.trans.lookup act <;> rfl

/-- **totality**: with fuel at least `queue length + targets not yet reached` the loop of `GetCandidateTree` ends by a
    `return` or with an empty queue, and more fuel is never used -/
theorem candLoop_fuel (v : FAVal) (U : List Nat) (hU : ∀ act q, q ∈ succOf v.trans act → q ∈ U) :
    ∀ (n : Nat) (s : CandSt), s.queue.length + unseen U s.reach ≤ n →
      ((candLoop v n s).done = true ∨ (candLoop v n s).queue = []) ∧ ∀ k, candLoop v (n + k) s = candLoop v n s := by
  intro n
  induction n with
  | zero =>
    intro s h
    have hq : s.queue = [] := List.eq_nil_of_length_eq_zero (Nat.eq_zero_of_le_zero (Nat.le_trans (Nat.le_add_right _ _) h))
    exact ⟨Or.inr hq, fun k => candLoop_nil v hq _⟩
  | succ n ih =>
    intro s h
    cases hd : s.done with
    | true => exact ⟨by rw [candLoop_done v hd]; exact Or.inl hd, fun k => by rw [candLoop_done v hd, candLoop_done v hd]⟩
    | false =>
      cases hq : s.queue with
      | nil => exact ⟨by rw [candLoop_nil v hq]; exact Or.inr hq, fun k => by rw [candLoop_nil v hq, candLoop_nil v hq]⟩
      | cons act q =>
        rw [hq, List.length_cons] at h
        have hm := ih _ (Nat.le_trans (candInner_measure v U act (succOf v.trans act) { s with queue := q } (hU act))
          (by show q.length + unseen U s.reach ≤ n; omega))
        rw [candLoop_cons v hd hq]
        exact ⟨hm.1, fun k => by rw [Nat.add_right_comm, candLoop_cons v hd hq]; exact hm.2 k⟩

/-- the fuel of `candSearch` is above the measure after the scan of the start states -/
theorem candSearch_measure (v : FAVal) :
    (candStart v v.mem.start ⟨[], [], ⟨[], [], []⟩, [], false⟩).queue.length +
      unseen ((transOf v.trans).map (fun e => e.2.2)) (candStart v v.mem.start ⟨[], [], ⟨[], [], []⟩, [], false⟩).reach ≤
    v.mem.start.length + (transOf v.trans).length + 1 := by
  have h1 := candStart_queue v v.mem.start ⟨[], [], ⟨[], [], []⟩, [], false⟩
  have h2 := unseen_le_length ((transOf v.trans).map (fun e => e.2.2))
    (candStart v v.mem.start ⟨[], [], ⟨[], [], []⟩, [], false⟩).reach
  rw [List.length_map] at h2
  rw [List.length_nil, Nat.zero_add] at h1
  omega

/-- `candSearch` ends by a `return` or with `newStates.empty()` -/
theorem candSearch_end (v : FAVal) : (candSearch v).done = true ∨ (candSearch v).queue = [] :=
  (candLoop_fuel v _ (succOf_in_trans v.trans) _ _ (candSearch_measure v)).1

/-- `candSearch` runs the loop of `GetCandidateTree` to its end (a `return`, or `newStates.empty()`): any larger fuel gives
    the same result -/
theorem candSearch_fuel (v : FAVal) (k : Nat) :
    candLoop v (v.mem.start.length + (transOf v.trans).length + 1 + k)
        (candStart v v.mem.start ⟨[], [], ⟨[], [], []⟩, [], false⟩) = candSearch v :=
  (candLoop_fuel v _ (succOf_in_trans v.trans) _ _ (candSearch_measure v)).2 k

end Vata.CowHeapFA
