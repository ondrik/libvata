import Vata.Proofs.ReduceCoded
/-!
# `Reduce` on the store, part 2: sizes, language, totality

The answer of the fully coded `Reduce` lists every rule ONCE (the store has no duplicate, the coded trimming introduces
none), so on the store "at most as many rules" holds for the plain lengths against the number of DISTINCT rules of the input.
-/
namespace Vata.ReduceCoded
open Vata Vata.Store Vata.RenameCoded Vata.TrimCoded Vata.SimPipe Vata.BinRel

theorem pushNew_nodup (σ : List Nat × List Nat) (q : Nat) (h : σ.1.Nodup) : (pushNew σ q).1.Nodup := by
  unfold pushNew
  split
  · exact h
  · rename_i hc
    simp only
    rw [List.nodup_append]
    refine ⟨h, by simp, ?_⟩
    intro a ha b hb
    rw [List.mem_singleton] at hb
    subst hb
    intro e
    subst e
    exact hc (List.contains_iff_mem.mpr ha)

theorem foldl_pushNew_nodup : ∀ (ks : List Nat) (σ : List Nat × List Nat), σ.1.Nodup → (ks.foldl pushNew σ).1.Nodup
  | [], _, h => h
  | k :: ks, σ, h => by rw [List.foldl_cons]; exact foldl_pushNew_nodup ks _ (pushNew_nodup σ k h)

theorem procCluster_nodup : ∀ (c : List Rule) (σ : List Nat × List Nat), σ.1.Nodup → (procCluster c σ).1.Nodup
  | [], _, h => h
  | r :: c, σ, h => by
    unfold procCluster
    rw [List.foldl_cons]
    exact procCluster_nodup c _ (foldl_pushNew_nodup r.kids σ h)

theorem unreachLoop_nodup (A : TA) : ∀ (f : Nat) (σ : List Nat × List Nat), σ.1.Nodup → (unreachLoop A f σ).1.Nodup
  | 0, _, h => h
  | _+1, (_, []), h => h
  | f+1, (R, s :: W), h => by
    unfold unreachLoop
    exact unreachLoop_nodup A f _ (procCluster_nodup _ (R, W) h)

theorem unreachSet_nodup (A : TA) : (unreachSet A).Nodup :=
  unreachLoop_nodup A _ _ (nodup_dedupL _)

theorem nodup_flatMap_clusterOf (A : TA) (h : A.rules.Nodup) : ∀ (R : List Nat), R.Nodup →
    (R.flatMap (fun s => clusterOf A s)).Nodup
  | [], _ => by simp
  | s :: R, hR => by
    rw [List.flatMap_cons, List.nodup_append]
    have hR' := List.nodup_cons.mp hR
    refine ⟨h.filter _, nodup_flatMap_clusterOf A h R hR'.2, ?_⟩
    intro a ha b hb e
    subst e
    have h1 : a.parent = s := by
      have := (List.mem_filter.mp ha).2
      simpa using this
    obtain ⟨s', hs', hb'⟩ := List.mem_flatMap.mp hb
    have h2 : a.parent = s' := by
      have := (List.mem_filter.mp hb').2
      simpa using this
    rw [← h1, h2] at hR'
    exact hR'.1 hs'

theorem unreachCoded_nodup (A : TA) (h : A.rules.Nodup) : (unreachCoded A).rules.Nodup := by
  unfold unreachCoded unreachWith
  simp only
  split
  · exact h
  · exact nodup_flatMap_clusterOf A h _ (unreachSet_nodup A)

theorem taEquiv_states_length {A B : TA} (h : TAEquiv A B) : A.states.length = B.states.length :=
  length_eq_of_mem_iff (PropAux.nodup_states A) (PropAux.nodup_states B) (BddAbsTD.SetEqTA.mem_states h)

/-- All that the `C05_fully_coded_*` theorems state, for one run of `reduceCodedOn` on a store `S` that holds `simA`.  The
result `B'`, the relation-level result `B` and the collapse map `m` exist with, in this order:
 1. `reduceCodedOn` returns `B'` (no `simFailed`, no `threw`);
 2. `reduceAsCoded simA = some B`;
 3. `collapseMapAsCoded simA = some m`;
 4. `B'` and `B` have the same rules and the same final states, as sets;
 5. `B'` lists every rule once;
 6. `B'` has at most the states of `simA`;
 7. at most its distinct rules, counting distinct rules on both sides;
 8. the plain number of rules of `B'` is at most the distinct rules of `simA`,
 9. hence at most its rules;
10. every state of `B'` is the `m`-image of a state of `simA`;
11. for ranked `simA` the language is that of `simA`. -/
theorem reduceCodedOn_props (simA : TA) (S : Store) (hS : Inv S) (heq : TAEquiv (RenameCoded.toTA S) simA) :
    ∃ B' B m, reduceCodedOn simA S = .ok B' ∧ reduceAsCoded simA = some B ∧ collapseMapAsCoded simA = some m ∧
      TAEquiv B' B ∧ B'.rules.Nodup ∧
      B'.states.length ≤ simA.states.length ∧ B'.rules.eraseDups.length ≤ simA.rules.eraseDups.length ∧
      B'.rules.length ≤ simA.rules.eraseDups.length ∧ B'.rules.length ≤ simA.rules.length ∧
      (∀ x, x ∈ B'.states → ∃ q, q ∈ simA.states ∧ x = applyMap m q) ∧
      (TaLts.Ranked simA → LangEq B' simA) := by
  obtain ⟨m, d, hm, _, hw, _, hres, hB, hE⟩ := reduceCodedOn_spec simA S hS heq
  have himg : ∀ y, y ∈ (unreachCoded (RenameCoded.toTA d)).rules → ∃ x, x ∈ simA.rules ∧ y = mapRule (applyMap m) x :=
    fun y hy => RM.rules_reduce_image _ simA y ((hE.1 y).mp hy)
  have hnd : (unreachCoded (RenameCoded.toTA d)).rules.Nodup := unreachCoded_nodup _ (nodup_iterate_w hw)
  have hlen : (unreachCoded (RenameCoded.toTA d)).rules.length ≤ simA.rules.eraseDups.length := by
    have hsub : (unreachCoded (RenameCoded.toTA d)).rules ⊆ simA.rules.eraseDups.map (mapRule (applyMap m)) := by
      intro y hy
      obtain ⟨x, hx, he⟩ := himg y hy
      exact List.mem_map.mpr ⟨x, List.mem_eraseDups.mpr hx, he.symm⟩
    have := hnd.length_le_of_subset hsub
    rwa [List.length_map] at this
  have hed : simA.rules.eraseDups.length ≤ simA.rules.length :=
    (RM.nodup_eraseDups simA.rules).length_le_of_subset (fun x hx => List.mem_eraseDups.mp hx)
  refine ⟨_, _, m, hres, hB, hm, hE, hnd, ?_, RM.distinct_le_of_image _ _ _ himg, hlen, Nat.le_trans hlen hed, ?_, ?_⟩
  · rw [taEquiv_states_length hE]
    exact PropAux.states_reduce_length _ simA
  · intro x hx
    exact PropAux.states_reduce ((BddAbsTD.SetEqTA.mem_states hE x).mp hx)
  · intro hrk t
    rw [hE.lang t]
    exact reduceAsCoded_lang simA hrk _ hB t

end Vata.ReduceCoded
