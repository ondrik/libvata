import Vata.CacheModel
import Vata.Proofs.AssocList
/-!
# Theorems about the interning cache, the memoised binary operation and their wiring (`Vata/CacheModel.lean`)

In this order: association lists (`aget`, `aset`, `adel`) and a secondary index over one (`IdxInv`); `BinOp.Inv`, the table of
`CachedBinaryOp` with its two indices, under `lookup` and the invalidations, and `purge`, what the library's deleter does to such a
table.  Then the whole system: `HeapInv` (the cache map against the handles), `Sound` (memo entries speak of live objects), `InvG`
(both, also while the temporary is in use) and `Inv` (between two statements); `StoreLe` and `Counted` speak of the cache map under
any count of holders and are shared with `Proofs/StoreInternedCache.lean`.  One lemma per primitive (`intern_inv` … `dropTmp_inv`),
a statement as `acquire` followed by swap and drop (`step_eq`), `step_inv`, `Reach`.  The theorems marked **(1)** … **(5b)** are
those quoted under the sections (1) … (5) of `Properties/Util_Cache.lean`; `ReachND` (no object dies: the wiring plays no role) and
`staleHistory` belong to (4), the namespace `BU` (`expl_bu_index.hh`) to (5).
-/
namespace Vata.CM

section Assoc
variable {κ ν : Type} [DecidableEq κ]

/-- the tables are association lists read by `List.lookup` -/
theorem aget_eq (m : List (κ × ν)) (k : κ) : aget m k = m.lookup k := by
  induction m with
  | nil => rfl
  | cons e m ih => obtain ⟨k', v⟩ := e; rw [aget, ih, lookup_cons_ite]

theorem aget_append (m₁ m₂ : List (κ × ν)) (k : κ) :
    aget (m₁ ++ m₂) k = match aget m₁ k with | some v => some v | none => aget m₂ k := by
  simp only [aget_eq, List.lookup_append]
  cases m₁.lookup k <;> rfl

theorem aget_adel (m : List (κ × ν)) (k k' : κ) : aget (adel m k) k' = if k' = k then none else aget m k' := by
  rw [aget_eq, aget_eq, adel, lookup_filter_keys (fun a => !decide (a = k))]
  by_cases h : k' = k
  · rw [if_pos h, if_neg (by rw [decide_eq_true h]; exact Bool.false_ne_true)]
  · rw [if_neg h, if_pos (by rw [decide_eq_false h]; rfl)]

theorem aget_aset (m : List (κ × ν)) (k : κ) (v : ν) (k' : κ) :
    aget (aset m k v) k' = if k' = k then some v else aget m k' := by
  rw [aset, aget_eq, lookup_snoc, ← aget_eq, aget_adel]
  split
  · rfl
  · exact Option.or_none

theorem mem_adel {m : List (κ × ν)} {k : κ} {e : κ × ν} : e ∈ adel m k ↔ e ∈ m ∧ e.1 ≠ k := by
  simp [adel, List.mem_filter]

theorem mem_aset {m : List (κ × ν)} {k : κ} {v : ν} {e : κ × ν} : e ∈ aset m k v ↔ (e ∈ m ∧ e.1 ≠ k) ∨ e = (k, v) := by
  simp [aset, mem_adel]

theorem aget_mem {m : List (κ × ν)} {k : κ} {v : ν} (h : aget m k = some v) : (k, v) ∈ m :=
  mem_of_lookup (aget_eq m k ▸ h)

theorem aget_of_mem {m : List (κ × ν)} {k : κ} {v : ν} (h : (k, v) ∈ m) : ∃ v', aget m k = some v' := by
  rw [aget_eq]
  exact Option.isSome_iff_exists.mp (lookup_isSome_iff_keys.mpr (List.mem_map.mpr ⟨_, h, rfl⟩))

theorem aget_foldl_adel (items : List κ) (m : List (κ × ν)) (k : κ) :
    aget (items.foldl (fun s it => adel s it) m) k = if k ∈ items then none else aget m k := by
  induction items generalizing m with
  | nil => simp
  | cons it rest ih =>
    simp only [List.foldl_cons, ih, aget_adel, List.mem_cons]
    by_cases h1 : k ∈ rest <;> by_cases h2 : k = it <;> simp [h1, h2]

theorem aget_of_mem_nodup {m : List (κ × ν)} {k : κ} {v : ν} (hn : (akeys m).Nodup) (h : (k, v) ∈ m) : aget m k = some v :=
  (aget_eq m k).trans (lookup_of_mem hn h)

theorem akeys_adel_nodup {m : List (κ × ν)} (k : κ) (h : (akeys m).Nodup) : (akeys (adel m k)).Nodup := by
  unfold akeys adel
  exact (List.Nodup.sublist (List.Sublist.map _ List.filter_sublist) h)

theorem akeys_aset_nodup {m : List (κ × ν)} (k : κ) (v : ν) (h : (akeys m).Nodup) : (akeys (aset m k v)).Nodup := by
  unfold aset akeys
  rw [List.map_append, List.nodup_append]
  refine ⟨akeys_adel_nodup k h, by simp, ?_⟩
  intro a ha b hb
  simp at hb
  subst hb
  rcases List.mem_map.1 ha with ⟨e, he, rfl⟩
  exact (mem_adel.1 he).2

end Assoc

section Idx
variable {κ ε : Type} [DecidableEq κ] [DecidableEq ε]

theorem aget_addIdx (m : List (κ × List ε)) (k : κ) (e : ε) (k' : κ) :
    aget (addIdx m k e) k' =
      if k' = k then some (match aget m k with | none => [e] | some l => if e ∈ l then l else l ++ [e]) else aget m k' := by
  unfold addIdx
  cases h : aget m k <;> simp [aget_aset]

theorem aget_delIdx (m : List (κ × List ε)) (k : κ) (e : ε) (k' : κ) :
    aget (delIdx m k e) k' =
      if k' = k then (aget m k).map (fun l => l.filter (fun e' => !(decide (e' = e)))) else aget m k' := by
  unfold delIdx
  cases h : aget m k with
  | none => by_cases hk : k' = k <;> simp [hk, h]
  | some l => simp [aget_aset]

/-- the loop `for item in items: map.find(g(item))->second.erase(item)` -/
theorem aget_foldl_delIdx (g : ε → κ) (items : List ε) (m : List (κ × List ε)) (y : κ) :
    aget (items.foldl (fun m it => delIdx m (g it) it) m) y =
      (aget m y).map (fun l => l.filter (fun e => !(decide (e ∈ items ∧ g e = y)))) := by
  induction items generalizing m with
  | nil =>
    cases h : aget m y with
    | none => simp [h]
    | some l =>
      simp only [List.foldl_nil, h, Option.map_some, Option.some.injEq]
      exact (List.filter_eq_self.2 (by simp)).symm
  | cons it rest ih =>
    simp only [List.foldl_cons, ih, aget_delIdx]
    by_cases hy : y = g it
    · subst hy
      cases aget m (g it) with
      | none => simp
      | some l =>
        simp only [if_true, Option.map_some, List.filter_filter, Option.some.injEq]
        apply List.filter_congr
        intro e _
        by_cases h1 : e = it
        · subst h1; simp
        · simp [h1]
    · simp only [hy, if_false]
      cases aget m y with
      | none => simp
      | some l =>
        simp only [Option.map_some, Option.some.injEq]
        apply List.filter_congr
        intro e _
        by_cases h1 : e = it
        · subst h1
          have : ¬ g e = y := fun h => hy h.symm
          simp [this]
        · simp [h1]

theorem akeys_foldl_adel_nodup {ν : Type} (items : List κ) (m : List (κ × ν)) (h : (akeys m).Nodup) :
    (akeys (items.foldl (fun s it => adel s it) m)).Nodup :=
  List.foldlRecOn items _ (motive := fun s => (akeys s).Nodup) h (fun _ hb it _ => akeys_adel_nodup it hb)

theorem akeys_delIdx_nodup (m : List (κ × List ε)) (k : κ) (e : ε) (h : (akeys m).Nodup) : (akeys (delIdx m k e)).Nodup := by
  unfold delIdx
  cases aget m k with
  | none => exact h
  | some l => exact akeys_aset_nodup _ _ h

/-- a secondary index `m` of a table: the entries the table `has`, each listed once, under its component `g` -/
structure IdxInv (g : ε → κ) (has : ε → Prop) (m : List (κ × List ε)) : Prop where
  s : ∀ x l, aget m x = some l → ∀ k ∈ l, g k = x ∧ has k
  c : ∀ k, has k → ∃ l, aget m (g k) = some l ∧ k ∈ l
  n : ∀ x l, aget m x = some l → l.Nodup
  k : (akeys m).Nodup

variable {g : ε → κ} {has : ε → Prop} {m : List (κ × List ε)}

omit [DecidableEq ε] in
theorem IdxInv.congr {has' : ε → Prop} (h : IdxInv g has m) (hh : ∀ k, has' k ↔ has k) : IdxInv g has' m :=
  ⟨fun x l hl k hk => ⟨(h.s x l hl k hk).1, (hh k).mpr (h.s x l hl k hk).2⟩, fun k hk => h.c k ((hh k).mp hk), h.n, h.k⟩

/-- `lookup` files a new entry -/
theorem IdxInv.add (h : IdxInv g has m) (e : ε) : IdxInv g (fun k => k = e ∨ has k) (addIdx m (g e) e) := by
  have hL : ∃ L, (∀ x, aget (addIdx m (g e) e) x = if x = g e then some L else aget m x) ∧ e ∈ L ∧ L.Nodup ∧
      (∀ k, k ∈ L → k = e ∨ ∃ l, aget m (g e) = some l ∧ k ∈ l) ∧ (∀ l, aget m (g e) = some l → ∀ k, k ∈ l → k ∈ L) := by
    refine ⟨_, aget_addIdx m (g e) e, ?_⟩
    cases hm : aget m (g e) with
    | none => exact ⟨List.mem_singleton_self e, by simp, fun k hk => Or.inl (List.mem_singleton.mp hk), nofun⟩
    | some l =>
      dsimp only
      by_cases hin : e ∈ l
      · rw [if_pos hin]
        exact ⟨hin, h.n _ _ hm, fun k hk => Or.inr ⟨l, rfl, hk⟩, fun l' hl' k hk => Option.some.inj hl' ▸ hk⟩
      · rw [if_neg hin]
        refine ⟨List.mem_append_right _ (List.mem_singleton_self e), ?_, ?_, fun l' hl' k hk =>
          List.mem_append_left _ (Option.some.inj hl' ▸ hk)⟩
        · exact List.nodup_append.mpr ⟨h.n _ _ hm, by simp, fun a ha b hb =>
            List.mem_singleton.mp hb ▸ fun e' => hin (e' ▸ ha)⟩
        · intro k hk
          exact (List.mem_append.mp hk).symm.imp List.mem_singleton.mp (fun hk => ⟨l, rfl, hk⟩)
  obtain ⟨L, hget, heL, hnd, hsub, hsup⟩ := hL
  refine ⟨fun x l hl k hk => ?_, fun k hk => ?_, fun x l hl => ?_, ?_⟩
  · rw [hget] at hl
    by_cases hx : x = g e
    · rw [if_pos hx, Option.some.injEq] at hl
      subst hl
      rcases hsub k hk with rfl | ⟨l, hl, hkl⟩
      · exact ⟨hx.symm, Or.inl rfl⟩
      · exact ⟨hx ▸ (h.s _ _ hl k hkl).1, Or.inr (h.s _ _ hl k hkl).2⟩
    · rw [if_neg hx] at hl
      exact ⟨(h.s _ _ hl k hk).1, Or.inr (h.s _ _ hl k hk).2⟩
  · rw [hget]
    rcases hk with rfl | hk
    · exact ⟨L, if_pos rfl, heL⟩
    · obtain ⟨l, hl, hkl⟩ := h.c k hk
      by_cases hx : g k = g e
      · exact ⟨L, if_pos hx, hsup l (hx ▸ hl) k hkl⟩
      · exact ⟨l, by rw [if_neg hx]; exact hl, hkl⟩
  · rw [hget] at hl
    by_cases hx : x = g e
    · rw [if_pos hx, Option.some.injEq] at hl; exact hl ▸ hnd
    · rw [if_neg hx] at hl; exact h.n _ _ hl
  · unfold addIdx
    cases aget m (g e) <;> exact akeys_aset_nodup _ _ h.k

omit [DecidableEq ε] in
/-- the list under `x` holds exactly the entries with component `x` -/
theorem IdxInv.mem_iff (h : IdxInv g has m) {x : κ} {l : List ε} (hl : aget m x = some l) {k : ε} (hk : has k) :
    k ∈ l ↔ g k = x := by
  refine ⟨fun hm => (h.s x l hl k hm).1, fun hx => ?_⟩
  obtain ⟨l', hl', hkl⟩ := h.c k hk
  rw [hx, hl] at hl'
  cases hl'; exact hkl

omit [DecidableEq ε] in
theorem IdxInv.exact_mem (h : IdxInv g has m) (k : ε) : has k ↔ ∃ l, (g k, l) ∈ m ∧ k ∈ l := by
  constructor
  · intro hk
    obtain ⟨l, hl, hkl⟩ := h.c k hk
    exact ⟨l, aget_mem hl, hkl⟩
  · rintro ⟨l, hl, hkl⟩
    exact (h.s _ _ (aget_of_mem_nodup h.k hl) k hkl).2

omit [DecidableEq ε] in
/-- an invalidation erases the list of its key … -/
theorem IdxInv.del (h : IdxInv g has m) (x : κ) : IdxInv g (fun k => g k ≠ x ∧ has k) (adel m x) := by
  have hget : ∀ x' l, aget (adel m x) x' = some l → x' ≠ x ∧ aget m x' = some l := by
    intro x' l hl
    rw [aget_adel] at hl
    by_cases hx : x' = x
    · rw [if_pos hx] at hl; cases hl
    · rw [if_neg hx] at hl; exact ⟨hx, hl⟩
  refine ⟨fun x' l hl k hk => ?_, fun k hk => ?_, fun x' l hl => h.n _ _ (hget x' l hl).2, akeys_adel_nodup _ h.k⟩
  · obtain ⟨hx, hl'⟩ := hget x' l hl
    exact ⟨(h.s _ _ hl' k hk).1, (h.s _ _ hl' k hk).1 ▸ hx, (h.s _ _ hl' k hk).2⟩
  · obtain ⟨l, hl, hkl⟩ := h.c k hk.2
    exact ⟨l, by rw [aget_adel, if_neg hk.1]; exact hl, hkl⟩

/-- … and, in the other index, erases each of its entries from the list of the entry's component -/
theorem IdxInv.erase (h : IdxInv g has m) (items : List ε) :
    IdxInv g (fun k => k ∉ items ∧ has k) (items.foldl (fun m it => delIdx m (g it) it) m) := by
  have hget : ∀ y l, aget (items.foldl (fun m it => delIdx m (g it) it) m) y = some l →
      ∃ l₀, aget m y = some l₀ ∧ l = l₀.filter (fun e => !(decide (e ∈ items ∧ g e = y))) := by
    intro y l hl
    rw [aget_foldl_delIdx] at hl
    cases hm : aget m y with
    | none => rw [hm] at hl; cases hl
    | some l₀ => rw [hm] at hl; exact ⟨l₀, rfl, (Option.some.inj hl).symm⟩
  refine ⟨fun y l hl k hk => ?_, fun k hk => ?_, fun y l hl => ?_, ?_⟩
  · obtain ⟨l₀, hm, rfl⟩ := hget y l hl
    simp only [List.mem_filter, Bool.not_eq_true', decide_eq_false_iff_not, not_and] at hk
    have := h.s _ _ hm k hk.1
    exact ⟨this.1, fun hi => hk.2 hi this.1, this.2⟩
  · obtain ⟨l, hl, hkl⟩ := h.c k hk.2
    refine ⟨_, by rw [aget_foldl_delIdx, hl]; rfl, ?_⟩
    simp only [List.mem_filter, Bool.not_eq_true', decide_eq_false_iff_not, not_and]
    exact ⟨hkl, fun hi => absurd hi hk.1⟩
  · obtain ⟨l₀, hm, rfl⟩ := hget y l hl
    exact List.Nodup.sublist List.filter_sublist (h.n _ _ hm)
  · exact List.foldlRecOn items _ (motive := fun m => (akeys m).Nodup) h.k (fun _ hb it _ => akeys_delIdx_nodup _ _ _ hb)

end Idx

namespace BinOp
variable {κ₁ κ₂ β : Type} [DecidableEq κ₁] [DecidableEq κ₂]

def Has (op : BinOp κ₁ κ₂ β) (k : κ₁ × κ₂) : Prop := (aget op.store k).isSome = true

/-- representation invariant of `CachedBinaryOp` -/
structure Inv (op : BinOp κ₁ κ₂ β) : Prop where
  /-- every entry listed under `x` in `storeMap1_` has first component `x` and is an entry of `store_` -/
  s1 : ∀ x l, aget op.map1 x = some l → ∀ k ∈ l, k.1 = x ∧ op.Has k
  /-- every entry of `store_` is listed in `storeMap1_` under its first component -/
  c1 : ∀ k, op.Has k → ∃ l, aget op.map1 k.1 = some l ∧ k ∈ l
  s2 : ∀ y l, aget op.map2 y = some l → ∀ k ∈ l, k.2 = y ∧ op.Has k
  c2 : ∀ k, op.Has k → ∃ l, aget op.map2 k.2 = some l ∧ k ∈ l
  /-- the sets are sets, the maps are maps -/
  n1 : ∀ x l, aget op.map1 x = some l → l.Nodup
  n2 : ∀ y l, aget op.map2 y = some l → l.Nodup
  k0 : (akeys op.store).Nodup
  k1 : (akeys op.map1).Nodup
  k2 : (akeys op.map2).Nodup

theorem Inv_iff {op : BinOp κ₁ κ₂ β} :
    op.Inv ↔ IdxInv Prod.fst op.Has op.map1 ∧ IdxInv Prod.snd op.Has op.map2 ∧ (akeys op.store).Nodup :=
  ⟨fun h => ⟨⟨h.s1, h.c1, h.n1, h.k1⟩, ⟨h.s2, h.c2, h.n2, h.k2⟩, h.k0⟩,
   fun h => ⟨h.1.s, h.1.c, h.2.1.s, h.2.1.c, h.1.n, h.2.1.n, h.2.2, h.1.k, h.2.1.k⟩⟩

theorem empty_inv : (BinOp.empty : BinOp κ₁ κ₂ β).Inv := by
  refine ⟨?_, ?_, ?_, ?_, ?_, ?_, ?_, ?_, ?_⟩ <;> simp [BinOp.empty, aget, Has, akeys]

theorem clear_inv (op : BinOp κ₁ κ₂ β) : op.clear.Inv := empty_inv

theorem lookup_ans (op : BinOp κ₁ κ₂ β) (x : κ₁) (y : κ₂) (f : κ₁ → κ₂ → β) :
    (op.lookup x y f).2 = match aget op.store (x, y) with | some v => v | none => f x y := by
  unfold lookup
  cases aget op.store (x, y) <;> rfl

theorem lookup_store (op : BinOp κ₁ κ₂ β) (x : κ₁) (y : κ₂) (f : κ₁ → κ₂ → β) (k : κ₁ × κ₂) :
    aget (op.lookup x y f).1.store k = if k = (x, y) then some (op.lookup x y f).2 else aget op.store k := by
  unfold lookup
  cases h : aget op.store (x, y) with
  | some v =>
    by_cases hk : k = (x, y)
    · subst hk; simp [h]
    · simp [hk]
  | none => simp [aget_aset]

theorem lookup_sound {P : κ₁ × κ₂ → β → Prop} (op : BinOp κ₁ κ₂ β) (x : κ₁) (y : κ₂) (f : κ₁ → κ₂ → β)
    (h : ∀ k r, aget op.store k = some r → P k r) (hf : P (x, y) (f x y)) :
    P (x, y) (op.lookup x y f).2 ∧ ∀ k r, aget (op.lookup x y f).1.store k = some r → P k r := by
  have hans : P (x, y) (op.lookup x y f).2 := by
    rw [lookup_ans]
    cases hg : aget op.store (x, y) with
    | none => exact hf
    | some v => exact h _ _ hg
  refine ⟨hans, fun k r hr => ?_⟩
  rw [lookup_store] at hr
  split at hr
  · next hk => cases hk; cases hr; exact hans
  · exact h k r hr

theorem lookup_has (op : BinOp κ₁ κ₂ β) (x : κ₁) (y : κ₂) (f : κ₁ → κ₂ → β) (k : κ₁ × κ₂) :
    (op.lookup x y f).1.Has k ↔ k = (x, y) ∨ op.Has k := by
  unfold Has
  rw [lookup_store]
  by_cases hk : k = (x, y) <;> simp [hk]

theorem lookup_inv {op : BinOp κ₁ κ₂ β} (h : op.Inv) (x : κ₁) (y : κ₂) (f : κ₁ → κ₂ → β) : (op.lookup x y f).1.Inv := by
  have hhas := lookup_has op x y f
  cases hxy : aget op.store (x, y) with
  | some v =>
    have : (op.lookup x y f).1 = op := by unfold lookup; rw [hxy]
    rw [this]; exact h
  | none =>
    have e : (op.lookup x y f).1 =
        ⟨aset op.store (x, y) (f x y), addIdx op.map1 x (x, y), addIdx op.map2 y (x, y)⟩ := by unfold lookup; rw [hxy]
    obtain ⟨h1, h2, h0⟩ := Inv_iff.mp h
    rw [e] at hhas ⊢
    exact Inv_iff.mpr ⟨(h1.add (x, y)).congr hhas, (h2.add (x, y)).congr hhas, akeys_aset_nodup _ _ h0⟩

theorem aget_erase_items {ε' : Type} [DecidableEq ε'] {g : κ₁ × κ₂ → ε'} {op : BinOp κ₁ κ₂ β} {x : ε'} {o : Option (List (κ₁ × κ₂))}
    (hc : ∀ k, op.Has k → g k = x → ∃ l, o = some l ∧ k ∈ l) (hs : ∀ l, o = some l → ∀ k, k ∈ l → g k = x)
    (k : κ₁ × κ₂) :
    aget (match o with | none => op.store | some items => items.foldl (fun s it => adel s it) op.store) k =
      if g k = x then none else aget op.store k := by
  cases hs' : aget op.store k with
  | none => cases o <;> simp [aget_foldl_adel, hs']
  | some v =>
    have hk : op.Has k := by simp [Has, hs']
    by_cases hx : g k = x
    · obtain ⟨l, rfl, hkl⟩ := hc k hk hx
      simp [aget_foldl_adel, hkl, hx]
    · cases o with
      | none => simp [hx, hs']
      | some l =>
        have : k ∉ l := fun hm => hx (hs l rfl k hm)
        simp [aget_foldl_adel, this, hx, hs']

/-- the table after `invalidateFirst(x)`: exactly the entries with first component `x` are gone -/
theorem invalidateFirst_store {op : BinOp κ₁ κ₂ β} (h : op.Inv) (x : κ₁) (k : κ₁ × κ₂) :
    aget (op.invalidateFirst x).store k = if k.1 = x then none else aget op.store k := by
  rw [← aget_erase_items (g := Prod.fst) (o := aget op.map1 x) (fun k hk hx => by rw [← hx]; exact h.c1 k hk)
    (fun l hl k hk => (h.s1 _ _ hl k hk).1) k]
  unfold invalidateFirst
  cases aget op.map1 x <;> rfl

theorem invalidateSecond_store {op : BinOp κ₁ κ₂ β} (h : op.Inv) (y : κ₂) (k : κ₁ × κ₂) :
    aget (op.invalidateSecond y).store k = if k.2 = y then none else aget op.store k := by
  rw [← aget_erase_items (g := Prod.snd) (o := aget op.map2 y) (fun k hk hy => by rw [← hy]; exact h.c2 k hk)
    (fun l hl k hk => (h.s2 _ _ hl k hk).1) k]
  unfold invalidateSecond
  cases aget op.map2 y <;> rfl

theorem invalidateFirst_has {op : BinOp κ₁ κ₂ β} (h : op.Inv) (x : κ₁) (k : κ₁ × κ₂) :
    (op.invalidateFirst x).Has k ↔ k.1 ≠ x ∧ op.Has k := by
  unfold Has
  rw [invalidateFirst_store h]
  by_cases hx : k.1 = x <;> simp [hx]

theorem invalidateSecond_has {op : BinOp κ₁ κ₂ β} (h : op.Inv) (y : κ₂) (k : κ₁ × κ₂) :
    (op.invalidateSecond y).Has k ↔ k.2 ≠ y ∧ op.Has k := by
  unfold Has
  rw [invalidateSecond_store h]
  by_cases hy : k.2 = y <;> simp [hy]

theorem invalidateFirst_inv {op : BinOp κ₁ κ₂ β} (h : op.Inv) (x : κ₁) : (op.invalidateFirst x).Inv := by
  have hhas := invalidateFirst_has h x
  cases hi : aget op.map1 x with
  | none =>
    have : op.invalidateFirst x = op := by unfold invalidateFirst; rw [hi]
    rw [this]; exact h
  | some items =>
    have e : op.invalidateFirst x = ⟨items.foldl (fun s it => adel s it) op.store, adel op.map1 x,
        items.foldl (fun m it => delIdx m it.2 it) op.map2⟩ := by unfold invalidateFirst; rw [hi]
    obtain ⟨h1, h2, h0⟩ := Inv_iff.mp h
    rw [e] at hhas ⊢
    refine Inv_iff.mpr ⟨(h1.del x).congr hhas, (h2.erase items).congr (fun k => (hhas k).trans ?_),
      akeys_foldl_adel_nodup _ _ h0⟩
    exact and_congr_left fun hk => not_congr (h1.mem_iff hi hk).symm

theorem invalidateSecond_inv {op : BinOp κ₁ κ₂ β} (h : op.Inv) (y : κ₂) : (op.invalidateSecond y).Inv := by
  have hhas := invalidateSecond_has h y
  cases hi : aget op.map2 y with
  | none =>
    have : op.invalidateSecond y = op := by unfold invalidateSecond; rw [hi]
    rw [this]; exact h
  | some items =>
    have e : op.invalidateSecond y = ⟨items.foldl (fun s it => adel s it) op.store,
        items.foldl (fun m it => delIdx m it.1 it) op.map1, adel op.map2 y⟩ := by unfold invalidateSecond; rw [hi]
    obtain ⟨h1, h2, h0⟩ := Inv_iff.mp h
    rw [e] at hhas ⊢
    refine Inv_iff.mpr ⟨(h1.erase items).congr (fun k => (hhas k).trans ?_), (h2.del y).congr hhas,
      akeys_foldl_adel_nodup _ _ h0⟩
    exact and_congr_left fun hk => not_congr (h2.mem_iff hi hk).symm

/-- the `assert(j != storeMap2_.end())` inside `invalidateFirst` never fires -/
theorem assertsFirst_true {op : BinOp κ₁ κ₂ β} (h : op.Inv) (x : κ₁) : op.assertsFirst x = true := by
  unfold assertsFirst
  cases hi : aget op.map1 x with
  | none => rfl
  | some items =>
    simp only [List.all_eq_true]
    intro it hit
    obtain ⟨l, hl, _⟩ := h.c2 it (h.s1 _ _ hi it hit).2
    simp [hl]

theorem assertsSecond_true {op : BinOp κ₁ κ₂ β} (h : op.Inv) (y : κ₂) : op.assertsSecond y = true := by
  unfold assertsSecond
  cases hi : aget op.map2 y with
  | none => rfl
  | some items =>
    simp only [List.all_eq_true]
    intro it hit
    obtain ⟨l, hl, _⟩ := h.c1 it (h.s2 _ _ hi it hit).2
    simp [hl]

theorem has_iff_mem_keys (op : BinOp κ₁ κ₂ β) (k : κ₁ × κ₂) : op.Has k ↔ k ∈ akeys op.store := by
  unfold Has akeys
  constructor
  · intro h
    cases hg : aget op.store k with
    | none => simp [hg] at h
    | some v => exact List.mem_map.2 ⟨_, aget_mem hg, rfl⟩
  · intro h
    rcases List.mem_map.1 h with ⟨⟨k', v⟩, hm, rfl⟩
    obtain ⟨v', hv'⟩ := aget_of_mem hm
    simp [hv']

/-- **(3)** in terms of the CONTENTS of the three containers: the entries listed by `storeMap1_` (`storeMap2_`) are exactly
    the entries of `store_`, each filed under its own first (second) component, each once -/
theorem Inv.exact_mem {op : BinOp κ₁ κ₂ β} (h : op.Inv) (k : κ₁ × κ₂) :
    (k ∈ akeys op.store ↔ ∃ l, (k.1, l) ∈ op.map1 ∧ k ∈ l) ∧ (k ∈ akeys op.store ↔ ∃ l, (k.2, l) ∈ op.map2 ∧ k ∈ l) := by
  rw [← has_iff_mem_keys]
  exact ⟨(Inv_iff.mp h).1.exact_mem k, (Inv_iff.mp h).2.1.exact_mem k⟩

theorem Inv.filed {op : BinOp κ₁ κ₂ β} (h : op.Inv) :
    (∀ x l, (x, l) ∈ op.map1 → l.Nodup ∧ ∀ k ∈ l, k.1 = x) ∧ (∀ y l, (y, l) ∈ op.map2 → l.Nodup ∧ ∀ k ∈ l, k.2 = y) :=
  ⟨fun _ _ hl => ⟨h.n1 _ _ (aget_of_mem_nodup h.k1 hl), fun k hk => (h.s1 _ _ (aget_of_mem_nodup h.k1 hl) k hk).1⟩,
   fun _ _ hl => ⟨h.n2 _ _ (aget_of_mem_nodup h.k2 hl), fun k hk => (h.s2 _ _ (aget_of_mem_nodup h.k2 hl) k hk).1⟩⟩

/-- what the library's deleter does to a table keyed by two addresses: `invalidateFirst(d); invalidateSecond(d)` -/
def purge {κ : Type} [DecidableEq κ] (op : BinOp κ κ β) (d : κ) : BinOp κ κ β := (op.invalidateFirst d).invalidateSecond d

theorem purge_inv {κ : Type} [DecidableEq κ] {op : BinOp κ κ β} (hi : op.Inv) (d : κ) : (op.purge d).Inv :=
  invalidateSecond_inv (invalidateFirst_inv hi d) d

/-- exactly the entries that mention `d` are gone -/
theorem purge_store {κ : Type} [DecidableEq κ] {op : BinOp κ κ β} (hi : op.Inv) (d : κ) (k : κ × κ) :
    aget (op.purge d).store k = if k.1 = d ∨ k.2 = d then none else aget op.store k := by
  rw [purge, invalidateSecond_store (invalidateFirst_inv hi d), invalidateFirst_store hi]
  by_cases h2 : k.2 = d <;> by_cases h1 : k.1 = d <;> simp [h1, h2]

end BinOp

section Sys
set_option linter.unusedSectionVars false
variable {α : Type} [DecidableEq α]

/-- representation invariant of the `Cache` together with all `shared_ptr`s that refer to it -/
structure HeapInv (s : Sys α) : Prop where
  /-- one object per value (`store_` is a map) -/
  u1 : ∀ e e', e ∈ s.store → e' ∈ s.store → e.1 = e'.1 → e = e'
  /-- one object per address -/
  u2 : ∀ e e', e ∈ s.store → e' ∈ s.store → e.2.1 = e'.2.1 → e = e'
  /-- the `use_count` of an object is the number of handles that point to it, and it is positive -/
  rc : ∀ v id n, (v, id, n) ∈ s.store → n = s.handles.count (some id) ∧ 0 < n
  /-- no dangling handle -/
  hl : ∀ id, some id ∈ s.handles → id ∈ ids s.store

/-- every entry of a memo table is about live objects and holds the value of the memoised function on them -/
structure Sound (c : Cfg α) (s : Sys α) : Prop where
  lte : ∀ a b r, aget s.lte.store (a, b) = some r →
    ∃ va na vb nb, (va, a, na) ∈ s.store ∧ (vb, b, nb) ∈ s.store ∧ r = c.F va vb
  ev : ∀ k b r, aget s.ev.store (k, b) = some r → ∃ vb nb, (vb, b, nb) ∈ s.store ∧ r = c.G k vb

/-- the invariant of all reachable states, also in the middle of a statement (`tmp` in use) -/
structure InvG (c : Cfg α) (s : Sys α) : Prop where
  heap : HeapInv s
  lte : s.lte.Inv
  ev : s.ev.Inv
  sound : c.wiring = .lib → Sound c s

/-- every entry of `st` is an entry of `st'` up to its `use_count`; the names below read it as an infix `sub` (`aset_sub`: `aset … ⊑ st`) -/
def StoreLe (st st' : List (α × Nat × Nat)) : Prop := ∀ v id n, (v, id, n) ∈ st → ∃ n', (v, id, n') ∈ st'

theorem StoreLe.refl (st : List (α × Nat × Nat)) : StoreLe st st := fun _ _ n h => ⟨n, h⟩

theorem StoreLe.trans {a b c : List (α × Nat × Nat)} (h1 : StoreLe a b) (h2 : StoreLe b c) : StoreLe a c :=
  fun v id n h => (h1 v id n h).elim fun n' h' => h2 v id n' h'

theorem adel_sub (st : List (α × Nat × Nat)) (v : α) : StoreLe (adel st v) st := fun _ _ r h => ⟨r, (mem_adel.1 h).1⟩

theorem aset_sub {st : List (α × Nat × Nat)} {v : α} {id rc : Nat} (hm : (v, id, rc) ∈ st) (n : Nat) :
    StoreLe (aset st v (id, n)) st := by
  intro w i r h
  rcases mem_aset.1 h with ⟨h, _⟩ | h
  · exact ⟨r, h⟩
  · cases h
    exact ⟨rc, hm⟩

theorem sub_aset {st : List (α × Nat × Nat)} {v : α} {id : Nat} (hv : ∀ x, (v, x) ∈ st → x.1 = id) (n : Nat) :
    StoreLe st (aset st v (id, n)) := by
  intro w i r hw
  by_cases e : w = v
  · subst e
    cases hv _ hw
    exact ⟨n, mem_aset.2 (Or.inr rfl)⟩
  · exact ⟨r, mem_aset.2 (Or.inl ⟨hw, e⟩)⟩

theorem Sound.mono {c : Cfg α} {s s' : Sys α} (h : Sound c s) (hle : StoreLe s.store s'.store) (e1 : s'.lte = s.lte)
    (e2 : s'.ev = s.ev) : Sound c s' := by
  constructor
  · intro a b r hr
    rw [e1] at hr
    obtain ⟨va, na, vb, nb, h1, h2, h3⟩ := h.lte a b r hr
    obtain ⟨na', h1'⟩ := hle _ _ _ h1
    obtain ⟨nb', h2'⟩ := hle _ _ _ h2
    exact ⟨va, na', vb, nb', h1', h2', h3⟩
  · intro k b r hr
    rw [e2] at hr
    obtain ⟨vb, nb, h1, h2⟩ := h.ev k b r hr
    obtain ⟨nb', h1'⟩ := hle _ _ _ h1
    exact ⟨vb, nb', h1', h2⟩

theorem mem_ids {st : List (α × Nat × Nat)} {id : Nat} : id ∈ ids st ↔ ∃ v n, (v, id, n) ∈ st := by
  unfold ids
  constructor
  · intro h
    rcases List.mem_map.1 h with ⟨⟨v, i, n⟩, he, rfl⟩
    exact ⟨v, n, he⟩
  · rintro ⟨v, n, h⟩
    exact List.mem_map.2 ⟨_, h, rfl⟩

theorem byId_mem {st : List (α × Nat × Nat)} {id : Nat} {v : α} {n : Nat} (h : byId st id = some (v, n)) : (v, id, n) ∈ st := by
  obtain ⟨⟨v', id', n'⟩, he, hf⟩ := List.mem_map.1 (aget_mem h)
  cases hf
  exact he

/-- a cache map `value ↦ (address, use_count)` consistent with the holder count `cnt`: one entry per value and per address, the
count of an entry is `cnt` of its address and positive, every address `cnt` counts has an entry.  `HeapInv` (holders = the
handles of the client) and `StoreI.CInv` (holders = a multiset of `TuplePtr`s) are instances. -/
structure Counted (st : List (α × Nat × Nat)) (cnt : Nat → Nat) : Prop where
  fk : ∀ v x y, (v, x) ∈ st → (v, y) ∈ st → x = y
  fid : ∀ v v' id n n', (v, id, n) ∈ st → (v', id, n') ∈ st → v = v'
  rc : ∀ v id n, (v, id, n) ∈ st → n = cnt id ∧ 0 < n
  live : ∀ id, 0 < cnt id → ∃ v n, (v, id, n) ∈ st

/-- `cnt'` counts one holder of `id` more than `cnt` -/
def OneMore (cnt cnt' : Nat → Nat) (id : Nat) : Prop := cnt' id = cnt id + 1 ∧ ∀ i, i ≠ id → cnt' i = cnt i

theorem oneMore_cons (R : List Nat) (p : Nat) : OneMore (fun i => R.count i) (fun i => (p :: R).count i) p :=
  ⟨List.count_cons_self, fun _ hi => List.count_cons_of_ne (Ne.symm hi)⟩

theorem oneMore_tmp (sl : List (Option Nat)) (p : Nat) :
    OneMore (fun i => (none :: sl).count (some i)) (fun i => (some p :: sl).count (some i)) p :=
  ⟨by simp, fun i hi => by simp [Ne.symm hi]⟩

namespace Counted
variable {st : List (α × Nat × Nat)} {cnt cnt' : Nat → Nat} {v : α} {id n : Nat}

theorem congr (h : Counted st cnt) (hc : ∀ id, cnt' id = cnt id) : Counted st cnt' :=
  ⟨h.fk, h.fid, fun v id n hm => hc id ▸ h.rc v id n hm, fun id hid => h.live id (hc id ▸ hid)⟩

theorem aget_iff (h : Counted st cnt) {x : Nat × Nat} : aget st v = some x ↔ (v, x) ∈ st :=
  ⟨aget_mem, fun hm => by
    obtain ⟨y, hy⟩ := aget_of_mem hm
    rw [hy, h.fk _ _ _ (aget_mem hy) hm]⟩

theorem byId_iff (h : Counted st cnt) : byId st id = some (v, n) ↔ (v, id, n) ∈ st := by
  refine ⟨byId_mem, fun hm => ?_⟩
  · unfold byId
    obtain ⟨x, hx⟩ := aget_of_mem (List.mem_map.2 ⟨_, hm, rfl⟩ : (id, (v, n)) ∈ st.map fun e => (e.2.1, (e.1, e.2.2)))
    obtain ⟨⟨v', id', n'⟩, he, hf⟩ := List.mem_map.1 (aget_mem hx)
    cases hf
    cases h.fid _ _ _ _ _ he hm
    cases h.fk _ _ _ he hm
    exact hx

/-- without holders there are no entries: the `assert(this->empty())` of `~Cache()` -/
theorem eq_nil (h : Counted st fun _ => 0) : st = [] :=
  List.eq_nil_iff_forall_not_mem.2 fun ⟨v, id, n⟩ hm => absurd (h.rc v id n hm).2 ((h.rc v id n hm).1 ▸ Nat.lt_irrefl 0)

/-- two entries hold equal values iff they have the same address -/
theorem tuple_eq_iff_id_eq (h : Counted st cnt) {v' : α} {id' n' : Nat} (hm : (v, id, n) ∈ st) (hm' : (v', id', n') ∈ st) :
    v = v' ↔ id = id' :=
  ⟨fun e => (Prod.mk.inj (h.fk _ _ _ hm (e ▸ hm'))).1, fun e => h.fid _ _ _ _ _ hm (e ▸ hm')⟩

/-- The entry of `v` is written (created, or its count changed) at address `id`: `id` is the address `v` has if it has one
(`hv`), nobody else has it (`hid`), the new count is what `cnt'` says, and `cnt'` differs from `cnt` at `id` only. -/
theorem write (h : Counted st cnt) (hv : ∀ x, (v, x) ∈ st → x.1 = id) (hid : ∀ w m, (w, id, m) ∈ st → w = v)
    (hn : n = cnt' id ∧ 0 < n) (hc : ∀ i, i ≠ id → cnt' i = cnt i) : Counted (aset st v (id, n)) cnt' := by
  refine ⟨?_, ?_, ?_, ?_⟩
  · intro w x y hx hy
    rcases mem_aset.1 hx with ⟨hx, nx⟩ | hx <;> rcases mem_aset.1 hy with ⟨hy, ny⟩ | hy
    · exact h.fk _ _ _ hx hy
    · exact absurd (congrArg Prod.fst hy) nx
    · exact absurd (congrArg Prod.fst hx) ny
    · exact (congrArg Prod.snd hx).trans (congrArg Prod.snd hy).symm
  · intro w w' i r r' hx hy
    rcases mem_aset.1 hx with ⟨hx, nx⟩ | hx <;> rcases mem_aset.1 hy with ⟨hy, ny⟩ | hy
    · exact h.fid _ _ _ _ _ hx hy
    · cases hy
      exact absurd (hid _ _ hx) nx
    · cases hx
      exact absurd (hid _ _ hy) ny
    · exact (congrArg Prod.fst hx).trans (congrArg Prod.fst hy).symm
  · intro w i r hx
    rcases mem_aset.1 hx with ⟨hx, nx⟩ | hx
    · rw [hc i fun e => nx (hid w r (e ▸ hx))]
      exact h.rc _ _ _ hx
    · cases hx
      exact hn
  · intro i hi
    by_cases e : i = id
    · exact ⟨v, n, mem_aset.2 (Or.inr (by rw [e]))⟩
    · obtain ⟨w, r, hw⟩ := h.live i (hc i e ▸ hi)
      exact ⟨w, r, mem_aset.2 (Or.inl ⟨hw, fun (e' : w = v) => e (hv _ (e' ▸ hw))⟩)⟩

theorem erase (h : Counted st cnt) (hm : (v, id, n) ∈ st) (h0 : cnt' id = 0) (hc : ∀ i, i ≠ id → cnt' i = cnt i) :
    Counted (adel st v) cnt' := by
  refine ⟨fun w x y hx hy => h.fk _ _ _ (mem_adel.1 hx).1 (mem_adel.1 hy).1,
    fun w w' i r r' hx hy => h.fid _ _ _ _ _ (mem_adel.1 hx).1 (mem_adel.1 hy).1, ?_, ?_⟩
  · intro w i r hx
    obtain ⟨hx, nx⟩ := mem_adel.1 hx
    rw [hc i fun e => nx (h.fid _ _ _ _ _ hx (e ▸ hm))]
    exact h.rc _ _ _ hx
  · intro i hi
    have e : i ≠ id := fun e => by rw [e, h0] at hi; exact Nat.lt_irrefl 0 hi
    obtain ⟨w, r, hw⟩ := h.live i (hc i e ▸ hi)
    exact ⟨w, r, mem_adel.2 ⟨hw, fun (e' : w = v) => e (congrArg Prod.fst (h.fk _ _ _ (e' ▸ hw) hm))⟩⟩

/-- one more holder of an existing entry -/
theorem bump (h : Counted st cnt) (hm : (v, id, n) ∈ st) (hc : OneMore cnt cnt' id) : Counted (aset st v (id, n + 1)) cnt' :=
  h.write (fun x hx => by rw [h.fk _ _ _ hx hm]) (fun w m hw => h.fid _ _ _ _ _ hw hm)
    ⟨by rw [hc.1, (h.rc _ _ _ hm).1], Nat.succ_pos _⟩ hc.2

/-- the first holder of a new entry, at an address no entry has -/
theorem fresh (h : Counted st cnt) {ch : Nat} (hv : aget st v = none) (hch : ch ∉ ids st) (hc : OneMore cnt cnt' ch) :
    Counted (aset st v (ch, 1)) cnt' := by
  have h0 : cnt ch = 0 := Nat.eq_zero_of_not_pos fun hp => (h.live ch hp).elim fun w ⟨m, hw⟩ => hch (mem_ids.2 ⟨w, m, hw⟩)
  exact h.write (fun x hx => by rw [h.aget_iff.2 hx] at hv; cases hv) (fun w m hw => absurd (mem_ids.2 ⟨w, m, hw⟩) hch)
    ⟨by rw [hc.1, h0], Nat.one_pos⟩ hc.2

/-- one holder fewer: the count goes down, the last holder takes the entry with it -/
theorem drop (h : Counted st cnt') (hm : (v, id, n) ∈ st) (hc : OneMore cnt cnt' id) :
    Counted (if n ≤ 1 then adel st v else aset st v (id, n - 1)) cnt := by
  have hn := (h.rc _ _ _ hm).1
  have hc' : ∀ i, i ≠ id → cnt i = cnt' i := fun i hi => (hc.2 i hi).symm
  split
  · exact h.erase hm (by have := hc.1; omega) hc'
  · exact h.write (fun x hx => by rw [h.fk _ _ _ hx hm]) (fun w m hw => h.fid _ _ _ _ _ hw hm)
      ⟨by have := hc.1; omega, by omega⟩ hc'

end Counted

theorem heapInv_iff {s : Sys α} : HeapInv s ↔ Counted s.store fun id => s.handles.count (some id) := by
  constructor
  · intro h
    exact ⟨fun v x y hx hy => congrArg Prod.snd (h.u1 _ _ hx hy rfl),
      fun v v' id n n' hx hy => congrArg Prod.fst (h.u2 _ _ hx hy rfl), h.rc,
      fun id hid => mem_ids.1 (h.hl id (List.count_pos_iff.1 hid))⟩
  · intro h
    refine ⟨fun e e' he he' hee => ?_, fun e e' he he' hee => ?_, h.rc,
      fun id hid => mem_ids.2 (h.live id (List.count_pos_iff.2 hid))⟩
    · obtain ⟨v, x⟩ := e
      obtain ⟨v', y⟩ := e'
      cases (hee : v = v')
      rw [h.fk _ _ _ he he']
    · obtain ⟨v, i, n⟩ := e
      obtain ⟨v', i', n'⟩ := e'
      cases (hee : i = i')
      cases h.fid _ _ _ _ _ he he'
      rw [h.fk _ _ _ he he']

theorem aget_store_iff {s : Sys α} (h : HeapInv s) {v : α} {x : Nat × Nat} : aget s.store v = some x ↔ (v, x) ∈ s.store :=
  (heapInv_iff.1 h).aget_iff

theorem byId_iff {s : Sys α} (h : HeapInv s) {id : Nat} {v : α} {n : Nat} :
    byId s.store id = some (v, n) ↔ (v, id, n) ∈ s.store :=
  (heapInv_iff.1 h).byId_iff

/-- between two statements the temporary is empty and does not count -/
theorem count_handles {s : Sys α} (ht : s.tmp = none) (id : Nat) : s.handles.count (some id) = s.slots.count (some id) := by
  simp [Sys.handles, ht]

theorem byId_none_iff {s : Sys α} (h : HeapInv s) {id : Nat} : byId s.store id = none ↔ id ∉ ids s.store := by
  constructor
  · intro hn hm
    obtain ⟨v, n, hv⟩ := mem_ids.1 hm
    rw [(byId_iff h).2 hv] at hn; cases hn
  · intro hn
    cases hb : byId s.store id with
    | none => rfl
    | some x =>
      obtain ⟨v, n⟩ := x
      exact absurd (mem_ids.2 ⟨v, n, (byId_iff h).1 hb⟩) hn

theorem perm_swap {β : Type} (t : β) (l : List β) (i : Nat) (x : β) (h : l[i]? = some x) :
    (x :: l.set i t).Perm (t :: l) := by
  induction l generalizing i with
  | nil => simp at h
  | cons a l ih =>
    cases i with
    | zero =>
      simp at h; subst h
      exact List.Perm.swap _ _ _
    | succ i =>
      simp at h
      exact ((List.Perm.swap _ _ _).trans ((ih i h).cons a)).trans (List.Perm.swap _ _ _)

/-- one more handle (the temporary) to an existing object -/
theorem InvG.bump {c : Cfg α} {s : Sys α} (h : InvG c s) (ht : s.tmp = none) {v : α} {id n : Nat} (hm : (v, id, n) ∈ s.store) :
    InvG c { s with store := aset s.store v (id, n + 1), tmp := some id } := by
  have hc := heapInv_iff.1 h.heap
  rw [Sys.handles, ht] at hc
  exact ⟨heapInv_iff.2 (hc.bump hm (oneMore_tmp s.slots id)), h.lte, h.ev,
    fun hw => (h.sound hw).mono (sub_aset (fun x hx => by rw [hc.fk _ _ _ hx hm]) _) rfl rfl⟩

/-- a new object at an address no live object has -/
theorem InvG.fresh {c : Cfg α} {s : Sys α} (h : InvG c s) (ht : s.tmp = none) {v : α} {ch : Nat} (hv : aget s.store v = none)
    (hc : ch ∉ ids s.store) : InvG c { s with store := aset s.store v (ch, 1), tmp := some ch } := by
  have hh := heapInv_iff.1 h.heap
  rw [Sys.handles, ht] at hh
  exact ⟨heapInv_iff.2 (hh.fresh hv hc (oneMore_tmp s.slots ch)), h.lte, h.ev,
    fun hw => (h.sound hw).mono (sub_aset (fun x hx => by rw [hh.aget_iff.2 hx] at hv; cases hv) _) rfl rfl⟩

/-- the temporary dies: its object loses a handle, and is erased from `store_` with the last one -/
theorem HeapInv.drop {s : Sys α} (h : HeapInv s) {id : Nat} (ht : s.tmp = some id) {v : α} {n : Nat} (hm : (v, id, n) ∈ s.store) :
    HeapInv { s with store := if n ≤ 1 then adel s.store v else aset s.store v (id, n - 1), tmp := none } := by
  have hc := heapInv_iff.1 h
  rw [Sys.handles, ht] at hc
  exact heapInv_iff.2 (hc.drop hm (oneMore_tmp s.slots id))

/-- `tmp.swap(slot[i])` -/
theorem HeapInv.swap {s : Sys α} (h : HeapInv s) {i : Nat} {x : Option Nat} (hi : s.slots[i]? = some x) :
    HeapInv { s with slots := s.slots.set i s.tmp, tmp := x } := by
  have hp : (x :: s.slots.set i s.tmp).Perm (s.tmp :: s.slots) := perm_swap _ _ _ _ hi
  refine ⟨h.u1, h.u2, fun v id n hm => ?_, fun id hid => h.hl id (hp.mem_iff.1 hid)⟩
  have := h.rc v id n hm
  simp only [Sys.handles] at this ⊢
  rw [hp.count_eq]; exact this

theorem HeapInv.congr {s s' : Sys α} (h : HeapInv s) (e1 : s'.store = s.store) (e2 : s'.tmp = s.tmp)
    (e3 : s'.slots = s.slots) : HeapInv s' := by
  obtain ⟨st, t, sl, l, e⟩ := s'
  simp only at e1 e2 e3
  subst e1 e2 e3
  exact ⟨h.u1, h.u2, h.rc, h.hl⟩

theorem intern_inv {c : Cfg α} {s s' : Sys α} {v : α} {ch id : Nat} (h : InvG c s) (hi : intern s v ch = some (s', id)) :
    InvG c s' ∧ s'.tmp = some id ∧ s'.slots = s.slots := by
  unfold intern at hi
  cases ht : s.tmp with
  | some t => rw [ht] at hi; cases hi
  | none =>
    rw [ht] at hi
    cases hv : aget s.store v with
    | some x =>
      rw [hv] at hi
      cases hi
      exact ⟨h.bump ht ((aget_store_iff h.heap).1 hv), rfl, rfl⟩
    | none =>
      rw [hv] at hi
      by_cases hc : ch ∈ ids s.store
      · rw [if_pos hc] at hi; cases hi
      · rw [if_neg hc] at hi
        cases hi
        exact ⟨h.fresh ht hv hc, rfl, rfl⟩

theorem findTmp_inv {c : Cfg α} {s s' : Sys α} {v : α} {r : Option Nat} (h : InvG c s) (hi : findTmp s v = some (s', r)) :
    InvG c s' ∧ s'.slots = s.slots := by
  unfold findTmp at hi
  cases ht : s.tmp with
  | some t => rw [ht] at hi; cases hi
  | none =>
    rw [ht] at hi
    cases hv : aget s.store v with
    | some x =>
      rw [hv] at hi
      cases hi
      exact ⟨h.bump ht ((aget_store_iff h.heap).1 hv), rfl⟩
    | none =>
      rw [hv] at hi
      cases hi
      exact ⟨h, rfl⟩

theorem dupTmp_inv {c : Cfg α} {s s' : Sys α} {i : Nat} (h : InvG c s) (hi : dupTmp s i = some s') :
    InvG c s' ∧ s'.slots = s.slots := by
  unfold dupTmp at hi
  cases ht : s.tmp with
  | some t => rw [ht] at hi; cases hi
  | none =>
    rw [ht] at hi
    match hs : s.slots[i]?, hi with
    | some none, hi => cases hi; exact ⟨h, rfl⟩
    | some (some id), hi =>
      simp only at hi
      cases hb : byId s.store id with
      | none => rw [hb] at hi; cases hi
      | some y =>
        rw [hb] at hi
        cases hi
        exact ⟨h.bump ht ((byId_iff h.heap).1 hb), rfl⟩

theorem swapTmp_inv {c : Cfg α} {s s' : Sys α} {i : Nat} (h : InvG c s) (hi : swapTmp s i = some s') :
    InvG c s' ∧ s'.store = s.store ∧ ∀ id, s'.tmp = some id → some id ∈ s.slots := by
  unfold swapTmp at hi
  cases hs : s.slots[i]? with
  | none => rw [hs] at hi; cases hi
  | some x =>
    rw [hs] at hi
    cases hi
    exact ⟨⟨h.heap.swap hs, h.lte, h.ev, fun hw => (h.sound hw).mono (fun v id n hm => ⟨n, hm⟩) rfl rfl⟩, rfl,
      fun id ht => List.mem_of_getElem? ((show x = some id from ht) ▸ hs)⟩

theorem userDeleter_store (w : Wiring) (s : Sys α) (id : Nat) :
    (userDeleter w s id).store = s.store ∧ (userDeleter w s id).tmp = s.tmp ∧ (userDeleter w s id).slots = s.slots := by
  cases w <;> exact ⟨rfl, rfl, rfl⟩

theorem userDeleter_tabs (w : Wiring) {s : Sys α} (hl : s.lte.Inv) (he : s.ev.Inv) (id : Nat) :
    (userDeleter w s id).lte.Inv ∧ (userDeleter w s id).ev.Inv := by
  cases w
  · exact ⟨BinOp.invalidateSecond_inv (BinOp.invalidateFirst_inv hl id) id, BinOp.invalidateSecond_inv he id⟩
  · exact ⟨BinOp.invalidateFirst_inv (BinOp.invalidateFirst_inv hl id) id, BinOp.invalidateSecond_inv he id⟩
  · exact ⟨hl, he⟩

/-- after the library's deleter no entry mentions the dying address (the heart of memo soundness) -/
theorem userDeleter_lib_keys {s : Sys α} (hl : s.lte.Inv) (he : s.ev.Inv) (id : Nat) :
    (∀ a b r, aget (userDeleter .lib s id).lte.store (a, b) = some r → a ≠ id ∧ b ≠ id ∧ aget s.lte.store (a, b) = some r) ∧
    (∀ k b r, aget (userDeleter .lib s id).ev.store (k, b) = some r → b ≠ id ∧ aget s.ev.store (k, b) = some r) := by
  refine ⟨fun a b r hr => ?_, fun k b r hr => ?_⟩
  · have hr' : aget (s.lte.purge id).store (a, b) = some r := hr
    rw [BinOp.purge_store hl] at hr'
    split at hr'
    · cases hr'
    · next hn => exact ⟨fun e => hn (.inl e), fun e => hn (.inr e), hr'⟩
  · have hr' : aget (s.ev.invalidateSecond id).store (k, b) = some r := hr
    rw [BinOp.invalidateSecond_store he] at hr'
    split at hr'
    · cases hr'
    · next hn => exact ⟨hn, hr'⟩

/-- the temporary dies.  With the last handle the entry goes and the deleter runs: this is where `Sound` needs the library's wiring
    (`userDeleter_lib_keys`: no memo entry mentions the address that is now free) -/
theorem dropTmp_inv {c : Cfg α} {s : Sys α} (h : InvG c s) :
    InvG c (dropTmp c.wiring s) ∧ (dropTmp c.wiring s).tmp = none := by
  unfold dropTmp
  cases ht : s.tmp with
  | none => exact ⟨h, ht⟩
  | some id =>
    simp only
    have hlive : id ∈ ids s.store := h.heap.hl id (by simp [Sys.handles, ht])
    cases hb : byId s.store id with
    | none => exact absurd hlive ((byId_none_iff h.heap).1 hb)
    | some y =>
      obtain ⟨v, n⟩ := y
      have hm := (byId_iff h.heap).1 hb
      simp only
      by_cases hn : n ≤ 1
      · rw [if_pos hn]
        obtain ⟨es, et, esl⟩ := userDeleter_store c.wiring s id
        obtain ⟨il, ie⟩ := userDeleter_tabs c.wiring h.lte h.ev id
        have hd := h.heap.drop ht hm
        rw [if_pos hn] at hd
        refine ⟨⟨hd.congr (by simp only [es]) rfl esl, il, ie, fun hw => ?_⟩, rfl⟩
        have hS := h.sound hw
        rw [hw]
        obtain ⟨k1, k2⟩ := userDeleter_lib_keys (s := s) h.lte h.ev id
        have keep : ∀ v' a n', (v', a, n') ∈ s.store → a ≠ id → (v', a, n') ∈ adel s.store v :=
          fun v' a n' hm' ha => mem_adel.2 ⟨hm', fun e => ha (congrArg (·.2.1) (h.heap.u1 _ _ hm' hm e))⟩
        constructor
        · intro a b r hr
          obtain ⟨ha, hb, hr'⟩ := k1 a b r hr
          obtain ⟨va, na, vb, nb, h1, h2, h3⟩ := hS.lte a b r hr'
          exact ⟨va, na, vb, nb, keep _ _ _ h1 ha, keep _ _ _ h2 hb, h3⟩
        · intro k b r hr
          obtain ⟨hb, hr'⟩ := k2 k b r hr
          obtain ⟨vb, nb, h1, h2⟩ := hS.ev k b r hr'
          exact ⟨vb, nb, keep _ _ _ h1 hb, h2⟩
      · rw [if_neg hn]
        have hd := h.heap.drop ht hm
        rw [if_neg hn] at hd
        exact ⟨⟨hd, h.lte, h.ev, fun hw => (h.sound hw).mono (sub_aset (fun x hx =>
          congrArg Prod.fst ((heapInv_iff.1 h.heap).fk _ _ _ hx hm)) _) rfl rfl⟩, rfl⟩

theorem slotId_eq {s : Sys α} {i a : Nat} : slotId s i = some a ↔ s.slots[i]? = some (some a) := by
  unfold slotId
  cases h : s.slots[i]? with
  | none => simp
  | some x => cases x <;> simp

theorem slotId_live {s : Sys α} (h : HeapInv s) {i a : Nat} (hs : slotId s i = some a) : ∃ v n, (v, a, n) ∈ s.store :=
  mem_ids.1 (h.hl a (List.mem_cons_of_mem _ (List.mem_of_getElem? (slotId_eq.1 hs))))

theorem derefF_eq {c : Cfg α} {s : Sys α} (h : HeapInv s) {a b : Nat} {va vb : α} {na nb : Nat}
    (ha : (va, a, na) ∈ s.store) (hb : (vb, b, nb) ∈ s.store) : derefF c s a b = c.F va vb := by
  unfold derefF
  rw [(byId_iff h).2 ha, (byId_iff h).2 hb]

theorem derefG_eq {c : Cfg α} {s : Sys α} (h : HeapInv s) {k : Nat × Nat} {b : Nat} {vb : α} {nb : Nat}
    (hb : (vb, b, nb) ∈ s.store) : derefG c s k b = c.G k vb := by
  unfold derefG
  rw [(byId_iff h).2 hb]

/-- `lteCache.lookup(a, b, f)` on two live objects: the invariant is kept and the answer is `F` of the two values -/
theorem lte_lookup_inv {c : Cfg α} {s : Sys α} (h : InvG c s) {a b : Nat} {va vb : α} {na nb : Nat}
    (ha : (va, a, na) ∈ s.store) (hb : (vb, b, nb) ∈ s.store) :
    InvG c { s with lte := (s.lte.lookup a b (derefF c s)).1 } ∧
      (c.wiring = .lib → (s.lte.lookup a b (derefF c s)).2 = c.F va vb) := by
  obtain ⟨hans, hall⟩ := BinOp.lookup_sound (P := fun k r => c.wiring = .lib →
      ∃ va na vb nb, (va, k.1, na) ∈ s.store ∧ (vb, k.2, nb) ∈ s.store ∧ r = c.F va vb)
    s.lte a b (derefF c s) (fun k r hr hw => (h.sound hw).lte k.1 k.2 r hr)
    (fun _ => ⟨va, na, vb, nb, ha, hb, derefF_eq h.heap ha hb⟩)
  refine ⟨⟨h.heap.congr rfl rfl rfl, BinOp.lookup_inv h.lte _ _ _, h.ev,
    fun hw => ⟨fun a' b' r hr => hall (a', b') r hr hw, (h.sound hw).ev⟩⟩, fun hw => ?_⟩
  obtain ⟨va', na', vb', nb', h1, h2, h3⟩ := hans hw
  cases h.heap.u2 _ _ h1 ha rfl
  cases h.heap.u2 _ _ h2 hb rfl
  exact h3

theorem ev_lookup_inv {c : Cfg α} {s : Sys α} (h : InvG c s) {k : Nat × Nat} {b : Nat} {vb : α} {nb : Nat}
    (hb : (vb, b, nb) ∈ s.store) :
    InvG c { s with ev := (s.ev.lookup k b (derefG c s)).1 } ∧
      (c.wiring = .lib → (s.ev.lookup k b (derefG c s)).2 = c.G k vb) := by
  obtain ⟨hans, hall⟩ := BinOp.lookup_sound (P := fun k r => c.wiring = .lib →
      ∃ vb nb, (vb, k.2, nb) ∈ s.store ∧ r = c.G k.1 vb)
    s.ev k b (derefG c s) (fun k r hr hw => (h.sound hw).ev k.1 k.2 r hr) (fun _ => ⟨vb, nb, hb, derefG_eq h.heap hb⟩)
  refine ⟨⟨h.heap.congr rfl rfl rfl, h.lte, BinOp.lookup_inv h.ev _ _ _,
    fun hw => ⟨(h.sound hw).lte, fun k' b' r hr => hall (k', b') r hr hw⟩⟩, fun hw => ?_⟩
  obtain ⟨vb', nb', h2, h3⟩ := hans hw
  cases h.heap.u2 _ _ h2 hb rfl
  exact h3

/-- memo tables that only lose entries, over the same cache and handles (an invalidation) -/
theorem InvG.shrink {c : Cfg α} {s s' : Sys α} (h : InvG c s) (e1 : s'.store = s.store) (e2 : s'.tmp = s.tmp)
    (e3 : s'.slots = s.slots) (il : s'.lte.Inv) (ie : s'.ev.Inv)
    (hl : ∀ k r, aget s'.lte.store k = some r → aget s.lte.store k = some r)
    (he : ∀ k r, aget s'.ev.store k = some r → aget s.ev.store k = some r) : InvG c s' :=
  ⟨h.heap.congr e1 e2 e3, il, ie, fun hw =>
    ⟨fun a b r hr => e1 ▸ (h.sound hw).lte a b r (hl _ _ hr), fun k b r hr => e1 ▸ (h.sound hw).ev k b r (he _ _ hr)⟩⟩

/-- the invariant between two statements -/
def Inv (c : Cfg α) (s : Sys α) : Prop := InvG c s ∧ s.tmp = none

theorem init_inv (c : Cfg α) (n : Nat) : Inv c (Sys.init α n) := by
  refine ⟨⟨⟨?_, ?_, ?_, ?_⟩, BinOp.empty_inv, BinOp.empty_inv, fun _ => ⟨?_, ?_⟩⟩, rfl⟩
  · intro e e' he; simp [Sys.init] at he
  · intro e e' he; simp [Sys.init] at he
  · intro v id k he; simp [Sys.init] at he
  · intro id hid
    simp [Sys.init, Sys.handles] at hid
  · intro a b r hr; simp [Sys.init, aget] at hr
  · intro k b r hr; simp [Sys.init, aget] at hr

/-- the first half of a statement that moves a handle: the temporary is built; with it, the variable it is then swapped with and
the answer of the statement -/
def acquire (s : Sys α) : Op α → Option (Sys α × Nat × Ans)
  | .lookup i v ch => (intern s v ch).map fun p => (p.1, i, .ptr (some p.2))
  | .find i v => (findTmp s v).map fun p => (p.1, i, .ptr p.2)
  | .copy src dst => (dupTmp s src).map fun s₁ => (s₁, dst, .unit)
  | .release i => match s.tmp with | none => some (s, i, .unit) | some _ => none
  | _ => none

/-- … the second half: `tmp.swap(slot[i])`, then the temporary is destroyed.  The other statements do not touch a handle, so the
wiring of the deleter plays no role in them -/
theorem step_eq (c : Cfg α) (s : Sys α) (op : Op α) (w : Wiring) :
    step { c with wiring := w } s op =
      match acquire s op with
      | some p => (swapTmp p.1 p.2.1).map fun s₂ => (dropTmp w s₂, p.2.2)
      | none => step c s op := by
  cases op with
  | lookup i v ch =>
    simp only [step, acquire]
    cases intern s v ch with
    | none => rfl
    | some p =>
      obtain ⟨s₁, id⟩ := p
      dsimp only [Option.map]
      cases swapTmp s₁ i <;> rfl
  | find i v =>
    simp only [step, acquire]
    cases findTmp s v with
    | none => rfl
    | some p =>
      obtain ⟨s₁, r⟩ := p
      dsimp only [Option.map]
      cases swapTmp s₁ i <;> rfl
  | copy src dst =>
    simp only [step, acquire]
    cases dupTmp s src with
    | none => rfl
    | some s₁ =>
      dsimp only [Option.map]
      cases swapTmp s₁ dst <;> rfl
  | release i =>
    simp only [step, acquire]
    cases s.tmp with
    | some t => rfl
    | none =>
      dsimp only
      cases swapTmp s i <;> rfl
  | _ => rfl

theorem acquire_inv {c : Cfg α} {s : Sys α} {op : Op α} {p : Sys α × Nat × Ans} (h : InvG c s)
    (hp : acquire s op = some p) : InvG c p.1 ∧ p.1.slots = s.slots := by
  cases op with
  | lookup i v ch =>
    obtain ⟨q, hq, rfl⟩ := Option.map_eq_some_iff.mp hp
    exact ⟨(intern_inv h hq).1, (intern_inv h hq).2.2⟩
  | find i v =>
    obtain ⟨q, hq, rfl⟩ := Option.map_eq_some_iff.mp hp
    exact findTmp_inv h hq
  | copy src dst =>
    obtain ⟨q, hq, rfl⟩ := Option.map_eq_some_iff.mp hp
    exact dupTmp_inv h hq
  | release i =>
    simp only [acquire] at hp
    split at hp
    · cases hp; exact ⟨h, rfl⟩
    · cases hp
  | _ => cases hp

/-- the statement `lteCache.lookup(x.get(), y.get(), noncachedLte)` -/
theorem step_memo {c : Cfg α} {s s' : Sys α} {i j : Nat} {ans : Ans} (hs : step c s (.memo i j) = some (s', ans)) :
    ∃ a b, slotId s i = some a ∧ slotId s j = some b ∧ s' = { s with lte := (s.lte.lookup a b (derefF c s)).1 } ∧
      ans = .bool (s.lte.lookup a b (derefF c s)).2 := by
  simp only [step] at hs
  cases h1 : slotId s i with
  | none => rw [h1] at hs; cases hs
  | some a =>
    cases h2 : slotId s j with
    | none => rw [h1, h2] at hs; cases hs
    | some b => rw [h1, h2] at hs; cases hs; exact ⟨a, b, rfl, rfl, rfl, rfl⟩

/-- the library's `lte`: the same pointer, or the memoised comparison -/
theorem step_lte {c : Cfg α} {s s' : Sys α} {i j : Nat} {ans : Ans} (hs : step c s (.lte i j) = some (s', ans)) :
    (∃ a, slotId s i = some a ∧ slotId s j = some a ∧ s' = s ∧ ans = .bool true) ∨
      step c s (.memo i j) = some (s', ans) := by
  simp only [step] at hs ⊢
  cases h1 : slotId s i with
  | none => rw [h1] at hs; cases hs
  | some a =>
    cases h2 : slotId s j with
    | none => rw [h1, h2] at hs; cases hs
    | some b =>
      rw [h1, h2] at hs
      dsimp only at hs ⊢
      by_cases hab : a = b
      · rw [if_pos hab] at hs; cases hs; exact .inl ⟨a, rfl, hab ▸ rfl, rfl, rfl⟩
      · rw [if_neg hab] at hs; exact .inr hs

/-- the statement `evalTransitionsCache.lookup(k, x.get(), noncachedEval)` -/
theorem step_eval {c : Cfg α} {s s' : Sys α} {k : Nat × Nat} {i : Nat} {ans : Ans}
    (hs : step c s (.eval k i) = some (s', ans)) :
    ∃ b, slotId s i = some b ∧ s' = { s with ev := (s.ev.lookup k b (derefG c s)).1 } ∧
      ans = .nat (s.ev.lookup k b (derefG c s)).2 := by
  simp only [step] at hs
  cases h1 : slotId s i with
  | none => rw [h1] at hs; cases hs
  | some b => rw [h1] at hs; cases hs; exact ⟨b, rfl, rfl, rfl⟩

theorem slot_obj {s : Sys α} (h : HeapInv s) {i a : Nat} (hs : slotId s i = some a) :
    ∃ v n, (v, a, n) ∈ s.store ∧ s.slots[i]? = some (some a) ∧ byId s.store a = some (v, n) := by
  obtain ⟨v, n, hm⟩ := slotId_live h hs
  exact ⟨v, n, hm, slotId_eq.1 hs, (byId_iff h).2 hm⟩

theorem BinOp.invalidateFirst_sub {κ₁ κ₂ β : Type} [DecidableEq κ₁] [DecidableEq κ₂] {op : BinOp κ₁ κ₂ β} (h : op.Inv) (x : κ₁)
    (k : κ₁ × κ₂) (r : β) (hr : aget (op.invalidateFirst x).store k = some r) : aget op.store k = some r := by
  rw [BinOp.invalidateFirst_store h] at hr
  split at hr
  · cases hr
  · exact hr

theorem BinOp.invalidateSecond_sub {κ₁ κ₂ β : Type} [DecidableEq κ₁] [DecidableEq κ₂] {op : BinOp κ₁ κ₂ β} (h : op.Inv) (y : κ₂)
    (k : κ₁ × κ₂) (r : β) (hr : aget (op.invalidateSecond y).store k = some r) : aget op.store k = some r := by
  rw [BinOp.invalidateSecond_store h] at hr
  split at hr
  · cases hr
  · exact hr

theorem step_inv {c : Cfg α} {s s' : Sys α} {op : Op α} {a : Ans} (h : Inv c s) (hs : step c s op = some (s', a)) :
    Inv c s' := by
  obtain ⟨hg, ht⟩ := h
  have he := step_eq c s op c.wiring
  cases hp : acquire s op with
  | some p =>
    rw [hp] at he
    obtain ⟨s₂, h2, e⟩ := Option.map_eq_some_iff.mp (he.symm.trans hs)
    cases e
    exact dropTmp_inv (swapTmp_inv (acquire_inv hg hp).1 h2).1
  | none =>
    cases op with
    | memo i j =>
      obtain ⟨x, y, h1, h2, rfl, -⟩ := step_memo hs
      obtain ⟨va, na, ha, -⟩ := slot_obj hg.heap h1
      obtain ⟨vb, nb, hb, -⟩ := slot_obj hg.heap h2
      exact ⟨(lte_lookup_inv hg ha hb).1, ht⟩
    | lte i j =>
      rcases step_lte hs with ⟨x, -, -, rfl, -⟩ | hm
      · exact ⟨hg, ht⟩
      · obtain ⟨x, y, h1, h2, rfl, -⟩ := step_memo hm
        obtain ⟨va, na, ha, -⟩ := slot_obj hg.heap h1
        obtain ⟨vb, nb, hb, -⟩ := slot_obj hg.heap h2
        exact ⟨(lte_lookup_inv hg ha hb).1, ht⟩
    | eval k i =>
      obtain ⟨y, h1, rfl, -⟩ := step_eval hs
      obtain ⟨vb, nb, hb, -⟩ := slot_obj hg.heap h1
      exact ⟨(ev_lookup_inv hg hb).1, ht⟩
    | invFirst i =>
      simp only [step] at hs
      match slotId s i, hs with
      | some x, hs =>
        cases hs
        exact ⟨hg.shrink rfl rfl rfl (BinOp.invalidateFirst_inv hg.lte x) hg.ev (BinOp.invalidateFirst_sub hg.lte x)
          (fun _ _ h => h), ht⟩
    | invSecond i =>
      simp only [step] at hs
      match slotId s i, hs with
      | some x, hs =>
        cases hs
        exact ⟨hg.shrink rfl rfl rfl (BinOp.invalidateSecond_inv hg.lte x) hg.ev (BinOp.invalidateSecond_sub hg.lte x)
          (fun _ _ h => h), ht⟩
    | evInvFirst k =>
      cases hs
      exact ⟨hg.shrink rfl rfl rfl hg.lte (BinOp.invalidateFirst_inv hg.ev k) (fun _ _ h => h)
        (BinOp.invalidateFirst_sub hg.ev k), ht⟩
    | evInvSecond i =>
      simp only [step] at hs
      match slotId s i, hs with
      | some x, hs =>
        cases hs
        exact ⟨hg.shrink rfl rfl rfl hg.lte (BinOp.invalidateSecond_inv hg.ev x) (fun _ _ h => h)
          (BinOp.invalidateSecond_sub hg.ev x), ht⟩
    | clearLte =>
      cases hs
      exact ⟨hg.shrink rfl rfl rfl (BinOp.clear_inv s.lte) hg.ev (fun _ _ h => nomatch h) (fun _ _ h => h), ht⟩
    | clearEv =>
      cases hs
      exact ⟨hg.shrink rfl rfl rfl hg.lte (BinOp.clear_inv s.ev) (fun _ _ h => h) (fun _ _ h => nomatch h), ht⟩
    | nop => cases hs; exact ⟨hg, ht⟩
    | lookup i v ch => simp only [acquire, Option.map_eq_none_iff] at hp; simp only [step, hp] at hs; cases hs
    | find i v => simp only [acquire, Option.map_eq_none_iff] at hp; simp only [step, hp] at hs; cases hs
    | copy src dst => simp only [acquire, Option.map_eq_none_iff] at hp; simp only [step, hp] at hs; cases hs
    | release i => simp [acquire, ht] at hp

/-- the states reachable by statements of the client from an empty cache with `n` null handles; the allocator's choices are
    arbitrary (any address that no live object has – in particular addresses of dead objects) -/
inductive Reach (c : Cfg α) : Sys α → Prop
  | init (n : Nat) : Reach c (Sys.init α n)
  | step {s s' : Sys α} {op : Op α} {a : Ans} : Reach c s → step c s op = some (s', a) → Reach c s'

theorem reach_inv {c : Cfg α} {s : Sys α} (h : Reach c s) : Inv c s := by
  induction h with
  | init n => exact init_inv c n
  | step _ hs ih => exact step_inv ih hs

theorem run_reach {c : Cfg α} {s s' : Sys α} {ops : List (Op α)} {as : List Ans} (h : Reach c s)
    (hr : run c s ops = some (s', as)) : Reach c s' := by
  induction ops generalizing s as with
  | nil => simp [run] at hr; rw [← hr.1]; exact h
  | cons op ops ih =>
    simp only [run] at hr
    cases h1 : step c s op with
    | none => simp [h1] at hr
    | some x =>
      obtain ⟨s₁, a⟩ := x
      simp only [h1] at hr
      cases h2 : run c s₁ ops with
      | none => simp [h2] at hr
      | some y =>
        obtain ⟨s₂, as'⟩ := y
        simp only [h2, Option.some.injEq, Prod.mk.injEq] at hr
        obtain ⟨rfl, _⟩ := hr
        exact ih (Reach.step h h1) h2

/-- **(1) interning.**  Two live handles are pointer-equal iff their values are equal; every handle points to a live object
    whose `use_count` is the number of handles pointing to it.  (Any wiring of the deleter.) -/
theorem interning {c : Cfg α} {s : Sys α} (h : Reach c s) {i j a b : Nat} (hi : s.slots[i]? = some (some a))
    (hj : s.slots[j]? = some (some b)) :
    ∃ va vb, byId s.store a = some (va, s.slots.count (some a)) ∧ byId s.store b = some (vb, s.slots.count (some b)) ∧
      (a = b ↔ va = vb) := by
  obtain ⟨hg, ht⟩ := reach_inv h
  have hc := heapInv_iff.1 hg.heap
  obtain ⟨va, na, ha⟩ := slotId_live hg.heap (slotId_eq.2 hi)
  obtain ⟨vb, nb, hb⟩ := slotId_live hg.heap (slotId_eq.2 hj)
  rw [← count_handles ht a, ← count_handles ht b, ← (hc.rc _ _ _ ha).1, ← (hc.rc _ _ _ hb).1]
  exact ⟨va, vb, hc.byId_iff.2 ha, hc.byId_iff.2 hb, (hc.tuple_eq_iff_id_eq ha hb).symm⟩

/-- the store is a function in both directions: one object per value, one per address, none without a handle
    (so `TPtr(weak_ptr)` in `Cache::lookup` never meets an expired pointer) -/
theorem store_bijective {c : Cfg α} {s : Sys α} (h : Reach c s) {v v' : α} {id id' n n' : Nat} (hm : (v, id, n) ∈ s.store)
    (hm' : (v', id', n') ∈ s.store) : (v = v' ↔ id = id') ∧ 0 < n ∧ n = s.slots.count (some id) := by
  obtain ⟨hg, ht⟩ := reach_inv h
  have hc := heapInv_iff.1 hg.heap
  exact ⟨hc.tuple_eq_iff_id_eq hm hm', (hc.rc _ _ _ hm).2, count_handles ht id ▸ (hc.rc _ _ _ hm).1⟩

/-- **(2a)** with the library's wiring a memo table never holds an entry for a dead identity -/
theorem memo_live {c : Cfg α} {s : Sys α} (h : Reach c s) (hw : c.wiring = .lib) :
    (∀ a b r, aget s.lte.store (a, b) = some r → a ∈ ids s.store ∧ b ∈ ids s.store) ∧
    (∀ k b r, aget s.ev.store (k, b) = some r → b ∈ ids s.store) := by
  have hS := (reach_inv h).1.sound hw
  constructor
  · intro a b r hr
    obtain ⟨va, na, vb, nb, h1, h2, _⟩ := hS.lte a b r hr
    exact ⟨mem_ids.2 ⟨_, _, h1⟩, mem_ids.2 ⟨_, _, h2⟩⟩
  · intro k b r hr
    obtain ⟨vb, nb, h1, _⟩ := hS.ev k b r hr
    exact mem_ids.2 ⟨_, _, h1⟩

/-- … and every entry holds the value of the memoised function on the CURRENT objects at the two addresses -/
theorem memo_entries_sound {c : Cfg α} {s : Sys α} (h : Reach c s) (hw : c.wiring = .lib) :
    (∀ a b r, aget s.lte.store (a, b) = some r →
      ∃ va na vb nb, byId s.store a = some (va, na) ∧ byId s.store b = some (vb, nb) ∧ r = c.F va vb) ∧
    (∀ k b r, aget s.ev.store (k, b) = some r → ∃ vb nb, byId s.store b = some (vb, nb) ∧ r = c.G k vb) := by
  have hg := (reach_inv h).1
  have hS := hg.sound hw
  constructor
  · intro a b r hr
    obtain ⟨va, na, vb, nb, h1, h2, h3⟩ := hS.lte a b r hr
    exact ⟨va, na, vb, nb, (byId_iff hg.heap).2 h1, (byId_iff hg.heap).2 h2, h3⟩
  · intro k b r hr
    obtain ⟨vb, nb, h1, h3⟩ := hS.ev k b r hr
    exact ⟨vb, nb, (byId_iff hg.heap).2 h1, h3⟩

/-- **(2b) memo soundness under address reuse.**  `lteCache.lookup(x, y, f)` on two handles answers `F (*x) (*y)` -/
theorem memo_sound {c : Cfg α} {s s' : Sys α} (h : Reach c s) (hw : c.wiring = .lib) {i j : Nat} {ans : Ans}
    (hs : step c s (.memo i j) = some (s', ans)) :
    ∃ a b va na vb nb, s.slots[i]? = some (some a) ∧ s.slots[j]? = some (some b) ∧ byId s.store a = some (va, na) ∧
      byId s.store b = some (vb, nb) ∧ ans = .bool (c.F va vb) := by
  obtain ⟨hg, -⟩ := reach_inv h
  obtain ⟨x, y, h1, h2, -, rfl⟩ := step_memo hs
  obtain ⟨va, na, ha, sa, ba⟩ := slot_obj hg.heap h1
  obtain ⟨vb, nb, hb, sb, bb⟩ := slot_obj hg.heap h2
  exact ⟨x, y, va, na, vb, nb, sa, sb, ba, bb, by rw [(lte_lookup_inv hg ha hb).2 hw]⟩

/-- the library's `lte` (pointer-equality shortcut in front of the memo table) answers `F (*x) (*y)` for a reflexive `F` -/
theorem lte_sound {c : Cfg α} {s s' : Sys α} (h : Reach c s) (hw : c.wiring = .lib) (hrefl : ∀ v, c.F v v = true) {i j : Nat}
    {ans : Ans} (hs : step c s (.lte i j) = some (s', ans)) :
    ∃ a b va na vb nb, s.slots[i]? = some (some a) ∧ s.slots[j]? = some (some b) ∧ byId s.store a = some (va, na) ∧
      byId s.store b = some (vb, nb) ∧ ans = .bool (c.F va vb) := by
  rcases step_lte hs with ⟨x, h1, h2, -, rfl⟩ | hm
  · obtain ⟨va, na, -, sa, ba⟩ := slot_obj (reach_inv h).1.heap h1
    exact ⟨x, x, va, na, va, na, sa, slotId_eq.1 h2, ba, ba, by rw [hrefl]⟩
  · exact memo_sound h hw hm

theorem eval_sound {c : Cfg α} {s s' : Sys α} (h : Reach c s) (hw : c.wiring = .lib) {k : Nat × Nat} {i : Nat} {ans : Ans}
    (hs : step c s (.eval k i) = some (s', ans)) :
    ∃ b vb nb, s.slots[i]? = some (some b) ∧ byId s.store b = some (vb, nb) ∧ ans = .nat (c.G k vb) := by
  obtain ⟨hg, -⟩ := reach_inv h
  obtain ⟨y, h1, -, rfl⟩ := step_eval hs
  obtain ⟨vb, nb, hb, sb, bb⟩ := slot_obj hg.heap h1
  exact ⟨y, vb, nb, sb, bb, by rw [(ev_lookup_inv hg hb).2 hw]⟩

/-- **(3)** the representation invariant of both memo tables, any wiring: by `BinOp.Inv.exact_mem` the two secondary indices list
    exactly the entries of the table … -/
theorem index_exact {c : Cfg α} {s : Sys α} (h : Reach c s) : s.lte.Inv ∧ s.ev.Inv :=
  ⟨(reach_inv h).1.lte, (reach_inv h).1.ev⟩

/-- … and the assertions inside the invalidations of the deleter hold -/
theorem deleter_asserts {c : Cfg α} {s : Sys α} (h : Reach c s) (id : Nat) : deleterAsserts s id = true := by
  obtain ⟨hl, he⟩ := index_exact h
  simp [deleterAsserts, BinOp.assertsFirst_true hl, BinOp.assertsSecond_true (BinOp.invalidateFirst_inv hl id),
    BinOp.assertsSecond_true he]

/-- no leak: when every handle is null the cache is empty (the `assert(this->empty())` of `~Cache()`) -/
theorem no_leak {c : Cfg α} {s : Sys α} (h : Reach c s) (hn : ∀ x ∈ s.slots, x = none) : s.store = [] := by
  obtain ⟨hg, ht⟩ := reach_inv h
  refine ((heapInv_iff.1 hg.heap).congr fun id => ?_).eq_nil
  rw [count_handles ht]
  exact (List.count_eq_zero.2 fun hm => nomatch hn (some id) hm).symm

/-- … and then, with the library's wiring, both memo tables are empty too -/
theorem no_leak_memo {c : Cfg α} {s : Sys α} (h : Reach c s) (hw : c.wiring = .lib) (hn : ∀ x ∈ s.slots, x = none) :
    (∀ k, aget s.lte.store k = none) ∧ (∀ k, aget s.ev.store k = none) := by
  have he := no_leak h hn
  obtain ⟨h1, h2⟩ := memo_live h hw
  constructor
  · rintro ⟨a, b⟩
    cases hr : aget s.lte.store (a, b) with
    | none => rfl
    | some r =>
      have := (h1 a b r hr).1
      simp [he, ids] at this
  · rintro ⟨k, b⟩
    cases hr : aget s.ev.store (k, b) with
    | none => rfl
    | some r =>
      have := h2 k b r hr
      simp [he, ids] at this

end Sys

section NoDeath
set_option linter.unusedSectionVars false
variable {α : Type} [DecidableEq α]

def libCfg (c : Cfg α) : Cfg α := { c with wiring := .lib }

/-- if the object of the dying temporary survives, the deleter did not run and the wiring played no role -/
theorem dropTmp_eq_of_keeps {w : Wiring} {s : Sys α} (h : HeapInv s) (hk : ∀ id, s.tmp = some id → id ∈ ids (dropTmp w s).store) :
    dropTmp w s = dropTmp .lib s := by
  cases ht : s.tmp with
  | none => simp [dropTmp, ht]
  | some id =>
    have hk' := hk id ht
    unfold dropTmp at hk' ⊢
    simp only [ht] at hk' ⊢
    cases hb : byId s.store id with
    | none => rfl
    | some y =>
      obtain ⟨v, n⟩ := y
      simp only [hb] at hk' ⊢
      by_cases hn : n ≤ 1
      · exfalso
        simp only [hn, if_true] at hk'
        rw [(userDeleter_store w s id).1] at hk'
        obtain ⟨v', n', hm'⟩ := mem_ids.1 hk'
        obtain ⟨hm', hne⟩ := mem_adel.1 hm'
        have := h.u2 _ _ hm' ((byId_iff h).1 hb) rfl
        cases this; exact hne rfl
      · simp only [hn, if_false]

theorem ids_swapTmp {s s' : Sys α} {i : Nat} (h : swapTmp s i = some s') : s'.store = s.store := by
  unfold swapTmp at h
  cases hs : s.slots[i]? with
  | none => simp [hs] at h
  | some x => simp only [hs, Option.some.injEq] at h; subst h; rfl

theorem step_lib_of_keeps {c : Cfg α} {s s' : Sys α} {op : Op α} {a : Ans} (hi : Inv c s) (hs : step c s op = some (s', a))
    (hk : ∀ id ∈ ids s.store, id ∈ ids s'.store) : step (libCfg c) s op = some (s', a) := by
  obtain ⟨hg, ht⟩ := hi
  have he := step_eq c s op c.wiring
  have hl := step_eq c s op .lib
  cases hp : acquire s op with
  | none => rw [hp] at hl; exact hl.trans hs
  | some p =>
    rw [hp] at he hl
    obtain ⟨s₂, h2, e⟩ := Option.map_eq_some_iff.mp (he.symm.trans hs)
    cases e
    obtain ⟨i1, hsl⟩ := acquire_inv hg hp
    obtain ⟨i2, -, htm⟩ := swapTmp_inv i1 h2
    -- the object of the temporary that is destroyed was held by a variable before the statement
    refine hl.trans ?_
    dsimp only
    rw [h2, dropTmp_eq_of_keeps i2.heap (fun id' ht' =>
      hk id' (hg.heap.hl id' (List.mem_cons_of_mem _ (hsl ▸ htm id' ht'))))]
    rfl

/-- the states reachable by histories in which no object ever dies (a cache that never frees: `MacroStateCache` of the NFA
    inclusion functors, whose objects live as long as the functor) -/
inductive ReachND (c : Cfg α) : Sys α → Prop
  | init (n : Nat) : ReachND c (Sys.init α n)
  | step {s s' : Sys α} {op : Op α} {a : Ans} : ReachND c s → step c s op = some (s', a) →
      (∀ id ∈ ids s.store, id ∈ ids s'.store) → ReachND c s'

theorem reachND_lib {c : Cfg α} {s : Sys α} (h : ReachND c s) : Reach (libCfg c) s ∧ Reach c s := by
  induction h with
  | init n => exact ⟨Reach.init n, Reach.init n⟩
  | step _ hs hk ih => exact ⟨Reach.step ih.1 (step_lib_of_keeps (reach_inv ih.2) hs hk), Reach.step ih.2 hs⟩

end NoDeath

/-- the history: intern `{1}` and `{1,2}`, compare them (`{1} ⊆ {1,2}`: true, memoised under the two addresses), drop `{1,2}`,
    intern `{5}` – the allocator hands out the address `1` of the dead object again –, compare `{1}` with it -/
def staleHistory : List (Op (List Nat)) :=
  [.lookup 0 [1] 0, .lookup 1 [1, 2] 1, .memo 0 1, .release 1, .lookup 1 [5] 1, .memo 0 1]

/-- **(4) the wiring matters.**  With the deleter calling `invalidateFirst` twice the entry `(0, 1)` survives the death of object `1` (it has the dead
    address as SECOND component) and the last comparison answers `true` although `{1} ⊆ {5}` is false … -/
theorem stale_answer_firstTwice :
    (run (setCfg .firstTwice) (Sys.init (List Nat) 2) staleHistory).map (·.2) =
      some [.ptr (some 0), .ptr (some 1), .bool true, .unit, .ptr (some 1), .bool true] ∧ subsetB [1] [5] = false := by
  decide

/-- … with the library's wiring the same history, same allocator, answers `false` -/
theorem fresh_answer_lib :
    (run (setCfg .lib) (Sys.init (List Nat) 2) staleHistory).map (·.2) =
      some [.ptr (some 0), .ptr (some 1), .bool true, .unit, .ptr (some 1), .bool false] := by
  decide

/-- the default deleter (no invalidation at all) is wrong in the same way -/
theorem stale_answer_none :
    (run (setCfg .none) (Sys.init (List Nat) 2) staleHistory).map (·.2) =
      some [.ptr (some 0), .ptr (some 1), .bool true, .unit, .ptr (some 1), .bool true] := by
  decide

namespace BU

theorem getD_growTo {β : Type} (l : List (List β)) (n j : Nat) : (growTo l n).getD j [] = l.getD j [] := by
  unfold growTo
  simp only [List.getD_eq_getElem?_getD, List.getElem?_append, List.getElem?_replicate]
  by_cases h : j < l.length
  · simp [h]
  · have : l[j]? = none := List.getElem?_eq_none (by omega)
    simp only [h, if_false, this]
    split <;> rfl

theorem length_growTo {β : Type} (l : List (List β)) (n : Nat) : n ≤ (growTo l n).length ∧ l.length ≤ (growTo l n).length := by
  unfold growTo
  simp only [List.length_append, List.length_replicate]
  omega

theorem getD_modify {β : Type} (l : List (List β)) (i j : Nat) (f : List β → List β) (hi : i < l.length) :
    (l.modify i f).getD j [] = if j = i then f (l.getD i []) else l.getD j [] := by
  simp only [List.getD_eq_getElem?_getD, List.getElem?_modify]
  by_cases h : j = i
  · subst h
    simp [List.getElem?_eq_getElem hi]
  · have : ¬ i = j := fun e => h e.symm
    simp only [h, if_false]
    cases l[j]? <;> simp [this]

/-- `if (v.size() <= i) v.resize(i + 1); v[i].push_back(r)` -/
theorem getD_pushCell (vec : List TList) (i j : Nat) (r : Rule) :
    ((growTo vec (i + 1)).modify i (· ++ [r])).getD j [] = vec.getD j [] ++ (if j = i then [r] else []) := by
  rw [getD_modify _ _ _ _ (by have := (length_growTo vec (i + 1)).1; omega)]
  by_cases h : j = i
  · subst h; rw [if_pos rfl, if_pos rfl, getD_growTo]
  · rw [if_neg h, if_neg h, getD_growTo, List.append_nil]

/-- the loop over the positions of a tuple: `F` does `push` for the state `ks[i]` at position `i0 + i`; a cell `(i', q')` gains
(`Q`) what one `push` at `(i', q')` adds (`C`) iff `q'` is the state of the tuple at position `i'`; `I X n`: the positions below
`n` exist, which `push` may need and keeps -/
theorem pushAll_spec {σ : Type} {push : σ → Nat → Nat → σ} {F : σ → List Nat → Nat → σ}
    (f0 : ∀ X i, F X [] i = X) (f1 : ∀ X q ks i, F X (q :: ks) i = F (push X q i) ks (i + 1))
    {I : σ → Nat → Prop} {Q : σ → Nat → Nat → Prop} {C : Prop} (hI : ∀ X q i n, I X n → I (push X q i) n)
    (hQ : ∀ X q i n, I X n → i < n → ∀ i' q', Q (push X q i) i' q' ↔ Q X i' q' ∨ (C ∧ i' = i ∧ q' = q)) :
    ∀ (ks : List Nat) (X : σ) (i0 n : Nat), I X n → i0 + ks.length ≤ n →
      I (F X ks i0) n ∧ ∀ i' q', Q (F X ks i0) i' q' ↔ Q X i' q' ∨ (C ∧ i0 ≤ i' ∧ ks[i' - i0]? = some q')
  | [], X, i0, n, hi, _ => by rw [f0]; exact ⟨hi, fun i' q' => by simp⟩
  | q :: ks, X, i0, n, hi, hn => by
    simp only [List.length_cons] at hn
    obtain ⟨l1, l2⟩ := pushAll_spec f0 f1 hI hQ ks (push X q i0) (i0 + 1) n (hI X q i0 n hi) (by omega)
    rw [f1]
    refine ⟨l1, fun i' q' => ?_⟩
    rw [l2, hQ X q i0 n hi (by omega)]
    by_cases h0 : i' = i0
    · subst h0
      have : ¬ (i' + 1 ≤ i') := by omega
      simp only [this, false_and, and_false, or_false, Nat.le_refl, Nat.sub_self, List.getElem?_cons_zero, Option.some.injEq,
        true_and, eq_comm]
    · by_cases hlt : i0 + 1 ≤ i'
      · have e2 : i' - i0 = (i' - (i0 + 1)) + 1 := by omega
        have e3 : i0 ≤ i' := by omega
        rw [e2, List.getElem?_cons_succ]
        simp [h0, hlt, e3]
      · have e3 : ¬ i0 ≤ i' := by omega
        simp [h0, hlt, e3]

theorem look1_push1 (I : Idx1) (q a i : Nat) (r : Rule) (q' a' i' : Nat) :
    look1 (push1 I q a i r) q' a' i' = look1 I q' a' i' ++ (if q' = q ∧ a' = a ∧ i' = i then [r] else []) := by
  unfold look1 push1
  simp only [aget_aset]
  by_cases hq : q' = q
  · subst hq
    simp only [if_true, Option.getD_some, aget_aset]
    by_cases ha : a' = a
    · subst ha
      simp only [if_true, Option.getD_some, getD_pushCell, true_and]
    · simp [ha]
  · simp [hq]

theorem mem_pushTuple1 (a : Nat) (r : Rule) (I : Idx1) (ks : List Nat) (i0 : Nat) (r' : Rule) (q' a' i' : Nat) :
    r' ∈ look1 (pushTuple1 a r I ks i0) q' a' i' ↔
      r' ∈ look1 I q' a' i' ∨ ((r' = r ∧ a' = a) ∧ i0 ≤ i' ∧ ks[i' - i0]? = some q') :=
  (pushAll_spec (F := pushTuple1 a r) (push := fun I q i => push1 I q a i r) (I := fun _ _ => True)
    (Q := fun I i' q' => r' ∈ look1 I q' a' i') (fun _ _ => rfl) (fun _ _ _ _ => rfl) (fun _ _ _ _ _ => trivial)
    (fun I q i _ _ _ i' q' => by
      rw [look1_push1, List.mem_append]
      by_cases hc : q' = q ∧ a' = a ∧ i' = i
      · simp [hc, eq_comm]
      · simp only [if_neg hc, List.not_mem_nil, or_false]
        exact (or_iff_left (fun h => hc ⟨h.2.2, h.1.2, h.2.1⟩)).symm)
    ks I i0 (i0 + ks.length) trivial (Nat.le_refl _)).2 i' q'

theorem mem_foldl_pushTuple1 (a p : Nat) (tuples : List (List Nat)) (I : Idx1) (r' : Rule) (q' a' i' : Nat) :
    r' ∈ look1 (tuples.foldl (fun I t => pushTuple1 a ⟨a, t, p⟩ I t 0) I) q' a' i' ↔
      r' ∈ look1 I q' a' i' ∨ ∃ t ∈ tuples, r' = ⟨a, t, p⟩ ∧ a' = a ∧ t[i']? = some q' :=
  foldl_or (I := fun _ => True) (Q := fun I => r' ∈ look1 I q' a' i') tuples I trivial (fun I t _ _ => ⟨trivial, by
    simp only [mem_pushTuple1, Nat.zero_le, true_and, Nat.sub_zero, and_assoc]⟩)

theorem mem_pushLeaf (lv : List (Nat × TList)) (a : Nat) (r r' : Rule) (a' : Nat) :
    r' ∈ lookLeaves (pushLeaf lv a r) a' ↔ r' ∈ lookLeaves lv a' ∨ (r' = r ∧ a' = a) := by
  unfold lookLeaves pushLeaf
  rw [aget_aset]
  by_cases h : a' = a
  · subst h; simp
  · simp [h]

def rulesOfGroup (tr : Nat → Nat) (g : Group) : List Rule := g.tuples.map (fun t => ⟨tr g.sym, t, g.parent⟩)

theorem mem_rulesOfGroup {tr : Nat → Nat} {g : Group} {r : Rule} :
    r ∈ rulesOfGroup tr g ↔ ∃ t ∈ g.tuples, r = ⟨tr g.sym, t, g.parent⟩ := by
  simp only [rulesOfGroup, List.mem_map, eq_comm]

theorem mem_rulesOf {tr : Nat → Nat} {gs : List Group} {r : Rule} :
    r ∈ rulesOf tr gs ↔ ∃ g, g ∈ gs ∧ r ∈ rulesOfGroup tr g := by
  simp only [rulesOf, rulesOfGroup, List.mem_flatMap]

/-- the contract for one cluster -/
def RankedG (g : Group) : Prop :=
  ∀ first rest, g.tuples = first :: rest → ∀ t ∈ g.tuples, (t = [] ↔ first = []) ∧ t.length ≤ first.length

/-- the leaf rules of one cluster, as both `group1` and `group2` file them -/
def groupLeaves (tr : Nat → Nat) (lv : List (Nat × TList)) (g : Group) : List (Nat × TList) :=
  match g.tuples with
  | [] => lv
  | first :: _ =>
    if first.isEmpty then g.tuples.foldl (fun lv t => pushLeaf lv (tr g.sym) ⟨tr g.sym, t, g.parent⟩) lv else lv

theorem group1_snd (tr : Nat → Nat) (st : Idx1 × List (Nat × TList)) (g : Group) :
    (group1 tr st g).2 = groupLeaves tr st.2 g := by
  unfold group1 groupLeaves
  cases g.tuples with
  | nil => rfl
  | cons first rest => dsimp only; split <;> rfl

theorem group2_snd (tr : Nat → Nat) (st : Idx2 × List (Nat × TList)) (g : Group) :
    (group2 tr st g).2 = groupLeaves tr st.2 g := by
  unfold group2 groupLeaves
  cases g.tuples with
  | nil => rfl
  | cons first rest => dsimp only; split <;> rfl

theorem groupLeaves_look (tr : Nat → Nat) (lv : List (Nat × TList)) (g : Group) (hr : RankedG g) (r : Rule) (a : Nat) :
    r ∈ lookLeaves (groupLeaves tr lv g) a ↔
      r ∈ lookLeaves lv a ∨ (r ∈ rulesOfGroup tr g ∧ r.sym = a ∧ r.kids = []) := by
  unfold groupLeaves
  cases ht : g.tuples with
  | nil => simp [mem_rulesOfGroup, ht]
  | cons first rest =>
    -- in a ranked cluster the tuples are empty iff the first one is
    have hemp : ∀ t, t ∈ g.tuples → (t = [] ↔ first.isEmpty = true) := fun t ht' =>
      ((hr first rest ht t ht').1).trans List.isEmpty_iff.symm
    simp only
    by_cases he : first.isEmpty = true
    · rw [if_pos he, ← ht]
      refine (foldl_or (f := fun lv t => pushLeaf lv (tr g.sym) ⟨tr g.sym, t, g.parent⟩) (I := fun _ => True)
        (Q := fun lv => r ∈ lookLeaves lv a) g.tuples lv trivial
        (fun lv t _ _ => ⟨trivial, mem_pushLeaf lv (tr g.sym) ⟨tr g.sym, t, g.parent⟩ r a⟩)).trans (or_congr_right ⟨?_, ?_⟩)
      · rintro ⟨t, ht', rfl, rfl⟩
        exact ⟨mem_rulesOfGroup.2 ⟨t, ht', rfl⟩, rfl, (hemp t ht').2 he⟩
      · rintro ⟨hm, ha, _⟩
        obtain ⟨t, ht', rfl⟩ := mem_rulesOfGroup.1 hm
        exact ⟨t, ht', rfl, ha.symm⟩
    · rw [if_neg he]
      refine (or_iff_left ?_).symm
      rintro ⟨hm, _, hk⟩
      obtain ⟨t, ht', rfl⟩ := mem_rulesOfGroup.1 hm
      exact he ((hemp t (ht ▸ ht')).1 hk)

/-- the loop over the clusters, for an index whose content `Q` a cluster extends by its own rules with `C` -/
theorem foldl_groups {σ : Type} {f : σ → Group → σ} {Q : σ → Prop} {C : Prop} {tr : Nat → Nat} {gs : List Group} {r : Rule}
    (hr : Ranked gs) {s0 : σ} (h0 : ¬ Q s0) (hstep : ∀ st g, RankedG g → (Q (f st g) ↔ Q st ∨ (r ∈ rulesOfGroup tr g ∧ C))) :
    Q (gs.foldl f s0) ↔ r ∈ rulesOf tr gs ∧ C := by
  rw [foldl_or (I := fun _ => True) gs s0 trivial (fun st g hg _ => ⟨trivial, hstep st g (hr g hg)⟩), or_iff_right h0,
    mem_rulesOf]
  exact ⟨fun ⟨g, hg, hm, h⟩ => ⟨⟨g, hg, hm⟩, h⟩, fun ⟨⟨g, hg, hm⟩, h⟩ => ⟨g, hg, hm, h⟩⟩

theorem group1_look (tr : Nat → Nat) (st : Idx1 × List (Nat × TList)) (g : Group) (hr : RankedG g) (r : Rule) (q a i : Nat) :
    r ∈ look1 (group1 tr st g).1 q a i ↔
      r ∈ look1 st.1 q a i ∨ (r ∈ rulesOfGroup tr g ∧ r.sym = a ∧ r.kids[i]? = some q) := by
  unfold group1
  cases ht : g.tuples with
  | nil => simp [mem_rulesOfGroup, ht]
  | cons first rest =>
    simp only
    by_cases he : first.isEmpty = true
    · rw [if_pos he]
      refine (or_iff_left ?_).symm
      rintro ⟨hm, _, hk⟩
      obtain ⟨t, ht', rfl⟩ := mem_rulesOfGroup.1 hm
      rw [((hr first rest ht t (ht ▸ ht')).1).2 (List.isEmpty_iff.1 he)] at hk
      cases hk
    · rw [if_neg he, ← ht, mem_foldl_pushTuple1]
      refine or_congr_right ⟨?_, ?_⟩
      · rintro ⟨t, ht', rfl, rfl, hk⟩
        exact ⟨mem_rulesOfGroup.2 ⟨t, ht', rfl⟩, rfl, hk⟩
      · rintro ⟨hm, ha, hk⟩
        obtain ⟨t, ht', rfl⟩ := mem_rulesOfGroup.1 hm
        exact ⟨t, ht', rfl, ha.symm, hk⟩

/-- **(5a)** `bottomUpIndex`: the list at `[state][symbol][position]` holds exactly the rules with that (translated) symbol
    and that state at that position -/
theorem mem_look1 (tr : Nat → Nat) (gs : List Group) (hr : Ranked gs) (r : Rule) (q a i : Nat) :
    r ∈ look1 (bottomUpIndex tr gs).1 q a i ↔ r ∈ rulesOf tr gs ∧ r.sym = a ∧ r.kids[i]? = some q :=
  foldl_groups (f := group1 tr) (Q := fun st => r ∈ look1 st.1 q a i) hr (by simp [look1, aget])
    (fun st g hg => group1_look tr st g hg r q a i)

/-- … and `leaves[symbol]` exactly the leaf rules with that symbol -/
theorem mem_leaves1 (tr : Nat → Nat) (gs : List Group) (hr : Ranked gs) (r : Rule) (a : Nat) :
    r ∈ lookLeaves (bottomUpIndex tr gs).2 a ↔ r ∈ rulesOf tr gs ∧ r.sym = a ∧ r.kids = [] :=
  foldl_groups (f := group1 tr) (Q := fun st => r ∈ lookLeaves st.2 a) hr (by simp [lookLeaves, aget])
    (fun st g hg => by rw [group1_snd]; exact groupLeaves_look tr st.2 g hg r a)

def cell (d : List (List TList)) (i q : Nat) : TList := (d.getD i []).getD q []

theorem cell_growTo (d : List (List TList)) (n i q : Nat) : cell (growTo d n) i q = cell d i q := by
  unfold cell; rw [getD_growTo]

theorem length_push2 (d : List (List TList)) (i q : Nat) (r : Rule) : (push2 d i q r).length = d.length := by
  unfold push2; simp

theorem cell_push2 (d : List (List TList)) (i q : Nat) (r : Rule) (hi : i < d.length) (i' q' : Nat) :
    cell (push2 d i q r) i' q' = cell d i' q' ++ (if i' = i ∧ q' = q then [r] else []) := by
  unfold cell push2
  rw [getD_modify _ _ _ _ hi]
  by_cases h : i' = i
  · subst h
    rw [if_pos rfl, getD_pushCell]
    by_cases hq : q' = q <;> simp [hq]
  · rw [if_neg h]; simp [h]

theorem pushTuple2_spec (r : Rule) (d : List (List TList)) (ks : List Nat) (i0 : Nat) (h : i0 + ks.length ≤ d.length) :
    (pushTuple2 r d ks i0).length = d.length ∧
    ∀ r' i' q', r' ∈ cell (pushTuple2 r d ks i0) i' q' ↔
      r' ∈ cell d i' q' ∨ (r' = r ∧ i0 ≤ i' ∧ ks[i' - i0]? = some q') := by
  refine ⟨(pushAll_spec (F := pushTuple2 r) (push := fun d q i => push2 d i q r) (I := fun d n => d.length = n)
    (Q := fun _ _ _ => True) (C := True) (fun _ _ => rfl) (fun _ _ _ _ => rfl)
    (fun d q i n hd => (length_push2 d i q r).trans hd) (fun _ _ _ _ _ _ _ _ => by simp) ks d i0 d.length rfl h).1,
    fun r' i' q' => ?_⟩
  exact (pushAll_spec (F := pushTuple2 r) (push := fun d q i => push2 d i q r) (I := fun d n => d.length = n)
    (Q := fun d i' q' => r' ∈ cell d i' q') (fun _ _ => rfl) (fun _ _ _ _ => rfl)
    (fun d q i n hd => (length_push2 d i q r).trans hd)
    (fun d q i n hd hi i' q' => by
      rw [cell_push2 d i q r (hd ▸ hi), List.mem_append]
      by_cases hc : i' = i ∧ q' = q
      · simp [hc, eq_comm]
      · simp only [if_neg hc, List.not_mem_nil, or_false]
        exact (or_iff_left (fun h => hc h.2)).symm)
    ks d i0 d.length rfl h).2 i' q'

theorem foldl_pushTuple2_spec (a p : Nat) (tuples : List (List Nat)) (d : List (List TList))
    (h : ∀ t ∈ tuples, t.length ≤ d.length) :
    ∀ r' i' q', r' ∈ cell (tuples.foldl (fun d t => pushTuple2 ⟨a, t, p⟩ d t 0) d) i' q' ↔
      r' ∈ cell d i' q' ∨ ∃ t ∈ tuples, r' = ⟨a, t, p⟩ ∧ t[i']? = some q' := fun r' i' q' =>
  foldl_or (I := fun d' => d'.length = d.length) (Q := fun d => r' ∈ cell d i' q') tuples d rfl (fun d' t ht hd => by
    obtain ⟨l1, l2⟩ := pushTuple2_spec ⟨a, t, p⟩ d' t 0 (by rw [hd]; have := h t ht; omega)
    exact ⟨l1.trans hd, by simp only [l2, Nat.zero_le, true_and, Nat.sub_zero]⟩)

theorem look2_aset (I : Idx2) (a : Nat) (d : List (List TList)) (a' i q : Nat) :
    look2 (aset I a d) a' i q = if a' = a then cell d i q else look2 I a' i q := by
  unfold look2 cell
  rw [aget_aset]
  by_cases h : a' = a <;> simp [h]

theorem group2_look (tr : Nat → Nat) (st : Idx2 × List (Nat × TList)) (g : Group) (hr : RankedG g) (r : Rule) (a i q : Nat) :
    r ∈ look2 (group2 tr st g).1 a i q ↔
      r ∈ look2 st.1 a i q ∨ (r ∈ rulesOfGroup tr g ∧ r.sym = a ∧ r.kids[i]? = some q) := by
  unfold group2
  cases ht : g.tuples with
  | nil => simp [mem_rulesOfGroup, ht]
  | cons first rest =>
    simp only
    by_cases he : first.isEmpty = true
    · rw [if_pos he]
      refine (or_iff_left ?_).symm
      rintro ⟨hm, _, hk⟩
      obtain ⟨t, ht', rfl⟩ := mem_rulesOfGroup.1 hm
      rw [((hr first rest ht t (ht ▸ ht')).1).2 (List.isEmpty_iff.1 he)] at hk
      cases hk
    · rw [if_neg he]
      simp only [look2_aset]
      rw [← ht]
      by_cases ha : a = tr g.sym
      · subst ha
        rw [if_pos rfl, foldl_pushTuple2_spec, cell_growTo]
        · refine or_congr_right ⟨?_, ?_⟩
          · rintro ⟨t, ht', rfl, hk⟩
            exact ⟨mem_rulesOfGroup.2 ⟨t, ht', rfl⟩, rfl, hk⟩
          · rintro ⟨hm, _, hk⟩
            obtain ⟨t, ht', rfl⟩ := mem_rulesOfGroup.1 hm
            exact ⟨t, ht', rfl, hk⟩
        · intro t ht'
          have := (hr first rest ht t ht').2
          have := (length_growTo ((aget st.1 (tr g.sym)).getD []) first.length).1
          omega
      · rw [if_neg ha]
        refine (or_iff_left ?_).symm
        rintro ⟨hm, hs, _⟩
        obtain ⟨t, ht', rfl⟩ := mem_rulesOfGroup.1 hm
        exact ha hs.symm

/-- **(5b)** `bottomUpIndex2`: the list at `[symbol][position][state]` holds exactly the rules with that (translated) symbol
    and that state at that position (no `push_back` goes out of range: the rule would be missing) -/
theorem mem_look2 (tr : Nat → Nat) (gs : List Group) (hr : Ranked gs) (r : Rule) (a i q : Nat) :
    r ∈ look2 (bottomUpIndex2 tr gs).1 a i q ↔ r ∈ rulesOf tr gs ∧ r.sym = a ∧ r.kids[i]? = some q :=
  foldl_groups (f := group2 tr) (Q := fun st => r ∈ look2 st.1 a i q) hr (by simp [look2, aget])
    (fun st g hg => group2_look tr st g hg r a i q)

theorem mem_leaves2 (tr : Nat → Nat) (gs : List Group) (hr : Ranked gs) (r : Rule) (a : Nat) :
    r ∈ lookLeaves (bottomUpIndex2 tr gs).2 a ↔ r ∈ rulesOf tr gs ∧ r.sym = a ∧ r.kids = [] :=
  foldl_groups (f := group2 tr) (Q := fun st => r ∈ lookLeaves st.2 a) hr (by simp [lookLeaves, aget])
    (fun st g hg => by rw [group2_snd]; exact groupLeaves_look tr st.2 g hg r a)

theorem ranked_of_rankedB {gs : List Group} (h : rankedB gs = true) : Ranked gs := by
  intro g hg first rest ht t hm
  unfold rankedB at h
  have := List.all_eq_true.1 h g hg
  simp only [ht, List.all_eq_true, Bool.and_eq_true, beq_iff_eq, decide_eq_true_eq] at this
  obtain ⟨h1, h2⟩ := this t (ht ▸ hm)
  exact ⟨by rw [← List.isEmpty_iff, ← List.isEmpty_iff, h1], h2⟩

/-- the contract is needed: in a cluster whose first tuple is not empty a leaf rule is silently dropped … -/
theorem unranked_loses_leaf :
    let gs : List Group := [⟨0, 7, [[1], []]⟩]
    (⟨7, [], 0⟩ : Rule) ∈ rulesOf id gs ∧ lookLeaves (bottomUpIndex id gs).2 7 = [] := by
  decide

/-- … and in `bottomUpIndex2` a tuple longer than the first one of its cluster loses its last positions (in C++: a write past
    the end of the vector) -/
theorem unranked_loses_position :
    let gs : List Group := [⟨0, 7, [[1], [1, 2]]⟩]
    (⟨7, [1, 2], 0⟩ : Rule) ∈ rulesOf id gs ∧ look2 (bottomUpIndex2 id gs).1 7 1 2 = [] := by
  decide

end BU

end Vata.CM
