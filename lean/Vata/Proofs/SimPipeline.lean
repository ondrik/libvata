import Vata.SimPipeline
import Vata.Proofs.TaLts
import Vata.Proofs.LtsEngine
import Vata.Proofs.BinRel
import Vata.Proofs.ReduceModel
import Vata.Proofs.PropAux
/-!
# `ComputeSimulation` and `Reduce` end to end (C04, C05, C16)

The executable models of `Vata/SimPipeline.lean` compose: translation as coded → engine model → matrix filled by
`buildResult` → `StateDiscontBinaryRelation` → pairs.  The preconditions of the engine (`LE.LtsOK`, `LE.isPartition`,
`LE.isConsistent`, `LE.RelTrans`) hold for both translations, so the composition returns `downSimRef A` / `upSimRef A`;
and the class-level `RestrictToSymmetric` / `GetQuotientProjection` on that matrix give the automaton of `reduceModel`.
-/
namespace Vata.SimPipe
open Vata Vata.TaLts Vata.BinRel Vata.L

theorem translateDownwardFast_eq (A : TA) (n : Nat) (idx : Nat → Nat) :
    translateDownwardFast A n idx = translateDownward A n idx := rfl

theorem translateUpwardFast_eq (A : TA) (idx : Nat → Nat) : translateUpwardFast A idx = translateUpward A idx := rfl

theorem surj_of_inj_lt {l : List Nat} {f : Nat → Nat} (hnd : l.Nodup)
    (hinj : ∀ x y, x ∈ l → y ∈ l → f x = f y → x = y) (hlt : ∀ x, x ∈ l → f x < l.length) :
    ∀ k, k < l.length → ∃ x, x ∈ l ∧ f x = k := by
  intro k hk
  refine List.mem_map.mp (subset_of_nodup_length (l₂ := List.range l.length) (nodup_map_of_injOn hnd fun x hx y hy => hinj x y hx hy) ?_
    (by rw [List.length_range, List.length_map]; exact Nat.le_refl _) k (List.mem_range.mpr hk))
  intro y hy
  obtain ⟨x, hx, rfl⟩ := List.mem_map.mp hy
  exact List.mem_range.mpr (hlt x hx)

theorem nodup_downOrder (A : TA) : (downOrder A).Nodup := nodup_dedupG _

theorem mem_downOrder {A : TA} {q : Nat} : q ∈ downOrder A ↔ q ∈ A.states := by
  simp only [downOrder, mem_dedupG, List.mem_append, List.mem_flatMap, List.mem_flatten, List.mem_cons]
  rw [mem_states]
  constructor
  · rintro ((h | ⟨ρ, hρ, h⟩) | ⟨t, ht, hq⟩)
    · exact Or.inl h
    · rcases h with h | h
      · exact Or.inr ⟨ρ, hρ, Or.inl h.symm⟩
      · split at h
        · exact Or.inr ⟨ρ, hρ, Or.inr h⟩
        · cases h
    · obtain ⟨ρ, hρ, _, rfl⟩ := mem_lhsList.mp ht
      exact Or.inr ⟨ρ, hρ, Or.inr hq⟩
  · rintro (h | ⟨ρ, hρ, h | h⟩)
    · exact Or.inl (Or.inl h)
    · exact Or.inl (Or.inr ⟨ρ, hρ, Or.inl h.symm⟩)
    · by_cases h1 : ρ.kids.length = 1
      · exact Or.inl (Or.inr ⟨ρ, hρ, Or.inr (by rw [if_pos h1]; exact h)⟩)
      · exact Or.inr ⟨ρ.kids, mem_lhsList.mpr ⟨ρ, hρ, h1, rfl⟩, h⟩

theorem downOrder_perm (A : TA) : (downOrder A).Perm A.states :=
  (List.perm_ext_iff_of_nodup (nodup_downOrder A) (PropAux.nodup_states A)).mpr (fun _ => mem_downOrder)

theorem length_downOrder (A : TA) : (downOrder A).length = A.states.length := (downOrder_perm A).length_eq

theorem idxOk_of_order {A : TA} {order : List Nat} {n : Nat} (hcov : ∀ q, q ∈ A.states → q ∈ order)
    (hlen : order.length ≤ n) : IdxOk A n (idxOf order) :=
  ⟨fun q _ hq _ he => pos_inj (hcov q hq) he, fun q hq => Nat.lt_of_lt_of_le (pos_lt (hcov q hq)) hlen⟩

/-- the numbering of `ComputeDownwardSimulation(n)` meets the `assert(dest < numStates)` of the translation as soon as `n`
is at least the number of states -/
theorem idxOk_down (A : TA) {n : Nat} (hn : A.states.length ≤ n) : IdxOk A n (idxOf (downOrder A)) :=
  idxOk_of_order (fun _ hq => mem_downOrder.mpr hq) (by rw [length_downOrder]; exact hn)

theorem nodup_upOrder (A : TA) : (upOrder A).Nodup := nodup_dedupG _

theorem mem_upOrder_of_own {A : TA} (hown : AllOwnRule A) {q : Nat} : q ∈ upOrder A ↔ q ∈ A.states := by
  simp only [upOrder, mem_dedupG, List.mem_append, List.mem_flatMap]
  constructor
  · rintro (h | ⟨ρ, hρ, h⟩)
    · exact parents_mem_states h
    · exact kid_mem_states hρ h
  · intro h
    exact Or.inl (mem_parents.mpr (hown q h))

/-- without useless states the first loop of `TranslateUpward` meets every state: the numbering is onto `0..N-1` -/
theorem length_upOrder_of_own {A : TA} (hown : AllOwnRule A) : (upOrder A).length = (parents A).length :=
  length_eq_of_mem_iff (nodup_upOrder A) (nodup_dedupG _)
    (fun q => (mem_upOrder_of_own hown).trans ⟨fun h => mem_parents.mpr (hown q h), parents_mem_states⟩)

theorem length_parents_of_own {A : TA} (hown : AllOwnRule A) : (parents A).length = A.states.length :=
  length_eq_of_mem_iff (nodup_dedupG _) (PropAux.nodup_states A)
    (fun q => ⟨parents_mem_states, fun h => mem_parents.mpr (hown q h)⟩)

/-- the numbering of `ComputeUpwardSimulation` meets `assert(stateIndex[…] < transitions_->size())` -/
theorem idxOk_up {A : TA} (hown : AllOwnRule A) : IdxOk A (parents A).length (idxOf (upOrder A)) :=
  idxOk_of_order (fun _ hq => (mem_upOrder_of_own hown).mpr hq) (by rw [length_upOrder_of_own hown]; exact Nat.le_refl _)

/-- downward, `computeSimulation(size)` builds its own one-block partition, so `LtsOK` is the only precondition: every
edge connects states below `states_` (`addTransition` grows `states_`) -/
theorem ltsOK_translateDownward (A : TA) (n : Nat) (idx : Nat → Nat) : LE.LtsOK (translateDownward A n idx) :=
  fun _ hed => lt_ltsSize hed n

theorem le_n_translateDownward (A : TA) (n : Nat) (idx : Nat → Nat) : n ≤ (translateDownward A n idx).n :=
  le_ltsSize _ _

theorem computeSimulation_zero (T : LTS) (part : List (List Nat)) (rel : L.Rel) : LE.computeSimulation T part rel 0 = some [] :=
  rfl

theorem not_mem_ltsSimOut_zero (T : LTS) (I : L.Rel) (x y : Nat) : (x, y) ∉ ltsSimOut T I 0 := by
  rw [restrict_output]
  omega

/-- with output size `0` the engine returns the empty relation at once, and so does the reference; `h` is what the
engine equations `computeSimulation1 … 0 = some R` and `computeSimulation … 0 = some R` of the two callers unfold to -/
theorem mem_iff_ltsSimOut_zero {R : L.Rel} (h : some ([] : L.Rel) = some R) (T : LTS) (I : L.Rel) (x y : Nat) :
    (x, y) ∈ R ↔ (x, y) ∈ ltsSimOut T I 0 := by
  cases h
  exact ⟨nofun, fun h => absurd h (not_mem_ltsSimOut_zero T I x y)⟩

theorem translateDownward_n_pos (A : TA) {n : Nat} (idx : Nat → Nat) (hn : n ≠ 0) : 0 < (translateDownward A n idx).n :=
  Nat.lt_of_lt_of_le (Nat.pos_of_ne_zero hn) (le_n_translateDownward A n idx)

theorem down_engine_eq (A : TA) (n : Nat) (idx : Nat → Nat) (R : L.Rel)
    (h : LE.computeSimulation1 (translateDownward A n idx) n = some R) (x y : Nat) :
    (x, y) ∈ R ↔ (x, y) ∈ ltsSimOut (translateDownward A n idx) (fullRel (translateDownward A n idx).n) n := by
  by_cases hn : n = 0
  · subst hn
    exact mem_iff_ltsSimOut_zero h _ _ x y
  · exact LE.engine1_result_eq (ltsOK_translateDownward A n idx) (translateDownward_n_pos A idx hn) n R h x y

theorem down_engine_total (A : TA) (n : Nat) (idx : Nat → Nat) :
    ∃ R, LE.computeSimulation1 (translateDownward A n idx) n = some R := by
  by_cases hn : n = 0
  · subst hn
    exact ⟨[], rfl⟩
  · exact LE.engine1_total (ltsOK_translateDownward A n idx) (translateDownward_n_pos A idx hn) n

/-- **`buildResult`**: a fresh relation resized to `n` and then set at the pairs of `R` (all below `n`) holds exactly `R` -/
theorem resultMat_spec (n : Nat) (R : L.Rel) (hR : ∀ p, p ∈ R → p.1 < n ∧ p.2 < n) :
    WF (resultMat n R) ∧ (resultMat n R).size = n ∧
    ∀ r c, r < n → c < n → (resultMat n R).get r c = decide ((r, c) ∈ R) :=
  Mat.buildResult_spec n R hR

theorem translPairs_keys (order : List Nat) : (translPairs order).map (·.1) = order :=
  List.zipIdx_map_fst 0 order

theorem translPairs_nodup {order : List Nat} (hnd : order.Nodup) :
    ((translPairs order).map (·.1)).Nodup ∧ ((translPairs order).map (·.2)).Nodup := by
  refine ⟨by rw [translPairs_keys]; exact hnd, ?_⟩
  have : (translPairs order).map (·.2) = List.range' 0 order.length := List.zipIdx_map_snd 0 order
  rw [this]
  exact List.nodup_range' 1

theorem mem_translPairs {order : List Nat} {q : Nat} (hq : q ∈ order) : (q, idxOf order q) ∈ translPairs order :=
  List.mem_zipIdx_iff_getElem?.mpr (getElem?_pos hq)

theorem dict_simDisc {order : List Nat} (hnd : order.Nodup) (n : Nat) (R : L.Rel) :
    (simDisc order n R).dict.fwd = translPairs order ∧
    (simDisc order n R).dict.bwd = (translPairs order).map (fun p => (p.2, p.1)) :=
  Dict.ofList_spec (translPairs_nodup hnd).1 (translPairs_nodup hnd).2

/-- **`StateDiscontBinaryRelation(ltsSim, translMap)`**: its pairs are the pairs of states whose indices are related in
the matrix -/
theorem mem_discRel_simDisc {order : List Nat} (hnd : order.Nodup) (n : Nat) (R : L.Rel) (q r : Nat) :
    (q, r) ∈ discRel (simDisc order n R) ↔
      q ∈ order ∧ r ∈ order ∧ (resultMat n R).get (idxOf order q) (idxOf order r) = true := by
  obtain ⟨n1, n2⟩ := translPairs_nodup hnd
  have hget : ∀ x y, x ∈ order → y ∈ order →
      (simDisc order n R).get x y = .ok ((resultMat n R).get (idxOf order x) (idxOf order y)) :=
    fun x y hx hy => Disc.get_ofRel n1 n2 (mem_translPairs hx) (mem_translPairs hy)
  have hkey : ∀ p, p ∈ translPairs order → p.1 ∈ order := by
    intro p hp
    rw [← translPairs_keys order]
    exact List.mem_map.mpr ⟨p, hp, rfl⟩
  unfold discRel
  rw [(dict_simDisc hnd n R).1]
  simp only [List.mem_filter, List.mem_flatMap, List.mem_map, Prod.mk.injEq]
  constructor
  · rintro ⟨⟨p, hp, p', hp', rfl, rfl⟩, hb⟩
    have h1 := hkey p hp
    have h2 := hkey p' hp'
    rw [hget _ _ h1 h2] at hb
    exact ⟨h1, h2, hb⟩
  · rintro ⟨h1, h2, hb⟩
    refine ⟨⟨_, mem_translPairs h1, _, mem_translPairs h2, rfl, rfl⟩, ?_⟩
    rw [hget _ _ h1 h2]
    exact hb

theorem mem_discRel_of_engine {order : List Nat} (hnd : order.Nodup) (hlen : order.length ≤ n) (R : L.Rel)
    (hR : ∀ p, p ∈ R → p.1 < n ∧ p.2 < n) (q r : Nat) :
    (q, r) ∈ discRel (simDisc order n R) ↔ q ∈ order ∧ r ∈ order ∧ (idxOf order q, idxOf order r) ∈ R := by
  rw [mem_discRel_simDisc hnd]
  constructor
  · rintro ⟨hq, hr, hb⟩
    have h1 : idxOf order q < n := Nat.lt_of_lt_of_le (pos_lt hq) hlen
    have h2 : idxOf order r < n := Nat.lt_of_lt_of_le (pos_lt hr) hlen
    rw [(resultMat_spec n R hR).2.2 _ _ h1 h2] at hb
    exact ⟨hq, hr, of_decide_eq_true hb⟩
  · rintro ⟨hq, hr, hb⟩
    have h1 : idxOf order q < n := Nat.lt_of_lt_of_le (pos_lt hq) hlen
    have h2 : idxOf order r < n := Nat.lt_of_lt_of_le (pos_lt hr) hlen
    rw [(resultMat_spec n R hR).2.2 _ _ h1 h2]
    exact ⟨hq, hr, decide_eq_true hb⟩

theorem ltsSimOut_lt {T : LTS} {I : L.Rel} {n : Nat} {p : Nat × Nat} (h : p ∈ ltsSimOut T I n) : p.1 < n ∧ p.2 < n := by
  obtain ⟨x, y⟩ := p
  have := (restrict_output T I n x y).mp h
  exact ⟨this.1, this.2.1⟩

/-- the layers behind the engine, for a numbering `order` of the states of `A`: if what the engine returned is the reference
restricted to `n` and the reference on the indices is the relation `S` on the states, the pairs read back are `S` -/
theorem mem_discRel_of_ref {A : TA} {order : List Nat} (hnd : order.Nodup) (hmem : ∀ q, q ∈ order ↔ q ∈ A.states)
    {n : Nat} (hlen : order.length ≤ n) {T : LTS} {I R0 : L.Rel}
    (heng : ∀ x y, (x, y) ∈ R0 ↔ (x, y) ∈ ltsSimOut T I n) {S : Rel}
    (hsub : ∀ q r, (q, r) ∈ S → q ∈ A.states ∧ r ∈ A.states)
    (hcorr : ∀ q r, q ∈ A.states → r ∈ A.states → ((idxOf order q, idxOf order r) ∈ ltsSimOut T I n ↔ (q, r) ∈ S))
    (q r : Nat) : (q, r) ∈ discRel (simDisc order n R0) ↔ (q, r) ∈ S := by
  rw [mem_discRel_of_engine hnd hlen R0 (fun p hp => ltsSimOut_lt ((heng p.1 p.2).mp hp)), hmem, hmem, heng]
  exact ⟨fun ⟨hq, hr, hb⟩ => (hcorr q r hq hr).mp hb,
    fun h => ⟨(hsub q r h).1, (hsub q r h).2, (hcorr q r (hsub q r h).1 (hsub q r h).2).mpr h⟩⟩

/-- **C04, downward: `ComputeDownwardSimulation(n)` end to end**: for a ranked automaton with at most `n` states whatever the composition
(translation as coded, engine model, `buildResult`, `StateDiscontBinaryRelation`) returns is `downSimRef A` -/
theorem computeSimDown_eq (A : TA) (n : Nat) (hn : A.states.length ≤ n) (hrk : Ranked A) (R : Rel)
    (h : computeSimDown A n = some R) : ∀ q r, (q, r) ∈ R ↔ (q, r) ∈ downSimRef A := by
  obtain ⟨_, hD, rfl⟩ := Option.map_eq_some_iff.mp h
  obtain ⟨R0, he, rfl⟩ := Option.map_eq_some_iff.mp hD
  exact mem_discRel_of_ref (nodup_downOrder A) (fun _ => mem_downOrder) (by rw [length_downOrder]; exact hn)
    (down_engine_eq A n _ R0 he) (fun _ _ => downSimRef_sub A) (translateDownward_correct A n _ (idxOk_down A hn) hrk)

/-- … and it always returns (no hypothesis at all: the engine's fuel suffices on every LTS of `TranslateDownward`) -/
theorem computeSimDown_total (A : TA) (n : Nat) : ∃ R, computeSimDown A n = some R := by
  obtain ⟨R0, h⟩ := down_engine_total A n (idxOf (downOrder A))
  exact ⟨discRel (simDisc (downOrder A) n R0), by
    unfold computeSimDown computeSimDownDisc; simp only [translateDownwardFast_eq, h, Option.map_some]⟩

/-- the downward route on `TaLtsEx.exA` with `n` = the number of states … -/
theorem exA_computeSimDown :
    computeSimDown TaLtsEx.exA 5 = some [(2, 2), (2, 3), (3, 2), (3, 3), (0, 0), (0, 1), (1, 0), (1, 1), (4, 4)] := by
  decide +kernel

/-- … and with a larger `n` -/
theorem exA_computeSimDown_9 :
    computeSimDown TaLtsEx.exA 9 = some [(2, 2), (2, 3), (3, 2), (3, 3), (0, 0), (0, 1), (1, 0), (1, 1), (4, 4)] := by
  decide +kernel

/-- non-vacuity: a ranked automaton with a binary symbol and five states -/
example : TaLtsEx.exA.states.length ≤ 5 ∧ Ranked TaLtsEx.exA ∧
    computeSimDown TaLtsEx.exA 5 = some [(2, 2), (2, 3), (3, 2), (3, 3), (0, 0), (0, 1), (1, 0), (1, 1), (4, 4)] :=
  ⟨by decide +kernel, rankedB_iff.mp (by decide +kernel), exA_computeSimDown⟩
-- a larger bound than the number of states, and the empty bound
example : computeSimDown TaLtsEx.exA 9 = computeSimDown TaLtsEx.exA 5 ∧ computeSimDown ⟨[], []⟩ 0 = some [] := by
  rw [exA_computeSimDown_9, exA_computeSimDown]
  exact ⟨rfl, by decide +kernel⟩

/-- for states numbered below `n` (the way C04 states the precondition) -/
theorem length_states_le_of_lt (A : TA) (n : Nat) (h : ∀ q, q ∈ A.states → q < n) : A.states.length ≤ n := by
  have := (PropAux.nodup_states A).length_le_of_subset (l₂ := List.range n) (fun q hq => List.mem_range.mpr (h q hq))
  simpa using this

/-! ### the preconditions of the engine for `TranslateUpward`

`N = (parents A).length` = `transitions_->size()`.  Hypotheses: `hidx` – the numbering is injective on the states with values
`< N` (what the code asserts); `hown` – every state owns a rule (no useless states); `hleaf` – there is a leaf rule (true for
an automaton without useless states that has a state at all; without it the leaf node `N` is in the partition but not a
state of the LTS, whose `states_` grows with the transitions only). -/

theorem ltsOK_translateUpward (A : TA) (idx : Nat → Nat) : LE.LtsOK (translateUpward A idx).1 :=
  fun _ hed => lt_ltsSize hed 0

theorem envNode_lt {A : TA} {idx : Nat → Nat} {e : Env} (he : e ∈ envList A idx) :
    envNode A idx e < (parents A).length + 1 + (envList A idx).length := by
  have := pos_lt he
  unfold envNode
  omega

theorem env_state_lt {A : TA} {idx : Nat → Nat} (hidx : IdxOk A (parents A).length idx) {e : Env}
    (he : e ∈ envList A idx) : e.state < (parents A).length := by
  obtain ⟨ρ, hρ, _, i, _, rfl⟩ := mem_envList.mp he
  exact hidx.lt _ (parent_mem_states hρ)

theorem up_n_le {A : TA} {idx : Nat → Nat} (hidx : IdxOk A (parents A).length idx) :
    (translateUpward A idx).1.n ≤ (parents A).length + 1 + (envList A idx).length := by
  refine (ltsSize_le_iff _ 0).mpr ⟨Nat.zero_le _, fun e he => ?_⟩
  have he' : e ∈ (translateUpward A idx).1.edges := he
  rcases mem_upEdges.mp he' with ⟨ρ, hρ, h⟩ | ⟨env, henv, rfl⟩
  · rcases h with ⟨_, rfl⟩ | ⟨p, hk, rfl⟩ | ⟨hl, i, p, hip, rfl⟩
    · have := hidx.lt _ (parent_mem_states hρ)
      simp only; omega
    · have h1 := hidx.lt _ (parent_mem_states hρ)
      have h2 := hidx.lt p (kid_mem_states hρ (by rw [hk]; exact List.mem_singleton.mpr rfl))
      simp only; omega
    · have h2 := hidx.lt p (kid_mem_states hρ (List.mem_of_getElem? hip))
      have h3 := envNode_lt (mkEnv_mem (idx := idx) hρ hl hip)
      simp only; omega
  · have h1 := envNode_lt henv
    have h2 := env_state_lt hidx henv
    simp only; omega

theorem up_state_lt_n {A : TA} {idx : Nat → Nat} {q : Nat} (hq : q ∈ parents A) : idx q < (translateUpward A idx).1.n := by
  obtain ⟨ρ, hρ, rfl⟩ := mem_parents.mp hq
  match hk : ρ.kids with
  | [] =>
    have he : ((parents A).length, pos ρ.sym (symList A), idx ρ.parent) ∈ (translateUpward A idx).1.edges :=
      mem_upEdges.mpr (Or.inl ⟨ρ, hρ, Or.inl ⟨hk, rfl⟩⟩)
    exact (lt_ltsSize he 0).2
  | [p] =>
    have he : (idx p, pos ρ.sym (symList A), idx ρ.parent) ∈ (translateUpward A idx).1.edges :=
      mem_upEdges.mpr (Or.inl ⟨ρ, hρ, Or.inr (Or.inl ⟨p, hk, rfl⟩)⟩)
    exact (lt_ltsSize he 0).2
  | p :: p' :: ks =>
    have hl : 2 ≤ ρ.kids.length := by rw [hk]; simp
    have hm : mkEnv A idx ρ 0 ∈ envList A idx := mkEnv_mem hρ hl (i := 0) (p := p) (by rw [hk]; rfl)
    exact (lt_ltsSize (env_edge_mem hm) 0).2

theorem up_leaf_lt_n {A : TA} {idx : Nat → Nat} (hleaf : ∃ ρ, ρ ∈ A.rules ∧ ρ.kids = []) :
    (parents A).length < (translateUpward A idx).1.n := by
  obtain ⟨ρ, hρ, hk⟩ := hleaf
  have he : ((parents A).length, pos ρ.sym (symList A), idx ρ.parent) ∈ (translateUpward A idx).1.edges :=
    mem_upEdges.mpr (Or.inl ⟨ρ, hρ, Or.inl ⟨hk, rfl⟩⟩)
  exact (lt_ltsSize he 0).1

theorem up_env_lt_n {A : TA} {idx : Nat → Nat} {e : Env} (he : e ∈ envList A idx) :
    envNode A idx e < (translateUpward A idx).1.n :=
  (lt_ltsSize (env_edge_mem he) 0).1

def stateBlocks (A : TA) (idx : Nat → Nat) : List (List Nat) :=
  if upBase A = 3 then
    [((parents A).filter (fun q => A.final.contains q)).map idx, ((parents A).filter (fun q => !A.final.contains q)).map idx]
  else [(parents A).map idx]

theorem upPartition_eq (A : TA) (idx : Nat → Nat) :
    upPartition A idx = stateBlocks A idx ++ [[(parents A).length]] ++ (headKeys A idx).map (envBlock A idx) := rfl

theorem length_stateBlocks (A : TA) (idx : Nat → Nat) : (stateBlocks A idx).length = upBase A - 1 := by
  unfold stateBlocks
  rcases upBase_cases A with ⟨h, _⟩ | ⟨h, _⟩ <;> simp [h]

theorem length_upPartition (A : TA) (idx : Nat → Nat) :
    (upPartition A idx).length = upBase A + (headKeys A idx).length := by
  rw [upPartition_eq]
  simp only [List.length_append, List.length_map, length_stateBlocks, List.length_cons, List.length_nil]
  rcases upBase_cases A with ⟨h, _⟩ | ⟨h, _⟩ <;> omega

theorem stateBlocks_flatten_perm (A : TA) (idx : Nat → Nat) : (stateBlocks A idx).flatten.Perm ((parents A).map idx) := by
  unfold stateBlocks
  split
  · simp only [List.flatten_cons, List.flatten_nil, List.append_nil, ← List.map_append]
    exact (List.filter_append_perm (fun q => A.final.contains q) (parents A)).map idx
  · simp only [List.flatten_cons, List.flatten_nil, List.append_nil]
    exact List.Perm.refl _

theorem nodup_parents_map {A : TA} {idx : Nat → Nat} (hidx : IdxOk A (parents A).length idx) :
    ((parents A).map idx).Nodup :=
  nodup_map_of_injOn (nodup_dedupG _) (fun x hx y hy => hidx.inj x y (parents_mem_states hx) (parents_mem_states hy))

theorem mem_envBlocks_flatten {A : TA} {idx : Nat → Nat} {x : Nat} :
    x ∈ ((headKeys A idx).map (envBlock A idx)).flatten ↔ ∃ e, e ∈ envList A idx ∧ x = envNode A idx e := by
  simp only [List.mem_flatten, List.mem_map]
  constructor
  · rintro ⟨b, ⟨k, _, rfl⟩, hx⟩
    obtain ⟨e, he, _, rfl⟩ := mem_envBlock.mp hx
    exact ⟨e, he, rfl⟩
  · rintro ⟨e, he, rfl⟩
    exact ⟨envBlock A idx e.key, ⟨e.key, mem_dedupG.mpr (List.mem_map.mpr ⟨e, he, rfl⟩), rfl⟩,
      mem_envBlock.mpr ⟨e, he, rfl, rfl⟩⟩

theorem nodup_grouped {ε κ : Type} [DecidableEq κ] (key : ε → κ) (f : ε → Nat) (elems : List ε) (hnd : elems.Nodup)
    (hinj : ∀ x y, x ∈ elems → y ∈ elems → f x = f y → x = y) : ∀ keys : List κ, keys.Nodup →
    ((keys.map (fun k => (elems.filter (fun e => decide (key e = k))).map f)).flatten).Nodup
  | [], _ => by simp
  | k :: ks, hk => by
    obtain ⟨hkn, hks⟩ := List.nodup_cons.mp hk
    rw [List.map_cons, List.flatten_cons, List.nodup_append]
    refine ⟨?_, nodup_grouped key f elems hnd hinj ks hks, ?_⟩
    · exact nodup_map_of_injOn (List.Nodup.sublist List.filter_sublist hnd)
        (fun x hx y hy => hinj x y (List.mem_filter.mp hx).1 (List.mem_filter.mp hy).1)
    · intro a ha b hb hab
      obtain ⟨e, he, rfl⟩ := List.mem_map.mp ha
      obtain ⟨bl, hbl, hbb⟩ := List.mem_flatten.mp hb
      obtain ⟨k', hk', rfl⟩ := List.mem_map.mp hbl
      obtain ⟨e', he', rfl⟩ := List.mem_map.mp hbb
      obtain ⟨h1, h2⟩ := List.mem_filter.mp he
      obtain ⟨h1', h2'⟩ := List.mem_filter.mp he'
      have : e = e' := hinj e e' h1 h1' hab
      subst this
      have e1 : key e = k := of_decide_eq_true h2
      have e2 : key e = k' := of_decide_eq_true h2'
      exact hkn (e1 ▸ e2 ▸ hk')

theorem nodup_envBlocks_flatten (A : TA) (idx : Nat → Nat) : ((headKeys A idx).map (envBlock A idx)).flatten.Nodup :=
  nodup_grouped Env.key (envNode A idx) (envList A idx) (nodup_dedupG _)
    (fun _ _ hx _ h => envNode_inj hx h) (headKeys A idx) (nodup_dedupG _)

theorem upPartition_flatten (A : TA) (idx : Nat → Nat) : (upPartition A idx).flatten =
    (stateBlocks A idx).flatten ++ ([(parents A).length] ++ ((headKeys A idx).map (envBlock A idx)).flatten) := by
  rw [upPartition_eq]
  simp only [List.flatten_append, List.flatten_cons, List.flatten_nil, List.append_nil, List.append_assoc]

theorem mem_upPartition_flatten {A : TA} {idx : Nat → Nat} {x : Nat} : x ∈ (upPartition A idx).flatten ↔
    (∃ q, q ∈ parents A ∧ x = idx q) ∨ x = (parents A).length ∨ ∃ e, e ∈ envList A idx ∧ x = envNode A idx e := by
  rw [upPartition_flatten, List.mem_append, List.mem_append, (stateBlocks_flatten_perm A idx).mem_iff, List.mem_map,
    List.mem_singleton, mem_envBlocks_flatten]
  constructor
  · rintro (⟨q, hq, rfl⟩ | h | h)
    · exact Or.inl ⟨q, hq, rfl⟩
    · exact Or.inr (Or.inl h)
    · exact Or.inr (Or.inr h)
  · rintro (⟨q, hq, rfl⟩ | h | h)
    · exact Or.inl ⟨q, hq, rfl⟩
    · exact Or.inr (Or.inl h)
    · exact Or.inr (Or.inr h)

theorem nodup_upPartition_flatten {A : TA} {idx : Nat → Nat} (hidx : IdxOk A (parents A).length idx) :
    (upPartition A idx).flatten.Nodup := by
  rw [upPartition_flatten, List.nodup_append]
  refine ⟨(stateBlocks_flatten_perm A idx).nodup_iff.mpr (nodup_parents_map hidx), ?_, ?_⟩
  · rw [List.nodup_append]
    refine ⟨by simp, nodup_envBlocks_flatten A idx, ?_⟩
    intro a ha b hb hab
    obtain ⟨e, _, rfl⟩ := mem_envBlocks_flatten.mp hb
    have := envNode_gt A idx e
    rw [List.mem_singleton] at ha
    omega
  · intro a ha b hb hab
    obtain ⟨q, hq, rfl⟩ := List.mem_map.mp ((stateBlocks_flatten_perm A idx).mem_iff.mp ha)
    have hlt := hidx.lt q (parents_mem_states hq)
    rcases List.mem_append.mp hb with hb | hb
    · rw [List.mem_singleton] at hb
      omega
    · obtain ⟨e, _, rfl⟩ := mem_envBlocks_flatten.mp hb
      have := envNode_gt A idx e
      omega

theorem upPartition_nonempty {A : TA} {idx : Nat → Nat} (hown : AllOwnRule A) (hrule : A.rules ≠ []) :
    ∀ b, b ∈ upPartition A idx → b ≠ [] := by
  intro b hb
  rw [upPartition_eq, List.mem_append, List.mem_append] at hb
  rcases hb with (hb | hb) | hb
  · unfold stateBlocks at hb
    rcases upBase_cases A with ⟨h3, hpos, hlt⟩ | ⟨h2, _⟩
    · rw [if_pos h3] at hb
      simp only [List.mem_cons, List.not_mem_nil, or_false] at hb
      rcases hb with rfl | rfl
      · obtain ⟨f, hf⟩ := List.exists_mem_of_length_pos hpos
        have hf' : f ∈ A.final := mem_dedupG.mp hf
        have hp : f ∈ parents A := mem_parents.mpr (hown f (final_mem_states hf'))
        exact List.ne_nil_of_mem (mem_finBlock.mpr ⟨f, hp, hf', rfl⟩)
      · -- some state that owns a rule is not final, else there would be at least as many final states
        have hex : ∃ p, p ∈ parents A ∧ p ∉ A.final := by
          refine Classical.byContradiction fun hn => ?_
          have hsub : parents A ⊆ dedupG A.final := by
            intro p hp
            refine mem_dedupG.mpr (Classical.byContradiction fun hpf => hn ⟨p, hp, hpf⟩)
          have := (nodup_dedupG (A.rules.map Rule.parent)).length_le_of_subset hsub
          unfold parents at hlt
          omega
        obtain ⟨p, hp, hpf⟩ := hex
        exact List.ne_nil_of_mem (mem_nonfinBlock.mpr ⟨p, hp, hpf, rfl⟩)
    · rw [if_neg (by omega)] at hb
      rw [List.mem_singleton] at hb
      subst hb
      obtain ⟨ρ, hρ⟩ := List.exists_mem_of_ne_nil _ hrule
      exact List.ne_nil_of_mem (List.mem_map.mpr ⟨ρ.parent, mem_parents.mpr ⟨ρ, hρ, rfl⟩, rfl⟩)
  · rw [List.mem_singleton] at hb
    subst hb
    simp
  · obtain ⟨k, hk, rfl⟩ := List.mem_map.mp hb
    obtain ⟨e, he, hek⟩ := List.mem_map.mp (mem_dedupG.mp hk)
    exact List.ne_nil_of_mem (mem_envBlock.mpr ⟨e, he, hek, rfl⟩)

/-- the converse of `LE.isPartition_spec` -/
theorem isPartition_of_spec {part : List (List Nat)} {n : Nat} (h1 : ∀ b, b ∈ part → b ≠ [])
    (h2 : ∀ q, q ∈ part.flatten ↔ q < n) (h3 : part.flatten.Nodup) : LE.isPartition part n = true := by
  simp only [LE.isPartition, Bool.and_eq_true, List.all_eq_true, Bool.not_eq_true', decide_eq_true_eq,
    List.mem_range, beq_iff_eq]
  refine ⟨⟨?_, fun q hq => (h2 q).mp hq⟩, ?_⟩
  · intro b hb
    cases hbe : b with
    | nil => exact absurd hbe (h1 b hb)
    | cons _ _ => rfl
  · intro q hq
    rw [h3.count, if_pos ((h2 q).mpr hq)]

/-- **`isPartition` for `TranslateUpward`**: the blocks are non-empty and list every state `0 … states_-1` of the LTS exactly
once -/
theorem upPartition_isPartition {A : TA} {idx : Nat → Nat} (hidx : IdxOk A (parents A).length idx) (hown : AllOwnRule A)
    (hleaf : ∃ ρ, ρ ∈ A.rules ∧ ρ.kids = []) :
    LE.isPartition (translateUpward A idx).2.1 (translateUpward A idx).1.n = true := by
  have hrule : A.rules ≠ [] := by
    obtain ⟨ρ, hρ, _⟩ := hleaf
    exact List.ne_nil_of_mem hρ
  refine isPartition_of_spec (upPartition_nonempty hown hrule) ?_ (nodup_upPartition_flatten hidx)
  intro x
  show x ∈ (upPartition A idx).flatten ↔ _
  rw [mem_upPartition_flatten]
  constructor
  · rintro (⟨q, hq, rfl⟩ | rfl | ⟨e, he, rfl⟩)
    · exact up_state_lt_n hq
    · exact up_leaf_lt_n hleaf
    · exact up_env_lt_n he
  · intro hx
    have hle := up_n_le hidx
    rcases Nat.lt_trichotomy x (parents A).length with hlt | heq | hgt
    · obtain ⟨q, hq, he⟩ := surj_of_inj_lt (nodup_dedupG (A.rules.map Rule.parent))
        (fun a b ha hb => hidx.inj a b (parents_mem_states ha) (parents_mem_states hb))
        (fun a ha => hidx.lt a (parents_mem_states ha)) x hlt
      exact Or.inl ⟨q, hq, he.symm⟩
    · exact Or.inr (Or.inl heq)
    · have hi : x - (parents A).length - 1 < (envList A idx).length := by omega
      refine Or.inr (Or.inr ⟨(envList A idx)[x - (parents A).length - 1], List.getElem_mem hi, ?_⟩)
      have hnd : (envList A idx).Nodup := nodup_dedupG _
      unfold envNode
      rw [pos_getElem hnd (List.getElem?_eq_getElem hi)]
      omega

/-- non-vacuity: the numbering of the fresh translator on `exB`; four environments in three classes -/
example : IdxOk TaLtsEx.exB (parents TaLtsEx.exB).length (idxOf (upOrder TaLtsEx.exB)) ∧ AllOwnRule TaLtsEx.exB ∧
    (∃ ρ, ρ ∈ TaLtsEx.exB.rules ∧ ρ.kids = []) ∧
    (translateUpward TaLtsEx.exB (idxOf (upOrder TaLtsEx.exB))).2.1 = [[1, 2, 3], [0], [4], [5, 7], [6], [8]] ∧
    (translateUpward TaLtsEx.exB (idxOf (upOrder TaLtsEx.exB))).1.n = 9 :=
  ⟨idxOkB_iff.mp (by decide +kernel), allOwnRuleB_iff.mp (by decide +kernel), ⟨⟨0, [], 0⟩, by decide +kernel, rfl⟩, by decide +kernel, by decide +kernel⟩

/-- **`isConsistent` for `TranslateUpward`**: the relation on the block numbers is reflexive -/
theorem upBlockRel_consistent (A : TA) (idx : Nat → Nat) :
    LE.isConsistent (translateUpward A idx).2.1 (translateUpward A idx).2.2 = true := by
  show LE.isConsistent (upPartition A idx) (upBlockRel A idx) = true
  simp only [LE.isConsistent, List.all_eq_true, List.mem_range, List.contains_iff_mem, length_upPartition]
  intro i hi
  rw [upBlockRel_eq, List.mem_append]
  by_cases hb : i < upBase A
  · exact Or.inl ((baseRel_spec (upBase_eq A)).1 i hb)
  · have hi' : i - upBase A < (headKeys A idx).length := by omega
    exact Or.inr (mem_envPairs.mpr ⟨i - upBase A, i - upBase A, (headKeys A idx)[i - upBase A],
      List.getElem?_eq_getElem hi', List.getElem?_eq_getElem hi', by omega, by omega⟩)

/-- **`RelTrans` for `TranslateUpward`**: the relation on the block numbers is transitive (not asserted by the C++, needed
by the engine) -/
theorem upBlockRel_trans (A : TA) (idx : Nat → Nat) :
    LE.RelTrans (translateUpward A idx).2.1 (translateUpward A idx).2.2 := by
  intro i j k _ _ _ h1 h2
  show (i, k) ∈ upBlockRel A idx
  have h1' : (i, j) ∈ upBlockRel A idx := h1
  have h2' : (j, k) ∈ upBlockRel A idx := h2
  obtain ⟨_, hlt, htr⟩ := baseRel_spec (upBase_eq A)
  rw [upBlockRel_eq, List.mem_append] at h1' h2' ⊢
  -- a block below `upBase A` is related to no block of environments
  rcases h1' with h1' | h1' <;> rcases h2' with h2' | h2'
  · exact Or.inl (htr _ h1' _ h2' rfl)
  · obtain ⟨_, _, _, _, _, hj, _⟩ := mem_envPairs.mp h2'
    have := (hlt _ h1').2
    omega
  · obtain ⟨_, _, _, _, _, _, hj⟩ := mem_envPairs.mp h1'
    have := (hlt _ h2').1
    omega
  · obtain ⟨a, b, c, ha, hb, hi, hj⟩ := mem_envPairs.mp h1'
    obtain ⟨b', d, c', hb', hd, hj', hk⟩ := mem_envPairs.mp h2'
    cases Nat.add_left_cancel (hj.symm.trans hj')
    cases hb.symm.trans hb'
    exact Or.inr (mem_envPairs.mpr ⟨a, d, c, ha, hd, hi, hk⟩)

example : upBlockRel TaLtsEx.exB (idxOf (upOrder TaLtsEx.exB)) =
    [(0, 0), (1, 0), (1, 1), (2, 2), (3, 3), (4, 4), (5, 5)] := by decide +kernel

/-- for a partition, "the block of `x` is related to the block of `y`" (`LE.initRel`, through `index_`) is "some related
blocks contain `x` and `y`" (`TaLts.blockRel`) -/
theorem initRel_iff_blockRel {part : List (List Nat)} {rel : L.Rel} {n : Nat} (hp : LE.isPartition part n = true)
    (p : Nat × Nat) : p ∈ LE.initRel part rel ↔ p ∈ blockRel part rel := by
  obtain ⟨x, y⟩ := p
  obtain ⟨_, _, hnd⟩ := LE.isPartition_spec hp
  obtain ⟨hdisj, _⟩ := LE.disjoint_of_flatten_nodup part hnd
  have hmem : ∀ z, z ∈ part.flatten → z ∈ part.getD (LE.blockOf part z) [] := by
    intro z hz
    obtain ⟨b, hb, hzb⟩ := List.mem_flatten.mp hz
    obtain ⟨i, _, he⟩ := (mem_iff_getD [] part b).mp hb
    exact (LE.blockOf_lt part z ⟨i, by rw [he]; exact hzb⟩).2
  have hflat : ∀ z i, z ∈ part.getD i [] → z ∈ part.flatten := by
    intro z i hz
    have hi : i < part.length := by
      refine Classical.byContradiction fun hn => ?_
      rw [getD_of_length_le _ _ _ (Nat.le_of_not_lt hn)] at hz
      cases hz
    exact List.mem_flatten.mpr ⟨_, getD_mem [] part i hi, hz⟩
  rw [LE.mem_initRel, mem_blockRel]
  constructor
  · rintro ⟨hx, hy, hr⟩
    exact ⟨_, _, hr, hmem x hx, hmem y hy⟩
  · rintro ⟨i, j, hr, hx, hy⟩
    refine ⟨hflat x i hx, hflat y j hy, ?_⟩
    rw [LE.blockOf_eq part x i hdisj hx, LE.blockOf_eq part y j hdisj hy]
    exact hr

/-- the hypothesis of the upward route that `AllOwnRule` does not give: unless `n = 0` (then `computeSimulation` returns at
once) there is a leaf rule.  It is NEEDED: `ExplicitLTS::states_` grows with the transitions only, so without a leaf rule
the leaf node `N` is in the partition but not a state of the LTS; on `a(0) → 0`, `F = {0}`, `n = 1` the real library
writes behind `index_` in `makeBlock` (heap-buffer-overflow under ASan), and on the automaton without rules and `n = 1` it
is handed an empty block.  Both inputs are outside C04 (useless states, resp. `n` is not the number of states). -/
def LeafOk (A : TA) (n : Nat) : Prop := n = 0 ∨ ∃ ρ, ρ ∈ A.rules ∧ ρ.kids = []

theorem hasLeafB_iff {A : TA} : hasLeafB A = true ↔ ∃ ρ, ρ ∈ A.rules ∧ ρ.kids = [] := by
  simp only [hasLeafB, List.any_eq_true, List.isEmpty_iff]

theorem up_engine_eq {A : TA} {idx : Nat → Nat} (hidx : IdxOk A (parents A).length idx) (hown : AllOwnRule A) {n : Nat}
    (hleaf : LeafOk A n) (R : L.Rel)
    (h : LE.computeSimulation (translateUpward A idx).1 (translateUpward A idx).2.1 (translateUpward A idx).2.2 n = some R)
    (x y : Nat) : (x, y) ∈ R ↔
      (x, y) ∈ ltsSimOut (translateUpward A idx).1 (blockRel (translateUpward A idx).2.1 (translateUpward A idx).2.2) n := by
  by_cases hn : n = 0
  · subst hn
    exact mem_iff_ltsSimOut_zero h _ _ x y
  · have hl : ∃ ρ, ρ ∈ A.rules ∧ ρ.kids = [] := hleaf.resolve_left hn
    have hp := upPartition_isPartition hidx hown hl
    rw [LE.engine_result_eq (ltsOK_translateUpward A idx) hp (upBlockRel_consistent A idx) (upBlockRel_trans A idx) n R h x y]
    exact LE.ltsSimOut_congr _ (initRel_iff_blockRel hp) n x y

theorem up_engine_total {A : TA} {idx : Nat → Nat} (hidx : IdxOk A (parents A).length idx) (hown : AllOwnRule A) {n : Nat}
    (hleaf : LeafOk A n) :
    ∃ R, LE.computeSimulation (translateUpward A idx).1 (translateUpward A idx).2.1 (translateUpward A idx).2.2 n = some R := by
  by_cases hn : n = 0
  · subst hn
    exact ⟨[], rfl⟩
  · have hl : ∃ ρ, ρ ∈ A.rules ∧ ρ.kids = [] := hleaf.resolve_left hn
    exact LE.engine_total (ltsOK_translateUpward A idx) (upPartition_isPartition hidx hown hl)
      (upBlockRel_consistent A idx) (upBlockRel_trans A idx) n

/-- **C04, upward: `ComputeUpwardSimulation(n)` end to end** (the repaired `TranslateUpward`): for an automaton in which every state owns
a rule, with at most `n` states (and a leaf rule unless `n = 0`), whatever the composition returns is `upSimRef A` -/
theorem computeSimUp_eq (A : TA) (n : Nat) (hown : AllOwnRule A) (hn : A.states.length ≤ n) (hleaf : LeafOk A n) (R : Rel)
    (h : computeSimUp A n = some R) : ∀ q r, (q, r) ∈ R ↔ (q, r) ∈ upSimRef A := by
  have hidx := idxOk_up hown
  have hsize : (parents A).length ≤ n := by rw [length_parents_of_own hown]; exact hn
  obtain ⟨_, hD, rfl⟩ := Option.map_eq_some_iff.mp h
  obtain ⟨R0, he, rfl⟩ := Option.map_eq_some_iff.mp hD
  exact mem_discRel_of_ref (nodup_upOrder A) (fun _ => mem_upOrder_of_own hown)
    (by rw [length_upOrder_of_own hown]; exact hsize) (up_engine_eq hidx hown hleaf R0 he) (fun _ _ => upSimRef_sub A)
    (translateUpward_correct A n _ hidx hsize hown)

theorem computeSimUp_total (A : TA) (n : Nat) (hown : AllOwnRule A) (hleaf : LeafOk A n) :
    ∃ R, computeSimUp A n = some R := by
  obtain ⟨R0, h⟩ := up_engine_total (idxOk_up hown) hown hleaf
  exact ⟨discRel (simDisc (upOrder A) n R0), by
    unfold computeSimUp computeSimUpDisc
    simp only [translateUpwardFast_eq, h, Option.map_some]⟩

/-- non-vacuity: final and non-final states (three state blocks), binary rules, four states -/
theorem exB_computeSimUp : computeSimUp TaLtsEx.exB 4 = some [(0, 0), (2, 2), (3, 2), (3, 3), (3, 4), (4, 4)] := by
  decide +kernel

example : AllOwnRule TaLtsEx.exB ∧ TaLtsEx.exB.states.length ≤ 4 ∧ LeafOk TaLtsEx.exB 4 ∧
    computeSimUp TaLtsEx.exB 4 = some [(0, 0), (2, 2), (3, 2), (3, 3), (3, 4), (4, 4)] :=
  ⟨allOwnRuleB_iff.mp (by decide +kernel), by decide +kernel, Or.inr (hasLeafB_iff.mp (by decide +kernel)), exB_computeSimUp⟩

/-! "without useless states" gives both hypotheses (`AllOwnRule`, `LeafOk`) -/

theorem own_of_productive {A : TA} {q : Nat} (h : Productive A q) : ∃ ρ, ρ ∈ A.rules ∧ ρ.parent = q := by
  obtain ⟨⟨f, ts⟩, ht⟩ := h
  obtain ⟨ρ, hρ, _, _, hp⟩ := mem_reach_node.mp ht
  exact ⟨ρ, hρ, hp⟩

/-- follow the first children down to a leaf -/
theorem leaf_of_reach (A : TA) : ∀ (t : Tree) (q : Nat), q ∈ reach A t → ∃ ρ, ρ ∈ A.rules ∧ ρ.kids = [] := by
  refine tree_induction fun f ts ih q h => ?_
  obtain ⟨ρ, hρ, _, hk, _⟩ := mem_reach_node.mp h
  generalize hks : ρ.kids = ks at hk
  cases hk with
  | nil => exact ⟨ρ, hρ, hks⟩
  | cons hd _ => exact ih _ List.mem_cons_self _ hd

theorem allOwnRule_of_productive {A : TA} (h : ∀ q, q ∈ A.states → Productive A q) : AllOwnRule A :=
  fun q hq => own_of_productive (h q hq)

/-- with `n` the number of states (what C04 asks to be passed) -/
theorem leafOk_of_productive {A : TA} (h : ∀ q, q ∈ A.states → Productive A q) : LeafOk A A.states.length := by
  cases hs : A.states with
  | nil => exact Or.inl rfl
  | cons q qs =>
    obtain ⟨t, ht⟩ := h q (by rw [hs]; exact List.mem_cons_self)
    exact Or.inr (leaf_of_reach A t q ht)

theorem lookup_bwd {order : List Nat} (hnd : order.Nodup) (n : Nat) (R : L.Rel) (i : Nat) (hi : i < order.length) :
    (simDisc order n R).dict.bwd.lookup i = order[i]? := by
  rw [(dict_simDisc hnd n R).2, List.getElem?_eq_getElem hi]
  apply lookup_of_mem
  · rw [List.map_map]
    exact (translPairs_nodup hnd).2
  · exact List.mem_map.mpr ⟨(order[i], i), List.mem_zipIdx_iff_getElem?.mpr (List.getElem?_eq_getElem hi), rfl⟩

/-- the class-level part of `Reduce` (`RestrictToSymmetric`, `GetQuotientProjection` on the `StateDiscontBinaryRelation`
around the matrix of `buildResult`) refines the list-of-rows functions of `Vata/ReduceModel.lean`; no hypothesis on `A` -/
theorem collapseMapAsCoded_spec (A : TA) :
    ∃ R0, LE.computeSimulation1 (translateDownward A A.states.length (idxOf (downOrder A))) A.states.length = some R0 ∧
      collapseMapAsCoded A = some (projToMap (downOrder A)
        (quotientProjectionIdx (restrictToSymmetric (resultMat A.states.length R0).toBMat))) := by
  obtain ⟨R0, he⟩ := down_engine_total A A.states.length (idxOf (downOrder A))
  refine ⟨R0, he, ?_⟩
  have heng := down_engine_eq A _ _ R0 he
  have hR0 : ∀ p, p ∈ R0 → p.1 < A.states.length ∧ p.2 < A.states.length :=
    fun p hp => ltsSimOut_lt ((heng p.1 p.2).mp hp)
  obtain ⟨w, hsz, _⟩ := resultMat_spec A.states.length R0 hR0
  obtain ⟨_, k2, _, k4, _⟩ := Mat.restrictToSymmetric_refines w
  have hq := Disc.quotProj_eq_projToMap (simDisc (downOrder A) A.states.length R0).restrictToSymmetric (downOrder A)
    (by
      show (downOrder A).length = (resultMat A.states.length R0).restrictToSymmetric.size
      rw [k2, hsz, length_downOrder])
    (fun i hi => lookup_bwd (nodup_downOrder A) A.states.length R0 i hi)
  have hrel : (simDisc (downOrder A) A.states.length R0).restrictToSymmetric.rel.toBMat =
      restrictToSymmetric (resultMat A.states.length R0).toBMat := k4
  rw [hrel] at hq
  unfold collapseMapAsCoded computeSimDownDisc
  simp only [translateDownwardFast_eq, he, Option.map_some, hq]

theorem resultMat_eq_relMatrix (A : TA) (hrk : Ranked A) (R0 : L.Rel)
    (he : LE.computeSimulation1 (translateDownward A A.states.length (idxOf (downOrder A))) A.states.length = some R0) :
    (resultMat A.states.length R0).toBMat = relMatrix (downSimRef A) (downOrder A) := by
  have heng := down_engine_eq A _ _ R0 he
  have hR0 : ∀ p, p ∈ R0 → p.1 < A.states.length ∧ p.2 < A.states.length :=
    fun p hp => ltsSimOut_lt ((heng p.1 p.2).mp hp)
  obtain ⟨_, hsz, hget⟩ := resultMat_spec A.states.length R0 hR0
  have hidx := idxOk_down A (Nat.le_refl _)
  have hlen := length_downOrder A
  have hsq1 := Mat.square_toBMat (resultMat A.states.length R0)
  rw [hsz] at hsq1
  have hsq2 := RM.square_relMatrix (downSimRef A) (downOrder A)
  rw [hlen] at hsq2
  apply Mat.bmat_ext hsq1 hsq2
  intro i j hi hj
  have hi' : i < (downOrder A).length := by rw [hlen]; exact hi
  have hj' : j < (downOrder A).length := by rw [hlen]; exact hj
  rw [Mat.mget_toBMat (by rw [hsz]; exact hi) (by rw [hsz]; exact hj), hget i j hi hj, RM.mget_relMatrix _ _ hi' hj']
  have gi : (downOrder A).getD i 0 = (downOrder A)[i] := getD_eq_getElem hi' 0
  have gj : (downOrder A).getD j 0 = (downOrder A)[j] := getD_eq_getElem hj' 0
  rw [gi, gj]
  have hqi : (downOrder A)[i] ∈ A.states := mem_downOrder.mp (List.getElem_mem hi')
  have hqj : (downOrder A)[j] ∈ A.states := mem_downOrder.mp (List.getElem_mem hj')
  have pi : idxOf (downOrder A) (downOrder A)[i] = i := pos_getElem (nodup_downOrder A) (List.getElem?_eq_getElem hi')
  have pj : idxOf (downOrder A) (downOrder A)[j] = j := pos_getElem (nodup_downOrder A) (List.getElem?_eq_getElem hj')
  have key := translateDownward_correct A A.states.length _ hidx hrk _ _ hqi hqj
  rw [pi, pj, ← heng i j] at key
  rw [Bool.eq_iff_iff, decide_eq_true_iff, List.contains_iff_mem]
  exact key

theorem collapseMapAsCoded_eq (A : TA) (hrk : Ranked A) : collapseMapAsCoded A = some (quotientMap A (downOrder A)) := by
  obtain ⟨R0, he, h⟩ := collapseMapAsCoded_spec A
  rw [h, resultMat_eq_relMatrix A hrk R0 he]
  rfl

/-- **refinement**: `Reduce` as coded (translation, engine model, `buildResult`, the flat matrix class, the two-way
dictionary) returns the automaton of `reduceModel` (`downSimRef` as a list-of-rows matrix) for the numbering `downOrder A` -/
theorem reduceAsCoded_eq_reduceModel (A : TA) (hrk : Ranked A) : reduceAsCoded A = some (reduceModel A (downOrder A)) := by
  unfold reduceAsCoded
  rw [collapseMapAsCoded_eq A hrk]
  rfl

/-- the simulation pipeline on `TaLtsEx.exA` (`0 ≈ 1`, `2 ≈ 3`; the numbering is `2, 3, 0, 1, 4`), run once: the examples here and
in the property files read their facts off it -/
theorem exA_collapseMap : collapseMapAsCoded TaLtsEx.exA = some [(2, 2), (3, 2), (0, 0), (1, 0), (4, 4)] := by
  decide +kernel

theorem exA_reduceAsCoded : reduceAsCoded TaLtsEx.exA =
    some (removeUnreachable (reindex (applyMap [(2, 2), (3, 2), (0, 0), (1, 0), (4, 4)]) TaLtsEx.exA)) := by
  rw [reduceAsCoded, exA_collapseMap]
  rfl

/-- non-vacuity -/
example : Ranked TaLtsEx.exA ∧ downOrder TaLtsEx.exA = [2, 3, 0, 1, 4] ∧
    collapseMapAsCoded TaLtsEx.exA = some [(2, 2), (3, 2), (0, 0), (1, 0), (4, 4)] ∧
    (reduceAsCoded TaLtsEx.exA).map (fun B => (B.rules, B.final)) =
      some ([⟨0, [], 0⟩, ⟨0, [], 0⟩, ⟨1, [0, 0], 2⟩, ⟨1, [0, 0], 2⟩], [2, 2]) :=
  ⟨rankedB_iff.mp (by decide +kernel), by decide +kernel, exA_collapseMap, by rw [exA_reduceAsCoded]; decide +kernel⟩

/-- **C05, language** -/
theorem reduceAsCoded_lang (A : TA) (hrk : Ranked A) (B : TA) (h : reduceAsCoded A = some B) : LangEq B A := by
  rw [reduceAsCoded_eq_reduceModel A hrk] at h
  injection h with h
  rw [← h]
  exact fun t => reduceModel_lang A (downOrder A) (downOrder_perm A) t

/-- whatever is returned is `RemoveUnreachableStates(CollapseStates(m))` for some map (no hypothesis) -/
theorem reduceAsCoded_shape (A : TA) (B : TA) (h : reduceAsCoded A = some B) :
    ∃ m, collapseMapAsCoded A = some m ∧ B = removeUnreachable (reindex (applyMap m) A) := by
  unfold reduceAsCoded at h
  cases hm : collapseMapAsCoded A with
  | none => rw [hm] at h; cases h
  | some m =>
    rw [hm] at h
    injection h with h
    exact ⟨m, rfl, h.symm⟩

/-- **C05, size**: never more states, never more distinct rules, never more rule-list entries, and every state of the
result is the image of a state of `A` under the collapse map – for every automaton, ranked or not -/
theorem reduceAsCoded_never_grows (A : TA) (B : TA) (h : reduceAsCoded A = some B) :
    B.states.length ≤ A.states.length ∧ B.rules.eraseDups.length ≤ A.rules.eraseDups.length ∧
    B.rules.length ≤ A.rules.length ∧
    ∃ m, collapseMapAsCoded A = some m ∧ ∀ x, x ∈ B.states → ∃ q, q ∈ A.states ∧ x = applyMap m q := by
  obtain ⟨m, hm, rfl⟩ := reduceAsCoded_shape A B h
  exact ⟨PropAux.states_reduce_length _ A,
    RM.distinct_le_of_image (mapRule (applyMap m)) _ _ (RM.rules_reduce_image _ A),
    PropAux.rules_reduce_length _ A, m, hm, fun _ hx => PropAux.states_reduce hx⟩

/-- **totality**: the engine's fuel suffices and no dictionary look-up of `GetQuotientProjection` fails -/
theorem reduceAsCoded_total (A : TA) : ∃ B, reduceAsCoded A = some B := by
  obtain ⟨R0, _, h⟩ := collapseMapAsCoded_spec A
  exact ⟨_, by unfold reduceAsCoded; rw [h]; rfl⟩

example : ∃ B, reduceAsCoded TaLtsEx.exU = some B := reduceAsCoded_total _

theorem reduceAsCoded_states (A : TA) (hrk : Ranked A) (B : TA) (h : reduceAsCoded A = some B) {x : Nat}
    (hx : x ∈ B.states) : x ∈ A.states ∧ ∃ q, q ∈ A.states ∧ x = quotientProjection A (downOrder A) q := by
  rw [reduceAsCoded_eq_reduceModel A hrk] at h
  injection h with h
  rw [← h] at hx
  exact reduceModel_states_sub A (downOrder A) (downOrder_perm A) hx

end Vata.SimPipe
