import Vata.Parse
import Vata.BddLoad
/-! # Driver side of the `bddload` histories (C08, C13): the Timbuk layer of the BDD encodings

Replays the history (`harness/op_bddload.inc`) on the model `Vata.BddLoad` (`step`, `dumpObj`) and compares, after every
step, the exception of the step, the symbol dictionary of the alphabet and BOTH dumps of EVERY live automaton with what
the real classes answered.

* `violation` – the real classes contradict a theorem of `Vata/Proofs/BddLoad.lean` / `Vata/Properties/C08_Load.lean`:
  - `C08_load_dump_roundtrip` (from `dump_load_bu_exact` / `dump_load_td_exact`): a new automaton loaded with the explicit parameter and a
    fresh state dictionary on an alphabet that stays within `2^16` names dumps the final states and transitions of the
    parsed description, and the states the theorem names;
  - `C08_load_dump_reload` (the round trip applied to the dumped description, through the text by C13):
    the explicit dump of the automaton reloaded from an explicit dump has the same final states and transitions (same
    bound on the alphabet);
  - `sym_load_dump_denotes` (`C08_load_symbolic_denotation`): a new bottom-up automaton loaded with the symbolic
    parameter (fresh state dictionary, all symbols well-formed): for every valuation of the 16 variables the rules that
    the symbolic dump denotes are those the description denotes (checked on sampled valuations);
  - `tuplesForArity_mod` (`C08_load_arity_reader`): `GetMtbddForArity (GetMtbdd (p), n)` of a top-down automaton shows only
    tuples with `n` children modulo 64;
* `mismatch` – the real classes differ from the model where no theorem decides (everything else: messages, numbering,
  alphabet codes, state sets, dumps after exceptions, dumps on a wrapped alphabet, …).
-/
open Vata
open Vata.BddLoad

namespace BddLoadChk

def getE (o : Option α) (msg : String) : Except String α :=
  match o with
  | some a => pure a
  | none => throw msg

def decodeText (s : String) : String :=
  s.map (fun c => if c == '_' then ' ' else if c == '~' then '\n' else c)

def encodeMsg (s : String) : String :=
  s.map (fun c => if c == ' ' then '_' else if c == '\n' then '~' else if c == '\t' then '^' else c)

def showTrans (t : List String × String × String) : String :=
  t.2.1 ++ "(" ++ ",".intercalate t.1 ++ ")>" ++ t.2.2

def showDesc (d : AutDesc) : String :=
  ",".intercalate d.states ++ "|" ++ ",".intercalate d.final ++ "|" ++ ";".intercalate (d.trans.map showTrans) ++ "|" ++
    d.name ++ "/" ++ toString d.symbols.length

def showDump (r : Except String AutDesc) : String :=
  match r with
  | .error e => "EXC:" ++ encodeMsg e
  | .ok d => showDesc d

def fnv (s : String) : UInt64 :=
  s.toUTF8.foldl (fun h b => (h ^^^ b.toUInt64) * 1099511628211) 14695981039346656037

/-- the symbol dictionary as the harness prints it (`std::map` order: by name) -/
def showAlphabet (yd : BddLoad.SymDict) : String :=
  let a := (yd.toArray.qsort (fun x y => x.1 < y.1)).toList
  let s := ",".intercalate (a.map (fun e => e.1 ++ ":" ++ codeStr e.2))
  if a.length ≤ 48 then s else "#" ++ toString a.length ++ ":" ++ toString (fnv s).toNat

def parPar? (s : String) : Option Param :=
  if s == "e" || s == "o" then some .explicit else if s == "s" then some .symbolic else none

/-- the description of a filler step in `std::set` order (`Triple::operator<`: tuple, symbol, parent) -/
def fillerDesc (n m off : Nat) : AutDesc :=
  let ts : Array (List String × String × String) :=
    (Array.range n).map (fun x => ([s!"s{x % m}"], s!"z{off + x}", s!"t{x % m}"))
  let lt (a b : List String × String × String) : Bool :=
    let ka := a.1.headD ""; let kb := b.1.headD ""
    if ka < kb then true else if kb < ka then false
    else if a.2.1 < b.2.1 then true else if b.2.1 < a.2.1 then false else a.2.2 < b.2.2
  { name := "", symbols := [], states := [], final := [], trans := (ts.qsort lt).toList }

/-- the standard filler `F:65535:1024:0` on a fresh alphabet (the model takes minutes: quadratic in the number of names);
computed once per process -/
def stdFillN : Nat := 65535
def stdFillM : Nat := 1024

set_option compiler.extract_closed false in
def stdFillBU : Thunk (World × Option String) :=
  Thunk.mk fun _ => step {} (.loadDesc true true .explicit (fillerDesc stdFillN stdFillM 0))

set_option compiler.extract_closed false in
def stdFillTD : Thunk (World × Option String) :=
  Thunk.mk fun _ => step {} (.loadDesc false true .explicit (fillerDesc stdFillN stdFillM 0))

/-! ### the denotation of symbolic descriptions (for the `sym_*_denotes` check) -/

/-- the assignment of a symbol string of any length; `none`: a character outside `0 1 X` -/
def cubeOf (s : String) : Option Cube := Glue.ofStr s.toList

/-- the (children, parent) pairs that the transitions denote for the 16-bit symbol `n`; `none`: a malformed symbol -/
def denote (ts : List (List String × String × String)) (n : Nat) : Option (List (List String × String)) :=
  ts.foldlM (fun acc t =>
    match cubeOf t.2.1 with
    | none => none
    | some c => some (if M.agrees (BddAbs.bits n) c 0 && !acc.contains (t.1, t.2.2) then (t.1, t.2.2) :: acc else acc)) []

def sameSet (a b : List (List String × String)) : Bool := a.all b.contains && b.all a.contains

/-- the valuations on which the denotations are compared: the corners, and every symbol of the description with its
don't-cares set to 0, to 1, alternating -/
def samples (ts : List (List String × String × String)) : List Nat :=
  let ofBits (f : Nat → Char → Bool) (s : String) : Nat :=
    (s.toList.zipIdx).foldl (fun acc (c, i) => if f i c then acc + 2 ^ i else acc) 0
  let base := [0, 65535, 21845, 43690, 1, 32768]
  let fromSyms := ts.flatMap (fun t =>
    [ofBits (fun _ c => c == '1') t.2.1, ofBits (fun _ c => c == '1' || c == 'X') t.2.1,
     ofBits (fun i c => c == '1' || (c == 'X' && i % 2 == 0)) t.2.1,
     ofBits (fun i c => c == '1' || (c == 'X' && i % 2 == 1)) t.2.1])
  (base ++ fromSyms).eraseDups

/-- the fields `final` and `trans` of a printed description -/
def finTrans (tok : String) : Option (String × String) :=
  match tok.splitOn "|" with
  | [_, f, t, _] => some (f, t)
  | _ => none

/-- parse the transitions field of a printed description -/
def parseTransField (s : String) : Option (List (List String × String × String)) :=
  (splitC s ';').mapM (fun t =>
    match t.splitOn "(" with
    | [sym, rest] =>
      match rest.splitOn ")>" with
      | [ks, p] => some (splitC ks ',', sym, p)
      | _ => none
    | _ => none)

/-- the arities the harness reads back through `GetMtbddForArity` -/
def arities : List Nat := [0, 1, 2, 3, 4, 5, 6, 7, 62, 63]

/-- the model of the `g` token -/
def showArity (A : AutTD) : String :=
  ";".intercalate (arities.map (fun n =>
    toString n ++ ":" ++ ",".intercalate (((arityLens A n).eraseDups.toArray.qsort (· < ·)).toList.map toString)))

/-- `tuplesForArity_mod`: under the prefix `n` only tuples with `n` children modulo 64 -/
def arityViolation (tok : String) : Option String :=
  (tok.splitOn ";").findSome? (fun part =>
    match part.splitOn ":" with
    | [n, ls] =>
      match n.toNat? with
      | none => some s!"bad part {part}"
      | some n =>
        (splitC ls ',').findSome? (fun l =>
          match l.toNat? with
          | none => some s!"bad length {l}"
          | some l => if l % 64 != n % 64 then some s!"a tuple with {l} children under the arity prefix {n}" else none)
    | _ => some s!"bad part {part}")

structure St where
  w : World := {}
  quiet : List Bool := []
  f : List String := []
  br : List Char := []

def St.note (s : St) (c : Char) : St := if s.br.contains c then s else { s with br := c :: s.br }
def St.find (s : St) (m : String) : St := { s with f := s.f ++ [m] }

def clip (s : String) : String := if s.length > 300 then (s.take 300).toString ++ "…" else s

def hasDupName (ts : List (List String × String × String)) : Bool :=
  ts.any (fun t => ts.any (fun t' => t.2.1 == t'.2.1 && t.1.length != t'.1.length))

/-- read back the alphabet and every live automaton after step `k` -/
def readBack (res : List String) (k : Nat) (s : St) : Except String St := do
  let mut s := s
  let al ← getE (kv res s!"al{k}") s!"step {k}: alphabet not dumped"
  let alM := showAlphabet s.w.yd
  if al != alM then
    s := s.find s!"mismatch step {k}: alphabet {clip al}, model {clip alM}"
  for (o, j) in s.w.objs.zipIdx do
    let e ← getE (kv res s!"e{k}.{j}") s!"step {k}: automaton {j} not dumped"
    let y ← getE (kv res s!"y{k}.{j}") s!"step {k}: automaton {j} not dumped (symbolic)"
    if s.quiet.getD j false then
      let yM := match o.aut with
        | .bu A => "#" ++ toString (rawSymBU A).trans.length
        | .td _ => "-"
      if e != "-" then s := s.find s!"mismatch step {k} automaton {j}: quiet automaton dumped"
      if y != yM then s := s.find s!"mismatch step {k} automaton {j}: symbolic dump has {y} transitions, model {yM}"
    else
      let eM := showDump (dumpObj s.w.yd o .explicit)
      let yM := showDump (dumpObj s.w.yd o .symbolic)
      if e != eM then s := s.find s!"mismatch step {k} automaton {j}: explicit dump {clip e}, model {clip eM}"
      if y != yM then s := s.find s!"mismatch step {k} automaton {j}: symbolic dump {clip y}, model {clip yM}"
      match o.aut with
      | .td A =>
        let g ← getE (kv res s!"g{k}.{j}") s!"step {k}: automaton {j}: arity prefixes not read back"
        match arityViolation g with
        | some m => s := s.find s!"violation step {k} automaton {j}: GetMtbddForArity shows {m} (tuplesForArity_mod)"
        | none => pure ()
        let gM := showArity A
        if g != gM then s := s.find s!"mismatch step {k} automaton {j}: GetMtbddForArity shows {clip g}, model {clip gM}"
        if (arityLens A 0).any (· ≥ 64) then s := s.note 'c'
      | .bu _ => pure ()
      -- a symbolic dump with a symbol shorter than 16 characters
      match finTrans y >>= (fun ft => parseTransField ft.2) with
      | some ts => if ts.any (fun t => t.2.1.length < 16) then s := s.note 't'
      | none => pure ()
  if (kv res s!"e{k}.{s.w.objs.length}").isSome then throw s!"step {k}: more automata dumped than live"
  pure s

def outcomeStr (e : Option String) : String :=
  match e with
  | none => "ok"
  | some m => "EXC:" ++ encodeMsg m

/-- the theorem-backed checks for a new automaton `j` loaded from the parsed description `d` -/
def checkNew (res : List String) (k j : Nat) (isBU : Bool) (par : Param) (d : AutDesc) (s : St) : Except String St := do
  let mut s := s
  match par with
  | .explicit =>
    if s.w.yd.length ≤ symbolCodes then
      let e ← getE (kv res s!"e{k}.{j}") s!"step {k}: automaton {j} not dumped"
      let states := if isBU then d.final ++ d.trans.flatMap (·.1) else d.final ++ d.trans.flatMap (fun t => t.2.2 :: t.1)
      let exp := showDesc (LoadDump.normDesc { name := "", symbols := [], states := states, final := d.final, trans := d.trans })
      if e != exp then
        s := s.find s!"violation step {k} automaton {j}: dump(load d) = {clip e}, but d = {clip exp} (load_dump round trip, alphabet of {s.w.yd.length} names)"
    else s := s.note 'k'
  | .symbolic =>
    if isBU && d.trans.all (fun t => (symOfStr t.2.1).toOption.isSome) then
      let y ← getE (kv res s!"y{k}.{j}") s!"step {k}: automaton {j} not dumped"
      match finTrans y >>= (fun ft => parseTransField ft.2) with
      | none => s := s.find s!"violation step {k} automaton {j}: symbolic dump {clip y} not a description"
      | some ts =>
        for n in samples d.trans do
          match denote ts n, denote d.trans n with
          | some a, some b =>
            if !sameSet a b then
              s := s.find s!"violation step {k} automaton {j}: for the symbol {codeStr n} the symbolic dump denotes {a.length} rules, the description {b.length} (sym_load_dump_denotes)"
              break
          | _, _ =>
            s := s.find s!"violation step {k} automaton {j}: symbolic dump with a malformed symbol"
            break
  pure s

def go (isBU : Bool) (steps res : List String) (k : Nat) (s : St) : Except String St :=
  match steps with
  | [] => pure s
  | st :: rest => do
    let parts := st.splitOn ":"
    let head := parts[0]!
    let got ← getE (kv res s!"s{k}") s!"missing s{k}"
    let mut s := s
    let n0 := s.w.objs.length
    let yd0 := s.w.yd.length
    let mut outcome : Option String := none
    if head == "L" then
      let par ← getE (parts[1]? >>= parPar?) s!"bad step {st}"
      let dm ← getE parts[2]? s!"bad step {st}"
      let txt := decodeText (":".intercalate (parts.drop 3))
      let r := step s.w (.load none isBU (dm == "d") par txt)
      s := { s with w := r.1, quiet := s.quiet ++ [false] }
      outcome := r.2
      s := s.note (if par == .explicit then 'e' else 's')
      if dm != "d" then s := s.note 'n'
      match parseTimbuk txt with
      | .error _ => s := s.note 'p'
      | .ok d =>
        if hasDupName d.trans then s := s.note 'u'
        if d.trans.any (fun t => t.1.length ≥ 64) then s := s.note 'A'
        if d.trans.isEmpty then s := s.note 'z'
        if dm == "d" && outcome.isNone then s ← checkNew res k n0 isBU par d s
    else if head.startsWith "A" then
      let j ← getE (head.drop 1).toString.toNat? s!"bad step {st}"
      if j ≥ n0 || s.quiet.getD j false then throw s!"no such automaton in step {st}"
      let par ← getE (parts[1]? >>= parPar?) s!"bad step {st}"
      let txt := decodeText (":".intercalate (parts.drop 2))
      let r := step s.w (.load (some j) isBU true par txt)
      s := { s with w := r.1 }
      outcome := r.2
      s := s.note 'a'
    else if head.startsWith "R" then
      let j ← getE (head.drop 1).toString.toNat? s!"bad step {st}"
      if j ≥ n0 || s.quiet.getD j false then throw s!"no such automaton in step {st}"
      let par ← getE (parts[1]? >>= parPar?) s!"bad step {st}"
      let r := step s.w (.reload j par)
      s := { s with w := r.1 }
      if r.1.objs.length > n0 then s := { s with quiet := s.quiet ++ [false] }
      outcome := r.2
      s := s.note (if outcome.isNone then 'r' else 'R')
      -- the reloaded explicit dump: same final states and transitions (C++ against C++)
      if par == .explicit && outcome.isNone && r.1.objs.length > n0 && s.w.yd.length ≤ symbolCodes
          && (s.w.objs[j]?.map (fun o => o.sd.isSome)).getD false then
        let eOld ← getE (kv res s!"e{k}.{j}") s!"step {k}: automaton {j} not dumped"
        let eNew ← getE (kv res s!"e{k}.{n0}") s!"step {k}: automaton {n0} not dumped"
        if finTrans eOld != finTrans eNew then
          s := s.find s!"violation step {k}: the reloaded explicit dump {clip eNew} differs from the dump {clip eOld} (reload_dump)"
    else if head == "F" then
      let n ← getE (parts[1]? >>= String.toNat?) s!"bad step {st}"
      let m ← getE (parts[2]? >>= String.toNat?) s!"bad step {st}"
      let off ← getE (parts[3]? >>= String.toNat?) s!"bad step {st}"
      if m == 0 then throw s!"bad step {st}"
      let r := if n == stdFillN && m == stdFillM && off == 0 && s.w.objs.isEmpty && s.w.yd.isEmpty then
          (if isBU then stdFillBU.get else stdFillTD.get)
        else step s.w (.loadDesc isBU true .explicit (fillerDesc n m off))
      s := { s with w := r.1, quiet := s.quiet ++ [true] }
      outcome := r.2
      s := s.note 'f'
    else throw s!"unknown step {st}"
    if yd0 ≤ symbolCodes && s.w.yd.length > symbolCodes then s := s.note 'w'
    match outcome with
    | none => pure ()
    | some m =>
      s := s.note (if m.startsWith "Invalid symbols size" then 'x' else if m.startsWith "Invalid input" then 'v'
        else if m.startsWith "Error: " then 'P' else if m.startsWith "Not implemented" then 'N' else '?')
    if got != outcomeStr outcome then
      s := s.find s!"mismatch step {k} ({head}): outcome {clip got}, model {clip (outcomeStr outcome)}"
    s ← readBack res k s
    go isBU rest res (k + 1) s

/-- tag legend (`br=`): loads `e` explicit / `s` symbolic parameter, `n` without a state dictionary, `a` into a loaded
automaton, `f` filler, `z` no transition, `u` a symbol name with two arities, `A` a transition with ≥ 64 children, `p` text
rejected by the parser; reload `r` done / `R` failed; exceptions `x` symbol size, `v` symbol character, `P` parser,
`N` not implemented; `c` a tuple with ≥ 64 children under the arity prefix 0; `t` a symbolic dump with a symbol shorter than 16 characters; `w` the alphabet crossed `2^16` names in
this case, `k` explicit load on a wrapped alphabet (round trip not claimed) -/
def check (args res : List String) : Except String (List String × String) := do
  let enc ← getE args[0]? "missing encoding"
  if enc != "bu" && enc != "td" then throw s!"bad encoding {enc}"
  let s ← go (enc == "bu") (args.drop 1) res 0 {}
  let br := String.ofList (s.br.toArray.qsort (· < ·)).toList
  let f := if s.f.length > 6 then s.f.take 6 ++ [s!"mismatch (… {s.f.length - 6} further findings of this case suppressed)"] else s.f
  pure (f, s!"enc={enc} steps={args.length - 1} auts={s.w.objs.length} syms={s.w.yd.length} br={br}")

end BddLoadChk
