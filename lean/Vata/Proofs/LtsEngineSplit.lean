import Vata.Proofs.LtsEngineAux
/-!
# The LTS simulation engine: well-formedness of the state and the effect of splitting a block

`WF` (partition, relation and insets are consistent), `Refine e0 e1 par` (`e1` arises from `e0` by splitting blocks:
every block `i` of `e1` lies inside block `par i` of `e0`, sees the same states through its row, has the same counters
and the same remove lists), and the lemmas that `splitBlockCore` / `copySlots` produce such a refinement.
-/
namespace Vata.LE
open Vata.L

/-- number of states of the block with an incoming `a`-edge -/
def cntIn (L : LTS) (a : Nat) (blk : List Nat) : Nat := blk.countP (hasIn L a)

/-- the `SmartSet` `s` is the inset of the block -/
def InsFor (L : LTS) (s : List (Nat × Nat)) (blk : List Nat) : Prop := InsOK s ∧ ∀ a, insCount s a = cntIn L a blk

theorem InsFor.mem_iff {L : LTS} {s : List (Nat × Nat)} {blk : List Nat} (h : InsFor L s blk) (a : Nat) :
    a ∈ insKeys s ↔ ∃ q, q ∈ blk ∧ hasIn L a q = true := by
  rw [← insCount_pos_iff h.1, h.2 a, cntIn, List.countP_pos_iff]

/-! ### moving labels between insets -/

theorem count_cons_ite (a x : Nat) (ls : List Nat) : (x :: ls).count a = ls.count a + (if a = x then 1 else 0) := by
  by_cases h : a = x
  · rw [if_pos h, h, List.count_cons_self]
  · rw [if_neg h, List.count_cons_of_ne (Ne.symm h)]; rfl

theorem foldl_insAdd (ls : List Nat) (s : List (Nat × Nat)) (hs : InsOK s) :
    InsOK (ls.foldl insAdd s) ∧ ∀ a, insCount (ls.foldl insAdd s) a = insCount s a + ls.count a := by
  induction ls generalizing s with
  | nil => exact ⟨hs, fun a => rfl⟩
  | cons x ls ih =>
    have := ih (insAdd s x) (insOK_insAdd hs x)
    refine ⟨this.1, fun a => ?_⟩
    rw [List.foldl_cons, this.2 a, insCount_insAdd, count_cons_ite, Nat.add_assoc, Nat.add_comm (ls.count a)]

theorem foldl_move (ls : List Nat) (pc : List (Nat × Nat) × List (Nat × Nat)) (hp : InsOK pc.1) (hc : InsOK pc.2) :
    let r := ls.foldl (fun pc a => (insRemove pc.1 a, insAdd pc.2 a)) pc
    InsOK r.1 ∧ InsOK r.2 ∧ ∀ a, insCount r.1 a = insCount pc.1 a - ls.count a ∧
      insCount r.2 a = insCount pc.2 a + ls.count a := by
  induction ls generalizing pc with
  | nil => exact ⟨hp, hc, fun a => ⟨rfl, rfl⟩⟩
  | cons x ls ih =>
    have := ih (insRemove pc.1 x, insAdd pc.2 x) (insOK_insRemove hp x) (insOK_insAdd hc x)
    refine ⟨this.1, this.2.1, fun a => ?_⟩
    rw [List.foldl_cons, (this.2.2 a).1, (this.2.2 a).2, insCount_insRemove hp, insCount_insAdd, count_cons_ite]
    exact ⟨by rw [Nat.sub_sub, Nat.add_comm], by rw [Nat.add_assoc, Nat.add_comm (ls.count a)]⟩

/-- a state contributes each of its incoming labels once -/
theorem cntIn_cons (L : LTS) (a x : Nat) (l : List Nat) : cntIn L a (x :: l) = cntIn L a l + (bwLabels L x).count a := by
  rw [cntIn, cntIn, List.countP_cons, (nodup_bwLabels L x).count]; simp only [mem_bwLabels]

/-- the incoming labels of the states of a block, listed state by state -/
theorem count_bwLabels (L : LTS) (a : Nat) (states : List Nat) :
    (states.flatMap (bwLabels L)).count a = cntIn L a states := by
  induction states with
  | nil => rfl
  | cons x l ih => rw [List.flatMap_cons, List.count_append, ih, cntIn_cons, Nat.add_comm]

theorem insFor_mkInset (L : LTS) (states : List Nat) : InsFor L (mkInset L states) states := by
  have := foldl_insAdd (states.flatMap (bwLabels L)) [] insOK_nil
  rw [List.foldl_flatMap] at this
  exact ⟨this.1, fun a => (this.2 a).trans ((Nat.zero_add _).trans (count_bwLabels L a states))⟩

/-- a block that is split into `rest` and `new`: the states with an incoming `a`-edge are those of the two parts -/
theorem cntIn_split (L : LTS) (a : Nat) {blk rest new : List Nat} (hb : blk.Nodup) (hr : rest.Nodup) (hn : new.Nodup)
    (hnew : ∀ q, q ∈ new → q ∈ blk) (hrest : ∀ q, q ∈ rest ↔ q ∈ blk ∧ q ∉ new) :
    cntIn L a blk = cntIn L a rest + cntIn L a new :=
  countP_split (hasIn L a) hb hr hn (fun x h1 h2 => ((hrest x).mp h1).2 h2) (fun x =>
    ⟨fun hx => Classical.byCases (p := x ∈ new) Or.inr (fun hxn => Or.inl ((hrest x).mpr ⟨hx, hxn⟩)),
      fun hx => hx.elim (fun h1 => ((hrest x).mp h1).1) (hnew x)⟩)

/-- the insets after a split -/
theorem insFor_moveInset (L : LTS) {s : List (Nat × Nat)} {blk rest new : List Nat} (h : InsFor L s blk)
    (hb : blk.Nodup) (hr : rest.Nodup) (hn : new.Nodup) (hnew : ∀ q, q ∈ new → q ∈ blk)
    (hrest : ∀ q, q ∈ rest ↔ q ∈ blk ∧ q ∉ new) :
    InsFor L (moveInset L new s).1 rest ∧ InsFor L (moveInset L new s).2 new := by
  have := foldl_move (new.flatMap (bwLabels L)) (s, []) h.1 insOK_nil
  rw [List.foldl_flatMap] at this
  simp only [count_bwLabels] at this
  have hsplit := fun a => cntIn_split L a hb hr hn hnew hrest
  refine ⟨⟨this.1, fun a => ?_⟩, ⟨this.2.1, fun a => ?_⟩⟩
  · rw [moveInset, (this.2.2 a).1, h.2 a, hsplit a]; omega
  · rw [moveInset, (this.2.2 a).2]; exact Nat.zero_add _

/-! ### well-formed engine states -/

/-- `rel` and `inset` have an entry per block (`hrel`, `hins`); the blocks are non-empty, duplicate free and partition the states
`< L.n` (`hne`, `hnd`, `hdisj`, `hcov`); a row is a duplicate-free list of block indices with the diagonal in it (`hrow`, `hrownd`,
`hrefl`); the inset of a block counts, label by label, its states with an incoming edge (`hinset`) -/
structure WF (L : LTS) (e : Eng) : Prop where
  hrel : e.rel.length = e.part.length
  hins : e.inset.length = e.part.length
  hdisj : ∀ i j q, q ∈ e.block i → q ∈ e.block j → i = j
  hnd : ∀ i, (e.block i).Nodup
  hcov : ∀ q, q < L.n ↔ ∃ i, q ∈ e.block i
  hne : ∀ i, i < e.part.length → e.block i ≠ []
  hrow : ∀ i j, j ∈ e.row i → j < e.part.length
  hrefl : ∀ i, i < e.part.length → i ∈ e.row i
  hinset : ∀ i, i < e.part.length → InsFor L (e.inset.getD i []) (e.block i)
  hrownd : ∀ i, (e.row i).Nodup

theorem lt_of_mem_block {e : Eng} {i q : Nat} (h : q ∈ e.block i) : i < e.part.length := lt_of_mem_getD h

theorem WF.blockOf_eq {L : LTS} {e : Eng} (w : WF L e) {q i : Nat} (h : q ∈ e.block i) : blockOf e.part q = i :=
  Vata.LE.blockOf_eq e.part q i w.hdisj h

theorem WF.blockOf_mem {L : LTS} {e : Eng} (w : WF L e) {q : Nat} (h : q < L.n) :
    blockOf e.part q < e.part.length ∧ q ∈ e.block (blockOf e.part q) :=
  blockOf_lt e.part q ((w.hcov q).mp h)

theorem WF.mem_ins {L : LTS} {e : Eng} (w : WF L e) {i : Nat} (hi : i < e.part.length) (a : Nat) :
    a ∈ e.ins i ↔ ∃ q, q ∈ e.block i ∧ hasIn L a q = true :=
  (w.hinset i hi).mem_iff a

theorem WF.lt_of_mem {L : LTS} {e : Eng} (w : WF L e) {i q : Nat} (h : q ∈ e.block i) : q < L.n :=
  (w.hcov q).mpr ⟨i, h⟩

theorem Eng.ins_congr {e e' : Eng} (h : e'.inset = e.inset) (i : Nat) : e'.ins i = e.ins i := by simp only [Eng.ins, h]

/-- well-formedness only looks at partition, relation and insets -/
theorem WF.congr {L : LTS} {e e' : Eng} (h1 : e'.part = e.part) (h2 : e'.rel = e.rel) (h3 : e'.inset = e.inset)
    (w : WF L e) : WF L e' := by
  obtain ⟨p, r, s, c, m, q, n⟩ := e
  obtain ⟨p', r', s', c', m', q', n'⟩ := e'
  cases h1; cases h2; cases h3
  exact ⟨w.hrel, w.hins, w.hdisj, w.hnd, w.hcov, w.hne, w.hrow, w.hrefl, w.hinset, w.hrownd⟩

/-! ### one block is split -/

/-- block `b` of `e` is cut into `new` and what is left of it, `rest`: both non-empty, both duplicate free -/
structure SplitOK (e : Eng) (b : Nat) (rest new : List Nat) : Prop where
  hb : b < e.part.length
  hnew : ∀ q, q ∈ new → q ∈ e.block b
  hrest : ∀ q, q ∈ rest ↔ q ∈ e.block b ∧ q ∉ new
  hrn : rest.Nodup
  hnn : new.Nodup
  hre : rest ≠ []
  hne : new ≠ []

/-- the parent of a block after the split -/
def parOf (len b : Nat) (i : Nat) : Nat := if i = len then b else i

section core
variable {L : LTS} {e : Eng} {b : Nat} {rest new : List Nat}

theorem core_length : (splitBlockCore L e b rest new).part.length = e.part.length + 1 := by
  show (e.part.set b rest ++ [new]).length = _
  rw [List.length_append, List.length_set]; rfl

theorem core_block (s : SplitOK e b rest new) (i : Nat) :
    (splitBlockCore L e b rest new).block i =
      if i = b then rest else if i = e.part.length then new else e.block i :=
  getD_set_append [] e.part b rest new s.hb i

/-- block and inset of an index after the split: the shrunk block, the new block, or an untouched one -/
theorem core_cases (w : WF L e) (s : SplitOK e b rest new) (i : Nat) :
    (i = b ∧ (splitBlockCore L e b rest new).block i = rest ∧
      (splitBlockCore L e b rest new).inset.getD i [] = (moveInset L new (e.inset.getD b [])).1) ∨
    (i = e.part.length ∧ (splitBlockCore L e b rest new).block i = new ∧
      (splitBlockCore L e b rest new).inset.getD i [] = (moveInset L new (e.inset.getD b [])).2) ∨
    (i ≠ b ∧ i ≠ e.part.length ∧ (splitBlockCore L e b rest new).block i = e.block i ∧
      (splitBlockCore L e b rest new).inset.getD i [] = e.inset.getD i []) := by
  have hi := getD_set_append [] e.inset b (moveInset L new (e.inset.getD b [])).1
    (moveInset L new (e.inset.getD b [])).2 (by rw [w.hins]; exact s.hb) i
  rw [w.hins] at hi
  have hb := core_block (L := L) s i
  by_cases h1 : i = b
  · rw [if_pos h1] at hi hb
    exact Or.inl ⟨h1, hb, hi⟩
  · rw [if_neg h1] at hi hb
    by_cases h2 : i = e.part.length
    · rw [if_pos h2] at hi hb
      exact Or.inr (Or.inl ⟨h2, hb, hi⟩)
    · rw [if_neg h2] at hi hb
      exact Or.inr (Or.inr ⟨h1, h2, hb, hi⟩)

/-- a state of a block of the new partition was in the parent block -/
theorem core_sub (w : WF L e) (s : SplitOK e b rest new) {i q : Nat}
    (h : q ∈ (splitBlockCore L e b rest new).block i) : q ∈ e.block (parOf e.part.length b i) := by
  unfold parOf
  rcases core_cases w s i with ⟨h1, hb, _⟩ | ⟨h1, hb, _⟩ | ⟨_, h2, hb, _⟩ <;> rw [hb] at h
  · rw [if_neg (by rw [h1]; exact Nat.ne_of_lt s.hb), h1]
    exact ((s.hrest q).mp h).1
  · rw [if_pos h1]; exact s.hnew q h
  · rw [if_neg h2]; exact h

/-- the index of the block of the new partition that contains `q` … -/
theorem core_idx (w : WF L e) (s : SplitOK e b rest new) {i q : Nat}
    (h : q ∈ (splitBlockCore L e b rest new).block i) :
    (if q ∈ new then e.part.length else blockOf e.part q) = i := by
  rcases core_cases w s i with ⟨h1, hb, _⟩ | ⟨h1, hb, _⟩ | ⟨h1, _, hb, _⟩ <;> rw [hb] at h
  · obtain ⟨hq, hn⟩ := (s.hrest q).mp h
    rw [if_neg hn, w.blockOf_eq hq, h1]
  · rw [if_pos h, h1]
  · rw [if_neg (fun hn => h1 (w.hdisj _ _ q h (s.hnew q hn))), w.blockOf_eq h]

/-- … and that block does contain it -/
theorem core_mem_idx (w : WF L e) (s : SplitOK e b rest new) {q : Nat} (hq : q < L.n) :
    q ∈ (splitBlockCore L e b rest new).block (if q ∈ new then e.part.length else blockOf e.part q) := by
  obtain ⟨hlt, hmem⟩ := w.blockOf_mem hq
  rw [core_block s]
  by_cases hn : q ∈ new
  · rw [if_pos hn, if_neg (Ne.symm (Nat.ne_of_lt s.hb)), if_pos rfl]; exact hn
  · rw [if_neg hn]
    by_cases hb' : blockOf e.part q = b
    · rw [if_pos hb']; exact (s.hrest q).mpr ⟨hb' ▸ hmem, hn⟩
    · rw [if_neg hb', if_neg (Nat.ne_of_lt hlt)]; exact hmem

/-- every row gets the new index iff it has the index of the split block; the new block has the row of its parent (which
contains `b`) -/
theorem core_row (w : WF L e) (hb : b < e.part.length) (i : Nat) :
    (splitBlockCore L e b rest new).row i =
      if b ∈ e.row (parOf e.part.length b i) then e.row (parOf e.part.length b i) ++ [e.part.length]
      else e.row (parOf e.part.length b i) := by
  have h : (splitBlockCore L e b rest new).row i = (relSplit e.rel b).getD i [] := rfl
  rw [h, relSplit_getD, w.hrel]
  unfold parOf
  by_cases hi : i = e.part.length
  · rw [if_pos hi, if_pos hi, if_pos (w.hrefl b hb)]; rfl
  · rw [if_neg hi, if_neg hi]
    simp only [List.contains_iff_mem]
    rfl

theorem mem_core_row (w : WF L e) (hb : b < e.part.length) (i j : Nat) :
    j ∈ (splitBlockCore L e b rest new).row i ↔
      j ∈ e.row (parOf e.part.length b i) ∨ (j = e.part.length ∧ b ∈ e.row (parOf e.part.length b i)) := by
  rw [core_row w hb]
  split
  · rename_i h
    rw [List.mem_append, List.mem_singleton]
    exact ⟨Or.imp_right (⟨·, h⟩), Or.imp_right And.left⟩
  · rename_i h
    exact ⟨Or.inl, fun h' => h'.elim id (fun x => absurd x.2 h)⟩

theorem core_wf (w : WF L e) (s : SplitOK e b rest new) : WF L (splitBlockCore L e b rest new) := by
  have hrw := mem_core_row (L := L) (rest := rest) (new := new) w s.hb
  have hmv := insFor_moveInset L (w.hinset b s.hb) (w.hnd b) s.hrn s.hnn s.hnew s.hrest
  refine ⟨?_, ?_, fun i j q hi hj => (core_idx w s hi).symm.trans (core_idx w s hj), fun i => ?_,
    fun q => ⟨fun hq => ⟨_, core_mem_idx w s hq⟩, fun ⟨i, hi⟩ => w.lt_of_mem (core_sub w s hi)⟩,
    fun i hi => ?_, fun i j hj => ?_, fun i hi => ?_, fun i hi => ?_, fun i => ?_⟩
  · rw [core_length]
    show (relSplit e.rel b).length = _
    rw [relSplit_length, w.hrel]
  · rw [core_length]
    show (e.inset.set b _ ++ [_]).length = _
    rw [List.length_append, List.length_set, w.hins]; rfl
  · rcases core_cases w s i with ⟨_, hb, _⟩ | ⟨_, hb, _⟩ | ⟨_, _, hb, _⟩
    · rw [hb]; exact s.hrn
    · rw [hb]; exact s.hnn
    · rw [hb]; exact w.hnd i
  · rw [core_length] at hi
    rcases core_cases w s i with ⟨_, hb, _⟩ | ⟨_, hb, _⟩ | ⟨_, h2, hb, _⟩
    · rw [hb]; exact s.hre
    · rw [hb]; exact s.hne
    · rw [hb]; exact w.hne i (by omega)
  · rw [core_length]
    rcases (hrw i j).mp hj with h | ⟨h, _⟩
    · exact Nat.lt_succ_of_lt (w.hrow _ j h)
    · rw [h]; exact Nat.lt_succ_self _
  · rw [core_length] at hi
    refine (hrw i i).mpr ?_
    unfold parOf
    by_cases hil : i = e.part.length
    · rw [if_pos hil]; exact Or.inr ⟨hil, w.hrefl b s.hb⟩
    · rw [if_neg hil]; exact Or.inl (w.hrefl i (by omega))
  · rw [core_length] at hi
    rcases core_cases w s i with ⟨_, hb, hs⟩ | ⟨_, hb, hs⟩ | ⟨_, h2, hb, hs⟩
    · rw [hb, hs]; exact hmv.1
    · rw [hb, hs]; exact hmv.2
    · rw [hb, hs]; exact w.hinset i (by omega)
  · rw [core_row w s.hb]
    split
    · refine List.nodup_append.mpr ⟨w.hrownd _, List.pairwise_singleton _ _, fun x hx y hy hxy => ?_⟩
      rw [List.mem_singleton.mp hy] at hxy
      exact Nat.lt_irrefl _ (w.hrow _ _ (hxy ▸ hx))
    · exact w.hrownd _

/-- the block of a state after the split -/
theorem core_blockOf (w : WF L e) (s : SplitOK e b rest new) {r : Nat} (hr : r < L.n) :
    blockOf (splitBlockCore L e b rest new).part r = if r ∈ new then e.part.length else blockOf e.part r :=
  (core_wf w s).blockOf_eq (core_mem_idx w s hr)

/-- a block of the new state sees a state through its row iff its parent did -/
theorem core_U (w : WF L e) (s : SplitOK e b rest new) (i : Nat) {r : Nat} (hr : r < L.n) :
    blockOf (splitBlockCore L e b rest new).part r ∈ (splitBlockCore L e b rest new).row i ↔
      blockOf e.part r ∈ e.row (parOf e.part.length b i) := by
  obtain ⟨hlt, hmem⟩ := w.blockOf_mem hr
  rw [core_blockOf w s hr, mem_core_row w s.hb]
  by_cases hrn : r ∈ new
  · rw [if_pos hrn, w.blockOf_eq (s.hnew r hrn)]
    exact ⟨fun h => h.elim (fun h' => absurd (w.hrow _ _ h') (Nat.lt_irrefl _)) And.right, fun h => Or.inr ⟨rfl, h⟩⟩
  · rw [if_neg hrn]
    exact ⟨fun h => h.elim id (fun h' => absurd h'.1 (Nat.ne_of_lt hlt)), Or.inl⟩

end core

/-- the queue lists the non-null slots (`hiff`), each once (`hnd`), all of them of existing blocks (`hlt`) -/
structure QOK (e : Eng) : Prop where
  hnd : e.queue.Nodup
  hiff : ∀ i a, (e.remv i a).isSome = true ↔ (i, a) ∈ e.queue
  hlt : ∀ i a, (i, a) ∈ e.queue → i < e.part.length

/-- a slot that is not in the queue is empty -/
theorem QOK.remv_none {e : Eng} (qk : QOK e) {i a : Nat} (h : (i, a) ∉ e.queue) : e.remv i a = none := by
  cases hr : e.remv i a with
  | none => rfl
  | some r => exact absurd ((qk.hiff i a).mp (by rw [hr]; rfl)) h

/-- `copyLabels`: the counter rows of the parent `b` for the labels `ls` -/
def copyCnt (b nb : Nat) (e : Eng) (ls : List Nat) : Eng :=
  ls.foldl (fun (e : Eng) a => { e with cnt := setCntRow e.cnt nb a ((e.cnt.getD b []).getD a []) }) e

/-- … and the remove lists of the parent, each with a queue entry -/
def copyRem (b nb : Nat) (e : Eng) (ls : List Nat) : Eng :=
  ls.foldl (fun (e : Eng) a =>
    match e.remv b a with
    | none => e
    | some r => { e with queue := (nb, a) :: e.queue, rem := setRem e.rem nb a (some r) }) e

theorem copyCnt_spec (b nb : Nat) (hne : nb ≠ b) (ls : List Nat) (e : Eng) :
    copyCnt b nb e ls = { e with cnt := (copyCnt b nb e ls).cnt } ∧
      ∀ i a q, cget (copyCnt b nb e ls).cnt i a q = if i = nb ∧ a ∈ ls then cget e.cnt b a q else cget e.cnt i a q := by
  induction ls generalizing e with
  | nil => exact ⟨rfl, fun i a q => (if_neg (fun h => List.not_mem_nil h.2)).symm⟩
  | cons x ls ih =>
    obtain ⟨h1, h2⟩ := ih { e with cnt := setCntRow e.cnt nb x ((e.cnt.getD b []).getD x []) }
    refine ⟨h1, fun i a q => ?_⟩
    have hb : cget (setCntRow e.cnt nb x ((e.cnt.getD b []).getD x [])) b a q = cget e.cnt b a q := by
      rw [cget_setCntRow, if_neg (fun h : b = nb ∧ a = x => hne h.1.symm)]
    have hx : ((e.cnt.getD b []).getD x []).getD q 0 = cget e.cnt b x q := rfl
    show cget (copyCnt b nb { e with cnt := setCntRow e.cnt nb x ((e.cnt.getD b []).getD x []) } ls).cnt i a q = _
    rw [h2 i a q]
    show (if i = nb ∧ a ∈ ls then cget (setCntRow e.cnt nb x ((e.cnt.getD b []).getD x [])) b a q
      else cget (setCntRow e.cnt nb x ((e.cnt.getD b []).getD x [])) i a q) = _
    rw [hb, cget_setCntRow, hx]
    by_cases hal : i = nb ∧ a ∈ ls
    · rw [if_pos hal, if_pos ⟨hal.1, List.mem_cons_of_mem _ hal.2⟩]
    · rw [if_neg hal]
      by_cases hax : i = nb ∧ a = x
      · rw [if_pos hax, if_pos ⟨hax.1, hax.2 ▸ List.mem_cons_self⟩, hax.2]
      · rw [if_neg hax, if_neg (fun h : i = nb ∧ a ∈ x :: ls =>
          (List.mem_cons.mp h.2).elim (fun e => hax ⟨h.1, e⟩) (fun m => hal ⟨h.1, m⟩))]

/-- the new queue entries: one for every label whose slot of the parent is occupied -/
theorem copyRem_spec (b nb : Nat) (hne : nb ≠ b) (ls : List Nat) (e : Eng) :
    copyRem b nb e ls = { e with rem := (copyRem b nb e ls).rem, queue := (copyRem b nb e ls).queue } ∧
      (∀ i a, rget (copyRem b nb e ls).rem i a =
        if i = nb ∧ a ∈ ls ∧ (rget e.rem b a).isSome = true then rget e.rem b a else rget e.rem i a) ∧
      (copyRem b nb e ls).queue =
        ((ls.filter (fun a => (rget e.rem b a).isSome)).map (fun a => (nb, a))).reverse ++ e.queue := by
  induction ls generalizing e with
  | nil => exact ⟨rfl, fun i a => (if_neg (fun h => List.not_mem_nil h.2.1)).symm, rfl⟩
  | cons x ls ih =>
    cases hx : rget e.rem b x with
    | none =>
      have hstep : copyRem b nb e (x :: ls) = copyRem b nb e ls := by
        show copyRem b nb (match e.remv b x with | none => e | some r => _) ls = _
        rw [remv_eq, hx]
      have hnx : ∀ a, a = x → ¬ (rget e.rem b a).isSome = true := fun a ha h => by rw [ha, hx] at h; cases h
      obtain ⟨h1, h2, h3⟩ := ih e
      rw [hstep]
      refine ⟨h1, fun i a => ?_, ?_⟩
      · rw [h2 i a]
        by_cases hc : i = nb ∧ a ∈ ls ∧ (rget e.rem b a).isSome = true
        · rw [if_pos hc, if_pos ⟨hc.1, List.mem_cons_of_mem _ hc.2.1, hc.2.2⟩]
        · rw [if_neg hc, if_neg (fun h : i = nb ∧ a ∈ x :: ls ∧ (rget e.rem b a).isSome = true =>
            (List.mem_cons.mp h.2.1).elim (fun e => hnx a e h.2.2) (fun m => hc ⟨h.1, m, h.2.2⟩))]
      · rw [h3, List.filter_cons, if_neg (hnx x rfl)]
    | some r =>
      have hstep : copyRem b nb e (x :: ls) =
          copyRem b nb { e with queue := (nb, x) :: e.queue, rem := setRem e.rem nb x (some r) } ls := by
        show copyRem b nb (match e.remv b x with | none => e | some r => _) ls = _
        rw [remv_eq, hx]
      obtain ⟨h1, h2, h3⟩ := ih { e with queue := (nb, x) :: e.queue, rem := setRem e.rem nb x (some r) }
      have hb : ∀ a, rget (setRem e.rem nb x (some r)) b a = rget e.rem b a := fun a => by
        rw [rget_setRem, if_neg (fun h : b = nb ∧ a = x => hne h.1.symm)]
      simp only [hb] at h2 h3
      rw [hstep]
      refine ⟨h1, fun i a => ?_, ?_⟩
      · rw [h2 i a, rget_setRem]
        by_cases hc : i = nb ∧ a ∈ ls ∧ (rget e.rem b a).isSome = true
        · rw [if_pos hc, if_pos ⟨hc.1, List.mem_cons_of_mem _ hc.2.1, hc.2.2⟩]
        · rw [if_neg hc]
          by_cases hax : i = nb ∧ a = x
          · rw [if_pos hax, if_pos ⟨hax.1, hax.2 ▸ List.mem_cons_self, by rw [hax.2, hx]; rfl⟩, hax.2, hx]
          · rw [if_neg hax, if_neg (fun h : i = nb ∧ a ∈ x :: ls ∧ (rget e.rem b a).isSome = true =>
              (List.mem_cons.mp h.2.1).elim (fun e => hax ⟨h.1, e⟩) (fun m => hc ⟨h.1, m, h.2.2⟩))]
      · rw [h3, List.filter_cons, if_pos (by rw [hx]; rfl), List.map_cons, List.reverse_cons, List.append_assoc]
        rfl

theorem copySlots_eq (e : Eng) (b nb : Nat) (hne : nb ≠ b) :
    copySlots e b nb = copyRem b nb (copyCnt b nb e (e.ins nb)) (e.ins nb) := by
  have h : (copyCnt b nb e (e.ins nb)).ins nb = e.ins nb := by rw [(copyCnt_spec b nb hne (e.ins nb) e).1]; rfl
  show copyRem b nb (copyCnt b nb e (e.ins nb)) ((copyCnt b nb e (e.ins nb)).ins nb) = _
  rw [h]

theorem nodup_map_pair {l : List Nat} (h : l.Nodup) (i : Nat) : (l.map (fun a => (i, a))).Nodup := by
  rw [List.nodup_iff_pairwise_ne, List.pairwise_map]
  exact List.Pairwise.imp (fun h he => h (by injection he)) (List.nodup_iff_pairwise_ne.mp h)

theorem copySlots_queue (e : Eng) (b nb : Nat) (hne : nb ≠ b) :
    (copySlots e b nb).queue =
      (((e.ins nb).filter (fun a => (e.remv b a).isSome)).map (fun a => (nb, a))).reverse ++ e.queue := by
  rw [copySlots_eq e b nb hne, (copyRem_spec b nb hne (e.ins nb) _).2.2, (copyCnt_spec b nb hne (e.ins nb) e).1]
  rfl

theorem copySlots_spec (e : Eng) (b nb : Nat) (hne : nb ≠ b) (hins : (e.ins nb).Nodup) :
    let e' := copySlots e b nb
    e'.part = e.part ∧ e'.rel = e.rel ∧ e'.inset = e.inset ∧ e'.nextId = e.nextId ∧
      (∀ i a q, e'.cntv i a q = if i = nb ∧ a ∈ e.ins nb then e.cntv b a q else e.cntv i a q) ∧
      (∀ i a, e'.remv i a =
        if i = nb ∧ a ∈ e.ins nb ∧ (e.remv b a).isSome = true then e.remv b a else e.remv i a) ∧
      (∀ x, x ∈ e'.queue ↔ x ∈ e.queue ∨ (x.1 = nb ∧ x.2 ∈ e.ins nb ∧ (e.remv b x.2).isSome = true)) ∧
      ((∀ a, (nb, a) ∉ e.queue) → e.queue.Nodup → e'.queue.Nodup) := by
  intro e'
  have hq : e'.queue = _ := copySlots_queue e b nb hne
  obtain ⟨a1, a2⟩ := copyCnt_spec b nb hne (e.ins nb) e
  obtain ⟨b1, b2, _⟩ := copyRem_spec b nb hne (e.ins nb) (copyCnt b nb e (e.ins nb))
  have he' : e' = copyRem b nb (copyCnt b nb e (e.ins nb)) (e.ins nb) := copySlots_eq e b nb hne
  rw [← he'] at b1 b2
  have hfr : e' = { e with cnt := e'.cnt, rem := e'.rem, queue := e'.queue } := by rw [b1, a1]
  have hcnt : e'.cnt = (copyCnt b nb e (e.ins nb)).cnt := by rw [b1]
  have hrem : (copyCnt b nb e (e.ins nb)).rem = e.rem := by rw [a1]
  refine ⟨by rw [hfr], by rw [hfr], by rw [hfr], by rw [hfr], fun i a q => ?_, fun i a => ?_, fun x => ?_, fun h1 h2 => ?_⟩
  · rw [cntv_eq, hcnt, a2]; rfl
  · rw [remv_eq, b2, hrem]; rfl
  · rw [hq, List.mem_append, List.mem_reverse, List.mem_map, or_comm]
    refine or_congr_right ⟨?_, fun ⟨h1, h2, h3⟩ => ⟨x.2, List.mem_filter.mpr ⟨h2, h3⟩, by rw [← h1]⟩⟩
    rintro ⟨a, ha, rfl⟩
    exact ⟨rfl, List.mem_filter.mp ha⟩
  · rw [hq]
    refine List.nodup_append.mpr ⟨(List.reverse_perm _).nodup_iff.mpr (nodup_map_pair (List.Pairwise.filter _ hins) nb), h2, ?_⟩
    intro x hx y hy hxy
    obtain ⟨a, _, rfl⟩ := List.mem_map.mp (List.mem_reverse.mp hx)
    exact h1 a (hxy ▸ hy)

/-! ### refinement of engine states -/

/-- structural part: blocks of `e1` lie inside their parents and see the same states through their rows -/
structure RefineS (L : LTS) (e0 e1 : Eng) (par : Nat → Nat) : Prop where
  hlen : e0.part.length ≤ e1.part.length
  hpar : ∀ i, i < e1.part.length → par i < e0.part.length
  hsub : ∀ i q, q ∈ e1.block i → q ∈ e0.block (par i)
  hU : ∀ i r, i < e1.part.length → r < L.n →
    (blockOf e1.part r ∈ e1.row i ↔ blockOf e0.part r ∈ e0.row (par i))

/-- … and have the counters and remove lists of their parents (for the labels of their insets) -/
structure Refine (L : LTS) (e0 e1 : Eng) (par : Nat → Nat) : Prop extends RefineS L e0 e1 par where
  hcnt : ∀ i a q, i < e1.part.length → a ∈ e1.ins i → e1.cntv i a q = e0.cntv (par i) a q
  hrem1 : ∀ i a r, i < e1.part.length → e1.remv i a = some r → e0.remv (par i) a = some r
  hrem2 : ∀ i a r, i < e1.part.length → a ∈ e1.ins i → e0.remv (par i) a = some r → e1.remv i a = some r

theorem RefineS.refl (L : LTS) (e : Eng) : RefineS L e e id :=
  ⟨Nat.le_refl _, fun _ h => h, fun _ _ h => h, fun _ _ _ _ => Iff.rfl⟩

theorem Refine.refl (L : LTS) (e : Eng) : Refine L e e id :=
  ⟨RefineS.refl L e, fun _ _ _ _ _ => rfl, fun _ _ _ _ h => h, fun _ _ _ _ _ h => h⟩

theorem RefineS.trans {L : LTS} {e0 e1 e2 : Eng} {p1 p2 : Nat → Nat} (h1 : RefineS L e0 e1 p1)
    (h2 : RefineS L e1 e2 p2) : RefineS L e0 e2 (p1 ∘ p2) := by
  refine ⟨Nat.le_trans h1.hlen h2.hlen, ?_, ?_, ?_⟩
  · intro i hi; exact h1.hpar _ (h2.hpar i hi)
  · intro i q hq; exact h1.hsub _ q (h2.hsub i q hq)
  · intro i r hi hr
    rw [h2.hU i r hi hr, h1.hU _ r (h2.hpar i hi) hr]; rfl

/-- the structural part only looks at partition and relation of the refined state -/
theorem RefineS.congr_right {L : LTS} {e0 e e' : Eng} {par : Nat → Nat} (h1 : e'.part = e.part) (h2 : e'.rel = e.rel)
    (r : RefineS L e0 e par) : RefineS L e0 e' par := by
  obtain ⟨p, r', s, c, m, q, n⟩ := e
  obtain ⟨p', r'', s', c', m', q', n'⟩ := e'
  cases h1; cases h2
  exact ⟨r.hlen, r.hpar, r.hsub, r.hU⟩

/-- the labels of a block's inset are labels of its parent's inset -/
theorem RefineS.ins_sub {L : LTS} {e0 e1 : Eng} {par : Nat → Nat} (h : RefineS L e0 e1 par) (w0 : WF L e0)
    (w1 : WF L e1) {i a : Nat} (hi : i < e1.part.length) (ha : a ∈ e1.ins i) : a ∈ e0.ins (par i) := by
  obtain ⟨q, hq, hin⟩ := (w1.mem_ins hi a).mp ha
  exact (w0.mem_ins (h.hpar i hi) a).mpr ⟨q, h.hsub i q hq, hin⟩

theorem Refine.trans {L : LTS} {e0 e1 e2 : Eng} {p1 p2 : Nat → Nat} (w1 : WF L e1) (w2 : WF L e2)
    (h1 : Refine L e0 e1 p1) (h2 : Refine L e1 e2 p2) : Refine L e0 e2 (p1 ∘ p2) := by
  refine ⟨h1.toRefineS.trans h2.toRefineS, ?_, ?_, ?_⟩
  · intro i a q hi ha
    rw [h2.hcnt i a q hi ha, h1.hcnt _ a q (h2.hpar i hi) (h2.toRefineS.ins_sub w1 w2 hi ha)]; rfl
  · intro i a r hi hr
    exact h1.hrem1 _ a r (h2.hpar i hi) (h2.hrem1 i a r hi hr)
  · intro i a r hi ha hr
    exact h2.hrem2 i a r hi ha (h1.hrem2 _ a r (h2.hpar i hi) (h2.toRefineS.ins_sub w1 w2 hi ha) hr)

/-- the state relation on valid states is the same after a refinement -/
theorem RefineS.rel_iff {L : LTS} {e0 e1 : Eng} {par : Nat → Nat} (h : RefineS L e0 e1 par) (w0 : WF L e0)
    (w1 : WF L e1) {x y : Nat} (hx : x < L.n) (hy : y < L.n) :
    blockOf e1.part y ∈ e1.row (blockOf e1.part x) ↔ blockOf e0.part y ∈ e0.row (blockOf e0.part x) := by
  obtain ⟨hlt, hmem⟩ := w1.blockOf_mem hx
  rw [h.hU _ y hlt hy, w0.blockOf_eq (h.hsub _ x hmem)]

/-- the parent of the block of a state is its old block -/
theorem RefineS.par_blockOf {L : LTS} {e0 e1 : Eng} {par : Nat → Nat} (h : RefineS L e0 e1 par) (w0 : WF L e0)
    (w1 : WF L e1) {x : Nat} (hx : x < L.n) : par (blockOf e1.part x) = blockOf e0.part x := by
  obtain ⟨_, hmem⟩ := w1.blockOf_mem hx
  exact (w0.blockOf_eq (h.hsub _ x hmem)).symm

/-! ### one split step is a refinement -/

theorem core_refineS {L : LTS} {e : Eng} {b : Nat} {rest new : List Nat} (w : WF L e) (s : SplitOK e b rest new) :
    RefineS L e (splitBlockCore L e b rest new) (parOf e.part.length b) := by
  refine ⟨by rw [core_length]; omega, ?_, fun i q => core_sub w s, fun i r _ hr => core_U w s i hr⟩
  intro i hi
  rw [core_length] at hi
  unfold parOf
  split
  · exact s.hb
  · omega

/-- the full split step (`split`): counters and remove lists are copied for the labels of the new inset -/
theorem split_refine {L : LTS} {e : Eng} {b : Nat} {rest new : List Nat} (w : WF L e) (qk : QOK e)
    (s : SplitOK e b rest new) :
    let e' := copySlots (splitBlockCore L e b rest new) b e.part.length
    WF L e' ∧ QOK e' ∧ Refine L e e' (parOf e.part.length b) ∧ e'.part = (splitBlockCore L e b rest new).part ∧
      e'.rel = (splitBlockCore L e b rest new).rel ∧ e'.inset = (splitBlockCore L e b rest new).inset ∧
      e'.nextId = e.nextId := by
  intro e'
  have wc := core_wf w s
  have hnd : ((splitBlockCore L e b rest new).ins e.part.length).Nodup :=
    (wc.hinset e.part.length (by rw [core_length]; omega)).1.1
  obtain ⟨c1, c2, c3, c4, c5, c6, c7, c8⟩ :=
    copySlots_spec (splitBlockCore L e b rest new) b e.part.length (Ne.symm (Nat.ne_of_lt s.hb)) hnd
  -- `splitBlockCore` leaves queue, counters and remove lists alone
  change ∀ i a q, e'.cntv i a q = if i = e.part.length ∧ a ∈ _ then e.cntv b a q else e.cntv i a q at c5
  change ∀ i a, e'.remv i a = if i = e.part.length ∧ a ∈ _ ∧ (e.remv b a).isSome = true then e.remv b a
    else e.remv i a at c6
  change ∀ x, x ∈ e'.queue ↔ x ∈ e.queue ∨ (x.1 = e.part.length ∧ x.2 ∈ _ ∧ (e.remv b x.2).isSome = true) at c7
  change (∀ a, (e.part.length, a) ∉ e.queue) → e.queue.Nodup → e'.queue.Nodup at c8
  have hinsv : ∀ i, e'.ins i = (splitBlockCore L e b rest new).ins i := Eng.ins_congr c3
  have hlen : e'.part.length = e.part.length + 1 := by rw [c1, core_length]
  have hnoq : ∀ a, (e.part.length, a) ∉ e.queue := fun a h => Nat.lt_irrefl _ (qk.hlt _ a h)
  have hnor : ∀ a, e.remv e.part.length a = none := fun a => qk.remv_none (hnoq a)
  refine ⟨WF.congr c1 c2 c3 wc, ⟨c8 hnoq qk.hnd, fun i a => ?_, fun i a h => ?_⟩,
    ⟨RefineS.congr_right c1 c2 (core_refineS w s), fun i a q hi ha => ?_, fun i a r hi hr => ?_,
      fun i a r hi ha hr => ?_⟩, c1, c2, c3, c4⟩
  · rw [c7, c6]
    by_cases hc : i = e.part.length ∧ a ∈ (splitBlockCore L e b rest new).ins e.part.length ∧
        (e.remv b a).isSome = true
    · rw [if_pos hc]
      exact ⟨fun _ => Or.inr hc, fun _ => hc.2.2⟩
    · rw [if_neg hc, qk.hiff i a]
      exact ⟨Or.inl, fun h => h.resolve_right hc⟩
  · rw [hlen]
    rcases (c7 (i, a)).mp h with h | h
    · exact Nat.lt_succ_of_lt (qk.hlt i a h)
    · rw [show i = e.part.length from h.1]; exact Nat.lt_succ_self _
  · rw [c5]
    unfold parOf
    by_cases hil : i = e.part.length
    · rw [hinsv, hil] at ha
      rw [if_pos hil, if_pos ⟨hil, ha⟩]
    · rw [if_neg hil, if_neg (fun h => hil h.1)]
  · rw [c6] at hr
    unfold parOf
    by_cases hc : i = e.part.length ∧ a ∈ (splitBlockCore L e b rest new).ins e.part.length ∧
        (e.remv b a).isSome = true
    · rw [if_pos hc] at hr; rw [if_pos hc.1]; exact hr
    · rw [if_neg hc] at hr
      by_cases hil : i = e.part.length
      · rw [hil, hnor a] at hr; cases hr
      · rw [if_neg hil]; exact hr
  · rw [c6]
    unfold parOf at hr
    by_cases hil : i = e.part.length
    · rw [if_pos hil] at hr
      rw [hinsv, hil] at ha
      rw [if_pos ⟨hil, ha, by rw [hr]; rfl⟩]
      exact hr
    · rw [if_neg hil] at hr
      rw [if_neg (fun h => hil h.1)]
      exact hr

end Vata.LE
