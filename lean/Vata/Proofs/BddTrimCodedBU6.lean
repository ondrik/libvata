import Vata.Proofs.BddTrimCodedBU5
/-!
C08: the bottom-up `RemoveUselessStates` as coded is total.

The first loop: `leafCount T` iterations (`buGLoop_total`).  The traversal pushes a node only when its state is new in
`useful`, and `nodes` has at most `leafCount T` entries (a node is allocated during a call of the functor on a leaf state, and
every tuple is processed at most once), so `F.length + leafCount T` iterations suffice (`bu_useless_coded_total`).
-/
namespace Vata
namespace BddTrimCoded
open M BddAbs BddAbsTD

def wT (l : List (List Nat × MT)) : Nat := (l.flatMap (fun e => leafParents e.2)).length

theorem wT_cons (e : List Nat × MT) (l : List (List Nat × MT)) : wT (e :: l) = (leafParents e.2).length + wT l :=
  List.length_append

theorem wT_append (l l' : List (List Nat × MT)) : wT (l ++ l') = wT l + wT l' := by
  unfold wT; rw [List.flatMap_append, List.length_append]

theorem wT_filter_le (p : List Nat × MT → Bool) (l : List (List Nat × MT)) : wT (l.filter p) ≤ wT l := by
  induction l with
  | nil => exact Nat.le_refl _
  | cons e l ih =>
    rw [List.filter_cons, wT_cons]
    split
    · rw [wT_cons]; exact Nat.add_le_add_left ih _
    · exact Nat.le_trans ih (Nat.le_add_left _ _)

theorem collectStepG_nodes_len (tup : List Nat) (fs : FSt) (q : Nat) :
    (collectStepG tup fs q).nodes.length ≤ fs.nodes.length + 1 := by
  unfold collectStepG
  cases findBwd fs.nodes q
  · exact Nat.le_of_eq List.length_append
  · exact Nat.le_succ _

theorem collectG_nodes_len (tup : List Nat) (fs : FSt) (m : MT) :
    (collectG tup fs m).nodes.length ≤ fs.nodes.length + (leafParents m).length := by
  unfold collectG
  induction leafParents m generalizing fs with
  | nil => exact Nat.le_refl _
  | cons q L ih =>
    have h1 := ih (collectStepG tup fs q)
    have h2 := collectStepG_nodes_len tup fs q
    rw [List.foldl_cons, List.length_cons]
    omega

/-- a node is allocated for a leaf state of a tuple that leaves `tuples` -/
theorem scanStepG_nodes_len (s : Nat) (g : BuGSt) (e : List Nat × MT) :
    (scanStepG s g e).nodes.length + wT (scanStepG s g e).tuples ≤ g.nodes.length + wT g.tuples + (leafParents e.2).length := by
  unfold scanStepG
  split
  · have : _ ≤ g.nodes.length + (leafParents e.2).length := collectG_nodes_len e.1 ⟨g.reach, g.ws, g.graph, g.nodes⟩ e.2
    show (collectG e.1 ⟨g.reach, g.ws, g.graph, g.nodes⟩ e.2).nodes.length + wT g.tuples ≤ _
    omega
  · rw [wT_append, wT_cons]
    exact Nat.le_of_eq (Nat.add_assoc _ _ _).symm

theorem scanG_fold_nodes_len (s : Nat) (l : List (List Nat × MT)) (g : BuGSt) :
    (l.foldl (scanStepG s) g).nodes.length + wT (l.foldl (scanStepG s) g).tuples ≤ g.nodes.length + wT g.tuples + wT l := by
  induction l generalizing g with
  | nil => exact Nat.le_refl _
  | cons e l ih =>
    have h1 := ih (scanStepG s g e)
    have h2 := scanStepG_nodes_len s g e
    rw [List.foldl_cons, wT_cons]
    omega

theorem buGLoop_nodes_len (N : Nat) {fuel : Nat} {g g' : BuGSt} (h : g.nodes.length + wT g.tuples ≤ N)
    (e : buGLoop fuel g = some g') : g'.nodes.length ≤ N := by
  induction fuel generalizing g with
  | zero =>
    obtain ⟨r, _ | ⟨s, ws⟩, tu, G, d⟩ := g
    · cases e; exact Nat.le_trans (Nat.le_add_right _ _) h
    · cases e
  | succ fuel ih =>
    obtain ⟨r, _ | ⟨s, ws⟩, tu, G, d⟩ := g
    · cases e; exact Nat.le_trans (Nat.le_add_right _ _) h
    · exact ih (Nat.le_trans (scanG_fold_nodes_len s tu ⟨r, ws, [], G, d⟩) h) e

theorem buGInit_nodes_len (T : Table) : (buGInit T).nodes.length + wT (buGInit T).tuples ≤ leafCount T := by
  have h1 := collectG_nodes_len [] ⟨[], [], Graph.empty, []⟩ T.nullary
  have h2 := wT_filter_le (fun e => e.1 != []) T.entries
  have h3 : leafCount T = (leafParents T.nullary).length + wT T.entries := List.length_append
  rw [h3]
  exact Nat.add_le_add (Nat.le_trans h1 (Nat.le_of_eq (Nat.zero_add _))) h2

def muT (d : List (Nat × Nat)) (s : List Nat × List Nat) : Nat := s.1.length + unseen (d.map (·.2)) s.2

theorem outStep_mu (d : List (Nat × Nat)) (s : List Nat × List Nat) (m : Nat) : muT d (outStep d s m) ≤ muT d s := by
  unfold outStep
  cases hf : findFwd d m with
  | none => exact Nat.le_refl _
  | some q =>
    dsimp only
    split
    · exact Nat.le_refl _
    · next h =>
      have hq : q ∈ d.map (·.2) := List.mem_map.mpr ⟨(m, q), findFwd_some hf, rfl⟩
      have := unseen_snoc_lt hq fun hm => h (List.contains_iff_mem.mpr hm)
      show (s.1.length + 1) + unseen (d.map (·.2)) (s.2 ++ [q]) ≤ s.1.length + unseen (d.map (·.2)) s.2
      omega

theorem traverse_total (d : List (Nat × Nat)) {fuel : Nat} {tr : TrSt} (h : muT d (tr.stack, tr.useful) ≤ fuel) :
    ∃ tr', traverse d fuel tr = some tr' := by
  induction fuel generalizing tr with
  | zero =>
    obtain ⟨_ | ⟨node, stk⟩, u, G⟩ := tr
    · exact ⟨_, rfl⟩
    · exact absurd h (Nat.not_succ_le_zero _ ∘ Nat.le_trans (Nat.le_add_right _ _))
  | succ fuel ih =>
    obtain ⟨_ | ⟨node, stk⟩, u, G⟩ := tr
    · exact ⟨_, rfl⟩
    · refine ih (Nat.le_trans (foldl_measure_le (muT d) (fun s m _ => outStep_mu d s m) (stk, u)) ?_)
      have h : (stk.length + 1) + unseen (d.map (·.2)) u ≤ fuel + 1 := h
      show stk.length + unseen (d.map (·.2)) u ≤ fuel
      omega

theorem seed_fold_len (d : List (Nat × Nat)) (Fl : List Nat) (s : List Nat × List Nat) :
    (Fl.foldl (seedStep d) s).1.length ≤ s.1.length + Fl.length := by
  induction Fl generalizing s with
  | nil => exact Nat.le_refl _
  | cons f Fl ih =>
    have h1 := ih (seedStep d s f)
    have h2 : (seedStep d s f).1.length ≤ s.1.length + 1 := by
      unfold seedStep
      cases findBwd d f
      · exact Nat.le_succ _
      · exact Nat.le_refl _
    rw [List.foldl_cons, List.length_cons]
    omega

theorem bu_useless_coded_total (T : Table) (F : List Nat) {fuel : Nat} (h : F.length + leafCount T ≤ fuel) :
    ∃ R, buUselessCoded T F fuel = some R := by
  obtain ⟨g, hg⟩ := buGLoop_total T (fuel := fuel) (Nat.le_trans (Nat.le_add_left _ _) h)
  have hn := buGLoop_nodes_len (leafCount T) (buGInit_nodes_len T) hg
  have hs := seed_fold_len g.nodes F ([], [])
  have hc : unseen (g.nodes.map (·.2)) (F.foldl (seedStep g.nodes) ([], [])).2 ≤ g.nodes.length :=
    Nat.le_trans List.countP_le_length (Nat.le_of_eq (List.length_map _))
  obtain ⟨tr, htr⟩ := traverse_total g.nodes (fuel := fuel)
    (tr := ⟨(F.foldl (seedStep g.nodes) ([], [])).1, (F.foldl (seedStep g.nodes) ([], [])).2, g.graph⟩)
    (by
      have hs : (F.foldl (seedStep g.nodes) ([], [])).1.length ≤ 0 + F.length := hs
      show (F.foldl (seedStep g.nodes) ([], [])).1.length + unseen (g.nodes.map (·.2)) (F.foldl (seedStep g.nodes) ([], [])).2 ≤ fuel
      omega)
  exact ⟨_, by unfold buUselessCoded; rw [buUselessSt_eq_some.mpr ⟨hg, htr⟩]; rfl⟩

theorem bu_useless_coded_spec_total {T : Table} (hT : TableOk T) (F : List Nat) :
    ∃ R, buUselessCoded T F (F.length + leafCount T) = some R ∧
      (∀ ρ ks p, HasRule R.1 ρ ks p ↔ HasRule (removeUselessBU T F).1 ρ ks p) ∧ R.2 = (removeUselessBU T F).2 := by
  obtain ⟨R, hR⟩ := bu_useless_coded_total T F (Nat.le_refl _)
  exact ⟨R, hR, bu_useless_coded_spec hT F hR⟩

end BddTrimCoded
end Vata
