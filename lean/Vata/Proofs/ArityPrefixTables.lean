import Vata.Proofs.ArityPrefix
/-!
Loading and `GetTopDownAut` with the arity prefix function as a parameter `pre`: conversion and native loading build the
same top-down table for every `pre`; with the seeded variants (`arAsgnMod63`, `arAsgnShort`) in the conversion only, the
converted and the loaded table disagree.
-/
namespace Vata
namespace ArityPrefix
open M BddAbs BddAbsTD BddIsect

theorem addCubeTDWith_arAsgn : addCubeTDWith arAsgn = addCubeTD := rfl
theorem ofRulesTDWith_arAsgn (rs : List Rule) : ofRulesTDWith arAsgn rs = ofRulesTD rs := rfl
theorem getTopDownAutWith_arAsgn : getTopDownAutWith arAsgn = getTopDownAut := rfl
theorem preOK_arAsgn (ρ : Nat → Bool) (n : Nat) : preOK ρ (arAsgn n) = arOK ρ n := rfl

theorem hasRuleTD_ofRulesTDWith (pre : Nat → List (Option Bool)) (rs : List Rule) (ρ : Nat → Bool) (p : Nat)
    (ks : List Nat) :
    HasRuleTD (ofRulesTDWith pre rs) ρ p ks ↔
      ∃ r, r ∈ rs ∧ r.kids = ks ∧ r.parent = p ∧ agrees ρ (symAsgn r.sym) 0 = true ∧
        preOK ρ (pre ks.length) = true :=
  (hasRuleTD_foldl_construct pre Rule.kids (fun r => symAsgn r.sym) Rule.parent ρ p ks rs
    (fun r _ => symAsgn_length r.sym) []).trans (or_iff_right (hasRuleTD_nil ρ p ks))

theorem hasRuleTD_getTopDownAutWith (pre : Nat → List (Option Bool)) {T : Table} (hT : TableOk T) (F : List Nat)
    (ρ : Nat → Bool) (p : Nat) (ks : List Nat) :
    HasRuleTD (getTopDownAutWith pre T F) ρ p ks ↔
      p ∈ tdStates T F ∧ preOK ρ (pre ks.length) = true ∧ HasRule T ρ ks p :=
  invert_loops (A := fun ρ n => preOK ρ (pre n) = true) (mem_eval_invert_pre pre) hT (tdStates T F) ρ p ks

/-- **conversion and loading compute the same prefix**: for every prefix function used on both sides, every rule list,
every valuation of the 22 variables: the table `GetTopDownAut` builds from the bottom-up table of the rules holds exactly
the rules of the natively loaded top-down table whose parent is collected (a final state or a child somewhere – the
others are unreachable top-down, `getTopDownAut_dropped`).  No bound on symbols or arities. -/
theorem convertWith_eq_loadWith (pre : Nat → List (Option Bool)) (rs : List Rule) (F : List Nat) (ρ : Nat → Bool)
    (p : Nat) (ks : List Nat) :
    HasRuleTD (getTopDownAutWith pre (ofRules rs) F) ρ p ks ↔
      p ∈ tdStates (ofRules rs) F ∧ HasRuleTD (ofRulesTDWith pre rs) ρ p ks := by
  rw [hasRuleTD_getTopDownAutWith pre (tableOk_ofRules rs), hasRule_ofRules, hasRuleTD_ofRulesTDWith]
  constructor
  · rintro ⟨h1, h2, r, hr, h3, h4, h5⟩
    exact ⟨h1, r, hr, h3, h4, h5, h2⟩
  · rintro ⟨h1, r, hr, h3, h4, h5, h2⟩
    exact ⟨h1, h2, r, hr, h3, h4, h5⟩

theorem convert_eq_load (rs : List Rule) (F : List Nat) (ρ : Nat → Bool) (p : Nat) (ks : List Nat) :
    HasRuleTD (getTopDownAut (ofRules rs) F) ρ p ks ↔
      p ∈ tdStates (ofRules rs) F ∧ HasRuleTD (ofRulesTD rs) ρ p ks :=
  convertWith_eq_loadWith arAsgn rs F ρ p ks

theorem absRulesTD_convert_load (rs : List Rule) (F syms : List Nat) (r : Rule) :
    r ∈ absRulesTD syms (getTopDownAut (ofRules rs) F) ↔
      r ∈ absRulesTD syms (ofRulesTD rs) ∧ r.parent ∈ tdStates (ofRules rs) F :=
  mem_absRulesTD_and (C := fun p _ => p ∈ tdStates (ofRules rs) F)
    (fun ρ p ks => (convert_eq_load rs F ρ p ks).trans and_comm) r

/-- the two tables denote the same language, without any bound on symbols or arities (the dump-like abstraction `absTD`
reads the rules off all values of the arity variables, so it does not see that 64 children are stored under the prefix
of 0) -/
theorem convert_load_lang_unbounded (rs : List Rule) (F syms : List Nat) (t : Tree) :
    accepts (absTD syms (getTopDownAut (ofRules rs) F) F) t = accepts (absTD syms (ofRulesTD rs) F) t := by
  have hc : TdClosed (absTD syms (ofRulesTD rs) F).rules (tdStates (ofRules rs) F) := by
    intro r hr _ k hk
    obtain ⟨_, n, _, h⟩ := mem_absRulesTD.mp hr
    obtain ⟨r', hr', h1, h2, h3, _⟩ := (hasRuleTD_ofRulesTD_gen rs _ _ _).mp h
    have : HasRule (ofRules rs) (bitsAr r.sym n) r.kids r.parent :=
      (hasRule_ofRules rs _ _ _).mpr ⟨r', hr', h1, h2, h3⟩
    exact mem_tdStates.mpr (Or.inr ⟨r.kids, hasRule_key this, hk⟩)
  rw [← keepParents_lang (absTD syms (ofRulesTD rs) F) (tdStates (ofRules rs) F)
    (fun q hq => mem_tdStates.mpr (Or.inl hq)) hc t]
  apply Isx.accepts_congr_sets
  · intro r
    show r ∈ absRulesTD syms (getTopDownAut (ofRules rs) F) ↔ _
    rw [absRulesTD_convert_load]
    simp only [keepParents, absTD, List.mem_filter, List.contains_iff_mem]
  · intro q; exact Iff.rfl

theorem convert_load_lang (rs : List Rule) (F syms : List Nat)
    (hrs : ∀ r, r ∈ rs → r.sym < 2 ^ 16 ∧ r.kids.length < 64 ∧ r.sym ∈ syms) (hs : ∀ f, f ∈ syms → f < 2 ^ 16) (t : Tree) :
    accepts (absTD syms (getTopDownAut (ofRules rs) F) F) t = accepts (absTD syms (ofRulesTD rs) F) t :=
  convert_load_lang_unbounded rs F syms t

theorem preOK_mod63_63 (ρ : Nat → Bool) : preOK (withArity ρ 63) (arAsgnMod63 63) = false := by
  rw [arAsgnMod63_63]
  show arOK (withArity ρ 63) 0 = false
  rw [Bool.eq_false_iff]
  intro h
  exact absurd ((arOK_withArity_lt ρ (by decide) (by decide)).mp h) (by decide)

theorem preOK_mod63_0 (ρ : Nat → Bool) : preOK (withArity ρ 0) (arAsgnMod63 63) = true := by
  rw [arAsgnMod63_63]
  exact arOK_withArity_self ρ 0

/-- **the converted table of the variant and the loaded table disagree on the ranked symbol of every rule of arity 63**:
the loaded table has `f(ks) → p` under the ranked symbol `(f, 63)`; the variant of `GetTopDownAut` has NO tuple of length
63 under any ranked symbol `(·, 63)`, it has the rule under `(f, 0)`, among the leaf rules. -/
theorem mod63_tables_disagree (rs : List Rule) (F : List Nat) (r : Rule) (hr : r ∈ rs) (h63 : r.kids.length = 63)
    (hp : r.parent ∈ tdStates (ofRules rs) F) :
    HasRuleTD (ofRulesTD rs) (bitsAr r.sym 63) r.parent r.kids ∧
    HasRuleTD (getTopDownAut (ofRules rs) F) (bitsAr r.sym 63) r.parent r.kids ∧
    (∀ ρ p ks, ks.length = 63 → ¬ HasRuleTD (getTopDownAutWith arAsgnMod63 (ofRules rs) F) (withArity ρ 63) p ks) ∧
    HasRuleTD (getTopDownAutWith arAsgnMod63 (ofRules rs) F) (bitsAr r.sym 0) r.parent r.kids := by
  have hload : HasRuleTD (ofRulesTD rs) (bitsAr r.sym 63) r.parent r.kids := by
    rw [hasRuleTD_ofRulesTD_gen]
    refine ⟨r, hr, rfl, rfl, ?_, ?_⟩
    · exact agrees_bitsAr_self _ _
    · rw [h63]; exact arOK_withArity_self _ _
  refine ⟨hload, (convert_eq_load rs F _ _ _).mpr ⟨hp, hload⟩, ?_, ?_⟩
  · intro ρ p ks hk h
    have := ((hasRuleTD_getTopDownAutWith arAsgnMod63 (tableOk_ofRules rs) F _ p ks).mp h).2.1
    rw [hk, preOK_mod63_63] at this
    cases this
  · rw [hasRuleTD_getTopDownAutWith arAsgnMod63 (tableOk_ofRules rs), h63, hasRule_ofRules]
    refine ⟨hp, preOK_mod63_0 _, r, hr, rfl, rfl, ?_⟩
    exact agrees_bitsAr_self _ _

/-- the invariant `ArityOK` that the top-down `Intersection` (and the inclusion and simulation code, through
`GetMtbddForArity`) relies on is lost -/
theorem mod63_not_arityOK (rs : List Rule) (F : List Nat) (r : Rule) (hr : r ∈ rs) (h63 : r.kids.length = 63)
    (hp : r.parent ∈ tdStates (ofRules rs) F) : ¬ ArityOK (getTopDownAutWith arAsgnMod63 (ofRules rs) F) := by
  intro h
  have := h (bits r.sym) 0 r.parent r.kids (by decide) (mod63_tables_disagree rs F r hr h63 hp).2.2.2
  omega

theorem preOK_short_withArity (ρ : Nat → Bool) (m n : Nat) :
    preOK (withArity ρ m) (arAsgnShort n) = true ↔ m % 32 = n % 32 := by
  rw [preOK_short]
  simp only [withArity_hi]
  exact low_bits_eq_iff 5 m n

open BddLoad in
/-- a description loaded into the bottom-up encoding and converted, against the same description loaded into the
top-down encoding (same alphabet, fresh state dictionaries – the two loads number states and symbols alike,
`loadBU_st_eq_loadTD`): the same rules for every valuation of the 22 variables, up to the parents `GetTopDownAut` does not
collect.  Either parameter, exceptions included (both loads stop at the same transition), no bound on the arities. -/
theorem convert_eq_load_desc (par : Param) (yd : BddLoad.SymDict) (hyd : yd.Ok) (d : AutDesc) (F : List Nat) (ρ : Nat → Bool)
    (p : Nat) (ks : List Nat) :
    HasRuleTD (getTopDownAut (loadBU par {} [] yd d).aut.tbl F) ρ p ks ↔
      p ∈ tdStates (loadBU par {} [] yd d).aut.tbl F ∧ HasRuleTD (loadTD par {} [] yd d).aut.tbl ρ p ks := by
  have hT := (table_loadBU par {} yd hyd d tableOk_empty tableWF_empty).1
  rw [absTD_invert_gen hT, hasRule_loadBU par {} yd hyd d, hasRuleTD_loadTD par {} yd hyd d,
    ← (loadBU_st_eq_loadTD par {} {} [] yd d).1]
  apply and_congr Iff.rfl
  constructor
  · rintro ⟨h1, h | ⟨t, ht, h2, h3, h4⟩⟩
    · exact absurd h (hasRule_empty _ _ _)
    · exact Or.inr ⟨t, ht, h2, h3, h4, h1⟩
  · rintro (h | ⟨t, ht, h2, h3, h4, h1⟩)
    · exact absurd h (hasRuleTD_nil _ _ _)
    · exact ⟨h1, Or.inr ⟨t, ht, h2, h3, h4⟩⟩

end ArityPrefix
end Vata
