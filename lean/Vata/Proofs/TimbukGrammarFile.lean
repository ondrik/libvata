import Vata.Proofs.TimbukGrammarParser
import Vata.Proofs.TimbukGrammarWords
import Vata.Proofs.TimbukGrammarTrans
/-!
# The reader computes the readings of the grammar (property C13)

`reads_iff : Reads t R ↔ readText t = some R`, from the line-level equivalences (`words_iff`, `tokens_iff`,
`transLine_iff`) by induction over the lines; with `parseC_ok_iff`: `parseC_ok_iff_reads`.

`parseC_ok_iff_reads` says what the parser returns on every text.  "The parser returns `d` on `t`" is therefore proved by
exhibiting a reading of `t` (`parseC_of_reads`), "the parser throws on `t`" by refuting every reading (`parseC_error_iff`), and a
statement about every result of the parser by looking at `Reading.desc`; the layouts, the serializer's text, the classes of
rejected texts and the normal form of parse results are treated so (`Vata/Proofs/TimbukLayout*.lean`, `Timbuk.lean`,
`TimbukNormalForm.lean`).
-/
namespace Vata.Timbuk
open Vata.T (splitDelim)

theorem lines_iff (t : Str) (ls : List Str) : Lines t ls ↔ splitDelim '\n' t = ls :=
  (splitDelim_eq_iff '\n' t ls).symm

theorem isBlankLine_iff (l : Str) : isBlankLine l = true ↔ AllWs l := by
  unfold isBlankLine
  rw [decide_eq_true_iff, trim_eq_nil_iff]

theorem isTransitionsLine_iff (l : Str) : isTransitionsLine l = true ↔ TransitionsLine l := by
  unfold isTransitionsLine TransitionsLine
  rw [decide_eq_true_iff]
  constructor
  · intro h
    cases hw : readWords (trim l) with
    | nil => rw [hw] at h; exact absurd h.symm (by decide)
    | cons w ws =>
      rw [hw] at h
      simp only [List.headD_cons] at h
      subst h
      exact ⟨ws, (words_iff l _).mpr hw⟩
  · rintro ⟨ws, h⟩
    rw [(words_iff l _).mp h]; rfl

/-- the words `ws` behind a section keyword: the reader returns the section `k'` with `ps` exactly for the token list `ps` of `ws` -/
theorem section_iff {l : Str} {pre ws : List Str} (hw : Words l (pre ++ ws)) (k' k : HKind) (ps : List (Str × Int)) :
    (optOk (parseTokens ws)).map (fun ps => (k', ps)) = some (k, ps) ↔ k' = k ∧ Tokens ws ps := by
  rw [tokens_iff (fun w h => (words_word hw w (List.mem_append_right _ h)).2), ← optOk_eq_some]
  cases optOk (parseTokens ws) with
  | none => simp only [Option.map_none, reduceCtorEq, and_false]
  | some ps' => simp only [Option.map_some, Option.some.injEq, Prod.mk.injEq]

theorem readHeader_nil : readHeader [] = none := by decide

theorem readHeader_cons (w : Str) (ws : List Str) : readHeader (w :: ws) =
    (if w = kwAutomaton then
      if ws.tail ≠ [] then none else some (.aut, ws.map (fun n => (n, -1)))
    else if w = kwOps then (optOk (parseTokens ws)).map (fun ps => (HKind.ops, ps))
    else if w = kwStates then (optOk (parseTokens ws)).map (fun ps => (HKind.states, ps))
    else if w = kwFinal then
      if ws.headD [] ≠ kwStates then none
      else (optOk (parseTokens ws.tail)).map (fun ps => (HKind.final, ps))
    else none) := rfl

theorem headerLine_iff (l : Str) (k : HKind) (ps : List (Str × Int)) :
    HeaderLine l k ps ↔ readHeader (readWords (trim l)) = some (k, ps) := by
  constructor
  · intro h
    cases h with
    | ops hw ht =>
      rw [(words_iff l _).mp hw, readHeader_ops rfl]
      exact (section_iff (pre := [_]) hw ..).mpr ⟨rfl, ht⟩
    | states hw ht =>
      rw [(words_iff l _).mp hw, readHeader_states rfl]
      exact (section_iff (pre := [_]) hw ..).mpr ⟨rfl, ht⟩
    | final hw ht =>
      rw [(words_iff l _).mp hw, readHeader_final rfl, if_neg (fun h => h rfl)]
      exact (section_iff (pre := [_, _]) hw ..).mpr ⟨rfl, ht⟩
    | autNone hw => rw [(words_iff l _).mp hw]; rfl
    | autName hw => rw [(words_iff l _).mp hw]; rfl
  · intro h
    have hw : Words l (readWords (trim l)) := (words_iff l _).mpr rfl
    generalize readWords (trim l) = ws at h hw
    cases ws with
    | nil => rw [readHeader_nil] at h; cases h
    | cons w ws =>
      rw [readHeader_cons] at h
      by_cases h1 : w = kwAutomaton
      · subst h1
        rw [if_pos rfl] at h
        cases ws with
        | nil => cases h; exact .autNone hw
        | cons nm ws =>
          cases ws with
          | nil => cases h; exact .autName hw
          | cons _ _ => cases h
      rw [if_neg h1] at h
      by_cases h2 : w = kwOps
      · subst h2
        rw [if_pos rfl] at h
        obtain ⟨rfl, ht⟩ := (section_iff (pre := [_]) hw ..).mp h
        exact .ops hw ht
      rw [if_neg h2] at h
      by_cases h3 : w = kwStates
      · subst h3
        rw [if_pos rfl] at h
        obtain ⟨rfl, ht⟩ := (section_iff (pre := [_]) hw ..).mp h
        exact .states hw ht
      rw [if_neg h3] at h
      by_cases h4 : w = kwFinal
      · subst h4
        rw [if_pos rfl] at h
        by_cases h5 : ws.headD [] = kwStates
        · rw [if_neg (fun n => n h5)] at h
          cases ws with
          | nil => cases h5
          | cons s ws =>
            cases h5
            obtain ⟨rfl, ht⟩ := (section_iff (pre := [_, _]) hw ..).mp h
            exact .final hw ht
        · rw [if_pos h5] at h; cases h
      rw [if_neg h4] at h
      cases h

theorem headerLine_first {l : Str} {k : HKind} {ps : List (Str × Int)} (h : HeaderLine l k ps) :
    ∃ ws, readWords (trim l) = k.kw :: ws := by
  cases h with
  | ops hw _ => exact ⟨_, (words_iff l _).mp hw⟩
  | states hw _ => exact ⟨_, (words_iff l _).mp hw⟩
  | final hw _ => exact ⟨_, (words_iff l _).mp hw⟩
  | autNone hw => exact ⟨_, (words_iff l _).mp hw⟩
  | autName hw => exact ⟨_, (words_iff l _).mp hw⟩

theorem headerLine_excl {l : Str} {k : HKind} {ps : List (Str × Int)} (h : HeaderLine l k ps) :
    isBlankLine l = false ∧ isTransitionsLine l = false := by
  obtain ⟨ws, hw⟩ := headerLine_first h
  constructor
  · unfold isBlankLine
    rw [decide_eq_false_iff_not]
    intro e
    rw [e, readWords_nil] at hw; cases hw
  · unfold isTransitionsLine
    rw [decide_eq_false_iff_not, hw]
    exact kw_ne_transitions k

theorem transitionsLine_not_blank {l : Str} (h : TransitionsLine l) : isBlankLine l = false := by
  obtain ⟨ws, hw⟩ := h
  have := (words_iff l _).mp hw
  unfold isBlankLine
  rw [decide_eq_false_iff_not]
  intro e
  rw [e, readWords_nil] at this; cases this

theorem transLine_not_blank {l : Str} {r : Trans} (h : readTransLine l = some r) : isBlankLine l = false := by
  unfold isBlankLine
  rw [decide_eq_false_iff_not]
  intro e
  unfold readTransLine at h
  rw [e] at h
  simp [splitArrow] at h

theorem HeaderPart.append {a b : List Str} {hs hs' : List (HKind × List (Str × Int))} (ha : HeaderPart a hs)
    (hb : HeaderPart b hs') : HeaderPart (a ++ b) (hs ++ hs') := by
  induction ha with
  | nil => exact hb
  | blank hl _ ih => exact .blank hl ih
  | line hl _ ih => exact .line hl ih

theorem RulePart.append {a b : List Str} {rs rs' : List Trans} (ha : RulePart a rs) (hb : RulePart b rs') :
    RulePart (a ++ b) (rs ++ rs') := by
  induction ha with
  | nil => exact hb
  | blank hl _ ih => exact .blank hl ih
  | line hl _ ih => exact .line hl ih

theorem HeaderPart.mem {ls : List Str} {hs : List (HKind × List (Str × Int))} (h : HeaderPart ls hs) :
    ∀ l ∈ ls, AllWs l ∨ ∃ k ps, HeaderLine l k ps := by
  induction h with
  | nil => intro l hl; cases hl
  | blank hb _ ih =>
    intro l hl
    rcases List.mem_cons.mp hl with rfl | e
    · exact Or.inl hb
    · exact ih l e
  | line hline _ ih =>
    intro l hl
    rcases List.mem_cons.mp hl with rfl | e
    · exact Or.inr ⟨_, _, hline⟩
    · exact ih l e

theorem RulePart.mem {ls : List Str} {rs : List Trans} (h : RulePart ls rs) :
    ∀ l ∈ ls, AllWs l ∨ ∃ lab kids rhs, TransLine l lab kids rhs := by
  induction h with
  | nil => intro l hl; cases hl
  | blank hb _ ih =>
    intro l hl
    rcases List.mem_cons.mp hl with rfl | e
    · exact Or.inl hb
    · exact ih l e
  | line hline _ ih =>
    intro l hl
    rcases List.mem_cons.mp hl with rfl | e
    · exact Or.inr ⟨_, _, _, hline⟩
    · exact ih l e

/-- the second pass, in one induction: it returns the rules of a rule part, or some line is neither blank nor a transition line -/
theorem readRulePart_spec (ls : List Str) :
    match readRulePart ls with
    | some rs => RulePart ls rs
    | none => ∃ pre l post, ls = pre ++ l :: post ∧ ¬ AllWs l ∧ ∀ lab kids rhs, ¬ TransLine l lab kids rhs := by
  induction ls with
  | nil => exact .nil
  | cons x ls ih =>
    rw [readRulePart]
    by_cases hb : isBlankLine x = true
    · rw [if_pos hb]
      revert ih
      cases readRulePart ls with
      | some rs => exact .blank ((isBlankLine_iff x).mp hb)
      | none => exact fun ⟨pre, l, post, e, h⟩ => ⟨x :: pre, l, post, by rw [e]; rfl, h⟩
    · rw [if_neg hb]
      cases hr : readTransLine x with
      | none =>
        refine ⟨[], x, ls, rfl, fun ha => hb ((isBlankLine_iff x).mpr ha), fun lab kids rhs ht => ?_⟩
        rw [(transLine_iff _ _ _ _).mp ht] at hr; cases hr
      | some r =>
        obtain ⟨kids, lab, rhs⟩ := r
        revert ih
        cases readRulePart ls with
        | some rs => exact .line ((transLine_iff _ _ _ _).mpr hr)
        | none => exact fun ⟨pre, l, post, e, h⟩ => ⟨x :: pre, l, post, by rw [e]; rfl, h⟩

theorem rulePart_iff (ls : List Str) (rs : List Trans) : RulePart ls rs ↔ readRulePart ls = some rs := by
  constructor
  · intro h
    induction h with
    | nil => rfl
    | blank hb _ ih =>
      rw [readRulePart, (isBlankLine_iff _).mpr hb]; exact ih
    | line ht _ ih =>
      have hr := (transLine_iff _ _ _ _).mp ht
      rw [readRulePart, transLine_not_blank hr]
      simp only [Bool.false_eq_true, if_false, hr, ih]
  · intro h
    have := readRulePart_spec ls
    rwa [h] at this

/-- the first pass runs through a header part and goes on behind it -/
theorem readHeaderPart_append {hdr : List Str} {hs : List (HKind × List (Str × Int))} (hh : HeaderPart hdr hs)
    (rest : List Str) : readHeaderPart (hdr ++ rest) = (readHeaderPart rest).map (fun p => (hs ++ p.1, p.2)) := by
  induction hh with
  | nil => rw [List.nil_append]; cases readHeaderPart rest <;> rfl
  | blank hb _ ih => rw [List.cons_append, readHeaderPart, (isBlankLine_iff _).mpr hb]; exact ih
  | line hl _ ih =>
    have he := headerLine_excl hl
    rw [List.cons_append, readHeaderPart, he.1, he.2, (headerLine_iff _ _ _).mp hl, ih]
    cases readHeaderPart rest <;> rfl

/-- the longest header part at the front of the lines: what follows is empty or starts with a line that is neither blank nor a
header line -/
theorem headerPart_prefix (ls : List Str) : ∃ pre hs post, ls = pre ++ post ∧ HeaderPart pre hs ∧
    ∀ l ∈ post.head?, ¬ AllWs l ∧ ∀ k ps, ¬ HeaderLine l k ps := by
  induction ls with
  | nil => exact ⟨[], [], [], rfl, .nil, fun _ h => by cases h⟩
  | cons x ls ih =>
    obtain ⟨pre, hs, post, e, hh, hp⟩ := ih
    by_cases hb : AllWs x
    · exact ⟨x :: pre, hs, post, by rw [e]; rfl, .blank hb hh, hp⟩
    by_cases hl : ∃ k ps, HeaderLine x k ps
    · obtain ⟨k, ps, hl⟩ := hl
      exact ⟨x :: pre, _, post, by rw [e]; rfl, .line hl hh, hp⟩
    · exact ⟨[], [], x :: ls, rfl, .nil, fun l h => by cases h; exact ⟨hb, fun k ps h => hl ⟨k, ps, h⟩⟩⟩

/-- the first pass: it returns the header lines before the first `Transitions` line and the lines after it;
or all lines are blank or header lines; or some line before any `Transitions` line is none of the three -/
theorem readHeaderPart_spec (ls : List Str) :
    match readHeaderPart ls with
    | some (hs, rest) => ∃ hdr trl, ls = hdr ++ trl :: rest ∧ HeaderPart hdr hs ∧ TransitionsLine trl
    | none => (∃ hs, HeaderPart ls hs) ∨
      ∃ pre l post hs, ls = pre ++ l :: post ∧ HeaderPart pre hs ∧ ¬ AllWs l ∧ ¬ TransitionsLine l ∧
        ∀ k ps, ¬ HeaderLine l k ps := by
  -- the pass runs through the longest header part; the line behind it decides
  obtain ⟨pre, hs, post, rfl, hh, hp⟩ := headerPart_prefix ls
  rw [readHeaderPart_append hh]
  cases post with
  | nil => rw [List.append_nil]; exact Or.inl ⟨hs, hh⟩
  | cons l post =>
    obtain ⟨hb, hl⟩ := hp l rfl
    rw [readHeaderPart, if_neg (fun h => hb ((isBlankLine_iff l).mp h))]
    by_cases hT : isTransitionsLine l = true
    · rw [if_pos hT]
      exact ⟨pre, l, rfl, by rwa [List.append_nil], (isTransitionsLine_iff l).mp hT⟩
    · rw [if_neg hT]
      cases hr : readHeader (readWords (trim l)) with
      | some y => exact absurd ((headerLine_iff _ _ _).mpr hr) (hl _ _)
      | none => exact Or.inr ⟨pre, l, post, hs, rfl, hh, hb, fun h => hT ((isTransitionsLine_iff l).mpr h), hl⟩

theorem headerPart_iff (ls : List Str) (hs : List (HKind × List (Str × Int))) (rest : List Str) :
    (∃ hdr trl, ls = hdr ++ trl :: rest ∧ HeaderPart hdr hs ∧ TransitionsLine trl) ↔
      readHeaderPart ls = some (hs, rest) := by
  constructor
  · rintro ⟨hdr, trl, rfl, hh, ht⟩
    rw [readHeaderPart_append hh, readHeaderPart, transitionsLine_not_blank ht, (isTransitionsLine_iff trl).mpr ht]
    simp
  · intro h
    have := readHeaderPart_spec ls
    rwa [h] at this

/-- **the reader, totally**: it returns a reading of the text, or the text is rejected for its first offence -/
theorem readText_spec (t : Str) :
    match readText t with
    | some R => Reads t R
    | none => Rejected t := by
  have hl : Lines t (splitDelim '\n' t) := (lines_iff _ _).mpr rfl
  have hp := readHeaderPart_spec (splitDelim '\n' t)
  unfold readText readLines
  revert hp
  cases readHeaderPart (splitDelim '\n' t) with
  | none =>
    rintro (⟨hs, hh⟩ | ⟨pre, l, post, hs, e, hh, h1, h2, h3⟩)
    · exact .noTransitions hl hh
    · rw [e] at hl
      exact .badHeader hl hh h1 h2 h3
  | some p =>
    obtain ⟨hs, rest⟩ := p
    rintro ⟨hdr, trl, e, hh, ht⟩
    rw [e] at hl
    have hr := readRulePart_spec rest
    simp only
    revert hr
    cases readRulePart rest with
    | none =>
      rintro ⟨pre, l, post, e', h1, h2⟩
      rw [e'] at hl
      exact Rejected.badRule hl hh ht h1 h2
    | some rs =>
      intro hr
      by_cases hn : (hs.map (·.1)).Nodup
      · simp only [if_pos hn]
        exact Reads.mk ⟨hdr, trl, rest, hl, hh, ht, hr⟩ hn
      · simp only [if_neg hn]
        exact Rejected.repeated hl hh ht hn

/-- **the reader computes exactly the readings of the grammar** -/
theorem reads_iff (t : Str) (R : Reading) : Reads t R ↔ readText t = some R := by
  constructor
  · rintro ⟨⟨hdr, trl, rules, hl, hh, ht, hr⟩, hn⟩
    unfold readText readLines
    rw [(lines_iff _ _).mp hl, (headerPart_iff _ _ _).mp ⟨hdr, trl, rfl, hh, ht⟩]
    simp only [(rulePart_iff _ _).mp hr, if_pos hn]
  · intro h
    have := readText_spec t
    rwa [h] at this

theorem acceptedB_iff (t : Str) : acceptedB t = true ↔ Accepted t := by
  unfold acceptedB Accepted
  rw [Option.isSome_iff_exists]
  exact ⟨fun ⟨R, h⟩ => ⟨R, (reads_iff t R).mpr h⟩, fun ⟨R, h⟩ => ⟨R, (reads_iff t R).mp h⟩⟩

instance (t : Str) : Decidable (Accepted t) := decidable_of_iff _ (acceptedB_iff t)

theorem parseC_ok_iff_reads (t : Str) (d : Desc) : parseC t = .ok d ↔ ∃ R, Reads t R ∧ d = R.desc := by
  rw [parseC_ok_iff]
  exact ⟨fun ⟨R, h, e⟩ => ⟨R, (reads_iff t R).mpr h, e⟩, fun ⟨R, h, e⟩ => ⟨R, (reads_iff t R).mp h, e⟩⟩

theorem parseC_of_reads {t : Str} {R : Reading} (h : Reads t R) : parseC t = .ok R.desc :=
  (parseC_ok_iff_reads t _).mpr ⟨R, h, rfl⟩

theorem parseC_error_iff (t : Str) : (∃ e, parseC t = .error e) ↔ ¬ Accepted t := by
  constructor
  · rintro ⟨e, he⟩ ⟨R, hR⟩
    rw [parseC_of_reads hR] at he; cases he
  · intro h
    cases hp : parseC t with
    | error e => exact ⟨e, rfl⟩
    | ok d =>
      obtain ⟨R, hR, _⟩ := (parseC_ok_iff_reads t d).mp hp
      exact absurd ⟨R, hR⟩ h

end Vata.Timbuk

namespace Vata
open Timbuk

/-- the wrapper on `String`s is `parseC` on the characters, the description converted back -/
theorem parseTimbuk_eq (s : String) : parseTimbuk s = (parseC s.toList).map Desc.toS := by
  unfold parseTimbuk; cases parseC s.toList <;> rfl

theorem parseTimbuk_ok_iff (s : String) (d : AutDesc) :
    parseTimbuk s = .ok d ↔ ∃ d', parseC s.toList = .ok d' ∧ d = d'.toS := by
  rw [parseTimbuk_eq]
  cases parseC s.toList <;> simp [Except.map, eq_comm]

end Vata
