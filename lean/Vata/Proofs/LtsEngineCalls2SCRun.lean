import Vata.Proofs.LtsEngineCalls2SCInit
/-!
# The `SharedCounter` call discipline along the whole run, and the destructors

`stateAfterJ_goodC`, by `Instr.always` (`Vata/Proofs/LtsEngineInstr.lean`) from what each phase owes: `initBlocksJ_goodC`,
`ctor_goodC` (the copy constructor at every split of `fastSplit`), `countersJ_goodC` ("initialize counters": block after block
goes through `resize`, the `set`s into cells that are still zero – `DInv.hcn` – and `init()`), `copy_goodCS` (copy constructor
and `copyLabels` at every split of `split`), `pruneOK_SC` (every `decr` of the pruning loops finds a positive counter: the
counter lags behind its specification by the decrements still to come, `JInv.hC`).
-/
namespace Vata.LEC2
open Vata.L Vata.LE Vata.LU Vata.LEC

section
variable {L : LTS} {cfg : SC.Cfg}

/-- one new block of `split`: the copy constructor and `copyLabels` -/
theorem copy_goodCS (ok : CfgOK L cfg) {e : Eng} {t : Tr2} {b : Nat} {rest new : List Nat} (w : WF L e)
    (sok : SplitOK e b rest new) (g : GoodC L cfg e t running) :
    GoodC L cfg (copySlots (splitBlockCore L e b rest new) b e.part.length)
      ((t.addSC [SC.Op.copyCtor b, SC.Op.copyLabels e.part.length b ((splitBlockCore L e b rest new).ins e.part.length)]).addSL
        (copyT L (splitBlockCore L e b rest new) b e.part.length)) running := by
  have w1 : WF L (splitBlockCore L e b rest new) := core_wf w sok
  have hlen1 : (splitBlockCore L e b rest new).part.length = e.part.length + 1 := core_length
  have hnblt : e.part.length < (splitBlockCore L e b rest new).part.length := by rw [hlen1]; omega
  have hnd : ((splitBlockCore L e b rest new).ins e.part.length).Nodup := (w1.hinset _ hnblt).1.1
  have hbn : b < e.part.length := sok.hb
  obtain ⟨s1, _, s3, _, s5, _⟩ := copySlots_spec (splitBlockCore L e b rest new) b e.part.length
    (Ne.symm (Nat.ne_of_lt hbn)) hnd
  have hins' : ∀ i, (copySlots (splitBlockCore L e b rest new) b e.part.length).ins i = (splitBlockCore L e b rest new).ins i :=
    fun i => Eng.ins_congr s3 i
  refine copy_goodC ok (ls := (splitBlockCore L e b rest new).ins e.part.length) g rfl hbn (by rw [s1, hlen1]) (hins' _)
    (fun a ha => w1.ins_lt hnblt ha) ?_ ?_ ?_ ?_
  · intro i hi a ha
    rw [hins'] at ha
    have := (core_refineS w sok).ins_sub w w1 (by rw [hlen1]; omega) ha
    rwa [parOf, if_neg (Nat.ne_of_lt hi)] at this
  · intro a ha
    have := (core_refineS w sok).ins_sub w w1 hnblt ha
    rwa [parOf, if_pos rfl] at this
  · intro i a q hi
    rw [s5, if_neg (fun h => Nat.ne_of_lt hi h.1)]
    rfl
  · intro a q ha
    rw [s5, if_pos ⟨rfl, ha⟩]
    rfl

/-- a `decr` that is due finds a positive counter -/
theorem pruneOK_SC {B : Nat} {s1 : Eng} (ok : CfgOK L cfg) : PruneOK L B s1 (demJ L) (fun e t => GoodC L cfg e t running) := by
  refine ⟨fun e t b1 col g => g.congr rfl rfl rfl rfl, fun e t b1 a q ks hb1 j hout g => ?_⟩
  obtain ⟨ha, hq⟩ := j.hKin (a, q) List.mem_cons_self
  obtain ⟨f1, _, f3⟩ := decrStep_frame b1 a e q
  refine decr_goodC ok g rfl hb1 (fun a' ha' => j.wf.ins_lt hb1 ha') ha ((mem_delta1 L a q).mpr ⟨hq, hout⟩) ?_
    (congrArg List.length f1) f3 (cntv_decrStep b1 a e q)
  rw [j.hC b1 a q hb1 ha, if_pos rfl, List.count_cons_self]
  exact Nat.succ_pos _

/-- "initialize counters": after the blocks `< k` these are `running` and the others `fresh`; inside block `k` it is `filling` -/
theorem countersJ_goodC (ok : CfgOK L cfg) (hL : LtsOK L) {e0 : Eng} (w : WF L e0) (hc : e0.cnt = [])
    (hr : e0.rem = []) (hq : e0.queue = []) {t : Tr2} (g : GoodC L cfg e0 t allFresh) :
    GoodC L cfg (initCountersJ L cfg (e0, t)).1 (initCountersJ L cfg (e0, t)).2 running := by
  have hins : ∀ {e : Eng} {done}, DInv L e0 e done → ∀ b1, e.ins b1 = e0.ins b1 := fun d b1 => Eng.ins_congr d.hi b1
  have h := countersT_trace (front := preJ cfg) (back := postJ) (slot := slotJ L) hL w hc hr hq
    (fun k e t => GoodC L cfg e t (fun i => if i < k then .running else .fresh))
    (fun k e t => GoodC L cfg e t (fun i => if i < k then .running else if i = k then .filling else .fresh))
    (fun b1 e t done hb1 d hnd g =>
      resize_goodC ok g (by rw [d.hp]; exact hb1) (by simp) (fun a ha => w.ins_lt hb1 (hins d b1 ▸ ha))
        (fun a q _ => d.hcn b1 a (hnd a) q) (by simp) (fun i hi => by simp [hi]))
    (fun b1 a e t done hb1 ha d hnd g =>
      slot_goodC ok (et := (e, t)) g (by rw [d.hp]; exact hb1) (by simp)
        (fun a' ha' => w.ins_lt hb1 (hins d b1 ▸ ha')) (hins d b1 ▸ ha) (d.hcn b1 a hnd))
    (fun b1 e t done hb1 d g =>
      init_goodC g (by rw [d.hp]; exact hb1) (by simp) (by simp) (fun i hi => by
        by_cases h : i < b1
        · simp [h, Nat.lt_succ_of_lt h]
        · have : ¬ i < b1 + 1 := by omega
          simp [h, this, hi]))
    t (g.phase (fun i _ => by simp))
  rw [initCountersJ_eq]
  refine h.1.phase (fun i hi => ?_)
  rw [countersT_fst, (initCounters_spec hL w hc hr hq).1] at hi
  simp [hi]

theorem stateAfterJ_goodC (ok : CfgOK L cfg) (hL : LtsOK L) {part : List (List Nat)} {rel : Rel}
    (hp : isPartition part L.n = true) (hc : isConsistent part rel = true) (htr : RelTrans part rel) :
    ∀ k, GoodC L cfg (stateAfterJ L cfg part rel k).1 (stateAfterJ L cfg part rel k).2 running := by
  have h := (instrJ L cfg part rel).always hL hp hc htr (fun e t => GoodC L cfg e t allFresh) (fun e t => GoodC L cfg e t allFresh)
    (fun e t => GoodC L cfg e t running) (fun e t => GoodC L cfg e t running)
    (initBlocksJ_goodC cfg L part rel)
    (fun e t b rest new _ sok g => ctor_goodC g rfl sok.hb core_length)
    (fun e t _ g => g.congr rfl rfl rfl rfl)
    (fun e t w hc hr hq _ g => countersJ_goodC ok hL w hc hr hq g)
    (fun _ _ _ g => g.congr rfl rfl rfl rfl)
    (fun e t b rest new w _ sok g => copy_goodCS ok w sok g)
    (fun {_ _ _ mask pl} j hpl g => (prune_trace (pruneOK_SC ok) hL mask pl _ hpl j (g.congr rfl rfl rfl rfl)).2)
  exact h

/-- `~SimulationEngine()`: every counter is destroyed once, in the running phase; afterwards no counter is live -/
theorem finish_goodC {e : Eng} {t : Tr2} (g : GoodC L cfg e t running) :
    SC.okAll cfg [] (t.addSC (finishT e)).sc = true ∧
    ∀ j, (SC.aRun cfg [] (t.addSC (finishT e)).sc).1.getD j none = none := by
  have gs : SCI L cfg e (SC.aRun cfg [] t.sc).1 running := g.2
  obtain ⟨h1, h2, h3⟩ := destroys_ok cfg (List.range e.part.length) (SC.aRun cfg [] t.sc).1 List.nodup_range
    (fun i hi => by
      obtain ⟨A, hA, hph, _⟩ := gs.blk i (List.mem_range.mp hi)
      exact ⟨A, hA, hph⟩)
  refine ⟨?_, fun j => ?_⟩
  · show SC.okAll cfg [] (t.sc ++ finishT e) = true
    rw [sc_okAll_append, g.1]; exact h1
  · show (SC.aRun cfg [] (t.sc ++ finishT e)).1.getD j none = none
    rw [sc_aRun_append]
    show (SC.aRun cfg (SC.aRun cfg [] t.sc).1 ((List.range e.part.length).map SC.Op.destroy)).1.getD j none = none
    rw [h3 j]
    split
    · rfl
    · rename_i hj
      exact getD_of_length_le _ _ _ (by rw [gs.len]; exact Nat.le_of_not_lt (fun h => hj (List.mem_range.mpr h)))

end

end Vata.LEC2
