import Vata.Proofs.UnionIsectMapsBU
import Vata.Proofs.UnionIsectMapsTD
/-!
# Property C02 – `IntersectionBU` started from a caller-supplied `MapOk` map is EXACT (`isectBUFrom`)

`pmapOkB m0` alone makes `isectBUFrom A B m0` exact (stated as a conjecture in `Vata/Properties/C02_Maps.lean`).

The invariant `Ibf.PInv` of the loop is in `Vata/Proofs/IsectBUInv.lean`.  The two halves of the product theorem
(`Vata/Isect.lean`) are used with DIFFERENT sets of pairs: the rules are product rules over the whole injective map
(`ProdSound` on `m.dom`, soundness), and on an empty stack the result has every product rule over the processed pairs
`donePairs m ns` (`Ibf.complete_pinv`, completeness).  The result may contain additional DEAD rules whose children tuple mentions a
pre-filled pair that is never produced.  The map on exit is injective (`MapOk`), extends the map on entry, and contains
every pair of states the operands reach on a common tree.
-/
namespace Vata
namespace Ibf
open Isx Ibu

def donePairs (m : PMap) (ns : List Nat) : List (Nat × Nat) := m.dom.filter (fun p => ns.contains (lookupF m p))

theorem mem_donePairs {m : PMap} {ns : List Nat} {p : Nat × Nat} : p ∈ donePairs m ns ↔ Done m ns p := by
  simp only [donePairs, List.mem_filter, List.contains_iff_mem, Done]
  constructor
  · rintro ⟨h1, h2⟩
    obtain ⟨n, hn⟩ := mem_dom_iff.mp h1
    exact ⟨n, hn, lookupF_of hn ▸ h2⟩
  · rintro ⟨n, hn, h2⟩
    exact ⟨mem_dom_iff.mpr ⟨n, hn⟩, (lookupF_of hn).symm ▸ h2⟩

theorem donePairs_sub {m : PMap} {ns : List Nat} {p : Nat × Nat} (h : p ∈ donePairs m ns) : p ∈ m.dom :=
  (List.mem_filter.mp h).1

variable {A B : TA} {m : PMap} {ns : List Nat} {rs : List Rule} {fs : List Nat}

/-- on an empty stack the result has the product rule of all matching rules whose children pairs have been processed, and
the parent pair has then been processed too -/
theorem complete_pinv (h : PInv A B m [] ns rs fs) :
    ProdComplete A B (donePairs m ns) (lookupF m) (fun _ => True) ⟨rs, fs⟩ := by
  refine ⟨fun _ _ _ _ _ _ => trivial, fun r r' hm _ hd => ?_⟩
  obtain ⟨⟨n, h1, h2⟩, h3⟩ := h.complete r r' hm (fun x hx => mem_donePairs.mp (hd x hx))
  exact ⟨mem_donePairs.mpr ⟨n, h1, h2.resolve_left List.not_mem_nil⟩, h3⟩

theorem complete_of_pinv (h : PInv A B m [] ns rs fs) (t : Tree) (ha : accepts A t = true) (hb : accepts B t = true) :
    accepts (⟨rs, fs⟩ : TA) t = true := by
  refine accepts_prod_complete (complete_pinv h) (fun p p' hp hp' => ⟨trivial, fun hd => ?_⟩) t ha hb
  obtain ⟨k, hk, hkn⟩ := mem_donePairs.mp hd
  rw [lookupF_of hk]
  exact h.fcomplete _ k hk hkn hp hp'

theorem sound_of_pinv {st : List BUEntry} (h : PInv A B m st ns rs fs) (t : Tree) (ht : accepts (⟨rs, fs⟩ : TA) t = true) :
    accepts A t = true ∧ accepts B t = true :=
  Ixf.sound_of_good (P := ⟨rs, fs⟩) h.ok h.sound h.fsound t ht

theorem reach_of_pinv (h : PInv A B m [] ns rs fs) (t : Tree) :
    (∀ x, x ∈ reach (⟨rs, fs⟩ : TA) t → ∃ pr, m.lookup pr = some x ∧ pr.1 ∈ reach A t ∧ pr.2 ∈ reach B t) ∧
    (∀ p q, p ∈ reach A t → q ∈ reach B t → ∃ n, m.lookup (p, q) = some n ∧ n ∈ reach (⟨rs, fs⟩ : TA) t) := by
  constructor
  · intro x hx
    obtain ⟨pr, hpr, he, ha, hb⟩ := reach_prod_sound (P := ⟨rs, fs⟩) (D := m.dom) (m := lookupF m) h.sound h.ok.injOn t x hx
    obtain ⟨n, hn⟩ := mem_dom_iff.mp hpr
    exact ⟨pr, by rw [← he, lookupF_of hn]; exact hn, ha, hb⟩
  · intro p q hp hq
    obtain ⟨hd, hr⟩ := reach_prod_complete (complete_pinv h) t (p, q) trivial hp hq
    obtain ⟨n, hn, _⟩ := mem_donePairs.mp hd
    exact ⟨n, hn, lookupF_of hn ▸ hr⟩

end Ibf

theorem isectBUFrom_spec {A B : TA} {m0 : PMap} {fuel : Nat} {P : TA} {m : PMap} (hok : Isx.MapOk m0)
    (h : isectBUFrom A B m0 fuel = some (P, m)) :
    Isx.MapOk m ∧ Isx.Ext m0 m ∧ ∃ ns, Ibf.PInv A B m [] ns P.rules P.final := by
  obtain ⟨hext, hinit⟩ := Ibf.init_inv A B m0 hok
  rw [isectBUFrom_eq_loop, Option.map_eq_some_iff] at h
  obtain ⟨_, hl, he⟩ := h
  cases he
  obtain ⟨hext', ns', hinv⟩ := Ibf.loop_inv fuel hinit hl
  exact ⟨hinv.ok, hext.trans hext', ns', hinv⟩

theorem isectBUFrom_lang {A B : TA} {m0 : PMap} {fuel : Nat} {P : TA} {m : PMap} (hok : Isx.MapOk m0)
    (h : isectBUFrom A B m0 fuel = some (P, m)) (t : Tree) : accepts P t = (accepts A t && accepts B t) := by
  obtain ⟨_, _, ns, hinv⟩ := isectBUFrom_spec hok h
  rw [Bool.eq_iff_iff, Bool.and_eq_true]
  exact ⟨fun ht => Ibf.sound_of_pinv hinv t ht, fun ⟨ha, hb⟩ => Ibf.complete_of_pinv hinv t ha hb⟩

theorem isectBUFrom_map_inj {A B : TA} {m0 : PMap} {fuel : Nat} {P : TA} {m : PMap} (hok : Isx.MapOk m0)
    (h : isectBUFrom A B m0 fuel = some (P, m)) : InjOn (lookupF m) m.dom := (isectBUFrom_spec hok h).1.injOn

theorem isectBUFrom_ext {A B : TA} {m0 : PMap} {fuel : Nat} {P : TA} {m : PMap} (hok : Isx.MapOk m0)
    (h : isectBUFrom A B m0 fuel = some (P, m)) : Isx.Ext m0 m := (isectBUFrom_spec hok h).2.1

theorem isectBUFrom_reach_done {A B : TA} {m0 : PMap} {fuel : Nat} {P : TA} {m : PMap} (hok : Isx.MapOk m0)
    (h : isectBUFrom A B m0 fuel = some (P, m)) (t : Tree) (p q : Nat) (hp : p ∈ reach A t) (hq : q ∈ reach B t) :
    (p, q) ∈ m.dom := by
  obtain ⟨_, _, ns, hinv⟩ := isectBUFrom_spec hok h
  exact Ibf.donePairs_sub (reach_prod_complete (Ibf.complete_pinv hinv) t (p, q) trivial hp hq).1

/-- **the map names the states**: on every tree the states of the result are exactly the numbers of the pairs of states
the operands reach on it -/
theorem isectBUFrom_reach {A B : TA} {m0 : PMap} {fuel : Nat} {P : TA} {m : PMap} (hok : Isx.MapOk m0)
    (h : isectBUFrom A B m0 fuel = some (P, m)) (t : Tree) :
    (∀ x, x ∈ reach P t → ∃ pr, m.lookup pr = some x ∧ pr.1 ∈ reach A t ∧ pr.2 ∈ reach B t) ∧
    (∀ p q, p ∈ reach A t → q ∈ reach B t → ∃ n, m.lookup (p, q) = some n ∧ n ∈ reach P t) := by
  obtain ⟨_, _, ns, hinv⟩ := isectBUFrom_spec hok h
  exact Ibf.reach_of_pinv hinv t

end Vata
