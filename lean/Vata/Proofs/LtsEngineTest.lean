import Vata.LtsEngine
/-!
# Self-test of the engine model against the reference `ltsSimOut`

Pseudo-random systems (linear congruential generator, fixed seeds): 1–6 states, 1–3 labels, 0–3n edges (parallel edges
and self-loops occur), a random partition into ≤ 4 blocks with a random reflexive relation closed under transitivity,
output sizes `0..n`; and the two overloads without partition.  `checkRange lo hi` returns
(cases whose result equals the reference as a set, cases with result `none`, cases).
-/
namespace Vata.LE.EngTest
open Vata.L

def relEqB (a b : Rel) : Bool := a.all b.contains && b.all a.contains

def nxt (s : Nat) : Nat := (s * 6364136223846793005 + 1442695040888963407) % (2^64)
def rnd (s : Nat) (k : Nat) : Nat × Nat := let s' := nxt s; ((s' / 2^33) % k, s')

def genEdges : Nat → Nat → Nat → Nat → List (Nat × Nat × Nat) × Nat
  | 0, _, _, s => ([], s)
  | k+1, n, m, s =>
    let (a, s) := rnd s n; let (b, s) := rnd s m; let (c, s) := rnd s n
    let (r, s) := genEdges k n m s
    ((a, b, c) :: r, s)

def genNums : Nat → Nat → Nat → List Nat × Nat
  | 0, _, s => ([], s)
  | k+1, nb, s => let (b, s) := rnd s nb; let (r, s) := genNums k nb s; (b :: r, s)

def genPairs : Nat → Nat → Nat → List (Nat × Nat) × Nat
  | 0, _, s => ([], s)
  | k+1, nb, s => let (a, s) := rnd s nb; let (b, s) := rnd s nb; let (r, s) := genPairs k nb s; ((a, b) :: r, s)

def transClose (r : Rel) : Nat → Rel
  | 0 => r
  | k+1 =>
    let r' := r ++ (r.flatMap (fun p => r.filterMap (fun p' =>
      if p.2 == p'.1 && !(r.contains (p.1, p'.2)) then some (p.1, p'.2) else none))).eraseDups
    if r'.length == r.length then r else transClose r' k

structure Case where
  L : LTS
  part : List (List Nat)
  rel : Rel
  k : Nat
  overload : Nat

def genCase (seed : Nat) (trans : Bool) : Case :=
  let s := nxt (nxt seed)
  let (n, s) := rnd s 6; let n := n + 1
  let (m, s) := rnd s 3; let m := m + 1
  let (ne, s) := rnd s (3 * n + 1)
  let (es, s) := genEdges ne n m s
  let (nb, s) := rnd s (min n 4); let nb := nb + 1
  let (asg, s) := genNums n nb s
  let blocks := (List.range nb).map (fun b => (List.range n).filter (fun q => asg.getD q 0 == b))
  let blocks := blocks.filter (fun b => !b.isEmpty)
  let nb := blocks.length
  let (np, s) := rnd s (nb * nb + 1)
  let (ps, s) := genPairs np nb s
  let r := ((List.range nb).map (fun i => (i, i)) ++ ps).eraseDups
  let r := if trans then transClose r 20 else r
  let (kk, s) := rnd s (2 * n + 1)
  let k := if kk > n then n else kk
  let (ov, _) := rnd s 5
  ⟨⟨n, es⟩, blocks, r, k, if ov ≥ 3 then ov - 2 else 0⟩

/-- (equal to the reference, result is `none`) -/
def runCase (c : Case) : Bool × Bool :=
  let (res, ref) :=
    if c.overload == 0 then (computeSimulation c.L c.part c.rel c.k, ltsSimOut c.L (initRel c.part c.rel) c.k)
    else if c.overload == 1 then (computeSimulation1 c.L c.k, ltsSimOut c.L (fullRel c.L.n) c.k)
    else (computeSimulation0 c.L, ltsSimOut c.L (fullRel c.L.n) c.L.n)
  match res with
  | none => (false, true)
  | some R => (relEqB R ref, false)

def checkRange (lo hi : Nat) (trans : Bool) : Nat × Nat × Nat :=
  (List.range (hi - lo)).foldl (fun (acc : Nat × Nat × Nat) i =>
    let (ok, non) := runCase (genCase (lo + i) trans)
    (acc.1 + (if ok then 1 else 0), acc.2.1 + (if non then 1 else 0), acc.2.2 + 1)) (0, 0, 0)

/-- distribution: (cases with partition, overload 1, overload 2, output size < n, systems with ≥ 2 blocks,
cases in which `run` had work to do) -/
def distribution (lo hi : Nat) : Nat × Nat × Nat × Nat × Nat × Nat :=
  (List.range (hi - lo)).foldl (fun acc i =>
    let c := genCase (lo + i) true
    let busy := !(engineInit c.L c.part c.rel).queue.isEmpty
    (acc.1 + (if c.overload == 0 then 1 else 0), acc.2.1 + (if c.overload == 1 then 1 else 0),
      acc.2.2.1 + (if c.overload == 2 then 1 else 0), acc.2.2.2.1 + (if c.k < c.L.n then 1 else 0),
      acc.2.2.2.2.1 + (if c.part.length ≥ 2 then 1 else 0), acc.2.2.2.2.2 + (if busy then 1 else 0)))
    (0, 0, 0, 0, 0, 0)

-- 600 systems, preorders on the blocks: all equal to the reference, no `none`
#guard checkRange 0 600 true == (600, 0, 600)
#guard distribution 0 600 == (373, 127, 100, 266, 288, 230)

-- a few fixed ones
#guard computeSimulation0 exL == some [(2, 2), (2, 0), (2, 1), (0, 0), (0, 1), (1, 1)]
#guard computeSimulation exL [[0, 1], [2]] [(0, 0), (0, 1), (1, 1)] 3 == some [(0, 0), (0, 1), (2, 2), (1, 1)]
#guard computeSimulation1 exL 2 == some [(0, 0), (0, 1), (1, 1)]
#guard computeSimulation1 exL 0 == some []
-- parallel edges, a label-1 loop, a state without outgoing and one without incoming edges
#guard (computeSimulation0 ⟨4, [(0, 0, 1), (0, 0, 1), (0, 1, 0), (2, 0, 1), (2, 0, 3)]⟩).map
    (relEqB (ltsSimRef ⟨4, [(0, 0, 1), (0, 0, 1), (0, 1, 0), (2, 0, 1), (2, 0, 3)]⟩ (fullRel 4))) == some true

end Vata.LE.EngTest
