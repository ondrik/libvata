import Vata.Proofs.InclDownTablesDump
import Vata.Proofs.InclDownTotal
/-!
# C07 – the top-down BDD downward inclusion, run for run on the TABLES

Property served (C07): *"the BDD inclusion algorithms return the verdict of the explicit ones"*; the item left open by
`Vata/Properties/C07_Traverse.lean`: the run-for-run refinement of `DownwardInclusionFunctor::expand` on the top-down tables.

How the C++ is read into the model (`Vata/InclDownTables.lean`): `CheckDownwardTreeInclusion<BDDTDTreeAutCore, DownwardInclusionFunctor>`
(`src/tree_incl_down.hh`, `src/down_tree_incl_fctor.hh`) reads the automata only through `ForeachDownSymbolFromStateAndStateSetDo`
(`src/bdd_td_tree_aut_core.hh`), modelled AS CODED by `BddTraverse.travDown` (union of the right-hand MTBDDs by `apply2`,
`VoidApply2Functor` with its cache of visited node pairs, one callback per pair of LEAVES).  `procLeaf` is `operator()(lhs, rhs)` as coded
(no symbol: empty `lhs` returns, the arity is read off the first tuple of `lhs`), `expandT` is `expand` with `workset_`, `nonIncl_`,
`childrenCache_` threaded as in `InclDown.expand`, `rootLoopT` / `runTD` the loop over the final states.

The abstract model `InclDown.expand` iterates over the groups `(f, n)` of the rule LIST of a `TA` in list order.  `pathOrder syms T F` is the
dump of a table over the ranked symbols `syms` (ranked symbol = the number formed by the 16 symbol bits and the 6 arity bits above
them, `addArityToSymbol`; it is the symbol of the dumped rule) whose rule list is in the order the traversal induces:
ranked symbols increasing (low successor first, larger variable nearer the root), tuples in the order of the leaves
(`OrdVector<StateTuple>`), parents in table order.

What is abstracted: hash-consing = structural equality of diagrams; `unordered_multimap` work-set / antichains as lists (as in `InclDown`);
the witness trees and the symbol handed to `procLeaf` are ghost (`reprSym` of the class); the number of variables `n` and the arity
`ar` of a ranked symbol are parameters (`n = 22`, `ar c = c / 2 ^ 16` for the tables of the library).

The hypothesis `SymDet` (different ranked symbols of a state of the LEFT table select different non-empty leaves): the traversal
calls the functor once per pair of leaves, the abstract model once per symbol.  When two symbols of a state share their tuple set
AND the right-hand side does not separate them, the code makes ONE call where the abstract model makes two; the second call of the
abstract model finds its sub-calls in the caches, but it is a different run (more cache look-ups), and the equality of the
RESULTS in that case is not proved here (checked by evaluation below: `regression 1`).  The right table is arbitrary (classes allowed).
-/
namespace Vata.Props
open Vata.M Vata.BddAbs Vata.BddAbsTD Vata.BddTraverse Vata.InclDown Vata.InclDownTables
open Vata.InclUp (prodWit)

/-- **what the functor receives** from the traversal as coded, for a symbol-deterministic left diagram `a` and any right diagram `b`
(ordered, reduced, over `n` variables): the calls with a non-empty left leaf are – in this order – the ranked symbols `f < 2 ^ n`
with a non-empty leaf in `a`, each with the two leaves `f` selects; the cache of `VoidApply2Functor` drops none of them -/
theorem C07_traverse_down_calls {n : Nat} {a b : Node LS} (wa : WF a) (wb : WF b) (ba : Below n a) (bb : Below n b)
    (hd : SymDet n a) :
    ((voidApply2Calls a b).map symItem).filter (fun i => !i.2.1.isEmpty) =
      ((List.range (2 ^ n)).map (fun f => (0 + f, eval a (bits (0 + f)), eval b (bits (0 + f))))).filter
        (fun i => !i.2.1.isEmpty) :=
  calls_ne_eq wa wb ba bb hd

/-- **Run for run.**  Tables `TA`, `TB` with ordered reduced MTBDDs over `n` variables, sorted
leaves and ranked tuples (`TabOK`), a strictly increasing list `syms` of ranked symbols `< 2 ^ n` that covers the left table, the
left table symbol-deterministic.  Then on the dumps in path order `A = pathOrder syms TA FA`, `B = pathOrder syms TB FB`:
`expand` on the tables IS `InclDown.expand` on `A`, `B` – for every fuel, work-set, `childrenCache`, state, pair: the same verdict,
the same caches and antichains (with the same witness trees); so are the traversal `bodyT`/`body`, and the whole algorithm
`runTD`/`run` for any preorder `o` (`idOrd`: `ANTICHAINS_DOWN_REC_NOSIM`) -/
theorem C07_traverse_downward_algorithm {n : Nat} {ar : Nat → Nat} {syms : List Nat} {TA TB : TableTD} (FA FB : List Nat)
    (hs : syms.Pairwise (· < ·)) (hb : ∀ c, c ∈ syms → c < 2 ^ n)
    (hcov : ∀ p c, c < 2 ^ n → eval (getTD TA p) (bits c) ≠ [] → c ∈ syms)
    (okA : TabOK n ar TA) (okB : TabOK n ar TB) (hd : ∀ p, SymDet n (getTD TA p)) (o : Ord) :
    (∀ wit fuel, expandT o TA TB wit fuel = expand o (pathOrder syms TA FA) (pathOrder syms TB FB) wit fuel) ∧
    (∀ call1 call2 wit post p P cc st, bodyT call1 call2 TA TB wit post p P cc st =
      body call1 call2 (pathOrder syms TA FA) (pathOrder syms TB FB) wit post p P cc st) ∧
    (∀ fuel, runTD o TA FA TB FB (prodWit (pathOrder syms TA FA)) fuel =
      run o (pathOrder syms TA FA) (pathOrder syms TB FB) fuel) :=
  have h := groupsAgree_pathOrder FA FB ⟨hs, hb, hcov, okA, okB⟩ hd
  ⟨fun wit fuel => expandT_eq h o wit fuel, fun c1 c2 wit post p P cc st => bodyT_eq h c1 c2 wit post p P cc st,
    fun fuel => runTD_eq (A := pathOrder syms TA FA) (B := pathOrder syms TB FB) h o fuel⟩

/-- the same from the agreement of the groups alone (`GroupsAgree`: for every `(p, P)` the calls with a non-empty left leaf are,
list for list, the groups of `p` with `lhsTuples` / `rhsTuples`) – for ANY automata `A`, `B`, whatever their symbols -/
theorem C07_traverse_downward_of_groups {TA TB : TableTD} {A B : Vata.TA} (h : GroupsAgree TA TB A B) (o : Ord) :
    (∀ wit fuel, expandT o TA TB wit fuel = expand o A B wit fuel) ∧
    (∀ fuel, runTD o TA A.final TB B.final (prodWit A) fuel = run o A B fuel) :=
  ⟨fun wit fuel => expandT_eq h o wit fuel, fun fuel => runTD_eq h o fuel⟩

/-- the certified verdict of the algorithm on the tables (certify-then-trust against the dumps, as `inclDownRec`) -/
def inclDownTablesCert (syms : List Nat) (TA : TableTD) (FA : List Nat) (TB : TableTD) (FB : List Nat) (fuel : Nat) :
    Option (Bool × InclUp.Cert) :=
  finish (downCertB (pathOrder syms TA FA) (pathOrder syms TB FB)) (pathOrder syms TA FA) (pathOrder syms TB FB)
    (runTD idOrd TA FA TB FB (prodWit (pathOrder syms TA FA)) fuel)

/-- **Exactness and totality transfer.**  Under the hypotheses of `C07_traverse_downward_algorithm`:
the certified verdict of the run on the tables is `inclDownRec` of the dumps, hence exact; when the children of the rules of
the left dump are productive (no useless states: the precondition of the C++ functor) the PLAIN verdict of the run on the tables
(`inclDownTrav`, nothing certified) is that verdict, is exact, and is returned for every fuel above `|Q_A|·2^|Q_B|` -/
theorem C07_td_downward_tables_exact {n : Nat} {ar : Nat → Nat} {syms : List Nat} {TA TB : TableTD} (FA FB : List Nat)
    (hs : syms.Pairwise (· < ·)) (hb : ∀ c, c ∈ syms → c < 2 ^ n)
    (hcov : ∀ p c, c < 2 ^ n → eval (getTD TA p) (bits c) ≠ [] → c ∈ syms)
    (okA : TabOK n ar TA) (okB : TabOK n ar TB) (hd : ∀ p, SymDet n (getTD TA p)) :
    (∀ fuel, inclDownTablesCert syms TA FA TB FB fuel = inclDownRec (pathOrder syms TA FA) (pathOrder syms TB FB) fuel) ∧
    (∀ fuel b c, inclDownTablesCert syms TA FA TB FB fuel = some (b, c) →
      (b = true ↔ Incl (pathOrder syms TA FA) (pathOrder syms TB FB))) ∧
    (KidsProductive (pathOrder syms TA FA) →
      (∀ fuel, inclDownTrav idOrd TA FA TB FB (prodWit (pathOrder syms TA FA)) fuel =
        (inclDownRec (pathOrder syms TA FA) (pathOrder syms TB FB) fuel).map (·.1)) ∧
      (∀ fuel b, inclDownTrav idOrd TA FA TB FB (prodWit (pathOrder syms TA FA)) fuel = some b →
        (b = true ↔ Incl (pathOrder syms TA FA) (pathOrder syms TB FB))) ∧
      (∀ fuel, fuelBoundD (pathOrder syms TA FA) (pathOrder syms TB FB) < fuel →
        ∃ b, inclDownTrav idOrd TA FA TB FB (prodWit (pathOrder syms TA FA)) fuel = some b)) := by
  have hrun := (C07_traverse_downward_algorithm FA FB hs hb hcov okA okB hd idOrd).2.2
  have h1 : ∀ fuel, inclDownTablesCert syms TA FA TB FB fuel =
      inclDownRec (pathOrder syms TA FA) (pathOrder syms TB FB) fuel := by
    intro fuel; unfold inclDownTablesCert inclDownRec; rw [hrun]
  refine ⟨h1, fun fuel b c h => inclDownRec_iff (by rw [← h1]; exact h), fun hK => ?_⟩
  have h2 : ∀ fuel, inclDownTrav idOrd TA FA TB FB (prodWit (pathOrder syms TA FA)) fuel =
      (inclDownRec (pathOrder syms TA FA) (pathOrder syms TB FB) fuel).map (·.1) := by
    intro fuel
    rw [inclDownRec_eq_run hK]
    unfold inclDownTrav
    rw [hrun]
    cases run idOrd (pathOrder syms TA FA) (pathOrder syms TB FB) fuel with
    | none => rfl
    | some r => cases r <;> rfl
  refine ⟨h2, fun fuel b h => ?_, fun fuel hf => ?_⟩
  · rw [h2] at h
    cases hr : inclDownRec (pathOrder syms TA FA) (pathOrder syms TB FB) fuel with
    | none => rw [hr] at h; cases h
    | some bc =>
      obtain ⟨b', c⟩ := bc
      rw [hr] at h
      simp only [Option.map_some, Option.some.injEq] at h
      subst h
      exact inclDownRec_iff hr
  · obtain ⟨b, c, hbc⟩ := inclDownRec_total (B := pathOrder syms TB FB) hK hf
    exact ⟨b, by rw [h2, hbc]; rfl⟩

/-- **loaded tables** (`AddTransition` for every rule, arities `< 64`): `TabOK 22 arOf` holds (ordered reduced MTBDDs over the 16 symbol
and 6 arity variables, sorted leaves, the length of a tuple is the value of the arity bits), so the run on the loaded tables is
the abstract run on their dumps in path order – provided the loaded LEFT table is symbol-deterministic and `syms` (increasing, ranked
symbols `< 2 ^ 22`) covers it -/
theorem C07_traverse_downward_loaded (rsA rsB : List Rule) (hA : ∀ r, r ∈ rsA → r.kids.length < 64)
    (hB : ∀ r, r ∈ rsB → r.kids.length < 64) {syms : List Nat} (FA FB : List Nat)
    (hs : syms.Pairwise (· < ·)) (hb : ∀ c, c ∈ syms → c < 2 ^ 22)
    (hcov : ∀ p c, c < 2 ^ 22 → eval (getTD (ofRulesTD rsA) p) (bits c) ≠ [] → c ∈ syms)
    (hd : ∀ p, SymDet 22 (getTD (ofRulesTD rsA) p)) (o : Ord) :
    (TabOK 22 arOf (ofRulesTD rsA) ∧ TabOK 22 arOf (ofRulesTD rsB)) ∧
    (∀ wit fuel, expandT o (ofRulesTD rsA) (ofRulesTD rsB) wit fuel =
      expand o (pathOrder syms (ofRulesTD rsA) FA) (pathOrder syms (ofRulesTD rsB) FB) wit fuel) ∧
    (∀ fuel, runTD o (ofRulesTD rsA) FA (ofRulesTD rsB) FB (prodWit (pathOrder syms (ofRulesTD rsA) FA)) fuel =
      run o (pathOrder syms (ofRulesTD rsA) FA) (pathOrder syms (ofRulesTD rsB) FB) fuel) :=
  have h := C07_traverse_downward_algorithm FA FB hs hb hcov (tabOK_ofRulesTD rsA hA) (tabOK_ofRulesTD rsB hB) hd o
  ⟨⟨tabOK_ofRulesTD rsA hA, tabOK_ofRulesTD rsB hB⟩, h.1, h.2.2⟩

example : (∀ r, r ∈ BddAbsEx.rsB → r.kids.length < 64) ∧ (∀ r, r ∈ BddAbsEx.rsA → r.kids.length < 64) := ⟨by decide, by decide⟩

/-! ## non-vacuity: two tables over `n = 2` variables

ranked symbols `0, 1` (nullary), `2` (binary), `3` (unary).  `A`: `0 → 1`, `2(1,1) → 2`, `3(2) → 2`;
`B`: `0 → 3`, `1 → 3` (one class: the node for the variable 0 is reduced away), `2(3,3) → 4`, `3(4) → 4`. -/
namespace TDEx

def ar : Nat → Nat := fun c => if c = 2 then 2 else if c = 3 then 1 else 0
def syms : List Nat := [0, 1, 2, 3]
def tA : TableTD :=
  [(1, .node 1 (.node 0 (.leaf [[]]) (.leaf [])) (.leaf [])), (2, .node 1 (.leaf []) (.node 0 (.leaf [[1, 1]]) (.leaf [[2]])))]
def tB : TableTD :=
  [(3, .node 1 (.leaf [[]]) (.leaf [])), (4, .node 1 (.leaf []) (.node 0 (.leaf [[3, 3]]) (.leaf [[4]])))]

theorem lt4 {c : Nat} (h : c < 2 ^ 2) : c = 0 ∨ c = 1 ∨ c = 2 ∨ c = 3 := by omega

theorem okA : TabOK 2 ar tA := by
  refine tabOK_of_entries (fun e he => ?_)
  simp only [tA, List.mem_cons, List.not_mem_nil, or_false] at he
  -- both entries: a reduced ordered diagram; at each of the four symbols the leaf is an increasing list of tuples of its arity
  rcases he with rfl | rfl
  all_goals
    refine ⟨by simp [WF, Below], fun c hc => ?_, fun c ks hc => ?_⟩
    · rcases lt4 hc with rfl | rfl | rfl | rfl <;> decide
    · rcases lt4 hc with rfl | rfl | rfl | rfl <;> revert ks <;> decide

theorem okB : TabOK 2 ar tB := by
  refine tabOK_of_entries (fun e he => ?_)
  simp only [tB, List.mem_cons, List.not_mem_nil, or_false] at he
  -- both entries: a reduced ordered diagram; at each of the four symbols the leaf is an increasing list of tuples of its arity
  rcases he with rfl | rfl
  all_goals
    refine ⟨by simp [WF, Below], fun c hc => ?_, fun c ks hc => ?_⟩
    · rcases lt4 hc with rfl | rfl | rfl | rfl <;> decide
    · rcases lt4 hc with rfl | rfl | rfl | rfl <;> revert ks <;> decide

theorem detA : ∀ p, SymDet 2 (getTD tA p) := by
  refine symDet_of_entries (fun e he => ?_)
  simp only [tA, List.mem_cons, List.not_mem_nil, or_false] at he
  rcases he with rfl | rfl <;> intro f g hf hg <;>
    rcases lt4 hf with rfl | rfl | rfl | rfl <;> rcases lt4 hg with rfl | rfl | rfl | rfl <;> decide

end TDEx

/-- the hypotheses of `C07_traverse_downward_algorithm` / `C07_td_downward_tables_exact` are satisfiable (`tB` is not
symbol-deterministic: it is the RIGHT operand) -/
example : TDEx.syms.Pairwise (· < ·) ∧ (∀ c, c ∈ TDEx.syms → c < 2 ^ 2) ∧
    (∀ p c, c < 2 ^ 2 → eval (getTD TDEx.tA p) (bits c) ≠ [] → c ∈ TDEx.syms) ∧
    TabOK 2 TDEx.ar TDEx.tA ∧ TabOK 2 TDEx.ar TDEx.tB ∧ (∀ p, SymDet 2 (getTD TDEx.tA p)) :=
  ⟨by decide +kernel, by decide +kernel, fun _ c hc _ => by rcases TDEx.lt4 hc with rfl | rfl | rfl | rfl <;> decide,
    TDEx.okA, TDEx.okB, TDEx.detA⟩

-- the dumps in path order
#guard (pathOrder TDEx.syms TDEx.tA [2]).rules.map (fun r => (r.sym, r.kids, r.parent)) ==
  [(0, [], 1), (2, [1, 1], 2), (3, [2], 2)]
#guard (pathOrder TDEx.syms TDEx.tB [4]).rules.map (fun r => (r.sym, r.kids, r.parent)) ==
  [(0, [], 3), (1, [], 3), (2, [3, 3], 4), (3, [4], 4)]
example : KidsProductive (pathOrder TDEx.syms TDEx.tA [2]) :=
  (InclUp.trimmed_of_allUsefulB (A := pathOrder TDEx.syms TDEx.tA [2]) (by decide +kernel)).1

-- both sides of the theorem evaluated: `A ⊆ B` holds, the run on the tables and the abstract run agree
#guard inclDownTrav idOrd TDEx.tA [2] TDEx.tB [4] [] 10 == some true
#guard showRet (expandT idOrd TDEx.tA TDEx.tB [] 10 [] [] ⟨[], []⟩ 2 [4]) ==
  showRet (expand idOrd (pathOrder TDEx.syms TDEx.tA [2]) (pathOrder TDEx.syms TDEx.tB [4]) [] 10 [] [] ⟨[], []⟩ 2 [4])
#guard showRet (expandT idOrd TDEx.tA TDEx.tB [] 10 [] [] ⟨[], []⟩ 2 [4]) == some (true, [(2, [4])], [], [(1, [3]), (2, [4])])

/-! ## regressions (the left operand `tB` has the class `{0, 1}`: NOT symbol-deterministic) -/

-- regression 1: a traversal that calls the functor once per SYMBOL instead of once per class changes nothing:
-- `tB ⊆ tB` (the class `{0, 1}` of state 3 is one call in the code, two calls per symbol) and `tB ⊄ tA`
-- (evaluated: `VoidApply2Functor` is a well-founded recursion the kernel's `decide` does not unfold)
#guard showRet (expandWith (fun call => bodySyms TDEx.syms call call TDEx.tB TDEx.tB [] InclUp.normS) idOrd 10 [] [] ⟨[], []⟩ 4 [4]) ==
  showRet (expandT idOrd TDEx.tB TDEx.tB [] 10 [] [] ⟨[], []⟩ 4 [4])
#guard showRet (expandWith (fun call => bodySyms TDEx.syms call call TDEx.tB TDEx.tA [] InclUp.normS) idOrd 10 [] [] ⟨[], []⟩ 4 [2]) ==
  showRet (expandT idOrd TDEx.tB TDEx.tA [] 10 [] [] ⟨[], []⟩ 4 [2])
-- the code makes one call for the class (the pair of leaves `([[]], [[]])`), the loop over the symbols two
#guard (travDown TDEx.tB TDEx.tB 3 [3]).map (·.2) == [([[]], [[]]), ([], [])]
#guard showRet (expandT idOrd TDEx.tB TDEx.tB [] 10 [] [] ⟨[], []⟩ 4 [4]) == some (true, [(4, [4])], [], [(3, [3]), (4, [4])])

-- regression 2: a callback that receives the UNION of the right-hand leaves over all classes changes the verdict:
-- `tB ⊄ tA` (the symbol 1 is missing in `tA`), the union hides it
#guard (showRet (expandT idOrd TDEx.tB TDEx.tA [] 10 [] [] ⟨[], []⟩ 4 [2])).map (·.1) == some false
#guard (showRet (expandWith (fun call => bodyUnion call call TDEx.tB TDEx.tA [] InclUp.normS) idOrd 10 [] [] ⟨[], []⟩ 4 [2])).map
  (·.1) == some true
-- the core of it in the kernel: the class of the symbol 1 of state 3 hands `lhs = {()}`, `rhs = ∅` to the functor (it fails); with
-- the union over the classes `rhs = {()}` (it returns at once)
example : (showRet (procLeaf (fun _ _ _ _ => none) (fun _ _ _ _ => none) [] InclUp.normS 1 [[]] [] [] ⟨[], []⟩)).map (·.1) =
    some false := rfl
example : (showRet (procLeaf (fun _ _ _ _ => none) (fun _ _ _ _ => none) [] InclUp.normS 1 [[]] [[]] [] ⟨[], []⟩)).map (·.1) =
    some true := rfl

/-! ## loaded 22-bit tables (`ofRulesTD`), by evaluation

the automata of defect D9: `rsB` (`a → 3`, `b → 4`, `g(3,3) → 9`, `g(4,4) → 9`) is symbol-deterministic, `rsA` (`a → 1`, `b → 1`,
`g(1,1) → 2`) has the class `{a, b}`.  Ranked symbols: `a = 0`, `b = 1`, `g/2 = 2·2^16 + 2`. -/

#guard usedSyms (ofRulesTD BddAbsEx.rsB) [0, 1, 2, 131074, 131075] == [0, 1, 131074]
#guard (pathOrder [0, 1, 131074] (ofRulesTD BddAbsEx.rsB) [9]).rules.map (fun r => (r.sym, r.kids, r.parent)) ==
  [(0, [], 3), (1, [], 4), (131074, [3, 3], 9), (131074, [4, 4], 9)]
#guard showRet (expandT idOrd (ofRulesTD BddAbsEx.rsB) (ofRulesTD BddAbsEx.rsA) [] 10 [] [] ⟨[], []⟩ 9 [2]) ==
  showRet (expand idOrd (pathOrder [0, 1, 131074] (ofRulesTD BddAbsEx.rsB) [9])
    (pathOrder [0, 1, 131074] (ofRulesTD BddAbsEx.rsA) [2]) [] 10 [] [] ⟨[], []⟩ 9 [2])
#guard inclDownTrav idOrd (ofRulesTD BddAbsEx.rsB) [9] (ofRulesTD BddAbsEx.rsA) [2] [] 10 == some true
#guard inclDownTrav idOrd (ofRulesTD BddAbsEx.rsA) [2] (ofRulesTD BddAbsEx.rsB) [9] [] 10 == some false

/-!
## still not proved

* the case of a left table that is NOT symbol-deterministic (two ranked symbols of a state with the same set of children tuples –
  e.g. two nullary symbols of a state): there the code calls the functor once per pair of leaves, the abstract model once per
  symbol; that the additional calls of the abstract model change neither the verdict nor the caches is checked by evaluation only
  (regression 1), not proved (it needs a relative-completeness invariant of the caches: a pair concluded `true` is never
  implied by `nonincluded` later in the same functor).  `C07_traverse_downward_of_groups` holds without the hypothesis, but its
  `GroupsAgree` is then not available for a dump with one symbol per ranked symbol;
* for LOADED tables `TabOK` is proved (`C07_traverse_downward_loaded`), but `SymDet 22` of a loaded left table and the covering of
  `syms` remain hypotheses there (no rule-level criterion such as "a tuple of a state occurs under one symbol only" is derived);
  the loaded tables of D9 are compared by evaluation (`#guard`s above);
* the symbols of the dumps are RANKED symbols (symbol bits + arity bits): `Incl (pathOrder …) (pathOrder …)` is the inclusion of
  the automata the tables denote up to this injective renaming of the symbols; the renaming back to `(f, n)` is not carried out;
* the `OptDownwardInclusionFunctor` variant and the preorder index structures (`preorderSmaller_` / `preorderBigger_`) are as in
  `InclDown` (an `Ord` of three Boolean tests); no link to the C++ by a driver kind (Lean only).
-/
end Vata.Props
