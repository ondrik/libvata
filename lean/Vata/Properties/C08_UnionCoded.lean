import Vata.Proofs.BddUnionCodedShared
/-!
# C08 – `Union` / `UnionDisjointStates` of the two BDD encodings AS CODED

> For both BDD encodings Union and UnionDisjointStates yield exactly the union … None of these calls changes the language of
> an operand.

## How the C++ is read into the model (`Vata/BddUnionCoded.lean`)

* Sources: `src/bdd_td_tree_aut_union.cc`, `src/bdd_td_tree_aut_union_disj.cc`, `src/bdd_bu_tree_aut_union.cc`,
  `src/bdd_bu_tree_aut_union_disj.cc`, `ReindexStates` of `src/bdd_td_tree_aut_core.cc` / `src/bdd_bu_tree_aut_core.cc`,
  `include/vata/util/transl_weak.hh`, `src/mtbdd/apply1func.hh`, `src/bdd_bu_tt_wrapper.hh`.
* An automaton object is a handle `AutTD` / `AutBU` = (`tid`: identity of the table object behind its `shared_ptr`, `T`: the
  value of the table as the object sees it – `BddAbsTD.TableTD`, `BddAbs.Table` (own nullary MTBDD + entries of the shared
  table) –, `fin`).  `ShareTransTable(lhs, rhs)` is `lhs.tid = rhs.tid`.  "Dump" is `AutTD.abs syms` / `AutBU.abs syms`
  (`absTD` / `absBU` over the symbol dictionary `syms`).
* Every branch is modelled: same table object (`result = lhs`, final states of `rhs` inserted; bottom-up additionally the own
  nullary MTBDDs united; the translation maps are NOT touched) vs distinct tables; maps absent (`none`: a local empty map)
  vs given (`some m`); the two weak translators with their ONE counter (`TrSt`, `tr1`, threaded through `trList`,
  `trTuples`, the `Apply1` traversal `rewrite` – low subtree before high subtree – and the table loops
  `reindexLoopTD` / `reindexLoopBU`, which call `SetMtbdd` = REPLACE); the bottom-up iterator that yields the nullary pair
  first, the second rewriting of the nullary MTBDD and the final `SetMtbdd(StateTuple(), unionFunc(lhsMtbdd, rhsMtbdd))`;
  final states translated after the table.  `UnionDisjointStates` with distinct tables: `result = lhs` (result on the table
  object of `lhs`), the entries of `rhs` written over it.
* The counter: `StateType stateCnt = 0;` – `tdUnion` / `buUnion` are `tdUnionFrom 0` / `buUnionFrom 0`.  (The explicit
  encoding starts ABOVE the numbers in the given maps since repair D11; the BDD encodings do not – see the FINDING below.)
* Abstracted: the leaf cache of `Apply1Functor` (unobservable: `tr1_known`), hash iteration orders (list orders; no theorem
  depends on them), table entries read by `GetMtbdd(key)` instead of the iterator's `second`, the copy-on-write plumbing
  (`Vata/BddShare.lean`).  State numbers are unbounded `Nat`.

## FINDING (candidate defect, same kind as D11 / D19)

`BDDTDTreeAutCore::Union` and `BDDBUTreeAutCore::Union` are public through `BDDTopDownTreeAut::Union` /
`BDDBottomUpTreeAut::Union` with caller-supplied `pTranslMapLhs` / `pTranslMapRhs`, and start `stateCnt` at `0` whatever the
maps contain.  With a pre-filled map the fresh numbers collide with the given ones: `C08_union_coded_prefilled_maps_wrong`
(top-down: the colliding `SetMtbdd` even REPLACES an entry, the result accepts a tree outside both languages and rejects one
inside; bottom-up: accepts a tree outside both).  Starting the counter above the numbers of the maps repairs it
(`C08_union_coded_maps` with `Below`).
-/
namespace Vata.Props
open Vata.M Vata.BddAbs Vata.BddAbsTD Vata.BddUnionCoded Vata.Um

/-! ### examples used below -/
namespace UnionCodedEx

def syms : List Nat := [0, 1, 2]
def lf (f : Nat) : Tree := .node f []
def un (f : Nat) (t : Tree) : Tree := .node f [t]

/-- `a → 1`, `h(1) → 2`, final `2`; and `b → 1`, `h(1) → 2`, final `2`: the SAME state numbers, distinct table objects -/
def tdA : AutTD := ⟨1, ofRulesTD [⟨0, [], 1⟩, ⟨2, [1], 2⟩], [2]⟩
def tdB : AutTD := ⟨2, ofRulesTD [⟨1, [], 1⟩, ⟨2, [1], 2⟩], [2]⟩
def buA : AutBU := ⟨1, ofRules [⟨0, [], 1⟩, ⟨2, [1], 2⟩], [2]⟩
def buB : AutBU := ⟨2, ofRules [⟨1, [], 1⟩, ⟨2, [1], 2⟩], [2]⟩

/-- two bottom-up handles on ONE table object (`h(1) → 3`, `h(2) → 4`) with own leaf rules `a → 1` / `b → 2` and own final
states `3` / `4`: `L = {h(a)}` and `L = {h(b)}` -/
def shL : AutBU := ⟨5, ofRules [⟨0, [], 1⟩, ⟨2, [1], 3⟩, ⟨2, [2], 4⟩], [3]⟩
def shR : AutBU := ⟨5, ⟨(ofRules [⟨1, [], 2⟩]).nullary, shL.T.entries⟩, [4]⟩

def showR (A : TA) : List (Nat × List Nat × Nat) × List Nat := (A.rules.map (fun r => (r.sym, r.kids, r.parent)), A.final)

/-- `Union` as coded on `tdA`, `tdB` (the run, evaluated once; quoted below and in `C20_Models`): the same numbers `1`, `2` in
both operands are renumbered apart (`0 … 3`) -/
theorem tdUnion_run :
    showR ((tdUnion 9 tdA tdB none none).1.abs syms) = ([(1, [], 3), (2, [3], 2), (0, [], 1), (2, [1], 0)], [0, 2]) ∧
    (tdUnion 9 tdA tdB none none).2 = ([(2, 0), (1, 1)], [(2, 2), (1, 3)]) := by decide +kernel

end UnionCodedEx
open UnionCodedEx

/-! ## `Union`, any start value of the counter, any given maps -/

/-- **Both encodings, exactness from the maps the call leaves behind.**  Distinct table objects; whatever the counter start
`c0` and the given maps: if the FINAL maps (second and third component of the result; executable checks `smapInjB`,
`smapDisjB`) are injective and share no number, then the dump of the result is, as a set of rules and final states,
`unionWith` of the dumps of the operands under the final maps, it accepts exactly `L(lhs) ∪ L(rhs)`, and the final maps are
defined on every state number of their operand -/
theorem C08_union_coded_lang_of_final_maps (c0 fresh : Nat) (syms : List Nat) (oL oR : Option SMap) :
    (∀ (lhs rhs : AutTD), lhs.tid ≠ rhs.tid →
      Inj (tdUnionFrom c0 fresh lhs rhs oL oR).2.1 → Inj (tdUnionFrom c0 fresh lhs rhs oL oR).2.2 →
      Disj (tdUnionFrom c0 fresh lhs rhs oL oR).2.1 (tdUnionFrom c0 fresh lhs rhs oL oR).2.2 →
      SetEqTA ((tdUnionFrom c0 fresh lhs rhs oL oR).1.abs syms)
        (unionWith (applyMap (tdUnionFrom c0 fresh lhs rhs oL oR).2.1) (applyMap (tdUnionFrom c0 fresh lhs rhs oL oR).2.2)
          (lhs.abs syms) (rhs.abs syms)) ∧
      (∀ t, accepts ((tdUnionFrom c0 fresh lhs rhs oL oR).1.abs syms) t =
        (accepts (lhs.abs syms) t || accepts (rhs.abs syms) t)) ∧
      (∀ q, q ∈ lhs.allStates → ∃ n, (tdUnionFrom c0 fresh lhs rhs oL oR).2.1.lookup q = some n) ∧
      (∀ q, q ∈ rhs.allStates → ∃ n, (tdUnionFrom c0 fresh lhs rhs oL oR).2.2.lookup q = some n)) ∧
    (∀ (lhs rhs : AutBU), lhs.tid ≠ rhs.tid →
      Inj (buUnionFrom c0 fresh lhs rhs oL oR).2.1 → Inj (buUnionFrom c0 fresh lhs rhs oL oR).2.2 →
      Disj (buUnionFrom c0 fresh lhs rhs oL oR).2.1 (buUnionFrom c0 fresh lhs rhs oL oR).2.2 →
      SetEqTA ((buUnionFrom c0 fresh lhs rhs oL oR).1.abs syms)
        (unionWith (applyMap (buUnionFrom c0 fresh lhs rhs oL oR).2.1) (applyMap (buUnionFrom c0 fresh lhs rhs oL oR).2.2)
          (lhs.abs syms) (rhs.abs syms)) ∧
      (∀ t, accepts ((buUnionFrom c0 fresh lhs rhs oL oR).1.abs syms) t =
        (accepts (lhs.abs syms) t || accepts (rhs.abs syms) t)) ∧
      (∀ q, q ∈ lhs.allStates → ∃ n, (buUnionFrom c0 fresh lhs rhs oL oR).2.1.lookup q = some n) ∧
      (∀ q, q ∈ rhs.allStates → ∃ n, (buUnionFrom c0 fresh lhs rhs oL oR).2.2.lookup q = some n)) :=
  ⟨fun lhs rhs hne => (tdUnionRun c0 fresh lhs rhs oL oR syms hne).exact,
   fun lhs rhs hne => (buUnionRun c0 fresh lhs rhs oL oR syms hne).exact⟩

example : tdA.tid ≠ tdB.tid ∧ smapInjB (tdUnion 9 tdA tdB none none).2.1 = true ∧
    smapInjB (tdUnion 9 tdA tdB none none).2.2 = true ∧
    smapDisjB (tdUnion 9 tdA tdB none none).2.1 (tdUnion 9 tdA tdB none none).2.2 = true := by
  rw [tdUnion_run.2]; decide

/-- **Both encodings, given maps with a counter above them** (what the code would be after the repair that D11 made in the
explicit encoding): when the given maps are injective, share no number, and all their numbers are below the start value
`c0` of the counter (`Below`; for absent or empty maps every `c0`, in particular the coded `0`, qualifies), the final maps are
injective, share no number and extend the given maps – the hypotheses of `C08_union_coded_lang_of_final_maps` are DERIVED
from the renumbering – and the result accepts exactly `L(lhs) ∪ L(rhs)`, for ALL operands (overlapping state numbers
included) -/
theorem C08_union_coded_maps (c0 fresh : Nat) (syms : List Nat) (oL oR : Option SMap)
    (hbL : Below (oL.getD []) c0) (hbR : Below (oR.getD []) c0)
    (hL : Inj (oL.getD [])) (hR : Inj (oR.getD [])) (hD : Disj (oL.getD []) (oR.getD [])) :
    (∀ (lhs rhs : AutTD), lhs.tid ≠ rhs.tid →
      (Inj (tdUnionFrom c0 fresh lhs rhs oL oR).2.1 ∧ Inj (tdUnionFrom c0 fresh lhs rhs oL oR).2.2 ∧
        Disj (tdUnionFrom c0 fresh lhs rhs oL oR).2.1 (tdUnionFrom c0 fresh lhs rhs oL oR).2.2 ∧
        Ext (oL.getD []) (tdUnionFrom c0 fresh lhs rhs oL oR).2.1 ∧ Ext (oR.getD []) (tdUnionFrom c0 fresh lhs rhs oL oR).2.2) ∧
      ∀ t, accepts ((tdUnionFrom c0 fresh lhs rhs oL oR).1.abs syms) t =
        (accepts (lhs.abs syms) t || accepts (rhs.abs syms) t)) ∧
    (∀ (lhs rhs : AutBU), lhs.tid ≠ rhs.tid →
      (Inj (buUnionFrom c0 fresh lhs rhs oL oR).2.1 ∧ Inj (buUnionFrom c0 fresh lhs rhs oL oR).2.2 ∧
        Disj (buUnionFrom c0 fresh lhs rhs oL oR).2.1 (buUnionFrom c0 fresh lhs rhs oL oR).2.2 ∧
        Ext (oL.getD []) (buUnionFrom c0 fresh lhs rhs oL oR).2.1 ∧ Ext (oR.getD []) (buUnionFrom c0 fresh lhs rhs oL oR).2.2) ∧
      ∀ t, accepts ((buUnionFrom c0 fresh lhs rhs oL oR).1.abs syms) t =
        (accepts (lhs.abs syms) t || accepts (rhs.abs syms) t)) := by
  refine ⟨fun lhs rhs hne => ?_, fun lhs rhs hne => ?_⟩
  · have h := tdUnionRun c0 fresh lhs rhs oL oR syms hne
    have m := h.maps_ok hbL hbR hL hR hD
    exact ⟨m, (h.exact m.1 m.2.1 m.2.2.1).2.1⟩
  · have h := buUnionRun c0 fresh lhs rhs oL oR syms hne
    have m := h.maps_ok hbL hbR hL hR hD
    exact ⟨m, (h.exact m.1 m.2.1 m.2.2.1).2.1⟩

-- a pre-filled map `2 ↦ 0` with the counter started at `1`: the hypotheses hold, and the result is right
example : Below ((some [(2, 0)] : Option SMap).getD []) 1 ∧ Inj ((some [(2, 0)] : Option SMap).getD []) :=
  ⟨fun p n h => by
      have := mem_of_lookup h
      simp at this; omega,
   smapInjB_sound (by decide)⟩
example : showR ((tdUnionFrom 1 9 tdA tdB (some [(2, 0)]) none).1.abs syms) =
    ([(1, [], 3), (2, [3], 2), (0, [], 1), (2, [1], 0)], [0, 2]) := by decide +kernel

/-- **FINDING: `Union` as coded (`stateCnt = 0`) with a pre-filled map is wrong, in both encodings.**  Operands `tdA`/`buA`
(`L = {h(a)}`) and `tdB`/`buB` (`L = {h(b)}`), left map pre-filled with `2 ↦ 0`.  The fresh number `0` is handed to state `1`
as well.  Top-down: the second `SetMtbdd(0, …)` REPLACES the entry of the first; the result accepts `a` (in neither
language) and rejects `h(a)`.  Bottom-up: the result accepts `h(h(a))` (in neither language).  The final left map is not
injective (the hypothesis of `C08_union_coded_lang_of_final_maps` that fails), and `Below` fails for `c0 = 0` -/
theorem C08_union_coded_prefilled_maps_wrong :
    (accepts ((tdUnion 9 tdA tdB (some [(2, 0)]) none).1.abs syms) (lf 0) = true ∧
      accepts (tdA.abs syms) (lf 0) = false ∧ accepts (tdB.abs syms) (lf 0) = false ∧
      accepts ((tdUnion 9 tdA tdB (some [(2, 0)]) none).1.abs syms) (un 2 (lf 0)) = false ∧
      accepts (tdA.abs syms) (un 2 (lf 0)) = true) ∧
    (accepts ((buUnion 9 buA buB (some [(2, 0)]) none).1.abs syms) (un 2 (un 2 (lf 0))) = true ∧
      accepts (buA.abs syms) (un 2 (un 2 (lf 0))) = false ∧ accepts (buB.abs syms) (un 2 (un 2 (lf 0))) = false) ∧
    smapInjB (tdUnion 9 tdA tdB (some [(2, 0)]) none).2.1 = false ∧
    smapInjB (buUnion 9 buA buB (some [(2, 0)]) none).2.1 = false := by decide +kernel

/-! ## `Union` as coded, maps absent or empty -/

/-- **Top-down `Union` as coded** (`stateCnt = 0`; maps absent or empty; `SameTD`: two handles on one table object see one
value).  For ALL operands – overlapping state numbers included – the dump of the result accepts exactly `L(lhs) ∪ L(rhs)`.
With distinct table objects moreover: the result sits on the fresh table (the operands' tables are not written), its dump is
`unionWith` of the operands' dumps under the returned maps, which are injective with disjoint images and defined on every
state number of their operand -/
theorem C08_td_union_coded_lang (fresh : Nat) (lhs rhs : AutTD) (oL oR : Option SMap) (syms : List Nat)
    (hs : SameTD lhs rhs) (hoL : oL.getD [] = []) (hoR : oR.getD [] = []) :
    (∀ t, accepts ((tdUnion fresh lhs rhs oL oR).1.abs syms) t = (accepts (lhs.abs syms) t || accepts (rhs.abs syms) t)) ∧
    (lhs.tid ≠ rhs.tid →
      (tdUnion fresh lhs rhs oL oR).1.tid = fresh ∧
      SetEqTA ((tdUnion fresh lhs rhs oL oR).1.abs syms)
        (unionWith (applyMap (tdUnion fresh lhs rhs oL oR).2.1) (applyMap (tdUnion fresh lhs rhs oL oR).2.2)
          (lhs.abs syms) (rhs.abs syms)) ∧
      Inj (tdUnion fresh lhs rhs oL oR).2.1 ∧ Inj (tdUnion fresh lhs rhs oL oR).2.2 ∧
      Disj (tdUnion fresh lhs rhs oL oR).2.1 (tdUnion fresh lhs rhs oL oR).2.2 ∧
      (∀ q, q ∈ lhs.allStates → ∃ n, (tdUnion fresh lhs rhs oL oR).2.1.lookup q = some n) ∧
      (∀ q, q ∈ rhs.allStates → ∃ n, (tdUnion fresh lhs rhs oL oR).2.2.lookup q = some n)) := by
  have full : lhs.tid ≠ rhs.tid → _ := fun hne =>
    let h := (tdUnionRun 0 fresh lhs rhs oL oR syms hne).maps_ok (hoL.symm ▸ below_nil 0) (hoR.symm ▸ below_nil 0)
      (hoL.symm ▸ inj_nil) (hoR.symm ▸ inj_nil) (hoL.symm ▸ disj_nil_left _)
    And.intro h ((tdUnionRun 0 fresh lhs rhs oL oR syms hne).exact h.1 h.2.1 h.2.2.1)
  refine ⟨fun t => ?_, fun hne => ?_⟩
  · by_cases hne : lhs.tid = rhs.tid
    · have e : (tdUnion fresh lhs rhs oL oR).1 = ⟨lhs.tid, lhs.T, lhs.fin ++ rhs.fin⟩ := by
        unfold tdUnion tdUnionFrom; rw [if_pos hne]
      rw [e]
      exact tdShared_lang syms lhs rhs (hs hne) t
    · exact (full hne).2.2.1 t
  · obtain ⟨h, h'⟩ := full hne
    exact ⟨congrArg AutTD.tid (tdUnionFrom_result 0 fresh lhs rhs oL oR hne), h'.1, h.1, h.2.1, h.2.2.1, h'.2.2.1, h'.2.2.2⟩

example : SameTD tdA tdB ∧ (none : Option SMap).getD [] = [] ∧ tdA.tid ≠ tdB.tid :=
  ⟨fun h => absurd h (by decide), rfl, by decide⟩
example : showR ((tdUnion 9 tdA tdB none none).1.abs syms) = ([(1, [], 3), (2, [3], 2), (0, [], 1), (2, [1], 0)], [0, 2]) ∧
    (tdUnion 9 tdA tdB none none).2 = ([(2, 0), (1, 1)], [(2, 2), (1, 3)]) := tdUnion_run

/-- **Bottom-up `Union` as coded** (`stateCnt = 0`; maps absent or empty).  Distinct table objects: for ALL operands –
overlapping state numbers included – the dump of the result accepts exactly `L(lhs) ∪ L(rhs)`, the result sits on the fresh
table, its dump is `unionWith` of the operands' dumps under the returned maps, which are injective with disjoint images and
total.  Same table object (handles seeing the same entries, `SameBU`): exactly the union under clause S of `BddShare.pre`
(`sharedClauseS`: every final state is a final state of one operand that the leaf rules only the OTHER operand has cannot
influence) – necessary in general, see `C08_bu_shared_clauseS_needed` -/
theorem C08_bu_union_coded_lang (fresh : Nat) (lhs rhs : AutBU) (oL oR : Option SMap) (syms : List Nat)
    (hs : SameBU lhs rhs) (hS : lhs.tid = rhs.tid → sharedClauseS syms lhs rhs = true)
    (hoL : oL.getD [] = []) (hoR : oR.getD [] = []) :
    (∀ t, accepts ((buUnion fresh lhs rhs oL oR).1.abs syms) t = (accepts (lhs.abs syms) t || accepts (rhs.abs syms) t)) ∧
    (lhs.tid ≠ rhs.tid →
      (buUnion fresh lhs rhs oL oR).1.tid = fresh ∧
      SetEqTA ((buUnion fresh lhs rhs oL oR).1.abs syms)
        (unionWith (applyMap (buUnion fresh lhs rhs oL oR).2.1) (applyMap (buUnion fresh lhs rhs oL oR).2.2)
          (lhs.abs syms) (rhs.abs syms)) ∧
      Inj (buUnion fresh lhs rhs oL oR).2.1 ∧ Inj (buUnion fresh lhs rhs oL oR).2.2 ∧
      Disj (buUnion fresh lhs rhs oL oR).2.1 (buUnion fresh lhs rhs oL oR).2.2 ∧
      (∀ q, q ∈ lhs.allStates → ∃ n, (buUnion fresh lhs rhs oL oR).2.1.lookup q = some n) ∧
      (∀ q, q ∈ rhs.allStates → ∃ n, (buUnion fresh lhs rhs oL oR).2.2.lookup q = some n)) := by
  have full : lhs.tid ≠ rhs.tid → _ := fun hne =>
    let h := (buUnionRun 0 fresh lhs rhs oL oR syms hne).maps_ok (hoL.symm ▸ below_nil 0) (hoR.symm ▸ below_nil 0)
      (hoL.symm ▸ inj_nil) (hoR.symm ▸ inj_nil) (hoL.symm ▸ disj_nil_left _)
    And.intro h ((buUnionRun 0 fresh lhs rhs oL oR syms hne).exact h.1 h.2.1 h.2.2.1)
  refine ⟨fun t => ?_, fun hne => ?_⟩
  · by_cases hne : lhs.tid = rhs.tid
    · have e : (buUnion fresh lhs rhs oL oR).1 = buShared lhs rhs := by
        unfold buUnion buUnionFrom; rw [if_pos hne]
      rw [e]
      exact buShared_lang syms lhs rhs (hs hne) (hS hne) t
    · exact (full hne).2.2.1 t
  · obtain ⟨h, h'⟩ := full hne
    exact ⟨congrArg AutBU.tid (buUnionFrom_result 0 fresh lhs rhs oL oR hne), h'.1, h.1, h.2.1, h.2.2.1, h'.2.2.1, h'.2.2.2⟩

example : SameBU buA buB ∧ buA.tid ≠ buB.tid ∧ SameBU shL shR ∧ shL.tid = shR.tid ∧ sharedClauseS syms shL shR = true :=
  -- the entries of `shR` are those of `shL` by definition, but the kernel evaluates both sides to see it: `rfl` costs it
  -- many times what deciding the equation does
  ⟨fun h => absurd h (by decide), by decide, fun _ => by decide +kernel, rfl, by decide +kernel⟩
example : showR ((buUnion 9 buA buB none none).1.abs syms) = ([(0, [], 0), (1, [], 2), (2, [2], 3), (2, [0], 1)], [1, 3]) ∧
    (buUnion 9 buA buB none none).2 = ([(1, 0), (2, 1)], [(1, 2), (2, 3)]) ∧
    showR ((buUnion 9 shL shR none none).1.abs syms) = ([(0, [], 1), (1, [], 2), (2, [2], 4), (2, [1], 3)], [3, 4]) := by
  decide +kernel

/-! ## `UnionDisjointStates` as coded -/

/-- **Top-down `UnionDisjointStates` as coded.**  Same table object: exactly the union.  Distinct table objects: under
state-disjointness – no state NUMBER of `lhs` (keys of its table, also of entries whose MTBDD has only empty leaves; leaves;
final states: `allStates`) occurs in `rhs` – exactly the union; the disjointness of the table keys that `absTD_unionDisj`
assumes is derived from it.  The result sits on the table object of `lhs`, which is written in place: the entries at the keys
of `lhs` keep their values (second component; what other handles on that table then denote is `C08_sharing_*`) -/
theorem C08_td_uniondisj_coded_lang (lhs rhs : AutTD) (syms : List Nat) (hs : SameTD lhs rhs)
    (hdis : lhs.tid ≠ rhs.tid → ∀ q, q ∈ lhs.allStates → q ∉ rhs.allStates) :
    (∀ t, accepts ((tdUnionDisj lhs rhs).abs syms) t = (accepts (lhs.abs syms) t || accepts (rhs.abs syms) t)) ∧
    (tdUnionDisj lhs rhs).tid = lhs.tid ∧
    (lhs.tid ≠ rhs.tid → ∀ p, p ∈ keysTD lhs.T → getTD (tdUnionDisj lhs rhs).T p = getTD lhs.T p) := by
  refine ⟨fun t => ?_, by unfold tdUnionDisj; split <;> rfl, fun hne p hp => ?_⟩
  · by_cases hne : lhs.tid = rhs.tid
    · have e : tdUnionDisj lhs rhs = ⟨lhs.tid, lhs.T, lhs.fin ++ rhs.fin⟩ := by unfold tdUnionDisj; rw [if_pos hne]
      rw [e]
      exact tdShared_lang syms lhs rhs (hs hne) t
    · have e : tdUnionDisj lhs rhs = ⟨lhs.tid, unionDisjTD lhs.T rhs.T, lhs.fin ++ rhs.fin⟩ := by
        unfold tdUnionDisj; rw [if_neg hne]; rfl
      rw [e]
      have hk := keys_disj_of_states_TD lhs rhs (hdis hne)
      have hse := absTD_unionDisj_setEq syms lhs.T rhs.T lhs.fin rhs.fin hk
      show accepts (absTD syms (unionDisjTD lhs.T rhs.T) (lhs.fin ++ rhs.fin)) t = _
      rw [hse.lang t]
      exact unionDisjoint_lang _ _ (fun q h1 h2 => hdis hne q (abs_states_sub_TD syms lhs h1) (abs_states_sub_TD syms rhs h2)) t
  · have e : (tdUnionDisj lhs rhs).T = unionDisjTD lhs.T rhs.T := by unfold tdUnionDisj; rw [if_neg hne]; rfl
    rw [e, getTD_unionDisjTD, if_neg (keys_disj_of_states_TD lhs rhs (hdis hne) p hp)]

/-- `tdB` renumbered apart from `tdA` by hand -/
def UnionCodedEx.tdB' : AutTD := ⟨2, ofRulesTD [⟨1, [], 11⟩, ⟨2, [11], 12⟩], [12]⟩

example : SameTD tdA tdB' ∧ (tdA.tid ≠ tdB'.tid → ∀ q, q ∈ tdA.allStates → q ∉ tdB'.allStates) :=
  ⟨fun h => absurd h (by decide), fun _ => by decide +kernel⟩

/-- the hypothesis speaks of `allStates`, not of the states of the dumps, for a reason: a key whose MTBDD has only empty
leaves is invisible in the dump but REPLACES the entry of the left operand.  `tdA` and the rule-less handle with the entry
`2 ↦ leaf ∅`: the dumps have disjoint states, the result loses `h(1) → 2` and rejects `h(a)` -/
theorem C08_td_uniondisj_empty_entry_overwrites :
    (∀ q, q ∈ (tdA.abs syms).states → q ∉ ((⟨2, [(2, .leaf [])], []⟩ : AutTD).abs syms).states) ∧
    accepts (tdA.abs syms) (un 2 (lf 0)) = true ∧
    accepts ((tdUnionDisj tdA ⟨2, [(2, .leaf [])], []⟩).abs syms) (un 2 (lf 0)) = false := by decide +kernel

/-- **Bottom-up `UnionDisjointStates` as coded.**  Distinct table objects: under state-disjointness (`allStates`: key tuples,
leaves, final states) exactly the union – the disjointness of the tuple keys that `absBU_unionDisj` assumes is derived –; the
result sits on the table object of `lhs`, whose entries at the keys of `lhs` keep their values.  Same table object: exactly
the union under clause S (`sharedClauseS`) -/
theorem C08_bu_uniondisj_coded_lang (lhs rhs : AutBU) (syms : List Nat) (hs : SameBU lhs rhs)
    (hS : lhs.tid = rhs.tid → sharedClauseS syms lhs rhs = true)
    (hdis : lhs.tid ≠ rhs.tid → ∀ q, q ∈ lhs.allStates → q ∉ rhs.allStates) :
    (∀ t, accepts ((buUnionDisj lhs rhs).abs syms) t = (accepts (lhs.abs syms) t || accepts (rhs.abs syms) t)) ∧
    (buUnionDisj lhs rhs).tid = lhs.tid ∧
    (lhs.tid ≠ rhs.tid → ∀ k, k ∈ lhs.T.keys → k ≠ [] → (buUnionDisj lhs rhs).T.get k = lhs.T.get k) := by
  refine ⟨fun t => ?_, by unfold buUnionDisj; split <;> rfl, fun hne k hk hk0 => ?_⟩
  · by_cases hne : lhs.tid = rhs.tid
    · have e : buUnionDisj lhs rhs = buShared lhs rhs := by unfold buUnionDisj; rw [if_pos hne]
      rw [e]
      exact buShared_lang syms lhs rhs (hs hne) (hS hne) t
    · have hkd := keys_disj_of_states_BU lhs rhs (hdis hne)
      have hse := buUnionDisj_setEq syms lhs.T rhs.T lhs.fin rhs.fin hkd
      have e : (buUnionDisj lhs rhs).abs syms = absBU syms (((pairs rhs.T).foldl (fun R e => R.set e.1 (rhs.T.get e.1)) lhs.T).set []
          (apply2 unionS (lhs.T.get []) (rhs.T.get []))) (lhs.fin ++ rhs.fin) := by
        unfold buUnionDisj; rw [if_neg hne]; rfl
      rw [e, hse.lang t]
      exact unionDisjoint_lang _ _ (fun q h1 h2 => hdis hne q (abs_states_sub_BU syms lhs h1) (abs_states_sub_BU syms rhs h2)) t
  · have e : (buUnionDisj lhs rhs).T = ((pairs rhs.T).foldl (fun R e => R.set e.1 (rhs.T.get e.1)) lhs.T).set []
        (apply2 unionS (lhs.T.get []) (rhs.T.get [])) := by unfold buUnionDisj; rw [if_neg hne]
    rw [e, get_set, if_neg (fun e => hk0 e.symm), get_copyLoopBU, keys_eq_pairs,
      if_neg (fun h2 => hk0 (keys_disj_of_states_BU lhs rhs (hdis hne) k hk h2))]

/-- `buB` renumbered apart from `buA` by hand -/
def UnionCodedEx.buB' : AutBU := ⟨2, ofRules [⟨1, [], 11⟩, ⟨2, [11], 12⟩], [12]⟩

example : SameBU buA buB' ∧ (buA.tid ≠ buB'.tid → ∀ q, q ∈ buA.allStates → q ∉ buB'.allStates) :=
  ⟨fun h => absurd h (by decide), fun _ => by decide +kernel⟩
example : showR ((buUnionDisj buA buB').abs syms) = ([(0, [], 1), (1, [], 11), (2, [11], 12), (2, [1], 2)], [2, 12]) := by
  decide +kernel

/-! ## regression: the shared-table branch of the bottom-up unions -/

/-- **Defect D16 (repaired by a5b49300) and a seeded sibling.**  `shL` (`L = {h(a)}`) and `shR` (`L = {h(b)}`) are two views
of one table; clause S holds.  The coded branch accepts `h(a)` and `h(b)`.  The branch before the repair (`buSharedD16`:
final states of the right operand forgotten) and the variant that forgets the right operand's nullary rules
(`buSharedNoNullary`) both REJECT `h(b)` – a wrong language -/
theorem C08_bu_shared_branch_regression :
    sharedClauseS syms shL shR = true ∧ accepts (shR.abs syms) (un 2 (lf 1)) = true ∧
    accepts ((buShared shL shR).abs syms) (un 2 (lf 1)) = true ∧ accepts ((buShared shL shR).abs syms) (un 2 (lf 0)) = true ∧
    accepts ((buSharedD16 shL shR).abs syms) (un 2 (lf 1)) = false ∧
    accepts ((buSharedNoNullary shL shR).abs syms) (un 2 (lf 1)) = false := by decide +kernel

/-- clause S cannot be dropped from the shared bottom-up branch: the left view has the leaf rule `a → 1` and the final state
`4`, the right view the leaf rule `b → 2` and the final state `3`; neither accepts anything, the union of the views accepts
`h(a)` and `h(b)` -/
theorem C08_bu_shared_clauseS_needed :
    let l : AutBU := ⟨5, shL.T, [4]⟩
    let r : AutBU := ⟨5, shR.T, [3]⟩
    SameBU l r ∧ sharedClauseS syms l r = false ∧
    accepts (l.abs syms) (un 2 (lf 0)) = false ∧ accepts (r.abs syms) (un 2 (lf 0)) = false ∧
    accepts ((buShared l r).abs syms) (un 2 (lf 0)) = true :=
  ⟨fun _ => by decide +kernel, by decide +kernel⟩

/-!
## still not proved

* **Numbers, not sets.**  The NUMBERS the translators hand out depend on the iteration orders of the hash maps (list order
  here); the theorems hold for every order, the concrete maps of the examples only for the list order.
* **The leaf cache of `Apply1Functor`** and the `ApplyOperation` on the default value are not modelled (`tr1_known`: a repeated
  call for a known state changes nothing, so no translator state can differ; the MTBDD-node level is `Vata/ApplyMemo*.lean`).
* **In-place write of `UnionDisjointStates`.**  The theorems give the value of the result and that the entries at the keys of
  `lhs` are kept; what every OTHER live handle on the table object of `lhs` denotes afterwards (clauses T, A, H of
  `BddShare.pre`) is proved at the abstraction of rule lists in `C08_sharing_history` / `C08_sharing_isolation`, not
  re-derived for MTBDD tables.  `SameTD` / `SameBU` (handles on one object see one value) are hypotheses here – they are the
  heap invariant of that model.
* **Shared branch with caller-supplied maps**: the maps are left untouched by the code (not filled with an identity), so a
  caller that reads them gets no translation for the result's states – modelled (`tdUnionFrom`, `buUnionFrom` return the given
  maps) but no theorem states a use of it.
* **The pre-filled-map finding** (`C08_union_coded_prefilled_maps_wrong`) is a statement about the model; that the real
  library shows the same behaviour has to be confirmed by the correspondence check (function to call: see below).
* Symbols `≥ 2^16`, arities `≥ 64`: as in `C08.lean` (the theorems here are about arbitrary tables and dictionaries `syms`, no
  such hypothesis is needed at this level).
-/
end Vata.Props
