import Vata.ReduceModel
import Vata.Proofs.Equivariance
import Vata.Proofs.ContainerLemmas
/-!
# `Reduce` as coded: the quotient projection computed from the simulation (property C05)

Theorems about the model in `Vata/ReduceModel.lean` (`reduceModel A order`; `order[i]` is the state with index `i` in the
simulation matrix, hash order in the C++, a parameter here).  The collapse map that `RestrictToSymmetric` followed by
`GetQuotientProjection` computes from the simulation matrix is a quotient projection (`IsQuotProj`): the hypothesis of
`C05_reduce_lang`/`C05_quotient_size` is a theorem about the model, so `Reduce` keeps the language, never grows the
automaton, and its result does not depend on `order` up to renaming.  A variant that skips row `0` of the symmetric
restriction changes the language.

Everything holds for every `order` that is a permutation of `A.states`; the proofs only need that every state has an
index (`…_of_cover`).
-/
namespace Vata
namespace RM

def Square (n : Nat) (m : BMat) : Prop := m.length = n ∧ ∀ row, row ∈ m → row.length = n

theorem square_mset {n : Nat} {m : BMat} (h : Square n m) (i j : Nat) (v : Bool) : Square n (mset m i j v) := by
  refine ⟨by simp [mset, h.1], ?_⟩
  intro row hrow
  obtain ⟨a, ha⟩ := List.mem_iff_getElem?.mp hrow
  simp only [mset, List.getElem?_modify] at ha
  cases hm : m[a]? with
  | none => simp [hm] at ha
  | some r0 =>
    have hr0 := h.2 r0 (List.mem_iff_getElem?.mpr ⟨a, hm⟩)
    simp only [hm, Option.map_eq_map, Option.map_some, Option.some.injEq] at ha
    split at ha
    · rw [← ha, List.length_set]; exact hr0
    · rw [← ha]; exact hr0

theorem mget_mset {n : Nat} {m : BMat} (h : Square n m) {i j : Nat} (hi : i < n) (hj : j < n) (v : Bool) (a b : Nat) :
    mget (mset m i j v) a b = if a = i ∧ b = j then v else mget m a b := by
  simp only [mget, mset, List.getD_eq_getElem?_getD, List.getElem?_modify]
  cases hm : m[a]? with
  | none =>
    have : ¬ a = i := by
      intro e; rw [e] at hm
      have := List.getElem?_eq_none_iff.mp hm
      rw [h.1] at this; omega
    simp [this]
  | some r0 =>
    have hr0 := h.2 r0 (List.mem_iff_getElem?.mpr ⟨a, hm⟩)
    simp only [Option.map_eq_map, Option.map_some, Option.getD_some]
    by_cases hai : i = a
    · simp only [hai, if_true, List.getElem?_set, true_and]
      by_cases hbj : j = b
      · subst hbj; simp [hr0, hj]
      · have : ¬ b = j := fun e => hbj e.symm
        simp [hbj, this]
    · have : ¬ a = i := fun e => hai e.symm
      simp [hai, this]

theorem square_relMatrix (R : Rel) (order : List Nat) : Square order.length (relMatrix R order) := by
  refine ⟨by simp [relMatrix], ?_⟩
  intro row hrow
  simp only [relMatrix, List.mem_map] at hrow
  obtain ⟨p, _, hp⟩ := hrow
  rw [← hp, List.length_map]

theorem mget_relMatrix (R : Rel) (order : List Nat) {i j : Nat} (hi : i < order.length) (hj : j < order.length) :
    mget (relMatrix R order) i j = R.contains (order.getD i 0, order.getD j 0) := by
  simp [mget, relMatrix, List.getD_eq_getElem?_getD, List.getElem?_map, List.getElem?_eq_getElem hi,
    List.getElem?_eq_getElem hj]

def symOf (m0 : BMat) (a b : Nat) : Bool := mget m0 a b && mget m0 b a

theorem symOf_comm (m0 : BMat) (a b : Nat) : symOf m0 a b = symOf m0 b a := by
  simp only [symOf, Bool.and_comm]

/-- loop invariant: the matrix is square and every entry is either the original one or already the symmetric part -/
def SymInv (m0 : BMat) (n : Nat) (m : BMat) : Prop :=
  Square n m ∧ ∀ a b, mget m a b = mget m0 a b ∨ mget m a b = symOf m0 a b

theorem symStep_spec {m0 m : BMat} {n row col : Nat} (h : SymInv m0 n m) (hr : row < n) (hc : col < n) :
    Square n (symStep row m col) ∧
    ∀ a b, mget (symStep row m col) a b =
      if (a = row ∧ b = col) ∨ (a = col ∧ b = row) then symOf m0 row col else mget m a b := by
  have hres : (mget m row col && mget m col row) = symOf m0 row col := by
    have h1 := h.2 row col
    have h2 := h.2 col row
    rw [symOf_comm m0 col row] at h2
    simp only [symOf] at h1 h2 ⊢
    revert h1 h2
    cases mget m row col <;> cases mget m col row <;> cases mget m0 row col <;> cases mget m0 col row <;> simp
  refine ⟨square_mset (square_mset h.1 _ _ _) _ _ _, ?_⟩
  intro a b
  simp only [symStep]
  rw [mget_mset (square_mset h.1 _ _ _) hc hr, mget_mset h.1 hr hc, hres]
  by_cases h1 : a = col ∧ b = row
  · simp [h1]
  · by_cases h2 : a = row ∧ b = col
    · simp [h2]
    · simp [h1, h2]

theorem symStep_inv {m0 m : BMat} {n row col : Nat} (h : SymInv m0 n m) (hr : row < n) (hc : col < n) :
    SymInv m0 n (symStep row m col) := by
  obtain ⟨h1, h2⟩ := symStep_spec h hr hc
  refine ⟨h1, ?_⟩
  intro a b
  rw [h2]
  split
  · rename_i hab
    right
    rcases hab with ⟨ha, hb⟩ | ⟨ha, hb⟩
    · rw [ha, hb]
    · rw [ha, hb, symOf_comm]
  · exact h.2 a b

theorem symPairs_spec {m0 : BMat} {n : Nat} : ∀ (ps : List (Nat × Nat)) (m : BMat), SymInv m0 n m →
    (∀ p, p ∈ ps → p.1 < n ∧ p.2 < n) →
    SymInv m0 n (ps.foldl (fun m p => symStep p.1 m p.2) m) ∧
    (∀ p, p ∈ ps → mget (ps.foldl (fun m p => symStep p.1 m p.2) m) p.1 p.2 = symOf m0 p.1 p.2 ∧
      mget (ps.foldl (fun m p => symStep p.1 m p.2) m) p.2 p.1 = symOf m0 p.1 p.2) ∧
    (∀ a b, mget m a b = symOf m0 a b → mget (ps.foldl (fun m p => symStep p.1 m p.2) m) a b = symOf m0 a b)
  | [], m, h, _ => ⟨h, by simp, fun _ _ h => h⟩
  | p :: ps, m, h, hb => by
    have hp := hb p List.mem_cons_self
    have hinv := symStep_inv h hp.1 hp.2
    have hspec := (symStep_spec h hp.1 hp.2).2
    obtain ⟨i1, i2, i3⟩ := symPairs_spec ps (symStep p.1 m p.2) hinv (fun q hq => hb q (List.mem_cons_of_mem _ hq))
    simp only [List.foldl_cons]
    refine ⟨i1, ?_, ?_⟩
    · intro q hq
      rcases List.mem_cons.mp hq with hq | hq
      · rw [hq]
        refine ⟨?_, ?_⟩
        · apply i3; rw [hspec]; simp
        · rw [symOf_comm m0 p.1 p.2]; apply i3; rw [hspec, symOf_comm m0 p.2 p.1]; simp
      · exact i2 q hq
    · intro a b hab
      apply i3
      rw [hspec]
      split
      · rename_i hc
        rcases hc with ⟨ha, hb⟩ | ⟨ha, hb⟩
        · rw [ha, hb]
        · rw [ha, hb, symOf_comm]
      · exact hab

/-- the index pairs above the diagonal in the order of the two loops, rows from `lo` -/
def pairsFrom (lo n : Nat) : List (Nat × Nat) :=
  (List.range' lo (n - lo)).flatMap (fun row => (List.range' (row + 1) (n - (row + 1))).map (fun col => (row, col)))

theorem mem_pairsFrom {lo n : Nat} {p : Nat × Nat} : p ∈ pairsFrom lo n ↔ lo ≤ p.1 ∧ p.1 < p.2 ∧ p.2 < n := by
  simp only [pairsFrom, List.mem_flatMap, List.mem_map, List.mem_range'_1]
  constructor
  · rintro ⟨row, hrow, col, hcol, he⟩
    rw [← he]; simp only; omega
  · intro h
    exact ⟨p.1, by omega, p.2, by omega, rfl⟩

theorem rows_foldl_eq (n : Nat) (rows : List Nat) (m : BMat) :
    rows.foldl (symRow n) m =
      (rows.flatMap (fun row => (List.range' (row + 1) (n - (row + 1))).map (fun col => (row, col)))).foldl
        (fun m p => symStep p.1 m p.2) m := by
  rw [List.foldl_flatMap]
  congr 1
  funext m row
  rw [List.foldl_map]
  rfl

theorem restrictToSymmetric_eq (m : BMat) :
    restrictToSymmetric m = (pairsFrom 0 m.length).foldl (fun m p => symStep p.1 m p.2) m := by
  rw [restrictToSymmetric, List.range_eq_range', rows_foldl_eq]
  rfl

/-- `RestrictToSymmetric` on a square matrix: it stays square and every entry holds the symmetric part of the original
matrix (on the diagonal nothing is written, and `b && b = b`) -/
theorem restrictToSymmetric_full {n : Nat} {m : BMat} (h : Square n m) :
    Square n (restrictToSymmetric m) ∧
    ∀ r c, r < n → c < n → mget (restrictToSymmetric m) r c = (mget m r c && mget m c r) := by
  have hinv : SymInv m n m := ⟨h, fun _ _ => Or.inl rfl⟩
  have hb : ∀ p, p ∈ pairsFrom 0 m.length → p.1 < n ∧ p.2 < n := by
    intro p hp
    have := mem_pairsFrom.mp hp
    rw [h.1] at this; omega
  obtain ⟨i1, i2, i3⟩ := symPairs_spec (pairsFrom 0 m.length) m hinv hb
  rw [restrictToSymmetric_eq]
  refine ⟨i1.1, fun r c hr hc => ?_⟩
  rcases Nat.lt_trichotomy r c with hlt | heq | hgt
  · exact (i2 (r, c) (mem_pairsFrom.mpr ⟨Nat.zero_le _, hlt, by rw [h.1]; exact hc⟩)).1
  · subst heq
    have := i3 r r (by simp [symOf])
    rw [this]; rfl
  · have := (i2 (c, r) (mem_pairsFrom.mpr ⟨Nat.zero_le _, hgt, by rw [h.1]; exact hr⟩)).2
    rw [this, symOf, Bool.and_comm]

/-- above the diagonal (the only part `GetQuotientProjection` reads) and below it -/
theorem restrictToSymmetric_spec {n : Nat} {m : BMat} (h : Square n m) :
    Square n (restrictToSymmetric m) ∧
    ∀ r c, r < c → c < n → mget (restrictToSymmetric m) r c = (mget m r c && mget m c r) ∧
      mget (restrictToSymmetric m) c r = (mget m r c && mget m c r) :=
  ⟨(restrictToSymmetric_full h).1, fun r c hrc hc =>
    ⟨(restrictToSymmetric_full h).2 r c (Nat.lt_trans hrc hc) hc,
      ((restrictToSymmetric_full h).2 c r hc (Nat.lt_trans hrc hc)).trans (Bool.and_comm _ _)⟩⟩

/-- entry `i` of the vector `quotProj` (`none` = `UNDEF_PROJ`, also beyond the end) -/
def pget (proj : List (Option Nat)) (i : Nat) : Option Nat := proj.getD i none

theorem pget_set (proj : List (Option Nat)) (c : Nat) (v : Option Nat) (i : Nat) :
    pget (proj.set c v) i = if c = i ∧ c < proj.length then v else pget proj i :=
  getD_set proj c i v none

theorem pget_replicate (n i : Nat) : pget (List.replicate n none) i = none := by
  simp only [pget, List.getD_eq_getElem?_getD, List.getElem?_replicate]
  split <;> rfl

theorem pget_lt {proj : List (Option Nat)} {i k : Nat} (h : pget proj i = some k) : i < proj.length := by
  apply Classical.byContradiction
  intro hn
  have : proj[i]? = none := List.getElem?_eq_none_iff.mpr (by omega)
  simp [pget, List.getD_eq_getElem?_getD, this] at h

theorem qpStep_length (m : BMat) (row : Nat) (proj : List (Option Nat)) (col : Nat) :
    (qpStep m row proj col).length = proj.length := by
  unfold qpStep; split <;> simp

theorem qpCols_spec (m : BMat) (row : Nat) : ∀ (cols : List Nat) (proj : List (Option Nat)),
    (cols.foldl (qpStep m row) proj).length = proj.length ∧
    ∀ i, pget (cols.foldl (qpStep m row) proj) i =
      if i ∈ cols ∧ mget m row i = true ∧ i < proj.length then some row else pget proj i
  | [], proj => ⟨rfl, by simp⟩
  | c :: cols, proj => by
    obtain ⟨h1, h2⟩ := qpCols_spec m row cols (qpStep m row proj c)
    simp only [List.foldl_cons]
    refine ⟨by rw [h1, qpStep_length], ?_⟩
    intro i
    rw [h2, qpStep_length]
    have hstep : pget (qpStep m row proj c) i =
        if c = i ∧ mget m row c = true ∧ c < proj.length then some row else pget proj i := by
      unfold qpStep
      by_cases hg : mget m row c = true
      · simp [hg, pget_set]
      · simp [hg]
    rw [hstep]
    by_cases hi : i ∈ cols ∧ mget m row i = true ∧ i < proj.length
    · have : i ∈ c :: cols ∧ mget m row i = true ∧ i < proj.length := ⟨List.mem_cons_of_mem _ hi.1, hi.2⟩
      rw [if_pos hi, if_pos this]
    · rw [if_neg hi]
      by_cases hc : c = i
      · subst hc
        by_cases hg : mget m row c = true ∧ c < proj.length
        · rw [if_pos ⟨rfl, hg⟩, if_pos ⟨List.mem_cons_self, hg⟩]
        · rw [if_neg (fun h => hg h.2), if_neg (fun h => hg h.2)]
      · rw [if_neg (fun h => hc h.1), if_neg]
        intro h
        rcases List.mem_cons.mp h.1 with e | e
        · exact hc e.symm
        · exact hi ⟨e, h.2⟩

theorem qpRow_spec (m : BMat) (n : Nat) (proj : List (Option Nat)) (row : Nat) (hlen : proj.length = n) (hrow : row < n) :
    (qpRow m n proj row).length = n ∧
    ∀ i, pget (qpRow m n proj row) i =
      if pget proj row = none ∧ (i = row ∨ (row < i ∧ i < n ∧ mget m row i = true)) then some row else pget proj i := by
  unfold qpRow
  cases hp : pget proj row with
  | some k =>
    have : (proj.getD row none).isSome = true := by unfold pget at hp; rw [hp]; rfl
    rw [if_pos this]
    exact ⟨hlen, fun i => by simp⟩
  | none =>
    have : ¬ (proj.getD row none).isSome = true := by unfold pget at hp; rw [hp]; simp
    rw [if_neg this]
    obtain ⟨h1, h2⟩ := qpCols_spec m row (List.range' (row + 1) (n - (row + 1))) (proj.set row (some row))
    refine ⟨by rw [h1, List.length_set, hlen], ?_⟩
    intro i
    rw [h2, List.length_set, hlen, pget_set, hlen]
    simp only [List.mem_range'_1, true_and]
    by_cases hc : row < i ∧ i < n ∧ mget m row i = true
    · rw [if_pos ⟨by omega, hc.2.2, hc.2.1⟩, if_pos (Or.inr hc)]
    · rw [if_neg (fun h => hc ⟨by omega, h.2.2, h.2.1⟩)]
      by_cases hi : i = row
      · rw [if_pos ⟨hi.symm, hrow⟩, if_pos (Or.inl hi)]
      · rw [if_neg (fun h => hi h.1.symm), if_neg]
        rintro (h | h)
        · exact hi h
        · exact hc h

/-- what the loop needs of the matrix: above the diagonal it decides an equivalence `E` on the indices below `n` -/
structure IdxEquiv (m : BMat) (n : Nat) (E : Nat → Nat → Prop) : Prop where
  refl : ∀ i, E i i
  symm : ∀ i j, E i j → E j i
  trans : ∀ i j k, E i j → E j k → E i k
  dec : ∀ r c, r < c → c < n → (mget m r c = true ↔ E r c)

/-- invariant of the outer loop of `GetQuotientProjection` before row `r`, for ANY matrix: a defined entry names a head (an
index that is its own image) below `r` that is related to it; the entries below `r` are defined; an entry related to a
head has been claimed by that head or by a later one -/
structure QGen (b : BMat) (n r : Nat) (proj : List (Option Nat)) : Prop where
  len : proj.length = n
  rep : ∀ i k, pget proj i = some k → k < r ∧ k ≤ i ∧ pget proj k = some k ∧ (k = i ∨ (k < i ∧ mget b k i = true))
  done : ∀ i, i < r → i < n → pget proj i ≠ none
  claimed : ∀ k' i, pget proj k' = some k' → k' < i → i < n → mget b k' i = true →
    ∃ k, pget proj i = some k ∧ k' ≤ k ∧ k < i

theorem qgen_step {b : BMat} {n r : Nat} {proj : List (Option Nat)} (h : QGen b n r proj) (hr : r < n) :
    QGen b n (r + 1) (Vata.qpRow b n proj r) := by
  obtain ⟨hl, hs⟩ := qpRow_spec b n proj r h.len hr
  -- `W i`: the round writes entry `i`; it writes only if `r` has no image yet, and then `r` becomes a head that claims
  -- itself and the later columns of its row
  obtain ⟨W, hW⟩ : ∃ W : Nat → Prop, ∀ i, W i ↔ pget proj r = none ∧ (i = r ∨ (r < i ∧ i < n ∧ mget b r i = true)) :=
    ⟨_, fun _ => Iff.rfl⟩
  have hin : ∀ i, W i → pget (Vata.qpRow b n proj r) i = some r := fun i hi => by rw [hs, if_pos ((hW i).mp hi)]
  have hout : ∀ i, ¬ W i → pget (Vata.qpRow b n proj r) i = pget proj i :=
    fun i hi => by rw [hs, if_neg (fun x => hi ((hW i).mpr x))]
  have hlow : ∀ i, i < r → pget (Vata.qpRow b n proj r) i = pget proj i :=
    fun i hi => hout i fun x => ((hW i).mp x).2.elim (Nat.ne_of_lt hi) (fun x => Nat.lt_asymm hi x.1)
  have hheads : ∀ k', pget (Vata.qpRow b n proj r) k' = some k' →
      (k' = r ∧ pget proj r = none) ∨ (k' < r ∧ pget proj k' = some k') := by
    intro k' hk
    by_cases hs' : W k'
    · rw [hin k' hs'] at hk; exact Or.inl ⟨(Option.some.inj hk).symm, ((hW k').mp hs').1⟩
    · rw [hout k' hs'] at hk
      exact Or.inr ⟨(h.rep k' k' hk).1, hk⟩
  refine ⟨hl, fun i k hi => ?_, fun i hi hin' => ?_, fun k' i hk' h1 h2 h3 => ?_⟩
  · by_cases hs' : W i
    · rw [hin i hs'] at hi
      cases hi
      obtain ⟨hn, hd⟩ := (hW i).mp hs'
      exact ⟨Nat.lt_succ_self _, hd.elim (fun e => e ▸ Nat.le_refl _) (fun e => Nat.le_of_lt e.1),
        hin _ ((hW r).mpr ⟨hn, Or.inl rfl⟩), hd.imp Eq.symm (fun e => ⟨e.1, e.2.2⟩)⟩
    · rw [hout i hs'] at hi
      obtain ⟨r1, r2, r3, r4⟩ := h.rep i k hi
      exact ⟨Nat.lt_succ_of_lt r1, r2, (hlow k r1).trans r3, r4⟩
  · by_cases hs' : W i
    · rw [hin i hs']; exact nofun
    · rw [hout i hs']
      by_cases hir : i = r
      · exact fun e => hs' ((hW i).mpr ⟨hir ▸ e, Or.inl hir⟩)
      · exact h.done i (Nat.lt_of_le_of_ne (Nat.le_of_lt_succ hi) hir) hin'
  · by_cases hs' : W i
    · obtain ⟨hn, e | e⟩ := (hW i).mp hs'
      · rcases hheads k' hk' with ⟨e', _⟩ | ⟨_, e2⟩
        · exact absurd (e'.trans e.symm) (Nat.ne_of_lt h1)
        · obtain ⟨k, hk, _⟩ := h.claimed k' i e2 h1 h2 h3
          rw [e, hn] at hk
          exact nomatch hk
      · exact ⟨r, hin i hs', (hheads k' hk').elim (fun e' => e'.1 ▸ Nat.le_refl _) (fun e' => Nat.le_of_lt e'.1), e.1⟩
    · rw [hout i hs']
      rcases hheads k' hk' with ⟨e, hn⟩ | ⟨_, e2⟩
      · exact absurd ((hW i).mpr ⟨hn, Or.inr ⟨e ▸ h1, h2, e ▸ h3⟩⟩) hs'
      · exact h.claimed k' i e2 h1 h2 h3

theorem qgen_init (b : BMat) (n : Nat) : QGen b n 0 (List.replicate n none) :=
  ⟨List.length_replicate, fun i k h => by rw [pget_replicate] at h; exact (nomatch h),
    fun i h => absurd h (Nat.not_lt_zero _), fun k' i h => by rw [pget_replicate] at h; exact nomatch h⟩

theorem qgen_range (b : BMat) (n : Nat) : ∀ r, r ≤ n → QGen b n r ((List.range r).foldl (Vata.qpRow b n) (List.replicate n none))
  | 0, _ => qgen_init b n
  | r + 1, hr => by
    rw [List.range_succ, List.foldl_append]
    exact qgen_step (qgen_range b n r (Nat.le_of_succ_le hr)) hr

theorem quotientProjectionIdx_general (b : BMat) : QGen b b.length b.length (quotientProjectionIdx b) :=
  qgen_range b b.length b.length (Nat.le_refl _)

theorem quotientProjectionIdx_spec {m : BMat} {E : Nat → Nat → Prop} (hE : IdxEquiv m m.length E) :
    (quotientProjectionIdx m).length = m.length ∧
    (∀ i, i < m.length → ∃ k, pget (quotientProjectionIdx m) i = some k ∧ k ≤ i ∧ E k i) ∧
    (∀ i j, i < m.length → j < m.length → E i j → pget (quotientProjectionIdx m) i = pget (quotientProjectionIdx m) j) := by
  have g := quotientProjectionIdx_general m
  -- an image is a head related to its argument
  have img : ∀ i, i < m.length → ∃ k, pget (quotientProjectionIdx m) i = some k ∧ k ≤ i ∧ E k i ∧
      pget (quotientProjectionIdx m) k = some k := fun i hi => by
    cases hp : pget (quotientProjectionIdx m) i with
    | none => exact absurd hp (g.done i hi hi)
    | some k =>
      obtain ⟨_, r2, r3, r4⟩ := g.rep i k hp
      exact ⟨k, rfl, r2, r4.elim (fun e => e ▸ hE.refl k) (fun e => (hE.dec k i e.1 hi).1 e.2), r3⟩
  -- a head claims every later index related to it, so no later head is related to it: related heads are equal
  have heads : ∀ k k', pget (quotientProjectionIdx m) k = some k → pget (quotientProjectionIdx m) k' = some k' →
      k' < m.length → E k k' → ¬ k < k' := fun k k' hk hk' hn he hlt => by
    obtain ⟨k'', e, _, h2⟩ := g.claimed k k' hk hlt hn ((hE.dec k k' hlt hn).2 he)
    exact Nat.lt_irrefl k' (Option.some.inj (hk'.symm.trans e) ▸ h2)
  refine ⟨g.len, fun i hi => (img i hi).imp fun k h => ⟨h.1, h.2.1, h.2.2.1⟩, fun i j hi hj hij => ?_⟩
  obtain ⟨k, e1, l1, r1, h1⟩ := img i hi
  obtain ⟨k', e2, l2, r2, h2⟩ := img j hj
  have he : E k k' := hE.trans _ _ _ r1 (hE.trans _ _ _ hij (hE.symm _ _ r2))
  rw [e1, e2, Nat.le_antisymm (Nat.le_of_not_lt (heads k' k h2 h1 (Nat.lt_of_le_of_lt l1 hi) (hE.symm _ _ he)))
    (Nat.le_of_not_lt (heads k k' h1 h2 (Nat.lt_of_le_of_lt l2 hj) he))]

theorem lookup_zip_map (q : Nat) (g : Nat → Option Nat → Nat) : ∀ (l : List Nat) (vals : List (Option Nat)),
    vals.length = l.length → q ∈ l →
    ∃ i, l[i]? = some q ∧ List.lookup q ((l.zip vals).map (fun p => (p.1, g p.1 p.2))) = some (g q (pget vals i))
  | [], _, _, h => by cases h
  | x :: l, [], hl, _ => by simp at hl
  | x :: l, v :: vals, hl, h => by
    by_cases hx : q = x
    · refine ⟨0, by simp [hx], ?_⟩
      simp [hx, pget]
    · have hq : q ∈ l := by
        rcases List.mem_cons.mp h with e | e
        · exact absurd e hx
        · exact e
      obtain ⟨i, h1, h2⟩ := lookup_zip_map q g l vals (by simpa using hl) hq
      refine ⟨i + 1, by simpa using h1, ?_⟩
      have hb : (q == x) = false := by simp [hx]
      simp only [List.zip_cons_cons, List.map_cons, List.lookup_cons, hb]
      rw [h2]
      simp [pget]

theorem applyMap_projToMap (order : List Nat) (proj : List (Option Nat)) (hl : proj.length = order.length) {q : Nat}
    (hq : q ∈ order) :
    ∃ i, order[i]? = some q ∧ applyMap (projToMap order proj) q = projTarget order q (pget proj i) := by
  obtain ⟨i, h1, h2⟩ := lookup_zip_map q (projTarget order) order proj hl hq
  refine ⟨i, h1, ?_⟩
  unfold applyMap projToMap
  rw [h2]; rfl

def IdxEq (A : TA) (order : List Nat) (i j : Nat) : Prop :=
  i = j ∨ ((order.getD i 0, order.getD j 0) ∈ downSimRef A ∧ (order.getD j 0, order.getD i 0) ∈ downSimRef A)

/-- the matrix `Reduce` hands to `GetQuotientProjection` -/
def symMatrix (A : TA) (order : List Nat) : BMat := restrictToSymmetric (relMatrix (downSimRef A) order)

theorem square_symMatrix (A : TA) (order : List Nat) : Square order.length (symMatrix A order) :=
  (restrictToSymmetric_spec (square_relMatrix _ order)).1

theorem idxEquiv_symMatrix (A : TA) (order : List Nat) :
    IdxEquiv (symMatrix A order) (symMatrix A order).length (IdxEq A order) := by
  rw [(square_symMatrix A order).1]
  refine ⟨fun i => Or.inl rfl, ?_, ?_, ?_⟩
  · rintro i j (e | ⟨h1, h2⟩)
    · exact Or.inl e.symm
    · exact Or.inr ⟨h2, h1⟩
  · rintro i j k (e | ⟨h1, h2⟩) h'
    · rw [e]; exact h'
    · rcases h' with e | ⟨h3, h4⟩
      · rw [← e]; exact Or.inr ⟨h1, h2⟩
      · exact Or.inr ⟨(greatest_downSim_preorder A).2 _ _ _ h1 h3, (greatest_downSim_preorder A).2 _ _ _ h4 h2⟩
  · intro r c hrc hc
    unfold symMatrix
    rw [((restrictToSymmetric_spec (square_relMatrix _ order)).2 r c hrc hc).1,
      mget_relMatrix _ _ (by omega) hc, mget_relMatrix _ _ hc (by omega)]
    simp only [Bool.and_eq_true, List.contains_iff_mem, IdxEq]
    constructor
    · intro h; exact Or.inr h
    · rintro (e | h)
      · omega
      · exact h

theorem quotientProjection_at (A : TA) (order : List Nat) {q : Nat} (hq : q ∈ order) :
    ∃ i k, order[i]? = some q ∧ i < order.length ∧ k ≤ i ∧ IdxEq A order k i ∧
      pget (quotientProjectionIdx (symMatrix A order)) i = some k ∧
      quotientProjection A order q = order.getD k 0 := by
  have hlen := (square_symMatrix A order).1
  obtain ⟨s1, s2, _⟩ := quotientProjectionIdx_spec (idxEquiv_symMatrix A order)
  rw [hlen] at s1 s2
  obtain ⟨i, h1, h2⟩ := applyMap_projToMap order (quotientProjectionIdx (symMatrix A order)) s1 hq
  have hi : i < order.length := by
    apply Classical.byContradiction
    intro hn
    have : order[i]? = none := List.getElem?_eq_none_iff.mpr (by omega)
    rw [this] at h1; cases h1
  obtain ⟨k, hk, hki, hE⟩ := s2 i hi
  refine ⟨i, k, h1, hi, hki, hE, hk, ?_⟩
  have : quotientProjection A order q = projTarget order q (pget (quotientProjectionIdx (symMatrix A order)) i) := h2
  rw [this, hk]
  exact getD_of_lt (by omega) _ _

end RM

namespace RMEx

/-- a numbering of the states of `SimModel.exA` (`0 ≃ 1`, `2 ≃ 3`) that is not the list order -/
def exOrd : List Nat := [3, 0, 4, 2, 1]

theorem exOrd_perm : exOrd.Perm SimModel.exA.states := by decide

/-- `a → 0`, `a → 1`, `b → 1`, `c(1) → 2`, final `{0, 2}`: state `1` simulates state `0` but not conversely -/
def exS : TA := ⟨[⟨0, [], 0⟩, ⟨0, [], 1⟩, ⟨1, [], 1⟩, ⟨2, [1], 2⟩], [0, 2]⟩

end RMEx

example : relMatrix (downSimRef SimModel.exA) RMEx.exOrd =
    [[true, false, false, true, false], [false, true, false, false, true], [false, false, true, false, false],
     [true, false, false, true, false], [false, true, false, false, true]] := by decide +kernel
example : quotientProjectionIdx (RM.symMatrix SimModel.exA RMEx.exOrd) = [some 0, some 1, some 2, some 0, some 1] := by
  decide +kernel
example : quotientMap SimModel.exA RMEx.exOrd = [(3, 3), (0, 0), (4, 4), (2, 3), (1, 0)] ∧
    quotientMap SimModel.exA SimModel.exA.states = [(0, 0), (1, 0), (2, 2), (3, 2), (4, 4)] := by decide +kernel
-- `RestrictToSymmetric` does something: the simulation of `exS` is not symmetric
example : relMatrix (downSimRef RMEx.exS) RMEx.exS.states = [[true, true, false], [false, true, false], [false, false, true]] ∧
    restrictToSymmetric (relMatrix (downSimRef RMEx.exS) RMEx.exS.states) =
      [[true, false, false], [false, true, false], [false, false, true]] := by decide +kernel

theorem quotientProjection_isQuotProj_of_cover (A : TA) (order : List Nat) (hcov : ∀ q, q ∈ A.states → q ∈ order) :
    IsQuotProj A (quotientProjection A order) := by
  constructor
  · intro q hq
    obtain ⟨i, k, h1, hi, hki, hE, _, hv⟩ := RM.quotientProjection_at A order (hcov q hq)
    have hoi := getD_of_getElem? h1 0
    rw [hv]
    rcases hE with e | ⟨e1, e2⟩
    · rw [e, hoi]
      exact ⟨(greatest_downSim_preorder A).1 q hq, (greatest_downSim_preorder A).1 q hq⟩
    · rw [hoi] at e1 e2
      exact ⟨e2, e1⟩
  · intro p q hpq hqp
    have hp := (downSimRef_sub A hpq).1
    have hq := (downSimRef_sub A hpq).2
    obtain ⟨i, k, h1, hi, _, _, hk, hv⟩ := RM.quotientProjection_at A order (hcov p hp)
    obtain ⟨j, k', h1', hj, _, _, hk', hv'⟩ := RM.quotientProjection_at A order (hcov q hq)
    have hE : RM.IdxEq A order i j := Or.inr (by rw [getD_of_getElem? h1 0, getD_of_getElem? h1' 0]; exact ⟨hpq, hqp⟩)
    obtain ⟨_, _, s3⟩ := RM.quotientProjectionIdx_spec (RM.idxEquiv_symMatrix A order)
    rw [(RM.square_symMatrix A order).1] at s3
    have := s3 i j hi hj hE
    rw [hk, hk'] at this
    cases this
    rw [hv, hv']

theorem quotientProjection_isQuotProj (A : TA) (order : List Nat) (hperm : order.Perm A.states) :
    IsQuotProj A (quotientProjection A order) :=
  quotientProjection_isQuotProj_of_cover A order (fun _ hq => (hperm.mem_iff).mpr hq)

example : IsQuotProj SimModel.exA (quotientProjection SimModel.exA RMEx.exOrd) :=
  quotientProjection_isQuotProj _ _ RMEx.exOrd_perm
example : List.map (quotientProjection SimModel.exA RMEx.exOrd) [0, 1, 2, 3, 4] = [0, 0, 3, 3, 4] := by decide +kernel

theorem reduceModel_eq (A : TA) (order : List Nat) :
    reduceModel A order = removeUnreachable (reindex (quotientProjection A order) A) := rfl

/-- C05: `Reduce` keeps the language, whatever the order in which the states were numbered -/
theorem reduceModel_lang (A : TA) (order : List Nat) (hperm : order.Perm A.states) (t : Tree) :
    accepts (reduceModel A order) t = accepts A t :=
  reduce_trim_lang removeUnreachable_lang A _ (quotientProjection_isQuotProj A order hperm).1 t

example (t : Tree) : accepts (reduceModel SimModel.exA RMEx.exOrd) t = accepts SimModel.exA t :=
  reduceModel_lang _ _ RMEx.exOrd_perm t
/-- `Reduce` of `SimModel.exA` under the numbering `exOrd` (the run, evaluated once; quoted here and in `C05_ReduceModel`) -/
theorem RMEx.reduceModel_exA : reduceModel SimModel.exA RMEx.exOrd =
    ⟨[⟨0, [], 0⟩, ⟨0, [], 0⟩, ⟨1, [0, 0], 3⟩, ⟨1, [0, 0], 3⟩], [3, 3]⟩ := TA.eq_mk (by decide +kernel)

example : (reduceModel SimModel.exA RMEx.exOrd).rules = [⟨0, [], 0⟩, ⟨0, [], 0⟩, ⟨1, [0, 0], 3⟩, ⟨1, [0, 0], 3⟩] ∧
    (reduceModel SimModel.exA RMEx.exOrd).final = [3, 3] := by rw [RMEx.reduceModel_exA]; exact ⟨rfl, rfl⟩

theorem reduceModel_lang_of_cover (A : TA) (order : List Nat) (hcov : ∀ q, q ∈ A.states → q ∈ order) (t : Tree) :
    accepts (reduceModel A order) t = accepts A t :=
  reduce_trim_lang removeUnreachable_lang A _ (quotientProjection_isQuotProj_of_cover A order hcov).1 t

/-- C05: every state of the result is a state of `A`, namely the image of a state under the projection -/
theorem reduceModel_states_sub (A : TA) (order : List Nat) (hperm : order.Perm A.states) {x : Nat}
    (hx : x ∈ (reduceModel A order).states) :
    x ∈ A.states ∧ ∃ q, q ∈ A.states ∧ x = quotientProjection A order q := by
  obtain ⟨q, hq, he⟩ := PropAux.states_reduce hx
  refine ⟨?_, q, hq, he⟩
  rw [he]
  exact (downSimRef_sub A ((quotientProjection_isQuotProj A order hperm).1 q hq).1).2

example : (reduceModel SimModel.exA RMEx.exOrd).states = [0, 3] ∧ SimModel.exA.states = [0, 1, 2, 3, 4] := by rw [RMEx.reduceModel_exA]; decide +kernel

namespace RM

theorem nodup_eraseDups_aux : ∀ (n : Nat) (l : List Rule), l.length ≤ n → l.eraseDups.Nodup
  | _, [], _ => by simp
  | 0, _ :: _, h => by simp at h
  | n + 1, a :: l, h => by
    rw [List.eraseDups_cons, List.nodup_cons]
    refine ⟨?_, nodup_eraseDups_aux n _ ?_⟩
    · intro hm
      rw [List.mem_eraseDups, List.mem_filter] at hm
      simp at hm
    · have := List.length_filter_le (fun b => !b == a) l
      simp only [List.length_cons] at h
      omega

/-- `eraseDups` lists every rule once, so its length is the number of distinct rules -/
theorem nodup_eraseDups (l : List Rule) : l.eraseDups.Nodup := nodup_eraseDups_aux l.length l (Nat.le_refl _)

theorem distinct_le_of_image (g : Rule → Rule) (l l' : List Rule) (h : ∀ y, y ∈ l' → ∃ x, x ∈ l ∧ y = g x) :
    l'.eraseDups.length ≤ l.eraseDups.length := by
  have hsub : l'.eraseDups ⊆ l.eraseDups.map g := by
    intro y hy
    obtain ⟨x, hx, he⟩ := h y (List.mem_eraseDups.mp hy)
    exact List.mem_map.mpr ⟨x, List.mem_eraseDups.mpr hx, he.symm⟩
  have := (nodup_eraseDups l').length_le_of_subset hsub
  rwa [List.length_map] at this

theorem distinct_reindex_le (h : Nat → Nat) (B : TA) : (reindex h B).rules.eraseDups.length ≤ B.rules.eraseDups.length :=
  distinct_le_of_image (mapRule h) _ _ fun y hy => (reindex_rules h B y).mp hy

theorem rules_reduce_image (h : Nat → Nat) (A : TA) (y : Rule) (hy : y ∈ (removeUnreachable (reindex h A)).rules) :
    ∃ x, x ∈ A.rules ∧ y = mapRule h x :=
  (reindex_rules h A y).mp (List.mem_filter.mp hy).1

end RM

/-- C05: `Reduce` never grows the automaton: at most as many states, at most as many distinct rules (and at most as
many entries in the rule list); no hypothesis on `order` is needed -/
theorem reduceModel_never_grows (A : TA) (order : List Nat) :
    (reduceModel A order).states.length ≤ A.states.length ∧
    (reduceModel A order).rules.eraseDups.length ≤ A.rules.eraseDups.length ∧
    (reduceModel A order).rules.length ≤ A.rules.length :=
  ⟨PropAux.states_reduce_length _ A,
   RM.distinct_le_of_image (mapRule (quotientProjection A order)) _ _ (RM.rules_reduce_image _ A),
   PropAux.rules_reduce_length _ A⟩

example : (reduceModel SimModel.exA RMEx.exOrd).states.length = 2 ∧ SimModel.exA.states.length = 5 ∧
    (reduceModel SimModel.exA RMEx.exOrd).rules.eraseDups.length = 2 ∧ SimModel.exA.rules.eraseDups.length = 5 ∧
    (reduceModel SimModel.exA RMEx.exOrd).rules.length = 4 := by rw [RMEx.reduceModel_exA]; decide +kernel

theorem reduceModel_order_rename (A : TA) (order order' : List Nat) (hperm : order.Perm A.states)
    (hperm' : order'.Perm A.states) :
    ∃ π, InjOnStates π (reduceModel A order) ∧ reduceModel A order' = reindex π (reduceModel A order) := by
  obtain ⟨π, hinj, he⟩ := quotient_choice_independent A _ _ (quotientProjection_isQuotProj A order hperm)
    (quotientProjection_isQuotProj A order' hperm')
  refine ⟨π, Eqv.injOnStates_mono hinj (fun q hq => PropAux.states_removeUnreachable_sub hq), ?_⟩
  rw [reduceModel_eq, reduceModel_eq, he, removeUnreachable_reindex_eq _ _ hinj]

example : ∃ π, InjOnStates π (reduceModel SimModel.exA SimModel.exA.states) ∧
    reduceModel SimModel.exA RMEx.exOrd = reindex π (reduceModel SimModel.exA SimModel.exA.states) :=
  reduceModel_order_rename _ _ _ (List.Perm.refl _) RMEx.exOrd_perm

/-- C05/C19: the size of the result (states, rule list, distinct rules) does not depend on the order in which the states
were numbered -/
theorem reduceModel_size_order_independent (A : TA) (order order' : List Nat) (hperm : order.Perm A.states)
    (hperm' : order'.Perm A.states) :
    (reduceModel A order').states.length = (reduceModel A order).states.length ∧
    (reduceModel A order').rules.length = (reduceModel A order).rules.length ∧
    (reduceModel A order').rules.eraseDups.length = (reduceModel A order).rules.eraseDups.length := by
  obtain ⟨π, hinj, he⟩ := reduceModel_order_rename A order order' hperm hperm'
  obtain ⟨π', _, he'⟩ := reduceModel_order_rename A order' order hperm' hperm
  refine ⟨by rw [he]; exact reindex_states_length π _ hinj, by rw [he, reindex_rules_length], Nat.le_antisymm ?_ ?_⟩
  · rw [he]; exact RM.distinct_reindex_le π _
  · rw [he']; exact RM.distinct_reindex_le π' _

/-- `reduceRef` is the canonical reduction that picks the first representative in `A.states` -/
theorem reduceModel_size_eq_reduceRef (A : TA) (order : List Nat) (hperm : order.Perm A.states) :
    (reduceModel A order).states.length = (reduceRef A).states.length ∧
    (reduceModel A order).rules.length = (reduceRef A).rules.length :=
  reduce_size_choice_independent A (repOf A) _ (repOf_isQuotProj A) (quotientProjection_isQuotProj A order hperm)

theorem reduceModel_states_le_simClasses (A : TA) (order : List Nat) (hperm : order.Perm A.states) :
    (reduceModel A order).states.length ≤ simClasses A :=
  reduce_states_le_simClasses A _ (quotientProjection_isQuotProj A order hperm).2

-- two numberings: different representatives (`{0, 2}` and `{0, 3}`), same size
example : (reduceModel SimModel.exA SimModel.exA.states).states = [0, 2] ∧
    (reduceModel SimModel.exA RMEx.exOrd).states = [0, 3] ∧ (reduceRef SimModel.exA).states = [0, 2] ∧
    simClasses SimModel.exA = 3 := by rw [RMEx.reduceModel_exA]; decide +kernel
example : (reduceModel SimModel.exA RMEx.exOrd).states.length = (reduceModel SimModel.exA SimModel.exA.states).states.length :=
  (reduceModel_size_order_independent _ _ _ (List.Perm.refl _) RMEx.exOrd_perm).1

/-- If `RestrictToSymmetric` skips row `0`, the row of the state with index `0` still holds the (one-directional)
simulation, so `GetQuotientProjection` merges into that state every state that simulates it.  On `exS` (`1` simulates
`0`, not conversely; list order, which is a permutation of the states) the slip maps `1 ↦ 0`, the correct code maps
nothing; the tree `b` is then accepted by the result although `exS` (and the correct model) rejects it. -/
theorem restrictToSymmetric_skip_row0_counterexample :
    RMEx.exS.states = [0, 1, 2] ∧
    quotientMapWith restrictToSymmetricSkip0 RMEx.exS RMEx.exS.states = [(0, 0), (1, 0), (2, 2)] ∧
    quotientMap RMEx.exS RMEx.exS.states = [(0, 0), (1, 1), (2, 2)] ∧
    accepts (reduceModelSkip0 RMEx.exS RMEx.exS.states) (.node 1 []) = true ∧
    accepts RMEx.exS (.node 1 []) = false ∧
    accepts (reduceModel RMEx.exS RMEx.exS.states) (.node 1 []) = false := by decide +kernel

end Vata
