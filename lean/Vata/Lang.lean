import Vata.Multi
/-!
# Exact language-level deciders (L1), instances of `forallTrees`

Each decider returns `Option Bool` (`none` = fuel exhausted, an internal error of the machinery, never a verdict) and
comes with an *iff* theorem against the L0 notion for every verdict it returns.
-/
namespace Vata

def Incl (A B : TA) : Prop := ∀ t, accepts A t = true → accepts B t = true
def LangEq (A B : TA) : Prop := ∀ t, accepts A t = accepts B t
def LangEmpty (A : TA) : Prop := ∀ t, accepts A t = false

def inclM (A B : TA) (fuel : Nat) : Option Bool :=
  forallTrees [A, B] (fun v => match v with | [a, b] => !a || b | _ => false) fuel

theorem inclM_iff (A B : TA) (fuel : Nat) (b : Bool) (h : inclM A B fuel = some b) : b = true ↔ Incl A B := by
  rw [forallTrees_iff _ _ _ _ h]
  simp only [List.map_cons, List.map_nil, Incl]
  constructor
  · intro h t ha; have := h t; simp [ha] at this; exact this
  · intro h t; cases ha : accepts A t <;> simp [h t, ha]

def equivM (A B : TA) (fuel : Nat) : Option Bool :=
  forallTrees [A, B] (fun v => match v with | [a, b] => a == b | _ => false) fuel

theorem equivM_iff (A B : TA) (fuel : Nat) (b : Bool) (h : equivM A B fuel = some b) : b = true ↔ LangEq A B := by
  rw [forallTrees_iff _ _ _ _ h]
  simp only [List.map_cons, List.map_nil, LangEq, beq_iff_eq]

def emptyM (A : TA) (fuel : Nat) : Option Bool :=
  forallTrees [A] (fun v => match v with | [a] => !a | _ => false) fuel

theorem emptyM_iff (A : TA) (fuel : Nat) (b : Bool) (h : emptyM A fuel = some b) : b = true ↔ LangEmpty A := by
  rw [forallTrees_iff _ _ _ _ h]
  simp only [List.map_cons, List.map_nil, LangEmpty, Bool.not_eq_true']

/-- `U` accepts exactly `L(A) ∪ L(B)` -/
def isUnionM (U A B : TA) (fuel : Nat) : Option Bool :=
  forallTrees [U, A, B] (fun v => match v with | [u, a, b] => u == (a || b) | _ => false) fuel

theorem isUnionM_iff (U A B : TA) (fuel : Nat) (b : Bool) (h : isUnionM U A B fuel = some b) :
    b = true ↔ ∀ t, accepts U t = (accepts A t || accepts B t) := by
  rw [forallTrees_iff _ _ _ _ h]
  simp only [List.map_cons, List.map_nil, beq_iff_eq]

/-- `P` accepts exactly `L(A) ∩ L(B)` -/
def isIsectM (P A B : TA) (fuel : Nat) : Option Bool :=
  forallTrees [P, A, B] (fun v => match v with | [p, a, b] => p == (a && b) | _ => false) fuel

theorem isIsectM_iff (P A B : TA) (fuel : Nat) (b : Bool) (h : isIsectM P A B fuel = some b) :
    b = true ↔ ∀ t, accepts P t = (accepts A t && accepts B t) := by
  rw [forallTrees_iff _ _ _ _ h]
  simp only [List.map_cons, List.map_nil, beq_iff_eq]

/-! ### trees over a ranked alphabet -/

mutual
def overSig (Sg : List (Nat × Nat)) : Tree → Bool
  | .node f ts => Sg.contains (f, lenT ts) && overSigL Sg ts
def overSigL (Sg : List (Nat × Nat)) : List Tree → Bool
  | [] => true
  | t :: ts => overSig Sg t && overSigL Sg ts
def lenT : List Tree → Nat
  | [] => 0
  | _ :: ts => lenT ts + 1
end

theorem lenT_eq (ts : List Tree) : lenT ts = ts.length := by
  induction ts with
  | nil => simp [lenT]
  | cons t ts ih => simp [lenT, ih]

/-- the one-state automaton accepting every tree over `Sg` -/
def univ (Sg : List (Nat × Nat)) : TA := ⟨Sg.map (fun fa => ⟨fa.1, List.replicate fa.2 0, 0⟩), [0]⟩

theorem overSigL_iff (Sg : List (Nat × Nat)) : ∀ ts : List Tree,
    overSigL Sg ts = true ↔ ∀ t, t ∈ ts → overSig Sg t = true
  | [] => by simp [overSigL]
  | t :: ts => by
    simp only [overSigL, Bool.and_eq_true, overSigL_iff Sg ts, List.mem_cons, forall_eq_or_imp]

theorem overSig_node (Sg : List (Nat × Nat)) (f : Nat) (ts : List Tree) :
    overSig Sg (.node f ts) = true ↔ (f, ts.length) ∈ Sg ∧ ∀ t, t ∈ ts → overSig Sg t = true := by
  rw [overSig, Bool.and_eq_true, overSigL_iff, lenT_eq, List.contains_iff_mem]

theorem all2_replicate {β : Type} {R : Nat → β → Prop} (a : Nat) : ∀ (n : Nat) (ts : List β),
    All2 R (List.replicate n a) ts ↔ n = ts.length ∧ ∀ t, t ∈ ts → R a t
  | 0, [] => ⟨fun _ => ⟨rfl, fun _ h => nomatch h⟩, fun _ => .nil⟩
  | 0, _ :: _ => ⟨fun h => (nomatch h), fun h => (nomatch h.1)⟩
  | _ + 1, [] => ⟨fun h => (nomatch h), fun h => (nomatch h.1)⟩
  | n + 1, t :: ts => by
    rw [List.replicate_succ, List.length_cons, Nat.succ_inj, List.forall_mem_cons, ← and_assoc,
      and_comm (a := n = _), and_assoc, ← all2_replicate a n ts]
    exact ⟨fun h => by cases h with | cons hd tl => exact ⟨hd, tl⟩, fun h => .cons h.1 h.2⟩

theorem zero_mem_reach_univ (Sg : List (Nat × Nat)) : ∀ t : Tree, 0 ∈ reach (univ Sg) t ↔ overSig Sg t = true := by
  refine tree_induction fun f ts ih => ?_
  rw [mem_reach_node, overSig_node]
  simp only [univ, List.mem_map]
  constructor
  · rintro ⟨r, ⟨fa, hfa, rfl⟩, rfl, hk, _⟩
    obtain ⟨hn, hall⟩ := (all2_replicate 0 _ _).mp hk
    exact ⟨hn ▸ hfa, fun t ht => (ih t ht).mp (hall t ht)⟩
  · rintro ⟨hfa, hall⟩
    exact ⟨_, ⟨_, hfa, rfl⟩, rfl, (all2_replicate 0 _ _).mpr ⟨rfl, fun t ht => (ih t ht).mpr (hall t ht)⟩, rfl⟩

theorem zero_mem_reachL_univ (Sg : List (Nat × Nat)) : ∀ ts : List Tree,
    (∀ s, s ∈ reachL (univ Sg) ts → 0 ∈ s) ↔ overSigL Sg ts = true := fun ts => by
  rw [reachL_eq_map, overSigL_iff, List.forall_mem_map]
  exact forall_congr' fun t => imp_congr_right fun _ => zero_mem_reach_univ Sg t

theorem accepts_univ (Sg : List (Nat × Nat)) (t : Tree) : accepts (univ Sg) t = overSig Sg t := by
  rw [Bool.eq_iff_iff, ← zero_mem_reach_univ]
  simp only [accepts, accepting, List.any_eq_true, List.contains_iff_mem, univ, List.mem_singleton]
  constructor
  · rintro ⟨q, hq, rfl⟩; exact hq
  · intro h; exact ⟨0, h, rfl⟩

/-- `C` is the complement of `A` over `Sg`: on trees over `Sg` exactly one of the two accepts, and `C` accepts
nothing outside -/
def isComplM (C A : TA) (Sg : List (Nat × Nat)) (fuel : Nat) : Option Bool :=
  forallTrees [C, A, univ Sg] (fun v => match v with | [c, a, u] => if u then c != a else !c | _ => false) fuel

theorem isComplM_iff (C A : TA) (Sg : List (Nat × Nat)) (fuel : Nat) (b : Bool)
    (h : isComplM C A Sg fuel = some b) :
    b = true ↔ ∀ t, (overSig Sg t = true → accepts C t = !accepts A t) ∧ (overSig Sg t = false → accepts C t = false) := by
  rw [forallTrees_iff _ _ _ _ h]
  simp only [List.map_cons, List.map_nil, accepts_univ]
  constructor
  · intro h t
    have := h t
    cases ho : overSig Sg t <;> simp [ho] at this ⊢
    · exact this
    · cases ha : accepts A t <;> cases hc : accepts C t <;> simp_all
  · intro h t
    obtain ⟨h1, h2⟩ := h t
    cases ho : overSig Sg t <;> simp [ho] at h1 h2 ⊢
    · exact h2
    · rw [h1]; cases accepts A t <;> simp

end Vata
