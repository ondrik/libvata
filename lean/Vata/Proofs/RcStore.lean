import Vata.RcStore
import Vata.Proofs.AssocList
/-!
# The MTBDD node store `Vata/RcStore.lean`: its invariant and what the primitive steps do to it (C18)

`WInv s P` says that the counter of every allocated node is its in-degree plus the number of handles pointing to it plus
its multiplicity in `P`, the decrements that are still to be done.  Every step inside an operation keeps `WInv` for a
suitable `P`; between operations `P = []`.  `OpOk t s s'` is what a whole operation with target handle `t` guarantees; it is
proved here for the operations that build no node (`copy`, `destroy`, `assign`), for the others in
`Vata/Proofs/RcStoreHist.lean`, where the claims of C18 are read off `Inv (runF f ops)`.
-/
namespace Vata.RcS
open Vata.R (Data decrRc contrib indegL cnt J Closed contrib_le_indegL ne_of_indegL_zero cnt_pos free_core)

section Tab
set_option linter.unusedSectionVars false
variable {κ : Type} [DecidableEq κ]

def KeysNodup (t : List (κ × Nat)) : Prop := (t.map (·.1)).Nodup

theorem find_cons (k k' : κ) (m : Nat) (t : List (κ × Nat)) :
    find k ((k', m) :: t) = if k' = k then some m else find k t := rfl

/-- the unique tables are read by `List.lookup` -/
theorem find_eq (k : κ) (t : List (κ × Nat)) : find k t = t.lookup k := by
  induction t with
  | nil => rfl
  | cons e t ih => obtain ⟨k', m⟩ := e; rw [find_cons, ih, lookup_cons_ite]

theorem find_some_mem {k : κ} {n : Nat} {t : List (κ × Nat)} (h : find k t = some n) : (k, n) ∈ t :=
  mem_of_lookup (find_eq k t ▸ h)

theorem find_none_not_mem {k : κ} {t : List (κ × Nat)} (h : find k t = none) (n : Nat) : (k, n) ∉ t := fun hm =>
  lookup_eq_none_iff_keys.mp (find_eq k t ▸ h) (List.mem_map.mpr ⟨_, hm, rfl⟩)

theorem keys_inj {k : κ} {a b : Nat} {t : List (κ × Nat)} (hk : KeysNodup t) (ha : (k, a) ∈ t) (hb : (k, b) ∈ t) :
    a = b :=
  congrArg Prod.snd (inj_of_nodup_map (fun e : κ × Nat => e.1) hk ha hb rfl)

theorem nodup_of_keysNodup {t : List (κ × Nat)} (h : KeysNodup t) : t.Nodup := nodup_of_map _ h

theorem mem_find {k : κ} {n : Nat} {t : List (κ × Nat)} (hk : KeysNodup t) (h : (k, n) ∈ t) : find k t = some n :=
  (find_eq k t).trans (lookup_of_mem hk h)

theorem mem_eraseKey {k : κ} {e : κ × Nat} {t : List (κ × Nat)} : e ∈ eraseKey k t ↔ e ∈ t ∧ e.1 ≠ k := by
  rw [eraseKey, List.mem_filter, decide_eq_true_eq]

theorem keysNodup_eraseKey {k : κ} {t : List (κ × Nat)} (h : KeysNodup t) : KeysNodup (eraseKey k t) :=
  List.Nodup.sublist (List.Sublist.map _ List.filter_sublist) h

theorem keysNodup_erase {e : κ × Nat} {t : List (κ × Nat)} (h : KeysNodup t) : KeysNodup (t.erase e) :=
  List.Nodup.sublist (List.Sublist.map _ List.erase_sublist) h

theorem keysNodup_cons {k : κ} {m : Nat} {t : List (κ × Nat)} (h : KeysNodup t) (hf : find k t = none) :
    KeysNodup ((k, m) :: t) :=
  List.nodup_cons.mpr ⟨fun hm => by
    obtain ⟨⟨k', n⟩, he, rfl⟩ := List.mem_map.mp hm
    exact find_none_not_mem hf n he, h⟩

end Tab

theorem indegL_cons (n : Nat) (ids : List Nat) (dat : Nat → Data) (x : Nat) :
    indegL (n :: ids) dat x = contrib dat x n + indegL ids dat x := by
  rw [indegL, List.map_cons, List.sum_cons]; rfl

theorem contrib_congr {dat dat' : Nat → Data} {m : Nat} (h : dat' m = dat m) (x : Nat) :
    contrib dat' x m = contrib dat x m := by
  unfold contrib; rw [h]

theorem indegL_congr {dat dat' : Nat → Data} {ids : List Nat} (h : ∀ m, m ∈ ids → dat' m = dat m) (x : Nat) :
    indegL ids dat' x = indegL ids dat x :=
  congrArg List.sum (List.map_congr_left (fun m hm => contrib_congr (h m hm) x))

theorem exists_parent {ids : List Nat} {dat : Nat → Data} {n : Nat} (h : 0 < indegL ids dat n) :
    ∃ m lo hi var, m ∈ ids ∧ dat m = .int lo hi var ∧ (lo = n ∨ hi = n) := by
  obtain ⟨a, ha, hp⟩ := List.sum_pos_iff_exists_pos_nat.mp h
  obtain ⟨m, hm, rfl⟩ := List.mem_map.mp ha
  cases hd : dat m with
  | leaf v => rw [Vata.R.contrib_leaf hd] at hp; cases hp
  | int lo hi var =>
    refine ⟨m, lo, hi, var, hm, hd, ?_⟩
    rw [Vata.R.contrib_int hd] at hp
    by_cases e1 : lo = n
    · exact Or.inl e1
    · by_cases e2 : hi = n
      · exact Or.inr e2
      · rw [if_neg e1, if_neg e2] at hp; cases hp

theorem indegL_fresh {ids : List Nat} {dat : Nat → Data} {n : Nat} (hC : Closed ids dat) (hn : n ∉ ids) :
    indegL ids dat n = 0 := by
  apply List.sum_eq_zero_iff_forall_eq_nat.mpr
  intro a ha
  obtain ⟨m, hm, rfl⟩ := List.mem_map.mp ha
  cases hd : dat m with
  | leaf v => exact Vata.R.contrib_leaf hd n
  | int lo hi var =>
    obtain ⟨h1, h2⟩ := hC m hm lo hi var hd
    rw [Vata.R.contrib_int hd, if_neg (fun e : lo = n => hn (e ▸ h1)), if_neg (fun e : hi = n => hn (e ▸ h2))]

theorem cnt_zero {x : Nat} {l : List Nat} (h : x ∉ l) : cnt x l = 0 := List.count_eq_zero.mpr h
theorem cnt_nil (x : Nat) : cnt x [] = 0 := rfl
theorem cnt_append (x : Nat) (l l' : List Nat) : cnt x (l ++ l') = cnt x l + cnt x l' := List.count_append

theorem cnt_roots_erase {h r x : Nat} {hs : List (Nat × Nat)} (hm : (h, r) ∈ hs) :
    cnt x (hs.map (·.2)) = cnt x ((hs.erase (h, r)).map (·.2)) + (if r = x then 1 else 0) := by
  rw [cnt, ((List.perm_cons_erase hm).map (·.2)).count_eq x]
  exact (Vata.R.cnt_cons x r _).trans (Nat.add_comm _ _)

def roots (s : Store) : List Nat := s.hs.map (·.2)

/-- everything except "no allocated node has counter 0"; `P` = decrements that are still to be done -/
structure WInv (s : Store) (P : List Nat) : Prop where
  nd      : s.ids.Nodup
  j       : J s.ids s.dat s.rc (roots s) P
  pin     : ∀ p, p ∈ P → p ∈ s.ids
  rin     : ∀ r, r ∈ roots s → r ∈ s.ids
  closed  : Closed s.ids s.dat
  ordered : ∀ m, m ∈ s.ids → ∀ lo hi var, s.dat m = .int lo hi var → lo < m ∧ hi < m
  fresh   : ∀ n, n ∈ s.ids → n < s.next
  leafK   : KeysNodup s.leafT
  leafOk  : ∀ v n, (v, n) ∈ s.leafT ↔ (n ∈ s.ids ∧ s.dat n = .leaf v)
  intK    : KeysNodup s.intT
  intOk   : ∀ (k : IKey) n, (k, n) ∈ s.intT ↔ (n ∈ s.ids ∧ s.dat n = .int k.1 k.2.1 k.2.2)
  hsK     : KeysNodup s.hs
  freedNd : s.freed.Nodup
  freedOk : ∀ n, n ∈ s.freed → n ∉ s.ids ∧ n < s.next
  noerr   : s.err = false

def NZ (s : Store) : Prop := ∀ n, n ∈ s.ids → s.rc n ≠ 0

def Inv (s : Store) : Prop := WInv s [] ∧ NZ s

theorem inv_empty : Inv empty := by
  refine ⟨⟨List.nodup_nil, ?_, ?_, ?_, ?_, ?_, ?_, ?_, ?_, ?_, ?_, ?_, List.nodup_nil, ?_, rfl⟩, ?_⟩
  all_goals first | (intro n hn; simp [empty, roots] at hn; done) | simp [KeysNodup, empty]

theorem WInv.next_not_mem {s : Store} {P : List Nat} (h : WInv s P) : s.next ∉ s.ids :=
  fun hm => Nat.lt_irrefl _ (h.fresh _ hm)

theorem setF_same {β : Type} (f : Nat → β) (n : Nat) (b : β) : setF f n b n = b := if_pos rfl
theorem setF_ne {β : Type} (f : Nat → β) {n x : Nat} (b : β) (h : x ≠ n) : setF f n b x = f x := if_neg h
theorem incrRc_same (rc : Nat → Nat) (n : Nat) : incrRc rc n n = rc n + 1 := if_pos rfl
theorem incrRc_ne (rc : Nat → Nat) {n x : Nat} (h : x ≠ n) : incrRc rc n x = rc x := if_neg h
theorem incrRc_apply (rc : Nat → Nat) (n x : Nat) : incrRc rc n x = rc x + if n = x then 1 else 0 := by
  by_cases e : x = n
  · rw [e, incrRc_same, if_pos rfl]
  · rw [incrRc_ne _ e, if_neg (Ne.symm e)]; rfl
theorem decrRc_same (rc : Nat → Nat) (n : Nat) : decrRc rc n n = rc n - 1 := if_pos rfl
theorem decrRc_ne (rc : Nat → Nat) {n x : Nat} (h : x ≠ n) : decrRc rc n x = rc x := if_neg h
theorem decrRc_apply (rc : Nat → Nat) (n x : Nat) : decrRc rc n x = rc x - if n = x then 1 else 0 := by
  by_cases e : x = n
  · rw [e, decrRc_same, if_pos rfl]
  · rw [decrRc_ne _ e, if_neg (Ne.symm e)]; rfl

/-! Both tables list the allocated nodes whose contents have the form `mk k`: `mk = .leaf` for `leafT`,
`mk k = .int k.1 k.2.1 k.2.2` for `intT`. -/
section Table
variable {κ : Type} {mk : κ → Data} {t : List (κ × Nat)} {ids : List Nat} {dat : Nat → Data}
  (hOk : ∀ k m, (k, m) ∈ t ↔ (m ∈ ids ∧ dat m = mk k))
include hOk

theorem mem_eraseKey_node [DecidableEq κ] (inj : ∀ k k', mk k = mk k' → k = k') (hK : KeysNodup t) {n : Nat} {k0 : κ}
    (hn : n ∈ ids) (hd : dat n = mk k0) (k : κ) (m : Nat) : (k, m) ∈ eraseKey k0 t ↔ ((k, m) ∈ t ∧ m ≠ n) := by
  rw [mem_eraseKey]
  refine and_congr_right (fun hm => not_congr ⟨fun e => ?_, fun e => ?_⟩)
  · exact keys_inj hK (e ▸ hm) ((hOk k0 n).mpr ⟨hn, hd⟩)
  · exact inj _ _ ((e ▸ ((hOk k m).mp hm).2 : dat n = mk k).symm.trans hd)

theorem mem_table_ne {n : Nat} (hd : ∀ k, dat n ≠ mk k)
    (k : κ) (m : Nat) : (k, m) ∈ t ↔ ((k, m) ∈ t ∧ m ≠ n) :=
  ⟨fun hm => ⟨hm, fun e => hd k (e ▸ ((hOk k m).mp hm).2)⟩, And.left⟩

theorem mem_cons_fresh (inj : ∀ k k', mk k = mk k' → k = k') {nx : Nat} (hN : nx ∉ ids) (k0 k : κ) (m : Nat) :
    (k, m) ∈ (k0, nx) :: t ↔ (m ∈ nx :: ids ∧ setF dat nx (mk k0) m = mk k) := by
  rw [List.mem_cons, List.mem_cons, hOk]
  constructor
  · rintro (e | ⟨hm, hdm⟩)
    · cases e; exact ⟨Or.inl rfl, setF_same _ _ _⟩
    · exact ⟨Or.inr hm, (setF_ne _ _ (ne_of_mem_of_not_mem hm hN)).trans hdm⟩
  · rintro ⟨rfl | hm, hdm⟩
    · rw [setF_same] at hdm; cases inj _ _ hdm; exact Or.inl rfl
    · rw [setF_ne _ _ (ne_of_mem_of_not_mem hm hN)] at hdm; exact Or.inr ⟨hm, hdm⟩

theorem mem_table_fresh {nx : Nat} (hN : nx ∉ ids) {d : Data}
    (hd : ∀ k, d ≠ mk k) (k : κ) (m : Nat) : (k, m) ∈ t ↔ (m ∈ nx :: ids ∧ setF dat nx d m = mk k) := by
  rw [List.mem_cons, hOk]
  constructor
  · rintro ⟨hm, hdm⟩
    exact ⟨Or.inr hm, (setF_ne _ _ (ne_of_mem_of_not_mem hm hN)).trans hdm⟩
  · rintro ⟨rfl | hm, hdm⟩
    · rw [setF_same] at hdm; exact absurd hdm (hd k)
    · rw [setF_ne _ _ (ne_of_mem_of_not_mem hm hN)] at hdm; exact ⟨hm, hdm⟩

end Table

theorem int_inj (k k' : IKey) (e : Data.int k.1 k.2.1 k.2.2 = .int k'.1 k'.2.1 k'.2.2) : k = k' := by
  obtain ⟨a, b, c⟩ := k
  cases e; rfl

theorem mem_erase_iff' {ids : List Nat} (hnd : ids.Nodup) {x n : Nat} : x ∈ ids.erase n ↔ x ≠ n ∧ x ∈ ids :=
  List.Nodup.mem_erase_iff hnd

theorem WInv.update {s : Store} {P P' : List Nat} (h : WInv s P) {rc' : Nat → Nat} {hs' : List (Nat × Nat)} {e : Bool}
    (hj : J s.ids s.dat rc' (hs'.map (·.2)) P') (hpin : ∀ p, p ∈ P' → p ∈ s.ids)
    (hrin : ∀ r, r ∈ hs'.map (·.2) → r ∈ s.ids) (hK : KeysNodup hs') (he : e = false) :
    WInv { s with rc := rc', hs := hs', err := e } P' :=
  ⟨h.nd, hj, hpin, hrin, h.closed, h.ordered, h.fresh, h.leafK, h.leafOk, h.intK, h.intOk, hK, h.freedNd, h.freedOk, he⟩

theorem decRef_inv {s : Store} {n : Nat} {P : List Nat} (h : WInv s (n :: P)) :
    WInv (decRef s n) P ∧ (decRef s n).rc n = s.rc n - 1 ∧ (∀ x, x ≠ n → (decRef s n).rc x = s.rc x) := by
  have hn : n ∈ s.ids := h.pin n List.mem_cons_self
  have hrc := h.j n hn
  rw [Vata.R.cnt_cons, if_pos rfl] at hrc
  refine ⟨h.update h.j.decr (fun p hp => h.pin p (List.mem_cons_of_mem _ hp)) h.rin h.hsK ?_,
    decrRc_same _ _, fun x hx => decrRc_ne _ hx⟩
  rw [h.noerr, decide_eq_false (by omega : ¬ s.rc n = 0), decide_eq_true hn]; rfl

/-- a node `n` whose counter is 0 is deleted and its entry leaves its table; the references from `n` to its
    children `C` are still to be released -/
theorem WInv.free {s : Store} {n : Nat} {P C : List Nat} {L : List (Nat × Nat)} {I : List (IKey × Nat)} {e : Bool}
    (h : WInv s P) (hn : n ∈ s.ids) (hz : s.rc n = 0) (hC : ∀ x, contrib s.dat x n = cnt x C)
    (hCin : ∀ c, c ∈ C → c ∈ s.ids) (he : e = false)
    (hLK : KeysNodup L) (hL : ∀ v m, (v, m) ∈ L ↔ ((v, m) ∈ s.leafT ∧ m ≠ n))
    (hIK : KeysNodup I) (hI : ∀ (k : IKey) m, (k, m) ∈ I ↔ ((k, m) ∈ s.intT ∧ m ≠ n)) :
    WInv { s with ids := s.ids.erase n, leafT := L, intT := I, freed := n :: s.freed, err := e } (C ++ P) := by
  obtain ⟨hPn, hRn, -, hC', hJ'⟩ := free_core h.nd hn h.j hz h.closed
  have hme : ∀ x, x ∈ s.ids.erase n ↔ x ∈ s.ids ∧ x ≠ n := fun x => (mem_erase_iff' h.nd).trans And.comm
  have hCn : ∀ c, c ∈ C → c ≠ n := fun c hc e => by
    subst e
    have h1 := cnt_pos hc
    have h2 := contrib_le_indegL (dat := s.dat) hn c
    have h3 := h.j c hn
    rw [hC] at h2
    omega
  refine ⟨h.nd.erase n, ?_, ?_, ?_, hC', ?_, ?_, hLK, ?_, hIK, ?_, h.hsK, ?_, ?_, he⟩
  · intro x hx
    have := hJ' x hx
    show s.rc x = indegL (s.ids.erase n) s.dat x + cnt x (roots s) + cnt x (C ++ P)
    rw [cnt_append, ← hC]
    omega
  · intro p hp
    rcases List.mem_append.mp hp with hc | hp
    · exact (hme p).mpr ⟨hCin p hc, hCn p hc⟩
    · exact (hme p).mpr ⟨h.pin p hp, fun e => hPn (e ▸ hp)⟩
  · exact fun r hr => (hme r).mpr ⟨h.rin r hr, fun e => hRn (e ▸ hr)⟩
  · exact fun m hm => h.ordered m ((hme m).mp hm).1
  · exact fun m hm => h.fresh m ((hme m).mp hm).1
  · exact fun v m => by rw [hL, h.leafOk, hme, and_right_comm]
  · exact fun k m => by rw [hI, h.intOk, hme, and_right_comm]
  · exact List.nodup_cons.mpr ⟨fun hf => (h.freedOk n hf).1 hn, h.freedNd⟩
  · intro m hm
    show m ∉ s.ids.erase n ∧ m < s.next
    rcases List.mem_cons.mp hm with e | hm
    · subst e; exact ⟨fun hx => ((hme m).mp hx).2 rfl, h.fresh m hn⟩
    · exact ⟨fun hx => (h.freedOk m hm).1 ((hme m).mp hx).1, (h.freedOk m hm).2⟩

theorem disposeLeaf_inv {s : Store} {n v : Nat} {P : List Nat} (h : WInv s P) (hn : n ∈ s.ids) (hz : s.rc n = 0)
    (hd : s.dat n = .leaf v) : WInv (disposeLeaf s n v) P :=
  h.free (C := []) hn hz (Vata.R.contrib_leaf hd) (fun _ hc => nomatch hc)
    (by rw [mem_find h.leafK ((h.leafOk _ _).mpr ⟨hn, hd⟩), h.noerr]; rfl)
    (keysNodup_eraseKey h.leafK) (mem_eraseKey_node h.leafOk (fun _ _ => Data.leaf.inj) h.leafK hn hd)
    h.intK (mem_table_ne h.intOk (fun k e => by rw [hd] at e; cases e))

theorem unlinkInt_inv {s : Store} {n lo hi var : Nat} {P : List Nat} (h : WInv s P) (hn : n ∈ s.ids) (hz : s.rc n = 0)
    (hd : s.dat n = .int lo hi var) : WInv (unlinkInt s n (lo, hi, var)) (lo :: hi :: P) := by
  obtain ⟨hlo, hhi⟩ := h.closed n hn lo hi var hd
  refine h.free (C := [lo, hi]) hn hz (fun x => ?_) ?_
    (by rw [mem_find h.intK ((h.intOk (lo, hi, var) _).mpr ⟨hn, hd⟩), h.noerr]; rfl)
    h.leafK (mem_table_ne h.leafOk (fun k e => by rw [hd] at e; cases e))
    (keysNodup_eraseKey h.intK) (mem_eraseKey_node h.intOk int_inj h.intK hn hd)
  · rw [Vata.R.contrib_int hd, Vata.R.cnt_cons, Vata.R.cnt_cons, cnt_nil, Nat.add_zero]
  · intro c hc
    rcases List.mem_cons.mp hc with e | hc
    · exact e ▸ hlo
    · exact List.mem_singleton.mp hc ▸ hhi

/-- what `release` does to a store in any state: nodes are only deleted, counters only decremented, an assertion
    that has failed stays failed; the rest is not touched -/
structure Shrinks (s s' : Store) : Prop where
  dat  : s'.dat = s.dat
  hs   : s'.hs = s.hs
  next : s'.next = s.next
  ids  : ∀ x, x ∈ s'.ids → x ∈ s.ids
  len  : s'.ids.length ≤ s.ids.length
  rc   : ∀ x, s'.rc x ≤ s.rc x
  dead : ∀ x, x ∈ s.ids → x ∉ s'.ids → s'.rc x = 0
  err  : s'.err = false → s.err = false

theorem Shrinks.refl (s : Store) : Shrinks s s :=
  ⟨rfl, rfl, rfl, fun _ h => h, Nat.le_refl _, fun _ => Nat.le_refl _, fun _ h h' => absurd h h', fun h => h⟩

theorem Shrinks.trans {s1 s2 s3 : Store} (a : Shrinks s1 s2) (b : Shrinks s2 s3) : Shrinks s1 s3 :=
  ⟨b.dat.trans a.dat, b.hs.trans a.hs, b.next.trans a.next, fun x h => a.ids x (b.ids x h), Nat.le_trans b.len a.len,
   fun x => Nat.le_trans (b.rc x) (a.rc x), fun x h1 h3 => Decidable.byCases (fun h2 : x ∈ s2.ids => b.dead x h2 h3)
     (fun h2 => Nat.eq_zero_of_le_zero (a.dead x h1 h2 ▸ b.rc x)), fun h => a.err (b.err h)⟩

/-- the counters of the nodes that are not allocated are 0 -/
def Zr (s : Store) : Prop := ∀ n, n ∉ s.ids → s.rc n = 0

theorem Shrinks.zr {s s' : Store} (sh : Shrinks s s') (h : Zr s) : Zr s' := fun x hx =>
  Decidable.byCases (fun hm : x ∈ s.ids => sh.dead x hm hx) (fun hm => Nat.eq_zero_of_le_zero (h x hm ▸ sh.rc x))

theorem decRef_shrinks (s : Store) (n : Nat) : Shrinks s (decRef s n) :=
  ⟨rfl, rfl, rfl, fun _ h => h, Nat.le_refl _, fun x => by
    show decrRc s.rc n x ≤ s.rc x
    unfold decrRc; split
    · rename_i e; rw [e]; exact Nat.sub_le _ _
    · exact Nat.le_refl _,
   fun _ h h' => absurd h h', fun h => (Bool.or_eq_false_iff.mp (Bool.or_eq_false_iff.mp h).1).1⟩

/-- a node is deleted only when its counter is 0 -/
theorem erase_shrinks (s : Store) {n : Nat} (hz : s.rc n = 0) (L : List (Nat × Nat)) (I : List (IKey × Nat)) (e : Bool) :
    Shrinks s { s with ids := s.ids.erase n, leafT := L, intT := I, freed := n :: s.freed, err := s.err || e } :=
  ⟨rfl, rfl, rfl, fun _ h => List.mem_of_mem_erase h, List.length_erase_le, fun _ => Nat.le_refl _,
   fun x h h' => Decidable.byCases (fun e : x = n => e ▸ hz) (fun e => absurd ((List.mem_erase_of_ne e).mpr h) h'),
   fun h => (Bool.or_eq_false_iff.mp h).1⟩

theorem release_succ_shrinks {fuel : Nat} (ih : ∀ s n, Shrinks s (release fuel s n)) (s : Store) (n : Nat) :
    Shrinks (decRef s n) (release (fuel+1) s n) := by
  simp only [release]
  split
  · rename_i hz
    split
    · exact erase_shrinks _ hz ..
    · exact (erase_shrinks _ hz ..).trans ((ih _ _).trans (ih _ _))
  · exact Shrinks.refl _

theorem release_shrinks : ∀ (fuel : Nat) (s : Store) (n : Nat), Shrinks s (release fuel s n)
  | 0, _, _ => ⟨rfl, rfl, rfl, fun _ h => h, Nat.le_refl _, fun _ => Nat.le_refl _, fun _ h h' => absurd h h', fun h => nomatch h⟩
  | fuel+1, s, n => (decRef_shrinks s n).trans (release_succ_shrinks (release_shrinks fuel) s n)

def ZSub (s : Store) (A : List Nat) : Prop := ∀ x, x ∈ s.ids → s.rc x = 0 → x ∈ A

theorem ZSub.mono {s : Store} {A B : List Nat} (h : ZSub s A) (hAB : ∀ x, x ∈ A → x ∈ B) : ZSub s B :=
  fun x hx hz => hAB x (h x hx hz)

theorem zsub_nil_iff {s : Store} : ZSub s [] ↔ NZ s :=
  ⟨fun h n hn hz => (List.not_mem_nil (h n hn hz)).elim, fun h n hn hz => absurd hz (h n hn)⟩

/-- `recursivelyDeleteMTBDDNode`: one pending decrement is carried out, everything that becomes unreferenced is freed, nothing
    else; no counter of a node that stays becomes 0 (`A`: the allocated nodes that had counter 0 before); `|ids| + 1` units
    of fuel are enough.  What else `release` leaves alone is `release_shrinks`. -/
theorem release_inv : ∀ (fuel : Nat) (s : Store) (n : Nat) (P : List Nat), WInv s (n :: P) → s.ids.length < fuel →
    WInv (release fuel s n) P ∧ ∀ A, ZSub s A → ZSub (release fuel s n) A
  | 0, _, _, _, _, hf => absurd hf (Nat.not_lt_zero _)
  | fuel+1, s, n, P, h, hf => by
    obtain ⟨h0, -, hrcx⟩ := decRef_inv h
    have hn : n ∈ s.ids := h.pin n List.mem_cons_self
    have hzx : ∀ A, ZSub s A → ∀ x, x ∈ s.ids.erase n → (decRef s n).rc x = 0 → x ∈ A := fun A hA x hx hz => by
      obtain ⟨hxn, hx⟩ := (mem_erase_iff' h.nd).mp hx
      exact hA x hx ((hrcx x hxn).symm.trans hz)
    have hlen : (s.ids.erase n).length < fuel := by
      have := List.length_erase_of_mem hn
      have := List.length_pos_of_mem hn
      omega
    simp only [release]
    split
    · rename_i hz0
      split
      · rename_i v hd
        exact ⟨disposeLeaf_inv h0 hn hz0 hd, hzx⟩
      · rename_i lo hi var hd
        obtain ⟨h2, z2⟩ := release_inv fuel _ lo (hi :: P) (unlinkInt_inv h0 hn hz0 hd) hlen
        obtain ⟨h3, z3⟩ := release_inv fuel _ hi P h2 (Nat.lt_of_le_of_lt (release_shrinks fuel _ lo).len hlen)
        exact ⟨h3, fun A hA => z3 A (z2 A (hzx A hA))⟩
    · rename_i hnz
      refine ⟨h0, fun A hA x hx hz => ?_⟩
      by_cases e : x = n
      · exact absurd (e ▸ hz) hnz
      · exact hA x hx ((hrcx x e).symm.trans hz)

/-- `s'` arises from `s` by allocations and increments only -/
structure Ext (s s' : Store) : Prop where
  ids  : ∀ x, x ∈ s.ids → x ∈ s'.ids
  dat  : ∀ x, x < s.next → s'.dat x = s.dat x
  hs   : s'.hs = s.hs
  next : s.next ≤ s'.next

theorem Ext.refl (s : Store) : Ext s s := ⟨fun _ h => h, fun _ _ => rfl, rfl, Nat.le_refl _⟩
theorem Ext.trans {s1 s2 s3 : Store} (a : Ext s1 s2) (b : Ext s2 s3) : Ext s1 s3 :=
  ⟨fun x h => b.ids x (a.ids x h), fun x h => (b.dat x (Nat.lt_of_lt_of_le h a.next)).trans (a.dat x h),
   b.hs.trans a.hs, Nat.le_trans a.next b.next⟩

theorem alloc_inv {s : Store} {d : Data} {rc' : Nat → Nat} {L : List (Nat × Nat)} {I : List (IKey × Nat)}
    (h : WInv s []) (hrcN : rc' s.next = 0)
    (hrc : ∀ x, x ∈ s.ids → rc' x = s.rc x + contrib (setF s.dat s.next d) x s.next)
    (hkids : ∀ lo hi var, d = .int lo hi var → lo ∈ s.ids ∧ hi ∈ s.ids)
    (hLK : KeysNodup L) (hL : ∀ v m, (v, m) ∈ L ↔ (m ∈ s.next :: s.ids ∧ setF s.dat s.next d m = .leaf v))
    (hIK : KeysNodup I)
    (hI : ∀ (k : IKey) m, (k, m) ∈ I ↔ (m ∈ s.next :: s.ids ∧ setF s.dat s.next d m = .int k.1 k.2.1 k.2.2)) :
    ∀ s', s' = { s with ids := s.next :: s.ids, dat := setF s.dat s.next d, rc := rc', leafT := L, intT := I,
                        next := s.next + 1 } → WInv s' [] ∧ Ext s s' := by
  rintro _ rfl
  have hN := h.next_not_mem
  have hdx : ∀ x, x ∈ s.ids → setF s.dat s.next d x = s.dat x := fun x hx => setF_ne _ _ (ne_of_mem_of_not_mem hx hN)
  have hlt : ∀ lo hi var, d = .int lo hi var → lo < s.next ∧ hi < s.next := fun lo hi var e =>
    ⟨h.fresh _ (hkids lo hi var e).1, h.fresh _ (hkids lo hi var e).2⟩
  have hdat : ∀ m, m ∈ s.next :: s.ids → ∀ lo hi var, setF s.dat s.next d m = .int lo hi var →
      (m = s.next ∧ d = .int lo hi var) ∨ (m ∈ s.ids ∧ s.dat m = .int lo hi var) := fun m hm lo hi var hd => by
    rcases List.mem_cons.mp hm with e | hm
    · rw [e, setF_same] at hd; exact Or.inl ⟨e, hd⟩
    · rw [hdx m hm] at hd; exact Or.inr ⟨hm, hd⟩
  refine ⟨⟨List.nodup_cons.mpr ⟨hN, h.nd⟩, ?_, nofun, fun r hr => List.mem_cons_of_mem _ (h.rin r hr),
    ?_, ?_, ?_, hLK, hL, hIK, hI, h.hsK, h.freedNd, ?_, h.noerr⟩, ?_⟩
  · intro x hx
    show rc' x = indegL (s.next :: s.ids) (setF s.dat s.next d) x + cnt x (roots s) + cnt x []
    rw [indegL_cons, indegL_congr hdx, cnt_nil]
    rcases List.mem_cons.mp hx with e | hx
    · have : contrib (setF s.dat s.next d) s.next s.next = 0 := by
        cases d with
        | leaf v => exact Vata.R.contrib_leaf (setF_same _ _ _) _
        | int lo hi var =>
          rw [Vata.R.contrib_int (setF_same _ _ _), if_neg (Nat.ne_of_lt (hlt lo hi var rfl).1),
            if_neg (Nat.ne_of_lt (hlt lo hi var rfl).2)]
      rw [e, hrcN, indegL_fresh h.closed hN, cnt_zero (fun hr => hN (h.rin _ hr)), this]
    · have := h.j x hx
      rw [cnt_nil] at this
      rw [hrc x hx]
      omega
  · intro m hm lo hi var hd
    rcases hdat m hm lo hi var hd with ⟨-, e⟩ | ⟨hm, hd⟩
    · exact ⟨List.mem_cons_of_mem _ (hkids lo hi var e).1, List.mem_cons_of_mem _ (hkids lo hi var e).2⟩
    · exact ⟨List.mem_cons_of_mem _ (h.closed m hm lo hi var hd).1, List.mem_cons_of_mem _ (h.closed m hm lo hi var hd).2⟩
  · intro m hm lo hi var hd
    rcases hdat m hm lo hi var hd with ⟨e1, e⟩ | ⟨hm, hd⟩
    · exact e1 ▸ hlt lo hi var e
    · exact h.ordered m hm lo hi var hd
  · intro n hn
    rcases List.mem_cons.mp hn with e | hn
    · exact e ▸ Nat.lt_succ_self _
    · exact Nat.lt_succ_of_lt (h.fresh n hn)
  · intro n hn
    obtain ⟨h1, h2⟩ := h.freedOk n hn
    refine ⟨fun hx => ?_, Nat.lt_succ_of_lt h2⟩
    rcases List.mem_cons.mp hx with e | hx
    · exact Nat.lt_irrefl _ (e ▸ h2)
    · exact h1 hx
  · exact ⟨fun x hx => List.mem_cons_of_mem _ hx, fun x hx => setF_ne _ _ (Nat.ne_of_lt hx), rfl, Nat.le_succ _⟩

theorem allocLeaf_inv {s : Store} {v : Nat} (h : WInv s []) (hf : find v s.leafT = none) :
    WInv (allocLeaf s v) [] ∧ Ext s (allocLeaf s v) :=
  have hN := h.next_not_mem
  alloc_inv (d := .leaf v) h (setF_same _ _ _)
    (fun x hx => by rw [Vata.R.contrib_leaf (setF_same _ _ _)]; exact setF_ne _ _ (ne_of_mem_of_not_mem hx hN))
    (fun _ _ _ e => nomatch e) (keysNodup_cons h.leafK hf) (mem_cons_fresh h.leafOk (fun _ _ => Data.leaf.inj) hN v)
    h.intK (mem_table_fresh h.intOk hN (fun _ e => nomatch e)) _ rfl

theorem allocInt_rc {s : Store} {lo hi var : Nat} {x : Nat} (hx : x ≠ s.next) :
    (allocInt s lo hi var).rc x = s.rc x + ((if lo = x then 1 else 0) + (if hi = x then 1 else 0)) := by
  show incrRc (incrRc (setF s.rc s.next 0) lo) hi x = _
  rw [incrRc_apply, incrRc_apply, setF_ne _ _ hx, Nat.add_assoc]

theorem allocInt_inv {s : Store} {lo hi var : Nat} (h : WInv s []) (hlo : lo ∈ s.ids) (hhi : hi ∈ s.ids)
    (hf : find (lo, hi, var) s.intT = none) :
    WInv (allocInt s lo hi var) [] ∧ Ext s (allocInt s lo hi var) := by
  have hN := h.next_not_mem
  refine alloc_inv (d := .int lo hi var) h ?_
    (fun x hx => by rw [Vata.R.contrib_int (setF_same _ _ _)]; exact allocInt_rc (ne_of_mem_of_not_mem hx hN))
    (fun _ _ _ e => by cases e; exact ⟨hlo, hhi⟩) h.leafK (mem_table_fresh h.leafOk hN (fun _ e => nomatch e))
    (keysNodup_cons h.intK hf) (mem_cons_fresh h.intOk int_inj hN (lo, hi, var)) _ rfl
  show incrRc (incrRc (setF s.rc s.next 0) lo) hi s.next = 0
  rw [incrRc_ne _ (Ne.symm (ne_of_mem_of_not_mem hhi hN)), incrRc_ne _ (Ne.symm (ne_of_mem_of_not_mem hlo hN)), setF_same]

theorem spawnLeaf_inv {s : Store} {v : Nat} (h : WInv s []) :
    WInv (spawnLeaf s v).1 [] ∧ Ext s (spawnLeaf s v).1 ∧ (spawnLeaf s v).2 ∈ (spawnLeaf s v).1.ids ∧
    (spawnLeaf s v).1.dat (spawnLeaf s v).2 = .leaf v ∧
    (∀ A, ZSub s A → ZSub (spawnLeaf s v).1 ((spawnLeaf s v).2 :: A)) := by
  unfold spawnLeaf
  split
  · rename_i n hf
    have := (h.leafOk v n).mp (find_some_mem hf)
    exact ⟨h, Ext.refl s, this.1, this.2, fun A hA => hA.mono (fun x hx => List.mem_cons_of_mem _ hx)⟩
  · rename_i hf
    obtain ⟨hw, he⟩ := allocLeaf_inv h hf
    have hN := h.next_not_mem
    refine ⟨hw, he, List.mem_cons_self, setF_same _ _ _, fun A hA x hx hz => ?_⟩
    rcases List.mem_cons.mp hx with e | hx'
    · exact e ▸ List.mem_cons_self
    · exact List.mem_cons_of_mem _ (hA x hx' ((setF_ne _ _ (ne_of_mem_of_not_mem hx' hN)).symm.trans hz))

/-- the counting part of `rc_inv` alone implies its last part (also inside an operation, where counters 0 do occur) -/
theorem WInv.zero_unreferenced {s : Store} {P : List Nat} (h : WInv s P) {n : Nat} (hn : n ∈ s.ids) (hz : s.rc n = 0) :
    n ∉ roots s ∧ ∀ m, m ∈ s.ids → ∀ lo hi var, s.dat m = .int lo hi var → lo ≠ n ∧ hi ≠ n :=
  let ⟨_, h2, h3, _⟩ := free_core h.nd hn h.j hz h.closed
  ⟨h2, h3⟩

theorem rc_pos_of_child {s : Store} {P : List Nat} (h : WInv s P) {m lo hi var : Nat} (hm : m ∈ s.ids)
    (hd : s.dat m = .int lo hi var) : s.rc lo ≠ 0 ∧ s.rc hi ≠ 0 :=
  have ⟨hlo, hhi⟩ := h.closed m hm lo hi var hd
  ⟨fun e => ((h.zero_unreferenced hlo e).2 m hm lo hi var hd).1 rfl,
   fun e => ((h.zero_unreferenced hhi e).2 m hm lo hi var hd).2 rfl⟩

theorem spawnInternal_inv {s : Store} {lo hi var : Nat} (h : WInv s []) (hlo : lo ∈ s.ids) (hhi : hi ∈ s.ids) :
    WInv (spawnInternal s lo hi var).1 [] ∧ Ext s (spawnInternal s lo hi var).1 ∧
    (spawnInternal s lo hi var).2 ∈ (spawnInternal s lo hi var).1.ids ∧
    (spawnInternal s lo hi var).1.dat (spawnInternal s lo hi var).2 = .int lo hi var ∧
    (∀ A, ZSub s (lo :: hi :: A) → ZSub (spawnInternal s lo hi var).1 ((spawnInternal s lo hi var).2 :: A)) := by
  have tail : ∀ {A : List Nat} {x : Nat}, x ∈ lo :: hi :: A → x ≠ lo → x ≠ hi → x ∈ A := fun hx h1 h2 =>
    (List.mem_cons.mp ((List.mem_cons.mp hx).resolve_left h1)).resolve_left h2
  unfold spawnInternal
  split
  · rename_i n hf
    have := (h.intOk (lo, hi, var) n).mp (find_some_mem hf)
    obtain ⟨p1, p2⟩ := rc_pos_of_child h this.1 this.2
    exact ⟨h, Ext.refl s, this.1, this.2, fun A hA x hx hz =>
      List.mem_cons_of_mem _ (tail (hA x hx hz) (fun e => p1 (e ▸ hz)) (fun e => p2 (e ▸ hz)))⟩
  · rename_i hf
    obtain ⟨hw, he⟩ := allocInt_inv h hlo hhi hf
    have hN := h.next_not_mem
    refine ⟨hw, he, List.mem_cons_self, setF_same _ _ _, fun A hA x hx hz => ?_⟩
    rcases List.mem_cons.mp hx with e | hx'
    · exact e ▸ List.mem_cons_self
    · have hz' : s.rc x + ((if lo = x then 1 else 0) + (if hi = x then 1 else 0)) = 0 :=
        (allocInt_rc (ne_of_mem_of_not_mem hx' hN)).symm.trans hz
      exact List.mem_cons_of_mem _ (tail (hA x hx' (by omega)) (fun e => by rw [if_pos e.symm] at hz'; omega)
        (fun e => by rw [if_pos e.symm] at hz'; omega))

theorem Zr_incRef {s : Store} {n : Nat} (h : Zr s) (hn : n ∈ s.ids) : Zr (incRef s n) :=
  fun x hx => (incrRc_ne _ (fun e : x = n => hx (e ▸ hn))).trans (h x hx)

theorem Zr_alloc {s s' : Store} (h : Zr s) (hids : s'.ids = s.next :: s.ids) (hrc : s'.rc = setF s.rc s.next 0) : Zr s' := by
  intro x hx
  rw [hids, List.mem_cons, not_or] at hx
  rw [hrc, setF_ne _ _ hx.1]
  exact h x hx.2

theorem Zr_spawnLeaf {s : Store} {v : Nat} (h : Zr s) : Zr (spawnLeaf s v).1 := by
  unfold spawnLeaf; split
  · exact h
  · exact Zr_alloc h rfl rfl

theorem Zr_spawnInternal {s : Store} {lo hi var : Nat} (h : Zr s) (hlo : lo ∈ s.ids) (hhi : hi ∈ s.ids) :
    Zr (spawnInternal s lo hi var).1 := by
  unfold spawnInternal; split
  · exact h
  · exact Zr_incRef (Zr_incRef (Zr_alloc h rfl rfl) (List.mem_cons_of_mem _ hlo)) (List.mem_cons_of_mem _ hhi)

/-- what an operation with target handle `t` leaves alone: contents of the existing nodes, the other handles -/
structure Frame (t : Nat) (s s' : Store) : Prop where
  next : s.next ≤ s'.next
  dat  : ∀ x, x < s.next → s'.dat x = s.dat x
  hs   : ∀ h r, (h, r) ∈ s.hs → h ≠ t → (h, r) ∈ s'.hs
  hs'  : ∀ h r, (h, r) ∈ s'.hs → h ≠ t → (h, r) ∈ s.hs

theorem Frame.refl (t : Nat) (s : Store) : Frame t s s := ⟨Nat.le_refl _, fun _ _ => rfl, fun _ _ h _ => h, fun _ _ h _ => h⟩
theorem Frame.trans {t : Nat} {s1 s2 s3 : Store} (a : Frame t s1 s2) (b : Frame t s2 s3) : Frame t s1 s3 :=
  ⟨Nat.le_trans a.next b.next, fun x h => (b.dat x (Nat.lt_of_lt_of_le h a.next)).trans (a.dat x h),
   fun h r hm ht => b.hs h r (a.hs h r hm ht) ht, fun h r hm ht => a.hs' h r (b.hs' h r hm ht) ht⟩
theorem Ext.frame {s s' : Store} (e : Ext s s') (t : Nat) : Frame t s s' :=
  ⟨e.next, e.dat, fun _ _ hm _ => e.hs ▸ hm, fun _ _ hm _ => e.hs ▸ hm⟩
theorem frame_addHandle (s : Store) (h r : Nat) : Frame h s (addHandle s h r) :=
  ⟨Nat.le_refl _, fun _ _ => rfl, fun _ _ hm _ => List.mem_cons_of_mem _ hm, fun h' r' hm ht => by
    rcases List.mem_cons.mp (show (h', r') ∈ (h, r) :: s.hs from hm) with e | hm
    · cases e; exact absurd rfl ht
    · exact hm⟩
theorem frame_disposeLeaf (t : Nat) (s : Store) (n v : Nat) : Frame t s (disposeLeaf s n v) :=
  ⟨Nat.le_refl _, fun _ _ => rfl, fun _ _ hm _ => hm, fun _ _ hm _ => hm⟩

theorem root_mem {s : Store} {h r : Nat} (hf : find h s.hs = some r) : r ∈ roots s :=
  List.mem_map.mpr ⟨(h, r), find_some_mem hf, rfl⟩

theorem addHandle_inv {s : Store} {h r : Nat} (hw : WInv s []) (hr : r ∈ s.ids) (hf : find h s.hs = none) :
    WInv (addHandle s h r) [] ∧ ∀ A, ZSub s (r :: A) → ZSub (addHandle s h r) A := by
  refine ⟨hw.update (fun x hx => ?_) hw.pin (fun r' hr' => ?_) (keysNodup_cons hw.hsK hf) hw.noerr, fun A hz x hx h0 => ?_⟩
  · have := hw.j x hx
    show incrRc s.rc r x = indegL s.ids s.dat x + cnt x (r :: roots s) + cnt x []
    rw [incrRc_apply, Vata.R.cnt_cons]
    omega
  · rcases List.mem_cons.mp hr' with e | hm
    · exact e ▸ hr
    · exact hw.rin r' hm
  · have h0 : incrRc s.rc r x = 0 := h0
    by_cases e : x = r
    · rw [e, incrRc_same] at h0; cases h0
    · rw [incrRc_ne _ e] at h0
      exact (List.mem_cons.mp (hz x hx h0)).resolve_left e

/-- what an operation with target handle `t` does to a store between two operations: the counting invariant holds again,
    the other handles and the contents of the existing nodes are as before (`Frame`), and no allocated node has counter 0
    that did not have it before.  With `NZ s` (no garbage: every history without `Project`) this is `Inv s → Inv s'`. -/
structure OpOk (t : Nat) (s s' : Store) : Prop where
  inv   : WInv s' []
  frame : Frame t s s'
  zsub  : ∀ A, ZSub s A → ZSub s' A
  zr    : Zr s → Zr s'

theorem OpOk.refl {s : Store} (t : Nat) (h : WInv s []) : OpOk t s s := ⟨h, Frame.refl _ _, fun _ hA => hA, id⟩

theorem OpOk.trans {t : Nat} {s1 s2 s3 : Store} (a : OpOk t s1 s2) (b : OpOk t s2 s3) : OpOk t s1 s3 :=
  ⟨b.inv, a.frame.trans b.frame, fun A hA => b.zsub A (a.zsub A hA), fun h => b.zr (a.zr h)⟩

theorem OpOk.nz {t : Nat} {s s' : Store} (o : OpOk t s s') (hz : NZ s) : NZ s' :=
  zsub_nil_iff.mp (o.zsub [] (zsub_nil_iff.mpr hz))

theorem OpOk.to_inv {t : Nat} {s s' : Store} (o : OpOk t s s') (hi : Inv s) : Inv s' ∧ Frame t s s' :=
  ⟨⟨o.inv, o.nz hi.2⟩, o.frame⟩

/-- wrapping a node `r` into the new handle `dst`, in a store `s'` reached from `s` by allocations in which `r` is the only
    new node whose counter may be 0 -/
theorem addHandle_ok {s s' : Store} {dst r : Nat} (hf : find dst s.hs = none) (w : WInv s' []) (e : Ext s s') (m : r ∈ s'.ids)
    (t : ∀ A, ZSub s A → ZSub s' (r :: A)) (hz : Zr s → Zr s') : OpOk dst s (addHandle s' dst r) :=
  have ⟨h1, h2⟩ := addHandle_inv (h := dst) w m (by rw [e.hs]; exact hf)
  ⟨h1, (e.frame dst).trans (frame_addHandle _ _ _), fun A hA => h2 A (t A hA), fun h => Zr_incRef (hz h) m⟩

theorem copy_ok {s : Store} {src dst : Nat} (h : WInv s []) : OpOk dst s (copy s src dst) := by
  unfold copy
  split
  · rename_i r hf1 hf2
    exact addHandle_ok hf2 h (Ext.refl s) (h.rin r (root_mem hf1)) (fun A hA => hA.mono fun _ hx => .tail _ hx) id
  · exact OpOk.refl _ h

theorem hsErase_inv {s : Store} {h r : Nat} (hw : WInv s []) (hm : (h, r) ∈ s.hs) :
    WInv { s with hs := s.hs.erase (h, r) } [r] := by
  refine hw.update (fun x hx => ?_) (fun p hp => List.mem_singleton.mp hp ▸ hw.rin r (List.mem_map_of_mem hm))
    (fun r' hr' => hw.rin r' ((List.erase_sublist.map _).subset hr')) (keysNodup_erase hw.hsK) hw.noerr
  have := hw.j x hx
  rw [roots, cnt_roots_erase hm] at this
  show s.rc x = indegL s.ids s.dat x + cnt x ((s.hs.erase (h, r)).map (·.2)) + cnt x [r]
  rw [Vata.R.cnt_cons]
  omega

/-- the destructor releases, and only releases: nodes and counters shrink, the contents stay -/
theorem destroy_shrinks (s : Store) (h : Nat) :
    (destroy s h).dat = s.dat ∧ (destroy s h).next = s.next ∧ ∀ x, x ∈ (destroy s h).ids → x ∈ s.ids := by
  unfold destroy
  split
  · exact ⟨rfl, rfl, fun _ hx => hx⟩
  · exact ⟨(release_shrinks ..).dat, (release_shrinks ..).next, (release_shrinks ..).ids⟩

theorem destroy_ok {s : Store} {h : Nat} (hi : WInv s []) :
    OpOk h s (destroy s h) ∧ ∀ r, (h, r) ∉ (destroy s h).hs := by
  have ⟨hd, hn, _⟩ := destroy_shrinks s h
  suffices key : WInv (destroy s h) [] ∧ (∀ A, ZSub s A → ZSub (destroy s h) A) ∧ (Zr s → Zr (destroy s h)) ∧
      ∀ h' r', (h', r') ∈ (destroy s h).hs ↔ (h', r') ∈ s.hs ∧ h' ≠ h from
    ⟨⟨key.1, ⟨Nat.le_of_eq hn.symm, fun x _ => by rw [hd], fun h' r' hm ht => (key.2.2.2 h' r').mpr ⟨hm, ht⟩,
      fun h' r' hm _ => ((key.2.2.2 h' r').mp hm).1⟩, key.2.1, key.2.2.1⟩, fun r hm => ((key.2.2.2 h r).mp hm).2 rfl⟩
  unfold destroy
  split
  · rename_i hf
    exact ⟨hi, fun _ hA => hA, id, fun h' r' => ⟨fun hm => ⟨hm, fun e => find_none_not_mem hf r' (e ▸ hm)⟩, And.left⟩⟩
  · rename_i r hf
    have hm := find_some_mem hf
    obtain ⟨h2, z2⟩ := release_inv (s.ids.length + 1) _ r [] (hsErase_inv hi hm) (Nat.lt_succ_self _)
    refine ⟨h2, fun A hA => z2 A hA, fun hz => (release_shrinks ..).zr hz, fun h' r' => ?_⟩
    rw [(release_shrinks ..).hs]
    show (h', r') ∈ s.hs.erase (h, r) ↔ _
    rw [List.Nodup.mem_erase_iff (nodup_of_keysNodup hi.hsK)]
    exact ⟨fun ⟨hne, hm'⟩ => ⟨hm', fun e => hne (by subst e; rw [keys_inj hi.hsK hm' hm])⟩,
      fun ⟨hm', hne⟩ => ⟨fun e => hne (congrArg Prod.fst e), hm'⟩⟩

theorem assign_ok {s : Store} {src dst : Nat} (hi : WInv s []) : OpOk dst s (assign s src dst) := by
  unfold assign
  split
  · exact OpOk.refl _ hi
  · split
    · exact (destroy_ok hi).1.trans (copy_ok (destroy_ok hi).1.inv)
    · exact OpOk.refl _ hi

theorem br_true_isInt {d1 d2 : Data} (h : br d1 d2 = true) : isInt d1 = true := by
  cases d1 <;> cases d2 <;> simp_all [br, isInt]

theorem kids_single {s : Store} (h : WInv s []) {n : Nat} (hn : n ∈ s.ids) (b : Bool) :
    (kids (s.dat n) b n).1 ∈ s.ids ∧ (kids (s.dat n) b n).2 ∈ s.ids ∧
    (kids (s.dat n) b n).1 ≤ n ∧ (kids (s.dat n) b n).2 ≤ n ∧
    (b = true → isInt (s.dat n) = true → (kids (s.dat n) b n).1 < n ∧ (kids (s.dat n) b n).2 < n) := by
  cases hd : s.dat n with
  | leaf v =>
    simp only [kids, isInt]
    exact ⟨hn, hn, Nat.le_refl _, Nat.le_refl _, fun _ h => by cases h⟩
  | int lo hi var =>
    obtain ⟨c1, c2⟩ := h.closed n hn lo hi var hd
    obtain ⟨o1, o2⟩ := h.ordered n hn lo hi var hd
    cases b
    · simp only [kids]
      exact ⟨hn, hn, Nat.le_refl _, Nat.le_refl _, fun h _ => by cases h⟩
    · simp only [kids]
      exact ⟨c1, c2, Nat.le_of_lt o1, Nat.le_of_lt o2, fun _ _ => ⟨o1, o2⟩⟩

theorem kids_ok {s : Store} (h : WInv s []) {n1 n2 : Nat} (h1 : n1 ∈ s.ids) (h2 : n2 ∈ s.ids)
    (hb : ¬ (br (s.dat n1) (s.dat n2) = false ∧ br (s.dat n2) (s.dat n1) = false)) :
    (kids (s.dat n1) (br (s.dat n1) (s.dat n2)) n1).1 ∈ s.ids ∧ (kids (s.dat n1) (br (s.dat n1) (s.dat n2)) n1).2 ∈ s.ids ∧
    (kids (s.dat n2) (br (s.dat n2) (s.dat n1)) n2).1 ∈ s.ids ∧ (kids (s.dat n2) (br (s.dat n2) (s.dat n1)) n2).2 ∈ s.ids ∧
    (kids (s.dat n1) (br (s.dat n1) (s.dat n2)) n1).1 + (kids (s.dat n2) (br (s.dat n2) (s.dat n1)) n2).1 < n1 + n2 ∧
    (kids (s.dat n1) (br (s.dat n1) (s.dat n2)) n1).2 + (kids (s.dat n2) (br (s.dat n2) (s.dat n1)) n2).2 < n1 + n2 := by
  obtain ⟨a1, a2, a3, a4, a5⟩ := kids_single h h1 (br (s.dat n1) (s.dat n2))
  obtain ⟨b1, b2, b3, b4, b5⟩ := kids_single h h2 (br (s.dat n2) (s.dat n1))
  refine ⟨a1, a2, b1, b2, ?_⟩
  cases e1 : br (s.dat n1) (s.dat n2) with
  | true =>
    have := a5 e1 (br_true_isInt e1)
    rw [e1] at this a3 a4
    constructor <;> omega
  | false =>
    cases e2 : br (s.dat n2) (s.dat n1) with
    | true =>
      have := b5 e2 (br_true_isInt e2)
      rw [e2] at this b3 b4
      rw [e1] at a3 a4
      constructor <;> omega
    | false => exact absurd ⟨e1, e2⟩ hb


end Vata.RcS
