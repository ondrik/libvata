import Vata.Proofs.NfaIncl
import Vata.Proofs.ListFacts
/-!
# The antichain exploration of the NFA inclusion functors, over an abstract insertion

`Init` and `MakePost` of `ExplicitFAInclusionFunctorCache` both feed candidate pairs to `AddNewPairToAntichain` (`Expl.feed`), and
the main loop is the same with and without a simulation (`Expl.loop`, `Expl.run`).  What the two explorations `runAC` and
`runACSim R` differ in is collected in `Expl`; what is proved about them needs one thing of `AddNewPairToAntichain`: that it is
the insertion into an antichain of a cover order `le` on pairs (`Expl.Inserts`; `le i j`, "the pair `i` covers the pair `j`", is
`⊆` of the macro-states, or `≤` modulo the simulation).  From that alone the pairs carry words that reach them and a `return
false` is justified (`Expl.run_ok`); when `le` is a preorder that is upward closed in the macro-state (`Expl.CoverOrder`) the
antichain of a `return true` is closed under post up to cover (`Expl.run_cert`) and the exploration ends within
`fuelBoundAC A B` picked pairs (`Expl.run_terminates`).
-/
namespace Vata
open Vata.W
namespace NfaIncl

theorem mem_insNext {it x : Item} : ∀ {l : List Item}, x ∈ insNext it l ↔ x = it ∨ x ∈ l
  | [] => List.mem_singleton.trans (by rw [or_iff_left List.not_mem_nil])
  | y :: l => by
    unfold insNext
    split
    · exact List.mem_cons
    · rw [List.mem_cons, mem_insNext (l := l), List.mem_cons]
      exact or_left_comm

theorem length_insNext {it : Item} : ∀ {N : List Item}, (insNext it N).length = N.length + 1
  | [] => rfl
  | x :: N => by
    unfold insNext
    split
    · rfl
    · simp [length_insNext (N := N)]

/-- the pair `MakePost` builds for the transition `e` -/
def succItem (B : NFA) (it : Item) (e : Nat × Nat × Nat) : Item :=
  ⟨e.2.2, macroStep B it.S e.2.1, it.w ++ [e.2.1]⟩

/-- the exit test of `MakePost` / `Init` -/
def badB (A B : NFA) (i : Item) : Bool := A.final.contains i.q && !W.accepting B i.S

theorem not_badB {A B : NFA} {i : Item} (h : ¬ badB A B i = true) : i.q ∈ A.final → W.accepting B i.S = true := by
  intro hf
  simp only [badB, Bool.and_eq_true, Bool.not_eq_true', not_and, Bool.not_eq_false] at h
  exact h (List.contains_iff_mem.mpr hf)

/-- the pairs `MakePost` builds for the picked pair `it` -/
def succs (B : NFA) (it : Item) (es : List (Nat × Nat × Nat)) : List Item :=
  (es.filter (fun e => e.1 == it.q)).map (succItem B it)

/-- the pairs of `Init` -/
def starts (S0 : List Nat) (ss : List Nat) : List Item := ss.map (fun s => ⟨s, S0, []⟩)

theorem succs_cons (B : NFA) (it : Item) (e : Nat × Nat × Nat) (es : List (Nat × Nat × Nat)) :
    succs B it (e :: es) = if e.1 == it.q then succItem B it e :: succs B it es else succs B it es := by
  unfold succs
  rw [List.filter_cons]
  split <;> rfl

theorem mem_succs {B : NFA} {it i : Item} {es : List (Nat × Nat × Nat)} :
    i ∈ succs B it es ↔ ∃ e, e ∈ es ∧ e.1 = it.q ∧ i = succItem B it e := by
  simp only [succs, List.mem_map, List.mem_filter, beq_iff_eq]
  constructor
  · rintro ⟨e, ⟨he, hq⟩, rfl⟩; exact ⟨e, he, hq, rfl⟩
  · rintro ⟨e, he, hq, rfl⟩; exact ⟨e, ⟨he, hq⟩, rfl⟩

/-- What the explorations `runAC` and `runACSim R` differ in: the state, `AddNewPairToAntichain` with `AddToNext`, and the
test by which `MakePost` drops a successor pair (`checkSmallerInBigger`; without a simulation there is none). -/
structure Expl (σ : Type) where
  antichain : σ → List Item
  next : σ → List Item
  setNext : σ → List Item → σ
  add : σ → Item → σ
  skip : Item → Bool
  empty : σ

namespace Expl
variable {σ : Type} (X : Expl σ) (A B : NFA)

/-- the common shape of `Init` and `MakePost`: the candidate pairs one after the other; a bad one ends the run -/
def feed (skip : Item → Bool) : List Item → σ → Res σ
  | [], st => .ok st
  | i :: is, st =>
    if badB A B i then .error i.w else if skip i then feed skip is st else feed skip is (X.add st i)

/-- what follows `MakePost` in the main loop -/
def andThen (r : Res σ) (k : σ → Option (Res (List Item))) : Option (Res (List Item)) :=
  match r with
  | .error w => some (.error w)
  | .ok st => k st

def loop : Nat → σ → Option (Res (List Item))
  | 0, _ => none
  | n+1, st =>
    match X.next st with
    | [] => some (.ok (X.antichain st))
    | it :: rest => andThen (X.feed A B X.skip (succs B it A.trans) (X.setNext st rest)) (loop n)

def run (fuel : Nat) : Option (Res (List Item)) :=
  andThen (X.feed A B (fun _ => false) (starts (normS B.start) A.start) X.empty) (X.loop A B fuel)

variable {X A B}

theorem loop_nil {st : σ} (hn : X.next st = []) (n : Nat) : X.loop A B (n+1) st = some (.ok (X.antichain st)) := by
  unfold loop; rw [hn]

theorem loop_cons {st : σ} {it : Item} {rest : List Item} (hn : X.next st = it :: rest) (n : Nat) :
    X.loop A B (n+1) st = andThen (X.feed A B X.skip (succs B it A.trans) (X.setNext st rest)) (X.loop A B n) := by
  unfold loop; rw [hn]

theorem feed_cons (skip : Item → Bool) (i : Item) (is : List Item) (st : σ) :
    X.feed A B skip (i :: is) st =
      if badB A B i then .error i.w else if skip i then X.feed A B skip is st else X.feed A B skip is (X.add st i) := rfl

/-- one candidate of a `feed` that returns normally: it is not bad, and is skipped or added -/
theorem feed_cons_ok {skip : Item → Bool} {i : Item} {is : List Item} {st st' : σ}
    (h : X.feed A B skip (i :: is) st = .ok st') :
    ¬ badB A B i = true ∧
      ((skip i = true ∧ X.feed A B skip is st = .ok st') ∨ X.feed A B skip is (X.add st i) = .ok st') := by
  rw [feed_cons] at h
  by_cases hb : badB A B i = true
  · rw [if_pos hb] at h; cases h
  · rw [if_neg hb] at h
    by_cases hs : skip i = true
    · rw [if_pos hs] at h; exact ⟨hb, Or.inl ⟨hs, h⟩⟩
    · rw [if_neg hs] at h; exact ⟨hb, Or.inr h⟩

theorem feed_ind {skip : Item → Bool} (Q : σ → Prop) : ∀ (is : List Item) (st st' : σ),
    (∀ st i, i ∈ is → ¬ badB A B i = true → Q st → Q (X.add st i)) → Q st →
      X.feed A B skip is st = .ok st' → Q st'
  | [], st, st', _, hQ, h => by cases h; exact hQ
  | i :: is, st, st', hadd, hQ, h => by
    have hadd' := fun st j (hj : j ∈ is) => hadd st j (List.mem_cons_of_mem _ hj)
    rcases feed_cons_ok h with ⟨hb, ⟨_, h⟩ | h⟩
    · exact feed_ind Q is st st' hadd' hQ h
    · exact feed_ind Q is _ st' hadd' (hadd st i List.mem_cons_self hb hQ) h

theorem feed_error {skip : Item → Bool} : ∀ (is : List Item) (st : σ) (w : List Nat),
    X.feed A B skip is st = .error w → ∃ i, i ∈ is ∧ badB A B i = true ∧ w = i.w
  | [], _, _, h => nomatch h
  | i :: is, st, w, h => by
    have tail : ∀ st1, X.feed A B skip is st1 = .error w → ∃ j, j ∈ i :: is ∧ badB A B j = true ∧ w = j.w :=
      fun st1 h1 => (feed_error is st1 w h1).imp fun j h' => ⟨List.mem_cons_of_mem _ h'.1, h'.2⟩
    rw [feed_cons] at h
    by_cases hb : badB A B i = true
    · rw [if_pos hb] at h
      exact ⟨i, List.mem_cons_self, hb, (Except.error.inj h).symm⟩
    · rw [if_neg hb] at h
      by_cases hs : skip i = true
      · rw [if_pos hs] at h; exact tail _ h
      · rw [if_neg hs] at h; exact tail _ h

end Expl


/-- the word of a pair reaches it: `q ∈ run A w` and `S = run B w` -/
def WordOK (A B : NFA) (i : Item) : Prop :=
  (∃ s, s ∈ A.start ∧ Path A s i.w i.q) ∧ ∀ x, x ∈ i.S ↔ x ∈ run B i.w

theorem succItem_ok {A B : NFA} {it : Item} {e : Nat × Nat × Nat} (hi : WordOK A B it) (he : e ∈ A.trans)
    (hq : e.1 = it.q) : WordOK A B (succItem B it e) := by
  obtain ⟨⟨s, hs, hp⟩, hS⟩ := hi
  constructor
  · refine ⟨s, hs, ?_⟩
    apply hp.snoc
    show (it.q, e.2.1, e.2.2) ∈ A.trans
    rw [← hq]; exact he
  · intro x
    show x ∈ normS (stepW B it.S e.2.1) ↔ x ∈ run B (it.w ++ [e.2.1])
    rw [mem_normS, W.run_snoc, W.stepW_congr B hS]

theorem succs_ok {A B : NFA} {it : Item} (hi : WordOK A B it) : ∀ i, i ∈ succs B it A.trans → WordOK A B i := by
  intro i hm
  obtain ⟨e, he, hq, rfl⟩ := mem_succs.mp hm
  exact succItem_ok hi he hq

theorem starts_ok {A B : NFA} : ∀ i, i ∈ starts (normS B.start) A.start → WordOK A B i := by
  intro i hm
  obtain ⟨s, hs, rfl⟩ := List.mem_map.mp hm
  exact ⟨⟨s, hs, .nil s⟩, fun _ => mem_normS⟩

theorem bad_counterexample {A B : NFA} {i : Item} (hi : WordOK A B i) (hb : badB A B i = true) :
    acceptsW A i.w = true ∧ acceptsW B i.w = false := by
  simp only [badB, Bool.and_eq_true, Bool.not_eq_true', List.contains_iff_mem] at hb
  obtain ⟨⟨s, hs, hp⟩, hS⟩ := hi
  constructor
  · exact (acceptsW_iff A i.w).mpr ⟨s, hs, i.q, hb.1, hp⟩
  · show W.accepting B (run B i.w) = false
    rw [← W.accepting_congr B hS]; exact hb.2

/-- the states a pair of the exploration can have on the `A` side / in its macro-state -/
def domS (N : NFA) : List Nat := N.start ++ N.trans.map (·.2.2)

def Dom (A B : NFA) (i : Item) : Prop := i.q ∈ domS A ∧ ∀ x, x ∈ i.S → x ∈ domS B

theorem stepW_sub_domS {N : NFA} {S : List Nat} {a x : Nat} (h : x ∈ stepW N S a) : x ∈ domS N :=
  let ⟨_, _, he⟩ := mem_stepW.mp h
  List.mem_append_right _ (List.mem_map.mpr ⟨_, he, rfl⟩)

theorem dom_succs {A B : NFA} {it : Item} : ∀ i, i ∈ succs B it A.trans → Dom A B i := by
  intro i hm
  obtain ⟨e, he, _, rfl⟩ := mem_succs.mp hm
  constructor
  · exact List.mem_append_right _ (List.mem_map.mpr ⟨e, he, rfl⟩)
  · exact fun x hx => stepW_sub_domS (mem_normS.mp hx)

theorem dom_starts {A B : NFA} : ∀ i, i ∈ starts (normS B.start) A.start → Dom A B i := by
  intro i hm
  obtain ⟨s, hs, rfl⟩ := List.mem_map.mp hm
  exact ⟨List.mem_append_left _ hs, fun _ hx => List.mem_append_left _ (mem_normS.mp hx)⟩


namespace Expl
variable {σ : Type} {X : Expl σ} {A B : NFA} {J : σ → Prop} {le : Item → Item → Prop}

/-- some pair of `P` covers the pair `i` -/
def CovBy (le : Item → Item → Prop) (P : List Item) (i : Item) : Prop := ∃ j, j ∈ P ∧ le j i

/-- What `AddNewPairToAntichain` with `AddToNext` does, for the cover order `le`, on the states that satisfy `J` (what else the
state keeps: nothing, or `singleAntichain_` complete): a covered pair is dropped; a pair that is not covered replaces the pairs
it covers, in the antichain and (when the work-list is inside the antichain) in the work-list, which grows by one pair at most.
Nothing is asked of `le` here. -/
structure Inserts (X : Expl σ) (J : σ → Prop) (le : Item → Item → Prop) : Prop where
  antichain_setNext : ∀ st l, X.antichain (X.setNext st l) = X.antichain st
  next_setNext : ∀ st l, X.next (X.setNext st l) = l
  antichain_empty : X.antichain X.empty = []
  next_empty : X.next X.empty = []
  keep_empty : J X.empty
  keep_setNext : ∀ {st l}, J st → J (X.setNext st l)
  keep_add : ∀ {st i}, J st → J (X.add st i)
  covered : ∀ {st i}, J st → CovBy le (X.antichain st) i → X.add st i = st
  mem_antichain : ∀ {st i}, J st → ¬ CovBy le (X.antichain st) i →
    ∀ j, j ∈ X.antichain (X.add st i) ↔ (j ∈ X.antichain st ∧ ¬ le i j) ∨ j = i
  mem_next : ∀ {st i}, J st → (∀ j, j ∈ X.next st → j ∈ X.antichain st) → ¬ CovBy le (X.antichain st) i →
    ∀ j, j ∈ X.next (X.add st i) ↔ (j ∈ X.next st ∧ ¬ le i j) ∨ j = i
  next_length : ∀ {st i}, (X.next (X.add st i)).length ≤ (X.next st).length + 1

/-- `le` is a preorder on the pairs of the exploration that looks at the state and at the macro-state of a pair only and is
upward closed in the macro-state of the covered pair.  `refl` is asked only on `Dom A B`: the order modulo a relation `R` is
reflexive only where `R` is (`PreOn`, `leR_order` in `NfaInclSimACInv`) -/
structure CoverOrder (A B : NFA) (le : Item → Item → Prop) : Prop where
  refl : ∀ {i}, Dom A B i → le i i
  trans : ∀ {i j k}, le i j → le j k → le i k
  up : ∀ {i j j'}, le i j → j'.q = j.q → (∀ x, x ∈ j.S → x ∈ j'.S) → le i j'

/-- what every state of the exploration satisfies, whatever the order is: `J`, and the work-list is inside the antichain -/
def WF (X : Expl σ) (J : σ → Prop) (st : σ) : Prop := J st ∧ ∀ j, j ∈ X.next st → j ∈ X.antichain st

section insertion
variable (hI : X.Inserts J le)
include hI

theorem Inserts.wf_empty : WF X J X.empty :=
  ⟨hI.keep_empty, fun j hj => by rw [hI.next_empty] at hj; cases hj⟩

theorem Inserts.wf_setNext {st : σ} {it : Item} {rest : List Item} (h : WF X J st) (hn : X.next st = it :: rest) :
    WF X J (X.setNext st rest) :=
  ⟨hI.keep_setNext h.1, fun j hj => by
    rw [hI.next_setNext] at hj
    rw [hI.antichain_setNext]
    exact h.2 j (hn ▸ List.mem_cons_of_mem _ hj)⟩

theorem Inserts.wf_add {st : σ} {i : Item} (h : WF X J st) : WF X J (X.add st i) := by
  refine ⟨hI.keep_add h.1, fun j hj => ?_⟩
  by_cases hc : CovBy le (X.antichain st) i
  · rw [hI.covered h.1 hc] at hj ⊢; exact h.2 j hj
  · rcases (hI.mem_next h.1 h.2 hc j).mp hj with ⟨hj, hij⟩ | rfl
    · exact (hI.mem_antichain h.1 hc j).mpr (Or.inl ⟨h.2 j hj, hij⟩)
    · exact (hI.mem_antichain h.1 hc j).mpr (Or.inr rfl)

/-- adding a pair brings in no other pair -/
theorem Inserts.mem_add {st : σ} {i j : Item} (h : WF X J st) :
    (j ∈ X.antichain (X.add st i) → j ∈ X.antichain st ∨ j = i) ∧ (j ∈ X.next (X.add st i) → j ∈ X.next st ∨ j = i) := by
  by_cases hc : CovBy le (X.antichain st) i
  · rw [hI.covered h.1 hc]; exact ⟨Or.inl, Or.inl⟩
  · exact ⟨fun hj => ((hI.mem_antichain h.1 hc j).mp hj).imp_left And.left,
      fun hj => ((hI.mem_next h.1 h.2 hc j).mp hj).imp_left And.left⟩

/-! ### the words of the pairs -/

variable (X A B) in
def AllOK (st : σ) : Prop :=
  (∀ i, i ∈ X.antichain st → WordOK A B i) ∧ (∀ i, i ∈ X.next st → WordOK A B i)

theorem feed_ok {skip : Item → Bool} {is : List Item} (his : ∀ i, i ∈ is → WordOK A B i) {st st' : σ}
    (h : X.AllOK A B st ∧ WF X J st) (hp : X.feed A B skip is st = .ok st') : X.AllOK A B st' ∧ WF X J st' := by
  refine feed_ind (fun s => X.AllOK A B s ∧ WF X J s) is st st'
    (fun st i hi _ hQ => ⟨⟨fun j hj => ?_, fun j hj => ?_⟩, hI.wf_add hQ.2⟩) h hp
  · exact ((hI.mem_add hQ.2).1 hj).elim (hQ.1.1 j) (fun e => e ▸ his i hi)
  · exact ((hI.mem_add hQ.2).2 hj).elim (hQ.1.2 j) (fun e => e ▸ his i hi)

omit hI in
theorem feed_error_ok {skip : Item → Bool} {is : List Item} (his : ∀ i, i ∈ is → WordOK A B i) {st : σ} {w : List Nat}
    (hp : X.feed A B skip is st = .error w) : acceptsW A w = true ∧ acceptsW B w = false := by
  obtain ⟨i, hi, hb, rfl⟩ := feed_error is st w hp
  exact bad_counterexample (his i hi) hb

/-- what a finished run says: the pairs of a `return true` carry words that reach them, a `return false` is justified -/
def ResOK (A B : NFA) (r : Option (Res (List Item))) : Prop :=
  (∀ P, r = some (.ok P) → ∀ i, i ∈ P → WordOK A B i) ∧
  (∀ w, r = some (.error w) → acceptsW A w = true ∧ acceptsW B w = false)

omit hI in
theorem andThen_ok {skip : Item → Bool} {is : List Item} (his : ∀ i, i ∈ is → WordOK A B i) {st : σ}
    {k : σ → Option (Res (List Item))} (hk : ∀ st', X.feed A B skip is st = .ok st' → ResOK A B (k st')) :
    ResOK A B (andThen (X.feed A B skip is st) k) := by
  cases hp : X.feed A B skip is st with
  | ok st' => exact hk st' hp
  | error w =>
    refine ⟨fun _ h => (nomatch h), fun w' h => ?_⟩
    cases h
    exact feed_error_ok his hp

theorem loop_ok : ∀ (n : Nat) (st : σ), X.AllOK A B st ∧ WF X J st → ResOK A B (X.loop A B n st)
  | 0, _, _ => ⟨fun _ h => (nomatch h), fun _ h => nomatch h⟩
  | n+1, st, hst => by
    unfold loop
    split
    · refine ⟨fun P h => ?_, fun _ h => nomatch h⟩
      cases h; exact hst.1.1
    · next it rest hn =>
      have hit : WordOK A B it := hst.1.2 it (by rw [hn]; exact List.mem_cons_self)
      have hst' : X.AllOK A B (X.setNext st rest) := by
        constructor
        · intro i hi; rw [hI.antichain_setNext] at hi; exact hst.1.1 i hi
        · intro i hi; rw [hI.next_setNext] at hi; exact hst.1.2 i (by rw [hn]; exact List.mem_cons_of_mem _ hi)
      exact andThen_ok (succs_ok hit) fun st' h' =>
        loop_ok n st' (feed_ok hI (succs_ok hit) ⟨hst', hI.wf_setNext hst.2 hn⟩ h')

theorem run_ok (fuel : Nat) : ResOK A B (X.run A B fuel) := by
  have h0 : X.AllOK A B X.empty := by
    constructor
    · intro i hi; rw [hI.antichain_empty] at hi; cases hi
    · intro i hi; rw [hI.next_empty] at hi; cases hi
  exact andThen_ok starts_ok fun st hst => loop_ok hI fuel st (feed_ok hI starts_ok ⟨h0, hI.wf_empty⟩ hst)

end insertion

/-! ### the loop invariant -/

def Closed (X : Expl σ) (A B : NFA) (le : Item → Item → Prop) (P : List Item) (it : Item) : Prop :=
  ∀ i, i ∈ succs B it A.trans → X.skip i = true ∨ CovBy le P i

/-- the invariant of the exploration; `H` describes the pair being processed -/
structure Inv (X : Expl σ) (A B : NFA) (J : σ → Prop) (le : Item → Item → Prop) (H : Item → Prop) (st : σ) : Prop where
  wf : WF X J st
  done : ∀ i, i ∈ X.antichain st → i ∈ X.next st ∨ X.Closed A B le (X.antichain st) i ∨ H i
  good : ∀ i, i ∈ X.antichain st → i.q ∈ A.final → W.accepting B i.S = true
  dom : ∀ i, i ∈ X.antichain st → Dom A B i

section order
variable (hO : CoverOrder A B le) (hI : X.Inserts J le)
include hO hI

/-- being covered is never lost: an erased pair is covered by the inserted one -/
theorem Inserts.cov_mono {st : σ} {i j : Item} (hJ : J st) (h : CovBy le (X.antichain st) j) :
    CovBy le (X.antichain (X.add st i)) j := by
  by_cases hc : CovBy le (X.antichain st) i
  · rw [hI.covered hJ hc]; exact h
  · obtain ⟨k, hk, hkj⟩ := h
    by_cases hik : le i k
    · exact ⟨i, (hI.mem_antichain hJ hc i).mpr (Or.inr rfl), hO.trans hik hkj⟩
    · exact ⟨k, (hI.mem_antichain hJ hc k).mpr (Or.inl ⟨hk, hik⟩), hkj⟩

theorem Inserts.cov_self {st : σ} {i : Item} (hJ : J st) (hd : Dom A B i) : CovBy le (X.antichain (X.add st i)) i := by
  by_cases hc : CovBy le (X.antichain st) i
  · rw [hI.covered hJ hc]; exact hc
  · exact ⟨i, (hI.mem_antichain hJ hc i).mpr (Or.inr rfl), hO.refl hd⟩

theorem Inv.add {H : Item → Prop} {st : σ} {it : Item} (h : X.Inv A B J le H st)
    (hg : it.q ∈ A.final → W.accepting B it.S = true) (hd : Dom A B it) : X.Inv A B J le H (X.add st it) := by
  by_cases hc : CovBy le (X.antichain st) it
  · rw [hI.covered h.wf.1 hc]; exact h
  have hanti := hI.mem_antichain h.wf.1 hc
  have hnext := hI.mem_next h.wf.1 h.wf.2 hc
  refine ⟨hI.wf_add h.wf, fun i hi => ?_, fun i hi => ?_, fun i hi => ?_⟩
  · rcases (hanti i).mp hi with ⟨h1, h2⟩ | rfl
    · rcases h.done i h1 with hn | hcl | hH
      · exact Or.inl ((hnext i).mpr (Or.inl ⟨hn, h2⟩))
      · exact Or.inr (Or.inl fun j hj => (hcl j hj).imp_right (hI.cov_mono hO h.wf.1))
      · exact Or.inr (Or.inr hH)
    · exact Or.inl ((hnext i).mpr (Or.inr rfl))
  · rcases (hanti i).mp hi with ⟨h1, _⟩ | rfl
    · exact h.good i h1
    · exact hg
  · rcases (hanti i).mp hi with ⟨h1, _⟩ | rfl
    · exact h.dom i h1
    · exact hd

/-- the state `Init` / `MakePost` leave: the invariant, nothing lost, and every candidate skipped or covered -/
theorem feed_inv {H : Item → Prop} {skip : Item → Bool} :
    ∀ (is : List Item) (st st' : σ), (∀ i, i ∈ is → Dom A B i) → X.Inv A B J le H st →
    X.feed A B skip is st = .ok st' →
      X.Inv A B J le H st' ∧ (∀ j, CovBy le (X.antichain st) j → CovBy le (X.antichain st') j) ∧
      (∀ i, i ∈ is → skip i = true ∨ CovBy le (X.antichain st') i)
  | [], st, st', _, hI', h => by cases h; exact ⟨hI', fun _ h => h, fun _ hi => nomatch hi⟩
  | i :: is, st, st', his, hI', h => by
    have his' : ∀ j, j ∈ is → Dom A B j := fun j hj => his j (List.mem_cons_of_mem _ hj)
    have hd : Dom A B i := his i List.mem_cons_self
    rcases feed_cons_ok h with ⟨hb, ⟨hsk, h⟩ | h⟩
    · obtain ⟨h1, h2, h3⟩ := feed_inv is st st' his' hI' h
      refine ⟨h1, h2, fun j hj => ?_⟩
      rcases List.mem_cons.mp hj with rfl | hj
      · exact Or.inl hsk
      · exact h3 j hj
    · obtain ⟨h1, h2, h3⟩ := feed_inv is _ st' his' (hI'.add hO hI (not_badB hb) hd) h
      refine ⟨h1, fun j hj => h2 j (hI.cov_mono hO hI'.wf.1 hj), fun j hj => ?_⟩
      rcases List.mem_cons.mp hj with rfl | hj
      · exact Or.inr (h2 _ (hI.cov_self hO hI'.wf.1 hd))
      · exact h3 j hj

/-- what a finished `true` run leaves -/
structure Cert (X : Expl σ) (A B : NFA) (le : Item → Item → Prop) (P : List Item) : Prop where
  start : ∀ i, i ∈ starts (normS B.start) A.start → CovBy le P i
  closed : ∀ i, i ∈ P → X.Closed A B le P i
  good : ∀ i, i ∈ P → i.q ∈ A.final → W.accepting B i.S = true
  dom : ∀ i, i ∈ P → Dom A B i

theorem loop_cert : ∀ (n : Nat) (st : σ) (P : List Item),
    X.Inv A B J le (fun _ => False) st → (∀ i, i ∈ starts (normS B.start) A.start → CovBy le (X.antichain st) i) →
    X.loop A B n st = some (.ok P) → X.Cert A B le P
  | 0, _, _, _, _, h => nomatch h
  | n+1, st, P, hv, hS, h => by
    cases hn : X.next st with
    | nil =>
      rw [loop_nil hn] at h
      cases h
      refine ⟨hS, fun i hi => ?_, hv.good, hv.dom⟩
      rcases hv.done i hi with hd | hd | hd
      · rw [hn] at hd; cases hd
      · exact hd
      · exact hd.elim
    | cons it rest =>
      rw [loop_cons hn] at h
      cases h' : X.feed A B X.skip (succs B it A.trans) (X.setNext st rest) with
      | error w => rw [h'] at h; cases h
      | ok st' =>
        rw [h'] at h
        -- the picked pair leaves the work-list: it is the one being processed
        have hv' : X.Inv A B J le (fun i => i = it) (X.setNext st rest) := by
          refine ⟨hI.wf_setNext hv.wf hn, ?_, ?_, ?_⟩
          · intro i hi
            rw [hI.antichain_setNext] at hi ⊢
            rw [hI.next_setNext]
            rcases hv.done i hi with hd | hd | hd
            · rw [hn] at hd
              rcases List.mem_cons.mp hd with hd | hd
              · exact Or.inr (Or.inr hd)
              · exact Or.inl hd
            · exact Or.inr (Or.inl hd)
            · exact hd.elim
          · intro i hi; rw [hI.antichain_setNext] at hi; exact hv.good i hi
          · intro i hi; rw [hI.antichain_setNext] at hi; exact hv.dom i hi
        obtain ⟨h1, h2, h3⟩ := feed_inv hO hI _ _ st' dom_succs hv' h'
        refine loop_cert n st' P ⟨h1.wf, fun i hi => ?_, h1.good, h1.dom⟩
          (fun i hi => h2 i (by rw [hI.antichain_setNext]; exact hS i hi)) h
        -- … and all its successors have been skipped or covered
        rcases h1.done i hi with hd | hd | hd
        · exact Or.inl hd
        · exact Or.inr (Or.inl hd)
        · subst hd; exact Or.inr (Or.inl h3)

theorem run_cert {fuel : Nat} {P : List Item} (h : X.run A B fuel = some (.ok P)) : X.Cert A B le P := by
  unfold run at h
  cases hst : X.feed A B (fun _ => false) (starts (normS B.start) A.start) X.empty with
  | error w => rw [hst] at h; cases h
  | ok st =>
    rw [hst] at h
    have hv0 : X.Inv A B J le (fun _ => False) X.empty := by
      refine ⟨hI.wf_empty, ?_, ?_, ?_⟩
      all_goals rw [hI.antichain_empty]; intro _ hi; cases hi
    obtain ⟨h1, _, h3⟩ := feed_inv hO hI _ _ st dom_starts hv0 hst
    exact loop_cert hO hI fuel st P h1 (fun i hi => (h3 i hi).resolve_left Bool.false_ne_true) h

end order
end Expl

/-! ### termination -/

theorem length_domS (N : NFA) : (domS N).length = N.start.length + N.trans.length := by
  simp [domS]

/-- bounds the number of picked pairs: twice the length of `pairUniv (domS A) (domS B)` (entry of `domS A`, sublist of `domS B`;
`domS` lists the start states and transition targets with repetitions, so this is above the number of pairs (state, set)) -/
def fuelBoundAC (A B : NFA) : Nat :=
  2 * ((A.start.length + A.trans.length) * 2 ^ (B.start.length + B.trans.length))

namespace Expl
variable {σ : Type} {X : Expl σ} {A B : NFA} {J : σ → Prop} {le : Item → Item → Prop}

open Classical in
/-- the pairs of the universe that `P` does not cover -/
noncomputable def uncovered (le : Item → Item → Prop) (A B : NFA) (P : List Item) : Nat :=
  (pairUniv (domS A) (domS B)).countP (fun p => !decide (CovBy le P ⟨p.1, p.2, []⟩))

/-- The measure: twice the number of uncovered pairs of the universe plus the length of the work-list.  A pair that is really
inserted was not covered and is covered afterwards, nothing covered is lost and the work-list grows by one pair at most, so
`MakePost` does not raise it; every picked pair lowers it by one. -/
noncomputable def potential (X : Expl σ) (le : Item → Item → Prop) (A B : NFA) (st : σ) : Nat :=
  2 * uncovered le A B (X.antichain st) + (X.next st).length

variable (hO : CoverOrder A B le) (hI : X.Inserts J le)
include hO

omit hI in
theorem CoverOrder.covBy_up {P : List Item} {i i' : Item} (h : CovBy le P i) (hq : i'.q = i.q)
    (hS : ∀ x, x ∈ i.S → x ∈ i'.S) : CovBy le P i' :=
  h.imp fun _ hj => ⟨hj.1, hO.up hj.2 hq hS⟩

include hI

open Classical in
theorem Inserts.potential_add {st : σ} {i : Item} (hJ : J st) (hd : Dom A B i) :
    potential X le A B (X.add st i) ≤ potential X le A B st := by
  by_cases hc : CovBy le (X.antichain st) i
  · rw [hI.covered hJ hc]; exact Nat.le_refl _
  · have up : ∀ (P : List Item) (q : Nat) {S S' : List Nat}, (∀ x, x ∈ S → x ∈ domS B) → (∀ x, x ∈ S → x ∈ S') →
        decide (CovBy le P ⟨q, S, []⟩) = true → decide (CovBy le P ⟨q, S', []⟩) = true :=
      fun P q _ _ _ hS h => decide_eq_true (hO.covBy_up (of_decide_eq_true h) rfl hS)
    have h1 : uncovered le A B (X.antichain (X.add st i)) < uncovered le A B (X.antichain st) :=
      uncovered_lt (up _) (up _) (fun q S h => decide_eq_true (hI.cov_mono hO hJ (of_decide_eq_true h))) hd.1 hd.2
        (decide_eq_false fun h => hc (hO.covBy_up h rfl fun _ hx => hx))
        (decide_eq_true (hO.covBy_up (hI.cov_self hO hJ hd) rfl fun _ hx => hx))
    have h2 := hI.next_length (st := st) (i := i)
    unfold potential
    omega

theorem feed_below {skip : Item → Bool} {is : List Item} (his : ∀ i, i ∈ is → Dom A B i)
    {st st' : σ} (hJ : J st) (h : X.feed A B skip is st = .ok st') :
    J st' ∧ potential X le A B st' ≤ potential X le A B st :=
  feed_ind (fun s => J s ∧ potential X le A B s ≤ potential X le A B st) is st st'
    (fun _ i hi _ hQ => ⟨hI.keep_add hQ.1, Nat.le_trans (hI.potential_add hO hQ.1 (his i hi)) hQ.2⟩)
    ⟨hJ, Nat.le_refl _⟩ h

theorem loop_terminates :
    ∀ (n : Nat) (st : σ), J st → potential X le A B st < n → ∃ r, X.loop A B n st = some r
  | 0, _, _, h => absurd h (Nat.not_lt_zero _)
  | n+1, st, hJ, h => by
    cases hn : X.next st with
    | nil => exact ⟨_, loop_nil hn n⟩
    | cons it rest =>
      rw [loop_cons hn]
      have hlt : potential X le A B (X.setNext st rest) + 1 = potential X le A B st := by
        unfold potential
        rw [hI.antichain_setNext, hI.next_setNext, hn, List.length_cons]
        omega
      cases h' : X.feed A B X.skip (succs B it A.trans) (X.setNext st rest) with
      | error w => exact ⟨_, rfl⟩
      | ok st' =>
        obtain ⟨h1, h2⟩ := feed_below hO hI dom_succs (hI.keep_setNext hJ) h'
        exact loop_terminates n st' h1 (by omega)

/-- the exploration ends within `fuelBoundAC A B` picked pairs -/
theorem run_terminates {fuel : Nat} (h : fuelBoundAC A B < fuel) : ∃ r, X.run A B fuel = some r := by
  have h0 : potential X le A B X.empty < fuel := by
    refine Nat.lt_of_le_of_lt ?_ h
    unfold potential uncovered fuelBoundAC
    rw [hI.next_empty, ← length_domS, ← length_domS, ← length_pairUniv]
    exact Nat.mul_le_mul_left 2 List.countP_le_length
  unfold run
  cases hst : X.feed A B (fun _ => false) (starts (normS B.start) A.start) X.empty with
  | error w => exact ⟨_, rfl⟩
  | ok st =>
    obtain ⟨h1, h2⟩ := feed_below hO hI dom_starts hI.keep_empty hst
    exact loop_terminates hO hI fuel st h1 (by omega)

end Expl
end NfaIncl
end Vata
