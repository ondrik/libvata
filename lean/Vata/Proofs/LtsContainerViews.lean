import Vata.Proofs.LtsContainerInv
import Vata.Proofs.LtsEngineAux
/-!
# `ExplicitLTS` container: the invariant of `bwLabels_` over every history and the views after the repaired `init()` (C16)
-/
namespace Vata.LC
open Vata.L

theorem pre_nil_of_ge (c : LtsC) (a r : Nat) (h : c.data.length ≤ a) : c.pre a r = [] := by
  simp [LtsC.pre, List.getD_eq_getElem?_getD, List.getElem?_eq_none h]

/-- the invariant of the index of incoming labels (holds after EVERY history of the repaired class, `binv_run`): no set was
ever asked for a key out of its range, and a label that is in the index of `r` has an edge into `r` -/
structure BInv (c : LtsC) : Prop where
  len : c.bw.length ≤ c.states
  ub : c.ub = false
  bad : ∀ r, r < c.bw.length → (c.bw.getD r default).bad = false
  keys : ∀ r, r < c.bw.length →
    (c.bw.getD r default).keys.Nodup ∧ ∀ a ∈ (c.bw.getD r default).keys, c.pre a r ≠ []

theorem binv_empty (c : LtsC) (h : c.bw = []) (hu : c.ub = false) : BInv c :=
  ⟨by simp [h], hu, fun r hr => by simp [h] at hr, fun r hr => by simp [h] at hr⟩

theorem binv_add (L : LTS) (c : LtsC) (d : DInv L c) (b : BInv c) (q a r : Nat) : BInv (addTransition c q a r) := by
  obtain ⟨hbw, hub⟩ := addTransition_bw c q a r
  refine ⟨?_, by rw [hub]; exact b.ub, fun r' hr => ?_, fun r' hr => ?_⟩
  · rw [hbw, addTransition_states c q a r (d.lens a).1 (d.lens a).2]
    exact Nat.le_trans b.len (Nat.le_trans (Nat.le_max_left _ _) (Nat.le_max_left _ _))
  · rw [hbw] at hr ⊢; exact b.bad r' hr
  · rw [hbw] at hr ⊢
    refine ⟨(b.keys r' hr).1, fun a' ha => ?_⟩
    rw [addTransition_pre]
    split
    · simp
    · exact (b.keys r' hr).2 a' ha

/-- set `r` after the repaired `init()`: the fresh set of the current range taken through all labels; the old `bwLabels_`
does not occur -/
theorem init_set (L : LTS) (c : LtsC) (d : DInv L c) (r : Nat) (hr : r < c.states) :
    (init c).bw.getD r default = initSetF (fun a => (c.pre a r).length) (SSet.new c.data.length) c.data.length := by
  rw [(init_spec c (fun a => (d.lens a).2)).2.2.2.2.2.1 r hr]; rfl

theorem init_ub (L : LTS) (c : LtsC) (d : DInv L c) : (init c).ub = c.ub := by
  have hs := init_spec c (fun a => (d.lens a).2)
  have : (init c).bw.any (·.bad) = false := by
    rw [List.any_eq_false]
    intro s hs'
    obtain ⟨r, hr', e⟩ := (mem_iff_getD default _ _).mp hs'
    rw [hs.2.2.2.2.1] at hr'
    rw [← e, init_set L c d r hr', (initSetF_new _ _ _ (Nat.le_refl _)).1]
    exact Bool.false_ne_true
  rw [hs.2.2.2.2.2.2, this, Bool.or_false]

theorem init_set_facts (L : LTS) (c : LtsC) (d : DInv L c) (r : Nat) (hr : r < c.states) :
    ((init c).bw.getD r default).range = c.data.length ∧ ((init c).bw.getD r default).bad = false ∧
    ((init c).bw.getD r default).keys = (List.range c.data.length).filter (fun a => decide (0 < (c.pre a r).length)) ∧
    (∀ a, ((init c).bw.getD r default).count a = (c.pre a r).length) := by
  rw [init_set L c d r hr]
  have f := initSetF_new (fun a => (c.pre a r).length) c.data.length _ (Nat.le_refl _)
  refine ⟨by rw [initSetF_fresh _ _ _ (Nat.le_refl _)], f.1, f.2.1, fun a => ?_⟩
  by_cases l : a < c.data.length
  · exact f.2.2 a l
  · rw [initSetF_new_count_ge _ _ _ (Nat.le_refl _) a (Nat.le_of_not_lt l), pre_nil_of_ge c a r (Nat.le_of_not_lt l)]; rfl

theorem binv_init (L : LTS) (c : LtsC) (d : DInv L c) (b : BInv c) : BInv (init c) := by
  have hs := init_spec c (fun a => (d.lens a).2)
  refine ⟨by rw [hs.2.2.2.2.1, hs.1]; exact Nat.le_refl _, by rw [init_ub L c d]; exact b.ub, fun r hr => ?_, fun r hr => ?_⟩
  · rw [hs.2.2.2.2.1] at hr
    exact (init_set_facts L c d r hr).2.1
  · rw [hs.2.2.2.2.1] at hr
    have f := init_set_facts L c d r hr
    rw [f.2.2.1]
    refine ⟨List.Nodup.sublist List.filter_sublist List.nodup_range, fun a ha => ?_⟩
    rw [init_pre c d.lens]
    have := (List.mem_filter.1 ha).2
    simp only [decide_eq_true_eq] at this
    exact List.length_pos_iff.1 this

theorem binv_step (L : LTS) (c : LtsC) (d : DInv L c) (b : BInv c) (op : Op) : BInv (step c op) := by
  cases op with
  | construct n => exact binv_empty _ rfl b.ub
  | add q a r => exact binv_add L c d b q a r
  | init => exact binv_init L c d b
  | clear => exact binv_empty _ rfl b.ub

theorem binv_foldl (h : List Op) : ∀ (L : LTS) (c : LtsC), DInv L c → BInv c → BInv (h.foldl step c) := by
  induction h with
  | nil => intro L c _ b; exact b
  | cons op h ih => intro L c d b; exact ih _ _ (dinv_step L c d op) (binv_step L c d b op)

theorem binv_run (h : List Op) : BInv (run h) := binv_foldl h _ _ (dinv_construct 0 false) (binv_empty _ rfl rfl)


theorem hasIn_iff (L : LTS) (a r : Nat) : LE.hasIn L a r = true ↔ LE.pre L a r ≠ [] :=
  (LE.hasIn_iff L a r).trans ⟨fun ⟨p, hp⟩ => List.ne_nil_of_mem ((LE.mem_pre L a r p).mpr hp),
    fun h => (List.exists_mem_of_ne_nil _ h).imp fun p hp => (LE.mem_pre L a r p).mp hp⟩

theorem mem_bwLabels (L : LTS) (a r : Nat) : a ∈ LE.bwLabels L r ↔ a < LE.labels L ∧ LE.pre L a r ≠ [] := by
  simp only [LE.bwLabels, List.mem_filter, List.mem_range, hasIn_iff]


/-- everything the engine reads from the object `init c`, in terms of the abstract system `L` of the history; no
hypothesis about the earlier `bwLabels_` -/
theorem views_after_init (L : LTS) (c : LtsC) (d : DInv L c) :
    (init c).states = L.n ∧ (init c).labels = LE.labels L ∧ (init c).transitions = L.edges.length ∧
    (∀ a q, (init c).post a q = LE.post L a q) ∧ (∀ a r, (init c).pre a r = LE.pre L a r) ∧
    (∀ a, a < LE.labels L → ((init c).data.getD a ([], [])).1.length = L.n ∧ ((init c).data.getD a ([], [])).2.length = L.n) ∧
    (init c).bw.length = L.n ∧
    (∀ r, r < L.n → (init c).bwLabels r = LE.bwLabels L r ∧
      (∀ a, (init c).bwCount r a = (LE.pre L a r).length) ∧
      ((init c).bw.getD r default).range = LE.labels L ∧ ((init c).bw.getD r default).bad = false) := by
  have d' := dinv_init L c d
  have hs := init_spec c (fun a => (d.lens a).2)
  refine ⟨d'.states, d'.labels, d'.trans, d'.post, d'.pre, fun a ha => ?_, by rw [hs.2.2.2.2.1, d.states], fun r hr => ?_⟩
  · have := (init_entry c d.lens a).2.2.1 (by rw [d.labels]; exact ha)
    rw [d.states] at this; exact this
  · rw [← d.states] at hr
    have f := init_set_facts L c d r hr
    refine ⟨?_, fun a => ?_, by rw [f.1, d.labels], f.2.1⟩
    · unfold LtsC.bwLabels
      rw [f.2.2.1]
      simp only [LE.bwLabels, d.labels]
      apply List.filter_congr
      intro a _
      rw [d.pre]
      by_cases e : LE.pre L a r = []
      · have : LE.hasIn L a r = false := by
          cases hh : LE.hasIn L a r
          · rfl
          · exact absurd e ((hasIn_iff L a r).1 hh)
        simp [e, this]
      · have : LE.hasIn L a r = true := (hasIn_iff L a r).2 e
        simp [this, List.length_pos_iff.2 e]
    · unfold LtsC.bwCount
      rw [f.2.2.2 a, d.pre]

theorem run_snoc (h : List Op) (op : Op) : run (h ++ [op]) = step (run h) op := by
  simp [run, List.foldl_append]

theorem spec_snoc (h : List Op) (op : Op) : spec (h ++ [op]) = specStep (spec h) op := by
  simp [spec, List.foldl_append]

end Vata.LC
