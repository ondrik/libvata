import Vata.Proofs.CowInternedStep
/-!
The copy-on-write model and the eager-copy model of interned tuple sets agree. `projI s h` reads automaton `h` of a
copy-on-write world `s : CowI.Sys` as a system of `Vata/StoreInterned.lean` (one automaton; every other automaton is an EAGER
copy held by the environment `ext`; `use_count`s as an eager copy would make them). For a state that satisfies `Inv'` an
identity is held by a live tuple-set node (counted once) iff it is held by some automaton in the eager reading – by the "no
garbage" part of the reference-count invariant every node is reachable from a live automaton; hence the projection satisfies
`StoreI.Inv`, has the value `absV s h` (`projI_sound`), and accepts the allocator offers the copy-on-write cache accepts. Both
models refine the value store, so a call here and the corresponding call on the projection lead to the same value (`agree_step`;
`AddTransition`: `agree_add`; `ContainsTransition`, with the same answer: `agree_contains`).
-/
namespace Vata.CowI
open Vata.CowHeap (upd_same)
open Vata.CowHeap3 (Heap valM valC mout cout hmap_mem Lvl Inv)
open Vata.CowHeapX (InvX ValX absX_of_mem absX_of_not_mem)
open Vata.StoreI (lookupC derefC CInv)

theorem lvl_referrer {R : List Nat} {out : Nat → List Nat} {T : List Nat} {rc : Nat → Nat} {nx : Nat}
    (h : Lvl R out T rc [] nx) {c : Nat} (hc : c ∈ T) : ∃ r, r ∈ R ∧ c ∈ out r := by
  have h1 := h.cnt c hc
  rw [List.count_nil, Nat.add_zero] at h1
  exact CowHeap.indeg_pos_iff.1 (h1 ▸ h.pos c hc)

/-- the tuple-set nodes as the automata reach them: one occurrence per automaton, map entry and cluster entry -/
def tsPaths (H : Heap) : List Nat := H.hl.flatMap (fun h => (mout H (H.hmap h)).flatMap (cout H))

theorem mem_tsPaths {H : Heap} (hI : Inv H) {t : Nat} : t ∈ tsPaths H ↔ t ∈ H.tl := by
  unfold tsPaths
  simp only [List.mem_flatMap]
  constructor
  · rintro ⟨h, hh, c, hc, htc⟩
    exact hI.ct.pt _ (hI.mc.pt _ (hmap_mem hI hh) c hc) t htc
  · intro ht
    obtain ⟨c, hc, htc⟩ := lvl_referrer hI.ct ht
    obtain ⟨m, hm, hcm⟩ := lvl_referrer hI.mc hc
    obtain ⟨h, hh, hmh⟩ := lvl_referrer hI.hm hm
    cases List.mem_singleton.1 hmh
    exact ⟨h, hh, c, hcm, htc⟩

theorem heldBy_of_mem {s : Sys} {h : Nat} (hh : h ∈ s.hx.core.hl) :
    heldBy s h = idsOfVal ⟨valM s.hx.core (s.hx.core.hmap h), s.hx.fin h⟩ := by
  rw [heldBy, absX_of_mem hh]

theorem heldBy_of_not_mem {s : Sys} {h : Nat} (hh : h ∉ s.hx.core.hl) : heldBy s h = [] := by
  unfold heldBy
  rw [absX_of_not_mem hh]

theorem heldBy_paths {s : Sys} {h : Nat} (hh : h ∈ s.hx.core.hl) :
    heldBy s h = ((mout s.hx.core (s.hx.core.hmap h)).flatMap (cout s.hx.core)).flatMap
      (fun t => idsOf (s.hx.core.tdat t)) := by
  rw [heldBy_of_mem hh]
  unfold idsOfVal valM valC mout cout
  simp only [List.flatMap_map, List.flatMap_assoc]

theorem eager_eq_paths (s : Sys) :
    s.hx.core.hl.flatMap (heldBy s) = (tsPaths s.hx.core).flatMap (fun t => idsOf (s.hx.core.tdat t)) := by
  unfold tsPaths
  rw [List.flatMap_assoc]
  exact flatMap_congr' fun h hh => heldBy_paths hh

/-- **sharing does not change WHICH identities are held**: an identity sits in a live tuple-set node (every shared node
    once) iff some live automaton holds it in the eager reading (every automaton for itself) -/
theorem held_iff_eager {s : Sys} (hi : InvX s.hx) {id : Nat} :
    id ∈ refsT s.hx.core ↔ ∃ h, h ∈ s.hx.core.hl ∧ id ∈ heldBy s h := by
  rw [← List.mem_flatMap, eager_eq_paths, refsT, List.mem_flatMap, List.mem_flatMap]
  constructor
  · rintro ⟨t, ht, hid⟩
    exact ⟨t, (mem_tsPaths hi).2 ht, hid⟩
  · rintro ⟨t, ht, hid⟩
    exact ⟨t, (mem_tsPaths hi).1 ht, hid⟩

theorem mem_eagerRefs {s : Sys} (hi : InvX s.hx) {id : Nat} :
    id ∈ eagerRefs s ↔ id ∈ refsT s.hx.core ++ s.ext := by
  unfold eagerRefs
  simp only [List.mem_append, List.mem_flatMap]
  rw [held_iff_eager hi]

theorem mem_eagerCache {s : Sys} {v : List Nat} {id rc : Nat} :
    (v, id, rc) ∈ eagerCache s ↔ rc = (eagerRefs s).count id ∧ ∃ rc0, (v, id, rc0) ∈ s.cache := by
  unfold eagerCache
  rw [List.mem_map]
  constructor
  · rintro ⟨⟨v0, id0, rc0⟩, hm, e⟩
    cases e
    exact ⟨rfl, rc0, hm⟩
  · rintro ⟨rfl, rc0, hm⟩
    exact ⟨(v, id, rc0), hm, rfl⟩

theorem eager_cinv {s : Sys} (hi : Inv' s) : CInv (eagerCache s) (eagerRefs s) := by
  have hc : CInv s.cache (refsT s.hx.core ++ s.ext) := hi.cache
  refine ⟨?_, ?_, ?_, ?_⟩
  · rintro v ⟨x1, x2⟩ ⟨y1, y2⟩ hx hy
    obtain ⟨ex, rx, hx'⟩ := mem_eagerCache.1 hx
    obtain ⟨ey, ry, hy'⟩ := mem_eagerCache.1 hy
    cases congrArg Prod.fst (hc.fk _ _ _ hx' hy')
    rw [ex, ey]
  · intro v v' id rc rc' hm hm'
    obtain ⟨_, r, h1⟩ := mem_eagerCache.1 hm
    obtain ⟨_, r', h2⟩ := mem_eagerCache.1 hm'
    exact hc.fid _ _ _ _ _ h1 h2
  · intro v id rc hm
    obtain ⟨e, r, h1⟩ := mem_eagerCache.1 hm
    refine ⟨e, ?_⟩
    rw [e, List.count_pos_iff, mem_eagerRefs hi.heap, ← List.count_pos_iff, ← (hc.cnt _ _ _ h1).1]
    exact (hc.cnt _ _ _ h1).2
  · intro id hid
    obtain ⟨v, rc, hm⟩ := hc.live id ((mem_eagerRefs hi.heap).1 hid)
    exact ⟨v, _, mem_eagerCache.2 ⟨rfl, rc, hm⟩⟩

/-- the two caches hold the same tuples at the same addresses (the `use_count`s differ: `C11_interned_models_agree_counts`) -/
theorem eager_same_entries (s : Sys) (v : List Nat) (id : Nat) :
    (∃ rc, (v, id, rc) ∈ eagerCache s) ↔ ∃ rc, (v, id, rc) ∈ s.cache :=
  ⟨fun ⟨_, hm⟩ => (mem_eagerCache.1 hm).2, fun ⟨rc, hm⟩ => ⟨_, mem_eagerCache.2 ⟨rfl, rc, hm⟩⟩⟩

theorem derefC_eager {s : Sys} (hi : Inv' s) {id : Nat} (hid : id ∈ refsT s.hx.core ++ s.ext) :
    derefC (eagerCache s) id = derefC s.cache id := by
  have hc : CInv s.cache (refsT s.hx.core ++ s.ext) := hi.cache
  obtain ⟨v, rc, hm⟩ := hc.live id hid
  rw [hc.derefC_eq hm, (eager_cinv hi).derefC_eq (mem_eagerCache.2 ⟨rfl, rc, hm⟩)]

/-- the two caches have the same live addresses: what the allocator may not offer is the same in both models -/
theorem liveIds_eager {s : Sys} (hi : Inv' s) {ch : Nat} :
    ch ∈ StoreI.liveIds (eagerCache s) ↔ ch ∈ StoreI.liveIds s.cache := by
  have hc : CInv s.cache (refsT s.hx.core ++ s.ext) := hi.cache
  rw [hc.liveIds_eq, (eager_cinv hi).liveIds_eq, CM.mem_ids, CM.mem_ids]
  constructor
  · rintro ⟨v, n, hm⟩
    obtain ⟨_, rc0, hm0⟩ := mem_eagerCache.1 hm
    exact ⟨v, rc0, hm0⟩
  · rintro ⟨v, n, hm⟩
    exact ⟨v, _, mem_eagerCache.2 ⟨rfl, n, hm⟩⟩

theorem allIds_toI (v : Store.Store) : StoreI.allIds (toI v) = idsOfVal v := by
  unfold StoreI.allIds toI idsOfVal StoreI.idsOfCluster
  simp only [List.flatMap_map]

theorem projI_of_mem {s : Sys} {h : Nat} (hh : h ∈ s.hx.core.hl) :
    projI s h = some
      { cache := eagerCache s, clusters := toI ⟨valM s.hx.core (s.hx.core.hmap h), s.hx.fin h⟩, final := s.hx.fin h,
        ext := (s.hx.core.hl.erase h).flatMap (heldBy s) ++ s.ext } := by
  rw [projI, absX_of_mem hh]
  rfl

theorem projI_of_not_mem {s : Sys} {h : Nat} (hh : h ∉ s.hx.core.hl) : projI s h = none := by
  rw [projI, absX_of_not_mem hh]
  rfl

theorem mem_of_projI {s : Sys} {h : Nat} {t : StoreI.Sys} (ht : projI s h = some t) : h ∈ s.hx.core.hl :=
  Classical.byContradiction fun hh => by
    rw [projI_of_not_mem hh] at ht
    cases ht

theorem projI_cache {s : Sys} {h : Nat} {t : StoreI.Sys} (ht : projI s h = some t) : t.cache = eagerCache s := by
  rw [projI_of_mem (mem_of_projI ht)] at ht
  rw [← Option.some.inj ht]

theorem count_refs_projI {s : Sys} {h : Nat} {t : StoreI.Sys} (ht : projI s h = some t) (id : Nat) :
    (StoreI.refs t).count id = (eagerRefs s).count id := by
  have hh := mem_of_projI ht
  rw [projI_of_mem hh] at ht
  rw [← Option.some.inj ht]
  unfold StoreI.refs eagerRefs
  rw [allIds_toI, ← heldBy_of_mem hh, List.count_append, List.count_append, List.count_append,
    count_flatMap_erase (heldBy s) hh id, Nat.add_assoc]

theorem projI_inv {s : Sys} (hi : Inv' s) {h : Nat} {t : StoreI.Sys} (ht : projI s h = some t) : StoreI.Inv t := by
  unfold StoreI.Inv
  rw [projI_cache ht]
  exact (eager_cinv hi).congr (count_refs_projI ht)

theorem projI_abs {s : Sys} (hi : Inv' s) {h : Nat} {t : StoreI.Sys} (ht : projI s h = some t) :
    absV s h = some (StoreI.abs t) := by
  have hh := mem_of_projI ht
  rw [projI_of_mem hh] at ht
  rw [← Option.some.inj ht, absV_of_mem hh]
  unfold StoreI.abs derefS StoreI.absMap toI
  simp only [List.map_map]
  refine congrArg some (congrArg (Store.Store.mk · _) (List.map_congr_left fun qc hqc => congrArg (Prod.mk qc.1) ?_))
  simp only [List.map_map]
  refine List.map_congr_left fun ft hft => congrArg (Prod.mk ft.1) ?_
  rw [(hi.cells h _ (absX_of_mem hh) qc hqc ft hft).map_derefCell]
  refine (List.map_congr_left fun a ha => ?_).symm
  obtain ⟨l, hl, hal⟩ := List.mem_flatten.1 ha
  exact derefC_eager hi (List.mem_append_left _ (mentions_live hi.heap hh qc hqc ft hft l hl a hal))

theorem count_flatMap_le {T P : List Nat} (g : Nat → List Nat) (hnd : T.Nodup) (hsub : ∀ t, t ∈ T → t ∈ P) (x : Nat) :
    List.count x (T.flatMap g) ≤ List.count x (P.flatMap g) := by
  induction T generalizing P with
  | nil => exact Nat.zero_le _
  | cons t T ih =>
    rw [count_flatMap_erase g (hsub t List.mem_cons_self) x, List.flatMap_cons, List.count_append]
    exact Nat.add_le_add_left (ih (P := P.erase t) (List.nodup_cons.1 hnd).2 fun t' ht' =>
      (List.mem_erase_of_ne fun (e : t' = t) => (List.nodup_cons.1 hnd).1 (e ▸ ht')).2
        (hsub t' (List.mem_cons_of_mem _ ht'))) _

/-- the holders of the copy-on-write world are among the holders of the eager reading, with multiplicity: a tuple set
    shared by `n` automata contributes 1 to the real `use_count` and `n` to the eager one -/
theorem shared_count_le_eager {s : Sys} (hi : InvX s.hx) (id : Nat) :
    (refsT s.hx.core).count id ≤ (s.hx.core.hl.flatMap (heldBy s)).count id := by
  rw [eager_eq_paths]
  exact count_flatMap_le _ hi.ct.tnd (fun t ht => (mem_tsPaths hi).2 ht) id

theorem aget_eagerCache (s : Sys) (t : List Nat) :
    CM.aget (eagerCache s) t = (CM.aget s.cache t).map fun x => (x.1, (eagerRefs s).count x.1) := by
  unfold eagerCache
  induction s.cache with
  | nil => rfl
  | cons e c ih =>
    rw [List.map_cons, CM.aget, CM.aget, ih]
    split <;> rfl

/-- an address the allocator may offer to the copy-on-write cache (the call does not fail) may be offered to the eager
    cache: the two caches have the same live addresses -/
theorem lookupC_eager_isSome {s : Sys} (hi : Inv' s) {t : List Nat} {ch : Nat}
    (hl : (lookupC s.cache t ch).isSome = true) : (lookupC (eagerCache s) t ch).isSome = true := by
  unfold StoreI.lookupC at hl ⊢
  rw [aget_eagerCache]
  cases hg : CM.aget s.cache t with
  | some x => rfl
  | none =>
    rw [hg] at hl
    by_cases hch : ch ∈ StoreI.liveIds s.cache
    · simp only [if_pos hch] at hl
      cases hl
    · simp only [Option.map_none, if_neg fun h => hch ((liveIds_eager hi).1 h)]
      rfl

theorem mem_of_absV {s : Sys} {h : Nat} {v : Store.Store} (hv : absV s h = some v) : h ∈ s.hx.core.hl :=
  Classical.byContradiction fun hh => by
    rw [absV_of_not_mem hh] at hv
    cases hv

/-- the eager reading of a live automaton is a consistent state of the one-automaton model with the same value -/
theorem projI_sound {s : Sys} (hi : Inv' s) {x : Nat} {v : ValX} (hv : absV s x = some v) :
    ∃ t, projI s x = some t ∧ StoreI.Inv t ∧ StoreI.abs t = v :=
  have ht := projI_of_mem (mem_of_absV hv)
  ⟨_, ht, projI_inv hi ht, Option.some.inj ((projI_abs hi ht).symm.trans hv)⟩

/-- **both models refine the value store, so they agree call by call**: a call `op` of the copy-on-write world that does to the
value of `x` what the call `o` of the one-automaton model does to a value (`hval`), and `o` played on the eager reading -/
theorem agree_step {s s' : Sys} {op : Op2} {x : Nat} {t t' : StoreI.Sys} {o : StoreI.OpI} (hi : Inv' s)
    (hs : stepC2 .lib s op = some s') (ht : projI s x = some t) (ho : StoreI.stepI .lib t o = some t')
    (hval : specV (absV s) (valOp2 s op) x = some (StoreI.absStep (StoreI.abs t) o)) :
    ∃ u, projI s' x = some u ∧ StoreI.Inv t' ∧ StoreI.abs t' = StoreI.abs u := by
  obtain ⟨hi', hv⟩ := stepC2_lib hi hs
  obtain ⟨hit', ha⟩ := StoreI.stepI_lib (projI_inv hi ht) ho
  obtain ⟨u, hu, -, hau⟩ := projI_sound hi' ((congrFun hv x).trans hval)
  exact ⟨u, hu, hit', ha.trans hau.symm⟩

/-- `AddTransition` on automaton `h` of the copy-on-write world and `AddTransition` of the one-automaton model on the
    projection (same allocator offer): the latter does not fail, and the two results have the same value store -/
theorem agree_add {s s' : Sys} {h : Nat} {r : Rule} {ch : Nat} {t : StoreI.Sys} (hi : Inv' s)
    (hs : stepC .lib s (.add h r ch) = some s') (ht : projI s h = some t) :
    ∃ t' u, StoreI.addI .lib t r ch = some t' ∧ StoreI.Inv t' ∧ projI s' h = some u ∧ StoreI.abs t' = StoreI.abs u := by
  have hh := mem_of_projI ht
  have hlk : (lookupC s.cache r.kids ch).isSome = true := by
    rw [stepC, if_pos hh] at hs
    cases hl : lookupC s.cache r.kids ch with
    | none => rw [hl] at hs; cases hs
    | some x => rfl
  obtain ⟨x, hx⟩ := Option.isSome_iff_exists.1 (lookupC_eager_isSome hi hlk)
  obtain ⟨t', ht'⟩ : ∃ t', StoreI.addI .lib t r ch = some t' := by
    rw [StoreI.addI, projI_cache ht, hx]
    exact ⟨_, rfl⟩
  obtain ⟨u, hu, hit', ha⟩ := agree_step (op := .base (.add h r ch)) (o := .add r ch) hi hs ht ht' (by
    simp only [valOp2, valOp, specV, CowHeapX.specStepX, projI_abs hi ht, upd_same]
    rfl)
  exact ⟨t', u, ht', hit', hu, ha⟩

/-- `ContainsTransition(r)` on automaton `h` of the copy-on-write world and on its eager-copy projection, with the same
    (possible) allocator offer: both calls succeed, give the SAME answer, and leave the values unchanged -/
theorem agree_contains {s : Sys} {h : Nat} (r : Rule) {ch : Nat} {t : StoreI.Sys} (hi : Inv' s)
    (ht : projI s h = some t) (hch : ch ∉ StoreI.liveIds s.cache) :
    ∃ s' t' b, containsMI s h r ch = some (s', b) ∧ StoreI.containsI .lib t r ch = some (t', b) ∧
      Inv' s' ∧ absV s' = absV s ∧ StoreI.Inv t' ∧ StoreI.abs t' = StoreI.abs t ∧ b = Store.contains (StoreI.abs t) r := by
  obtain ⟨⟨s', b⟩, hx⟩ := Option.isSome_iff_exists.1 (containsMI_isSome s h r hch)
  have hq : (StoreI.stepI .lib t (.query r ch)).isSome = true :=
    StoreI.stepI_isSome _ _ _ fun ch' e => by
      cases e
      rw [projI_cache ht, liveIds_eager hi]
      exact hch
  rw [StoreI.stepI, Option.isSome_map] at hq
  obtain ⟨⟨t', b'⟩, hy⟩ := Option.isSome_iff_exists.1 hq
  obtain ⟨a1, a2, a3⟩ := containsMI_lib hi hx
  obtain ⟨c1, c2, c3⟩ := StoreI.containsI_lib (projI_inv hi ht) hy
  rw [projI_abs hi ht] at a3
  cases a3.trans c3.symm
  exact ⟨s', t', b, hx, hy, a1, a2, c1, c2, c3⟩

/-- every children tuple that occurs in the value of a live automaton is an entry of the cache, held by a live
    tuple-set node -/
theorem tuple_live {s : Sys} (hi : Inv' s) {h : Nat} {v : Store.Store} (hv : absV s h = some v) {tup : List Nat}
    (ht : tup ∈ tuplesOf v) : ∃ id rc, (tup, id, rc) ∈ s.cache ∧ id ∈ refsT s.hx.core := by
  have hc : CInv s.cache (refsT s.hx.core ++ s.ext) := hi.cache
  have hh := mem_of_absV hv
  rw [absV_of_mem hh] at hv
  cases hv
  unfold tuplesOf derefS at ht
  obtain ⟨qc', hqc', ht⟩ := List.mem_flatMap.1 ht
  obtain ⟨ft', hft', htup⟩ := List.mem_flatMap.1 ht
  obtain ⟨qc, hqc, rfl⟩ := List.mem_map.1 hqc'
  obtain ⟨ft, hft, rfl⟩ := List.mem_map.1 hft'
  obtain ⟨l, hl, rfl⟩ := List.mem_map.1 htup
  obtain ⟨a, rfl⟩ := hi.cells h _ (absX_of_mem hh) qc hqc ft hft l hl
  have ha : a ∈ refsT s.hx.core := mentions_live hi.heap hh qc hqc ft hft _ hl a List.mem_cons_self
  obtain ⟨w, rc, hm⟩ := hc.live a (List.mem_append_left _ ha)
  rw [derefCell_cell, hc.derefC_eq hm]
  exact ⟨a, rc, hm, ha⟩

end Vata.CowI
