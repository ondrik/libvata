import Vata.Cow
import Vata.Proofs.CowHeap
import Vata.Proofs.CowHeap3
import Vata.Properties.C11_Extended
/-!
# C11 – Explicit automata are values: copies isolated, results depend only on operands

> After an explicit tree or finite automaton is copied, assigned or moved, any later modification of one object (adding
> rules, changing final states, clearing) is never visible through another object, and automata returned by operations
> stay unchanged when their operands are modified or destroyed afterwards. The outcome of an operation depends only on
> its operands and parameters, not on which other automata were created, modified or destroyed earlier in the same
> process.

(quantifier: for all interleaved sequences of construct / copy / copy-assign / move / AddTransition / SetStateFinal /
EraseFinalStates / Clear / destroy and library operations over several live automata that structurally share rule
storage)

## How the statement is read into the model

* **Specification (L0).**  `CowHeap.specStep` on `Nat → Option Val` (`Vata/CowHeap.lean`): every automaton object
  (*handle*, a number) owns an independent value `Val = List (Nat × Store.Cluster)` (state ↦ symbol ↦ tuple set, the
  `clusters` component of the rule store of `Vata/Store.lean`; `none` = no such object).  An operation of a history
  (`CowHeap.HOp`: `new h`, `copy src dst`, `assign src dst`, `add h q (f, kids)`, `clear h`, `destroy h`) changes the
  value of its *target* handle only: `copy`/`assign` give the target the value of the source, `add` is the pure insertion
  `Store.addToMap`, `clear` gives `[]`, `destroy` gives `none`.  That nothing else changes is
  `CowHeap.specStep_other`.  `specInit` is "no object".
* **Model of the code.**  `CowHeap3.step` on `CowHeap3.Heap` (`Vata/CowHeap3.lean`) mirrors the `shared_ptr` plumbing of
  `ExplicitTreeAutCore` at all three levels of sharing: handle → map node (`transitions_`) → cluster node → tuple-set
  node, each pool with explicit `use_count`s, never re-using node identifiers.  Copy construction and assignment copy the
  pointer (`use_count` + 1, release of the old target), `add` is `uniqueClusterMap()`, `uniqueCluster(q)`,
  `uniqueTuplePtrSet(f)`, `insert` – each "clone when `use_count ≠ 1`, else in place" –, `clear` is "fresh map when
  shared, `clear()` in place when unique", `destroy` releases the pointer with cascading deletion at `use_count` 0.
  `CowHeap3.abs H h` is the value read through handle `h` by following the pointers.
  `CowHeap.step` / `CowHeap.abs` (`Vata/CowHeap.lean`) is the older two-level model (cluster contents are values).
  Operations that are not C++ programs (using a dead object, constructing over a live one) and self-assignment are
  no-ops in the models and in the specification.
* **The property** is the refinement `abs ∘ step = specStep ∘ abs` along every history from the empty heap
  (`C11_history_isolation`), together with the reference-count invariant that makes the "unique ⇒ modify in place"
  decisions of the code sound (`C11_invariant`).
* `Vata/Cow.lean` (namespace `Vata.C`) is the first, relational two-level probe (no reference counts: uniqueness is
  decided by looking at all live handles); its lemmas are the bare *make-unique principle* (`C11_make_unique_principle`).
* **The rest of the quantifier** – `SetStateFinal` / `SetStatesFinal` / `EraseFinalStates` and the final-state half of
  `Clear`, move construction and move assignment, the selective copy constructor, and the library operations whose results
  share storage with their operands (`RemoveUnreachableStates`, `RemoveUselessStates`, `UnionDisjointStates`,
  `ReindexStates` / `Union`) – is the extended model `Vata/CowHeapX.lean` (`CowHeapX.HOpX`, values = whole `Store.Store`s,
  the same three-level heap plus a final set per handle), with its theorems in `Vata/Properties/C11_Extended.lean`;
  `C11_statement` at the end of this file is the property for that model in one theorem.
-/
namespace Vata.Props
open Vata.CowHeap (HOp specStep specInit)

/-! ### every history: handles behave as independent values -/

/-- the three-level heap model refines the value semantics for every history of operations from the empty heap: what is
read through the handles after the history is what the independent-values specification computes -/
theorem C11_history_isolation (ops : List HOp) :
    CowHeap3.abs (ops.foldl CowHeap3.step CowHeap3.init) = ops.foldl specStep specInit :=
  CowHeap3.history_isolation3 ops

example : CowHeap3.abs (CowHeap3.CowEx3.ops2.foldl CowHeap3.step CowHeap3.init) 3 =
    some [(5, [(7, [[], [5, 5]])]), (6, [(9, [[5], [6]])])] := by decide +kernel
example : CowHeap3.CowEx3.H0.hmap 1 = CowHeap3.CowEx3.H0.hmap 2 ∧ CowHeap3.CowEx3.H0.mrc (CowHeap3.CowEx3.H0.hmap 1) = 2 := by
  decide +kernel

/-- the same for the two-level model (cluster contents as values) -/
theorem C11_history_isolation_two_level (ops : List HOp) :
    CowHeap.abs (ops.foldl CowHeap.step CowHeap.init) = ops.foldl specStep specInit :=
  CowHeap.history_isolation ops

example : CowHeap.abs (CowHeap.CowEx.ops1.foldl CowHeap.step CowHeap.init) 1 = some [(5, [(7, [[]]), (8, [[]])])] := by
  decide +kernel

/-- the clause "never visible through another object", spelled out on the model: after any history, one more
operation leaves the value read through every handle other than its target (`new h`, `add h`, `clear h`, `destroy h`:
`h`; `copy _ dst`, `assign _ dst`: `dst`) exactly as it was -/
theorem C11_other_handles_unchanged (ops : List HOp) (op : HOp) (x : Nat)
    (hx : match op with
      | .new h => x ≠ h | .copy _ dst => x ≠ dst | .assign _ dst => x ≠ dst | .add h _ _ => x ≠ h
      | .clear h => x ≠ h | .destroy h => x ≠ h) :
    CowHeap3.abs (CowHeap3.step (ops.foldl CowHeap3.step CowHeap3.init) op) x =
      CowHeap3.abs (ops.foldl CowHeap3.step CowHeap3.init) x := by
  rw [(CowHeap3.cow3_refines_values (CowHeap3.history_inv3 ops) op).1]
  exact CowHeap.specStep_other _ op x hx

/-- handle 1 and handle 2 share all three levels after the copy; the write through 2 is not seen through 1 -/
example : CowHeap3.abs (CowHeap3.step CowHeap3.CowEx3.Hsh (.add 2 5 (7, [5, 5]))) 1 = CowHeap3.abs CowHeap3.CowEx3.Hsh 1 ∧
    CowHeap3.abs (CowHeap3.step CowHeap3.CowEx3.Hsh (.add 2 5 (7, [5, 5]))) 2 ≠ CowHeap3.abs CowHeap3.CowEx3.Hsh 2 :=
  ⟨by decide +kernel, by decide +kernel⟩

/-! ### one step, from any heap that satisfies the invariant -/

/-- every operation acts on the handle values exactly like the value-level specification and keeps the reference-count
invariant, at three and at two levels.  The hypothesis `Inv H` is needed: on a heap whose `use_count` is too small the
code would modify a shared node in place (`CowEx3.Hbad` below). -/
theorem C11_step_refines_values :
    (∀ (H : CowHeap3.Heap) (op : HOp), CowHeap3.Inv H →
      CowHeap3.abs (CowHeap3.step H op) = specStep (CowHeap3.abs H) op ∧ CowHeap3.Inv (CowHeap3.step H op)) ∧
    (∀ (H : CowHeap.Heap) (op : HOp), CowHeap.Inv H →
      CowHeap.abs (CowHeap.step H op) = specStep (CowHeap.abs H) op ∧ CowHeap.Inv (CowHeap.step H op)) :=
  ⟨fun _ op hI => CowHeap3.cow3_refines_values hI op, fun _ op hI => CowHeap.cow_refines_values hI op⟩

example : CowHeap3.Inv CowHeap3.CowEx3.Hsh := (CowHeap3.invB_iff _).mp (by decide +kernel)
/-- without the invariant the conclusion fails: a write through handle 2 shows through handle 1 -/
example : CowHeap3.invB CowHeap3.CowEx3.Hbad = false ∧
    CowHeap3.abs (CowHeap3.step CowHeap3.CowEx3.Hbad (.add 2 5 (7, [5, 5]))) 1 ≠ CowHeap3.abs CowHeap3.CowEx3.Hbad 1 := by
  decide +kernel

/-! ### the reference-count invariant -/

/-- after every history, at all three levels: the `use_count` of every allocated node equals the number of handles /
parent nodes pointing to it, pointers go to allocated nodes, every allocated node is in use (and lies below the
allocation counter, so fresh nodes are fresh);
the executable checker `invB` (run by the driver on heaps reconstructed from the real objects) decides exactly this -/
theorem C11_invariant (ops : List HOp) :
    CowHeap3.Inv (ops.foldl CowHeap3.step CowHeap3.init) ∧
    CowHeap3.invB (ops.foldl CowHeap3.step CowHeap3.init) = true ∧
    CowHeap.Inv (ops.foldl CowHeap.step CowHeap.init) ∧
    CowHeap.invB (ops.foldl CowHeap.step CowHeap.init) = true :=
  ⟨CowHeap3.history_inv3 ops, (CowHeap3.invB_iff _).mpr (CowHeap3.history_inv3 ops),
   CowHeap.history_inv ops, (CowHeap.invB_iff _).mpr (CowHeap.history_inv ops)⟩

example : (CowHeap3.CowEx3.ops2.foldl CowHeap3.step CowHeap3.init).ml = [13, 10, 0] := by decide +kernel

/-- destruction frees everything: after any history that leaves no live object, no node of any level is left -/
theorem C11_no_garbage (ops : List HOp) :
    ((ops.foldl CowHeap3.step CowHeap3.init).hl = [] →
      (ops.foldl CowHeap3.step CowHeap3.init).ml = [] ∧ (ops.foldl CowHeap3.step CowHeap3.init).cl = [] ∧
      (ops.foldl CowHeap3.step CowHeap3.init).tl = []) ∧
    ((ops.foldl CowHeap.step CowHeap.init).hl = [] →
      (ops.foldl CowHeap.step CowHeap.init).ml = [] ∧ (ops.foldl CowHeap.step CowHeap.init).cl = []) :=
  ⟨CowHeap3.no_garbage3 (CowHeap3.history_inv3 ops), CowHeap.no_garbage (CowHeap.history_inv ops)⟩

example : ((CowHeap3.CowEx3.ops2 ++ [HOp.destroy 1, HOp.destroy 3, HOp.destroy 4]).foldl CowHeap3.step CowHeap3.init).hl = [] := by
  decide +kernel

/-! ### the two models agree -/

/-- abstracting the third level of sharing does not change any observation: on every history both heap models show the
same values through the same handles -/
theorem C11_levels_agree (ops : List HOp) :
    CowHeap3.abs (ops.foldl CowHeap3.step CowHeap3.init) = CowHeap.abs (ops.foldl CowHeap.step CowHeap.init) :=
  CowHeap3.agrees_with_two_level ops

example : (CowHeap3.CowEx3.ops1.foldl CowHeap3.step CowHeap3.init).next = 9 ∧
    (CowHeap.CowEx.ops1.foldl CowHeap.step CowHeap.init).next = 5 := by decide +kernel

/-! ### the principle behind `uniqueClusterMap` / `uniqueCluster` -/

/-- the relational probe of `Vata/Cow.lean` (rules seen through a handle as a predicate `C.val`): (1) making the map of
`h` unique changes no value of any live handle; (2) the insertion after it adds exactly the rule `(q, b)` to the value of
`h`; (3) provided the map of `h` is unique (`C.MapUnique`, what step 1 is for), it changes no value of another live
handle.  Only the principle: that `C.uniqueMap` establishes `C.MapUnique` and keeps `C.Inv` is not proved for this probe
(the reference-counted models above supersede it). -/
theorem C11_make_unique_principle (H : C.Heap) (hI : C.Inv H) (h q : Nat) (b : C.Body) :
    (∀ h' r, h' ∈ H.hl → (C.val (C.uniqueMap H h) h' r ↔ C.val H h' r)) ∧
    (h ∈ H.hl → ∀ r, C.val (C.addUnique H h q b) h r ↔ C.val H h r ∨ r = (q, b)) ∧
    (C.MapUnique H h → ∀ h' r, h' ∈ H.hl → h' ≠ h → (C.val (C.addUnique H h q b) h' r ↔ C.val H h' r)) :=
  ⟨fun h' r hh' => C.uniqueMap_val H hI h h' hh' r, fun hh r => C.addUnique_self H hI h q b hh r,
   fun hu h' r hh' hne => C.addUnique_other H hI h q b hu h' hh' hne r⟩

/-- two live handles with their own maps 0 and 1, both pointing to cluster 2 for state 5: the invariant and the
uniqueness of the map of handle 1 hold -/
example :
    let H : C.Heap := ⟨[1, 2], fun h => if h = 1 then 0 else 1, fun m s => if m < 2 ∧ s = 5 then some 2 else none,
      fun m => if m < 2 then [5] else [], fun c => if c = 2 then [(7, [])] else [], 3⟩
    C.Inv H ∧ C.MapUnique H 1 ∧ 1 ∈ H.hl := by
  intro H
  refine ⟨⟨?_, ?_, ?_⟩, ?_, by decide +kernel⟩
  · intro m s c hc
    simp only [H] at hc ⊢
    split at hc
    · rename_i hms; simp [hms.1, hms.2]
    · cases hc
  · intro h hh
    simp only [H] at hh ⊢
    split <;> omega
  · intro m s c hc
    simp only [H] at hc ⊢
    split at hc
    · cases hc; omega
    · cases hc
  · intro h' hh' hne
    simp only [H, List.mem_cons, List.not_mem_nil, or_false] at hh' ⊢
    rcases hh' with rfl | rfl
    · exact absurd rfl hne
    · decide +kernel

/-! ### the property in one statement, for the extended model -/

/-- **C11 for every history of the extended operations** (construct, selective copy, copy-assign, move, move-assign,
`AddTransition`, `SetStateFinal(s)`, `EraseFinalStates`, `Clear`, destroy, and the sharing results of
`RemoveUnreachableStates` / `RemoveUselessStates` / `UnionDisjointStates`; `ReindexStates` / `Union` are sequences of them):
(1) what is read through the handles – rules AND final states – is what the independent-values specification computes;
(2) "never visible through another object": one more operation leaves the value of every object that is not one of its
targets exactly as it was; (3) "automata returned by operations stay unchanged when their operands are modified or destroyed
afterwards": an object keeps its value through every continuation in which it is not itself a target; (4) the reference
counts stay exact, so every "unique ⇒ modify in place" decision of the code is sound -/
theorem C11_statement (ops later : List CowHeapX.HOpX) (op : CowHeapX.HOpX) (x : Nat) :
    CowHeapX.absX (ops.foldl CowHeapX.stepX CowHeapX.initX) = ops.foldl CowHeapX.specStepX CowHeapX.specInitX ∧
    (x ∉ CowHeapX.targets op →
      CowHeapX.absX (CowHeapX.stepX (ops.foldl CowHeapX.stepX CowHeapX.initX) op) x =
        CowHeapX.absX (ops.foldl CowHeapX.stepX CowHeapX.initX) x) ∧
    ((∀ o, o ∈ later → x ∉ CowHeapX.targets o) →
      CowHeapX.absX ((ops ++ later).foldl CowHeapX.stepX CowHeapX.initX) x =
        CowHeapX.absX (ops.foldl CowHeapX.stepX CowHeapX.initX) x) ∧
    CowHeapX.InvX (ops.foldl CowHeapX.stepX CowHeapX.initX) :=
  ⟨C11_ext_history_isolation ops, C11_ext_other_handles_unchanged ops op x, C11_ext_result_survives ops later x,
    (C11_ext_invariant ops).1⟩

-- the union (object 5) of a history with `RemoveUnreachableStates`, writes to operand and result, `UnionDisjointStates`, `Clear`
example : CowHeapX.absX (CowHeapX.CowExX.ops2.foldl CowHeapX.stepX CowHeapX.initX) 5 =
    some ⟨[(5, [(7, [[], [5, 5]])]), (6, [(8, [[5]])]), (10, [(7, [[]])])], [6, 5, 10]⟩ := by decide +kernel

/-!
## closed since the last refresh of this file

All in `Vata/Properties/C11_Extended.lean` (model `Vata/CowHeapX.lean`), restated together in `C11_statement`:

* **"Final states. … are not operations of `HOp`"** – closed: `setFinal` / `setFinals` / `eraseFinal` / `clear` are operations
  of `HOpX`, the value of an object is a whole `Store.Store` (`C11_ext_history_isolation`, `C11_ext_other_handles_unchanged`).
* **"Move construction / move assignment: not in `HOp`"** – closed: `C11_ext_move`; the selective copy constructor:
  `C11_ext_copy`.
* **"Library operations that return sharing results … not operations of the heap model"** – closed for
  `RemoveUnreachableStates` (both exits: `*this`, and a NEW map node holding the operand's cluster pointers),
  `RemoveUselessStates` with `result.transitions_ = transitions_`, `UnionDisjointStates`, `ReindexStates(dst, …)` / `Union`:
  `C11_ext_sharing_results`, `C11_ext_result_survives`, `C11_ext_union_disjoint`, `C11_ext_reindex_into`.
* The extended model extends the model of this file conservatively (`C11_ext_conservative`).
* **The process-wide tuple cache** (`globalTupleCache_` is a `Util::Cache`): the class has a model of its own with history
  theorems – two handles are pointer-equal iff the interned values are equal, `use_count` = number of handles, the cache is
  empty when the last handle is gone (`Util_Cache_interning`, `Util_Cache_store_bijective`, `Util_Cache_no_leak` in
  `Vata/Properties/Util_Cache.lean`) – which is what licenses "child tuples are immutable values compared by value" here.

## not yet proved

* that the reachability / usefulness COMPUTATION inside the sharing library operations yields the right `keep` / `keepF`
  (the subject of C03): in the heap model these are parameters.  `RemoveUselessStates` with `remaining ≠ 0` builds its result
  by `internalAddTransition` (a sequence of `add`) and is not spelled out as a derived operation.
* state after a move: the moved-from C++ object still exists (null `transitions_`); the model treats it as dead.  Using it
  (other than destroying it or assigning to it) is not a C++ program we model.
* **"The outcome of an operation depends only on its operands and parameters."**  In Lean every model of an operation is
  a pure function of its arguments, so this holds by construction of the models and says nothing about hidden state of
  the C++.  Of the two process-wide caches, `globalTupleCache_` now has a class model (above) that is not connected to the
  heap model by a theorem (tuples stay values in `Val`); `globalAlphabet_` is not modelled (symbols are numbers; the symbol
  dictionary appears only as a parameter of the load / dump model of C13).
* **Explicit finite automata** (`explicit_finite_aut_core`: `uniqueClusterMap`, `uniqueCluster`) have no heap model of
  their own; `CowHeap` has the right number of levels but its operations were written after the tree-automaton code.
  (Their start-symbol map is modelled as a value in `Vata/NfaStart.lean`, C10.)
* The heap models are linked to the real objects only by the correspondence check of the driver (values read through
  every live handle after each step, and `invB` on the reconstructed `use_count`s); `step` / `stepX` being faithful
  transcriptions of the C++ is not a theorem.
* For the probe `Vata/Cow.lean`: that `C.uniqueMap` establishes `C.MapUnique` and that `C.add` preserves `C.Inv`.
-/
end Vata.Props
