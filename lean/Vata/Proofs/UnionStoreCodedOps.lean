import Vata.Proofs.UnionStoreCodedInv
import Vata.Proofs.IsectModel
/-!
# `UnionDisjointStates` and `Intersection` on the rule store – proofs
-/
namespace Vata.UnionStoreCoded
open Vata.Store Vata.RenameCoded

/-- `insert(first, last)` of elements with pairwise different keys none of which is present: they are appended -/
theorem insertClusters_disj (rhs : List (Nat × Cluster)) (hnd : KeysNodup rhs) : ∀ (m : List (Nat × Cluster)),
    (∀ qc, qc ∈ rhs → m.lookup qc.1 = none) → insertClusters rhs m = m ++ rhs := by
  induction rhs with
  | nil => exact fun m _ => (List.append_nil m).symm
  | cons qc rhs ih =>
    intro m hd
    obtain ⟨q, c⟩ := qc
    have h0 : m.lookup q = none := hd (q, c) List.mem_cons_self
    have hnd' := keysNodup_cons.mp hnd
    have e : insertCluster m (q, c) = m ++ [(q, c)] := by simp [insertCluster, h0]
    have ih' := ih hnd'.2 (m ++ [(q, c)]) (by
      intro qc' hqc'
      rw [List.lookup_append, hd qc' (List.mem_cons_of_mem _ hqc')]
      have hne : qc'.1 ≠ q := fun e' => hnd'.1 qc'.2 (e' ▸ hqc')
      have hb : (qc'.1 == q) = false := by simpa using hne
      simp [List.lookup, hb])
    simp only [insertClusters, List.foldl_cons, e] at ih' ⊢
    rw [ih', List.append_assoc]
    rfl

theorem foldl_insN_disj (qs : List Nat) (hnd : qs.Nodup) : ∀ (init : List Nat), (∀ q, q ∈ qs → q ∉ init) →
    qs.foldl (fun acc q => insN q acc) init = init ++ qs := by
  induction qs with
  | nil => exact fun init _ => (List.append_nil init).symm
  | cons q qs ih =>
    intro init hd
    have hnd' := List.nodup_cons.mp hnd
    have e : insN q init = init ++ [q] := by
      unfold insN
      rw [if_neg]
      rw [List.contains_iff_mem]
      exact hd q List.mem_cons_self
    rw [List.foldl_cons, e, ih hnd'.2 (init ++ [q]) (by
      intro q' hq' hm
      rcases List.mem_append.mp hm with hm | hm
      · exact hd q' (List.mem_cons_of_mem _ hq') hm
      · rw [List.mem_singleton] at hm
        exact hnd'.1 (hm ▸ hq')), List.append_assoc]
    rfl

/-- under the invariant every key of the cluster map is the parent of a rule, hence a state -/
theorem key_mem_states {s : Store} (h : Inv s) {q : Nat} {c : Cluster} (hm : (q, c) ∈ s.clusters) : q ∈ (toTA s).states := by
  obtain ⟨r, hr, rfl⟩ := exists_rule_of_mem h hm
  exact parent_mem_states hr

/-- state-disjoint operands satisfying the invariant: the result is the concatenation of the two cluster maps and of the two
final-state sets -/
theorem unionDisj_eq (A B : Store) (hA : Inv A) (hB : Inv B)
    (hdis : ∀ q, q ∈ (toTA A).states → q ∉ (toTA B).states) :
    unionDisjStoreCoded A B = ⟨A.clusters ++ B.clusters, A.final ++ B.final⟩ := by
  unfold unionDisjStoreCoded
  rw [insertClusters_disj B.clusters hB.keys A.clusters, foldl_insN_disj B.final hB.final A.final]
  · intro q hq hq'
    exact hdis q (final_mem_states (A := toTA A) hq') (final_mem_states (A := toTA B) hq)
  · intro qc hqc
    cases hl : A.clusters.lookup qc.1 with
    | none => rfl
    | some c =>
      exact absurd (key_mem_states hB (q := qc.1) (c := qc.2) hqc) (hdis _ (key_mem_states hA (mem_of_lookup hl)))

theorem unionDisj_inv (A B : Store) (hA : Inv A) (hB : Inv B)
    (hdis : ∀ q, q ∈ (toTA A).states → q ∉ (toTA B).states) : Inv (unionDisjStoreCoded A B) := by
  rw [unionDisj_eq A B hA hB hdis]
  refine ⟨?_, ?_, ?_⟩
  · unfold KeysNodup
    rw [List.map_append, List.nodup_append]
    refine ⟨hA.keys, hB.keys, ?_⟩
    intro a ha b hb e
    obtain ⟨qc, hqc, e1⟩ := List.mem_map.mp ha
    obtain ⟨qc', hqc', e2⟩ := List.mem_map.mp hb
    subst e1; subst e2
    exact hdis _ (key_mem_states hA (q := qc.1) (c := qc.2) hqc) (e ▸ key_mem_states hB (q := qc'.1) (c := qc'.2) hqc')
  · intro qc hqc
    rcases List.mem_append.mp hqc with h | h
    · exact hA.clusters qc h
    · exact hB.clusters qc h
  · show (A.final ++ B.final).Nodup
    rw [List.nodup_append]
    refine ⟨hA.final, hB.final, ?_⟩
    intro a ha b hb e
    exact hdis a (final_mem_states (A := toTA A) ha) (e ▸ final_mem_states (A := toTA B) hb)

theorem foldl_add_snoc (rs : List Rule) (x : Rule) (s : Store) :
    (rs ++ [x]).foldl addTransition s = addTransition (rs.foldl addTransition s) x := by
  rw [List.foldl_append]; rfl

theorem isectProcS_eq (n : Nat) (s0 : Store) : ∀ (rrs : List (Rule × Rule)) (m : PMap) (st : List (Nat × Nat)) (rs : List Rule),
    isectProcS n rrs m st (rs.foldl addTransition s0) =
      ((isectProc n rrs m st rs).1, (isectProc n rrs m st rs).2.1, (isectProc n rrs m st rs).2.2.foldl addTransition s0)
  | [], _, _, _ => rfl
  | rr :: rest, m, st, rs => by
    simp only [isectProcS, isectProc]
    rw [← foldl_add_snoc]
    exact isectProcS_eq n s0 rest _ _ _

theorem isectLoopS_eq (A B : TA) (s0 : Store) : ∀ (fuel : Nat) (m : PMap) (st : List (Nat × Nat)) (rs : List Rule),
    isectLoopS A B fuel m st (rs.foldl addTransition s0) =
      (isectLoop A B fuel m st rs).map (fun p => (p.1, p.2.foldl addTransition s0))
  | 0, m, st, rs => by
    simp only [isectLoopS, isectLoop]
    split <;> rfl
  | _+1, m, [], rs => rfl
  | n+1, m, pr :: st, rs => by
    simp only [isectLoopS, isectLoop]
    rw [isectProcS_eq]
    exact isectLoopS_eq A B s0 n _ _ _

/-- `Intersection` on stores IS `isectTD` with the rules added one by one to the store that holds the final states -/
theorem isectStoreCoded_eq (A B : Store) (fuel : Nat) :
    isectStoreCoded A B fuel =
      (isectTD (toTA A) (toTA B) fuel).map (fun r => (r.1.rules.foldl addTransition (setFinals empty r.1.final), r.2)) := by
  have h := isectLoopS_eq (toTA A) (toTA B) (setFinals empty (addPairs (finalPairs (toTA A) (toTA B)) [] []).2.2) fuel
    (addPairs (finalPairs (toTA A) (toTA B)) [] []).1 (addPairs (finalPairs (toTA A) (toTA B)) [] []).2.1 []
  rw [List.foldl_nil] at h
  unfold isectStoreCoded isectTD
  simp only
  rw [h]
  cases hl : isectLoop (toTA A) (toTA B) fuel (addPairs (finalPairs (toTA A) (toTA B)) [] []).1
      (addPairs (finalPairs (toTA A) (toTA B)) [] []).2.1 [] with
  | none => rfl
  | some p =>
    obtain ⟨m, rs⟩ := p
    simp only [Option.map_some]
    split <;> rfl

theorem isectStoreCoded_spec {A B : Store} {fuel : Nat} {S : Store} {m : PMap} (h : isectStoreCoded A B fuel = some (S, m)) :
    ∃ P, isectTD (toTA A) (toTA B) fuel = some (P, m) ∧ S = P.rules.foldl addTransition (setFinals empty P.final) ∧
      Inv S ∧ (∀ x, x ∈ iterate S ↔ x ∈ P.rules) ∧ (∀ q, q ∈ S.final ↔ q ∈ P.final) := by
  rw [isectStoreCoded_eq] at h
  cases hT : isectTD (toTA A) (toTA B) fuel with
  | none => rw [hT] at h; cases h
  | some r =>
    obtain ⟨P, m'⟩ := r
    rw [hT] at h
    simp only [Option.map_some, Option.some.injEq, Prod.mk.injEq] at h
    obtain ⟨h1, h2⟩ := h
    subst h2
    have hi : Inv (setFinals empty P.final) := inv_setFinals inv_empty _
    refine ⟨P, rfl, h1.symm, ?_, ?_, ?_⟩
    · rw [← h1]; exact inv_foldl_add hi _
    · intro x
      rw [← h1, mem_iterate_foldl_add hi]
      simp [iterate, setFinals, empty]
    · intro q
      rw [← h1]
      rw [final_foldl_add]
      simp [setFinals, empty, mem_foldl_insN]

end Vata.UnionStoreCoded
