import Vata.Proofs.FunctorCachesDownOptRun
import Vata.Proofs.FunctorCachesDownNonrec
import Vata.Properties.C01_CachesDown
/-!
# C01 / C07 – the caches and containers of `OptDownwardInclusionFunctor` and of the non-recursive downward algorithm are
transparent (library's deleter)

(second part of the file: the non-recursive algorithm, with its own header)

Property text served: C01 "each implemented inclusion algorithm of the explicit encoding returns true exactly when …" and C07
(the same for the BDD encodings) – for the selections `ANTICHAINS_DOWN_REC_OPT_NOSIM` / `ANTICHAINS_DOWN_REC_OPT_SIM`
(`src/explicit_tree_incl.cc`, `src/bdd_td_tree_aut_incl.cc`: `CheckDownwardTreeInclusion<…, OptDownwardInclusionFunctor, …>`).
The cache-free model is `inclDownOpt` (= `inclDownRec` by definition) / `inclDownSim` of `Vata/InclDown.lean`.

## Does the `Opt` functor compute something else?  (the code was read, `src/down_tree_opt_incl_fctor.hh`)

* VERDICT: no.  Its only additional test is `isInclusionImplied` on the global antichain `incl_`; `incl_` is filled by
  `processFoundGlobalInclusion` only, which runs over the elements of `consequent`; a `consequent` only ever receives the
  consequents returned by sub-calls (`cons_.insert(cons.begin(), cons.end())`), and every returned consequent is either
  `ConsequentType()` or such a local – so all of them are empty and `incl_` is never filled.  This is PROVED on the as-coded
  model (`incl_`, `cons_`, the returned tuples and the loop are all in the model; "`cons_` and `incl_` are empty" is part of the
  simulation invariant `FCD.DRelO`, and `C01_downward_opt_memo_sound` states it for the end of a run).
* HEAP and `lteCache`: yes.  A hit in the work-set returns the work-set element as antecedent; the calling functor merges every
  returned antecedent into its `ant_` (`Antichain2Cv2::get` / `contains` / `refine` / `insert` with `smallerComparer_`, i.e.
  through `lteCache`), and `ant_` is the `antecedent` of the enclosing `expand` (of `CheckDownwardTreeInclusion` for the root
  functor – never cleared).  So macro-states live longer and `lteCache` gets more entries than with the plain functor
  (example below: 2 live objects / 2 entries at the end against 1 / 0).  The theorem says this does not change any answer.

## How the C++ is read into the model (`Vata/FunctorCachesDownOpt.lean`)

* `FCD.runO o w pick A B fuel` = `CheckDownwardTreeInclusion<Aut, OptDownwardInclusionFunctor, Rel>`: `rootLoopO` (the root
  functor with its `childrenCache_`, `antecedent`, `consequent` shared by all turns), `expandO` (the five early exits in the
  order of the code, `isInWorkset` returning the element, the inner functor, `processFoundInclusion` /
  `processFoundNoninclusion`, the `antecedent.empty()` block, the returned tuple), `wrapO` (what `operator()` does around a call
  of `expand`: the temporary `biggerTypeCache_.lookup(..)`, on success the merge loop `antMergeC` and `cons_.insert`), `bodyG`
  (the control flow of `operator()`, the one of `InclDown.body`).
* `o`, `w`, `pick`, heap, deaths: as in `C01_CachesDown.lean`; the `hCollect`s are at the end of `expand` and where
  `operator()` leaves the block of the call, with all existing handles as roots (work-set, `key`, for every functor on the stack
  its `childrenCache_`, `ant_`, `cons_`, and `nonIncl_`, `incl_`).
* covered: explicit (C01) and top-down BDD (C07) instantiation of the shared template, with and without preorder.

## What is abstracted

As in `C01_CachesDown.lean`: iteration orders of hash containers / of `std::set<pair<state, shared_ptr>>` (list order;
`Antichain2Cv2::get` pops the head), reference counters (deaths by their effect), the ghost data of `InclDown`.
-/
namespace Vata.Props
open Vata.InclDown Vata.FCD Vata.CM
open Vata.FCU (Heap hval pickLeast)

/-- **`ANTICHAINS_DOWN_REC_OPT_*`: `biggerTypeCache`, `lteCache`, `incl_`, the antecedents and consequents are transparent –
for every allocator.**  With the library's deleter, `CheckDownwardTreeInclusion` with `OptDownwardInclusionFunctor` as coded
returns, for all operands, every fuel and every allocator `pick`, exactly what the cache-free models return: `inclDownOpt`
(same verdict, same certificate, `none` at the same fuel), `inclDownSim` with a relation, and the exploration alone for any
preorder `o` with a reflexive `leB` – verdict, `nonIncl_` by value, ghost set; moreover the raw verdict is that of the plain
functor run with its caches and any other allocator.

Hypothesis `∀ q, o.leB q q = true`: as in `C01_downward_caches_transparent` (pointer equality in `SetComparerSmaller`); it
holds for `idOrd` and every `ordOf R A B` and cannot be dropped (`C01_downward_opt_refl_needed`). -/
theorem C01_downward_opt_caches_transparent (pick : List Nat → Nat) (A B : TA) (fuel : Nat) :
    checkInclDownOptC .lib pick A B fuel = inclDownOpt (removeUseless A) (removeUseless B) fuel ∧
    inclDownOptC .lib pick A B fuel = inclDownOpt A B fuel ∧
    (∀ R : Rel, inclDownOptSimC .lib pick A B R fuel = inclDownSim A B R fuel) ∧
    (∀ o : Ord, (∀ q, o.leB q q = true) →
      viewO (FCD.runO o .lib pick A B fuel) =
        rootLoop o A B (InclUp.prodWit A) fuel (InclUp.normS B.final) (dedup A.final) [] ⟨[], []⟩ ∧
      truesOfO (FCD.runO o .lib pick A B fuel) = InclDown.run o A B fuel ∧
      ∀ pick', rawVerdictO (FCD.runO o .lib pick A B fuel) = rawVerdictD (FCD.runC o .lib pick' A B fuel)) :=
  ⟨checkInclDownOpt_cached_eq pick A B fuel, inclDownOpt_cached_eq pick A B fuel,
    fun R => inclDownOptSim_cached_eq pick A B R fuel,
    fun _ hr => ⟨runO_eq hr pick A B fuel, truesOfO_runO_eq hr pick A B fuel,
      fun pick' => rawVerdictO_eq_plain hr pick pick' A B fuel⟩⟩

-- non-vacuity: runs in which macro-states die, their addresses are reused at once and `lteCache` is filled and purged
example : (checkInclDownOptC .lib pickLeast FCDEx.exA FCDEx.exB 20).map (·.1) = some false := by decide +kernel
example : (inclDownOptC .lib pickLeast FCDEx.exA FCDEx.exB2 20).map (·.1) = some true := by decide +kernel
example : (inclDownOptSimC .lib pickLeast InclDownEx.exS1 InclDownEx.exS2 [(5, 6)] 10).map (·.1) = some true := by
  decide +kernel

namespace OptEx
/-- `g(0) → 0`, `h(0) → 0`, `c → 0` -/
def exA2 : TA := ⟨[⟨1, [0], 0⟩, ⟨2, [0], 0⟩, ⟨0, [], 0⟩], [0]⟩
def exB3 : TA := ⟨[⟨1, [11], 10⟩, ⟨1, [12], 10⟩, ⟨2, [11], 10⟩, ⟨2, [12], 10⟩, ⟨0, [], 10⟩,
  ⟨1, [11], 11⟩, ⟨1, [12], 11⟩, ⟨2, [12], 11⟩, ⟨1, [12], 12⟩, ⟨2, [11], 12⟩, ⟨2, [12], 12⟩, ⟨0, [], 12⟩, ⟨0, [], 11⟩], [10]⟩

/-- the run of the `Opt` functor on `exA2 ⊆ exB3` with the library's deleter, evaluated once -/
theorem run_lib :
    (finalHeapO (FCD.runO idOrd .lib pickLeast exA2 exB3 30)).map (fun h => (h.store, h.lte.store.length)) =
      some ([(0, [11]), (1, [12])], 2) ∧
    rawVerdictO (FCD.runO idOrd .lib pickLeast exA2 exB3 30) = some true ∧
    (finalHeapO (FCD.runO idOrd .lib pickLeast exA2 exB3 30)).map (heapOKD idOrd) = some true ∧
    finalInclO (FCD.runO idOrd .lib pickLeast exA2 exB3 30) = some [] := by decide +kernel
end OptEx

/-- **the `Opt` functor is a different computation on the heap**: on `exA2 ⊆ exB3` (same allocator, library's deleter, both
answer `true`) it ends with two live macro-states and two `lteCache` entries – handles kept by the root functor's antecedent,
entries made by the merge loop – where the plain functor ends with one object and an empty `lteCache` -/
theorem C01_downward_opt_heap_differs :
    (finalHeapO (FCD.runO idOrd .lib pickLeast OptEx.exA2 OptEx.exB3 30)).map (fun h => (h.store, h.lte.store.length)) =
      some ([(0, [11]), (1, [12])], 2) ∧
    (finalHeapD (FCD.runC idOrd .lib pickLeast OptEx.exA2 OptEx.exB3 30)).map (fun h => (h.store, h.lte.store.length)) =
      some ([(0, [11])], 0) ∧
    rawVerdictO (FCD.runO idOrd .lib pickLeast OptEx.exA2 OptEx.exB3 30) = some true :=
  ⟨OptEx.run_lib.1, by decide +kernel, OptEx.run_lib.2.1⟩

/-- … in the form of `C01_downward_rec_model_exact`: exact and total with all caches, for every allocator -/
theorem C01_downward_opt_cached_exact (pick : List Nat → Nat) (A B : TA) :
    (∀ fuel b c, checkInclDownOptC .lib pick A B fuel = some (b, c) → (b = true ↔ Incl A B)) ∧
    (∀ fuel, InclDown.fuelBoundD (removeUseless A) (removeUseless B) < fuel →
      (Incl A B → ∃ c, checkInclDownOptC .lib pick A B fuel = some (true, c)) ∧
      (¬ Incl A B → ∃ c, checkInclDownOptC .lib pick A B fuel = some (false, c))) := by
  have e : ∀ fuel, checkInclDownOptC .lib pick A B fuel = checkInclDownRec A B fuel :=
    fun fuel => checkInclDownOpt_cached_eq pick A B fuel
  simp only [e]
  exact C01_downward_rec_model_exact A B

example : (checkInclDownOptC .lib pickLeast FCDEx.exA FCDEx.exB2 20).map (·.1) = some true := by decide +kernel

/-- **the invariant behind it, and `incl_` is never filled**: at the end of every run that returns `true` (library's deleter,
every allocator, every preorder with reflexive `leB`) every entry of `lteCache` mentions two LIVE macro-states and stores
`NonCachedLte` of the values now at those addresses, and the global cache `incl_` is empty -/
theorem C01_downward_opt_memo_sound (o : Ord) (hr : ∀ q, o.leB q q = true) (pick : List Nat → Nat) (A B : TA) (fuel : Nat)
    (s : StO) (hf : FCD.runO o .lib pick A B fuel = some (.ok s)) :
    (∀ a b r, aget s.h.lte.store (a, b) = some r →
      a ∈ s.h.addrs ∧ b ∈ s.h.addrs ∧ r = setLe o (hval s.h a) (hval s.h b)) ∧ heapOKD o s.h = true ∧ s.incl = [] :=
  ⟨(runO_heap_sound hr pick A B fuel hf).1.sl, (runO_heap_sound hr pick A B fuel hf).2⟩

example : (finalHeapO (FCD.runO idOrd .lib pickLeast OptEx.exA2 OptEx.exB3 30)).map (heapOKD idOrd) = some true ∧
    finalInclO (FCD.runO idOrd .lib pickLeast OptEx.exA2 OptEx.exB3 30) = some [] :=
  OptEx.run_lib.2.2

/-- **the wiring matters for the `Opt` selection too** (the seeded change: the deleter calls `invalidateFirst` twice).  On
`FCDEx.exA`, `FCDEx.exB` with an allocator that recycles the address of a dead macro-state at once the stale entry
`(&X, &D) ↦ true` answers `lte(X, D')` in `isInWorkset`: `return true` although `g(h(c))` is accepted by `exA` only.  The same
with no deleter; the library's deleter answers `false`.  The run with the slip ends with a table that violates the invariant,
and the certifying model refuses the wrong `true`. -/
theorem C01_downward_opt_wiring_matters :
    (rawVerdictO (FCD.runO idOrd .firstTwice pickLeast FCDEx.exA FCDEx.exB 20) = some true ∧
     rawVerdictO (FCD.runO idOrd .none pickLeast FCDEx.exA FCDEx.exB 20) = some true ∧
     rawVerdictO (FCD.runO idOrd .lib pickLeast FCDEx.exA FCDEx.exB 20) = some false ∧ ¬ Incl FCDEx.exA FCDEx.exB) ∧
    (finalHeapO (FCD.runO idOrd .firstTwice pickLeast FCDEx.exA FCDEx.exB 20)).map (heapOKD idOrd) = some false ∧
    inclDownOptC .firstTwice pickLeast FCDEx.exA FCDEx.exB 20 = none :=
  by
  -- the three facts about the run with the slip are read off one evaluation
  have hslip : rawVerdictO (FCD.runO idOrd .firstTwice pickLeast FCDEx.exA FCDEx.exB 20) = some true ∧
      (finalHeapO (FCD.runO idOrd .firstTwice pickLeast FCDEx.exA FCDEx.exB 20)).map (heapOKD idOrd) = some false ∧
      inclDownOptC .firstTwice pickLeast FCDEx.exA FCDEx.exB 20 = none := by decide +kernel
  -- with the library's deleter the `Opt` functor answers what the plain one answers
  exact ⟨⟨hslip.1, by decide +kernel, (rawVerdictO_eq_plain idOrd_refl _ pickLeast _ _ _).trans FCDEx.lib_run.1,
    FCDEx.ex_not_incl⟩, hslip.2⟩

/-- the reflexivity hypothesis cannot be dropped (as `C01_downward_refl_needed`) -/
theorem C01_downward_opt_refl_needed :
    rawVerdictO (FCD.runO FCDEx.oBad .lib pickLeast FCDEx.exA FCDEx.exB 20) = some false ∧
    InclDown.run FCDEx.oBad FCDEx.exA FCDEx.exB 20 = none :=
  ⟨by decide +kernel, C01_downward_refl_needed.2⟩

/-- whatever the wiring and the allocator: a verdict that passes the certificate check of the model is right -/
theorem C01_downward_opt_cached_verdicts (w : Wiring) (pick : List Nat → Nat) (A B : TA) (fuel : Nat) (b : Bool)
    (c : InclUp.Cert) (h : inclDownOptC w pick A B fuel = some (b, c)) : b = true ↔ Incl A B := by
  unfold inclDownOptC at h
  exact finish_iff (fun _ hX => downCertB_incl hX) h

/-- **C07, top-down BDD encoding** (`ANTICHAINS_DOWN_REC_OPT_NOSIM` / `…_OPT_SIM` of `BDDTDTreeAutCore::CheckInclusion`: the
same template with the same functor): with everything as coded, the library's deleter and any allocator the verdicts are
those of the models of `C07_td_downward_models_exact`, hence exact -/
theorem C07_td_downward_opt_caches_transparent (pick : List Nat → Nat) (A B : TA) (R : Rel) :
    (∀ fuel, checkInclDownOptC .lib pick A B fuel = checkInclDownRec A B fuel ∧
      inclDownOptSimC .lib pick A B R fuel = inclDownSim A B R fuel) ∧
    (∀ fuel b c, checkInclDownOptC .lib pick A B fuel = some (b, c) → (b = true ↔ Incl A B)) ∧
    (∀ fuel b c, inclDownOptSimC .lib pick A B R fuel = some (b, c) → (b = true ↔ Incl A B)) := by
  obtain ⟨h1, _, h3, _, _⟩ := C07_td_downward_models_exact A B R
  have e : ∀ fuel, checkInclDownOptC .lib pick A B fuel = checkInclDownRec A B fuel :=
    fun fuel => checkInclDownOpt_cached_eq pick A B fuel
  refine ⟨fun fuel => ⟨e fuel, inclDownOptSim_cached_eq pick A B R fuel⟩, ?_, ?_⟩
  · intro fuel b c h; rw [e] at h; exact h1 fuel b c h
  · intro fuel b c h; rw [inclDownOptSim_cached_eq] at h; exact h3 fuel b c h

/-!
# The non-recursive algorithm `src/explicit_tree_incl_down.cc` (`ANTICHAINS_DOWN_NONREC_NOSIM` / `…_SIM`, explicit encoding)

`FCD.runNC o w pick A B fuel` (`Vata/FunctorCachesDownNonrec.lean`) is `ExplicitDownwardInclusion::checkInternal` + the file-local
`expand` as coded, the emulated calls as recursion (as in `InclDown.expandN`): `biggerF`, the ONE variable `S` (a new set is
looked up while the old one is still held), `workset`, `top.P_B` / `top.childrenCache` and those of the saved frames,
`nonincluded`, and the frames the `CachingAllocator` of the call emulator keeps after `pop` – they still hold the caller's `P_B`
and, through the `std::swap`, the `childrenCache` of the call that returned, until `push` re-uses them (`StN.pool`); `lte` / `gte`
through pointer equality and `lteCache.lookup`; the deaths by `hCollect` with all these handles as roots.
-/

/-- **`biggerTypeCache` and `lteCache` are transparent for the non-recursive downward algorithm – for every allocator.**
With the library's deleter, `checkInternal` with its caches as coded returns, for all operands, every fuel and every allocator
`pick`, exactly what the cache-free models on top of `InclDown.expandN` return: the certifying models with and without
simulation, and the exploration alone for any preorder `o` with reflexive `leB` (verdict, `nonincluded` by value, ghost set). -/
theorem C01_downward_nonrec_caches_transparent (pick : List Nat → Nat) (A B : TA) (fuel : Nat) :
    checkInclDownNonrecC .lib pick A B fuel = checkInclDownNonrec A B fuel ∧
    inclDownNonrecC .lib pick A B fuel = inclDownNonrec A B fuel ∧
    (∀ R : Rel, inclDownNonrecSimC .lib pick A B R fuel = inclDownNonrecSim A B R fuel) ∧
    (∀ o : Ord, (∀ q, o.leB q q = true) →
      viewN (FCD.runNC o .lib pick A B fuel) =
        rootLoopN o A B (InclUp.prodWit A) fuel (InclUp.normS B.final) (dedup A.final) ⟨[], []⟩ ∧
      truesOfN (FCD.runNC o .lib pick A B fuel) = InclDown.runN o A B fuel) :=
  ⟨checkInclDownNonrec_cached_eq pick A B fuel, inclDownNonrec_cached_eq pick A B fuel,
    fun R => inclDownNonrecSim_cached_eq pick A B R fuel,
    fun _ hr => ⟨runNC_eq hr pick A B fuel, truesOfN_runNC_eq hr pick A B fuel⟩⟩

namespace NonrecEx
def nA : TA := ⟨[⟨1, [1], 0⟩, ⟨2, [1], 1⟩, ⟨0, [], 1⟩, ⟨1, [0], 1⟩], [0]⟩
def nB : TA := ⟨[⟨0, [], 11⟩, ⟨1, [11], 13⟩, ⟨2, [10], 10⟩, ⟨2, [10], 12⟩, ⟨1, [10], 10⟩, ⟨2, [13], 13⟩,
  ⟨1, [11], 10⟩, ⟨2, [13], 12⟩, ⟨0, [], 12⟩, ⟨2, [12], 10⟩], [10]⟩

/-- the run with the library's deleter, evaluated once: verdict, final heap (macro-states died, addresses were reused,
`lteCache` was filled and purged), and the certifying model on top of it -/
theorem run_lib :
    rawVerdictN (FCD.runNC idOrd .lib pickLeast nA nB 12) = some true ∧
    (finalHeapN (FCD.runNC idOrd .lib pickLeast nA nB 12)).map
      (fun h => (h.store, h.lte.store.length, heapOKD idOrd h)) = some ([(0, [10]), (4, [10, 13])], 2, true) ∧
    (inclDownNonrecC .lib pickLeast nA nB 12).map (·.1) = some true := by decide +kernel

theorem incl : Incl nA nB := by
  obtain ⟨c, h⟩ := Verdict.exists_cert run_lib.2.2
  rw [inclDownNonrec_cached_eq] at h
  exact (inclDownNonrec_iff h).mp rfl
end NonrecEx

-- non-vacuity: macro-states die, addresses are reused, `lteCache` is filled and purged
example : (inclDownNonrecC .lib pickLeast NonrecEx.nA NonrecEx.nB 12).map (·.1) = some true := NonrecEx.run_lib.2.2
example : (checkInclDownNonrecC .lib pickLeast FCDEx.exA FCDEx.exB 20).map (·.1) = some false := by decide +kernel
example : (finalHeapN (FCD.runNC idOrd .lib pickLeast NonrecEx.nA NonrecEx.nB 12)).map
    (fun h => (h.store, h.lte.store.length, heapOKD idOrd h)) = some ([(0, [10]), (4, [10, 13])], 2, true) :=
  NonrecEx.run_lib.2.1
example : (inclDownNonrecSimC .lib pickLeast InclDownEx.exS1 InclDownEx.exS2 [(5, 6)] 10).map (·.1) = some true := by
  decide +kernel

/-- … in the form of `C01_downward_rec_model_exact`: every verdict with the caches is right, for every allocator -/
theorem C01_downward_nonrec_cached_exact (pick : List Nat → Nat) (A B : TA) (fuel : Nat) (b : Bool) (c : InclUp.Cert)
    (h : inclDownNonrecC .lib pick A B fuel = some (b, c)) : b = true ↔ Incl A B := by
  rw [inclDownNonrec_cached_eq] at h
  exact inclDownNonrec_iff h

/-- the invariant of `lteCache` at the end of every run of the non-recursive algorithm that returns `true` -/
theorem C01_downward_nonrec_memo_sound (o : Ord) (hr : ∀ q, o.leB q q = true) (pick : List Nat → Nat) (A B : TA)
    (fuel : Nat) (s : StN) (hf : FCD.runNC o .lib pick A B fuel = some (.ok s)) :
    (∀ a b r, aget s.h.lte.store (a, b) = some r →
      a ∈ s.h.addrs ∧ b ∈ s.h.addrs ∧ r = setLe o (hval s.h a) (hval s.h b)) ∧ heapOKD o s.h = true :=
  ⟨(runNC_heap_sound hr pick A B fuel hf).1.sl, (runNC_heap_sound hr pick A B fuel hf).2⟩

/-- **the wiring matters for the non-recursive algorithm**: on `nA ⊆ nB` (which holds) with an allocator that recycles a dead
address at once, `checkInternal` WITHOUT the deleter (`Wiring.none`, the default deleter of `Util::Cache`) finds a stale
`lteCache` entry and returns `false`; with the library's deleter it returns `true`.  The seeded slip `invalidateFirst` twice
leaves a table that violates the invariant (here without changing the verdict: the variable `S` and the reclaimed frames keep
most objects alive across the next allocation).  The certifying model refuses the wrong `false`. -/
theorem C01_downward_nonrec_wiring_matters :
    rawVerdictN (FCD.runNC idOrd .none pickLeast NonrecEx.nA NonrecEx.nB 12) = some false ∧
    rawVerdictN (FCD.runNC idOrd .lib pickLeast NonrecEx.nA NonrecEx.nB 12) = some true ∧ Incl NonrecEx.nA NonrecEx.nB ∧
    (finalHeapN (FCD.runNC idOrd .firstTwice pickLeast NonrecEx.nA NonrecEx.nB 12)).map (heapOKD idOrd) = some false ∧
    inclDownNonrecC .none pickLeast NonrecEx.nA NonrecEx.nB 12 = none :=
  by
  -- the two facts about the run without deleter are read off one evaluation
  have hnone : rawVerdictN (FCD.runNC idOrd .none pickLeast NonrecEx.nA NonrecEx.nB 12) = some false ∧
      inclDownNonrecC .none pickLeast NonrecEx.nA NonrecEx.nB 12 = none := by decide +kernel
  exact ⟨hnone.1, NonrecEx.run_lib.1, NonrecEx.incl, by decide +kernel, hnone.2⟩

/-- whatever the wiring and the allocator: a verdict that passes the certificate check of the model is right -/
theorem C01_downward_nonrec_cached_verdicts (w : Wiring) (pick : List Nat → Nat) (A B : TA) (fuel : Nat) (b : Bool)
    (c : InclUp.Cert) (h : inclDownNonrecC w pick A B fuel = some (b, c)) : b = true ↔ Incl A B := by
  unfold inclDownNonrecC at h
  exact finish_iff (fun _ hX => downCertB_incl hX) h

/-!
## which "not yet proved" items this file closes

`C01_CachesDown.lean`, "still not proved": "`OptDownwardInclusionFunctor` … no cached model" and "the non-recursive variant
`src/explicit_tree_incl_down.cc` … no cached model" – both closed (explicit encoding; the `Opt` result also for the top-down BDD
instantiation of the shared template).

## still not proved

* no verdict-changing run of the NON-RECURSIVE algorithm with the seeded `firstTwice` deleter was found (40 000 random pairs of
  small automata; the invariant breaks in about 10 % of them, the verdict in none) – `C01_downward_nonrec_wiring_matters` shows
  a changed verdict for the missing deleter and a broken invariant for `firstTwice`; whether `firstTwice` can change a verdict
  there is open.
* the emulated calls of `explicit_tree_incl_down.cc` are modelled by recursion (as `InclDown.expandN` does): the `goto` / `retAddr`
  machine itself, the iterators saved in the frames and the test `smallerIndex.size() <= r_i` are not modelled; of a frame only what
  holds handles (`P_B`, `childrenCache`) is kept.
* reference counting is modelled by its effect (`hCollect` at the points where handles are dropped – for the merge loop of the
  `Opt` functor and for `S = biggerTypeCache.lookup(..)` see the headers of the two model files for why this equals the deaths one
  by one), not by counters; iteration orders of the hash containers and of `std::set<pair<state, shared_ptr>>` are list orders.
* the comparison is with the MODELS of `Vata/InclDown.lean`; that the cached models' verdicts equal the C++ verdicts is testable
  through `FCD.runO` / `FCD.rawVerdictO` and `FCD.runNC` / `FCD.rawVerdictN`, not proved.
-/
end Vata.Props
