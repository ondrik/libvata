import Vata.Proofs.BddIsect
/-!
C08: the apply with a side effect.  The translator in a state the models can be in (`Good`: numbering from `c0`, the
work-set holds entries of the map) only ever grows map and work-set by the same fresh pairs (`Step`, `Transl`); `apply2S`
with the side-effecting leaf operation returns `M.apply2` of the PURE pairing operation (`BddAbs.prodS` / `prodTS`) for the
translation map it leaves behind (`apply2S_spec`, for any leaf operation with a `LeafSpec`: `leafSpecBU`, `leafSpecTD`); on
known pairs the translator and the leaf operations change nothing, which is why the result cache of `Apply2Functor` need not
be modelled.  The two work-list loops rest on this: `Vata/Proofs/BddIsectTotal.lean`, `Vata/Proofs/BddIsectBUTotal.lean`.
-/
namespace Vata
namespace BddIsect
open M BddAbs BddAbsTD

theorem apply2_congr {α β γ : Type} [DecidableEq γ] (f g : α → β → γ) (a : Node α) (b : Node β) :
    (∀ ll, ll ∈ voidApply2 a b → f ll.1 ll.2 = g ll.1 ll.2) → apply2 f a b = apply2 g a b := by
  induction a, b using Step2.induct with
  | leaf v w =>
    intro h
    rw [apply2, apply2, h (v, w) (by rw [voidApply2]; exact List.mem_cons_self)]
  | node d ih1 ih2 =>
    intro h
    rw [d.voidApply2] at h
    rw [d.apply2, d.apply2, ih1 (fun ll hl => h ll (List.mem_append_left _ hl)),
      ih2 (fun ll hl => h ll (List.mem_append_right _ hl))]

theorem voidApply2_sub {α β : Type} (a : Node α) (b : Node β) (ll : α × β) : ll ∈ voidApply2 a b →
    ll.1 ∈ voidApply1 a ∧ ll.2 ∈ voidApply1 b := by
  induction a, b using Step2.induct with
  | leaf v w =>
    rw [voidApply2, List.mem_singleton]
    rintro rfl
    exact ⟨List.mem_cons_self, List.mem_cons_self⟩
  | node d ih1 ih2 =>
    rw [d.voidApply2, List.mem_append]
    rintro (h | h)
    · exact ⟨d.cofA.leaves (Or.inl (ih1 h).1), d.cofB.leaves (Or.inl (ih1 h).2)⟩
    · exact ⟨d.cofA.leaves (Or.inr (ih2 h).1), d.cofB.leaves (Or.inr (ih2 h).2)⟩

/-- inserting an entry with a key that the work-set does not hold (the counter is above all keys) -/
theorem mem_wsInsert {k : Nat} {pr : Nat × Nat} {w : Nat × (Nat × Nat)} : ∀ {ws : WS}, (∀ e, e ∈ ws → e.1 ≠ k) →
    (w ∈ wsInsert k pr ws ↔ w ∈ ws ∨ w = (k, pr))
  | [], _ => by rw [wsInsert, List.mem_singleton, List.mem_nil_iff, false_or]
  | e :: l, h => by
    rw [wsInsert]
    split
    · rw [List.mem_cons, or_comm]
    · rw [if_neg (fun hk => h e List.mem_cons_self hk.symm), List.mem_cons,
        mem_wsInsert (fun e' he' => h e' (List.mem_cons_of_mem _ he')), List.mem_cons, or_assoc]

theorem mem_wsErase {x : Nat} {ws : WS} {w : Nat × (Nat × Nat)} : w ∈ wsErase x ws ↔ w ∈ ws ∧ w.1 ≠ x := by
  rw [wsErase, List.mem_filter, bne_iff_ne]

variable {c0 : Nat}

/-- the invariant of `*pTranslMap`, `workset`, `stateCnt` between two leaf operations: the numbers are dense from `c0` and
every entry of the work-set is an entry of the map -/
structure Good (c0 : Nat) (s : St) : Prop where
  num : NumFrom c0 s.map s.cnt
  ws_map : ∀ w, w ∈ s.ws → s.map.lookup w.2 = some w.1

/-- `s'` is a later state than `s`: the map and the work-set grew by the same fresh pairs -/
structure Step (s s' : St) : Prop where
  ext : Isx.Ext s.map s'.map
  cnt : s.cnt ≤ s'.cnt
  new : ∀ pr k, s'.map.lookup pr = some k →
    s.map.lookup pr = some k ∨ (s.map.lookup pr = none ∧ (k, pr) ∈ s'.ws ∧ s.cnt ≤ k)
  ws_mono : ∀ w, w ∈ s.ws → w ∈ s'.ws
  ws_new : ∀ w, w ∈ s'.ws → w ∈ s.ws ∨ s.map.lookup w.2 = none

theorem Step.refl (s : St) : Step s s :=
  ⟨Isx.Ext.refl _, Nat.le_refl _, fun _ _ h => Or.inl h, fun _ h => h, fun _ h => Or.inl h⟩

theorem Step.trans {s s' s'' : St} (h : Step s s') (h' : Step s' s'') : Step s s'' := by
  refine ⟨Isx.Ext.trans h.ext h'.ext, Nat.le_trans h.cnt h'.cnt, ?_, fun w hw => h'.ws_mono w (h.ws_mono w hw), ?_⟩
  · intro pr k hk
    rcases h'.new pr k hk with h1 | ⟨h1, h2, h3⟩
    · rcases h.new pr k h1 with h4 | ⟨h4, h5, h6⟩
      · exact Or.inl h4
      · exact Or.inr ⟨h4, h'.ws_mono _ h5, h6⟩
    · exact Or.inr ⟨h.ext.lookup_none h1, h2, Nat.le_trans h.cnt h3⟩
  · intro w hw
    rcases h'.ws_new w hw with h1 | h1
    · exact h.ws_new w h1
    · exact Or.inr (h.ext.lookup_none h1)

theorem Good.key_lt {s : St} (h : Good c0 s) {w : Nat × (Nat × Nat)} (hw : w ∈ s.ws) : w.1 < s.cnt :=
  (h.num.lookup_lt (h.ws_map w hw)).2

theorem good_init (c0 : Nat) : Good c0 ⟨[], [], c0⟩ := ⟨numFrom_init c0, fun w hw => by cases hw⟩

theorem Good.erase {s : St} (h : Good c0 s) (x : Nat) : Good c0 (s.erase x) :=
  ⟨h.num, fun w hw => h.ws_map w (mem_wsErase.mp hw).1⟩

theorem NumFrom.lookup_inj {m : PMap} {c : Nat} (h : NumFrom c0 m c) {p p' : Nat × Nat} {n : Nat}
    (hp : m.lookup p = some n) (hp' : m.lookup p' = some n) : p = p' := by
  apply h.injOn p (Isx.mem_dom_iff.mpr ⟨n, hp⟩) p' (Isx.mem_dom_iff.mpr ⟨n, hp'⟩)
  simp only [lookupF, hp, hp']

theorem transl_good {s : St} (pr : Nat × Nat) (h : Good c0 s) : Good c0 (transl s pr).1 := by
  refine ⟨transl_pres (numFrom_pres c0) s pr h.num, ?_⟩
  unfold transl
  split
  · exact h.ws_map
  · rename_i hn
    intro w hw
    rcases (mem_wsInsert (fun e he => Nat.ne_of_lt (h.key_lt he))).mp hw with hw | hw
    · exact Isx.ext_snoc pr s.cnt _ _ (h.ws_map w hw)
    · subst hw; exact lookup_snoc_self hn _

theorem transl_step {s : St} (pr : Nat × Nat) (h : Good c0 s) :
    Step s (transl s pr).1 ∧ (transl s pr).1.map.lookup pr = some (transl s pr).2 := by
  have ins : ∀ {w}, w ∈ wsInsert s.cnt pr s.ws ↔ w ∈ s.ws ∨ w = (s.cnt, pr) :=
    mem_wsInsert (fun e he => Nat.ne_of_lt (h.key_lt he))
  unfold transl
  split
  · rename_i n hn; exact ⟨Step.refl s, hn⟩
  · rename_i hn
    refine ⟨⟨Isx.ext_snoc pr s.cnt, Nat.le_succ _, ?_, fun w hw => ins.mpr (Or.inl hw), ?_⟩,
      lookup_snoc_self hn _⟩
    · intro pr' k hk
      simp only at hk
      rw [lookup_snoc, Option.or_eq_some_iff] at hk
      rcases hk with hk | ⟨h1, hk⟩
      · exact Or.inl hk
      · split at hk
        · cases hk; subst pr'
          exact Or.inr ⟨h1, ins.mpr (Or.inr rfl), Nat.le_refl _⟩
        · cases hk
    · intro w hw
      rcases ins.mp hw with hw | hw
      · exact Or.inl hw
      · subst hw; exact Or.inr hn

theorem transl_dom {s : St} {pr p : Nat × Nat} (h : p ∈ (transl s pr).1.map.dom) : p ∈ s.map.dom ∨ p = pr := by
  unfold transl at h
  split at h
  · exact Or.inl h
  · exact Isx.dom_snoc.mp h

/-- the translator was called on the pairs `ps`: `s'` is a later state in which exactly the pairs of `ps` have joined the
known ones -/
structure Transl (c0 : Nat) (s : St) (ps : List (Nat × Nat)) (s' : St) : Prop where
  good : Good c0 s'
  step : Step s s'
  dom : ∀ p, p ∈ ps → p ∈ s'.map.dom
  back : ∀ p, p ∈ s'.map.dom → p ∈ s.map.dom ∨ p ∈ ps

theorem Transl.nil {s : St} (h : Good c0 s) : Transl c0 s [] s :=
  ⟨h, Step.refl s, fun _ hp => absurd hp List.not_mem_nil, fun _ hp => Or.inl hp⟩

theorem Transl.append {s s' s'' : St} {ps qs : List (Nat × Nat)} (h : Transl c0 s ps s') (h' : Transl c0 s' qs s'') :
    Transl c0 s (ps ++ qs) s'' := by
  refine ⟨h'.good, h.step.trans h'.step, fun p hp => ?_, fun p hp => ?_⟩
  · rcases List.mem_append.mp hp with hp | hp
    · exact h'.step.ext.dom (h.dom p hp)
    · exact h'.dom p hp
  · rw [List.mem_append, ← or_assoc]
    exact (h'.back p hp).imp_left (h.back p)

theorem translL_spec : ∀ (ps : List (Nat × Nat)) (s : St), Good c0 s →
    Transl c0 s ps (translL s ps).1 ∧ (translL s ps).2 = ps.map (lookupF (translL s ps).1.map)
  | [], _, h => ⟨.nil h, rfl⟩
  | pr :: ps, s, h => by
    obtain ⟨hs, hl⟩ := transl_step pr h
    have h1 : Transl c0 s [pr] (transl s pr).1 :=
      ⟨transl_good pr h, hs, fun p hp => by rw [List.mem_singleton.mp hp]; exact Isx.mem_dom_iff.mpr ⟨_, hl⟩,
        fun p hp => (transl_dom hp).imp_right List.mem_singleton.mpr⟩
    obtain ⟨t, hv⟩ := translL_spec ps (transl s pr).1 h1.good
    simp only [translL]
    exact ⟨h1.append t, by rw [hv, List.map_cons, Isx.lookupF_of (t.step.ext _ _ hl)]⟩

theorem translLL_spec : ∀ (ls : List (List (Nat × Nat))) (s : St), Good c0 s →
    Transl c0 s ls.flatten (translLL s ls).1 ∧
    (translLL s ls).2 = ls.map (fun l => l.map (lookupF (translLL s ls).1.map))
  | [], _, h => ⟨.nil h, rfl⟩
  | l :: ls, s, h => by
    obtain ⟨t1, hv1⟩ := translL_spec l s h
    obtain ⟨t, hv⟩ := translLL_spec ls (translL s l).1 t1.good
    simp only [translLL]
    refine ⟨t1.append t, ?_⟩
    rw [hv, hv1, List.map_cons]
    congr 1
    exact (t.step.ext.map_lookupF t1.dom).symm

/-- on pairs that are all known the translator changes nothing (this is why the result cache of the apply, which
suppresses the second call of the leaf operation on the same pair of leaves, need not be modelled) -/
theorem translL_known : ∀ (ps : List (Nat × Nat)) (s : St), (∀ p, p ∈ ps → p ∈ s.map.dom) → (translL s ps).1 = s
  | [], _, _ => rfl
  | pr :: ps, s, h => by
    obtain ⟨n, hn⟩ := Isx.mem_dom_iff.mp (h pr List.mem_cons_self)
    have e : (transl s pr).1 = s := by unfold transl; rw [hn]
    simp only [translL]
    rw [e]
    exact translL_known ps s (fun p hp => h p (List.mem_cons_of_mem _ hp))

theorem translLL_known : ∀ (ls : List (List (Nat × Nat))) (s : St), (∀ p, p ∈ ls.flatten → p ∈ s.map.dom) →
    (translLL s ls).1 = s
  | [], _, _ => rfl
  | l :: ls, s, h => by
    simp only [translLL]
    rw [translL_known l s (fun p hp => h p (by rw [List.flatten_cons]; exact List.mem_append_left _ hp))]
    exact translLL_known ls s (fun p hp => h p (by rw [List.flatten_cons]; exact List.mem_append_right _ hp))

/-- the leaf operation `f` with a side effect translates the pairs `P v w` and returns the value of the pure operation
`g` for the translation map it leaves behind -/
structure LeafSpec {α β γ : Type} (f : St → α → β → St × γ) (g : (Nat × Nat → Nat) → α → β → γ)
    (P : α → β → List (Nat × Nat)) : Prop where
  good : ∀ c0 s v w, Good c0 s → Good c0 (f s v w).1
  step : ∀ c0 s v w, Good c0 s → Step s (f s v w).1
  dom : ∀ c0 s v w, Good c0 s → ∀ c, c ∈ P v w → c ∈ (f s v w).1.map.dom
  val : ∀ c0 s v w, Good c0 s → (f s v w).2 = g (lookupF (f s v w).1.map) v w
  back : ∀ c0 s v w, Good c0 s → ∀ c, c ∈ (f s v w).1.map.dom → c ∈ s.map.dom ∨ c ∈ P v w
  congr : ∀ tr tr' v w, (∀ c, c ∈ P v w → tr c = tr' c) → g tr v w = g tr' v w

theorem map_allPairs (tr : Nat × Nat → Nat) (a b : List Nat) :
    (allPairs a b).map tr = a.flatMap (fun x => b.map (fun y => tr (x, y))) := by
  simp only [allPairs, List.map_flatMap, List.map_map]
  rfl

theorem map_allZips (tr : Nat × Nat → Nat) (a b : List (List Nat)) :
    (allZips a b).map (fun l => l.map tr) = a.flatMap (fun ks => b.map (fun ks' => (ks.zip ks').map tr)) := by
  simp only [allZips, List.map_flatMap, List.map_map]
  rfl

theorem leafSpecBU : LeafSpec leafBU prodS allPairs where
  good := fun _ s v w h => (translL_spec (allPairs v w) s h).1.good
  step := fun _ s v w h => (translL_spec (allPairs v w) s h).1.step
  dom := fun _ s v w h => (translL_spec (allPairs v w) s h).1.dom
  val := fun _ s v w h => by
    show InclUp.normS (translL s (allPairs v w)).2 = _
    rw [(translL_spec (allPairs v w) s h).2, map_allPairs]
    rfl
  back := fun _ s v w h => (translL_spec (allPairs v w) s h).1.back
  congr := fun tr tr' v w h => by
    unfold prodS
    rw [← map_allPairs, ← map_allPairs, List.map_congr_left h]

theorem leafSpecTD : LeafSpec leafTD prodTS (fun a b => (allZips a b).flatten) where
  good := fun _ s v w h => (translLL_spec (allZips v w) s h).1.good
  step := fun _ s v w h => (translLL_spec (allZips v w) s h).1.step
  dom := fun _ s v w h => (translLL_spec (allZips v w) s h).1.dom
  val := fun _ s v w h => by
    show normT (translLL s (allZips v w)).2 = _
    rw [(translLL_spec (allZips v w) s h).2, map_allZips]
    rfl
  back := fun _ s v w h => (translLL_spec (allZips v w) s h).1.back
  congr := fun tr tr' v w h => by
    unfold prodTS
    rw [← map_allZips, ← map_allZips]
    congr 1
    apply List.map_congr_left
    intro l hl
    apply List.map_congr_left
    intro c hc
    exact h c (List.mem_flatten.mpr ⟨l, hl, hc⟩)

theorem leafBU_known {s : St} (h : Good c0 s) (a b : List Nat) (hk : ∀ p, p ∈ allPairs a b → p ∈ s.map.dom) :
    leafBU s a b = (s, prodS (lookupF s.map) a b) := by
  have e : (leafBU s a b).1 = s := translL_known _ s hk
  have v := leafSpecBU.val c0 s a b h
  rw [e] at v
  exact Prod.ext e v

theorem leafTD_known {s : St} (h : Good c0 s) (a b : List (List Nat))
    (hk : ∀ p, p ∈ (allZips a b).flatten → p ∈ s.map.dom) : leafTD s a b = (s, prodTS (lookupF s.map) a b) := by
  have e : (leafTD s a b).1 = s := translLL_known _ s hk
  have v := leafSpecTD.val c0 s a b h
  rw [e] at v
  exact Prod.ext e v

/-- `LeafSpec` lifted from a leaf operation to a whole apply: `r` is what `apply2S f s a b` returns (`apply2S_spec`) – the pairs
`P` of all pairs of leaves are translated, nothing else is, and the diagram is the pure `apply2` of `g` for the final map -/
structure Spec {α β γ : Type} [DecidableEq γ] (g : (Nat × Nat → Nat) → α → β → γ) (P : α → β → List (Nat × Nat))
    (c0 : Nat) (s : St) (a : Node α) (b : Node β) (r : St × Node γ) : Prop where
  good : Good c0 r.1
  step : Step s r.1
  dom : ∀ ll, ll ∈ voidApply2 a b → ∀ c, c ∈ P ll.1 ll.2 → c ∈ r.1.map.dom
  val : r.2 = apply2 (g (lookupF r.1.map)) a b
  back : ∀ c, c ∈ r.1.map.dom → c ∈ s.map.dom ∨ ∃ ll, ll ∈ voidApply2 a b ∧ c ∈ P ll.1 ll.2

theorem apply2_ext {α β γ : Type} [DecidableEq γ] {f : St → α → β → St × γ} {g : (Nat × Nat → Nat) → α → β → γ}
    {P : α → β → List (Nat × Nat)} (hL : LeafSpec f g P) {m m' : PMap} (he : Isx.Ext m m') (a : Node α) (b : Node β)
    (hd : ∀ ll, ll ∈ voidApply2 a b → ∀ c, c ∈ P ll.1 ll.2 → c ∈ m.dom) :
    apply2 (g (lookupF m)) a b = apply2 (g (lookupF m')) a b :=
  apply2_congr _ _ a b (fun ll hl => hL.congr _ _ _ _ (fun c hc => (he.lookupF (hd ll hl c hc)).symm))

theorem spec_node {α β γ : Type} [DecidableEq γ] {f : St → α → β → St × γ} {g : (Nat × Nat → Nat) → α → β → γ}
    {P : α → β → List (Nat × Nat)} (hL : LeafSpec f g P) {s : St} {a a1 a2 : Node α} {b b1 b2 : Node β}
    {r1 r2 : St × Node γ} {x : Nat} (d : Step2 a b x a1 b1 a2 b2) (h1 : Spec g P c0 s a1 b1 r1)
    (h2 : Spec g P c0 r1.1 a2 b2 r2) : Spec g P c0 s a b (r2.1, mk x r1.2 r2.2) := by
  refine ⟨h2.good, h1.step.trans h2.step, ?_, ?_, ?_⟩
  · intro ll hl c hc
    rw [d.voidApply2, List.mem_append] at hl
    rcases hl with hl | hl
    · exact h2.step.ext.dom (h1.dom ll hl c hc)
    · exact h2.dom ll hl c hc
  · show mk x r1.2 r2.2 = apply2 (g (lookupF r2.1.map)) a b
    rw [d.apply2, h1.val, h2.val, apply2_ext hL h2.step.ext a1 b1 h1.dom]
  · intro c hc
    rw [d.voidApply2]
    rcases h2.back c hc with h3 | ⟨ll, hl, h3⟩
    · rcases h1.back c h3 with h4 | ⟨ll, hl, h4⟩
      · exact Or.inl h4
      · exact Or.inr ⟨ll, List.mem_append_left _ hl, h4⟩
    · exact Or.inr ⟨ll, List.mem_append_right _ hl, h3⟩

/-- **the apply with a side effect**: it returns `M.apply2` of the pure leaf operation for the translation map it leaves
behind; all pairs of the visited leaves are in that map; the map and the work-set grew by the same fresh pairs -/
theorem apply2S_spec {α β γ : Type} [DecidableEq γ] {f : St → α → β → St × γ} {g : (Nat × Nat → Nat) → α → β → γ}
    {P : α → β → List (Nat × Nat)} (hL : LeafSpec f g P) (c0 : Nat) :
    ∀ (s : St) (a : Node α) (b : Node β), Good c0 s → Spec g P c0 s a b (apply2S f s a b) := by
  intro s a b
  induction a, b using Step2.induct generalizing s with
  | leaf v w =>
    intro h
    have hv : voidApply2 (Node.leaf v) (Node.leaf w) = [(v, w)] := by rw [voidApply2]
    rw [apply2S]
    refine ⟨hL.good c0 s v w h, hL.step c0 s v w h, ?_, ?_, ?_⟩
    · intro ll hl
      rw [hv, List.mem_singleton] at hl
      subst hl
      exact hL.dom c0 s v w h
    · show Node.leaf (f s v w).2 = _
      rw [apply2, hL.val c0 s v w h]
    · intro c hc
      rw [hv]
      exact (hL.back c0 s v w h c hc).imp id (fun h1 => ⟨(v, w), List.mem_cons_self, h1⟩)
  | node d ih1 ih2 =>
    intro h
    rw [apply2S_step d]
    exact spec_node hL d (ih1 s h) (ih2 _ (ih1 s h).good)

end BddIsect
end Vata
