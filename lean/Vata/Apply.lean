import Vata.Mtbdd
/-! The reducing constructor `mk` and the binary apply `apply2` with the case split of `classify_case.hh`; its pointwise
correctness `apply2_eval` is in `Vata/Proofs/MtbddOps.lean`. -/
namespace Vata.M
variable {α β γ : Type}

/-- smart constructor: the `low == high` reduction of `recDescend` -/
def mk [DecidableEq γ] (x : Nat) (lo hi : Node γ) : Node γ := if lo = hi then lo else Node.node x lo hi

theorem eval_mk [DecidableEq γ] (x : Nat) (lo hi : Node γ) (ρ : Nat → Bool) :
    eval (mk x lo hi) ρ = if ρ x then eval hi ρ else eval lo ρ := by
  unfold mk
  split
  · rename_i h; subst h; simp
  · rfl

/-- binary apply; the branch conditions are those of `classifyCase2`
    (branch a node if the other is a leaf or has a variable that is not larger) -/
def apply2 [DecidableEq γ] (f : α → β → γ) : Node α → Node β → Node γ
  | .leaf v, .leaf w => .leaf (f v w)
  | .node x lo hi, .leaf w => mk x (apply2 f lo (.leaf w)) (apply2 f hi (.leaf w))
  | .leaf v, .node y lo hi => mk y (apply2 f (.leaf v) lo) (apply2 f (.leaf v) hi)
  | .node x alo ahi, .node y blo bhi =>
    if x = y then mk x (apply2 f alo blo) (apply2 f ahi bhi)
    else if y < x then mk x (apply2 f alo (.node y blo bhi)) (apply2 f ahi (.node y blo bhi))
    else mk y (apply2 f (.node x alo ahi) blo) (apply2 f (.node x alo ahi) bhi)
termination_by a b => size a + size b
decreasing_by all_goals (simp only [size]; omega)

end Vata.M
