import Vata.InclDown
import Vata.Lang
/-!
# Certify-then-trust: the end of the certifying models of the tree inclusion checkers

`InclDown.finish` (`Vata/InclDown.lean`) turns the result of an exploration into a verdict only when its certificate passes
a Boolean check: `certOk` for the set a `return true` leaves behind, acceptance by `A` and not by `B` for the tree of a
`return false`; `none` = no result, or the check failed.  The downward models are written with it; the upward ones
(`inclUp`, `inclUpSim`, `inclUpBdd` and the variants with caches) end in the same way and are read through it
(`InclUp.certify`, `Vata/Proofs/InclUp.lean`).  A verdict is exact as soon as `certOk` is sound, whatever the exploration
did (`finish_iff`).
-/
namespace Vata
open InclUp (Cert)
namespace InclDown

theorem finish_some {certOk : List Pair → Bool} {A B : TA} {r : Option (Except Tree (List Pair))} {b : Bool}
    {c : Cert} (h : finish certOk A B r = some (b, c)) :
    (b = true ∧ ∃ X, c = .closed X ∧ certOk X = true) ∨
    (b = false ∧ ∃ w, c = .witness w ∧ accepts A w = true ∧ accepts B w = false) := by
  unfold finish at h
  split at h
  · cases h
  · next X =>
    split at h
    · next hc =>
      simp only [Option.some.injEq, Prod.mk.injEq] at h
      exact Or.inl ⟨h.1.symm, X, h.2.symm, hc⟩
    · cases h
  · next w =>
    split at h
    · next hc =>
      simp only [Option.some.injEq, Prod.mk.injEq] at h
      simp only [Bool.and_eq_true, Bool.not_eq_true'] at hc
      exact Or.inr ⟨h.1.symm, w, h.2.symm, hc.1, hc.2⟩
    · cases h

theorem finish_iff {certOk : List Pair → Bool} {A B : TA} (hcert : ∀ X, certOk X = true → Incl A B)
    {r : Option (Except Tree (List Pair))} {b : Bool} {c : Cert} (h : finish certOk A B r = some (b, c)) :
    b = true ↔ Incl A B := by
  rcases finish_some h with ⟨hb, X, _, hX⟩ | ⟨hb, w, _, hA, hB⟩
  · exact ⟨fun _ => hcert X hX, fun _ => hb⟩
  · constructor
    · intro hb'; rw [hb] at hb'; cases hb'
    · intro hi
      rw [hi w hA] at hB
      cases hB

theorem finish_cert {certOk : List Pair → Bool} {A B : TA} {r : Option (Except Tree (List Pair))} {b : Bool}
    {c : Cert} (h : finish certOk A B r = some (b, c)) :
    match c with
    | .closed X => b = true ∧ certOk X = true
    | .witness w => b = false ∧ accepts A w = true ∧ accepts B w = false := by
  rcases finish_some h with ⟨hb, X, hc, hX⟩ | ⟨hb, w, hc, hA, hB⟩
  · subst hc; exact ⟨hb, hX⟩
  · subst hc; exact ⟨hb, hA, hB⟩

end InclDown
end Vata
