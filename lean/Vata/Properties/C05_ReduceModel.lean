import Vata.Proofs.ReduceModel
/-!
# C05 – Reduce as coded: the quotient projection is computed, not assumed

> For any explicit tree automaton A, Reduce returns an automaton that accepts exactly the trees A accepts, has at most
> as many states and at most as many rules as A, and whose every state is the image of at least one state of A.

`Vata/Properties/C05.lean` proves the property for `removeUnreachable (reindex h A)` with the collapse map `h` a
HYPOTHESIS (`hh`: every state goes to a simulation-equivalent state; `IsQuotProj` for the size statements).  Here the map
is the one the code computes: `reduceModel A order` (`Vata/ReduceModel.lean`) mirrors `ExplicitTreeAutCore::Reduce` –
the simulation as a Boolean matrix over the state indices, `BinaryRelation::RestrictToSymmetric` (two nested loops with
`get`/`set`), `BinaryRelation::GetQuotientProjection` (the vector `quotProj` with `UNDEF_PROJ`),
`DiscontBinaryRelation::GetQuotientProjection` (back to states), `CollapseStates`, `RemoveUnreachableStates`.

* The only thing not computed by the model is the numbering of the states (`order[i]` = the state with index `i`): in
  the C++ it is the order in which the translation to an LTS meets the states, i.e. hash order.  It is a parameter, and
  every statement holds for EVERY `order` that is a permutation of `A.states` (the proofs only use that every state has
  an index).
* The simulation relation is `downSimRef A`; that `ComputeSimulation` returns this relation is property C04.
* "Number of rules" is stated both for the rule list and for the number of DISTINCT rules (`List.eraseDups`, the set
  semantics of the C++).
-/
namespace Vata.Props

/-- the collapse map computed by `RestrictToSymmetric` + `GetQuotientProjection` from the simulation satisfies the
hypothesis `hh` of `C05_reduce_lang` and is a quotient projection (the hypothesis of `C05_quotient_size`): it maps every
state to a simulation-equivalent state and equivalent states to the same state -/
theorem C05_model_projection (A : TA) (order : List Nat) (hperm : order.Perm A.states) :
    (∀ q, q ∈ A.states → (q, quotientProjection A order q) ∈ downSimRef A ∧ (quotientProjection A order q, q) ∈ downSimRef A) ∧
    IsQuotProj A (quotientProjection A order) :=
  ⟨(quotientProjection_isQuotProj A order hperm).1, quotientProjection_isQuotProj A order hperm⟩

example : RMEx.exOrd.Perm SimModel.exA.states := RMEx.exOrd_perm
example : quotientMap SimModel.exA RMEx.exOrd = [(3, 3), (0, 0), (4, 4), (2, 3), (1, 0)] := by decide +kernel

/-- C05 for the model of the code: the language is kept, the result has at most as many states, at most as many
distinct rules and at most as many rule-list entries as `A`, and every state of the result is a state of `A` that is
the image of a state of `A` under the computed projection -/
theorem C05_model (A : TA) (order : List Nat) (hperm : order.Perm A.states) :
    LangEq (reduceModel A order) A ∧
    (reduceModel A order).states.length ≤ A.states.length ∧
    (reduceModel A order).rules.eraseDups.length ≤ A.rules.eraseDups.length ∧
    (reduceModel A order).rules.length ≤ A.rules.length ∧
    ∀ x, x ∈ (reduceModel A order).states → x ∈ A.states ∧ ∃ q, q ∈ A.states ∧ x = quotientProjection A order q :=
  ⟨fun t => reduceModel_lang A order hperm t, (reduceModel_never_grows A order).1, (reduceModel_never_grows A order).2.1,
   (reduceModel_never_grows A order).2.2, fun _ hx => reduceModel_states_sub A order hperm hx⟩

example : (reduceModel SimModel.exA RMEx.exOrd).states = [0, 3] ∧ SimModel.exA.states = [0, 1, 2, 3, 4] ∧
    (reduceModel SimModel.exA RMEx.exOrd).rules.eraseDups = [⟨0, [], 0⟩, ⟨1, [0, 0], 3⟩] ∧
    SimModel.exA.rules.eraseDups.length = 5 := by rw [RMEx.reduceModel_exA]; decide +kernel

/-- the "never grows" half needs nothing of the numbering -/
theorem C05_model_never_grows (A : TA) (order : List Nat) :
    (reduceModel A order).states.length ≤ A.states.length ∧
    (reduceModel A order).rules.eraseDups.length ≤ A.rules.eraseDups.length ∧
    (reduceModel A order).rules.length ≤ A.rules.length := reduceModel_never_grows A order

example : (reduceModel SimModel.exA []).states.length = 4 ∧ SimModel.exA.states.length = 5 := by decide +kernel

/-- hash order does not matter: for two numberings the results are the same automaton up to a renaming that is
injective on the states, so they have the same number of states, of rules and of distinct rules; that number of states
is the one of the canonical reduction `reduceRef` and at most the number of simulation-equivalence classes -/
theorem C05_model_order_independent (A : TA) (order order' : List Nat) (hperm : order.Perm A.states)
    (hperm' : order'.Perm A.states) :
    (∃ π, InjOnStates π (reduceModel A order) ∧ reduceModel A order' = reindex π (reduceModel A order)) ∧
    (reduceModel A order').states.length = (reduceModel A order).states.length ∧
    (reduceModel A order').rules.length = (reduceModel A order).rules.length ∧
    (reduceModel A order').rules.eraseDups.length = (reduceModel A order).rules.eraseDups.length ∧
    (reduceModel A order).states.length = (reduceRef A).states.length ∧
    (reduceModel A order).states.length ≤ simClasses A :=
  ⟨reduceModel_order_rename A order order' hperm hperm',
   (reduceModel_size_order_independent A order order' hperm hperm').1,
   (reduceModel_size_order_independent A order order' hperm hperm').2.1,
   (reduceModel_size_order_independent A order order' hperm hperm').2.2,
   (reduceModel_size_eq_reduceRef A order hperm).1, reduceModel_states_le_simClasses A order hperm⟩

example : (reduceModel SimModel.exA SimModel.exA.states).states = [0, 2] ∧
    (reduceModel SimModel.exA RMEx.exOrd).states = [0, 3] ∧ simClasses SimModel.exA = 3 := by rw [RMEx.reduceModel_exA]; decide +kernel

/-- the two matrix routines on their own: after `RestrictToSymmetric` an entry off the diagonal is the conjunction of the
two original entries (so the matrix is symmetric; `GetQuotientProjection` reads the part above the diagonal only), and
`GetQuotientProjection` on a matrix that decides an equivalence `E` above the diagonal gives every index an equivalent
representative that is not after it, the same for equivalent indices -/
theorem C05_model_matrix_routines :
    (∀ (n : Nat) (m : BMat), RM.Square n m → ∀ r c, r < c → c < n →
      mget (restrictToSymmetric m) r c = (mget m r c && mget m c r) ∧
      mget (restrictToSymmetric m) c r = (mget m r c && mget m c r)) ∧
    (∀ (m : BMat) (E : Nat → Nat → Prop), RM.IdxEquiv m m.length E →
      (∀ i, i < m.length → ∃ k, RM.pget (quotientProjectionIdx m) i = some k ∧ k ≤ i ∧ E k i) ∧
      (∀ i j, i < m.length → j < m.length → E i j →
        RM.pget (quotientProjectionIdx m) i = RM.pget (quotientProjectionIdx m) j)) :=
  ⟨fun _ _ h => (RM.restrictToSymmetric_spec h).2, fun _ _ hE => (RM.quotientProjectionIdx_spec hE).2⟩

example : RM.Square 5 (relMatrix (downSimRef SimModel.exA) RMEx.exOrd) := RM.square_relMatrix _ _
example : RM.IdxEquiv (RM.symMatrix SimModel.exA RMEx.exOrd) (RM.symMatrix SimModel.exA RMEx.exOrd).length
    (RM.IdxEq SimModel.exA RMEx.exOrd) := RM.idxEquiv_symMatrix _ _

/-- the model is sensitive to a realistic slip: if the outer loop of `RestrictToSymmetric` starts at row `1`, the state
with index `0` absorbs every state that simulates it and the language grows (`exS`: the tree `b` becomes accepted) -/
theorem C05_model_skip_row0_changes_language :
    ¬ ∀ (A : TA) (order : List Nat), order.Perm A.states → ∀ t, accepts (reduceModelSkip0 A order) t = accepts A t := by
  intro h
  have := h RMEx.exS RMEx.exS.states (List.Perm.refl _) (.node 1 [])
  rw [restrictToSymmetric_skip_row0_counterexample.2.2.2.1, restrictToSymmetric_skip_row0_counterexample.2.2.2.2.1] at this
  cases this

example : accepts (reduceModelSkip0 RMEx.exS RMEx.exS.states) (.node 1 []) = true ∧
    accepts RMEx.exS (.node 1 []) = false := by decide +kernel

/-!
## items of `Vata/Properties/C05.lean` ("not yet proved") closed here

* "That the collapse map the C++ derives (`RestrictToSymmetric` + `GetQuotientProjection` on the relation returned by
  `ComputeSimulation`) satisfies the hypothesis `hh` (and is a quotient projection, `IsQuotProj`) is not a theorem about
  a model of these two functions" – now `C05_model_projection` (model `quotientProjection`), with the property itself in
  `C05_model`; independence of the hash order in `C05_model_order_independent`.
* "the statement with `eraseDups` on both sides is not proved" – now the third conjunct of `C05_model` /
  `C05_model_never_grows` and the fourth of `C05_model_order_independent`.

## still not proved

* That the numbering the C++ uses gives every state an index (it is the hypothesis `order.Perm A.states`; in the code the
  LTS translation visits every state that occurs in a rule or is final) and that the matrix it starts from is
  `relMatrix (downSimRef A) order` (C04).
* Minimality of the result (no two remaining states simulation-equivalent) is not claimed by the property and not proved.
-/
end Vata.Props
