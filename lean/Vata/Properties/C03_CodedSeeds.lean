import Vata.Lang
import Vata.Spec
import Vata.TrimCodedSeeds
import Vata.Proofs.TrimCodedSeeds
import Vata.Properties.C03_Coded
/-!
# C03 (coded, seeded changes) – two seeded changes of `RemoveUselessStates` as theorems about the coded work-list

> RemoveUnreachableStates and RemoveUselessStates return an automaton with the same language as their input.  After
> RemoveUselessStates every remaining state and rule takes part in some accepting run.

## How the C++ is read into the model

The model is the one of `Vata/TrimCoded.lean` (`src/explicit_tree_useless.cc`, see the header of
`Vata/Properties/C03_Coded.lean`); the two seeded changes are variants of it (`Vata/TrimCodedSeeds.lean`):

* (a) `uselessLeafOnce`: `reachableTransitions.push_back(info)` of the leaf branch of the first loop moved inside
  `if (reachableStates.insert(parent).second) { … }` (`initStepLeafOnce`; the rest of the function is the same code).
* (b) `uselessDistinctVsLength = uselessWith decLen testOwners`: `remaining -= children_->size()` when a transition
  fires, `++remaining` per element of the `std::set childrenSet_` (distinct child) at registration.

## Abstracted

As in `Vata/Properties/C03_Coded.lean` (pointer structure, hash orders = list orders, `pTranslMap`).
-/
namespace Vata.Props
open Vata.TrimCoded

/-! ### (a) the leaf transition recorded only for a newly reached state -/

/-- `l1 → 0`, `l2 → 0`, `h(1) → 1`, final `0`: state `0` has two leaf rules; the unproductive rule `h(1) → 1` keeps
`remaining` at 1, so the result is rebuilt from `reachableTransitions` -/
def CodedEx.seedLeaf : TA := ⟨[⟨0, [], 0⟩, ⟨1, [], 0⟩, ⟨2, [1], 1⟩], [0]⟩

/-- seeded change (a) loses the tree `l2` of the language: only the first leaf transition of state `0` is in
`reachableTransitions`, the counter is not 0, and the rebuilt automaton has the single rule `l1 → 0`; the code as
written keeps both leaf rules -/
theorem C03_coded_seed_leaf_once :
    (finalStLeafOnce CodedEx.seedLeaf).rtrans = [0] ∧ (finalStLeafOnce CodedEx.seedLeaf).remaining = 1 ∧
    (uselessLeafOnce CodedEx.seedLeaf).rules = [⟨0, [], 0⟩] ∧
    accepts CodedEx.seedLeaf (.node 1 []) = true ∧
    accepts (uselessLeafOnce CodedEx.seedLeaf) (.node 1 []) = false ∧
    (finalSt decOne CodedEx.seedLeaf).rtrans = [0, 1] ∧
    (uselessCoded CodedEx.seedLeaf).rules = [⟨0, [], 0⟩, ⟨1, [], 0⟩] ∧
    accepts (uselessCoded CodedEx.seedLeaf) (.node 1 []) = true ∧
    noTwoLeafB CodedEx.seedLeaf = false := by decide +kernel

/-- the general characterisation of (a): on every automaton in which no state has two leaf rules (`noTwoLeafB`: two
leaf rules at different positions of the rule list have different parents) the variant returns the SAME automaton as
the coded function (equal rule lists and final-state lists).  The hypothesis cannot be dropped:
`C03_coded_seed_leaf_once`. -/
theorem C03_coded_seed_leaf_once_agrees (A : TA) (h : noTwoLeafB A = true) : uselessLeafOnce A = uselessCoded A :=
  uselessLeafOnce_eq h

/-- consequently the variant is correct on these automata: same language, everything useful -/
theorem C03_coded_seed_leaf_once_correct (A : TA) (h : noTwoLeafB A = true) :
    LangEq (uselessLeafOnce A) A ∧ (∀ r, r ∈ (uselessLeafOnce A).rules → UsefulRule (uselessLeafOnce A) r) := by
  rw [uselessLeafOnce_eq h]
  exact ⟨C03_coded_useless_lang A, (C03_coded_useless_post A).2⟩

-- non-vacuity: `exA` satisfies the hypothesis and is changed by the function
example : noTwoLeafB TrimEx.exA = true ∧ (uselessLeafOnce TrimEx.exA).rules = [⟨1, [0, 0], 1⟩, ⟨0, [], 0⟩] ∧
    TrimEx.exA.rules.length = 5 := by decide +kernel

/-! ### (b) incremented per distinct child, decremented by the tuple length -/

/-- `l → 0` (a), `f(0,0) → 1` (q), `g(2) → 1` (c = 2 without rules), final `1` -/
def CodedEx.seedLen : TA := ⟨[⟨0, [], 0⟩, ⟨1, [0, 0], 1⟩, ⟨2, [2], 1⟩], [1]⟩

/-- seeded change (b): `f(0,0)` is registered once (one distinct child) but subtracts 2 when it fires, so the
counter reaches 0 although `g(2) → 1` never fired; the branch `if (!remaining)` shares the input's transitions, the
owner test of `RemoveUnreachableStates` lets everything through, and the useless rule `g(2) → 1` / state `2`
stay: `allUsefulB` of the result is false.  The code as written ends with `remaining = 1` and removes them. -/
theorem C03_coded_seed_distinct_vs_length :
    (finalSt decLen CodedEx.seedLen).remaining = 0 ∧
    (finalSt decLen CodedEx.seedLen).rtrans = [0, 1] ∧
    (uselessDistinctVsLength CodedEx.seedLen).rules = [⟨0, [], 0⟩, ⟨1, [0, 0], 1⟩, ⟨2, [2], 1⟩] ∧
    allUsefulB (uselessDistinctVsLength CodedEx.seedLen) = false ∧
    noRepeatedKidB CodedEx.seedLen = false ∧
    (finalSt decOne CodedEx.seedLen).remaining = 1 ∧
    (uselessCoded CodedEx.seedLen).rules = [⟨0, [], 0⟩, ⟨1, [0, 0], 1⟩] ∧
    allUsefulB (uselessCoded CodedEx.seedLen) = true := by decide +kernel

/-- `l → 0`, `l → 1`, `f(0,1) → 2`, final `2`: no repeated child.  Here variant (b) takes the sharing branch
(`remaining = 2 - 2 = 0`) while the coded function rebuilds (`remaining = 2 - 1 = 1`); both return the same rules
(the lists may differ in order in general: the rebuilt list is in firing order) -/
example : noRepeatedKidB ⟨[⟨0, [], 0⟩, ⟨0, [], 1⟩, ⟨1, [0, 1], 2⟩], [2]⟩ = true ∧
    (finalSt decLen ⟨[⟨0, [], 0⟩, ⟨0, [], 1⟩, ⟨1, [0, 1], 2⟩], [2]⟩).remaining = 0 ∧
    (finalSt decOne ⟨[⟨0, [], 0⟩, ⟨0, [], 1⟩, ⟨1, [0, 1], 2⟩], [2]⟩).remaining = 1 ∧
    (uselessDistinctVsLength ⟨[⟨0, [], 0⟩, ⟨0, [], 1⟩, ⟨1, [0, 1], 2⟩], [2]⟩).rules =
      (uselessCoded ⟨[⟨0, [], 0⟩, ⟨0, [], 1⟩, ⟨1, [0, 1], 2⟩], [2]⟩).rules := by decide +kernel

/-- PARTIAL general statement for (b) (the full one is in "still not proved"): whatever is subtracted from
`remaining`, the two loops compute the same `reachableStates`, `reachableTransitions` and `TransitionInfo`s as the code
as written and end with an empty work-list; so the variant returns the SAME automaton whenever its test
`if (!remaining)` goes the same way as in the code as written.  (No hypothesis on `A`; what is missing is that on
automata without repeated children a DIFFERENT outcome of the test still gives the same set of rules.) -/
theorem C03_coded_seed_distinct_vs_length_partial (A : TA) :
    (finalSt decLen A).reach = (finalSt decOne A).reach ∧ (finalSt decLen A).rtrans = (finalSt decOne A).rtrans ∧
    (finalSt decLen A).infos = (finalSt decOne A).infos ∧ (finalSt decLen A).work = [] ∧
    (((finalSt decLen A).remaining == 0) = ((finalSt decOne A).remaining == 0) →
      uselessDistinctVsLength A = uselessCoded A) := by
  obtain ⟨m, hm⟩ := finalSt_setRem decLen A
  refine ⟨by rw [hm]; rfl, by rw [hm]; rfl, by rw [hm]; rfl, by rw [hm]; exact finalSt_work A, ?_⟩
  intro h
  unfold uselessDistinctVsLength uselessCoded uselessWith finish
  rw [hm] at h ⊢
  simp only [St.setRem] at h ⊢
  by_cases h0 : ((finalSt decOne A).remaining == 0) = true
  · have h1 : (m == 0) = true := h.trans h0
    simp only [h0, h1, if_true]
  · have h0' : ((finalSt decOne A).remaining == 0) = false := by simpa using h0
    have h1 : (m == 0) = false := h.trans h0'
    simp only [h0', h1, Bool.false_eq_true, if_false]

/-!
## still not proved

* The general statement for (b) is NOT proved:
  `∀ A, noRepeatedKidB A = true → TAEquiv (uselessDistinctVsLength A) (uselessCoded A)` (same final states, same set
  of rules; list equality is false in general because the two functions may take different branches of
  `if (!remaining)`, see the last example, and the rebuilt list is in firing order).  Missing: the counter invariant
  of the variant (`remaining` = sum of the tuple lengths of the registered transitions that have not fired; the
  invariant `Inv.cnt` of `Vata/Proofs/TrimCodedLoop.lean` is proved only for `dec r ≤ 1`) and the weighted pigeonhole
  "the sum over the fired transitions reaches the sum over all ⇒ all fired".  Proved is only
  `C03_coded_seed_distinct_vs_length_partial` (the loops do not depend on `dec`; equal results when the test
  `if (!remaining)` goes the same way) and the `decide`d instances above.
* For (a) the agreement is proved under `noTwoLeafB`; nothing is claimed about the variant on automata WITH two leaf
  rules of one state beyond the `decide`d counterexample (e.g. that it loses exactly the later leaf rules of a state
  when it rebuilds, and nothing when `remaining == 0`).
* The correspondence "variant = the C++ with the seeded change" is established by running the seeded library
  (round 6/7 sweep), not by proof.
-/
end Vata.Props
