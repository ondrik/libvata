import Vata.Proofs.LtsEngineCallsSS
/-!
# The instrumented LTS engine: the `SmartSet` discipline for the whole run

`Good aw0 obj e t`: the `SmartSet` history emitted so far is inside `SS.ok` from the world `aw0`, and the world it leads to shows the
insets of the engine state (`SSInv`).  It holds after `init` (the `makeBlock`s, the initial refinement, the pruning, the scratch set
`s` with `assignFlat` / `remove`) and after every iteration of `run()`: `stateAfter_good`, by `Instr.always`
(`Vata/Proofs/LtsEngineInstr.lean`) from what each phase owes: `initBlocks_good`, `ctor2_add` (the second `Block` constructor, at every
split), `counters_good`.
The calls of `ExplicitLTS::buildDelta1` are a hypothesis here (`DeltaOK`: decidable; proved for every system whose edges are in
range in `Vata/Proofs/LtsEngineCallsDelta.lean`).
-/
namespace Vata.LEC
open Vata.L Vata.LE Vata.LU

/-- the `SmartSet` calls of `t` are inside `SS.ok` from `aw0`, and lead to a world that shows the insets of `e` -/
def Good (L : LTS) (aw0 : SS.AWorld) (obj : Nat → Nat) (e : Eng) (t : Tr) : Prop :=
  SS.okAll aw0 t.ss = true ∧ SSInv L obj e (SS.aRun aw0 t.ss)

theorem Good.add {L : LTS} {aw0 : SS.AWorld} {obj : Nat → Nat} {e e' : Eng} {t : Tr} {ops : List SS.Op}
    (g : Good L aw0 obj e t) (h : SS.okAll (SS.aRun aw0 t.ss) ops = true ∧ SSInv L obj e' (SS.aRun (SS.aRun aw0 t.ss) ops)) :
    Good L aw0 obj e' (t.addSS ops) := by
  refine ⟨?_, ?_⟩
  · show SS.okAll aw0 (t.ss ++ ops) = true
    rw [okAll_append, g.1, h.1]; rfl
  · show SSInv L obj e' (SS.aRun aw0 (t.ss ++ ops))
    rw [aRun_append]; exact h.2

theorem Good.congr {L : LTS} {aw0 : SS.AWorld} {obj : Nat → Nat} {e e' : Eng} {t t' : Tr}
    (g : Good L aw0 obj e t) (h1 : e'.part.length = e.part.length) (h2 : e'.inset = e.inset) (h3 : t'.ss = t.ss) :
    Good L aw0 obj e' t' := by
  unfold Good; rw [h3]; exact ⟨g.1, g.2.congr h1 h2⟩


theorem blocks_good (L : LTS) : ∀ (bs : List (List Nat)) (i : Nat) (aw : SS.AWorld), aw.length = labels L + 1 + i →
    SS.okAll aw (blocksT L (objI L) i bs) = true ∧
    SS.aRun aw (blocksT L (objI L) i bs) = aw ++ bs.map (fun b => ⟨mkInset L (mkBlockList b), labels L, false⟩) := by
  intro bs
  induction bs with
  | nil =>
    intro _ aw _
    exact ⟨rfl, (List.append_nil aw).symm⟩
  | cons b bs ih =>
    intro i aw hl
    have ho : objI L i = aw.length := by unfold objI; omega
    have hc : (aw ++ [SS.aMk (labels L)])[objI L i]? = some ⟨[], labels L, false⟩ := by
      rw [ho, List.getElem?_concat_length]; rfl
    obtain ⟨a1, a2⟩ := adds_ok (objI L i) (labels L) ((mkBlockList b).flatMap (bwLabels L)) (aw ++ [SS.aMk (labels L)]) [] hc
      (fun a ha => by obtain ⟨q, _, hq⟩ := List.mem_flatMap.1 ha; exact bwLabels_lt L hq)
    have hset : ∀ x, (aw ++ [SS.aMk (labels L)]).set (objI L i) x = aw ++ [x] := fun x => by
      rw [ho, List.set_append_right _ _ (Nat.le_refl _), Nat.sub_self]; rfl
    rw [← mkInset_eq, hset] at a2
    obtain ⟨b1, b2⟩ := ih (i + 1) (aw ++ [⟨mkInset L (mkBlockList b), labels L, false⟩])
      (by rw [List.length_append, hl]; rfl)
    refine ⟨?_, ?_⟩
    · show SS.okAll aw (SS.Op.new _ :: _ ++ _) = true
      rw [List.cons_append, SS.okAll, okAll_append]
      show (true && (SS.okAll (aw ++ [SS.aMk (labels L)]) _ && SS.okAll (SS.aRun (aw ++ [SS.aMk (labels L)]) _) _)) = true
      rw [a1, a2, b1]; rfl
    · show SS.aRun aw (SS.Op.new _ :: _ ++ _) = _
      rw [List.cons_append, SS.aRun, aRun_append]
      show SS.aRun (SS.aRun (aw ++ [SS.aMk (labels L)]) _) _ = _
      rw [a2, b2, List.append_assoc]; rfl

theorem ctor2_add {L : LTS} {obj : Nat → Nat} (ho : ObjOK L obj) {aw0 : SS.AWorld} {e e' : Eng} {t : Tr} {b : Nat}
    {rest new : List Nat} (w : WF L e) (sok : SplitOK e b rest new) (g : Good L aw0 obj e t)
    (h1 : e'.part.length = (splitBlockCore L e b rest new).part.length)
    (h2 : e'.inset = (splitBlockCore L e b rest new).inset) : Good L aw0 obj e' (emitI L obj e b rest new t) :=
  (g.add (e' := e') ⟨(ctor2_good ho g.2 w sok).1, (ctor2_good ho g.2 w sok).2.congr h1 h2⟩).congr rfl rfl rfl

/-- the `SmartSet` calls of `buildDelta1`, from no object at all, are inside `SS.ok` and build `aDelta L` -/
def DeltaOK (L : LTS) : Prop := SS.okAll [] (delta1T L) = true ∧ SS.aRun [] (delta1T L) = aDelta L

theorem aDelta_length (L : LTS) : (aDelta L).length = labels L + 1 := by simp [aDelta]

theorem aDelta_get (L : LTS) {a : Nat} (ha : a < labels L) : (aDelta L)[a + 1]? = some ⟨dItems L a, L.n, false⟩ := by
  simp [aDelta, ha]


theorem initBlocks_good {L : LTS} (hd : DeltaOK L) (part : List (List Nat)) (rel : Rel) :
    Good L [] (objI L) (initBlocksI L (objI L) part rel ⟨delta1T L, []⟩).1 (initBlocksI L (objI L) part rel ⟨delta1T L, []⟩).2 := by
  obtain ⟨b1, b2⟩ := blocks_good L part 0 (aDelta L) (aDelta_length L)
  have hss : (initBlocksI L (objI L) part rel ⟨delta1T L, []⟩).2.ss = delta1T L ++ blocksT L (objI L) 0 part := rfl
  have hpart : (initBlocksI L (objI L) part rel ⟨delta1T L, []⟩).1.part = part.map mkBlockList := rfl
  have hins : (initBlocksI L (objI L) part rel ⟨delta1T L, []⟩).1.inset = (part.map mkBlockList).map (mkInset L) := rfl
  refine ⟨?_, ?_⟩
  · rw [hss, okAll_append, hd.1, hd.2, b1]; rfl
  · rw [hss, aRun_append, hd.2, b2]
    refine ⟨?_, fun k _ => rfl, ?_, ?_⟩
    · rw [hpart, List.length_append, aDelta_length, List.length_map, List.length_map]; rfl
    · intro i hi
      rw [hpart, List.length_map] at hi
      have e1 : objI L i = (aDelta L).length + i := by rw [aDelta_length]; rfl
      rw [e1, List.getElem?_append_right (Nat.le_add_right _ _), Nat.add_sub_cancel_left, hins]
      simp only [List.getElem?_map, List.getD_eq_getElem?_getD, List.getElem?_eq_getElem hi, Option.map_some, Option.getD_some]
      exact ⟨false, rfl⟩
    · intro a ha
      rw [List.getElem?_append_left (by rw [aDelta_length]; omega)]
      exact aDelta_get L ha


theorem removes_ok (so R : Nat) : ∀ (qs : List Nat) (aw : SS.AWorld) (items : List (Nat × Nat)) (dg : Bool),
    aw[so]? = some ⟨items, R, dg⟩ → (∀ q, q ∈ qs → q < R) →
    SS.okAll aw (qs.map (SS.Op.remove so)) = true ∧
      ∃ items' dg', SS.aRun aw (qs.map (SS.Op.remove so)) = aw.set so ⟨items', R, dg'⟩ := by
  intro qs
  induction qs with
  | nil =>
    intro aw items dg h _
    exact ⟨rfl, items, dg, (set_of_getElem? h).symm⟩
  | cons q qs ih =>
    intro aw items dg h hR
    have hok : SS.ok aw (SS.Op.remove so q) = true := by simp [SS.ok, h, hR q List.mem_cons_self]
    have hst : SS.aStep aw (SS.Op.remove so q) = aw.set so ⟨SS.aRemove items q, R, dg || SS.erasesLast items q⟩ := by
      simp only [SS.aStep, h]
    obtain ⟨h1, items', dg', h2⟩ := ih (aw.set so ⟨SS.aRemove items q, R, dg || SS.erasesLast items q⟩) _ _
      (List.getElem?_set_self (lt_of_getElem? h)) (fun x hx => hR x (List.mem_cons_of_mem _ hx))
    refine ⟨?_, items', dg', ?_⟩
    · simp only [List.map_cons, SS.okAll, hok, hst, h1, Bool.and_self]
    · simp only [List.map_cons, SS.aRun, hst, h2, List.set_set]

theorem slot_ok {L : LTS} (hL : LtsOK L) {aw : SS.AWorld} {so a : Nat} (hso : so < aw.length) (hne : so ≠ a + 1)
    (hd : aw[a + 1]? = some ⟨dItems L a, L.n, false⟩) (e : Eng) (b1 : Nat) :
    SS.okAll aw (slotT L so e b1 a) = true ∧ ∃ x, SS.aRun aw (slotT L so e b1 a) = aw.set so x := by
  obtain ⟨s0, hs0⟩ : ∃ s0, aw[so]? = some s0 := ⟨aw[so], List.getElem?_eq_getElem hso⟩
  have hok : SS.ok aw (SS.Op.assignFlat so (a + 1)) = true := by
    simp [SS.ok, hne, hso, lt_of_getElem? hd]
  have hst : SS.aStep aw (SS.Op.assignFlat so (a + 1)) = aw.set so ⟨(dItems L a).map (fun kc => (kc.1, 1)), L.n, false⟩ := by
    simp only [SS.aStep, hs0, hd]
  obtain ⟨h1, items', dg', h2⟩ := removes_ok so L.n
    ((e.row b1).flatMap (fun col => (e.block col).flatMap (fun elem => pre L a elem)))
    (aw.set so ⟨(dItems L a).map (fun kc => (kc.1, 1)), L.n, false⟩) _ _ (List.getElem?_set_self hso)
    (fun q hq => by
      obtain ⟨col, _, hq⟩ := List.mem_flatMap.1 hq
      obtain ⟨elem, _, hq⟩ := List.mem_flatMap.1 hq
      exact (hL _ ((mem_pre L a elem q).1 hq)).1)
  refine ⟨?_, ⟨items', L.n, dg'⟩, ?_⟩
  · simp only [slotT, SS.okAll, hok, hst, h1, Bool.and_self]
  · simp only [slotT, SS.aRun, hst, h2, List.set_set]

theorem SSInv.set_other {L : LTS} {obj : Nat → Nat} {e : Eng} {aw : SS.AWorld} (h : SSInv L obj e aw) {so : Nat}
    (h1 : ∀ i, obj i ≠ so) (h2 : labels L < so) (x : SS.A) : SSInv L obj e (aw.set so x) :=
  ⟨by rw [List.length_set]; exact h.hlen, h.hsucc,
    fun i hi => by obtain ⟨dg, hg⟩ := h.hobj i hi; exact ⟨dg, by rw [List.getElem?_set_ne (Ne.symm (h1 i))]; exact hg⟩,
    fun a ha => by rw [List.getElem?_set_ne (by omega)]; exact h.hdelta a ha⟩

theorem objR_ne_sObj (L : LTS) (n i : Nat) : objR L n i ≠ sObj L n := by
  unfold objR sObj; split <;> omega

/-- one slot of "initialize counters": `s.assignFlat(delta1[a])` and the `remove`s change the scratch set only -/
theorem slot_good {L : LTS} (hL : LtsOK L) {n : Nat} {e : Eng} {t : Tr} (w : WF L e) {b1 a : Nat} (hb : b1 < e.part.length)
    (ha : a ∈ e.ins b1) (g : Good L [] (objR L n) e t ∧ sObj L n < (SS.aRun [] t.ss).length) :
    Good L [] (objR L n) (initSlot L b1 e a) (t.addSS (slotT L (sObj L n) e b1 a)) ∧
      sObj L n < (SS.aRun [] (t.addSS (slotT L (sObj L n) e b1 a)).ss).length := by
  obtain ⟨f1, _, f3⟩ := initSlot_frame L b1 e a
  have hal : a < labels L := by
    obtain ⟨q, _, hq⟩ := (w.mem_ins hb a).1 ha
    obtain ⟨p, hp⟩ := (hasIn_iff L a q).1 hq
    exact label_lt L hp
  obtain ⟨k1, x, k2⟩ := slot_ok hL g.2 (by unfold sObj; omega) (g.1.2.hdelta a hal) e b1
  have hinv : SSInv L (objR L n) (initSlot L b1 e a) ((SS.aRun [] t.ss).set (sObj L n) x) :=
    (g.1.2.set_other (objR_ne_sObj L n) (by unfold sObj; omega) x).congr (by rw [f1]) f3
  refine ⟨g.1.add ⟨k1, by rw [k2]; exact hinv⟩, ?_⟩
  show sObj L n < (SS.aRun [] (t.ss ++ _)).length
  rw [aRun_append, k2, List.length_set]; exact g.2

/-- `SmartSet s;` behind the initial refinement: the blocks made so far keep their numbers, the later ones come behind `s` -/
theorem SSInv.scratch {L : LTS} {e : Eng} {aw : SS.AWorld} (h : SSInv L (objI L) e aw) :
    SSInv L (objR L e.part.length) e (aw ++ [SS.aMk 0]) := by
  refine ⟨?_, fun k hk => ?_, fun i hi => ?_, fun a ha => ?_⟩
  · rw [List.length_append, h.hlen]; unfold objI objR; rw [if_neg (Nat.lt_irrefl _), List.length_singleton]; omega
  · unfold objR; rw [if_neg (by omega), if_neg (by omega)]; rfl
  · obtain ⟨dg, hg⟩ := h.hobj i hi
    have : objR L e.part.length i = objI L i := by unfold objR objI; rw [if_pos hi]
    exact ⟨dg, by rw [this, List.getElem?_append_left (lt_of_getElem? hg)]; exact hg⟩
  · have := h.hdelta a ha
    rw [List.getElem?_append_left (lt_of_getElem? this)]; exact this

/-- "initialize counters": `SmartSet s;` is created behind the blocks of the initial refinement, then every slot works on `s` -/
theorem counters_good {L : LTS} (hL : LtsOK L) {e0 : Eng} (w : WF L e0) (hc : e0.cnt = []) (hr : e0.rem = [])
    (hq : e0.queue = []) {t : Tr} (g : Good L [] (objI L) e0 t) :
    Good L [] (objR L e0.part.length) (initCountersI L (sObj L e0.part.length) (e0, t)).1
      (initCountersI L (sObj L e0.part.length) (e0, t)).2 := by
  have hrun : SS.aRun [] (t.ss ++ [SS.Op.new 0]) = SS.aRun [] t.ss ++ [SS.aMk 0] := by rw [aRun_append]; rfl
  have g0 : Good L [] (objR L e0.part.length) e0 (t.addSS [SS.Op.new 0]) ∧
      sObj L e0.part.length < (SS.aRun [] (t.addSS [SS.Op.new 0]).ss).length := by
    refine ⟨⟨?_, ?_⟩, ?_⟩
    · show SS.okAll [] (t.ss ++ [SS.Op.new 0]) = true
      rw [okAll_append, g.1]; rfl
    · show SSInv L _ _ (SS.aRun [] (t.ss ++ [SS.Op.new 0]))
      rw [hrun]; exact g.2.scratch
    · show _ < (SS.aRun [] (t.ss ++ [SS.Op.new 0])).length
      rw [hrun, List.length_append, g.2.hlen]; exact Nat.lt_succ_self _
  have h := countersT_trace (front := fun _ _ (t : Tr) => t) (back := fun _ _ (t : Tr) => t)
    (slot := fun b1 e a (t : Tr) => t.addSS (slotT L (sObj L e0.part.length) e b1 a)) hL w hc hr hq
    (fun _ e t => Good L [] (objR L e0.part.length) e t ∧ sObj L e0.part.length < (SS.aRun [] t.ss).length)
    (fun _ e t => Good L [] (objR L e0.part.length) e t ∧ sObj L e0.part.length < (SS.aRun [] t.ss).length)
    (fun _ _ _ _ _ _ _ g => g)
    (fun b1 a e t done hb1 ha d _ g => slot_good hL (WF.congr d.hp d.hr d.hi w) (by rw [d.hp]; exact hb1)
      (by rw [Eng.ins_congr d.hi]; exact ha) g)
    (fun _ _ _ _ _ _ g => g) _ g0
  rw [initCountersI_eq]
  exact h.1.1

theorem pruneI_frame (L : LTS) (mask : List Nat) (pl : List Nat) (et : IE) :
    (pl.foldl (fun (et : IE) b1 => (pruneRow L mask et.1 b1, et.2.addSR [SR.Op.eraseRow b1 mask])) et).1.part = et.1.part ∧
    (pl.foldl (fun (et : IE) b1 => (pruneRow L mask et.1 b1, et.2.addSR [SR.Op.eraseRow b1 mask])) et).1.inset = et.1.inset ∧
    (pl.foldl (fun (et : IE) b1 => (pruneRow L mask et.1 b1, et.2.addSR [SR.Op.eraseRow b1 mask])) et).2.ss = et.2.ss :=
  List.foldlRecOn pl _ (motive := fun (x : IE) => x.1.part = et.1.part ∧ x.1.inset = et.1.inset ∧ x.2.ss = et.2.ss)
    ⟨rfl, rfl, rfl⟩ (fun x hx b _ =>
      ⟨(pruneRow_frame L mask x.1 b).1.trans hx.1, (pruneRow_frame L mask x.1 b).2.trans hx.2.1, hx.2.2⟩)

theorem stateAfter_good {L : LTS} (hL : LtsOK L) (hd : DeltaOK L) {part : List (List Nat)} {rel : Rel}
    (hp : isPartition part L.n = true) (hc : isConsistent part rel = true) (htr : RelTrans part rel) :
    ∀ k, Good L [] (objR L (nb0 L part rel)) (stateAfterI L part rel k).1 (stateAfterI L part rel k).2 := by
  have h := (instrI L part rel).always hL hp hc htr (Good L [] (objI L)) (Good L [] (objI L))
    (Good L [] (objR L (nb0 L part rel))) (Good L [] (objR L (nb0 L part rel)))
    (initBlocks_good hd part rel)
    (fun e t b rest new w sok g => ctor2_add (objI_ok L) w sok g rfl rfl)
    (fun e t _ g => g.congr rfl rfl rfl)
    (fun e t w hc hr hq hn g => by
      rw [show nb0 L part rel = e.part.length from hn.symm]
      exact counters_good hL w hc hr hq g)
    (fun _ _ _ g => g.congr rfl rfl rfl)
    (fun e t b rest new w qk sok g => ctor2_add (objR_ok L _) w sok g
      (congrArg List.length (split_refine w qk sok).2.2.2.1) (split_refine w qk sok).2.2.2.2.2.1)
    (fun {_ s1 t mask pl} _ _ g => g.congr (congrArg List.length (pruneI_frame L mask pl (s1, t)).1)
      (pruneI_frame L mask pl (s1, t)).2.1 (pruneI_frame L mask pl (s1, t)).2.2)
  exact h

end Vata.LEC
