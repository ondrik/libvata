import Vata.NfaStart
import Vata.LoadDump
import Vata.UnionModel
/-!
# Word automata: load / dump through the dictionaries AS CODED, and `Union` with its translation maps (properties C13, C10)

Executable model (core Lean, total) of

* `ExplicitFiniteAutCore::loadFromAutDescInternal` / `dumpToAutDescInternal` (`src/explicit_finite_aut_core.hh`), called through
  `LoadableAut::LoadFromAutDesc (desc, stateDict)` / `DumpToAutDesc (stateDict)` (`src/loadable_aut.hh`) with the state
  dictionary (`TwoWayDict`, weak / strict translators – the `Dict` machinery of `Vata/LoadDump.lean`) and the alphabet
  `ExplicitFiniteAut::OnTheFlyAlphabet` (`include/vata/explicit_finite_aut.hh`);
* `ExplicitFiniteAutCore::Union` (`src/explicit_finite_union.cc`) with its two weak translators and ONE counter, and
  `ReindexStates (dst, index)` (`src/explicit_finite_aut_core.hh`).

## what the code does (and what is different from the tree encoding of `Vata/LoadDump.lean`)

* The alphabet's dictionary is `TwoWayDict<std::string, SymbolType>`: the key of a symbol is its NAME ONLY (no rank), so
  `a -> q` and `a(q) -> r` use the same symbol.  `WSymDict := Dict String`; the counter `nextSymbol_` is the size of the
  dictionary (a private member changed by this translator only), as in the tree encoding.
* The state translator of `LoadFromAutDesc (desc, stateDict)` is the same code as for trees (`loadable_aut.hh`): the counter
  starts at **0 whatever the dictionary contains**.
* `loadFromAutDescInternal`:
  ```
  for (auto symbolRankPair : desc.symbols) { symbolTransl(symbolRankPair.first); }            // (1) `regSyms`
  for (auto s : desc.finalStates) { this->finalStates_.insert(stateTransl(s)); }                // (2) `trFinals`
  for (auto t : desc.transitions) {                                                             // (3) `trTrans`
    if (t.first.empty()) {                       // a NULLARY rule `a -> q`: `q` is a start state, `a` one of its start symbols
      StateType translatedState = stateTransl(rightState);
      SymbolType translatedSymbol = symbolTransl(symbol);
      SetStateStart(translatedState, translatedSymbol);
      continue; }
    if (t.first.size() != 1) { throw std::runtime_error("Not a finite automaton"); }            // rank ≥ 2: the load THROWS
    this->AddTransition(stateTransl(leftState), symbolTransl(symbol), stateTransl(rightState)); }
  ```
  The three translator calls of the last line are arguments of ONE call: their order of evaluation is unspecified in C++
  (GCC on x86-64 evaluates right to left).  The order decides which NUMBERS new names get, nothing else; the model takes it
  as the parameter `rtl` (`true`: right state, symbol, left state; `false`: left to right) and every theorem holds for both.
  `desc.states` and `desc.name` are not read.  A rule with two or more children makes the load throw at that rule – the
  automaton and the dictionaries are then half filled and the exception leaves `LoadFromAutDesc`; the model returns
  `.error "Not a finite automaton"` (`C13_nfa_load_rank2_throws`: exactly when the description has such a rule).
* `dumpToAutDescInternal` (after the repair `3dfc5d43`): the names of the final states; for every start state `s`: if
  `GetStartSymbols (s)` is empty ONE rule `x -> s` with the literal name `x` (not looked up in the alphabet), else one rule
  `a -> s` per start symbol; BEFORE the repair a `break` ended that inner loop after its first round: only the FIRST symbol
  was written (`dumpNFAOld`).  Then one rule `a(p) -> q` per transition.  States go through
  `TranslatorStrict (stateDict.GetReverseMap ())`, symbols through the alphabet's strict back translator; a strict translator
  throws `std::runtime_error ("No translation for " + ToString (value))`.  `name`, `symbols`, `states` stay empty.  The
  fields are `std::set`s (`normDesc`).
* `Union (lhs, rhs, pTranslMapLhs, pTranslMapRhs)`: absent maps (`nullptr`) are replaced by local empty maps; the ONE counter
  starts at `max (second + 1)` over the entries of both maps (after the repair `73b68c90`; before: at `0`, `nfaUnionCodedOld`);
  `lhs.ReindexStates (res, stateTransLhs); rhs.ReindexStates (res, stateTransRhs);` into ONE fresh automaton.
  `ReindexStates (dst, index)`: `dst.SetStateFinal (index[f])` for the final states, `dst.SetExistingStateStart (index[s],
  GetStartSymbols (s))` for the start states, then every transition `(index[p], a, index[q])`.

## abstractions

* hash containers (`finalStates_`, `startStates_`, the start symbols of a state, the transitions) are lists read as sets;
  their iteration order is the list order (the dump sorts everything into `std::set` order anyway; for `Union` the visiting
  orders are PARAMETERS of `nfaUnionCodedOrd`, as in `Vata/UnionModel.lean`).
* when several translations are missing in a dump, which exception text comes first follows the list order (and, inside one
  constructor call of the C++, the order symbol – state chosen here).
* the weak state translators of `Union` are modelled, as in `Vata/UnionModel.lean`, by feeding the visiting order through
  `weakTrAll` and then applying the final map (a weak translator never changes a translation it has made).
-/
namespace Vata

/-- `ExplicitFiniteAut::SymbolDict = TwoWayDict<std::string, SymbolType>`: the key is the symbol's name -/
abbrev WSymDict := Dict String

namespace NfaLD
open LoadDump (mapE noTransl backState normDesc)

/-! ## the load -/

/-- what the two translators of a load own -/
structure WSt where
  sd : StateDict
  cnt : Nat
  yd : WSymDict
deriving Repr, DecidableEq

/-- `stateTransl (q)` -/
def trState (s : WSt) (q : String) : Nat × WSt :=
  ((s.sd.weak s.cnt q).1, { s with sd := (s.sd.weak s.cnt q).2.1, cnt := (s.sd.weak s.cnt q).2.2 })

/-- `symbolTransl (name)` – the allocator is `nextSymbol_++` with `nextSymbol_ = symbolDict_.size ()` -/
def trSym (s : WSt) (k : String) : Nat × WSt :=
  ((s.yd.weak s.yd.length k).1, { s with yd := (s.yd.weak s.yd.length k).2.1 })

/-- `for (auto symbolRankPair : desc.symbols) symbolTransl(symbolRankPair.first);` (the rank is not used) -/
def regSyms (s : WSt) : List (String × Int) → WSt
  | [] => s
  | p :: ps => regSyms (trSym s p.1).2 ps

/-- `for (auto s : desc.finalStates) this->finalStates_.insert(stateTransl(s));` -/
def trFinals (s : WSt) (A : NFAS) : List String → NFAS × WSt
  | [] => (A, s)
  | q :: qs => trFinals (trState s q).2 (nfasSetFinal A (trState s q).1) qs

/-- a nullary rule `sym -> parent`: `stateTransl(rightState)`, then `symbolTransl(symbol)` (two statements) -/
def trNullary (s : WSt) (sym parent : String) : (Nat × Nat) × WSt :=
  let p := trState s parent
  let f := trSym p.2 sym
  ((p.1, f.1), f.2)

/-- the arguments of `AddTransition(stateTransl(leftState), symbolTransl(symbol), stateTransl(rightState))`, evaluated right
to left (`rtl = true`, GCC) or left to right -/
def trUnary (rtl : Bool) (s : WSt) (l sym parent : String) : (Nat × Nat × Nat) × WSt :=
  if rtl then
    let r := trState s parent
    let f := trSym r.2 sym
    let a := trState f.2 l
    ((a.1, f.1, r.1), a.2)
  else
    let a := trState s l
    let f := trSym a.2 sym
    let r := trState f.2 parent
    ((a.1, f.1, r.1), r.2)

/-- the loop over `desc.transitions` -/
def trTrans (rtl : Bool) (s : WSt) (A : NFAS) : List (List String × String × String) → Except String (NFAS × WSt)
  | [] => .ok (A, s)
  | t :: ts =>
    match t.1 with
    | [] =>
      -- `if (t.first.empty()) { … SetStateStart(translatedState, translatedSymbol); continue; }`
      trTrans rtl (trNullary s t.2.1 t.2.2).2
        (nfasSetStart A (trNullary s t.2.1 t.2.2).1.1 (trNullary s t.2.1 t.2.2).1.2) ts
    | [l] =>
      trTrans rtl (trUnary rtl s l t.2.1 t.2.2).2
        (nfasAddTrans A (trUnary rtl s l t.2.1 t.2.2).1.1 (trUnary rtl s l t.2.1 t.2.2).1.2.1
          (trUnary rtl s l t.2.1 t.2.2).1.2.2) ts
    | _ :: _ :: _ =>
      -- `if (t.first.size() != 1) throw std::runtime_error("Not a finite automaton");`
      .error "Not a finite automaton"

/-- `loadFromAutDescInternal` from the translator state `s` (into a fresh automaton) -/
def loadFrom (rtl : Bool) (s : WSt) (d : AutDesc) : Except String (NFAS × WSt) :=
  trTrans rtl (trFinals (regSyms s d.symbols) nfasEmpty d.final).2 (trFinals (regSyms s d.symbols) nfasEmpty d.final).1
    d.trans

end NfaLD

open NfaLD in
/-- `ExplicitFiniteAut::LoadFromAutDesc (desc, stateDict)` on the alphabet whose dictionary is `symDict`: the automaton and
the two dictionaries afterwards; `.error "Not a finite automaton"` where the C++ throws.  The state counter starts at 0. -/
def loadNFA (rtl : Bool) (d : AutDesc) (stateDict : StateDict) (symDict : WSymDict) :
    Except String (NFAS × StateDict × WSymDict) :=
  match loadFrom rtl ⟨stateDict, 0, symDict⟩ d with
  | .error e => .error e
  | .ok r => .ok (r.1, r.2.sd, r.2.yd)

namespace NfaLD
open LoadDump (mapE noTransl backState normDesc)

/-! ## the dump -/

/-- the alphabet's strict back translator -/
def backSym (yd : WSymDict) (f : Nat) : Except String String :=
  match yd.bwd? f with
  | some k => .ok k
  | none => .error (noTransl f)

/-- `AutDescription::Transition trans(leftStateAsTuple, (*symbolTransl)(sym), stateTransl(s))` with the empty tuple -/
def dumpStartRule (sd : StateDict) (yd : WSymDict) (s sym : Nat) : Except String (List String × String × String) :=
  match backSym yd sym with
  | .error e => .error e
  | .ok f =>
    match backState sd s with
    | .error e => .error e
    | .ok n => .ok ([], f, n)

/-- the rules written for the start state `s`:
```
SymbolSet symset = this->GetStartSymbols(s);
if (!symset.size()) { … Transition trans(leftStateAsTuple, x, stateTransl(s)); desc.transitions.insert(trans); }
else { for (auto &sym : symset) { … desc.transitions.insert(trans); /* before 3dfc5d43: break; */ } }
```
`firstOnly = true` is the code with the `break`. -/
def dumpStart (firstOnly : Bool) (sd : StateDict) (yd : WSymDict) (A : NFAS) (s : Nat) :
    Except String (List (List String × String × String)) :=
  if (A.symsOf s).isEmpty then
    match backState sd s with
    | .error e => .error e
    | .ok n => .ok [([], "x", n)]
  else mapE (dumpStartRule sd yd s) (if firstOnly then (A.symsOf s).take 1 else A.symsOf s)

/-- one transition: `leftStateAsTuple.push_back(stateTransl(ls.first)); Transition trans(leftStateAsTuple,
(*symbolTransl)(s.first), stateTransl(rs));` -/
def dumpTrans (sd : StateDict) (yd : WSymDict) (e : Nat × Nat × Nat) : Except String (List String × String × String) :=
  match backState sd e.1 with
  | .error x => .error x
  | .ok l =>
    match backSym yd e.2.1 with
    | .error x => .error x
    | .ok f =>
      match backState sd e.2.2 with
      | .error x => .error x
      | .ok r => .ok ([l], f, r)

/-- `dumpToAutDescInternal` with or without the `break` -/
def dumpWith (firstOnly : Bool) (A : NFAS) (sd : StateDict) (yd : WSymDict) : Except String AutDesc :=
  match mapE (backState sd) A.final with
  | .error e => .error e
  | .ok fin =>
    match mapE (dumpStart firstOnly sd yd A) A.start with
    | .error e => .error e
    | .ok sts =>
      match mapE (dumpTrans sd yd) A.trans with
      | .error e => .error e
      | .ok ts => .ok (normDesc { name := "", symbols := [], states := [], final := fin, trans := sts.flatten ++ ts })

end NfaLD

/-- `ExplicitFiniteAut::DumpToAutDesc (stateDict)` as it is now -/
def dumpNFA (A : NFAS) (stateDict : StateDict) (symDict : WSymDict) : Except String AutDesc :=
  NfaLD.dumpWith false A stateDict symDict

/-- … and before the repair `3dfc5d43` (only the first start symbol of every start state is written) -/
def dumpNFAOld (A : NFAS) (stateDict : StateDict) (symDict : WSymDict) : Except String AutDesc :=
  NfaLD.dumpWith true A stateDict symDict

/-- `LoadFromString (parser, str, stateDict)` -/
def loadNFAString (rtl : Bool) (s : String) (stateDict : StateDict) (symDict : WSymDict) :
    Except String (NFAS × StateDict × WSymDict) :=
  match parseTimbuk s with
  | .error e => .error e
  | .ok d => loadNFA rtl d stateDict symDict

/-- `DumpToString (serializer, stateDict)` -/
def dumpNFAString (A : NFAS) (stateDict : StateDict) (symDict : WSymDict) : Except String String :=
  match dumpNFA A stateDict symDict with
  | .error e => .error e
  | .ok d => .ok (serialize d)

/-- the description is word-automaton shaped: every rule has at most one child -/
def AutDesc.WordShaped (d : AutDesc) : Prop := ∀ t, t ∈ d.trans → t.1.length ≤ 1

instance (d : AutDesc) : Decidable d.WordShaped := inferInstanceAs (Decidable (∀ t, t ∈ d.trans → _))

/-! ## `ReindexStates` and `Union` as coded -/

/-- `ReindexStates (dst, index)`:
```
for (auto& state : this->finalStates_) dst.SetStateFinal(index[state]);
for (auto& state : this->startStates_) dst.SetExistingStateStart(index[state], GetStartSymbols(state));
for (… every transition (p, a, q) …) cluster(index[p])->uniqueRStateSet(a).insert(index[q]);
``` -/
def nfasReindexInto (dst : NFAS) (f : Nat → Nat) (A : NFAS) : NFAS :=
  A.trans.foldl (fun D e => nfasAddTrans D (f e.1) e.2.1 (f e.2.2))
    (A.start.foldl (fun D q => nfasSetExistingStart D (f q) (A.symsOf q))
      (A.final.foldl (fun D q => nfasSetFinal D (f q)) dst))

/-- the order in which `ReindexStates` asks the translator: final states, start states, per transition source and target -/
def nfaVisitOrder (A : NFAS) : List Nat := A.final ++ A.start ++ A.trans.flatMap (fun e => [e.1, e.2.2])

/-- `Union` for given visiting orders and (possibly pre-filled) maps; `c` is the start value of the counter -/
def nfaUnionCodedFrom (c : Nat) (oA oB : List Nat) (A B : NFAS) (mL mR : SMap) : NFAS × SMap × SMap :=
  let l := weakTrAll oA mL c
  let r := weakTrAll oB mR l.2
  (nfasReindexInto (nfasReindexInto nfasEmpty (applyMap l.1) A) (applyMap r.1) B, l.1, r.1)

/-- `Union` as it is now: the counter starts above the values of both maps -/
def nfaUnionCodedOrd (oA oB : List Nat) (A B : NFAS) (mL mR : SMap) : NFAS × SMap × SMap :=
  nfaUnionCodedFrom (unionCnt mL mR) oA oB A B mL mR

/-- `Union (lhs, rhs, pTranslMapLhs, pTranslMapRhs)`: `none` is `nullptr` (a local empty map is used and dropped), `some m`
a caller's map (empty or pre-filled), updated in place -/
def nfaUnionCoded (A B : NFAS) (pL pR : Option SMap) : NFAS × Option SMap × Option SMap :=
  let u := nfaUnionCodedOrd (nfaVisitOrder A) (nfaVisitOrder B) A B (pL.getD []) (pR.getD [])
  (u.1, pL.map (fun _ => u.2.1), pR.map (fun _ => u.2.2))

/-- before the repair `73b68c90`: `StateType stateCnt = 0;` whatever the maps contain -/
def nfaUnionCodedOld (A B : NFAS) (pL pR : Option SMap) : NFAS × Option SMap × Option SMap :=
  let u := nfaUnionCodedFrom 0 (nfaVisitOrder A) (nfaVisitOrder B) A B (pL.getD []) (pR.getD [])
  (u.1, pL.map (fun _ => u.2.1), pR.map (fun _ => u.2.2))

/-! ## tests -/
namespace NfaLDTest

def dW : AutDesc :=
  { name := "W", symbols := [("a", 0), ("b", 1)], states := ["p", "q"], final := ["q"],
    trans := [([], "s", "p"), ([], "t", "p"), (["p"], "a", "q"), (["q"], "b", "q")] }

def loadsTo (rtl : Bool) (d : AutDesc) (sd : StateDict) (yd : WSymDict) (A : NFAS) (sd' : StateDict) (yd' : WSymDict) : Bool :=
  match loadNFA rtl d sd yd with
  | .ok (A', s, y) => A'.start == A.start && A'.final == A.final && A'.trans == A.trans && A'.startSyms == A.startSyms &&
      s == sd' && y == yd'
  | .error _ => false

-- symbols first (`a`, `b`), the final state `q`, then the rules; right to left: in `b(q) -> q` nothing is new
#guard loadsTo true dW [] [] ⟨⟨[1], [0], [(1, 0, 0), (0, 1, 0)]⟩, [(1, [2, 3])]⟩
  [("q", 0), ("p", 1)] [("a", 0), ("b", 1), ("s", 2), ("t", 3)]
#guard loadsTo false dW [] [] ⟨⟨[1], [0], [(1, 0, 0), (0, 1, 0)]⟩, [(1, [2, 3])]⟩
  [("q", 0), ("p", 1)] [("a", 0), ("b", 1), ("s", 2), ("t", 3)]
-- the order of evaluation shows in the numbers only
#guard loadsTo true { dW with final := [], symbols := [] } [] [] ⟨⟨[0], [], [(0, 2, 1), (1, 3, 1)]⟩, [(0, [0, 1])]⟩
  [("p", 0), ("q", 1)] [("s", 0), ("t", 1), ("a", 2), ("b", 3)]
#guard loadsTo true { dW with final := [], symbols := [], trans := [(["p"], "a", "q")] } [] []
  ⟨⟨[], [], [(1, 0, 0)]⟩, []⟩ [("q", 0), ("p", 1)] [("a", 0)]
#guard loadsTo false { dW with final := [], symbols := [], trans := [(["p"], "a", "q")] } [] []
  ⟨⟨[], [], [(0, 0, 1)]⟩, []⟩ [("p", 0), ("q", 1)] [("a", 0)]

def dumpsTo (r : Except String AutDesc) (d : AutDesc) : Bool :=
  match r with
  | .ok d' => d' == d
  | .error _ => false

def failsWith (r : Except String AutDesc) (msg : String) : Bool :=
  match r with
  | .ok _ => false
  | .error e => e == msg

#guard dumpsTo (dumpNFA ⟨⟨[1], [0], [(1, 0, 0), (0, 1, 0)]⟩, [(1, [2, 3])]⟩ [("q", 0), ("p", 1)]
    [("a", 0), ("b", 1), ("s", 2), ("t", 3)])
  { name := "", symbols := [], states := [], final := ["q"],
    trans := [([], "s", "p"), ([], "t", "p"), (["p"], "a", "q"), (["q"], "b", "q")] }
-- the `break`: `t -> p` is lost
#guard dumpsTo (dumpNFAOld ⟨⟨[1], [0], [(1, 0, 0), (0, 1, 0)]⟩, [(1, [2, 3])]⟩ [("q", 0), ("p", 1)]
    [("a", 0), ("b", 1), ("s", 2), ("t", 3)])
  { name := "", symbols := [], states := [], final := ["q"],
    trans := [([], "s", "p"), (["p"], "a", "q"), (["q"], "b", "q")] }
-- a start state without symbols (e.g. after `Reverse`): the literal `x`
#guard dumpsTo (dumpNFA ⟨⟨[0], [1], [(0, 0, 1)]⟩, [(0, [])]⟩ [("q", 0), ("p", 1)] [("a", 0)])
  { name := "", symbols := [], states := [], final := ["p"], trans := [([], "x", "q"), (["q"], "a", "p")] }
#guard failsWith (dumpNFA ⟨⟨[0], [1], [(0, 5, 1)]⟩, [(0, [])]⟩ [("q", 0), ("p", 1)] [("a", 0)]) "No translation for 5"
#guard failsWith (dumpNFA ⟨⟨[0], [7], []⟩, [(0, [])]⟩ [("q", 0), ("p", 1)] [("a", 0)]) "No translation for 7"
#guard failsWith (match loadNFA true { dW with trans := [(["p", "q"], "f", "q")] } [] [] with
  | .ok _ => .ok default | .error e => .error e) "Not a finite automaton"

def obs (r : NFAS × Option SMap × Option SMap) :=
  (r.1.start, r.1.final, r.1.trans, r.1.startSyms, r.2.1, r.2.2)

-- `Union` without maps, with empty maps, with pre-filled maps
#guard obs (nfaUnionCoded ⟨⟨[5], [6], [(5, 0, 6)]⟩, [(5, [8])]⟩ ⟨⟨[5], [5], [(5, 1, 5)]⟩, [(5, [9])]⟩ none (some [])) ==
  ([1, 2], [0, 2], [(1, 0, 0), (2, 1, 2)], [(1, [8]), (2, [9])], none, some [(5, 2)])
#guard obs (nfaUnionCoded ⟨⟨[5], [6], [(5, 0, 6)]⟩, [(5, [8])]⟩ ⟨⟨[5], [5], [(5, 1, 5)]⟩, [(5, [9])]⟩ (some [(6, 1)]) (some [(7, 0)])) ==
  ([2, 3], [1, 3], [(2, 0, 1), (3, 1, 3)], [(2, [8]), (3, [9])], some [(6, 1), (5, 2)], some [(7, 0), (5, 3)])
-- before the repair the state 5 of the left operand got the number 0 … of the state 7 / and 5 of the right operand the number of 6
#guard obs (nfaUnionCodedOld ⟨⟨[5], [6], [(5, 0, 6)]⟩, [(5, [8])]⟩ ⟨⟨[5], [5], [(5, 1, 5)]⟩, [(5, [9])]⟩ (some [(6, 1)]) (some [(7, 0)])) ==
  ([0, 1], [1], [(0, 0, 1), (1, 1, 1)], [(0, [8]), (1, [9])], some [(6, 1), (5, 0)], some [(7, 0), (5, 1)])

end NfaLDTest

end Vata
