import Vata.BddTrimCodedBU
import Vata.Proofs.BddAbsTD
/-!
C08: regression examples for the bottom-up symbolic trimming as coded.

Variants of `buUnreachCoded` / `buUselessCoded` with one realistic slip each, and concrete tables (built by `AddTransition`)
on which the slip is visible: a different rule set, a different language.
-/
namespace Vata
namespace BddTrimCoded
namespace BUEx
open M BddAbs BddAbsTD BddAbsTD.BddAbsTDEx

/-! ### slip 1 (`RemoveUnreachableStates`): the check "all states of the tuple are reachable" is left out -/

/-- `scanStep` without the loop `for (i = 0; i < tuple.size(); ++i) if (reachable->find(tuple[i]) == …) break;` -/
def scanStepAny (state : Nat) (st : BuSt) (e : List Nat × MT) : BuSt :=
  if e.1.contains state then
    let rw := collect (st.reach, st.ws) e.2
    ⟨rw.1, rw.2, st.tuples, st.result.set e.1 e.2⟩
  else ⟨st.reach, st.ws, st.tuples ++ [e], st.result⟩

def buUnreachLoopAny : Nat → BuSt → Option BuSt
  | _, ⟨r, [], tu, R⟩ => some ⟨r, [], tu, R⟩
  | 0, ⟨_, _ :: _, _, _⟩ => none
  | fuel + 1, ⟨r, state :: ws, tu, R⟩ => buUnreachLoopAny fuel (tu.foldl (scanStepAny state) ⟨r, ws, [], R⟩)

def buUnreachCodedAny (T : Table) (final : List Nat) (fuel : Nat) : Option (Table × List Nat) :=
  (buUnreachLoopAny fuel (buUnreachInit T)).map (fun st => (st.result, final.filter (fun q => st.reach.contains q)))

/-! ### slip 2 (`RemoveUnreachableStates`): the classic erase-while-iterating slip – after `tuples.erase(tmpIt)` the
iterator is advanced once more (the `continue` is missing), so the tuple after an erased one is not examined -/

/-- the scan with a flag "skip the next tuple" -/
def scanStepSkip (state : Nat) (a : BuSt × Bool) (e : List Nat × MT) : BuSt × Bool :=
  if a.2 then (⟨a.1.reach, a.1.ws, a.1.tuples ++ [e], a.1.result⟩, false)
  else if e.1.contains state && e.1.all (fun q => a.1.reach.contains q) then
    let rw := collect (a.1.reach, a.1.ws) e.2
    (⟨rw.1, rw.2, a.1.tuples, a.1.result.set e.1 e.2⟩, true)
  else (⟨a.1.reach, a.1.ws, a.1.tuples ++ [e], a.1.result⟩, false)

def buUnreachLoopSkip : Nat → BuSt → Option BuSt
  | _, ⟨r, [], tu, R⟩ => some ⟨r, [], tu, R⟩
  | 0, ⟨_, _ :: _, _, _⟩ => none
  | fuel + 1, ⟨r, state :: ws, tu, R⟩ =>
    buUnreachLoopSkip fuel (tu.foldl (scanStepSkip state) (⟨r, ws, [], R⟩, false)).1

def buUnreachCodedSkip (T : Table) (final : List Nat) (fuel : Nat) : Option (Table × List Nat) :=
  (buUnreachLoopSkip fuel (buUnreachInit T)).map (fun st => (st.result, final.filter (fun q => st.reach.contains q)))

/-! ### slip 3 (`RemoveUselessStates`): the edge is added in the wrong direction,
`graph_.AddEdge(itOtherNode->second, node)` -/

def addEdgesRev (nodes : List (Nat × Nat)) (node : Nat) (tuple : List Nat) (G : Graph) : Graph :=
  tuple.foldl (fun G t => match findBwd nodes t with
    | some m => G.addEdge m node
    | none => G) G

def collectStepGRev (tuple : List Nat) (s : FSt) (q : Nat) : FSt :=
  let rw := collectStep (s.reach, s.ws) q
  let gn : Graph × List (Nat × Nat) × Nat := match findBwd s.nodes q with
    | some n => (s.graph, s.nodes, n)
    | none => let a := s.graph.addNode; (a.1, s.nodes ++ [(a.2, q)], a.2)
  ⟨rw.1, rw.2, addEdgesRev gn.2.1 gn.2.2 tuple gn.1, gn.2.1⟩

def collectGRev (tuple : List Nat) (s : FSt) (m : MT) : FSt := (leafParents m).foldl (collectStepGRev tuple) s

def scanStepGRev (state : Nat) (st : BuGSt) (e : List Nat × MT) : BuGSt :=
  if e.1.contains state && e.1.all (fun q => st.reach.contains q) then
    let s := collectGRev e.1 ⟨st.reach, st.ws, st.graph, st.nodes⟩ e.2
    ⟨s.reach, s.ws, st.tuples, s.graph, s.nodes⟩
  else ⟨st.reach, st.ws, st.tuples ++ [e], st.graph, st.nodes⟩

def buGLoopRev : Nat → BuGSt → Option BuGSt
  | _, ⟨r, [], tu, G, d⟩ => some ⟨r, [], tu, G, d⟩
  | 0, ⟨_, _ :: _, _, _, _⟩ => none
  | fuel + 1, ⟨r, state :: ws, tu, G, d⟩ => buGLoopRev fuel (tu.foldl (scanStepGRev state) ⟨r, ws, [], G, d⟩)

def buGInitRev (T : Table) : BuGSt :=
  let s := collectGRev [] ⟨[], [], Graph.empty, []⟩ T.nullary
  ⟨s.reach, s.ws, T.entries.filter (fun e => e.1 != []), s.graph, s.nodes⟩

def buUselessCodedRev (T : Table) (final : List Nat) (fuel : Nat) : Option (Table × List Nat) :=
  match buGLoopRev fuel (buGInitRev T) with
  | none => none
  | some st =>
    let seed := final.foldl (seedStep st.nodes) ([], [])
    match traverse st.nodes fuel ⟨seed.1, seed.2, st.graph⟩ with
    | none => none
    | some tr => some ((pairs T).foldl (restrictStep tr.useful) Table.empty,
        final.filter (fun q => (findBwd st.nodes q).isSome))

/-! ### slip 4 (`RemoveUselessStates`): the graph is built over ALL tuples containing the popped state (the check "all
states reachable" is left out): a state below an unproductive tuple becomes `useful` -/

def scanStepGAny (state : Nat) (st : BuGSt) (e : List Nat × MT) : BuGSt :=
  if e.1.contains state then
    let s := collectG e.1 ⟨st.reach, st.ws, st.graph, st.nodes⟩ e.2
    ⟨s.reach, s.ws, st.tuples, s.graph, s.nodes⟩
  else ⟨st.reach, st.ws, st.tuples ++ [e], st.graph, st.nodes⟩

def buGLoopAny : Nat → BuGSt → Option BuGSt
  | _, ⟨r, [], tu, G, d⟩ => some ⟨r, [], tu, G, d⟩
  | 0, ⟨_, _ :: _, _, _, _⟩ => none
  | fuel + 1, ⟨r, state :: ws, tu, G, d⟩ => buGLoopAny fuel (tu.foldl (scanStepGAny state) ⟨r, ws, [], G, d⟩)

def buUselessCodedAny (T : Table) (final : List Nat) (fuel : Nat) : Option (Table × List Nat) :=
  match buGLoopAny fuel (buGInit T) with
  | none => none
  | some st =>
    let seed := final.foldl (seedStep st.nodes) ([], [])
    match traverse st.nodes fuel ⟨seed.1, seed.2, st.graph⟩ with
    | none => none
    | some tr => some ((pairs T).foldl (restrictStep tr.useful) Table.empty,
        final.filter (fun q => (findBwd st.nodes q).isSome))

def tA : Table := ofRules rsA

def rulesOf (o : Option (Table × List Nat)) : Option (List (Nat × List Nat × Nat)) :=
  o.map (fun R => showRules (absRules syms R.1))

def langOf (o : Option (Table × List Nat)) (t : Tree) : Option Bool := o.map (fun R => accepts (absBU syms R.1 R.2) t)

/-- `a → 1`, `g(1,1) → 2`, `h(1) → 7`; final: 2 (the table lists the tuple `[1]` before `[1,1]`) -/
def rsB : List Rule := [⟨0, [], 1⟩, ⟨2, [1, 1], 2⟩, ⟨3, [1], 7⟩]
def tB : Table := ofRules rsB
def finB : List Nat := [2]
/-- `g(a, a)` -/
def trB : Tree := .node 2 [.node 0 [], .node 0 []]

/-- `a → 1`, `b → 5`, `g(4,5) → 2` (4 has no rule), `g(1,1) → 2`; final: 2 -/
def rsC : List Rule := [⟨0, [], 1⟩, ⟨1, [], 5⟩, ⟨2, [4, 5], 2⟩, ⟨2, [1, 1], 2⟩]
def tC : Table := ofRules rsC

/-! The runs on `tA` / `tB`, each evaluated once; the examples below and the regression of `Properties/C08_TrimCoded.lean` read
their facts off these (a `Table` holds diagrams, so the value itself cannot be compared by evaluation: one conjunction per run). -/
theorem tA_unreach : rulesOf (buUnreachCoded tA finA 5) =
    some [(0, [], 1), (0, [], 3), (1, [], 1), (1, [], 5), (3, [5], 6), (2, [1, 1], 2)] := by decide +kernel
theorem tA_unreachAny : rulesOf (buUnreachCodedAny tA finA 5) =
    some [(0, [], 1), (0, [], 3), (1, [], 1), (1, [], 5), (3, [5], 6), (2, [1, 1], 2), (2, [4, 1], 2)] := by decide +kernel
theorem tA_useless : rulesOf (buUselessCoded tA finA 5) = some [(0, [], 1), (1, [], 1), (2, [1, 1], 2)] ∧
    langOf (buUselessCoded tA finA 5) trB = some true := by decide +kernel
theorem tA_uselessRev : rulesOf (buUselessCodedRev tA finA 5) = some [] ∧
    langOf (buUselessCodedRev tA finA 5) trB = some false := by decide +kernel
theorem tB_unreach : langOf (buUnreachCoded tB finB 5) trB = some true ∧
    langOf (buUnreachCodedSkip tB finB 5) trB = some false := by decide +kernel

example : rulesOf (buUnreachCoded tA finA 5) =
    some [(0, [], 1), (0, [], 3), (1, [], 1), (1, [], 5), (3, [5], 6), (2, [1, 1], 2)] := tA_unreach
example : rulesOf (buUnreachCoded tA finA 5) = rulesOf (some (removeUnreachableBU tA finA)) := by
  rw [tA_unreach]; decide +kernel
example : (buUnreachSt tA 5).map (fun s => (s.reach, s.tuples.map (·.1))) = some ([1, 3, 5, 2, 6], [[4, 1]]) := by decide +kernel
example : buUnreachCoded tA finA 4 = none := by decide +kernel
example : rulesOf (buUselessCoded tA finA 5) = some [(0, [], 1), (1, [], 1), (2, [1, 1], 2)] := tA_useless.1
example : rulesOf (buUselessCoded tA finA 5) = rulesOf (some (removeUselessBU tA finA)) := by
  rw [tA_useless.1]; decide +kernel
-- the nodes 0 … 4 stand for the states 1, 3, 5, 2, 6; the edges 2 → 1 (node 3 → node 0), 6 → 5 (node 4 → node 2);
-- the traversal from the node of 2 erases the edge 3 → 0 when it pops the node 0
example : (buUselessSt tA finA 5).map (fun s => (s.1.nodes, s.2.useful, (List.range 5).map s.1.graph.egr,
    (List.range 5).map s.2.graph.egr)) =
    some ([(0, 1), (1, 3), (2, 5), (3, 2), (4, 6)], [2, 1], [[], [], [], [0], [2]], [[], [], [], [], [2]]) := by decide +kernel

/-- **slip 1 is visible**: the rule `g(4,1) → 2` on the unreachable (unproductive) state 4 stays -/
example : rulesOf (buUnreachCodedAny tA finA 5) =
    some [(0, [], 1), (0, [], 3), (1, [], 1), (1, [], 5), (3, [5], 6), (2, [1, 1], 2), (2, [4, 1], 2)] := tA_unreachAny
example : rulesOf (buUnreachCodedAny tA finA 5) ≠ rulesOf (buUnreachCoded tA finA 5) := by
  rw [tA_unreachAny, tA_unreach]; decide

/-- **slip 2 is visible**: the tuple `[1,1]` is never examined, the language changes -/
example : langOf (buUnreachCoded tB finB 5) trB = some true ∧ langOf (buUnreachCodedSkip tB finB 5) trB = some false ∧
    accepts (absBU syms tB finB) trB = true := ⟨tB_unreach.1, tB_unreach.2, by decide +kernel⟩

/-- **slip 3 is visible**: nothing but the final state is `useful`, the language becomes empty -/
example : rulesOf (buUselessCodedRev tA finA 5) = some [] ∧
    langOf (buUselessCoded tA finA 5) trB = some true ∧ langOf (buUselessCodedRev tA finA 5) trB = some false ∧
    accepts (absBU syms tA finA) trB = true := ⟨tA_uselessRev.1, tA_useless.2, tA_uselessRev.2, by decide +kernel⟩

/-- **slip 4 is visible**: the state 5 (used only together with the unproductive state 4) is kept as useful -/
example : rulesOf (buUselessCoded tC finA 5) = some [(0, [], 1), (2, [1, 1], 2)] ∧
    rulesOf (buUselessCodedAny tC finA 5) = some [(0, [], 1), (1, [], 5), (2, [1, 1], 2)] := by decide +kernel

end BUEx
end BddTrimCoded
end Vata
