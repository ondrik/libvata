import Vata.Proofs.InclUpSimInv
import Vata.Proofs.InclUpTotal
import Vata.Proofs.PropAux
/-!
# Totality of `inclUpSim` on trimmed operands with a validated preorder

For a relation that is transitive and reflexive on the parents of the rules the measure of the algorithm without
relation still works, so the exploration ends within the same `2 · |Δ_A| · 2^|Δ_B|` picked pairs.  On a trimmed `A` the
tree of a `return false` is completed to a separating tree, so the final check never loses a `false`: with disjoint
operands and a reflexive-transitive upward simulation of the union the right verdict is returned for every fuel above the
bound.  The model of the command-line `CheckInclusion` (sanitise, greatest upward simulation of the union) has no
hypothesis left.
-/
namespace Vata
namespace InclUpSim
open InclUp

structure Preorder (R : Rel) (A B : TA) : Prop where
  trans : ∀ a b c, (a, b) ∈ R → (b, c) ∈ R → (a, c) ∈ R
  refl : ∀ x, x ∈ parents A ∨ x ∈ parents B → (x, x) ∈ R

def preorderB (R : Rel) (A B : TA) : Bool := transB R && (parents A ++ parents B).all (fun x => R.contains (x, x))

theorem preorderB_sound {R : Rel} {A B : TA} (h : preorderB R A B = true) : Preorder R A B := by
  simp only [preorderB, Bool.and_eq_true, List.all_eq_true, List.contains_iff_mem, List.mem_append] at h
  exact ⟨transB_sound h.1, h.2⟩

theorem le_trans {R : Rel} (htr : ∀ a b c, (a, b) ∈ R → (b, c) ∈ R → (a, c) ∈ R) {a b c : Nat}
    (h₁ : le R a b = true) (h₂ : le R b c = true) : le R a c = true :=
  le_iff.mpr (htr _ _ _ (le_iff.mp h₁) (le_iff.mp h₂))

theorem lte_iff {R : Rel} {X Y : List Nat} :
    lte R X Y = true ↔ X = Y ∨ ∀ x, x ∈ X → ∃ y, y ∈ Y ∧ le R x y = true := by
  simp only [lte, Bool.or_eq_true, beq_iff_eq, List.all_eq_true, List.any_eq_true]

theorem lte_trans {R : Rel} (htr : ∀ a b c, (a, b) ∈ R → (b, c) ∈ R → (a, c) ∈ R) {X Y Z : List Nat}
    (h₁ : lte R X Y = true) (h₂ : lte R Y Z = true) : lte R X Z = true := by
  rw [lte_iff] at h₁ h₂ ⊢
  rcases h₁ with rfl | h₁
  · exact h₂
  · rcases h₂ with rfl | h₂
    · exact Or.inr h₁
    · refine Or.inr fun x hx => ?_
      obtain ⟨y, hy, hxy⟩ := h₁ x hx
      exact (h₂ y hy).imp fun z hz => ⟨hz.1, le_trans htr hxy hz.2⟩

theorem lte_of_sub {R : Rel} {X Y : List Nat} (hr : ∀ x, x ∈ X → (x, x) ∈ R) (h : ∀ x, x ∈ X → x ∈ Y) :
    lte R X Y = true :=
  lte_iff.mpr (Or.inr fun x hx => ⟨x, h x hx, le_iff.mpr (hr x hx)⟩)

theorem subsumed_iff {R : Rel} {P : List Item} {q : Nat} {S : List Nat} :
    subsumed R P q S = true ↔ ∃ i, i ∈ P ∧ le R q i.q = true ∧ lte R i.S S = true := by
  simp only [subsumed, List.any_eq_true, Bool.and_eq_true]

theorem subsumed_addTmp {R : Rel} (htr : ∀ a b c, (a, b) ∈ R → (b, c) ∈ R → (a, c) ∈ R) {P : List Item} {it : Item}
    {q : Nat} {S : List Nat} (h : subsumed R P q S = true) : subsumed R (addTmp R P it) q S = true := by
  unfold addTmp
  split
  · exact h
  · obtain ⟨i, hi, hq, hS⟩ := subsumed_iff.mp h
    cases hr : (le R i.q it.q && lte R it.S i.S) with
    | false => exact subsumed_iff.mpr ⟨i, List.mem_append_left _ (mem_refine.mpr ⟨hi, hr⟩), hq, hS⟩
    | true =>
      rw [Bool.and_eq_true] at hr
      exact subsumed_iff.mpr ⟨it, List.mem_append_right _ (List.mem_singleton.mpr rfl), le_trans htr hq hr.1,
        lte_trans htr hr.2 hS⟩

def mu (R : Rel) (A B : TA) (P : List Item) : Nat := (InclUp.univ A B).countP (fun p => !subsumed R P p.1 p.2)

theorem mu_addTmp_le {R : Rel} (htr : ∀ a b c, (a, b) ∈ R → (b, c) ∈ R → (a, c) ∈ R) (A B : TA) (P : List Item)
    (it : Item) : mu R A B (addTmp R P it) ≤ mu R A B P :=
  UpGen.mu_addTmp_le (o := ops R B) (subsumed_addTmp htr)

/-- for a preorder the measure of the algorithm without relation works -/
theorem shrinks {R : Rel} {A B : TA} (hR : Preorder R A B) : UpGen.Shrinks (ops R B) A B where
  up := fun hB hS h => (subsumed_iff.mp h).elim fun i hi => subsumed_iff.mpr
    ⟨i, hi.1, hi.2.1, lte_trans hR.trans hi.2.2 (lte_of_sub (fun x hx => hR.refl x (Or.inr (hB x hx))) hS)⟩
  keeps := subsumed_addTmp hR.trans
  self := fun {P it} hd hs => by
    rw [UpGen.addTmp_of_not (Bool.eq_false_iff.mp hs)]
    exact subsumed_iff.mpr ⟨it, List.mem_append_right _ (List.mem_singleton.mpr rfl),
      le_iff.mpr (hR.refl _ (Or.inl hd.1)), lte_iff.mpr (Or.inl rfl)⟩
  dom := fun _ hρ => dom_mkItem hρ (fun _ => mem_macroPost_sub) _

theorem run_terminates {R : Rel} {A B : TA} (hR : Preorder R A B) {fuel : Nat} (h : fuelBound A B < fuel) :
    ∃ r, run R A B fuel = some r :=
  run_eq R A B fuel ▸ UpGen.run_terminates (shrinks hR) h

theorem inclUpSim_of_run_error {R : Rel} {A B : TA} (hR : SimHyp R A B) (hA : Trimmed A) {fuel : Nat} {q : Nat}
    {t : Tree} (h : run R A B fuel = some (.error (q, t))) :
    inclUpSim A B R fuel = some (false, .witness (complete A q t)) := by
  rw [inclUpSim, h]
  exact if_pos (complete_check hA (run_error_ok hR h))

/-- what the validation of the model establishes, plus "preorder": the hypotheses of totality -/
structure Valid (R : Rel) (A B : TA) : Prop where
  sim : isUpSimB (unionDisjoint A B) R = true
  dis : InclDown.disjointB A B = true
  pre : Preorder R A B

theorem Valid.simHyp {R : Rel} {A B : TA} (h : Valid R A B) : SimHyp R A B :=
  ⟨h.pre.trans, (isUpSimB_iff _ R).mp h.sim, InclDown.disjointB_iff.mp h.dis⟩

theorem inclUpSim_total {R : Rel} {A B : TA} (hV : Valid R A B) (hA : Trimmed A) {fuel : Nat}
    (hf : fuelBound A B < fuel) : ∃ b c, inclUpSim A B R fuel = some (b, c) := by
  obtain ⟨r, hr⟩ := run_terminates hV.pre hf
  cases r with
  | ok P => exact ⟨_, _, inclUpSim_of_run_ok hV.pre.trans hV.sim hV.dis hr⟩
  | error e => exact ⟨_, _, inclUpSim_of_run_error hV.simHyp hA (q := e.1) (t := e.2) hr⟩

theorem inclUpSim_complete {R : Rel} {A B : TA} (hV : Valid R A B) (hA : Trimmed A) {fuel : Nat}
    (hf : fuelBound A B < fuel) :
    (Incl A B → ∃ c, inclUpSim A B R fuel = some (true, c)) ∧
    (¬ Incl A B → ∃ c, inclUpSim A B R fuel = some (false, c)) :=
  Verdict.complete_of_total (inclUpSim_total hV hA hf) inclUpSim_iff

theorem run_sound {R : Rel} {A B : TA} (hV : Valid R A B) {fuel : Nat} :
    (∀ P, run R A B fuel = some (.ok P) → Incl A B) ∧
    (Trimmed A → ∀ e, run R A B fuel = some (.error e) → ¬ Incl A B) :=
  ⟨fun _ h => inclUpSim_true (inclUpSim_of_run_ok hV.pre.trans hV.sim hV.dis h),
    fun hA e h => inclUpSim_false (inclUpSim_of_run_error hV.simHyp hA (q := e.1) (t := e.2) h)⟩

theorem parents_sub_states {A : TA} {x : Nat} (h : x ∈ parents A) : x ∈ A.states := by
  obtain ⟨r, hr, rfl⟩ := List.mem_map.mp h
  exact parent_mem_states hr

theorem valid_upSimRef {A B : TA} (hdis : ∀ q, q ∈ A.states → q ∉ B.states) :
    Valid (upSimRef (unionDisjoint A B)) A B where
  sim := upSimRef_check _
  dis := InclDown.disjointB_iff.mpr hdis
  pre := {
    trans := (greatest_upSim_preorder _).2
    refl := fun x hx => (greatest_upSim_preorder _).1 x (by
      rw [PropAux.mem_states_unionDisjoint]
      rcases hx with hx | hx
      · exact Or.inl (parents_sub_states hx)
      · exact Or.inr (parents_sub_states hx)) }

theorem valid_sanitize (A B : TA) :
    Valid (upSimRef (unionDisjoint (sanitize A B).1 (sanitize A B).2.1)) (sanitize A B).1 (sanitize A B).2.1 :=
  valid_upSimRef (sanitize_disjoint A B)

end InclUpSim

open InclUp InclUpSim

/-- the model of the command-line `CheckInclusion` with `ANTICHAINS_UP_SIM` returns a verdict for every fuel above the
bound, whatever the operands -/
theorem checkInclUpSim_total (A B : TA) {fuel : Nat}
    (hf : fuelBound (sanitize A B).1 (sanitize A B).2.1 < fuel) : ∃ b c, checkInclUpSim A B fuel = some (b, c) :=
  inclUpSim_total (valid_sanitize A B) (trimmed_of_allUsefulB (sanitize_trimmed A B).1) hf

theorem checkInclUpSim_complete (A B : TA) {fuel : Nat}
    (hf : fuelBound (sanitize A B).1 (sanitize A B).2.1 < fuel) :
    (Incl A B → ∃ c, checkInclUpSim A B fuel = some (true, c)) ∧
    (¬ Incl A B → ∃ c, checkInclUpSim A B fuel = some (false, c)) := by
  have := inclUpSim_complete (valid_sanitize A B) (trimmed_of_allUsefulB (sanitize_trimmed A B).1) hf
  rw [checkIncl_sanitized] at this
  exact this

namespace InclUpSimTotalEx
open InclUpSimEx

example : Valid (upSimRef (unionDisjoint exP exQ)) exP exQ :=
  valid_upSimRef (InclDown.disjointB_iff.mp (by decide +kernel))
example : Valid exR exP exQ :=
  ⟨by decide +kernel, by decide +kernel, preorderB_sound (by decide +kernel)⟩
example : Trimmed exP ∧ fuelBound exP exQ < 321 := ⟨trimmed_of_allUsefulB (by decide +kernel), by decide +kernel⟩
example : ∃ r, run (upSimRef (unionDisjoint exP exQ)) exP exQ 321 = some r :=
  run_terminates (valid_upSimRef (InclDown.disjointB_iff.mp (by decide +kernel))).pre (by decide +kernel)
example : (Incl exP exQ → ∃ c, inclUpSim exP exQ (upSimRef (unionDisjoint exP exQ)) 321 = some (true, c)) ∧
    (¬ Incl exP exQ → ∃ c, inclUpSim exP exQ (upSimRef (unionDisjoint exP exQ)) 321 = some (false, c)) :=
  inclUpSim_complete (valid_upSimRef (InclDown.disjointB_iff.mp (by decide +kernel)))
    (trimmed_of_allUsefulB (by decide +kernel)) (by decide +kernel)
example : fuelBound (sanitize SanEx.exA SanEx.exB).1 (sanitize SanEx.exA SanEx.exB).2.1 < 33 := by decide +kernel
example : ∃ c, checkInclUpSim SanEx.exA SanEx.exB 33 = some (true, c) :=
  (checkInclUpSim_complete SanEx.exA SanEx.exB (by decide +kernel)).1
    ((Verdict.exists_cert (o := checkInclUpSim SanEx.exA SanEx.exB 20) (by decide +kernel)).elim
      fun _ h => (checkInclUpSim_iff h).mp rfl)
example : ∃ c, checkInclUpSim SanEx.exB SanEx.exA 100 = some (false, c) := Verdict.exists_cert (by decide +kernel)
example : Incl exP exQ :=
  (run_sound (R := exR) (A := exP) (B := exQ)
    ⟨by decide +kernel, by decide +kernel, preorderB_sound (by decide +kernel)⟩ (fuel := 20)).1 _ rfl

end InclUpSimTotalEx

end Vata
