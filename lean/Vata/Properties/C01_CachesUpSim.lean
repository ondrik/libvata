import Vata.Proofs.FunctorCachesUpSim
import Vata.Properties.C01
import Vata.Properties.CacheWiring
/-!
# C01 – the caches of the upward tree inclusion algorithm WITH a simulation are transparent (with the library's deleter)

Property C01 (all selections of `CheckInclusion` answer `L(A) ⊆ L(B)`), selection "upward with simulation"
(`ANTICHAINS_UP_SIM`).  The model `inclUpSim` / `checkInclUpSim` behind `C01_upward_sim_prepared_exact` compares macro-states by
value.  The code (`ExplicitUpwardInclusion::checkInternal`, `src/explicit_tree_incl_up.cc` – ONE function for the identity and
for a computed simulation, the relation enters through `ind` / `inv`) interns the MINIMISED macro-states in `biggerTypeCache` (a
`Util::Cache`: objects held by `shared_ptr`s, they DIE, addresses are recycled) and memoises `lte` – here "every state of `*x` is
simulated by a state of `*y`" – and `evalTransitions` in two `CachedBinaryOp` tables keyed by those addresses.
`C01_Caches.lean` closed this for the identity relation and left the simulation variant open; this file closes it.

How the statement is read into the model (`Vata/FunctorCachesUpSim.lean`, on top of the heap / allocator / deleter machinery of
`Vata/FunctorCachesUp.lean`).  `checkInclUpSimC w pick A B fuel` is `CheckInclusion` (upward, simulation) with the three caches
as coded: `w : CM.Wiring` is what the deleter handed to `biggerTypeCache` does (`.lib`: the library's – `cache_wiring_is_lib`
proves that the deleters regenerated from the sources denote it), `pick` is the allocator (which address a new macro-state gets,
given the live ones; every allocator is some `pick`).  `inclUpSimC w pick A B R fuel` takes the relation as a parameter,
`FCUS.runS` is the exploration alone, `FCU.rawVerdictU` its `return true` / `return false` before the certificate check of the model.
Mirrored with the relation: `noncachedLte` (`lteNC`), the lambda `lte` with its POINTER test (`hLteS`), `Antichain2Cv2::contains
(ind[q], …)` / `refine(inv[q], …, Eraser(next))`, the `Antichain1C post` loop on the transitions that survive
`evalTransitions` / `intersectionByLookup` (in the order of `B.rules`), `checkIntersection(ind[q], tmp)` – in the main loop BEFORE
`biggerTypeCache.lookup`, in the leaf phase after it (the handle is dropped again).

Abstracted: reference counting by its effect (`hCollect` where handles are dropped); iteration orders of hash containers and of
`ind[q]` / `inv[q]` (list order of the antichain); the leaf phase acquires `ptr` once per leaf rule (the C++: once per symbol).
Fuel: one unit per picked pair; `none` = out of fuel at exactly the fuel at which the cache-free model is (part of the
equalities below), so totality above `fuelBound` is inherited (`C01_upward_sim_cached_exact`).
-/
namespace Vata.Props
open Vata.InclUp Vata.FCU Vata.FCUS Vata.CM

/-- **`biggerTypeCache`, `lteCache`, `evalTransitionsCache` are transparent (upward, WITH a simulation) – for every allocator and
every relation.**  With the library's deleter, `CheckInclusion` with the caches as coded returns, for all operands and every fuel,
exactly what the cache-free model `checkInclUpSim` returns (the same verdict with the same antichain / witness, `none` at the same
fuel), however the addresses of dead macro-states are recycled; the same with the relation as a parameter – ANY list of pairs, no
simulation / reflexivity / transitivity hypothesis – and for the exploration alone (verdict and final antichain by value). -/
theorem C01_upward_sim_caches_transparent (pick : List Nat → Nat) (A B : TA) (R : Rel) (fuel : Nat) :
    checkInclUpSimC .lib pick A B fuel = checkInclUpSim A B fuel ∧
    inclUpSimC .lib pick A B R fuel = inclUpSim A B R fuel ∧
    viewU (runS .lib pick R A B fuel) = InclUpSim.run R A B fuel :=
  ⟨checkInclUpSim_cached_eq pick A B fuel, inclUpSim_cached_eq pick A B R fuel, runS_eq pick R A B fuel⟩

/-- … in the form of `C01_upward_sim_prepared_exact`: the cached model is exact for the ORIGINAL question and total above the
bound, on the prepared operands with the computed relation, for every allocator -/
theorem C01_upward_sim_cached_exact (pick : List Nat → Nat) (A B : TA) :
    (∀ fuel b c, checkInclUpSimC .lib pick A B fuel = some (b, c) → (b = true ↔ Incl A B)) ∧
    (∀ fuel, fuelBound (sanitize A B).1 (sanitize A B).2.1 < fuel →
      (Incl A B → ∃ c, checkInclUpSimC .lib pick A B fuel = some (true, c)) ∧
      (¬ Incl A B → ∃ c, checkInclUpSimC .lib pick A B fuel = some (false, c))) := by
  simp only [checkInclUpSim_cached_eq]
  exact C01_upward_sim_prepared_exact A B

/-- the wiring the theorem assumes is the one in the sources -/
example : Vata.Gen.cacheWiring.map Vata.CacheWiring.wiringOf = [.lib, .lib, .lib] := Vata.CacheWiring.cache_wiring_is_lib

-- non-vacuity: runs with a non-trivial relation in which macro-states die and their addresses are reused at once
example : (checkInclUpSimC .lib pickLeast FCUSEx.exWA FCUSEx.exWB 12).map (·.1) = some false := by decide +kernel
example : (checkInclUpSimC .lib pickLeast FCUSEx.exSA FCUSEx.exSB 12).map (·.1) = some true := by decide +kernel
example : (finalHeap (runS .lib pickLeast FCUSEx.exSR FCUSEx.exSA FCUSEx.exSB 12)).map
    (fun h => (h.store.length, h.lte.store.length, h.ev.store.length)) = some (1, 0, 2) :=
  Option.map_of_map FCUSEx.exS_lib_run (fun t => (t.1, t.2.1, t.2.2.1))
-- minimised macro-states are interned (`exR` has `10 ≼ 12`: `{10, 12}` is stored as `{12}`), subsumption modulo `1 ≼ 2`
example : (viewU (runS .lib pickLeast InclUpSimEx.exR InclUpSimEx.exP InclUpSimEx.exQ 20)).map
    (fun r => match r with | .ok P => P.map (fun i => (i.q, i.S)) | .error _ => []) = some [(2, [12]), (3, [11])] := by
  decide +kernel
-- every leaf pair skipped by `checkIntersection(ind[q], tmp)`: the handles are dropped again, nothing stays alive
example : (finalHeap (runS .lib pickLeast (upSimRef (unionDisjoint InclUpSimEx.exP InclUpSimEx.exQ)) InclUpSimEx.exP
    InclUpSimEx.exQ 20)).map (fun h => h.store.length) = some 0 := by decide +kernel

/-- **the invariant behind it**, at the end of every run with the library's deleter, for every allocator and relation: one live
object per address AND per value (interning), every entry of `lteCache` is about two LIVE macro-states and holds `noncachedLte`
modulo the relation of their current values, every entry of `evalTransitionsCache` is about a live macro-state and holds
`noncachedEvalTransitions` of its current value (`FCUS.HInvS`, kept by every step of the simulation `FCUS.URelS`;
`FCUS.hCollectS_spec` is the step where objects die) -/
theorem C01_upward_sim_memo_sound (pick : List Nat → Nat) (R : Rel) (A B : TA) (fuel : Nat) (h : Heap)
    (hf : finalHeap (runS .lib pick R A B fuel) = some h) :
    (∀ a b, a ∈ h.addrs → b ∈ h.addrs → hval h a = hval h b → a = b) ∧
    (∀ a b r, aget h.lte.store (a, b) = some r → a ∈ h.addrs ∧ b ∈ h.addrs ∧ r = lteNC R (hval h a) (hval h b)) ∧
    (∀ k b r, aget h.ev.store (k, b) = some r → b ∈ h.addrs ∧ r = evalT B k (hval h b)) ∧ heapOKSB R B h = true :=
  ⟨(runS_heap_sound pick R A B fuel hf).1.vi, (runS_heap_sound pick R A B fuel hf).1.sl,
    (runS_heap_sound pick R A B fuel hf).1.se, (runS_heap_sound pick R A B fuel hf).2⟩

/-- **the lambda `lte` with its pointer test is `InclUpSim.lte`** ("the same set, or every state of `*x` is simulated by a state
of `*y`") on live objects of a heap that satisfies the invariant, whatever the relation -/
theorem C01_upward_sim_lte_pointer (R : Rel) (B : TA) (h : Heap) (hi : HInvS R B h) (a b : Nat) (ha : a ∈ h.addrs)
    (hb : b ∈ h.addrs) : (hLteS R h a b).2 = InclUpSim.lte R (hval h a) (hval h b) :=
  (hLteS_spec hi ha hb).1

/-- … the interning part of the invariant cannot be dropped: with two live objects of the same value and a relation that is not
reflexive the pointer test fails and `noncachedLte` answers `false`, the value comparison answers `true` (all other parts of
the invariant hold: distinct addresses, empty memo tables) -/
example : (hLteS [] { store := [(0, [5]), (1, [5])] } 0 1).2 = false ∧ InclUpSim.lte [] (hval { store := [(0, [5]), (1, [5])] } 0)
    (hval { store := [(0, [5]), (1, [5])] } 1) = true := by decide

/-- **the computation behind `evalTransitionsCache`, as a LIST**: `evalTransitions` for every position and
`intersectionByLookup` leave the matching transitions of `B` in the order of `B.rules`; their parents are the list
`post B f (S₁ … Sₙ)` the `Antichain1C post` loop of the cache-free model runs over (`n ≥ 1`) – the minimisation depends on that
order, the set equality `C01_upward_eval_is_post` would not do -/
theorem C01_upward_sim_parents_in_rule_order (B : TA) (f : Nat) (Ss : List (List Nat)) (hne : Ss ≠ []) :
    parentsOf B (interAll (evalPure B f Ss.length Ss 0)) = post B f Ss :=
  parents_eq_post B f hne

example : parentsOf FCUSEx.exWB (interAll (evalPure FCUSEx.exWB 2 2 [[10, 12], [11, 12]] 0)) = [12, 10, 12, 10] := by decide +kernel

/-- **the wiring matters for the simulation variant** (regression of the deleter's wiring at the level of `checkInternal`
instantiated with a computed simulation).  With an allocator that recycles the address of a dead macro-state at once, the default
deleter (`.none`) and the slip that purges ONE key position of `lteCache` only (`.firstTwice`: `invalidateFirst` twice) (1) make
the exploration of `exWA ⊆ exWB` with the greatest upward simulation end with `return true` although a tree is accepted by `A`
only – the library's deleter answers `false`; the stale entry is reached through the relation, with the identity the default
deleter answers `false` too –, and (2) leave, on `exSA ⊆ exSB`, a memo table with an entry that is not the value of the
memoised function on the objects now at its addresses. -/
theorem C01_upward_sim_wiring_matters :
    (upSimRef (unionDisjoint FCUSEx.exWA FCUSEx.exWB) = FCUSEx.exWR ∧
     rawVerdictU (runS .none pickLeast FCUSEx.exWR FCUSEx.exWA FCUSEx.exWB 12) = some true ∧
     rawVerdictU (runS .firstTwice pickLeast FCUSEx.exWR FCUSEx.exWA FCUSEx.exWB 12) = some true ∧
     rawVerdictU (runS .lib pickLeast FCUSEx.exWR FCUSEx.exWA FCUSEx.exWB 12) = some false ∧
     rawVerdictU (runS .none pickLeast FCUSEx.exWI FCUSEx.exWA FCUSEx.exWB 12) = some false ∧
     ¬ Incl FCUSEx.exWA FCUSEx.exWB) ∧
    (upSimRef (unionDisjoint FCUSEx.exSA FCUSEx.exSB) = FCUSEx.exSR ∧
     (finalHeap (runS .none pickLeast FCUSEx.exSR FCUSEx.exSA FCUSEx.exSB 12)).map (heapOKSB FCUSEx.exSR FCUSEx.exSB) = some false ∧
     (finalHeap (runS .firstTwice pickLeast FCUSEx.exSR FCUSEx.exSA FCUSEx.exSB 12)).map (heapOKSB FCUSEx.exSR FCUSEx.exSB) =
       some false ∧
     (finalHeap (runS .lib pickLeast FCUSEx.exSR FCUSEx.exSA FCUSEx.exSB 12)).map (heapOKSB FCUSEx.exSR FCUSEx.exSB) =
       some true) :=
  ⟨⟨FCUSEx.exWR_is_upSimRef, FCUSEx.wiring_changes_verdict_sim⟩, ⟨FCUSEx.exSR_is_upSimRef, FCUSEx.wiring_breaks_invariant_sim⟩⟩

/-- whatever the wiring, the allocator and the relation: a verdict that passes the certificate check of the model is right -/
theorem C01_upward_sim_cached_verdicts (w : Wiring) (pick : List Nat → Nat) (A B : TA) (R : Rel) (fuel : Nat) (b : Bool)
    (c : Cert) (h : inclUpSimC w pick A B R fuel = some (b, c)) : b = true ↔ Incl A B :=
  InclDown.finish_iff (fun _ => inclUpSim_checks_incl) ((finishUpSim_eq A B R _).symm.trans h)

example : inclUpSimC .none pickLeast FCUSEx.exWA FCUSEx.exWB FCUSEx.exWR 12 = none := FCUSEx.wiring_certificate_rejects_sim.1

/-!
## which "not proved here" item this file closes

* `C01_Caches.lean`: "the upward algorithm WITH a simulation (`inclUpSim`) …: no cached model" – there is one now
  (`Vata/FunctorCachesUpSim.lean`) and it is transparent for every allocator and every relation
  (`C01_upward_sim_caches_transparent`), exact and total on the prepared operands (`C01_upward_sim_cached_exact`); the deleter's
  wiring is needed for this variant too (`C01_upward_sim_wiring_matters`).

## still not proved

* reference counting is modelled by its effect (`hCollect` at the points where handles are dropped), not by counters; the
  `shared_ptr` mechanics themselves are in `Vata/CacheModel.lean` (`Util_Cache_*`);
* iteration orders: the antichains are walked in list order (the C++ walks `ind[q]` / `inv[q]` and for each candidate its list,
  hash-map order); the comparisons made and their results are the same, the order in which `lteCache` is filled – and hence
  WHICH stale entry a wrong deleter would hit – is not; the leaf phase acquires `ptr` once per leaf rule (the C++: once per
  symbol); the third ordering criterion of `next` (the address) is left out as in `Vata/InclUp.lean`;
* the wiring regression is shown for the two wrong wirings of `CM.Wiring` (`.none`, `.firstTwice` = first position only); a
  deleter that purges the SECOND position of `lteCache` only, or forgets `evalTransitionsCache`, is not in that type and has no
  `decide`d regression here;
* the caches of the downward algorithms with a simulation are the subject of `C01_CachesDown*.lean`, not of this file.
-/
end Vata.Props
