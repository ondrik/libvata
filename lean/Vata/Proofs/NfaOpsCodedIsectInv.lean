import Vata.Proofs.NfaOpsCodedIsect
/-!
# `Intersection` as coded: the loop invariant, the initial state, partial correctness and totality
-/
namespace Vata.NfaC
open Vata.W

/-- the invariant of `while (!stack.empty())` (current code).  Its two ideas: `least` – only pairs reachable from the
start pairs are numbered (the numbered pairs lie in every closed set that holds the start pairs); `done` – a numbered
pair that is off the stack is fully expanded (its joint successors are numbered, their transitions and its finality are
in the result).  The other fields: stacked pairs and start pairs are numbered, and the result holds nothing that does
not come from numbered pairs. -/
structure IsectInv (A B : NFA) (st : IsectSt) : Prop where
  wf : TmWF st.tm
  stk : ∀ e, e ∈ st.stack → tmFind st.tm e.1 = some e.2
  hstart : ∀ p, p ∈ nfaStartPairs A B → ∃ n, tmFind st.tm p = some n
  least : ∀ S : List (Nat × Nat), (∀ p, p ∈ nfaStartPairs A B → p ∈ S) → NfaPairClosed A B S →
    ∀ p n, tmFind st.tm p = some n → p ∈ S
  done : ∀ p n, tmFind st.tm p = some n → (∀ e, e ∈ st.stack → e.1 ≠ p) →
    (∀ x, x ∈ nfaJoint A B p → ∃ k, tmFind st.tm x.2 = some k ∧ (n, x.1, k) ∈ st.res.trans) ∧
    (p.1 ∈ A.final → p.2 ∈ B.final → n ∈ st.res.final)
  tsound : ∀ t, t ∈ st.res.trans → ∃ p n x k, tmFind st.tm p = some n ∧ x ∈ nfaJoint A B p ∧
    tmFind st.tm x.2 = some k ∧ t = (n, x.1, k)
  fsound : ∀ n, n ∈ st.res.final → ∃ p, tmFind st.tm p = some n ∧ p.1 ∈ A.final ∧ p.2 ∈ B.final
  sstart : ∀ n, n ∈ st.res.start ↔ ∃ p, p ∈ nfaStartPairs A B ∧ tmFind st.tm p = some n

theorem isectTurn_inv {A B : NFA} {st st' : IsectSt} {res1 : NFAS} {act : (Nat × Nat) × Nat}
    {rest : List ((Nat × Nat) × Nat)} {xs : List (Nat × (Nat × Nat))} (hs : st.stack = act :: rest) (inv : IsectInv A B st)
    (htr : res1.trans = st.res.trans) (hst : res1.start = st.res.start)
    (hfin : ∀ n, n ∈ res1.final ↔ n ∈ st.res.final ∨ (n = act.2 ∧ act.1.1 ∈ A.final ∧ act.1.2 ∈ B.final))
    (hxs : ∀ x, x ∈ xs ↔ x ∈ nfaJoint A B act.1) (step : IsectStep A B act.2 xs ⟨st.tm, rest, res1⟩ st') :
    IsectInv A B st' := by
  have hact : tmFind st.tm act.1 = some act.2 := inv.stk act (hs ▸ List.mem_cons_self)
  refine ⟨step.wf inv.wf, step.stk fun e he => inv.stk e (hs ▸ List.mem_cons_of_mem _ he), ?_, ?_, ?_, ?_, ?_, ?_⟩
  · intro p hp
    obtain ⟨n, hn⟩ := inv.hstart p hp
    exact ⟨n, step.mono _ _ hn⟩
  · intro S hS hcl p n hp
    rcases step.new p n hp with h | ⟨_, hx⟩
    · exact inv.least S hS hcl p n h
    · obtain ⟨x, hx, e⟩ := List.mem_map.mp hx
      have ha := inv.least S hS hcl _ _ hact
      obtain ⟨h1, h2⟩ := mem_nfaJoint.mp ((hxs x).mp hx)
      rw [← e]
      exact hcl act.1 ha x.1 x.2 h1 h2
  · intro p n hp hns
    have hp0 : tmFind st.tm p = some n := (step.new p n hp).elim id fun h => absurd rfl (hns _ h.1)
    by_cases hpa : p = act.1
    · subst hpa
      have hn : n = act.2 := Option.some.inj (hp0.symm.trans hact)
      subst hn
      refine ⟨fun x hx => step.did x ((hxs x).mpr hx), fun h1 h2 => ?_⟩
      rw [step.same.2.1, hfin]
      exact Or.inr ⟨rfl, h1, h2⟩
    · have hns0 : ∀ e, e ∈ st.stack → e.1 ≠ p := by
        intro e he
        rw [hs] at he
        rcases List.mem_cons.mp he with h | h
        · rw [h]; exact fun e => hpa e.symm
        · exact hns e (step.sub e h)
      obtain ⟨d1, d2⟩ := inv.done p n hp0 hns0
      refine ⟨fun x hx => ?_, fun h1 h2 => ?_⟩
      · obtain ⟨k, hk, ht⟩ := d1 x hx
        exact ⟨k, step.mono _ _ hk, step.tsub _ (htr ▸ ht)⟩
      · rw [step.same.2.1, hfin]
        exact Or.inl (d2 h1 h2)
  · intro t ht
    rcases step.tnew t ht with h | ⟨x, hx, k, hk, e⟩
    · obtain ⟨p, n, x, k, h1, h2, h3, h4⟩ := inv.tsound t (htr ▸ h)
      exact ⟨p, n, x, k, step.mono _ _ h1, h2, step.mono _ _ h3, h4⟩
    · exact ⟨act.1, act.2, x, k, step.mono _ _ hact, (hxs x).mp hx, hk, e⟩
  · intro n hn
    rw [step.same.2.1, hfin] at hn
    rcases hn with h | ⟨h, h1, h2⟩
    · obtain ⟨p, hp, hf⟩ := inv.fsound n h
      exact ⟨p, step.mono _ _ hp, hf⟩
    · subst h; exact ⟨act.1, step.mono _ _ hact, h1, h2⟩
  · intro n
    rw [step.same.1, hst, inv.sstart]
    refine exists_congr fun p => and_congr_right fun hp => ?_
    obtain ⟨n', hn'⟩ := inv.hstart p hp
    exact (step.stable hn' n).symm

theorem isectBody_inv {o : NfaOrd} (ho : o.Ok) (A B : NFAS) {st : IsectSt} {act : (Nat × Nat) × Nat}
    {rest : List ((Nat × Nat) × Nat)} (hs : st.stack = act :: rest) (inv : IsectInv A.toNFA B.toNFA st) :
    IsectInv A.toNFA B.toNFA (isectBody o .fixed A B act ⟨st.tm, rest, st.res⟩) := by
  rw [isectBody_fixed]
  by_cases hc : (A.final.contains act.1.1 && B.final.contains act.1.2) = true
  · rw [if_pos hc]
    simp only [Bool.and_eq_true, List.contains_iff_mem] at hc
    refine isectTurn_inv (res1 := nfasSetFinal st.res act.2) hs inv rfl rfl
      (fun n => NfaS.mem_insN.trans (or_congr_right ?_))
      (fun x => mem_isectFlat ho) (isectStep_fold _ _ _ _ _)
    exact ⟨fun h => ⟨h, hc⟩, And.left⟩
  · rw [if_neg hc]
    simp only [Bool.and_eq_true, List.contains_iff_mem] at hc
    exact isectTurn_inv (res1 := st.res) hs inv rfl rfl
      (fun n => ⟨Or.inl, fun h => h.elim id (fun h' => absurd h'.2 hc)⟩)
      (fun x => mem_isectFlat ho) (isectStep_fold _ _ _ _ _)

theorem isectBody_meas {o : NfaOrd} (ho : o.Ok) (A B : NFAS) (tm : TranslMap) (res : NFAS) (act : (Nat × Nat) × Nat)
    (rest : List ((Nat × Nat) × Nat)) :
    (isectBody o .fixed A B act ⟨tm, rest, res⟩).stack.length +
        isectUnseen A.toNFA B.toNFA (isectBody o .fixed A B act ⟨tm, rest, res⟩).tm
      ≤ rest.length + isectUnseen A.toNFA B.toNFA tm := by
  rw [isectBody_fixed]
  have step := isectStep_fold A.toNFA B.toNFA act.2 (isectFlat o A.toNFA B.toNFA act.1.1 act.1.2)
    (if A.final.contains act.1.1 && B.final.contains act.1.2 then ⟨tm, rest, nfasSetFinal res act.2⟩ else ⟨tm, rest, res⟩)
  have h := step.meas (fun x hx => by
    obtain ⟨h1, h2⟩ := mem_nfaJoint.mp ((mem_isectFlat ho).mp hx)
    exact ⟨act.1, mem_nfaJointAll.mpr ⟨h1, h2⟩⟩)
  refine Nat.le_trans h (Nat.le_of_eq ?_)
  split <;> rfl

/-- what every turn keeps holds of the state returned, and the stack is empty then -/
theorem isectLoop_rule {o : NfaOrd} {v : IsectVariant} {A B : NFAS} {P : IsectSt → Prop}
    (hbody : ∀ st act rest, st.stack = act :: rest → P st → P (isectBody o v A B act ⟨st.tm, rest, st.res⟩)) :
    ∀ (fuel : Nat) (st st' : IsectSt), P st → isectLoop o v A B fuel st = some st' → P st' ∧ st'.stack = []
  | 0, st, st', inv, h => by
    simp only [isectLoop] at h
    split at h
    · next he => cases h; exact ⟨inv, List.isEmpty_iff.mp he⟩
    · cases h
  | n + 1, st, st', inv, h => by
    simp only [isectLoop] at h
    split at h
    · next he => cases h; exact ⟨inv, he⟩
    · next act rest he => exact isectLoop_rule hbody n _ st' (hbody st act rest he inv) h

/-- partial correctness of the loop: the invariant holds at the end, with an empty stack -/
theorem isectLoop_inv {o : NfaOrd} (ho : o.Ok) (A B : NFAS) (fuel : Nat) (st st' : IsectSt) :
    IsectInv A.toNFA B.toNFA st → isectLoop o .fixed A B fuel st = some st' →
      IsectInv A.toNFA B.toNFA st' ∧ st'.stack = [] :=
  isectLoop_rule (fun _ _ _ he inv => isectBody_inv ho A B he inv) fuel st st'

/-- totality: the loop ends within `stack.length + isectUnseen` turns -/
theorem isectLoop_total {o : NfaOrd} (ho : o.Ok) (A B : NFAS) : ∀ (fuel : Nat) (st : IsectSt),
    st.stack.length + isectUnseen A.toNFA B.toNFA st.tm ≤ fuel → ∃ st', isectLoop o .fixed A B fuel st = some st' := by
  intro fuel
  induction fuel with
  | zero =>
    intro st h
    have : st.stack = [] := List.length_eq_zero_iff.mp (by omega)
    exact ⟨st, by simp [isectLoop, this]⟩
  | succ n ih =>
    intro st h
    simp only [isectLoop]
    split
    · exact ⟨st, rfl⟩
    · rename_i act rest he
      apply ih
      have := isectBody_meas ho A B st.tm st.res act rest
      rw [he, List.length_cons] at h
      omega


/-- the body of the two `for` loops over the start states (current code) -/
def isectInitStep (A B : NFAS) (st : IsectSt) (p : Nat × Nat) : IsectSt :=
  ⟨(tmInsert st.tm p).1, (p, (tmInsert st.tm p).2.1) :: st.stack,
    nfasSetExistingStart st.res (tmInsert st.tm p).2.1 (A.symsOf p.1 ++ B.symsOf p.2)⟩

/-- the pairs of start states in the order of the two loops -/
def isectInitPairs (o : NfaOrd) (A B : NFA) : List (Nat × Nat) :=
  (iterSet o.sts A.start).flatMap (fun l => (iterSet o.sts B.start).map (fun r => (l, r)))

theorem isectInit_fixed (o : NfaOrd) (A B : NFAS) :
    isectInit o .fixed A B = (isectInitPairs o A.toNFA B.toNFA).foldl (isectInitStep A B) ⟨[], [], nfasEmpty⟩ := by
  simp only [isectInit, isectInitPairs, List.foldl_flatMap, List.foldl_map]
  rfl

theorem mem_isectInitPairs {o : NfaOrd} (ho : o.Ok) {A B : NFA} {p : Nat × Nat} :
    p ∈ isectInitPairs o A B ↔ p ∈ nfaStartPairs A B := by
  rw [mem_nfaStartPairs, isectInitPairs, mem_flatMap_map_pair, mem_iterSet ho.1, mem_iterSet ho.1]

/-- what a segment of the start loops does -/
structure IsectInitSeg (ps : List (Nat × Nat)) (st st' : IsectSt) : Prop extends TmSeg ps st st' where
  has : ∀ p, p ∈ ps → ∃ n, tmFind st'.tm p = some n
  same : st'.res.trans = st.res.trans ∧ st'.res.final = st.res.final
  sst : ∀ n, n ∈ st'.res.start ↔ n ∈ st.res.start ∨ ∃ p, p ∈ ps ∧ tmFind st'.tm p = some n
  len : st'.stack.length = st.stack.length + ps.length

theorem IsectInitSeg.refl (st : IsectSt) : IsectInitSeg [] st st :=
  { TmSeg.refl st with
    has := fun _ h => (nomatch h), same := ⟨rfl, rfl⟩,
    sst := fun _ => ⟨Or.inl, fun h => h.elim id (fun ⟨_, h, _⟩ => nomatch h)⟩, len := rfl }

theorem IsectInitSeg.trans {xs ys : List (Nat × Nat)} {s0 s1 s2 : IsectSt}
    (h1 : IsectInitSeg xs s0 s1) (h2 : IsectInitSeg ys s1 s2) : IsectInitSeg (xs ++ ys) s0 s2 where
  toTmSeg := h1.toTmSeg.trans h2.toTmSeg
  has p hp := by
    rcases List.mem_append.mp hp with h | h
    · obtain ⟨n, hn⟩ := h1.has p h; exact ⟨n, h2.mono _ _ hn⟩
    · exact h2.has p h
  same := ⟨h2.same.1.trans h1.same.1, h2.same.2.trans h1.same.2⟩
  sst n := by
    rw [h2.sst, h1.sst, or_assoc]
    simp only [List.mem_append, or_and_right, exists_or]
    refine or_congr_right (or_congr_left (exists_congr fun p => and_congr_right fun hp => ?_))
    obtain ⟨n', hn'⟩ := h1.has p hp
    exact (h2.stable hn' n).symm
  len := by rw [h2.len, h1.len, List.length_append]; omega

theorem IsectInitSeg.one (A B : NFAS) (p : Nat × Nat) (st : IsectSt) :
    IsectInitSeg [p] st (isectInitStep A B st p) := by
  have hp := (tmInsert_spec st.tm p).1
  refine {
    toTmSeg := TmSeg.ins rfl (Or.inl rfl), has := fun q hq => ?_, same := ⟨rfl, rfl⟩, sst := fun n => ?_, len := rfl }
  · rw [List.mem_singleton.mp hq]; exact ⟨_, hp⟩
  · show n ∈ insN st.res.start (tmInsert st.tm p).2.1 ↔ _
    rw [NfaS.mem_insN]
    refine or_congr_right ⟨fun h => ⟨p, List.mem_singleton.mpr rfl, h ▸ hp⟩, fun ⟨q, hq, h⟩ => ?_⟩
    rw [List.mem_singleton.mp hq] at h
    exact Option.some.inj (h.symm.trans hp)

theorem isectInitSeg_fold (A B : NFAS) : ∀ (ps : List (Nat × Nat)) (st : IsectSt),
    IsectInitSeg ps st (ps.foldl (isectInitStep A B) st) := by
  intro ps
  induction ps with
  | nil => exact IsectInitSeg.refl
  | cons p ps ih => exact fun st => (IsectInitSeg.one A B p st).trans (ih _)

theorem tmFind_nil (p : Nat × Nat) : tmFind [] p = none := rfl

theorem isectInit_inv {o : NfaOrd} (ho : o.Ok) (A B : NFAS) : IsectInv A.toNFA B.toNFA (isectInit o .fixed A B) := by
  rw [isectInit_fixed]
  have seg := isectInitSeg_fold A B (isectInitPairs o A.toNFA B.toNFA) ⟨[], [], nfasEmpty⟩
  have hnew : ∀ q k, tmFind ((isectInitPairs o A.toNFA B.toNFA).foldl (isectInitStep A B) ⟨[], [], nfasEmpty⟩).tm q = some k →
      (q, k) ∈ ((isectInitPairs o A.toNFA B.toNFA).foldl (isectInitStep A B) ⟨[], [], nfasEmpty⟩).stack ∧
        q ∈ nfaStartPairs A.toNFA B.toNFA := by
    intro q k h
    rcases seg.new q k h with h | ⟨h, h'⟩
    · exact nomatch h
    · exact ⟨h, (mem_isectInitPairs ho).mp h'⟩
  refine ⟨seg.wf rfl, seg.stk (fun _ h => nomatch h), ?_, ?_, ?_, ?_, ?_, ?_⟩
  · intro p hp; exact seg.has p ((mem_isectInitPairs ho).mpr hp)
  · intro S hS _ p n hp; exact hS p (hnew p n hp).2
  · intro p n hp hns; exact absurd rfl (hns _ (hnew p n hp).1)
  · intro t ht; rw [seg.same.1] at ht; exact nomatch ht
  · intro n hn; rw [seg.same.2] at hn; exact nomatch hn
  · intro n
    rw [seg.sst]
    constructor
    · rintro (h | ⟨p, hp, h⟩)
      · exact nomatch h
      · exact ⟨p, (mem_isectInitPairs ho).mp hp, h⟩
    · rintro ⟨p, hp, h⟩; exact Or.inr ⟨p, (mem_isectInitPairs ho).mpr hp, h⟩

theorem isectInit_stack_length (o : NfaOrd) (A B : NFAS) :
    (isectInit o .fixed A B).stack.length = (iterSet o.sts A.start).length * (iterSet o.sts B.start).length := by
  rw [isectInit_fixed, (isectInitSeg_fold A B _ _).len]
  simp only [isectInitPairs, List.length_nil, Nat.zero_add]
  generalize iterSet o.sts A.start = LA
  induction LA with
  | nil => simp
  | cons l LA ih => simp only [List.flatMap_cons, List.length_append, List.length_map, ih, List.length_cons]; rw [Nat.add_mul]; omega

end Vata.NfaC
