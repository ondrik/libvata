import Vata.TrimCoded
import Vata.Proofs.TrimModel
/-!
# `RemoveUnreachableStates` as coded (`Vata/TrimCoded.lean`): the work-list computes `tdReach`, the fuel suffices,
the result has the rules of `removeUnreachable`, the repaired shortcut is sound
-/
namespace Vata.TrimCoded

/-- the invariant of the loop in the terms of the automaton; it is `Closure.Sat (Closure.reachC (· ∈ A.final) (tdE A))` with
`σ.2 ⊆ σ.1`, which `Closure.reachLoop_sat` carries through the loop -/
structure UInv (A : TA) (σ : List Nat × List Nat) : Prop where
  sound : ∀ q, q ∈ σ.1 → q ∈ tdReach A
  wsub : ∀ q, q ∈ σ.2 → q ∈ σ.1
  fin : ∀ q, q ∈ A.final → q ∈ σ.1
  closed : ∀ r, r ∈ A.rules → r.parent ∈ σ.1 → r.parent ∉ σ.2 → ∀ k, k ∈ r.kids → k ∈ σ.1

theorem mem_clusterOf {A : TA} {s : Nat} {r : Rule} : r ∈ clusterOf A s ↔ r ∈ A.rules ∧ r.parent = s := by
  simp [clusterOf]

/-- the children of the cluster of `s`, in the order of the three nested `for` loops -/
def succOf (A : TA) (s : Nat) : List Nat := (clusterOf A s).flatMap (·.kids)

theorem mem_succOf {A : TA} {s x : Nat} : x ∈ succOf A s ↔ tdE A s x := by
  simp only [succOf, List.mem_flatMap, mem_clusterOf, tdE, and_assoc]

/-- the `while` loop is the reachability loop of `Vata/Proofs/Closure.lean` (`pushNew` is `Closure.push`) -/
theorem unreachLoop_eq (A : TA) : ∀ (f : Nat) (σ : List Nat × List Nat),
    unreachLoop A f σ = Closure.reachLoop (succOf A) f σ
  | 0, _ => rfl
  | _+1, (_, []) => rfl
  | f+1, (R, s :: W) => by
    rw [unreachLoop, Closure.reachLoop, unreachLoop_eq A f, succOf, List.foldl_flatMap]
    rfl

/-- totality (every state of `A` is pushed at most once) and the computed set -/
theorem unreachLoop_spec (A : TA) :
    (unreachLoop A (unreachFuel A) (dedupL A.final, (dedupL A.final).reverse)).2 = [] ∧
      ∀ q, q ∈ unreachSet A ↔ q ∈ tdReach A := by
  unfold unreachSet
  rw [unreachLoop_eq]
  refine Closure.reachLoop_spec (lfp_tdReach A) (fun _ _ => mem_succOf) (K := A.states)
    (fun _ x ⟨r, hr, _, hk⟩ => mem_states.mpr (Or.inr ⟨r, hr, Or.inr hk⟩))
    (Closure.sat_init (fun c => mem_dedupL.symm) (tdReach_final A) fun x hx => List.mem_reverse.mpr hx)
    (fun x hx => List.mem_reverse.mp hx) ?_
  show (dedupL A.final).reverse.length + _ ≤ _
  rw [List.length_reverse]
  exact Nat.add_le_add_left (unseen_le_length _ _) _

/-- totality: with the fuel `unreachFuel A` the work-list is empty at the end -/
theorem unreachLoop_done (A : TA) :
    (unreachLoop A (unreachFuel A) (dedupL A.final, (dedupL A.final).reverse)).2 = [] :=
  (unreachLoop_spec A).1

theorem mem_unreachSet (A : TA) (q : Nat) : q ∈ unreachSet A ↔ q ∈ tdReach A := (unreachLoop_spec A).2 q

theorem unreachSet_contains (A : TA) (q : Nat) : (unreachSet A).contains q = (tdReach A).contains q := by
  rw [Bool.eq_iff_iff, List.contains_iff_mem, List.contains_iff_mem]
  exact mem_unreachSet A q

theorem unreachWith_final (test : TA → List Nat → Bool) (A : TA) : (unreachWith test A).final = A.final := by
  unfold unreachWith
  simp only
  split <;> rfl

/-- when the repaired shortcut fires, the filter of `removeUnreachable` keeps every rule: the shortcut returns
exactly what the slow path would build (as a set of rules) and the list `removeUnreachable` builds -/
theorem shortcut_sound (A : TA) (h : testOwners A (unreachSet A) = true) :
    unreachCoded A = A ∧ removeUnreachable A = A := by
  constructor
  · unfold unreachCoded unreachWith
    simp only [h, if_true]
  · unfold removeUnreachable
    simp only
    congr 1
    rw [List.filter_eq_self]
    intro r hr
    unfold testOwners at h
    rw [List.all_eq_true] at h
    rw [← unreachSet_contains]
    exact h r hr

theorem shortcut_iff (A : TA) : testOwners A (unreachSet A) = true ↔ (removeUnreachable A).rules = A.rules := by
  constructor
  · intro h
    rw [(shortcut_sound A h).2]
  · intro h
    unfold removeUnreachable at h
    simp only at h
    rw [List.filter_eq_self] at h
    unfold testOwners
    rw [List.all_eq_true]
    intro r hr
    rw [unreachSet_contains]
    exact h r hr

theorem mem_unreachCoded_rules (A : TA) (r : Rule) : r ∈ (unreachCoded A).rules ↔ r ∈ (removeUnreachable A).rules := by
  by_cases h : testOwners A (unreachSet A) = true
  · rw [(shortcut_sound A h).1, (shortcut_sound A h).2]
  · unfold unreachCoded unreachWith removeUnreachable
    simp only [h, Bool.false_eq_true, if_false, List.mem_flatMap, List.mem_filter, List.contains_iff_mem]
    constructor
    · rintro ⟨s, hs, hr⟩
      obtain ⟨hrA, hp⟩ := mem_clusterOf.mp hr
      refine ⟨hrA, ?_⟩
      rw [hp]
      exact (mem_unreachSet A s).mp hs
    · rintro ⟨hrA, hp⟩
      exact ⟨r.parent, (mem_unreachSet A _).mpr hp, mem_clusterOf.mpr ⟨hrA, rfl⟩⟩

end Vata.TrimCoded
