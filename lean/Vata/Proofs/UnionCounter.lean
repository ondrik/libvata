import Vata.UnionCounter
import Vata.Proofs.UnionModel
/-!
# Where may the fresh-state counter of `Union` start?  (`Vata/UnionCounter.lean`)

The repaired code is the instance `c0 = unionCnt mL mR` (by `rfl`).  SUFFICIENT: any start above all pre-filled values is
right, for all visiting orders.  NECESSARY: from a value `v ≥ c0` in either map one builds operands (from `v`, `c0`, the key
of `v` and the key bound of the other map) with empty languages whose result accepts `b`.  The wrong starts need what the
weak translator does WITHOUT the hypothesis `Below`: old bindings are kept, `n` consecutive unknown keys get `c, …, c+n-1`.
-/
namespace Vata

theorem unionModelFromOrd_unionCnt (oA oB : List Nat) (A B : TA) (mL mR : SMap) :
    unionModelFromOrd (unionCnt mL mR) oA oB A B mL mR = unionModelOrd oA oB A B mL mR := rfl

theorem unionModelFrom_unionCnt (A B : TA) (mL mR : SMap) :
    unionModelFrom (unionCnt mL mR) A B mL mR = unionModel A B mL mR := rfl

theorem unionModelFrom_zero (A B : TA) (mL mR : SMap) :
    unionModelFrom 0 A B mL mR = unionModelOld A B mL mR := rfl

theorem unionModelFromOrd_maps_inj (c0 : Nat) (oA oB : List Nat) (A B : TA) (mL mR : SMap)
    (hbL : Um.Below mL c0) (hbR : Um.Below mR c0) (hL : Um.Inj mL) (hR : Um.Inj mR) (hD : Um.Disj mL mR) :
    Um.Inj (unionModelFromOrd c0 oA oB A B mL mR).2.1 ∧ Um.Inj (unionModelFromOrd c0 oA oB A B mL mR).2.2 ∧
    Um.Disj (unionModelFromOrd c0 oA oB A B mL mR).2.1 (unionModelFromOrd c0 oA oB A B mL mR).2.2 := by
  obtain ⟨h1, h2, h3, _⟩ := Um.passes (oA := oA) (oB := oB) hbL hbR hL hR hD
  exact ⟨h1, h2, h3⟩

theorem unionModelFromOrd_maps_ok (c0 : Nat) (oA oB : List Nat) (A B : TA) (mL mR : SMap)
    (hoA : ∀ q, q ∈ A.states → q ∈ oA) (hoB : ∀ q, q ∈ B.states → q ∈ oB)
    (hbL : Um.Below mL c0) (hbR : Um.Below mR c0) (hL : Um.Inj mL) (hR : Um.Inj mR) (hD : Um.Disj mL mR) :
    InjOnStates (applyMap (unionModelFromOrd c0 oA oB A B mL mR).2.1) A ∧
    InjOnStates (applyMap (unionModelFromOrd c0 oA oB A B mL mR).2.2) B ∧
    (∀ q q', q ∈ A.states → q' ∈ B.states →
      applyMap (unionModelFromOrd c0 oA oB A B mL mR).2.1 q ≠ applyMap (unionModelFromOrd c0 oA oB A B mL mR).2.2 q') := by
  exact Um.passes_ok hoA hoB hbL hbR hL hR hD

theorem unionModelFromOrd_lang (c0 : Nat) (oA oB : List Nat) (A B : TA) (mL mR : SMap)
    (hoA : ∀ q, q ∈ A.states → q ∈ oA) (hoB : ∀ q, q ∈ B.states → q ∈ oB)
    (hbL : Um.Below mL c0) (hbR : Um.Below mR c0) (hL : Um.Inj mL) (hR : Um.Inj mR) (hD : Um.Disj mL mR) (t : Tree) :
    accepts (unionModelFromOrd c0 oA oB A B mL mR).1 t = (accepts A t || accepts B t) := by
  obtain ⟨h1, h2, h3⟩ := unionModelFromOrd_maps_ok c0 oA oB A B mL mR hoA hoB hbL hbR hL hR hD
  exact unionWith_lang _ _ A B h1 h2 h3 t

namespace Uc

theorem weakTrAll_known {m : SMap} {p n : Nat} (c : Nat) (h : m.lookup p = some n) : weakTrAll [p] m c = (m, c) := by
  rw [weakTrAll, Um.weakTr_of_lookup h]; rfl

theorem weakTrAll_range (n : Nat) : ∀ (K : Nat) (m : SMap) (c : Nat), (∀ k, K ≤ k → m.lookup k = none) →
    ∀ i, i < n → (weakTrAll (List.range' K n) m c).1.lookup (K + i) = some (c + i) := by
  induction n with
  | zero => exact fun _ _ _ _ i hi => absurd hi (Nat.not_lt_zero i)
  | succ n ih =>
    intro K m c hm i hi
    have hK : m.lookup K = none := hm K (Nat.le_refl _)
    have hw : weakTr m c K = (m ++ [(K, c)], c + 1) := by simp only [weakTr, hK]
    rw [List.range'_succ, weakTrAll, hw]
    cases i with
    | zero =>
      apply Um.weakTrAll_ext
      rw [Nat.add_zero, Nat.add_zero, lookup_snoc, hK, if_pos rfl]; rfl
    | succ j =>
      have hm' : ∀ k, K + 1 ≤ k → (m ++ [(K, c)]).lookup k = none := by
        intro k hk
        rw [lookup_snoc, hm k (by omega), if_neg (by omega)]; rfl
      rw [show K + (j + 1) = K + 1 + j by omega, show c + (j + 1) = c + 1 + j by omega]
      exact ih (K + 1) (m ++ [(K, c)]) (c + 1) hm' j (by omega)

theorem keyBound_spec (m : SMap) (k : Nat) (hk : keyBound m ≤ k) : m.lookup k = none := by
  cases hl : m.lookup k with
  | none => rfl
  | some n =>
    have := le_foldl_max (fun e : Nat × Nat => e.1 + 1) (mem_of_lookup hl) 0
    unfold keyBound at hk
    simp only at this
    omega

theorem visitOrder_point (p : Nat) : visitOrder (pointTA p) = [p] := rfl

theorem visitOrder_chain (K d : Nat) : visitOrder (chainTA K d) = List.range' K (d + 1) ++ [K + d] := by
  simp [visitOrder, chainTA, Rule.states, List.range'_succ]

theorem chain_pass (m : SMap) (K d c : Nat) (hK : keyBound m ≤ K) :
    applyMap (weakTrAll (visitOrder (chainTA K d)) m c).1 (K + d) = c + d := by
  rw [visitOrder_chain, Um.weakTrAll_append]
  apply Um.applyMap_of_lookup
  apply Um.weakTrAll_ext
  exact weakTrAll_range (d + 1) K m c (fun k hk => keyBound_spec m k (Nat.le_trans hK hk)) d (Nat.lt_succ_self d)

theorem accepts_point (p : Nat) : ∀ t, accepts (pointTA p) t = false
  | .node f ts => by simp [accepts, reach, post, pointTA, accepting]

theorem accepts_chain (K d : Nat) (t : Tree) : accepts (chainTA K d) t = false := by
  simp [accepts, accepting, chainTA]

end Uc

/-- the leaf `b` is accepted as soon as the translations merge the target `K + d` of the rule `b → K + d` with the final
state `p` -/
theorem accepts_point_chain (f g : Nat → Nat) (p K d : Nat) (h : g (K + d) = f p) :
    accepts (unionWith f g (pointTA p) (chainTA K d)) leafB = true := by
  simp [accepts, leafB, reach, reachL, post, accepting, unionWith, reindex, pointTA, chainTA, mapRule, matchKids, h]

theorem accepts_chain_point (f g : Nat → Nat) (p K d : Nat) (h : f (K + d) = g p) :
    accepts (unionWith f g (chainTA K d) (pointTA p)) leafB = true := by
  simp [accepts, leafB, reach, reachL, post, accepting, unionWith, reindex, pointTA, chainTA, mapRule, matchKids, h]

/-- a value `v ≥ c0` in the LEFT map: the right operand's fresh states run into it -/
theorem unionModelFrom_bad_left (c0 : Nat) (mL mR : SMap) {p v : Nat} (hp : mL.lookup p = some v) (hv : c0 ≤ v) :
    accepts (unionModelFrom c0 (pointTA p) (chainTA (keyBound mR) (v - c0)) mL mR).1 leafB = true := by
  have h1 : weakTrAll (visitOrder (pointTA p)) mL c0 = (mL, c0) := Uc.weakTrAll_known c0 hp
  have h2 := Uc.chain_pass mR (keyBound mR) (v - c0) c0 (Nat.le_refl _)
  simp only [unionModelFrom, unionModelFromOrd, h1]
  apply accepts_point_chain
  rw [h2, Um.applyMap_of_lookup hp]
  omega

/-- a value `v ≥ c0` in the RIGHT map: the left operand's fresh states run into it -/
theorem unionModelFrom_bad_right (c0 : Nat) (mL mR : SMap) {p v : Nat} (hp : mR.lookup p = some v) (hv : c0 ≤ v) :
    accepts (unionModelFrom c0 (chainTA (keyBound mL) (v - c0)) (pointTA p) mL mR).1 leafB = true := by
  have h2 := Uc.chain_pass mL (keyBound mL) (v - c0) c0 (Nat.le_refl _)
  have h1 : ∀ c, weakTrAll (visitOrder (pointTA p)) mR c = (mR, c) := fun c => Uc.weakTrAll_known c hp
  simp only [unionModelFrom, unionModelFromOrd, h1]
  apply accepts_chain_point
  rw [h2, Um.applyMap_of_lookup hp]
  omega

theorem not_below {m : SMap} {c : Nat} (h : ¬ Um.Below m c) : ∃ p v, m.lookup p = some v ∧ c ≤ v := by
  simp only [Um.Below, Classical.not_forall, Nat.not_lt] at h
  obtain ⟨p, v, hp, hv⟩ := h
  exact ⟨p, v, hp, hv⟩

end Vata
