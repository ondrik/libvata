import Vata.CowHeapX
import Vata.NfaStart
/-!
# Copy-on-write of the explicit FINITE automaton core, as coded (property C11) – definitions

C++: `src/explicit_finite_aut_core.hh` / `.cc`, `explicit_finite_union.cc`, `explicit_finite_unreach.cc`,
`explicit_finite_useless.cc`, `explicit_finite_reverse.cc`, `explicit_finite_candidate.cc`.

An `ExplicitFiniteAutCore` object (a *handle*) has the members

```
StateSet finalStates_;  StateSet startStates_;  StateToSymbols startStateToSymbols_;     // plain values, copied by value
StateToTransitionClusterMapPtr transitions_;   // shared_ptr< unordered_map<State, shared_ptr<TransitionCluster>> >
```

and `TransitionCluster = unordered_map<Symbol, RStateSet>` holds its right-hand state sets BY VALUE: there are exactly two
levels of sharing (map node, cluster node).  The heap is therefore the two-level reference-counted heap `CowHeap.Heap` of
`Vata/CowHeap.lean`, whose primitive `shared_ptr` / container actions (`allocMap` = `new Map(es)` copying the cluster
pointers, `incMap`, `retarget`, `addHandle`, `dropHandle`, `allocCluster`, `setEntry`, `writeCluster`, `releaseCluster`,
`releaseMap`, `uniqueMap` = `uniqueClusterMap()`) are reused; everything above these primitives – every operation of the
class – is written here after the finite-automaton sources, which are quoted.

**Representation of a cluster.**  The contents of a cluster node is a `Store.Cluster` (symbol ↦ list of tuples).  The set
`RStateSet{r₁,…}` is stored as the singleton tuples `[[r₁],…]`, so `uniqueRStateSet(a).insert(r)` is
`Store.addToCluster a [r]` (create the entry of `a` if absent, then `std::set`-style insertion).  `transOf` unwraps them.

**Handles, temporaries.**  Handles are numbers chosen by the history.  Library functions that create C++ temporaries
(`RemoveUselessStates`, `GetCandidateTree`) use the unused numbers `tmpBase …` (above all live handles and the result) and
destroy them as the C++ does (end of the full expression, reverse order of construction; the local `res` at scope exit).

**Not C++ programs** (operations on dead handles, constructors over live handles, self-assignment, `ReindexStates` of an
object into itself) are no-ops, as in `CowHeap.step`.

**Move.**  The class declares a copy constructor, a copy assignment and a destructor, hence the compiler generates NO move
constructor / move assignment: `ExplicitFiniteAutCore b(std::move(a))` and `b = std::move(a)` call the copy operations and
`a` stays alive with its value.  `moveCtor` / `moveAssign` are therefore the same steps as `copy` / `assign`.
-/
namespace Vata.CowHeapFA

open Vata.Store (Cluster upsert insTuple addToCluster addToMap)
open Vata.CowHeap (Heap upd allocMap incMap retarget addHandle dropHandle allocCluster setEntry writeCluster
  releaseCluster releaseMap uniqueMap mout valM Val)
open Vata.CowHeapX (missing)

/-! ### values -/

/-- the three members that are plain values -/
structure Members where
  /-- `finalStates_` -/
  final : List Nat
  /-- `startStates_` -/
  start : List Nat
  /-- `startStateToSymbols_` -/
  ssym  : SymMap
deriving Repr, DecidableEq

/-- the value of an automaton object: the three value members and the contents of the transition map
    (state ↦ symbol ↦ singleton tuples of right-hand states, in container order) -/
structure FAVal where
  mem   : Members
  trans : Val
deriving Repr, DecidableEq

/-- `ExplicitFiniteAutCore()` -/
def vNew : FAVal := ⟨⟨[], [], []⟩, []⟩

/-- the transitions `(left, symbol, right)` in the iteration order
    `for (ls : *transitions_) for (s : *ls.second) for (rs : s.second)` -/
def transOf (t : Val) : List (Nat × Nat × Nat) :=
  t.flatMap (fun qc => qc.2.flatMap (fun st => st.2.map (fun r => (qc.1, st.1, r.headD 0))))

/-- the automaton (with its start-symbol map) an object denotes -/
def FAVal.toNFAS (v : FAVal) : NFAS := ⟨⟨v.mem.start, v.mem.final, transOf v.trans⟩, v.mem.ssym⟩
/-- … and without the start symbols: a `Vata.W.NFA` of `Vata/Nfa.lean` -/
def FAVal.toNFA (v : FAVal) : Vata.W.NFA := v.toNFAS.toNFA

/-- `SetStateFinal`: `finalStates_.insert(state)` -/
def vSetFinal (q : Nat) (v : FAVal) : FAVal := { v with mem := { v.mem with final := Vata.insN v.mem.final q } }

/-- `SetStateStart(state, symbol)`:
```
startStates_.insert(state);
if (!startStateToSymbols_.count(state)) startStateToSymbols_.insert(make_pair(state, {})).first->second.insert(symbol);
else startStateToSymbols_.find(state)->second.insert(symbol);
``` -/
def vSetStart (q a : Nat) (v : FAVal) : FAVal :=
  { v with mem := { v.mem with start := Vata.insN v.mem.start q, ssym := smAddSym v.mem.ssym q a } }

/-- `SetExistingStateStart(state, symbolSet)`: `startStates_.insert(state); assert(!…count(state));
    startStateToSymbols_.insert(make_pair(state, symbolSet));` – `insert` does not overwrite (the `assert` is compiled out) -/
def vSetExistingStart (q : Nat) (S : List Nat) (v : FAVal) : FAVal :=
  { v with mem := { v.mem with start := Vata.insN v.mem.start q, ssym := smInsert v.mem.ssym q S } }

/-- `AddTransition(l, a, r)` = `uniqueClusterMap()->uniqueCluster(l)->uniqueRStateSet(a).insert(r)` -/
def vAdd (l a r : Nat) (v : FAVal) : FAVal := { v with trans := addToMap l a [r] v.trans }

/-- what the inner loops of `ReindexStates` do to the destination cluster `c`, given the source cluster `src`:
```
for (auto& symbolRStateSetPair : *stateClusterPair.second) {
  RStateSet& rstatesSet = cluster->uniqueRStateSet(symbolRStateSetPair.first);     // created EMPTY if absent
  for (auto& rState : symbolRStateSetPair.second) rstatesSet.insert(index[rState]); }
``` -/
def reindexCluster (idx : Nat → Nat) (src : Cluster) (c : Cluster) : Cluster :=
  src.foldl (fun c st => upsert st.1 (fun o => st.2.foldl (fun ts t => insTuple (t.map idx) ts) (o.getD [])) c) c

/-- the transition part of `ReindexStates`: `for (auto& stateClusterPair : *this->transitions_) { auto cluster =
    clusterMap->uniqueCluster(index[stateClusterPair.first]); … }` – the destination cluster is created (possibly staying
    empty) for every entry of the source map -/
def reindexTrans (idx : Nat → Nat) (src : Val) (t : Val) : Val :=
  src.foldl (fun t qc => upsert (idx qc.1) (fun o => reindexCluster idx qc.2 (o.getD [])) t) t

/-- `src.ReindexStates(dst, index)` on values:
```
for (auto& state : this->finalStates_) dst.SetStateFinal(index[state]);
for (auto& state : this->startStates_) dst.SetExistingStateStart(index[state], GetStartSymbols(state));
auto clusterMap = dst.uniqueClusterMap();  for (…) …
``` -/
def vReindex (idx : Nat → Nat) (s d : FAVal) : FAVal :=
  let d1 := s.mem.final.foldl (fun d q => vSetFinal (idx q) d) d
  let d2 := s.mem.start.foldl (fun d q => vSetExistingStart (idx q) (smGet s.mem.ssym q) d) d1
  ⟨d2.mem, reindexTrans idx s.trans d.trans⟩

/-- `UnionDisjointStates(lhs, rhs)` on values: `res(lhs)`, then four `insert(first, last)` (none of them overwrites) -/
def vUnionDisj (s t : FAVal) : FAVal :=
  ⟨⟨t.mem.final.foldl Vata.insN s.mem.final, t.mem.start.foldl Vata.insN s.mem.start,
    t.mem.ssym.foldl (fun m e => smInsert m e.1 e.2) s.mem.ssym⟩,
   s.trans ++ missing s.trans t.trans⟩

/-- right-hand states of a cluster in the order `for (symbolsToStateSet : *cluster) for (state : symbolsToStateSet.second)` -/
def targets (c : Cluster) : List Nat := c.flatMap (fun st => st.2.map (fun r => r.headD 0))

/-- the work-list loop of `RemoveUnreachableStates` (`newStates` is a `std::vector` used as a stack: its back is the head
    of the list; `reachableStates` in insertion order):
```
while (!newStates.empty()) { auto actState = newStates.back(); newStates.pop_back();
  auto cluster = genericLookup(*transitions_, actState);  if (!cluster) continue;
  for (auto &symbolsToStateSet : *cluster) for (auto &state : symbolsToStateSet.second)
    if (reachableStates.insert(state).second) newStates.push_back(state); }
``` -/
def reachLoop (t : Val) : Nat → List Nat → List Nat → List Nat
  | 0, reach, _ => reach
  | _ + 1, reach, [] => reach
  | n + 1, reach, act :: stack =>
    match t.lookup act with
    | none => reachLoop t n reach stack
    | some c =>
      let rs := (targets c).foldl
        (fun (rs : List Nat × List Nat) q => if rs.1.contains q then rs else (rs.1 ++ [q], q :: rs.2)) (reach, stack)
      reachLoop t n rs.1 rs.2

/-- `reachableStates` at the end of the loop.  Every iteration pops one state and every state is pushed at most once, so
    `start + number of transition targets + 1` iterations are enough (`Props.C11_fa_reach_fuel`:
    any larger fuel gives the same list; the copy-on-write theorems hold for whatever list this function returns) -/
def reachStates (v : FAVal) : List Nat :=
  let s0 := v.mem.start.foldl Vata.insN []   -- `std::unordered_set<StateType> reachableStates(this->GetStartStates());`
  reachLoop v.trans (s0.length + (transOf v.trans).length + 1) s0 s0.reverse

/-- the key/cluster pairs `RemoveUnreachableStates` hands to `insert`:
    `auto it = transitions_->find(state); if (it == end()) continue; res.transitions_->insert(make_pair(state, it->second));` -/
def pick {β : Type} (es : List (Nat × β)) (keys : List Nat) : List (Nat × β) :=
  keys.filterMap (fun q => (es.lookup q).map (fun c => (q, c)))

/-- `RemoveUnreachableStates()` on values:
```
ExplicitFA res;  res.startStates_ = startStates_;  res.startStateToSymbols_ = startStateToSymbols_;
res.transitions_ = Ptr(new Map());
for (auto& state : reachableStates) { if (this->IsStateFinal(state)) res.SetStateFinal(state); … insert … }
``` -/
def vUnreach (v : FAVal) : FAVal :=
  let reach := reachStates v
  ⟨⟨reach.foldl (fun f q => if v.mem.final.contains q then Vata.insN f q else f) [], v.mem.start, v.mem.ssym⟩,
   missing [] (pick v.trans reach)⟩

/-- `Reverse()` on values:
```
res.finalStates_ = startStates_;  res.startStates_ = finalStates_;  res.startStateToSymbols_ = startStateToSymbols_;
for (auto state : finalStates_) res.startStateToSymbols_.insert(std::make_pair(state, SymbolSet()));
for (…each transition (l, a, r) of *transitions_ …) res.AddTransition(r, a, l);
``` -/
def vReverse (v : FAVal) : FAVal :=
  ⟨⟨v.mem.start, v.mem.final, v.mem.final.foldl (fun m q => smInsert m q []) v.mem.ssym⟩,
   (transOf v.trans).foldl (fun t e => addToMap e.2.2 e.2.1 [e.1] t) []⟩

/-- `RemoveUselessStates()`: `RemoveUnreachableStates(p).Reverse(p).RemoveUnreachableStates().Reverse()` -/
def vUseless (v : FAVal) : FAVal := vReverse (vUnreach (vReverse (vUnreach v)))

/-! #### `GetCandidateTree` -/

/-- the local state of `GetCandidateTree`: `reachableStates`, `newStates` (a `std::list` used as a queue), the value
    members of `res`, the keys handed to `res.transitions_->insert` so far, and whether a `return` was reached -/
structure CandSt where
  reach : List Nat
  queue : List Nat
  mem   : Members
  keys  : List Nat
  done  : Bool

/-- ```
for (StateType s : this->GetStartStates()) {
  if (reachableStates.insert(s).second) newStates.push_back(s);
  res.SetExistingStateStart(s, this->GetStartSymbols(s));
  if (this->IsStateFinal(s)) { res.SetStateFinal(s); return res.RemoveUselessStates(); } }
``` -/
def candStart (v : FAVal) : List Nat → CandSt → CandSt
  | [], s => s
  | q :: rest, s =>
    let s1 : CandSt := if s.reach.contains q then s else { s with reach := s.reach ++ [q], queue := s.queue ++ [q] }
    let m1 : Members :=
      { s1.mem with start := Vata.insN s1.mem.start q, ssym := smInsert s1.mem.ssym q (smGet v.mem.ssym q) }
    if v.mem.final.contains q then { s1 with mem := { m1 with final := Vata.insN m1.final q }, done := true }
    else candStart v rest { s1 with mem := m1 }

/-- ```
for (auto stateInSet : symbolToState.second) {
  if (reachableStates.insert(stateInSet).second) newStates.push_back(stateInSet);
  if (this->IsStateFinal(stateInSet)) { res.SetStateFinal(stateInSet);
    res.transitions_->insert(std::make_pair(actState, transitionsCluster->second)); return res.RemoveUselessStates(); }
  res.transitions_->insert(std::make_pair(actState, transitionsCluster->second)); }
``` -/
def candInner (v : FAVal) (act : Nat) : List Nat → CandSt → CandSt
  | [], s => s
  | q :: rest, s =>
    let s1 : CandSt := if s.reach.contains q then s else { s with reach := s.reach ++ [q], queue := s.queue ++ [q] }
    if v.mem.final.contains q then
      { s1 with mem := { s1.mem with final := Vata.insN s1.mem.final q }, keys := s1.keys ++ [act], done := true }
    else candInner v act rest { s1 with keys := s1.keys ++ [act] }

/-- ```
while (!newStates.empty()) { StateType actState = newStates.front();
  auto transitionsCluster = transitions_->find(actState);  newStates.pop_front();
  if (transitionsCluster == transitions_->end()) continue;
  for (auto symbolToState : *transitionsCluster->second) …inner loop… }
``` -/
def candLoop (v : FAVal) : Nat → CandSt → CandSt
  | 0, s => s
  | n + 1, s =>
    if s.done then s else
    match s.queue with
    | [] => s
    | act :: q =>
      match v.trans.lookup act with
      | none => candLoop v n { s with queue := q }
      | some c => candLoop v n (candInner v act (targets c) { s with queue := q })

/-- the search of `GetCandidateTree` (fuel as for `reachStates`; it suffices: `candSearch_fuel` in
    `Vata/Proofs/CowHeapFA3.lean`) -/
def candSearch (v : FAVal) : CandSt :=
  let s := candStart v v.mem.start ⟨[], [], ⟨[], [], []⟩, [], false⟩
  candLoop v (v.mem.start.length + (transOf v.trans).length + 1) s

/-- the local `res` of `GetCandidateTree` just before `return res.RemoveUselessStates()`: the value members collected by the
    search, and the clusters of `this` under the keys handed to `insert` (an existing key is not overwritten) -/
def vCandRaw (v : FAVal) : FAVal :=
  let s := candSearch v
  ⟨s.mem, missing [] (pick v.trans s.keys)⟩

/-- `GetCandidateTree()` -/
def vCandidate (v : FAVal) : FAVal := vUseless (vCandRaw v)

/-! ### the heap -/

/-- the two-level heap plus, per handle, the three value members (meaningless for dead handles) -/
structure HeapFA where
  core : Heap
  mem  : Nat → Members

def initFA : HeapFA := ⟨CowHeap.init, fun _ => ⟨[], [], []⟩⟩

/-- what is read through the live handle `h` -/
def valOf (H : HeapFA) (h : Nat) : FAVal := ⟨H.mem h, valM H.core (H.core.hmap h)⟩

inductive Op where
  /-- default constructor -/
  | new (h : Nat)
  /-- copy constructor `dst(src)` -/
  | copy (src dst : Nat)
  /-- `dst = src` -/
  | assign (src dst : Nat)
  /-- `dst(std::move(src))` – the class has no move constructor: this IS the copy constructor, `src` stays alive -/
  | moveCtor (src dst : Nat)
  /-- `dst = std::move(src)` – the class has no move assignment: this IS the copy assignment -/
  | moveAssign (src dst : Nat)
  /-- `h.SetStateFinal(q)` -/
  | setFinal (h q : Nat)
  /-- `h.SetStateStart(q, a)` -/
  | setStart (h q a : Nat)
  /-- `h.SetExistingStateStart(q, S)` -/
  | setExistingStart (h q : Nat) (S : List Nat)
  /-- `h.AddTransition(l, a, r)` -/
  | add (h l a r : Nat)
  /-- destructor -/
  | destroy (h : Nat)
  /-- `src.ReindexStates(dst, idx)` into the EXISTING object `dst` -/
  | reindex (src dst : Nat) (idx : Nat → Nat)
  /-- `dst` := `UnionDisjointStates(a, b)` -/
  | unionDisj (a b dst : Nat)
  /-- `dst` := `src.RemoveUnreachableStates()` -/
  | unreach (src dst : Nat)
  /-- `dst` := `src.Reverse()` -/
  | reverse (src dst : Nat)
  /-- `dst` := `src.RemoveUselessStates()` -/
  | useless (src dst : Nat)
  /-- `dst` := the local `res` of `src.GetCandidateTree()` before its final `RemoveUselessStates()` (an internal step, made
      an operation so that `candidate` is a sequence of operations) -/
  | candRaw (src dst : Nat)
  /-- `dst` := `src.GetCandidateTree()` -/
  | candidate (src dst : Nat)

/-! ### container / `shared_ptr` actions above the primitives of `CowHeap` -/

/-- `m.insert(…)` of entries whose keys are not in `m`: the cluster POINTERS are copied (each `use_count` + 1), the map node
    `m` is written in place -/
def insertEntries (H : Heap) (m : Nat) (ins : List (Nat × Nat)) : Heap :=
  { H with ment := upd H.ment m (H.ment m ++ ins), crc := fun c => H.crc c + (ins.map Prod.snd).count c }

/-- `m.insert(first, last)` resp. a sequence of `m.insert(make_pair(k, ptr))`: `unordered_map::insert` never overwrites -/
def insertRange (H : Heap) (m : Nat) (l : List (Nat × Nat)) : Heap := insertEntries H m (missing (H.ment m) l)

/-- `transitions_ = StateToTransitionClusterMapPtr(new StateToTransitionClusterMap())` on the live handle `h` -/
def freshMap (H : Heap) (h : Nat) : Heap := releaseMap (retarget (allocMap H []) h H.next) (H.hmap h)

/-- `uniqueCluster(q)` on the map node of `h`, followed by the writes `G` into the cluster it returns:
```
auto& clusterPtr = this->insert(std::make_pair(state, TransitionClusterPtr(nullptr))).first->second;
if (!clusterPtr)               clusterPtr = TransitionClusterPtr(new TransitionCluster());
else if (!clusterPtr.unique()) clusterPtr = TransitionClusterPtr(new TransitionCluster(*clusterPtr));
return clusterPtr;
```
(no entry ⇒ new cluster; shared ⇒ clone, the old pointer is released by the assignment; unique ⇒ written in place).
NOTE: `uniqueCluster` is a member of the MAP class: it does not (and cannot) call `uniqueClusterMap()`. -/
def modCluster (H : Heap) (h q : Nat) (G : Cluster → Cluster) : Heap :=
  let m := H.hmap h
  match (H.ment m).lookup q with
  | none => setEntry (allocCluster H (G [])) m q H.next
  | some c =>
    if H.crc c = 1 then writeCluster H c (G (H.cdat c))
    else releaseCluster (setEntry (allocCluster H (G (H.cdat c))) m q H.next) c

/-- `internalAddTransition`: `this->uniqueClusterMap()->uniqueCluster(lstate)->uniqueRStateSet(symbol).insert(rstate);` -/
def addCore (H : Heap) (h l a r : Nat) : Heap := modCluster (uniqueMap H h) h l (addToCluster a [r])

/-- the transition part of `src.ReindexStates(dst, index)`: `uniqueClusterMap()` is called ONCE, before the loop
    (`auto clusterMap = dst.uniqueClusterMap();` – the local copy of the pointer raises the `use_count` of the now private
    map node to 2 for the duration of the loop, which nothing tests), then `clusterMap->uniqueCluster(index[q])` for every
    entry of the source map.  `src` is the value of the source's map (read while `dst` is written: `src ≠ dst`). -/
def reindexCore (H : Heap) (dst : Nat) (idx : Nat → Nat) (src : Val) : Heap :=
  src.foldl (fun H qc => modCluster H dst (idx qc.1) (reindexCluster idx qc.2)) (uniqueMap H dst)

/-- `ExplicitFiniteAutCore res(lhs); res.uniqueClusterMap()->insert(rhs.transitions_->begin(), rhs.transitions_->end());` -/
def unionDisjCore (H : Heap) (a b dst : Nat) : Heap :=
  let H1 := uniqueMap (CowHeap.step H (.copy a dst)) dst
  insertRange H1 (H1.hmap dst) (H1.ment (H1.hmap b))

/-- `ExplicitFA res; res.transitions_ = Ptr(new Map());` (the map node made by the default constructor is released
    again) `for (state : reachableStates) … res.transitions_->insert(std::make_pair(state, it->second));` – written into
    `res.transitions_` DIRECTLY, without `uniqueClusterMap()`: the node was allocated two lines above.
    Also the shape of the local `res` of `GetCandidateTree` (there without the second allocation). -/
def shareCore (H : Heap) (src dst : Nat) (keys : List Nat) (second : Bool) : Heap :=
  let H0 := CowHeap.step H (.new dst)
  let H1 := if second then freshMap H0 dst else H0
  insertRange H1 (H1.hmap dst) (pick (H1.ment (H1.hmap src)) keys)

/-- `ExplicitFA res; for (…each transition (l, a, r) of *transitions_ …) res.AddTransition(r, a, l);`
    (`tr` = the transitions of the source, read while `res` is written) -/
def reverseCore (H : Heap) (dst : Nat) (tr : List (Nat × Nat × Nat)) : Heap :=
  tr.foldl (fun H e => addCore H dst e.2.2 e.2.1 e.1) (CowHeap.step H (.new dst))

/-! ### the operations -/

/-- a number above all live handles and `avoid` -/
def tmpBase (H : Heap) (avoid : Nat) : Nat := H.hl.foldl max avoid + 1

/-- a mutator of the live object `h` -/
def mut1 (H : HeapFA) (h : Nat) (coreF : Heap → Heap) (f : FAVal → FAVal) : HeapFA :=
  if h ∈ H.core.hl then ⟨coreF H.core, upd H.mem h (f (valOf H h)).mem⟩ else H

/-- a library function of the live object `src` whose result becomes the new object `dst` -/
def res1 (H : HeapFA) (src dst : Nat) (coreF : Heap → Heap) (f : FAVal → FAVal) : HeapFA :=
  if src ∈ H.core.hl ∧ dst ∉ H.core.hl then ⟨coreF H.core, upd H.mem dst (f (valOf H src)).mem⟩ else H

/-- the operations that are not sequences of other operations -/
def stepB (H : HeapFA) : Op → HeapFA
  | .new h => ⟨CowHeap.step H.core (.new h), if h ∈ H.core.hl then H.mem else upd H.mem h vNew.mem⟩
  | .copy src dst | .moveCtor src dst =>
    -- `finalStates_(aut.finalStates_), startStates_(…), startStateToSymbols_(…), transitions_(aut.transitions_)`
    res1 H src dst (fun c => CowHeap.step c (.copy src dst)) id
  | .assign src dst | .moveAssign src dst =>
    -- `if (this != &rhs) { finalStates_ = rhs.finalStates_; … transitions_ = rhs.transitions_; }`
    if src ∈ H.core.hl ∧ dst ∈ H.core.hl ∧ src ≠ dst then
      ⟨CowHeap.step H.core (.assign src dst), upd H.mem dst (H.mem src)⟩
    else H
  | .setFinal h q => mut1 H h id (vSetFinal q)
  | .setStart h q a => mut1 H h id (vSetStart q a)
  | .setExistingStart h q S => mut1 H h id (vSetExistingStart q S)
  | .add h l a r => mut1 H h (fun c => addCore c h l a r) (vAdd l a r)
  | .destroy h => ⟨CowHeap.step H.core (.destroy h), H.mem⟩
  | .reindex src dst idx =>
    if src ∈ H.core.hl ∧ dst ∈ H.core.hl ∧ src ≠ dst then
      ⟨reindexCore H.core dst idx (valOf H src).trans, upd H.mem dst (vReindex idx (valOf H src) (valOf H dst)).mem⟩
    else H
  | .unionDisj a b dst =>
    if a ∈ H.core.hl ∧ b ∈ H.core.hl ∧ dst ∉ H.core.hl then
      ⟨unionDisjCore H.core a b dst, upd H.mem dst (vUnionDisj (valOf H a) (valOf H b)).mem⟩
    else H
  | .unreach src dst => res1 H src dst (fun c => shareCore c src dst (reachStates (valOf H src)) true) vUnreach
  | .reverse src dst => res1 H src dst (fun c => reverseCore c dst (transOf (valOf H src).trans)) vReverse
  | .candRaw src dst => res1 H src dst (fun c => shareCore c src dst (candSearch (valOf H src)).keys false) vCandRaw
  | .useless _ _ => H
  | .candidate _ _ => H

/-- `return this->RemoveUnreachableStates(p).Reverse(p).RemoveUnreachableStates().Reverse();` with the three temporaries
    `t`, `t+1`, `t+2`, destroyed at the end of the full expression in reverse order of construction -/
def uselessOps (src dst t : Nat) : List Op :=
  [.unreach src t, .reverse t (t + 1), .unreach (t + 1) (t + 2), .reverse (t + 2) dst,
   .destroy (t + 2), .destroy (t + 1), .destroy t]

/-- `GetCandidateTree`: the local `res` (= `t`), `return res.RemoveUselessStates();`, then the destructor of `res` -/
def candidateOps (src dst t : Nat) : List Op := .candRaw src t :: uselessOps t dst (t + 1) ++ [.destroy t]

def step (H : HeapFA) : Op → HeapFA
  | .useless src dst =>
    if src ∈ H.core.hl ∧ dst ∉ H.core.hl then (uselessOps src dst (tmpBase H.core dst)).foldl stepB H else H
  | .candidate src dst =>
    if src ∈ H.core.hl ∧ dst ∉ H.core.hl then (candidateOps src dst (tmpBase H.core dst)).foldl stepB H else H
  | op => stepB H op

/-- `Union(lhs, rhs)` with the two translators given as functions: `ExplicitFiniteAutCore res;
    lhs.ReindexStates(res, stateTransLhs); rhs.ReindexStates(res, stateTransRhs); return res;` -/
def unionOps (a b dst : Nat) (fA fB : Nat → Nat) : List Op := [.new dst, .reindex a dst fA, .reindex b dst fB]

/-! ### abstraction and value-level specification -/

/-- handle ⇀ value -/
def absFA (H : HeapFA) : Nat → Option FAVal := fun h => if h ∈ H.core.hl then some (valOf H h) else none

def specInit : Nat → Option FAVal := fun _ => none

/-- a mutator changes the value of its object only -/
def spec1 (a : Nat → Option FAVal) (h : Nat) (f : FAVal → FAVal) : Nat → Option FAVal :=
  match a h with
  | some s => upd a h (some (f s))
  | none => a

/-- a library result is a new value computed from the value of the operand -/
def specRes (a : Nat → Option FAVal) (src dst : Nat) (f : FAVal → FAVal) : Nat → Option FAVal :=
  match a src with
  | some s => if (a dst).isNone then upd a dst (some (f s)) else a
  | none => a

/-- independent values: every operation changes only the value of its target handle -/
def specStep (a : Nat → Option FAVal) : Op → (Nat → Option FAVal)
  | .new h => if (a h).isSome then a else upd a h (some vNew)
  | .copy src dst | .moveCtor src dst => specRes a src dst id
  | .assign src dst | .moveAssign src dst =>
    match a src with
    | some s => if (a dst).isSome ∧ src ≠ dst then upd a dst (some s) else a
    | none => a
  | .setFinal h q => spec1 a h (vSetFinal q)
  | .setStart h q s => spec1 a h (vSetStart q s)
  | .setExistingStart h q S => spec1 a h (vSetExistingStart q S)
  | .add h l s r => spec1 a h (vAdd l s r)
  | .destroy h => upd a h none
  | .reindex src dst idx =>
    match a src, a dst with
    | some s, some d => if src ≠ dst then upd a dst (some (vReindex idx s d)) else a
    | _, _ => a
  | .unionDisj x y dst =>
    match a x, a y with
    | some s, some t => if (a dst).isNone then upd a dst (some (vUnionDisj s t)) else a
    | _, _ => a
  | .unreach src dst => specRes a src dst vUnreach
  | .reverse src dst => specRes a src dst vReverse
  | .candRaw src dst => specRes a src dst vCandRaw
  | .useless src dst => specRes a src dst vUseless
  | .candidate src dst => specRes a src dst vCandidate

/-- the handle an operation may change -/
def target : Op → Nat
  | .new h => h | .copy _ d => d | .moveCtor _ d => d | .assign _ d => d | .moveAssign _ d => d
  | .setFinal h _ => h | .setStart h _ _ => h | .setExistingStart h _ _ => h | .add h _ _ _ => h | .destroy h => h
  | .reindex _ d _ => d | .unionDisj _ _ d => d | .unreach _ d => d | .reverse _ d => d | .candRaw _ d => d
  | .useless _ d => d | .candidate _ d => d

/-! ### executable history runner and invariant checker -/

/-- the live handles (ascending) with the values read through them -/
def observe (H : HeapFA) : List (Nat × FAVal) :=
  ((List.range H.core.next).filter (fun h => H.core.hl.contains h)).map (fun h => (h, valOf H h)) ++
  (H.core.hl.filter (fun h => decide (H.core.next ≤ h))).reverse.map (fun h => (h, valOf H h))

/-- the heaps after every step of a history (for a driver: compare `observe` of each with the real objects) -/
def trace (ops : List Op) : List HeapFA :=
  (ops.foldl (fun (acc : HeapFA × List HeapFA) op => let H := step acc.1 op; (H, acc.2 ++ [H])) (initFA, [])).2

/-- what a driver compares with the real class: the values of all live handles after every step -/
def run (ops : List Op) : List (List (Nat × FAVal)) := (trace ops).map observe

/-- the final heap of a history -/
def exec (ops : List Op) : HeapFA := ops.foldl step initFA

/-- the reference-count invariant concerns the shared part only -/
def invBFA (H : HeapFA) : Bool := CowHeap.invB H.core

/-! ### the two wrong variants (for the regression theorems) -/

/-- `uniqueCluster` WITHOUT its `else if (!clusterPtr.unique())` branch ("the map is private, so the cluster is") -/
def modClusterNoTest (H : Heap) (h q : Nat) (G : Cluster → Cluster) : Heap :=
  let m := H.hmap h
  match (H.ment m).lookup q with
  | none => setEntry (allocCluster H (G [])) m q H.next
  | some c => writeCluster H c (G (H.cdat c))

/-- the class with that `uniqueCluster` -/
def stepNoClusterTest (H : HeapFA) : Op → HeapFA
  | .add h l a r => mut1 H h (fun c => modClusterNoTest (uniqueMap c h) h l (addToCluster a [r])) (vAdd l a r)
  | op => step H op

/-- `UnionDisjointStates` writing `res.transitions_->insert(…)` WITHOUT `uniqueClusterMap()` -/
def unionDisjCoreNoUnique (H : Heap) (a b dst : Nat) : Heap :=
  let H1 := CowHeap.step H (.copy a dst)
  insertRange H1 (H1.hmap dst) (H1.ment (H1.hmap b))

/-- the class with that `UnionDisjointStates` -/
def stepNoUniqueMap (H : HeapFA) : Op → HeapFA
  | .unionDisj a b dst =>
    if a ∈ H.core.hl ∧ b ∈ H.core.hl ∧ dst ∉ H.core.hl then
      ⟨unionDisjCoreNoUnique H.core a b dst, upd H.mem dst (vUnionDisj (valOf H a) (valOf H b)).mem⟩
    else H
  | op => step H op

end Vata.CowHeapFA
