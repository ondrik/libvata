import Vata.Proofs.RcStoreWBound
import Vata.Proofs.RcStoreWNarrow
import Vata.Properties.C18
/-!
# C18 / C20 (width) – the reference counters are machine integers

> C18: Across any sequence of creating, copying, assigning, combining and destroying MTBDDs, no MTBDD that is still alive ever
> changes the function it denotes, no node is released while a live MTBDD or node refers to it, and no node is released
> twice. Once every MTBDD created by construction, copy or apply has been destroyed, the process-wide node store is back
> to the size it had before.
>
> C20: the executable models used for the other properties are faithful to the code (here: `Nat` counters vs. `uintptr_t`).

`Vata/Properties/C18.lean` proves C18 for the store model `RcS` whose counters are unbounded `Nat`s, and `C20.lean` lists
"64-bit wrap-around of reference counts is not modelled".  This file closes that item.

## How the C++ is read into the model (`Vata/RcStoreW.lean`)

    typedef uintptr_t RefCntType;                                                          // mtbdd_node.hh l. 91
    inline void IncrementRefCnt()              { ++refcnt_; }                              // l. 798
    inline const RefCntType& DecrementRefCnt() { assert(refcnt_ > 0); return --refcnt_; } // l. 811
    if (DecrementLeafRefCnt(node) == 0) disposeOfLeafNode(node);                           // ondriks_mtbdd.hh l. 262 (271)

`RcSW` is `RcS` with a width parameter `w` (`RefCntType` = `w`-bit unsigned): the same `RcS.Store`, the same five
operations `RcS.Op`, copied statement for statement, where `incRef` stores `(rc + 1) mod 2^w`, `decRef` stores
`(rc + 2^w - 1) mod 2^w` (and raises the ghost flag `err` exactly where the `assert` fails) and every `== 0` test
(`recursivelyDeleteMTBDDNode`, the unreferenced-sink test at the end of `constructMTBDD`) reads the stored value.
Everything that does not touch a counter is shared with `RcS`.  `RcSW.runF w f ops` is the `w`-bit store after the
history `ops`; it is executable (`RcSW.run w ops` uses the leaf operation `RcS.applyOp` of the C18 harness).
A narrowed `typedef` (the seeded change: 16 bits) is `w = 16`.

The bound on a history: `RcSW.histBounded w f ops : Bool` – in the unbounded store, before and after every operation of
`ops`, every allocated node has a counter `< 2^w`; by `C18_refcount_invariant` the counter IS the number of referrers
(edges from allocated inner nodes + live handles), so this says "no node ever has `2^w` or more referrers".
Equivalently `RcSW.maxRefs f ops < 2^w` (`C18_width_bound_iff_maxRefs`).  Only the states BETWEEN operations are
inspected: inside `construct` / `copy` / `apply` counters only grow, inside a destructor they only shrink, `operator=` is
a destructor followed by one increment – the proof (`Vata/Proofs/RcStoreW.lean`) shows that this suffices.

Abstracted: as in C18 (`Nat` leaf values and handle names, no memo table).  Fuel: as in `RcS`; under the bound the two
models coincide, so the fuel theorems of C18 (`err = false`) transfer (`C18_width_transfer`).
-/
namespace Vata.Props
open Vata.RcS

/-! ### the `w`-bit store is the unbounded store as long as no node has `2^w` referrers -/

/-- **faithfulness.**  If in the history `ops` no node ever has `2^w` or more referrers, then the store with `w`-bit
counters is EQUAL to the store with unbounded counters after every prefix of the history – every component: allocated
nodes, contents, all counters, both unique tables, live handles, the log of deletions and the assertion flag. -/
theorem C18_width_faithful (w : Nat) (f : Nat → Nat → Nat) (ops : List Op) (hb : RcSW.histBounded w f ops = true)
    (k : Nat) : RcSW.runF w f (ops.take k) = RcS.runF f (ops.take k) :=
  RcSW.runF_eq w f (ops.take k) (RcSW.histBoundedFrom_take ops empty k hb)

/-- the bound, stated with the largest number of simultaneous referrers of a node in the history -/
theorem C18_width_bound_iff_maxRefs (w : Nat) (f : Nat → Nat → Nat) (ops : List Op) :
    RcSW.histBounded w f ops = true ↔ RcSW.maxRefs f ops < 2^w := RcSW.histBounded_iff_maxRefs w f ops

/-- the same with `maxRefs` -/
theorem C18_width_faithful_maxRefs (w : Nat) (f : Nat → Nat → Nat) (ops : List Op) (hb : RcSW.maxRefs f ops < 2^w)
    (k : Nat) : RcSW.runF w f (ops.take k) = RcS.runF f (ops.take k) :=
  C18_width_faithful w f ops ((C18_width_bound_iff_maxRefs w f ops).mpr hb) k

-- non-vacuity: the history `Ex.ops` of C18 (sharing, apply, assignment, destructors; 12 nodes, 2 freed) has at most 4
-- simultaneous referrers per node: it is bounded for 3-bit counters – and not for 2-bit counters, where the stores differ
-- (a counter wraps to 0 and a later decrement runs into `assert(refcnt_ > 0)`)
example : RcSW.maxRefs applyOp Ex.ops = 4 ∧ RcSW.histBounded 3 applyOp Ex.ops = true ∧
    RcSW.histBounded 2 applyOp Ex.ops = false := by decide +kernel
example : (RcSW.runF 3 applyOp Ex.ops).freed = [3, 8] ∧ (RcSW.runF 3 applyOp Ex.ops).rc 1 = 3 ∧
    (RcSW.runF 3 applyOp Ex.ops).err = false := by decide +kernel
example : (RcSW.runF 2 applyOp Ex.ops).err = true ∧ (RcS.runF applyOp Ex.ops).err = false := by decide +kernel

/-- **transfer.**  Under the bound all theorems of C18 hold for the store with `w`-bit counters; here the four that
mention counters or releases: counter = number of referrers (in particular the stored counter never wrapped); nothing
reachable from a live handle is released; nothing is released twice and no assertion fails (the fuel suffices); with no
live handle the store is empty. -/
theorem C18_width_transfer (w : Nat) (f : Nat → Nat → Nat) (ops : List Op) (hb : RcSW.histBounded w f ops = true) :
    (∀ n, n ∈ (RcSW.runF w f ops).ids →
      (RcSW.runF w f ops).rc n = indeg (RcSW.runF w f ops) n + handlesTo (RcSW.runF w f ops) n) ∧
    (∀ h r, (h, r) ∈ (RcSW.runF w f ops).hs → ∀ n, Reach (RcSW.runF w f ops).dat r n →
      n ∈ (RcSW.runF w f ops).ids ∧ n ∉ (RcSW.runF w f ops).freed) ∧
    ((RcSW.runF w f ops).freed.Nodup ∧ (∀ n, n ∈ (RcSW.runF w f ops).freed → n ∉ (RcSW.runF w f ops).ids) ∧
      (RcSW.runF w f ops).err = false) ∧
    ((RcSW.runF w f ops).hs = [] → tableSizes (RcSW.runF w f ops) = tableSizes empty ∧ (RcSW.runF w f ops).ids = []) := by
  have e : RcSW.runF w f ops = RcS.runF f ops := by
    have := C18_width_faithful w f ops hb ops.length
    rwa [List.take_length] at this
  rw [e]
  exact ⟨(C18_refcount_invariant f ops).1, fun h r hm n hr => C18_no_premature_free f ops h r hm n hr,
    C18_no_double_free f ops, (C18_all_released f ops).1⟩

/-- the bound cannot be dropped (for no width): `RcSW.narrowHist w v` has `2^w + 1` simultaneous referrers of one node,
and there the conclusion of `C18_width_transfer` fails – see `C18_width_narrow_releases_live_node`.  For `w = 3`: -/
example : RcSW.histBounded 3 applyOp (RcSW.narrowHist 3 7) = false ∧ RcSW.maxRefs applyOp (RcSW.narrowHist 3 7) = 9 := by
  decide

/-! ### 64 bits -/

/-- **`uintptr_t` on a 64-bit platform is practically unbounded.**  The counter of an allocated node is at most
`RcSW.size s = 2 * #allocated nodes + #live handles` (each inner node refers to a node at most twice, each handle once).
So every history in which `2 * #nodes + #handles` stays below `2^64` satisfies the bound, and the 64-bit store equals
the unbounded one after every prefix.  To leave the hypothesis a process needs `2^64` simultaneous references to one
node, i.e. at least `2^63` allocated inner nodes (32 bytes each) or `2^64` live `OndriksMTBDD` objects (16 bytes each)
– more than a 64-bit address space holds.

The task text suggests "any history with fewer than `2^64` operations satisfies the bound".  That statement is FALSE for
this model and for the code, because one operation can create many references: `C18_width_op_count_is_no_bound` below
is a one-operation history (a cube with 8 fixed positions) in which the sink leaf gets 8 referrers and a 3-bit counter
wraps.  What bounds the counters is the size of the store, which is what this theorem uses. -/
theorem C18_width_64_practically_unbounded (f : Nat → Nat → Nat) (ops : List Op)
    (hsz : ∀ k, RcSW.size (RcS.runF f (ops.take k)) < 2^64) :
    RcSW.histBounded 64 f ops = true ∧ ∀ k, RcSW.runF 64 f (ops.take k) = RcS.runF f (ops.take k) :=
  ⟨RcSW.histBounded_of_size 64 f ops hsz, C18_width_faithful 64 f ops (RcSW.histBounded_of_size 64 f ops hsz)⟩

/-- the general form: after every history the counter of every allocated node is at most
`2 * #allocated nodes + #live handles` -/
theorem C18_width_counter_le_size (f : Nat → Nat → Nat) (ops : List Op) (n : Nat) (hn : n ∈ (RcS.runF f ops).ids) :
    (RcS.runF f ops).rc n ≤ 2 * (RcS.runF f ops).ids.length + (RcS.runF f ops).hs.length :=
  RcSW.rc_le_size (runF_inv f ops) hn

example : ∀ k, RcSW.size (RcS.runF applyOp (Ex.ops.take k)) < 2^64 := by
  intro k
  have h : ∀ j, j < 9 → RcSW.size (RcS.runF applyOp (Ex.ops.take j)) < 2^64 := by decide +kernel
  by_cases hk : k < 9
  · exact h k hk
  · have : Ex.ops.take k = Ex.ops.take 8 := by
      rw [List.take_of_length_le (by simp [Ex.ops]; omega)]; rfl
    rw [this]; exact h 8 (by omega)

/-- the number of operations does not bound the counters: ONE `construct` of a cube with 8 fixed positions gives the sink
leaf (node 1) 8 referrers; its 3-bit counter wraps to 0 while 8 inner nodes point to it -/
theorem C18_width_op_count_is_no_bound :
    [Op.construct 0 (List.replicate 8 (some true)) 1 0].length < 2^3 ∧
    RcSW.histBounded 3 applyOp [Op.construct 0 (List.replicate 8 (some true)) 1 0] = false ∧
    (RcS.run [Op.construct 0 (List.replicate 8 (some true)) 1 0]).rc 1 = 8 ∧
    (RcSW.run 3 [Op.construct 0 (List.replicate 8 (some true)) 1 0]).rc 1 = 0 := by decide +kernel

/-! ### a narrow counter releases a live node (the seeded change as a theorem) -/

/-- **for every width `w`**: after "construct the constant `v` as handle 0; copy it to the handles `1 … 2^w`; destroy
handle 0" the store with `w`-bit counters has released node 0 (the leaf `v`: it is in the deletion log, it is not
allocated, both unique tables are empty) although the `2^w` handles `1 … 2^w` are alive and have node 0 as their root –
the conclusion of `C18_no_premature_free` fails.  (With `RefCntType` narrowed to 16 bits: 65 536 copies.) -/
theorem C18_width_narrow_releases_live_node (w : Nat) (f : Nat → Nat → Nat) (v : Nat) :
    (∀ j, 1 ≤ j → j ≤ 2^w → (j, 0) ∈ (RcSW.runF w f (RcSW.narrowHist w v)).hs) ∧
    0 ∈ (RcSW.runF w f (RcSW.narrowHist w v)).freed ∧
    (RcSW.runF w f (RcSW.narrowHist w v)).ids = [] ∧
    tableSizes (RcSW.runF w f (RcSW.narrowHist w v)) = (0, 0) ∧
    ¬ (∀ h r, (h, r) ∈ (RcSW.runF w f (RcSW.narrowHist w v)).hs →
        ∀ n, Reach (RcSW.runF w f (RcSW.narrowHist w v)).dat r n →
          n ∈ (RcSW.runF w f (RcSW.narrowHist w v)).ids ∧ n ∉ (RcSW.runF w f (RcSW.narrowHist w v)).freed) := by
  have e : RcSW.runF w f (RcSW.narrowHist w v) =
      RcSW.stepF w f ((RcSW.copies (2^w)).foldl (RcSW.stepF w f) (RcSW.stepF w f empty (.construct 0 [] v v)))
        (.destroy 0) := by
    simp only [RcSW.runF, RcSW.narrowHist, List.foldl_append, List.foldl_cons, List.foldl_nil]
  obtain ⟨h1, h2, h3, h4, -⟩ := RcSW.destroy_wrapped w f v (RcSW.foldl_copies w f v (2^w))
  rw [e]
  have hlive : ∀ j, 1 ≤ j → j ≤ 2^w → (j, 0) ∈ (RcSW.stepF w f ((RcSW.copies (2^w)).foldl (RcSW.stepF w f)
      (RcSW.stepF w f empty (.construct 0 [] v v))) (.destroy 0)).hs := by
    intro j hj hj'
    rw [h3]
    exact (List.mem_erase_of_ne (by intro e; cases e; omega)).mpr (RcSW.mem_hsK _ j hj')
  refine ⟨hlive, by rw [h2]; simp, h1, h4, ?_⟩
  intro hall
  have := (hall 1 0 (hlive 1 (Nat.le_refl _) (Nat.two_pow_pos w)) 0 .refl).1
  rw [h1] at this
  cases this

/-- in the unbounded store the same history keeps the node: it is allocated and was never deleted -/
theorem C18_width_narrow_unbounded_keeps_node (w : Nat) (f : Nat → Nat → Nat) (v : Nat) (j r : Nat)
    (hm : (j, r) ∈ (RcS.runF f (RcSW.narrowHist w v)).hs) :
    r ∈ (RcS.runF f (RcSW.narrowHist w v)).ids ∧ r ∉ (RcS.runF f (RcSW.narrowHist w v)).freed :=
  C18_no_premature_free f _ j r hm r .refl

-- `w = 3`: construct, 8 copies, destroy: the 3-bit store has deleted node 0 under the 8 live copies; the unbounded store
-- still has it, with counter 8; and the next destructor of a copy runs into the failed assertion (use after free)
example : RcSW.narrowHist 3 7 = [.construct 0 [] 7 7, .copy 0 1, .copy 0 2, .copy 0 3, .copy 0 4, .copy 0 5, .copy 0 6,
    .copy 0 7, .copy 0 8, .destroy 0] := rfl
example : (RcSW.run 3 (RcSW.narrowHist 3 7)).hs = [(8, 0), (7, 0), (6, 0), (5, 0), (4, 0), (3, 0), (2, 0), (1, 0)] ∧
    (RcSW.run 3 (RcSW.narrowHist 3 7)).freed = [0] ∧ (RcSW.run 3 (RcSW.narrowHist 3 7)).ids = [] ∧
    (RcSW.run 3 (RcSW.narrowHist 3 7)).err = false := by decide +kernel
example : (RcS.run (RcSW.narrowHist 3 7)).hs = (RcSW.run 3 (RcSW.narrowHist 3 7)).hs ∧
    (RcS.run (RcSW.narrowHist 3 7)).freed = [] ∧ (RcS.run (RcSW.narrowHist 3 7)).ids = [0] ∧
    (RcS.run (RcSW.narrowHist 3 7)).rc 0 = 8 := by decide +kernel
example : (RcSW.run 3 (RcSW.narrowHist 3 7 ++ [.destroy 1])).err = true := by decide +kernel
-- one copy fewer and the 3-bit store is exact
example : RcSW.histBounded 3 applyOp ([.construct 0 [] 7 7] ++ RcSW.copies 6 ++ [.destroy 0]) = true := by decide +kernel

/-!
## still not proved

* **The extended operation set.**  `RcSW` covers the five operations of `RcS.Op` (construct, copy, assign, binary apply,
  destroy).  The operations of `Vata/RcStoreX.lean` (unary / ternary apply, `Project`, `Rename`, `ExtendWith`,
  `GetMtbddForPrefix`) have no `w`-bit variant; the argument would be the same (they only allocate and increment), but it is
  not carried out.
* **A bound in terms of the number of operations.**  `C18_width_64_practically_unbounded` bounds the counters by the size
  of the store (`2 * #nodes + #handles`), not by the length of the history; the latter is false
  (`C18_width_op_count_is_no_bound`).  A bound of the form "`#operations` + total length of the cubes + number of nodes
  created by `apply`" is not stated.
* **States inside an operation.**  `histBounded` inspects the stores between operations; that the counters inside an
  operation stay below `2^w` as well is used implicitly (monotonicity inside an operation) but not stated as a theorem of
  its own.
* `VarType` (also `uintptr_t`), `size_t` indices and the other machine integers of the library are not covered by this
  file; neither are the other reference counters of the library (`SharedCounter`, `SharedList`, the macro-state cache),
  whose models still use `Nat`.
* As for C18: the theorems speak about the model; that `RcSW.run 64` / `RcS.run` and `OndriksMTBDD<T>` agree step by step
  is the correspondence check of the C18 driver.  `RcSW.run 16 : List RcS.Op → RcS.Store` is the model of the seeded
  16-bit variant and can be compared with it on generated histories (65 536 copies of one handle are needed to see a
  difference from `RcS.run`).
-/
end Vata.Props
