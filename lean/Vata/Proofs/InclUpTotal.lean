import Vata.Proofs.InclUpWitness
/-!
# Totality of `inclUp` on trimmed operands

The exploration ends within `2 · |Δ_A| · 2^|Δ_B|` picked pairs (`InclUp.run_terminates`, `Vata/Proofs/InclUpInv.lean`), a
finished `true` run passes the check (`run_ok_cert`), and on a trimmed `A` the tree of a `return false` is completed to a
tree accepted by `A` and not by `B` (`complete_check`, `Vata/Proofs/InclUpWitness.lean`).  Hence on a trimmed `A` and any
`B`, `inclUp A B fuel` returns a verdict (the right one) for every `fuel` above the bound; the model of `CheckInclusion`
sanitises the operands first.
-/
namespace Vata
namespace InclUp

theorem inclUp_of_run_error {A B : TA} (hA : Trimmed A) {fuel : Nat} {q : Nat} {t : Tree}
    (h : run A B fuel = some (.error (q, t))) : inclUp A B fuel = some (false, .witness (complete A q t)) := by
  rw [inclUp, h]
  exact if_pos (complete_check hA (run_error_ok h))

theorem inclUp_total {A B : TA} (hA : Trimmed A) {fuel : Nat} (hf : fuelBound A B < fuel) :
    ∃ b c, inclUp A B fuel = some (b, c) := by
  obtain ⟨r, hr⟩ := run_terminates hf
  cases r with
  | ok P => exact ⟨_, _, inclUp_of_run_ok hr⟩
  | error e => exact ⟨_, _, inclUp_of_run_error hA (q := e.1) (t := e.2) hr⟩

theorem inclUp_complete {A B : TA} (hA : Trimmed A) {fuel : Nat} (hf : fuelBound A B < fuel) :
    (Incl A B → ∃ c, inclUp A B fuel = some (true, c)) ∧ (¬ Incl A B → ∃ c, inclUp A B fuel = some (false, c)) :=
  Verdict.complete_of_total (inclUp_total hA hf) inclUp_iff

theorem checkInclUp_total (A B : TA) {fuel : Nat}
    (hf : fuelBound (removeUseless A) (removeUseless B) < fuel) : ∃ b c, checkInclUp A B fuel = some (b, c) :=
  inclUp_total (trimmed_removeUseless A) hf

theorem checkInclUp_complete (A B : TA) {fuel : Nat} (hf : fuelBound (removeUseless A) (removeUseless B) < fuel) :
    (Incl A B → ∃ c, checkInclUp A B fuel = some (true, c)) ∧
    (¬ Incl A B → ∃ c, checkInclUp A B fuel = some (false, c)) := by
  have := inclUp_complete (trimmed_removeUseless A) hf
  rw [incl_removeUseless] at this
  exact this

namespace TotalEx
open InclUpEx

/-- `{a}` with the extra rule `g(1) → 5`: state 5 is useless, and `g(a)` has an empty macro-state in `{a}` -/
def exU : TA := ⟨[⟨0, [], 1⟩, ⟨2, [1], 5⟩], [1]⟩

example : Trimmed exG := trimmed_of_allUsefulB (by decide +kernel)
example : Trimmed exDeep := trimmed_of_allUsefulB (by decide +kernel)
example : fuelBound exG exH = 96 := by decide
example : ∃ b c, inclUp exG exH 97 = some (b, c) :=
  inclUp_total (trimmed_of_allUsefulB (by decide +kernel)) (by decide +kernel)
example : ∃ c, inclUp exG exH 97 = some (false, c) :=
  (inclUp_complete (trimmed_of_allUsefulB (by decide +kernel)) (by decide +kernel)).2
    ((Verdict.exists_cert (o := inclUp exG exH 10) (by decide +kernel)).elim fun _ => inclUp_false)
example : ∃ c, inclUp exH exG 97 = some (true, c) :=
  (inclUp_complete (trimmed_of_allUsefulB (by decide +kernel)) (by decide +kernel)).1
    (upCertB_incl (X := [(3, [1]), (4, [1]), (9, [2])]) (by decide +kernel))
-- the upward search: `g(a)` at state 5 is completed to `h(g(a))`
#guard showTree (complete exDeep 5 (.node 2 [.node 0 []])) == "3(2(0))"
#guard (prodWit exDeep).map (fun e => (e.1, showTree e.2)) == [(1, "0"), (5, "2(0)"), (2, "3(2(0))")]
-- `Trimmed` is needed: on `exU ⊆ {a}` (true) the code's exit on the empty macro-state of `g(a)` cannot be justified,
-- the model answers `none`; the sanitising wrapper answers `true`
example : allUsefulB exU = false := by decide +kernel
#guard verdict (inclUp exU exA 100) == none
#guard verdict (checkInclUp exU exA 100) == some true
example : Incl exU exA :=
  (Verdict.exists_cert (o := checkInclUp exU exA 100) (by decide +kernel)).elim fun _ h => (checkInclUp_iff h).mp rfl

end TotalEx

end InclUp
end Vata
