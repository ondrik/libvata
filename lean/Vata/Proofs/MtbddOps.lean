import Vata.MtbddOps
/-!
# MTBDD operations: semantic correctness and preservation of well-formedness (property C17)

Model: `Vata/MtbddOps.lean` (+ `mk`, `apply2` of `Vata/Apply.lean`, `Node`, `eval`, `WF`, `canonicity` of `Vata/Mtbdd.lean`).
`WF` = ordered (larger variable nearer the root) and reduced (`lo ≠ hi`).
-/
namespace Vata.M
variable {α β γ δ : Type}


theorem below_mk [DecidableEq α] {x y : Nat} {lo hi : Node α} (hy : y < x) (hl : Below x lo) (hh : Below x hi) :
    Below x (mk y lo hi) := by
  unfold mk
  split
  · exact hl
  · exact ⟨hy, hl, hh⟩

theorem wf_mk [DecidableEq α] {x : Nat} {lo hi : Node α} (bl : Below x lo) (bh : Below x hi) (wl : WF lo) (wh : WF hi) :
    WF (mk x lo hi) := by
  unfold mk
  split
  · exact wl
  · rename_i h; exact ⟨h, bl, bh, wl, wh⟩

theorem wf_of_wf_mk [DecidableEq α] {x : Nat} {a b : Node α} (h : WF (mk x a b)) : WF a ∧ WF b := by
  unfold mk at h
  split at h
  · rename_i e
    exact ⟨h, e ▸ h⟩
  · exact ⟨h.2.2.2.1, h.2.2.2.2⟩

def VarLt (x : Nat) : Node α → Prop
  | .leaf _ => True
  | .node y _ _ => y < x

theorem below_of_wf_varLt {x : Nat} : ∀ {a : Node α}, WF a → VarLt x a → Below x a
  | .leaf _, _, _ => trivial
  | .node _ _ _, ⟨_, bl, bh, _, _⟩, h => ⟨h, Below.mono (Nat.le_of_lt h) bl, Below.mono (Nat.le_of_lt h) bh⟩

theorem varLt_of_below {x : Nat} : ∀ {a : Node α}, Below x a → VarLt x a
  | .leaf _, _ => trivial
  | .node _ _ _, h => h.1

theorem exists_below : ∀ (a : Node α), ∃ x, Below x a
  | .leaf _ => ⟨0, trivial⟩
  | .node y lo hi => by
    obtain ⟨x1, h1⟩ := exists_below lo
    obtain ⟨x2, h2⟩ := exists_below hi
    exact ⟨x1 + x2 + y + 1, by omega, Below.mono (by omega) h1, Below.mono (by omega) h2⟩

/-- the value depends only on the variables that may occur -/
theorem eval_congr_of_below {x : Nat} {ρ ρ' : Nat → Bool} (h : ∀ i, i < x → ρ i = ρ' i) :
    ∀ {n : Node α}, Below x n → eval n ρ = eval n ρ'
  | .leaf _, _ => rfl
  | .node y lo hi, ⟨hy, bl, bh⟩ => by
    rw [eval, eval, h y hy, eval_congr_of_below h bl, eval_congr_of_below h bh]

/-- `operator==` (pointer equality of hash-consed, i.e. structural equality of ordered reduced diagrams) decides
    semantic equality -/
theorem eq_iff_sem {a b : Node α} (wa : WF a) (wb : WF b) : a = b ↔ ∀ ρ, eval a ρ = eval b ρ :=
  ⟨fun h _ => by rw [h], canonicity a b wa wb⟩


theorem agrees_iff (ρ : Nat → Bool) : ∀ (as : List (Option Bool)) (i : Nat),
    agrees ρ as i = true ↔ ∀ j b, as[j]? = some (some b) → ρ (i + j) = b
  | [], i => by simp [agrees]
  | a :: as, i => by
    have ih := agrees_iff ρ as (i + 1)
    simp only [Nat.add_right_comm i 1] at ih
    -- position 0 and the positions `j + 1`
    have split : (∀ j b, (a :: as)[j]? = some (some b) → ρ (i + j) = b) ↔
        (∀ b, a = some b → ρ i = b) ∧ ∀ j b, as[j]? = some (some b) → ρ (i + j + 1) = b :=
      ⟨fun h => ⟨fun b e => h 0 b (by rw [e]; rfl), fun j b hj => h (j + 1) b hj⟩, fun h j b hj => by
        cases j with
        | zero => exact h.1 b (Option.some.inj hj)
        | succ j => exact h.2 j b hj⟩
    rw [split, ← ih]
    cases a <;> simp [agrees]

/-- the node that the loop of `constructMTBDD` puts on top of `p` for a position with the value `b` -/
def cubeNode (x : Nat) (b : Bool) (sink p : Node α) : Node α := if b then .node x sink p else .node x p sink

theorem constructLoop_some (tr : Nat → Nat) (sink : Node α) (b : Bool) (as : List (Option Bool)) (i : Nat) (p : Node α) :
    constructLoop tr sink (some b :: as) i p = constructLoop tr sink as (i + 1) (cubeNode (tr i) b sink p) := by
  cases b <;> rfl

theorem eval_cubeNode (x : Nat) (b : Bool) (sink p : Node α) (ρ : Nat → Bool) :
    eval (cubeNode x b sink p) ρ = if (ρ x == b) = true then eval p ρ else eval sink ρ := by
  cases b <;> cases h : ρ x <;> simp [cubeNode, eval, h]

theorem constructLoop_eval (tr : Nat → Nat) (sink : Node α) (ρ : Nat → Bool) :
    ∀ (as : List (Option Bool)) (i : Nat) (p : Node α),
      eval (constructLoop tr sink as i p) ρ
        = if agrees (fun j => ρ (tr j)) as i = true then eval p ρ else eval sink ρ
  | [], i, p => rfl
  | none :: as, i, p => constructLoop_eval tr sink ρ as (i + 1) p
  | some b :: as, i, p => by
    rw [constructLoop_some, constructLoop_eval tr sink ρ as (i + 1) _, agrees, eval_cubeNode]
    cases ρ (tr i) == b <;> cases agrees (fun j => ρ (tr j)) as (i + 1) <;> rfl

theorem constructOn_eval [DecidableEq α] (tr : Nat → Nat) (asgn : List (Option Bool)) (a : Node α) (d : α)
    (ρ : Nat → Bool) :
    eval (constructOn tr asgn a d) ρ = if agrees (fun j => ρ (tr j)) asgn 0 = true then eval a ρ else d := by
  unfold constructOn
  split
  · rename_i h; subst h; simp [eval]
  · rw [constructLoop_eval]; rfl

theorem construct_eval_agrees [DecidableEq α] (asgn : List (Option Bool)) (v d : α) (ρ : Nat → Bool) :
    eval (construct asgn v d) ρ = if agrees ρ asgn 0 = true then v else d := by
  unfold construct; rw [constructOn_eval]; rfl

open Classical in
/-- the MTBDD built by `constructMTBDD(asgn, v, d)` has the value `v` on the cube `asgn` and `d` elsewhere -/
theorem construct_eval [DecidableEq α] (asgn : List (Option Bool)) (v d : α) (ρ : Nat → Bool) :
    eval (construct asgn v d) ρ = if (∀ i b, asgn[i]? = some (some b) → ρ i = b) then v else d := by
  rw [construct_eval_agrees]
  have := agrees_iff ρ asgn 0
  simp only [Nat.zero_add] at this
  by_cases h : agrees ρ asgn 0 = true
  · rw [if_pos h, if_pos (this.mp h)]
  · rw [if_neg h, if_neg (fun h' => h (this.mpr h'))]

theorem cubeNode_wf {x y : Nat} (hxy : x < y) (b : Bool) {d : α} {p : Node α} (wp : WF p) (bp : Below x p)
    (hp : p ≠ .leaf d) :
    WF (cubeNode x b (.leaf d) p) ∧ Below y (cubeNode x b (.leaf d) p) ∧ cubeNode x b (.leaf d) p ≠ .leaf d := by
  have bp' := Below.mono (Nat.le_of_lt hxy) bp
  cases b
  · exact ⟨⟨hp, bp, trivial, wp, trivial⟩, ⟨hxy, bp', trivial⟩, nofun⟩
  · exact ⟨⟨fun h => hp h.symm, trivial, bp, trivial, wp⟩, ⟨hxy, trivial, bp'⟩, nofun⟩

theorem constructLoop_wf (tr : Nat → Nat) (htr : ∀ i, tr i < tr (i + 1)) (d : α) :
    ∀ (as : List (Option Bool)) (i : Nat) (p : Node α), WF p → Below (tr i) p → p ≠ .leaf d →
      WF (constructLoop tr (.leaf d) as i p) ∧ Below (tr (i + as.length)) (constructLoop tr (.leaf d) as i p)
  | [], i, p, wp, bp, _ => ⟨wp, bp⟩
  | none :: as, i, p, wp, bp, hp => by
    rw [List.length_cons, ← Nat.add_assoc, Nat.add_right_comm]
    exact constructLoop_wf tr htr d as (i + 1) p wp (Below.mono (Nat.le_of_lt (htr i)) bp) hp
  | some b :: as, i, p, wp, bp, hp => by
    obtain ⟨w, bl, ne⟩ := cubeNode_wf (htr i) b wp bp hp
    rw [constructLoop_some, List.length_cons, ← Nat.add_assoc, Nat.add_right_comm]
    exact constructLoop_wf tr htr d as (i + 1) _ w bl ne

theorem constructLoop_wf_sub (tr : Nat → Nat) (sink : Node α) : ∀ (as : List (Option Bool)) (i : Nat) (p : Node α),
    WF (constructLoop tr sink as i p) → WF p
  | [], _, _, h => h
  | none :: as, i, p, h => constructLoop_wf_sub tr sink as (i+1) p h
  | some true :: as, i, _, h => (constructLoop_wf_sub tr sink as (i+1) _ h).2.2.2.2
  | some false :: as, i, _, h => (constructLoop_wf_sub tr sink as (i+1) _ h).2.2.2.1

/-- with the translation `var ↦ var + off` the loop is the untranslated loop started at `off` -/
theorem constructLoop_shift (off : Nat) (sink : Node α) : ∀ (as : List (Option Bool)) (i : Nat) (p : Node α),
    constructLoop (fun x => x + off) sink as i p = constructLoop (fun x => x) sink as (i + off) p
  | [], _, _ => rfl
  | a :: as, i, p => by
    rcases a with _ | _ | _ <;> simp only [constructLoop] <;>
      rw [constructLoop_shift off sink as (i+1) _, Nat.add_right_comm]

theorem constructOn_wf [DecidableEq α] (tr : Nat → Nat) (htr : ∀ i, tr i < tr (i + 1))
    (asgn : List (Option Bool)) (a : Node α) (d : α) (wa : WF a) (ba : Below (tr 0) a) :
    WF (constructOn tr asgn a d) ∧ Below (tr asgn.length) (constructOn tr asgn a d) := by
  unfold constructOn
  split
  · rename_i h; subst h; exact ⟨trivial, trivial⟩
  · rename_i h
    have := constructLoop_wf tr htr d asgn 0 a wa ba h
    rwa [Nat.zero_add] at this

theorem construct_wf [DecidableEq α] (asgn : List (Option Bool)) (v d : α) : WF (construct asgn v d) :=
  (constructOn_wf (fun x => x) (fun i => Nat.lt_succ_self i) asgn (.leaf v) d trivial trivial).1

theorem construct_below [DecidableEq α] (asgn : List (Option Bool)) (v d : α) :
    Below asgn.length (construct asgn v d) :=
  (constructOn_wf (fun x => x) (fun i => Nat.lt_succ_self i) asgn (.leaf v) d trivial trivial).2

theorem extendWith_eval [DecidableEq α] (asgn : List (Option Bool)) (off : Nat) (a : Node α) (d : α)
    (ρ : Nat → Bool) :
    eval (extendWith asgn off a d) ρ = if agrees (fun j => ρ (j + off)) asgn 0 = true then eval a ρ else d := by
  unfold extendWith; rw [constructOn_eval]

/-- `ExtendWith` keeps diagrams ordered and reduced provided all variables of the argument are below the offset
    (as in the only use, `ExtendWith(prefix, SYMBOL_SIZE)`) -/
theorem extendWith_wf [DecidableEq α] (asgn : List (Option Bool)) (off : Nat) (a : Node α) (d : α)
    (wa : WF a) (ba : Below off a) : WF (extendWith asgn off a d) :=
  (constructOn_wf (fun x => x + off) (fun i => by omega) asgn a d wa (by simpa using ba)).1


theorem apply1_eval [DecidableEq β] (f : α → β) (ρ : Nat → Bool) :
    ∀ (a : Node α), eval (apply1 f a) ρ = f (eval a ρ)
  | .leaf v => rfl
  | .node x lo hi => by
    rw [apply1, eval_mk, apply1_eval f ρ lo, apply1_eval f ρ hi]; simp only [eval]; split <;> rfl

theorem apply1_below [DecidableEq β] (f : α → β) {x : Nat} :
    ∀ {a : Node α}, Below x a → Below x (apply1 f a)
  | .leaf _, _ => trivial
  | .node _ _ _, ⟨h, bl, bh⟩ => by
    rw [apply1]; exact below_mk h (apply1_below f bl) (apply1_below f bh)

theorem apply1_wf [DecidableEq β] (f : α → β) : ∀ {a : Node α}, WF a → WF (apply1 f a)
  | .leaf _, _ => trivial
  | .node _ _ _, ⟨_, bl, bh, wl, wh⟩ => by
    rw [apply1]; exact wf_mk (apply1_below f bl) (apply1_below f bh) (apply1_wf f wl) (apply1_wf f wh)


/-! ### one step of a descent that tests a variable

A descent that tests `x` passes down from an operand `a` either its two children (the root of `a` carries `x`) or `a` itself
(`a` is a leaf or its root variable is below `x`): `Cof x a a₀ a₁`.  `Step2` is a step of `classifyCase2` on two operands;
`apply2`, `voidApply2` and, downstream, the state-threading `apply2S` and the traversals with paths `voidApply2P` /
`voidApply2C` have ONE equation each over `Step2` (`Step2.apply2`, `Step2.voidApply2`, `BddIsect.apply2S_step`,
`BddTraverse.voidApply2P_step`, `BddTraverse.voidApply2C_step`), and a statement about them is proved by `Step2.induct` with
one node case.  The three operands of `apply3` are passed down by `Cof` as well (`cof3`). -/

inductive Cof (x : Nat) : Node α → Node α → Node α → Prop
  | node (lo hi : Node α) : Cof x (.node x lo hi) lo hi
  | same {a : Node α} : VarLt x a → Cof x a a a

namespace Cof
variable {x : Nat} {a a₀ a₁ : Node α}

theorem eval (h : Cof x a a₀ a₁) (ρ : Nat → Bool) : M.eval a ρ = if ρ x then M.eval a₁ ρ else M.eval a₀ ρ := by
  cases h with
  | node lo hi => rfl
  | same _ => exact (ite_self _).symm

theorem below {z : Nat} (h : Cof x a a₀ a₁) (ha : Below z a) : Below z a₀ ∧ Below z a₁ := by
  cases h with
  | node lo hi => exact ⟨ha.2.1, ha.2.2⟩
  | same _ => exact ⟨ha, ha⟩

theorem wf (h : Cof x a a₀ a₁) (wa : WF a) : WF a₀ ∧ WF a₁ := by
  cases h with
  | node lo hi => exact ⟨wa.2.2.2.1, wa.2.2.2.2⟩
  | same _ => exact ⟨wa, wa⟩

/-- in an ordered diagram what is passed down lies below the tested variable -/
theorem below_top (h : Cof x a a₀ a₁) (wa : WF a) : Below x a₀ ∧ Below x a₁ := by
  cases h with
  | node lo hi => exact ⟨wa.2.1, wa.2.2.1⟩
  | same hv => exact ⟨below_of_wf_varLt wa hv, below_of_wf_varLt wa hv⟩

/-- an ordered operand of a descent that tests `x` has no variable above `x` -/
theorem below_succ (h : Cof x a a₀ a₁) (wa : WF a) : Below (x + 1) a := by
  cases h with
  | node lo hi => exact ⟨Nat.lt_succ_self x, wa.2.1.mono (Nat.le_succ x), wa.2.2.1.mono (Nat.le_succ x)⟩
  | same hv => exact (below_of_wf_varLt wa hv).mono (Nat.le_succ x)

theorem eval_upd (h : Cof x a a₀ a₁) (wa : WF a) (ρ : Nat → Bool) (c : Bool) :
    M.eval a (upd ρ x c) = M.eval (if c then a₁ else a₀) ρ := by
  cases h with
  | node lo hi =>
    cases c with
    | false => exact eval_node_false ρ wa.2.1
    | true => exact eval_node_true ρ wa.2.2.1
  | same hv => rw [ite_self]; exact eval_upd_of_below c ρ (below_of_wf_varLt wa hv)

theorem leaves (h : Cof x a a₀ a₁) {v : α} (hv : v ∈ voidApply1 a₀ ∨ v ∈ voidApply1 a₁) : v ∈ voidApply1 a := by
  cases h with
  | node lo hi => rw [voidApply1, List.mem_append]; exact hv
  | same _ => exact hv.elim id id

end Cof

/-- a step of `classifyCase2` on two diagrams that are not both leaves: the descent tests `x` and goes on with `a₀`, `b₀` and
with `a₁`, `b₁`; an operand is branched, and then its root carries `x`, or it is passed on as it is, and then its root
variable (if it has one) is below `x` -/
inductive Step2 : Node α → Node β → Nat → Node α → Node β → Node α → Node β → Prop
  | both (x : Nat) (alo ahi : Node α) (blo bhi : Node β) : Step2 (.node x alo ahi) (.node x blo bhi) x alo blo ahi bhi
  | left (x : Nat) (lo hi : Node α) {b : Node β} : VarLt x b → Step2 (.node x lo hi) b x lo b hi b
  | right {a : Node α} (y : Nat) (lo hi : Node β) : VarLt y a → Step2 a (.node y lo hi) y a lo a hi

namespace Step2
variable {a a₀ a₁ : Node α} {b b₀ b₁ : Node β} {x : Nat}

theorem cofA (h : Step2 a b x a₀ b₀ a₁ b₁) : Cof x a a₀ a₁ := by
  cases h with
  | both | left => exact .node _ _
  | right _ _ _ h => exact .same h

theorem cofB (h : Step2 a b x a₀ b₀ a₁ b₁) : Cof x b b₀ b₁ := by
  cases h with
  | both | right => exact .node _ _
  | left _ _ _ h => exact .same h

/-- the tested variable is the root variable of one of the operands -/
theorem top {z : Nat} (h : Step2 a b x a₀ b₀ a₁ b₁) (ha : Below z a) (hb : Below z b) : x < z := by
  cases h with
  | both | left => exact ha.1
  | right => exact hb.1

protected theorem apply2 [DecidableEq γ] (h : Step2 a b x a₀ b₀ a₁ b₁) (f : α → β → γ) :
    apply2 f a b = mk x (apply2 f a₀ b₀) (apply2 f a₁ b₁) := by
  cases h with
  | both => rw [M.apply2, if_pos rfl]
  | @left _ _ _ b h =>
    cases b with
    | leaf w => rw [M.apply2]
    | node y _ _ => have h : y < x := h; rw [M.apply2, if_neg (Nat.ne_of_gt h), if_pos h]
  | @right a _ _ _ h =>
    cases a with
    | leaf v => rw [M.apply2]
    | node y _ _ => have h : y < x := h; rw [M.apply2, if_neg (Nat.ne_of_lt h), if_neg (Nat.lt_asymm h)]

protected theorem voidApply2 (h : Step2 a b x a₀ b₀ a₁ b₁) : voidApply2 a b = voidApply2 a₀ b₀ ++ voidApply2 a₁ b₁ := by
  cases h with
  | both => rw [M.voidApply2, if_pos rfl]
  | @left _ _ _ b h =>
    cases b with
    | leaf w => rw [M.voidApply2]
    | node y _ _ => have h : y < x := h; rw [M.voidApply2, if_neg (Nat.ne_of_gt h), if_pos h]
  | @right a _ _ _ h =>
    cases a with
    | leaf v => rw [M.voidApply2]
    | node y _ _ => have h : y < x := h; rw [M.voidApply2, if_neg (Nat.ne_of_lt h), if_neg (Nat.lt_asymm h)]

/-- two diagrams are two leaves or have a step, and the descent ends -/
theorem induct {P : Node α → Node β → Prop} (leaf : ∀ v w, P (.leaf v) (.leaf w))
    (node : ∀ {a b x a₀ b₀ a₁ b₁}, Step2 a b x a₀ b₀ a₁ b₁ → P a₀ b₀ → P a₁ b₁ → P a b) (a : Node α) (b : Node β) :
    P a b := by
  induction a, b using M.voidApply2.induct with
  | case1 v w => exact leaf v w
  | case2 x lo hi w ih0 ih1 => exact node (.left x lo hi trivial) ih0 ih1
  | case3 v y lo hi ih0 ih1 => exact node (.right y lo hi trivial) ih0 ih1
  | case4 alo ahi x blo bhi ih0 ih1 => exact node (.both x alo ahi blo bhi) ih0 ih1
  | case5 x alo ahi y blo bhi _ hlt ih0 ih1 => exact node (.left x alo ahi hlt) ih0 ih1
  | case6 x alo ahi y blo bhi hne hlt ih0 ih1 =>
    exact node (.right y blo bhi (Nat.lt_of_le_of_ne (Nat.le_of_not_lt hlt) hne)) ih0 ih1

end Step2

theorem apply2_eval [DecidableEq γ] (f : α → β → γ) (ρ : Nat → Bool) (a : Node α) (b : Node β) :
    eval (apply2 f a b) ρ = f (eval a ρ) (eval b ρ) := by
  induction a, b using Step2.induct with
  | leaf v w => rw [apply2]; rfl
  | node d ih0 ih1 => rw [d.apply2, eval_mk, ih0, ih1, d.cofA.eval, d.cofB.eval]; split <;> rfl

theorem apply2_below [DecidableEq γ] (f : α → β → γ) {z : Nat} (a : Node α) (b : Node β) :
    Below z a → Below z b → Below z (apply2 f a b) := by
  induction a, b using Step2.induct with
  | leaf v w => intro _ _; rw [apply2]; trivial
  | node d ih0 ih1 =>
    intro ha hb
    rw [d.apply2]
    exact below_mk (d.top ha hb) (ih0 (d.cofA.below ha).1 (d.cofB.below hb).1) (ih1 (d.cofA.below ha).2 (d.cofB.below hb).2)

theorem apply2_wf [DecidableEq γ] (f : α → β → γ) (a : Node α) (b : Node β) : WF a → WF b → WF (apply2 f a b) := by
  induction a, b using Step2.induct with
  | leaf v w => intro _ _; rw [apply2]; trivial
  | node d ih0 ih1 =>
    intro wa wb
    rw [d.apply2]
    exact wf_mk (apply2_below f _ _ (d.cofA.below_top wa).1 (d.cofB.below_top wb).1)
      (apply2_below f _ _ (d.cofA.below_top wa).2 (d.cofB.below_top wb).2)
      (ih0 (d.cofA.wf wa).1 (d.cofB.wf wb).1) (ih1 (d.cofA.wf wa).2 (d.cofB.wf wb).2)


#print axioms apply2_eval


theorem branch3_node {a : Node α} {b : Node β} {c : Node γ} (h : branch3 a b c = true) :
    a = .node (varOf a) (lowIf true a) (highIf true a) := by
  cases a with
  | leaf v => simp [branch3] at h
  | node x lo hi => rfl

theorem branch3_le {a : Node α} {b : Node β} {c : Node γ} (h : branch3 a b c = true) :
    leafOrLe (varOf a) b = true ∧ leafOrLe (varOf a) c = true := by
  cases a with
  | leaf v => simp [branch3] at h
  | node x lo hi => simpa [branch3, varOf] using h

theorem leafOrLe_node {x : Nat} {a : Node α} (h : leafOrLe x a = true) (y : Nat) (lo hi : Node α)
    (ha : a = .node y lo hi) : y ≤ x := by
  subst ha; simpa [leafOrLe] using h

theorem branch3_pair {a : Node α} {b : Node β}
    (h1 : leafOrLe (varOf a) b = true) (h2 : leafOrLe (varOf b) a = true)
    (na : a = .node (varOf a) (lowIf true a) (highIf true a))
    (nb : b = .node (varOf b) (lowIf true b) (highIf true b)) : varOf a = varOf b := by
  have := leafOrLe_node h1 _ _ _ nb
  have := leafOrLe_node h2 _ _ _ na
  omega

/-- all the branched nodes carry the same variable, the `var` of `recDescend` -/
theorem branch3_var (a : Node α) (b : Node β) (c : Node γ) :
    (branch3 a b c = true → varOf a = topVar3 a b c) ∧
    (branch3 b a c = true → varOf b = topVar3 a b c) ∧
    (branch3 c a b = true → varOf c = topVar3 a b c) := by
  unfold topVar3
  refine ⟨fun h1 => ?_, fun h2 => ?_, fun h3 => ?_⟩
  · by_cases h3 : branch3 c a b = true
    · rw [if_pos h3]
      exact branch3_pair (branch3_le h1).2 (branch3_le h3).1 (branch3_node h1) (branch3_node h3)
    · rw [if_neg h3]
      by_cases h2 : branch3 b a c = true
      · rw [if_pos h2]; exact branch3_pair (branch3_le h1).1 (branch3_le h2).1 (branch3_node h1) (branch3_node h2)
      · rw [if_neg h2]
  · by_cases h3 : branch3 c a b = true
    · rw [if_pos h3]
      exact branch3_pair (branch3_le h2).2 (branch3_le h3).2 (branch3_node h2) (branch3_node h3)
    · rw [if_neg h3, if_pos h2]
  · rw [if_pos h3]

theorem branch3_none {a : Node α} {b : Node β} {c : Node γ}
    (h : ¬ (branch3 a b c || branch3 b a c || branch3 c a b) = true) :
    a = .leaf (leafVal a) ∧ b = .leaf (leafVal b) ∧ c = .leaf (leafVal c) := by
  simp only [Bool.or_eq_true, not_or, Bool.not_eq_true] at h
  obtain ⟨⟨h1, h2⟩, h3⟩ := h
  cases a <;> cases b <;> cases c <;>
    simp only [branch3, leafOrLe, Bool.and_eq_false_iff, decide_eq_false_iff_not, Bool.and_true, Bool.true_and,
      Bool.true_eq_false] at h1 h2 h3 <;>
    first | exact ⟨rfl, rfl, rfl⟩ | omega

theorem varOf_lt_of_below {x : Nat} {a : Node α} (na : a = .node (varOf a) (lowIf true a) (highIf true a))
    (h : Below x a) : varOf a < x := by
  rw [na] at h; exact h.1

theorem leafOrLe_self {a : Node α} : leafOrLe (varOf a) a = true := by
  cases a <;> simp [leafOrLe, varOf]

/-- the variable chosen by `recDescend` dominates the root variables of all three nodes -/
theorem topVar3_dom {a : Node α} {b : Node β} {c : Node γ}
    (h : (branch3 a b c || branch3 b a c || branch3 c a b) = true) :
    leafOrLe (topVar3 a b c) a = true ∧ leafOrLe (topVar3 a b c) b = true ∧ leafOrLe (topVar3 a b c) c = true := by
  obtain ⟨v1, v2, v3⟩ := branch3_var a b c
  simp only [Bool.or_eq_true] at h
  rcases h with (h | h) | h
  · rw [← v1 h]; exact ⟨leafOrLe_self, (branch3_le h).1, (branch3_le h).2⟩
  · rw [← v2 h]; exact ⟨(branch3_le h).1, leafOrLe_self, (branch3_le h).2⟩
  · rw [← v3 h]; exact ⟨(branch3_le h).1, (branch3_le h).2, leafOrLe_self⟩

theorem topVar3_lt {x : Nat} {a : Node α} {b : Node β} {c : Node γ}
    (h : (branch3 a b c || branch3 b a c || branch3 c a b) = true)
    (ba : Below x a) (bb : Below x b) (bc : Below x c) : topVar3 a b c < x := by
  obtain ⟨v1, v2, v3⟩ := branch3_var a b c
  simp only [Bool.or_eq_true] at h
  rcases h with (h | h) | h
  · rw [← v1 h]; exact varOf_lt_of_below (branch3_node h) ba
  · rw [← v2 h]; exact varOf_lt_of_below (branch3_node h) bb
  · rw [← v3 h]; exact varOf_lt_of_below (branch3_node h) bc

/-- a node that is not branched is a leaf or has a root variable strictly below the chosen one -/
theorem notBranched_varLt {X : Nat} {a : Node α} {b : Node β} {c : Node γ}
    (da : leafOrLe X a = true) (db : leafOrLe X b = true) (dc : leafOrLe X c = true)
    (h : ¬ branch3 a b c = true) : VarLt X a := by
  cases a with
  | leaf v => trivial
  | node x lo hi =>
    have hx : x ≤ X := by simpa [leafOrLe] using da
    refine Nat.lt_of_le_of_ne hx fun e => h ?_
    subst e
    simp [branch3, db, dc]

theorem cof_lowIf_highIf {X : Nat} {br : Bool} {a : Node α} (h1 : br = true → varOf a = X) (h2 : ¬ br = true → VarLt X a) :
    Cof X a (lowIf br a) (highIf br a) := by
  cases br with
  | false => exact .same (h2 nofun)
  | true =>
    cases a with
    | leaf v => exact .same trivial
    | node x lo hi => cases h1 rfl; exact .node lo hi

theorem cof3 {a : Node α} {b : Node β} {c : Node γ} (h : (branch3 a b c || branch3 b a c || branch3 c a b) = true) :
    Cof (topVar3 a b c) a (lowIf (branch3 a b c) a) (highIf (branch3 a b c) a) ∧
    Cof (topVar3 a b c) b (lowIf (branch3 b a c) b) (highIf (branch3 b a c) b) ∧
    Cof (topVar3 a b c) c (lowIf (branch3 c a b) c) (highIf (branch3 c a b) c) := by
  obtain ⟨v1, v2, v3⟩ := branch3_var a b c
  obtain ⟨da, db, dc⟩ := topVar3_dom h
  exact ⟨cof_lowIf_highIf v1 (notBranched_varLt da db dc), cof_lowIf_highIf v2 (notBranched_varLt db da dc),
    cof_lowIf_highIf v3 (notBranched_varLt dc da db)⟩

theorem apply3_eval [DecidableEq δ] (f : α → β → γ → δ) (ρ : Nat → Bool) (a : Node α) (b : Node β) (c : Node γ) :
    eval (apply3 f a b c) ρ = f (eval a ρ) (eval b ρ) (eval c ρ) := by
  induction a, b, c using apply3.induct with
  | case1 a b c h ih1 ih2 =>
    obtain ⟨ca, cb, cc⟩ := cof3 h
    rw [apply3, if_pos h, eval_mk, ih1, ih2, ca.eval, cb.eval, cc.eval]
    split <;> rfl
  | case2 a b c h =>
    rw [apply3, if_neg h]
    obtain ⟨ha, hb, hc⟩ := branch3_none h
    rw [ha, hb, hc]; rfl

theorem apply3_below [DecidableEq δ] (f : α → β → γ → δ) {x : Nat} (a : Node α) (b : Node β) (c : Node γ) :
    Below x a → Below x b → Below x c → Below x (apply3 f a b c) := by
  induction a, b, c using apply3.induct with
  | case1 a b c h ih1 ih2 =>
    intro ba bb bc
    obtain ⟨ca, cb, cc⟩ := cof3 h
    rw [apply3, if_pos h]
    exact below_mk (topVar3_lt h ba bb bc) (ih1 (ca.below ba).1 (cb.below bb).1 (cc.below bc).1)
      (ih2 (ca.below ba).2 (cb.below bb).2 (cc.below bc).2)
  | case2 a b c h => intro _ _ _; rw [apply3, if_neg h]; trivial

theorem apply3_wf [DecidableEq δ] (f : α → β → γ → δ) (a : Node α) (b : Node β) (c : Node γ) :
    WF a → WF b → WF c → WF (apply3 f a b c) := by
  induction a, b, c using apply3.induct with
  | case1 a b c h ih1 ih2 =>
    intro wa wb wc
    obtain ⟨ca, cb, cc⟩ := cof3 h
    rw [apply3, if_pos h]
    exact wf_mk (apply3_below f _ _ _ (ca.below_top wa).1 (cb.below_top wb).1 (cc.below_top wc).1)
      (apply3_below f _ _ _ (ca.below_top wa).2 (cb.below_top wb).2 (cc.below_top wc).2)
      (ih1 (ca.wf wa).1 (cb.wf wb).1 (cc.wf wc).1) (ih2 (ca.wf wa).2 (cb.wf wb).2 (cc.wf wc).2)
  | case2 a b c h => intro _ _ _; rw [apply3, if_neg h]; trivial


theorem project_below [DecidableEq α] (pred : Nat → Bool) (f : α → α → α) {x : Nat} :
    ∀ {a : Node α}, Below x a → Below x (project pred f a)
  | .leaf _, _ => trivial
  | .node y lo hi, ⟨h, bl, bh⟩ => by
    rw [project]
    split
    · exact apply2_below f _ _ (project_below pred f bl) (project_below pred f bh)
    · exact below_mk h (project_below pred f bl) (project_below pred f bh)

theorem project_wf [DecidableEq α] (pred : Nat → Bool) (f : α → α → α) :
    ∀ {a : Node α}, WF a → WF (project pred f a)
  | .leaf _, _ => trivial
  | .node y lo hi, ⟨_, bl, bh, wl, wh⟩ => by
    rw [project]
    split
    · exact apply2_wf f _ _ (project_wf pred f wl) (project_wf pred f wh)
    · exact wf_mk (project_below pred f bl) (project_below pred f bh) (project_wf pred f wl) (project_wf pred f wh)

theorem projectVar_wf [DecidableEq α] (x : Nat) (f : α → α → α) {a : Node α} (wa : WF a) :
    WF (projectVar x f a) := project_wf _ f wa

/-- removing one variable `x` from an ordered diagram with an idempotent leaf operation `f`:
    the result combines the two cofactors by `f` -/
theorem project_eval [DecidableEq α] (x : Nat) (f : α → α → α) (idem : ∀ v, f v v = v) (ρ : Nat → Bool) :
    ∀ {a : Node α}, WF a →
      eval (projectVar x f a) ρ = f (eval a (upd ρ x false)) (eval a (upd ρ x true))
  | .leaf v, _ => by simp [projectVar, project, eval, idem]
  | .node y lo hi, ⟨_, bl, bh, wl, wh⟩ => by
    have ihl := project_eval x f idem ρ wl
    have ihh := project_eval x f idem ρ wh
    unfold projectVar at ihl ihh ⊢
    rw [project]
    by_cases hy : y = x
    · subst hy
      simp only [beq_self_eq_true, if_true]
      rw [apply2_eval, ihl, ihh, eval_node_false ρ bl, eval_node_true ρ bh,
        eval_upd_of_below false ρ bl, eval_upd_of_below true ρ bl,
        eval_upd_of_below false ρ bh, eval_upd_of_below true ρ bh, idem, idem]
    · have hb : (y == x) = false := by simpa using hy
      simp only [hb, Bool.false_eq_true, if_false]
      rw [eval_mk, ihl, ihh]
      simp only [eval, upd, hy, if_false]
      split <;> rfl

/-! ### the general projection: least upper bound over the removed variables

For an associative, commutative and idempotent `f` (e.g. set union) write `u ≤ v` for `f u v = v`.  The value of the
projection at `ρ` is the least upper bound of the values `eval a ρ'` over all `ρ'` that agree with `ρ` outside `pred`. -/

/-- upper bound; no orderedness is needed -/
theorem project_ub [DecidableEq α] (pred : Nat → Bool) (f : α → α → α)
    (assoc : ∀ u v w, f (f u v) w = f u (f v w)) (comm : ∀ u v, f u v = f v u) (idem : ∀ v, f v v = v)
    (ρ ρ' : Nat → Bool) (hag : ∀ y, pred y = false → ρ' y = ρ y) :
    ∀ (a : Node α), f (eval a ρ') (eval (project pred f a) ρ) = eval (project pred f a) ρ
  | .leaf v => by simp [project, eval, idem]
  | .node y lo hi => by
    have ihl := project_ub pred f assoc comm idem ρ ρ' hag lo
    have ihh := project_ub pred f assoc comm idem ρ ρ' hag hi
    rw [project]
    cases hp : pred y with
    | true =>
      simp only [if_true, apply2_eval, eval]
      split
      · rw [comm (eval (project pred f lo) ρ), ← assoc, ihh]
      · rw [← assoc, ihl]
    | false =>
      simp only [Bool.false_eq_true, if_false, eval_mk, eval, hag y hp]
      split
      · exact ihh
      · exact ihl

/-- least among the upper bounds; needs an ordered diagram -/
theorem project_least [DecidableEq α] (pred : Nat → Bool) (f : α → α → α)
    (assoc : ∀ u v w, f (f u v) w = f u (f v w)) (u : α) (ρ : Nat → Bool) :
    ∀ {a : Node α}, WF a →
      (∀ ρ', (∀ y, pred y = false → ρ' y = ρ y) → f (eval a ρ') u = u) → f (eval (project pred f a) ρ) u = u
  | .leaf v, _, h => by simpa [project, eval] using h ρ (fun _ _ => rfl)
  | .node y lo hi, ⟨_, bl, bh, wl, wh⟩, h => by
    have hl : ∀ b, (pred y = false → ρ y = b) → ∀ ρ', (∀ z, pred z = false → ρ' z = ρ z) →
        f (eval (if b then hi else lo) ρ') u = u := by
      intro b hb ρ' hag
      have := h (upd ρ' y b) (by
        intro z hz
        unfold upd
        split
        · rename_i e; subst e; exact (hb hz).symm
        · exact hag z hz)
      cases b with
      | false => rw [eval_node_false ρ' bl] at this; simpa using this
      | true => rw [eval_node_true ρ' bh] at this; simpa using this
    rw [project]
    cases hp : pred y with
    | true =>
      have ihl := project_least pred f assoc u ρ wl (hl false (by simp [hp]))
      have ihh := project_least pred f assoc u ρ wh (hl true (by simp [hp]))
      simp only [if_true, apply2_eval]
      rw [assoc, ihh, ihl]
    | false =>
      simp only [Bool.false_eq_true, if_false, eval_mk]
      cases hr : ρ y with
      | true => simpa using project_least pred f assoc u ρ wh (hl true (fun _ => hr))
      | false => simpa using project_least pred f assoc u ρ wl (hl false (fun _ => hr))


/-- holds for every renaming (monotonicity is only needed for well-formedness) -/
theorem rename_eval (r : Nat → Nat) (σ : Nat → Bool) : ∀ (a : Node α), eval (rename r a) σ = eval a (σ ∘ r)
  | .leaf _ => rfl
  | .node x lo hi => by simp only [rename, eval, rename_eval r σ lo, rename_eval r σ hi, Function.comp]

/-- every variable on an inner node of the diagram satisfies `p` -/
def AllVars (p : Nat → Prop) : Node α → Prop
  | .leaf _ => True
  | .node x lo hi => p x ∧ AllVars p lo ∧ AllVars p hi

theorem AllVars.mono {p q : Nat → Prop} (h : ∀ x, p x → q x) : ∀ {a : Node α}, AllVars p a → AllVars q a
  | .leaf _, _ => trivial
  | .node _ _ _, ⟨px, al, ah⟩ => ⟨h _ px, al.mono h, ah.mono h⟩

theorem allVars_true : ∀ (a : Node α), AllVars (fun _ => True) a
  | .leaf _ => trivial
  | .node _ lo hi => ⟨trivial, allVars_true lo, allVars_true hi⟩

/-! The renamer need only be monotone on the variables that occur (`p`). -/

theorem rename_below_on (r : Nat → Nat) {p : Nat → Prop} (mono : ∀ x y, p x → p y → x < y → r x < r y) {x : Nat}
    (px : p x) : ∀ {a : Node α}, AllVars p a → Below x a → Below (r x) (rename r a)
  | .leaf _, _, _ => trivial
  | .node _ _ _, ⟨py, al, ah⟩, ⟨h, bl, bh⟩ =>
    ⟨mono _ _ py px h, rename_below_on r mono px al bl, rename_below_on r mono px ah bh⟩

theorem rename_inj_on (r : Nat → Nat) {p : Nat → Prop} (inj : ∀ x y, p x → p y → r x = r y → x = y) :
    ∀ (a b : Node α), AllVars p a → AllVars p b → rename r a = rename r b → a = b
  | .leaf _, .leaf _, _, _, h => by simpa [rename] using h
  | .leaf _, .node _ _ _, _, _, h => by simp [rename] at h
  | .node _ _ _, .leaf _, _, _, h => by simp [rename] at h
  | .node x l1 h1, .node y l2 h2, ⟨px, al, ah⟩, ⟨py, bl, bh⟩, h => by
    simp only [rename, Node.node.injEq] at h
    rw [inj x y px py h.1, rename_inj_on r inj l1 l2 al bl h.2.1, rename_inj_on r inj h1 h2 ah bh h.2.2]

theorem rename_wf_on (r : Nat → Nat) {p : Nat → Prop} (mono : ∀ x y, p x → p y → x < y → r x < r y) :
    ∀ {a : Node α}, AllVars p a → WF a → WF (rename r a)
  | .leaf _, _, _ => trivial
  | .node x lo hi, ⟨px, al, ah⟩, ⟨hne, bl, bh, wl, wh⟩ => by
    have inj : ∀ x y, p x → p y → r x = r y → x = y := by
      intro x y px py h
      rcases Nat.lt_trichotomy x y with hlt | heq | hgt
      · have := mono _ _ px py hlt; omega
      · exact heq
      · have := mono _ _ py px hgt; omega
    exact ⟨fun h => hne (rename_inj_on r inj _ _ al ah h), rename_below_on r mono px al bl, rename_below_on r mono px ah bh,
      rename_wf_on r mono al wl, rename_wf_on r mono ah wh⟩

theorem rename_wf (r : Nat → Nat) (mono : ∀ x y, x < y → r x < r y) {a : Node α} (wa : WF a) : WF (rename r a) :=
  rename_wf_on r (fun x y _ _ => mono x y) (allVars_true a) wa


/-- `GetValue` treats every position that is not `ONE` (that is `ZERO`, `DONT_CARE`, or missing) as `false`:
    for a query with don't cares the value for the assignment with all don't cares set to 0 is returned -/
theorem getValue_dontcare (q : List (Option Bool)) :
    ∀ (a : Node α), getValue a q = eval a (fun i => decide (q[i]? = some (some true)))
  | .leaf _ => rfl
  | .node x lo hi => by
    simp only [getValue, eval, getValue_dontcare q lo, getValue_dontcare q hi, decide_eq_true_eq]

def Covers (q : List (Option Bool)) : Node α → Prop
  | .leaf _ => True
  | .node x lo hi => (∃ b, q[x]? = some (some b)) ∧ Covers q lo ∧ Covers q hi

/-- for a query that fixes all variables of the diagram `GetValue` is the value under any total assignment
    that agrees with the query -/
theorem getValue_total (q : List (Option Bool)) (ρ : Nat → Bool) (hag : agrees ρ q 0 = true) :
    ∀ (a : Node α), Covers q a → getValue a q = eval a ρ
  | .leaf _, _ => rfl
  | .node x lo hi, ⟨⟨b, hb⟩, cl, ch⟩ => by
    have := (agrees_iff ρ q 0).mp hag x b hb
    rw [Nat.zero_add] at this
    simp only [getValue, eval, getValue_total q ρ hag lo cl, getValue_total q ρ hag hi ch, hb, this]
    cases b <;> simp


def Free (x : Nat) (as : List (Option Bool)) : Prop := ∀ j b, j < x → as[j]? ≠ some (some b)

theorem addUpTo_get (as : List (Option Bool)) (x j : Nat) (b : Bool) :
    (addUpTo as x)[j]? = some (some b) ↔ as[j]? = some (some b) := by
  unfold addUpTo
  rw [List.getElem?_append]
  split
  · exact Iff.rfl
  · rename_i h
    rw [List.getElem?_replicate]
    have : as[j]? = none := List.getElem?_eq_none (by omega)
    rw [this]
    split <;> simp

theorem addUpTo_length (as : List (Option Bool)) (x : Nat) : x < (addUpTo as x).length := by
  unfold addUpTo; rw [List.length_append, List.length_replicate]; omega

theorem set_get (as : List (Option Bool)) (x j : Nat) (c b : Bool) :
    ((addUpTo as x).set x (some c))[j]? = some (some b) ↔
      (j = x ∧ c = b) ∨ (j ≠ x ∧ as[j]? = some (some b)) := by
  rw [List.getElem?_set]
  by_cases h : x = j
  · subst h
    simp [addUpTo_length as x]
  · rw [if_neg h, addUpTo_get]
    constructor
    · intro h'; exact Or.inr ⟨fun e => h e.symm, h'⟩
    · rintro (⟨e, _⟩ | ⟨_, h'⟩)
      · exact absurd e.symm h
      · exact h'

theorem agrees_set (ρ : Nat → Bool) (as : List (Option Bool)) (x : Nat) (c : Bool)
    (hx : ∀ b, as[x]? ≠ some (some b)) :
    agrees ρ ((addUpTo as x).set x (some c)) 0 = true ↔ agrees ρ as 0 = true ∧ ρ x = c := by
  rw [agrees_iff, agrees_iff]
  simp only [Nat.zero_add, set_get]
  constructor
  · intro h
    refine ⟨fun j b hj => ?_, h x c (Or.inl ⟨rfl, rfl⟩)⟩
    by_cases e : j = x
    · subst e; exact absurd hj (hx b)
    · exact h j b (Or.inr ⟨e, hj⟩)
  · rintro ⟨h, hc⟩ j b (⟨e, e'⟩ | ⟨_, hj⟩)
    · subst e; subst e'; exact hc
    · exact h j b hj

theorem free_set {x y : Nat} {as : List (Option Bool)} (c : Bool) (hf : Free x as) (hy : y < x) :
    Free y ((addUpTo as y).set y (some c)) := by
  intro j b hj
  rw [Ne, set_get]
  rintro (⟨e, _⟩ | ⟨_, h⟩)
  · omega
  · exact hf j b (by omega) h

/-- the paths listed below `a`, started from the symbolic assignment `as`, cover exactly the total assignments that
    agree with `as`, each path with the value of `a` -/
theorem getPathsRec_iff (ρ : Nat → Bool) (v : α) :
    ∀ (a : Node α) (as : List (Option Bool)) (x : Nat), WF a → Below x a → Free x as →
      ((∃ p, (p, v) ∈ getPathsRec as a ∧ agrees ρ p 0 = true) ↔ (agrees ρ as 0 = true ∧ eval a ρ = v))
  | .leaf w, as, x, _, _, _ => by
    simp only [getPathsRec, List.mem_singleton, Prod.mk.injEq, eval]
    exact ⟨fun ⟨p, ⟨e1, e2⟩, hp⟩ => ⟨e1 ▸ hp, e2.symm⟩, fun ⟨hp, e⟩ => ⟨as, ⟨rfl, e.symm⟩, hp⟩⟩
  | .node y lo hi, as, x, ⟨_, bl, bh, wl, wh⟩, ⟨hy, _, _⟩, hf => by
    have hx : ∀ b, as[y]? ≠ some (some b) := fun b => hf y b hy
    simp only [getPathsRec, List.mem_append, or_and_right, exists_or]
    rw [getPathsRec_iff ρ v lo _ y wl bl (free_set false hf hy), getPathsRec_iff ρ v hi _ y wh bh (free_set true hf hy),
      agrees_set ρ as y false hx, agrees_set ρ as y true hx, eval]
    cases ρ y <;> simp

theorem free_nil (x : Nat) : Free x [] := by intro j b _; simp

/-- the listed paths describe the function of the diagram exactly -/
theorem getPaths_iff {a : Node α} (wa : WF a) (ρ : Nat → Bool) (v : α) :
    eval a ρ = v ↔ ∃ p, (p, v) ∈ getPaths a ∧ agrees ρ p 0 = true := by
  obtain ⟨x, hx⟩ := exists_below a
  rw [getPaths, getPathsRec_iff ρ v a [] x wa hx (free_nil x)]
  exact ⟨fun h => ⟨rfl, h⟩, And.right⟩

theorem getPaths_sound {a : Node α} (wa : WF a) {p : List (Option Bool)} {v : α} (hm : (p, v) ∈ getPaths a)
    (ρ : Nat → Bool) (hp : agrees ρ p 0 = true) : eval a ρ = v :=
  (getPaths_iff wa ρ v).mpr ⟨p, hm, hp⟩

theorem getPaths_complete {a : Node α} (wa : WF a) (ρ : Nat → Bool) :
    ∃ p, (p, eval a ρ) ∈ getPaths a ∧ agrees ρ p 0 = true :=
  (getPaths_iff wa ρ _).mp rfl


theorem getPrefix_eval (asgn : List (Option Bool)) (off : Nat) (ρ : Nat → Bool) :
    ∀ {a : Node α}, WF a →
      eval (getPrefix asgn off a) ρ
        = eval a (fun i => if i < off then ρ i else decide (asgn[i - off]? = some (some true)))
  | .leaf _, _ => rfl
  | .node x lo hi, w => by
    rw [getPrefix]
    by_cases hx : x < off
    · -- below the offset the two assignments coincide
      rw [if_pos hx]
      exact eval_congr_of_below (fun i hi => (if_pos hi).symm) (below_of_wf_varLt w hx)
    · rw [if_neg hx]
      simp only [eval, hx, if_false, decide_eq_true_eq]
      split
      · exact getPrefix_eval asgn off ρ w.2.2.2.2
      · exact getPrefix_eval asgn off ρ w.2.2.2.1

theorem getPrefix_wf (asgn : List (Option Bool)) (off : Nat) :
    ∀ {a : Node α}, WF a → WF (getPrefix asgn off a) ∧ Below off (getPrefix asgn off a)
  | .leaf _, _ => ⟨trivial, trivial⟩
  | .node x lo hi, w => by
    rw [getPrefix]
    split
    · rename_i hx; exact ⟨w, below_of_wf_varLt w hx⟩
    · split
      · exact getPrefix_wf asgn off w.2.2.2.2
      · exact getPrefix_wf asgn off w.2.2.2.1


theorem mem_voidApply1 {v : α} : ∀ {a : Node α}, WF a → (v ∈ voidApply1 a ↔ ∃ ρ, eval a ρ = v)
  | .leaf w, _ => by
    simp only [voidApply1, List.mem_singleton, eval]
    exact ⟨fun h => ⟨fun _ => false, h.symm⟩, fun ⟨_, h⟩ => h.symm⟩
  | .node x lo hi, ⟨_, bl, bh, wl, wh⟩ => by
    simp only [voidApply1, List.mem_append, mem_voidApply1 wl, mem_voidApply1 wh]
    constructor
    · rintro (⟨ρ, h⟩ | ⟨ρ, h⟩)
      · exact ⟨upd ρ x false, by rw [eval_node_false ρ bl]; exact h⟩
      · exact ⟨upd ρ x true, by rw [eval_node_true ρ bh]; exact h⟩
    · rintro ⟨ρ, h⟩
      simp only [eval] at h
      split at h
      · exact Or.inr ⟨ρ, h⟩
      · exact Or.inl ⟨ρ, h⟩


theorem exists_split {x : Nat} {a a₀ a₁ : Node α} {b b₀ b₁ : Node β} (ha : Cof x a a₀ a₁) (wa : WF a)
    (hb : Cof x b b₀ b₁) (wb : WF b) (u : α) (v : β) :
    (∃ ρ, eval a ρ = u ∧ eval b ρ = v) ↔
      (∃ ρ, eval a₀ ρ = u ∧ eval b₀ ρ = v) ∨ (∃ ρ, eval a₁ ρ = u ∧ eval b₁ ρ = v) := by
  constructor
  · rintro ⟨ρ, h1, h2⟩
    rw [ha.eval] at h1; rw [hb.eval] at h2
    cases hx : ρ x with
    | false => rw [hx] at h1 h2; exact Or.inl ⟨ρ, by simpa using h1, by simpa using h2⟩
    | true => rw [hx] at h1 h2; exact Or.inr ⟨ρ, by simpa using h1, by simpa using h2⟩
  · rintro (⟨ρ, h1, h2⟩ | ⟨ρ, h1, h2⟩)
    · exact ⟨upd ρ x false, (ha.eval_upd wa ρ false).trans h1, (hb.eval_upd wb ρ false).trans h2⟩
    · exact ⟨upd ρ x true, (ha.eval_upd wa ρ true).trans h1, (hb.eval_upd wb ρ true).trans h2⟩

/-- `VoidApply2Functor` visits exactly the pairs of values that the two diagrams take simultaneously -/
theorem mem_voidApply2 (u : α) (v : β) (a : Node α) (b : Node β) :
    WF a → WF b → ((u, v) ∈ voidApply2 a b ↔ ∃ ρ, eval a ρ = u ∧ eval b ρ = v) := by
  induction a, b using Step2.induct with
  | leaf v' w =>
    intro _ _
    rw [voidApply2, List.mem_singleton, Prod.mk.injEq]
    exact ⟨fun ⟨h1, h2⟩ => ⟨fun _ => false, h1.symm, h2.symm⟩, fun ⟨_, h1, h2⟩ => ⟨h1.symm, h2.symm⟩⟩
  | node d ih0 ih1 =>
    intro wa wb
    rw [d.voidApply2, List.mem_append, ih0 (d.cofA.wf wa).1 (d.cofB.wf wb).1, ih1 (d.cofA.wf wa).2 (d.cofB.wf wb).2]
    exact (exists_split d.cofA wa d.cofB wb u v).symm

namespace OpsEx

/-- `constructMTBDD("1X0", 5, 0)`: value 5 iff `x0 = 1 ∧ x2 = 0` -/
def exA : Node Nat := construct [some true, none, some false] 5 0
/-- `constructMTBDD("X1", 10, 0)` -/
def exB : Node Nat := construct [none, some true] 10 0
/-- `constructMTBDD("XX0", 100, 0)` -/
def exC : Node Nat := construct [none, none, some false] 100 0

theorem exA_eq : exA = .node 2 (.node 0 (.leaf 0) (.leaf 5)) (.leaf 0) := by decide
theorem exB_eq : exB = .node 1 (.leaf 0) (.leaf 10) := by decide
theorem exC_eq : exC = .node 2 (.leaf 100) (.leaf 0) := by decide
theorem exA_wf : WF exA := construct_wf _ _ _
theorem exB_wf : WF exB := construct_wf _ _ _
theorem exC_wf : WF exC := construct_wf _ _ _

example : construct [some true, none] 7 7 = .leaf 7 := by decide
example : eval exA (fun i => i == 0) = 5 := by decide
example : eval exA (fun i => i == 0 || i == 1) = 5 := by decide
example : eval exA (fun _ => true) = 0 := by decide
example : agrees (fun i => i == 0) [some true, none, some false] 0 = true := by decide

-- GetValue: the query `1XX` returns 5 although the concretisation `1X1` has the value 0
example : getValue exA [some true, none, none] = 5 := by decide
example : getValue exA [some true, none, some true] = 0 := by decide
example : Covers [some true, none, some false] exA := by
  rw [exA_eq]; exact ⟨⟨false, rfl⟩, ⟨⟨true, rfl⟩, trivial, trivial⟩, trivial⟩
example : getValue exA [some true, none, some false] = eval exA (fun i => i == 0) :=
  getValue_total _ _ (by decide) _ (by rw [exA_eq]; exact ⟨⟨false, rfl⟩, ⟨⟨true, rfl⟩, trivial, trivial⟩, trivial⟩)

example : apply1 (fun v => v + 1) exA = .node 2 (.node 0 (.leaf 1) (.leaf 6)) (.leaf 1) := by decide
example : apply1 (fun v => v % 5) exA = .leaf 0 := by decide
example : WF (apply1 (fun v => v + 1) exA) := apply1_wf _ exA_wf

example : apply2 (fun a b => a + b) exA exB
    = .node 2 (.node 1 (.node 0 (.leaf 0) (.leaf 5)) (.node 0 (.leaf 10) (.leaf 15))) (.node 1 (.leaf 0) (.leaf 10)) := by
  rw [exA_eq, exB_eq]; simp [apply2, mk]
example : WF (apply2 (fun a b => a + b) exA exB) := apply2_wf _ _ _ exA_wf exB_wf

example : apply3 (fun a b c => a + b + c) exA exB exC =
    .node 2 (.node 1 (.node 0 (.leaf 100) (.leaf 105)) (.node 0 (.leaf 110) (.leaf 115)))
      (.node 1 (.leaf 0) (.leaf 10)) := by
  rw [exA_eq, exB_eq, exC_eq]
  simp [apply3, branch3, leafOrLe, lowIf, highIf, topVar3, varOf, leafVal, mk]
example : WF (apply3 (fun a b c => a + b + c) exA exB exC) := apply3_wf _ _ _ _ exA_wf exB_wf exC_wf
example : eval (apply3 (fun a b c => a + b + c) exA exB exC) (fun i => i == 0) = 105 := by
  rw [apply3_eval]; decide

-- `operator==`: two different computations of the same function give the identical diagram
example : apply2 (fun a b => a + b) exA exB = apply2 (fun a b => b + a) exB exA :=
  (eq_iff_sem (apply2_wf _ _ _ exA_wf exB_wf) (apply2_wf _ _ _ exB_wf exA_wf)).mpr
    (fun ρ => by rw [apply2_eval, apply2_eval])
-- without reducedness the equivalence fails
example : (Node.node 0 (.leaf 1) (.leaf 1) : Node Nat) ≠ .leaf 1 ∧
    ∀ ρ, eval (Node.node 0 (.leaf 1) (.leaf 1) : Node Nat) ρ = eval (.leaf 1) ρ :=
  ⟨by decide, fun ρ => by simp [eval]⟩

example : projectVar 0 max exA = .node 2 (.leaf 5) (.leaf 0) := by
  rw [exA_eq]; simp [projectVar, project, apply2, mk]
example : projectVar 2 max exA = .node 0 (.leaf 0) (.leaf 5) := by
  rw [exA_eq]; simp [projectVar, project, apply2, mk]
example : project (fun _ => true) max exA = .leaf 5 := by
  rw [exA_eq]; simp [project, apply2]
example (ρ : Nat → Bool) : eval (projectVar 0 max exA) ρ = max (eval exA (upd ρ 0 false)) (eval exA (upd ρ 0 true)) :=
  project_eval 0 max Nat.max_self ρ exA_wf
/-- idempotence is necessary: with addition (the unit test of the library) a variable that has been removed by the
    reduction is not "summed over" -/
example : eval (projectVar 0 (fun a b => a + b) (Node.leaf 1)) (fun _ => false)
    ≠ eval (Node.leaf 1) (upd (fun _ => false) 0 false) + eval (Node.leaf 1) (upd (fun _ => false) 0 true) := by
  decide

example : rename (fun x => 2 * x + 1) exA = .node 5 (.node 1 (.leaf 0) (.leaf 5)) (.leaf 0) := by decide
example : WF (rename (fun x => 2 * x + 1) exA) := rename_wf _ (fun x y h => by omega) exA_wf
/-- a renaming that does not respect the order breaks orderedness -/
example : ¬ WF (rename (fun x => 2 - x) exA) := by
  rw [exA_eq]; simp [rename, WF, Below]

example : getPaths exA =
    [([some false, none, some false], 0), ([some true, none, some false], 5), ([none, none, some true], 0)] := by
  decide
example : getPaths (Node.leaf 3) = [([], 3)] := by decide

example : extendWith [some true, some false] 3 exA 0
    = .node 4 (.node 3 (.leaf 0) (.node 2 (.node 0 (.leaf 0) (.leaf 5)) (.leaf 0))) (.leaf 0) := by decide
example : WF (extendWith [some true, some false] 3 exA 0) :=
  extendWith_wf _ _ _ _ exA_wf (by rw [exA_eq]; simp [Below])
example : getPrefix [some true, some false] 3 (extendWith [some true, some false] 3 exA 0) = exA := by decide
example : getPrefix [some false, some false] 3 (extendWith [some true, some false] 3 exA 0) = .leaf 0 := by decide

example : voidApply2 exB exC = [(0, 100), (10, 100), (0, 0), (10, 0)] := by
  rw [exB_eq, exC_eq]; simp [voidApply2]
example : voidApply1 exA = [0, 5, 0] := by decide

end OpsEx
end Vata.M
