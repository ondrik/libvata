import Vata.TimbukGrammar
/-!
# The word loop, numerals and tokens of the Timbuk grammar are what the parser computes (property C13)
-/
namespace Vata.Timbuk

theorem words_word {l : Str} {ws : List Str} (h : Words l ws) : ∀ w ∈ ws, Word w := by
  induction h with
  | nil hg => intro w hw; cases hw
  | cons hg hw hr hrest ih =>
    intro x hx
    rcases List.mem_cons.mp hx with hx | hx
    · subst hx; exact hw
    · exact ih x hx

theorem headWs_nil : HeadWs [] := by intro c hc; cases hc

theorem headWs_append_allWs {r post : Str} (hr : HeadWs r) (hp : AllWs post) : HeadWs (r ++ post) := by
  intro c hc
  cases r with
  | nil =>
    cases post with
    | nil => cases hc
    | cons a q =>
      simp only [List.nil_append, List.head?_cons, Option.some.injEq] at hc
      subst hc; exact hp _ List.mem_cons_self
  | cons a q => exact hr c (by simpa using hc)

theorem Words.append_ws {r post : Str} {ws : List Str} (h : Words r ws) (hp : AllWs post) : Words (r ++ post) ws := by
  induction h with
  | nil hg => exact Words.nil (allWs_append hg hp)
  | @cons g w rest ws hg hw hr hrest ih =>
    have : g ++ w ++ rest ++ post = g ++ w ++ (rest ++ post) := by simp
    rw [this]
    exact Words.cons hg hw (headWs_append_allWs hr hp) ih

theorem words_readWords {l : Str} {ws : List Str} (h : Words l ws) : readWords (trim l) = ws := by
  induction h with
  | nil hg => rw [trim_allWs hg, readWords_nil]
  | @cons g w rest ws hg hw hr hrest ih =>
    obtain ⟨p, q, hrest_eq, hp, hq, hh, hl⟩ := trim_decomp rest
    by_cases hc : trim rest = []
    · have hall : AllWs rest := (trim_eq_nil_iff rest).mp hc
      rw [trim_pad w hg hall hw.2.headOk hw.2.lastOk, readWords_ne hw.1, readWord_word hw.2]
      simp only
      rw [readWords_nil, ← ih, hc, readWords_nil]
    · have hpne : p ≠ [] := by
        intro hp0
        subst hp0
        obtain ⟨c, r, hcr, hsp⟩ := trim_ne_nil_head hc
        have := hr c (by rw [hrest_eq, hcr]; rfl)
        rw [hsp] at this; cases this
      have e : g ++ w ++ rest = g ++ (w ++ (p ++ trim rest)) ++ q := by
        conv => lhs; rw [hrest_eq]
        simp
      have hpc : p ++ trim rest ≠ [] := by simp [hc]
      have hl' : LastOk (w ++ (p ++ trim rest)) := by
        have : w ++ (p ++ trim rest) = (w ++ p) ++ trim rest := by simp
        rw [this]; exact lastOk_append hc hl
      have hne : w ++ (p ++ trim rest) ≠ [] := by simp [hw.1]
      rw [e, trim_pad _ hg hq (headOk_append hw.1 hw.2.headOk) hl', readWords_ne hne,
        readWord_append hw.2 (headWs_of_allWs _ hp hpne)]
      simp only
      have : trim (p ++ trim rest) = trim rest := trim_padL _ hp hh hl
      rw [this, ih]

theorem core_split {c : Str} (hc : c ≠ []) (hh : HeadOk c) :
    ∃ w r, c = w ++ r ∧ Word w ∧ HeadWs r ∧ readWords c = w :: readWords (trim r) := by
  obtain ⟨h1, h2, h3⟩ := span_decomp (fun x => !isSpace x) c
  refine ⟨_, _, h1, ⟨?_, fun x hx => by simpa using h2 x hx⟩, fun x hx => by simpa using h3 x hx,
    by rw [readWords_ne hc]; rfl⟩
  cases c with
  | nil => exact absurd rfl hc
  | cons a r =>
    have hsp : isSpace a = false := hh a rfl
    rw [List.takeWhile_cons_of_pos (by simp [hsp])]; simp

theorem readWords_words_aux : ∀ n, ∀ l : Str, l.length ≤ n → Words l (readWords (trim l)) := by
  intro n
  induction n with
  | zero =>
    intro l hl
    have : l = [] := List.length_eq_zero_iff.mp (Nat.le_zero.mp hl)
    subst this
    rw [trim_allWs allWs_nil, readWords_nil]
    exact Words.nil allWs_nil
  | succ n ih =>
    intro l hl
    by_cases hc : trim l = []
    · rw [hc, readWords_nil]; exact Words.nil ((trim_eq_nil_iff l).mp hc)
    · obtain ⟨pre, post, hl_eq, hpre, hpost, hh, hlast⟩ := trim_decomp l
      obtain ⟨w, r, hsplit, hw, hhw, hrw⟩ := core_split hc hh
      have hlen : r.length ≤ n := by
        have h1 := congrArg List.length hl_eq
        have h2 := congrArg List.length hsplit
        simp only [List.length_append] at h1 h2
        have h3 : 0 < w.length := List.length_pos_iff.mpr hw.1
        omega
      have hrec := ih _ hlen
      rw [hrw]
      have hfin := Words.cons hpre hw (headWs_append_allWs hhw hpost) (hrec.append_ws hpost)
      have e : pre ++ w ++ (r ++ post) = l := by
        rw [hl_eq, hsplit]; simp
      rw [e] at hfin
      exact hfin

theorem words_iff (l : Str) (ws : List Str) : Words l ws ↔ readWords (trim l) = ws := by
  constructor
  · exact words_readWords
  · rintro rfl
    exact readWords_words_aux l.length l (Nat.le_refl _)

theorem signSplit_of_head {s : Str} (h : ∀ c, s.head? = some c → c ≠ '-' ∧ c ≠ '+') : signSplit s = (false, s) := by
  unfold signSplit
  split
  · exact absurd rfl (h '-' rfl).1
  · exact absurd rfl (h '+' rfl).2
  · rfl

theorem digits_head_sign {ds junk : Str} (hd : Digits ds) :
    ∀ c, (ds ++ junk).head? = some c → c ≠ '-' ∧ c ≠ '+' := by
  intro c hc
  obtain ⟨hne, hall⟩ := hd
  cases ds with
  | nil => exact absurd rfl hne
  | cons a r =>
    simp only [List.cons_append, List.head?_cons, Option.some.injEq] at hc
    subst hc
    have := hall a List.mem_cons_self
    exact ⟨isDigit_ne this (by decide), isDigit_ne this (by decide)⟩

theorem takeWhile_digits {ds junk : Str} (hd : Digits ds) (hj : NoDigitHead junk) :
    (ds ++ junk).takeWhile isDigit = ds := by
  rw [List.takeWhile_append_of_pos hd.2, takeWhile_headNeg hj, List.append_nil]

theorem isEmpty_digits {ds : Str} (hd : Digits ds) : ds.isEmpty = false := by
  obtain ⟨hne, _⟩ := hd
  cases ds with
  | nil => exact absurd rfl hne
  | cons a r => rfl

/-- without a minus sign: the digits after the split are the value -/
theorem fromStringInt_unsigned {s ds junk : Str} (hs : signSplit s = (false, ds ++ junk)) (hd : Digits ds)
    (hj : NoDigitHead junk) (hmax : (digitsVal ds : Int) ≤ intMax) : fromStringInt s = .ok (digitsVal ds) := by
  have hmin : ¬ ((digitsVal ds : Int) < intMin) := by
    have : (0 : Int) ≤ (digitsVal ds : Int) := Int.natCast_nonneg _
    unfold intMin; omega
  have hmax' : ¬ (intMax < (digitsVal ds : Int)) := by omega
  simp [fromStringInt, hs, takeWhile_digits hd hj, isEmpty_digits hd, hmin, hmax']

theorem numeral_fromStringInt {s : Str} {v : Int} (h : Numeral s v) : fromStringInt s = .ok v := by
  cases h with
  | pos hd hj hmax => exact fromStringInt_unsigned (signSplit_of_head (digits_head_sign hd)) hd hj hmax
  | plus hd hj hmax => exact fromStringInt_unsigned rfl hd hj hmax
  | @minus ds junk hd hj hmin =>
    have hmin' : ¬ (- (digitsVal ds : Int) < intMin) := by omega
    have hmax : ¬ (intMax < - (digitsVal ds : Int)) := by
      have : (0 : Int) ≤ (digitsVal ds : Int) := Int.natCast_nonneg _
      unfold intMax; omega
    have hs : signSplit ('-' :: (ds ++ junk)) = (true, ds ++ junk) := rfl
    simp [fromStringInt, hs, takeWhile_digits hd hj, isEmpty_digits hd, hmin', hmax]

theorem digits_split (t : Str) (h : (t.takeWhile isDigit).isEmpty = false) :
    t = t.takeWhile isDigit ++ t.dropWhile isDigit ∧ Digits (t.takeWhile isDigit) ∧
      NoDigitHead (t.dropWhile isDigit) := by
  obtain ⟨h1, h2, h3⟩ := span_decomp isDigit t
  refine ⟨h1, ⟨fun h0 => ?_, h2⟩, h3⟩
  rw [h0] at h; cases h

theorem fromStringInt_ok {s : Str} {v : Int} (h : fromStringInt s = .ok v) :
    ((signSplit s).2.takeWhile isDigit).isEmpty = false ∧
    v = (if (signSplit s).1 then - (digitsVal ((signSplit s).2.takeWhile isDigit) : Int)
      else (digitsVal ((signSplit s).2.takeWhile isDigit) : Int)) ∧ intMin ≤ v ∧ v ≤ intMax := by
  unfold fromStringInt at h
  simp only at h
  generalize (signSplit s).1 = neg at *
  generalize ((signSplit s).2.takeWhile isDigit) = ds at *
  cases hemp : ds.isEmpty
  · rw [hemp] at h
    simp only [Bool.false_eq_true, if_false] at h
    generalize (if neg = true then - (digitsVal ds : Int) else (digitsVal ds : Int)) = x at *
    by_cases hb : (decide (x < intMin) || decide (intMax < x)) = true
    · rw [if_pos hb] at h; cases h
    · rw [if_neg hb] at h
      injection h with h
      subst h
      simp only [Bool.or_eq_true, decide_eq_true_eq, not_or, Int.not_lt] at hb
      exact ⟨rfl, rfl, hb.1, hb.2⟩
  · rw [hemp] at h
    simp only [if_true] at h
    cases h

theorem signSplit_cases (s : Str) :
    (∃ t, s = '-' :: t ∧ signSplit s = (true, t)) ∨ (∃ t, s = '+' :: t ∧ signSplit s = (false, t)) ∨
      signSplit s = (false, s) := by
  unfold signSplit
  split
  · exact Or.inl ⟨_, rfl, rfl⟩
  · exact Or.inr (Or.inl ⟨_, rfl, rfl⟩)
  · exact Or.inr (Or.inr rfl)

theorem fromStringInt_numeral {s : Str} {v : Int} (h : fromStringInt s = .ok v) : Numeral s v := by
  obtain ⟨hemp, hv, hmin, hmax⟩ := fromStringInt_ok h
  obtain ⟨hsplit, hd, hj⟩ := digits_split _ hemp
  subst hv
  rcases signSplit_cases s with ⟨t, rfl, hs⟩ | ⟨t, rfl, hs⟩ | hs
  · rw [hs] at hsplit hd hj hmin ⊢
    have := Numeral.minus hd hj hmin
    rw [← hsplit] at this
    exact this
  · rw [hs] at hsplit hd hj hmax ⊢
    have := Numeral.plus hd hj hmax
    rw [← hsplit] at this
    exact this
  · rw [hs] at hsplit hd hj hmax ⊢
    have := Numeral.pos hd hj hmax
    rw [← hsplit] at this
    exact this

theorem numeral_iff (s : Str) (v : Int) : Numeral s v ↔ fromStringInt s = .ok v :=
  ⟨numeral_fromStringInt, fromStringInt_numeral⟩

theorem token_iff {w : Str} (hw : NoWs w) (n : Str) (r : Int) : Token w n r ↔ parseColonned w = .ok (n, r) := by
  constructor
  · intro h
    cases h with
    | plain hc => exact parseColonned_plain hw hc
    | @ranked _ num _ hc hnum =>
      unfold parseColonned
      simp only [trim_noWs hw, dropWhile_ne_append hc num, takeWhile_ne_append hc num, (numeral_iff num r).mp hnum]
  · intro h
    unfold parseColonned at h
    simp only [trim_noWs hw] at h
    rcases find_char ':' w with ⟨hd, hc⟩ | ⟨q, hd, hsplit, hc⟩
    · rw [hd] at h
      simp only [Except.ok.injEq, Prod.mk.injEq] at h
      obtain ⟨rfl, rfl⟩ := h
      exact Token.plain hc
    · rw [hd] at h
      simp only at h
      cases hq : fromStringInt q with
      | error e => rw [hq] at h; cases h
      | ok v =>
        rw [hq] at h
        simp only [Except.ok.injEq, Prod.mk.injEq] at h
        obtain ⟨rfl, rfl⟩ := h
        have := Token.ranked hc ((numeral_iff q v).mpr hq)
        rw [← hsplit] at this
        exact this

theorem tokens_iff {ws : List Str} (hws : ∀ w ∈ ws, NoWs w) (ps : List (Str × Int)) :
    Tokens ws ps ↔ parseTokens ws = .ok ps := by
  induction ws generalizing ps with
  | nil =>
    constructor
    · intro h; cases h; rfl
    · intro h
      simp only [parseTokens, Except.ok.injEq] at h
      subst h; exact Tokens.nil
  | cons w ws ih =>
    have hw : NoWs w := hws w List.mem_cons_self
    have hws' : ∀ x ∈ ws, NoWs x := fun x hx => hws x (List.mem_cons_of_mem _ hx)
    constructor
    · intro h
      cases h with
      | @cons _ n r _ ps' ht hts =>
        simp only [parseTokens, (token_iff hw n r).mp ht, (ih hws' ps').mp hts]
    · intro h
      unfold parseTokens at h
      cases h1 : parseColonned w with
      | error e => rw [h1] at h; cases h
      | ok p =>
        rw [h1] at h
        simp only at h
        cases h2 : parseTokens ws with
        | error e => rw [h2] at h; cases h
        | ok ps' =>
          rw [h2] at h
          simp only [Except.ok.injEq] at h
          subst h
          obtain ⟨n, r⟩ := p
          exact Tokens.cons ((token_iff hw n r).mpr h1) ((ih hws' ps').mpr h2)

end Vata.Timbuk
