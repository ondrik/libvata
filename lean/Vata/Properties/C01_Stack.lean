import Vata.Proofs.InclDownStackTop
import Vata.Proofs.InclUpWitness
/-!
# C01 — the call emulator of the non-recursive downward inclusion AS CODED

**Property served (C01).**  The verdict of `CheckInclusion` is exact for every selection of the algorithm; here the
selection `ANTICHAINS_DOWN_NONREC_NOSIM` (`src/explicit_tree_incl_down.cc`).  `Vata/Properties/C01.lean` proves exactness
for the model `inclDownNonrec`, in which the function `expand` is *recursive* (`InclDown.expandN`), and lists under "not
yet proved" that the real `expand` is written without recursion (explicit stack of `ExpandStackFrame`s,
`ExpandCallEmulator`, the macros `EXPAND_CALL` / `EXPAND_PUSH` / `EXPAND_RETURN` / `EXPAND_POP_RETURN`, the labels `_call`,
`_simret`, `_stdret`, `_nextchoice`, `_nexttuple`, `_end`).  This file closes that item.

**How the C++ is read into the model** (`Vata/InclDownStack.lean`, each transition quotes its C++ lines):
`Frame` = `struct ExpandStackFrame` (all fields the C++ `push` / `pop` save and restore), `Machine` = `top`, the saved
frames, the antichains `workset` and `nonincluded`, the registers `r_i`, `S`, `retAddr`, `found`, and a program counter
with one value per label / loop head; `stepM` is one transition, `runM n` at most `n` transitions (`none` = more are
needed).  `expandStack` starts the machine in the initial state of `expand`; `rootLoopS` / `runS` are
`checkInternal`; `inclDownNonrecStack` adds the certify-then-trust end of `inclDownNonrec`.
`ExpandCallEmulator::pop` is a parameter of the machine (`popAll` = the C++: every field is restored).

**Abstracted** (as in the recursive model, whose functions are reused for the call-free local computations):
iterators are suffixes of lists, hash-container orders are list orders; `smallerIndex` / `biggerIndex` and the
construction of `W` are `lhsGroups` / `lhsTuples` / `rhsTuples`; the `post` antichain is `posSet` with `maxElems`; the
`Antichain2Cv2` operations with `lte` / `gte` are `covers` / `niFind` / `niAdd`; `biggerTypeCache` / `lteCache` are
transparent; the test `smallerIndex.size() <= r_i` is the general path; the recycled-frame `swap`s of `push` leave dead
values; witnesses (`trees`, the tree inside `found`) and `trues` are ghost state for the certificate.

**Proved.**  One induction on the fuel of `expandN` (`InclDownStack.expandN_reach_n`, counting the transitions), with one simulation lemma per C++
loop (`reach_simI_n`, `reach_tuple2_n`, `reach_cfI_n`, `reach_cfAll_n` — the `do … while (choiceFunction.next())` enumeration
against the nested recursion `cfAll` —, `reach_procTuple_n`, `reach_tuples_n`, `reach_body_n`): from `_call` with ANY `top` and
ANY stack of saved frames the machine reaches `EXPAND_RETURN` with the same `top`, the same stack, the same work-set,
`r_i`, `S`, `retAddr` as at the call, `found` = the verdict of `expandN` and `nonincluded` (and `trues`) = those of
`expandN`.  The full machine is covered, not only a skeleton.
-/
namespace Vata.Props
open InclDown InclDownStack
open InclUp (Wit Cert prodWit)

/-- **The stack machine refines the recursion.**  Whenever the recursive model `expandN` of `expand` (with any fuel, any
preorder `o`, on any automata, any contents of `nonincluded`) returns a result for the root call `(p, P)`, the stack
machine as coded, started in the initial state of `expand`, returns within some number `n` of transitions — and for
every larger bound — exactly the same verdict (with the same witness tree) and exactly the same final `nonincluded` (the
antichain that persists across the calls of `expand` from `checkInternal`) and ghost `trues`.  `expandN` itself passes
the `childrenCache` argument through. -/
theorem C01_stack_machine_refines_recursion (o : Ord) (A B : TA) (wit : Wit) (fuel : Nat) (cc : List Pair) (st : St)
    (p : Nat) (P : List Nat) (v : Verdict) (cc' : List Pair) (st' : St)
    (h : expandN o A B wit fuel [] cc st p P = some (v, cc', st')) :
    cc' = cc ∧ ∃ n, ∀ k, n ≤ k → expandStack o A B wit popAll k st p P = some (v, st') :=
  ⟨(expandN_reach_n fuel [] cc st p P v cc' st' h).1, _, expandStack_of_expandN_n h⟩

/-- the same for a call at any depth: from `_call` with any `top`, any saved frames `K`, the work-set `ws`, any return
address `k`, the machine gets to `EXPAND_RETURN` with everything restored, `found` and the antichains as the recursive
model says (the simulation invariant itself) -/
theorem C01_stack_machine_call_return (o : Ord) (A B : TA) (wit : Wit) (fuel : Nat) (ws cc : List Pair) (st : St)
    (q : Nat) (Q : List Nat) (v : Verdict) (cc' : List Pair) (st' : St)
    (h : expandN o A B wit fuel ws cc st q Q = some (v, cc', st')) (top : Frame) (K : List Frame) (k : Nat)
    (f0 : Verdict) :
    Reach o A B wit ⟨.call, top, K, ws, st, q, Q, k, f0⟩ ⟨.ret, top, K, ws, st', q, Q, k, v⟩ :=
  ((expandN_reach_n fuel ws cc st q Q v cc' st' h).2 top K k f0).toReach

/-- `checkInternal` and the certified wrapper: every answer of the recursive models (`runN`, `inclDownNonrec`, any fuel)
is the answer of the stack-machine models for every sufficiently large bound on the transitions of one `expand` -/
theorem C01_stack_checkInternal_refines (A B : TA) (fuel : Nat) :
    (∀ o r, runN o A B fuel = some r → ∃ n, ∀ k, n ≤ k → runS o A B popAll k = some r) ∧
    (∀ r, inclDownNonrec A B fuel = some r → ∃ n, ∀ k, n ≤ k → inclDownNonrecStack A B k = some r) :=
  ⟨fun _ _ h => ⟨_, fun _ hk => runS_of_runN_n h hk⟩, fun _ h => ⟨_, fun _ hk => inclDownNonrecStack_of_rec_n h hk⟩⟩

/-- **Exactness of the stack machine.**  Every answer of `inclDownNonrecStack` (any operands, any bound `k`) is the
answer of the recursive model with the fuel `fuelBoundD A B + 1`, and its verdict is exact. -/
theorem C01_nonrec_stack_exact (A B : TA) (k : Nat) (b : Bool) (c : Cert)
    (h : inclDownNonrecStack A B k = some (b, c)) :
    inclDownNonrec A B (fuelBoundD A B + 1) = some (b, c) ∧ (b = true ↔ Incl A B) :=
  ⟨inclDownNonrecStack_eq h, inclDownNonrec_iff (inclDownNonrecStack_eq h)⟩

/- Full statement asked for: "… and total above an explicit bound (steps ≤ some function of the recursive fuel bound)":
   `∀ k, stepBound A B ≤ k → (Incl A B → ∃ c, inclDownNonrecStack A B k = some (true, c)) ∧ (¬ Incl A B → …false…)` with
   an explicit `stepBound`.  Proved below with an existential bound only; with the explicit bound it is
   `C01_nonrec_stack_total` in `Vata/Properties/C01_StackBound.lean` (the simulation lemmas count the transitions). -/
/-- **Totality (partial: the bound is not explicit).**  When the children of all rules of `A` are productive (the
hypothesis of `C01_downward_core_exact`, needed already for the recursive model; `InclDownEx.exUs` is the counterexample
without it) there is a number of transitions above which the stack machine returns the right verdict. -/
theorem C01_nonrec_stack_total_partial (A B : TA) (hA : KidsProductive A) :
    ∃ n, ∀ k, n ≤ k → (Incl A B → ∃ c, inclDownNonrecStack A B k = some (true, c)) ∧
      (¬ Incl A B → ∃ c, inclDownNonrecStack A B k = some (false, c)) :=
  ⟨_, fun _ hk => inclDownNonrecStack_complete hA hk⟩

/-! ### non-vacuity

(`decide +kernel`: plain kernel evaluation of the closed Boolean statement, no axiom; the elaborator's own evaluator
needs minutes for 60 transitions) -/

/-- the Boolean part of a result of `expand` -/
def verdictBit (r : Option (Verdict × InclDown.St)) : Option Bool :=
  r.map (fun x => match x.1 with | .holds => true | .fails _ => false)

-- the hypothesis of `C01_stack_machine_refines_recursion` on a non-trivial call (`g(x,y)` against `g(a,a) | g(b,b)`):
-- the recursive model answers (`false`), and so does the machine within 60 transitions
example : (expandN idOrd InclDownEx.exG InclDownEx.exH (prodWit InclDownEx.exG) 10 [] [] ⟨[], []⟩ 2 [9]).isSome = true := by
  decide +kernel
example : verdictBit ((expandN idOrd InclDownEx.exG InclDownEx.exH (prodWit InclDownEx.exG) 10 [] [] ⟨[], []⟩ 2 [9]).map
    (fun x => (x.1, x.2.2))) = some false := by decide +kernel
example : verdictBit (expandStack idOrd InclDownEx.exG InclDownEx.exH (prodWit InclDownEx.exG) popAll 60 ⟨[], []⟩ 2 [9])
    = some false := by decide +kernel
-- both verdicts of the certified wrapper occur; too few transitions give `none`
theorem exG_stack_60 : (inclDownNonrecStack InclDownEx.exG InclDownEx.exH 60).map (·.1) = some false := by decide +kernel
theorem exG_stack_30 : (inclDownNonrecStack InclDownEx.exG InclDownEx.exH 30).map (·.1) = none := by decide +kernel

example : (inclDownNonrecStack InclDownEx.exG InclDownEx.exH 60).map (·.1) = some false := exG_stack_60
example : (inclDownNonrecStack InclDownEx.exH InclDownEx.exG 50).map (·.1) = some true := by decide +kernel
example : (inclDownNonrecStack InclDownEx.exG InclDownEx.exH 30).map (·.1) = none := exG_stack_30
example : KidsProductive InclDownEx.exG := (InclUp.trimmed_of_allUsefulB (by decide)).1

/-! ### regression: a `pop` that forgets to restore one local

`ExpandCallEmulator::pop` restores `top.a` (`top.a = ptr_->a;`).  `popNoA` does not: after a simulated return the caller
continues with the callee's symbol counter, which stands at the end of the callee's cluster, and skips its own
remaining symbols.  `A` : `a → 1`, `f(1) → 2`, `b → 2`, final `2` (the language `{f(a), b}`); `B` : `a → 11`,
`f(11) → 12`, final `12` (`{f(a)}`).  The machine of the C++ answers `false` (the tree `b`), the faulty one `true`. -/

def regA : TA := ⟨[⟨0, [], 1⟩, ⟨1, [1], 2⟩, ⟨2, [], 2⟩], [2]⟩
def regB : TA := ⟨[⟨0, [], 11⟩, ⟨1, [11], 12⟩], [12]⟩

example : rawVerdictStack popAll regA regB 25 = some false := by decide +kernel
example : rawVerdictStack popNoA regA regB 25 = some true := by decide +kernel
example : ∃ c, inclDownNonrecStack regA regB 25 = some (false, c) := ⟨_, rfl⟩
example : ¬ Incl regA regB := fun h =>
  absurd ((C01_nonrec_stack_exact regA regB 25 false (.witness (.node 2 [])) rfl).2.mpr h) (by decide)

/-!
## still not proved

* **No explicit bound on the number of transitions.**  `C01_nonrec_stack_total_partial` gives *some* number of
  transitions above which the machine answers.  An explicit bound (a function of `fuelBoundD A B`, `|A.rules|`,
  `|B.rules|` and the maximal arity: per frame at most `|A.rules|² · (|B.rules|·arity + arity^|B.rules|·arity)` calls) is
  not proved in this file: it is `stepBound` of `Vata/Properties/C01_StackBound.lean`.
* The refinement is stated for the answers of the recursive model (`some`); when `expandN` runs out of its fuel (`none`,
  the nesting depth) nothing is claimed here — the machine has no depth limit; by `C01_nonrec_stack_exact` whatever it
  answers is the answer of the recursive model with the fuel `fuelBoundD A B + 1`.
* Only the `NOSIM` wrapper (`inclDownNonrecStack`, preorder `idOrd`) is defined; `C01_stack_machine_refines_recursion` and
  `runS_of_runN_n` hold for every preorder `o`, but the wrapper with a validated simulation (`inclDownNonrecSim`) on top of
  `runS` is not written out.
* The call-free local computations are those of the recursive model (see "Abstracted"): the index structures, the
  inner loops that fill `W` and `post`, the caches `biggerTypeCache` / `lteCache` and the real `Antichain2Cv2` class are
  not re-modelled here; the `CachingAllocator` recycling of frames is modelled as dead values.
-/
end Vata.Props
