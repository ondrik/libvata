import Vata.Lang
import Vata.Nfa
/-!
# Word automata inside the tree-automata engine (L1)

An NFA is embedded as a tree automaton over the unary signature `{#:0} ∪ {a+1 : 1}`: the word `a₁…aₙ` is the tree
`aₙ(…a₁(#))`.  `accepts (toTA N) (treeOf w) = acceptsW N w`, and no other tree is accepted, so every Boolean
combination of word-acceptance by several NFAs, quantified over all words, is decided exactly by `forallTrees`
(`forallWords_iff`).
-/
namespace Vata
open Vata.W

def toTA (N : NFA) : TA :=
  ⟨N.start.map (fun q => ⟨0, [], q⟩) ++ N.trans.map (fun e => ⟨e.2.1 + 1, [e.1], e.2.2⟩), N.final⟩

/-- the tree of a word given in reverse (last letter first) -/
def treeOfR : List Nat → Tree
  | [] => .node 0 []
  | a :: r => .node (a + 1) [treeOfR r]

def treeOf (w : List Nat) : Tree := treeOfR w.reverse

theorem mem_reach_leaf (N : NFA) (q : Nat) : q ∈ reach (toTA N) (.node 0 []) ↔ q ∈ N.start := by
  rw [reach, mem_post']
  simp only [toTA, List.mem_append, List.mem_map, reachL]
  constructor
  · rintro ⟨r, h | h, hs, hm, hp⟩
    · obtain ⟨q', hq', rfl⟩ := h; simp at hp; subst hp; exact hq'
    · obtain ⟨e, _, rfl⟩ := h; simp at hs
  · intro h; exact ⟨⟨0, [], q⟩, Or.inl ⟨q, h, rfl⟩, rfl, by simp [matchKids], rfl⟩

theorem mem_reach_unary (N : NFA) (a : Nat) (t : Tree) (q : Nat) :
    q ∈ reach (toTA N) (.node (a + 1) [t]) ↔ q ∈ stepW N (reach (toTA N) t) a := by
  rw [mem_reach_node]
  simp only [toTA, List.mem_append, List.mem_map, stepW, List.mem_filter, Bool.and_eq_true,
    List.contains_iff_mem, beq_iff_eq]
  constructor
  · rintro ⟨r, ⟨q', _, rfl⟩ | ⟨e, he, rfl⟩, hs, hk, hp⟩
    · cases hs
    · cases hk with | cons hd _ => exact ⟨e, ⟨he, hd, Nat.succ_inj.mp hs⟩, hp⟩
  · rintro ⟨e, ⟨he, hm, hs⟩, hp⟩
    exact ⟨_, Or.inr ⟨e, he, rfl⟩, congrArg (· + 1) hs, .cons hm .nil, hp⟩

theorem reach_treeOfR (N : NFA) : ∀ (r : List Nat) (q : Nat), q ∈ reach (toTA N) (treeOfR r) ↔ q ∈ run N r.reverse
  | [], q => by simp [treeOfR, mem_reach_leaf, run]
  | a :: r, q => by
    rw [treeOfR, mem_reach_unary, List.reverse_cons, run_snoc]
    have ih : W.SetEq (reach (toTA N) (treeOfR r)) (run N r.reverse) := fun x => reach_treeOfR N r x
    rw [stepW_congr N ih]

theorem accepts_treeOf (N : NFA) (w : List Nat) : accepts (toTA N) (treeOf w) = acceptsW N w := by
  have h : W.SetEq (reach (toTA N) (treeOf w)) (run N w) := by
    intro q; rw [treeOf, reach_treeOfR, List.reverse_reverse]
  simp only [accepts, acceptsW]
  rw [← W.accepting_congr N h]
  rfl

/-! ### trees that are not words are rejected -/

def isWordTree : Tree → Bool
  | .node 0 [] => true
  | .node (_ + 1) [t] => isWordTree t
  | _ => false

def wordOfTreeR : Tree → List Nat
  | .node (a + 1) [t] => a :: wordOfTreeR t
  | _ => []

theorem treeOfR_wordOfTreeR : ∀ t : Tree, isWordTree t = true → treeOfR (wordOfTreeR t) = t
  | .node 0 [] => fun _ => rfl
  | .node 0 (_ :: _) => by simp [isWordTree]
  | .node (a + 1) [] => by simp [isWordTree]
  | .node (a + 1) [t] => by
    intro h
    simp only [isWordTree] at h
    simp only [wordOfTreeR, treeOfR, treeOfR_wordOfTreeR t h]
  | .node (a + 1) (_ :: _ :: _) => by simp [isWordTree]

/-- a rule of `toTA N` has the shape `#() → q` or `(a+1)(p) → q`; so a tree of another shape, or over a tree without
states, has no state -/
theorem reach_nil_of_not_word (N : NFA) : ∀ t : Tree, isWordTree t = false → reach (toTA N) t = [] := by
  refine tree_induction fun f ts ih hw => List.eq_nil_iff_forall_not_mem.mpr fun q hq => ?_
  obtain ⟨r, hr, hs, hk, _⟩ := mem_reach_node.mp hq
  simp only [toTA, List.mem_append, List.mem_map] at hr
  rcases hr with ⟨q', _, rfl⟩ | ⟨e, _, rfl⟩
  · cases hk
    cases hs
    cases hw
  · cases hk with
    | cons hd tl =>
      cases tl
      cases hs
      rw [ih _ List.mem_cons_self hw] at hd
      cases hd

/-- every tree is the tree of a word or is rejected by every embedded automaton -/
theorem tree_cases (t : Tree) : (∃ w, t = treeOf w) ∨ (∀ N : NFA, accepts (toTA N) t = false) := by
  cases h : isWordTree t
  · right; intro N; exact accepts_false_of_reach_nil (reach_nil_of_not_word N t h)
  · left
    refine ⟨(wordOfTreeR t).reverse, ?_⟩
    rw [treeOf, List.reverse_reverse, treeOfR_wordOfTreeR t h]

/-! ### the decision procedure on words -/

def forallWords (Ns : List NFA) (φ : List Bool → Bool) (fuel : Nat) : Option Bool :=
  forallTrees (Ns.map toTA) φ fuel

/-- the second conjunct is the one tree-side case that no word covers: a tree that is not the image of a word is
rejected by every `toTA N` -/
theorem forallWords_iff (Ns : List NFA) (φ : List Bool → Bool) (fuel : Nat) (b : Bool)
    (h : forallWords Ns φ fuel = some b) :
    b = true ↔ (∀ w, φ (Ns.map (fun N => acceptsW N w)) = true) ∧ φ (Ns.map (fun _ => false)) = true := by
  rw [forallWords] at h
  rw [forallTrees_iff _ _ _ _ h]
  simp only [List.map_map]
  constructor
  · intro hall
    constructor
    · intro w
      have := hall (treeOf w)
      have heq : List.map ((fun A => accepts A (treeOf w)) ∘ toTA) Ns = Ns.map (fun N => acceptsW N w) := by
        apply List.map_congr_left; intro N _; exact accepts_treeOf N w
      rw [heq] at this; exact this
    · -- a tree that is not a word: #(#)
      have := hall (.node 0 [.node 0 []])
      have heq : List.map ((fun A => accepts A (.node 0 [.node 0 []])) ∘ toTA) Ns = Ns.map (fun _ => false) := by
        apply List.map_congr_left; intro N _
        exact accepts_false_of_reach_nil (reach_nil_of_not_word N _ (by simp [isWordTree]))
      rw [heq] at this; exact this
  · rintro ⟨hw, hf⟩ t
    rcases tree_cases t with ⟨w, rfl⟩ | hrej
    · have heq : List.map ((fun A => accepts A (treeOf w)) ∘ toTA) Ns = Ns.map (fun N => acceptsW N w) := by
        apply List.map_congr_left; intro N _; exact accepts_treeOf N w
      rw [heq]; exact hw w
    · have heq : List.map ((fun A => accepts A t) ∘ toTA) Ns = Ns.map (fun _ => false) := by
        apply List.map_congr_left; intro N _; exact hrej N
      rw [heq]; exact hf

def InclW (A B : NFA) : Prop := ∀ w, acceptsW A w = true → acceptsW B w = true

def inclW (A B : NFA) (fuel : Nat) : Option Bool :=
  forallWords [A, B] (fun v => match v with | [a, b] => !a || b | _ => false) fuel

theorem inclW_iff (A B : NFA) (fuel : Nat) (b : Bool) (h : inclW A B fuel = some b) : b = true ↔ InclW A B := by
  rw [forallWords_iff _ _ _ _ h]
  simp only [List.map_cons, List.map_nil, InclW, Bool.not_false, Bool.true_or, and_true]
  constructor
  · intro h w ha; have := h w; simp [ha] at this; exact this
  · intro h w; cases ha : acceptsW A w <;> simp [h w, ha]

def equivW (A B : NFA) (fuel : Nat) : Option Bool :=
  forallWords [A, B] (fun v => match v with | [a, b] => a == b | _ => false) fuel

theorem equivW_iff (A B : NFA) (fuel : Nat) (b : Bool) (h : equivW A B fuel = some b) :
    b = true ↔ ∀ w, acceptsW A w = acceptsW B w := by
  rw [forallWords_iff _ _ _ _ h]
  simp only [List.map_cons, List.map_nil, beq_iff_eq, beq_self_eq_true, and_true]

def isUnionW (U A B : NFA) (fuel : Nat) : Option Bool :=
  forallWords [U, A, B] (fun v => match v with | [u, a, b] => u == (a || b) | _ => false) fuel

theorem isUnionW_iff (U A B : NFA) (fuel : Nat) (b : Bool) (h : isUnionW U A B fuel = some b) :
    b = true ↔ ∀ w, acceptsW U w = (acceptsW A w || acceptsW B w) := by
  rw [forallWords_iff _ _ _ _ h]
  simp only [List.map_cons, List.map_nil, beq_iff_eq, Bool.or_self, beq_self_eq_true, and_true]

def isIsectW (P A B : NFA) (fuel : Nat) : Option Bool :=
  forallWords [P, A, B] (fun v => match v with | [p, a, b] => p == (a && b) | _ => false) fuel

theorem isIsectW_iff (P A B : NFA) (fuel : Nat) (b : Bool) (h : isIsectW P A B fuel = some b) :
    b = true ↔ ∀ w, acceptsW P w = (acceptsW A w && acceptsW B w) := by
  rw [forallWords_iff _ _ _ _ h]
  simp only [List.map_cons, List.map_nil, beq_iff_eq, Bool.and_self, beq_self_eq_true, and_true]

def emptyW (A : NFA) (fuel : Nat) : Option Bool :=
  forallWords [A] (fun v => match v with | [a] => !a | _ => false) fuel

theorem emptyW_iff (A : NFA) (fuel : Nat) (b : Bool) (h : emptyW A fuel = some b) :
    b = true ↔ ∀ w, acceptsW A w = false := by
  rw [forallWords_iff _ _ _ _ h]
  simp only [List.map_cons, List.map_nil, Bool.not_eq_true', Bool.not_false, and_true]

/-! ### reversal (model of `Reverse`) -/

def nfaReverse (N : NFA) : NFA := ⟨N.final, N.start, N.trans.map (fun e => (e.2.2, e.2.1, e.1))⟩

end Vata
