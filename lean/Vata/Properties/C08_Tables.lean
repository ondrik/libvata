import Vata.Proofs.BddAbsTD
import Vata.Proofs.Rename
/-!
# C08 – the symbolic transition tables: top-down encoding, `GetTopDownAut`, symbolic trimming

Corollaries of `Vata/Proofs/BddAbsTD.lean` (model: `Vata/BddAbsTD.lean`, on top of `Vata/BddAbs.lean`) for the property

> A Timbuk automaton loaded into either BDD encoding and dumped again denotes the same language as in the explicit
> encoding.  For both BDD encodings Union and UnionDisjointStates yield exactly the union, […] RemoveUnreachableStates
> and RemoveUselessStates keep the language (leaving no useless state after the latter), and converting a bottom-up
> automaton to top-down form keeps the language.

How the statement is read into the model.  A symbolic automaton is a table of MTBDDs (`BddAbs.Table` bottom-up:
children tuple ↦ MTBDD over the 16 symbol bits with sets of parents in the leaves; `BddAbsTD.TableTD` top-down: state ↦
MTBDD over 16 symbol bits and 6 arity bits with sets of children tuples in the leaves) and a list of final states.
Its abstraction is the explicit automaton `absBU syms T F` / `absTD syms T F` whose rules are read off the MTBDDs for
the symbols `syms` of the dictionary, as the dump does.  All statements are about this abstraction: set equality of
rules and final states (`SetEqTA`), and hence equality of languages (`accepts`).
-/
namespace Vata.Props
open Vata.M Vata.BddAbs Vata.BddAbsTD

/-- Loading (`AddTransition` for each rule) into the top-down and into the bottom-up encoding is the identity on the
abstract automaton, hence on the language; symbols are 16-bit numbers of the dictionary `syms`, arities are below 64
(at most `MAX_SYMBOL_ARITY` = 63).  The dump of a state `p` for a symbol `f` (`collectTD`, the accumulator of
`CondColApplyFunctor`) lists exactly the tuples of the abstract rules. -/
theorem C08_load_dump (rs : List Rule) (syms F : List Nat)
    (hrs : ∀ r, r ∈ rs → r.sym < 2 ^ 16 ∧ r.kids.length < 64 ∧ r.sym ∈ syms) (hs : ∀ f, f ∈ syms → f < 2 ^ 16) :
    (∀ t, accepts (absTD syms (ofRulesTD rs) F) t = accepts ⟨rs, F⟩ t) ∧
    (∀ t, accepts (absBU syms (ofRules rs) F) t = accepts ⟨rs, F⟩ t) ∧
    (∀ f p ks, ks ∈ collectTD (getTD (ofRulesTD rs) p) f ↔ (⟨f, ks, p⟩ : Rule) ∈ absRulesTD [f] (ofRulesTD rs)) :=
  ⟨fun t => (absTD_ofRulesTD_setEq rs syms F hrs hs).lang t,
   fun t => (absBU_ofRules_setEq rs syms F (fun r hr => ⟨(hrs r hr).1, (hrs r hr).2.2⟩) hs).lang t,
   fun f p ks => collectTD_absRulesTD (tableTD_ofRulesTD rs).1 (tableTD_ofRulesTD rs).2 f p ks⟩

example : ∀ r, r ∈ BddAbsTDEx.rsA → r.sym < 2 ^ 16 ∧ r.kids.length < 64 ∧ r.sym ∈ BddAbsTDEx.syms := by decide

/-- `AddTransition` of the top-down encoding adds exactly one rule: the symbol `f`, the arity `|ks|` in the arity bits -/
theorem C08_td_addTransition (T : TableTD) (ks : List Nat) (f p : Nat) (hf : f < 2 ^ 16) (hk : ks.length < 64)
    (g : Nat) (hg : g < 2 ^ 16) (n : Nat) (hn : n < 64) (p' : Nat) (ks' : List Nat) :
    HasRuleTD (addTransitionTD T ks f p) (bitsAr g n) p' ks' ↔
      HasRuleTD T (bitsAr g n) p' ks' ∨ (g = f ∧ n = ks.length ∧ ks' = ks ∧ p' = p) :=
  absTD_addTransition T ks f p hf hk g hg n hn p' ks'

example : HasRuleTD (addTransitionTD (ofRulesTD BddAbsTDEx.rsA) [2] 3 7) (bitsAr 3 1) 7 [2] :=
  (C08_td_addTransition _ [2] 3 7 (by decide) (by decide) 3 (by decide) 1 (by decide) 7 [2]).mpr
    (Or.inr ⟨rfl, rfl, rfl, rfl⟩)

/-- The top-down `UnionDisjointStates` (the MTBDDs of the right operand are `SetMtbdd`-ed over the left table) and the
table-wise union by `apply2` accept exactly the union of the languages when the operands have disjoint states.  For
`UnionDisjointStates` the tables must not have an MTBDD for the same state (otherwise the left one is lost, see the
`#guard` in `Proofs/BddAbsTD.lean`). -/
theorem C08_td_union (syms : List Nat) (T₁ T₂ : TableTD) (F₁ F₂ : List Nat)
    (hdis : ∀ q, q ∈ (absTD syms T₁ F₁).states → q ∉ (absTD syms T₂ F₂).states) :
    (∀ t, accepts (absTD syms (unionTD T₁ T₂) (F₁ ++ F₂)) t =
      (accepts (absTD syms T₁ F₁) t || accepts (absTD syms T₂ F₂) t)) ∧
    ((∀ p, p ∈ keysTD T₁ → p ∉ keysTD T₂) → ∀ t, accepts (absTD syms (unionDisjTD T₁ T₂) (F₁ ++ F₂)) t =
      (accepts (absTD syms T₁ F₁) t || accepts (absTD syms T₂ F₂) t)) :=
  ⟨fun t => by rw [(absTD_union_setEq syms T₁ T₂ F₁ F₂).lang, unionDisjoint_lang _ _ hdis],
   fun hd t => by rw [(absTD_unionDisj_setEq syms T₁ T₂ F₁ F₂ hd).lang, unionDisjoint_lang _ _ hdis]⟩

example : (∀ q, q ∈ (absTD BddAbsTDEx.syms (ofRulesTD [⟨0, [], 1⟩]) [1]).states →
      q ∉ (absTD BddAbsTDEx.syms (ofRulesTD [⟨1, [], 8⟩, ⟨2, [8], 7⟩]) [7]).states) ∧
    (∀ p, p ∈ keysTD (ofRulesTD [⟨0, [], 1⟩]) → p ∉ keysTD (ofRulesTD [⟨1, [], 8⟩, ⟨2, [8], 7⟩])) := by
  refine ⟨fun q h1 h2 => ?_, by decide +kernel⟩
  rw [(absTD_ofRulesTD_setEq _ _ _ (by decide +kernel) (by decide +kernel)).mem_states] at h1 h2
  exact (by decide : ∀ q, q ∈ (TA.mk [⟨0, [], 1⟩] [1]).states → q ∉ (TA.mk [⟨1, [], 8⟩, ⟨2, [8], 7⟩] [7]).states) q h1 h2

/-- **`GetTopDownAut`**: for a well-formed bottom-up table (`TableOk`: the entries are what `GetMtbdd` returns;
`TableWF`: reduced ordered MTBDDs over the 16 symbol variables; both hold of every table built by `AddTransition`)
the top-down table has the rule `f(ks) → p` with the arity `|ks|` in the arity bits iff the bottom-up table has it,
for every state `p` that `GetTopDownAut` collects (final states and states occurring in a tuple) and `|ks| < 64`; under
another arity `n < 64` it has no such rule; the abstract rule sets differ exactly by the rules whose parent is not
collected, and the languages agree. -/
theorem C08_getTopDownAut {T : Table} (hT : TableOk T) (hW : TableWF T) (F syms : List Nat) :
    (∀ ρ p ks, p ∈ tdStates T F → (HasRuleTD (getTopDownAut T F) (withArity ρ ks.length) p ks ↔ HasRule T ρ ks p)) ∧
    (∀ ρ p ks n, n < 64 → ks.length < 64 → HasRuleTD (getTopDownAut T F) (withArity ρ n) p ks → n = ks.length) ∧
    (∀ r, r ∈ absRulesTD syms (getTopDownAut T F) ↔ r ∈ absRules syms T ∧ r.parent ∈ tdStates T F) ∧
    (∀ t, accepts (absTD syms (getTopDownAut T F) F) t = accepts (absBU syms T F) t) :=
  ⟨fun ρ p ks hp => absTD_invert hT hW F ρ p ks hp,
   fun ρ p ks n hn hk h => absTD_invert_arity hT F ρ p ks n hn hk h,
   fun r => absRulesTD_getTopDownAut hT hW F syms r,
   fun t => getTopDownAut_lang hT hW F syms t⟩

example : TableOk (ofRules BddAbsTDEx.rsA) ∧ TableWF (ofRules BddAbsTDEx.rsA) ∧
    2 ∈ tdStates (ofRules BddAbsTDEx.rsA) BddAbsTDEx.finA ∧ 3 ∉ tdStates (ofRules BddAbsTDEx.rsA) BddAbsTDEx.finA :=
  ⟨BddAbsTDEx.okA, BddAbsTDEx.wfA, by decide, by decide⟩

/-- **Symbolic trimming, top-down.**  `RemoveUnreachableStates` and `RemoveUselessStates` work on the leaves of the
MTBDDs (all valuations at once).  For reduced ordered MTBDDs (`TableTDWF`) and a dictionary `syms` that covers the
table (`SymsCompleteTD`; both hold after loading and after `GetTopDownAut`) the abstraction of the result is
`removeUnreachable` / `removeUseless` (`Vata/Ref.lean`) of the abstraction, as sets of rules and final states; the
languages are kept; after `RemoveUselessStates` every state and rule is in an accepting run; the work-list of
`RemoveUnreachableStates` (`tdUnreachWL`) terminates within `|F| + |states in the leaves|` iterations and returns the
table of `removeUnreachableTD`. -/
theorem C08_td_trim {syms : List Nat} {T : TableTD} (F : List Nat) (hT : TableTDWF T) (hc : SymsCompleteTD syms T) :
    SetEqTA (absTD syms (removeUnreachableTD T F) F) (removeUnreachable (absTD syms T F)) ∧
    SetEqTA (absTD syms (removeUselessTD T F).1 (removeUselessTD T F).2) (removeUseless (absTD syms T F)) ∧
    (∀ t, accepts (absTD syms (removeUnreachableTD T F) F) t = accepts (absTD syms T F) t) ∧
    (∀ t, accepts (absTD syms (removeUselessTD T F).1 (removeUselessTD T F).2) t = accepts (absTD syms T F) t) ∧
    ((∀ q, Occurs (absTD syms (removeUselessTD T F).1 (removeUselessTD T F).2) q →
        UsefulState (absTD syms (removeUselessTD T F).1 (removeUselessTD T F).2) q) ∧
      (∀ r, r ∈ (absTD syms (removeUselessTD T F).1 (removeUselessTD T F).2).rules →
        UsefulRule (absTD syms (removeUselessTD T F).1 (removeUselessTD T F).2) r)) ∧
    (∃ R, tdUnreachWL T F (F.length + (allKids T).length) = some R ∧
      ∀ p, getTD R p = getTD (removeUnreachableTD T F) p) :=
  ⟨absTD_removeUnreachable F hT hc, absTD_removeUseless F hT hc, removeUnreachableTD_lang F hT hc,
   removeUselessTD_lang F hT hc, removeUselessTD_useful F hT hc, tdUnreachWL_spec T F⟩

example : TableTDWF BddAbsTDEx.tdA ∧ SymsCompleteTD BddAbsTDEx.syms BddAbsTDEx.tdA :=
  ⟨BddAbsTDEx.wfTdA, BddAbsTDEx.completeTdA⟩

/-- **Symbolic trimming, bottom-up.**  `RemoveUnreachableStates` (bottom-up reachable = productive) is the restriction
to the productive states, `RemoveUselessStates` is `removeUseless`; languages are kept and no useless state is left. -/
theorem C08_bu_trim {syms : List Nat} {T : Table} (F : List Nat) (hT : TableWF T) (hc : SymsCompleteBU syms T) :
    SetEqTA (absBU syms (removeUnreachableBU T F).1 (removeUnreachableBU T F).2)
      (restrict (absBU syms T F) (prodStates (absBU syms T F))) ∧
    SetEqTA (absBU syms (removeUselessBU T F).1 (removeUselessBU T F).2) (removeUseless (absBU syms T F)) ∧
    (∀ t, accepts (absBU syms (removeUnreachableBU T F).1 (removeUnreachableBU T F).2) t = accepts (absBU syms T F) t) ∧
    (∀ t, accepts (absBU syms (removeUselessBU T F).1 (removeUselessBU T F).2) t = accepts (absBU syms T F) t) ∧
    ((∀ q, Occurs (absBU syms (removeUselessBU T F).1 (removeUselessBU T F).2) q →
        UsefulState (absBU syms (removeUselessBU T F).1 (removeUselessBU T F).2) q) ∧
      (∀ r, r ∈ (absBU syms (removeUselessBU T F).1 (removeUselessBU T F).2).rules →
        UsefulRule (absBU syms (removeUselessBU T F).1 (removeUselessBU T F).2) r)) :=
  ⟨absBU_removeUnreachable F hT hc, absBU_removeUseless F hT hc, removeUnreachableBU_lang F hT hc,
   removeUselessBU_lang F hT hc, removeUselessBU_useful F hT hc⟩

example : TableWF (ofRules BddAbsTDEx.rsA) ∧ SymsCompleteBU BddAbsTDEx.syms (ofRules BddAbsTDEx.rsA) :=
  ⟨BddAbsTDEx.wfA, BddAbsTDEx.completeA⟩

/-- **The chain** load bottom-up → `GetTopDownAut` → `RemoveUselessStates`: the abstraction of the result accepts the
language of the loaded automaton and has no useless state or rule. -/
theorem C08_load_convert_trim (rs : List Rule) (syms F : List Nat)
    (hrs : ∀ r, r ∈ rs → r.sym < 2 ^ 16 ∧ r.sym ∈ syms) (hs : ∀ f, f ∈ syms → f < 2 ^ 16) :
    let R := removeUselessTD (getTopDownAut (ofRules rs) F) F
    (∀ t, accepts (absTD syms R.1 R.2) t = accepts ⟨rs, F⟩ t) ∧
    (∀ q, Occurs (absTD syms R.1 R.2) q → UsefulState (absTD syms R.1 R.2) q) ∧
    (∀ r, r ∈ (absTD syms R.1 R.2).rules → UsefulRule (absTD syms R.1 R.2) r) := by
  intro R
  have hT := tableOk_ofRules rs
  have hW := tableWF_ofRules rs
  have hc : SymsCompleteBU syms (ofRules rs) := symsCompleteBU_ofRules (fun r hr => (hrs r hr).2)
  have hW' := (tableTD_getTopDownAut hT hW F).1
  have hc' := symsCompleteTD_getTopDownAut hT hW hc F
  refine ⟨fun t => ?_, (removeUselessTD_useful F hW' hc').1, (removeUselessTD_useful F hW' hc').2⟩
  rw [removeUselessTD_lang F hW' hc', getTopDownAut_lang hT hW, (absBU_ofRules_setEq rs syms F hrs hs).lang]

example : ∀ r, r ∈ BddAbsTDEx.rsA → r.sym < 2 ^ 16 ∧ r.sym ∈ BddAbsTDEx.syms := by decide

/-!
## items of the "not yet proved" block of `C08.lean` closed here

* "No model of the BDD encodings …": the top-down encoding (`TableTD`, `addArityToSymbol`, 16-bit symbols, 6 arity
  bits) now has a model; loading and dumping: `C08_load_dump`, `C08_td_addTransition`; the top-down `Union` by tables
  and `UnionDisjointStates`: `C08_td_union`; `GetTopDownAut`: `C08_getTopDownAut`; the usefulness analyses of both
  encodings at the level of the leaf visits: `C08_td_trim`, `C08_bu_trim`, `C08_load_convert_trim`.

## still open

* The AND/OR-graph propagation of the top-down `RemoveUselessStates` and the graph traversal of the bottom-up one are
  modelled by their fixpoints (`prodStates` / `tdReach` of `Vata/Ref.lean` on the leaf-visit skeletons `skelTD`,
  `skelBU`), not edge by edge; only the work-list of the top-down `RemoveUnreachableStates` is mirrored
  (`tdUnreachLoop`: `tdUnreachWL_correct`, `tdUnreachWL_total`).
* The top-down `Union` with renumbering (`ReindexStates` into a common table), the top-down `Intersection`, the
  product-state counter, and the sharing of transition tables between copies are not modelled here.
-/
end Vata.Props
