import Vata.Proofs.InclDownStackStepsTop
import Vata.Properties.C01_Stack
/-!
# C01 — an explicit bound on the number of transitions of the call emulator of `expand`

**Property served (C01).**  The verdict of `CheckInclusion` is exact and the algorithm terminates for every selection; here
the selection `ANTICHAINS_DOWN_NONREC_NOSIM` (`src/explicit_tree_incl_down.cc`).  `Vata/Properties/C01_Stack.lean` proves
that the stack machine of `ExplicitDownwardInclusion::expand` (`Vata/InclDownStack.lean`: `stepM` = one transition, `runM k`
= at most `k` transitions) refines the recursive model `InclDown.expandN`, but its totality theorem
(`C01_nonrec_stack_total_partial`) has only an existential bound on the transitions ("the `Reach` lemmas do not count
steps").  This file closes that item: every simulation lemma is re-proved with a count and the totality of the machine is
stated above the explicit number `stepBound A B`.

**How the C++ is read into the model.**  Unchanged: the machine of `Vata/InclDownStack.lean` (one `PC` value per label / loop
head of `expand`, one transition per loop test / `goto` / macro).  What is counted are these transitions; the call-free
local computations inside one transition (the construction of `W`, `post`, the antichain look-ups) are single transitions
as in the machine.

**The count** (`Vata/Proofs/InclDownStackSteps*.lean`; `ReachN n m m'` = at most `n` transitions from `m` to `m'`; `t` = the
bound for one simulated call from `_call` to `EXPAND_RETURN`):

| C++ loop | lemma | bound |
|---|---|---|
| phase 1, positions `for (top.i …) EXPAND_CALL(2) _simret` | `reach_simI_n` | `len·(t+3) + 1` |
| phase 1, `for (top.tupleSetIter2 …)` over `W` | `reach_tuple2_n` | `|W|·(n·(t+3)+3) + 1` |
| one choice function `for (top.i …) EXPAND_CALL(1) _stdret` | `reach_cfI_n` | `len·(t+3) + 1` |
| `do … while (choiceFunction.next())` | `reach_cfAll_n` | `costCfAll n (n·(t+3)+2) |W|` (`< (n·(t+3)+3)·(n+1)^|W|`) |
| one lhs tuple | `reach_procTuple_n` | `costTuple n |W| t ≤ costTupleB a b t` |
| `for (top.tupleSetIter …)` | `reach_tuples_n` | `|L|·(c+1) + 1` |
| `for (top.a …)` | `reach_body_n` | `costBody a b l g t = g·(l·(costTupleB a b t + 1) + 2) + 1` |
| the call (`_call`, push, …, `EXPAND_POP_RETURN`) | `expandN_reach_n` | `stepT a b l g (fuel+1) = costBody … (stepT … fuel) + 2` |

with `a = maxAr A` (maximal arity), `b = |B.rules|` (≥ the number of rhs tuples), `l = g = |A.rules|` (≥ the lhs tuples of a
symbol, the symbols of a cluster).  `costBody` is linear in `t`: `costBody a b l g t + 5 ≤ (t+3)·frameFactor a b l g`
(`costBody_le`), hence `stepT … fuel + 3 ≤ 3·frameFactor^fuel` (`stepT_closed`) and, the recursive model being total with
the nesting depth `fuelBoundD A B + 1 = |Q_A|·2^|Q_B| + 1`,

`stepBound A B = 3 · (|A.rules|·(|A.rules|·(|B.rules|·(a+1) + (a+1)·(a+1)^|B.rules| + 2) + 1) + 2) ^ (|Q_A|·2^|Q_B| + 1)`.

**Abstracted.**  As in `C01_Stack.lean`.  The bound is a worst-case bound of the call TREE: it does not use the caches
(`childrenCache`, `nonincluded`, the work-set) to bound the number of distinct calls, only the nesting depth.
-/
namespace Vata.Props
open InclDown InclDownStack
open InclUp (Wit Cert prodWit)

/-- **The counting simulation.**  Whenever the recursive model `expandN` (any preorder, any automata, any fuel, any
work-set `ws`, any contents of `nonincluded`) returns for the call `(q, Q)`, the stack machine gets from `_call` (any `top`,
any saved frames `K`, any return address) to `EXPAND_RETURN` with everything restored and the verdict / antichains of the
recursive model in AT MOST `stepT (maxAr A) |B.rules| |A.rules| |A.rules| fuel` transitions. -/
theorem C01_stack_call_return_steps (o : Ord) (A B : TA) (wit : Wit) (fuel : Nat) (ws cc : List Pair) (st : St)
    (q : Nat) (Q : List Nat) (v : Verdict) (cc' : List Pair) (st' : St)
    (h : expandN o A B wit fuel ws cc st q Q = some (v, cc', st')) (top : Frame) (K : List Frame) (k : Nat)
    (f0 : Verdict) :
    ReachN o A B wit (stepT (maxAr A) B.rules.length A.rules.length A.rules.length fuel)
      ⟨.call, top, K, ws, st, q, Q, k, f0⟩ ⟨.ret, top, K, ws, st', q, Q, k, v⟩ :=
  (expandN_reach_n fuel ws cc st q Q v cc' st' h).2 top K k f0

/-- the count in the form "some number `n` of transitions below the bound" (`stepsM n` = exactly `n` transitions) -/
theorem C01_stack_call_return_steps_exists (o : Ord) (A B : TA) (wit : Wit) (fuel : Nat) (ws cc : List Pair) (st : St)
    (q : Nat) (Q : List Nat) (v : Verdict) (cc' : List Pair) (st' : St)
    (h : expandN o A B wit fuel ws cc st q Q = some (v, cc', st')) (top : Frame) (K : List Frame) (k : Nat)
    (f0 : Verdict) :
    ∃ n, n ≤ stepT (maxAr A) B.rules.length A.rules.length A.rules.length fuel ∧
      stepsM o A B wit popAll n ⟨.call, top, K, ws, st, q, Q, k, f0⟩ = some ⟨.ret, top, K, ws, st', q, Q, k, v⟩ :=
  C01_stack_call_return_steps o A B wit fuel ws cc st q Q v cc' st' h top K k f0

/-- **`expand` as coded returns within `stepsOf A B fuel` transitions** (`= stepT … fuel + 2`: the call, `EXPAND_RETURN`
with `retAddr = 0`, `_end`) whenever the recursive model returns with the nesting depth `fuel` — and for EVERY larger
bound, with the same verdict, witness, `nonincluded` and `trues`. -/
theorem C01_stack_machine_refines_recursion_steps (o : Ord) (A B : TA) (wit : Wit) (fuel : Nat) (cc : List Pair)
    (st : St) (p : Nat) (P : List Nat) (v : Verdict) (cc' : List Pair) (st' : St)
    (h : expandN o A B wit fuel [] cc st p P = some (v, cc', st')) (k : Nat) (hk : stepsOf A B fuel ≤ k) :
    expandStack o A B wit popAll k st p P = some (v, st') :=
  expandStack_of_expandN_n h k hk

/-- `checkInternal` and the certified wrapper: every answer of the recursive models with the fuel `fuel` is the answer of
the stack-machine models for every bound `k ≥ stepsOf A B fuel` on the transitions of one `expand` -/
theorem C01_stack_checkInternal_refines_steps (A B : TA) (fuel k : Nat) (hk : stepsOf A B fuel ≤ k) :
    (∀ o r, runN o A B fuel = some r → runS o A B popAll k = some r) ∧
    (∀ r, inclDownNonrec A B fuel = some r → inclDownNonrecStack A B k = some r) :=
  ⟨fun _ _ h => runS_of_runN_n h hk, fun _ h => inclDownNonrecStack_of_rec_n h hk⟩

/-- **The closed form**: each level of nesting multiplies the cost of a call by at most `frameFactor`; the bound for one
`expand` from `checkInternal` with the depth `fuelBoundD A B + 1` is below `stepBound A B`. -/
theorem C01_stepBound_closed (A B : TA) :
    (∀ a b l g fuel, stepT a b l g fuel + 3 ≤ 3 * frameFactor a b l g ^ fuel) ∧
    stepsOf A B (fuelBoundD A B + 1) ≤ stepBound A B ∧
    stepBound A B = 3 * (A.rules.length * (A.rules.length * (B.rules.length * (maxAr A + 1)
      + (maxAr A + 1) * (maxAr A + 1) ^ B.rules.length + 2) + 1) + 2) ^ (A.states.length * 2 ^ B.states.length + 1) :=
  ⟨stepT_closed, stepsOf_le_stepBound A B, rfl⟩

/-- **Totality of the stack machine above the explicit bound.**  When the children of all rules of `A` are productive
(the hypothesis of `C01_downward_core_exact`, needed already for the recursive model: `InclDownEx.exUs` is the
counterexample without it, there the certify-then-trust end refuses), the machine as coded with any bound
`k ≥ stepBound A B` on the transitions of one call of `expand` returns, and the verdict is the right one.
(The task statement has `stepBound A B < k`; `≤` is proved.) -/
theorem C01_nonrec_stack_total (A B : TA) (hA : KidsProductive A) (k : Nat) (hk : stepBound A B ≤ k) :
    (Incl A B → ∃ c, inclDownNonrecStack A B k = some (true, c)) ∧
    (¬ Incl A B → ∃ c, inclDownNonrecStack A B k = some (false, c)) :=
  inclDownNonrecStack_complete hA (Nat.le_trans (stepsOf_le_stepBound A B) hk)

/-- the same with the sharper (recursively defined) bound `stepsOf A B (fuelBoundD A B + 1)` -/
theorem C01_nonrec_stack_total_stepsOf (A B : TA) (hA : KidsProductive A) (k : Nat)
    (hk : stepsOf A B (fuelBoundD A B + 1) ≤ k) :
    (Incl A B → ∃ c, inclDownNonrecStack A B k = some (true, c)) ∧
    (¬ Incl A B → ∃ c, inclDownNonrecStack A B k = some (false, c)) :=
  inclDownNonrecStack_complete hA hk

/-- without a hypothesis on the operands: whatever the machine answers within `stepBound A B` transitions is exact, and
it does answer unless the final certificate check refuses (the recursive model with the fuel `fuelBoundD A B + 1` returns
`none` only then) -/
theorem C01_nonrec_stack_bound_agrees (A B : TA) (k : Nat) (hk : stepBound A B ≤ k) :
    inclDownNonrecStack A B k = inclDownNonrec A B (fuelBoundD A B + 1) :=
  inclDownNonrecStack_eq_rec (Nat.le_trans (stepsOf_le_stepBound A B) hk)

/-! ### non-vacuity (`decide +kernel`: plain kernel evaluation, no axiom) -/

-- the bound evaluated on a concrete pair (`g(x,y)` with `x, y ∈ {a, b}` against `g(a,a) | g(b,b)`): 3 resp. 4 rules, arity 2,
-- 2 resp. 3 states, nesting depth `2·2³ + 1 = 17`, `frameFactor = 2318`
example : maxAr InclDownEx.exG = 2 ∧ fuelBoundD InclDownEx.exG InclDownEx.exH = 16 ∧
    frameFactor 2 4 3 3 = 2318 := by decide +kernel
example : stepBound InclDownEx.exG InclDownEx.exH = 3 * 2318 ^ 17 := by decide +kernel
example : stepBound InclDownEx.exG InclDownEx.exH
    = 4831139660093730794982455600267784804618066529733097160704 := by decide +kernel
example : stepsOf InclDownEx.exG InclDownEx.exH 17 = 6252879696947959073352215675243690783589928057553956832 := by
  decide +kernel
-- the hypothesis of `C01_nonrec_stack_total` holds and a run with `stepBound` transitions returns — both verdicts occur
example : KidsProductive InclDownEx.exG := (InclUp.trimmed_of_allUsefulB (by decide)).1
example : KidsProductive InclDownEx.exH := (InclUp.trimmed_of_allUsefulB (by decide +kernel)).1
theorem exG_stack_stepBound :
    (inclDownNonrecStack InclDownEx.exG InclDownEx.exH (stepBound InclDownEx.exG InclDownEx.exH)).map (·.1) = some false := by
  decide +kernel

example : (inclDownNonrecStack InclDownEx.exG InclDownEx.exH (stepBound InclDownEx.exG InclDownEx.exH)).map (·.1)
    = some false := exG_stack_stepBound
example : (inclDownNonrecStack InclDownEx.exH InclDownEx.exG (stepBound InclDownEx.exH InclDownEx.exG)).map (·.1)
    = some true := by decide +kernel
-- the theorem applied: the verdicts above are forced by `C01_nonrec_stack_total`, and decide (non-)inclusion
example : ¬ Incl InclDownEx.exG InclDownEx.exH := fun hi => by
  obtain ⟨c, hc⟩ := (C01_nonrec_stack_total InclDownEx.exG InclDownEx.exH
    (InclUp.trimmed_of_allUsefulB (by decide +kernel)).1 _ (Nat.le_refl _)).1 hi
  have h2 := exG_stack_stepBound
  rw [hc] at h2
  cases h2
-- a bound is needed: with too few transitions the machine has not returned yet (`none`); the worst-case bound is far
-- from tight (60 transitions suffice here)
example : (inclDownNonrecStack InclDownEx.exG InclDownEx.exH 30).map (·.1) = none := exG_stack_30
example : (inclDownNonrecStack InclDownEx.exG InclDownEx.exH 60).map (·.1) = some false := exG_stack_60
-- the hypothesis of the counting simulation on a non-trivial call, and the count for that fuel
example : (expandN idOrd InclDownEx.exG InclDownEx.exH (prodWit InclDownEx.exG) 3 [] [] ⟨[], []⟩ 2 [9]).isSome = true := by
  decide +kernel
example : stepsOf InclDownEx.exG InclDownEx.exH 3 = 16233046832 := by decide +kernel
example : verdictBit (expandStack idOrd InclDownEx.exG InclDownEx.exH (prodWit InclDownEx.exG) popAll
    (stepsOf InclDownEx.exG InclDownEx.exH 3) ⟨[], []⟩ 2 [9]) = some false := by decide +kernel
-- the cost of the choice-function loop: 2 rhs tuples, arity 2, cost 1 per choice function: the 4 choice functions and
-- the 3 `_nextchoice` transitions between them make 7 transitions, the bound counts one more per round of a loop: 10
example : costCfAll 2 1 2 = 10 := by decide

/-!
## still not proved

* **The bound is a worst-case bound of the call tree, not tight.**  `stepBound` multiplies the per-frame factor
  `frameFactor` along the nesting depth `fuelBoundD A B + 1 = |Q_A|·2^|Q_B| + 1`; it does not use the caches
  (`childrenCache`, `nonincluded`, the work-set antichain) to bound the number of DISTINCT calls, which would give a bound
  singly exponential in `|Q_B|`.  No lower bound on the number of transitions is proved.
* The constants `b = |B.rules|`, `l = g = |A.rules|` over-approximate the sizes of the index structures (`|W|` for one
  symbol and one set `P_B`, the lhs tuples of one symbol, the symbols of one cluster); `reach_body_n` is proved for any
  bounds `a b l` satisfying its hypotheses, only `expandN_reach_n` instantiates them globally.
* One transition of the machine contains the call-free local computations (filling `W`, `post`, the antichain
  `contains` / `refine` / `insert`): their own cost (polynomial in the sizes of the antichains) is not counted.
* As in `C01_Stack.lean`: only the `NOSIM` wrapper `inclDownNonrecStack` is defined on top of `runS`
  (`C01_stack_call_return_steps`, `runS_of_runN_n` hold for every preorder `o`); the hypothesis `KidsProductive A` of the
  totality theorem is that of the recursive model (`C01_nonrec_stack_bound_agrees` needs none).
-/
end Vata.Props
