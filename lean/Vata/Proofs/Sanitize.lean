import Vata.Sanitize
import Vata.Proofs.UnionModel
import Vata.Proofs.InclUpTotal
import Vata.Proofs.PropAux
/-!
# Property C01 – `SanitizeAutsForInclusion` (`Vata/Sanitize.lean`): trimming and dense disjoint renumbering of the operands

Both operands keep their language and come out trimmed (they pass `allUsefulB`), with states exactly `0..k-1` and `k..n-1`
for the returned counter `n`; so the inclusion question is unchanged and the upward inclusion model on them is exact
(`checkInclUpSan_iff`); with `sanitize_trimmed` it is total as well (`inclUp_total`, put together in
`Props.C01_upward_sanitised_exact`).  Both renumberings are one `weakTrAll` pass from the EMPTY map (`San.pass_*`: any start
of the counter, any visiting order that enumerates exactly the states of the trimmed operand).
-/
namespace Vata
namespace San

/-- ANY renaming, injective or not -/
theorem allGood_reindex (h : Nat → Nat) {A : TA} (hA : AllGood A) : AllGood (reindex h A) := by
  intro q' hq'
  obtain ⟨q, hq, rfl⟩ := mem_states_reindex.mp (mem_states.mpr hq')
  obtain ⟨⟨t, ht⟩, h2⟩ := hA q (mem_states.mp hq)
  exact ⟨⟨t, reindex_mono h A t q ht⟩, tdReachable_reindex h h2⟩

theorem allUsefulB_reindex (h : Nat → Nat) (A : TA) : allUsefulB (reindex h (removeUseless A)) = true :=
  allUsefulB_of_allGood (allGood_reindex h (allGood_removeUseless A))

/-! One pass: a weak translator whose map is EMPTY and whose counter stands at `c` is presented the states of `A'` in any
order `o`.  Both passes of `sanitizeOrd` are instances (`c = 0`, and `c` = the counter the first pass returned). -/

theorem pass (o : List Nat) (c : Nat) : Um.Grow [] c (weakTrAll o [] c).1 (weakTrAll o [] c).2 :=
  Um.weakTrAll_grow o [] c (Um.below_nil c)

theorem pass_inj (o : List Nat) (c : Nat) (A' : TA) (ho : ∀ q, q ∈ A'.states → q ∈ o) :
    InjOnStates (applyMap (weakTrAll o [] c).1) A' :=
  Um.injOn_of ((pass o c).inj Um.inj_nil) (fun q hq => Um.weakTrAll_total o [] c q (ho q hq))

theorem mem_keys {m : SMap} {p : Nat} : p ∈ m.map Prod.fst ↔ ∃ n, m.lookup p = some n := by
  constructor
  · intro hp
    cases hl : m.lookup p with
    | none => exact absurd hp (lookup_eq_none_iff_keys.mp hl)
    | some n => exact ⟨n, rfl⟩
  · rintro ⟨n, hn⟩
    exact List.mem_map.mpr ⟨(p, n), mem_of_lookup hn, rfl⟩

/-- the keys of the map after the pass are exactly the states presented -/
theorem pass_keys (o : List Nat) (c p : Nat) : (∃ n, (weakTrAll o [] c).1.lookup p = some n) ↔ p ∈ o :=
  ⟨fun ⟨n, hn⟩ => (Um.weakTrAll_keys o [] c p n hn).resolve_left (fun h => nomatch h),
    Um.weakTrAll_total o [] c p⟩

/-- the states of the renumbered automaton are exactly the numbers handed out: `c, …, c' - 1` -/
theorem pass_states (o : List Nat) (c : Nat) (A' : TA) (ho : ∀ q, q ∈ o ↔ q ∈ A'.states) (x : Nat) :
    x ∈ (reindex (applyMap (weakTrAll o [] c).1) A').states ↔ c ≤ x ∧ x < (weakTrAll o [] c).2 := by
  have g := pass o c
  rw [mem_states_reindex]
  constructor
  · rintro ⟨q, hq, rfl⟩
    obtain ⟨n, hn⟩ := (pass_keys o c q).mpr ((ho q).mpr hq)
    rw [Um.applyMap_of_lookup hn]
    exact (g.new q n hn).resolve_left (fun h => nomatch h)
  · rintro ⟨h1, h2⟩
    obtain ⟨p, hp⟩ := g.onto x h1 h2
    exact ⟨p, (ho p).mp ((pass_keys o c p).mp ⟨x, hp⟩), (Um.applyMap_of_lookup hp).symm⟩

/-- as many numbers are handed out as there are states -/
theorem pass_count (o : List Nat) (c : Nat) (A' : TA) (ho : ∀ q, q ∈ o ↔ q ∈ A'.states) :
    (weakTrAll o [] c).2 = c + A'.states.length := by
  have g := pass o c
  have hlen : (weakTrAll o [] c).1.length = A'.states.length := by
    rw [← List.length_map (f := Prod.fst)]
    apply length_eq_of_mem_iff (g.nodup List.nodup_nil) (PropAux.nodup_states A')
    intro a
    rw [mem_keys, pass_keys, ho]
  have := g.len
  rw [hlen, List.length_nil] at this
  omega

theorem ordA (A : TA) : ∀ q, q ∈ visitOrder (removeUseless A) ↔ q ∈ (removeUseless A).states := fun _ => Um.mem_visitOrder

end San

/-- **C01**: the languages of both operands are preserved -/
theorem sanitize_lang (A B : TA) (t : Tree) :
    accepts (sanitize A B).1 t = accepts A t ∧ accepts (sanitize A B).2.1 t = accepts B t :=
  ⟨(reindex_inj_lang _ _ (San.pass_inj _ _ _ (fun q hq => (San.ordA A q).mpr hq)) t).trans (removeUseless_lang A t),
    (reindex_inj_lang _ _ (San.pass_inj _ _ _ (fun q hq => (San.ordA B q).mpr hq)) t).trans (removeUseless_lang B t)⟩

theorem sanitize_trimmed (A B : TA) : allUsefulB (sanitize A B).1 = true ∧ allUsefulB (sanitize A B).2.1 = true :=
  ⟨San.allUsefulB_reindex _ A, San.allUsefulB_reindex _ B⟩

theorem sanitize_useful (A B : TA) :
    ((∀ q, Occurs (sanitize A B).1 q → UsefulState (sanitize A B).1 q) ∧
      (∀ r, r ∈ (sanitize A B).1.rules → UsefulRule (sanitize A B).1 r)) ∧
    ((∀ q, Occurs (sanitize A B).2.1 q → UsefulState (sanitize A B).2.1 q) ∧
      (∀ r, r ∈ (sanitize A B).2.1.rules → UsefulRule (sanitize A B).2.1 r)) :=
  ⟨allUsefulB_sound _ (sanitize_trimmed A B).1, allUsefulB_sound _ (sanitize_trimmed A B).2⟩

theorem sanitize_count (A B : TA) :
    (sanitize A B).2.2 = (sanitize A B).1.states.length + (sanitize A B).2.1.states.length ∧
    (sanitize A B).1.states.length = (removeUseless A).states.length ∧
    (sanitize A B).2.1.states.length = (removeUseless B).states.length := by
  have c3 := reindex_states_length _ _ (San.pass_inj (visitOrder (removeUseless A)) 0 _ (fun q hq => (San.ordA A q).mpr hq))
  have c4 := reindex_states_length _ _ (San.pass_inj (visitOrder (removeUseless B))
    (weakTrAll (visitOrder (removeUseless A)) [] 0).2 _ (fun q hq => (San.ordA B q).mpr hq))
  refine ⟨?_, c3, c4⟩
  show (weakTrAll _ [] _).2 = (reindex _ _).states.length + (reindex _ _).states.length
  rw [c3, c4, San.pass_count _ _ _ (San.ordA B), San.pass_count _ _ _ (San.ordA A), Nat.zero_add]

theorem sanitize_dense (A B : TA) (x : Nat) :
    (x ∈ (sanitize A B).1.states ↔ x < (sanitize A B).1.states.length) ∧
    (x ∈ (sanitize A B).2.1.states ↔ (sanitize A B).1.states.length ≤ x ∧ x < (sanitize A B).2.2) := by
  have hk : (sanitize A B).1.states.length = (weakTrAll (visitOrder (removeUseless A)) [] 0).2 := by
    rw [(sanitize_count A B).2.1, San.pass_count _ _ _ (San.ordA A), Nat.zero_add]
  rw [hk]
  exact ⟨(San.pass_states _ 0 _ (San.ordA A) x).trans (and_iff_right (Nat.zero_le x)), San.pass_states _ _ _ (San.ordA B) x⟩

theorem sanitize_disjoint (A B : TA) : ∀ q, q ∈ (sanitize A B).1.states → q ∉ (sanitize A B).2.1.states := by
  intro q h1 h2
  have := ((sanitize_dense A B q).1.mp h1)
  have := ((sanitize_dense A B q).2.mp h2).1
  omega

theorem sanitize_bound (A B : TA) :
    ∀ q, q ∈ (sanitize A B).1.states ∨ q ∈ (sanitize A B).2.1.states → q < (sanitize A B).2.2 := by
  intro q hq
  rcases hq with h | h
  · have := (sanitize_dense A B q).1.mp h
    have := (sanitize_count A B).1
    omega
  · exact ((sanitize_dense A B q).2.mp h).2

theorem checkIncl_sanitized (A B : TA) : Incl (sanitize A B).1 (sanitize A B).2.1 ↔ Incl A B := by
  unfold Incl
  constructor
  · intro h t ht
    rw [← (sanitize_lang A B t).1] at ht
    rw [← (sanitize_lang A B t).2]
    exact h t ht
  · intro h t ht
    rw [(sanitize_lang A B t).1] at ht
    rw [(sanitize_lang A B t).2]
    exact h t ht

theorem checkInclUpSan_iff {A B : TA} {fuel : Nat} {b : Bool} {c : InclUp.Cert}
    (h : checkInclUpSan A B fuel = some (b, c)) : b = true ↔ Incl A B :=
  (inclUp_iff h).trans (checkIncl_sanitized A B)

namespace SanEx

/-- `a → 7`, `f(7,7) → 3`, `g(2) → 9` (unproductive), `b → 4` (unreachable); final `3`, `9` -/
def exA : TA := ⟨[⟨0, [], 7⟩, ⟨1, [7, 7], 3⟩, ⟨2, [2], 9⟩, ⟨3, [], 4⟩], [3, 9]⟩
/-- `a → 7`, `b → 7`, `f(7,7) → 7`; final `7` (the state numbers overlap with those of `exA`) -/
def exB : TA := ⟨[⟨0, [], 7⟩, ⟨3, [], 7⟩, ⟨1, [7, 7], 7⟩], [7]⟩
def exT : Tree := .node 1 [.node 0 [], .node 0 []]

example : ((sanitize exA exB).1.rules, (sanitize exA exB).1.final) = ([⟨0, [], 1⟩, ⟨1, [1, 1], 0⟩], [0]) := by decide +kernel
example : ((sanitize exA exB).2.1.rules, (sanitize exA exB).2.1.final, (sanitize exA exB).2.2) =
    ([⟨0, [], 2⟩, ⟨3, [], 2⟩, ⟨1, [2, 2], 2⟩], [2], 3) := by decide +kernel
example : (sanitize exA exB).1.states = [1, 0] ∧ (sanitize exA exB).2.1.states = [2] := by decide +kernel
example : allUsefulB exA = false ∧ allUsefulB (sanitize exA exB).1 = true := by decide +kernel
example : accepts (sanitize exA exB).1 exT = true ∧ accepts exA exT = true := by decide +kernel
example : ∃ c, checkInclUpSan exA exB 20 = some (true, c) := ⟨_, rfl⟩
example : ∃ c, checkInclUpSan exB exA 20 = some (false, c) := ⟨_, rfl⟩
example : Incl exA exB := (checkInclUpSan_iff (A := exA) (B := exB) (fuel := 20) rfl).mp rfl
example : ¬ Incl exB exA := fun h => by
  have := (checkInclUpSan_iff (A := exB) (B := exA) (fuel := 20) rfl).mpr h
  cases this

end SanEx

end Vata
