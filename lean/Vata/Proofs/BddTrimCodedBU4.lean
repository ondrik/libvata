import Vata.Proofs.BddTrimCodedBU3
/-!
C08: the bottom-up `RemoveUselessStates` as coded: the traversal, and the theorems.

The stack traversal from the nodes of the final states along `GetEgress`, with the erasing of the egress edges of the
ingress nodes as coded: the erased edges all point to a node whose state is already `useful`, so nothing is lost
(`TInv.eg_sup`).  At the end `useful` = `tdReach (restrict (skelBU T F) (prodStates (skelBU T F)))`
(`bu_useless_coded_useful`); the final loop `for (tupleBddPair : GetTransTable())` keeps exactly the rules all of whose
states are in `useful` (`hasRule_restrictFold`); hence `bu_useless_coded_spec`, `bu_useless_coded_lang`, `bu_useless_coded_noUseless`.
The `assert(false)` of `nodes.FindFwd(outNode)` is unreachable (every end of an edge has an entry in `nodes`); the
`assert(false)` of `GetEgress(inNode).erase(node) != 1` is not modelled (the erase of a missing edge is a no-op here; the
results do not depend on the ingress sets at all).
-/
namespace Vata
namespace BddTrimCoded
open M BddAbs BddAbsTD

variable {T : Table} {A : TA} {F : List Nat} {G0 : Graph} {d : List (Nat × Nat)} {reach : List Nat}

theorem eraseIn_spec (G : Graph) (node : Nat) :
    (∀ n m, m ∈ (eraseIn G node).egr n → m ∈ G.egr n) ∧ (∀ n m, m ∈ G.egr n → m ∈ (eraseIn G node).egr n ∨ m = node) := by
  obtain ⟨_, h, _⟩ := foldl_eraseEgr node (G.ing node) G
  refine ⟨fun n m hm => ((h n m).mp hm).1, fun n m hm => ?_⟩
  by_cases hx : m = node
  · exact Or.inr hx
  · exact Or.inl ((h n m).mpr ⟨hm, fun k => hx k.2⟩)

/-- `s'` comes from `s = (nodeWorkset, useful)` by offering the states `K`: a state enters `useful` together with the push of
its node; a state of `K` that has a node is in `useful` afterwards -/
structure Pushed (d : List (Nat × Nat)) (K : Nat → Prop) (s s' : List Nat × List Nat) : Prop where
  useful_mono : ∀ q, q ∈ s.2 → q ∈ s'.2
  stack_mono : ∀ n, n ∈ s.1 → n ∈ s'.1
  new_useful : ∀ q, q ∈ s'.2 → q ∈ s.2 ∨ (K q ∧ ∃ n, (n, q) ∈ d ∧ n ∈ s'.1)
  offered : ∀ q, K q → (∃ n, (n, q) ∈ d) → q ∈ s'.2
  new_stack : ∀ n, n ∈ s'.1 → n ∈ s.1 ∨ ∃ q, (n, q) ∈ d ∧ q ∈ s'.2

theorem Pushed.trans {K K' : Nat → Prop} {s s' s'' : List Nat × List Nat} (h : Pushed d K s s') (h' : Pushed d K' s' s'') :
    Pushed d (fun q => K q ∨ K' q) s s'' where
  useful_mono q hq := h'.useful_mono q (h.useful_mono q hq)
  stack_mono n hn := h'.stack_mono n (h.stack_mono n hn)
  new_useful q hq := by
    rcases h'.new_useful q hq with hq | ⟨hk, hn⟩
    · exact (h.new_useful q hq).imp_right fun ⟨hk, n, h1, h2⟩ => ⟨Or.inl hk, n, h1, h'.stack_mono n h2⟩
    · exact Or.inr ⟨Or.inr hk, hn⟩
  offered q hk hn := hk.elim (fun hk => h'.useful_mono q (h.offered q hk hn)) (fun hk => h'.offered q hk hn)
  new_stack n hn := by
    rcases h'.new_stack n hn with hn | hn
    · exact (h.new_stack n hn).imp_right fun ⟨q, h1, h2⟩ => ⟨q, h1, h'.useful_mono q h2⟩
    · exact Or.inr hn

theorem Pushed.foldl {α : Type} {step : List Nat × List Nat → α → List Nat × List Nat} {key : α → Nat → Prop}
    (h : ∀ s x, Pushed d (key x) s (step s x)) (l : List α) (s : List Nat × List Nat) :
    Pushed d (fun q => ∃ x, x ∈ l ∧ key x q) s (l.foldl step s) := by
  induction l generalizing s with
  | nil => exact ⟨fun _ => id, fun _ => id, fun _ => Or.inl, fun _ ⟨_, h, _⟩ => (nomatch h), fun _ => Or.inl⟩
  | cons x l ih =>
    obtain ⟨a, b, c, e, f⟩ := (h s x).trans (ih (step s x))
    exact ⟨a, b, fun q hq => (c q hq).imp_right fun ⟨hk, hn⟩ => ⟨hk.elim (fun hk => ⟨x, List.mem_cons_self, hk⟩)
      (fun ⟨y, hy, hk⟩ => ⟨y, List.mem_cons_of_mem _ hy, hk⟩), hn⟩,
      fun q ⟨y, hy, hk⟩ => e q ((List.mem_cons.mp hy).elim (fun e => Or.inl (e ▸ hk)) (fun hy => Or.inr ⟨y, hy, hk⟩)), f⟩

theorem outStep_pushed (funN : ∀ n q q', (n, q) ∈ d → (n, q') ∈ d → q = q') (s : List Nat × List Nat) (m : Nat) :
    Pushed d (fun q => (m, q) ∈ d) s (outStep d s m) := by
  unfold outStep
  cases hf : findFwd d m with
  | none => exact ⟨fun _ => id, fun _ => id, fun _ => Or.inl, fun q hq => absurd hq (findFwd_none hf q), fun _ => Or.inl⟩
  | some k =>
    have hk := findFwd_some hf
    dsimp only
    split
    · next h => exact ⟨fun _ => id, fun _ => id, fun _ => Or.inl,
        fun q hq _ => funN m q k hq hk ▸ List.contains_iff_mem.mp h, fun _ => Or.inl⟩
    · exact ⟨fun q hq => List.mem_append_left _ hq, fun n hn => List.mem_cons_of_mem _ hn,
        fun q hq => (List.mem_append.mp hq).imp_right fun h => by
          rw [List.mem_singleton.mp h]; exact ⟨hk, m, hk, List.mem_cons_self⟩,
        fun q hq _ => funN m q k hq hk ▸ List.mem_append_right _ List.mem_cons_self,
        fun n hn => (List.mem_cons.mp hn).symm.imp_right fun (e : n = m) => ⟨k, e ▸ hk, List.mem_append_right _ List.mem_cons_self⟩⟩

theorem seedStep_pushed (d : List (Nat × Nat)) (s : List Nat × List Nat) (f : Nat) :
    Pushed d (fun q => q = f) s (seedStep d s f) := by
  unfold seedStep
  cases hf : findBwd d f with
  | none => exact ⟨fun _ => id, fun _ => id, fun _ => Or.inl, fun q hq ⟨n, hn⟩ => absurd (hq ▸ hn) (findBwd_none hf n),
      fun _ => Or.inl⟩
  | some n0 =>
    have hd := findBwd_some hf
    exact ⟨fun q hq => mem_ins.mpr (Or.inl hq), fun n hn => List.mem_cons_of_mem _ hn,
      fun q hq => (mem_ins.mp hq).imp_right fun h => ⟨h, n0, h ▸ hd, List.mem_cons_self⟩,
      fun q hq _ => mem_ins.mpr (Or.inr hq),
      fun n hn => (List.mem_cons.mp hn).symm.imp_right fun (e : n = n0) => ⟨f, e ▸ hd, mem_ins.mpr (Or.inr rfl)⟩⟩

structure TInv (A : TA) (F : List Nat) (G0 : Graph) (d : List (Nat × Nat)) (reach : List Nat) (tr : TrSt) : Prop where
  usound : ∀ q, q ∈ tr.useful → TdReachable A q
  stk : ∀ n, n ∈ tr.stack → ∃ q, (n, q) ∈ d ∧ q ∈ tr.useful
  pend : ∀ q, q ∈ tr.useful → ∀ n, (n, q) ∈ d →
    n ∈ tr.stack ∨ ∀ m, m ∈ G0.egr n → ∀ k, (m, k) ∈ d → k ∈ tr.useful
  eg_sub : ∀ n m, m ∈ tr.graph.egr n → m ∈ G0.egr n
  eg_sup : ∀ n m, m ∈ G0.egr n → m ∈ tr.graph.egr n ∨ ∃ k, (m, k) ∈ d ∧ k ∈ tr.useful
  seed : ∀ f, f ∈ F → f ∈ reach → f ∈ tr.useful

theorem tInv_step
    (hG : GInv (tdE A) reach G0 d) {node : Nat} {stk u : List Nat} {G : Graph}
    (h : TInv A F G0 d reach ⟨node :: stk, u, G⟩) :
    TInv A F G0 d reach ⟨(((eraseIn G node).egr node).foldl (outStep d) (stk, u)).1,
      (((eraseIn G node).egr node).foldl (outStep d) (stk, u)).2, eraseIn G node⟩ := by
  obtain ⟨q0, hq0d, hq0u⟩ := h.stk node List.mem_cons_self
  obtain ⟨e1, e2⟩ := eraseIn_spec G node
  obtain ⟨o1, o2, o3, o4, o5⟩ := Pushed.foldl (outStep_pushed hG.dict.funN) ((eraseIn G node).egr node) (stk, u)
  refine ⟨fun q hq => ?_, fun n hn => ?_, fun q hq n hn => ?_, fun n m hm => h.eg_sub n m (e1 n m hm), fun n m hm => ?_,
    fun f hf hr => o1 f (h.seed f hf hr)⟩
  · rcases o3 q hq with h' | ⟨⟨m, h1, h2⟩, _⟩
    · exact h.usound q h'
    · obtain ⟨p, k, g1, g2, r, hr, hp, hk⟩ := hG.sound node m (h.eg_sub node m (e1 node m h1))
      have ep : p = q0 := hG.dict.funN node p q0 g1 hq0d
      have ek : k = q := hG.dict.funN m k q g2 h2
      subst ep ek
      exact TdReachable.step hr (by rw [hp]; exact h.usound p hq0u) hk
  · rcases o5 n hn with h' | h'
    · obtain ⟨q, h1, h2⟩ := h.stk n (List.mem_cons_of_mem _ h')
      exact ⟨q, h1, o1 q h2⟩
    · exact h'
  · rcases o3 q hq with h' | ⟨_, m, h2, h3⟩
    · rcases h.pend q h' n hn with h'' | h''
      · rcases List.mem_cons.mp h'' with rfl | h''
        · refine Or.inr (fun m hm k hk => ?_)
          rcases h.eg_sup n m hm with g | ⟨k', g1, g2⟩
          · rcases e2 n m g with g | rfl
            · exact o4 k ⟨m, g, hk⟩ ⟨m, hk⟩
            · rw [hG.dict.funN m k q0 hk hq0d]; exact o1 q0 hq0u
          · rw [hG.dict.funN m k k' hk g1]; exact o1 k' g2
        · exact Or.inl (o2 n h'')
      · exact Or.inr (fun m hm k hk => o1 k (h'' m hm k hk))
    · rw [hG.funS n m q hn h2]; exact Or.inl h3
  · rcases h.eg_sup n m hm with g | ⟨k, g1, g2⟩
    · rcases e2 n m g with g | rfl
      · exact Or.inl g
      · exact Or.inr ⟨q0, hq0d, o1 q0 hq0u⟩
    · exact Or.inr ⟨k, g1, o1 k g2⟩

theorem traverse_inv
    (hG : GInv (tdE A) reach G0 d) {fuel : Nat} {tr tr' : TrSt} (h : TInv A F G0 d reach tr)
    (e : traverse d fuel tr = some tr') : TInv A F G0 d reach tr' ∧ tr'.stack = [] := by
  induction fuel generalizing tr with
  | zero =>
    obtain ⟨_ | ⟨node, stk⟩, u, G⟩ := tr
    · cases e; exact ⟨h, rfl⟩
    · cases e
  | succ fuel ih =>
    obtain ⟨_ | ⟨node, stk⟩, u, G⟩ := tr
    · cases e; exact ⟨h, rfl⟩
    · exact ih (tInv_step hG h) e

theorem tInv_seed
    (hG : GInv (tdE A) reach G0 d) (hF : ∀ q, q ∈ F → q ∈ reach → q ∈ A.final) :
    TInv A F G0 d reach ⟨(F.foldl (seedStep d) ([], [])).1, (F.foldl (seedStep d) ([], [])).2, G0⟩ := by
  obtain ⟨_, _, i3, i5, i4⟩ := Pushed.foldl (seedStep_pushed d) F ([], [])
  refine ⟨fun q hq => ?_, fun n hn => ?_, fun q hq n hn => ?_, fun _ _ => id, fun _ _ => Or.inl, fun f hf hfr => ?_⟩
  · rcases i3 q hq with h | ⟨⟨_, h1, rfl⟩, n, h2, _⟩
    · cases h
    · exact TdReachable.final (hF q h1 ((hG.dom q).mpr ⟨n, h2⟩))
  · rcases i4 n hn with h | h
    · cases h
    · exact h
  · rcases i3 q hq with h | ⟨_, n', h2, h3⟩
    · cases h
    · rw [hG.funS n n' q hn h2]; exact Or.inl h3
  · exact i5 f ⟨f, hf, rfl⟩ ((hG.dom f).mp hfr)

theorem buUselessSt_eq_some {fuel : Nat} {g : BuGSt} {tr : TrSt} :
    buUselessSt T F fuel = some (g, tr) ↔ buGLoop fuel (buGInit T) = some g ∧
      traverse g.nodes fuel ⟨(F.foldl (seedStep g.nodes) ([], [])).1, (F.foldl (seedStep g.nodes) ([], [])).2, g.graph⟩ =
        some tr := by
  unfold buUselessSt
  constructor
  · intro h
    split at h
    · cases h
    · next st hst =>
      dsimp only at h
      split at h
      · cases h
      · next tr' htr => cases h; exact ⟨hst, htr⟩
  · rintro ⟨hg, htr⟩
    simp only [hg, htr]

/-- **`RemoveUselessStates` (bottom-up) as coded, the states.**  `reachable` is the set of productive states, `nodes` has
a node exactly for them, and at the end of the traversal `useful` is the set of the states reached from the productive
final states through the tuples of productive states – the set `useful` of the abstract model `removeUselessBU`. -/
theorem bu_useless_coded_useful {T : Table} (hT : TableOk T) (F : List Nat) {fuel : Nat} {g : BuGSt} {tr : TrSt}
    (h : buUselessSt T F fuel = some (g, tr)) :
    (∀ q, q ∈ g.reach ↔ q ∈ prodStates (skelBU T F)) ∧
    (∀ q, (findBwd g.nodes q).isSome = true ↔ q ∈ g.reach) ∧
    (∀ q, q ∈ tr.useful ↔ q ∈ tdReach (restrict (skelBU T F) (prodStates (skelBU T F)))) ∧ tr.stack = [] := by
  obtain ⟨h1, h2⟩ := buUselessSt_eq_some.mp h
  obtain ⟨hr, _, _⟩ := buGLoop_reach hT F h1
  obtain ⟨hG, hC⟩ := gLoop_final hT F h1
  obtain ⟨hI, hs⟩ := traverse_inv hG (tInv_seed hG fun q hf hq => mem_final_restrict.mpr ⟨hf, (hr q).mp hq⟩) h2
  refine ⟨hr, fun q => ?_, fun q => ?_, hs⟩
  · rw [hG.dom]
    cases hf : findBwd g.nodes q with
    | none => exact ⟨fun h => (nomatch h), fun ⟨n, hn⟩ => absurd hn (findBwd_none hf n)⟩
    | some n => exact ⟨fun _ => ⟨n, findBwd_some hf⟩, fun _ => rfl⟩
  · rw [tdReach_iff]
    refine ⟨hI.usound q, ?_⟩
    refine tdReachable_sub_closed (S := tr.useful) (fun f hf => ?_) (fun r hr' hp k hk => ?_) q
    · obtain ⟨f1, f2⟩ := mem_final_restrict.mp hf
      exact hI.seed f f1 ((hr f).mpr f2)
    · obtain ⟨n, m, c1, c2, c3⟩ := hC r.parent k ⟨r, hr', rfl, hk⟩
      rcases hI.pend _ hp n c1 with h' | h'
      · rw [hs] at h'; cases h'
      · exact h' m c3 k c2

theorem get_restrictStep (U : List Nat) (R : Table) (e : List Nat × MT) (ks : List Nat) :
    (restrictStep U R e).get ks =
      if e.1.all (fun q => U.contains q) = true ∧ e.1 = ks then apply1 (usefulLeaf U) e.2 else R.get ks := by
  unfold restrictStep
  by_cases hp : e.1.all (fun q => U.contains q) = true
  · rw [if_pos hp, get_set]; simp only [hp, true_and]
  · rw [if_neg hp, if_neg (fun h => hp h.1)]

/-- the loop sets the restricted MTBDD for the tuples of useful states; `m`: the MTBDD of all pairs with the tuple `ks` -/
theorem get_restrictFold (U : List Nat) (ks : List Nat) (m : MT) (es : List (List Nat × MT)) (R : Table)
    (h : ∀ e, e ∈ es → e.1 = ks → e.2 = m) :
    (es.foldl (restrictStep U) R).get ks =
      if ks.all (fun q => U.contains q) = true ∧ ks ∈ es.map (·.1) then apply1 (usefulLeaf U) m else R.get ks := by
  induction es generalizing R with
  | nil => simp
  | cons e es ih =>
    rw [List.foldl_cons, ih _ (fun e' he' => h e' (List.mem_cons_of_mem _ he')), get_restrictStep]
    simp only [List.map_cons, List.mem_cons]
    by_cases hk : e.1 = ks
    · cases hk
      rw [h e List.mem_cons_self rfl]
      by_cases hp : e.1.all (fun q => U.contains q) = true
      · simp only [hp, true_and, and_true, true_or, if_true, ite_self]
      · simp only [hp, Bool.false_eq_true, false_and, if_false]
    · have hk' : ¬ ks = e.1 := fun h => hk h.symm
      simp only [hk, hk', and_false, false_or, if_false]

theorem hasRule_restrictFold (hT : TableOk T) (U : List Nat) (ρ : Nat → Bool) (ks : List Nat) (p : Nat) :
    HasRule ((pairs T).foldl (restrictStep U) Table.empty) ρ ks p ↔
      HasRule T ρ ks p ∧ p ∈ U ∧ ∀ k, k ∈ ks → k ∈ U := by
  have hm : ∀ e, e ∈ pairs T → e.1 = ks → e.2 = T.get ks := by
    intro e he hk
    rcases List.mem_cons.mp he with rfl | he
    · rw [← hk]; rfl
    · rw [← hk]; unfold Table.get; rw [if_neg (hT e he).1, (hT e he).2]
  have hg := get_restrictFold U ks (T.get ks) (pairs T) Table.empty hm
  constructor
  · intro h
    have h' : p ∈ eval (((pairs T).foldl (restrictStep U) Table.empty).get ks) ρ := h
    rw [hg] at h'
    split at h'
    · next hc =>
      rw [apply1_eval, mem_usefulLeaf] at h'
      exact ⟨h'.1, h'.2, fun k hk => List.contains_iff_mem.mp (List.all_eq_true.mp hc.1 k hk)⟩
    · exact absurd h' (hasRule_empty ρ ks p)
  · rintro ⟨h1, h2, h3⟩
    show p ∈ eval _ ρ
    rw [hg, if_pos ⟨List.all_eq_true.mpr fun k hk => List.contains_iff_mem.mpr (h3 k hk), hasRule_key h1⟩, apply1_eval,
      mem_usefulLeaf]
    exact ⟨h1, h2⟩

/-- **`RemoveUselessStates` (bottom-up) as coded: every answer is the answer of the abstract model** `removeUselessBU`:
the same rules, the same list of final states. -/
theorem bu_useless_coded_spec {T : Table} (hT : TableOk T) (F : List Nat) {fuel : Nat} {R : Table × List Nat}
    (h : buUselessCoded T F fuel = some R) :
    (∀ ρ ks p, HasRule R.1 ρ ks p ↔ HasRule (removeUselessBU T F).1 ρ ks p) ∧ R.2 = (removeUselessBU T F).2 := by
  unfold buUselessCoded at h
  cases hst : buUselessSt T F fuel with
  | none => rw [hst] at h; cases h
  | some p =>
    obtain ⟨g, tr⟩ := p
    obtain ⟨hr, hN, hU, _⟩ := bu_useless_coded_useful hT F hst
    rw [hst] at h
    cases h
    refine ⟨fun ρ ks p => ?_, List.filter_congr fun q _ => ?_⟩
    · rw [hasRule_removeUselessBU, hasRule_restrictFold hT]
      simp only [hU]
    · rw [Bool.eq_iff_iff, hN, hr]
      simp only [List.contains_iff_mem]

theorem bu_useless_coded_lang {syms : List Nat} {T : Table} (hO : TableOk T) (hT : TableWF T)
    (hc : SymsCompleteBU syms T) (F : List Nat) {fuel : Nat} {R : Table × List Nat}
    (h : buUselessCoded T F fuel = some R) (t : Tree) :
    accepts (absBU syms R.1 R.2) t = accepts (absBU syms T F) t := by
  obtain ⟨h1, h2⟩ := bu_useless_coded_spec hO F h
  rw [(setEqTA_of_hasRule h1 h2).lang, removeUselessBU_lang F hT hc]

theorem bu_useless_coded_abs {syms : List Nat} {T : Table} (hO : TableOk T) (hT : TableWF T)
    (hc : SymsCompleteBU syms T) (F : List Nat) {fuel : Nat} {R : Table × List Nat}
    (h : buUselessCoded T F fuel = some R) : SetEqTA (absBU syms R.1 R.2) (removeUseless (absBU syms T F)) := by
  obtain ⟨h1, h2⟩ := bu_useless_coded_spec hO F h
  exact (setEqTA_of_hasRule h1 h2).trans (absBU_removeUseless F hT hc)

/-- **"leaving no useless state"**: the bottom-up `RemoveUselessStates` as coded prunes BOTH the unproductive and the
top-down unreachable states: every state and every rule of the answer is useful -/
theorem bu_useless_coded_noUseless {syms : List Nat} {T : Table} (hO : TableOk T) (hT : TableWF T)
    (hc : SymsCompleteBU syms T) (F : List Nat) {fuel : Nat} {R : Table × List Nat}
    (h : buUselessCoded T F fuel = some R) :
    (∀ q, Occurs (absBU syms R.1 R.2) q → UsefulState (absBU syms R.1 R.2) q) ∧
    (∀ r, r ∈ (absBU syms R.1 R.2).rules → UsefulRule (absBU syms R.1 R.2) r) := by
  obtain ⟨h1, h2⟩ := bu_useless_coded_spec hO F h
  exact (setEqTA_of_hasRule (syms := syms) h1 h2).allUseful (removeUselessBU_useful F hT hc)

end BddTrimCoded
end Vata
