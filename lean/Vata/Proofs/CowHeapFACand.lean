import Vata.Proofs.CowHeapFADenote3
/-!
# `GetCandidateTree` in the finite-automaton heap model meets the specification of `C10_coded_candidate_spec`

For the value-level search `candStart` / `candLoop` / `candInner` of `Vata/CowHeapFA.lean` (FIFO queue, `reachableStates`, the
two early `return`s, the keys handed to `transitions_->insert`), DIRECTLY on that search (no detour through a scan order):

* `vCandRaw_sub`: the local `res` (`vCandRaw`) is a sub-automaton of the object (start states, final states and transitions all
  taken from it); `vCandidate_lang_raw`, `vCandidate_sub_lang`: the result has the language of `res`, a subset of the object's;
* `candSearch_inv`: the invariants of the breadth-first search when it ends (by a `return`, or with `newStates.empty()`:
  `candSearch_end` in `Vata/Proofs/CowHeapFA3.lean`), from what one step of each loop body keeps (`CI_innerStep`,
  `candInner_ext`, `candStart_ext`), the loop invariant being `Closure.Sat` of `Vata/Proofs/Closure.lean`;
* `vCandRaw_nonempty`: for a value with one cluster per state, `res` accepts a word when the object does;
* `vCandidate_nonempty_iff`: the same for the result after `RemoveUselessStates`.

The link `vCandRaw v ≈ nfasCandidateRaw v` (same search order) is NOT proved.
-/
namespace Vata.CowHeapFA

open Vata Vata.W Vata.NfaS
open Vata.Store (KeysNodup)
open Vata.CowHeapX (missing)
open Vata.Closure (Sat Ext reachC)

/-- the value members collected so far are taken from the object -/
def MemSub (v : FAVal) (s : CandSt) : Prop :=
  (∀ q, q ∈ s.mem.start → q ∈ v.mem.start) ∧ (∀ q, q ∈ s.mem.final → q ∈ v.mem.final)

theorem memSub_ret {v : FAVal} {s : CandSt} {q : Nat} (hs : MemSub v s) (hq : q ∈ v.mem.final) : MemSub v (ret s q) :=
  ⟨hs.1, fun x hx => (NfaS.mem_insN.mp hx).elim (hs.2 x) (fun e => e ▸ hq)⟩

theorem memSub_startStep {v : FAVal} {s : CandSt} {q : Nat} (hs : MemSub v s) (hq : q ∈ v.mem.start) :
    MemSub v (startStep v s q) := by
  refine ⟨fun x hx => ?_, fun x hx => hs.2 x (see_mem s q ▸ hx)⟩
  rw [show x ∈ (startStep v s q).mem.start ↔ x ∈ Vata.insN (see s q).mem.start q from Iff.rfl, see_mem] at hx
  exact (NfaS.mem_insN.mp hx).elim (hs.1 x) (fun e => e ▸ hq)

theorem memSub_innerStep {v : FAVal} {s : CandSt} (hs : MemSub v s) (act q : Nat) : MemSub v (innerStep act s q) :=
  ⟨fun x hx => hs.1 x (see_mem s q ▸ hx), fun x hx => hs.2 x (see_mem s q ▸ hx)⟩

theorem candStart_memSub (v : FAVal) :
    ∀ (l : List Nat) (s : CandSt), (∀ q, q ∈ l → q ∈ v.mem.start) → MemSub v s → MemSub v (candStart v l s)
  | [], _, _, hs => hs
  | q :: l, s, hl, hs => by
    have h1 := memSub_startStep hs (hl q List.mem_cons_self)
    rw [candStart_cons]
    split
    · exact memSub_ret h1 (List.contains_iff_mem.mp ‹_›)
    · exact candStart_memSub v l _ (fun x hx => hl x (List.mem_cons_of_mem _ hx)) h1

theorem candInner_memSub (v : FAVal) (act : Nat) :
    ∀ (ts : List Nat) (s : CandSt), MemSub v s → MemSub v (candInner v act ts s)
  | [], _, hs => hs
  | q :: ts, s, hs => by
    rw [candInner_cons]
    split
    · exact memSub_ret (memSub_innerStep hs act q) (List.contains_iff_mem.mp ‹_›)
    · exact candInner_memSub v act ts _ (memSub_innerStep hs act q)

theorem candLoop_memSub (v : FAVal) : ∀ (n : Nat) (s : CandSt), MemSub v s → MemSub v (candLoop v n s)
  | 0, _, hs => hs
  | n + 1, s, hs => by
    rw [candLoop_succ]
    split
    · exact hs
    · split
      · exact hs
      · split
        · exact candLoop_memSub v n _ hs
        · exact candLoop_memSub v n _ (candInner_memSub v _ _ _ hs)

theorem vCandRaw_sub (v : FAVal) : NfaSub (vCandRaw v).toNFA v.toNFA := by
  have hm : MemSub v (candSearch v) := by
    unfold candSearch
    exact candLoop_memSub v _ _ (candStart_memSub v v.mem.start _ (fun q h => h) ⟨fun q h => (nomatch h), fun q h => (nomatch h)⟩)
  refine ⟨hm.1, hm.2, fun e he => ?_⟩
  have he' : e ∈ transOf (missing [] (pick v.trans (candSearch v).keys)) := he
  obtain ⟨c, hc, h⟩ := mem_transOf.mp he'
  exact mem_transOf.mpr ⟨c, mem_of_lookup (mem_missing_pick.mp hc).2, h⟩

/-- the automaton `GetCandidateTree` returns is, up to list order, `nfasRemoveUseless` of its local `res` … -/
theorem vCandidate_denote_useless (v : FAVal) :
    NEquiv (vCandidate v).toNFAS (nfasRemoveUseless (vCandRaw v).toNFAS) :=
  vUseless_denote (vCandRaw v) (keysNodup_missing_nil _)

/-- … so its language is the language of `res` … -/
theorem vCandidate_lang_raw (v : FAVal) (w : List Nat) :
    acceptsW (vCandidate v).toNFA w = acceptsW (vCandRaw v).toNFA w := by
  have := (vCandidate_denote_useless v).lang w
  rw [nfasRemoveUseless_lang] at this
  exact this

/-- … a subset of the language of the object -/
theorem vCandidate_sub_lang (v : FAVal) (w : List Nat) (h : acceptsW (vCandidate v).toNFA w = true) :
    acceptsW v.toNFA w = true :=
  (vCandRaw_sub v).lang w (vCandidate_lang_raw v w ▸ h)

/-- the transitions of `res` when the keys `keys` have been handed to `transitions_->insert` -/
abbrev KT (v : FAVal) (keys : List Nat) : NFA := ⟨[], [], transOf (missing [] (pick v.trans keys))⟩

theorem KT_mono {v : FAVal} (hk : KeysNodup v.trans) {keys : List Nat} (act : Nat) {p q : Nat} {w : List Nat}
    (h : Path (KT v keys) p w q) : Path (KT v (keys ++ [act])) p w q := by
  refine h.mono (fun e he => ?_)
  have := (mem_transOf_missing_pick hk keys e).mp he
  exact (mem_transOf_missing_pick hk _ e).mpr ⟨this.1, List.mem_append_left _ this.2⟩

/-- holds at every point of the search: every state of `reachableStates` is reached from a start state of `res` inside
    `res`; after a `return` a final state of `res` is among them -/
structure CI (v : FAVal) (s : CandSt) : Prop where
  hreach : ∀ q, q ∈ s.reach → ∃ s0, s0 ∈ s.mem.start ∧ ∃ w, Path (KT v s.keys) s0 w q
  hdone : s.done = true → ∃ q, q ∈ s.mem.final ∧ q ∈ s.reach

/-- between two turns of the `while` loop (no `return` yet): the invariant of a reachability loop (`Closure.Sat`, aimed at the
    reachable states of the object), the queue inside `reachableStates`, none of which is final -/
structure CL (v : FAVal) (s : CandSt) : Prop where
  sat : Sat (reachC (· ∈ v.toNFA.start) (NfaC.nfaE v.toNFA)) (NfaReach v.toNFA) s.reach s.queue
  hq : ∀ q, q ∈ s.queue → q ∈ s.reach
  hnf : ∀ q, q ∈ s.reach → q ∉ v.mem.final

/-- after a `return` at the state `x` that has just been seen -/
theorem CI_ret {v : FAVal} {s : CandSt} {x : Nat} (hi : CI v s) (hx : x ∈ s.reach) : CI v (ret s x) :=
  ⟨hi.hreach, fun _ => ⟨x, NfaS.mem_insN.mpr (Or.inr rfl), hx⟩⟩

/-- one step of the inner loops keeps `reachableStates` reached inside `res` (the cluster of `act` is inserted in the same
    step) -/
theorem CI_innerStep {v : FAVal} (hk : KeysNodup v.trans) {s : CandSt} {act a x : Nat} (hi : CI v s)
    (hd : s.done = false) (hact : act ∈ s.reach) (he : (act, a, x) ∈ transOf v.trans) : CI v (innerStep act s x) := by
  refine ⟨fun q hq => ?_, fun h => ?_⟩
  · show ∃ s0, s0 ∈ (see s x).mem.start ∧ ∃ w, Path (KT v ((see s x).keys ++ [act])) s0 w q
    rw [see_mem, see_keys]
    rcases mem_see_reach.mp hq with h | h
    · obtain ⟨s0, h0, w, hp⟩ := hi.hreach q h
      exact ⟨s0, h0, w, KT_mono hk act hp⟩
    · obtain ⟨s0, h0, w, hp⟩ := hi.hreach act hact
      refine ⟨s0, h0, w ++ [a], ?_⟩
      rw [h]
      exact Path.snoc (KT_mono hk act hp)
        ((mem_transOf_missing_pick hk _ _).mpr ⟨he, List.mem_append_right _ (List.mem_singleton.mpr rfl)⟩)
  · rw [show (innerStep act s x).done = (see s x).done from rfl, see_done, hd] at h
    cases h

/-- an inner loop that ends without `return` has looked at all of `xs`, none of them final -/
theorem candInner_ext (v : FAVal) (act : Nat) : ∀ (xs : List Nat) (s : CandSt), (candInner v act xs s).done = false →
    Ext xs (s.reach, s.queue) ((candInner v act xs s).reach, (candInner v act xs s).queue) ∧ ∀ x, x ∈ xs → x ∉ v.mem.final
  | [], s, _ => ⟨Ext.refl _, fun _ h => nomatch h⟩
  | x :: xs, s, hd => by
    rw [candInner_cons] at hd ⊢
    by_cases hf : v.mem.final.contains x = true
    · rw [if_pos hf] at hd; cases hd
    · rw [if_neg hf] at hd ⊢
      obtain ⟨e, hn⟩ := candInner_ext v act xs _ hd
      exact ⟨(ext_see s x).trans e,
        fun y hy => (List.mem_cons.mp hy).elim (fun e => e ▸ fun h' => hf (List.contains_iff_mem.mpr h')) (hn y)⟩

/-- the inner loops keep the general invariant -/
theorem candInner_CI {v : FAVal} (hk : KeysNodup v.trans) (act : Nat) : ∀ (xs : List Nat) (s : CandSt), CI v s →
    s.done = false → act ∈ s.reach → (∀ x, x ∈ xs → ∃ a, (act, a, x) ∈ transOf v.trans) → CI v (candInner v act xs s)
  | [], _, hi, _, _, _ => hi
  | x :: xs, s, hi, hd, hact, hxs => by
    obtain ⟨a, hax⟩ := hxs x List.mem_cons_self
    have hi' := CI_innerStep hk hi hd hact hax
    rw [candInner_cons]
    split
    · exact CI_ret hi' (mem_see_reach.mpr (Or.inr rfl))
    · exact candInner_CI hk act xs _ hi' ((see_done s x).trans hd) (mem_see_reach.mpr (Or.inl hact))
        (fun y hy => hxs y (List.mem_cons_of_mem _ hy))

/-- the `while` loop: whatever the fuel, the general invariant is kept, and the loop invariant as long as no `return` was
    reached (a completed turn is a round of the reachability loop: `Sat.pop_ext`) -/
theorem candLoop_spec {v : FAVal} (hk : KeysNodup v.trans) :
    ∀ (n : Nat) (s : CandSt), CI v s → (s.done = false → CL v s) →
      CI v (candLoop v n s) ∧ ((candLoop v n s).done = false → CL v (candLoop v n s))
  | 0, s, hi, hl => ⟨hi, hl⟩
  | n + 1, s, hi, hl => by
    cases hd : s.done with
    | true => rw [candLoop_done v hd]; exact ⟨hi, hl⟩
    | false =>
      have L := hl hd
      cases hq : s.queue with
      | nil => rw [candLoop_nil v hq]; exact ⟨hi, hl⟩
      | cons act q =>
        have hact : act ∈ s.reach := L.hq act (hq ▸ List.mem_cons_self)
        rw [candLoop_cons v hd hq]
        refine candLoop_spec hk n _ (candInner_CI hk act _ _ ⟨hi.hreach, hi.hdone⟩ hd hact fun x hx => (succ_iff hk).mp hx)
          (fun hd' => ?_)
        obtain ⟨e, hn⟩ := candInner_ext v act (succOf v.trans act) { s with queue := q } hd'
        exact ⟨(hq ▸ L.sat).pop_ext (NfaC.lfp_nfaReach v.toNFA) hact (fun _ => succ_iff hk) e,
          fun x hx => (e.marked x).mpr (((e.work x).mp hx).imp (fun h' => L.hq x (hq ▸ List.mem_cons_of_mem _ h')) (·.1)),
          fun x hx => ((e.marked x).mp hx).elim (L.hnf x) (hn x)⟩

theorem startStep_start {v : FAVal} {s : CandSt} (hs : ∀ q, q ∈ s.reach → q ∈ s.mem.start) (x q : Nat)
    (hq : q ∈ (startStep v s x).reach) : q ∈ (startStep v s x).mem.start := by
  show q ∈ Vata.insN (see s x).mem.start x
  rw [see_mem]
  exact NfaS.mem_insN.mpr ((mem_see_reach.mp hq).imp (hs q) id)

/-- a scan of the start states that ends without `return` has seen all of `l`, none of them final -/
theorem candStart_ext (v : FAVal) : ∀ (l : List Nat) (s : CandSt), (candStart v l s).done = false →
    Ext l (s.reach, s.queue) ((candStart v l s).reach, (candStart v l s).queue) ∧ ∀ x, x ∈ l → x ∉ v.mem.final
  | [], s, _ => ⟨Ext.refl _, fun _ h => nomatch h⟩
  | x :: l, s, hd => by
    rw [candStart_cons] at hd ⊢
    by_cases hf : v.mem.final.contains x = true
    · rw [if_pos hf] at hd; cases hd
    · rw [if_neg hf] at hd ⊢
      obtain ⟨e, hn⟩ := candStart_ext v l _ hd
      exact ⟨(ext_see s x).trans e,
        fun y hy => (List.mem_cons.mp hy).elim (fun e => e ▸ fun h' => hf (List.contains_iff_mem.mpr h')) (hn y)⟩

/-- every state the scan has seen is a start state of `res`; a `return` has made one of them final -/
theorem candStart_found (v : FAVal) : ∀ (l : List Nat) (s : CandSt), (∀ q, q ∈ s.reach → q ∈ s.mem.start) → s.done = false →
    (∀ q, q ∈ (candStart v l s).reach → q ∈ (candStart v l s).mem.start) ∧
    ((candStart v l s).done = true → ∃ q, q ∈ (candStart v l s).mem.final ∧ q ∈ (candStart v l s).reach)
  | [], s, hs, hd => ⟨hs, fun h => absurd (hd ▸ h) Bool.false_ne_true⟩
  | x :: l, s, hs, hd => by
    rw [candStart_cons]
    by_cases hf : v.mem.final.contains x = true
    · rw [if_pos hf]
      exact ⟨startStep_start (v := v) hs x, fun _ => ⟨x, NfaS.mem_insN.mpr (Or.inr rfl), mem_see_reach.mpr (Or.inr rfl)⟩⟩
    · rw [if_neg hf]
      exact candStart_found v l _ (startStep_start hs x) ((see_done s x).trans hd)

/-- **the state of `GetCandidateTree` at its `return`**, for a value with one cluster per state: every reached state is
    reached inside `res`; either a `return` inside a loop was taken and a final state of `res` is reached, or the queue is
    empty, no reached state is final and the reached states are closed under the transitions of the object -/
theorem candSearch_inv (v : FAVal) (hk : KeysNodup v.trans) :
    CI v (candSearch v) ∧ ((candSearch v).done = false → CL v (candSearch v) ∧ (candSearch v).queue = []) := by
  obtain ⟨h1, h2⟩ := candStart_found v v.mem.start ⟨[], [], ⟨[], [], []⟩, [], false⟩ (fun _ h => nomatch h) rfl
  have hsp := candLoop_spec hk (v.mem.start.length + (transOf v.trans).length + 1)
    (candStart v v.mem.start ⟨[], [], ⟨[], [], []⟩, [], false⟩)
    ⟨fun q hq => ⟨q, h1 q hq, [], .nil q⟩, h2⟩
    (fun hd => by
      -- from empty lists `Ext` says: `reachableStates` = the start states = the queue
      obtain ⟨e, hn⟩ := candStart_ext v v.mem.start ⟨[], [], ⟨[], [], []⟩, [], false⟩ hd
      have hR := fun c => ((e.marked c).trans (or_iff_right List.not_mem_nil)).symm
      exact ⟨Closure.sat_init hR (fun _ => NfaReach.of_start)
          fun x hx => (e.work x).mpr (Or.inr ⟨(hR x).mpr hx, List.not_mem_nil⟩),
        fun q hq => (hR q).mp (((e.work q).mp hq).resolve_left List.not_mem_nil).1, fun q hq => hn q ((hR q).mpr hq)⟩)
  exact ⟨hsp.1, fun hd => ⟨hsp.2 hd, (candSearch_end v).resolve_left (fun h => by rw [hd] at h; cases h)⟩⟩

/-- **`GetCandidateTree` before its final `RemoveUselessStates`**: for a value with one cluster per state the local `res`
    accepts some word whenever the object does -/
theorem vCandRaw_nonempty (v : FAVal) (hk : KeysNodup v.trans) (hne : ∃ w, acceptsW v.toNFA w = true) :
    ∃ w, acceptsW (vCandRaw v).toNFA w = true := by
  obtain ⟨hi, hl⟩ := candSearch_inv v hk
  cases hd : (candSearch v).done with
  | true =>
    obtain ⟨q, hqf, hqr⟩ := hi.hdone hd
    obtain ⟨s0, h0, w, hp⟩ := hi.hreach q hqr
    exact ⟨w, (acceptsW_iff _ _).mpr ⟨s0, h0, q, hqf, Path.mono (N := KT v (candSearch v).keys) (M := (vCandRaw v).toNFA) (fun _ h => h) hp⟩⟩
  | false =>
    exfalso
    obtain ⟨L, hq⟩ := hl hd
    obtain ⟨w, hw⟩ := hne
    obtain ⟨s, hs, q, hqf, hp⟩ := (acceptsW_iff _ w).mp hw
    exact L.hnf q (((hq ▸ L.sat).exact (NfaC.lfp_nfaReach v.toNFA) q).mpr ⟨s, hs, w, hp⟩) hqf

/-- **`GetCandidateTree()`**: non-empty exactly when the language of the object is -/
theorem vCandidate_nonempty_iff (v : FAVal) (hk : KeysNodup v.trans) :
    (∃ w, acceptsW (vCandidate v).toNFA w = true) ↔ ∃ w, acceptsW v.toNFA w = true := by
  constructor
  · rintro ⟨w, hw⟩; exact ⟨w, vCandidate_sub_lang v w hw⟩
  · intro hne
    obtain ⟨w, hw⟩ := vCandRaw_nonempty v hk hne
    exact ⟨w, by rw [vCandidate_lang_raw]; exact hw⟩

end Vata.CowHeapFA
