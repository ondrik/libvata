import Vata.StoreIter
import Vata.Proofs.Store
import Vata.Proofs.ListExt
import Vata.Proofs.ContainerLemmas
/-!
# The iterator protocol of the rule store – proofs for `Vata/StoreIter.lean`

Each of the three iterators is shown to follow a list (`Machine.Sim`): at every good position `operator*` yields the head
of what remains and `operator++` leads to a good position for the tail.  Inside one cluster the three move alike
(`advance_sim`); they differ in what happens when the cluster is left.
-/
namespace Vata.Store

namespace Machine
variable {α : Type}

def GoodSt (Good : α → Prop) : St α → Prop
  | .at a => Good a
  | .fin => True
  | .stuck => False

/-- `rest p` is what remains to be yielded from `p`; at every good position `operator*` yields its head and `operator++`
leads to a good position for its tail -/
structure Sim (M : Machine α) (Good : α → Prop) (rest : St α → List Rule) : Prop where
  fin : rest .fin = []
  step : ∀ a, Good a → ∃ r, M.get a = some r ∧ rest (.at a) = r :: rest (M.step a) ∧ GoodSt Good (M.step a)

variable {M : Machine α} {Good : α → Prop} {rest : St α → List Rule}

theorem Sim.of_cons (h : Sim M Good rest) {p : St α} {r : Rule} {l : List Rule} (hg : GoodSt Good p)
    (hr : rest p = r :: l) : ∃ a, p = .at a ∧ M.get a = some r ∧ rest (M.step a) = l ∧ GoodSt Good (M.step a) := by
  cases p with
  | fin => rw [h.fin] at hr; cases hr
  | stuck => exact hg.elim
  | «at» a =>
    obtain ⟨r', hget, hr', hg'⟩ := h.step a hg
    rw [hr'] at hr
    injection hr with e1 e2
    exact ⟨a, rfl, e1 ▸ hget, e2, hg'⟩

theorem Sim.of_nil (h : Sim M Good rest) {p : St α} (hg : GoodSt Good p) (hr : rest p = []) : p = .fin := by
  cases p with
  | fin => rfl
  | stuck => exact hg.elim
  | «at» a =>
    obtain ⟨_, _, hr', _⟩ := h.step a hg
    rw [hr'] at hr; cases hr

theorem drive_sim (h : Sim M Good rest) :
    ∀ (l : List Rule) (p : St α) (acc : List Rule), GoodSt Good p → rest p = l →
      M.drive l.length p acc = .done (acc.reverse ++ l)
  | [], p, acc, hg, hr => by rw [h.of_nil hg hr, List.append_nil]; rfl
  | r :: l, p, acc, hg, hr => by
    obtain ⟨a, rfl, hget, hr', hg'⟩ := h.of_cons hg hr
    rw [List.length_cons, drive, hget]
    simp only
    rw [drive_sim h l _ _ hg' hr', List.reverse_cons, List.append_assoc]
    rfl

theorem posAt_sim (h : Sim M Good rest) (h0 : GoodSt Good M.start) :
    ∀ n, n ≤ (rest M.start).length → GoodSt Good (M.posAt n) ∧ rest (M.posAt n) = (rest M.start).drop n
  | 0, _ => ⟨h0, rfl⟩
  | n + 1, hn => by
    obtain ⟨hg, hr⟩ := posAt_sim h h0 n (Nat.le_of_succ_le hn)
    rw [List.drop_eq_getElem_cons hn] at hr
    obtain ⟨a, ha, _, hr', hg'⟩ := h.of_cons hg hr
    rw [posAt, ha]
    exact ⟨hg', hr'⟩

/-- iterators reached by different numbers of increments are different (so `it1 == it2` tells positions apart) -/
theorem posAt_inj_sim (h : Sim M Good rest) (h0 : GoodSt Good M.start) {l : List Rule} (hl : rest M.start = l)
    {n m : Nat} (hn : n ≤ l.length) (hm : m ≤ l.length) (e : M.posAt n = M.posAt m) : n = m := by
  subst hl
  have h1 := (posAt_sim h h0 n hn).2
  rw [e, (posAt_sim h h0 m hm).2] at h1
  have := congrArg List.length h1
  rw [List.length_drop, List.length_drop] at this
  omega

theorem sim_protocol (h : Sim M Good rest) (h0 : GoodSt Good M.start) {l : List Rule} (hl : rest M.start = l) :
    (∀ n (hn : n < l.length), (∃ a, M.posAt n = .at a) ∧ M.deref (M.posAt n) = some l[n]) ∧
    M.posAt l.length = .fin ∧
    M.traverse l.length = .done l := by
  subst hl
  refine ⟨fun n hn => ?_, ?_, drive_sim h _ M.start [] h0 rfl⟩
  · obtain ⟨hg, hr⟩ := posAt_sim h h0 n (Nat.le_of_lt hn)
    rw [List.drop_eq_getElem_cons hn] at hr
    obtain ⟨a, ha, hget, _⟩ := h.of_cons hg hr
    rw [ha]
    exact ⟨⟨a, rfl⟩, hget⟩
  · obtain ⟨hg, hr⟩ := posAt_sim h h0 _ (Nat.le_refl _)
    rw [List.drop_length] at hr
    exact h.of_nil hg hr

theorem sim_safe (h : Sim M Good rest) (h0 : GoodSt Good M.start) {l : List Rule} (hl : rest M.start = l) (n : Nat)
    (hn : n ≤ l.length) : M.posAt n ≠ .stuck ∧ (n < l.length → (M.deref (M.posAt n)).isSome = true) := by
  obtain ⟨h1, h2, _⟩ := sim_protocol h h0 hl
  refine ⟨?_, fun hlt => by rw [(h1 n hlt).2]; rfl⟩
  rcases Nat.lt_or_eq_of_le hn with hlt | e
  · obtain ⟨⟨a, ha⟩, _⟩ := h1 n hlt
    rw [ha]; exact nofun
  · rw [e, h2]; exact nofun

end Machine

namespace It

theorem drop_of_get {α : Type} {l : List α} {i : Nat} {x : α} (h : l[i]? = some x) :
    l.drop i = x :: l.drop (i + 1) := by
  obtain ⟨hi, hx⟩ := List.getElem?_eq_some_iff.mp h
  rw [List.drop_eq_getElem_cons hi, hx]

theorem get_succ {α : Type} {l : List α} {i : Nat} {x : α} (h : l[i]? = some x) (hne : i + 1 ≠ l.length) :
    ∃ y, l[i + 1]? = some y :=
  ⟨_, List.getElem?_eq_getElem (Nat.lt_of_le_of_ne (lt_of_getElem? h) hne)⟩

theorem drop_succ_nil {α : Type} {l : List α} {i : Nat} (he : i + 1 = l.length) : l.drop (i + 1) = [] := by
  rw [he]; exact List.drop_length

theorem get_zero_of_ne_nil {α : Type} {l : List α} (h : l ≠ []) : ∃ y, l[0]? = some y := by
  cases l with
  | nil => exact absurd rfl h
  | cons y l => exact ⟨y, rfl⟩

theorem mem_take_succ {α : Type} {l : List α} {i : Nat} {x y : α} (h : l[i]? = some x) (hy : y ∈ l.take (i + 1)) :
    y ∈ l.take i ∨ y = x := by
  rw [List.take_add_one, h] at hy
  exact (List.mem_append.mp hy).imp_right List.mem_singleton.mp

theorem take_all {α : Type} {l : List α} {i : Nat} (h : i + 1 = l.length) : l.take (i + 1) = l := by
  rw [h]; exact List.take_length

theorem flatCluster_cons (q : Nat) (ft : Nat × TupleSet) (c : Cluster) :
    flatCluster q (ft :: c) = ft.2.map (fun t => (⟨ft.1, t, q⟩ : Rule)) ++ flatCluster q c :=
  List.flatMap_cons

theorem flatCluster_nil (q : Nat) : flatCluster q [] = [] := rfl

end It

def GoodIn (c : Cluster) (j k : Nat) : Prop := ∃ ft t, c[j]? = some ft ∧ ft.2[k]? = some t

def restIn (q : Nat) (c : Cluster) (j k : Nat) : List Rule :=
  match c[j]? with
  | none => []
  | some ft => (ft.2.drop k).map (fun t => (⟨ft.1, t, q⟩ : Rule)) ++ flatCluster q (c.drop (j + 1))

theorem advance_eq {c : Cluster} {j k : Nat} {ft : Nat × TupleSet} (hj : c[j]? = some ft) (hk : k < ft.2.length) :
    advance c j k =
      if k + 1 ≠ ft.2.length then .pos j (k + 1) else if j + 1 ≠ c.length then .pos (j + 1) 0 else .out := by
  simp only [advance, hj]
  rw [if_neg (Nat.not_le_of_gt hk)]

theorem getIn_some {q : Nat} {c : Cluster} {j k : Nat} {r : Rule} (h : getIn q c j k = some r) : GoodIn c j k := by
  unfold getIn at h
  cases hj : c[j]? with
  | none => rw [hj] at h; cases h
  | some ft =>
    rw [hj] at h
    simp only at h
    cases hk : ft.2[k]? with
    | none => rw [hk] at h; cases h
    | some t => exact ⟨ft, t, hj, hk⟩

theorem restIn_zero (q : Nat) {c : Cluster} (hne : c ≠ []) (hc : NoEmptyC c) :
    GoodIn c 0 0 ∧ restIn q c 0 0 = flatCluster q c := by
  cases c with
  | nil => exact absurd rfl hne
  | cons ft c' =>
    obtain ⟨t, ht⟩ := It.get_zero_of_ne_nil (hc ft List.mem_cons_self)
    exact ⟨⟨ft, t, rfl, ht⟩, (It.flatCluster_cons q ft c').symm⟩

/-- what `operator*` and `operator++` do at a good position inside the cluster `c`, for an iterator whose position inside
`c` is `wrap j k`, that moves to `out` when it leaves `c`, and that has `tail` to yield after `c` -/
theorem advance_sim {α : Type} {Good : α → Prop} {rest : St α → List Rule} {q : Nat} {c : Cluster} (hc : NoEmptyC c)
    (wrap : Nat → Nat → α) (out : St α) (tail : List Rule) (hgood : ∀ j k, GoodIn c j k → Good (wrap j k))
    (hrest : ∀ j k, rest (.at (wrap j k)) = restIn q c j k ++ tail)
    (hout : Machine.GoodSt Good out ∧ rest out = tail) {j k : Nat} (hg : GoodIn c j k) :
    ∃ r, getIn q c j k = some r ∧
      rest (.at (wrap j k)) =
        r :: rest (match advance c j k with | .pos j' k' => .at (wrap j' k') | .stuck => .stuck | .out => out) ∧
      Machine.GoodSt Good (match advance c j k with | .pos j' k' => .at (wrap j' k') | .stuck => .stuck | .out => out) := by
  obtain ⟨ft, t, hj, hk⟩ := hg
  refine ⟨⟨ft.1, t, q⟩, by simp only [getIn, hj, hk], ?_⟩
  have hr : restIn q c j k = (⟨ft.1, t, q⟩ : Rule) ::
      ((ft.2.drop (k + 1)).map (fun t => (⟨ft.1, t, q⟩ : Rule)) ++ flatCluster q (c.drop (j + 1))) := by
    simp only [restIn, hj, It.drop_of_get hk, List.map_cons, List.cons_append]
  rw [hrest, hr, advance_eq hj (lt_of_getElem? hk)]
  by_cases h1 : k + 1 ≠ ft.2.length
  · -- the next tuple of the same symbol
    obtain ⟨t', hk'⟩ := It.get_succ hk h1
    simp only [if_pos h1, hrest, restIn, hj]
    exact ⟨rfl, hgood _ _ ⟨ft, t', hj, hk'⟩⟩
  · rw [It.drop_succ_nil (Decidable.of_not_not h1), List.map_nil, List.nil_append]
    by_cases h2 : j + 1 ≠ c.length
    · -- the first tuple of the next symbol
      obtain ⟨ft', hj'⟩ := It.get_succ hj h2
      obtain ⟨t', hk'⟩ := It.get_zero_of_ne_nil (hc ft' (List.mem_of_getElem? hj'))
      simp only [if_neg h1, if_pos h2, hrest, restIn, hj', List.drop_zero]
      rw [It.drop_of_get hj', It.flatCluster_cons]
      exact ⟨rfl, hgood _ _ ⟨ft', t', hj', hk'⟩⟩
    · -- the cluster is left
      simp only [if_neg h1, if_neg h2]
      rw [It.drop_succ_nil (Decidable.of_not_not h2), hout.2]
      exact ⟨rfl, hout.1⟩

theorem noEmptyB_iff (s : Store) : noEmptyB s = true ↔ NoEmpty s := by
  simp only [noEmptyB, NoEmpty, NoEmptyC, List.all_eq_true, Bool.and_eq_true, Bool.not_eq_true',
    List.isEmpty_eq_false_iff]

/-- the constructors find the first tuple set non-empty -/
theorem head_isEmpty_false {c : Cluster} (hne : c ≠ []) (hc : NoEmptyC c) :
    ∃ f ts c', c = (f, ts) :: c' ∧ ts.isEmpty = false := by
  cases c with
  | nil => exact absurd rfl hne
  | cons ft c' => exact ⟨ft.1, ft.2, c', rfl, List.isEmpty_eq_false_iff.mpr (hc ft List.mem_cons_self)⟩

def Good3 (s : Store) : Nat × Nat × Nat → Prop
  | (i, j, k) => ∃ qc, s.clusters[i]? = some qc ∧ GoodIn qc.2 j k

def restFrom (s : Store) (i : Nat) : List Rule := (s.clusters.drop i).flatMap (fun qc => flatCluster qc.1 qc.2)

def rest3 (s : Store) : Pos → List Rule
  | .at (i, j, k) =>
    match s.clusters[i]? with
    | none => []
    | some qc => restIn qc.1 qc.2 j k ++ restFrom s (i + 1)
  | _ => []

theorem restFrom_get {s : Store} {i : Nat} {qc : Nat × Cluster} (h : s.clusters[i]? = some qc) :
    restFrom s i = flatCluster qc.1 qc.2 ++ restFrom s (i + 1) := by
  rw [restFrom, It.drop_of_get h, List.flatMap_cons]
  rfl

theorem rest3_at {s : Store} {i : Nat} {qc : Nat × Cluster} (h : s.clusters[i]? = some qc) (j k : Nat) :
    rest3 s (.at (i, j, k)) = restIn qc.1 qc.2 j k ++ restFrom s (i + 1) := by
  simp only [rest3, h]

theorem enter_eq {s : Store} (hs : NoEmpty s) {i : Nat} {qc : Nat × Cluster} (h : s.clusters[i]? = some qc) :
    enter s i = .at (i, 0, 0) := by
  simp only [enter, h]
  rw [if_neg (by simpa using (hs qc (List.mem_of_getElem? h)).1)]

theorem enter_spec {s : Store} (hs : NoEmpty s) {i : Nat} {qc : Nat × Cluster} (h : s.clusters[i]? = some qc) :
    Machine.GoodSt (Good3 s) (enter s i) ∧ rest3 s (enter s i) = restFrom s i := by
  obtain ⟨hne, hc⟩ := hs qc (List.mem_of_getElem? h)
  obtain ⟨hg, hr⟩ := restIn_zero qc.1 hne hc
  rw [enter_eq hs h, rest3_at h, hr, restFrom_get h]
  exact ⟨⟨qc, h, hg⟩, rfl⟩

theorem iterStep_eq {s : Store} {i : Nat} {qc : Nat × Cluster} (h : s.clusters[i]? = some qc) (j k : Nat) :
    iterStep s (i, j, k) =
      match advance qc.2 j k with
      | .pos j' k' => .at (i, j', k')
      | .stuck => .stuck
      | .out => if i + 1 ≠ s.clusters.length then enter s (i + 1) else .fin := by
  simp only [iterStep, h]
  cases advance qc.2 j k <;> rfl

theorem iter_sim {s : Store} (hs : NoEmpty s) : (iterM s).Sim (Good3 s) (rest3 s) := by
  refine ⟨rfl, ?_⟩
  rintro ⟨i, j, k⟩ ⟨qc, hi, hg⟩
  -- leaving the cluster: the next cluster is entered, or the end is reached
  have hout : Machine.GoodSt (Good3 s) (if i + 1 ≠ s.clusters.length then enter s (i + 1) else .fin) ∧
      rest3 s (if i + 1 ≠ s.clusters.length then enter s (i + 1) else .fin) = restFrom s (i + 1) := by
    split
    · next hn =>
      obtain ⟨qc', hi'⟩ := It.get_succ hi hn
      exact enter_spec hs hi'
    · next hn => exact ⟨trivial, by rw [restFrom, It.drop_succ_nil (Decidable.of_not_not hn)]; rfl⟩
  obtain ⟨r, hget, h12⟩ := advance_sim (hs qc (List.mem_of_getElem? hi)).2 (fun j k => (i, j, k)) _ _
    (fun _ _ hg => ⟨qc, hi, hg⟩) (rest3_at hi) hout hg
  refine ⟨r, by simp only [iterM, iterGet, hi, hget], ?_⟩
  show rest3 s (.at (i, j, k)) = r :: rest3 s (iterStep s (i, j, k)) ∧ Machine.GoodSt (Good3 s) (iterStep s (i, j, k))
  rw [iterStep_eq hi]
  exact h12

theorem begin_spec {s : Store} (hs : NoEmpty s) :
    Machine.GoodSt (Good3 s) (begin s) ∧ rest3 s (begin s) = iterate s := by
  cases hcl : s.clusters with
  | nil => simp only [begin, hcl, iterate, List.flatMap_nil]; exact ⟨trivial, rfl⟩
  | cons qc m =>
    have h0 : s.clusters[0]? = some qc := by rw [hcl]; rfl
    obtain ⟨hne, hc⟩ := hs qc (List.mem_of_getElem? h0)
    obtain ⟨f, ts, c', e, hts⟩ := head_isEmpty_false hne hc
    have hb : begin s = enter s 0 := by
      rw [enter_eq hs h0]
      simp only [begin, hcl, e, hts]
      rfl
    rw [hb]
    exact enter_spec hs h0

theorem iter_protocol {s : Store} (hs : NoEmpty s) :
    (∀ n (hn : n < (iterate s).length),
      (∃ a, (iterM s).posAt n = .at a) ∧ deref s ((iterM s).posAt n) = some (iterate s)[n]) ∧
    (iterM s).posAt (iterate s).length = .fin ∧
    iterAll s = .done (iterate s) :=
  Machine.sim_protocol (iter_sim hs) (begin_spec hs).1 (begin_spec hs).2

/-- **`Iterator` enumerates `iterate s` in order and never gets stuck.**  For a store satisfying the invariant: the
`n`-th increment of `begin()` (`n < |iterate s|`) is a proper position (not `end()`, not stuck) and `operator*` there
yields the `n`-th element of `iterate s`; the range-`for` loop terminates normally having yielded exactly `iterate s`. -/
theorem iter_enumerates {s : Store} (h : Inv s) :
    (∀ n (hn : n < (iterate s).length),
      (∃ a, (iterM s).posAt n = .at a) ∧ deref s ((iterM s).posAt n) = some (iterate s)[n]) ∧
    iterAll s = .done (iterate s) :=
  ⟨(iter_protocol (noEmpty_of_inv h)).1, (iter_protocol (noEmpty_of_inv h)).2.2⟩

/-- **`Iterator` reaches `end()` after exactly `|iterate s|` increments** (and, by `iter_enumerates`, not earlier) -/
theorem iter_terminates {s : Store} (h : Inv s) : (iterM s).posAt (iterate s).length = .fin :=
  (iter_protocol (noEmpty_of_inv h)).2.1

theorem iter_posAt_zero (s : Store) : (iterM s).posAt 0 = begin s := rfl
theorem iter_posAt_succ (s : Store) (n : Nat) : (iterM s).posAt (n + 1) = next s ((iterM s).posAt n) := rfl

theorem findIx_some {β : Type} {q : Nat} {l : List (Nat × β)} {i : Nat} (h : findIx q l = some i) :
    ∃ c, l[i]? = some (q, c) ∧ l.lookup q = some c := by
  induction l generalizing i with
  | nil => cases h
  | cons kv l ih =>
    obtain ⟨k, v⟩ := kv
    rw [findIx] at h
    rw [lookup_cons_ite]
    by_cases hk : k = q
    · rw [if_pos hk] at h
      cases h
      exact ⟨v, by rw [hk]; rfl, by rw [if_pos hk]⟩
    · rw [if_neg hk, Option.map_eq_some_iff] at h
      obtain ⟨i', hf, e⟩ := h
      obtain ⟨c, h1, h2⟩ := ih hf
      exact ⟨c, by rw [← e]; exact h1, by rw [if_neg hk]; exact h2⟩

theorem findIx_none {β : Type} {q : Nat} {l : List (Nat × β)} (h : findIx q l = none) : l.lookup q = none := by
  induction l with
  | nil => rfl
  | cons kv l ih =>
    obtain ⟨k, v⟩ := kv
    rw [findIx] at h
    rw [lookup_cons_ite]
    by_cases hk : k = q
    · rw [if_pos hk] at h; cases h
    · rw [if_neg hk, Option.map_eq_none_iff] at h
      rw [if_neg hk]
      exact ih h

/-- the final-state index points to a final state whose cluster is the one `find` returned -/
def GoodA (s : Store) : Nat × Nat × Nat × Nat → Prop
  | (f, i, j, k) => ∃ q, s.final[f]? = some q ∧ findIx q s.clusters = some i ∧ Good3 s (i, j, k)

def restA (s : Store) : APos → List Rule
  | .at (f, i, j, k) =>
    match s.clusters[i]? with
    | none => []
    | some qc => restIn qc.1 qc.2 j k ++ (s.final.drop (f + 1)).flatMap (down s)
  | _ => []

theorem restA_at {s : Store} {i : Nat} {qc : Nat × Cluster} (h : s.clusters[i]? = some qc) (f j k : Nat) :
    restA s (.at (f, i, j, k)) = restIn qc.1 qc.2 j k ++ (s.final.drop (f + 1)).flatMap (down s) := by
  simp only [restA, h]

theorem acceptInit_spec {s : Store} (hs : NoEmpty s) :
    ∀ (qs : List Nat) (f : Nat), s.final.drop f = qs →
      Machine.GoodSt (GoodA s) (acceptInit s f qs) ∧ restA s (acceptInit s f qs) = qs.flatMap (down s) := by
  intro qs
  induction qs with
  | nil => intro f _; exact ⟨trivial, rfl⟩
  | cons q qs ih =>
    intro f hd
    obtain ⟨hf, hd'⟩ := drop_cons_inv hd
    rw [List.flatMap_cons, down]
    cases hfi : findIx q s.clusters with
    | none =>
      simp only [acceptInit, hfi, findIx_none hfi, List.nil_append]
      exact ih (f + 1) hd'
    | some i =>
      obtain ⟨c, hi, hl⟩ := findIx_some hfi
      obtain ⟨hne, hc⟩ := hs (q, c) (List.mem_of_getElem? hi)
      obtain ⟨hg, hr⟩ := restIn_zero q hne hc
      simp only [acceptInit, hfi, enter_eq hs hi, hl]
      rw [restA_at hi, hd', hr]
      exact ⟨⟨q, hf, hfi, (q, c), hi, hg⟩, rfl⟩

theorem acceptStep_eq {s : Store} {i : Nat} {qc : Nat × Cluster} (h : s.clusters[i]? = some qc) (f j k : Nat) :
    acceptStep s (f, i, j, k) =
      match advance qc.2 j k with
      | .pos j' k' => .at (f, i, j', k')
      | .stuck => .stuck
      | .out => acceptInit s (f + 1) (s.final.drop (f + 1)) := by
  simp only [acceptStep, h]
  cases advance qc.2 j k <;> rfl

theorem accept_sim {s : Store} (hs : NoEmpty s) : (acceptM s).Sim (GoodA s) (restA s) := by
  refine ⟨rfl, ?_⟩
  rintro ⟨f, i, j, k⟩ ⟨q, hf, hfi, qc, hi, hg⟩
  obtain ⟨r, hget, h12⟩ := advance_sim (hs qc (List.mem_of_getElem? hi)).2 (fun j k => (f, i, j, k)) _ _
    (fun _ _ hg => ⟨q, hf, hfi, qc, hi, hg⟩) (restA_at hi f) (acceptInit_spec hs _ (f + 1) rfl) hg
  refine ⟨r, by simp only [acceptM, acceptGet, iterGet, hi, hget], ?_⟩
  show restA s (.at (f, i, j, k)) = r :: restA s (acceptStep s (f, i, j, k)) ∧
    Machine.GoodSt (GoodA s) (acceptStep s (f, i, j, k))
  rw [acceptStep_eq hi]
  exact h12

theorem acceptBegin_spec {s : Store} (hs : NoEmpty s) :
    Machine.GoodSt (GoodA s) (acceptBegin s) ∧ restA s (acceptBegin s) = acceptTrans s := by
  have hb : acceptBegin s = acceptInit s 0 s.final := by
    have hg := (begin_spec hs).1
    unfold acceptBegin
    cases hbs : begin s with
    | stuck => rw [hbs] at hg; exact hg.elim
    | fin => rfl
    | «at» a => rfl
  rw [hb]
  exact acceptInit_spec hs s.final 0 rfl

theorem acceptIter_protocol {s : Store} (hs : NoEmpty s) :
    (∀ n (hn : n < (acceptTrans s).length),
      (∃ a, (acceptM s).posAt n = .at a) ∧ (acceptM s).deref ((acceptM s).posAt n) = some (acceptTrans s)[n]) ∧
    (acceptM s).posAt (acceptTrans s).length = .fin ∧
    acceptAll s = .done (acceptTrans s) :=
  Machine.sim_protocol (accept_sim hs) (acceptBegin_spec hs).1 (acceptBegin_spec hs).2

/-- **`AcceptTransIterator` enumerates `acceptTrans s` in order and never gets stuck** -/
theorem acceptIter_enumerates {s : Store} (h : Inv s) :
    (∀ n (hn : n < (acceptTrans s).length),
      (∃ a, (acceptM s).posAt n = .at a) ∧ (acceptM s).deref ((acceptM s).posAt n) = some (acceptTrans s)[n]) ∧
    acceptAll s = .done (acceptTrans s) :=
  ⟨(acceptIter_protocol (noEmpty_of_inv h)).1, (acceptIter_protocol (noEmpty_of_inv h)).2.2⟩

/-- **`AcceptTransIterator` reaches `end()` after exactly `|acceptTrans s|` increments** -/
theorem acceptIter_terminates {s : Store} (h : Inv s) : (acceptM s).posAt (acceptTrans s).length = .fin :=
  (acceptIter_protocol (noEmpty_of_inv h)).2.1

def GoodD (s : Store) (q : Nat) : Nat × Nat → Prop
  | (j, k) => ∃ c, downCluster s q = some c ∧ GoodIn c j k

def restD (s : Store) (q : Nat) : DPos → List Rule
  | .at (j, k) =>
    match downCluster s q with
    | none => []
    | some c => restIn q c j k
  | _ => []

theorem restD_at {s : Store} {q : Nat} {c : Cluster} (h : downCluster s q = some c) (j k : Nat) :
    restD s q (.at (j, k)) = restIn q c j k ++ [] := by
  simp only [restD, h, List.append_nil]

theorem downStep_eq {s : Store} {q : Nat} {c : Cluster} (h : downCluster s q = some c) (j k : Nat) :
    downStep s q (j, k) =
      match advance c j k with
      | .pos j' k' => .at (j', k')
      | .stuck => .stuck
      | .out => .fin := by
  simp only [downStep, h]
  cases advance c j k <;> rfl

theorem down_sim {s : Store} (hs : NoEmpty s) (q : Nat) : (downM s q).Sim (GoodD s q) (restD s q) := by
  refine ⟨rfl, ?_⟩
  rintro ⟨j, k⟩ ⟨c, hc, hg⟩
  obtain ⟨r, hget, h12⟩ := advance_sim (Good := GoodD s q) (rest := restD s q) (hs (q, c) (mem_of_lookup hc)).2
    (fun j k => (j, k)) .fin [] (fun _ _ hg => ⟨c, hc, hg⟩) (restD_at hc) ⟨trivial, rfl⟩ hg
  refine ⟨r, by simp only [downM, downGet, hc, hget], ?_⟩
  show restD s q (.at (j, k)) = r :: restD s q (downStep s q (j, k)) ∧
    Machine.GoodSt (GoodD s q) (downStep s q (j, k))
  rw [downStep_eq hc]
  exact h12

theorem down_of_cluster (s : Store) (q : Nat) :
    down s q = match downCluster s q with | none => [] | some c => flatCluster q c := rfl

theorem downBegin_some {s : Store} (hs : NoEmpty s) {q : Nat} {c : Cluster} (hc : downCluster s q = some c) :
    downBegin s q = .at (0, 0) ∧ GoodD s q (0, 0) ∧ restD s q (.at (0, 0)) = down s q := by
  have ⟨hne, hcc⟩ : c ≠ [] ∧ NoEmptyC c := hs (q, c) (mem_of_lookup hc)
  obtain ⟨hg, hr⟩ := restIn_zero q hne hcc
  refine ⟨?_, ⟨c, hc, hg⟩, by rw [restD_at hc, List.append_nil, hr, down_of_cluster, hc]⟩
  obtain ⟨f, ts, c', rfl, hts⟩ := head_isEmpty_false hne hcc
  simp only [downBegin, hc, hts]
  rfl

theorem downBegin_spec {s : Store} (hs : NoEmpty s) (q : Nat) :
    Machine.GoodSt (GoodD s q) (downBegin s q) ∧ restD s q (downBegin s q) = down s q := by
  cases hc : downCluster s q with
  | none =>
    rw [down_of_cluster, downBegin, hc]
    exact ⟨trivial, rfl⟩
  | some c =>
    obtain ⟨hb, hg, hr⟩ := downBegin_some hs hc
    rw [hb]
    exact ⟨hg, hr⟩

theorem downIter_protocol {s : Store} (hs : NoEmpty s) (q : Nat) :
    (∀ n (hn : n < (down s q).length),
      (∃ a, (downM s q).posAt n = .at a) ∧ (downM s q).deref ((downM s q).posAt n) = some (down s q)[n]) ∧
    (downM s q).posAt (down s q).length = .fin ∧
    downAll s q = .done (down s q) :=
  Machine.sim_protocol (down_sim hs q) (downBegin_spec hs q).1 (downBegin_spec hs q).2

/-- **`DownAccessorIterator` enumerates `down s q` in order and never gets stuck** -/
theorem downIter_enumerates {s : Store} (h : Inv s) (q : Nat) :
    (∀ n (hn : n < (down s q).length),
      (∃ a, (downM s q).posAt n = .at a) ∧ (downM s q).deref ((downM s q).posAt n) = some (down s q)[n]) ∧
    downAll s q = .done (down s q) :=
  ⟨(downIter_protocol (noEmpty_of_inv h) q).1, (downIter_protocol (noEmpty_of_inv h) q).2.2⟩

/-- **`DownAccessorIterator` reaches `end()` after exactly `|down s q|` increments** -/
theorem downIter_terminates {s : Store} (h : Inv s) (q : Nat) : (downM s q).posAt (down s q).length = .fin :=
  (downIter_protocol (noEmpty_of_inv h) q).2.1

/-- `DownAccessor::empty()` is the view `downEmpty` (by definition), and on a store satisfying the invariant it is true
exactly when `begin() == end()`, i.e. exactly when the accessor yields nothing -/
theorem downIter_empty {s : Store} (h : Inv s) (q : Nat) :
    downIterEmpty s q = downEmpty s q ∧
    (downIterEmpty s q = true ↔ downBegin s q = .fin) ∧
    (downIterEmpty s q = true ↔ down s q = []) := by
  have hs := noEmpty_of_inv h
  refine ⟨rfl, ?_⟩
  cases hc : downCluster s q with
  | none =>
    rw [down_of_cluster, downIterEmpty, downBegin, hc]
    exact ⟨iff_of_true rfl rfl, iff_of_true rfl rfl⟩
  | some c =>
    obtain ⟨hb, hg, hr⟩ := downBegin_some hs hc
    -- the accessor yields at least the rule at `begin()`
    obtain ⟨r, _, hr', _⟩ := (down_sim hs q).step (0, 0) hg
    rw [hb, ← hr, hr', downIterEmpty, hc]
    exact ⟨iff_of_false Bool.false_ne_true nofun, iff_of_false Bool.false_ne_true nofun⟩

theorem iter_safe {s : Store} (hs : NoEmpty s) (n : Nat) (hn : n ≤ (iterate s).length) :
    (iterM s).posAt n ≠ .stuck ∧ (n < (iterate s).length → (deref s ((iterM s).posAt n)).isSome = true) :=
  Machine.sim_safe (iter_sim hs) (begin_spec hs).1 (begin_spec hs).2 n hn

theorem acceptIter_safe {s : Store} (hs : NoEmpty s) (n : Nat) (hn : n ≤ (acceptTrans s).length) :
    (acceptM s).posAt n ≠ .stuck ∧
      (n < (acceptTrans s).length → ((acceptM s).deref ((acceptM s).posAt n)).isSome = true) :=
  Machine.sim_safe (accept_sim hs) (acceptBegin_spec hs).1 (acceptBegin_spec hs).2 n hn

theorem downIter_safe {s : Store} (hs : NoEmpty s) (q n : Nat) (hn : n ≤ (down s q).length) :
    (downM s q).posAt n ≠ .stuck ∧
      (n < (down s q).length → ((downM s q).deref ((downM s q).posAt n)).isSome = true) :=
  Machine.sim_safe (down_sim hs q) (downBegin_spec hs q).1 (downBegin_spec hs q).2 n hn

theorem iter_positions_distinct {s : Store} (h : Inv s) {n m : Nat} (hn : n ≤ (iterate s).length)
    (hm : m ≤ (iterate s).length) (e : (iterM s).posAt n = (iterM s).posAt m) : n = m :=
  have hs := noEmpty_of_inv h
  Machine.posAt_inj_sim (iter_sim hs) (begin_spec hs).1 (begin_spec hs).2 hn hm e

theorem acceptIter_positions_distinct {s : Store} (h : Inv s) {n m : Nat} (hn : n ≤ (acceptTrans s).length)
    (hm : m ≤ (acceptTrans s).length) (e : (acceptM s).posAt n = (acceptM s).posAt m) : n = m :=
  have hs := noEmpty_of_inv h
  Machine.posAt_inj_sim (accept_sim hs) (acceptBegin_spec hs).1 (acceptBegin_spec hs).2 hn hm e

theorem downIter_positions_distinct {s : Store} (h : Inv s) (q : Nat) {n m : Nat} (hn : n ≤ (down s q).length)
    (hm : m ≤ (down s q).length) (e : (downM s q).posAt n = (downM s q).posAt m) : n = m :=
  have hs := noEmpty_of_inv h
  Machine.posAt_inj_sim (down_sim hs q) (downBegin_spec hs q).1 (downBegin_spec hs q).2 hn hm e

/-- everything in front of the position has been found non-empty -/
def Seen (s : Store) : Pos → Prop
  | .at (i, j, _) => (∀ qc, qc ∈ s.clusters.take i → qc.2 ≠ [] ∧ NoEmptyC qc.2) ∧
      ∃ qc, s.clusters[i]? = some qc ∧ ∀ ft, ft ∈ qc.2.take j → ft.2 ≠ []
  | .fin => NoEmpty s
  | .stuck => True

theorem seen_enter {s : Store} {i : Nat} (hpre : ∀ qc, qc ∈ s.clusters.take i → qc.2 ≠ [] ∧ NoEmptyC qc.2)
    {qc : Nat × Cluster} (hi : s.clusters[i]? = some qc) : Seen s (enter s i) := by
  simp only [enter, hi]
  split
  · trivial
  · exact ⟨hpre, qc, hi, fun _ hft => nomatch hft⟩

theorem seen_begin (s : Store) : Seen s (begin s) := by
  cases hcl : s.clusters with
  | nil =>
    simp only [begin, hcl]
    intro qc hqc
    rw [hcl] at hqc
    cases hqc
  | cons qc m =>
    have h0 : s.clusters[0]? = some qc := by rw [hcl]; rfl
    have := seen_enter (i := 0) (fun _ h => nomatch h) h0
    obtain ⟨q, c⟩ := qc
    cases c with
    | nil => simp only [begin, hcl]; trivial
    | cons ft c' =>
      simp only [begin, hcl]
      split
      · trivial
      · next hts =>
        simp only [enter, h0, List.isEmpty_cons, Bool.false_eq_true, if_false] at this
        exact this

theorem seen_step {s : Store} {a : Nat × Nat × Nat} {r : Rule} (hseen : Seen s (.at a)) (hget : iterGet s a = some r) :
    Seen s (iterStep s a) := by
  obtain ⟨i, j, k⟩ := a
  obtain ⟨hpre, qc, hi, hjs⟩ := hseen
  simp only [iterGet, hi] at hget
  obtain ⟨ft, t, hj, hk⟩ := getIn_some hget
  have hklt := lt_of_getElem? hk
  have hft : ft.2 ≠ [] := fun e => by rw [e] at hklt; cases hklt
  -- with the current tuple set the first `j + 1` tuple sets have been found non-empty
  have hjs' : ∀ ft', ft' ∈ qc.2.take (j + 1) → ft'.2 ≠ [] :=
    fun ft' hft' => (It.mem_take_succ hj hft').elim (hjs ft') (fun e => e ▸ hft)
  rw [iterStep_eq hi, advance_eq hj hklt]
  by_cases h1 : k + 1 ≠ ft.2.length
  · rw [if_pos h1]
    exact ⟨hpre, qc, hi, hjs⟩
  · rw [if_neg h1]
    by_cases h2 : j + 1 ≠ qc.2.length
    · rw [if_pos h2]
      exact ⟨hpre, qc, hi, hjs'⟩
    · rw [if_neg h2]
      simp only
      -- the cluster is left: all of it has been found non-empty
      rw [It.take_all (Decidable.of_not_not h2)] at hjs'
      have hqc : qc.2 ≠ [] ∧ NoEmptyC qc.2 := ⟨fun e => (by rw [e] at hj; cases hj), hjs'⟩
      have hpre' : ∀ qc', qc' ∈ s.clusters.take (i + 1) → qc'.2 ≠ [] ∧ NoEmptyC qc'.2 :=
        fun qc' hqc' => (It.mem_take_succ hi hqc').elim (hpre qc') (fun e => e ▸ hqc)
      split
      · next hn =>
        obtain ⟨qc', hi'⟩ := It.get_succ hi hn
        exact seen_enter hpre' hi'
      · next hn =>
        rw [It.take_all (Decidable.of_not_not hn)] at hpre'
        exact hpre'

theorem drive_done_seen {s : Store} {out : List Rule} :
    ∀ (n : Nat) (p : Pos) (acc : List Rule), (iterM s).drive n p acc = .done out → Seen s p → NoEmpty s
  | _, .fin, _, _, hseen => hseen
  | _, .stuck, _, hd, _ => by simp only [Machine.drive] at hd; cases hd
  | 0, .at _, _, hd, _ => by cases hd
  | n + 1, .at a, acc, hd, hseen => by
    rw [Machine.drive] at hd
    cases hget : (iterM s).get a with
    | none => rw [hget] at hd; cases hd
    | some r =>
      rw [hget] at hd
      exact drive_done_seen n _ _ hd (seen_step hseen hget)

/-- **Exact characterisation.**  The loop over `Iterator` completes (reaches `end()` without executing undefined
behaviour, for some fuel) if and only if the store has no empty cluster and no empty tuple set – and then it yields
`iterate s`. -/
theorem iter_done_iff (s : Store) :
    (∃ fuel out, (iterM s).traverse fuel = .done out) ↔ NoEmpty s :=
  ⟨fun ⟨fuel, _, h⟩ => drive_done_seen fuel _ [] h (seen_begin s),
   fun hs => ⟨_, _, (iter_protocol hs).2.2⟩⟩

theorem iterAll_done_iff (s : Store) : iterAll s = .done (iterate s) ↔ NoEmpty s :=
  ⟨fun h => (iter_done_iff s).mp ⟨_, _, h⟩, fun hs => (iter_protocol hs).2.2⟩

namespace IterEx

/-- an empty cluster at the front -/
def bad1 : Store := ⟨[(1, [])], [1]⟩
/-- an empty tuple set behind a proper one -/
def bad2 : Store := ⟨[(1, [(7, [[2]]), (8, [])])], [1]⟩
/-- an empty cluster behind a proper one -/
def bad3 : Store := ⟨[(1, [(7, [[2]])]), (2, [])], [2, 1]⟩

end IterEx

open IterEx in
/-- **On stores that violate the invariant the state machines get stuck** (this is the undefined behaviour the
invariant excludes).
* `bad1` (first cluster empty): the constructor of `begin()` fails its `assert` / dereferences `begin()` of the empty
  cluster – for all three iterators.
* `bad2` (empty tuple set): `operator++` moves from the only tuple of symbol 7 to `begin()` of the empty tuple set of
  symbol 8 (a harmless step), where `operator*` dereferences a past-the-end iterator (`deref = none`) and the next
  `operator++` increments it; the loops stop as `stuck` after one rule.
* `bad3` (empty cluster later): `Iterator::operator++` on the last tuple of cluster 1, and `init()` of
  `AcceptTransIterator` for the final state 2, dereference `begin()` of the empty cluster. -/
theorem iter_stuck_without_inv :
    (invB bad1 = false ∧ begin bad1 = .stuck ∧ acceptBegin bad1 = .stuck ∧ downBegin bad1 1 = .stuck) ∧
    (invB bad2 = false ∧ begin bad2 = .at (0, 0, 0) ∧ next bad2 (begin bad2) = .at (0, 1, 0) ∧
      deref bad2 (.at (0, 1, 0)) = none ∧ next bad2 (.at (0, 1, 0)) = .stuck ∧
      (iterM bad2).traverse 5 = .stuck [⟨7, [2], 1⟩] ∧ (acceptM bad2).traverse 5 = .stuck [⟨7, [2], 1⟩] ∧
      (downM bad2 1).traverse 5 = .stuck [⟨7, [2], 1⟩]) ∧
    (invB bad3 = false ∧ begin bad3 = .at (0, 0, 0) ∧ next bad3 (begin bad3) = .stuck ∧
      (iterM bad3).traverse 5 = .stuck [⟨7, [2], 1⟩] ∧ acceptBegin bad3 = .stuck ∧ downBegin bad3 2 = .stuck) := by
  decide +kernel

namespace IterEx
open StoreEx

theorem bad_not_inv : ¬ Inv bad1 ∧ ¬ Inv bad2 ∧ ¬ Inv bad3 ∧ ¬ NoEmpty bad1 ∧ ¬ NoEmpty bad2 ∧ ¬ NoEmpty bad3 := by
  refine ⟨?_, ?_, ?_, ?_, ?_, ?_⟩
  · rw [← invB_iff]; decide +kernel
  · rw [← invB_iff]; decide +kernel
  · rw [← invB_iff]; decide +kernel
  · rw [← noEmptyB_iff]; decide +kernel
  · rw [← noEmptyB_iff]; decide +kernel
  · rw [← noEmptyB_iff]; decide +kernel

/-! non-vacuity: traversals of `StoreEx.ops1` (three clusters, two tuples under one symbol, final state 5 without a
cluster) and of a store with two symbols in one cluster and a final state in front that has no cluster -/

def ops2 : List Op :=
  [.add ⟨7, [], 1⟩, .add ⟨8, [1], 1⟩, .add ⟨8, [1, 1], 1⟩, .add ⟨7, [1], 2⟩, .setFinals [3, 2, 1]]

example : Inv (run ops1) ∧ Inv (run ops2) := ⟨store_inv _, store_inv _⟩
example : run ops2 = ⟨[(1, [(7, [[]]), (8, [[1], [1, 1]])]), (2, [(7, [[1]])])], [3, 2, 1]⟩ := by decide +kernel

example : (List.range 6).map (iterM (run ops1)).posAt =
    [.at (0, 0, 0), .at (0, 0, 1), .at (1, 0, 0), .at (2, 0, 0), .fin, .stuck] := by decide +kernel
example : (List.range 5).map (iterM (run ops2)).posAt =
    [.at (0, 0, 0), .at (0, 1, 0), .at (0, 1, 1), .at (1, 0, 0), .fin] := by decide +kernel
example : iterAll (run ops1) = .done [r1, r2, r3, r4] ∧ iterate (run ops1) = [r1, r2, r3, r4] := by decide +kernel
example : iterAll (run ops2) = .done (iterate (run ops2)) ∧ (iterate (run ops2)).length = 4 := by decide +kernel
example : iterAll empty = .done [] ∧ begin empty = .fin := by decide +kernel

example : (List.range 3).map (acceptM (run ops1)).posAt = [.at (0, 1, 0, 0), .at (1, 2, 0, 0), .fin] := by decide +kernel
example : (List.range 5).map (acceptM (run ops2)).posAt =
    [.at (1, 1, 0, 0), .at (2, 0, 0, 0), .at (2, 0, 1, 0), .at (2, 0, 1, 1), .fin] := by decide +kernel
example : acceptAll (run ops1) = .done [r3, r4] ∧ acceptTrans (run ops1) = [r3, r4] := by decide +kernel
example : acceptAll (run ops2) = .done [⟨7, [1], 2⟩, ⟨7, [], 1⟩, ⟨8, [1], 1⟩, ⟨8, [1, 1], 1⟩] := by
  decide +kernel
/-- no final state has a cluster: `begin() == end()` although the map is not empty (`end_` stays `false`) -/
example : acceptBegin (run [.add r1, .setFinal 9]) = .fin ∧ begin (run [.add r1, .setFinal 9]) = .at (0, 0, 0) := by
  decide +kernel

example : (List.range 4).map (downM (run ops2) 1).posAt = [.at (0, 0), .at (1, 0), .at (1, 1), .fin] := by decide +kernel
example : downAll (run ops1) 1 = .done [r1, r2] ∧ downAll (run ops1) 5 = .done [] ∧
    downIterEmpty (run ops1) 5 = true ∧ downIterEmpty (run ops1) 1 = false ∧ downBegin (run ops1) 5 = .fin := by
  decide +kernel

end IterEx

end Vata.Store
