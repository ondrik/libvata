import Vata.Proofs.BddTrimCodedGlue
/-!
C08: the two work-list loops of `BDDTDTreeAutCore::RemoveUselessStates` as coded terminate, with explicit fuel bounds.

`Vata/BddTrimCoded.lean` gives fuel to the two `while` loops of `src/bdd_td_tree_aut_useless.cc`.  Here: a fuel of
`|F| + |states in the leaves of T|` suffices for the construction of the AND/OR graph (`buildLoop_total`), the result has at
most that many OR nodes and no more terminal nodes than OR nodes (`buildLoop_bounds`), a fuel of
`|termNodes| + |orNodes| + 1` suffices for the propagation (`propLoop_total`); together `usefulCoded_total`,
`removeUselessTDCoded_total`.  No hypothesis on `F`.
-/
namespace Vata
namespace BddTrimCoded
open M BddAbs BddAbsTD

theorem mem_allKids {T : TableTD} {p : Nat} {t : List Nat} {s : Nat} (ht : t ∈ leafTuples (getTD T p)) (hs : s ∈ t) :
    s ∈ allKids T := by
  simp only [allKids, List.mem_flatMap, id]
  refine ⟨p, Classical.byContradiction fun hn => ?_, t, ht, hs⟩
  rw [getTD_not_key hn] at ht
  simp [leafTuples, voidApply1] at ht

theorem ins_ins (x : Nat) (l : List Nat) : ins x (ins x l) = ins x l := by
  have hm : (ins x l).contains x = true := List.contains_iff_mem.mpr (mem_ins.mpr (Or.inr rfl))
  rw [ins, if_pos hm]

/-- what the termination argument sees of the progress of the construction (`K`: the candidates for new states): the
measure of the loop does not grow, the work-list and `orNodes` grow together -/
structure Adv (K : List Nat) (B B' : Build) : Prop where
  ws : B'.ws.length + unseen K (B'.orN.map (·.2)) ≤ B.ws.length + unseen K (B.orN.map (·.2))
  diff : B'.orN.length + B.ws.length = B.orN.length + B'.ws.length

theorem Adv.of_eq {K : List Nat} {B B' : Build} (hw : B'.ws = B.ws) (ho : B'.orN = B.orN) : Adv K B B' := by
  refine ⟨?_, ?_⟩ <;> simp only [hw, ho, Nat.le_refl]

theorem Adv.refl (K : List Nat) (B : Build) : Adv K B B := Adv.of_eq rfl rfl

theorem Adv.trans {K : List Nat} {B B' B'' : Build} (h : Adv K B B') (h' : Adv K B' B'') : Adv K B B'' :=
  ⟨Nat.le_trans h'.ws h.ws, by have := h.diff; have := h'.diff; omega⟩

theorem stateStep_adv {K : List Nat} (a : Nat) (B : Build) {s : Nat} (hs : s ∈ K) :
    Adv K B (stateStep a B s) ∧ (stateStep a B s).term = B.term := by
  cases hn : findBwd B.orN s with
  | some n => rw [stateStep_some hn]; exact ⟨Adv.of_eq rfl rfl, rfl⟩
  | none =>
    rw [stateStep_none hn]
    -- a new OR node: the work-list and `orNodes` grow by one, `s` is no longer a candidate
    have hnew : s ∉ B.orN.map (·.2) := fun hm => by
      obtain ⟨e, he, rfl⟩ := List.mem_map.mp hm
      exact findBwd_none hn e.1 he
    have hc : unseen K ((B.orN ++ [(B.G.size, s)]).map (·.2)) + 1 ≤ unseen K (B.orN.map (·.2)) := by
      rw [List.map_append]; exact unseen_snoc_lt hs hnew
    have hl : (B.orN ++ [(B.G.size, s)]).length = B.orN.length + 1 := List.length_append
    exact ⟨⟨Nat.le_trans (Nat.le_of_eq (Nat.add_right_comm _ _ _)) (Nat.add_le_add_left hc _),
      hl ▸ Nat.add_right_comm _ _ _⟩, rfl⟩

theorem tupleStep_adv {K : List Nat} (proc : Nat) (B : Build) {t : List Nat} (ht : ∀ s, s ∈ t → s ∈ K) :
    Adv K B (tupleStep proc B t) ∧
      ((tupleStep proc B t).term = B.term ∨ (tupleStep proc B t).term = ins proc B.term) := by
  by_cases hne : t = []
  · subst hne; exact ⟨Adv.of_eq rfl rfl, Or.inr rfl⟩
  · cases h : findBwd B.andN t with
    | some a => rw [tupleStep_some hne h]; exact ⟨Adv.of_eq rfl rfl, Or.inl rfl⟩
    | none =>
      rw [tupleStep_none hne h]
      have h := List.foldlRecOn (motive := fun B' => Adv K B B' ∧ B'.term = B.term) t (stateStep B.G.size)
        (b := newAnd B t) ⟨Adv.of_eq rfl rfl, rfl⟩ fun B' hB' s hs =>
          have h1 := stateStep_adv (K := K) B.G.size B' (ht s hs)
          ⟨hB'.1.trans h1.1, h1.2.trans hB'.2⟩
      exact ⟨h.1.trans (Adv.of_eq rfl rfl), Or.inl h.2⟩

theorem round_adv (T : TableTD) (B : Build) (n s : Nat) :
    Adv (allKids T) B ((leafTuples (getTD T s)).foldl (tupleStep n) B) ∧
    (((leafTuples (getTD T s)).foldl (tupleStep n) B).term = B.term ∨
     ((leafTuples (getTD T s)).foldl (tupleStep n) B).term = ins n B.term) :=
  List.foldlRecOn (motive := fun B' => Adv (allKids T) B B' ∧ (B'.term = B.term ∨ B'.term = ins n B.term))
    _ (tupleStep n) ⟨Adv.refl _ B, Or.inl rfl⟩ fun B' hB' t ht => by
      have h1 := tupleStep_adv (K := allKids T) n B' fun _ hs => mem_allKids ht hs
      refine ⟨hB'.1.trans h1.1, ?_⟩
      rcases hB'.2 with e | e <;> rcases h1.2 with e1 | e1 <;> rw [e1, e]
      · exact Or.inl rfl
      · exact Or.inr rfl
      · exact Or.inr rfl
      · exact Or.inr (ins_ins _ _)

/-- the measure of the construction loop: the length of the work-list plus the number of candidate states without OR node -/
def buildMeasure (T : TableTD) (B : Build) : Nat := B.ws.length + unseen (allKids T) (B.orN.map (·.2))

theorem round_measure (T : TableTD) {B : Build} {n s : Nat} {ws : List (Nat × Nat)} (hs : B.ws = (n, s) :: ws) :
    buildMeasure T ((leafTuples (getTD T s)).foldl (tupleStep n) { B with ws := ws }) + 1 ≤ buildMeasure T B := by
  have hr : _ ≤ ws.length + unseen (allKids T) (B.orN.map (·.2)) := (round_adv T { B with ws := ws } n s).1.ws
  unfold buildMeasure
  rw [hs, List.length_cons]
  omega

theorem buildLoop_total_aux (T : TableTD) {fuel : Nat} {B : Build} (h : buildMeasure T B ≤ fuel) :
    ∃ B', buildLoop T fuel B = some B' := by
  induction fuel generalizing B with
  | zero =>
    cases hs : B.ws with
    | nil => exact ⟨_, buildLoop_nil _ _ hs⟩
    | cons e ws => exact absurd h (by simp [buildMeasure, hs])
  | succ fuel ih =>
    cases hs : B.ws with
    | nil => exact ⟨_, buildLoop_nil _ _ hs⟩
    | cons e ws =>
      obtain ⟨n, s⟩ := e
      rw [buildLoop_succ _ _ hs]
      exact ih (Nat.le_of_succ_le_succ (Nat.le_trans (round_measure T hs) h))

/-- the arithmetic of a round: terminal nodes `t`, work-list `w`, `orNodes` `o`, candidates `c` -/
theorem round_arith {t t1 w w1 o o1 c c1 : Nat} (ht : t1 ≤ t + 1) (hI : t + (w + 1) ≤ o) (hw : w1 + c1 ≤ w + c)
    (hd : o1 + w = o + w1) : t1 + w1 ≤ o1 ∧ o1 + c1 ≤ o + c := by
  omega

theorem buildLoop_bounds_aux (T : TableTD) {fuel : Nat} {B B' : Build} (h : buildLoop T fuel B = some B')
    (hI : B.term.length + B.ws.length ≤ B.orN.length) :
    B'.ws = [] ∧ B'.term.length ≤ B'.orN.length ∧
      B'.orN.length + unseen (allKids T) (B'.orN.map (·.2)) ≤ B.orN.length + unseen (allKids T) (B.orN.map (·.2)) := by
  induction fuel generalizing B with
  | zero =>
    cases hs : B.ws with
    | nil => rw [buildLoop_nil _ _ hs] at h; cases h; exact ⟨hs, by rw [hs] at hI; exact hI, Nat.le_refl _⟩
    | cons e ws => rw [buildLoop_zero _ hs] at h; cases h
  | succ fuel ih =>
    cases hs : B.ws with
    | nil => rw [buildLoop_nil _ _ hs] at h; cases h; exact ⟨hs, by rw [hs] at hI; exact hI, Nat.le_refl _⟩
    | cons e ws =>
      obtain ⟨n, s⟩ := e
      rw [buildLoop_succ _ _ hs] at h
      -- a round: one pair popped, at most one terminal node more, the work-list and `orNodes` grow together
      obtain ⟨⟨hw, hd⟩, ht⟩ := round_adv T { B with ws := ws } n s
      generalize (leafTuples (getTD T s)).foldl (tupleStep n) { B with ws := ws } = B1 at h hw hd ht
      have ht : B1.term.length ≤ B.term.length + 1 := by
        rcases ht with e | e <;> rw [e]
        · exact Nat.le_succ _
        · exact length_ins_le _ _
      rw [hs, List.length_cons] at hI
      obtain ⟨a1, a2⟩ := round_arith ht hI hw hd
      obtain ⟨k1, k2, k3⟩ := ih h a1
      exact ⟨k1, k2, Nat.le_trans k3 a2⟩

theorem newOrFold_len (l : List Nat) (B : Build) :
    (l.foldl newOr B).orN.length = B.orN.length + l.length ∧ (l.foldl newOr B).ws.length = B.ws.length + l.length ∧
      (l.foldl newOr B).term = B.term := by
  induction l generalizing B with
  | nil => exact ⟨rfl, rfl, rfl⟩
  | cons f l ih =>
    obtain ⟨h1, h2, h3⟩ := ih (newOr B f)
    have e1 : (newOr B f).orN.length = B.orN.length + 1 := List.length_append
    have e2 : (newOr B f).ws.length = B.ws.length + 1 := rfl
    rw [e1, Nat.add_right_comm] at h1
    rw [e2, Nat.add_right_comm] at h2
    exact ⟨h1, h2, h3⟩

theorem initBuild_len (F : List Nat) :
    (initBuild F).orN.length = F.length ∧ (initBuild F).ws.length = F.length ∧ (initBuild F).term = [] := by
  simpa [initBuild_eq] using newOrFold_len F ⟨Graph.empty, [], [], [], []⟩

/-- **the construction of the AND/OR graph terminates** within `|F| + |states in the leaves|` rounds of its `while` loop
(every larger fuel works as well) -/
theorem buildLoop_total (T : TableTD) (F : List Nat) : ∀ fuel, F.length + (allKids T).length ≤ fuel →
    ∃ B, buildLoop T fuel (initBuild F) = some B := by
  intro fuel h
  apply buildLoop_total_aux
  have h1 := initBuild_len F
  have h2 := unseen_le_length (allKids T) ((initBuild F).orN.map (·.2))
  unfold buildMeasure
  omega

theorem buildLoop_bounds {T : TableTD} {F : List Nat} {fuel : Nat} {B : Build}
    (h : buildLoop T fuel (initBuild F) = some B) :
    B.ws = [] ∧ B.term.length ≤ B.orN.length ∧ B.orN.length ≤ F.length + (allKids T).length := by
  have h1 := initBuild_len F
  have h2 := unseen_le_length (allKids T) ((initBuild F).orN.map (·.2))
  have h3 := buildLoop_bounds_aux T h (by rw [h1.2.2, h1.2.1, h1.1]; simp)
  exact ⟨h3.1, h3.2.1, by omega⟩

theorem stateOf_mem (orN : List (Nat × Nat)) (m : Nat) : stateOf orN m ∈ 0 :: orN.map (·.2) := by
  unfold stateOf
  cases h : findFwd orN m with
  | none => exact List.mem_cons_self
  | some s => exact List.mem_cons_of_mem _ (List.mem_map.mpr ⟨(m, s), findFwd_some h, rfl⟩)

/-- the measure of the propagation loop: the height of the stack plus the number of states not yet useful -/
def propMeasure (orN : List (Nat × Nat)) (P : Mark) : Nat := P.stk.length + unseen (0 :: orN.map (·.2)) P.useful

theorem markStep_le (orN : List (Nat × Nat)) (P : Mark) (m : Nat) :
    propMeasure orN (markStep orN P m) ≤ propMeasure orN P := by
  unfold markStep
  split
  · exact Nat.le_refl _
  · next hc =>
    have := unseen_snoc_lt (stateOf_mem orN m) fun hm => hc (List.contains_iff_mem.mpr hm)
    simp only [propMeasure, List.length_cons]
    omega

theorem satisfyStep_le (orN : List (Nat × Nat)) (node : Nat) (P : Mark) (a : Nat) :
    propMeasure orN (satisfyStep orN node P a) ≤ propMeasure orN P := by
  unfold satisfyStep
  simp only
  split
  · exact foldl_measure_le _ (fun P m _ => markStep_le orN P m) { P with G := P.G.eraseIng a node }
  · exact Nat.le_refl _

theorem popStep_le (orN : List (Nat × Nat)) (node : Nat) (P : Mark) :
    propMeasure orN (popStep orN node P) ≤ propMeasure orN P :=
  foldl_measure_le _ (fun P a _ => satisfyStep_le orN node P a)
    { P with G := (P.G.ing node).foldl (fun G a => G.eraseEgr a node) P.G }

theorem propLoop_total_aux (orN : List (Nat × Nat)) {fuel : Nat} {P : Mark} (h : propMeasure orN P ≤ fuel) :
    ∃ P', propLoop orN fuel P = some P' := by
  induction fuel generalizing P with
  | zero =>
    cases hs : P.stk with
    | nil => exact ⟨_, propLoop_nil _ _ hs⟩
    | cons node stk => simp [propMeasure, hs] at h
  | succ fuel ih =>
    cases hs : P.stk with
    | nil => exact ⟨_, propLoop_nil _ _ hs⟩
    | cons node stk =>
      rw [propLoop_succ _ _ hs]
      apply ih
      have hr := popStep_le orN node { P with stk := stk }
      simp only [propMeasure, hs, List.length_cons] at h hr ⊢
      omega

theorem initMark_measure (B : Build) : propMeasure B.orN (initMark B) ≤ B.term.length + B.orN.length + 1 := by
  have h1 : ∀ (l : List Nat) (P : Mark),
      (l.foldl (fun P n => { P with stk := n :: P.stk, useful := ins (stateOf B.orN n) P.useful }) P).stk.length
        = P.stk.length + l.length := by
    intro l
    induction l with
    | nil => exact fun _ => rfl
    | cons n l ih => intro P; rw [List.foldl_cons, ih, List.length_cons, List.length_cons]; omega
  have h2 := unseen_le_length (0 :: B.orN.map (·.2)) (initMark B).useful
  simp only [List.length_cons, List.length_map] at h2
  have h1 := h1 B.term ⟨B.G, [], []⟩
  unfold propMeasure initMark
  simp only [List.length_nil] at h1
  unfold initMark at h2
  omega

theorem propLoop_total (B : Build) : ∀ fuel, B.term.length + B.orN.length + 1 ≤ fuel →
    ∃ P, propLoop B.orN fuel (initMark B) = some P := fun _ h =>
  propLoop_total_aux B.orN (Nat.le_trans (initMark_measure B) h)

theorem usefulCoded_total (T : TableTD) (F : List Nat) : ∀ fuel, 2 * (F.length + (allKids T).length) + 1 ≤ fuel →
    ∃ U, usefulCoded T F fuel = some U := by
  intro fuel h
  obtain ⟨B, hB⟩ := buildLoop_total T F fuel (by omega)
  have hb := buildLoop_bounds hB
  obtain ⟨P, hP⟩ := propLoop_total B fuel (by omega)
  exact ⟨P.useful, usefulCoded_eq_some.mpr ⟨B, P, hB, hP, rfl⟩⟩

/-- **`RemoveUselessStates` as coded terminates**: the fuel of the final `RemoveUnreachableStates` is the bound of
`tdUnreachWL_total` for the restricted automaton -/
theorem removeUselessTDCoded_total (T : TableTD) (F : List Nat) : ∀ fuel, 2 * (F.length + (allKids T).length) + 1 ≤ fuel →
    ∃ U, usefulCoded T F fuel = some U ∧
      ∃ R, removeUselessTDCoded T F fuel
        ((restrictCoded T F U).2.length + (allKids (restrictCoded T F U).1).length) = some R := by
  intro fuel h
  obtain ⟨U, hU⟩ := usefulCoded_total T F fuel h
  obtain ⟨R', hR'⟩ := tdUnreachWL_total (restrictCoded T F U).1 (restrictCoded T F U).2
  exact ⟨U, hU, _, removeUselessTDCoded_eq_some.mpr ⟨U, R', hU, hR', rfl⟩⟩

theorem mem_voidApply1_apply1 {α β : Type} [DecidableEq β] (f : α → β) {w : β} : ∀ (m : Node α),
    w ∈ voidApply1 (apply1 f m) → ∃ v, v ∈ voidApply1 m ∧ w = f v
  | .leaf v, h => ⟨v, List.mem_singleton.mpr rfl, List.mem_singleton.mp h⟩
  | .node x lo hi, h => by
    have ih : w ∈ voidApply1 (apply1 f lo) ∨ w ∈ voidApply1 (apply1 f hi) := by
      simp only [apply1, mk] at h
      split at h
      · exact Or.inl h
      · exact List.mem_append.mp h
    rcases ih with h | h
    · obtain ⟨v, hv, e⟩ := mem_voidApply1_apply1 f lo h
      exact ⟨v, List.mem_append.mpr (Or.inl hv), e⟩
    · obtain ⟨v, hv, e⟩ := mem_voidApply1_apply1 f hi h
      exact ⟨v, List.mem_append.mpr (Or.inr hv), e⟩

theorem restrictCoded_kids (T : TableTD) (F U : List Nat) (p : Nat) (ks : List Nat) (q : Nat)
    (hks : ks ∈ leafTuples (getTD (restrictCoded T F U).1 p)) (hq : q ∈ ks) : q ∈ allKids T := by
  rw [getTD_restrictCoded] at hks
  split at hks
  · obtain ⟨l', hl', hk'⟩ := List.mem_flatMap.mp hks
    obtain ⟨l, hl, rfl⟩ := mem_voidApply1_apply1 _ _ hl'
    exact mem_allKids (p := p) (List.mem_flatMap.mpr ⟨l, hl, (mem_restrictLeafCoded.mp hk').1⟩) hq
  · simp [leafTuples, voidApply1] at hks

/-- **`RemoveUselessStates` as coded terminates**, with fuels that depend on the input only:
`2 * (|F| + |states in the leaves|) + 1` for the two loops of the analysis and `|F| + |states in the leaves|` for the
work-list of the final `RemoveUnreachableStates` (and all larger fuels) -/
theorem removeUselessTDCoded_total' (T : TableTD) (F : List Nat) : ∀ fuel fuel',
    2 * (F.length + (allKids T).length) + 1 ≤ fuel → F.length + (allKids T).length ≤ fuel' →
    ∃ R, removeUselessTDCoded T F fuel fuel' = some R := by
  intro fuel fuel' h h'
  obtain ⟨U, hU⟩ := usefulCoded_total T F fuel h
  have hl : (restrictCoded T F U).2.length ≤ F.length := List.length_filter_le _ _
  obtain ⟨R', hR'⟩ := tdUnreachWL_total_sup (restrictCoded T F U).1 (allKids T) (restrictCoded_kids T F U)
    (restrictCoded T F U).2 fuel' (by omega)
  exact ⟨_, removeUselessTDCoded_eq_some.mpr ⟨U, R', hU, hR', rfl⟩⟩

end BddTrimCoded
end Vata
