import Vata.Proofs.ComplTotal
import Vata.Proofs.ComplOrdIso
import Vata.Proofs.ComplOrdFifo
import Vata.Proofs.ComplOrdAlpha
/-!
# C06 – Complement: any exploration order gives the same automaton up to renaming

> For an explicit tree automaton A whose alphabet is an on-the-fly alphabet containing the ranked symbols S, every tree
> built from symbols of S (each used with its rank) is accepted by exactly one of A and Complement(A).  Complement(A)
> accepts no tree that uses a symbol outside S.

This file closes the item "Container orders" of `Vata/Properties/C06.lean` ("the model returns the same automaton as the
code up to renaming is checked by the correspondence check, not proved") and makes the item "The alphabet" precise.

## How the C++ is read into the model (`Vata/ComplOrd.lean`)

`ExplicitDownwardComplementation::Compute` (`src/explicit_tree_comp_down.hh`) keeps the pending macro-states in
`std::unordered_set<StateCachePtr> todo` – a hash set of ADDRESSES, so `*todo.begin()` is an arbitrary pending element – and
iterates `for (auto symbolIndexPair : symbolMap)` over an unordered map.  The model of `C06.lean`, `Compl.complTD`, fixes
FIFO and the order of the list `Sg`.  Here:

* `Compl.stepAt i A Sg s`: one round of the `while` loop in which the element with index `i` of `todo` (listed in insertion
  order) is the one `*todo.begin()` delivers.  The body is literally that of the FIFO model
  (`Sg.foldl (Compl.procSym A P k)`, `k = P->second` = the position of `P` in `stateCache`); new macro-states get the number
  `stateCache.size()`, i.e. the numbering is the discovery order, which depends on the elements taken; they are appended
  to `todo` (`if (p.second) todo.insert(&*p.first)`: the new elements of `todo` are the new elements of the cache – two
  statements merged, as in the FIFO model).
* `Compl.Runs A Sg s s'`: the executions of the loop in which ANY index may be taken in any round – every possible behaviour
  of the hash set.
* `Compl.complTDOrdS pick A Sg fuel` (`pick : StO → Nat`, a function of the whole state: cache, rules, `todo`): the executable
  construction, the element taken is `todo[pick s % |todo|]`; no certificate check; `RemoveUselessStates` at the end;
  `none` = fuel exhausted (one unit per round).  `Compl.complTDOrd pick` (`pick : List MacroState → Nat`) is the instance
  `complTDOrdS (onTodo pick)` where the choice looks at the content of `todo` only; `onRound sched` is the choice by round
  number.  Every execution `Runs` is the run of some `pick` (`C06_order_every_schedule`), so quantifying over `pick` is
  quantifying over all behaviours.
* The iteration order of `symbolMap` is the order of the list `Sg`; `C06_order_isomorphic` allows two different listings
  of the same set.
* `Compl.ordIso c₁ c₂ q = c₂.idxOf (c₁.getD q [])`: the number of a macro-state in the first cache ↦ its number in the
  second.
* Abstracted: the preorder (identity, as in `Complement`), the hash containers as lists, `Antichain1C` + `std::sort`
  as `normS` – all as in `C06.lean`.
* The alphabet: `Compl.dictSg Sg` is the ranked alphabet `Compute` extracts from a dictionary listing the (symbol number,
  rank) pairs `Sg` (`symbolMap.insert` does not overwrite: the FIRST rank of a number wins); `Compl.tdWRaw A P f` is the
  set `W` as `transitionIndex[state][symbol]` delivers it (the index ignores the length of the tuples).
-/
namespace Vata.Props

/-- Totality for every exploration order: with `2^|Q_A| + 1` units of fuel (one per macro-state) or more
`complTDOrdS pick` returns an automaton, whatever `pick` (a function of the whole state), `A` and the alphabet. -/
theorem C06_order_total (pick : Compl.StO → Nat) (A : TA) (Sg : List (Nat × Nat)) (fuel : Nat)
    (h : 2 ^ A.states.length + 1 ≤ fuel) : ∃ C, Compl.complTDOrdS pick A Sg fuel = some C :=
  Compl.complTDOrd_total pick h

example : 2 ^ Compl.Ex.aChain.states.length + 1 ≤ 17 := by decide

/-- Every automaton `complTDOrdS pick` returns is the complement of `A` over `Sg`, whatever the exploration order: on the
trees over `Sg` it accepts exactly those `A` rejects, and it accepts no tree that is not over `Sg`.  (Proved directly: a
finished run passes the certificate check `tdCertB` of the FIFO model, `Compl.runOrd_cert`.) -/
theorem C06_order_exact (pick : Compl.StO → Nat) (A : TA) (Sg : List (Nat × Nat)) (fuel : Nat) (C : TA)
    (h : Compl.complTDOrdS pick A Sg fuel = some C) :
    ∀ t, (overSig Sg t = true → accepts C t = !accepts A t) ∧ (overSig Sg t = false → accepts C t = false) := by
  obtain ⟨s, hr, rfl⟩ := Compl.complTDOrd_unfold h
  intro t
  rw [removeUseless_lang]
  exact Compl.tdCert_spec (Compl.runOrd_cert hr) t

-- LIFO and a content-dependent order on a chain-shaped automaton where the order changes the numbering
example : (Compl.complTDOrd Compl.pickLifo Compl.Ex.aChain Compl.Ex.sgc 20).isSome = true ∧
    (Compl.complTDOrd Compl.pickMix Compl.Ex.aChain Compl.Ex.sgc 20).isSome = true :=
  ⟨Option.isSome_iff_exists.mpr (Compl.complTDOrd_total _ (by decide +kernel)),
    Option.isSome_iff_exists.mpr (Compl.complTDOrd_total _ (by decide +kernel))⟩

/-- The work-list proper: whatever the order, a finished run has a duplicate-free cache that starts with the set of final
states and consists EXACTLY of the macro-states the construction must meet (`Compl.MReach`: the least set containing
the final states and closed under the macro-states of the choice functions); its rules are duplicate-free and exactly the
ones this cache prescribes. -/
theorem C06_order_run_canonical (pick : Compl.StO → Nat) (A : TA) (Sg : List (Nat × Nat)) (fuel : Nat)
    (s : Compl.StO) (h : Compl.runOrdS pick A Sg fuel = some s) :
    s.st.cache.Nodup ∧ s.st.cache[0]? = some (InclUp.normS A.final) ∧ (∀ P, P ∈ s.st.cache ↔ Compl.MReach A Sg P) ∧
      s.st.rules.Nodup ∧ (∀ r, r ∈ s.st.rules ↔ r ∈ Compl.tdExpected A Sg s.st.cache) ∧ s.todo = [] := by
  have F := Compl.runOrd_final h
  exact ⟨F.nodup, F.head, F.mem, F.nodupR, F.rules, ((Compl.loopOrd_runs pick fuel _ s h).inv (Compl.InvO.init A Sg)).2⟩

example : (Compl.runOrd Compl.pickLifo Compl.Ex.aChain Compl.Ex.sgc 20).map (fun s => (s.st.cache, s.st.rules.length)) =
    some ([[3], [2], [1], [0], []], 14) := by decide +kernel

/-- **Any two exploration orders give isomorphic automata.**  For two choice functions `pick₁`, `pick₂` of the state (and two
listings `Sg₁`, `Sg₂` of the same set of ranked symbols – the iteration order of `symbolMap`), the results `C`, `D` are
isomorphic through the explicit renaming `σ = ordIso cache₁ cache₂` (number of a macro-state in the first run ↦ its number in
the second) with inverse `τ = ordIso cache₂ cache₁`: `σ`, `τ` are mutually inverse bijections between the states of `C` and
of `D`, they carry rules to rules and final states to final states (`TAIso`). -/
theorem C06_order_isomorphic (pick₁ pick₂ : Compl.StO → Nat) (A : TA) (Sg₁ Sg₂ : List (Nat × Nat))
    (hSg : ∀ fa, fa ∈ Sg₁ ↔ fa ∈ Sg₂) (f₁ f₂ : Nat) (C D : TA)
    (h₁ : Compl.complTDOrdS pick₁ A Sg₁ f₁ = some C) (h₂ : Compl.complTDOrdS pick₂ A Sg₂ f₂ = some D) :
    ∃ s₁ s₂, Compl.runOrdS pick₁ A Sg₁ f₁ = some s₁ ∧ Compl.runOrdS pick₂ A Sg₂ f₂ = some s₂ ∧
      (∀ P, P ∈ s₁.st.cache ↔ P ∈ s₂.st.cache) ∧
      TAIso (Compl.ordIso s₁.st.cache s₂.st.cache) (Compl.ordIso s₂.st.cache s₁.st.cache) C D := by
  obtain ⟨s₁, s₂, hr₁, hr₂, hiso⟩ := Compl.complTDOrd_iso_sg hSg h₁ h₂
  exact ⟨s₁, s₂, hr₁, hr₂,
    (Compl.final_cache_same ((Compl.runOrd_final hr₁).congr_sg hSg) (Compl.runOrd_final hr₂)).1, hiso⟩

/-- what `TAIso` says, spelled out -/
theorem C06_order_iso_unfolded (σ τ : Nat → Nat) (C D : TA) (h : TAIso σ τ C D) :
    (∀ q, q ∈ C.states → σ q ∈ D.states ∧ τ (σ q) = q) ∧ (∀ q, q ∈ D.states → τ q ∈ C.states ∧ σ (τ q) = q) ∧
    (∀ r, r ∈ C.rules → (⟨r.sym, r.kids.map σ, σ r.parent⟩ : Rule) ∈ D.rules) ∧
    (∀ r, r ∈ D.rules → (⟨r.sym, r.kids.map τ, τ r.parent⟩ : Rule) ∈ C.rules) ∧
    (∀ q, q ∈ C.final → σ q ∈ D.final) ∧ (∀ q, q ∈ D.final → τ q ∈ C.final) :=
  ⟨h.toFun, h.invFun, h.rules, h.rulesInv, h.final, h.finalInv⟩

-- LIFO against FIFO on the chain: the caches differ, the renaming swaps the numbers 3 and 4
example : (Compl.runOrd Compl.pickLifo Compl.Ex.aChain Compl.Ex.sgc 20).map (fun s => s.st.cache) =
      some [[3], [2], [1], [0], []] ∧
    (Compl.runOrd Compl.pickFifo Compl.Ex.aChain Compl.Ex.sgc 20).map (fun s => s.st.cache) =
      some [[3], [2], [1], [], [0]] ∧
    (List.range 5).map (Compl.ordIso [[3], [2], [1], [0], []] [[3], [2], [1], [], [0]]) = [0, 1, 2, 4, 3] := by
  decide +kernel

theorem removeUseless_final (A : TA) : (removeUseless A).final = A.final.filter (fun q => (prodStates A).contains q) := by
  simp only [removeUseless, removeUnreachable]

/-- … hence the same language, the same number of states and the same number of rules – the quantities the driver
compares between the model and the real `Complement`. -/
theorem C06_order_sizes (pick₁ pick₂ : Compl.StO → Nat) (A : TA) (Sg₁ Sg₂ : List (Nat × Nat))
    (hSg : ∀ fa, fa ∈ Sg₁ ↔ fa ∈ Sg₂) (f₁ f₂ : Nat) (C D : TA)
    (h₁ : Compl.complTDOrdS pick₁ A Sg₁ f₁ = some C) (h₂ : Compl.complTDOrdS pick₂ A Sg₂ f₂ = some D) :
    (∀ t, accepts C t = accepts D t) ∧ C.states.length = D.states.length ∧ C.rules.length = D.rules.length ∧
      C.rules.Nodup ∧ D.rules.Nodup ∧ C.final = D.final := by
  obtain ⟨s₁, s₂, hr₁, hr₂, hiso⟩ := Compl.complTDOrd_iso_sg hSg h₁ h₂
  have n₁ := Compl.complTDOrd_nodup_rules h₁
  have n₂ := Compl.complTDOrd_nodup_rules h₂
  refine ⟨hiso.lang, hiso.states_length, hiso.rules_length n₁ n₂, n₁, n₂, ?_⟩
  -- the final states: `[0]` or `[]`, and `σ 0 = 0`
  obtain ⟨t₁, _, e₁⟩ := Compl.complTDOrd_unfold h₁
  obtain ⟨t₂, _, e₂⟩ := Compl.complTDOrd_unfold h₂
  have hf : ∀ (R : List Rule), (removeUseless ⟨R, [0]⟩).final = [] ∨ (removeUseless ⟨R, [0]⟩).final = [0] := by
    intro R
    simp only [removeUseless_final, List.filter_cons, List.filter_nil]
    split
    · exact Or.inr rfl
    · exact Or.inl rfl
  have hC := hf t₁.st.rules
  have hD := hf t₂.st.rules
  rw [← e₁] at hC
  rw [← e₂] at hD
  rcases hC with hC | hC <;> rcases hD with hD | hD
  · rw [hC, hD]
  · exfalso
    have := hiso.finalInv 0 (by rw [hD]; exact List.mem_singleton.mpr rfl)
    rw [hC] at this; cases this
  · exfalso
    have := hiso.final 0 (by rw [hC]; exact List.mem_singleton.mpr rfl)
    rw [hD] at this; cases this
  · rw [hC, hD]

example : (Compl.complTDOrd Compl.pickLifo Compl.Ex.aChain Compl.Ex.sgc 20).map (fun C => (C.states.length, C.rules.length)) =
      some (5, 14) ∧
    (Compl.complTDOrd Compl.pickFifo Compl.Ex.aChain Compl.Ex.sgc.reverse 20).map (fun C => (C.states.length, C.rules.length)) =
      some (5, 14) := by decide +kernel

/-- The raw work-lists of two orders have discovered the same macro-states, as many of them, and built as many rules
(before trimming). -/
theorem C06_order_same_macrostates (pick₁ pick₂ : Compl.StO → Nat) (A : TA) (Sg : List (Nat × Nat))
    (f₁ f₂ : Nat) (s₁ s₂ : Compl.StO) (h₁ : Compl.runOrdS pick₁ A Sg f₁ = some s₁)
    (h₂ : Compl.runOrdS pick₂ A Sg f₂ = some s₂) :
    (∀ P, P ∈ s₁.st.cache ↔ P ∈ s₂.st.cache) ∧ s₁.st.cache.length = s₂.st.cache.length ∧
      s₁.st.rules.length = s₂.st.rules.length :=
  Compl.final_cache_same (Compl.runOrd_final h₁) (Compl.runOrd_final h₂)

/-- **Every behaviour of the hash set.**  `Runs A Sg (initOrd A) s`: `s` is reached from the initial state by rounds in
each of which an arbitrary element of `todo` is taken, until `todo` is empty.  (1) The run of every choice function is
such an execution; (2) conversely every such execution is the run of a choice function (a schedule by round number), with
some fuel; (3) every such execution ends in the canonical state of `C06_order_run_canonical`; (4) any two of them give
isomorphic automata after `RemoveUselessStates`. -/
theorem C06_order_every_schedule (A : TA) (Sg : List (Nat × Nat)) :
    (∀ pick fuel s, Compl.runOrdS pick A Sg fuel = some s → Compl.Runs A Sg (Compl.initOrd A) s) ∧
    (∀ s, Compl.Runs A Sg (Compl.initOrd A) s →
      ∃ sched fuel, Compl.runOrdS (Compl.onRound sched) A Sg fuel = some s) ∧
    (∀ s, Compl.Runs A Sg (Compl.initOrd A) s →
      s.st.cache.Nodup ∧ (∀ P, P ∈ s.st.cache ↔ Compl.MReach A Sg P) ∧
        (∀ r, r ∈ s.st.rules ↔ r ∈ Compl.tdExpected A Sg s.st.cache) ∧ Compl.tdCertB A Sg s.st = true) ∧
    (∀ s₁ s₂, Compl.Runs A Sg (Compl.initOrd A) s₁ → Compl.Runs A Sg (Compl.initOrd A) s₂ →
      TAIso (Compl.ordIso s₁.st.cache s₂.st.cache) (Compl.ordIso s₂.st.cache s₁.st.cache)
        (removeUseless ⟨s₁.st.rules, [0]⟩) (removeUseless ⟨s₂.st.rules, [0]⟩)) := by
  refine ⟨fun pick fuel s h => Compl.loopOrd_runs pick fuel _ s h,
    fun s h => h.realised (Compl.InvO.init A Sg), fun s h => ?_,
    fun s₁ s₂ h₁ h₂ => Compl.runs_iso (fun _ => Iff.rfl) h₁ h₂⟩
  have F := h.final
  exact ⟨F.nodup, F.mem, F.rules, F.cert⟩

-- an execution that takes the elements with the indices 0, 1, 0, 0, 0
example : Compl.Runs Compl.Ex.aChain Compl.Ex.sgc (Compl.initOrd Compl.Ex.aChain)
    (Compl.stepAt 0 Compl.Ex.aChain Compl.Ex.sgc (Compl.stepAt 0 Compl.Ex.aChain Compl.Ex.sgc
      (Compl.stepAt 0 Compl.Ex.aChain Compl.Ex.sgc (Compl.stepAt 1 Compl.Ex.aChain Compl.Ex.sgc
        (Compl.stepAt 0 Compl.Ex.aChain Compl.Ex.sgc (Compl.initOrd Compl.Ex.aChain)))))) := by
  refine .step (i := 0) (by decide +kernel) (.step (i := 1) (by decide +kernel) (.step (i := 0) (by decide +kernel)
    (.step (i := 0) (by decide +kernel) (.step (i := 0) (by decide +kernel) (.done (by decide +kernel))))))

/-- The instance asked for: choice functions of the content of `todo` (`complTDOrd pick = complTDOrdS (onTodo pick)`). -/
theorem C06_order_isomorphic_todo (pick₁ pick₂ : List Compl.MacroState → Nat) (A : TA) (Sg : List (Nat × Nat))
    (f₁ f₂ : Nat) (C D : TA)
    (h₁ : Compl.complTDOrd pick₁ A Sg f₁ = some C) (h₂ : Compl.complTDOrd pick₂ A Sg f₂ = some D) :
    (∃ σ τ, TAIso σ τ C D) ∧ (∀ t, accepts C t = accepts D t) ∧ C.states.length = D.states.length ∧
      C.rules.length = D.rules.length ∧
      (∀ t, (overSig Sg t = true → accepts C t = !accepts A t) ∧ (overSig Sg t = false → accepts C t = false)) := by
  obtain ⟨s₁, s₂, _, _, _, hiso⟩ := C06_order_isomorphic _ _ A Sg Sg (fun _ => Iff.rfl) f₁ f₂ C D h₁ h₂
  have hs := C06_order_sizes _ _ A Sg Sg (fun _ => Iff.rfl) f₁ f₂ C D h₁ h₂
  exact ⟨⟨_, _, hiso⟩, hs.1, hs.2.1, hs.2.2.1, C06_order_exact _ A Sg f₁ C h₁⟩

/-- The FIFO order IS the model `complTD` of `C06.lean` (same fuel, same answer, `none` at the same time) … -/
theorem C06_order_fifo_is_model (A : TA) (Sg : List (Nat × Nat)) (fuel : Nat) :
    Compl.complTDOrd Compl.pickFifo A Sg fuel = Compl.complTD A Sg fuel :=
  Compl.complTDOrd_fifo A Sg fuel

/-- … so the automaton of ANY exploration order (the one of the real hash set included) is isomorphic to the one the
model `complTD` returns: "the model returns the same automaton as the code up to renaming". -/
theorem C06_order_model_up_to_renaming (pick : Compl.StO → Nat) (A : TA) (Sg : List (Nat × Nat))
    (f₁ f₂ : Nat) (C D : TA) (h₁ : Compl.complTDOrdS pick A Sg f₁ = some C) (h₂ : Compl.complTD A Sg f₂ = some D) :
    (∃ σ τ, TAIso σ τ C D) ∧ (∀ t, accepts C t = accepts D t) ∧ C.states.length = D.states.length ∧
      C.rules.length = D.rules.length := by
  rw [← Compl.complTDOrd_fifo] at h₂
  obtain ⟨s₁, s₂, _, _, hiso⟩ := Compl.complTDOrd_iso_sg (fun _ => Iff.rfl) h₁ h₂
  exact ⟨⟨_, _, hiso⟩, hiso.lang, hiso.states_length,
    hiso.rules_length (Compl.complTDOrd_nodup_rules h₁) (Compl.complTDOrd_nodup_rules h₂)⟩

example : (Compl.complTD Compl.Ex.aChain Compl.Ex.sgc 20).isSome = true :=
  Option.isSome_iff_exists.mpr (Compl.complTD_total (by decide +kernel))

/-! ### the alphabet: one rank per symbol number -/

/-- The precondition on the alphabet, positively.  If the symbol numbers of the dictionary are pairwise distinct, the
ranked alphabet `Compute` extracts (`symbolMap`, `ranks`) is the listed one; if a number may be listed repeatedly but with
ONE rank, it is the same set (and `C06_order_isomorphic` applies to two listings of the same set).  If moreover the rules of
`A` use every symbol of the alphabet with its rank, the set `W` the code collects from `transitionIndex[state][symbol]`
(no look at the length of the tuples) is the `W` of the model. -/
theorem C06_alphabet_one_rank (A : TA) (Sg : List (Nat × Nat)) :
    ((Sg.map Prod.fst).Nodup → Compl.dictSg Sg = Sg) ∧
    (Compl.oneRankB Sg = true → ∀ fa, fa ∈ Compl.dictSg Sg ↔ fa ∈ Sg) ∧
    (Compl.oneRankB Sg = true → Compl.ranksRespectedB A Sg = true →
      ∀ P f n, (f, n) ∈ Compl.dictSg Sg → Compl.tdWRaw A P f = Compl.tdW A P f n) := by
  refine ⟨Compl.dictSg_of_nodup, Compl.mem_dictSg_of_oneRank, ?_⟩
  intro _ h2 P f n hfa
  apply Compl.tdW_eq_raw
  intro r hr e
  exact Compl.ranksRespectedB_iff.mp h2 r f n hr (Compl.mem_dictSg_sub hfa) e

example : Compl.oneRankB Compl.Ex.sg3 = true ∧ Compl.ranksRespectedB Compl.Ex.aND Compl.Ex.sg3 = true ∧
    (Compl.Ex.sg3.map Prod.fst).Nodup := by decide

/-- **The precondition cannot be dropped.**  A dictionary in which the symbol number `0` is registered with the ranks `0`
and `2` (`oneRankB = false`): `Compute` keeps the first rank only (`symbolMap.insert` does not overwrite), i.e. works over
`dictSg Sg = [(0, 0)]`, and what it builds for the empty automaton is NOT the complement over `Sg` (the tree `0(0, 0)` is
accepted by neither) – although the model handed the full list `Sg` is right (`C06_model_exact` has no hypothesis on
`Sg`).  So "every symbol number has one rank" is a precondition of the correspondence between the code and the model. -/
theorem C06_alphabet_one_rank_needed :
    let Sg : List (Nat × Nat) := [(0, 0), (0, 2)]
    let A : TA := Compl.Ex.aNone
    Compl.oneRankB Sg = false ∧ Compl.dictSg Sg = [(0, 0)] ∧
    (match Compl.complTD A (Compl.dictSg Sg) 10 with
      | some C => isComplM C A Sg 10
      | none => none) = some false ∧
    (match Compl.complTD A Sg 10 with
      | some C => isComplM C A Sg 10
      | none => none) = some true := by decide +kernel

/-- Second half of the precondition: when a rule of `A` uses a symbol with another number of children than its rank
(`ranksRespectedB = false`), `transitionIndex[state][symbol]` contains a tuple that is too short for the choice functions
(the code has `assert(choice < W[i]->size())`; without assertions it reads out of bounds) – the model's `W` leaves it
out. -/
theorem C06_alphabet_ranks_respected_needed :
    let A : TA := ⟨[⟨1, [0], 0⟩, ⟨1, [0, 0], 0⟩], [0]⟩
    Compl.ranksRespectedB A [(1, 2)] = false ∧
    Compl.tdWRaw A [0] 1 = [[0], [0, 0]] ∧ Compl.tdW A [0] 1 2 = [[0, 0]] := by decide +kernel

/-!
## still not proved

* **The preorder** – as in `C06.lean`: only the identity preorder of `Complement` is modelled.
* **Insertion into `todo`** is modelled together with the insertion into `stateCache` (new elements of the cache = new
  elements of `todo`), not statement by statement; a slip that forgets `todo.insert` in ONE of the two places of the code
  would not be visible as a different model.
* **The alphabet.**  `dictSg` / `tdWRaw` describe how the code reads the dictionary and the transitions; there is no
  executable model of the whole construction over `tdWRaw` (out-of-bounds behaviour is not modelled), only the statement
  that under `oneRankB` and `ranksRespectedB` the inputs of the model are what the code reads, and the two counterexamples.
  That the symbol dictionary of the caller satisfies the precondition remains an assumption about the caller.
* The isomorphism is between models (any order against any order, in particular against `complTD`); that the real C++
  run IS one of the executions `Runs` (the one induced by its hash set) is the reading of the source described in the header, and
  is what the driver's comparison (language, numbers of states and rules) tests.
* None of the fuel bounds is tight.
-/
end Vata.Props
