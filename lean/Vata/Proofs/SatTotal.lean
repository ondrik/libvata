import Vata.Proofs.ListFacts
/-!
# The profile-saturation loops (generic part): invariants and termination

Four loops of the project – `msat` (`Vata/Multi.lean`, tuples of state sets of several tree automata), `sat`
(`Vata/Basic.lean`, pairs of state sets of two tree automata), `W.sat` (`Vata/Nfa.lean`, pairs of state sets of two word
automata) and `Compl.detSat` (`Vata/Compl.lean`, the state sets of the determinisation behind `complRef`, with `==` as the
equivalence) – are the same loop over different element types:

```
sat (n+1) P = if closed P then some P else sat n (addNew P (step P))        sat 0 P = if closed P then some P else none
```

where `closed P` says that every element of `step P` is *equivalent* (componentwise equal as a set) to an element of `P`
and `addNew` appends the elements of `step P` that are not yet represented.  `gsat` below is that loop for an arbitrary
element type, Boolean equivalence `eqB` and `step`; each concrete loop is shown to be an instance by an `rfl`-style
induction (`sat_eq` in `Vata/Incl.lean`, `msat_eq` in `Vata/Multi.lean`, `W.sat_eq` in `Vata/Nfa.lean`, `Compl.detSat_eq` in
`Vata/Proofs/Compl.lean`).  What a loop returns satisfies
every invariant of its rounds and is closed (`gsat_inv`); a property of the single elements is such an invariant as soon
as `step` only produces elements that have it (`gsat_gen`).

**The termination argument of the loop as written.**  A round that does not stop has found an element `p ∈ step P` that
is not represented in `P`; `addNew` then appends `p` (or an equivalent element met earlier in the same round), so after
the round `p` *is* represented, and nothing that was represented is lost (`addNew` only appends).  Hence *no round wastes
fuel*: every round either stops or strictly increases the set of represented equivalence classes.  Given any finite list
`L` that contains a representative of every element `step` can ever produce (under an invariant `Inv` of the loop), the
measure

  `uncov L P` = number of elements of `L` not represented in `P`

strictly decreases in every round that does not stop (`uncov_lt`), and the loop stops at the latest when it is `0`.
So `uncov L P ≤ fuel` suffices (`gsat_isSome`); for the start value this is at most `L.length`.  No pigeonhole principle
is needed.  A round may add many elements at once, so the bound is pessimistic by design: it is the number of
equivalence classes, the number of rounds actually needed is the *depth* at which the last class appears.
-/
namespace Vata.Total

variable {α : Type}

/-- `p` is represented in `P` -/
def gmem (eqB : α → α → Bool) (P : List α) (p : α) : Bool := P.any (fun p' => eqB p' p)

def gaddNew (eqB : α → α → Bool) (P : List α) : List α → List α
  | [] => P
  | p :: ps => if gmem eqB P p then gaddNew eqB P ps else gaddNew eqB (P ++ [p]) ps

def gclosed (eqB : α → α → Bool) (step : List α → List α) (P : List α) : Bool := (step P).all (gmem eqB P)

def gsat (eqB : α → α → Bool) (step : List α → List α) : Nat → List α → Option (List α)
  | 0, P => if gclosed eqB step P then some P else none
  | n+1, P => if gclosed eqB step P then some P else gsat eqB step n (gaddNew eqB P (step P))

structure IsEqv (eqB : α → α → Bool) : Prop where
  refl : ∀ a, eqB a a = true
  symm : ∀ a b, eqB a b = true → eqB b a = true
  trans : ∀ a b c, eqB a b = true → eqB b c = true → eqB a c = true

/-- the measure: elements of the universe `L` not yet represented in `P` -/
def uncov (eqB : α → α → Bool) (L P : List α) : Nat := (L.filter (fun u => !gmem eqB P u)).length

theorem gmem_iff {eqB : α → α → Bool} {P : List α} {p : α} :
    gmem eqB P p = true ↔ ∃ p', p' ∈ P ∧ eqB p' p = true := by
  simp [gmem, List.any_eq_true]

theorem gmem_mono {eqB : α → α → Bool} {P P' : List α} (h : ∀ x, x ∈ P → x ∈ P') {p : α}
    (hp : gmem eqB P p = true) : gmem eqB P' p = true := by
  obtain ⟨p', h1, h2⟩ := gmem_iff.mp hp
  exact gmem_iff.mpr ⟨p', h p' h1, h2⟩

theorem sub_gaddNew (eqB : α → α → Bool) (N : List α) : ∀ (P : List α) (x : α), x ∈ P → x ∈ gaddNew eqB P N := by
  induction N with
  | nil => intro P x hx; exact hx
  | cons p ps ih =>
    intro P x hx
    simp only [gaddNew]
    split
    · exact ih P x hx
    · exact ih _ x (List.mem_append_left _ hx)

/-- what `gaddNew` returns consists of old and of added elements -/
theorem mem_gaddNew {eqB : α → α → Bool} : ∀ {N P : List α} {p : α}, p ∈ gaddNew eqB P N → p ∈ P ∨ p ∈ N
  | [], _, _, h => Or.inl h
  | q :: N, P, p, h => by
    rw [gaddNew] at h
    split at h
    · exact (mem_gaddNew h).imp_right (List.mem_cons_of_mem _)
    · rcases mem_gaddNew h with h | h
      · rcases List.mem_append.mp h with h | h
        · exact Or.inl h
        · exact Or.inr (List.mem_singleton.mp h ▸ List.mem_cons_self)
      · exact Or.inr (List.mem_cons_of_mem _ h)

theorem gsat_gen {eqB : α → α → Bool} {step : List α → List α} (Q : α → Prop)
    (hstep : ∀ P, (∀ p, p ∈ P → Q p) → ∀ p, p ∈ step P → Q p) :
    ∀ P, (∀ p, p ∈ P → Q p) → ∀ p, p ∈ gaddNew eqB P (step P) → Q p :=
  fun P hP p hp => (mem_gaddNew hp).elim (hP p) (hstep P hP p)

theorem gmem_gaddNew {eqB : α → α → Bool} (he : IsEqv eqB) (N : List α) :
    ∀ (P : List α) (p : α), p ∈ N → gmem eqB (gaddNew eqB P N) p = true := by
  induction N with
  | nil => intro P p hp; cases hp
  | cons q qs ih =>
    intro P p hp
    simp only [gaddNew]
    rcases List.mem_cons.mp hp with hpq | hp
    · subst hpq
      split
      · rename_i hm
        exact gmem_mono (sub_gaddNew eqB qs P) hm
      · apply gmem_iff.mpr
        exact ⟨p, sub_gaddNew eqB qs _ p (List.mem_append_right _ (List.mem_singleton.mpr rfl)), he.refl p⟩
    · split
      · exact ih P p hp
      · exact ih _ p hp

theorem uncov_le {eqB : α → α → Bool} (L : List α) {P P' : List α} (h : ∀ x, x ∈ P → x ∈ P') :
    uncov eqB L P' ≤ uncov eqB L P := by
  rw [uncov, uncov, ← List.countP_eq_length_filter, ← List.countP_eq_length_filter]
  exact countP_not_le fun _ _ => gmem_mono h

theorem uncov_lt {eqB : α → α → Bool} (L : List α) {P P' : List α} (h : ∀ x, x ∈ P → x ∈ P')
    {u : α} (hu : u ∈ L) (h0 : gmem eqB P u = false) (h1 : gmem eqB P' u = true) :
    uncov eqB L P' < uncov eqB L P := by
  rw [uncov, uncov, ← List.countP_eq_length_filter, ← List.countP_eq_length_filter]
  exact countP_not_lt (fun _ _ => gmem_mono h) hu h0 h1

theorem uncov_le_length (eqB : α → α → Bool) (L P : List α) : uncov eqB L P ≤ L.length :=
  List.length_filter_le _ _

section round
variable {eqB : α → α → Bool} {step : List α → List α} {P : List α}

theorem gsat_of_closed (hc : gclosed eqB step P = true) (fuel : Nat) : gsat eqB step fuel P = some P := by
  cases fuel <;> rw [gsat, if_pos hc]

theorem gsat_zero_of_not_closed (hc : ¬ gclosed eqB step P = true) : gsat eqB step 0 P = none := by
  rw [gsat, if_neg hc]

theorem gsat_succ_of_not_closed (hc : ¬ gclosed eqB step P = true) (n : Nat) :
    gsat eqB step (n + 1) P = gsat eqB step n (gaddNew eqB P (step P)) := by
  rw [gsat, if_neg hc]

end round

/-- **Generic totality.**  If `L` represents everything `step` produces from a set satisfying the loop invariant, the
loop returns a value as soon as the fuel is at least the number of elements of `L` not yet represented. -/
theorem gsat_isSome {eqB : α → α → Bool} (he : IsEqv eqB) (step : List α → List α) (L : List α)
    (Inv : List α → Prop)
    (hinv : ∀ P, Inv P → Inv (gaddNew eqB P (step P)))
    (hcov : ∀ P, Inv P → ∀ p, p ∈ step P → ∃ u, u ∈ L ∧ eqB u p = true) :
    ∀ (fuel : Nat) (P : List α), Inv P → uncov eqB L P ≤ fuel → (gsat eqB step fuel P).isSome = true := by
  -- a round that does not stop represents a universe element that was not represented
  have key : ∀ P, Inv P → ¬ gclosed eqB step P = true →
      uncov eqB L (gaddNew eqB P (step P)) < uncov eqB L P := by
    intro P hP hc
    obtain ⟨p, hp, hm⟩ : ∃ p, p ∈ step P ∧ ¬ gmem eqB P p = true := by
      rw [gclosed, List.all_eq_true] at hc
      exact Classical.not_forall.mp hc |>.imp fun p hp => Classical.not_imp.mp hp
    obtain ⟨u, hu, hup⟩ := hcov P hP p hp
    apply uncov_lt L (sub_gaddNew eqB (step P) P) hu
    · cases hmu : gmem eqB P u
      · rfl
      · obtain ⟨p', hp', he'⟩ := gmem_iff.mp hmu
        exact absurd (gmem_iff.mpr ⟨p', hp', he.trans _ _ _ he' hup⟩) hm
    · obtain ⟨p', hp', he'⟩ := gmem_iff.mp (gmem_gaddNew he (step P) P p hp)
      exact gmem_iff.mpr ⟨p', hp', he.trans _ _ _ he' (he.symm _ _ hup)⟩
  intro fuel
  induction fuel with
  | zero =>
    intro P hP hle
    by_cases hc : gclosed eqB step P = true
    · rw [gsat_of_closed hc]; rfl
    · exact absurd (Nat.lt_of_lt_of_le (key P hP hc) hle) (Nat.not_lt_zero _)
  | succ n ih =>
    intro P hP hle
    by_cases hc : gclosed eqB step P = true
    · rw [gsat_of_closed hc]; rfl
    · rw [gsat_succ_of_not_closed hc]
      exact ih _ (hinv P hP) (Nat.le_of_lt_succ (Nat.lt_of_lt_of_le (key P hP hc) hle))

theorem gsat_inv {eqB : α → α → Bool} {step : List α → List α} (Inv : List α → Prop)
    (hinv : ∀ P, Inv P → Inv (gaddNew eqB P (step P))) :
    ∀ (fuel : Nat) (P R : List α), Inv P → gsat eqB step fuel P = some R → Inv R ∧ gclosed eqB step R = true := by
  intro fuel
  induction fuel with
  | zero =>
    intro P R hP h
    by_cases hc : gclosed eqB step P = true
    · rw [gsat_of_closed hc] at h; cases h; exact ⟨hP, hc⟩
    · rw [gsat_zero_of_not_closed hc] at h; cases h
  | succ n ih =>
    intro P R hP h
    by_cases hc : gclosed eqB step P = true
    · rw [gsat_of_closed hc] at h; cases h; exact ⟨hP, hc⟩
    · rw [gsat_succ_of_not_closed hc] at h; exact ih _ _ (hinv P hP) h

theorem gsat_closed {eqB : α → α → Bool} (step : List α → List α) :
    ∀ (fuel : Nat) (P R : List α), gsat eqB step fuel P = some R → gclosed eqB step R = true :=
  fun fuel P R h => (gsat_inv (fun _ => True) (fun _ _ => trivial) fuel P R trivial h).2

theorem gsat_mono {eqB : α → α → Bool} (step : List α → List α) :
    ∀ (fuel : Nat) (P R : List α), gsat eqB step fuel P = some R → gsat eqB step (fuel + 1) P = some R := by
  intro fuel
  induction fuel with
  | zero =>
    intro P R h
    by_cases hc : gclosed eqB step P = true
    · rw [gsat_of_closed hc] at h ⊢; exact h
    · rw [gsat_zero_of_not_closed hc] at h; cases h
  | succ n ih =>
    intro P R h
    by_cases hc : gclosed eqB step P = true
    · rw [gsat_of_closed hc] at h ⊢; exact h
    · rw [gsat_succ_of_not_closed hc] at h ⊢; exact ih _ _ h

end Vata.Total
