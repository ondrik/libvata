import Vata.UnionStoreCoded
import Vata.Proofs.RenameCodedMain
import Vata.Proofs.UnionModel
/-!
# `Union` on the rule store – proofs, part 1

The weak translator with the counter functor, fed a key sequence, IS `weakTrAll`.  So one `ReindexStates(res, weak
translator)` call throws nothing, and the container afterwards and the content of the destination are known for ALL source
stores – no invariant needed; `Union` is two such calls.
-/
namespace Vata.UnionStoreCoded
open Vata.Store Vata.RenameCoded

/-- a key sequence through ONE `TranslatorWeak` with `[&cnt]{return cnt++;}` is `weakTrAll` of `Vata/UnionModel.lean` -/
theorem appSeq_weak_counter : ∀ (ks : List Nat) (m : SMap) (c : Nat),
    appSeq (weakT .counter) ks ⟨m, c⟩ = (none, ⟨(weakTrAll ks m c).1, (weakTrAll ks m c).2⟩)
  | [], m, c => rfl
  | k :: ks, m, c => by
    simp only [appSeq, weakT_app, weakTrAll, Glue.weakMap_eq_weakTr, Glue.Alloc.run]
    exact appSeq_weak_counter ks _ _

theorem states_sub_lookupOrder (s : Store) : ∀ q, q ∈ (toTA s).states → q ∈ lookupOrder s true := by
  intro q hq
  simp only [lookupOrder, if_true, List.mem_append]
  rcases Rn.mem_states.mp hq with ⟨r, hr, hk⟩ | hf
  · have := rule_keys_mem_mapKeys (s := s) (r := r) hr
    rcases hk with hk | hk
    · exact Or.inr (hk ▸ this.1)
    · exact Or.inr (this.2 q hk)
  · exact Or.inl hf

/-- one `src.ReindexStates(dst, TranslatorWeak(m, [&cnt]{return cnt++;}))`, for EVERY source and destination store -/
theorem weak_run (src dst : Store) (m : SMap) (c : Nat) :
    (reindexInto (weakT .counter) src dst ⟨m, c⟩ true).thrown = none ∧
    (reindexInto (weakT .counter) src dst ⟨m, c⟩ true).tr.map = (weakTrAll (lookupOrder src true) m c).1 ∧
    (reindexInto (weakT .counter) src dst ⟨m, c⟩ true).tr.cnt = (weakTrAll (lookupOrder src true) m c).2 ∧
    (WInv dst → WInv (reindexInto (weakT .counter) src dst ⟨m, c⟩ true).dst) ∧
    (∀ x, contains (reindexInto (weakT .counter) src dst ⟨m, c⟩ true).dst x = true ↔
      contains dst x = true ∨
        ∃ r, r ∈ iterate src ∧ x = mapRule (applyMap (weakTrAll (lookupOrder src true) m c).1) r) ∧
    (∀ q, q ∈ (reindexInto (weakT .counter) src dst ⟨m, c⟩ true).dst.final ↔
      q ∈ dst.final ∨ ∃ p, p ∈ src.final ∧ q = applyMap (weakTrAll (lookupOrder src true) m c).1 p) := by
  have hg := (reindexInto_gen (lawful_weakT .counter) src dst ⟨m, c⟩ true).keys
  rw [appSeq_weak_counter] at hg
  have e1 : (reindexInto (weakT .counter) src dst ⟨m, c⟩ true).thrown = none := congrArg Prod.fst hg
  have e2 : (reindexInto (weakT .counter) src dst ⟨m, c⟩ true).tr =
      ⟨(weakTrAll (lookupOrder src true) m c).1, (weakTrAll (lookupOrder src true) m c).2⟩ := congrArg Prod.snd hg
  have hl := reindexInto_lawful (lawful_weakT .counter) src dst ⟨m, c⟩ true
  rw [e1, e2] at hl
  obtain ⟨hc, hf⟩ := hl.complete
  -- every looked-up key is in the final map, so there the translation read off that map is `applyMap` of it
  have hkey : ∀ k, k ∈ lookupOrder src true → gd (fun k => (weakTrAll (lookupOrder src true) m c).1.lookup k) k =
      applyMap (weakTrAll (lookupOrder src true) m c).1 k := fun k hk =>
    gd_eq_applyMap (Um.weakTrAll_total _ m c k hk)
  refine ⟨e1, congrArg WeakSt.map e2, congrArg WeakSt.cnt e2, hl.winv, fun x => (hc x).trans ?_, fun q => (hf q).trans ?_⟩
  · refine or_congr_right (exists_congr fun r => and_congr_right fun hr => ?_)
    have hk := rule_keys_mem_mapKeys hr
    rw [mapRule_congr (hkey _ (List.mem_append_right _ hk.1)) fun k h => hkey k (List.mem_append_right _ (hk.2 k h))]
  · exact or_congr_right (exists_congr fun p => and_congr_right fun hp => by rw [hkey p (List.mem_append_left _ hp)])

theorem contains_empty (x : Rule) : contains empty x = false := rfl

/-- the two calls of `Union`: maps EQUAL to the model's (visiting order = `lookupOrder`), rules and final states the model's as
sets, the weak invariant, each rule yielded once – for ALL stores and ALL maps -/
theorem union_store_sets (A B : Store) (mL mR : SMap) :
    (unionStoreCoded A B mL mR).2 =
      (unionModelOrd (lookupOrder A true) (lookupOrder B true) (toTA A) (toTA B) mL mR).2 ∧
    (∀ x, x ∈ iterate (unionStoreCoded A B mL mR).1 ↔
      x ∈ (unionModelOrd (lookupOrder A true) (lookupOrder B true) (toTA A) (toTA B) mL mR).1.rules) ∧
    (∀ q, q ∈ (unionStoreCoded A B mL mR).1.final ↔
      q ∈ (unionModelOrd (lookupOrder A true) (lookupOrder B true) (toTA A) (toTA B) mL mR).1.final) ∧
    WInv (unionStoreCoded A B mL mR).1 ∧ (iterate (unionStoreCoded A B mL mR).1).Nodup := by
  obtain ⟨_, hm, hc, a3, a4, a5⟩ := weak_run A empty mL (unionCnt mL mR)
  obtain ⟨_, hm2, _, b3, b4, b5⟩ := weak_run B (reindexInto (weakT .counter) A empty ⟨mL, unionCnt mL mR⟩ true).dst mR
    (reindexInto (weakT .counter) A empty ⟨mL, unionCnt mL mR⟩ true).tr.cnt
  have hw := b3 (a3 winv_empty)
  refine ⟨?_, ?_, ?_, hw, nodup_iterate_w hw⟩
  · simp only [unionStoreCoded, unionModelOrd]
    rw [hm2, hm, hc]
  · intro x
    simp only [unionStoreCoded] at hw ⊢
    rw [← contains_iff_mem_iterate_w hw, b4, a4, contains_empty, hc]
    simp only [unionModelOrd, unionWith, reindex, List.mem_append, List.mem_map, toTA, Bool.false_eq_true, false_or,
      @eq_comm _ x]
  · intro q
    simp only [unionStoreCoded]
    rw [b5, a5, hc]
    simp only [unionModelOrd, unionWith, reindex, List.mem_append, List.mem_map, toTA, empty, List.not_mem_nil, false_or,
      @eq_comm _ q]

end Vata.UnionStoreCoded
