import Vata.Proofs.NfaLoadDumpLang
import Vata.Proofs.UnionModel
/-!
# Proofs about `ReindexStates` / `Union` of word automata as coded (`nfasReindexInto`, `nfaUnionCoded` of
`Vata/NfaLoadDump.lean`)
-/
namespace Vata
namespace NfaLD
open NfaS W

theorem foldAddTrans_spec (g : Nat × Nat × Nat → Nat × Nat × Nat) (l : List (Nat × Nat × Nat)) : ∀ (D : NFAS),
    (l.foldl (fun D e => nfasAddTrans D (g e).1 (g e).2.1 (g e).2.2) D).start = D.start ∧
    (l.foldl (fun D e => nfasAddTrans D (g e).1 (g e).2.1 (g e).2.2) D).final = D.final ∧
    (l.foldl (fun D e => nfasAddTrans D (g e).1 (g e).2.1 (g e).2.2) D).startSyms = D.startSyms ∧
    (l.foldl (fun D e => nfasAddTrans D (g e).1 (g e).2.1 (g e).2.2) D).trans = D.trans ++ l.map g := by
  induction l with
  | nil => intro D; simp
  | cons e l ih =>
    intro D
    obtain ⟨h1, h2, h3, h4⟩ := ih (nfasAddTrans D (g e).1 (g e).2.1 (g e).2.2)
    simp only [List.foldl_cons]
    refine ⟨h1, h2, h3, ?_⟩
    rw [h4]
    show (D.trans ++ [((g e).1, (g e).2.1, (g e).2.2)]) ++ _ = _
    simp

/-- the loop of `SetExistingStateStart (index[s], GetStartSymbols (s))` calls -/
def foldStarts (f : Nat → Nat) (g : Nat → List Nat) (l : List Nat) (D : NFAS) : NFAS :=
  l.foldl (fun D q => nfasSetExistingStart D (f q) (g q)) D

theorem foldStarts_spec (f : Nat → Nat) (g : Nat → List Nat) (l : List Nat) : ∀ (D : NFAS),
    (foldStarts f g l D).final = D.final ∧ (foldStarts f g l D).trans = D.trans ∧
    (∀ q, q ∈ (foldStarts f g l D).start ↔ q ∈ D.start ∨ q ∈ l.map f) := by
  induction l with
  | nil => intro D; simp [foldStarts]
  | cons s l ih =>
    intro D
    obtain ⟨h1, h2, h3⟩ := ih (nfasSetExistingStart D (f s) (g s))
    have e : foldStarts f g (s :: l) D = foldStarts f g l (nfasSetExistingStart D (f s) (g s)) := rfl
    rw [e]
    refine ⟨h1, h2, fun q => ?_⟩
    rw [h3 q]
    show q ∈ insN D.start (f s) ∨ _ ↔ _
    rw [mem_insN, List.map_cons, List.mem_cons, or_assoc]

/-- the loop writes the map by `insert`s -/
theorem foldStarts_startSyms (f : Nat → Nat) (g : Nat → List Nat) (l : List Nat) (D : NFAS) :
    (foldStarts f g l D).startSyms = l.foldl (fun m q => smInsert m (f q) (g q)) D.startSyms := by
  induction l generalizing D with
  | nil => rfl
  | cons s l ih =>
    show (foldStarts f g l (nfasSetExistingStart D (f s) (g s))).startSyms = _
    rw [ih]; rfl

/-- `ReindexStates (dst, index)` -/
theorem nfasReindexInto_spec (dst : NFAS) (f : Nat → Nat) (A : NFAS) :
    (nfasReindexInto dst f A).trans = dst.trans ++ A.trans.map (fun e => (f e.1, e.2.1, f e.2.2)) ∧
    (∀ q, q ∈ (nfasReindexInto dst f A).final ↔ q ∈ dst.final ∨ q ∈ A.final.map f) ∧
    (∀ q, q ∈ (nfasReindexInto dst f A).start ↔ q ∈ dst.start ∨ q ∈ A.start.map f) ∧
    (nfasReindexInto dst f A).startSyms =
      (foldStarts f A.symsOf A.start (A.final.foldl (fun D q => nfasSetFinal D (f q)) dst)).startSyms ∧
    (A.final.foldl (fun D q => nfasSetFinal D (f q)) dst).startSyms = dst.startSyms := by
  obtain ⟨t1, t2, t3, t4⟩ := foldAddTrans_spec (fun e => (f e.1, e.2.1, f e.2.2)) A.trans
    (foldStarts f A.symsOf A.start (A.final.foldl (fun D q => nfasSetFinal D (f q)) dst))
  obtain ⟨s1, s2, s3⟩ := foldStarts_spec f A.symsOf A.start (A.final.foldl (fun D q => nfasSetFinal D (f q)) dst)
  have ef : A.final.foldl (fun D q => nfasSetFinal D (f q)) dst = (A.final.map f).foldl nfasSetFinal dst := by
    rw [List.foldl_map]
  obtain ⟨f1, f2, f3, f4⟩ := nfasSetFinals_spec (A.final.map f) dst
  rw [← ef] at f1 f2 f3 f4
  have eU : nfasReindexInto dst f A =
      A.trans.foldl (fun D e => nfasAddTrans D (f e.1) e.2.1 (f e.2.2))
        (foldStarts f A.symsOf A.start (A.final.foldl (fun D q => nfasSetFinal D (f q)) dst)) := rfl
  refine ⟨?_, ?_, ?_, ?_, f3⟩
  · rw [eU, t4, s2, f2]
  · intro q; rw [eU, t2, s1, f4 q]
  · intro q; rw [eU, t1, s3 q, f1]
  · rw [eU, t3]

/-- `ReindexStates (dst, f)` leaves the map of `UnionDisjointStates (dst, ReindexStates into a fresh automaton)`, as a function -/
theorem nfasReindexInto_syms (dst : NFAS) (f : Nat → Nat) (A : NFAS) (p : Nat) :
    smFind (nfasReindexInto dst f A).startSyms p = smFind (nfasUnionDisjoint dst (nfasMap f A)).startSyms p := by
  obtain ⟨_, _, _, h4, h5⟩ := nfasReindexInto_spec dst f A
  rw [h4, foldStarts_startSyms, smFind_foldl_insert, h5]; rfl

/-- the two calls of `Union` leave the map of the relation-level `nfasUnionWith`, as a function -/
theorem reindexBoth_syms (fL fR : Nat → Nat) (A B : NFAS) (p : Nat) :
    smFind (nfasReindexInto (nfasReindexInto nfasEmpty fL A) fR B).startSyms p = smFind (nfasUnionWith fL fR A B).startSyms p := by
  rw [nfasReindexInto_syms]
  show smFind ((nfasReindexInto nfasEmpty fL A).startSyms ++ nfasMapSyms fR B) p = smFind (nfasMapSyms fL A ++ nfasMapSyms fR B) p
  rw [smFind_append, smFind_append, nfasReindexInto_syms]; rfl

theorem reindexBoth_sets (fL fR : Nat → Nat) (A B : NFAS) :
    (nfasReindexInto (nfasReindexInto nfasEmpty fL A) fR B).trans = (nfaUnionWith fL fR A.toNFA B.toNFA).trans ∧
    (∀ q, q ∈ (nfasReindexInto (nfasReindexInto nfasEmpty fL A) fR B).final ↔ q ∈ (nfaUnionWith fL fR A.toNFA B.toNFA).final) ∧
    (∀ q, q ∈ (nfasReindexInto (nfasReindexInto nfasEmpty fL A) fR B).start ↔ q ∈ (nfaUnionWith fL fR A.toNFA B.toNFA).start) := by
  obtain ⟨a1, a2, a3, _⟩ := nfasReindexInto_spec nfasEmpty fL A
  obtain ⟨b1, b2, b3, _⟩ := nfasReindexInto_spec (nfasReindexInto nfasEmpty fL A) fR B
  refine ⟨?_, ?_, ?_⟩
  · rw [b1, a1]; rfl
  · intro q
    rw [b2 q, a2 q]
    simp [nfasEmpty, nfaUnionWith, nfaUnionDisjoint, nfaMap]
  · intro q
    rw [b3 q, a3 q]
    simp [nfasEmpty, nfaUnionWith, nfaUnionDisjoint, nfaMap]

theorem reindexBoth_lang (fL fR : Nat → Nat) (A B : NFAS) (w : List Nat)
    (hA : NfaInjOn fL (nfaStates A.toNFA)) (hB : NfaInjOn fR (nfaStates B.toNFA))
    (hdis : ∀ p, p ∈ nfaStates A.toNFA → ∀ q, q ∈ nfaStates B.toNFA → fL p ≠ fR q) :
    acceptsW (nfasReindexInto (nfasReindexInto nfasEmpty fL A) fR B).toNFA w = (acceptsW A.toNFA w || acceptsW B.toNFA w) := by
  obtain ⟨h1, h2, h3⟩ := reindexBoth_sets fL fR A B
  rw [← nfaUnionWith_lang fL fR A.toNFA B.toNFA w hA hB hdis]
  exact NfaC.NfaSetEq.lang ⟨h3, h2, fun e => by rw [show (NFAS.toNFA _).trans = _ from h1]⟩ w

theorem reindexBoth_symsOf (fL fR : Nat → Nat) (A B : NFAS)
    (hA : NfaInjOn fL (nfaStates A.toNFA)) (hB : NfaInjOn fR (nfaStates B.toNFA))
    (hdis : ∀ p, p ∈ nfaStates A.toNFA → ∀ q, q ∈ nfaStates B.toNFA → fL p ≠ fR q) :
    (∀ s, s ∈ A.start → (nfasReindexInto (nfasReindexInto nfasEmpty fL A) fR B).symsOf (fL s) = A.symsOf s) ∧
    (∀ s, s ∈ B.start → (nfasReindexInto (nfasReindexInto nfasEmpty fL A) fR B).symsOf (fR s) = B.symsOf s) := by
  have e : ∀ q, (nfasReindexInto (nfasReindexInto nfasEmpty fL A) fR B).symsOf q = (nfasUnionWith fL fR A B).symsOf q :=
    fun q => congrArg (Option.getD · []) (reindexBoth_syms fL fR A B q)
  refine ⟨fun s hs => ?_, fun s hs => ?_⟩
  · rw [e]
    exact nfasUnionWith_symsOf_left fL fR A B hs fun p hp h => hA p (start_mem_nfaStates hp) s (start_mem_nfaStates hs) h
  · rw [e]
    exact nfasUnionWith_symsOf_right fL fR A B hs (fun p hp h => hB p (start_mem_nfaStates hp) s (start_mem_nfaStates hs) h)
      fun p hp => hdis p (start_mem_nfaStates hp) s (start_mem_nfaStates hs)

theorem mem_nfaVisitOrder {A : NFAS} {q : Nat} : q ∈ nfaVisitOrder A ↔ q ∈ nfaStates A.toNFA := by
  unfold nfaVisitOrder nfaStates
  simp only [List.mem_append]
  exact or_congr_left Or.comm

end NfaLD

open NfaLD W

/-- the maps `Union` leaves: injective on the states of their operand, with disjoint images; they extend the caller's maps
and are defined on all states – for any start value `c` of the counter above the numbers in both maps -/
theorem nfaUnionCodedFrom_maps (c : Nat) (oA oB : List Nat) (A B : NFAS) (mL mR : SMap)
    (hoA : ∀ q, q ∈ nfaStates A.toNFA → q ∈ oA) (hoB : ∀ q, q ∈ nfaStates B.toNFA → q ∈ oB)
    (hbL : Um.Below mL c) (hbR : Um.Below mR c) (hL : Um.Inj mL) (hR : Um.Inj mR) (hD : Um.Disj mL mR) :
    NfaInjOn (applyMap (nfaUnionCodedFrom c oA oB A B mL mR).2.1) (nfaStates A.toNFA) ∧
    NfaInjOn (applyMap (nfaUnionCodedFrom c oA oB A B mL mR).2.2) (nfaStates B.toNFA) ∧
    (∀ p, p ∈ nfaStates A.toNFA → ∀ q, q ∈ nfaStates B.toNFA →
      applyMap (nfaUnionCodedFrom c oA oB A B mL mR).2.1 p ≠ applyMap (nfaUnionCodedFrom c oA oB A B mL mR).2.2 q) ∧
    Um.Inj (nfaUnionCodedFrom c oA oB A B mL mR).2.1 ∧ Um.Inj (nfaUnionCodedFrom c oA oB A B mL mR).2.2 ∧
    Um.Disj (nfaUnionCodedFrom c oA oB A B mL mR).2.1 (nfaUnionCodedFrom c oA oB A B mL mR).2.2 ∧
    Um.Ext mL (nfaUnionCodedFrom c oA oB A B mL mR).2.1 ∧ Um.Ext mR (nfaUnionCodedFrom c oA oB A B mL mR).2.2 ∧
    (∀ q, q ∈ nfaStates A.toNFA → ∃ n, (nfaUnionCodedFrom c oA oB A B mL mR).2.1.lookup q = some n) ∧
    (∀ q, q ∈ nfaStates B.toNFA → ∃ n, (nfaUnionCodedFrom c oA oB A B mL mR).2.2.lookup q = some n) := by
  obtain ⟨h1, h2, h3, h4, h5, h6, h7⟩ := Um.passes (oA := oA) (oB := oB) hbL hbR hL hR hD
  have tA : ∀ q, q ∈ nfaStates A.toNFA → ∃ n, (weakTrAll oA mL c).1.lookup q = some n := fun q hq => h6 q (hoA q hq)
  have tB : ∀ q, q ∈ nfaStates B.toNFA → ∃ n, (weakTrAll oB mR (weakTrAll oA mL c).2).1.lookup q = some n :=
    fun q hq => h7 q (hoB q hq)
  refine ⟨?_, ?_, ?_, h1, h2, h3, h4, h5, tA, tB⟩
  · intro p hp q hq e; exact Um.injOn_of h1 tA p q hp hq e
  · intro p hp q hq e; exact Um.injOn_of h2 tB p q hp hq e
  · intro p hp q hq; exact Um.disjOn_of h3 tA tB p q hp hq

/-- **`Union` as coded accepts the union**, for all visiting orders that cover the states and all pre-filled maps that are
injective with disjoint images; and every start state keeps its start symbols -/
theorem nfaUnionCodedOrd_lang (oA oB : List Nat) (A B : NFAS) (mL mR : SMap)
    (hoA : ∀ q, q ∈ nfaStates A.toNFA → q ∈ oA) (hoB : ∀ q, q ∈ nfaStates B.toNFA → q ∈ oB)
    (hL : Um.Inj mL) (hR : Um.Inj mR) (hD : Um.Disj mL mR) :
    (∀ w, acceptsW (nfaUnionCodedOrd oA oB A B mL mR).1.toNFA w = (acceptsW A.toNFA w || acceptsW B.toNFA w)) ∧
    (∀ s, s ∈ A.start → (nfaUnionCodedOrd oA oB A B mL mR).1.symsOf
      (applyMap (nfaUnionCodedOrd oA oB A B mL mR).2.1 s) = A.symsOf s) ∧
    (∀ s, s ∈ B.start → (nfaUnionCodedOrd oA oB A B mL mR).1.symsOf
      (applyMap (nfaUnionCodedOrd oA oB A B mL mR).2.2 s) = B.symsOf s) := by
  obtain ⟨i1, i2, i3, _⟩ := nfaUnionCodedFrom_maps (unionCnt mL mR) oA oB A B mL mR hoA hoB
    (Um.below_unionCnt_left mL mR) (Um.below_unionCnt_right mL mR) hL hR hD
  obtain ⟨s1, s2⟩ := reindexBoth_symsOf _ _ A B i1 i2 i3
  exact ⟨fun w => reindexBoth_lang _ _ A B w i1 i2 i3, s1, s2⟩

end Vata
