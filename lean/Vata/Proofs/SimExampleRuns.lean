import Vata.Proofs.SimModel
/-!
The reference simulations of `SimModel.exA` (a → 0, a → 1, f(0,1) → 2, f(1,0) → 3, g(2) → 4; F = {2, 3}) as values: the
examples of the property files C04, C05 and C19 read their facts about `0 ≈ 1`, `2 ≈ 3` off these two evaluations.
-/
namespace Vata.SimModel

theorem exA_downSimRef :
    downSimRef exA = [(0, 0), (0, 1), (1, 0), (1, 1), (2, 2), (2, 3), (3, 2), (3, 3), (4, 4)] := by decide +kernel

theorem exA_upSimRef :
    upSimRef exA = [(0, 0), (1, 1), (2, 2), (3, 2), (3, 3), (4, 0), (4, 1), (4, 2), (4, 3), (4, 4)] := by decide +kernel

end Vata.SimModel
