import Vata.NfaInclSim
import Vata.Proofs.NfaInclCongrTotal
/-!
# The exploration of the equivalence functor (`nfaInclEquiv`) is exact and total

For operands `A`, `B` with disjoint states and `U = A ⊎ B` the exploration is the loop of
`Vata/Proofs/NfaInclCongr.lean` with the test `equivSkip`.  What that loop needs: a pair that passes the two-closure test
of `MakePost` is in the congruence closure of the rules (`next_ ∪ relation_`) – also for the early exit through `congrMap`
and with the `areEqual` that is `false` on empty sets; and the fuel of the closure loop (number of rules + 1) is never
used up.  So `return false` at `w` ⇒ `A` accepts `w` and `B` does not; `return true` ⇒ the final `relation_` is a
bisimulation up to congruence relating the start macro-states (`CongrCert`); above `fuelBoundCongr A B` the exploration
ends.
-/
namespace Vata
open Vata.W
namespace NfaIncl


theorem areEqualB_mem {l r : List Nat} (hl : Srt l) (h : areEqualB l r = true) : ∀ x, x ∈ l ↔ x ∈ r := by
  simp only [areEqualB, Bool.and_eq_true, beq_iff_eq, subB_iff] at h
  obtain ⟨⟨⟨hlen, _⟩, _⟩, hsub⟩ := h
  exact fun x => ⟨hsub x, subset_of_nodup_length (hl.imp Nat.ne_of_lt) hsub (Nat.le_of_eq hlen.symm) x⟩

theorem areEqualB_ne_nil {l r : List Nat} (h : areEqualB l r = true) : l ≠ [] := by
  simp only [areEqualB, Bool.and_eq_true, Bool.not_eq_true', List.isEmpty_eq_false_iff] at h
  exact h.1.1.2

theorem matchPair_sub {c r : List Nat} (h : matchPair c r = true) : ∀ x, x ∈ r → x ∈ c := by
  simp only [matchPair, Bool.and_eq_true, subB_iff] at h
  exact h.2


/-- the entries of `congrMap` are congruent to the start set and are macro-states -/
def TrOK (R : List CRule) (b : List Nat) (tr : CTrace) : Prop := ∀ p, p ∈ tr → CongrCl R b p.2 ∧ Srt p.2

/-- the manipulator stopped the closure at a set of the class of `b` -/
def Stopped (R : List CRule) (b : List Nat) (man : Nat → List Nat → Bool) : Prop :=
  ∃ i set, CongrCl R b set ∧ man i set = false

/-- what a sweep that started inside the class of `b` leaves -/
def EqSweepOK (R : List CRule) (b : List Nat) (man : Nat → List Nat → Bool) :
    Option (List (CRule × Nat) × List Nat × CTrace × Bool) → Prop
  | some (un, set, tr, _) => (∀ r, r ∈ un → r.1 ∈ R) ∧ CongrCl R b set ∧ Srt set ∧ TrOK R b tr
  | none => Stopped R b man

theorem eqSweep_sound {R : List CRule} {b : List Nat} {man : Nat → List Nat → Bool} :
    ∀ (rs un : List (CRule × Nat)) (set : List Nat) (tr : CTrace) (ap : Bool),
    (∀ r, r ∈ rs → r.1 ∈ R) → (∀ r, r ∈ un → r.1 ∈ R) → CongrCl R b set → Srt set → TrOK R b tr →
    EqSweepOK R b man (eqSweep man rs un set tr ap)
  | [], un, _, _, _, _, hun, hset, hsrt, htr => ⟨fun r hr => hun r (List.mem_reverse.mp hr), hset, hsrt, htr⟩
  | r :: rs, un, set, tr, ap, hrs, hun, hset, hsrt, htr => by
    have hrs' : ∀ r', r' ∈ rs → r'.1 ∈ R := fun r' h => hrs r' (List.mem_cons_of_mem _ h)
    have hr : r.1 ∈ R := hrs r List.mem_cons_self
    unfold eqSweep
    by_cases hm : (matchPair set r.1.1 || matchPair set r.1.2) = true
    · -- the rule fires (in one of the two directions)
      rw [if_pos hm]
      have hset' : CongrCl R b (normS (set ++ r.1.1 ++ r.1.2)) :=
        .trans hset (congrCl_fire hr ((Bool.or_eq_true _ _ ▸ hm).imp matchPair_sub matchPair_sub))
      by_cases hman : man r.2 (normS (set ++ r.1.1 ++ r.1.2)) = true
      · rw [if_pos hman]
        refine eqSweep_sound rs un _ _ true hrs' hun hset' (normS_sorted _) fun p hp => ?_
        rcases List.mem_append.mp hp with hp | hp
        · exact htr p hp
        · rw [List.mem_singleton.mp hp]; exact ⟨hset', normS_sorted _⟩
      · rw [if_neg hman]; exact ⟨r.2, _, hset', Bool.eq_false_iff.mpr hman⟩
    · rw [if_neg hm]
      exact eqSweep_sound rs (r :: un) set tr ap hrs' (List.forall_mem_cons.mpr ⟨hr, hun⟩) hset hsrt htr

/-- what the closure loop leaves when it started inside the class of `b` -/
def ClResOK (R : List CRule) (b : List Nat) (man : Nat → List Nat → Bool) : ClRes → Prop
  | .done set tr => CongrCl R b set ∧ Srt set ∧ TrOK R b tr
  | .stop => Stopped R b man
  | .stuck => True

theorem eqCloseLoop_sound {R : List CRule} {b : List Nat} {man : Nat → List Nat → Bool} :
    ∀ (n : Nat) (rules : List (CRule × Nat)) (set : List Nat) (tr : CTrace),
    (∀ r, r ∈ rules → r.1 ∈ R) → CongrCl R b set → Srt set → TrOK R b tr →
    ClResOK R b man (eqCloseLoop man n rules set tr)
  | 0, _, _, _, _, _, _, _ => trivial
  | n+1, rules, set, tr, hrules, hset, hsrt, htr => by
    have hsw := eqSweep_sound (man := man) rules [] set tr false hrules (fun _ => nofun) hset hsrt htr
    unfold eqCloseLoop
    split
    · next hsw' => rw [hsw'] at hsw; exact hsw
    · next un set' tr' ap hsw' =>
      rw [hsw'] at hsw
      cases ap with
      | true => exact eqCloseLoop_sound n un set' tr' hsw.1 hsw.2.1 hsw.2.2.1 hsw.2.2.2
      | false => exact hsw.2

theorem traceGet_mem {tr : CTrace} {i : Nat} (h : traceGet tr i ≠ []) : ∃ p, p ∈ tr ∧ p.2 = traceGet tr i := by
  unfold traceGet at h ⊢
  split
  · next p hp => exact ⟨p, List.mem_of_find?_eq_some hp, rfl⟩
  · next hp => rw [hp] at h; exact (h rfl).elim

/-- a pair that passes the test of `MakePost` is in the congruence closure of the rules -/
theorem equivSkip_sound {rules : List CRule} {X Y : List Nat} (hX : Srt X) (hY : Srt Y)
    (h : equivSkip rules X Y = some true) : CongrCl rules X Y := by
  have hr : ∀ r, r ∈ rules.zipIdx → r.1 ∈ rules := fun r hr => List.fst_mem_of_mem_zipIdx hr
  have hclX := eqCloseLoop_sound (R := rules) (b := X) (man := fun _ _ => true) (rules.length + 1) _ X [] hr
    (.rfl' X) hX (fun _ => nofun)
  unfold equivSkip at h
  split at h
  · next cs cm hcs =>
    rw [hcs] at hclX
    obtain ⟨hcs1, _, hcm⟩ := hclX
    have hclY := eqCloseLoop_sound (R := rules) (b := Y) (man := fun i set => !areEqualB (traceGet cm i) set)
      (rules.length + 1) _ Y [] hr (.rfl' Y) hY (fun _ => nofun)
    split at h
    · next hstop =>
      -- early exit: the set after rule `i` equals the entry `i` of `congrMap`
      rw [hstop] at hclY
      obtain ⟨i, set', hs', hman⟩ := hclY
      have heq : areEqualB (traceGet cm i) set' = true := by simpa using hman
      obtain ⟨p, hp, hpe⟩ := traceGet_mem (areEqualB_ne_nil heq)
      obtain ⟨hp1, hp2⟩ := hcm p hp
      rw [hpe] at hp1 hp2
      exact .trans hp1 (.trans (.refl (areEqualB_mem hp2 heq)) hs'.symm)
    · next cb _ hcb =>
      rw [hcb] at hclY
      exact .trans hcs1 (.trans (CongrCl.symm (.refl (areEqualB_mem hclY.2.1 (Option.some.inj h)))) hclY.1.symm)
    · cases h
  · cases h


theorem eqSweep_length {man : Nat → List Nat → Bool} :
    ∀ (rs un : List (CRule × Nat)) (set : List Nat) (tr : CTrace) (ap : Bool) un' set' tr' ap',
    eqSweep man rs un set tr ap = some (un', set', tr', ap') →
      un'.length ≤ un.length + rs.length ∧ (ap' = true → ap = true ∨ un'.length < un.length + rs.length)
  | [], un, set, tr, ap, un', set', tr', ap', h => by
    simp only [eqSweep, Option.some.injEq, Prod.mk.injEq] at h
    obtain ⟨rfl, _, _, rfl⟩ := h
    simp only [List.length_reverse, List.length_nil, Nat.add_zero, Nat.le_refl, true_and]
    exact Or.inl
  | r :: rs, un, set, tr, ap, un', set', tr', ap', h => by
    unfold eqSweep at h
    by_cases hm : (matchPair set r.1.1 || matchPair set r.1.2) = true
    · rw [if_pos hm] at h
      by_cases hman : man r.2 (normS (set ++ r.1.1 ++ r.1.2)) = true
      · rw [if_pos hman] at h
        have := eqSweep_length rs un _ _ true un' set' tr' ap' h
        rw [List.length_cons]
        exact ⟨by omega, fun _ => Or.inr (by omega)⟩
      · rw [if_neg hman] at h; cases h
    · rw [if_neg hm] at h
      have := eqSweep_length rs (r :: un) set tr ap un' set' tr' ap' h
      rw [List.length_cons] at this ⊢
      exact ⟨by omega, fun h' => (this.2 h').imp id (by omega)⟩

theorem eqCloseLoop_not_stuck {man : Nat → List Nat → Bool} : ∀ (n : Nat) (rules : List (CRule × Nat))
    (set : List Nat) (tr : CTrace), rules.length < n → eqCloseLoop man n rules set tr ≠ .stuck
  | 0, _, _, _, h => absurd h (Nat.not_lt_zero _)
  | n+1, rules, set, tr, h => by
    unfold eqCloseLoop
    split
    · intro h'; cases h'
    · next un set' tr' ap hsw =>
      have hl := eqSweep_length rules [] set tr false un set' tr' ap hsw
      split
      · next hap =>
        apply eqCloseLoop_not_stuck n
        rcases hl.2 hap with h' | h'
        · cases h'
        · simp only [List.length_nil, Nat.zero_add] at h'; omega
      · intro h'; cases h'

theorem eqSweep_ne_none {man : Nat → List Nat → Bool} (hman : ∀ i s, man i s = true) :
    ∀ (rs un : List (CRule × Nat)) (set : List Nat) (tr : CTrace) (ap : Bool), eqSweep man rs un set tr ap ≠ none
  | [], un, set, tr, ap => by simp [eqSweep]
  | r :: rs, un, set, tr, ap => by
    unfold eqSweep
    split
    · simp only [hman, if_true]
      exact eqSweep_ne_none hman rs un _ _ true
    · exact eqSweep_ne_none hman rs (r :: un) set tr ap

theorem eqCloseLoop_ne_stop {man : Nat → List Nat → Bool} (hman : ∀ i s, man i s = true) :
    ∀ (n : Nat) (rules : List (CRule × Nat)) (set : List Nat) (tr : CTrace), eqCloseLoop man n rules set tr ≠ .stop
  | 0, _, _, _ => by simp [eqCloseLoop]
  | n+1, rules, set, tr => by
    unfold eqCloseLoop
    split
    · next h => exact absurd h (eqSweep_ne_none hman _ _ _ _ _)
    · split
      · exact eqCloseLoop_ne_stop hman n _ _ _
      · intro h; cases h

theorem equivSkip_isSome (rules : List CRule) (X Y : List Nat) : ∃ b, equivSkip rules X Y = some b := by
  have hlen : rules.zipIdx.length < rules.length + 1 := by simp
  unfold equivSkip
  split
  · split
    · exact ⟨_, rfl⟩
    · exact ⟨_, rfl⟩
    · next h => exact absurd h (eqCloseLoop_not_stuck _ _ _ _ hlen)
  · next h =>
    exfalso
    cases hc : eqCloseLoop (fun _ _ => true) (rules.length + 1) rules.zipIdx X [] with
    | stuck => exact eqCloseLoop_not_stuck _ _ _ _ hlen hc
    | done s t => exact h s t hc
    | stop => exact eqCloseLoop_ne_stop (fun _ _ => rfl) _ _ _ _ hc


theorem loopEquiv_eq (U B : NFA) (breadth : Bool) : ∀ (n : Nat) (st : CSt),
    loopEquiv U B breadth n st = loopSkip equivSkip U B breadth n st
  | 0, _ => rfl
  | n+1, st => by
    rw [loopEquiv, loopSkip]
    simp only [loopEquiv_eq U B breadth n]
    rfl

theorem runEquiv_eq (U B : NFA) (breadth : Bool) (fuel : Nat) :
    runEquiv U B breadth fuel = runSkip equivSkip U B breadth fuel := by
  unfold runEquiv runSkip
  simp only [loopEquiv_eq]

theorem runEquiv_inv {A B : NFA} (hdis : ∀ q, q ∈ nfaStates A → q ∈ nfaStates B → False) {breadth : Bool}
    {fuel : Nat} :
    (∀ w, runEquiv (nfaUnionDisjoint A B) B breadth fuel = some (.error w) →
      acceptsW A w = true ∧ acceptsW B w = false) ∧
    (∀ R, runEquiv (nfaUnionDisjoint A B) B breadth fuel = some (.ok R) → CongrCert A B (rulesOf R)) := by
  rw [runEquiv_eq]
  exact runSkip_inv hdis (rulesBisim_nil _) fun _ _ _ hS h => equivSkip_sound hS.1 hS.2 h

theorem runEquiv_terminates {A B : NFA} {breadth : Bool} {fuel : Nat} (h : fuelBoundCongr A B < fuel) :
    ∃ r, runEquiv (nfaUnionDisjoint A B) B breadth fuel = some r := by
  rw [runEquiv_eq]
  exact runSkip_terminates equivSkip_isSome h

end NfaIncl

open NfaIncl


/-- every verdict of the equivalence functor on `(A ⊎ B, B)` is the truth of `L(A) ⊆ L(B)` (state-disjoint operands) -/
theorem nfaInclEquiv_iff {A B : NFA} (hdis : ∀ q, q ∈ nfaStates A → q ∈ nfaStates B → False) {depthFirst : Bool}
    {fuel : Nat} {b : Bool} (h : nfaInclEquiv A B depthFirst fuel = some b) : b = true ↔ InclW A B := by
  unfold nfaInclEquiv nfaInclEquivRun at h
  split at h
  · cases h
  · next R hr =>
    cases h
    exact iff_of_true rfl (congr_cert_sound ((runEquiv_inv hdis).2 R hr))
  · next w hr =>
    cases h
    obtain ⟨h1, h2⟩ := (runEquiv_inv hdis).1 w hr
    exact iff_of_false Bool.false_ne_true (not_inclW_of_witness h1 h2)

theorem nfaInclEquiv_total (A B : NFA) {depthFirst : Bool} {fuel : Nat} (hf : fuelBoundCongr A B < fuel) :
    ∃ b, nfaInclEquiv A B depthFirst fuel = some b := by
  obtain ⟨r, hr⟩ := runEquiv_terminates (breadth := !depthFirst) hf
  unfold nfaInclEquiv nfaInclEquivRun
  rw [hr]
  cases r <;> exact ⟨_, rfl⟩

theorem checkNfaInclEquiv_iff {A B : NFA} {depthFirst : Bool} {fuel : Nat} {b : Bool}
    (h : checkNfaInclEquiv A B depthFirst fuel = some b) : b = true ↔ InclW A B := by
  rw [← sanitize_incl A B]
  exact nfaInclEquiv_iff (sanitize_disjoint A B) h

theorem checkNfaInclEquiv_total (A B : NFA) {depthFirst : Bool} {fuel : Nat}
    (hf : fuelBoundCongr (nfaSanitize A B).1 (nfaSanitize A B).2 < fuel) :
    ∃ b, checkNfaInclEquiv A B depthFirst fuel = some b :=
  nfaInclEquiv_total _ _ hf

end Vata
