import Vata.Proofs.CowHeapFACand
import Vata.Properties.C10
import Vata.Properties.C11_FiniteAut
/-!
# C11 (finite automata) – what the values of the heap model DENOTE

> After an explicit tree or finite automaton is copied, assigned or moved, any later modification of one object is never
> visible through another object, and automata returned by operations stay unchanged when their operands are modified or
> destroyed afterwards.

`Vata/Properties/C11_FiniteAut.lean` proves this for the heap model `Vata/CowHeapFA.lean` of `ExplicitFiniteAutCore`, on the
VALUES `FAVal` read through the handles (the container contents in insertion order), with the value-level functions `vAdd`,
`vReverse`, `vUnionDisj`, `vReindex`, `vUnreach`, `vUseless`, `vCandidate` that mirror the C++ loops.  It left open that these
functions compute the automata operations of C10.  This file serves that item.

## how the C++ is read into the model

Nothing new is modelled: the C++ is read as in `Vata/CowHeapFA.lean` (every quoted line is there).  An object denotes the
automaton `FAVal.toNFAS` = (`startStates_`, `finalStates_`, the triples yielded by
`for (ls : *transitions_) for (s : *ls.second) for (rs : s.second)`, `startStateToSymbols_`) – an `NFAS` of
`Vata/NfaStart.lean`, whose operations `nfas…` are the C10 models with their language theorems.

* `NEquiv A B` ("the same up to list order"): the same SETS of start states, final states, transitions, and the same
  start-symbol map as a function (`smFind`, i.e. `find` on the map: the same keys with the same sets).  The language depends
  on this only (`C11_fa_denote_lang`).
* the value-level functions work on the hash containers (`lookup` = `find`, `upsert` = `uniqueCluster`, `missing` =
  `insert` that never overwrites, the work-list loop `reachLoop`); the `nfas…` operations are list comprehensions.  The
  theorems below say the two agree: e.g. that the stack-driven loop of `RemoveUnreachableStates`, run on its fuel, returns
  exactly the states reachable from the start states (`C11_fa_reach_exact`).
* representation invariant `WFV`: one cluster per state (`KeysNodup`: the container is a map) and no empty tuple among the
  right-hand sides (they are singletons `[r]`).  It holds for every value of every history (`C11_fa_history_wf`) and is needed
  where stated (`C11_fa_denote_unreach_needs_keys`, `C11_fa_denote_reindex_needs_tuples`: values that are not container
  contents).

## what is abstracted

As in `C11_FiniteAut.lean`.  In addition: `ReindexStates(dst, idx)` into an EXISTING object has no name in `NfaStart.lean`;
it is stated as `nfasUnionDisjoint dst (nfasMap idx src)` (componentwise union with the image), and `Union` =
two of these into a fresh object = `nfasUnionWith` (`C11_fa_denote_union`).
-/
namespace Vata.Props
open Vata.W
open Vata.CowHeapFA

/-- automata that are the same up to list order have the same language, the same symbols at every state, the same
reachable states -/
theorem C11_fa_denote_lang {A B : NFAS} (h : NEquiv A B) (w : List Nat) :
    acceptsW A.toNFA w = acceptsW B.toNFA w ∧ (∀ q, A.symsOf q = B.symsOf q) ∧
    (∀ q, NfaReach A.toNFA q ↔ NfaReach B.toNFA q) :=
  ⟨h.lang w, h.symsOf, h.reach⟩

/-! ### the operations, one by one -/

/-- `AddTransition(l, a, r)`: the transition is added – in whatever state the containers are (no hypothesis) -/
theorem C11_fa_denote_add (l a r : Nat) (v : FAVal) (w : List Nat) :
    NEquiv (vAdd l a r v).toNFAS (nfasAddTrans v.toNFAS l a r) ∧
    acceptsW (vAdd l a r v).toNFA w = acceptsW (nfasAddTrans v.toNFAS l a r).toNFA w :=
  ⟨vAdd_denote l a r v, (vAdd_denote l a r v).lang w⟩

example : (vAdd 0 5 1 (vAdd 0 5 2 vNew)).toNFA.trans = [(0, 5, 2), (0, 5, 1)] ∧
    (nfasAddTrans (nfasAddTrans vNew.toNFAS 0 5 2) 0 5 1).trans = [(0, 5, 2), (0, 5, 1)] := by decide +kernel

/-- `Reverse()`: the value-level loop (`AddTransition(r, a, l)` for every transition, the start-symbol map extended by an
empty entry per final state) builds `nfasReverse`; its language is the mirror image (C10) – no hypothesis -/
theorem C11_fa_denote_reverse (v : FAVal) (w : List Nat) :
    NEquiv (vReverse v).toNFAS (nfasReverse v.toNFAS) ∧
    acceptsW (vReverse v).toNFA w = acceptsW v.toNFA w.reverse := by
  refine ⟨vReverse_denote v, ?_⟩
  refine ((vReverse_denote v).lang w).trans ?_
  exact C10_reverse_exact v.toNFA w

/-- the lists differ (the value groups the transitions by cluster), the sets do not -/
example : (vReverse ⟨⟨[2], [0], [(0, [7])]⟩, [(0, [(5, [[1]]), (6, [[2]])]), (1, [(6, [[2]])])]⟩).toNFA.trans =
      [(1, 5, 0), (2, 6, 0), (2, 6, 1)] ∧
    (nfasReverse (FAVal.toNFAS ⟨⟨[2], [0], [(0, [7])]⟩, [(0, [(5, [[1]]), (6, [[2]])]), (1, [(6, [[2]])])]⟩)).trans =
      [(1, 5, 0), (2, 6, 0), (2, 6, 1)] := by decide +kernel

/-- the work-list loop of `RemoveUnreachableStates` (a `std::vector` used as a stack, run on the fuel of `reachStates`)
ends with exactly the states reachable from the start states, for a value whose container has one cluster per state -/
theorem C11_fa_reach_exact (v : FAVal) (hk : Store.KeysNodup v.trans) (q : Nat) :
    q ∈ reachStates v ↔ NfaReach v.toNFA q :=
  mem_reachStates v hk q

/-- `RemoveUnreachableStates()`: for a value with one cluster per state, the result (the reachable final states, the
operand's clusters of the reachable states, the whole start-symbol map) is `nfasRemoveUnreachable`; the language is kept -/
theorem C11_fa_denote_unreach (v : FAVal) (hk : Store.KeysNodup v.trans) (w : List Nat) :
    NEquiv (vUnreach v).toNFAS (nfasRemoveUnreachable v.toNFAS) ∧
    acceptsW (vUnreach v).toNFA w = acceptsW v.toNFA w := by
  refine ⟨vUnreach_denote v hk, ?_⟩
  refine ((vUnreach_denote v hk).lang w).trans ?_
  exact (C10_trimming_preserves v.toNFA w).1

example : Store.KeysNodup (FAVal.mk ⟨[2], [0], []⟩ [(0, [(5, [[1]])]), (1, [(6, [[2], [0]])]), (3, [(5, [[0]])])]).trans := by
  unfold Store.KeysNodup; decide +kernel
example : (vUnreach ⟨⟨[2, 3], [0], []⟩, [(0, [(5, [[1]])]), (1, [(6, [[2], [0]])]), (3, [(5, [[0]])])]⟩).toNFA.trans =
    [(0, 5, 1), (1, 6, 2), (1, 6, 0)] := by decide +kernel

/-- the hypothesis is needed: a "value" with two clusters for state 0 (not the contents of a map) – `find` sees the first
cluster only, the denoted automaton has the transitions of both -/
theorem C11_fa_denote_unreach_needs_keys :
    let v : FAVal := ⟨⟨[], [0], []⟩, [(0, [(5, [[1]])]), (0, [(6, [[2]])])]⟩
    (0, 6, 2) ∈ (nfasRemoveUnreachable v.toNFAS).trans ∧ (0, 6, 2) ∉ (vUnreach v).toNFAS.trans := by decide +kernel

/-- `RemoveUselessStates()` = `RemoveUnreachableStates().Reverse().RemoveUnreachableStates().Reverse()`, as coded, is
`nfasRemoveUseless`; the language is kept (the intermediate results of `Reverse` have one cluster per state by
construction, so only the operand needs the hypothesis) -/
theorem C11_fa_denote_useless (v : FAVal) (hk : Store.KeysNodup v.trans) (w : List Nat) :
    NEquiv (vUseless v).toNFAS (nfasRemoveUseless v.toNFAS) ∧
    acceptsW (vUseless v).toNFA w = acceptsW v.toNFA w := by
  refine ⟨vUseless_denote v hk, ?_⟩
  refine ((vUseless_denote v hk).lang w).trans ?_
  exact (C10_trimming_preserves v.toNFA w).2

example : (vUseless ⟨⟨[2], [0, 3], []⟩, [(0, [(5, [[1]])]), (1, [(6, [[2], [4]])]), (3, [(5, [[0]])]), (7, [(5, [[2]])])]⟩).toNFA.trans =
    [(1, 6, 2), (0, 5, 1), (3, 5, 0)] := by decide +kernel

/-- `UnionDisjointStates(lhs, rhs)`: when no state has a cluster in both operands (and `rhs` has one cluster per state) the
result is `nfasUnionDisjoint`; if moreover the operands have no state in common – the C++ precondition – the language is the
union (C10).  In any case the transitions of the result are among those of `nfasUnionDisjoint`. -/
theorem C11_fa_denote_unionDisj (s t : FAVal) (ht : Store.KeysNodup t.trans) (hd : DisjKeys s t) (w : List Nat) :
    NEquiv (vUnionDisj s t).toNFAS (nfasUnionDisjoint s.toNFAS t.toNFAS) ∧
    ((∀ q, q ∈ nfaStates s.toNFA → q ∈ nfaStates t.toNFA → False) →
      acceptsW (vUnionDisj s t).toNFA w = (acceptsW s.toNFA w || acceptsW t.toNFA w)) ∧
    (∀ s' t' : FAVal, ∀ e, e ∈ (vUnionDisj s' t').toNFAS.trans → e ∈ (nfasUnionDisjoint s'.toNFAS t'.toNFAS).trans) := by
  refine ⟨vUnionDisj_denote s t ht hd, fun hdis => ?_, vUnionDisj_sub⟩
  refine ((vUnionDisj_denote s t ht hd).lang w).trans ?_
  exact (C10_unionDisjoint_exact s.toNFA t.toNFA w).1 hdis

example : Store.KeysNodup (FAVal.mk ⟨[11], [10], [(10, [7])]⟩ [(10, [(5, [[11]])])]).trans ∧
    DisjKeys ⟨⟨[2], [0], [(0, [7])]⟩, [(0, [(5, [[1]])]), (1, [(6, [[2]])])]⟩ ⟨⟨[11], [10], [(10, [7])]⟩, [(10, [(5, [[11]])])]⟩ := by
  unfold Store.KeysNodup DisjKeys; decide +kernel

/-- `DisjKeys` is needed: `insert` does not overwrite – the cluster of state 0 of the right operand is dropped -/
theorem C11_fa_denote_unionDisj_needs_disjoint :
    let s : FAVal := ⟨⟨[], [0], []⟩, [(0, [(5, [[1]])])]⟩
    let t : FAVal := ⟨⟨[], [0], []⟩, [(0, [(6, [[2]])])]⟩
    (0, 6, 2) ∈ (nfasUnionDisjoint s.toNFAS t.toNFAS).trans ∧ (0, 6, 2) ∉ (vUnionDisj s t).toNFAS.trans := by decide +kernel

/-- `src.ReindexStates(dst, idx)`: `dst` becomes the componentwise union of `dst` and the image `nfasMap idx src` (start
symbols: `insert` of `(idx s, GetStartSymbols(s))` per start state, an entry of `dst` wins); if `idx` is injective on the
states of `src` and the image avoids the states of `dst`, the language is the union (C10).  `src` must not hold an empty
tuple. -/
theorem C11_fa_denote_reindex (idx : Nat → Nat) (s d : FAVal) (hs : TuplesOk s.trans) (w : List Nat) :
    NEquiv (vReindex idx s d).toNFAS (nfasUnionDisjoint d.toNFAS (nfasMap idx s.toNFAS)) ∧
    (NfaInjOn idx (nfaStates s.toNFA) →
      (∀ q, q ∈ nfaStates d.toNFA → q ∈ nfaStates (nfaMap idx s.toNFA) → False) →
      acceptsW (vReindex idx s d).toNFA w = (acceptsW d.toNFA w || acceptsW s.toNFA w)) := by
  refine ⟨vReindex_denote idx s d hs, fun hinj hdis => ?_⟩
  refine ((vReindex_denote idx s d hs).lang w).trans ?_
  show acceptsW (nfaUnionDisjoint d.toNFA (nfaMap idx s.toNFA)) w = _
  rw [(C10_unionDisjoint_exact d.toNFA (nfaMap idx s.toNFA) w).1 hdis, (C10_reindex_exact idx s.toNFA w).1 hinj]

example : TuplesOk (FAVal.mk ⟨[11], [10], [(10, [7])]⟩ [(10, [(5, [[11]])])]).trans := by unfold TuplesOk; decide +kernel
example : (vReindex (fun q => q + 1) ⟨⟨[11], [10], [(10, [7])]⟩, [(10, [(5, [[11]])])]⟩ (vAdd 0 5 1 vNew)).toNFAS.trans =
    [(0, 5, 1), (11, 5, 12)] := by decide +kernel

/-- the hypothesis is needed: an empty "tuple" is read as state 0 and reindexed as nothing -/
theorem C11_fa_denote_reindex_needs_tuples :
    let s : FAVal := ⟨⟨[], [], []⟩, [(0, [(5, [[]])])]⟩
    (1, 5, 1) ∈ (nfasUnionDisjoint vNew.toNFAS (nfasMap (fun q => q + 1) s.toNFAS)).trans ∧
    (1, 5, 1) ∉ (vReindex (fun q => q + 1) s vNew).toNFAS.trans := by decide +kernel

/-- `GetCandidateTree()` – PARTIAL.  Proved: the result is (up to list order) `nfasRemoveUseless` of the local `res`, and
`res` is a sub-automaton of the object, so the language of the result is a subset of the language of the object.
Full statement, NOT proved: `NEquiv (vCandidate v).toNFAS (nfasCandidate v.toNFAS)` for `WFV v` (the breadth-first search of
`candSearch` visits the states in the order of `nfaCandLoop`), which would give with `C10_witness` that the result is empty
only if the language of the object is. -/
theorem C11_fa_denote_candidate_partial (v : FAVal) :
    NEquiv (vCandidate v).toNFAS (nfasRemoveUseless (vCandRaw v).toNFAS) ∧
    NfaSub (vCandRaw v).toNFA v.toNFA ∧
    ∀ w, acceptsW (vCandidate v).toNFA w = true → acceptsW v.toNFA w = true :=
  ⟨vCandidate_denote_useless v, vCandRaw_sub v, vCandidate_sub_lang v⟩

example : (vCandidate ⟨⟨[2], [0], [(0, [7])]⟩, [(0, [(5, [[1]])]), (1, [(6, [[2], [0]])]), (3, [(5, [[0]])])]⟩).toNFA.trans =
    [(1, 6, 2), (1, 6, 0), (0, 5, 1)] := by decide +kernel

/-! ### histories -/

/-- in every history every live value is the contents of a map with non-empty right-hand sides: the hypotheses of the
theorems above hold for every object a program can build -/
theorem C11_fa_history_wf (ops : List Op) (h : Nat) (v : FAVal) (hv : absFA (exec ops) h = some v) :
    Store.KeysNodup v.trans ∧ TuplesOk v.trans :=
  ⟨((valid_exec ops).wf h v hv).keys, ((valid_exec ops).wf h v hv).tup⟩

/-- **after any operation list, one more operation**: the automata denoted by the live handles are, handle by handle and up
to list order, what `denStep` – `specStep` with `nfasAddTrans`, `nfasSetFinal`, `nfasSetStart`, `nfasSetExistingStart`,
`nfasUnionDisjoint`, `nfasMap`, `nfasRemoveUnreachable`, `nfasReverse`, `nfasRemoveUseless` in place of the value-level
functions – makes of the automata denoted before; hence every live handle's language is the language of that automaton, and
liveness agrees.  Hypotheses: for `UnionDisjointStates` the operands have no common source state (`OpOk`, part of what the
C++ `assert`s); the operation is not `GetCandidateTree` (`NotCand`, see `C11_fa_denote_candidate_partial`).  Since `ops` is
arbitrary this is the statement for every step of every history. -/
theorem C11_fa_history_languages (ops : List Op) (op : Op) (hok : OpOk (absFA (exec ops)) op) (hnc : NotCand op) :
    EnvEq (den (absFA (exec (ops ++ [op])))) (denStep (den (absFA (exec ops))) op) ∧
    ∀ h w, langOf (den (absFA (exec (ops ++ [op])))) h w = langOf (denStep (den (absFA (exec ops))) op) h w :=
  ⟨fa_history_denote_step ops op hok hnc, fun h w => (fa_history_denote_step ops op hok hnc).lang h w⟩

/-- handles other than the target of an operation keep their automaton, hence their language (every operation, including
`GetCandidateTree`); and `denStep` changes nothing else either -/
theorem C11_fa_language_isolation (ops : List Op) (op : Op) (x : Nat) (hx : x ≠ target op) (w : List Nat) :
    den (absFA (exec (ops ++ [op]))) x = den (absFA (exec ops)) x ∧
    langOf (den (absFA (exec (ops ++ [op])))) x w = langOf (den (absFA (exec ops))) x w ∧
    ∀ a : Nat → Option NFAS, denStep a op x = a x := by
  have e : absFA (exec (ops ++ [op])) x = absFA (exec ops) x := by
    have := C11_fa_result_keeps_value ops [op] x (fun o ho => by
      rw [List.mem_singleton] at ho; rw [ho]; exact hx)
    exact this
  refine ⟨?_, ?_, fun a => denStep_other a op x hx⟩
  · simp only [den, e]
  · simp only [langOf, den, e]

/-- the language read through handle 7 after `.reverse 1 7` at the end of the history `faOps.take 17` is the mirror image of
the language of object 1, and object 1 keeps its language -/
example : langOf (den (absFA (exec (faOps.take 17 ++ [.reverse 1 7])))) 7 [6, 5] = some true ∧
    langOf (den (absFA (exec (faOps.take 17)))) 1 [5, 6] = some true ∧
    langOf (den (absFA (exec (faOps.take 17 ++ [.reverse 1 7])))) 1 [5, 6] = some true := by decide +kernel
example : OpOk (absFA (exec (faOps.take 17))) (.reverse 1 7) ∧ NotCand (.reverse 1 7) := ⟨trivial, trivial⟩
/-- the precondition of `UnionDisjointStates` at its place in `faOps` -/
example : OpOk (absFA (exec (faOps.take 10))) (.unionDisj 1 2 3) := by
  intro s t hs ht
  have e1 : absFA (exec (faOps.take 10)) 1 =
      some ⟨⟨[2], [0], [(0, [7])]⟩, [(0, [(5, [[1]])]), (1, [(6, [[2]])]), (3, [(5, [[0]])])]⟩ := by decide +kernel
  have e2 : absFA (exec (faOps.take 10)) 2 = some ⟨⟨[11], [10], [(10, [7])]⟩, [(10, [(5, [[11]])])]⟩ := by decide +kernel
  rw [e1] at hs; rw [e2] at ht
  cases hs; cases ht
  unfold DisjKeys; decide +kernel

/-!
## still not proved

* `GetCandidateTree`: `NEquiv (vCandidate v).toNFAS (nfasCandidate v.toNFAS)` (and the same for the internal step
  `vCandRaw` / `nfasCandidateRaw`).  Proved is only `C11_fa_denote_candidate_partial` (result = `nfasRemoveUseless` of the
  local `res`; sub-automaton; sub-language).  Missing: the lock-step simulation of `candStart` / `candLoop` / `candInner`
  (queue, `reachableStates`, early `return`) with `nfaCandLoop` (which also needs that the fuel `|states| + 1` of
  `nfaCandidateRaw` suffices when the language is empty), and therefore "the witness is non-empty iff the language is".
  Consequently `C11_fa_history_languages` excludes the operations `candRaw` / `candidate` (`NotCand`).
* The composed statement is given per step after an ARBITRARY history (`C11_fa_history_languages`), not as one equation
  between `exec ops` and `ops.foldl denStep`: that form would need every `nfas…` operation to respect `NEquiv`, which
  `nfasMap` with a non-injective `idx` and `nfasCandidate` (both depend on the ORDER of the lists) do not; proved congruences:
  `nfasReverse_congr`, `nfasRemoveUnreachable_congr`, `nfasRemoveUseless_congr` (`Vata/Proofs/CowHeapFADenote2.lean`).
* `Union(lhs, rhs)` = `unionOps` is covered step by step (`new`, `reindex`, `reindex`: the result denotes
  `nfasUnionDisjoint (nfasUnionDisjoint nfasEmpty (nfasMap fA a)) (nfasMap fB b)`); that this is `nfasUnionWith fA fB a b`
  up to `NEquiv` is not stated as a theorem.
* `OpOk` asks of `UnionDisjointStates` only that no state has a cluster in both operands; the C++ `assert`s more (no common
  state at all), which is what the language statement of `C11_fa_denote_unionDisj` uses.
* As before: that `step` is a faithful transcription of the C++ is not a theorem; the link is the driver comparison of
  `CowHeapFA.run` with the real class.
-/
end Vata.Props
