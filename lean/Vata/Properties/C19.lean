import Vata.Proofs.Rename
import Vata.Proofs.TrimModel
import Vata.Proofs.SimModel
import Vata.Proofs.IsectModel
import Vata.Proofs.InclUp
import Vata.Proofs.PropAux
import Vata.Proofs.Equivariance
import Vata.Proofs.InclUpBdd
import Vata.Proofs.InclDown
import Vata.Properties.C01
import Vata.Properties.C04_Pipeline
import Vata.Properties.C05_Pipeline
/-!
# C19 – Results are invariant under renaming/reordering and obey the language laws

> Renaming the states of the operands by any bijection, adding their rules in a different order, or registering the
> symbols in a different order never changes an inclusion or emptiness verdict, maps a computed simulation relation to
> its renamed image, and leaves the number of states produced by reduction and trimming unchanged.  Verdicts on
> arbitrary automata obey the laws of language inclusion: A ⊆ A, A ⊆ A ∪ B, A ∩ B ⊆ A, inclusion is transitive, and A
> is equivalent to its reduced, trimmed, re-indexed and dumped-and-reloaded forms; every inclusion algorithm returns the
> same verdict.

## How the statement is read into the model

Each relation the metamorphic check evaluates on the implementation is a theorem for the exact models: a broken law or
a twin disagreement observed on the real code is therefore a failing input by itself (no reference verdict is needed,
which is what makes the check applicable to the large corpus automata).

* **Specification (L0).**  `Incl`, `LangEq`, `LangEmpty` (`Vata/Lang.lean`).  A correct inclusion / emptiness verdict
  *is* the truth value of `Incl A B` / `LangEmpty A` (C01, C03), so "the verdict does not change" is an equivalence
  between these propositions for the twin inputs.
* **Models.**  Renaming the states: `reindex f` with `InjOnStates f A` (a bijection restricted to the states of `A`).
  Adding the rules in a different order: another rule *list* with the same *set* of rules (and of final states).
  Registering the symbols in another order changes the internal symbol numbers by an injective map `g`:
  `translateSymbols g` on the automaton, `Tree.mapSyms g` on trees.  Union: `unionDisjoint` (operands with disjoint
  states, which is what the check feeds) ; intersection: `isectFull` (same language as the model `isectTD` of
  `Intersection`, C02); reduction, trimming, re-indexing: the models of C05, C03, C14.
  The lemmas (`Vata.incl_refl`, …) are in `Vata/Proofs/PropAux.lean`; the equivariance lemmas (`Vata.downSim_equivariant`,
  `Vata.removeUseless_reindex_eq`, `Vata.simClasses_equivariant`, `Vata.incl_symbol_equivariant`, …) in
  `Vata/Proofs/Equivariance.lean`.
  The model of `Reduce` needs a choice of representatives; for the size statements it is the canonical one,
  `reduceRef A = removeUnreachable (reindex (repOf A) A)` where `repOf A q` is the first state of `A.states` that is
  downward-simulation equivalent to `q` (C05).
-/
namespace Vata.Props

/-! ### twins -/

/-- renaming the states of both operands by maps that are injective on their states changes neither the inclusion nor
the emptiness verdict -/
theorem C19_state_renaming_invariance (f g : Nat → Nat) (A B : TA) (hf : InjOnStates f A) (hg : InjOnStates g B) :
    (Incl (reindex f A) (reindex g B) ↔ Incl A B) ∧ (LangEmpty (reindex f A) ↔ LangEmpty A) :=
  ⟨incl_equivariant f g A B hf hg, empty_equivariant f A hf⟩

example : InjOnStates (· + 10) RenameEx.exA ∧ InjOnStates (fun q => 7 * q + 3) RenameEx.exB :=
  ⟨by intro q q' _ _ h; simp only at h; omega, by intro q q' _ _ h; simp only at h; omega⟩

/-- insertion order and repetitions do not matter: automata with the same *sets* of rules and final states have the
same language, hence the same inclusion and emptiness verdicts -/
theorem C19_insertion_order_invariance (A A' B B' : TA)
    (hA : (∀ r, r ∈ A.rules ↔ r ∈ A'.rules) ∧ (∀ q, q ∈ A.final ↔ q ∈ A'.final))
    (hB : (∀ r, r ∈ B.rules ↔ r ∈ B'.rules) ∧ (∀ q, q ∈ B.final ↔ q ∈ B'.final)) :
    LangEq A A' ∧ (Incl A B ↔ Incl A' B') ∧ (LangEmpty A ↔ LangEmpty A') := by
  have ha : LangEq A A' := lang_perm_invariant A A' hA.1 hA.2
  have hb : LangEq B B' := lang_perm_invariant B B' hB.1 hB.2
  refine ⟨ha, ⟨fun h t ht => ?_, fun h t ht => ?_⟩, ⟨fun h t => ?_, fun h t => ?_⟩⟩
  · rw [← hb t]; exact h t (by rw [ha t]; exact ht)
  · rw [hb t]; exact h t (by rw [← ha t]; exact ht)
  · rw [← ha t]; exact h t
  · rw [ha t]; exact h t

example : let A : TA := RenameEx.exA; let A' : TA := ⟨A.rules.reverse ++ A.rules, A.final⟩
    (∀ r, r ∈ A.rules ↔ r ∈ A'.rules) ∧ (∀ q, q ∈ A.final ↔ q ∈ A'.final) :=
  ⟨fun r => by simp, fun _ => Iff.rfl⟩

/-- renumbering the symbols by an injective map: an inclusion that holds between the renumbered automata holds between
the original ones (one direction only; the full invariance is `C19_symbol_renumbering_invariance` below) -/
theorem C19_symbol_renumbering_partial (g : Nat → Nat) (hg : ∀ a b, g a = g b → a = b) (A B : TA)
    (h : Incl (translateSymbols g A) (translateSymbols g B)) : Incl A B := by
  intro t ht
  rw [← translateSymbols_lang g hg B t]
  exact h _ (by rw [translateSymbols_lang g hg A t]; exact ht)

example : ∀ a b : Nat, (· + 42) a = (· + 42) b → a = b := by intro a b h; simp only at h; omega

/-- registering the symbols in a different order (renumbering them by an injective map `g`) changes neither the
inclusion nor the emptiness nor an equivalence verdict.  The direction "verdict on the originals ⇒ verdict on the
renumbered automata" rests on the fact that the renumbered automaton reaches no state on (hence rejects) every tree
that is not a renumbered tree – in particular every tree containing a symbol outside the image of `g` – which is the
last component -/
theorem C19_symbol_renumbering_invariance (g : Nat → Nat) (hg : ∀ a b, g a = g b → a = b) (A B : TA) :
    (Incl (translateSymbols g A) (translateSymbols g B) ↔ Incl A B) ∧
    (LangEmpty (translateSymbols g A) ↔ LangEmpty A) ∧
    (LangEq (translateSymbols g A) (translateSymbols g B) ↔ LangEq A B) ∧
    (∀ t', (¬ ∃ t, Tree.mapSyms g t = t') → reach (translateSymbols g A) t' = []) :=
  ⟨incl_symbol_equivariant g hg A B, empty_symbol_equivariant g hg A, langEq_symbol_equivariant g hg A B,
   translateSymbols_reach_outside g A⟩

example : ∀ a b : Nat, EqvEx.exG a = EqvEx.exG b → a = b := EqvEx.exG_inj
-- both verdicts occur: `exC ⊆ exB`, `exB ⊄ exA`; a tree with the symbol `6` (not of the form `2 s + 5`) is rejected
example : Incl (translateSymbols EqvEx.exG EqvEx.exC) (translateSymbols EqvEx.exG RenameEx.exB) ∧
    ¬ Incl (translateSymbols EqvEx.exG RenameEx.exB) (translateSymbols EqvEx.exG RenameEx.exA) :=
  ⟨(C19_symbol_renumbering_invariance _ EqvEx.exG_inj _ _).1.mpr (reindex_Incl (fun _ => 1) EqvEx.exC),
   fun h => absurd ((C19_symbol_renumbering_invariance _ EqvEx.exG_inj _ _).1.mp h RenameEx.exT' (by decide)) (by decide)⟩
example : reach (translateSymbols EqvEx.exG RenameEx.exB) (.node 9 [.node 6 []]) = [] ∧
    reach (translateSymbols EqvEx.exG RenameEx.exB) (.node 9 [.node 5 []]) = [1] := by decide

/-- renaming the states maps the computed simulation relations to their renamed images: the downward / upward
simulation of the renamed automaton consists exactly of the pairs `(f q, f r)` with `(q, r)` in the simulation of `A` -/
theorem C19_simulation_renaming (f : Nat → Nat) (A : TA) (hf : InjOnStates f A) :
    (∀ x y, (x, y) ∈ downSimRef (reindex f A) ↔ ∃ q r, (q, r) ∈ downSimRef A ∧ x = f q ∧ y = f r) ∧
    (∀ x y, (x, y) ∈ upSimRef (reindex f A) ↔ ∃ q r, (q, r) ∈ upSimRef A ∧ x = f q ∧ y = f r) :=
  ⟨downSimRef_reindex_image f A hf, upSimRef_reindex_image f A hf⟩

example : InjOnStates EqvEx.exF SimModel.exA := EqvEx.exF_inj_simA
example : (reindex EqvEx.exF SimModel.exA).states = [40, 33, 26, 19, 12] ∧
    (26, 19) ∈ downSimRef (reindex EqvEx.exF SimModel.exA) ∧ (2, 3) ∈ downSimRef SimModel.exA ∧
    (12, 26) ∉ downSimRef (reindex EqvEx.exF SimModel.exA) ∧ (4, 2) ∉ downSimRef SimModel.exA := by
  rw [SimModel.exA_downSimRef]
  decide +kernel

/-- renaming the states leaves the result of trimming unchanged up to the renaming – trimming commutes with the
renaming, as an equality of automata – hence the numbers of states and of rules produced by trimming are unchanged -/
theorem C19_trimming_renaming (f : Nat → Nat) (A : TA) (hf : InjOnStates f A) :
    removeUseless (reindex f A) = reindex f (removeUseless A) ∧
    removeUnreachable (reindex f A) = reindex f (removeUnreachable A) ∧
    (removeUseless (reindex f A)).states.length = (removeUseless A).states.length ∧
    (removeUseless (reindex f A)).rules.length = (removeUseless A).rules.length ∧
    (removeUnreachable (reindex f A)).states.length = (removeUnreachable A).states.length :=
  ⟨removeUseless_reindex_eq f A hf, removeUnreachable_reindex_eq f A hf, trim_states_length_equivariant f A hf,
   trim_rules_length_equivariant f A hf, unreach_states_length_equivariant f A hf⟩

example : InjOnStates EqvEx.exF TrimEx.exA := EqvEx.exF_inj_trimA
example : (removeUseless (reindex EqvEx.exF TrimEx.exA)).states.length = 2 ∧ TrimEx.exA.states.length = 6 := by decide +kernel
-- injectivity is needed: merging the unproductive state `2` with the productive state `0` changes the count
example : let c : Nat → Nat := fun q => if q = 2 then 0 else q
    (removeUseless (reindex c TrimEx.exA)).states.length = 3 ∧ (removeUseless TrimEx.exA).states.length = 2 := by decide +kernel

/-- renaming the states leaves the result of reduction (canonical representatives) unchanged up to the renaming, hence
the numbers of states and rules it produces, and the number of simulation-equivalence classes, are unchanged -/
theorem C19_reduction_renaming (f : Nat → Nat) (A : TA) (hf : InjOnStates f A) :
    reduceRef (reindex f A) = reindex f (reduceRef A) ∧
    (reduceRef (reindex f A)).states.length = (reduceRef A).states.length ∧
    (reduceRef (reindex f A)).rules.length = (reduceRef A).rules.length ∧
    simClasses (reindex f A) = simClasses A :=
  ⟨reduceRef_reindex_eq f A hf, reduceRef_states_length_equivariant f A hf,
   reduceRef_rules_length_equivariant f A hf, simClasses_equivariant f A hf⟩

example : (reduceRef SimModel.exA).states = [0, 2] ∧ (reduceRef (reindex EqvEx.exF SimModel.exA)).states = [40, 26] ∧
    simClasses SimModel.exA = 3 := by decide +kernel

/-- the same for *every* choice of representatives: whatever quotient projections `h` (for `A`) and `h'` (for the
renamed automaton) are used – `IsQuotProj`: every state is sent to a simulation-equivalent state, equivalent states to
the same state – the model of `Reduce` produces the same numbers of states and rules on both sides -/
theorem C19_reduction_renaming_any_choice (f : Nat → Nat) (A : TA) (hf : InjOnStates f A) (h h' : Nat → Nat)
    (hh : IsQuotProj A h) (hh' : IsQuotProj (reindex f A) h') :
    (removeUnreachable (reindex h' (reindex f A))).states.length = (removeUnreachable (reindex h A)).states.length ∧
    (removeUnreachable (reindex h' (reindex f A))).rules.length = (removeUnreachable (reindex h A)).rules.length :=
  reduce_size_equivariant f A hf h h' hh hh'

example : IsQuotProj SimModel.exA (repOf SimModel.exA) ∧
    IsQuotProj (reindex EqvEx.exF SimModel.exA) (repOf (reindex EqvEx.exF SimModel.exA)) :=
  ⟨repOf_isQuotProj _, repOf_isQuotProj _⟩

/-! ### the laws of language inclusion -/

/-- `A ⊆ A`, and inclusion is transitive -/
theorem C19_inclusion_preorder (A B C : TA) : Incl A A ∧ (Incl A B → Incl B C → Incl A C) :=
  ⟨incl_refl A, incl_trans⟩

-- inclusion is a genuine preorder, not an equivalence: `{a} ⊆ {a,b}` holds, the converse does not
example : Incl InclUpEx.exA InclUpEx.exAB ∧ ¬ Incl InclUpEx.exAB InclUpEx.exA :=
  ⟨inclUp_true (fuel := 10) (c := .closed [(1, [3])]) rfl, inclUp_false (fuel := 10) (c := .witness (.node 1 [])) rfl⟩

/-- `A ⊆ A ∪ B`, `B ⊆ A ∪ B`, the union is the least upper bound, and `A ∪ B ⊆ B` exactly when `A ⊆ B`; the union of
the model needs operands with disjoint states (the check renames them apart first) -/
theorem C19_union_laws (A B C : TA) (hdis : ∀ q, q ∈ A.states → q ∉ B.states) :
    Incl A (unionDisjoint A B) ∧ Incl B (unionDisjoint A B) ∧
    (Incl A C → Incl B C → Incl (unionDisjoint A B) C) ∧ (Incl (unionDisjoint A B) B ↔ Incl A B) :=
  ⟨incl_union_left A B hdis, incl_union_right A B hdis, union_least A B C hdis, union_incl_iff A B hdis⟩

example : ∀ q, q ∈ (reindex (· + 10) RenameEx.exA).states → q ∉ RenameEx.exB.states := by decide

/-- `A ∩ B ⊆ A`, `A ∩ B ⊆ B`, the intersection is the greatest lower bound, and `A ⊆ A ∩ B` exactly when `A ⊆ B` -/
theorem C19_intersection_laws (A B C : TA) :
    Incl (isectFull A B) A ∧ Incl (isectFull A B) B ∧
    (Incl C A → Incl C B → Incl C (isectFull A B)) ∧ (Incl A (isectFull A B) ↔ Incl A B) :=
  ⟨isect_incl_left A B, isect_incl_right A B, isect_greatest A B C, incl_isect_iff A B⟩

example : accepts (isectFull IsectEx.exA IsectEx.exB) IsectEx.exT = true ∧ accepts IsectEx.exA IsectEx.exT' = true ∧
    accepts (isectFull IsectEx.exA IsectEx.exB) IsectEx.exT' = false := by decide +kernel

/-- `A` is equivalent to its trimmed forms, to its re-indexed form (injective map) and to its reduced form (collapse
map `h` to representatives of downward-simulation equivalence, then removal of unreachable states: the model of
`Reduce`, C05) -/
theorem C19_equivalent_forms (A : TA) (f h : Nat → Nat) (hf : InjOnStates f A)
    (hh : ∀ q, q ∈ A.states → (q, h q) ∈ downSimRef A ∧ (h q, q) ∈ downSimRef A) :
    LangEq (removeUseless A) A ∧ LangEq (removeUnreachable A) A ∧ LangEq (reindex f A) A ∧
    LangEq (removeUnreachable (reindex h A)) A :=
  ⟨equiv_trim A, equiv_unreach A, equiv_reindex f A hf, fun t => reduce_trim_lang removeUnreachable_lang A h hh t⟩

example : InjOnStates (· + 10) SimModel.exA ∧
    ∀ q, q ∈ SimModel.exA.states → (q, SimModel.exH q) ∈ downSimRef SimModel.exA ∧
      (SimModel.exH q, q) ∈ downSimRef SimModel.exA :=
  ⟨by intro q q' _ _ h; simp only at h; omega, by rw [SimModel.exA_downSimRef]; decide⟩

/-- equivalent automata are interchangeable in every inclusion question (what licenses checking the laws on the
reduced / trimmed / re-indexed forms) -/
theorem C19_equivalent_operands (A A' B B' : TA) (hA : LangEq A A') (hB : LangEq B B') : Incl A B ↔ Incl A' B' :=
  ⟨fun h => incl_trans (langEq_incl hA).2 (incl_trans h (langEq_incl hB).1),
   fun h => incl_trans (langEq_incl hA).1 (incl_trans h (langEq_incl hB).2)⟩

example : LangEq (removeUseless TrimEx.exA) TrimEx.exA := equiv_trim _

/-- re-indexing keeps the number of rules (any map) and the number of states (injective map) -/
theorem C19_renaming_keeps_sizes (f : Nat → Nat) (A : TA) :
    (reindex f A).rules.length = A.rules.length ∧ (InjOnStates f A → (reindex f A).states.length = A.states.length) :=
  ⟨reindex_rules_length f A, reindex_states_length f A⟩

example : (reindex (· + 10) RenameEx.exA).states = [11, 12] ∧ RenameEx.exA.states = [1, 2] := by decide

/-! ### "every inclusion algorithm returns the same verdict" – also across twins -/

/-- any verdicts of the models of the inclusion algorithms – explicit upward, downward non-recursive, downward recursive,
downward recursive / non-recursive with a relation `R`, BDD bottom-up upward – agree, even when each is run on a
differently renamed twin of the pair (`f₁ … g₃` injective on the states of the operand they rename): the verdict of one
algorithm on one twin is the verdict of every other algorithm on every other twin.  The `Sim` models run on the
original pair (they validate `R`, which is a relation on the original states) -/
theorem C19_inclusion_algorithms_agree (A B : TA) (R : Rel) (f₁ g₁ f₂ g₂ f₃ g₃ : Nat → Nat)
    (hf₁ : InjOnStates f₁ A) (hg₁ : InjOnStates g₁ B) (hf₂ : InjOnStates f₂ A) (hg₂ : InjOnStates g₂ B)
    (hf₃ : InjOnStates f₃ A) (hg₃ : InjOnStates g₃ B)
    (n₀ n₁ n₂ n₃ n₄ n₅ n₆ : Nat) (b₀ b₁ b₂ b₃ b₄ b₅ b₆ : Bool) (c₀ c₁ c₂ c₃ c₄ c₅ c₆ : InclUp.Cert)
    (h₀ : checkInclUp A B n₀ = some (b₀, c₀))
    (h₁ : checkInclDownNonrec (reindex f₁ A) (reindex g₁ B) n₁ = some (b₁, c₁))
    (h₂ : checkInclDownRec (reindex f₂ A) (reindex g₂ B) n₂ = some (b₂, c₂))
    (h₃ : checkInclUpBdd (reindex f₃ A) (reindex g₃ B) n₃ = some (b₃, c₃))
    (h₄ : inclDownSim A B R n₄ = some (b₄, c₄))
    (h₅ : inclDownNonrecSim A B R n₅ = some (b₅, c₅))
    (h₆ : checkInclUp (reindex f₁ A) (reindex g₁ B) n₆ = some (b₆, c₆)) :
    b₁ = b₀ ∧ b₂ = b₀ ∧ b₃ = b₀ ∧ b₄ = b₀ ∧ b₅ = b₀ ∧ b₆ = b₀ := by
  have e₀ := InclUp.checkInclUp_iff h₀
  have e₁ := (checkInclDownNonrec_iff h₁).trans (incl_equivariant f₁ g₁ A B hf₁ hg₁)
  have e₂ := (checkInclDownRec_iff h₂).trans (incl_equivariant f₂ g₂ A B hf₂ hg₂)
  have e₃ := (checkInclUpBdd_iff h₃).trans (incl_equivariant f₃ g₃ A B hf₃ hg₃)
  have e₄ := inclDownSim_iff h₄
  have e₅ := inclDownNonrecSim_iff h₅
  have e₆ := (InclUp.checkInclUp_iff h₆).trans (incl_equivariant f₁ g₁ A B hf₁ hg₁)
  exact ⟨Verdict.eq_of_iff e₁ e₀, Verdict.eq_of_iff e₂ e₀, Verdict.eq_of_iff e₃ e₀, Verdict.eq_of_iff e₄ e₀,
    Verdict.eq_of_iff e₅ e₀, Verdict.eq_of_iff e₆ e₀⟩

-- twins of the pair `exG ⊄ exH` (the `g(a,b)` shape): every model answers `false` on its twin
example : (checkInclUp InclDownEx.exG InclDownEx.exH 20).map (·.1) = some false ∧
    (checkInclDownNonrec (reindex (· + 10) InclDownEx.exG) (reindex (fun q => 7 * q + 3) InclDownEx.exH) 10).map (·.1) = some false ∧
    (checkInclDownRec (reindex (fun q => 2 * q) InclDownEx.exG) (reindex (· + 1) InclDownEx.exH) 10).map (·.1) = some false ∧
    (checkInclUpBdd (reindex (· + 5) InclDownEx.exG) (reindex (· + 5) InclDownEx.exH) 20).map (·.1) = some false ∧
    (inclDownSim InclDownEx.exG InclDownEx.exH [] 10).map (·.1) = some false := by
  decide +kernel
example : InjOnStates (· + 10) InclDownEx.exG ∧ InjOnStates (fun q => 7 * q + 3) InclDownEx.exH :=
  ⟨by intro q q' _ _ h; simp only at h; omega, by intro q q' _ _ h; simp only at h; omega⟩

/-! ### the same two clauses for ALL eight selections and for `Reduce` as coded -/

/-- "every inclusion algorithm returns the same verdict", over all eight explicit selections (`C01Sel`,
`Vata/Properties/C01.lean` – the upward selection with simulation included) and across twins: the verdict of the model of any
selection on any renamed twin of the pair (`f`, `g` injective on the states of the operand they rename) is the verdict of
the model of any other selection on the original pair – whatever the fuels -/
theorem C19_every_selection_agrees_across_twins (s s' : C01Sel) (A B : TA) (f g : Nat → Nat) (hf : InjOnStates f A)
    (hg : InjOnStates g B) (n n' : Nat) (b b' : Bool) (c c' : InclUp.Cert)
    (h : s.model (reindex f A) (reindex g B) n = some (b, c)) (h' : s'.model A B n' = some (b', c')) : b = b' := by
  have e := ((C01_every_selection_exact_total s _ _).1 n b c h).trans (incl_equivariant f g A B hf hg)
  have e' := (C01_every_selection_exact_total s' A B).1 n' b' c' h'
  exact Verdict.eq_of_iff e e'

-- the upward selection with simulation on a twin of `exG ⊄ exH` against the non-recursive downward one on the original
example : (C01Sel.upSim.model (reindex (· + 10) InclDownEx.exG) (reindex (fun q => 7 * q + 3) InclDownEx.exH) 40).map (·.1) =
      some false ∧
    (C01Sel.downNonrecSim.model InclDownEx.exG InclDownEx.exH 40).map (·.1) = some false := by decide +kernel

/-- "leaves the number of states produced by reduction … unchanged", for `Reduce` AS CODED (`SimPipe.reduceAsCoded`:
`ComputeSimulation` through the LTS engine model, `RestrictToSymmetric`, `GetQuotientProjection`, `CollapseStates`,
`RemoveUnreachableStates`; C05): on a renamed twin it produces the same number of states and of rules – no hypothesis on
the collapse map is left -/
theorem C19_reduce_as_coded_renaming (f : Nat → Nat) (A : TA) (hf : InjOnStates f A) (hrk : TaLts.Ranked A) (B B' : TA)
    (h : SimPipe.reduceAsCoded A = some B) (h' : SimPipe.reduceAsCoded (reindex f A) = some B') :
    B'.states.length = B.states.length ∧ B'.rules.length = B.rules.length := by
  obtain ⟨e1, e2, _⟩ := C05_pipeline_size A hrk B h
  obtain ⟨e1', e2', _⟩ := C05_pipeline_size (reindex f A) (ranked_reindex f A hrk) B' h'
  obtain ⟨_, r1, r2, _⟩ := C19_reduction_renaming f A hf
  exact ⟨by rw [e1', e1, r1], by rw [e2', e2, r2]⟩

example : InjOnStates (· + 10) TaLtsEx.exA ∧ TaLts.Ranked TaLtsEx.exA ∧
    (SimPipe.reduceAsCoded TaLtsEx.exA).map (·.states.length) = some 2 ∧
    (SimPipe.reduceAsCoded (reindex (· + 10) TaLtsEx.exA)).map (·.states.length) = some 2 :=
  ⟨by intro q q' _ _ h; simp only at h; omega, TaLts.rankedB_iff.mp (by decide), by rw [SimPipe.exA_reduceAsCoded]; decide +kernel,
    by decide +kernel⟩

/-!
## closed since the last refresh of this file

* **"That the map the C++ derives (`GetQuotientProjection`) is a quotient projection is the hypothesis, see C05"** – closed:
  `C05_model_projection`, `C05_pipeline_refines_reduceModel` (the computed map is a quotient projection), and for `Reduce` as
  coded the size statement without any hypothesis on the map: `C19_reduce_as_coded_renaming`.
* **"Dumped-and-reloaded form: the round trip is proved on the level of descriptions (C13), not as a `LangEq` between tree
  automata"** – closed for the explicit tree encoding in `Vata/Properties/C19_LoadDump.lean`: `C19_dump_reload_equivalent`,
  `C19_dump_reload_text_equivalent`, `C19_load_dump_reload_equivalent`; and "registering the symbols in a different order" is
  no longer an assumed injective map but derived from the loader (`C19_load_order_invariance`, `C19_load_order_emptiness`).
* **"the selection *upward with simulation* has no model"** – it has (`Vata/InclUpSim.lean`, `C01_upward_sim_prepared_exact`,
  `C01_upward_sim_agrees`); all eight selections, across twins: `C19_every_selection_agrees_across_twins`.  The BDD selections:
  `C07_every_selection_exact`; the word-automata algorithms: `C09_every_algorithm_exact_total`.
* The simulation relations under renaming, for `ComputeSimulation` as coded: `C04_pipeline_numbering_independent`; for the
  reference relations: `C19_simulation_renaming`, `C04_numbering_independent`.
* Totality of the engine behind every language law the driver checks: `C19_reference_total`, `C19_reference_bound`,
  `C19_reference_fuel_irrelevant` (`Vata/Properties/RefTotal.lean`).

## not yet proved

* **Dumped-and-reloaded form for the other encodings**, and the `Dumpable` hypothesis for the RESULTS of operations: that the
  state dictionary the command-line tool builds for a union or an intersection names the result's states injectively.  For
  the union it does (`Util_Glue_unionNames_injective`, `Util_Glue_unionDict`); for the intersection it does NOT in general
  (`Util_Glue_productNames_collide`: two product states can get one name, and the dumped automaton then has a larger language
  – a finding; injective when one operand's names are free of `|`, `Util_Glue_productNames_injective`).  So "A is equivalent to
  its dumped-and-reloaded form" can fail for an intersection dumped by the command line.
* "Adding their rules in a different order" is modelled by another rule LIST with the same set of rules; the hash order of the
  containers, which is what really changes, is not an object of the models (every theorem holds for every list order).
* `C19_reduce_as_coded_renaming` needs `Ranked A` (always true for the explicit encoding).
-/
end Vata.Props
