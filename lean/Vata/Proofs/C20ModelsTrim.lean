import Vata.C20Models
import Vata.Proofs.TrimCodedLoop
/-!
# C20: `RemoveUselessStates` (explicit encoding) never fails `reachedBy`'s assertion and never decrements `remaining` at 0

The flag of `C20M.innerStepC` / `mainLoopC` / `finalStC` is never raised, and forgetting it gives `TrimCoded.finalSt decOne`.
Both follow from the loop invariant `TrimCoded.Inv` (`Vata/Proofs/TrimCodedLoop.lean`): `Inv.assert_holds` is the assertion;
a transition that fires is not yet in `reachableTransitions`, which is duplicate-free and holds rule indices only, so
`|reachableTransitions| < |rules| ≤ remaining + |reachableTransitions|` (`Inv.cnt`).
-/
namespace Vata.C20M
open Vata Vata.TrimCoded

theorem decOne_le (r : Rule) : decOne r ≤ 1 := Nat.le_refl 1

/-- when a transition fires inside the invariant, `remaining` is positive -/
theorem remaining_pos_of_fire {A : TA} {σ : St} {s0 j : Nat} {rest : List Nat} (h : Inv A σ s0 (j :: rest)) :
    0 < σ.remaining := by
  have := h.cnt
  have := h.pending_lt
  omega

/-- one checked step inside the invariant: the flag is unchanged -/
theorem innerStepC_eq {A : TA} {σ : St} {s0 j : Nat} {rest : List Nat} (h : Inv A σ s0 (j :: rest)) (b : Bool) :
    innerStepC s0 (σ, b) j = (innerStep decOne s0 σ j, b) := by
  obtain ⟨r, c, _, hc, hs0c⟩ := h.assert_holds
  have hpos := remaining_pos_of_fire h
  unfold innerStepC
  simp only [hc]
  have h2 : (σ.remaining == 0) = false := by
    cases hr : σ.remaining with
    | zero => omega
    | succ n => rfl
  simp [hs0c, h2]

theorem innerFoldC_eq {A : TA} {s0 : Nat} : ∀ (pend : List Nat) (σ : St) (b : Bool), Inv A σ s0 pend →
    pend.foldl (innerStepC s0) (σ, b) = (pend.foldl (innerStep decOne s0) σ, b)
  | [], _, _, _ => rfl
  | j :: rest, σ, b, h => by
    rw [List.foldl_cons, List.foldl_cons, innerStepC_eq h b]
    exact innerFoldC_eq rest _ b (innerStep_inv decOne_le h)

theorem mainLoopC_eq {A : TA} : ∀ (f : Nat) (σ : St) (s0 : Nat) (b : Bool), Inv A σ s0 [] →
    mainLoopC f (σ, b) = (mainLoop decOne f σ, b)
  | 0, σ, _, b, _ => by unfold mainLoopC mainLoop; rfl
  | f+1, σ, s0, b, h => by
    unfold mainLoopC mainLoop
    cases hw : σ.work with
    | nil => simp only
    | cons s w =>
      simp only
      have hp := inv_pop h hw
      have hg : smGet σ.smap s = (σ.smap.lookup s).getD [] := rfl
      cases hl : σ.smap.lookup s with
      | none =>
        simp only
        rw [hg, hl] at hp
        exact mainLoopC_eq f _ s b hp
      | some v =>
        simp only
        rw [hg, hl] at hp
        rw [innerFoldC_eq v _ b hp]
        exact mainLoopC_eq f _ s b (inner_inv decOne_le v _ hp).1

end Vata.C20M
