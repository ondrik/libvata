import Vata.LtsContainer
import Vata.LtsUtil
/-!
# A fresh `SmartSet` taken through `init(q, f q)` for `q = 0 … m-1`

`ExplicitLTS::init()` does this for every state (the keys are the labels) and `buildDelta1` for every label (the keys are the
states).  Every key is new when it is visited, so a positive count is appended behind the earlier keys and a zero count erases
nothing: what comes out is the list `dBuilt f m`.  The container model (`LC.SSet`, `Proofs/LtsContainerInv.lean`) and the call
discipline of the class (`SS.A`, `Proofs/LtsEngineCallsDelta.lean`) both say so; their insertions are one function (`ssPut_eq_aSet`).
-/
namespace Vata.LEC
open Vata.LU

/-- the items the rounds `q = 0 … m-1` leave in a fresh set -/
def dBuilt (f : Nat → Nat) (m : Nat) : List (Nat × Nat) := ((List.range m).filter (fun q => decide (0 < f q))).map (fun q => (q, f q))

theorem dBuilt_key_lt {f : Nat → Nat} {m : Nat} {kc : Nat × Nat} (h : kc ∈ dBuilt f m) : kc.1 < m := by
  unfold dBuilt at h
  obtain ⟨q, hq, rfl⟩ := List.mem_map.1 h
  exact List.mem_range.1 (List.mem_filter.1 hq).1

theorem dBuilt_succ (f : Nat → Nat) (m : Nat) :
    dBuilt f (m + 1) = if 0 < f m then dBuilt f m ++ [(m, f m)] else dBuilt f m := by
  unfold dBuilt
  rw [List.range_succ, List.filter_append, List.map_append]
  by_cases h : 0 < f m <;> simp [h]

theorem find_dBuilt (f : Nat → Nat) (a : Nat) : ∀ m,
    (dBuilt f m).find? (fun e => e.1 == a) = if a < m ∧ 0 < f a then some (a, f a) else none
  | 0 => by simp [dBuilt]
  | m + 1 => by
    have hm : (dBuilt f m).find? (fun e => e.1 == m) = none :=
      List.find?_eq_none.mpr fun kc h => by simpa using Nat.ne_of_lt (dBuilt_key_lt h)
    rw [dBuilt_succ]
    by_cases e : a = m
    · subst e
      by_cases hc : 0 < f a <;> simp [hc, hm, List.find?_append]
    · have hlt : a < m + 1 ↔ a < m := by omega
      have hne : (m == a) = false := by simpa using fun h : m = a => e h.symm
      split <;> simp [List.find?_append, find_dBuilt f a m, hlt, hne]

theorem aSet_fresh : ∀ (l : List (Nat × Nat)) (a n : Nat), (∀ kc, kc ∈ l → kc.1 ≠ a) → SS.aSet l a n = l ++ [(a, n)] := by
  intro l
  induction l with
  | nil =>
    intro _ _ _
    exact rfl
  | cons hd l ih =>
    obtain ⟨b, c⟩ := hd
    intro a n h
    have hb : ¬ (b == a) = true := by simpa using h (b, c) List.mem_cons_self
    simp only [SS.aSet, hb, if_false, Bool.false_eq_true, List.cons_append]
    rw [ih a n (fun kc hkc => h kc (List.mem_cons_of_mem _ hkc))]

theorem aErase_fresh (l : List (Nat × Nat)) (a : Nat) (h : ∀ kc, kc ∈ l → kc.1 ≠ a) : SS.aErase l a = l := by
  unfold SS.aErase
  rw [List.filter_eq_self]
  intro kc hkc
  simpa using h kc hkc

/-- for `buildDelta1` (`f q` = the number of `a`-successors of `q`) the test of `dBuilt` is `hasOut` -/
theorem post_pos_iff (L : L.LTS) (a q : Nat) : decide (0 < (LE.post L a q).length) = LE.hasOut L a q := by
  unfold LE.hasOut LE.post
  induction L.edges with
  | nil => rfl
  | cons e es ih =>
    rw [List.any_cons, List.filter_cons, ← ih]
    by_cases h : (e.1 == q && e.2.1 == a) = true
    · simp [h]
    · simp only [Bool.not_eq_true] at h
      simp only [h, Bool.false_or]; rfl

end Vata.LEC

namespace Vata.LC
open Vata.LU

theorem ssPut_eq_aSet : ∀ (l : List (Nat × Nat)) (k c : Nat), ssPut l k c = SS.aSet l k c
  | [], _, _ => rfl
  | (b, d) :: l, k, c => by
    rw [ssPut, SS.aSet, ssPut_eq_aSet l k c]
    by_cases h : b = k <;> simp [h]

end Vata.LC
