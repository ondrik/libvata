import Vata.Proofs.InclDownTablesClass
import Vata.Proofs.InclDownTablesClassDet
import Vata.Proofs.InclDownTablesClassNullary
import Vata.Properties.C07_TraverseDown
/-!
# C07 – the top-down BDD downward inclusion on tables WITHOUT symbol-determinism; a rule-level criterion for loaded tables

Property served (C07): *"the BDD inclusion algorithms return the verdict of the explicit ones"*; the two items left open by
`Vata/Properties/C07_TraverseDown.lean`: (1) a rule-level criterion for the hypothesis `SymDet` on LOADED tables, (2) the left table
that is NOT symbol-deterministic (two ranked symbols of a state select the same set of children tuples, e.g. two nullary symbols of
one state).

How the C++ is read into the model: as in `C07_TraverseDown.lean` – `expandT` / `bodyT` / `procLeaf` / `runTD` / `inclDownTrav`
(`Vata/InclDownTables.lean`) are `DownwardInclusionFunctor::expand`, `ForeachDownSymbolFromStateAndStateSetDo` AS CODED
(`BddTraverse.travDown`: union of the right-hand MTBDDs, `VoidApply2Functor` with its cache of visited node pairs, one callback per
pair of LEAVES), `operator()(lhs, rhs)` and `CheckDownwardTreeInclusion`; `ofRulesTD` is `AddTransition` for every rule.  Nothing new is
modelled here.

What is proved.

1. `C07_symDet_ofRulesTD_iff`: for `T = ofRulesTD rs`, `∀ p, SymDet 22 (getTD T p)` ⇔ `symDetRulesB rs` (executable): no two rules with
   the same parent and different ranked symbols (`rankOf`: 16 symbol bits, 6 arity bits) have the same SET of children tuples of that
   parent.  With it and the canonical list `rankSyms` of ranked symbols, the run-for-run theorem for loaded tables has rule-level
   hypotheses only (`C07_traverse_downward_loaded_of_rules`).
2. Without `SymDet` the traversal as coded makes one call per pair of leaves where the abstract model `InclDown.expand` on the dump
   makes one call per ranked symbol; a class `{f, h}` of a state is ONE call of the code and TWO calls `procGroup` of the model with
   the same (lhs tuple set, rhs tuple set), possibly with other symbols in between.  Proved:
   * `C07_traverse_down_calls_general` – what the functor receives: every call with a non-empty left leaf is a group of the dump
     (symbol = smallest ranked symbol of the class), every group of the dump is delivered by a call with the same two tuple sets;
   * `C07_repeated_group_same_condition` – the condition a call `procGroup` establishes on `holds` (all choice functions of all lhs
     tuples have a subsumed position) depends on the two tuple SETS only: the repeated call of the model establishes nothing new;
   * `C07_traverse_downward_algorithm_general_partial` – the run on the tables keeps the invariant of the abstract exploration
     (`trues` closed, `nonincluded` refuted by its trees, `childrenCache` subsumed), returns a set that passes the certificate
     check / a separating tree, answers above the same fuel bound, and its VERDICT is the verdict of `InclDown.run` on the dumps
     (any fuels for which both answer; any preorder `o` that is reflexive and sound for the languages).
   * `C07_traverse_downward_algorithm_nullary_classes` – RUN FOR RUN (verdict, caches, antichains, witness trees) when the only
     classes of the left table are classes of NULLARY symbols (`SymDetPos`; rule-level criterion `symDetPosRulesB`,
     `C07_symDetPos_ofRulesTD_iff`) – the case of the automata of defect D9;
3. `C07_td_downward_tables_exact_general`: exactness and totality of the plain verdict `inclDownTrav`, the certificate check never
   refuses, equality with `inclDownRec` of the dumps – all without `SymDet`.

What is abstracted: as in `C07_TraverseDown.lean` (hash-consing = structural equality, containers as lists, ghost witness trees and
ghost symbol `reprSym`, `n`/`ar` parameters).

Hypotheses: `TabOK`, `syms` increasing / bounded / covering the left table (all three hold for loaded tables with `rankSyms`:
`rankSyms_ok`, `tabOK_ofRulesTD`); `KidsProductive` of the left dump (the precondition "no useless states" of the C++; without it a
`false` of the code need not be backed by a tree – see `InclDown`); `LangOrd`, `OrdRefl` for the preorder (hold for `idOrd`).
-/
namespace Vata.Props
open Vata.M Vata.BddAbs Vata.BddAbsTD Vata.BddTraverse Vata.InclDown Vata.InclDownTables
open Vata.InclUp (prodWit)

/-! ## 1. the rule-level criterion -/

/-- The table loaded from the rule list `rs` is symbol-deterministic at every state iff `rs` passes the
executable test `symDetRulesB`: any two rules with the same parent have the same ranked symbol (`rankOf`) or different sets of
children tuples (`tuplesOfRank`: the tuples of the rules of that parent with that ranked symbol).  No hypothesis on symbols or arities -/
theorem C07_symDet_ofRulesTD_iff (rs : List Rule) :
    (∀ p, SymDet 22 (getTD (ofRulesTD rs) p)) ↔ symDetRulesB rs = true := symDet_ofRulesTD_iff rs

/-- the leaf a ranked symbol `c < 2 ^ 22` selects in the MTBDD of `p` of a loaded table holds exactly the children tuples of the
rules of `p` whose ranked symbol is `c` -/
theorem C07_mem_eval_ofRulesTD (rs : List Rule) (p : Nat) {c : Nat} (hc : c < 2 ^ 22) (ks : List Nat) :
    ks ∈ eval (getTD (ofRulesTD rs) p) (bits c) ↔ ∃ r, r ∈ rs ∧ r.kids = ks ∧ r.parent = p ∧ rankOf r = c :=
  mem_eval_ofRulesTD rs p hc ks

/-- a sufficient condition that is easier to read: no children tuple of a state occurs below two ranked symbols (not necessary:
`exNotOnce`) -/
theorem C07_symDet_of_tupleOnce {rs : List Rule} (h : tupleOnceB rs = true) : ∀ p, SymDet 22 (getTD (ofRulesTD rs) p) := by
  intro p f g hf hg hne he
  simp only [tupleOnceB, List.all_eq_true, Bool.or_eq_true, bne_iff_ne, ne_eq, beq_iff_eq] at h
  obtain ⟨ks, hks⟩ := List.exists_mem_of_ne_nil _ hne
  obtain ⟨r₁, m1, e1, p1, k1⟩ := (mem_eval_ofRulesTD rs p hf ks).mp hks
  obtain ⟨r₂, m2, e2, p2, k2⟩ := (mem_eval_ofRulesTD rs p hg ks).mp (by rw [← he]; exact hks)
  rcases h r₁ m1 r₂ m2 with (h' | h') | h'
  · exact absurd (by rw [p1, p2]) h'
  · exact absurd (by rw [e1, e2]) h'
  · rw [← k1, ← k2]; exact h'

/-- **loaded tables, rule-level hypotheses only**: arities `< 64` and `symDetRulesB rsA`; `syms` is the canonical `rankSyms`.  Then the
run on the loaded tables IS the abstract run on their dumps in path order (same verdict, caches, antichains, witness trees) -/
theorem C07_traverse_downward_loaded_of_rules (rsA rsB : List Rule) (hA : ∀ r, r ∈ rsA → r.kids.length < 64)
    (hB : ∀ r, r ∈ rsB → r.kids.length < 64) (hd : symDetRulesB rsA = true) (FA FB : List Nat) (o : Ord) :
    (∀ wit fuel, expandT o (ofRulesTD rsA) (ofRulesTD rsB) wit fuel =
      expand o (pathOrder (rankSyms (rsA ++ rsB)) (ofRulesTD rsA) FA) (pathOrder (rankSyms (rsA ++ rsB)) (ofRulesTD rsB) FB)
        wit fuel) ∧
    (∀ fuel, runTD o (ofRulesTD rsA) FA (ofRulesTD rsB) FB
        (prodWit (pathOrder (rankSyms (rsA ++ rsB)) (ofRulesTD rsA) FA)) fuel =
      run o (pathOrder (rankSyms (rsA ++ rsB)) (ofRulesTD rsA) FA) (pathOrder (rankSyms (rsA ++ rsB)) (ofRulesTD rsB) FB) fuel) :=
  have hk := rankSyms_ok (rs' := rsA) (rs := rsA ++ rsB) (fun _ h => List.mem_append_left _ h)
  (C07_traverse_downward_loaded rsA rsB hA hB FA FB hk.1 hk.2.1 hk.2.2 ((symDet_ofRulesTD_iff rsA).mpr hd) o).2

-- examples both ways (more in `Vata/Proofs/InclDownTablesClassDet.lean`)
example : symDetRulesB BddAbsEx.rsB = true ∧ symDetRulesB BddAbsEx.rsA = false := by decide
example : (∀ p, SymDet 22 (getTD (ofRulesTD BddAbsEx.rsB) p)) ∧ ¬ ∀ p, SymDet 22 (getTD (ofRulesTD BddAbsEx.rsA) p) :=
  ⟨(symDet_ofRulesTD_iff _).mpr (by decide), fun h => by have := (symDet_ofRulesTD_iff _).mp h; revert this; decide⟩
example : symDetRulesB exNotOnce = true ∧ tupleOnceB exNotOnce = false := by decide
-- the hypotheses of `C07_traverse_downward_loaded_of_rules` on the automata of defect D9 (`rsB` left, `rsA` right)
example : (∀ r, r ∈ BddAbsEx.rsB → r.kids.length < 64) ∧ (∀ r, r ∈ BddAbsEx.rsA → r.kids.length < 64) ∧
    symDetRulesB BddAbsEx.rsB = true := ⟨by decide, by decide, by decide⟩
#guard rankSyms (BddAbsEx.rsB ++ BddAbsEx.rsA) == [0, 1, 131074]

/-! ## 2. the general case -/

/-- **what the functor receives without `SymDet`** (`CallsCover`): for `TabOK` tables and a list `syms` that covers the left one, every
call of the traversal as coded with a non-empty left leaf is a group `(c, ar c)` of `p` in the dump – `c` the smallest ranked symbol of
the class, the left leaf `lhsTuples`, the right leaf `rhsTuples` of the dump of the right table – and every group of `p` is
delivered by some call with the same two tuple sets (the cache of `VoidApply2Functor` drops no pair of leaves) -/
theorem C07_traverse_down_calls_general {n : Nat} {ar : Nat → Nat} {syms : List Nat} {TA TB : TableTD} (FA FB : List Nat)
    (hs : syms.Pairwise (· < ·)) (hb : ∀ c, c ∈ syms → c < 2 ^ n)
    (hcov : ∀ p c, c < 2 ^ n → eval (getTD TA p) (bits c) ≠ [] → c ∈ syms)
    (okA : TabOK n ar TA) (okB : TabOK n ar TB) (p : Nat) (P : List Nat) :
    (∀ c, c ∈ travDown TA TB p P → c.2.1 ≠ [] →
      ∃ g, g ∈ lhsGroups (pathOrder syms TA FA) p ∧ g.1 = reprSym c.1 ∧
        c.2.1 = lhsTuples (pathOrder syms TA FA) p g.1 g.2 ∧ c.2.2 = rhsTuples (pathOrder syms TB FB) P g.1 g.2) ∧
    (∀ g, g ∈ lhsGroups (pathOrder syms TA FA) p →
      ∃ c, c ∈ travDown TA TB p P ∧ c.2.1 = lhsTuples (pathOrder syms TA FA) p g.1 g.2 ∧
        c.2.2 = rhsTuples (pathOrder syms TB FB) P g.1 g.2) :=
  callsCover_pathOrder FA FB ⟨hs, hb, hcov, okA, okB⟩ p P

/-- **a repeated call establishes nothing new**: what a call of `procGroup` for `(f, n)` that returns `holds` has established – every
choice function of every lhs tuple has a position subsumed by `T ++ ws` (`GroupOK`) – holds as it stands for every group `(f', n')`
with the same lhs tuple set and the same rhs tuple set -/
theorem C07_repeated_group_same_condition {o : Ord} {A B : Vata.TA} {ws : List Pair} {p : Nat} {P : List Nat} {f n f' n' : Nat}
    {T : List Pair} (hL : lhsTuples A p f' n' = lhsTuples A p f n) (hW : rhsTuples B P f' n' = rhsTuples B P f n)
    (h : GroupOK o A B ws p P f n T) : GroupOK o A B ws p P f' n' T := groupOK_transfer hL hW h

/-- the plain verdict of a run of the abstract model (nothing certified) -/
def plainVerdict (r : Option (Except Tree (List Pair))) : Option Bool := (verdictOf r).map (·.1)

/-
FULL statement asked for (`C07_traverse_downward_algorithm_general`): for arbitrary `TabOK` tables, `expandT` on the tables and
`InclDown.expand` on the dumps return the same verdict AND leave `workset` / `nonincluded` / `childrenCache` equal up to redundancy
(same upward / downward closure).  Proved below: the VERDICT part (for the whole algorithm, any fuels, any sound reflexive preorder)
and that the structures the run on the tables leaves satisfy the same invariant `Inv` as those of the abstract run (every pair of
`trues` closed, every entry of `nonincluded` refuted by its tree, everything `childrenCache` covers subsumed by `trues` and the
work-set).  NOT proved: that the two runs leave the SAME sets up to redundancy.  No counterexample exists among 19 200 pseudo-random
calls on loaded tables with 490 non-symbol-deterministic left operands: there the two runs are EQUAL (verdict, `childrenCache`,
`nonincluded`, `trues` as lists) – see "still not proved".
-/
/-- **The verdict without `SymDet`.**  `TabOK` tables, `syms` increasing, bounded,
covering the left table; `A`, `B` the dumps in path order, the children of the rules of `A` productive; `o` reflexive and sound for
the languages (`idOrd`: `ANTICHAINS_DOWN_REC_NOSIM`).  Then
(1) a finished run on the tables returns a set that passes the certificate check `downCertRB o A B` or a tree of `L(A) \ L(B)`;
(2) whenever the run on the tables (fuel `k`) and the abstract run (fuel `k'`) both answer, the verdicts are equal;
(3) above the bound `|Q_A|·2^|Q_B|` on the fuel both answer, with the same verdict;
(4) the recursive call on the tables satisfies the specification of `InclDown.expand` (`CallSpec`: the invariant `Inv` is kept,
    `holds` only for a subsumed pair, `fails w` only with `w ∈ L(A, p) \ L(B, P)`) -/
theorem C07_traverse_downward_algorithm_general_partial {n : Nat} {ar : Nat → Nat} {syms : List Nat} {TA TB : TableTD}
    (FA FB : List Nat) (hs : syms.Pairwise (· < ·)) (hb : ∀ c, c ∈ syms → c < 2 ^ n)
    (hcov : ∀ p c, c < 2 ^ n → eval (getTD TA p) (bits c) ≠ [] → c ∈ syms)
    (okA : TabOK n ar TA) (okB : TabOK n ar TB) (hK : KidsProductive (pathOrder syms TA FA)) (o : Ord)
    (hO : LangOrd (pathOrder syms TA FA) (pathOrder syms TB FB) (leAP o) (leBP o) (leABP o)) (hr : OrdRefl o) :
    (∀ fuel res, runTD o TA FA TB FB (prodWit (pathOrder syms TA FA)) fuel = some res →
      RunPost (downCertRB o (pathOrder syms TA FA) (pathOrder syms TB FB)) (pathOrder syms TA FA) (pathOrder syms TB FB) res) ∧
    (∀ fuel fuel' b b', inclDownTrav o TA FA TB FB (prodWit (pathOrder syms TA FA)) fuel = some b →
      plainVerdict (run o (pathOrder syms TA FA) (pathOrder syms TB FB) fuel') = some b' → b = b') ∧
    (∀ fuel, fuelBoundD (pathOrder syms TA FA) (pathOrder syms TB FB) < fuel →
      ∃ b, inclDownTrav o TA FA TB FB (prodWit (pathOrder syms TA FA)) fuel = some b ∧
        plainVerdict (run o (pathOrder syms TA FA) (pathOrder syms TB FB) fuel) = some b) ∧
    (∀ wit, WitOK (pathOrder syms TA FA) wit → ∀ fuel ws,
      CallSpec o (pathOrder syms TA FA) (pathOrder syms TB FB) ws (expandT o TA TB wit fuel ws)) := by
  have hcv := callsCover_pathOrder FA FB ⟨hs, hb, hcov, okA, okB⟩
  have habs : ∀ fuel' b', plainVerdict (run o (pathOrder syms TA FA) (pathOrder syms TB FB) fuel') = some b' →
      (b' = true ↔ Incl (pathOrder syms TA FA) (pathOrder syms TB FB)) := by
    intro fuel' b' h
    obtain ⟨⟨b, c⟩, hv, rfl⟩ := Option.map_eq_some_iff.mp h
    rw [← finish_eq_verdictOf (fun _ hres => run_spec hO hr hK hres)] at hv
    exact finish_iff (fun _ hX => downCertRB_incl hO hX) hv
  have hagree : ∀ fuel fuel' b b', inclDownTrav o TA FA TB FB (prodWit (pathOrder syms TA FA)) fuel = some b →
      plainVerdict (run o (pathOrder syms TA FA) (pathOrder syms TB FB) fuel') = some b' → b = b' := by
    intro fuel fuel' b b' h h'
    exact Bool.eq_iff_iff.mpr ((inclDownTrav_iff (A := pathOrder syms TA FA) (B := pathOrder syms TB FB) hcv hO hr hK h).trans
      (habs fuel' b' h').symm)
  refine ⟨fun fuel res h => runTD_spec (A := pathOrder syms TA FA) (B := pathOrder syms TB FB) hcv hO hr hK h, hagree,
    fun fuel hf => ?_, fun wit hW fuel ws => expandT_spec hcv hO hr hW fuel ws⟩
  obtain ⟨b, hb'⟩ := inclDownTrav_total (A := pathOrder syms TA FA) (B := pathOrder syms TB FB) hr hcv hf
  obtain ⟨r, hr'⟩ := run_terminates (A := pathOrder syms TA FA) (B := pathOrder syms TB FB) hr hf
  have hsome : ∃ b', plainVerdict (run o (pathOrder syms TA FA) (pathOrder syms TB FB) fuel) = some b' := by
    unfold plainVerdict
    rw [hr']
    cases r with
    | ok X => exact ⟨true, rfl⟩
    | error w => exact ⟨false, rfl⟩
  obtain ⟨b', hb''⟩ := hsome
  exact ⟨b, hb', by rw [hb'', hagree fuel fuel b b' hb' hb'']⟩

/-! ## 3. exactness and totality without `SymDet` -/

/-- Under the hypotheses of `C07_td_downward_tables_exact` WITHOUT `SymDet`:
(1) the certificate check against the dumps never refuses the run on the tables (the certified verdict is the plain one);
(2) the plain verdict `inclDownTrav` (nothing certified) is exact;
(3) it is returned for every fuel above `|Q_A|·2^|Q_B|`;
(4) it is the verdict of `inclDownRec` on the dumps whenever both answer (any fuels) -/
theorem C07_td_downward_tables_exact_general {n : Nat} {ar : Nat → Nat} {syms : List Nat} {TA TB : TableTD} (FA FB : List Nat)
    (hs : syms.Pairwise (· < ·)) (hb : ∀ c, c ∈ syms → c < 2 ^ n)
    (hcov : ∀ p c, c < 2 ^ n → eval (getTD TA p) (bits c) ≠ [] → c ∈ syms)
    (okA : TabOK n ar TA) (okB : TabOK n ar TB) (hK : KidsProductive (pathOrder syms TA FA)) :
    (∀ fuel, inclDownTablesCert syms TA FA TB FB fuel =
      verdictOf (runTD idOrd TA FA TB FB (prodWit (pathOrder syms TA FA)) fuel)) ∧
    (∀ fuel b, inclDownTrav idOrd TA FA TB FB (prodWit (pathOrder syms TA FA)) fuel = some b →
      (b = true ↔ Incl (pathOrder syms TA FA) (pathOrder syms TB FB))) ∧
    (∀ fuel, fuelBoundD (pathOrder syms TA FA) (pathOrder syms TB FB) < fuel →
      ∃ b, inclDownTrav idOrd TA FA TB FB (prodWit (pathOrder syms TA FA)) fuel = some b) ∧
    (∀ fuel fuel' b bc, inclDownTrav idOrd TA FA TB FB (prodWit (pathOrder syms TA FA)) fuel = some b →
      inclDownRec (pathOrder syms TA FA) (pathOrder syms TB FB) fuel' = some bc → b = bc.1) := by
  have hcv := callsCover_pathOrder FA FB ⟨hs, hb, hcov, okA, okB⟩
  have hex : ∀ fuel b, inclDownTrav idOrd TA FA TB FB (prodWit (pathOrder syms TA FA)) fuel = some b →
      (b = true ↔ Incl (pathOrder syms TA FA) (pathOrder syms TB FB)) := fun fuel b h =>
    inclDownTrav_iff (A := pathOrder syms TA FA) (B := pathOrder syms TB FB) hcv (idOrd_langOrd _ _) ordRefl_id hK h
  refine ⟨fun fuel => finish_runTD_eq (A := pathOrder syms TA FA) (B := pathOrder syms TB FB) hcv hK fuel, hex,
    fun fuel hf => inclDownTrav_total (A := pathOrder syms TA FA) (B := pathOrder syms TB FB) ordRefl_id hcv hf,
    fun fuel fuel' b bc h h' => ?_⟩
  exact Bool.eq_iff_iff.mpr ((hex fuel b h).trans (inclDownRec_iff h').symm)

/-- the same for LOADED tables: rule-level hypotheses only (arities `< 64`; no useless states in the left dump) -/
theorem C07_td_downward_loaded_exact_general (rsA rsB : List Rule) (hA : ∀ r, r ∈ rsA → r.kids.length < 64)
    (hB : ∀ r, r ∈ rsB → r.kids.length < 64) (FA FB : List Nat)
    (hK : KidsProductive (pathOrder (rankSyms (rsA ++ rsB)) (ofRulesTD rsA) FA)) :
    (∀ fuel b, inclDownTrav idOrd (ofRulesTD rsA) FA (ofRulesTD rsB) FB
        (prodWit (pathOrder (rankSyms (rsA ++ rsB)) (ofRulesTD rsA) FA)) fuel = some b →
      (b = true ↔ Incl (pathOrder (rankSyms (rsA ++ rsB)) (ofRulesTD rsA) FA)
        (pathOrder (rankSyms (rsA ++ rsB)) (ofRulesTD rsB) FB))) ∧
    (∀ fuel, fuelBoundD (pathOrder (rankSyms (rsA ++ rsB)) (ofRulesTD rsA) FA)
        (pathOrder (rankSyms (rsA ++ rsB)) (ofRulesTD rsB) FB) < fuel →
      ∃ b, inclDownTrav idOrd (ofRulesTD rsA) FA (ofRulesTD rsB) FB
        (prodWit (pathOrder (rankSyms (rsA ++ rsB)) (ofRulesTD rsA) FA)) fuel = some b) :=
  have hk := rankSyms_ok (rs' := rsA) (rs := rsA ++ rsB) (fun _ h => List.mem_append_left _ h)
  have h := C07_td_downward_tables_exact_general FA FB hk.1 hk.2.1 hk.2.2 (tabOK_ofRulesTD rsA hA) (tabOK_ofRulesTD rsB hB) hK
  ⟨h.2.1, h.2.2.1⟩

/-! ## non-vacuity: the LEFT operand `TDEx.tB` has the class `{0, 1}` at state 3 (not symbol-deterministic) -/

example : ¬ ∀ p, SymDet 2 (getTD TDEx.tB p) := fun h =>
  absurd (h 3 0 1 (by decide) (by decide) (by decide) (by decide)) (by decide)

/-- the hypotheses of the general theorems are satisfiable with a left table that is not symbol-deterministic -/
example : TDEx.syms.Pairwise (· < ·) ∧ (∀ c, c ∈ TDEx.syms → c < 2 ^ 2) ∧
    (∀ p c, c < 2 ^ 2 → eval (getTD TDEx.tB p) (bits c) ≠ [] → c ∈ TDEx.syms) ∧
    TabOK 2 TDEx.ar TDEx.tB ∧ TabOK 2 TDEx.ar TDEx.tA ∧ KidsProductive (pathOrder TDEx.syms TDEx.tB [4]) ∧
    LangOrd (pathOrder TDEx.syms TDEx.tB [4]) (pathOrder TDEx.syms TDEx.tA [2]) (leAP idOrd) (leBP idOrd) (leABP idOrd) ∧
    OrdRefl idOrd :=
  ⟨by decide +kernel, by decide +kernel, fun _ c hc _ => by rcases TDEx.lt4 hc with rfl | rfl | rfl | rfl <;> decide,
    TDEx.okB, TDEx.okA, (InclUp.trimmed_of_allUsefulB (A := pathOrder TDEx.syms TDEx.tB [4]) (by decide +kernel)).1,
    idOrd_langOrd _ _, ordRefl_id⟩

-- the class `{0, 1}` of state 3 is ONE call of the code; the dump has the two groups `(0, 0)`, `(1, 0)` with the same tuple sets
#guard (travDown TDEx.tB TDEx.tB 3 [3]).map (·.2) == [([[]], [[]]), ([], [])]
#guard lhsGroups (pathOrder TDEx.syms TDEx.tB [4]) 3 == [(0, 0), (1, 0)]
#guard (lhsTuples (pathOrder TDEx.syms TDEx.tB [4]) 3 0 0, rhsTuples (pathOrder TDEx.syms TDEx.tB [4]) [3] 0 0) ==
  (lhsTuples (pathOrder TDEx.syms TDEx.tB [4]) 3 1 0, rhsTuples (pathOrder TDEx.syms TDEx.tB [4]) [3] 1 0)
-- both sides of the verdict theorem evaluated: `tB ⊆ tB`, `tB ⊄ tA`
#guard inclDownTrav idOrd TDEx.tB [4] TDEx.tB [4] (prodWit (pathOrder TDEx.syms TDEx.tB [4])) 10 == some true
#guard plainVerdict (run idOrd (pathOrder TDEx.syms TDEx.tB [4]) (pathOrder TDEx.syms TDEx.tB [4]) 10) == some true
#guard inclDownTrav idOrd TDEx.tB [4] TDEx.tA [2] (prodWit (pathOrder TDEx.syms TDEx.tB [4])) 10 == some false
#guard plainVerdict (run idOrd (pathOrder TDEx.syms TDEx.tB [4]) (pathOrder TDEx.syms TDEx.tA [2]) 10) == some false

/-! ## a class with another symbol in between, loaded tables

left: `a → 1`, `f(0) → 1`, `f(1) → 0`, `h(1) → 0` (same leaf `{(1)}` as `f`), `g(2) → 0` (between `f` and `h`), `m(1) → 0`, `f(1) → 2`;
right: `a → 11`, `f(10) → 11`, `f(11) → 10`, `h(11) → 10`, `g(12) → 10`, `f(11) → 12`, `f(13) → 12` – no `m` at state 10: the pair
`(0, {10})` fails, after pairs were concluded `true` under that (false) hypothesis.  The two runs are EQUAL (evaluated). -/
namespace GenEx
def rsL : List Rule := [⟨0, [], 1⟩, ⟨0, [0], 1⟩, ⟨0, [1], 0⟩, ⟨2, [1], 0⟩, ⟨1, [2], 0⟩, ⟨3, [1], 0⟩, ⟨0, [1], 2⟩]
def rsR : List Rule := [⟨0, [], 11⟩, ⟨0, [10], 11⟩, ⟨0, [11], 10⟩, ⟨2, [11], 10⟩, ⟨1, [12], 10⟩, ⟨0, [11], 12⟩, ⟨0, [13], 12⟩]
def sy : List Nat := rankSyms (rsL ++ rsR)
end GenEx
#guard GenEx.sy == [0, 65536, 65537, 65538, 65539]
#guard symDetRulesB GenEx.rsL == false
-- one call for the class `{f, h}` (ranked symbols 65536, 65538), then `g`, then `m` (the pair of empty leaves is visited once)
#guard (travDown (ofRulesTD GenEx.rsL) (ofRulesTD GenEx.rsR) 0 [10]).map (fun c => (reprSym c.1, c.2)) ==
  [(0, [], []), (65536, [[1]], [[11]]), (65537, [[2]], [[12]]), (65539, [[1]], [])]
#guard showRet (expandT idOrd (ofRulesTD GenEx.rsL) (ofRulesTD GenEx.rsR) [] 20 [] [] ⟨[], []⟩ 0 [10]) ==
  showRet (expand idOrd (pathOrder GenEx.sy (ofRulesTD GenEx.rsL) [0]) (pathOrder GenEx.sy (ofRulesTD GenEx.rsR) [10]) [] 20 [] []
    ⟨[], []⟩ 0 [10])
#guard (showRet (expandT idOrd (ofRulesTD GenEx.rsL) (ofRulesTD GenEx.rsR) [] 20 [] [] ⟨[], []⟩ 0 [10])).map (·.1) == some false

/-! ## 4. run for run when the only classes of the left table are classes of NULLARY symbols -/

/-- `SymDetPos n ar a`: two ranked symbols that select the same non-empty leaf
are equal or NULLARY (a state may have several leaf symbols `a → q`, `b → q` – the automata of defect D9 –, but no two symbols of
arity `> 0` of a state share their set of children tuples).  Under the other hypotheses of `C07_traverse_downward_algorithm` the
run on the tables IS the abstract run on the dumps: same verdict, same `childrenCache`, same `nonincluded` (with the witness
trees), same `trues`, for every fuel, work-set, state, preorder – although the code calls the functor ONCE for a class of leaf
symbols and the model once per symbol (`operator()` with `arity == 0` does not touch the state, and after a first `return` the
second call returns as well) -/
theorem C07_traverse_downward_algorithm_nullary_classes {n : Nat} {ar : Nat → Nat} {syms : List Nat} {TA TB : TableTD}
    (FA FB : List Nat) (hs : syms.Pairwise (· < ·)) (hb : ∀ c, c ∈ syms → c < 2 ^ n)
    (hcov : ∀ p c, c < 2 ^ n → eval (getTD TA p) (bits c) ≠ [] → c ∈ syms)
    (okA : TabOK n ar TA) (okB : TabOK n ar TB) (hd : ∀ p, SymDetPos n ar (getTD TA p)) (o : Ord) :
    (∀ wit fuel, expandT o TA TB wit fuel = expand o (pathOrder syms TA FA) (pathOrder syms TB FB) wit fuel) ∧
    (∀ call1 call2 wit post p P cc st, bodyT call1 call2 TA TB wit post p P cc st =
      body call1 call2 (pathOrder syms TA FA) (pathOrder syms TB FB) wit post p P cc st) ∧
    (∀ fuel, runTD o TA FA TB FB (prodWit (pathOrder syms TA FA)) fuel =
      run o (pathOrder syms TA FA) (pathOrder syms TB FB) fuel) :=
  have h := bodyT_eq_nullary FA FB ⟨hs, hb, hcov, okA, okB⟩ hd
  ⟨fun wit fuel => expandT_eq_of_body h o wit fuel, h,
    fun fuel => runTD_eq_of_body (A := pathOrder syms TA FA) (B := pathOrder syms TB FB) h o fuel⟩

/-- the rule-level criterion: `SymDetPos 22 arOf` of a loaded table ⇔ `symDetPosRulesB` (two rules with the same parent have the
same ranked symbol, or are nullary, or have different sets of children tuples) -/
theorem C07_symDetPos_ofRulesTD_iff (rs : List Rule) :
    (∀ p, SymDetPos 22 arOf (getTD (ofRulesTD rs) p)) ↔ symDetPosRulesB rs = true := symDetPos_ofRulesTD_iff rs

/-- loaded tables, rule-level hypotheses only: arities `< 64`, `symDetPosRulesB rsA` -/
theorem C07_traverse_downward_loaded_nullary_classes (rsA rsB : List Rule) (hA : ∀ r, r ∈ rsA → r.kids.length < 64)
    (hB : ∀ r, r ∈ rsB → r.kids.length < 64) (hd : symDetPosRulesB rsA = true) (FA FB : List Nat) (o : Ord) :
    (∀ wit fuel, expandT o (ofRulesTD rsA) (ofRulesTD rsB) wit fuel =
      expand o (pathOrder (rankSyms (rsA ++ rsB)) (ofRulesTD rsA) FA) (pathOrder (rankSyms (rsA ++ rsB)) (ofRulesTD rsB) FB)
        wit fuel) ∧
    (∀ fuel, runTD o (ofRulesTD rsA) FA (ofRulesTD rsB) FB
        (prodWit (pathOrder (rankSyms (rsA ++ rsB)) (ofRulesTD rsA) FA)) fuel =
      run o (pathOrder (rankSyms (rsA ++ rsB)) (ofRulesTD rsA) FA) (pathOrder (rankSyms (rsA ++ rsB)) (ofRulesTD rsB) FB) fuel) :=
  have hk := rankSyms_ok (rs' := rsA) (rs := rsA ++ rsB) (fun _ h => List.mem_append_left _ h)
  have h := C07_traverse_downward_algorithm_nullary_classes FA FB hk.1 hk.2.1 hk.2.2 (tabOK_ofRulesTD rsA hA)
    (tabOK_ofRulesTD rsB hB) ((symDetPos_ofRulesTD_iff rsA).mpr hd) o
  ⟨h.1, h.2.2⟩

-- non-vacuity: `TDEx.tB` (class `{0, 1}` of nullary symbols at state 3) as the LEFT operand
example : ∀ p, SymDetPos 2 TDEx.ar (getTD TDEx.tB p) := by
  refine getTD_all (Q := SymDetPos 2 TDEx.ar) (fun _ _ _ _ hne => absurd rfl hne) (fun e he => ?_)
  simp only [TDEx.tB, List.mem_cons, List.not_mem_nil, or_false] at he
  rcases he with rfl | rfl <;> intro f g hf hg <;>
    rcases TDEx.lt4 hf with rfl | rfl | rfl | rfl <;> rcases TDEx.lt4 hg with rfl | rfl | rfl | rfl <;> decide
-- the D9 automaton `rsA` (`a → 1`, `b → 1`, `g(1,1) → 2`) as the LEFT operand: not `symDetRulesB`, but `symDetPosRulesB`
example : symDetPosRulesB BddAbsEx.rsA = true ∧ symDetRulesB BddAbsEx.rsA = false ∧
    (∀ r, r ∈ BddAbsEx.rsA → r.kids.length < 64) := ⟨by decide, by decide, by decide⟩
#guard showRet (expandT idOrd (ofRulesTD BddAbsEx.rsA) (ofRulesTD BddAbsEx.rsB) [] 10 [] [] ⟨[], []⟩ 2 [9]) ==
  showRet (expand idOrd (pathOrder [0, 1, 131074] (ofRulesTD BddAbsEx.rsA) [2])
    (pathOrder [0, 1, 131074] (ofRulesTD BddAbsEx.rsB) [9]) [] 10 [] [] ⟨[], []⟩ 2 [9])
-- `GenEx.rsL` (class of the UNARY symbols `f`, `h`) is not covered
#guard symDetPosRulesB GenEx.rsL == false

/-!
## still not proved

* the CLOSURE-EQUALITY of the persisting structures of the two runs when two symbols of arity `> 0` of a state share their tuple
  set (for classes of nullary symbols the runs are proved EQUAL: `C07_traverse_downward_algorithm_nullary_classes`): that `expandT` on the tables and `InclDown.expand`
  on the dump leave `childrenCache` / `nonincluded` / `trues` with the same upward / downward closure (or even, as every evaluation
  shows, EQUAL lists), i.e. that the second call `procGroup` of the model for a class is a run without effect.  What is proved is
  weaker: the repeated call establishes no new CONDITION (`C07_repeated_group_same_condition`), both runs keep the same invariant and
  return the same VERDICT.  The missing step is a relative-completeness invariant of the exploration: "a pair concluded `true`
  inside the pending calls `ws` is never implied by an entry of `nonincluded` added later inside the same pending calls" (the test
  `isNoninclusionImplied` precedes `isImpliedByChildren`, so a later entry of `nonincluded` could in principle flip the sub-call of
  the repeated `procGroup` from `holds` to `fails`).  A paper argument (a failing derivation of a super-pair of a pair concluded
  `true` under `ws` must pass through a super-pair of an element of `ws`, which `isInWorkset` answers `true` and
  `isNoninclusionImplied` would have answered before the element was pushed) suggests it holds; it is not formalised.  No
  counterexample: 19 200 pseudo-random calls `(p, P)` on loaded tables (3–4 states per side, 9–16 rules, 490 left operands that fail
  `symDetRulesB`) give equal results of `showRet (expandT …)` and `showRet (expand … pathOrder …)` (scratch search, not part of
  the library; `GenEx` and regression 1 of `C07_TraverseDown.lean` are instances);
* for the C++ this means: the verdict of `CheckDownwardTreeInclusion` on BDD top-down automata is that of the explicit model also
  when a state has several symbols with the same children tuples; whether the CACHES then coincide with those of a per-symbol loop
  is not settled by a proof (it is irrelevant for the verdict);
* the symbols of the dumps are RANKED symbols, `OptDownwardInclusionFunctor` and the preorder index structures: as in
  `C07_TraverseDown.lean`; no link to the C++ by a driver kind (Lean only).
-/
end Vata.Props
