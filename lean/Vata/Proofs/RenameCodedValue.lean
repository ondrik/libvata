import Vata.Proofs.RenameCodedMain
/-!
# C14 as coded – part 4: the destination of `ReindexStates` as a VALUE

`uniqueCluster(q')` / `uniqueTuplePtrSet(f)` create a possibly empty cluster / tuple set BEFORE the children are translated.  When
the source has no empty cluster and no empty tuple set (`Store.NoEmpty`, part of `Store.Inv`) and nothing is thrown, the very next `insert`
fills it, and the store after the creation followed by the insert is EQUAL to the store after the insert alone.  Hence the
destination is literally `foldl AddTransition (SetStatesFinal dst finals') rules'` (`reindexInto_opt_value`); `Union` (C02) and
`Reduce` (C05) on the store both rest on it.
-/
namespace Vata.RenameCoded
open Vata.Store

/-- `uniqueTuplePtrSet(f)` followed by the `insert` through the same pointers = the `insert` alone -/
theorem add_touchTS (q f : Nat) (t : List Nat) (s : Store) :
    addTransition (touchTupleSet q f s) ⟨f, t, q⟩ = addTransition s ⟨f, t, q⟩ := by
  simp only [addTransition, touchTupleSet, addToMap, addToCluster, upsert_upsert, Option.getD_some]

/-- `uniqueCluster(q)` followed by `uniqueTuplePtrSet(f)` on that cluster = the latter alone -/
theorem touchTS_touchC (q f : Nat) (s : Store) : touchTupleSet q f (touchCluster q s) = touchTupleSet q f s := by
  simp only [touchTupleSet, touchCluster, upsert_upsert, Option.getD_some]

theorem foldl_tupleEvs (h : Nat → Nat) (q f : Nat) : ∀ (ts : TupleSet) (s : Store),
    (tupleEvs h q f ts).foldl stepEv s = (rulesOf (tupleEvs h q f ts)).foldl addTransition s
  | [], _ => rfl
  | t :: ts, s => by
    have := foldl_tupleEvs h q f ts (addTransition s ⟨f, t.map h, q⟩)
    simp only [tupleEvs, List.map_cons, List.foldl_cons, stepEv, rulesOf, List.filterMap_cons] at this ⊢
    exact this

theorem foldl_symbolEvs (h : Nat → Nat) (q : Nat) (c : Cluster) (hne : NoEmptyC c) : ∀ (s : Store),
    (symbolEvs h q c).foldl stepEv s = (rulesOf (symbolEvs h q c)).foldl addTransition s := by
  induction c with
  | nil => exact fun _ => rfl
  | cons ft c ih =>
    intro s
    have e : symbolEvs h q (ft :: c) = Ev.touchTS q ft.1 :: (tupleEvs h q ft.1 ft.2 ++ symbolEvs h q c) := by
      simp [symbolEvs]
    have hr : rulesOf (Ev.touchTS q ft.1 :: (tupleEvs h q ft.1 ft.2 ++ symbolEvs h q c)) =
        rulesOf (tupleEvs h q ft.1 ft.2) ++ rulesOf (symbolEvs h q c) := by
      rw [← rulesOf_append]; simp [rulesOf]
    rw [e, hr, List.foldl_cons, List.foldl_append, List.foldl_append,
      ← ih (fun ft' hft' => hne ft' (List.mem_cons_of_mem _ hft')) _]
    congr 1
    cases hts : ft.2 with
    | nil => exact absurd hts (hne ft List.mem_cons_self)
    | cons t ts =>
      rw [← foldl_tupleEvs]
      simp only [tupleEvs, List.map_cons, List.foldl_cons, stepEv, add_touchTS]

theorem foldl_clusterEvs (h : Nat → Nat) (m : List (Nat × Cluster))
    (hne : ∀ qc, qc ∈ m → qc.2 ≠ [] ∧ NoEmptyC qc.2) : ∀ (s : Store),
    (clusterEvs h m).foldl stepEv s = (rulesOf (clusterEvs h m)).foldl addTransition s := by
  induction m with
  | nil => exact fun _ => rfl
  | cons qc m ih =>
    intro s
    have e : clusterEvs h (qc :: m) = Ev.touchC (h qc.1) :: (symbolEvs h (h qc.1) qc.2 ++ clusterEvs h m) := by
      simp [clusterEvs]
    have hr : rulesOf (Ev.touchC (h qc.1) :: (symbolEvs h (h qc.1) qc.2 ++ clusterEvs h m)) =
        rulesOf (symbolEvs h (h qc.1) qc.2) ++ rulesOf (clusterEvs h m) := by
      rw [← rulesOf_append]; simp [rulesOf]
    have hq := hne qc List.mem_cons_self
    rw [e, hr, List.foldl_cons, List.foldl_append, List.foldl_append,
      ← ih (fun qc' hqc' => hne qc' (List.mem_cons_of_mem _ hqc')) _]
    congr 1
    rw [← foldl_symbolEvs h (h qc.1) qc.2 hq.2 s]
    cases hc : qc.2 with
    | nil => exact absurd hc hq.1
    | cons ft c =>
      have e2 : symbolEvs h (h qc.1) (ft :: c) = Ev.touchTS (h qc.1) ft.1 :: (tupleEvs h (h qc.1) ft.1 ft.2 ++ symbolEvs h (h qc.1) c) := by
        simp [symbolEvs]
      rw [e2]
      simp only [List.foldl_cons, stepEv, touchTS_touchC]

/-- a stateless translator that does not throw, source without empty cluster / tuple set: the destination afterwards is the
destination with the translated final states inserted and the translated rules ADDED one by one, in iteration order -/
theorem reindexInto_opt_value (g : Nat → Option Nat) (src dst : Store) (hne : NoEmpty src)
    (hthr : (reindexInto (optT g) src dst () true).thrown = none) :
    (reindexInto (optT g) src dst () true).dst =
      ((iterate src).map (mapRule (gd g))).foldl addTransition (setFinals dst (src.final.map (gd g))) := by
  obtain ⟨fpre, fsuf, pre, suf, k1, k2, k3, -, k5⟩ := reindexInto_evs g src dst true
  obtain ⟨rfl, rfl⟩ := k3 hthr
  rw [List.append_nil] at k1 k2
  rw [k5, ← k1, ← k2, foldl_clusterEvs (gd g) src.clusters hne, rulesOf_clusterEvs (gd g) src.clusters src.final]
  rfl

/-- the same for ANY lawful translator, read off the container it leaves behind: a run that throws nothing can be replayed by the
stateless translator of its final container (`reindexInto_gen`) -/
theorem reindexInto_value {σ : Type} {T : Transl σ} {view : σ → Nat → Option Nat} (L : Lawful T view) (src dst : Store) (st : σ)
    (hne : NoEmpty src) (hthr : (reindexInto T src dst st true).thrown = none) :
    (reindexInto T src dst st true).dst =
      ((iterate src).map (mapRule (gd (view (reindexInto T src dst st true).tr)))).foldl addTransition
        (setFinals dst (src.final.map (gd (view (reindexInto T src dst st true).tr)))) := by
  have h := (reindexInto_gen L src dst st true).replay _ (Le.refl _) (fun k hk => by rw [hthr] at hk; cases hk)
  have hv := reindexInto_opt_value _ src dst hne (by rw [h]; exact hthr)
  rw [h] at hv
  exact hv

end Vata.RenameCoded
