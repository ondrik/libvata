import Vata.Proofs.ArityPrefixTables
import Vata.Proofs.BddIsectTotal
/-!
# C08 / C07 – the 6-bit arity prefix of the top-down BDD encoding at its limits

Property text served (C08): "For both BDD encodings, loading, the conversion bottom-up → top-down, union, intersection …
yield automata that denote exactly the language of the explicit encoding"; (C07) the top-down inclusion / simulation code
reads the table through `GetMtbddForArity`, i.e. relies on the arity prefix.  This file isolates the ONE place where the
two producers of top-down tables have to agree bit by bit: the arity prefix that `BDDTDTreeAutCore::AddTransition`
(`addArityToSymbol`, loading) and `BDDBUTreeAutCore::GetTopDownAut` (`ExtendWith(prefix, SYMBOL_SIZE)`, conversion) put
above the 16 symbol variables.

## How the C++ is read into the model (`Vata/ArityPrefix.lean`)

* `SymbolType prefix(SYMBOL_ARITY_LENGTH, arity)` is `arityPrefix arity = Glue.ofNum 6 arity`, the constructor as coded
  (mask test per variable); `symbol.append(prefix)` is `Glue.append`; both together are `addArityToSymbol`, and on a
  16-bit symbol number they give `rankedAsgn sym ar = symAsgn sym ++ arAsgn ar` (`C08_ranked_code_as_coded`), the
  assignment that the existing table models `BddAbsTD.addCubeTD` / `getTopDownAut` use.  `rankedCode sym ar` is the 22-bit
  number this assignment spells (variable `i` = bit `i`): 16 symbol bits, 6 arity bits above them.
* The table models are parametrised by the prefix function (`addCubeTDWith`, `ofRulesTDWith`, `getTopDownAutWith`); at
  `arAsgn` they ARE the existing models (`rfl`).  The two seeded variants are the instances `arAsgnMod63`
  (`prefix(6, size() % 63)`) and `arAsgnShort` (`append` whose loop stops one variable early: the field of variable 21
  keeps the `0x00` of `vars_.resize`, which the MTBDD constructor – `if (… == ONE) … else if (… == ZERO) …` – skips like a
  don't-care; `packedAppendOneShort` shows the `0x00` on the packed representation).
* "The two tables disagree on the ranked symbol of the rule" is a statement about `HasRuleTD T (bitsAr f n) p ks` (the
  MTBDD of `p` evaluated at symbol `f` with arity bits `n` holds the tuple `ks`).  The top-down `Intersection` pairs the
  leaves of the two MTBDDs valuation by valuation, so a rule that the operands hold under different ranked symbols is not
  paired: the kernel-checked run of the intersection model `BddIsect.bddIsectTD` on a two-rule automaton with a rule of
  arity 63 shows the tree being lost (`C08_arity_prefix_mod63_isect_loses_tree`).

## What is abstracted

MTBDD sharing / reference counts (C17), the hash order of `states` in `GetTopDownAut` (the result is order independent:
every state gets its own `SetMtbdd`), the copy-on-write of the table.  Symbols are numbers (the alphabet layer is
`C08_Load.lean`; `C08_convert_agrees_with_load` has a clause for descriptions loaded through it).
-/
namespace Vata.Props
open Vata.M Vata.BddAbs Vata.BddAbsTD Vata.BddIsect Vata.BddLoad Vata.ArityPrefix

/-! ## 1. the code as coded -/

/-- **the constructor and `append` as coded build the ranked symbol**: `SymbolType prefix(SYMBOL_ARITY_LENGTH, arity)`
stays inside the defined range of the mask test (`6 ≤ 31`) for EVERY `arity`, is the list of its 6 low bits, and
`symbol.append(prefix)` puts them on the variables 16 … 21; on the packed two-bits-per-variable representation `append`
(`Glue.Packed.extend`) writes exactly these fields (executed for a symbol at the boundary ranks). -/
theorem C08_ranked_code_as_coded (sym ar : Nat) :
    arityPrefix ar = some (arAsgn ar) ∧ addArityToSymbol (symAsgn sym) ar = some (rankedAsgn sym ar) ∧
    rankedAsgn sym ar = symArAsgn sym ar ∧ (rankedAsgn sym ar).length = 22 ∧
    rankedCode sym ar = sym % 2 ^ 16 + 2 ^ 16 * (ar % 2 ^ 6) ∧ rankedCode sym ar < 2 ^ 22 :=
  ⟨arityPrefix_eq ar, addArityToSymbol_eq sym ar, rfl, rankedAsgn_length sym ar, rankedCode_eq sym ar, rankedCode_lt sym ar⟩

example : (Glue.Packed.extend (Glue.Packed.ofAsgn (symAsgn 40000)) (arAsgn 63)).abs = (rankedAsgn 40000 63).map some ∧
    (Glue.Packed.extend (Glue.Packed.ofAsgn (symAsgn 40000)) (arAsgn 32)).abs = (rankedAsgn 40000 32).map some := by
  decide +kernel

/-- **within the bounds the code determines symbol and arity** (`sym < 2^16 = 2^SYMBOL_SIZE`, `ar < 64 =
MAX_SYMBOL_ARITY + 1`): as a number, as an assignment, and semantically – the cube of the ranked symbol `(f, n)` contains
the valuation of the ranked symbol `(g, m)` iff `g = f` and `m = n`, which is what keeps rules of different rank apart in
one MTBDD.  Without bounds exactly the residues are determined. -/
theorem C08_ranked_code_injective :
    (∀ sym ar sym' ar', sym < 2 ^ 16 → ar < 64 → sym' < 2 ^ 16 → ar' < 64 →
      rankedCode sym ar = rankedCode sym' ar' → sym = sym' ∧ ar = ar') ∧
    (∀ sym ar sym' ar', sym < 2 ^ 16 → ar < 64 → sym' < 2 ^ 16 → ar' < 64 →
      rankedAsgn sym ar = rankedAsgn sym' ar' → sym = sym' ∧ ar = ar') ∧
    (∀ g m f n, g < 2 ^ 16 → m < 64 → f < 2 ^ 16 → n < 64 →
      (agrees (bitsAr g m) (rankedAsgn f n) 0 = true ↔ g = f ∧ m = n)) ∧
    (∀ sym ar sym' ar', rankedCode sym ar = rankedCode sym' ar' ↔ sym % 2 ^ 16 = sym' % 2 ^ 16 ∧ ar % 64 = ar' % 64) :=
  ⟨fun _ _ _ _ h1 h2 h3 h4 h => rankedCode_injective h1 h2 h3 h4 h,
   fun _ _ _ _ h1 h2 h3 h4 h => rankedAsgn_injective h1 h2 h3 h4 h,
   fun _ _ _ _ h1 h2 h3 h4 => agrees_bitsAr_rankedAsgn h1 h2 h3 h4,
   rankedCode_eq_iff⟩

/-- the boundary ranks 0, 31, 32, 62, 63 of the last symbol `65535` and of symbol `5`: the codes, and the strings
`ToString()` prints (variable 0 first; the last six characters are the arity, least significant bit first) -/
example : rankedCode 5 0 = 5 ∧ rankedCode 5 31 = 5 + 31 * 65536 ∧ rankedCode 5 32 = 5 + 32 * 65536 ∧
    rankedCode 5 62 = 5 + 62 * 65536 ∧ rankedCode 5 63 = 5 + 63 * 65536 ∧
    rankedCode 65535 0 = 65535 ∧ rankedCode 65535 63 = 2 ^ 22 - 1 := by decide +kernel
example : String.ofList (Glue.toStr (rankedAsgn 5 0)) = "1010000000000000000000" ∧
    String.ofList (Glue.toStr (rankedAsgn 5 31)) = "1010000000000000111110" ∧
    String.ofList (Glue.toStr (rankedAsgn 5 32)) = "1010000000000000000001" ∧
    String.ofList (Glue.toStr (rankedAsgn 5 62)) = "1010000000000000011111" ∧
    String.ofList (Glue.toStr (rankedAsgn 5 63)) = "1010000000000000111111" := by decide +kernel
/-- the five boundary ranks are pairwise apart (non-vacuity of the injectivity at the limits) -/
example : ([0, 31, 32, 62, 63].map (rankedCode 65535)).Nodup ∧ (5 : Nat) < 2 ^ 16 ∧ (63 : Nat) < 64 := by decide +kernel

/-- **the bounds cannot be dropped**: arity 64 collides with arity 0 (the `assert(arity <= MAX_SYMBOL_ARITY)` is compiled
out), arity 95 with 31, and the symbol number `2^16` with 0. -/
theorem C08_ranked_code_needs_bounds :
    rankedCode 0 64 = rankedCode 0 0 ∧ rankedAsgn 0 64 = rankedAsgn 0 0 ∧ addArityToSymbol (symAsgn 7) 64 = addArityToSymbol (symAsgn 7) 0 ∧
    rankedCode 7 95 = rankedCode 7 31 ∧ rankedCode 65536 3 = rankedCode 0 3 := by decide +kernel

/-! ## 2. the two seeded variants -/

/-- **variant `size() % 63`: arity 63 collides with arity 0**, for every symbol; below 63 the variant cannot be told from
the code (so only a rule with exactly `MAX_SYMBOL_ARITY` children – or more – shows it). -/
theorem C08_arity_prefix_mod63_collides :
    (∀ sym, rankedAsgnMod63 sym 63 = rankedAsgnMod63 sym 0) ∧ (∀ sym, rankedCodeMod63 sym 63 = rankedCodeMod63 sym 0) ∧
    (∀ sym ar, ar < 63 → rankedAsgnMod63 sym ar = rankedAsgn sym ar) ∧
    rankedCodeMod63 5 63 = 5 ∧ rankedCode 5 63 ≠ rankedCode 5 0 :=
  ⟨rankedAsgnMod63_collides, rankedCodeMod63_collides, fun sym _ h => rankedAsgnMod63_lt h sym, by decide +kernel, by decide +kernel⟩

/-- **variant `append` one variable short: the ranks `r` and `r + 32` collide**, for every symbol and every `r`: the
variable 21 (the top arity bit) is a don't-care, the valuations in the prefix are those whose five low arity variables
hold `r mod 32`. -/
theorem C08_append_one_short_collides :
    (∀ sym r, rankedAsgnShort sym r = rankedAsgnShort sym (r + 32)) ∧
    (∀ (a : Glue.Asgn) r, appendOneShort a (arAsgn r) = appendOneShort a (arAsgn (r + 32))) ∧
    (∀ sym n, rankedAsgnShort sym n = symAsgn sym ++ ((arAsgn n).dropLast ++ [none])) ∧
    (∀ ρ m n, preOK (withArity ρ m) (arAsgnShort n) = true ↔ m % 32 = n % 32) :=
  ⟨rankedAsgnShort_collides, appendOneShort_collides,
   fun sym n => by rw [rankedAsgnShort_eq, arAsgnShort_eq], preOK_short_withArity⟩

/-- ranks 1 and 33, 31 and 63 under the short `append`; the code keeps them apart -/
example : rankedAsgnShort 5 1 = rankedAsgnShort 5 33 ∧ rankedAsgnShort 5 31 = rankedAsgnShort 5 63 ∧
    String.ofList (Glue.toStr (rankedAsgnShort 5 33)) = "101000000000000010000X" ∧
    rankedAsgn 5 1 ≠ rankedAsgn 5 33 := by decide +kernel
/-- on the packed representation as coded: after the short `append` the field of variable 21 holds `0x00` (neither
`ZERO = 0x01` nor `ONE = 0x02` nor `DONT_CARE = 0x03`), the other 21 variables are written -/
example : (packedAppendOneShort (Glue.Packed.ofAsgn (symAsgn 5)) (arAsgn 33)).getRaw 21 = some 0 ∧
    (packedAppendOneShort (Glue.Packed.ofAsgn (symAsgn 5)) (arAsgn 33)).abs =
      (symAsgn 5 ++ (arAsgn 33).dropLast).map some ++ [none] := by decide +kernel

/-- **variant `% 63` in `GetTopDownAut`, on the tables**: for every rule list, every rule `f(ks) → p` with 63 children
whose parent the conversion collects: the natively loaded table (and the conversion as coded) holds it under the ranked
symbol `(f, 63)`; the converted table of the variant holds NO tuple of length 63 under any ranked symbol of arity 63 – it
holds the rule under `(f, 0)`, among the leaf rules – so the two tables disagree on the ranked symbol of that rule, and
the variant's table violates `ArityOK`, the invariant the top-down `Intersection` is proved under (`C08_td_isect`) and
that the C++ `assert`s in the pairing leaf operation. -/
theorem C08_arity_prefix_mod63_tables_disagree (rs : List Rule) (F : List Nat) (r : Rule) (hr : r ∈ rs)
    (h63 : r.kids.length = 63) (hp : r.parent ∈ tdStates (ofRules rs) F) :
    HasRuleTD (ofRulesTD rs) (bitsAr r.sym 63) r.parent r.kids ∧
    HasRuleTD (getTopDownAut (ofRules rs) F) (bitsAr r.sym 63) r.parent r.kids ∧
    (∀ ρ p ks, ks.length = 63 → ¬ HasRuleTD (getTopDownAutWith arAsgnMod63 (ofRules rs) F) (withArity ρ 63) p ks) ∧
    HasRuleTD (getTopDownAutWith arAsgnMod63 (ofRules rs) F) (bitsAr r.sym 0) r.parent r.kids ∧
    ¬ ArityOK (getTopDownAutWith arAsgnMod63 (ofRules rs) F) :=
  ⟨(mod63_tables_disagree rs F r hr h63 hp).1, (mod63_tables_disagree rs F r hr h63 hp).2.1,
   (mod63_tables_disagree rs F r hr h63 hp).2.2.1, (mod63_tables_disagree rs F r hr h63 hp).2.2.2,
   mod63_not_arityOK rs F r hr h63 hp⟩

/-- `rs63` (`a → 1`, `f(1^63) → 2`, final 2) satisfies the hypotheses -/
example : (⟨1, List.replicate 63 1, 2⟩ : Rule) ∈ rs63 ∧ (List.replicate 63 1).length = 63 ∧
    2 ∈ tdStates (ofRules rs63) fin63 := by decide +kernel

/-- **… and the tree is lost** (kernel-checked run of the models): `rs63` loaded natively, intersected (model of
`BDDTDTreeAutCore::Intersection`) with its conversion by the `% 63` variant: both operands accept `f(a, …, a)` (63
children), the intersection does not; with the conversion as coded it does. -/
theorem C08_arity_prefix_mod63_isect_loses_tree :
    accepts (absTD [0, 1] (ofRulesTD rs63) fin63) tree63 = true ∧
    accepts (absTD [0, 1] (getTopDownAutWith arAsgnMod63 (ofRules rs63) fin63) fin63) tree63 = true ∧
    (bddIsectTD (ofRulesTD rs63) fin63 (getTopDownAutWith arAsgnMod63 (ofRules rs63) fin63) fin63 20).map
      (fun r => accepts (absTD [0, 1] r.1 r.2.1) tree63) = some false ∧
    (bddIsectTD (ofRulesTD rs63) fin63 (getTopDownAut (ofRules rs63) fin63) fin63 20).map
      (fun r => accepts (absTD [0, 1] r.1 r.2.1) tree63) = some true := by decide +kernel

/-- **variant short `append` in `GetTopDownAut`, on the tables**: every rule `f(ks) → p` with a collected parent is held
under EVERY ranked symbol `(f, m)` with `m ≡ |ks| (mod 32)` – under `(f, |ks| + 32)` for `|ks| < 32`, under
`(f, |ks| - 32)` for `32 ≤ |ks|` – where the natively loaded table has nothing of that length. -/
theorem C08_append_one_short_tables_disagree (rs : List Rule) (F : List Nat) (r : Rule) (hr : r ∈ rs)
    (hp : r.parent ∈ tdStates (ofRules rs) F) (m : Nat) (hm : m % 32 = r.kids.length % 32) :
    HasRuleTD (getTopDownAutWith arAsgnShort (ofRules rs) F) (bitsAr r.sym m) r.parent r.kids ∧
    (m < 64 → r.kids.length < 64 → m ≠ r.kids.length → ¬ HasRuleTD (ofRulesTD rs) (bitsAr r.sym m) r.parent r.kids) := by
  constructor
  · rw [hasRuleTD_getTopDownAutWith arAsgnShort (tableOk_ofRules rs), hasRule_ofRules]
    refine ⟨hp, (preOK_short_withArity _ _ _).mpr hm, r, hr, rfl, rfl, ?_⟩
    exact agrees_bitsAr_self _ _
  · intro h1 h2 h3 h
    obtain ⟨_, _, _, _, _, h4⟩ := (hasRuleTD_ofRulesTD_gen rs _ _ _).mp h
    exact h3 ((arOK_withArity_lt (bits r.sym) h1 h2).mp h4)

/-- `rs33` (`a → 1`, `g(1) → 2`, `g(1^33) → 3`): the rule of rank 33 under the ranked symbol of rank 1 -/
example : (⟨1, List.replicate 33 1, 3⟩ : Rule) ∈ rs33 ∧ 3 ∈ tdStates (ofRules rs33) [3] ∧
    1 % 32 = (List.replicate 33 1).length % 32 ∧ 1 ≠ (List.replicate 33 1).length := by decide +kernel

/-- **… and a tree is gained**: `rs33` with final state 2 accepts `g(a)` only, with final state 3 `g(a^33)` only; the
intersection of the first (loaded) with the second converted by the short-`append` variant accepts `g(a)` (the leaf
operation zips the tuple `(1)` with the tuple `(1^33)` found under the same valuation; the C++ built without assertions
does the same); with the conversion as coded it is empty on that tree. -/
theorem C08_append_one_short_isect_gains_tree :
    accepts (absTD [0, 1] (ofRulesTD rs33) [2]) (.node 1 [.node 0 []]) = true ∧
    accepts (absTD [0, 1] (getTopDownAutWith arAsgnShort (ofRules rs33) [3]) [3]) (.node 1 [.node 0 []]) = false ∧
    (bddIsectTD (ofRulesTD rs33) [2] (getTopDownAutWith arAsgnShort (ofRules rs33) [3]) [3] 20).map
      (fun r => accepts (absTD [0, 1] r.1 r.2.1) (.node 1 [.node 0 []])) = some true ∧
    (bddIsectTD (ofRulesTD rs33) [2] (getTopDownAut (ofRules rs33) [3]) [3] 20).map
      (fun r => accepts (absTD [0, 1] r.1 r.2.1) (.node 1 [.node 0 []])) = some false := by decide +kernel

/-! ## 3. conversion agrees with loading -/

/-- **`GetTopDownAut` and loading build the same table.**
(1) For every rule list, every valuation `ρ` of the 22 variables: the table `GetTopDownAut` builds from the bottom-up
table of the rules holds `ρ(ks) → p` iff `p` is collected (a final state or a child of some rule; the other parents are
unreachable top-down) and the natively loaded top-down table holds it – NO bound on symbols or arities: both sides compute
`SymbolicVarAsgn(6, |ks|)`, and the statement holds for any prefix function used on both sides (clause 2; this is the
precise sense in which the two seeded changes are visible only when ONE side is changed).
(3) The same for a description loaded through the Timbuk layer into the two encodings (`C08_load_tables`: either
parameter, exceptions included, same alphabet, fresh state dictionaries).
(4) Hence the abstractions `absTD` have the same rules up to uncollected parents and (5) accept the same trees; (6) for
arities `< 64` both tables have the invariant `ArityOK` and the symbolic top-down `Intersection` of the converted with the
loaded automaton returns a result that accepts exactly the language of the automaton (nothing is lost). -/
theorem C08_convert_agrees_with_load :
    (∀ (rs : List Rule) (F : List Nat) ρ p ks, HasRuleTD (getTopDownAut (ofRules rs) F) ρ p ks ↔
      p ∈ tdStates (ofRules rs) F ∧ HasRuleTD (ofRulesTD rs) ρ p ks) ∧
    (∀ (pre : Nat → List (Option Bool)) (rs : List Rule) (F : List Nat) ρ p ks,
      HasRuleTD (getTopDownAutWith pre (ofRules rs) F) ρ p ks ↔
        p ∈ tdStates (ofRules rs) F ∧ HasRuleTD (ofRulesTDWith pre rs) ρ p ks) ∧
    (∀ (par : Param) (yd : BddLoad.SymDict), yd.Ok → ∀ (d : AutDesc) (F : List Nat) ρ p ks,
      HasRuleTD (getTopDownAut (loadBU par {} [] yd d).aut.tbl F) ρ p ks ↔
        p ∈ tdStates (loadBU par {} [] yd d).aut.tbl F ∧ HasRuleTD (loadTD par {} [] yd d).aut.tbl ρ p ks) ∧
    (∀ (rs : List Rule) (F syms : List Nat) r, r ∈ absRulesTD syms (getTopDownAut (ofRules rs) F) ↔
      r ∈ absRulesTD syms (ofRulesTD rs) ∧ r.parent ∈ tdStates (ofRules rs) F) ∧
    (∀ (rs : List Rule) (F syms : List Nat) t,
      accepts (absTD syms (getTopDownAut (ofRules rs) F) F) t = accepts (absTD syms (ofRulesTD rs) F) t) ∧
    (∀ (rs : List Rule) (F : List Nat), (∀ r, r ∈ rs → r.kids.length < 64) →
      ArityOK (ofRulesTD rs) ∧ ArityOK (getTopDownAut (ofRules rs) F) ∧
      ∃ R F' m, bddIsectTDRef (getTopDownAut (ofRules rs) F) F (ofRulesTD rs) F = some (R, F', m) ∧
        ∀ syms t, accepts (absTD syms R F') t = accepts (absTD syms (ofRulesTD rs) F) t) := by
  refine ⟨convert_eq_load, convertWith_eq_loadWith, fun par yd hyd d F ρ p ks => convert_eq_load_desc par yd hyd d F ρ p ks,
    absRulesTD_convert_load, convert_load_lang_unbounded, fun rs F har => ?_⟩
  have hA : ArityOK (ofRulesTD rs) := arityOK_ofRulesTD rs har
  have hB : ArityOK (getTopDownAut (ofRules rs) F) :=
    fun ρ n p ks hn h => hA ρ n p ks hn ((convert_eq_load rs F _ p ks).mp h).2
  obtain ⟨R, F', m, h, hl, _⟩ := bddIsectTDRef_lang _ F _ F hB hA
  refine ⟨hA, hB, R, F', m, h, fun syms t => ?_⟩
  rw [hl, convert_load_lang_unbounded, Bool.and_self]

/-- a rule list at the limit, `rs63` with ranks 0 and 63 (non-vacuity of the clause for arities `< 64`), and the first
clause executed at the ranked symbols `(1, 63)` and `(1, 0)` -/
example : (∀ r, r ∈ rs63 → r.kids.length < 64) ∧
    eval (getTD (getTopDownAut (ofRules rs63) fin63) 2) (bitsAr 1 63) = [List.replicate 63 1] ∧
    eval (getTD (ofRulesTD rs63) 2) (bitsAr 1 63) = [List.replicate 63 1] ∧
    eval (getTD (getTopDownAut (ofRules rs63) fin63) 2) (bitsAr 1 0) = [] := by decide +kernel

/-!
## still not proved

* The consequence of the seeded variants for the LANGUAGE of an intersection is kernel-checked on the two concrete
  automata `rs63` / `rs33` (`C08_arity_prefix_mod63_isect_loses_tree`, `C08_append_one_short_isect_gains_tree`); for
  arbitrary rule lists only the disagreement of the tables on the ranked symbol and the loss of `ArityOK` are proved,
  not a general "the intersection loses every tree that uses a rule of arity 63".
* The variants are modelled in `GetTopDownAut` (the conversion) against loading as coded; the mirror case (variant in
  `addArityToSymbol`, conversion as coded) is covered only through the symmetric clause 2 of
  `C08_convert_agrees_with_load` and `hasRuleTD_ofRulesTDWith`, without its own corollary.
* `packedAppendOneShort` (the short `append` on the two-bit packing) is executed on examples only; the general statement
  "its abstraction is `a ++ pre.dropLast` followed by an unwritten field" is not proved (the full `append` has
  `Glue.Packed` theorems in `Vata/Proofs/GlueAsgn.lean`).
* The readers of the prefix in the top-down inclusion / simulation code (`GetMtbddForArity`, C07) are not re-examined
  here; `C08_load_arity_reader` covers the reader on loaded tables.
-/

end Vata.Props
