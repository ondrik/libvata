import Vata.Proofs.TimbukGrammarFile
/-!
# The Timbuk parser on text the serializer did not write – line level (property C13)

A line in free layout is a line of the grammar (`Vata/TimbukGrammar.lean`), so what the parser does with it is read off
`parseC_ok_iff_reads` and its line-level parts:
* words separated by any non-empty runs of white space, with leading and trailing white space, are the `Words` of the line
  (`words_layWords`); a header step depends on the words only (`stepHeader_eq_W`);
* a transition line in any of the layouts `pre sym [ws ( ws k ws , ws k ws ) ] ws -> ws q post`, nullary rules with or
  without parentheses, blanks inside the empty parentheses, is a `TransLine` (`TLine.transLine`, hence `stepTrans_tline`).
-/
namespace Vata.Timbuk
open Vata.T (splitDelim splitDelim_append_nodelim splitDelim_nodelim joinWith splitDelim_joinWith)

/-- white space that stays on its line: no `\n` -/
def Blank (s : Str) : Prop := ∀ c ∈ s, isSpace c = true ∧ c ≠ '\n'

theorem Blank.allWs {s : Str} (h : Blank s) : AllWs s := fun c hc => (h c hc).1
theorem Blank.noNl {s : Str} (h : Blank s) : '\n' ∉ s := fun hc => (h _ hc).2 rfl
theorem blank_nil : Blank [] := by intro c hc; cases hc

/-- `g1 w1 g2 w2 …`: every word preceded by its gap -/
def gapCat (gws : List (Str × Str)) : Str := (gws.map (fun p => p.1 ++ p.2)).flatten

def GapsOk (gws : List (Str × Str)) : Prop := ∀ p ∈ gws, AllWs p.1 ∧ p.1 ≠ [] ∧ Word p.2

theorem GapsOk.tail {p : Str × Str} {r : List (Str × Str)} (h : GapsOk (p :: r)) : GapsOk r :=
  fun x hx => h x (List.mem_cons_of_mem _ hx)

theorem AllWs.headWs {s : Str} (h : AllWs s) : HeadWs s := fun c hc => h c (List.mem_of_mem_head? hc)

theorem words_gapCat {post : Str} (hpost : AllWs post) : ∀ {gws : List (Str × Str)}, GapsOk gws →
    HeadWs (gapCat gws ++ post) ∧ Words (gapCat gws ++ post) (gws.map (·.2))
  | [], _ => ⟨hpost.headWs, Words.nil hpost⟩
  | p :: r, h => by
    obtain ⟨hg, hne, hw⟩ := h p List.mem_cons_self
    obtain ⟨hh, hws⟩ := words_gapCat hpost h.tail
    have e : gapCat (p :: r) ++ post = p.1 ++ p.2 ++ (gapCat r ++ post) := by simp [gapCat]
    rw [e]
    exact ⟨by rw [List.append_assoc]; exact headWs_of_allWs _ hg hne, Words.cons hg hw hh hws⟩

/-- `pre w g1 w1 g2 w2 … post` -/
def layWords (pre w : Str) (gws : List (Str × Str)) (post : Str) : Str := pre ++ (w ++ gapCat gws) ++ post

theorem words_layWords {pre w post : Str} {gws : List (Str × Str)} (hpre : AllWs pre) (hpost : AllWs post)
    (hw : Word w) (h : GapsOk gws) : Words (layWords pre w gws post) (w :: gws.map (·.2)) := by
  obtain ⟨hh, hws⟩ := words_gapCat hpost h
  have e : layWords pre w gws post = pre ++ w ++ (gapCat gws ++ post) := by simp [layWords]
  rw [e]; exact Words.cons hpre hw hh hws

theorem noArrow_of_no_minus {s : Str} (h : '-' ∉ s) : splitArrow s = none := by
  rw [splitArrow_none_iff]
  rintro ⟨p, q, rfl⟩
  exact h (by simp)

theorem noArrow_ws {s : Str} (h : AllWs s) : splitArrow s = none :=
  noArrow_of_no_minus (h.not_mem (by decide))

theorem noArrow_ws_append {g b : Str} (hg : AllWs g) (hb : splitArrow b = none) : splitArrow (g ++ b) = none := by
  induction g with
  | nil => exact hb
  | cons c r ih =>
    exact splitArrow_cons_sep (ih (fun x hx => hg x (List.mem_cons_of_mem _ hx)))
      (isSpace_ne (hg c List.mem_cons_self)).1

theorem noArrow_append_ws {a g : Str} (ha : splitArrow a = none) (hg : AllWs g) : splitArrow (a ++ g) = none := by
  cases g with
  | nil => simpa using ha
  | cons c r =>
    have hc := isSpace_ne (hg c List.mem_cons_self)
    exact splitArrow_sep c ha (noArrow_ws (fun x hx => hg x (List.mem_cons_of_mem _ hx))) hc.1 hc.2.1

/-- one transition line: `pre sym [afterSym ( body ) ] beforeArrow -> afterArrow par post`; `args = none`: no
parentheses (nullary only); `args = some (afterSym, inner, kids)`: `body` is `inner` (white) when there are no children,
else the children `(padL, name, padR)` joined by commas -/
structure TLine where
  pre : Str
  sym : Str
  args : Option (Str × Str × List (Str × Str × Str))
  beforeArrow : Str
  afterArrow : Str
  par : Str
  post : Str
deriving Repr

def TLine.pieces : Option (Str × Str × List (Str × Str × Str)) → List Str
  | none => []
  | some (_, inner, []) => [inner]
  | some (_, _, k :: ks) => (k :: ks).map (fun k => k.1 ++ k.2.1 ++ k.2.2)

def TLine.argStr (a : Option (Str × Str × List (Str × Str × Str))) : Str :=
  match a with
  | none => []
  | some (afterSym, _, _) => afterSym ++ '(' :: joinWith ',' (TLine.pieces a) ++ [')']

def TLine.lhs (l : TLine) : Str := l.sym ++ TLine.argStr l.args
def TLine.core (l : TLine) : Str := l.lhs ++ l.beforeArrow ++ '-' :: '>' :: l.afterArrow ++ l.par
def TLine.text (l : TLine) : Str := l.pre ++ l.core ++ l.post

def TLine.kids (l : TLine) : List Str :=
  match l.args with
  | none => []
  | some (_, _, ks) => ks.map (·.2.1)

def TLine.trans (l : TLine) : Trans := (l.kids, l.sym, l.par)

/-- the line is read as the transition `l.trans`: all padding `Blank`, all names `Good` -/
structure TLine.Ok (l : TLine) : Prop where
  pre : Blank l.pre
  post : Blank l.post
  beforeArrow : Blank l.beforeArrow
  afterArrow : Blank l.afterArrow
  sym : Good l.sym
  par : Good l.par
  args : ∀ a i ks, l.args = some (a, i, ks) → Blank a ∧ Blank i ∧ ∀ k ∈ ks, Blank k.1 ∧ Good k.2.1 ∧ Blank k.2.2

theorem joinWith_cons_cons (d : Char) (p q : Str) (ps : List Str) :
    joinWith d (p :: q :: ps) = p ++ d :: joinWith d (q :: ps) := rfl

theorem mem_joinWith {c d : Char} : ∀ {ps : List Str}, c ∈ joinWith d ps → c = d ∨ ∃ p ∈ ps, c ∈ p
  | [], h => by simp [joinWith] at h
  | [p], h => Or.inr ⟨p, List.mem_cons_self, h⟩
  | p :: q :: ps, h => by
    rw [joinWith_cons_cons] at h
    rcases List.mem_append.mp h with h | h
    · exact Or.inr ⟨p, List.mem_cons_self, h⟩
    · rcases List.mem_cons.mp h with h | h
      · exact Or.inl h
      · rcases mem_joinWith h with h | ⟨x, hx, h⟩
        · exact Or.inl h
        · exact Or.inr ⟨x, List.mem_cons_of_mem _ hx, h⟩

theorem noArrow_joinWith_close {tail : Str} (ht : splitArrow tail = none) :
    ∀ {ps : List Str}, ps ≠ [] → (∀ p ∈ ps, splitArrow p = none) → splitArrow (joinWith ',' ps ++ ')' :: tail) = none
  | [], h, _ => absurd rfl h
  | [p], _, hp => splitArrow_sep ')' (hp p List.mem_cons_self) ht (by decide) (by decide)
  | p :: q :: ps, _, hp => by
    rw [joinWith_cons_cons]
    have ih := noArrow_joinWith_close ht (ps := q :: ps) (by simp) (fun x hx => hp x (List.mem_cons_of_mem _ hx))
    have : p ++ ',' :: joinWith ',' (q :: ps) ++ ')' :: tail = p ++ ',' :: (joinWith ',' (q :: ps) ++ ')' :: tail) := by
      simp
    rw [this]
    exact splitArrow_sep ',' (hp p List.mem_cons_self) ih (by decide) (by decide)

theorem TLine.pieces_spec {a i : Str} {ks : List (Str × Str × Str)}
    (h : Blank a ∧ Blank i ∧ ∀ k ∈ ks, Blank k.1 ∧ Good k.2.1 ∧ Blank k.2.2) :
    TLine.pieces (some (a, i, ks)) ≠ [] ∧
    ∀ p ∈ TLine.pieces (some (a, i, ks)), splitArrow p = none ∧ ',' ∉ p ∧ ')' ∉ p ∧ '\n' ∉ p := by
  obtain ⟨_, hi, hk⟩ := h
  cases ks with
  | nil =>
    refine ⟨by simp [TLine.pieces], ?_⟩
    intro p hp
    simp only [TLine.pieces, List.mem_singleton] at hp
    subst hp
    exact ⟨noArrow_ws hi.allWs, hi.allWs.not_mem (by decide), hi.allWs.not_mem (by decide), hi.noNl⟩
  | cons k ks =>
    refine ⟨by simp [TLine.pieces], ?_⟩
    intro p hp
    simp only [TLine.pieces] at hp
    obtain ⟨x, hx, rfl⟩ := List.mem_map.mp hp
    obtain ⟨h1, h2, h3⟩ := hk x hx
    exact ⟨noArrow_append_ws (noArrow_ws_append h1.allWs h2.noArrow) h3.allWs,
      not_mem_append3 (h1.allWs.not_mem (by decide)) h2.noComma (h3.allWs.not_mem (by decide)),
      not_mem_append3 (h1.allWs.not_mem (by decide)) h2.noRP (h3.allWs.not_mem (by decide)),
      not_mem_append3 h1.noNl (nl_not_noWs h2.noWs) h3.noNl⟩

theorem TLine.lhs_noArrow {l : TLine} (h : l.Ok) : splitArrow (l.lhs ++ l.beforeArrow) = none := by
  unfold TLine.lhs
  cases ha : l.args with
  | none =>
    simp only [TLine.argStr, List.append_nil]
    exact noArrow_append_ws h.sym.noArrow h.beforeArrow.allWs
  | some x =>
    obtain ⟨a, i, ks⟩ := x
    have hx := h.args a i ks ha
    obtain ⟨hne, hp⟩ := TLine.pieces_spec hx
    have e : l.sym ++ TLine.argStr (some (a, i, ks)) ++ l.beforeArrow =
        (l.sym ++ a) ++ '(' :: (joinWith ',' (TLine.pieces (some (a, i, ks))) ++ ')' :: l.beforeArrow) := by
      simp [TLine.argStr]
    rw [e]
    exact splitArrow_sep '(' (noArrow_append_ws h.sym.noArrow hx.1.allWs)
      (noArrow_joinWith_close (noArrow_ws h.beforeArrow.allWs) hne (fun p hp' => (hp p hp').1)) (by decide) (by decide)

theorem TLine.lhs_spec {l : TLine} (h : l.Ok) : Lhs l.lhs l.sym l.kids := by
  obtain ⟨pre, sym, args, b, a, par, post⟩ := l
  have hs : Good sym := h.sym
  cases args with
  | none =>
    have e : TLine.lhs ⟨pre, sym, none, b, a, par, post⟩ = sym := by simp [TLine.lhs, TLine.argStr]
    rw [e]; exact Lhs.leaf hs.ne hs.noWs hs.noLP hs.noRP
  | some x =>
    obtain ⟨g, i, ks⟩ := x
    have hx := h.args g i ks rfl
    obtain ⟨hne, hp⟩ := TLine.pieces_spec hx
    have e : TLine.lhs ⟨pre, sym, some (g, i, ks), b, a, par, post⟩ =
        sym ++ g ++ '(' :: (joinWith ',' (TLine.pieces (some (g, i, ks))) ++ [')']) := by
      simp [TLine.lhs, TLine.argStr]
    rw [e]
    refine Lhs.app hs.ne hs.noWs.headOk hs.noWs.lastOk hs.noLP hs.noRP hx.1.allWs ?_ ?_
    · intro hc
      rcases mem_joinWith hc with hc | ⟨p, hp', hc⟩
      · revert hc; decide
      · exact (hp p hp').2.2.1 hc
    · cases ks with
      | nil => exact KidList.none hx.2.1.allWs
      | cons k ks' =>
        exact KidList.some (pieces := k :: ks') (List.cons_ne_nil _ _)
          (fun p hp => ⟨(hx.2.2 p hp).1.allWs, (hx.2.2 p hp).2.1.noWs, (hx.2.2 p hp).2.1.noComma, (hx.2.2 p hp).2.2.allWs⟩)
          (fun hh => (hx.2.2 k List.mem_cons_self).2.1.ne (List.cons.inj hh).1)

theorem TLine.transLine {l : TLine} (h : l.Ok) : TransLine l.text l.sym l.kids l.par := by
  have := TransLine.mk h.pre.allWs h.beforeArrow.allWs h.afterArrow.allWs h.post.allWs (TLine.lhs_spec h)
    ((splitArrow_none_iff _).mp (TLine.lhs_noArrow h)) h.par.ne h.par.noWs
  have e : l.text = l.pre ++ l.lhs ++ l.beforeArrow ++ '-' :: '>' :: (l.afterArrow ++ l.par ++ l.post) := by
    simp [TLine.text, TLine.core]
  rw [e]; exact this

theorem stepTrans_tline (st : PState) (line : Str) {l : TLine} (h : l.Ok) :
    stepTrans st line (trim l.text) = .ok (addTrans st l.trans) := by
  have := stepTrans_read st line l.text
  rw [transLine_read (TLine.transLine h)] at this
  exact optOk_eq_some.mp this

theorem TLine.text_noNl {l : TLine} (h : l.Ok) : '\n' ∉ l.text := by
  have hargs : '\n' ∉ TLine.argStr l.args := by
    cases ha : l.args with
    | none => simp [TLine.argStr]
    | some x =>
      obtain ⟨a, i, ks⟩ := x
      have hx := h.args a i ks ha
      obtain ⟨_, hp⟩ := TLine.pieces_spec hx
      intro hc
      simp only [TLine.argStr, List.mem_append, List.mem_cons] at hc
      rcases hc with (hc | hc | hc) | hc
      · exact hx.1.noNl hc
      · revert hc; decide
      · rcases mem_joinWith hc with hc | ⟨p, hp', hc⟩
        · revert hc; decide
        · exact (hp p hp').2.2.2 hc
      · revert hc; decide
  intro hc
  simp only [TLine.text, TLine.core, TLine.lhs, List.append_assoc, List.cons_append, List.mem_append,
    List.mem_cons] at hc
  rcases hc with hc | hc | hc | hc | hc | hc | hc | hc | hc
  · exact h.pre.noNl hc
  · exact nl_not_noWs h.sym.noWs hc
  · exact hargs hc
  · exact h.beforeArrow.noNl hc
  · revert hc; decide
  · revert hc; decide
  · exact h.afterArrow.noNl hc
  · exact nl_not_noWs h.par.noWs hc
  · exact h.post.noNl hc

end Vata.Timbuk
