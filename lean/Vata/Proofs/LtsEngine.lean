import Vata.Proofs.LtsEngineInit
/-!
# The partition–relation LTS simulation engine computes the greatest simulation inside the initial relation

Main results about the executable model `Vata/LtsEngine.lean` of `src/explicit_lts_sim.cc`:

* `engine_result_eq`  whatever `computeSimulation` returns is exactly `ltsSimOut` (the reference: greatest simulation
  inside the relation induced by partition and block relation, restricted to the output size);
* `engine_total`      with the internal fuel `fuelBound` it always returns (`none` never occurs);
* `engine_spec`       both together, in terms of the specification `IsSim`;
* the two convenience overloads (`computeSimulation1`, `computeSimulation0`).

Preconditions: the edges connect states `< n` (`LtsOK`), `isPartition`, `isConsistent` (the two things `init` asserts)
**and transitivity of the block relation** (`RelTrans`), which the C++ does not assert but needs: see the
counterexample at the end (the model agrees there with the real library, which returns a relation that is not the
greatest simulation).
-/
namespace Vata.LE
open Vata.L

section run
variable {L : LTS} {S I : Nat → Nat → Prop}

/-- one iteration of the loop of `run` (nothing when the queue is empty) -/
def stepOnce (L : LTS) (e : Eng) : Eng :=
  match e.queue with
  | [] => e
  | (b, a) :: rest => processRemove L { e with queue := rest } b a

theorem engineRun_succ (L : LTS) (fuel : Nat) (e : Eng) (h : e.queue ≠ []) :
    engineRun L (fuel + 1) e = engineRun L fuel (stepOnce L e) := by
  unfold stepOnce
  cases hq : e.queue with
  | nil => exact absurd hq h
  | cons k rest =>
    obtain ⟨b, a⟩ := k
    simp only [engineRun, hq]

theorem engineRun_of_nil (L : LTS) (fuel : Nat) {e : Eng} (h : e.queue = []) : engineRun L fuel e = some e := by
  cases fuel <;> simp only [engineRun, h, List.isEmpty_nil, if_true]

/-- an iteration keeps the invariant and, unless the queue was empty, lowers the measure -/
theorem stepOnce_inv (hL : LtsOK L) (hS : IsSim L S) (hSn : ∀ y z, S y z → y < L.n ∧ z < L.n) {e : Eng}
    (inv : Inv L S I e) : Inv L S I (stepOnce L e) ∧ (e.queue ≠ [] → pot L (stepOnce L e) + 1 ≤ pot L e) := by
  unfold stepOnce
  cases hq : e.queue with
  | nil => exact ⟨inv, fun h => absurd rfl h⟩
  | cons k rest =>
    obtain ⟨b, a⟩ := k
    exact (processRemove_inv hL hS hSn inv hq).imp_right fun h _ => h

/-- `run` keeps the invariant; with enough fuel it ends with an empty queue -/
theorem engineRun_inv (hL : LtsOK L) (hS : IsSim L S) (hSn : ∀ y z, S y z → y < L.n ∧ z < L.n) :
    ∀ (fuel : Nat) (e : Eng), Inv L S I e →
      (∀ e', engineRun L fuel e = some e' → Inv L S I e' ∧ e'.queue = []) ∧
      (pot L e ≤ fuel → ∃ e', engineRun L fuel e = some e') := by
  intro fuel
  induction fuel with
  | zero =>
    intro e inv
    by_cases hq : e.queue = []
    · rw [engineRun_of_nil L 0 hq]
      exact ⟨fun e' h => Option.some.inj h ▸ ⟨inv, hq⟩, fun _ => ⟨e, rfl⟩⟩
    · have hlen := List.length_pos_iff.mpr hq
      refine ⟨fun e' h => ?_, fun hp => absurd (Nat.le_trans (Nat.le_add_right _ _) (Nat.le_trans (Nat.le_add_right _ _) hp))
        (Nat.not_le_of_gt hlen)⟩
      rw [engineRun, if_neg (fun h => hq (List.isEmpty_iff.mp h))] at h
      cases h
  | succ fuel ih =>
    intro e inv
    by_cases hq : e.queue = []
    · rw [engineRun_of_nil L _ hq]
      exact ⟨fun e' h => Option.some.inj h ▸ ⟨inv, hq⟩, fun _ => ⟨e, rfl⟩⟩
    · obtain ⟨inv', hpot⟩ := stepOnce_inv hL hS hSn inv
      rw [engineRun_succ L fuel e hq]
      exact ⟨(ih _ inv').1, fun hp => (ih _ inv').2 (Nat.le_of_succ_le_succ (Nat.le_trans (hpot hq) hp))⟩

end run

theorem mem_buildResult {L : LTS} {e : Eng} (w : WF L e) (size q r : Nat) :
    (q, r) ∈ buildResult e size ↔ q < size ∧ r < size ∧ q < L.n ∧ r < L.n ∧ e.R q r := by
  simp only [buildResult, List.mem_flatMap, List.mem_map, List.mem_filter, List.mem_range, decide_eq_true_eq,
    Prod.mk.injEq]
  constructor
  · rintro ⟨i, _, j, hj, q', ⟨hq', hqs⟩, r', ⟨hr', hrs⟩, h1, h2⟩
    subst h1; subst h2
    refine ⟨hqs, hrs, w.lt_of_mem hq', w.lt_of_mem hr', ?_⟩
    show blockOf e.part r' ∈ e.row (blockOf e.part q')
    rw [w.blockOf_eq hq', w.blockOf_eq hr']
    exact hj
  · rintro ⟨hqs, hrs, hqn, hrn, hR⟩
    obtain ⟨hql, hqm⟩ := w.blockOf_mem hqn
    obtain ⟨_, hrm⟩ := w.blockOf_mem hrn
    exact ⟨blockOf e.part q, by rw [w.hrel]; exact hql, blockOf e.part r, hR, q, ⟨hqm, hqs⟩, r, ⟨hrm, hrs⟩, rfl, rfl⟩

/-- what the invariant says about the induced relation -/
theorem Inv.between {L : LTS} {I : Rel} {e : Eng} (hIn : ∀ y z, (y, z) ∈ I → y < L.n ∧ z < L.n)
    (inv : Inv L (RelOf (ltsSimRef L I)) (RelOf I) e) :
    (∀ q r, (q, r) ∈ ltsSimRef L I → e.R q r) ∧ (∀ q r, q < L.n → r < L.n → e.R q r → (q, r) ∈ I) := by
  refine ⟨fun q r h => ?_, inv.hI⟩
  have hqn := (hIn q r (ltsSimRef_sub L I _ h)).1
  exact inv.hA q q r hqn (inv.wf.hrefl _ (inv.wf.blockOf_mem hqn).1) h

/-- when the queue is empty the induced relation is the greatest simulation inside `I` -/
theorem final_rel {L : LTS} {I : Rel} {e : Eng} (hL : LtsOK L) (hIn : ∀ y z, (y, z) ∈ I → y < L.n ∧ z < L.n)
    (inv : Inv L (RelOf (ltsSimRef L I)) (RelOf I) e) (hq : e.queue = []) (q r : Nat) :
    (q < L.n ∧ r < L.n ∧ e.R q r) ↔ (q, r) ∈ ltsSimRef L I := by
  have hslot : ∀ i a, slotL e i a = [] := fun i a =>
    slotL_none (inv.qk.remv_none (hq ▸ List.not_mem_nil))
  refine ⟨fun h => ?_, fun h => ?_⟩
  · refine ltsSimRef_contains L I (fun x y => x < L.n ∧ y < L.n ∧ e.R x y) ?_ (fun x y h => inv.hI x y h.1 h.2.1 h.2.2)
      q r h
    rintro x y ⟨hx, hy, hxy⟩ a x' hed
    rcases inv.sem.hE x a x' y hed hxy hy with ⟨y', hy', hR'⟩ | h | h
    · exact ⟨y', hy', (hL _ hed).2, (hL _ hy').2, hR'⟩
    · rw [hslot] at h; cases h
    · exact absurd h id
  · have hn := hIn q r (ltsSimRef_sub L I _ h)
    exact ⟨hn.1, hn.2, (inv.between hIn).1 q r h⟩

section main
variable {L : LTS} {part : List (List Nat)} {rel : Rel}

theorem initRel_lt (hp : isPartition part L.n = true) (y z : Nat) (h : (y, z) ∈ initRel part rel) :
    y < L.n ∧ z < L.n := by
  obtain ⟨_, hcov, _⟩ := isPartition_spec hp
  obtain ⟨h1, h2, _⟩ := (mem_initRel part rel y z).mp h
  exact ⟨(hcov y).mp h1, (hcov z).mp h2⟩

/-- the invariant holds after `init`, for the reference simulation -/
theorem init_inv_ref (hL : LtsOK L) (hp : isPartition part L.n = true) (hc : isConsistent part rel = true)
    (htr : RelTrans part rel) :
    Inv L (RelOf (ltsSimRef L (initRel part rel))) (RelOf (initRel part rel)) (engineInit L part rel) ∧
      pot L (engineInit L part rel) ≤ L.n * (labels L + labels L * L.n) :=
  init_inv hL hp hc htr (ltsSimRef_sim L _) (fun y z h => ltsSimRef_sub L _ (y, z) h)

/-- with the internal fuel `run` ends, in a state that satisfies the invariant and has an empty queue -/
theorem engineRun_ref (hL : LtsOK L) (hp : isPartition part L.n = true) (hc : isConsistent part rel = true)
    (htr : RelTrans part rel) :
    ∃ e', engineRun L (fuelBound L) (engineInit L part rel) = some e' ∧
      Inv L (RelOf (ltsSimRef L (initRel part rel))) (RelOf (initRel part rel)) e' ∧ e'.queue = [] := by
  obtain ⟨inv0, hpot⟩ := init_inv_ref hL hp hc htr
  obtain ⟨h1, h2⟩ := engineRun_inv hL (ltsSimRef_sim L _)
    (fun y z hyz => initRel_lt hp y z (ltsSimRef_sub L _ _ hyz)) (fuelBound L) _ inv0
  obtain ⟨e', he'⟩ := h2 (Nat.le_succ_of_le hpot)
  exact ⟨e', he', h1 e' he'⟩

/-- **Output = reference.**  Whatever `computeSimulation` returns is, as a set of pairs, `ltsSimOut` for the relation
on states induced by the partition and the block relation. -/
theorem engine_result_eq (hL : LtsOK L) (hp : isPartition part L.n = true) (hc : isConsistent part rel = true)
    (htr : RelTrans part rel) (k : Nat) (R : Rel) (h : computeSimulation L part rel k = some R) :
    ∀ q r, (q, r) ∈ R ↔ (q, r) ∈ ltsSimOut L (initRel part rel) k := by
  intro q r
  rw [restrict_output]
  unfold computeSimulation at h
  by_cases hk : (k == 0) = true
  · rw [if_pos hk] at h
    rw [← Option.some.inj h, eq_of_beq hk]
    exact ⟨fun h => absurd h List.not_mem_nil, fun h => absurd h.1 (Nat.not_lt_zero q)⟩
  · obtain ⟨e', hrun, inv', hq'⟩ := engineRun_ref hL hp hc htr
    rw [if_neg hk, hrun] at h
    rw [← Option.some.inj h, mem_buildResult inv'.wf, ← final_rel hL (initRel_lt hp) inv' hq' q r]

/-- **Termination.**  The internal fuel `fuelBound L = n·(m + m·n) + 1` is enough: `none` never occurs. -/
theorem engine_total (hL : LtsOK L) (hp : isPartition part L.n = true) (hc : isConsistent part rel = true)
    (htr : RelTrans part rel) (k : Nat) : ∃ R, computeSimulation L part rel k = some R := by
  unfold computeSimulation
  split
  · exact ⟨[], rfl⟩
  · obtain ⟨e', he', _⟩ := engineRun_ref hL hp hc htr
    exact ⟨buildResult e' k, by rw [he']; rfl⟩

/-- both, against the specification: the engine returns a relation, and it contains `(q, r)` exactly when `q, r < k` and
some simulation inside the initial relation relates them -/
theorem engine_spec (hL : LtsOK L) (hp : isPartition part L.n = true) (hc : isConsistent part rel = true)
    (htr : RelTrans part rel) (k : Nat) :
    ∃ R, computeSimulation L part rel k = some R ∧ ∀ q r, (q, r) ∈ R ↔
      q < k ∧ r < k ∧ ∃ S : Nat → Nat → Prop, IsSim L S ∧ (∀ a b, S a b → (a, b) ∈ initRel part rel) ∧ S q r := by
  obtain ⟨R, hR⟩ := engine_total hL hp hc htr k
  refine ⟨R, hR, fun q r => ?_⟩
  rw [engine_result_eq hL hp hc htr k R hR q r, restrict_output_spec]

end main

/-! ### decidable forms of the preconditions -/

def ltsOKB (L : LTS) : Bool := L.edges.all (fun e => decide (e.1 < L.n) && decide (e.2.2 < L.n))

theorem ltsOK_of_B {L : LTS} (h : ltsOKB L = true) : LtsOK L := by
  intro ed hed
  simp only [ltsOKB, List.all_eq_true, Bool.and_eq_true, decide_eq_true_eq] at h
  exact h ed hed

/-- transitivity of the block relation as a list of pairs (the driver's test) -/
def isTransB (rel : Rel) : Bool :=
  rel.all (fun p => rel.all (fun p' => p.2 != p'.1 || rel.contains (p.1, p'.2)))

theorem relTrans_of_B {part : List (List Nat)} {rel : Rel} (h : isTransB rel = true) : RelTrans part rel := by
  intro i j k _ _ _ h1 h2
  simp only [isTransB, List.all_eq_true, Bool.or_eq_true, bne_iff_ne, ne_eq, List.contains_iff_mem] at h
  rcases h (i, j) h1 (j, k) h2 with h3 | h3
  · exact absurd rfl h3
  · exact h3

/-! ### the convenience overloads -/

theorem ltsSimOut_congr (L : LTS) {I I' : Rel} (h : ∀ p, p ∈ I ↔ p ∈ I') (k q r : Nat) :
    (q, r) ∈ ltsSimOut L I k ↔ (q, r) ∈ ltsSimOut L I' k := by
  rw [restrict_output_spec, restrict_output_spec]
  constructor
  · rintro ⟨h1, h2, S, hS, hSI, hqr⟩
    exact ⟨h1, h2, S, hS, fun a b hab => (h _).mp (hSI a b hab), hqr⟩
  · rintro ⟨h1, h2, S, hS, hSI, hqr⟩
    exact ⟨h1, h2, S, hS, fun a b hab => (h _).mpr (hSI a b hab), hqr⟩

theorem isPartition_single {n : Nat} (hn : 0 < n) : isPartition [List.range n] n = true := by
  simp only [isPartition, List.all_cons, List.all_nil, Bool.and_true, List.flatten_cons, List.flatten_nil,
    List.append_nil, Bool.and_eq_true, Bool.not_eq_true', List.all_eq_true, List.mem_range, decide_eq_true_eq,
    beq_iff_eq]
  refine ⟨⟨?_, fun x hx => hx⟩, ?_⟩
  · cases n with
    | zero => omega
    | succ m => simp [List.range_succ]
  · intro q hq
    have h1 : (List.range n).count q ≤ 1 := List.nodup_iff_count.mp List.nodup_range q
    have h2 : 0 < (List.range n).count q := List.count_pos_iff.mpr (List.mem_range.mpr hq)
    omega

theorem blockOf_single {n x : Nat} (hx : x < n) : blockOf [List.range n] x = 0 := by
  simp [blockOf, List.findIdx_cons, hx]

theorem mem_initRel_single {n : Nat} (p : Nat × Nat) :
    p ∈ initRel [List.range n] [(0, 0)] ↔ p ∈ fullRel n := by
  obtain ⟨x, y⟩ := p
  rw [mem_initRel, mem_fullRel]
  simp only [List.flatten_cons, List.flatten_nil, List.append_nil, List.mem_range, List.mem_cons, Prod.mk.injEq,
    List.not_mem_nil, or_false]
  constructor
  · rintro ⟨h1, h2, _⟩; exact ⟨h1, h2⟩
  · rintro ⟨h1, h2⟩; exact ⟨h1, h2, blockOf_single h1, blockOf_single h2⟩

/-- `computeSimulation(outputSize)`: the greatest simulation of the system, restricted to the output size -/
theorem engine1_result_eq {L : LTS} (hL : LtsOK L) (hn : 0 < L.n) (k : Nat) (R : Rel)
    (h : computeSimulation1 L k = some R) : ∀ q r, (q, r) ∈ R ↔ (q, r) ∈ ltsSimOut L (fullRel L.n) k := by
  intro q r
  have hc : isConsistent [List.range L.n] [(0, 0)] = true := by simp [isConsistent]
  have htr : RelTrans [List.range L.n] [(0, 0)] := relTrans_of_B (by decide)
  rw [engine_result_eq hL (isPartition_single hn) hc htr k R h q r]
  exact ltsSimOut_congr L mem_initRel_single k q r

theorem engine1_total {L : LTS} (hL : LtsOK L) (hn : 0 < L.n) (k : Nat) : ∃ R, computeSimulation1 L k = some R :=
  engine_total hL (isPartition_single hn) (by simp [isConsistent]) (relTrans_of_B (by decide)) k

/-- `computeSimulation()` -/
theorem engine0_result_eq {L : LTS} (hL : LtsOK L) (hn : 0 < L.n) (R : Rel) (h : computeSimulation0 L = some R) :
    ∀ q r, (q, r) ∈ R ↔ (q, r) ∈ ltsSimRef L (fullRel L.n) := by
  intro q r
  rw [engine1_result_eq hL hn L.n R h q r, restrict_output]
  constructor
  · exact fun h => h.2.2
  · intro h
    have := mem_fullRel.mp (ltsSimRef_sub L _ _ h)
    exact ⟨this.1, this.2, h⟩

theorem engine0_total {L : LTS} (hL : LtsOK L) (hn : 0 < L.n) : ∃ R, computeSimulation0 L = some R :=
  engine1_total hL hn L.n

/-- the state after `k` iterations -/
def stateAfter (L : LTS) (part : List (List Nat)) (rel : Rel) : Nat → Eng
  | 0 => engineInit L part rel
  | k + 1 => stepOnce L (stateAfter L part rel k)

/-- **Nothing that must stay is ever removed, nothing outside the initial relation ever appears**: after `init` and
after every iteration of `run` the relation induced by partition and block relation contains the greatest simulation
inside the initial relation and is contained in the initial relation; moreover it is a simulation *up to the pending
remove lists* (for `p -a→ p'` and `q` related to `p`: `q` has a matching `a`-successor or `q` is on the remove list
of `(block of p', a)`), every counter counts the successors inside the row, and the states on a remove list have no
successor inside the row. -/
theorem engine_invariant_always {L : LTS} {part : List (List Nat)} {rel : Rel} (hL : LtsOK L)
    (hp : isPartition part L.n = true) (hc : isConsistent part rel = true) (htr : RelTrans part rel) (k : Nat) :
    Inv L (RelOf (ltsSimRef L (initRel part rel))) (RelOf (initRel part rel)) (stateAfter L part rel k) := by
  induction k with
  | zero => exact (init_inv_ref hL hp hc htr).1
  | succ k ih =>
    exact (stepOnce_inv hL (ltsSimRef_sim L _) (fun y z hyz => initRel_lt hp y z (ltsSimRef_sub L _ _ hyz)) ih).1

/-- `initRel` is the relation the driver computes from partition and block relation -/
theorem initRel_eq_filter {part : List (List Nat)} {rel : Rel} {n : Nat} (hp : isPartition part n = true)
    (p : Nat × Nat) :
    p ∈ initRel part rel ↔
      p ∈ (fullRel n).filter (fun p => rel.contains (blockOf part p.1, blockOf part p.2)) := by
  obtain ⟨_, hcov, _⟩ := isPartition_spec hp
  obtain ⟨x, y⟩ := p
  rw [mem_initRel, List.mem_filter, mem_fullRel, hcov, hcov]
  simp only [List.contains_iff_mem]
  constructor
  · rintro ⟨h1, h2, h3⟩; exact ⟨⟨h1, h2⟩, h3⟩
  · rintro ⟨⟨h1, h2⟩, h3⟩; exact ⟨h1, h2, h3⟩

theorem blockOf_lt_of_mem_flatten {part : List (List Nat)} {x : Nat} (hx : x ∈ part.flatten) :
    blockOf part x < part.length := by
  obtain ⟨bl, hbl, hxb⟩ := List.mem_flatten.mp hx
  obtain ⟨i, _, he⟩ := (mem_iff_getD [] part bl).mp hbl
  exact (blockOf_lt part x ⟨i, he ▸ hxb⟩).1

/-- it is reflexive on `0..n-1` when the block relation is reflexive … -/
theorem initRel_refl {part : List (List Nat)} {rel : Rel} {n : Nat} (hp : isPartition part n = true)
    (hc : isConsistent part rel = true) (q : Nat) (hq : q < n) : (q, q) ∈ initRel part rel := by
  have hm := ((isPartition_spec hp).2.1 q).mpr hq
  simp only [isConsistent, List.all_eq_true, List.mem_range, List.contains_iff_mem] at hc
  exact (mem_initRel part rel q q).mpr ⟨hm, hm, hc _ (blockOf_lt_of_mem_flatten hm)⟩

/-- … and transitive when the block relation is -/
theorem initRel_trans {part : List (List Nat)} {rel : Rel} (htr : RelTrans part rel) (a b c : Nat) (h1 : (a, b) ∈ initRel part rel) (h2 : (b, c) ∈ initRel part rel) :
    (a, c) ∈ initRel part rel := by
  obtain ⟨ha, hb, hab⟩ := (mem_initRel part rel a b).mp h1
  obtain ⟨_, hc, hbc⟩ := (mem_initRel part rel b c).mp h2
  exact (mem_initRel part rel a c).mpr ⟨ha, hc, htr _ _ _ (blockOf_lt_of_mem_flatten ha)
    (blockOf_lt_of_mem_flatten hb) (blockOf_lt_of_mem_flatten hc) hab hbc⟩

/-! ### non-vacuity, and the counterexample for a non-transitive block relation -/

namespace EngEx

/-- `0 -a→ 2`, `1 -a→ 2`, `1 -b→ 2`, blocks `{0,1}`, `{2}`, block relation `{(0,0),(0,1),(1,1)}` -/
def L1 : LTS := exL
def part1 : List (List Nat) := [[0, 1], [2]]
def rel1 : Rel := [(0, 0), (0, 1), (1, 1)]

example : ltsOKB L1 = true ∧ isPartition part1 L1.n = true ∧ isConsistent part1 rel1 = true ∧ isTransB rel1 = true := by
  decide +kernel

example : computeSimulation L1 part1 rel1 3 = some [(0, 0), (0, 1), (2, 2), (1, 1)] := by decide +kernel

example : computeSimulation0 L1 = some [(2, 2), (2, 0), (2, 1), (0, 0), (0, 1), (1, 1)] := by decide +kernel

/-- a chain `0 -a→ 1 -a→ 2` and a loop `3 -a→ 3`: `run` iterates twice and splits a block in each iteration -/
def L3 : LTS := ⟨4, [(0, 0, 1), (1, 0, 2), (3, 0, 3)]⟩

example : (stateAfter L3 [[0, 1, 2, 3]] [(0, 0)] 0).part = [[2], [3, 0, 1]] ∧
    (stateAfter L3 [[0, 1, 2, 3]] [(0, 0)] 0).queue = [(1, 0)] ∧
    (stateAfter L3 [[0, 1, 2, 3]] [(0, 0)] 1).part = [[2], [3, 0], [1]] ∧
    (stateAfter L3 [[0, 1, 2, 3]] [(0, 0)] 1).rel = [[0, 1, 2], [1], [1, 2]] ∧
    (stateAfter L3 [[0, 1, 2, 3]] [(0, 0)] 2).part = [[2], [3], [1], [0]] ∧
    (stateAfter L3 [[0, 1, 2, 3]] [(0, 0)] 2).rel = [[0, 1, 2, 3], [1], [1, 2, 3], [1, 3]] ∧
    (stateAfter L3 [[0, 1, 2, 3]] [(0, 0)] 2).queue = [] ∧
    computeSimulation0 L3 = some [(2, 2), (2, 3), (2, 1), (2, 0), (3, 3), (1, 3), (1, 1), (1, 0), (0, 3), (0, 0)] := by
  decide +kernel

/-- the system of the counterexample: blocks `{0}`, `{2,4}`, `{1,3}`; the block relation is reflexive but not transitive
(`1 → 2 → 0` without `1 → 0`) -/
def L2 : LTS := ⟨5, [(4, 0, 4), (4, 0, 0), (3, 0, 4), (4, 0, 2), (2, 0, 1), (2, 0, 0)]⟩
def part2 : List (List Nat) := [[0], [2, 4], [1, 3]]
def rel2 : Rel := [(0, 0), (1, 1), (2, 2), (0, 1), (0, 2), (1, 2), (2, 0)]

/-- everything `init` asserts holds, the relation is not transitive, and the engine loses the pair `(4, 3)` of the
greatest simulation inside the initial relation (the real library returns the same 12 pairs on this input) -/
theorem nontransitive_counterexample :
    ltsOKB L2 = true ∧ isPartition part2 L2.n = true ∧ isConsistent part2 rel2 = true ∧ isTransB rel2 = false ∧
    computeSimulation L2 part2 rel2 5 =
      some [(0, 0), (0, 4), (0, 1), (0, 3), (0, 2), (4, 4), (1, 0), (1, 1), (1, 3), (3, 3), (2, 4), (2, 2)] ∧
    (4, 3) ∈ ltsSimOut L2 (initRel part2 rel2) 5 := by decide +kernel

end EngEx

end Vata.LE
