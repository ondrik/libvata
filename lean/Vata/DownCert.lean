import Vata.Basic
/-!
# Downward inclusion certificates: the closure condition and what its soundness proof needs

`DownCert A B X`: every pair `(p, P)` of `X`, every rule of `A` with parent `p` and every choice function on the rules of the
states of `P` (same symbol, same arity) has a position whose pair is subsumed by `X` (`Sub`).  `Holds A B X t` is what such a set
says about a tree.  `firstFail` is the choice function of the soundness proof (the first position at which a rule of `B` fails to
match the children), with the two look-up lemmas about `reachL` / `matchKids`.  The soundness theorems (`down_cert_incl`, and
`down_certR_incl` modulo preorders, of which it is an instance) are in `Vata/Proofs/InclDown.lean`.
-/
namespace Vata

/-- rules of `B` with parent in `P`, symbol `f`, arity `n` -/
def rulesOf (B : TA) (P : List Nat) (f n : Nat) : List Rule :=
  B.rules.filter (fun r => P.contains r.parent && r.sym == f && r.kids.length == n)

/-- `i`-th children of the rules of `W` that the choice function sends to position `i` -/
def sset (W : List Rule) (c : Rule → Nat) (i : Nat) : List Nat :=
  W.filterMap (fun r => if c r = i then r.kids[i]? else none)

def Sub (X : List (Nat × List Nat)) (p : Nat) (S : List Nat) : Prop :=
  ∃ S', (p, S') ∈ X ∧ ∀ s, s ∈ S' → s ∈ S

def DownCert (A B : TA) (X : List (Nat × List Nat)) : Prop :=
  ∀ p P, (p, P) ∈ X → ∀ ρ, ρ ∈ A.rules → ρ.parent = p →
    ∀ c : Rule → Nat, (∀ r, r ∈ rulesOf B P ρ.sym ρ.kids.length → c r < ρ.kids.length) →
      ∃ i, ∃ k, ρ.kids[i]? = some k ∧ Sub X k (sset (rulesOf B P ρ.sym ρ.kids.length) c i)

/-- first position where `qs` fails to match `ss` (meaningful when the lengths agree and the match fails) -/
def firstFail : List Nat → List (List Nat) → Nat
  | q :: qs, s :: ss => if s.contains q then firstFail qs ss + 1 else 0
  | _, _ => 0

theorem firstFail_spec : ∀ (qs : List Nat) (ss : List (List Nat)), qs.length = ss.length →
    matchKids qs ss = false → firstFail qs ss < qs.length ∧
      ∃ k s, qs[firstFail qs ss]? = some k ∧ ss[firstFail qs ss]? = some s ∧ k ∉ s
  | [], [], _, h => by simp [matchKids] at h
  | [], _ :: _, hl, _ => by simp at hl
  | _ :: _, [], hl, _ => by simp at hl
  | q :: qs, s :: ss, hl, h => by
    by_cases hq : s.contains q = true
    · have hq' : q ∈ s := by simpa [List.contains_iff_mem] using hq
      have h' : matchKids qs ss = false := by simpa [matchKids, hq'] using h
      obtain ⟨h1, k, s', h2, h3, h4⟩ := firstFail_spec qs ss (by simpa using hl) h'
      simp only [firstFail, hq, if_true, List.length_cons]
      exact ⟨by omega, k, s', by simpa using h2, by simpa using h3, h4⟩
    · simp only [firstFail, hq, List.length_cons]
      refine ⟨by simp, q, s, by simp, by simp, ?_⟩
      simpa [List.contains_iff_mem] using hq

/-- `i`-th component of `reachL` -/
theorem reachL_get (A : TA) : ∀ (ts : List Tree) (i : Nat) (s : List Nat), (reachL A ts)[i]? = some s →
    ∃ t, t ∈ ts ∧ ts[i]? = some t ∧ s = reach A t
  | [], i, s, h => by simp [reachL] at h
  | t :: ts, 0, s, h => by simp only [reachL, List.getElem?_cons_zero, Option.some.injEq] at h; exact ⟨t, by simp, by simp, h.symm⟩
  | t :: ts, i+1, s, h => by
    simp only [reachL, List.getElem?_cons_succ] at h
    obtain ⟨t', h1, h2, h3⟩ := reachL_get A ts i s h
    exact ⟨t', List.mem_cons_of_mem _ h1, by simpa using h2, h3⟩

theorem matchKids_get : ∀ (qs : List Nat) (ss : List (List Nat)), matchKids qs ss = true →
    ∀ (i k : Nat), qs[i]? = some k → ∃ s, ss[i]? = some s ∧ k ∈ s
  | [], [], _, i, k, h => by simp at h
  | [], _ :: _, h, _, _, _ => by simp [matchKids] at h
  | _ :: _, [], h, _, _, _ => by simp [matchKids] at h
  | q :: qs, s :: ss, h, 0, k, hk => by
    simp only [matchKids, Bool.and_eq_true, List.contains_iff_mem] at h
    simp only [List.getElem?_cons_zero, Option.some.injEq] at hk
    exact ⟨s, by simp, hk ▸ h.1⟩
  | q :: qs, s :: ss, h, i+1, k, hk => by
    simp only [matchKids, Bool.and_eq_true] at h
    simp only [List.getElem?_cons_succ] at hk
    obtain ⟨s', h1, h2⟩ := matchKids_get qs ss h.2 i k hk
    exact ⟨s', by simpa using h1, h2⟩

def Holds (A B : TA) (X : List (Nat × List Nat)) (t : Tree) : Prop :=
  ∀ p P, (p, P) ∈ X → p ∈ reach A t → ∃ r, r ∈ P ∧ r ∈ reach B t

end Vata
