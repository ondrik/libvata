import Vata.Proofs.LtsUtilSRShape

/-!
# `SplittingRelation` — the four phases of `split`; `split` refines `aSplit`

`split` is the sequence of four phases: (1) copy column `idx` into the new column `n`; (2) the reflexive cell `(n, n)`
closes the new column; (3) copy row `idx` (all but its last cell, the copy made in phase 1) into the new row `n`; (4) the
reflexive cell becomes the last cell of the new row.  `SC` and `SW` are the invariants of the two copy loops.  Phase 2 and
phase 4 are the column half and the row half of adding the cell `(n, n)`; in between (`SW`, `EL`) it is the last cell of
column `n` and in no row.

`split_refines`: `split(i)` of a reflexive index below the capacity succeeds and represents `aSplit rel i`; the capacity
`rows_.size()` stays.
-/
namespace Vata.LU.SR
namespace P

theorem splitCol_step {s : T} {idx n fuel e : Nat} {last L q q' : Ptr}
    (h1 : (obs (alloc s).2).gd last = some q)
    (h2 : (obs (alloc s).2).gl (.rowS ((s.cells.get e).row + 1)) = some L)
    (h3 : (obs (alloc s).2).gr L = some q') :
    ∃ s6, splitCol idx n (fuel + 1) s last (.cell e) = splitCol idx n fuel s6 (.cell (alloc s).1) (s6.cells.get e).down ∧
      obs s6 = { obs (alloc s).2 with
        gd := upd (obs (alloc s).2).gd last (.cell (alloc s).1),
        gu := upd (obs (alloc s).2).gu (.cell (alloc s).1) last,
        gr := upd (upd (obs (alloc s).2).gr L (.cell (alloc s).1)) (.cell (alloc s).1) (.rowS ((s.cells.get e).row + 1)),
        gl := upd (upd (obs (alloc s).2).gl (.cell (alloc s).1) L) (.rowS ((s.cells.get e).row + 1)) (.cell (alloc s).1),
        col := updN (obs (alloc s).2).col (alloc s).1 n,
        row := updN (obs (alloc s).2).row (alloc s).1 (s.cells.get e).row } := by
  simp only [splitCol, reduceCtorEq, if_false]
  generalize (alloc s).1 = t at *
  generalize (alloc s).2 = s1 at *
  generalize (s.cells.get e).row = r at *
  obtain ⟨s2, a2, e2⟩ := setDown_obs (.cell t) h1
  simp only [a2]
  generalize hs2u : ({ s2 with cells := s2.cells.set t { s2.cells.get t with up := last } } : T) = s2u
  have e2u : obs s2u = { obs s2 with gu := upd (obs s2).gu (.cell t) last } := by rw [← hs2u, obs_setCell]; simp
  have b2 : (obs s2).gl (.rowS (r + 1)) = some L := by rw [e2]; exact h2
  obtain ⟨rw, hrw1, hrw2⟩ := rows_second b2
  simp only [hrw1, hrw2]
  have c2 : (obs s2u).gr L = some q' := by rw [e2u, e2]; exact h3
  obtain ⟨s3, a3, e3⟩ := setRight_obs (.cell t) c2
  simp only [a3]
  have b3 : (obs s3).gl (.rowS (r + 1)) = some L := by rw [e3, e2u]; exact b2
  rw [rows_second_getD b3]
  generalize hs4 : ({ s3 with cells := s3.cells.set t { s3.cells.get t with left := L, right := .rowE r } } : T) = s4
  have e4 : obs s4 = { obs s3 with gl := upd (obs s3).gl (.cell t) L, gr := upd (obs s3).gr (.cell t) (.rowS (r + 1)) } := by
    rw [← hs4, obs_setCell]; simp
  have b4 : (obs s4).gl (.rowS (r + 1)) = some L := by rw [e4]; simp only []; rw [upd_ne _ _ (by simp)]; exact b3
  obtain ⟨s5, a5, e5⟩ := setLeft_obs (.cell t) b4
  simp only [setRowSecond_eq, a5]
  refine ⟨_, rfl, ?_⟩
  rw [obs_setCell]
  simp only [upd_gr_self, upd_gl_self, upd_gd_self, upd_gu_self]
  rw [e5, e4, e3, e2u, e2]

theorem splitRow_step {s : T} {idx n fuel e : Nat} {last U q q' : Ptr} {rw0 : Ptr × Ptr}
    (h0 : s.rows[idx]? = some rw0) (hne : Ptr.cell e ≠ rw0.2)
    (h1 : (obs (alloc s).2).gr last = some q)
    (h2 : (obs (alloc s).2).gu (.colS ((s.cells.get e).col + 1)) = some U)
    (h3 : (obs (alloc s).2).gd U = some q') :
    ∃ s6, splitRow idx n (fuel + 1) s last (.cell e) = splitRow idx n fuel s6 (.cell (alloc s).1) (s6.cells.get e).right ∧
      obs s6 = { obs (alloc s).2 with
        gr := upd (obs (alloc s).2).gr last (.cell (alloc s).1),
        gl := upd (obs (alloc s).2).gl (.cell (alloc s).1) last,
        gd := upd (upd (obs (alloc s).2).gd U (.cell (alloc s).1)) (.cell (alloc s).1) (.colS ((s.cells.get e).col + 1)),
        gu := upd (upd (obs (alloc s).2).gu (.cell (alloc s).1) U) (.colS ((s.cells.get e).col + 1)) (.cell (alloc s).1),
        col := updN (obs (alloc s).2).col (alloc s).1 (s.cells.get e).col,
        row := updN (obs (alloc s).2).row (alloc s).1 n } := by
  simp only [splitRow, h0, hne, if_false]
  generalize (alloc s).1 = t at *
  generalize (alloc s).2 = s1 at *
  generalize (s.cells.get e).col = c at *
  obtain ⟨s2, a2, e2⟩ := setRight_obs (.cell t) h1
  simp only [a2]
  generalize hs2u : ({ s2 with cells := s2.cells.set t { s2.cells.get t with left := last } } : T) = s2u
  have e2u : obs s2u = { obs s2 with gl := upd (obs s2).gl (.cell t) last } := by rw [← hs2u, obs_setCell]; simp
  have b2 : (obs s2).gu (.colS (c + 1)) = some U := by rw [e2]; exact h2
  have b2u : (obs s2u).gu (.colS (c + 1)) = some U := by rw [e2u]; exact b2
  obtain ⟨cl, hcl1, hcl2⟩ := cols_second b2
  simp only [hcl1, hcl2]
  have c2 : (obs s2u).gd U = some q' := by rw [e2u, e2]; exact h3
  obtain ⟨s3, a3, e3⟩ := setDown_obs (.cell t) c2
  simp only [a3]
  have b3 : (obs s3).gu (.colS (c + 1)) = some U := by rw [e3]; exact b2u
  rw [cols_second_getD b3]
  generalize hs4 : ({ s3 with cells := s3.cells.set t { s3.cells.get t with up := U, down := .colE c } } : T) = s4
  have e4 : obs s4 = { obs s3 with gu := upd (obs s3).gu (.cell t) U, gd := upd (obs s3).gd (.cell t) (.colS (c + 1)) } := by
    rw [← hs4, obs_setCell]; simp
  have b4 : (obs s4).gu (.colS (c + 1)) = some U := by rw [e4]; simp only []; rw [upd_ne _ _ (by simp)]; exact b3
  obtain ⟨s5, a5, e5⟩ := setUp_obs (.cell t) b4
  simp only [setColSecond_eq, a5]
  refine ⟨_, rfl, ?_⟩
  rw [obs_setCell]
  simp only [upd_gr_self, upd_gl_self, upd_gd_self, upd_gu_self]
  rw [e5, e4, e3, e2u, e2]


variable {o o1 o5 o6 o9 : Obs} {n idx el : Nat} {R C : Nat → List Nat} {done todo : List Nat}

theorem GS.grow {cr cc : Nat → Prop} (h : GS o n R C cr cc) (hn : n < o.nr) :
    GS o (n + 1) R C (fun k => cr k ∧ k < n) (fun k => cc k ∧ k < n) ∧ R n = [] ∧ C n = [] := by
  have d := h.data
  have hRn : R n = [] := List.eq_nil_iff_forall_not_mem.2 (fun a ha => Nat.lt_irrefl _ (d.rlt n a ha).1)
  have hCn : C n = [] := List.eq_nil_iff_forall_not_mem.2 (fun a ha => Nat.lt_irrefl _ (d.C_lt ha).1)
  exact ⟨⟨⟨d.rrow, d.ccol, d.rc, d.cr, fun i a ha => ⟨Nat.lt_succ_of_lt (d.rlt i a ha).1, Nat.lt_succ_of_lt (d.rlt i a ha).2⟩,
    d.rnd, d.csorted⟩, h.rows.grow hRn, h.cols.grow hCn, hn, h.nc⟩, hRn, hCn⟩

/-- loop invariant of "copy column": `done` = the part of column `idx` already copied -/
structure SC (o : Obs) (n idx : Nat) (R C : Nat → List Nat) (done todo : List Nat) : Prop where
  gs : GS o (n + 1) R C (fun k => k < n) (fun k => k < n)
  mem : Mem o R
  cidx : C idx = done ++ todo
  rn : R n = []
  cn : (C n).map o.row = done.map o.row

theorem SC.row_lt {e : Nat}
    (h : SC o n idx R C done (e :: todo)) : o.row e < n := by
  have d := h.gs.data
  have heC : e ∈ C idx := by rw [h.cidx]; simp
  have h1 := (d.C_lt heC).2
  have h2 : o.row e ≠ n := by
    intro e'
    have := d.cr idx e heC
    rw [e', h.rn] at this; simp at this
  exact Nat.lt_of_le_of_ne (Nat.le_of_lt_succ h1) h2

theorem SC.step {e t : Nat}
    (h : SC o n idx R C done (e :: todo)) (hidx : idx < n) (ha : AllocRel o o1 t)
    (e6 : o6 = { o1 with
        gd := upd o1.gd (lastP (.colS n) (C n)) (.cell t),
        gu := upd o1.gu (.cell t) (lastP (.colS n) (C n)),
        gr := upd (upd o1.gr (lastP (.rowS (o.row e)) (R (o.row e))) (.cell t)) (.cell t) (.rowS (o.row e + 1)),
        gl := upd (upd o1.gl (.cell t) (lastP (.rowS (o.row e)) (R (o.row e)))) (.rowS (o.row e + 1)) (.cell t),
        col := updN o1.col t n,
        row := updN o1.row t (o.row e) }) :
    SC o6 n idx (setL R (o.row e) (R (o.row e) ++ [t])) (setL C n (C n ++ [t])) (done ++ [e]) todo ∧
      (∀ k, t ∉ R k) ∧ (∀ x, x ≠ t → o6.col x = o.col x) ∧ (∀ x, x ≠ t → o6.row x = o.row x) ∧ o6.col t = n ∧
      o.row e < n := by
  have d := h.gs.data
  have hfresh : ∀ k, t ∉ R k := h.mem.fresh ha
  have hfC := d.not_mem_C hfresh
  have g1 := h.gs.alloc ha hfresh
  have heC : e ∈ C idx := by rw [h.cidx]; simp
  have hsorted := d.csorted idx
  rw [h.cidx, List.map_append, List.pairwise_append] at hsorted
  have hr_lt : o.row e < n := h.row_lt
  -- the cells of the new column so far are copies of `done`, which lies above `e`
  have hcn_lt : ∀ x ∈ C n, o.row x < o.row e := by
    intro x hx
    have : o.row x ∈ (C n).map o.row := List.mem_map_of_mem hx
    rw [h.cn] at this
    obtain ⟨y, hy, hyx⟩ := List.mem_map.1 this
    rw [← hyx]; exact hsorted.2.2 _ (List.mem_map_of_mem hy) _ (by simp)
  have het : e ≠ t := fun e' => hfC idx (e' ▸ heC)
  have hrow6 : ∀ x, x ≠ t → o6.row x = o.row x := fun x hx => by
    rw [e6]; exact (updN_ne _ _ hx).trans (ha.row x hx)
  have hcol6 : ∀ x, x ≠ t → o6.col x = o.col x := fun x hx => by
    rw [e6]; exact (updN_ne _ _ hx).trans (ha.col x hx)
  refine ⟨⟨⟨?_, ?_, ?_, ?_, ?_⟩, ?_, ?_, ?_, ?_⟩, hfresh, hcol6, hrow6, ?_, hr_lt⟩
  · rw [e6]; show Data (updN o1.col t n) (updN o1.row t (o.row e)) _ _ _
    rw [updN_congr _ ha.col, updN_congr _ ha.row]
    refine d.push hfresh (Nat.lt_succ_of_lt hr_lt) (Nat.lt_succ_self n) (fun hm => ?_) hcn_lt
    obtain ⟨x, hx, hxn⟩ := List.mem_map.1 hm
    have h2 := hcn_lt x (hxn ▸ d.rc _ x hx)
    rw [d.rrow _ x hx] at h2
    exact Nat.lt_irrefl _ h2
  · rw [e6]; exact g1.rows.push_close sent_row g1.data.rowL _ hfresh (fun k _ hk => Or.inl hk)
  · rw [e6]; exact (g1.cols.push sent_col g1.data.colL n hfC).weaken (fun k _ hk => ⟨hk, Nat.ne_of_lt hk⟩)
  · rw [e6]; exact g1.nr
  · rw [e6]; exact g1.nc
  · exact (h.mem.alloc ha).push _ (o' := o6) (by rw [e6]; exact Nat.le_refl _) (by rw [e6]) (by rw [e6]; exact ha.pop.lt)
      ha.pop.nf
  · rw [setL_ne _ _ (Nat.ne_of_lt hidx), h.cidx]; simp
  · rw [setL_ne _ _ (Nat.ne_of_gt hr_lt)]; exact h.rn
  · rw [setL_same, List.map_append, List.map_append]
    have e1 : (C n).map o6.row = (C n).map o.row :=
      List.map_congr_left (fun x hx => hrow6 x (fun e' => hfC n (e' ▸ hx)))
    have e2 : done.map o6.row = done.map o.row :=
      List.map_congr_left (fun x hx => hrow6 x (fun e' => hfC idx (by rw [h.cidx]; exact e' ▸ List.mem_append_left _ hx)))
    rw [e1, e2, h.cn]
    simp only [List.map_cons, List.map_nil, List.append_cancel_left_eq, List.cons.injEq, and_true]
    rw [hrow6 e het, e6]; exact updN_same _ _ _
  · rw [e6]; exact updN_same _ _ _

theorem splitCol_spec (idx n : Nat) (hidx : idx < n) (todo : List Nat) : ∀ (fuel : Nat) (s : T) (R C : Nat → List Nat)
    (done : List Nat), SC (obs s) n idx R C done todo → todo.length < fuel →
    ∃ s' R' C', splitCol idx n fuel s (lastP (.colS n) (C n)) (headP todo (.colS (idx + 1))) =
        some (s', lastP (.colS n) (C' n)) ∧
      SC (obs s') n idx R' C' (done ++ todo) [] ∧
      (∀ k, k < n → (R' k).map (obs s').col =
        (R k).map (obs s).col ++ (if k ∈ todo.map (obs s).row then [n] else [])) ∧
      (obs s').size = (obs s).size ∧ (obs s').nr = (obs s).nr := by
  induction todo with
  | nil =>
    intro fuel s R C done h hf
    cases fuel with
    | zero => exact absurd hf (Nat.not_lt_zero _)
    | succ fuel =>
      exact ⟨s, R, C, by simp [splitCol], by simpa using h, fun k _ => by simp, rfl, rfl⟩
  | cons e todo ih =>
    intro fuel s R C done h hf
    cases fuel with
    | zero => exact absurd hf (Nat.not_lt_zero _)
    | succ fuel =>
      have d := h.gs.data
      have hal := alloc_spec s h.mem.fnd h.mem.flt
      have hfresh : ∀ k, (alloc s).1 ∉ R k := h.mem.fresh hal
      have g1 := h.gs.alloc hal hfresh
      have hr := h.row_lt
      have hnc : n < (obs (alloc s).2).nc := by rw [g1.nc]; exact g1.nr
      obtain ⟨q, hq⟩ := gd_lastP_some (s := (alloc s).2) (C n) hnc
      obtain ⟨c1, c2⟩ := g1.rows.cls ((obs s).row e) (Nat.lt_succ_of_lt hr) hr
      obtain ⟨s6, e1, e6⟩ := splitCol_step (idx := idx) (n := n) (fuel := fuel) (e := e) hq c2 c1
      obtain ⟨h6, _, hcol6, hrow6, hcolt, _⟩ := h.step hidx hal e6
      -- the next element of the column
      have hcC := h6.gs.colC (j := idx) (Nat.lt_succ_of_lt hidx) hidx
      unfold ColC at hcC
      rw [h6.cidx, List.append_assoc] at hcC
      obtain ⟨r1, -, -, -⟩ := DL_mid _ _ _ _ _ hcC
      have hdown := down_of r1
      obtain ⟨s', R', C', e2, h', hv, hsz, hnr⟩ :=
        ih fuel s6 _ _ (done ++ [e]) h6 (by simpa using hf)
      have hsorted := d.csorted idx
      rw [h.cidx, List.map_append, List.pairwise_append] at hsorted
      have hsorted2 := hsorted.2.1
      rw [List.map_cons, List.pairwise_cons] at hsorted2
      have hfC := d.not_mem_C hfresh
      refine ⟨s', R', C', ?_, by simpa using h', ?_, by rw [hsz, e6]; exact hal.size, by rw [hnr, e6]; exact hal.nr⟩
      · rw [headP_cons, e1, hdown]
        rw [setL_same, lastP_snoc] at e2
        exact e2
      · intro k hk
        rw [hv k hk]
        have htodo : todo.map (obs s6).row = todo.map (obs s).row :=
          List.map_congr_left (fun x hx => hrow6 x (fun e' => hfC idx (by rw [h.cidx]; exact e' ▸ (by simp [hx]))))
        rw [htodo]
        by_cases hkr : k = (obs s).row e
        · subst hkr
          rw [setL_same, List.map_append, List.map_congr_left (fun x hx => hcol6 x (fun e' => hfresh _ (e' ▸ hx)))]
          have : (obs s).row e ∉ todo.map (obs s).row := fun hm => Nat.lt_irrefl _ (hsorted2.1 _ hm)
          simp [this, hcolt]
        · rw [setL_ne _ _ hkr, List.map_congr_left (fun x hx => hcol6 x (fun e' => hfresh _ (e' ▸ hx)))]
          simp [hkr]

/-- "put reflexivity" of `split` -/
def phase2 (s1 : T) (last : Ptr) (newIndex : Nat) : Option T :=
  let es := alloc s1
  let el := Ptr.cell es.1
  match setDown es.2 last el with
  | none => none
  | some s2 =>
    let s3 : T := { s2 with cells := s2.cells.set es.1 { s2.cells.get es.1 with up := last, down := .colE newIndex } }
    match setColSecond s3 newIndex el with
    | none => none
    | some s4 =>
      some { s4 with cells := s4.cells.set es.1 { s4.cells.get es.1 with right := .rowE newIndex, col := newIndex, row := newIndex } }

/-- "finish reflexivity" of `split` -/
def phase4 (s6 : T) (last2 : Ptr) (newIndex : Nat) : Option T :=
  let cSec := (s6.cols.getD newIndex default).2
  match setRight s6 last2 cSec with
  | none => none
  | some s7 =>
    match setLeft s7 cSec last2 with
    | none => none
    | some s8 =>
      match setRowSecond s8 newIndex (s8.cols.getD newIndex default).2 with
      | none => none
      | some s9 => some { s9 with size := s9.size + 1 }

theorem split_some {s : T} {idx : Nat} {cl rw : Ptr × Ptr} {s1 s5 s6 s9 : T} {last last2 : Ptr}
    (hc : idx < s.size ∧ s.size < s.cols.length ∧ s.size < s.rows.length)
    (h0 : s.cols[idx]? = some cl)
    (h1 : splitCol idx s.size (s.next + 1) s (.colB s.size) cl.1 = some (s1, last))
    (h2 : phase2 s1 last s.size = some s5)
    (h3 : s5.rows[idx]? = some rw)
    (h4 : splitRow idx s.size (s5.next + 1) s5 (.rowB s.size) rw.1 = some (s6, last2))
    (h5 : phase4 s6 last2 s.size = some s9) : split s idx = some s9 := by
  unfold split
  rw [if_pos hc]
  simp only [h0, h1]
  unfold phase2 at h2
  simp only [] at h2
  split at h2
  · simp at h2
  · rename_i s2 hs2
    simp only [hs2]
    split at h2
    · simp at h2
    · rename_i s4 hs4
      simp only [hs4]
      obtain rfl := Option.some.inj h2
      simp only [h3, h4]
      unfold phase4 at h5
      simp only [] at h5
      split at h5
      · simp at h5
      · rename_i s7 hs7
        simp only [hs7]
        split at h5
        · simp at h5
        · rename_i s8 hs8
          simp only [hs8]
          split at h5
          · simp at h5
          · rename_i s9' hs9
            simp only [hs9]
            exact h5


theorem phase2_obs {s1 : T} {last q q' : Ptr} {n : Nat}
    (h1 : (obs (alloc s1).2).gd last = some q) (h2 : (obs (alloc s1).2).gu (.colS (n + 1)) = some q') :
    ∃ s5, phase2 s1 last n = some s5 ∧
      obs s5 = { obs (alloc s1).2 with
        gd := upd (upd (obs (alloc s1).2).gd last (.cell (alloc s1).1)) (.cell (alloc s1).1) (.colS (n + 1)),
        gu := upd (upd (obs (alloc s1).2).gu (.cell (alloc s1).1) last) (.colS (n + 1)) (.cell (alloc s1).1),
        gr := upd (obs (alloc s1).2).gr (.cell (alloc s1).1) (.rowS (n + 1)),
        col := updN (obs (alloc s1).2).col (alloc s1).1 n,
        row := updN (obs (alloc s1).2).row (alloc s1).1 n } := by
  unfold phase2
  simp only []
  generalize (alloc s1).1 = t at *
  generalize (alloc s1).2 = sa at *
  obtain ⟨s2, a2, e2⟩ := setDown_obs (.cell t) h1
  simp only [a2]
  generalize hs3 : ({ s2 with cells := s2.cells.set t { s2.cells.get t with up := last, down := .colE n } } : T) = s3
  have e3 : obs s3 = { obs s2 with gu := upd (obs s2).gu (.cell t) last, gd := upd (obs s2).gd (.cell t) (.colS (n + 1)) } := by
    rw [← hs3, obs_setCell]; simp
  have b3 : (obs s3).gu (.colS (n + 1)) = some q' := by
    rw [e3]; simp only []; rw [upd_ne _ _ (by simp), e2]; exact h2
  obtain ⟨s4, a4, e4⟩ := setUp_obs (.cell t) b3
  simp only [setColSecond_eq, a4]
  refine ⟨_, rfl, ?_⟩
  rw [obs_setCell]
  simp only [upd_gl_self, upd_gd_self, upd_gu_self]
  rw [e4, e3, e2]

/-- Between phase 2 and phase 4 the reflexive cell `el` is the last cell of column `n` and in no row: the columns are the
chains over `C` with `el` appended to `C n`, all closed (`SW.cols`), while `Data` speaks of `(R, C)` without `el`.  `EL` is the
rest: `right_` of `el` is `rowEnd(n)` already, `el` is allocated and in no row list. -/
structure EL (o : Obs) (n el : Nat) (R : Nat → List Nat) : Prop where
  r : o.gr (.cell el) = some (.rowS (n + 1))
  col : o.col el = n
  row : o.row el = n
  nfree : el ∉ o.free
  lt : el < o.next
  fresh : ∀ k, el ∉ R k

theorem setL_comm (L : Nat → List Nat) {i j : Nat} (h : i ≠ j) (x y : List Nat) :
    setL (setL L i x) j y = setL (setL L j y) i x := by
  funext k; unfold setL
  by_cases hj : k = j
  · rw [if_pos hj, if_neg (fun e => h (e.symm.trans hj)), if_pos hj]
  · rw [if_neg hj, if_neg hj]

/-- phase 2 is the column half of adding the cell `(n, n)`: `el` becomes the last cell of column `n`, which is closed -/
theorem reflex_shape
    (h : GS o1 (n + 1) R C (fun k => k < n) (fun k => k < n)) (hfresh : ∀ k, el ∉ R k)
    (e5 : o5 = { o1 with
        gd := upd (upd o1.gd (lastP (.colS n) (C n)) (.cell el)) (.cell el) (.colS (n + 1)),
        gu := upd (upd o1.gu (.cell el) (lastP (.colS n) (C n))) (.colS (n + 1)) (.cell el),
        gr := upd o1.gr (.cell el) (.rowS (n + 1)),
        col := updN o1.col el n, row := updN o1.row el n }) :
    Data o5.col o5.row (n + 1) R C ∧ Chains o5.gr o5.gl .rowS (n + 1) R (fun k => k < n) ∧
      Chains o5.gd o5.gu .colS (n + 1) (setL C n (C n ++ [el])) (fun _ => True) ∧
      o5.gr (.cell el) = some (.rowS (n + 1)) ∧ o5.col el = n ∧ o5.row el = n := by
  have d := h.data
  rw [e5]
  refine ⟨d.congr (fun k x hx => updN_ne _ _ (fun e' => hfresh k (e' ▸ hx)))
      (fun k x hx => updN_ne _ _ (fun e' => hfresh k (e' ▸ hx))),
    h.rows.frame_cell sent_row d.rowL hfresh (fun p hp => upd_ne _ _ hp) (fun _ _ => rfl),
    h.cols.push_close sent_col d.colL n (d.not_mem_C hfresh) (fun k hk _ => Nat.lt_succ_iff_lt_or_eq.1 hk),
    upd_same _ _ _, updN_same _ _ _, updN_same _ _ _⟩


/-- loop invariant of "copy row": `done` = the part of row `idx` already copied, `z` its last cell (the copy made in
phase 1) -/
structure SW (o : Obs) (n idx el : Nat) (R C : Nat → List Nat) (done todo : List Nat) (z : Nat) : Prop where
  data : Data o.col o.row (n + 1) R C
  rows : Chains o.gr o.gl .rowS (n + 1) R (fun k => k < n)
  cols : Chains o.gd o.gu .colS (n + 1) (setL C n (C n ++ [el])) (fun _ => True)
  nr : n + 1 ≤ o.nr
  nc : o.nc = o.nr
  mem : Mem o R
  el : EL o n el R
  ridx : R idx = done ++ todo ++ [z]
  zcol : o.col z = n
  rn : (R n).map o.col = done.map o.col

theorem SW.col_lt {e z : Nat}
    (h : SW o n idx el R C done (e :: todo) z) : o.col e < n := by
  have d := h.data
  have heR : e ∈ R idx := by rw [h.ridx]; simp
  have h1 := (d.rlt idx e heR).2
  have hnd := d.rnd idx
  rw [h.ridx] at hnd
  have h2 : o.col e ≠ n := by
    intro e'
    simp only [List.map_append, List.map_cons, List.map_nil, List.append_assoc, List.cons_append] at hnd
    have := (List.nodup_append.1 hnd).2.1
    rw [List.nodup_cons] at this
    apply this.1
    rw [e', ← h.zcol]; simp
  exact Nat.lt_of_le_of_ne (Nat.le_of_lt_succ h1) h2

/-- a cell `y` of row `idx` that is not copied yet has room in row `n`: its column is not among the copies, and what that
column holds lies above row `n` -/
theorem SW.room {y z : Nat} (h : SW o n idx el R C done todo z) (hy : y ∈ todo ++ [z]) :
    o.col y ∉ (R n).map o.col ∧ ∀ x ∈ C (o.col y), o.row x < n := by
  have d := h.data
  have hnd := d.rnd idx
  rw [h.ridx, List.append_assoc, List.map_append, List.nodup_append] at hnd
  have hc : o.col y ∉ done.map o.col := fun hm => hnd.2.2 _ hm _ (List.mem_map_of_mem hy) rfl
  rw [h.rn]
  refine ⟨hc, fun x hx => Nat.lt_of_le_of_ne (Nat.le_of_lt_succ (d.C_lt hx).2) (fun e' => hc ?_)⟩
  -- a cell of that column in row `n` would be the copy of a cell of `done`
  have h3 := d.cr _ x hx
  rw [e'] at h3
  rw [← h.rn, ← d.ccol _ x hx]
  exact List.mem_map_of_mem h3

theorem SW.colL {z : Nat} (h : SW o n idx el R C done todo z) : Lists (setL C n (C n ++ [el])) :=
  h.data.colL.push n (h.data.not_mem_C h.el.fresh)

/-- allocation leaves the chains alone; the new cell is in none of them -/
theorem SW.alloc {t z : Nat} (h : SW o n idx el R C done todo z) (ha : AllocRel o o1 t) :
    (∀ k, t ∉ R k) ∧ (∀ k, t ∉ setL C n (C n ++ [el]) k) ∧ Chains o1.gr o1.gl .rowS (n + 1) R (fun k => k < n) ∧
      Chains o1.gd o1.gu .colS (n + 1) (setL C n (C n ++ [el])) (fun _ => True) := by
  have hfresh : ∀ k, t ∉ R k := h.mem.fresh ha
  have hfCx : ∀ k, t ∉ setL C n (C n ++ [el]) k := fun k hm =>
    (mem_setL_snoc.1 hm).elim (h.data.not_mem_C hfresh k) (fun hm => ha.pop.ne h.el.lt h.el.nfree hm.1.symm)
  exact ⟨hfresh, hfCx, h.rows.frame_cell sent_row h.data.rowL hfresh ha.gr ha.gl,
    h.cols.frame_cell sent_col h.colL hfCx ha.gd ha.gu⟩

theorem SW.step {e t z : Nat}
    (h : SW o n idx el R C done (e :: todo) z) (hidx : idx < n) (ha : AllocRel o o1 t)
    (e6 : o6 = { o1 with
        gr := upd o1.gr (lastP (.rowS n) (R n)) (.cell t),
        gl := upd o1.gl (.cell t) (lastP (.rowS n) (R n)),
        gd := upd (upd o1.gd (lastP (.colS (o.col e)) (C (o.col e))) (.cell t)) (.cell t) (.colS (o.col e + 1)),
        gu := upd (upd o1.gu (.cell t) (lastP (.colS (o.col e)) (C (o.col e)))) (.colS (o.col e + 1)) (.cell t),
        col := updN o1.col t (o.col e),
        row := updN o1.row t n }) :
    SW o6 n idx el (setL R n (R n ++ [t])) (setL C (o.col e) (C (o.col e) ++ [t])) (done ++ [e]) todo z ∧
      (∀ k, t ∉ R k) ∧ (∀ x, x ≠ t → o6.col x = o.col x) ∧ (∀ x, x ≠ t → o6.row x = o.row x) := by
  have d := h.data
  obtain ⟨hfresh, hfCx, rows1, cols1⟩ := h.alloc ha
  have hc_lt := h.col_lt
  have heR : e ∈ R idx := by rw [h.ridx]; simp
  have hzR : z ∈ R idx := by rw [h.ridx]; simp
  have het : e ≠ t := fun e' => hfresh idx (e' ▸ heR)
  have hzt : z ≠ t := fun e' => hfresh idx (e' ▸ hzR)
  have helt : el ≠ t := ha.pop.ne h.el.lt h.el.nfree
  obtain ⟨hc1, hc2⟩ := h.room (y := e) (by simp)
  have hRn : ∀ x ∈ R n, x ≠ t := fun x hx e' => hfresh n (e' ▸ hx)
  have hrow6 : ∀ x, x ≠ t → o6.row x = o.row x := fun x hx => by
    rw [e6]; exact (updN_ne _ _ hx).trans (ha.row x hx)
  have hcol6 : ∀ x, x ≠ t → o6.col x = o.col x := fun x hx => by
    rw [e6]; exact (updN_ne _ _ hx).trans (ha.col x hx)
  have hcn : o.col e ≠ n := Nat.ne_of_lt hc_lt
  refine ⟨⟨?_, ?_, ?_, ?_, ?_, ?_, ⟨?_, ?_, ?_, ?_, ?_, ?_⟩, ?_, ?_, ?_⟩, hfresh, hcol6, hrow6⟩
  · rw [e6]; show Data (updN o1.col t (o.col e)) (updN o1.row t n) _ _ _
    rw [updN_congr _ ha.col, updN_congr _ ha.row]
    exact d.push hfresh (Nat.lt_succ_self n) (Nat.lt_succ_of_lt hc_lt) hc1 hc2
  · rw [e6]
    exact (rows1.push sent_row d.rowL n hfresh).weaken (fun k _ hk => ⟨hk, Nat.ne_of_lt hk⟩)
  · have := cols1.push_close sent_col h.colL (o.col e) hfCx (cl' := fun _ => True) (fun _ _ _ => Or.inl trivial)
    rw [setL_ne _ _ hcn, setL_comm _ (Ne.symm hcn)] at this
    rw [e6, setL_ne _ _ (Ne.symm hcn)]; exact this
  · rw [e6, ha.nr]; exact h.nr
  · rw [e6, ha.nr, ha.nc]; exact h.nc
  · exact (h.mem.alloc ha).push _ (o' := o6) (by rw [e6]; exact Nat.le_refl _) (by rw [e6]) (by rw [e6]; exact ha.pop.lt)
      ha.pop.nf
  · have hLel : Ptr.cell el ≠ lastP (.rowS n) (R n) := (sent_row.ne_cell_of_mem (h.el.fresh n) (lastP_mem _ _)).symm
    have hcel : Ptr.cell el ≠ Ptr.cell t := fun e' => helt (Ptr.cell.inj e')
    rw [e6]; show upd o1.gr _ _ _ = _
    rw [upd_ne _ _ hLel, ha.gr _ hcel]; exact h.el.r
  · rw [hcol6 el helt]; exact h.el.col
  · rw [hrow6 el helt]; exact h.el.row
  · have : o6.free = o1.free := by rw [e6]
    rw [this]; exact fun hm => h.el.nfree (ha.pop.sub _ hm)
  · have : o6.next = o1.next := by rw [e6]
    rw [this]; exact Nat.lt_of_lt_of_le h.el.lt ha.pop.mono
  · intro k hm
    exact (mem_setL_snoc.1 hm).elim (h.el.fresh k) (fun hm => helt hm.1)
  · rw [setL_ne _ _ (Nat.ne_of_lt hidx), h.ridx]; simp
  · rw [hcol6 z hzt]; exact h.zcol
  · rw [setL_same, List.map_append, List.map_append]
    have e1 : (R n).map o6.col = (R n).map o.col := List.map_congr_left (fun x hx => hcol6 x (hRn x hx))
    have e2 : done.map o6.col = done.map o.col :=
      List.map_congr_left (fun x hx => hcol6 x (fun e' => hfresh idx (by rw [h.ridx]; exact e' ▸ (by simp [hx]))))
    rw [e1, e2, h.rn]
    simp only [List.map_cons, List.map_nil, List.append_cancel_left_eq, List.cons.injEq, and_true]
    rw [hcol6 e het, e6]; exact updN_same _ _ _

theorem splitRow_spec (idx n el : Nat) (hidx : idx < n) (todo : List Nat) : ∀ (fuel : Nat) (s : T)
    (R C : Nat → List Nat) (done : List Nat) (z : Nat), SW (obs s) n idx el R C done todo z → todo.length < fuel →
    ∃ s' R' C', splitRow idx n fuel s (lastP (.rowS n) (R n)) (headP todo (.cell z)) =
        some (s', lastP (.rowS n) (R' n)) ∧
      SW (obs s') n idx el R' C' (done ++ todo) [] z ∧
      (∀ k, k ≠ n → R' k = R k) ∧
      (∀ x k, x ∈ R k → (obs s').row x = (obs s).row x ∧ (obs s').col x = (obs s).col x) ∧
      (obs s').size = (obs s).size ∧ (obs s').nr = (obs s).nr := by
  induction todo with
  | nil =>
    intro fuel s R C done z h hf
    cases fuel with
    | zero => exact absurd hf (Nat.not_lt_zero _)
    | succ fuel =>
      have hidx' : idx < n + 1 := Nat.lt_succ_of_lt hidx
      obtain ⟨-, c2⟩ := h.rows.cls idx hidx' hidx
      obtain ⟨rw, h1, h2⟩ := rows_second c2
      have hz : lastP (.rowS idx) (R idx) = .cell z := by rw [h.ridx]; simp
      refine ⟨s, R, C, ?_, by simpa using h, fun _ _ => rfl, fun _ _ _ => ⟨rfl, rfl⟩, rfl, rfl⟩
      simp [splitRow, h1, h2, hz]
  | cons e todo ih =>
    intro fuel s R C done z h hf
    cases fuel with
    | zero => exact absurd hf (Nat.not_lt_zero _)
    | succ fuel =>
      have d := h.data
      have hidx' : idx < n + 1 := Nat.lt_succ_of_lt hidx
      obtain ⟨-, c2⟩ := h.rows.cls idx hidx' hidx
      obtain ⟨rw0, h01, h02⟩ := rows_second c2
      have hz : lastP (.rowS idx) (R idx) = .cell z := by rw [h.ridx]; simp
      have hndR := d.R_nodup idx
      rw [h.ridx] at hndR
      have hez : Ptr.cell e ≠ rw0.2 := by
        rw [h02, hz]; intro e'
        have := Ptr.cell.inj e'
        subst this
        simp only [List.append_assoc, List.cons_append] at hndR
        have := (List.nodup_append.1 hndR).2.1
        rw [List.nodup_cons] at this
        exact this.1 (by simp)
      have hal := alloc_spec s h.mem.fnd h.mem.flt
      obtain ⟨hfresh, -, -, cols1⟩ := h.alloc hal
      have hc := h.col_lt
      have hnr : n < (obs (alloc s).2).nr := by rw [hal.nr]; exact h.nr
      obtain ⟨q, hq⟩ := gr_lastP_some (s := (alloc s).2) (R n) hnr
      obtain ⟨c1', c2'⟩ := cols1.cls ((obs s).col e) (Nat.lt_succ_of_lt hc) trivial
      rw [setL_ne _ _ (Nat.ne_of_lt hc)] at c1' c2'
      obtain ⟨s6, e1, e6⟩ := splitRow_step (idx := idx) (n := n) (fuel := fuel) (e := e) h01 hez hq c2' c1'
      obtain ⟨h6, _, hcol6, hrow6⟩ := h.step hidx hal e6
      have hrC := h6.rows.closed hidx' hidx
      rw [h6.ridx] at hrC
      simp only [List.append_assoc, List.cons_append, List.nil_append] at hrC
      obtain ⟨r1, -, -, -⟩ := DL_mid _ _ done (todo ++ [z]) e hrC
      have hright := right_of r1
      rw [headP_append_singleton] at hright
      obtain ⟨s', R', C', e2, h', hk, hx, hsz, hnr'⟩ :=
        ih fuel s6 _ _ (done ++ [e]) z h6 (by simpa using hf)
      refine ⟨s', R', C', ?_, by simpa using h', ?_, ?_, by rw [hsz, e6]; exact hal.size, by rw [hnr', e6]; exact hal.nr⟩
      · rw [headP_cons, e1, hright]
        rw [setL_same, lastP_snoc] at e2
        exact e2
      · intro k hkn; rw [hk k hkn, setL_ne _ _ hkn]
      · intro x k hxk
        have hxt : x ≠ (alloc s).1 := fun e' => hfresh k (e' ▸ hxk)
        obtain ⟨a1, a2⟩ := hx x k (mem_setL_snoc.2 (Or.inl hxk))
        exact ⟨a1.trans (hrow6 x hxt), a2.trans (hcol6 x hxt)⟩


theorem phase4_obs {s6 : T} {last2 q q' : Ptr} {n el : Nat}
    (hu : (obs s6).gu (.colS (n + 1)) = some (.cell el)) (h1 : (obs s6).gr last2 = some q)
    (h2 : (obs s6).gl (.rowS (n + 1)) = some q') :
    ∃ s9, phase4 s6 last2 n = some s9 ∧
      obs s9 = { obs s6 with gr := upd (obs s6).gr last2 (.cell el),
                             gl := upd (upd (obs s6).gl (.cell el) last2) (.rowS (n + 1)) (.cell el),
                             size := (obs s6).size + 1 } := by
  unfold phase4
  simp only [cols_second_getD hu]
  obtain ⟨s7, a7, e7⟩ := setRight_obs (.cell el) h1
  obtain ⟨s8, a8, e8⟩ := setLeft_obs last2 (gl_cell s7 el)
  have hu8 : (obs s8).gu (.colS (n + 1)) = some (.cell el) := by rw [e8, e7]; exact hu
  have b8 : (obs s8).gl (.rowS (n + 1)) = some q' := by
    rw [e8]; simp only []; rw [upd_ne _ _ (by simp), e7]; exact h2
  obtain ⟨s9, a9, e9⟩ := setLeft_obs (.cell el) b8
  simp only [a7, a8, cols_second_getD hu8, setRowSecond_eq, a9]
  refine ⟨_, rfl, ?_⟩
  show ({ obs s9 with size := (obs s9).size + 1 } : Obs) = _
  rw [e9, e8, e7]

/-- phase 4 is the row half of adding the cell `(n, n)` -/
theorem finish_shape {z : Nat}
    (h : SW o6 n idx el R C done [] z) (hsz : o6.size = n)
    (e9 : o9 = { o6 with gr := upd o6.gr (lastP (.rowS n) (R n)) (.cell el),
                         gl := upd (upd o6.gl (.cell el) (lastP (.rowS n) (R n))) (.rowS (n + 1)) (.cell el),
                         size := o6.size + 1 }) :
    Shape o9 (n + 1) (setL R n (R n ++ [el])) (setL C n (C n ++ [el])) := by
  have d := h.data
  have hfresh := h.el.fresh
  obtain ⟨hc1, hc2⟩ := h.room (y := z) (by simp)
  rw [h.zcol] at hc1 hc2
  have hLel : lastP (.rowS n) (R n) ≠ .cell el := sent_row.ne_cell_of_mem (hfresh n) (lastP_mem _ _)
  rw [Shape_iff_GS, e9]
  refine ⟨⟨?_, ?_, h.cols, h.nr, h.nc⟩, ?_, by show o6.size + 1 = n + 1; rw [hsz]⟩
  · show Data o6.col o6.row _ _ _
    rw [← updN_eta o6.col h.el.col, ← updN_eta o6.row h.el.row]
    exact d.push hfresh (Nat.lt_succ_self n) (Nat.lt_succ_self n) hc1 hc2
  · -- `right_` of the reflexive cell is `rowEnd(n)` since phase 2
    have := h.rows.push_close sent_row d.rowL n hfresh (cl' := fun _ => True)
      (fun k hk _ => Nat.lt_succ_iff_lt_or_eq.1 hk)
    rw [upd_eta (upd o6.gr _ _) _ _ ((upd_ne _ _ hLel.symm).trans h.el.r)] at this
    exact this
  · exact h.mem.push n (o' := { o6 with gr := _, gl := _, size := _ }) (Nat.le_refl _) rfl h.el.lt h.el.nfree


theorem map_eq_append_singleton {f : Nat → Nat} {l : List Nat} {v : List Nat} {n : Nat} (h : l.map f = v ++ [n]) :
    ∃ orig z, l = orig ++ [z] ∧ orig.map f = v ∧ f z = n := by
  obtain ⟨orig, l₂, rfl, h1, h2⟩ := List.map_eq_append_iff.mp h
  obtain ⟨z, rfl, hz⟩ := List.map_eq_singleton_iff.mp h2
  exact ⟨orig, z, rfl, h1, hz⟩

end P

theorem aSplit_length (rel : List (List Nat)) (i : Nat) : (aSplit rel i).length = rel.length + 1 := by
  simp [aSplit]

/-- the new index is related exactly like `i`, plus itself -/
theorem aSplit_last (rel : List (List Nat)) (i : Nat) :
    (aSplit rel i).getD rel.length [] = rel.getD i [] ++ [rel.length] := by
  simp [aSplit, List.getD_eq_getElem?_getD]

theorem aSplit_old (rel : List (List Nat)) (i : Nat) {k : Nat} (hk : k < rel.length) :
    (aSplit rel i).getD k [] =
      if (rel.getD k []).contains i then rel.getD k [] ++ [rel.length] else rel.getD k [] := by
  simp [aSplit, List.getD_eq_getElem?_getD, List.getElem?_append_left, hk]

/-- row `r < n` is related to the new index iff it is related to `i` (rows have entries `< n`) -/
theorem aSplit_mem_new (rel : List (List Nat)) (i : Nat) {r : Nat} (hr : r < rel.length)
    (hlt : ∀ c ∈ rel.getD r [], c < rel.length) :
    rel.length ∈ (aSplit rel i).getD r [] ↔ i ∈ rel.getD r [] := by
  rw [aSplit_old rel i hr]
  by_cases hc : (rel.getD r []).contains i = true
  · simp only [hc, if_true, List.mem_append, List.mem_singleton, or_true, true_iff]
    simpa using hc
  · simp only [hc, if_false, Bool.false_eq_true]
    constructor
    · intro hm; exact absurd (hlt _ hm) (Nat.lt_irrefl _)
    · intro hm; exact absurd (by simpa using hm) hc

/-- `split_refines` together with "the capacity does not change" -/
theorem split_refines_cap {s : T} {rel : List (List Nat)} (h : Inv s rel) {i : Nat} (hi : i < rel.length)
    (hcap : rel.length < s.rows.length) (hrefl : (rel.getD i []).contains i = true) :
    ∃ s', split s i = some s' ∧ Inv s' (aSplit rel i) ∧ s'.rows.length = s.rows.length := by
  obtain ⟨R, C, hs, hv⟩ := h
  obtain ⟨g0, m0, sz0⟩ := (P.Shape_iff_GS _ _ _ _).1 hs
  have d0 := hs.data
  obtain ⟨g0', hRn, hCn⟩ := g0.grow (show rel.length < (P.obs s).nr from hcap)
  have hSC : P.SC (P.obs s) rel.length i R C [] (C i) :=
    ⟨g0'.weaken (fun k _ hk => ⟨trivial, hk⟩) (fun k _ hk => ⟨trivial, hk⟩), m0, by simp, hRn, by rw [hCn]⟩
  obtain ⟨s1, R1, C1, e1, h1, hv1, hsz1, hnr1⟩ :=
    P.splitCol_spec i rel.length hi (C i) (s.next + 1) s R C [] hSC (d0.col_fuel m0 i)
  obtain ⟨cl, hcl1, hcl2⟩ := P.cols_first (P.DL_head _ _ _ (hs.colC i hi))
  rw [hCn, P.lastP_nil] at e1
  have hal1 := P.alloc_spec s1 h1.mem.fnd h1.mem.flt
  have hfresh1 : ∀ k, (alloc s1).1 ∉ R1 k := h1.mem.fresh hal1
  have g1 := h1.gs.alloc hal1 hfresh1
  have hnc1 : rel.length < (P.obs (alloc s1).2).nc := by rw [g1.nc]; exact g1.nr
  obtain ⟨q, hq⟩ := P.gd_lastP_some (s := (alloc s1).2) (C1 rel.length) hnc1
  obtain ⟨q', hq'⟩ := P.gu_colS_some hnc1
  obtain ⟨s5, e5, o5⟩ := P.phase2_obs (n := rel.length) hq hq'
  obtain ⟨d5, rows5, cols5, f5, f6, f7⟩ := P.reflex_shape g1 hfresh1 o5
  have m5 : P.Mem (P.obs s5) R1 := (h1.mem.alloc hal1).congr (by rw [o5]) (by rw [o5])
  have hEL : P.EL (P.obs s5) rel.length (alloc s1).1 R1 :=
    ⟨f5, f6, f7, by rw [o5]; exact hal1.pop.nf, by rw [o5]; exact hal1.pop.lt, hfresh1⟩
  -- row `i` after phase 1
  have hii : i ∈ (C i).map (P.obs s).row := by
    have : i ∈ rel.getD i [] := by simpa using hrefl
    rw [← hv i hi] at this
    obtain ⟨a, ha, hai⟩ := List.mem_map.1 this
    have := d0.rc i a ha
    rw [hai] at this
    exact List.mem_map.2 ⟨a, this, d0.rrow i a ha⟩
  have hRi := hv1 i hi
  rw [if_pos hii] at hRi
  obtain ⟨orig, z, hRz, horig, hz⟩ := P.map_eq_append_singleton hRi
  have hcol5 : ∀ x k, x ∈ R1 k → (P.obs s5).col x = (P.obs s1).col x := by
    intro x k hx
    have hxt : x ≠ (alloc s1).1 := fun e' => hfresh1 k (e' ▸ hx)
    rw [o5]; show P.updN _ _ _ x = _
    rw [P.updN_ne _ _ hxt]; exact hal1.col x hxt
  have hzR : z ∈ R1 i := by rw [hRz]; simp
  have hSW : P.SW (P.obs s5) rel.length i (alloc s1).1 R1 C1 [] orig z :=
    ⟨d5, rows5, cols5, by rw [o5]; exact g1.nr, by rw [o5]; exact g1.nc, m5, hEL, by simpa using hRz,
      by rw [hcol5 z i hzR]; exact hz, by rw [h1.rn]⟩
  have hlenR : orig.length < s5.next + 1 := by
    have := d5.row_fuel m5 i
    rw [hRz, List.length_append] at this
    exact Nat.lt_of_succ_lt this
  obtain ⟨s6, R6, C6, e6, h6, hk6, hx6, hsz6, hnr6'⟩ :=
    P.splitRow_spec i rel.length (alloc s1).1 hi orig (s5.next + 1) s5 R1 C1 [] z hSW hlenR
  obtain ⟨rw5, hrw1, hrw2⟩ := P.rows_first (P.DL_head _ _ _ (rows5.closed (Nat.lt_succ_of_lt hi) hi))
  rw [hRz, P.headP_append_singleton] at hrw2
  rw [h1.rn, P.lastP_nil] at e6
  have hnr6 : rel.length < (P.obs s6).nr := h6.nr
  obtain ⟨q6, hq6⟩ := P.gr_lastP_some (s := s6) (R6 rel.length) hnr6
  obtain ⟨q6', hq6'⟩ := P.gl_rowS_some hnr6
  have hu6 := (h6.cols.cls rel.length (Nat.lt_succ_self _) trivial).2
  rw [P.setL_same, P.lastP_snoc] at hu6
  obtain ⟨s9, e9, o9⟩ := P.phase4_obs hu6 hq6 hq6'
  have hsize6 : (P.obs s6).size = rel.length := by
    rw [hsz6, o5]; show (P.obs (alloc s1).2).size = _; rw [hal1.size, hsz1]; exact sz0
  have hshape := P.finish_shape h6 hsize6 o9
  have hcond : i < s.size ∧ s.size < s.cols.length ∧ s.size < s.rows.length := by
    have e1' : s.size = rel.length := sz0
    have e2' : s.cols.length = s.rows.length := g0.nc
    rw [e1', e2']; exact ⟨hi, hcap, hcap⟩
  have esz : s.size = rel.length := sz0
  refine ⟨s9, ?_, ⟨_, _, by rw [aSplit_length]; exact hshape, ?_⟩, ?_⟩
  · refine P.split_some (s1 := s1) (last := P.lastP (.colS rel.length) (C1 rel.length)) (s5 := s5) (s6 := s6)
      (last2 := P.lastP (.rowS rel.length) (R6 rel.length)) hcond hcl1 ?_ ?_ hrw1 ?_ ?_
    · rw [esz, hcl2]; exact e1
    · rw [esz]; exact e5
    · rw [esz, hrw2]; exact e6
    · rw [esz]; exact e9
  · -- the value
    intro k hk
    rw [aSplit_length] at hk
    have hcol9 : (P.obs s9).col = (P.obs s6).col := by rw [o9]
    rw [hcol9]
    by_cases hkn : k = rel.length
    · subst hkn
      rw [P.setL_same, aSplit_last, List.map_append, h6.rn, ← hv i hi, ← horig]
      simp only [List.nil_append, List.map_cons, List.map_nil, h6.el.col]
      congr 1
      refine List.map_congr_left (fun x hx => ?_)
      have hxR : x ∈ R1 i := by rw [hRz]; simp [hx]
      rw [(hx6 x i hxR).2, hcol5 x i hxR]
    · have hk' : k < rel.length := Nat.lt_of_le_of_ne (Nat.le_of_lt_succ hk) hkn
      rw [P.setL_ne _ _ hkn, hk6 k hkn, aSplit_old rel i hk']
      rw [List.map_congr_left (fun x hx => ((hx6 x k hx).2.trans (hcol5 x k hx))), hv1 k hk', hv k hk']
      have hiff : k ∈ (C i).map (P.obs s).row ↔ (rel.getD k []).contains i = true := by
        rw [d0.col_eq hv i]
        simp [aCol, hk']
      by_cases hc : (rel.getD k []).contains i = true
      · rw [if_pos (hiff.2 hc), if_pos hc]
      · rw [if_neg (fun hm => hc (hiff.1 hm)), if_neg hc]; simp
  · show (P.obs s9).nr = (P.obs s).nr
    rw [o9]; show (P.obs s6).nr = _
    rw [hnr6', o5]; show (P.obs (alloc s1).2).nr = _
    rw [hal1.nr, hnr1]

/-- `split(i)` of a reflexive index below the capacity: succeeds, and the result represents `aSplit rel i` -/
theorem split_refines {s : T} {rel : List (List Nat)} (h : Inv s rel) {i : Nat} (hi : i < rel.length)
    (hcap : rel.length < s.rows.length) (hrefl : (rel.getD i []).contains i = true) :
    ∃ s', split s i = some s' ∧ Inv s' (aSplit rel i) := by
  obtain ⟨s', h1, h2, -⟩ := split_refines_cap h hi hcap hrefl
  exact ⟨s', h1, h2⟩



end Vata.LU.SR
