import Vata.Proofs.BddTrimCodedGlue
import Vata.Proofs.BddTrimCodedEx
import Vata.Proofs.BddTrimCodedTotal
import Vata.Proofs.BddTrimCodedBU6
import Vata.Proofs.BddTrimCodedBUEx
/-!
# C08 – the symbolic trimming edge by edge, as coded

> (C08) … For both BDD encodings … RemoveUnreachableStates and RemoveUselessStates keep the language (leaving no useless
> state after the latter) …

This file closes the item "Inside the symbolic trimming" of the "not yet proved" block of `Vata/Properties/C08.lean`: the
AND/OR-graph propagation of the top-down `RemoveUselessStates` (`src/bdd_td_tree_aut_useless.cc`) and the loops of the two
bottom-up functions (`src/bdd_bu_tree_aut_unreach.cc`, `src/bdd_bu_tree_aut_useless.cc`) are modelled statement by
statement and proved to compute the fixpoints (`prodStates` / `tdReach` of `Vata/Ref.lean` on the leaf-visit skeletons)
that the abstract models `removeUselessTD`, `removeUnreachableBU`, `removeUselessBU` of `Vata/BddAbsTD.lean` use.

## How the C++ is read into the model

* **`Util::Graph`** (`src/util/graph.hh`, `Vata/BddTrimGraph.lean`): a node is the address of an `InternalNode` with two
  `std::set<NodeType>` fields; the model numbers the nodes in allocation order (`Graph.size`), `ing n` / `egr n` are the two
  sets as duplicate-free lists, `addNode`, `addEdge` (inserts into the egress set of the source AND the ingress set of the
  target), `eraseIng` / `eraseEgr` (`GetIngress(n).erase(x)`).  `TwoWayDict` = the list of its pairs, `findFwd` / `findBwd`.
* **top-down `RemoveUselessStates`** (`Vata/BddTrimCoded.lean`).  What the code really builds: ONE OR node per state reached
  from the final states and ONE AND node per NON-EMPTY children tuple, shared by all states that have the tuple; edges
  `OR(s) → AND(t)` for the states `s` of `t` (the `std::set` drops a repeated child), `AND(t) → OR(p)` for every state `p`
  with `t` in a leaf; the nodes of the states with the empty tuple are `termNodes`.  `initBuild`, `buildLoop` (the work-list,
  a stack), `tupleStep` (body of `for tuple : value`), `stateStep` (body of `for state : tuple`) mirror the construction
  including the order of `AddNode` calls.  The propagation has NO counter: a popped OR node is erased from the ingress set
  of every AND node it points to, and the AND node is satisfied when that set is EMPTY; before that the popped node is erased
  from the egress sets of the AND nodes pointing to it (`popStep`, `satisfyStep`, `markStep`, `propLoop`, `initMark`).  Then
  `RestrictApplyFunctor` as coded (`restrictLeafCoded`: prefix copy, length test, `insert`), the two final loops
  (`restrictCoded`) and `result.RemoveUnreachableStates()` (`tdUnreachWL`, the mirrored work-list of `Vata/BddAbsTD.lean`).
* **bottom-up `RemoveUnreachableStates` / `RemoveUselessStates`** (`Vata/BddTrimCodedBU.lean`): `reachable`, `workset`
  (hash sets; `*(workset.begin())` = head), `tuples` (the copy of the table from which processed tuples are erased; the scan
  `while (itTup != tuples.end())` is a fold whose accumulator carries the sets UPDATED during the scan), the functor with
  its graph side (`AddNode` per new state, `AddEdge(node(parent), node(child))` for every state of the current tuple), the
  stack traversal from the nodes of the final states with the erasing of egress edges as coded, the final restriction loop.
* **abstraction**: as in `Vata/BddAbsTD.lean` – one functor call per leaf of the MTBDD of a state, `leafTuples` = the tuples
  of the leaves in order; hash-container iteration orders are list orders (the theorems are about SETS, so they hold for
  every order); the `assert(false)` branches are not exits of the model (a failed `FindFwd` yields state 0) – the invariants
  `Spec.andEgr`, `Spec.termOk` show that the `FindFwd` lookups of the propagation succeed.
* **fuel**: the two `while` loops take fuel and return `none` when it runs out; `C08_td_useless_coded_lang` is about EVERY
  `some` answer, `C08_td_useless_coded_total` gives explicit bounds for which the answer is `some`.

## hypotheses

* `F.Nodup`: the list of final states has no duplicates (`GetFinalStates()` is an `unordered_set`; the construction loop
  creates an OR node per element WITHOUT looking it up first).  Forced by the proof (injectivity of `orNodes`); on the
  examples tried a duplicate does not change the result, so the hypothesis is probably not necessary – not investigated.
* `TableOk T` (bottom-up theorems): the entries of the table form a map with non-empty keys (it is a hash map in the C++;
  with two entries for one tuple `getE` and the C++ would disagree); holds for loaded tables (`tableOk_ofRules`).
* `TableTDWF T`, `SymsCompleteTD syms T` (only for the statements about the abstraction `absTD syms`): the MTBDDs are reduced
  and ordered, the dictionary covers the symbols of the table – the hypotheses of `C08_td_trim`; they hold for loaded tables.
-/
namespace Vata.Props
open Vata.M Vata.BddAbs Vata.BddAbsTD Vata.BddTrimCoded

/-- **The graph built by the construction loop as coded** (every result of `buildLoop`): `orNodes` is a bijection between
its nodes and the states reached top-down from the final states through the leaves, AND and OR nodes are different nodes,
edges join nodes of different kinds and `ingress`/`egress` agree, the inputs of the AND node of `t` are exactly the OR
nodes of the states of `t`, its outputs are OR nodes of states that have `t` in a leaf, every tuple of every reached state
is entered (`done`), the terminal nodes are the OR nodes of the states with an empty tuple. -/
theorem C08_td_useless_coded_graph {T : TableTD} {F : List Nat} (hF : F.Nodup) {fuel : Nat} {B : Build}
    (h : buildLoop T fuel (initBuild F) = some B) :
    Spec T F B ∧ (∀ q, (∃ n, (n, q) ∈ B.orN) ↔ q ∈ tdReach (skelTD T F)) := by
  have hS := buildLoop_spec hF h
  exact ⟨hS, fun q => ⟨fun ⟨n, hn⟩ => hS.reach n q hn, fun hq => spec_reach_complete hS hq⟩⟩

/-- **The states kept by the coded propagation.**  Every answer `usefulStates` of the two loops as coded is, as a set,
`usefulTD T F`: the productive AND top-down reachable states of the leaf-visit skeleton – the top-down
`RemoveUselessStates` prunes both the unreachable and the unproductive states. -/
theorem C08_td_useless_coded_states {T : TableTD} {F : List Nat} (hF : F.Nodup) {fuel : Nat} {U : List Nat}
    (h : usefulCoded T F fuel = some U) (q : Nat) :
    (q ∈ U ↔ q ∈ usefulTD T F) ∧
    (q ∈ U ↔ q ∈ prodStates (skelTD T F) ∧ q ∈ tdReach (skelTD T F)) := by
  have h1 := usefulCoded_correct hF h q
  refine ⟨h1, h1.trans ?_⟩
  unfold usefulTD
  exact mem_prodStates_removeUnreachable _ q

/-- **C08, top-down `RemoveUselessStates` as coded.**  For every answer `R` of the coded function: the abstraction of `R` is
(as sets of rules and final states) `removeUseless` of the abstraction of the input, and so is the abstraction of the
abstract model `removeUselessTD`; the final states are the same lists; the language is kept; every state and every rule
left takes part in an accepting run. -/
theorem C08_td_useless_coded_lang {syms : List Nat} {T : TableTD} {F : List Nat} (hF : F.Nodup) (hT : TableTDWF T)
    (hc : SymsCompleteTD syms T) {fuel fuel' : Nat} {R : TableTD × List Nat}
    (h : removeUselessTDCoded T F fuel fuel' = some R) :
    SetEqTA (absTD syms R.1 R.2) (removeUseless (absTD syms T F)) ∧
    SetEqTA (absTD syms R.1 R.2) (absTD syms (removeUselessTD T F).1 (removeUselessTD T F).2) ∧
    R.2 = (removeUselessTD T F).2 ∧
    (∀ t, accepts (absTD syms R.1 R.2) t = accepts (absTD syms T F) t) ∧
    (∀ q, Occurs (absTD syms R.1 R.2) q → UsefulState (absTD syms R.1 R.2) q) ∧
    (∀ r, r ∈ (absTD syms R.1 R.2).rules → UsefulRule (absTD syms R.1 R.2) r) := by
  obtain ⟨h1, h2⟩ := removeUselessTDCoded_abs hF hT hc h
  have hu := h1.allUseful ⟨removeUseless_post_state _, removeUseless_post_rule _⟩
  exact ⟨h1, h1.trans (absTD_removeUseless F hT hc).symm, h2, fun t => by rw [h1.lang, removeUseless_lang], hu.1, hu.2⟩

-- non-vacuity: a loaded table with a shared tuple, final state 2; the hypotheses hold and the coded function answers
example : [2].Nodup ∧ TableTDWF Ex.T1 ∧ SymsCompleteTD Ex.syms Ex.T1 :=
  ⟨by decide, (tableTD_ofRulesTD Ex.rs1).1, symsCompleteTD_ofRulesTD (by decide)⟩
example : Ex.showR Ex.syms (removeUselessTDCoded Ex.T1 [2] 10 10) =
    some ([(1, [1], 3), (0, [], 1), (2, [3], 2), (3, [1], 2)], [2]) := Ex.coded_ok.1
-- an automaton with an unreachable state (3, 6), a state without rules (4) and an unproductive branch
example : Ex.showR BddAbsTDEx.syms (removeUselessTDCoded BddAbsTDEx.tdA BddAbsTDEx.finA 20 20) =
    some ([(0, [], 1), (1, [], 1), (2, [1, 1], 2)], [2]) := by decide +kernel

/-- **Regression.**  Two realistic slips of the C++, as variants of the model (`Vata/Proofs/BddTrimCodedEx.lean`):
(1) the edge `AND(t) → OR(p)` only added when the tuple is new – the second state with the same tuple is never marked and the
tree `g(f(a))` is lost; (2) an AND node satisfied as soon as ONE input is popped – the language cannot change, but the
unproductive states 2 and 4 survive, the postcondition "no useless state" fails. -/
theorem C08_td_useless_coded_regression :
    ((removeUselessTDCoded Ex.T1 [2] 10 10).map (fun R => accepts (absTD Ex.syms R.1 R.2) Ex.t1) = some true ∧
      (Ex.removeUselessX Ex.tupleStepSlip satisfyStep Ex.T1 [2] 10).map (fun R => accepts (absTD Ex.syms R.1 R.2) Ex.t1) =
        some false) ∧
    (Ex.showR Ex.syms (removeUselessTDCoded Ex.T2 [2] 10 10) = some ([], []) ∧
      (Ex.removeUselessX tupleStep Ex.satisfyStepSlip Ex.T2 [2] 10).map (fun R => allUsefulB (absTD Ex.syms R.1 R.2)) =
        some false) :=
  ⟨⟨Ex.coded_ok.2.1, Ex.slip1_changes_language.2.1⟩, ⟨Ex.slip2_leaves_useless_state.1, Ex.slip2_leaves_useless_state.2.2⟩⟩

/-- **Totality, top-down**: with fuel `2·(|F| + |allKids T|) + 1` for the two loops of the analysis and `|F| + |allKids T|` for
the final `RemoveUnreachableStates` (`allKids T`: the states in the tuples of the leaves, with repetitions) – or any larger
fuel – the coded function answers; no hypothesis. -/
theorem C08_td_useless_coded_total (T : TableTD) (F : List Nat) (fuel fuel' : Nat)
    (h : 2 * (F.length + (allKids T).length) + 1 ≤ fuel) (h' : F.length + (allKids T).length ≤ fuel') :
    (∃ B, buildLoop T fuel (initBuild F) = some B ∧ B.ws = [] ∧ B.orN.length ≤ F.length + (allKids T).length ∧
      ∃ P, propLoop B.orN fuel (initMark B) = some P) ∧
    ∃ R, removeUselessTDCoded T F fuel fuel' = some R := by
  refine ⟨?_, removeUselessTDCoded_total' T F fuel fuel' h h'⟩
  obtain ⟨B, hB⟩ := buildLoop_total T F fuel (by omega)
  have hb := buildLoop_bounds hB
  exact ⟨B, hB, hb.1, hb.2.2, propLoop_total B fuel (by omega)⟩

-- on the example the bounds are 9 and 4
example : allKids Ex.T1 = [3, 1, 1] := by decide +kernel

/-! ### the bottom-up encoding -/

/-- **C08, bottom-up `RemoveUnreachableStates` as coded.**  Every answer: `reachable` is the set of productive states of the
leaf-visit skeleton; the result table has exactly the rules of the abstract model `removeUnreachableBU`, the final states are
the same list; the abstraction is the restriction to the productive states – ONLY the bottom-up unreachable (unproductive)
states are pruned, states not reachable from a final state stay; the language is kept.  With fuel `leafCount T` (the number
of states in the leaves of all MTBDDs) the function answers. -/
theorem C08_bu_unreach_coded_lang {syms : List Nat} {T : Table} (hO : TableOk T) (F : List Nat) :
    (∀ fuel st, buUnreachSt T fuel = some st → ∀ q, q ∈ st.reach ↔ q ∈ prodStates (skelBU T F)) ∧
    (∀ fuel R, buUnreachCoded T F fuel = some R →
      (∀ ρ ks p, HasRule R.1 ρ ks p ↔ HasRule (removeUnreachableBU T F).1 ρ ks p) ∧ R.2 = (removeUnreachableBU T F).2 ∧
      (TableWF T → SymsCompleteBU syms T →
        SetEqTA (absBU syms R.1 R.2) (restrict (absBU syms T F) (prodStates (absBU syms T F))) ∧
        ∀ t, accepts (absBU syms R.1 R.2) t = accepts (absBU syms T F) t)) ∧
    (∀ fuel, leafCount T ≤ fuel → ∃ R, buUnreachCoded T F fuel = some R) := by
  refine ⟨fun fuel st h => (bu_unreach_coded_reach hO F h).1, fun fuel R h => ?_, fun fuel h => bu_unreach_coded_total T F h⟩
  obtain ⟨h1, h2⟩ := bu_unreach_coded_spec hO F h
  exact ⟨h1, h2, fun hT hc => ⟨bu_unreach_coded_abs hO hT hc F h, bu_unreach_coded_lang hO hT hc F h⟩⟩

/-- **C08, bottom-up `RemoveUselessStates` as coded.**  Every answer: `reachable` = the productive states, the states with a
graph node = `reachable`, `useful` = the states reached top-down from the productive final states inside the productive part –
BOTH kinds of useless states are pruned; the result table has exactly the rules of `removeUselessBU`, same final states; the
abstraction is `removeUseless`, the language is kept, every state and rule left takes part in an accepting run.  With fuel
`|F| + leafCount T` the function answers. -/
theorem C08_bu_useless_coded_lang {syms : List Nat} {T : Table} (hO : TableOk T) (F : List Nat) :
    (∀ fuel g tr, buUselessSt T F fuel = some (g, tr) →
      (∀ q, q ∈ g.reach ↔ q ∈ prodStates (skelBU T F)) ∧ (∀ q, (findBwd g.nodes q).isSome = true ↔ q ∈ g.reach) ∧
      (∀ q, q ∈ tr.useful ↔ q ∈ tdReach (restrict (skelBU T F) (prodStates (skelBU T F))))) ∧
    (∀ fuel R, buUselessCoded T F fuel = some R →
      (∀ ρ ks p, HasRule R.1 ρ ks p ↔ HasRule (removeUselessBU T F).1 ρ ks p) ∧ R.2 = (removeUselessBU T F).2 ∧
      (TableWF T → SymsCompleteBU syms T →
        SetEqTA (absBU syms R.1 R.2) (removeUseless (absBU syms T F)) ∧
        (∀ t, accepts (absBU syms R.1 R.2) t = accepts (absBU syms T F) t) ∧
        (∀ q, Occurs (absBU syms R.1 R.2) q → UsefulState (absBU syms R.1 R.2) q) ∧
        (∀ r, r ∈ (absBU syms R.1 R.2).rules → UsefulRule (absBU syms R.1 R.2) r))) ∧
    (∀ fuel, F.length + leafCount T ≤ fuel → ∃ R, buUselessCoded T F fuel = some R) := by
  refine ⟨fun fuel g tr h => ?_, fun fuel R h => ?_, fun fuel h => bu_useless_coded_total T F h⟩
  · obtain ⟨h1, h2, h3, _⟩ := bu_useless_coded_useful hO F h
    exact ⟨h1, h2, h3⟩
  · obtain ⟨h1, h2⟩ := bu_useless_coded_spec hO F h
    exact ⟨h1, h2, fun hT hc => ⟨bu_useless_coded_abs hO hT hc F h, bu_useless_coded_lang hO hT hc F h,
      (bu_useless_coded_noUseless hO hT hc F h).1, (bu_useless_coded_noUseless hO hT hc F h).2⟩⟩

-- non-vacuity: the example automaton of `Vata/Proofs/BddAbsTD.lean` (unreachable states 3, 6; 4 without rules)
example : TableOk BUEx.tA ∧ TableWF BUEx.tA ∧ SymsCompleteBU BddAbsTDEx.syms BUEx.tA :=
  ⟨tableOk_ofRules _, tableWF_ofRules _, symsCompleteBU_ofRules (by decide)⟩
example : BUEx.rulesOf (buUnreachCoded BUEx.tA BddAbsTDEx.finA 5) =
      some [(0, [], 1), (0, [], 3), (1, [], 1), (1, [], 5), (3, [5], 6), (2, [1, 1], 2)] ∧
    BUEx.rulesOf (buUselessCoded BUEx.tA BddAbsTDEx.finA 5) = some [(0, [], 1), (1, [], 1), (2, [1, 1], 2)] :=
  ⟨BUEx.tA_unreach, BUEx.tA_useless.1⟩

/-- **Regression, bottom-up** (variants in `Vata/Proofs/BddTrimCodedBUEx.lean`): `RemoveUnreachableStates` whose scan skips
the tuple after an erased one (erase-while-iterating slip) never examines `(1,1)` and loses `g(a,a)`;
`RemoveUselessStates` with `AddEdge` in the wrong direction marks nothing but the final state and loses `g(a,a)`. -/
theorem C08_bu_coded_regression :
    (BUEx.langOf (buUnreachCoded BUEx.tB BUEx.finB 5) BUEx.trB = some true ∧
      BUEx.langOf (BUEx.buUnreachCodedSkip BUEx.tB BUEx.finB 5) BUEx.trB = some false) ∧
    (BUEx.langOf (buUselessCoded BUEx.tA BddAbsTDEx.finA 5) BUEx.trB = some true ∧
      BUEx.langOf (BUEx.buUselessCodedRev BUEx.tA BddAbsTDEx.finA 5) BUEx.trB = some false) :=
  ⟨BUEx.tB_unreach, BUEx.tA_useless.2, BUEx.tA_uselessRev.2⟩

/-!
## what the C++ guarantees, per function (as proved above)

* top-down `RemoveUselessStates`: prunes the states not reachable from a final state AND the unproductive ones
  (`C08_td_useless_coded_states`), no useless state or rule is left (`C08_td_useless_coded_lang`);
* bottom-up `RemoveUnreachableStates`: prunes exactly the unproductive states ("bottom-up unreachable"); states that no
  final state reaches stay (`C08_bu_unreach_coded_lang`);
* bottom-up `RemoveUselessStates`: prunes both (`C08_bu_useless_coded_lang`).

## for differential testing against the C++

`removeUselessTDCoded T F (2 * (F.length + (allKids T).length) + 1) (F.length + (allKids T).length) : Option (TableTD × List Nat)`,
`buUnreachCoded T F (leafCount T)`, `buUselessCoded T F (F.length + leafCount T) : Option (Table × List Nat)`; the intermediate
states (`buildLoop`: node numbers, dictionaries, edge sets; `usefulCoded`; `buUnreachSt`; `buUselessSt`) are exposed too, but
agree with the C++ only up to the iteration orders of the hash containers and of the address-ordered `std::set`s.

## still not proved

* The `assert(false)` branches are not modelled as exits.  For the top-down function the invariants show that the two
  `FindFwd` lookups succeed (`Spec.termOk`, `Spec.andEgr`) but the `erase(node) != 1` tests are not stated as theorems
  (they follow from `Spec.sym` and the fact that every node is popped once – not written down); for the bottom-up
  `RemoveUselessStates` the `FindBwd(tupState)` / `FindFwd(outNode)` lookups are shown to succeed inside the invariants
  (`Vata/Proofs/BddTrimCodedBU3.lean`, `…BU4.lean`), the `erase != 1` test is not modelled.
* `F.Nodup` in the top-down theorems about answers (not in the totality theorem) is forced by the proof; whether a list of
  final states with duplicates (impossible in the C++) could change the answer of the model is open.
* Iteration orders: hash containers and `std::set`s are lists in insertion order; the theorems are about sets of states /
  rules, so they cover every order, but the NODE NUMBERS and the order of `usefulStates` of a concrete C++ run are not
  predicted.  `Apply1Functor` / `VoidApply1Functor` are abstracted to one call per leaf (`voidApply1`, as in
  `Vata/BddAbsTD.lean`); their caches are the subject of `Vata/Properties/C09_Caches.lean`.
* The fuel bounds are sufficient, not tight.
* The top-down `RemoveUnreachableStates` was already mirrored (`tdUnreachWL`, `C08_td_trim`); nothing new about it here.
-/
end Vata.Props
