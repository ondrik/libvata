import Vata.Proofs.NfaInclSimACInv
import Vata.Proofs.NfaInclSimACTotal
import Vata.Properties.C09_Sim
/-!
# C09 – `ANTICHAINS_SIM`: the UNCHECKED run is exact and terminates

Property C09: *"`CheckInclusion` on finite (word) automata answers `L(smaller) ⊆ L(bigger)` for every implemented selection
of `InclParam`"*.  `Vata/Properties/C09_Sim.lean` proves the row `ANTICHAINS_SIM` exact for the certify-then-trust model
`nfaInclACSim` only and lists as open: that the certificate check passes on every finished run, that the exploration terminates,
and that the unchecked verdict `nfaInclACSimRaw` – what the C++ returns – is exact.  This file serves that item.

## How the C++ is read into the model

Nothing new is modelled: `NfaIncl.runACSim` of `Vata/NfaInclSim.lean` (§2 of its header quotes the mirrored lines of
`src/explicit_finite_incl_fctor_cache.hh`, `src/antichain2c_v2.hh`, `src/comparators.hh`): `Init`, the main loop with one
unit of fuel per picked pair, `MakePost` with the `checkSmallerInBigger` skip, `AddNewPairToAntichain` / `AddToNext` with the
candidate lists read from `singleAntichain_` (candidates computed BEFORE the state is added for `antichain_`, AFTER for `next_`).
`nfaInclACSimRaw` maps the end of that run to the Boolean the C++ returns; `nfaInclACSim` adds the two final checks.

## What is proved (`Vata/Proofs/NfaInclSimACInv.lean`, `Vata/Proofs/NfaInclSimACTotal.lean`)

* The loop invariant (`NfaIncl.Expl.Inv` of `Vata/Proofs/NfaInclExpl.lean` for the insertion `NfaIncl.simExpl_inserts`):
  `singleAntichain_` contains the state of every stored pair (so the candidate lists are
  transparent: `contains` = "covered modulo `R`", `NfaIncl.containsSim_iff`), `next_ ⊆ antichain_`, every stored pair is pending or
  has each successor skipped by `checkSmallerInBigger` or covered modulo `R`, no stored pair is bad, stored pairs live on the
  states of the operands.  Covered pairs stay covered because an erased pair is covered by the inserted one (transitivity); the
  inserted pair covers itself (reflexivity).
* Hence a finished `true` run passes `nfaUpCertSimB`, a finished `false` run passes the word check (for every relation), the two
  models agree, and the raw verdict is exact for a simulation preorder on the disjoint union of state-disjoint operands.
* Termination within `fuelBoundAC A B` picked pairs: the number of pairs (state of `A`, set of states of `B`) not covered
  modulo `R` drops with every inserted pair.

Abstracted: as in `Vata/NfaInclSim.lean` (macro-states compared by value, the memo `subsetMap_` / `subsetNotMap_` and the
macro-state cache not modelled, hash iteration orders are list orders, a relation is a list of pairs).

Entry points for a comparison with the library: `nfaInclACSimRaw : NFA → NFA → Rel → Nat → Option Bool` (fuel
`fuelBoundAC A B + 1` suffices for a reflexive transitive relation) and `C09Sel.modelRaw` for a row of the table.
-/
namespace Vata.Props
open Vata.W Vata.NfaIncl

/-! ### 1. every finished run is certified; the raw verdict is exact -/

/-- **what stands behind the verdict of `ANTICHAINS_SIM`.**  A `return false` of the exploration at the word `w` means `A`
accepts `w` and `B` does not – for EVERY relation and all operands.  A `return true` leaves an `antichain_` that passes the
certificate check `nfaUpCertSimB` (start states covered modulo `R`, every successor skipped by `checkSmallerInBigger` or covered
modulo `R`, no bad pair) when the operands are state-disjoint and `R` is reflexive on the states of `A ⊎ B` and transitive
(that `R` is a simulation is not used here) -/
theorem C09_antichain_sim_run_certified (A B : NFA) (R : Rel) (fuel : Nat) :
    (∀ w, runACSim A B R fuel = some (.error w) → acceptsW A w = true ∧ acceptsW B w = false) ∧
    ((∀ q, q ∈ nfaStates A → q ∈ nfaStates B → False) →
      (∀ q, q ∈ nfaStates (nfaUnionDisjoint A B) → (q, q) ∈ R) → (∀ p q r, (p, q) ∈ R → (q, r) ∈ R → (p, r) ∈ R) →
      ∀ P, runACSim A B R fuel = some (.ok P) → nfaUpCertSimB A B R (P.map (fun i => (i.q, i.S))) = true) :=
  ⟨fun _ h => runACSim_error_ok h, fun hdis hrefl ht _ h => runACSim_ok_cert hdis hrefl ht h⟩

/-- **the final checks never fail**: for state-disjoint operands and `R` a simulation preorder on their disjoint union the
certify-then-trust model IS the unchecked model, for every fuel (`none` only when the fuel runs out) -/
theorem C09_antichain_sim_raw_eq_checked (A B : NFA) (R : Rel)
    (hdis : ∀ q, q ∈ nfaStates A → q ∈ nfaStates B → False)
    (hR : isNfaSimPreB (nfaUnionDisjoint A B) R = true) (fuel : Nat) :
    nfaInclACSim A B R fuel = nfaInclACSimRaw A B R fuel := by
  obtain ⟨_, h2, h3⟩ := isNfaSimPreB_iff.mp hR
  exact nfaInclACSimRaw_eq hdis h2 h3 fuel

/-- **`ANTICHAINS_SIM`, the verdict the C++ returns is exact**: if the operands are state-disjoint and `R` is a simulation
preorder on their disjoint union, every verdict of the exploration alone (`nfaInclACSimRaw`, no certificate check) is the truth
of `L(A) ⊆ L(B)` -/
theorem C09_antichain_sim_raw_exact (A B : NFA) (R : Rel) (hdis : ∀ q, q ∈ nfaStates A → q ∈ nfaStates B → False)
    (hR : isNfaSimPreB (nfaUnionDisjoint A B) R = true) (fuel : Nat) (b : Bool)
    (h : nfaInclACSimRaw A B R fuel = some b) : b = true ↔ InclW A B :=
  nfaInclACSimRaw_iff hdis (isNfaSimPreB_iff.mp hR) h

/-! ### 2. termination -/

/-- the exploration ends within `fuelBoundAC A B = 2 · (|I_A| + |Δ_A|) · 2^(|I_B| + |Δ_B|)` picked pairs for every relation
that is reflexive on the states of `A ⊎ B` and transitive (no simulation, no disjointness needed) -/
theorem C09_antichain_sim_terminates (A B : NFA) (R : Rel)
    (hrefl : ∀ q, q ∈ nfaStates (nfaUnionDisjoint A B) → (q, q) ∈ R)
    (ht : ∀ p q r, (p, q) ∈ R → (q, r) ∈ R → (p, r) ∈ R) (fuel : Nat) (hf : fuelBoundAC A B < fuel) :
    ∃ b, nfaInclACSimRaw A B R fuel = some b :=
  nfaInclACSimRaw_total hrefl ht hf

/-- **totality of `ANTICHAINS_SIM`**: above the explicit bound `fuelBoundAC A B` both models – the unchecked one and the
certify-then-trust one – return the right verdict, in both polarities (state-disjoint operands, `R` a simulation preorder on
`A ⊎ B`) -/
theorem C09_antichain_sim_total (A B : NFA) (R : Rel) (hdis : ∀ q, q ∈ nfaStates A → q ∈ nfaStates B → False)
    (hR : isNfaSimPreB (nfaUnionDisjoint A B) R = true) (fuel : Nat) (hf : fuelBoundAC A B < fuel) :
    (InclW A B → nfaInclACSimRaw A B R fuel = some true ∧ nfaInclACSim A B R fuel = some true) ∧
    (¬ InclW A B → nfaInclACSimRaw A B R fuel = some false ∧ nfaInclACSim A B R fuel = some false) := by
  have hR' := isNfaSimPreB_iff.mp hR
  have h1 := nfaInclACSimRaw_complete hdis hR' hf
  -- the final check never fails (`C09_antichain_sim_raw_eq_checked`)
  rw [nfaInclACSimRaw_eq hdis hR'.2.1 hR'.2.2]
  exact ⟨fun hi => ⟨h1.1 hi, h1.1 hi⟩, fun hi => ⟨h1.2 hi, h1.2 hi⟩⟩

/-! ### 3. the hypotheses cannot be dropped -/

namespace C09SimTotalEx
/-- `L = {aa}`; the state `5` is shared with `ovB` -/
def ovA : NFA := ⟨[0], [1], [(0, 0, 5), (5, 0, 1)]⟩
/-- `L = ∅` -/
def ovB : NFA := ⟨[3], [], [(3, 0, 5)]⟩
def rId : Rel := [(0, 0), (1, 1), (3, 3), (5, 5)]
def eA : NFA := ⟨[0], [], []⟩
def eB : NFA := ⟨[1], [], []⟩
def tA : NFA := ⟨[1, 2], [], [(1, 0, 3), (2, 0, 4), (4, 0, 4)]⟩
def tB : NFA := ⟨[9], [9], [(9, 0, 9)]⟩
/-- reflexive, a simulation on `tA ⊎ tB`, not transitive: `3 R 2`, `2 R 4` but not `3 R 4` -/
def rNT : Rel := [(1, 1), (2, 2), (3, 3), (4, 4), (9, 9), (3, 2), (2, 4)]
end C09SimTotalEx
open C09SimEx C09SimTotalEx

/-- **state-disjointness cannot be dropped** (neither here nor in `C09_antichain_sim_exact`, whose header lists this as
missing): the operands share the state `5`, the identity is a simulation preorder on the union of the transition sets, the
successor `(5, {5})` is skipped by `checkSmallerInBigger`, both models answer `true` – but `aa ∈ L(A) \ L(B)` -/
theorem C09_antichain_sim_needs_disjoint :
    isNfaSimPreB (nfaUnionDisjoint ovA ovB) rId = true ∧
    nfaInclACSimRaw ovA ovB rId 50 = some true ∧ nfaInclACSim ovA ovB rId 50 = some true ∧
    acceptsW ovA [0, 0] = true ∧ acceptsW ovB [0, 0] = false := by decide +kernel

/-- **reflexivity cannot be dropped for termination**: the empty relation is a transitive simulation; with it nothing is ever
covered, every successor is inserted again and the exploration of `a* ⊆ (a|b)*` has not ended above the bound -/
theorem C09_antichain_sim_termination_needs_reflexive :
    isNfaSimB (nfaUnionDisjoint a1 ab1) [] = true ∧ fuelBoundAC a1 ab1 = 32 ∧
    nfaInclACSimRaw a1 ab1 [] 33 = none ∧ nfaInclACSimRaw a1 ab1 [] 200 = none := by decide +kernel

/-- **reflexivity cannot be dropped for the agreement of the two models**: with the empty relation the run on two automata
without transitions ends with `true`, and the certificate check (start state covered modulo `R`) fails -/
theorem C09_antichain_sim_check_needs_reflexive :
    nfaInclACSimRaw eA eB [] 5 = some true ∧ nfaInclACSim eA eB [] 5 = none := by decide +kernel

/-- **transitivity cannot be dropped for the agreement of the two models**: `rNT` is reflexive and a simulation on the disjoint
union; the successor `3` of `1` is covered by the pair of `2` (`3 R 2`), that pair is later erased by the pair of `4` (`2 R 4`),
and `3` is not below `4`: the run returns `true` (rightly) with an antichain that fails the check -/
theorem C09_antichain_sim_check_needs_transitive :
    isNfaSimB (nfaUnionDisjoint tA tB) rNT = true ∧
    (nfaStates (nfaUnionDisjoint tA tB)).all (fun q => relGet rNT q q) = true ∧
    isNfaSimPreB (nfaUnionDisjoint tA tB) rNT = false ∧
    nfaInclACSimRaw tA tB rNT 50 = some true ∧ nfaInclACSim tA tB rNT 50 = none := by decide +kernel

-- non-vacuity of `C09_antichain_sim_raw_exact` / `C09_antichain_sim_total`: disjoint operands, a simulation preorder, fuel above
-- the bound, verdicts `true` and `false`
example : (∀ q, q ∈ nfaStates a1 → q ∈ nfaStates ab1 → False) ∧
    isNfaSimPreB (nfaUnionDisjoint a1 ab1) rStar = true ∧ fuelBoundAC a1 ab1 < 33 ∧
    nfaInclACSimRaw a1 ab1 rStar 33 = some true :=
  ⟨a1_ab1_pre.1, a1_ab1_pre.2, by decide +kernel, by decide +kernel⟩
example : (∀ q, q ∈ nfaStates ab1 → q ∈ nfaStates a1 → False) ∧
    isNfaSimPreB (nfaUnionDisjoint ab1 a1) rStar = true ∧ fuelBoundAC ab1 a1 < 25 ∧
    nfaInclACSimRaw ab1 a1 rStar 25 = some false := by
  refine ⟨by decide, by decide +kernel, by decide +kernel, by decide +kernel⟩
example : (∀ q, q ∈ nfaStates aab → q ∈ nfaStates aplus → False) ∧
    isNfaSimPreB (nfaUnionDisjoint aab aplus) rAAB = true ∧ fuelBoundAC aab aplus < 97 ∧
    nfaInclACSimRaw aab aplus rAAB 97 = some false :=
  ⟨by decide +kernel, rAAB_pre, by decide +kernel, by decide +kernel⟩
/-- the theorems applied: `a* ⊆ (a|b)*` is answered `true` by the unchecked run, by totality and exactness, not by evaluation -/
example : nfaInclACSimRaw a1 ab1 rStar 33 = some true ∧ nfaInclACSim a1 ab1 rStar 33 = some true :=
  (C09_antichain_sim_total a1 ab1 rStar a1_ab1_pre.1 a1_ab1_pre.2 33 (by decide +kernel)).1
    ((C09_antichain_sim_exact a1 ab1 rStar a1_ab1_pre.1 a1_ab1_pre.2 20 true (by decide +kernel)).mp rfl)
/-- the final antichain of a finished run passes the check, by the invariant -/
example : ∃ P, runACSim aplus aplus [(4, 4), (5, 5), (4, 5)] 20 = some (.ok P) ∧
    nfaUpCertSimB aplus aplus [(4, 4), (5, 5), (4, 5)] (P.map (fun i => (i.q, i.S))) = true := by
  refine ⟨_, rfl, ?_⟩
  decide +kernel

/-! ### 4. all seven rows, unchecked models for the two rows with a simulation -/

/-- the model of the row with option word `word` where the two rows with a simulation (16 `ANTICHAINS_SIM`, 17 `CONGR_DEPTH_SIM`)
return the verdict of the exploration WITHOUT the final certificate check – what the C++ returns; the other rows as in
`C09Sel.model` (`ANTICHAINS_NOSIM` and the two `CONGR_*_NOSIM` rows are certify-then-trust models whose check is proved never to
fail: `checkNfaInclAC_total`, `checkNfaInclCongr_total`; the EQUIV rows have no check) -/
def C09Sel.modelRaw (word : Nat) (A B : NFA) (R : Rel) (fuel : Nat) : Option Bool :=
  if word = 16 then nfaInclACSimRaw A B R fuel
  else if word = 17 then nfaInclCongrSimRaw A B R fuel
  else C09Sel.model word A B R fuel

/-- the fuel bound of a row of the table (picked pairs) -/
def C09Sel.boundRaw (word : Nat) (A B : NFA) : Nat :=
  if word = 16 then fuelBoundAC A B
  else if word = 17 then fuelBoundCongr A B
  else C09Sel.bound word A B

/-- **every implemented selection is exact, unchecked models.**  For every row `c` of the regenerated dispatch table
`Vata.Gen.faDispatch` every verdict of `C09Sel.modelRaw` is the truth of `L(A) ⊆ L(B)`.  Hypotheses: none for the five rows
without a simulation (the dispatcher sanitises); for `ANTICHAINS_SIM` (word 16) the operands must be state-disjoint and `R` a
simulation preorder on their disjoint union; for `CONGR_DEPTH_SIM` (word 17, called with `smaller := A ⊎ B` as the command
line does) the operands must be state-disjoint and `R` a simulation on their disjoint union.  Neither hypothesis can be
dropped: `C09_antichain_sim_needs_simulation`, `C09_antichain_sim_needs_disjoint`, `C09_congr_sim_needs_simulation` -/
theorem C09_every_selection_raw_exact (c : Gen.Case) (hc : c ∈ Gen.faDispatch) (A B : NFA) (R : Rel)
    (hsim16 : c.word = 16 → (∀ q, q ∈ nfaStates A → q ∈ nfaStates B → False) ∧
      isNfaSimPreB (nfaUnionDisjoint A B) R = true)
    (hsim17 : c.word = 17 → (∀ q, q ∈ nfaStates A → q ∈ nfaStates B → False) ∧
      isNfaSimB (nfaUnionDisjoint A B) R = true)
    (fuel : Nat) (b : Bool) (h : C09Sel.modelRaw c.word A B R fuel = some b) : b = true ↔ InclW A B := by
  unfold C09Sel.modelRaw at h
  split at h
  · next h16 => exact C09_antichain_sim_raw_exact A B R (hsim16 h16).1 (hsim16 h16).2 fuel b h
  · next h16 =>
    split at h
    · next h17 => exact C09_congr_sim_exploration_exact A B R (hsim17 h17).1 (hsim17 h17).2 fuel b h
    · exact C09_every_implemented_selection_exact c hc A B R (fun h' => absurd h' h16) fuel b h

/-- **every implemented selection is total, unchecked models**: above the explicit bound of the row the model returns the
right verdict (hypotheses as in `C09_every_selection_raw_exact`) -/
theorem C09_every_selection_raw_total (c : Gen.Case) (hc : c ∈ Gen.faDispatch) (A B : NFA) (R : Rel)
    (hsim16 : c.word = 16 → (∀ q, q ∈ nfaStates A → q ∈ nfaStates B → False) ∧
      isNfaSimPreB (nfaUnionDisjoint A B) R = true)
    (hsim17 : c.word = 17 → (∀ q, q ∈ nfaStates A → q ∈ nfaStates B → False) ∧
      isNfaSimB (nfaUnionDisjoint A B) R = true)
    (fuel : Nat) (hf : C09Sel.boundRaw c.word A B < fuel) :
    (InclW A B → C09Sel.modelRaw c.word A B R fuel = some true) ∧
    (¬ InclW A B → C09Sel.modelRaw c.word A B R fuel = some false) := by
  unfold C09Sel.boundRaw at hf
  unfold C09Sel.modelRaw
  split
  · next h16 =>
    rw [if_pos h16] at hf
    have := C09_antichain_sim_total A B R (hsim16 h16).1 (hsim16 h16).2 fuel hf
    exact ⟨fun hi => (this.1 hi).1, fun hi => (this.2 hi).1⟩
  · next h16 =>
    rw [if_neg h16] at hf
    split
    · next h17 =>
      rw [if_pos h17] at hf
      have := (C09_congr_sim_total A B R fuel hf).2 (hsim17 h17).1 (hsim17 h17).2
      exact ⟨fun hi => (this.1 hi).2, fun hi => (this.2 hi).2⟩
    · next h17 =>
      rw [if_neg h17] at hf
      apply C09_nosim_selections_total c hc ?_ A B R fuel hf
      simp only [Gen.faDispatch, List.mem_cons, List.not_mem_nil, or_false] at hc
      rcases hc with rfl | rfl | rfl | rfl | rfl | rfl | rfl
      · rfl
      · exact absurd rfl h16
      · rfl
      · rfl
      · exact absurd rfl h17
      · rfl
      · rfl

-- non-vacuity for each of the seven rows: `a* ⊆ (a|b)*` is answered `true`, the converse `false`, by the unchecked models
example : ∀ c, c ∈ Gen.faDispatch → C09Sel.modelRaw c.word a1 ab1 rStar 20 = some true ∧
    C09Sel.modelRaw c.word ab1 a1 rStar 20 = some false := by decide +kernel
example : (∀ q, q ∈ nfaStates a1 → q ∈ nfaStates ab1 → False) ∧ isNfaSimPreB (nfaUnionDisjoint a1 ab1) rStar = true ∧
    isNfaSimB (nfaUnionDisjoint a1 ab1) rStar = true :=
  ⟨a1_ab1_pre.1, a1_ab1_pre.2, by decide +kernel⟩
example : C09Sel.boundRaw 16 a1 ab1 = 32 ∧ C09Sel.boundRaw 17 a1 ab1 < 20 := by decide +kernel

/-!
## still not proved

* **Transitivity and the raw verdict.**  `C09_antichain_sim_raw_exact` goes through the certificate, which needs `R` transitive
  (`C09_antichain_sim_check_needs_transitive` shows the certificate CAN fail for a reflexive non-transitive simulation).  Whether
  the raw verdict itself can be wrong for a reflexive simulation that is not transitive is neither proved nor refuted (the
  relations the library computes are preorders).  Likewise termination is proved for reflexive transitive relations only; the
  empty relation shows reflexivity is needed, no example shows transitivity is.
* The bound `fuelBoundAC` is that of the exploration without a simulation and far from tight; nothing is proved about the
  simulation making the run shorter.
* Operands that share states: `C09_antichain_sim_needs_disjoint` shows the verdict can be wrong; the caller's obligation to pass
  a relation over the states of BOTH (disjoint) operands is a hypothesis here, not a checked precondition of the C++.
* Everything inherited from `Vata/Properties/C09_Sim.lean` about the abstractions (macro-state cache, memo tables `subsetMap_` /
  `subsetNotMap_`, hash iteration orders, address as third work-list criterion, fixed-size relation indexed through `index_`)
  and about the link between the rows of the table and `C09Sel.model` / `C09Sel.modelRaw` (a reading of the table, not a
  theorem) still stands.
-/
end Vata.Props
