import Vata.Proofs.TimbukGrammarTrans
/-!
# The one-pass parser with flags computes what the stateless two-pass reader computes (property C13)

`parseC_eq_read : optOk (parseC t) = (readText t).map Reading.desc`.
-/
namespace Vata.Timbuk
open Vata.T (splitDelim)

theorem stepTrans_read (st : PState) (line l : Str) :
    optOk (stepTrans st line (trim l)) = (readTransLine l).map (addTrans st) := by
  unfold readTransLine
  cases hs : splitArrow (trim l) with
  | none => rw [stepTrans, hs]; rfl
  | some p =>
    obtain ⟨a, b⟩ := p
    rw [stepTrans_arrow st line hs]
    simp only
    split
    · rfl
    · rw [stepLhs_eq]
      cases readLhs (trim a) with
      | none => rfl
      | some q => rfl

section
variable {ws : List Str}

theorem readHeader_automaton (h : ws.headD [] = kwAutomaton) :
    readHeader ws = if ws.tail.tail ≠ [] then none else some (.aut, ws.tail.map (fun n => (n, -1))) := by
  simp only [readHeader, h, if_true]

theorem readHeader_ops (h : ws.headD [] = kwOps) :
    readHeader ws = (optOk (parseTokens ws.tail)).map (fun ps => (HKind.ops, ps)) := by
  simp only [readHeader, h]
  rfl

theorem readHeader_states (h : ws.headD [] = kwStates) :
    readHeader ws = (optOk (parseTokens ws.tail)).map (fun ps => (HKind.states, ps)) := by
  simp only [readHeader, h]
  rfl

theorem readHeader_final (h : ws.headD [] = kwFinal) :
    readHeader ws = if ws.tail.headD [] ≠ kwStates then none
      else (optOk (parseTokens ws.tail.tail)).map (fun ps => (HKind.final, ps)) := by
  simp only [readHeader, h]
  rfl

theorem readHeader_other (h2 : ws.headD [] ≠ kwAutomaton) (h3 : ws.headD [] ≠ kwOps) (h4 : ws.headD [] ≠ kwStates)
    (h5 : ws.headD [] ≠ kwFinal) : readHeader ws = none := by
  simp only [readHeader, if_neg h2, if_neg h3, if_neg h4, if_neg h5]

end

theorem stepHeaderW_read (st : PState) (line : Str) (ws : List Str) (h : ws.headD [] ≠ kwTransitions) :
    optOk (stepHeaderW st line ws) =
      (readHeader ws).bind (fun h => if st.flag h.1 then none else some (applyItem st h)) := by
  -- with the flags of `st` as variables every branch computes
  obtain ⟨d, areTrans, autP, opsP, statesP, finalP⟩ := st
  by_cases h1 : ws.headD [] = kwAutomaton
  · rw [stepHeaderW_automaton _ line h1, readHeader_automaton h1]
    by_cases h2 : ws.tail.tail ≠ []
    · rw [if_pos h2, if_pos h2]
      cases autP <;> rfl
    · rw [if_neg h2, if_neg h2]
      cases autP
      · simp only [optOk, Option.bind_some, PState.flag, applyItem, map_fst_plain, Bool.false_eq_true, if_false]
      · rfl
  by_cases h2 : ws.headD [] = kwOps
  · rw [stepHeaderW_ops _ line h2, readHeader_ops h2]
    cases opsP <;> cases parseTokens ws.tail <;> rfl
  by_cases h3 : ws.headD [] = kwStates
  · rw [stepHeaderW_states _ line h3, readHeader_states h3]
    cases statesP <;> cases parseTokens ws.tail <;> rfl
  by_cases h4 : ws.headD [] = kwFinal
  · rw [stepHeaderW_final _ line h4, readHeader_final h4]
    by_cases h5 : ws.tail.headD [] ≠ kwStates
    · rw [if_pos h5, if_pos h5]; rfl
    · rw [if_neg h5, if_neg h5]
      cases finalP <;> cases parseTokens ws.tail.tail <;> rfl
  rw [stepHeaderW_other _ line h h1 h2 h3 h4, readHeader_other h1 h2 h3 h4]
  rfl

theorem foldl_addTrans_areTrans (rs : List Trans) : ∀ st : PState, (rs.foldl addTrans st).areTrans = st.areTrans := by
  induction rs with
  | nil => intro st; rfl
  | cons r rs ih => intro st; rw [List.foldl_cons, ih]; rfl

theorem optOk_ok {α : Type} (a : α) : optOk (.ok a : Except String α) = some a := rfl

/-- one line of the loop, successes only: a blank line is skipped, a failing step ends the loop -/
theorem optOk_parseLines_cons (st : PState) (l : Str) (ls : List Str) :
    optOk (parseLines st (l :: ls)) =
      if trim l = [] then optOk (parseLines st ls)
      else (optOk (if st.areTrans then stepTrans st l (trim l) else stepHeader st l (trim l))).bind
        (fun st' => optOk (parseLines st' ls)) := by
  rw [parseLines]
  by_cases hb : trim l = []
  · simp only [hb, if_true]
  · simp only [hb, if_false]
    cases (if st.areTrans then stepTrans st l (trim l) else stepHeader st l (trim l)) <;> rfl

theorem parseLines_rules : ∀ (ls : List Str) (st : PState), st.areTrans = true →
    optOk (parseLines st ls) = (readRulePart ls).map (fun rs => rs.foldl addTrans st) := by
  intro ls
  induction ls with
  | nil => intro st _; rfl
  | cons l ls ih =>
    intro st ht
    rw [optOk_parseLines_cons, readRulePart, if_pos ht, stepTrans_read]
    by_cases hb : trim l = []
    · simp only [hb, if_true, isBlankLine, decide_true]
      exact ih st ht
    · simp only [hb, if_false, isBlankLine, decide_false, Bool.false_eq_true]
      cases readTransLine l with
      | none => rfl
      | some r =>
        simp only [Option.map_some, Option.bind_some]
        rw [ih _ (by exact ht)]
        cases readRulePart ls <;> rfl

/-- what the reader's result means for the parser started in `st`: the header items are applied in order, the flag goes up at the
`Transitions` line, the rules are added; `none` where a repeated section or a bad rule makes the parser throw -/
def finishFrom (st : PState) (p : List (HKind × List (Str × Int)) × List Str) : Option PState :=
  (runItems st p.1).bind (fun st1 =>
    (readRulePart p.2).map (fun rs => rs.foldl addTrans { st1 with areTrans := true }))

theorem applyItem_areTrans (st : PState) (h : HKind × List (Str × Int)) : (applyItem st h).areTrans = st.areTrans := by
  unfold applyItem; split <;> rfl

/-- The line loop, successes only, against the two passes of the reader.  The `filter`: a loop that never meets a `Transitions`
line also ends `.ok`, with the flag down (`parseC` turns that into its last error), where `readHeaderPart` answers `none`. -/
theorem parseLines_hdrPart : ∀ (ls : List Str) (st : PState), st.areTrans = false →
    (optOk (parseLines st ls)).filter (·.areTrans) = (readHeaderPart ls).bind (finishFrom st) := by
  intro ls
  induction ls with
  | nil =>
    intro st ht
    simp [parseLines, optOk, readHeaderPart, ht]
  | cons l ls ih =>
    intro st ht
    rw [optOk_parseLines_cons, readHeaderPart, ht, stepHeader_eq_W]
    by_cases hb : trim l = []
    · simp only [hb, if_true, isBlankLine, decide_true]
      exact ih st ht
    · simp only [hb, if_false, isBlankLine, decide_false, Bool.false_eq_true]
      by_cases hT : (readWords (trim l)).headD [] = kwTransitions
      · simp only [stepHeaderW_transitions st l hT, isTransitionsLine, hT, decide_true, if_true, optOk_ok,
          Option.bind_some]
        rw [parseLines_rules ls _ rfl]
        simp only [Option.bind_some, finishFrom, runItems]
        cases readRulePart ls with
        | none => rfl
        | some rs => simp [foldl_addTrans_areTrans]
      · simp only [isTransitionsLine, hT, decide_false, Bool.false_eq_true, if_false, stepHeaderW_read st l _ hT]
        cases readHeader (readWords (trim l)) with
        | none => rfl
        | some h =>
          simp only [Option.bind_some]
          cases hf : st.flag h.1
          · simp only [Bool.false_eq_true, if_false, Option.bind_some]
            rw [ih _ (by rw [applyItem_areTrans]; exact ht)]
            cases readHeaderPart ls with
            | none => rfl
            | some p =>
              obtain ⟨hs', rest⟩ := p
              simp [finishFrom, runItems, hf]
          · simp only [if_true, Option.bind_none, Option.filter_none]
            cases readHeaderPart ls with
            | none => rfl
            | some p =>
              obtain ⟨hs', rest⟩ := p
              simp [finishFrom, runItems, hf]

theorem applyItem_flag (st : PState) (h : HKind × List (Str × Int)) (k : HKind) :
    (applyItem st h).flag k = (decide (k = h.1) || st.flag k) := by
  obtain ⟨k', ps⟩ := h
  cases k' <;> cases k <;> simp [applyItem, PState.flag]

theorem runItems_eq : ∀ (hs : List (HKind × List (Str × Int))) (st : PState),
    runItems st hs = if (hs.map (·.1)).Nodup ∧ ∀ h ∈ hs, st.flag h.1 = false then some (hs.foldl applyItem st) else none := by
  intro hs
  induction hs with
  | nil => intro st; simp [runItems]
  | cons h hs ih =>
    intro st
    rw [runItems]
    cases hf : st.flag h.1
    · simp only [Bool.false_eq_true, if_false, ih, List.foldl_cons]
      have key : ((hs.map (·.1)).Nodup ∧ ∀ x ∈ hs, (applyItem st h).flag x.1 = false) ↔
          (((h :: hs).map (·.1)).Nodup ∧ ∀ x ∈ h :: hs, st.flag x.1 = false) := by
        simp only [applyItem_flag, Bool.or_eq_false_iff, decide_eq_false_iff_not, List.map_cons, List.nodup_cons,
          List.mem_map, List.mem_cons, forall_eq_or_imp, hf, true_and]
        constructor
        · rintro ⟨h1, h2⟩
          refine ⟨⟨?_, h1⟩, fun x hx => (h2 x hx).2⟩
          rintro ⟨x, hx, e⟩
          exact (h2 x hx).1 e
        · rintro ⟨⟨h1, h2⟩, h3⟩
          exact ⟨h2, fun x hx => ⟨fun e => h1 ⟨x, hx, e⟩, h3 x hx⟩⟩
      by_cases hc : (hs.map (·.1)).Nodup ∧ ∀ x ∈ hs, (applyItem st h).flag x.1 = false
      · rw [if_pos hc, if_pos (key.mp hc)]
      · rw [if_neg hc, if_neg (fun h' => hc (key.mpr h'))]
    · simp only [if_true]
      rw [if_neg]
      rintro ⟨_, h2⟩
      have := h2 h List.mem_cons_self
      rw [hf] at this; cases this

theorem foldl_addTrans_d (rs : List Trans) : ∀ st : PState,
    (rs.foldl addTrans st).d = { st.d with trans := setInsertAll ltTrans st.d.trans rs } := by
  induction rs with
  | nil => intro st; rfl
  | cons r rs ih =>
    intro st
    rw [List.foldl_cons, ih]
    simp [addTrans, setInsertAll]

theorem setInsertAll_append {α : Type} [DecidableEq α] (lt : α → α → Bool) (acc a b : List α) :
    setInsertAll lt (setInsertAll lt acc a) b = setInsertAll lt acc (a ++ b) := by
  simp [setInsertAll, List.foldl_append]

theorem secToks_cons (h : HKind × List (Str × Int)) (hs : List (HKind × List (Str × Int))) (k : HKind) :
    secToks (h :: hs) k = (if h.1 = k then h.2 else []) ++ secToks hs k := by
  unfold secToks
  by_cases e : h.1 = k
  · simp [e]
  · simp [e]

def nameFrom (n : Str) (hs : List (HKind × List (Str × Int))) : Str :=
  hs.foldl (fun n h => if h.1 = .aut then (h.2.map (·.1)).headD [] else n) n

theorem foldl_applyItem_d : ∀ (hs : List (HKind × List (Str × Int))) (st : PState),
    (hs.foldl applyItem st).d =
      { name := nameFrom st.d.name hs
        symbols := setInsertAll ltSym st.d.symbols (secToks hs .ops)
        states := setInsertAll ltStr st.d.states ((secToks hs .states).map (·.1))
        final := setInsertAll ltStr st.d.final ((secToks hs .final).map (·.1))
        trans := st.d.trans } := by
  intro hs
  induction hs with
  | nil => intro st; simp [secToks, nameFrom, setInsertAll]
  | cons h hs ih =>
    intro st
    rw [List.foldl_cons, ih]
    obtain ⟨k, ps⟩ := h
    cases k <;>
      simp [applyItem, secToks_cons, nameFrom, List.map_append, setInsertAll]

theorem optOk_eq_some {α : Type} {x : Except String α} {a : α} : optOk x = some a ↔ x = .ok a := by
  cases x <;> simp [optOk]

theorem optOk_parseC (t : Str) :
    optOk (parseC t) = ((optOk (parseLines {} (splitDelim '\n' t))).filter (·.areTrans)).map (·.d) := by
  unfold parseC
  cases parseLines {} (splitDelim '\n' t) with
  | error e => rfl
  | ok st =>
    simp only [optOk, Option.filter]
    by_cases ha : st.areTrans = true
    · simp only [if_pos ha]; rfl
    · simp only [if_neg ha]; rfl

theorem finish_desc (hs : List (HKind × List (Str × Int))) (rs : List Trans) :
    (rs.foldl addTrans { hs.foldl applyItem {} with areTrans := true }).d = Reading.desc ⟨hs, rs⟩ := by
  rw [foldl_addTrans_d]
  simp only [foldl_applyItem_d]
  rfl

theorem finishFrom_init (ls : List Str) :
    ((readHeaderPart ls).bind (finishFrom {})).map (·.d) = (readLines ls).map Reading.desc := by
  unfold readLines
  cases readHeaderPart ls with
  | none => rfl
  | some p =>
    obtain ⟨hs, rest⟩ := p
    simp only [Option.bind_some, finishFrom, runItems_eq]
    by_cases hn : (hs.map (·.1)).Nodup
    · rw [if_pos ⟨hn, fun x _ => flag_init x.1⟩]
      cases readRulePart rest with
      | none => rfl
      | some rs =>
        simp only [Option.bind_some, Option.map_some, if_pos hn, finish_desc]
    · rw [if_neg (fun h' => hn h'.1)]
      cases readRulePart rest with
      | none => rfl
      | some rs => simp only [Option.bind_none, Option.map_none, if_neg hn]

/-- **the parser and the reader agree**: the parser succeeds exactly on the texts that have a reading, with the
description of the reading -/
theorem parseC_eq_read (t : Str) : optOk (parseC t) = (readText t).map Reading.desc := by
  rw [optOk_parseC, parseLines_hdrPart _ _ rfl, finishFrom_init]
  rfl

theorem parseC_ok_iff (t : Str) (d : Desc) : parseC t = .ok d ↔ ∃ R, readText t = some R ∧ d = R.desc := by
  rw [← optOk_eq_some, parseC_eq_read]
  cases readText t with
  | none => simp
  | some R => simp [eq_comm]

end Vata.Timbuk
