import Vata.Proofs.CliArgs
/-!
# The `-o` loop of `parseArguments` with `find` / `substr` explicit

The loop as coded on indices (`lastPos`, `newPos`, `substr(lastPos, newPos - lastPos)`) never makes `substr`
throw `std::out_of_range` – which would be an exception that is NOT a `std::runtime_error` – and is the "cut at every
comma, `processOption` + `insert` per piece" (`parseOptionList`) the list-level model uses: `optLoopRaw_full`,
`optLoopRaw_no_out_of_range`, both from `optLoopRaw_eq`, the same from any position `lastPos` inside the string.
-/
namespace Vata.CliArgs

theorem optPiece_eq (p : Str) (ps : List Str) (m : Options) (k : Options → OptRaw)
    (hk : ∀ m', k m' = OptRaw.ofExcept (insertPieces ps m')) :
    optPiece p m k = OptRaw.ofExcept (insertPieces (p :: ps) m) := by
  unfold optPiece
  simp only [insertPieces]
  cases processOption p with
  | error e => rfl
  | ok kv =>
    obtain ⟨key, v⟩ := kv
    simp only []
    by_cases h : (mapInsert key v m).2 = true
    · simp only [h, if_true]; exact hk _
    · simp only [h, if_false, Bool.false_eq_true]; rfl

/-- `find` from a position whose rest starts with `p`, free of `c`, followed by `c` -/
theorem findFrom_append {c : Char} {p rest s : Str} {start : Nat} (hp : c ∉ p) (hs : s.drop start = p ++ c :: rest) :
    findFrom c s start = some (start + p.length) := by
  unfold findFrom
  rw [hs, if_pos (List.contains_iff_mem.mpr List.mem_append_cons_self), takeWhile_ne_append hp]

theorem findFrom_none {c : Char} {s : Str} {start : Nat} (h : c ∉ s.drop start) : findFrom c s start = none := by
  unfold findFrom
  rw [if_neg fun hc => h (List.contains_iff_mem.mp hc)]

theorem substr_some {s : Str} {pos : Nat} (h : pos ≤ s.length) (n : Nat) :
    substr s pos (some n) = some ((s.drop pos).take n) := by
  unfold substr
  rw [if_neg (Nat.not_lt.mpr h)]

theorem substr_none {s : Str} {pos : Nat} (h : pos ≤ s.length) : substr s pos none = some (s.drop pos) := by
  unfold substr
  rw [if_neg (Nat.not_lt.mpr h)]

theorem optLoopRaw_eq (s : Str) : ∀ (fuel lastPos : Nat) (m : Options), lastPos ≤ s.length →
    (s.drop lastPos).length < fuel →
    optLoopRaw s fuel lastPos m = OptRaw.ofExcept (insertPieces (Vata.T.splitDelim ',' (s.drop lastPos)) m) := by
  intro fuel
  induction fuel with
  | zero => intro _ _ _ h; omega
  | succ fuel ih =>
    intro lastPos m hle hfuel
    rw [optLoopRaw]
    by_cases hc : ',' ∈ s.drop lastPos
    · -- the piece before the first comma, then the loop on what follows it
      obtain ⟨p, rest, hr, hp⟩ := List.eq_append_cons_of_mem hc
      have hdrop : s.drop (lastPos + p.length + 1) = rest := by
        rw [Nat.add_assoc, ← List.drop_drop, hr]; simp
      have h1 : (s.drop lastPos).length = s.length - lastPos := List.length_drop
      have h2 : (s.drop lastPos).length = p.length + (rest.length + 1) := by
        rw [hr, List.length_append, List.length_cons]
      rw [findFrom_append hp hr]
      simp only []
      rw [substr_some hle, Nat.add_sub_cancel_left, hr, List.take_left' rfl,
        Vata.T.splitDelim_append_nodelim ',' _ hp rest]
      refine optPiece_eq _ _ m _ fun m' => ?_
      rw [ih _ m' (by omega) (by rw [hdrop]; omega), hdrop]
    · rw [findFrom_none hc]
      simp only []
      rw [substr_none hle, Vata.T.splitDelim_nodelim ',' _ hc]
      exact optPiece_eq _ [] m _ fun m' => rfl

/-- the loop as coded on a whole `-o` argument: never `out_of_range`, and equal to `parseOptionList` -/
theorem optLoopRaw_full (s : Str) (m : Options) :
    optLoopRaw s (s.length + 1) 0 m = OptRaw.ofExcept (parseOptionList s m) := by
  rw [optLoopRaw_eq s (s.length + 1) 0 m (by omega) (by simp)]
  simp [parseOptionList]

theorem optLoopRaw_no_out_of_range (s : Str) (m : Options) :
    optLoopRaw s (s.length + 1) 0 m ≠ .outOfRange ∧ optLoopRaw s (s.length + 1) 0 m ≠ .fuel := by
  rw [optLoopRaw_full]
  cases parseOptionList s m <;> simp [OptRaw.ofExcept]

end Vata.CliArgs
