import Vata.InclDown
import Vata.Proofs.Finish
import Vata.Proofs.Verdict
import Vata.Lang
import Vata.Reduce
import Vata.Proofs.SimModel
import Vata.Proofs.Rename
import Vata.Proofs.TrimModel
/-!
# The certifying downward inclusion models (properties C01, C07): every verdict they return is right

Each model returns its verdict together with a certificate (a set of pairs closed under the choice-function condition,
also modulo language preorders obtained from a validated simulation, or a separating tree) and re-checks it with a
Boolean test that is sound and exact for that condition.  So whatever the exploration did, a returned verdict is the
truth about `Incl A B` (`Vata/Lang.lean`).  The exploration itself is analysed in `Vata/Proofs/InclDownInv.lean` and
`Vata/Proofs/InclDownTotal.lean`.
-/
namespace Vata
open InclDown
open InclUp (Cert)

namespace InclDown

theorem mem_filterMap_ite {α β : Type} {l : List α} {p : α → Prop} [DecidablePred p] {g : α → Option β} {b : β} :
    b ∈ l.filterMap (fun a => if p a then g a else none) ↔ ∃ a, a ∈ l ∧ p a ∧ g a = some b := by
  rw [List.mem_filterMap]
  constructor
  · rintro ⟨a, ha, h⟩
    by_cases hp : p a
    · rw [if_pos hp] at h; exact ⟨a, ha, hp, h⟩
    · rw [if_neg hp] at h; cases h
  · rintro ⟨a, ha, hp, h⟩
    exact ⟨a, ha, by rw [if_pos hp]; exact h⟩

theorem mem_ssetP {acc : List (Rule × Nat)} {i s : Nat} :
    s ∈ ssetP acc i ↔ ∃ rc, rc ∈ acc ∧ rc.2 = i ∧ rc.1.kids[i]? = some s := mem_filterMap_ite

theorem mem_sset {W : List Rule} {c : Rule → Nat} {i s : Nat} :
    s ∈ sset W c i ↔ ∃ r, r ∈ W ∧ c r = i ∧ r.kids[i]? = some s := mem_filterMap_ite

theorem hit_iff {sub : Nat → List Nat → Bool} {ks : List Nat} {acc : List (Rule × Nat)} :
    hit sub ks acc = true ↔ ∃ i k, ks[i]? = some k ∧ sub k (ssetP acc i) = true := by
  simp only [hit, List.any_eq_true, List.mem_range]
  constructor
  · rintro ⟨i, _, h⟩
    split at h
    · next k hk => exact ⟨i, k, hk, h⟩
    · cases h
  · rintro ⟨i, k, hk, h⟩
    exact ⟨i, (List.getElem?_eq_some_iff.mp hk).1, by rw [hk]; exact h⟩

theorem chk_sound (sub : Nat → List Nat → Bool) (ks : List Nat) (W : List Rule) :
    ∀ (acc : List (Rule × Nat)), chk sub ks W acc = true →
      ∀ c : Rule → Nat, (∀ r, r ∈ W → c r < ks.length) →
        ∃ i k S, ks[i]? = some k ∧ sub k S = true ∧ ∀ s, s ∈ S → s ∈ ssetP acc i ∨ s ∈ sset W c i := by
  have hit_sound : ∀ {acc W} {c : Rule → Nat}, hit sub ks acc = true →
      ∃ i k S, ks[i]? = some k ∧ sub k S = true ∧ ∀ s, s ∈ S → s ∈ ssetP acc i ∨ s ∈ sset W c i :=
    fun h => let ⟨i, k, hk, hs⟩ := hit_iff.mp h; ⟨i, k, _, hk, hs, fun s hs => Or.inl hs⟩
  induction W with
  | nil => exact fun acc h _ _ => hit_sound h
  | cons r W ih =>
    intro acc h c hc
    simp only [chk, Bool.or_eq_true] at h
    rcases h with h | h
    · exact hit_sound h
    · have h1 := List.all_eq_true.mp h (c r) (List.mem_range.mpr (hc r List.mem_cons_self))
      obtain ⟨i, k, S, hk, hs, hsub⟩ := ih ((r, c r) :: acc) h1 c (fun r' hr' => hc r' (List.mem_cons_of_mem _ hr'))
      refine ⟨i, k, S, hk, hs, fun s hs' => ?_⟩
      rcases hsub s hs' with h2 | h2
      · obtain ⟨rc, hrc, hi, hget⟩ := mem_ssetP.mp h2
        rcases List.mem_cons.mp hrc with he | hrc
        · subst he
          exact Or.inr (mem_sset.mpr ⟨r, List.mem_cons_self, hi, hget⟩)
        · exact Or.inl (mem_ssetP.mpr ⟨rc, hrc, hi, hget⟩)
      · obtain ⟨r', hr', hi, hget⟩ := mem_sset.mp h2
        exact Or.inr (mem_sset.mpr ⟨r', List.mem_cons_of_mem _ hr', hi, hget⟩)

/-- the closure condition with an abstract subsumption `SubP` (monotone consequence of the Boolean test `sub`) -/
def Closed (SubP : Nat → List Nat → Prop) (A B : TA) (X : List Pair) : Prop :=
  ∀ p P, (p, P) ∈ X → ∀ ρ, ρ ∈ A.rules → ρ.parent = p →
    ∀ c : Rule → Nat, (∀ r, r ∈ rulesOf B P ρ.sym ρ.kids.length → c r < ρ.kids.length) →
      ∃ i, ∃ k, ρ.kids[i]? = some k ∧ SubP k (sset (rulesOf B P ρ.sym ρ.kids.length) c i)

theorem certB_sound {sub : Nat → List Nat → Bool} {SubP : Nat → List Nat → Prop} {A B : TA} {X : List Pair}
    (hmono : ∀ k S S', sub k S = true → (∀ s, s ∈ S → s ∈ S') → SubP k S')
    (h : certB sub A B X = true) : Closed SubP A B X ∧ ∀ f, f ∈ A.final → SubP f B.final := by
  simp only [certB, Bool.and_eq_true, List.all_eq_true, Bool.or_eq_true, bne_iff_ne, ne_eq] at h
  refine ⟨?_, fun f hf => hmono f _ _ (h.2 f hf) (fun s hs => hs)⟩
  intro p P hpP ρ hρ hpar c hc
  rcases h.1 (p, P) hpP ρ hρ with h1 | h1
  · exact absurd hpar h1
  · obtain ⟨i, k, S, hk, hs, hsub⟩ := chk_sound sub ρ.kids _ [] h1 c hc
    refine ⟨i, k, hk, hmono k S _ hs (fun s hs' => ?_)⟩
    rcases hsub s hs' with h2 | h2
    · simp [ssetP] at h2
    · exact h2

theorem subX_iff {X : List Pair} {k : Nat} {S : List Nat} :
    subX X k S = true ↔ ∃ S', (k, S') ∈ X ∧ ∀ s, s ∈ S' → s ∈ S := by
  simp only [subX, List.any_eq_true, Bool.and_eq_true, beq_iff_eq, subB_iff]
  constructor
  · rintro ⟨x, hx, hk, hs⟩
    refine ⟨x.2, ?_, hs⟩
    rw [← hk]; exact hx
  · rintro ⟨S', hS', hs⟩
    exact ⟨(k, S'), hS', rfl, hs⟩

theorem chk_complete (sub : Nat → List Nat → Bool)
    (hmono : ∀ k S S', sub k S = true → (∀ s, s ∈ S → s ∈ S') → sub k S' = true) (ks : List Nat) (W : List Rule) :
    ∀ (acc : List (Rule × Nat)),
      (∀ c : Rule → Nat, (∀ r, r ∈ W → c r < ks.length) →
        ∃ i k, ks[i]? = some k ∧ sub k (ssetP acc i ++ sset W c i) = true) →
      chk sub ks W acc = true := by
  induction W with
  | nil =>
    intro acc h
    obtain ⟨i, k, hk, hs⟩ := h (fun _ => 0) (fun _ hr => absurd hr List.not_mem_nil)
    exact hit_iff.mpr ⟨i, k, hk, hmono k _ _ hs (fun s hs' => (List.mem_append.mp hs').elim id (fun h1 => absurd h1 List.not_mem_nil))⟩
  | cons r W ih =>
    intro acc h
    simp only [chk, Bool.or_eq_true]
    refine Or.inr (List.all_eq_true.mpr (fun i hi => ih ((r, i) :: acc) (fun c hc => ?_)))
    let c' : Rule → Nat := fun r' => if r' = r then i else c r'
    have hc' : ∀ r', r' ∈ r :: W → c' r' < ks.length := by
      intro r' hr'
      by_cases he : r' = r
      · simp only [c', if_pos he]; exact List.mem_range.mp hi
      · simp only [c', if_neg he]
        exact hc r' ((List.mem_cons.mp hr').resolve_left he)
    obtain ⟨j, k, hk, hs⟩ := h c' hc'
    refine ⟨j, k, hk, hmono k _ _ hs (fun s hs' => ?_)⟩
    rcases List.mem_append.mp hs' with h1 | h1
    · obtain ⟨rc, hrc, hj, hget⟩ := mem_ssetP.mp h1
      exact List.mem_append_left _ (mem_ssetP.mpr ⟨rc, List.mem_cons_of_mem _ hrc, hj, hget⟩)
    · obtain ⟨r', hr', hj, hget⟩ := mem_sset.mp h1
      by_cases he : r' = r
      · subst he
        simp only [c', if_true] at hj
        exact List.mem_append_left _ (mem_ssetP.mpr ⟨(r', i), List.mem_cons_self, hj, hget⟩)
      · simp only [c', if_neg he] at hj
        exact List.mem_append_right _ (mem_sset.mpr ⟨r', (List.mem_cons.mp hr').resolve_left he, hj, hget⟩)

theorem certB_complete {sub : Nat → List Nat → Bool} {SubP : Nat → List Nat → Prop} {A B : TA} {X : List Pair}
    (hmono : ∀ k S S', sub k S = true → (∀ s, s ∈ S → s ∈ S') → sub k S' = true)
    (hsub : ∀ k S, SubP k S → sub k S = true)
    (h : Closed SubP A B X) (hroot : ∀ f, f ∈ A.final → SubP f B.final) : certB sub A B X = true := by
  simp only [certB, Bool.and_eq_true, List.all_eq_true, Bool.or_eq_true, bne_iff_ne, ne_eq]
  refine ⟨?_, fun f hf => hsub f _ (hroot f hf)⟩
  intro x hx ρ hρ
  by_cases hp : ρ.parent = x.1
  · refine Or.inr (chk_complete sub hmono ρ.kids _ [] (fun c hc => ?_))
    obtain ⟨i, k, hk, hs⟩ := h x.1 x.2 hx ρ hρ hp c hc
    exact ⟨i, k, hk, by simpa [ssetP] using hsub k _ hs⟩
  · exact Or.inl hp

theorem subX_mono {X : List Pair} {k : Nat} {S S' : List Nat} (h : subX X k S = true)
    (hsub : ∀ s, s ∈ S → s ∈ S') : subX X k S' = true := by
  obtain ⟨S₀, hS₀, h₀⟩ := subX_iff.mp h
  exact subX_iff.mpr ⟨S₀, hS₀, fun s hs => hsub s (h₀ s hs)⟩

end InclDown

theorem downCertB_sound {A B : TA} {X : List (Nat × List Nat)} (h : downCertB A B X = true) :
    DownCert A B X ∧ ∀ f, f ∈ A.final → Sub X f B.final :=
  certB_sound (SubP := Sub X) (fun _ _ _ hs hsub => subX_iff.mp (subX_mono hs hsub)) h

theorem downCertB_iff (A B : TA) (X : List (Nat × List Nat)) :
    downCertB A B X = true ↔ DownCert A B X ∧ ∀ f, f ∈ A.final → Sub X f B.final := by
  constructor
  · exact downCertB_sound
  · rintro ⟨h1, h2⟩
    exact certB_complete (SubP := Sub X) (fun _ _ _ hs hsub => subX_mono hs hsub)
      (fun k S hs => subX_iff.mpr hs) h1 h2

def SubR (RA RB RAB : Nat → Nat → Prop) (X : List (Nat × List Nat)) (k : Nat) (S : List Nat) : Prop :=
  (∃ s, s ∈ S ∧ RAB k s) ∨ ∃ k' S', (k', S') ∈ X ∧ RA k k' ∧ ∀ s', s' ∈ S' → ∃ s, s ∈ S ∧ RB s' s

def DownCertR (RA RB RAB : Nat → Nat → Prop) (A B : TA) (X : List (Nat × List Nat)) : Prop :=
  ∀ p P, (p, P) ∈ X → ∀ ρ, ρ ∈ A.rules → ρ.parent = p →
    ∀ c : Rule → Nat, (∀ r, r ∈ rulesOf B P ρ.sym ρ.kids.length → c r < ρ.kids.length) →
      ∃ i, ∃ k, ρ.kids[i]? = some k ∧ SubR RA RB RAB X k (sset (rulesOf B P ρ.sym ρ.kids.length) c i)

structure LangOrd (A B : TA) (RA RB RAB : Nat → Nat → Prop) : Prop where
  hA : ∀ t q q', RA q q' → q ∈ reach A t → q' ∈ reach A t
  hB : ∀ t s s', RB s s' → s ∈ reach B t → s' ∈ reach B t
  hAB : ∀ t q s, RAB q s → q ∈ reach A t → s ∈ reach B t

namespace InclDown

theorem subR_holds {A B : TA} {RA RB RAB : Nat → Nat → Prop} (hO : LangOrd A B RA RB RAB)
    {X : List (Nat × List Nat)} {t : Tree} (hX : Holds A B X t) {k : Nat} {S : List Nat}
    (hs : SubR RA RB RAB X k S) (hk : k ∈ reach A t) : ∃ s, s ∈ S ∧ s ∈ reach B t := by
  rcases hs with ⟨s, hsS, hks⟩ | ⟨k', S', hkS', hkk', hSS'⟩
  · exact ⟨s, hsS, hO.hAB t k s hks hk⟩
  · obtain ⟨s', hs', hs'B⟩ := hX k' S' hkS' (hO.hA t k k' hkk' hk)
    obtain ⟨s, hsS, hss⟩ := hSS' s' hs'
    exact ⟨s, hsS, hO.hB t s' s hss hs'B⟩

/-- the induction step of `down_certR_sound`: the failing positions of the rules of the states of `P` are a choice
function, whose subsumed position contradicts the hypothesis on the subtree -/
theorem holds_node {A B : TA} {RA RB RAB : Nat → Nat → Prop} (hO : LangOrd A B RA RB RAB) {X : List (Nat × List Nat)}
    (hX : DownCertR RA RB RAB A B X) {f : Nat} {ts : List Tree} (ihs : ∀ t, t ∈ ts → Holds A B X t) :
    Holds A B X (.node f ts) := by
  intro p P hpP hp
  rw [reach, mem_post'] at hp
  obtain ⟨ρ, hρ, hs, hm, hpar⟩ := hp
  apply Classical.byContradiction
  intro hno
  have hlen : ρ.kids.length = (reachL B ts).length := by
    rw [matchKids_length hm, reachL_eq_map, reachL_eq_map, List.length_map, List.length_map]
  -- no rule of the states of `P` matches; `firstFail` is a valid choice function
  have hfail : ∀ σ, σ ∈ rulesOf B P ρ.sym ρ.kids.length →
      σ.kids.length = ρ.kids.length ∧ matchKids σ.kids (reachL B ts) = false := by
    intro σ hσ
    simp only [rulesOf, List.mem_filter, Bool.and_eq_true, List.contains_iff_mem, beq_iff_eq] at hσ
    refine ⟨hσ.2.2, ?_⟩
    cases hmk : matchKids σ.kids (reachL B ts) with
    | false => rfl
    | true =>
      refine absurd ⟨σ.parent, hσ.2.1.1, ?_⟩ hno
      rw [reach, mem_post']
      exact ⟨σ, hσ.1, hσ.2.1.2.trans hs, hmk, rfl⟩
  have hff := fun σ hσ => firstFail_spec σ.kids (reachL B ts) ((hfail σ hσ).1.trans hlen) (hfail σ hσ).2
  obtain ⟨i, k, hk, hsubR⟩ := hX p P hpP ρ hρ hpar (fun σ => firstFail σ.kids (reachL B ts))
    (fun σ hσ => (hfail σ hσ).1 ▸ (hff σ hσ).1)
  obtain ⟨sA, hsA, hkA⟩ := matchKids_get ρ.kids (reachL A ts) hm i k hk
  obtain ⟨ti, hti, hget, rfl⟩ := reachL_get A ts i sA hsA
  obtain ⟨s, hs', hsB⟩ := subR_holds hO (ihs ti hti) hsubR hkA
  obtain ⟨σ, hσ, hci, hσi⟩ := mem_sset.mp hs'
  obtain ⟨_, k', s', h1, h2, h3⟩ := hff σ hσ
  rw [hci] at h1 h2
  rw [h1] at hσi
  cases hσi
  obtain ⟨ti', _, hget', rfl⟩ := reachL_get B ts i s' h2
  rw [hget] at hget'
  cases hget'
  exact h3 hsB

end InclDown

mutual
theorem down_certR_sound (A B : TA) (RA RB RAB : Nat → Nat → Prop) (hO : LangOrd A B RA RB RAB)
    (X : List (Nat × List Nat)) (hX : DownCertR RA RB RAB A B X) : ∀ t : Tree, Holds A B X t
  | .node _ ts => holds_node hO hX (down_certR_soundL A B RA RB RAB hO X hX ts)
theorem down_certR_soundL (A B : TA) (RA RB RAB : Nat → Nat → Prop) (hO : LangOrd A B RA RB RAB)
    (X : List (Nat × List Nat)) (hX : DownCertR RA RB RAB A B X) : ∀ ts : List Tree, ∀ t, t ∈ ts → Holds A B X t
  | [], _, h => nomatch h
  | t :: ts, t', h => by
    rcases List.mem_cons.mp h with h | h
    · rw [h]; exact down_certR_sound A B RA RB RAB hO X hX t
    · exact down_certR_soundL A B RA RB RAB hO X hX ts t' h
end

theorem down_certR_incl (A B : TA) (RA RB RAB : Nat → Nat → Prop) (hO : LangOrd A B RA RB RAB)
    (X : List (Nat × List Nat)) (hX : DownCertR RA RB RAB A B X)
    (hroot : ∀ f, f ∈ A.final → SubR RA RB RAB X f B.final) : Incl A B := by
  intro t h
  rw [accepts_iff_reach] at h ⊢
  obtain ⟨q, hq, hf⟩ := h
  obtain ⟨s, hs, hsB⟩ := subR_holds hO (down_certR_sound A B RA RB RAB hO X hX t) (hroot q hf) hq
  exact ⟨s, hsB, hs⟩

/-! The plain certificate (`DownCert`, `Sub`) is the case of equality on both sides and no relation from `A` to `B`. -/

theorem langOrd_eq (A B : TA) : LangOrd A B Eq Eq (fun _ _ => False) :=
  ⟨fun _ _ _ h hq => h ▸ hq, fun _ _ _ h hs => h ▸ hs, fun _ _ _ h => h.elim⟩

theorem subR_of_sub {X : List (Nat × List Nat)} {k : Nat} {S : List Nat} (h : Sub X k S) :
    SubR Eq Eq (fun _ _ => False) X k S :=
  let ⟨S', hX, hS⟩ := h
  Or.inr ⟨k, S', hX, rfl, fun s' hs' => ⟨s', hS s' hs', rfl⟩⟩

theorem downCertR_of_downCert {A B : TA} {X : List (Nat × List Nat)} (h : DownCert A B X) :
    DownCertR Eq Eq (fun _ _ => False) A B X := fun p P hpP ρ hρ hpar c hc =>
  let ⟨i, k, hk, hs⟩ := h p P hpP ρ hρ hpar c hc
  ⟨i, k, hk, subR_of_sub hs⟩

theorem down_cert_soundL (A B : TA) (X : List (Nat × List Nat)) (hX : DownCert A B X) :
    ∀ ts : List Tree, ∀ t, t ∈ ts → Holds A B X t :=
  down_certR_soundL A B _ _ _ (langOrd_eq A B) X (downCertR_of_downCert hX)

theorem down_cert_incl (A B : TA) (X : List (Nat × List Nat)) (hX : DownCert A B X)
    (hroot : ∀ f, f ∈ A.final → Sub X f B.final) (t : Tree) (h : accepts A t = true) : accepts B t = true :=
  down_certR_incl A B _ _ _ (langOrd_eq A B) X (downCertR_of_downCert hX) (fun f hf => subR_of_sub (hroot f hf)) t h

#print axioms down_cert_incl

theorem downCertB_incl {A B : TA} {X : List (Nat × List Nat)} (h : downCertB A B X = true) : Incl A B :=
  fun t ht => down_cert_incl A B X (downCertB_sound h).1 (downCertB_sound h).2 t ht

namespace InclDown

def leAP (o : Ord) : Nat → Nat → Prop := fun q r => o.leA q r = true
def leBP (o : Ord) : Nat → Nat → Prop := fun q r => o.leB q r = true
def leABP (o : Ord) : Nat → Nat → Prop := fun q r => o.leAB q r = true

theorem subR_mono {RA RB RAB : Nat → Nat → Prop} {X X' : List Pair} {k : Nat} {S S' : List Nat}
    (hX : ∀ x, x ∈ X → x ∈ X') (hS : ∀ s, s ∈ S → s ∈ S') (h : SubR RA RB RAB X k S) : SubR RA RB RAB X' k S' := by
  rcases h with ⟨s, hs, hks⟩ | ⟨k', S₀, hx, hkk', hall⟩
  · exact Or.inl ⟨s, hS s hs, hks⟩
  · refine Or.inr ⟨k', S₀, hX _ hx, hkk', fun s' hs' => ?_⟩
    obtain ⟨s, hs, hss⟩ := hall s' hs'
    exact ⟨s, hS s hs, hss⟩

theorem subXR_iff {o : Ord} {X : List Pair} {k : Nat} {S : List Nat} :
    subXR o X k S = true ↔ SubR (leAP o) (leBP o) (leABP o) X k S := by
  simp only [subXR, SubR, leAP, leBP, leABP, Bool.or_eq_true, byPre, covers, setLe, List.any_eq_true, List.all_eq_true,
    Bool.and_eq_true, Prod.exists]

theorem subXR_mono {o : Ord} {X : List Pair} {k : Nat} {S S' : List Nat} (h : subXR o X k S = true)
    (hsub : ∀ s, s ∈ S → s ∈ S') : SubR (leAP o) (leBP o) (leABP o) X k S' :=
  subR_mono (fun _ hx => hx) hsub (subXR_iff.mp h)

theorem disjointB_iff {A B : TA} : disjointB A B = true ↔ ∀ q, q ∈ A.states → q ∉ B.states := by
  simp only [disjointB, List.all_eq_true, Bool.not_eq_true']
  constructor
  · intro h q hq hq'
    have := h q hq
    rw [List.contains_iff_mem.mpr hq'] at this
    cases this
  · intro h q hq
    cases hc : B.states.contains q with
    | false => rfl
    | true => exact absurd (List.contains_iff_mem.mp hc) (h q hq)

theorem ordOf_langOrd {A B : TA} {R : Rel} (hsim : isDownSimB (unionDisjoint A B) R = true)
    (hdis : disjointB A B = true) :
    LangOrd A B (leAP (ordOf R A B)) (leBP (ordOf R A B)) (leABP (ordOf R A B)) := by
  have hS := (isDownSimB_iff _ R).mp hsim
  have hd := disjointB_iff.mp hdis
  have key : ∀ t q r, (q, r) ∈ R → q ∈ reach (unionDisjoint A B) t → r ∈ reach (unionDisjoint A B) t :=
    fun t q r h => downSim_lang _ (RelOf R) hS t q r h
  have hl : ∀ t q, q ∈ reach A t → q ∈ reach (unionDisjoint A B) t :=
    fun t q => reach_mono A (unionDisjoint A B) (fun r hr => List.mem_append_left _ hr) t q
  have hr : ∀ t q, q ∈ reach B t → q ∈ reach (unionDisjoint A B) t :=
    fun t q => reach_mono B (unionDisjoint A B) (fun r hr => List.mem_append_right _ hr) t q
  refine ⟨?_, ?_, ?_⟩
  · intro t q q' h hq
    simp only [leAP, ordOf, Bool.or_eq_true, beq_iff_eq, Bool.and_eq_true, List.contains_iff_mem] at h
    rcases h with h | ⟨hR, hst⟩
    · rw [← h]; exact hq
    · exact (unionDisjoint_reach_left A B hd t q' hst).mp (key t q q' hR (hl t q hq))
  · intro t s s' h hs
    simp only [leBP, ordOf, Bool.or_eq_true, beq_iff_eq, Bool.and_eq_true, List.contains_iff_mem] at h
    rcases h with h | ⟨hR, hst⟩
    · rw [← h]; exact hs
    · exact (unionDisjoint_reach_right A B hd t s' hst).mp (key t s s' hR (hr t s hs))
  · intro t q s h hq
    simp only [leABP, ordOf, Bool.and_eq_true, List.contains_iff_mem] at h
    exact (unionDisjoint_reach_right A B hd t s h.2).mp (key t q s h.1 (hl t q hq))

theorem idOrd_langOrd (A B : TA) : LangOrd A B (leAP idOrd) (leBP idOrd) (leABP idOrd) := by
  refine ⟨?_, ?_, ?_⟩
  · intro t q q' h hq
    simp only [leAP, idOrd, beq_iff_eq] at h
    rw [← h]; exact hq
  · intro t s s' h hs
    simp only [leBP, idOrd, beq_iff_eq] at h
    rw [← h]; exact hs
  · intro t q s h
    simp [leABP, idOrd] at h

end InclDown

theorem downCertRB_sound {o : Ord} {A B : TA} {X : List (Nat × List Nat)} (h : downCertRB o A B X = true) :
    DownCertR (leAP o) (leBP o) (leABP o) A B X ∧
      ∀ f, f ∈ A.final → SubR (leAP o) (leBP o) (leABP o) X f B.final :=
  certB_sound (SubP := SubR (leAP o) (leBP o) (leABP o) X) (fun _ _ _ hs hsub => subXR_mono hs hsub) h

theorem downCertRB_iff (o : Ord) (A B : TA) (X : List (Nat × List Nat)) :
    downCertRB o A B X = true ↔ DownCertR (leAP o) (leBP o) (leABP o) A B X ∧
      ∀ f, f ∈ A.final → SubR (leAP o) (leBP o) (leABP o) X f B.final := by
  constructor
  · exact downCertRB_sound
  · rintro ⟨h1, h2⟩
    exact certB_complete (SubP := SubR (leAP o) (leBP o) (leABP o) X)
      (fun _ _ _ hs hsub => subXR_iff.mpr (subXR_mono hs hsub)) (fun k S hs => subXR_iff.mpr hs) h1 h2
theorem downCertRB_incl {o : Ord} {A B : TA} {X : List (Nat × List Nat)}
    (hO : LangOrd A B (leAP o) (leBP o) (leABP o)) (h : downCertRB o A B X = true) : Incl A B :=
  down_certR_incl A B _ _ _ hO X (downCertRB_sound h).1 (downCertRB_sound h).2

namespace InclDown

theorem sim_cond {A B : TA} {R : Rel} {α : Type} {x : Option α} {y : α}
    (h : (if isDownSimB (unionDisjoint A B) R && disjointB A B then x else none) = some y) :
    isDownSimB (unionDisjoint A B) R = true ∧ disjointB A B = true ∧ x = some y := by
  split at h
  · next hc =>
    simp only [Bool.and_eq_true] at hc
    exact ⟨hc.1, hc.2, h⟩
  · cases h

end InclDown

theorem inclDownRec_iff {A B : TA} {fuel : Nat} {b : Bool} {c : Cert} (h : inclDownRec A B fuel = some (b, c)) :
    b = true ↔ Incl A B :=
  finish_iff (fun _ hX => downCertB_incl hX) h

theorem inclDownRec_true {A B : TA} {fuel : Nat} {c : Cert} (h : inclDownRec A B fuel = some (true, c)) :
    Incl A B := (inclDownRec_iff h).mp rfl

theorem inclDownRec_false {A B : TA} {fuel : Nat} {c : Cert} (h : inclDownRec A B fuel = some (false, c)) :
    ¬ Incl A B := fun hi => nomatch (inclDownRec_iff h).mpr hi

theorem inclDownRec_cert {A B : TA} {fuel : Nat} {b : Bool} {c : Cert} (h : inclDownRec A B fuel = some (b, c)) :
    match c with
    | .closed X => b = true ∧ DownCert A B X ∧ ∀ f, f ∈ A.final → Sub X f B.final
    | .witness w => b = false ∧ accepts A w = true ∧ accepts B w = false := by
  have := finish_cert h
  cases c with
  | closed X => exact ⟨this.1, downCertB_sound this.2⟩
  | witness w => exact this

theorem inclDownOpt_iff {A B : TA} {fuel : Nat} {b : Bool} {c : Cert} (h : inclDownOpt A B fuel = some (b, c)) :
    b = true ↔ Incl A B := inclDownRec_iff h

theorem checkInclDownRec_iff {A B : TA} {fuel : Nat} {b : Bool} {c : Cert}
    (h : checkInclDownRec A B fuel = some (b, c)) : b = true ↔ Incl A B :=
  (inclDownRec_iff h).trans (incl_removeUseless A B)

theorem inclDownNonrec_iff {A B : TA} {fuel : Nat} {b : Bool} {c : Cert}
    (h : inclDownNonrec A B fuel = some (b, c)) : b = true ↔ Incl A B :=
  finish_iff (fun _ hX => downCertB_incl hX) h

theorem inclDownNonrec_true {A B : TA} {fuel : Nat} {c : Cert} (h : inclDownNonrec A B fuel = some (true, c)) :
    Incl A B := (inclDownNonrec_iff h).mp rfl

theorem inclDownNonrec_false {A B : TA} {fuel : Nat} {c : Cert} (h : inclDownNonrec A B fuel = some (false, c)) :
    ¬ Incl A B := fun hi => nomatch (inclDownNonrec_iff h).mpr hi

theorem checkInclDownNonrec_iff {A B : TA} {fuel : Nat} {b : Bool} {c : Cert}
    (h : checkInclDownNonrec A B fuel = some (b, c)) : b = true ↔ Incl A B :=
  (inclDownNonrec_iff h).trans (incl_removeUseless A B)

theorem inclDownSim_iff {A B : TA} {R : Rel} {fuel : Nat} {b : Bool} {c : Cert}
    (h : inclDownSim A B R fuel = some (b, c)) : b = true ↔ Incl A B := by
  obtain ⟨hsim, hdis, h'⟩ := sim_cond h
  exact finish_iff (fun _ hX => downCertRB_incl (ordOf_langOrd hsim hdis) hX) h'

theorem inclDownSim_true {A B : TA} {R : Rel} {fuel : Nat} {c : Cert}
    (h : inclDownSim A B R fuel = some (true, c)) : Incl A B := (inclDownSim_iff h).mp rfl

theorem inclDownSim_false {A B : TA} {R : Rel} {fuel : Nat} {c : Cert}
    (h : inclDownSim A B R fuel = some (false, c)) : ¬ Incl A B :=
  fun hi => nomatch (inclDownSim_iff h).mpr hi

theorem inclDownNonrecSim_iff {A B : TA} {R : Rel} {fuel : Nat} {b : Bool} {c : Cert}
    (h : inclDownNonrecSim A B R fuel = some (b, c)) : b = true ↔ Incl A B := by
  obtain ⟨hsim, hdis, h'⟩ := sim_cond h
  exact finish_iff (fun _ hX => downCertRB_incl (ordOf_langOrd hsim hdis) hX) h'

theorem inclDownNonrecSim_true {A B : TA} {R : Rel} {fuel : Nat} {c : Cert}
    (h : inclDownNonrecSim A B R fuel = some (true, c)) : Incl A B := (inclDownNonrecSim_iff h).mp rfl

theorem inclDownNonrecSim_false {A B : TA} {R : Rel} {fuel : Nat} {c : Cert}
    (h : inclDownNonrecSim A B R fuel = some (false, c)) : ¬ Incl A B :=
  fun hi => nomatch (inclDownNonrecSim_iff h).mpr hi

namespace InclDownEx
open InclUp (showTree)

/-- `{a}` -/
def exA : TA := ⟨[⟨0, [], 1⟩], [1]⟩
/-- `{a, b}` -/
def exAB : TA := ⟨[⟨0, [], 3⟩, ⟨1, [], 3⟩], [3]⟩
/-- `a → 1`, `b → 1`, `g(1,1) → 2` final: all four trees `g(x,y)` -/
def exG : TA := ⟨[⟨0, [], 1⟩, ⟨1, [], 1⟩, ⟨2, [1, 1], 2⟩], [2]⟩
/-- `a → 3`, `b → 4`, `g(3,3) → 9`, `g(4,4) → 9` final: only `g(a,a)` and `g(b,b)` -/
def exH : TA := ⟨[⟨0, [], 3⟩, ⟨1, [], 4⟩, ⟨2, [3, 3], 9⟩, ⟨2, [4, 4], 9⟩], [9]⟩
/-- the unary pair (`h`=0, `a`=1, `b`=2, `c`=3): `h(rp) → q0`, `a(r) → rp`, `b → rp`, `a(rp) → r`, `c → r` with
`q0`=0 (final), `rp`=1, `r`=2 -/
def exU1 : TA := ⟨[⟨0, [1], 0⟩, ⟨1, [2], 1⟩, ⟨2, [], 1⟩, ⟨1, [1], 2⟩, ⟨3, [], 2⟩], [0]⟩
/-- `h(t1) → f1`, `h(t2) → f2`, `a(s1) → t1`, `a(s2) → t1`, `a(s1) → t2`, `a(s2) → t2`, `b → t2`, `a(t1) → s1`, `c → s2`
with `f1`=10, `f2`=11 (final), `t1`=12, `t2`=13, `s1`=14, `s2`=15 -/
def exU2 : TA := ⟨[⟨0, [12], 10⟩, ⟨0, [13], 11⟩, ⟨1, [14], 12⟩, ⟨1, [15], 12⟩, ⟨1, [14], 13⟩, ⟨1, [15], 13⟩,
  ⟨2, [], 13⟩, ⟨1, [12], 14⟩, ⟨3, [], 15⟩], [10, 11]⟩
/-- lists `cons(…cons(nil))` of even length / of any length -/
def exEven : TA := ⟨[⟨0, [], 0⟩, ⟨1, [1], 0⟩, ⟨1, [0], 1⟩], [0]⟩
def exAll : TA := ⟨[⟨0, [], 5⟩, ⟨1, [5], 5⟩], [5]⟩
/-- `g(x, c)` with `x ∈ {a, b}`, one state for `x` / two states for `x`: inclusion holds, the state 1 is not
simulated by 3 or 4, the state 5 is simulated by 6 -/
def exS1 : TA := ⟨[⟨0, [], 1⟩, ⟨1, [], 1⟩, ⟨3, [], 5⟩, ⟨2, [1, 5], 2⟩], [2]⟩
def exS2 : TA := ⟨[⟨0, [], 3⟩, ⟨1, [], 4⟩, ⟨3, [], 6⟩, ⟨2, [3, 6], 9⟩, ⟨2, [4, 6], 9⟩], [9]⟩
/-- `h(g(a))` against `{a}` -/
def exDeep : TA := ⟨[⟨0, [], 1⟩, ⟨2, [1], 5⟩, ⟨3, [5], 2⟩], [2]⟩
/-- `{a}` with a useless state: `g(1) → 5` -/
def exUs : TA := ⟨[⟨0, [], 1⟩, ⟨2, [1], 5⟩, ⟨3, [7], 1⟩], [1]⟩

def verdict (r : Option (Bool × Cert)) : Option Bool := r.map (·.1)
def isClosed (r : Option (Bool × Cert)) (X : List (Nat × List Nat)) : Bool :=
  match r with | some (true, .closed Y) => Y == X | _ => false
def isWitness (r : Option (Bool × Cert)) (w : String) : Bool :=
  match r with | some (false, .witness t) => showTree t == w | _ => false

-- `{a} ⊆ {a,b}` true; the certificate is the single pair `(1, {3})`
#guard isClosed (inclDownRec exA exAB 10) [(1, [3])]
#guard isClosed (inclDownNonrec exA exAB 10) [(1, [3])]
-- `{a,b} ⊆ {a}` false with the witness `b`
#guard isWitness (inclDownRec exAB exA 10) "1"
-- the `g(a,b)` shape: false, the witness is `g(a,b)`
#guard isWitness (inclDownRec exG exH 10) "2(0,1)"
#guard isWitness (inclDownNonrec exG exH 10) "2(0,1)"
#guard isWitness (inclDownOpt exG exH 10) "2(0,1)"
-- the converse holds; three pairs
#guard isClosed (inclDownRec exH exG 10) [(3, [1]), (4, [1]), (9, [2])]
-- the unary pair: false with the witness `h(a(a(b)))`; the converse holds
#guard isWitness (inclDownRec exU1 exU2 10) "0(1(1(2)))"
#guard isWitness (inclDownNonrec exU1 exU2 10) "0(1(1(2)))"
#guard isClosed (inclDownRec exU2 exU1 10) [(14, [2]), (15, [2]), (12, [1]), (10, [0]), (13, [1]), (11, [0])]
-- recursion through the work-set: even ⊆ all, all ⊄ even (witness `cons(nil)`)
#guard isClosed (inclDownRec exEven exAll 10) [(0, [5]), (1, [5])]
#guard isWitness (inclDownRec exAll exEven 10) "1(0)"
-- an empty set of rhs tuples: the tree is completed with trees of productive states
#guard isWitness (inclDownRec exDeep exA 10) "3(2(0))"
-- a choice function is needed (no bigger tuple): `(1, {3,4})`
#guard isClosed (inclDownRec exS1 exS2 10) [(1, [3, 4]), (5, [6]), (2, [9])]
-- with the simulation the pair `(5, {6})` is implied by the preorder
#guard downSimRef (unionDisjoint exS1 exS2) ==
  [(1, 1), (5, 5), (5, 6), (2, 2), (3, 1), (3, 3), (4, 1), (4, 4), (6, 5), (6, 6), (9, 2), (9, 9)]
#guard isClosed (inclDownSim exS1 exS2 (downSimRef (unionDisjoint exS1 exS2)) 10) [(1, [3, 4]), (2, [9])]
#guard isClosed (inclDownNonrecSim exS1 exS2 (downSimRef (unionDisjoint exS1 exS2)) 10) [(1, [3, 4]), (2, [9])]
#guard isClosed (inclDownSim exS1 exS2 [(5, 6)] 10) [(1, [3, 4]), (2, [9])]
-- the converse is implied by the preorder at the root: empty certificate
#guard isClosed (inclDownSim exS2 exS1 (downSimRef (unionDisjoint exS2 exS1)) 10) []
#guard isWitness (inclDownSim exU1 exU2 (downSimRef (unionDisjoint exU1 exU2)) 10) "0(1(1(2)))"
-- a relation that is not a simulation, operands that are not disjoint: refused
#guard verdict (inclDownSim exS1 exS2 [(1, 3)] 10) == none
#guard verdict (inclDownSim exA exA [] 10) == none
-- fuel = nesting depth of the calls
#guard verdict (inclDownRec exG exH 0) == none
#guard verdict (inclDownRec exG exH 1) == some false
-- a useless state of `A` makes the code answer `false` (`h(?) → 1` cannot be completed): the witness check refuses,
-- the sanitising wrapper answers
#guard verdict (inclDownRec exUs exA 10) == none
#guard verdict (checkInclDownRec exUs exA 10) == some true
#guard verdict (checkInclDownNonrec exUs exA 10) == some true

example : Incl exA exAB := (Verdict.exists_cert (o := inclDownRec exA exAB 10) (by decide +kernel)).elim fun _ => inclDownRec_true
example : downCertB exH exG [(3, [1]), (4, [1]), (9, [2])] = true := by decide +kernel
example : DownCert exH exG [(3, [1]), (4, [1]), (9, [2])] ∧
    ∀ f, f ∈ exH.final → Sub [(3, [1]), (4, [1]), (9, [2])] f exG.final := downCertB_sound (by decide +kernel)
example : Incl exH exG := downCertB_incl (X := [(3, [1]), (4, [1]), (9, [2])]) (by decide +kernel)
example : ¬ Incl exG exH :=
  (Verdict.exists_cert (o := inclDownRec exG exH 10) (by decide +kernel)).elim fun _ => inclDownRec_false
example : ¬ Incl exU1 exU2 :=
  (Verdict.exists_cert (o := inclDownRec exU1 exU2 10) (by decide +kernel)).elim fun _ => inclDownRec_false
example : ¬ Incl exU1 exU2 :=
  (Verdict.exists_cert (o := inclDownNonrec exU1 exU2 10) (by decide +kernel)).elim fun _ => inclDownNonrec_false
example : Incl exU2 exU1 :=
  (Verdict.exists_cert (o := inclDownNonrec exU2 exU1 10) (by decide +kernel)).elim fun _ => inclDownNonrec_true
example : (true = true ↔ Incl exEven exAll) :=
  (Verdict.exists_cert (o := inclDownRec exEven exAll 10) (by decide +kernel)).elim fun _ => inclDownRec_iff
example : (true = true ↔ Incl exUs exA) :=
  (Verdict.exists_cert (o := checkInclDownRec exUs exA 10) (by decide +kernel)).elim fun _ => checkInclDownRec_iff
-- a set that is not closed is refused: the pair for the children of `g` is missing; a missing root is refused
example : downCertB exH exG [(9, [2])] = false := by decide +kernel
example : downCertB exH exG [(3, [1]), (4, [1])] = false := by decide +kernel
-- a choice function without a subsumed position is found: `(1, {3})` does not hold
example : downCertB exS1 exS2 [(1, [3]), (5, [6]), (2, [9])] = false := by decide +kernel
example : downCertB exS1 exS2 [(1, [3, 4]), (5, [6]), (2, [9])] = true := by decide +kernel
example : isDownSimB (unionDisjoint exS1 exS2) [(5, 6)] = true ∧ disjointB exS1 exS2 = true := by decide +kernel
example : LangOrd exS1 exS2 (leAP (ordOf [(5, 6)] exS1 exS2)) (leBP (ordOf [(5, 6)] exS1 exS2))
    (leABP (ordOf [(5, 6)] exS1 exS2)) := ordOf_langOrd (by decide +kernel) (by decide +kernel)
example : downCertRB (ordOf [(5, 6)] exS1 exS2) exS1 exS2 [(1, [3, 4]), (2, [9])] = true := by decide +kernel
example : downCertRB idOrd exS1 exS2 [(1, [3, 4]), (2, [9])] = false := by decide +kernel
example : Incl exS1 exS2 :=
  (Verdict.exists_cert (o := inclDownSim exS1 exS2 [(5, 6)] 10) (by decide +kernel)).elim fun _ => inclDownSim_true
example : ¬ Incl exG exH :=
  (Verdict.exists_cert (o := inclDownSim exG exH [] 10) (by decide +kernel)).elim fun _ => inclDownSim_false

def lcg (s : Nat) : Nat := (s * 1103515245 + 12345) % 2147483648
def rnd (s m : Nat) : Nat × Nat := let s' := lcg s; ((s' / 65536) % m, s')

/-- `k` pseudo-random rules over the states `base..base+nq-1` and the symbols `a/0`, `b/0`, `g/2`, `h/1` -/
def genRules (nq base : Nat) : Nat → Nat → List Rule × Nat
  | 0, s => ([], s)
  | k+1, s =>
    let (sy, s) := rnd s 4
    let (p, s) := rnd s nq
    let (k1, s) := rnd s nq
    let (k2, s) := rnd s nq
    let r : Rule := match sy with
      | 0 => ⟨0, [], base + p⟩
      | 1 => ⟨1, [], base + p⟩
      | 2 => ⟨2, [base + k1, base + k2], base + p⟩
      | _ => ⟨3, [base + k1], base + p⟩
    let (rs, s) := genRules nq base k s
    (r :: rs, s)

def genTA (nq base nr s : Nat) : TA × Nat :=
  let (rs, s) := genRules nq base nr s
  let (f1, s) := rnd s nq
  let (f2, s) := rnd s nq
  (⟨rs, [base + f1, base + f2]⟩, s)

/-- `(agreeing verdicts, disagreeing verdicts, none, of the agreeing: true)` over `n` pairs -/
def selfTest (f : TA → TA → Option (Bool × Cert)) (nq nrA nrB : Nat) :
    Nat → Nat → (Nat × Nat × Nat × Nat) → (Nat × Nat × Nat × Nat)
  | 0, _, acc => acc
  | n+1, s, (ag, dis, no, tr) =>
    let (A, s) := genTA nq 0 nrA s
    let (B, s) := genTA nq 10 nrB s
    let acc := match verdict (f A B), inclM A B 1000 with
      | none, _ => (ag, dis, no + 1, tr)
      | some b, some b' => if b == b' then (ag + 1, dis, no, if b then tr + 1 else tr) else (ag, dis + 1, no, tr)
      | some _, none => (ag, dis + 1, no, tr)
    selfTest f nq nrA nrB n s acc

/-- the simulation variants on the sanitised operands with the greatest downward simulation of the union -/
def simOn (g : TA → TA → Rel → Nat → Option (Bool × Cert)) (A B : TA) : Option (Bool × Cert) :=
  let A' := removeUseless A
  let B' := removeUseless B
  g A' B' (downSimRef (unionDisjoint A' B')) 50

-- sanitised operands: no `none`, all verdicts agree (60 pairs each, 21 resp. 17 inclusions)
#guard selfTest (checkInclDownRec · · 50) 3 5 7 60 42 (0, 0, 0, 0) == (60, 0, 0, 21)
#guard selfTest (checkInclDownNonrec · · 50) 3 5 7 60 42 (0, 0, 0, 0) == (60, 0, 0, 21)
#guard selfTest (simOn inclDownSim) 3 5 7 60 42 (0, 0, 0, 0) == (60, 0, 0, 21)
#guard selfTest (simOn inclDownNonrecSim) 3 5 7 60 42 (0, 0, 0, 0) == (60, 0, 0, 21)
#guard selfTest (checkInclDownRec · · 100) 4 8 10 60 7 (0, 0, 0, 0) == (60, 0, 0, 17)
#guard selfTest (checkInclDownNonrec · · 100) 4 8 10 60 7 (0, 0, 0, 0) == (60, 0, 0, 17)
-- raw operands (useless states, against the precondition of the code): `none` where the code's `false` is not
-- backed by a tree (10 of 60); the verdicts returned agree
#guard selfTest (inclDownRec · · 50) 3 5 7 60 42 (0, 0, 0, 0) == (50, 0, 10, 14)
#guard selfTest (inclDownNonrec · · 50) 3 5 7 60 42 (0, 0, 0, 0) == (50, 0, 10, 14)

end InclDownEx

end Vata
