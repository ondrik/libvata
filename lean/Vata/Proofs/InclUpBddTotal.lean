import Vata.Proofs.InclUpBdd
import Vata.Proofs.InclUpTotal
/-!
# Termination bound and completeness of the bottom-up BDD upward inclusion model (property C07)

`InclUpBdd.run` (`Vata/InclUpBdd.lean`, the model of `CheckUpwardTreeInclusion`, `src/tree_incl_up.hh`) takes one unit of
fuel per pair taken from `workset`; `fuelBoundBdd A B = 2 · |Δ_A| · 2^|Δ_B|` (`|Δ|` = number of rules) suffices, and above
it the certified model returns the right verdict on ANY operands (no `Trimmed` hypothesis: unlike the explicit upward
code, this code has no exit on an empty macro-state, it answers `false` only for a pair whose `A`-state is final).

The measure (the one of the explicit exploration, `InclUp.mu` of `Vata/Proofs/InclUpInv.lean`, re-used): `phiB st = 2 · mu st.antichain + |st.workset|`, where
`mu P` counts the pairs (parent of an `A`-rule, subset of the parents of `B`-rules) that `P` does not subsume.
* the functor (`fctor`) changes the state only for a pair `(q, S)` NOT subsumed by `antichain`; then `antichain` gets the
  pair (`mu` drops by at least one: the pair `(q, S ∩ parents B)` of the universe becomes subsumed, nothing subsumed is
  lost because `refine` only erases pairs above the new one) and `workset` grows by at most one (`refine` may shrink it):
  `phiB` does not grow;
* every iteration of `loop` first removes the head of `workset`: `phiB` drops by one;
* at the start `phiB ⟨[], []⟩ ≤ 2 · |univ|`.
Proved for every step function built from `foreachUp` on rules of `A` (`PhiSpec`), i.e. for the repaired step
`procTuple` and the old step `procTupleOld`.
-/
namespace Vata
open InclUp InclUpBdd

namespace InclUpBdd

def phiB (A B : TA) (st : St) : Nat := 2 * mu A B st.antichain + st.workset.length

theorem length_addTmp_le (W : List Item) (it : Item) : (addTmp W it).length ≤ W.length + 1 := by
  unfold addTmp
  split
  · exact Nat.le_succ _
  · rw [List.length_append]
    exact Nat.add_le_add_right (List.length_filter_le _ _) 1

/-- `UpwardInclusionFunctor::operator()` does not increase the measure -/
theorem phiB_fctor {A B : TA} (st : St) {it : Item} (hd : Dom A B it) :
    Sat (fun _ => True) (fun st' => phiB A B st' ≤ phiB A B st) (fctor A B st it) := by
  refine (fctor_spec A B st it).mono (fun _ _ => trivial) ?_
  rintro st' (⟨_, rfl⟩ | ⟨hs, _, rfl⟩)
  · exact Nat.le_refl _
  · have h1 := mu_addTmp_lt (A := A) (B := B) hd (Bool.eq_false_iff.mpr hs)
    have h2 := length_addTmp_le st.workset it
    simp only [phiB]
    omega

theorem phiB_foreachUp {A B : TA} {ks : List Nat} {Ss : List (List Nat)} {ts : List Tree} {ρs : List Rule}
    (hρs : ∀ ρ, ρ ∈ ρs → ρ ∈ A.rules) (st : St) :
    Sat (fun _ => True) (fun st' => phiB A B st' ≤ phiB A B st) (ρs.foldlM (upStep A B ks Ss ts) st) := by
  refine Sat.foldlM_le ρs st fun st ρ hρ => ?_
  unfold upStep
  split
  · exact phiB_fctor st (dom_mkItem (hρs ρ hρ) (fun _ => mem_macroPost.mp) _)
  · exact Nat.le_refl _

def PhiSpec (A B : TA) (proc : Item → List Nat → St → Res St) : Prop :=
  ∀ it ks st, Sat (fun _ => True) (fun st' => phiB A B st' ≤ phiB A B st) (proc it ks st)

theorem procTuple_phi (A B : TA) : PhiSpec A B (procTuple A B) := by
  intro it ks st
  unfold procTuple
  split
  · rw [procCombos_eq]
    exact Sat.foldlM_le _ st fun st _ _ => phiB_foreachUp (fun _ h => h) st
  · exact Nat.le_refl _

theorem procTupleOld_phi (A B : TA) : PhiSpec A B (procTupleOld A B) := by
  intro it ks st
  unfold procTupleOld
  split
  · rw [foreachUp_eq]
    exact phiB_foreachUp (fun _ h => h) st
  · exact Nat.le_refl _

theorem phiB_procTuples {A B : TA} {proc : Item → List Nat → St → Res St} (hp : PhiSpec A B proc) {it : Item}
    {Tl : List (List Nat)} {st st' : St} (h : procTuples proc it Tl st = .ok st') : phiB A B st' ≤ phiB A B st := by
  have := Sat.foldlM_le (E := fun _ => True) Tl st fun st ks _ => hp it ks st
  rw [← procTuples_eq, h] at this
  exact this

/-- `while (workset.get(procState, procSet))` ends when the fuel exceeds the measure -/
theorem loop_terminates {A B : TA} {proc : Item → List Nat → St → Res St} (hp : PhiSpec A B proc)
    (T : List (List Nat)) (n : Nat) : ∀ st : St, phiB A B st < n → ∃ r, loop proc T n st = some r := by
  induction n with
  | zero => exact fun _ h => absurd h (Nat.not_lt_zero _)
  | succ n ih =>
    rintro ⟨P, W⟩ h
    cases W with
    | nil => exact ⟨_, rfl⟩
    | cons it rest =>
      rw [loop_cons, ← procTuples_eq]
      cases he : procTuples proc it T ⟨P, rest⟩ with
      | error e => exact ⟨_, rfl⟩
      | ok st' =>
        refine ih st' (Nat.lt_of_le_of_lt (phiB_procTuples hp he) ?_)
        rw [phiB, List.length_cons] at h
        exact Nat.lt_of_succ_lt_succ h

theorem loop_mono {proc : Item → List Nat → St → Res St} {T : List (List Nat)} {n : Nat} :
    ∀ {st : St} {r : Res (List Item)}, loop proc T n st = some r → ∀ m, n ≤ m → loop proc T m st = some r := by
  induction n with
  | zero => exact fun h => nomatch h
  | succ n ih =>
    rintro ⟨P, W⟩ r h m hm
    obtain ⟨m, rfl⟩ : ∃ m', m = m' + 1 := ⟨m - 1, by omega⟩
    cases W with
    | nil => exact h
    | cons it rest =>
      rw [loop_cons] at h ⊢
      cases he : T.foldlM (fun st ks => proc it ks st) ⟨P, rest⟩ with
      | error e => rw [he] at h; exact h
      | ok st' => rw [he] at h; exact ih h m (Nat.le_of_succ_le_succ hm)

/-- the number of pairs taken from the work-list is bounded by twice the number of pairs
(rule of `A`, set of rules of `B`) -/
def fuelBoundBdd (A B : TA) : Nat := 2 * (A.rules.length * 2 ^ B.rules.length)

theorem fuelBoundBdd_eq (A B : TA) : fuelBoundBdd A B = InclUp.fuelBound A B := rfl

theorem phiB_init_le (A B : TA) : phiB A B ⟨[], []⟩ ≤ fuelBoundBdd A B := by
  have := List.countP_le_length (p := fun p : Nat × List Nat => !subsumed [] p.1 p.2) (l := InclUp.univ A B)
  rw [length_univ] at this
  exact Nat.mul_le_mul_left 2 this

theorem runWith_terminates {A B : TA} {proc : TA → TA → Item → List Nat → St → Res St} (hp : PhiSpec A B (proc A B))
    {fuel : Nat} (h : fuelBoundBdd A B < fuel) : ∃ r, runWith proc A B fuel = some r := by
  rw [runWith_eq]
  have h₀ := phiB_foreachUp (A := A) (B := B) (ks := []) (Ss := []) (ts := []) (fun _ hm => hm) ⟨[], []⟩
  split
  · exact ⟨_, rfl⟩
  · next st he =>
    rw [he] at h₀
    exact loop_terminates hp _ fuel st (Nat.lt_of_le_of_lt (Nat.le_trans h₀ (phiB_init_le A B)) h)

theorem run_terminates {A B : TA} {fuel : Nat} (h : fuelBoundBdd A B < fuel) : ∃ r, run A B fuel = some r :=
  runWith_terminates (procTuple_phi A B) h

/-- … and so does the algorithm before the repair (it terminates, with a possibly wrong verdict) -/
theorem runOld_terminates {A B : TA} {fuel : Nat} (h : fuelBoundBdd A B < fuel) : ∃ r, runOld A B fuel = some r :=
  runWith_terminates (procTupleOld_phi A B) h

theorem runWith_mono {A B : TA} {proc : TA → TA → Item → List Nat → St → Res St} {n m : Nat} {r : Res (List Item)}
    (h : runWith proc A B n = some r) (hm : n ≤ m) : runWith proc A B m = some r := by
  rw [runWith_eq] at h ⊢
  split
  · next e he => rw [he] at h; exact h
  · next st hst =>
    rw [hst] at h
    exact loop_mono h m hm

theorem run_fuel_irrelevant {A B : TA} {f₁ f₂ : Nat} (h₁ : fuelBoundBdd A B < f₁) (h₂ : fuelBoundBdd A B < f₂) :
    run A B f₁ = run A B f₂ := by
  obtain ⟨r, hr⟩ := run_terminates (A := A) (B := B) (fuel := fuelBoundBdd A B + 1) (Nat.lt_succ_self _)
  rw [show run A B f₁ = some r from runWith_mono hr (by omega),
    show run A B f₂ = some r from runWith_mono hr (by omega)]

end InclUpBdd

theorem inclUpBdd_total (A B : TA) {fuel : Nat} (hf : fuelBoundBdd A B < fuel) :
    ∃ b c, inclUpBdd A B fuel = some (b, c) := by
  obtain ⟨r, hr⟩ := InclUpBdd.run_terminates hf
  cases r with
  | ok P => exact ⟨_, _, inclUpBdd_of_run_ok hr⟩
  | error e => obtain ⟨q, w⟩ := e; exact ⟨_, _, inclUpBdd_of_run_error hr⟩

theorem inclUpBdd_complete (A B : TA) {fuel : Nat} (hf : fuelBoundBdd A B < fuel) :
    (Incl A B → ∃ c, inclUpBdd A B fuel = some (true, c)) ∧
    (¬ Incl A B → ∃ c, inclUpBdd A B fuel = some (false, c)) :=
  Verdict.complete_of_total (inclUpBdd_total A B hf) inclUpBdd_iff

theorem inclUpBdd_fuel_irrelevant {A B : TA} {f₁ f₂ : Nat} (h₁ : fuelBoundBdd A B < f₁) (h₂ : fuelBoundBdd A B < f₂) :
    inclUpBdd A B f₁ = inclUpBdd A B f₂ := by
  unfold inclUpBdd
  rw [run_fuel_irrelevant h₁ h₂]

/-- the model of `CheckInclusion` with `ANTICHAINS_UP_NOSIM` (operands sanitised first) -/
theorem checkInclUpBdd_total (A B : TA) {fuel : Nat}
    (hf : fuelBoundBdd (removeUseless A) (removeUseless B) < fuel) : ∃ b c, checkInclUpBdd A B fuel = some (b, c) :=
  inclUpBdd_total _ _ hf

theorem checkInclUpBdd_complete (A B : TA) {fuel : Nat}
    (hf : fuelBoundBdd (removeUseless A) (removeUseless B) < fuel) :
    (Incl A B → ∃ c, checkInclUpBdd A B fuel = some (true, c)) ∧
    (¬ Incl A B → ∃ c, checkInclUpBdd A B fuel = some (false, c)) := by
  have := inclUpBdd_complete (removeUseless A) (removeUseless B) hf
  rw [incl_removeUseless] at this
  exact this

namespace InclUpBddEx

example : fuelBoundBdd cexA cexB = 96 := by decide
example : fuelBoundBdd exEven exAll = 24 := by decide
example : ∃ r, InclUpBdd.run cexA cexB 97 = some r := InclUpBdd.run_terminates (by decide)
example : ∃ r, InclUpBdd.runOld cexA cexB 97 = some r := runOld_terminates (by decide)
example : ∃ c, inclUpBdd cexA cexB 97 = some (false, c) :=
  (inclUpBdd_complete cexA cexB (by decide +kernel)).2
    ((Verdict.exists_cert (o := inclUpBdd cexA cexB 10) (by decide +kernel)).elim fun _ => inclUpBdd_false)
example : ∃ c, inclUpBdd cexB cexA 100 = some (true, c) :=
  (inclUpBdd_complete cexB cexA (by decide +kernel)).1
    ((Verdict.exists_cert (o := inclUpBdd cexB cexA 10) (by decide +kernel)).elim fun _ => inclUpBdd_true)
-- the bound is generous: 10 units suffice here, 1 unit does not
#guard verdict (inclUpBdd cexA cexB 10) == some false
#guard verdict (inclUpBdd exEven exAll 1) == none
-- no `Trimmed` hypothesis is needed (contrast `InclUp.TotalEx.exU`, on which the explicit model answers `none`)
#guard verdict (inclUpBdd InclUp.TotalEx.exU InclUpEx.exA 100) == some true

end InclUpBddEx

end Vata
