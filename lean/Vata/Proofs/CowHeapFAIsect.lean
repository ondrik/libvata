import Vata.CowHeapFAIsect
import Vata.Proofs.CowHeapFACand2
import Vata.Proofs.NfaOpsCodedMain
import Vata.Proofs.LockStep
/-!
`Intersection` as a block of the heap model (proofs for `Vata/CowHeapFAIsect.lean`, property C11 / C10). The recording run
`trLoop` and the performing run `isectLoop … .fixed` of `NfaOpsCoded.lean` go in lock step: same translation map, same stack,
and replaying the recorded writes on the empty automaton gives `res` up to list order (the C++ `stateSet.insert` is a set
insertion, `nfasAddTrans` appends).
-/
namespace Vata.CowHeapFA

open Vata Vata.W Vata.NfaS Vata.NfaC
open Vata.Store (KeysNodup)
open Vata.CowHeap (upd upd_same upd_other upd_upd_same)

def ResW.napply (R : NFAS) : ResW → NFAS
  | .start n S => nfasSetExistingStart R n S
  | .final n => nfasSetFinal R n
  | .add n a k => nfasAddTrans R n a k

def replay (ws : List ResW) : NFAS := ws.foldl ResW.napply nfasEmpty

theorem replay_snoc (ws : List ResW) (w : ResW) : replay (ws ++ [w]) = ResW.napply (replay ws) w := by
  unfold replay; rw [List.foldl_append]; rfl

theorem napply_congr {R S : NFAS} (h : NEquiv R S) (w : ResW) : NEquiv (ResW.napply R w) (ResW.napply S w) := by
  cases w with
  | start n T => exact nfasSetExistingStart_congr h n T
  | final n => exact nfasSetFinal_congr h n
  | add n a k => exact nfasAddTrans_congr h n a k

/-- the performing run `st` and the recording run `tr` in lock step: same map, same stack, and the writes recorded so far,
    replayed on the empty automaton, give `st.res` -/
structure Sim (st : IsectSt) (tr : IsectTr) : Prop where
  tm : st.tm = tr.tm
  stack : st.stack = tr.stack
  res : NEquiv (replay tr.ws) st.res

/-- the two runs take the same branch of every test (the tests read the operands only) -/
theorem sim_ite {st st' : IsectSt} {tr tr' : IsectTr} (c : Prop) [Decidable c] (h : Sim st tr) (h' : Sim st' tr') :
    Sim (if c then st else st') (if c then tr else tr') := by
  split
  · exact h
  · exact h'

theorem sim_init (o : NfaOrd) (A B : NFAS) : Sim (isectInit o .fixed A B) (trInit o A B) := by
  unfold isectInit trInit
  refine List.foldl_rel ⟨rfl, rfl, NEquiv.refl _⟩ (fun lss _ s t hr => List.foldl_rel hr (fun rss _ s t hr => ?_))
  obtain ⟨h1, h2, h3⟩ := hr
  refine ⟨by simp only [h1], by simp only [h1, h2], ?_⟩
  simp only [replay_snoc, h1]
  exact nfasSetExistingStart_congr h3 _ _

theorem sim_ins (n a : Nat) {st : IsectSt} {tr : IsectTr} (hr : Sim st tr) (q : Nat × Nat) :
    Sim (isectIns n a st q) (trIns n a tr q) := by
  obtain ⟨h1, h2, h3⟩ := hr
  unfold isectIns trIns
  refine ⟨by simp only [h1], by simp only [h1, h2], ?_⟩
  simp only [replay_snoc, h1]
  refine ⟨h3.start, h3.final, fun e => ?_, h3.syms⟩
  show e ∈ (replay tr.ws).trans ++ [_] ↔ e ∈ insT st.res.trans _
  rw [List.mem_append, mem_insT, h3.trans e, List.mem_singleton]

theorem sim_body (o : NfaOrd) (A B : NFAS) (act : (Nat × Nat) × Nat) {st : IsectSt} {tr : IsectTr} (hr : Sim st tr) :
    Sim (isectBody o .fixed A B act st) (trBody o A B act tr) := by
  have h1 : Sim (if A.final.contains act.1.1 && B.final.contains act.1.2 then ⟨st.tm, st.stack, nfasSetFinal st.res act.2⟩ else st)
      (if A.final.contains act.1.1 && B.final.contains act.1.2 then ⟨tr.tm, tr.stack, tr.ws ++ [.final act.2]⟩ else tr) :=
    sim_ite _ ⟨hr.tm, hr.stack, by rw [replay_snoc]; exact nfasSetFinal_congr hr.res _⟩ hr
  exact sim_ite _ h1 (sim_ite _ h1 (List.foldl_rel h1 (fun c _ s t hc =>
    List.foldl_rel (f := isectIns act.2 c.1) (g := trIns act.2 c.1) hc (fun q _ s t hq => sim_ins act.2 c.1 hq q))))

theorem sim_loop (o : NfaOrd) (A B : NFAS) : ∀ (n : Nat) (st : IsectSt) (tr : IsectTr), Sim st tr →
    OptRel Sim (NfaC.isectLoop o IsectVariant.fixed A B n st) (trLoop o A B n tr) := by
  intro n
  induction n with
  | zero =>
    intro st tr hr
    unfold NfaC.isectLoop trLoop
    exact OptRel.guard (by rw [hr.stack]) fun _ => hr
  | succ n ih =>
    intro st tr hr
    unfold NfaC.isectLoop trLoop
    have hs := hr.stack
    cases h : st.stack with
    | nil =>
      rw [h] at hs
      simp only [← hs]
      exact .some hr
    | cons act rest =>
      rw [h] at hs
      simp only [← hs]
      exact ih _ _ (sim_body o A B act ⟨hr.tm, rfl, hr.res⟩)

theorem isect_trace_sim (o : NfaOrd) (A B : NFAS) (fuel : Nat) :
    OptRel Sim (nfasIsectCodedRaw o .fixed A B fuel) (trLoop o A B fuel (trInit o A B)) :=
  sim_loop o A B fuel _ _ (sim_init o A B)

theorem isect_trace_total {o : NfaOrd} (ho : o.Ok) (A B : NFAS) :
    ∃ st tr, nfasIsectCodedRaw o .fixed A B (NfaC.isectFuel o IsectVariant.fixed A B) = some st ∧
      trLoop o A B (NfaC.isectFuel o IsectVariant.fixed A B) (trInit o A B) = some tr ∧ Sim st tr ∧ isectWrites o A B = tr.ws := by
  obtain ⟨st, hst⟩ := nfasIsectCodedRaw_total ho A B
  obtain ⟨hn, _⟩ | ⟨st', tr, h1, htr, h⟩ := (isect_trace_sim o A B (NfaC.isectFuel o IsectVariant.fixed A B)).inv
  · rw [hst] at hn; cases hn
  · cases hst.symm.trans h1
    exact ⟨st, tr, hst, htr, h, by simp [isectWrites, htr]⟩

theorem specStep_write (e : Nat → Option FAVal) (t : Nat) (w : ResW) : specStep e (w.op t) = spec1 e t (fun v => ResW.vapply v w) := by
  cases w <;> rfl

theorem spec_writes (t : Nat) (ws : List ResW) : ∀ (e : Nat → Option FAVal) (v : FAVal), e t = some v →
    (ws.map (ResW.op t)).foldl specStep e = upd e t (some (ws.foldl ResW.vapply v)) := by
  induction ws with
  | nil => exact fun e v hv => (hv ▸ CowHeap.upd_self e t).symm
  | cons w ws ih =>
    intro e v hv
    rw [List.map_cons, List.foldl_cons, specStep_write, List.foldl_cons, spec1_some _ hv,
      ih _ (ResW.vapply v w) (upd_same _ _ _), upd_upd_same]

theorem vapply_denote (v : FAVal) (w : ResW) : NEquiv (ResW.vapply v w).toNFAS (ResW.napply v.toNFAS w) := by
  cases w with
  | start n S => exact NEquiv.refl _
  | final n => exact NEquiv.refl _
  | add n a k => exact vAdd_denote n a k v

theorem writes_denote (ws : List ResW) : ∀ (v : FAVal) (N : NFAS), NEquiv v.toNFAS N →
    NEquiv (ws.foldl ResW.vapply v).toNFAS (ws.foldl ResW.napply N) := by
  induction ws with
  | nil => intro v N h; exact h
  | cons w ws ih =>
    intro v N h
    exact ih _ _ ((vapply_denote v w).trans' (napply_congr h w))

theorem wfv_vapply {v : FAVal} (h : WFV v) (w : ResW) : WFV (ResW.vapply v w) := by
  cases w with
  | start n S => exact wfv_of_trans_eq h rfl
  | final n => exact wfv_of_trans_eq h rfl
  | add n a k => exact wfv_vAdd n a k h

theorem wfv_writes (ws : List ResW) : ∀ (v : FAVal), WFV v → WFV (ws.foldl ResW.vapply v) := by
  induction ws with
  | nil => intro v h; exact h
  | cons w ws ih => intro v h; exact ih _ (wfv_vapply h w)

/-- the value of the local `res` of `Intersection` before `RemoveUselessStates` -/
def vIsectRaw (o : NfaOrd) (A B : FAVal) : FAVal := (isectWrites o A.toNFAS B.toNFAS).foldl ResW.vapply vNew

/-- the value `Intersection` returns -/
def vIsect (o : NfaOrd) (A B : FAVal) : FAVal := vUseless (vIsectRaw o A B)

theorem vIsect_denote {o : NfaOrd} (ho : o.Ok) (A B : FAVal) :
    ∃ st, nfasIsectCodedRaw o .fixed A.toNFAS B.toNFAS (NfaC.isectFuel o IsectVariant.fixed A.toNFAS B.toNFAS) = some st ∧
      nfasIsectCoded o A.toNFAS B.toNFAS = (nfasUselessCoded o true st.res, st.tm) ∧
      NEquiv (vIsectRaw o A B).toNFAS st.res ∧ NEquiv (vIsect o A B).toNFAS (nfasRemoveUseless st.res) := by
  obtain ⟨st, tr, hst, _, hs, hw⟩ := isect_trace_total ho A.toNFAS B.toNFAS
  have h1 : NEquiv (vIsectRaw o A B).toNFAS st.res := by
    unfold vIsectRaw
    rw [hw]
    exact (writes_denote tr.ws vNew nfasEmpty (NEquiv.refl _)).trans' hs.res
  have hk : KeysNodup (vIsectRaw o A B).trans := (wfv_writes _ vNew wfv_vNew).keys
  refine ⟨st, hst, ?_, h1, (vUseless_denote _ hk).trans' (nfasRemoveUseless_congr h1)⟩
  simp [nfasIsectCoded, nfasIsectCodedF, hst]

theorem vIsect_lang {o : NfaOrd} (ho : o.Ok) (A B : FAVal) (w : List Nat) :
    acceptsW (vIsect o A B).toNFA w = (acceptsW A.toNFA w && acceptsW B.toNFA w) ∧
    acceptsW (vIsect o A B).toNFA w = acceptsW (nfasIsectCoded o A.toNFAS B.toNFAS).1.toNFA w := by
  obtain ⟨st, hst, he, _, h2⟩ := vIsect_denote ho A B
  have hl : acceptsW (vIsect o A B).toNFA w = acceptsW st.res.toNFA w :=
    (h2.lang w).trans (nfaRemoveUseless_lang st.res.toNFA w)
  refine ⟨hl.trans ((nfasIsectCodedRaw_spec ho A.toNFAS B.toNFAS _ st hst).2.2.2.2.2 w), ?_⟩
  rw [he, nfasUselessCoded_lang ho]
  exact hl

/-- on values the local `res` of `Intersection` leaves no trace -/
theorem spec_isectOps (e : Nat → Option FAVal) (o : NfaOrd) (A B : FAVal) {dst t : Nat} (hd : e dst = none) (ht : e t = none)
    (hne : dst ≠ t) : (isectOps o A B dst t).foldl specStep e = upd e dst (some (vIsect o A B)) := by
  unfold isectOps
  rw [List.foldl_cons, List.foldl_append, specStep_new_dead ht, spec_writes t _ _ vNew (upd_same _ _ _), upd_upd_same]
  show upd (specRes _ t dst vUseless) t none = _
  rw [specRes_some vUseless (upd_same _ _ _) ((upd_other _ _ hne).trans hd)]
  exact upd_tmp (v := some (vIsectRaw o A B)) ((upd_other _ _ hne.symm).trans ht) (upd_comm _ _ _ hne.symm)

/-- **`Intersection` after any history**: with `dst` and the local `t` dead and distinct, the block `isectOps` leaves `vIsect` in
    `dst`, `t` is dead again, and every other handle reads what it read before (the operands are only read: their values
    `A`, `B` enter through the recorded writes) -/
theorem fa_isect_block (ops : List Op) (o : NfaOrd) (A B : FAVal) (dst t : Nat)
    (hd : absFA (exec ops) dst = none) (ht : absFA (exec ops) t = none) (hne : dst ≠ t) :
    absFA (exec (ops ++ isectOps o A B dst t)) dst = some (vIsect o A B) ∧
    absFA (exec (ops ++ isectOps o A B dst t)) t = none ∧
    ∀ x, x ≠ dst → absFA (exec (ops ++ isectOps o A B dst t)) x = absFA (exec ops) x := by
  rw [absFA_exec_append, spec_isectOps _ o A B hd ht hne]
  exact ⟨upd_same _ _ _, (upd_other _ _ hne.symm).trans ht, fun x hx => upd_other _ _ hx⟩

end Vata.CowHeapFA
