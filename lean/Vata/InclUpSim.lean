import Vata.InclUp
import Vata.InclDown
import Vata.Sanitize
import Vata.InclUpBdd
/-!
# Certifying executable model of the upward antichain inclusion algorithm pruned by an upward simulation

Mirrors `ExplicitUpwardInclusion::checkInternal` (`src/explicit_tree_incl_up.cc`) for a relation `R` given as a list of
pairs (`ANTICHAINS_UP_SIM`; `Vata/InclUp.lean` models the instance with the identity, without the test `checkIntersection`,
so the two models agree on operands with disjoint states only).  `(q, r) ∈ R` reads "`r` simulates
`q`"; `Rel::buildIndex(ind, inv)` yields `ind[q] = {r | (q, r) ∈ R}` and `inv[r] = {q | (q, r) ∈ R}`.  What the code does
with the relation, in its order:

* **minimised macro-states** (`Antichain1C post`): a parent `s` of a matching `B`-rule is dropped when
  `post.contains(ind[s])` (a member simulates it), otherwise `post.refine(inv[s])` erases the members `s` simulates and
  `s` is inserted; `isAccepting` is the disjunction of the finality of all *inserted* states (`minStep`, `minPost`);
* **skip by `checkIntersection(ind[q], S)`**: the pair `(q, S)` is not recorded when a state of `S` simulates `q`
  (`skipSim`) – after the tests "empty macro-state" and "final state with a non-accepting macro-state", both `return false`;
* **`lte(X, Y)`**: the same (interned) set, or every state of `X` is simulated by a state of `Y`; `gte(X, Y) = lte(Y, X)`;
* **`Antichain2C::contains(ind[q], S, lte)`** (`subsumed`): some recorded `(p, P)` has `q ≼ p` and `lte(P, S)`;
* **`Antichain2C::refine(inv[q], S, gte)`** (`refine`): the recorded `(p, P)` with `p ≼ q` and `lte(S, P)` are erased (from
  `next` too, `Eraser`).

Everything else (leaf phase, work-list order, choice vectors, `temporary`, merging) is as in `Vata/InclUp.lean`, whose
definitions are reused.  Hash-container iteration orders are replaced by list order: the order in which the parents
enter `post` decides which of several simulation-equivalent states represents them, so macro-states are mirrored up to
that choice only.

The run ends *certify-then-trust*: `true` is only returned together with the final antichain `X` after `R` has been
validated (`isUpSimB` on `unionDisjoint A B`, disjoint operands) and `X` has passed `upCertSimB A B R X`; `false` only
with a tree `w` after the check `accepts A w && !accepts B w`; `none` = fuel exhausted or a check failed.

Definitions only (core Lean); the theorems are in `Vata/Proofs/InclUpSim.lean`.
-/
namespace Vata

namespace InclUpSim
open InclUp

/-- `q ≼ r`: `r ∈ ind[q]`, `q ∈ inv[r]` -/
def le (R : Rel) (q r : Nat) : Bool := R.contains (q, r)

/-- one parent entering `post`: `contains(ind[s])`, else `refine(inv[s])`, `insert(s)`, `isAccepting |= final(s)` -/
def minStep (R : Rel) (B : TA) (acc : List Nat × Bool) (s : Nat) : List Nat × Bool :=
  if acc.1.any (fun p => le R s p) then acc
  else (acc.1.filter (fun p => !le R p s) ++ [s], acc.2 || B.final.contains s)

/-- the minimised set of the parents `l` (in list order) and the flag `isAccepting` -/
def minPost (R : Rel) (B : TA) (l : List Nat) : List Nat × Bool := l.foldl (minStep R B) ([], false)

/-- the minimised macro-state `post_B f (S₁..Sₙ)` (sorted) with `isAccepting` -/
def macroPost (R : Rel) (B : TA) (f : Nat) (Ss : List (List Nat)) : List Nat × Bool :=
  let r := minPost R B (post B f Ss)
  (normS r.1, r.2)

/-- `checkIntersection(ind[q], S)`: a state of the macro-state simulates `q` -/
def skipSim (R : Rel) (q : Nat) (S : List Nat) : Bool := S.any (fun s => le R q s)

/-- `lte`: the same interned set, or every state of `X` is simulated by a state of `Y` -/
def lte (R : Rel) (X Y : List Nat) : Bool := X == Y || X.all (fun s₁ => Y.any (fun s₂ => le R s₁ s₂))

/-- `Antichain2C::contains(ind[q], S, lte)` -/
def subsumed (R : Rel) (P : List Item) (q : Nat) (S : List Nat) : Bool := P.any (fun i => le R q i.q && lte R i.S S)

/-- `Antichain2C::refine(inv[q], S, gte)` -/
def refine (R : Rel) (P : List Item) (q : Nat) (S : List Nat) : List Item :=
  P.filter (fun i => !(le R i.q q && lte R S i.S))

/-- `if (processed.contains(..)) continue; processed.refine(.., Eraser(next)); processed.insert(..); next.insert(..)` -/
def addItem (R : Rel) (st : St) (it : Item) : St :=
  if subsumed R st.processed it.q it.S then st
  else ⟨refine R st.processed it.q it.S ++ [it], insNext it (refine R st.next it.q it.S)⟩

/-- the same for `temporary` -/
def addTmp (R : Rel) (tmp : List Item) (it : Item) : List Item :=
  if subsumed R tmp it.q it.S then tmp else refine R tmp it.q it.S ++ [it]

def leafPhase (R : Rel) (A B : TA) : List Rule → St → Res St
  | [], st => .ok st
  | ρ :: ρs, st =>
    if ρ.kids.isEmpty then
      let S := macroPost R B ρ.sym []
      if !S.2 && A.final.contains ρ.parent then .error (ρ.parent, .node ρ.sym [])
      else if skipSim R ρ.parent S.1 then leafPhase R A B ρs st
      else leafPhase R A B ρs (addItem R st ⟨ρ.parent, S.1, .node ρ.sym []⟩)
    else leafPhase R A B ρs st

/-- the body of the `do … while (choiceVector.next())` loop for one choice -/
def stepChoice (R : Rel) (A B : TA) (ρ : Rule) (tmp : List Item) (is : List Item) : Res (List Item) :=
  let S' := macroPost R B ρ.sym (is.map (·.S))
  let t' := Tree.node ρ.sym (is.map (·.t))
  if S'.1.isEmpty then .error (ρ.parent, t')
  else if !S'.2 && A.final.contains ρ.parent then .error (ρ.parent, t')
  else if skipSim R ρ.parent S'.1 then .ok tmp
  else .ok (addTmp R tmp ⟨ρ.parent, S'.1, t'⟩)

def stepChoices (R : Rel) (A B : TA) (ρ : Rule) : List (List Item) → List Item → Res (List Item)
  | [], tmp => .ok tmp
  | is :: iss, tmp =>
    match stepChoice R A B ρ tmp is with
    | .error e => .error e
    | .ok tmp' => stepChoices R A B ρ iss tmp'

def procTask (R : Rel) (A B : TA) (it : Item) (ρ : Rule) (j : Nat) (st : St) : Res St :=
  match stepChoices R A B ρ (choicesAt st.processed it ρ.kids j) [] with
  | .error e => .error e
  | .ok tmp => .ok (tmp.foldl (addItem R) st)

def procTasks (R : Rel) (A B : TA) (it : Item) : List (Rule × Nat) → St → Res St
  | [], st => .ok st
  | (ρ, j) :: ts, st =>
    match procTask R A B it ρ j st with
    | .error e => .error e
    | .ok st' => procTasks R A B it ts st'

/-- `while (!next.empty())`; one unit of fuel per picked pair -/
def loop (R : Rel) (A B : TA) : Nat → St → Option (Res (List Item))
  | 0, _ => none
  | n+1, st =>
    match st.next with
    | [] => some (.ok st.processed)
    | it :: rest =>
      match procTasks R A B it (tasks A it.q) ⟨st.processed, rest⟩ with
      | .error e => some (.error e)
      | .ok st' => loop R A B n st'

/-- the algorithm proper: `error` = the code's `return false`, `ok P` = `return true` with the final `processed` -/
def run (R : Rel) (A B : TA) (fuel : Nat) : Option (Res (List Item)) :=
  match sizeExit A B with
  | some ρ => some (.error (ρ.parent, .node ρ.sym []))
  | none =>
    match leafPhase R A B A.rules ⟨[], []⟩ with
    | .error e => some (.error e)
    | .ok st => loop R A B fuel st

/-- `a = b` or `a ≼ b` (the certificate check closes the relation reflexively) -/
def leq (R : Rel) (a b : Nat) : Bool := a == b || R.contains (a, b)

end InclUpSim

open InclUp InclUpSim

/-- `X` is closed under the post-image of `A`-rules up to the subsumption modulo `R` (the parent is simulated by a state
of the post-image, or some pair `(p', P')` of `X` has `parent ≼ p'` and every state of `P'` is simulated by a state of the
post-image), its first components are states of `A`, and it has no bad pair -/
def upCertSimB (A B : TA) (R : Rel) (X : List (Nat × List Nat)) : Bool :=
  A.rules.all (fun ρ => (choices X ρ.kids).all (fun Ss =>
    (post B ρ.sym Ss).any (fun s => leq R ρ.parent s) ||
    X.any (fun p => leq R ρ.parent p.1 && p.2.all (fun s => (post B ρ.sym Ss).any (fun s' => leq R s s'))))) &&
  X.all (fun p => A.states.contains p.1 && (!A.final.contains p.1 || accepting B p.2))

/-- upward antichain inclusion `L(A) ⊆ L(B)` pruned by the relation `R` on the disjoint union, certify-then-trust; `R` is
validated (an upward simulation on `unionDisjoint A B`, the operands disjoint) before a `true` is trusted -/
def inclUpSim (A B : TA) (R : Rel) (fuel : Nat) : Option (Bool × Cert) :=
  match InclUpSim.run R A B fuel with
  | none => none
  | some (.ok P) =>
    let X := P.map (fun i => (i.q, i.S))
    if isUpSimB (unionDisjoint A B) R && InclDown.disjointB A B && upCertSimB A B R X then some (true, .closed X) else none
  | some (.error (q, t)) =>
    let w := complete A q t
    if accepts A w && !accepts B w then some (false, .witness w) else none

/-- model of the command-line `CheckInclusion` with `ANTICHAINS_UP_SIM`: `SanitizeAutsForInclusion`, then the upward
simulation of `UnionDisjointStates(smaller, bigger)`, then `ExplicitUpwardInclusion::Check` with that relation -/
def checkInclUpSim (A B : TA) (fuel : Nat) : Option (Bool × Cert) :=
  let A' := (sanitize A B).1
  let B' := (sanitize A B).2.1
  inclUpSim A' B' (upSimRef (unionDisjoint A' B')) fuel

/-- bottom-up BDD encoding, `ANTICHAINS_UP_SIM` (`BDDBUTreeAutCore::CheckInclusion`): the callee
`CheckUpwardTreeInclusion` (`src/tree_incl_up.hh`) leaves its parameter `const Rel& /* preorder */` unnamed and unused, so
the selection runs the exploration of `ANTICHAINS_UP_NOSIM` (`inclUpBdd`) on the operands as passed – the given relation
has no influence -/
def inclUpBddSim (A B : TA) (_R : Rel) (fuel : Nat) : Option (Bool × Cert) := inclUpBdd A B fuel

/-- the command-line `CheckInclusion` on the bottom-up BDD encoding with `ANTICHAINS_UP_SIM`: sanitise, compute the upward
simulation of the disjoint union, call the selection above (which ignores it) -/
def checkInclUpBddSim (A B : TA) (fuel : Nat) : Option (Bool × Cert) :=
  let A' := (sanitize A B).1
  let B' := (sanitize A B).2.1
  inclUpBddSim A' B' (upSimRef (unionDisjoint A' B')) fuel

end Vata
