import Vata.Proofs.FunctorHeap
import Vata.Proofs.InclUpInv
import Vata.Proofs.ListExt
/-!
# The caches of the upward tree inclusion algorithm are transparent – with the library's deleter (property C01)

Model: `Vata/FunctorCachesUp.lean`; the heap with its invariant (`HInvG`, `HInv`): `Vata/Proofs/FunctorHeap.lean`.

The variant of the algorithm with a simulation (`Vata/Proofs/FunctorCachesUpSim.lean`) has the same heap, the same deaths and
the same antichain code; only the comparison that `lteCache` memoises and the candidates an antichain walk looks at differ.
So the simulation relation (`URelG`, over any invariant of the heap), the insertions (`addItemG_rel`, `addTmpG_rel`, over any
pair of antichain walks that `find_spec` / `erase_spec` of `Vata/Proofs/LockStep.lean` describe) and the merge (`merge_rel`)
are stated once, for both; `URel` is the instance for the identity relation.

The result (`runC_eq`): for EVERY allocator the algorithm with its caches and the library's deleter returns exactly what
`inclUp` returns; with the default deleter (`Wiring.none`) or the slip `Wiring.firstTwice` and an allocator that recycles
addresses at once a stale entry of `lteCache` changes a verdict on a concrete pair (`wiring_changes_verdict`).
-/
namespace Vata
namespace FCU
open Vata.InclUp Vata.CM

def ULive (h : Heap) (l : List UIt) : Prop := ∀ i, i ∈ l → Live h i.a

theorem ULive.store {h h' : Heap} {l : List UIt} (hl : ULive h l) (hs : h'.store = h.store) : ULive h' l :=
  fun i hi => (live_store hs _).mpr (hl i hi)

theorem ULive.insert {h : Heap} {P : List UIt} (hl : ULive h P) {it : UIt} (hit : Live h it.a) (p : UIt → Bool) :
    ULive h (P.filter p ++ [it]) := fun i hi => by
  rcases List.mem_append.mp hi with hi | hi
  · exact hl i (List.mem_filter.mp hi).1
  · rw [List.mem_singleton.mp hi]; exact hit

theorem map_deref_store {h h' : Heap} (hs : h'.store = h.store) (l : List UIt) :
    l.map (UIt.deref h') = l.map (UIt.deref h) := by
  apply List.map_congr_left
  intro i _
  simp only [UIt.deref, hval_store hs]

/-- with the identity relation the pointer test of `lte` is a shortcut only: `⊆` is reflexive -/
theorem hLte_spec {intern : Prop} {B : TA} : LteSpec (HInvG intern subB B) hLte subB := by
  intro h a b hi ha hb
  unfold hLte
  split
  · next e => subst e; exact ⟨(subB_iff.mpr fun _ hx => hx).symm, hi, rfl⟩
  · exact ⟨(hi.lteLookup ha hb).1, (hi.lteLookup ha hb).2, rfl⟩

/-- the pairs `refine` keeps: `c` selects the candidates by their state -/
def keepG (c : Nat → Bool) (lteV : List Nat → List Nat → Bool) (h : Heap) (a : Nat) (i : UIt) : Bool :=
  !(c i.q && lteV (hval h a) (hval h i.a))

theorem keepG_store {c : Nat → Bool} {lteV : List Nat → List Nat → Bool} {h h' : Heap} (hs : h'.store = h.store) (a : Nat) :
    keepG c lteV h' a = keepG c lteV h a := by
  funext i; simp only [keepG, hval_store hs]

theorem keepG_pair {c : Nat → Bool} {lteV : List Nat → List Nat → Bool} {h : Heap} {a : Nat} {i j : UIt} (hq : j.q = i.q)
    (ha : j.a = i.a) : keepG c lteV h a j = keepG c lteV h a i := by
  simp only [keepG, hq, ha]

theorem filter_map_deref (c : Nat → Bool) (lteV : List Nat → List Nat → Bool) (h : Heap) (a : Nat) (P : List UIt) :
    (P.map (UIt.deref h)).filter (fun i => !(c i.q && lteV (hval h a) i.S)) =
      (P.filter (keepG c lteV h a)).map (UIt.deref h) := by
  rw [List.filter_map]; rfl

theorem hasPair_iff {l : List UIt} {i : UIt} : hasPair l i = true ↔ ∃ j, j ∈ l ∧ j.q = i.q ∧ j.a = i.a := by
  simp only [hasPair, List.any_eq_true, Bool.and_eq_true, beq_iff_eq]

/-- the `Eraser` removes from `next` exactly the pairs `refine` erased from `processed` -/
theorem filter_hasPair {c : Nat → Bool} {lteV : List Nat → List Nat → Bool} {h : Heap} {a : Nat} {P N : List UIt}
    (hsub : ∀ i, i ∈ N → hasPair P i = true) :
    N.filter (hasPair (P.filter (keepG c lteV h a))) = N.filter (keepG c lteV h a) := by
  apply List.filter_congr
  intro i hi
  rw [Bool.eq_iff_iff, hasPair_iff]
  constructor
  · rintro ⟨j, hj, hq, ha⟩
    rw [← keepG_pair hq ha]; exact (List.mem_filter.mp hj).2
  · intro hk
    obtain ⟨j, hj, hq, ha⟩ := hasPair_iff.mp (hsub i hi)
    exact ⟨j, List.mem_filter.mpr ⟨hj, by rw [keepG_pair hq ha]; exact hk⟩, hq, ha⟩

theorem insNextC_map (h : Heap) (it : UIt) : ∀ l : List UIt,
    (insNextC h it l).map (UIt.deref h) = insNext (it.deref h) (l.map (UIt.deref h))
  | [] => rfl
  | x :: l => by
    have : itemLtC h it x = itemLt (it.deref h) (x.deref h) := rfl
    simp only [insNextC, insNext, List.map_cons, this]
    split
    · rfl
    · simp only [List.map_cons, insNextC_map h it l]

theorem mem_insNextC {h : Heap} {it x : UIt} : ∀ {l : List UIt}, x ∈ insNextC h it l ↔ x = it ∨ x ∈ l
  | [] => by simp [insNextC]
  | y :: l => by
    simp only [insNextC]
    split
    · simp only [List.mem_cons]
    · simp only [List.mem_cons, mem_insNextC (l := l), or_left_comm]

/-- the cached state read through its pointers is the cache-free state (`tmp` = the antichain `temporary`, `QS` = the value
of `Q`); every handle points to a live object; the heap invariant holds -/
structure URel (B : TA) (s : USt) (st : St) (tmp : List Item) (QS : List Nat) : Prop where
  pr : s.processed.map (UIt.deref s.h) = st.processed
  nx : s.next.map (UIt.deref s.h) = st.next
  tm : s.temporary.map (UIt.deref s.h) = tmp
  qv : ∀ a, s.Q = some a → hval s.h a = QS
  live : ∀ a, a ∈ s.roots → Live s.h a
  sub : ∀ i, i ∈ s.next → hasPair s.processed i = true
  hi : HInv B s.h

/-- the same relation for any invariant `I` of the heap -/
structure URelG (I : Heap → Prop) (s : USt) (st : St) (tmp : List Item) (QS : List Nat) : Prop where
  pr : s.processed.map (UIt.deref s.h) = st.processed
  nx : s.next.map (UIt.deref s.h) = st.next
  tm : s.temporary.map (UIt.deref s.h) = tmp
  qv : ∀ a, s.Q = some a → hval s.h a = QS
  live : ∀ a, a ∈ s.roots → Live s.h a
  sub : ∀ i, i ∈ s.next → hasPair s.processed i = true
  hi : I s.h

abbrev RelC (B : TA) : USt → St → List Item → List Nat → Prop := URelG (HInvG False subB B)

theorem URel_iff {B : TA} {s : USt} {st : St} {tmp : List Item} {QS : List Nat} :
    URel B s st tmp QS ↔ RelC B s st tmp QS :=
  ⟨fun h => ⟨h.pr, h.nx, h.tm, h.qv, h.live, h.sub, HInv_iff.mp h.hi⟩,
   fun h => ⟨h.pr, h.nx, h.tm, h.qv, h.live, h.sub, HInv_iff.mpr h.hi⟩⟩

theorem mem_roots {s : USt} {a : Nat} :
    a ∈ s.roots ↔ (∃ i, i ∈ s.processed ∧ i.a = a) ∨ (∃ i, i ∈ s.temporary ∧ i.a = a) ∨ s.Q = some a := by
  simp only [USt.roots, List.mem_append, List.mem_map, Option.mem_toList, or_assoc]

theorem map_deref_stable {h h' : Heap} {l : List UIt} (hl : ULive h l)
    (hst : ∀ a, Live h a → Live h' a ∧ hval h' a = hval h a) : l.map (UIt.deref h') = l.map (UIt.deref h) := by
  apply List.map_congr_left
  intro i hi
  simp only [UIt.deref, (hst _ (hl i hi)).2]

section Rel
variable {I : Heap → Prop} {s : USt} {st : St} {tmp : List Item} {QS : List Nat}

theorem URelG.lp (h : URelG I s st tmp QS) : ULive s.h s.processed :=
  fun i hi => h.live _ (mem_roots.mpr (Or.inl ⟨i, hi, rfl⟩))

theorem URelG.lt (h : URelG I s st tmp QS) : ULive s.h s.temporary :=
  fun i hi => h.live _ (mem_roots.mpr (Or.inr (Or.inl ⟨i, hi, rfl⟩)))

theorem URelG.ln (h : URelG I s st tmp QS) : ULive s.h s.next := fun i hi => by
  obtain ⟨j, hj, _, ha⟩ := hasPair_iff.mp (h.sub i hi)
  rw [← ha]; exact h.lp j hj

theorem URelG.heap (h : URelG I s st tmp QS) {h' : Heap} (hi' : I h')
    (hst : ∀ a, a ∈ s.roots → Live s.h a → Live h' a ∧ hval h' a = hval s.h a) : URelG I { s with h := h' } st tmp QS := by
  have hroot : ∀ a, a ∈ s.roots → Live h' a ∧ hval h' a = hval s.h a := fun a ha => hst a ha (h.live a ha)
  have hmap : ∀ l : List UIt, (∀ i, i ∈ l → i.a ∈ s.roots) → l.map (UIt.deref h') = l.map (UIt.deref s.h) := by
    intro l hl
    apply List.map_congr_left
    intro i hi
    simp only [UIt.deref, (hroot _ (hl i hi)).2]
  have hp : ∀ i, i ∈ s.processed → i.a ∈ s.roots := fun i hi => mem_roots.mpr (Or.inl ⟨i, hi, rfl⟩)
  have ht : ∀ i, i ∈ s.temporary → i.a ∈ s.roots := fun i hi => mem_roots.mpr (Or.inr (Or.inl ⟨i, hi, rfl⟩))
  have hn : ∀ i, i ∈ s.next → i.a ∈ s.roots := fun i hi => by
    obtain ⟨j, hj, _, ha⟩ := hasPair_iff.mp (h.sub i hi)
    rw [← ha]; exact hp j hj
  exact ⟨(hmap _ hp).trans h.pr, (hmap _ hn).trans h.nx, (hmap _ ht).trans h.tm,
    fun a ha => (hroot a (mem_roots.mpr (Or.inr (Or.inr ha)))).2.trans (h.qv a ha), fun a ha => (hroot a ha).1, h.sub, hi'⟩

theorem URelG.store (h : URelG I s st tmp QS) {h' : Heap} (hi' : I h') (hs : h'.store = s.h.store) :
    URelG I { s with h := h' } st tmp QS :=
  h.heap hi' (fun a _ ha => ⟨(live_store hs a).mpr ha, hval_store hs a⟩)

/-- other lists of live handles in place of the three: the state is related to what they show -/
theorem URelG.relist (h : URelG I s st tmp QS) {P N T : List UIt} {st' : St} {tmp' : List Item}
    (hpr : P.map (UIt.deref s.h) = st'.processed) (hnx : N.map (UIt.deref s.h) = st'.next)
    (htm : T.map (UIt.deref s.h) = tmp') (hP : ULive s.h P) (hT : ULive s.h T) (hsub : ∀ i, i ∈ N → hasPair P i = true) :
    URelG I { s with processed := P, next := N, temporary := T } st' tmp' QS := by
  refine ⟨hpr, hnx, htm, h.qv, fun a ha => ?_, hsub, h.hi⟩
  rcases mem_roots.mp ha with ⟨i, hi, rfl⟩ | ⟨i, hi, rfl⟩ | hr
  · exact hP i hi
  · exact hT i hi
  · exact h.live a (mem_roots.mpr (Or.inr (Or.inr hr)))

/-- `temporary.clear()` -/
theorem URelG.clearTmp (h : URelG I s st tmp QS) : URelG I { s with temporary := [] } st [] QS :=
  h.relist h.pr h.nx rfl h.lp (fun _ hi => nomatch hi) h.sub

/-- `q = next.begin()->first; Q = *next.begin()->second; next.erase(next.begin())` -/
theorem URelG.pick (h : URelG I s st [] QS) {it : UIt} {rest : List UIt} (hn : s.next = it :: rest) :
    URelG I { s with next := rest, Q := some it.a } ⟨st.processed, rest.map (UIt.deref s.h)⟩ [] (hval s.h it.a) := by
  refine ⟨h.pr, rfl, h.tm, ?_, ?_, ?_, h.hi⟩
  · intro a ha
    rw [← Option.some.inj ha]
  · intro a ha
    rcases mem_roots.mp ha with hr | hr | hr
    · exact h.live a (mem_roots.mpr (Or.inl hr))
    · exact h.live a (mem_roots.mpr (Or.inr (Or.inl hr)))
    · rw [← Option.some.inj hr]; exact h.ln it (by rw [hn]; exact List.mem_cons_self)
  · intro i hi
    exact h.sub i (by rw [hn]; exact List.mem_cons_of_mem _ hi)

end Rel

section RelH
variable {intern : Prop} {cmp : List Nat → List Nat → Bool} {B : TA} {s : USt} {st : St} {tmp : List Item} {QS : List Nat}

/-- the dropped handles take effect: nothing the state can see changes -/
theorem URelG.collect (h : URelG (HInvG intern cmp B) s st tmp QS) : URelG (HInvG intern cmp B) (s.collect .lib) st tmp QS :=
  h.heap (h.hi.collect _) fun _ => hCollect_keeps _

/-- `biggerTypeCache.lookup(v)` -/
theorem URelG.lookup (h : URelG (HInvG intern cmp B) s st tmp QS) (pick : List Nat → Nat) (v : List Nat) :
    URelG (HInvG intern cmp B) { s with h := (hLookup pick s.h v).1 } st tmp QS ∧
    Live (hLookup pick s.h v).1 (hLookup pick s.h v).2 ∧ hval (hLookup pick s.h v).1 (hLookup pick s.h v).2 = v := by
  obtain ⟨_, _, _, hl, hv, hold, _⟩ := hLookup_frame pick h.hi.na v
  exact ⟨h.heap (h.hi.lookup pick v) (fun a _ ha => hold a ha), hl, hv⟩

end RelH

theorem URel.lookup {B : TA} {s : USt} {st : St} {tmp : List Item} {QS : List Nat} (h : URel B s st tmp QS)
    (pick : List Nat → Nat) (v : List Nat) :
    URel B { s with h := (hLookup pick s.h v).1 } st tmp QS ∧
    Live (hLookup pick s.h v).1 (hLookup pick s.h v).2 ∧ hval (hLookup pick s.h v).1 (hLookup pick s.h v).2 = v :=
  ((URel_iff.mp h).lookup pick v).imp_left URel_iff.mpr

theorem temporary_nil {B : TA} {s : USt} {st : St} {QS : List Nat} (h : URel B s st [] QS) : s.temporary = [] :=
  List.map_eq_nil_iff.mp h.tm

/-- `addItemC` with the two antichain walks (`contains`, `refine`) as parameters `Fc`, `Fr`: `addItemC` and the variant with a
simulation unfold to it (`addItemC_rel` is `addItemG_rel` with the walks filled in by unification) -/
def addItemG (Fc : UIt → List UIt → Heap → Heap × Bool) (Fr : UIt → List UIt → Heap → Heap × List UIt) (s : USt) (it : UIt) :
    USt :=
  let r1 := Fc it s.processed s.h
  if r1.2 then { s with h := r1.1 }
  else
    let r2 := Fr it s.processed r1.1
    { s with processed := r2.2 ++ [it], next := insNextC r2.1 it (s.next.filter (hasPair r2.2)), h := r2.1 }

/-- the same for `addTmpC` -/
def addTmpG (Fc : UIt → List UIt → Heap → Heap × Bool) (Fr : UIt → List UIt → Heap → Heap × List UIt) (s : USt) (it : UIt) :
    USt :=
  let r1 := Fc it s.temporary s.h
  if r1.2 then { s with h := r1.1 }
  else
    let r2 := Fr it s.temporary r1.1
    { s with temporary := r2.2 ++ [it], h := r2.1 }

/-- the cache-free counterparts: `cc q p` / `cr q p` select the candidates `p` of `contains` / `refine` for the state `q` -/
def addItemV (cc cr : Nat → Nat → Bool) (lteV : List Nat → List Nat → Bool) (st : St) (it : Item) : St :=
  if st.processed.any (fun i => cc it.q i.q && lteV i.S it.S) then st
  else ⟨st.processed.filter (fun i => !(cr it.q i.q && lteV it.S i.S)) ++ [it],
    insNext it (st.next.filter (fun i => !(cr it.q i.q && lteV it.S i.S)))⟩

def addTmpV (cc cr : Nat → Nat → Bool) (lteV : List Nat → List Nat → Bool) (tmp : List Item) (it : Item) : List Item :=
  if tmp.any (fun i => cc it.q i.q && lteV i.S it.S) then tmp
  else tmp.filter (fun i => !(cr it.q i.q && lteV it.S i.S)) ++ [it]

section Add
variable {I : Heap → Prop} {cc cr : Nat → Nat → Bool} {lteV : List Nat → List Nat → Bool}
  {Fc : UIt → List UIt → Heap → Heap × Bool} {Fr : UIt → List UIt → Heap → Heap × List UIt}
  (hFc : ∀ it P h, I h → Live h it.a → ULive h P →
    (Fc it P h).2 = P.any (fun i => cc it.q i.q && lteV (hval h i.a) (hval h it.a)) ∧ I (Fc it P h).1 ∧
      (Fc it P h).1.store = h.store)
  (hFr : ∀ it P h, I h → Live h it.a → ULive h P →
    (Fr it P h).2 = P.filter (keepG (cr it.q) lteV h it.a) ∧ I (Fr it P h).1 ∧ (Fr it P h).1.store = h.store)
  {s : USt} {st : St} {tmp : List Item} {QS : List Nat}
include hFc hFr

/-- the two walks in a row, the second over the heap the first leaves: both answer about `P` as `h` shows it -/
theorem walks_spec {it : UIt} {P : List UIt} {h : Heap} (hi : I h) (hit : Live h it.a) (hl : ULive h P) :
    (Fc it P h).2 = (P.map (UIt.deref h)).any (fun i => cc (it.deref h).q i.q && lteV i.S (it.deref h).S) ∧
    I (Fc it P h).1 ∧ (Fc it P h).1.store = h.store ∧
    (Fr it P (Fc it P h).1).2 = P.filter (keepG (cr it.q) lteV h it.a) ∧
    I (Fr it P (Fc it P h).1).1 ∧ (Fr it P (Fc it P h).1).1.store = h.store := by
  obtain ⟨e1, m1, c1⟩ := hFc it P h hi hit hl
  obtain ⟨e2, m2, c2⟩ := hFr it P _ m1 ((live_store c1 _).mpr hit) (hl.store c1)
  exact ⟨by rw [e1, List.any_map]; rfl, m1, c1, keepG_store c1 _ ▸ e2, m2, c2.trans c1⟩

theorem addItemG_rel (h : URelG I s st tmp QS) {it : UIt} (hit : Live s.h it.a) :
    URelG I (addItemG Fc Fr s it) (addItemV cc cr lteV st (it.deref s.h)) tmp QS := by
  obtain ⟨e1, m1, c1, e2, m2, c2⟩ := walks_spec hFc hFr h.hi hit h.lp
  unfold addItemG addItemV
  simp only
  rw [e1, h.pr, e2, filter_hasPair h.sub]
  split
  · exact h.store m1 c1
  · refine (h.relist ?_ ?_ h.tm (h.lp.insert hit _) h.lt fun i hi => ?_).store m2 c2
    · rw [List.map_append, ← filter_map_deref, h.pr]; rfl
    · rw [← map_deref_store c2, insNextC_map, map_deref_store c2, ← filter_map_deref, h.nx]
      simp only [UIt.deref, hval_store c2]
    · rcases mem_insNextC.mp hi with rfl | hi
      · exact hasPair_iff.mpr ⟨i, List.mem_append_right _ List.mem_cons_self, rfl, rfl⟩
      · obtain ⟨hin, hk⟩ := List.mem_filter.mp hi
        obtain ⟨j, hj, hq, ha⟩ := hasPair_iff.mp (h.sub i hin)
        exact hasPair_iff.mpr ⟨j, List.mem_append_left _ (List.mem_filter.mpr ⟨hj, by rw [keepG_pair hq ha]; exact hk⟩), hq, ha⟩

theorem addTmpG_rel (h : URelG I s st tmp QS) {it : UIt} (hit : Live s.h it.a) :
    URelG I (addTmpG Fc Fr s it) st (addTmpV cc cr lteV tmp (it.deref s.h)) QS := by
  obtain ⟨e1, m1, c1, e2, m2, c2⟩ := walks_spec hFc hFr h.hi hit h.lt
  unfold addTmpG addTmpV
  simp only
  rw [e1, h.tm, e2]
  split
  · exact h.store m1 c1
  · refine (h.relist h.pr h.nx ?_ h.lp (h.lt.insert hit _) h.sub).store m2 c2
    rw [List.map_append, ← filter_map_deref, h.tm]; rfl

end Add

theorem addItemG_frame (Fc : UIt → List UIt → Heap → Heap × Bool) (Fr : UIt → List UIt → Heap → Heap × List UIt) (s : USt)
    (it : UIt) : (addItemG Fc Fr s it).temporary = s.temporary ∧ (addItemG Fc Fr s it).Q = s.Q := by
  simp only [addItemG]; split <;> exact ⟨rfl, rfl⟩

theorem addTmpG_frame (Fc : UIt → List UIt → Heap → Heap × Bool) (Fr : UIt → List UIt → Heap → Heap × List UIt) (s : USt)
    (it : UIt) : (addTmpG Fc Fr s it).processed = s.processed ∧ (addTmpG Fc Fr s it).next = s.next ∧
    (addTmpG Fc Fr s it).Q = s.Q := by
  simp only [addTmpG]; split <;> exact ⟨rfl, rfl, rfl⟩

/-- the merge of `temporary` into `processed` / `next`: a walk `M` that inserts with `ADD` and lets the dropped handles take
effect after every insertion -/
theorem merge_rel {intern : Prop} {cmp : List Nat → List Nat → Bool} {B : TA} {ADD : USt → UIt → USt} {ADD' : St → Item → St}
    {M : List UIt → USt → USt} {tmp : List Item} {QS : List Nat}
    (hA : ∀ {s st it}, URelG (HInvG intern cmp B) s st tmp QS → Live s.h it.a →
      URelG (HInvG intern cmp B) (ADD s it) (ADD' st (it.deref s.h)) tmp QS)
    (hF : ∀ s it, (ADD s it).temporary = s.temporary ∧ (ADD s it).Q = s.Q)
    (m0 : ∀ s, M [] s = s) (m1 : ∀ i l s, M (i :: l) s = M l ((ADD s i).collect .lib)) :
    ∀ (l : List UIt) (s : USt) (st : St), URelG (HInvG intern cmp B) s st tmp QS → (∀ i, i ∈ l → i ∈ s.temporary) →
    URelG (HInvG intern cmp B) (M l s) ((l.map (UIt.deref s.h)).foldl ADD' st) tmp QS ∧
    (M l s).temporary = s.temporary ∧ (M l s).Q = s.Q
  | [], s, _, h, _ => by rw [m0]; exact ⟨h, rfl, rfl⟩
  | i :: l, s, st, h, hl => by
    rw [m1, List.map_cons, List.foldl_cons]
    have h1 := (hA h (hl i List.mem_cons_self |> h.lt i)).collect
    have ht : ((ADD s i).collect .lib).temporary = s.temporary := (hF s i).1
    have hmap : l.map (UIt.deref ((ADD s i).collect .lib).h) = l.map (UIt.deref s.h) := by
      apply List.map_inj_left.mpr
      intro x hx
      have := h1.tm
      rw [ht, ← h.tm] at this
      exact List.map_inj_left.mp this x (hl x (List.mem_cons_of_mem _ hx))
    obtain ⟨g1, g2, g3⟩ := merge_rel hA hF m0 m1 l _ _ h1 (fun x hx => by rw [ht]; exact hl x (List.mem_cons_of_mem _ hx))
    rw [hmap] at g1
    exact ⟨g1, g2.trans ht, g3.trans (hF s i).2⟩

/-- the sets `evalTransitions(symbol, k, S_k)` computed without the cache -/
def evalPure (B : TA) (f n : Nat) : List (List Nat) → Nat → List (List Nat)
  | [], _ => []
  | S :: Ss, k => evalT B (f, n, k) S :: evalPure B f n Ss (k + 1)

theorem evalAll_spec {intern : Prop} {cmp : List Nat → List Nat → Bool} {B : TA} (f n : Nat) :
    ∀ (as : List Nat) (k : Nat) (h : Heap), HInvG intern cmp B h → (∀ a, a ∈ as → Live h a) →
    (evalAll B f n as k h).2 = evalPure B f n (as.map (hval h)) k ∧ HInvG intern cmp B (evalAll B f n as k h).1 ∧
    (evalAll B f n as k h).1.store = h.store
  | [], _, h, hi, _ => ⟨rfl, hi, rfl⟩
  | a :: as, k, h, hi, hl => by
    obtain ⟨e1, m1, c1⟩ := hEval_spec hi (f, n, k) (hl a List.mem_cons_self)
    obtain ⟨e2, m2, c2⟩ := evalAll_spec f n as (k + 1) (hEval B h (f, n, k) a).1 m1
      (fun b hb => (live_store c1 b).mpr (hl b (List.mem_cons_of_mem _ hb)))
    refine ⟨?_, m2, c2.trans c1⟩
    simp only [evalAll, List.map_cons, evalPure, e1, e2]
    rw [List.map_congr_left (fun b _ => hval_store c1 b)]

theorem mem_evalT {B : TA} {k : EKey} {S : List Nat} {r : Nat} :
    r ∈ evalT B k S ↔ ∃ ρ, B.rules[r]? = some ρ ∧ ρ.sym = k.1 ∧ ρ.kids.length = k.2.1 ∧
      ∃ c, ρ.kids[k.2.2]? = some c ∧ c ∈ S := by
  simp only [evalT, List.mem_filter, List.mem_range]
  constructor
  · rintro ⟨hr, hp⟩
    cases hρ : B.rules[r]? with
    | none => rw [hρ] at hp; cases hp
    | some ρ =>
      rw [hρ] at hp
      simp only [Bool.and_eq_true, beq_iff_eq] at hp
      refine ⟨ρ, rfl, hp.1.1, hp.1.2, ?_⟩
      cases hc : ρ.kids[k.2.2]? with
      | none => rw [hc] at hp; cases hp.2
      | some c => rw [hc] at hp; exact ⟨c, rfl, by simpa using hp.2⟩
  · rintro ⟨ρ, hρ, h1, h2, c, hc, hcS⟩
    refine ⟨(List.getElem?_eq_some_iff.mp hρ).1, ?_⟩
    rw [hρ]
    simp only [hc, Bool.and_eq_true, beq_iff_eq]
    exact ⟨⟨h1, h2⟩, by simpa using hcS⟩

/-- `intersectionByLookup` over the remaining sets keeps what is in all of them, in the order of the first -/
theorem foldl_filter_all : ∀ (ss : List (List Nat)) (cur : List Nat),
    ss.foldl (fun cur s' => cur.filter (fun x => s'.contains x)) cur =
      cur.filter (fun x => ss.all (fun s' => s'.contains x))
  | [], cur => (List.filter_eq_self.mpr (fun _ _ => rfl)).symm
  | s' :: ss, cur => by
    simp only [List.foldl_cons, List.all_cons]
    rw [foldl_filter_all ss, List.filter_filter]
    exact List.filter_congr (fun x _ => Bool.and_comm _ _)

theorem mem_interAll {sets : List (List Nat)} (hne : sets ≠ []) {r : Nat} :
    r ∈ interAll sets ↔ ∀ s, s ∈ sets → r ∈ s := by
  cases sets with
  | nil => exact (hne rfl).elim
  | cons s ss =>
    simp only [interAll, foldl_filter_all, List.mem_filter, List.all_eq_true, List.contains_iff_mem, List.mem_cons,
      forall_eq_or_imp]

theorem all_evalPure {B : TA} {f n r : Nat} {ρ : Rule} (hρ : B.rules[r]? = some ρ) (hf : ρ.sym = f)
    (hn : ρ.kids.length = n) : ∀ (Ss : List (List Nat)) (k0 : Nat), k0 + Ss.length = n →
    ((∀ s, s ∈ evalPure B f n Ss k0 → r ∈ s) ↔ matchKids (ρ.kids.drop k0) Ss = true)
  | [], k0, hk => by
    have : ρ.kids.drop k0 = [] := List.drop_eq_nil_of_le (by simp only [List.length_nil] at hk; omega)
    simp [evalPure, this, matchKids]
  | S :: Ss, k0, hk => by
    simp only [List.length_cons] at hk
    have hlt : k0 < ρ.kids.length := by omega
    rw [List.drop_eq_getElem_cons hlt]
    simp only [evalPure, List.mem_cons, forall_eq_or_imp, matchKids, Bool.and_eq_true, List.contains_iff_mem]
    rw [all_evalPure hρ hf hn Ss (k0 + 1) (by omega)]
    constructor
    · rintro ⟨h1, h2⟩
      refine ⟨?_, h2⟩
      obtain ⟨ρ', hρ', _, _, c, hc, hcS⟩ := mem_evalT.mp h1
      rw [hρ] at hρ'
      cases hρ'
      simp only [List.getElem?_eq_getElem hlt, Option.some.injEq] at hc
      rw [hc]; exact hcS
    · rintro ⟨h1, h2⟩
      exact ⟨mem_evalT.mpr ⟨ρ, hρ, hf, hn, _, List.getElem?_eq_getElem hlt, h1⟩, h2⟩

theorem mem_interAll_evalPure {B : TA} {f r : Nat} {ρ : Rule} {Ss : List (List Nat)} (hne : Ss ≠ [])
    (hρ : B.rules[r]? = some ρ) :
    r ∈ interAll (evalPure B f Ss.length Ss 0) ↔ (ρ.sym = f ∧ matchKids ρ.kids Ss = true) := by
  obtain ⟨S, Ss', rfl⟩ := List.exists_cons_of_ne_nil hne
  rw [mem_interAll (by simp [evalPure])]
  constructor
  · intro hall
    -- the transition is in the first set, so it has the symbol and the rank
    obtain ⟨ρ', hρ', hf, hn, _⟩ := mem_evalT.mp (hall (evalT B (f, (S :: Ss').length, 0) S) (by simp [evalPure]))
    rw [hρ] at hρ'
    cases hρ'
    have hn' : ρ.kids.length = (S :: Ss').length := hn
    exact ⟨hf, by simpa using (all_evalPure hρ hf hn' (S :: Ss') 0 (by omega)).mp hall⟩
  · rintro ⟨hf, hmk⟩
    exact (all_evalPure hρ hf (matchKids_length hmk) (S :: Ss') 0 (by omega)).mpr (by simpa using hmk)

theorem filterMap_range_filter {α β : Type} (f : α → β) (p : α → Bool) : ∀ (l : List α) (g : Nat → Bool),
    (∀ r (h : r < l.length), g r = p l[r]) →
    ((List.range l.length).filter g).filterMap (fun r => (l[r]?).map f) = (l.filter p).map f
  | [], _, _ => rfl
  | a :: l, g, hg => by
    have ih := filterMap_range_filter f p l (fun r => g (r + 1)) (fun r h => by
      have := hg (r + 1) (by simp only [List.length_cons]; omega)
      simpa using this)
    have h0 : g 0 = p a := hg 0 (by simp)
    simp only [List.length_cons, List.range_succ_eq_map, List.filter_cons, h0, List.filter_map]
    have hcomp : ((fun r => ((a :: l)[r]?).map f) ∘ fun x => x + 1) = fun r => (l[r]?).map f := by
      funext r; simp
    have hcomp' : (g ∘ fun x => x + 1) = fun r => g (r + 1) := rfl
    cases hp : p a with
    | true =>
      simp only [if_true, List.filterMap_cons, List.getElem?_cons_zero, Option.map_some, List.map_cons, List.filterMap_map,
        hcomp, hcomp', ih]
    | false =>
      simp only [Bool.false_eq_true, if_false, List.filterMap_map, hcomp, hcomp', ih]

/-- **`evalTransitions` + `intersectionByLookup` leave the matching transitions of `B` in the order of `B.rules`**: their
parents are the LIST `post B f (S₁..Sₙ)` (`n ≥ 1`); the minimisation `post.contains / refine / insert` of the variant with a
relation depends on the order in which the parents arrive -/
theorem parents_eq_post (B : TA) (f : Nat) {Ss : List (List Nat)} (hne : Ss ≠ []) :
    parentsOf B (interAll (evalPure B f Ss.length Ss 0)) = post B f Ss := by
  obtain ⟨g0, hg0⟩ : ∃ g0, interAll (evalPure B f Ss.length Ss 0) = (List.range B.rules.length).filter g0 := by
    obtain ⟨S, Ss', rfl⟩ := List.exists_cons_of_ne_nil hne
    simp only [evalPure, interAll, foldl_filter_all, evalT, List.filter_filter]
    exact ⟨_, rfl⟩
  have hdec : interAll (evalPure B f Ss.length Ss 0) =
      (List.range B.rules.length).filter (fun r => decide (r ∈ interAll (evalPure B f Ss.length Ss 0))) := by
    conv => lhs; rw [hg0]
    apply List.filter_congr
    intro r hr
    rw [hg0]
    simp [List.mem_filter, List.mem_range.mp hr]
  rw [hdec]
  unfold parentsOf post
  apply filterMap_range_filter
  intro r hr
  rw [Bool.eq_iff_iff]
  simp only [decide_eq_true_eq, Bool.and_eq_true, beq_iff_eq]
  exact mem_interAll_evalPure hne (List.getElem?_eq_getElem hr)

theorem evalAll_post {intern : Prop} {cmp : List Nat → List Nat → Bool} {B : TA} {h : Heap} (hi : HInvG intern cmp B h) (f : Nat)
    {as : List Nat} (hne : as ≠ []) (hl : ∀ a, a ∈ as → Live h a) :
    parentsOf B (interAll (evalAll B f as.length as 0 h).2) = post B f (as.map (hval h)) ∧
    HInvG intern cmp B (evalAll B f as.length as 0 h).1 ∧ (evalAll B f as.length as 0 h).1.store = h.store := by
  obtain ⟨e, m, c⟩ := evalAll_spec f as.length as 0 h hi hl
  refine ⟨?_, m, c⟩
  have := parents_eq_post B f (Ss := as.map (hval h)) (by simpa using hne)
  rw [List.length_map] at this
  rw [e, this]

theorem choicesAllC_map (h : Heap) (P : List UIt) : ∀ ks : List Nat,
    (choicesAllC P ks).map (List.map (UIt.deref h)) = choicesAll (P.map (UIt.deref h)) ks
  | [] => rfl
  | k :: ks => by
    simp only [choicesAllC, choicesAll, List.map_flatMap, List.filter_map, List.flatMap_map, List.map_map]
    refine flatMap_congr' (fun i _ => ?_)
    rw [← choicesAllC_map h P ks, List.map_map]
    rfl

theorem choicesAtC_map (h : Heap) (P : List UIt) (it : UIt) : ∀ (ks : List Nat) (j : Nat),
    (choicesAtC P it ks j).map (List.map (UIt.deref h)) = choicesAt (P.map (UIt.deref h)) (it.deref h) ks j
  | [], _ => rfl
  | _ :: ks, 0 => by
    simp only [choicesAtC, choicesAt, List.map_map]
    rw [← choicesAllC_map h P ks, List.map_map]
    rfl
  | k :: ks, j+1 => by
    simp only [choicesAtC, choicesAt, List.map_flatMap, List.filter_map, List.flatMap_map, List.map_map]
    refine flatMap_congr' (fun i _ => ?_)
    rw [← choicesAtC_map h P it ks j, List.map_map]
    rfl

theorem mem_choicesAllC {P : List UIt} : ∀ {ks : List Nat} {is : List UIt}, is ∈ choicesAllC P ks →
    is.length = ks.length ∧ ∀ i, i ∈ is → i ∈ P
  | [], is, h => by
    rw [List.mem_singleton.mp h]; exact ⟨rfl, fun _ hi => by cases hi⟩
  | k :: ks, is, h => by
    simp only [choicesAllC, List.mem_flatMap, List.mem_filter, List.mem_map] at h
    obtain ⟨i, ⟨hi, _⟩, is', his', rfl⟩ := h
    obtain ⟨h1, h2⟩ := mem_choicesAllC his'
    refine ⟨by simp [h1], fun x hx => ?_⟩
    rcases List.mem_cons.mp hx with rfl | hx
    · exact hi
    · exact h2 x hx

theorem mem_choicesAtC {P : List UIt} {it : UIt} : ∀ {ks : List Nat} {j : Nat} {is : List UIt},
    is ∈ choicesAtC P it ks j → is.length = ks.length ∧ ∀ i, i ∈ is → i ∈ P ∨ i = it
  | [], _, is, h => by
    rw [List.mem_singleton.mp h]; exact ⟨rfl, fun _ hi => by cases hi⟩
  | _ :: ks, 0, is, h => by
    simp only [choicesAtC, List.mem_map] at h
    obtain ⟨is', his', rfl⟩ := h
    obtain ⟨h1, h2⟩ := mem_choicesAllC his'
    refine ⟨by simp [h1], fun x hx => ?_⟩
    rcases List.mem_cons.mp hx with rfl | hx
    · exact Or.inr rfl
    · exact Or.inl (h2 x hx)
  | k :: ks, j+1, is, h => by
    simp only [choicesAtC, List.mem_flatMap, List.mem_filter, List.mem_map] at h
    obtain ⟨i, ⟨hi, _⟩, is', his', rfl⟩ := h
    obtain ⟨h1, h2⟩ := mem_choicesAtC his'
    refine ⟨by simp [h1], fun x hx => ?_⟩
    rcases List.mem_cons.mp hx with rfl | hx
    · exact Or.inl hi
    · exact h2 x hx

/-- the items of a choice: pairs of `processed` or the picked pair (whose macro-state is `Q`) -/
def ChoiceOK (s : USt) (it : UIt) (is : List UIt) : Prop :=
  is ≠ [] ∧ ∀ i, i ∈ is → i ∈ s.processed ∨ i = it

theorem choicesAtC_ok {s : USt} {it : UIt} {ks : List Nat} (hks : ks ≠ []) {j : Nat} {is : List UIt}
    (h : is ∈ choicesAtC s.processed it ks j) : ChoiceOK s it is := by
  obtain ⟨h1, h2⟩ := mem_choicesAtC h
  refine ⟨fun e => hks (List.length_eq_zero_iff.mp ?_), h2⟩
  rw [← h1, e]; rfl

theorem tasks_kids_ne {A : TA} {q : Nat} {t : Rule × Nat} (h : t ∈ tasks A q) : t.1.kids ≠ [] := fun e => by
  have := (mem_tasks.mp h).2
  rw [e] at this
  cases this

section Choice
variable {I : Heap → Prop} {s s' : USt} {st : St} {tmp tmp' : List Item} {QS : List Nat}

theorem deref_choice (h : URelG I s st tmp QS) {it : UIt} (hQ : s.Q = some it.a) {is : List UIt} (hc : ChoiceOK s it is) :
    ULive s.h is := by
  intro i hi
  rcases hc.2 i hi with hp | rfl
  · exact h.lp i hp
  · exact h.live _ (mem_roots.mpr (Or.inr (Or.inr hQ)))

theorem deref_stable (h : URelG I s st tmp QS) (h' : URelG I s' st tmp' QS) (hp : s'.processed = s.processed)
    (hq : s'.Q = s.Q) {it : UIt} (hQ : s.Q = some it.a) {is : List UIt} (hc : ChoiceOK s it is) :
    is.map (UIt.deref s'.h) = is.map (UIt.deref s.h) := by
  apply List.map_inj_left.mpr
  intro i hi
  rcases hc.2 i hi with hi' | rfl
  · have := h'.pr
    rw [hp, ← h.pr] at this
    exact List.map_inj_left.mp this i hi'
  · simp only [UIt.deref, h.qv _ hQ, h'.qv _ (hq ▸ hQ)]

end Choice

abbrev RFinG (I : Heap → Prop) : Option (Res USt) → Option (Res (List Item)) → Prop :=
  OptRel (ExceptRel fun s P => ∃ st QS, URelG I s st [] QS ∧ P = st.processed)

theorem viewU_of_RFinG {I : Heap → Prop} {rc : Option (Res USt)} {rb : Option (Res (List Item))} (h : RFinG I rc rb) :
    viewU rc = rb := by
  cases h with
  | none => rfl
  | some h =>
    cases h with
    | error e => rfl
    | ok h =>
      obtain ⟨st, QS, hr, rfl⟩ := h
      simp only [viewU, hr.pr]

theorem finalHeap_of_RFinG {I : Heap → Prop} {rc : Option (Res USt)} {rb : Option (Res (List Item))} (hr : RFinG I rc rb)
    {h : Heap} (hf : finalHeap rc = some h) : I h := by
  cases hr with
  | none => cases hf
  | some hr =>
    cases hr with
    | error e => cases hf
    | ok hr =>
      obtain ⟨st, QS, hrel, _⟩ := hr
      cases hf
      exact hrel.hi

section NoSim
variable {intern : Prop} {A B : TA} {s : USt} {st : St} {tmp : List Item} {QS : List Nat}

theorem acContains_spec (it : UIt) (P : List UIt) (h : Heap) (hi : HInvG intern subB B h) (ha : Live h it.a) (hl : ULive h P) :
    (acContains it.q it.a P h).2 = P.any (fun i => (i.q == it.q) && subB (hval h i.a) (hval h it.a)) ∧
    HInvG intern subB B (acContains it.q it.a P h).1 ∧ (acContains it.q it.a P h).1.store = h.store := by
  rw [← elim_find?_any]
  exact find_spec (F := acContains it.q it.a) (kt := fun i : UIt => i.q == it.q) (ad := UIt.a) hLte_spec
    (fun _ _ e => funext (hval_store e)) (fun _ => rfl) (fun _ _ _ => rfl) P h hi ha hl

theorem acRefine_spec (it : UIt) (P : List UIt) (h : Heap) (hi : HInvG intern subB B h) (ha : Live h it.a) (hl : ULive h P) :
    (acRefine it.q it.a P h).2 = P.filter (keepG (· == it.q) subB h it.a) ∧
    HInvG intern subB B (acRefine it.q it.a P h).1 ∧ (acRefine it.q it.a P h).1.store = h.store :=
  erase_spec (F := acRefine it.q it.a) (kt := fun i : UIt => i.q == it.q) (ad := UIt.a) hLte_spec
    (fun _ _ e => funext (hval_store e)) (fun _ => rfl) (fun _ _ _ => rfl) P h hi ha hl

/-- `processed.contains / refine(Eraser(next)) / insert`, `next.insert` -/
theorem addItemC_rel (h : RelC B s st tmp QS) {it : UIt} (hit : Live s.h it.a) :
    RelC B (addItemC s it) (addItem st (it.deref s.h)) tmp QS :=
  addItemG_rel (cc := fun q p => p == q) (cr := fun q p => p == q) acContains_spec acRefine_spec h hit

/-- `temporary.contains / refine / insert` -/
theorem addTmpC_rel (h : RelC B s st tmp QS) {it : UIt} (hit : Live s.h it.a) :
    RelC B (addTmpC s it) st (addTmp tmp (it.deref s.h)) QS :=
  addTmpG_rel (cc := fun q p => p == q) (cr := fun q p => p == q) acContains_spec acRefine_spec h hit

theorem addTmpC_frame (s : USt) (it : UIt) : ((addTmpC s it).collect .lib).processed = s.processed ∧
    ((addTmpC s it).collect .lib).next = s.next ∧ ((addTmpC s it).collect .lib).Q = s.Q :=
  addTmpG_frame (fun it => acContains it.q it.a) (fun it => acRefine it.q it.a) s it

theorem stepChoiceC_rel (pick : List Nat → Nat) (ρ : Rule) (h : RelC B s st tmp QS) {is : List UIt} (hne : is ≠ [])
    (hl : ULive s.h is) :
    ExceptRel (fun s' tmp' => RelC B s' st tmp' QS ∧ s'.processed = s.processed ∧ s'.next = s.next ∧ s'.Q = s.Q)
      (stepChoiceC .lib pick A B ρ s is) (stepChoice A B ρ tmp (is.map (UIt.deref s.h))) := by
  obtain ⟨e, m, c⟩ := evalAll_post h.hi ρ.sym (as := is.map (·.a)) (by simpa using hne)
    (by intro a ha; obtain ⟨i, hi, rfl⟩ := List.mem_map.mp ha; exact hl i hi)
  have hS : (is.map (·.a)).map (hval s.h) = (is.map (UIt.deref s.h)).map (·.S) := by
    simp only [List.map_map]; rfl
  have hT : is.map (·.t) = (is.map (UIt.deref s.h)).map (·.t) := by
    simp only [List.map_map]; rfl
  rw [hS] at e
  unfold stepChoiceC stepChoice macroPostC macroPost
  simp only
  rw [e, ← hT]
  generalize normS (post B ρ.sym ((is.map (UIt.deref s.h)).map (·.S))) = S'
  by_cases h1 : S'.isEmpty = true
  · rw [if_pos h1, if_pos h1]; exact .error _
  rw [if_neg h1, if_neg h1]
  by_cases h2 : (!accepting B S' && A.final.contains ρ.parent) = true
  · rw [if_pos h2, if_pos h2]; exact .error _
  rw [if_neg h2, if_neg h2]
  -- `ptr = biggerTypeCache.lookup(tmp)`, `temporary.contains / refine / insert`, end of the iteration
  obtain ⟨h2, hlive, hval'⟩ := (h.store m c).lookup pick S'
  have h3 := addTmpC_rel h2 (it := ⟨ρ.parent, _, Tree.node ρ.sym (is.map (·.t))⟩) hlive
  simp only [UIt.deref, hval'] at h3
  exact .ok ⟨h3.collect, addTmpC_frame _ _⟩

theorem stepChoicesC_rel (pick : List Nat → Nat) (ρ : Rule) {it : UIt} :
    ∀ (iss : List (List UIt)) (s : USt) (tmp : List Item), RelC B s st tmp QS → s.Q = some it.a →
    (∀ is, is ∈ iss → ChoiceOK s it is) →
    ExceptRel (fun s' tmp' => RelC B s' st tmp' QS ∧ s'.processed = s.processed ∧ s'.next = s.next ∧ s'.Q = s.Q)
      (stepChoicesC .lib pick A B ρ iss s) (stepChoices A B ρ (iss.map (List.map (UIt.deref s.h))) tmp)
  | [], s, tmp, h, _, _ => .ok ⟨h, rfl, rfl, rfl⟩
  | is :: iss, s, tmp, h, hQ, hc => by
    have hcis := hc is List.mem_cons_self
    unfold stepChoicesC
    simp only [List.map_cons]
    unfold stepChoices
    rcases (stepChoiceC_rel (A := A) pick ρ h hcis.1 (deref_choice h hQ hcis)).inv with
      ⟨e, hx, hy⟩ | ⟨s', tmp', hx, hy, h', hp, hn, hq⟩
    · rw [hx, hy]; exact .error e
    · rw [hx, hy]
      dsimp only
      have hmap : iss.map (List.map (UIt.deref s'.h)) = iss.map (List.map (UIt.deref s.h)) :=
        List.map_congr_left (fun is' hi => deref_stable h h' hp hq hQ (hc is' (List.mem_cons_of_mem _ hi)))
      have := stepChoicesC_rel pick ρ iss s' tmp' h' (hq ▸ hQ) (fun is' hi =>
        ⟨(hc is' (List.mem_cons_of_mem _ hi)).1, fun i hi' => hp ▸ (hc is' (List.mem_cons_of_mem _ hi)).2 i hi'⟩)
      rw [hmap] at this
      rcases this.inv with ⟨e, hx, hy⟩ | ⟨s'', tmp'', hx, hy, g1, g2, g3, g4⟩
      · rw [hx, hy]; exact .error e
      · rw [hx, hy]; exact .ok ⟨g1, g2.trans hp, g3.trans hn, g4.trans hq⟩

theorem procTaskC_rel (pick : List Nat → Nat) {it : UIt} {ρ : Rule} (j : Nat)
    (h : RelC B s st [] QS) (hQ : s.Q = some it.a) (hks : ρ.kids ≠ []) :
    ExceptRel (fun s' st' => RelC B s' st' [] QS ∧ s'.Q = s.Q)
      (procTaskC .lib pick A B it ρ j s) (procTask A B ⟨it.q, QS, it.t⟩ ρ j st) := by
  have hit : it.deref s.h = ⟨it.q, QS, it.t⟩ := by simp only [UIt.deref, h.qv _ hQ]
  have hr := stepChoicesC_rel (A := A) pick ρ _ s [] h hQ (fun _ => choicesAtC_ok (j := j) hks)
  rw [choicesAtC_map, h.pr, hit] at hr
  unfold procTaskC procTask
  rcases hr.inv with ⟨e, hx, hy⟩ | ⟨s', tmp', hx, hy, h', _, _, hq⟩
  · rw [hx, hy]; exact .error e
  · rw [hx, hy]
    obtain ⟨g1, _, g3⟩ := merge_rel (M := mergeC .lib) (fun h hit => addItemC_rel h hit) (addItemG_frame _ _) (fun _ => rfl)
      (fun _ _ _ => rfl) s'.temporary s' st h' (fun _ hi => hi)
    rw [h'.tm] at g1
    exact .ok ⟨g1.clearTmp.collect, g3.trans hq⟩

theorem procTasksC_rel (pick : List Nat → Nat) {it : UIt} :
    ∀ (ts : List (Rule × Nat)) (s : USt) (st : St), RelC B s st [] QS → s.Q = some it.a →
    (∀ t, t ∈ ts → t.1.kids ≠ []) →
    ExceptRel (fun s' st' => RelC B s' st' [] QS ∧ s'.Q = s.Q)
      (procTasksC .lib pick A B it ts s) (procTasks A B ⟨it.q, QS, it.t⟩ ts st)
  | [], _, _, h, _, _ => .ok ⟨h, rfl⟩
  | (ρ, j) :: ts, s, st, h, hQ, hks => by
    unfold procTasksC procTasks
    rcases (procTaskC_rel (A := A) pick j h hQ (hks (ρ, j) List.mem_cons_self)).inv with
      ⟨e, hx, hy⟩ | ⟨s', st', hx, hy, h', hq⟩
    · rw [hx, hy]; exact .error e
    · rw [hx, hy]
      dsimp only
      rcases (procTasksC_rel pick ts s' st' h' (hq ▸ hQ) (fun t ht => hks t (List.mem_cons_of_mem _ ht))).inv with
        ⟨e, hx, hy⟩ | ⟨s'', st'', hx, hy, h'', hq'⟩
      · rw [hx, hy]; exact .error e
      · rw [hx, hy]; exact .ok ⟨h'', hq'.trans hq⟩

theorem loopC_rel (pick : List Nat → Nat) : ∀ (n : Nat) (s : USt) (st : St) (QS : List Nat),
    RelC B s st [] QS → RFinG (HInvG False subB B) (loopC .lib pick A B n s) (loop A B n st)
  | 0, _, _, _, _ => .none
  | n+1, s, st, QS, h => by
    unfold loopC loop
    cases hn : s.next with
    | nil =>
      have : st.next = [] := by rw [← h.nx, hn]; rfl
      simp only [this]
      exact .some (.ok ⟨st, QS, h, rfl⟩)
    | cons it rest =>
      have hst : st.next = ⟨it.q, hval s.h it.a, it.t⟩ :: rest.map (UIt.deref s.h) := by rw [← h.nx, hn]; rfl
      simp only [hst]
      rcases (procTasksC_rel (A := A) pick (it := it) (tasks A it.q) _ _ (h.pick hn).collect rfl
        (fun t ht => tasks_kids_ne ht)).inv with ⟨e, hx, hy⟩ | ⟨s', st', hx, hy, h', _⟩
      · rw [hx, hy]; exact .some (.error e)
      · rw [hx, hy]; exact loopC_rel pick n s' st' _ h'

theorem leafPhaseC_rel (pick : List Nat → Nat) : ∀ (ρs : List Rule) (s : USt) (st : St),
    RelC B s st [] [] → ExceptRel (fun s' st' => RelC B s' st' [] []) (leafPhaseC .lib pick A B ρs s) (leafPhase A B ρs st)
  | [], _, _, h => .ok h
  | ρ :: ρs, s, st, h => by
    unfold leafPhaseC leafPhase
    by_cases hk : ρ.kids.isEmpty = true
    · rw [if_pos hk, if_pos hk]
      simp only
      generalize macroPost B ρ.sym [] = S
      by_cases h1 : (!accepting B S && A.final.contains ρ.parent) = true
      · rw [if_pos h1, if_pos h1]; exact .error _
      rw [if_neg h1, if_neg h1]
      obtain ⟨h1, hlive, hv⟩ := h.lookup pick S
      have h2 := (addItemC_rel h1 (it := ⟨ρ.parent, _, Tree.node ρ.sym []⟩) hlive).collect
      simp only [UIt.deref, hv] at h2
      exact leafPhaseC_rel pick ρs _ _ h2
    · rw [if_neg hk, if_neg hk]; exact leafPhaseC_rel pick ρs s st h

theorem runC_rel (pick : List Nat → Nat) (A B : TA) (fuel : Nat) :
    RFinG (HInvG False subB B) (runC .lib pick A B fuel) (InclUp.run A B fuel) := by
  unfold runC InclUp.run
  cases sizeExit A B with
  | some ρ => exact .some (.error _)
  | none =>
    simp only
    have h0 : RelC B ⟨[], [], [], none, {}⟩ ⟨[], []⟩ [] [] :=
      ⟨rfl, rfl, rfl, (fun _ h => by cases h), (fun _ h => by cases h), (fun _ h => by cases h), HInvG.empty B⟩
    rcases (leafPhaseC_rel (A := A) pick A.rules _ _ h0).inv with ⟨e, hx, hy⟩ | ⟨s', st', hx, hy, h'⟩
    · rw [hx, hy]; exact .some (.error e)
    · rw [hx, hy]; exact loopC_rel pick fuel s' st' [] h'

end NoSim

/-- **the cached upward exploration, read through its pointers, is the cache-free exploration – for every allocator** -/
theorem runC_eq (pick : List Nat → Nat) (A B : TA) (fuel : Nat) : viewU (runC .lib pick A B fuel) = InclUp.run A B fuel :=
  viewU_of_RFinG (runC_rel pick A B fuel)

/-- the certifying end of the cached model is that of `inclUp` -/
theorem finishUp_eq (A B : TA) (r : Option (Res (List Item))) :
    finishUp A B r = InclUp.certify A B (upCertB A B) (complete A) r := by
  cases r with
  | none => rfl
  | some x => cases x <;> rfl

/-- **C01, upward algorithm: `biggerTypeCache`, `lteCache`, `evalTransitionsCache` are transparent under the library's deleter.**
For all operands, every fuel and EVERY allocator (any recycling of the addresses of dead macro-states) the algorithm with its
caches returns exactly what the cache-free model `inclUp` returns: the same verdict with the same antichain / witness, `none`
at the same fuel. -/
theorem inclUp_cached_eq (pick : List Nat → Nat) (A B : TA) (fuel : Nat) :
    inclUpC .lib pick A B fuel = inclUp A B fuel := by
  rw [inclUp_eq, inclUpC, runC_eq, finishUp_eq]

theorem checkInclUp_cached_eq (pick : List Nat → Nat) (A B : TA) (fuel : Nat) :
    checkInclUpC .lib pick A B fuel = checkInclUp A B fuel :=
  inclUp_cached_eq pick _ _ fuel

theorem heapOK_of_HInvG {intern : Prop} {cmp : List Nat → List Nat → Bool} {B : TA} {h : Heap} (hi : HInvG intern cmp B h) :
    (h.lte.store.all (fun e => h.addrs.contains e.1.1 && h.addrs.contains e.1.2 &&
        e.2 == cmp (hval h e.1.1) (hval h e.1.2)) &&
      h.ev.store.all (fun e => h.addrs.contains e.1.2 && e.2 == evalT B e.1.1 (hval h e.1.2))) = true := by
  simp only [Bool.and_eq_true, List.all_eq_true, List.contains_iff_mem, beq_iff_eq]
  constructor
  · intro e he
    have := hi.sl e.1.1 e.1.2 e.2 (aget_of_mem_nodup hi.li.k0 he)
    exact ⟨⟨this.1, this.2.1⟩, this.2.2⟩
  · intro e he
    exact hi.se e.1.1 e.1.2 e.2 (aget_of_mem_nodup hi.ei.k0 he)

/-- **the invariant of the two memo tables at the end of every run with the library's deleter, for every allocator**: every
entry of `lteCache` / `evalTransitionsCache` is about live macro-states and holds the value of the memoised function on them -/
theorem runC_heap_sound (pick : List Nat → Nat) (A B : TA) (fuel : Nat) {h : Heap}
    (hf : finalHeap (runC .lib pick A B fuel) = some h) : HInv B h ∧ heapOKB B h = true :=
  have hi := finalHeap_of_RFinG (runC_rel pick A B fuel) hf
  ⟨HInv_iff.mpr hi, heapOK_of_HInvG hi⟩

theorem rawVerdictU_true {r : Option (Res USt)} (h : rawVerdictU r = some true) : ∃ s, r = some (.ok s) :=
  match r, h with
  | some (.ok s), _ => ⟨s, rfl⟩

/-- a `return true` on operands that are not included does not pass the certificate check -/
theorem inclUpC_none {w : Wiring} {pick : List Nat → Nat} {A B : TA} {fuel : Nat}
    (h : rawVerdictU (runC w pick A B fuel) = some true) (hn : ¬ Incl A B) : inclUpC w pick A B fuel = none := by
  obtain ⟨s, hr⟩ := rawVerdictU_true h
  rw [inclUpC, hr]
  exact ite_none_of upCertB_incl hn

namespace FCUEx

/-- `L(A) ⊄ L(B)` -/
def exWA : TA := ⟨[⟨2, [1, 0], 1⟩, ⟨0, [], 0⟩, ⟨2, [0, 1], 0⟩, ⟨3, [0], 1⟩, ⟨1, [], 0⟩], [1, 0]⟩
def exWB : TA := ⟨[⟨2, [11, 11], 10⟩, ⟨0, [], 11⟩, ⟨1, [], 11⟩, ⟨3, [11], 11⟩, ⟨1, [], 10⟩], [11, 10]⟩

/-- the tree `f(g(a), f(a, g(a)))` is accepted by `A` and not by `B` -/
theorem exW_not_incl : ¬ Incl exWA exWB := fun h => by
  have := h (.node 2 [.node 3 [.node 0 []], .node 2 [.node 0 [], .node 3 [.node 0 []]]]) (by decide)
  revert this; decide

/-- **the wiring of the deleter matters at the level of the algorithm.**  The allocator recycles the address of a dead
macro-state at once (`pickLeast`).  With the default deleter (`Wiring.none`) and with the one-word slip (`Wiring.firstTwice`:
`invalidateFirst` twice, so the entries with the dying address in SECOND position survive) the exploration of `exWA ⊆ exWB`
ends with `return true`; with the library's deleter it answers `false`, which is right. -/
theorem wiring_changes_verdict :
    rawVerdictU (runC .none pickLeast exWA exWB 20) = some true ∧
    rawVerdictU (runC .firstTwice pickLeast exWA exWB 20) = some true ∧
    rawVerdictU (runC .lib pickLeast exWA exWB 20) = some false ∧ ¬ Incl exWA exWB :=
  ⟨by decide +kernel, by decide +kernel, by decide +kernel, exW_not_incl⟩

/-- … the certificate check of the model does not let the wrong `true` through -/
theorem wiring_certificate_rejects :
    inclUpC .none pickLeast exWA exWB 20 = none ∧ inclUpC .firstTwice pickLeast exWA exWB 20 = none :=
  ⟨inclUpC_none wiring_changes_verdict.1 exW_not_incl, inclUpC_none wiring_changes_verdict.2.1 exW_not_incl⟩

/-- `L(A) ⊆ L(B)`; the verdict survives, the invariant does not -/
def exSA : TA := ⟨[⟨2, [1, 1], 1⟩, ⟨1, [], 1⟩], [1]⟩
def exSB : TA := ⟨[⟨1, [], 10⟩, ⟨2, [11, 11], 11⟩, ⟨1, [], 11⟩, ⟨2, [10, 10], 11⟩, ⟨0, [], 10⟩], [11]⟩

/-- the run with the library's deleter (evaluated once; quoted below and in `C01_Caches`): objects do die and memo entries are
made in it, and the tables pass the test -/
theorem exS_lib_run : (finalHeap (runC .lib pickLeast exSA exSB 20)).map
    (fun h => (h.store.length, h.lte.store.length, h.ev.store.length, heapOKB exSB h)) = some (1, 0, 2, true) := by
  decide +kernel

/-- **a stale entry**: at the end of the run with the default deleter (and with the slip) a memo table holds an entry that
is not the value of the memoised function on the objects now at its addresses (or whose object is dead); with the library's
deleter the tables pass the test (`runC_heap_sound`) -/
theorem wiring_breaks_invariant :
    (finalHeap (runC .none pickLeast exSA exSB 20)).map (heapOKB exSB) = some false ∧
    (finalHeap (runC .firstTwice pickLeast exSA exSB 20)).map (heapOKB exSB) = some false ∧
    (finalHeap (runC .lib pickLeast exSA exSB 20)).map (heapOKB exSB) = some true :=
  ⟨by decide +kernel, by decide +kernel, Option.map_of_map exS_lib_run (·.2.2.2)⟩

example : inclUpC .lib pickLeast exWA exWB 20 = inclUp exWA exWB 20 := inclUp_cached_eq _ _ _ _
example : (inclUpC .lib pickLeast exWA exWB 20).map (·.1) = some false := by decide +kernel
example : (inclUpC .lib pickLeast exSA exSB 20).map (·.1) = some true := by decide +kernel
example : (finalHeap (runC .lib pickLeast exSA exSB 20)).map
    (fun h => (h.store.length, h.lte.store.length, h.ev.store.length)) = some (1, 0, 2) :=
  Option.map_of_map exS_lib_run (fun t => (t.1, t.2.1, t.2.2.1))

end FCUEx

end FCU
end Vata
