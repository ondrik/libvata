import Vata.Proofs.ComplOrd
/-!
# The FIFO order is the model `complTD`

`complTDOrd pickFifo A Sg fuel = complTD A Sg fuel` (same fuel, same automaton, `none` at the same time): with the first
element always taken, `todo` is the part `cache.drop k` of the cache behind the counter `k` of `Compl.loop`.  So what
holds of a run in any order holds of `tdRun`: it passes the certificate check (`tdRun_cert`), and `complTD` is `none`
only when the fuel is exhausted (`complTD_eq`).
-/
namespace Vata
namespace Compl

theorem loopOrd_fifo {A : TA} {Sg : List (Nat × Nat)} : ∀ (fuel k : Nat) (st : St), Good A Sg st →
    (loopOrdS (onTodo pickFifo) A Sg fuel ⟨st, st.cache.drop k⟩).map (·.st) = loop A Sg fuel k st
  | 0, _, _, _ => rfl
  | fuel+1, k, st, hg => by
    unfold loopOrdS loop
    cases hk : st.cache[k]? with
    | none =>
      have hlen : st.cache.length ≤ k := List.getElem?_eq_none_iff.mp hk
      have : st.cache.drop k = [] := List.drop_eq_nil_of_le hlen
      simp [this]
    | some P =>
      obtain ⟨hklen, hP⟩ := List.getElem?_eq_some_iff.mp hk
      have hdrop : st.cache.drop k = P :: st.cache.drop (k+1) := by
        rw [← hP]; exact List.drop_eq_getElem_cons hklen
      have hidx : st.cache.idxOf P = k := idxOf_of_getElem? hg.nodup hk
      obtain ⟨g1, g2, _⟩ := symFold_spec (A := A) (Sg := Sg) ⟨hg, hk⟩
      obtain ⟨suf, hsuf⟩ := g2.1
      have hstep : stepOrdS (onTodo pickFifo) A Sg ⟨st, st.cache.drop k⟩ =
          ⟨Sg.foldl (procSym A P k) st, (Sg.foldl (procSym A P k) st).cache.drop (k+1)⟩ := by
        unfold stepOrdS stepAt
        simp only [onTodo, pickFifo, hdrop, Nat.zero_mod, List.getD_cons_zero, hidx, List.eraseIdx_cons_zero, StO.mk.injEq,
          true_and]
        rw [← hsuf, List.drop_left, List.drop_append_of_le_length (by omega)]
      simp only [hdrop, List.isEmpty_cons, Bool.false_eq_true, if_false]
      rw [← hdrop, hstep]
      exact loopOrd_fifo fuel (k+1) _ g1.1

theorem runOrd_fifo (A : TA) (Sg : List (Nat × Nat)) (fuel : Nat) :
    (runOrd pickFifo A Sg fuel).map (·.st) = tdRun A Sg fuel :=
  loopOrd_fifo fuel 0 _ (InvO.init A Sg).good

theorem tdRun_cert {A : TA} {Sg : List (Nat × Nat)} {fuel : Nat} {st : St} (h : tdRun A Sg fuel = some st) :
    tdCertB A Sg st = true := by
  rw [← runOrd_fifo] at h
  obtain ⟨s, hs, rfl⟩ := Option.map_eq_some_iff.mp h
  exact runOrd_cert hs

theorem complTD_eq {A : TA} {Sg : List (Nat × Nat)} {fuel : Nat} :
    complTD A Sg fuel = (tdRun A Sg fuel).map (fun st => removeUseless ⟨st.rules, [0]⟩) := by
  unfold complTD
  cases h : tdRun A Sg fuel with
  | none => rfl
  | some st => simp [tdRun_cert h]

theorem complTDOrd_fifo (A : TA) (Sg : List (Nat × Nat)) (fuel : Nat) :
    complTDOrd pickFifo A Sg fuel = complTD A Sg fuel := by
  rw [complTD_eq, ← runOrd_fifo]
  rw [Option.map_map]
  rfl

end Compl
end Vata
