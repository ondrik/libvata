import Vata.Timbuk
import Vata.Proofs.ListExt
/-!
# The lexical helpers of the Timbuk parser, as equations and as decompositions (property C13)

What `trim`, `read_word`, the search for a character and for `->`, `split_delim` and `Convert::FromString<int>` compute, in both
directions: on a string of a given shape (`trim_pad`, `readWord_append`, `splitArrow_first'`, …) and as the shape of the string from
the result (`trim_decomp`, `find_char`, `splitArrow_some`, `splitDelim_spec`); a header step as a function of the words of the line
(`stepHeaderW`, `stepHeader_eq_W`).
-/
namespace Vata.Timbuk
open Vata.T (splitDelim splitDelim_append_nodelim splitDelim_nodelim joinWith splitDelim_joinWith)

def NoWs (s : Str) : Prop := ∀ c ∈ s, isSpace c = false

def AllWs (s : Str) : Prop := ∀ c ∈ s, isSpace c = true

/-- `s` does not begin with white space (empty counts): `trim` removes nothing at the front -/
def HeadOk (s : Str) : Prop := ∀ c, s.head? = some c → isSpace c = false

/-- `s` does not end with white space (empty counts) -/
def LastOk (s : Str) : Prop := ∀ c, s.getLast? = some c → isSpace c = false

theorem NoWs.headOk {s : Str} (h : NoWs s) : HeadOk s := by
  intro c hc
  cases s with
  | nil => simp at hc
  | cons a r => simp at hc; subst hc; exact h _ List.mem_cons_self

theorem NoWs.lastOk {s : Str} (h : NoWs s) : LastOk s := by
  intro c hc
  exact h c (List.mem_of_getLast? hc)

theorem headOk_append {a b : Str} (ha : a ≠ []) (h : HeadOk a) : HeadOk (a ++ b) := by
  intro c hc
  cases a with
  | nil => exact absurd rfl ha
  | cons x r => exact h c (by simpa using hc)

theorem lastOk_append {a b : Str} (hb : b ≠ []) (h : LastOk b) : LastOk (a ++ b) := by
  intro c hc
  rw [List.getLast?_append] at hc
  cases hb' : b.getLast? with
  | none => simp at hb'; exact absurd hb' hb
  | some x => rw [hb'] at hc; simp at hc; subst hc; exact h _ hb'

theorem dropWhile_headNeg {α : Type} {p : α → Bool} {l : List α} (h : ∀ a, l.head? = some a → p a = false) :
    l.dropWhile p = l := by
  cases l with
  | nil => rfl
  | cons a r => exact List.dropWhile_cons_of_neg (by simp [h a rfl])

theorem takeWhile_headNeg {α : Type} {p : α → Bool} {l : List α} (h : ∀ a, l.head? = some a → p a = false) :
    l.takeWhile p = [] := by
  cases l with
  | nil => rfl
  | cons a r => exact List.takeWhile_cons_of_neg (by simp [h a rfl])

theorem trimL_headOk {s : Str} (h : HeadOk s) : trimL s = s := dropWhile_headNeg h

theorem trimR_lastOk {s : Str} (h : LastOk s) : trimR s = s := by
  unfold trimR
  rw [dropWhile_headNeg (l := s.reverse) (by intro a ha; rw [List.head?_reverse] at ha; exact h a ha)]
  exact List.reverse_reverse s

theorem trimL_pad {pre : Str} (s : Str) (h : AllWs pre) : trimL (pre ++ s) = trimL s :=
  List.dropWhile_append_of_pos h

theorem trimR_pad (s : Str) {post : Str} (h : AllWs post) : trimR (s ++ post) = trimR s := by
  unfold trimR
  rw [List.reverse_append, List.dropWhile_append_of_pos (fun a ha => h a (List.mem_reverse.mp ha))]

theorem trim_pad {pre post : Str} (core : Str) (hpre : AllWs pre) (hpost : AllWs post)
    (hh : HeadOk core) (hl : LastOk core) : trim (pre ++ core ++ post) = core := by
  unfold trim
  rw [List.append_assoc, trimL_pad _ hpre]
  cases core with
  | nil =>
    have : trimL ([] ++ post) = [] := dropWhile_all hpost
    rw [this]; rfl
  | cons c r =>
    rw [trimL_headOk (headOk_append (by simp) hh), trimR_pad _ hpost, trimR_lastOk hl]

theorem allWs_nil : AllWs [] := fun _ hc => nomatch hc

theorem trim_padL {pre : Str} (core : Str) (hpre : AllWs pre) (hh : HeadOk core) (hl : LastOk core) :
    trim (pre ++ core) = core := by
  simpa using trim_pad core hpre allWs_nil hh hl

theorem trim_padR {post : Str} (core : Str) (hpost : AllWs post) (hh : HeadOk core) (hl : LastOk core) :
    trim (core ++ post) = core := by
  simpa using trim_pad core allWs_nil hpost hh hl

theorem trim_tight {s : Str} (hh : HeadOk s) (hl : LastOk s) : trim s = s := trim_padL (pre := []) s allWs_nil hh hl

theorem trim_noWs {s : Str} (h : NoWs s) : trim s = s := trim_tight h.headOk h.lastOk

theorem containsWs_noWs {s : Str} (h : NoWs s) : containsWs s = false := by
  unfold containsWs
  rw [List.any_eq_false]
  intro x hx; simp [h x hx]

def Word (w : Str) : Prop := w ≠ [] ∧ NoWs w

/-- `s` is empty or begins with white space: where `read_word` stops -/
def HeadWs (s : Str) : Prop := ∀ c, s.head? = some c → isSpace c = true

theorem readWord_append {w rest : Str} (hw : NoWs w) (hr : HeadWs rest) : readWord (w ++ rest) = (w, trim rest) := by
  unfold readWord
  have hp : ∀ a ∈ w, (fun c => !isSpace c) a = true := by intro a ha; simp [hw a ha]
  have hn : ∀ a, rest.head? = some a → (fun c => !isSpace c) a = false := by intro a ha; simp [hr a ha]
  rw [List.takeWhile_append_of_pos hp, List.dropWhile_append_of_pos hp, takeWhile_headNeg hn, dropWhile_headNeg hn,
    List.append_nil]

theorem readWord_word {w : Str} (hw : NoWs w) : readWord w = (w, []) := by
  have := readWord_append (rest := []) hw (by intro c hc; simp at hc)
  simpa [trim, trimL, trimR] using this

theorem readWords_ne {s : Str} (h : s ≠ []) : readWords s = (readWord s).1 :: readWords (readWord s).2 := by
  cases s with
  | nil => exact absurd rfl h
  | cons c r => rw [readWords]

theorem digitChar_toNat : ∀ n, n < 10 → (digitChar n).toNat = '0'.toNat + n := by decide

theorem digitChar_isDigit : ∀ n, n < 10 → isDigit (digitChar n) = true := by decide

theorem digitsVal_snoc (ds : Str) (c : Char) : digitsVal (ds ++ [c]) = digitsVal ds * 10 + (c.toNat - '0'.toNat) := by
  simp [digitsVal, List.foldl_append]

theorem showNat_ne_nil (n : Nat) : showNat n ≠ [] := by
  rw [showNat]; split <;> simp

theorem showNat_isDigit (n : Nat) : ∀ c ∈ showNat n, isDigit c = true := by
  induction n using showNat.induct with
  | case1 n h => rw [showNat, dif_pos h]; intro c hc; simp at hc; subst hc; exact digitChar_isDigit n h
  | case2 n h ih =>
    rw [showNat, dif_neg h]; intro c hc
    rcases List.mem_append.mp hc with hc | hc
    · exact ih c hc
    · simp at hc; subst hc; exact digitChar_isDigit _ (Nat.mod_lt _ (by decide))

theorem digitsVal_showNat (n : Nat) : digitsVal (showNat n) = n := by
  induction n using showNat.induct with
  | case1 n h =>
    rw [showNat, dif_pos h]
    have := digitChar_toNat n h
    simp [digitsVal, this]
  | case2 n h ih =>
    rw [showNat, dif_neg h, digitsVal_snoc, ih, digitChar_toNat _ (Nat.mod_lt _ (by decide))]
    omega

theorem isDigit_not_space {c : Char} (h : isDigit c = true) : isSpace c = false := by
  have key : ∀ d : Char, isSpace d = true → isDigit d = false := by
    intro d hd
    simp only [isSpace, Bool.or_eq_true, beq_iff_eq] at hd
    rcases hd with ((((hd | hd) | hd) | hd) | hd) | hd <;> subst hd <;> decide
  cases hs : isSpace c with
  | false => rfl
  | true => rw [key c hs] at h; cases h

theorem isDigit_ne {c d : Char} (h : isDigit c = true) (hd : isDigit d = false) : c ≠ d := by
  intro e; subst e; rw [h] at hd; cases hd

theorem showInt_noWs (n : Int) : NoWs (showInt n) := by
  have hd : NoWs (showNat n.natAbs) := fun c hc => isDigit_not_space (showNat_isDigit _ c hc)
  unfold showInt
  split
  · intro c hc
    rcases List.mem_cons.mp hc with hc | hc
    · subst hc; decide
    · exact hd c hc
  · exact hd

theorem showInt_ne_nil (n : Int) : showInt n ≠ [] := by
  unfold showInt; split
  · simp
  · exact showNat_ne_nil _

/-- what `goodName` tests, field by field: the serializer writes `s` and the parser reads it back as one token in every position -/
structure Good (s : Str) : Prop where
  ne : s ≠ []
  noWs : NoWs s
  noLP : '(' ∉ s
  noRP : ')' ∉ s
  noComma : ',' ∉ s
  noColon : ':' ∉ s
  noArrow : splitArrow s = none

theorem good_of_goodName {s : Str} (h : goodName s = true) : Good s := by
  simp only [goodName, goodChar, Bool.and_eq_true, Bool.not_eq_true', List.all_eq_true, bne_iff_ne, ne_eq,
    Option.isNone_iff_eq_none, List.isEmpty_eq_false_iff] at h
  obtain ⟨⟨h1, h2⟩, h3⟩ := h
  exact ⟨h1, fun c hc => (h2 c hc).1.1.1.1, fun hc => (h2 _ hc).1.1.1.2 rfl, fun hc => (h2 _ hc).1.1.2 rfl,
    fun hc => (h2 _ hc).1.2 rfl, fun hc => (h2 _ hc).2 rfl, h3⟩

theorem Good.word {s : Str} (h : Good s) : Word s := ⟨h.ne, h.noWs⟩

theorem contains_false {c : Char} {s : Str} (h : c ∉ s) : s.contains c = false := by
  simpa using h

/-- `takeWhile` / `dropWhile` cut a list in front of the first element on which `p` fails -/
theorem span_decomp {α : Type} (p : α → Bool) (l : List α) :
    l = l.takeWhile p ++ l.dropWhile p ∧ (∀ a ∈ l.takeWhile p, p a = true) ∧
      ∀ a, (l.dropWhile p).head? = some a → p a = false := by
  refine ⟨List.takeWhile_append_dropWhile.symm, List.all_eq_true.mp List.all_takeWhile, fun a ha => ?_⟩
  have := List.head?_dropWhile_not p l
  rw [ha] at this
  exact this

theorem find_char (x : Char) (s : Str) :
    (s.dropWhile (fun c => c != x) = [] ∧ x ∉ s) ∨
    ∃ q, s.dropWhile (fun c => c != x) = x :: q ∧ s = s.takeWhile (fun c => c != x) ++ x :: q ∧
      x ∉ s.takeWhile (fun c => c != x) := by
  obtain ⟨h1, h2, h3⟩ := span_decomp (fun c => c != x) s
  cases h : s.dropWhile (fun c => c != x) with
  | nil =>
    rw [h, List.append_nil] at h1
    exact Or.inl ⟨rfl, fun hx => by simpa using h2 x (h1 ▸ hx)⟩
  | cons y q =>
    have hy : y = x := by simpa using h3 y (by rw [h]; rfl)
    subst hy
    exact Or.inr ⟨q, rfl, by rw [← h]; exact h1, fun hx => by simpa using h2 _ hx⟩

/-- the token the serializer writes for a symbol -/
def tokOf (p : Str × Int) : Str := p.1 ++ ':' :: showInt p.2

theorem tokOf_noWs {p : Str × Int} (h : NoWs p.1) : NoWs (tokOf p) := by
  intro c hc
  rcases List.mem_append.mp hc with hc | hc
  · exact h c hc
  · rcases List.mem_cons.mp hc with hc | hc
    · subst hc; decide
    · exact showInt_noWs _ c hc

theorem tokOf_word {p : Str × Int} (h : NoWs p.1) : Word (tokOf p) :=
  ⟨by simp [tokOf], tokOf_noWs h⟩

theorem parseColonned_plain {q : Str} (hq : NoWs q) (hc : ':' ∉ q) : parseColonned q = .ok (q, -1) := by
  unfold parseColonned
  simp only [trim_noWs hq, dropWhile_all (bne_of_not_mem hc)]

theorem mem_setInsert {α : Type} [DecidableEq α] (lt : α → α → Bool) (x z : α) (l : List α) :
    z ∈ setInsert lt x l ↔ z = x ∨ z ∈ l := by
  induction l with
  | nil => simp [setInsert]
  | cons y ys ih =>
    unfold setInsert
    split
    · rename_i h; subst h; simp
    · split
      · simp
      · simp only [List.mem_cons, ih]
        constructor
        · rintro (h | h | h) <;> simp [h]
        · rintro (h | h | h) <;> simp [h]

theorem mem_setInsertAll {α : Type} [DecidableEq α] (lt : α → α → Bool) (z : α) (xs acc : List α) :
    z ∈ setInsertAll lt acc xs ↔ z ∈ acc ∨ z ∈ xs := by
  induction xs generalizing acc with
  | nil => simp [setInsertAll]
  | cons x xs ih =>
    have : setInsertAll lt acc (x :: xs) = setInsertAll lt (setInsert lt x acc) xs := rfl
    rw [this, ih, mem_setInsert]
    constructor
    · rintro ((h | h) | h) <;> simp [h]
    · rintro (h | h) 
      · simp [h]
      · rcases List.mem_cons.mp h with h | h <;> simp [h]

theorem mem_norm {α : Type} [DecidableEq α] (lt : α → α → Bool) (z : α) (xs : List α) : z ∈ norm lt xs ↔ z ∈ xs := by
  simp [norm, mem_setInsertAll]

theorem splitArrow_cons_sep {s : Char} {b : Str} (hb : splitArrow b = none) (h1 : s ≠ '-') :
    splitArrow (s :: b) = none := by
  cases b with
  | nil => rfl
  | cons c' r => simp [splitArrow, h1, hb]

theorem splitArrow_sep {a : Str} (s : Char) {b : Str} (ha : splitArrow a = none) (hb : splitArrow b = none)
    (h1 : s ≠ '-') (h2 : s ≠ '>') : splitArrow (a ++ s :: b) = none := by
  induction a using splitArrow.induct with
  | case1 => exact splitArrow_cons_sep hb h1
  | case2 c =>
    have := splitArrow_cons_sep hb h1
    simp [splitArrow, h2, this]
  | case3 c c' r h => simp [splitArrow, h] at ha
  | case4 c c' r h ha' ih =>
    have := ih ha'
    simp only [List.cons_append] at this ⊢
    simp [splitArrow, h, this]
  | case5 c c' r h p s hr ih => simp [splitArrow, h, hr] at ha

theorem splitArrow_first' {lhs : Str} (h : splitArrow lhs = none) (rest : Str) :
    splitArrow (lhs ++ '-' :: '>' :: rest) = some (lhs, rest) := by
  induction lhs using splitArrow.induct with
  | case1 => simp [splitArrow]
  | case2 c => simp [splitArrow]
  | case3 c c' r hc => simp [splitArrow, hc] at h
  | case4 c c' r hc h' ih =>
    have := ih h'
    simp only [List.cons_append] at this ⊢
    simp [splitArrow, hc, this]
  | case5 c c' r hc p s hr ih => simp [splitArrow, hc, hr] at h

theorem splitArrow_some {s p q : Str} (h : splitArrow s = some (p, q)) :
    s = p ++ '-' :: '>' :: q ∧ splitArrow p = none := by
  induction s using splitArrow.induct generalizing p with
  | case1 => simp [splitArrow] at h
  | case2 c => simp [splitArrow] at h
  | case3 c c' r hc =>
    simp only [splitArrow, hc, and_self, if_true, Option.some.injEq, Prod.mk.injEq] at h
    obtain ⟨rfl, rfl⟩ := h
    simp [hc.1, hc.2, splitArrow]
  | case4 c c' r hc hn ih => simp [splitArrow, hc, hn] at h
  | case5 c c' r hc p' s' hr ih =>
    simp only [splitArrow, hc, if_false, hr, Option.some.injEq, Prod.mk.injEq] at h
    obtain ⟨rfl, rfl⟩ := h
    obtain ⟨e, ihn⟩ := ih hr
    refine ⟨by rw [e]; rfl, ?_⟩
    -- `c :: p'` : no arrow in `p'`, and `c`, head of `p'` are not `-`, `>` together
    cases p' with
    | nil => rfl
    | cons d p'' =>
      simp only [List.cons_append, List.cons.injEq] at e
      obtain ⟨rfl, _⟩ := e
      simp [splitArrow, hc, ihn]

theorem splitArrow_isSome (p q : Str) : splitArrow (p ++ '-' :: '>' :: q) ≠ none := by
  induction p with
  | nil => simp [splitArrow]
  | cons c p ih =>
    cases hp : p ++ '-' :: '>' :: q with
    | nil => simp at hp
    | cons c' r =>
      rw [hp] at ih
      simp only [List.cons_append, hp, splitArrow]
      split
      · simp
      · cases hr : splitArrow (c' :: r) with
        | none => exact absurd hr ih
        | some x => simp

theorem splitArrow_none_iff (s : Str) : splitArrow s = none ↔ ¬ ∃ p q, s = p ++ '-' :: '>' :: q := by
  constructor
  · rintro h ⟨p, q, rfl⟩; exact splitArrow_isSome p q h
  · intro h
    cases hs : splitArrow s with
    | none => rfl
    | some x => exact absurd ⟨x.1, x.2, (splitArrow_some hs).1⟩ h

theorem goodName_iff (s : Str) : goodName s = true ↔
    s ≠ [] ∧ (∀ c ∈ s, isSpace c = false ∧ c ≠ '(' ∧ c ≠ ')' ∧ c ≠ ',' ∧ c ≠ ':') ∧
      ¬ ∃ p q, s = p ++ '-' :: '>' :: q := by
  rw [← splitArrow_none_iff]
  simp only [goodName, goodChar, Bool.and_eq_true, Bool.not_eq_true', List.all_eq_true, bne_iff_ne, ne_eq,
    Option.isNone_iff_eq_none, List.isEmpty_eq_false_iff]
  constructor
  · rintro ⟨⟨h1, h2⟩, h3⟩
    exact ⟨h1, fun c hc => ⟨(h2 c hc).1.1.1.1, (h2 c hc).1.1.1.2, (h2 c hc).1.1.2, (h2 c hc).1.2, (h2 c hc).2⟩, h3⟩
  · rintro ⟨h1, h2, h3⟩
    exact ⟨⟨h1, fun c hc => ⟨⟨⟨⟨(h2 c hc).1, (h2 c hc).2.1⟩, (h2 c hc).2.2.1⟩, (h2 c hc).2.2.2.1⟩, (h2 c hc).2.2.2.2⟩⟩, h3⟩

theorem stepTrans_arrow (st : PState) (line : Str) {s l r : Str} (h : splitArrow s = some (l, r)) :
    stepTrans st line s = if (trim r).isEmpty || containsWs (trim r) then .error (errInvalidTrans line)
      else stepLhs st line (trim l) (trim r) := by
  rw [stepTrans, h]

theorem kwOps_word : Word kwOps := ⟨by decide, by unfold NoWs; decide⟩

theorem kwAutomaton_word : Word kwAutomaton := ⟨by decide, by unfold NoWs; decide⟩

theorem kwStates_word : Word kwStates := ⟨by decide, by unfold NoWs; decide⟩

theorem kwFinal_word : Word kwFinal := ⟨by decide, by unfold NoWs; decide⟩

theorem kwTransitions_word : Word kwTransitions := ⟨by decide, by unfold NoWs; decide⟩

theorem kwAnonymous_word : Word kwAnonymous := ⟨by decide, by unfold NoWs; decide⟩

theorem map_fst_plain (qs : List Str) : (qs.map (fun q => (q, (-1 : Int)))).map (·.1) = qs := by
  induction qs with
  | nil => rfl
  | cons q qs ih => simp only [List.map_cons, ih]

theorem readWord_nil : readWord [] = ([], []) := rfl

theorem readWords_nil : readWords [] = [] := by rw [readWords]

theorem readWords_eq_nil_iff (s : Str) : readWords s = [] ↔ s = [] := by
  cases s with
  | nil => simp [readWords_nil]
  | cons c r => rw [readWords]; simp

theorem readWord_fst (s : Str) : (readWord s).1 = (readWords s).headD [] := by
  cases s with
  | nil => rw [readWords_nil]; rfl
  | cons c r => rw [readWords]; rfl

theorem readWords_snd (s : Str) : readWords (readWord s).2 = (readWords s).tail := by
  cases s with
  | nil => rw [readWord_nil, readWords_nil]; rfl
  | cons c r => rw [readWords_ne (s := c :: r) (by simp)]; rfl

/-- `stepHeader` as a function of the list of words of the trimmed line -/
def stepHeaderW (st : PState) (line : Str) (ws : List Str) : Except String PState :=
  let first := ws.headD []
  if first = kwTransitions then .ok { st with areTrans := true }
  else if first = kwAutomaton then
    if st.autP then .error "parse_timbukAutomaton already parsed!"
    else if ws.tail.tail ≠ [] then .error (errUnexpected line "has")
    else .ok { st with autP := true, d := { st.d with name := ws.tail.headD [] } }
  else if first = kwOps then
    if st.opsP then .error "parse_timbukOps already parsed!"
    else
      match parseTokens ws.tail with
      | .error e => .error e
      | .ok ps => .ok { st with opsP := true, d := { st.d with symbols := setInsertAll ltSym st.d.symbols ps } }
  else if first = kwStates then
    if st.statesP then .error "parse_timbukStates already parsed!"
    else
      match parseTokens ws.tail with
      | .error e => .error e
      | .ok ps => .ok { st with statesP := true,
                                d := { st.d with states := setInsertAll ltStr st.d.states (ps.map (·.1)) } }
  else if first = kwFinal then
    if ws.tail.headD [] ≠ kwStates then .error (errUnexpected line "contains")
    else if st.finalP then .error "parse_timbukFinal States already parsed!"
    else
      match parseTokens ws.tail.tail with
      | .error e => .error e
      | .ok ps => .ok { st with finalP := true,
                                d := { st.d with final := setInsertAll ltStr st.d.final (ps.map (·.1)) } }
  else .error (errUnexpected line "contains")

theorem stepHeader_eq_W (st : PState) (line str : Str) :
    stepHeader st line str = stepHeaderW st line (readWords str) := by
  have e1 : (readWord (readWord str).2).1 = (readWords str).tail.headD [] := by
    rw [readWord_fst, readWords_snd]
  have e2 : readWords (readWord (readWord str).2).2 = (readWords str).tail.tail := by
    rw [readWords_snd, readWords_snd]
  have e3 : ((readWord (readWord str).2).2 ≠ []) = ((readWords str).tail.tail ≠ []) := by
    rw [← e2]; simp [readWords_eq_nil_iff]
  unfold stepHeader stepHeaderW
  simp only [readWord_fst str, e1, e2, e3, readWords_snd]
  rfl

section

variable (st : PState) (line : Str) {ws : List Str}

theorem stepHeaderW_transitions (h : ws.headD [] = kwTransitions) :
    stepHeaderW st line ws = .ok { st with areTrans := true } := by
  simp only [stepHeaderW, h, if_true]

theorem stepHeaderW_automaton (h : ws.headD [] = kwAutomaton) :
    stepHeaderW st line ws =
      if st.autP then .error "parse_timbukAutomaton already parsed!"
      else if ws.tail.tail ≠ [] then .error (errUnexpected line "has")
      else .ok { st with autP := true, d := { st.d with name := ws.tail.headD [] } } := by
  simp only [stepHeaderW, h]
  rfl

theorem stepHeaderW_ops (h : ws.headD [] = kwOps) :
    stepHeaderW st line ws =
      if st.opsP then .error "parse_timbukOps already parsed!"
      else match parseTokens ws.tail with
        | .error e => .error e
        | .ok ps => .ok { st with opsP := true, d := { st.d with symbols := setInsertAll ltSym st.d.symbols ps } } := by
  simp only [stepHeaderW, h]
  rfl

theorem stepHeaderW_states (h : ws.headD [] = kwStates) :
    stepHeaderW st line ws =
      if st.statesP then .error "parse_timbukStates already parsed!"
      else match parseTokens ws.tail with
        | .error e => .error e
        | .ok ps =>
          .ok { st with statesP := true, d := { st.d with states := setInsertAll ltStr st.d.states (ps.map (·.1)) } } := by
  simp only [stepHeaderW, h]
  rfl

theorem stepHeaderW_final (h : ws.headD [] = kwFinal) :
    stepHeaderW st line ws =
      if ws.tail.headD [] ≠ kwStates then .error (errUnexpected line "contains")
      else if st.finalP then .error "parse_timbukFinal States already parsed!"
      else match parseTokens ws.tail.tail with
        | .error e => .error e
        | .ok ps =>
          .ok { st with finalP := true, d := { st.d with final := setInsertAll ltStr st.d.final (ps.map (·.1)) } } := by
  simp only [stepHeaderW, h]
  rfl

theorem stepHeaderW_other (h1 : ws.headD [] ≠ kwTransitions) (h2 : ws.headD [] ≠ kwAutomaton) (h3 : ws.headD [] ≠ kwOps)
    (h4 : ws.headD [] ≠ kwStates) (h5 : ws.headD [] ≠ kwFinal) :
    stepHeaderW st line ws = .error (errUnexpected line "contains") := by
  simp only [stepHeaderW, if_neg h1, if_neg h2, if_neg h3, if_neg h4, if_neg h5]

end

theorem nl_not_noWs {s : Str} (h : NoWs s) : '\n' ∉ s := by
  intro hc
  have := h _ hc
  revert this; decide

/-- what `Desc.wellFormed` tests (`wf_of_wellFormed`): every name `Good`, every rank an `int`, no white space in the automaton's name -/
structure WF (d : Desc) : Prop where
  name : NoWs d.name
  symbols : ∀ p ∈ d.symbols, Good p.1 ∧ intMin ≤ p.2 ∧ p.2 ≤ intMax
  states : ∀ q ∈ d.states, Good q
  final : ∀ q ∈ d.final, Good q
  trans : ∀ t ∈ d.trans, (∀ k ∈ t.1, Good k) ∧ Good t.2.1 ∧ Good t.2.2

theorem wf_of_wellFormed {d : Desc} (h : d.wellFormed = true) : WF d := by
  simp only [Desc.wellFormed, Bool.and_eq_true, Bool.not_eq_true', List.all_eq_true, rankOk, decide_eq_true_eq] at h
  obtain ⟨⟨⟨⟨h1, h2⟩, h3⟩, h4⟩, h5⟩ := h
  refine ⟨?_, ?_, ?_, ?_, ?_⟩
  · intro c hc
    have := (List.any_eq_false.mp h1) c hc
    simpa using this
  · intro p hp; exact ⟨good_of_goodName (h2 p hp).1, (h2 p hp).2.1, (h2 p hp).2.2⟩
  · intro q hq; exact good_of_goodName (h3 q hq)
  · intro q hq; exact good_of_goodName (h4 q hq)
  · intro t ht
    exact ⟨fun k hk => good_of_goodName ((h5 t ht).1.1 k hk), good_of_goodName (h5 t ht).1.2,
      good_of_goodName (h5 t ht).2⟩

theorem serSym_eq (p : Str × Int) : serSym p = serState (tokOf p) := rfl

/-- what comes back: the name (`anonymous` for the empty name) and the `std::set`s of the components.  The inner `norm` is the
serializer's (it writes each section in `std::set` order), the outer one the parser's (it inserts what it reads into a `std::set`);
that they collapse needs the orders to be strict and total (`roundTrip_eq_normalize`) -/
def roundTrip (d : Desc) : Desc where
  name := if d.name.isEmpty then kwAnonymous else d.name
  symbols := norm ltSym (norm ltSym d.symbols)
  states := norm ltStr (norm ltStr d.states)
  final := norm ltStr (norm ltStr d.final)
  trans := norm ltTrans (norm ltTrans d.trans)

theorem isSpace_cases {c : Char} (h : isSpace c = true) :
    c = ' ' ∨ c = '\t' ∨ c = '\n' ∨ c = '\x0b' ∨ c = '\x0c' ∨ c = '\r' := by
  simp only [isSpace, Bool.or_eq_true, beq_iff_eq] at h
  rcases h with ((((h | h) | h) | h) | h) | h <;> simp [h]

theorem isSpace_ne {c : Char} (h : isSpace c = true) :
    c ≠ '-' ∧ c ≠ '>' ∧ c ≠ '(' ∧ c ≠ ')' ∧ c ≠ ',' ∧ c ≠ ':' := by
  rcases isSpace_cases h with h | h | h | h | h | h <;> subst h <;> decide

theorem AllWs.not_mem {s : Str} (h : AllWs s) {c : Char} (hc : isSpace c = false) : c ∉ s := by
  intro hm; rw [h c hm] at hc; cases hc

theorem not_mem_append_ws {c : Char} {s g : Str} (hc : isSpace c = false) (h : c ∉ s) (hg : AllWs g) : c ∉ s ++ g := by
  intro hm
  rcases List.mem_append.mp hm with hm | hm
  · exact h hm
  · exact hg.not_mem hc hm

theorem not_mem_append3 {c : Char} {a b d : Str} (ha : c ∉ a) (hb : c ∉ b) (hd : c ∉ d) : c ∉ a ++ b ++ d := by
  simp [ha, hb, hd]

theorem allWs_append {a b : Str} (ha : AllWs a) (hb : AllWs b) : AllWs (a ++ b) := by
  intro c hc
  rcases List.mem_append.mp hc with hc | hc
  · exact ha c hc
  · exact hb c hc

theorem noWs_append {a b : Str} (ha : NoWs a) (hb : NoWs b) : NoWs (a ++ b) := by
  intro c hc
  rcases List.mem_append.mp hc with hc | hc
  · exact ha c hc
  · exact hb c hc

theorem trim_allWs {s : Str} (h : AllWs s) : trim s = [] := by
  unfold trim
  have : trimL s = [] := dropWhile_all h
  rw [this]; rfl

theorem headWs_of_allWs {g : Str} (rest : Str) (hg : AllWs g) (hne : g ≠ []) : HeadWs (g ++ rest) := by
  intro c hc
  cases g with
  | nil => exact absurd rfl hne
  | cons a r => simp at hc; subst hc; exact hg _ List.mem_cons_self

theorem trimL_decomp (s : Str) : ∃ pre, s = pre ++ trimL s ∧ AllWs pre ∧ HeadOk (trimL s) :=
  ⟨_, span_decomp isSpace s⟩

theorem trimR_decomp (s : Str) : ∃ post, s = trimR s ++ post ∧ AllWs post ∧ LastOk (trimR s) := by
  obtain ⟨h1, h2, h3⟩ := span_decomp isSpace s.reverse
  refine ⟨(s.reverse.takeWhile isSpace).reverse, ?_, fun c hc => h2 c (List.mem_reverse.mp hc), fun c hc => h3 c ?_⟩
  · unfold trimR
    rw [← List.reverse_append, ← h1, List.reverse_reverse]
  · unfold trimR at hc
    rwa [List.getLast?_reverse] at hc

/-- with `trim_pad`, this decomposition determines `trim s` -/
theorem trim_decomp (s : Str) : ∃ pre post, s = pre ++ trim s ++ post ∧ AllWs pre ∧ AllWs post ∧
    HeadOk (trim s) ∧ LastOk (trim s) := by
  obtain ⟨pre, h1, hpre, hh⟩ := trimL_decomp s
  obtain ⟨post, h2, hpost, hl⟩ := trimR_decomp (trimL s)
  refine ⟨pre, post, ?_, hpre, hpost, ?_, hl⟩
  · unfold trim
    rw [List.append_assoc, ← h2]; exact h1
  · unfold trim
    intro c hc
    cases ht : trimR (trimL s) with
    | nil => rw [ht] at hc; cases hc
    | cons x r =>
      rw [ht] at hc
      simp only [List.head?_cons, Option.some.injEq] at hc
      subst hc
      apply hh
      rw [h2, ht]; rfl

theorem trim_eq_nil_iff (s : Str) : trim s = [] ↔ AllWs s := by
  constructor
  · intro h
    obtain ⟨pre, post, hs, hpre, hpost, _, _⟩ := trim_decomp s
    rw [h, List.append_nil] at hs
    rw [hs]; exact allWs_append hpre hpost
  · exact trim_allWs

theorem trim_ne_nil_head {s : Str} (h : trim s ≠ []) : ∃ c r, trim s = c :: r ∧ isSpace c = false := by
  obtain ⟨_, _, _, _, _, hh, _⟩ := trim_decomp s
  cases ht : trim s with
  | nil => exact absurd ht h
  | cons c r => exact ⟨c, r, rfl, hh c (by rw [ht]; rfl)⟩

theorem splitDelim_cons_ne (d : Char) (s : Str) : ∃ p ps, splitDelim d s = p :: ps := by
  cases h : splitDelim d s with
  | nil => exact absurd h (Vata.T.splitDelim_ne_nil d s)
  | cons p ps => exact ⟨p, ps, rfl⟩

theorem splitDelim_spec (d : Char) (s : Str) :
    (∀ p ∈ splitDelim d s, d ∉ p) ∧ joinWith d (splitDelim d s) = s := by
  induction s with
  | nil => simp [splitDelim, joinWith]
  | cons c cs ih =>
    obtain ⟨p, ps, hp⟩ := splitDelim_cons_ne d cs
    rw [hp] at ih
    by_cases hc : c = d
    · subst hc
      simp only [splitDelim, if_true, hp]
      refine ⟨?_, ?_⟩
      · intro x hx
        rcases List.mem_cons.mp hx with hx | hx
        · subst hx; simp
        · exact ih.1 x hx
      · simp only [joinWith, List.nil_append]; rw [ih.2]
    · simp only [splitDelim, hc, if_false, hp]
      refine ⟨?_, ?_⟩
      · intro x hx
        rcases List.mem_cons.mp hx with hx | hx
        · subst hx
          intro hm
          rcases List.mem_cons.mp hm with hm | hm
          · exact hc hm.symm
          · exact ih.1 p List.mem_cons_self hm
        · exact ih.1 x (List.mem_cons_of_mem _ hx)
      · have := ih.2
        cases ps with
        | nil => simp only [joinWith] at this ⊢; rw [this]
        | cons q qs => simp only [joinWith, List.cons_append] at this ⊢; rw [this]

theorem splitDelim_eq_iff (d : Char) (s : Str) (ps : List Str) :
    splitDelim d s = ps ↔ ps ≠ [] ∧ (∀ p ∈ ps, d ∉ p) ∧ s = joinWith d ps := by
  constructor
  · rintro rfl
    exact ⟨Vata.T.splitDelim_ne_nil d s, (splitDelim_spec d s).1, (splitDelim_spec d s).2.symm⟩
  · rintro ⟨h1, h2, rfl⟩
    exact splitDelim_joinWith d ps h1 h2

/-- the four header lines other than `Transitions` -/
inductive HKind | ops | aut | states | final
deriving DecidableEq, Repr

def HKind.kw : HKind → Str
  | .ops => kwOps
  | .aut => kwAutomaton
  | .states => kwStates
  | .final => kwFinal

/-- the parser's "already parsed" flag of that header -/
def PState.flag (st : PState) : HKind → Bool
  | .ops => st.opsP
  | .aut => st.autP
  | .states => st.statesP
  | .final => st.finalP

theorem kw_word (k : HKind) : Word k.kw := by
  cases k
  · exact kwOps_word
  · exact kwAutomaton_word
  · exact kwStates_word
  · exact kwFinal_word

theorem flag_init (k : HKind) : ({} : PState).flag k = false := by
  cases k <;> rfl

theorem kw_ne_transitions (k : HKind) : k.kw ≠ kwTransitions := by cases k <;> decide

theorem kw_injective {k k' : HKind} (h : k.kw = k'.kw) : k = k' := by
  cases k <;> cases k' <;> first | rfl | (revert h; decide)

end Vata.Timbuk
