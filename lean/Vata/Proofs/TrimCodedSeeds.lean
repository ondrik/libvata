import Vata.TrimCodedSeeds
import Vata.Proofs.TrimCodedResult
/-!
# Proofs about the seeded variants of `RemoveUselessStates` (`Vata/TrimCodedSeeds.lean`)

(a) `uselessLeafOnce_eq`: when no state has two leaf rules the guard of the moved line is never false on a leaf
transition, so variant (a) IS the coded function (equal automata, not only equivalent ones).
-/
namespace Vata.TrimCoded

theorem noTwoLeafB_spec {A : TA} (h : noTwoLeafB A = true) {i j : Nat} {r r' : Rule}
    (hi : A.rules[i]? = some r) (hj : A.rules[j]? = some r') (hk : r.kids = []) (hk' : r'.kids = [])
    (hp : r.parent = r'.parent) : i = j := by
  have hil : i < A.rules.length := lt_of_getElem? hi
  have hjl : j < A.rules.length := lt_of_getElem? hj
  unfold noTwoLeafB at h
  rw [List.all_eq_true] at h
  have h1 := h i (List.mem_range.mpr hil)
  rw [List.all_eq_true] at h1
  have h2 := h1 j (List.mem_range.mpr hjl)
  rw [hi, hj] at h2
  simp only [hk, hk', hp, List.isEmpty_nil, Bool.and_self, beq_self_eq_true, Bool.not_true, Bool.false_or,
    beq_iff_eq] at h2
  exact h2

theorem initLoopLeafOnce_eq {A : TA} (h : noTwoLeafB A = true) (k : Nat) : initLoopLeafOnce A k = initLoop A k := by
  induction k with
  | zero => rfl
  | succ k ih =>
    rw [initLoopLeafOnce, initLoop, ih]
    cases hr : A.rules[k]? with
    | none => rfl
    | some r =>
      show initStepLeafOnce (initLoop A k) k r = initStep (initLoop A k) k r
      unfold initStepLeafOnce initStep
      by_cases hleaf : r.kids.isEmpty = true
      · rw [if_pos hleaf, if_pos hleaf]
        refine if_neg (fun hc => ?_)
        -- the parent of the leaf transition `k` would be the parent of an earlier leaf transition
        obtain ⟨j, r', h1, h2, h3, h4⟩ :=
          (initLoop_inv A k (Nat.le_of_lt (lt_of_getElem? hr))).src r.parent (List.contains_iff_mem.mp hc)
        exact Nat.lt_irrefl k (noTwoLeafB_spec h h1 hr h3 (List.isEmpty_iff.mp hleaf) h4 ▸ h2)
      · rw [if_neg hleaf, if_neg hleaf]

theorem uselessLeafOnce_eq {A : TA} (h : noTwoLeafB A = true) : uselessLeafOnce A = uselessCoded A := by
  unfold uselessLeafOnce uselessCoded uselessWith finalStLeafOnce finalSt
  rw [initLoopLeafOnce_eq h]

def St.setRem (σ : St) (m : Nat) : St := { σ with remaining := m }

theorem pushState_setRem (σ : St) (m q : Nat) : (σ.setRem m).pushState q = (σ.pushState q).setRem m := by
  unfold St.pushState St.setRem
  simp only
  split <;> rfl

theorem innerStep_setRem (dec : Rule → Nat) (s : Nat) (σ : St) (m j : Nat) :
    ∃ m', innerStep dec s (σ.setRem m) j = (innerStep decOne s σ j).setRem m' := by
  unfold innerStep
  have : (σ.setRem m).infos = σ.infos := rfl
  rw [this]
  cases hi : σ.infos[j]? with
  | none => exact ⟨m, rfl⟩
  | some info =>
    simp only
    by_cases hf : (info.reachedBy s).2 = true
    · rw [if_pos hf, if_pos hf]
      exact ⟨m - dec info.rule, pushState_setRem
        { σ with infos := σ.infos.set j (info.reachedBy s).1, rtrans := σ.rtrans ++ [j],
                 remaining := σ.remaining - decOne info.rule } (m - dec info.rule) info.rule.parent⟩
    · rw [if_neg hf, if_neg hf]
      exact ⟨m, rfl⟩

theorem foldl_innerStep_setRem (dec : Rule → Nat) (s : Nat) (v : List Nat) (σ : St) (m : Nat) :
    ∃ m', v.foldl (innerStep dec s) (σ.setRem m) = (v.foldl (innerStep decOne s) σ).setRem m' := by
  induction v generalizing σ m with
  | nil => exact ⟨m, rfl⟩
  | cons j v ih =>
    obtain ⟨m1, h1⟩ := innerStep_setRem dec s σ m j
    rw [List.foldl_cons, List.foldl_cons, h1]
    exact ih _ m1

theorem mainLoop_setRem (dec : Rule → Nat) (f : Nat) (σ : St) (m : Nat) :
    ∃ m', mainLoop dec f (σ.setRem m) = (mainLoop decOne f σ).setRem m' := by
  induction f generalizing σ m with
  | zero => exact ⟨m, rfl⟩
  | succ f ih =>
    cases hwk : σ.work with
    | nil =>
      rw [mainLoop, mainLoop, show (σ.setRem m).work = σ.work from rfl, hwk]
      exact ⟨m, rfl⟩
    | cons s w =>
      rw [mainLoop_cons dec f (σ := σ.setRem m) hwk, mainLoop_cons decOne f hwk]
      obtain ⟨m1, h1⟩ := foldl_innerStep_setRem dec s (smGet σ.smap s) { σ with work := w } m
      rw [show ({ σ.setRem m with work := w } : St) = ({ σ with work := w } : St).setRem m from rfl,
        show (σ.setRem m).smap = σ.smap from rfl, h1]
      exact ih _ m1

/-- whatever is subtracted from `remaining`: the sets, the fired transitions and the work-list are those of the code
as written, only the counter differs -/
theorem finalSt_setRem (dec : Rule → Nat) (A : TA) : ∃ m, finalSt dec A = (finalSt decOne A).setRem m := by
  unfold finalSt
  have : initLoop A A.rules.length = (initLoop A A.rules.length).setRem (initLoop A A.rules.length).remaining := rfl
  rw [this]
  exact mainLoop_setRem dec _ _ _

end Vata.TrimCoded
