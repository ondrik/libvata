import Vata.Proofs.CowHeapFA3
import Vata.Proofs.NfaOpsCodedTrim
import Vata.Proofs.Store
/-!
# What the values of the finite-automaton heap model denote (proofs for `Vata/CowHeapFA.lean`, property C11) – part 1

`NEquiv A B`: two automata with start symbols are the same up to list order – the same SETS of start states, final states and
transitions, and the same start-symbol map as a function (`smFind`): `NfaC.NfaSetEq` (the notion of the C10 statements) on the
automata plus equal start-symbol maps (`NEquiv.setEq`, `NEquiv.of_setEq`), so what depends on the sets only – language, reachable
states, `nfaReverse`, `nfaRemoveUnreachable` – is inherited from there.

This file: `vAdd`, `vReverse`, `vUnionDisj`, `vReindex` denote `nfasAddTrans`, `nfasReverse`, `nfasUnionDisjoint`,
`nfasUnionDisjoint d (nfasMap idx s)`; the representation invariant `WFV` (its preservation, `wfv_*`, is in part 2).
-/
namespace Vata.CowHeapFA

open Vata Vata.W Vata.NfaS
open Vata.Store (Cluster upsert insTuple addToCluster addToMap KeysNodup)
open Vata.CowHeap (Val)
open Vata.CowHeapX (missing mem_missing)

/-- the same automaton up to the order (and multiplicity) of the lists; the start-symbol maps agree as functions -/
structure NEquiv (A B : NFAS) : Prop where
  start : ∀ q, q ∈ A.start ↔ q ∈ B.start
  final : ∀ q, q ∈ A.final ↔ q ∈ B.final
  trans : ∀ e, e ∈ A.trans ↔ e ∈ B.trans
  syms : ∀ q, smFind A.startSyms q = smFind B.startSyms q

theorem NEquiv.refl (A : NFAS) : NEquiv A A := ⟨fun _ => Iff.rfl, fun _ => Iff.rfl, fun _ => Iff.rfl, fun _ => rfl⟩
theorem NEquiv.symm {A B : NFAS} (h : NEquiv A B) : NEquiv B A :=
  ⟨fun q => (h.start q).symm, fun q => (h.final q).symm, fun e => (h.trans e).symm, fun q => (h.syms q).symm⟩
theorem NEquiv.trans' {A B C : NFAS} (h : NEquiv A B) (h' : NEquiv B C) : NEquiv A C :=
  ⟨fun q => (h.start q).trans (h'.start q), fun q => (h.final q).trans (h'.final q),
    fun e => (h.trans e).trans (h'.trans e), fun q => (h.syms q).trans (h'.syms q)⟩
theorem NEquiv.of_eq {A B : NFAS} (h : A = B) : NEquiv A B := h ▸ NEquiv.refl A

theorem NEquiv.setEq {A B : NFAS} (h : NEquiv A B) : NfaC.NfaSetEq A.toNFA B.toNFA := ⟨h.start, h.final, h.trans⟩

theorem NEquiv.of_setEq {A B : NFAS} (h : NfaC.NfaSetEq A.toNFA B.toNFA)
    (hs : ∀ q, smFind A.startSyms q = smFind B.startSyms q) : NEquiv A B := ⟨h.1, h.2.1, h.2.2, hs⟩

theorem NEquiv.lang {A B : NFAS} (h : NEquiv A B) (w : List Nat) : acceptsW A.toNFA w = acceptsW B.toNFA w :=
  h.setEq.lang w

theorem NEquiv.symsOf {A B : NFAS} (h : NEquiv A B) (q : Nat) : A.symsOf q = B.symsOf q := by
  simp only [NFAS.symsOf, smGet, h.syms q]

theorem NEquiv.reach {A B : NFAS} (h : NEquiv A B) (q : Nat) : NfaReach A.toNFA q ↔ NfaReach B.toNFA q :=
  h.setEq.reach q

theorem mem_foldl_insN (l init : List Nat) (x : Nat) : x ∈ l.foldl Vata.insN init ↔ x ∈ init ∨ x ∈ l :=
  mem_foldl_insNew l init

theorem mem_map_insTuple {γ : Type} (F : List Nat → γ) (t : List Nat) (ts : Store.TupleSet) (x : γ) :
    x ∈ (insTuple t ts).map F ↔ x ∈ ts.map F ∨ x = F t := by
  simp only [List.mem_map, Store.mem_insTuple, or_and_right, exists_or, exists_eq_left]
  exact or_congr Iff.rfl eq_comm

theorem smFind_congr_append {m₁ m₁' m₂ m₂' : SymMap} (q : Nat) (h1 : smFind m₁ q = smFind m₁' q)
    (h2 : smFind m₂ q = smFind m₂' q) : smFind (m₁ ++ m₂) q = smFind (m₁' ++ m₂') q := by
  rw [smFind_append, smFind_append, h1, h2]

theorem smFind_map_nil (l : List Nat) (q : Nat) :
    smFind (l.map (fun f => (f, ([] : List Nat)))) q = if q ∈ l then some [] else none := by
  rw [NfaS.smFind_eq, lookup_map_keys]

/-- a view `G` of the entries; `g` extends the view of an entry by the elements satisfying `P`, and the entry created
    for a new key shows nothing: the view of the whole list is extended by `P`.  (No hypothesis on the keys: `upsert`
    changes the FIRST entry of the key, the view sees all entries.) -/
theorem mem_flatMap_upsert {β γ : Type} (G : Nat → β → List γ) (P : γ → Prop) (k : Nat) (g : β → β) (e : β)
    (he : G k e = []) (h : ∀ v x, x ∈ G k (g v) ↔ x ∈ G k v ∨ P x) (l : List (Nat × β)) (x : γ) :
    x ∈ (upsert k (fun o => g (o.getD e)) l).flatMap (fun kv => G kv.1 kv.2) ↔
      x ∈ l.flatMap (fun kv => G kv.1 kv.2) ∨ P x := by
  induction l with
  | nil => simp [upsert, h, he]
  | cons kv l ih =>
    obtain ⟨k0, v0⟩ := kv
    simp only [upsert]
    split
    · rename_i e
      subst e
      simp only [List.flatMap_cons, List.mem_append, Option.getD_some, h]
      exact or_right_comm
    · simp only [List.flatMap_cons, List.mem_append, ih]
      exact or_assoc.symm

theorem mem_flatMap_foldl_upsert {α β γ : Type} (G : Nat → β → List γ) (key : α → Nat) (g : α → β → β) (e : β)
    (P : α → γ → Prop) (he : ∀ k, G k e = []) (h : ∀ a v x, x ∈ G (key a) (g a v) ↔ x ∈ G (key a) v ∨ P a x)
    (src : List α) (l : List (Nat × β)) (x : γ) :
    x ∈ (src.foldl (fun l a => upsert (key a) (fun o => g a (o.getD e)) l) l).flatMap (fun kv => G kv.1 kv.2) ↔
      x ∈ l.flatMap (fun kv => G kv.1 kv.2) ∨ ∃ a, a ∈ src ∧ P a x :=
  mem_foldl_of_step (fun l x => x ∈ l.flatMap (fun kv => G kv.1 kv.2)) P _
    (fun l a x => mem_flatMap_upsert G (P a) (key a) (g a) e (he _) (h a) l x) src l x

/-- the transitions `(q, a, r)` the cluster `c` of the state `q` stands for (a tuple is the one-element list `[r]`) -/
def clTrans (q : Nat) (c : Cluster) : List (Nat × Nat × Nat) :=
  c.flatMap (fun st => st.2.map (fun r => (q, st.1, r.headD 0)))

theorem transOf_eq (t : Val) : transOf t = t.flatMap (fun qc => clTrans qc.1 qc.2) := rfl

theorem mem_clTrans_addToCluster (q a r : Nat) (c : Cluster) (e : Nat × Nat × Nat) :
    e ∈ clTrans q (addToCluster a [r] c) ↔ e ∈ clTrans q c ∨ e = (q, a, r) :=
  mem_flatMap_upsert (β := Store.TupleSet) (fun a' ts => ts.map (fun (r' : List Nat) => (q, a', r'.headD 0))) (fun e => e = (q, a, r)) a
    (insTuple [r]) [] rfl (mem_map_insTuple (fun r' => (q, a, r'.headD 0)) [r]) c e

/-- `AddTransition` adds the transition – whatever the state of the container -/
theorem mem_transOf_addToMap (l a r : Nat) (t : Val) (e : Nat × Nat × Nat) :
    e ∈ transOf (addToMap l a [r] t) ↔ e ∈ transOf t ∨ e = (l, a, r) :=
  mem_flatMap_upsert clTrans (fun e => e = (l, a, r)) l (addToCluster a [r]) [] rfl
    (mem_clTrans_addToCluster l a r) t e

/-- `AddTransition` -/
theorem vAdd_denote (l a r : Nat) (v : FAVal) : NEquiv (vAdd l a r v).toNFAS (nfasAddTrans v.toNFAS l a r) := by
  refine ⟨fun _ => Iff.rfl, fun _ => Iff.rfl, fun e => ?_, fun _ => rfl⟩
  show e ∈ transOf (addToMap l a [r] v.trans) ↔ e ∈ transOf v.trans ++ [(l, a, r)]
  rw [mem_transOf_addToMap, List.mem_append, List.mem_singleton]

/-- `Reverse` -/
theorem vReverse_denote (v : FAVal) : NEquiv (vReverse v).toNFAS (nfasReverse v.toNFAS) := by
  refine ⟨fun _ => Iff.rfl, fun _ => Iff.rfl, fun e => ?_, fun q => ?_⟩
  · have h1 : (vReverse v).toNFAS.trans =
        transOf ((transOf v.trans).foldl (fun t e => addToMap e.2.2 e.2.1 [e.1] t) []) := rfl
    have h2 : (nfasReverse v.toNFAS).trans = (transOf v.trans).map (fun e => (e.2.2, e.2.1, e.1)) := rfl
    rw [h1, h2, mem_foldl_of_step (fun t e => e ∈ transOf t) (fun x e => e = (x.2.2, x.2.1, x.1)) _
      (fun t x e => mem_transOf_addToMap x.2.2 x.2.1 x.1 t e), List.mem_map]
    simp only [transOf, List.flatMap_nil, List.not_mem_nil, false_or, eq_comm]
  · show smFind (v.mem.final.foldl (fun m q => smInsert m q []) v.mem.ssym) q =
      smFind (v.mem.ssym ++ (v.mem.final.filter (fun f => !smHas v.mem.ssym f)).map (fun f => (f, []))) q
    rw [smFind_foldl_insert (fun q => q) (fun _ => []), smFind_append, smFind_append]
    cases hq : smFind v.mem.ssym q with
    | some s => rfl
    | none =>
      have hh : smHas v.mem.ssym q = false := by rw [smHas, hq]; rfl
      show smFind (v.mem.final.map fun x => (x, [])) q = smFind ((v.mem.final.filter _).map fun f => (f, [])) q
      rw [smFind_map_nil, smFind_map_nil]
      simp only [List.mem_filter, hh, Bool.not_false, and_true]

/-- what the C++ `assert`s about the operands of `UnionDisjointStates`, as far as the transition containers go: no state
    has a cluster in both (the keys of the right operand being distinct, which `WFV` says) -/
def DisjKeys (s t : FAVal) : Prop := ∀ kc, kc ∈ t.trans → s.trans.lookup kc.1 = none

/-- `UnionDisjointStates`, for operands without a common source state -/
theorem vUnionDisj_denote (s t : FAVal) (ht : KeysNodup t.trans) (hd : DisjKeys s t) :
    NEquiv (vUnionDisj s t).toNFAS (nfasUnionDisjoint s.toNFAS t.toNFAS) := by
  refine ⟨fun q => ?_, fun q => ?_, fun e => ?_, fun q => ?_⟩
  · show q ∈ t.mem.start.foldl Vata.insN s.mem.start ↔ q ∈ s.mem.start ++ t.mem.start
    rw [mem_foldl_insN, List.mem_append]
  · show q ∈ t.mem.final.foldl Vata.insN s.mem.final ↔ q ∈ s.mem.final ++ t.mem.final
    rw [mem_foldl_insN, List.mem_append]
  · show e ∈ transOf (s.trans ++ missing s.trans t.trans) ↔ e ∈ transOf s.trans ++ transOf t.trans
    rw [Vata.CowHeapX.missing_of_disjoint s.trans t.trans ht hd, transOf, List.flatMap_append]
    rfl
  · show smFind (t.mem.ssym.foldl (fun m e => smInsert m e.1 e.2) s.mem.ssym) q = smFind (s.mem.ssym ++ t.mem.ssym) q
    rw [smFind_foldl_insert (α := Nat × List Nat) (fun e => e.1) (fun e => e.2), List.map_id']

/-- without disjointness only `⊆` holds: `insert` does not overwrite the cluster of the left operand -/
theorem vUnionDisj_sub (s t : FAVal) (e : Nat × Nat × Nat) (he : e ∈ (vUnionDisj s t).toNFAS.trans) :
    e ∈ (nfasUnionDisjoint s.toNFAS t.toNFAS).trans := by
  have he' : e ∈ transOf (s.trans ++ missing s.trans t.trans) := he
  show e ∈ transOf s.trans ++ transOf t.trans
  rw [transOf, List.flatMap_append, List.mem_append] at he'
  refine List.mem_append.mpr (he'.imp id fun h => ?_)
  obtain ⟨qc, hqc, h⟩ := List.mem_flatMap.mp h
  exact List.mem_flatMap.mpr ⟨qc, mem_missing hqc, h⟩

/-- all stored right-hand sides are non-empty tuples (they are singletons in every history) -/
def TuplesOk (t : Val) : Prop := ∀ qc, qc ∈ t → ∀ st, st ∈ qc.2 → ∀ r, r ∈ st.2 → r ≠ []

/-- the representation invariant of a value: one cluster per state, non-empty tuples -/
structure WFV (v : FAVal) : Prop where
  keys : KeysNodup v.trans
  tup : TuplesOk v.trans

theorem mem_clTrans_reindexCluster (idx : Nat → Nat) (q : Nat) (src c : Cluster) (e : Nat × Nat × Nat) :
    e ∈ clTrans q (reindexCluster idx src c) ↔
      e ∈ clTrans q c ∨ ∃ st, st ∈ src ∧ ∃ r, r ∈ st.2 ∧ e = (q, st.1, (r.map idx).headD 0) :=
  mem_flatMap_foldl_upsert (α := Nat × Store.TupleSet) (β := Store.TupleSet)
    (fun a' ts => ts.map (fun (r' : List Nat) => (q, a', r'.headD 0))) (fun st => st.1)
    (fun st ts => st.2.foldl (fun ts (t : List Nat) => insTuple (t.map idx) ts) ts) []
    (fun st e => ∃ r, r ∈ st.2 ∧ e = (q, st.1, (r.map idx).headD 0)) (fun _ => rfl)
    (fun st ts e => mem_foldl_of_step (fun ts e => e ∈ List.map (fun r' => (q, st.1, r'.headD 0)) ts)
      (fun r e => e = (q, st.1, (r.map idx).headD 0)) (fun ts t => insTuple (t.map idx) ts)
      (fun ts r => mem_map_insTuple (fun r' => (q, st.1, r'.headD 0)) (r.map idx) ts) st.2 ts e)
    src c e

theorem mem_transOf_reindexTrans (idx : Nat → Nat) (src t : Val) (e : Nat × Nat × Nat) :
    e ∈ transOf (reindexTrans idx src t) ↔
      e ∈ transOf t ∨ ∃ qc, qc ∈ src ∧ ∃ st, st ∈ qc.2 ∧ ∃ r, r ∈ st.2 ∧ e = (idx qc.1, st.1, (r.map idx).headD 0) :=
  mem_flatMap_foldl_upsert (α := Nat × Cluster) clTrans (fun qc => idx qc.1) (fun qc => reindexCluster idx qc.2) []
    (fun qc e => ∃ st, st ∈ qc.2 ∧ ∃ r, r ∈ st.2 ∧ e = (idx qc.1, st.1, (r.map idx).headD 0)) (fun _ => rfl)
    (fun qc c e => mem_clTrans_reindexCluster idx (idx qc.1) qc.2 c e) src t e

theorem headD_map_of_ne_nil (idx : Nat → Nat) {r : List Nat} (h : r ≠ []) : (r.map idx).headD 0 = idx (r.headD 0) := by
  cases r with
  | nil => exact absurd rfl h
  | cons x r => rfl

/-- the value members after the two scans of `ReindexStates`: the images of the final and of the start states are
    inserted, the start-symbol map gets the entries of the start states -/
theorem vReindex_mem (idx : Nat → Nat) (s d : FAVal) :
    (∀ x, x ∈ (vReindex idx s d).mem.final ↔ x ∈ d.mem.final ∨ x ∈ s.mem.final.map idx) ∧
    (∀ x, x ∈ (vReindex idx s d).mem.start ↔ x ∈ d.mem.start ∨ x ∈ s.mem.start.map idx) ∧
    ∀ p, smFind (vReindex idx s d).mem.ssym p =
      smFind (d.mem.ssym ++ s.mem.start.map (fun q => (idx q, smGet s.mem.ssym q))) p := by
  have fin : ∀ (l : List Nat) (d : FAVal), (l.foldl (fun d q => vSetFinal (idx q) d) d).mem =
      { d.mem with final := l.foldl (fun f q => insN f (idx q)) d.mem.final } := fun l => by
    induction l with
    | nil => exact fun _ => rfl
    | cons q l ih => exact fun d => ih _
  have st : ∀ (l : List Nat) (d : FAVal),
      (l.foldl (fun d q => vSetExistingStart (idx q) (smGet s.mem.ssym q) d) d).mem =
        { d.mem with start := l.foldl (fun f q => insN f (idx q)) d.mem.start,
                     ssym := l.foldl (fun y q => smInsert y (idx q) (smGet s.mem.ssym q)) d.mem.ssym } := fun l => by
    induction l with
    | nil => exact fun _ => rfl
    | cons q l ih => exact fun d => ih _
  have ins : ∀ (l init : List Nat) x, x ∈ l.foldl (fun f q => insN f (idx q)) init ↔ x ∈ init ∨ x ∈ l.map idx :=
    fun l init x => by
      rw [mem_foldl_of_step (fun b x => x ∈ b) (fun q x => x = idx q) _ (fun _ _ _ => NfaS.mem_insN), List.mem_map]
      simp only [eq_comm]
  rw [show (vReindex idx s d).mem = _ from st s.mem.start _, fin]
  exact ⟨ins _ _, ins _ _, smFind_foldl_insert idx (smGet s.mem.ssym) _ _⟩

/-- `src.ReindexStates(dst, idx)` adds the image of `src` to `dst`: in the words of `Vata/NfaStart.lean`, the componentwise
    union of `dst` with `nfasMap idx src` (`nfasUnionWith` is two of these into a fresh automaton: `vUnion_denote`) -/
theorem vReindex_denote (idx : Nat → Nat) (s d : FAVal) (hs : TuplesOk s.trans) :
    NEquiv (vReindex idx s d).toNFAS (nfasUnionDisjoint d.toNFAS (nfasMap idx s.toNFAS)) := by
  obtain ⟨f1, f2, f3⟩ := vReindex_mem idx s d
  refine ⟨fun q => (f2 q).trans List.mem_append.symm, fun q => (f1 q).trans List.mem_append.symm, fun e => ?_, f3⟩
  show e ∈ transOf (reindexTrans idx s.trans d.trans) ↔
    e ∈ transOf d.trans ++ (transOf s.trans).map (fun e => (idx e.1, e.2.1, idx e.2.2))
  rw [mem_transOf_reindexTrans, List.mem_append]
  apply or_congr Iff.rfl
  simp only [transOf, List.mem_map, List.mem_flatMap]
  constructor
  · rintro ⟨qc, hqc, st, hst, r, hr, rfl⟩
    refine ⟨(qc.1, st.1, r.headD 0), ⟨qc, hqc, st, hst, r, hr, rfl⟩, ?_⟩
    rw [headD_map_of_ne_nil idx (hs qc hqc st hst r hr)]
  · rintro ⟨x, ⟨qc, hqc, st, hst, r, hr, rfl⟩, rfl⟩
    refine ⟨qc, hqc, st, hst, r, hr, ?_⟩
    rw [headD_map_of_ne_nil idx (hs qc hqc st hst r hr)]

end Vata.CowHeapFA
