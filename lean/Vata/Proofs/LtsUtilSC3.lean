import Vata.Proofs.LtsUtilSC2

/-!
# `SharedCounter` as coded refines a table of numbers (part 3: `init`, `destroy`)
-/
namespace Vata.LU.SC
namespace P

variable {cfg : Cfg} {m : Mem} {cs : List (Option Cnt)} {aw : AWorld} {i : Nat} {c : Cnt} {a : A}


/-- what `init()` does to one row (the decision reads the memory before the call: `reclaim` writes no cell) -/
def keepRow (cfg : Cfg) (m : Mem) (row : Row) : Row :=
  ⟨row.master, row.data.filter fun p => cell m p cfg.rowSize = 1⟩

/-- … and to the allocator: the address goes back unless its count is 1 -/
def initStep (cfg : Cfg) (m : Mem) (row : Row) : Mem :=
  { m with free := (row.data.filter fun p => cell m p cfg.rowSize ≠ 1).toList ++ m.free }

theorem initRows_cons (cfg : Cfg) (m : Mem) (row : Row) (rest : List Row) :
    initRows cfg m (row :: rest) =
      ((initRows cfg (initStep cfg m row) rest).1, keepRow cfg m row :: (initRows cfg (initStep cfg m row) rest).2) := by
  rw [initRows]
  unfold initStep keepRow
  obtain ⟨ms, d⟩ := row
  cases d with
  | none => rfl
  | some p =>
    by_cases h : cell m p cfg.rowSize = 1 <;>
      simp only [Option.filter_some, ne_eq, h, not_true_eq_false, not_false_eq_true, decide_true, decide_false, ↓reduceIte,
        Bool.false_eq_true] <;> rfl

theorem initStep_cells (cfg : Cfg) (m : Mem) (row : Row) : (initStep cfg m row).cells = m.cells := rfl

theorem initStep_next (cfg : Cfg) (m : Mem) (row : Row) : (initStep cfg m row).next = m.next := rfl

theorem initStep_free (cfg : Cfg) (m : Mem) (row : Row) (x : Nat) :
    x ∈ (initStep cfg m row).free ↔ x ∈ m.free ∨ (row.data = some x ∧ cell m x cfg.rowSize ≠ 1) := by
  unfold initStep
  simp only [List.mem_append, Option.mem_toList, Option.filter_eq_some_iff, decide_eq_true_eq]
  exact Or.comm

theorem initStep_nodup (cfg : Cfg) {m : Mem} {row : Row} (h : m.free.Nodup) (hp : ∀ p, row.data = some p → p ∉ m.free) :
    (initStep cfg m row).free.Nodup := by
  unfold initStep
  cases hf : row.data.filter fun p => cell m p cfg.rowSize ≠ 1 with
  | none => exact h
  | some p => exact List.nodup_cons.2 ⟨hp p (Option.filter_eq_some_iff.1 hf).1, h⟩

theorem keepRow_cells {m m' : Mem} (h : m'.cells = m.cells) : keepRow cfg m' = keepRow cfg m := by
  funext row
  unfold keepRow cell
  rw [h]

theorem keepRow_data (cfg : Cfg) (m : Mem) (x : Nat) (row : Row) :
    (keepRow cfg m row).data = some x ↔ row.data = some x ∧ cell m x cfg.rowSize = 1 :=
  Option.filter_eq_some_iff.trans (and_congr_right fun _ => decide_eq_true_iff)

theorem rowRefs_map_keep (cfg : Cfg) (m : Mem) (x : Nat) : ∀ (c : List Row),
    rowRefs x (c.map (keepRow cfg m)) = if cell m x cfg.rowSize = 1 then rowRefs x c else 0
  | [] => by split <;> rfl
  | row :: rest => by
    rw [List.map_cons, rowRefs, rowRefs, rowRefs_map_keep cfg m x rest, ite_cond_congr (propext (keepRow_data cfg m x row))]
    by_cases hc : cell m x cfg.rowSize = 1
    · simp only [hc, and_true, if_true]
    · simp only [hc, and_false, if_false]

/-- what `init()` computes; the free list stays duplicate-free when no dropped row is shared or already free -/
theorem initRows_spec (cfg : Cfg) : ∀ (c : List Row) (m : Mem),
    (initRows cfg m c).2 = c.map (keepRow cfg m) ∧ (initRows cfg m c).1.cells = m.cells ∧
    (initRows cfg m c).1.next = m.next ∧
    (∀ x, x ∈ (initRows cfg m c).1.free ↔ x ∈ m.free ∨ (0 < rowRefs x c ∧ cell m x cfg.rowSize ≠ 1)) ∧
    (m.free.Nodup → (∀ x, rowRefs x c ≤ 1) → (∀ x, x ∈ m.free → rowRefs x c = 0) →
      (initRows cfg m c).1.free.Nodup)
  | [], m => ⟨rfl, rfl, rfl, fun x => ⟨Or.inl, fun h => h.elim id fun h => absurd h.1 (Nat.lt_irrefl 0)⟩, fun h _ _ => h⟩
  | row :: rest, m => by
    obtain ⟨ih1, ih2, ih3, ih4, ih5⟩ := initRows_spec cfg rest (initStep cfg m row)
    have hcells := initStep_cells cfg m row
    rw [initRows_cons]
    refine ⟨by rw [ih1, keepRow_cells hcells]; rfl, ih2.trans hcells, ih3.trans (initStep_next ..), fun x => ?_,
      fun hnd h1 h0 => ih5 (initStep_nodup cfg hnd fun p hd hm => ?_) (fun x => ?_) fun x hx => ?_⟩
    · rw [ih4 x, initStep_free, cell_of_cells hcells, or_assoc, ← or_and_right, rowRefs]
      refine or_congr_right (and_congr_left' ?_)
      by_cases hd : row.data = some x
      · rw [if_pos hd]; exact iff_of_true (Or.inl hd) (Nat.lt_of_lt_of_le Nat.one_pos (Nat.le_add_right ..))
      · rw [if_neg hd, Nat.zero_add]; exact or_iff_right hd
    · have := h0 p hm
      rw [rowRefs, if_pos hd] at this
      exact absurd this (Nat.ne_of_gt (Nat.lt_of_lt_of_le Nat.one_pos (Nat.le_add_right ..)))
    · exact Nat.le_trans (Nat.le_add_left ..) (h1 x)
    · have h1x := h1 x
      rw [rowRefs] at h1x
      rcases (initStep_free cfg m row x).1 hx with hx | ⟨hd, _⟩
      · have := h0 x hx
        rw [rowRefs] at this
        exact Nat.eq_zero_of_add_eq_zero_left this
      · rw [if_pos hd] at h1x
        omega

theorem filling_row_refs (hinv : Inv cfg ⟨m, cs⟩ aw) (hc : cs.getD i none = some c) (ha : aw.getD i none = some a)
    (hph : a.phase = .filling) {x : Nat} (hx : 0 < rowRefs x c) : refs x cs = 1 ∧ rowRefs x c = 1 ∧ x < m.next := by
  obtain ⟨row, hm, hd⟩ := rowRefs_pos_iff.mp hx
  obtain ⟨r, hr⟩ := List.getElem?_of_mem hm
  have hdi := ((hinv.cnt i c a hc ha).rows r row hr).data x hd
  have h1 := (hdi.fill hph).1
  exact ⟨h1, Nat.le_antisymm (h1 ▸ rowRefs_le_refs hc) hx, hdi.lt⟩

theorem init_inv {cfg : Cfg} {m : Mem} {cs : List (Option Cnt)} {aw : AWorld} {i : Nat} {c : Cnt} {a : A}
    (hinv : Inv cfg ⟨m, cs⟩ aw) (hc : cs.getD i none = some c) (ha : aw.getD i none = some a)
    (hph : a.phase = .filling) :
    Inv cfg ⟨(initRows cfg m c).1, cs.set i (some (initRows cfg m c).2)⟩
      (aw.set i (some { a with phase := .running })) := by
  have hold : CntInv cfg m cs c a := hinv.cnt i c a hc ha
  obtain ⟨h1, h2, h3, h4, h5⟩ := initRows_spec cfg c m
  have hnd := h5 hinv.nodup
    (fun x => (Nat.eq_zero_or_pos (rowRefs x c)).elim (fun h => h ▸ Nat.zero_le 1)
      fun hx => Nat.le_of_eq (filling_row_refs hinv hc ha hph hx).2.1)
    (fun x hx => Nat.eq_zero_of_le_zero ((hinv.free x hx).2 ▸ rowRefs_le_refs hc))
  generalize (initRows cfg m c).1 = m' at *
  rw [h1]
  have hrefs : ∀ x, refs x (cs.set i (some (c.map (keepRow cfg m)))) + rowRefs x c =
      refs x cs + (if cell m x cfg.rowSize = 1 then rowRefs x c else 0) := by
    intro x
    have := refs_replace (p := x) (some (c.map (keepRow cfg m))) hc
    rwa [crefs, rowRefs_map_keep] at this
  refine replace_cnt hinv hc (iff_of_false nofun nofun) (Nat.le_of_eq h3.symm) ?_ ?_ hnd ?_
  · intro j cj aj r' rowj p hji hcj haj hrj hdj
    have h0 : rowRefs p c = 0 := by
      refine Nat.eq_zero_of_not_pos fun hx => ?_
      have hp1 := (filling_row_refs hinv hc ha hph hx).1
      obtain ⟨row, hm, hd⟩ := rowRefs_pos_iff.mp hx
      obtain ⟨r, hr⟩ := List.getElem?_of_mem hm
      exact absurd (hp1 ▸ refs_ge_two hc hr hd hcj hrj hdj (Or.inl (Ne.symm hji))) (by decide)
    have hrf := hrefs p
    rw [h0, Nat.add_zero, ite_self, Nat.add_zero] at hrf
    exact ⟨Same.rfl' (by rw [h2]), by rw [cell_of_cells h2, hrf], fun _ => hrf⟩
  · intro c' a' hc' ha'
    cases hc'; cases ha'
    refine ⟨(List.length_map ..).trans hold.len, hold.vlen, nofun, fun r row' hr' => ?_⟩
    rw [List.getElem?_map] at hr'
    obtain ⟨row, hr, rfl⟩ := Option.map_eq_some_iff.1 hr'
    have hrow := hold.rows r row hr
    rw [hph] at hrow
    show RowInv cfg m' _ .running (fun col => a.at (r * cfg.rowSize + col)) (keepRow cfg m row)
    refine ⟨hrow.master, fun hk => ⟨nofun, ?_⟩, fun p hk => ?_⟩
    · -- no address kept: no entry of the row was set, or exactly one was (count 0, the address has gone back)
      cases hd : row.data with
      | none =>
        have hz := sumTo_eq_zero (hrow.master.symm.trans ((hrow.noData hd).1 rfl))
        exact atMostOne_of_zero (j := 0) fun k hk _ => hz k hk
      | some p =>
        have hcell : cell m p cfg.rowSize ≠ 1 := fun h => nomatch hk.symm.trans ((keepRow_data cfg m p row).2 ⟨hd, h⟩)
        exact (((hrow.data p hd).fill rfl).2.2.resolve_left hcell).2
    · obtain ⟨hd, hcell⟩ := (keepRow_data cfg m p row).1 hk
      have hdi := hrow.data p hd
      have hrf := hrefs p
      rw [if_pos hcell] at hrf
      exact .of_running rfl (h3 ▸ hdi.lt) (h2 ▸ hdi.len)
        (fun col hc' hpos => (cell_of_cells h2 ..).trans (hdi.cols col hc' hpos))
        (by rw [cell_of_cells h2, hcell]; exact (hdi.fill rfl).1.symm.trans (Nat.add_right_cancel hrf).symm)
  · intro x hx
    rw [h3]
    have hrf := hrefs x
    rcases (h4 x).mp hx with h | ⟨hpos, hcell⟩
    · have := hinv.free x h
      have h0 : rowRefs x c = 0 := Nat.eq_zero_of_le_zero (this.2 ▸ rowRefs_le_refs hc)
      rw [h0, Nat.add_zero, ite_self, Nat.add_zero] at hrf
      exact ⟨this.1, hrf.trans this.2⟩
    · obtain ⟨g1, g2, g3⟩ := filling_row_refs hinv hc ha hph hpos
      rw [if_neg hcell, g1, g2] at hrf
      exact ⟨g3, Nat.add_right_cancel hrf⟩


theorem destroyRows_cons (cfg : Cfg) (m : Mem) (row : Row) (rest : List Row) :
    destroyRows cfg m (row :: rest) =
      match row.data with
      | none => destroyRows cfg m rest
      | some p => destroyRows cfg (release cfg m p) rest := by
  rw [destroyRows]; cases row.data <;> rfl

/-- the part of the destructor's effect that needs no hypothesis: only reference count cells are written -/
theorem destroyRows_frame (cfg : Cfg) : ∀ (c : List Row) (m : Mem),
    (destroyRows cfg m c).next = m.next ∧ ∀ p, Same cfg m (destroyRows cfg m c) p
  | [], m => ⟨rfl, fun _ => Same.rfl' rfl⟩
  | row :: rest, m => by
    rw [destroyRows_cons]
    cases hd : row.data with
    | none => exact destroyRows_frame cfg rest m
    | some p =>
      obtain ⟨h1, h2⟩ := destroyRows_frame cfg rest (release cfg m p)
      exact ⟨h1.trans (release_next ..), fun x => ⟨(h2 x).1.trans (release_same cfg m p x).1,
        fun col hc => ((h2 x).2 col hc).trans ((release_same cfg m p x).2 col hc)⟩⟩

def DestroyPre (cfg : Cfg) (m : Mem) (c : List Row) : Prop :=
  ∀ p, 0 < rowRefs p c → rowRefs p c ≤ cell m p cfg.rowSize ∧ (m.cells.get p).length = cfg.rowSize + 1 ∧ p ∉ m.free

/-- the count reaches 0 on the way down exactly if it was the number of references given up -/
theorem reach_zero {k n : Nat} (h : 1 + n ≤ k) : (k - 1 = 0 ∨ (0 < n ∧ k - 1 = n)) ↔ (0 < 1 + n ∧ k = 1 + n) := by
  omega

theorem destroyRows_spec (cfg : Cfg) : ∀ (c : List Row) (m : Mem), DestroyPre cfg m c →
    (∀ x, cell (destroyRows cfg m c) x cfg.rowSize = cell m x cfg.rowSize - rowRefs x c) ∧
    (∀ x, x ∈ (destroyRows cfg m c).free ↔ x ∈ m.free ∨ (0 < rowRefs x c ∧ cell m x cfg.rowSize = rowRefs x c)) ∧
    (m.free.Nodup → (destroyRows cfg m c).free.Nodup)
  | [], m, _ => ⟨fun _ => rfl, fun _ => ⟨Or.inl, fun h => h.elim id fun h => absurd h.1 (Nat.lt_irrefl 0)⟩, id⟩
  | row :: rest, m, hpre => by
    rw [destroyRows_cons]
    cases hd : row.data with
    | none =>
      have hrr : ∀ x, rowRefs x (row :: rest) = rowRefs x rest := fun x => by rw [rowRefs, hd, if_neg nofun, Nat.zero_add]
      simp only [hrr]
      exact destroyRows_spec cfg rest m fun p hp => hrr p ▸ hpre p (hrr p ▸ hp)
    | some p =>
      have hrr : ∀ x, rowRefs x (row :: rest) = (if p = x then 1 else 0) + rowRefs x rest := fun x => by
        rw [rowRefs, hd]; simp only [Option.some.injEq]
      have hp := hpre p (by rw [hrr, if_pos rfl]; exact Nat.lt_of_lt_of_le Nat.one_pos (Nat.le_add_right ..))
      rw [hrr, if_pos rfl] at hp
      obtain ⟨hp1, hp2, hp3⟩ := hp
      have hpos : 0 < cell m p cfg.rowSize := Nat.lt_of_lt_of_le (Nat.lt_of_lt_of_le Nat.one_pos (Nat.le_add_right ..)) hp1
      have hcp := release_cnt (hp2 ▸ Nat.lt_succ_self _) hpos
      have hco : ∀ x, x ≠ p → cell (release cfg m p) x cfg.rowSize = cell m x cfg.rowSize :=
        fun x hx => cell_of_get (release_get cfg m p hx) _
      have hfree : ∀ x, x ∈ (release cfg m p).free ↔ x ∈ m.free ∨ (x = p ∧ cell m p cfg.rowSize - 1 = 0) := fun x => by
        rw [release_free, dec64_pos hpos]
      have hpre' : DestroyPre cfg (release cfg m p) rest := by
        intro x hx
        obtain ⟨h1, h2, h3⟩ := hpre x (Nat.lt_of_lt_of_le hx (Nat.le_add_left ..))
        refine ⟨?_, (release_same cfg m p x).1.trans h2, fun hm => ?_⟩
        · rw [hrr] at h1
          by_cases hxp : x = p
          · subst hxp; rw [hcp]; omega
          · rwa [if_neg (Ne.symm hxp), Nat.zero_add, ← hco x hxp] at h1
        · rcases (hfree x).1 hm with h | ⟨h, h0⟩
          · exact h3 h
          · subst h; omega
      obtain ⟨ih1, ih2, ih3⟩ := destroyRows_spec cfg rest (release cfg m p) hpre'
      refine ⟨fun x => ?_, fun x => ?_, fun hnd => ih3 (release_nodup cfg m p hnd hp3)⟩
      · rw [ih1 x, hrr]
        by_cases hxp : x = p
        · subst hxp; rw [hcp, if_pos rfl, Nat.sub_sub]
        · rw [hco x hxp, if_neg (Ne.symm hxp), Nat.zero_add]
      · rw [ih2 x, hrr, hfree]
        by_cases hxp : x = p
        · subst hxp
          rw [hcp, if_pos rfl, or_assoc, and_iff_right rfl, reach_zero hp1]
        · rw [hco x hxp, if_neg (Ne.symm hxp), Nat.zero_add,
            show (x ∈ m.free ∨ x = p ∧ cell m p cfg.rowSize - 1 = 0) ↔ x ∈ m.free from or_iff_left fun h => hxp h.1]

theorem running_row_refs (hinv : Inv cfg ⟨m, cs⟩ aw) (hc : cs.getD i none = some c) (ha : aw.getD i none = some a)
    (hph : a.phase ≠ .filling) {x : Nat} (hx : 0 < rowRefs x c) :
    cell m x cfg.rowSize = refs x cs ∧ rowRefs x c ≤ refs x cs ∧ x < m.next ∧
      (m.cells.get x).length = cfg.rowSize + 1 := by
  obtain ⟨row, hm, hd⟩ := rowRefs_pos_iff.mp hx
  obtain ⟨r, hr⟩ := List.getElem?_of_mem hm
  have hdi := ((hinv.cnt i c a hc ha).rows r row hr).data x hd
  have hrun : a.phase = .running := by
    cases hp : a.phase with
    | fresh => exact absurd hp hdi.notFresh
    | filling => exact absurd hp hph
    | running => rfl
  exact ⟨hdi.run hrun, rowRefs_le_refs hc, hdi.lt, hdi.len⟩

theorem destroy_inv (hinv : Inv cfg ⟨m, cs⟩ aw) (hc : cs.getD i none = some c) (ha : aw.getD i none = some a)
    (hph : a.phase ≠ .filling) :
    Inv cfg ⟨destroyRows cfg m c, cs.set i none⟩ (aw.set i none) := by
  have hrun := fun x hx => running_row_refs (x := x) hinv hc ha hph hx
  have hpre : DestroyPre cfg m c := fun p hp =>
    ⟨(hrun p hp).1 ▸ (hrun p hp).2.1, (hrun p hp).2.2.2,
      hinv.free_not_ref (w := ⟨m, cs⟩) (Nat.lt_of_lt_of_le hp (hrun p hp).2.1)⟩
  obtain ⟨f1, f2⟩ := destroyRows_frame cfg c m
  obtain ⟨s1, s2, s3⟩ := destroyRows_spec cfg c m hpre
  have hrefs : ∀ x, refs x (cs.set i none) + rowRefs x c = refs x cs := fun x => refs_replace (p := x) none hc
  refine replace_cnt hinv hc (iff_of_true rfl rfl) (Nat.le_of_eq f1.symm) ?_ nofun (s3 hinv.nodup) ?_
  · intro j cj aj r' rowj p hji hcj haj hrj hdj
    have hrf := hrefs p
    have hle : rowRefs p c ≤ cell m p cfg.rowSize :=
      (Nat.eq_zero_or_pos (rowRefs p c)).elim (fun h => h ▸ Nat.zero_le _) fun h => (hpre p h).1
    refine ⟨f2 p, by rw [s1 p]; omega, fun hfill => ?_⟩
    have h1 : refs p cs = 1 := ((((hinv.cnt j cj aj hcj haj).rows r' rowj hrj).data p hdj).fill hfill).1
    have h2 : 0 < refs p (cs.set i none) := refs_pos_of_get ((getD_set_ne _ hji ..).trans hcj) hrj hdj
    omega
  · intro x hx
    rw [f1]
    have hrf := hrefs x
    rcases (s2 x).mp hx with h | ⟨h1, h2⟩
    · have : x < m.next ∧ refs x cs = 0 := hinv.free x h
      exact ⟨this.1, by omega⟩
    · obtain ⟨g1, _, g3, _⟩ := hrun x h1
      exact ⟨g3, by omega⟩

end P
end Vata.LU.SC
