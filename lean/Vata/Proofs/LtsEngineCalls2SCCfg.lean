import Vata.LtsEngineCalls2
import Vata.Proofs.LtsUtilLayout
import Vata.Proofs.LtsEngineInit
/-! # The key layout `scCfg L poison` of the engine: the facts the `SharedCounter` discipline proof needs -/
namespace Vata.LEC2
open Vata.L Vata.LE Vata.LU

/-- `key_[a * states + q]` -/
def kx (cfg : SC.Cfg) (a q : Nat) : Nat := cfg.key.getD (a * cfg.states + q) 0
/-- `labelMap_[a]` -/
def lm (cfg : SC.Cfg) (a : Nat) : Nat × Nat := cfg.labelMap.getD a (0, 0)

structure CfgOK (L : LTS) (cfg : SC.Cfg) : Prop where
  rs : 0 < cfg.rowSize
  lmlen : cfg.labelMap.length = labels L
  key : ∀ a q, a < labels L → q < L.n → SC.keyIdx cfg a q = some (kx cfg a q)
  inj : ∀ a q a' q', a < labels L → a' < labels L → q ∈ delta1 L a → q' ∈ delta1 L a' →
    kx cfg a q = kx cfg a' q' → a = a' ∧ q = q'
  rng : ∀ a q, a < labels L → q ∈ delta1 L a →
    (lm cfg a).1 ≤ kx cfg a q / cfg.rowSize ∧ kx cfg a q / cfg.rowSize < (lm cfg a).2


theorem getRowSize_go_ge (t : Nat) : ∀ (fuel r : Nat), r ≤ SC.getRowSize.go t fuel r := by
  intro fuel
  induction fuel with
  | zero => intro r; exact Nat.le_refl _
  | succ f ih =>
    intro r
    simp only [SC.getRowSize.go]
    split
    · exact Nat.le_trans (by omega) (ih (r * 2))
    · exact Nat.le_refl _

theorem getRowSize_pos (n : Nat) : 0 < SC.getRowSize n := by
  have := getRowSize_go_ge (Nat.sqrt n / 2) 64 32
  unfold SC.getRowSize
  simp only
  omega

def dsOf (L : LTS) : List (List Nat) := (List.range (labels L)).map (delta1 L)

theorem dsOf_length (L : LTS) : (dsOf L).length = labels L := by simp [dsOf]

theorem dsOf_getD (L : LTS) {a : Nat} (ha : a < labels L) : (dsOf L).getD a [] = delta1 L a := by
  simp [dsOf, List.getD_eq_getElem?_getD, ha]

theorem dsOf_hd (L : LTS) : ∀ d ∈ dsOf L, d.Nodup ∧ ∀ q ∈ d, q < L.n := by
  intro d hd
  simp only [dsOf, List.mem_map] at hd
  obtain ⟨a, _, rfl⟩ := hd
  exact ⟨nodup_delta1 L a, fun q hq => ((mem_delta1 L a q).mp hq).1⟩

theorem delta1_length_le (L : LTS) (a : Nat) : (delta1 L a).length ≤ L.n := by
  unfold delta1
  have := List.length_filter_le (hasOut L a) (List.range L.n)
  simpa using this

theorem off_mono_strict (ds : List (List Nat)) {a : Nat} :
    ∀ (a' : Nat), a < a' → a' ≤ ds.length → SC.Layout.off ds a + (ds.getD a []).length ≤ SC.Layout.off ds a' := by
  intro a'
  induction a' with
  | zero => intro h; cases h
  | succ b ih =>
    intro hab hb
    have hb' : b < ds.length := by omega
    rw [SC.Layout.off_succ ds b hb']
    rcases Nat.lt_succ_iff_lt_or_eq.1 hab with h | h
    · have := ih h (by omega); omega
    · subst h; exact Nat.le_refl _

theorem off_le_mul (ds : List (List Nat)) (n : Nat) (hlen : ∀ d ∈ ds, d.length ≤ n) :
    ∀ a, a ≤ ds.length → SC.Layout.off ds a ≤ a * n := by
  intro a
  induction a with
  | zero => intro _; simp [SC.Layout.off]
  | succ b ih =>
    intro hb
    have hb' : b < ds.length := by omega
    rw [SC.Layout.off_succ ds b hb', Nat.add_mul, Nat.one_mul]
    have h1 := ih (by omega)
    have h2 := hlen _ (getD_mem [] ds b hb')
    omega

theorem kx_scCfg (L : LTS) (poison : Nat) {a q : Nat} (ha : a < labels L) (hq : q ∈ delta1 L a) :
    kx (scCfg L poison) a q = SC.Layout.off (dsOf L) a + (delta1 L a).idxOf q := by
  have hlt : (delta1 L a).idxOf q < ((dsOf L).getD a []).length := by
    rw [dsOf_getD L ha]; exact List.idxOf_lt_length_of_mem hq
  have := SC.Layout.layout_key (rowSize := SC.getRowSize L.n) (dsOf_hd L) (a := a) (j := (delta1 L a).idxOf q)
    (by rw [dsOf_length]; exact ha) hlt
  rw [dsOf_getD L ha, getD_idxOf hq 0] at this
  exact this

theorem off_small (L : LTS) {a : Nat} (ha : a < labels L) :
    SC.Layout.off (dsOf L) a + (delta1 L a).length ≤ labels L * L.n := by
  have h := off_le_mul (dsOf L) L.n (fun d hd => by
    simp only [dsOf, List.mem_map] at hd
    obtain ⟨b, _, rfl⟩ := hd
    exact delta1_length_le L b) (a + 1) (by rw [dsOf_length]; omega)
  rw [SC.Layout.off_succ _ _ (by rw [dsOf_length]; exact ha), dsOf_getD L ha] at h
  have : (a + 1) * L.n ≤ labels L * L.n := Nat.mul_le_mul_right _ ha
  omega

theorem scCfg_ok (L : LTS) (poison : Nat) (hsmall : labels L * L.n < 2 ^ 64) : CfgOK L (scCfg L poison) := by
  refine ⟨getRowSize_pos L.n, ?_, ?_, ?_, ?_⟩
  · show (SC.mkLayout (SC.getRowSize L.n) L.n (dsOf L)).2.length = labels L
    rw [SC.Layout.layout_labelMap_length (dsOf_hd L), dsOf_length]
  · intro a q ha hq
    have hlen : (scCfg L poison).key.length = labels L * L.n := by
      show (SC.mkLayout (SC.getRowSize L.n) L.n (dsOf L)).1.length = labels L * L.n
      rw [SC.Layout.layout_key_length _ _ (dsOf_hd L), dsOf_length]
    have hst : (scCfg L poison).states = L.n := rfl
    have hb : a * (scCfg L poison).states + q < (scCfg L poison).key.length := by
      rw [hlen, hst]; exact SC.Layout.mul_add_lt ha hq
    have hrs : 0 < (scCfg L poison).rowSize := getRowSize_pos L.n
    unfold SC.keyIdx
    rw [if_pos ⟨hb, hrs⟩]
    rfl
  · intro a q a' q' ha ha' hq hq' hk
    rw [kx_scCfg L poison ha hq, kx_scCfg L poison ha' hq'] at hk
    have hj : (delta1 L a).idxOf q < (delta1 L a).length := List.idxOf_lt_length_of_mem hq
    have hj' : (delta1 L a').idxOf q' < (delta1 L a').length := List.idxOf_lt_length_of_mem hq'
    have haa : a = a' := by
      rcases Nat.lt_trichotomy a a' with h | h | h
      · have := off_mono_strict (dsOf L) a' h (by rw [dsOf_length]; omega)
        rw [dsOf_getD L ha] at this
        omega
      · exact h
      · have := off_mono_strict (dsOf L) a h (by rw [dsOf_length]; omega)
        rw [dsOf_getD L ha'] at this
        omega
    subst haa
    exact ⟨rfl, idxOf_inj hq (by omega)⟩
  · intro a q ha hq
    rw [kx_scCfg L poison ha hq]
    have hlt : (delta1 L a).idxOf q < ((dsOf L).getD a []).length := by
      rw [dsOf_getD L ha]; exact List.idxOf_lt_length_of_mem hq
    have hs : SC.Layout.off (dsOf L) a + ((dsOf L).getD a []).length < 2 ^ 64 := by
      rw [dsOf_getD L ha]
      have := off_small L ha
      omega
    exact SC.Layout.layout_row_in_range (rowSize := SC.getRowSize L.n) (dsOf_hd L)
      (by rw [dsOf_length]; exact ha) hlt hs

end Vata.LEC2
