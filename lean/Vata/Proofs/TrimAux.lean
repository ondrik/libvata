import Vata.Trim
import Vata.Proofs.ListFacts
import Vata.Proofs.RunBridge
import Vata.Proofs.Closure
import Vata.Proofs.Rounds
/-!
# Sets as lists, the states of an automaton, and the two trimming iterations

The membership and `Nodup` facts of `ins`, `unionL`, `dedupL` (`Vata/Ref.lean`) and of `A.states` (`mem_states`), which the
whole development uses.  `prodIter` and `tdIter` are round loops (`Vata/Proofs/Rounds.lean`); the counting argument
(`inCount`) shows that `|rules| + 1` rounds always reach the fixed point.
-/
namespace Vata

theorem mem_ins {x y : Nat} {l : List Nat} : y ∈ ins x l ↔ y ∈ l ∨ y = x := mem_insNew

theorem nodup_ins {x : Nat} {l : List Nat} (h : l.Nodup) : (ins x l).Nodup := nodup_insNew h

theorem length_ins_le (x : Nat) (l : List Nat) : l.length ≤ (ins x l).length := by
  unfold ins
  split
  · exact Nat.le_refl _
  · simp

theorem mem_of_length_ins {x : Nat} {l : List Nat} (h : (ins x l).length = l.length) : x ∈ l := by
  unfold ins at h
  split at h
  · rename_i h'; exact List.contains_iff_mem.mp h'
  · simp at h

theorem ins_of_mem {x : Nat} {l : List Nat} (h : x ∈ l) : ins x l = l := by
  unfold ins
  rw [if_pos (List.contains_iff_mem.mpr h)]

theorem unionL_cons (S : List Nat) (x : Nat) (l : List Nat) : unionL S (x :: l) = unionL (ins x S) l := by
  simp [unionL, List.foldl_cons]

theorem unionL_nil (S : List Nat) : unionL S [] = S := rfl

theorem mem_unionL {S l : List Nat} {y : Nat} : y ∈ unionL S l ↔ y ∈ S ∨ y ∈ l := mem_foldl_insNew l S

theorem nodup_unionL (l : List Nat) {S : List Nat} (h : S.Nodup) : (unionL S l).Nodup := nodup_foldl_insNew l h

theorem nodup_dedupL (l : List Nat) : (dedupL l).Nodup := nodup_unionL l List.nodup_nil

theorem length_unionL_le (S l : List Nat) : S.length ≤ (unionL S l).length := by
  induction l generalizing S with
  | nil => exact Nat.le_refl _
  | cons x l ih =>
    rw [unionL_cons]
    exact Nat.le_trans (length_ins_le x S) (ih (ins x S))

theorem unionL_of_sub {S l : List Nat} (h : ∀ x, x ∈ l → x ∈ S) : unionL S l = S := by
  induction l generalizing S with
  | nil => rfl
  | cons y l ih =>
    rw [unionL_cons, ins_of_mem (h y List.mem_cons_self)]
    exact ih (fun x hx => h x (List.mem_cons_of_mem _ hx))

theorem mem_of_length_unionL {S l : List Nat} (h : (unionL S l).length = S.length) : ∀ x, x ∈ unionL S l → x ∈ S := by
  induction l generalizing S with
  | nil => exact fun x hx => hx
  | cons y l ih =>
    rw [unionL_cons] at h ⊢
    have hy : y ∈ S := mem_of_length_ins (Nat.le_antisymm (h ▸ length_unionL_le (ins y S) l) (length_ins_le y S))
    rw [ins_of_mem hy] at h ⊢
    exact ih h

theorem exists_new_of_length_unionL {S l : List Nat} (h : (unionL S l).length ≠ S.length) :
    ∃ x, x ∈ unionL S l ∧ x ∉ S := by
  apply Classical.byContradiction
  intro hn
  apply h
  rw [unionL_of_sub]
  intro x hx
  apply Classical.byContradiction
  intro hx'
  exact hn ⟨x, mem_unionL.mpr (Or.inr hx), hx'⟩

theorem mem_dedupL {l : List Nat} {y : Nat} : y ∈ dedupL l ↔ y ∈ l := by
  unfold dedupL
  rw [mem_unionL]
  simp

theorem mem_states {A : TA} {q : Nat} : q ∈ A.states ↔ Occurs A q := by
  unfold TA.states Occurs
  rw [mem_dedupL, List.mem_append, List.mem_flatMap]
  constructor
  · rintro (⟨r, hr, hq⟩ | h)
    · right
      refine ⟨r, hr, ?_⟩
      rcases List.mem_cons.mp hq with h | h
      · exact Or.inl h.symm
      · exact Or.inr h
    · exact Or.inl h
  · rintro (h | ⟨r, hr, h⟩)
    · exact Or.inr h
    · left
      refine ⟨r, hr, ?_⟩
      unfold Rule.states
      rcases h with h | h
      · rw [h]; exact List.mem_cons_self
      · exact List.mem_cons_of_mem _ h

theorem rulesSub_iff {R₁ R₂ : List Rule} : rulesSub R₁ R₂ = true ↔ ∀ r, r ∈ R₁ → r ∈ R₂ := by
  simp only [rulesSub, List.all_eq_true, List.contains_iff_mem]

theorem rulesEq_iff {R₁ R₂ : List Rule} : rulesEq R₁ R₂ = true ↔ ∀ r, r ∈ R₁ ↔ r ∈ R₂ := by
  simp only [rulesEq, Bool.and_eq_true, rulesSub_iff]
  exact ⟨fun ⟨h1, h2⟩ r => ⟨h1 r, h2 r⟩, fun h => ⟨fun r => (h r).1, fun r => (h r).2⟩⟩

theorem parent_mem_states {A : TA} {r : Rule} (hr : r ∈ A.rules) : r.parent ∈ A.states :=
  mem_states.mpr (Or.inr ⟨r, hr, Or.inl rfl⟩)

theorem kid_mem_states {A : TA} {r : Rule} (hr : r ∈ A.rules) {k : Nat} (hk : k ∈ r.kids) : k ∈ A.states :=
  mem_states.mpr (Or.inr ⟨r, hr, Or.inr hk⟩)

theorem final_mem_states {A : TA} {q : Nat} (hq : q ∈ A.final) : q ∈ A.states := mem_states.mpr (Or.inl hq)

/-- the measure: number of rules all of whose states are in `S` -/
def inCount (Rs : List Rule) (S : List Nat) : Nat :=
  Rs.countP (fun r => S.contains r.parent && r.kids.all (fun k => S.contains k))

theorem inCount_le (Rs : List Rule) (S : List Nat) : inCount Rs S ≤ Rs.length := List.countP_le_length

theorem inCount_iff {S : List Nat} {r : Rule} :
    (S.contains r.parent && r.kids.all (fun k => S.contains k)) = true ↔ r.parent ∈ S ∧ ∀ k, k ∈ r.kids → k ∈ S := by
  simp only [Bool.and_eq_true, List.contains_iff_mem, List.all_eq_true]

theorem inCount_lt {Rs : List Rule} {S S' : List Nat} (hsub : ∀ x, x ∈ S → x ∈ S')
    (hnew : ∃ r, r ∈ Rs ∧ r.parent ∈ S' ∧ (∀ k, k ∈ r.kids → k ∈ S') ∧ ¬ (r.parent ∈ S ∧ ∀ k, k ∈ r.kids → k ∈ S)) :
    inCount Rs S < inCount Rs S' := by
  obtain ⟨r, hr, h1, h2, h3⟩ := hnew
  refine countP_lt_of_new (fun r _ h => ?_) ⟨r, hr, inCount_iff.mpr ⟨h1, h2⟩, fun h => h3 (inCount_iff.mp h)⟩
  obtain ⟨h1, h2⟩ := inCount_iff.mp h
  exact inCount_iff.mpr ⟨hsub _ h1, fun k hk => hsub _ (h2 k hk)⟩

theorem mem_prodStep {A : TA} {P : List Nat} {q : Nat} :
    q ∈ prodStep A P ↔ q ∈ P ∨ ∃ r, r ∈ A.rules ∧ (∀ k, k ∈ r.kids → k ∈ P) ∧ r.parent = q := by
  unfold prodStep
  rw [mem_unionL]
  simp only [List.mem_map, List.mem_filter, List.all_eq_true, List.contains_iff_mem, and_assoc]

theorem prodStep_sub (A : TA) (P : List Nat) : ∀ x, x ∈ P → x ∈ prodStep A P :=
  fun _ hx => mem_prodStep.mpr (Or.inl hx)

theorem prodClosed_of_length {A : TA} {P : List Nat} (h : (prodStep A P).length = P.length) : ProdClosed A P :=
  fun r hr hk => mem_of_length_unionL h _ (mem_prodStep.mpr (Or.inr ⟨r, hr, hk, rfl⟩))

theorem prodStep_inc {A : TA} {P : List Nat} (h : (prodStep A P).length ≠ P.length) :
    inCount A.rules P < inCount A.rules (prodStep A P) := by
  obtain ⟨x, hx, hxP⟩ := exists_new_of_length_unionL h
  rcases mem_prodStep.mp hx with hx' | ⟨r, hr, hk, rfl⟩
  · exact absurd hx' hxP
  · exact inCount_lt (prodStep_sub A P) ⟨r, hr, hx, fun k hk' => prodStep_sub A P k (hk k hk'), fun h => hxP h.1⟩

theorem prodIter_closed (A : TA) (n : Nat) (P : List Nat) (h : A.rules.length < n + inCount A.rules P) :
    ProdClosed A (prodIter A n P) :=
  prodClosed_of_length
    (Rounds.fixes (iter := prodIter A) (inCount A.rules) A.rules.length (inCount_le A.rules) (fun _ => prodStep_inc) n P h)

/-- `|rules| + 1` rounds suffice: the result is closed under the rules -/
theorem prodStates_closed (A : TA) : ProdClosed A (prodStates A) := by
  unfold prodStates
  exact prodIter_closed A _ _ (Nat.lt_add_right _ (Nat.lt_succ_self _))

theorem not_or_eq_true {a b : Bool} : (!a || b) = true ↔ (a = true → b = true) := by
  cases a <;> simp

theorem isProdClosedB_iff {A : TA} {P : List Nat} : isProdClosedB A P = true ↔ ProdClosed A P := by
  simp only [isProdClosedB, ProdClosed, List.all_eq_true, not_or_eq_true, List.contains_iff_mem]

theorem exists_trees (A : TA) (ks : List Nat) (h : ∀ k, k ∈ ks → Productive A k) :
    ∃ ts, matchKids ks (reachL A ts) = true := by
  induction ks with
  | nil => exact ⟨[], rfl⟩
  | cons k ks ih =>
    obtain ⟨t, ht⟩ := h k List.mem_cons_self
    obtain ⟨ts, hts⟩ := ih (fun k' hk' => h k' (List.mem_cons_of_mem _ hk'))
    exact ⟨t :: ts, matchKids_reachL_cons.mpr ⟨ht, hts⟩⟩

theorem productive_of_rule {A : TA} {r : Rule} (hr : r ∈ A.rules) (hk : ∀ k, k ∈ r.kids → Productive A k) :
    Productive A r.parent := by
  obtain ⟨ts, hts⟩ := exists_trees A r.kids hk
  refine ⟨.node r.sym ts, ?_⟩
  rw [reach, mem_post']
  exact ⟨r, hr, rfl, hts, rfl⟩

/-- the induction principle of the computed set: what the rules preserve holds of every state of `prodStates A` -/
theorem prodStates_least {A : TA} {S : Nat → Prop} (hS : ∀ r, r ∈ A.rules → (∀ k, k ∈ r.kids → S k) → S r.parent) :
    ∀ q, q ∈ prodStates A → S q :=
  Rounds.inv (iter := prodIter A) (stop := fun P => (prodStep A P).length == P.length) (fun P => ∀ q, q ∈ P → S q)
    (fun P h q hq => (mem_prodStep.mp hq).elim (h q) fun ⟨r, hr, hk, hp⟩ => hp ▸ hS r hr fun k hk' => h k (hk k hk')) _ _
    fun _ h => nomatch h

theorem prodStates_sound (A : TA) : ∀ q, q ∈ prodStates A → Productive A q :=
  prodStates_least fun _ hr hk => productive_of_rule hr hk

def TdClosed (Rs : List Rule) (S : List Nat) : Prop := ∀ r, r ∈ Rs → r.parent ∈ S → ∀ k, k ∈ r.kids → k ∈ S

theorem mem_tdStep {Rs : List Rule} {S : List Nat} {q : Nat} :
    q ∈ tdStep Rs S ↔ q ∈ S ∨ ∃ r, r ∈ Rs ∧ r.parent ∈ S ∧ q ∈ r.kids := by
  unfold tdStep
  rw [mem_unionL]
  simp only [List.mem_flatMap, List.mem_filter, List.contains_iff_mem, and_assoc]

theorem tdStep_sub (Rs : List Rule) (S : List Nat) : ∀ x, x ∈ S → x ∈ tdStep Rs S :=
  fun _ hx => mem_tdStep.mpr (Or.inl hx)

theorem tdClosed_of_length {Rs : List Rule} {S : List Nat} (h : (tdStep Rs S).length = S.length) : TdClosed Rs S :=
  fun r hr hp _ hk => mem_of_length_unionL h _ (mem_tdStep.mpr (Or.inr ⟨r, hr, hp, hk⟩))

theorem tdStep_inc {Rs : List Rule} {S : List Nat} (h : (tdStep Rs S).length ≠ S.length) :
    inCount Rs S < inCount Rs (tdStep Rs S) := by
  obtain ⟨x, hx, hxS⟩ := exists_new_of_length_unionL h
  rcases mem_tdStep.mp hx with hx' | ⟨r, hr, hp, hk⟩
  · exact absurd hx' hxS
  · exact inCount_lt (tdStep_sub Rs S) ⟨r, hr, tdStep_sub Rs S _ hp,
      fun k hk' => mem_tdStep.mpr (Or.inr ⟨r, hr, hp, hk'⟩), fun h => hxS (h.2 x hk)⟩

theorem tdIter_closed (Rs : List Rule) (n : Nat) (S : List Nat) (h : Rs.length < n + inCount Rs S) :
    TdClosed Rs (tdIter Rs n S) :=
  tdClosed_of_length (Rounds.fixes (iter := tdIter Rs) (inCount Rs) Rs.length (inCount_le Rs) (fun _ => tdStep_inc) n S h)

theorem tdIter_sub (Rs : List Rule) (n : Nat) (S : List Nat) : ∀ x, x ∈ S → x ∈ tdIter Rs n S :=
  Rounds.inv (iter := tdIter Rs) (stop := fun S => (tdStep Rs S).length == S.length) (fun S' => ∀ x, x ∈ S → x ∈ S')
    (fun S' h x hx => tdStep_sub Rs S' x (h x hx)) n S (fun _ h => h)

/-- `|rules| + 1` rounds suffice: the result is closed under the rules -/
theorem tdReach_closed (A : TA) : TdClosed A.rules (tdReach A) := by
  unfold tdReach
  exact tdIter_closed _ _ _ (Nat.lt_add_right _ (Nat.lt_succ_self _))

theorem tdReach_final (A : TA) : ∀ q, q ∈ A.final → q ∈ tdReach A := by
  intro q hq
  unfold tdReach
  exact tdIter_sub _ _ _ q (mem_dedupL.mpr hq)

theorem isTdClosedB_iff {Rs : List Rule} {S : List Nat} : isTdClosedB Rs S = true ↔ TdClosed Rs S := by
  simp only [isTdClosedB, TdClosed, List.all_eq_true, not_or_eq_true, List.contains_iff_mem]

theorem tdReach_least {A : TA} {S : Nat → Prop} (hf : ∀ q, q ∈ A.final → S q)
    (hc : ∀ r, r ∈ A.rules → S r.parent → ∀ k, k ∈ r.kids → S k) : ∀ q, q ∈ tdReach A → S q :=
  Rounds.inv (iter := tdIter A.rules) (stop := fun S => (tdStep A.rules S).length == S.length) (fun P => ∀ q, q ∈ P → S q)
    (fun P h q hq => (mem_tdStep.mp hq).elim (h q) fun ⟨r, hr, hp, hk⟩ => hc r hr (h _ hp) q hk) _ _
    fun q hq => hf q (mem_dedupL.mp hq)

theorem tdReach_sound (A : TA) : ∀ q, q ∈ tdReach A → TdReachable A q :=
  tdReach_least (fun _ => .final) fun _ hr hp _ hk => .step hr hp hk

theorem tdReachable_least {A : TA} {S : Nat → Prop} (hf : ∀ q, q ∈ A.final → S q)
    (hc : ∀ r, r ∈ A.rules → S r.parent → ∀ k, k ∈ r.kids → S k) : ∀ q, TdReachable A q → S q := by
  intro q h
  induction h with
  | final hq => exact hf _ hq
  | step hr _ hk ih => exact hc _ hr ih _ hk

theorem tdReachable_sub_closed {A : TA} {S : List Nat} (hf : ∀ q, q ∈ A.final → q ∈ S) (hc : TdClosed A.rules S) :
    ∀ q, TdReachable A q → q ∈ S :=
  tdReachable_least hf hc

/-- `k` is a child of a rule of `p` -/
def tdE (A : TA) (p k : Nat) : Prop := ∃ r, r ∈ A.rules ∧ r.parent = p ∧ k ∈ r.kids

theorem lfp_tdReach (A : TA) : Closure.Lfp (Closure.reachC (· ∈ A.final) (tdE A)) (· ∈ tdReach A) :=
  Closure.lfp_reach (tdReach_final A) (fun _ c ⟨r, hr, hp, hk⟩ h => tdReach_closed A r hr (hp ▸ h) c hk)
    fun _ hI hE => tdReach_least hI fun r hr hp k hk => hE _ k ⟨r, hr, rfl, hk⟩ hp

theorem mem_rules_restrict {A : TA} {P : List Nat} {r : Rule} :
    r ∈ (restrict A P).rules ↔ r ∈ A.rules ∧ r.parent ∈ P ∧ ∀ k, k ∈ r.kids → k ∈ P := by
  simp only [restrict, List.mem_filter, Bool.and_eq_true, List.contains_iff_mem, List.all_eq_true]

theorem mem_final_restrict {A : TA} {P : List Nat} {q : Nat} : q ∈ (restrict A P).final ↔ q ∈ A.final ∧ q ∈ P := by
  simp only [restrict, List.mem_filter, List.contains_iff_mem]

theorem mem_rules_removeUnreachable {A : TA} {r : Rule} :
    r ∈ (removeUnreachable A).rules ↔ r ∈ A.rules ∧ r.parent ∈ tdReach A := by
  simp only [removeUnreachable, List.mem_filter, List.contains_iff_mem]

end Vata
