import Vata.Proofs.FunctorCachesDownRun
import Vata.Properties.C01
import Vata.Properties.C07
import Vata.Properties.CacheWiring
/-!
# C01 / C07 – the address-keyed caches of the recursive DOWNWARD inclusion algorithm are transparent (library's deleter)

Property text served: C01 "each implemented inclusion algorithm of the explicit encoding returns true exactly when …" and C07
(the same for the BDD encodings) – for the selections `ANTICHAINS_DOWN_REC_NOSIM` / `ANTICHAINS_DOWN_REC_SIM`.  The models
`inclDownRec` / `inclDownSim` behind `C01_downward_rec_model_exact`, `C01_downward_sim_exact`, `C07_td_downward_models_exact`
compare macro-states BY VALUE.  The code (`src/tree_incl_down.hh`, `src/down_tree_incl_fctor.hh`) interns them in
`biggerTypeCache` (a `Util::Cache`: objects held by `shared_ptr`s, they DIE, the allocator may hand out their address again)
and memoises the set comparison in `lteCache`, a `Util::CachedBinaryOp` keyed by the ADDRESSES of two interned sets; the deleter
handed to `biggerTypeCache` calls `lteCache.invalidateFirst(v); lteCache.invalidateSecond(v)`.

## How the C++ is read into the model (`Vata/FunctorCachesDown.lean`)

* `FCD.runC o w pick A B fuel` is `CheckDownwardTreeInclusion<Aut, DownwardInclusionFunctor, Rel>` as coded: the loop over the
  final states of the smaller automaton (`rootLoopC`), `DownwardInclusionFunctor::expand` (`expandC`: `isInWorkset`,
  `isNoninclusionImplied`, `isImpliedByChildren`, `IsImpliedByPreorder`, `workset_.insert`, the inner functor's `operator()`
  – `bodyC`, the same control flow as `InclDown.body` –, `processFoundInclusion` / `processFoundNoninclusion`), with
  `workset_`, `childrenCache_`, `nonIncl_` holding pairs (state, ADDRESS) and every `smallerComparer_` / `biggerComparer_` call
  going through pointer equality and `lteCache.lookup` (`hLteO`), in the order in which `isInWorkset`,
  `Antichain2Cv2::contains` and `Antichain2Cv2::refine` make them, stopping where they stop (`findC`, `refC`).
* `o : InclDown.Ord` is the preorder argument (`idOrd` = `Util::Identity`, `NOSIM`; `ordOf R A B` = the simulation, `SIM`);
  `w : CM.Wiring` is what the deleter does (`.lib` = the code; `Vata.CacheWiring.cache_wiring_is_lib` proves that the deleter
  regenerated from `src/tree_incl_down.hh` denotes it; `.firstTwice` = the seeded change `invalidateFirst` twice);
  `pick` is the allocator: which address a new macro-state gets given the live ones (every allocator is some `pick`).
* heap, allocator, deaths: `FCU.Heap`, `FCU.hLookup`, `FCU.hCollect` of `Vata/FunctorCachesUp.lean`, as they are.
  Reference counting is modelled by its effect, at the two points of `expand` where handles are dropped: after
  `processFoundInclusion` / `processFoundNoninclusion` the sets of the pairs `refine` erased die (roots: the work-set, `key`, the
  `childrenCache_`s of all functors on the stack including `innerFctor`, `nonIncl_`), and when `expand` has returned the temporary
  argument, `key` and the `childrenCache_` of `innerFctor` are gone (`wrapC`).  A death in the middle of `refine` removes the
  entries of the dead address only, the remaining comparisons are about objects that stay alive and no object is created
  before the `hCollect`, so the heap and `lteCache` are the same as with the deaths one by one.  In
  `CheckDownwardTreeInclusion` the temporary `biggerTypeCache.lookup(finalStatesBigger)` dies at the end of the `if`.
* instantiations covered: the template is shared; `Aut = ExplicitTreeAutCore` (C01: `src/explicit_tree_incl.cc`, cases
  `ANTICHAINS_DOWN_REC_NOSIM`, `ANTICHAINS_DOWN_REC_SIM`) and `Aut = BDDTDTreeAutCore` (C07: `src/bdd_td_tree_aut_incl.cc`, the same
  two cases) differ only in `Aut::ForeachDownSymbolFromStateAndStateSetDo`, which both `InclDown` and this model read as "for
  every symbol/arity of the rules of the state" (see C07 "not yet proved" for that reading).  Theorems named `C01_…` are
  stated on `TA` and hold for both; `C07_td_downward_caches_transparent` restates the result in the form of
  `C07_td_downward_models_exact`.

## What is abstracted

Iteration orders of the hash containers (`workset_` is an `unordered_multimap`, the antichains are maps of lists: list order
here, as in `InclDown`); the `shared_ptr` counters (see above; their mechanics are `Vata/CacheModel.lean`, `Util_Cache_*`);
the ghost data of `InclDown` (witness trees, the set `trues`) is carried along by value.
-/
namespace Vata.Props
open Vata.InclDown Vata.FCD Vata.CM
open Vata.FCU (Heap hval pickLeast)

/-- **`biggerTypeCache` and `lteCache` are transparent for the recursive downward algorithm – for every allocator.**
With the library's deleter, `CheckInclusion` / `CheckDownwardTreeInclusion` with the caches as coded returns, for all operands,
every fuel and every allocator `pick`, exactly what the cache-free models return: the certifying models with and without
simulation (same verdict, same certificate, `none` at the same fuel), and the exploration alone for any preorder `o` with a
reflexive `leB` – the verdict and, by value, the persisting antichain `nonIncl_` and the ghost set.

Hypothesis `∀ q, o.leB q q = true`: `SetComparerSmaller` answers `true` on identical pointers without comparing the sets;
it holds for `idOrd` and every `ordOf R A B` (used for the first three conjuncts) and cannot be dropped
(`C01_downward_refl_needed`). -/
theorem C01_downward_caches_transparent (pick : List Nat → Nat) (A B : TA) (fuel : Nat) :
    checkInclDownRecC .lib pick A B fuel = checkInclDownRec A B fuel ∧
    inclDownRecC .lib pick A B fuel = inclDownRec A B fuel ∧
    (∀ R : Rel, inclDownSimC .lib pick A B R fuel = inclDownSim A B R fuel) ∧
    (∀ o : Ord, (∀ q, o.leB q q = true) →
      viewD (FCD.runC o .lib pick A B fuel) =
        rootLoop o A B (InclUp.prodWit A) fuel (InclUp.normS B.final) (dedup A.final) [] ⟨[], []⟩ ∧
      truesOf (FCD.runC o .lib pick A B fuel) = InclDown.run o A B fuel) :=
  ⟨checkInclDownRec_cached_eq pick A B fuel, inclDown_cached_eq pick A B fuel,
    fun R => inclDownSim_cached_eq pick A B R fuel,
    fun _ hr => ⟨runC_eq hr pick A B fuel, truesOf_runC_eq hr pick A B fuel⟩⟩

/-- the run on `exA`, `exB2` with the library's deleter (`FCDEx.exB2_run`): the certifying model on top of it, the final heap
and its invariant -/
theorem exB2_run_lib :
    (inclDownRecC .lib pickLeast FCDEx.exA FCDEx.exB2 20).map (·.1) = some true ∧
    (finalHeapD (FCD.runC idOrd .lib pickLeast FCDEx.exA FCDEx.exB2 20)).map
      (fun h => (h.store, h.lte.store.length)) = some ([(1, [12]), (3, [11, 13]), (0, [11, 12])], 4) ∧
    (finalHeapD (FCD.runC idOrd .lib pickLeast FCDEx.exA FCDEx.exB2 20)).map (heapOKD idOrd) = some true := by
  refine ⟨FCDEx.exB2_run.1, ?_, ?_⟩
  · have := congrArg (Option.map (fun t : _ × Nat × Bool => (t.1, t.2.1))) FCDEx.exB2_run.2
    rwa [Option.map_map] at this
  · have := congrArg (Option.map (fun t : _ × Nat × Bool => t.2.2)) FCDEx.exB2_run.2
    rwa [Option.map_map] at this

-- non-vacuity: runs in which macro-states die, their addresses are reused at once and `lteCache` is filled and purged
example : (checkInclDownRecC .lib pickLeast FCDEx.exA FCDEx.exB 20).map (·.1) = some false := by decide +kernel
example : (inclDownRecC .lib pickLeast FCDEx.exA FCDEx.exB2 20).map (·.1) = some true := exB2_run_lib.1
example : (finalHeapD (FCD.runC idOrd .lib pickLeast FCDEx.exA FCDEx.exB2 20)).map
    (fun h => (h.store, h.lte.store.length)) = some ([(1, [12]), (3, [11, 13]), (0, [11, 12])], 4) := exB2_run_lib.2.1
-- the hypothesis on `o` is satisfiable
example : (∀ q, idOrd.leB q q = true) ∧ ∀ R A B q, (ordOf R A B).leB q q = true := ⟨idOrd_refl, ordOf_refl⟩

/-- … in the form of `C01_downward_rec_model_exact`: exact and total with the caches, for every allocator -/
theorem C01_downward_cached_exact (pick : List Nat → Nat) (A B : TA) :
    (∀ fuel b c, checkInclDownRecC .lib pick A B fuel = some (b, c) → (b = true ↔ Incl A B)) ∧
    (∀ fuel, InclDown.fuelBoundD (removeUseless A) (removeUseless B) < fuel →
      (Incl A B → ∃ c, checkInclDownRecC .lib pick A B fuel = some (true, c)) ∧
      (¬ Incl A B → ∃ c, checkInclDownRecC .lib pick A B fuel = some (false, c))) := by
  simp only [checkInclDownRec_cached_eq]
  exact C01_downward_rec_model_exact A B

example : (checkInclDownRecC .lib pickLeast FCDEx.exA FCDEx.exB2 20).map (·.1) = some true := by decide +kernel

/-- the wiring the theorems assume is the one in the sources (first entry: `src/tree_incl_down.hh`) -/
example : Vata.Gen.cacheWiring.map Vata.CacheWiring.wiringOf = [.lib, .lib, .lib] := Vata.CacheWiring.cache_wiring_is_lib

/-- **the invariant behind it**, at the end of every run that returns `true` (library's deleter, every allocator, every
preorder with reflexive `leB`): every entry of `lteCache` mentions two LIVE macro-states and stores `NonCachedLte` of the
values now at those addresses (`FCD.HInvD`, kept by every step of the simulation `FCD.DRel`; `FCD.hCollectD_spec` is the step
where objects die, `FCD.hLookupD_spec` the one where an address may be reused) -/
theorem C01_downward_memo_sound (o : Ord) (hr : ∀ q, o.leB q q = true) (pick : List Nat → Nat) (A B : TA) (fuel : Nat)
    (h : Heap) (hf : finalHeapD (FCD.runC o .lib pick A B fuel) = some h) :
    (∀ a b r, aget h.lte.store (a, b) = some r →
      a ∈ h.addrs ∧ b ∈ h.addrs ∧ r = setLe o (hval h a) (hval h b)) ∧ heapOKD o h = true :=
  ⟨(runC_heap_sound hr pick A B fuel hf).1.sl, (runC_heap_sound hr pick A B fuel hf).2⟩

example : (finalHeapD (FCD.runC idOrd .lib pickLeast FCDEx.exA FCDEx.exB2 20)).map (heapOKD idOrd) = some true :=
  exB2_run_lib.2.2

/-- **the wiring matters** (the seeded change: the deleter calls `invalidateFirst` twice, so entries with the dying address
in SECOND key position survive).  On `exA`, `exB` with an allocator that recycles the address of a dead macro-state at once:
inside `expand(0, X)`, `X = {11, 12}`, the call `expand(0, {11, 12, 13})` leaves `(&X, &D) ↦ true` in `lteCache`, `D` dies,
`D' = {11, 13}` is created at its address, and `isInWorkset` finds the stale `true` for `lte(X, D')`: the check returns `true`
although `g(h(c))` is accepted by `exA` only.  The same with no deleter; the library's deleter answers `false`.  The run with
the slip ends with a table that violates the invariant. -/
theorem C01_downward_wiring_matters :
    (rawVerdictD (FCD.runC idOrd .firstTwice pickLeast FCDEx.exA FCDEx.exB 20) = some true ∧
     rawVerdictD (FCD.runC idOrd .none pickLeast FCDEx.exA FCDEx.exB 20) = some true ∧
     rawVerdictD (FCD.runC idOrd .lib pickLeast FCDEx.exA FCDEx.exB 20) = some false ∧ ¬ Incl FCDEx.exA FCDEx.exB) ∧
    (finalHeapD (FCD.runC idOrd .firstTwice pickLeast FCDEx.exA FCDEx.exB 20)).map (heapOKD idOrd) = some false :=
  ⟨FCDEx.wiring_changes_verdict, FCDEx.wiring_breaks_invariant.1⟩

/-- the certificate check of the certifying model does not let the wrong `true` through (it answers `none`) -/
example : inclDownRecC .firstTwice pickLeast FCDEx.exA FCDEx.exB 20 = none := FCDEx.wiring_breaks_invariant.2.1

/-- the reflexivity hypothesis of `C01_downward_caches_transparent` cannot be dropped: with `leB = fun _ _ => false` the
pointer-equality shortcut of `SetComparerSmaller` makes the cached run end (`return false`), while the value-level model never
finds a pair in its work-set (`none` for that fuel) -/
theorem C01_downward_refl_needed :
    rawVerdictD (FCD.runC FCDEx.oBad .lib pickLeast FCDEx.exA FCDEx.exB 20) = some false ∧
    InclDown.run FCDEx.oBad FCDEx.exA FCDEx.exB 20 = none :=
  ⟨by decide +kernel, by decide +kernel⟩

/-- whatever the wiring and the allocator: a verdict that passes the certificate check of the model is right -/
theorem C01_downward_cached_verdicts (w : Wiring) (pick : List Nat → Nat) (A B : TA) (fuel : Nat) (b : Bool)
    (c : InclUp.Cert) (h : inclDownRecC w pick A B fuel = some (b, c)) : b = true ↔ Incl A B := by
  unfold inclDownRecC at h
  exact finish_iff (fun _ hX => downCertB_incl hX) h

/-- **C07, top-down BDD encoding** (`BDDTDTreeAutCore::CheckInclusion`, cases `ANTICHAINS_DOWN_REC_NOSIM` and
`ANTICHAINS_DOWN_REC_SIM`: the same template `CheckDownwardTreeInclusion<…, DownwardInclusionFunctor, …>` with the same two
caches and the same deleter).  With the caches as coded, the library's deleter and any allocator, the models of
`C07_td_downward_models_exact` are unchanged, hence exact and – `NOSIM` – total above the bound. -/
theorem C07_td_downward_caches_transparent (pick : List Nat → Nat) (A B : TA) (R : Rel) :
    (∀ fuel, checkInclDownRecC .lib pick A B fuel = checkInclDownRec A B fuel ∧
      inclDownSimC .lib pick A B R fuel = inclDownSim A B R fuel) ∧
    (∀ fuel b c, checkInclDownRecC .lib pick A B fuel = some (b, c) → (b = true ↔ Incl A B)) ∧
    (∀ fuel b c, inclDownSimC .lib pick A B R fuel = some (b, c) → (b = true ↔ Incl A B)) ∧
    (∀ fuel, InclDown.fuelBoundD (removeUseless A) (removeUseless B) < fuel →
      (Incl A B → ∃ c, checkInclDownRecC .lib pick A B fuel = some (true, c)) ∧
      (¬ Incl A B → ∃ c, checkInclDownRecC .lib pick A B fuel = some (false, c))) := by
  obtain ⟨h1, _, h3, h4, _⟩ := C07_td_downward_models_exact A B R
  refine ⟨fun fuel => ⟨checkInclDownRec_cached_eq pick A B fuel, inclDownSim_cached_eq pick A B R fuel⟩, ?_, ?_, ?_⟩
  · intro fuel b c h; rw [checkInclDownRec_cached_eq] at h; exact h1 fuel b c h
  · intro fuel b c h; rw [inclDownSim_cached_eq] at h; exact h3 fuel b c h
  · intro fuel hf; rw [checkInclDownRec_cached_eq]; exact (h4 fuel hf).2

example : (inclDownSimC .lib pickLeast InclDownEx.exS1 InclDownEx.exS2 [(5, 6)] 10).map (·.1) = some true := by
  decide +kernel

/-!
## which "not yet proved" item this file closes

* `C01_Caches.lean`, "not proved here": "the downward algorithms (`lteCache` of `tree_incl_down.hh` …): no cached model" – closed
  for the generic recursive algorithm `CheckDownwardTreeInclusion` with `DownwardInclusionFunctor`, with and without the preorder
  parameter, for the explicit and the top-down BDD instantiation.

## still not proved

* `OptDownwardInclusionFunctor` (`src/down_tree_opt_incl_fctor.hh`, `ANTICHAINS_DOWN_REC_OPT_…`) with the caches: `InclDown` shows
  that its extra containers stay empty of pairs that matter (`inclDownOpt = inclDownRec`), but its handles' lifetimes with the
  address-keyed `lteCache` have no cached model here.
* the non-recursive variant `src/explicit_tree_incl_down.cc` (`ANTICHAINS_DOWN_NONREC_…`: its own `lteCache`, `biggerTypeCache` and
  the same deleter, handles in the frames of the call emulator): no cached model; `InclDown.expandN` stays value-level.
* reference counting is modelled by its effect (`hCollect` at the points where handles are dropped, see the header for why
  this equals the deaths one by one), not by counters; iteration orders of the hash containers are list orders; the traversal
  `ForeachDownSymbolFromStateAndStateSetDo` of the two encodings is read as in `InclDown` (for C07 see its "not yet proved").
* the comparison is with the MODEL `InclDown`; that the cached model's verdict equals the C++ verdict is testable through
  `FCD.runC` / `FCD.rawVerdictD`, not proved.
-/
end Vata.Props
