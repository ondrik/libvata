import Vata.InclUp
import Vata.UpCert
import Vata.Lang
import Vata.Proofs.Finish
import Vata.Proofs.Verdict
import Vata.Proofs.TrimModel
/-!
# The certifying upward antichain inclusion model `inclUp` (property C01): every verdict it returns is right

The Boolean certificate check is exactly `UpCert` plus "no bad pair", so whatever the exploration did, a returned verdict
is the truth about `Incl A B` (the language inclusion of `Vata/Lang.lean`).  The exploration itself (`InclUp.run`) is
analysed in `Vata/Proofs/InclUpInv.lean`, `Vata/Proofs/InclUpWitness.lean` and `Vata/Proofs/InclUpTotal.lean`.
-/
namespace Vata
open InclUp

namespace InclUp

def NoBad (A B : TA) (X : List (Nat × List Nat)) : Prop :=
  ∀ q S, (q, S) ∈ X → q ∈ A.final → ∃ s, s ∈ S ∧ s ∈ B.final

theorem mem_choices {X : List (Nat × List Nat)} {ks : List Nat} : ∀ {Ss : List (List Nat)},
    Ss ∈ choices X ks ↔ All2 (fun k S => (k, S) ∈ X) ks Ss := by
  induction ks with
  | nil => exact List.mem_singleton.trans ⟨fun h => h ▸ All2.nil, fun h => by cases h; rfl⟩
  | cons k ks ih =>
    intro Ss
    simp only [choices, List.mem_flatMap, List.mem_filter, List.mem_map, beq_iff_eq]
    constructor
    · rintro ⟨p, ⟨hp, hk⟩, Ss', hSs', rfl⟩
      exact All2.cons (hk ▸ hp) (ih.mp hSs')
    · rintro (_ | ⟨hd, tl⟩)
      exact ⟨(k, _), ⟨hd, rfl⟩, _, ih.mpr tl, rfl⟩

theorem accepting_iff {B : TA} {S : List Nat} : accepting B S = true ↔ ∃ s, s ∈ S ∧ s ∈ B.final := by
  simp only [accepting, List.any_eq_true, List.contains_iff_mem]

/-- the last conjunct of the certificate checks, with and without a simulation -/
theorem noBad_iff {A B : TA} {X : List (Nat × List Nat)} :
    (∀ p, p ∈ X → (!A.final.contains p.1 || accepting B p.2) = true) ↔ NoBad A B X := by
  refine Prod.forall.trans (forall_congr' fun q => forall_congr' fun S => imp_congr_right fun _ => ?_)
  rw [← accepting_iff, ← List.contains_iff_mem]
  cases A.final.contains q <;> simp

end InclUp

theorem upCertB_iff (A B : TA) (X : List (Nat × List Nat)) :
    upCertB A B X = true ↔ UpCert A B X ∧ NoBad A B X := by
  simp only [upCertB, Bool.and_eq_true, List.all_eq_true, noBad_iff, List.any_eq_true, beq_iff_eq, subB_iff, UpCert,
    mem_choices, Prod.exists, and_left_comm (b := _ = _), exists_and_left, exists_eq_left]

theorem upCertB_sound {A B : TA} {X : List (Nat × List Nat)} (h : upCertB A B X = true) :
    UpCert A B X ∧ ∀ q S, (q, S) ∈ X → q ∈ A.final → ∃ s, s ∈ S ∧ s ∈ B.final :=
  (upCertB_iff A B X).mp h

theorem upCertB_incl {A B : TA} {X : List (Nat × List Nat)} (h : upCertB A B X = true) : Incl A B :=
  fun t ht => up_cert_incl A B X (upCertB_sound h).1 (upCertB_sound h).2 t ht

namespace InclUp

/-- how the certifying end reads the result of an exploration: the pairs of the antichain; the tree `W q t` for a
`return false` at `(q, t)` -/
def view (W : Nat → Tree → Tree) : Res (List Item) → Except Tree (List (Nat × List Nat))
  | .ok P => .ok (P.map (fun i => (i.q, i.S)))
  | .error (q, t) => .error (W q t)

/-- the last step of the certifying models (`inclUp`, `inclUpSim`, `inclUpBdd`) is that of the downward ones,
`InclDown.finish`: the check `chk` for the antichain of a `return true`, acceptance by `A` and not by `B` for the tree
`W q t` of a `return false` -/
abbrev certify (A B : TA) (chk : List (Nat × List Nat) → Bool) (W : Nat → Tree → Tree) (r : Option (Res (List Item))) :
    Option (Bool × Cert) :=
  InclDown.finish chk A B (r.map (view W))

theorem inclUp_eq (A B : TA) (fuel : Nat) :
    inclUp A B fuel = certify A B (upCertB A B) (complete A) (run A B fuel) := by
  unfold inclUp
  cases run A B fuel with
  | none => rfl
  | some r => cases r <;> rfl

end InclUp

theorem inclUp_iff {A B : TA} {fuel : Nat} {b : Bool} {c : Cert} (h : inclUp A B fuel = some (b, c)) :
    b = true ↔ Incl A B :=
  InclDown.finish_iff (fun _ => upCertB_incl) (inclUp_eq A B fuel ▸ h)

theorem inclUp_true {A B : TA} {fuel : Nat} {c : Cert} (h : inclUp A B fuel = some (true, c)) : Incl A B :=
  (inclUp_iff h).mp rfl

theorem inclUp_false {A B : TA} {fuel : Nat} {c : Cert} (h : inclUp A B fuel = some (false, c)) : ¬ Incl A B :=
  fun hi => nomatch (inclUp_iff h).mpr hi

theorem inclUp_cert {A B : TA} {fuel : Nat} {b : Bool} {c : Cert} (h : inclUp A B fuel = some (b, c)) :
    match c with
    | .closed X => b = true ∧ UpCert A B X ∧ NoBad A B X
    | .witness w => b = false ∧ accepts A w = true ∧ accepts B w = false := by
  have := InclDown.finish_cert (inclUp_eq A B fuel ▸ h)
  cases c with
  | closed X => exact ⟨this.1, upCertB_sound this.2⟩
  | witness w => exact this

namespace InclUp

theorem checkInclUp_iff {A B : TA} {fuel : Nat} {b : Bool} {c : Cert} (h : checkInclUp A B fuel = some (b, c)) :
    b = true ↔ Incl A B :=
  (inclUp_iff h).trans (incl_removeUseless A B)

end InclUp

namespace InclUpEx

/-- `{a}` -/
def exA : TA := ⟨[⟨0, [], 1⟩], [1]⟩
/-- `{a, b}` -/
def exAB : TA := ⟨[⟨0, [], 3⟩, ⟨1, [], 3⟩], [3]⟩
/-- `a → 1`, `b → 1`, `g(1,1) → 2` final: all four trees `g(x,y)` -/
def exG : TA := ⟨[⟨0, [], 1⟩, ⟨1, [], 1⟩, ⟨2, [1, 1], 2⟩], [2]⟩
/-- `a → 3`, `b → 4`, `g(3,3) → 9`, `g(4,4) → 9` final: only `g(a,a)` and `g(b,b)` -/
def exH : TA := ⟨[⟨0, [], 3⟩, ⟨1, [], 4⟩, ⟨2, [3, 3], 9⟩, ⟨2, [4, 4], 9⟩], [9]⟩
/-- lists `cons(…cons(nil))` of even length / of any length -/
def exEven : TA := ⟨[⟨0, [], 0⟩, ⟨1, [1], 0⟩, ⟨1, [0], 1⟩], [0]⟩
def exAll : TA := ⟨[⟨0, [], 5⟩, ⟨1, [5], 5⟩], [5]⟩
/-- `h(g(a))` against `{a}`: the macro-state of `g(a)` is empty and its `A`-state is not final -/
def exDeep : TA := ⟨[⟨0, [], 1⟩, ⟨2, [1], 5⟩, ⟨3, [5], 2⟩], [2]⟩

def verdict (r : Option (Bool × Cert)) : Option Bool := r.map (·.1)

-- `{a} ⊆ {a,b}` true; the certificate is the single pair `(1, {3})`
#guard verdict (inclUp exA exAB 10) == some true
#guard (match inclUp exA exAB 10 with | some (_, .closed X) => X == [(1, [3])] | _ => false)
-- `{a,b} ⊆ {a}` false with the witness `b`
#guard verdict (inclUp exAB exA 10) == some false
#guard (match inclUp exAB exA 10 with | some (_, .witness w) => showTree w == "1" | _ => false)
-- the `g(a,b)` shape: false, the witness is `g(a,b)`
#guard verdict (inclUp exG exH 10) == some false
#guard (match inclUp exG exH 10 with | some (_, .witness w) => showTree w == "2(0,1)" | _ => false)
-- the converse holds; three pairs
#guard verdict (inclUp exH exG 10) == some true
#guard (match inclUp exH exG 10 with | some (_, .closed X) => X == [(3, [1]), (4, [1]), (9, [2])] | _ => false)
-- recursion: even ⊆ all, all ⊄ even (witness `cons(nil)`)
#guard verdict (inclUp exEven exAll 10) == some true
#guard verdict (inclUp exAll exEven 10) == some false
-- the exit on an empty macro-state: the tree `g(a)` is completed to `h(g(a))`
#guard (match inclUp exDeep exA 10 with | some (false, .witness w) => showTree w == "3(2(0))" | _ => false)
#guard verdict (inclUp exEven exAll 1) == none

example : Incl exA exAB := (Verdict.exists_cert (o := inclUp exA exAB 10) (by decide +kernel)).elim fun _ => inclUp_true
example : upCertB exH exG [(3, [1]), (4, [1]), (9, [2])] = true := by decide +kernel
example : UpCert exH exG [(3, [1]), (4, [1]), (9, [2])] ∧ NoBad exH exG [(3, [1]), (4, [1]), (9, [2])] :=
  upCertB_sound (by decide +kernel)
example : Incl exH exG := upCertB_incl (X := [(3, [1]), (4, [1]), (9, [2])]) (by decide +kernel)
example : ¬ Incl exG exH :=
  (Verdict.exists_cert (o := inclUp exG exH 10) (by decide +kernel)).elim fun _ => inclUp_false
-- `inclUp_iff` instantiated at the verdict `true` of this run
example : (true = true ↔ Incl exEven exAll) :=
  (Verdict.exists_cert (o := inclUp exEven exAll 10) (by decide +kernel)).elim fun _ => inclUp_iff
-- an antichain that is not closed is refused: the pair for `g` is missing
example : upCertB exH exG [(3, [1]), (4, [1])] = false := by decide +kernel
-- a bad pair is refused
example : upCertB exAB exA [(3, [])] = false := by decide

end InclUpEx

end Vata
