import Vata.Proofs.ComplOrd
import Vata.Proofs.Equivariance
import Vata.Proofs.BddAbsTD
/-!
# Complementation with an arbitrary exploration order: the results are isomorphic

* `TAIso σ τ C D`: `σ` and `τ` are mutually inverse bijections between the states of `C` and `D` that carry rules to
  rules and final states to final states; consequences: same language, same number of states, same number of rules (for
  duplicate-free rule lists); trimming (`removeUseless`) preserves isomorphism.
* `raw_iso`: the untrimmed results of two finished runs are isomorphic through `ordIso` (the number a macro-state has in
  the first cache ↦ its number in the second), because both caches are duplicate-free lists of the SAME set `MReach`, and
  the rules are the ones the cache prescribes.
-/
namespace Vata

structure TAIso (σ τ : Nat → Nat) (C D : TA) : Prop where
  toFun : ∀ q, q ∈ C.states → σ q ∈ D.states ∧ τ (σ q) = q
  invFun : ∀ q, q ∈ D.states → τ q ∈ C.states ∧ σ (τ q) = q
  rules : ∀ r, r ∈ C.rules → mapRule σ r ∈ D.rules
  rulesInv : ∀ r, r ∈ D.rules → mapRule τ r ∈ C.rules
  final : ∀ q, q ∈ C.final → σ q ∈ D.final
  finalInv : ∀ q, q ∈ D.final → τ q ∈ C.final

namespace TAIso
open BddAbsTD (SetEqTA)

theorem symm {σ τ : Nat → Nat} {C D : TA} (h : TAIso σ τ C D) : TAIso τ σ D C :=
  ⟨h.invFun, h.toFun, h.rulesInv, h.rules, h.finalInv, h.final⟩

theorem image_mem_states {σ : Nat → Nat} {C D : TA} (hr : ∀ r, r ∈ C.rules → mapRule σ r ∈ D.rules)
    (hf : ∀ q, q ∈ C.final → σ q ∈ D.final) {q : Nat} (hq : q ∈ C.states) : σ q ∈ D.states := by
  rcases Rn.mem_states.mp hq with ⟨r, hr', hc⟩ | hq
  · rcases hc with hc | hc
    · rw [hc]; exact parent_mem_states (hr r hr')
    · exact kid_mem_states (hr r hr') (r := mapRule σ r) (List.mem_map.mpr ⟨q, hc, rfl⟩)
  · exact final_mem_states (hf q hq)

theorem mk' {σ τ : Nat → Nat} {C D : TA} (h1 : ∀ q, q ∈ C.states → τ (σ q) = q) (h2 : ∀ q, q ∈ D.states → σ (τ q) = q)
    (hr : ∀ r, r ∈ C.rules → mapRule σ r ∈ D.rules) (hr' : ∀ r, r ∈ D.rules → mapRule τ r ∈ C.rules)
    (hf : ∀ q, q ∈ C.final → σ q ∈ D.final) (hf' : ∀ q, q ∈ D.final → τ q ∈ C.final) : TAIso σ τ C D :=
  ⟨fun q hq => ⟨image_mem_states hr hf hq, h1 q hq⟩, fun q hq => ⟨image_mem_states hr' hf' hq, h2 q hq⟩,
    hr, hr', hf, hf'⟩

theorem inj {σ τ : Nat → Nat} {C D : TA} (h : TAIso σ τ C D) : InjOnStates σ C := by
  intro q q' hq hq' e
  rw [← (h.toFun q hq).2, ← (h.toFun q' hq').2, e]

theorem mapRule_inv {σ τ : Nat → Nat} {C D : TA} (h : TAIso σ τ C D) {r : Rule} (hr : r ∈ D.rules) :
    mapRule σ (mapRule τ r) = r := by
  cases r with
  | mk f ks p =>
    simp only [mapRule, List.map_map, Rule.mk.injEq, true_and]
    constructor
    · have : ∀ k, k ∈ ks → (σ ∘ τ) k = id k := fun k hk => (h.invFun k (kid_mem_states hr hk)).2
      rw [List.map_congr_left this, List.map_id]
    · exact (h.invFun p (parent_mem_states hr)).2

/-- `D` is the `σ`-image of `C` (as sets of rules and of final states) -/
theorem setEq {σ τ : Nat → Nat} {C D : TA} (h : TAIso σ τ C D) : SetEqTA (reindex σ C) D := by
  constructor
  · intro r
    rw [reindex_rules]
    constructor
    · rintro ⟨r', hr', rfl⟩; exact h.rules r' hr'
    · intro hr
      exact ⟨mapRule τ r, h.rulesInv r hr, (h.mapRule_inv hr).symm⟩
  · intro q
    rw [reindex_final]
    constructor
    · rintro ⟨q', hq', rfl⟩; exact h.final q' hq'
    · intro hq
      exact ⟨τ q, h.finalInv q hq, (h.invFun q (final_mem_states hq)).2.symm⟩

theorem lang {σ τ : Nat → Nat} {C D : TA} (h : TAIso σ τ C D) (t : Tree) : accepts C t = accepts D t := by
  rw [← reindex_inj_lang σ C h.inj t]
  exact h.setEq.lang t

theorem states_length {σ τ : Nat → Nat} {C D : TA} (h : TAIso σ τ C D) : C.states.length = D.states.length := by
  rw [← reindex_states_length σ C h.inj]
  exact length_eq_of_mem_iff (PropAux.nodup_states _) (PropAux.nodup_states _) h.setEq.mem_states

/-- isomorphic automata with duplicate-free rule lists have the same number of rules: each list is, through the inverse
renaming, contained in the image of the other -/
theorem rules_length_le {σ τ : Nat → Nat} {C D : TA} (h : TAIso σ τ C D) (hC : C.rules.Nodup) :
    C.rules.length ≤ D.rules.length := by
  have hsub : C.rules ⊆ D.rules.map (mapRule τ) := fun r hr =>
    List.mem_map.mpr ⟨mapRule σ r, h.rules r hr, h.symm.mapRule_inv hr⟩
  have := hC.length_le_of_subset hsub
  rwa [List.length_map] at this

theorem rules_length {σ τ : Nat → Nat} {C D : TA} (h : TAIso σ τ C D) (hC : C.rules.Nodup) (hD : D.rules.Nodup) :
    C.rules.length = D.rules.length :=
  Nat.le_antisymm (h.rules_length_le hC) (h.symm.rules_length_le hD)

theorem setEq_removeUseless {A B : TA} (h : SetEqTA A B) : SetEqTA (removeUseless A) (removeUseless B) := by
  rw [removeUseless_eq, removeUseless_eq]
  apply BddAbsTD.setEqTA_removeUnreachable
  constructor
  · intro r
    rw [mem_rules_restrict, mem_rules_restrict, h.1 r, BddAbsTD.mem_prodStates_skel h.skel]
    constructor
    · rintro ⟨h1, h2, h3⟩
      exact ⟨h1, h2, fun k hk => (BddAbsTD.mem_prodStates_skel h.skel k).mp (h3 k hk)⟩
    · rintro ⟨h1, h2, h3⟩
      exact ⟨h1, h2, fun k hk => (BddAbsTD.mem_prodStates_skel h.skel k).mpr (h3 k hk)⟩
  · intro q
    rw [mem_final_restrict, mem_final_restrict, h.2 q, BddAbsTD.mem_prodStates_skel h.skel]

theorem removeUseless_half {σ τ : Nat → Nat} {C D : TA} (h : TAIso σ τ C D) :
    (∀ r, r ∈ (removeUseless C).rules → mapRule σ r ∈ (removeUseless D).rules) ∧
    (∀ q, q ∈ (removeUseless C).final → σ q ∈ (removeUseless D).final) := by
  have hs := setEq_removeUseless h.setEq
  rw [removeUseless_reindex_eq σ C h.inj] at hs
  exact ⟨fun r hr => (hs.1 _).mp ((reindex_rules σ _ _).mpr ⟨r, hr, rfl⟩),
    fun q hq => (hs.2 _).mp ((reindex_final σ _ _).mpr ⟨q, hq, rfl⟩)⟩

/-- `RemoveUselessStates` maps isomorphic automata to isomorphic automata (same bijection) -/
theorem removeUseless {σ τ : Nat → Nat} {C D : TA} (h : TAIso σ τ C D) :
    TAIso σ τ (Vata.removeUseless C) (Vata.removeUseless D) :=
  mk' (fun q hq => (h.toFun q (Eqv.states_removeUseless_sub hq)).2)
    (fun q hq => (h.invFun q (Eqv.states_removeUseless_sub hq)).2)
    (removeUseless_half h).1 (removeUseless_half h.symm).1 (removeUseless_half h).2 (removeUseless_half h.symm).2

theorem nodup_rules_removeUseless {A : TA} (h : A.rules.Nodup) : (Vata.removeUseless A).rules.Nodup := by
  show (List.filter _ (List.filter _ A.rules)).Nodup
  exact List.Nodup.sublist (List.filter_sublist.trans List.filter_sublist) h

end TAIso

namespace Compl
open InclUp (normS)

/-- the renaming sends the number of `P` in the first cache to its number in the second -/
theorem ordIso_idxOf {c₁ c₂ : List (List Nat)} {P : List Nat} (h : P ∈ c₁) : ordIso c₁ c₂ (c₁.idxOf P) = c₂.idxOf P := by
  unfold ordIso
  rw [getD_idxOf h]

theorem Final.idx_zero {A : TA} {Sg : List (Nat × Nat)} {st : St} (F : Final A Sg st) :
    st.cache.idxOf (normS A.final) = 0 := idxOf_of_getElem? F.nodup F.head

theorem Final.getD_zero {A : TA} {Sg : List (Nat × Nat)} {st : St} (F : Final A Sg st) :
    st.cache.getD 0 [] = normS A.final := by
  rw [List.getD_eq_getElem?_getD, F.head]; rfl

/-- the states of the untrimmed result are numbers of macro-states -/
theorem Final.states_lt {A : TA} {Sg : List (Nat × Nat)} {st : St} (F : Final A Sg st) {q : Nat}
    (hq : q ∈ (⟨st.rules, [0]⟩ : TA).states) : q < st.cache.length := by
  have hcl := tdClosedB_iff.mp F.closed
  rcases Rn.mem_states.mp hq with ⟨r, hr, hc⟩ | hf
  · obtain ⟨P, f, n, c, hP, hfa, hc', rfl⟩ := mem_tdExpected.mp ((F.rules r).mp hr)
    rcases hc with hc | hc
    · rw [hc]; exact List.idxOf_lt_length_of_mem hP
    · simp only [macros, List.map_map, List.mem_map, List.mem_range, Function.comp] at hc
      obtain ⟨i, hi, rfl⟩ := hc
      exact List.idxOf_lt_length_of_mem (hcl P f n c hP hfa hc' i hi)
  · have : q = 0 := by simpa using hf
    rw [this, ← F.idx_zero]
    exact List.idxOf_lt_length_of_mem (List.mem_of_getElem? F.head)

theorem ordIso_inv {A : TA} {Sg : List (Nat × Nat)} {st₁ st₂ : St} (F₁ : Final A Sg st₁) (F₂ : Final A Sg st₂)
    {q : Nat} (hq : q < st₁.cache.length) : ordIso st₂.cache st₁.cache (ordIso st₁.cache st₂.cache q) = q := by
  have h1 : st₁.cache.getD q [] = st₁.cache[q] := getD_eq_getElem hq []
  have hm : st₁.cache[q] ∈ st₂.cache := (F₂.mem _).mpr ((F₁.mem _).mp (List.getElem_mem hq))
  unfold ordIso
  rw [h1, getD_idxOf hm]
  exact F₁.nodup.idxOf_getElem q hq

theorem raw_rules_map {A : TA} {Sg : List (Nat × Nat)} {st₁ st₂ : St} (F₁ : Final A Sg st₁) (F₂ : Final A Sg st₂)
    {r : Rule} (hr : r ∈ st₁.rules) : mapRule (ordIso st₁.cache st₂.cache) r ∈ st₂.rules := by
  have hcl := tdClosedB_iff.mp F₁.closed
  obtain ⟨P, f, n, c, hP, hfa, hc, rfl⟩ := mem_tdExpected.mp ((F₁.rules r).mp hr)
  apply (F₂.rules _).mpr
  apply mem_tdExpected.mpr
  refine ⟨P, f, n, c, (F₂.mem _).mpr ((F₁.mem _).mp hP), hfa, hc, ?_⟩
  simp only [mapRule, List.map_map, Rule.mk.injEq, true_and]
  constructor
  · apply List.map_congr_left
    intro Q hQ
    simp only [macros, List.mem_map, List.mem_range] at hQ
    obtain ⟨i, hi, rfl⟩ := hQ
    exact ordIso_idxOf (hcl P f n c hP hfa hc i hi)
  · exact ordIso_idxOf hP

theorem ordIso_zero {A : TA} {Sg : List (Nat × Nat)} {st₁ st₂ : St} (F₁ : Final A Sg st₁) (F₂ : Final A Sg st₂) :
    ordIso st₁.cache st₂.cache 0 = 0 := by
  unfold ordIso
  rw [F₁.getD_zero, F₂.idx_zero]

theorem raw_iso {A : TA} {Sg : List (Nat × Nat)} {st₁ st₂ : St} (F₁ : Final A Sg st₁) (F₂ : Final A Sg st₂) :
    TAIso (ordIso st₁.cache st₂.cache) (ordIso st₂.cache st₁.cache) ⟨st₁.rules, [0]⟩ ⟨st₂.rules, [0]⟩ := by
  apply TAIso.mk'
  · exact fun q hq => ordIso_inv F₁ F₂ (F₁.states_lt hq)
  · exact fun q hq => ordIso_inv F₂ F₁ (F₂.states_lt hq)
  · exact fun r hr => raw_rules_map F₁ F₂ hr
  · exact fun r hr => raw_rules_map F₂ F₁ hr
  · intro q hq
    have : q = 0 := by simpa using hq
    rw [this, ordIso_zero F₁ F₂]; exact List.mem_singleton.mpr rfl
  · intro q hq
    have : q = 0 := by simpa using hq
    rw [this, ordIso_zero F₂ F₁]; exact List.mem_singleton.mpr rfl

/-- two finished runs have discovered the same macro-states, and as many -/
theorem final_cache_same {A : TA} {Sg : List (Nat × Nat)} {st₁ st₂ : St} (F₁ : Final A Sg st₁) (F₂ : Final A Sg st₂) :
    (∀ P, P ∈ st₁.cache ↔ P ∈ st₂.cache) ∧ st₁.cache.length = st₂.cache.length ∧
      st₁.rules.length = st₂.rules.length := by
  have hm : ∀ P, P ∈ st₁.cache ↔ P ∈ st₂.cache := fun P => (F₁.mem P).trans (F₂.mem P).symm
  exact ⟨hm, length_eq_of_mem_iff F₁.nodup F₂.nodup hm, (raw_iso F₁ F₂).rules_length F₁.nodupR F₂.nodupR⟩

theorem complTDOrd_unfold {pick : StO → Nat} {A : TA} {Sg : List (Nat × Nat)} {fuel : Nat} {C : TA}
    (h : complTDOrdS pick A Sg fuel = some C) :
    ∃ s, runOrdS pick A Sg fuel = some s ∧ C = removeUseless ⟨s.st.rules, [0]⟩ :=
  (Option.map_eq_some_iff.mp h).imp fun _ hs => ⟨hs.1, hs.2.symm⟩

/-! ### the order of the symbols (`for (auto symbolIndexPair : symbolMap)`, an unordered map) does not matter either -/

theorem MReach.congr_sg {A : TA} {Sg Sg' : List (Nat × Nat)} (h : ∀ fa, fa ∈ Sg → fa ∈ Sg') {P : List Nat}
    (hP : MReach A Sg P) : MReach A Sg' P := by
  induction hP with
  | init => exact MReach.init
  | step _ hfa hc hi ih => exact MReach.step ih (h _ hfa) hc hi

/-- the properties of a finished run only depend on the SET of ranked symbols -/
theorem Final.congr_sg {A : TA} {Sg Sg' : List (Nat × Nat)} (h : ∀ fa, fa ∈ Sg ↔ fa ∈ Sg') {st : St}
    (F : Final A Sg st) : Final A Sg' st := by
  refine ⟨F.nodup, F.head, ?_, ?_, ?_, F.nodupR⟩
  · intro P
    rw [F.mem P]
    exact ⟨MReach.congr_sg (fun fa => (h fa).mp), MReach.congr_sg (fun fa => (h fa).mpr)⟩
  · intro r
    rw [F.rules r, mem_tdExpected, mem_tdExpected]
    constructor
    · rintro ⟨P, f, n, c, hP, hfa, hc, e⟩; exact ⟨P, f, n, c, hP, (h _).mp hfa, hc, e⟩
    · rintro ⟨P, f, n, c, hP, hfa, hc, e⟩; exact ⟨P, f, n, c, hP, (h _).mpr hfa, hc, e⟩
  · apply tdClosedB_iff.mpr
    intro P f n c hP hfa hc
    exact tdClosedB_iff.mp F.closed P f n c hP ((h _).mpr hfa) hc

/-- EVERY two executions of the loop (any element taken in any round), for two listings of the same set of ranked
symbols, give isomorphic results -/
theorem runs_iso {A : TA} {Sg₁ Sg₂ : List (Nat × Nat)} (hSg : ∀ fa, fa ∈ Sg₁ ↔ fa ∈ Sg₂) {s₁ s₂ : StO}
    (h₁ : Runs A Sg₁ (initOrd A) s₁) (h₂ : Runs A Sg₂ (initOrd A) s₂) :
    TAIso (ordIso s₁.st.cache s₂.st.cache) (ordIso s₂.st.cache s₁.st.cache)
      (removeUseless ⟨s₁.st.rules, [0]⟩) (removeUseless ⟨s₂.st.rules, [0]⟩) :=
  (raw_iso (h₁.final.congr_sg hSg) h₂.final).removeUseless

/-- in particular two exploration orders `p₁`, `p₂` -/
theorem complTDOrd_iso_sg {p₁ p₂ : StO → Nat} {A : TA} {Sg₁ Sg₂ : List (Nat × Nat)}
    (hSg : ∀ fa, fa ∈ Sg₁ ↔ fa ∈ Sg₂) {f₁ f₂ : Nat} {C D : TA}
    (h₁ : complTDOrdS p₁ A Sg₁ f₁ = some C) (h₂ : complTDOrdS p₂ A Sg₂ f₂ = some D) :
    ∃ s₁ s₂, runOrdS p₁ A Sg₁ f₁ = some s₁ ∧ runOrdS p₂ A Sg₂ f₂ = some s₂ ∧
      TAIso (ordIso s₁.st.cache s₂.st.cache) (ordIso s₂.st.cache s₁.st.cache) C D := by
  obtain ⟨s₁, hr₁, rfl⟩ := complTDOrd_unfold h₁
  obtain ⟨s₂, hr₂, rfl⟩ := complTDOrd_unfold h₂
  exact ⟨s₁, s₂, hr₁, hr₂, runs_iso hSg (loopOrd_runs _ _ _ _ hr₁) (loopOrd_runs _ _ _ _ hr₂)⟩

theorem complTDOrd_nodup_rules {p : StO → Nat} {A : TA} {Sg : List (Nat × Nat)} {f : Nat} {C : TA}
    (h : complTDOrdS p A Sg f = some C) : C.rules.Nodup := by
  obtain ⟨s, hr, rfl⟩ := complTDOrd_unfold h
  exact TAIso.nodup_rules_removeUseless (runOrd_final hr).nodupR

end Compl
end Vata
