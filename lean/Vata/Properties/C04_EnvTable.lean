import Vata.Proofs.EnvTable
/-!
# C04 – the environment table of `TranslateUpward` as a hash map with a user hash and a user equality

> For an automaton without useless states the upward simulation returned is the greatest relation in which q related to r
> implies that r is final whenever q is and that every rule using q at some child position is answered by a rule using r
> at the same position with identical siblings and a related parent.

`TranslateUpward` (`src/explicit_tree_transl.hh`) numbers the environments (a rule with one child position removed:
`children_`, `index_`, `symbol_`, `state_` = the parent) through `std::unordered_map<Env, size_t, env_hash> envMap`.
`env_hash` mixes ALL FOUR fields, `Env::operator==` compares `children_`, `index_`, `symbol_` but NOT `state_`.  The model
of `Vata/TaLts.lean` (`TaLts.envList`, `TaLts.envNode`, `C04_upward_via_lts`) takes all four fields as the key.  This file
justifies that reading and shows what happens without it.

## how the C++ is read (`Vata/EnvTable.lean`)

* `KeyOps κ` = (user hash, user equality).  `find ops tab k` = the first stored entry `n` with
  `hash (key n) == hash k && eq k (key n)` (`KeyOps.hit`): libstdc++ caches the hash code in the nodes of a table whose
  hash functor is not `noexcept` (`env_hash` is not), and `_M_equals` compares the cached code first, then calls the
  equality.  `translate` is `TranslatorWeak2::operator()` (`FindIfKnown`, else `stateCnt++` and `insert`), `run` the
  sequence of calls in the order of the loops, `lookup` the number of a finished table.
* `envKeyFull h4`: the code as it is (hash `h4` over four fields, equality over three); `envKeyNoState h3`: the seeded
  change (hash over three).  `boostHash4` / `boostHash3` are `env_hash` with `boost::hash_combine` /
  `boost::hash_range` on 64-bit words.
* `translateUpwardH ops A idx` / `upSimViaLtsH ops A size idx`: `TranslateUpward` / `ComputeUpwardSimulation(size)` over the
  table; edges of a rule use the number `envTranslator` returned, the loop `for (auto& envIndexPair : envMap)` adds the
  edge to the `state_` OF THE STORED KEY, `head` / `partition` are built from the stored keys (the allocation function
  runs for them only).

## abstracted

Buckets, rehashing and the order inside a bucket (the scan is over all entries in insertion order;
`C04_env_table_scan_order_irrelevant`: no stored key is accepted for a key stored later, and for the two disciplines at
most one stored entry is accepted for any key – every scan order finds the same entry); the iteration order of `envMap` (insertion order here; the theorems of `C04.lean` hold for every
order of the rules); the `head` loop of the allocation function (as in `Vata/TaLts.lean`: classes of `Env::equal` with
`Identity` = equal `key`).
-/
namespace Vata.Props
open Vata.TaLts Vata.EnvTable Vata.EnvTableEx

/-- **C04, env table: the numbers returned during the loops are those of the finished table.**  For a reflexive user
equality the `i`-th call `envTranslator(ks[i])` returns the number the finished table has for `ks[i]` (entries are never
removed or changed) – so the edges may be read off the finished table, as `translateUpwardH` does. -/
theorem C04_env_table_returned_numbers {κ : Type} (ops : KeyOps κ) (hrefl : ∀ k, ops.eq k k = true) (st : TState κ)
    (ks : List κ) : (run ops st ks).1 = ks.map (lookup ops (run ops st ks).2.tab) :=
  run_fst hrefl ks st

example : (run (envKeyFull toyHash4) ⟨[], 6⟩ (allEnvs exM id)).1 = [6, 7, 6, 8] := by decide

/-- **C04, env table: the order of the bucket scan does not matter.**  In the table after the loops no stored key is
accepted (`hit`) for a key stored later (any `ops`); if the user equality is `Env::operator==` (equal `key`; both
disciplines) at most ONE stored entry is accepted for a key `e` – whichever accepted node a bucket scan meets first, it is
the one `find` returns. -/
theorem C04_env_table_scan_order_irrelevant (ops : KeyOps Env) (A : TA) (idx : Nat → Nat) :
    (envTab ops A idx).Pairwise (fun a b => ops.hit b.1 a = false) ∧
    ((∀ a b, ops.eq a b = decide (a.key = b.key)) → ∀ (e : Env) (n1 n2 : Env × Nat), n1 ∈ envTab ops A idx →
      n2 ∈ envTab ops A idx → ops.hit e n1 = true → ops.hit e n2 = true → n1 = n2) :=
  ⟨envTab_pairwise ops A idx, fun heq e _ _ h1 h2 a1 a2 => hit_unique heq A idx e h1 h2 a1 a2⟩

example : (∀ a b, (envKeyFull boostHash4).eq a b = decide (a.key = b.key)) ∧
    (∀ a b, (envKeyNoState boostHash3).eq a b = decide (a.key = b.key)) ∧
    envTab (envKeyNoState boostHash3) exM id = [(⟨[2], 0, 1, 3⟩, 6), (⟨[0], 1, 1, 3⟩, 7), (⟨[1], 1, 1, 4⟩, 8)] :=
  ⟨fun _ _ => rfl, fun _ _ => rfl, by decide +kernel⟩

/-- **C04, env table: with the four-field hash and no hash collision the table is the map keyed by all four fields.**
Assumption `NoCollision h4 A idx`: no two different environments of `A` have the same hash code (`h4` injective on the
four-field tuples that occur – for the 64-bit `boost` hash this is the stated assumption, it is decidable per automaton:
`noCollisionB`).  Then the table is `TaLts.envList A idx` numbered `N + 1, N + 2, …`, every look-up returns
`TaLts.envNode`, the translation IS `TaLts.translateUpward A idx` (LTS, partition and block relation), and
`ComputeUpwardSimulation` over it returns `upSimRef A` under the hypotheses of `C04_upward_via_lts`. -/
theorem C04_env_table_full_is_exact (h4 : List Nat × Nat × Nat × Nat → Nat) (A : TA) (idx : Nat → Nat)
    (hnc : NoCollision h4 A idx) :
    envTab (envKeyFull h4) A idx = (envList A idx).zipIdx ((parents A).length + 1) ∧
    (∀ e, e ∈ envList A idx → envNodeH (envKeyFull h4) A idx e = envNode A idx e) ∧
    translateUpwardH (envKeyFull h4) A idx = translateUpward A idx ∧
    (∀ size, upSimViaLtsH (envKeyFull h4) A size idx = upSimViaLts A size idx) ∧
    (∀ size, IdxOk A (parents A).length idx → (parents A).length ≤ size → AllOwnRule A →
      ∀ q r, (q, r) ∈ upSimViaLtsH (envKeyFull h4) A size idx ↔ (q, r) ∈ upSimRef A) := by
  have hex := exact_full hnc
  have h4' : ∀ size, upSimViaLtsH (envKeyFull h4) A size idx = upSimViaLts A size idx := by
    intro size
    unfold upSimViaLtsH upSimViaLts
    rw [translateUpwardH_exact hex]
  refine ⟨envTab_exact hex, fun e he => envNodeH_exact hex he, translateUpwardH_exact hex, h4', ?_⟩
  intro size hidx hsize hown q r
  rw [h4' size]
  exact upSimViaLts_iff A size idx hidx hsize hown q r

/-- non-vacuity: `env_hash` as coded (`boost::hash_combine` on 64-bit words) has no collision on the environments of
`exM` (two of which differ in `state_` only) and of `exC` under a non-identity numbering -/
example : NoCollision boostHash4 exM id ∧ NoCollision boostHash4 TaLtsEx.exC (TaLtsEx.perm [2, 3, 1, 0]) ∧
    (⟨[2], 0, 1, 3⟩ : Env) ∈ envList exM id ∧ (⟨[2], 0, 1, 4⟩ : Env) ∈ envList exM id ∧
    IdxOk exM (parents exM).length id ∧ (parents exM).length ≤ 5 ∧ AllOwnRule exM :=
  ⟨noCollisionB_iff.mp (by decide +kernel), noCollisionB_iff.mp (by decide +kernel), by decide +kernel, by decide +kernel, idxOkB_iff.mp (by decide +kernel),
    by decide +kernel, allOwnRuleB_iff.mp (by decide +kernel)⟩

/-- in `exM` (`g(0,2) → 3`, `g(1,2) → 4`, `F = {3}`) state `1` does not simulate `0` upward: `3` is final, `4` is not -/
theorem exM_upSimRef : (0, 1) ∉ upSimRef exM := by decide +kernel

/-- **C04, env table: a hash collision between two environments that differ in `state_` only merges them** (the latent
risk of the code as it is).  General part: for every four-field hash `h4`, two different environments with equal `key`
(children, index, symbol) and equal hash code get the same node and are never both stored – so only one of the two
parents gets an edge from that node.  Concrete part (toy hash `(Σ children + index + symbol + state²) mod 7`, automaton
`exM`: `a → 0, 1, 2`, `g(0,2) → 3`, `g(1,2) → 4`, `h(4) → 3`, `F = {3}`): `g(□,2) → 3` and `g(□,2) → 4` collide, the
second is not stored (while `g(1,□) → 4`, which has the same code but another `key`, is), and the upward simulation
computed relates `0` to `1`, which `upSimRef` does not (`3` is final, `4` is not).  The hypothesis `NoCollision` of
`C04_env_table_full_is_exact` can therefore not be dropped. -/
theorem C04_env_table_collision_merges :
    (∀ (h4 : List Nat × Nat × Nat × Nat → Nat) (A : TA) (idx : Nat → Nat) (e1 e2 : Env), e1 ≠ e2 → e1.key = e2.key →
      h4 (Env.tuple e1) = h4 (Env.tuple e2) →
      envNodeH (envKeyFull h4) A idx e1 = envNodeH (envKeyFull h4) A idx e2 ∧
      ¬ (e1 ∈ envListH (envKeyFull h4) A idx ∧ e2 ∈ envListH (envKeyFull h4) A idx)) ∧
    ((⟨[2], 0, 1, 3⟩ : Env) ∈ envList exM id ∧ (⟨[2], 0, 1, 4⟩ : Env) ∈ envList exM id ∧
      toyHash4 ([2], 0, 1, 3) = toyHash4 ([2], 0, 1, 4) ∧ ¬ NoCollision toyHash4 exM id ∧
      envListH (envKeyFull toyHash4) exM id = [⟨[2], 0, 1, 3⟩, ⟨[0], 1, 1, 3⟩, ⟨[1], 1, 1, 4⟩] ∧
      envList exM id = [⟨[2], 0, 1, 3⟩, ⟨[0], 1, 1, 3⟩, ⟨[2], 0, 1, 4⟩, ⟨[1], 1, 1, 4⟩] ∧
      (0, 1) ∈ upSimViaLtsH (envKeyFull toyHash4) exM 5 id ∧ (0, 1) ∉ upSimRef exM) :=
  ⟨fun h4 A idx e1 e2 hne hk hh =>
      ⟨envNodeH_collision (fun _ _ => rfl) A idx hh hk, not_both_stored (fun _ _ => rfl) A idx hne hh hk⟩,
    by decide +kernel, by decide +kernel, by decide +kernel, fun h => absurd (noCollisionB_iff.mpr h) (by decide +kernel),
    by decide +kernel, by decide +kernel, by decide +kernel, exM_upSimRef⟩

/-- **C04, env table: the seeded change (`state_` removed from `env_hash`) is wrong.**  General part: for EVERY three-field
hash `h3`, any two environments that differ in `state_` only get the same node and are never both stored (which of the
two survives depends on the order of the loops) – the environments of `g(x,s) → p` and `g(y,s) → p'` are merged, the node
has an edge to one of the parents only.  Concrete part, `env_hash` without its last `hash_combine` (`boostHash3`) on the
automaton `exM` (`a → 0, 1, 2`, `g(0,2) → 3`, `g(1,2) → 4`, `h(4) → 3`, `F = {3}`; all states and rules useful, every
state owns a rule, the identity numbering is admissible): the table has three entries instead of four, the upward
simulation computed contains `(0, 1)`, `upSimRef exM` does not (`g(0,2) → 3` can only be answered by `g(1,2) → 4`, and `3`
is final while `4` is not); the code as it is (`boostHash4`) computes `upSimRef exM`. -/
theorem C04_env_table_nostate_wrong :
    (∀ (h3 : List Nat × Nat × Nat → Nat) (A : TA) (idx : Nat → Nat) (e1 e2 : Env), e1 ≠ e2 → e1.key = e2.key →
      envNodeH (envKeyNoState h3) A idx e1 = envNodeH (envKeyNoState h3) A idx e2 ∧
      ¬ (e1 ∈ envListH (envKeyNoState h3) A idx ∧ e2 ∈ envListH (envKeyNoState h3) A idx)) ∧
    (allUsefulB exM = true ∧ AllOwnRule exM ∧ IdxOk exM (parents exM).length id ∧ (parents exM).length = 5 ∧
      envListH (envKeyNoState boostHash3) exM id = [⟨[2], 0, 1, 3⟩, ⟨[0], 1, 1, 3⟩, ⟨[1], 1, 1, 4⟩] ∧
      envList exM id = [⟨[2], 0, 1, 3⟩, ⟨[0], 1, 1, 3⟩, ⟨[2], 0, 1, 4⟩, ⟨[1], 1, 1, 4⟩] ∧
      (0, 1) ∈ upSimViaLtsH (envKeyNoState boostHash3) exM 5 id ∧ (0, 1) ∉ upSimRef exM ∧
      (0, 1) ∉ upSimViaLtsH (envKeyFull boostHash4) exM 5 id ∧
      (∀ q r, (q, r) ∈ upSimViaLtsH (envKeyFull boostHash4) exM 5 id ↔ (q, r) ∈ upSimRef exM)) :=
    by
  have hown : AllOwnRule exM := allOwnRuleB_iff.mp (by decide +kernel)
  have hidx : IdxOk exM (parents exM).length id := idxOkB_iff.mp (by decide +kernel)
  -- the code as it is: no collision on `exM`, so it computes `upSimRef exM`, which does not relate `0` to `1`
  have hfull := (C04_env_table_full_is_exact boostHash4 exM id (noCollisionB_iff.mp (by decide +kernel))).2.2.2.2 5
    hidx (by decide +kernel) hown
  exact ⟨fun h3 A idx e1 e2 hne hk =>
      ⟨envNodeH_collision (fun _ _ => rfl) A idx (congrArg h3 hk) hk,
        not_both_stored (fun _ _ => rfl) A idx hne (congrArg h3 hk) hk⟩,
    by decide +kernel, hown, hidx, by decide +kernel, by decide +kernel, by decide +kernel, by decide +kernel, exM_upSimRef,
    fun h => exM_upSimRef ((hfull 0 1).mp h), hfull⟩

/-!
## still not proved

* `NoCollision` is an assumption about the 64-bit hash, not a theorem: `boost::hash_combine` is not injective, so for the
  code as it is the merge of `C04_env_table_collision_merges` remains possible in principle (decidable per automaton by
  `noCollisionB boostHash4 A idx`).
* Buckets / rehashing / the order of a bucket scan of libstdc++ are not modelled (scan over all entries, first match);
  `C04_env_table_scan_order_irrelevant` shows that at most one stored entry is accepted for a key, but a table with
  explicit buckets (and the theorem "every bucket order yields the same table") is not formalised.  If the hash codes were NOT cached (`noexcept` hash functor) the scan
  would call `operator==` on every node of the bucket and merge environments that merely share a bucket – not modelled.
* The wrongness of the seeded change is kernel-checked on the concrete automaton `exM` with `boostHash3` (the merge
  itself is proved for every hash and automaton); no general theorem "for every `A` with two such rules and parents
  that are not upward-similar the result differs from `upSimRef`" is proved.
* The `head` loop of the allocation function and the iteration order of `envMap` are read as in `Vata/TaLts.lean`
  (classes by `key`, insertion order), not mirrored statement by statement.
-/

end Vata.Props
