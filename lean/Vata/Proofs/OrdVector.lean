import Vata.OrdVector
import Vata.Proofs.ContainerLemmas
import Vata.Proofs.ListExt
/-!
# Theorems about the model of `VATA::Util::OrdVector` (`Vata/OrdVector.lean`)

Representation invariant `Sorted v` (strictly increasing = what `vectorIsSorted()` tests), abstraction
`abs v = fun x => x ∈ v`.
-/
namespace Vata.OrdVec

def Sorted (v : Vec) : Prop := v.Pairwise (· < ·)

instance (v : Vec) : Decidable (Sorted v) := inferInstanceAs (Decidable (v.Pairwise (· < ·)))

def abs (v : Vec) : Nat → Prop := fun x => x ∈ v

theorem sorted_nil : Sorted [] := List.Pairwise.nil
theorem sorted_single (x : Nat) : Sorted [x] := List.pairwise_singleton _ _

theorem sorted_cons {x : Nat} {v : Vec} : Sorted (x :: v) ↔ (∀ y ∈ v, x < y) ∧ Sorted v := List.pairwise_cons

theorem lt_of_lt_head {x y : Nat} {ys : Vec} (h : Sorted (y :: ys)) (hxy : x < y) : ∀ z ∈ y :: ys, x < z :=
  List.forall_mem_cons.2 ⟨hxy, fun z hz => Nat.lt_trans hxy ((sorted_cons.1 h).1 z hz)⟩

theorem sorted_cons_cons {x y : Nat} {r : Vec} : Sorted (x :: y :: r) ↔ x < y ∧ Sorted (y :: r) := by
  rw [sorted_cons]
  exact ⟨fun h => ⟨h.1 y List.mem_cons_self, h.2⟩, fun h => ⟨lt_of_lt_head h.2 h.1, h.2⟩⟩

theorem not_mem_of_lt_head {x y : Nat} {ys : Vec} (h : Sorted (y :: ys)) (hxy : x < y) : ¬ x ∈ y :: ys :=
  fun hm => Nat.lt_irrefl x (lt_of_lt_head h hxy x hm)

theorem sorted_append_cons {l r : Vec} {a : Nat} :
    Sorted (l ++ a :: r) ↔ Sorted l ∧ Sorted r ∧ (∀ y ∈ l, y < a) ∧ (∀ z ∈ r, a < z) := by
  unfold Sorted
  rw [List.pairwise_append, List.pairwise_cons]
  constructor
  · intro ⟨hl, ⟨har, hr⟩, hlr⟩
    exact ⟨hl, hr, fun y hy => hlr y hy a List.mem_cons_self, har⟩
  · intro ⟨hl, hr, hla, har⟩
    refine ⟨hl, ⟨har, hr⟩, fun y hy z hz => ?_⟩
    rcases List.mem_cons.1 hz with e | hz
    · rw [e]; exact hla y hy
    · exact Nat.lt_trans (hla y hy) (har z hz)

theorem sorted_split {v : Vec} (h : Sorted v) {m : Nat} (hm : m < v.length) :
    (∀ z ∈ v.take m, z < v[m]) ∧ (∀ z ∈ v.drop (m + 1), v[m] < z) := by
  rw [← List.take_append_drop m v, List.drop_eq_getElem_cons hm, sorted_append_cons] at h
  exact h.2.2

theorem sorted_take_lt {v : Vec} (h : Sorted v) {m x : Nat} (hm : m < v.length) (hx : v[m] < x) :
    ∀ z ∈ v.take (m + 1), z < x := by
  intro z hz
  rw [List.take_succ_eq_append_getElem hm, List.mem_append, List.mem_singleton] at hz
  rcases hz with hz | rfl
  · exact Nat.lt_trans ((sorted_split h hm).1 z hz) hx
  · exact hx

theorem sorted_drop_gt {v : Vec} (h : Sorted v) {m x : Nat} (hm : m < v.length) (hx : x < v[m]) :
    ∀ z ∈ v.drop m, x < z := by
  intro z hz
  rw [List.drop_eq_getElem_cons hm, List.mem_cons] at hz
  rcases hz with rfl | hz
  · exact hx
  · exact Nat.lt_trans hx ((sorted_split h hm).2 z hz)

theorem vectorIsSorted_iff : ∀ v : Vec, vectorIsSorted v = true ↔ Sorted v
  | [] => by simp [vectorIsSorted, sorted_nil]
  | [x] => by simp [vectorIsSorted, sorted_single]
  | x :: y :: r => by
    have ih := vectorIsSorted_iff (y :: r)
    have e : vectorIsSorted (x :: y :: r) = (if !(x < y) then false else vectorIsSorted (y :: r)) := rfl
    rw [sorted_cons_cons, ← ih, e]
    by_cases h : x < y <;> simp [h]

theorem sorted_nodup {v : Vec} (h : Sorted v) : v.Nodup := h.imp Nat.ne_of_lt

theorem sorted_ext {a b : Vec} (ha : Sorted a) (hb : Sorted b) (h : ∀ x, x ∈ a ↔ x ∈ b) : a = b :=
  pairwise_lt_ext ha hb h

theorem insSorted_perm (x : Nat) : ∀ l : List Nat, (insSorted x l).Perm (x :: l)
  | [] => List.Perm.refl _
  | y :: r => by
    unfold insSorted
    split
    · exact List.Perm.refl _
    · exact ((insSorted_perm x r).cons y).trans (List.Perm.swap x y r)

theorem mem_insSorted {x z : Nat} {l : List Nat} : z ∈ insSorted x l ↔ z = x ∨ z ∈ l := by
  rw [(insSorted_perm x l).mem_iff, List.mem_cons]

theorem insSorted_sorted (x : Nat) : ∀ l : List Nat, l.Pairwise (· ≤ ·) → (insSorted x l).Pairwise (· ≤ ·)
  | [], _ => List.pairwise_singleton _ _
  | y :: r, h => by
    unfold insSorted
    split
    · rename_i hxy
      exact List.pairwise_cons.2 ⟨List.forall_mem_cons.2
        ⟨hxy, fun z hz => Nat.le_trans hxy ((List.pairwise_cons.1 h).1 z hz)⟩, h⟩
    · rename_i hxy
      rw [List.pairwise_cons] at h ⊢
      refine ⟨fun z hz => ?_, insSorted_sorted x r h.2⟩
      rcases mem_insSorted.1 hz with rfl | hz
      · exact Nat.le_of_not_le hxy
      · exact h.1 z hz

theorem stdSort_perm : ∀ l : List Nat, (stdSort l).Perm l
  | [] => List.Perm.refl _
  | x :: r => (insSorted_perm x (stdSort r)).trans ((stdSort_perm r).cons x)

theorem stdSort_sorted : ∀ l : List Nat, (stdSort l).Pairwise (· ≤ ·)
  | [] => List.Pairwise.nil
  | x :: r => insSorted_sorted x _ (stdSort_sorted r)

theorem mem_stdSort {x : Nat} {l : List Nat} : x ∈ stdSort l ↔ x ∈ l := (stdSort_perm l).mem_iff

/-- what the C++ standard promises of `std::sort` (a sorted permutation of the input) determines the result: whatever
algorithm the library uses, it produces `stdSort l` -/
theorem stdSort_unique {l s : List Nat} (hp : s.Perm l) (hs : s.Pairwise (· ≤ ·)) : s = stdSort l :=
  List.Perm.eq_of_pairwise (le := (· ≤ ·)) (fun _ _ _ _ h1 h2 => Nat.le_antisymm h1 h2) hs (stdSort_sorted l)
    (hp.trans (stdSort_perm l).symm)

theorem stdSort_of_sorted {l : List Nat} (h : l.Pairwise (· ≤ ·)) : stdSort l = l :=
  (stdSort_unique (List.Perm.refl l) h).symm

theorem uniqueAux_spec : ∀ (l : List Nat) (prev : Nat), (prev :: l).Pairwise (· ≤ ·) →
    Sorted (prev :: uniqueAux prev l) ∧ ∀ x, x ∈ prev :: uniqueAux prev l ↔ x ∈ prev :: l
  | [], prev, _ => ⟨sorted_single _, fun _ => Iff.rfl⟩
  | y :: r, prev, h => by
    rw [List.pairwise_cons] at h
    have hpy : prev ≤ y := h.1 y List.mem_cons_self
    unfold uniqueAux
    by_cases e : prev = y
    · subst e
      rw [if_pos (beq_self_eq_true prev)]
      have ih := uniqueAux_spec r prev h.2
      refine ⟨ih.1, fun x => ?_⟩
      rw [ih.2 x, List.mem_cons, List.mem_cons, List.mem_cons, ← or_assoc, or_self]
    · rw [if_neg (mt eq_of_beq e)]
      have ih := uniqueAux_spec r y h.2
      refine ⟨sorted_cons_cons.2 ⟨Nat.lt_of_le_of_ne hpy e, ih.1⟩, fun x => ?_⟩
      rw [List.mem_cons, ih.2 x, List.mem_cons (a := x) (b := prev)]

theorem stdUnique_spec (l : List Nat) (h : l.Pairwise (· ≤ ·)) :
    Sorted (stdUnique l) ∧ ∀ x, x ∈ stdUnique l ↔ x ∈ l := by
  cases l with
  | nil => exact ⟨sorted_nil, fun _ => Iff.rfl⟩
  | cons x r => exact uniqueAux_spec r x h

theorem sorted_le {v : Vec} (h : Sorted v) : v.Pairwise (· ≤ ·) := h.imp (fun h => Nat.le_of_lt h)

theorem stdUnique_of_sorted {v : Vec} (h : Sorted v) : stdUnique v = v :=
  sorted_ext (stdUnique_spec v (sorted_le h)).1 h (stdUnique_spec v (sorted_le h)).2

theorem mkEmpty_sorted : Sorted mkEmpty := sorted_nil
theorem mem_mkEmpty (x : Nat) : ¬ x ∈ mkEmpty := List.not_mem_nil

theorem ofVector_sorted (l : List Nat) : Sorted (ofVector l) := (stdUnique_spec _ (stdSort_sorted l)).1
theorem mem_ofVector {x : Nat} {l : List Nat} : x ∈ ofVector l ↔ x ∈ l := by
  unfold ofVector
  rw [(stdUnique_spec _ (stdSort_sorted l)).2 x, mem_stdSort]

theorem ofInitList_sorted (l : List Nat) : Sorted (ofInitList l) := ofVector_sorted l
theorem mem_ofInitList {x : Nat} {l : List Nat} : x ∈ ofInitList l ↔ x ∈ l := mem_ofVector (l := l)
theorem ofRange_sorted (l : List Nat) : Sorted (ofRange l) := ofVector_sorted l
theorem mem_ofRange {x : Nat} {l : List Nat} : x ∈ ofRange l ↔ x ∈ l := mem_ofVector (l := l)
theorem ofKey_sorted (x : Nat) : Sorted (ofKey x) := sorted_single x
theorem mem_ofKey {x y : Nat} : y ∈ ofKey x ↔ y = x := List.mem_singleton

theorem ofVector_of_sorted {v : Vec} (h : Sorted v) : ofVector v = v := by
  unfold ofVector
  rw [stdSort_of_sorted (sorted_le h), stdUnique_of_sorted h]

theorem assign_sorted {self : Bool} {a b : Vec} (ha : Sorted a) (hb : Sorted b) : Sorted (assign self a b) := by
  unfold assign; split <;> assumption

theorem assign_eq {self : Bool} {a b : Vec} (h : self = true → a = b) : assign self a b = b := by
  unfold assign; split
  · rename_i hs; exact h hs
  · rfl

theorem clear_sorted (v : Vec) : Sorted (clear v) := sorted_nil
theorem mem_clear (v : Vec) (x : Nat) : ¬ x ∈ clear v := List.not_mem_nil

theorem bsearch_zero (v : Vec) (x first last : Nat) : bsearch 0 v x first last = .pos first := rfl

theorem bsearch_exit (fuel : Nat) (v : Vec) (x : Nat) {first last : Nat} (h : ¬ first < last) :
    bsearch (fuel + 1) v x first last = .pos first := by
  rw [bsearch, if_neg h]

theorem bsearch_step (fuel : Nat) (v : Vec) (x : Nat) {first last : Nat} (h : first < last)
    (hm : first + (last - first) / 2 < v.length) :
    bsearch (fuel + 1) v x first last =
      if v[first + (last - first) / 2] == x then .found (first + (last - first) / 2)
      else if v[first + (last - first) / 2] < x then bsearch fuel v x (first + (last - first) / 2 + 1) last
      else bsearch fuel v x first (first + (last - first) / 2) := by
  rw [bsearch, if_pos h]
  simp only [List.getElem?_eq_getElem hm]

/-- the loop with `last ≤ size()`. The last clause carries the loop invariant of the search on a sorted vector: everything
before `first` lies below the key, everything from `last` on above it -/
theorem bsearch_spec (v : Vec) (x : Nat) : ∀ (fuel first last : Nat), last ≤ v.length →
    bsearch fuel v x first last ≠ .oob ∧
    (∀ i, bsearch fuel v x first last = .found i → v[i]? = some x) ∧
    (∀ i, bsearch fuel v x first last = .pos i → Sorted v → first ≤ last → last - first ≤ fuel →
      (∀ y ∈ v.take first, y < x) → (∀ y ∈ v.drop last, x < y) →
      i ≤ v.length ∧ (∀ y ∈ v.take i, y < x) ∧ (∀ y ∈ v.drop i, x < y)) := by
  have exit : ∀ first last : Nat, last ≤ v.length → ∀ i, BS.pos first = .pos i → first ≤ last → last ≤ first →
      (∀ y ∈ v.take first, y < x) → (∀ y ∈ v.drop last, x < y) →
      i ≤ v.length ∧ (∀ y ∈ v.take i, y < x) ∧ (∀ y ∈ v.drop i, x < y) := by
    intro first last hl i h h1 h2 hlo hhi
    cases h
    cases Nat.le_antisymm h1 h2
    exact ⟨hl, hlo, hhi⟩
  intro fuel
  induction fuel with
  | zero =>
    intro first last hl
    rw [bsearch_zero]
    exact ⟨nofun, nofun, fun i h _ hfl hfu => exit first last hl i h hfl (by omega)⟩
  | succ fuel ih =>
    intro first last hl
    by_cases hlt : first < last
    · have hm1 : first ≤ first + (last - first) / 2 := Nat.le_add_right _ _
      have hm2 : first + (last - first) / 2 < last :=
        Nat.lt_sub_iff_add_lt'.1 (Nat.div_lt_self (Nat.sub_pos_of_lt hlt) (Nat.lt_succ_self 1))
      rw [bsearch_step fuel v x hlt (Nat.lt_of_lt_of_le hm2 hl)]
      generalize first + (last - first) / 2 = mid at hm1 hm2 ⊢
      have hm : mid < v.length := Nat.lt_of_lt_of_le hm2 hl
      by_cases he : (v[mid] == x) = true
      · rw [if_pos he]
        refine ⟨nofun, fun i h => ?_, nofun⟩
        cases h
        rw [List.getElem?_eq_getElem hm, eq_of_beq he]
      · rw [if_neg he]
        by_cases hyx : v[mid] < x
        · rw [if_pos hyx]
          obtain ⟨i1, i2, i3⟩ := ih (mid + 1) last hl
          exact ⟨i1, i2, fun i h hs hfl hfu _ hhi =>
            i3 i h hs hm2 (by omega) (sorted_take_lt hs hm hyx) hhi⟩
        · rw [if_neg hyx]
          obtain ⟨i1, i2, i3⟩ := ih first mid (Nat.le_of_lt hm)
          have hxy : x < v[mid] :=
            Nat.lt_of_le_of_ne (Nat.le_of_not_lt hyx) (fun e => he (beq_iff_eq.2 e.symm))
          exact ⟨i1, i2, fun i h hs hfl hfu hlo _ =>
            i3 i h hs hm1 (by omega) hlo (sorted_drop_gt hs hm hxy)⟩
    · rw [bsearch_exit fuel v x hlt]
      exact ⟨nofun, nofun, fun i h _ hfl _ => exit first last hl i h hfl (by omega)⟩

/-- memory safety: with `last ≤ size()` the loop never reads outside the vector -/
theorem bsearch_safe : ∀ (fuel : Nat) (v : Vec) (x first last : Nat), last ≤ v.length →
    bsearch fuel v x first last ≠ .oob :=
  fun fuel v x first last hl => (bsearch_spec v x fuel first last hl).1

theorem bsearch_pos {v : Vec} {x i : Nat} (hs : Sorted v) (h : bsearch v.length v x 0 v.length = .pos i) :
    i ≤ v.length ∧ (∀ y ∈ v.take i, y < x) ∧ (∀ y ∈ v.drop i, x < y) :=
  (bsearch_spec v x _ 0 _ (Nat.le_refl _)).2.2 i h hs (Nat.zero_le _) (Nat.le_refl _) nofun
    (by rw [List.drop_length]; nofun)

theorem length_copyBackward : ∀ (l : Nat) (w : Vec) (first : Nat), (copyBackward w first l).length = w.length
  | 0, _, _ => rfl
  | l + 1, w, first => by
    unfold copyBackward
    split
    · rw [length_copyBackward l, List.length_set]
    · rfl

theorem copyBackward_get : ∀ (l : Nat) (w : Vec) (first k : Nat), l < w.length →
    (copyBackward w first l)[k]? = if first < k ∧ k ≤ l then w[k - 1]? else w[k]?
  | 0, w, first, k, _ => by
    rw [copyBackward, if_neg (fun h => Nat.not_lt_zero _ (Nat.lt_of_lt_of_le h.1 h.2))]
  | l + 1, w, first, k, hl => by
    rw [copyBackward]
    by_cases hf : first < l + 1
    · rw [if_pos hf, copyBackward_get l _ first k (by rw [List.length_set]; exact Nat.lt_of_succ_lt hl)]
      by_cases c1 : first < k ∧ k ≤ l
      · rw [if_pos c1, if_pos ⟨c1.1, Nat.le_succ_of_le c1.2⟩,
          List.getElem?_set_ne (Nat.ne_of_gt (Nat.lt_succ_of_le (Nat.le_trans (Nat.sub_le k 1) c1.2)))]
      · rw [if_neg c1]
        by_cases c3 : l + 1 = k
        · subst c3
          rw [if_pos ⟨hf, Nat.le_refl _⟩, List.getElem?_set_self hl, Nat.add_sub_cancel,
            List.getD_eq_getElem?_getD, List.getElem?_eq_getElem (Nat.lt_of_succ_lt hl), Option.getD_some]
        · rw [if_neg (fun h => c1 ⟨h.1, Nat.le_of_lt_succ (Nat.lt_of_le_of_ne h.2 (Ne.symm c3))⟩),
            List.getElem?_set_ne c3]
    · rw [if_neg hf, if_neg (fun h => hf (Nat.lt_of_lt_of_le h.1 h.2))]

/-- `resize(size+1); copy_backward(begin+first, end-1, end); vec_[first] = x` inserts `x` before position `first` -/
theorem insertAt_eq (v : Vec) (first x : Nat) (hf : first ≤ v.length) :
    (copyBackward (v ++ [0]) first v.length).set first x = v.take first ++ x :: v.drop first := by
  apply List.ext_getElem?
  intro k
  have ht : (v.take first).length = first := List.length_take_of_le hf
  have hlen : (v ++ [0]).length = v.length + 1 := List.length_append
  rw [List.getElem?_set, length_copyBackward, hlen, copyBackward_get _ _ _ _ (by rw [hlen]; exact Nat.lt_succ_self _)]
  rcases Nat.lt_trichotomy k first with hk | rfl | hk
  · rw [if_neg (Nat.ne_of_gt hk), if_neg (fun h => Nat.lt_asymm hk h.1),
      List.getElem?_append_left (Nat.lt_of_lt_of_le hk hf), List.getElem?_append_left (by rw [ht]; exact hk),
      List.getElem?_take_of_lt hk]
  · rw [if_pos rfl, if_pos (Nat.lt_succ_of_le hf), List.getElem?_append_right (by rw [ht]; exact Nat.le_refl _), ht,
      Nat.sub_self]
    rfl
  · obtain ⟨d, rfl⟩ := Nat.exists_eq_add_of_lt hk
    rw [if_neg (Nat.ne_of_lt hk), List.getElem?_append_right (l₁ := v.take first) (by rw [ht]; exact Nat.le_of_lt hk), ht,
      show first + d + 1 - first = d + 1 by rw [Nat.add_assoc, Nat.add_sub_cancel_left],
      List.getElem?_cons_succ, List.getElem?_drop]
    by_cases c : first + d + 1 ≤ v.length
    · rw [if_pos ⟨hk, c⟩]
      exact List.getElem?_append_left (Nat.lt_of_succ_le c)
    · rw [if_neg (fun h => c h.2), List.getElem?_eq_none (by rw [hlen]; exact Nat.succ_le_of_lt (Nat.lt_of_not_le c)),
        List.getElem?_eq_none (Nat.le_of_lt_succ (Nat.lt_of_not_le c))]

theorem insertAt_spec {v : Vec} (h : Sorted v) {i x : Nat}
    (hlo : ∀ y ∈ v.take i, y < x) (hhi : ∀ y ∈ v.drop i, x < y) :
    Sorted (v.take i ++ x :: v.drop i) ∧ ∀ z, z ∈ v.take i ++ x :: v.drop i ↔ z = x ∨ z ∈ v := by
  refine ⟨sorted_append_cons.2 ⟨h.sublist (List.take_sublist i v), h.sublist (List.drop_sublist i v), hlo, hhi⟩,
    fun z => ?_⟩
  rw [List.mem_append, List.mem_cons, or_left_comm, ← List.mem_append, List.take_append_drop]

theorem lastLess_true {v : Vec} {x : Nat} (h : lastLess v x = true) :
    ∃ hm : v.length - 1 < v.length, v[v.length - 1] < x := by
  unfold lastLess at h
  split at h
  · rename_i hne
    have hm : v.length - 1 < v.length := Nat.sub_one_lt (by simpa using hne)
    rw [List.getElem?_eq_getElem hm] at h
    exact ⟨hm, by simpa using h⟩
  · cases h

theorem insert_spec {v : Vec} (h : Sorted v) (x : Nat) :
    Sorted (insert v x) ∧ ∀ z, z ∈ insert v x ↔ z = x ∨ z ∈ v := by
  unfold insert
  split
  · -- push_back: the insertion at position `size()`
    rename_i hfast
    obtain ⟨hm, hyx⟩ := lastLess_true hfast
    have hall := sorted_take_lt h hm hyx
    rw [Nat.sub_add_cancel (by omega)] at hall
    have := insertAt_spec h hall (by rw [List.drop_length]; nofun)
    rwa [List.take_length, List.drop_length] at this
  · split
    · rename_i i hb
      have hx : x ∈ v := List.mem_of_getElem? ((bsearch_spec v x _ _ _ (Nat.le_refl _)).2.1 i hb)
      exact ⟨h, fun z => (or_iff_right_of_imp (fun e => e ▸ hx)).symm⟩
    · rename_i hb
      exact absurd hb (bsearch_safe _ _ _ _ _ (Nat.le_refl _))
    · rename_i i hb
      obtain ⟨hi, hlo, hhi⟩ := bsearch_pos h hb
      rw [insertAt_eq v i x hi]
      exact insertAt_spec h hlo hhi

theorem insert_sorted {v : Vec} (h : Sorted v) (x : Nat) : Sorted (insert v x) := (insert_spec h x).1
theorem mem_insert {v : Vec} (h : Sorted v) {x z : Nat} : z ∈ insert v x ↔ z = x ∨ z ∈ v := (insert_spec h x).2 z

theorem insert_of_mem {v : Vec} (h : Sorted v) {x : Nat} (hx : x ∈ v) : insert v x = v :=
  sorted_ext (insert_sorted h x) h (fun _ => (mem_insert h).trans (or_iff_right_of_imp (fun e => e ▸ hx)))

theorem find_some {v : Vec} {x i : Nat} (h : find v x = some i) : v[i]? = some x := by
  unfold find at h
  split at h
  · rename_i j hb
    cases h
    exact (bsearch_spec v x _ _ _ (Nat.le_refl _)).2.1 _ hb
  · cases h

theorem find_none {v : Vec} (hs : Sorted v) {x : Nat} (h : find v x = none) : ¬ x ∈ v := by
  intro hx
  unfold find at h
  cases hb : bsearch v.length v x 0 v.length with
  | found i => rw [hb] at h; cases h
  | oob => exact bsearch_safe _ _ _ _ _ (Nat.le_refl _) hb
  | pos i =>
    obtain ⟨_, hlo, hhi⟩ := bsearch_pos hs hb
    rw [← List.take_append_drop i v, List.mem_append] at hx
    exact hx.elim (fun h => Nat.lt_irrefl x (hlo x h)) (fun h => Nat.lt_irrefl x (hhi x h))

theorem find_isSome_iff {v : Vec} (hs : Sorted v) {x : Nat} : (find v x).isSome = true ↔ x ∈ v := by
  cases hf : find v x with
  | none => exact ⟨nofun, fun hx => absurd hx (find_none hs hf)⟩
  | some i => exact ⟨fun _ => List.mem_of_getElem? (find_some hf), fun _ => rfl⟩

theorem find_rank {v : Vec} (hs : Sorted v) {x i : Nat} (h : find v x = some i) :
    i = (v.filter (· < x)).length := by
  obtain ⟨hi, e⟩ := List.getElem?_eq_some_iff.1 (find_some h)
  obtain ⟨hlo, hhi⟩ := sorted_split hs hi
  rw [e] at hlo hhi
  have h1 : (v.take i).filter (· < x) = v.take i := List.filter_eq_self.2 (fun y hy => decide_eq_true (hlo y hy))
  have h2 : (v.drop i).filter (· < x) = [] := by
    rw [List.drop_eq_getElem_cons hi, e, List.filter_eq_nil_iff]
    intro y hy
    rcases List.mem_cons.1 hy with rfl | hy
    · exact fun h => Nat.lt_irrefl y (of_decide_eq_true h)
    · exact fun h => Nat.lt_asymm (hhi y hy) (of_decide_eq_true h)
  rw [← List.take_append_drop i v, List.filter_append, h1, h2, List.append_nil, List.length_take,
    Nat.min_eq_left (Nat.le_of_lt hi)]

theorem find_eq {v : Vec} (hs : Sorted v) (x : Nat) :
    find v x = if x ∈ v then some (v.filter (· < x)).length else none := by
  cases hf : find v x with
  | none => rw [if_neg (find_none hs hf)]
  | some k => rw [if_pos (List.mem_of_getElem? (find_some hf)), find_rank hs hf]

theorem mem_unionLoop (a b : Vec) (z : Nat) : z ∈ unionLoop a b ↔ z ∈ a ∨ z ∈ b := by
  induction a, b using unionLoop.induct with
  | case1 => rw [unionLoop, or_self]
  | case2 y ys ih => rw [unionLoop, List.mem_cons, ih, List.mem_cons]; exact or_left_comm
  | case3 x xs ih => rw [unionLoop, List.mem_cons, ih, List.mem_cons]; exact or_assoc.symm
  | case4 x xs y ys hxy ih =>
    rw [unionLoop, if_pos hxy, List.mem_cons, ih, List.mem_cons (b := x)]; exact or_assoc.symm
  | case5 x xs y ys hxy hyx ih =>
    rw [unionLoop, if_neg hxy, if_pos hyx, List.mem_cons, ih, List.mem_cons (b := y)]; exact or_left_comm
  | case6 x xs y ys hxy hyx ih =>
    obtain rfl : x = y := Nat.le_antisymm (Nat.le_of_not_lt hyx) (Nat.le_of_not_lt hxy)
    rw [unionLoop, if_neg hxy, if_neg hyx, List.mem_cons, ih, List.mem_cons, List.mem_cons]
    exact or_or_distrib_left

theorem lt_unionLoop {x : Nat} {a b : Vec} (ha : ∀ z ∈ a, x < z) (hb : ∀ z ∈ b, x < z) : ∀ z ∈ unionLoop a b, x < z :=
  fun z hz => ((mem_unionLoop a b z).1 hz).elim (ha z) (hb z)

theorem unionLoop_sorted (a b : Vec) (ha : Sorted a) (hb : Sorted b) : Sorted (unionLoop a b) := by
  induction a, b using unionLoop.induct with
  | case1 => rw [unionLoop]; exact sorted_nil
  | case2 y ys ih =>
    rw [unionLoop, sorted_cons]
    exact ⟨lt_unionLoop nofun (sorted_cons.1 hb).1, ih sorted_nil (sorted_cons.1 hb).2⟩
  | case3 x xs ih =>
    rw [unionLoop, sorted_cons]
    exact ⟨lt_unionLoop (sorted_cons.1 ha).1 nofun, ih (sorted_cons.1 ha).2 sorted_nil⟩
  | case4 x xs y ys hxy ih =>
    rw [unionLoop, if_pos hxy, sorted_cons]
    exact ⟨lt_unionLoop (sorted_cons.1 ha).1 (lt_of_lt_head hb hxy), ih (sorted_cons.1 ha).2 hb⟩
  | case5 x xs y ys hxy hyx ih =>
    rw [unionLoop, if_neg hxy, if_pos hyx, sorted_cons]
    exact ⟨lt_unionLoop (lt_of_lt_head ha hyx) (sorted_cons.1 hb).1, ih ha (sorted_cons.1 hb).2⟩
  | case6 x xs y ys hxy hyx ih =>
    obtain rfl : x = y := Nat.le_antisymm (Nat.le_of_not_lt hyx) (Nat.le_of_not_lt hxy)
    rw [unionLoop, if_neg hxy, if_neg hyx, sorted_cons]
    exact ⟨lt_unionLoop (sorted_cons.1 ha).1 (sorted_cons.1 hb).1, ih (sorted_cons.1 ha).2 (sorted_cons.1 hb).2⟩

/-- no hypothesis on the arguments: the result of `Union` passes through the sorting constructor -/
theorem union_sorted (a b : Vec) : Sorted (union a b) := ofVector_sorted _

theorem mem_union {a b : Vec} {z : Nat} : z ∈ union a b ↔ z ∈ a ∨ z ∈ b := by
  unfold union
  rw [mem_ofVector, mem_unionLoop]

/-- under the invariant the second sort / unique pass of `Union` changes nothing -/
theorem union_eq_loop {a b : Vec} (ha : Sorted a) (hb : Sorted b) : union a b = unionLoop a b :=
  ofVector_of_sorted (unionLoop_sorted a b ha hb)

theorem insertAll_sorted (a b : Vec) : Sorted (insertAll a b) := union_sorted a b
theorem mem_insertAll {a b : Vec} {z : Nat} : z ∈ insertAll a b ↔ z ∈ a ∨ z ∈ b := mem_union

theorem stdEqual_iff : ∀ (a b : Vec), a.length = b.length → (stdEqual a b = true ↔ a = b)
  | [], [], _ => by simp [stdEqual]
  | [], _ :: _, h => by simp at h
  | _ :: _, [], h => by simp at h
  | x :: xs, y :: ys, h => by
    have ih := stdEqual_iff xs ys (by simpa using h)
    unfold stdEqual
    by_cases e : x = y
    · subst e; simp [ih]
    · simp [e]

theorem eq_iff (a b : Vec) : eq a b = true ↔ a = b := by
  rw [eq, Bool.and_eq_true, beq_iff_eq]
  exact ⟨fun h => (stdEqual_iff a b h.1).1 h.2, fun e => e ▸ ⟨rfl, (stdEqual_iff a a rfl).2 rfl⟩⟩

theorem eq_iff_ext {a b : Vec} (ha : Sorted a) (hb : Sorted b) : eq a b = true ↔ ∀ x, x ∈ a ↔ x ∈ b := by
  rw [eq_iff]
  constructor
  · intro e x; rw [e]
  · exact sorted_ext ha hb

/-- `std::lexicographical_compare` is the lexicographic order `<` of core `List` -/
theorem lt_iff : ∀ (a b : Vec), lt a b = true ↔ a < b
  | [], [] => by simp [lt, stdLexCompare]
  | [], _ :: _ => by simp [lt, stdLexCompare]
  | _ :: _, [] => by simp [lt, stdLexCompare]
  | x :: xs, y :: ys => by
    rw [lt, stdLexCompare, List.cons_lt_cons_iff, ← lt_iff xs ys, lt]
    rcases Nat.lt_trichotomy x y with h | rfl | h
    · simp [h]
    · simp
    · simp [Nat.lt_asymm h, Nat.ne_of_gt h, h]

theorem lt_irrefl (a : Vec) : lt a a = false :=
  Bool.eq_false_iff.2 (fun h => List.lt_irrefl a ((lt_iff a a).1 h))

theorem lt_trans {a b c : Vec} (h1 : lt a b = true) (h2 : lt b c = true) : lt a c = true :=
  (lt_iff a c).2 (List.lt_trans ((lt_iff a b).1 h1) ((lt_iff b c).1 h2))

theorem lt_trichotomy : ∀ (a b : Vec), lt a b = true ∨ a = b ∨ lt b a = true := by
  intro a b
  rw [lt_iff, lt_iff]
  by_cases h : a < b
  · exact Or.inl h
  · exact Or.inr ((List.le_iff_lt_or_eq.1 (List.not_lt.1 h)).symm.imp Eq.symm id)

theorem lt_asymm {a b : Vec} (h : lt a b = true) : lt b a = false :=
  Bool.eq_false_iff.2 (fun h' => List.lt_asymm ((lt_iff a b).1 h) ((lt_iff b a).1 h'))

theorem lt_total_sets {a b : Vec} (h : ¬ ∀ x, x ∈ a ↔ x ∈ b) : lt a b = true ∨ lt b a = true := by
  rcases lt_trichotomy a b with h1 | rfl | h1
  · exact Or.inl h1
  · exact absurd (fun _ => Iff.rfl) h
  · exact Or.inr h1

/-- with `lt_total_sets`: under the invariant `operator<` is a strict total order on the denoted sets -/
theorem lt_irrefl_sets {a b : Vec} (ha : Sorted a) (hb : Sorted b) (h : ∀ x, x ∈ a ↔ x ∈ b) : lt a b = false := by
  rw [sorted_ext ha hb h]; exact lt_irrefl b

/-- the merge loops step over an element that the other vector does not contain -/
theorem mem_cons_iff_of_not_mem {a : Vec} {y z : Nat} (h : ¬ y ∈ a) (hz : z ∈ a) (ys : Vec) : z ∈ ys ↔ z ∈ y :: ys :=
  (List.mem_cons.trans (or_iff_right (fun (e : z = y) => h (e ▸ hz)))).symm

theorem stdIncludes_iff : ∀ (big small : Vec), Sorted big → Sorted small →
    (stdIncludes big small = true ↔ ∀ x ∈ small, x ∈ big)
  | big, [], _, _ => by
    rw [show stdIncludes big [] = true by cases big <;> rfl]
    exact ⟨fun _ _ h => (nomatch h), fun _ => rfl⟩
  | [], s :: ss, _, _ => by
    rw [stdIncludes]
    exact ⟨nofun, fun h => nomatch h s List.mem_cons_self⟩
  | b :: bs, s :: ss, hb, hs => by
    rw [stdIncludes]
    by_cases h1 : s < b
    · rw [if_pos h1]
      exact ⟨nofun, fun h => absurd (h s List.mem_cons_self) (not_mem_of_lt_head hb h1)⟩
    · rw [if_neg h1]
      by_cases h2 : b < s
      · rw [if_neg (by simp [h2]), stdIncludes_iff bs (s :: ss) (sorted_cons.1 hb).2 hs]
        exact forall₂_congr (fun x hx => mem_cons_iff_of_not_mem (not_mem_of_lt_head hs h2) hx bs)
      · obtain rfl : s = b := Nat.le_antisymm (Nat.le_of_not_lt h2) (Nat.le_of_not_lt h1)
        rw [if_pos (by simp [h2]), stdIncludes_iff bs ss (sorted_cons.1 hb).2 (sorted_cons.1 hs).2,
          List.forall_mem_cons, and_iff_right List.mem_cons_self]
        exact forall₂_congr (fun x hx => mem_cons_iff_of_not_mem (List.nodup_cons.1 (sorted_nodup hs)).1 hx bs)

theorem isSubsetOf_iff {a bigger : Vec} (ha : Sorted a) (hb : Sorted bigger) :
    isSubsetOf a bigger = true ↔ ∀ x ∈ a, x ∈ bigger := stdIncludes_iff bigger a hb ha

/-- the intended loop (`&&`) decides disjointness -/
theorem haveEmptyIntersectionFixed_iff (a b : Vec) (ha : Sorted a) (hb : Sorted b) :
    haveEmptyIntersectionFixed a b = true ↔ ∀ x ∈ a, ¬ x ∈ b := by
  induction a, b using haveEmptyIntersectionFixed.induct with
  | case1 b => rw [haveEmptyIntersectionFixed]; exact ⟨fun _ _ h => (nomatch h), fun _ => rfl⟩
  | case2 x xs => rw [haveEmptyIntersectionFixed]; exact ⟨fun _ _ _ h => (nomatch h), fun _ => rfl⟩
  | case3 x xs y ys hxy =>
    rw [haveEmptyIntersectionFixed, if_pos hxy, eq_of_beq hxy]
    exact ⟨nofun, fun h => absurd List.mem_cons_self (h y List.mem_cons_self)⟩
  | case4 x xs y ys hne hlt ih =>
    rw [haveEmptyIntersectionFixed, if_neg hne, if_pos hlt, ih (sorted_cons.1 ha).2 hb, List.forall_mem_cons]
    exact (and_iff_right (not_mem_of_lt_head hb hlt)).symm
  | case5 x xs y ys hne hlt ih =>
    have hyx : y < x := Nat.lt_of_le_of_ne (Nat.le_of_not_lt hlt) (fun e => hne (beq_iff_eq.2 e.symm))
    rw [haveEmptyIntersectionFixed, if_neg hne, if_neg hlt, ih ha (sorted_cons.1 hb).2]
    exact forall₂_congr (fun z hz => not_congr (mem_cons_iff_of_not_mem (not_mem_of_lt_head ha hyx) hz ys))

/-- THE LOOP AS CODED (`||`): it follows the path of the intended loop, returns `false` when that finds a common element,
returns `true` only for two EMPTY vectors, and in every other case dereferences an iterator equal to `end()`
(no invariant needed) -/
theorem haveEmptyIntersection_eq (a b : Vec) :
    haveEmptyIntersection a b =
      if haveEmptyIntersectionFixed a b then (if a = [] ∧ b = [] then some true else none) else some false := by
  induction a, b using haveEmptyIntersection.induct with
  | case1 => simp [haveEmptyIntersection, haveEmptyIntersectionFixed]
  | case2 y ys => simp [haveEmptyIntersection, haveEmptyIntersectionFixed]
  | case3 x xs => simp [haveEmptyIntersection, haveEmptyIntersectionFixed]
  | case4 x xs y ys hxy =>
    rw [haveEmptyIntersection, haveEmptyIntersectionFixed, if_pos hxy, if_pos hxy]; simp
  | case5 x xs y ys hne hlt ih =>
    rw [haveEmptyIntersection, haveEmptyIntersectionFixed, if_neg hne, if_neg hne, if_pos hlt, if_pos hlt, ih]
    simp
  | case6 x xs y ys hne hlt ih =>
    rw [haveEmptyIntersection, haveEmptyIntersectionFixed, if_neg hne, if_neg hne, if_neg hlt, if_neg hlt, ih]
    simp

/-- the defect of the real member function: for two objects satisfying the invariant whose sets are disjoint and not
both empty, `HaveEmptyIntersection` reads past the end of a vector -/
theorem haveEmptyIntersection_reads_past_end {a b : Vec} (ha : Sorted a) (hb : Sorted b)
    (hdisj : ∀ x ∈ a, ¬ x ∈ b) (hne : ¬ (a = [] ∧ b = [])) : haveEmptyIntersection a b = none := by
  rw [haveEmptyIntersection_eq, (haveEmptyIntersectionFixed_iff a b ha hb).2 hdisj]
  simp [hne]

theorem iterate_spec {v : Vec} (h : Sorted v) :
    (iterate v).Pairwise (· < ·) ∧ (iterate v).Nodup ∧ (∀ x, x ∈ iterate v ↔ abs v x) ∧
      ∀ x, (iterate v).count x = if x ∈ v then 1 else 0 :=
  ⟨h, sorted_nodup h, fun _ => Iff.rfl, fun _ => (sorted_nodup h).count⟩

theorem toVector_eq_iterate (v : Vec) : toVector v = iterate v := rfl
theorem size_eq (v : Vec) : size v = (iterate v).length := rfl
theorem empty_iff (v : Vec) : empty v = true ↔ ∀ x, ¬ x ∈ v := by
  rw [empty, List.isEmpty_iff, List.eq_nil_iff_forall_not_mem]

theorem hashValue_congr {a b : Vec} (h : eq a b = true) : hashValue a = hashValue b := by
  rw [(eq_iff a b).1 h]

/-! ## histories: the objects behave as finite sets

The abstract machine keeps, for every object, an arbitrary list read as a SET (order and multiplicity carry no meaning:
`insert` conses, `Union` appends); its observations are defined from membership alone (`enum` lists the members of the set
in increasing order by filtering an initial segment of the naturals – no sorting algorithm involved). -/

def enum (a : ASet) : List Nat := (List.range (a.foldr max 0 + 1)).filter (fun x => decide (x ∈ a))

def aObserve (q : List ASet) : Query → Ans
  | .size i => .nat (enum (q.getD i [])).length
  | .empty i => .bool (q.getD i []).isEmpty
  | .iterate i => .list (enum (q.getD i []))
  | .toVector i => .list (enum (q.getD i []))
  | .find i x => .optNat (if x ∈ q.getD i [] then some ((enum (q.getD i [])).filter (· < x)).length else none)
  | .eq i j => .bool (decide ((∀ x ∈ q.getD i [], x ∈ q.getD j []) ∧ (∀ x ∈ q.getD j [], x ∈ q.getD i [])))
  | .lt i j => .bool (decide (enum (q.getD i []) < enum (q.getD j [])))
  | .isSubsetOf i j => .bool (decide (∀ x ∈ q.getD i [], x ∈ q.getD j []))
  | .haveEmptyIntersection i j =>
    .optBool (if ∀ x ∈ q.getD i [], ¬ x ∈ q.getD j [] then
      (if q.getD i [] = [] ∧ q.getD j [] = [] then some true else none) else some false)
  | .haveEmptyIntersectionFixed i j => .bool (decide (∀ x ∈ q.getD i [], ¬ x ∈ q.getD j []))
  | .hash i => .u64 (hashValue (enum (q.getD i [])))
  | .str i => .str (toStr (enum (q.getD i [])))

def Rel (c : Vec) (a : ASet) : Prop := Sorted c ∧ ∀ x, x ∈ c ↔ x ∈ a

def PoolRel (p : Pool) (q : List ASet) : Prop := p.length = q.length ∧ ∀ i, Rel (p.at i) (q.getD i [])

theorem enum_sorted (a : ASet) : Sorted (enum a) := List.Pairwise.filter _ List.pairwise_lt_range

theorem mem_enum {a : ASet} {x : Nat} : x ∈ enum a ↔ x ∈ a := by
  unfold enum
  rw [List.mem_filter, List.mem_range, decide_eq_true_iff]
  exact ⟨fun h => h.2, fun h => ⟨Nat.lt_succ_of_le (le_foldr_max id h), h⟩⟩

theorem enum_eq_nil {a : ASet} : enum a = [] ↔ a = [] := by
  simp only [List.eq_nil_iff_forall_not_mem, mem_enum]

theorem strictIncB_iff : ∀ v : Vec, strictIncB v = true ↔ Sorted v
  | [] => by simp [strictIncB, sorted_nil]
  | [x] => by simp [strictIncB, sorted_single]
  | x :: y :: r => by
    have ih := strictIncB_iff (y :: r)
    have e : strictIncB (x :: y :: r) = (decide (x < y) && strictIncB (y :: r)) := rfl
    rw [sorted_cons_cons, ← ih, e]
    simp

theorem rel_enum {c : Vec} {a : ASet} (h : Rel c a) : c = enum a :=
  sorted_ext h.1 (enum_sorted a) (fun x => (h.2 x).trans mem_enum.symm)

theorem rel_nil : Rel [] [] := ⟨sorted_nil, fun _ => Iff.rfl⟩

theorem poolRel_append {p : Pool} {q : List ASet} (h : PoolRel p q) {c : Vec} {a : ASet} (hr : Rel c a) :
    PoolRel (p ++ [c]) (q ++ [a]) := by
  refine ⟨by rw [List.length_append, List.length_append, h.1]; rfl, fun i => ?_⟩
  rw [Pool.at, getD_concat, getD_concat, h.1]
  split
  · exact hr
  · exact h.2 i

theorem poolRel_set {p : Pool} {q : List ASet} (h : PoolRel p q) (i : Nat) {c : Vec} {a : ASet} (hr : Rel c a) :
    PoolRel (p.set i c) (q.set i a) := by
  refine ⟨by rw [List.length_set, List.length_set, h.1], fun k => ?_⟩
  rw [Pool.at, getD_set, getD_set, ← h.1]
  split
  · exact hr
  · exact h.2 k

theorem step_rel {p : Pool} {q : List ASet} (h : PoolRel p q) (op : Op) : PoolRel (step p op) (aStep q op) := by
  cases op with
  | mkEmpty => exact poolRel_append h rel_nil
  | mkVector l => exact poolRel_append h ⟨ofVector_sorted l, fun _ => mem_ofVector⟩
  | mkInitList l => exact poolRel_append h ⟨ofInitList_sorted l, fun _ => mem_ofInitList⟩
  | mkKey x => exact poolRel_append h ⟨ofKey_sorted x, fun _ => Iff.rfl⟩
  | mkRange l => exact poolRel_append h ⟨ofRange_sorted l, fun _ => mem_ofRange⟩
  | copy i => exact poolRel_append h (h.2 i)
  | assign i j =>
    apply poolRel_set h i
    rw [assign_eq (fun e => by rw [eq_of_beq e])]
    exact h.2 j
  | insert i x =>
    exact poolRel_set h i ⟨insert_sorted (h.2 i).1 x,
      fun z => by rw [mem_insert (h.2 i).1, List.mem_cons, (h.2 i).2 z]⟩
  | insertAll i j =>
    exact poolRel_set h i ⟨insertAll_sorted _ _,
      fun z => by rw [mem_insertAll, List.mem_append, (h.2 i).2 z, (h.2 j).2 z]⟩
  | union i j =>
    exact poolRel_append h ⟨union_sorted _ _,
      fun z => by rw [mem_union, List.mem_append, (h.2 i).2 z, (h.2 j).2 z]⟩
  | clear i => exact poolRel_set h i rel_nil

theorem history_rel (ops : List Op) : PoolRel (run ops) (aRun ops) :=
  List.foldl_rel (r := PoolRel) ⟨rfl, fun _ => rel_nil⟩ (fun op _ _ _ h => step_rel h op)

theorem history_invariant (ops : List Op) : ∀ v ∈ run ops, Sorted v := by
  intro v hv
  obtain ⟨i, hi⟩ := List.mem_iff_getElem?.1 hv
  have := (history_rel ops).2 i
  rw [Pool.at, List.getD_eq_getElem?_getD, hi] at this
  exact this.1

/-- observations of related pools agree: every object is the increasing enumeration of its set, and on enumerations each
member function computes what its specification says of the sets -/
theorem observe_rel {p : Pool} {q : List ASet} (h : PoolRel p q) (qu : Query) : observe p qu = aObserve q qu := by
  have e : ∀ i, p.at i = enum (q.getD i []) := fun i => rel_enum (h.2 i)
  cases qu with
  | size i => rw [observe, aObserve, e]; rfl
  | empty i =>
    rw [observe, aObserve, e, empty, Bool.eq_iff_iff.2 (List.isEmpty_iff.trans (enum_eq_nil.trans List.isEmpty_iff.symm))]
  | iterate i => rw [observe, aObserve, e]; rfl
  | toVector i => rw [observe, aObserve, e]; rfl
  | find i x => rw [observe, aObserve, e, find_eq (enum_sorted _)]; simp only [mem_enum]
  | eq i j =>
    rw [observe, aObserve, e, e]
    refine congrArg Ans.bool ?_
    rw [Bool.eq_iff_iff, eq_iff_ext (enum_sorted _) (enum_sorted _), decide_eq_true_iff]
    simp only [mem_enum, iff_def, forall_and]
  | lt i j =>
    rw [observe, aObserve, e, e]
    refine congrArg Ans.bool ?_
    rw [Bool.eq_iff_iff, lt_iff, decide_eq_true_iff]
  | isSubsetOf i j =>
    rw [observe, aObserve, e, e]
    refine congrArg Ans.bool ?_
    rw [Bool.eq_iff_iff, isSubsetOf_iff (enum_sorted _) (enum_sorted _), decide_eq_true_iff]
    simp only [mem_enum]
  | haveEmptyIntersection i j =>
    rw [observe, aObserve, e, e, haveEmptyIntersection_eq]
    simp only [haveEmptyIntersectionFixed_iff _ _ (enum_sorted _) (enum_sorted _), mem_enum, enum_eq_nil]
  | haveEmptyIntersectionFixed i j =>
    rw [observe, aObserve, e, e]
    refine congrArg Ans.bool ?_
    rw [Bool.eq_iff_iff, haveEmptyIntersectionFixed_iff _ _ (enum_sorted _) (enum_sorted _), decide_eq_true_iff]
    simp only [mem_enum]
  | hash i => rw [observe, aObserve, e]
  | str i => rw [observe, aObserve, e]

/-- after any sequence of operations every observation of the objects (sizes, iteration order,
`find`, the comparisons, `IsSubsetOf`, `HaveEmptyIntersection` – as coded and as intended –, hash, printed form) equals the
observation of the abstract finite sets -/
theorem history_observe (ops : List Op) (qu : Query) : observe (run ops) qu = aObserve (aRun ops) qu :=
  observe_rel (history_rel ops) qu

/-! ## non-vacuity: concrete inputs satisfying the hypotheses of the theorems above, and what the model computes on them -/
namespace Ex

example : Sorted [1, 3, 5] := by decide
example : vectorIsSorted [1, 3, 3] = false := by decide
example : ¬ Sorted [1, 3, 3] := by decide
example : ofVector [5, 1, 3, 1, 5, 5] = [1, 3, 5] := by decide
example : ([1, 1, 3, 5, 5, 5] : List Nat).Perm [5, 1, 3, 1, 5, 5] ∧ ([1, 1, 3, 5, 5, 5] : List Nat).Pairwise (· ≤ ·) := by decide
example : ofKey 4 = [4] ∧ (mkEmpty : Vec) = [] := by decide
-- the four paths of `insert`: push_back, found, middle, front
example : insert [1, 3, 5] 7 = [1, 3, 5, 7] := by decide
example : insert [1, 3, 5] 3 = [1, 3, 5] := by decide
example : insert [1, 3, 5] 4 = [1, 3, 4, 5] := by decide
example : insert [1, 3, 5] 0 = [0, 1, 3, 5] := by decide
example : insert [] 2 = [2] := by decide
example : bsearch 3 [1, 3, 5] 4 0 3 = .pos 2 := by decide
example : (copyBackward ([1, 3, 5] ++ [0]) 1 3).set 1 2 = [1, 2, 3, 5] := by decide
example : find [1, 3, 5] 5 = some 2 ∧ find [1, 3, 5] 4 = none := by decide
example : unionLoop [1, 3] [2, 3] = [1, 2, 3] := by simp [unionLoop]
example : union [1, 3] [2, 3] = [1, 2, 3] := by
  simp [union, unionLoop, ofVector, stdSort, insSorted, stdUnique, uniqueAux]
example : eq [1, 3] [1, 3] = true ∧ eq [1, 3] [1, 4] = false ∧ eq [1] [1, 4] = false := by decide
example : lt [1, 3] [2] = true ∧ lt [1] [1, 2] = true ∧ lt [2] [1, 3] = false := by decide
example : isSubsetOf [3] [1, 3] = true ∧ isSubsetOf [2] [1, 3] = false ∧ isSubsetOf [] [] = true := by decide
-- the hypotheses of `haveEmptyIntersection_reads_past_end` hold for ([1], [2])
example : Sorted [1] ∧ Sorted [2] ∧ (∀ x ∈ [1], ¬ x ∈ [2]) ∧ ¬ (([1] : Vec) = [] ∧ ([2] : Vec) = []) := by decide
example : haveEmptyIntersection [1] [2] = none := by simp [haveEmptyIntersection]
example : haveEmptyIntersection [] [2] = none := by simp [haveEmptyIntersection]
example : haveEmptyIntersection [1, 3] [2, 3] = some false := by simp [haveEmptyIntersection]
example : haveEmptyIntersection [] [] = some true := by simp [haveEmptyIntersection]
example : haveEmptyIntersectionFixed [1] [2] = true := by simp [haveEmptyIntersectionFixed]
example : (iterate [1, 3, 5]).count 3 = 1 ∧ (iterate [1, 3, 5]).count 2 = 0 := by decide
example : toStr [1, 3] = "{ 1, 3}" ∧ toStr [] = "{}" := by decide
example : run [.mkVector [3, 1, 2, 3], .mkKey 7, .insert 0 0, .copy 0, .clear 1, .assign 1 0, .insert 1 9]
    = [[0, 1, 2, 3], [0, 1, 2, 3, 9], [0, 1, 2, 3]] := by decide
example : aRun [.mkVector [3, 1, 2, 3], .mkKey 7, .insert 0 0, .copy 0, .clear 1, .assign 1 0, .insert 1 9]
    = [[0, 3, 1, 2, 3], [9, 0, 3, 1, 2, 3], [0, 3, 1, 2, 3]] := by decide
example : enum [9, 0, 3, 1, 2, 3] = [0, 1, 2, 3, 9] := by decide

end Ex

end Vata.OrdVec
