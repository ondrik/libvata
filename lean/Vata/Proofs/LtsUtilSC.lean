import Vata.LtsUtil
import Vata.Proofs.LtsUtilCA
import Vata.Proofs.ListExt
import Vata.Proofs.ContainerLemmas

/-!
# `SharedCounter` as coded refines a table of numbers: toolkit and invariant

Model: section `namespace SC` of `Vata/LtsUtil.lean`.  The invariant `Vata.LU.SC.Inv` says that every row address in use is a
row of the allocator whose reference-count cell (once the counter is running) equals the number of (counter, row) positions
pointing to it (`refs`), and whose data columns hold the positive entries of the table.  Every operation is then an instance
of one of three generic steps: a whole counter replaced, the row of one key index replaced (`Focus.step`), a counter
appended.  The operations themselves are in `LtsUtilSC2` … `LtsUtilSC4`, the refinement theorems in `LtsUtilSC5`.
-/

namespace Vata.LU.SC
namespace P


def sumTo (f : Nat → Nat) : Nat → Nat
  | 0 => 0
  | n + 1 => sumTo f n + f n

def AtMostOne (f : Nat → Nat) (n : Nat) : Prop :=
  ∀ i j, i < n → j < n → 0 < f i → 0 < f j → i = j

section
variable {f g : Nat → Nat} {n i j : Nat}

theorem sumTo_congr : ∀ {n : Nat}, (∀ i, i < n → f i = g i) → sumTo f n = sumTo g n
  | 0, _ => rfl
  | n + 1, h => by
    rw [sumTo, sumTo, sumTo_congr fun i hi => h i (Nat.lt_succ_of_lt hi), h n (Nat.lt_succ_self n)]

theorem sumTo_zero : ∀ {n : Nat}, (∀ i, i < n → f i = 0) → sumTo f n = 0
  | 0, _ => rfl
  | n + 1, h => by rw [sumTo, sumTo_zero fun i hi => h i (Nat.lt_succ_of_lt hi), h n (Nat.lt_succ_self n)]

theorem sumTo_split : ∀ {n : Nat}, j < n → sumTo f n = f j + sumTo (fun c => if c = j then 0 else f c) n
  | n + 1, hj => by
    rw [sumTo, sumTo]
    by_cases hjn : j = n
    · subst hjn
      rw [if_pos rfl, Nat.add_zero, Nat.add_comm]
      exact congrArg (f j + ·) (sumTo_congr fun c hc => (if_neg (Nat.ne_of_lt hc)).symm)
    · rw [if_neg (Ne.symm hjn), sumTo_split (Nat.lt_of_le_of_ne (Nat.le_of_lt_succ hj) hjn), Nat.add_assoc]

theorem le_sumTo (hj : j < n) : f j ≤ sumTo f n :=
  sumTo_split hj ▸ Nat.le_add_right ..

theorem add_le_sumTo (hi : i < n) (hj : j < n) (hne : i ≠ j) : f i + f j ≤ sumTo f n := by
  rw [sumTo_split hi]
  have := le_sumTo (f := fun c => if c = i then 0 else f c) hj
  rw [if_neg (Ne.symm hne)] at this
  exact Nat.add_le_add_left this _

theorem sumTo_update (hj : j < n) (h : ∀ i, i < n → i ≠ j → g i = f i) : sumTo g n + f j = sumTo f n + g j := by
  rw [sumTo_split (f := g) hj, sumTo_split (f := f) hj,
    sumTo_congr (f := fun c => if c = j then 0 else g c) (g := fun c => if c = j then 0 else f c) fun c hc => by
      by_cases e : c = j
      · rw [if_pos e, if_pos e]
      · rw [if_neg e, if_neg e, h c hc e]]
  omega

theorem sumTo_eq_zero (h : sumTo f n = 0) : ∀ i, i < n → f i = 0 :=
  fun _ hi => Nat.eq_zero_of_le_zero (h ▸ le_sumTo hi)

theorem sumTo_eq_single (hj : j < n) (h : sumTo f n = f j) : ∀ i, i < n → i ≠ j → f i = 0 := by
  intro i hi hne
  have := add_le_sumTo (f := f) hi hj hne
  omega

theorem atMostOne_of_sum_le_one (h : sumTo f n ≤ 1) : AtMostOne f n := by
  intro i j hi hj hfi hfj
  apply Classical.byContradiction
  intro hne
  have := add_le_sumTo (f := f) hi hj hne
  omega

theorem atMostOne_of_zero (h : ∀ i, i < n → i ≠ j → f i = 0) : AtMostOne f n := by
  intro i k hi hk hfi hfk
  have h1 : i = j := Classical.byContradiction fun hne => Nat.ne_of_gt hfi (h i hi hne)
  have h2 : k = j := Classical.byContradiction fun hne => Nat.ne_of_gt hfk (h k hk hne)
  exact h1.trans h2.symm

theorem AtMostOne.sum_eq (h : AtMostOne f n) (hj : j < n) (hf : 0 < f j) : sumTo f n = f j := by
  rw [sumTo_split hj, sumTo_zero, Nat.add_zero]
  intro c hc
  show (if c = j then 0 else f c) = 0
  split
  · rfl
  · rename_i hne
    exact Classical.byContradiction fun hpos => hne (h c j hc hj (Nat.pos_of_ne_zero hpos) hf)

theorem AtMostOne.mono (h : AtMostOne f n) (hle : ∀ i, i < n → g i ≤ f i) : AtMostOne g n :=
  fun i j hi hj hgi hgj => h i j hi hj (Nat.lt_of_lt_of_le hgi (hle i hi)) (Nat.lt_of_lt_of_le hgj (hle j hj))

theorem AtMostOne.congr (h : AtMostOne f n) (he : ∀ i, i < n → g i = f i) : AtMostOne g n :=
  h.mono fun i hi => Nat.le_of_eq (he i hi)

end

/-! ## index arithmetic: key index `idx` = row `idx / n`, column `idx % n` -/

theorem idx_div {n r c : Nat} (hc : c < n) : (r * n + c) / n = r := by
  rw [Nat.mul_comm, Nat.mul_add_div (Nat.lt_of_le_of_lt (Nat.zero_le c) hc), Nat.div_eq_of_lt hc]; rfl

theorem idx_mod {n r c : Nat} (hc : c < n) : (r * n + c) % n = c := by
  rw [Nat.mul_comm, Nat.mul_add_mod, Nat.mod_eq_of_lt hc]

theorem idx_lt {n r c rows : Nat} (hc : c < n) (hr : r < rows) : r * n + c < rows * n :=
  Nat.lt_of_lt_of_le (by rw [Nat.succ_mul]; exact Nat.add_lt_add_left hc _) (Nat.mul_le_mul_right n hr)

theorem div_lt_rows {n idx rows : Nat} (h : idx < rows * n) : idx / n < rows := by
  rw [Nat.mul_comm] at h
  exact Nat.div_lt_of_lt_mul h

/-- row `i` lies in the row range `labelMap_[l]` of some label `l` of `labels` -/
def InLabels (cfg : Cfg) (labels : List Nat) (i : Nat) : Prop :=
  ∃ l, l ∈ labels ∧ ∃ lm, cfg.labelMap[l]? = some lm ∧ lm.1 ≤ i ∧ i < lm.2

theorem mem_copiedRows (cfg : Cfg) (labels : List Nat) (n r : Nat) :
    r ∈ copiedRows cfg labels n ↔ r < n ∧ InLabels cfg labels r := by
  simp only [copiedRows, List.mem_filter, List.mem_range, List.any_eq_true, InLabels]
  refine and_congr_right fun _ => exists_congr fun l => and_congr_right fun _ => ?_
  cases cfg.labelMap[l]? with
  | none => exact ⟨nofun, fun ⟨_, h, _⟩ => nomatch h⟩
  | some lm =>
    simp only [Bool.and_eq_true, decide_eq_true_eq]
    exact ⟨fun h => ⟨lm, rfl, h⟩, fun ⟨_, e, h⟩ => Option.some.inj e ▸ h⟩


@[simp] theorem setCell_next (m : Mem) (p i v : Nat) : (setCell m p i v).next = m.next := rfl
@[simp] theorem setCell_free (m : Mem) (p i v : Nat) : (setCell m p i v).free = m.free := rfl
@[simp] theorem reclaim_next (m : Mem) (p : Nat) : (reclaim m p).next = m.next := rfl
@[simp] theorem reclaim_cells (m : Mem) (p : Nat) : (reclaim m p).cells = m.cells := rfl
@[simp] theorem reclaim_free (m : Mem) (p : Nat) : (reclaim m p).free = p :: m.free := rfl
@[simp] theorem cell_reclaim (m : Mem) (p q i : Nat) : cell (reclaim m p) q i = cell m q i := rfl

theorem setCell_get (m : Mem) (p i v q : Nat) :
    (setCell m p i v).cells.get q = if q = p then (m.cells.get p).set i v else m.cells.get q :=
  Heap.get_set ..

theorem setCell_get_ne (m : Mem) (p i v : Nat) {q : Nat} (h : q ≠ p) : (setCell m p i v).cells.get q = m.cells.get q :=
  Heap.get_set_ne _ _ h

@[simp] theorem setCell_len (m : Mem) (p i v q : Nat) :
    ((setCell m p i v).cells.get q).length = (m.cells.get q).length := by
  rw [setCell_get]; split
  · rename_i h; rw [List.length_set, h]
  · rfl

theorem cell_of_get {m m' : Mem} {p p' : Nat} (h : m'.cells.get p' = m.cells.get p) (j : Nat) :
    cell m' p' j = cell m p j := by
  unfold cell; rw [h]

theorem cell_of_cells {m m' : Mem} (h : m'.cells = m.cells) (p j : Nat) : cell m' p j = cell m p j := by
  unfold cell; rw [h]

theorem cell_setCell_same {m : Mem} {p i v : Nat} (h : i < (m.cells.get p).length) : cell (setCell m p i v) p i = v := by
  rw [cell, setCell_get, if_pos rfl, List.getD_eq_getElem?_getD, List.getElem?_set_self h]; rfl

theorem cell_setCell_ne_col (m : Mem) (p i v q : Nat) {j : Nat} (h : j ≠ i) : cell (setCell m p i v) q j = cell m q j := by
  rw [cell, setCell_get]; split
  · rename_i hq; rw [List.getD_eq_getElem?_getD, List.getElem?_set_ne (Ne.symm h), hq]; rfl
  · rfl

theorem cell_setCell_ne_addr (m : Mem) (p i v j : Nat) {q : Nat} (h : q ≠ p) : cell (setCell m p i v) q j = cell m q j :=
  cell_of_get (setCell_get_ne m p i v h) j


def rowRefs (p : Nat) : List Row → Nat
  | [] => 0
  | row :: rest => (if row.data = some p then 1 else 0) + rowRefs p rest

def crefs (p : Nat) : Option Cnt → Nat
  | none => 0
  | some c => rowRefs p c

/-- number of (counter, row) pairs of the world whose `data_` is `p` -/
def refs (p : Nat) : List (Option Cnt) → Nat
  | [] => 0
  | c :: cs => crefs p c + refs p cs

end P

open P in
theorem rowRefs_eq_countP (p : Nat) : ∀ (c : List Row), rowRefs p c = c.countP (fun row => row.data == some p)
  | [] => rfl
  | row :: rest => by
    rw [List.countP_cons, rowRefs, rowRefs_eq_countP p rest, Nat.add_comm]
    by_cases h : row.data = some p
    · rw [if_pos h, if_pos (beq_iff_eq.2 h)]
    · rw [if_neg h, if_neg fun e => h (beq_iff_eq.1 e)]

namespace P

theorem rowRefs_pos_iff {p : Nat} {c : List Row} : 0 < rowRefs p c ↔ ∃ row, row ∈ c ∧ row.data = some p := by
  rw [rowRefs_eq_countP, List.countP_pos_iff]
  exact exists_congr fun _ => and_congr_right fun _ => beq_iff_eq

theorem rowRefs_pos_of_get {p : Nat} {row : Row} {c : List Row} {r : Nat} (h : c[r]? = some row)
    (hd : row.data = some p) : 0 < rowRefs p c :=
  rowRefs_pos_iff.2 ⟨row, List.mem_of_getElem? h, hd⟩

theorem rowRefs_replicate_none (p n m : Nat) : rowRefs p (List.replicate n ⟨m, none⟩) = 0 := by
  rw [rowRefs_eq_countP, List.countP_replicate]; rfl

theorem rowRefs_set {p : Nat} {row row' : Row} :
    ∀ {c : List Row} {r : Nat}, c[r]? = some row →
      rowRefs p (c.set r row') + (if row.data = some p then 1 else 0) = rowRefs p c + (if row'.data = some p then 1 else 0)
  | x :: rest, 0, h => by
    cases h
    rw [List.set_cons_zero, rowRefs, rowRefs]; ac_rfl
  | x :: rest, r + 1, h => by
    rw [List.set_cons_succ, rowRefs, rowRefs, Nat.add_assoc, rowRefs_set (c := rest) (r := r) h, Nat.add_assoc]

theorem refs_append (p : Nat) (x : Option Cnt) : ∀ (cs : List (Option Cnt)), refs p (cs ++ [x]) = refs p cs + crefs p x
  | [] => (Nat.zero_add _).symm
  | c :: cs => by rw [List.cons_append, refs, refs, refs_append p x cs, Nat.add_assoc]

theorem refs_set {p : Nat} {x : Option Cnt} :
    ∀ {cs : List (Option Cnt)} {i : Nat}, i < cs.length →
      refs p (cs.set i x) + crefs p (cs.getD i none) = refs p cs + crefs p x
  | c :: cs, 0, _ => by rw [List.set_cons_zero, refs, refs, List.getD_cons_zero]; ac_rfl
  | c :: cs, i + 1, h => by
    rw [List.set_cons_succ, refs, refs, List.getD_cons_succ, Nat.add_assoc,
      refs_set (cs := cs) (i := i) (Nat.lt_of_succ_lt_succ h), Nat.add_assoc]

theorem crefs_le_refs {p : Nat} : ∀ {cs : List (Option Cnt)} (i : Nat), crefs p (cs.getD i none) ≤ refs p cs
  | [], _ => Nat.le_refl 0
  | _ :: _, 0 => Nat.le_add_right ..
  | _ :: cs, i + 1 => Nat.le_trans (crefs_le_refs (cs := cs) i) (Nat.le_add_left ..)

theorem refs_pos {p : Nat} : ∀ {cs : List (Option Cnt)}, 0 < refs p cs → ∃ i c, cs.getD i none = some c ∧ 0 < rowRefs p c
  | x :: cs, h => by
    by_cases hx : 0 < crefs p x
    · cases x with
      | none => cases hx
      | some c => exact ⟨0, c, rfl, hx⟩
    · have h' : 0 < refs p cs := by rw [refs] at h; omega
      obtain ⟨i, c, hi, hc⟩ := refs_pos (cs := cs) h'
      exact ⟨i + 1, c, hi, hc⟩

theorem rowRefs_le_refs {p : Nat} {cs : List (Option Cnt)} {i : Nat} {c : Cnt} (hc : cs.getD i none = some c) :
    rowRefs p c ≤ refs p cs := by
  have := crefs_le_refs (p := p) (cs := cs) i
  rwa [hc] at this

theorem refs_pos_of_get {p : Nat} {cs : List (Option Cnt)} {i r : Nat} {c : Cnt} {row : Row}
    (hc : cs.getD i none = some c) (hr : c[r]? = some row) (hd : row.data = some p) : 0 < refs p cs :=
  Nat.lt_of_lt_of_le (rowRefs_pos_of_get hr hd) (rowRefs_le_refs hc)

theorem refs_update {p : Nat} {cs : List (Option Cnt)} {i r : Nat} {c : Cnt} {row : Row} (row' : Row)
    (hc : cs.getD i none = some c) (hr : c[r]? = some row) :
    refs p (cs.set i (some (c.set r row'))) + (if row.data = some p then 1 else 0) =
      refs p cs + (if row'.data = some p then 1 else 0) := by
  have h1 := refs_set (p := p) (x := some (c.set r row')) (lt_of_getD_eq_some hc)
  rw [hc] at h1
  have h2 := rowRefs_set (p := p) (row' := row') hr
  simp only [crefs] at h1
  omega

theorem refs_replace {p : Nat} {cs : List (Option Cnt)} {i : Nat} {c : Cnt} (x : Option Cnt)
    (hc : cs.getD i none = some c) : refs p (cs.set i x) + rowRefs p c = refs p cs + crefs p x := by
  have h1 := refs_set (p := p) (x := x) (lt_of_getD_eq_some hc)
  rwa [hc] at h1

theorem refs_ge_two {p : Nat} {cs : List (Option Cnt)} {i r j r' : Nat} {c cj : Cnt} {row rowj : Row}
    (hc : cs.getD i none = some c) (hr : c[r]? = some row) (hd : row.data = some p)
    (hcj : cs.getD j none = some cj) (hrj : cj[r']? = some rowj) (hdj : rowj.data = some p)
    (hne : i ≠ j ∨ r ≠ r') : 2 ≤ refs p cs := by
  have h1 := refs_update (p := p) ⟨0, none⟩ hc hr
  rw [if_pos hd, if_neg nofun] at h1
  have h3 : 0 < refs p (cs.set i (some (c.set r ⟨0, none⟩))) := by
    by_cases hij : j = i
    · subst hij
      cases hc.symm.trans hcj
      refine refs_pos_of_get (r := r') (getD_set_self (lt_of_getD_eq_some hc) ..) ?_ hdj
      rw [List.getElem?_set_ne (hne.resolve_left fun h => h rfl)]; exact hrj
    · exact refs_pos_of_get ((getD_set_ne _ hij ..).trans hcj) hrj hdj
  omega


/-- row `p` has its length and its data columns in `m'` as in `m` (the count cell may differ) -/
def Same (cfg : Cfg) (m m' : Mem) (p : Nat) : Prop :=
  (m'.cells.get p).length = (m.cells.get p).length ∧ ∀ col, col < cfg.rowSize → cell m' p col = cell m p col

theorem Same.rfl' {cfg : Cfg} {m m' : Mem} {p : Nat} (h : m'.cells.get p = m.cells.get p) : Same cfg m m' p :=
  ⟨by rw [h], fun col _ => by unfold cell; rw [h]⟩

/-- a row with `data_ = p`; `f` = the values of its columns, `ms` = its `master_` -/
structure DataInv (cfg : Cfg) (m : Mem) (cs : List (Option Cnt)) (ph : Phase) (f : Nat → Nat) (ms p : Nat) : Prop where
  lt : p < m.next
  len : (m.cells.get p).length = cfg.rowSize + 1
  cols : ∀ col, col < cfg.rowSize → 0 < f col → cell m p col = f col
  /-- running: the reference count cell is the number of sharers -/
  run : ph = .running → cell m p cfg.rowSize = refs p cs
  /-- filling: not shared, count 0 (one column so far) or 1 -/
  fill : ph = .filling → refs p cs = 1 ∧ ms ≠ 0 ∧
    (cell m p cfg.rowSize = 1 ∨ (cell m p cfg.rowSize = 0 ∧ AtMostOne f cfg.rowSize))
  notFresh : ph ≠ .fresh

structure RowInv (cfg : Cfg) (m : Mem) (cs : List (Option Cnt)) (ph : Phase) (f : Nat → Nat) (row : Row) : Prop where
  master : row.master = sumTo f cfg.rowSize
  noData : row.data = none → (ph = .filling → row.master = 0) ∧ AtMostOne f cfg.rowSize
  data : ∀ p, row.data = some p → DataInv cfg m cs ph f row.master p

structure CntInv (cfg : Cfg) (m : Mem) (cs : List (Option Cnt)) (c : Cnt) (a : A) : Prop where
  len : c.length = a.rows
  vlen : a.val.length = a.rows * cfg.rowSize
  fresh : a.phase = .fresh → a.rows = 0
  rows : ∀ r row, c[r]? = some row → RowInv cfg m cs a.phase (fun col => a.at (r * cfg.rowSize + col)) row

end P

open P in
/-- the representation invariant of a world of counters over one allocator, against the table of numbers `aw` -/
structure Inv (cfg : Cfg) (w : World) (aw : AWorld) : Prop where
  len : w.cnts.length = aw.length
  live : ∀ i, w.cnts.getD i none = none ↔ aw.getD i none = none
  cnt : ∀ i c a, w.cnts.getD i none = some c → aw.getD i none = some a → CntInv cfg w.mem w.cnts c a
  nodup : w.mem.free.Nodup
  free : ∀ p, p ∈ w.mem.free → p < w.mem.next ∧ refs p w.cnts = 0

namespace P

variable {cfg : Cfg} {m m' : Mem} {cs cs' : List (Option Cnt)} {aw : AWorld} {c : Cnt} {a : A} {row : Row} {ph : Phase}

theorem DataInv.congr {f g : Nat → Nat} {ms p : Nat}
    (h : DataInv cfg m cs ph f ms p) (he : ∀ col, col < cfg.rowSize → g col = f col) : DataInv cfg m cs ph g ms p where
  lt := h.lt
  len := h.len
  cols := fun col hc hp => by rw [he col hc] at hp ⊢; exact h.cols col hc hp
  run := h.run
  fill := fun hph => by
    obtain ⟨h1, h2, h3⟩ := h.fill hph
    refine ⟨h1, h2, ?_⟩
    rcases h3 with h3 | ⟨h3, h4⟩
    · exact Or.inl h3
    · exact Or.inr ⟨h3, h4.congr he⟩
  notFresh := h.notFresh

theorem RowInv.congr {f g : Nat → Nat} 
    (h : RowInv cfg m cs ph f row) (he : ∀ col, col < cfg.rowSize → g col = f col) : RowInv cfg m cs ph g row where
  master := by rw [h.master]; exact (sumTo_congr he).symm
  noData := fun hd => ⟨(h.noData hd).1, (h.noData hd).2.congr he⟩
  data := fun p hp => (h.data p hp).congr he

/-- the row at `p` stays valid when its data columns are untouched and its count cell moves with the number of sharers
(which does not move for a row under construction) -/
theorem DataInv.keep {f : Nat → Nat} {ms p : Nat}
    (h : DataInv cfg m cs ph f ms p) (hn : m.next ≤ m'.next) (hs : Same cfg m m' p)
    (he : cell m' p cfg.rowSize + refs p cs = cell m p cfg.rowSize + refs p cs')
    (hf : ph = .filling → refs p cs' = refs p cs) : DataInv cfg m' cs' ph f ms p where
  lt := Nat.lt_of_lt_of_le h.lt hn
  len := hs.1.trans h.len
  cols := fun col hcol hp => (hs.2 col hcol).trans (h.cols col hcol hp)
  run := fun hph => by have := h.run hph; omega
  fill := fun hph => by
    have hr := hf hph
    have hc : cell m' p cfg.rowSize = cell m p cfg.rowSize := Nat.add_right_cancel (hr ▸ he)
    rw [hr, hc]
    exact h.fill hph
  notFresh := h.notFresh

theorem DataInv.of_filling {f : Nat → Nat} {ms p : Nat}
    (hph : ph = .filling) (lt : p < m.next) (len : (m.cells.get p).length = cfg.rowSize + 1)
    (cols : ∀ col, col < cfg.rowSize → 0 < f col → cell m p col = f col)
    (fill : refs p cs = 1 ∧ ms ≠ 0 ∧
      (cell m p cfg.rowSize = 1 ∨ (cell m p cfg.rowSize = 0 ∧ AtMostOne f cfg.rowSize))) :
    DataInv cfg m cs ph f ms p where
  lt := lt
  len := len
  cols := cols
  run := fun h => by cases hph.symm.trans h
  fill := fun _ => fill
  notFresh := fun h => by cases hph.symm.trans h

theorem DataInv.of_running {f : Nat → Nat} {ms p : Nat}
    (hph : ph = .running) (lt : p < m.next) (len : (m.cells.get p).length = cfg.rowSize + 1)
    (cols : ∀ col, col < cfg.rowSize → 0 < f col → cell m p col = f col)
    (run : cell m p cfg.rowSize = refs p cs) : DataInv cfg m cs ph f ms p where
  lt := lt
  len := len
  cols := cols
  run := fun _ => run
  fill := fun h => by cases hph.symm.trans h
  notFresh := fun h => by cases hph.symm.trans h

theorem RowInv.keep {f : Nat → Nat} 
    (h : RowInv cfg m cs ph f row) (hn : m.next ≤ m'.next)
    (hp : ∀ p, row.data = some p → Same cfg m m' p ∧
      cell m' p cfg.rowSize + refs p cs = cell m p cfg.rowSize + refs p cs' ∧
      (ph = .filling → refs p cs' = refs p cs)) : RowInv cfg m' cs' ph f row where
  master := h.master
  noData := h.noData
  data := fun p hd => (h.data p hd).keep hn (hp p hd).1 (hp p hd).2.1 (hp p hd).2.2

theorem _root_.Vata.LU.SC.Inv.ref {cfg : Cfg} {w : World} {aw : AWorld} (h : Inv cfg w aw) {p : Nat} (hp : 0 < refs p w.cnts) :
    p < w.mem.next ∧ (w.mem.cells.get p).length = cfg.rowSize + 1 := by
  obtain ⟨i, c, hc, hr⟩ := refs_pos hp
  obtain ⟨row, hm, hd⟩ := rowRefs_pos_iff.mp hr
  obtain ⟨r, hr'⟩ := List.getElem?_of_mem hm
  cases ha : aw.getD i none with
  | none => rw [← h.live i, hc] at ha; cases ha
  | some a =>
    have := ((h.cnt i c a hc ha).rows r row hr').data p hd
    exact ⟨this.lt, this.len⟩

theorem _root_.Vata.LU.SC.Inv.free_not_ref {cfg : Cfg} {w : World} {aw : AWorld} (h : Inv cfg w aw) {p : Nat} (hp : 0 < refs p w.cnts) :
    p ∉ w.mem.free := fun hm => by have := (h.free p hm).2; omega

theorem _root_.Vata.LU.SC.Inv.live_some {cfg : Cfg} {w : World} {aw : AWorld} (h : Inv cfg w aw) {i : Nat} {a : A}
    (ha : aw.getD i none = some a) : ∃ c, w.cnts.getD i none = some c := by
  cases hc : w.cnts.getD i none with
  | none => rw [h.live i, ha] at hc; cases hc
  | some c => exact ⟨c, rfl⟩

theorem _root_.Vata.LU.SC.Inv.live_some' {cfg : Cfg} {w : World} {aw : AWorld} (h : Inv cfg w aw) {i : Nat} {c : Cnt}
    (hc : w.cnts.getD i none = some c) : ∃ a, aw.getD i none = some a := by
  cases ha : aw.getD i none with
  | none => rw [← h.live i, hc] at ha; cases ha
  | some a => exact ⟨a, rfl⟩


/-- "counter `i` is replaced as a whole (or destroyed), the memory becomes `m'`" -/
theorem replace_cnt {i : Nat} 
    {x : Option Cnt} {y : Option A}
    (hinv : Inv cfg ⟨m, cs⟩ aw) (hc : cs.getD i none = some c) (hxy : x = none ↔ y = none) (hn : m.next ≤ m'.next)
    (hB : ∀ (j : Nat) (cj : Cnt) (aj : A) (r' : Nat) (rowj : Row) (p : Nat), j ≠ i → cs.getD j none = some cj →
       aw.getD j none = some aj → cj[r']? = some rowj →
       rowj.data = some p →
       Same cfg m m' p ∧ cell m' p cfg.rowSize + refs p cs = cell m p cfg.rowSize + refs p (cs.set i x) ∧
       (aj.phase = .filling → refs p (cs.set i x) = refs p cs))
    (hnew : ∀ c' a', x = some c' → y = some a' → CntInv cfg m' (cs.set i x) c' a')
    (hnd : m'.free.Nodup) (hfree : ∀ p, p ∈ m'.free → p < m'.next ∧ refs p (cs.set i x) = 0) :
    Inv cfg ⟨m', cs.set i x⟩ (aw.set i y) := by
  have hi : i < cs.length := lt_of_getD_eq_some hc
  have hi' : i < aw.length := hinv.len ▸ hi
  refine ⟨by rw [List.length_set, List.length_set]; exact hinv.len, fun j => ?_, fun j cj aj hcj haj => ?_, hnd, hfree⟩
  · show (cs.set i x).getD j none = none ↔ _
    by_cases hji : j = i
    · subst hji; rw [getD_set_self hi, getD_set_self hi']; exact hxy
    · rw [getD_set_ne _ hji, getD_set_ne _ hji]; exact hinv.live j
  · change (cs.set i x).getD j none = some cj at hcj
    show CntInv cfg m' (cs.set i x) cj aj
    by_cases hji : j = i
    · subst hji
      rw [getD_set_self hi] at hcj
      rw [getD_set_self hi'] at haj
      exact hnew cj aj hcj haj
    · rw [getD_set_ne _ hji] at hcj haj
      have hold : CntInv cfg m cs cj aj := hinv.cnt j cj aj hcj haj
      exact ⟨hold.len, hold.vlen, hold.fresh, fun r' rowj hrj =>
        (hold.rows r' rowj hrj).keep hn fun p hd => hB j cj aj r' rowj p hji hcj haj hrj hd⟩

/-- `new` / the copy constructor: a counter without rows is appended -/
theorem append_cnt (hinv : Inv cfg ⟨m, cs⟩ aw) :
    Inv cfg ⟨m, cs ++ [some []]⟩ (aw ++ [some ⟨0, [], .fresh⟩]) := by
  have hrefs : ∀ p, refs p (cs ++ [some []]) = refs p cs := fun p => refs_append p _ _
  have hlen : cs.length = aw.length := hinv.len
  refine ⟨by rw [List.length_append, List.length_append, hlen]; rfl, fun j => ?_, fun j cj aj hcj haj => ?_,
    hinv.nodup, fun p hp => ⟨(hinv.free p hp).1, (hrefs p).trans (hinv.free p hp).2⟩⟩
  · show (cs ++ [some []]).getD j none = none ↔ _
    rw [getD_concat, getD_concat, hlen]
    by_cases hj : j = aw.length
    · rw [if_pos hj, if_pos hj]; exact iff_of_false nofun nofun
    · rw [if_neg hj, if_neg hj]; exact hinv.live j
  · change (cs ++ [some []]).getD j none = some cj at hcj
    rw [getD_concat] at hcj haj
    rw [hlen] at hcj
    by_cases hj : j = aw.length
    · rw [if_pos hj] at hcj haj; cases hcj; cases haj
      exact ⟨rfl, (Nat.zero_mul _).symm, fun _ => rfl, fun r row hr => nomatch hr⟩
    · rw [if_neg hj] at hcj haj
      have hold : CntInv cfg m cs cj aj := hinv.cnt j cj aj hcj haj
      exact ⟨hold.len, hold.vlen, hold.fresh, fun r' rowj hrj =>
        (hold.rows r' rowj hrj).keep (Nat.le_refl _) fun p _ => ⟨Same.rfl' rfl, by rw [hrefs], fun _ => hrefs p⟩⟩

theorem at_replicate_zero (rows n : Nat) (ph : Phase) (idx : Nat) : (A.mk rows (List.replicate n 0) ph).at idx = 0 := by
  simp only [A.at, List.getD_eq_getElem?_getD, List.getElem?_replicate]
  split <;> rfl

theorem rowInv_default {f : Nat → Nat}
    (hf : ∀ col, col < cfg.rowSize → f col = 0) : RowInv cfg m cs ph f ⟨0, none⟩ where
  master := (sumTo_zero hf).symm
  noData := fun _ => ⟨fun _ => rfl, fun i _ hi _ hfi _ => absurd (hf i hi) (Nat.ne_of_gt hfi)⟩
  data := nofun

theorem resize_inv {i n : Nat} 
    (hinv : Inv cfg ⟨m, cs⟩ aw) (hc : cs.getD i none = some c) (ha : aw.getD i none = some a) (hph : a.phase = .fresh) :
    Inv cfg ⟨m, cs.set i (some (resize c n))⟩
      (aw.set i (some ⟨n, List.replicate (n * cfg.rowSize) 0, .filling⟩)) := by
  have hold : CntInv cfg m cs c a := hinv.cnt i c a hc ha
  have hc0 : c = [] := List.eq_nil_of_length_eq_zero (hold.len.trans (hold.fresh hph))
  subst hc0
  have hrs : resize [] n = List.replicate n ⟨0, none⟩ := by simp [resize]
  rw [hrs]
  have hrefs : ∀ p, refs p (cs.set i (some (List.replicate n ⟨0, none⟩))) = refs p cs := fun p => by
    have := refs_replace (p := p) (some (List.replicate n ⟨0, none⟩)) hc
    rwa [crefs, rowRefs_replicate_none, rowRefs] at this
  refine replace_cnt hinv hc (iff_of_false nofun nofun) (Nat.le_refl _)
    (fun j cj aj r' rowj p _ _ _ _ _ => ⟨Same.rfl' rfl, by rw [hrefs], fun _ => hrefs p⟩) ?_ hinv.nodup
    fun p hp => ⟨(hinv.free p hp).1, (hrefs p).trans (hinv.free p hp).2⟩
  intro c' a' hc' ha'
  cases hc'; cases ha'
  refine ⟨List.length_replicate .., List.length_replicate .., nofun, fun r row hr => ?_⟩
  rw [List.getElem?_replicate] at hr
  split at hr
  · cases hr
    exact rowInv_default fun col _ => at_replicate_zero ..
  · cases hr


theorem locate_of_keyIdx {l q idx : Nat} (h : keyIdx cfg l q = some idx) :
    locate cfg l q = some (idx / cfg.rowSize, idx % cfg.rowSize) ∧ 0 < cfg.rowSize := by
  unfold keyIdx at h
  unfold locate
  by_cases hc : l * cfg.states + q < cfg.key.length ∧ 0 < cfg.rowSize
  · rw [if_pos hc] at h ⊢
    cases h
    exact ⟨rfl, hc.2⟩
  · rw [if_neg hc] at h; cases h

abbrev setA (a : A) (idx v : Nat) : A := { a with val := a.val.set idx v }

abbrev rowOf (cfg : Cfg) (a : A) (idx : Nat) (col : Nat) : Nat := a.at (idx / cfg.rowSize * cfg.rowSize + col)

theorem at_set (a : A) (idx v k : Nat) (h : idx < a.val.length) :
    ({ a with val := a.val.set idx v } : A).at k = if k = idx then v else a.at k := by
  show (a.val.set idx v).getD k 0 = _
  exact getD_set_of_lt 0 h v k

theorem at_setA_other (a : A) (idx v : Nat) (h : idx < a.val.length) (r' col : Nat)
    (hr : r' ≠ idx / cfg.rowSize) (hcol : col < cfg.rowSize) :
    (setA a idx v).at (r' * cfg.rowSize + col) = a.at (r' * cfg.rowSize + col) := by
  rw [at_set a idx v _ h, if_neg]
  exact fun e => hr (by rw [← e, idx_div hcol])

theorem rowOf_setA (a : A) (idx v : Nat) (h : idx < a.val.length) (col : Nat) (hcol : col < cfg.rowSize) :
    rowOf cfg (setA a idx v) idx col = if col = idx % cfg.rowSize then v else rowOf cfg a idx col := by
  show (setA a idx v).at _ = _
  rw [at_set a idx v _ h]
  by_cases hc : col = idx % cfg.rowSize
  · rw [if_pos hc, hc, if_pos (Nat.div_add_mod' _ _)]
  · rw [if_neg hc, if_neg]
    exact fun e => hc (by rw [← e, idx_mod hcol])

theorem rowOf_idx {idx : Nat} : rowOf cfg a idx (idx % cfg.rowSize) = a.at idx :=
  congrArg a.at (Nat.div_add_mod' _ _)

structure Focus (cfg : Cfg) (m : Mem) (cs : List (Option Cnt)) (aw : AWorld) (i idx : Nat) (c : Cnt) (a : A)
    (row : Row) : Prop where
  inv : Inv cfg ⟨m, cs⟩ aw
  hc : cs.getD i none = some c
  ha : aw.getD i none = some a
  hrs : 0 < cfg.rowSize
  hidx : idx < a.rows * cfg.rowSize
  hr : c[idx / cfg.rowSize]? = some row

theorem focus {i l q idx : Nat} 
    (hinv : Inv cfg ⟨m, cs⟩ aw) (hc : cs.getD i none = some c) (ha : aw.getD i none = some a)
    (hk : keyIdx cfg l q = some idx) (hidx : idx < a.rows * cfg.rowSize) :
    locate cfg l q = some (idx / cfg.rowSize, idx % cfg.rowSize) ∧ ∃ row, Focus cfg m cs aw i idx c a row := by
  obtain ⟨hloc, hrs⟩ := locate_of_keyIdx hk
  have hrl : idx / cfg.rowSize < c.length := (hinv.cnt i c a hc ha).len ▸ div_lt_rows hidx
  exact ⟨hloc, _, hinv, hc, ha, hrs, hidx, List.getElem?_eq_getElem hrl⟩

namespace Focus
variable {i idx : Nat} (F : Focus cfg m cs aw i idx c a row)
include F

theorem cnt : CntInv cfg m cs c a := F.inv.cnt i c a F.hc F.ha

theorem rowInv : RowInv cfg m cs a.phase (rowOf cfg a idx) row := F.cnt.rows _ row F.hr

theorem vl : idx < a.val.length := F.cnt.vlen ▸ F.hidx

theorem col : idx % cfg.rowSize < cfg.rowSize := Nat.mod_lt _ F.hrs

theorem sum_setA (v : Nat) :
    sumTo (rowOf cfg (setA a idx v) idx) cfg.rowSize + a.at idx = sumTo (rowOf cfg a idx) cfg.rowSize + v := by
  have := sumTo_update (f := rowOf cfg a idx) (g := rowOf cfg (setA a idx v) idx) F.col
    fun col hc hne => by rw [rowOf_setA a idx v F.vl col hc, if_neg hne]
  rwa [rowOf_setA a idx v F.vl _ F.col, if_pos rfl, rowOf_idx] at this

theorem cell_eq {p : Nat} (hd : row.data = some p) (hpos : 0 < a.at idx) : cell m p (idx % cfg.rowSize) = a.at idx :=
  ((F.rowInv.data p hd).cols _ F.col (rowOf_idx ▸ hpos)).trans rowOf_idx

theorem cols_setA {q v : Nat} (hv : 0 < v → cell m' q (idx % cfg.rowSize) = v)
    (ho : ∀ col, col < cfg.rowSize → col ≠ idx % cfg.rowSize → 0 < rowOf cfg a idx col →
      cell m' q col = rowOf cfg a idx col) :
    ∀ col, col < cfg.rowSize → 0 < rowOf cfg (setA a idx v) idx col → cell m' q col = rowOf cfg (setA a idx v) idx col := by
  intro col hc hpos
  rw [rowOf_setA a idx v F.vl col hc] at hpos ⊢
  by_cases hcc : col = idx % cfg.rowSize
  · rw [if_pos hcc] at hpos ⊢; rw [hcc]; exact hv hpos
  · rw [if_neg hcc] at hpos ⊢; exact ho col hc hcc hpos


theorem refs_row (row' : Row) (p : Nat) :
    refs p (cs.set i (some (c.set (idx / cfg.rowSize) row'))) + (if row.data = some p then 1 else 0) =
      refs p cs + (if row'.data = some p then 1 else 0) :=
  refs_update row' F.hc F.hr

theorem refs_row_same {row' : Row} (h : row'.data = row.data) (p : Nat) :
    refs p (cs.set i (some (c.set (idx / cfg.rowSize) row'))) = refs p cs := by
  have := F.refs_row row' p
  rw [h] at this
  exact Nat.add_right_cancel this

/-- the new row's address has no sharer besides the row it replaces: it is the only one afterwards -/
theorem refs_new {row' : Row} {q : Nat} (hq : row'.data = some q)
    (h : refs q cs = if row.data = some q then 1 else 0) :
    refs q (cs.set i (some (c.set (idx / cfg.rowSize) row'))) = 1 := by
  have := F.refs_row row' q
  rw [if_pos hq, h] at this
  exact Nat.add_right_cancel (this.trans (Nat.add_comm ..))

/-- The generic step "the entry at `idx` becomes `v`, its row becomes `row'`, the memory becomes `m'`": the address of the
new row is shared with nobody else (`hA`), the address given up keeps its data columns while its count cell drops by one
(`hdrop`), every other referenced row is untouched (`hoth`), and what is freed is that address when it had one sharer. -/
theorem step {row' : Row} (v : Nat) (hn : m.next ≤ m'.next)
    (hA : ∀ q, row'.data = some q → refs q cs = if row.data = some q then 1 else 0)
    (hdrop : ∀ p, row.data = some p → row'.data ≠ some p →
       Same cfg m m' p ∧ cell m' p cfg.rowSize + 1 = cell m p cfg.rowSize)
    (hoth : ∀ p, row.data ≠ some p → row'.data ≠ some p → 0 < refs p cs → m'.cells.get p = m.cells.get p)
    (hrow : RowInv cfg m' (cs.set i (some (c.set (idx / cfg.rowSize) row'))) a.phase (rowOf cfg (setA a idx v) idx) row')
    (hnd : m'.free.Nodup)
    (hfree : ∀ x, x ∈ m'.free → row'.data ≠ some x ∧ (x ∈ m.free ∨ (row.data = some x ∧ refs x cs = 1))) :
    Inv cfg ⟨m', cs.set i (some (c.set (idx / cfg.rowSize) row'))⟩ (aw.set i (some (setA a idx v))) := by
  -- the row at `p` seen from another position: it is not the new row's, and the focused row is not its only sharer
  have key : ∀ (j : Nat) (cj : Cnt) (r' : Nat) (rowj : Row) (p : Nat),
      cs.getD j none = some cj → cj[r']? = some rowj → (j ≠ i ∨ r' ≠ idx / cfg.rowSize) → rowj.data = some p →
      Same cfg m m' p ∧
      cell m' p cfg.rowSize + refs p cs = cell m p cfg.rowSize + refs p (cs.set i (some (c.set (idx / cfg.rowSize) row'))) ∧
      (refs p cs = 1 → refs p (cs.set i (some (c.set (idx / cfg.rowSize) row'))) = refs p cs) := by
    intro j cj r' rowj p hcj hrj hne hd
    have hlt : (if row.data = some p then 1 else 0) < refs p cs := by
      split
      · exact refs_ge_two F.hc F.hr ‹_› hcj hrj hd (hne.imp Ne.symm Ne.symm)
      · exact refs_pos_of_get hcj hrj hd
    have hne' : row'.data ≠ some p := fun e => Nat.lt_irrefl _ (hA p e ▸ hlt)
    have hform := F.refs_row row' p
    rw [if_neg hne', Nat.add_zero] at hform
    by_cases e : row.data = some p
    · obtain ⟨hs, hb⟩ := hdrop p e hne'
      rw [if_pos e] at hlt hform
      exact ⟨hs, by omega, fun h1 => by omega⟩
    · have hg := hoth p e hne' (Nat.zero_lt_of_lt hlt)
      rw [if_neg e, Nat.add_zero] at hform
      exact ⟨Same.rfl' hg, by rw [cell_of_get hg, hform], fun _ => hform⟩
  have hold := F.cnt
  refine replace_cnt F.inv F.hc (iff_of_false nofun nofun) hn
    (fun j cj aj r' rowj p hji hcj haj hrj hd => ?_) (fun c' a' hc' ha' => ?_) hnd fun x hx => ?_
  · obtain ⟨hs, he, h1⟩ := key j cj r' rowj p hcj hrj (Or.inl hji) hd
    exact ⟨hs, he, fun hph => h1 ((((F.inv.cnt j cj aj hcj haj).rows r' rowj hrj).data p hd).fill hph).1⟩
  · cases hc'; cases ha'
    refine ⟨(List.length_set ..).trans hold.len, (List.length_set ..).trans hold.vlen, hold.fresh, fun r' rowj hrj => ?_⟩
    by_cases hrr : r' = idx / cfg.rowSize
    · subst hrr
      cases (List.getElem?_set_self (List.getElem?_eq_some_iff.1 F.hr).1).symm.trans hrj
      exact hrow
    · rw [List.getElem?_set_ne (Ne.symm hrr)] at hrj
      refine ((hold.rows r' rowj hrj).keep hn fun p hd => ?_).congr fun col hcol => at_setA_other a idx v F.vl r' col hrr hcol
      obtain ⟨hs, he, h1⟩ := key i c r' rowj p F.hc hrj (Or.inr hrr) hd
      exact ⟨hs, he, fun hph => h1 (((hold.rows r' rowj hrj).data p hd).fill hph).1⟩
  · obtain ⟨h1, h2⟩ := hfree x hx
    have hform := F.refs_row row' x
    rw [if_neg h1, Nat.add_zero] at hform
    rcases h2 with h2 | ⟨h2, h3⟩
    · have : x < m.next ∧ refs x cs = 0 := F.inv.free x h2
      exact ⟨Nat.lt_of_lt_of_le this.1 hn, Nat.eq_zero_of_le_zero (this.2 ▸ hform ▸ Nat.le_add_right ..)⟩
    · rw [if_pos h2, h3] at hform
      exact ⟨Nat.lt_of_lt_of_le (F.rowInv.data x h2).lt hn, Nat.add_right_cancel (hform.trans (Nat.zero_add 1).symm)⟩

/-- … when the row keeps its address and the allocator is not touched -/
theorem step_quiet {row' : Row} (v : Nat) (hd : row'.data = row.data) (hnx : m'.next = m.next) (hfr : m'.free = m.free)
    (hA : ∀ p, row.data = some p → refs p cs = 1)
    (hB : ∀ p, row.data ≠ some p → 0 < refs p cs → m'.cells.get p = m.cells.get p)
    (hrow : RowInv cfg m' (cs.set i (some (c.set (idx / cfg.rowSize) row'))) a.phase (rowOf cfg (setA a idx v) idx) row') :
    Inv cfg ⟨m', cs.set i (some (c.set (idx / cfg.rowSize) row'))⟩ (aw.set i (some (setA a idx v))) :=
  F.step v (Nat.le_of_eq hnx.symm) (fun q hq => by rw [if_pos (hd ▸ hq)]; exact hA q (hd ▸ hq))
    (fun p hp hp' => absurd (hd.trans hp) hp') (fun p hp _ => hB p hp) hrow (hfr ▸ F.inv.nodup) fun x hx => ⟨fun e => F.inv.free_not_ref (w := ⟨m, cs⟩)
      (Nat.lt_of_lt_of_le Nat.one_pos (Nat.le_of_eq (hA x (hd ▸ e)).symm)) (hfr ▸ hx), Or.inl (hfr ▸ hx)⟩

end Focus


theorem poisonRow_len (cfg : Cfg) : (poisonRow cfg).length = cfg.rowSize + 1 := List.length_replicate ..

open CA (Pop)

theorem alloc_spec (cfg : Cfg) (hnd : m.free.Nodup) (hlt : ∀ x ∈ m.free, x < m.next) :
    Pop m.free (alloc cfg m).2.free m.next (alloc cfg m).2.next (alloc cfg m).1 ∧
      (alloc cfg m).2.cells = m.cells.set (alloc cfg m).1 (poisonRow cfg) := by
  unfold alloc
  cases hf : m.free with
  | nil => exact ⟨.new List.nodup_nil nofun, rfl⟩
  | cons p f => exact ⟨.cons (hf ▸ hnd) (hf ▸ hlt), rfl⟩

/-- `set` into a row that already has data -/
theorem set_old {i idx n p : Nat}
    (F : Focus cfg m cs aw i idx c a row) (hph : a.phase = .filling) (hn : 0 < n) (hz : a.at idx = 0)
    (hd : row.data = some p) :
    Inv cfg ⟨setCell (setCell m p (idx % cfg.rowSize) n) p cfg.rowSize 1,
        cs.set i (some (c.set (idx / cfg.rowSize) ⟨row.master + n, some p⟩))⟩ (aw.set i (some (setA a idx n))) := by
  have hdi := F.rowInv.data p hd
  have hfill := hdi.fill hph
  have hsum := F.sum_setA n
  refine F.step_quiet n hd.symm (by simp only [setCell_next]) (by simp only [setCell_free]) (fun p' hp' => ?_)
    (fun p' hp' _ => ?_) ⟨?_, nofun, fun p' hp' => ?_⟩
  · cases hd.symm.trans hp'; exact hfill.1
  · have hne : p' ≠ p := fun e => hp' (e ▸ hd)
    exact (setCell_get_ne _ _ _ _ hne).trans (setCell_get_ne _ _ _ _ hne)
  · show row.master + n = _
    rw [F.rowInv.master]; omega
  · cases hp'
    refine .of_filling hph (by simpa only [setCell_next] using hdi.lt) (by rw [setCell_len, setCell_len]; exact hdi.len) ?_
      ⟨(F.refs_row_same (row' := ⟨row.master + n, some p⟩) hd.symm p).trans hfill.1,
        Nat.ne_of_gt (Nat.lt_of_lt_of_le hn (Nat.le_add_left ..)),
        Or.inl (cell_setCell_same (by rw [setCell_len, hdi.len]; exact Nat.lt_succ_self _))⟩
    refine F.cols_setA (fun _ => ?_) fun col hc hne hpos => ?_
    · rw [cell_setCell_ne_col _ _ _ _ _ (Nat.ne_of_lt F.col)]
      exact cell_setCell_same (by rw [hdi.len]; exact Nat.lt_succ_of_lt F.col)
    · rw [cell_setCell_ne_col _ _ _ _ _ (Nat.ne_of_lt hc), cell_setCell_ne_col _ _ _ _ _ hne]
      exact hdi.cols col hc hpos

/-- `set` into a row without data: a row is allocated, reference count 0 -/
theorem set_new {i idx n : Nat}
    (F : Focus cfg m cs aw i idx c a row) (hph : a.phase = .filling) (hn : 0 < n) (hm : row.master = 0) :
    Inv cfg ⟨setCell (setCell (alloc cfg m).2 (alloc cfg m).1 cfg.rowSize 0) (alloc cfg m).1 (idx % cfg.rowSize) n,
        cs.set i (some (c.set (idx / cfg.rowSize) ⟨n, some (alloc cfg m).1⟩))⟩ (aw.set i (some (setA a idx n))) := by
  have hd : row.data = none := by
    cases hd : row.data with
    | none => rfl
    | some p => exact absurd hm ((F.rowInv.data p hd).fill hph).2.1
  obtain ⟨pp, hcells⟩ := alloc_spec cfg F.inv.nodup fun x hx => (F.inv.free x hx).1
  have hq0 : refs (alloc cfg m).1 cs = 0 :=
    Nat.eq_zero_of_not_pos fun h => pp.ne (F.inv.ref h).1 (F.inv.free_not_ref h) rfl
  generalize (alloc cfg m).1 = q at *
  generalize (alloc cfg m).2 = m1 at *
  have hA : refs q cs = if row.data = some q then 1 else 0 := by rw [hq0, hd, if_neg nofun]
  have hz : ∀ col, col < cfg.rowSize → rowOf cfg a idx col = 0 := sumTo_eq_zero (F.rowInv.master.symm.trans hm)
  have hlen : (m1.cells.get q).length = cfg.rowSize + 1 := by
    rw [hcells, Heap.get_set_same]; exact poisonRow_len cfg
  have hsum := F.sum_setA n
  have hother : ∀ col, col < cfg.rowSize → col ≠ idx % cfg.rowSize → rowOf cfg (setA a idx n) idx col = 0 :=
    fun col hc hne => by rw [rowOf_setA a idx n F.vl col hc, if_neg hne]; exact hz col hc
  refine F.step n (by simpa only [setCell_next] using pp.mono) (fun q' hq' => by cases hq'; exact hA)
    (fun _ h => nomatch hd.symm.trans h) ?_ ⟨?_, nofun, ?_⟩ (by simpa only [setCell_free] using pp.nd) fun x hx => ?_
  · intro p' _ hp' _
    have hne : p' ≠ q := fun e => hp' (e ▸ rfl)
    rw [setCell_get_ne _ _ _ _ hne, setCell_get_ne _ _ _ _ hne, hcells, Heap.get_set_ne _ _ hne]
  · show n = _
    rw [← rowOf_idx (cfg := cfg), hz _ F.col, F.rowInv.master.symm.trans hm, Nat.add_zero, Nat.zero_add] at hsum
    exact hsum.symm
  · intro p' hp'
    cases hp'
    refine .of_filling hph (by simpa only [setCell_next] using pp.lt) (by rw [setCell_len, setCell_len]; exact hlen) ?_
      ⟨F.refs_new rfl hA, Nat.ne_of_gt hn, Or.inr ⟨?_, atMostOne_of_zero hother⟩⟩
    · refine F.cols_setA (fun _ => cell_setCell_same (by rw [setCell_len, hlen]; exact Nat.lt_succ_of_lt F.col))
        fun col hc hne hpos => absurd (hz col hc) (Nat.ne_of_gt hpos)
    · rw [cell_setCell_ne_col _ _ _ _ _ (Nat.ne_of_gt F.col)]
      exact cell_setCell_same (by rw [hlen]; exact Nat.lt_succ_self _)
  · simp only [setCell_free] at hx
    exact ⟨fun e => pp.nf (Option.some.inj e ▸ hx), Or.inl (pp.sub x hx)⟩

/-- `set(label, state, count)` inside the discipline -/
theorem set_inv {i l q idx n : Nat} 
    (hinv : Inv cfg ⟨m, cs⟩ aw) (hc : cs.getD i none = some c) (ha : aw.getD i none = some a)
    (hk : keyIdx cfg l q = some idx) (hph : a.phase = .filling) (hn : 0 < n) (hidx : idx < a.rows * cfg.rowSize)
    (hz : a.at idx = 0) :
    ∃ mc, set cfg m c l q n = some mc ∧
      Inv cfg ⟨mc.1, cs.set i (some mc.2)⟩ (aw.set i (some (setA a idx n))) := by
  obtain ⟨hloc, row, F⟩ := focus hinv hc ha hk hidx
  unfold set
  simp only [hloc, F.hr, if_neg (Nat.ne_of_gt hn)]
  by_cases hm : row.master = 0
  · rw [if_neg (not_not_intro hm)]
    exact ⟨_, rfl, set_new F hph hn hm⟩
  · rw [if_pos hm]
    cases hd : row.data with
    | none => exact absurd ((F.rowInv.noData hd).1 hph) hm
    | some p => exact ⟨_, rfl, set_old F hph hn hz hd⟩


theorem dec64_pos {x : Nat} (h : 0 < x) : dec64 x = x - 1 := by
  unfold dec64; rw [if_neg (Nat.ne_of_gt h)]

/-- `--data_[rowSize_]`, and the row goes back to the allocator when the count reaches 0 (in `decr` and in the
destructor) -/
def release (cfg : Cfg) (m : Mem) (p : Nat) : Mem :=
  if dec64 (cell m p cfg.rowSize) = 0 then reclaim (setCell m p cfg.rowSize (dec64 (cell m p cfg.rowSize))) p
  else setCell m p cfg.rowSize (dec64 (cell m p cfg.rowSize))

theorem release_cells (cfg : Cfg) (m : Mem) (p : Nat) :
    (release cfg m p).cells = (setCell m p cfg.rowSize (dec64 (cell m p cfg.rowSize))).cells := by
  unfold release; split <;> rfl

theorem release_next (cfg : Cfg) (m : Mem) (p : Nat) : (release cfg m p).next = m.next := by
  unfold release; split <;> rfl

theorem release_free (cfg : Cfg) (m : Mem) (p x : Nat) :
    x ∈ (release cfg m p).free ↔ x ∈ m.free ∨ (x = p ∧ dec64 (cell m p cfg.rowSize) = 0) := by
  unfold release
  by_cases h : dec64 (cell m p cfg.rowSize) = 0
  · rw [if_pos h, reclaim_free, setCell_free, List.mem_cons, and_iff_left h]; exact Or.comm
  · rw [if_neg h, setCell_free]
    exact ⟨Or.inl, fun h' => h'.elim id fun h'' => absurd h''.2 h⟩

theorem release_nodup (cfg : Cfg) (m : Mem) (p : Nat) (h : m.free.Nodup) (hp : p ∉ m.free) :
    (release cfg m p).free.Nodup := by
  unfold release; split
  · rw [reclaim_free, setCell_free, List.nodup_cons]; exact ⟨hp, h⟩
  · exact h

theorem release_get (cfg : Cfg) (m : Mem) (p : Nat) {x : Nat} (hx : x ≠ p) :
    (release cfg m p).cells.get x = m.cells.get x := by
  rw [release_cells, setCell_get_ne _ _ _ _ hx]

theorem release_same (cfg : Cfg) (m : Mem) (p x : Nat) : Same cfg m (release cfg m p) x :=
  ⟨by rw [release_cells, setCell_len],
    fun col hc => by rw [cell, release_cells]; exact cell_setCell_ne_col _ _ _ _ _ (Nat.ne_of_lt hc)⟩

theorem release_cnt {p : Nat} (hlen : cfg.rowSize < (m.cells.get p).length)
    (hpos : 0 < cell m p cfg.rowSize) : cell (release cfg m p) p cfg.rowSize = cell m p cfg.rowSize - 1 := by
  rw [cell, release_cells, dec64_pos hpos]; exact cell_setCell_same hlen


theorem copied_getD (l l' : List Nat) (n v j : Nat) (h : l.length = n + 1) (hj : j < n) :
    ((l.set n v).take n ++ l'.drop n).getD j 0 = l.getD j 0 := by
  simp only [List.getD_eq_getElem?_getD]
  rw [List.getElem?_append_left (by simp [h]; omega), List.getElem?_take, if_pos hj, List.getElem?_set_ne (by omega)]

/-- the copy-on-write branch of `decr`: new memory, address of the copy, returned value -/
def cow (cfg : Cfg) (m : Mem) (p col : Nat) : Mem × Nat × Nat :=
  let rc := cell m p cfg.rowSize
  let m1 := setCell m p cfg.rowSize (rc - 1)
  let qm := alloc cfg m1
  let copied := (qm.2.cells.get p).take cfg.rowSize ++ (qm.2.cells.get qm.1).drop cfg.rowSize
  let m2 : Mem := { qm.2 with cells := qm.2.cells.set qm.1 copied }
  let m3 := setCell m2 qm.1 cfg.rowSize 1
  (setCell m3 qm.1 col (dec64 (cell m3 qm.1 col)), qm.1, dec64 (cell m3 qm.1 col))

structure CowSpec (cfg : Cfg) (m : Mem) (cs : List (Option Cnt)) (p col : Nat) (m' : Mem) (q out : Nat) : Prop where
  fresh : refs q cs = 0
  ne : q ≠ p
  pop : Pop m.free m'.free m.next m'.next q
  other : ∀ x, x ≠ p → x ≠ q → m'.cells.get x = m.cells.get x
  same : Same cfg m m' p
  cnt : cell m' p cfg.rowSize = cell m p cfg.rowSize - 1
  len : (m'.cells.get q).length = cfg.rowSize + 1
  one : cell m' q cfg.rowSize = 1
  atCol : cell m' q col = cell m p col - 1
  atOther : ∀ col', col' < cfg.rowSize → col' ≠ col → cell m' q col' = cell m p col'
  out : out = cell m p col - 1


theorem cow_spec {p col : Nat} (hnd : m.free.Nodup)
    (hfree : ∀ x, x ∈ m.free → x < m.next ∧ refs x cs = 0) (href : ∀ x, 0 < refs x cs → x < m.next)
    (hp : 0 < refs p cs) (hlen : (m.cells.get p).length = cfg.rowSize + 1) (hcol : col < cfg.rowSize)
    (hv : 0 < cell m p col) :
    CowSpec cfg m cs p col (cow cfg m p col).1 (cow cfg m p col).2.1 (cow cfg m p col).2.2 := by
  obtain ⟨pp, hcells⟩ :=
    alloc_spec cfg (m := setCell m p cfg.rowSize (cell m p cfg.rowSize - 1)) hnd fun x hx => (hfree x hx).1
  simp only [setCell_next, setCell_free] at pp
  have hq0 : refs (alloc cfg (setCell m p cfg.rowSize (cell m p cfg.rowSize - 1))).1 cs = 0 :=
    Nat.eq_zero_of_not_pos fun h => pp.ne (href _ h) (fun hf => Nat.ne_of_gt h (hfree _ hf).2) rfl
  unfold cow
  simp only
  generalize hm1 : setCell m p cfg.rowSize (cell m p cfg.rowSize - 1) = m1 at *
  generalize (alloc cfg m1).1 = q at *
  generalize (alloc cfg m1).2 = m1' at *
  have hne : q ≠ p := fun e => Nat.ne_of_gt hp (e ▸ hq0)
  have hgp : m1'.cells.get p = (m.cells.get p).set cfg.rowSize (cell m p cfg.rowSize - 1) := by
    rw [hcells, Heap.get_set_ne _ _ (fun e => hne e.symm), ← hm1, setCell_get, if_pos rfl]
  have hgq : m1'.cells.get q = poisonRow cfg := by rw [hcells, Heap.get_set_same]
  rw [hgp, hgq]
  generalize hcp : ((m.cells.get p).set cfg.rowSize (cell m p cfg.rowSize - 1)).take cfg.rowSize ++
    (poisonRow cfg).drop cfg.rowSize = copied
  have hcl : copied.length = cfg.rowSize + 1 := by rw [← hcp]; simp [hlen, poisonRow_len cfg]
  generalize hm2 : ({ cells := m1'.cells.set q copied, free := m1'.free, next := m1'.next } : Mem) = m2
  have hg2 : m2.cells.get q = copied := by rw [← hm2]; exact Heap.get_set_same ..
  have hc3 : ∀ col', col' < cfg.rowSize → cell (setCell m2 q cfg.rowSize 1) q col' = cell m p col' := by
    intro col' hc'
    rw [cell_setCell_ne_col _ _ _ _ _ (Nat.ne_of_lt hc')]
    unfold cell
    rw [hg2, ← hcp]
    exact copied_getD _ _ _ _ _ hlen hc'
  have hl3 : ((setCell m2 q cfg.rowSize 1).cells.get q).length = cfg.rowSize + 1 := by
    rw [setCell_len, hg2]; exact hcl
  rw [hc3 col hcol, dec64_pos hv]
  have hoth : ∀ x, x ≠ q → (setCell (setCell m2 q cfg.rowSize 1) q col (cell m p col - 1)).cells.get x =
      m1.cells.get x := by
    intro x hx
    rw [setCell_get_ne _ _ _ _ hx, setCell_get_ne _ _ _ _ hx, ← hm2]
    show (m1'.cells.set q copied).get x = _
    rw [Heap.get_set_ne _ _ hx, hcells, Heap.get_set_ne _ _ hx]
  refine ⟨hq0, hne, ?_, ?_, ?_, ?_, ?_, ?_, ?_, ?_, rfl⟩
  · simp only [setCell_free, setCell_next, ← hm2]; exact pp
  · intro x hxp hxq
    rw [hoth x hxq, ← hm1, setCell_get_ne _ _ _ _ hxp]
  · constructor
    · rw [hoth p (fun e => hne e.symm), ← hm1, setCell_len]
    · intro col' hc'
      rw [cell_of_get (hoth p (fun e => hne e.symm)), ← hm1]
      exact cell_setCell_ne_col _ _ _ _ _ (Nat.ne_of_lt hc')
  · rw [cell_of_get (hoth p (fun e => hne e.symm)), ← hm1]
    exact cell_setCell_same (hlen ▸ Nat.lt_succ_self _)
  · rw [setCell_len]; exact hl3
  · rw [cell_setCell_ne_col _ _ _ _ _ (Nat.ne_of_gt hcol)]
    exact cell_setCell_same (by rw [hg2, hcl]; exact Nat.lt_succ_self _)
  · exact cell_setCell_same (by rw [hl3]; exact Nat.lt_succ_of_lt hcol)
  · intro col' hc' hne'
    rw [cell_setCell_ne_col _ _ _ _ _ hne']; exact hc3 col' hc'


end P
end Vata.LU.SC
