import Vata.Proofs.InclDownTablesClass2Main
/-!
# From the calls to the whole run (identity preorder; property C07)

At the root (`ws = []`) the relative-completeness part of `GI` follows from `Inv`: a set closed relative to itself is a
certificate, its pairs hold on every tree (`down_certR_sound`), and every entry of `nonincluded` carries a separating tree.
Hence the loop over the final states on the tables is the loop of the abstract model (`runTD_eq_good`),
provided the right-hand set of the root pairs is not empty.
-/
namespace Vata
namespace InclDownTables
open BddAbsTD InclDown
open InclUp (normS prodWit Wit)

theorem gi_nil_of_inv {A B : Vata.TA} {cc : List Pair} {st : St} (hI : Inv idOrd A B [] cc st)
    (hNE : ∀ t, t ∈ st.trues → t.2 ≠ []) : GI A B [] cc st := by
  refine ⟨hI, ?_, fun t ht => hNE t (by simpa using ht)⟩
  intro y Y hs himp
  obtain ⟨S0, hm, hsub⟩ := hs
  rw [List.append_nil] at hm
  obtain ⟨e, he, e1, e2⟩ := himp
  have hR := hI.ni e he
  have hH := down_certR_sound A B _ _ _ (idOrd_langOrd A B) st.trues (downCertR_of_inv hI) e.2.2
  obtain ⟨r, hr1, hr2⟩ := hH y S0 hm (by rw [← e1]; exact hR.1)
  exact hR.2 r (e2 r (hsub r hr1)) hr2

theorem runTD_eq_good {TA TB : TableTD} {A B : Vata.TA}
    (hbody : ∀ (ws : List Pair) (cT cM : Call), CallGood (frameI A B ws) cT cM cT → ∀ p P cc st, GI A B ws cc st →
      bodyT cT cT TA TB (prodWit A) normS p P cc st = body cM cM A B (prodWit A) normS p P cc st)
    (hW : WitOK A (prodWit A))
    (hFB : B.final ≠ []) (fuel : Nat) :
    runTD idOrd TA A.final TB B.final (prodWit A) fuel = run idOrd A B fuel := by
  have hne : normS B.final ≠ [] := by
    obtain ⟨s, hs⟩ := List.exists_mem_of_ne_nil _ hFB
    exact List.ne_nil_of_mem (InclUp.mem_normS.mpr hs)
  obtain ⟨hcg, _⟩ := full_expand hbody hW fuel []
  have hcM := callGood_model hcg
  have hcall := expand_spec (idOrd_langOrd A B) ordRefl_id hW fuel []
  -- the two loops over the final states agree on the good states
  have key : ∀ (fs : List Nat) (cc : List Pair) (st : St), GI A B [] cc st →
      rootLoopWith idOrd (fun f => bodyT (expandT idOrd TA TB (prodWit A) fuel []) (expandT idOrd TA TB (prodWit A) fuel [])
        TA TB (prodWit A) normS f (normS B.final)) (normS B.final) fs cc st =
      rootLoopWith idOrd (fun f => body (expand idOrd A B (prodWit A) fuel []) (expand idOrd A B (prodWit A) fuel [])
        A B (prodWit A) normS f (normS B.final)) (normS B.final) fs cc st := by
    intro fs
    induction fs with
    | nil => exact fun _ _ _ => rfl
    | cons f fs ih =>
      intro cc st hG
      simp only [rootLoopWith, byPre_id, Bool.false_eq_true, if_false]
      rw [hbody [] _ _ hcg f _ cc st hG]
      rcases hr : body (expand idOrd A B (prodWit A) fuel []) (expand idOrd A B (prodWit A) fuel []) A B (prodWit A) normS
          f (normS B.final) cc st with _ | ⟨_ | w, cc1, st1⟩
      · rfl
      · obtain ⟨g1, _, g3⟩ :=
          body_spec ⟨idOrd_langOrd A B, hcall, hcall, postOK_normS ordRefl_id, hW⟩ f _ cc st _ _ _ hr hG.1
        obtain ⟨k1, _, _⟩ := (good_body hcM A B (prodWit A) normS f _ cc st hG).2 _ _ _ hr
        refine ih cc1 _ (gi_nil_of_inv (inv_addTrue g1 g3) (fun t ht => ?_))
        rcases mem_addTrue.mp ht with h' | h'
        · exact k1.2.2 t (List.mem_append_left _ h')
        · rw [h']; exact hne
      · rfl
  rw [runTD_eq_runOf, run_eq_runOf, rootLoopT_eq_with, rootLoop_eq_with,
    key _ _ _ (gi_nil_of_inv (inv_init idOrd A B) (fun _ ht => absurd ht List.not_mem_nil))]

end InclDownTables
end Vata
