import Vata.Proofs.CowInternedOps
/-!
# Named automata over one tuple cache – the value-level specification on stores of cells

The tuple sets of the heap hold cells (`CellsV`), and the value-level specification `CowHeapX.specStepX` keeps that
(`cellsV_step`).  Dereferencing (`derefS c`) looks at the pointers the value mentions only (`derefS_congr`, for a live
automaton these are pointers of live tuple-set nodes: `absX_map_congr`) and commutes with the specification: with the calls
that do not look at tuples (`specStepX_map_simple`), and with the insertion of a pointer where pointer equality is tuple
equality (`specStepX_map_add`).
-/
namespace Vata.CowI
open Vata.Store (insTuple TupleSet addToMap addToCluster)
open Vata.CowHeap (upd map_upd forall_some_upd)
open Vata.CowHeap3 (valM hmap_mem)
open Vata.CowHeapX (HeapX absX specStepX InvX ValX HOpX absX_of_mem absX_of_not_mem unionStore)
open Vata.StoreI (CacheSt derefC)

def CellsT (d : TupleSet) : Prop := ∀ l, l ∈ d → ∃ p, l = cell p
def CellsS (s : Store.Store) : Prop := ∀ qc, qc ∈ s.clusters → ∀ ft, ft ∈ qc.2 → CellsT ft.2
def CellsV (a : Nat → Option ValX) : Prop := ∀ h s, a h = some s → CellsS s

theorem derefCell_cell (c : CacheSt) (p : Nat) : derefCell c (cell p) = derefC c p :=
  List.append_nil _

theorem CellsT.eq_map {d : TupleSet} (h : CellsT d) : d = (idsOf d).map cell := by
  induction d with
  | nil => rfl
  | cons l d ih =>
    obtain ⟨p, rfl⟩ := h l List.mem_cons_self
    exact congrArg (cell p :: ·) (ih fun l hl => h l (List.mem_cons_of_mem _ hl))

/-- `std::set<TuplePtr>::find` compares pointers -/
theorem CellsT.contains_cell {d : TupleSet} (h : CellsT d) (p : Nat) : d.contains (cell p) = (idsOf d).contains p := by
  conv => lhs; rw [h.eq_map]
  rw [Bool.eq_iff_iff, List.contains_iff_mem, List.contains_iff_mem, List.mem_map]
  exact ⟨fun ⟨a, ha, e⟩ => (List.cons.inj e).1 ▸ ha, fun hp => ⟨p, hp, rfl⟩⟩

theorem CellsT.map_derefCell {d : TupleSet} (h : CellsT d) (c : CacheSt) :
    d.map (derefCell c) = (idsOf d).map (derefC c) := by
  conv => lhs; rw [h.eq_map]
  rw [List.map_map]
  exact List.map_congr_left fun p _ => derefCell_cell c p

theorem cellsT_ins (p : Nat) {d : TupleSet} (h : CellsT d) : CellsT (insTuple (cell p) d) := by
  intro l hl
  unfold insTuple at hl
  split at hl
  · exact h l hl
  · rcases List.mem_append.1 hl with h' | h'
    · exact h l h'
    · exact ⟨p, List.mem_singleton.1 h'⟩

theorem cellsS_add (q f p : Nat) {s : Store.Store} (h : CellsS s) : CellsS (Store.addTransition s ⟨f, cell p, q⟩) := by
  have hcl : ∀ cl : Store.Cluster, (∀ ft, ft ∈ cl → CellsT ft.2) → ∀ ft, ft ∈ addToCluster f (cell p) cl → CellsT ft.2 :=
    fun cl hcl => Store.forall_upsert (P := CellsT) f (fun o => insTuple (cell p) (o.getD [])) (cellsT_ins p nofun)
      (fun v hv => cellsT_ins p hv) hcl
  exact Store.forall_upsert (P := fun (cl : Store.Cluster) => ∀ ft : Nat × TupleSet, ft ∈ cl → CellsT ft.2) q
    (fun o => addToCluster f (cell p) (o.getD [])) (hcl [] nofun) hcl h

theorem cellsS_empty : CellsS Store.empty := nofun

theorem cellsS_of_sub {s s' : Store.Store} (h : CellsS s) (hsub : ∀ qc, qc ∈ s'.clusters → qc ∈ s.clusters) :
    CellsS s' := fun qc hqc => h qc (hsub qc hqc)

theorem cellsS_union {s t : Store.Store} (hs : CellsS s) (ht : CellsS t) : CellsS (unionStore s t) := by
  intro qc hqc
  rcases List.mem_append.1 hqc with h | h
  · exact hs qc h
  · exact ht qc (CowHeapX.mem_missing h)

theorem cellsV_upd {a : Nat → Option ValX} (ha : CellsV a) (h : Nat) {x : Option ValX}
    (hx : ∀ s, x = some s → CellsS s) : CellsV (upd a h x) :=
  forall_some_upd ha h hx

theorem cellsV_upd_some {a : Nat → Option ValX} (ha : CellsV a) (h : Nat) {s : ValX} (hs : CellsS s) :
    CellsV (upd a h (some s)) :=
  cellsV_upd ha h fun _ e => Option.some.inj e ▸ hs

theorem cellsV_upd_map {a : Nat → Option ValX} (ha : CellsV a) (src dst : Nat) {G : ValX → ValX}
    (hG : ∀ s, CellsS s → CellsS (G s)) : CellsV (upd a dst ((a src).map G)) := by
  refine cellsV_upd ha dst fun s hs => ?_
  obtain ⟨s0, h0, e⟩ := Option.map_eq_some_iff.1 hs
  exact e ▸ hG s0 (ha src s0 h0)

/-- the calls of the value level that `stepC` performs at the level of cells -/
def cellOp : HOpX → Prop
  | .new _ => True
  | .copy _ _ ct cf => ct = true ∧ cf = true
  | .assign _ _ => True
  | .add _ _ v => ∃ p, v.2 = cell p
  | .setFinal _ _ => True
  | .clear _ => True
  | .destroy _ => True
  | _ => False

/-- the calls of the value level that `stepC2` performs at the level of cells -/
def cellOp2 : HOpX → Prop
  | .move _ _ => True
  | .moveAssign _ _ => True
  | .shareAll _ _ _ => True
  | .shareClusters _ _ _ => True
  | .unionDisj _ _ _ => True
  | op => cellOp op

theorem cellOp_cellOp2 {op : HOpX} (h : cellOp op) : cellOp2 op := by
  cases op <;> first | exact h | trivial

theorem cellsV_modify {a : Nat → Option ValX} (ha : CellsV a) (h : Nat) {G : ValX → ValX}
    (hG : ∀ s, CellsS s → CellsS (G s)) :
    CellsV (match a h with
      | some s => upd a h (some (G s))
      | none => a) := by
  cases hh : a h with
  | none => exact ha
  | some s0 => exact cellsV_upd_some ha h (hG s0 (ha h s0 hh))

theorem cellsV_ite (g : Prop) [Decidable g] {u v : Nat → Option ValX} (hu : CellsV u) (hv : CellsV v) :
    CellsV (if g then u else v) := by
  split <;> assumption

theorem cellsV_step {a : Nat → Option ValX} (ha : CellsV a) {op : HOpX} (hop : cellOp2 op) :
    CellsV (specStepX a op) := by
  have hdead : ∀ h, CellsV (upd a h none) := fun h => cellsV_upd ha h nofun
  cases op with
  | new h => exact cellsV_ite _ ha (cellsV_upd_some ha h cellsS_empty)
  | copy src dst ct cf =>
    obtain ⟨rfl, rfl⟩ := hop
    exact cellsV_ite _ (cellsV_upd_map ha src dst fun s hs => hs) ha
  | assign src dst => exact cellsV_ite _ (cellsV_upd ha dst (ha src)) ha
  | move src dst | moveAssign src dst => exact cellsV_ite _ (cellsV_upd (hdead src) dst (ha src)) ha
  | add h q v =>
    obtain ⟨p, hp⟩ := hop
    obtain ⟨f, t⟩ := v
    cases hp
    exact cellsV_modify ha h fun _ hs => cellsS_add q f p hs
  | setFinal h q => exact cellsV_modify ha h fun _ hs => hs
  | clear h => exact cellsV_modify ha h fun _ _ => cellsS_empty
  | destroy h => exact hdead h
  | shareAll src dst keepF => exact cellsV_ite _ (cellsV_upd_map ha src dst fun s hs => hs) ha
  | shareClusters src dst keep =>
    exact cellsV_ite _
      (cellsV_upd_map ha src dst fun s hs => cellsS_of_sub hs fun qc hqc => (List.mem_filter.1 hqc).1) ha
  | unionDisj x y dst =>
    simp only [specStepX]
    cases hx : a x with
    | none => exact ha
    | some s =>
      cases hy : a y with
      | none => exact ha
      | some t => exact cellsV_ite _ (cellsV_upd_some ha dst (cellsS_union (ha x s hx) (ha y t hy))) ha
  | setFinals _ _ | eraseFinal _ => cases hop

/-- every tuple pointer that occurs in a cluster of `s` satisfies `P` -/
def MentionsOnly (s : Store.Store) (P : Nat → Prop) : Prop :=
  ∀ qc, qc ∈ s.clusters → ∀ ft, ft ∈ qc.2 → ∀ l, l ∈ ft.2 → ∀ id, id ∈ l → P id

theorem derefS_congr {c c' : CacheSt} {s : Store.Store}
    (h : MentionsOnly s (fun id => derefC c' id = derefC c id)) : derefS c' s = derefS c s := by
  unfold derefS
  refine congrArg (Store.Store.mk · s.final) (List.map_congr_left fun qc hqc => congrArg (Prod.mk qc.1)
    (List.map_congr_left fun ft hft => congrArg (Prod.mk ft.1) (List.map_congr_left fun l hl => ?_)))
  exact flatMap_congr' (h qc hqc ft hft l hl)

theorem mentions_live {HX : HeapX} (hI : InvX HX) {h : Nat} (hh : h ∈ HX.core.hl) :
    MentionsOnly ⟨valM HX.core (HX.core.hmap h), HX.fin h⟩ (fun id => id ∈ refsT HX.core) := by
  intro qc hqc ft hft l hl id hid
  obtain ⟨kc, hkc, rfl⟩ := List.mem_map.1 hqc
  obtain ⟨ft0, hft0, rfl⟩ := List.mem_map.1 hft
  have hc : kc.2 ∈ HX.core.cl := hI.mc.pt _ (hmap_mem hI hh) kc.2 (List.mem_map.2 ⟨kc, hkc, rfl⟩)
  have ht : ft0.2 ∈ HX.core.tl := hI.ct.pt _ hc ft0.2 (List.mem_map.2 ⟨ft0, hft0, rfl⟩)
  exact mem_refsT ht (List.mem_flatten.2 ⟨l, hl, hid⟩)

theorem absX_map_congr {HX : HeapX} (hI : InvX HX) {c c' : CacheSt}
    (hd : ∀ id, id ∈ refsT HX.core → derefC c' id = derefC c id) (k : Nat) :
    (absX HX k).map (derefS c') = (absX HX k).map (derefS c) := by
  by_cases hk : k ∈ HX.core.hl
  · rw [absX_of_mem hk, Option.map_some, Option.map_some,
      derefS_congr fun qc hqc ft hft l hl id hid => hd id (mentions_live hI hk qc hqc ft hft l hl id hid)]
  · rw [absX_of_not_mem hk, Option.map_none, Option.map_none]

/-- inserting a pointer is inserting the tuple it points to -/
theorem derefS_add {c : CacheSt} {s : Store.Store} (q f p : Nat) (hcells : CellsS s)
    (hinj : MentionsOnly s (fun a => derefC c a = derefC c p → a = p)) :
    derefS c (Store.addTransition s ⟨f, cell p, q⟩) = Store.addTransition (derefS c s) ⟨f, derefC c p, q⟩ := by
  unfold derefS Store.addTransition addToMap
  refine congrArg (Store.Store.mk · s.final) ?_
  apply Store.map_upsert (fun (cl : Store.Cluster) => cl.map (fun ft => (ft.1, ft.2.map (derefCell c))))
  · show [(f, [derefCell c (cell p)])] = [(f, [derefC c p])]
    rw [derefCell_cell]
  · intro cl hcl
    unfold addToCluster
    apply Store.map_upsert (fun (ts : TupleSet) => ts.map (derefCell c))
    · show [derefCell c (cell p)] = [derefC c p]
      rw [derefCell_cell]
    · intro ts hts
      rw [← derefCell_cell c p]
      refine map_insNew fun a ha e => ?_
      obtain ⟨pa, rfl⟩ := hcells _ hcl _ hts a ha
      rw [derefCell_cell, derefCell_cell] at e
      rw [hinj _ hcl _ hts _ ha pa List.mem_cons_self e]

theorem map_ite (F : ValX → ValX) (g : Prop) [Decidable g] (u v : Nat → Option ValX) :
    (fun k => ((if g then u else v) k).map F) = if g then (fun k => (u k).map F) else fun k => (v k).map F := by
  split <;> rfl

theorem map_modify (F : ValX → ValX) (a : Nat → Option ValX) (h : Nat) {G G' : ValX → ValX}
    (hG : ∀ s, a h = some s → F (G s) = G' (F s)) :
    (fun k => ((match a h with
      | some s => upd a h (some (G s))
      | none => a) k).map F) =
    match (a h).map F with
      | some s => upd (fun k => (a k).map F) h (some (G' s))
      | none => fun k => (a k).map F := by
  cases hh : a h with
  | none => rfl
  | some s0 => simp only [Option.map_some, map_upd (Option.map _), hG s0 hh]

/-- the calls that do not look at tuples -/
def simpleOp : HOpX → Prop
  | .new _ => True
  | .copy _ _ ct cf => ct = true ∧ cf = true
  | .assign _ _ => True
  | .setFinal _ _ => True
  | .clear _ => True
  | .destroy _ => True
  | _ => False

theorem simpleOp_cellOp {op : HOpX} (h : simpleOp op) : cellOp op := by
  cases op <;> first | exact h | cases h

/-- the calls that do not look at tuples -/
def simpleOp2 : HOpX → Prop
  | .move _ _ => True
  | .moveAssign _ _ => True
  | .shareAll _ _ _ => True
  | .shareClusters _ _ _ => True
  | .unionDisj _ _ _ => True
  | op => simpleOp op

theorem simpleOp_simpleOp2 {op : HOpX} (h : simpleOp op) : simpleOp2 op := by
  cases op <;> first | exact h | trivial

theorem simpleOp2_cellOp2 {op : HOpX} (h : simpleOp2 op) : cellOp2 op := by
  cases op <;> first | trivial | exact cellOp_cellOp2 (simpleOp_cellOp h)

def derefCl (c : CacheSt) (cl : Store.Cluster) : Store.Cluster := cl.map (fun ft => (ft.1, ft.2.map (derefCell c)))

theorem derefS_eq (c : CacheSt) (s : Store.Store) :
    derefS c s = ⟨s.clusters.map (fun qc => (qc.1, derefCl c qc.2)), s.final⟩ := rfl

theorem derefS_union (c : CacheSt) (s t : Store.Store) :
    derefS c (unionStore s t) = unionStore (derefS c s) (derefS c t) := by
  simp only [derefS_eq, unionStore, Store.setFinals]
  rw [List.map_append, CowHeapX.missing_map (derefCl c)]

theorem derefS_filter (c : CacheSt) (keep : Nat → Bool) :
    (derefS c ∘ fun s => ⟨s.clusters.filter (fun kc => keep kc.1), s.final⟩) =
      (fun s => ⟨s.clusters.filter (fun kc => keep kc.1), s.final⟩) ∘ derefS c := by
  funext s
  simp only [Function.comp, derefS_eq]
  rw [List.filter_map]
  rfl

/-- The guards of the specification look at liveness only, and the new value is made of whole clusters of old values:
    mapping the values goes through `if` and `upd`. -/
theorem specStepX_map_simple (c : CacheSt) (a : Nat → Option ValX) {op : HOpX} (hop : simpleOp2 op) :
    (fun k => (specStepX a op k).map (derefS c)) = specStepX (fun k => (a k).map (derefS c)) op := by
  cases op with
  | add _ _ _ | setFinals _ _ | eraseFinal _ => cases hop
  | assign _ _ | move _ _ | moveAssign _ _ | destroy _ =>
    simp only [specStepX, Option.isSome_map, Option.isNone_map, map_ite, map_upd (Option.map _), Option.map_none]
  | new _ | shareAll _ _ _ =>
    simp only [specStepX, Option.isSome_map, Option.isNone_map, map_ite, map_upd (Option.map _), Option.map_map, Option.map_some]
    rfl
  | copy _ _ _ _ =>
    obtain ⟨rfl, rfl⟩ := hop
    simp only [specStepX, Option.isSome_map, Option.isNone_map, map_ite, map_upd (Option.map _), Option.map_map]
    rfl
  | shareClusters _ _ _ =>
    simp only [specStepX, Option.isSome_map, Option.isNone_map, map_ite, map_upd (Option.map _), Option.map_map, derefS_filter]
  | setFinal h _ | clear h => exact map_modify (derefS c) a h fun _ _ => rfl
  | unionDisj x y _ =>
    simp only [specStepX]
    cases a x with
    | none => rfl
    | some s =>
      cases a y with
      | none => rfl
      | some t => simp only [Option.map_some, Option.isNone_map, map_ite, map_upd (Option.map _), derefS_union]

theorem specStepX_map_add (c : CacheSt) (a : Nat → Option ValX) (h q f p : Nat)
    (hcells : ∀ s, a h = some s → CellsS s)
    (hinj : ∀ s, a h = some s → MentionsOnly s (fun x => derefC c x = derefC c p → x = p)) :
    (fun k => (specStepX a (.add h q (f, cell p)) k).map (derefS c)) =
      specStepX (fun k => (a k).map (derefS c)) (.add h q (f, derefC c p)) :=
  map_modify (derefS c) a h fun s hs => derefS_add q f p (hcells s hs) (hinj s hs)

end Vata.CowI
