import Vata.Proofs.LtsEngineCallsDelta
import Vata.Proofs.LtsEngineCallsSR
import Vata.Properties.C16_Discipline
/-!
# C16 / C20 – the simulation engine ON its helper classes: `SmartSet` unconditionally, `SplittingRelation` run by run

> C16: `computeSimulation(partition, relation, size)` returns the greatest simulation inside the initial relation.
> C20: the helper classes of the LTS simulation (`SmartSet`, `SplittingRelation`, …) behave like the values they stand for,
> for the calls the engine makes.
> `Vata/Properties/C16_Discipline.lean`, "still not proved": *`DeltaOK L` for every `L` with `ltsOKB L`; the discipline of
> `SplittingRelation` (its history is emitted in `Tr.sr` but nothing is proved about it).*

## How the C++ is read into the model

* The instrumented engine is that of `Vata/LtsEngineCalls.lean` (unchanged): `Tr.ss` is the history of all `SmartSet` calls,
  `Tr.sr` the history of the calls on `relation_` (`src/explicit_lts_sim.cc`):
  `this->relation_.init(index)` (l. 669) → `SR.Op.init e.rel`; `this->relation_.split(block->index_)` (l. 399 `fastSplit`,
  l. 429 `split`) → `SR.Op.split b`; the loops
  `for (col = row.begin(); col != row.end(); ++col) { if (!mask[*col]) continue; … this->relation_.erase(col); }`
  (l. 471–481 `processRemove`, one per `b1 ∈ preList`, mask `removeMask`; l. 704–720 `init`, one per block and per
  `a ∈ pre[b1]`, mask `noPreMask[a]`) → `SR.Op.eraseRow b1 mask` (`SR.eraseRow` of `Vata/LtsUtil.lean` IS that loop on the
  doubly linked cells: it reads `right_` of the cell just reclaimed, as the C++ iterator does).  In `init` the C++ fetches
  `auto row = relation_.row(b1->index_)` ONCE in front of the loop over `a ∈ pre[b1]`; `Row::begin_` is a REFERENCE
  (`Element*& begin_`, `src/util/splitting_relation.hh` l. 206) to `rows_[index].first`, so every `row.begin()` re-reads the
  current first cell – which is what `SR.eraseRow` does (`s.rows[i]` is read at the start of every loop).
* `ExplicitLTS::buildDelta1` (`delta1T`): `SmartSet(states_)`, `labels()` copies, then for every label `a` the calls
  `delta1[a].init(q, count)` for `q = 0 … data_[a].first.size() - 1` in increasing order.
* The discipline of `SplittingRelation` is `SR.okAll ⟨[], L.n, false⟩ history` (`Vata/Proofs/LtsUtilSRHist.lean`): from the object
  as constructed by `relation_(lts.states())` – capacity `L.n`, not initialised –: exactly one `init` with at most `L.n`
  duplicate-free in-range rows, `split(i)` only of an index that is in its own row and only below the capacity, erase loops
  only over existing rows.  On such histories the class AS CODED (`SR.run`: cells with `left/right/up/down`, the row / column
  sentinels with the `rowE i = rowB (i+1)` aliasing, the free list) is defined and refines the value
  (`SR.run_refines_mk`, built from `SR.init_refines`, `SR.split_refines`, `SR.eraseRow_refines_cap`).

## What is abstracted

* As in `C16_Discipline.lean`: read-only calls (`row(i)`, `size()`, iteration) and destructors are not history entries; one
  history per class (no interleaving between classes); `SharedCounter` / `SharedList` calls are not emitted.
* The value returned by `split` (the new index) is ignored by the C++ and by the model; `C16_engine_on_heaps_SR` nevertheless
  states that the coded class returns what the value side returns (`(SR.aRun …).2`).
-/
namespace Vata.Props
open Vata.L Vata.LE Vata.LU Vata.LEC

/-- **`buildDelta1` is inside the `SmartSet` discipline, for every LTS with in-range edges.**  The calls
`delta1[a].init(q, count)` visit every `q` once, in increasing order: no call meets a member, none erases, `last_` never
dangles; the set `delta1[a]` ends as the states with an outgoing `a`-edge (increasing) with their numbers of `a`-successors.
This discharges the hypothesis `hΔ` of `C16_engine_discipline_partial` / `C16_engine_on_heaps_partial`. -/
theorem C16_deltaOK (L : LTS) (hL : ltsOKB L = true) : DeltaOK L := deltaOK_of_ltsOKB hL

/-- **the `SmartSet` call discipline holds along the whole run** (`C16_engine_discipline_partial` without `hΔ`): for every
LTS / partition / block relation satisfying the engine's preconditions the history of ALL `SmartSet` calls – `buildDelta1`,
`init`, the first `k` iterations of `run()` for every `k`, and the history of a completed `computeSimulation` – is inside
`SS.ok`. -/
theorem C16_engine_discipline (L : LTS) (part : List (List Nat)) (rel : Rel)
    (hL : ltsOKB L = true) (hp : isPartition part L.n = true) (hc : isConsistent part rel = true)
    (ht : isTransB rel = true) :
    (∀ k, SS.okAll [] (stateAfterI L part rel k).2.ss = true) ∧
    (∀ size R t, computeSimulationI L part rel size = some (R, t) → SS.okAll [] t.ss = true) :=
  C16_engine_discipline_partial L part rel hL hp hc ht (deltaOK_of_ltsOKB hL)

/-- **the engine on heaps (`SmartSet`)** (`C16_engine_on_heaps_partial` without `hΔ`): the class AS CODED runs on the engine's
`SmartSet` history without reaching an undefined outcome, and afterwards the set of every block shows the inset the engine
model computes, the sets `delta1[a]` the states with an outgoing `a`-edge in increasing order. -/
theorem C16_engine_on_heaps (L : LTS) (part : List (List Nat)) (rel : Rel)
    (hL : ltsOKB L = true) (hp : isPartition part L.n = true) (hc : isConsistent part rel = true)
    (ht : isTransB rel = true) (k : Nat) :
    ∃ w, SS.run [] (stateAfterI L part rel k).2.ss = some w ∧
      (∀ i, i < (stateAfter L part rel k).part.length → ∃ s, w[objR L (nb0 L part rel) i]? = some s ∧
        SS.toList s = some ((stateAfter L part rel k).inset.getD i []) ∧
        s.size = ((stateAfter L part rel k).inset.getD i []).length ∧
        ∀ a, a < labels L → SS.contains s a = some (((stateAfter L part rel k).ins i).contains a)) ∧
      (∀ a, a < labels L → ∃ s, w[a + 1]? = some s ∧ (SS.toList s).map (·.map (·.1)) = some (delta1 L a)) :=
  C16_engine_on_heaps_partial L part rel hL hp hc ht (deltaOK_of_ltsOKB hL) k

/-- **the `SplittingRelation` call discipline holds along the whole run.**  For every LTS / partition / block relation
satisfying the engine's preconditions, the history of all calls on `relation_` after `init` and the first `k` iterations of
`run()` (every `k`), and the history of a completed `computeSimulation`, is inside `SR.ok` from the object as constructed
(capacity `L.n`), and the value it leads to is the list of rows of the engine model.  In particular every
`relation_.split(block->index_)` finds `block` in its own row (no pruning loop ever erased the diagonal) and finds room for the
new index (there are never more than `L.n` blocks), and `init` is called with duplicate-free in-range rows. -/
theorem C16_engine_discipline_SR (L : LTS) (part : List (List Nat)) (rel : Rel)
    (hL : ltsOKB L = true) (hp : isPartition part L.n = true) (hc : isConsistent part rel = true)
    (ht : isTransB rel = true) :
    (∀ k, SR.okAll ⟨[], L.n, false⟩ (stateAfterI L part rel k).2.sr = true ∧
      (SR.aRun ⟨[], L.n, false⟩ (stateAfterI L part rel k).2.sr).1 = ⟨(stateAfter L part rel k).rel, L.n, true⟩) ∧
    (∀ size R t, computeSimulationI L part rel size = some (R, t) → SR.okAll ⟨[], L.n, false⟩ t.sr = true) := by
  have hg := stateAfter_goodR (ltsOK_of_B hL) hp hc (relTrans_of_B (part := part) ht)
  refine ⟨fun k => ⟨(hg k).1, by rw [← stateAfterI_fst]; exact (hg k).2⟩, ?_⟩
  intro size R t h
  rcases computeSimulationI_some h with ⟨_, _, rfl⟩ | ⟨k, _, _, rfl, _⟩
  · rfl
  · exact (hg k).1

/-- **the engine on heaps (`SplittingRelation`).**  Running the class AS CODED (`SR.run` from `SR.mk L.n`: doubly linked cells,
row / column sentinels with the aliasing `rowE i = rowB (i + 1)`, free list) on the engine's `relation_` history never
reaches an undefined outcome; every call returns what the value side returns; and after `init` and after every iteration of
`run()` the heap shows exactly the relation of the engine model: `size()` is the number of blocks (the C++
`assert(this->relation_.size() == this->partition_.size())`), iterating `row(i)` yields row `i` of the model in the model's
order (what `processRemove`, `init` and `buildResult` read), iterating `column(i)` yields the rows containing `i`. -/
theorem C16_engine_on_heaps_SR (L : LTS) (part : List (List Nat)) (rel : Rel)
    (hL : ltsOKB L = true) (hp : isPartition part L.n = true) (hc : isConsistent part rel = true)
    (ht : isTransB rel = true) (k : Nat) :
    ∃ s', SR.run (SR.mk L.n) (stateAfterI L part rel k).2.sr =
        some (s', (SR.aRun ⟨[], L.n, false⟩ (stateAfterI L part rel k).2.sr).2) ∧
      SR.Inv s' (stateAfter L part rel k).rel ∧
      s'.size = (stateAfter L part rel k).part.length ∧
      ∀ i, i < (stateAfter L part rel k).part.length →
        (SR.rowCells s' i).map (·.map (·.2)) = some ((stateAfter L part rel k).row i) ∧
        (SR.colCells s' i).map (·.map (·.2)) = some (SR.aCol (stateAfter L part rel k).rel i) := by
  obtain ⟨hok, hval⟩ := (C16_engine_discipline_SR L part rel hL hp hc ht).1 k
  have hw := (engine_invariant_always (ltsOK_of_B hL) hp hc (relTrans_of_B (part := part) ht) k).wf
  obtain ⟨s', h1, h2⟩ := SR.run_refines_mk L.n _ hok
  have hinv : SR.Inv s' (stateAfter L part rel k).rel := by
    have := h2.2
    rw [hval] at this
    simpa using this
  refine ⟨s', h1, hinv, by rw [SR.size_refines hinv, hw.hrel], fun i hi => ?_⟩
  rw [← hw.hrel] at hi
  exact ⟨SR.rowCells_refines hinv hi, SR.colCells_refines hinv hi⟩

/-- the same for a completed `computeSimulation` (non-empty output): the coded `SplittingRelation` ends in a state whose rows
are the rows of the final engine state `e`, from which `buildResult` produced the answer -/
theorem C16_engine_on_heaps_SR_final (L : LTS) (part : List (List Nat)) (rel : Rel)
    (hL : ltsOKB L = true) (hp : isPartition part L.n = true) (hc : isConsistent part rel = true)
    (ht : isTransB rel = true) (size : Nat) (hs : size ≠ 0) (R : Rel) (t : Tr)
    (h : computeSimulationI L part rel size = some (R, t)) :
    ∃ e s' outs, SR.run (SR.mk L.n) t.sr = some (s', outs) ∧ R = buildResult e size ∧ e.queue = [] ∧
      s'.size = e.rel.length ∧
      ∀ i, i < e.rel.length → (SR.rowCells s' i).map (·.map (·.2)) = some (e.row i) := by
  rcases computeSimulationI_some h with ⟨h0, _⟩ | ⟨k, _, hR, rfl, hq⟩
  · exact absurd h0 hs
  · obtain ⟨s', h1, hinv, _, _⟩ := C16_engine_on_heaps_SR L part rel hL hp hc ht k
    rw [← stateAfterI_fst] at hinv
    exact ⟨(stateAfterI L part rel k).1, s', _, h1, hR, hq, SR.size_refines hinv, fun i hi => SR.rowCells_refines hinv hi⟩

/-! ### non-vacuity -/

-- `buildDelta1` for a system where a source state has no `a`-successor below `data_[a].first.size()` (the `init(q, 0)` case)
example : ltsOKB ⟨3, [(2, 0, 0), (0, 1, 1), (2, 0, 1)]⟩ = true ∧
    delta1T ⟨3, [(2, 0, 0), (0, 1, 1), (2, 0, 1)]⟩ =
      [.new 3, .copy 0, .copy 0, .init 1 0 0, .init 1 1 0, .init 1 2 2, .init 2 0 1] ∧
    SS.aRun [] (delta1T ⟨3, [(2, 0, 0), (0, 1, 1), (2, 0, 1)]⟩) =
      [⟨[], 3, false⟩, ⟨[(2, 2)], 3, false⟩, ⟨[(0, 1)], 3, false⟩] := by decide +kernel

-- the run of `EngEx.L3`: hypotheses hold; the `relation_` history has `init`, three `split`s and five erase loops, it is
-- inside the discipline, and it ends in the rows of the engine model
example : ltsOKB EngEx.L3 = true ∧ isPartition [[0, 1, 2, 3]] EngEx.L3.n = true ∧ isConsistent [[0, 1, 2, 3]] [(0, 0)] = true ∧
    isTransB [(0, 0)] = true ∧
    (stateAfterI EngEx.L3 [[0, 1, 2, 3]] [(0, 0)] 2).2.sr =
      [.init [[0]], .split 0, .eraseRow 1 [0], .eraseRow 1 [0], .eraseRow 1 [0], .split 1, .eraseRow 1 [2], .split 1,
        .eraseRow 1 [3]] ∧
    SR.okAll ⟨[], 4, false⟩ (stateAfterI EngEx.L3 [[0, 1, 2, 3]] [(0, 0)] 2).2.sr = true ∧
    (stateAfterI EngEx.L3 [[0, 1, 2, 3]] [(0, 0)] 2).1.rel = [[0, 1, 2, 3], [1], [1, 2, 3], [1, 3]] := by decide +kernel

-- the coded class on this history: defined, and row 2 reads back as the model's row 2
example : (SR.run (SR.mk 4) (stateAfterI EngEx.L3 [[0, 1, 2, 3]] [(0, 0)] 2).2.sr).bind
    (fun r => (SR.rowCells r.1 2).map (·.map (·.2))) = some [1, 2, 3] := by decide +kernel

-- the discipline is not vacuous on the class: a `split` of an index whose diagonal element was erased, or a `split` at full
-- capacity, is outside the discipline (this is what the engine avoids: it never erases `(b, b)` and never has more than
-- `L.n` blocks)
example : SR.okAll ⟨[], 3, false⟩ [.init [[0, 1], [1]], .eraseRow 1 [1], .split 1] = false ∧
    SR.okAll ⟨[], 2, false⟩ [.init [[0, 1], [1]], .split 1] = false ∧
    SR.run (SR.mk 2) [.init [[0, 1], [1]], .split 1] = none := by decide +kernel

/-!
## which "still not proved" items of `C16_Discipline.lean` this file closes

* `DeltaOK L` for every `L` with `ltsOKB L`: `C16_deltaOK`; hence `C16_engine_discipline`, `C16_engine_on_heaps` without the
  hypothesis `hΔ`.
* The discipline of `SplittingRelation` along the run: `C16_engine_discipline_SR`; the coded class on the engine's history:
  `C16_engine_on_heaps_SR`, `C16_engine_on_heaps_SR_final`.

## still not proved

* The discipline of `SharedCounter` (`SC.ok`) and `SharedList` (`SL.ok`) along the run: their calls are not emitted by the
  instrumented engine.
* The value of the scratch set `s` of `init` after its `remove` calls (= `initRemove`) is not stated; only that all calls on
  it are inside the discipline.
* The interleaving of the histories of different classes is not recorded (the classes share no memory); destructors and
  read-only calls are not history entries.
-/
end Vata.Props
