import Vata.Proofs.FunctorCachesDown
import Vata.Proofs.FunctorCachesDownOptGen
/-!
# The caches of the recursive downward inclusion algorithm are transparent – with the library's deleter (C01, C07)

Model: `Vata/FunctorCachesDown.lean`; heap lemmas: `Vata/Proofs/FunctorCachesDown.lean`.

The simulation relation `DRel o ctx ccC stC cc st` between the cached state (a `childrenCache_` of pairs (state, address), the
global state with `nonIncl_` and the heap) and the state of `InclDown` (pairs (state, set)):

* the heap invariant `HInvD` (every entry of `lteCache` mentions live addresses only and stores `NonCachedLte` of the sets
  now there);
* `ctx` – the handles held by the frames of the call stack that do not change while the current code runs (the work-set, the
  `childrenCache_`s of the functors up the stack, the argument of the running `expand`), each with the VALUE it must keep: all
  live, all with that value;
* the addresses in `childrenCache_` and `nonIncl_` are live, and read through the heap the two containers are those of the
  cache-free run; the ghost sets are equal.

What keeps it: a heap in which the visible objects survive with their values, and freezing the `childrenCache_` of a
functor into the context while its inner functor runs.  The deaths at the return of `expand` are harmless because the roots
cover `ctx`.  The simulation is by induction on the recursion depth, over the functor's `operator()` (`bodyG_rel` of
`Vata/Proofs/FunctorCachesDownOptGen.lean`).
-/
namespace Vata
namespace FCD
open Vata.InclDown
open Vata.FCU (Heap hval hLookup hCollect Live)
open Vata.InclUp (normS prodWit Wit)

def CtxOK (h : Heap) (ctx : List (Nat × List Nat)) : Prop := ∀ x, x ∈ ctx → Live h x.1 ∧ hval h x.1 = x.2

structure DRel (o : Ord) (ctx : List (Nat × List Nat)) (ccC : List CP) (stC : StC) (cc : List Pair) (st : St) : Prop where
  hi : HInvD o stC.h
  ok : CtxOK stC.h ctx
  lcc : ∀ x, x ∈ ccC → Live stC.h x.2
  lni : ∀ x, x ∈ stC.nonIncl → Live stC.h x.2.1
  ecc : ccC.map (derefP stC.h) = cc
  eni : stC.nonIncl.map (derefN stC.h) = st.nonIncl
  etr : stC.trues = st.trues

section
variable {o : Ord} {ctx : List (Nat × List Nat)} {ccC : List CP} {stC : StC} {cc : List Pair} {st : St}

theorem DRel.heap {ctx' : List (Nat × List Nat)} (h : DRel o ctx ccC stC cc st) {h' : Heap} (hi' : HInvD o h')
    (hp : ∀ a, ((∃ x, x ∈ ctx' ∧ x.1 = a) ∨ (∃ x, x ∈ ccC ∧ x.2 = a) ∨ (∃ x, x ∈ stC.nonIncl ∧ x.2.1 = a)) →
      Live stC.h a → Live h' a ∧ hval h' a = hval stC.h a)
    (hsub : ∀ x, x ∈ ctx' → x ∈ ctx) : DRel o ctx' ccC { stC with h := h' } cc st := by
  refine ⟨hi', ?_, ?_, ?_, ?_, ?_, h.etr⟩
  · intro x hx
    obtain ⟨l, v⟩ := h.ok x (hsub x hx)
    obtain ⟨l', v'⟩ := hp x.1 (Or.inl ⟨x, hx, rfl⟩) l
    exact ⟨l', v'.trans v⟩
  · intro x hx
    exact (hp x.2 (Or.inr (Or.inl ⟨x, hx, rfl⟩)) (h.lcc x hx)).1
  · intro x hx
    exact (hp x.2.1 (Or.inr (Or.inr ⟨x, hx, rfl⟩)) (h.lni x hx)).1
  · rw [← h.ecc]
    apply List.map_congr_left
    intro x hx
    simp only [derefP, (hp x.2 (Or.inr (Or.inl ⟨x, hx, rfl⟩)) (h.lcc x hx)).2]
  · rw [← h.eni]
    apply List.map_congr_left
    intro x hx
    simp only [derefN, (hp x.2.1 (Or.inr (Or.inr ⟨x, hx, rfl⟩)) (h.lni x hx)).2]

theorem DRel.update (h : DRel o ctx ccC stC cc st) {h' : Heap} (hi' : HInvD o h') (hs : h'.store = stC.h.store)
    {ccC' : List CP} {ni' : List CN} {tr' : List Pair} {cc' : List Pair} {st' : St}
    (lcc : ∀ x, x ∈ ccC' → Live stC.h x.2) (lni : ∀ x, x ∈ ni' → Live stC.h x.2.1)
    (ecc : ccC'.map (derefP stC.h) = cc') (eni : ni'.map (derefN stC.h) = st'.nonIncl) (etr : tr' = st'.trues) :
    DRel o ctx ccC' ⟨ni', tr', h'⟩ cc' st' :=
  ⟨hi', fun x hx => ⟨(FCU.live_store hs _).mpr (h.ok x hx).1, (FCU.hval_store hs _).trans (h.ok x hx).2⟩,
    fun x hx => (FCU.live_store hs _).mpr (lcc x hx), fun x hx => (FCU.live_store hs _).mpr (lni x hx),
    derefP_store hs ▸ ecc, derefN_store hs ▸ eni, etr⟩

theorem DRel.sameStore (h : DRel o ctx ccC stC cc st) {h' : Heap} (hi' : HInvD o h') (hs : h'.store = stC.h.store) :
    DRel o ctx ccC { stC with h := h' } cc st :=
  h.update hi' hs h.lcc h.lni h.ecc h.eni h.etr

theorem DRel.cons (h : DRel o ctx ccC stC cc st) {a : Nat} {Q : List Nat} (hl : Live stC.h a) (hv : hval stC.h a = Q) :
    DRel o ((a, Q) :: ctx) ccC stC cc st :=
  ⟨h.hi, fun x hx => by
      rcases List.mem_cons.mp hx with rfl | hx
      · exact ⟨hl, hv⟩
      · exact h.ok x hx, h.lcc, h.lni, h.ecc, h.eni, h.etr⟩

theorem DRel.shrink {ctx' : List (Nat × List Nat)} (h : DRel o ctx ccC stC cc st) (hsub : ∀ x, x ∈ ctx' → x ∈ ctx) :
    DRel o ctx' ccC stC cc st :=
  ⟨h.hi, fun y hy => h.ok y (hsub y hy), h.lcc, h.lni, h.ecc, h.eni, h.etr⟩

theorem DRel.tail {x : Nat × List Nat} (h : DRel o (x :: ctx) ccC stC cc st) : DRel o ctx ccC stC cc st :=
  h.shrink (fun _ hy => List.mem_cons_of_mem _ hy)

theorem DRel.addCtx (h : DRel o ctx ccC stC cc st) {α : Type} (l : List α) (ad : α → Nat)
    (hl : ∀ x, x ∈ l → Live stC.h (ad x)) :
    DRel o (ctx ++ l.map (fun x => (ad x, hval stC.h (ad x)))) ccC stC cc st :=
  ⟨h.hi, fun x hx => by
      rcases List.mem_append.mp hx with hx | hx
      · exact h.ok x hx
      · obtain ⟨y, hy, rfl⟩ := List.mem_map.mp hx
        exact ⟨hl y hy, rfl⟩, h.lcc, h.lni, h.ecc, h.eni, h.etr⟩

theorem DRel.collect (h : DRel o ctx ccC stC cc st) (roots : List Nat)
    (hcov : ∀ a, ((∃ x, x ∈ ctx ∧ x.1 = a) ∨ (∃ x, x ∈ ccC ∧ x.2 = a) ∨ (∃ x, x ∈ stC.nonIncl ∧ x.2.1 = a)) → a ∈ roots) :
    DRel o ctx ccC { stC with h := hCollect .lib roots stC.h } cc st := by
  obtain ⟨g1, g2⟩ := hCollectD_spec h.hi roots
  exact h.heap g1 (fun a ha hl => g2 a (hcov a ha) hl) (fun _ hx => hx)

theorem mem_rootsOf {roots : List Nat} {cc : List CP} {st : StC} {a : Nat} :
    a ∈ rootsOf roots cc st ↔ a ∈ roots ∨ (∃ x, x ∈ cc ∧ x.2 = a) ∨ (∃ x, x ∈ st.nonIncl ∧ x.2.1 = a) := by
  simp only [rootsOf, List.mem_append, List.mem_map, or_assoc]

/-- the deaths of the model: besides the containers of the state the roots hold the handles of the context -/
theorem DRel.collectOf {ni : List CN} {tr : List Pair} {hp : Heap} (h : DRel o ctx ccC ⟨ni, tr, hp⟩ cc st) {roots : List Nat}
    (hroots : ∀ x, x ∈ ctx → x.1 ∈ roots) :
    DRel o ctx ccC ⟨ni, tr, hCollect .lib (rootsOf roots ccC ⟨ni, tr, hp⟩) hp⟩ cc st :=
  h.collect _ (fun _ ha => mem_rootsOf.mpr (ha.imp_left (fun ⟨x, hx, e⟩ => e ▸ hroots x hx)))

/-- the `childrenCache_` of a functor is frozen while its inner functor (with an empty `childrenCache_`) runs -/
theorem DRel.freeze (h : DRel o ctx ccC stC cc st) :
    DRel o (ctx ++ ccC.map (fun x => (x.2, hval stC.h x.2))) [] stC [] st :=
  have h' := h.addCtx ccC (·.2) h.lcc
  ⟨h'.hi, h'.ok, (fun _ hx => by cases hx), h'.lni, rfl, h'.eni, h'.etr⟩

/-- … and is as it was when the inner functor (whose own `childrenCache_` `cc1` dies) is done -/
theorem DRel.thaw {h0 : Heap} {cc1 : List CP} {cc1V : List Pair} (hecc : ccC.map (derefP h0) = cc)
    (h : DRel o (ctx ++ ccC.map (fun x => (x.2, hval h0 x.2))) cc1 stC cc1V st) : DRel o ctx ccC stC cc st := by
  have hl : ∀ x, x ∈ ccC → Live stC.h x.2 ∧ hval stC.h x.2 = hval h0 x.2 := fun x hx =>
    h.ok (x.2, hval h0 x.2) (List.mem_append.mpr (Or.inr (List.mem_map.mpr ⟨x, hx, rfl⟩)))
  refine ⟨h.hi, fun x hx => h.ok x (List.mem_append.mpr (Or.inl hx)), fun x hx => (hl x hx).1, h.lni, ?_, h.eni, h.etr⟩
  rw [← hecc]
  apply List.map_congr_left
  intro x hx
  simp only [derefP, (hl x hx).2]

end

/-- `expand (p, a)` runs with the work-set `ws` (by value: `wsV`) while the frames up the stack hold the handles `outer`: its
argument `a` is in the context with the value `P`, so are the handles of the work-set, and nothing else is -/
structure Frames (ctx : List (Nat × List Nat)) (ws : List CP) (wsV : List Pair) (outer : List Nat) (a : Nat) (P : List Nat) :
    Prop where
  arg : (a, P) ∈ ctx
  wsV : ∀ h, CtxOK h ctx → ws.map (derefP h) = wsV
  wsC : ∀ x, x ∈ ws → ∃ V, (x.2, V) ∈ ctx
  cov : ∀ x, x ∈ ctx → x.1 = a ∨ x.1 ∈ ws.map (·.2) ∨ x.1 ∈ outer

theorem Frames.root (a : Nat) (P : List Nat) (fz : List (Nat × List Nat)) :
    Frames ((a, P) :: fz) [] [] (fz.map (·.1)) a P :=
  ⟨List.mem_cons_self, fun _ _ => rfl, (fun _ hx => by cases hx), fun x hx => by
    rcases List.mem_cons.mp hx with rfl | hx
    · exact Or.inl rfl
    · exact Or.inr (Or.inr (List.mem_map_of_mem hx))⟩

section
variable {ctx : List (Nat × List Nat)} {ws : List CP} {wsV : List Pair} {outer : List Nat} {a : Nat} {P : List Nat}

theorem Frames.roots (F : Frames ctx ws wsV outer a P) : ∀ x, x ∈ ctx → x.1 ∈ a :: ws.map (·.2) ++ outer := fun x hx => by
  simp only [List.cons_append, List.mem_cons, List.mem_append]
  exact F.cov x hx

/-- handles frozen while `expand` runs join the context; the frames up the stack hold them (`more`) -/
theorem Frames.freeze (F : Frames ctx ws wsV outer a P) {fz : List (Nat × List Nat)} {more : List Nat}
    (hfz : ∀ x, x ∈ fz → x.1 ∈ more) : Frames (ctx ++ fz) ws wsV (outer ++ more) a P :=
  ⟨List.mem_append_left _ F.arg, fun h hok => F.wsV h (fun x hx => hok x (List.mem_append_left _ hx)),
    fun x hx => (F.wsC x hx).imp fun _ hV => List.mem_append_left _ hV,
    fun x hx => (List.mem_append.mp hx).elim
      (fun hx => (F.cov x hx).imp_right (·.imp_right (List.mem_append_left _)))
      (fun hx => Or.inr (Or.inr (List.mem_append_right _ (hfz x hx))))⟩

theorem fst_mem_frozen {α : Type} {l : List α} {ad : α → Nat} {g : α → List Nat} (x : Nat × List Nat)
    (hx : x ∈ l.map (fun y => (ad y, g y))) : x.1 ∈ l.map ad := by
  obtain ⟨y, hy, rfl⟩ := List.mem_map.mp hx
  exact List.mem_map_of_mem hy

/-- the frames of a nested call `expand (q, a')`: `(p, a)` has joined the work-set -/
theorem Frames.push (F : Frames ctx ws wsV outer a P) (p a' : Nat) (Q : List Nat) :
    Frames ((a', Q) :: ctx) ((p, a) :: ws) ((p, P) :: wsV) outer a' Q := by
  refine ⟨List.mem_cons_self, fun hh hok => ?_, fun x hx => ?_, fun x hx => ?_⟩
  · have hok' : CtxOK hh ctx := fun x hx => hok x (List.mem_cons_of_mem _ hx)
    simp only [List.map_cons, F.wsV hh hok', derefP, (hok' _ F.arg).2]
  · rcases List.mem_cons.mp hx with rfl | hx
    · exact ⟨P, List.mem_cons_of_mem _ F.arg⟩
    · exact (F.wsC x hx).imp fun _ hV => List.mem_cons_of_mem _ hV
  · simp only [List.map_cons, List.mem_cons]
    rcases List.mem_cons.mp hx with rfl | hx
    · exact Or.inl rfl
    · exact Or.inr ((F.cov x hx).elim (fun h => Or.inl (Or.inl h)) (·.imp_left Or.inr))

end

/-- `expand(q, biggerTypeCache_.lookup(Q))` as the calling functor sees it, for any allocator: if `expand` on the looked-up
address simulates the cache-free `expand` on the value, the call with the creation of the temporary before and the deaths
after it does -/
theorem wrapC_rel {o : Ord} (pick : List Nat → Nat) {ctx : List (Nat × List Nat)} {roots : List Nat}
    {e : List CP → StC → Nat → Nat → RetC} {c : Call} (hroots : ∀ x, x ∈ ctx → x.1 ∈ roots)
    (he : ∀ q a Q ccC stC cc st, DRel o ((a, Q) :: ctx) ccC stC cc st →
      RetRelG (DRel o ((a, Q) :: ctx)) (e ccC stC q a) (c cc st q Q)) :
    CallRelG (DRel o ctx) (wrapC .lib pick roots e) c := fun q Q ccC stC cc st h => by
  obtain ⟨l1, l2, l3, l4⟩ := hLookupD_spec pick h.hi Q
  have h2 := (h.heap l1 (fun a _ ha => l4 a ha) (fun _ hx => hx)).cons l2 l3
  simp only [wrapC]
  rcases (he q _ Q ccC _ cc st h2).inv with ⟨e1, e2⟩ | ⟨⟨v, ccC', stC'⟩, ⟨_, cc', st'⟩, e1, e2, rfl, hr⟩
  · rw [e1, e2]; exact .none
  · rw [e1, e2]; exact retRelG_some (hr.tail.collectOf hroots)

/-- **`expand` with its caches simulates the cache-free `expand`**, for every allocator, with the library's deleter -/
theorem expandC_rel {o : Ord} (hr : ∀ q, o.leB q q = true) (pick : List Nat → Nat) (A B : TA) (wit : Wit) :
    ∀ (fuel : Nat) {ws : List CP} {outer : List Nat} {wsV : List Pair} {ctx : List (Nat × List Nat)} {a : Nat}
      {P : List Nat}, Frames ctx ws wsV outer a P → ∀ (p : Nat) (ccC : List CP) (stC : StC) (cc : List Pair) (st : St),
      DRel o ctx ccC stC cc st →
      RetRelG (DRel o ctx) (expandC o .lib pick A B wit fuel ws outer ccC stC p a)
        (expand o A B wit fuel wsV cc st p P) := by
  intro fuel
  induction fuel with
  | zero => intros; exact .none
  | succ fuel ih =>
    intro ws outer wsV ctx a P F p ccC stC cc st h
    obtain ⟨ha, hP⟩ := h.ok _ F.arg
    -- the tests, each on the heap the one before left
    obtain ⟨e1, m1, c1⟩ := coversC_spec hr ws p a rfl h.hi ha (fun x hx => let ⟨_, hV⟩ := F.wsC x hx; (h.ok _ hV).1)
    obtain ⟨e2, m2, c2⟩ := niFindC_spec hr stC.nonIncl p a c1 m1 ha h.lni
    obtain ⟨e3, m3, c3⟩ := coversC_spec hr ccC p a c2 m2 ha h.lcc
    rw [F.wsV _ h.ok, hP] at e1
    rw [h.eni, hP] at e2
    rw [h.ecc, hP] at e3
    have h3 := h.sameStore m3 c3
    simp only [expandC, expand]
    -- isInWorkset
    rw [e1]
    by_cases hc1 : covers o wsV p P = true
    · rw [if_pos hc1, if_pos hc1]; exact retRelG_some (h.sameStore m1 c1)
    rw [if_neg hc1, if_neg hc1]
    -- isNoninclusionImplied
    rw [← e2]
    cases (niFindC o stC.nonIncl p a (coversC o ws p a stC.h).1).2 with
    | some x => exact retRelG_some (h.sameStore m2 c2)
    | none =>
      simp only [Option.map_none]
      -- isImpliedByChildren
      rw [e3]
      by_cases hc3 : covers o cc p P = true
      · rw [if_pos hc3, if_pos hc3]; exact retRelG_some h3
      rw [if_neg hc3, if_neg hc3]
      -- IsImpliedByPreorder
      rw [show hval (coversC o ccC p a (niFindC o stC.nonIncl p a (coversC o ws p a stC.h).1).1).1 a = P from
        (h3.ok _ F.arg).2]
      by_cases hc4 : byPre o p P = true
      · rw [if_pos hc4, if_pos hc4]; exact retRelG_some h3
      rw [if_neg hc4, if_neg hc4]
      -- the body, run by `innerFctor`; the `childrenCache_` of `*this` is frozen meanwhile
      have hcall : ∀ h0 : Heap, CallRelG (DRel o (ctx ++ ccC.map (fun x => (x.2, hval h0 x.2))))
          (wrapC .lib pick (a :: ws.map (·.2) ++ (outer ++ ccC.map (·.2)))
            (expandC o .lib pick A B wit fuel ((p, a) :: ws) (outer ++ ccC.map (·.2))))
          (expand o A B wit fuel ((p, P) :: wsV)) := fun h0 =>
        have F' := F.freeze (fz := ccC.map (fun x => (x.2, hval h0 x.2))) (more := ccC.map (·.2)) fst_mem_frozen
        wrapC_rel pick F'.roots (fun q a' Q => ih (F'.push p a' Q) q)
      rw [bodyC_eq]
      rcases (bodyG_rel (hcall _) (hcall _) A B wit normS p P [] _ [] st h3.freeze).inv with ⟨e5, e6⟩ |
        ⟨⟨v, cc1, st'⟩, ⟨_, cc1V, stV⟩, e5, e6, rfl, hb⟩
      · rw [e5, e6]; exact .none
      · rw [e5, e6]
        have hb := DRel.thaw h3.ecc hb
        obtain ⟨ha', hP'⟩ := hb.ok _ F.arg
        cases v with
        | holds =>
          obtain ⟨e4, m4, c4, s4⟩ := ccAddC_spec hr ccC p a hb.hi ha' hb.lcc
          rw [hb.ecc, hP'] at e4
          simp only [hP']
          refine retRelG_some (DRel.collectOf ?_ (fun x hx => List.mem_append_left _ (F.roots x hx)))
          exact hb.update m4 c4 (fun x hx => (s4 x hx).elim (hb.lcc x) (fun e => e ▸ ha')) hb.lni e4 hb.eni
            (congrArg (addTrue · (p, P)) hb.etr)
        | fails t =>
          obtain ⟨e4, m4, c4, s4⟩ := niAddC_spec hr st'.nonIncl p a t hb.hi ha' hb.lni
          rw [hb.eni, hP'] at e4
          refine retRelG_some (DRel.collectOf ?_ (fun x hx => List.mem_append_left _ (F.roots x hx)))
          exact hb.update m4 c4 hb.lcc (fun x hx => (s4 x hx).elim (hb.lni x) (fun e => e ▸ ha')) hb.ecc e4 h.etr

end FCD
end Vata
