import Vata.ExtendWithCall
import Vata.Proofs.BddAbsTD
import Vata.RcStoreXMono
/-!
# The `ExtendWith` call of `GetTopDownAut` is inside the precondition of canonicity – proofs (properties C17 / C08)

The invariant `EntWF T` says that every STORED MTBDD of the table is ordered, reduced and over the variables `< 16`; it
needs no `TableOk`, holds of every `BuiltBU` table and gives the `TableWF` of the C08 files.  Under it each operand of
the `ExtendWith` call lies below the offset, so the extension is `WF` and over the variables `< 22`, and the store-level
side condition `RcSX.opOk` of the call holds (`opOk_extendWith_of_below`).
-/
namespace Vata.ExtCall
open M BddAbs BddAbsTD
variable {α β : Type}

theorem belowB_iff {x : Nat} : ∀ {a : Node α}, belowB x a = true ↔ Below x a
  | .leaf _ => by simp [belowB, Below]
  | .node y lo hi => by
    simp only [belowB, Below, Bool.and_eq_true, decide_eq_true_eq, belowB_iff (a := lo), belowB_iff (a := hi)]
    exact and_assoc

theorem wfB_iff [DecidableEq α] : ∀ {a : Node α}, wfB a = true ↔ WF a
  | .leaf _ => by simp [wfB, WF]
  | .node x lo hi => by
    simp only [wfB, WF, Bool.and_eq_true, decide_eq_true_eq, belowB_iff, wfB_iff (a := lo), wfB_iff (a := hi), and_assoc]

theorem below_iff_vars {x : Nat} : ∀ {a : Node α}, Below x a ↔ ∀ v, v ∈ nodeVars a → v < x
  | .leaf _ => by simp [Below, nodeVars]
  | .node y lo hi => by
    simp only [Below, nodeVars, List.mem_cons, List.mem_append, below_iff_vars (a := lo), below_iff_vars (a := hi)]
    constructor
    · rintro ⟨h, hl, hh⟩ v hv
      rcases hv with hv | hv | hv
      · rw [hv]; exact h
      · exact hl v hv
      · exact hh v hv
    · intro h
      exact ⟨h y (Or.inl rfl), fun v hv => h v (Or.inr (Or.inl hv)), fun v hv => h v (Or.inr (Or.inr hv))⟩

theorem rootLt_of_below {x : Nat} : ∀ {a : Node α}, Below x a → rootLt x a = true
  | .leaf _, _ => rfl
  | .node _ _ _, h => decide_eq_true h.1

theorem below_mapLeaf (c : α → β) {x : Nat} : ∀ {a : Node α}, Below x (mapLeaf c a) ↔ Below x a
  | .leaf _ => Iff.rfl
  | .node y lo hi => by
    simp only [mapLeaf, Below, below_mapLeaf c (a := lo), below_mapLeaf c (a := hi)]

/-- ordered, reduced, only symbol variables -/
def Good (m : MT) : Prop := WF m ∧ Below symbolSize m

def EntWF (T : Table) : Prop := Good T.nullary ∧ ∀ e, e ∈ T.entries → Good e.2

theorem good_leaf (v : List Nat) : Good (.leaf v) := ⟨trivial, trivial⟩

theorem good_apply2 (f : List Nat → List Nat → List Nat) {a b : MT} (ha : Good a) (hb : Good b) : Good (apply2 f a b) :=
  ⟨apply2_wf _ _ _ ha.1 hb.1, apply2_below _ _ _ ha.2 hb.2⟩

theorem good_apply1 (f : List Nat → List Nat) {a : MT} (ha : Good a) : Good (apply1 f a) :=
  ⟨apply1_wf f ha.1, apply1_below f ha.2⟩

theorem good_construct {asgn : List (Option Bool)} (hl : asgn.length ≤ symbolSize) (v d : List Nat) :
    Good (construct asgn v d) :=
  ⟨construct_wf _ _ _, Below.mono hl (construct_below asgn v d)⟩

theorem good_getE {es : List (List Nat × MT)} (h : ∀ e, e ∈ es → Good e.2) (ks : List Nat) : Good (getE es ks) := by
  induction es with
  | nil => exact good_leaf _
  | cons e es ih =>
    obtain ⟨k, m⟩ := e
    simp only [getE]
    split
    · exact h (k, m) List.mem_cons_self
    · exact ih (fun e' he' => h e' (List.mem_cons_of_mem _ he'))

theorem entWF_get {T : Table} (h : EntWF T) (ks : List Nat) : Good (T.get ks) := by
  unfold Table.get
  split
  · exact h.1
  · exact good_getE h.2 ks

/-- the invariant of the C08 files -/
theorem entWF_tableWF {T : Table} (h : EntWF T) : TableWF T := fun ks => entWF_get h ks

/-- conversely, for a table whose entries are what `GetMtbdd` returns -/
theorem tableWF_entWF {T : Table} (hO : TableOk T) (h : TableWF T) : EntWF T :=
  ⟨by have := h []; simpa [Table.get, Good, symbolSize] using this, fun e he => (pairs_wf hO h e (List.mem_cons_of_mem _ he))⟩

theorem entWF_stored {T : Table} : EntWF T ↔ ∀ m, m ∈ stored T → Good m := by
  simp only [EntWF, stored, List.mem_cons, List.mem_map]
  constructor
  · rintro ⟨h1, h2⟩ m hm
    rcases hm with hm | ⟨e, he, hm⟩
    · rw [hm]; exact h1
    · rw [← hm]; exact h2 e he
  · intro h
    exact ⟨h _ (Or.inl rfl), fun e he => h _ (Or.inr ⟨e, he, rfl⟩)⟩

theorem entWF_empty : EntWF Table.empty := ⟨good_leaf _, fun _ he => by cases he⟩

theorem entWF_set {T : Table} (h : EntWF T) (ks : List Nat) {m : MT} (hm : Good m) : EntWF (T.set ks m) := by
  unfold Table.set
  split
  · exact ⟨hm, h.2⟩
  · refine ⟨h.1, fun e he => ?_⟩
    simp only [setE, List.mem_cons, List.mem_filter] at he
    rcases he with he | ⟨he, _⟩
    · rw [he]; exact hm
    · exact h.2 e he

theorem entWF_addCube {T : Table} (h : EntWF T) (ks : List Nat) {asgn : List (Option Bool)}
    (hl : asgn.length ≤ symbolSize) (p : Nat) : EntWF (addCube T ks asgn p) :=
  entWF_set h ks (good_apply2 _ (entWF_get h ks) (good_construct hl _ _))

theorem entWF_addTransition {T : Table} (h : EntWF T) (ks : List Nat) (f p : Nat) : EntWF (addTransition T ks f p) :=
  entWF_addCube h ks (Nat.le_of_eq (symAsgn_length f)) p

theorem entWF_unionT {T₁ T₂ : Table} (h1 : EntWF T₁) (h2 : EntWF T₂) : EntWF (unionT T₁ T₂) := by
  refine ⟨good_apply2 _ h1.1 h2.1, fun e he => ?_⟩
  simp only [unionT, List.mem_map] at he
  obtain ⟨k, _, hk⟩ := he
  rw [← hk]
  exact good_apply2 _ (good_getE h1.2 k) (good_getE h2.2 k)

theorem entWF_unionDisj {T₁ T₂ : Table} (h1 : EntWF T₁) (h2 : EntWF T₂) : EntWF (unionDisj T₁ T₂) := by
  refine ⟨good_apply2 _ h1.1 h2.1, fun e he => ?_⟩
  simp only [unionDisj, List.mem_append] at he
  rcases he with he | he
  · exact h2.2 e he
  · exact h1.2 e he

theorem entWF_isectAt (tr : Nat × Nat → Nat) {T T₁ T₂ : Table} (h : EntWF T) (h1 : EntWF T₁) (h2 : EntWF T₂)
    (ks₁ ks₂ ks : List Nat) : EntWF (isectAt tr T T₁ T₂ ks₁ ks₂ ks) :=
  entWF_set h ks (good_apply2 _ (entWF_get h1 ks₁) (entWF_get h2 ks₂))

theorem entWF_removeUnreachableBU {T : Table} (h : EntWF T) (final : List Nat) :
    EntWF (removeUnreachableBU T final).1 := by
  refine ⟨h.1, fun e he => ?_⟩
  simp only [removeUnreachableBU, List.mem_filter] at he
  exact h.2 e he.1

theorem entWF_removeUselessBU {T : Table} (h : EntWF T) (final : List Nat) :
    EntWF (removeUselessBU T final).1 := by
  refine ⟨good_apply1 _ h.1, fun e he => ?_⟩
  simp only [removeUselessBU, List.mem_map, List.mem_filter] at he
  obtain ⟨e', ⟨he', _⟩, hee⟩ := he
  rw [← hee]
  exact good_apply1 _ (h.2 e' he')

theorem entWF_built {T : Table} (h : BuiltBU T) : EntWF T := by
  induction h with
  | empty => exact entWF_empty
  | addCube ks asgn p _ hl ih => exact entWF_addCube ih ks hl p
  | unionT _ _ ih1 ih2 => exact entWF_unionT ih1 ih2
  | unionDisj _ _ ih1 ih2 => exact entWF_unionDisj ih1 ih2
  | isectAt tr ks₁ ks₂ ks _ _ _ ih ih1 ih2 => exact entWF_isectAt tr ih ih1 ih2 ks₁ ks₂ ks
  | unreach final _ ih => exact entWF_removeUnreachableBU ih final
  | useless final _ ih => exact entWF_removeUselessBU ih final

theorem pairs_good {T : Table} (h : EntWF T) : ∀ e, e ∈ pairs T → Good e.2 := by
  intro e he
  rcases List.mem_cons.mp he with he | he
  · rw [he]; exact h.1
  · exact h.2 e he

/-- what `invertStep` applies the inverter to is `extendedBdd` -/
theorem invertStep_eq (p : Nat) (acc : MTD) (e : List Nat × MT) :
    invertStep p acc e = apply2 (invertLeaf p e.1) (extendedBdd e) acc := rfl

/-- the result of the call is ordered, reduced and uses the variables `< 16 + 6` only -/
theorem extendedBdd_wf {e : List Nat × MT} (he : Good e.2) :
    WF (extendedBdd e) ∧ Below (symbolSize + arityLength) (extendedBdd e) :=
  extendWith_arAsgn_wf he _

theorem getTopDownAut_wf_of_entWF {T : Table} (h : EntWF T) (final : List Nat) :
    TableTDWF (getTopDownAut T final) ∧ TableTDBelow (getTopDownAut T final) :=
  tableTD_getTopDownAut_of_pairs (pairs_good h) final

open Vata.RcS Vata.RcSX in
theorem vltB_of_below {dat : Nat → Vata.R.Data} {x n : Nat} (h : Below x (unfold dat (n+1) n)) : vltB x (dat n) = true := by
  cases hd : dat n with
  | leaf v => rfl
  | int lo hi var =>
    simp only [unfold, hd] at h
    exact decide_eq_true h.1

open Vata.RcS Vata.RcSX in
theorem opOk_extendWith_of_below {s : Store} {a ra : Nat} (dst : Nat) (asgn : List (Option Bool)) {offset : Nat}
    (ha : find a s.hs = some ra) (hb : Below offset (unfold s.dat (ra+1) ra)) :
    opOk s (.extendWith a dst asgn offset) = true := by
  simp only [opOk, ha]
  split
  · rename_i ra' _ h1 _
    cases h1
    exact vltB_of_below hb
  · rfl

end Vata.ExtCall
