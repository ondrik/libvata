import Vata.NfaStart
import Vata.Proofs.NfaOps
import Vata.Proofs.AssocList
/-!
# Word automata with start symbols (properties C10, C09, C13)

The language never depends on the start symbols: `toNFA` commutes with every operation by `rfl`, so the language theorems
of `Vata/Proofs/NfaOps.lean` transfer.  What remains is the map state ↦ start symbols, read as a function: which symbols
the start states of each result show, dump ∘ load and load ∘ dump, and over histories of calls: every start state has an
entry (`GetStartSymbols` is never undefined), a NON-EMPTY one unless `Reverse` (or `SetExistingStateStart` with an empty
set) made it a start state.  Entries of states that are no start states (STALE entries) are unobservable through the
operations that build their result from a fresh map; the three writers that see them are `NfaSEx.stale_*`.
-/
namespace Vata
open Vata.W

namespace NfaS

/-- the start-symbol map is an association list read by `List.lookup` -/
theorem smFind_eq (m : SymMap) (q : Nat) : smFind m q = m.lookup q := by
  induction m with
  | nil => rfl
  | cons e r ih => obtain ⟨k, v⟩ := e; rw [smFind, ih, lookup_cons_ite]

theorem smHas_eq (m : SymMap) (q : Nat) : smHas m q = (m.lookup q).isSome := by rw [smHas, smFind_eq]

theorem smGet_eq (m : SymMap) (q : Nat) : smGet m q = (m.lookup q).getD [] := by rw [smGet, smFind_eq]

/-- `SetStateStart` on the map: update-or-create with "add `a` to the set" -/
theorem smAddSym_eq (m : SymMap) (q a : Nat) : smAddSym m q a = alter q (fun o => insN (o.getD []) a) m := by
  induction m with
  | nil => rfl
  | cons e r ih => obtain ⟨k, v⟩ := e; rw [smAddSym, alter, ih]; rfl

theorem smFind_append (m m' : SymMap) (q : Nat) :
    smFind (m ++ m') q = match smFind m q with | some v => some v | none => smFind m' q := by
  simp only [smFind_eq, List.lookup_append]
  cases m.lookup q <;> rfl

theorem smHas_append (m m' : SymMap) (q : Nat) : smHas (m ++ m') q = (smHas m q || smHas m' q) := by
  simp only [smHas_eq, List.lookup_append, Option.isSome_or]

theorem smGet_append_of_has {m m' : SymMap} {q : Nat} (h : smHas m q = true) : smGet (m ++ m') q = smGet m q := by
  rw [smHas_eq] at h
  obtain ⟨v, hv⟩ := Option.isSome_iff_exists.mp h
  rw [smGet_eq, smGet_eq, List.lookup_append, hv]; rfl

theorem smGet_append_of_not_has {m m' : SymMap} {q : Nat} (h : smHas m q = false) : smGet (m ++ m') q = smGet m' q := by
  rw [smHas_eq, Option.isSome_eq_false_iff, Option.isNone_iff_eq_none] at h
  rw [smGet_eq, smGet_eq, List.lookup_append, h]; rfl

/-- the first map decides wherever it has an entry -/
theorem smGet_append_ne_nil {m m' : SymMap} {q : Nat} (h : smHas m q = true → smGet m q ≠ [])
    (h' : smHas m q = false → smGet m' q ≠ []) : smGet (m ++ m') q ≠ [] := by
  cases hq : smHas m q with
  | true => rw [smGet_append_of_has hq]; exact h hq
  | false => rw [smGet_append_of_not_has hq]; exact h' hq

theorem smGet_eq_nil_of_not_has {m : SymMap} {q : Nat} (h : smHas m q = false) : smGet m q = [] := by
  rw [smHas_eq, Option.isSome_eq_false_iff, Option.isNone_iff_eq_none] at h
  rw [smGet_eq, h]; rfl

theorem smHas_map_pairs {α : Type} (f : α → Nat) (g : α → List Nat) (l : List α) (y : Nat) :
    smHas (l.map (fun s => (f s, g s))) y = true ↔ ∃ s, s ∈ l ∧ f s = y := by
  rw [smHas_eq, lookup_isSome_iff_keys, List.map_map, List.mem_map]; rfl

/-- some state with the right image decides (no injectivity) -/
theorem smGet_map_pairs_exists {α : Type} (f : α → Nat) (g : α → List Nat) (l : List α) (y : Nat)
    (h : ∃ s, s ∈ l ∧ f s = y) : ∃ s, s ∈ l ∧ f s = y ∧ smGet (l.map (fun s => (f s, g s))) y = g s := by
  rw [smGet_eq, lookup_map_pairs]
  cases hf : l.find? (fun s => f s == y) with
  | some p => exact ⟨p, List.mem_of_find?_eq_some hf, beq_iff_eq.mp (List.find?_some (p := fun s => f s == y) hf), rfl⟩
  | none =>
    obtain ⟨s, hs, he⟩ := h
    exact absurd (beq_iff_eq.mpr he) (List.find?_eq_none.mp hf s hs)

theorem smGet_map_pairs_inj {α : Type} {f : α → Nat} (g : α → List Nat) {l : List α} {s : α} (hs : s ∈ l)
    (hinj : ∀ p, p ∈ l → f p = f s → p = s) : smGet (l.map (fun s => (f s, g s))) (f s) = g s := by
  obtain ⟨p, hp, he, hg⟩ := smGet_map_pairs_exists f g l (f s) ⟨s, hs, rfl⟩
  rw [hg, hinj p hp he]

theorem smGet_map_pairs_ne_nil {α : Type} {f : α → Nat} {g : α → List Nat} {l : List α} (hg : ∀ s, s ∈ l → g s ≠ [])
    {y : Nat} (h : ∃ s, s ∈ l ∧ f s = y) : smGet (l.map (fun s => (f s, g s))) y ≠ [] := by
  obtain ⟨s, hs, _, he⟩ := smGet_map_pairs_exists f g l y h
  rw [he]; exact hg s hs

theorem smGet_map_nil (l : List Nat) (q : Nat) : smGet (l.map (fun f => (f, ([] : List Nat)))) q = [] := by
  rw [smGet_eq, lookup_map_keys]
  split <;> rfl

theorem smHas_map_nil (l : List Nat) (q : Nat) : smHas (l.map (fun f => (f, ([] : List Nat)))) q = l.contains q := by
  rw [smHas_eq, lookup_map_keys, List.contains_eq_mem]
  by_cases h : q ∈ l
  · rw [if_pos h, decide_eq_true h]; rfl
  · rw [if_neg h, decide_eq_false h]; rfl

theorem mem_insN {l : List Nat} {x y : Nat} : y ∈ insN l x ↔ y ∈ l ∨ y = x := mem_insNew

theorem smFind_smAddSym (m : SymMap) (q a p : Nat) :
    smFind (smAddSym m q a) p = if p = q then some (insN (smGet m q) a) else smFind m p := by
  rw [smAddSym_eq, smFind_eq, lookup_alter, smGet_eq, smFind_eq]

theorem smHas_smAddSym (m : SymMap) (q a p : Nat) : smHas (smAddSym m q a) p = (decide (p = q) || smHas m p) := by
  rw [smHas, smFind_smAddSym]
  by_cases h : p = q
  · rw [if_pos h, decide_eq_true h]; rfl
  · rw [if_neg h, decide_eq_false h]; rfl

/-- `insert`: a new entry exactly when the key has none -/
theorem smFind_smInsert (m : SymMap) (q : Nat) (S : List Nat) (p : Nat) :
    smFind (smInsert m q S) p = if smHas m q = false ∧ p = q then some S else smFind m p := by
  unfold smInsert
  cases h : smHas m q with
  | true => rw [if_pos rfl, if_neg (fun c => Bool.noConfusion c.1)]
  | false =>
    rw [smHas_eq, Option.isSome_eq_false_iff, Option.isNone_iff_eq_none] at h
    rw [if_neg Bool.false_ne_true, smFind_eq, smFind_eq, lookup_snoc]
    by_cases hp : p = q
    · rw [hp, h, if_pos rfl, if_pos ⟨rfl, rfl⟩]; rfl
    · rw [if_neg hp, if_neg (fun c => hp c.2), Option.or_none]

theorem smGet_smInsert (m : SymMap) (q : Nat) (S : List Nat) (p : Nat) :
    smGet (smInsert m q S) p = if smHas m q = false ∧ p = q then S else smGet m p := by
  rw [smGet, smFind_smInsert]
  split <;> rfl

theorem smHas_smInsert (m : SymMap) (q : Nat) (S : List Nat) (p : Nat) :
    smHas (smInsert m q S) p = (smHas m p || decide (p = q)) := by
  rw [smHas, smFind_smInsert]
  by_cases hp : p = q
  · subst hp
    cases h : smHas m p with
    | true => rw [if_neg (fun c => Bool.noConfusion c.1)]; exact h
    | false => rw [if_pos ⟨rfl, rfl⟩]; simp
  · rw [if_neg (fun c => hp c.2), decide_eq_false hp, Bool.or_false]; rfl

/-- the map after `insert`ing the entries `(key x, val x)` one by one reads like the map with these entries appended -/
theorem smFind_foldl_insert {α : Type} (key : α → Nat) (val : α → List Nat) (l : List α) (m : SymMap) (p : Nat) :
    smFind (l.foldl (fun m x => smInsert m (key x) (val x)) m) p = smFind (m ++ l.map (fun x => (key x, val x))) p := by
  induction l generalizing m with
  | nil => rw [List.foldl_nil, List.map_nil, List.append_nil]
  | cons x l ih =>
    rw [List.foldl_cons, ih, List.map_cons]
    unfold smInsert
    cases h : smHas m (key x) with
    | false => rw [if_neg Bool.false_ne_true, List.append_assoc]; rfl
    | true =>
      rw [if_pos rfl, smFind_append, smFind_append]
      cases hp : smFind m p with
      | some v => rfl
      | none =>
        show smFind _ p = smFind ((key x, val x) :: _) p
        rw [smFind, if_neg]
        rintro rfl
        rw [smHas, hp] at h; cases h

end NfaS

open NfaS


theorem nfasAddTrans_toNFA (A : NFAS) (p a q : Nat) :
    (nfasAddTrans A p a q).toNFA = ⟨A.start, A.final, A.trans ++ [(p, a, q)]⟩ := rfl
theorem nfasSetFinal_toNFA (A : NFAS) (q : Nat) : (nfasSetFinal A q).toNFA = ⟨A.start, insN A.final q, A.trans⟩ := rfl
theorem nfasSetStart_toNFA (A : NFAS) (q a : Nat) : (nfasSetStart A q a).toNFA = ⟨insN A.start q, A.final, A.trans⟩ := rfl
theorem nfasSetExistingStart_toNFA (A : NFAS) (q : Nat) (S : List Nat) :
    (nfasSetExistingStart A q S).toNFA = ⟨insN A.start q, A.final, A.trans⟩ := rfl
theorem nfasMap_toNFA (f : Nat → Nat) (A : NFAS) : (nfasMap f A).toNFA = nfaMap f A.toNFA := rfl
theorem nfasUnionDisjoint_toNFA (A B : NFAS) : (nfasUnionDisjoint A B).toNFA = nfaUnionDisjoint A.toNFA B.toNFA := rfl
theorem nfasUnionWith_toNFA (fA fB : Nat → Nat) (A B : NFAS) :
    (nfasUnionWith fA fB A B).toNFA = nfaUnionWith fA fB A.toNFA B.toNFA := rfl
theorem nfasUnion_toNFA (A B : NFAS) : (nfasUnion A B).toNFA = nfaUnion A.toNFA B.toNFA := rfl
theorem nfasReverse_toNFA (A : NFAS) : (nfasReverse A).toNFA = nfaReverse A.toNFA := rfl
theorem nfasRemoveUnreachable_toNFA (A : NFAS) : (nfasRemoveUnreachable A).toNFA = nfaRemoveUnreachable A.toNFA := rfl
theorem nfasRemoveUseless_toNFA (A : NFAS) : (nfasRemoveUseless A).toNFA = nfaRemoveUseless A.toNFA := rfl
theorem nfasProdOn_toNFA (A B : NFAS) (D : List (Nat × Nat)) (m : Nat × Nat → Nat) :
    (nfasProdOn A B D m).toNFA = nfaProdOn A.toNFA B.toNFA D m := rfl
theorem nfasCandidateRaw_toNFA (A : NFAS) : (nfasCandidateRaw A).toNFA = nfaCandidateRaw A.toNFA := rfl
theorem nfasCandidate_toNFA (A : NFAS) : (nfasCandidate A).toNFA = nfaCandidate A.toNFA := rfl

theorem nfasIntersection_toNFA (A B : NFAS) (fuel : Nat) :
    (nfasIntersection A B fuel).map NFAS.toNFA = nfaIntersection A.toNFA B.toNFA fuel := by
  simp only [nfasIntersection, nfaIntersection]
  split <;> rfl

theorem nfasIntersection_full (A B : NFAS) : nfasIntersection A B (nfaJointAll A.toNFA B.toNFA).length =
    some (nfasRemoveUseless (nfasProdOn A B (NfaC.nfaIsectPairs A.toNFA B.toNFA)
      (fun p => (NfaC.nfaIsectPairs A.toNFA B.toNFA).idxOf p))) :=
  if_pos (NfaC.nfaIsectPairs_closedB _ _)

theorem nfasIsect_toNFA (A B : NFAS) : (nfasIsect A B).toNFA = nfaIsect A.toNFA B.toNFA := by
  rw [nfasIsect, nfasIntersection_full, NfaC.nfaIsect_eq]; rfl

/-- the dump of the transitions and of the final states does not read the map, and load builds the automaton without
looking at the symbols: start states = the targets of the nullary rules -/
theorem nfasDump_final_unary (g : Nat → Nat) (A : NFAS) :
    (nfasDump g A).final = A.final.map g ∧ (nfasDump g A).unary = A.trans.map (fun e => (g e.1, e.2.1, g e.2.2)) :=
  ⟨rfl, rfl⟩


theorem nfasUnion_lang (A B : NFAS) (w : List Nat) :
    acceptsW (nfasUnion A B).toNFA w = (acceptsW A.toNFA w || acceptsW B.toNFA w) := nfaUnion_lang _ _ w

theorem nfasUnionWith_lang (fA fB : Nat → Nat) (A B : NFAS) (w : List Nat)
    (hA : NfaInjOn fA (nfaStates A.toNFA)) (hB : NfaInjOn fB (nfaStates B.toNFA))
    (hdis : ∀ p, p ∈ nfaStates A.toNFA → ∀ q, q ∈ nfaStates B.toNFA → fA p ≠ fB q) :
    acceptsW (nfasUnionWith fA fB A B).toNFA w = (acceptsW A.toNFA w || acceptsW B.toNFA w) :=
  nfaUnionWith_lang fA fB _ _ w hA hB hdis

theorem nfasUnionDisjoint_lang (A B : NFAS) (w : List Nat)
    (hdis : ∀ q, q ∈ nfaStates A.toNFA → q ∈ nfaStates B.toNFA → False) :
    acceptsW (nfasUnionDisjoint A B).toNFA w = (acceptsW A.toNFA w || acceptsW B.toNFA w) :=
  nfaUnionDisjoint_lang _ _ w hdis

theorem nfasMap_lang (f : Nat → Nat) (A : NFAS) (w : List Nat) (hinj : NfaInjOn f (nfaStates A.toNFA)) :
    acceptsW (nfasMap f A).toNFA w = acceptsW A.toNFA w := nfaMap_inj_lang f _ w hinj

theorem nfasReverse_lang (A : NFAS) (w : List Nat) : acceptsW (nfasReverse A).toNFA w = acceptsW A.toNFA w.reverse :=
  nfaReverse_lang _ w

theorem nfasRemoveUnreachable_lang (A : NFAS) (w : List Nat) :
    acceptsW (nfasRemoveUnreachable A).toNFA w = acceptsW A.toNFA w := nfaRemoveUnreachable_lang A.toNFA w

theorem nfasRemoveUseless_lang (A : NFAS) (w : List Nat) : acceptsW (nfasRemoveUseless A).toNFA w = acceptsW A.toNFA w := by
  rw [nfasRemoveUseless_toNFA]; exact nfaRemoveUseless_lang A.toNFA w

theorem nfasIntersection_lang (A B : NFAS) (fuel : Nat) (P : NFAS) (h : nfasIntersection A B fuel = some P)
    (w : List Nat) : acceptsW P.toNFA w = (acceptsW A.toNFA w && acceptsW B.toNFA w) := by
  apply nfaIntersection_lang A.toNFA B.toNFA fuel
  rw [← nfasIntersection_toNFA, h]; rfl

theorem nfasIsect_lang (A B : NFAS) (w : List Nat) :
    acceptsW (nfasIsect A B).toNFA w = (acceptsW A.toNFA w && acceptsW B.toNFA w) := by
  rw [nfasIsect_toNFA]; exact nfaIsect_lang _ _ w

theorem nfasCandidate_lang (A : NFAS) :
    (∀ w, acceptsW (nfasCandidate A).toNFA w = true → acceptsW A.toNFA w = true) ∧
    ((∃ w, acceptsW (nfasCandidate A).toNFA w = true) ↔ ∃ w, acceptsW A.toNFA w = true) :=
  ⟨nfaCandidate_sub_lang A.toNFA, nfaCandidate_nonempty_iff A.toNFA⟩



/-- `Reverse` keeps every entry and adds only empty ones: read as a function `state ↦ set` (`[]` without an entry) the map is
unchanged.  So a new start state (a final state of `A`) shows the entry `A` had for it – its start symbols if it was a
start state of `A`, a STALE entry if `A` had one, nothing otherwise. -/
theorem nfasReverse_symsOf (A : NFAS) (q : Nat) : (nfasReverse A).symsOf q = A.symsOf q := by
  show smGet (nfasReverseSyms A) q = smGet A.startSyms q
  unfold nfasReverseSyms
  by_cases h : smHas A.startSyms q = true
  · exact smGet_append_of_has h
  · simp only [Bool.not_eq_true] at h
    rw [smGet_append_of_not_has h, smGet_map_nil, smGet_eq_nil_of_not_has h]

theorem contains_filter (l : List Nat) (p : Nat → Bool) (q : Nat) : (l.filter p).contains q = (l.contains q && p q) := by
  rw [Bool.eq_iff_iff]
  simp only [List.contains_iff_mem, List.mem_filter, Bool.and_eq_true]

/-- the entries after `Reverse`: the old ones and one for every new start state -/
theorem nfasReverse_has (A : NFAS) (q : Nat) :
    smHas (nfasReverse A).startSyms q = (smHas A.startSyms q || A.final.contains q) := by
  show smHas (nfasReverseSyms A) q = _
  unfold nfasReverseSyms
  rw [smHas_append, smHas_map_nil, contains_filter]
  cases smHas A.startSyms q <;> simp

/-- the start states of `Reverse A` are the final states of `A`; each shows what the map of `A` holds for it: nothing for a
state without entry, the start symbols of `A` for a state that was a start state too -/
theorem nfasReverse_start_syms (A : NFAS) :
    (nfasReverse A).start = A.final ∧
    (∀ q, (nfasReverse A).symsOf q = A.symsOf q) ∧
    (∀ q, smHas A.startSyms q = false → (nfasReverse A).symsOf q = []) :=
  ⟨rfl, nfasReverse_symsOf A, fun q h => by rw [nfasReverse_symsOf]; exact smGet_eq_nil_of_not_has h⟩

/-- `Reverse ∘ Reverse` gives back the start states with their symbols (this is what the stale entries are good for) -/
theorem nfasReverse_reverse (A : NFAS) :
    (nfasReverse (nfasReverse A)).start = A.start ∧ (nfasReverse (nfasReverse A)).final = A.final ∧
    ∀ q, (nfasReverse (nfasReverse A)).symsOf q = A.symsOf q :=
  ⟨rfl, rfl, fun q => by rw [nfasReverse_symsOf, nfasReverse_symsOf]⟩

theorem nfasReverse_start (A : NFAS) : (nfasReverse A).start = A.final := rfl
theorem nfasReverse_final (A : NFAS) : (nfasReverse A).final = A.start := rfl
theorem nfasRemoveUnreachable_startSyms (A : NFAS) : (nfasRemoveUnreachable A).startSyms = A.startSyms := rfl
theorem nfasRemoveUnreachable_start (A : NFAS) : (nfasRemoveUnreachable A).start = A.start :=
  nfaRemoveUnreachable_start A.toNFA
theorem nfasRemoveUnreachable_final_sub (A : NFAS) {q : Nat} (h : q ∈ (nfasRemoveUnreachable A).final) : q ∈ A.final :=
  ((mem_nfaRemoveUnreachable_final A.toNFA q).mp h).1
theorem nfasRemoveUnreachable_symsOf (A : NFAS) (q : Nat) : (nfasRemoveUnreachable A).symsOf q = A.symsOf q := rfl

theorem nfasRemoveUseless_symsOf (A : NFAS) (q : Nat) : (nfasRemoveUseless A).symsOf q = A.symsOf q := by
  unfold nfasRemoveUseless
  rw [nfasReverse_symsOf, nfasRemoveUnreachable_symsOf, nfasReverse_symsOf, nfasRemoveUnreachable_symsOf]

/-- trimming: the start states that survive (those from which a final state is reachable) keep their symbols -/
theorem nfasRemoveUseless_start_syms (A : NFAS) (s : Nat) :
    (s ∈ (nfasRemoveUseless A).start ↔ s ∈ A.start ∧ NfaCoReach A.toNFA s) ∧
    (nfasRemoveUseless A).symsOf s = A.symsOf s :=
  ⟨by rw [nfasRemoveUseless_toNFA]; exact mem_nfaRemoveUseless_start A.toNFA s, nfasRemoveUseless_symsOf A s⟩


theorem mem_nfasMap_start {f : Nat → Nat} {A : NFAS} {t : Nat} : t ∈ (nfasMap f A).start ↔ ∃ s, s ∈ A.start ∧ f s = t :=
  List.mem_map

/-- `ReindexStates`: the image of a start state carries its symbols (`f` injective on the start states) -/
theorem nfasMap_symsOf (f : Nat → Nat) (A : NFAS) {s : Nat} (hs : s ∈ A.start)
    (hinj : ∀ p, p ∈ A.start → f p = f s → p = s) : (nfasMap f A).symsOf (f s) = A.symsOf s :=
  smGet_map_pairs_inj (fun s => A.symsOf s) hs hinj

theorem mem_nfasUnionWith_start {fA fB : Nat → Nat} {A B : NFAS} {t : Nat} :
    t ∈ (nfasUnionWith fA fB A B).start ↔ (∃ s, s ∈ A.start ∧ fA s = t) ∨ (∃ s, s ∈ B.start ∧ fB s = t) := by
  show t ∈ A.start.map fA ++ B.start.map fB ↔ _
  simp only [List.mem_append, List.mem_map]

/-- `Union`: the image of a start state of the left operand carries its symbols -/
theorem nfasUnionWith_symsOf_left (fA fB : Nat → Nat) (A B : NFAS) {s : Nat} (hs : s ∈ A.start)
    (hinj : ∀ p, p ∈ A.start → fA p = fA s → p = s) : (nfasUnionWith fA fB A B).symsOf (fA s) = A.symsOf s := by
  show smGet (nfasMapSyms fA A ++ nfasMapSyms fB B) (fA s) = _
  have hh : smHas (nfasMapSyms fA A) (fA s) = true := (smHas_map_pairs fA _ _ _).mpr ⟨s, hs, rfl⟩
  rw [smGet_append_of_has hh]
  exact smGet_map_pairs_inj (fun s => A.symsOf s) hs hinj

/-- `Union`: the image of a start state of the right operand carries its symbols (images of the start states disjoint) -/
theorem nfasUnionWith_symsOf_right (fA fB : Nat → Nat) (A B : NFAS) {s : Nat} (hs : s ∈ B.start)
    (hinj : ∀ p, p ∈ B.start → fB p = fB s → p = s) (hdis : ∀ p, p ∈ A.start → fA p ≠ fB s) :
    (nfasUnionWith fA fB A B).symsOf (fB s) = B.symsOf s := by
  show smGet (nfasMapSyms fA A ++ nfasMapSyms fB B) (fB s) = _
  have hno : smHas (nfasMapSyms fA A) (fB s) = false := by
    cases h : smHas (nfasMapSyms fA A) (fB s) with
    | false => rfl
    | true =>
      obtain ⟨p, hp, he⟩ := (smHas_map_pairs fA _ _ _).mp h
      exact absurd he (hdis p hp)
  rw [smGet_append_of_not_has hno]
  exact smGet_map_pairs_inj (fun s => B.symsOf s) hs hinj


/-- `UnionDisjointStates`: an entry of the left operand – ALSO A STALE ONE – wins; otherwise the right operand's -/
theorem nfasUnionDisjoint_symsOf (A B : NFAS) (q : Nat) :
    (nfasUnionDisjoint A B).symsOf q = if smHas A.startSyms q = true then A.symsOf q else B.symsOf q := by
  show smGet (A.startSyms ++ B.startSyms) q = _
  by_cases h : smHas A.startSyms q = true
  · rw [if_pos h]; exact smGet_append_of_has h
  · rw [if_neg h]; simp only [Bool.not_eq_true] at h; exact smGet_append_of_not_has h

theorem mem_nfasUnionDisjoint_start {A B : NFAS} {q : Nat} :
    q ∈ (nfasUnionDisjoint A B).start ↔ q ∈ A.start ∨ q ∈ B.start := List.mem_append


/-- the product: the start state numbered `m (l, r)` carries the union of the sets of `l` and `r` -/
theorem nfasProdOn_symsOf (A B : NFAS) (D : List (Nat × Nat)) (m : Nat × Nat → Nat) {p : Nat × Nat}
    (hp : p ∈ nfaStartPairs A.toNFA B.toNFA) (hinj : ∀ p', p' ∈ nfaStartPairs A.toNFA B.toNFA → m p' = m p → p' = p) :
    (nfasProdOn A B D m).symsOf (m p) = A.symsOf p.1 ++ B.symsOf p.2 :=
  smGet_map_pairs_inj (f := m) (fun p : Nat × Nat => A.symsOf p.1 ++ B.symsOf p.2) hp hinj

/-- … and the start states of the result of `Intersection` (product, then `RemoveUselessStates`) are numbers of pairs of
start states, each carrying exactly the union of the two components' sets -/
theorem nfasProd_start_syms (A B : NFAS) (D : List (Nat × Nat)) (m : Nat × Nat → Nat)
    (hinj : ∀ p, p ∈ nfaStartPairs A.toNFA B.toNFA → ∀ p', p' ∈ nfaStartPairs A.toNFA B.toNFA → m p = m p' → p = p')
    {t : Nat} (ht : t ∈ (nfasRemoveUseless (nfasProdOn A B D m)).start) :
    ∃ l r, l ∈ A.start ∧ r ∈ B.start ∧ t = m (l, r) ∧
      (nfasRemoveUseless (nfasProdOn A B D m)).symsOf t = A.symsOf l ++ B.symsOf r := by
  have h1 := ((nfasRemoveUseless_start_syms (nfasProdOn A B D m) t).1.mp ht).1
  obtain ⟨p, hp, rfl⟩ := List.mem_map.mp (show t ∈ (nfaStartPairs A.toNFA B.toNFA).map m from h1)
  have hm := mem_nfaStartPairs.mp hp
  refine ⟨p.1, p.2, hm.1, hm.2, rfl, ?_⟩
  rw [nfasRemoveUseless_symsOf]
  exact nfasProdOn_symsOf A B D m hp (fun p' hp' he => hinj p' hp' p hp he)

/-- a result of `Intersection` is the trimmed product on a set of pairs that holds the start pairs, numbered by position -/
theorem nfasIntersection_eq_some {A B : NFAS} {fuel : Nat} {P : NFAS} (h : nfasIntersection A B fuel = some P) :
    ∃ D, (∀ p, p ∈ nfaStartPairs A.toNFA B.toNFA → p ∈ D) ∧
      P = nfasRemoveUseless (nfasProdOn A B D (fun p => D.idxOf p)) := by
  simp only [nfasIntersection] at h
  split at h
  · exact ⟨_, fun p hp => sub_nfaPairIter _ _ _ _ p (List.mem_eraseDups.mpr hp), (Option.some.inj h).symm⟩
  · cases h

theorem nfasIntersection_start_syms (A B : NFAS) (fuel : Nat) (P : NFAS) (h : nfasIntersection A B fuel = some P) :
    ∃ m : Nat × Nat → Nat,
      (∀ p, p ∈ nfaStartPairs A.toNFA B.toNFA → ∀ p', p' ∈ nfaStartPairs A.toNFA B.toNFA → m p = m p' → p = p') ∧
      ∀ t, t ∈ P.start → ∃ l r, l ∈ A.start ∧ r ∈ B.start ∧ t = m (l, r) ∧ P.symsOf t = A.symsOf l ++ B.symsOf r := by
  obtain ⟨D, hD, rfl⟩ := nfasIntersection_eq_some h
  have hinj : ∀ p, p ∈ nfaStartPairs A.toNFA B.toNFA → ∀ p', p' ∈ nfaStartPairs A.toNFA B.toNFA →
      D.idxOf p = D.idxOf p' → p = p' := fun p hp p' _ he => idxOf_inj (hD p hp) he
  exact ⟨_, hinj, fun t ht => nfasProd_start_syms A B _ _ hinj ht⟩


/-- the witness: its start states are start states of `A` and carry the symbols they carry in `A` -/
theorem nfasCandidate_start_syms (A : NFAS) {s : Nat} (hs : s ∈ (nfasCandidate A).start) :
    s ∈ A.start ∧ (nfasCandidate A).symsOf s = A.symsOf s := by
  have h1 : s ∈ (nfaCandidateRaw A.toNFA).start :=
    nfasCandidateRaw_toNFA A ▸ ((nfasRemoveUseless_start_syms (nfasCandidateRaw A) s).1.mp hs).1
  refine ⟨(nfaCandidateRaw_sub A.toNFA).1 s h1, ?_⟩
  show (nfasRemoveUseless (nfasCandidateRaw A)).symsOf s = _
  rw [nfasRemoveUseless_symsOf]
  exact smGet_map_pairs_inj (f := fun q => q) (fun q => A.symsOf q) h1 (fun p _ he => he)


/-- `SetStateStart (q, a)`: `a` joins WHATEVER THE MAP HOLDS for `q` -/
theorem nfasSetStart_symsOf (A : NFAS) (q a p : Nat) :
    (nfasSetStart A q a).symsOf p = if p = q then insN (A.symsOf q) a else A.symsOf p := by
  show smGet (smAddSym A.startSyms q a) p = _
  rw [smGet, smFind_smAddSym]
  split <;> rfl

/-- observable form: when `q` has no stale entry (it is a start state, or has no entry at all) the new set is the set `q`
showed before (nothing if it was no start state) plus `a` -/
theorem nfasSetStart_spec (A : NFAS) (q a : Nat) (h : q ∈ A.start ∨ smHas A.startSyms q = false) :
    (nfasSetStart A q a).symsOf q = insN (if A.start.contains q then A.symsOf q else []) a := by
  rw [nfasSetStart_symsOf, if_pos rfl]
  by_cases hq : q ∈ A.start
  · simp [hq]
  · have hn : smHas A.startSyms q = false := h.resolve_left hq
    simp only [List.contains_iff_mem, hq, if_false]
    rw [NFAS.symsOf, smGet_eq_nil_of_not_has hn]

/-- `SetExistingStateStart (q, S)`: `S` only if the map holds NOTHING for `q` -/
theorem nfasSetExistingStart_symsOf (A : NFAS) (q : Nat) (S : List Nat) (p : Nat) :
    (nfasSetExistingStart A q S).symsOf p = if smHas A.startSyms q = false ∧ p = q then S else A.symsOf p :=
  smGet_smInsert _ _ _ _

theorem nfasSetExistingStart_spec (A : NFAS) (q : Nat) (S : List Nat) (h : smHas A.startSyms q = false) :
    (nfasSetExistingStart A q S).symsOf q = S := by
  rw [nfasSetExistingStart_symsOf, if_pos ⟨h, rfl⟩]

theorem nfasAddTrans_symsOf (A : NFAS) (p a q s : Nat) : (nfasAddTrans A p a q).symsOf s = A.symsOf s := rfl
theorem nfasSetFinal_symsOf (A : NFAS) (q s : Nat) : (nfasSetFinal A q).symsOf s = A.symsOf s := rfl


/-- a sequence of `SetStateStart (q, a)` calls, `L` = the pairs `(q, a)` -/
def nfasAddStarts (A : NFAS) (L : List (Nat × Nat)) : NFAS := L.foldl (fun A p => nfasSetStart A p.1 p.2) A

theorem nfasAddStarts_spec (L : List (Nat × Nat)) : ∀ (A : NFAS),
    (nfasAddStarts A L).final = A.final ∧ (nfasAddStarts A L).trans = A.trans ∧
    (∀ q, q ∈ (nfasAddStarts A L).start ↔ q ∈ A.start ∨ ∃ a, (q, a) ∈ L) ∧
    (∀ q a, a ∈ (nfasAddStarts A L).symsOf q ↔ a ∈ A.symsOf q ∨ (q, a) ∈ L) ∧
    (∀ q, smHas (nfasAddStarts A L).startSyms q = true ↔ smHas A.startSyms q = true ∨ ∃ a, (q, a) ∈ L) := by
  induction L with
  | nil => intro A; simp [nfasAddStarts]
  | cons p L ih =>
    intro A
    obtain ⟨p1, p2⟩ := p
    obtain ⟨h1, h2, h3, h4, h5⟩ := ih (nfasSetStart A p1 p2)
    refine ⟨h1, h2, fun q => (h3 q).trans ?_, fun q a => (h4 q a).trans ?_, fun q => (h5 q).trans ?_⟩
    · show q ∈ insN A.start p1 ∨ _ ↔ _
      simp only [mem_insN, List.mem_cons, Prod.mk.injEq, exists_or, exists_and_left, exists_eq, and_true, or_assoc]
    · rw [nfasSetStart_symsOf]
      by_cases hq : q = p1
      · subst hq
        simp only [if_pos, mem_insN, List.mem_cons, Prod.mk.injEq, true_and, or_assoc]
      · simp only [hq, if_false, List.mem_cons, Prod.mk.injEq, false_and, false_or]
    · show smHas (smAddSym A.startSyms p1 p2) q = true ∨ _ ↔ _
      simp only [smHas_smAddSym, Bool.or_eq_true, decide_eq_true_eq, List.mem_cons, Prod.mk.injEq, exists_or,
        exists_and_left, exists_eq, and_true, or_assoc, or_left_comm]

theorem nfasSetFinals_spec (F : List Nat) : ∀ (A : NFAS),
    (F.foldl nfasSetFinal A).start = A.start ∧ (F.foldl nfasSetFinal A).trans = A.trans ∧
    (F.foldl nfasSetFinal A).startSyms = A.startSyms ∧
    (∀ q, q ∈ (F.foldl nfasSetFinal A).final ↔ q ∈ A.final ∨ q ∈ F) := by
  induction F with
  | nil => intro A; simp
  | cons x F ih =>
    intro A
    obtain ⟨h1, h2, h3, h4⟩ := ih (nfasSetFinal A x)
    refine ⟨h1, h2, h3, fun q => (h4 q).trans ?_⟩
    show q ∈ insN A.final x ∨ _ ↔ _
    simp only [mem_insN, List.mem_cons, or_assoc]

/-- what `def:T|S|F` builds: the transitions and final states given, the states named in `S` as start states, each with
exactly the symbols written for it -/
theorem nfasBuild_spec (tr : List (Nat × Nat × Nat)) (sp : List (Nat × Nat)) (fi : List Nat) :
    (nfasBuild tr sp fi).trans = tr ∧ (∀ q, q ∈ (nfasBuild tr sp fi).final ↔ q ∈ fi) ∧
    (∀ q, q ∈ (nfasBuild tr sp fi).start ↔ ∃ a, (q, a) ∈ sp) ∧
    (∀ q a, a ∈ (nfasBuild tr sp fi).symsOf q ↔ (q, a) ∈ sp) ∧
    (∀ q, smHas (nfasBuild tr sp fi).startSyms q = true ↔ ∃ a, (q, a) ∈ sp) := by
  obtain ⟨f1, f2, f3, f4⟩ := nfasSetFinals_spec fi (nfasAddStarts ⟨⟨[], [], tr⟩, []⟩ sp)
  obtain ⟨a1, a2, a3, a4, a5⟩ := nfasAddStarts_spec sp ⟨⟨[], [], tr⟩, []⟩
  have e : nfasBuild tr sp fi = fi.foldl nfasSetFinal (nfasAddStarts ⟨⟨[], [], tr⟩, []⟩ sp) := rfl
  rw [e, f1, f2, f3, a2]
  refine ⟨rfl, fun q => ?_, fun q => ?_, fun q a => ?_, fun q => ?_⟩
  · rw [f4 q, a1]; exact or_iff_right (List.not_mem_nil)
  · rw [a3 q]; exact or_iff_right (List.not_mem_nil)
  · show a ∈ smGet _ q ↔ _
    rw [f3]; exact (a4 q a).trans (or_iff_right (List.not_mem_nil))
  · rw [a5 q]; exact or_iff_right Bool.false_ne_true

theorem nfasLoad_eq (f : Nat → Nat) (d : NDesc) :
    nfasLoad f d = nfasAddStarts ⟨⟨[], d.final.map f, d.unary.map (fun e => (f e.1, e.2.1, f e.2.2))⟩, []⟩
      (d.nullary.map (fun r => (f r.2, r.1))) := by
  unfold nfasLoad nfasAddStarts
  rw [List.foldl_map]

theorem nfasLoad_spec (f : Nat → Nat) (d : NDesc) :
    (nfasLoad f d).final = d.final.map f ∧ (nfasLoad f d).trans = d.unary.map (fun e => (f e.1, e.2.1, f e.2.2)) ∧
    (∀ q, q ∈ (nfasLoad f d).start ↔ ∃ r, r ∈ d.nullary ∧ f r.2 = q) ∧
    (∀ q a, a ∈ (nfasLoad f d).symsOf q ↔ ∃ r, r ∈ d.nullary ∧ f r.2 = q ∧ r.1 = a) ∧
    (∀ q, smHas (nfasLoad f d).startSyms q = true ↔ ∃ r, r ∈ d.nullary ∧ f r.2 = q) := by
  rw [nfasLoad_eq]
  obtain ⟨a1, a2, a3, a4, a5⟩ := nfasAddStarts_spec (d.nullary.map (fun r => (f r.2, r.1)))
    ⟨⟨[], d.final.map f, d.unary.map (fun e => (f e.1, e.2.1, f e.2.2))⟩, []⟩
  have hq : ∀ q, (∃ a, (q, a) ∈ d.nullary.map (fun r => (f r.2, r.1))) ↔ ∃ r, r ∈ d.nullary ∧ f r.2 = q := by
    intro q
    simp only [List.mem_map, Prod.mk.injEq]
    constructor
    · rintro ⟨a, r, hr, h1, _⟩; exact ⟨r, hr, h1⟩
    · rintro ⟨r, hr, h1⟩; exact ⟨r.1, r, hr, h1, rfl⟩
  refine ⟨a1, a2, ?_, ?_, ?_⟩
  · intro q
    rw [a3 q, hq]
    exact or_iff_right List.not_mem_nil
  · intro q a
    rw [a4 q a]
    simp only [List.mem_map, Prod.mk.injEq, NFAS.symsOf, smGet, smFind, Option.getD_none, List.not_mem_nil, false_or]
  · intro q
    rw [a5 q, hq]
    exact or_iff_right Bool.false_ne_true

def StartsNonempty (A : NFAS) : Prop := ∀ q, q ∈ A.start → A.symsOf q ≠ []

theorem nfasLoad_startsNonempty (f : Nat → Nat) (d : NDesc) : StartsNonempty (nfasLoad f d) := by
  obtain ⟨_, _, h3, h4, _⟩ := nfasLoad_spec f d
  intro q hq
  obtain ⟨r, hr, h1⟩ := (h3 q).mp hq
  exact List.ne_nil_of_mem ((h4 q r.1).mpr ⟨r, hr, h1, rfl⟩)

theorem NFAS.dumpSyms_ne_nil (A : NFAS) (q : Nat) : A.dumpSyms q ≠ [] := by
  unfold NFAS.dumpSyms
  split
  · simp
  · rename_i h; intro e; rw [e] at h; exact h rfl

theorem NFAS.dumpSyms_of_ne_nil {A : NFAS} {q : Nat} (h : A.symsOf q ≠ []) : A.dumpSyms q = A.symsOf q := by
  unfold NFAS.dumpSyms
  split
  · rename_i h'; exact absurd (List.isEmpty_iff.mp h') h
  · rfl

theorem NFAS.dumpSyms_of_nil {A : NFAS} {q : Nat} (h : A.symsOf q = []) : A.dumpSyms q = [NFAS.xSym] := by
  unfold NFAS.dumpSyms; rw [h]; rfl

theorem mem_nfasDump_nullary {g : Nat → Nat} {A : NFAS} {r : Nat × Nat} :
    r ∈ (nfasDump g A).nullary ↔ ∃ s, s ∈ A.start ∧ r.1 ∈ A.dumpSyms s ∧ r.2 = g s := by
  simp only [nfasDump, List.mem_flatMap, List.mem_map]
  constructor
  · rintro ⟨s, hs, a, ha, rfl⟩; exact ⟨s, hs, ha, rfl⟩
  · rintro ⟨s, hs, ha, hr⟩; exact ⟨s, hs, r.1, ha, by rw [← hr]⟩

theorem NDesc.mem_names {d : NDesc} {n : Nat} :
    n ∈ d.names ↔ n ∈ d.final ∨ (∃ r, r ∈ d.nullary ∧ r.2 = n) ∨ ∃ e, e ∈ d.unary ∧ (e.1 = n ∨ e.2.2 = n) := by
  simp only [NDesc.names, List.mem_eraseDups, List.mem_append, List.mem_map, List.mem_flatMap, List.mem_cons,
    List.not_mem_nil, or_false, or_assoc]
  constructor
  · rintro (h | ⟨r, hr, h⟩ | ⟨e, he, h | h⟩)
    · exact Or.inl h
    · exact Or.inr (Or.inl ⟨r, hr, h⟩)
    · exact Or.inr (Or.inr ⟨e, he, Or.inl h.symm⟩)
    · exact Or.inr (Or.inr ⟨e, he, Or.inr h.symm⟩)
  · rintro (h | ⟨r, hr, h⟩ | ⟨e, he, h | h⟩)
    · exact Or.inl h
    · exact Or.inr (Or.inl ⟨r, hr, h⟩)
    · exact Or.inr (Or.inr ⟨e, he, Or.inl h.symm⟩)
    · exact Or.inr (Or.inr ⟨e, he, Or.inr h.symm⟩)

/-- **dump ∘ load = id** on descriptions, for good names (the back translator `g` undoes the translator `f` on the names of
the description): the same final states and unary rules, the same set of nullary rules – whatever symbols they carry,
several per state included -/
theorem nfas_dump_load (f g : Nat → Nat) (d : NDesc) (hg : ∀ n, n ∈ d.names → g (f n) = n) :
    (nfasDump g (nfasLoad f d)).final = d.final ∧ (nfasDump g (nfasLoad f d)).unary = d.unary ∧
    ∀ r, r ∈ (nfasDump g (nfasLoad f d)).nullary ↔ r ∈ d.nullary := by
  obtain ⟨l1, l2, l3, l4, _⟩ := nfasLoad_spec f d
  refine ⟨?_, ?_, ?_⟩
  · show (nfasLoad f d).final.map g = _
    rw [l1]
    exact map_map_eq_self fun n hn => hg n (NDesc.mem_names.mpr (Or.inl hn))
  · show (nfasLoad f d).trans.map _ = _
    rw [l2]
    refine map_map_eq_self fun e he => ?_
    simp only
    rw [hg e.1 (NDesc.mem_names.mpr (Or.inr (Or.inr ⟨e, he, Or.inl rfl⟩))),
      hg e.2.2 (NDesc.mem_names.mpr (Or.inr (Or.inr ⟨e, he, Or.inr rfl⟩)))]
  · intro r
    rw [mem_nfasDump_nullary]
    constructor
    · rintro ⟨s, hs, ha, hr⟩
      rw [NFAS.dumpSyms_of_ne_nil (nfasLoad_startsNonempty f d s hs)] at ha
      obtain ⟨r', hr', rfl, h2⟩ := (l4 s r.1).mp ha
      have : r = r' := Prod.ext h2.symm (hr.trans (hg r'.2 (NDesc.mem_names.mpr (Or.inr (Or.inl ⟨r', hr', rfl⟩)))))
      exact this ▸ hr'
    · intro hr
      have hs : f r.2 ∈ (nfasLoad f d).start := (l3 _).mpr ⟨r, hr, rfl⟩
      refine ⟨f r.2, hs, ?_, (hg r.2 (NDesc.mem_names.mpr (Or.inr (Or.inl ⟨r, hr, rfl⟩)))).symm⟩
      rw [NFAS.dumpSyms_of_ne_nil (nfasLoad_startsNonempty f d _ hs)]
      exact (l4 _ _).mpr ⟨r, hr, rfl, rfl⟩

/-- **load ∘ dump**: for good names (`f` undoes `g` on the states) the reloaded automaton has the same final states and
transitions, the same start states, and every start state carries exactly the symbols the dump wrote for it: its own set if
that is not empty, and the single symbol `x` otherwise -/
theorem nfas_load_dump (f g : Nat → Nat) (A : NFAS) (hf : ∀ q, q ∈ nfaStates A.toNFA → f (g q) = q) :
    (nfasLoad f (nfasDump g A)).final = A.final ∧ (nfasLoad f (nfasDump g A)).trans = A.trans ∧
    (∀ q, q ∈ (nfasLoad f (nfasDump g A)).start ↔ q ∈ A.start) ∧
    (∀ q, q ∈ A.start → ∀ a, a ∈ (nfasLoad f (nfasDump g A)).symsOf q ↔ a ∈ A.dumpSyms q) := by
  obtain ⟨l1, l2, l3, l4, _⟩ := nfasLoad_spec f (nfasDump g A)
  have hst : ∀ s, s ∈ A.start → f (g s) = s := fun s hs => hf s (start_mem_nfaStates hs)
  refine ⟨?_, ?_, ?_, ?_⟩
  · rw [l1]
    exact map_map_eq_self fun n hn => hf n (final_mem_nfaStates hn)
  · rw [l2]
    refine map_map_eq_self fun e he => ?_
    simp only
    rw [hf e.1 (src_mem_nfaStates (a := e.2.1) (q := e.2.2) he), hf e.2.2 (tgt_mem_nfaStates (p := e.1) (a := e.2.1) he)]
  · intro q
    rw [l3 q]
    constructor
    · rintro ⟨r, hr, h⟩
      obtain ⟨s, hs, _, h2⟩ := mem_nfasDump_nullary.mp hr
      rw [h2, hst s hs] at h
      exact h ▸ hs
    · intro hq
      obtain ⟨a, ha⟩ := List.exists_mem_of_ne_nil _ (A.dumpSyms_ne_nil q)
      exact ⟨(a, g q), mem_nfasDump_nullary.mpr ⟨q, hq, ha, rfl⟩, hst q hq⟩
  · intro q hq a
    rw [l4 q a]
    constructor
    · rintro ⟨r, hr, h1, h2⟩
      obtain ⟨s, hs, h3, h4⟩ := mem_nfasDump_nullary.mp hr
      rw [h4, hst s hs] at h1
      rw [← h2, ← h1]; exact h3
    · intro ha
      exact ⟨(a, g q), mem_nfasDump_nullary.mpr ⟨q, hq, ha, rfl⟩, hst q hq, rfl⟩

/-- … in particular: an automaton all of whose start states carry symbols is reloaded with exactly these symbols, and a
start state without symbols (`Reverse`) comes back with the symbol `x` -/
theorem nfas_load_dump_syms (f g : Nat → Nat) (A : NFAS) (hf : ∀ q, q ∈ nfaStates A.toNFA → f (g q) = q)
    {q : Nat} (hq : q ∈ A.start) :
    (A.symsOf q ≠ [] → ∀ a, a ∈ (nfasLoad f (nfasDump g A)).symsOf q ↔ a ∈ A.symsOf q) ∧
    (A.symsOf q = [] → ∀ a, a ∈ (nfasLoad f (nfasDump g A)).symsOf q ↔ a = NFAS.xSym) := by
  obtain ⟨_, _, _, h⟩ := nfas_load_dump f g A hf
  constructor
  · intro hne a; rw [h q hq a, NFAS.dumpSyms_of_ne_nil hne]
  · intro he a; rw [h q hq a, NFAS.dumpSyms_of_nil he]; simp

/-- the translator of a load with an empty dictionary (names numbered in the order of first occurrence) has a back
translator: the names are good -/
theorem nfasLoadFresh_good (d : NDesc) : ∀ n, n ∈ d.names → (fun i => d.names.getD i 0) (d.names.idxOf n) = n := by
  intro n hn
  have h1 : d.names.idxOf n < d.names.length := List.idxOf_lt_length_iff.mpr hn
  simp only [List.getD_eq_getElem?_getD, List.getElem?_eq_getElem h1, Option.getD_some]
  exact List.getElem_idxOf h1

theorem nfas_dump_loadFresh (d : NDesc) :
    (nfasDump (fun i => d.names.getD i 0) (nfasLoadFresh d)).final = d.final ∧
    (nfasDump (fun i => d.names.getD i 0) (nfasLoadFresh d)).unary = d.unary ∧
    ∀ r, r ∈ (nfasDump (fun i => d.names.getD i 0) (nfasLoadFresh d)).nullary ↔ r ∈ d.nullary :=
  nfas_dump_load _ _ d (nfasLoadFresh_good d)


/-! `GetStartSymbols` on a start state (the dump, `ReindexStates`, `Intersection`, `GetCandidateTree` call it) is never
undefined (`Props.C10_start_history_keys`, `Props.C10_start_history_nonempty`); the notions: -/

def KeysCover (A : NFAS) : Prop := ∀ q, q ∈ A.start → smHas A.startSyms q = true

/-- the values a history of the operations of the class can produce (copy construction, assignment and moves are the
identity on values).  `prod` is `Intersection` for whatever set of pairs the exploration found and whatever numbering it
used; `reorder` lists the start states in another order (the model reads the lists as sets). -/
inductive NfasHist : NFAS → Prop
  | build (tr : List (Nat × Nat × Nat)) (sp : List (Nat × Nat)) (fi : List Nat) : NfasHist (nfasBuild tr sp fi)
  | load (f : Nat → Nat) (d : NDesc) : NfasHist (nfasLoad f d)
  | addTrans {A : NFAS} (p a q : Nat) : NfasHist A → NfasHist (nfasAddTrans A p a q)
  | setFinal {A : NFAS} (q : Nat) : NfasHist A → NfasHist (nfasSetFinal A q)
  | setStart {A : NFAS} (q a : Nat) : NfasHist A → NfasHist (nfasSetStart A q a)
  | setExistingStart {A : NFAS} (q : Nat) (S : List Nat) : NfasHist A → NfasHist (nfasSetExistingStart A q S)
  | map {A : NFAS} (f : Nat → Nat) : NfasHist A → NfasHist (nfasMap f A)
  | unionWith {A B : NFAS} (fA fB : Nat → Nat) : NfasHist A → NfasHist B → NfasHist (nfasUnionWith fA fB A B)
  | unionDisjoint {A B : NFAS} : NfasHist A → NfasHist B → NfasHist (nfasUnionDisjoint A B)
  | reverse {A : NFAS} : NfasHist A → NfasHist (nfasReverse A)
  | removeUnreachable {A : NFAS} : NfasHist A → NfasHist (nfasRemoveUnreachable A)
  | removeUseless {A : NFAS} : NfasHist A → NfasHist (nfasRemoveUseless A)
  | prod {A B : NFAS} (D : List (Nat × Nat)) (m : Nat × Nat → Nat) : NfasHist A → NfasHist B →
      NfasHist (nfasRemoveUseless (nfasProdOn A B D m))
  | candidate {A : NFAS} : NfasHist A → NfasHist (nfasCandidate A)
  | reorder {A : NFAS} (so : List Nat) : (∀ q, q ∈ so ↔ q ∈ A.start) → NfasHist A →
      NfasHist ⟨⟨so, A.final, A.trans⟩, A.startSyms⟩

theorem NfasHist.intersection {A B : NFAS} (hA : NfasHist A) (hB : NfasHist B) {fuel : Nat} {P : NFAS}
    (h : nfasIntersection A B fuel = some P) : NfasHist P := by
  obtain ⟨D, _, rfl⟩ := nfasIntersection_eq_some h
  exact .prod _ _ hA hB

theorem keysCover_reverse (A : NFAS) : KeysCover (nfasReverse A) := by
  intro q hq
  rw [nfasReverse_has]
  have : A.final.contains q = true := List.contains_iff_mem.mpr hq
  rw [this, Bool.or_true]

/-- the histories WITHOUT a `Reverse` call of the user, in which the three writers that see the whole map are used where
they cannot hit a stale entry: `SetExistingStateStart` with a non-empty set on a state without entry,
`UnionDisjointStates` where no start state of the right operand has a stale entry in the left one.
(`RemoveUselessStates`, `Intersection` and `GetCandidateTree` call `Reverse` internally – twice – and are included.) -/
inductive NfasHistNR : NFAS → Prop
  | build (tr : List (Nat × Nat × Nat)) (sp : List (Nat × Nat)) (fi : List Nat) : NfasHistNR (nfasBuild tr sp fi)
  | load (f : Nat → Nat) (d : NDesc) : NfasHistNR (nfasLoad f d)
  | addTrans {A : NFAS} (p a q : Nat) : NfasHistNR A → NfasHistNR (nfasAddTrans A p a q)
  | setFinal {A : NFAS} (q : Nat) : NfasHistNR A → NfasHistNR (nfasSetFinal A q)
  | setStart {A : NFAS} (q a : Nat) : NfasHistNR A → NfasHistNR (nfasSetStart A q a)
  | setExistingStart {A : NFAS} (q : Nat) (S : List Nat) : S ≠ [] → smHas A.startSyms q = false → NfasHistNR A →
      NfasHistNR (nfasSetExistingStart A q S)
  | map {A : NFAS} (f : Nat → Nat) : NfasHistNR A → NfasHistNR (nfasMap f A)
  | unionWith {A B : NFAS} (fA fB : Nat → Nat) : NfasHistNR A → NfasHistNR B → NfasHistNR (nfasUnionWith fA fB A B)
  | unionDisjoint {A B : NFAS} : (∀ q, q ∈ B.start → smHas A.startSyms q = true → q ∈ A.start) →
      NfasHistNR A → NfasHistNR B → NfasHistNR (nfasUnionDisjoint A B)
  | removeUnreachable {A : NFAS} : NfasHistNR A → NfasHistNR (nfasRemoveUnreachable A)
  | removeUseless {A : NFAS} : NfasHistNR A → NfasHistNR (nfasRemoveUseless A)
  | prod {A B : NFAS} (D : List (Nat × Nat)) (m : Nat × Nat → Nat) : NfasHistNR A → NfasHistNR B →
      NfasHistNR (nfasRemoveUseless (nfasProdOn A B D m))
  | candidate {A : NFAS} : NfasHistNR A → NfasHistNR (nfasCandidate A)
  | reorder {A : NFAS} (so : List Nat) : (∀ q, q ∈ so ↔ q ∈ A.start) → NfasHistNR A →
      NfasHistNR ⟨⟨so, A.final, A.trans⟩, A.startSyms⟩

theorem NfasHistNR.intersection {A B : NFAS} (hA : NfasHistNR A) (hB : NfasHistNR B) {fuel : Nat} {P : NFAS}
    (h : nfasIntersection A B fuel = some P) : NfasHistNR P := by
  obtain ⟨D, _, rfl⟩ := nfasIntersection_eq_some h
  exact .prod _ _ hA hB

/-- a start state that shows a symbol has an entry -/
theorem StartsNonempty.keys {A : NFAS} (h : StartsNonempty A) : KeysCover A := fun q hq =>
  Classical.byContradiction fun hn => h q hq (smGet_eq_nil_of_not_has (Bool.not_eq_true _ ▸ hn))

/-- trimming keeps the start states it keeps as they are -/
theorem StartsNonempty.removeUseless {A : NFAS} (h : StartsNonempty A) : StartsNonempty (nfasRemoveUseless A) := by
  intro q hq
  rw [nfasRemoveUseless_symsOf]
  exact h q ((nfasRemoveUseless_start_syms A q).1.mp hq).1

/-- what `Reverse` does to non-emptiness: a new start state has an empty set exactly when the map of the operand holds
nothing (or an empty set) for it -/
theorem nfasReverse_empty_iff (A : NFAS) (q : Nat) : (nfasReverse A).symsOf q = [] ↔ A.symsOf q = [] := by
  rw [nfasReverse_symsOf]


/-- the same automaton and the same symbols at every start state (the rest of the map – the stale entries – may differ) -/
def ObsEq (A B : NFAS) : Prop := A.toNFA = B.toNFA ∧ ∀ q, q ∈ A.start → A.symsOf q = B.symsOf q

theorem ObsEq.refl (A : NFAS) : ObsEq A A := ⟨rfl, fun _ _ => rfl⟩
theorem ObsEq.symm {A B : NFAS} (h : ObsEq A B) : ObsEq B A := ⟨h.1.symm, fun q hq => (h.2 q (by rw [h.1]; exact hq)).symm⟩
theorem ObsEq.trans {A B C : NFAS} (h : ObsEq A B) (h' : ObsEq B C) : ObsEq A C :=
  ⟨h.1.trans h'.1, fun q hq => (h.2 q hq).trans (h'.2 q (by rw [← h.1]; exact hq))⟩

theorem ObsEq.start {A B : NFAS} (h : ObsEq A B) : A.start = B.start := congrArg NFA.start h.1
theorem ObsEq.final {A B : NFAS} (h : ObsEq A B) : A.final = B.final := congrArg NFA.final h.1
theorem ObsEq.trans' {A B : NFAS} (h : ObsEq A B) : A.trans = B.trans := congrArg NFA.trans h.1

/-- dropping the stale entries changes nothing observable -/
theorem obsEq_clean (A : NFAS) : ObsEq A A.clean := by
  refine ⟨rfl, fun q hq => ?_⟩
  show smGet A.startSyms q = smGet (A.startSyms.filter (fun e => A.start.contains e.1)) q
  rw [smGet_eq, smGet_eq, lookup_filter_keys, if_pos (List.contains_iff_mem.mpr hq)]

theorem obsEq_reorder {A : NFAS} (so : List Nat) (hso : ∀ q, q ∈ so ↔ q ∈ A.start) {B : NFAS} (h : ObsEq A B) :
    ObsEq ⟨⟨so, A.final, A.trans⟩, A.startSyms⟩ ⟨⟨so, B.final, B.trans⟩, B.startSyms⟩ :=
  ⟨by rw [h.final, h.trans'], fun q hq => h.2 q ((hso q).mp hq)⟩

theorem obsEq_addTrans {A B : NFAS} (h : ObsEq A B) (p a q : Nat) : ObsEq (nfasAddTrans A p a q) (nfasAddTrans B p a q) :=
  ⟨by simp only [nfasAddTrans_toNFA, h.start, h.final, h.trans'], fun s hs => h.2 s hs⟩

theorem obsEq_setFinal {A B : NFAS} (h : ObsEq A B) (q : Nat) : ObsEq (nfasSetFinal A q) (nfasSetFinal B q) :=
  ⟨by simp only [nfasSetFinal_toNFA, h.start, h.final, h.trans'], fun s hs => h.2 s hs⟩

/-- `ReindexStates` reads the entries of the start states only: the result is THE SAME, hidden part included -/
theorem nfasMap_congr {A B : NFAS} (h : ObsEq A B) (f : Nat → Nat) : nfasMap f A = nfasMap f B := by
  unfold nfasMap nfasMapSyms
  rw [h.1]
  congr 1
  rw [← h.start]
  exact List.map_congr_left (fun s hs => by rw [h.2 s hs])

theorem nfasUnionWith_congr {A A' B B' : NFAS} (hA : ObsEq A A') (hB : ObsEq B B') (fA fB : Nat → Nat) :
    nfasUnionWith fA fB A B = nfasUnionWith fA fB A' B' := by
  have h1 := congrArg NFAS.startSyms (nfasMap_congr hA fA)
  have h2 := congrArg NFAS.startSyms (nfasMap_congr hB fB)
  unfold nfasUnionWith
  rw [hA.1, hB.1]
  congr 1
  show (nfasMap fA A).startSyms ++ (nfasMap fB B).startSyms = (nfasMap fA A').startSyms ++ (nfasMap fB B').startSyms
  rw [h1, h2]

theorem nfasProdOn_congr {A A' B B' : NFAS} (hA : ObsEq A A') (hB : ObsEq B B') (D : List (Nat × Nat))
    (m : Nat × Nat → Nat) : nfasProdOn A B D m = nfasProdOn A' B' D m := by
  unfold nfasProdOn nfasProdSyms
  rw [← hA.1, ← hB.1]
  congr 1
  apply List.map_congr_left
  intro p hp
  rw [hA.2 p.1 (mem_nfaStartPairs.mp hp).1, hB.2 p.2 (mem_nfaStartPairs.mp hp).2]

theorem nfasIntersection_congr {A A' B B' : NFAS} (hA : ObsEq A A') (hB : ObsEq B B') (fuel : Nat) :
    nfasIntersection A B fuel = nfasIntersection A' B' fuel := by
  unfold nfasIntersection
  simp only [← hA.1, ← hB.1, nfasProdOn_congr hA hB]

theorem nfasCandidate_congr {A B : NFAS} (h : ObsEq A B) : nfasCandidate A = nfasCandidate B := by
  unfold nfasCandidate nfasCandidateRaw
  rw [← h.1]
  congr 2
  apply List.map_congr_left
  intro q hq
  rw [h.2 q ((nfaCandidateRaw_sub A.toNFA).1 q hq)]

theorem nfasDump_congr {A B : NFAS} (h : ObsEq A B) (g : Nat → Nat) : nfasDump g A = nfasDump g B := by
  unfold nfasDump
  rw [← h.start, ← h.final, ← h.trans']
  congr 1
  have : ∀ l : List Nat, (∀ s, s ∈ l → s ∈ A.start) →
      l.flatMap (fun s => (A.dumpSyms s).map (fun a => (a, g s))) = l.flatMap (fun s => (B.dumpSyms s).map (fun a => (a, g s))) := by
    intro l
    induction l with
    | nil => intro _; rfl
    | cons x r ih =>
      intro hl
      simp only [List.flatMap_cons]
      rw [ih (fun s hs => hl s (List.mem_cons_of_mem _ hs))]
      have : A.dumpSyms x = B.dumpSyms x := by
        unfold NFAS.dumpSyms; rw [h.2 x (hl x List.mem_cons_self)]
      rw [this]
  exact this A.start (fun _ h => h)

theorem obsEq_removeUnreachable {A B : NFAS} (h : ObsEq A B) : ObsEq (nfasRemoveUnreachable A) (nfasRemoveUnreachable B) :=
  ⟨by rw [nfasRemoveUnreachable_toNFA, nfasRemoveUnreachable_toNFA, h.1],
    fun q hq => h.2 q (by rw [← nfaRemoveUnreachable_start A.toNFA]; exact hq)⟩

theorem obsEq_removeUseless {A B : NFAS} (h : ObsEq A B) : ObsEq (nfasRemoveUseless A) (nfasRemoveUseless B) :=
  ⟨by rw [nfasRemoveUseless_toNFA, nfasRemoveUseless_toNFA, h.1], fun q hq => by
    rw [nfasRemoveUseless_symsOf, nfasRemoveUseless_symsOf]
    exact h.2 q ((nfasRemoveUseless_start_syms A q).1.mp hq).1⟩

/-- pairs of values obtained by the same sequence of stale-blind operations from observably equal values -/
inductive ObsHist : NFAS → NFAS → Prop
  | base {A B : NFAS} : ObsEq A B → ObsHist A B
  | addTrans {A B : NFAS} (p a q : Nat) : ObsHist A B → ObsHist (nfasAddTrans A p a q) (nfasAddTrans B p a q)
  | setFinal {A B : NFAS} (q : Nat) : ObsHist A B → ObsHist (nfasSetFinal A q) (nfasSetFinal B q)
  | map {A B : NFAS} (f : Nat → Nat) : ObsHist A B → ObsHist (nfasMap f A) (nfasMap f B)
  | unionWith {A A' B B' : NFAS} (fA fB : Nat → Nat) : ObsHist A A' → ObsHist B B' →
      ObsHist (nfasUnionWith fA fB A B) (nfasUnionWith fA fB A' B')
  | removeUnreachable {A B : NFAS} : ObsHist A B → ObsHist (nfasRemoveUnreachable A) (nfasRemoveUnreachable B)
  | removeUseless {A B : NFAS} : ObsHist A B → ObsHist (nfasRemoveUseless A) (nfasRemoveUseless B)
  | prod {A A' B B' : NFAS} (D : List (Nat × Nat)) (m : Nat × Nat → Nat) : ObsHist A A' → ObsHist B B' →
      ObsHist (nfasRemoveUseless (nfasProdOn A B D m)) (nfasRemoveUseless (nfasProdOn A' B' D m))
  | candidate {A B : NFAS} : ObsHist A B → ObsHist (nfasCandidate A) (nfasCandidate B)
  | reorder {A B : NFAS} (so : List Nat) : (∀ q, q ∈ so ↔ q ∈ A.start) → ObsHist A B →
      ObsHist ⟨⟨so, A.final, A.trans⟩, A.startSyms⟩ ⟨⟨so, B.final, B.trans⟩, B.startSyms⟩

/-- **no entry of a non-start state is observable** through `AddTransition`, `SetStateFinal`, `ReindexStates`, `Union`,
`RemoveUnreachableStates`, `RemoveUselessStates`, `Intersection`, `GetCandidateTree` (and the dump, `nfasDump_congr`):
whatever sequence of them is applied to values that look the same, the results look the same – in particular to a value
and to the same value with its stale entries dropped (`obsEq_clean`) -/
theorem nfas_history_stale_unobservable {A B : NFAS} (h : ObsHist A B) : ObsEq A B := by
  induction h with
  | base h => exact h
  | addTrans p a q _ ih => exact obsEq_addTrans ih p a q
  | setFinal q _ ih => exact obsEq_setFinal ih q
  | map f _ ih => rw [nfasMap_congr ih f]; exact ObsEq.refl _
  | unionWith fA fB _ _ ihA ihB => rw [nfasUnionWith_congr ihA ihB fA fB]; exact ObsEq.refl _
  | removeUnreachable _ ih => exact obsEq_removeUnreachable ih
  | removeUseless _ ih => exact obsEq_removeUseless ih
  | prod D m _ _ ihA ihB => rw [nfasProdOn_congr ihA ihB D m]; exact ObsEq.refl _
  | candidate _ ih => rw [nfasCandidate_congr ih]; exact ObsEq.refl _
  | reorder so hso _ ih => exact obsEq_reorder so hso ih

/-! the three writers that DO see stale entries are congruent only where no stale entry is hit -/

theorem obsEq_setStart {A B : NFAS} (h : ObsEq A B) (q a : Nat)
    (hA : q ∈ A.start ∨ smHas A.startSyms q = false) (hB : q ∈ B.start ∨ smHas B.startSyms q = false) :
    ObsEq (nfasSetStart A q a) (nfasSetStart B q a) := by
  refine ⟨by simp only [nfasSetStart_toNFA, h.start, h.final, h.trans'], fun q' hq' => ?_⟩
  rw [nfasSetStart_symsOf, nfasSetStart_symsOf]
  by_cases e : q' = q
  · rw [if_pos e, if_pos e]
    by_cases hq : q ∈ A.start
    · rw [h.2 q hq]
    · have hq' : q ∉ B.start := by rw [← h.start]; exact hq
      rw [NFAS.symsOf, NFAS.symsOf, smGet_eq_nil_of_not_has (hA.resolve_left hq),
        smGet_eq_nil_of_not_has (hB.resolve_left hq')]
  · rw [if_neg e, if_neg e]
    exact h.2 q' ((mem_insN.mp hq').resolve_right e)

theorem obsEq_setExistingStart {A B : NFAS} (h : ObsEq A B) (q : Nat) (S : List Nat)
    (hA : smHas A.startSyms q = false) (hB : smHas B.startSyms q = false) :
    ObsEq (nfasSetExistingStart A q S) (nfasSetExistingStart B q S) := by
  refine ⟨by simp only [nfasSetExistingStart_toNFA, h.start, h.final, h.trans'], fun q' hq' => ?_⟩
  rw [nfasSetExistingStart_symsOf, nfasSetExistingStart_symsOf]
  by_cases e : q' = q
  · rw [if_pos ⟨hA, e⟩, if_pos ⟨hB, e⟩]
  · rw [if_neg (fun c => e c.2), if_neg (fun c => e c.2)]
    exact h.2 q' ((mem_insN.mp hq').resolve_right e)

theorem obsEq_unionDisjoint {A A' B B' : NFAS} (hA : ObsEq A A') (hB : ObsEq B B') (kA : KeysCover A) (kA' : KeysCover A')
    (hcl : ∀ q, q ∈ B.start → smHas A.startSyms q = true → q ∈ A.start)
    (hcl' : ∀ q, q ∈ B'.start → smHas A'.startSyms q = true → q ∈ A'.start) :
    ObsEq (nfasUnionDisjoint A B) (nfasUnionDisjoint A' B') := by
  refine ⟨by rw [nfasUnionDisjoint_toNFA, nfasUnionDisjoint_toNFA, hA.1, hB.1], fun q hq => ?_⟩
  rw [nfasUnionDisjoint_symsOf, nfasUnionDisjoint_symsOf]
  by_cases hq1 : q ∈ A.start
  · have hq1' : q ∈ A'.start := by rw [← hA.start]; exact hq1
    rw [if_pos (kA q hq1), if_pos (kA' q hq1')]; exact hA.2 q hq1
  · have hq2 : q ∈ B.start := (mem_nfasUnionDisjoint_start.mp hq).resolve_left hq1
    have hq1' : q ∉ A'.start := by rw [← hA.start]; exact hq1
    have hq2' : q ∈ B'.start := by rw [← hB.start]; exact hq2
    have n1 : ¬ smHas A.startSyms q = true := fun c => hq1 (hcl q hq2 c)
    have n2 : ¬ smHas A'.startSyms q = true := fun c => hq1' (hcl' q hq2' c)
    rw [if_neg n1, if_neg n2]; exact hB.2 q hq2


/-- the entries after `RemoveUselessStates`: the old ones – of removed states too – and one for every final state of the
result (left by the inner `Reverse`) -/
theorem nfasRemoveUseless_has (A : NFAS) (hk : KeysCover A) (q : Nat) :
    smHas (nfasRemoveUseless A).startSyms q = (smHas A.startSyms q || (nfasRemoveUseless A).final.contains q) := by
  unfold nfasRemoveUseless
  rw [nfasReverse_has, nfasRemoveUnreachable_startSyms, nfasReverse_has, nfasRemoveUnreachable_startSyms,
    nfasReverse_final, nfasRemoveUnreachable_start, nfasReverse_start]
  cases hq : (nfasRemoveUnreachable (nfasReverse (nfasRemoveUnreachable A))).final.contains q with
  | false => rw [Bool.or_false]
  | true =>
    -- a final state of the inner `Reverse` that survives is a start state of `A`: it has its entry already
    have hs := nfasRemoveUnreachable_final_sub _ (List.contains_iff_mem.mp hq)
    rw [nfasReverse_final, nfasRemoveUnreachable_start] at hs
    simp only [hk q hs, Bool.true_or]

/-- the map of the witness, read as a function, is the map written for the start states scanned – whichever accepting
path the search finds – and its entries are those plus one for the final state found -/
theorem nfasCandidate_symsOf_raw (A : NFAS) (q : Nat) :
    (nfasCandidate A).symsOf q = (nfasCandidateRaw A).symsOf q ∧
    smHas (nfasCandidate A).startSyms q =
      (smHas (nfasCandidateRaw A).startSyms q || (nfasCandidate A).final.contains q) := by
  refine ⟨nfasRemoveUseless_symsOf _ q, nfasRemoveUseless_has _ ?_ q⟩
  intro s hs
  exact (smHas_map_pairs (fun q => q) _ _ _).mpr ⟨s, hs, rfl⟩

namespace NfaSEx

/-- two start states, 0 with the symbols x0, x1 (8, 9) and 3 with x2; 0 -a0-> 1 -a1-> 2, final 2 and 3 -/
def exA : NFAS := nfasBuild [(0, 0, 1), (1, 1, 2)] [(0, 8), (3, 10), (0, 9)] [2, 3]
/-- one start state with x3, a loop -/
def exB : NFAS := nfasBuild [(0, 0, 0), (0, 1, 0)] [(0, 11)] [0]

example : exA.start = [0, 3] ∧ exA.symsOf 0 = [8, 9] ∧ exA.symsOf 3 = [10] ∧ exA.startSyms = [(0, [8, 9]), (3, [10])] := by
  decide +kernel

-- toNFA commutes, the language is that of the automaton without symbols
example : (nfasReverse exA).toNFA = nfaReverse exA.toNFA := rfl
example : acceptsW (nfasReverse exA).toNFA [1, 0] = true := by decide

-- Reverse: the new start states 2 (no entry: nothing) and 3 (was a start state: keeps x2); the entry of 0 is stale
example : (nfasReverse exA).start = [2, 3] ∧ (nfasReverse exA).symsOf 2 = [] ∧ (nfasReverse exA).symsOf 3 = [10] ∧
    (nfasReverse exA).startSyms = [(0, [8, 9]), (3, [10]), (2, [])] := by decide +kernel
-- … and the dump writes `x` (12) for state 2
example : (nfasDump id (nfasReverse exA)).nullary = [(12, 2), (10, 3)] := by decide +kernel
-- Reverse twice: the symbols are back
example : (nfasReverse (nfasReverse exA)).start = [0, 3] ∧ (nfasReverse (nfasReverse exA)).symsOf 0 = [8, 9] := by decide

-- RemoveUselessStates keeps the symbols of the start states that survive; its map has grown by the final states
example : (nfasRemoveUseless exA).start = [0, 3] ∧ (nfasRemoveUseless exA).symsOf 0 = [8, 9] ∧
    (nfasRemoveUseless exA).startSyms = [(0, [8, 9]), (3, [10]), (2, [])] := by decide +kernel

-- Union (numbering of `nfasUnion`): images carry the symbols
example : (nfasUnion exA exB).start = [0, 1, 4] ∧ (nfasUnion exA exB).symsOf 0 = [8, 9] ∧
    (nfasUnion exA exB).symsOf 1 = [10] ∧ (nfasUnion exA exB).symsOf 4 = [11] := by decide +kernel
example : ∀ p, p ∈ exA.start → (fun q => (nfaStateList exA.toNFA).idxOf q) p = (fun q => (nfaStateList exA.toNFA).idxOf q) 0 →
    p = 0 := by decide

-- Intersection: the product start state of (0, 0) carries x0, x1 and x3; the pair (3, 0) is a start state too (3 is final, 0 is final)
example : (nfasIsect exA exB).start = [0, 1] ∧ (nfasIsect exA exB).symsOf 0 = [8, 9, 11] ∧
    (nfasIsect exA exB).symsOf 1 = [10, 11] := by decide +kernel
example : (nfasIntersection exA exB 5).isSome = true := by decide +kernel

-- GetCandidateTree: start state 3 is final – the witness is that state with its symbol
example : (nfasCandidate exA).start = [3] ∧ (nfasCandidate exA).symsOf 3 = [10] := by decide +kernel

example : (nfasDump id exA).nullary = [(8, 0), (9, 0), (10, 3)] := by decide +kernel
example : ∀ n, n ∈ (nfasDump id exA).names → id (id n) = n := fun _ _ => rfl
example : nfasObsEqB (nfasLoad id (nfasDump id exA)) exA = true := by decide +kernel
example : ∀ q, q ∈ nfaStates exA.toNFA → id (id q) = q := fun _ _ => rfl
-- a start state without symbols is reloaded with `x`
example : (nfasLoad id (nfasDump id (nfasReverse exA))).symsOf 2 = [12] := by decide
-- a fresh dictionary numbers the names 2, 3, 0, 1 (final states first) by 0, 1, 2, 3
example : (nfasDump id exA).names = [2, 3, 0, 1] ∧ (nfasLoadFresh (nfasDump id exA)).start = [2, 1] ∧
    (nfasLoadFresh (nfasDump id exA)).symsOf 2 = [8, 9] ∧ (nfasLoadFresh (nfasDump id exA)).symsOf 1 = [10] := by decide +kernel

example : NfasHist (nfasSetStart (nfasReverse exA) 0 9) := .setStart 0 9 (.reverse (.build _ _ _))
example : NfasHistNR (nfasRemoveUseless (nfasUnionDisjoint exA (nfasMap (· + 10) exB))) :=
  .removeUseless (.unionDisjoint (by decide) (.build _ _ _) (.map _ (.build _ _ _)))
example : ObsHist (nfasRemoveUseless (nfasReverse exA)) (nfasRemoveUseless (nfasReverse exA).clean) :=
  .removeUseless (.base (obsEq_clean _))

/-! ### the stale entries at work (each reproduced by the real class, see `harness/nfas_witness_stale.txt`) -/

/-- `0 -a0-> 1`, start state 0 with x0, final state 1 – reversed: start state 1, final state 0, and a stale entry for 0 -/
def stR : NFAS := nfasReverse (nfasBuild [(0, 0, 1)] [(0, 8)] [1])
example : stR.start = [1] ∧ stR.final = [0] ∧ stR.startSyms = [(0, [8]), (1, [])] := by decide +kernel

/-- `SetStateStart (0, x1)` on a state that is no start state gives it x0 AND x1 – x0 was never given -/
theorem stale_setStart : (nfasSetStart stR 0 9).symsOf 0 = [8, 9] ∧ (nfasSetStart stR.clean 0 9).symsOf 0 = [9] := by
  decide

/-- `SetExistingStateStart (0, {x1, x2})` on a state that is no start state: the set given is ignored -/
theorem stale_setExistingStart :
    (nfasSetExistingStart stR 0 [9, 10]).symsOf 0 = [8] ∧ (nfasSetExistingStart stR.clean 0 [9, 10]).symsOf 0 = [9, 10] := by
  decide

/-- start state 0 (x0) cannot reach the final state 1: `Reverse` and `RemoveUnreachableStates` drop it – the automaton `stL`
consists of the state 1 only – but its entry stays -/
def stL : NFAS := nfasRemoveUnreachable (nfasReverse (nfasBuild [] [(0, 8)] [1]))
/-- an automaton on the state 0 only: start state with x1 -/
def stB : NFAS := nfasBuild [] [(0, 9)] [0]

/-- `UnionDisjointStates` of two automata WITHOUT A COMMON STATE: the start state 0 of the right operand loses its symbol
x1 and shows x0, which the left operand does not show anywhere -/
theorem stale_unionDisjoint :
    (∀ q, q ∈ nfaStates stL.toNFA → q ∈ nfaStates stB.toNFA → False) ∧
    stB.symsOf 0 = [9] ∧ (nfasUnionDisjoint stL stB).start = [1, 0] ∧ (nfasUnionDisjoint stL stB).symsOf 0 = [8] ∧
    (nfasUnionDisjoint stL.clean stB).symsOf 0 = [9] := by decide +kernel

/-- … and a start state can lose ALL its symbols that way: `stL2` is the state 0 only (start state with x0) plus an EMPTY
stale entry for the state 1 it once had (left by `Reverse`); the start state 1 of the right operand comes out without symbols -/
def stL2 : NFAS := nfasRemoveUnreachable (nfasReverse (nfasReverse (nfasBuild [] [(0, 8)] [1])))
theorem stale_unionDisjoint_empty :
    (∀ q, q ∈ nfaStates stL2.toNFA → q ∈ nfaStates (nfasBuild [] [(1, 9)] [1]).toNFA → False) ∧
    stL2.symsOf 0 = [8] ∧ (nfasBuild [] [(1, 9)] [1]).symsOf 1 = [9] ∧
    (nfasUnionDisjoint stL2 (nfasBuild [] [(1, 9)] [1])).start = [0, 1] ∧
    (nfasUnionDisjoint stL2 (nfasBuild [] [(1, 9)] [1])).symsOf 1 = [] := by decide +kernel

/-- `Reverse` shows a stale entry again (this is how `Reverse ∘ Reverse` restores the symbols) -/
theorem stale_reverse : (nfasReverse stR).symsOf 0 = [8] ∧ (nfasReverse stR.clean).symsOf 0 = [] := by decide

end NfaSEx

end Vata
