import Vata.Proofs.BddIsectTotal
/-!
C08: the bottom-up symbolic intersection is total.  For operand tables as the C++ holds them (`TableOk`: no entry for the
empty tuple in the map, one entry per tuple) the loop invariant `BInv` says: a pair of tuples all of whose component pairs
have been TAKEN from the work-set has its entry in the result table (it got it when the last of them was taken), and every
entry is the pure product of two operand MTBDDs for the current map (`EntOk`).  So at the end the certificate check
`buCertB` succeeds: the model returns `none` only when the fuel runs out, and `buFuel` (pairs of leaf states) suffices.
-/
namespace Vata
namespace BddIsect
open M BddAbs BddAbsTD

theorem keys_pairs {T : Table} {ks : List Nat} (h : ks ∈ T.keys) : (ks, T.get ks) ∈ pairs T := by
  unfold Table.keys at h
  unfold pairs Table.get
  by_cases hk : ks = []
  · subst hk; simp
  · rw [if_neg hk]
    rcases List.mem_cons.mp h with h | h
    · exact absurd h hk
    · exact List.mem_cons_of_mem _ (getE_mem h)

theorem zip_inj {ks ks' ks2 ks2' : List Nat} (hl : ks'.length = ks.length) (hl2 : ks2'.length = ks2.length)
    (h : ks.zip ks' = ks2.zip ks2') : ks = ks2 ∧ ks' = ks2' := by
  have h1 := List.map_fst_zip (l₁ := ks) (l₂ := ks') (by omega)
  have h2 := List.map_snd_zip (l₁ := ks) (l₂ := ks') (by omega)
  have h3 := List.map_fst_zip (l₁ := ks2) (l₂ := ks2') (by omega)
  have h4 := List.map_snd_zip (l₁ := ks2) (l₂ := ks2') (by omega)
  rw [h] at h1 h2
  exact ⟨h1.symm.trans h3, h2.symm.trans h4⟩

theorem findIdx?_drop {α : Type} (p : α → Bool) (l : List α) (n : Nat) (h : ∀ x, x ∈ l.take n → p x = false) :
    l.findIdx? p = ((l.drop n).findIdx? p).map (· + min n l.length) := by
  conv => lhs; rw [← List.take_append_drop n l, List.findIdx?_append, List.findIdx?_eq_none_iff.mpr h, Option.none_or,
    List.length_take]

/-- the two-stage search of the C++ (`firstMatch`, then `i`) finds the first position at which the two tuples hold the
two components of the pair -/
theorem matchPos_eq {ks ks' : List Nat} (pr : Nat × Nat) (hl : ks'.length = ks.length) :
    matchPos ks ks' pr = (ks.zip ks').findIdx? (fun c => c == pr) := by
  -- before `firstMatch` the left tuple does not hold `pr.1`, so the pairs are not `pr`
  have hn : ∀ c, c ∈ (ks.zip ks').take (ks.findIdx (· == pr.1)) → (c == pr) = false := by
    intro c hc
    rw [List.zip_eq_zipWith, List.take_zipWith, ← List.zip_eq_zipWith] at hc
    obtain ⟨j, hj, hc1⟩ := List.mem_take_iff_getElem.mp (List.of_mem_zip (a := c.1) (b := c.2) hc).1
    have := List.not_of_lt_findIdx (p := (· == pr.1)) (xs := ks) (i := j) (by omega)
    rw [beq_eq_false_iff_ne] at this ⊢
    exact fun e => this (hc1.trans (congrArg Prod.fst e))
  have hz : (ks.zip ks').length = ks.length := by rw [List.length_zip, hl, Nat.min_self]
  rw [findIdx?_drop _ _ _ hn, Nat.min_eq_left (hz ▸ List.findIdx_le_length), matchPos]
  split
  · rename_i h
    rw [List.drop_of_length_le (by rw [hz, beq_iff_eq.mp h]; exact Nat.le_refl _)]
    rfl
  · rfl

theorem matchPos_none {ks ks' : List Nat} {pr : Nat × Nat} (hl : ks'.length = ks.length)
    (h : matchPos ks ks' pr = none) : pr ∉ ks.zip ks' := by
  rw [matchPos_eq pr hl, List.findIdx?_eq_none_iff] at h
  intro hm
  have := h pr hm
  simp at this

theorem matchPos_some {ks ks' : List Nat} {pr : Nat × Nat} {i : Nat} (hl : ks'.length = ks.length)
    (h : matchPos ks ks' pr = some i) : (ks.zip ks')[i]? = some pr := by
  rw [matchPos_eq pr hl, List.findIdx?_eq_some_iff_getElem] at h
  obtain ⟨hi, hp, _⟩ := h
  rw [List.getElem?_eq_some_iff]
  exact ⟨hi, by simpa using hp⟩

theorem buTuple_cons (m : PMap) (x i k : Nat) (c : Nat × Nat) (cs : List (Nat × Nat)) :
    buTuple m x i k (c :: cs) =
      (if k = i then some x else m.lookup c).bind fun n => (buTuple m x i (k + 1) cs).map (n :: ·) := by
  rw [buTuple]
  split
  · rfl
  · cases m.lookup c <;> rfl

theorem buTuple_none {m : PMap} {x i : Nat} : ∀ (cs : List (Nat × Nat)) (k : Nat), buTuple m x i k cs = none →
    ∃ c, c ∈ cs ∧ c ∉ m.dom
  | [], _, h => by rw [buTuple] at h; cases h
  | c :: cs, k, h => by
    rw [buTuple_cons] at h
    cases hn : (if k = i then some x else m.lookup c) with
    | none =>
      split at hn
      · cases hn
      · exact ⟨c, List.mem_cons_self, Isx.lookup_none_iff.mp hn⟩
    | some n =>
      rw [hn, Option.bind_some, Option.map_eq_none_iff] at h
      obtain ⟨c', h1, h2⟩ := buTuple_none cs (k + 1) h
      exact ⟨c', List.mem_cons_of_mem _ h1, h2⟩

theorem buTuple_some {m : PMap} {x i : Nat} {pr : Nat × Nat} (hx : m.lookup pr = some x) :
    ∀ (cs : List (Nat × Nat)) (k : Nat) (t : List Nat), (∀ j, k + j = i → cs[j]? = some pr ∨ cs[j]? = none) →
      buTuple m x i k cs = some t → t = cs.map (lookupF m) ∧ ∀ c, c ∈ cs → c ∈ m.dom
  | [], _, t, _, h => by
    rw [buTuple] at h
    cases h
    exact ⟨rfl, fun c hc => by cases hc⟩
  | c :: cs, k, t, hi, h => by
    rw [buTuple_cons] at h
    obtain ⟨n, hn, h⟩ := Option.bind_eq_some_iff.mp h
    obtain ⟨t', ht', rfl⟩ := Option.map_eq_some_iff.mp h
    -- in both cases `n` is the number of `c`: at position `i` the pair is `pr`
    have hc : m.lookup c = some n := by
      split at hn
      · cases hn
        rcases hi 0 ‹_› with h0 | h0
        · cases h0; exact hx
        · cases h0
      · exact hn
    obtain ⟨h1, h2⟩ := buTuple_some hx cs (k + 1) t' (fun j hj => hi (j + 1) (by omega)) ht'
    exact ⟨by rw [List.map_cons, Isx.lookupF_of hc, h1],
      List.forall_mem_cons.mpr ⟨Isx.mem_dom_iff.mpr ⟨n, hc⟩, h2⟩⟩

section Invariant
variable {c0 : Nat} {TA TB : Table} {FA FB : List Nat}

/-- the pair has been taken from the work-set -/
def DonePr (s : St) (c : Nat × Nat) : Prop := ∃ k, s.map.lookup c = some k ∧ (k, c) ∉ s.ws

structure EntOk (TA TB : Table) (m : PMap) (R : Table) (kk ks ks' : List Nat) : Prop where
  keyA : ks ∈ TA.keys
  keyB : ks' ∈ TB.keys
  len : ks'.length = ks.length
  comps : ∀ c, c ∈ ks.zip ks' → c ∈ m.dom
  tup : kk = (ks.zip ks').map (lookupF m)
  par : ∀ ll, ll ∈ voidApply2 (TA.get ks) (TB.get ks') → ∀ c, c ∈ allPairs ll.1 ll.2 → c ∈ m.dom
  val : R.get kk = apply2 (prodS (lookupF m)) (TA.get ks) (TB.get ks')

theorem EntOk.mono {m m' : PMap} {R : Table} {kk ks ks' : List Nat} (h : EntOk TA TB m R kk ks ks')
    (he : Isx.Ext m m') : EntOk TA TB m' R kk ks ks' :=
  ⟨h.keyA, h.keyB, h.len, fun c hc => he.dom (h.comps c hc), by rw [he.map_lookupF h.comps]; exact h.tup,
    fun ll hl c hc => he.dom (h.par ll hl c hc), by rw [h.val]; exact apply2_ext leafSpecBU he _ _ h.par⟩

theorem EntOk.set_ne {m : PMap} {R : Table} {kk ks ks' : List Nat} (h : EntOk TA TB m R kk ks ks')
    {tuple : List Nat} (hne : tuple ≠ kk) (v : MT) : EntOk TA TB m (R.set tuple v) kk ks ks' :=
  ⟨h.keyA, h.keyB, h.len, h.comps, h.tup, h.par, by rw [get_set, if_neg hne]; exact h.val⟩

def buU (TA TB : Table) : List (Nat × Nat) := allPairs (buKids TA) (buKids TB)

theorem pairs_in_U {eA eB : List Nat × MT} (hA : eA ∈ pairs TA) (hB : eB ∈ pairs TB)
    {ll : List Nat × List Nat} (hl : ll ∈ voidApply2 eA.2 eB.2) {c : Nat × Nat} (hc : c ∈ allPairs ll.1 ll.2) :
    c ∈ buU TA TB := by
  obtain ⟨h1, h2⟩ := voidApply2_sub _ _ ll hl
  obtain ⟨h3, h4⟩ := mem_allPairs.mp hc
  refine mem_allPairs.mpr ⟨?_, ?_⟩
  · simp only [buKids, leafParents, List.mem_flatMap, id]
    exact ⟨eA, hA, ll.1, h1, h3⟩
  · simp only [buKids, leafParents, List.mem_flatMap, id]
    exact ⟨eB, hB, ll.2, h2, h4⟩

/-- the invariant of the two nested loops over the pairs of tuples, for the entry `(x, pr)` taken in the state `s` with
the table `R`: `L` are the pairs of tuples already examined, `s'`, `R'` the current state and table -/
structure PInv (c0 : Nat) (TA TB : Table) (s : St) (R : Table) (pr : Nat × Nat)
    (L : List ((List Nat × MT) × (List Nat × MT))) (s' : St) (R' : Table) : Prop where
  good : Good c0 s'
  step : Step s s'
  ent : ∀ kk, kk ∈ R'.keys → ∃ ks ks', EntOk TA TB s'.map R' kk ks ks'
  keys : ∀ kk, kk ∈ R.keys → kk ∈ R'.keys
  prog : ∀ ee, ee ∈ L → ee.2.1.length = ee.1.1.length → pr ∈ ee.1.1.zip ee.2.1 →
    (∀ c, c ∈ ee.1.1.zip ee.2.1 → c ∈ s.map.dom) → (ee.1.1.zip ee.2.1).map (lookupF s'.map) ∈ R'.keys
  back : ∀ c, c ∈ s'.map.dom → c ∈ s.map.dom ∨ c ∈ buU TA TB

theorem PInv.snoc_skip {s : St} {R : Table} {pr : Nat × Nat}
    {L : List ((List Nat × MT) × (List Nat × MT))} {s' : St} {R' : Table} (h : PInv c0 TA TB s R pr L s' R')
    (ee : (List Nat × MT) × (List Nat × MT))
    (hv : ee.2.1.length = ee.1.1.length → pr ∈ ee.1.1.zip ee.2.1 → (∀ c, c ∈ ee.1.1.zip ee.2.1 → c ∈ s.map.dom) → False) :
    PInv c0 TA TB s R pr (L ++ [ee]) s' R' := by
  refine ⟨h.good, h.step, h.ent, h.keys, ?_, h.back⟩
  intro ee' hm h1 h2 h3
  rcases List.mem_append.mp hm with hm | hm
  · exact h.prog ee' hm h1 h2 h3
  · simp only [List.mem_singleton] at hm
    subst hm
    exact (hv h1 h2 h3).elim

theorem buPair_pinv (hTA : TableOk TA) (hTB : TableOk TB) {s : St} {R : Table}
    {pr : Nat × Nat} {x : Nat} (hx : s.map.lookup pr = some x) {L : List ((List Nat × MT) × (List Nat × MT))} {s' : St}
    {R' : Table} (h : PInv c0 TA TB s R pr L s' R') (ee : (List Nat × MT) × (List Nat × MT)) (hA : ee.1 ∈ pairs TA)
    (hB : ee.2 ∈ pairs TB) :
    PInv c0 TA TB s R pr (L ++ [ee]) (buPair x pr ee.1 ee.2 s' R').1 (buPair x pr ee.1 ee.2 s' R').2 := by
  unfold buPair
  split
  next hl => exact h.snoc_skip ee (fun h1 _ _ => by simp [h1] at hl)
  next hl =>
    have hlen : ee.2.1.length = ee.1.1.length := by simpa using hl
    split
    next hm => exact h.snoc_skip ee (fun _ h2 _ => matchPos_none hlen hm h2)
    next i hm =>
      split
      next ht =>
        obtain ⟨c, hc, hcd⟩ := buTuple_none _ _ ht
        exact h.snoc_skip ee (fun _ _ h3 => hcd (h.step.ext.dom (h3 c hc)))
      next tuple ht =>
        have hx' : s'.map.lookup pr = some x := h.step.ext _ _ hx
        obtain ⟨htup, hcomps⟩ := buTuple_some hx' _ 0 tuple (fun j hj => by
          have : j = i := by omega
          subst this
          exact Or.inl (matchPos_some hlen hm)) ht
        have sp := apply2S_spec leafSpecBU c0 s' ee.1.2 ee.2.2 h.good
        obtain ⟨kA, eA⟩ := pairs_get hTA hA
        obtain ⟨kB, eB⟩ := pairs_get hTB hB
        have htup' : tuple = (ee.1.1.zip ee.2.1).map (lookupF (apply2S leafBU s' ee.1.2 ee.2.2).1.map) := by
          rw [sp.step.ext.map_lookupF hcomps]; exact htup
        refine ⟨sp.good, h.step.trans sp.step, ?_, ?_, ?_, ?_⟩
        · intro kk hkk
          by_cases hk : tuple = kk
          · subst hk
            refine ⟨ee.1.1, ee.2.1, kA, kB, hlen, fun c hc => sp.step.ext.dom (hcomps c hc), htup', ?_, ?_⟩
            · rw [← eA, ← eB]; exact sp.dom
            · rw [get_set, if_pos rfl, ← eA, ← eB]; exact sp.val
          · rcases mem_keys_set.mp hkk with h1 | h1
            · exact absurd h1.symm hk
            · obtain ⟨ks, ks', he⟩ := h.ent kk h1
              exact ⟨ks, ks', (he.mono sp.step.ext).set_ne hk _⟩
        · intro kk hkk
          exact mem_keys_set.mpr (Or.inr (h.keys kk hkk))
        · intro ee' hm' h1 h2 h3
          rcases List.mem_append.mp hm' with hm' | hm'
          · rw [sp.step.ext.map_lookupF (fun c hc => h.step.ext.dom (h3 c hc))]
            exact mem_keys_set.mpr (Or.inr (h.prog ee' hm' h1 h2 h3))
          · simp only [List.mem_singleton] at hm'
            subst hm'
            rw [← htup']
            exact mem_keys_set.mpr (Or.inl rfl)
        · intro c hc
          rcases sp.back c hc with h1 | ⟨ll, hl', h1⟩
          · exact h.back c h1
          · exact Or.inr (pairs_in_U hA hB hl' h1)

theorem buProc_pinv (hTA : TableOk TA) (hTB : TableOk TB) {s : St} {R : Table}
    {pr : Nat × Nat} {x : Nat} (hx : s.map.lookup pr = some x) :
    ∀ (rest L : List ((List Nat × MT) × (List Nat × MT))) (s' : St) (R' : Table), PInv c0 TA TB s R pr L s' R' →
      (∀ ee, ee ∈ rest → ee.1 ∈ pairs TA ∧ ee.2 ∈ pairs TB) →
      PInv c0 TA TB s R pr (L ++ rest) (buProc x pr rest s' R').1 (buProc x pr rest s' R').2
  | [], L, s', R', h, _ => by rw [List.append_nil]; exact h
  | ee :: rest, L, s', R', h, hr => by
    have := buProc_pinv hTA hTB hx rest (L ++ [ee]) _ _
      (buPair_pinv hTA hTB hx h ee (hr ee List.mem_cons_self).1 (hr ee List.mem_cons_self).2)
      (fun e he => hr e (List.mem_cons_of_mem _ he))
    rw [List.append_assoc] at this
    exact this

theorem mem_tuplePairs {ee : (List Nat × MT) × (List Nat × MT)} :
    ee ∈ tuplePairs TA TB ↔ ee.1 ∈ pairs TA ∧ ee.2 ∈ pairs TB := by
  simp only [tuplePairs, List.mem_flatMap, List.mem_map]
  constructor
  · rintro ⟨a, ha, b, hb, rfl⟩; exact ⟨ha, hb⟩
  · rintro ⟨ha, hb⟩; exact ⟨ee.1, ha, ee.2, hb, rfl⟩

theorem donePr_erase_self {s' : St} {pr : Nat × Nat} {x : Nat} (hx : s'.map.lookup pr = some x) :
    DonePr (s'.erase x) pr :=
  ⟨x, hx, fun hm => (mem_wsErase.mp hm).2 rfl⟩

theorem donePr_erase_fwd {s s' : St} (st : Step s s') (x : Nat) {c : Nat × Nat} (h : DonePr s c) :
    DonePr (s'.erase x) c := by
  obtain ⟨k, hk, hn⟩ := h
  refine ⟨k, st.ext _ _ hk, fun hm => ?_⟩
  rcases st.ws_new _ (mem_wsErase.mp hm).1 with h1 | h1
  · exact hn h1
  · rw [hk] at h1; cases h1

theorem donePr_erase_back {s s' : St} (hg : Good c0 s') (st : Step s s') {pr : Nat × Nat} {x : Nat}
    (hx : s.map.lookup pr = some x) {c : Nat × Nat} (h : DonePr (s'.erase x) c) : c = pr ∨ DonePr s c := by
  obtain ⟨k, hk, hn⟩ := h
  change s'.map.lookup c = some k at hk
  by_cases hkx : k = x
  · subst hkx
    exact Or.inl (hg.num.lookup_inj hk (st.ext _ _ hx))
  · have hn' : (k, c) ∉ s'.ws := fun hm => hn (mem_wsErase.mpr ⟨hm, hkx⟩)
    rcases st.new c k hk with h1 | ⟨_, h2, _⟩
    · exact Or.inr ⟨k, h1, fun hm => hn' (st.ws_mono _ hm)⟩
    · exact absurd h2 hn'

theorem DonePr.dom {s : St} {c : Nat × Nat} (h : DonePr s c) : c ∈ s.map.dom := by
  obtain ⟨k, hk, _⟩ := h
  exact Isx.mem_dom_iff.mpr ⟨k, hk⟩

structure BInv (c0 : Nat) (TA TB : Table) (FA FB : List Nat) (s : St) (R : Table) (F : List Nat) : Prop where
  good : Good c0 s
  ent : ∀ kk, kk ∈ R.keys → ∃ ks ks', EntOk TA TB s.map R kk ks ks'
  cov : ∀ ks ks', ks ∈ TA.keys → ks' ∈ TB.keys → ks'.length = ks.length → (∀ c, c ∈ ks.zip ks' → DonePr s c) →
    (ks.zip ks').map (lookupF s.map) ∈ R.keys
  fin : ∀ y, y ∈ F ↔ ∃ c, DonePr s c ∧ c.1 ∈ FA ∧ c.2 ∈ FB ∧ s.map.lookup c = some y

theorem BInv.pop {s : St} {R : Table} {F : List Nat} {x : Nat}
    {pr : Nat × Nat} {rest : WS} (h : BInv c0 TA TB FA FB s R F) (hw : s.ws = (x, pr) :: rest) {s' : St} {R' : Table}
    (P : PInv c0 TA TB s R pr (tuplePairs TA TB) s' R') :
    BInv c0 TA TB FA FB (s'.erase x) R' (if FA.contains pr.1 && FB.contains pr.2 then F ++ [x] else F) := by
  have hx : s.map.lookup pr = some x := h.good.ws_map (x, pr) (by rw [hw]; exact List.mem_cons_self)
  have hx' := P.step.ext _ _ hx
  refine ⟨P.good.erase x, P.ent, ?_, ?_⟩
  · intro ks ks' hkA hkB hl hd
    have hd' : ∀ c, c ∈ ks.zip ks' → c = pr ∨ DonePr s c := fun c hc => donePr_erase_back P.good P.step hx (hd c hc)
    show (ks.zip ks').map (lookupF s'.map) ∈ _
    by_cases hpr : pr ∈ ks.zip ks'
    · refine P.prog ((ks, TA.get ks), (ks', TB.get ks')) (mem_tuplePairs.mpr ⟨keys_pairs hkA, keys_pairs hkB⟩) hl hpr ?_
      intro c hc
      rcases hd' c hc with h1 | h1
      · rw [h1]; exact Isx.mem_dom_iff.mpr ⟨x, hx⟩
      · exact h1.dom
    · have hall : ∀ c, c ∈ ks.zip ks' → DonePr s c := fun c hc =>
        (hd' c hc).resolve_left (fun h1 => hpr (h1 ▸ hc))
      rw [P.step.ext.map_lookupF (fun c hc => (hall c hc).dom)]
      exact P.keys _ (h.cov ks ks' hkA hkB hl hall)
  · intro y
    rw [Ibu.mem_addFinal, h.fin y]
    constructor
    · rintro (⟨c, hc, h1, h2, h3⟩ | ⟨rfl, h1, h2⟩)
      · exact ⟨c, donePr_erase_fwd P.step x hc, h1, h2, P.step.ext _ _ h3⟩
      · exact ⟨pr, donePr_erase_self hx', h1, h2, hx'⟩
    · rintro ⟨c, hc, h1, h2, (h3 : s'.map.lookup c = some y)⟩
      rcases donePr_erase_back P.good P.step hx hc with h4 | ⟨k, hk, hn⟩
      · subst h4
        rw [hx'] at h3
        exact Or.inr ⟨(Option.some.inj h3).symm, h1, h2⟩
      · obtain rfl : k = y := Option.some.inj ((P.step.ext _ _ hk).symm.trans h3)
        exact Or.inl ⟨c, ⟨k, hk, hn⟩, h1, h2, hk⟩

theorem buProc_tuplePairs (hTA : TableOk TA) (hTB : TableOk TB) {s : St}
    {R : Table} {F : List Nat} {x : Nat} {pr : Nat × Nat} {rest : WS} (h : BInv c0 TA TB FA FB s R F)
    (hw : s.ws = (x, pr) :: rest) :
    PInv c0 TA TB s R pr (tuplePairs TA TB) (buProc x pr (tuplePairs TA TB) s R).1 (buProc x pr (tuplePairs TA TB) s R).2 :=
  List.nil_append (tuplePairs TA TB) ▸ buProc_pinv hTA hTB (h.good.ws_map (x, pr) (by rw [hw]; exact List.mem_cons_self))
    (tuplePairs TA TB) [] s R
    ⟨h.good, Step.refl s, h.ent, fun _ hk => hk, fun _ hm => (by cases hm), fun _ hc => Or.inl hc⟩
    (fun ee he => mem_tuplePairs.mp he)

theorem buLoop_inv (hTA : TableOk TA) (hTB : TableOk TB) {fuel : Nat}
    {s : St} {R : Table} {F : List Nat} {r : St × Table × List Nat} (h : buLoop TA TB FA FB fuel s R F = some r)
    (hi : BInv c0 TA TB FA FB s R F) : BInv c0 TA TB FA FB r.1 r.2.1 r.2.2 ∧ r.1.ws = [] :=
  buLoop_induct (P := BInv c0 TA TB FA FB) (fun _ _ _ _ _ _ hw hP => hP.pop hw (buProc_tuplePairs hTA hTB hP hw))
    fuel s R F h hi

theorem binv_cert {s : St} {R : Table} {F : List Nat}
    (h : BInv c0 TA TB FA FB s R F) (hw : s.ws = []) : buCertB TA FA TB FB s.map R F = true := by
  have hdone : ∀ c, c ∈ s.map.dom → DonePr s c := by
    intro c hc
    obtain ⟨k, hk⟩ := Isx.mem_dom_iff.mp hc
    exact ⟨k, hk, by rw [hw]; exact fun hm => by cases hm⟩
  have hinj := h.good.num.injOn
  have ready : ∀ ks ks', (ks, ks') ∈ buReady TA TB s.map.dom →
      EntOk TA TB s.map R ((ks.zip ks').map (lookupF s.map)) ks ks' := by
    intro ks ks' hr
    obtain ⟨hkA, hkB, hl, hd⟩ := mem_buReady.mp hr
    obtain ⟨ks2, ks2', he⟩ := h.ent _ (h.cov ks ks' hkA hkB hl (fun c hc => hdone c (hd c hc)))
    have hz := map_inj_of_injOn (S := (· ∈ s.map.dom)) hinj hd he.comps he.tup
    obtain ⟨rfl, rfl⟩ := zip_inj hl he.len hz
    exact he
  simp only [buCertB, buSymClosedB, buTableB, Bool.and_eq_true, List.all_eq_true, List.contains_iff_mem, beq_iff_eq,
    List.mem_map, seteq_iff, List.mem_filter]
  refine ⟨⟨?_, ?_, ?_⟩, ?_⟩
  · intro kk hkk ll hl p hp q hq
    exact (ready kk.1 kk.2 hkk).par ll hl (p, q) (mem_allPairs.mpr ⟨hp, hq⟩)
  · intro kk hkk
    exact (ready kk.1 kk.2 hkk).val
  · intro e he
    obtain ⟨ks, ks', hk⟩ := h.ent e.1 (List.mem_cons_of_mem _ (List.mem_map.mpr ⟨e, he, rfl⟩))
    exact ⟨(ks, ks'), mem_buReady.mpr ⟨hk.keyA, hk.keyB, hk.len, hk.comps⟩, hk.tup.symm⟩
  · intro y
    rw [h.fin y]
    constructor
    · rintro ⟨c, hc, h1, h2, h3⟩; exact ⟨c, ⟨hc.dom, h1, h2⟩, Isx.lookupF_of h3⟩
    · rintro ⟨c, ⟨hc, h1, h2⟩, h3⟩
      obtain ⟨k, hk⟩ := Isx.mem_dom_iff.mp hc
      rw [Isx.lookupF_of hk] at h3
      subst h3
      exact ⟨c, hdone c hc, h1, h2, hk⟩

theorem binv_init (c0 : Nat) (TA TB : Table) (FA FB : List Nat) :
    BInv c0 TA TB FA FB (apply2S leafBU ⟨[], [], c0⟩ (TA.get []) (TB.get [])).1
      (Table.empty.set [] (apply2S leafBU ⟨[], [], c0⟩ (TA.get []) (TB.get [])).2) [] := by
  have sp := apply2S_spec leafSpecBU c0 _ (TA.get []) (TB.get []) (good_init c0)
  have nodone : ∀ c, ¬ DonePr (apply2S leafBU ⟨[], [], c0⟩ (TA.get []) (TB.get [])).1 c := by
    rintro c ⟨k, hk, hn⟩
    rcases sp.step.new c k hk with h1 | ⟨_, h2, _⟩
    · cases h1
    · exact hn h2
  refine ⟨sp.good, ?_, ?_, ?_⟩
  · intro kk hkk
    have : kk = [] := by
      rcases mem_keys_set.mp hkk with h1 | h1
      · exact h1
      · simpa [Table.keys, Table.empty] using h1
    subst this
    refine ⟨[], [], nil_mem_keys _, nil_mem_keys _, rfl, fun c hc => (by cases hc), rfl, sp.dom, ?_⟩
    rw [get_set, if_pos rfl]
    exact sp.val
  · intro ks ks' _ _ _ hd
    cases hz : ks.zip ks' with
    | nil => exact mem_keys_set.mpr (Or.inl rfl)
    | cons c l => exact absurd (hd c (by rw [hz]; exact List.mem_cons_self)) (nodone c)
  · intro y
    constructor
    · intro hy; cases hy
    · rintro ⟨c, hc, _⟩; exact absurd hc (nodone c)

end Invariant

/-- **the certificate check of the bottom-up model never fails** (on tables as the C++ holds them, `TableOk`): the model IS
its loop -/
theorem bddIsectBUFrom_eq_loop (c0 : Nat) {TA : Table} (FA : List Nat) {TB : Table} (FB : List Nat) (hTA : TableOk TA)
    (hTB : TableOk TB) (fuel : Nat) :
    bddIsectBUFrom c0 TA FA TB FB fuel =
      (buLoop TA TB FA FB fuel (apply2S leafBU ⟨[], [], c0⟩ (TA.get []) (TB.get [])).1
        (Table.empty.set [] (apply2S leafBU ⟨[], [], c0⟩ (TA.get []) (TB.get [])).2) []).map
        (fun r => (r.2.1, r.2.2, r.1.map)) := by
  unfold bddIsectBUFrom
  split
  next h => rw [h]; rfl
  next s R F h =>
    obtain ⟨h1, h2⟩ := buLoop_inv hTA hTB h (binv_init c0 TA TB FA FB)
    rw [h, if_pos (binv_cert h1 h2)]; rfl

theorem bddIsectBUFrom_none_iff {c0 : Nat} {TA : Table} {FA : List Nat} {TB : Table} {FB : List Nat} (hTA : TableOk TA)
    (hTB : TableOk TB) {fuel : Nat} :
    bddIsectBUFrom c0 TA FA TB FB fuel = none ↔
      buLoop TA TB FA FB fuel (apply2S leafBU ⟨[], [], c0⟩ (TA.get []) (TB.get [])).1
        (Table.empty.set [] (apply2S leafBU ⟨[], [], c0⟩ (TA.get []) (TB.get [])).2) [] = none := by
  rw [bddIsectBUFrom_eq_loop c0 FA FB hTA hTB, Option.map_eq_none_iff]

theorem buLoop_total {c0 : Nat} {TA TB : Table} (hTA : TableOk TA) (hTB : TableOk TB) {FA FB : List Nat} (fuel : Nat) :
    ∀ (s : St) (R : Table) (F : List Nat) (done : List (Nat × Nat)), BInv c0 TA TB FA FB s R F →
      FInv (buU TA TB) s done → unseen (buU TA TB) done ≤ fuel →
      (buLoop TA TB FA FB fuel s R F).isSome = true := by
  induction fuel with
  | zero =>
    intro s R F done hi hf hc
    rw [buLoop]
    cases hw : s.ws with
    | nil => rfl
    | cons e rest => have := hf.head_lt hi.good (x := e.1) (pr := e.2) hw; omega
  | succ fuel ih =>
    intro s R F done hi hf hc
    rw [buLoop]
    split
    · rfl
    · rename_i x pr rest hw
      have P := buProc_tuplePairs hTA hTB hi hw
      have h1 := hi.pop hw P
      have := hf.head_lt hi.good hw
      exact ih _ _ _ (pr :: done) h1 (hf.pop hi.good hw h1.good P.step P.back) (by omega)

theorem buU_length (TA TB : Table) : (buU TA TB).length = buFuel TA TB := by
  rw [buU, buFuel, allPairs_eq, Isx.length_allPairs2]

theorem bddIsectBUFrom_isSome_of_le (c0 : Nat) {TA : Table} (FA : List Nat) {TB : Table} (FB : List Nat) (hTA : TableOk TA)
    (hTB : TableOk TB) {fuel : Nat} (hle : buFuel TA TB ≤ fuel) : (bddIsectBUFrom c0 TA FA TB FB fuel).isSome = true := by
  have sp := apply2S_spec leafSpecBU c0 _ (TA.get []) (TB.get []) (good_init c0)
  have hf : FInv (buU TA TB) (apply2S leafBU ⟨[], [], c0⟩ (TA.get []) (TB.get [])).1 [] := by
    refine FInv.init (fun c hc => (sp.back c hc).elim (fun h1 => by cases h1) (fun ⟨ll, hl, h1⟩ => ?_))
    exact pairs_in_U (eA := ([], TA.get [])) (eB := ([], TB.get [])) (keys_pairs (nil_mem_keys _))
      (keys_pairs (nil_mem_keys _)) hl h1
  have ht := buLoop_total hTA hTB (FA := FA) (FB := FB) fuel _ _ [] [] (binv_init c0 TA TB FA FB) hf
    (Nat.le_trans (unseen_le_length _ _) (buU_length TA TB ▸ hle))
  rw [bddIsectBUFrom_eq_loop c0 FA FB hTA hTB, Option.isSome_map]
  exact ht

theorem bddIsectBUFrom_isSome (c0 : Nat) {TA : Table} (FA : List Nat) {TB : Table} (FB : List Nat) (hTA : TableOk TA)
    (hTB : TableOk TB) : (bddIsectBUFrom c0 TA FA TB FB (buFuel TA TB)).isSome = true :=
  bddIsectBUFrom_isSome_of_le c0 FA FB hTA hTB (Nat.le_refl _)

theorem bddIsectBURef_isSome {TA : Table} (FA : List Nat) {TB : Table} (FB : List Nat) (hTA : TableOk TA)
    (hTB : TableOk TB) : (bddIsectBURef TA FA TB FB).isSome = true := by
  rw [bddIsectBURef, bddIsectBU]
  exact bddIsectBUFrom_isSome 0 FA FB hTA hTB

/-- **the bottom-up symbolic intersection, total and correct**: with the fuel `buFuel` the model returns a table whose
abstraction accepts exactly the intersection, and a translation map with the values `0 … n-1` -/
theorem bddIsectBURef_lang {TA : Table} (FA : List Nat) {TB : Table} (FB : List Nat) (hTA : TableOk TA)
    (hTB : TableOk TB) :
    ∃ R F m, bddIsectBURef TA FA TB FB = some (R, F, m) ∧
      (∀ syms t, accepts (absBU syms R F) t = (accepts (absBU syms TA FA) t && accepts (absBU syms TB FB) t)) ∧
      m.map Prod.snd = List.range m.length := by
  cases h : bddIsectBURef TA FA TB FB with
  | none => have := bddIsectBURef_isSome FA FB hTA hTB; rw [h] at this; simp at this
  | some r =>
    obtain ⟨R, F, m⟩ := r
    exact ⟨R, F, m, rfl, fun syms t => bddIsectBU_lang h syms t, (bddIsect_numbers_dense.2 h).1⟩

namespace BddIsectEx

theorem okA : TableOk buA := tableOk_ofRules _
theorem okB : TableOk buB := tableOk_ofRules _

#guard tdFuel tdA [1] tdB [1] == 28 && buFuel buA buB == 15
#guard (bddIsectTDRef tdA [1] tdB [1]).map (·.2) == (bddIsectTD tdA [1] tdB [1] 4).map (·.2)
#guard (bddIsectBURef buA [1] buB [1]).map (·.2) == (bddIsectBU buA [1] buB [1] 3).map (·.2)
-- the two-stage search: `firstMatch = 1`, then the first common position 3
#guard matchPos [5, 1, 7, 1] [2, 9, 2, 2] (1, 2) == some 3 && matchPos [5, 1] [2, 9] (1, 2) == none &&
  matchPos [5, 6] [2, 2] (1, 2) == none

example : ∃ R F m, bddIsectTDRef tdA [1] tdB [1] = some (R, F, m) ∧
    (∀ syms t, accepts (absTD syms R F) t = (accepts (absTD syms tdA [1]) t && accepts (absTD syms tdB [1]) t)) ∧
    m.map Prod.snd = List.range m.length := bddIsectTDRef_lang tdA [1] tdB [1] arityA arityB

example : ∃ R F m, bddIsectBURef buA [1] buB [1] = some (R, F, m) ∧
    (∀ syms t, accepts (absBU syms R F) t = (accepts (absBU syms buA [1]) t && accepts (absBU syms buB [1]) t)) ∧
    m.map Prod.snd = List.range m.length := bddIsectBURef_lang [1] [1] okA okB

/-! the runs with the fuel 10: only the loops are evaluated (`bddIsectTDFrom_eq_loop`, `bddIsectBUFrom_eq_loop`) -/

theorem tdRun : (bddIsectTD tdA [1] tdB [1] 10).map (·.2.2) = some [((1, 1), 0), ((1, 2), 1), ((0, 0), 2), ((0, 1), 3)] := by
  rw [bddIsectTD, bddIsectTDFrom_eq_loop, Option.map_map]; decide +kernel

theorem tdRun7 :
    (bddIsectTDFrom 7 tdA [1] tdB [1] 10).map (·.2.2) = some [((1, 1), 7), ((1, 2), 8), ((0, 0), 9), ((0, 1), 10)] := by
  rw [bddIsectTDFrom_eq_loop, Option.map_map]; decide +kernel

theorem buRun : (bddIsectBU buA [1] buB [1] 10).map (·.2.2) = some [((0, 0), 0), ((1, 1), 1), ((1, 2), 2)] := by
  rw [bddIsectBU, bddIsectBUFrom_eq_loop 0 [1] [1] okA okB, Option.map_map]; decide +kernel

/-- a function of the translation map of a run, from the map -/
theorem map_of_run {α β γ : Type} {o : Option (α × β × PMap)} {m : PMap} (g : PMap → γ) (h : o.map (·.2.2) = some m) :
    o.map (fun r => g r.2.2) = some (g m) := by
  rw [← Option.map_some, ← h, Option.map_map]
  rfl

example : (bddIsectTD tdA [1] tdB [1] 10).isSome = true ∧ (bddIsectBU buA [1] buB [1] 10).isSome = true ∧
    (bddIsectTDFrom 7 tdA [1] tdB [1] 10).isSome = true := ⟨Option.isSome_of_map tdRun, Option.isSome_of_map buRun, Option.isSome_of_map tdRun7⟩

example (t : Tree) : ∃ R F m, bddIsectTD tdA [1] tdB [1] 10 = some (R, F, m) ∧
    accepts (absTD syms R F) t = (accepts (absTD syms tdA [1]) t && accepts (absTD syms tdB [1]) t) := by
  cases h : bddIsectTD tdA [1] tdB [1] 10 with
  | none => have := Option.isSome_of_map tdRun; rw [h] at this; cases this
  | some r => exact ⟨r.1, r.2.1, r.2.2, rfl, bddIsectTD_lang h arityA arityB syms t⟩

example (t : Tree) : ∃ R F m, bddIsectBU buA [1] buB [1] 10 = some (R, F, m) ∧
    accepts (absBU syms R F) t = (accepts (absBU syms buA [1]) t && accepts (absBU syms buB [1]) t) := by
  cases h : bddIsectBU buA [1] buB [1] 10 with
  | none => have := Option.isSome_of_map buRun; rw [h] at this; cases this
  | some r => exact ⟨r.1, r.2.1, r.2.2, rfl, bddIsectBU_lang h syms t⟩

example : (bddIsectTD tdA [1] tdB [1] 10).map (·.2.2.map Prod.snd) = some [0, 1, 2, 3] ∧
    (bddIsectTDFrom 7 tdA [1] tdB [1] 10).map (·.2.2.map Prod.snd) = some [7, 8, 9, 10] :=
  ⟨map_of_run (List.map Prod.snd) tdRun, map_of_run (List.map Prod.snd) tdRun7⟩

example : (apply2S leafBU ⟨[], [], 0⟩ (buA.get []) (buB.get [])).2 =
    apply2 (prodS (lookupF (apply2S leafBU ⟨[], [], 0⟩ (buA.get []) (buB.get [])).1.map)) (buA.get []) (buB.get []) :=
  (apply2S_spec leafSpecBU 0 _ _ _ (good_init 0)).val

end BddIsectEx

end BddIsect
end Vata
