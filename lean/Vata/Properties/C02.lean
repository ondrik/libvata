import Vata.Lang
import Vata.Isect
import Vata.Proofs.Rename
import Vata.Proofs.IsectModel
import Vata.Proofs.PropAux
import Vata.Proofs.UnionModel
import Vata.Proofs.IsectBUTotal
import Vata.Properties.RefTotal
/-!
# C02 – Union and intersection of explicit tree automata have exact language semantics

> For any explicit tree automata A and B, Union and (for operands with disjoint state sets) UnionDisjointStates return
> an automaton accepting exactly L(A) ∪ L(B), and Intersection and IntersectionBU return automata accepting exactly
> L(A) ∩ L(B).  The state-translation maps they report name, for every state of the result, the operand state or state
> pair it stands for, and the operands themselves are left unchanged.

## How the statement is read into the model

* **Specification (L0).**  Languages are given by `accepts` (`Vata/Basic.lean`); "accepts exactly `L(A) ∪ L(B)`" is
  `∀ t, accepts U t = (accepts A t || accepts B t)`, "exactly `L(A) ∩ L(B)`" is `∀ t, accepts P t = (accepts A t && accepts B t)`.
* **Models of the code.**
  - `unionWith fA fB A B` (`Vata/Ref.lean`) is `Union` *given the two translation maps `fA`, `fB` it reports*: both
    operands are re-indexed (`reindex`, the model of `ReindexStates`) into one automaton.  The C++ builds the maps with
    a shared counter, so they are injective on the states of their operand and have disjoint images; these three facts
    are explicit hypotheses of `C02_union_exact` (the check validates them on the reported maps).
  - `unionModel A B mL mR` (`Vata/UnionModel.lean`) is `Union` *including the construction of the maps*: the weak
    translators (`weakTr`) over the caller's – possibly pre-filled – maps `mL`, `mR`, and the ONE shared counter that
    starts above the largest number present in the two maps.  `unionModelOrd` takes the visiting orders of
    `ReindexStates` (hash order in the C++) as parameters.  `unionModelOld` is the code before the repair of finding
    D11 (counter from 0).
  - `unionDisjoint A B` is `UnionDisjointStates` (rule lists and final sets are concatenated); the property restricts
    it to operands with disjoint state sets, which is the hypothesis of `C02_unionDisjoint_exact`.
  - `isectTD A B fuel` (`Vata/IsectModel.lean`) mirrors `Intersection`: translation map filled in discovery order with
    fresh numbers, LIFO work-list started with `F_A × F_B`; it returns the product and the `ProductTranslMap`
    (`none` = too little fuel).  `isectTDRef` runs it with the fuel `|Q_A|·|Q_B|+1`.
  - `isectBU A B fuel` (`Vata/IsectBU.lean`) mirrors `IntersectionBU`: leaf phase, stack of map entries, `newStates`,
    tentative insertion / erasure of the parent pair with the self-loop guard; fresh numbers in discovery order.  It
    returns after the Boolean check `buCertB` (injective numbering, bottom-up closed domain, rules and final states are
    those of the product on the domain), which provably never fails; `isectBURef` runs it with the fuel `isectBUFuel`.
    `prodBU A B D m` is the product on a bottom-up closed set `D` of pairs, `isect_bu_cert` its principle.
  - `prodOn A B D m` (`Vata/Isect.lean`) is the product restricted to a set `D` of state pairs numbered by `m`;
    `isect_cert` is the principle every product construction rests on; `isectFull` is the product on all pairs.
* **Reference.**  `isUnionM`, `isIsectM` (`Vata/Lang.lean`) decide "is exactly the union / intersection" for the
  automata the real operations return (all four operations, including `IntersectionBU`).
* "The operands are left unchanged" is a statement about C++ object state; the models of this file are pure functions,
  so it has no counterpart here (it is checked by re-reading the operands after the call).  Its counterpart is in the
  heap model of C11: `Union` / `ReindexStates` write into the new object only (`C11_ext_reindex_into`),
  `UnionDisjointStates` shares cluster nodes with both operands and no later write to any of the three objects shows
  through another (`C11_ext_sharing_results`, `C11_ext_result_survives` in `Vata/Properties/C11_Extended.lean`).
* **The classes behind the maps** (`Vata/Properties/Util_Glue.lean`): `TranslatorWeak` with the library's counter functor
  is the lookup-or-create `weakTr` of `unionModel` (`Util_Glue_weak_is_unionModel`), and the helpers that turn the reported
  maps into the state dictionary of the result are modelled as coded (`Util_Glue_unionDict`, `Util_Glue_productDict`).
-/
namespace Vata.Props

/-! ### union -/

/-- `Union` with the translation maps it reports: exactly the union of the languages, provided each map is injective
on the states of its operand and the two images are disjoint (what the shared counter of the C++ guarantees) -/
theorem C02_union_exact (fA fB : Nat → Nat) (A B : TA) (hA : InjOnStates fA A) (hB : InjOnStates fB B)
    (hdis : ∀ q q', q ∈ A.states → q' ∈ B.states → fA q ≠ fB q') (t : Tree) :
    accepts (unionWith fA fB A B) t = (accepts A t || accepts B t) := unionWith_lang fA fB A B hA hB hdis t

example : InjOnStates (2 * ·) RenameEx.exA ∧ InjOnStates (2 * · + 1) RenameEx.exB ∧
    ∀ q q', q ∈ RenameEx.exA.states → q' ∈ RenameEx.exB.states → (2 * ·) q ≠ (2 * · + 1) q' := by
  refine ⟨?_, ?_, ?_⟩
  · intro q q' _ _ h; simp only at h; omega
  · intro q q' _ _ h; simp only at h; omega
  · intro q q' _ _ h; simp only at h; omega
-- overlapping state numbers of the operands (`1` is a state of both) are allowed
example : 1 ∈ RenameEx.exA.states ∧ 1 ∈ RenameEx.exB.states := by decide

/-- the translation maps name every state of the result: it is the image of a state of `A` under the first map or of a
state of `B` under the second -/
theorem C02_union_translation (fA fB : Nat → Nat) (A B : TA) (q : Nat) :
    q ∈ (unionWith fA fB A B).states ↔ (∃ p, p ∈ A.states ∧ q = fA p) ∨ (∃ p, p ∈ B.states ∧ q = fB p) :=
  PropAux.mem_states_unionWith

example : (unionWith (2 * ·) (2 * · + 1) RenameEx.exA RenameEx.exB).states = [2, 4, 3] := by decide

/-- `UnionDisjointStates` on operands with disjoint state sets: exactly the union.  The hypothesis is the precondition
in the property statement; without it the result may accept more (`RenameEx`, last union example) -/
theorem C02_unionDisjoint_exact (A B : TA) (hdis : ∀ q, q ∈ A.states → q ∉ B.states) (t : Tree) :
    accepts (unionDisjoint A B) t = (accepts A t || accepts B t) := unionDisjoint_lang A B hdis t

example : ∀ q, q ∈ (reindex (· + 10) RenameEx.exA).states → q ∉ RenameEx.exB.states := by decide

/-! ### union: the model of the code with its translators and the shared counter -/

/-- `Union` (model `unionModel`: weak translators over the caller's maps, one counter starting above all numbers in the two
maps): when the pre-filled maps are injective with disjoint images – both empty, or the maps a previous `Union`
returned – the result accepts exactly the union, it IS `unionWith` of the two final maps, and these are injective on
the states of their operand with disjoint images.  This discharges the three hypotheses of `C02_union_exact` -/
theorem C02_union_model_exact (A B : TA) (mL mR : SMap) (hL : Um.Inj mL) (hR : Um.Inj mR) (hD : Um.Disj mL mR) :
    (∀ t, accepts (unionModel A B mL mR).1 t = (accepts A t || accepts B t)) ∧
    (unionModel A B mL mR).1 = unionWith (applyMap (unionModel A B mL mR).2.1) (applyMap (unionModel A B mL mR).2.2) A B ∧
    InjOnStates (applyMap (unionModel A B mL mR).2.1) A ∧ InjOnStates (applyMap (unionModel A B mL mR).2.2) B ∧
    (∀ q q', q ∈ A.states → q' ∈ B.states →
      applyMap (unionModel A B mL mR).2.1 q ≠ applyMap (unionModel A B mL mR).2.2 q') :=
  ⟨unionModel_lang A B mL mR hL hR hD, rfl, unionModel_maps_ok A B mL mR hL hR hD⟩

example : Um.Inj [(5, 0), (6, 1)] ∧ Um.Inj [(7, 3)] ∧ Um.Disj [(5, 0), (6, 1)] [(7, 3)] :=
  ⟨smapInjB_sound (by decide), smapInjB_sound (by decide), smapDisjB_sound (by decide)⟩
example : (unionModel UnionEx.exA UnionEx.exB9 [(5, 0), (6, 1)] [(7, 3)]).2 = ([(5, 0), (6, 1)], [(7, 3), (9, 4)]) := by decide

/-- the call without caller-supplied maps -/
theorem C02_union_model_fresh (A B : TA) (t : Tree) :
    accepts (unionModel A B [] []).1 t = (accepts A t || accepts B t) := unionModel_lang_empty A B t

example : (unionModel UnionEx.exA UnionEx.exB9 [] []).2 = ([(6, 0), (5, 1)], [(9, 2)]) := by decide

/-- the reported maps: they extend the pre-filled ones, are defined on every state of their operand (no hypothesis),
and stay injective with disjoint images as association lists, so that they can be passed to the next `Union` -/
theorem C02_union_model_maps (A B : TA) (mL mR : SMap) :
    (Um.Ext mL (unionModel A B mL mR).2.1 ∧ Um.Ext mR (unionModel A B mL mR).2.2) ∧
    ((∀ q, q ∈ A.states → ∃ n, (unionModel A B mL mR).2.1.lookup q = some n) ∧
      (∀ q, q ∈ B.states → ∃ n, (unionModel A B mL mR).2.2.lookup q = some n)) ∧
    (Um.Inj mL → Um.Inj mR → Um.Disj mL mR →
      Um.Inj (unionModel A B mL mR).2.1 ∧ Um.Inj (unionModel A B mL mR).2.2 ∧
      Um.Disj (unionModel A B mL mR).2.1 (unionModel A B mL mR).2.2) :=
  ⟨unionModel_maps_ext A B mL mR, unionModel_maps_total A B mL mR, unionModel_maps_inj A B mL mR⟩

/-- chaining two unions through the maps -/
theorem C02_union_model_chain (A B C D : TA) (mL mR : SMap) (hL : Um.Inj mL) (hR : Um.Inj mR) (hD : Um.Disj mL mR) (t : Tree) :
    accepts (unionModel C D (unionModel A B mL mR).2.1 (unionModel A B mL mR).2.2).1 t = (accepts C t || accepts D t) := by
  -- the maps one `Union` returns satisfy the precondition of the next
  obtain ⟨h1, h2, h3⟩ := unionModel_maps_inj A B mL mR hL hR hD
  exact unionModel_lang C D _ _ h1 h2 h3 t

/-- none of this depends on the order in which `ReindexStates` visits the states (hash order in the C++): the language
theorem holds for all visiting orders that cover the states of the operands -/
theorem C02_union_model_any_order (oA oB : List Nat) (A B : TA) (mL mR : SMap)
    (hoA : ∀ q, q ∈ A.states → q ∈ oA) (hoB : ∀ q, q ∈ B.states → q ∈ oB)
    (hL : Um.Inj mL) (hR : Um.Inj mR) (hD : Um.Disj mL mR) (t : Tree) :
    accepts (unionModelOrd oA oB A B mL mR).1 t = (accepts A t || accepts B t) :=
  unionModelOrd_lang oA oB A B mL mR hoA hoB hL hR hD t

example : ∀ q, q ∈ UnionEx.exA.states → q ∈ [5, 6] := by decide

/-- the code BEFORE the repair (finding D11, counter starting at 0 whatever the maps contain) is wrong on pre-filled maps
that satisfy the precondition: it merges the states `5` of `A` and `9` of `B`, and with `A = {h(a)}`, `B = {b}` its result
accepts `a` and `h(b)`, which are in neither language -/
theorem C02_union_old_counter_wrong :
    applyMap (unionModelOld UnionEx.exA5 UnionEx.exB9 [(5, 0)] []).2.1 5 =
      applyMap (unionModelOld UnionEx.exA5 UnionEx.exB9 [(5, 0)] []).2.2 9 ∧
    accepts (unionModelOld UnionEx.exA UnionEx.exB9 [(5, 0), (6, 1)] []).1 UnionEx.tA = true ∧
    accepts UnionEx.exA UnionEx.tA = false ∧ accepts UnionEx.exB9 UnionEx.tA = false ∧
    (∀ t, accepts (unionModel UnionEx.exA UnionEx.exB9 [(5, 0), (6, 1)] []).1 t =
      (accepts UnionEx.exA t || accepts UnionEx.exB9 t)) :=
  ⟨UnionEx.old_merges.2, UnionEx.old_lang_fails.1, UnionEx.old_lang_fails.2.1, UnionEx.old_lang_fails.2.2.1,
    unionModel_lang _ _ _ _ (smapInjB_sound (by decide)) Um.inj_nil (Um.disj_nil_right _)⟩

/-! ### intersection -/

/-- `Intersection` (top-down product): whenever the model returns, the product accepts exactly the intersection; with
the fuel `isectFuel` it always returns -/
theorem C02_intersection_exact (A B : TA) :
    (∀ fuel P m, isectTD A B fuel = some (P, m) → ∀ t, accepts P t = (accepts A t && accepts B t)) ∧
    (∃ P m, isectTDRef A B = some (P, m) ∧ ∀ t, accepts P t = (accepts A t && accepts B t)) :=
  ⟨fun _ _ _ h => isectTD_lang h, isectTDRef_lang A B⟩

example : (isectTD IsectEx.exA IsectEx.exB 4).map (fun r => (r.1.final, r.2)) =
    some ([0], [((1, 1), 0), ((0, 0), 1), ((0, 1), 2), ((1, 2), 3)]) := by decide +kernel

/-- the reported `ProductTranslMap` names the pair every state of the product stands for: it is injective on its
domain, the domain contains all pairs of final states and is closed under children of matching rules, the result is
(as a set of rules and of final states) the product on that domain numbered by the map, and every state of the result
is the number of a pair of the domain -/
theorem C02_intersection_translation (A B : TA) (fuel : Nat) (P : TA) (m : PMap) (h : isectTD A B fuel = some (P, m)) :
    InjOn (lookupF m) m.dom ∧ Closed A B m.dom ∧ (∀ p, p ∈ A.final → ∀ p', p' ∈ B.final → (p, p') ∈ m.dom) ∧
    (∀ ρ, ρ ∈ P.rules ↔ ρ ∈ (prodOn A B m.dom (lookupF m)).rules) ∧
    (∀ x, x ∈ P.final ↔ x ∈ (prodOn A B m.dom (lookupF m)).final) ∧
    (∀ q, q ∈ P.states → ∃ p, p ∈ m.dom ∧ q = lookupF m p) :=
  have hs := Isx.isectTD_spec h
  ⟨hs.1.injOn, hs.2.1, hs.2.2.1, hs.2.2.2.1, hs.2.2.2.2, fun _ hq => PropAux.isectTD_states h hq⟩

example : (isectTD IsectEx.exA IsectEx.exB 4).isSome = true := by decide +kernel

/-- the principle behind every product construction (`Intersection`, and the full product): a product restricted to a
set `D` of pairs that is closed under children of matching rules and contains `F_A × F_B`, numbered injectively on `D`,
accepts exactly the intersection -/
theorem C02_product_certificate (A B : TA) (D : List (Nat × Nat)) (m : Nat × Nat → Nat) (hc : Closed A B D)
    (hinj : InjOn m D) (hF : ∀ p, p ∈ A.final → ∀ p', p' ∈ B.final → (p, p') ∈ D) (t : Tree) :
    accepts (prodOn A B D m) t = (accepts A t && accepts B t) := by
  rw [Bool.eq_iff_iff, Bool.and_eq_true]; exact isect_cert A B D m hc hinj hF t

example : isClosedB IsectEx.exA IsectEx.exB [(1, 1), (0, 0), (0, 1), (1, 2)] = true ∧
    isClosedB IsectEx.exA IsectEx.exB [(1, 1)] = false := by decide
example : Closed IsectEx.exA IsectEx.exB [(1, 1), (0, 0), (0, 1), (1, 2)] := Isx.isClosedB_iff.mp (by decide)

/-- the product on all pairs of states accepts exactly the intersection, and agrees with the top-down product -/
theorem C02_full_product_exact (A B : TA) :
    (∀ t, accepts (isectFull A B) t = (accepts A t && accepts B t)) ∧
    (∀ fuel P m, isectTD A B fuel = some (P, m) → ∀ t, accepts P t = accepts (isectFull A B) t) :=
  ⟨isectFull_lang A B, fun _ _ _ h => isectTD_eq_isectFull h⟩

example : accepts (isectFull IsectEx.exA IsectEx.exB) IsectEx.exT = true ∧
    accepts (isectFull IsectEx.exA IsectEx.exB) IsectEx.exT' = false := by decide +kernel

/-! ### intersection, bottom-up (`IntersectionBU`) -/

/-- `IntersectionBU` (bottom-up product): whenever the model returns, the product accepts exactly the intersection; with
the fuel `isectBUFuel` it always returns -/
theorem C02_intersectionBU_exact (A B : TA) :
    (∀ fuel P m, isectBU A B fuel = some (P, m) → ∀ t, accepts P t = (accepts A t && accepts B t)) ∧
    (∃ P m, isectBURef A B = some (P, m) ∧ ∀ t, accepts P t = (accepts A t && accepts B t)) :=
  ⟨fun _ _ _ h => isectBU_lang h, isectBURef_lang A B⟩

example : (isectBU IsectEx.exA IsectEx.exB 20).map (fun r => (r.1.final, r.2)) =
    some ([1], [((0, 0), 0), ((1, 1), 1), ((1, 2), 2)]) := Option.map_of_map IsectBUEx.exAB_run (·.2)

/-- the reported `ProductTranslMap` of `IntersectionBU`: injective on its domain; the domain is bottom-up closed and
contains every pair of states the operands reach on a common tree; the result is (as a set of rules and of final
states) the product on that domain numbered by the map -/
theorem C02_intersectionBU_translation (A B : TA) (fuel : Nat) (P : TA) (m : PMap) (h : isectBU A B fuel = some (P, m)) :
    InjOn (lookupF m) m.dom ∧ BUClosed A B m.dom ∧
    (∀ t p q, p ∈ reach A t → q ∈ reach B t → (p, q) ∈ m.dom) ∧
    (∀ ρ, ρ ∈ P.rules ↔ ρ ∈ (prodBU A B m.dom (lookupF m)).rules) ∧
    (∀ x, x ∈ P.final ↔ x ∈ (prodBU A B m.dom (lookupF m)).final) :=
  have hs := isectBU_spec h
  ⟨hs.1, hs.2.1, fun t p q hp hq => isectBU_dom_complete h t p q hp hq, hs.2.2.1, hs.2.2.2⟩

example : (isectBU IsectBUEx.exS IsectBUEx.exL 20).isSome = true := Option.isSome_of_map IsectBUEx.exSL_run

/-- the final certificate check of the model can never fail: `none` means "fuel exhausted" and nothing else -/
theorem C02_intersectionBU_check_never_fails (A B : TA) (fuel : Nat) :
    isectBU A B fuel = none ↔ buLoop A B fuel (buLeafPhase A B (buLeafPairs A B) [] [] [] []).1
      (buLeafPhase A B (buLeafPairs A B) [] [] [] []).2.1 []
      (buLeafPhase A B (buLeafPairs A B) [] [] [] []).2.2.1 (buLeafPhase A B (buLeafPairs A B) [] [] [] []).2.2.2 = none := by
  rw [isectBU_eq_loop, Option.map_eq_none_iff]

example : isectBU IsectEx.exA IsectEx.exB 3 = none := by decide +kernel

/-- the principle behind the bottom-up product: the product on a BOTTOM-UP closed set `D` of pairs (all product rules
whose children pairs are in `D`; final = pairs of `D` with two final components), numbered injectively on `D`, accepts
exactly the intersection.  No condition on final states is needed: every pair reached on a common tree is in `D` -/
theorem C02_bu_product_certificate (A B : TA) (D : List (Nat × Nat)) (m : Nat × Nat → Nat) (hc : BUClosed A B D)
    (hinj : InjOn m D) (t : Tree) : accepts (prodBU A B D m) t = (accepts A t && accepts B t) := by
  rw [Bool.eq_iff_iff, Bool.and_eq_true]; exact isect_bu_cert A B D m hc hinj t

example : BUClosed IsectEx.exA IsectEx.exB [(0, 0), (1, 1), (1, 2)] := Ibu.buClosedB_iff.mp (by decide)
-- … a set that is not closed in the top-down sense of `C02_product_certificate`
example : isClosedB IsectEx.exA IsectEx.exB [(0, 0), (1, 1), (1, 2)] = false := by decide

/-- the bottom-up and the top-down product agree on every tree -/
theorem C02_intersection_models_agree (A B : TA) (fuel fuel' : Nat) (P P' : TA) (m m' : PMap)
    (h : isectBU A B fuel = some (P, m)) (h' : isectTD A B fuel' = some (P', m')) (t : Tree) :
    accepts P t = accepts P' t := isectBU_eq_isectTD h h' t

example : (isectBU IsectEx.exA IsectEx.exB 20).isSome = true ∧ (isectTD IsectEx.exA IsectEx.exB 4).isSome = true :=
  ⟨Option.isSome_of_map IsectBUEx.exAB_run, by decide +kernel⟩

/-! ### the reference the results of all four operations are compared with -/

/-- every verdict of the reference checkers "is the union" / "is the intersection" is exact -/
theorem C02_reference_checkers_exact (R A B : TA) (fuel : Nat) (b : Bool) :
    (isUnionM R A B fuel = some b → (b = true ↔ ∀ t, accepts R t = (accepts A t || accepts B t))) ∧
    (isIsectM R A B fuel = some b → (b = true ↔ ∀ t, accepts R t = (accepts A t && accepts B t))) :=
  ⟨isUnionM_iff R A B fuel b, isIsectM_iff R A B fuel b⟩

example : isUnionM (unionWith (2 * ·) (2 * · + 1) RenameEx.exA RenameEx.exB) RenameEx.exA RenameEx.exB 10 = some true := by
  decide +kernel
example : isIsectM (isectFull IsectEx.exA IsectEx.exB) IsectEx.exA IsectEx.exB 10 = some true := IsectEx.isectFull_isIsect
example : isIsectM IsectEx.exA IsectEx.exA IsectEx.exB 10 = some false := by decide +kernel

/-! ### the models pass the reference, and the reference answers -/

/-- what the correspondence check relies on, in one statement: above the explicit fuel bound of `C02_reference_total` the
reference checkers DO answer, and on the results of the models of all four operations – `Union` (fresh maps),
`UnionDisjointStates` (state-disjoint operands), `Intersection`, `IntersectionBU` – they answer `true`.  So a `false` or a
disagreement observed on an automaton the real operation returned is a difference between code and model, never an
artefact of the reference -/
theorem C02_models_pass_reference (A B : TA) (fuel : Nat) :
    (fuelBoundM [(unionModel A B [] []).1, A, B] ≤ fuel → isUnionM (unionModel A B [] []).1 A B fuel = some true) ∧
    ((∀ q, q ∈ A.states → q ∉ B.states) → fuelBoundM [unionDisjoint A B, A, B] ≤ fuel →
      isUnionM (unionDisjoint A B) A B fuel = some true) ∧
    (∀ f P m, isectTD A B f = some (P, m) → fuelBoundM [P, A, B] ≤ fuel → isIsectM P A B fuel = some true) ∧
    (∀ f P m, isectBU A B f = some (P, m) → fuelBoundM [P, A, B] ≤ fuel → isIsectM P A B fuel = some true) :=
  -- above the bound the reference answers and is exact (`C02_reference_total`): a result with the right language gets `some true`
  ⟨fun hf => (Total.verdicts (C02_reference_total _ A B fuel hf).1).1 (unionModel_lang_empty A B),
   fun hdis hf => (Total.verdicts (C02_reference_total _ A B fuel hf).1).1 (unionDisjoint_lang A B hdis),
   fun _ _ _ h hf => (Total.verdicts (C02_reference_total _ A B fuel hf).2).1 (isectTD_lang h),
   fun _ _ _ h hf => (Total.verdicts (C02_reference_total _ A B fuel hf).2).1 (isectBU_lang h)⟩

example : fuelBoundM [(unionModel UnionEx.exA UnionEx.exB9 [] []).1, UnionEx.exA, UnionEx.exB9] ≤ 64 ∧
    isUnionM (unionModel UnionEx.exA UnionEx.exB9 [] []).1 UnionEx.exA UnionEx.exB9 64 = some true := ⟨by decide +kernel, by decide +kernel⟩

/-!
## closed since the last refresh of this file

* Totality of the reference checkers `isUnionM` / `isIsectM` (they were only known to be exact): `C02_reference_total`
  (`Vata/Properties/RefTotal.lean`; bound `fuelBoundM [R, A, B] ≤ 2^(|Q_R|+|Q_A|+|Q_B|)`), composed with the models in
  `C02_models_pass_reference`.
* "The operands are left unchanged: no counterpart in the pure models" – the counterpart now exists in the extended heap
  model of C11 (`C11_ext_reindex_into`, `C11_ext_sharing_results`, `C11_ext_result_survives`); see the header.
* The translators and dictionary helpers around the maps are modelled as coded and checked against the real classes
  (`Util_Glue_weak_is_unionModel`, `Util_Glue_weak_injective`, `Util_Glue_unionDict`, `Util_Glue_productDict`).

## not yet proved

* `Union` / `IntersectionBU` called with the SAME map object for both operands, or `IntersectionBU` / `Intersection`
  called with a pre-filled `ProductTranslMap`, are not modelled (`unionModel` takes two separate maps, the products start
  from the empty map).  The precondition of `C02_union_model_exact` (pre-filled maps injective with disjoint images) is
  what a caller chaining unions supplies; the C++ does not check it.
* The iteration orders of the hash containers of the C++ are replaced by list orders in `unionModel`, `isectTD`,
  `isectBU`; the theorems do not depend on them (`C02_union_model_any_order`; the products are characterised as sets),
  but the concrete numbers in the maps do.
* **From the maps to the names of the dump.**  The language statements are about the automaton; what the command line
  prints goes through `CreateUnionStringToStateMap` / `CreateProductStringToStateMap`.  The union names never collide
  (`Util_Glue_unionNames_injective`), the product names `[l_1|r_2]` DO when state names contain `_1|`
  (`Util_Glue_productNames_collide`, a finding: the dumped intersection can have a larger language than the computed
  automaton); they are injective when one operand's names are free of `|` (`Util_Glue_productNames_injective`).  No
  theorem composes `isectTD` with `productDict` and the dump.
* The totality bound of the reference is an exponential worst-case bound; for three operands of 9 states each it is above
  the fuel of the compiled driver (`driver_fuel_worst`), where the driver would report `error fuel`, never a verdict.
-/
end Vata.Props
