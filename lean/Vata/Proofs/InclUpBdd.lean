import Vata.InclUpBdd
import Vata.Proofs.InclUp
import Vata.Proofs.InclUpInv
/-!
# The BDD bottom-up upward inclusion model (property C07)

The algorithm before the repair answers `true` on automata with `¬ Incl A B`: it combines macro-states of `B` reached by
DIFFERENT trees (two counterexamples); it is exact when every rule of `A` has at most one child.  Every verdict of the
repaired, certifying model is the truth about `Incl A B`, and the exploration itself (`InclUpBdd.run`, no certificate
involved) always passes the final check: `none` only when the fuel is exhausted.

Termination (a fuel bound for `run`) and completeness are in `Vata/Proofs/InclUpBddTotal.lean`.
-/
namespace Vata
open InclUp InclUpBdd

namespace InclUpBddEx

/-- `a → 1`, `b → 1`, `g(1,1) → 2` final: all four trees `g(x,y)` -/
def cexA : TA := ⟨[⟨0, [], 1⟩, ⟨1, [], 1⟩, ⟨2, [1, 1], 2⟩], [2]⟩
/-- `a → 3`, `b → 4`, `g(3,3) → 9`, `g(4,4) → 9` final: only `g(a,a)` and `g(b,b)` -/
def cexB : TA := ⟨[⟨0, [], 3⟩, ⟨1, [], 4⟩, ⟨2, [3, 3], 9⟩, ⟨2, [4, 4], 9⟩], [9]⟩
/-- `g(a,b)` -/
def cexW : Tree := .node 2 [.node 0 [], .node 1 []]

end InclUpBddEx

open InclUpBddEx in
/-- The old algorithm processes `(1,{3})`: both children of `g(1,1)` hold the processed state, so both get `{3}` and
`(2,{9})` is cached; then `(1,{4})`: `(2,{9})` again, implied.  `g(a,b)` (macro-states `{3}` and `{4}`, post `∅`) is
never looked at. -/
theorem inclUpBddOld_counterexample :
    inclUpBddOld cexA cexB 10 = some true ∧ ¬ Incl cexA cexB := by
  refine ⟨by decide +kernel, ?_⟩
  intro h
  have h1 : accepts cexA cexW = true := by decide +kernel
  have h2 : accepts cexB cexW = false := by decide +kernel
  rw [h cexW h1] at h2
  cases h2

namespace InclUpBddEx

/-- `a → 1`, `b → 1`, `c → 5`, `d → 5`, `h(1,5) → 2` final: the four trees `h(a|b, c|d)` -/
def cexA2 : TA := ⟨[⟨0, [], 1⟩, ⟨1, [], 1⟩, ⟨2, [], 5⟩, ⟨3, [], 5⟩, ⟨4, [1, 5], 2⟩], [2]⟩
/-- `a → 3`, `b → 4`, `c → 6`, `d → 7`, `h(3,6) → 9`, `h(4,7) → 9` final: only `h(a,c)` and `h(b,d)` -/
def cexB2 : TA := ⟨[⟨0, [], 3⟩, ⟨1, [], 4⟩, ⟨2, [], 6⟩, ⟨3, [], 7⟩, ⟨4, [3, 6], 9⟩, ⟨4, [4, 7], 9⟩], [9]⟩
/-- `h(a,d)` -/
def cexW2 : Tree := .node 4 [.node 0 [], .node 3 []]

end InclUpBddEx

open InclUpBddEx in
/-- A second counterexample, in which the UNION is what goes wrong: with `(1,{3})` processed the other child gets
`{6} ∪ {7}` and `h({3},{6,7}) = {9}`; likewise for `(1,{4})`, `(5,{6})`, `(5,{7})`.  The choice `{3}`, `{7}` (the tree
`h(a,d)`, post `∅`) is never formed. -/
theorem inclUpBddOld_counterexample_union :
    inclUpBddOld cexA2 cexB2 10 = some true ∧ ¬ Incl cexA2 cexB2 := by
  refine ⟨by decide +kernel, ?_⟩
  intro h
  have h1 : accepts cexA2 cexW2 = true := by decide +kernel
  have h2 : accepts cexB2 cexW2 = false := by decide +kernel
  rw [h cexW2 h1] at h2
  cases h2

theorem inclUpBdd_eq (A B : TA) (fuel : Nat) :
    inclUpBdd A B fuel = certify A B (upCertB A B) (fun _ w => w) (InclUpBdd.run A B fuel) := by
  unfold inclUpBdd
  cases InclUpBdd.run A B fuel with
  | none => rfl
  | some r => cases r <;> rfl

theorem inclUpBdd_iff {A B : TA} {fuel : Nat} {b : Bool} {c : Cert} (h : inclUpBdd A B fuel = some (b, c)) :
    (b = true ↔ Incl A B) :=
  InclDown.finish_iff (fun _ => upCertB_incl) (inclUpBdd_eq A B fuel ▸ h)

theorem inclUpBdd_true {A B : TA} {fuel : Nat} {c : Cert} (h : inclUpBdd A B fuel = some (true, c)) : Incl A B :=
  (inclUpBdd_iff h).mp rfl

theorem inclUpBdd_false {A B : TA} {fuel : Nat} {c : Cert} (h : inclUpBdd A B fuel = some (false, c)) :
    ¬ Incl A B :=
  fun hi => nomatch (inclUpBdd_iff h).mpr hi

theorem inclUpBdd_cert {A B : TA} {fuel : Nat} {b : Bool} {c : Cert} (h : inclUpBdd A B fuel = some (b, c)) :
    match c with
    | .closed X => b = true ∧ UpCert A B X ∧ NoBad A B X
    | .witness w => b = false ∧ accepts A w = true ∧ accepts B w = false := by
  have := InclDown.finish_cert (inclUpBdd_eq A B fuel ▸ h)
  cases c with
  | closed X => exact ⟨this.1, upCertB_sound this.2⟩
  | witness w => exact this

/-- the model of `CheckInclusion` (operands sanitised first) -/
theorem checkInclUpBdd_iff {A B : TA} {fuel : Nat} {b : Bool} {c : Cert}
    (h : checkInclUpBdd A B fuel = some (b, c)) : (b = true ↔ Incl A B) :=
  (inclUpBdd_iff h).trans (incl_removeUseless A B)

/-! The exploration itself: a finished run always passes the final check.  Not needed for `inclUpBdd_iff`
(certify-then-trust), but shows that the repaired algorithm proper is right.  The lemmas are generic in the step `proc` so that they also serve the old step on automata
whose rules have at most one child (`inclUpBddOld_partial`).  The loops over rules, choices and tuples are
`List.foldlM` in `Res`, and the invariants go through `Sat.foldlM`, `Sat.foldlM_cover` of `Vata/Proofs/InclUpGen.lean`. -/

namespace InclUpBdd

/-- the functor on the leaf of the rule `ρ`, when `ρ` is a rule for the tuple `ks` -/
def upStep (A B : TA) (ks : List Nat) (Ss : List (List Nat)) (ts : List Tree) (st : St) (ρ : Rule) : Res St :=
  if ρ.kids == ks then fctor A B st ⟨ρ.parent, macroPost B ρ.sym Ss, .node ρ.sym ts⟩ else .ok st

theorem foreachUp_eq (A B : TA) (ks : List Nat) (Ss : List (List Nat)) (ts : List Tree) : ∀ (ρs : List Rule) (st : St),
    foreachUp A B ks Ss ts ρs st = ρs.foldlM (upStep A B ks Ss ts) st :=
  foldlM_unique (fun _ => rfl) fun ρ ρs st => by
    rw [foreachUp, upStep]
    by_cases hk : (ρ.kids == ks) = true
    · rw [if_pos hk, if_pos hk]
      generalize fctor A B st _ = r
      cases r <;> rfl
    · rw [if_neg hk, if_neg hk]; rfl

theorem procCombos_eq (A B : TA) (ks : List Nat) : ∀ (iss : List (List Item)) (st : St),
    procCombos A B ks iss st =
      iss.foldlM (fun st is => A.rules.foldlM (upStep A B ks (is.map (·.S)) (is.map (·.t))) st) st :=
  foldlM_unique (fun _ => rfl) fun is iss st => by
    rw [procCombos, foreachUp_eq]
    cases A.rules.foldlM (upStep A B ks (is.map (·.S)) (is.map (·.t))) st <;> rfl

theorem procTuples_eq (proc : Item → List Nat → St → Res St) (it : Item) : ∀ (Tl : List (List Nat)) (st : St),
    procTuples proc it Tl st = Tl.foldlM (fun st ks => proc it ks st) st :=
  foldlM_unique (fun _ => rfl) fun ks Tl st => by
    rw [procTuples]
    cases proc it ks st <;> rfl

theorem loop_cons (proc : Item → List Nat → St → Res St) (T : List (List Nat)) (n : Nat) (P : List Item) (it : Item)
    (rest : List Item) :
    loop proc T (n+1) ⟨P, it :: rest⟩ =
      match T.foldlM (fun st ks => proc it ks st) ⟨P, rest⟩ with
      | .error e => some (.error e)
      | .ok st' => loop proc T n st' := by
  rw [← procTuples_eq]; rfl

theorem runWith_eq (proc : TA → TA → Item → List Nat → St → Res St) (A B : TA) (fuel : Nat) :
    runWith proc A B fuel =
      match A.rules.foldlM (upStep A B [] [] []) ⟨[], []⟩ with
      | .error e => some (.error e)
      | .ok st => loop (proc A B) (tuplesOf A) fuel st := by
  rw [runWith, foreachUp_eq]; rfl

/-- an invariant of the state that every iteration of `while (workset.get(…))` restores holds at the end; `E` is what
every `return false` guarantees -/
theorem loop_sat {proc : Item → List Nat → St → Res St} {T : List (List Nat)} {I : St → Prop} {E : Nat × Tree → Prop}
    (hbody : ∀ P it rest, I ⟨P, it :: rest⟩ → Sat E I (T.foldlM (fun st ks => proc it ks st) ⟨P, rest⟩)) {n : Nat} :
    ∀ {st : St} {r : Res (List Item)}, I st → loop proc T n st = some r → Sat E (fun P => I ⟨P, []⟩) r := by
  induction n with
  | zero => exact fun _ h => nomatch h
  | succ n ih =>
    rintro ⟨P, W⟩ r hst h
    cases W with
    | nil => cases h; exact hst
    | cons it rest =>
      have h₀ := hbody P it rest hst
      rw [loop_cons] at h
      cases he : T.foldlM (fun st ks => proc it ks st) ⟨P, rest⟩ with
      | error e => rw [he] at h h₀; cases h; exact h₀
      | ok st' => rw [he] at h h₀; exact ih h₀ h

theorem runWith_sat {proc : TA → TA → Item → List Nat → St → Res St} {A B : TA} {I : St → Prop} {E : Nat × Tree → Prop}
    (hinit : Sat E I (A.rules.foldlM (upStep A B [] [] []) ⟨[], []⟩))
    (hbody : ∀ P it rest, I ⟨P, it :: rest⟩ →
      Sat E I ((tuplesOf A).foldlM (fun st ks => proc A B it ks st) ⟨P, rest⟩))
    {fuel : Nat} {r : Res (List Item)} (h : runWith proc A B fuel = some r) : Sat E (fun P => I ⟨P, []⟩) r := by
  rw [runWith_eq] at h
  split at h
  · next e he => rw [he] at hinit; cases h; exact hinit
  · next st he => rw [he] at hinit; exact loop_sat hbody hinit h

/-- the state read as a state of the explicit exploration: the notions of `Vata/Proofs/InclUpGen.lean` apply to it -/
def toSt (st : St) : InclUp.St := ⟨st.antichain, st.workset⟩

def WsubP (st : St) : Prop := ∀ i, i ∈ st.workset → i ∈ st.antichain

def Inv (A B : TA) (st : St) : Prop := WsubP st ∧ InclUp.Good A B st.antichain

/-- every pair of the antichain is still in the work-list (so it is during the first call, for the nullary tuple) -/
def PsubW (st : St) : Prop := ∀ i, i ∈ st.antichain → i ∈ st.workset

/-- what every step guarantees: the up-closure of the antichain grows, no pair becomes finished by itself -/
def Step (st st' : St) : Prop :=
  (∀ q S, Subsumed st.antichain q S → Subsumed st'.antichain q S) ∧ (∀ i, Done (toSt st') i → Done (toSt st) i) ∧
    (PsubW st → PsubW st')

theorem Step.refl (st : St) : Step st st := ⟨fun _ _ h => h, fun _ h => h, fun h => h⟩

theorem Step.trans {st₁ st₂ st₃ : St} (h₁ : Step st₁ st₂) (h₂ : Step st₂ st₃) : Step st₁ st₃ :=
  ⟨fun q S h => h₂.1 q S (h₁.1 q S h), fun i h => h₁.2.1 i (h₂.2.1 i h), fun h => h₂.2.2 (h₁.2.2 h)⟩

theorem mem_addTmp_of_not {P : List Item} {it i : Item} (h : ¬ subsumed P it.q it.S = true) :
    i ∈ addTmp P it ↔ (i ∈ P ∧ ¬ (i.q = it.q ∧ ∀ x, x ∈ it.S → x ∈ i.S)) ∨ i = it := by
  rw [addTmp, if_neg h, List.mem_append, mem_refine, List.mem_singleton]

theorem not_subsumed_of_sub {P W : List Item} (hW : ∀ i, i ∈ W → i ∈ P) {q : Nat} {S : List Nat}
    (h : ¬ subsumed P q S = true) : ¬ subsumed W q S = true :=
  fun hw => h (subsumed_iff.mpr ((subsumed_iff.mp hw).imp fun i hi => ⟨hW i hi.1, hi.2⟩))

theorem addTmp_sub {X Y : List Item} (h : ∀ i, i ∈ X → i ∈ Y) {it : Item} (hX : ¬ subsumed X it.q it.S = true)
    (hY : ¬ subsumed Y it.q it.S = true) : ∀ i, i ∈ addTmp X it → i ∈ addTmp Y it :=
  fun i hi => (mem_addTmp_of_not hY).mpr (((mem_addTmp_of_not hX).mp hi).imp_left fun hi => ⟨h i hi.1, hi.2⟩)

theorem fctor_spec (A B : TA) (st : St) (it : Item) :
    Sat (fun e => e = (it.q, it.t) ∧ it.q ∈ A.final ∧ accepting B it.S = false)
      (fun st' => (subsumed st.antichain it.q it.S = true ∧ st' = st) ∨
        (¬ subsumed st.antichain it.q it.S = true ∧ (it.q ∈ A.final → accepting B it.S = true) ∧
          st' = ⟨addTmp st.antichain it, addTmp st.workset it⟩))
      (fctor A B st it) := by
  unfold fctor
  by_cases hs : subsumed st.antichain it.q it.S = true
  · exact if_pos hs ▸ Or.inl ⟨hs, rfl⟩
  by_cases hb : (A.final.contains it.q && !accepting B it.S) = true
  · rw [if_neg hs, if_pos hb]
    rw [Bool.and_eq_true, List.contains_iff_mem, Bool.not_eq_true'] at hb
    exact ⟨rfl, hb⟩
  · rw [if_neg hs, if_neg hb]
    refine Or.inr ⟨hs, fun hf => ?_, rfl⟩
    cases ha : accepting B it.S with
    | true => rfl
    | false => exact absurd (by rw [ha, List.contains_iff_mem.mpr hf]; rfl) hb

theorem fctor_ok {A B : TA} {st : St} (it : Item) (hI : Inv A B st) :
    Sat (fun _ => True) (fun st' => Inv A B st' ∧ Step st st' ∧ Subsumed st'.antichain it.q it.S) (fctor A B st it) := by
  refine (fctor_spec A B st it).mono (fun _ _ => trivial) ?_
  rintro st' (⟨hs, rfl⟩ | ⟨hs, hacc, rfl⟩)
  · exact ⟨hI, Step.refl _, subsumed_iff.mp hs⟩
  · have hsW := not_subsumed_of_sub hI.1 hs
    refine ⟨⟨addTmp_sub hI.1 hsW hs, fun i hi hf => ?_⟩, ⟨fun _ _ => addTmp_mono, ?_, fun hP => addTmp_sub hP hs hsW⟩,
      addTmp_self _ _⟩
    · exact (mem_addTmp hi).elim (hI.2 i · hf) fun h => h ▸ hacc (h ▸ hf)
    · rintro i ⟨h1, h2⟩
      rcases (mem_addTmp_of_not hs).mp h1 with ⟨hi, hc⟩ | hi
      · exact ⟨hi, fun hw => h2 ((mem_addTmp_of_not hsW).mpr (Or.inl ⟨hw, hc⟩))⟩
      · exact absurd ((mem_addTmp_of_not hsW).mpr (Or.inr hi)) h2

theorem foreachUp_ok {A B : TA} {ks : List Nat} (Ss : List (List Nat)) (ts : List Tree) (ρs : List Rule) {st : St}
    (hI : Inv A B st) :
    Sat (fun _ => True) (fun st' => Inv A B st' ∧ Step st st' ∧
      ∀ ρ, ρ ∈ ρs → ρ.kids = ks → Subsumed st'.antichain ρ.parent (macroPost B ρ.sym Ss))
      (ρs.foldlM (upStep A B ks Ss ts) st) := by
  refine Sat.foldlM_cover (C := fun (ρ : Rule) (st' : St) => ρ.kids = ks → Subsumed st'.antichain ρ.parent
    (macroPost B ρ.sym Ss)) Step.refl Step.trans (fun _ _ _ hR hC hk => hR.1 _ _ (hC hk)) ρs st hI fun st ρ _ hI => ?_
  unfold upStep
  split
  · exact (fctor_ok _ hI).imp fun _ h => ⟨h.1, h.2.1, fun _ => h.2.2⟩
  · next hk => exact ⟨hI, Step.refl _, fun h => absurd (beq_iff_eq.mpr h) hk⟩

theorem procCombos_ok {A B : TA} (ks : List Nat) (iss : List (List Item)) {st : St} (hI : Inv A B st) :
    Sat (fun _ => True) (fun st' => Inv A B st' ∧ Step st st' ∧
      ∀ is, is ∈ iss → ∀ ρ, ρ ∈ A.rules → ρ.kids = ks →
        Subsumed st'.antichain ρ.parent (macroPost B ρ.sym (is.map (·.S))))
      (procCombos A B ks iss st) := by
  rw [procCombos_eq]
  exact Sat.foldlM_cover (C := fun (is : List Item) (st' : St) => ∀ ρ, ρ ∈ A.rules → ρ.kids = ks →
    Subsumed st'.antichain ρ.parent (macroPost B ρ.sym (is.map fun (i : Item) => i.S))) Step.refl Step.trans
    (fun _ _ _ hR hC ρ hρ hk => hR.1 _ _ (hC ρ hρ hk)) iss st hI fun _ is _ hI => foreachUp_ok _ _ A.rules hI

theorem mem_known {P : List Item} {k : Nat} {i : Item} : i ∈ known P k ↔ i ∈ P ∧ i.q = k := by
  simp only [known, List.mem_filter, beq_iff_eq]

theorem mem_choicesPos {P : List Item} {it : Item} {k : Nat} {i : Item} :
    i ∈ choicesPos P it k ↔ (k = it.q ∧ i = it) ∨ (i ∈ P ∧ i.q = k) := by
  rw [choicesPos, List.mem_append, mem_known]
  refine or_congr ?_ Iff.rfl
  split
  · next hk => rw [List.mem_singleton, beq_iff_eq.mp hk]; exact (and_iff_right rfl).symm
  · next hk => exact ⟨(fun h => nomatch h), fun h => absurd (beq_iff_eq.mpr h.1) hk⟩

theorem mem_combos_choices {P : List Item} {it : Item} {ks : List Nat} : ∀ {is : List Item},
    is ∈ combos (ks.map (choicesPos P it)) ↔ Choice (fun i => i = it ∨ i ∈ P) ks is := by
  induction ks with
  | nil => exact List.mem_singleton.trans ⟨fun h => h ▸ All2.nil, fun h => by cases h; rfl⟩
  | cons k ks ih =>
    intro is
    simp only [List.map_cons, combos, List.mem_flatMap, List.mem_map, mem_choicesPos]
    constructor
    · rintro ⟨is', his', i, hi, rfl⟩
      exact All2.cons (hi.elim (fun h => ⟨h.2 ▸ h.1.symm, Or.inl h.2⟩) fun h => ⟨h.2, Or.inr h.1⟩) (ih.mp his')
    · rintro (_ | ⟨hd, tl⟩)
      exact ⟨_, ih.mpr tl, _, hd.2.elim (fun h => Or.inl ⟨h ▸ hd.1.symm, h⟩) fun h => Or.inr ⟨h, hd.1⟩, rfl⟩

theorem Choice.all {M : Item → Prop} {ks : List Nat} {is : List Item} (h : Choice M ks is) :
    ∀ i, i ∈ is → M i := fun i hi => (All2.exists_left h i hi).elim fun _ hk => hk.2.2

theorem Choice.q_mem {M : Item → Prop} {ks : List Nat} {is : List Item} (h : Choice M ks is) :
    (∀ i, i ∈ is → i.q ∈ ks) ∧ ∀ k, k ∈ ks → ∃ i, i ∈ is ∧ i.q = k :=
  ⟨fun i hi => (All2.exists_left h i hi).elim fun _ hk => hk.2.1 ▸ hk.1,
    fun k hk => (All2.exists_right h k hk).imp fun _ hi => ⟨hi.1, hi.2.1⟩⟩

theorem cond_of_choice {P : List Item} {it : Item} {ks : List Nat} {is : List Item}
    (h : Choice (· ∈ P) ks is) (hit : it ∈ is) : (ks.contains it.q && ready P it.q ks) = true := by
  simp only [Bool.and_eq_true, List.contains_iff_mem, ready, List.all_eq_true, Bool.or_eq_true, beq_iff_eq,
    Bool.not_eq_true', List.isEmpty_eq_false_iff]
  refine ⟨(Choice.q_mem h).1 it hit, fun k hk => Or.inr fun hn => ?_⟩
  obtain ⟨i, hi, hq⟩ := (Choice.q_mem h).2 k hk
  exact List.not_mem_nil (hn ▸ mem_known.mpr ⟨Choice.all h i hi, hq⟩)

def TupleDone (A B : TA) (it : Item) (ks : List Nat) (st : St) : Prop :=
  ∀ ρ, ρ ∈ A.rules → ρ.kids = ks → ∀ is, Choice (Done (toSt st)) ks is → it ∈ is →
    Subsumed st.antichain ρ.parent (post B ρ.sym (is.map (·.S)))

def ProcSpec (A B : TA) (proc : Item → List Nat → St → Res St) : Prop :=
  ∀ it ks st, Inv A B st →
    Sat (fun _ => True) (fun st' => Inv A B st' ∧ Step st st' ∧ TupleDone A B it ks st') (proc it ks st)

theorem tupleDone_of_not {A B : TA} {it : Item} {ks : List Nat} {st : St}
    (hc : ¬ (ks.contains it.q && ready st.antichain it.q ks) = true) : TupleDone A B it ks st :=
  fun _ _ _ _ his hit => absurd (cond_of_choice (his.imp fun _ h => h.1) hit) hc

theorem procTuple_spec (A B : TA) : ProcSpec A B (procTuple A B) := by
  intro it ks st hI
  unfold procTuple
  split
  · refine (procCombos_ok ks _ hI).imp fun st' h => ⟨h.1, h.2.1, fun ρ hρ hk is his _ => ?_⟩
    refine (h.2.2 is ?_ ρ hρ hk).mono fun x => mem_macroPost.mp
    exact mem_combos_choices.mpr (his.imp fun i hi => Or.inr (h.2.1.2.1 i hi).1)
  · next hc => exact ⟨hI, Step.refl _, tupleDone_of_not hc⟩

abbrev BClosed (A B : TA) (st : St) : Prop := UpGen.Closed (spec B) A B (toSt st)

theorem procTuples_closed {A B : TA} {proc : Item → List Nat → St → Res St} (hp : ProcSpec A B proc)
    {T : List (List Nat)} (hT : ∀ ρ, ρ ∈ A.rules → ρ.kids ∈ T) {P : List Item} {it : Item} {rest : List Item}
    (hI : Inv A B ⟨P, rest⟩) (hC : BClosed A B ⟨P, it :: rest⟩) :
    Sat (fun _ => True) (fun st' => Inv A B st' ∧ BClosed A B st') (T.foldlM (fun st ks => proc it ks st) ⟨P, rest⟩) := by
  refine (Sat.foldlM_cover (C := TupleDone A B it) Step.refl Step.trans
    (fun _ _ _ hR hC ρ hρ hk is his hit => hR.1 _ _ (hC ρ hρ hk is (his.imp hR.2.1) hit)) T _ hI
    fun st ks _ hI => hp it ks st hI).imp ?_
  rintro st' ⟨hI', hst, hT'⟩
  exact ⟨hI', UpGen.closed_step (spec B) hC ⟨hst.1, hst.2.1⟩ fun ρ hρ is his hit =>
    Or.inr (hT' _ (hT ρ hρ) ρ hρ rfl is his hit)⟩

theorem init_ok {A B : TA} :
    Sat (fun _ => True) (fun st => Inv A B st ∧ BClosed A B st) (A.rules.foldlM (upStep A B [] [] []) ⟨[], []⟩) := by
  refine (foreachUp_ok [] [] A.rules (st := ⟨[], []⟩) ⟨(fun _ h => nomatch h), fun _ h => nomatch h⟩).imp ?_
  rintro st ⟨hI, hst, hsub⟩
  exact ⟨hI, UpGen.closed_of_leaves (spec B) (st := toSt st) (hst.2.2 fun _ h => nomatch h) fun ρ hρ hk =>
    Or.inr ((hsub ρ hρ hk).mono fun x => mem_macroPost.mp)⟩

theorem mem_tuplesOf {A : TA} {ρ : Rule} (h : ρ ∈ A.rules) : ρ.kids ∈ tuplesOf A := by
  suffices ∀ (rs : List Rule) (acc : List (List Nat)), (∀ k, k ∈ acc → k ∈ rs.foldl (fun acc ρ =>
      if acc.contains ρ.kids then acc else acc ++ [ρ.kids]) acc) ∧ ∀ ρ, ρ ∈ rs → ρ.kids ∈ rs.foldl (fun acc ρ =>
      if acc.contains ρ.kids then acc else acc ++ [ρ.kids]) acc from (this A.rules []).2 ρ h
  intro rs
  induction rs with
  | nil => exact fun acc => ⟨fun _ h => h, fun _ h => nomatch h⟩
  | cons ρ₀ rs ih =>
    intro acc
    obtain ⟨h1, h2⟩ := ih (if acc.contains ρ₀.kids then acc else acc ++ [ρ₀.kids])
    refine ⟨fun k hk => h1 k ?_, fun ρ hρ => (List.mem_cons.mp hρ).elim (fun e => h1 _ ?_) (h2 ρ)⟩
    · split
      · exact hk
      · exact List.mem_append_left _ hk
    · rw [e]
      split
      · next hc => exact List.contains_iff_mem.mp hc
      · exact List.mem_append_right _ (List.mem_singleton.mpr rfl)

theorem runWith_ok_cert {A B : TA} {proc : TA → TA → Item → List Nat → St → Res St} (hp : ProcSpec A B (proc A B))
    {fuel : Nat} {P : List Item} (h : runWith proc A B fuel = some (.ok P)) :
    upCertB A B (InclUpBdd.pairs P) = true := by
  have := runWith_sat (I := fun st => Inv A B st ∧ BClosed A B st) init_ok (fun P it rest hI =>
    procTuples_closed hp (fun _ => mem_tuplesOf)
      ⟨fun i (hi : i ∈ rest) => hI.1.1 i (List.mem_cons_of_mem _ hi), hI.1.2⟩ hI.2) h
  exact upCertB_of_closed this.2 this.1.2

theorem run_ok_cert {A B : TA} {fuel : Nat} {P : List Item} (h : run A B fuel = some (.ok P)) :
    upCertB A B (InclUpBdd.pairs P) = true :=
  runWith_ok_cert (procTuple_spec A B) h

def Sep (A B : TA) (w : Tree) : Prop := accepts A w = true ∧ accepts B w = false

def BAllOK (A B : TA) (st : St) : Prop := UpGen.All (TreeOK A B) (toSt st)

abbrev ResOK (A B : TA) : Res St → Prop := Sat (fun e => Sep A B e.2) (BAllOK A B)

theorem fctor_tree {A B : TA} {st : St} {it : Item} (hit : TreeOK A B it) (hst : BAllOK A B st) :
    ResOK A B (fctor A B st it) := by
  refine (fctor_spec A B st it).mono ?_ ?_
  · rintro _ ⟨rfl, hf, hacc⟩
    exact sep_of_final (errOK_of_treeOK hit (Or.inr ⟨hacc, hf⟩)) hf
  · rintro st' (⟨_, rfl⟩ | ⟨_, _, rfl⟩)
    · exact hst
    · exact ⟨fun i hi => (mem_addTmp hi).elim (hst.1 i) fun h => h ▸ hit,
        fun i hi => (mem_addTmp hi).elim (hst.2 i) fun h => h ▸ hit⟩

theorem foreachUp_tree {A B : TA} {ks : List Nat} {Ss : List (List Nat)} {ts : List Tree} {ρs : List Rule} {st : St}
    (hρ : ∀ ρ, ρ ∈ ρs → ρ.kids = ks → TreeOK A B ⟨ρ.parent, macroPost B ρ.sym Ss, .node ρ.sym ts⟩)
    (hst : BAllOK A B st) : ResOK A B (ρs.foldlM (upStep A B ks Ss ts) st) := by
  refine Sat.foldlM ρs st hst fun st ρ hm hst => ?_
  unfold upStep
  split
  · next hk => exact fctor_tree (hρ ρ hm (beq_iff_eq.mp hk)) hst
  · exact hst

theorem foreachUp_tree_choice {A B : TA} {ks : List Nat} {is : List Item} (his : Choice (TreeOK A B) ks is)
    {st : St} (hst : BAllOK A B st) :
    ResOK A B (A.rules.foldlM (upStep A B ks (is.map (·.S)) (is.map (·.t))) st) :=
  foreachUp_tree (fun _ hρ hk => mkItem_treeOK hρ (hk ▸ his)) hst

def TreeSpec (A B : TA) (proc : Item → List Nat → St → Res St) : Prop :=
  ∀ it ks st, TreeOK A B it → BAllOK A B st → ResOK A B (proc it ks st)

theorem procTuple_tree (A B : TA) : TreeSpec A B (procTuple A B) := by
  intro it ks st hit hst
  unfold procTuple
  split
  · rw [procCombos_eq]
    exact Sat.foldlM _ st hst fun _ is his hst' =>
      foreachUp_tree_choice ((mem_combos_choices.mp his).imp fun i hi => hi.elim (· ▸ hit) (hst.1 i)) hst'
  · exact hst

theorem runWith_error_ok {A B : TA} {proc : TA → TA → Item → List Nat → St → Res St} (hp : TreeSpec A B (proc A B))
    {fuel : Nat} {e : Nat × Tree} (h : runWith proc A B fuel = some (.error e)) : Sep A B e.2 :=
  runWith_sat (I := BAllOK A B) (E := fun e => Sep A B e.2)
    (foreachUp_tree_choice (is := []) All2.nil ⟨(fun _ h => nomatch h), fun _ h => nomatch h⟩)
    (fun _ it _ hst => Sat.foldlM _ _ ⟨hst.1, fun i hi => hst.2 i (List.mem_cons_of_mem _ hi)⟩ fun st ks _ hst' =>
      hp it ks st (hst.2 it List.mem_cons_self) hst') h

theorem run_error_ok {A B : TA} {fuel : Nat} {e : Nat × Tree} (h : run A B fuel = some (.error e)) :
    accepts A e.2 = true ∧ accepts B e.2 = false :=
  runWith_error_ok (procTuple_tree A B) h

theorem inclUpBdd_of_run_ok {A B : TA} {fuel : Nat} {P : List Item} (h : run A B fuel = some (.ok P)) :
    inclUpBdd A B fuel = some (true, .closed (InclUpBdd.pairs P)) := by
  rw [inclUpBdd, h]
  exact if_pos (run_ok_cert h)

theorem inclUpBdd_of_run_error {A B : TA} {fuel : Nat} {q : Nat} {w : Tree}
    (h : run A B fuel = some (.error (q, w))) : inclUpBdd A B fuel = some (false, .witness w) := by
  obtain ⟨h1, h2⟩ := run_error_ok h
  rw [inclUpBdd, h]
  exact if_pos (by rw [h1, h2]; rfl)

theorem inclUpBdd_eq_none {A B : TA} {fuel : Nat} : inclUpBdd A B fuel = none ↔ run A B fuel = none := by
  constructor
  · intro h
    cases hr : run A B fuel with
    | none => rfl
    | some r =>
      cases r with
      | ok P => rw [inclUpBdd_of_run_ok hr] at h; cases h
      | error e => rw [inclUpBdd_of_run_error (q := e.1) (w := e.2) hr] at h; cases h
  · intro h
    rw [inclUpBdd, h]

theorem run_iff {A B : TA} {fuel : Nat} {r : Res (List Item)} (h : run A B fuel = some r) :
    (∃ P, r = .ok P) ↔ Incl A B := by
  cases r with
  | ok P => exact ⟨fun _ => upCertB_incl (run_ok_cert h), fun _ => ⟨P, rfl⟩⟩
  | error e =>
    obtain ⟨h1, h2⟩ := run_error_ok h
    exact ⟨(fun ⟨P, hP⟩ => nomatch hP), fun hi => absurd (hi _ h1) (by rw [h2]; exact Bool.false_ne_true)⟩

/-! The old step is right when every rule of `A` has at most one child: then a tuple that contains the processed state is the 1-tuple of that state, its only position gets the processed
macro-state, and no union is formed. -/

theorem ks_of_arity1 {ks : List Nat} {q : Nat} (hl : ks.length ≤ 1) (hq : q ∈ ks) : ks = [q] := by
  match ks, hl, hq with
  | [k], _, hq => rw [List.mem_singleton.mp hq]

theorem oldSets_single (P : List Item) (it : Item) : oldSets P it [it.q] = [it.S] := by
  simp [oldSets]

theorem oldTrees_single (P : List Item) (it : Item) : oldTrees P it [it.q] = [it.t] := by
  simp [oldTrees]

theorem procTupleOld_spec {A B : TA} (har : ∀ ρ, ρ ∈ A.rules → ρ.kids.length ≤ 1) :
    ProcSpec A B (procTupleOld A B) := by
  intro it ks st hI
  unfold procTupleOld
  split
  · rw [foreachUp_eq]
    refine (foreachUp_ok _ _ A.rules hI).imp fun st' h => ⟨h.1, h.2.1, fun ρ hρ hk is his hit => ?_⟩
    cases ks_of_arity1 (hk ▸ har ρ hρ) ((Choice.q_mem his).1 it hit)
    have his1 : is = [it] := by
      cases his with
      | cons hd tl => cases tl; rw [List.mem_singleton.mp hit]
    have := h.2.2 ρ hρ hk
    rw [oldSets_single] at this
    exact his1 ▸ this.mono fun x => mem_macroPost.mp
  · next hc => exact ⟨hI, Step.refl _, tupleDone_of_not hc⟩

theorem procTupleOld_tree {A B : TA} (har : ∀ ρ, ρ ∈ A.rules → ρ.kids.length ≤ 1) :
    TreeSpec A B (procTupleOld A B) := by
  intro it ks st hit hst
  unfold procTupleOld
  split
  · next hc =>
    rw [foreachUp_eq]
    refine foreachUp_tree (fun ρ hρ hk => ?_) hst
    rw [Bool.and_eq_true, List.contains_iff_mem] at hc
    cases ks_of_arity1 (hk ▸ har ρ hρ) hc.1
    rw [oldSets_single, oldTrees_single]
    exact mkItem_treeOK (is := [it]) hρ (hk ▸ All2.cons ⟨rfl, hit⟩ All2.nil)
  · exact hst

end InclUpBdd

theorem inclUpBddOld_partial {A B : TA} (har : ∀ ρ, ρ ∈ A.rules → ρ.kids.length ≤ 1) {fuel : Nat} {b : Bool}
    (h : inclUpBddOld A B fuel = some b) : (b = true ↔ Incl A B) := by
  unfold inclUpBddOld at h
  split at h
  · cases h
  · next P hr =>
    simp only [Option.some.injEq] at h
    subst h
    exact ⟨fun _ => upCertB_incl (runWith_ok_cert (procTupleOld_spec har) hr), fun _ => rfl⟩
  · next e hr =>
    simp only [Option.some.injEq] at h
    subst h
    obtain ⟨h1, h2⟩ := runWith_error_ok (procTupleOld_tree har) hr
    constructor
    · intro hb; cases hb
    · intro hi
      rw [hi _ h1] at h2
      cases h2

namespace InclUpBddEx

def verdict (r : Option (Bool × Cert)) : Option Bool := r.map (·.1)

/-- lists `cons(…cons(nil))` of even length / of any length -/
def exEven : TA := ⟨[⟨0, [], 0⟩, ⟨1, [1], 0⟩, ⟨1, [0], 1⟩], [0]⟩
def exAll : TA := ⟨[⟨0, [], 5⟩, ⟨1, [5], 5⟩], [5]⟩

-- the repaired model on the counterexample: `false` with the witness `g(b,a)`
#guard verdict (inclUpBdd cexA cexB 10) == some false
#guard (match inclUpBdd cexA cexB 10 with | some (_, .witness w) => showTree w == "2(1,0)" | _ => false)
-- the old one: `true`
#guard inclUpBddOld cexA cexB 10 == some true
-- the second counterexample: the repaired model finds `h(b,c)`
#guard inclUpBddOld cexA2 cexB2 10 == some true
#guard (match inclUpBdd cexA2 cexB2 10 with | some (false, .witness w) => showTree w == "4(1,2)" | _ => false)
-- the converse inclusion holds; three pairs
#guard verdict (inclUpBdd cexB cexA 10) == some true
#guard (match inclUpBdd cexB cexA 10 with | some (_, .closed X) => X == [(3, [1]), (4, [1]), (9, [2])] | _ => false)
#guard verdict (inclUpBdd exEven exAll 10) == some true
#guard verdict (inclUpBdd exAll exEven 10) == some false
#guard verdict (inclUpBdd exEven exAll 1) == none
#guard verdict (checkInclUpBdd cexA cexB 10) == some false

example : ¬ Incl cexA cexB :=
  (Verdict.exists_cert (o := inclUpBdd cexA cexB 10) (by decide +kernel)).elim fun _ => inclUpBdd_false
example : Incl cexB cexA :=
  (Verdict.exists_cert (o := inclUpBdd cexB cexA 10) (by decide +kernel)).elim fun _ => inclUpBdd_true
example : (true = true ↔ Incl exEven exAll) :=
  (Verdict.exists_cert (o := inclUpBdd exEven exAll 10) (by decide +kernel)).elim fun _ => inclUpBdd_iff
example : (false = true ↔ Incl exAll exEven) :=
  (Verdict.exists_cert (o := inclUpBdd exAll exEven 10) (by decide +kernel)).elim fun _ => inclUpBdd_iff

example : upCertB cexB cexA (InclUpBdd.pairs [⟨3, [1], .node 0 []⟩, ⟨4, [1], .node 1 []⟩,
    ⟨9, [2], .node 2 [.node 0 [], .node 0 []]⟩]) = true :=
  InclUpBdd.run_ok_cert (fuel := 10) rfl
example : accepts cexA (.node 2 [.node 1 [], .node 0 []]) = true ∧ accepts cexB (.node 2 [.node 1 [], .node 0 []]) = false :=
  InclUpBdd.run_error_ok (fuel := 10) (e := (2, .node 2 [.node 1 [], .node 0 []])) rfl
example : InclUpBdd.run exEven exAll 1 = none := rfl
example : inclUpBdd exEven exAll 1 = none := InclUpBdd.inclUpBdd_eq_none.mpr rfl

-- the old algorithm on automata with unary rules: both verdicts, and the hypothesis fails on the counterexample
#guard inclUpBddOld exEven exAll 10 == some true
#guard inclUpBddOld exAll exEven 10 == some false
example : (true = true ↔ Incl exEven exAll) :=
  inclUpBddOld_partial (by decide +kernel) (fuel := 10) (by decide +kernel)
example : (false = true ↔ Incl exAll exEven) :=
  inclUpBddOld_partial (by decide +kernel) (fuel := 10) (by decide +kernel)
example : ¬ ∀ ρ, ρ ∈ cexA.rules → ρ.kids.length ≤ 1 := by decide

end InclUpBddEx

end Vata
