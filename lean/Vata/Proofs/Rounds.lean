/-!
# Round loops

A round loop applies a round `next` until a test `stop` holds or the fuel ends (`IsLoop`):

  `iter 0 s = s`,   `iter (n+1) s = if stop s then s else iter n (next s)`.

`prodIter`, `tdIter`, `refineIter` (`Vata/Ref.lean`), `ltsRefine` (`Vata/Proofs/LtsSim.lean`) and `growIter` (`Vata/InclUp.lean`) are
such loops with `stop s := (f s).length == s.length`, `next := f` ("until the length stays"); `refineIter` and `ltsRefine`
filter a list by a test that may look at the whole list.  `nfaReachIter` and `nfaPairIter` (`Vata/NfaOps.lean`) are such loops
with a closure test (`nfaClosedB`, `nfaPairClosedB`) as `stop`.  Both equations hold by `rfl` for each of them (the default value of the
hypothesis `h`), so what is proved here for any `iter` that satisfies them applies to the model's own loop: an invariant of a
round holds of the result (`inv`), and the result passes the test once the fuel reaches a measure that every round lowers
(`stops`, `fixes`).
-/
namespace Vata.Rounds

def IsLoop {σ : Type} (iter : Nat → σ → σ) (stop : σ → Bool) (next : σ → σ) : Prop :=
  (∀ s, iter 0 s = s) ∧ ∀ n s, iter (n + 1) s = if stop s then s else iter n (next s)

variable {σ : Type} {iter : Nat → σ → σ} {stop : σ → Bool} {next : σ → σ}

theorem inv (I : σ → Prop) (hI : ∀ s, I s → I (next s)) (n : Nat) (s : σ) (hs : I s)
    (h : IsLoop iter stop next := by exact ⟨fun _ => rfl, fun _ _ => rfl⟩) : I (iter n s) := by
  induction n generalizing s with
  | zero => exact (h.1 s).symm ▸ hs
  | succ n ih =>
    rw [h.2]
    split
    · exact hs
    · exact ih (next s) (hI s hs)

theorem stops (μ : σ → Nat) (hμ : ∀ s, stop s = false → μ (next s) < μ s) (n : Nat) (s : σ) (hn : μ s ≤ n)
    (h : IsLoop iter stop next := by exact ⟨fun _ => rfl, fun _ _ => rfl⟩) : stop (iter n s) = true := by
  induction n generalizing s with
  | zero =>
    rw [h.1]
    exact Classical.byContradiction fun hc =>
      Nat.not_lt_zero _ (Nat.lt_of_lt_of_le (hμ s (Bool.eq_false_iff.mpr hc)) hn)
  | succ n ih =>
    rw [h.2]
    split
    · assumption
    · next hc => exact ih (next s) (Nat.le_of_lt_succ (Nat.lt_of_lt_of_le (hμ s (Bool.eq_false_iff.mpr hc)) hn))

variable {α : Type} {iter : Nat → List α → List α}

/-- "until the length stays": with a measure bounded by `B` that grows in every round that changes the length, `n` rounds with
`B < n + μ s` end in a point where `f` keeps the length -/
theorem fixes {f : List α → List α} (μ : List α → Nat) (B : Nat) (hB : ∀ s, μ s ≤ B)
    (hμ : ∀ s, (f s).length ≠ s.length → μ s < μ (f s)) (n : Nat) (s : List α) (hn : B < n + μ s)
    (h : IsLoop iter (fun s => (f s).length == s.length) f := by exact ⟨fun _ => rfl, fun _ _ => rfl⟩) :
    (f (iter n s)).length = (iter n s).length :=
  beq_iff_eq.mp (stops (fun s => B - μ s)
    (fun s hc => Nat.sub_lt_sub_left (Nat.lt_of_lt_of_le (hμ s (ne_of_beq_false hc)) (hB _)) (hμ s (ne_of_beq_false hc))) n s
    (Nat.le_of_lt (Nat.sub_lt_left_of_lt_add (hB s) (Nat.add_comm n _ ▸ hn))) h)

/-! ### rounds that filter by a test `ok R` of the whole list `R` (refinement towards a greatest fixed point) -/

/-- `iter` filters by `ok` until the length stays -/
abbrev IsRefine (iter : Nat → List α → List α) (ok : List α → α → Bool) : Prop :=
  IsLoop iter (fun R => (R.filter (ok R)).length == R.length) (fun R => R.filter (ok R))

variable {ok : List α → α → Bool}

/-- the result is inside the start -/
theorem filter_sub (n : Nat) (R : List α) (p : α) (hp : p ∈ iter n R)
    (h : IsRefine iter ok := by exact ⟨fun _ => rfl, fun _ _ => rfl⟩) : p ∈ R :=
  inv (fun R' => ∀ p, p ∈ R' → p ∈ R) (fun _ h p hp => h p (List.mem_filter.mp hp).1) n R (fun _ h => h) h p hp

/-- a set `P` that passes the test whenever it is inside the current list is never filtered out -/
theorem filter_contains (P : α → Prop) (hstep : ∀ R, (∀ p, P p → p ∈ R) → ∀ p, P p → ok R p = true)
    (n : Nat) (R : List α) (hR : ∀ p, P p → p ∈ R) (p : α) (hp : P p)
    (h : IsRefine iter ok := by exact ⟨fun _ => rfl, fun _ _ => rfl⟩) : p ∈ iter n R :=
  inv (fun R => ∀ p, P p → p ∈ R) (fun R h p hp => List.mem_filter.mpr ⟨h p hp, hstep R h p hp⟩) n R hR h p hp

/-- with at least as many rounds as elements, the loop ends in a list all of whose elements pass the test -/
theorem filter_stable (n : Nat) (R : List α) (hn : R.length ≤ n) (p : α) (hp : p ∈ iter n R)
    (h : IsRefine iter ok := by exact ⟨fun _ => rfl, fun _ _ => rfl⟩) : ok (iter n R) p = true :=
  List.length_filter_eq_length_iff.mp (beq_iff_eq.mp (stops List.length
    (fun _ hc => Nat.lt_of_le_of_ne (List.length_filter_le _ _) (ne_of_beq_false hc)) n R hn h)) p hp

end Vata.Rounds
