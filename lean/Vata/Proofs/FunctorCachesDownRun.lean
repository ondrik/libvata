import Vata.Proofs.FunctorCachesDownSim
/-!
# `CheckDownwardTreeInclusion` with its caches returns what the cache-free model returns (C01, C07)

The simulation of `expand` (`expandC_rel`, `Vata/Proofs/FunctorCachesDownSim.lean`) is lifted through the loop over the final
states of the smaller automaton to the whole exploration and to the certify-then-trust models, for EVERY allocator, with the
library's deleter; the invariant of `lteCache` holds at the end of a run.  `FCDEx` is a concrete pair of automata on which
the seeded deleter (`invalidateFirst` twice) or no deleter changes the verdict.
-/
namespace Vata
namespace FCD
open Vata.InclDown
open Vata.FCU (Heap hval hLookup hCollect Live pickLeast)
open Vata.InclUp (normS prodWit Wit)

theorem rootLoopC_rel {o : Ord} (hr : ∀ q, o.leB q q = true) (pick : List Nat → Nat) (A B : TA) (wit : Wit) (fuel : Nat)
    (FB : List Nat) : ∀ (fs : List Nat) (ccC : List CP) (stC : StC) (cc : List Pair) (st : St), DRel o [] ccC stC cc st →
    viewD (rootLoopC o .lib pick A B wit fuel FB fs ccC stC) = rootLoop o A B wit fuel FB fs cc st ∧
    ∀ s, rootLoopC o .lib pick A B wit fuel FB fs ccC stC = some (.ok s) → HInvD o s.h := by
  intro fs
  induction fs with
  | nil =>
    intro ccC stC cc st h
    exact ⟨by simp only [rootLoopC, rootLoop, viewD, h.eni, h.etr], fun s hs => by cases hs; exact h.hi⟩
  | cons f fs ih =>
    intro ccC stC cc st h
    obtain ⟨l1, _, l3, l4⟩ := hLookupD_spec pick h.hi FB
    have h2 := (h.heap l1 (fun a _ ha => l4 a ha) (fun _ hx => hx)).collect (rootsOf [] ccC stC)
      (fun _ ha => mem_rootsOf.mpr (ha.imp_left (fun ⟨_, hx, _⟩ => by cases hx)))
    simp only [rootLoopC, rootLoop]
    rw [l3]
    by_cases hp : byPre o f FB = true
    · rw [if_pos hp, if_pos hp]; exact ih _ _ _ _ h2
    · rw [if_neg hp, if_neg hp]
      have hcall : CallRelG (DRel o []) (wrapC .lib pick [] (expandC o .lib pick A B wit fuel [] []))
          (expand o A B wit fuel []) :=
        wrapC_rel pick (fun _ hx => by cases hx) (fun q a Q => expandC_rel hr pick A B wit fuel (Frames.root a Q []) q)
      rw [bodyC_eq]
      rcases (bodyG_rel hcall hcall A B wit normS f FB ccC _ cc st h2).inv with ⟨e1, e2⟩ |
        ⟨⟨v, cc1, st'⟩, ⟨_, cc1V, stV⟩, e1, e2, rfl, hb⟩
      · rw [e1, e2]; exact ⟨rfl, nofun⟩
      · rw [e1, e2]
        cases v with
        | holds =>
          exact ih _ _ _ _
            ⟨hb.hi, hb.ok, hb.lcc, hb.lni, hb.ecc, hb.eni, congrArg (addTrue · (f, FB)) hb.etr⟩
        | fails t => exact ⟨rfl, nofun⟩

theorem DRel.init (o : Ord) : DRel o [] [] ⟨[], [], {}⟩ [] ⟨[], []⟩ :=
  ⟨HInvD.empty o, (fun _ hx => by cases hx), (fun _ hx => by cases hx), (fun _ hx => by cases hx), rfl, rfl, rfl⟩

theorem runC_rel {o : Ord} (hr : ∀ q, o.leB q q = true) (pick : List Nat → Nat) (A B : TA) (fuel : Nat) :
    viewD (runC o .lib pick A B fuel) = rootLoop o A B (prodWit A) fuel (normS B.final) (dedup A.final) [] ⟨[], []⟩ ∧
    ∀ s, runC o .lib pick A B fuel = some (.ok s) → HInvD o s.h :=
  rootLoopC_rel hr pick A B (prodWit A) fuel (normS B.final) (dedup A.final) [] _ [] _ (DRel.init o)

/-- **the exploration with its caches = the cache-free exploration**: same `return true` / `return false` (with the same
ghost witness), `none` at the same fuel, and on `return true` the antichain `nonIncl_` read through the heap and the ghost set
are those of `InclDown.rootLoop`; for every allocator -/
theorem runC_eq {o : Ord} (hr : ∀ q, o.leB q q = true) (pick : List Nat → Nat) (A B : TA) (fuel : Nat) :
    viewD (runC o .lib pick A B fuel) =
      rootLoop o A B (prodWit A) fuel (normS B.final) (dedup A.final) [] ⟨[], []⟩ :=
  (runC_rel hr pick A B fuel).1

theorem truesOf_eq_view (rc : Option (Except Tree StC)) :
    truesOf rc = match viewD rc with
      | none => none
      | some (.ok st) => some (.ok st.trues)
      | some (.error w) => some (.error w) := by
  cases rc with
  | none => rfl
  | some x => cases x <;> rfl

theorem truesOf_runC_eq {o : Ord} (hr : ∀ q, o.leB q q = true) (pick : List Nat → Nat) (A B : TA) (fuel : Nat) :
    truesOf (runC o .lib pick A B fuel) = InclDown.run o A B fuel := by
  rw [truesOf_eq_view, runC_eq hr]; rfl

theorem rawVerdictD_runC_eq {o : Ord} (hr : ∀ q, o.leB q q = true) (pick : List Nat → Nat) (A B : TA) (fuel : Nat) :
    rawVerdictD (runC o .lib pick A B fuel) = (InclDown.run o A B fuel).map (fun r => match r with
      | .ok _ => true
      | .error _ => false) := by
  rw [← truesOf_runC_eq hr pick]
  cases runC o .lib pick A B fuel with
  | none => rfl
  | some x => cases x <;> rfl

/-- for every allocator the recursive downward algorithm (no simulation) with `biggerTypeCache`,
`lteCache` and the library's deleter returns exactly what the cache-free model `inclDownRec` returns -/
theorem inclDown_cached_eq (pick : List Nat → Nat) (A B : TA) (fuel : Nat) :
    inclDownRecC .lib pick A B fuel = inclDownRec A B fuel := by
  unfold inclDownRecC inclDownRec
  rw [truesOf_runC_eq idOrd_refl]

/-- … with the preorder parameter (`ANTICHAINS_DOWN_REC_SIM`) -/
theorem inclDownSim_cached_eq (pick : List Nat → Nat) (A B : TA) (R : Rel) (fuel : Nat) :
    inclDownSimC .lib pick A B R fuel = inclDownSim A B R fuel := by
  unfold inclDownSimC inclDownSim
  rw [truesOf_runC_eq (ordOf_refl R A B)]

theorem checkInclDownRec_cached_eq (pick : List Nat → Nat) (A B : TA) (fuel : Nat) :
    checkInclDownRecC .lib pick A B fuel = checkInclDownRec A B fuel :=
  inclDown_cached_eq pick _ _ fuel

/-- **the invariant at the end of a run** (library's deleter, every allocator): every entry of `lteCache` mentions two live
macro-states and holds `NonCachedLte` of their current values -/
theorem runC_heap_sound {o : Ord} (hr : ∀ q, o.leB q q = true) (pick : List Nat → Nat) (A B : TA) (fuel : Nat) {h : Heap}
    (hf : finalHeapD (runC o .lib pick A B fuel) = some h) : HInvD o h ∧ heapOKD o h = true := by
  match hc : runC o .lib pick A B fuel, hf with
  | some (.ok s), hf =>
    cases hf
    have hi := (runC_rel hr pick A B fuel).2 s hc
    exact ⟨hi, heapOKD_of_HInvD hi⟩

namespace FCDEx

/-- `A`: one state `0`, `g(0) → 0`, `h(0) → 0`, `c → 0` (symbols `c = 0`, `g = 1`, `h = 2`) -/
def exA : TA := ⟨[⟨1, [0], 0⟩, ⟨2, [0], 0⟩, ⟨0, [], 0⟩], [0]⟩
/-- `B`: final `10`; `L(A) ⊄ L(B)`: `g(h(c))` is missing.  Inside `expand(0, X)`, `X = {11, 12}` (in the work-set), the choice
function of symbol `g` asks `expand(0, D)`, `D = {11, 12, 13}`: `isInWorkset` computes `lte(X, D) = true`, which enters
`lteCache` under `(&X, &D)`; `D` dies when the call returns.  For symbol `h` the set `D' = {11, 13}` is created – at the address
of `D` when the allocator recycles – and `isInWorkset` asks `lte(X, D')`: with `invalidateSecond` skipped the stale `true` is
found, so `expand(0, D')`, `expand(0, X)` and the whole check answer `true`. -/
def exB : TA := ⟨[⟨1, [11], 10⟩, ⟨1, [12], 10⟩, ⟨2, [11], 10⟩, ⟨2, [12], 10⟩, ⟨0, [], 10⟩,
  ⟨1, [11], 11⟩, ⟨1, [13], 11⟩, ⟨2, [11], 11⟩, ⟨1, [12], 12⟩, ⟨2, [13], 12⟩, ⟨0, [], 12⟩], [10]⟩

/-- the tree `g(h(c))` is accepted by `A` and not by `B` -/
theorem ex_not_incl : ¬ Incl exA exB := fun h => by
  have := h (.node 1 [.node 2 [.node 0 []]]) (by decide)
  revert this; decide

/-- the run with the seeded slip (`invalidateFirst` twice), evaluated once: verdict, the invariant on the final table, the
certifying model on top of it -/
theorem slip_run :
    rawVerdictD (runC idOrd .firstTwice pickLeast exA exB 20) = some true ∧
    (finalHeapD (runC idOrd .firstTwice pickLeast exA exB 20)).map (heapOKD idOrd) = some false ∧
    inclDownRecC .firstTwice pickLeast exA exB 20 = none := by decide +kernel

/-- the run with the default deleter, evaluated once -/
theorem none_run :
    rawVerdictD (runC idOrd .none pickLeast exA exB 20) = some true ∧ inclDownRecC .none pickLeast exA exB 20 = none := by
  decide +kernel

/-- the run with the library's deleter, evaluated once -/
theorem lib_run :
    rawVerdictD (runC idOrd .lib pickLeast exA exB 20) = some false ∧
    (inclDownRecC .lib pickLeast exA exB 20).map (·.1) = some false := by decide +kernel

/-- **the wiring of the deleter matters for the downward algorithm.**  The allocator recycles the address of a dead
macro-state at once (`pickLeast`).  With the seeded slip (`Wiring.firstTwice`: `invalidateFirst` twice, so the entries with the
dying address in SECOND position survive) and with the default deleter (`Wiring.none`) `CheckDownwardTreeInclusion` on
`exA ⊆ exB` ends with `return true`; with the library's deleter it answers `false`, which is right. -/
theorem wiring_changes_verdict :
    rawVerdictD (runC idOrd .firstTwice pickLeast exA exB 20) = some true ∧
    rawVerdictD (runC idOrd .none pickLeast exA exB 20) = some true ∧
    rawVerdictD (runC idOrd .lib pickLeast exA exB 20) = some false ∧ ¬ Incl exA exB :=
  ⟨slip_run.1, none_run.1, lib_run.1, ex_not_incl⟩

/-- … the run with the slip ends with a memo table that fails the invariant; the certificate check of the model does not let
the wrong `true` through -/
theorem wiring_breaks_invariant :
    (finalHeapD (runC idOrd .firstTwice pickLeast exA exB 20)).map (heapOKD idOrd) = some false ∧
    inclDownRecC .firstTwice pickLeast exA exB 20 = none ∧ inclDownRecC .none pickLeast exA exB 20 = none :=
  ⟨slip_run.2.1, slip_run.2.2, none_run.2⟩

/-- `L(A) ⊆ L(B2)` -/
def exB2 : TA := ⟨[⟨1, [11], 10⟩, ⟨1, [12], 10⟩, ⟨2, [11], 10⟩, ⟨2, [12], 10⟩, ⟨0, [], 10⟩,
  ⟨1, [11], 11⟩, ⟨1, [13], 11⟩, ⟨2, [12], 11⟩, ⟨1, [12], 12⟩, ⟨2, [13], 12⟩, ⟨2, [11], 12⟩, ⟨0, [], 12⟩], [10]⟩

/-- the run on `exA`, `exB2` with the library's deleter, evaluated once; objects die, addresses are reused, memo entries are
made and purged in that run: 3 live objects and 4 entries at the end -/
theorem exB2_run :
    (inclDownRecC .lib pickLeast exA exB2 20).map (·.1) = some true ∧
    (finalHeapD (runC idOrd .lib pickLeast exA exB2 20)).map (fun h => (h.store, h.lte.store.length, heapOKD idOrd h)) =
      some ([(1, [12]), (3, [11, 13]), (0, [11, 12])], 4, true) := by decide +kernel

example : inclDownRecC .lib pickLeast exA exB 20 = inclDownRec exA exB 20 := inclDown_cached_eq _ _ _ _
example : (inclDownRecC .lib pickLeast exA exB 20).map (·.1) = some false := lib_run.2
example : (inclDownRecC .lib pickLeast exA exB2 20).map (·.1) = some true := exB2_run.1
example : (finalHeapD (runC idOrd .lib pickLeast exA exB2 20)).map
    (fun h => (h.store, h.lte.store.length, heapOKD idOrd h)) = some ([(1, [12]), (3, [11, 13]), (0, [11, 12])], 4, true) :=
  exB2_run.2

/-- an order whose `leB` is not reflexive: `SetComparerSmaller` answers `true` on identical pointers, the value-level test
`setLe` answers `false` on identical non-empty sets, so the cached run (which ends) differs from the cache-free one (which
never finds its pair in the work-set); evaluated in `Props.C01_downward_refl_needed`, `Props.C01_downward_opt_refl_needed` -/
def oBad : Ord := ⟨fun q r => q == r, fun _ _ => false, fun _ _ => false⟩

end FCDEx

end FCD
end Vata
