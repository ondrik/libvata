import Vata.Proofs.ApplyMemo
/-!
# C17 – the memo tables of the apply functors

`Apply1Functor`, `Apply2Functor`, `Apply3Functor` memoise `recDescend` in a hash table `ht` keyed by node ADDRESSES, cleared at every
top-level call (`ht.clear()` in `operator()`); the nodes spawned during a call have reference count 0 until they are linked.
`Vata/Properties/C17.lean` works with the memo-free `recDescend` of the store model (`Vata/RcStore.lean`) and lists the tables as
"not modelled".  `Vata/ApplyMemo.lean` models the three `recDescend`s WITH their tables on the store model (node ids as keys);
here are the consequences (theorems: `Vata/Proofs/ApplyMemo.lean`).
-/
namespace Vata.Props
open Vata.RcS

/-- **a cached result is the result that would be recomputed.**  After any history, the binary apply as coded – table cleared,
`recDescend` looking every pair of node ids up and inserting every result – leaves exactly the store the memo-free apply
leaves: the same nodes, counters and unique tables, the same root under the new handle.  So everything C17/C18 prove about
`RcS.apply2` (`C17_store_apply`: the root unfolds to `apply2 f` of the operands) holds for the code with the table -/
theorem C17_memo_apply2 (f : Nat → Nat → Nat) (ops : List Op) (a b dst : Nat) :
    apply2M f (runF f ops) a b dst = apply2 f (runF f ops) a b dst ∧
    apply2M f (runF f ops) a b dst = runF f (ops ++ [.apply a b dst]) :=
  ⟨apply2Memo_eq f (runF_inv f ops).1 a b dst, apply2Memo_run f ops a b dst⟩

-- a history with sharing; the pair `(7, 7)` reaches the pair of leaves `(0, 0)` twice: six table entries for seven calls
example : (recDescendM applyOp 20 (runF applyOp RefineEx.ops) [] 7 7).2.2.map (·.1) =
    [(7, 7), (6, 6), (3, 3), (2, 2), (0, 0), (1, 1)] := by decide +kernel
example : find 7 (apply2M applyOp (runF applyOp RefineEx.ops) 5 1 7).hs = some 9 := by decide +kernel

/-- … at the level of one `recDescend`, from ANY table whose entries are replayable (`MemoOK`: the memo-free `recDescend` on
the key returns the entry without changing the store, now and in every store that arises by allocations only): the same
store, the same node, and the table left behind is replayable again.  The empty table of `ht.clear()` is replayable -/
theorem C17_memo_recDescend (f : Nat → Nat → Nat) {fuel : Nat} {s : Store} {ht : Memo} {n1 n2 : Nat} (h : WInv s [])
    (h1 : n1 ∈ s.ids) (h2 : n2 ∈ s.ids) (hf : n1 + n2 < fuel) (hm : MemoOK f s ht) :
    (recDescendM f fuel s ht n1 n2).1 = (recDescend f fuel s n1 n2).1 ∧
    (recDescendM f fuel s ht n1 n2).2.1 = (recDescend f fuel s n1 n2).2 ∧
    MemoOK f (recDescend f fuel s n1 n2).1 (recDescendM f fuel s ht n1 n2).2.2 ∧ MemoOK f s [] :=
  ⟨(recDescendM_eq f fuel s ht n1 n2 h h1 h2 hf hm).1, (recDescendM_eq f fuel s ht n1 n2 h h1 h2 hf hm).2.1,
    (recDescendM_eq f fuel s ht n1 n2 h h1 h2 hf hm).2.2, memoOK_nil f s⟩

example : WInv (runF applyOp RefineEx.ops) [] ∧ 7 ∈ (runF applyOp RefineEx.ops).ids := ⟨(runF_inv _ _).1, by rw [RefineEx.ops_ids]; decide⟩

/-- **why the entries stay valid during the call**: (1) a finished `recDescend` can be replayed in every later store that arose
by allocations only – it returns the same node and changes nothing (all its spawns hit the unique tables); (2) between
`ht.clear()` and the end of the call the store ONLY grows: every allocated node stays allocated with its contents, the
handles are untouched, nothing is released (`freed` unchanged) although the fresh nodes have counter 0 – so no node id in
the table can die, let alone be re-used -/
theorem C17_memo_call_invariant (f : Nat → Nat → Nat) {fuel : Nat} {s : Store} {ht : Memo} {n1 n2 : Nat} (h : WInv s [])
    (h1 : n1 ∈ s.ids) (h2 : n2 ∈ s.ids) (hf : n1 + n2 < fuel) (hm : MemoOK f s ht) :
    (∀ fuel' s', WInv s' [] → Ext (recDescend f fuel s n1 n2).1 s' → n1 + n2 < fuel' →
      recDescend f fuel' s' n1 n2 = (s', (recDescend f fuel s n1 n2).2)) ∧
    Ext s (recDescendM f fuel s ht n1 n2).1 ∧ (recDescendM f fuel s ht n1 n2).1.freed = s.freed ∧
    WInv (recDescendM f fuel s ht n1 n2).1 [] ∧ (recDescendM f fuel s ht n1 n2).2.1 ∈ (recDescendM f fuel s ht n1 n2).1.ids :=
  ⟨recDescend_replay f fuel s n1 n2 h h1 h2 hf, recDescendM_grows f h h1 h2 hf hm⟩

/-- the unary and the ternary apply (store-level models new in `Vata/ApplyMemo.lean`, each in a memo-free version and a
version with its table keyed by node ids / triples of node ids): the version with the table leaves the same store -/
theorem C17_memo_apply1_apply3 (g : Nat → Nat) (f₃ : Nat → Nat → Nat → Nat) {s : Store} (hi : Inv s) (a b c dst : Nat) :
    apply1M g s a dst = apply1 g s a dst ∧ apply3M f₃ s a b c dst = apply3 f₃ s a b c dst :=
  ⟨apply1Memo_eq g hi.1 a dst, apply3Memo_eq f₃ hi.1 a b c dst⟩

example : Inv (runF applyOp RefineEx.ops) := runF_inv _ _
example : find 7 (apply3M (fun x y z => x + y + z) (runF applyOp RefineEx.ops) 5 1 6 7).hs = some 15 := by decide +kernel
-- the new store-level models against the tree-level `M.apply1`, `M.apply3` (evaluated)
#guard diagram (apply3M (fun x y z => x + y + z) (runF applyOp RefineEx.ops) 5 1 6 7) 15 ==
  M.apply3 (fun x y z => x + y + z) (diagram (runF applyOp RefineEx.ops) 8) (diagram (runF applyOp RefineEx.ops) 2)
    (diagram (runF applyOp RefineEx.ops) 9)
#guard diagram (apply1M (fun v => v % 2) (runF applyOp RefineEx.ops) 5 7) 11 ==
  M.apply1 (fun v => v % 2) (diagram (runF applyOp RefineEx.ops) 8)

/-- **`ht.clear()` is needed.**  A table that survives across calls is wrong as soon as a result node dies and its address is
re-used: `1 + 2` is computed (node 2, remembered under the addresses `(0, 1)`), the result handle is destroyed (node 2 is
released), the constant 7 is constructed by an allocator that hands the address 2 out again, and the surviving table
answers the repeated `1 + 2` with the node at that address – the value 7, no assertion fails.  The table cleared per call
answers 3.  Without address re-use (the ids of `RcStore` are never re-used) the surviving table hands out a node that is not
allocated any more -/
theorem C17_memo_must_be_cleared :
    MemoEx.r₃.2 = [((0, 1), 2)] ∧ MemoEx.s₄.freed = [2] ∧ find 3 MemoEx.s₅.hs = some 2 ∧
    getValue MemoEx.r₆.1 4 MemoEx.zeroAsgn = some 7 ∧ MemoEx.r₆.1.err = false ∧
    getValue (apply2M MemoEx.fadd MemoEx.s₅ 0 1 4) 4 MemoEx.zeroAsgn = some 3 ∧
    (find 4 MemoEx.r₆'.1.hs = some 2 ∧ 2 ∉ MemoEx.r₆'.1.ids) :=
  memo_survives_wrong

/-!
## what this file closes / leaves open in `Vata/Properties/C17.lean` ("not yet proved")

* CLOSES the item *"The memo tables `ht` of the apply functors are not modelled (so 'a cached result is the result that would be
  recomputed' is not a theorem …)"*: the tables are modelled for the unary, binary and ternary apply and proved transparent
  (`C17_memo_apply2`, `C17_memo_recDescend`, `C17_memo_apply1_apply3`), with the invariant of a call (`C17_memo_call_invariant`)
  and the counterexample for a table that is not cleared (`C17_memo_must_be_cleared`).
* touches the item *"The store model has the binary apply … only; unary/ternary apply … exist at tree level only"*: store-level
  models `RcS.apply1`, `RcS.apply3` now exist (memo-free and with table) but their REFINEMENT to the tree-level `M.apply1` /
  `M.apply3` (the analogue of `built_recDescend`) is NOT proved – it is checked on examples by evaluation only – and `Inv` is
  not proved to be preserved by `apply1` / `apply3` (only `WInv`, `Ext` and "the result is allocated" for their `recDescend`s).
* not modelled: the tables of `VoidApply1Functor` / `VoidApply2Functor` (visited sets; for the binary one see
  `Vata/BddTraverse.lean`, `voidApply2C`), the hash function / collisions of `unordered_map` (the model is an association
  list), and the link to the C++ (the `mth` / `mthrc` history checks of `Driver/MtHist.lean` run
  the real functors, i.e. the code WITH the tables, against the memo-free tree-level model `Vata/MtbddOps.lean`;
  `C17_memo_apply2` with `C17_store_apply` explains why they agree; there is no check that compares `RcS.recDescendM` with the
  real table contents).
-/
end Vata.Props
