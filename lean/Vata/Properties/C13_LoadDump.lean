import Vata.Proofs.LoadDump
import Vata.Proofs.TimbukEval
/-!
# C13 (continued) – dump and load of the explicit tree automaton through the dictionaries

> … and for every automaton in any of the four encodings, dumping it and loading the text again yields the same rules
> and final states under the same state names.

This file covers the clause above for the **explicit tree automaton** encoding (`-r expl`): the layer between an
`AutDescription` and the automaton, i.e. `LoadableAut::LoadFromAutDesc (desc, stateDict)` / `DumpToAutDesc (stateDict)`,
`ExplicitTreeAutCore::loadFromAutDescInternal` / `dumpToAutDescInternal`, the state dictionary (`TwoWayDict`) with its weak
/ strict translators, and the alphabet's `(name, rank) ↦ number` dictionary (`OnTheFlyAlphabet`).  Composed with the text
layer of `C13.lean` (`parse_serialize`) it gives the round trip through the text.

## How the statement is read into the model

* **Model** (`Vata/LoadDump.lean`, executable, compared with the real library by a probe on the examples of
  `Vata.LoadDumpTest`).  A dictionary is `Dict κ := List (κ × Nat)`, the pairs in insertion order; `fwd?` / `bwd?` find the
  first pair with the key / the value, which is the content of the two `std::map`s of a `TwoWayDict` (also after a clash,
  when the second `bwdMap_.insert` is refused).  `loadTA d stateDict symDict : Except String (TA × StateDict × SymDict)`
  hands out numbers in order of first occurrence (symbols of `d.symbols`, then the final states, then per transition the
  children, the symbol with the number of children as rank, the parent); the symbol counter is the size of the alphabet's
  dictionary, the **state counter starts at 0 whatever the state dictionary contains** (as in the C++).
  `dumpTA A stateDict symDict : Except String AutDesc` translates back strictly (`.error "No translation for n"` where
  the C++ throws) and returns final states and transitions in `std::set` order, **no name, no symbols, no states** (as the
  C++).  `loadString` / `dumpString` compose with `parseTimbuk` / `serialize`.
* **"the same rules and final states under the same state names"** is `d'.final ≈ d.final ∧ d'.trans ≈ d.trans` on the
  descriptions (`≈`: the same set), as in `C13.lean`.
* `Dict.Ok`: distinct keys and `i`-th value `i` – the invariant of a dictionary that only a weak translator with the
  counter at the size has filled (the alphabet's dictionary always; a state dictionary that was empty before the load).
  It implies injectivity in both directions (`C13_dictionary_two_way`).
-/
namespace Vata.Props
open Vata.Timbuk Vata.LoadDump

/-- what a load on a fresh state dictionary computes: dictionaries that are `Ok` again, the state dictionary knowing
exactly the state names of the final states and transitions, the alphabet extended by exactly the symbol keys of the
description, and the description translated by them -/
theorem C13_load_numbering (d : AutDesc) (yd : SymDict) (hyd : yd.Ok) :
    ∃ A sd yd', loadTA d [] yd = .ok (A, sd, yd') ∧ sd.Ok ∧ yd'.Ok ∧ Dict.Sub yd yd' ∧
      (∀ q, q ∈ sd.keys ↔ q ∈ stateNames d) ∧ (∀ k, k ∈ yd'.keys ↔ k ∈ yd.keys ∨ k ∈ symKeys d) ∧
      A.final = d.final.map sd.get ∧
      A.rules = d.trans.map (fun t => ⟨yd'.get (t.2.1, t.1.length), t.1.map sd.get, sd.get t.2.2⟩) :=
  load_spec d yd hyd

example : LoadDumpEx.ydUsed.Ok := LoadDumpEx.ydUsed_ok
/-- executed: final states first (`r ↦ 0`, `q ↦ 1`), symbols `(a,0) ↦ 0`, `(f,2) ↦ 1` -/
example : loadTA TimbukEx.exE [] [] = .ok
    (⟨[⟨1, [1, 0], 0⟩, ⟨0, [], 1⟩, ⟨1, [0, 0], 1⟩], [0, 1, 0]⟩, [("r", 0), ("q", 1)], [(("a", 0), 0), (("f", 2), 1)]) := rfl

/-- an `Ok` dictionary is two-way: `bwd?` inverts `fwd?`, and both are injective -/
theorem C13_dictionary_two_way {κ : Type} [DecidableEq κ] (D : Dict κ) (h : D.Ok) :
    (∀ k v, D.bwd? v = some k ↔ D.fwd? k = some v) ∧
    (∀ k k' v, D.fwd? k = some v → D.fwd? k' = some v → k = k') ∧
    (∀ v v' k, D.bwd? v = some k → D.bwd? v' = some k → v = v') :=
  ⟨fun _ _ => h.bwd_fwd, h.injective.1, h.injective.2⟩

example : LoadDumpEx.exYd.Ok := LoadDumpEx.exYd_ok

/-- **load then dump** (fresh state dictionary, an alphabet that may be in use): the load succeeds, the dictionaries are
injective afterwards, the dump with them succeeds and has the same final states and the same rules under the same names.
No hypothesis on the description: a symbol name used with two ranks is two symbols of the alphabet. -/
theorem C13_load_dump_roundtrip (d : AutDesc) (yd : SymDict) (hyd : yd.Ok) :
    ∃ A sd yd' d', loadTA d [] yd = .ok (A, sd, yd') ∧ sd.Ok ∧ yd'.Ok ∧ dumpTA A sd yd' = .ok d' ∧
      d'.final ≈ d.final ∧ d'.trans ≈ d.trans :=
  load_dump_roundtrip_shared d yd hyd

/-- `exD`: nullary to ternary rules, `f` with ranks 2 and 3, duplicates, unsorted, no final state -/
example : LoadDumpEx.ydUsed.Ok ∧ TimbukEx.exD.trans.length = 6 ∧ ¬ TimbukEx.exD.Ranked :=
  ⟨LoadDumpEx.ydUsed_ok, by decide, by decide⟩

/-- the same with empty initial dictionaries -/
theorem C13_load_dump_roundtrip_fresh (d : AutDesc) :
    ∃ A sd yd d', loadTA d [] [] = .ok (A, sd, yd) ∧ sd.Ok ∧ yd.Ok ∧ dumpTA A sd yd = .ok d' ∧
      d'.final ≈ d.final ∧ d'.trans ≈ d.trans :=
  load_dump_roundtrip d

/-- executed on `exE` -/
example : dumpTA ⟨[⟨1, [1, 0], 0⟩, ⟨0, [], 1⟩, ⟨1, [0, 0], 1⟩], [0, 1, 0]⟩ [("r", 0), ("q", 1)]
    [(("a", 0), 0), (("f", 2), 1)] = .ok
    ⟨"", [], [], ["q", "r"], [([], "a", "q"), (["q", "r"], "f", "r"), (["r", "r"], "f", "q")]⟩ := ok_of_toOption (by decide +kernel)

/-- the exact description that comes back, and what a dump never contains: the name, the symbols and the states of the
description are lost (the dump writes `Ops`, `Automaton anonymous` and `States` lines without content) -/
theorem C13_load_dump_exact (d : AutDesc) (yd : SymDict) (hyd : yd.Ok) :
    ∃ A sd yd' d', loadTA d [] yd = .ok (A, sd, yd') ∧ dumpTA A sd yd' = .ok d' ∧ d' = dumpOf d.final d.trans ∧
      d'.name = "" ∧ d'.symbols = [] ∧ d'.states = [] :=
  have h := dump_loadFrom ⟨[], 0, yd⟩ (init_ok hyd) d
  ⟨_, _, _, _, rfl, h, rfl, dump_fields h⟩

example : TimbukEx.exE.name = "A-1" ∧ TimbukEx.exE.symbols ≠ [] ∧ TimbukEx.exE.states ≠ [] := by decide

/-- **dump → text → load → dump**, for any automaton and dictionaries for which the dump succeeds with good names: the
text of `DumpToString` is accepted by `LoadFromString` (fresh state dictionary, any alphabet in use) and the dump of the
loaded automaton has the same final states and rules again -/
theorem C13_dump_text_load_dump (A : TA) (sd : StateDict) (yd yd₀ : SymDict) (hyd₀ : yd₀.Ok) (d₁ : AutDesc)
    (hd : dumpTA A sd yd = .ok d₁) (hwf : d₁.WellFormed) :
    ∃ A' sd' yd' d₃, dumpString A sd yd = .ok (serialize d₁) ∧
      loadString (serialize d₁) [] yd₀ = .ok (A', sd', yd') ∧ sd'.Ok ∧ yd'.Ok ∧
      dumpTA A' sd' yd' = .ok d₃ ∧ d₃.final ≈ d₁.final ∧ d₃.trans ≈ d₁.trans :=
  dump_load_dump A sd yd yd₀ hyd₀ d₁ hd hwf

/-- an automaton that was not loaded (states 5 and 7 named `q5`, `top`) -/
example : dumpTA LoadDumpEx.exA LoadDumpEx.exSd LoadDumpEx.exYd = .ok
    ⟨"", [], [], ["top"], [([], "a", "q5"), (["q5", "q5"], "f", "top"), (["top", "q5"], "f", "top")]⟩ ∧
    (⟨"", [], [], ["top"], [([], "a", "q5"), (["q5", "q5"], "f", "top"), (["top", "q5"], "f", "top")]⟩ :
      AutDesc).WellFormed ∧ LoadDumpEx.ydUsed.Ok := ⟨ok_of_toOption (by decide +kernel), by decide +kernel, LoadDumpEx.ydUsed_ok⟩

/-- **the whole chain** from a well-formed description: load, dump to text, load the text (fresh state dictionary, the
alphabet as the first load left it), dump – the final states and rules of the description again -/
theorem C13_text_roundtrip (d : AutDesc) (hwf : d.WellFormed) :
    ∃ A sd yd txt A' sd' yd' d₃, loadTA d [] [] = .ok (A, sd, yd) ∧ dumpString A sd yd = .ok txt ∧
      loadString txt [] yd = .ok (A', sd', yd') ∧ dumpTA A' sd' yd' = .ok d₃ ∧
      d₃.final ≈ d.final ∧ d₃.trans ≈ d.trans :=
  text_roundtrip d hwf

example : TimbukEx.exD.WellFormed ∧ TimbukEx.exE.WellFormed := ⟨TimbukEx.exD_wf, TimbukEx.exE_wf⟩

/-! ### the state counter and a pre-filled state dictionary -/

/-- **Finding.**  `LoadFromAutDesc (desc, stateDict)` starts the state counter at 0 (`StateType state (0)`) also when
`stateDict` already has entries.  Loading `a -> q, b -> p, Final p` with the dictionary `p ↦ 0` that a previous load left
gives `q` the number 0 too: the forward map has `p ↦ 0, q ↦ 0`, the backward map keeps `0 ↦ p`; the dictionary is not
injective, the dump writes `a -> p` instead of `a -> q`, and the loaded automaton accepts the leaf `a`, which the
description does not (with a fresh dictionary it does not).  The real library behaves exactly so (it prints "backward
mapping for 0 already found: p" and carries on; the `assert (false)` is compiled out).  Only `stateDict`s that are empty
(as in the command-line tool, which uses a fresh dictionary per operand) are safe. -/
theorem C13_prefilled_state_dictionary_clash :
    LoadDumpEx.preSd.Ok ∧
    (∃ A sd yd, loadTA LoadDumpEx.preD LoadDumpEx.preSd LoadDumpEx.preYd = .ok (A, sd, yd) ∧
      sd = [("p", 0), ("q", 0)] ∧ sd.bwd? 0 = some "p" ∧
      ¬ (∀ k k' v, sd.fwd? k = some v → sd.fwd? k' = some v → k = k')) ∧
    (∃ A sd yd d', loadTA LoadDumpEx.preD LoadDumpEx.preSd LoadDumpEx.preYd = .ok (A, sd, yd) ∧
      dumpTA A sd yd = .ok d' ∧ ([], "a", "q") ∈ LoadDumpEx.preD.trans ∧ ([], "a", "q") ∉ d'.trans ∧
      ([], "a", "p") ∈ d'.trans ∧ ([], "a", "p") ∉ LoadDumpEx.preD.trans) ∧
    (∃ A sd yd, loadTA LoadDumpEx.preD LoadDumpEx.preSd LoadDumpEx.preYd = .ok (A, sd, yd) ∧
      yd.fwd? ("a", 0) = some 1 ∧ accepts A (.node 1 []) = true) ∧
    (∃ A sd yd, loadTA LoadDumpEx.preD [] LoadDumpEx.preYd = .ok (A, sd, yd) ∧
      yd.fwd? ("a", 0) = some 1 ∧ accepts A (.node 1 []) = false) :=
  ⟨LoadDumpEx.preSd_ok,
   ⟨_, _, _, rfl, rfl, rfl, fun h => absurd (h "p" "q" 0 rfl rfl) (by decide +kernel)⟩,
   LoadDumpEx.prefilled_roundtrip_fails, LoadDumpEx.prefilled_language_changes.1,
   LoadDumpEx.prefilled_language_changes.2⟩

/-- the pre-filled dictionary is the one a load of the one-state automaton `b -> p` leaves -/
example : loadTA LoadDumpEx.pre0 [] [] = .ok (⟨[⟨0, [], 0⟩], [0]⟩, LoadDumpEx.preSd, LoadDumpEx.preYd) := rfl

/-- with the counter at the size of the dictionary (what the union fix `06324a39` does for its maps) the round trip
holds for every pre-filled `Ok` state dictionary: old entries are kept, new names get fresh numbers -/
theorem C13_counter_at_size_roundtrip (d : AutDesc) (sd : StateDict) (yd : SymDict) (hsd : sd.Ok) (hyd : yd.Ok) :
    ∃ d', dumpTA (loadFrom ⟨sd, sd.length, yd⟩ d).1 (loadFrom ⟨sd, sd.length, yd⟩ d).2.sd
        (loadFrom ⟨sd, sd.length, yd⟩ d).2.yd = .ok d' ∧
      (loadFrom ⟨sd, sd.length, yd⟩ d).2.sd.Ok ∧ Dict.Sub sd (loadFrom ⟨sd, sd.length, yd⟩ d).2.sd ∧
      d'.final ≈ d.final ∧ d'.trans ≈ d.trans := by
  have hs : (⟨sd, sd.length, yd⟩ : LSt).Ok := ⟨hsd, rfl, hyd⟩
  obtain ⟨h, _⟩ := loadFrom_spec _ d
  have o := h.ok hs
  exact ⟨_, dump_loadFrom _ hs d, o.sd, h.sd.sub, dumpOf_final _ _, dumpOf_trans _ _⟩

example : LoadDumpEx.preSd.Ok ∧ LoadDumpEx.preYd.Ok ∧
    (loadFrom ⟨LoadDumpEx.preSd, LoadDumpEx.preSd.length, LoadDumpEx.preYd⟩ LoadDumpEx.preD).2.sd =
      [("p", 0), ("q", 1)] := ⟨LoadDumpEx.preSd_ok, ⟨by decide, by decide⟩, rfl⟩

/-! ### symbol names -/

/-- the dump writes only the name of a symbol; when the transitions use each name with one number of children, rules
whose symbols have the same name have the same symbol (in general not: `LoadDumpEx.unranked_names`) -/
theorem C13_ranked_symbol_names (d : AutDesc) (yd : SymDict) (hyd : yd.Ok) (hr : d.Ranked) :
    ∃ A sd yd', loadTA d [] yd = .ok (A, sd, yd') ∧
      ∀ r r', r ∈ A.rules → r' ∈ A.rules → symNameOf yd' r.sym = symNameOf yd' r'.sym → r.sym = r'.sym :=
  load_ranked_names d yd hyd hr

example : TimbukEx.exE.Ranked ∧ ¬ TimbukEx.exD.Ranked := by decide

/-!
## which "not yet proved" items of `C13.lean` this file closes, and what remains

* closes **"Dump / load through the four encodings"** for the **explicit tree automaton**: the load, the dump, the
  dictionaries and translators are modelled (`Vata/LoadDump.lean`) and "the same rules and final states under the same
  state names" after load-and-dump, after dump-text-load-dump and along the whole chain is proved
  (`C13_load_dump_roundtrip`, `C13_dump_text_load_dump`, `C13_text_roundtrip`).
* still open: the other three encodings (explicit finite automaton, BDD bottom-up, BDD top-down: their
  `loadFromAutDescInternal` / `dumpToAutDescInternal` are different code: start-state symbols, symbolic encoding of the
  symbols as bit vectors); the correspondence of `loadTA` / `dumpTA` with the C++ on generated inputs (only the probe on
  the examples of `Vata.LoadDumpTest` was run); which exception text comes first when several translations are missing
  (the C++ iterates hash containers, the model its lists).
* the hypothesis `d.Ranked` of the task statement turned out to be unnecessary for the round trips and is not assumed.
* finding: `C13_prefilled_state_dictionary_clash` (state counter restarts at 0 for a pre-filled `stateDict`).
-/
end Vata.Props
