import Vata.RcStoreW
import Vata.Proofs.RcStoreHist
/-!
# The `w`-bit store simulates the unbounded store modulo `2^w` (properties C18 / C20)

`wr w U` = the unbounded store `U` with every counter reduced modulo `2^w`.  Every operation that only allocates and
increments commutes with `wr` unconditionally; the operations that decrement and test a counter commute as long as the
tested counter of the unbounded store is below `2^w` and no `assert(refcnt_ > 0)` fails.
-/
namespace Vata.RcSW
open Vata.RcS

def wr (w : Nat) (U : Store) : Store := { U with rc := fun n => U.rc n % 2^w }

def wrP (w : Nat) (r : Store × Nat) : Store × Nat := (wr w r.1, r.2)

theorem wr_rc (w : Nat) (U : Store) (n : Nat) : (wr w U).rc n = U.rc n % 2^w := rfl

theorem incRef_wr (w : Nat) (U : Store) (n : Nat) : incRef w (wr w U) n = wr w (RcS.incRef U n) := by
  simp only [incRef, wr, RcS.incRef, Store.mk.injEq, true_and, and_true]
  funext x
  by_cases e : x = n
  · rw [e, RcS.incrRc_same]; exact if_pos rfl |>.trans (Nat.mod_add_mod ..)
  · rw [RcS.incrRc_ne _ e]; exact if_neg e

theorem setF_zero_wr (w : Nat) (rc : Nat → Nat) (n : Nat) :
    setF (fun x => rc x % 2^w) n 0 = fun x => setF rc n 0 x % 2^w := by
  funext x
  by_cases e : x = n
  · rw [e, setF_same, setF_same]; rfl
  · rw [setF_ne _ _ e, setF_ne _ _ e]

theorem allocLeaf_wr (w : Nat) (U : Store) (v : Nat) : allocLeaf (wr w U) v = wr w (allocLeaf U v) := by
  simp only [allocLeaf, wr, Store.mk.injEq, true_and, and_true]
  exact setF_zero_wr w U.rc U.next

theorem spawnLeaf_wr (w : Nat) (U : Store) (v : Nat) : spawnLeaf (wr w U) v = wrP w (spawnLeaf U v) := by
  have : (wr w U).leafT = U.leafT := rfl
  cases hf : find v U.leafT with
  | some n => simp only [spawnLeaf, wrP, this, hf]
  | none => simp only [spawnLeaf, wrP, this, hf, allocLeaf_wr]; rfl

theorem allocInt_wr (w : Nat) (U : Store) (lo hi var : Nat) :
    allocInt w (wr w U) lo hi var = wr w (RcS.allocInt U lo hi var) := by
  rw [allocInt, RcS.allocInt, ← incRef_wr, ← incRef_wr]
  congr 2
  simp only [wr, Store.mk.injEq, true_and, and_true]
  exact setF_zero_wr w U.rc U.next

theorem spawnInternal_wr (w : Nat) (U : Store) (lo hi var : Nat) :
    spawnInternal w (wr w U) lo hi var = wrP w (RcS.spawnInternal U lo hi var) := by
  have : (wr w U).intT = U.intT := rfl
  cases hf : find (lo, hi, var) U.intT with
  | some n => simp only [spawnInternal, RcS.spawnInternal, wrP, this, hf]
  | none => simp only [spawnInternal, RcS.spawnInternal, wrP, this, hf, allocInt_wr]; rfl

theorem buildCube_wr (w : Nat) (sink : Nat) : ∀ (as : List (Option Bool)) (U : Store) (proc i : Nat),
    buildCube w sink (wr w U) proc i as = wrP w (RcS.buildCube sink U proc i as)
  | [], U, proc, i => rfl
  | none :: as, U, proc, i => buildCube_wr w sink as U proc (i+1)
  | some b :: as, U, proc, i => by
    -- the two values differ only in the order of the children
    cases b
    all_goals
      rw [buildCube, RcS.buildCube, spawnInternal_wr]
      exact buildCube_wr w sink as _ _ (i+1)

theorem recDescend_wr (w : Nat) (f : Nat → Nat → Nat) : ∀ (fuel : Nat) (U : Store) (n1 n2 : Nat),
    recDescend w f fuel (wr w U) n1 n2 = wrP w (RcS.recDescend f fuel U n1 n2)
  | 0, U, n1, n2 => rfl
  | fuel+1, U, n1, n2 => by
    have hd : (wr w U).dat = U.dat := rfl
    simp only [recDescend, RcS.recDescend, hd]
    by_cases hb : br (U.dat n1) (U.dat n2) = false ∧ br (U.dat n2) (U.dat n1) = false
    · rw [if_pos hb, if_pos hb]
      exact spawnLeaf_wr w U _
    · rw [if_neg hb, if_neg hb]
      simp only [recDescend_wr w f fuel, wrP]
      split
      · rfl
      · exact spawnInternal_wr w _ _ _ _

theorem addHandle_wr (w : Nat) (U : Store) (h r : Nat) : addHandle w (wr w U) h r = wr w (RcS.addHandle U h r) := by
  simp only [addHandle, RcS.addHandle, incRef_wr]; rfl

theorem copy_wr (w : Nat) (U : Store) (src dst : Nat) : copy w (wr w U) src dst = wr w (RcS.copy U src dst) := by
  have hh : (wr w U).hs = U.hs := rfl
  simp only [copy, RcS.copy, hh]
  cases find src U.hs <;> cases find dst U.hs <;> simp only [addHandle_wr]

theorem apply2_wr (w : Nat) (f : Nat → Nat → Nat) (U : Store) (a b dst : Nat) :
    apply2 w f (wr w U) a b dst = wr w (RcS.apply2 f U a b dst) := by
  have hh : (wr w U).hs = U.hs := rfl
  simp only [apply2, RcS.apply2, hh]
  cases find a U.hs <;> cases find b U.hs <;> cases find dst U.hs <;> simp only [recDescend_wr, wrP, addHandle_wr]

theorem disposeLeaf_wr (w : Nat) (U : Store) (n v : Nat) : disposeLeaf (wr w U) n v = wr w (disposeLeaf U n v) := rfl
theorem unlinkInt_wr (w : Nat) (U : Store) (n : Nat) (k : IKey) : unlinkInt (wr w U) n k = wr w (unlinkInt U n k) := rfl

theorem decRef_wr (w : Nat) (U : Store) (n : Nat) (h0 : U.rc n ≠ 0) (hb : U.rc n < 2^w) :
    decRef w (wr w U) n = wr w (RcS.decRef U n) := by
  have hm : U.rc n % 2^w = U.rc n := Nat.mod_eq_of_lt hb
  simp only [decRef, wr, RcS.decRef, Store.mk.injEq, true_and, hm]
  refine ⟨?_, rfl⟩
  funext x
  by_cases e : x = n
  · rw [e, decrRc_same, decrRc, if_pos rfl, hm, show U.rc n + 2^w - 1 = (U.rc n - 1) + 2^w by omega, Nat.add_mod_right]
  · rw [decrRc_ne _ e, decrRc, if_neg e]

theorem decRef_err {s : Store} {n : Nat} (h : (RcS.decRef s n).err = false) :
    s.err = false ∧ s.rc n ≠ 0 ∧ n ∈ s.ids := by
  simp [RcS.decRef] at h; exact ⟨h.1.1, h.1.2, h.2⟩

/-- every allocated node has fewer than `2^w` referrers: its counter fits into `w` bits -/
def Bd (w : Nat) (s : Store) : Prop := ∀ n, n ∈ s.ids → s.rc n < 2^w

theorem Bd.shrinks {w : Nat} {s s' : Store} (hb : Bd w s) (sh : Shrinks s s') : Bd w s' :=
  fun x hx => Nat.lt_of_le_of_lt (sh.rc x) (hb x (sh.ids x hx))

theorem release_wr (w : Nat) : ∀ (fuel : Nat) (U : Store) (n : Nat), Bd w U → (RcS.release fuel U n).err = false →
    release w fuel (wr w U) n = wr w (RcS.release fuel U n)
  | 0, U, n, _, _ => rfl
  | fuel+1, U, n, hb, he => by
    obtain ⟨-, hnz, hnin⟩ := decRef_err ((release_succ_shrinks (release_shrinks fuel) U n).err he)
    have hdec := decRef_wr w U n hnz (hb n hnin)
    have hd : (wr w U).dat = U.dat := rfl
    have hb0 : Bd w (RcS.decRef U n) := hb.shrinks (decRef_shrinks U n)
    have htest : ((wr w (RcS.decRef U n)).rc n = 0) ↔ ((RcS.decRef U n).rc n = 0) := by
      rw [wr_rc, Nat.mod_eq_of_lt (hb0 n hnin)]
    simp only [release, RcS.release, hdec, hd] at he ⊢
    by_cases ht : (RcS.decRef U n).rc n = 0
    · rw [if_pos (htest.mpr ht)]
      rw [if_pos ht] at he ⊢
      cases hdat : U.dat n with
      | leaf v => rfl
      | int lo hi var =>
        simp only [hdat] at he ⊢
        have hb1 : Bd w (unlinkInt (RcS.decRef U n) n (lo, hi, var)) := hb0.shrinks (erase_shrinks _ ht ..)
        rw [unlinkInt_wr, release_wr w fuel _ lo hb1 ((release_shrinks fuel _ hi).err he)]
        exact release_wr w fuel _ hi (hb1.shrinks (release_shrinks fuel _ lo)) he
    · rw [if_neg (fun h => ht (htest.mp h))]
      rw [if_neg ht]

theorem destroy_wr (w : Nat) (U : Store) (h : Nat) (hb : Bd w U) (he : (RcS.destroy U h).err = false) :
    destroy w (wr w U) h = wr w (RcS.destroy U h) := by
  have hh : (wr w U).hs = U.hs := rfl
  have hi : (wr w U).ids = U.ids := rfl
  simp only [destroy, RcS.destroy, hh, hi] at he ⊢
  cases hf : find h U.hs with
  | none => rfl
  | some r =>
    simp only [hf] at he ⊢
    exact release_wr w _ { U with hs := U.hs.erase (h, r) } r hb he

theorem copy_err (U : Store) (src dst : Nat) : (RcS.copy U src dst).err = U.err := by
  simp only [RcS.copy]; split <;> rfl

theorem assign_wr (w : Nat) (U : Store) (src dst : Nat) (hb : Bd w U) (he : (RcS.assign U src dst).err = false) :
    assign w (wr w U) src dst = wr w (RcS.assign U src dst) := by
  have hh : (wr w U).hs = U.hs := rfl
  simp only [assign, RcS.assign, hh] at he ⊢
  by_cases e : src = dst
  · simp only [e, if_true]
  · simp only [e, if_false] at he ⊢
    cases hs : find src U.hs with
    | none => rfl
    | some a =>
      cases hd : find dst U.hs with
      | none => rfl
      | some b =>
        simp only [hs, hd, copy_err] at he ⊢
        rw [destroy_wr w U dst hb he, copy_wr]

theorem addHandle_rc_le (U : Store) (h r x : Nat) : U.rc x ≤ (RcS.addHandle U h r).rc x := by
  show _ ≤ RcS.incrRc U.rc r x
  rw [incrRc_apply]
  exact Nat.le_add_right _ _

/-- the tail of `constructMTBDD`: `if (procNode == node) { if (GetRefCnt(sink) == 0) disposeOfLeafNode(sink); }`,
    `IncrementRefCnt(procNode)` -/
theorem construct_tail_wr (w : Nat) (S : Store) (a b x d h : Nat) (hx : x ∈ S.ids)
    (hb : Bd w (RcS.addHandle (if a = b then (if S.rc x = 0 then disposeLeaf S x d else S) else S) h a)) :
    addHandle w (if a = b then (if (wr w S).rc x = 0 then disposeLeaf (wr w S) x d else wr w S) else wr w S) h a =
      wr w (RcS.addHandle (if a = b then (if S.rc x = 0 then disposeLeaf S x d else S) else S) h a) := by
  by_cases hab : a = b
  · rw [if_pos hab] at hb ⊢
    rw [if_pos hab]
    by_cases hz : S.rc x = 0
    · rw [if_pos hz, if_pos (show (wr w S).rc x = 0 by rw [wr_rc, hz, Nat.zero_mod]), disposeLeaf_wr, addHandle_wr]
    · rw [if_neg hz] at hb ⊢
      -- the sink is referred to, by fewer than `2^w` referrers: its stored counter is not 0 either
      have hlt : S.rc x < 2^w := Nat.lt_of_le_of_lt (addHandle_rc_le S h a x) (hb x hx)
      rw [if_neg (show (wr w S).rc x ≠ 0 by rw [wr_rc, Nat.mod_eq_of_lt hlt]; exact hz), addHandle_wr]
  · rw [if_neg hab, if_neg hab, addHandle_wr]

theorem construct_wr (w : Nat) (U : Store) (h : Nat) (asgn : List (Option Bool)) (v d : Nat) (hi : WInv U [])
    (hb : Bd w (RcS.construct U h asgn v d)) :
    construct w (wr w U) h asgn v d = wr w (RcS.construct U h asgn v d) := by
  have hh : (wr w U).hs = U.hs := rfl
  simp only [construct, RcS.construct, hh] at hb ⊢
  cases hf : find h U.hs with
  | some r => rfl
  | none =>
    simp only [hf] at hb ⊢
    simp only [spawnLeaf_wr, wrP]
    by_cases hvd : v = d
    · simp only [hvd, if_true, addHandle_wr]
    · simp only [hvd, if_false] at hb ⊢
      simp only [wrP, buildCube_wr]
      obtain ⟨-, w2, -, m1, m2, -, d2, -⟩ := construct_leaves hi hvd rfl rfl
      exact construct_tail_wr w _ _ _ _ _ _ ((built_buildCube _ d asgn _ _ 0 w2 m2 m1 d2).1.ext.ids _ m2) hb

theorem Bd_of_bounded {w : Nat} {s : Store} (h : bounded w s = true) : Bd w s := by
  intro n hn
  simp only [bounded, List.all_eq_true, decide_eq_true_eq] at h
  exact h n hn

/-- one operation: if the allocated nodes of the unbounded store have fewer than `2^w` referrers before and after the
    operation, the `w`-bit store does the same as the unbounded one (modulo `2^w`) -/
theorem stepF_wr (w : Nat) (f : Nat → Nat → Nat) (U : Store) (op : Op) (hi : Inv U) (hb : Bd w U)
    (hb' : Bd w (RcS.stepF f U op)) : stepF w f (wr w U) op = wr w (RcS.stepF f U op) := by
  have he : (RcS.stepF f U op).err = false := (stepF_inv f op hi).1.1.noerr
  cases op with
  | construct h asgn v d => exact construct_wr w U h asgn v d hi.1 hb'
  | copy src dst => exact copy_wr w U src dst
  | assign src dst => exact assign_wr w U src dst hb he
  | apply a b dst => exact apply2_wr w f U a b dst
  | destroy h => exact destroy_wr w U h hb he

theorem histBoundedFrom_cons {w : Nat} {f : Nat → Nat → Nat} {s : Store} {op : Op} {ops : List Op} :
    histBoundedFrom w f s (op :: ops) = true ↔
      bounded w s = true ∧ histBoundedFrom w f (RcS.stepF f s op) ops = true := by
  rw [histBoundedFrom, Bool.and_eq_true]

theorem histBoundedFrom_head {w : Nat} {f : Nat → Nat → Nat} : ∀ {ops : List Op} {s : Store},
    histBoundedFrom w f s ops = true → bounded w s = true
  | [], _, h => h
  | _ :: _, _, h => (histBoundedFrom_cons.mp h).1

theorem foldl_wr (w : Nat) (f : Nat → Nat → Nat) : ∀ (ops : List Op) (U : Store), Inv U →
    histBoundedFrom w f U ops = true → ops.foldl (stepF w f) (wr w U) = wr w (ops.foldl (RcS.stepF f) U)
  | [], _, _, _ => rfl
  | op :: ops, U, hi, hb => by
    obtain ⟨hb1, hb2⟩ := histBoundedFrom_cons.mp hb
    rw [List.foldl_cons, List.foldl_cons,
      stepF_wr w f U op hi (Bd_of_bounded hb1) (Bd_of_bounded (histBoundedFrom_head hb2))]
    exact foldl_wr w f ops _ (stepF_inv f op hi).1 hb2

theorem wr_empty (w : Nat) : wr w empty = empty := by
  simp only [wr, empty, Store.mk.injEq, true_and, and_true]
  funext x; simp

theorem runF_wr (w : Nat) (f : Nat → Nat → Nat) (ops : List Op) (hb : histBounded w f ops = true) :
    runF w f ops = wr w (RcS.runF f ops) := by
  have := foldl_wr w f ops empty inv_empty hb
  rw [wr_empty] at this
  exact this

/-! ## equality

`wr w s = s` needs the counters of ALL nodes below `2^w`, also of those that are not allocated: they are 0 (`RcS.runF_zr`: a
node is deleted only when its counter is 0, a fresh node gets counter 0, only allocated nodes are incremented). -/

theorem wr_eq_self {w : Nat} {s : Store} (hb : Bd w s) (hz : Zr s) : wr w s = s := by
  cases s with
  | mk ids dat rc leafT intT hs next freed err =>
    simp only [wr, Store.mk.injEq, true_and, and_true]
    funext n
    by_cases hn : n ∈ ids
    · exact Nat.mod_eq_of_lt (hb n hn)
    · have : rc n = 0 := hz n hn
      simp [this]

theorem histBoundedFrom_take {w : Nat} {f : Nat → Nat → Nat} : ∀ (ops : List Op) (s : Store) (k : Nat),
    histBoundedFrom w f s ops = true → histBoundedFrom w f s (ops.take k) = true
  | [], _, _, h => by rwa [List.take_nil]
  | _ :: _, _, 0, h => histBoundedFrom_head h
  | op :: ops, s, k+1, h => by
    rw [List.take_succ_cons, histBoundedFrom_cons] at *
    exact ⟨h.1, histBoundedFrom_take ops _ k h.2⟩

theorem histBoundedFrom_last {w : Nat} {f : Nat → Nat → Nat} : ∀ (ops : List Op) (s : Store),
    histBoundedFrom w f s ops = true → bounded w (ops.foldl (RcS.stepF f) s) = true
  | [], _, h => h
  | _ :: ops, _, h => histBoundedFrom_last ops _ (histBoundedFrom_cons.mp h).2

/-- the main simulation theorem: on a bounded history the `w`-bit store is *equal* to the unbounded store -/
theorem runF_eq (w : Nat) (f : Nat → Nat → Nat) (ops : List Op) (hb : histBounded w f ops = true) :
    runF w f ops = RcS.runF f ops := by
  rw [runF_wr w f ops hb]
  exact wr_eq_self (Bd_of_bounded (histBoundedFrom_last ops empty hb)) (runF_zr f ops)

end Vata.RcSW
