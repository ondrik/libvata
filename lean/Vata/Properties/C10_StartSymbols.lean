import Vata.NfaStart
import Vata.Proofs.NfaStart
/-!
# C10 (also C09, C13) – the word automata WITH their start symbols

> C10: for nondeterministic finite word automata, Union / UnionDisjointStates / Intersection / Reverse /
> RemoveUnreachableStates / RemoveUselessStates / GetCandidateTree are exact.

`Vata/Properties/C10.lean` proves the language statements on `Vata.W.NFA`, a model WITHOUT the start symbols of the C++
(`startStateToSymbols_ : start state ↦ set of symbols`, the nullary Timbuk rules `sym -> q`; three of the defects found in
this library – D4 / D15, D5, D12 – lived there).  This file closes that gap.

## How the statement is read into the model

* **Model of the code.**  `Vata.NFAS` (`Vata/NfaStart.lean`) = `Vata.W.NFA` + `startSyms`, the map as an association list in
  which the first entry of a key counts (`unordered_map::insert` never overwrites, nothing erases).  `NFAS.toNFA` is the
  projection; `A.symsOf q` is `GetStartSymbols (q)`; `A.dumpSyms q` what the dump writes for the start state `q` (the symbol
  `x`, protocol number `NFAS.xSym = 12`, for an empty set).  Every operation `nfas…` is the operation of `Vata/NfaOps.lean` on
  `toNFA` paired with what the current C++ does to the map – INCLUDING the entries of non-start states (*stale* entries)
  that `Reverse` and `RemoveUnreachableStates` leave behind.
* **Correspondence.**  Kind `nfas` of the check (`harness/ops/op_nfas.inc`, `Driver/NfaStartChk.lean`, `tools/gen_nfas.py`): histories
  of all these operations on the real class, with several start symbols; after every step the dump AND `GetStartSymbols` of
  every start state of every live object are compared with the model exactly.
* **What is specification.**  For each operation: the start symbols every start state of the result shows, in terms of what
  the operands showed (`C10_start_*_spec`); dump / load (`C10_start_dump_load`, C13); the invariants of histories
  (`C10_start_history_*`).  The specifications of `SetStateStart`, `SetExistingStateStart` and `UnionDisjointStates` carry a
  hypothesis "no stale entry is hit" that cannot be checked through the API; `C10_start_stale_observable` shows that it is
  needed – and the real class breaks the hypothesis-free reading too (finding, `harness/nfas_witness_stale.txt`).
-/
namespace Vata.Props
open Vata.W Vata.NfaS

/-! ### (1) the language does not depend on the start symbols -/

/-- `toNFA` commutes with every operation: the automaton without symbols of a result is the result of the operation of
`Vata/NfaOps.lean` on the automata without symbols of the operands – whatever the start symbols are -/
theorem C10_start_language_independent (A B : NFAS) :
    (∀ fA fB, (nfasUnionWith fA fB A B).toNFA = nfaUnionWith fA fB A.toNFA B.toNFA) ∧
    (nfasUnion A B).toNFA = nfaUnion A.toNFA B.toNFA ∧
    (nfasUnionDisjoint A B).toNFA = nfaUnionDisjoint A.toNFA B.toNFA ∧
    (∀ f, (nfasMap f A).toNFA = nfaMap f A.toNFA) ∧
    (∀ fuel, (nfasIntersection A B fuel).map NFAS.toNFA = nfaIntersection A.toNFA B.toNFA fuel) ∧
    (nfasIsect A B).toNFA = nfaIsect A.toNFA B.toNFA ∧
    (nfasReverse A).toNFA = nfaReverse A.toNFA ∧
    (nfasRemoveUnreachable A).toNFA = nfaRemoveUnreachable A.toNFA ∧
    (nfasRemoveUseless A).toNFA = nfaRemoveUseless A.toNFA ∧
    (nfasCandidate A).toNFA = nfaCandidate A.toNFA :=
  ⟨fun _ _ => rfl, rfl, rfl, fun _ => rfl, nfasIntersection_toNFA A B, nfasIsect_toNFA A B, rfl, rfl, rfl, rfl⟩

/-- … so the language statements of C10 hold for the automata with start symbols -/
theorem C10_start_languages (A B : NFAS) (w : List Nat) :
    acceptsW (nfasUnion A B).toNFA w = (acceptsW A.toNFA w || acceptsW B.toNFA w) ∧
    acceptsW (nfasIsect A B).toNFA w = (acceptsW A.toNFA w && acceptsW B.toNFA w) ∧
    acceptsW (nfasReverse A).toNFA w = acceptsW A.toNFA w.reverse ∧
    acceptsW (nfasRemoveUnreachable A).toNFA w = acceptsW A.toNFA w ∧
    acceptsW (nfasRemoveUseless A).toNFA w = acceptsW A.toNFA w ∧
    (acceptsW (nfasCandidate A).toNFA w = true → acceptsW A.toNFA w = true) ∧
    ((∃ w, acceptsW (nfasCandidate A).toNFA w = true) ↔ ∃ w, acceptsW A.toNFA w = true) :=
  ⟨nfasUnion_lang A B w, nfasIsect_lang A B w, nfasReverse_lang A w, nfasRemoveUnreachable_lang A w,
    nfasRemoveUseless_lang A w, (nfasCandidate_lang A).1 w, (nfasCandidate_lang A).2⟩

example : acceptsW (nfasIsect NfaSEx.exA NfaSEx.exB).toNFA [0, 1] = true ∧
    acceptsW (nfasReverse NfaSEx.exA).toNFA [1, 0] = true := by decide +kernel

/-- the same statement as an independence: two automata that differ in their start symbols only give results that differ in
their start symbols only -/
theorem C10_start_symbols_irrelevant (A A' B B' : NFAS) (hA : A.toNFA = A'.toNFA) (hB : B.toNFA = B'.toNFA) :
    (nfasUnion A B).toNFA = (nfasUnion A' B').toNFA ∧ (nfasIsect A B).toNFA = (nfasIsect A' B').toNFA ∧
    (nfasReverse A).toNFA = (nfasReverse A').toNFA ∧ (nfasRemoveUseless A).toNFA = (nfasRemoveUseless A').toNFA ∧
    (nfasCandidate A).toNFA = (nfasCandidate A').toNFA := by
  refine ⟨?_, ?_, ?_, ?_, ?_⟩
  · rw [nfasUnion_toNFA, nfasUnion_toNFA, hA, hB]
  · rw [nfasIsect_toNFA, nfasIsect_toNFA, hA, hB]
  · rw [nfasReverse_toNFA, nfasReverse_toNFA, hA]
  · rw [nfasRemoveUseless_toNFA, nfasRemoveUseless_toNFA, hA]
  · rw [nfasCandidate_toNFA, nfasCandidate_toNFA, hA]

example : NfaSEx.exA.toNFA = (NfaSEx.exA.clean).toNFA := rfl

/-! ### (2) the start symbols of the results -/

/-- `Union` (and `ReindexStates`): the start states of the result are the images of the start states of the operands, and
each image shows exactly the symbols of its source (translation maps injective on the start states, images disjoint – the
code hands out fresh numbers) -/
theorem C10_start_union_spec (fA fB : Nat → Nat) (A B : NFAS)
    (hA : NfaInjOn fA A.start) (hB : NfaInjOn fB B.start) (hdis : ∀ p, p ∈ A.start → ∀ q, q ∈ B.start → fA p ≠ fB q) :
    (∀ t, t ∈ (nfasUnionWith fA fB A B).start ↔ (∃ s, s ∈ A.start ∧ fA s = t) ∨ (∃ s, s ∈ B.start ∧ fB s = t)) ∧
    (∀ s, s ∈ A.start → (nfasUnionWith fA fB A B).symsOf (fA s) = A.symsOf s) ∧
    (∀ s, s ∈ B.start → (nfasUnionWith fA fB A B).symsOf (fB s) = B.symsOf s) :=
  ⟨fun _ => mem_nfasUnionWith_start,
    fun s hs => nfasUnionWith_symsOf_left fA fB A B hs (fun p hp he => hA p hp s hs he),
    fun s hs => nfasUnionWith_symsOf_right fA fB A B hs (fun p hp he => hB p hp s hs he) (fun p hp => hdis p hp s hs)⟩

example : (nfasUnion NfaSEx.exA NfaSEx.exB).start = [0, 1, 4] ∧ (nfasUnion NfaSEx.exA NfaSEx.exB).symsOf 0 = [8, 9] ∧
    (nfasUnion NfaSEx.exA NfaSEx.exB).symsOf 4 = [11] := by decide +kernel

theorem C10_start_reindex_spec (f : Nat → Nat) (A : NFAS) (hf : NfaInjOn f A.start) :
    (∀ t, t ∈ (nfasMap f A).start ↔ ∃ s, s ∈ A.start ∧ f s = t) ∧
    ∀ s, s ∈ A.start → (nfasMap f A).symsOf (f s) = A.symsOf s :=
  ⟨fun _ => mem_nfasMap_start, fun s hs => nfasMap_symsOf f A hs (fun p hp he => hf p hp s hs he)⟩

example : (nfasMap (· + 10) NfaSEx.exA).start = [10, 13] ∧ (nfasMap (· + 10) NfaSEx.exA).symsOf 10 = [8, 9] := by decide +kernel

/-- `UnionDisjointStates`: the start states are those of the two operands; a start state shows the set the LEFT operand's
map holds for it if it holds one, else the right operand's.  Hence: the left operand's start states keep their symbols
(every start state has an entry, `C10_start_history_keys`), and a start state of the right operand keeps its symbols
**provided the left operand's map has no (stale) entry for it** – state-disjointness of the operands does NOT imply this
(`C10_start_stale_observable`). -/
theorem C10_start_unionDisjoint_spec (A B : NFAS) :
    (∀ q, q ∈ (nfasUnionDisjoint A B).start ↔ q ∈ A.start ∨ q ∈ B.start) ∧
    (∀ q, (nfasUnionDisjoint A B).symsOf q = if smHas A.startSyms q = true then A.symsOf q else B.symsOf q) ∧
    (KeysCover A → ∀ q, q ∈ A.start → (nfasUnionDisjoint A B).symsOf q = A.symsOf q) ∧
    (∀ q, smHas A.startSyms q = false → (nfasUnionDisjoint A B).symsOf q = B.symsOf q) := by
  refine ⟨fun _ => mem_nfasUnionDisjoint_start, nfasUnionDisjoint_symsOf A B, ?_, ?_⟩
  · intro hk q hq; rw [nfasUnionDisjoint_symsOf, if_pos (hk q hq)]
  · intro q hq; rw [nfasUnionDisjoint_symsOf, hq]; rfl

example : (nfasUnionDisjoint NfaSEx.exA (nfasMap (· + 10) NfaSEx.exB)).start = [0, 3, 10] ∧
    (nfasUnionDisjoint NfaSEx.exA (nfasMap (· + 10) NfaSEx.exB)).symsOf 10 = [11] ∧
    smHas NfaSEx.exA.startSyms 10 = false := by decide +kernel

/-- `Intersection`: every start state of the result is the number of a pair of start states and carries exactly the union
of the two components' sets (the current code, after the fixes D4 / D15); `m` is the numbering of the pairs, injective -/
theorem C10_start_intersection_spec (A B : NFAS) :
    (∀ fuel P, nfasIntersection A B fuel = some P → ∃ m : Nat × Nat → Nat,
      (∀ p, p ∈ nfaStartPairs A.toNFA B.toNFA → ∀ p', p' ∈ nfaStartPairs A.toNFA B.toNFA → m p = m p' → p = p') ∧
      ∀ t, t ∈ P.start → ∃ l r, l ∈ A.start ∧ r ∈ B.start ∧ t = m (l, r) ∧ P.symsOf t = A.symsOf l ++ B.symsOf r) ∧
    (∀ (D : List (Nat × Nat)) (m : Nat × Nat → Nat),
      (∀ p, p ∈ nfaStartPairs A.toNFA B.toNFA → ∀ p', p' ∈ nfaStartPairs A.toNFA B.toNFA → m p = m p' → p = p') →
      ∀ t, t ∈ (nfasRemoveUseless (nfasProdOn A B D m)).start → ∃ l r, l ∈ A.start ∧ r ∈ B.start ∧ t = m (l, r) ∧
        (nfasRemoveUseless (nfasProdOn A B D m)).symsOf t = A.symsOf l ++ B.symsOf r) :=
  ⟨nfasIntersection_start_syms A B, fun D m hinj _ ht => nfasProd_start_syms A B D m hinj ht⟩

example : (nfasIntersection NfaSEx.exA NfaSEx.exB 5).isSome = true ∧ (nfasIsect NfaSEx.exA NfaSEx.exB).start = [0, 1] ∧
    (nfasIsect NfaSEx.exA NfaSEx.exB).symsOf 0 = [8, 9, 11] := by decide +kernel

/-- `Reverse`: the start states of the result are the final states of the operand.  The map, read as a function
`state ↦ set`, is UNCHANGED: a new start state shows what the operand's map holds for it – nothing if it holds nothing (the
one way, besides an empty set handed to `SetExistingStateStart`, in which a start state without symbols arises), its start
symbols if it was a start state of the operand too, a stale entry if there is one.  The entries of the old start states
stay (stale).  `Reverse ∘ Reverse` therefore restores start states and symbols. -/
theorem C10_start_reverse_spec (A : NFAS) :
    (nfasReverse A).start = A.final ∧ (∀ q, (nfasReverse A).symsOf q = A.symsOf q) ∧
    (∀ q, smHas A.startSyms q = false → (nfasReverse A).symsOf q = []) ∧
    (∀ q, smHas (nfasReverse A).startSyms q = (smHas A.startSyms q || A.final.contains q)) ∧
    ((nfasReverse (nfasReverse A)).start = A.start ∧ ∀ q, (nfasReverse (nfasReverse A)).symsOf q = A.symsOf q) :=
  ⟨rfl, nfasReverse_symsOf A, (nfasReverse_start_syms A).2.2, nfasReverse_has A,
    (nfasReverse_reverse A).1, (nfasReverse_reverse A).2.2⟩

example : (nfasReverse NfaSEx.exA).start = [2, 3] ∧ (nfasReverse NfaSEx.exA).symsOf 2 = [] ∧
    (nfasReverse NfaSEx.exA).symsOf 3 = [10] ∧ smHas (nfasReverse NfaSEx.exA).startSyms 0 = true := by decide +kernel

/-- trimming: `RemoveUnreachableStates` keeps all start states, `RemoveUselessStates` those from which a final state is
reachable; each keeps its symbols (the map read as a function is unchanged).  The map of the result still has the entries
of the removed states, and `RemoveUselessStates` adds an (empty) entry for every final state of the result. -/
theorem C10_start_trim_spec (A : NFAS) :
    ((nfasRemoveUnreachable A).start = A.start ∧ ∀ q, (nfasRemoveUnreachable A).symsOf q = A.symsOf q) ∧
    (∀ s, (s ∈ (nfasRemoveUseless A).start ↔ s ∈ A.start ∧ NfaCoReach A.toNFA s) ∧
      (nfasRemoveUseless A).symsOf s = A.symsOf s) ∧
    (KeysCover A → ∀ q, smHas (nfasRemoveUseless A).startSyms q =
      (smHas A.startSyms q || (nfasRemoveUseless A).final.contains q)) :=
  ⟨⟨nfasRemoveUnreachable_start A, nfasRemoveUnreachable_symsOf A⟩, nfasRemoveUseless_start_syms A, nfasRemoveUseless_has A⟩

example : (nfasRemoveUseless NfaSEx.exA).start = [0, 3] ∧ (nfasRemoveUseless NfaSEx.exA).symsOf 0 = [8, 9] := by decide +kernel

/-- `GetCandidateTree`: the start states of the witness are start states of the operand with the symbols they carry there -/
theorem C10_start_witness_spec (A : NFAS) (s : Nat) (hs : s ∈ (nfasCandidate A).start) :
    s ∈ A.start ∧ (nfasCandidate A).symsOf s = A.symsOf s := nfasCandidate_start_syms A hs

example : 3 ∈ (nfasCandidate NfaSEx.exA).start ∧ (nfasCandidate NfaSEx.exA).symsOf 3 = [10] := by decide +kernel

/-- `SetStateStart (q, a)`: `a` joins whatever the MAP holds for `q`.  Observable form: if `q` is a start state, or has no
entry at all, the new set is the set `q` showed before (nothing for a non-start state) plus `a`.  The hypothesis fails for a
non-start state with a stale entry (`C10_start_stale_observable`). -/
theorem C10_start_setStart_spec (A : NFAS) (q a : Nat) :
    (∀ p, (nfasSetStart A q a).symsOf p = if p = q then insN (A.symsOf q) a else A.symsOf p) ∧
    (q ∈ A.start ∨ smHas A.startSyms q = false →
      (nfasSetStart A q a).symsOf q = insN (if A.start.contains q then A.symsOf q else []) a) :=
  ⟨nfasSetStart_symsOf A q a, nfasSetStart_spec A q a⟩

example : (nfasSetStart NfaSEx.exA 0 11).symsOf 0 = [8, 9, 11] ∧ (nfasSetStart NfaSEx.exA 7 11).symsOf 7 = [11] ∧
    (0 ∈ NfaSEx.exA.start ∨ smHas NfaSEx.exA.startSyms 0 = false) := by decide +kernel

/-- `SetExistingStateStart (q, S)`: the set given is stored only if the map holds NOTHING for `q` (the `assert` demanding
this is compiled out); otherwise the call only makes `q` a start state, with the old – possibly stale – entry -/
theorem C10_start_setExistingStart_spec (A : NFAS) (q : Nat) (S : List Nat) :
    (∀ p, (nfasSetExistingStart A q S).symsOf p = if smHas A.startSyms q = false ∧ p = q then S else A.symsOf p) ∧
    (smHas A.startSyms q = false → (nfasSetExistingStart A q S).symsOf q = S) :=
  ⟨nfasSetExistingStart_symsOf A q S, nfasSetExistingStart_spec A q S⟩

example : (nfasSetExistingStart NfaSEx.exA 7 [9, 10]).symsOf 7 = [9, 10] ∧ smHas NfaSEx.exA.startSyms 7 = false := by decide +kernel

/-! ### (3) dump and load (C13) -/

/-- construction and load: the start states are the states named in nullary rules, each with exactly the symbols of its
rules – several per state included (the point of defect D12) -/
theorem C10_start_load_spec (f : Nat → Nat) (d : NDesc) :
    (nfasLoad f d).final = d.final.map f ∧ (nfasLoad f d).trans = d.unary.map (fun e => (f e.1, e.2.1, f e.2.2)) ∧
    (∀ q, q ∈ (nfasLoad f d).start ↔ ∃ r, r ∈ d.nullary ∧ f r.2 = q) ∧
    (∀ q a, a ∈ (nfasLoad f d).symsOf q ↔ ∃ r, r ∈ d.nullary ∧ f r.2 = q ∧ r.1 = a) :=
  ⟨(nfasLoad_spec f d).1, (nfasLoad_spec f d).2.1, (nfasLoad_spec f d).2.2.1, (nfasLoad_spec f d).2.2.2.1⟩

example : (nfasLoad id ⟨[2], [(8, 0), (9, 0), (8, 1)], [(0, 0, 2)]⟩).start = [0, 1] ∧
    (nfasLoad id ⟨[2], [(8, 0), (9, 0), (8, 1)], [(0, 0, 2)]⟩).symsOf 0 = [8, 9] := by decide +kernel

/-- **dump ∘ load = id and load ∘ dump = id on the pair (automaton, symbols), for good names** (the state translator of the
load and the back translator of the dump undo each other on the names / states concerned).
First part: a description is dumped back with the same final states, unary rules and the same SET of nullary rules.
Second part: an automaton is reloaded with the same final states, transitions, start states, and every start state carries
the symbols the dump wrote for it – its own set if that is not empty; a start state WITHOUT symbols (made by `Reverse`) comes
back with the one symbol `x`.  Third part: a load with an empty dictionary (names numbered in order of first occurrence)
has good names. -/
theorem C10_start_dump_load :
    (∀ (f g : Nat → Nat) (d : NDesc), (∀ n, n ∈ d.names → g (f n) = n) →
      (nfasDump g (nfasLoad f d)).final = d.final ∧ (nfasDump g (nfasLoad f d)).unary = d.unary ∧
      ∀ r, r ∈ (nfasDump g (nfasLoad f d)).nullary ↔ r ∈ d.nullary) ∧
    (∀ (f g : Nat → Nat) (A : NFAS), (∀ q, q ∈ nfaStates A.toNFA → f (g q) = q) →
      (nfasLoad f (nfasDump g A)).final = A.final ∧ (nfasLoad f (nfasDump g A)).trans = A.trans ∧
      (∀ q, q ∈ (nfasLoad f (nfasDump g A)).start ↔ q ∈ A.start) ∧
      ∀ q, q ∈ A.start →
        (A.symsOf q ≠ [] → ∀ a, a ∈ (nfasLoad f (nfasDump g A)).symsOf q ↔ a ∈ A.symsOf q) ∧
        (A.symsOf q = [] → ∀ a, a ∈ (nfasLoad f (nfasDump g A)).symsOf q ↔ a = NFAS.xSym)) ∧
    (∀ d : NDesc, ∀ n, n ∈ d.names → (fun i => d.names.getD i 0) (d.names.idxOf n) = n) :=
  ⟨nfas_dump_load, fun f g A hf => ⟨(nfas_load_dump f g A hf).1, (nfas_load_dump f g A hf).2.1,
    (nfas_load_dump f g A hf).2.2.1, fun _ hq => nfas_load_dump_syms f g A hf hq⟩, nfasLoadFresh_good⟩

example : nfasObsEqB (nfasLoad id (nfasDump id NfaSEx.exA)) NfaSEx.exA = true ∧
    (nfasLoad id (nfasDump id (nfasReverse NfaSEx.exA))).symsOf 2 = [12] ∧ (nfasReverse NfaSEx.exA).symsOf 2 = [] := by
  decide +kernel

/-! ### (4) histories -/

/-- **in every history every start state has an entry in the map**: `GetStartSymbols` on a start state – which the dump,
`ReindexStates`, `Union`, `Intersection` and `GetCandidateTree` call without a check (`assert` compiled out) – never reads
past the end of the map.  (Before the fix of D5 `Reverse` broke this.) -/
theorem C10_start_history_keys {A : NFAS} (h : NfasHist A) : ∀ q, q ∈ A.start → smHas A.startSyms q = true := by
  induction h with
  | build tr sp fi =>
    obtain ⟨_, _, h3, _, h5⟩ := nfasBuild_spec tr sp fi
    exact fun q hq => (h5 q).mpr ((h3 q).mp hq)
  | load f d =>
    obtain ⟨_, _, h3, _, h5⟩ := nfasLoad_spec f d
    exact fun q hq => (h5 q).mpr ((h3 q).mp hq)
  | addTrans p a q _ ih => exact ih
  | setFinal q _ ih => exact ih
  | @setStart A q a _ ih =>
    intro q' hq'
    show smHas (smAddSym A.startSyms q a) q' = true
    rw [smHas_smAddSym]
    rcases mem_insN.mp hq' with h | h
    · rw [ih q' h, Bool.or_true]
    · simp [h]
  | @setExistingStart A q S _ ih =>
    intro q' hq'
    show smHas (smInsert A.startSyms q S) q' = true
    rw [smHas_smInsert]
    rcases mem_insN.mp hq' with h | h
    · rw [ih q' h, Bool.true_or]
    · simp [h]
  | @map A f _ _ => exact fun t ht => (smHas_map_pairs f _ _ _).mpr (mem_nfasMap_start.mp ht)
  | @unionWith A B fA fB _ _ _ _ =>
    intro t ht
    show smHas (nfasMapSyms fA A ++ nfasMapSyms fB B) t = true
    rw [smHas_append, Bool.or_eq_true]
    exact (mem_nfasUnionWith_start.mp ht).imp (smHas_map_pairs fA _ _ _).mpr (smHas_map_pairs fB _ _ _).mpr
  | @unionDisjoint A B _ _ ihA ihB =>
    intro q hq
    show smHas (A.startSyms ++ B.startSyms) q = true
    rw [smHas_append, Bool.or_eq_true]
    exact (mem_nfasUnionDisjoint_start.mp hq).imp (ihA q) (ihB q)
  | reverse _ _ => exact keysCover_reverse _
  | @removeUnreachable A _ ih => exact fun q hq => ih q (nfasRemoveUnreachable_start A ▸ hq)
  | removeUseless _ _ => exact keysCover_reverse _
  | prod D m _ _ _ _ => exact keysCover_reverse _
  | candidate _ _ => exact keysCover_reverse _
  | reorder so hso _ ih => intro q hq; exact ih q ((hso q).mp hq)

example : NfasHist (nfasSetStart (nfasReverse NfaSEx.exA) 0 9) := .setStart 0 9 (.reverse (.build _ _ _))

/-- **in every history every start state has a NON-EMPTY symbol set, unless** the user called `Reverse` (which makes the
final states start states and has no symbols to give them), handed an empty set to `SetExistingStateStart`, or hit a stale
entry with `SetExistingStateStart` / `UnionDisjointStates` (`NfasHistNR` excludes exactly these).  `RemoveUselessStates`,
`Intersection` and `GetCandidateTree`, which call `Reverse` internally, are covered. -/
theorem C10_start_history_nonempty {A : NFAS} (h : NfasHistNR A) : ∀ q, q ∈ A.start → A.symsOf q ≠ [] := by
  induction h with
  | build tr sp fi =>
    obtain ⟨_, _, h3, h4, _⟩ := nfasBuild_spec tr sp fi
    intro q hq
    obtain ⟨a, ha⟩ := (h3 q).mp hq
    exact List.ne_nil_of_mem ((h4 q a).mpr ha)
  | load f d => exact nfasLoad_startsNonempty f d
  | addTrans p a q _ ih => exact ih
  | setFinal q _ ih => exact ih
  | @setStart A q a _ ih =>
    intro q' hq'
    rw [nfasSetStart_symsOf]
    by_cases h : q' = q
    · rw [if_pos h]; exact List.ne_nil_of_mem (mem_insN.mpr (Or.inr rfl))
    · rw [if_neg h]
      exact ih q' ((mem_insN.mp hq').resolve_right h)
  | @setExistingStart A q S hS hk _ ih =>
    intro q' hq'
    rw [nfasSetExistingStart_symsOf]
    by_cases h : q' = q
    · rw [if_pos ⟨hk, h⟩]; exact hS
    · rw [if_neg (fun c => h c.2)]
      exact ih q' ((mem_insN.mp hq').resolve_right h)
  | @map A f _ ih => exact fun t ht => smGet_map_pairs_ne_nil ih (mem_nfasMap_start.mp ht)
  | @unionWith A B fA fB _ _ ihA ihB =>
    intro t ht
    refine smGet_append_ne_nil (fun hl => smGet_map_pairs_ne_nil ihA ((smHas_map_pairs fA _ _ _).mp hl)) (fun hl => ?_)
    rcases mem_nfasUnionWith_start.mp ht with h | h
    · cases ((smHas_map_pairs fA _ _ _).mpr h).symm.trans hl
    · exact smGet_map_pairs_ne_nil ihB h
  | @unionDisjoint A B hcl _ _ ihA ihB =>
    intro q hq
    refine smGet_append_ne_nil (fun hk => ?_) (fun hk => ?_)
    · exact (mem_nfasUnionDisjoint_start.mp hq).elim (ihA q) (fun h => ihA q (hcl q h hk))
    · rcases mem_nfasUnionDisjoint_start.mp hq with h | h
      · cases (StartsNonempty.keys ihA q h).symm.trans hk
      · exact ihB q h
  | @removeUnreachable A _ ih => exact fun q hq => ih q (nfasRemoveUnreachable_start A ▸ hq)
  | removeUseless _ ih => exact StartsNonempty.removeUseless ih
  | @prod A B D m _ _ ihA _ =>
    refine StartsNonempty.removeUseless (fun t ht => smGet_map_pairs_ne_nil (fun p hp => ?_) (List.mem_map.mp ht))
    exact List.append_ne_nil_of_left_ne_nil (ihA p.1 (mem_nfaStartPairs.mp hp).1) _
  | @candidate A _ ih =>
    intro s hs
    obtain ⟨h1, h2⟩ := nfasCandidate_start_syms A hs
    rw [h2]; exact ih s h1
  | reorder so hso _ ih => intro q hq; exact ih q ((hso q).mp hq)

example : NfasHistNR (nfasRemoveUseless (nfasUnionDisjoint NfaSEx.exA (nfasMap (· + 10) NfaSEx.exB))) :=
  .removeUseless (.unionDisjoint (by decide +kernel) (.build _ _ _) (.map _ (.build _ _ _)))
-- … and `Reverse` does create a start state without symbols
example : NfasHist (nfasReverse NfaSEx.exA) ∧ 2 ∈ (nfasReverse NfaSEx.exA).start ∧ (nfasReverse NfaSEx.exA).symsOf 2 = [] :=
  ⟨.reverse (.build _ _ _), by decide +kernel, by decide +kernel⟩

/-- **no entry of a non-start state is observable** through `AddTransition`, `SetStateFinal`, `ReindexStates`, `Union`,
`RemoveUnreachableStates`, `RemoveUselessStates`, `Intersection`, `GetCandidateTree`, the dump: values that show the same
automaton and the same symbols at their start states (`ObsEq`) – e.g. a value and the same value without its stale
entries – are taken to such values by any sequence of these operations; the operations that start from a fresh map even
give THE SAME result. -/
theorem C10_start_history_stale_unobservable :
    (∀ A : NFAS, ObsEq A A.clean) ∧
    (∀ {A B : NFAS}, ObsHist A B → ObsEq A B) ∧
    (∀ {A B : NFAS}, ObsEq A B → ∀ g, nfasDump g A = nfasDump g B) ∧
    (∀ {A A' B B' : NFAS}, ObsEq A A' → ObsEq B B' →
      (∀ fA fB, nfasUnionWith fA fB A B = nfasUnionWith fA fB A' B') ∧
      (∀ fuel, nfasIntersection A B fuel = nfasIntersection A' B' fuel) ∧
      (∀ f, nfasMap f A = nfasMap f A') ∧ nfasCandidate A = nfasCandidate A') :=
  ⟨obsEq_clean, nfas_history_stale_unobservable, nfasDump_congr,
    fun hA hB => ⟨nfasUnionWith_congr hA hB, nfasIntersection_congr hA hB, nfasMap_congr hA, nfasCandidate_congr hA⟩⟩

example : ObsHist (nfasRemoveUseless (nfasReverse NfaSEx.exA)) (nfasRemoveUseless (nfasReverse NfaSEx.exA).clean) :=
  .removeUseless (.base (obsEq_clean _))

/-- … and the remaining writers are stale-blind exactly where no stale entry is hit -/
theorem C10_start_writers_congruent {A A' B B' : NFAS} (hA : ObsEq A A') (hB : ObsEq B B') :
    (∀ q a, (q ∈ A.start ∨ smHas A.startSyms q = false) → (q ∈ A'.start ∨ smHas A'.startSyms q = false) →
      ObsEq (nfasSetStart A q a) (nfasSetStart A' q a)) ∧
    (∀ q S, smHas A.startSyms q = false → smHas A'.startSyms q = false →
      ObsEq (nfasSetExistingStart A q S) (nfasSetExistingStart A' q S)) ∧
    (KeysCover A → KeysCover A' → (∀ q, q ∈ B.start → smHas A.startSyms q = true → q ∈ A.start) →
      (∀ q, q ∈ B'.start → smHas A'.startSyms q = true → q ∈ A'.start) →
      ObsEq (nfasUnionDisjoint A B) (nfasUnionDisjoint A' B')) :=
  ⟨obsEq_setStart hA, obsEq_setExistingStart hA, obsEq_unionDisjoint hA hB⟩

/-- **stale entries ARE observable** through `SetStateStart`, `SetExistingStateStart`, `UnionDisjointStates` (and, benignly,
through `Reverse`): in each line the same call on the value and on the value without its stale entries shows different
symbols.  `stR` = the reverse of `x0 -> 0, a0 (0) -> 1, final 1`; `stL` = `RemoveUnreachableStates (Reverse (x0 -> 0, final 1))`,
an automaton whose only state is 1; `stB` = `x1 -> 0, final 0`.  The real class behaves like the model
(`harness/nfas_witness_stale.txt`): a finding – symbols invented (x0 for a state that was given x1 only), symbols lost (the set
handed to `SetExistingStateStart`, the symbols of the right operand of a union of state-disjoint automata). -/
theorem C10_start_stale_observable :
    ((nfasSetStart NfaSEx.stR 0 9).symsOf 0 = [8, 9] ∧ (nfasSetStart NfaSEx.stR.clean 0 9).symsOf 0 = [9]) ∧
    ((nfasSetExistingStart NfaSEx.stR 0 [9, 10]).symsOf 0 = [8] ∧
      (nfasSetExistingStart NfaSEx.stR.clean 0 [9, 10]).symsOf 0 = [9, 10]) ∧
    ((∀ q, q ∈ nfaStates NfaSEx.stL.toNFA → q ∈ nfaStates NfaSEx.stB.toNFA → False) ∧ NfaSEx.stB.symsOf 0 = [9] ∧
      (nfasUnionDisjoint NfaSEx.stL NfaSEx.stB).symsOf 0 = [8] ∧ (nfasUnionDisjoint NfaSEx.stL.clean NfaSEx.stB).symsOf 0 = [9]) ∧
    ((nfasReverse NfaSEx.stR).symsOf 0 = [8] ∧ (nfasReverse NfaSEx.stR.clean).symsOf 0 = []) ∧
    (NfasHist NfaSEx.stR ∧ NfasHist NfaSEx.stL ∧ NfasHist NfaSEx.stB) :=
  ⟨NfaSEx.stale_setStart, NfaSEx.stale_setExistingStart,
    ⟨NfaSEx.stale_unionDisjoint.1, NfaSEx.stale_unionDisjoint.2.1, NfaSEx.stale_unionDisjoint.2.2.2.1,
      NfaSEx.stale_unionDisjoint.2.2.2.2⟩,
    NfaSEx.stale_reverse,
    ⟨.reverse (.build _ _ _), .removeUnreachable (.reverse (.build _ _ _)), .build _ _ _⟩⟩

/-!
## which "not yet proved" items of `C10.lean` this file closes

* **Start symbols** – closed: the model `NFAS` carries the map; (1) language independence, (2) the symbols of the results of
  every operation, (3) dump / load, (4) history invariants, and the correspondence kind `nfas`.
* (`C13.lean`: the round trip of the word automata WITH several start symbols per state, `C10_start_dump_load`.)

## not proved here

* The numbering of `Union` / `Intersection` and the scan order of `GetCandidateTree` are parameters (`fA fB`, `D m`, the order
  of the list `start`), as in `C10.lean`; the driver takes them from the implementation (reported maps, iteration order of
  `GetStartStates`) and checks the certificate (injective, disjoint images, closed).
* `nfasLoad` / `nfasDump` abstract the dictionaries to a pair of functions `f`, `g` with `g ∘ f = id` on the names (the
  dictionaries themselves are modelled for the tree automata in `Vata/LoadDump.lean`); the symbol alphabet (process-wide,
  on-the-fly numbering) is abstracted to the protocol numbers of the check.
* No statement that the hypothesis "no stale entry is hit" of `C10_start_setStart_spec`, `C10_start_setExistingStart_spec`,
  `C10_start_unionDisjoint_spec` follows from anything the API shows – it does not (`C10_start_stale_observable`).
-/
end Vata.Props
