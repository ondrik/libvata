import Vata.Proofs.UnionIsectMapsTD
/-!
# Property C02 – `isectTDFrom`: the fuel `isectFromFuel` suffices for EVERY entry map; the examples for pre-filled maps

* `isectTDFrom_total`     measure `|stack| + #(pairs of states not yet in the map)`: a pop removes one stack entry and every
                          push belongs to a pair that enters the map at that moment.  No hypothesis on the entry map.
* `IsectFromEx`           the operand `{h(a)}` and `decide`d runs from harmless pre-filled maps; the runs that go wrong
                          (an unexplored pre-filled pair, numbers not below the size, the re-used map of a previous call) are
                          `Props.C02_isect_prefilled_…_counterexample`.
-/
namespace Vata
namespace Ixf

theorem initPairs_length (ps : List (Nat × Nat)) (m : PMap) (st : List (Nat × Nat)) :
    (initPairs ps m st).2.1.length = st.length + ps.length := by
  rw [initPairs_stack, List.length_append, List.length_reverse, Nat.add_comm]

end Ixf

theorem isectTDFrom_total (A B : TA) (m0 : PMap) (fuel : Nat) (hf : isectFromFuel A B ≤ fuel) :
    (isectTDFrom A B m0 fuel).isSome = true := by
  have h1 := Ixf.initPairs_length (finalPairs A B) m0 []
  have h2 := Isx.unseen_allPairs2_le A.states B.states (initPairs (finalPairs A B) m0 []).1.dom
  rw [isectTDFrom_eq_loop, Option.isSome_map]
  exact Isx.isectLoop_total fuel _ _ [] (by unfold isectFromFuel at hf; simp only [List.length_nil] at h1; omega)

namespace IsectFromEx

/-- `a → 0`, `h(0) → 1`, final `1`: the language is `{h(a)}` -/
def exA : TA := ⟨[⟨0, [], 0⟩, ⟨2, [0], 1⟩], [1]⟩
def tA : Tree := .node 0 []
def tHA : Tree := .node 2 [.node 0 []]
def tHHA : Tree := .node 2 [.node 2 [.node 0 []]]

def obs (r : Option (TA × PMap)) : Option (List Rule × List Nat × PMap) := r.map (fun r => (r.1.rules, r.1.final, r.2))

-- the empty map: the pair of final states gets `0`, its child pair `1`
example : obs (isectTDFrom exA exA [] 6) = some ([⟨2, [1], 0⟩, ⟨0, [], 1⟩], [0], [((1, 1), 0), ((0, 0), 1)]) := by decide +kernel
-- a harmless pre-filled map (a pair that is no pair of states of the operands): fresh numbers start at the SIZE `1`
example : obs (isectTDFrom exA exA [((8, 9), 0)] 6) =
    some ([⟨2, [2], 1⟩, ⟨0, [], 2⟩], [1], [((8, 9), 0), ((1, 1), 1), ((0, 0), 2)]) := by decide +kernel
example : pmapOkB [((8, 9), 0)] = true ∧ prefillOkB exA exA [((8, 9), 0)] = true := by decide +kernel
-- a pre-filled pair of final states is explored
example : obs (isectTDFrom exA exA [((1, 1), 0)] 6) = some ([⟨2, [1], 0⟩, ⟨0, [], 1⟩], [0], [((1, 1), 0), ((0, 0), 1)]) := by
  decide +kernel
example : pmapOkB [((1, 1), 0)] = true ∧ prefillOkB exA exA [((1, 1), 0)] = true := by decide +kernel
example : isectFromFuel exA exA = 5 ∧ (isectTDFrom exA exA [] 1).isNone = true := by decide +kernel
-- the checks are not vacuous
example : pmapOkB [((1, 1), 1)] = false ∧ pmapOkB [((1, 1), 0), ((0, 0), 0)] = false ∧
    prefillOkB exA exA [((0, 0), 0)] = false := by decide +kernel

/-- the theorems apply to the harmless pre-filled maps above -/
example : ∃ P m, isectTDFrom exA exA [((8, 9), 0)] 6 = some (P, m) ∧ ∀ t, accepts P t = (accepts exA t && accepts exA t) := by
  cases h : isectTDFrom exA exA [((8, 9), 0)] 6 with
  | none => exact absurd h (by decide)
  | some r =>
    exact ⟨r.1, r.2, rfl, isectTDFrom_lang (pmapOkB_sound (by decide)) (prefillOkB_sound (by decide)) h⟩

end IsectFromEx

end Vata
