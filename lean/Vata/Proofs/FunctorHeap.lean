import Vata.FunctorCachesUp
import Vata.Proofs.CacheModel
import Vata.Proofs.LockStep
import Vata.Proofs.AssocList
/-!
# The heap of the tree inclusion algorithms: interned macro-states that die, and two memo tables keyed by their addresses

`FCU.Heap` (`Vata/FunctorCachesUp.lean`: `Cache::store_` of the live objects, `lteCache`, `evalTransitionsCache`, any allocator,
the deleter with its wiring) is the heap of the upward algorithm with and without a simulation and of the downward algorithms.
Objects die and addresses are recycled; the invariant is the one of `Vata/Proofs/CacheModel.lean` (`memo_sound`): every entry of
`lteCache` / `evalTransitionsCache` is about LIVE objects and holds the value of the memoised function on their CURRENT values
(`HInvG`, for any memoised comparison, with interning as an option; `HInv` is its instance for `⊆`).  It is kept by `lookup` of the
two tables (`HInvG.lteLookup`, `hEval_spec`), by the creation of an object at any free address (`HInvG.lookup`) and – this is where
the wiring enters – by the death of objects when the deleter purges both key positions of `lteCache` and the second of
`evalTransitionsCache` (`HInvG.collect`, on top of `BinOp.purge_store`, `invalidateSecond_store` of the cache model).
-/
namespace Vata
namespace FCU
open Vata.CM

def Live (h : Heap) (a : Nat) : Prop := a ∈ h.addrs

theorem allocA_fresh (pick : List Nat → Nat) (live : List Nat) : allocA pick live ∉ live := by
  unfold allocA
  split
  · intro h
    have : live.foldl max 0 + 1 ≤ live.foldl max 0 := le_foldl_max id h 0
    omega
  · next h => simpa using h

/-- `*p` reads the store by `List.lookup` -/
theorem hval_eq (h : Heap) (a : Nat) : hval h a = (h.store.lookup a).getD [] := by
  rw [← find?_key_eq_lookup, hval]
  cases h.store.find? (fun o => o.1 == a) <;> rfl

theorem hval_append_old {h : Heap} {o : Nat × List Nat} {a : Nat} (ha : Live h a) :
    hval { h with store := h.store ++ [o] } a = hval h a := by
  obtain ⟨v, hv⟩ := Option.isSome_iff_exists.mp (lookup_isSome_iff_keys.mpr ha)
  rw [hval_eq, hval_eq, List.lookup_append, hv]; rfl

theorem hval_append_new {h : Heap} {a : Nat} {v : List Nat} (ha : ¬ Live h a) :
    hval { h with store := h.store ++ [(a, v)] } a = v := by
  rw [hval_eq, lookup_snoc_self (lookup_eq_none_iff_keys.mpr ha)]; rfl

theorem hval_store {h h' : Heap} (hs : h'.store = h.store) (a : Nat) : hval h' a = hval h a := by
  simp only [hval, hs]

theorem live_store {h h' : Heap} (hs : h'.store = h.store) (a : Nat) : Live h' a ↔ Live h a := by
  simp only [Live, Heap.addrs, hs]

theorem hval_mem {h : Heap} {a : Nat} (ha : Live h a) : ∃ o, o ∈ h.store ∧ o.1 = a ∧ hval h a = o.2 := by
  obtain ⟨v, hv⟩ := Option.isSome_iff_exists.mp (lookup_isSome_iff_keys.mpr ha)
  exact ⟨(a, v), mem_of_lookup hv, rfl, by rw [hval_eq, hv]; rfl⟩

/-- `biggerTypeCache.lookup(v)` on the heap, in this order: the two memo tables are untouched; the addresses stay distinct; the
returned address is live and holds `v`; every old object keeps its address and value; a live address is an old one or the
returned one, and in the second case no old object held `v` -/
theorem hLookup_frame (pick : List Nat → Nat) {h : Heap} (hn : h.addrs.Nodup) (v : List Nat) :
    (hLookup pick h v).1.lte = h.lte ∧ (hLookup pick h v).1.ev = h.ev ∧ (hLookup pick h v).1.addrs.Nodup ∧
    Live (hLookup pick h v).1 (hLookup pick h v).2 ∧ hval (hLookup pick h v).1 (hLookup pick h v).2 = v ∧
    (∀ a, Live h a → Live (hLookup pick h v).1 a ∧ hval (hLookup pick h v).1 a = hval h a) ∧
    (∀ a, Live (hLookup pick h v).1 a → Live h a ∨ a = (hLookup pick h v).2 ∧ ∀ b, Live h b → hval h b ≠ v) := by
  unfold hLookup
  split
  · next o ho =>
    have hm := List.mem_of_find?_eq_some ho
    have hlive : Live h o.1 := List.mem_map_of_mem hm
    refine ⟨rfl, rfl, hn, hlive, ?_, fun a ha => ⟨ha, rfl⟩, fun a ha => Or.inl ha⟩
    obtain ⟨o', ho', ha', hv'⟩ := hval_mem hlive
    rw [hv', inj_of_nodup_map (fun o : Nat × List Nat => o.1) hn ho' hm ha']
    simpa using List.find?_some ho
  · next hnone =>
    have hfresh := allocA_fresh pick h.addrs
    have hold : ∀ a, Live h a → Live { h with store := h.store ++ [(allocA pick h.addrs, v)] } a := fun a ha => by
      simp only [Live, Heap.addrs, List.map_append, List.mem_append]; exact Or.inl ha
    refine ⟨rfl, rfl, ?_, ?_, hval_append_new hfresh, fun a ha => ⟨hold a ha, hval_append_old ha⟩, ?_⟩
    · simp only [Heap.addrs, List.map_append, List.map_cons, List.map_nil]
      refine List.nodup_append.mpr ⟨hn, by simp, ?_⟩
      intro a ha b hb
      rw [List.mem_singleton.mp hb]
      intro e; exact hfresh (e ▸ ha)
    · simp [Live, Heap.addrs]
    · intro a ha
      simp only [Live, Heap.addrs, List.map_append, List.mem_append, List.map_cons, List.map_nil,
        List.mem_singleton] at ha
      refine ha.imp id (fun e => ⟨e, fun b hb e' => ?_⟩)
      obtain ⟨o, hm, _, ho⟩ := hval_mem hb
      exact List.find?_eq_none.mp hnone o hm (beq_iff_eq.mpr (ho ▸ e'))

theorem live_hCollect {w : Wiring} {roots : List Nat} {h : Heap} {a : Nat} :
    Live (hCollect w roots h) a ↔ Live h a ∧ roots.contains a = true := by
  simp only [Live, Heap.addrs, hCollect, List.mem_map, List.mem_filter]
  constructor
  · rintro ⟨o, ⟨hm, hr⟩, rfl⟩; exact ⟨⟨o, hm, rfl⟩, hr⟩
  · rintro ⟨⟨o, hm, rfl⟩, hr⟩; exact ⟨o, ⟨hm, hr⟩, rfl⟩

theorem hval_hCollect {w : Wiring} {roots : List Nat} {h : Heap} {a : Nat} (hr : roots.contains a = true) :
    hval (hCollect w roots h) a = hval h a := by
  rw [hval_eq, hval_eq, hCollect, lookup_filter_keys (fun k => roots.contains k), if_pos hr]

/-- an object a root points to survives, with its value -/
theorem hCollect_keeps (w : Wiring) {roots : List Nat} {h : Heap} {a : Nat} (hr : a ∈ roots) (ha : Live h a) :
    Live (hCollect w roots h) a ∧ hval (hCollect w roots h) a = hval h a :=
  ⟨live_hCollect.mpr ⟨ha, List.contains_iff_mem.mpr hr⟩, hval_hCollect (List.contains_iff_mem.mpr hr)⟩

theorem fold_deleter_lib : ∀ (dead : List Nat) (h : Heap), h.lte.Inv → h.ev.Inv →
    (dead.foldl (deleter .lib) h).lte.Inv ∧ (dead.foldl (deleter .lib) h).ev.Inv ∧
    (dead.foldl (deleter .lib) h).store = h.store ∧
    (∀ k, aget (dead.foldl (deleter .lib) h).lte.store k =
      if k.1 ∈ dead ∨ k.2 ∈ dead then none else aget h.lte.store k) ∧
    (∀ k, aget (dead.foldl (deleter .lib) h).ev.store k = if k.2 ∈ dead then none else aget h.ev.store k)
  | [], h, hl, he => ⟨hl, he, rfl, fun k => by simp, fun k => by simp⟩
  | d :: dead, h, hl, he => by
    obtain ⟨i1, i2, i3, i4, i5⟩ := fold_deleter_lib dead (deleter .lib h d) (BinOp.purge_inv hl d)
      (BinOp.invalidateSecond_inv he d)
    refine ⟨i1, i2, i3, fun k => ?_, fun k => ?_⟩
    · rw [List.foldl_cons, i4]
      show (if _ then none else aget (h.lte.purge d).store k) = _
      rw [BinOp.purge_store hl]
      by_cases h1 : k.1 = d <;> by_cases h2 : k.2 = d <;> simp [h1, h2]
    · rw [List.foldl_cons, i5]
      show (if _ then none else aget (h.ev.invalidateSecond d).store k) = _
      rw [BinOp.invalidateSecond_store he]
      by_cases h2 : k.2 = d <;> simp [h2]

structure HInv (B : TA) (h : Heap) : Prop where
  na : h.addrs.Nodup
  li : h.lte.Inv
  ei : h.ev.Inv
  sl : ∀ a b r, aget h.lte.store (a, b) = some r → Live h a ∧ Live h b ∧ r = subB (hval h a) (hval h b)
  se : ∀ k b r, aget h.ev.store (k, b) = some r → Live h b ∧ r = evalT B k (hval h b)

/-- the invariant as the variants of the algorithm share it: `cmp` is what `lteCache` memoises (`noncachedLte` on the values);
with `intern`, two live objects with the same value are moreover the same object -/
structure HInvG (intern : Prop) (cmp : List Nat → List Nat → Bool) (B : TA) (h : Heap) : Prop where
  na : h.addrs.Nodup
  vi : intern → ∀ a b, Live h a → Live h b → hval h a = hval h b → a = b
  li : h.lte.Inv
  ei : h.ev.Inv
  sl : ∀ a b r, aget h.lte.store (a, b) = some r → Live h a ∧ Live h b ∧ r = cmp (hval h a) (hval h b)
  se : ∀ k b r, aget h.ev.store (k, b) = some r → Live h b ∧ r = evalT B k (hval h b)

theorem HInv_iff {B : TA} {h : Heap} : HInv B h ↔ HInvG False subB B h :=
  ⟨fun i => ⟨i.na, fun f => f.elim, i.li, i.ei, i.sl, i.se⟩, fun i => ⟨i.na, i.li, i.ei, i.sl, i.se⟩⟩

theorem HInvG.empty {intern : Prop} {cmp : List Nat → List Nat → Bool} (B : TA) : HInvG intern cmp B {} :=
  ⟨List.nodup_nil, fun _ _ _ h => (by cases h), BinOp.empty_inv, BinOp.empty_inv, fun _ _ _ h => (by cases h),
    fun _ _ _ h => (by cases h)⟩

theorem HInv.empty (B : TA) : HInv B {} := HInv_iff.mpr (HInvG.empty B)

section Heap
variable {intern : Prop} {cmp : List Nat → List Nat → Bool} {B : TA} {h : Heap}

/-- `biggerTypeCache.lookup(v)` -/
theorem HInvG.lookup (pick : List Nat → Nat) (hi : HInvG intern cmp B h) (v : List Nat) :
    HInvG intern cmp B (hLookup pick h v).1 := by
  obtain ⟨e1, e2, hn, _, hv, hold, hnew⟩ := hLookup_frame pick hi.na v
  refine ⟨hn, fun hint a b ha hb e => ?_, e1 ▸ hi.li, e2 ▸ hi.ei, fun a b r hr => ?_, fun k b r hr => ?_⟩
  · rcases hnew a ha with ha' | ⟨rfl, hna⟩ <;> rcases hnew b hb with hb' | ⟨rfl, hnb⟩
    · rw [(hold a ha').2, (hold b hb').2] at e; exact hi.vi hint a b ha' hb' e
    · rw [(hold a ha').2, hv] at e; exact (hnb a ha' e).elim
    · rw [hv, (hold b hb').2] at e; exact (hna b hb' e.symm).elim
    · rfl
  · rw [e1] at hr
    obtain ⟨ha, hb, he⟩ := hi.sl a b r hr
    exact ⟨(hold a ha).1, (hold b hb).1, by rw [(hold a ha).2, (hold b hb).2]; exact he⟩
  · rw [e2] at hr
    obtain ⟨hb, he⟩ := hi.se k b r hr
    exact ⟨(hold b hb).1, by rw [(hold b hb).2]; exact he⟩

/-- `lteCache.lookup(a, b, noncachedLte)` on two live objects -/
theorem HInvG.lteLookup (hi : HInvG intern cmp B h) {a b : Nat} (ha : Live h a) (hb : Live h b) :
    (h.lte.lookup a b (fun x y => cmp (hval h x) (hval h y))).2 = cmp (hval h a) (hval h b) ∧
    HInvG intern cmp B { h with lte := (h.lte.lookup a b (fun x y => cmp (hval h x) (hval h y))).1 } := by
  obtain ⟨hans, hall⟩ := BinOp.lookup_sound (P := fun k r => Live h k.1 ∧ Live h k.2 ∧ r = cmp (hval h k.1) (hval h k.2))
    h.lte a b (fun x y => cmp (hval h x) (hval h y)) (fun k r hr => hi.sl k.1 k.2 r hr) ⟨ha, hb, rfl⟩
  exact ⟨hans.2.2, hi.na, hi.vi, BinOp.lookup_inv hi.li _ _ _, hi.ei, fun a b r hr => hall (a, b) r hr, hi.se⟩

/-- the lambda `evalTransitions` answers `noncachedEvalTransitions` on a live object and keeps the invariant -/
theorem hEval_spec (hi : HInvG intern cmp B h) (k : EKey) {a : Nat} (ha : Live h a) :
    (hEval B h k a).2 = evalT B k (hval h a) ∧ HInvG intern cmp B (hEval B h k a).1 ∧ (hEval B h k a).1.store = h.store := by
  obtain ⟨hans, hall⟩ := BinOp.lookup_sound (P := fun k r => Live h k.2 ∧ r = evalT B k.1 (hval h k.2))
    h.ev k a (fun k' y => evalT B k' (hval h y)) (fun k r hr => hi.se k.1 k.2 r hr) ⟨ha, rfl⟩
  exact ⟨hans.2, ⟨hi.na, hi.vi, hi.li, BinOp.lookup_inv hi.ei _ _ _, hi.sl, fun k b r hr => hall (k, b) r hr⟩, rfl⟩

/-- **the deaths, with the library's wiring**: the deleter purges every entry that mentions a dying address, so the entries
that are left are about survivors -/
theorem HInvG.collect (hi : HInvG intern cmp B h) (roots : List Nat) : HInvG intern cmp B (hCollect .lib roots h) := by
  obtain ⟨i1, i2, _, i4, i5⟩ := fold_deleter_lib ((h.store.filter (fun o => !roots.contains o.1)).map (·.1)) h hi.li hi.ei
  have hroot : ∀ a, Live h a → a ∉ (h.store.filter (fun o => !roots.contains o.1)).map (·.1) → a ∈ roots := by
    intro a ha hnd
    obtain ⟨o, hom, rfl⟩ := List.mem_map.mp ha
    exact Decidable.byContradiction fun hr => hnd (List.mem_map.mpr ⟨o, List.mem_filter.mpr ⟨hom, by simpa using hr⟩, rfl⟩)
  refine ⟨(List.filter_sublist.map _).nodup hi.na, fun hint a b ha hb e => ?_, i1, i2, fun a b r hr => ?_,
    fun k b r hr => ?_⟩
  · obtain ⟨la, ra⟩ := live_hCollect.mp ha
    obtain ⟨lb, rb⟩ := live_hCollect.mp hb
    rw [hval_hCollect ra, hval_hCollect rb] at e
    exact hi.vi hint a b la lb e
  · have hr' := (i4 (a, b)).symm.trans hr
    split at hr'
    · cases hr'
    · next hnd =>
      obtain ⟨ha, hb, he⟩ := hi.sl a b r hr'
      obtain ⟨la, va⟩ := hCollect_keeps .lib (hroot a ha (not_or.mp hnd).1) ha
      obtain ⟨lb, vb⟩ := hCollect_keeps .lib (hroot b hb (not_or.mp hnd).2) hb
      exact ⟨la, lb, by rw [va, vb]; exact he⟩
  · have hr' := (i5 (k, b)).symm.trans hr
    split at hr'
    · cases hr'
    · next hnd =>
      obtain ⟨hb, he⟩ := hi.se k b r hr'
      obtain ⟨lb, vb⟩ := hCollect_keeps .lib (hroot b hb hnd) hb
      exact ⟨lb, by rw [vb]; exact he⟩

end Heap

theorem hCollect_spec {B : TA} {h : Heap} (hi : HInv B h) (roots : List Nat) :
    HInv B (hCollect .lib roots h) ∧
    (∀ a, a ∈ roots → Live h a → Live (hCollect .lib roots h) a ∧ hval (hCollect .lib roots h) a = hval h a) :=
  ⟨HInv_iff.mpr ((HInv_iff.mp hi).collect roots), fun _ => hCollect_keeps _⟩

/-- the lambda `lte` of a variant of the algorithm: on live objects `L` answers `lteV` of the two values; it keeps the
invariant `I` and the objects -/
abbrev LteSpec (I : Heap → Prop) (L : Heap → Nat → Nat → Heap × Bool) (lteV : List Nat → List Nat → Bool) : Prop :=
  CmpSpec Heap.store (fun st a => a ∈ st.map (·.1)) hval I L lteV

end FCU
end Vata
