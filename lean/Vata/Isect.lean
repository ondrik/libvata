import Vata.Basic
/-! The product of two tree automata on a set of pairs under a numbering, and the theorem every product construction of the
development rests on, in two halves (`reach_prod_sound`, `reach_prod_complete`); `isect_cert` is the top-down instance. -/
namespace Vata

/-- the product automaton on a set `D` of pairs, numbered by `m` -/
def prodRules (A B : TA) (D : List (Nat × Nat)) (m : Nat × Nat → Nat) : List Rule :=
  A.rules.flatMap (fun r => (B.rules.filter (fun r' => r'.sym == r.sym && r'.kids.length == r.kids.length
      && D.contains (r.parent, r'.parent))).map
    (fun r' => ⟨r.sym, (r.kids.zip r'.kids).map m, m (r.parent, r'.parent)⟩))

def prodFinal (A B : TA) (m : Nat × Nat → Nat) : List Nat :=
  A.final.flatMap (fun p => B.final.map (fun p' => m (p, p')))

def prodOn (A B : TA) (D : List (Nat × Nat)) (m : Nat × Nat → Nat) : TA := ⟨prodRules A B D m, prodFinal A B m⟩

/-- `D` is closed under children of matching rules -/
def Closed (A B : TA) (D : List (Nat × Nat)) : Prop :=
  ∀ r, r ∈ A.rules → ∀ r', r' ∈ B.rules → r'.sym = r.sym → r'.kids.length = r.kids.length →
    (r.parent, r'.parent) ∈ D → ∀ pr, pr ∈ r.kids.zip r'.kids → pr ∈ D

def InjOn (m : Nat × Nat → Nat) (D : List (Nat × Nat)) : Prop :=
  ∀ x, x ∈ D → ∀ y, y ∈ D → m x = m y → x = y

theorem mem_prodRules {A B : TA} {D : List (Nat × Nat)} {m : Nat × Nat → Nat} {ρ : Rule} :
    ρ ∈ prodRules A B D m ↔ ∃ r, r ∈ A.rules ∧ ∃ r', r' ∈ B.rules ∧ r'.sym = r.sym ∧ r'.kids.length = r.kids.length ∧
      (r.parent, r'.parent) ∈ D ∧ ρ = ⟨r.sym, (r.kids.zip r'.kids).map m, m (r.parent, r'.parent)⟩ := by
  simp only [prodRules, List.mem_flatMap, List.mem_map, List.mem_filter, Bool.and_eq_true, beq_iff_eq,
    List.contains_iff_mem]
  constructor
  · rintro ⟨r, hr, r', ⟨hr', ⟨hs, hl⟩, hd⟩, rfl⟩; exact ⟨r, hr, r', hr', hs, hl, hd, rfl⟩
  · rintro ⟨r, hr, r', hr', hs, hl, hd, rfl⟩; exact ⟨r, hr, r', ⟨hr', ⟨hs, hl⟩, hd⟩, rfl⟩

-- `Isx` is the namespace of the intersection proofs (`Vata/Proofs/IsectModel.lean`); the product theorem below needs `Matching`
namespace Isx

def Matching (A B : TA) (r r' : Rule) : Prop :=
  r ∈ A.rules ∧ r' ∈ B.rules ∧ r'.sym = r.sym ∧ r'.kids.length = r.kids.length

end Isx

/-- the rule that the pair `r`, `r'` contributes to a product numbered by `m` -/
def prodRule (m : Nat × Nat → Nat) (r r' : Rule) : Rule := ⟨r.sym, (r.kids.zip r'.kids).map m, m (r.parent, r'.parent)⟩

/-! ### the two halves of every product construction

`P` is any automaton, `m` any numbering, `D` any set of pairs.  SOUND half (`ProdSound`, needs `m` injective on `D`, no
closure of `D`): a state of `P` on a tree is the number of a pair of `D` whose components the operands reach.  COMPLETE half
(`ProdComplete`, needs no injectivity): for a downward closed set `W` of wanted pairs, every wanted pair the operands reach is
in `D` and its number is reached by `P`.  `W = D` is the top-down product (`isect_cert`), `W` = everything with `D` closed
upwards the bottom-up one; a work-list loop that stopped early, or was started from a pre-filled map, has both halves with
different `D`. -/

/-- every rule of `P` is the product rule of matching rules whose parent pair and children pairs are in `D` -/
def ProdSound (A B : TA) (D : List (Nat × Nat)) (m : Nat × Nat → Nat) (P : TA) : Prop :=
  ∀ ρ, ρ ∈ P.rules → ∃ r r', Isx.Matching A B r r' ∧ (r.parent, r'.parent) ∈ D ∧
    (∀ x, x ∈ r.kids.zip r'.kids → x ∈ D) ∧ ρ = prodRule m r r'

/-- `W` is closed downwards, and `P` has the product rule of matching rules with a wanted parent pair as soon as the children
pairs are in `D`; the parent pair is then in `D` too -/
structure ProdComplete (A B : TA) (D : List (Nat × Nat)) (m : Nat × Nat → Nat) (W : Nat × Nat → Prop) (P : TA) : Prop where
  down : ∀ r r', Isx.Matching A B r r' → W (r.parent, r'.parent) → ∀ x, x ∈ r.kids.zip r'.kids → W x
  rule : ∀ r r', Isx.Matching A B r r' → W (r.parent, r'.parent) → (∀ x, x ∈ r.kids.zip r'.kids → x ∈ D) →
    (r.parent, r'.parent) ∈ D ∧ prodRule m r r' ∈ P.rules

theorem matchKids_unzip {A B P : TA} {D : List (Nat × Nat)} {m : Nat × Nat → Nat} (hinj : InjOn m D) (ts : List Tree)
    (ih : ∀ t, t ∈ ts → ∀ x, x ∈ reach P t → ∃ pr, pr ∈ D ∧ m pr = x ∧ pr.1 ∈ reach A t ∧ pr.2 ∈ reach B t) :
    ∀ (ks ks' : List Nat), ks'.length = ks.length → (∀ pr, pr ∈ ks.zip ks' → pr ∈ D) →
      matchKids ((ks.zip ks').map m) (reachL P ts) = true →
      matchKids ks (reachL A ts) = true ∧ matchKids ks' (reachL B ts) = true := by
  induction ts with
  | nil =>
    intro ks ks' hl _ h
    cases ks with
    | nil => cases ks' with
      | nil => exact ⟨rfl, rfl⟩
      | cons _ _ => cases hl
    | cons _ _ => cases ks' with
      | nil => cases hl
      | cons _ _ => cases h
  | cons t ts ihts =>
    intro ks ks' hl hd h
    cases ks with
    | nil => cases ks' with
      | nil => cases h
      | cons _ _ => cases hl
    | cons k ks => cases ks' with
      | nil => cases hl
      | cons k' ks' =>
        simp only [List.zip_cons_cons, List.map_cons, reachL, matchKids, Bool.and_eq_true, List.contains_iff_mem] at h ⊢
        obtain ⟨pr, hpr, hm, ha, hb⟩ := ih t List.mem_cons_self _ h.1
        obtain ⟨h1, h2⟩ := ihts (fun t ht => ih t (List.mem_cons_of_mem _ ht)) ks ks'
          (Nat.succ.inj hl) (fun pr hp => hd pr (List.mem_cons_of_mem _ hp)) h.2
        -- the child of the product rule is the number of SOME pair of `D`; injectivity makes it the pair `(k, k')`
        cases hinj pr hpr (k, k') (hd _ List.mem_cons_self) hm
        exact ⟨⟨ha, h1⟩, hb, h2⟩

theorem reach_prod_sound {A B P : TA} {D : List (Nat × Nat)} {m : Nat × Nat → Nat} (hP : ProdSound A B D m P)
    (hinj : InjOn m D) (t : Tree) :
    ∀ x, x ∈ reach P t → ∃ pr, pr ∈ D ∧ m pr = x ∧ pr.1 ∈ reach A t ∧ pr.2 ∈ reach B t := by
  induction t using tree_induction with
  | h f ts ih =>
    intro x hx
    rw [reach, mem_post] at hx
    obtain ⟨ρ, hρ, hs, hm, hp⟩ := hx
    obtain ⟨r, r', ⟨hr, hr', hs', hl⟩, hd, hk, rfl⟩ := hP ρ hρ
    obtain ⟨h1, h2⟩ := matchKids_unzip hinj ts ih r.kids r'.kids hl hk hm
    refine ⟨(r.parent, r'.parent), hd, hp, ?_, ?_⟩
    · rw [reach, mem_post]; exact ⟨r, hr, hs, h1, rfl⟩
    · rw [reach, mem_post]; exact ⟨r', hr', hs'.trans hs, h2, rfl⟩

theorem reach_prod_complete {A B P : TA} {D : List (Nat × Nat)} {m : Nat × Nat → Nat} {W : Nat × Nat → Prop}
    (hP : ProdComplete A B D m W P) (t : Tree) :
    ∀ pr, W pr → pr.1 ∈ reach A t → pr.2 ∈ reach B t → pr ∈ D ∧ m pr ∈ reach P t := by
  induction t using tree_induction with
  | h f ts ih =>
    intro pr hw ha hb
    obtain ⟨r, hr, hs, hk, hp⟩ := mem_reach_node.mp ha
    obtain ⟨r', hr', hs', hk', hp'⟩ := mem_reach_node.mp hb
    have hmatch : Isx.Matching A B r r' := ⟨hr, hr', hs'.trans hs.symm, (all2_length hk').trans (all2_length hk).symm⟩
    obtain rfl : (r.parent, r'.parent) = pr := by rw [hp, hp']
    -- position by position, the children pairs are wanted, hence in `D` with their numbers reached
    have hz := (All2.zip hk hk').mono fun c t hc ht h => ih t ht c (hP.down r r' hmatch hw c hc) h.1 h.2
    obtain ⟨hd, hρ⟩ := hP.rule r r' hmatch hw fun c hc => (hz.exists_right c hc).elim fun _ h => h.2.1
    exact ⟨hd, mem_reach_node.mpr ⟨_, hρ, hs, All2.map_left m (hz.mono fun _ _ _ _ h => h.2), rfl⟩⟩

theorem accepts_prod_sound {A B P : TA} {D : List (Nat × Nat)} {m : Nat × Nat → Nat} (hP : ProdSound A B D m P)
    (hinj : InjOn m D) (hF : ∀ x, x ∈ P.final → ∃ pr, pr ∈ D ∧ m pr = x ∧ pr.1 ∈ A.final ∧ pr.2 ∈ B.final) (t : Tree)
    (h : accepts P t = true) : accepts A t = true ∧ accepts B t = true := by
  simp only [accepts_iff_reach] at h ⊢
  obtain ⟨x, hx, hf⟩ := h
  obtain ⟨pr, hpr, hm, ha, hb⟩ := reach_prod_sound hP hinj t x hx
  obtain ⟨pr', hpr', hm', hfa, hfb⟩ := hF x hf
  cases hinj pr hpr pr' hpr' (hm.trans hm'.symm)
  exact ⟨⟨_, ha, hfa⟩, _, hb, hfb⟩

theorem accepts_prod_complete {A B P : TA} {D : List (Nat × Nat)} {m : Nat × Nat → Nat} {W : Nat × Nat → Prop}
    (hP : ProdComplete A B D m W P)
    (hF : ∀ p p', p ∈ A.final → p' ∈ B.final → W (p, p') ∧ ((p, p') ∈ D → m (p, p') ∈ P.final)) (t : Tree)
    (ha : accepts A t = true) (hb : accepts B t = true) : accepts P t = true := by
  rw [accepts_iff_reach] at ha hb ⊢
  obtain ⟨p, hp, hfa⟩ := ha
  obtain ⟨p', hp', hfb⟩ := hb
  obtain ⟨hd, hr⟩ := reach_prod_complete hP t (p, p') (hF p p' hfa hfb).1 hp hp'
  exact ⟨_, hr, (hF p p' hfa hfb).2 hd⟩

/-- componentwise characterisation of `reach` of the product -/
def Good (A B : TA) (D : List (Nat × Nat)) (m : Nat × Nat → Nat) (t : Tree) : Prop :=
  (∀ x, x ∈ reach (prodOn A B D m) t → ∃ pr, pr ∈ D ∧ m pr = x ∧ pr.1 ∈ reach A t ∧ pr.2 ∈ reach B t) ∧
  (∀ pr, pr ∈ D → pr.1 ∈ reach A t → pr.2 ∈ reach B t → m pr ∈ reach (prodOn A B D m) t)

theorem prodOn_sound {A B : TA} {D : List (Nat × Nat)} {m : Nat × Nat → Nat} (hc : Closed A B D) :
    ProdSound A B D m (prodOn A B D m) := by
  intro ρ hρ
  obtain ⟨r, hr, r', hr', hs, hl, hd, he⟩ := mem_prodRules.mp hρ
  exact ⟨r, r', ⟨hr, hr', hs, hl⟩, hd, hc r hr r' hr' hs hl hd, he⟩

theorem prodOn_complete {A B : TA} {D : List (Nat × Nat)} {m : Nat × Nat → Nat} (hc : Closed A B D) :
    ProdComplete A B D m (· ∈ D) (prodOn A B D m) :=
  ⟨fun r r' h => hc r h.1 r' h.2.1 h.2.2.1 h.2.2.2,
    fun r r' h hd _ => ⟨hd, mem_prodRules.mpr ⟨r, h.1, r', h.2.1, h.2.2.1, h.2.2.2, hd, rfl⟩⟩⟩

theorem good (A B : TA) (D : List (Nat × Nat)) (m : Nat × Nat → Nat) (hc : Closed A B D) (hinj : InjOn m D) (t : Tree) :
    Good A B D m t :=
  ⟨reach_prod_sound (prodOn_sound hc) hinj t, fun pr hpr ha hb => (reach_prod_complete (prodOn_complete hc) t pr hpr ha hb).2⟩

theorem goodL (A B : TA) (D : List (Nat × Nat)) (m : Nat × Nat → Nat) (hc : Closed A B D) (hinj : InjOn m D) :
    ∀ ts : List Tree, ∀ t, t ∈ ts → Good A B D m t := fun _ t _ => good A B D m hc hinj t

theorem isect_cert (A B : TA) (D : List (Nat × Nat)) (m : Nat × Nat → Nat)
    (hc : Closed A B D) (hinj : InjOn m D) (hF : ∀ p, p ∈ A.final → ∀ p', p' ∈ B.final → (p, p') ∈ D) (t : Tree) :
    accepts (prodOn A B D m) t = true ↔ accepts A t = true ∧ accepts B t = true := by
  have mem_final : ∀ x, x ∈ (prodOn A B D m).final ↔ ∃ p, p ∈ A.final ∧ ∃ p', p' ∈ B.final ∧ m (p, p') = x := by
    simp only [prodOn, prodFinal, List.mem_flatMap, List.mem_map, implies_true]
  constructor
  · refine accepts_prod_sound (prodOn_sound hc) hinj (fun x hx => ?_) t
    obtain ⟨p, hp, p', hp', he⟩ := (mem_final x).mp hx
    exact ⟨(p, p'), hF p hp p' hp', he, hp, hp'⟩
  · rintro ⟨ha, hb⟩
    exact accepts_prod_complete (prodOn_complete hc)
      (fun p p' hp hp' => ⟨hF p hp p' hp', fun _ => (mem_final _).mpr ⟨p, hp, p', hp', rfl⟩⟩) t ha hb

#print axioms isect_cert
end Vata
