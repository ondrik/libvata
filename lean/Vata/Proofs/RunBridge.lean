import Vata.Spec
/-!
# Runs as objects (`RunT`) versus the functional run semantics `reach`

`q ∈ reach A t ↔ ∃ ρ, ρ.valid A ∧ ρ.root = q ∧ ρ.tree = t`, and the construction that embeds a valid run below a
top-down reachable state into an accepting run (used for "takes part in an accepting run").
-/
namespace Vata

theorem matchKids_reachL_cons {A : TA} {k : Nat} {ks : List Nat} {t : Tree} {ts : List Tree} :
    matchKids (k :: ks) (reachL A (t :: ts)) = true ↔ k ∈ reach A t ∧ matchKids ks (reachL A ts) = true := by
  simp only [reachL, matchKids, Bool.and_eq_true, List.contains_iff_mem]

theorem RunT.valid_node {A : TA} {r : Rule} {ρs : List RunT} :
    (RunT.node r ρs).valid A = true ↔ r ∈ A.rules ∧ RunT.validL A ρs r.kids = true := by
  simp only [RunT.valid, Bool.and_eq_true, List.contains_iff_mem]

theorem RunT.validL_cons {A : TA} {ρ : RunT} {ρs : List RunT} {k : Nat} {ks : List Nat} :
    RunT.validL A (ρ :: ρs) (k :: ks) = true ↔ (ρ.root = k ∧ ρ.valid A = true) ∧ RunT.validL A ρs ks = true := by
  simp only [RunT.validL, Bool.and_eq_true, beq_iff_eq]

mutual
theorem run_of_reach (A : TA) : ∀ (t : Tree) (q : Nat), q ∈ reach A t →
    ∃ ρ : RunT, ρ.valid A = true ∧ ρ.root = q ∧ ρ.tree = t
  | .node f ts, q => by
    rw [reach, mem_post']
    rintro ⟨r, hr, hs, hm, hp⟩
    obtain ⟨ρs, hv, ht⟩ := runs_of_match A ts r.kids hm
    exact ⟨.node r ρs, RunT.valid_node.mpr ⟨hr, hv⟩, hp, by rw [RunT.tree, ht, hs]⟩
theorem runs_of_match (A : TA) : ∀ (ts : List Tree) (ks : List Nat), matchKids ks (reachL A ts) = true →
    ∃ ρs : List RunT, RunT.validL A ρs ks = true ∧ RunT.treeL ρs = ts
  | [], [] => fun _ => ⟨[], rfl, rfl⟩
  | [], _ :: _ => fun h => by cases h
  | _ :: _, [] => fun h => by cases h
  | t :: ts, k :: ks => fun h => by
    obtain ⟨ρ, hv, hr, ht⟩ := run_of_reach A t k (matchKids_reachL_cons.mp h).1
    obtain ⟨ρs, hvs, hts⟩ := runs_of_match A ts ks (matchKids_reachL_cons.mp h).2
    exact ⟨ρ :: ρs, RunT.validL_cons.mpr ⟨⟨hr, hv⟩, hvs⟩, by rw [RunT.treeL, ht, hts]⟩
end

mutual
theorem reach_of_run (A : TA) : ∀ ρ : RunT, ρ.valid A = true → ρ.root ∈ reach A ρ.tree
  | .node r ρs => by
    intro h
    rw [RunT.tree, reach, mem_post']
    exact ⟨r, (RunT.valid_node.mp h).1, rfl, match_of_runs A ρs r.kids (RunT.valid_node.mp h).2, rfl⟩
theorem match_of_runs (A : TA) : ∀ (ρs : List RunT) (ks : List Nat), RunT.validL A ρs ks = true →
    matchKids ks (reachL A (RunT.treeL ρs)) = true
  | [], [] => fun _ => rfl
  | [], _ :: _ => fun h => by cases h
  | _ :: _, [] => fun h => by cases h
  | ρ :: ρs, k :: ks => fun h => by
    obtain ⟨⟨hr, hv⟩, hvs⟩ := RunT.validL_cons.mp h
    exact matchKids_reachL_cons.mpr ⟨hr ▸ reach_of_run A ρ hv, match_of_runs A ρs ks hvs⟩
end

theorem reach_iff_run (A : TA) (t : Tree) (q : Nat) :
    q ∈ reach A t ↔ ∃ ρ : RunT, ρ.valid A = true ∧ ρ.root = q ∧ ρ.tree = t := by
  constructor
  · exact run_of_reach A t q
  · rintro ⟨ρ, hv, hr, ht⟩
    rw [← hr, ← ht]
    exact reach_of_run A ρ hv

theorem productive_iff_run (A : TA) (q : Nat) : Productive A q ↔ ∃ ρ : RunT, ρ.valid A = true ∧ ρ.root = q := by
  constructor
  · rintro ⟨t, ht⟩
    obtain ⟨ρ, hv, hr, _⟩ := run_of_reach A t q ht
    exact ⟨ρ, hv, hr⟩
  · rintro ⟨ρ, hv, hr⟩
    exact ⟨ρ.tree, hr ▸ reach_of_run A ρ hv⟩

theorem accepts_iff_run (A : TA) (t : Tree) : accepts A t = true ↔ ∃ ρ, AcceptingRun A ρ ∧ ρ.tree = t := by
  rw [accepts_iff_reach]
  constructor
  · rintro ⟨q, hq, hf⟩
    obtain ⟨ρ, hv, hr, ht⟩ := run_of_reach A t q hq
    exact ⟨ρ, ⟨hv, hr ▸ hf⟩, ht⟩
  · rintro ⟨ρ, ⟨hv, hf⟩, ht⟩
    exact ⟨ρ.root, ht ▸ reach_of_run A ρ hv, hf⟩

theorem exists_runs (A : TA) (ks : List Nat) (h : ∀ k, k ∈ ks → Productive A k) :
    ∃ ρs : List RunT, RunT.validL A ρs ks = true := by
  induction ks with
  | nil => exact ⟨[], rfl⟩
  | cons k ks ih =>
    obtain ⟨ρ, hv, hr⟩ := (productive_iff_run A k).mp (h k List.mem_cons_self)
    obtain ⟨ρs, hvs⟩ := ih (fun k' hk' => h k' (List.mem_cons_of_mem _ hk'))
    exact ⟨ρ :: ρs, RunT.validL_cons.mpr ⟨⟨hr, hv⟩, hvs⟩⟩

theorem exists_runs_with (A : TA) (σ : RunT) (hσ : σ.valid A = true) (ks : List Nat)
    (h : ∀ k, k ∈ ks → Productive A k) (hm : σ.root ∈ ks) :
    ∃ ρs : List RunT, RunT.validL A ρs ks = true ∧
      (∀ x, σ.hasState x = true → RunT.hasStateL x ρs = true) ∧ (∀ x, σ.hasRule x = true → RunT.hasRuleL x ρs = true) := by
  induction ks with
  | nil => cases hm
  | cons k ks ih =>
    have hks := fun k' hk' => h k' (List.mem_cons_of_mem k hk')
    by_cases hk : σ.root = k
    · obtain ⟨ρs, hvs⟩ := exists_runs A ks hks
      refine ⟨σ :: ρs, RunT.validL_cons.mpr ⟨⟨hk, hσ⟩, hvs⟩, fun x hx => ?_, fun x hx => ?_⟩
      · rw [RunT.hasStateL, hx, Bool.true_or]
      · rw [RunT.hasRuleL, hx, Bool.true_or]
    · obtain ⟨ρ, hv, hr⟩ := (productive_iff_run A k).mp (h k List.mem_cons_self)
      obtain ⟨ρs, hvs, h1, h2⟩ := ih hks ((List.mem_cons.mp hm).resolve_left hk)
      refine ⟨ρ :: ρs, RunT.validL_cons.mpr ⟨⟨hr, hv⟩, hvs⟩, fun x hx => ?_, fun x hx => ?_⟩
      · rw [RunT.hasStateL, h1 x hx, Bool.or_true]
      · rw [RunT.hasRuleL, h2 x hx, Bool.or_true]

theorem embed_run {A : TA} (hprod : ∀ r, r ∈ A.rules → ∀ k, k ∈ r.kids → Productive A k) {q : Nat}
    (hq : TdReachable A q) : ∀ σ : RunT, σ.valid A = true → σ.root = q →
    ∃ ρ, AcceptingRun A ρ ∧ (∀ x, σ.hasState x = true → ρ.hasState x = true) ∧
      (∀ x, σ.hasRule x = true → ρ.hasRule x = true) := by
  induction hq with
  | final hf =>
    intro σ hv hr
    exact ⟨σ, ⟨hv, hr ▸ hf⟩, fun _ h => h, fun _ h => h⟩
  | @step r k hr _ hk ih =>
    intro σ hv hroot
    obtain ⟨ρs, hvs, h1, h2⟩ := exists_runs_with A σ hv r.kids (hprod r hr) (hroot ▸ hk)
    obtain ⟨ρ, hacc, h3, h4⟩ := ih (.node r ρs) (RunT.valid_node.mpr ⟨hr, hvs⟩) rfl
    refine ⟨ρ, hacc, fun x hx => h3 x ?_, fun x hx => h4 x ?_⟩
    · rw [RunT.hasState, h1 x hx, Bool.or_true]
    · rw [RunT.hasRule, h2 x hx, Bool.or_true]

theorem RunT.hasState_root (ρ : RunT) : ρ.hasState ρ.root = true := by
  cases ρ with
  | node r ks => simp [RunT.hasState, RunT.root]

theorem useful_state_of {A : TA} (hprod : ∀ r, r ∈ A.rules → ∀ k, k ∈ r.kids → Productive A k) {q : Nat}
    (hq : TdReachable A q) (hp : Productive A q) : UsefulState A q := by
  obtain ⟨σ, hv, hr⟩ := (productive_iff_run A q).mp hp
  obtain ⟨ρ, hacc, h1, _⟩ := embed_run hprod hq σ hv hr
  exact ⟨ρ, hacc, h1 q (hr ▸ σ.hasState_root)⟩

theorem useful_rule_of {A : TA} (hprod : ∀ r, r ∈ A.rules → ∀ k, k ∈ r.kids → Productive A k) {r : Rule}
    (hr : r ∈ A.rules) (hq : TdReachable A r.parent) : UsefulRule A r := by
  obtain ⟨ρs, hvs⟩ := exists_runs A r.kids (hprod r hr)
  obtain ⟨ρ, hacc, _, h2⟩ := embed_run hprod hq (.node r ρs) (RunT.valid_node.mpr ⟨hr, hvs⟩) rfl
  exact ⟨ρ, hacc, h2 r (by rw [RunT.hasRule, beq_self_eq_true, Bool.true_or])⟩

end Vata
