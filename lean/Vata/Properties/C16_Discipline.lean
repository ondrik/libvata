import Vata.Proofs.LtsEngineCallsRun
/-!
# C16 / C20 – the simulation engine ON its helper classes: the call discipline as a theorem (`SmartSet` closed)

> C16: `computeSimulation(partition, relation, size)` returns the greatest simulation inside the initial relation.
> `Vata/Properties/C16.lean` / `C20.lean`, "not yet proved": *that every call sequence the engine makes satisfies the `ok`
> predicates (the call discipline) of `Util_LtsUtil_*` is read off the C++ …, not proved: the engine model works on values, the
> class models on heaps, and `C16_engine_on_coded_classes` connects them operation by operation, not run by run.*

## How the C++ is read into the model

* `Vata/LtsEngineCalls.lean` (namespace `Vata.LEC`): the engine of `Vata/LtsEngine.lean` as a WRITER.  Every function that makes
  calls on a helper object returns, next to the engine state, the history of these calls in the order the C++ makes them, one
  history per class (`Tr.ss : List SS.Op` for all `SmartSet`s, `Tr.sr : List SR.Op` for `relation_`):
  `ExplicitLTS::buildDelta1` (`delta1T`: the temporary `SmartSet(states_)`, its `labels()` copies, the `init(q, count)` calls),
  both `Block` constructors (`ctor1T`: `inset_.add(a)` along the state list; `ctor2T`: `parent.inset_.removeStrict(a);
  this->inset_.add(a)`), `makeBlock`, `relation_.init(index)`, `fastSplit` / `split` (`relation_.split(block->index_)`), the two
  pruning loops (`eraseRow`), the scratch set `s` of `init` (`SmartSet s; s.assignFlat(delta1[a]); s.remove(q) …`).
  Objects are numbered in creation order, as `SS.World` does (`objI`, `objR`, `sObj`: `s` is created between the blocks of the
  initial refinement and the blocks made by `run()`).
* `trace_erasure`: forgetting the histories gives `Vata.LE.computeSimulation` (likewise after every number of iterations: `stateAfterI_fst`).
* The discipline is `SS.okAll [] history` of `Vata/Proofs/LtsUtilSS.lean` – by `Util_LtsUtil_SmartSet_discipline_tight` exactly the
  histories on which the class AS CODED (heap of `Element`s, `index_`, `last_`) is defined.

## What is abstracted

* Read-only calls (`contains`, `empty`, `size`, iteration) are not part of the histories of `Vata/LtsUtil.lean`; destructors
  (`~SmartSet` of the temporary of `buildDelta1`, of `delta1`, of `s`, of the blocks at the end) are not calls of `SS.Op`.
* The interleaving BETWEEN the classes is not recorded (one history per class; the classes share no memory).
* `SharedCounter` and `SharedList` calls are not emitted yet; the `SplittingRelation` history is emitted (`Tr.sr`) but its
  discipline is not proved here.
-/
namespace Vata.Props
open Vata.L Vata.LE Vata.LU Vata.LEC

instance (L : LTS) : Decidable (DeltaOK L) := by unfold DeltaOK; exact inferInstance

/-- **trace erasure**: the instrumented engine returns what the engine model returns -/
theorem C16_trace_erasure (L : LTS) (part : List (List Nat)) (rel : Rel) (size : Nat) :
    (computeSimulationI L part rel size).map (·.1) = computeSimulation L part rel size ∧
    (∀ k, (stateAfterI L part rel k).1 = stateAfter L part rel k) :=
  ⟨trace_erasure L part rel size, stateAfterI_fst L part rel⟩

example : (computeSimulationI EngEx.L3 [[0, 1, 2, 3]] [(0, 0)] 4).map (·.1) = computeSimulation EngEx.L3 [[0, 1, 2, 3]] [(0, 0)] 4 ∧
    ((computeSimulationI EngEx.L3 [[0, 1, 2, 3]] [(0, 0)] 4).map (·.2.ss.length)) = some 27 := by decide +kernel

/-
FULL STATEMENT (`C16_engine_discipline`): as below WITHOUT the hypothesis `hΔ`, and with the analogous conjuncts for
`SharedCounter` (`SC.okAll`), `SharedList` (`SL.okAll`) and `SplittingRelation` (`SR.okAll ⟨[], L.n, false⟩ t.sr`).
-/
/-- **the `SmartSet` call discipline holds along the whole run.**  For every LTS / partition / block relation satisfying the
engine's preconditions: the history of ALL `SmartSet` calls (`buildDelta1`, `init`, and the first `k` iterations of `run()`, for
every `k`; and the history of a completed `computeSimulation`) is inside `SS.ok` – in particular no `add` is ever made on a set
whose `last_` dangles (`Util_LtsUtil_SmartSet_dangling_last`): the parent of a split only sees `removeStrict`, always of a
member; every `add` goes to the set under construction.

Hypothesis `hΔ : DeltaOK L` – the calls of `ExplicitLTS::buildDelta1` are inside the discipline and build the sets
`delta1[a]` – is decidable and `decide`d for the examples; it is not proved for all `L` here (see the end of the file). -/
theorem C16_engine_discipline_partial (L : LTS) (part : List (List Nat)) (rel : Rel)
    (hL : ltsOKB L = true) (hp : isPartition part L.n = true) (hc : isConsistent part rel = true)
    (ht : isTransB rel = true) (hΔ : DeltaOK L) :
    (∀ k, SS.okAll [] (stateAfterI L part rel k).2.ss = true) ∧
    (∀ size R t, computeSimulationI L part rel size = some (R, t) → SS.okAll [] t.ss = true) := by
  have hg := stateAfter_good (ltsOK_of_B hL) hΔ hp hc (relTrans_of_B (part := part) ht)
  refine ⟨fun k => (hg k).1, ?_⟩
  intro size R t h
  rcases computeSimulationI_some h with ⟨_, _, rfl⟩ | ⟨k, _, _, rfl, _⟩
  · rfl
  · exact (hg k).1

/-- **the engine on heaps (`SmartSet`).**  Running the class AS CODED (`SS.run`: heap cells, `index_`, `last_`, `size_`) on the
engine's `SmartSet` history never reaches an undefined outcome, and afterwards the set of every block `i` (object
`objR L nb0 i`) shows exactly the value the engine model computes: iteration order with counts = `inset[i]`, `size()`,
`contains(a)` for every label (what `processRemove` asks: `b1->inset_.contains(a)`); the sets `delta1[a]` (objects `a + 1`)
show the states with an outgoing `a`-edge in increasing order -/
theorem C16_engine_on_heaps_partial (L : LTS) (part : List (List Nat)) (rel : Rel)
    (hL : ltsOKB L = true) (hp : isPartition part L.n = true) (hc : isConsistent part rel = true)
    (ht : isTransB rel = true) (hΔ : DeltaOK L) (k : Nat) :
    ∃ w, SS.run [] (stateAfterI L part rel k).2.ss = some w ∧
      (∀ i, i < (stateAfter L part rel k).part.length → ∃ s, w[objR L (nb0 L part rel) i]? = some s ∧
        SS.toList s = some ((stateAfter L part rel k).inset.getD i []) ∧
        s.size = ((stateAfter L part rel k).inset.getD i []).length ∧
        ∀ a, a < labels L → SS.contains s a = some (((stateAfter L part rel k).ins i).contains a)) ∧
      (∀ a, a < labels L → ∃ s, w[a + 1]? = some s ∧ (SS.toList s).map (·.map (·.1)) = some (delta1 L a)) := by
  have hg := stateAfter_good (ltsOK_of_B hL) hΔ hp hc (relTrans_of_B (part := part) ht) k
  obtain ⟨w, hrun, hlen, hobs⟩ := SS.run_observe hg.1
  rw [stateAfterI_fst] at hg
  refine ⟨w, hrun, ?_, ?_⟩
  · intro i hi
    obtain ⟨dg, hget⟩ := hg.2.hobj i hi
    have hlt : objR L (nb0 L part rel) i < w.length := by rw [hlen]; exact lt_of_getElem? hget
    refine ⟨w[objR L (nb0 L part rel) i], List.getElem?_eq_getElem hlt, ?_⟩
    obtain ⟨h1, h2, _, _, h5⟩ := hobs _ _ _ (List.getElem?_eq_getElem hlt) hget
    exact ⟨h1, h2, fun a ha => (h5 a ha).1⟩
  · intro a ha
    have hget := hg.2.hdelta a ha
    have hlt : a + 1 < w.length := by rw [hlen]; exact lt_of_getElem? hget
    refine ⟨w[a + 1], List.getElem?_eq_getElem hlt, ?_⟩
    obtain ⟨h1, _⟩ := hobs _ _ _ (List.getElem?_eq_getElem hlt) hget
    rw [h1]
    simp [dItems, Function.comp_def]

-- non-vacuity: the run of `EngEx.L3` (two iterations of `run()`, each splitting a block); the hypotheses hold, `buildDelta1` is
-- inside the discipline, and the history really contains `removeStrict` calls on parents
theorem C16_engine_L3_calls : ltsOKB EngEx.L3 = true ∧ isPartition [[0, 1, 2, 3]] EngEx.L3.n = true ∧ isConsistent [[0, 1, 2, 3]] [(0, 0)] = true ∧
    isTransB [(0, 0)] = true ∧ DeltaOK EngEx.L3 ∧
    (stateAfterI EngEx.L3 [[0, 1, 2, 3]] [(0, 0)] 2).2.ss.length = 27 ∧
    ((stateAfterI EngEx.L3 [[0, 1, 2, 3]] [(0, 0)] 2).2.ss.filter
      (fun o => match o with | SS.Op.removeStrict _ _ => true | _ => false)).length = 3 ∧
    SS.okAll [] (stateAfterI EngEx.L3 [[0, 1, 2, 3]] [(0, 0)] 2).2.ss = true := by decide +kernel
example : ltsOKB EngEx.L3 = true ∧ isPartition [[0, 1, 2, 3]] EngEx.L3.n = true ∧ isConsistent [[0, 1, 2, 3]] [(0, 0)] = true ∧
    isTransB [(0, 0)] = true ∧ DeltaOK EngEx.L3 ∧
    (stateAfterI EngEx.L3 [[0, 1, 2, 3]] [(0, 0)] 2).2.ss.length = 27 ∧
    ((stateAfterI EngEx.L3 [[0, 1, 2, 3]] [(0, 0)] 2).2.ss.filter
      (fun o => match o with | SS.Op.removeStrict _ _ => true | _ => false)).length = 3 ∧
    SS.okAll [] (stateAfterI EngEx.L3 [[0, 1, 2, 3]] [(0, 0)] 2).2.ss = true := C16_engine_L3_calls

example : DeltaOK EngEx.L1 ∧ DeltaOK EngEx.L2 := by decide +kernel

/-- the discipline is not vacuous on the class: the same history with ONE `add` moved behind the `removeStrict` that empties the
parent's set … is outside (this is the defect the engine avoids) -/
example : SS.okAll [] [.new 2, .add 0 1, .removeStrict 0 1, .add 0 0] = false ∧
    SS.run [] [.new 2, .add 0 1, .removeStrict 0 1, .add 0 0] = none := by decide

/-!
## which "not yet proved" items of `C16.lean` / `C20.lean` this file closes

* "Between engine and helper classes", for `SmartSet`: RUN BY RUN.  `C16_engine_discipline_partial` (every `SmartSet` call of
  `init` and of all `processRemove` iterations is inside `SS.ok`), `C16_engine_on_heaps_partial` (the coded class never reaches
  `none` on the engine's history and shows the engine model's insets).

## still not proved

* `DeltaOK L` for every `L` with `ltsOKB L` (the `init(q, count)` calls of `ExplicitLTS::buildDelta1` never insert behind a
  dangling `last_` – they never erase a member, every `q` being visited once – and build `dItems L a`): a hypothesis of both
  theorems; `decide`d for the example systems.
* The discipline of `SharedCounter` (`SC.ok`), `SharedList` (`SL.ok`) and `SplittingRelation` (`SR.ok`) along the run.  The
  `SplittingRelation` history is emitted (`Tr.sr`: `init`, `split`, `eraseRow`) but nothing is proved about it; counter and
  remove-list calls are not emitted.
* The value of the scratch set `s` after its `remove` calls (= `initRemove`) is not stated; only that all calls on it are
  inside the discipline.
-/
end Vata.Props
