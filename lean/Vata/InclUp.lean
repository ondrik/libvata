import Vata.Ref
/-!
# Certifying executable model of the upward antichain inclusion algorithm (identity relation)

Mirrors `ExplicitUpwardInclusion::checkInternal` (`src/explicit_tree_incl_up.cc`) instantiated with the identity
relation (`ANTICHAINS_UP_NOSIM`):

* the early exit `biggerLeaves.size() < smallerLeaves.size()` (fewer leaf symbols in `B` than in `A`);
* the leaf phase: for every leaf rule `a → q` of `A` the macro-state `post_B a []`; `false` when `q` is final and the
  macro-state is not accepting; otherwise the pair goes to `processed` and `next`;
* the work-list `next` (ordered by the size of the macro-state, then by the state, as `std::set<…, less>`) and the
  antichain `processed` of pairs `(q, S)`: a new pair is dropped when some `(q, S')` with `S' ⊆ S` is present, pairs
  `(q, S')` with `S ⊆ S'` are erased from `processed` and from `next`;
* the post-image step: for the picked `(q, S)`, every rule `f(q₁..qₙ) → p` of `A` and every position `j` with `qⱼ = q`,
  all choices of processed pairs for the other positions; `S' := post_B f (S₁..Sₙ)`; `false` when `S'` is empty, `false`
  when `p` is final and `S'` is not accepting; the results of one rule/position are collected in the antichain
  `temporary` and then merged into `processed`/`next`.

With the identity relation `ind[s] = inv[s] = {s}`, hence `post.contains/refine/insert` build the plain set of parents
(`macroPost`).  The test `checkIntersection(ind[q], tmp)` (is the `A`-state simulated by a member of the macro-state?)
can never succeed on the disjointly numbered operands `SanitizeAutsForInclusion` produces; it is left out, so the model
is also right on operands whose state numbers overlap.  Address-ordered containers are replaced by list order.

Every pair carries a tree `t` with `q ∈ reach A t` and `S = reach B t` (as sets).  The run ends *certify-then-trust*:
`true` is only returned together with the final antichain `X` after the Boolean check `upCertB A B X`, `false` only with
a tree `w` after the check `accepts A w && !accepts B w`; `none` = fuel exhausted or the check failed.

Definitions only (core Lean); the theorems are in `Vata/Proofs/InclUp.lean` (verdicts), `Vata/Proofs/InclUpInv.lean`
(the exploration itself, its termination), `Vata/Proofs/InclUpWitness.lean` (completing the tree of a `return false`) and
`Vata/Proofs/InclUpTotal.lean` (totality on trimmed operands).
-/
namespace Vata

namespace InclUp

/-- a pair `(q, S)` of the antichain together with a tree that reaches it -/
structure Item where
  q : Nat
  S : List Nat
  t : Tree

/-- insertion into a strictly increasing list -/
def insS (x : Nat) : List Nat → List Nat
  | [] => [x]
  | y :: l => if x < y then x :: y :: l else if x == y then y :: l else y :: insS x l

/-- sorted duplicate-free representative of a set (`std::sort` of `post.data()`) -/
def normS (l : List Nat) : List Nat := l.foldr insS []

/-- the macro-state `post_B f (S₁..Sₙ)` -/
def macroPost (B : TA) (f : Nat) (Ss : List (List Nat)) : List Nat := normS (post B f Ss)

/-! ### the antichains -/

/-- `Antichain2C::contains`: some `(q, S')` with `S' ⊆ S` is present -/
def subsumed (P : List Item) (q : Nat) (S : List Nat) : Bool := P.any (fun i => i.q == q && subB i.S S)

/-- `Antichain2C::refine`: erase the pairs `(q, S')` with `S ⊆ S'` -/
def refine (P : List Item) (q : Nat) (S : List Nat) : List Item := P.filter (fun i => !(i.q == q && subB S i.S))

/-- the order `less` of the work-list: size of the macro-state, then the state -/
def itemLt (a b : Item) : Bool := a.S.length < b.S.length || (a.S.length == b.S.length && a.q < b.q)

/-- insertion into the ordered work-list -/
def insNext (it : Item) : List Item → List Item
  | [] => [it]
  | x :: l => if itemLt it x then it :: x :: l else x :: insNext it l

structure St where
  processed : List Item
  next : List Item

/-- `if (processed.contains(..)) continue; processed.refine(.., Eraser(next)); processed.insert(..); next.insert(..)` -/
def addItem (st : St) (it : Item) : St :=
  if subsumed st.processed it.q it.S then st
  else ⟨refine st.processed it.q it.S ++ [it], insNext it (refine st.next it.q it.S)⟩

/-- the same for `temporary` -/
def addTmp (tmp : List Item) (it : Item) : List Item :=
  if subsumed tmp it.q it.S then tmp else refine tmp it.q it.S ++ [it]

/-! ### leaf phase -/

def leafSyms (A : TA) : List Nat := normS ((A.rules.filter (fun ρ => ρ.kids.isEmpty)).map (·.sym))

/-- `error (q, t)` is a `return false` of the code: `q ∈ reach A t` and no context around `t` is accepted by `B` -/
abbrev Res (α : Type) := Except (Nat × Tree) α

def leafPhase (A B : TA) : List Rule → St → Res St
  | [], st => .ok st
  | ρ :: ρs, st =>
    if ρ.kids.isEmpty then
      let S := macroPost B ρ.sym []
      if !accepting B S && A.final.contains ρ.parent then .error (ρ.parent, .node ρ.sym [])
      else leafPhase A B ρs (addItem st ⟨ρ.parent, S, .node ρ.sym []⟩)
    else leafPhase A B ρs st

/-! ### the post-image step -/

/-- all choices of processed pairs for the children `ks` (`ChoiceVector` without a fixed position) -/
def choicesAll (P : List Item) : List Nat → List (List Item)
  | [] => [[]]
  | k :: ks => (P.filter (fun i => i.q == k)).flatMap (fun i => (choicesAll P ks).map (fun is => i :: is))

/-- all choices of processed pairs for the children `ks`, position `j` being fixed to `it` (`ChoiceVector::build`) -/
def choicesAt (P : List Item) (it : Item) : List Nat → Nat → List (List Item)
  | [], _ => [[]]
  | _ :: ks, 0 => (choicesAll P ks).map (fun is => it :: is)
  | k :: ks, j+1 => (P.filter (fun i => i.q == k)).flatMap (fun i => (choicesAt P it ks j).map (fun is => i :: is))

/-- the positions of `q` among the children -/
def positions (q : Nat) (ks : List Nat) : List Nat := (List.range ks.length).filter (fun j => ks[j]? == some q)

/-- the body of the `do … while (choiceVector.next())` loop for one choice -/
def stepChoice (A B : TA) (ρ : Rule) (tmp : List Item) (is : List Item) : Res (List Item) :=
  let S' := macroPost B ρ.sym (is.map (·.S))
  let t' := Tree.node ρ.sym (is.map (·.t))
  if S'.isEmpty then .error (ρ.parent, t')
  else if !accepting B S' && A.final.contains ρ.parent then .error (ρ.parent, t')
  else .ok (addTmp tmp ⟨ρ.parent, S', t'⟩)

def stepChoices (A B : TA) (ρ : Rule) : List (List Item) → List Item → Res (List Item)
  | [], tmp => .ok tmp
  | is :: iss, tmp =>
    match stepChoice A B ρ tmp is with
    | .error e => .error e
    | .ok tmp' => stepChoices A B ρ iss tmp'

/-- one rule of `A` with the picked pair at position `j`: all choices, then `temporary` is merged into `processed` -/
def procTask (A B : TA) (it : Item) (ρ : Rule) (j : Nat) (st : St) : Res St :=
  match stepChoices A B ρ (choicesAt st.processed it ρ.kids j) [] with
  | .error e => .error e
  | .ok tmp => .ok (tmp.foldl addItem st)

def procTasks (A B : TA) (it : Item) : List (Rule × Nat) → St → Res St
  | [], st => .ok st
  | (ρ, j) :: ts, st =>
    match procTask A B it ρ j st with
    | .error e => .error e
    | .ok st' => procTasks A B it ts st'

/-- the rules of `A` that have `q` among their children, with the position (`smallerIndex.at(q)`) -/
def tasks (A : TA) (q : Nat) : List (Rule × Nat) := A.rules.flatMap (fun ρ => (positions q ρ.kids).map (fun j => (ρ, j)))

/-- `while (!next.empty())`; one unit of fuel per picked pair -/
def loop (A B : TA) : Nat → St → Option (Res (List Item))
  | 0, _ => none
  | n+1, st =>
    match st.next with
    | [] => some (.ok st.processed)
    | it :: rest =>
      match procTasks A B it (tasks A it.q) ⟨st.processed, rest⟩ with
      | .error e => some (.error e)
      | .ok st' => loop A B n st'

/-- a leaf rule of `A` whose symbol has no leaf rule in `B`, looked for when `B` has fewer leaf symbols than `A` -/
def sizeExit (A B : TA) : Option Rule :=
  if (leafSyms B).length < (leafSyms A).length then
    A.rules.find? (fun ρ => ρ.kids.isEmpty && !(leafSyms B).contains ρ.sym)
  else none

/-- the algorithm proper: `error` = the code's `return false`, `ok P` = `return true` with the final `processed` -/
def run (A B : TA) (fuel : Nat) : Option (Res (List Item)) :=
  match sizeExit A B with
  | some ρ => some (.error (ρ.parent, .node ρ.sym []))
  | none =>
    match leafPhase A B A.rules ⟨[], []⟩ with
    | .error e => some (.error e)
    | .ok st => loop A B fuel st

/-! ### completing the tree of a `return false` to an accepted tree

The code returns `false` as soon as a macro-state is empty although the `A`-state of the pair need not be final; this
is justified because the operands were trimmed (every state of `A` occurs in an accepting run).  The model looks for
a context: witness trees of the productive states, then an upward search from `(q, t)` to a final state. -/

abbrev Wit := List (Nat × Tree)

def lookupT (W : Wit) (q : Nat) : Option Tree :=
  match W.find? (fun p => p.1 == q) with
  | some p => some p.2
  | none => none

def kidsWit (W : Wit) : List Nat → Option (List Tree)
  | [] => some []
  | k :: ks =>
    match lookupT W k, kidsWit W ks with
    | some t, some ts => some (t :: ts)
    | _, _ => none

/-- one round over the rules: a state without a tree gets the tree `build` finds for a rule with that parent -/
def growStep (A : TA) (build : Wit → Rule → Option Tree) (L : Wit) : Wit :=
  A.rules.foldl (fun L ρ =>
    if (lookupT L ρ.parent).isSome then L else
      match build L ρ with
      | some t => L ++ [(ρ.parent, t)]
      | none => L) L

/-- rounds until nothing is added -/
def growIter (step : Wit → Wit) : Nat → Wit → Wit
  | 0, W => W
  | n+1, W => let W' := step W; if W'.length == W.length then W else growIter step n W'

/-- a tree for the parent of a rule whose children all have one -/
def buildWit (W : Wit) (ρ : Rule) : Option Tree := (kidsWit W ρ.kids).map (Tree.node ρ.sym)

/-- a tree for every productive state of `A` -/
def prodWit (A : TA) : Wit := growIter (growStep A buildWit) (A.rules.length + 1) []

/-- upward search: `L` holds states with a tree that contains the given tree below the given state; a rule with such
a state among its children whose other children have a tree in `W` yields a tree for its parent -/
def buildCtx (W : Wit) (L : Wit) (ρ : Rule) : Option Tree :=
  (L.findSome? (fun pt => if ρ.kids.contains pt.1 then kidsWit (pt :: W) ρ.kids else none)).map (Tree.node ρ.sym)

/-- a tree around `t` (which reaches `q`) that reaches a final state of `A`; `t` itself if none is found -/
def complete (A : TA) (q : Nat) (t : Tree) : Tree :=
  if A.final.contains q then t else
    let L := growIter (growStep A (buildCtx (prodWit A))) (A.rules.length + 1) [(q, t)]
    match L.find? (fun pt => A.final.contains pt.1) with
    | some pt => pt.2
    | none => t

/-! ### the certificate check -/

/-- all choices of macro-states of `X` for the children `ks` -/
def choices (X : List (Nat × List Nat)) : List Nat → List (List (List Nat))
  | [] => [[]]
  | k :: ks => (X.filter (fun p => p.1 == k)).flatMap (fun p => (choices X ks).map (fun Ss => p.2 :: Ss))

inductive Cert where
  /-- for `true`: the antichain (post-closed up to subsumption, no bad pair) -/
  | closed (X : List (Nat × List Nat))
  /-- for `false`: a tree accepted by `A` and not by `B` -/
  | witness (w : Tree)

mutual
def showTree : Tree → String
  | .node f ts => match ts with
    | [] => toString f
    | _ => toString f ++ "(" ++ showTrees ts ++ ")"
def showTrees : List Tree → String
  | [] => ""
  | [t] => showTree t
  | t :: ts => showTree t ++ "," ++ showTrees ts
end

def Cert.toString : Cert → String
  | .closed X => "closed " ++ ToString.toString X
  | .witness w => "witness " ++ showTree w

instance : ToString Cert := ⟨Cert.toString⟩

end InclUp

open InclUp

/-- `X` is closed under the post-image of `A`-rules up to subsumption (`UpCert A B X`) and has no bad pair -/
def upCertB (A B : TA) (X : List (Nat × List Nat)) : Bool :=
  A.rules.all (fun ρ => (choices X ρ.kids).all (fun Ss =>
    X.any (fun p => p.1 == ρ.parent && subB p.2 (post B ρ.sym Ss)))) &&
  X.all (fun p => !A.final.contains p.1 || accepting B p.2)

/-- upward antichain inclusion `L(A) ⊆ L(B)`, certify-then-trust -/
def inclUp (A B : TA) (fuel : Nat) : Option (Bool × Cert) :=
  match run A B fuel with
  | none => none
  | some (.ok P) =>
    let X := P.map (fun i => (i.q, i.S))
    if upCertB A B X then some (true, .closed X) else none
  | some (.error (q, t)) =>
    let w := complete A q t
    if accepts A w && !accepts B w then some (false, .witness w) else none

/-- model of `CheckInclusion` with `ANTICHAINS_UP_NOSIM`: `SanitizeAutsForInclusion` first removes the useless states of
both operands (and renumbers the states, which the model does not need) -/
def checkInclUp (A B : TA) (fuel : Nat) : Option (Bool × Cert) :=
  inclUp (removeUseless A) (removeUseless B) fuel

end Vata
