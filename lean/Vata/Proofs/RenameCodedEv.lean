import Vata.Proofs.RenameCodedGen
import Vata.Proofs.Store
/-!
# C14 as coded – part 2: the destination as a fold of store events

With a stateless partial translator `optT g` the destination after the call – also after an exception – is the fold of a PREFIX
of the event list `touchC q'`, `touchTS q' f`, `add rule'` (`clusterEvs`), the whole list when nothing was thrown.
`contains` (`ContainsTransition`) after a fold of events: the old content plus the `add`ed rules; the weak invariant `WInv`
(keys unique, no duplicate tuple – but possibly an EMPTY cluster / tuple set) is kept.
-/
namespace Vata.RenameCoded
open Vata.Store

inductive Ev where
  | touchC (q : Nat)
  | touchTS (q f : Nat)
  | add (r : Rule)
deriving Repr, DecidableEq

def stepEv (s : Store) : Ev → Store
  | .touchC q => touchCluster q s
  | .touchTS q f => touchTupleSet q f s
  | .add r => addTransition s r

/-- a partial map read as a total one (the default is never used on a run that does not throw) -/
def gd (g : Nat → Option Nat) (k : Nat) : Nat := (g k).getD 0

theorem gd_eq_applyMap {m : List (Nat × Nat)} {k : Nat} (h : ∃ v, m.lookup k = some v) :
    gd (fun k => m.lookup k) k = applyMap m k := by
  obtain ⟨v, hv⟩ := h
  simp only [gd, applyMap, hv, Option.getD_some]

def tupleEvs (h : Nat → Nat) (q' f : Nat) (ts : TupleSet) : List Ev := ts.map (fun t => Ev.add ⟨f, t.map h, q'⟩)
def symbolEvs (h : Nat → Nat) (q' : Nat) (c : Cluster) : List Ev :=
  c.flatMap (fun ft => Ev.touchTS q' ft.1 :: tupleEvs h q' ft.1 ft.2)
def clusterEvs (h : Nat → Nat) (m : List (Nat × Cluster)) : List Ev :=
  m.flatMap (fun qc => Ev.touchC (h qc.1) :: symbolEvs h (h qc.1) qc.2)

def rulesOf (evs : List Ev) : List Rule := evs.filterMap (fun e => match e with | .add r => some r | _ => none)

theorem rulesOf_append (a b : List Ev) : rulesOf (a ++ b) = rulesOf a ++ rulesOf b := by simp [rulesOf]

theorem rulesOf_tupleEvs (h : Nat → Nat) (q' f : Nat) (ts : TupleSet) :
    rulesOf (tupleEvs h q' f ts) = ts.map (fun t => (⟨f, t.map h, q'⟩ : Rule)) := by
  induction ts with
  | nil => rfl
  | cons t ts ih =>
    simp only [tupleEvs, List.map_cons, rulesOf, List.filterMap_cons] at ih ⊢
    rw [ih]

theorem rulesOf_symbolEvs (h : Nat → Nat) (q : Nat) (c : Cluster) :
    rulesOf (symbolEvs h (h q) c) = (flatCluster q c).map (mapRule h) := by
  induction c with
  | nil => rfl
  | cons ft c ih =>
    simp only [symbolEvs, List.flatMap_cons, flatCluster] at ih ⊢
    rw [List.cons_append, rulesOf, List.filterMap_cons]
    simp only
    rw [← rulesOf, rulesOf_append, ih, rulesOf_tupleEvs, List.map_append, List.map_map]
    rfl

theorem rulesOf_clusterEvs (h : Nat → Nat) (m : List (Nat × Cluster)) (fin : List Nat) :
    rulesOf (clusterEvs h m) = (iterate ⟨m, fin⟩).map (mapRule h) := by
  induction m with
  | nil => rfl
  | cons qc m ih =>
    simp only [clusterEvs, List.flatMap_cons, iterate] at ih ⊢
    rw [List.cons_append, rulesOf, List.filterMap_cons]
    simp only
    rw [← rulesOf, rulesOf_append, ih, rulesOf_symbolEvs, List.map_append]

theorem trTuple_opt (g : Nat → Option Nat) : ∀ (ks : List Nat) (acc : List Nat),
    (trTuple (optT g) ks () acc).1 = none → (trTuple (optT g) ks () acc).2.1 = acc ++ ks.map (gd g)
  | [], acc, _ => by simp [trTuple]
  | s :: ss, acc, h => by
    cases hg : g s with
    | none => simp [trTuple, optT, hg] at h
    | some v =>
      have ha : (optT g).app () s = some (v, ()) := by simp [optT, hg]
      simp only [trTuple, ha] at h ⊢
      rw [trTuple_opt g ss _ h]
      simp [gd, hg]

/-- the run `R` from `dst` folded a prefix of `evs` into the destination – all of `evs` unless it threw.  The rules `nil`, `cons`,
`app`, `seq` have the shape of the model loops, like those of `Replay`. -/
def FoldRun {ε : Type} (step : Store → ε → Store) (R : Run Unit) (dst : Store) (evs : List ε) : Prop :=
  ∃ pre suf, evs = pre ++ suf ∧ (R.thrown = none → suf = []) ∧ R.dst = pre.foldl step dst

namespace FoldRun
variable {ε : Type} {step : Store → ε → Store}

theorem nil (dst : Store) : FoldRun step ⟨none, dst, ()⟩ dst [] := ⟨[], [], rfl, fun _ => rfl, rfl⟩

theorem cons {R : Run Unit} {dst : Store} {e : ε} {evs : List ε} (h : FoldRun step R (step dst e) evs) :
    FoldRun step R dst (e :: evs) := by
  obtain ⟨pre, suf, e1, e2, e3⟩ := h
  exact ⟨e :: pre, suf, by rw [e1]; rfl, e2, by rw [e3]; rfl⟩

/-- a loop followed – unless it threw – by the rest -/
theorem seq {R1 : Run Unit} {dst : Store} {evs evs2 : List ε} (h1 : FoldRun step R1 dst evs)
    {next : Store → Unit → Run Unit} (h2 : ∀ d, FoldRun step (next d ()) d evs2) :
    FoldRun step (match R1.thrown with
      | some k => ⟨some k, R1.dst, R1.tr⟩
      | none => next R1.dst R1.tr) dst (evs ++ evs2) := by
  obtain ⟨pre, suf, e1, e2, e3⟩ := h1
  cases hr : R1.thrown with
  | some k => exact ⟨pre, suf ++ evs2, by rw [e1, List.append_assoc], nofun, e3⟩
  | none =>
    obtain ⟨pre', suf', e1', e2', e3'⟩ := h2 R1.dst
    rw [e2 hr, List.append_nil] at e1
    exact ⟨evs ++ pre', suf', by rw [e1', List.append_assoc], e2', by rw [e3', e3, e1, List.foldl_append]⟩

/-- "look up `k`; if that throws stop, else go on with the value" -/
theorem app {g : Nat → Option Nat} {k : Nat} {dst : Store} {cont : Nat → Unit → Run Unit} {evs : List ε}
    (h : ∀ v, gd g k = v → FoldRun step (cont v ()) dst evs) : FoldRun step (appThen (optT g) () k dst cont) dst evs := by
  unfold appThen
  cases hg : g k with
  | none => simp only [optT, hg, Option.map_none]; exact ⟨[], evs, rfl, nofun, rfl⟩
  | some v => simp only [optT, hg, Option.map_some]; exact h v (by simp [gd, hg])

end FoldRun

theorem tuplesLoop_ev (g : Nat → Option Nat) (q' f : Nat) : ∀ (ts : TupleSet) (dst : Store),
    FoldRun stepEv (tuplesLoop (optT g) q' f ts dst ()) dst (tupleEvs (gd g) q' f ts)
  | [], dst => .nil dst
  | t :: ts, dst => by
    cases hr : (trTuple (optT g) t () []).1 with
    | some k =>
      simp only [tuplesLoop, hr]
      exact ⟨[], _, rfl, nofun, rfl⟩
    | none =>
      have e := trTuple_opt g t [] hr
      simp only [List.nil_append] at e
      simp only [tuplesLoop, hr, e, tupleEvs, List.map_cons]
      exact .cons (tuplesLoop_ev g q' f ts _)

theorem symbolsLoop_ev (g : Nat → Option Nat) (q' : Nat) : ∀ (c : Cluster) (dst : Store),
    FoldRun stepEv (symbolsLoop (optT g) q' c dst ()) dst (symbolEvs (gd g) q' c)
  | [], dst => .nil dst
  | ft :: c, dst =>
    .cons (.seq (tuplesLoop_ev g q' ft.1 ft.2 (touchTupleSet q' ft.1 dst)) fun d => symbolsLoop_ev g q' c d)

theorem clustersLoop_ev (g : Nat → Option Nat) : ∀ (m : List (Nat × Cluster)) (dst : Store),
    FoldRun stepEv (clustersLoop (optT g) m dst ()) dst (clusterEvs (gd g) m)
  | [], dst => .nil dst
  | qc :: m, dst => .app fun v hv => by
    subst hv
    exact .cons (.seq (symbolsLoop_ev g _ qc.2 (touchCluster _ dst)) fun d => clustersLoop_ev g m d)

theorem finalsLoop_fold (g : Nat → Option Nat) : ∀ (qs : List Nat) (dst : Store),
    FoldRun (fun s q => setFinal s (gd g q)) (finalsLoop (optT g) qs dst ()) dst qs
  | [], dst => .nil dst
  | q :: qs, dst => .app fun v hv => by subst hv; exact .cons (finalsLoop_fold g qs _)

theorem foldl_setFinal (h : Nat → Nat) : ∀ (qs : List Nat) (s : Store),
    qs.foldl (fun s q => setFinal s (h q)) s = setFinals s (qs.map h)
  | [], _ => rfl
  | q :: qs, s => by rw [List.foldl_cons, foldl_setFinal h qs]; rfl

theorem clusterOf_touchCluster (q p : Nat) (s : Store) : clusterOf (touchCluster q s) p = clusterOf s p := by
  unfold clusterOf touchCluster
  simp only [lookup_upsert]
  split
  · rename_i h; subst h; simp
  · rfl

theorem tuplesOf_touch (f f' : Nat) (c : Cluster) : tuplesOf (upsert f (fun o' => o'.getD []) c) f' = tuplesOf c f' := by
  unfold tuplesOf
  rw [lookup_upsert]
  split
  · rename_i h; subst h; simp
  · rfl

theorem clusterOf_touchTupleSet (q f p : Nat) (s : Store) :
    clusterOf (touchTupleSet q f s) p = if p = q then upsert f (fun o' => o'.getD []) (clusterOf s q) else clusterOf s p := by
  unfold clusterOf touchTupleSet
  simp only [lookup_upsert]
  split <;> simp

theorem contains_stepEv (s : Store) (e : Ev) (x : Rule) :
    contains (stepEv s e) x = true ↔ contains s x = true ∨ x ∈ rulesOf [e] := by
  cases e with
  | touchC q =>
    simp only [stepEv, rulesOf, List.filterMap_cons, List.filterMap_nil, List.not_mem_nil, or_false]
    rw [contains_eq, contains_eq, clusterOf_touchCluster]
  | touchTS q f =>
    simp only [stepEv, rulesOf, List.filterMap_cons, List.filterMap_nil, List.not_mem_nil, or_false]
    rw [contains_eq, contains_eq, clusterOf_touchTupleSet]
    split
    · rename_i h; rw [tuplesOf_touch, h]
    · rfl
  | add r =>
    simp only [stepEv, rulesOf, List.filterMap_cons, List.filterMap_nil, List.mem_singleton]
    exact contains_addTransition s r x

theorem contains_foldl_stepEv (x : Rule) : ∀ (evs : List Ev) (s : Store),
    contains (evs.foldl stepEv s) x = true ↔ contains s x = true ∨ x ∈ rulesOf evs
  | [], s => by simp [rulesOf]
  | e :: evs, s => by
    rw [List.foldl_cons, contains_foldl_stepEv x evs, contains_stepEv]
    have : rulesOf (e :: evs) = rulesOf [e] ++ rulesOf evs := rulesOf_append [e] evs
    rw [this, List.mem_append, or_assoc]

theorem final_foldl_stepEv : ∀ (evs : List Ev) (s : Store), (evs.foldl stepEv s).final = s.final
  | [], _ => rfl
  | e :: evs, s => by
    rw [List.foldl_cons, final_foldl_stepEv evs]
    cases e <;> rfl

/-- `Inv` without the non-emptiness of clusters and tuple sets (a `touch` event may leave an empty one) -/
structure WInv (s : Store) : Prop where
  keys : KeysNodup s.clusters
  clusters : ∀ qc, qc ∈ s.clusters → KeysNodup qc.2 ∧ ∀ ft, ft ∈ qc.2 → ft.2.Nodup
  final : s.final.Nodup

theorem WInv.of_inv {s : Store} (h : Inv s) : WInv s :=
  ⟨h.keys, fun qc hqc => ⟨(h.clusters qc hqc).keys, fun ft hft => ((h.clusters qc hqc).tuples ft hft).2⟩, h.final⟩

theorem winv_empty : WInv empty := WInv.of_inv inv_empty

def CW (c : Cluster) : Prop := KeysNodup c ∧ ∀ ft, ft ∈ c → ft.2.Nodup

theorem cw_nil : CW [] := ⟨keysNodup_nil, by intro ft h; cases h⟩

theorem cw_upsert (f : Nat) (gg : Option TupleSet → TupleSet) (h0 : (gg none).Nodup) (h1 : ∀ v, v.Nodup → (gg (some v)).Nodup)
    {c : Cluster} (hc : CW c) : CW (upsert f gg c) :=
  ⟨keysNodup_upsert _ _ hc.1, forall_upsert (P := fun ts : TupleSet => ts.Nodup) f gg h0 h1 hc.2⟩

theorem winv_stepEv {s : Store} (h : WInv s) (e : Ev) : WInv (stepEv s e) := by
  cases e with
  | touchC q =>
    refine ⟨keysNodup_upsert _ _ h.keys, ?_, h.final⟩
    exact forall_upsert (P := CW) q _ cw_nil (fun v hv => hv) h.clusters
  | touchTS q f =>
    refine ⟨keysNodup_upsert _ _ h.keys, ?_, h.final⟩
    apply forall_upsert (P := CW) q _ _ _ h.clusters
    · exact cw_upsert f _ List.nodup_nil (fun v hv => hv) cw_nil
    · intro v hv
      exact cw_upsert f _ List.nodup_nil (fun v hv => hv) hv
  | add r =>
    refine ⟨keysNodup_upsert _ _ h.keys, ?_, h.final⟩
    apply forall_upsert (P := CW) r.parent _ _ _ h.clusters
    · exact cw_upsert r.sym _ (nodup_insTuple _ List.nodup_nil) (fun v hv => nodup_insTuple _ hv) cw_nil
    · intro v hv
      exact cw_upsert r.sym _ (nodup_insTuple _ List.nodup_nil) (fun v hv => nodup_insTuple _ hv) hv

theorem winv_foldl_stepEv : ∀ (evs : List Ev) {s : Store}, WInv s → WInv (evs.foldl stepEv s)
  | [], _, h => h
  | e :: evs, _, h => winv_foldl_stepEv evs (winv_stepEv h e)

theorem winv_setFinals {s : Store} (h : WInv s) (qs : List Nat) (d : Store) (hc : d.clusters = s.clusters)
    (hf : d.final = qs.foldl (fun acc q => insN q acc) s.final) : WInv d :=
  ⟨by rw [hc]; exact h.keys, by rw [hc]; exact h.clusters, by rw [hf]; exact nodup_foldl_insN qs h.final⟩

theorem contains_iff_mem_iterate_w {s : Store} (h : WInv s) (r : Rule) : contains s r = true ↔ r ∈ iterate s :=
  contains_iff_of_keys h.keys (fun qc hqc => (h.clusters qc hqc).1) r

theorem nodup_iterate_w {s : Store} (h : WInv s) : (iterate s).Nodup :=
  nodup_flatMap_key Prod.fst Rule.parent h.keys
    (fun qc hqc => nodup_flatCluster qc.1 (h.clusters qc hqc).1 (h.clusters qc hqc).2)
    (fun _ _ _ hr => (mem_flatCluster.mp hr).1)

end Vata.RenameCoded
