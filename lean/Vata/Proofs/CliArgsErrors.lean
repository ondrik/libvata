import Vata.Proofs.CliArgs
/-!
# The command line of the `vata` binary – every `throw` of `parseArguments`

`parse_error_forms`: whatever the vector, a failing `parseArguments` throws a `std::runtime_error` whose text is one of
16 fixed texts, or one of 5 prefixes followed by an element of the vector, or one of the three complaints about a
comma-separated piece of an element.
-/
namespace Vata.CliArgs

/-- the texts without a variable part -/
def fixedErrors : List Str := [
  lit "Invalid input arguments.",
  lit "The '-t' flag specified more times.", lit "The '-V' flag specified more times.",
  lit "The '-p' flag specified more times.", lit "The '-s' flag specified more times.",
  lit "The '-n' flag specified more times.", lit "The '-r' flag specified more times.",
  lit "The '-o' flag specified more times.",
  lit "The '-r' flag needs an argument.", lit "The '-I' flag needs an argument.", lit "The '-O' flag needs an argument.",
  lit "The '-F' flag needs an argument.", lit "The '-o' flag needs an argument.",
  lit "Invalid use of the '-I' flag.", lit "Invalid use of the '-O' flag.", lit "Invalid use of the '-F' flag."]

/-- the texts that quote an element `x` of the vector -/
def QuotesElement (x e : Str) : Prop :=
  e = lit "Unsupported representation: " ++ x ∨ e = lit "Unsupported format: " ++ x ∨ e = lit "Invalid flag: " ++ x ∨
  e = lit "Unknown command: " ++ x ∨ e = lit "Invalid command line arguments: " ++ x

/-- the texts about a piece `p` of the `-o` argument `x` -/
def QuotesPiece (x e : Str) : Prop :=
  ∃ p, p ∈ Vata.T.splitDelim ',' x ∧
    (e = lit "Malformed options: '" ++ p ++ lit "'" ∨ e = lit "Malformed option: '" ++ p ++ lit "'" ∨
      ∃ k v, processOption p = .ok (k, v) ∧ e = lit "Option for '" ++ k ++ lit "' specified more than once")

theorem translateFormat_error {a e : Str} (h : translateFormat a = .error e) : e = lit "Unsupported format: " ++ a := by
  unfold translateFormat at h
  split at h
  · cases h
  · exact (Except.error.inj h).symm

theorem translateRep_error {a e : Str} (h : translateRep a = .error e) : e = lit "Unsupported representation: " ++ a := by
  unfold translateRep at h
  repeat (split at h; · cases h)
  exact (Except.error.inj h).symm

theorem stepWord_error {cur : Str} {st : St} {e : Str} (h : stepWord cur st = .err e) : QuotesElement cur e := by
  unfold stepWord at h
  cases hps : st.ps <;> simp only [hps] at h
  case command =>
    repeat (split at h; · cases h)
    exact Or.inr (Or.inr (Or.inr (Or.inl (Step.err.inj h).symm)))
  case done => exact Or.inr (Or.inr (Or.inr (Or.inr (Step.err.inj h).symm)))
  all_goals cases h

/-- the exceptions of a flag with an argument: it was given before, it is the last element, or its argument is refused -/
theorem argFlag_error {seen : Bool} {again needs e : Str} {next : Option Str} {k : Str → Step}
    (h : (if seen = true then Step.err again else flagArg needs next k) = .err e) :
    again = e ∨ needs = e ∨ ∃ a, next = some a ∧ k a = .err e := by
  split at h
  · exact Or.inl (Step.err.inj h)
  · cases next with
    | none => exact Or.inr (Or.inl (Step.err.inj h))
    | some a => exact Or.inr (Or.inr ⟨a, rfl, h⟩)

/-- the exceptions of one iteration (the equations are kept in the direction `text = e`: substituting a variable by a
string literal the other way round makes `subst` evaluate the literal) -/
theorem stepArg_error {cur : Str} {next : Option Str} {st : St} {e : Str} (h : stepArg cur next st = .err e) :
    e ∈ fixedErrors ∨ QuotesElement cur e ∨ ∃ a, next = some a ∧ (QuotesElement a e ∨ QuotesPiece a e) := by
  unfold stepArg at h
  cases hc : classify cur <;> simp only [hc] at h
  case word => exact Or.inr (Or.inl (stepWord_error h))
  case help | version => cases h
  case badFlag => exact Or.inr (Or.inl (Or.inr (Or.inr (Or.inl (Step.err.inj h).symm))))
  case showTime | verbose | pruneUnreach | pruneUseless | dontOutput =>
    split at h
    · obtain rfl := Step.err.inj h
      exact Or.inl (by simp only [fixedErrors, List.mem_cons, true_or, or_true])
    · cases h
  case repr =>
    rcases argFlag_error h with rfl | rfl | ⟨a, rfl, hk⟩
    iterate 2 exact Or.inl (by simp only [fixedErrors, List.mem_cons, true_or, or_true])
    split at hk
    · rename_i he
      obtain rfl := Step.err.inj hk
      exact Or.inr (Or.inr ⟨a, rfl, Or.inl (Or.inl (translateRep_error he))⟩)
    · cases hk
  case inFmt | outFmt | bothFmt =>
    rcases argFlag_error h with rfl | rfl | ⟨a, rfl, hk⟩
    iterate 2 exact Or.inl (by simp only [fixedErrors, List.mem_cons, true_or, or_true])
    split at hk
    · rename_i he
      obtain rfl := Step.err.inj hk
      exact Or.inr (Or.inr ⟨a, rfl, Or.inl (Or.inr (Or.inl (translateFormat_error he)))⟩)
    · cases hk
  case opts =>
    rcases argFlag_error h with rfl | rfl | ⟨a, rfl, hk⟩
    iterate 2 exact Or.inl (by simp only [fixedErrors, List.mem_cons, true_or, or_true])
    split at hk
    · rename_i he
      obtain rfl := Step.err.inj hk
      exact Or.inr (Or.inr ⟨a, rfl, Or.inr (insertPieces_error _ _ _ he)⟩)
    · cases hk

/-- **every `throw` of `parseArguments`**: the text of the exception is one of the 16 fixed texts, or quotes an element
of the vector, or complains about a comma-separated piece of an element -/
theorem parse_error_forms {argv : List Str} {e : Str} (h : parse argv = .error e) :
    e ∈ fixedErrors ∨ ∃ x, x ∈ argv ∧ (QuotesElement x e ∨ QuotesPiece x e) := by
  refine parseLoop_ind argv (fun _ => True)
    (fun r => ∀ e, r = .error e → e ∈ fixedErrors ∨ ∃ x, x ∈ argv ∧ (QuotesElement x e ∨ QuotesPiece x e))
    ?_ (fun _ _ _ _ _ _ _ _ => trivial) ?_ argv (fun _ hx => hx) {} trivial e h
  · intro st _ e he
    unfold finish at he
    split at he
    · cases he
    · obtain rfl := Except.error.inj he
      exact Or.inl List.mem_cons_self
  · intro cur next st e' hc hn _ hs e he
    obtain rfl := Except.error.inj he
    rcases stepArg_error hs with h | h | ⟨a, rfl, h⟩
    · exact Or.inl h
    · exact Or.inr ⟨cur, hc, Or.inl h⟩
    · exact Or.inr ⟨a, hn a rfl, h⟩

end Vata.CliArgs
