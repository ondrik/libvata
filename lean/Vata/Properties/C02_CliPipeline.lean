import Vata.Proofs.CliPipelineText
import Vata.CliArgs
import Vata.Wrapper
/-!
# C02 (with C08 / C13 / C19) – what `vata union` and `vata isect` PRINT denotes the union / the intersection

> C02: For any explicit tree automata A and B, Union … return[s] an automaton accepting exactly L(A) ∪ L(B), and Intersection …
> return[s] automata accepting exactly L(A) ∩ L(B).  The state-translation maps they report name, for every state of the result,
> the operand state or state pair it stands for …

`Vata/Properties/C02.lean` proves this for the automaton OBJECT the operation returns.  The user of the command line program sees
something else: the text `performOperation` (`cli/vata.cc`) prints.  That text is produced by loading both files with their own
state dictionaries, running the operation with translation maps, building the state dictionary of the result from the maps with
`CreateUnionStringToStateMap` / `CreateProductStringToStateMap` (`src/util.cc`), and dumping the result through that dictionary.
This file closes the item "From the maps to the names of the dump" of `C02.lean`: the automaton DENOTED BY THE PRINTED TEXT accepts
exactly the union / the intersection.

## How the C++ is read into the model (`Vata/CliPipeline.lean`)

* `loadBoth`: the two `LoadFromString(parser, ReadFile(file), stateDictN, params)` with two fresh state dictionaries and the ONE
  shared alphabet (`loadTA`, first-encounter numbering; the second load starts from the symbol dictionary the first one left).
* `cliUnionDesc`: `Aut::Union(a1, a2, &opTranslMap1, &opTranslMap2)` = `unionModel A B [] []` (two empty maps, weak translators,
  one counter), then `CreateUnionStringToStateMap(stateDict1, stateDict2, &opTranslMap1, &opTranslMap2)` = `Glue.unionDict`
  (as coded now: entries whose state has no translation are skipped), then `DumpToString(serializer, stateDict1)` = `dumpTA`.
* `cliIsectDesc`: `Aut::Intersection(a1, a2, &prodTranslMap)` = `isectTDRef` (`isectTD` with the fuel `isectFuel`, proved
  sufficient), then `CreateProductStringToStateMap` AFTER the repair `222cfd8a` = `productDictFixed` (the name `[l_1|r_2]`, then
  `while (result.FindFwd(name) != result.EndFwd()) name += '\''`, then `result.insert`), then the dump.
  `cliIsectOldDesc` is the same with `Glue.productDict`, the code BEFORE the repair.
* `cliUnion`, `cliIsect`: the serializer on top (description ↦ printed text); `cliUnionText`, `cliIsectText`: the parser in front
  (texts of the two files ↦ standard output).
* `toGlue` / `ofGlue` connect the two dictionary models of the development (`Vata.StateDict`: one list of pairs, what a load
  leaves; `Glue.StateDict`: the two `std::map`s the helpers read).  The dump reads `GetReverseMap()` only.

## What is abstracted

* the iteration order of the hash / tree containers is the list order (`unionModel`, `isectTD`, the loops of the two helpers).  The
  language theorems do not depend on it; WHICH of two colliding product states gets the prime does.
* the options `-p` / `-u` of the command line (`RemoveUselessStates` / `RemoveUnreachableStates` before the operation) are not in
  the pipeline; `Glue.unionDict` does model the `continue` for states without translation that they make necessary.
* fuel: `primeLoop` runs with `primeFuel` (longest key + 1) rounds; `C02_cli_priming_terminates` shows that this is enough and
  that any larger fuel gives the same name, so the model's loop IS the unbounded `while`.  `isectTDRef` never runs out of fuel
  (`isectTDRef_isSome`).  The `Except` of the description-level functions is never `.error` (`C02_cli_union_desc_lang`,
  `C02_cli_isect_desc_lang` exhibit the `.ok`).
* "the automaton denoted by the text" is the automaton `LoadFromString` makes of it with a fresh state dictionary and the alphabet
  as the run left it (symbols are numbers of the shared alphabet: only on the same alphabet are the languages comparable).
-/
namespace Vata.Props
open Vata.CliPipe Vata.Glue

/-! ### 1. the repaired `CreateProductStringToStateMap` -/

attribute [local instance high] instBEqOfDecidableEq in
/-- **termination of the priming loop**: whatever the dictionary contains, `k` rounds with `|name| + k >` (length of the longest
key) stop on a name that is not a key (`primeFuel` qualifies), and beyond that bound the fuel does not change the result.  (The look-up compares names with
`DecidableEq`, as all look-ups of `Vata/Glue.lean` do.) -/
theorem C02_cli_priming_terminates (fwd : List (Name × Nat)) (s : Name) :
    fwd.lookup (primeLoop fwd (primeFuel fwd) s) = none ∧
    (∀ k, maxKeyLen fwd < s.length + k → primeLoop fwd k s = primeLoop fwd (primeFuel fwd) s) ∧
    ∃ i, primeLoop fwd (primeFuel fwd) s = s ++ List.replicate i '\'' ∧
      ∀ j, j < i → ∃ v, fwd.lookup (s ++ List.replicate j '\'') = some v :=
  ⟨primeLoop_primeFuel_fresh fwd s,
   fun k hk => primeLoop_fuel_indep fwd k _ s hk (by unfold primeFuel; omega),
   primeLoop_shape fwd _ s⟩

example : primeLoop [("ab".toList, 0), ("ab'".toList, 1)] 3 "ab".toList = "ab''".toList := by decide +kernel

/-- **the repaired product names are injective – unconditionally**: for ANY operand dictionaries (names containing `_1|`, `]`,
primes, …) and ANY product map, the names of the result are pairwise different, no two states have the same name in the reverse
map the dump reads, the result has one entry per entry of the product map, and every product state of the map gets a name -/
theorem C02_cli_product_names_injective (l r : Glue.StateDict) (pm : List ((Nat × Nat) × Nat)) (d : Glue.StateDict)
    (h : productDictFixed l r pm = some d) :
    (d.fwd.map Prod.fst).Nodup ∧ (∀ v v' n, d.bwd.lookup v = some n → d.bwd.lookup v' = some n → v = v') ∧
    d.fwd.length = pm.length ∧ (∀ e, e ∈ pm → ∃ n, d.bwd.lookup e.2 = some n) :=
  ⟨(productDictFixed_injective h).1, (productDictFixed_injective h).2, (productDictFixed_named h).1, (productDictFixed_named h).2⟩

/-- the function is defined (no `end()` iterator is dereferenced behind the disabled `assert(false)`) iff every component of
every pair of the product map has a name in its operand's dictionary; every entry is `[l_1|r_2]` of the names of the components
of some pair, followed by primes -/
theorem C02_cli_product_names_total (l r : Glue.StateDict) (pm : List ((Nat × Nat) × Nat)) :
    ((productDictFixed l r pm).isSome = true ↔
      ∀ e, e ∈ pm → (∃ ln, l.bwd.lookup e.1.1 = some ln) ∧ (∃ rn, r.bwd.lookup e.1.2 = some rn)) ∧
    (∀ d, productDictFixed l r pm = some d → ∀ x, x ∈ d.fwd → ∃ e, e ∈ pm ∧ ∃ ln rn k, l.bwd.lookup e.1.1 = some ln ∧
      r.bwd.lookup e.1.2 = some rn ∧ x = (prodName ln rn ++ List.replicate k '\'', e.2)) :=
  ⟨productDictFixed_isSome_iff l r pm, fun _ h x hx => (productDictFixed_spec h).2.2 x hx⟩

/-- where the old names did not collide nothing changes: no prime is added -/
theorem C02_cli_product_names_conservative (l r : Glue.StateDict) (pm : List ((Nat × Nat) × Nat)) (es : List (Name × Nat))
    (he : prodEntries l r pm = some es) (hk : (es.map Prod.fst).Nodup) : productDictFixed l r pm = productDict l r pm := by
  rw [productDict_eq, he]
  exact productLoopFixed_eq_old l r pm _ es he (by simpa [TwoWayDict.empty] using hk)

namespace CliEx
/-- the colliding dictionaries of finding D18: `a_1|b` with `c`, and `a` with `b_1|c`, both give `[a_1|b_1|c_2]` -/
def l : Glue.StateDict := ⟨[("a_1|b".toList, 0), ("a".toList, 1)], [(0, "a_1|b".toList), (1, "a".toList)]⟩
def r : Glue.StateDict := ⟨[("c".toList, 0), ("b_1|c".toList, 1)], [(0, "c".toList), (1, "b_1|c".toList)]⟩
end CliEx

-- the hypotheses of `C02_cli_product_names_injective` on the D18 witness: defined, and the second state gets the primed name
example : (productDictFixed CliEx.l CliEx.r [((0, 0), 7), ((1, 1), 8)]).map (fun d => d.bwd) =
    some [(7, "[a_1|b_1|c_2]".toList), (8, "[a_1|b_1|c_2]'".toList)] := by decide +kernel
-- … where the old function gave both states one name (`Glue.productDict_collision`)
example : (productDict CliEx.l CliEx.r [((0, 0), 7), ((1, 1), 8)]).map (fun d => d.bwd) =
    some [(7, "[a_1|b_1|c_2]".toList), (8, "[a_1|b_1|c_2]".toList)] := by decide +kernel

/-! ### 2. `vata union` -/

/-- **`vata union`, description level, no hypothesis on the names**: the description `DumpToAutDesc` hands to the serializer,
loaded again (fresh state dictionary, the alphabet as the run left it), accepts exactly `L(A) ∪ L(B)`; `A`, `B` are the automata
the two loads produced from the operand descriptions -/
theorem C02_cli_union_desc_lang (d₁ d₂ : AutDesc) :
    ∃ A sd₁ yd₁ B sd₂ yd₂ out, loadTA d₁ [] [] = .ok (A, sd₁, yd₁) ∧ loadTA d₂ [] yd₁ = .ok (B, sd₂, yd₂) ∧
      cliUnionDesc d₁ d₂ [] = .ok out ∧
      ∃ A' sd' yd', loadTA out [] yd₂ = .ok (A', sd', yd') ∧ ∀ t, accepts A' t = (accepts A t || accepts B t) :=
  cliUnionDesc_lang d₁ d₂ [] Dict.ok_nil

/-- **`vata union`**: for ALL well-formed operand descriptions the program prints a text, and the automaton denoted by that text
(`LoadFromString` with a fresh state dictionary) accepts exactly `L(A) ∪ L(B)` -/
theorem C02_cli_union_lang (d₁ d₂ : AutDesc) (w₁ : d₁.WellFormed) (w₂ : d₂.WellFormed) :
    ∃ A sd₁ yd₁ B sd₂ yd₂ txt, loadTA d₁ [] [] = .ok (A, sd₁, yd₁) ∧ loadTA d₂ [] yd₁ = .ok (B, sd₂, yd₂) ∧
      cliUnion d₁ d₂ = .ok txt ∧
      ∃ A' sd' yd', loadString txt [] yd₂ = .ok (A', sd', yd') ∧ ∀ t, accepts A' t = (accepts A t || accepts B t) :=
  cliUnionFrom_lang d₁ d₂ [] Dict.ok_nil w₁ w₂

/-- a text that parses is loaded as its description -/
theorem loadString_of_parse {txt : String} {d : AutDesc} (p : parseTimbuk txt = .ok d) (sd : Vata.StateDict) (yd : SymDict) :
    loadString txt sd yd = loadTA d sd yd := by
  simp only [loadString, p]

theorem onTexts_of_parse {txt₁ txt₂ : String} {d₁ d₂ : AutDesc} (p₁ : parseTimbuk txt₁ = .ok d₁) (p₂ : parseTimbuk txt₂ = .ok d₂)
    (f : AutDesc → AutDesc → Except String String) : onTexts f txt₁ txt₂ = f d₁ d₂ := by
  simp only [onTexts, p₁, p₂]

/-- the same from the contents of the two files -/
theorem C02_cli_union_text_lang (txt₁ txt₂ : String) (d₁ d₂ : AutDesc) (p₁ : parseTimbuk txt₁ = .ok d₁)
    (p₂ : parseTimbuk txt₂ = .ok d₂) (w₁ : d₁.WellFormed) (w₂ : d₂.WellFormed) :
    ∃ A sd₁ yd₁ B sd₂ yd₂ txt, loadString txt₁ [] [] = .ok (A, sd₁, yd₁) ∧ loadString txt₂ [] yd₁ = .ok (B, sd₂, yd₂) ∧
      cliUnionText txt₁ txt₂ = .ok txt ∧
      ∃ A' sd' yd', loadString txt [] yd₂ = .ok (A', sd', yd') ∧ ∀ t, accepts A' t = (accepts A t || accepts B t) := by
  rw [loadString_of_parse p₁, cliUnionText, onTexts_of_parse p₁ p₂]
  simp only [loadString_of_parse p₂]
  exact C02_cli_union_lang d₁ d₂ w₁ w₂

example : CliPipe.Test.dA.WellFormed ∧ CliPipe.Test.dB.WellFormed := by decide +kernel
example : cliUnionDesc CliPipe.Test.dA CliPipe.Test.dB [] = .ok
    ⟨"", [], [], ["r_1", "y_2"], [([], "a", "q_1"), ([], "a", "x_2"), (["q_1"], "f", "r_1"), (["r_1"], "f", "r_1"),
      (["x_2"], "f", "y_2"), (["y_2"], "f", "x_2")]⟩ := by decide +kernel

/-! ### 3. `vata isect` -/

/-- **`vata isect`, description level, no hypothesis on the names**: the description handed to the serializer, loaded again,
accepts exactly `L(A) ∩ L(B)` – also when the operand names contain `_1|` (the case in which the code before `222cfd8a` was
wrong, `C02_cli_isect_old_names_counterexample`) -/
theorem C02_cli_isect_desc_lang (d₁ d₂ : AutDesc) :
    ∃ A sd₁ yd₁ B sd₂ yd₂ out, loadTA d₁ [] [] = .ok (A, sd₁, yd₁) ∧ loadTA d₂ [] yd₁ = .ok (B, sd₂, yd₂) ∧
      cliIsectDesc d₁ d₂ [] = .ok out ∧
      ∃ A' sd' yd', loadTA out [] yd₂ = .ok (A', sd', yd') ∧ ∀ t, accepts A' t = (accepts A t && accepts B t) :=
  cliIsectDesc_lang d₁ d₂ [] Dict.ok_nil

/-- **`vata isect`**: for ALL well-formed operand descriptions the program prints a text, and the automaton denoted by that text
accepts exactly `L(A) ∩ L(B)` -/
theorem C02_cli_isect_lang (d₁ d₂ : AutDesc) (w₁ : d₁.WellFormed) (w₂ : d₂.WellFormed) :
    ∃ A sd₁ yd₁ B sd₂ yd₂ txt, loadTA d₁ [] [] = .ok (A, sd₁, yd₁) ∧ loadTA d₂ [] yd₁ = .ok (B, sd₂, yd₂) ∧
      cliIsect d₁ d₂ = .ok txt ∧
      ∃ A' sd' yd', loadString txt [] yd₂ = .ok (A', sd', yd') ∧ ∀ t, accepts A' t = (accepts A t && accepts B t) :=
  cliIsectFrom_lang d₁ d₂ [] Dict.ok_nil w₁ w₂

/-- the same from the contents of the two files -/
theorem C02_cli_isect_text_lang (txt₁ txt₂ : String) (d₁ d₂ : AutDesc) (p₁ : parseTimbuk txt₁ = .ok d₁)
    (p₂ : parseTimbuk txt₂ = .ok d₂) (w₁ : d₁.WellFormed) (w₂ : d₂.WellFormed) :
    ∃ A sd₁ yd₁ B sd₂ yd₂ txt, loadString txt₁ [] [] = .ok (A, sd₁, yd₁) ∧ loadString txt₂ [] yd₁ = .ok (B, sd₂, yd₂) ∧
      cliIsectText txt₁ txt₂ = .ok txt ∧
      ∃ A' sd' yd', loadString txt [] yd₂ = .ok (A', sd', yd') ∧ ∀ t, accepts A' t = (accepts A t && accepts B t) := by
  rw [loadString_of_parse p₁, cliIsectText, onTexts_of_parse p₁ p₂]
  simp only [loadString_of_parse p₂]
  exact C02_cli_isect_lang d₁ d₂ w₁ w₂

example : cliIsectDesc CliPipe.Test.dA CliPipe.Test.dB [] = .ok
    ⟨"", [], [], ["[r_1|y_2]"], [([], "a", "[q_1|x_2]"), (["[q_1|x_2]"], "f", "[r_1|y_2]"), (["[q_1|y_2]"], "f", "[r_1|x_2]"),
      (["[r_1|x_2]"], "f", "[r_1|y_2]"), (["[r_1|y_2]"], "f", "[r_1|x_2]")]⟩ := by decide +kernel

/-! ### 4. the product names before the repair: a counterexample -/

namespace CliEx
/-- `A`: `x → a_1|b`, `y → a`, `f(a_1|b) → top`, `g(a) → top`; language `{f(x), g(y)}` -/
def oldA : AutDesc :=
  { name := "A", symbols := [], states := [], final := ["top"],
    trans := [([], "x", "a_1|b"), ([], "y", "a"), (["a_1|b"], "f", "top"), (["a"], "g", "top")] }
/-- `B`: `x → c`, `y → b_1|c`, `f(c) → top`, `g(b_1|c) → top`; language `{f(x), g(y)}` -/
def oldB : AutDesc :=
  { name := "B", symbols := [], states := [], final := ["top"],
    trans := [([], "x", "c"), ([], "y", "b_1|c"), (["c"], "f", "top"), (["b_1|c"], "g", "top")] }
/-- the alphabet after the two loads: `x ↦ 0`, `y ↦ 1`, `f ↦ 2`, `g ↦ 3` -/
def yd : SymDict := [(("x", 0), 0), (("y", 0), 1), (("f", 1), 2), (("g", 1), 3)]
/-- the tree `f(y)` -/
def fy : Tree := .node 2 [.node 1 []]
/-- the tree `f(x)` -/
def fx : Tree := .node 2 [.node 0 []]
end CliEx

/-- **with the OLD product names the printed intersection is wrong** (finding D18 carried through to the output): both operands
are well formed and accept `{f(x), g(y)}`; the product states `(a_1|b, c)` and `(a, b_1|c)` are both printed as `[a_1|b_1|c_2]`,
and the automaton denoted by the printed description accepts `f(y)`, which neither operand accepts.  The repaired program prints
`[a_1|b_1|c_2]'` for the second state and its output rejects `f(y)` (and accepts `f(x)`). -/
theorem C02_cli_isect_old_names_counterexample :
    CliEx.oldA.WellFormed ∧ CliEx.oldB.WellFormed ∧
    (∃ A sd₁ B sd₂ out A' sd', loadTA CliEx.oldA [] [] = .ok (A, sd₁, CliEx.yd) ∧ loadTA CliEx.oldB [] CliEx.yd = .ok (B, sd₂, CliEx.yd) ∧
      cliIsectOldDesc CliEx.oldA CliEx.oldB [] = .ok out ∧ loadTA out [] CliEx.yd = .ok (A', sd', CliEx.yd) ∧
      accepts A' CliEx.fy = true ∧ accepts A CliEx.fy = false ∧ accepts B CliEx.fy = false) ∧
    (∃ out A' sd', cliIsectDesc CliEx.oldA CliEx.oldB [] = .ok out ∧ loadTA out [] CliEx.yd = .ok (A', sd', CliEx.yd) ∧
      accepts A' CliEx.fy = false ∧ accepts A' CliEx.fx = true) ∧
    cliIsectOldDesc CliEx.oldA CliEx.oldB [] = .ok ⟨"", [], [], ["[top_1|top_2]"],
      [([], "x", "[a_1|b_1|c_2]"), ([], "y", "[a_1|b_1|c_2]"), (["[a_1|b_1|c_2]"], "f", "[top_1|top_2]"),
        (["[a_1|b_1|c_2]"], "g", "[top_1|top_2]")]⟩ ∧
    cliIsectDesc CliEx.oldA CliEx.oldB [] = .ok ⟨"", [], [], ["[top_1|top_2]"],
      [([], "x", "[a_1|b_1|c_2]"), ([], "y", "[a_1|b_1|c_2]'"), (["[a_1|b_1|c_2]"], "f", "[top_1|top_2]"),
        (["[a_1|b_1|c_2]'"], "g", "[top_1|top_2]")]⟩ := by
  -- both operands, and the repaired output, load to `T`; in the old output the two leaf states have become one (`T'`)
  let T : TA := ⟨[⟨0, [], 1⟩, ⟨1, [], 2⟩, ⟨2, [1], 0⟩, ⟨3, [2], 0⟩], [0]⟩
  let T' : TA := ⟨[⟨0, [], 1⟩, ⟨1, [], 1⟩, ⟨2, [1], 0⟩, ⟨3, [1], 0⟩], [0]⟩
  have hA : loadTA CliEx.oldA [] [] = .ok (T, [("top", 0), ("a_1|b", 1), ("a", 2)], CliEx.yd) := by decide +kernel
  have hB : loadTA CliEx.oldB [] CliEx.yd = .ok (T, [("top", 0), ("c", 1), ("b_1|c", 2)], CliEx.yd) := by decide +kernel
  -- `?old`, `?new`: the two pipelines are run once each, for the last two conjuncts, and name `out` in the existentials
  refine ⟨by decide +kernel, by decide +kernel,
    ⟨T, _, T, _, _, T', [("[top_1|top_2]", 0), ("[a_1|b_1|c_2]", 1)], hA, hB, ?old, by decide +kernel, by decide, by decide,
      by decide⟩,
    ⟨_, T, [("[top_1|top_2]", 0), ("[a_1|b_1|c_2]", 1), ("[a_1|b_1|c_2]'", 2)], ?new, by decide +kernel, by decide, by decide⟩,
    ?old, ?new⟩
  case old => decide +kernel
  case new => decide +kernel

-- the texts the two versions print (executed)
#guard CliPipe.Test.okIs (cliIsectOld CliEx.oldA CliEx.oldB)
  "Ops \nAutomaton anonymous\nStates \nFinal States [top_1|top_2] \nTransitions\nx -> [a_1|b_1|c_2]\ny -> [a_1|b_1|c_2]\nf([a_1|b_1|c_2]) -> [top_1|top_2]\ng([a_1|b_1|c_2]) -> [top_1|top_2]\n"
#guard CliPipe.Test.okIs (cliIsect CliEx.oldA CliEx.oldB)
  "Ops \nAutomaton anonymous\nStates \nFinal States [top_1|top_2] \nTransitions\nx -> [a_1|b_1|c_2]\ny -> [a_1|b_1|c_2]'\nf([a_1|b_1|c_2]) -> [top_1|top_2]\ng([a_1|b_1|c_2]') -> [top_1|top_2]\n"

/-! ### 5. the hypothesis `WellFormed` of the text-level theorems

The description-level theorems (`C02_cli_union_desc_lang`, `C02_cli_isect_desc_lang`) need no hypothesis.  The text-level ones need
the printed names to survive serializer and parser; `WellFormed` of the operands gives that (`good_name1`, `good_name2`,
`good_prodName`, `good_primes`).  It cannot be dropped: with the state name `q:x` the printed union is rejected by the parser. -/

namespace CliEx
def badA : AutDesc := { name := "A", symbols := [], states := [], final := ["q:x"], trans := [([], "a", "q:x")] }
end CliEx

example : ¬ CliEx.badA.WellFormed := by decide +kernel
#guard (match cliUnion CliEx.badA CliPipe.Test.dB with
  | .ok txt => (match loadString txt [] [] with | .ok _ => false | .error _ => true)
  | .error _ => false)

/-!
## still not proved

* The NFA commands (`ExplicitFiniteAut`, `Vata/NfaOps.lean`, `Vata/NfaStart.lean`): no `C10_cli_union_lang` /
  `C10_cli_isect_lang`; the pipeline of this file is the one of `ExplicitTreeAut` only.  Likewise the BDD representations
  (`-r bdd-td`, `-r bdd-bu`) of the same `performOperation` template.
* The options `-p` / `-u` (pruning of the operands between load and operation) are not part of `cliUnion` / `cliIsect`.
* `IntersectionBU` is not reachable from the command line and is not composed with the dictionaries here.
* The iteration orders of the C++ containers are list orders.  The language theorems hold for the list order of the models; that
  they hold for EVERY order is proved for the automaton level (`C02_union_model_any_order`) and for the dictionary level
  (`C02_cli_product_names_injective` is about any list `pm`), but `cliUnion` / `cliIsect` are not parametrised by the orders, and the
  PRINTED text (which state gets the prime) does depend on them.
* `toGlue` states what the two `std::map`s of a dictionary are after a load into an EMPTY dictionary (`Dict.Ok`); a pre-filled
  dictionary (never the case in `performOperation`) is outside.
* That `WellFormed` cannot be dropped at text level is shown by an executed example (`#guard`), not by a kernel-checked theorem
  (the parser is not run inside the kernel here).
* The denotation of the printed text is taken on the alphabet the run left (`yd₂`); a reader process with a fresh alphabet numbers
  the symbols in order of first occurrence in the text, i.e. the same language up to the renaming of symbols by name
  (`load_lang_perm` in `Vata/Proofs/LoadDump.lean` is the tool, not composed here).
-/
end Vata.Props
