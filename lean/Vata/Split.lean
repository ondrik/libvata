/-! `split_delim` of the Timbuk parser (`src/timbuk_parser-nobison.cc`) and its inverse, the join -/
namespace Vata.T

/-- mirrors `split_delim`: the pieces between occurrences of `d` (always at least one piece) -/
def splitDelim (d : Char) : List Char → List (List Char)
  | [] => [[]]
  | c :: cs =>
    if c = d then [] :: splitDelim d cs
    else match splitDelim d cs with
      | [] => [[c]]            -- unreachable
      | p :: ps => (c :: p) :: ps

def joinWith (d : Char) : List (List Char) → List Char
  | [] => []
  | [p] => p
  | p :: q :: ps => p ++ d :: joinWith d (q :: ps)

theorem splitDelim_ne_nil (d : Char) (s : List Char) : splitDelim d s ≠ [] := by
  induction s with
  | nil => simp [splitDelim]
  | cons c cs ih =>
    simp only [splitDelim]
    split
    · simp
    · split <;> simp

theorem splitDelim_append_nodelim (d : Char) (p : List Char) (hp : d ∉ p) (rest : List Char) :
    splitDelim d (p ++ d :: rest) = p :: splitDelim d rest := by
  induction p with
  | nil => simp [splitDelim]
  | cons c cs ih =>
    have hc : c ≠ d := fun h => hp (h ▸ List.mem_cons_self)
    have hcs : d ∉ cs := fun h => hp (List.mem_cons_of_mem _ h)
    simp only [List.cons_append, splitDelim, hc, if_false, ih hcs]

theorem splitDelim_nodelim (d : Char) (p : List Char) (hp : d ∉ p) : splitDelim d p = [p] := by
  induction p with
  | nil => simp [splitDelim]
  | cons c cs ih =>
    have hc : c ≠ d := fun h => hp (h ▸ List.mem_cons_self)
    have hcs : d ∉ cs := fun h => hp (List.mem_cons_of_mem _ h)
    simp only [splitDelim, hc, if_false, ih hcs]

/-- splitting a join of delimiter-free pieces gives the pieces back -/
theorem splitDelim_joinWith (d : Char) : ∀ (ps : List (List Char)), ps ≠ [] → (∀ p, p ∈ ps → d ∉ p) →
    splitDelim d (joinWith d ps) = ps
  | [], h, _ => absurd rfl h
  | [p], _, hp => by simp only [joinWith]; exact splitDelim_nodelim d p (hp p List.mem_cons_self)
  | p :: q :: ps, _, hp => by
    simp only [joinWith]
    rw [splitDelim_append_nodelim d p (hp p List.mem_cons_self),
      splitDelim_joinWith d (q :: ps) (by simp) (fun x hx => hp x (List.mem_cons_of_mem _ hx))]

#print axioms splitDelim_joinWith
end Vata.T
