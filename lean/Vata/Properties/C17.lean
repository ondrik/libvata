import Vata.Proofs.MtbddOps
import Vata.Proofs.RcStore
import Vata.Proofs.StoreRefine
/-!
# C17 – MTBDD operations are pointwise correct and representations are canonical

> For MTBDDs over a fixed variable order, the value an MTBDD returns for a total assignment is the value it was built
> with, and the result of a unary, binary or ternary apply is, for every assignment, the leaf operation applied to the
> operands' values for that assignment. Two MTBDDs compare equal exactly when they denote the same function, and
> projection, renaming, prefix extension and prefix selection denote the corresponding functions.

(quantifier: *for all variable assignments (with don't-care positions), leaf values and operation trees, in every order
of construction within one process-wide node store*)

## How the statement is read into the model

* **Specification (L0).**  `M.eval a ρ` (`Vata/Mtbdd.lean`) is the function denoted by a diagram `a : M.Node α` under the
  total assignment `ρ : Nat → Bool` (variable `x` of an inner node selects `hi` when `ρ x`, else `lo`).  A symbolic
  assignment (`SymbolicVarAsgn`) is a `List (Option Bool)`: position `i` is variable `i`, `none` is `DONT_CARE`;
  `M.agrees ρ asgn 0` (equivalently `∀ i b, asgn[i]? = some (some b) → ρ i = b`, `M.agrees_iff`) says that the total
  assignment `ρ` lies in the cube `asgn`.  "The corresponding function" of an operation is written out on the right-hand
  side of each theorem in terms of `eval` only.
* **Model of the code.**  `M.construct`, `M.apply1`, `M.apply2`, `M.apply3`, `M.project`/`M.projectVar`, `M.rename`,
  `M.extendWith`, `M.getPrefix`, `M.getValue`, `M.getPaths`, `M.voidApply1/2` (`Vata/MtbddOps.lean`, `Vata/Apply.lean`)
  mirror `constructMTBDD`, `Apply{1,2,3}Functor::recDescend` with the case split of `classify_case.hh`, `Project`,
  `Rename`, `ExtendWith`, `GetMtbddForPrefix`, `GetValue`, `GetPaths`, `VoidApply{1,2}Functor` of
  `src/mtbdd/ondriks_mtbdd.hh` & co.  `M.mk` is the `low == high` reduction of `recDescend`.  The memo tables `ht` of the
  apply functors are not modelled (they only memoise).
* **Node identity.**  An MTBDD of the C++ is a pointer into the process-wide store; `spawnLeaf`/`spawnInternal`
  hash-cons through the two unique tables, so that two pointers are equal iff the diagrams below them are the same.
  In this model a diagram is a *tree* `M.Node α` and pointer equality (`operator==`) is modelled by structural equality
  `=` of `Node`.
* **`M.WF`** (well-formed) = *ordered* (on every path the variables strictly decrease from the root: `Below x lo`,
  `Below x hi`; the larger variable is nearer the root, as `constructMTBDD` builds them) and *reduced* (`lo ≠ hi` at every
  inner node).  This is the invariant that the unique tables together with the `low == high` test maintain; every
  operation of the model is proved to preserve it (`C17_construct_wellformed`, `C17_apply_wellformed`, the second
  components of `C17_project`, `C17_rename`, `C17_prefix_extension`, `C17_prefix_selection`), and on `WF` diagrams
  structural equality is semantic equality (`C17_equal_iff_same_function`).  Hypotheses `WF a` below therefore hold for
  every diagram obtained from `construct` by the operations of the model.
* **The store across a history.**  That the real store indeed keeps one node per content "in every order of
  construction" is a statement about the unique tables along an operation history; it is modelled in
  `Vata/RcStore.lean` (property C18).  Proved there: after every history the two tables contain exactly the allocated
  nodes, keyed by their contents (`RcS.tables_exact`).  From this (`Vata/Proofs/StoreRefine.lean`, last section of this
  file): two allocated nodes whose unfoldings (`RcS.unfold`, the tree below the node) are structurally equal are the same
  node and every unfolding is `M.WF` (`C17_store_nodes_canonical`), hence two live handles have the same root pointer iff
  they denote the same function (`C17_store_equal_iff_same_function`); and the store-level `RcS.construct` / `RcS.apply2`
  unfold to the tree-level `M.construct` / `M.apply2` of this file (`C17_store_construct`, `C17_store_apply`), so that
  modelling pointer equality by structural equality of trees is a theorem about the store model, not an assumption.
-/
namespace Vata.Props
open Vata.M

/-! ### construction: "the value an MTBDD returns for a total assignment is the value it was built with" -/

open Classical in
/-- the diagram built by `OndriksMTBDD(asgn, v, d)` denotes: `v` on the cube `asgn` (don't-care positions are
unconstrained), the default value `d` elsewhere; `agrees` is the Boolean form of membership in the cube -/
theorem C17_construct_value {α : Type} [DecidableEq α] (asgn : List (Option Bool)) (v d : α) (ρ : Nat → Bool) :
    eval (construct asgn v d) ρ = (if (∀ i b, asgn[i]? = some (some b) → ρ i = b) then v else d) ∧
    eval (construct asgn v d) ρ = (if agrees ρ asgn 0 = true then v else d) :=
  ⟨construct_eval asgn v d ρ, construct_eval_agrees asgn v d ρ⟩

example : eval OpsEx.exA (fun i => i == 0 || i == 1) = 5 ∧ eval OpsEx.exA (fun _ => true) = 0 := by decide
example : agrees (fun i => i == 0 || i == 1) [some true, none, some false] 0 = true := by decide

/-- the constructed diagram is ordered and reduced, and mentions only the variables of the assignment -/
theorem C17_construct_wellformed {α : Type} [DecidableEq α] (asgn : List (Option Bool)) (v d : α) :
    WF (construct asgn v d) ∧ Below asgn.length (construct asgn v d) :=
  ⟨construct_wf asgn v d, construct_below asgn v d⟩

example : construct [some true, none, some false] 5 0 = .node 2 (.node 0 (.leaf 0) (.leaf 5)) (.leaf 0) := by decide
example : construct [some true, none] 7 7 = Node.leaf 7 := by decide

/-- `GetValue(q)` of a constructed diagram: the built-in value when the assignment read off the query lies in the cube;
the assignment read off a query `q` sets variable `i` iff `q[i]` is `ONE` (see `C17_getValue` for the treatment of
`DONT_CARE` in queries) -/
theorem C17_construct_getValue {α : Type} [DecidableEq α] (asgn q : List (Option Bool)) (v d : α) :
    getValue (construct asgn v d) q =
      if agrees (fun i => decide (q[i]? = some (some true))) asgn 0 = true then v else d := by
  rw [getValue_dontcare, construct_eval_agrees]

example : getValue (construct [some true, none, some false] 5 0) [some true, some true, some false] = 5 ∧
    getValue (construct [some true, none, some false] 5 0) [some true, some true, some true] = 0 := by decide +kernel

/-! ### apply -/

/-- unary, binary and ternary apply: for every assignment the value of the result is the leaf operation applied to the
values of the operands (no hypothesis on the operands is needed) -/
theorem C17_apply_pointwise {α β γ δ : Type} [DecidableEq δ] (f₁ : α → δ) (f₂ : α → β → δ) (f₃ : α → β → γ → δ)
    (a : Node α) (b : Node β) (c : Node γ) (ρ : Nat → Bool) :
    eval (apply1 f₁ a) ρ = f₁ (eval a ρ) ∧
    eval (apply2 f₂ a b) ρ = f₂ (eval a ρ) (eval b ρ) ∧
    eval (apply3 f₃ a b c) ρ = f₃ (eval a ρ) (eval b ρ) (eval c ρ) :=
  ⟨apply1_eval f₁ ρ a, apply2_eval f₂ ρ a b, apply3_eval f₃ ρ a b c⟩

example : apply2 (fun a b => a + b) OpsEx.exA OpsEx.exB
    = .node 2 (.node 1 (.node 0 (.leaf 0) (.leaf 5)) (.node 0 (.leaf 10) (.leaf 15))) (.node 1 (.leaf 0) (.leaf 10)) := by
  rw [OpsEx.exA_eq, OpsEx.exB_eq]; simp [apply2, mk]
example : eval (apply3 (fun a b c => a + b + c) OpsEx.exA OpsEx.exB OpsEx.exC) (fun i => i == 0) = 105 := by
  rw [(C17_apply_pointwise (fun a => a) (fun a b => a + b) _ OpsEx.exA OpsEx.exB OpsEx.exC _).2.2]; decide
-- the reduction `low == high` is exercised
example : apply1 (fun v => v % 5) OpsEx.exA = .leaf 0 := by decide

/-- the results of the three applies are ordered and reduced whenever the operands are -/
theorem C17_apply_wellformed {α β γ δ : Type} [DecidableEq δ] (f₁ : α → δ) (f₂ : α → β → δ) (f₃ : α → β → γ → δ)
    (a : Node α) (b : Node β) (c : Node γ) (wa : WF a) (wb : WF b) (wc : WF c) :
    WF (apply1 f₁ a) ∧ WF (apply2 f₂ a b) ∧ WF (apply3 f₃ a b c) :=
  ⟨apply1_wf f₁ wa, apply2_wf f₂ a b wa wb, apply3_wf f₃ a b c wa wb wc⟩

example : WF OpsEx.exA ∧ WF OpsEx.exB ∧ WF OpsEx.exC := ⟨OpsEx.exA_wf, OpsEx.exB_wf, OpsEx.exC_wf⟩

/-! ### canonicity: `operator==` -/

/-- on ordered reduced diagrams (the ones the unique tables keep) equality of the representation – pointer equality in
the C++, structural equality in the model – holds exactly when the two diagrams denote the same function.  The
hypotheses are needed: `.node 0 (.leaf 1) (.leaf 1)` and `.leaf 1` denote the same function (second example) -/
theorem C17_equal_iff_same_function {α : Type} (a b : Node α) (wa : WF a) (wb : WF b) :
    a = b ↔ ∀ ρ, eval a ρ = eval b ρ := eq_iff_sem wa wb

example : WF (apply2 (fun a b => a + b) OpsEx.exA OpsEx.exB) ∧ WF (apply2 (fun a b => b + a) OpsEx.exB OpsEx.exA) :=
  ⟨apply2_wf _ _ _ OpsEx.exA_wf OpsEx.exB_wf, apply2_wf _ _ _ OpsEx.exB_wf OpsEx.exA_wf⟩
example : (Node.node 0 (.leaf 1) (.leaf 1) : Node Nat) ≠ .leaf 1 ∧
    ∀ ρ, eval (Node.node 0 (.leaf 1) (.leaf 1) : Node Nat) ρ = eval (.leaf 1) ρ :=
  ⟨by decide, fun ρ => by simp [eval]⟩

/-- "equal functions share one root": two binary applies (any operands, any leaf operations) whose results denote the
same function return the identical diagram – this is what the apply caches and `operator==` rely on -/
theorem C17_apply_results_canonical {α β α' β' γ : Type} [DecidableEq γ] (f : α → β → γ) (g : α' → β' → γ)
    (a : Node α) (b : Node β) (a' : Node α') (b' : Node β') (wa : WF a) (wb : WF b) (wa' : WF a') (wb' : WF b')
    (h : ∀ ρ, f (eval a ρ) (eval b ρ) = g (eval a' ρ) (eval b' ρ)) : apply2 f a b = apply2 g a' b' :=
  (eq_iff_sem (apply2_wf f a b wa wb) (apply2_wf g a' b' wa' wb')).mpr
    (fun ρ => by rw [apply2_eval, apply2_eval]; exact h ρ)

example : apply2 (fun a b => a + b) OpsEx.exA OpsEx.exB = apply2 (fun a b => b + a) OpsEx.exB OpsEx.exA :=
  C17_apply_results_canonical _ _ _ _ _ _ OpsEx.exA_wf OpsEx.exB_wf OpsEx.exB_wf OpsEx.exA_wf (fun _ => rfl)

/-! ### projection -/

/-- `Project` of one variable `x` with the leaf operation `f`: the result combines the two cofactors of `x` by `f`, and is
again ordered and reduced.  The hypothesis that `f` is idempotent is needed: a variable on which the diagram does not
depend is not represented (reduction), so no `f` is applied for it (with `f = (· + ·)` the constant `1` projects to `1`,
not to `1 + 1`; second example) -/
theorem C17_project {α : Type} [DecidableEq α] (x : Nat) (f : α → α → α) (idem : ∀ v, f v v = v) (a : Node α)
    (wa : WF a) :
    (∀ ρ, eval (projectVar x f a) ρ = f (eval a (upd ρ x false)) (eval a (upd ρ x true))) ∧ WF (projectVar x f a) :=
  ⟨fun ρ => project_eval x f idem ρ wa, projectVar_wf x f wa⟩

example : projectVar 0 max OpsEx.exA = .node 2 (.leaf 5) (.leaf 0) := by
  rw [OpsEx.exA_eq]; simp [projectVar, project, apply2, mk]
example : eval (projectVar 0 (fun a b => a + b) (Node.leaf 1)) (fun _ => false)
    ≠ eval (Node.leaf 1) (upd (fun _ => false) 0 false) + eval (Node.leaf 1) (upd (fun _ => false) 0 true) := by
  decide

/-- `Project` of all variables selected by an arbitrary predicate `pred`, for an associative, commutative and idempotent
leaf operation `f` (e.g. union of state sets, which is how the library uses it).  Write `u ≤ v` for `f u v = v`; the value
of the projection at `ρ` is the least upper bound of the values `eval a ρ'` over all `ρ'` that coincide with `ρ` outside
`pred`: it is an upper bound, and it is below every upper bound `u`.  The result is ordered and reduced -/
theorem C17_project_lub {α : Type} [DecidableEq α] (pred : Nat → Bool) (f : α → α → α)
    (assoc : ∀ u v w, f (f u v) w = f u (f v w)) (comm : ∀ u v, f u v = f v u) (idem : ∀ v, f v v = v)
    (a : Node α) (wa : WF a) (ρ : Nat → Bool) :
    (∀ ρ', (∀ y, pred y = false → ρ' y = ρ y) → f (eval a ρ') (eval (project pred f a) ρ) = eval (project pred f a) ρ) ∧
    (∀ u, (∀ ρ', (∀ y, pred y = false → ρ' y = ρ y) → f (eval a ρ') u = u) → f (eval (project pred f a) ρ) u = u) ∧
    WF (project pred f a) :=
  ⟨fun ρ' hag => project_ub pred f assoc comm idem ρ ρ' hag a, fun u hu => project_least pred f assoc u ρ wa hu,
    project_wf pred f wa⟩

example : project (fun _ => true) max OpsEx.exA = .leaf 5 := by
  rw [OpsEx.exA_eq]; simp [project, apply2]
example : (∀ u v w : Nat, max (max u v) w = max u (max v w)) ∧ (∀ u v : Nat, max u v = max v u) ∧ ∀ v : Nat, max v v = v :=
  ⟨Nat.max_assoc, Nat.max_comm, Nat.max_self⟩

/-! ### renaming -/

/-- `Rename(r)`: the renamed diagram evaluated under `σ` is the original evaluated under `σ ∘ r` (for every `r`); it is
ordered and reduced when `r` is strictly monotone.  Monotonicity is needed for well-formedness only: `Rename` relabels the
nodes in place without re-ordering (`x ↦ 2 - x` breaks orderedness, second example) -/
theorem C17_rename {α : Type} (r : Nat → Nat) (a : Node α) :
    (∀ σ, eval (rename r a) σ = eval a (σ ∘ r)) ∧
    ((∀ x y, x < y → r x < r y) → WF a → WF (rename r a)) :=
  ⟨fun σ => rename_eval r σ a, fun mono wa => rename_wf r mono wa⟩

example : rename (fun x => 2 * x + 1) OpsEx.exA = .node 5 (.node 1 (.leaf 0) (.leaf 5)) (.leaf 0) ∧
    ∀ x y, x < y → 2 * x + 1 < 2 * y + 1 := ⟨by decide +kernel, fun x y h => by omega⟩
example : ¬ WF (rename (fun x => 2 - x) OpsEx.exA) := by
  rw [OpsEx.exA_eq]; simp [rename, WF, Below]

/-! ### prefix extension and prefix selection -/

/-- `ExtendWith(asgn, off)` on a diagram `a` with default value `d`: the result has the value of `a` where the variables
`off, off+1, …` lie in the cube `asgn`, and `d` elsewhere.  It is ordered and reduced provided all variables of `a` are
below the offset (`Below off a`), which is how the library calls it (`ExtendWith(prefix, SYMBOL_SIZE)`); without that
hypothesis the new nodes would be put above nodes with larger variables -/
theorem C17_prefix_extension {α : Type} [DecidableEq α] (asgn : List (Option Bool)) (off : Nat) (a : Node α) (d : α) :
    (∀ ρ, eval (extendWith asgn off a d) ρ = if agrees (fun j => ρ (j + off)) asgn 0 = true then eval a ρ else d) ∧
    (WF a → Below off a → WF (extendWith asgn off a d)) :=
  ⟨fun ρ => extendWith_eval asgn off a d ρ, fun wa ba => extendWith_wf asgn off a d wa ba⟩

example : extendWith [some true, some false] 3 OpsEx.exA 0
    = .node 4 (.node 3 (.leaf 0) (.node 2 (.node 0 (.leaf 0) (.leaf 5)) (.leaf 0))) (.leaf 0) := by decide
example : WF OpsEx.exA ∧ Below 3 OpsEx.exA := ⟨OpsEx.exA_wf, by rw [OpsEx.exA_eq]; simp [Below]⟩

/-- `GetMtbddForPrefix(asgn, off)`: the result denotes the function of `a` with the variables `off, off+1, …` fixed as
the prefix `asgn` says (variable `off + j` is set iff `asgn[j]` is `ONE`; `ZERO`, `DONT_CARE` and missing positions are
read as 0, as in `GetValue`), it is ordered and reduced and mentions only variables below `off` -/
theorem C17_prefix_selection {α : Type} (asgn : List (Option Bool)) (off : Nat) (a : Node α) (wa : WF a) :
    (∀ ρ, eval (getPrefix asgn off a) ρ
      = eval a (fun i => if i < off then ρ i else decide (asgn[i - off]? = some (some true)))) ∧
    WF (getPrefix asgn off a) ∧ Below off (getPrefix asgn off a) :=
  ⟨fun ρ => getPrefix_eval asgn off ρ wa, getPrefix_wf asgn off wa⟩

example : getPrefix [some true, some false] 3 (extendWith [some true, some false] 3 OpsEx.exA 0) = OpsEx.exA ∧
    getPrefix [some false, some false] 3 (extendWith [some true, some false] 3 OpsEx.exA 0) = .leaf 0 := by decide
example : WF (extendWith [some true, some false] 3 OpsEx.exA 0) :=
  (C17_prefix_extension _ _ _ _).2 OpsEx.exA_wf (by rw [OpsEx.exA_eq]; simp [Below])

/-! ### the observers `GetValue` and `GetPaths` -/

/-- `GetValue(q)`.  (1) For every query, with or without don't cares, it is the value under the total assignment that
sets variable `i` iff `q[i]` is `ONE`: a `DONT_CARE` of the *query* is read as 0 (it does not mean "all completions agree";
first example).  (2) Hence for a query that gives a definite value to every variable occurring in the diagram
(`Covers q a`) it is the value under any total assignment `ρ` in the cube `q` -/
theorem C17_getValue {α : Type} (q : List (Option Bool)) (a : Node α) :
    getValue a q = eval a (fun i => decide (q[i]? = some (some true))) ∧
    (∀ ρ, agrees ρ q 0 = true → Covers q a → getValue a q = eval a ρ) :=
  ⟨getValue_dontcare q a, fun ρ hag hc => getValue_total q ρ hag a hc⟩

example : getValue OpsEx.exA [some true, none, none] = 5 ∧ getValue OpsEx.exA [some true, none, some true] = 0 := by
  decide
example : agrees (fun i => i == 0) [some true, none, some false] 0 = true ∧
    Covers [some true, none, some false] OpsEx.exA :=
  ⟨by decide, by rw [OpsEx.exA_eq]; exact ⟨⟨false, rfl⟩, ⟨⟨true, rfl⟩, trivial, trivial⟩, trivial⟩⟩

/-- `GetPaths`: the listed (cube, value) pairs describe the function exactly – the value at `ρ` is `v` iff some listed
cube that contains `ρ` carries `v` (in particular the cubes cover all assignments and overlapping cubes agree) -/
theorem C17_getPaths {α : Type} (a : Node α) (wa : WF a) (ρ : Nat → Bool) (v : α) :
    eval a ρ = v ↔ ∃ p, (p, v) ∈ getPaths a ∧ agrees ρ p 0 = true := getPaths_iff wa ρ v

example : getPaths OpsEx.exA =
    [([some false, none, some false], 0), ([some true, none, some false], 5), ([none, none, some true], 0)] := by
  decide

/-- the traversals `VoidApply1Functor` / `VoidApply2Functor` call the leaf operation exactly on the values (pairs of
values) that occur together under some assignment -/
theorem C17_void_apply {α β : Type} (a : Node α) (b : Node β) (wa : WF a) (wb : WF b) :
    (∀ u, u ∈ voidApply1 a ↔ ∃ ρ, eval a ρ = u) ∧
    (∀ u v, (u, v) ∈ voidApply2 a b ↔ ∃ ρ, eval a ρ = u ∧ eval b ρ = v) :=
  ⟨fun _ => mem_voidApply1 wa, fun u v => mem_voidApply2 u v a b wa wb⟩

example : voidApply2 OpsEx.exB OpsEx.exC = [(0, 100), (10, 100), (0, 0), (10, 0)] := by
  rw [OpsEx.exB_eq, OpsEx.exC_eq]; simp [voidApply2]

/-! ### "in every order of construction within one process-wide node store" -/

/-- One level deep.  In the model of the process-wide store (`Vata/RcStore.lean`: the two unique tables, reference
counters, handles; histories of construct / copy / assign / binary apply with an arbitrary leaf operation `f` / destroy)
after every history two allocated nodes with the same contents (same leaf value, or same `(low, high, var)`) are the same
node, whatever the order of construction and release.  (The name is historical; the full clause – same unfolding, same
node; unfoldings are `M.WF`; the store operations unfold to the tree operations – is
`C17_store_nodes_canonical`, `C17_store_equal_iff_same_function`, `C17_store_construct`, `C17_store_apply` below.) -/
theorem C17_store_nodes_unique_partial (f : Nat → Nat → Nat) (ops : List RcS.Op) (n n' : Nat)
    (hn : n ∈ (RcS.runF f ops).ids) (hn' : n' ∈ (RcS.runF f ops).ids)
    (hd : (RcS.runF f ops).dat n = (RcS.runF f ops).dat n') : n = n' := by
  obtain ⟨hl, hi, _⟩ := RcS.tables_exact f ops
  cases e : (RcS.runF f ops).dat n' with
  | leaf v => exact Option.some.inj ((hl n v hn (hd.trans e)).symm.trans (hl n' v hn' e))
  | int lo hi' var => exact Option.some.inj ((hi n lo hi' var hn (hd.trans e)).symm.trans (hi n' lo hi' var hn' e))

-- a history with 4 leaves and 6 inner nodes allocated, in which the same leaf value was requested several times
example : RcS.tableSizes (RcS.runF RcS.applyOp RcS.Ex.ops) = (4, 6) ∧ (RcS.runF RcS.applyOp RcS.Ex.ops).ids.length = 10 := by
  decide +kernel

/-- Hash-consing in full.  After every history of the store model (1) two allocated nodes whose unfoldings – the trees
below them, `RcS.unfold` with the fuel used by `RcS.denote` – are structurally equal are the same node, and (2) the
unfolding of every allocated node is ordered and reduced (`M.WF`).  So the map node ↦ diagram is an injection of the
allocated nodes into the `WF` trees of this file: pointer equality of the store *is* structural equality of the tree
model.  ((2) is proved through a second invariant `RcS.WfInv` – every allocated inner node has `low ≠ high`, the
`assert` of `recDescend`, and children with smaller variables – preserved by every operation, `RcS.stepF_wfInv`) -/
theorem C17_store_nodes_canonical (f : Nat → Nat → Nat) (ops : List RcS.Op) :
    (∀ n n', n ∈ (RcS.runF f ops).ids → n' ∈ (RcS.runF f ops).ids →
      RcS.unfold (RcS.runF f ops).dat (n+1) n = RcS.unfold (RcS.runF f ops).dat (n'+1) n' → n = n') ∧
    (∀ n, n ∈ (RcS.runF f ops).ids → WF (RcS.unfold (RcS.runF f ops).dat (n+1) n)) :=
  ⟨fun _ _ hn hn' he => RcS.unfold_injective (RcS.runF_inv f ops) hn hn' he, RcS.unfold_wf f ops⟩

-- a store with 3 leaves and 7 inner nodes; the unfoldings of two of its inner nodes
example : (RcS.runF RcS.applyOp RcS.RefineEx.ops).ids = [9, 8, 7, 6, 5, 4, 3, 2, 1, 0] ∧
    RcS.unfold (RcS.runF RcS.applyOp RcS.RefineEx.ops).dat 8 7
      = .node 1 (.node 0 (.leaf 0) (.leaf 5)) (.node 0 (.leaf 7) (.leaf 5)) ∧
    RcS.unfold (RcS.runF RcS.applyOp RcS.RefineEx.ops).dat 10 9 = .node 1 (.node 0 (.leaf 0) (.leaf 5)) (.leaf 7) :=
  ⟨RcS.RefineEx.ops_ids, RcS.RefineEx.ops_run.2.2.2⟩

/-- "Two MTBDDs compare equal exactly when they denote the same function", for handles of the store along any history:
two live handles `h₁`, `h₂` have the same root pointer (`operator==` compares `root_`) iff their roots denote the same
function (`RcS.denote`), iff `GetValue` agrees on them for every total assignment (`RcS.getValue`) -/
theorem C17_store_equal_iff_same_function (f : Nat → Nat → Nat) (ops : List RcS.Op) (h₁ h₂ r₁ r₂ : Nat)
    (hf₁ : RcS.find h₁ (RcS.runF f ops).hs = some r₁) (hf₂ : RcS.find h₂ (RcS.runF f ops).hs = some r₂) :
    (r₁ = r₂ ↔ ∀ ρ, RcS.denote (RcS.runF f ops) r₁ ρ = RcS.denote (RcS.runF f ops) r₂ ρ) ∧
    (RcS.find h₁ (RcS.runF f ops).hs = RcS.find h₂ (RcS.runF f ops).hs ↔
      ∀ ρ, RcS.getValue (RcS.runF f ops) h₁ ρ = RcS.getValue (RcS.runF f ops) h₂ ρ) :=
  ⟨RcS.handle_eq_iff_same_function f ops (RcS.find_some_mem hf₁) (RcS.find_some_mem hf₂),
   RcS.handle_eq_iff_same_getValue f ops hf₁ hf₂⟩

-- handles 3 and 4 are results of two applies with swapped operands, one operand built from a different cube list: same
-- root; handles 5 and 6 have different roots
example : RcS.find 3 (RcS.runF RcS.applyOp RcS.RefineEx.ops).hs = some 7 ∧
    RcS.find 4 (RcS.runF RcS.applyOp RcS.RefineEx.ops).hs = some 7 ∧
    RcS.find 5 (RcS.runF RcS.applyOp RcS.RefineEx.ops).hs = some 8 ∧
    RcS.find 6 (RcS.runF RcS.applyOp RcS.RefineEx.ops).hs = some 9 := by rw [RcS.RefineEx.ops_hs]; decide
example : RcS.RefineEx.ops = [.construct 0 [some true, none] 5 0, .construct 1 [some true] 5 0,
    .construct 2 [some false, some true] 7 0, .apply 0 2 3, .apply 2 1 4, .destroy 0, .construct 5 [none, some true] 7 0,
    .apply 5 1 6] := rfl

open Classical in
/-- Refinement of construction.  After any history, `OndriksMTBDD h(asgn, v, d)` for a fresh handle name `h` yields a
live handle whose root unfolds to exactly the diagram `construct asgn v d` of the tree model (so `C17_construct_value`,
`C17_construct_wellformed`, … speak about the store's node), and `GetValue` of the handle is `v` on the cube, `d`
elsewhere -/
theorem C17_store_construct (f : Nat → Nat → Nat) (ops : List RcS.Op) (h : Nat) (asgn : List (Option Bool)) (v d : Nat)
    (hf : RcS.find h (RcS.runF f ops).hs = none) :
    ∃ r, RcS.find h (RcS.runF f (ops ++ [.construct h asgn v d])).hs = some r ∧
      RcS.unfold (RcS.runF f (ops ++ [.construct h asgn v d])).dat (r+1) r = construct asgn v d ∧
      ∀ ρ, RcS.getValue (RcS.runF f (ops ++ [.construct h asgn v d])) h ρ
          = some (if agrees ρ asgn 0 = true then v else d) ∧
        RcS.getValue (RcS.runF f (ops ++ [.construct h asgn v d])) h ρ
          = some (if (∀ i b, asgn[i]? = some (some b) → ρ i = b) then v else d) := by
  obtain ⟨r, h1, h2, _⟩ := RcS.construct_denotes f ops h asgn v d hf
  refine ⟨r, h1, h2, fun ρ => ?_⟩
  have h3 := RcS.construct_getValue f ops h asgn v d hf ρ
  refine ⟨h3, ?_⟩
  rw [h3, ← construct_eval_agrees, construct_eval]

example : RcS.find 7 (RcS.runF RcS.applyOp RcS.RefineEx.ops).hs = none := RcS.RefineEx.ops_find.1
example : RcS.find 7 (RcS.runF RcS.applyOp (RcS.RefineEx.ops ++ [.construct 7 [none, some false] 3 4])).hs = some 12 ∧
    RcS.unfold (RcS.runF RcS.applyOp (RcS.RefineEx.ops ++ [.construct 7 [none, some false] 3 4])).dat 13 12
      = .node 1 (.leaf 3) (.leaf 4) := by decide +kernel

/-- Refinement of the binary apply.  After any history, `OndriksMTBDD dst = apply(a, b)` with leaf operation `f`, for
live handles `a`, `b` (roots `ra`, `rb`) and a fresh name `dst`, yields a live handle whose root unfolds to exactly
`apply2 f` of the unfoldings of `ra` and `rb` (the store-level `recDescend` with its pointer test `low == high` and its
two unique tables computes the tree-level `apply2` with `mk`; so `C17_apply_pointwise`, `C17_apply_wellformed`,
`C17_apply_results_canonical` speak about the store's node), and denotes the pointwise `f` of the operands, which keep
their roots -/
theorem C17_store_apply (f : Nat → Nat → Nat) (ops : List RcS.Op) (a b dst ra rb : Nat)
    (ha : RcS.find a (RcS.runF f ops).hs = some ra) (hb : RcS.find b (RcS.runF f ops).hs = some rb)
    (hd : RcS.find dst (RcS.runF f ops).hs = none) :
    ∃ r, RcS.find dst (RcS.runF f (ops ++ [.apply a b dst])).hs = some r ∧
      RcS.find a (RcS.runF f (ops ++ [.apply a b dst])).hs = some ra ∧
      RcS.find b (RcS.runF f (ops ++ [.apply a b dst])).hs = some rb ∧
      RcS.unfold (RcS.runF f (ops ++ [.apply a b dst])).dat (r+1) r =
        apply2 f (RcS.unfold (RcS.runF f (ops ++ [.apply a b dst])).dat (ra+1) ra)
          (RcS.unfold (RcS.runF f (ops ++ [.apply a b dst])).dat (rb+1) rb) ∧
      ∀ ρ, RcS.denote (RcS.runF f (ops ++ [.apply a b dst])) r ρ =
        f (RcS.denote (RcS.runF f (ops ++ [.apply a b dst])) ra ρ)
          (RcS.denote (RcS.runF f (ops ++ [.apply a b dst])) rb ρ) :=
  RcS.apply_denotes f ops a b dst ra rb ha hb hd

example : RcS.find 5 (RcS.runF RcS.applyOp RcS.RefineEx.ops).hs = some 8 ∧
    RcS.find 1 (RcS.runF RcS.applyOp RcS.RefineEx.ops).hs = some 2 ∧
    RcS.find 7 (RcS.runF RcS.applyOp RcS.RefineEx.ops).hs = none :=
  ⟨RcS.RefineEx.ops_find.2.1, RcS.RefineEx.ops_find.2.2, RcS.RefineEx.ops_find.1⟩
-- the result is the node that handle 6 (an earlier apply of the same operands) already has
example : RcS.find 7 (RcS.runF RcS.applyOp (RcS.RefineEx.ops ++ [.apply 5 1 7])).hs = some 9 := RcS.RefineEx.ops_apply_find

/-!
## closed since the last refresh of this file

No item of the list below was closed.  Related material that is new:

* The class behind "a symbolic assignment is a `List (Option Bool)`" is modelled as coded (`Vata/Glue.lean`): the packed
  two-bits-per-variable representation implements the sequence of values (`Util_Glue_asgn_packed`), `SymbolicVarAsgn(size, n)` is
  the binary representation of `n` for `size ≤ 31` – with undefined behaviour beyond 32 variables (`Util_Glue_asgn_ofNum`,
  `Util_Glue_asgn_ofNum_limits`) –, `GetVectorOfConcreteSymbols` enumerates exactly the total assignments in the cube
  (`Util_Glue_asgn_concretize`), `operator<` is a strict total order (`Util_Glue_asgn_lt_strict_total_order`).
* An apply whose leaf operation has a SIDE EFFECT (the `IntersectionApplyFunctor` of the BDD automata, which allocates
  product states): the result is the pure `M.apply2` of the pairing operation for the translation map left behind, and a
  repeated call on known leaves changes nothing – which is why the result cache of the functor does not matter there
  (`C08_isect_apply_side_effect` in `Vata/Properties/C08_Isect.lean`).
* MTBDDs with set-valued leaves as transition tables of both BDD encodings, built on the operations of this file:
  `Vata/Properties/C08.lean`, `C08_Tables.lean`.

## not yet proved

* The store model has the binary apply and the 3-argument constructor only; unary/ternary apply, `Project`, `Rename`,
  `ExtendWith`, `GetMtbddForPrefix` exist at tree level only (no store-level model, hence no refinement theorem for them).
* The refinement theorems (`C17_store_…`) are about the store *model* `Vata/RcStore.lean`; that this model and
  `OndriksMTBDD<T>` agree step by step is the correspondence check of the C17/C18 history drivers, not a theorem.
* The memo tables `ht` of the apply functors are not modelled (so "a cached result is the result that would be
  recomputed" is not a theorem; it follows informally from determinism of `recDescend` and from canonicity).
* Projection is characterised under algebraic hypotheses on the leaf operation (`C17_project`: idempotent, one variable;
  `C17_project_lub`: associative, commutative, idempotent, any predicate).  For a non-idempotent operation (the addition
  of the library's unit test) no closed form is proved – the obvious one is false (example after `C17_project`).
* `Rename` with a non-monotone renamer: the value equation holds (`C17_rename`), but the result is not ordered and
  nothing is proved about later operations on it (in the C++ `renameNode` `assert`s that the renamed children stay below
  the renamed variable, so such a renamer is outside its contract; with assertions compiled out it goes unnoticed).
* `getPrefix (extendWith …) = original` is shown on examples only, not as a theorem.
-/
end Vata.Props
