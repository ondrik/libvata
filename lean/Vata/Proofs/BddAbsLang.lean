import Vata.Proofs.BddAbs
import Vata.Proofs.PropAux
import Vata.Proofs.Rename
/-!
Property C08 at the level of languages: for the dumped automaton `absBU syms T final` (`syms` = the symbols of the
dictionary, each a 16-bit number), load-then-dump keeps the language, and both unions of tables accept exactly the union
when the operands have disjoint states.
-/
namespace Vata
namespace BddAbs

theorem mem_absRules_ofRules_cover (A : TA) (syms : List Nat) (hrs : ∀ r, r ∈ A.rules → r.sym < 2 ^ 16)
    (hs : ∀ f, f ∈ syms → f < 2 ^ 16) (hc : ∀ r, r ∈ A.rules → r.sym ∈ syms) (r : Rule) :
    r ∈ absRules syms (ofRules A.rules) ↔ r ∈ A.rules := by
  rw [absRules_ofRules A.rules syms hrs hs r]
  exact ⟨fun h => h.2, fun h => ⟨hc r h, h⟩⟩

theorem ofRules_lang (A : TA) (syms : List Nat) (hrs : ∀ r, r ∈ A.rules → r.sym < 2 ^ 16)
    (hs : ∀ f, f ∈ syms → f < 2 ^ 16) (hc : ∀ r, r ∈ A.rules → r.sym ∈ syms) (t : Tree) :
    accepts (absBU syms (ofRules A.rules) A.final) t = accepts A t :=
  lang_perm_invariant (absBU syms (ofRules A.rules) A.final) A (mem_absRules_ofRules_cover A syms hrs hs hc)
    (fun _ => Iff.rfl) t

theorem union_lang_of (A B : TA) (syms : List Nat) (T : Table)
    (hT : ∀ ρ ks p, HasRule T ρ ks p ↔ HasRule (ofRules A.rules) ρ ks p ∨ HasRule (ofRules B.rules) ρ ks p)
    (hA : ∀ r, r ∈ A.rules → r.sym < 2 ^ 16) (hB : ∀ r, r ∈ B.rules → r.sym < 2 ^ 16)
    (hs : ∀ f, f ∈ syms → f < 2 ^ 16) (hcA : ∀ r, r ∈ A.rules → r.sym ∈ syms) (hcB : ∀ r, r ∈ B.rules → r.sym ∈ syms)
    (hdis : ∀ q, q ∈ A.states → q ∉ B.states) (t : Tree) :
    accepts (absBU syms T (A.final ++ B.final)) t = (accepts A t || accepts B t) := by
  rw [← unionDisjoint_lang A B hdis t]
  refine lang_perm_invariant (absBU syms T (A.final ++ B.final)) (unionDisjoint A B) (fun r => ?_) (fun _ => Iff.rfl) t
  rw [absBU_rules]
  simp only [unionDisjoint, List.mem_append]
  rw [← mem_absRules_ofRules_cover A syms hA hs hcA r, ← mem_absRules_ofRules_cover B syms hB hs hcB r]
  exact mem_absRules_or hT r

theorem unionT_lang (A B : TA) (syms : List Nat)
    (hA : ∀ r, r ∈ A.rules → r.sym < 2 ^ 16) (hB : ∀ r, r ∈ B.rules → r.sym < 2 ^ 16)
    (hs : ∀ f, f ∈ syms → f < 2 ^ 16) (hcA : ∀ r, r ∈ A.rules → r.sym ∈ syms) (hcB : ∀ r, r ∈ B.rules → r.sym ∈ syms)
    (hdis : ∀ q, q ∈ A.states → q ∉ B.states) (t : Tree) :
    accepts (absBU syms (unionT (ofRules A.rules) (ofRules B.rules)) (A.final ++ B.final)) t =
      (accepts A t || accepts B t) :=
  union_lang_of A B syms _ (fun ρ ks p => absBU_union _ _ ρ ks p) hA hB hs hcA hcB hdis t

/-- `Union` as the code does it after the states were renumbered apart: the maps of non-empty tuples are put together,
the nullary MTBDDs are united; the hypothesis `hd` says that no non-empty tuple has an entry in both tables -/
theorem unionDisj_lang (A B : TA) (syms : List Nat)
    (hd : ∀ k, k ∈ (ofRules A.rules).entries.map (·.1) → k ∉ (ofRules B.rules).entries.map (·.1))
    (hA : ∀ r, r ∈ A.rules → r.sym < 2 ^ 16) (hB : ∀ r, r ∈ B.rules → r.sym < 2 ^ 16)
    (hs : ∀ f, f ∈ syms → f < 2 ^ 16) (hcA : ∀ r, r ∈ A.rules → r.sym ∈ syms) (hcB : ∀ r, r ∈ B.rules → r.sym ∈ syms)
    (hdis : ∀ q, q ∈ A.states → q ∉ B.states) (t : Tree) :
    accepts (absBU syms (unionDisj (ofRules A.rules) (ofRules B.rules)) (A.final ++ B.final)) t =
      (accepts A t || accepts B t) :=
  union_lang_of A B syms _ (fun ρ ks p => absBU_unionDisj _ _ hd ρ ks p) hA hB hs hcA hcB hdis t

namespace BddAbsLangEx
open BddAbsEx

/-- `a → 1`, `b → 1`, `g(1,1) → 2` final -/
def exA : TA := ⟨rsA, [2]⟩
/-- `a → 3`, `b → 4`, `g(3,3) → 9`, `g(4,4) → 9` final -/
def exB : TA := ⟨rsB, [9]⟩

example : ∀ t, accepts (absBU [0, 1, 2] (ofRules exA.rules) exA.final) t = accepts exA t :=
  ofRules_lang exA [0, 1, 2] (by decide +kernel) (by decide +kernel) (by decide +kernel)
example : ∀ t, accepts (absBU [0, 1, 2] (unionT (ofRules exA.rules) (ofRules exB.rules)) (exA.final ++ exB.final)) t =
    (accepts exA t || accepts exB t) :=
  unionT_lang exA exB [0, 1, 2] (by decide +kernel) (by decide +kernel) (by decide +kernel) (by decide +kernel) (by decide +kernel) (by decide +kernel)
example : ∀ t, accepts (absBU [0, 1, 2] (unionDisj (ofRules exA.rules) (ofRules exB.rules)) (exA.final ++ exB.final)) t =
    (accepts exA t || accepts exB t) :=
  unionDisj_lang exA exB [0, 1, 2] (by decide +kernel) (by decide +kernel) (by decide +kernel) (by decide +kernel) (by decide +kernel) (by decide +kernel) (by decide +kernel)
theorem unionT_rules_length :
    (absBU [0, 1, 2] (unionT (ofRules exA.rules) (ofRules exB.rules)) [2, 9]).rules.length = 7 := by decide +kernel
example : (absBU [0, 1, 2] (unionT (ofRules exA.rules) (ofRules exB.rules)) [2, 9]).rules.length = 7 := unionT_rules_length

end BddAbsLangEx

end BddAbs
end Vata
