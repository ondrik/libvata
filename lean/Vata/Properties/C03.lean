import Vata.Lang
import Vata.Spec
import Vata.Proofs.RunBridge
import Vata.Proofs.TrimModel
import Vata.Proofs.PropAux
import Vata.Proofs.UsefulAux
import Vata.Properties.RefTotal
/-!
# C03 – Trimming preserves the language and leaves no dead states; emptiness is exact

> RemoveUnreachableStates and RemoveUselessStates return an automaton with the same language as their input.  After
> RemoveUnreachableStates every state that still occurs is reachable top-down from a final state; after
> RemoveUselessStates every remaining state and rule takes part in some accepting run.  IsLangEmpty returns true exactly
> when the automaton accepts no tree.

## How the statement is read into the model

* **Specification (L0, `Vata/Spec.lean`).**  `accepts` is the language; `Occurs A q` = "`q` still occurs" (in the final
  set, as a parent or as a child of a rule); `TdReachable A q` = reachable top-down from a final state (inductive);
  runs are explicit objects `RunT`, `AcceptingRun A ρ`, and `UsefulState A q` / `UsefulRule A r` = "takes part in some
  accepting run" (`∃ ρ, AcceptingRun A ρ ∧ ρ.hasState q` / `ρ.hasRule r`); `Productive A q` = some tree reaches `q`.
  `LangEmpty A = ∀ t, accepts A t = false`.
* **Models of the code (`Vata/Ref.lean`).**  `removeUnreachable` (top-down work-list `tdReach` from the final states;
  keeps the rules with a reachable parent, copies the final set) models `RemoveUnreachableStates` *without* the
  "nothing changed" shortcut that compares two set sizes (defect D2 of the unchanged tree; the repaired code compares
  the sets, which makes the shortcut an optimisation that returns a sharing copy of the same automaton).
  `removeUseless` (bottom-up productivity `prodStates`, restriction of rules and final states, then
  `removeUnreachable`) models `RemoveUselessStates`.  `IsLangEmpty` is "no final state survives useless-state
  removal": `(removeUseless A).final = []`, equivalently `isEmptyRef A`.
* **Checkers / reference.**  `allReachableB`, `allUsefulB` are the Boolean post-condition checks applied to the
  automata the real code returns; they *decide* the two post-conditions of the statement (`C03_postcondition_checkers_sound`
  and `C03_postcondition_checkers_complete`: a state that takes part in an accepting run is productive and reachable
  top-down, `Vata/Proofs/UsefulAux.lean`), so a `false` of a checker on an output of the real code is a genuine violation.
  `equivM`, `emptyM` (`Vata/Lang.lean`) are the exact language deciders the outputs are compared with.
-/
namespace Vata.Props

/-! ### `RemoveUnreachableStates` -/

/-- same language -/
theorem C03_removeUnreachable_lang (A : TA) : LangEq (removeUnreachable A) A := fun t => removeUnreachable_lang A t

example : (removeUnreachable TrimEx.exA).rules = [⟨0, [], 0⟩, ⟨1, [0, 0], 1⟩, ⟨2, [2], 3⟩] ∧ TrimEx.exA.rules.length = 5 := by
  decide

/-- every state that still occurs is reachable top-down from a final state -/
theorem C03_removeUnreachable_post (A : TA) (q : Nat) (h : Occurs (removeUnreachable A) q) :
    TdReachable (removeUnreachable A) q := removeUnreachable_post A q h

example : Occurs (removeUnreachable TrimEx.exA) 2 := Or.inr ⟨⟨2, [2], 3⟩, by decide, Or.inr (by decide)⟩

/-! ### `RemoveUselessStates` -/

/-- same language -/
theorem C03_removeUseless_lang (A : TA) : LangEq (removeUseless A) A := fun t => removeUseless_lang A t

example : (removeUseless TrimEx.exA).rules = [⟨0, [], 0⟩, ⟨1, [0, 0], 1⟩] ∧ (removeUseless TrimEx.exA).final = [1] ∧
    accepts TrimEx.exA TrimEx.exT = true := by decide +kernel

/-- every remaining state and every remaining rule takes part in some accepting run -/
theorem C03_removeUseless_post (A : TA) :
    (∀ q, Occurs (removeUseless A) q → UsefulState (removeUseless A) q) ∧
    (∀ r, r ∈ (removeUseless A).rules → UsefulRule (removeUseless A) r) :=
  ⟨removeUseless_post_state A, removeUseless_post_rule A⟩

example : Occurs (removeUseless TrimEx.exA) 0 ∧ (⟨1, [0, 0], 1⟩ : Rule) ∈ (removeUseless TrimEx.exA).rules :=
  ⟨Or.inr ⟨⟨1, [0, 0], 1⟩, by decide +kernel, Or.inr (by decide +kernel)⟩, by decide +kernel⟩

/-! ### `IsLangEmpty` -/

/-- "no final state survives useless-state removal" holds exactly when no tree is accepted; `isEmptyRef` is the same
test without building the automaton -/
theorem C03_emptiness_exact (A : TA) :
    ((removeUseless A).final = [] ↔ LangEmpty A) ∧ (isEmptyRef A = true ↔ LangEmpty A) :=
  ⟨(PropAux.removeUseless_final_nil A).trans (isEmptyRef_iff A), isEmptyRef_iff A⟩

example : (removeUseless TrimEx.exEmpty).final = [] ∧ TrimEx.exEmpty.final = [3] ∧ TrimEx.exEmpty.rules.length = 3 := by decide
example : isEmptyRef TrimEx.exA = false := by decide

/-! ### the two fixed points the models compute are the specified sets -/

/-- the bottom-up work-list computes exactly the productive states, the top-down one exactly the states reachable
from a final state; acceptance and productivity agree with the run objects of the specification -/
theorem C03_worklists_exact (A : TA) :
    (∀ q, q ∈ prodStates A ↔ Productive A q) ∧ (∀ q, q ∈ tdReach A ↔ TdReachable A q) ∧
    (∀ q, Productive A q ↔ ∃ ρ : RunT, ρ.valid A = true ∧ ρ.root = q) ∧
    (∀ t, accepts A t = true ↔ ∃ ρ, AcceptingRun A ρ ∧ ρ.tree = t) :=
  ⟨prodStates_iff A, tdReach_iff A, productive_iff_run A, accepts_iff_run A⟩

example : prodStates TrimEx.exA = [0, 4, 1, 5] ∧ tdReach TrimEx.exA = [1, 3, 0, 2] := by decide +kernel

/-! ### checkers applied to the output of the real code, and the reference deciders -/

/-- the Boolean post-condition checks are sound for the specification notions -/
theorem C03_postcondition_checkers_sound (A : TA) :
    (allReachableB A = true → ∀ q, Occurs A q → TdReachable A q) ∧
    (allUsefulB A = true → (∀ q, Occurs A q → UsefulState A q) ∧ (∀ r, r ∈ A.rules → UsefulRule A r)) :=
  ⟨allReachableB_sound A, allUsefulB_sound A⟩

example : allReachableB (removeUnreachable TrimEx.exA) = true ∧ allReachableB TrimEx.exA = false ∧
    allUsefulB (removeUseless TrimEx.exA) = true ∧ allUsefulB (removeUnreachable TrimEx.exA) = false := by decide +kernel

/-- … and complete: the checks answer `true` on every automaton that satisfies the post-condition, so together with
soundness they decide it.  For "no useless state or rule" the usefulness of the occurring states suffices (it implies
that of the rules, third component); the key fact is that a state taking part in an accepting run is productive and
reachable top-down from a final state (fourth component) -/
theorem C03_postcondition_checkers_complete (A : TA) :
    ((∀ q, Occurs A q → TdReachable A q) → allReachableB A = true) ∧
    ((∀ q, Occurs A q → UsefulState A q) → allUsefulB A = true) ∧
    ((∀ q, Occurs A q → UsefulState A q) → ∀ r, r ∈ A.rules → UsefulRule A r) ∧
    (∀ q, UsefulState A q → Productive A q ∧ TdReachable A q) :=
  ⟨UsefulAux.allReachableB_complete, UsefulAux.allUsefulB_complete, UsefulAux.usefulRule_of_states,
    fun _ h => UsefulAux.usefulState_good h⟩

-- the hypothesis holds for the output of the model (and the checker then must answer `true`); on the untrimmed input
-- the checker answers `false`, hence – by completeness – some occurring state is NOT useful: a genuine violation
example : ∀ q, Occurs (removeUseless TrimEx.exA) q → UsefulState (removeUseless TrimEx.exA) q :=
  removeUseless_post_state TrimEx.exA
example : ¬ ∀ q, Occurs TrimEx.exA q → UsefulState TrimEx.exA q :=
  fun h => absurd ((C03_postcondition_checkers_complete TrimEx.exA).2.1 h) (by decide +kernel)

/-- the checkers decide the post-conditions of the statement -/
theorem C03_postcondition_checkers_exact (A : TA) :
    (allReachableB A = true ↔ ∀ q, Occurs A q → TdReachable A q) ∧
    (allUsefulB A = true ↔ (∀ q, Occurs A q → UsefulState A q) ∧ (∀ r, r ∈ A.rules → UsefulRule A r)) :=
  ⟨UsefulAux.allReachableB_iff A, ⟨allUsefulB_sound A, fun h => UsefulAux.allUsefulB_complete h.1⟩⟩

example : allReachableB (removeUnreachable TrimEx.exA) = true ∧ allUsefulB (removeUnreachable TrimEx.exA) = false := by decide +kernel

/-- every verdict of the reference deciders for language equality and emptiness is exact -/
theorem C03_reference_exact (A B : TA) (fuel : Nat) (b : Bool) :
    (equivM A B fuel = some b → (b = true ↔ LangEq A B)) ∧ (emptyM A fuel = some b → (b = true ↔ LangEmpty A)) :=
  ⟨equivM_iff A B fuel b, emptyM_iff A fuel b⟩

example : equivM (removeUseless TrimEx.exA) TrimEx.exA 10 = some true ∧ emptyM TrimEx.exEmpty 10 = some true ∧
    emptyM TrimEx.exA 10 = some false := ⟨TrimEx.removeUseless_equiv, by decide +kernel⟩

/-! ### the models pass the reference, and the reference answers -/

/-- above the explicit fuel bounds of `C03_reference_total` the exact deciders answer, and on the outputs of the models
they answer what the property says: the two trimmed automata are equivalent to the input, and the emptiness decider
returns exactly the verdict of the model of `IsLangEmpty` -/
theorem C03_models_pass_reference (A : TA) (fuel : Nat) :
    (fuelBoundM [removeUnreachable A, A] ≤ fuel → equivM (removeUnreachable A) A fuel = some true) ∧
    (fuelBoundM [removeUseless A, A] ≤ fuel → equivM (removeUseless A) A fuel = some true) ∧
    (fuelBoundM [A] ≤ fuel → emptyM A fuel = some (isEmptyRef A)) := by
  refine ⟨fun hf => ?_, fun hf => ?_, fun hf => ?_⟩
  · exact (Total.verdicts ((C03_reference_total (removeUnreachable A) A fuel).1 hf)).1 (C03_removeUnreachable_lang A)
  · exact (Total.verdicts ((C03_reference_total (removeUseless A) A fuel).1 hf)).1 (C03_removeUseless_lang A)
  · obtain ⟨b, hb, e⟩ := (C03_reference_total A A fuel).2 hf
    rw [hb]
    congr 1
    rw [Bool.eq_iff_iff, e, (C03_emptiness_exact A).2]

example : fuelBoundM [removeUseless TrimEx.exA, TrimEx.exA] ≤ 256 ∧ fuelBoundM [TrimEx.exEmpty] ≤ 8 ∧
    emptyM TrimEx.exEmpty 8 = some true ∧ isEmptyRef TrimEx.exEmpty = true := ⟨by decide +kernel, by decide +kernel, by decide +kernel, by decide +kernel⟩

/-!
## closed since the last refresh of this file

* "No totality theorem for the reference deciders `equivM`, `emptyM`": `C03_reference_total`
  (`Vata/Properties/RefTotal.lean`; bounds `fuelBoundM [A, B]`, `fuelBoundM [A]`), composed with the models in
  `C03_models_pass_reference`.  The post-condition checkers and `isEmptyRef` are total functions.
* The sharing copy returned by the "nothing changed" shortcut (and by `RemoveUselessStates` with nothing to remove) is an
  operation of the extended heap model of C11: `shareAll` / `shareClusters`, `C11_ext_sharing_results`,
  `C11_ext_result_survives` – the result keeps its value whatever is done to the operand afterwards.
* The same two operations on the BDD encodings are proved to compute `removeUnreachable` / `removeUseless` of this file
  on the abstract automaton (`C08_td_trim`, `C08_bu_trim` in `Vata/Properties/C08_Tables.lean`).

## not yet proved

* The "unchanged automaton" shortcut of `RemoveUnreachableStates` (return a sharing copy when every rule-owning state
  is reachable) is not a separate branch of `removeUnreachable`.  With the repaired set comparison it fires only when
  the filter of the model keeps every rule, so the model covers it; but "the shortcut fires only in that case" is a
  fact about the C++ that is established by the correspondence check, not by a theorem.  (In the heap model of C11 the
  set of kept states is a parameter `keep`, not computed.)
* The work-list bookkeeping of `RemoveUselessStates` (`remaining` counters per rule) is modelled by rounds
  (`prodIter`), not step by step; only the computed sets are proved to be the specified ones (`C03_worklists_exact`).
* The totality bounds of the reference deciders are exponential worst-case bounds, not tight.
-/
end Vata.Props
