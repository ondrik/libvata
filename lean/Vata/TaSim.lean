import Vata.Basic
/-!
# Simulations between two tree automata

`SimTo A B S`: every rule of `A` into a state `q` is answered, at every `q'` with `S q q'`, by a rule of `B` into `q'` with the
same symbol and `S`-related children.  Then `S` carries `reach A t` into `reach B t` (`SimTo.reach`, the one induction over
trees) and, if it also carries final states to final states, the language of `A` into that of `B` (`SimTo.accepts`).
Sub-automata, components, renamings and their inverses, downward simulations (`B = A`) and quotients are instances.
-/
namespace Vata

def SimTo (A B : TA) (S : Nat → Nat → Prop) : Prop :=
  ∀ ρ, ρ ∈ A.rules → ∀ q', S ρ.parent q' →
    ∃ σ, σ ∈ B.rules ∧ σ.parent = q' ∧ σ.sym = ρ.sym ∧ All2 S ρ.kids σ.kids

/-- the sets `ss'` contain, position by position, the `S`-successors of the members of `ss` -/
abbrev Carries (S : Nat → Nat → Prop) (ss ss' : List (List Nat)) : Prop :=
  All2 (fun s s' => ∀ q q', S q q' → q ∈ s → q' ∈ s') ss ss'

theorem matchKids_rel {S : Nat → Nat → Prop} {ks ks' : List Nat} (hk : All2 S ks ks') {ss ss' : List (List Nat)}
    (hs : Carries S ss ss') (h : matchKids ks ss = true) : matchKids ks' ss' = true := by
  induction hk generalizing ss ss' with
  | nil => cases hs with
    | nil => rfl
    | cons _ _ => cases h
  | cons hd _ ih => cases hs with
    | nil => cases h
    | cons hs ts =>
      simp only [matchKids, Bool.and_eq_true, List.contains_iff_mem] at h ⊢
      exact ⟨hs _ _ hd h.1, ih ts h.2⟩

namespace SimTo
variable {A B C : TA} {S S' : Nat → Nat → Prop}

mutual
theorem reach (h : SimTo A B S) : ∀ (t : Tree) (q q' : Nat), S q q' → q ∈ reach A t → q' ∈ reach B t
  | .node f ts, q, q', hqq' => by
    rw [Vata.reach, Vata.reach, mem_post', mem_post']
    rintro ⟨ρ, hρ, hs, hm, rfl⟩
    obtain ⟨σ, hσ, hp, hsym, hk⟩ := h ρ hρ q' hqq'
    exact ⟨σ, hσ, hsym.trans hs, matchKids_rel hk (reachL h ts) hm, hp⟩
theorem reachL (h : SimTo A B S) : ∀ ts : List Tree, Carries S (reachL A ts) (reachL B ts)
  | [] => .nil
  | t :: ts => .cons (reach h t) (reachL h ts)
end

theorem accepts (h : SimTo A B S) (hf : ∀ q, q ∈ A.final → ∃ q', q' ∈ B.final ∧ S q q') (t : Tree) :
    accepts A t = true → accepts B t = true := by
  simp only [accepts_iff_reach]
  rintro ⟨q, hq, hfin⟩
  obtain ⟨q', hq', hS⟩ := hf q hfin
  exact ⟨q', h.reach t q q' hS hq, hq'⟩

theorem congr (h : SimTo A B S) (e : ∀ a b, S a b ↔ S' a b) : SimTo A B S' := by
  have : S = S' := funext fun a => funext fun b => propext (e a b)
  exact this ▸ h

theorem comp (h : SimTo A B S) (h' : SimTo B C S') : SimTo A C (fun a c => ∃ b, S a b ∧ S' b c) := by
  rintro ρ hρ q'' ⟨q', h1, h2⟩
  obtain ⟨σ, hσ, rfl, hs, hk⟩ := h ρ hρ q' h1
  obtain ⟨τ, hτ, hp, hs', hk'⟩ := h' σ hσ q'' h2
  exact ⟨τ, hτ, hp, hs'.trans hs, hk.comp hk'⟩

/-- a set `P` of states of `A` such that the rules of `A` into `P` are rules of `B` and have their children in `P` -/
theorem of_frame {P : Nat → Prop} (h : ∀ r, r ∈ A.rules → P r.parent → r ∈ B.rules ∧ ∀ k, k ∈ r.kids → P k) :
    SimTo A B (fun q q' => q = q' ∧ P q) := by
  rintro ρ hρ _ ⟨rfl, hP⟩
  exact ⟨ρ, (h ρ hρ hP).1, rfl, rfl, All2.diag (h ρ hρ hP).2⟩

theorem of_sub (h : ∀ r, r ∈ A.rules → r ∈ B.rules) : SimTo A B (fun q q' => q = q') :=
  fun ρ hρ _ e => ⟨ρ, h ρ hρ, e, rfl, All2.refl _⟩

end SimTo

end Vata
