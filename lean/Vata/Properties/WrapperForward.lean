import Vata.Generated.Tables
import Vata.Wrapper
import Vata.Proofs.AsciiText
/-!
# The public pimpl wrappers forward to the core method of their own name (over the table REGENERATED from the sources)

`tools/extract_tables.py` reads `src/explicit_tree_aut.cc`, `src/explicit_finite_aut.cc`, `src/bdd_bu_tree_aut.cc`, `src/bdd_td_tree_aut.cc` on
every run and lists, for every out-of-class method definition of the four public classes, the core methods its body calls
(`Vata.Gen.wrapperCalls`).  The theorems below are re-checked against what the code says now: a wrapper method that is rewired to another
core method (a behaviour-changing slip, or a harmless refactoring – then the alarm ends with `no-failing-input-found`) breaks them.
They are audited with the properties whose operations go through these wrappers (C02, C03, C08, C10, C14).

The hand-written forwarding table of `Vata/Wrapper.lean` (the model of `ExplicitTreeAut`) is tied to the regenerated one by
`wrapper_model_table_regenerated`.
-/
namespace Vata.WrapperForward

/-- the method name of an entry: the text before a blank -/
def mname (s : String) : String := String.ofList (s.toList.takeWhile (· != ' '))

/-- the two wrapper methods that forward to a core method of another name -/
def renamed : List (String × String × String) :=
  [("ExplicitFiniteAut", "LoadFromString", "LoadFromAutDesc"), ("BDDBottomUpTreeAut", "GetTransMTBDDForTuple const", "GetMtbdd")]

/-- the wrapper methods whose body calls no core method: an overload that calls another wrapper overload, a method that throws -/
def noCall : List (String × String) := [("ExplicitFiniteAut", "CheckInclusion"), ("BDDBottomUpTreeAut", "GetCandidateTree const")]

/-- `mname` and `Wrapper.methodName` with the characters read off the bytes (`Vata/Proofs/AsciiText.lean`): rewritten with before the
tables are evaluated, since the kernel decodes UTF-8 slowly -/
theorem mname_eq : mname = fun s => String.ofList ((charsOf s).takeWhile (· != ' ')) := by
  rw [← toList_eq_charsOf]; rfl

theorem methodName_eq : Wrapper.methodName = fun s => (charsOf s).takeWhile (fun c => c != '(' && c != ' ') := by
  rw [← toList_eq_charsOf]; rfl

theorem wrapper_parsed : Gen.wrapperErrors = [] := by decide +kernel

/-- a floor, not the count (the table has 124 entries): an extractor that no longer finds the definitions breaks it, a method added or
removed does not -/
theorem wrapper_methods_found : 120 ≤ Gen.wrapperCalls.length := by decide +kernel

/-- the language-relevant operations of all four classes -/
def operations : List String :=
  ["Union", "UnionDisjointStates", "Intersection", "IntersectionBU", "RemoveUnreachableStates", "RemoveUselessStates", "GetCandidateTree",
   "Reduce", "Complement", "Reverse", "CollapseStates", "ReindexStates", "TranslateSymbols", "ComputeSimulation", "CheckInclusion", "AddTransition",
   "SetStateFinal", "Clear"]

/-- the four tests of the regenerated table, in ONE evaluation: each of them cuts the method name out of every entry, and the kernel
shares that work inside one declaration only -/
theorem table_checked :
    Gen.wrapperCalls.all (fun e => e.2.2.isEmpty || e.2.2.contains (mname e.2.1) ||
      renamed.any (fun r => r.1 == e.1 && r.2.1 == e.2.1 && e.2.2 == [r.2.2])) = true ∧
    (Gen.wrapperCalls.filter (fun e => e.2.2.isEmpty)).map (fun e => (e.1, e.2.1)) = noCall ∧
    Gen.wrapperCalls.all (fun e => !(operations.contains (mname e.2.1)) ||
      e.2.2.all (fun c => c == mname e.2.1 || !(operations.contains c))) = true ∧
    Wrapper.wrapperForwardsSame.all (fun e =>
      let n := String.ofList (Wrapper.methodName e.1)
      !(Gen.wrapperCalls.any (fun g => g.1 == "ExplicitTreeAut" && mname g.2.1 == n)) ||
      Gen.wrapperCalls.any (fun g => g.1 == "ExplicitTreeAut" && mname g.2.1 == n && g.2.2.contains e.2)) = true := by
  rw [mname_eq, methodName_eq]; decide +kernel

/-- every wrapper method that calls the core calls the core method of its own name – except the two listed ones, which call exactly the listed method -/
theorem wrapper_forwards_same_name :
    Gen.wrapperCalls.all (fun e => e.2.2.isEmpty || e.2.2.contains (mname e.2.1) ||
      renamed.any (fun r => r.1 == e.1 && r.2.1 == e.2.1 && e.2.2 == [r.2.2])) = true := table_checked.1

/-- the methods without a core call are exactly the two listed ones -/
theorem wrapper_no_call_exact :
    (Gen.wrapperCalls.filter (fun e => e.2.2.isEmpty)).map (fun e => (e.1, e.2.1)) = noCall := table_checked.2.1

/-- the language-relevant operations forward to their namesakes and to nothing with another operation's name -/
theorem wrapper_operations_not_crossed :
    Gen.wrapperCalls.all (fun e => !(operations.contains (mname e.2.1)) ||
      e.2.2.all (fun c => c == mname e.2.1 || !(operations.contains c))) = true := table_checked.2.2.1

/-- the hand-written table of the wrapper MODEL (`Vata/Wrapper.lean`): every "forwards to its namesake" entry whose method is defined in
`src/explicit_tree_aut.cc` is confirmed by the regenerated table -/
theorem wrapper_model_table_regenerated :
    Wrapper.wrapperForwardsSame.all (fun e =>
      let n := String.ofList (Wrapper.methodName e.1)
      !(Gen.wrapperCalls.any (fun g => g.1 == "ExplicitTreeAut" && mname g.2.1 == n)) ||
      Gen.wrapperCalls.any (fun g => g.1 == "ExplicitTreeAut" && mname g.2.1 == n && g.2.2.contains e.2)) = true := table_checked.2.2.2

end Vata.WrapperForward
