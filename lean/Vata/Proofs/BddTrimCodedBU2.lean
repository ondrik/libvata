import Vata.Proofs.BddTrimCodedBU
/-!
C08: the bottom-up `RemoveUselessStates` as coded: the first loop computes `reachable`.

The first loop of `buUselessSt` (with the graph) and the loop of `buUnreachSt` walk in lock-step on `reachable`, `workset`,
`tuples` (`scanG_fold_sim`, `buGLoop_sim`), hence `reachable` = `prodStates (skelBU T F)` at the end (`buGLoop_reach`).
-/
namespace Vata
namespace BddTrimCoded
open M BddAbs BddAbsTD

variable {T : Table} {F : List Nat}

def SimG (g : BuGSt) (b : BuSt) : Prop := g.reach = b.reach ∧ g.ws = b.ws ∧ g.tuples = b.tuples

theorem collectG_reach (tup : List Nat) (fs : FSt) (m : MT) :
    ((collectG tup fs m).reach, (collectG tup fs m).ws) = collect (fs.reach, fs.ws) m :=
  (List.foldl_hom (fun fs : FSt => (fs.reach, fs.ws)) (g₁ := collectStepG tup) (g₂ := collectStep) (fun _ _ => rfl)).symm

theorem scanStepG_sim (s : Nat) {g : BuGSt} {b : BuSt} (h : SimG g b) (e : List Nat × MT) :
    SimG (scanStepG s g e) (scanStep s b e) := by
  obtain ⟨r, ws, tu, G, d⟩ := g
  obtain ⟨r', ws', tu', R⟩ := b
  obtain ⟨rfl, rfl, rfl⟩ := h
  unfold scanStepG scanStep
  split
  · have c := collectG_reach e.1 ⟨r, ws, G, d⟩ e.2
    exact ⟨congrArg Prod.fst c, congrArg Prod.snd c, rfl⟩
  · exact ⟨rfl, rfl, rfl⟩

theorem scanG_fold_sim (s : Nat) (l : List (List Nat × MT)) {g : BuGSt} {b : BuSt} (h : SimG g b) :
    SimG (l.foldl (scanStepG s) g) (l.foldl (scanStep s) b) :=
  List.foldl_rel (r := SimG) h fun e _ _ _ hs => scanStepG_sim s hs e

theorem buGLoop_sim (fuel : Nat) {g : BuGSt} {b : BuSt} (h : SimG g b) :
    (buGLoop fuel g).map (fun g => (g.reach, g.ws, g.tuples)) =
      (buUnreachLoop fuel b).map (fun b => (b.reach, b.ws, b.tuples)) := by
  induction fuel generalizing g b with
  | zero =>
    obtain ⟨r, _ | ⟨s, ws⟩, tu, G, d⟩ := g <;> obtain ⟨r', ws', tu', R⟩ := b <;> obtain ⟨rfl, rfl, rfl⟩ := h <;> rfl
  | succ fuel ih =>
    obtain ⟨r, _ | ⟨s, ws⟩, tu, G, d⟩ := g <;> obtain ⟨r', ws', tu', R⟩ := b <;> obtain ⟨rfl, rfl, rfl⟩ := h
    · rfl
    · exact ih (scanG_fold_sim s tu ⟨rfl, rfl, rfl⟩)

theorem buGInit_sim (T : Table) : SimG (buGInit T) (buUnreachInit T) :=
  have c := collectG_reach [] ⟨[], [], Graph.empty, []⟩ T.nullary
  ⟨congrArg Prod.fst c, congrArg Prod.snd c, rfl⟩

theorem buGLoop_reach (hT : TableOk T) (F : List Nat) {fuel : Nat} {g : BuGSt}
    (h : buGLoop fuel (buGInit T) = some g) :
    (∀ q, q ∈ g.reach ↔ q ∈ prodStates (skelBU T F)) ∧ g.ws = [] ∧ (∀ e, e ∈ g.tuples → ∃ q, q ∈ e.1 ∧ q ∉ g.reach) := by
  have hs := buGLoop_sim fuel (buGInit_sim T)
  rw [h] at hs
  cases hb : buUnreachLoop fuel (buUnreachInit T) with
  | none => rw [hb] at hs; cases hs
  | some b =>
    rw [hb] at hs
    have := bu_unreach_coded_reach hT F hb
    obtain ⟨r, ws, tu, G, d⟩ := g
    obtain ⟨r', ws', tu', R⟩ := b
    cases (Option.some.inj hs : (r, ws, tu) = (r', ws', tu'))
    exact this

end BddTrimCoded
end Vata
