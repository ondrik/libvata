import Vata.Proofs.ReduceCodedSize
/-!
# C05 (with C14, C03) – `Reduce` end to end ON THE STORE: coded collapse + coded trimming composed with the simulation pipeline

> For any explicit tree automaton A, Reduce returns an automaton that accepts exactly the trees A accepts, has at most
> as many states and at most as many rules as A, and whose every state is the image of at least one state of A.

`Vata/Properties/C05_Pipeline.lean` has `Reduce` as coded down to the collapse map, but its last two calls are the
RELATION-level models `reindex` / `removeUnreachable` ("still not proved", second item).  Here the last two calls are the
store-level models as well: `ReduceCoded.reduceFullyCoded A` (`Vata/ReduceCoded.lean`, which quotes the C++) is, in the order
of `ExplicitTreeAutCore::Reduce` (`src/explicit_tree_aut_core.cc`),

1. `BuildStateIndex` / `SetNumStates(stateCnt)` – only the counter is used (`A.states.length`), as in `SimPipeline`;
2. `ComputeSimulation` = `SimPipe.computeSimDownDisc` (fresh translator, `TranslateDownward` as coded, the engine model,
   `buildResult`, `StateDiscontBinaryRelation`);
3. `sim.RestrictToSymmetric()`, `sim.GetQuotientProjection(collapseMap)` on the matrix CLASS model (`BinRel.Disc`);
4. `CollapseStates(collapseMap)` = `ReindexStates(collapseMap)` on the three-level rule STORE: `RenameCoded.collapseCoded` with
   the translator object `strictT` – `index.at(state)` on a `std::unordered_map` is `unordered_map::at`, which throws on a
   missing key and leaves the container alone;
5. `RemoveUnreachableStates` = `TrimCoded.unreachCoded` (work-list, shortcut `return *this`, rebuild over `reachableStates`) on the
   rules the store of step 4 yields in its iteration order.

The automaton enters twice: as the rule list the loops of step 2 run over, and as the store step 4 walks.  `reduceCodedOn simA S`
has both as parameters; `reduceFullyCoded A = reduceCodedOn A (ofTA A)` (the protocol's rule list, and the store the loader builds
from it: comparable literally with `SimPipe.reduceAsCoded A`), `reduceStoreCoded S = reduceCodedOn (toTA S) S` (ONE iteration
order for everything, as in the C++ where both are the same hash containers).  All statements are proved for both.

Abstracted: `shared_ptr` sharing (the result of step 5 shares the surviving clusters with the store of step 4 – C11), the
alphabet pointer, the tuple cache; hash order = list order (every theorem holds for every order); `Outcome` has no branch for the
`assert(false)` of the `default:` case of the `switch` (only `TA_DOWNWARD` exists in `ReduceParam`).
-/
namespace Vata.Props
open Vata.Store Vata.RenameCoded Vata.TrimCoded Vata.SimPipe Vata.ReduceCoded

/-- **why `CollapseStates` cannot throw inside `Reduce`**: the keys of the map `GetQuotientProjection` fills are exactly the
states of the automaton (in the order of the simulation's translator), and these are exactly the keys `ReindexStates` looks up
(`C14_coded_lookup_order` / `mem_lookupOrder`) -/
theorem C05_fully_coded_map_covers (A : TA) :
    ∃ m, collapseMapAsCoded A = some m ∧ m.map Prod.fst = downOrder A ∧ (downOrder A).Perm A.states ∧
      (∀ q, q ∈ usedStates (ofTA A) → ∃ v, m.lookup q = some v) ∧
      (∀ q, q ∈ lookupOrder (ofTA A) true ↔ q ∈ A.states) := by
  obtain ⟨m, d, hm, _⟩ := reduceFullyCoded_spec A
  refine ⟨m, hm, keys_collapseMap A m hm, downOrder_perm A, ?_, ?_⟩
  · intro q hq
    exact collapseMap_covers A m hm ((BddAbsTD.SetEqTA.mem_states (ofTA_spec A).2 q).mp ((usedStates_toTA _ q).mp hq))
  · intro q
    rw [mem_lookupOrder (ofTA_spec A).1, usedStates_toTA, BddAbsTD.SetEqTA.mem_states (ofTA_spec A).2]

/-- **the composition step by step**: the pipeline returns a collapse map `m`; `CollapseStates(m)` on the store does not throw,
leaves `m` unchanged and returns a store `d` – keys unique on both levels, no duplicate tuple / final state (`WInv`), every rule
yielded once – whose rules / final states are exactly those of the relation-level `reindex (applyMap m) A`; the answer of `Reduce`
is the coded `RemoveUnreachableStates` of `d`.  `d` satisfies the FULL store invariant of C12 (no empty cluster, no empty tuple
set: the `uniqueCluster` / `uniqueTuplePtrSet` calls that precede the translation of the children are absorbed by the `insert`). -/
theorem C05_fully_coded_steps (A : TA) :
    ∃ m d, collapseMapAsCoded A = some m ∧ collapseCoded strictT (ofTA A) m = .ok (d, m) ∧
      Inv d ∧ WInv d ∧ (iterate d).Nodup ∧
      (∀ r, r ∈ iterate d ↔ r ∈ (reindex (applyMap m) A).rules) ∧ (∀ q, q ∈ d.final ↔ q ∈ (reindex (applyMap m) A).final) ∧
      reduceFullyCoded A = .ok (unreachCoded (RenameCoded.toTA d)) := by
  obtain ⟨m, d, hm, hd, hw, he, hres, _, _⟩ := reduceFullyCoded_spec A
  exact ⟨m, d, hm, hd, (reduceCodedOn_collapsed_inv A (ofTA A) (ofTA_spec A).1 (ofTA_spec A).2 m d hm hd).1, hw,
    nodup_iterate_w hw, he.1, he.2, hres⟩

/-- **the collapsed store as a value** (C14 on the store, strict look-ups): for a source store that satisfies the store invariant
and a map that has an entry for every used state, `CollapseStates(m)` does not throw, leaves `m` alone and returns LITERALLY the
store that `SetStateFinal` on the images of the final states followed by `AddTransition` on the images of the rules (in the
source's iteration order) builds; that store satisfies the full store invariant.  (Closes, for a run that does not throw, the
first "still not proved" item of `Vata/Properties/C14_Coded.lean`.) -/
theorem C05_fully_coded_collapse_value (S : Store) (hS : Inv S) (m : List (Nat × Nat))
    (hm : ∀ q, q ∈ usedStates S → ∃ v, m.lookup q = some v) :
    collapseCoded strictT S m =
      .ok (((iterate S).map (mapRule (applyMap m))).foldl addTransition (setFinals empty (S.final.map (applyMap m))), m) ∧
    Inv (((iterate S).map (mapRule (applyMap m))).foldl addTransition (setFinals empty (S.final.map (applyMap m)))) :=
  collapse_strict_value S hS m hm

example : Inv (ofTA exR) ∧ ∀ q, q ∈ usedStates (ofTA exR) → ∃ v, [(2, 2), (3, 2), (0, 0), (1, 0), (4, 4)].lookup q = some v := by
  refine ⟨(ofTA_spec exR).1, ?_⟩
  have h : (usedStates (ofTA exR)).all (fun q => ([(2, 2), (3, 2), (0, 0), (1, 0), (4, 4)].lookup q).isSome) = true := by decide +kernel
  intro q hq
  exact Option.isSome_iff_exists.mp (List.all_eq_true.mp h q hq)

/-- … inside `Reduce`: the store handed to `RemoveUnreachableStates` is that value for the computed collapse map -/
theorem C05_fully_coded_collapsed_inv (A : TA) (m : List (Nat × Nat)) (d : Store) (hm : collapseMapAsCoded A = some m)
    (hd : collapseCoded strictT (ofTA A) m = .ok (d, m)) :
    Inv d ∧ d = ((iterate (ofTA A)).map (mapRule (applyMap m))).foldl addTransition
      (setFinals empty ((ofTA A).final.map (applyMap m))) :=
  reduceCodedOn_collapsed_inv A (ofTA A) (ofTA_spec A).1 (ofTA_spec A).2 m d hm hd

/-- **C05_fully_coded_eq**: `Reduce` with the store-level collapse and trimming returns an automaton, and that automaton has
exactly the rules and exactly the final states (as sets) of what `SimPipe.reduceAsCoded A` returns; moreover it lists every rule
once (the relation-level model keeps duplicates) -/
theorem C05_fully_coded_eq (A : TA) :
    ∃ B' B, reduceFullyCoded A = .ok B' ∧ reduceAsCoded A = some B ∧
      (∀ r, r ∈ B'.rules ↔ r ∈ B.rules) ∧ (∀ q, q ∈ B'.final ↔ q ∈ B.final) ∧ B'.rules.Nodup := by
  obtain ⟨B', B, _, h1, h2, _, hE, hnd, _⟩ := reduceCodedOn_props A (ofTA A) (ofTA_spec A).1 (ofTA_spec A).2
  exact ⟨B', B, h1, h2, hE.1, hE.2, hnd⟩

/-- **language**: for a ranked automaton (always the case for the explicit encoding) the fully coded `Reduce` accepts exactly
the trees `A` accepts -/
theorem C05_fully_coded_lang (A : TA) (hrk : TaLts.Ranked A) :
    ∃ B', reduceFullyCoded A = .ok B' ∧ LangEq B' A := by
  obtain ⟨B', _, _, h1, _, _, _, _, _, _, _, _, _, hl⟩ := reduceCodedOn_props A (ofTA A) (ofTA_spec A).1 (ofTA_spec A).2
  exact ⟨B', h1, hl hrk⟩

/-- **never grows** (no hypothesis, not even `Ranked`): at most as many states, at most as many distinct rules (`eraseDups` on
both sides, as in `C05_model_never_grows`), and – the store has no duplicates – the PLAIN number of rules of the result is at
most the number of DISTINCT rules of `A`, hence at most `A.rules.length`; every state of the result is the image of a state of
`A` under the collapse map that was computed -/
theorem C05_fully_coded_never_grows (A : TA) :
    ∃ B', reduceFullyCoded A = .ok B' ∧
      B'.states.length ≤ A.states.length ∧ B'.rules.eraseDups.length ≤ A.rules.eraseDups.length ∧
      B'.rules.length ≤ A.rules.eraseDups.length ∧ B'.rules.length ≤ A.rules.length ∧
      ∃ m, collapseMapAsCoded A = some m ∧ ∀ x, x ∈ B'.states → ∃ q, q ∈ A.states ∧ x = applyMap m q := by
  obtain ⟨B', _, m, h1, _, hm, _, _, s1, s2, s3, s4, s5, _⟩ := reduceCodedOn_props A (ofTA A) (ofTA_spec A).1 (ofTA_spec A).2
  exact ⟨B', h1, s1, s2, s3, s4, m, hm, s5⟩

/-- **totality**: neither `simFailed` (engine fuel, dictionary look-ups of `GetQuotientProjection`) nor `threw`
(`collapseMap.at`) occurs; the driver entry point always answers -/
theorem C05_fully_coded_total (A : TA) :
    ∃ B', reduceFullyCoded A = .ok B' ∧ reduceFullyCodedTA A = some B' ∧ (reduceFullyCoded A).thrownKey = none := by
  obtain ⟨B', _, _, h1, _⟩ := reduceCodedOn_props A (ofTA A) (ofTA_spec A).1 (ofTA_spec A).2
  refine ⟨B', h1, ?_, ?_⟩
  · unfold reduceFullyCodedTA reduceFullyCoded; rw [h1]; rfl
  · unfold reduceFullyCoded; rw [h1]; rfl

/-- **the one-order variant** (`*this` is ONE store; its iteration order is used by the simulation, the collapse and – through
the collapsed store – the trimming): for every store that satisfies the store invariant of C12 (every store the API builds,
`store_inv`) all of the above holds with `toTA S` in the place of `A` -/
theorem C05_fully_coded_store (S : Store) (hS : Inv S) :
    ∃ B' B m, reduceStoreCoded S = .ok B' ∧ reduceAsCoded (RenameCoded.toTA S) = some B ∧
      collapseMapAsCoded (RenameCoded.toTA S) = some m ∧
      (∀ r, r ∈ B'.rules ↔ r ∈ B.rules) ∧ (∀ q, q ∈ B'.final ↔ q ∈ B.final) ∧ B'.rules.Nodup ∧
      B'.states.length ≤ (RenameCoded.toTA S).states.length ∧
      B'.rules.eraseDups.length ≤ (iterate S).eraseDups.length ∧ B'.rules.length ≤ (iterate S).length ∧
      (∀ x, x ∈ B'.states → ∃ q, q ∈ (RenameCoded.toTA S).states ∧ x = applyMap m q) ∧
      (TaLts.Ranked (RenameCoded.toTA S) → LangEq B' (RenameCoded.toTA S)) := by
  obtain ⟨B', B, m, h1, h2, hm, hE, hnd, s1, s2, _, s4, s5, hl⟩ :=
    reduceCodedOn_props (RenameCoded.toTA S) S hS (TAEquiv.refl _)
  exact ⟨B', B, m, h1, h2, hm, hE.1, hE.2, hnd, s1, s2, s4, s5, hl⟩

/-- the same for the automaton of the protocol loaded into a store (`reduceStoreCodedTA`, the second driver entry point): it
always answers, with the language of `A` (ranked) and not more states / rules -/
theorem C05_fully_coded_store_loaded (A : TA) :
    ∃ B', reduceStoreCodedTA A = some B' ∧ B'.rules.Nodup ∧
      B'.states.length ≤ A.states.length ∧ B'.rules.length ≤ A.rules.eraseDups.length ∧
      (TaLts.Ranked A → LangEq B' A) := by
  obtain ⟨B', _, _, h1, _, _, _, hnd, s1, _, s3, _, _, hl⟩ :=
    reduceCodedOn_props (RenameCoded.toTA (ofTA A)) (ofTA A) (ofTA_spec A).1 (TAEquiv.refl _)
  have hE := (ofTA_spec A).2
  refine ⟨B', ?_, hnd, ?_, ?_, ?_⟩
  · unfold reduceStoreCodedTA reduceStoreCoded; rw [h1]; rfl
  · rw [← taEquiv_states_length hE]; exact s1
  · refine Nat.le_trans s3 (Nat.le_of_eq ?_)
    exact ((List.perm_ext_iff_of_nodup (RM.nodup_eraseDups _) (RM.nodup_eraseDups _)).mpr (fun r => by
      rw [List.mem_eraseDups, List.mem_eraseDups]; exact hE.1 r)).length_eq
  · intro hrk t
    have hrk' : TaLts.Ranked (RenameCoded.toTA (ofTA A)) := by
      intro ρ ρ' hρ hρ' hs
      exact hrk ρ ρ' ((hE.1 ρ).mp hρ) ((hE.1 ρ').mp hρ') hs
    rw [hl hrk' t]
    exact hE.lang t

/-! ### non-vacuity: a concrete run -/

/-- `Reduce` read off its two steps: the collapse map of the pipeline on `simA` and the run of `CollapseStates` on `S` -/
theorem reduceCodedOn_of_steps {simA : TA} {S d : Store} {m m' : List (Nat × Nat)} (hm : collapseMapAsCoded simA = some m)
    (hd : collapseCoded strictT S m = .ok (d, m')) : reduceCodedOn simA S = .ok (unreachCoded (RenameCoded.toTA d)) := by
  rw [reduceCodedOn_eq, hm]
  simp only [hd]

theorem collapsedStore_of_steps {A : TA} {d : Store} {m m' : List (Nat × Nat)} (hm : collapseMapAsCoded A = some m)
    (hd : collapseCoded strictT (ofTA A) m = .ok (d, m')) : collapsedStore A = some d := by
  rw [collapsedStore, hm]
  simp only [hd]

/-- the two steps on `exR`, each run once -/
theorem exR_collapseMap : collapseMapAsCoded exR = some [(2, 2), (3, 2), (0, 0), (1, 0), (4, 4)] := by decide +kernel

theorem exR_collapse : collapseCoded strictT (ofTA exR) [(2, 2), (3, 2), (0, 0), (1, 0), (4, 4)] =
    .ok (⟨[(0, [(0, [[]]), (3, [[]])]), (2, [(1, [[0, 0]])]), (4, [(2, [[2]])])], [2]⟩,
      [(2, 2), (3, 2), (0, 0), (1, 0), (4, 4)]) := by decide +kernel

/-- `exR` = a → 0, g(0,1) → 2, a → 1, g(1,0) → 3, h(2) → 4, b → 0, b → 1 with F = {2, 3}: it is ranked; the translator numbers
the states `2, 3, 0, 1, 4`; `0 ≈ 1` and `2 ≈ 3` are merged (collapse map `3 ↦ 2`, `1 ↦ 0`); the store `CollapseStates` returns
has three clusters (the 7 rules became 4, each once: the store absorbs the duplicates the relation-level model keeps); state `4`,
not reachable top-down from the final state, is then dropped with its rule by the coded `RemoveUnreachableStates` (slow path: the
shortcut test fails).  The result has 2 states and 3 rules; the relation-level `reduceAsCoded` has the same rules, each TWICE.
(A state whose class contains a reachable state stays reachable in the quotient, so trimming after the merge removes exactly the
classes that were unreachable before; here that is `{4}`.) -/
theorem C05_fully_coded_example :
    TaLts.Ranked exR ∧ downOrder exR = [2, 3, 0, 1, 4] ∧
    collapseMapAsCoded exR = some [(2, 2), (3, 2), (0, 0), (1, 0), (4, 4)] ∧
    collapsedStore exR = some ⟨[(0, [(0, [[]]), (3, [[]])]), (2, [(1, [[0, 0]])]), (4, [(2, [[2]])])], [2]⟩ ∧
    (reduceFullyCodedTA exR).map (fun B => (B.rules, B.final)) = some ([⟨1, [0, 0], 2⟩, ⟨0, [], 0⟩, ⟨3, [], 0⟩], [2]) ∧
    (reduceFullyCodedTA exR).map (fun B => B.states) = some [2, 0] ∧
    (reduceAsCoded exR).map (fun B => (B.rules, B.final)) =
      some ([⟨0, [], 0⟩, ⟨1, [0, 0], 2⟩, ⟨0, [], 0⟩, ⟨1, [0, 0], 2⟩, ⟨3, [], 0⟩, ⟨3, [], 0⟩], [2, 2]) ∧
    exR.states.length = 5 ∧ exR.rules.length = 7 := by
  have hB : reduceFullyCodedTA exR = _ := congrArg Outcome.toOption (reduceCodedOn_of_steps exR_collapseMap exR_collapse)
  refine ⟨TaLts.rankedB_iff.mp (by decide +kernel), by decide +kernel, exR_collapseMap,
    collapsedStore_of_steps exR_collapseMap exR_collapse, ?_, ?_, ?_, by decide +kernel, by decide +kernel⟩
  · rw [hB]
    decide +kernel
  · rw [hB]
    decide +kernel
  · rw [reduceAsCoded, exR_collapseMap]
    decide +kernel

-- the shortcut of `RemoveUnreachableStates` does not fire on the collapsed `exR` (state 4 owns a cluster and is unreachable) …
example : (collapsedStore exR).map (fun d => testOwners (RenameCoded.toTA d) (unreachSet (RenameCoded.toTA d))) = some false := by
  rw [collapsedStore_of_steps exR_collapseMap exR_collapse]
  decide +kernel
-- … and fires when `h(2) → 4` is absent: `Reduce` then returns the collapsed store as it is
example : (collapsedStore ⟨exR.rules.filter (fun r => r.parent != 4), exR.final⟩).map
    (fun d => testOwners (RenameCoded.toTA d) (unreachSet (RenameCoded.toTA d))) = some true := by decide +kernel

-- the one-order variant on the same automaton: the store's iteration order groups the rules by parent, the translator meets
-- the states in another order, the answer is the same here
example : (reduceStoreCodedTA exR).map (fun B => (B.rules, B.final)) = some ([⟨1, [0, 0], 2⟩, ⟨0, [], 0⟩, ⟨3, [], 0⟩], [2]) := by
  decide +kernel

/-! ### the `threw` branch is a branch of the model -/

/-- regression: if `GetQuotientProjection` left out ONE state (say an off-by-one in its outer loop drops the last index, state
`4`), `CollapseStates` would throw `std::out_of_range` for that state – the strict look-up makes the slip visible instead of
silently keeping the state (`applyMap` would) -/
theorem C05_fully_coded_missing_key_throws :
    reindexStrictTA exR [(2, 2), (3, 2), (0, 0), (1, 0)] = .error 4 ∧
    (reindexStrictTA exR [(2, 2), (3, 2), (0, 0), (1, 0), (4, 4)]).toOption.map (fun B => B.rules.length) = some 4 :=
  ⟨by rfl, by rfl⟩

/-- the hypothesis `Inv S` of `C05_fully_coded_store` cannot be dropped: on a store with an EMPTY cluster (which the API never
builds, C12) the owner of that cluster is looked up by `ReindexStates` although it is no state of the automaton, so it has no entry
in the collapse map and `Reduce` throws -/
theorem C05_fully_coded_store_needs_inv :
    invB ⟨[(9, [])], []⟩ = false ∧ (reduceStoreCoded ⟨[(9, [])], []⟩).thrownKey = some 9 := by
  decide +kernel

/-!
## Hypotheses

* `TaLts.Ranked A` in the language statements: inherited from C04 (`C04_downward_via_lts_needs_ranked`); always true for the
  explicit encoding.  Satisfiable: `C05_fully_coded_example`.  Sizes, totality and the refinement `C05_fully_coded_eq` need nothing.
* `Inv S` in `C05_fully_coded_store`: cannot be dropped (`C05_fully_coded_store_needs_inv`); holds for `ofTA A` and every
  `Store.run ops` (`store_inv`).

## items of "not yet proved" closed here

* `Vata/Properties/C05_Pipeline.lean`, second item ("`CollapseStates` / `RemoveUnreachableStates` are the relation-level models …
  not the store-level models"): closed by `C05_fully_coded_eq` / `C05_fully_coded_steps` (`collapseCoded` of C14 with the strict
  `unordered_map::at`, `unreachCoded` of C03).
* `Vata/Properties/C14_Coded.lean`: "no throw" for the strict translator inside `Reduce` is now a theorem
  (`C05_fully_coded_map_covers`, `C05_fully_coded_total`); its first "still not proved" item (the FULL store invariant of the
  destination after a successful `ReindexStates`) is closed for a fresh destination, final states included, a source satisfying the
  invariant and a strict map covering the used states (`C05_fully_coded_collapse_value`; the lemma behind it,
  `RenameCoded.reindexInto_opt_value`, is for any stateless partial translator and any destination).

## still not proved

* The coded trimming (`TrimCoded.unreachCoded`) runs on the rule list the collapsed store yields, not on the cluster map itself
  (`genericLookup` = the rules of a parent); since that store satisfies the full store invariant (`C05_fully_coded_steps`: no empty
  cluster) the two views have the same cluster owners, but a cluster-map version of the work-list is not modelled.
* For a `CollapseStates` run that THROWS, the destination may hold an empty cluster / tuple set (`C14_coded_thrown_dst_breaks_invariant`);
  inside `Reduce` this cannot happen (`C05_fully_coded_total`).
* The answer of step 5 is a rule list / final-state list, not a store: which clusters the result shares with the collapsed store
  (`result.transitions_->insert(state, iter->second)`) is C11, not modelled here.
* Rule lists are compared as sets (plus "every rule once" for the coded result); no canonical order is fixed – the C++ order is a hash
  order.  `reduceFullyCoded A` and `reduceStoreCoded (ofTA A)` may pick different representatives of a class when the two orders
  differ; both have the language of `A` (ranked) and are set-equal to a `reduceAsCoded` result, whose number of states is that of
  `reduceRef` (`C05_pipeline_size`) – but neither "same number of states as `reduceRef A`" nor "the two results are isomorphic"
  (`C05_model_order_independent`) is stated as a theorem for the store-level results here.
* `BuildStateIndex` is represented by its counter only; the `default: assert(false)` of the `switch` is not a branch.
* Minimality of the result is not claimed by the property and not proved.
* The correspondence "model = real C++" is by testing (`reduceFullyCodedTA`, `reduceStoreCodedTA` against the library), not by proof.
-/
end Vata.Props
