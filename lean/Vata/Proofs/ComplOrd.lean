import Vata.ComplOrd
import Vata.Proofs.Compl
import Vata.Proofs.ComplSmall
/-!
# Complementation with an arbitrary exploration order: the invariant, the certificate, totality

* `InvO A Sg s`: the invariant of `loopOrdS` – the rules are those the cache prescribes, the macro-states of the cache
  that are not in `todo` are finished, every macro-state of the cache is one the construction must meet (`MReach`, hence
  small, which gives the fuel bound), the rules are duplicate-free.
* `runOrd_cert`: a finished run passes the certificate check `tdCertB` of the FIFO model, whatever `pick`.
* `complTDOrd_total`: `2 ^ |states A| + 1` units of fuel suffice, whatever `pick`.
-/
namespace Vata
namespace Compl
open InclUp (normS)

structure InvO (A : TA) (Sg : List (Nat × Nat)) (s : StO) : Prop where
  good : Good A Sg s.st
  head : s.st.cache[0]? = some (normS A.final)
  todo_sub : ∀ P, P ∈ s.todo → P ∈ s.st.cache
  len : s.todo.length ≤ s.st.cache.length
  done : ∀ P, P ∈ s.st.cache → P ∉ s.todo → ∀ f n c, (f, n) ∈ Sg → c ∈ choices (tdW A P f n).length n →
    Done A s.st P f n c

theorem InvO.init (A : TA) (Sg : List (Nat × Nat)) : InvO A Sg (initOrd A) where
  good := ⟨by simp [initOrd], fun r h => (nomatch h), fun P hP => by
    have : P = normS A.final := by simpa [initOrd] using hP
    rw [this]; exact MReach.init, List.nodup_nil⟩
  head := rfl
  todo_sub := fun P h => h
  len := Nat.le_refl _
  done := fun P h1 h2 => absurd h1 h2

/-- the facts about one round in which the element with index `i` is taken from `todo` -/
theorem stepAt_facts {i : Nat} {A : TA} {Sg : List (Nat × Nat)} {s : StO} (h : InvO A Sg s)
    (hi : i < s.todo.length) :
    InvO A Sg (stepAt i A Sg s) ∧
      (stepAt i A Sg s).st.cache.length - (stepAt i A Sg s).todo.length =
        s.st.cache.length - s.todo.length + 1 := by
  have hPeq : s.todo.getD i [] = s.todo[i] := getD_eq_getElem hi []
  have hPtodo : s.todo.getD i [] ∈ s.todo := by rw [hPeq]; exact List.getElem_mem hi
  have hPc := h.todo_sub _ hPtodo
  have hk := getElem?_idxOf hPc
  obtain ⟨g1, g2, g3⟩ := symFold_spec (A := A) (Sg := Sg) ⟨h.good, hk⟩
  obtain ⟨suf, hsuf⟩ := g2.1
  have hdrop : (stepAt i A Sg s).todo = s.todo.eraseIdx i ++ suf := by
    show s.todo.eraseIdx _ ++ List.drop s.st.cache.length (Sg.foldl (procSym A _ _) s.st).cache = _
    rw [← hsuf, List.drop_left]
  have hcache : (stepAt i A Sg s).st.cache = s.st.cache ++ suf := hsuf.symm
  have hlenE : (s.todo.eraseIdx i).length = s.todo.length - 1 := by
    rw [List.length_eraseIdx, if_pos hi]
  have hlen : (stepAt i A Sg s).todo.length ≤ (stepAt i A Sg s).st.cache.length ∧
      (stepAt i A Sg s).st.cache.length - (stepAt i A Sg s).todo.length = s.st.cache.length - s.todo.length + 1 := by
    rw [hdrop, hcache, List.length_append, List.length_append, hlenE]
    have := h.len
    omega
  refine ⟨⟨g1.1, getElem?_prefix h.head g2.1, ?_, hlen.1, ?_⟩, hlen.2⟩
  · intro Q hQ
    rw [hdrop] at hQ
    rw [hcache]
    rcases List.mem_append.mp hQ with hQ | hQ
    · exact List.mem_append_left _ (h.todo_sub Q (List.mem_of_mem_eraseIdx hQ))
    · exact List.mem_append_right _ hQ
  · intro Q hQ hQn f n c hfa hc
    rw [hdrop] at hQn
    rw [hcache] at hQ
    have hQc : Q ∈ s.st.cache := by
      rcases List.mem_append.mp hQ with hQ | hQ
      · exact hQ
      · exact absurd (List.mem_append_right _ hQ) hQn
    show Done A (Sg.foldl (procSym A _ _) s.st) Q f n c
    by_cases hQP : Q = s.todo.getD i []
    · subst hQP; exact g3 (f, n) hfa c hc
    · have hQt : Q ∉ s.todo := by
        intro hQt
        obtain ⟨j, hj, rfl⟩ := List.getElem_of_mem hQt
        apply hQn
        apply List.mem_append_left
        apply List.mem_eraseIdx_iff_getElem.mpr
        refine ⟨j, hj, ?_, rfl⟩
        rintro rfl
        exact hQP hPeq.symm
      exact (h.done Q hQc hQt f n c hfa hc).mono hQc g2

theorem stepOrd_facts (pick : StO → Nat) {A : TA} {Sg : List (Nat × Nat)} {s : StO} (h : InvO A Sg s)
    (hne : s.todo ≠ []) :
    InvO A Sg (stepOrdS pick A Sg s) ∧
      (stepOrdS pick A Sg s).st.cache.length - (stepOrdS pick A Sg s).todo.length =
        s.st.cache.length - s.todo.length + 1 :=
  stepAt_facts h (Nat.mod_lt _ (List.length_pos_iff.mpr hne))

structure Final (A : TA) (Sg : List (Nat × Nat)) (st : St) : Prop where
  nodup : st.cache.Nodup
  head : st.cache[0]? = some (normS A.final)
  mem : ∀ P, P ∈ st.cache ↔ MReach A Sg P
  rules : ∀ r, r ∈ st.rules ↔ r ∈ tdExpected A Sg st.cache
  closed : tdClosedB A Sg st.cache = true
  nodupR : st.rules.Nodup

theorem final_of_inv {A : TA} {Sg : List (Nat × Nat)} {s : StO} (h : InvO A Sg s) (ht : s.todo = []) :
    Final A Sg s.st := by
  have hall : ∀ P f n c, P ∈ s.st.cache → (f, n) ∈ Sg → c ∈ choices (tdW A P f n).length n → Done A s.st P f n c := by
    intro P f n c hP hfa hc
    exact h.done P hP (by rw [ht]; exact List.not_mem_nil) f n c hfa hc
  obtain ⟨hcl, hr⟩ := cert_of_done h.good hall
  refine ⟨h.good.nodup, h.head, fun P => ⟨h.good.reach P, fun hP => ?_⟩, hr, hcl, h.good.nodupR⟩
  induction hP with
  | init => exact List.mem_of_getElem? h.head
  | step _ hfa hc hi ih => exact (hall _ _ _ _ ih hfa hc).1 _ hi

/-- EVERY execution of the loop (any element may be taken in any round) keeps the invariant … -/
theorem Runs.inv {A : TA} {Sg : List (Nat × Nat)} {s s' : StO} (h : Runs A Sg s s') (hinv : InvO A Sg s) :
    InvO A Sg s' ∧ s'.todo = [] := by
  induction h with
  | done ht => exact ⟨hinv, ht⟩
  | step hi _ ih => exact ih (stepAt_facts hinv hi).1

/-- … and ends in a canonical state -/
theorem Runs.final {A : TA} {Sg : List (Nat × Nat)} {s : StO} (h : Runs A Sg (initOrd A) s) : Final A Sg s.st := by
  obtain ⟨h1, h2⟩ := h.inv (InvO.init A Sg)
  exact final_of_inv h1 h2

/-- the run with a choice function is one of these executions -/
theorem loopOrd_runs (pick : StO → Nat) {A : TA} {Sg : List (Nat × Nat)} :
    ∀ (fuel : Nat) (s s' : StO), loopOrdS pick A Sg fuel s = some s' → Runs A Sg s s'
  | 0, _, _, h => by simp [loopOrdS] at h
  | fuel+1, s, s', h => by
    unfold loopOrdS at h
    split at h
    · next he =>
      simp only [Option.some.injEq] at h
      subst h
      exact Runs.done (List.isEmpty_iff.mp he)
    · next he =>
      have hne : s.todo ≠ [] := fun e => he (List.isEmpty_iff.mpr e)
      exact Runs.step (Nat.mod_lt _ (List.length_pos_iff.mpr hne)) (loopOrd_runs pick fuel _ s' h)

theorem runOrd_final {pick : StO → Nat} {A : TA} {Sg : List (Nat × Nat)} {fuel : Nat} {s : StO}
    (h : runOrdS pick A Sg fuel = some s) : Final A Sg s.st :=
  (loopOrd_runs pick fuel _ s h).final

/-- a run consults the schedule from its first round on only -/
theorem loopOrd_congr {A : TA} {Sg : List (Nat × Nat)} {sched sched' : Nat → Nat} : ∀ (fuel : Nat) (t : StO),
    InvO A Sg t → (∀ n, t.st.cache.length - t.todo.length ≤ n → sched n = sched' n) →
    loopOrdS (onRound sched) A Sg fuel t = loopOrdS (onRound sched') A Sg fuel t
  | 0, _, _, _ => rfl
  | fuel+1, t, ht, hs => by
    have hst : stepOrdS (onRound sched) A Sg t = stepOrdS (onRound sched') A Sg t := by
      unfold stepOrdS onRound
      rw [hs _ (Nat.le_refl _)]
    unfold loopOrdS
    split
    · rfl
    · next he =>
      obtain ⟨g1, g2⟩ := stepOrd_facts (onRound sched') ht fun e => he (List.isEmpty_iff.mpr e)
      rw [hst]
      exact loopOrd_congr fuel _ g1 fun n hn => hs n (by omega)

/-- every execution is the run with some choice function (a schedule by round number), given enough fuel: the number of
processed macro-states `|cache| - |todo|` identifies the round -/
theorem Runs.realised {A : TA} {Sg : List (Nat × Nat)} {s s' : StO} (h : Runs A Sg s s') (hinv : InvO A Sg s) :
    ∃ sched : Nat → Nat, ∃ fuel, loopOrdS (onRound sched) A Sg fuel s = some s' := by
  induction h with
  | @done s ht => exact ⟨fun _ => 0, 1, by simp [loopOrdS, ht]⟩
  | @step s s' i hi _ ih =>
    obtain ⟨h1, h2⟩ := stepAt_facts (A := A) (Sg := Sg) hinv hi
    obtain ⟨sched, fuel, hrun⟩ := ih h1
    let j := s.st.cache.length - s.todo.length
    refine ⟨fun n => if n = j then i else sched n, fuel + 1, ?_⟩
    have hne : s.todo.isEmpty = false := by
      cases ht : s.todo with
      | nil => rw [ht] at hi; simp at hi
      | cons _ _ => rfl
    have hstep : stepOrdS (onRound (fun n => if n = j then i else sched n)) A Sg s = stepAt i A Sg s := by
      unfold stepOrdS onRound
      simp only [j, if_true, Nat.mod_eq_of_lt hi]
    unfold loopOrdS
    rw [hne, hstep]
    simp only [Bool.false_eq_true, if_false]
    -- from the next state on, all round numbers are larger than `j`
    rw [loopOrd_congr fuel _ h1 fun n hn => if_neg (by omega)]
    exact hrun

theorem Final.cert {A : TA} {Sg : List (Nat × Nat)} {st : St} (F : Final A Sg st) : tdCertB A Sg st = true :=
  tdCertB_iff.mpr ⟨by rw [List.head?_eq_getElem?]; exact F.head, F.closed, F.rules⟩

theorem runOrd_cert {pick : StO → Nat} {A : TA} {Sg : List (Nat × Nat)} {fuel : Nat} {s : StO}
    (h : runOrdS pick A Sg fuel = some s) : tdCertB A Sg s.st = true := (runOrd_final h).cert

theorem loopOrd_total (pick : StO → Nat) {A : TA} {Sg : List (Nat × Nat)} :
    ∀ (fuel : Nat) (s : StO), InvO A Sg s → 2 ^ (stU A).length < fuel + (s.st.cache.length - s.todo.length) →
      ∃ s', loopOrdS pick A Sg fuel s = some s'
  | 0, s, hinv, hf => by
    have := (AllSmall.of_reach hinv.good.reach).length_le hinv.good.nodup
    omega
  | fuel+1, s, hinv, hf => by
    unfold loopOrdS
    split
    · exact ⟨s, rfl⟩
    · next he =>
      have hne : s.todo ≠ [] := fun e => he (List.isEmpty_iff.mpr e)
      obtain ⟨h1, h2⟩ := stepOrd_facts pick hinv hne
      apply loopOrd_total pick fuel _ h1
      rw [h2]
      omega

theorem runOrd_total (pick : StO → Nat) {A : TA} {Sg : List (Nat × Nat)} {fuel : Nat}
    (h : 2 ^ A.states.length + 1 ≤ fuel) : ∃ s, runOrdS pick A Sg fuel = some s := by
  apply loopOrd_total pick fuel _ (InvO.init A Sg)
  have := pow_stU_le A
  omega

theorem complTDOrd_total (pick : StO → Nat) {A : TA} {Sg : List (Nat × Nat)} {fuel : Nat}
    (h : 2 ^ A.states.length + 1 ≤ fuel) : ∃ C, complTDOrdS pick A Sg fuel = some C := by
  obtain ⟨s, hs⟩ := runOrd_total pick (A := A) (Sg := Sg) h
  unfold complTDOrdS
  rw [hs]
  exact ⟨_, rfl⟩

end Compl
end Vata
