import Vata.ClearShared
import Vata.Proofs.CowHeapX
/-!
# `Clear()` on a shared container – proofs for `Vata/ClearShared.lean`

The written-out `Clear()` is `stepX _ (.clear h)`.  On the shared path the handle gets a fresh empty node and the old node
loses exactly one reference, on the unique path the node is emptied in place; either way the cleared handle has the value
`Store.empty` and every other handle keeps its value.  The seeded variant `stepClearEarly` does the same pointer work
(reference counts stay right) and differs from `Clear()` exactly on heaps with `sharedWithFinals`; histories in which only
one handle is ever a target cannot tell it from `Clear()`.
-/
namespace Vata.ClearShared

open Vata.CowHeap (upd_other)
open Vata.CowHeap3 (allocMap retarget releaseMap hout)
open Vata.CowHeapX

variable {H : HeapX}

theorem stepClearEarly_core (H : HeapX) (h : Nat) : (stepClearEarly H h).core = (stepX H (.clear h)).core := by
  simp only [stepClearEarly, stepX, CowHeap3.step, clearUniqueCore, clearSharedCore]
  by_cases hh : h ∈ H.core.hl
  · simp only [if_pos hh]
    by_cases hu : H.core.mrc (H.core.hmap h) = 1
    · simp only [if_pos hu]
    · simp only [if_neg hu]
  · simp only [if_neg hh]

theorem stepClearEarly_fin (H : HeapX) (h : Nat) :
    (stepClearEarly H h).fin =
      if h ∈ H.core.hl ∧ H.core.mrc (H.core.hmap h) ≠ 1 then H.fin else (stepX H (.clear h)).fin := by
  simp only [stepClearEarly, stepX]
  by_cases hh : h ∈ H.core.hl
  · by_cases hu : H.core.mrc (H.core.hmap h) = 1
    · simp [hh, hu]
    · simp [hh, hu]
  · simp [hh]

/-- the variant keeps the reference-count invariant: nothing is wrong with the `shared_ptr` plumbing, only with the value -/
theorem stepClearEarly_inv (hI : InvX H) (h : Nat) : InvX (stepClearEarly H h) := by
  have := (cowX_refines_values hI (.clear h)).2
  simp only [InvX] at this ⊢
  rw [stepClearEarly_core]; exact this

theorem clear_hl (hI : InvX H) (h : Nat) (x : Nat) : x ∈ (stepX H (.clear h)).core.hl ↔ x ∈ H.core.hl := by
  rw [← absX_isSome, ← absX_isSome, (cowX_refines_values hI (.clear h)).1]
  simp only [specStepX]
  cases e : absX H h with
  | none => simp
  | some s =>
    by_cases hx : x = h
    · subst hx; simp [e]
    · simp [upd_other _ _ hx]

theorem mrc_pos (hI : InvX H) {h : Nat} (hh : h ∈ H.core.hl) : 0 < H.core.mrc (H.core.hmap h) :=
  hI.hm.pos _ (CowHeap3.hmap_mem hI hh)

/-- `!transitions_.unique()` on a live object of a well-formed heap: the use count is at least 2 -/
theorem shared_iff (hI : InvX H) {h : Nat} (hh : h ∈ H.core.hl) :
    H.core.mrc (H.core.hmap h) ≠ 1 ↔ 1 < H.core.mrc (H.core.hmap h) := by
  have := mrc_pos hI hh
  omega

/-- shared path: `h` points to a node that did not exist before and is empty; the old node keeps its entries and loses
    exactly one reference; no other handle is re-pointed -/
theorem clear_shared_shape (hI : InvX H) {h : Nat} (hh : h ∈ H.core.hl) (hs : H.core.mrc (H.core.hmap h) ≠ 1) :
    let H' := stepX H (.clear h)
    H'.core.hmap h = H.core.next ∧ H.core.next ∉ H.core.ml ∧ H'.core.ment H.core.next = [] ∧
    H'.core.ment (H.core.hmap h) = H.core.ment (H.core.hmap h) ∧
    H'.core.mrc (H.core.hmap h) = H.core.mrc (H.core.hmap h) - 1 ∧
    (∀ x, x ≠ h → H'.core.hmap x = H.core.hmap x) ∧ H'.fin h = [] := by
  have hm := CowHeap3.hmap_mem hI hh
  have hfresh : H.core.next ∉ H.core.ml := hI.hm.fresh
  have hne : H.core.hmap h ≠ H.core.next := fun e => hfresh (e ▸ hm)
  have hpos := mrc_pos hI hh
  have hrel : ¬ ((retarget (allocMap H.core []) h H.core.next).mrc (H.core.hmap h) - 1 = 0) := by
    simp only [retarget, allocMap, upd_other _ _ hne]; omega
  simp only [stepX, CowHeap3.step, if_pos hh, if_neg hs, releaseMap, if_neg hrel]
  refine ⟨by simp [retarget], hfresh, by simp [retarget, allocMap], ?_, ?_, ?_, by simp⟩
  · simp [retarget, allocMap, upd_other _ _ hne]
  · simp [retarget, allocMap, upd_other _ _ hne]
  · intro x hx; simp [retarget, allocMap, upd_other _ _ hx]

theorem clear_exact (hI : InvX H) {h : Nat} (hh : h ∈ H.core.hl) :
    absX (stepX H (.clear h)) h = some Store.empty ∧ ∀ x, x ≠ h → absX (stepX H (.clear h)) x = absX H x := by
  rw [(cowX_refines_values hI (.clear h)).1]
  simp only [specStepX, absX_of_mem hh]
  exact ⟨by simp [Store.clear, Store.empty], fun x hx => upd_other _ _ hx⟩

/-- the value of the cleared handle under the variant: no rules, and the final states are erased only on the unique path -/
theorem absX_clearEarly_self (hI : InvX H) {h : Nat} (hh : h ∈ H.core.hl) :
    absX (stepClearEarly H h) h =
      some ⟨[], if H.core.mrc (H.core.hmap h) = 1 then [] else H.fin h⟩ := by
  have h1 := (clear_exact hI hh).1
  have hl := (clear_hl hI h h).mpr hh
  rw [absX_of_mem hl] at h1
  have hl' : h ∈ (stepClearEarly H h).core.hl := by rw [stepClearEarly_core]; exact hl
  rw [absX_of_mem hl', stepClearEarly_fin]
  simp only [stepClearEarly_core]
  have hc : CowHeap3.valM (stepX H (.clear h)).core ((stepX H (.clear h)).core.hmap h) = [] := by
    have := congrArg (fun o => o.map (·.clusters)) h1
    simpa [Store.empty] using this
  rw [hc]
  by_cases hu : H.core.mrc (H.core.hmap h) = 1
  · simp [hu, hh, stepX]
  · simp [hu, hh]

/-- where the variant goes wrong: the old final states survive -/
theorem clearEarly_keeps_finals (hI : InvX H) {h : Nat} (hs : sharedWithFinals H h) :
    absX (stepClearEarly H h) h = some ⟨[], H.fin h⟩ ∧ absX (stepClearEarly H h) h ≠ some Store.empty := by
  obtain ⟨hh, hm, hf⟩ := hs
  have hne : H.core.mrc (H.core.hmap h) ≠ 1 := by omega
  rw [absX_clearEarly_self hI hh, if_neg hne]
  refine ⟨rfl, ?_⟩
  intro e
  simp only [Store.empty, Option.some.injEq, Store.Store.mk.injEq, true_and] at e
  exact hf e

/-- outside `sharedWithFinals` the two heaps are EQUAL -/
theorem clearEarly_eq_of_not (hI : InvX H) {h : Nat} (hs : ¬ sharedWithFinals H h) :
    stepClearEarly H h = stepX H (.clear h) := by
  have hc := stepClearEarly_core H h
  have hf : (stepClearEarly H h).fin = (stepX H (.clear h)).fin := by
    rw [stepClearEarly_fin]
    split
    · rename_i hc'
      have hfin : H.fin h = [] := by
        apply Classical.byContradiction
        intro hf
        exact hs ⟨hc'.1, (shared_iff hI hc'.1).mp hc'.2, hf⟩
      simp only [stepX, if_pos hc'.1]
      funext x
      by_cases hx : x = h
      · subst hx; simp [hfin]
      · rw [upd_other _ _ hx]
    · rfl
  exact congr (congrArg HeapX.mk hc) hf

/-- on heaps with `sharedWithFinals` the difference is observable through the handle -/
theorem clearEarly_absX_ne (hI : InvX H) {h : Nat} (hs : sharedWithFinals H h) :
    absX (stepClearEarly H h) ≠ absX (stepX H (.clear h)) :=
  fun e => (clearEarly_keeps_finals hI hs).2 (e ▸ (clear_exact hI hs.1).1)

/-- the variant differs from `Clear()` exactly on heaps where the map node of `h` has use count > 1 and `h` has final
    states (equality of heaps) -/
theorem clearEarly_eq_iff (hI : InvX H) (h : Nat) :
    stepClearEarly H h = stepX H (.clear h) ↔ ¬ sharedWithFinals H h :=
  ⟨fun e hs => clearEarly_absX_ne hI hs (by rw [e]), clearEarly_eq_of_not hI⟩

/-- … and the difference is always observable: equality of the handle values -/
theorem clearEarly_absX_eq_iff (hI : InvX H) (h : Nat) :
    absX (stepClearEarly H h) = absX (stepX H (.clear h)) ↔ ¬ sharedWithFinals H h :=
  ⟨fun e hs => clearEarly_absX_ne hI hs e, fun hs => by rw [clearEarly_eq_of_not hI hs]⟩

theorem invX_stepV (hI : InvX H) (o : OpV) : InvX (stepV H o) := by
  cases o with
  | std op => exact invX_step hI op
  | clearEarly h => exact stepClearEarly_inv hI h

theorem history_invV (ops : List OpV) : InvX (ops.foldl stepV initX) :=
  List.foldlRecOn ops stepV invX_init (fun _ h o _ => invX_stepV h o)

def OnlyLive (H : HeapX) (h : Nat) : Prop := ∀ x, x ∈ H.core.hl → x = h

theorem onlyLive_unique (hI : InvX H) {h : Nat} (ho : OnlyLive H h) (hh : h ∈ H.core.hl) :
    H.core.mrc (H.core.hmap h) = 1 := by
  have hnd : H.core.hl.Nodup := hI.hm.rnd
  have hl : H.core.hl = [h] := by
    cases e : H.core.hl with
    | nil => rw [e] at hh; cases hh
    | cons a l =>
      rw [e] at hnd
      have ha : a = h := ho a (by rw [e]; exact List.mem_cons_self)
      cases l with
      | nil => rw [ha]
      | cons b l =>
        have hb : b = h := ho b (by rw [e]; simp)
        rw [ha, hb] at hnd
        simp at hnd
  have := hI.hm.cnt _ (CowHeap3.hmap_mem hI hh)
  rw [this, hl]
  simp [CowHeap.indeg, hout]

theorem onlyLive_step (hI : InvX H) {h : Nat} (ho : OnlyLive H h) (op : HOpX) (ht : ∀ x, x ∈ targets op → x = h) :
    OnlyLive (stepX H op) h := by
  intro x hx
  apply Classical.byContradiction
  intro hne
  have hnt : x ∉ targets op := fun hm => hne (ht x hm)
  have h1 := stepX_other hI op x hnt
  have h2 : x ∉ H.core.hl := fun hm => hne (ho x hm)
  rw [absX_of_not_mem h2] at h1
  have := absX_isSome.mpr hx
  rw [h1] at this
  cases this

end Vata.ClearShared
