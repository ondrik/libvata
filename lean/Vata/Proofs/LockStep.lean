/-!
# Two runs in lock step; a comparison with a memo in the state, and the two antichain walks over it

What the proofs about the caches of the inclusion algorithms (`Vata/Proofs/FunctorCaches*.lean`) share and what depends on none
of their models.  A run with caches and its cache-free twin are related by `OptRel`: both run out of fuel, or their results are
related – for the upward explorations by `ExceptRel R` of a state relation `R` (both fail with the same error, or both end in
related states), for the calls of the downward functors by "the same verdict and related states" (`FCD.RetRelG`, `FCD.RetRelN`);
`OptRel.inv`, `ExceptRel.inv` read such a fact.  The step of a pool of `BinaryRelation`s and its abstract twin
(`Vata/Proofs/BinRel.lean`: both refuse, or related pools and the same value) are in `OptRel` too, built with `OptRel.bind` / `.guard`.  `CmpSpec` says of a comparison of two addresses
that keeps a memo in the state that it answers the comparison of the two values, keeps the invariant of the memo and leaves the
objects alone; `find_spec` and `erase_spec` carry this through the two walks of `Antichain2Cv2` (any function with the two
recursion equations of the walk): the one that stops at the first hit and the one that erases every hit.
-/
namespace Vata

inductive ExceptRel {ε α β : Type} (P : α → β → Prop) : Except ε α → Except ε β → Prop
  | error (e : ε) : ExceptRel P (.error e) (.error e)
  | ok {a : α} {b : β} : P a b → ExceptRel P (.ok a) (.ok b)

theorem ExceptRel.inv {ε α β : Type} {P : α → β → Prop} {x : Except ε α} {y : Except ε β} (h : ExceptRel P x y) :
    (∃ e, x = .error e ∧ y = .error e) ∨ ∃ a b, x = .ok a ∧ y = .ok b ∧ P a b := by
  cases h with
  | error e => exact .inl ⟨e, rfl, rfl⟩
  | ok h => exact .inr ⟨_, _, rfl, rfl, h⟩

inductive OptRel {α β : Type} (P : α → β → Prop) : Option α → Option β → Prop
  | none : OptRel P none none
  | some {a : α} {b : β} : P a b → OptRel P (some a) (some b)

theorem OptRel.inv {α β : Type} {P : α → β → Prop} {x : Option α} {y : Option β} (h : OptRel P x y) :
    (x = Option.none ∧ y = Option.none) ∨ ∃ a b, x = Option.some a ∧ y = Option.some b ∧ P a b := by
  cases h with
  | none => exact .inl ⟨rfl, rfl⟩
  | some h => exact .inr ⟨_, _, rfl, rfl, h⟩

theorem OptRel.bind {α β γ δ : Type} {P : α → β → Prop} {Q : γ → δ → Prop} {x : Option α} {y : Option β}
    {f : α → Option γ} {g : β → Option δ} (h : OptRel P x y) (hf : ∀ a b, P a b → OptRel Q (f a) (g b)) :
    OptRel Q (x >>= f) (y >>= g) := by
  cases h with
  | none => exact .none
  | some h => exact hf _ _ h

theorem OptRel.guard {α β : Type} {P : α → β → Prop} {c c' : Prop} [Decidable c] [Decidable c'] {x : α} {y : β}
    (hc : c ↔ c') (h : c' → P x y) :
    OptRel P (if c then Option.some x else Option.none) (if c' then Option.some y else Option.none) := by
  by_cases hc' : c'
  · rw [if_pos (hc.2 hc'), if_pos hc']; exact .some (h hc')
  · rw [if_neg (mt hc.1 hc'), if_neg hc']; exact .none

theorem ite_some_inv {γ : Type} {p v b : Bool} {c c' : γ} (h : (if p = true then some (v, c) else none) = some (b, c')) :
    p = true ∧ b = v := by
  cases p with
  | false => cases h
  | true => cases h; exact ⟨rfl, rfl⟩

theorem ite_none_of {γ : Type} {p : Bool} {c : γ} {P : Prop} (h : p = true → P) (hn : ¬ P) :
    (if p = true then some (true, c) else none) = none := by
  cases p with
  | false => rfl
  | true => exact (hn (h rfl)).elim

theorem isSome_find? {α : Type} (q : α → Bool) : ∀ l : List α, (l.find? q).isSome = l.any q
  | [] => rfl
  | x :: l => by
    simp only [List.find?_cons, List.any_cons]
    cases q x
    · simpa using isSome_find? q l
    · simp

/-- the answer of `find_spec` for a walk that only says whether there is a hit -/
theorem elim_find?_any {α : Type} (q : α → Bool) (l : List α) : (l.find? q).elim false (fun _ => true) = l.any q := by
  rw [← isSome_find?]; cases l.find? q <;> rfl

section Walk
variable {σ τ ι ρ : Type} {π : σ → τ} {V : τ → Nat → Prop} {vl : σ → Nat → List Nat} {I : σ → Prop}
  {L : σ → Nat → Nat → σ × Bool} {lteV : List Nat → List Nat → Bool} {kt : ι → Bool} {ad : ι → Nat} {a : Nat}

/-- a comparison `L` of two addresses that keeps a memo in the state: on valid addresses (`V`) it answers `lteV` of the two values
(`vl`); it keeps the invariant `I` and the objects (`π`, on which validity and values depend) -/
def CmpSpec (π : σ → τ) (V : τ → Nat → Prop) (vl : σ → Nat → List Nat) (I : σ → Prop) (L : σ → Nat → Nat → σ × Bool)
    (lteV : List Nat → List Nat → Bool) : Prop :=
  ∀ s a b, I s → V (π s) a → V (π s) b → (L s a b).2 = lteV (vl s a) (vl s b) ∧ I (L s a b).1 ∧ π (L s a b).1 = π s

/-- a walk `F` over the elements that pass `kt`, asking `L(element, a)` until the first `true`; it answers `hit` of that
element, `miss` if there is none (`contains`: `hit = fun _ => true`; `isInWorkset` returns the element) -/
theorem find_spec (hL : CmpSpec π V vl I L lteV) (hvl : ∀ s s', π s' = π s → vl s' = vl s) {hit : ι → ρ} {miss : ρ}
    {F : List ι → σ → σ × ρ} (h0 : ∀ s, F [] s = (s, miss))
    (h1 : ∀ i P s, F (i :: P) s =
      if kt i = true then (if (L s (ad i) a).2 = true then ((L s (ad i) a).1, hit i) else F P (L s (ad i) a).1)
      else F P s) :
    ∀ (P : List ι) (s : σ), I s → V (π s) a → (∀ i, i ∈ P → V (π s) (ad i)) →
      (F P s).2 = (P.find? (fun i => kt i && lteV (vl s (ad i)) (vl s a))).elim miss hit ∧ I (F P s).1 ∧ π (F P s).1 = π s
  | [], s, hi, _, _ => by rw [h0]; exact ⟨rfl, hi, rfl⟩
  | i :: P, s, hi, ha, hl => by
    have hlP : ∀ j, j ∈ P → V (π s) (ad j) := fun j hj => hl j (List.mem_cons_of_mem _ hj)
    rw [h1, List.find?_cons]
    by_cases hq : kt i = true
    · obtain ⟨e1, m1, c1⟩ := hL s (ad i) a hi (hl i List.mem_cons_self) ha
      rw [if_pos hq, hq, Bool.true_and, ← e1]
      by_cases ht : (L s (ad i) a).2 = true
      · rw [if_pos ht, ht]; exact ⟨rfl, m1, c1⟩
      · obtain ⟨e2, m2, c2⟩ := find_spec hL hvl h0 h1 P _ m1 (c1 ▸ ha) (c1 ▸ hlP)
        rw [if_neg ht, e2, Bool.eq_false_iff.mpr ht, hvl _ _ c1]
        exact ⟨rfl, m2, c2.trans c1⟩
    · rw [if_neg hq, Bool.eq_false_iff.mpr hq, Bool.false_and]
      exact find_spec hL hvl h0 h1 P s hi ha hlP

/-- a walk `F` that asks `L(a, element)` for every element that passes `kt` and erases it on `true` -/
theorem erase_spec (hL : CmpSpec π V vl I L lteV) (hvl : ∀ s s', π s' = π s → vl s' = vl s)
    {F : List ι → σ → σ × List ι} (h0 : ∀ s, F [] s = (s, []))
    (h1 : ∀ i P s, F (i :: P) s =
      if kt i = true then
        ((F P (L s a (ad i)).1).1, if (L s a (ad i)).2 = true then (F P (L s a (ad i)).1).2 else i :: (F P (L s a (ad i)).1).2)
      else ((F P s).1, i :: (F P s).2)) :
    ∀ (P : List ι) (s : σ), I s → V (π s) a → (∀ i, i ∈ P → V (π s) (ad i)) →
      (F P s).2 = P.filter (fun i => !(kt i && lteV (vl s a) (vl s (ad i)))) ∧ I (F P s).1 ∧ π (F P s).1 = π s
  | [], s, hi, _, _ => by rw [h0]; exact ⟨rfl, hi, rfl⟩
  | i :: P, s, hi, ha, hl => by
    have hlP : ∀ j, j ∈ P → V (π s) (ad j) := fun j hj => hl j (List.mem_cons_of_mem _ hj)
    rw [h1, List.filter_cons]
    by_cases hq : kt i = true
    · obtain ⟨e1, m1, c1⟩ := hL s a (ad i) hi ha (hl i List.mem_cons_self)
      obtain ⟨e2, m2, c2⟩ := erase_spec hL hvl h0 h1 P _ m1 (c1 ▸ ha) (c1 ▸ hlP)
      rw [if_pos hq, hq, Bool.true_and, ← e1, e2, hvl _ _ c1]
      refine ⟨?_, m2, c2.trans c1⟩
      cases (L s a (ad i)).2 <;> rfl
    · obtain ⟨e2, m2, c2⟩ := erase_spec hL hvl h0 h1 P s hi ha hlP
      rw [if_neg hq, Bool.eq_false_iff.mpr hq, e2]
      exact ⟨rfl, m2, c2⟩

end Walk

end Vata
