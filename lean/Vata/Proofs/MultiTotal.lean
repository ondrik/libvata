import Vata.Lang
import Vata.NfaEmbed
import Vata.Ref
import Vata.Proofs.TrimAux
import Vata.Proofs.SatTotal
import Vata.Proofs.Verdict
/-!
# Totality of the multi-automaton profile engine `forallTrees` and of every decider built on it

`msat As fuel P` (`Vata/Multi.lean`) closes a list of profiles (tuples of state sets, one per automaton) under all
symbols of the joint alphabet; one unit of fuel is one round.  It is an instance of the generic loop `Total.gsat`
(`msat_eq`), so by `Total.gsat_isSome`:

* a round that does not stop represents at least one new class of profiles (no round wastes fuel);
* every profile the loop ever stores is the profile of a tree (`MGen`, the invariant already used for soundness), and
  the state set of a tree in `A` only contains *parents of rules* of `A` (`reach_sub_parents`);
* hence the list `allProfs As` of all tuples of subsets of the parent states represents everything the loop can
  produce, and `fuelBoundM As = ∏ 2^|parents Aᵢ| = (allProfs As).length` rounds always suffice
  (`msat_total`, `forallTrees_total`).

`parents A` ⊆ `A.states`, so `fuelBoundM As ≤ 2^(Σ |states Aᵢ|)` (`fuelBoundM_le_states`); states that occur only as
children or only in the final set do not count.

A semantic variant is also proved: *any* list that represents the profile of every tree bounds the number of rounds by its
length (`msat_total_of_cover`), i.e. the loop needs at most as many rounds as there are classes of reachable profiles.

The corollaries `…_decides` give, for every decider of `Vata/Lang.lean` and `Vata/NfaEmbed.lean`: a verdict is returned,
and it is the language statement, for every fuel above the bound.
-/
namespace Vata
open Vata.Total

namespace Total


def parents (A : TA) : List Nat := dedupL (A.rules.map (·.parent))

theorem nodup_parents (A : TA) : (parents A).Nodup := nodup_dedupL _

theorem mem_parents {A : TA} {q : Nat} : q ∈ parents A ↔ ∃ r, r ∈ A.rules ∧ r.parent = q := by
  unfold parents
  rw [mem_dedupL, List.mem_map]

theorem post_sub_parents (A : TA) (f : Nat) (ss : List (List Nat)) : ∀ q, q ∈ post A f ss → q ∈ parents A := by
  intro q hq
  obtain ⟨r, hr, _, _, hp⟩ := mem_post'.mp hq
  exact mem_parents.mpr ⟨r, hr, hp⟩

theorem reach_sub_parents (A : TA) : ∀ (t : Tree) (q : Nat), q ∈ reach A t → q ∈ parents A
  | .node f ts, q, hq => by
    rw [reach] at hq
    exact post_sub_parents A f _ q hq

/-- any list containing the parent of every rule is at least as long as `parents A` -/
theorem parents_length_le_of_subset (A : TA) (S : List Nat) (h : ∀ r, r ∈ A.rules → r.parent ∈ S) :
    (parents A).length ≤ S.length := by
  apply List.Nodup.length_le_of_subset (nodup_parents A)
  intro q hq
  obtain ⟨r, hr, rfl⟩ := mem_parents.mp hq
  exact h r hr

theorem parents_length_le_states (A : TA) : (parents A).length ≤ A.states.length :=
  parents_length_le_of_subset A A.states (fun r hr => mem_states.mpr (Or.inr ⟨r, hr, Or.inl rfl⟩))

theorem parents_length_le_rules (A : TA) : (parents A).length ≤ A.rules.length := by
  have := parents_length_le_of_subset A (A.rules.map (·.parent)) (fun r hr => List.mem_map.mpr ⟨r, hr, rfl⟩)
  simpa using this


def allProfs : List TA → List MProf
  | [] => [[]]
  | A :: As => (InclUp.subsets (parents A)).flatMap (fun s => (allProfs As).map (fun p => s :: p))

theorem allProfs_cover (As : List TA) (t : Tree) : ∃ u, u ∈ allProfs As ∧ MProfEq u (mprofOf As t) := by
  induction As with
  | nil => exact ⟨[], List.mem_singleton.mpr rfl, All2.nil⟩
  | cons A As ih =>
    obtain ⟨s, hs, hse⟩ := subsets_cover (parents A) (reach A t) (reach_sub_parents A t)
    obtain ⟨u, hu, hue⟩ := ih
    exact ⟨s :: u, List.mem_flatMap.mpr ⟨s, hs, List.mem_map.mpr ⟨u, hu, rfl⟩⟩, All2.cons hse hue⟩


theorem mprofEqB_isEqv : IsEqv mprofEqB where
  refl := fun a => mprofEqB_iff.mpr (All2.refl_setEq a)
  symm := fun _ _ h => mprofEqB_iff.mpr (MProfEq.symm (mprofEqB_iff.mp h))
  trans := fun _ _ _ h h' => mprofEqB_iff.mpr (MProfEq.trans (mprofEqB_iff.mp h) (mprofEqB_iff.mp h'))

/-- **the loop terminates within the number of unrepresented classes of reachable profiles**: `L` may be any list that
represents the profile of every tree -/
theorem msat_isSome_of_cover (As : List TA) (L : List MProf)
    (hL : ∀ t, ∃ u, u ∈ L ∧ MProfEq u (mprofOf As t)) (fuel : Nat) (P : List MProf) (hP : MGen As P)
    (h : uncov mprofEqB L P ≤ fuel) : (msat As fuel P).isSome = true := by
  rw [msat_eq]
  refine gsat_isSome mprofEqB_isEqv (mstep As) L (MGen As) ?_ ?_ fuel P hP h
  · exact gsat_gen _ (mgen_step As)
  · intro Q hQ p hp
    obtain ⟨t, ht⟩ := mgen_step As Q hQ p hp
    obtain ⟨u, hu, hut⟩ := hL t
    exact ⟨u, hu, mprofEqB_iff.mpr (hut.trans ht.symm)⟩

theorem mgen_nil (As : List TA) : MGen As [] := by intro p hp; cases hp

end Total


/-- `∏ 2^|parents Aᵢ|`: the number of tuples of sets of states that can head a rule -/
def fuelBoundM : List TA → Nat
  | [] => 1
  | A :: As => 2 ^ (Total.parents A).length * fuelBoundM As

theorem Total.length_allProfs (As : List TA) : (allProfs As).length = fuelBoundM As := by
  induction As with
  | nil => rfl
  | cons A As ih =>
    rw [allProfs, fuelBoundM, length_flatMap_map (fun s p => s :: p) (allProfs As) (InclUp.subsets (parents A)),
      InclUp.length_subsets, ih]

theorem fuelBoundM_eq_pow (As : List TA) : fuelBoundM As = 2 ^ (As.map (fun A => (Total.parents A).length)).sum := by
  induction As with
  | nil => rfl
  | cons A As ih => rw [fuelBoundM, List.map_cons, List.sum_cons, Nat.pow_add, ih]

theorem Total.sum_parents_le_states (As : List TA) :
    (As.map (fun A => (parents A).length)).sum ≤ (As.map (fun A => A.states.length)).sum := by
  induction As with
  | nil => exact Nat.le_refl _
  | cons A As ih =>
    rw [List.map_cons, List.map_cons, List.sum_cons, List.sum_cons]
    exact Nat.add_le_add (parents_length_le_states A) ih

theorem fuelBoundM_le_states (As : List TA) : fuelBoundM As ≤ 2 ^ (As.map (fun A => A.states.length)).sum := by
  rw [fuelBoundM_eq_pow]
  exact Nat.pow_le_pow_right (by decide) (Total.sum_parents_le_states As)

/-- a numeric form: if the automata have at most `n` states altogether, `2^n` rounds suffice -/
theorem fuelBoundM_le_of_states (As : List TA) (n : Nat) (h : (As.map (fun A => A.states.length)).sum ≤ n) :
    fuelBoundM As ≤ 2 ^ n :=
  Nat.le_trans (fuelBoundM_le_states As) (Nat.pow_le_pow_right (by decide) h)

theorem fuelBoundM_pos : ∀ (As : List TA), 0 < fuelBoundM As
  | [] => Nat.one_pos
  | _ :: As => Nat.mul_pos (Nat.pow_pos Nat.two_pos) (fuelBoundM_pos As)


/-- semantic bound: the saturation needs at most as many rounds as a list representing all tree profiles is long -/
theorem msat_total_of_cover (As : List TA) (L : List MProf)
    (hL : ∀ t, ∃ u, u ∈ L ∧ MProfEq u (mprofOf As t)) (fuel : Nat) (h : L.length ≤ fuel) :
    (msat As fuel []).isSome = true :=
  msat_isSome_of_cover As L hL fuel [] (mgen_nil As) (Nat.le_trans (uncov_le_length _ _ _) h)

theorem msat_total (As : List TA) (fuel : Nat) (h : fuelBoundM As ≤ fuel) : (msat As fuel []).isSome = true :=
  msat_total_of_cover As (allProfs As) (allProfs_cover As) fuel (by rw [Total.length_allProfs]; exact h)

/-- **Totality of the engine**: above the bound `forallTrees` never returns `none` -/
theorem forallTrees_total (As : List TA) (φ : List Bool → Bool) (fuel : Nat) (h : fuelBoundM As ≤ fuel) :
    (forallTrees As φ fuel).isSome = true := by
  unfold forallTrees
  rw [Option.isSome_map]
  exact msat_total As fuel h

theorem forallTrees_total_of_cover (As : List TA) (φ : List Bool → Bool) (L : List MProf)
    (hL : ∀ t, ∃ u, u ∈ L ∧ MProfEq u (mprofOf As t)) (fuel : Nat) (h : L.length ≤ fuel) :
    (forallTrees As φ fuel).isSome = true := by
  unfold forallTrees
  rw [Option.isSome_map]
  exact msat_total_of_cover As L hL fuel h

/-- more fuel never changes a verdict of the engine -/
theorem forallTrees_fuel_mono (As : List TA) (φ : List Bool → Bool) (fuel : Nat) (b : Bool)
    (h : forallTrees As φ fuel = some b) : forallTrees As φ (fuel + 1) = some b := by
  simp only [forallTrees, Option.map_eq_some_iff] at h ⊢
  obtain ⟨R, hR, hb⟩ := h
  refine ⟨R, ?_, hb⟩
  rw [msat_eq] at hR ⊢
  exact gsat_mono _ _ _ _ hR


theorem inclM_decides (A B : TA) (fuel : Nat) (h : fuelBoundM [A, B] ≤ fuel) :
    ∃ b, inclM A B fuel = some b ∧ (b = true ↔ Incl A B) :=
  Total.decides (forallTrees_total _ _ _ h) (fun b hb => inclM_iff A B fuel b hb)

theorem equivM_decides (A B : TA) (fuel : Nat) (h : fuelBoundM [A, B] ≤ fuel) :
    ∃ b, equivM A B fuel = some b ∧ (b = true ↔ LangEq A B) :=
  Total.decides (forallTrees_total _ _ _ h) (fun b hb => equivM_iff A B fuel b hb)

theorem emptyM_decides (A : TA) (fuel : Nat) (h : fuelBoundM [A] ≤ fuel) :
    ∃ b, emptyM A fuel = some b ∧ (b = true ↔ LangEmpty A) :=
  Total.decides (forallTrees_total _ _ _ h) (fun b hb => emptyM_iff A fuel b hb)

theorem isUnionM_decides (U A B : TA) (fuel : Nat) (h : fuelBoundM [U, A, B] ≤ fuel) :
    ∃ b, isUnionM U A B fuel = some b ∧ (b = true ↔ ∀ t, accepts U t = (accepts A t || accepts B t)) :=
  Total.decides (forallTrees_total _ _ _ h) (fun b hb => isUnionM_iff U A B fuel b hb)

theorem isIsectM_decides (P A B : TA) (fuel : Nat) (h : fuelBoundM [P, A, B] ≤ fuel) :
    ∃ b, isIsectM P A B fuel = some b ∧ (b = true ↔ ∀ t, accepts P t = (accepts A t && accepts B t)) :=
  Total.decides (forallTrees_total _ _ _ h) (fun b hb => isIsectM_iff P A B fuel b hb)

/-- the bound of the complement check, with the alphabet argument: the third automaton is `univ Sg` -/
def fuelBoundCompl (C A : TA) (Sg : List (Nat × Nat)) : Nat := fuelBoundM [C, A, univ Sg]

theorem isComplM_decides (C A : TA) (Sg : List (Nat × Nat)) (fuel : Nat) (h : fuelBoundCompl C A Sg ≤ fuel) :
    ∃ b, isComplM C A Sg fuel = some b ∧
      (b = true ↔ ∀ t, (overSig Sg t = true → accepts C t = !accepts A t) ∧
        (overSig Sg t = false → accepts C t = false)) :=
  Total.decides (forallTrees_total _ _ _ h) (fun b hb => isComplM_iff C A Sg fuel b hb)

/-- the universal automaton has one state, so the alphabet costs a factor of at most `2` whatever its size -/
theorem Total.parents_univ_le (Sg : List (Nat × Nat)) : (parents (univ Sg)).length ≤ 1 := by
  have := parents_length_le_of_subset (univ Sg) [0] (by
    intro r hr
    simp only [univ, List.mem_map] at hr
    obtain ⟨fa, _, rfl⟩ := hr
    simp)
  simpa using this

theorem fuelBoundCompl_le_states (C A : TA) (Sg : List (Nat × Nat)) :
    fuelBoundCompl C A Sg ≤ 2 ^ (C.states.length + A.states.length + 1) := by
  unfold fuelBoundCompl
  rw [fuelBoundM_eq_pow]
  apply Nat.pow_le_pow_right (by decide)
  simp only [List.map_cons, List.map_nil, List.sum_cons, List.sum_nil, Nat.add_zero, ← Nat.add_assoc]
  exact Nat.add_le_add (Nat.add_le_add (Total.parents_length_le_states C) (Total.parents_length_le_states A))
    (Total.parents_univ_le Sg)

open Vata.W

/-- the states a word can reach: start states and targets of transitions -/
def Total.nfaTargets (N : NFA) : List Nat := dedupL (N.start ++ N.trans.map (·.2.2))

theorem Total.parents_toTA (N : NFA) : parents (toTA N) = nfaTargets N := by
  unfold parents nfaTargets toTA
  simp only [List.map_append, List.map_map]
  congr 2
  exact List.map_id'' (fun _ => rfl) _

/-- the bound for word automata: `∏ 2^|start ∪ targets of Nᵢ|` -/
def fuelBoundW (Ns : List NFA) : Nat := fuelBoundM (Ns.map toTA)

theorem fuelBoundW_eq_pow (Ns : List NFA) :
    fuelBoundW Ns = 2 ^ (Ns.map (fun N => (Total.nfaTargets N).length)).sum := by
  unfold fuelBoundW
  rw [fuelBoundM_eq_pow, List.map_map]
  congr 2
  apply List.map_congr_left
  intro N _
  simp only [Function.comp_apply, Total.parents_toTA]

theorem Total.nfaTargets_length_le (N : NFA) : (nfaTargets N).length ≤ N.start.length + N.trans.length := by
  have := parents_length_le_rules (toTA N)
  rw [Total.parents_toTA] at this
  simpa [toTA] using this

/-- any list containing the start states and the transition targets is at least as long -/
theorem Total.nfaTargets_length_le_of_subset (N : NFA) (S : List Nat) (h1 : ∀ q, q ∈ N.start → q ∈ S)
    (h2 : ∀ e, e ∈ N.trans → e.2.2 ∈ S) : (nfaTargets N).length ≤ S.length := by
  rw [← Total.parents_toTA]
  apply parents_length_le_of_subset
  intro r hr
  simp only [toTA, List.mem_append, List.mem_map] at hr
  rcases hr with ⟨q, hq, rfl⟩ | ⟨e, he, rfl⟩
  · exact h1 q hq
  · exact h2 e he

theorem forallWords_total (Ns : List NFA) (φ : List Bool → Bool) (fuel : Nat) (h : fuelBoundW Ns ≤ fuel) :
    (forallWords Ns φ fuel).isSome = true :=
  forallTrees_total _ _ _ h

/-- the second conjunct: the engine runs on trees, and a tree that is no word has the all-false vector (`tree_cases`) -/
theorem forallWords_decides (Ns : List NFA) (φ : List Bool → Bool) (fuel : Nat) (h : fuelBoundW Ns ≤ fuel) :
    ∃ b, forallWords Ns φ fuel = some b ∧
      (b = true ↔ (∀ w, φ (Ns.map (fun N => acceptsW N w)) = true) ∧ φ (Ns.map (fun _ => false)) = true) :=
  Total.decides (forallWords_total _ _ _ h) (fun b hb => forallWords_iff Ns φ fuel b hb)

theorem inclW_decides (A B : NFA) (fuel : Nat) (h : fuelBoundW [A, B] ≤ fuel) :
    ∃ b, inclW A B fuel = some b ∧ (b = true ↔ InclW A B) :=
  Total.decides (forallWords_total _ _ _ h) (fun b hb => inclW_iff A B fuel b hb)

theorem equivW_decides (A B : NFA) (fuel : Nat) (h : fuelBoundW [A, B] ≤ fuel) :
    ∃ b, equivW A B fuel = some b ∧ (b = true ↔ ∀ w, acceptsW A w = acceptsW B w) :=
  Total.decides (forallWords_total _ _ _ h) (fun b hb => equivW_iff A B fuel b hb)

theorem emptyW_decides (A : NFA) (fuel : Nat) (h : fuelBoundW [A] ≤ fuel) :
    ∃ b, emptyW A fuel = some b ∧ (b = true ↔ ∀ w, acceptsW A w = false) :=
  Total.decides (forallWords_total _ _ _ h) (fun b hb => emptyW_iff A fuel b hb)

theorem isUnionW_decides (U A B : NFA) (fuel : Nat) (h : fuelBoundW [U, A, B] ≤ fuel) :
    ∃ b, isUnionW U A B fuel = some b ∧ (b = true ↔ ∀ w, acceptsW U w = (acceptsW A w || acceptsW B w)) :=
  Total.decides (forallWords_total _ _ _ h) (fun b hb => isUnionW_iff U A B fuel b hb)

theorem isIsectW_decides (P A B : NFA) (fuel : Nat) (h : fuelBoundW [P, A, B] ≤ fuel) :
    ∃ b, isIsectW P A B fuel = some b ∧ (b = true ↔ ∀ w, acceptsW P w = (acceptsW A w && acceptsW B w)) :=
  Total.decides (forallWords_total _ _ _ h) (fun b hb => isIsectW_iff P A B fuel b hb)

namespace MultiTotalEx

/-- `a`, `f(a)`, `f(f(a))`, … with the parity of the height as the state; even heights accepted -/
def exEven : TA := ⟨[⟨0, [], 0⟩, ⟨1, [0], 1⟩, ⟨1, [1], 0⟩], [0]⟩
/-- all `f*(a)` -/
def exAll : TA := ⟨[⟨0, [], 0⟩, ⟨1, [0], 0⟩], [0]⟩
/-- a word automaton for `(ab)*` and one for all words over `{a,b}` -/
def nAB : NFA := ⟨[0], [0], [(0, 0, 1), (1, 1, 0)]⟩
def nAll : NFA := ⟨[0], [0], [(0, 0, 0), (0, 1, 0)]⟩

example : fuelBoundM [exEven, exAll] = 8 := by decide +kernel
example : fuelBoundM [exEven, exAll] ≤ 8 ∧ inclM exEven exAll 8 = some true := ⟨by decide +kernel, by decide +kernel⟩
example : ∃ b, inclM exEven exAll 8 = some b ∧ (b = true ↔ Incl exEven exAll) :=
  inclM_decides exEven exAll 8 (by decide +kernel)
example : ∃ b, inclM exAll exEven 8 = some b ∧ (b = true ↔ Incl exAll exEven) :=
  inclM_decides exAll exEven 8 (by decide +kernel)
example : inclM exAll exEven 8 = some false := by decide +kernel
/-- the bound is not vacuous as a bound: with too little fuel the engine does answer `none` -/
example : inclM exEven exAll 1 = none := by decide +kernel
example : fuelBoundM [exEven] = 4 ∧ emptyM exEven 4 = some false := ⟨by decide +kernel, by decide +kernel⟩
example : fuelBoundM [exAll, exEven, exAll] = 16 ∧ isUnionM exAll exEven exAll 16 = some true := ⟨by decide +kernel, by decide +kernel⟩
example : fuelBoundM [exEven, exEven, exAll] = 32 ∧ isIsectM exEven exEven exAll 32 = some true :=
  ⟨by decide +kernel, by decide +kernel⟩
example : fuelBoundCompl exEven exAll [(0, 0), (1, 1)] = 16 := by decide +kernel
example : fuelBoundW [nAB, nAll] = 8 ∧ inclW nAB nAll 8 = some true ∧ inclW nAll nAB 8 = some false :=
  ⟨by decide +kernel, by decide +kernel, by decide +kernel⟩
example : ∃ b, equivW nAB nAll 8 = some b ∧ (b = true ↔ ∀ w, acceptsW nAB w = acceptsW nAll w) :=
  equivW_decides nAB nAll 8 (by decide +kernel)

end MultiTotalEx

end Vata
