import Vata.Proofs.UnionIsectMapsBUInv
/-!
# Property C02 – `IntersectionBU` from a caller-supplied `MapOk` map: the RULES and FINAL STATES of the result, exactly

For the empty map the result is the product on the (bottom-up closed) domain of the map.  For a pre-filled map it is not:
`pTranslMap->find(statePair)` also accepts a pre-filled children pair that is never produced.  What the loop writes is

* every product rule `f(m(c₁),…,m(cₙ)) → m(p)` of matching rules all of whose children pairs are IN THE MAP ON EXIT and
  (`n = 0` or) at least one of whose children pairs has been POPPED,

where a pair has been popped iff its number is the parent of a rule of the result (every push follows an
`AddTransition` with that parent); the final states are the numbers of the popped pairs of two final states.

The second invariant `Ibf.RInv` is kept next to `Ibf.PInv`.  Its completeness clause `r2` says: a matching pair of rules whose
children pairs are all in the map, one of them popped, NONE OF THEM WAITING ON THE STACK, has been written (a pair that
enters the map later is pushed, and the rule is written when that entry is popped).
-/
namespace Vata
namespace Ibf
open Isx Ibu

structure RInv (A B : TA) (m : PMap) (st : List BUEntry) (ns : List Nat) (rs : List Rule) (fs : List Nat) : Prop where
  r1 : ∀ ρ, ρ ∈ rs → ∃ r r', Matching A B r r' ∧ (∀ x, x ∈ r.kids.zip r'.kids → x ∈ m.dom) ∧
    Pend m st ns (r.parent, r'.parent) ∧ (r.kids = [] ∨ ∃ x, x ∈ r.kids.zip r'.kids ∧ Done m ns x) ∧ ρ = PRule m r r'
  r2 : ∀ r r', Matching A B r r' → (∀ x, x ∈ r.kids.zip r'.kids → x ∈ m.dom) →
    (r.kids = [] ∨ ∃ x, x ∈ r.kids.zip r'.kids ∧ Done m ns x) →
    (∀ x, x ∈ r.kids.zip r'.kids → ∀ n, (x, n) ∈ st → n ∈ ns) → (r.parent, r'.parent) ∈ m.dom ∧ PRule m r r' ∈ rs
  f1 : ∀ x, x ∈ fs → ∃ pr, m.lookup pr = some x ∧ pr.1 ∈ A.final ∧ pr.2 ∈ B.final ∧ ((pr, x) ∈ st ∨ x ∈ ns)
  s1 : ∀ e, e ∈ st → ∃ ρ, ρ ∈ rs ∧ ρ.parent = e.2
  n1 : ∀ k, k ∈ ns → ∃ ρ, ρ ∈ rs ∧ ρ.parent = k

variable {A B : TA} {m : PMap} {e : BUEntry} {st : List BUEntry} {ns : List Nat} {rs : List Rule} {fs : List Nat}

theorem RInv.skip (h : RInv A B m (e :: st) ns rs fs) (he : e.2 ∈ ns) : RInv A B m st ns rs fs := by
  refine ⟨?_, ?_, ?_, fun x hx => h.s1 x (List.mem_cons_of_mem _ hx), h.n1⟩
  · intro ρ hρ
    obtain ⟨r, r', hm, hk, ⟨n, h1, h2⟩, hd, he'⟩ := h.r1 ρ hρ
    exact ⟨r, r', hm, hk, ⟨n, h1, entry_skip he h2⟩, hd, he'⟩
  · intro r r' hm hk hd hw
    apply h.r2 r r' hm hk hd
    intro x hx n hn
    rcases List.mem_cons.mp hn with h1 | h1
    · rw [← h1] at he
      exact he
    · exact hw x hx n h1
  · intro x hx
    obtain ⟨pr, h1, h2, h3, h4⟩ := h.f1 x hx
    exact ⟨pr, h1, h2, h3, entry_skip he h4⟩

theorem RInv.pop (hp : PInv A B m (e :: st) ns rs fs) (h : RInv A B m (e :: st) ns rs fs) :
    RInv A B (buProcAll (buMatching A B e.1) m st rs).1 (buProcAll (buMatching A B e.1) m st rs).2.1 (e.2 :: ns)
      (buProcAll (buMatching A B e.1) m st rs).2.2
      (if A.final.contains e.1.1 && B.final.contains e.1.2 then fs ++ [e.2] else fs) := by
  have hpr : m.lookup e.1 = some e.2 := hp.hst _ List.mem_cons_self
  obtain ⟨s, c⟩ := pop_step (A := A) (B := B) e.1 m st rs
  have hpr' := s.ext _ _ hpr
  have hok' := s.ok hp.ok
  refine ⟨?_, ?_, ?_, ?_, ?_⟩
  · intro ρ hρ
    rcases s.rs_new ρ hρ with h1 | ⟨r, r', hq, hk, ⟨n, hn1, hn2, _⟩, he⟩
    · obtain ⟨r, r', hm, hk, ⟨n, d1, d3⟩, hd, he⟩ := h.r1 ρ h1
      refine ⟨r, r', hm, fun x hx => s.ext.dom (hk x hx), ⟨n, s.ext _ _ d1, entry_pop s.st_sub d3⟩,
        hd.imp_right (fun ⟨x, hx, j, h1, h2⟩ => ⟨x, hx, j, s.ext _ _ h1, List.mem_cons_of_mem _ h2⟩), ?_⟩
      rw [he, PRule_ext s.ext (mem_dom_iff.mpr ⟨n, d1⟩) hk]
    · exact ⟨r, r', hq.1, hk, ⟨n, hn1, Or.inl hn2⟩, Or.inr ⟨e.1, hq.2, e.2, hpr', List.mem_cons_self⟩, he⟩
  · intro r r' hm hk hd hw
    -- a children pair that entered the map in this step would wait on the stack
    have hknown : ∀ x, x ∈ r.kids.zip r'.kids → x ∈ m.dom := by
      intro x hx
      obtain ⟨n, hn⟩ := mem_dom_iff.mp (hk x hx)
      rcases s.dom_new x n hn with h1 | h1
      · exact mem_dom_iff.mpr ⟨n, h1⟩
      · exact mem_dom_iff.mpr ⟨n, (done_back hok' s.ext hp.hns hpr hn (hw x hx n h1)).1⟩
    by_cases hin : e.1 ∈ r.kids.zip r'.kids
    · obtain ⟨n, h1, _, h3⟩ := c r r' hm hin hknown
      exact ⟨mem_dom_iff.mpr ⟨n, h1⟩, h3⟩
    · have hne : ∀ x, x ∈ r.kids.zip r'.kids → x ≠ e.1 := fun x hx h1 => hin (h1 ▸ hx)
      have hd' : r.kids = [] ∨ ∃ x, x ∈ r.kids.zip r'.kids ∧ Done m ns x := by
        refine hd.imp_right (fun ⟨x, hx, j, hj1, hj2⟩ => ?_)
        obtain ⟨h1, h2⟩ := done_back hok' s.ext hp.hns hpr hj1 hj2
        exact ⟨x, hx, j, h1, h2.resolve_left (hne x hx)⟩
      have hw' : ∀ x, x ∈ r.kids.zip r'.kids → ∀ n, (x, n) ∈ e :: st → n ∈ ns := by
        intro x hx n hn
        rcases List.mem_cons.mp hn with h1 | h1
        · exact absurd (congrArg Prod.fst h1) (hne x hx)
        · exact (done_back hok' s.ext hp.hns hpr (s.ext _ _ (hp.hst _ hn))
            (hw x hx n (s.st_sub _ h1))).2.resolve_left (hne x hx)
      obtain ⟨d1, d2⟩ := h.r2 r r' hm hknown hd' hw'
      refine ⟨s.ext.dom d1, ?_⟩
      rw [PRule_ext s.ext d1 hknown]
      exact s.rs_sub _ d2
  · intro x hx
    rcases mem_addFinal.mp hx with h1 | ⟨h1, hfa, hfb⟩
    · obtain ⟨p, g1, g2, g3, g4⟩ := h.f1 x h1
      exact ⟨p, s.ext _ _ g1, g2, g3, entry_pop s.st_sub g4⟩
    · exact ⟨e.1, h1 ▸ hpr', hfa, hfb, Or.inr (h1 ▸ List.mem_cons_self)⟩
  · intro x hx
    rcases s.st_new x hx with h1 | h1
    · obtain ⟨ρ, g1, g2⟩ := h.s1 x (List.mem_cons_of_mem _ h1)
      exact ⟨ρ, s.rs_sub _ g1, g2⟩
    · exact h1.2
  · intro j hj
    obtain ⟨ρ, g1, g2⟩ : ∃ ρ, ρ ∈ rs ∧ ρ.parent = j := by
      rcases List.mem_cons.mp hj with h1 | h1
      · exact h1 ▸ h.s1 e List.mem_cons_self
      · exact h.n1 j h1
    exact ⟨ρ, s.rs_sub _ g1, g2⟩

theorem loop_rinv (n : Nat) {m' : PMap} {rs' : List Rule} {fs' : List Nat} (hp : PInv A B m st ns rs fs)
    (h : RInv A B m st ns rs fs) (he : buLoop A B n m st ns rs fs = some (m', rs', fs')) :
    ∃ ns', PInv A B m' [] ns' rs' fs' ∧ RInv A B m' [] ns' rs' fs' :=
  buLoop_induct (fun m st ns rs fs => PInv A B m st ns rs fs ∧ RInv A B m st ns rs fs)
    (fun _ _ _ _ _ _ h he => ⟨h.1.skip he, h.2.skip he⟩) (fun _ _ _ _ _ _ h _ => ⟨h.1.pop, RInv.pop h.1 h.2⟩)
    n m st ns rs fs m' rs' fs' ⟨hp, h⟩ he

theorem init_rinv (A B : TA) (m0 : PMap) :
    RInv A B (buLeafPhase A B (buLeafPairs A B) m0 [] [] []).1 (buLeafPhase A B (buLeafPairs A B) m0 [] [] []).2.1 []
      (buLeafPhase A B (buLeafPairs A B) m0 [] [] []).2.2.1 (buLeafPhase A B (buLeafPairs A B) m0 [] [] []).2.2.2 := by
  obtain ⟨s, c⟩ := buLeafPhase_spec (A := A) (B := B) (Q := fun r r' => Matching A B r r' ∧ r.kids = [])
    (buLeafPairs A B) m0 [] [] [] (fun rr hrr => ⟨mem_buLeafPairs.mp hrr, (mem_buLeafPairs.mp hrr).2⟩)
  have f := buLeafPhase_final (A := A) (B := B) (buLeafPairs A B) (fun rr hrr => (mem_buLeafPairs.mp hrr).2) m0 [] [] []
  refine ⟨?_, ?_, ?_, ?_, fun k hk => absurd hk List.not_mem_nil⟩
  · intro ρ hρ
    obtain ⟨r, r', hq, hk, ⟨n, hn1, hn2, _⟩, he⟩ := (s.rs_new ρ hρ).resolve_left List.not_mem_nil
    exact ⟨r, r', hq.1, hk, ⟨n, hn1, Or.inl hn2⟩, Or.inl hq.2, he⟩
  · intro r r' hm _ hd _
    have hk : r.kids = [] := hd.resolve_right (fun ⟨_, _, _, _, hj⟩ => absurd hj List.not_mem_nil)
    obtain ⟨n, h1, _, h3⟩ := c (r, r') (mem_buLeafPairs.mpr ⟨hm, hk⟩)
    exact ⟨mem_dom_iff.mpr ⟨n, h1⟩, h3⟩
  · intro x hx
    obtain ⟨pr, g1, g2, g3, g4⟩ := (f x hx).resolve_left List.not_mem_nil
    exact ⟨pr, g1, g2, g3, Or.inl g4⟩
  · intro e he
    exact ((s.st_new e he).resolve_left List.not_mem_nil).2

/-- on an empty stack: popped = number in `newStates` = parent of a rule of the result -/
theorem RInv.done_iff (hr : RInv A B m [] ns rs fs) (p : Nat × Nat) :
    Done m ns p ↔ (p ∈ m.dom ∧ ∃ σ, σ ∈ rs ∧ σ.parent = lookupF m p) := by
  constructor
  · rintro ⟨n, h1, h2⟩
    obtain ⟨σ, g1, g2⟩ := hr.n1 n h2
    exact ⟨mem_dom_iff.mpr ⟨n, h1⟩, σ, g1, by rw [g2, lookupF_of h1]⟩
  · rintro ⟨hpd, σ, g1, g2⟩
    obtain ⟨n, hn⟩ := mem_dom_iff.mp hpd
    obtain ⟨r, r', _, _, ⟨n', d1, d3⟩, _, he⟩ := hr.r1 σ g1
    have : n = n' := by rw [← lookupF_of hn, ← g2, he, PRule_parent d1]
    exact ⟨n, hn, this ▸ d3.resolve_left List.not_mem_nil⟩

end Ibf

open Isx in
/-- **rules and final states of `IntersectionBU(lhs, rhs, &m)` for a `MapOk` entry map, exactly.**  Call a pair POPPED when it
is in the map on exit and its number is the parent of a rule of the result.  The rules are (as a set) the product rules
of matching rules all of whose children pairs are in the map on exit and which are leaf rules or have a popped children
pair; the final states are the numbers of the popped pairs of two final states. -/
theorem isectBUFrom_rules {A B : TA} {m0 : PMap} {fuel : Nat} {P : TA} {m : PMap} (hok : Isx.MapOk m0)
    (h : isectBUFrom A B m0 fuel = some (P, m)) :
    (∀ ρ, ρ ∈ P.rules ↔ ∃ r r', Matching A B r r' ∧ (∀ x, x ∈ r.kids.zip r'.kids → x ∈ m.dom) ∧
      (r.kids = [] ∨ ∃ x, x ∈ r.kids.zip r'.kids ∧ x ∈ m.dom ∧ ∃ σ, σ ∈ P.rules ∧ σ.parent = lookupF m x) ∧
      ρ = PRule m r r') ∧
    (∀ x, x ∈ P.final ↔ ∃ pr, pr ∈ m.dom ∧ (∃ σ, σ ∈ P.rules ∧ σ.parent = lookupF m pr) ∧
      pr.1 ∈ A.final ∧ pr.2 ∈ B.final ∧ lookupF m pr = x) := by
  rw [isectBUFrom_eq_loop, Option.map_eq_some_iff] at h
  obtain ⟨_, hl, he⟩ := h
  cases he
  obtain ⟨ns, hp, hr⟩ := Ibf.loop_rinv fuel (Ibf.init_inv A B m0 hok).2 (Ibf.init_rinv A B m0) hl
  have hdone := hr.done_iff
  constructor
  · intro ρ
    constructor
    · intro hρ
      obtain ⟨r, r', hm, hk, _, hd, he⟩ := hr.r1 ρ hρ
      exact ⟨r, r', hm, hk, hd.imp_right (fun ⟨x, hx, hd⟩ => ⟨x, hx, (hdone x).mp hd⟩), he⟩
    · rintro ⟨r, r', hm, hk, hd, he⟩
      rw [he]
      exact (hr.r2 r r' hm hk (hd.imp_right (fun ⟨x, hx, hd⟩ => ⟨x, hx, (hdone x).mpr hd⟩))
        (fun x _ n hn => absurd hn List.not_mem_nil)).2
  · intro x
    constructor
    · intro hx
      obtain ⟨pr, g1, g2, g3, g4⟩ := hr.f1 x hx
      obtain ⟨hd1, hd2⟩ := (hdone pr).mp ⟨x, g1, g4.resolve_left List.not_mem_nil⟩
      exact ⟨pr, hd1, hd2, g2, g3, lookupF_of g1⟩
    · rintro ⟨pr, hd1, hd2, g2, g3, g5⟩
      obtain ⟨n, hn1, hn2⟩ := (hdone pr).mpr ⟨hd1, hd2⟩
      rw [← g5, lookupF_of hn1]
      exact hp.fcomplete pr n hn1 hn2 g2 g3

end Vata
