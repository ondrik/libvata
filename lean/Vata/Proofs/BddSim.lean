import Vata.BddSim
import Vata.Proofs.SimModel
import Vata.Proofs.BddAbsTD
/-!
C07: the downward simulation computed on bottom-up BDD automata.

Model: `Vata/BddSim.lean` (`bddDownSim A n fuel`, `bddDownSimOrd A n o fuel` with the iteration orders `o` as a parameter), a
step-by-step transcription of `BDDBUTreeAutCore::ComputeDownwardSimulation(size)` at the abstraction "a table maps a
children tuple to the function symbol ↦ set of parents".

The returned relation is a downward simulation (what the pruning of the downward inclusion needs), namely the GREATEST one
restricted to the states that own a top-down entry (final, or a child of some rule); a state that is only a parent of rules
is unrelated to everything, itself included.  The result does not depend on the iteration orders of the hash containers
(the parameter `o`, which may also contain "ghost" keys – tuples whose MTBDD is empty everywhere), on the matrix size or on
the fuel; `fuelBound A = |table|²` iterations suffice, since the number of live pairs of tuples (`BddSim.mu`) drops by one
per iteration.  The C++ `assert(result[s] > 0)` holds for the states with a top-down entry; for a state without one the slot
is `0` from the start, so the first decrement wraps.

The invariant (`BddSim.Inv`): "remove" holds exactly pairs of tuples of the table, of equal length, not componentwise
related, without duplicates; the counter of `(t, a, s)` (for `s` with an entry) is the number of LIVE tuples `t'` with
`a(t') → s` (`live`: of the length of `t` and componentwise related to it, or still waiting in "remove"), plus one for the
slots whose decrement for the pair just taken is pending; `sim(p, s)` with `a(t) → p` implies a non-zero counter of a
non-pending slot; every simulation between states with entries is contained in "sim".
-/
namespace Vata
namespace BddSim

section Generic
variable {α : Type} [BEq α] [LawfulBEq α]

theorem mem_insG {x y : α} {l : List α} : y ∈ insG x l ↔ y ∈ l ∨ y = x := mem_insNew

theorem nodup_insG {x : α} {l : List α} (h : l.Nodup) : (insG x l).Nodup := nodup_insNew h

theorem mem_unionG {y : α} {l₂ l₁ : List α} : y ∈ unionG l₁ l₂ ↔ y ∈ l₁ ∨ y ∈ l₂ := mem_foldl_insNew l₂ l₁

theorem nodup_unionG (l₂ l₁ : List α) (h : l₁.Nodup) : (unionG l₁ l₂).Nodup := nodup_foldl_insNew l₂ h

end Generic

theorem mem_up {A : TA} {t : Tup} {a p : Nat} : p ∈ up A t a ↔ (⟨a, t, p⟩ : Rule) ∈ A.rules := by
  simp only [up, mem_unionG, List.not_mem_nil, false_or, List.mem_map, List.mem_filter, Bool.and_eq_true, beq_iff_eq]
  constructor
  · rintro ⟨r, ⟨hr, h1, h2⟩, h3⟩
    cases r; simp only at h1 h2 h3; subst h1 h2 h3; exact hr
  · intro h; exact ⟨_, ⟨h, rfl, rfl⟩, rfl⟩

theorem mem_up_rule {A : TA} {r : Rule} (hr : r ∈ A.rules) : r.parent ∈ up A r.kids r.sym := mem_up.mpr hr

theorem nodup_up (A : TA) (t : Tup) (a : Nat) : (up A t a).Nodup := nodup_unionG _ _ List.nodup_nil

theorem mem_tuplesA {A : TA} {t : Tup} : t ∈ tuples A ↔ t = [] ∨ ∃ r, r ∈ A.rules ∧ r.kids = t := by
  simp only [tuples, mem_unionG, List.mem_singleton, List.mem_map]

theorem mem_tdStates {A : TA} {q : Nat} : q ∈ tdStates A ↔ q ∈ A.final ∨ ∃ r, r ∈ A.rules ∧ q ∈ r.kids := by
  simp only [tdStates, mem_unionG, List.not_mem_nil, false_or, List.mem_append, List.mem_flatMap]

theorem mem_syms {A : TA} {a : Nat} : a ∈ syms A ↔ ∃ r, r ∈ A.rules ∧ r.sym = a := by
  simp only [syms, mem_unionG, List.not_mem_nil, false_or, List.mem_map]

/-- the iteration orders enumerate what the C++ containers hold.  The table may have GHOST keys – tuples whose MTBDD maps
every symbol to ∅ (`RemoveUselessStates` leaves such keys behind) –: only `kidsT` is asked of `o.T`; the states with a
top-down entry are the final states and the components of ALL keys -/
structure Order.Ok (A : TA) (o : Order) : Prop where
  kidsT : ∀ r, r ∈ A.rules → r.kids ∈ o.T
  ndT : o.T.Nodup
  memQ : ∀ q, q ∈ o.Q ↔ q ∈ A.final ∨ ∃ t, t ∈ o.T ∧ q ∈ t
  memSy : ∀ r, r ∈ A.rules → r.sym ∈ o.Sy
  ndSy : o.Sy.Nodup

/-- no ghost keys: the table has the nullary key and the children tuples of the rules only (a table built by
`AddTransition`) -/
def Order.Exact (A : TA) (o : Order) : Prop := ∀ t, t ∈ o.T → t = [] ∨ ∃ r, r ∈ A.rules ∧ r.kids = t

theorem memQ_iff {A : TA} {T : List Tup} (hk : ∀ r, r ∈ A.rules → r.kids ∈ T)
    (hg : ∀ t, t ∈ T → ∀ q, q ∈ t → q ∈ tdStates A) (q : Nat) :
    (q ∈ A.final ∨ ∃ t, t ∈ T ∧ q ∈ t) ↔ q ∈ tdStates A := by
  rw [mem_tdStates]
  constructor
  · rintro (h | ⟨t, ht, hq⟩)
    · exact Or.inl h
    · exact mem_tdStates.mp (hg t ht q hq)
  · rintro (h | ⟨r, hr, hq⟩)
    · exact Or.inl h
    · exact Or.inr ⟨r.kids, hk r hr, hq⟩

theorem Order.Ok.memQ_tdStates {A : TA} {o : Order} (ok : o.Ok A) (hg : ∀ t, t ∈ o.T → ∀ q, q ∈ t → q ∈ tdStates A)
    (q : Nat) : q ∈ o.Q ↔ q ∈ tdStates A :=
  (ok.memQ q).trans (memQ_iff ok.kidsT hg q)

theorem Order.Exact.comps {A : TA} {o : Order} (ex : o.Exact A) : ∀ t, t ∈ o.T → ∀ q, q ∈ t → q ∈ tdStates A := by
  intro t ht q hq
  rcases ex t ht with rfl | ⟨r, hr, rfl⟩
  · cases hq
  · exact mem_tdStates.mpr (Or.inr ⟨r, hr, hq⟩)

theorem stdOrder_exact (A : TA) : (stdOrder A).Exact A := fun _ h => mem_tuplesA.mp h

theorem stdOrder_ok (A : TA) : (stdOrder A).Ok A where
  kidsT := fun r hr => mem_tuplesA.mpr (Or.inr ⟨r, hr, rfl⟩)
  ndT := nodup_unionG _ _ (List.pairwise_singleton _ _)
  memQ := fun q => (memQ_iff (fun r hr => mem_tuplesA.mpr (Or.inr ⟨r, hr, rfl⟩)) (stdOrder_exact A).comps q).symm
  memSy := fun r hr => mem_syms.mpr ⟨r, hr, rfl⟩
  ndSy := nodup_unionG _ _ List.nodup_nil

theorem Order.Ok.kids_mem {A : TA} {o : Order} (ok : o.Ok A) {r : Rule} (hr : r ∈ A.rules) : r.kids ∈ o.T :=
  ok.kidsT r hr

theorem Order.Ok.comp_mem {A : TA} {o : Order} (ok : o.Ok A) {t : Tup} (ht : t ∈ o.T) {q : Nat} (hq : q ∈ t) : q ∈ o.Q :=
  (ok.memQ q).mpr (Or.inr ⟨t, ht, hq⟩)

theorem matchAt_iff : ∀ {t t' : Tup} {p s : Nat}, matchAt t t' p s = true ↔ (p, s) ∈ t.zip t'
  | [], _, _, _ => by simp [matchAt]
  | _ :: _, [], _, _ => by simp [matchAt]
  | x :: xs, y :: ys, p, s => by
    rw [matchAt, List.zip_cons_cons, List.mem_cons, Bool.or_eq_true, matchAt_iff, Bool.and_eq_true, beq_iff_eq,
      beq_iff_eq, Prod.mk.injEq, eq_comm (a := p), eq_comm (a := s)]

theorem kidsRel_iff_zip (R : Rel) : ∀ t t' : Tup, kidsRel R t t' = true ↔ t'.length = t.length ∧ ∀ c, c ∈ t.zip t' → c ∈ R
  | [], [] => by simp [kidsRel]
  | [], _ :: _ => by simp [kidsRel]
  | _ :: _, [] => by simp [kidsRel]
  | x :: xs, y :: ys => by
    rw [kidsRel, Bool.and_eq_true, kidsRel_iff_zip R xs ys, List.contains_iff_mem, List.zip_cons_cons, List.forall_mem_cons,
      List.length_cons, List.length_cons, Nat.add_right_cancel_iff, and_left_comm]

theorem matchAt_mem {t t' : Tup} {p s : Nat} (h : matchAt t t' p s = true) : p ∈ t ∧ s ∈ t' :=
  List.of_mem_zip (matchAt_iff.mp h)

theorem mem_matching {T : List Tup} {p s : Nat} {e : RemEl} :
    e ∈ matching T p s ↔ e.1 ∈ T ∧ e.2 ∈ T ∧ e.2.length = e.1.length ∧ matchAt e.1 e.2 p s = true := by
  obtain ⟨t, t'⟩ := e
  simp only [matching, List.mem_flatMap, List.mem_filter, List.mem_map, Bool.and_eq_true, beq_iff_eq, Prod.mk.injEq,
    List.contains_iff_mem]
  constructor
  · rintro ⟨t₁, ⟨h1, _⟩, t₂, ⟨h3, h4, h5⟩, rfl, rfl⟩
    exact ⟨h1, h3, h4, h5⟩
  · rintro ⟨h1, h3, h4, h5⟩
    exact ⟨t, ⟨h1, (matchAt_mem h5).1⟩, t', ⟨h3, h4, h5⟩, rfl, rfl⟩

/-- clearing the bit `(p, s)` breaks exactly the pairs of tuples that match `(p, s)` -/
theorem kidsRel_filter (R : Rel) (p s : Nat) (t t' : Tup) :
    kidsRel (R.filter (fun x => !(x == (p, s)))) t t' = (kidsRel R t t' && !matchAt t t' p s) := by
  rw [Bool.eq_iff_iff, Bool.and_eq_true, Bool.not_eq_true', ← Bool.not_eq_true, kidsRel_iff_zip, kidsRel_iff_zip, matchAt_iff,
    and_assoc]
  refine and_congr_right (fun _ => ⟨fun h => ⟨fun c hc => (List.mem_filter.mp (h c hc)).1, fun hc => ?_⟩, fun h c hc =>
    List.mem_filter.mpr ⟨h.1 c hc, ?_⟩⟩)
  · simpa using (List.mem_filter.mp (h _ hc)).2
  · rw [Bool.not_eq_true', beq_eq_false_iff_ne]
    exact fun e => h.2 (e ▸ hc)

theorem exists_matchAt_of_not_kidsRel (R : Rel) (t t' : Tup) (hl : t'.length = t.length) (h : kidsRel R t t' = false) :
    ∃ p s, matchAt t t' p s = true ∧ (p, s) ∉ R := by
  apply Classical.byContradiction
  intro hn
  rw [← Bool.not_eq_true, kidsRel_iff_zip] at h
  refine h ⟨hl, fun c hc => Classical.byContradiction (fun hR => hn ⟨c.1, c.2, matchAt_iff.mpr hc, hR⟩)⟩

theorem not_kidsRel_of_matchAt (R : Rel) {p s : Nat} (hps : (p, s) ∉ R) (t t' : Tup) (h : matchAt t t' p s = true) :
    kidsRel R t t' = false := by
  rw [← Bool.not_eq_true, kidsRel_iff_zip]
  exact fun hk => hps (hk.2 _ (matchAt_iff.mp h))

theorem kidsRel_mono {R R' : Rel} (h : ∀ x, x ∈ R' → x ∈ R) : ∀ t t' : Tup, kidsRel R' t t' = true → kidsRel R t t' = true
  | t, t', h' => (kidsRel_iff_zip R t t').mpr
    ⟨((kidsRel_iff_zip R' t t').mp h').1, fun c hc => h c (((kidsRel_iff_zip R' t t').mp h').2 c hc)⟩

theorem kidsRel_length {R : Rel} {t t' : Tup} (h : kidsRel R t t' = true) : t'.length = t.length :=
  ((kidsRel_iff_zip R t t').mp h).1

/-- `t'` still counts for `t`: componentwise related, or waiting in "remove" -/
def live (sim : Rel) (rem : List RemEl) (t t' : Tup) : Bool :=
  t'.length == t.length && (kidsRel sim t t' || rem.contains (t, t'))

def cntOf (A : TA) (T : List Tup) (sim : Rel) (rem : List RemEl) (t : Tup) (a s : Nat) : Nat :=
  (T.filter (fun t' => live sim rem t t' && (up A t' a).contains s)).length

structure RemInv (T : List Tup) (sim : Rel) (rem : List RemEl) : Prop where
  ok : ∀ e, e ∈ rem → e.1 ∈ T ∧ e.2 ∈ T ∧ e.2.length = e.1.length ∧ kidsRel sim e.1 e.2 = false
  nd : rem.Nodup

theorem live_iff {sim : Rel} {rem : List RemEl} {t t' : Tup} :
    live sim rem t t' = true ↔ t'.length = t.length ∧ (kidsRel sim t t' = true ∨ (t, t') ∈ rem) := by
  rw [live, Bool.and_eq_true, beq_iff_eq, Bool.or_eq_true, List.contains_iff_mem]

/-- `r` is `(sim, rem)` after the pairs outside `P` have been cut: they have left "sim", and "remove" has taken up the pairs
of tuples this broke, so that the live pairs are the same -/
structure CutTo (T : List Tup) (sim : Rel) (rem : List RemEl) (P : Nat × Nat → Prop) (r : Rel × List RemEl) : Prop where
  mem : ∀ x, x ∈ r.1 ↔ x ∈ sim ∧ P x
  inv : RemInv T r.1 r.2
  same : ∀ t t', t ∈ T → t' ∈ T → live r.1 r.2 t t' = live sim rem t t'

theorem cut_spec {T : List Tup} {s : Nat} {sim : Rel} {rem : List RemEl} (p : Nat) (hI : RemInv T sim rem) :
    CutTo T sim rem (· ≠ (p, s)) (cut T s (sim, rem) p) := by
  unfold cut
  by_cases hc : sim.contains (p, s) = true
  · rw [if_pos hc]
    refine ⟨fun x => by simp [List.mem_filter], ⟨fun e he => ?_, nodup_unionG _ _ hI.nd⟩, fun t t' ht ht' => ?_⟩
    · rw [kidsRel_filter]
      rcases mem_unionG.mp he with he | he
      · obtain ⟨h1, h2, h3, h4⟩ := hI.ok e he
        exact ⟨h1, h2, h3, by rw [h4]; rfl⟩
      · obtain ⟨h1, h2, h3, h4⟩ := mem_matching.mp (List.mem_filter.mp he).1
        exact ⟨h1, h2, h3, by rw [h4]; simp⟩
    · rw [Bool.eq_iff_iff, live_iff, live_iff]
      refine and_congr_right (fun hl => ?_)
      simp only [mem_unionG, List.mem_filter, mem_matching, kidsRel_filter, Bool.and_eq_true, Bool.not_eq_true']
      constructor
      · rintro (⟨h, _⟩ | h | ⟨_, h⟩)
        · exact Or.inl h
        · exact Or.inr h
        · exact Or.inl h
      · rintro (h | h)
        · by_cases hm : matchAt t t' p s = true
          · exact Or.inr (Or.inr ⟨⟨ht, ht', hl, hm⟩, h⟩)
          · exact Or.inl ⟨h, by simpa using hm⟩
        · exact Or.inr (Or.inl h)
  · rw [if_neg hc]
    exact ⟨fun x => ⟨fun hx => ⟨hx, fun e => hc (List.contains_iff_mem.mpr (e ▸ hx))⟩, And.left⟩, hI, fun _ _ _ _ => rfl⟩

theorem cuts_spec {T : List Tup} {s : Nat} : ∀ (ps : List Nat) {sim : Rel} {rem : List RemEl}, RemInv T sim rem →
    CutTo T sim rem (fun x => ∀ p, p ∈ ps → x ≠ (p, s)) (ps.foldl (cut T s) (sim, rem))
  | [], sim, rem, hI => ⟨fun x => by simp, hI, fun _ _ _ _ => rfl⟩
  | p :: ps, sim, rem, hI => by
    have h := cut_spec (s := s) p hI
    have k := cuts_spec (s := s) ps h.inv
    rw [List.foldl_cons]
    refine ⟨fun x => ?_, k.inv, fun t t' ht ht' => (k.same t t' ht ht').trans (h.same t t' ht ht')⟩
    rw [k.mem, h.mem]
    simp only [List.forall_mem_cons, and_assoc]


section Refinement
variable {A : TA} {o : Order} {S : Nat → Nat → Prop}

theorem getCnt_cons (A : TA) (o : Order) (c : List (Key × Nat)) (k k' : Key) (v : Nat) :
    getCnt A o ((k, v) :: c) k' = if k' = k then v else getCnt A o c k' := by
  unfold getCnt
  rw [List.lookup_cons]
  by_cases h : k' = k
  · simp [h]
  · have : (k' == k) = false := by simpa using h
    simp [h, this]

theorem wrapDec_succ (x : Nat) : wrapDec (x + 1) = x := by simp [wrapDec]

theorem cntOf_congr {T : List Tup} {sim sim' : Rel} {rem rem' : List RemEl} {t : Tup}
    (h : ∀ t', t' ∈ T → live sim' rem' t t' = live sim rem t t') (a s : Nat) :
    cntOf A T sim' rem' t a s = cntOf A T sim rem t a s := by
  unfold cntOf
  congr 1
  apply List.filter_congr
  intro t' ht'
  rw [h t' ht']

/-- `pend`: the slots `(t₁, a, s)` whose decrement for the pair just taken out of "remove" is still due -/
structure Inv (A : TA) (o : Order) (S : Nat → Nat → Prop) (t₁ : Tup) (pend : List (Nat × Nat)) (st : St) : Prop where
  simQ : ∀ q r, (q, r) ∈ st.sim → q ∈ o.Q ∧ r ∈ o.Q
  rem : RemInv o.T st.sim st.rem
  cntOk : ∀ t, t ∈ o.T → ∀ a s, s ∈ o.Q →
    getCnt A o st.cnt (t, a, s) = cntOf A o.T st.sim st.rem t a s + (if t = t₁ ∧ (a, s) ∈ pend then 1 else 0)
  pos : ∀ t, t ∈ o.T → ∀ a p s, p ∈ up A t a → (p, s) ∈ st.sim → ¬(t = t₁ ∧ (a, s) ∈ pend) →
    getCnt A o st.cnt (t, a, s) ≠ 0
  compl : ∀ q r, S q r → (q, r) ∈ st.sim

theorem Inv.cntOk_nil {t₁ : Tup} {st : St} (h : Inv A o S t₁ [] st) {t : Tup} (ht : t ∈ o.T) (a : Nat) {s : Nat}
    (hs : s ∈ o.Q) : getCnt A o st.cnt (t, a, s) = cntOf A o.T st.sim st.rem t a s := by
  rw [h.cntOk t ht a s hs, if_neg (fun h => List.not_mem_nil h.2)]
  rfl

theorem inv_step {t₁ : Tup} {a s : Nat} {pend : List (Nat × Nat)}
    (hnp : (a, s) ∉ pend) {st : St} (hI : Inv A o S t₁ ((a, s) :: pend) st) {sim' : Rel} {rem' : List RemEl}
    (hsub : ∀ x, x ∈ sim' → x ∈ st.sim)
    (hlive : ∀ t t', t ∈ o.T → t' ∈ o.T → live sim' rem' t t' = live st.sim st.rem t t')
    (hrem : RemInv o.T sim' rem')
    (hdead : wrapDec (getCnt A o st.cnt (t₁, a, s)) = 0 → ∀ p, p ∈ up A t₁ a → (p, s) ∉ sim')
    (hcompl : ∀ q r, S q r → (q, r) ∈ sim') :
    Inv A o S t₁ pend ⟨sim', ((t₁, a, s), wrapDec (getCnt A o st.cnt (t₁, a, s))) :: st.cnt, rem'⟩ := by
  -- off the slot that is written, the pending slots are those that were pending
  have hpend : ∀ {t : Tup} {a' s' : Nat}, ((t, a', s') : Key) ≠ (t₁, a, s) →
      ((t = t₁ ∧ (a', s') ∈ (a, s) :: pend) ↔ (t = t₁ ∧ (a', s') ∈ pend)) := fun hk => by
    rw [List.mem_cons]
    exact and_congr_right (fun h1 => or_iff_right (fun h2 => hk (by rw [h1, h2])))
  refine ⟨fun q r h => hI.simQ q r (hsub _ h), hrem, ?_, ?_, hcompl⟩
  · intro t ht a' s' hs'
    rw [getCnt_cons, cntOf_congr (fun t' ht' => hlive t t' ht ht')]
    by_cases hk : ((t, a', s') : Key) = (t₁, a, s)
    · cases hk
      rw [if_pos rfl, hI.cntOk t₁ ht a s hs', if_pos ⟨rfl, List.mem_cons_self⟩, wrapDec_succ,
        if_neg (fun h => hnp h.2)]
      rfl
    · rw [if_neg hk, hI.cntOk t ht a' s' hs']
      simp only [hpend hk]
  · intro t ht a' p s' hp hps hnpend
    rw [getCnt_cons]
    by_cases hk : ((t, a', s') : Key) = (t₁, a, s)
    · cases hk
      rw [if_pos rfl]
      exact fun h0 => hdead h0 p hp hps
    · rw [if_neg hk]
      exact hI.pos t ht a' p s' hp (hsub _ hps) (fun h => hnpend ((hpend hk).mp h))


theorem cntOf_pos {T : List Tup} {sim : Rel} {rem : List RemEl} {t t' : Tup} {a s : Nat} (ht' : t' ∈ T)
    (hl : live sim rem t t' = true) (hs : s ∈ up A t' a) : cntOf A T sim rem t a s ≠ 0 :=
  Nat.ne_of_gt (List.length_pos_of_mem (List.mem_filter.mpr ⟨ht', by simp [hl, hs]⟩))

theorem kidsRel_of_all2 {R : Rel} (h : ∀ q r, S q r → (q, r) ∈ R) {t t' : Tup}
    (hA : All2 S t t') : kidsRel R t t' = true :=
  (SimModel.kidsRel_iff R t t').mpr (hA.mono fun a b _ _ hab => h a b hab)

theorem procS_inv (ok : o.Ok A) (hS : DownSim A S)
    (hSQ : ∀ q r, S q r → q ∈ o.Q ∧ r ∈ o.Q) {t₁ : Tup} (ht₁ : t₁ ∈ o.T) {a s : Nat} {pend : List (Nat × Nat)}
    (hnp : (a, s) ∉ pend) {st : St} (hI : Inv A o S t₁ ((a, s) :: pend) st) :
    Inv A o S t₁ pend (procS A o t₁ st (a, s)) ∧
    (∀ t t', t ∈ o.T → t' ∈ o.T →
      live (procS A o t₁ st (a, s)).sim (procS A o t₁ st (a, s)).rem t t' = live st.sim st.rem t t') := by
  unfold procS
  simp only
  by_cases hc : wrapDec (getCnt A o st.cnt (t₁, a, s)) = 0
  · simp only [hc, if_true]
    have k := cuts_spec (T := o.T) (s := s) (up A t₁ a) hI.rem
    refine ⟨?_, k.same⟩
    have := inv_step hnp hI (fun x hx => ((k.mem x).mp hx).1) k.same k.inv
      (fun _ p hp hps => ((k.mem _).mp hps).2 p hp rfl) ?_
    · rw [hc] at this; exact this
    · intro q r hqr
      refine (k.mem _).mpr ⟨hI.compl q r hqr, fun p hp e => ?_⟩
      cases e
      -- `S q r` with `q ∈ up t₁ a`: `r` has a rule over a live tuple, so the counter cannot have reached 0
      obtain ⟨σ, hσ, hσp, hσs, hall⟩ := hS q _ hqr ⟨a, t₁, q⟩ (mem_up.mp hp) rfl
      have hs := mem_up_rule hσ
      rw [hσp, hσs] at hs
      rw [hI.cntOk t₁ ht₁ _ _ (hSQ q _ hqr).2, if_pos ⟨rfl, List.mem_cons_self⟩, wrapDec_succ] at hc
      have hk := kidsRel_of_all2 hI.compl hall
      exact cntOf_pos (ok.kids_mem hσ) (live_iff.mpr ⟨kidsRel_length hk, Or.inl hk⟩) hs hc
  · simp only [hc, if_false]
    exact ⟨inv_step hnp hI (fun x hx => hx) (fun _ _ _ _ => rfl) hI.rem (fun h => absurd h hc) hI.compl, fun _ _ _ _ => trivial⟩


theorem inv_nil_irrel {t t' : Tup} {st : St} (h : Inv A o S t [] st) :
    Inv A o S t' [] st :=
  ⟨h.simQ, h.rem, fun u hu a s hs => by simpa using h.cntOk u hu a s hs,
    fun u hu a p s hp hps _ => h.pos u hu a p s hp hps (by simp), h.compl⟩

theorem foldl_procS_inv (ok : o.Ok A) (hS : DownSim A S)
    (hSQ : ∀ q r, S q r → q ∈ o.Q ∧ r ∈ o.Q) {t₁ : Tup} (ht₁ : t₁ ∈ o.T) :
    ∀ (pend : List (Nat × Nat)), pend.Nodup → ∀ st : St, Inv A o S t₁ pend st →
      Inv A o S t₁ [] (pend.foldl (procS A o t₁) st) ∧
      (∀ t t', t ∈ o.T → t' ∈ o.T →
        live (pend.foldl (procS A o t₁) st).sim (pend.foldl (procS A o t₁) st).rem t t' = live st.sim st.rem t t')
  | [], _, st, hI => ⟨hI, fun _ _ _ _ => rfl⟩
  | (a, s) :: pend, hnd, st, hI => by
    rw [List.nodup_cons] at hnd
    obtain ⟨h1, h2⟩ := procS_inv ok hS hSQ ht₁ hnd.1 hI
    obtain ⟨k1, k2⟩ := foldl_procS_inv ok hS hSQ ht₁ pend hnd.2 _ h1
    simp only [List.foldl_cons]
    exact ⟨k1, fun t t' ht ht' => by rw [k2 t t' ht ht', h2 t t' ht ht']⟩

theorem mem_ops {t₂ : Tup} {a s : Nat} : (a, s) ∈ ops A o t₂ ↔ a ∈ o.Sy ∧ s ∈ up A t₂ a := by
  simp only [ops, List.mem_flatMap, List.mem_map, Prod.mk.injEq]
  constructor
  · rintro ⟨a', ha', s', hs', rfl, rfl⟩; exact ⟨ha', hs'⟩
  · rintro ⟨h1, h2⟩; exact ⟨a, h1, s, h2, rfl, rfl⟩

theorem nodup_ops (ok : o.Ok A) (t₂ : Tup) : (ops A o t₂).Nodup := by
  rw [ops, List.Nodup, List.pairwise_flatMap]
  refine ⟨fun a _ => List.pairwise_map.mpr ((nodup_up A t₂ a).imp (fun h e => h (congrArg Prod.snd e))), ok.ndSy.imp ?_⟩
  intro a a' ha x hx y hy e
  obtain ⟨_, _, rfl⟩ := List.mem_map.mp hx
  obtain ⟨_, _, rfl⟩ := List.mem_map.mp hy
  exact ha (congrArg Prod.fst e)

section Counting
variable {α : Type} [BEq α] [LawfulBEq α]

theorem length_filter_remove (P : α → Bool) (x : α) (l : List α) (hnd : l.Nodup) (hx : x ∈ l) :
    (l.filter (fun y => P y && !(y == x))).length + (if P x = true then 1 else 0) = (l.filter P).length := by
  rw [((List.perm_cons_erase hx).filter P).length_eq, List.filter_cons, hnd.erase_eq_filter, List.filter_filter]
  split <;> rfl

end Counting

theorem sum_map_succ {α : Type} [DecidableEq α] (f f' : α → Nat) (x : α) (l : List α) (hnd : l.Nodup) (hx : x ∈ l)
    (hf : ∀ y, y ∈ l → f' y + (if y = x then 1 else 0) = f y) : (l.map f').sum + 1 = (l.map f).sum := by
  have hp := List.perm_cons_erase hx
  have he : ∀ y, y ∈ l.erase x → f' y = f y := fun y hy => by
    obtain ⟨h1, h2⟩ := hnd.mem_erase_iff.mp hy
    rw [← hf y h2, if_neg h1]; rfl
  rw [(hp.map f').sum_nat, (hp.map f).sum_nat, List.map_cons, List.map_cons, List.sum_cons, List.sum_cons,
    List.map_congr_left he, ← hf x hx, if_pos rfl]
  omega

theorem live_erase {T : List Tup} {sim : Rel} {rem : List RemEl} (hI : RemInv T sim rem) {e : RemEl} (he : e ∈ rem)
    (t t' : Tup) : live sim (rem.erase e) t t' = (live sim rem t t' && !((t, t') == e)) := by
  rw [Bool.eq_iff_iff, Bool.and_eq_true, live_iff, live_iff, and_assoc, hI.nd.mem_erase_iff, Bool.not_eq_true',
    beq_eq_false_iff_ne]
  refine and_congr_right (fun _ => ?_)
  constructor
  · rintro (h | ⟨h1, h2⟩)
    · refine ⟨Or.inl h, ?_⟩
      intro e'; subst e'
      rw [(hI.ok _ he).2.2.2] at h; cases h
    · exact ⟨Or.inr h2, h1⟩
  · rintro ⟨h | h, h1⟩
    · exact Or.inl h
    · exact Or.inr ⟨h1, h⟩

theorem live_self {T : List Tup} {sim : Rel} {rem : List RemEl} (hI : RemInv T sim rem) {e : RemEl} (he : e ∈ rem) :
    live sim rem e.1 e.2 = true :=
  live_iff.mpr ⟨(hI.ok _ he).2.2.1, Or.inr he⟩

/-- taking `e` out of "remove" takes the tuple `e.2` out of the live tuples of `e.1`, and changes nothing else -/
theorem live_filter_erase {T : List Tup} (hT : T.Nodup) {sim : Rel} {rem : List RemEl} (hI : RemInv T sim rem) {e : RemEl}
    (he : e ∈ rem) (Q : Tup → Bool) (t : Tup) :
    (T.filter (fun t' => live sim (rem.erase e) t t' && Q t')).length + (if t = e.1 ∧ Q e.2 = true then 1 else 0) =
      (T.filter (fun t' => live sim rem t t' && Q t')).length := by
  by_cases ht : t = e.1
  · subst ht
    rw [← length_filter_remove (fun t' => live sim rem e.1 t' && Q t') e.2 T hT (hI.ok _ he).2.1]
    congr 1
    · congr 1
      apply List.filter_congr
      intro t' _
      rw [live_erase hI he, show (((e.1, t') : RemEl) == e) = (t' == e.2) from by rw [Bool.eq_iff_iff]; simp [Prod.ext_iff],
        Bool.and_right_comm]
    · simp only [live_self hI he, Bool.true_and, true_and]
  · rw [if_neg (fun h => ht h.1), Nat.add_zero]
    congr 1
    apply List.filter_congr
    intro t' _
    rw [live_erase hI he, beq_eq_false_iff_ne.mpr (fun h => ht (congrArg Prod.fst h)), Bool.not_false, Bool.and_true]

theorem cntOf_erase {T : List Tup} (hT : T.Nodup) {sim : Rel} {rem : List RemEl} (hI : RemInv T sim rem)
    {e : RemEl} (he : e ∈ rem) (t : Tup) (a s : Nat) :
    cntOf A T sim (rem.erase e) t a s + (if t = e.1 ∧ (up A e.2 a).contains s = true then 1 else 0) =
      cntOf A T sim rem t a s :=
  live_filter_erase hT hI he (fun t' => (up A t' a).contains s) t

/-- the termination measure: the number of live pairs of tuples -/
def mu (T : List Tup) (sim : Rel) (rem : List RemEl) : Nat :=
  (T.map (fun t => (T.filter (fun t' => live sim rem t t')).length)).sum

theorem mu_congr {T : List Tup} {sim sim' : Rel} {rem rem' : List RemEl}
    (h : ∀ t t', t ∈ T → t' ∈ T → live sim' rem' t t' = live sim rem t t') : mu T sim' rem' = mu T sim rem := by
  unfold mu
  congr 1
  apply List.map_congr_left
  intro t ht
  congr 1
  apply List.filter_congr
  intro t' ht'
  exact h t t' ht ht'

theorem mu_erase {T : List Tup} (hT : T.Nodup) {sim : Rel} {rem : List RemEl} (hI : RemInv T sim rem)
    {e : RemEl} (he : e ∈ rem) : mu T sim (rem.erase e) + 1 = mu T sim rem := by
  apply sum_map_succ _ _ e.1 T hT (hI.ok _ he).1
  intro t _
  simpa only [Bool.and_true, and_true] using live_filter_erase hT hI he (fun _ => true) t

theorem mu_le (T : List Tup) (sim : Rel) (rem : List RemEl) : mu T sim rem ≤ T.length * T.length :=
  sum_map_le _ _ T (fun _ _ => List.length_filter_le _ _)


theorem pick_inv (ok : o.Ok A) {t₀ : Tup} {st : St}
    (hI : Inv A o S t₀ [] st) {e : RemEl} (he : e ∈ st.rem) :
    Inv A o S e.1 (ops A o e.2) ⟨st.sim, st.cnt, st.rem.erase e⟩ := by
  have hrem : RemInv o.T st.sim (st.rem.erase e) :=
    ⟨fun e' he' => hI.rem.ok e' (List.mem_of_mem_erase he'), hI.rem.nd.erase e⟩
  refine ⟨hI.simQ, hrem, ?_, ?_, hI.compl⟩
  · intro t ht a s hs
    rw [hI.cntOk_nil ht a hs, ← cntOf_erase ok.ndT hI.rem he t a s]
    congr 1
    have : (t = e.1 ∧ (a, s) ∈ ops A o e.2) ↔ (t = e.1 ∧ (up A e.2 a).contains s = true) := by
      rw [mem_ops, List.contains_iff_mem]
      constructor
      · rintro ⟨h, _, h'⟩; exact ⟨h, h'⟩
      · rintro ⟨h, h'⟩; exact ⟨h, ok.memSy _ (mem_up.mp h'), h'⟩
    simp only [this]
  · intro t ht a p s hp hps _
    exact hI.pos t ht a p s hp hps (by simp)

theorem refine_inv (ok : o.Ok A) (hS : DownSim A S)
    (hSQ : ∀ q r, S q r → q ∈ o.Q ∧ r ∈ o.Q) {t₀ : Tup} {st : St} (hI : Inv A o S t₀ [] st) {e : RemEl}
    (he : e ∈ st.rem) :
    Inv A o S t₀ [] (refine A o ⟨st.sim, st.cnt, st.rem.erase e⟩ e) ∧
    mu o.T (refine A o ⟨st.sim, st.cnt, st.rem.erase e⟩ e).sim (refine A o ⟨st.sim, st.cnt, st.rem.erase e⟩ e).rem + 1 =
      mu o.T st.sim st.rem := by
  have h0 := pick_inv ok hI he
  obtain ⟨h1, h2⟩ := foldl_procS_inv ok hS hSQ (hI.rem.ok e he).1 _ (nodup_ops ok e.2) _ h0
  refine ⟨inv_nil_irrel h1, ?_⟩
  unfold refine
  rw [mu_congr h2]
  exact mu_erase ok.ndT hI.rem he

theorem getD_mod_mem {α : Type} (l : List α) (i : Nat) (d : α) (h : l.isEmpty = false) : l.getD (i % l.length) d ∈ l := by
  have hi : i % l.length < l.length := Nat.mod_lt _ (List.length_pos_iff.mpr (List.isEmpty_eq_false_iff.mp h))
  rw [List.getD_eq_getElem?_getD, List.getElem?_eq_getElem hi]
  exact List.getElem_mem hi

theorem loop_inv (ok : o.Ok A) (hS : DownSim A S)
    (hSQ : ∀ q r, S q r → q ∈ o.Q ∧ r ∈ o.Q) {t₀ : Tup} : ∀ (fuel k : Nat) (st st' : St), Inv A o S t₀ [] st →
    loop A o fuel k st = some st' → Inv A o S t₀ [] st' ∧ st'.rem = []
  | 0, _, st, st', hI, h => by
    unfold loop at h
    split at h
    · rename_i he
      cases h
      exact ⟨hI, List.isEmpty_iff.mp he⟩
    · cases h
  | fuel+1, k, st, st', hI, h => by
    unfold loop at h
    split at h
    · rename_i he
      cases h
      exact ⟨hI, List.isEmpty_iff.mp he⟩
    · rename_i he
      have hm := getD_mod_mem st.rem (o.ch k) ([], []) (by simpa using he)
      exact loop_inv ok hS hSQ fuel (k+1) _ st' (refine_inv ok hS hSQ hI hm).1 h

theorem loop_total (ok : o.Ok A) (hS : DownSim A S)
    (hSQ : ∀ q r, S q r → q ∈ o.Q ∧ r ∈ o.Q) {t₀ : Tup} : ∀ (fuel k : Nat) (st : St), Inv A o S t₀ [] st →
    mu o.T st.sim st.rem ≤ fuel → ∃ st', loop A o fuel k st = some st'
  | 0, _, st, hI, hmu => by
    unfold loop
    by_cases he : st.rem.isEmpty = true
    · simp [he]
    · exfalso
      have hm := getD_mod_mem st.rem 0 ([], []) (by simpa using he)
      have := mu_erase ok.ndT hI.rem hm
      omega
  | fuel+1, k, st, hI, hmu => by
    unfold loop
    by_cases he : st.rem.isEmpty = true
    · simp [he]
    · simp only [he]
      have hm := getD_mod_mem st.rem (o.ch k) ([], []) (by simpa using he)
      obtain ⟨h1, h2⟩ := refine_inv ok hS hSQ hI hm
      exact loop_total ok hS hSQ fuel (k+1) _ h1 (by omega)


end Refinement

theorem sigOk_iff {A : TA} {q r : Nat} : sigOk A q r = true ↔ ∀ ρ, ρ ∈ A.rules → ρ.parent = q →
    ∃ σ, σ ∈ A.rules ∧ σ.parent = r ∧ σ.sym = ρ.sym ∧ σ.kids.length = ρ.kids.length := by
  simp only [sigOk, List.all_eq_true, Bool.or_eq_true, bne_iff_ne, ne_eq, List.any_eq_true, Bool.and_eq_true,
    beq_iff_eq]
  constructor
  · intro h ρ hρ hp
    rcases h ρ hρ with h1 | ⟨σ, hσ, ⟨h2, h3⟩, h4⟩
    · exact absurd hp h1
    · exact ⟨σ, hσ, h2, h3, h4⟩
  · intro h ρ hρ
    by_cases hp : ρ.parent = q
    · obtain ⟨σ, hσ, h2, h3, h4⟩ := h ρ hρ hp
      exact Or.inr ⟨σ, hσ, ⟨h2, h3⟩, h4⟩
    · exact Or.inl hp

theorem mem_initSim {A : TA} {Q : List Nat} {q r : Nat} :
    (q, r) ∈ initSim A Q ↔ q ∈ Q ∧ r ∈ Q ∧ sigOk A q r = true := by
  simp only [initSim, List.mem_filter, SimModel.mem_allPairs, and_assoc]

theorem mem_initRem {A : TA} {T : List Tup} {Q : List Nat} {e : RemEl} :
    e ∈ initRem A T Q ↔ ∃ q r, q ∈ Q ∧ r ∈ Q ∧ sigOk A q r = false ∧ e ∈ matching T q r := by
  simp only [initRem, mem_unionG, List.not_mem_nil, false_or, List.mem_flatMap, List.mem_filter, Bool.not_eq_true']
  constructor
  · rintro ⟨⟨q, r⟩, ⟨h1, h2⟩, h3⟩
    rw [SimModel.mem_allPairs] at h1
    exact ⟨q, r, h1.1, h1.2, h2, h3⟩
  · rintro ⟨q, r, h1, h2, h3, h4⟩
    exact ⟨(q, r), ⟨SimModel.mem_allPairs.mpr ⟨h1, h2⟩, h3⟩, h4⟩

theorem init_live {A : TA} {o : Order} (ok : o.Ok A) {t t' : Tup} (ht : t ∈ o.T) (ht' : t' ∈ o.T) :
    live (initSim A o.Q) (initRem A o.T o.Q) t t' = (t'.length == t.length) := by
  rw [live, Bool.and_eq_left_iff_imp, beq_iff_eq, Bool.or_eq_true, List.contains_iff_mem]
  intro hl
  by_cases hk : kidsRel (initSim A o.Q) t t' = true
  · exact Or.inl hk
  · right
    obtain ⟨p, s, hm, hps⟩ := exists_matchAt_of_not_kidsRel _ t t' hl (by simpa using hk)
    have hp := ok.comp_mem ht (matchAt_mem hm).1
    have hs := ok.comp_mem ht' (matchAt_mem hm).2
    rw [mem_initRem]
    refine ⟨p, s, hp, hs, ?_, mem_matching.mpr ⟨ht, ht', hl, hm⟩⟩
    cases hc : sigOk A p s
    · rfl
    · exact absurd (mem_initSim.mpr ⟨hp, hs, hc⟩) hps

theorem init_inv {A : TA} {o : Order} (ok : o.Ok A) {S : Nat → Nat → Prop} (hS : DownSim A S)
    (hSQ : ∀ q r, S q r → q ∈ o.Q ∧ r ∈ o.Q) : Inv A o S [] [] (initSt A o) := by
  -- the initial counters count the tuples of the right length, and all of these are live
  have hcnt : ∀ t, t ∈ o.T → ∀ a s, s ∈ o.Q →
      getCnt A o (initSt A o).cnt (t, a, s) = cntOf A o.T (initSt A o).sim (initSt A o).rem t a s := by
    intro t ht a s hs
    simp only [initSt, getCnt, List.lookup_nil, initCnt, List.contains_iff_mem.mpr hs, if_true, cntOf]
    congr 1
    apply List.filter_congr
    intro t' ht'
    rw [init_live ok ht ht']
  refine ⟨?_, ⟨?_, nodup_unionG _ _ List.nodup_nil⟩, ?_, ?_, ?_⟩
  · intro q r h
    have := mem_initSim.mp h
    exact ⟨this.1, this.2.1⟩
  · intro e he
    obtain ⟨q, r, _, _, hsig, hm⟩ := mem_initRem.mp he
    obtain ⟨h1, h2, h3, h4⟩ := mem_matching.mp hm
    refine ⟨h1, h2, h3, not_kidsRel_of_matchAt _ ?_ _ _ h4⟩
    intro hin
    rw [(mem_initSim.mp hin).2.2] at hsig
    cases hsig
  · intro t ht a s hs
    rw [hcnt t ht a s hs, if_neg (fun h => List.not_mem_nil h.2)]
    rfl
  · intro t ht a p s hp hps _
    obtain ⟨_, hsQ, hsig⟩ := mem_initSim.mp hps
    obtain ⟨σ, hσ, h1, h2, h3⟩ := sigOk_iff.mp hsig ⟨a, t, p⟩ (mem_up.mp hp) rfl
    have hs := mem_up_rule hσ
    rw [h1, h2] at hs
    rw [hcnt t ht a s hsQ]
    exact cntOf_pos (ok.kids_mem hσ) ((init_live ok ht (ok.kids_mem hσ)).trans (beq_iff_eq.mpr h3)) hs
  · intro q r hqr
    obtain ⟨hq, hr⟩ := hSQ q r hqr
    refine mem_initSim.mpr ⟨hq, hr, sigOk_iff.mpr ?_⟩
    intro ρ hρ hp
    obtain ⟨σ, hσ, h1, h2, h3⟩ := hS q r hqr ρ hρ hp
    exact ⟨σ, hσ, h1, h2, (all2_length h3).symm⟩

theorem final_downSim {A : TA} {o : Order} (ok : o.Ok A) {S : Nat → Nat → Prop} {t₀ : Tup} {st : St}
    (hI : Inv A o S t₀ [] st) (hr : st.rem = []) : DownSim A (RelOf st.sim) := by
  intro p s hps ρ hρ hp
  have ht := ok.kids_mem hρ
  have h1 := hI.pos ρ.kids ht ρ.sym p s (hp ▸ mem_up_rule hρ) hps (fun h => List.not_mem_nil h.2)
  rw [hI.cntOk_nil ht _ (hI.simQ p s hps).2, cntOf] at h1
  obtain ⟨t', hm⟩ := List.exists_mem_of_length_pos (Nat.pos_of_ne_zero h1)
  simp only [List.mem_filter, Bool.and_eq_true, List.contains_iff_mem, mem_up, live_iff, hr, List.not_mem_nil,
    or_false] at hm
  obtain ⟨_, ⟨_, hk⟩, hσ⟩ := hm
  exact ⟨⟨ρ.sym, t', s⟩, hσ, rfl, rfl, (SimModel.kidsRel_iff _ _ _).mp hk⟩


theorem downSim_false (A : TA) : DownSim A (fun _ _ => False) := fun _ _ h => h.elim

theorem inMatrix_iff {A : TA} {n : Nat} {o : Order} :
    (A.states.all (fun q => decide (q < n)) && o.Q.all (fun q => decide (q < n))) = true ↔
      (∀ q, q ∈ A.states → q < n) ∧ ∀ q, q ∈ o.Q → q < n := by
  simp only [Bool.and_eq_true, List.all_eq_true, decide_eq_true_eq]

theorem bddDownSimOrd_some {A : TA} {n : Nat} {o : Order} {fuel : Nat} {R : Rel}
    (h : bddDownSimOrd A n o fuel = some R) :
    (∀ q, q ∈ A.states → q < n) ∧ (∀ q, q ∈ o.Q → q < n) ∧
      ∃ st, loop A o fuel 0 (initSt A o) = some st ∧ st.sim = R := by
  unfold bddDownSimOrd at h
  split at h
  · rename_i hn
    obtain ⟨st, hl, hR⟩ := Option.map_eq_some_iff.mp h
    exact ⟨(inMatrix_iff.mp hn).1, (inMatrix_iff.mp hn).2, st, hl, hR⟩
  · cases h

/-- For every iteration order (ghost keys allowed) the result is a downward simulation on the automaton, it
relates only states with a top-down entry, and it contains every downward simulation between such states -/
theorem bddDownSimOrd_spec {A : TA} {n : Nat} {o : Order} (ok : o.Ok A) {fuel : Nat} {R : Rel}
    (h : bddDownSimOrd A n o fuel = some R) :
    DownSim A (RelOf R) ∧ (∀ q r, (q, r) ∈ R → q ∈ o.Q ∧ r ∈ o.Q) ∧
    ∀ S : Nat → Nat → Prop, DownSim A S → (∀ q r, S q r → q ∈ o.Q ∧ r ∈ o.Q) → ∀ q r, S q r → (q, r) ∈ R := by
  obtain ⟨_, _, st, hl, rfl⟩ := bddDownSimOrd_some h
  have h0 := loop_inv ok (downSim_false A) (fun _ _ h => h.elim) fuel 0 _ st
    (init_inv ok (downSim_false A) (fun _ _ h => h.elim)) hl
  refine ⟨final_downSim ok h0.1 h0.2, h0.1.simQ, ?_⟩
  intro S hS hSQ q r hqr
  exact (loop_inv ok hS hSQ fuel 0 _ st (init_inv ok hS hSQ) hl).1.compl q r hqr

theorem downSim_restrict {A : TA} {o : Order} (ok : o.Ok A) {S : Nat → Nat → Prop} (hS : DownSim A S) :
    DownSim A (fun q r => q ∈ o.Q ∧ r ∈ o.Q ∧ S q r) := by
  intro q r ⟨_, _, hqr⟩ ρ hρ hp
  obtain ⟨σ, hσ, k1, k2, k3⟩ := hS q r hqr ρ hρ hp
  refine ⟨σ, hσ, k1, k2, k3.mono ?_⟩
  intro a b ha hb hab
  exact ⟨ok.comp_mem (ok.kids_mem hρ) ha, ok.comp_mem (ok.kids_mem hσ) hb, hab⟩

/-- the result exactly, ghost keys allowed: `q` and `r` own a top-down entry and SOME downward simulation of
the automaton relates them -/
theorem bddDownSimOrd_greatest {A : TA} {n : Nat} {o : Order} (ok : o.Ok A) {fuel : Nat} {R : Rel}
    (h : bddDownSimOrd A n o fuel = some R) (q r : Nat) :
    (q, r) ∈ R ↔ q ∈ o.Q ∧ r ∈ o.Q ∧ ∃ S : Nat → Nat → Prop, DownSim A S ∧ S q r := by
  obtain ⟨h1, h2, h3⟩ := bddDownSimOrd_spec ok h
  constructor
  · intro hqr
    exact ⟨(h2 q r hqr).1, (h2 q r hqr).2, RelOf R, h1, hqr⟩
  · rintro ⟨hq, hr, S, hS, hqr⟩
    exact h3 _ (downSim_restrict ok hS) (fun _ _ h => ⟨h.1, h.2.1⟩) q r ⟨hq, hr, hqr⟩

theorem Order.Ok.Q_states {A : TA} {o : Order} (ok : o.Ok A) (ex : o.Exact A) {q : Nat} (hq : q ∈ o.Q) : q ∈ A.states := by
  rcases mem_tdStates.mp ((ok.memQ_tdStates ex.comps q).mp hq) with h | ⟨r, hr, h⟩
  · exact final_mem_states h
  · exact kid_mem_states hr h

/-- the result in terms of the reference: the greatest downward simulation `downSimRef A`, restricted to the states that own a
top-down entry (all of which occur in the automaton: e.g. no ghost keys) -/
theorem bddDownSimOrd_char {A : TA} {n : Nat} {o : Order} (ok : o.Ok A) (hQ : ∀ q, q ∈ o.Q → q ∈ A.states) {fuel : Nat}
    {R : Rel} (h : bddDownSimOrd A n o fuel = some R) (q r : Nat) :
    (q, r) ∈ R ↔ q ∈ o.Q ∧ r ∈ o.Q ∧ (q, r) ∈ downSimRef A := by
  rw [bddDownSimOrd_greatest ok h]
  constructor
  · rintro ⟨hq, hr, S, hS, hqr⟩
    exact ⟨hq, hr, downSimRef_contains A S hS q r (hQ q hq) (hQ r hr) hqr⟩
  · rintro ⟨hq, hr, hqr⟩
    exact ⟨hq, hr, RelOf (downSimRef A), downSimRef_sim A, hqr⟩

/-- the result does not depend on the iteration orders (of the hash containers, of the MTBDD traversal, of the picks
from "remove"), nor on the matrix size or the fuel, nor on ghost keys as long as the set of states with a top-down entry
is the same -/
theorem bddDownSimOrd_order_indep {A : TA} {n n' : Nat} {o o' : Order} (ok : o.Ok A) (ok' : o'.Ok A)
    (hQ : ∀ q, q ∈ o.Q ↔ q ∈ o'.Q) {fuel fuel' : Nat}
    {R R' : Rel} (h : bddDownSimOrd A n o fuel = some R) (h' : bddDownSimOrd A n' o' fuel' = some R') :
    relEq R R' = true := by
  have key : ∀ q r, (q, r) ∈ R ↔ (q, r) ∈ R' := by
    intro q r
    rw [bddDownSimOrd_greatest ok h, bddDownSimOrd_greatest ok' h', hQ, hQ]
  simp only [relEq, Bool.and_eq_true, List.all_eq_true, List.contains_iff_mem]
  exact ⟨fun p hp => (key p.1 p.2).mp hp, fun p hp => (key p.1 p.2).mpr hp⟩

theorem bddDownSimOrd_order_indep_exact {A : TA} {n n' : Nat} {o o' : Order} (ok : o.Ok A) (ok' : o'.Ok A)
    (ex : o.Exact A) (ex' : o'.Exact A) {fuel fuel' : Nat}
    {R R' : Rel} (h : bddDownSimOrd A n o fuel = some R) (h' : bddDownSimOrd A n' o' fuel' = some R') :
    relEq R R' = true :=
  bddDownSimOrd_order_indep ok ok' (fun q => by rw [ok.memQ_tdStates ex.comps, ok'.memQ_tdStates ex'.comps]) h h'

/-- termination: `|table|²` iterations always suffice (every pair of tuples leaves "remove" at most once) -/
theorem bddDownSimOrd_total {A : TA} {n : Nat} {o : Order} (ok : o.Ok A) (hn : ∀ q, q ∈ A.states → q < n)
    (hn' : ∀ q, q ∈ o.Q → q < n) {fuel : Nat}
    (hf : o.T.length * o.T.length ≤ fuel) : ∃ R, bddDownSimOrd A n o fuel = some R := by
  obtain ⟨st, hst⟩ := loop_total ok (downSim_false A) (fun _ _ h => h.elim) fuel 0 _
    (init_inv ok (downSim_false A) (fun _ _ h => h.elim)) (Nat.le_trans (mu_le _ _ _) hf)
  refine ⟨st.sim, ?_⟩
  rw [bddDownSimOrd, if_pos (inMatrix_iff.mpr ⟨hn, hn'⟩), hst]
  rfl

/-- `none` is never a verdict: it means a state outside the matrix, or too little fuel -/
theorem bddDownSimOrd_none {A : TA} {n : Nat} {o : Order} (ok : o.Ok A) {fuel : Nat}
    (hf : o.T.length * o.T.length ≤ fuel) :
    bddDownSimOrd A n o fuel = none ↔ ∃ q, (q ∈ A.states ∨ q ∈ o.Q) ∧ n ≤ q := by
  constructor
  · intro h
    apply Classical.byContradiction
    intro hne
    have hn : ∀ q, (q ∈ A.states ∨ q ∈ o.Q) → q < n := fun q hq => Nat.lt_of_not_le (fun hle => hne ⟨q, hq, hle⟩)
    obtain ⟨R, hR⟩ := bddDownSimOrd_total ok (fun q hq => hn q (Or.inl hq)) (fun q hq => hn q (Or.inr hq)) hf
    rw [h] at hR; cases hR
  · rintro ⟨q, hq, hle⟩
    rw [bddDownSimOrd, if_neg]
    intro h
    exact Nat.not_lt.mpr hle (hq.elim ((inMatrix_iff.mp h).1 q) ((inMatrix_iff.mp h).2 q))


section Bridge
open BddAbs BddAbsTD M

theorem mem_keys_foldl (rs : List Rule) : ∀ (T : Table) (ks : List Nat),
    ks ∈ (rs.foldl (fun T r => addTransition T r.kids r.sym r.parent) T).keys ↔ ks ∈ T.keys ∨ ∃ r, r ∈ rs ∧ r.kids = ks := by
  induction rs with
  | nil => intro T ks; simp
  | cons r rs ih =>
    intro T ks
    rw [List.foldl_cons, ih]
    unfold addTransition addCube
    rw [mem_keys_set]
    simp only [List.mem_cons]
    constructor
    · rintro ((h | h) | ⟨r', hr', h⟩)
      · exact Or.inr ⟨r, Or.inl rfl, h.symm⟩
      · exact Or.inl h
      · exact Or.inr ⟨r', Or.inr hr', h⟩
    · rintro (h | ⟨r', (rfl | hr'), h⟩)
      · exact Or.inl (Or.inr h)
      · exact Or.inl (Or.inl h.symm)
      · exact Or.inr ⟨r', hr', h⟩

/-- `o.T`: the keys of the table that `AddTransition` builds from the rules (`Vata/BddAbs.lean`) -/
theorem tuples_bridge (A : TA) (t : Tup) : t ∈ tuples A ↔ t ∈ (ofRules A.rules).keys := by
  unfold ofRules
  rw [mem_keys_foldl]
  simp only [tuples, mem_unionG, List.mem_singleton, List.mem_map, Table.empty, Table.keys, List.map_nil]

theorem mem_keysTD_foldl (f : TableTD → Nat → MTD) : ∀ (L : List Nat) (R : TableTD) (p : Nat),
    p ∈ keysTD (L.foldl (fun R p => setTD R p (f R p)) R) ↔ p ∈ keysTD R ∨ p ∈ L
  | [], R, p => by simp
  | q :: L, R, p => by
    rw [List.foldl_cons, mem_keysTD_foldl f L, keysTD_setTD, List.mem_cons, or_comm (b := p ∈ keysTD R), or_assoc]

/-- `o.Q`: the states that have an entry in the table computed by the MTBDD-level model of `GetTopDownAut`
(`Vata/BddAbsTD.lean`) from the table of the rules -/
theorem tdStates_bridge (A : TA) (q : Nat) :
    q ∈ tdStates A ↔ q ∈ keysTD (getTopDownAut (ofRules A.rules) A.final) := by
  unfold getTopDownAut
  rw [mem_keysTD_foldl (fun R p => (pairs (ofRules A.rules)).foldl (invertStep p) (getTD R p))]
  simp only [keysTD, List.map_nil, List.not_mem_nil, false_or]
  rw [BddAbsTD.mem_tdStates, mem_tdStates]
  constructor
  · rintro (h | ⟨r, hr, hq⟩)
    · exact Or.inl h
    · exact Or.inr ⟨r.kids, (tuples_bridge A _).mp (mem_tuplesA.mpr (Or.inr ⟨r, hr, rfl⟩)), hq⟩
  · rintro (h | ⟨ks, hks, hq⟩)
    · exact Or.inl h
    · rcases mem_tuplesA.mp ((tuples_bridge A ks).mpr hks) with h | ⟨r, hr, h⟩
      · subst h; cases hq
      · subst h; exact Or.inr ⟨r, hr, hq⟩

/-- `up A t a`: the leaf of `GetMtbdd(t)` at the 16-bit symbol `a` -/
theorem up_bridge (A : TA) (hA : ∀ r, r ∈ A.rules → r.sym < 2 ^ 16) {a : Nat} (ha : a < 2 ^ 16) (t : Tup) (p : Nat) :
    p ∈ up A t a ↔ HasRule (ofRules A.rules) (bits a) t p := by
  rw [mem_up, absBU_ofRules A.rules hA a ha]

end Bridge

/-- `assert(result[s] > 0)` holds whenever `s` owns a top-down entry: the pending slot counts the pair just taken -/
theorem pending_pos {A : TA} {o : Order} {S : Nat → Nat → Prop} {t₁ : Tup} {a s : Nat} {pend : List (Nat × Nat)} {st : St}
    (hI : Inv A o S t₁ ((a, s) :: pend) st) (ht₁ : t₁ ∈ o.T) (hs : s ∈ o.Q) : 0 < getCnt A o st.cnt (t₁, a, s) := by
  rw [hI.cntOk t₁ ht₁ a s hs, if_pos ⟨rfl, List.mem_cons_self⟩]
  omega

/-- the slot of a state without top-down entry is `0`: its first decrement wraps around -/
theorem initCnt_no_entry (A : TA) (T : List Tup) {Q : List Nat} {s : Nat} (hs : s ∉ Q) (k a : Nat) :
    initCnt A T Q k a s = 0 := by
  unfold initCnt
  rw [if_neg]
  intro h
  exact hs (List.contains_iff_mem.mp h)

theorem revOrder_ok {A : TA} (ch : Nat → Nat) : (revOrder A ch).Ok A where
  kidsT := fun r hr => by simp only [revOrder, List.mem_reverse]; exact (stdOrder_ok A).kidsT r hr
  ndT := by simp only [revOrder]; exact (List.reverse_perm _).nodup_iff.mpr (stdOrder_ok A).ndT
  memQ := fun q => by simp only [revOrder, List.mem_reverse]; exact (stdOrder_ok A).memQ q
  memSy := fun r hr => by simp only [revOrder, List.mem_reverse]; exact (stdOrder_ok A).memSy r hr
  ndSy := by simp only [revOrder]; exact (List.reverse_perm _).nodup_iff.mpr (stdOrder_ok A).ndSy

theorem revOrder_exact {A : TA} (ch : Nat → Nat) : (revOrder A ch).Exact A := fun t h => by
  simp only [revOrder, List.mem_reverse] at h
  exact mem_tuplesA.mp h

/-- ghost keys over states that have a top-down entry anyway (as `RemoveUselessStates` leaves them: a key is kept only if
all its states are useful) do not change the result -/
theorem bddDownSimOrd_ghost_indep {A : TA} {n n' : Nat} {o : Order} (ok : o.Ok A)
    (hg : ∀ t, t ∈ o.T → ∀ q, q ∈ t → q ∈ tdStates A) {fuel fuel' : Nat} {R R' : Rel}
    (h : bddDownSimOrd A n o fuel = some R) (h' : bddDownSim A n' fuel' = some R') : relEq R R' = true :=
  bddDownSimOrd_order_indep ok (stdOrder_ok A) (ok.memQ_tdStates hg) h h'

end BddSim

open BddSim

/-- `ComputeDownwardSimulation(n)` returns a downward simulation on the automaton -/
theorem bddDownSim_downSim {A : TA} {n fuel : Nat} {R : Rel} (h : bddDownSim A n fuel = some R) :
    isDownSimB A R = true :=
  (isDownSimB_iff A R).mpr (bddDownSimOrd_spec (stdOrder_ok A) h).1

/-- … namely the greatest one, restricted to the final states and the states that occur as children -/
theorem bddDownSim_char {A : TA} {n fuel : Nat} {R : Rel} (h : bddDownSim A n fuel = some R) (q r : Nat) :
    (q, r) ∈ R ↔ q ∈ tdStates A ∧ r ∈ tdStates A ∧ (q, r) ∈ downSimRef A :=
  bddDownSimOrd_char (stdOrder_ok A) (fun _ hq => (stdOrder_ok A).Q_states (stdOrder_exact A) hq) h q r

theorem bddDownSim_refl {A : TA} {n fuel : Nat} {R : Rel} (h : bddDownSim A n fuel = some R) (q : Nat) :
    (q, q) ∈ R ↔ q ∈ tdStates A := by
  rw [bddDownSim_char h]
  constructor
  · exact fun h => h.1
  · intro hq
    exact ⟨hq, hq, (greatest_downSim_preorder A).1 q ((stdOrder_ok A).Q_states (stdOrder_exact A) hq)⟩

theorem bddDownSim_trans {A : TA} {n fuel : Nat} {R : Rel} (h : bddDownSim A n fuel = some R) {a b c : Nat}
    (hab : (a, b) ∈ R) (hbc : (b, c) ∈ R) : (a, c) ∈ R := by
  rw [bddDownSim_char h] at hab hbc ⊢
  exact ⟨hab.1, hbc.2.1, (greatest_downSim_preorder A).2 a b c hab.2.2 hbc.2.2⟩

/-- a state that is neither final nor a child of a rule (it can only be the parent of rules) is unrelated to every
state, itself included -/
theorem bddDownSim_no_entry {A : TA} {n fuel : Nat} {R : Rel} (h : bddDownSim A n fuel = some R) {q : Nat}
    (hq : q ∉ tdStates A) (r : Nat) : (q, r) ∉ R ∧ (r, q) ∉ R := by
  rw [bddDownSim_char h, bddDownSim_char h]
  exact ⟨fun h => hq h.1, fun h => hq h.2.1⟩

theorem bddDownSim_order_indep {A : TA} {n n' fuel fuel' : Nat} {o : Order} (ok : o.Ok A) (ex : o.Exact A) {R R' : Rel}
    (h : bddDownSim A n fuel = some R) (h' : bddDownSimOrd A n' o fuel' = some R') : relEq R R' = true :=
  bddDownSimOrd_order_indep_exact (stdOrder_ok A) ok (stdOrder_exact A) ex h h'

theorem bddDownSim_total {A : TA} {n fuel : Nat} (hn : ∀ q, q ∈ A.states → q < n) (hf : fuelBound A ≤ fuel) :
    ∃ R, bddDownSim A n fuel = some R :=
  bddDownSimOrd_total (stdOrder_ok A) hn
    (fun q hq => hn q ((stdOrder_ok A).Q_states (stdOrder_exact A) hq)) hf

theorem bddDownSim_none {A : TA} {n fuel : Nat} (hf : fuelBound A ≤ fuel) :
    bddDownSim A n fuel = none ↔ ∃ q, q ∈ A.states ∧ n ≤ q := by
  unfold bddDownSim
  rw [bddDownSimOrd_none (stdOrder_ok A) hf]
  constructor
  · rintro ⟨q, hq | hq, hle⟩
    · exact ⟨q, hq, hle⟩
    · exact ⟨q, (stdOrder_ok A).Q_states (stdOrder_exact A) hq, hle⟩
  · rintro ⟨q, hq, hle⟩
    exact ⟨q, Or.inl hq, hle⟩

/-- on an automaton all of whose states are final or children (e.g. without useless states) the result is the
greatest downward simulation -/
theorem bddDownSim_eq_downSimRef {A : TA} {n fuel : Nat} {R : Rel} (h : bddDownSim A n fuel = some R)
    (hA : ∀ q, q ∈ A.states → q ∈ tdStates A) : relEq R (downSimRef A) = true := by
  simp only [relEq, Bool.and_eq_true, List.all_eq_true, List.contains_iff_mem]
  refine ⟨fun p hp => ((bddDownSim_char h p.1 p.2).mp hp).2.2, fun p hp => ?_⟩
  have := downSimRef_sub A (q := p.1) (r := p.2) hp
  exact (bddDownSim_char h p.1 p.2).mpr ⟨hA _ this.1, hA _ this.2, hp⟩


namespace BddSimEx

/-- leaves `0 ≤ 1` (strictly), `2 = u(0)`, `3 = u(1)`: `(3, 2)` passes the initial test and is cut by the refinement; the
cut cascades to `(5, 4)` (`4 = f(2)`, `5 = f(3)`, both final); `6 = u(1)` is only a parent: no top-down entry, and the
pair of tuples `([2], [1])` makes its counter wrap -/
def exB : TA := ⟨[⟨0, [], 0⟩, ⟨0, [], 1⟩, ⟨1, [], 1⟩, ⟨2, [0], 2⟩, ⟨2, [1], 3⟩, ⟨3, [2], 4⟩, ⟨3, [3], 5⟩, ⟨2, [1], 6⟩], [4, 5]⟩

def exR : Rel := [(0, 0), (0, 1), (1, 1), (2, 2), (2, 3), (3, 3), (4, 4), (4, 5), (5, 5)]

theorem exB_run : (bddDownSim exB 7 (fuelBound exB)).map (fun R => relEq R exR) = some true := by decide +kernel

-- the initial relation is strictly bigger: the loop does cut
example : (initSim exB (tdStates exB)).length = 11 ∧ exR.length = 9 := by decide +kernel
-- state 6 has no top-down entry; the states are below 7; `fuelBound` is the square of the number of tuples
example : tdStates exB = [4, 5, 0, 1, 2, 3] ∧ fuelBound exB = 25 := by decide +kernel
example : ∀ q, q ∈ exB.states → q < 7 := by decide +kernel
example : bddDownSim exB 6 (fuelBound exB) = none := by decide +kernel
-- a second order gives the same relation (`bddDownSim_order_indep` with `revOrder_ok`)
theorem exB_revRun : (bddDownSimOrd exB 9 (revOrder exB (fun k => 7 * k + 3)) 30).map (fun R => relEq R exR) = some true := by
  decide +kernel

example : (bddDownSimOrd exB 9 (revOrder exB (fun k => 7 * k + 3)) 30).map (fun R => relEq R exR) = some true := exB_revRun
theorem exB_ref : downSimRef exB =
    [(0, 0), (0, 1), (1, 1), (2, 2), (2, 3), (2, 6), (3, 3), (3, 6), (4, 4), (4, 5), (5, 5), (6, 3), (6, 6)] := by
  decide +kernel

example : isDownSimB exB exR = true ∧ relEq exR ((downSimRef exB).filter (fun p => p.1 != 6 && p.2 != 6)) = true := by
  rw [exB_ref]
  decide +kernel
-- the greatest simulation itself relates 6 (to itself, to 3 and 3 to it): the code does not
example : (6, 6) ∈ downSimRef exB ∧ (3, 6) ∈ downSimRef exB ∧ (6, 3) ∈ downSimRef exB := by
  rw [exB_ref]
  decide

end BddSimEx

end Vata
