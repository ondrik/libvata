import Vata.Proofs.LoadDump
import Vata.Lang
/-!
# C19 (continued) – registering symbols / states in another order, and the dumped-and-reloaded form

> … adding their rules in a different order, or registering the symbols in a different order never changes an inclusion
> or emptiness verdict … and A is equivalent to its reduced, trimmed, re-indexed and dumped-and-reloaded forms.

`C19.lean` proves the invariance for an *assumed* renumbering (`reindex f` with `InjOnStates`, `translateSymbols g` with
an injective `g`).  Here the renumberings are *derived* from the model of the loader (`Vata/LoadDump.lean`): the order in
which a description lists its symbols, final states and transitions determines the numbers that `LoadFromAutDesc` hands
out, and two orders give numberings related by bijections; and the automaton obtained by `DumpToString` followed by
`LoadFromString` is the original with its states renumbered injectively, hence has the same language (`LangEq`).
(Explicit tree automaton encoding; see `C13_LoadDump.lean` for how the load and the dump are modelled.)
-/
namespace Vata.Props
open Vata.Timbuk Vata.LoadDump

/-- **registering in another order.**  Two descriptions with the same sets of symbols, final states and transitions
(e.g. one a permutation of the other), loaded on fresh state dictionaries from the same alphabet state: there are a
bijection `h` of the state numbers and a bijection `g` of the symbol numbers, translating the first numbering to the
second name by name, such that the second automaton is the `h`,`g`-image of the first (as sets of rules and final
states) and accepts exactly the `g`-renamed trees of the first. -/
theorem C19_load_order_invariance (d₁ d₂ : AutDesc) (yd : SymDict) (hyd : yd.Ok) (hs : d₁.symbols ≈ d₂.symbols)
    (hf : d₁.final ≈ d₂.final) (ht : d₁.trans ≈ d₂.trans) :
    ∃ A₁ sd₁ yd₁ A₂ sd₂ yd₂ h g, loadTA d₁ [] yd = .ok (A₁, sd₁, yd₁) ∧ loadTA d₂ [] yd = .ok (A₂, sd₂, yd₂) ∧
      (Function.Injective h ∧ Function.Surjective h) ∧ (Function.Injective g ∧ Function.Surjective g) ∧
      (∀ q, q ∈ sd₁.keys → h (sd₁.get q) = sd₂.get q) ∧ (∀ k, k ∈ yd₁.keys → g (yd₁.get k) = yd₂.get k) ∧
      (∀ r, r ∈ A₂.rules ↔ r ∈ (translateSymbols g (reindex h A₁)).rules) ∧
      (∀ q, q ∈ A₂.final ↔ q ∈ (translateSymbols g (reindex h A₁)).final) ∧
      ∀ t, accepts A₂ (t.mapSyms g) = accepts A₁ t :=
  load_lang_perm d₁ d₂ yd hyd hs hf ht

/-- `exE` and `exE'` list the same things in different orders; the loads number both states and symbols differently -/
example : TimbukEx.exE.symbols ≈ LoadDumpEx.exE'.symbols ∧ TimbukEx.exE.final ≈ LoadDumpEx.exE'.final ∧
    TimbukEx.exE.trans ≈ LoadDumpEx.exE'.trans := LoadDumpEx.exE_exE'
example : (∃ A, loadTA TimbukEx.exE [] [] = .ok (A, [("r", 0), ("q", 1)], [(("a", 0), 0), (("f", 2), 1)])) ∧
    (∃ A, loadTA LoadDumpEx.exE' [] [] = .ok (A, [("q", 0), ("r", 1)], [(("f", 2), 0), (("a", 0), 1)])) :=
  ⟨⟨_, rfl⟩, ⟨_, rfl⟩⟩

/-- consequently the emptiness verdict is the same for the two loads (every tree is the `g`-image of a tree) -/
theorem C19_load_order_emptiness (d₁ d₂ : AutDesc) (yd : SymDict) (hyd : yd.Ok) (hs : d₁.symbols ≈ d₂.symbols)
    (hf : d₁.final ≈ d₂.final) (ht : d₁.trans ≈ d₂.trans) :
    ∃ A₁ sd₁ yd₁ A₂ sd₂ yd₂, loadTA d₁ [] yd = .ok (A₁, sd₁, yd₁) ∧ loadTA d₂ [] yd = .ok (A₂, sd₂, yd₂) ∧
      (LangEmpty A₁ ↔ LangEmpty A₂) := by
  obtain ⟨A₁, sd₁, yd₁, A₂, sd₂, yd₂, h, g, l1, l2, _, ⟨_, gs⟩, _, _, _, _, hl⟩ := load_lang_perm d₁ d₂ yd hyd hs hf ht
  refine ⟨A₁, sd₁, yd₁, A₂, sd₂, yd₂, l1, l2, ?_, ?_⟩
  · intro he t
    obtain ⟨t', ht'⟩ := mapSyms_surjective g gs t
    rw [← ht', hl]; exact he t'
  · intro he t
    rw [← hl]; exact he _

example : LoadDumpEx.ydUsed.Ok := LoadDumpEx.ydUsed_ok

/-- **dumped-and-reloaded form.**  For an automaton whose dictionaries name its states injectively and contain its symbols
with their ranks (`Dumpable`; the alphabet in the state the library keeps it, `yd.Ok`): the dump succeeds, loading it again
(fresh state dictionary, the same alphabet) succeeds, and the reloaded automaton is language-equivalent to the
original. -/
theorem C19_dump_reload_equivalent (A : TA) (sd : StateDict) (yd : SymDict) (hyd : yd.Ok) (hD : Dumpable A sd yd) :
    ∃ d₁ A' sd' yd', dumpTA A sd yd = .ok d₁ ∧ loadTA d₁ [] yd = .ok (A', sd', yd') ∧ LangEq A' A :=
  dump_reload_lang A sd yd hyd hD

example : LoadDumpEx.exYd.Ok ∧ Dumpable LoadDumpEx.exA LoadDumpEx.exSd LoadDumpEx.exYd :=
  ⟨LoadDumpEx.exYd_ok, LoadDumpEx.exA_dumpable⟩

/-- the same through the text (`DumpToString`, `LoadFromString`) when the names are good -/
theorem C19_dump_reload_text_equivalent (A : TA) (sd : StateDict) (yd : SymDict) (hyd : yd.Ok) (hD : Dumpable A sd yd)
    (hwf : (dumpOf (A.final.map (nameOf sd)) (A.rules.map (namedRule sd yd))).WellFormed) :
    ∃ txt A' sd' yd', dumpString A sd yd = .ok txt ∧ loadString txt [] yd = .ok (A', sd', yd') ∧ LangEq A' A :=
  dump_reload_text_lang A sd yd hyd hD hwf

example : (dumpOf (LoadDumpEx.exA.final.map (nameOf LoadDumpEx.exSd))
    (LoadDumpEx.exA.rules.map (namedRule LoadDumpEx.exSd LoadDumpEx.exYd))).WellFormed := by decide +kernel

/-- for automata that were loaded nothing has to be assumed about the dictionaries: load a well-formed description (any
alphabet in use), dump to text, load the text again – the two automata are language-equivalent -/
theorem C19_load_dump_reload_equivalent (d : AutDesc) (yd : SymDict) (hyd : yd.Ok) (hwf : d.WellFormed) :
    ∃ A sd yd' txt A' sd' yd'', loadTA d [] yd = .ok (A, sd, yd') ∧ dumpString A sd yd' = .ok txt ∧
      loadString txt [] yd' = .ok (A', sd', yd'') ∧ LangEq A' A :=
  load_dump_reload_lang d yd hyd hwf

example : LoadDumpEx.ydUsed.Ok ∧ TimbukEx.exD.WellFormed := ⟨LoadDumpEx.ydUsed_ok, by decide +kernel⟩

/-!
## which "not yet proved" items of `C19.lean` this file closes

* **Dumped-and-reloaded form**: now a `LangEq` between tree automata (`C19_dump_reload_equivalent`,
  `C19_dump_reload_text_equivalent`, `C19_load_dump_reload_equivalent`) for the explicit tree automaton encoding; the
  reload is on a fresh state dictionary (a pre-filled one is unsafe, `C13_prefilled_state_dictionary_clash`) and on the
  same alphabet, as in the library where the alphabet is shared.
* in addition, "registering the symbols in a different order" is no longer an assumed injective map but derived from the
  loader (`C19_load_order_invariance`).
* still open here: the other encodings; the `Dumpable` hypothesis for the results of the operations (e.g. that the state
  dictionary the command-line tool builds for a union or an intersection names the result's states injectively).
-/
end Vata.Props
