import Vata.Proofs.LtsUtilSC
/-!
# The key layout of `SimulationEngine::init` (`key_`, `labelMap_`) as coded, and what `copyLabels` copies

`SC.mkLayout rowSize states delta1` is the loop "build counter maps" of `SimulationEngine::init`.  For sets `delta1[a]`
without duplicates and with states `< states` the key indices are consecutive, label after label: the `j`-th state of
`delta1[a]` gets `off a + j` (`off a` = the number of keyed pairs of the labels before `a`), and `labelMap_[a]` is the range of
rows these indices fall in, `(off a / rowSize, (off a + n - 1) / rowSize + 1)` – at a row boundary (`off a + n` a multiple
of `rowSize`) just as well.  Hence `copyLabels(labels, parent)` copies the row of every keyed pair of every label of
`labels` (provided the parent has the rows of that label): the new block starts with the parent's counters for its inset.
-/
namespace Vata.LU.SC.Layout

/-- the inner loop: `key_[a * states + q] = x++` for `q ∈ delta1[a]` -/
def inner (a states : Nat) (d : List Nat) (key : List Nat) (x : Nat) : List Nat × Nat :=
  d.foldl (fun (kx : List Nat × Nat) q => (kx.1.set (a * states + q) kx.2, kx.2 + 1)) (key, x)

theorem inner_nil (a states : Nat) (key : List Nat) (x : Nat) : inner a states [] key x = (key, x) := rfl

theorem inner_cons (a states q : Nat) (r : List Nat) (key : List Nat) (x : Nat) :
    inner a states (q :: r) key x = inner a states r (key.set (a * states + q) x) (x + 1) := rfl

theorem inner_snd (a states : Nat) (d : List Nat) (key : List Nat) (x : Nat) : (inner a states d key x).2 = x + d.length := by
  induction d generalizing key x with
  | nil => rfl
  | cons q r ih => rw [inner_cons, ih]; simp; omega

theorem inner_length (a states : Nat) (d : List Nat) (key : List Nat) (x : Nat) :
    (inner a states d key x).1.length = key.length := by
  induction d generalizing key x with
  | nil => rfl
  | cons q r ih => rw [inner_cons, ih]; simp

theorem inner_other (a states : Nat) (d : List Nat) (key : List Nat) (x p : Nat) (hp : ∀ q ∈ d, p ≠ a * states + q) :
    (inner a states d key x).1.getD p 0 = key.getD p 0 := by
  induction d generalizing key x with
  | nil => rfl
  | cons q r ih =>
    rw [inner_cons, ih _ _ (fun q' hq' => hp q' (List.mem_cons_of_mem _ hq'))]
    have : a * states + q ≠ p := fun e => hp q List.mem_cons_self e.symm
    simp [List.getD_eq_getElem?_getD, this]

theorem inner_written (a states : Nat) (d : List Nat) (key : List Nat) (x j : Nat) (hnd : d.Nodup) (hj : j < d.length)
    (hb : a * states + d.getD j 0 < key.length) :
    (inner a states d key x).1.getD (a * states + d.getD j 0) 0 = x + j := by
  induction d generalizing key x j with
  | nil => cases hj
  | cons q r ih =>
    rw [inner_cons]
    have hnd' := List.nodup_cons.1 hnd
    cases j with
    | zero =>
      simp only [List.getD_cons_zero]
      rw [inner_other]
      · simp only [List.getD_cons_zero] at hb
        simp [List.getD_eq_getElem?_getD, hb]
      · intro q' hq' e
        have : q = q' := by omega
        exact hnd'.1 (this ▸ hq')
    | succ j =>
      simp only [List.getD_cons_succ] at hb ⊢
      have hj' : j < r.length := by simpa using hj
      rw [ih _ _ _ hnd'.2 hj' (by simpa using hb)]
      omega

abbrev St := List Nat × List (Nat × Nat) × Nat × Nat

/-- the body of the outer loop (label `a = st.2.2.2`, running index `x = st.2.2.1`) -/
def outer (rowSize states : Nat) (st : St) (d : List Nat) : St :=
  ((inner st.2.2.2 states d st.1 st.2.2.1).1,
   st.2.1 ++ [(st.2.2.1 / rowSize,
     ((st.2.2.1 + d.length + (2 ^ 64 - 1)) % 2 ^ 64) / rowSize + (if d.length > 0 then 1 else 0))],
   (inner st.2.2.2 states d st.1 st.2.2.1).2, st.2.2.2 + 1)

theorem mkLayout_eq (rowSize states : Nat) (delta1 : List (List Nat)) :
    mkLayout rowSize states delta1 =
      ((delta1.foldl (outer rowSize states) (List.replicate (delta1.length * states) (2 ^ 64 - 1), [], 0, 0)).1,
       (delta1.foldl (outer rowSize states) (List.replicate (delta1.length * states) (2 ^ 64 - 1), [], 0, 0)).2.1) := rfl

def off (delta1 : List (List Nat)) (a : Nat) : Nat := ((delta1.take a).map List.length).sum

theorem off_succ (delta1 : List (List Nat)) (a : Nat) (ha : a < delta1.length) :
    off delta1 (a + 1) = off delta1 a + (delta1.getD a []).length := by
  unfold off
  rw [List.take_add_one, List.map_append, List.sum_append]
  simp [List.getD_eq_getElem?_getD, List.getElem?_eq_getElem ha]

structure OInv (rowSize states : Nat) (delta1 : List (List Nat)) (a : Nat) (st : St) : Prop where
  len : st.1.length = delta1.length * states
  lmLen : st.2.1.length = a
  xEq : st.2.2.1 = off delta1 a
  aEq : st.2.2.2 = a
  keyed : ∀ b j, b < a → j < (delta1.getD b []).length →
    st.1.getD (b * states + (delta1.getD b []).getD j 0) 0 = off delta1 b + j
  lm : ∀ b, b < a → st.2.1.getD b (0, 0) =
    (off delta1 b / rowSize,
     ((off delta1 b + (delta1.getD b []).length + (2 ^ 64 - 1)) % 2 ^ 64) / rowSize +
       (if (delta1.getD b []).length > 0 then 1 else 0))
  rest : ∀ p, a * states ≤ p → st.1.getD p 0 = (List.replicate (delta1.length * states) (2 ^ 64 - 1)).getD p 0

theorem mul_add_lt {a b states q : Nat} (hab : a < b) (hq : q < states) : a * states + q < b * states :=
  P.idx_lt hq hab

/-- the inner loop of label `a` writes only inside the block `[a * states, (a + 1) * states)` -/
theorem inner_outside {a states : Nat} {d : List Nat} (hlt : ∀ q ∈ d, q < states) (key : List Nat) (x : Nat) {p : Nat}
    (hp : p < a * states ∨ (a + 1) * states ≤ p) : (inner a states d key x).1.getD p 0 = key.getD p 0 :=
  inner_other a states d key x p fun q hq e => by
    have := mul_add_lt (Nat.lt_add_one a) (hlt q hq)
    omega

theorem oinv_step {rowSize states : Nat} {delta1 : List (List Nat)} {a : Nat} {st : St}
    (hd : ∀ d ∈ delta1, d.Nodup ∧ ∀ q ∈ d, q < states) (ha : a < delta1.length)
    (h : OInv rowSize states delta1 a st) : OInv rowSize states delta1 (a + 1) (outer rowSize states st (delta1.getD a [])) := by
  obtain ⟨hnd, hlt⟩ := hd _ (getD_mem [] _ _ ha)
  have hA := h.aEq
  have hX := h.xEq
  refine ⟨?_, ?_, ?_, ?_, ?_, ?_, ?_⟩
  · simp only [outer]; rw [inner_length]; exact h.len
  · simp [outer, h.lmLen]
  · simp only [outer]; rw [inner_snd, hX, off_succ _ _ ha]
  · simp [outer, hA]
  · intro b j hb hj
    simp only [outer]
    rcases Nat.lt_succ_iff_lt_or_eq.1 hb with hb' | rfl
    · rw [inner_outside hlt, h.keyed b j hb' hj]
      rw [hA]
      exact Or.inl (mul_add_lt hb' ((hd _ (getD_mem [] _ _ (Nat.lt_trans hb' ha))).2 _ (getD_mem 0 _ _ hj)))
    · rw [hA, hX]
      apply inner_written _ _ _ _ _ _ hnd hj
      rw [h.len]
      exact mul_add_lt ha (hlt _ (getD_mem 0 _ _ hj))
  · intro b hb
    simp only [outer]
    rcases Nat.lt_succ_iff_lt_or_eq.1 hb with hb' | rfl
    · rw [getD_concat_of_lt _ _ _ (h.lmLen.symm ▸ hb')]
      exact h.lm b hb'
    · rw [getD_concat, if_pos h.lmLen.symm, hX]
  · intro p hp
    simp only [outer]
    rw [inner_outside hlt _ _ (Or.inr (hA ▸ hp))]
    exact h.rest p (Nat.le_trans (Nat.mul_le_mul_right _ (Nat.le_succ a)) hp)

theorem oinv_fold {rowSize states : Nat} {delta1 : List (List Nat)}
    (hd : ∀ d ∈ delta1, d.Nodup ∧ ∀ q ∈ d, q < states) (k : Nat) (hk : k ≤ delta1.length) :
    ∀ (a : Nat) (st : St), a + k = delta1.length → OInv rowSize states delta1 a st →
      OInv rowSize states delta1 delta1.length ((delta1.drop a).foldl (outer rowSize states) st) := by
  induction k with
  | zero =>
    intro a st hak h
    have : a = delta1.length := by omega
    subst this
    simpa using h
  | succ k ih =>
    intro a st hak h
    have ha : a < delta1.length := by omega
    have hdrop : delta1.drop a = delta1.getD a [] :: delta1.drop (a + 1) := by
      rw [List.drop_eq_getElem_cons ha]
      simp [List.getD_eq_getElem?_getD, List.getElem?_eq_getElem ha]
    rw [hdrop, List.foldl_cons]
    exact ih (by omega) (a + 1) _ (by omega) (oinv_step hd ha h)

theorem oinv_init (rowSize states : Nat) (delta1 : List (List Nat)) :
    OInv rowSize states delta1 0 (List.replicate (delta1.length * states) (2 ^ 64 - 1), [], 0, 0) :=
  ⟨by simp, rfl, rfl, rfl, fun _ _ hb => absurd hb (Nat.not_lt_zero _), fun _ hb => absurd hb (Nat.not_lt_zero _),
    fun _ _ => rfl⟩

theorem oinv_final {rowSize states : Nat} {delta1 : List (List Nat)}
    (hd : ∀ d ∈ delta1, d.Nodup ∧ ∀ q ∈ d, q < states) :
    OInv rowSize states delta1 delta1.length
      (delta1.foldl (outer rowSize states) (List.replicate (delta1.length * states) (2 ^ 64 - 1), [], 0, 0)) := by
  have := oinv_fold (rowSize := rowSize) hd delta1.length (Nat.le_refl _) 0 _ (by omega) (oinv_init rowSize states delta1)
  simpa using this

theorem layout_key {rowSize states : Nat} {delta1 : List (List Nat)}
    (hd : ∀ d ∈ delta1, d.Nodup ∧ ∀ q ∈ d, q < states) {a j : Nat} (ha : a < delta1.length)
    (hj : j < (delta1.getD a []).length) :
    (mkLayout rowSize states delta1).1.getD (a * states + (delta1.getD a []).getD j 0) 0 = off delta1 a + j := by
  rw [mkLayout_eq]; exact (oinv_final hd).keyed a j ha hj

theorem layout_key_length (rowSize states : Nat) {delta1 : List (List Nat)}
    (hd : ∀ d ∈ delta1, d.Nodup ∧ ∀ q ∈ d, q < states) :
    (mkLayout rowSize states delta1).1.length = delta1.length * states := by
  rw [mkLayout_eq]; exact (oinv_final hd).len

theorem layout_labelMap {rowSize states : Nat} {delta1 : List (List Nat)}
    (hd : ∀ d ∈ delta1, d.Nodup ∧ ∀ q ∈ d, q < states) {a : Nat} (ha : a < delta1.length) :
    (mkLayout rowSize states delta1).2.getD a (0, 0) =
      (off delta1 a / rowSize,
       ((off delta1 a + (delta1.getD a []).length + (2 ^ 64 - 1)) % 2 ^ 64) / rowSize +
         (if (delta1.getD a []).length > 0 then 1 else 0)) := by
  rw [mkLayout_eq]; exact (oinv_final hd).lm a ha

theorem layout_labelMap_length {rowSize states : Nat} {delta1 : List (List Nat)}
    (hd : ∀ d ∈ delta1, d.Nodup ∧ ∀ q ∈ d, q < states) :
    (mkLayout rowSize states delta1).2.length = delta1.length := by
  rw [mkLayout_eq]; exact (oinv_final hd).lmLen

/-- `x + N - 1` on `size_t` (`N = 2^64`) is `x - 1` for `0 < x < N` -/
theorem add_pred_mod {x N : Nat} (h1 : 0 < x) (h2 : x < N) : (x + (N - 1)) % N = x - 1 := by
  rw [show x + (N - 1) = (x - 1) + N by omega, Nat.add_mod_right, Nat.mod_eq_of_lt (by omega)]

/-- the row of every keyed pair of label `a` lies inside the row range of the label (no wrap below `2^64` pairs) -/
theorem layout_row_in_range {rowSize states : Nat} {delta1 : List (List Nat)}
    (hd : ∀ d ∈ delta1, d.Nodup ∧ ∀ q ∈ d, q < states) {a j : Nat} (ha : a < delta1.length)
    (hj : j < (delta1.getD a []).length) (hsmall : off delta1 a + (delta1.getD a []).length < 2 ^ 64) :
    ((mkLayout rowSize states delta1).2.getD a (0, 0)).1 ≤ (off delta1 a + j) / rowSize ∧
      (off delta1 a + j) / rowSize < ((mkLayout rowSize states delta1).2.getD a (0, 0)).2 := by
  rw [layout_labelMap hd ha]
  have hn : (delta1.getD a []).length > 0 := by omega
  simp only [hn, if_true]
  constructor
  · exact Nat.div_le_div_right (Nat.le_add_right _ _)
  · rw [add_pred_mod (Nat.lt_of_lt_of_le hn (Nat.le_add_left ..)) hsmall]
    exact Nat.lt_succ_of_le (Nat.div_le_div_right (Nat.le_sub_one_of_lt (Nat.add_lt_add_left hj _)))

theorem copiedRows_covers {rowSize states poison : Nat} {delta1 : List (List Nat)}
    (hd : ∀ d ∈ delta1, d.Nodup ∧ ∀ q ∈ d, q < states) {labels : List Nat} {a j srcRows : Nat}
    (hal : a ∈ labels) (ha : a < delta1.length) (hj : j < (delta1.getD a []).length)
    (hsmall : off delta1 a + (delta1.getD a []).length < 2 ^ 64)
    (hrows : (((mkCfg rowSize states poison delta1).labelMap).getD a (0, 0)).2 ≤ srcRows) :
    (off delta1 a + j) / rowSize ∈ copiedRows (mkCfg rowSize states poison delta1) labels srcRows := by
  have hr := layout_row_in_range (rowSize := rowSize) hd ha hj hsmall
  have hlen : a < (mkLayout rowSize states delta1).2.length := by rw [layout_labelMap_length hd]; exact ha
  refine (P.mem_copiedRows _ labels srcRows _).2 ⟨Nat.lt_of_lt_of_le hr.2 hrows, a, hal, _, ?_, hr⟩
  show (mkLayout rowSize states delta1).2[a]? = some _
  rw [List.getD_eq_getElem?_getD, List.getElem?_eq_getElem hlen]; rfl

theorem aStep_copyLabels_shape (cfg : Cfg) (aw : AWorld) (i j : Nat) (labels : List Nat) (s : A)
    (hs : aw.getD j none = some s) (hrs : 0 < cfg.rowSize) :
    ∃ child : A, aStep cfg aw (.copyLabels i j labels) = aw.set i (some child) ∧
      child.val.length = child.rows * cfg.rowSize ∧ child.phase = .running ∧
      ∀ idx, idx / cfg.rowSize ∈ copiedRows cfg labels s.rows → child.at idx = s.at idx ∧ idx < child.rows * cfg.rowSize := by
  simp only [aStep, hs]
  refine ⟨_, rfl, by simp only [List.length_map, List.length_range], rfl, fun idx hrow => ?_⟩
  have hlt : idx < (copiedRows cfg labels s.rows).foldl (fun m r => max m (r + 1)) 0 * cfg.rowSize :=
    (Nat.div_lt_iff_lt_mul hrs).1 (le_foldl_max (fun r => r + 1) hrow 0)
  refine ⟨?_, hlt⟩
  simp [A.at, List.getD_eq_getElem?_getD, hlt, hrow]

theorem aStep_copyLabels_at (cfg : Cfg) (aw : AWorld) (i j : Nat) (labels : List Nat) (s : A) (idx : Nat)
    (hi : i < aw.length) (hs : aw.getD j none = some s) (hrs : 0 < cfg.rowSize)
    (hrow : idx / cfg.rowSize ∈ copiedRows cfg labels s.rows) :
    ∃ child, (aStep cfg aw (.copyLabels i j labels)).getD i none = some child ∧ child.at idx = s.at idx ∧
      idx < child.rows * cfg.rowSize ∧ child.phase = .running := by
  obtain ⟨child, h, _, hph, hat⟩ := aStep_copyLabels_shape cfg aw i j labels s hs hrs
  exact ⟨child, by rw [h]; exact getD_set_self hi .., (hat idx hrow).1, (hat idx hrow).2, hph⟩

/-- 70 keyed pairs of one label with 31 counters per row: rows 0, 1, 2; the boundary entries 30|31 and 61|62 -/
example : (mkLayout 31 70 [List.range 70]).2 = [(0, 3)] ∧
    ((mkLayout 31 70 [List.range 70]).1.getD 30 0 / 31, (mkLayout 31 70 [List.range 70]).1.getD 31 0 / 31,
     (mkLayout 31 70 [List.range 70]).1.getD 61 0 / 31, (mkLayout 31 70 [List.range 70]).1.getD 62 0 / 31) = (0, 1, 1, 2) := by
  decide +kernel

/-- a label that ends exactly at a row boundary (31 pairs, 31 per row) occupies one row, the next label starts a new one -/
example : (mkLayout 31 31 [List.range 31, [0, 5]]).2 = [(0, 1), (1, 2)] := by decide +kernel

end Vata.LU.SC.Layout
