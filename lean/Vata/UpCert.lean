import Vata.Trim
/-! The antichain principle (soundness of upward certificates): a set `X` of pairs (state of `A`, macro-state of `B`) that is
closed under the post-image of the rules of `A` up to subsumption (`UpCert`) covers every tree (`Cover`: every state of `A`
that labels `t` is paired with a subset of the states of `B` that label `t`); with no bad pair this gives `L(A) ⊆ L(B)`. -/
namespace Vata

def UpCert (A B : TA) (X : List (Nat × List Nat)) : Prop :=
  ∀ ρ, ρ ∈ A.rules → ∀ Ss : List (List Nat), All2 (fun k S => (k, S) ∈ X) ρ.kids Ss →
    ∃ S', (ρ.parent, S') ∈ X ∧ ∀ s, s ∈ S' → s ∈ post B ρ.sym Ss

theorem post_mono (B : TA) (f : Nat) {ss ss' : List (List Nat)}
    (h : All2 (fun s s' => ∀ q, q ∈ s → q ∈ s') ss ss') : ∀ q, q ∈ post B f ss → q ∈ post B f ss' := by
  intro q
  rw [mem_post', mem_post']
  rintro ⟨r, hr, hs, hm, hp⟩
  exact ⟨r, hr, hs, matchKids_mono h hm, hp⟩

def Cover (A B : TA) (X : List (Nat × List Nat)) (t : Tree) : Prop :=
  ∀ q, q ∈ reach A t → ∃ S, (q, S) ∈ X ∧ ∀ s, s ∈ S → s ∈ reach B t

/-- choose covering macro-states for matched children -/
theorem cover_kids (A B : TA) (X : List (Nat × List Nat)) (ts : List Tree) (hc : ∀ t, t ∈ ts → Cover A B X t)
    (ks : List Nat) (h : matchKids ks (reachL A ts) = true) :
    ∃ Ss : List (List Nat), All2 (fun k S => (k, S) ∈ X) ks Ss ∧
      All2 (fun s s' => ∀ q, q ∈ s → q ∈ s') Ss (reachL B ts) :=
  (All2.split ((All2.of_reachL (matchKids_iff.mp h)).mono fun k t _ ht hk => hc t ht k hk)).imp
    fun _ h => ⟨h.1, All2.reachL h.2⟩

theorem up_cert_sound (A B : TA) (X : List (Nat × List Nat)) (hX : UpCert A B X) : ∀ t : Tree, Cover A B X t := by
  refine tree_induction fun f ts ih q hq => ?_
  rw [reach, mem_post'] at hq
  obtain ⟨ρ, hρ, hs, hm, hp⟩ := hq
  obtain ⟨Ss, h1, h2⟩ := cover_kids A B X ts ih ρ.kids hm
  obtain ⟨S', hS', hsub⟩ := hX ρ hρ Ss h1
  refine ⟨S', hp ▸ hS', fun s hs' => ?_⟩
  rw [reach, ← hs]
  exact post_mono B ρ.sym h2 s (hsub s hs')

theorem up_cert_soundL (A B : TA) (X : List (Nat × List Nat)) (hX : UpCert A B X) :
    ∀ ts : List Tree, ∀ t, t ∈ ts → Cover A B X t :=
  fun _ t _ => up_cert_sound A B X hX t

theorem up_cert_incl (A B : TA) (X : List (Nat × List Nat)) (hX : UpCert A B X)
    (hok : ∀ q S, (q, S) ∈ X → q ∈ A.final → ∃ s, s ∈ S ∧ s ∈ B.final)
    (t : Tree) (h : accepts A t = true) : accepts B t = true := by
  rw [accepts_iff_reach] at h ⊢
  obtain ⟨q, hq, hf⟩ := h
  obtain ⟨S, hS, hsub⟩ := up_cert_sound A B X hX t q hq
  obtain ⟨s, hs, hsf⟩ := hok q S hS hf
  exact ⟨s, hsub s hs, hsf⟩

#print axioms up_cert_incl
end Vata
