import Vata.Proofs.SimPipeline
import Vata.Proofs.UsefulAux
import Vata.Properties.C04
/-!
# C04 – `ComputeSimulation` end to end: translation as coded → engine model → `buildResult` → `StateDiscontBinaryRelation`

> For an explicit tree automaton whose states are numbered 0..n-1 and n is passed as the number of states, the downward
> simulation returned relates q to r exactly when every rule a(q1..qk)->q can be answered by a rule a(r1..rk)->r whose
> children pairwise simulate q1..qk, taken as the greatest such relation.  For an automaton without useless states the
> upward simulation returned is the greatest relation in which q related to r implies that r is final whenever q is and
> that every rule using q at some child position is answered by a rule using r at the same position with identical
> siblings and a related parent.  Both results are therefore reflexive and transitive and do not depend on how the
> states happen to be numbered.

`Vata/Properties/C04.lean` proves the property for the reference relations `downSimRef` / `upSimRef` and, for the route of
the C++, with the LTS engine represented by its SPECIFICATION `ltsSimRef`.  Here the route is closed: `SimPipe.computeSimDown A n`
/ `SimPipe.computeSimUp A n` (`Vata/SimPipeline.lean`) compose

* the fresh `StateToStateTranslWeak` of `src/explicit_tree_sim.cc` (`SimPipe.downOrder`, `SimPipe.upOrder`: the states in the
  order of their first look-up; index = position),
* `TranslateDownward` / `TranslateUpward` as coded (`Vata/TaLts.lean`),
* the MODEL OF THE ENGINE `LE.computeSimulation` / `LE.computeSimulation1` (`Vata/LtsEngine.lean`: `init`, `run`,
  `processRemove`, `buildResult`, …) – for the downward route the overload `computeSimulation(size)` that builds the one-block
  partition itself,
* the `BinaryRelation` `buildResult` fills (`SimPipe.resultMat`: flat `std::vector<bool>`, `resize`, `set`) and
  `StateDiscontBinaryRelation(ltsSim, translMap)` of the class model `Vata/BinRel.lean` (`SimPipe.simDisc`), read through
  `get` (`SimPipe.discRel`).

The preconditions of `LE.engine_result_eq` are PROVED for both translations (`C04_pipeline_engine_preconditions`).
-/
namespace Vata.Props
open Vata.SimPipe

/-- **downward, end to end.**  For a ranked automaton (always the case for the explicit encoding) with at most `n` states
the composition returns a relation, and it relates `q` to `r` exactly when both are states of `A` and SOME downward
simulation of `A` relates them: the greatest downward simulation -/
theorem C04_pipeline_downward (A : TA) (n : Nat) (hn : A.states.length ≤ n) (hrk : TaLts.Ranked A) :
    ∃ R, computeSimDown A n = some R ∧
      (∀ q r, (q, r) ∈ R ↔ (q, r) ∈ downSimRef A) ∧
      (∀ q r, (q, r) ∈ R ↔ q ∈ A.states ∧ r ∈ A.states ∧ ∃ S, DownSim A S ∧ S q r) := by
  obtain ⟨R, hR⟩ := computeSimDown_total A n
  have h := computeSimDown_eq A n hn hrk R hR
  exact ⟨R, hR, h, fun q r => (h q r).trans ((C04_downward_greatest A).2 q r)⟩

/-- … in the words of the property: the states are numbered `0 … n-1` and `n` is passed -/
theorem C04_pipeline_downward_numbered (A : TA) (n : Nat) (hn : ∀ q, q ∈ A.states → q < n) (hrk : TaLts.Ranked A) :
    ∃ R, computeSimDown A n = some R ∧ ∀ q r, (q, r) ∈ R ↔ (q, r) ∈ downSimRef A := by
  obtain ⟨R, hR, h, _⟩ := C04_pipeline_downward A n (length_states_le_of_lt A n hn) hrk
  exact ⟨R, hR, h⟩

example : (∀ q, q ∈ TaLtsEx.exA.states → q < 5) ∧ TaLts.Ranked TaLtsEx.exA ∧
    computeSimDown TaLtsEx.exA 5 = some [(2, 2), (2, 3), (3, 2), (3, 3), (0, 0), (0, 1), (1, 0), (1, 1), (4, 4)] :=
  ⟨by decide +kernel, TaLts.rankedB_iff.mp (by decide +kernel), exA_computeSimDown⟩

/-- the downward route always returns: the engine's internal fuel suffices for every automaton and every `n` (ranked or not) -/
theorem C04_pipeline_downward_total (A : TA) (n : Nat) : ∃ R, computeSimDown A n = some R := computeSimDown_total A n

example : ∃ R, computeSimDown TaLtsEx.exU 3 = some R := C04_pipeline_downward_total _ _

/-- **upward, end to end** (the repaired `TranslateUpward`).  For an automaton in which every state owns a rule, with at most
`n` states, and – unless `n = 0` – a leaf rule (`SimPipe.LeafOk`), the composition returns a relation, and it relates `q` to `r`
exactly when both are states of `A` and SOME upward simulation relates them -/
theorem C04_pipeline_upward (A : TA) (n : Nat) (hown : TaLts.AllOwnRule A) (hn : A.states.length ≤ n) (hleaf : LeafOk A n) :
    ∃ R, computeSimUp A n = some R ∧
      (∀ q r, (q, r) ∈ R ↔ (q, r) ∈ upSimRef A) ∧
      (∀ q r, (q, r) ∈ R ↔ q ∈ A.states ∧ r ∈ A.states ∧ ∃ S, IsUpSim A S ∧ S q r) := by
  obtain ⟨R, hR⟩ := computeSimUp_total A n hown hleaf
  have h := computeSimUp_eq A n hown hn hleaf R hR
  exact ⟨R, hR, h, fun q r => (h q r).trans ((C04_upward_greatest A).2 q r)⟩

example : TaLts.AllOwnRule TaLtsEx.exB ∧ TaLtsEx.exB.states.length ≤ 4 ∧ LeafOk TaLtsEx.exB 4 ∧
    computeSimUp TaLtsEx.exB 4 = some [(0, 0), (2, 2), (3, 2), (3, 3), (3, 4), (4, 4)] :=
  ⟨TaLts.allOwnRuleB_iff.mp (by decide +kernel), by decide +kernel, Or.inr (hasLeafB_iff.mp (by decide +kernel)), exB_computeSimUp⟩

/-- without useless states every state is productive, hence owns a rule, and there is a leaf rule unless there is no state -/
theorem upward_hyps_of_useful (A : TA) (n : Nat) (hu : ∀ q, Occurs A q → UsefulState A q) (hne : A.states = [] → n = 0) :
    TaLts.AllOwnRule A ∧ LeafOk A n := by
  have hprod : ∀ q, q ∈ A.states → Productive A q :=
    fun q hq => (UsefulAux.usefulState_good (hu q (mem_states.mp hq))).1
  refine ⟨allOwnRule_of_productive hprod, ?_⟩
  rcases leafOk_of_productive hprod with h | h
  · exact Or.inl (hne (List.eq_nil_of_length_eq_zero h))
  · exact Or.inr h

/-- … in the words of the property: an automaton WITHOUT USELESS STATES (every occurring state takes part in an accepting
run, `UsefulState` of `Vata/Spec.lean`), `n` = the number of states (or larger, if there is a state at all) -/
theorem C04_pipeline_upward_trimmed (A : TA) (n : Nat) (hu : ∀ q, Occurs A q → UsefulState A q)
    (hn : A.states.length ≤ n) (hne : A.states = [] → n = 0) :
    ∃ R, computeSimUp A n = some R ∧ ∀ q r, (q, r) ∈ R ↔ (q, r) ∈ upSimRef A := by
  obtain ⟨hown, hleaf⟩ := upward_hyps_of_useful A n hu hne
  obtain ⟨R, hR, h, _⟩ := C04_pipeline_upward A n hown hn hleaf
  exact ⟨R, hR, h⟩

example : allUsefulB TaLtsEx.exD = true ∧ TaLtsEx.exD.states.length ≤ 2 :=
  ⟨by decide +kernel, by decide +kernel⟩
example : ∀ q, Occurs TaLtsEx.exD q → UsefulState TaLtsEx.exD q := (UsefulAux.allUsefulB_iff _).mp (by decide)

/-- **the preconditions of the engine hold for both translations** – what `C04.lean` listed as "only tested, not proved".
Downward (`computeSimulation(size)` makes the one-block partition itself): the edges stay below the node count and the
system has a node as soon as `n > 0`.  Upward, for every numbering `idx` that is injective on the states with values below
`N = transitions_->size()`, every state owning a rule, a leaf rule: the edges stay below the node count (`LtsOK`); the
partition lists every node `0 … states_-1` of the LTS exactly once in non-empty blocks (`isPartition`); the relation on the
block numbers is reflexive (`isConsistent`) and TRANSITIVE (`RelTrans`, not asserted by the C++ but needed, C16); and the
initial relation the engine reads off (`LE.initRel`, through "the block of `x`") is `TaLts.blockRel` of
`C04_upward_via_lts` -/
theorem C04_pipeline_engine_preconditions (A : TA) (n : Nat) (idx : Nat → Nat) :
    (LE.LtsOK (TaLts.translateDownward A n idx) ∧ n ≤ (TaLts.translateDownward A n idx).n) ∧
    LE.LtsOK (TaLts.translateUpward A idx).1 ∧
    LE.isConsistent (TaLts.translateUpward A idx).2.1 (TaLts.translateUpward A idx).2.2 = true ∧
    LE.RelTrans (TaLts.translateUpward A idx).2.1 (TaLts.translateUpward A idx).2.2 ∧
    (TaLts.IdxOk A (TaLts.parents A).length idx → TaLts.AllOwnRule A → (∃ ρ, ρ ∈ A.rules ∧ ρ.kids = []) →
      LE.isPartition (TaLts.translateUpward A idx).2.1 (TaLts.translateUpward A idx).1.n = true ∧
      ∀ p, p ∈ LE.initRel (TaLts.translateUpward A idx).2.1 (TaLts.translateUpward A idx).2.2 ↔
        p ∈ TaLts.blockRel (TaLts.translateUpward A idx).2.1 (TaLts.translateUpward A idx).2.2) :=
  ⟨⟨ltsOK_translateDownward A n idx, le_n_translateDownward A n idx⟩, ltsOK_translateUpward A idx,
   upBlockRel_consistent A idx, upBlockRel_trans A idx,
   fun hidx hown hleaf => ⟨upPartition_isPartition hidx hown hleaf,
     initRel_iff_blockRel (upPartition_isPartition hidx hown hleaf)⟩⟩

example : TaLts.IdxOk TaLtsEx.exB (TaLts.parents TaLtsEx.exB).length (idxOf (upOrder TaLtsEx.exB)) ∧
    TaLts.AllOwnRule TaLtsEx.exB ∧ (∃ ρ, ρ ∈ TaLtsEx.exB.rules ∧ ρ.kids = []) ∧
    (TaLts.translateUpward TaLtsEx.exB (idxOf (upOrder TaLtsEx.exB))).2.1 = [[1, 2, 3], [0], [4], [5, 7], [6], [8]] :=
  ⟨TaLts.idxOkB_iff.mp (by decide +kernel), TaLts.allOwnRuleB_iff.mp (by decide +kernel), ⟨⟨0, [], 0⟩, by decide +kernel, rfl⟩, by decide +kernel⟩

/-- the numberings the fresh translators produce meet the hypotheses on the numbering (`TaLts.IdxOk`) of
`C04_downward_via_lts` / `C04_upward_via_lts`: injective, below `n` resp. below `transitions_->size()` – i.e. the
`assert(dest < numStates)` / `assert(stateIndex[…] < transitions_->size())` of the translations hold -/
theorem C04_pipeline_numbering (A : TA) (n : Nat) :
    (A.states.length ≤ n → TaLts.IdxOk A n (idxOf (downOrder A))) ∧
    (TaLts.AllOwnRule A → TaLts.IdxOk A (TaLts.parents A).length (idxOf (upOrder A))) ∧
    (downOrder A).Perm A.states :=
  ⟨idxOk_down A, idxOk_up, downOrder_perm A⟩

example : downOrder TaLtsEx.exA = [2, 3, 0, 1, 4] ∧ upOrder TaLtsEx.exB = [0, 2, 3, 4] ∧
    TaLtsEx.exA.states = [0, 1, 2, 3, 4] := by decide +kernel

/-- both results are reflexive on the states and transitive, and they do not depend on `n` (as long as it is large enough)
– the relation is determined by the automaton alone -/
theorem C04_pipeline_preorder_and_independence (A : TA) (n n' : Nat) (hn : A.states.length ≤ n) (hn' : A.states.length ≤ n')
    (hrk : TaLts.Ranked A) (R R' : Rel) (h : computeSimDown A n = some R) (h' : computeSimDown A n' = some R') :
    (∀ q, q ∈ A.states → (q, q) ∈ R) ∧ (∀ a b c, (a, b) ∈ R → (b, c) ∈ R → (a, c) ∈ R) ∧
    (∀ q r, (q, r) ∈ R ↔ (q, r) ∈ R') := by
  have e := computeSimDown_eq A n hn hrk R h
  have e' := computeSimDown_eq A n' hn' hrk R' h'
  refine ⟨fun q hq => (e q q).mpr ((greatest_downSim_preorder A).1 q hq), ?_, fun q r => (e q r).trans (e' q r).symm⟩
  intro a b c hab hbc
  exact (e a c).mpr ((greatest_downSim_preorder A).2 a b c ((e a b).mp hab) ((e b c).mp hbc))

example : computeSimDown TaLtsEx.exA 9 = computeSimDown TaLtsEx.exA 5 := by
  rw [exA_computeSimDown_9, exA_computeSimDown]

/-- the same for the upward relation -/
theorem C04_pipeline_upward_preorder (A : TA) (n : Nat) (hown : TaLts.AllOwnRule A) (hn : A.states.length ≤ n)
    (hleaf : LeafOk A n) (R : Rel) (h : computeSimUp A n = some R) :
    (∀ q, q ∈ A.states → (q, q) ∈ R) ∧ (∀ a b c, (a, b) ∈ R → (b, c) ∈ R → (a, c) ∈ R) := by
  have e := computeSimUp_eq A n hown hn hleaf R h
  refine ⟨fun q hq => (e q q).mpr ((greatest_upSim_preorder A).1 q hq), ?_⟩
  intro a b c hab hbc
  exact (e a c).mpr ((greatest_upSim_preorder A).2 a b c ((e a b).mp hab) ((e b c).mp hbc))

example : TaLts.AllOwnRule TaLtsEx.exC ∧ TaLtsEx.exC.states.length ≤ 4 ∧ LeafOk TaLtsEx.exC 4 :=
  ⟨TaLts.allOwnRuleB_iff.mp (by decide), by decide, Or.inr (hasLeafB_iff.mp (by decide))⟩

/-- the hypothesis "a leaf rule" of the upward route is not an artefact: on `a(0) → 0`, `F = {0}` (every state owns a rule,
the numbering is fine) the partition `TranslateUpward` hands to the engine contains the leaf node `1`, but the LTS has one
state only – `isPartition` fails.  (The real library, given this input with `n = 1`, writes behind `index_` in
`SimulationEngine::makeBlock`: heap-buffer-overflow under ASan.  The automaton has useless states, so the input is outside
the property.) -/
theorem C04_pipeline_upward_needs_leaf :
    TaLts.AllOwnRule ⟨[⟨0, [0], 0⟩], [0]⟩ ∧
    TaLts.IdxOk ⟨[⟨0, [0], 0⟩], [0]⟩ 1 (idxOf (upOrder ⟨[⟨0, [0], 0⟩], [0]⟩)) ∧
    (TaLts.translateUpward ⟨[⟨0, [0], 0⟩], [0]⟩ (idxOf (upOrder ⟨[⟨0, [0], 0⟩], [0]⟩))).2.1 = [[0], [1]] ∧
    (TaLts.translateUpward ⟨[⟨0, [0], 0⟩], [0]⟩ (idxOf (upOrder ⟨[⟨0, [0], 0⟩], [0]⟩))).1.n = 1 ∧
    LE.isPartition (TaLts.translateUpward ⟨[⟨0, [0], 0⟩], [0]⟩ (idxOf (upOrder ⟨[⟨0, [0], 0⟩], [0]⟩))).2.1
      (TaLts.translateUpward ⟨[⟨0, [0], 0⟩], [0]⟩ (idxOf (upOrder ⟨[⟨0, [0], 0⟩], [0]⟩))).1.n = false :=
  ⟨TaLts.allOwnRuleB_iff.mp (by decide +kernel), TaLts.idxOkB_iff.mp (by decide +kernel), by decide +kernel, by decide +kernel, by decide +kernel⟩

/-! ### the property in its own words, for the composition -/

/-- **C04 as one statement about `ComputeSimulation` as coded.**
Downward: for an explicit (ranked) tree automaton whose states are numbered `0 … n-1`, `n` passed as the number of states,
the composition returns a relation; it relates `q` to `r` exactly when both are states of `A` and some relation with the
downward transfer property relates them (the greatest such relation); it is reflexive on the states and transitive.
Upward: for an automaton without useless states (every occurring state takes part in an accepting run), `n` at least the
number of states (and `0` if there is none), the same with the upward transfer property (finality respected, identical
siblings, related parents). -/
theorem C04_pipeline_statement (A : TA) (n : Nat) :
    ((∀ q, q ∈ A.states → q < n) → TaLts.Ranked A →
      ∃ R, computeSimDown A n = some R ∧
        (∀ q r, (q, r) ∈ R ↔ q ∈ A.states ∧ r ∈ A.states ∧ ∃ S, DownSim A S ∧ S q r) ∧
        (∀ q, q ∈ A.states → (q, q) ∈ R) ∧ (∀ a b c, (a, b) ∈ R → (b, c) ∈ R → (a, c) ∈ R)) ∧
    ((∀ q, Occurs A q → UsefulState A q) → A.states.length ≤ n → (A.states = [] → n = 0) →
      ∃ R, computeSimUp A n = some R ∧
        (∀ q r, (q, r) ∈ R ↔ q ∈ A.states ∧ r ∈ A.states ∧ ∃ S, IsUpSim A S ∧ S q r) ∧
        (∀ q, q ∈ A.states → (q, q) ∈ R) ∧ (∀ a b c, (a, b) ∈ R → (b, c) ∈ R → (a, c) ∈ R)) := by
  constructor
  · intro hn hrk
    have hn' := length_states_le_of_lt A n hn
    obtain ⟨R, hR, _, hg⟩ := C04_pipeline_downward A n hn' hrk
    obtain ⟨h1, h2, _⟩ := C04_pipeline_preorder_and_independence A n n hn' hn' hrk R R hR hR
    exact ⟨R, hR, hg, h1, h2⟩
  · intro hu hn hne
    obtain ⟨hown, hleaf⟩ := upward_hyps_of_useful A n hu hne
    obtain ⟨R, hR, _, hg⟩ := C04_pipeline_upward A n hown hn hleaf
    obtain ⟨h1, h2⟩ := C04_pipeline_upward_preorder A n hown hn hleaf R hR
    exact ⟨R, hR, hg, h1, h2⟩

example : (∀ q, q ∈ TaLtsEx.exA.states → q < 5) ∧ TaLts.Ranked TaLtsEx.exA ∧
    (∀ q, Occurs TaLtsEx.exD q → UsefulState TaLtsEx.exD q) ∧ TaLtsEx.exD.states.length ≤ 2 ∧ TaLtsEx.exD.states ≠ [] :=
  ⟨by decide +kernel, TaLts.rankedB_iff.mp (by decide +kernel), (UsefulAux.allUsefulB_iff _).mp (by decide +kernel), by decide +kernel, by decide +kernel⟩

theorem ranked_reindex (f : Nat → Nat) (A : TA) (h : TaLts.Ranked A) : TaLts.Ranked (reindex f A) := by
  intro ρ σ hρ hσ e
  obtain ⟨ρ₀, h₁, rfl⟩ := List.mem_map.mp hρ
  obtain ⟨σ₀, h₂, rfl⟩ := List.mem_map.mp hσ
  simp only [mapRule, List.length_map] at e ⊢
  exact h ρ₀ σ₀ h₁ h₂ e

/-- **"… and do not depend on how the states happen to be numbered"**, for the composition: rename the states of `A` by any
map `f` that is injective on them and pass any sufficient `n'`; the relation returned for the renamed automaton relates
`f q` to `f r` exactly when the relation returned for `A` relates `q` to `r` -/
theorem C04_pipeline_numbering_independent (A : TA) (f : Nat → Nat) (hf : InjOnStates f A) (n n' : Nat)
    (hn : A.states.length ≤ n) (hn' : A.states.length ≤ n') (hrk : TaLts.Ranked A) :
    ∃ R R', computeSimDown A n = some R ∧ computeSimDown (reindex f A) n' = some R' ∧
      ∀ q r, q ∈ A.states → r ∈ A.states → ((f q, f r) ∈ R' ↔ (q, r) ∈ R) := by
  obtain ⟨R, hR, e, _⟩ := C04_pipeline_downward A n hn hrk
  obtain ⟨R', hR', e', _⟩ := C04_pipeline_downward (reindex f A) n'
    (by rw [reindex_states_length f A hf]; exact hn') (ranked_reindex f A hrk)
  exact ⟨R, R', hR, hR', fun q r hq hr => (e' _ _).trans ((downSim_equivariant f A hf hq hr).trans (e q r).symm)⟩

example : InjOnStates (· + 10) TaLtsEx.exA ∧ TaLtsEx.exA.states.length ≤ 5 ∧ TaLtsEx.exA.states.length ≤ 20 :=
  ⟨by intro q q' _ _ h; simp only at h; omega, by decide, by decide⟩

/-!
## items of "not yet proved" closed here

* `Vata/Properties/C04.lean`, second item ("**The LTS engine** inside the route is represented by its specification
  `ltsSimRef` …, not by a model of the partition-refinement code; … that the partition is a partition of ALL nodes `0..n-1`
  into non-empty blocks and that the relation on the block numbers is itself reflexive and transitive … is only tested, not
  proved"): closed.  The engine inside `computeSimDown` / `computeSimUp` is the model `LE.computeSimulation`
  (`C04_pipeline_downward`, `C04_pipeline_upward`), and its preconditions are theorems (`C04_pipeline_engine_preconditions`).
  The `#guard upOkB …` tests of `Vata/TaLts.lean` are now instances of a theorem.
* `Vata/Properties/C16.lean` / `C16_Engine.lean`: "Output size (the dimension of the returned `BinaryRelation` is not a notion
  of the model)" – partly: `SimPipe.resultMat_spec` says that the relation `buildResult(result, size)` fills has `size_ = size`,
  is well-formed and holds exactly the pairs of the engine model's result (`C05_pipeline_matrix` uses it).  And the engine's
  preconditions (`LtsOK`, `isPartition`, `isConsistent`, `RelTrans`) are now proved for the two callers of the engine
  inside the library.
* The first item of `C04.lean` (independence of the numbering) gets a third form: the result of the pipeline does not depend
  on `n` (`C04_pipeline_preorder_and_independence`) and is `downSimRef A` / `upSimRef A`, which do not mention a numbering;
  under a renaming of the automaton it is the renamed relation (`C04_pipeline_numbering_independent`).
* `C04_pipeline_statement` puts the clauses of the property (numbered `0 … n-1`; without useless states; greatest; reflexive and
  transitive) into one theorem about the composition.

## still not proved

* The order of first encounter is the order of `A.rules` (hash order in the C++); the theorems hold for every `A`, hence for
  every order of the rules, but "the rule list of the model is the iteration order of the hash tables" is not an object of
  the model.  The environment table is keyed by all four fields (see `C04.lean`).
* Outside `A.states` (numbers below `n` that occur nowhere in the automaton; for the upward route also final states that
  occur in no rule) the dictionary has no entry: `discRel` lists pairs of translated states only, and `Disc.get` throws
  (`BinRel.Disc.get_unknown`), as the C++ does.
* The upward route needs `LeafOk` (`C04_pipeline_upward_needs_leaf`); for an automaton without useless states and `n` = the
  number of states it holds (`C04_pipeline_upward_trimmed`).  With `AllOwnRule` but without a leaf rule, or on the automaton
  without rules with `n > 0`, the C++ violates the engine's preconditions (observed: out-of-bounds write resp. empty block);
  both inputs are outside the property.
* `Ranked A` is needed for the downward route (`C04_downward_via_lts_needs_ranked`); it always holds for the explicit encoding.
-/
end Vata.Props
