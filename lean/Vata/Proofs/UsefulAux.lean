import Vata.Proofs.RunBridge
import Vata.Proofs.TrimModel
/-!
# Completeness of the post-condition checkers `allReachableB` / `allUsefulB` (property C03)

`Vata/Proofs/TrimModel.lean` proves the checkers sound.  Here the converse: a state that takes part in an accepting run
(`UsefulState`, the L0 notion on explicit run objects) is productive and reachable top-down from a final state, hence
(`allUsefulB_of_allGood`) the Boolean check answers `true` on every automaton all of whose occurring states are useful.
-/
namespace Vata
namespace UsefulAux

mutual
theorem run_states_good (A : TA) : ∀ ρ : RunT, ρ.valid A = true → TdReachable A ρ.root →
    ∀ q, ρ.hasState q = true → Productive A q ∧ TdReachable A q
  | .node r ks => by
    intro hv hroot q hq
    have hv' := hv
    simp only [RunT.valid, Bool.and_eq_true, List.contains_iff_mem] at hv'
    simp only [RunT.hasState, Bool.or_eq_true, beq_iff_eq] at hq
    rcases hq with hq | hq
    · have hp : Productive A (RunT.node r ks).root := ⟨_, reach_of_run A (.node r ks) hv⟩
      have hq' : (RunT.node r ks).root = q := hq
      rw [← hq']
      exact ⟨hp, hroot⟩
    · exact runs_states_good A ks r.kids hv'.2
        (fun k hk => TdReachable.step hv'.1 hroot hk) q hq
theorem runs_states_good (A : TA) : ∀ (ρs : List RunT) (ks : List Nat), RunT.validL A ρs ks = true →
    (∀ k, k ∈ ks → TdReachable A k) → ∀ q, RunT.hasStateL q ρs = true → Productive A q ∧ TdReachable A q
  | [], _ => by
    intro _ _ q hq
    simp [RunT.hasStateL] at hq
  | _ :: _, [] => by
    intro hv
    simp [RunT.validL] at hv
  | ρ :: ρs, k :: ks => by
    intro hv hks q hq
    simp only [RunT.validL, Bool.and_eq_true, beq_iff_eq] at hv
    simp only [RunT.hasStateL, Bool.or_eq_true] at hq
    rcases hq with hq | hq
    · exact run_states_good A ρ hv.1.2 (hv.1.1 ▸ hks k List.mem_cons_self) q hq
    · exact runs_states_good A ρs ks hv.2 (fun k' hk' => hks k' (List.mem_cons_of_mem _ hk')) q hq
end

theorem usefulState_good {A : TA} {q : Nat} (h : UsefulState A q) : Productive A q ∧ TdReachable A q := by
  obtain ⟨ρ, ⟨hv, hf⟩, hq⟩ := h
  exact run_states_good A ρ hv (TdReachable.final hf) q hq

theorem allReachableB_complete {A : TA} (h : ∀ q, Occurs A q → TdReachable A q) : allReachableB A = true := by
  simp only [allReachableB, List.all_eq_true, List.contains_iff_mem]
  intro q hq
  exact (tdReach_iff A q).mpr (h q (mem_states.mp hq))

theorem allUsefulB_complete {A : TA} (h : ∀ q, Occurs A q → UsefulState A q) : allUsefulB A = true :=
  allUsefulB_of_allGood (fun q hq => usefulState_good (h q hq))

theorem allUsefulB_iff (A : TA) : allUsefulB A = true ↔ ∀ q, Occurs A q → UsefulState A q :=
  ⟨fun h => (allUsefulB_sound A h).1, allUsefulB_complete⟩

theorem allReachableB_iff (A : TA) : allReachableB A = true ↔ ∀ q, Occurs A q → TdReachable A q :=
  ⟨allReachableB_sound A, allReachableB_complete⟩

/-- useful states make the rules useful as well (the second conjunct of the post-condition is implied by the first) -/
theorem usefulRule_of_states {A : TA} (h : ∀ q, Occurs A q → UsefulState A q) : ∀ r, r ∈ A.rules → UsefulRule A r :=
  (AllGood.useful fun q hq => usefulState_good (h q hq)).2

-- the hypothesis holds on a trimmed automaton with a binary rule, and fails on the untrimmed one
example : ∀ q, Occurs (removeUseless TrimEx.exA) q → UsefulState (removeUseless TrimEx.exA) q :=
  removeUseless_post_state TrimEx.exA
example : allUsefulB (removeUseless TrimEx.exA) = true := allUsefulB_complete (removeUseless_post_state TrimEx.exA)
example : ¬ ∀ q, Occurs TrimEx.exA q → UsefulState TrimEx.exA q :=
  fun h => absurd (allUsefulB_complete h) (by decide +kernel)
example : ¬ UsefulState TrimEx.exA 4 := fun h =>
  absurd ((tdReach_iff _ _).mpr (usefulState_good h).2) (by decide)

end UsefulAux
end Vata
