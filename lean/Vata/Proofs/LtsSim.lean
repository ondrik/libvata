import Vata.Proofs.Rounds
import Vata.Proofs.ListExt
/-!
# Labelled transition systems: the reference simulation `ltsSimRef` (C16)

Self-contained (core Lean only; the two imports, `Vata/Proofs/Rounds.lean` and `Vata/Proofs/ListExt.lean`, are about loops and lists
in general and import nothing):
`ltsRefine L` is a round loop that filters by `ltsOk L`.  `ltsSimRef L I` is the naive refinement of the initial relation `I`:

* `ltsSimRef_sub`        the result is inside `I`
* `ltsSimRef_contains`   every simulation inside `I` is inside the result
* `ltsSimRef_sim`        the result is a simulation (unconditionally: `|I|+1` rounds reach the fixed point;
                         `ltsSimRef_check` says that the final Boolean check `isLtsSimB` never fails)
* `ltsSimRef_greatest`, `ltsSimRef_spec`   the three together: the union of all simulations inside `I`
* `ltsSimRef_preorder`   reflexive on `0..n-1` and transitive if `I` is (needs that edges lead to states `< n`)
* `ltsSimRef_default`    from the full relation on `0..n-1`: the greatest simulation of the system
* `restrict_output`      what is reported for output size `k` is the restriction of the result to states `< k`
-/
namespace Vata.L

structure LTS where
  n : Nat
  edges : List (Nat × Nat × Nat)      -- (src, label, dst); states are 0..n-1

def IsSim (L : LTS) (R : Nat → Nat → Prop) : Prop :=
  ∀ q r, R q r → ∀ a q', (q, a, q') ∈ L.edges → ∃ r', (r, a, r') ∈ L.edges ∧ R q' r'

abbrev Rel := List (Nat × Nat)

/-- the relation (as a predicate) given by a list of pairs -/
def RelOf (R : Rel) : Nat → Nat → Prop := fun q r => (q, r) ∈ R

instance (R : Rel) (q r : Nat) : Decidable (RelOf R q r) := inferInstanceAs (Decidable ((q, r) ∈ R))

def ltsOk (L : LTS) (R : Rel) (q r : Nat) : Bool :=
  L.edges.all (fun e => e.1 != q || L.edges.any (fun e' => e'.1 == r && e'.2.1 == e.2.1 && R.contains (e.2.2, e'.2.2)))

/-- filter with `ltsOk` until the length is stable (like `refineIter` of `Ref.lean`) -/
def ltsRefine (L : LTS) : Nat → Rel → Rel
  | 0, R => R
  | k+1, R =>
    let R' := R.filter (fun p => ltsOk L R p.1 p.2)
    if R'.length == R.length then R else ltsRefine L k R'

/-- `I` = initial relation (arbitrary pairs allowed) -/
def ltsSimRef (L : LTS) (I : Rel) : Rel := ltsRefine L (I.length + 1) I

def isLtsSimB (L : LTS) (R : Rel) : Bool := R.all (fun p => ltsOk L R p.1 p.2)

/-- the pairs with both components `< k` -/
def restrictRel (k : Nat) (R : Rel) : Rel := R.filter (fun p => decide (p.1 < k) && decide (p.2 < k))

/-- what the engine reports for `outputSize = k` -/
def ltsSimOut (L : LTS) (I : Rel) (k : Nat) : Rel := restrictRel k (ltsSimRef L I)

/-- the full relation on `0..n-1` -/
def fullRel (n : Nat) : Rel := (List.range n).flatMap (fun q => (List.range n).map (fun r => (q, r)))

/-- `ltsOk` is exactly the transfer condition of a simulation for the pair `(q, r)` -/
theorem ltsOk_iff (L : LTS) (R : Rel) (q r : Nat) :
    ltsOk L R q r = true ↔ ∀ a q', (q, a, q') ∈ L.edges → ∃ r', (r, a, r') ∈ L.edges ∧ RelOf R q' r' := by
  simp only [ltsOk, List.all_eq_true, Bool.or_eq_true, bne_iff_ne, ne_eq, List.any_eq_true, Bool.and_eq_true,
    beq_iff_eq, List.contains_iff_mem, RelOf]
  constructor
  · intro h a q' he
    cases h (q, a, q') he with
    | inl h1 => exact absurd rfl h1
    | inr h1 =>
      obtain ⟨e', he', ⟨h2, h3⟩, h4⟩ := h1
      refine ⟨e'.2.2, ?_, h4⟩
      have : e' = (r, a, e'.2.2) := by
        obtain ⟨x, y, z⟩ := e'
        simp only at h2 h3
        rw [h2, h3]
      rw [← this]; exact he'
  · intro h e he
    by_cases hq : e.1 = q
    · obtain ⟨r', hr', hR⟩ := h e.2.1 e.2.2 (by rw [← hq]; exact he)
      exact Or.inr ⟨(r, e.2.1, r'), hr', ⟨rfl, rfl⟩, hR⟩
    · exact Or.inl hq

theorem isLtsSimB_iff (L : LTS) (R : Rel) : isLtsSimB L R = true ↔ IsSim L (RelOf R) := by
  simp only [isLtsSimB, List.all_eq_true, ltsOk_iff, IsSim]
  constructor
  · intro h q r hqr; exact h (q, r) hqr
  · intro h p hp; exact h p.1 p.2 hp

/-- a concrete system for the non-vacuity examples: `0 -a→ 2`, `1 -a→ 2`, `1 -b→ 2`
(`1` simulates `0` but not conversely; `2` is simulated by everything) -/
def exL : LTS := ⟨3, [(0, 0, 2), (1, 0, 2), (1, 1, 2)]⟩

theorem ltsSimRef_sub (L : LTS) (I : Rel) (p : Nat × Nat) : p ∈ ltsSimRef L I → p ∈ I :=
  Rounds.filter_sub (iter := ltsRefine L) (ok := fun R p => ltsOk L R p.1 p.2) _ I p

theorem ltsSimRef_contains (L : LTS) (I : Rel) (S : Nat → Nat → Prop) (hS : IsSim L S)
    (hSI : ∀ q r, S q r → (q, r) ∈ I) (q r : Nat) : S q r → (q, r) ∈ ltsSimRef L I := by
  intro hqr
  refine Rounds.filter_contains (iter := ltsRefine L) (ok := fun R p => ltsOk L R p.1 p.2) (fun p => S p.1 p.2) ?_ _ I
    (fun p hp => hSI p.1 p.2 hp) (q, r) hqr
  intro R hR p hp
  rw [ltsOk_iff]
  intro a q' he
  obtain ⟨r', hr', hS'⟩ := hS p.1 p.2 hp a q' he
  exact ⟨r', hr', hR (q', r') hS'⟩

example : IsSim exL (RelOf [(0, 1), (2, 2)]) ∧ (∀ q r, RelOf [(0, 1), (2, 2)] q r → (q, r) ∈ fullRel 3) ∧
    RelOf [(0, 1), (2, 2)] 0 1 :=
  ⟨(isLtsSimB_iff _ _).mp (by decide),
    fun q r h => (by decide : ∀ p, p ∈ [(0, 1), (2, 2)] → p ∈ fullRel 3) (q, r) h, by decide⟩

/-- the final Boolean check never fails: `|I| + 1` rounds reach the fixed point -/
theorem ltsSimRef_check (L : LTS) (I : Rel) : isLtsSimB L (ltsSimRef L I) = true := by
  simp only [isLtsSimB, List.all_eq_true]
  intro p hp
  exact Rounds.filter_stable (iter := ltsRefine L) (ok := fun R p => ltsOk L R p.1 p.2) _ I (Nat.le_succ _) p hp

theorem ltsSimRef_sim (L : LTS) (I : Rel) : IsSim L (RelOf (ltsSimRef L I)) :=
  (isLtsSimB_iff L _).mp (ltsSimRef_check L I)

/-- C16: the greatest simulation inside `I` -/
theorem ltsSimRef_greatest (L : LTS) (I : Rel) :
    IsSim L (RelOf (ltsSimRef L I)) ∧ (∀ p, p ∈ ltsSimRef L I → p ∈ I) ∧
    ∀ S : Nat → Nat → Prop, IsSim L S → (∀ q r, S q r → (q, r) ∈ I) → ∀ q r, S q r → (q, r) ∈ ltsSimRef L I :=
  ⟨ltsSimRef_sim L I, ltsSimRef_sub L I, ltsSimRef_contains L I⟩

/-- the result is the union of all simulations inside `I` -/
theorem ltsSimRef_spec (L : LTS) (I : Rel) (q r : Nat) :
    (q, r) ∈ ltsSimRef L I ↔ ∃ S : Nat → Nat → Prop, IsSim L S ∧ (∀ a b, S a b → (a, b) ∈ I) ∧ S q r := by
  constructor
  · intro h
    exact ⟨RelOf (ltsSimRef L I), ltsSimRef_sim L I, fun a b hab => ltsSimRef_sub L I (a, b) hab, h⟩
  · rintro ⟨S, hS, hSI, hqr⟩
    exact ltsSimRef_contains L I S hS hSI q r hqr

example : ltsSimRef exL (fullRel 3) = [(0, 0), (0, 1), (1, 1), (2, 0), (2, 1), (2, 2)] := by decide +kernel
example : ltsSimRef exL [(0, 1), (1, 0), (2, 2), (7, 7)] = [(0, 1), (2, 2), (7, 7)] := by decide +kernel

theorem isSim_comp (L : LTS) {R R' : Nat → Nat → Prop} (hR : IsSim L R) (hR' : IsSim L R') :
    IsSim L (fun a c => ∃ b, R a b ∧ R' b c) := by
  intro q s hqs a q' he
  obtain ⟨r, hqr, hrs⟩ := hqs
  obtain ⟨r', hr', h1⟩ := hR q r hqr a q' he
  obtain ⟨s', hs', h2⟩ := hR' r s hrs a r' hr'
  exact ⟨s', hs', r', h1, h2⟩

/-- transitivity is inherited from `I` (no assumption on the system) -/
theorem ltsSimRef_trans (L : LTS) (I : Rel)
    (htrans : ∀ a b c, (a, b) ∈ I → (b, c) ∈ I → (a, c) ∈ I) :
    ∀ a b c, (a, b) ∈ ltsSimRef L I → (b, c) ∈ ltsSimRef L I → (a, c) ∈ ltsSimRef L I := by
  intro a b c hab hbc
  refine ltsSimRef_contains L I _ (isSim_comp L (ltsSimRef_sim L I) (ltsSimRef_sim L I)) ?_ a c ⟨b, hab, hbc⟩
  rintro x z ⟨y, hxy, hyz⟩
  exact htrans x y z (ltsSimRef_sub L I _ hxy) (ltsSimRef_sub L I _ hyz)

/-- reflexivity is inherited on every set of states closed under the transitions -/
theorem ltsSimRef_refl_on (L : LTS) (I : Rel) (Q : Nat → Prop)
    (hcl : ∀ q a q', Q q → (q, a, q') ∈ L.edges → Q q') (hrefl : ∀ q, Q q → (q, q) ∈ I) :
    ∀ q, Q q → (q, q) ∈ ltsSimRef L I := by
  intro q hq
  refine ltsSimRef_contains L I (fun a b => a = b ∧ Q a) ?_ ?_ q q ⟨rfl, hq⟩
  · rintro a b ⟨hab, ha⟩ l a' he
    exact ⟨a', hab ▸ he, rfl, hcl a l a' ha he⟩
  · rintro a b ⟨hab, ha⟩
    exact hab ▸ hrefl a ha

/-- if `I` is reflexive on `0..n-1` and transitive then so is the result; `hwf`: the edges lead to states `< n`
(without it reflexivity can be lost, see the example below) -/
theorem ltsSimRef_preorder (L : LTS) (I : Rel) (hwf : ∀ e, e ∈ L.edges → e.2.2 < L.n)
    (hrefl : ∀ q, q < L.n → (q, q) ∈ I) (htrans : ∀ a b c, (a, b) ∈ I → (b, c) ∈ I → (a, c) ∈ I) :
    (∀ q, q < L.n → (q, q) ∈ ltsSimRef L I) ∧
    (∀ a b c, (a, b) ∈ ltsSimRef L I → (b, c) ∈ ltsSimRef L I → (a, c) ∈ ltsSimRef L I) :=
  ⟨ltsSimRef_refl_on L I (· < L.n) (fun q a q' _ he => hwf (q, a, q') he) hrefl, ltsSimRef_trans L I htrans⟩

example : (∀ e, e ∈ exL.edges → e.2.2 < exL.n) ∧ (∀ q, q < exL.n → (q, q) ∈ fullRel 3) := by decide +kernel

/-- without `hwf` reflexivity on `0..n-1` can be lost: `n = 1`, one edge `0 → 5`, `I = {(0,0)}` -/
example : (∀ q, q < 1 → (q, q) ∈ [(0, 0)]) ∧ ltsSimRef ⟨1, [(0, 0, 5)]⟩ [(0, 0)] = [] := by decide +kernel

theorem mem_fullRel {n q r : Nat} : (q, r) ∈ fullRel n ↔ q < n ∧ r < n :=
  mem_flatMap_map_pair.trans (and_congr List.mem_range List.mem_range)

/-- from the full relation on `0..n-1` the result is the greatest simulation of the system (on `0..n-1`) -/
theorem ltsSimRef_default (L : LTS) (hwf : ∀ e, e ∈ L.edges → e.2.2 < L.n) (q r : Nat) :
    (q, r) ∈ ltsSimRef L (fullRel L.n) ↔ q < L.n ∧ r < L.n ∧ ∃ S : Nat → Nat → Prop, IsSim L S ∧ S q r := by
  constructor
  · intro h
    have hI := mem_fullRel.mp (ltsSimRef_sub L _ _ h)
    exact ⟨hI.1, hI.2, RelOf (ltsSimRef L (fullRel L.n)), ltsSimRef_sim L _, h⟩
  · rintro ⟨hq, hr, S, hS, hqr⟩
    refine ltsSimRef_contains L _ (fun a b => S a b ∧ a < L.n ∧ b < L.n) ?_ ?_ q r ⟨hqr, hq, hr⟩
    · rintro a b ⟨hab, _, _⟩ l a' he
      obtain ⟨b', hb', h1⟩ := hS a b hab l a' he
      exact ⟨b', hb', h1, hwf _ he, hwf _ hb'⟩
    · rintro a b ⟨_, ha, hb⟩
      exact mem_fullRel.mpr ⟨ha, hb⟩

theorem mem_restrictRel {k : Nat} {R : Rel} {q r : Nat} : (q, r) ∈ restrictRel k R ↔ (q, r) ∈ R ∧ q < k ∧ r < k := by
  simp only [restrictRel, List.mem_filter, Bool.and_eq_true, decide_eq_true_eq]

/-- the pairs reported for output size `k` are exactly the pairs of the result with both components `< k` -/
theorem restrict_output (L : LTS) (I : Rel) (k q r : Nat) :
    (q, r) ∈ ltsSimOut L I k ↔ q < k ∧ r < k ∧ (q, r) ∈ ltsSimRef L I := by
  unfold ltsSimOut
  rw [mem_restrictRel]
  constructor
  · rintro ⟨h, hq, hr⟩; exact ⟨hq, hr, h⟩
  · rintro ⟨hq, hr, h⟩; exact ⟨h, hq, hr⟩

/-- … i.e. the pairs `< k` related by some simulation inside `I` (a simulation of the whole system, not of its
restriction to the states `< k`) -/
theorem restrict_output_spec (L : LTS) (I : Rel) (k q r : Nat) :
    (q, r) ∈ ltsSimOut L I k ↔
      q < k ∧ r < k ∧ ∃ S : Nat → Nat → Prop, IsSim L S ∧ (∀ a b, S a b → (a, b) ∈ I) ∧ S q r := by
  rw [restrict_output, ltsSimRef_spec]

/-- restricting the output twice / order of the restrictions -/
theorem restrictRel_restrictRel (k k' : Nat) (R : Rel) (q r : Nat) :
    (q, r) ∈ restrictRel k (restrictRel k' R) ↔ (q, r) ∈ restrictRel (min k k') R := by
  simp only [mem_restrictRel, Nat.lt_min]
  constructor
  · rintro ⟨⟨h, h1, h2⟩, h3, h4⟩; exact ⟨h, ⟨h3, h1⟩, ⟨h4, h2⟩⟩
  · rintro ⟨h, ⟨h3, h1⟩, ⟨h4, h2⟩⟩; exact ⟨⟨h, h1, h2⟩, h3, h4⟩

example : ltsSimOut exL (fullRel 3) 2 = [(0, 0), (0, 1), (1, 1)] := by decide +kernel

/-- the restriction has to be applied to the output, not to the initial relation: here the states `< 2` are related
through their successor `2`, which a restricted initial relation no longer contains -/
example : ltsSimRef exL (restrictRel 2 (fullRel 3)) = [] ∧ ltsSimOut exL (fullRel 3) 2 ≠ [] := by decide +kernel

end Vata.L
