import Vata.Glue
/-!
# The packed representation of `SymbolicVarAsgn` (`vars_`, two bits per variable) implements the sequence of values

`Refines p a`: the private members `p` represent the assignment `a` – `variablesCount_` is its length, `vars_` has exactly
`numberOfChars(length)` characters and `GetIthVariableValue(i)` as coded (shift and mask on `vars_[i*2/8]`) yields the
code of `a[i]`.

Everything rests on one character (`field_get_set`): the mask-and-or of `SetIthVariableValue` followed by the shift-and-mask
of `GetIthVariableValue` – shift and mask distribute over the write, and what is left (the mask and the shifted value seen
through the read, 4 positions × 4 positions × 4 values) is evaluated. Hence a write never disturbs a neighbouring variable
of the same character (`getRaw_setRaw`), and constructors, `SetIthVariableValue`, `AddVariablesUpTo` and `append` refine
the operations on sequences.
-/
set_option linter.unusedSimpArgs false
namespace Vata.Glue.Packed

/-- the mask of `SetIthVariableValue` for the field `k`, seen through the shift-and-mask of the field `k'` -/
theorem mask_field : ∀ k k' : Fin 4,
    ((3#8 <<< (2 * k.val)) ^^^ 255#8) >>> (2 * k'.val) &&& 3#8 = if k = k' then 0#8 else 3#8 := by
  decide

/-- a value shifted to the field `k`, seen through the shift-and-mask of the field `k'` -/
theorem value_field : ∀ k k' v : Fin 4,
    (BitVec.ofNat 8 v.val <<< (2 * k.val)) >>> (2 * k'.val) &&& 3#8 = if k = k' then BitVec.ofNat 8 v.val else 0#8 := by
  decide

theorem field_get_set (c : BitVec 8) (k k' v : Nat) (hk : k < 4) (hk' : k' < 4) (hv : v < 4) :
    getField (setField c (2 * k) (BitVec.ofNat 8 v)) (2 * k') =
      if k = k' then BitVec.ofNat 8 v else getField c (2 * k') := by
  unfold getField setField
  -- shift and mask distribute over the `&` and `|` of the write; what remains does not mention `c`
  rw [BitVec.ushiftRight_or_distrib, BitVec.ushiftRight_and_distrib, BitVec.and_or_distrib_right, BitVec.and_assoc]
  have hm := mask_field ⟨k, hk⟩ ⟨k', hk'⟩
  have hw := value_field ⟨k, hk⟩ ⟨k', hk'⟩ ⟨v, hv⟩
  simp only [Fin.mk.injEq] at hm hw
  rw [hm, hw]
  split
  · rw [BitVec.and_zero, BitVec.zero_or]
  · rw [BitVec.or_zero]

theorem indexOfChar_eq (i : Nat) : indexOfChar i = i / 4 := Nat.mul_div_mul_right i 4 (by decide : 0 < 2)

theorem indexInsideChar_eq (i : Nat) : indexInsideChar i = 2 * (i % 4) :=
  (Nat.mul_mod_mul_right 2 i 4).trans (Nat.mul_comm _ _)

theorem getRaw_eq (p : Packed) (i : Nat) :
    p.getRaw i = (p.vars[i / 4]?).map fun c => (getField c (2 * (i % 4))).toNat := by
  unfold getRaw
  rw [indexOfChar_eq, indexInsideChar_eq]
  cases p.vars[i / 4]? <;> rfl

theorem setRaw_eq (p : Packed) (i v : Nat) (hi : i / 4 < p.vars.length) :
    p.setRaw i v = { p with vars := p.vars.set (i / 4) (setField p.vars[i / 4] (2 * (i % 4)) (BitVec.ofNat 8 v)) } := by
  unfold setRaw
  rw [indexOfChar_eq, indexInsideChar_eq, List.getElem?_eq_getElem hi]

theorem setRaw_length (p : Packed) (i v : Nat) : (p.setRaw i v).vars.length = p.vars.length ∧
    (p.setRaw i v).variablesCount = p.variablesCount := by
  unfold setRaw
  cases p.vars[indexOfChar i]? with
  | none => exact ⟨rfl, rfl⟩
  | some c => exact ⟨List.length_set, rfl⟩

theorem getRaw_setRaw (p : Packed) (i j v : Nat) (hv : v < 4) (hi : i / 4 < p.vars.length) :
    (p.setRaw i v).getRaw j = if i = j then some v else p.getRaw j := by
  rw [getRaw_eq, getRaw_eq, setRaw_eq p i v hi]
  by_cases hq : i / 4 = j / 4
  · rw [← hq, List.getElem?_set_self hi, List.getElem?_eq_getElem hi, Option.map_some, Option.map_some,
      field_get_set _ _ _ _ (Nat.mod_lt _ (by decide)) (Nat.mod_lt _ (by decide)) hv]
    by_cases hij : i = j
    · rw [if_pos (congrArg (· % 4) hij), if_pos hij, BitVec.toNat_ofNat, Nat.mod_eq_of_lt (by omega)]
    · have : i % 4 ≠ j % 4 := fun e => hij (by rw [← Nat.div_add_mod i 4, ← Nat.div_add_mod j 4, hq, e])
      rw [if_neg this, if_neg hij]
  · rw [List.getElem?_set_ne hq, if_neg (fun e => hq (congrArg (· / 4) e))]

def Refines (p : Packed) (a : Asgn) : Prop :=
  p.variablesCount = a.length ∧ p.vars.length = numberOfChars a.length ∧
    ∀ (i : Nat) (v : Val), a[i]? = some v → p.getRaw i = some (valCode v)

theorem valCode_lt (v : Val) : valCode v < 4 := by
  cases v with
  | none => decide
  | some b => cases b <;> decide

theorem numberOfChars_eq (n : Nat) : numberOfChars n = (n + 3) / 4 := by
  cases n with
  | zero => rfl
  | succ m => rw [numberOfChars, if_neg (Nat.succ_ne_zero m)]; omega

theorem index_lt_numberOfChars {i n : Nat} (h : i < n) : i / 4 < numberOfChars n := by
  rw [numberOfChars_eq]
  omega

theorem numberOfChars_mono {n m : Nat} (h : n ≤ m) : numberOfChars n ≤ numberOfChars m := by
  rw [numberOfChars_eq, numberOfChars_eq]
  exact Nat.div_le_div_right (Nat.add_le_add_right h 3)

theorem setRaw_refines {p : Packed} {a : Asgn} (h : Refines p a) {i : Nat} (hi : i < a.length) (v : Val) :
    Refines (p.setRaw i (valCode v)) (Glue.set a i v) := by
  obtain ⟨h1, h2, h3⟩ := h
  have hl := setRaw_length p i (valCode v)
  refine ⟨by simp [hl.2, h1, Glue.set], by simp [hl.1, h2, Glue.set], ?_⟩
  intro j w hj
  rw [getRaw_setRaw p i j _ (valCode_lt v) (by rw [h2]; exact index_lt_numberOfChars hi)]
  simp only [Glue.set] at hj
  by_cases hij : i = j
  · subst hij
    rw [List.getElem?_set_self hi] at hj
    cases hj
    simp
  · rw [List.getElem?_set_ne hij] at hj
    simp [hij, h3 j w hj]

/-- the loop `for (i = from; …) SetIthVariableValue(i, vals[i - from])` -/
theorem setFrom_spec : ∀ (vals : List Val) (p : Packed) (i : Nat), (i + vals.length) ≤ p.variablesCount →
    p.vars.length = numberOfChars p.variablesCount →
    (setFrom p i vals).variablesCount = p.variablesCount ∧ (setFrom p i vals).vars.length = p.vars.length ∧
      ∀ j, (setFrom p i vals).getRaw j = if i ≤ j ∧ j < i + vals.length then (vals[j - i]?).map valCode else p.getRaw j
  | [], p, i, _, _ => ⟨rfl, rfl, fun j => (if_neg (fun h => Nat.lt_irrefl _ (Nat.lt_of_le_of_lt h.1 h.2))).symm⟩
  | v :: r, p, i, hb, hl => by
    rw [List.length_cons] at hb
    have hlen := setRaw_length p i (valCode v)
    have ih := setFrom_spec r (p.setRaw i (valCode v)) (i + 1) (by rw [hlen.2]; omega) (by rw [hlen.1, hlen.2]; exact hl)
    rw [setFrom]
    refine ⟨ih.1.trans hlen.2, ih.2.1.trans hlen.1, fun j => ?_⟩
    rw [ih.2.2 j, getRaw_setRaw p i j _ (valCode_lt v) (by rw [hl]; exact index_lt_numberOfChars (by omega)),
      List.length_cons]
    by_cases hij : i = j
    · subst hij
      rw [if_neg (by omega), if_pos rfl, if_pos (by omega), Nat.sub_self]
      rfl
    · rw [if_neg hij]
      by_cases h1 : i + 1 ≤ j ∧ j < i + 1 + r.length
      · rw [if_pos h1, if_pos (by omega), show j - i = (j - (i + 1)) + 1 by omega, List.getElem?_cons_succ]
      · rw [if_neg h1, if_neg (by omega)]

/-- every constructor (from a size, from (size, number), from a string, the copy): `vars_(numberOfChars(n))` zeroed, then
all variables written -/
theorem ofAsgn_refines (a : Asgn) : Refines (ofAsgn a) a := by
  unfold ofAsgn
  have := setFrom_spec a ⟨a.length, List.replicate (numberOfChars a.length) 0#8⟩ 0 (by simp) (by simp)
  refine ⟨this.1, by rw [this.2.1]; simp, ?_⟩
  intro i v hi
  rw [this.2.2 i]
  have hlt : i < a.length := by
    cases Nat.lt_or_ge i a.length with
    | inl h => exact h
    | inr h => rw [List.getElem?_eq_none h] at hi; cases hi
  rw [if_pos (by omega), Nat.sub_zero, hi]
  rfl

theorem resize_getElem? (l : List (BitVec 8)) (k m : Nat) (hk : l.length ≤ k) (hm : m < l.length) : (resize l k)[m]? = l[m]? := by
  unfold resize
  rw [List.take_of_length_le hk, List.getElem?_append_left hm]

theorem resize_length (l : List (BitVec 8)) (k : Nat) (hk : l.length ≤ k) : (resize l k).length = k := by
  unfold resize
  rw [List.take_of_length_le hk]
  simp; omega

/-- `AddVariablesUpTo` (the new values are `DONT_CARE`) and `append` (the new values are those of the argument) as coded:
enlarge `variablesCount_`, `vars_.resize(…)`, write the new variables -/
theorem extend_refines {p : Packed} {a : Asgn} (h : Refines p a) (vals : List Val) : Refines (p.extend vals) (a ++ vals) := by
  obtain ⟨h1, h2, h3⟩ := h
  unfold extend
  have hmono : p.vars.length ≤ numberOfChars (p.variablesCount + vals.length) := by
    rw [h2, h1]; exact numberOfChars_mono (by omega)
  have := setFrom_spec vals ⟨p.variablesCount + vals.length, resize p.vars (numberOfChars (p.variablesCount + vals.length))⟩
    p.variablesCount (by simp) (by simp [resize_length _ _ hmono])
  refine ⟨by rw [this.1]; simp [h1], ?_, ?_⟩
  · rw [this.2.1]
    show (resize p.vars (numberOfChars (p.variablesCount + vals.length))).length = numberOfChars (a ++ vals).length
    rw [resize_length _ _ hmono, h1, List.length_append]
  intro j v hj
  rw [this.2.2 j]
  by_cases hlt : j < a.length
  · rw [List.getElem?_append_left hlt] at hj
    have hn : ¬ (p.variablesCount ≤ j ∧ j < p.variablesCount + vals.length) := by omega
    rw [if_neg hn]
    have := h3 j v hj
    unfold getRaw at this ⊢
    simp only
    rw [resize_getElem? _ _ _ hmono (by rw [h2, indexOfChar_eq]; exact index_lt_numberOfChars hlt)]
    exact this
  · rw [List.getElem?_append_right (by omega)] at hj
    have hjl : j - a.length < vals.length := by
      cases Nat.lt_or_ge (j - a.length) vals.length with
      | inl h => exact h
      | inr h => rw [List.getElem?_eq_none h] at hj; cases hj
    have hp : p.variablesCount ≤ j ∧ j < p.variablesCount + vals.length := by omega
    rw [if_pos hp, h1, hj]
    rfl

theorem codeVal?_valCode (v : Val) : codeVal? (valCode v) = some v := by
  cases v with
  | none => rfl
  | some b => cases b <;> rfl

/-- reading all variables back (`GetIthVariableValue(0 … length()-1)`, what `ToString` does) gives the abstract sequence -/
theorem refines_abs {p : Packed} {a : Asgn} (h : Refines p a) : p.abs = a.map some := by
  obtain ⟨h1, _, h3⟩ := h
  unfold abs
  apply List.ext_getElem?
  intro i
  simp only [List.getElem?_map, List.getElem?_range', h1]
  by_cases hi : i < a.length
  · have : a[i]? = some a[i] := List.getElem?_eq_getElem hi
    rw [List.getElem?_range hi, this]
    simp [h3 i _ this, codeVal?_valCode]
  · rw [List.getElem?_eq_none (by simp; omega), List.getElem?_eq_none (by omega)]
    rfl

/-- example: five variables occupy two characters; the second write does not disturb the neighbours -/
example : (ofAsgn [some true, none, some false, none, some true]).vars = [0xde#8, 0x02#8] ∧
    ((ofAsgn [some true, none, some false, none, some true]).setRaw 1 (valCode (some false))).abs =
      [some (some true), some (some false), some (some false), some none, some (some true)] := by decide +kernel

end Vata.Glue.Packed
