import Vata.FunctorCachesDownOpt
import Vata.Proofs.FunctorHeap
/-!
# The heap of the downward algorithm: invariant of `lteCache`, the comparisons and the antichain operations (C01, C07)

Model: `Vata/FunctorCachesDown.lean`.  The heap, the allocator, the deaths and the deleter are those of the upward algorithm,
so the invariant is the one of `Vata/Proofs/FunctorHeap.lean` (`FCU.HInvG`: every entry of `lteCache` mentions LIVE
addresses only and stores the memoised comparison of the values at those addresses) with the comparison the downward functor
memoises, `NonCachedLte` = `InclDown.setLe o`; `evalTransitionsCache` is not used downward and stays empty.  It is kept by
`biggerTypeCache.lookup` with any allocator, by `SetComparerSmaller` and by the deaths with the library's deleter.  Specific
to the downward functor: `SetComparerSmaller` answers `true` on identical pointers without looking at the sets (so `leB`
must be reflexive); the loops `isInWorkset` / `contains` / `refine` are walks that stop at the first hit or erase every hit
(`find_spec`, `erase_spec` of `Vata/Proofs/LockStep.lean`); every insertion into an antichain has one
shape (`insC`).  On a heap with the invariant they compute what the value-level tests of `InclDown` compute.
-/
namespace Vata
namespace FCD
open Vata.InclDown Vata.CM
open Vata.FCU (Heap hval hLookup hCollect Live allocA deleter HInvG LteSpec)

abbrev HInvD (o : Ord) (h : Heap) : Prop := HInvG False (setLe o) ⟨[], []⟩ h

theorem HInvD.empty (o : Ord) : HInvD o {} := HInvG.empty _

theorem setLe_refl {o : Ord} (hr : ∀ q, o.leB q q = true) (P : List Nat) : setLe o P P = true := by
  simp only [setLe, List.all_eq_true, List.any_eq_true]
  intro s hs
  exact ⟨s, hs, hr s⟩

theorem idOrd_refl : ∀ q, idOrd.leB q q = true := fun q => by simp [idOrd]

theorem ordOf_refl (R : Rel) (A B : TA) : ∀ q, (ordOf R A B).leB q q = true := fun q => by simp [ordOf]

theorem heapOKD_of_HInvD {o : Ord} {h : Heap} (hi : HInvD o h) : heapOKD o h = true := by
  unfold heapOKD
  simp only [List.all_eq_true, Bool.and_eq_true, List.contains_iff_mem, beq_iff_eq]
  intro e he
  have hk : aget h.lte.store (e.1.1, e.1.2) = some e.2 := by
    exact aget_of_mem_nodup hi.li.k0 he
  obtain ⟨ha, hb, hv⟩ := hi.sl _ _ _ hk
  exact ⟨⟨ha, hb⟩, hv⟩

/-- `biggerTypeCache.lookup(v)` with any allocator -/
theorem hLookupD_spec (pick : List Nat → Nat) {o : Ord} {h : Heap} (hi : HInvD o h) (v : List Nat) :
    HInvD o (hLookup pick h v).1 ∧ Live (hLookup pick h v).1 (hLookup pick h v).2 ∧
    hval (hLookup pick h v).1 (hLookup pick h v).2 = v ∧
    (∀ a, Live h a → Live (hLookup pick h v).1 a ∧ hval (hLookup pick h v).1 a = hval h a) :=
  let ⟨_, _, _, hl, hv, hold, _⟩ := FCU.hLookup_frame pick hi.na v
  ⟨hi.lookup pick v, hl, hv, hold⟩

theorem hCollectD_spec {o : Ord} {h : Heap} (hi : HInvD o h) (roots : List Nat) :
    HInvD o (hCollect .lib roots h) ∧
    (∀ a, a ∈ roots → Live h a → Live (hCollect .lib roots h) a ∧ hval (hCollect .lib roots h) a = hval h a) :=
  ⟨hi.collect roots, fun _ => FCU.hCollect_keeps _⟩

/-- what `smallerComparer_(x, a)` (`flip = false`) / `biggerComparer_(x, a)` (`flip = true`) answer on the values -/
def cmpS (o : Ord) (flip : Bool) (X A : List Nat) : Bool := if flip then setLe o A X else setLe o X A

/-- the comparers: `SetComparerSmaller` answers `true` on identical pointers, which is right when `leB` is reflexive -/
theorem cmpO_spec {o : Ord} (hr : ∀ q, o.leB q q = true) (flip : Bool) : LteSpec (HInvD o) (cmpO o flip) (cmpS o flip) := by
  have hlte : LteSpec (HInvD o) (hLteO o) (setLe o) := fun h a b hi ha hb => by
    unfold hLteO
    split
    · next e => subst e; exact ⟨(setLe_refl hr _).symm, hi, rfl⟩
    · exact ⟨(hi.lteLookup ha hb).1, (hi.lteLookup ha hb).2, rfl⟩
  intro h x a hi hx ha
  cases flip
  · exact hlte h x a hi hx ha
  · exact hlte h a x hi ha hx

/-- the value of the comparison of the element at `xa` with the argument at `a` -/
abbrev cmpV (o : Ord) (flip : Bool) (h : Heap) (xa a : Nat) : Bool := cmpS o flip (hval h xa) (hval h a)

section Loops
variable {α : Type} {o : Ord} (hr : ∀ q, o.leB q q = true) (flip : Bool) (kt : α → Bool) (ad : α → Nat) (a : Nat)
include hr

/-- the walks on a heap `h` that differs from `h0` in `lteCache` only (`hs`; every comparison leaves such a heap): answers
and liveness are read on `h0`, so a chain of walks is read against the heap it started from -/
theorem findC_spec (X : List α) {h h0 : Heap} (hs : h.store = h0.store) (hi : HInvD o h) (ha : Live h0 a)
    (hl : ∀ x, x ∈ X → Live h0 (ad x)) :
    (findC o flip kt ad a X h).2 = X.find? (fun x => kt x && cmpV o flip h0 (ad x) a) ∧
    HInvD o (findC o flip kt ad a X h).1 ∧ (findC o flip kt ad a X h).1.store = h0.store := by
  have := find_spec (F := findC o flip kt ad a) (hit := some) (miss := none) (cmpO_spec hr flip)
    (fun _ _ e => by funext b; exact FCU.hval_store e b) (fun _ => rfl) (fun _ _ _ => rfl) X h hi
    ((FCU.live_store hs a).mpr ha) (fun x hx => (FCU.live_store hs _).mpr (hl x hx))
  rwa [show ∀ x : Option α, x.elim none some = x from fun x => by cases x <;> rfl, hs,
    show hval h = hval h0 from funext (FCU.hval_store hs)] at this

theorem refC_spec (X : List α) {h h0 : Heap} (hs : h.store = h0.store) (hi : HInvD o h) (ha : Live h0 a)
    (hl : ∀ x, x ∈ X → Live h0 (ad x)) :
    (refC o flip kt ad a X h).2 = X.filter (fun x => !(kt x && cmpV o flip h0 (ad x) a)) ∧
    HInvD o (refC o flip kt ad a X h).1 ∧ (refC o flip kt ad a X h).1.store = h0.store := by
  have hL : LteSpec (HInvD o) (fun s b x => cmpO o flip s x b) (fun A X => cmpS o flip X A) :=
    fun s b x hi hb hx => cmpO_spec hr flip s x b hi hx hb
  have := erase_spec (F := refC o flip kt ad a) hL
    (fun _ _ e => by funext b; exact FCU.hval_store e b) (fun _ => rfl) (fun _ _ _ => rfl) X h hi
    ((FCU.live_store hs a).mpr ha) (fun x hx => (FCU.live_store hs _).mpr (hl x hx))
  rwa [hs, show hval h = hval h0 from funext (FCU.hval_store hs)] at this

end Loops

/-- every insertion into an antichain (`processFoundInclusion`, `processFoundNoninclusion`, the merge of an antecedent):
`if (!X.contains(…, a, cmp₁)) { X.refine(…, a, cmp₂); X.insert(e); }` -/
def insC {α : Type} (o : Ord) (f1 : Bool) (k1 : α → Bool) (f2 : Bool) (k2 : α → Bool) (ad : α → Nat) (a : Nat) (e : α)
    (X : List α) (h : Heap) : Heap × List α :=
  let r1 := findC o f1 k1 ad a X h
  if r1.2.isSome then (r1.1, X)
  else
    let r2 := refC o f2 k2 ad a X r1.1
    (r2.1, r2.2 ++ [e])

/-- read through `d` (the handles replaced by the values) the insertion is the one of the cache-free antichain: `q₁`, `q₂`
are the two tests on the values -/
theorem insC_spec {α β : Type} {o : Ord} (hr : ∀ q, o.leB q q = true) {f1 f2 : Bool} {k1 k2 : α → Bool} {ad : α → Nat}
    {a : Nat} (e : α) {X : List α} {h h0 : Heap} (hs : h.store = h0.store) (hi : HInvD o h) (ha : Live h0 a)
    (hl : ∀ x, x ∈ X → Live h0 (ad x)) (d : α → β) {q1 q2 : β → Bool}
    (h1 : ∀ x, (k1 x && cmpV o f1 h0 (ad x) a) = q1 (d x)) (h2 : ∀ x, (k2 x && cmpV o f2 h0 (ad x) a) = q2 (d x)) :
    (insC o f1 k1 f2 k2 ad a e X h).2.map d =
      (if (X.map d).any q1 then X.map d else (X.map d).filter (fun y => !q2 y) ++ [d e]) ∧
    HInvD o (insC o f1 k1 f2 k2 ad a e X h).1 ∧ (insC o f1 k1 f2 k2 ad a e X h).1.store = h0.store ∧
    (∀ x, x ∈ (insC o f1 k1 f2 k2 ad a e X h).2 → x ∈ X ∨ x = e) := by
  obtain ⟨e1, m1, c1⟩ := findC_spec hr f1 k1 ad a X hs hi ha hl
  obtain ⟨e2, m2, c2⟩ := refC_spec hr f2 k2 ad a X c1 m1 ha hl
  unfold insC
  simp only [e1, isSome_find?, List.any_map, Function.comp_def, h1]
  split
  · exact ⟨rfl, m1, c1, fun x hx => Or.inl hx⟩
  · refine ⟨?_, m2, c2, fun x hx => ?_⟩
    · simp only [e2, List.map_append, List.filter_map, Function.comp_def, h2, List.map_cons, List.map_nil]
    · rcases List.mem_append.mp (e2 ▸ hx) with hx | hx
      · exact Or.inl (List.mem_filter.mp hx).1
      · exact Or.inr (List.mem_singleton.mp hx)

theorem derefP_store {h h' : Heap} (hs : h'.store = h.store) : derefP h' = derefP h := by
  funext x; simp only [derefP, FCU.hval_store hs]

theorem derefN_store {h h' : Heap} (hs : h'.store = h.store) : derefN h' = derefN h := by
  funext x; simp only [derefN, FCU.hval_store hs]

/-- `isInWorkset` / `isImpliedByChildren` -/
theorem coversC_spec {o : Ord} (hr : ∀ q, o.leB q q = true) (X : List CP) (p a : Nat) {h h0 : Heap}
    (hs : h.store = h0.store) (hi : HInvD o h) (ha : Live h0 a) (hl : ∀ x, x ∈ X → Live h0 x.2) :
    (coversC o X p a h).2 = covers o (X.map (derefP h0)) p (hval h0 a) ∧
    HInvD o (coversC o X p a h).1 ∧ (coversC o X p a h).1.store = h0.store := by
  obtain ⟨e, m, c⟩ := findC_spec hr false (fun x : CP => o.leA p x.1) (·.2) a X hs hi ha hl
  refine ⟨?_, m, c⟩
  simp only [coversC, e, isSome_find?, covers, List.any_map]
  rfl

/-- `isNoninclusionImplied` -/
theorem niFindC_spec {o : Ord} (hr : ∀ q, o.leB q q = true) (ni : List CN) (p a : Nat) {h h0 : Heap}
    (hs : h.store = h0.store) (hi : HInvD o h) (ha : Live h0 a) (hl : ∀ x, x ∈ ni → Live h0 x.2.1) :
    ((niFindC o ni p a h).2).map (derefN h0) = niFind o (ni.map (derefN h0)) p (hval h0 a) ∧
    HInvD o (niFindC o ni p a h).1 ∧ (niFindC o ni p a h).1.store = h0.store := by
  obtain ⟨e, m, c⟩ := findC_spec hr true (fun x : CN => o.leA x.1 p) (·.2.1) a ni hs hi ha hl
  refine ⟨?_, m, c⟩
  simp only [niFindC, e, niFind, List.find?_map]
  rfl

/-- `processFoundInclusion` -/
theorem ccAddC_spec {o : Ord} (hr : ∀ q, o.leB q q = true) (cc : List CP) (p a : Nat) {h : Heap} (hi : HInvD o h)
    (ha : Live h a) (hl : ∀ x, x ∈ cc → Live h x.2) :
    (ccAddC o cc p a h).2.map (derefP h) = ccAdd o (cc.map (derefP h)) p (hval h a) ∧
    HInvD o (ccAddC o cc p a h).1 ∧ (ccAddC o cc p a h).1.store = h.store ∧
    (∀ x, x ∈ (ccAddC o cc p a h).2 → x ∈ cc ∨ x = (p, a)) :=
  insC_spec hr (f1 := false) (f2 := true) (p, a) rfl hi ha hl (derefP h) (fun _ => rfl) (fun _ => rfl)

/-- `processFoundNoninclusion` -/
theorem niAddC_spec {o : Ord} (hr : ∀ q, o.leB q q = true) (ni : List CN) (p a : Nat) (w : Tree) {h : Heap} (hi : HInvD o h)
    (ha : Live h a) (hl : ∀ x, x ∈ ni → Live h x.2.1) :
    (niAddC o ni p a w h).2.map (derefN h) = niAdd o (ni.map (derefN h)) p (hval h a) w ∧
    HInvD o (niAddC o ni p a w h).1 ∧ (niAddC o ni p a w h).1.store = h.store ∧
    (∀ x, x ∈ (niAddC o ni p a w h).2 → x ∈ ni ∨ x = (p, a, w)) := by
  have := insC_spec hr (f1 := true) (f2 := false) (p, a, w) rfl hi ha hl (derefN h)
    (q1 := fun x => o.leA x.1 p && setLe o (hval h a) x.2.1) (q2 := fun x => o.leA p x.1 && setLe o x.2.1 (hval h a))
    (fun _ => rfl) (fun _ => rfl)
  rwa [← isSome_find?] at this

/-- one turn of the merge of a returned antecedent -/
theorem antAddC_spec {o : Ord} (hr : ∀ q, o.leB q q = true) (ant : List CP) (p a : Nat) {h h0 : Heap}
    (hs : h.store = h0.store) (hi : HInvD o h) (ha : Live h0 a) (hl : ∀ x, x ∈ ant → Live h0 x.2) :
    HInvD o (antAddC o ant p a h).1 ∧ (antAddC o ant p a h).1.store = h0.store ∧
    (∀ x, x ∈ (antAddC o ant p a h).2 → x ∈ ant ∨ x = (p, a)) :=
  (insC_spec hr (f1 := false) (f2 := false) (p, a) hs hi ha hl id (q1 := fun x => o.leA x.1 p && cmpV o false h0 x.2 a)
    (q2 := fun x => o.leA x.1 p && cmpV o false h0 x.2 a) (fun _ => rfl) (fun _ => rfl)).2

end FCD
end Vata
