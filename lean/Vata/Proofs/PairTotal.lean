import Vata.Proofs.MultiTotal
/-!
# Totality of the two pair engines: `inclRef` (tree automata) and `W.inclRef` (word automata)

Both have a fuel and the same loop shape as `msat` (`Vata/Proofs/SatTotal.lean`), over pairs of state sets:

* `sat A B` (`Vata/Basic.lean`) starts from `[]` and closes under the symbols of `A` only; invariant `Gen A B`
  (every stored pair is the profile of a tree); universe: pairs of subsets of the parent states; bound
  `fuelBoundM [A, B] = 2^|parents A| · 2^|parents B|` – the same number as for `inclM`.
* `W.sat A B` (`Vata/Nfa.lean`) starts from `[(A.start, B.start)]` and closes under the symbols of `A`; invariant
  `W.Gen A B` (every stored pair is the pair of state sets after some word); universe: pairs of subsets of
  "start states and transition targets"; bound `fuelBoundW [A, B]`.
-/
namespace Vata
open Vata.Total

namespace Total

theorem profEqB_isEqv : IsEqv profEqB where
  refl := fun _ => profEqB_iff.mpr ⟨SetEq.refl _, SetEq.refl _⟩
  symm := fun _ _ h => profEqB_iff.mpr (ProfEq.symm (profEqB_iff.mp h))
  trans := fun _ _ _ h h' => profEqB_iff.mpr (ProfEq.trans (profEqB_iff.mp h) (profEqB_iff.mp h'))

/-- the pairs of a sublist of `U` and a sublist of `V` -/
def subPairs (U V : List Nat) : List (List Nat × List Nat) := pairUniv (InclUp.subsets U) V

theorem length_subPairs (U V : List Nat) : (subPairs U V).length = 2 ^ U.length * 2 ^ V.length := by
  rw [subPairs, length_pairUniv, InclUp.length_subsets]

theorem subPairs_cover (U V s s' : List Nat) (h : ∀ x, x ∈ s → x ∈ U) (h' : ∀ x, x ∈ s' → x ∈ V) :
    ∃ u, u ∈ subPairs U V ∧ (∀ x, x ∈ u.1 ↔ x ∈ s) ∧ (∀ x, x ∈ u.2 ↔ x ∈ s') := by
  obtain ⟨a, ha, hae⟩ := subsets_cover U s h
  obtain ⟨b, hb, hbe⟩ := subsets_cover V s' h'
  exact ⟨(a, b), List.mem_flatMap.mpr ⟨a, ha, List.mem_map.mpr ⟨b, hb, rfl⟩⟩, hae, hbe⟩

theorem fuelBoundM_pair (A B : TA) : fuelBoundM [A, B] = 2 ^ (parents A).length * 2 ^ (parents B).length := by
  simp only [fuelBoundM, Nat.mul_one]

theorem sat_isSome (A B : TA) (fuel : Nat) (h : fuelBoundM [A, B] ≤ fuel) : (sat A B fuel []).isSome = true := by
  rw [sat_eq]
  refine gsat_isSome profEqB_isEqv (step A B) (subPairs (parents A) (parents B)) (Gen A B) ?_ ?_ fuel [] ?_ ?_
  · exact gsat_gen _ (gen_step A B)
  · intro Q hQ p hp
    obtain ⟨t, ht⟩ := gen_step A B Q hQ p hp
    obtain ⟨u, hu, h1, h2⟩ := subPairs_cover (parents A) (parents B) (reach A t) (reach B t)
      (reach_sub_parents A t) (reach_sub_parents B t)
    have hut : ProfEq u (profOf A B t) := ⟨h1, h2⟩
    exact ⟨u, hu, profEqB_iff.mpr (hut.trans ht.symm)⟩
  · intro p hp; cases hp
  · apply Nat.le_trans (uncov_le_length _ _ _)
    rw [length_subPairs, ← fuelBoundM_pair]
    exact h

end Total

/-- totality of the pair engine of `Vata/Basic.lean`, with the bound of `inclM` -/
theorem inclRef_decides (A B : TA) (fuel : Nat) (h : fuelBoundM [A, B] ≤ fuel) :
    ∃ b, inclRef A B fuel = some b ∧ (b = true ↔ Incl A B) :=
  Total.decides (Option.isSome_map.trans (Total.sat_isSome A B fuel h)) (fun b hb => inclRef_iff A B fuel b hb)

theorem inclRef_eq_inclM (A B : TA) (fuel fuel' : Nat) (h : fuelBoundM [A, B] ≤ fuel) (h' : fuelBoundM [A, B] ≤ fuel') :
    inclRef A B fuel = inclM A B fuel' :=
  Total.decides_eq (inclRef_decides A B fuel h) (inclM_decides A B fuel' h')

namespace W

theorem pairEqB_isEqv : IsEqv pairEqB where
  refl := fun _ => pairEqB_iff.mpr ⟨fun _ => Iff.rfl, fun _ => Iff.rfl⟩
  symm := fun _ _ h => by
    have := pairEqB_iff.mp h
    exact pairEqB_iff.mpr ⟨fun x => (this.1 x).symm, fun x => (this.2 x).symm⟩
  trans := fun _ _ _ h h' => by
    have h1 := pairEqB_iff.mp h
    have h2 := pairEqB_iff.mp h'
    exact pairEqB_iff.mpr ⟨fun x => (h1.1 x).trans (h2.1 x), fun x => (h1.2 x).trans (h2.2 x)⟩

theorem stepW_sub_targets (N : NFA) (S : List Nat) (a : Nat) : ∀ q, q ∈ stepW N S a → q ∈ nfaTargets N := by
  intro q hq
  simp only [stepW, List.mem_map, List.mem_filter] at hq
  obtain ⟨e, ⟨he, _⟩, rfl⟩ := hq
  unfold nfaTargets
  rw [mem_dedupL, List.mem_append]
  exact Or.inr (List.mem_map.mpr ⟨e, he, rfl⟩)

theorem run_sub_targets (N : NFA) (w : List Nat) : ∀ q, q ∈ run N w → q ∈ nfaTargets N := by
  refine List.foldlRecOn w (stepW N) (motive := fun S => ∀ q, q ∈ S → q ∈ nfaTargets N) (fun q hq => ?_)
    (fun S _ a _ => stepW_sub_targets N S a)
  unfold nfaTargets
  rw [mem_dedupL, List.mem_append]
  exact Or.inl hq

theorem fuelBoundW_pair (A B : NFA) :
    fuelBoundW [A, B] = 2 ^ (nfaTargets A).length * 2 ^ (nfaTargets B).length := by
  simp only [fuelBoundW, List.map_cons, List.map_nil, fuelBoundM, Nat.mul_one, Total.parents_toTA]

theorem sat_isSome (A B : NFA) (fuel : Nat) (h : fuelBoundW [A, B] ≤ fuel) :
    (sat A B fuel [(A.start, B.start)]).isSome = true := by
  rw [sat_eq]
  refine gsat_isSome pairEqB_isEqv (stepP A B) (subPairs (nfaTargets A) (nfaTargets B))
    (fun P => Gen A B P ∧ HasInit A B P) ?_ ?_ fuel _ ?_ ?_
  · exact addNew_inv A B
  · intro Q hQ p hp
    obtain ⟨w, hw⟩ := gen_step A B Q hQ.1 p hp
    obtain ⟨u, hu, h1, h2⟩ := subPairs_cover (nfaTargets A) (nfaTargets B) (run A w) (run B w)
      (run_sub_targets A w) (run_sub_targets B w)
    refine ⟨u, hu, pairEqB_iff.mpr ⟨?_, ?_⟩⟩
    · intro x; exact (h1 x).trans (hw.1 x).symm
    · intro x; exact (h2 x).trans (hw.2 x).symm
  · constructor
    · intro p hp
      simp only [List.mem_singleton] at hp
      subst hp
      exact ⟨[], ⟨fun _ => Iff.rfl, fun _ => Iff.rfl⟩⟩
    · exact ⟨_, List.mem_singleton.mpr rfl, ⟨fun _ => Iff.rfl, fun _ => Iff.rfl⟩⟩
  · apply Nat.le_trans (uncov_le_length _ _ _)
    rw [length_subPairs, ← fuelBoundW_pair]
    exact h

/-- totality of the pair engine of `Vata/Nfa.lean`, with the bound of `inclW` -/
theorem inclRef_decides (A B : NFA) (fuel : Nat) (h : fuelBoundW [A, B] ≤ fuel) :
    ∃ b, inclRef A B fuel = some b ∧ (b = true ↔ InclW A B) :=
  Total.decides (Option.isSome_map.trans (sat_isSome A B fuel h)) (fun b hb => inclRef_iff A B fuel b hb)

theorem inclRef_eq_inclW (A B : NFA) (fuel fuel' : Nat) (h : fuelBoundW [A, B] ≤ fuel) (h' : fuelBoundW [A, B] ≤ fuel') :
    inclRef A B fuel = inclW A B fuel' :=
  Total.decides_eq (inclRef_decides A B fuel h) (inclW_decides A B fuel' h')

end W

namespace PairTotalEx
open MultiTotalEx

example : fuelBoundM [exEven, exAll] ≤ 8 ∧ inclRef exEven exAll 8 = some true ∧ inclRef exAll exEven 8 = some false :=
  ⟨by decide +kernel, by decide +kernel, by decide +kernel⟩
example : ∃ b, inclRef exAll exEven 8 = some b ∧ (b = true ↔ Incl exAll exEven) :=
  inclRef_decides exAll exEven 8 (by decide +kernel)
/-- with too little fuel the pair engine does answer `none` -/
example : inclRef exAll exEven 0 = none := by decide +kernel
example : fuelBoundW [nAB, nAll] ≤ 8 ∧ W.inclRef nAB nAll 8 = some true ∧ W.inclRef nAll nAB 8 = some false :=
  ⟨by decide +kernel, by decide +kernel, by decide +kernel⟩
example : ∃ b, W.inclRef nAll nAB 8 = some b ∧ (b = true ↔ InclW nAll nAB) :=
  W.inclRef_decides nAll nAB 8 (by decide +kernel)
example : W.inclRef nAll nAB 0 = none := by decide +kernel

end PairTotalEx

end Vata
