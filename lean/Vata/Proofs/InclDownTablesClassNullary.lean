import Vata.Proofs.InclDownTablesClassDet
/-!
# Run for run when the only classes of the left table are classes of NULLARY symbols

`SymDetPos n ar a`: two ranked symbols `< 2 ^ n` that select the same non-empty leaf of `a` are equal OR nullary (`ar f = 0`) – the
left table may have states with several leaf symbols (`a → q`, `b → q`: the automata of defect D9), but no two symbols of arity `> 0`
of a state share their set of children tuples.  On a nullary call the functor does not touch its state
(`if (arity == 0) { if (!rhs.empty()) return; … }`), and a second call with the same two leaves after a first one that returned
`holds` returns `holds` again.  Hence the run of the code (one call per pair of leaves) and the run of the abstract model on the
dump (one call per ranked symbol) are EQUAL: `bodyT_eq_nullary` (with `expandT_eq_of_body`, `runTD_eq_of_body`).

The code runs the functor over the first occurrences of the pairs of leaves among the ranked symbols (`bodyT_firsts`), the model over
all ranked symbols (`body_items`); a repeated pair has an empty left leaf or is nullary (`forAllL_firsts_null`).
-/
namespace Vata
namespace InclDownTables
open M BddAbs BddAbsTD BddTraverse InclDown
open InclUp (normS prodWit Wit)

def SymDetPos (n : Nat) (ar : Nat → Nat) (a : Node LS) : Prop :=
  ∀ f g, f < 2 ^ n → g < 2 ^ n → eval a (bits f) ≠ [] → eval a (bits f) = eval a (bits g) → f = g ∨ ar f = 0

theorem symDetPos_of_symDet {n : Nat} {ar : Nat → Nat} {a : Node LS} (h : SymDet n a) : SymDetPos n ar a :=
  fun f g hf hg hne he => Or.inl (h f g hf hg hne he)

theorem procLeaf_nullary (call1 call2 : Call) (wit : Wit) (post : List Nat → List Nat) (f : Nat) {L W : LS}
    (hL : L ≠ []) (h0 : (L.headD []).length = 0) (cc : List Pair) (st : St) :
    procLeaf call1 call2 wit post f L W cc st =
      if W.isEmpty then some (.fails (.node f []), cc, st) else some (.holds, cc, st) := by
  unfold procLeaf
  have h1 : ¬ L.isEmpty = true := by simpa [List.isEmpty_iff] using hL
  simp only [h1, if_false, h0, if_true, Bool.false_eq_true]

def RNull (i j : It) : Prop := i.2 = j.2 → i.2.1 ≠ [] → (i.2.1.headD []).length = 0

theorem forAllL_firsts_null (call1 call2 : Call) (wit : Wit) (post : List Nat → List Nat) (l : List It) :
    ∀ (seen : List (LS × LS)) (cc : List Pair) (st : St),
      (∀ i, i ∈ l → i.2 ∈ seen → ∀ f cc st, procLeaf call1 call2 wit post f i.2.1 i.2.2 cc st = some (.holds, cc, st)) →
      l.Pairwise RNull →
      forAllL (fItem call1 call2 wit post) l cc st = forAllL (fItem call1 call2 wit post) (firsts l seen) cc st := by
  induction l with
  | nil => exact fun _ _ _ _ _ => rfl
  | cons i l ih =>
    intro seen cc st H1 H2
    obtain ⟨h2a, h2b⟩ := List.pairwise_cons.mp H2
    have H1' := fun j hj => H1 j (List.mem_cons_of_mem _ hj)
    by_cases hm : i.2 ∈ seen
    · rw [firsts_cons_pos hm, forAllL, fItem, H1 i List.mem_cons_self hm]
      exact ih seen cc st H1' h2b
    · rw [firsts_cons_neg hm, forAllL, forAllL]
      rcases hr : fItem call1 call2 wit post i cc st with _ | ⟨_ | w, cc', st'⟩
      · rfl
      · refine ih _ cc' st' (fun j hj hm' => ?_) h2b
        rcases List.mem_append.mp hm' with hm' | hm'
        · exact H1' j hj hm'
        · -- `j` repeats `i`: the left leaf is empty, or `i` is nullary and returned `holds`, so its right leaf is not empty
          have e := List.mem_singleton.mp hm'
          intro f c2 s2
          by_cases hne : i.2.1 = []
          · rw [e, hne]; rfl
          · have h0 := h2a j hj e.symm hne
            rw [fItem, procLeaf_nullary call1 call2 wit post i.1 hne h0] at hr
            rw [e, procLeaf_nullary call1 call2 wit post f hne h0]
            split at hr
            · cases hr
            · next hW => rw [if_neg hW]
      · rfl

theorem syms_pairwise_null {n : Nat} {ar : Nat → Nat} {a b : Node LS} (hd : SymDetPos n ar a)
    (hrk : ∀ c ks, c < 2 ^ n → ks ∈ eval a (bits c) → ks.length = ar c) : (symItems a b 0 (2 ^ n)).Pairwise RNull := by
  unfold symItems
  rw [List.pairwise_map]
  refine List.Pairwise.imp_of_mem ?_ (List.pairwise_lt_range (n := 2 ^ n))
  intro f g hf hg hlt e ne1
  simp only [Nat.zero_add] at e ne1 ⊢
  have hf' := List.mem_range.mp hf
  rcases hd f g hf' (List.mem_range.mp hg) ne1 (congrArg Prod.fst e) with h | h
  · omega
  · obtain ⟨ks, L, hL⟩ := List.exists_cons_of_ne_nil ne1
    rw [hL, List.headD_cons, hrk f ks hf' (by rw [hL]; exact List.mem_cons_self), h]

theorem bodyT_eq_nullary {n : Nat} {ar : Nat → Nat} {syms : List Nat} {TA TB : TableTD} (FA FB : List Nat)
    (h : Tabs n ar syms TA TB) (hd : ∀ p, SymDetPos n ar (getTD TA p))
    (call1 call2 : Call) (wit : Wit) (post : List Nat → List Nat) (p : Nat) (P : List Nat) (cc : List Pair) (st : St) :
    bodyT call1 call2 TA TB wit post p P cc st =
      body call1 call2 (pathOrder syms TA FA) (pathOrder syms TB FB) wit post p P cc st := by
  rw [bodyT_firsts h.okA h.okB, body_items FA FB h]
  exact (forAllL_firsts_null call1 call2 wit post _ [] cc st (fun _ _ hm => nomatch hm)
    (syms_pairwise_null (hd p) (fun c ks => h.okA.ranked p c ks))).symm

theorem arOf_rankOf (r : Rule) : arOf (rankOf r) = r.kids.length % 64 := by
  unfold arOf rankOf
  rw [Nat.mul_add_div (Nat.two_pow_pos 16), Nat.div_eq_of_lt (Nat.mod_lt _ (Nat.two_pow_pos 16)), Nat.add_zero]

/-- two rules with the same parent have the same ranked symbol, or are nullary, or have different sets of children tuples -/
def symDetPosRulesB (rs : List Rule) : Bool :=
  rs.all (fun r₁ => rs.all (fun r₂ =>
    r₁.parent != r₂.parent || rankOf r₁ == rankOf r₂ || r₁.kids.length % 64 == 0 ||
      !sameSetB (tuplesOfRank rs r₁.parent (rankOf r₁)) (tuplesOfRank rs r₂.parent (rankOf r₂))))

theorem symDetPos_ofRulesTD_iff (rs : List Rule) :
    (∀ p, SymDetPos 22 arOf (getTD (ofRulesTD rs) p)) ↔ symDetPosRulesB rs = true := by
  have h := symDetUpTo_ofRulesTD_iff rs (fun f => arOf f = 0)
  simp only [arOf_rankOf] at h
  simp only [symDetPosRulesB, List.all_eq_true, Bool.or_eq_true, bne_iff_ne, ne_eq, beq_iff_eq, Bool.not_eq_true']
  refine h.trans ⟨fun h r₁ h1 r₂ h2 => ?_, fun h r₁ h1 r₂ h2 hp => ?_⟩
  · by_cases hp : r₁.parent = r₂.parent
    · rcases h r₁ h1 r₂ h2 hp with hr | h0 | hs
      · exact Or.inl (Or.inl (Or.inr hr))
      · exact Or.inl (Or.inr h0)
      · exact Or.inr hs
    · exact Or.inl (Or.inl (Or.inl hp))
  · rcases h r₁ h1 r₂ h2 with ((hn | hr) | h0) | hs
    · exact absurd hp hn
    · exact Or.inl hr
    · exact Or.inr (Or.inl h0)
    · exact Or.inr (Or.inr hs)

example : symDetPosRulesB BddAbsEx.rsA = true ∧ symDetRulesB BddAbsEx.rsA = false := by decide +kernel
/-- two UNARY symbols with the same children: not covered -/
example : symDetPosRulesB [⟨5, [1], 2⟩, ⟨6, [1], 2⟩] = false := by decide +kernel

end InclDownTables
end Vata
