import Vata.Proofs.CounterRows
import Vata.Properties.C16_Discipline4
/-!
# C16 / C20 – the counter rows of the simulation engine: row size, allocator size, index bounds

> C20: the utility classes are used inside their (unchecked) preconditions.
> C16: `computeSimulation(partition, relation, size)` returns the greatest simulation inside the initial relation.

This file serves the part of C20 that is about MEMORY: `SharedCounter` (`src/util/shared_counter.hh`) indexes raw `size_t*`
blocks obtained from a `CachingArrayAllocator<size_t>` (`src/util/caching_allocator.hh`) with no check at all; that the indices
fit is a contract between two lines of the `SimulationEngine` constructor (`src/explicit_lts_sim.cc`):
```
rowSize_(SimulationEngine::getRowSize(lts.states())),        // used by SharedCounter: index / rowSize_, index % rowSize_,
                                                             //   data_[rowSize_] (reference count), memcpy(rowSize_ cells)
counterAllocator_(rowSize_ + 1),                             // every block has rowSize_ + 1 cells
```
A seeded change sized the allocator by `getRowSize(lts.labels()) + 1`: identical below 4096 states, a heap overflow from 4096
states on (blocks of 32 cells indexed up to 63).

## How the C++ is read into the model

* `SC.getRowSize` (`Vata/LtsUtil.lean`): `treshold = sqrt(states) >> 1; rowSize_ = 32; while (rowSize_ <= treshold) rowSize_ <<= 1;
  return rowSize_ - 1;` – the loop with fuel 64 (a `size_t` doubles at most 64 times).
* `CR.Ctor` / `CR.ctorAsCoded` / `CR.ctorVariant` (`Vata/CounterRows.lean`): the pair (`rowSize_`, allocator `size_`) as the
  constructor fixes it, as coded and in the seeded variant.
* **"allocated size" in the model**: `SC.alloc cfg` (the model of `allocator_()`) stores the list `SC.poisonRow cfg` of
  `cfg.rowSize + 1` cells at the block address in `Mem.cells`; the allocated size of block `p` in world `W` is
  `(W.mem.cells.get p).length`.  For `cfg = scCfg L poison` this is `getRowSize L.n + 1 = (ctorAsCoded L.n (labels L)).allocSize`
  (first clause of the theorem).  `SC.setCell` on a list is `List.set`, which silently ignores an index `≥ length`; therefore the
  bounds are stated on the INDICES (`CR.cellsOf`: every `row.data_[j]` of the member function's body, including the `memcpy`
  range and the reference-count cell `rowSize_`) and on the lengths of the blocks in the world at the moment of the call, not
  derived from "the model did not crash".  `CR.setFreshB` is the first access sequence to a fresh block with CHECKED writes and
  the allocator size as its own parameter.
* the engine's history of `SharedCounter` calls: `stateAfterJ` / `computeSimulationJ` (`Vata/LtsEngineCalls2.lean`), proved
  inside the call discipline by `C16_engine_discipline_SC`.

## What is abstracted

`cellsOf` lists the accesses in the BODY of the member function (an upper bound: `decr` on a row without data returns early,
`init` / `~SharedCounter` / `copyLabels` skip rows without data); only for `set` every listed access happens on every path
(both branches write `row.data_[colIndex]` and `row.data_[rowSize_]`).  Read-only `get` calls are not in the history (the engine
makes them only inside `assert`); its accesses (`key_`, `data_[rowIndex]`, `row.data_[colIndex]`) are those of `set`.  Bytes,
`sizeof(size_t)` and `operator new` are not modelled: a block is a list of cells.

## Hypotheses

Those of `C16_engine_discipline_SC` (engine preconditions; `labels L * L.n < 2 ^ 64`, see `C16_Discipline4.lean`).
-/
namespace Vata.Props
open Vata.L Vata.LE Vata.LU Vata.LEC Vata.LEC2 Vata.CR

/-- `hist` is the `SharedCounter` history of an engine run: constructor, `init` and `k` iterations of `run()`, or a completed
`computeSimulation` including the destructors of `~SimulationEngine` -/
def EngineSCHist (L : LTS) (poison : Nat) (part : List (List Nat)) (rel : Rel) (hist : List SC.Op) : Prop :=
  (∃ k, hist = (stateAfterJ L (scCfg L poison) part rel k).2.sc) ∨
  (∃ size R t, computeSimulationJ L (scCfg L poison) part rel size = some (R, t) ∧ hist = t.sc)

/-- every engine history is inside the discipline (`C16_engine_discipline_SC`, both forms) -/
theorem engineSCHist_ok (L : LTS) (part : List (List Nat)) (rel : Rel)
    (hL : ltsOKB L = true) (hp : isPartition part L.n = true) (hc : isConsistent part rel = true)
    (ht : isTransB rel = true) (poison : Nat) (hsmall : labels L * L.n < 2 ^ 64) {hist : List SC.Op}
    (hh : EngineSCHist L poison part rel hist) : SC.okAll (scCfg L poison) [] hist = true := by
  have hd := C16_engine_discipline_SC L part rel hL hp hc ht poison hsmall
  rcases hh with ⟨k, rfl⟩ | ⟨size, R, t, h, rfl⟩
  · exact hd.1 k
  · exact hd.2 size R t h

/-- **every cell index of every `SharedCounter` call of every engine run lies inside its array** (PARTIAL: see "still not
proved" – the statement is about the accesses listed by `cellsOf` / `keyCellOf` / `rowIdxOf`; bytes are not modelled).

For the configuration as coded, `cfg = scCfg L poison`, `C = ctorAsCoded L.n (labels L)`:
(0) `cfg.rowSize = C.rowSize = getRowSize L.n > 0`, and the block `allocator_()` hands out in the model has `C.allocSize =
    rowSize_ + 1` cells;
and for every call `op` of every engine history (`hist = pre ++ op :: post`), in the heap world `W` the class as coded has
reached when the call is made (it IS defined there, and at the call):
(1) every block access index of the body of `op` (`colIndex`, the `memcpy` range, the reference-count cell `rowSize_`) is
    `< C.allocSize`;
(2) the access `key_[label * states_ + state]` is inside `key_`;
(3) the access `data_[rowIndex]` is inside the row vector of the counter object;
(4) every block a live counter points to – before and after the call – has EXACTLY `C.allocSize` cells and was handed out by
    the allocator (`p < next`). -/
theorem C20_counter_rows_in_bounds_partial (L : LTS) (part : List (List Nat)) (rel : Rel)
    (hL : ltsOKB L = true) (hp : isPartition part L.n = true) (hc : isConsistent part rel = true)
    (ht : isTransB rel = true) (poison : Nat) (hsmall : labels L * L.n < 2 ^ 64) :
    ((scCfg L poison).rowSize = (ctorAsCoded L.n (labels L)).rowSize ∧ 0 < (scCfg L poison).rowSize ∧
      (SC.poisonRow (scCfg L poison)).length = (ctorAsCoded L.n (labels L)).allocSize ∧
      ∀ m, ((SC.alloc (scCfg L poison) m).2.cells.get (SC.alloc (scCfg L poison) m).1).length =
        (ctorAsCoded L.n (labels L)).allocSize) ∧
    ∀ hist, EngineSCHist L poison part rel hist → ∀ pre op post, hist = pre ++ op :: post →
      ∃ W outs W' out, SC.run (scCfg L poison) SC.World.empty pre = some (W, outs) ∧
        SC.step (scCfg L poison) W op = some (W', out) ∧
        (∀ j ∈ cellsOf (scCfg L poison) op, j < (ctorAsCoded L.n (labels L)).allocSize) ∧
        (∀ x, keyCellOf (scCfg L poison) op = some x → x < (scCfg L poison).key.length) ∧
        (∀ i r, rowIdxOf (scCfg L poison) op = some (i, r) → ∃ c, W.cnt i = some c ∧ r < c.length) ∧
        BlocksSized W (ctorAsCoded L.n (labels L)).allocSize ∧ BlocksSized W' (ctorAsCoded L.n (labels L)).allocSize := by
  refine ⟨⟨rfl, getRowSize_pos L.n, by simp [SC.poisonRow, ctorAsCoded]; rfl, fun m => ?_⟩, ?_⟩
  · rw [← allocV_eq_alloc]; exact allocV_len _ _ m
  · intro hist hh pre op post hsplit
    have hok := engineSCHist_ok L part rel hL hp hc ht poison hsmall hh
    rw [hsplit] at hok
    exact call_safe (cfg := scCfg L poison) (getRowSize_pos L.n) hok

/-- **the row of a keyed pair lies in the row range of its label** (`scCfg_ok`, from `layout_row_in_range`): for `a < labels`
and `q ∈ delta1[a]` the row index `key_[a * states + q] / rowSize_` is in `[labelMap_[a].first, labelMap_[a].second)` – the
range `resize` and `copyLabels` size the row vectors by – and different keyed pairs have different cells. -/
theorem C20_counter_rows_label_range (L : LTS) (poison : Nat) (hsmall : labels L * L.n < 2 ^ 64)
    (a q : Nat) (ha : a < labels L) (hq : q ∈ delta1 L a) :
    rowIdxOf (scCfg L poison) (.decr 0 a q) = some (0, keyOf (scCfg L poison) a q / (scCfg L poison).rowSize) ∧
    (lm (scCfg L poison) a).1 ≤ keyOf (scCfg L poison) a q / (scCfg L poison).rowSize ∧
    keyOf (scCfg L poison) a q / (scCfg L poison).rowSize < (lm (scCfg L poison) a).2 ∧
    keyOf (scCfg L poison) a q % (scCfg L poison).rowSize < (scCfg L poison).rowSize ∧
    ∀ a' q', a' < labels L → q' ∈ delta1 L a' → keyOf (scCfg L poison) a q = keyOf (scCfg L poison) a' q' → a = a' ∧ q = q' := by
  have ok := scCfg_ok L poison hsmall
  exact ⟨rfl, (ok.rng a q ha hq).1, (ok.rng a q ha hq).2, Nat.mod_lt _ ok.rs,
    fun a' q' ha' hq' h => ok.inj a q a' q' ha ha' hq hq' h⟩

/-- no call of an engine history overflows its block: the executable check `firstOverflow` finds nothing, as coded -/
theorem C20_counter_rows_no_overflow (L : LTS) (poison : Nat) (hist : List SC.Op) :
    firstOverflow (ctorAsCoded L.n (labels L)) (scCfg L poison) hist = none :=
  firstOverflow_none _ _ hist (fun op _ =>
    opInBlock_of_le _ (scCfg L poison) (getRowSize_pos L.n) (Nat.le_refl _) op)

/-! ### `getRowSize` as coded -/

/-- `getRowSize` is monotone in the number of states -/
theorem C20_getRowSize_mono {m n : Nat} (h : m ≤ n) : SC.getRowSize m ≤ SC.getRowSize n := getRowSize_mono h

/-- the bands: 31 below `64² = 4096`, 63 below `128² = 16384`, 127 below `256² = 65536`; never below 31 -/
theorem C20_getRowSize_bands (n : Nat) :
    31 ≤ SC.getRowSize n ∧ (n < 4096 → SC.getRowSize n = 31) ∧ (4096 ≤ n → n < 16384 → SC.getRowSize n = 63) ∧
    (16384 ≤ n → n < 65536 → SC.getRowSize n = 127) :=
  ⟨getRowSize_ge_31 n, SC.getRowSize_small, SC.getRowSize_medium, getRowSize_large⟩

/-- the table at the thresholds.  (`decide` does not evaluate `Nat.sqrt` – well-founded recursion – so the rows come from the
band lemmas; `#eval` prints the same list.) -/
theorem C20_getRowSize_table :
    [1, 31, 32, 63, 64, 1023, 1024, 4095, 4096, 4097].map SC.getRowSize = [31, 31, 31, 31, 31, 31, 31, 31, 63, 63] := by
  simp only [List.map_cons, List.map_nil]
  rw [SC.getRowSize_small (n := 1) (by omega), SC.getRowSize_small (n := 31) (by omega),
    SC.getRowSize_small (n := 32) (by omega), SC.getRowSize_small (n := 63) (by omega),
    SC.getRowSize_small (n := 64) (by omega), SC.getRowSize_small (n := 1023) (by omega),
    SC.getRowSize_small (n := 1024) (by omega), SC.getRowSize_small (n := 4095) (by omega),
    SC.getRowSize_medium (n := 4096) (by omega) (by omega), SC.getRowSize_medium (n := 4097) (by omega) (by omega)]

/-! ### the allocator sized from the number of labels -/

/-- **the seeded variant overflows.**  With `counterAllocator_(getRowSize(lts.labels()) + 1)` and
`getRowSize (labels) < getRowSize (states)`:
(1) the allocated block has at most `rowSize_` cells, so the reference-count cell `data_[rowSize_]` – an access of the body of
    every call that touches a block, and written on EVERY path of `set` – is outside: for every such call `opInBlock` is false;
(2) the class with checked writes fails at the very first access to a fresh block (`row.data_[rowSize_] = 0` in `set`),
    whatever the memory, column and count;
(3) the executable check `firstOverflow` reports a call and an index `≥` the allocated size for every history that contains a
    call touching a block (in particular a `set`). -/
theorem C20_counter_rows_wrong_allocator (L : LTS) (poison : Nat)
    (hlt : SC.getRowSize (labels L) < SC.getRowSize L.n) :
    (ctorVariant L.n (labels L)).allocSize ≤ (scCfg L poison).rowSize ∧
    (∀ op, touchesBlock op = true → (scCfg L poison).rowSize ∈ cellsOf (scCfg L poison) op ∧
      opInBlock (ctorVariant L.n (labels L)) (scCfg L poison) op = false) ∧
    (∀ m col count, setFreshB (ctorVariant L.n (labels L)).allocSize (scCfg L poison) m col count = none) ∧
    (∀ hist op, op ∈ hist → touchesBlock op = true →
      ∃ op' j, firstOverflow (ctorVariant L.n (labels L)) (scCfg L poison) hist = some (op', j) ∧ op' ∈ hist ∧
        j ∈ cellsOf (scCfg L poison) op' ∧ (ctorVariant L.n (labels L)).allocSize ≤ j) := by
  have hle : (ctorVariant L.n (labels L)).allocSize ≤ (scCfg L poison).rowSize := by
    show SC.getRowSize (labels L) + 1 ≤ SC.getRowSize L.n
    omega
  refine ⟨hle, fun op h => ⟨rowSize_mem_cellsOf _ h, opInBlock_false _ _ hle h⟩,
    fun m col count => setFreshB_overflow _ _ m col count hle, fun hist op hmem h => ?_⟩
  exact firstOverflow_some _ _ hist hmem (opInBlock_false _ _ hle h)

/-- **the smallest size at which the variant differs**, for one label (more generally: fewer than 4096 labels): the two
allocator sizes differ exactly from 4096 states on; at 4096 states and one label `rowSize_ = 63`, the block has 32 cells, the
reference count is cell 63 and `memcpy` copies 63 cells. -/
theorem C20_counter_rows_smallest_difference :
    (∀ n, SC.getRowSize 1 < SC.getRowSize n ↔ 4096 ≤ n) ∧
    (∀ l n, l < 4096 → (SC.getRowSize l < SC.getRowSize n ↔ 4096 ≤ n)) ∧
    ctorAsCoded 4096 1 = ⟨63, 64⟩ ∧ ctorVariant 4096 1 = ⟨63, 32⟩ ∧ ctorVariant 4095 1 = ctorAsCoded 4095 1 := by
  refine ⟨fun n => getRowSize_lt_iff (by omega), fun l n hl => getRowSize_lt_iff hl, ?_, ?_, ?_⟩
  · simp [ctorAsCoded, SC.getRowSize_medium (n := 4096) (by omega) (by omega)]
  · simp [ctorVariant, SC.getRowSize_medium (n := 4096) (by omega) (by omega), SC.getRowSize_small (n := 1) (by omega)]
  · simp [ctorVariant, ctorAsCoded, SC.getRowSize_small (n := 4095) (by omega), SC.getRowSize_small (n := 1) (by omega)]

/-- **below the threshold the variant is conservative.**  With fewer than 4096 states the variant's blocks are at least as
large as the coded ones (`getRowSize ≥ 31` always), so every access of every call is inside the block; with also fewer than
4096 labels the two constructors are EQUAL (the change is invisible to every test below 4096 states).  More generally the
variant is safe whenever `getRowSize (states) ≤ getRowSize (labels)`, e.g. `states ≤ labels`. -/
theorem C20_counter_rows_variant_equal_below (L : LTS) (poison : Nat) :
    (L.n < 4096 → labels L < 4096 → ctorVariant L.n (labels L) = ctorAsCoded L.n (labels L)) ∧
    (L.n < 4096 → (ctorAsCoded L.n (labels L)).allocSize ≤ (ctorVariant L.n (labels L)).allocSize) ∧
    (SC.getRowSize L.n ≤ SC.getRowSize (labels L) →
      (∀ op, opInBlock (ctorVariant L.n (labels L)) (scCfg L poison) op = true) ∧
      (∀ hist, firstOverflow (ctorVariant L.n (labels L)) (scCfg L poison) hist = none) ∧
      (∀ m col count, col < (scCfg L poison).rowSize → SC.getRowSize L.n = SC.getRowSize (labels L) →
        setFreshB (ctorVariant L.n (labels L)).allocSize (scCfg L poison) m col count =
          setFreshB (ctorAsCoded L.n (labels L)).allocSize (scCfg L poison) m col count)) := by
  refine ⟨fun h1 h2 => ?_, fun h1 => ?_, fun h => ?_⟩
  · simp [ctorVariant, ctorAsCoded, SC.getRowSize_small h1, SC.getRowSize_small h2]
  · show SC.getRowSize L.n + 1 ≤ SC.getRowSize (labels L) + 1
    have := getRowSize_ge_31 (labels L)
    rw [SC.getRowSize_small h1]; omega
  · have hle : (scCfg L poison).rowSize + 1 ≤ (ctorVariant L.n (labels L)).allocSize := by
      show SC.getRowSize L.n + 1 ≤ SC.getRowSize (labels L) + 1
      omega
    have hall : ∀ op, opInBlock (ctorVariant L.n (labels L)) (scCfg L poison) op = true :=
      fun op => opInBlock_of_le _ (scCfg L poison) (getRowSize_pos L.n) hle op
    refine ⟨hall, fun hist => firstOverflow_none _ _ hist (fun op _ => hall op), fun m col count _ he => ?_⟩
    simp only [ctorVariant, ctorAsCoded, he]

/-! ### non-vacuity -/

-- the hypotheses of the bounds theorem hold for `EngEx.L3` (4 states, one label), and its completed history is an engine
-- history with 20 calls, 14 touching a block, 6 of them `set` / `decr` (each with a `key_`, a row-vector and two block accesses)
example : ltsOKB EngEx.L3 = true ∧ isPartition [[0, 1, 2, 3]] EngEx.L3.n = true ∧ isConsistent [[0, 1, 2, 3]] [(0, 0)] = true ∧
    isTransB [(0, 0)] = true ∧ labels EngEx.L3 * EngEx.L3.n < 2 ^ 64 := by decide +kernel

example : (computeSimulationJ EngEx.L3 (SC.mkCfg 31 4 7 [[0, 1, 3]]) [[0, 1, 2, 3]] [(0, 0)] 4).map
    (fun rt => (rt.2.sc.length, (rt.2.sc.filter touchesBlock).length,
      (rt.2.sc.filter (fun op => (keyCellOf (SC.mkCfg 31 4 7 [[0, 1, 3]]) op).isSome)).length,
      firstOverflow ⟨31, 32⟩ (SC.mkCfg 31 4 7 [[0, 1, 3]]) rt.2.sc)) = some (20, 14, 6, none) := by decide +kernel

-- the same history checked against a block of 16 cells (what the variant's arithmetic would give if the bands were lower):
-- the first `set` is reported, with the reference-count cell 31
example : (computeSimulationJ EngEx.L3 (SC.mkCfg 31 4 7 [[0, 1, 3]]) [[0, 1, 2, 3]] [(0, 0)] 4).bind
    (fun rt => firstOverflow ⟨31, 16⟩ (SC.mkCfg 31 4 7 [[0, 1, 3]]) rt.2.sc) = some (.set 0 0 0 1, 31) := by decide +kernel

-- the hypothesis of the overflow theorem is satisfiable: an LTS with 4096 states and one label …
example : SC.getRowSize 1 < SC.getRowSize 4096 := (getRowSize_lt_iff (by omega)).2 (Nat.le_refl _)

-- … and the checked first access: fine with 64 cells, outside with 32 (row size 63, as for 4096 states / 1 label)
example : (setFreshB 64 (SC.mkCfg 63 4 7 [[0, 1, 3]]) SC.Mem.empty 2 5).isSome = true ∧
    setFreshB 32 (SC.mkCfg 63 4 7 [[0, 1, 3]]) SC.Mem.empty 2 5 = none := by decide +kernel

-- the hypothesis `getRowSize (labels) < getRowSize (states)` of the overflow theorem cannot be dropped: with equal sizes the
-- variant is the coded constructor
example : ctorVariant 4096 4096 = ctorAsCoded 4096 4096 := rfl

/-!
## still not proved

* `C20_counter_rows_in_bounds_partial` is PARTIAL in this sense: the accesses are those listed by `cellsOf` / `keyCellOf` /
  `rowIdxOf` (read off the bodies of `set`, `decr`, `init`, `~SharedCounter`, `copyLabels`, quoted in `Vata/CounterRows.lean`);
  the model `SC.setCell` is not itself bounds-checked, so "inside the block" is the conjunction (index `< allocSize`) ∧ (the
  block has exactly `allocSize` cells in the world of the call), not a statement derived from a checked heap.  A checked version
  of the whole class (`setCellB` in every member function) and its agreement with `SC.step` on engine histories is done only
  for the first accesses to a fresh block (`setFreshB_asCoded` in `Vata/Proofs/CounterRows.lean`).
* The accesses of `copyLabels` to `labelMap_[label]`, `cnt.data_[i]`, `this->data_[i]` and `rowMask[i]` (vectors, not blocks)
  are not listed; `SC.ok` requires `labels < labelMap_.size()` and `SC.copyRanges` cuts the ranges at `cnt.data_.size()`.
* That an engine history of a system with at least one transition CONTAINS a `set` (so that the overflow of the variant is
  actually reached, not only "reached by every call that touches a block") is shown on the example only; a run with 4096
  states cannot be `decide`d.  `firstOverflow` is executable and can be run on such a system outside the kernel.
* The hypothesis `labels L * L.n < 2 ^ 64` (from `C16_engine_discipline_SC`) is not dropped.
-/
end Vata.Props
