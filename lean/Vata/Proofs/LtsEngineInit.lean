import Vata.Proofs.LtsEngineStep
/-!
# The LTS simulation engine: `init` establishes the invariant

Stage by stage: `initBlocks` (a well-formed state whose induced relation is the initial relation), `initRefine` (the
`fastSplit`s make every block uniform w.r.t. the enabled labels), `initPrune` (a block that enables a label is only
related to blocks all of whose states enable it), `initCounters` (counters, remove lists and the queue).  The loops of
`initCounters` are walked on pairs (state, history) for an arbitrary history (`countersT_trace`, namespace `Vata.LEC`), so that the
instrumented engines of `Vata/LtsEngineCalls*.lean` are covered by the same induction; `initCounters_spec` is the case without history.
-/
namespace Vata.LE
open Vata.L

theorem disjoint_of_flatten_nodup : ∀ (l : List (List Nat)), l.flatten.Nodup →
    (∀ i j q, q ∈ l.getD i [] → q ∈ l.getD j [] → i = j) ∧ ∀ i, (l.getD i []).Nodup := by
  intro l
  induction l with
  | nil => exact fun _ => ⟨fun i j q h => absurd h List.not_mem_nil, fun i => List.nodup_nil⟩
  | cons b l ih =>
    intro h
    rw [List.flatten_cons] at h
    obtain ⟨hb, hl, hd⟩ := List.nodup_append.mp h
    obtain ⟨ih1, ih2⟩ := ih hl
    -- a state of `b` is in no later block
    have hsep : ∀ k q, q ∈ b → q ∉ l.getD k [] := fun k q hq hk =>
      hd q hq q (List.mem_flatten.mpr ⟨_, getD_mem [] l k (lt_of_mem_getD hk), hk⟩) rfl
    refine ⟨fun i j q hi hj => ?_, fun i => ?_⟩
    · cases i with
      | zero =>
        cases j with
        | zero => rfl
        | succ j => exact absurd hj (hsep j q hi)
      | succ i =>
        cases j with
        | zero => exact absurd hi (hsep i q hj)
        | succ j => rw [ih1 i j q hi hj]
    · cases i with
      | zero => exact hb
      | succ i => exact ih2 i

/-- `makeBlock` only moves the last state to the front -/
theorem mkBlockList_perm (l : List Nat) : (mkBlockList l).Perm l := by
  unfold mkBlockList
  cases h : l.getLast? with
  | none => rw [List.getLast?_eq_none_iff.mp h]
  | some x =>
    obtain ⟨ys, rfl⟩ := List.getLast?_eq_some_iff.mp h
    rw [List.dropLast_concat]
    exact (List.perm_append_singleton x ys).symm

theorem mem_mkBlockList (l : List Nat) (q : Nat) : q ∈ mkBlockList l ↔ q ∈ l := (mkBlockList_perm l).mem_iff

theorem nodup_mkBlockList {l : List Nat} (h : l.Nodup) : (mkBlockList l).Nodup := (mkBlockList_perm l).nodup_iff.mpr h

theorem blockOf_map_mkBlockList (part : List (List Nat)) (q : Nat) :
    blockOf (part.map mkBlockList) q = blockOf part q := by
  unfold blockOf
  rw [List.findIdx_map]
  congr 1
  funext b
  rw [Function.comp, Bool.eq_iff_iff, List.contains_iff_mem, List.contains_iff_mem, mem_mkBlockList]

/-- what `isPartition` gives -/
theorem isPartition_spec {part : List (List Nat)} {n : Nat} (h : isPartition part n = true) :
    (∀ b, b ∈ part → b ≠ []) ∧ (∀ q, q ∈ part.flatten ↔ q < n) ∧ part.flatten.Nodup := by
  simp only [isPartition, Bool.and_eq_true, List.all_eq_true, Bool.not_eq_true', decide_eq_true_eq,
    List.mem_range, beq_iff_eq] at h
  obtain ⟨⟨h1, h2⟩, h3⟩ := h
  refine ⟨?_, ?_, ?_⟩
  · intro b hb he
    have := h1 b hb
    rw [he] at this
    simp at this
  · intro q
    constructor
    · exact h2 q
    · intro hq
      have := h3 q hq
      exact List.count_pos_iff.mp (by omega)
  · rw [List.nodup_iff_count]
    intro q
    by_cases hq : q < n
    · rw [h3 q hq]; exact Nat.le_refl _
    · have : q ∉ part.flatten := fun hm => hq (h2 q hm)
      rw [List.count_eq_zero.mpr this]; exact Nat.zero_le _

/-! ### stage A: `initBlocks` -/

theorem initBlocks_block (L : LTS) (part : List (List Nat)) (rel : Rel) (i : Nat) :
    (initBlocks L part rel).block i = mkBlockList (part.getD i []) :=
  getD_map_default mkBlockList [] [] rfl part i

theorem initBlocks_length (L : LTS) (part : List (List Nat)) (rel : Rel) : (initBlocks L part rel).part.length = part.length :=
  List.length_map _

theorem initBlocks_row (L : LTS) (part : List (List Nat)) (rel : Rel) (i : Nat) (hi : i < part.length) :
    (initBlocks L part rel).row i = (List.range part.length).filter (fun j => rel.contains (i, j)) :=
  getD_map_range _ hi []

theorem initBlocks_wf {L : LTS} {part : List (List Nat)} {rel : Rel} (hp : isPartition part L.n = true)
    (hc : isConsistent part rel = true) : WF L (initBlocks L part rel) := by
  obtain ⟨hne, hcov, hnd⟩ := isPartition_spec hp
  obtain ⟨hdisj, hnds⟩ := disjoint_of_flatten_nodup part hnd
  have hmem : ∀ i q, q ∈ (initBlocks L part rel).block i ↔ q ∈ part.getD i [] := fun i q => by
    rw [initBlocks_block, mem_mkBlockList]
  have hlen := initBlocks_length L part rel
  have hrowlen : (initBlocks L part rel).rel.length = part.length := by
    show (List.map _ _).length = _
    rw [List.length_map, List.length_range]
  have hrow := initBlocks_row L part rel
  -- a row is a filtered `range`, or empty beyond the table
  have hrowsub : ∀ i j, j ∈ (initBlocks L part rel).row i → i < part.length ∧ j < part.length ∧ (i, j) ∈ rel := by
    intro i j hj
    have hi : i < part.length := hrowlen ▸ lt_of_mem_getD hj
    rw [hrow i hi, List.mem_filter, List.mem_range, List.contains_iff_mem] at hj
    exact ⟨hi, hj⟩
  refine ⟨hrowlen.trans hlen.symm, List.length_map _, fun i j q hi hj => ?_, fun i => ?_, fun q => ?_,
    fun i hi he => ?_, fun i j hj => hlen ▸ (hrowsub i j hj).2.1, fun i hi => ?_, fun i hi => ?_, fun i => ?_⟩
  · exact hdisj i j q ((hmem i q).mp hi) ((hmem j q).mp hj)
  · rw [initBlocks_block]; exact nodup_mkBlockList (hnds i)
  · rw [← hcov q, List.mem_flatten]
    constructor
    · rintro ⟨b, hb, hq⟩
      obtain ⟨i, _, he⟩ := (mem_iff_getD [] part b).mp hb
      exact ⟨i, (hmem i q).mpr (he ▸ hq)⟩
    · rintro ⟨i, hi⟩
      have hi' := (hmem i q).mp hi
      exact ⟨_, getD_mem [] part i (lt_of_mem_getD hi'), hi'⟩
  · rw [hlen] at hi
    obtain ⟨x, hx⟩ := List.exists_mem_of_ne_nil _ (hne _ (getD_mem [] part i hi))
    have := (hmem i x).mpr hx
    rw [he] at this; cases this
  · rw [hlen] at hi
    rw [hrow i hi]
    simp only [isConsistent, List.all_eq_true, List.mem_range] at hc
    exact List.mem_filter.mpr ⟨List.mem_range.mpr hi, hc i hi⟩
  · have : (initBlocks L part rel).inset.getD i [] = mkInset L ((initBlocks L part rel).block i) :=
      getD_map_default (mkInset L) [] [] rfl _ i
    rw [this]
    exact insFor_mkInset L _
  · by_cases hi : i < part.length
    · rw [hrow i hi]; exact List.Pairwise.filter _ List.nodup_range
    · rw [show (initBlocks L part rel).row i = [] from getD_of_length_le _ _ _ (hrowlen ▸ Nat.le_of_not_lt hi)]
      exact List.nodup_nil

/-- the induced relation of the first state is the relation given on the blocks -/
theorem initBlocks_R {L : LTS} {part : List (List Nat)} {rel : Rel} (hp : isPartition part L.n = true)
    (hc : isConsistent part rel = true) {x y : Nat} (hx : x < L.n) (hy : y < L.n) :
    (initBlocks L part rel).R x y ↔ (blockOf part x, blockOf part y) ∈ rel := by
  have w := initBlocks_wf (L := L) hp hc
  have hlen := initBlocks_length L part rel
  have hbo : ∀ q, blockOf (initBlocks L part rel).part q = blockOf part q := blockOf_map_mkBlockList part
  have hxl := (w.blockOf_mem hx).1
  have hyl := (w.blockOf_mem hy).1
  rw [hlen, hbo] at hxl hyl
  show blockOf (initBlocks L part rel).part y ∈ (initBlocks L part rel).row (blockOf (initBlocks L part rel).part x) ↔ _
  rw [hbo, hbo, initBlocks_row L part rel _ hxl, List.mem_filter, List.mem_range, List.contains_iff_mem]
  exact ⟨fun h => h.2, fun h => ⟨hyl, h⟩⟩

/-! ### stage B: `initRefine` -/

/-- all states of a block enable label `a`, or none does -/
def Uniform (L : LTS) (e : Eng) (a : Nat) : Prop :=
  ∀ i, i < e.part.length → (∀ q, q ∈ e.block i → hasOut L a q = true) ∨ (∀ q, q ∈ e.block i → hasOut L a q = false)

theorem Uniform.refine {L : LTS} {e0 e1 : Eng} {par : Nat → Nat} {a : Nat} (u : Uniform L e0 a)
    (r : RefineS L e0 e1 par) : Uniform L e1 a := by
  intro i hi
  rcases u (par i) (r.hpar i hi) with h | h
  · exact Or.inl (fun q hq => h q (r.hsub i q hq))
  · exact Or.inr (fun q hq => h q (r.hsub i q hq))

theorem nodup_delta1 (L : LTS) (a : Nat) : (delta1 L a).Nodup := List.Pairwise.filter _ List.nodup_range

/-- a label without edges is enabled nowhere -/
theorem hasOut_eq_false {L : LTS} {a : Nat} (ha : ¬ a < labels L) (q : Nat) : hasOut L a q = false :=
  Bool.eq_false_iff.mpr fun hc => ((hasOut_iff L a q).mp hc).elim fun _ hr => ha (label_lt L hr)

/-- the `fastSplit`s for the labels `as` -/
def refineBy (L : LTS) (as : List Nat) (e : Eng) : Eng := as.foldl (fun e a => fastSplit L e (delta1 L a)) e

theorem refineBy_spec {L : LTS} : ∀ (as : List Nat) (e0 : Eng), WF L e0 →
    ∃ par, WF L (refineBy L as e0) ∧ RefineS L e0 (refineBy L as e0) par ∧
      (∀ a, a ∈ as → Uniform L (refineBy L as e0) a) ∧
      (refineBy L as e0).cnt = e0.cnt ∧ (refineBy L as e0).rem = e0.rem ∧ (refineBy L as e0).queue = e0.queue ∧
      (refineBy L as e0).nextId = e0.nextId := by
  intro as
  induction as with
  | nil => exact fun e0 w0 => ⟨id, w0, RefineS.refl L e0, fun _ h => absurd h List.not_mem_nil, rfl, rfl, rfl, rfl⟩
  | cons a as ih =>
    intro e0 w0
    obtain ⟨p1, w1, r1, hu, c1, m1, q1, n1⟩ := fastSplit_spec w0 (fun q hq => ((mem_delta1 L a q).mp hq).1)
      (nodup_delta1 L a)
    obtain ⟨p2, w2, r2, u2, c2, m2, q2, n2⟩ := ih (fastSplit L e0 (delta1 L a)) w1
    refine ⟨p1 ∘ p2, w2, r1.trans r2, fun a' ha' => ?_, c2.trans c1, m2.trans m1, q2.trans q1, n2.trans n1⟩
    rcases List.mem_cons.mp ha' with h | h
    · -- after `fastSplit (delta1 a)` a block is inside `delta1 a` or outside
      rw [h]
      refine Uniform.refine (fun i hi => (hu i hi).imp (fun h q hq => ((mem_delta1 L a q).mp (h q hq)).2)
        (fun h q hq => Bool.eq_false_iff.mpr fun hc => h q hq ((mem_delta1 L a q).mpr ⟨w1.lt_of_mem hq, hc⟩))) r2
    · exact u2 a' h

theorem initRefine_spec {L : LTS} {e0 : Eng} (w0 : WF L e0) :
    ∃ par, WF L (initRefine L e0) ∧ RefineS L e0 (initRefine L e0) par ∧ (∀ a, Uniform L (initRefine L e0) a) ∧
      (initRefine L e0).cnt = e0.cnt ∧ (initRefine L e0).rem = e0.rem ∧ (initRefine L e0).queue = e0.queue ∧
      (initRefine L e0).nextId = e0.nextId := by
  obtain ⟨par, w, r, u, h⟩ := refineBy_spec (List.range (labels L)) e0 w0
  refine ⟨par, w, r, fun a => ?_, h⟩
  by_cases ha : a < labels L
  · exact u a (List.mem_range.mpr ha)
  · exact fun i _ => Or.inr (fun q _ => hasOut_eq_false ha q)

/-! ### stage C: `initPrune` -/

theorem foldl_filter_all (p : Nat → Nat → Bool) : ∀ (as row : List Nat),
    as.foldl (fun row a => row.filter (p a)) row = row.filter (fun c => as.all (fun a => p a c)) := by
  intro as
  induction as with
  | nil => exact fun row => (List.filter_eq_self.mpr fun _ _ => rfl).symm
  | cons a as ih =>
    intro row
    rw [List.foldl_cons, ih, List.filter_filter]
    exact List.filter_congr fun c _ => by rw [List.all_cons, Bool.and_comm]

theorem mem_outLabels (L : LTS) (blk : List Nat) (a : Nat) :
    a ∈ outLabels L blk ↔ ∃ s, s ∈ blk ∧ hasOut L a s = true := by
  simp only [outLabels, List.mem_flatMap, List.mem_filter, List.mem_range]
  constructor
  · rintro ⟨s, hs, _, h⟩; exact ⟨s, hs, h⟩
  · rintro ⟨s, hs, h⟩
    exact ⟨s, hs, ((hasOut_iff L a s).mp h).elim fun _ hr => label_lt L hr, h⟩

theorem noPre_false (L : LTS) (e : Eng) (a i : Nat) :
    noPre L e a i = false ↔ ∀ s, s ∈ e.block i → hasOut L a s = true := by
  unfold noPre
  rw [Bool.eq_false_iff]
  simp only [ne_eq, List.any_eq_true, Bool.not_eq_true', not_exists, not_and, Bool.not_eq_false]

/-- the rows after pruning: a filter of the old row, nothing beyond the table -/
theorem initPrune_row_eq (L : LTS) (e : Eng) (w : WF L e) (b1 : Nat) :
    (initPrune L e).row b1 =
      (e.row b1).filter (fun col => (outLabels L (e.block b1)).all (fun a => !noPre L e a col)) := by
  by_cases hb : b1 < e.part.length
  · exact (getD_map_range _ hb []).trans (foldl_filter_all _ _ _)
  · have h1 : (initPrune L e).row b1 = [] :=
      getD_of_length_le _ _ _ (by show (List.map _ _).length ≤ _; rw [List.length_map, List.length_range]; omega)
    rw [h1, show e.row b1 = [] from getD_of_length_le _ _ _ (by rw [w.hrel]; omega)]
    rfl

theorem initPrune_row (L : LTS) (e : Eng) (w : WF L e) (b1 col : Nat) :
    col ∈ (initPrune L e).row b1 ↔
      col ∈ e.row b1 ∧ ∀ a, (∃ s, s ∈ e.block b1 ∧ hasOut L a s = true) → ∀ s, s ∈ e.block col → hasOut L a s = true := by
  rw [initPrune_row_eq L e w, List.mem_filter]
  simp only [List.all_eq_true, mem_outLabels, Bool.not_eq_true', noPre_false]

theorem initPrune_wf {L : LTS} {e : Eng} (w : WF L e) (hu : ∀ a, Uniform L e a) : WF L (initPrune L e) := by
  have hrow := initPrune_row L e w
  refine ⟨?_, w.hins, w.hdisj, w.hnd, w.hcov, w.hne, fun i j hj => w.hrow i j ((hrow i j).mp hj).1, fun i hi => ?_,
    w.hinset, fun i => ?_⟩
  · show (List.map _ _).length = _
    rw [List.length_map, List.length_range]; rfl
  · refine (hrow i i).mpr ⟨w.hrefl i hi, ?_⟩
    rintro a ⟨s, hs, hout⟩ s' hs'
    rcases hu a i hi with h | h
    · exact h s' hs'
    · rw [h s hs] at hout; cases hout
  · rw [initPrune_row_eq L e w]; exact List.Pairwise.filter _ (w.hrownd i)

/-- the relation on states after pruning -/
theorem initPrune_R {L : LTS} {e : Eng} (w : WF L e) (hu : ∀ a, Uniform L e a) {x y : Nat} (hx : x < L.n)
    (hy : y < L.n) :
    (initPrune L e).R x y ↔ e.R x y ∧ ∀ a, hasOut L a x = true → hasOut L a y = true := by
  obtain ⟨hxl, hxm⟩ := w.blockOf_mem hx
  obtain ⟨hyl, hym⟩ := w.blockOf_mem hy
  -- a state enables what its (uniform) block enables
  have huni : ∀ a i q s, i < e.part.length → q ∈ e.block i → s ∈ e.block i → hasOut L a s = true →
      hasOut L a q = true := by
    intro a i q s hi hq hs hout
    rcases hu a i hi with h | h
    · exact h q hq
    · rw [h s hs] at hout; cases hout
  show blockOf e.part y ∈ (initPrune L e).row (blockOf e.part x) ↔ _
  rw [initPrune_row L e w]
  refine and_congr_right fun _ => ⟨fun h2 a ha => h2 a ⟨x, hxm, ha⟩ y hym, fun h2 => ?_⟩
  rintro a ⟨s, hs, hout⟩ s' hs'
  exact huni a _ s' y hyl hs' hym (h2 a (huni a _ x s hxl hxm hs hout))

/-! ### stage D: `initCounters` -/

theorem initCount_eq (L : LTS) (e : Eng) (b1 a q : Nat) : initCount L e b1 a q = cntSpec L e b1 a q := by
  unfold initCount cntSpec post
  rw [← List.countP_eq_length_filter, List.countP_map, List.countP_filter]
  apply List.countP_congr
  intro ed _
  simp only [Function.comp, Bool.and_eq_true, beq_iff_eq, List.contains_iff_mem]
  constructor
  · rintro ⟨h1, h2, h3⟩; exact ⟨⟨h2, h3⟩, h1⟩
  · rintro ⟨⟨h2, h3⟩, h1⟩; exact ⟨h1, h2, h3⟩

theorem initCount_congr {L : LTS} {e e' : Eng} (h1 : e'.part = e.part) (h2 : e'.rel = e.rel) (b1 a q : Nat) :
    initCount L e' b1 a q = initCount L e b1 a q := by
  simp only [initCount, Eng.row, h1, h2]

theorem initRemove_congr {L : LTS} {e e' : Eng} (h1 : e'.part = e.part) (h2 : e'.rel = e.rel) (b1 a : Nat) :
    initRemove L e' b1 a = initRemove L e b1 a := by
  simp only [initRemove, Eng.row, Eng.block, h1, h2]

/-- the body of the counter loop -/
def cntStep (L : LTS) (b1 a : Nat) (e : Eng) (q : Nat) : Eng :=
  if initCount L e b1 a q == 0 then e else { e with cnt := setCnt e.cnt b1 a q (initCount L e b1 a q) }

theorem cntStep_cnt_only (L : LTS) (b1 a : Nat) (e : Eng) (q : Nat) :
    cntStep L b1 a e q = { e with cnt := (cntStep L b1 a e q).cnt } := by
  unfold cntStep; split <;> rfl

theorem cntFold_cnt_only (L : LTS) (b1 a : Nat) (qs : List Nat) (e : Eng) :
    qs.foldl (cntStep L b1 a) e = { e with cnt := (qs.foldl (cntStep L b1 a) e).cnt } :=
  foldl_cnt_only _ (cntStep_cnt_only L b1 a) qs e

/-- the counter loop of one slot -/
theorem initCnt_fold (L : LTS) (e0 : Eng) (b1 a : Nat) : ∀ (qs : List Nat) (e : Eng), e.part = e0.part →
    e.rel = e0.rel →
    (qs.foldl (cntStep L b1 a) e).part = e.part ∧ (qs.foldl (cntStep L b1 a) e).rel = e.rel ∧
      (qs.foldl (cntStep L b1 a) e).inset = e.inset ∧ (qs.foldl (cntStep L b1 a) e).rem = e.rem ∧
      (qs.foldl (cntStep L b1 a) e).queue = e.queue ∧ (qs.foldl (cntStep L b1 a) e).nextId = e.nextId ∧
      ∀ i a' q', (qs.foldl (cntStep L b1 a) e).cntv i a' q' =
        if i = b1 ∧ a' = a ∧ q' ∈ qs ∧ initCount L e0 b1 a q' ≠ 0 then initCount L e0 b1 a q' else e.cntv i a' q' := by
  intro qs e hp hr
  have hs := cntFold_cnt_only L b1 a qs e
  refine ⟨by rw [hs], by rw [hs], by rw [hs], by rw [hs], by rw [hs], by rw [hs], ?_⟩
  clear hs
  induction qs generalizing e with
  | nil => exact fun i a' q' => (if_neg (fun h => List.not_mem_nil h.2.2.1)).symm
  | cons q qs ih =>
    intro i a' q'
    have hs := cntStep_cnt_only L b1 a e q
    -- the first step writes the count of `q` unless it is zero
    have hc : (cntStep L b1 a e q).cntv i a' q' =
        if i = b1 ∧ a' = a ∧ q' = q ∧ initCount L e0 b1 a q ≠ 0 then initCount L e0 b1 a q else e.cntv i a' q' := by
      unfold cntStep
      rw [initCount_congr hp hr]
      by_cases hz : initCount L e0 b1 a q = 0
      · rw [if_pos (by rw [hz]; rfl), if_neg (fun h => h.2.2.2 hz)]
      · rw [if_neg (fun h => hz (eq_of_beq h))]
        refine (cget_setCnt _ _ _ _ _ _ _ _).trans ?_
        by_cases hk : i = b1 ∧ a' = a ∧ q' = q
        · rw [if_pos hk, if_pos ⟨hk.1, hk.2.1, hk.2.2, hz⟩]
        · rw [if_neg hk, if_neg (fun h => hk ⟨h.1, h.2.1, h.2.2.1⟩)]; rfl
    rw [List.foldl_cons, ih (cntStep L b1 a e q) (by rw [hs]; exact hp) (by rw [hs]; exact hr), hc]
    by_cases h : i = b1 ∧ a' = a ∧ q' ∈ qs ∧ initCount L e0 b1 a q' ≠ 0
    · rw [if_pos h, if_pos ⟨h.1, h.2.1, List.mem_cons_of_mem _ h.2.2.1, h.2.2.2⟩]
    · rw [if_neg h]
      by_cases h' : i = b1 ∧ a' = a ∧ q' = q ∧ initCount L e0 b1 a q ≠ 0
      · rw [if_pos h', h'.2.2.1, if_pos ⟨h'.1, h'.2.1, List.mem_cons_self, h'.2.2.2⟩]
      · rw [if_neg h', if_neg (fun g => (List.mem_cons.mp g.2.2.1).elim
          (fun e => h' ⟨g.1, g.2.1, e, e ▸ g.2.2.2⟩) (fun m => h ⟨g.1, g.2.1, m, g.2.2.2⟩))]

theorem cntSpec_zero_of_not_delta1 {L : LTS} (hL : LtsOK L) (e : Eng) (b1 a q : Nat) (h : q ∉ delta1 L a) :
    cntSpec L e b1 a q = 0 := by
  rw [cntSpec_eq_zero]
  intro q' hed
  exact absurd ((mem_delta1 L a q).mpr ⟨(hL _ hed).1, (hasOut_iff L a q).mpr ⟨q', hed⟩⟩) h

/-- One slot of `initCounters`: the counters of the slot become the counts, and a nonempty remove list is stored
and queued. -/
theorem initSlot_shape (L : LTS) (b1 : Nat) (e : Eng) (a : Nat) :
    ∃ c, (∀ i a' q, cget c i a' q =
        if i = b1 ∧ a' = a ∧ q ∈ delta1 L a ∧ initCount L e b1 a q ≠ 0 then initCount L e b1 a q else e.cntv i a' q) ∧
      initSlot L b1 e a = if initRemove L e b1 a = [] then { e with cnt := c } else
        { e with
          cnt := c
          rem := setRem e.rem b1 a (some [(e.nextId, initRemove L e b1 a)])
          nextId := e.nextId + 1
          queue := (b1, a) :: e.queue } := by
  have h7 := (initCnt_fold L e b1 a (delta1 L a) e rfl rfl).2.2.2.2.2.2
  have hs := cntFold_cnt_only L b1 a (delta1 L a) e
  refine ⟨((delta1 L a).foldl (cntStep L b1 a) e).cnt, h7, ?_⟩
  rw [show initSlot L b1 e a = (fun e1 : Eng => if (initRemove L e1 b1 a).isEmpty then e1 else
      { e1 with
        rem := setRem e1.rem b1 a (some [(e1.nextId, initRemove L e1 b1 a)])
        nextId := e1.nextId + 1
        queue := (b1, a) :: e1.queue }) ((delta1 L a).foldl (cntStep L b1 a) e) from rfl]
  generalize (delta1 L a).foldl (cntStep L b1 a) e = e1 at hs ⊢
  show (if (initRemove L e1 b1 a).isEmpty then e1 else _) = _
  rw [initRemove_congr (e := e) (e' := e1) (by rw [hs]) (by rw [hs])]
  cases initRemove L e b1 a with
  | nil => exact hs
  | cons x l => rw [hs]; rfl

theorem initSlot_frame (L : LTS) (b1 : Nat) (e : Eng) (a : Nat) :
    (initSlot L b1 e a).part = e.part ∧ (initSlot L b1 e a).rel = e.rel ∧ (initSlot L b1 e a).inset = e.inset := by
  obtain ⟨c, _, h⟩ := initSlot_shape L b1 e a
  rw [h]
  split <;> exact ⟨rfl, rfl, rfl⟩

/-- the slots in the order `initCounters` visits them -/
def slotsOf (e : Eng) : List (Nat × Nat) :=
  (List.range e.part.length).flatMap (fun b1 => (e.ins b1).map (fun a => (b1, a)))

/-- `initCounters` after the slots `done` (newest first): their counters and remove lists are final, the other slots are
untouched, and the queue holds the slots among `done` with a nonempty remove list -/
structure DInv (L : LTS) (e0 e : Eng) (done : List (Nat × Nat)) : Prop where
  hp : e.part = e0.part
  hr : e.rel = e0.rel
  hi : e.inset = e0.inset
  hcd : ∀ i a, (i, a) ∈ done → ∀ q, e.cntv i a q = cntSpec L e0 i a q
  hcn : ∀ i a, (i, a) ∉ done → ∀ q, e.cntv i a q = 0
  hsd : ∀ i a, (i, a) ∈ done → slotL e i a = initRemove L e0 i a
  hsn : ∀ i a, (i, a) ∉ done → e.remv i a = none
  hqn : e.queue.Nodup
  hqi : ∀ i a, (e.remv i a).isSome = true ↔ (i, a) ∈ e.queue
  hqd : ∀ k, k ∈ e.queue → k ∈ done

theorem DInv.init (L : LTS) {e : Eng} (hc : e.cnt = []) (hr : e.rem = []) (hq : e.queue = []) : DInv L e e [] :=
  ⟨rfl, rfl, rfl, fun _ _ h => absurd h List.not_mem_nil, fun i a _ q => by rw [cntv_eq, hc]; rfl,
    fun _ _ h => absurd h List.not_mem_nil, fun i a _ => by rw [remv_eq, hr]; rfl, hq ▸ List.nodup_nil,
    fun i a => by rw [remv_eq, hr, hq]; exact ⟨fun h => absurd h Bool.false_ne_true, fun h => absurd h List.not_mem_nil⟩,
    fun k hk => by rw [hq] at hk; exact hk⟩

theorem dinv_step {L : LTS} (hL : LtsOK L) {e0 e : Eng} {done : List (Nat × Nat)} {b1 a : Nat}
    (d : DInv L e0 e done) (hnd : (b1, a) ∉ done) : DInv L e0 (initSlot L b1 e a) ((b1, a) :: done) := by
  obtain ⟨c, hc, hsh⟩ := initSlot_shape L b1 e a
  rw [initRemove_congr d.hp d.hr] at hsh
  -- the counters of the slot were zero and are the specification now (a count of zero is not written)
  have hcnt : ∀ i a' q, cget c i a' q = if i = b1 ∧ a' = a then cntSpec L e0 b1 a q else e.cntv i a' q := by
    intro i a' q
    rw [hc, initCount_congr d.hp d.hr, initCount_eq]
    by_cases hk : i = b1 ∧ a' = a
    · rw [if_pos hk]
      by_cases hz : cntSpec L e0 b1 a q = 0
      · rw [if_neg (fun h => h.2.2.2 hz), hz, hk.1, hk.2]; exact d.hcn b1 a hnd q
      · exact if_pos ⟨hk.1, hk.2, Classical.not_not.mp fun hq => hz (cntSpec_zero_of_not_delta1 hL e0 b1 a q hq), hz⟩
    · rw [if_neg hk, if_neg (fun h => hk ⟨h.1, h.2.1⟩)]
  have hold : ∀ {i a'}, (i, a') ∈ (b1, a) :: done → ¬ (i = b1 ∧ a' = a) → (i, a') ∈ done := fun hm hk =>
    (mem_cons_pair hk).mp hm
  have hnew : ∀ {i a'}, (i, a') ∉ (b1, a) :: done → ¬ (i = b1 ∧ a' = a) ∧ (i, a') ∉ done := fun hm =>
    ⟨fun h => hm (by rw [h.1, h.2]; exact List.mem_cons_self), fun h => hm (List.mem_cons_of_mem _ h)⟩
  have hcd : ∀ i a', (i, a') ∈ (b1, a) :: done → ∀ q, cget c i a' q = cntSpec L e0 i a' q := fun i a' hm q => by
    rw [hcnt]
    by_cases hk : i = b1 ∧ a' = a
    · rw [if_pos hk, hk.1, hk.2]
    · rw [if_neg hk]; exact d.hcd i a' (hold hm hk) q
  have hcn : ∀ i a', (i, a') ∉ (b1, a) :: done → ∀ q, cget c i a' q = 0 := fun i a' hm q => by
    rw [hcnt, if_neg (hnew hm).1]; exact d.hcn i a' (hnew hm).2 q
  have hnone : e.remv b1 a = none := d.hsn b1 a hnd
  have hnq : (b1, a) ∉ e.queue := fun h => hnd (d.hqd _ h)
  by_cases hemp : initRemove L e0 b1 a = []
  · -- nothing to remove: only the counters change, the other fields are those of `e` by definition
    rw [hsh, if_pos hemp]
    refine ⟨d.hp, d.hr, d.hi, hcd, hcn, fun i a' hm => ?_, fun i a' hm => d.hsn i a' (hnew hm).2, d.hqn, d.hqi,
      fun k hk => List.mem_cons_of_mem _ (d.hqd k hk)⟩
    by_cases hk : i = b1 ∧ a' = a
    · rw [hk.1, hk.2, hemp]; exact slotL_none hnone
    · exact d.hsd i a' (hold hm hk)
  · rw [if_neg hemp] at hsh
    obtain ⟨f1, f2, f3⟩ := initSlot_frame L b1 e a
    have hrem : ∀ i a', (initSlot L b1 e a).remv i a' =
        if i = b1 ∧ a' = a then some [(e.nextId, initRemove L e0 b1 a)] else e.remv i a' := fun i a' => by
      rw [hsh]; exact rget_setRem _ _ _ _ _ _
    have hqu : (initSlot L b1 e a).queue = (b1, a) :: e.queue := by rw [hsh]
    refine ⟨f1.trans d.hp, f2.trans d.hr, f3.trans d.hi, by rw [hsh]; exact hcd, by rw [hsh]; exact hcn,
      fun i a' hm => ?_, fun i a' hm => ?_, hqu ▸ List.nodup_cons.mpr ⟨hnq, d.hqn⟩, fun i a' => ?_, fun k hk => ?_⟩
    · by_cases hk : i = b1 ∧ a' = a
      · rw [slotL_some ((hrem i a').trans (if_pos hk)), hk.1, hk.2]
        exact List.append_nil _
      · rw [slotL_congr ((hrem i a').trans (if_neg hk))]; exact d.hsd i a' (hold hm hk)
    · exact (hrem i a').trans ((if_neg (hnew hm).1).trans (d.hsn i a' (hnew hm).2))
    · rw [hrem, hqu]
      by_cases hk : i = b1 ∧ a' = a
      · rw [if_pos hk, hk.1, hk.2]; exact ⟨fun _ => List.mem_cons_self, fun _ => rfl⟩
      · rw [if_neg hk, d.hqi i a', mem_cons_pair hk]
    · rw [hqu] at hk
      exact (List.mem_cons.mp hk).elim (fun h => h ▸ List.mem_cons_self) (fun h => List.mem_cons_of_mem _ (d.hqd k h))

theorem mem_slotsOf (e : Eng) (i a : Nat) : (i, a) ∈ slotsOf e ↔ i < e.part.length ∧ a ∈ e.ins i := by
  simp only [slotsOf, List.mem_flatMap, List.mem_map, List.mem_range, Prod.mk.injEq]
  constructor
  · rintro ⟨b, hb, a', ha', rfl, rfl⟩
    exact ⟨hb, ha'⟩
  · rintro ⟨h1, h2⟩
    exact ⟨i, h1, a, h2, rfl, rfl⟩

/-! ### the measure after `init` -/

theorem length_slotsOf_le {L : LTS} {e : Eng} (w : WF L e) : (slotsOf e).length ≤ e.part.length * labels L := by
  have key : ∀ bs : List Nat, (∀ b, b ∈ bs → b < e.part.length) →
      (bs.flatMap (fun b1 => (e.ins b1).map (fun a => (b1, a)))).length ≤ bs.length * labels L := by
    intro bs
    induction bs with
    | nil => exact fun _ => Nat.zero_le _
    | cons b bs ih =>
      intro hlt
      rw [List.flatMap_cons, List.length_append, List.length_map, List.length_cons, Nat.succ_mul, Nat.add_comm]
      exact Nat.add_le_add (ih (fun c hc => hlt c (List.mem_cons_of_mem _ hc)))
        (w.ins_length_le (hlt b List.mem_cons_self))
  have := key (List.range e.part.length) (fun b hb => List.mem_range.mp hb)
  rw [List.length_range] at this
  exact this

theorem length_keysOf (L : LTS) (len : Nat) : (keysOf L len).length = len * (labels L * L.n) := by
  induction len with
  | zero => rw [Nat.zero_mul]; rfl
  | succ k ih =>
    rw [keysOf_succ, List.length_append, ih, length_blockKeys, Nat.succ_mul]

theorem pot_le_of_queue {L : LTS} {e : Eng} (w : WF L e) (hq : e.queue.length ≤ e.part.length * labels L) :
    pot L e ≤ L.n * (labels L + labels L * L.n) := by
  have h1 : posCnt L e ≤ e.part.length * (labels L * L.n) :=
    length_keysOf L e.part.length ▸ List.countP_le_length
  have h2 := w.len_le
  unfold pot
  have h3 : L.n * (labels L + labels L * L.n) =
      (L.n - e.part.length) * (labels L + labels L * L.n) + e.part.length * (labels L + labels L * L.n) := by
    rw [← Nat.add_mul, Nat.sub_add_cancel h2]
  rw [h3, Nat.mul_add e.part.length]
  omega

theorem mem_initRel (part : List (List Nat)) (rel : Rel) (x y : Nat) :
    (x, y) ∈ initRel part rel ↔ x ∈ part.flatten ∧ y ∈ part.flatten ∧ (blockOf part x, blockOf part y) ∈ rel := by
  simp only [initRel, List.mem_flatMap, List.mem_map, List.mem_filter, List.contains_iff_mem, Prod.mk.injEq]
  constructor
  · rintro ⟨q, hq, r, ⟨hr, hrel⟩, h1, h2⟩
    subst h1; subst h2
    exact ⟨hq, hr, hrel⟩
  · rintro ⟨h1, h2, h3⟩
    exact ⟨x, h1, y, ⟨h2, h3⟩, rfl, rfl⟩

theorem mem_initRemove (L : LTS) (e : Eng) (b1 a q : Nat) :
    q ∈ initRemove L e b1 a ↔ q ∈ delta1 L a ∧ ∀ col, col ∈ e.row b1 → ∀ s, s ∈ e.block col → (q, a, s) ∉ L.edges := by
  simp only [initRemove, List.mem_filter, Bool.not_eq_true', Bool.eq_false_iff, ne_eq, List.any_eq_true,
    List.contains_iff_mem, mem_pre, not_exists, not_and]

/-- the block relation is transitive on the block indices -/
def RelTrans (part : List (List Nat)) (rel : Rel) : Prop :=
  ∀ i j k, i < part.length → j < part.length → k < part.length → (i, j) ∈ rel → (j, k) ∈ rel → (i, k) ∈ rel

end Vata.LE

/-! ### "initialize counters" on (state, history) pairs -/

namespace Vata.LEC
open Vata.L Vata.LE

section counters
variable {τ : Type} (L : LTS) (front back : Eng → Nat → τ → τ) (slot : Nat → Eng → Nat → τ → τ)

/-- the labels of one block: `front`, then `slot` for every label of the inset -/
def rowT (b1 : Nat) (et : Eng × τ) : Eng × τ :=
  (et.1.ins b1).foldl (fun (et : Eng × τ) a => (initSlot L b1 et.1 a, slot b1 et.1 a et.2)) (et.1, front et.1 b1 et.2)

/-- the loops of "initialize counters" writing a history: `front` before the labels of a block, `slot` for every label of its
inset, `back` behind them -/
def countersT (x : Eng × τ) : Eng × τ :=
  (List.range x.1.part.length).foldl
    (fun et b1 => ((rowT L front slot b1 et).1, back (rowT L front slot b1 et).1 b1 (rowT L front slot b1 et).2)) x

theorem countersT_fst (x : Eng × τ) : (countersT L front back slot x).1 = initCounters L x.1 := by
  unfold countersT initCounters
  refine fst_foldl _ _ (fun s b1 => ?_) _ _
  exact fst_foldl _ (initSlot L b1) (fun _ _ => rfl) _ _

variable {L front back slot}

/-- the engine's invariant of the loops (`DInv`: the slots not yet visited are untouched) goes along with the history: a family
of predicates `Q k` (the blocks `< k` are done) / `QI b1` (inside block `b1`) kept by the three kinds of calls holds at the end,
and `DInv` holds there with all slots visited -/
theorem countersT_trace (hL : LtsOK L) {e0 : Eng} (w : WF L e0) (hc : e0.cnt = []) (hr : e0.rem = []) (hq : e0.queue = [])
    (Q QI : Nat → Eng → τ → Prop)
    (hfront : ∀ b1 e t done, b1 < e0.part.length → DInv L e0 e done → (∀ a, (b1, a) ∉ done) → Q b1 e t →
      QI b1 e (front e b1 t))
    (hslot : ∀ b1 a e t done, b1 < e0.part.length → a ∈ e0.ins b1 → DInv L e0 e done → (b1, a) ∉ done → QI b1 e t →
      QI b1 (initSlot L b1 e a) (slot b1 e a t))
    (hback : ∀ b1 e t done, b1 < e0.part.length → DInv L e0 e done → QI b1 e t → Q (b1 + 1) e (back e b1 t))
    (t : τ) (g : Q 0 e0 t) :
    Q e0.part.length (countersT L front back slot (e0, t)).1 (countersT L front back slot (e0, t)).2 ∧
      ∃ done, DInv L e0 (countersT L front back slot (e0, t)).1 done ∧
        ∀ i a, (i, a) ∈ done ↔ i < e0.part.length ∧ a ∈ e0.ins i := by
  -- the outer loop: after the blocks `< k`
  unfold countersT
  generalize hf : (fun (et : Eng × τ) b1 =>
    ((rowT L front slot b1 et).1, back (rowT L front slot b1 et).1 b1 (rowT L front slot b1 et).2)) = f
  suffices h : ∀ k, k ≤ e0.part.length → ∃ done,
      DInv L e0 ((List.range k).foldl f (e0, t)).1 done ∧ (∀ i a, (i, a) ∈ done ↔ i < k ∧ a ∈ e0.ins i) ∧
        Q k ((List.range k).foldl f (e0, t)).1 ((List.range k).foldl f (e0, t)).2 from
    (h _ (Nat.le_refl _)).elim fun done h => ⟨h.2.2, done, h.1, h.2.1⟩
  intro k
  induction k with
  | zero =>
    exact fun _ => ⟨[], DInv.init L hc hr hq,
      fun _ _ => ⟨fun h => absurd h List.not_mem_nil, fun h => absurd h.1 (Nat.not_lt_zero _)⟩, g⟩
  | succ k ih =>
    intro hk
    obtain ⟨done, d, hdk, gk⟩ := ih (Nat.le_of_succ_le hk)
    rw [List.range_succ, List.foldl_append]
    generalize (List.range k).foldl f (e0, t) = et at d gk ⊢
    have hins : et.1.ins k = e0.ins k := Eng.ins_congr d.hi k
    have hkd : ∀ a, (k, a) ∉ done := fun a h => Nat.lt_irrefl _ ((hdk k a).mp h).1
    simp only [List.foldl_cons, List.foldl_nil, ← hf]
    unfold rowT
    -- the inner loop: the slots `(k, a)` of the labels `vis` visited so far come on top of `done`
    obtain ⟨d', g'⟩ := foldl_done (fun (et : Eng × τ) a => (initSlot L k et.1 a, slot k et.1 a et.2))
      (fun s vis => DInv L e0 s.1 (vis.map (Prod.mk k) ++ done) ∧ QI k s.1 s.2)
      (et.1.ins k) (et.1, front et.1 k et.2) [] (hins ▸ (w.hinset k hk).1.1) (fun _ _ h => absurd h List.not_mem_nil)
      (fun s vis a ha hav ⟨d', g'⟩ =>
        have hnd : (k, a) ∉ vis.map (Prod.mk k) ++ done := fun h => (List.mem_append.mp h).elim
          (fun h => (List.mem_map.mp h).elim fun a' h' => hav ((Prod.mk.inj h'.2).2 ▸ h'.1)) (hkd a)
        ⟨dinv_step hL d' hnd, hslot k a s.1 s.2 _ hk (hins ▸ ha) d' hnd g'⟩)
      ⟨d, hfront k et.1 et.2 done hk d hkd gk⟩
    refine ⟨_, d', fun i a => ?_, hback k _ _ _ hk d' g'⟩
    rw [List.mem_append, hdk i a, List.mem_map, List.append_nil, hins, Nat.lt_succ_iff_lt_or_eq]
    exact ⟨fun h => h.elim (fun ⟨a', m, e⟩ => (Prod.mk.inj e).1 ▸ ⟨Or.inr rfl, (Prod.mk.inj e).2 ▸ List.mem_reverse.mp m⟩)
        (fun h => ⟨Or.inl h.1, h.2⟩),
      fun h => h.1.elim (fun hl => Or.inr ⟨hl, h.2⟩) (fun he => Or.inl ⟨a, List.mem_reverse.mpr (he ▸ h.2), he ▸ rfl⟩)⟩

end counters

end Vata.LEC

namespace Vata.LE
open Vata.L

/-- `initCounters` on a state with empty tables: counters are the specification, the slots of the insets hold the
states without a successor in the row, and the queue holds the nonempty slots -/
theorem initCounters_spec {L : LTS} (hL : LtsOK L) {e : Eng} (w : WF L e) (hc : e.cnt = []) (hr : e.rem = [])
    (hq : e.queue = []) :
    (initCounters L e).part = e.part ∧ (initCounters L e).rel = e.rel ∧ (initCounters L e).inset = e.inset ∧
      QOK (initCounters L e) ∧
      (∀ i a q, i < e.part.length → a ∈ e.ins i → (initCounters L e).cntv i a q = cntSpec L e i a q) ∧
      (∀ i a, slotL (initCounters L e) i a = if i < e.part.length ∧ a ∈ e.ins i then initRemove L e i a else []) ∧
      (initCounters L e).queue.length ≤ e.part.length * labels L := by
  obtain ⟨_, done, d, hdone⟩ := LEC.countersT_trace (front := fun _ _ (t : Unit) => t) (back := fun _ _ t => t)
    (slot := fun _ _ _ t => t) hL w hc hr hq (fun _ _ _ => True) (fun _ _ _ => True) (fun _ _ _ _ _ _ _ _ => trivial)
    (fun _ _ _ _ _ _ _ _ _ _ => trivial) (fun _ _ _ _ _ _ _ => trivial) () trivial
  rw [LEC.countersT_fst] at d
  refine ⟨d.hp, d.hr, d.hi, ⟨d.hqn, d.hqi, fun i a h => ?_⟩, fun i a q hi ha => d.hcd i a ((hdone i a).mpr ⟨hi, ha⟩) q,
    fun i a => ?_, ?_⟩
  · rw [d.hp]; exact ((hdone i a).mp (d.hqd _ h)).1
  · by_cases hd : i < e.part.length ∧ a ∈ e.ins i
    · rw [if_pos hd]; exact d.hsd i a ((hdone i a).mpr hd)
    · rw [if_neg hd]; exact slotL_none (d.hsn i a (fun h => hd ((hdone i a).mp h)))
  · exact Nat.le_trans (d.hqn.length_le_of_subset (fun k hk => (mem_slotsOf e k.1 k.2).mpr ((hdone k.1 k.2).mp (d.hqd k hk))))
      (length_slotsOf_le w)

/-- a state whose counters and remove lists are as `initCounters` leaves them satisfies the semantic invariant, provided
related states enable the same labels (which `initPrune` has arranged) -/
theorem sem_of_counters {L : LTS} (hL : LtsOK L) {e : Eng} (w : WF L e)
    (hC : ∀ i a q, i < e.part.length → a ∈ e.ins i → e.cntv i a q = cntSpec L e i a q)
    (hS : ∀ i a, slotL e i a = if i < e.part.length ∧ a ∈ e.ins i then initRemove L e i a else [])
    (hout : ∀ x y a, x < L.n → y < L.n → e.R x y → hasOut L a x = true → hasOut L a y = true) :
    Sem L e (fun _ _ _ => False) := by
  have hmem : ∀ i a q, q ∈ slotL e i a → q ∈ initRemove L e i a := fun i a q hq => by
    rw [hS] at hq
    by_cases hd : i < e.part.length ∧ a ∈ e.ins i
    · rw [if_pos hd] at hq; exact hq
    · rw [if_neg hd] at hq; cases hq
  refine ⟨hC, fun i a q q' hi hq hed hu => ?_, fun i a hi => ?_, fun p a p' q hed hR hqn => ?_⟩
  · exact ((mem_initRemove L e i a q).mp (hmem i a q hq)).2 _ hu q' (w.blockOf_mem (hL _ hed).2).2 hed
  · rw [hS]
    by_cases hd : i < e.part.length ∧ a ∈ e.ins i
    · rw [if_pos hd]
      exact ⟨List.Pairwise.filter _ (nodup_delta1 L a), fun q hq =>
        ((mem_delta1 L a q).mp ((mem_initRemove L e i a q).mp hq).1).1⟩
    · rw [if_neg hd]; exact ⟨List.nodup_nil, fun q hq => absurd hq List.not_mem_nil⟩
  · -- `q` enables `a` as `p` does; if no successor is related to `p'` it is on the remove list
    by_cases hex : ∃ q', (q, a, q') ∈ L.edges ∧ e.R p' q'
    · exact Or.inl hex
    · refine Or.inr (Or.inl ?_)
      obtain ⟨hlt, hmem'⟩ := w.blockOf_mem (hL _ hed).2
      rw [hS, if_pos ⟨hlt, (w.mem_ins hlt a).mpr ⟨p', hmem', (hasIn_iff L a p').mpr ⟨p, hed⟩⟩⟩, mem_initRemove]
      refine ⟨(mem_delta1 L a q).mpr ⟨hqn, hout p q a (hL _ hed).1 hqn hR ((hasOut_iff L a p).mpr ⟨p', hed⟩)⟩, ?_⟩
      intro col hcol s hs hqs
      refine hex ⟨s, hqs, ?_⟩
      show blockOf e.part s ∈ e.row (blockOf e.part p')
      rw [w.blockOf_eq hs]
      exact hcol

theorem init_inv {L : LTS} {part : List (List Nat)} {rel : Rel} (hL : LtsOK L) (hp : isPartition part L.n = true)
    (hc : isConsistent part rel = true) (htr : RelTrans part rel) {S : Nat → Nat → Prop} (hS : IsSim L S)
    (hSI : ∀ y z, S y z → (y, z) ∈ initRel part rel) :
    Inv L S (RelOf (initRel part rel)) (engineInit L part rel) ∧
      pot L (engineInit L part rel) ≤ L.n * (labels L + labels L * L.n) := by
  obtain ⟨_, hcov, _⟩ := isPartition_spec hp
  unfold engineInit
  -- the four stages
  have wA := initBlocks_wf (L := L) hp hc
  have hblt : ∀ x, x < L.n → blockOf part x < part.length := fun x hx =>
    blockOf_map_mkBlockList part x ▸ initBlocks_length L part rel ▸ (wA.blockOf_mem hx).1
  obtain ⟨parB, wB, rB, uB, tc, tr, tq, _⟩ := initRefine_spec wA
  generalize initRefine L (initBlocks L part rel) = eB at *
  have wC := initPrune_wf wB uB
  -- `tc`, `tr`, `tq`: the tables are those of `initBlocks`, which are `[]` by definition; `initPrune` does not touch them
  obtain ⟨dp, dr, di, qkD, hCD, hSD, hqlen⟩ := initCounters_spec hL wC tc tr tq
  generalize initCounters L (initPrune L eB) = eD at *
  have wD : WF L eD := WF.congr dp dr di wC
  -- the relation on states of the final state
  have hRD : ∀ x y, x < L.n → y < L.n →
      (eD.R x y ↔ (blockOf part x, blockOf part y) ∈ rel ∧ ∀ a, hasOut L a x = true → hasOut L a y = true) := by
    intro x y hx hy
    have h1 : eD.R x y ↔ (initPrune L eB).R x y := by
      unfold Eng.R
      rw [dp]
      exact U_congr dp dr _ y
    rw [h1, initPrune_R wB uB hx hy, ← initBlocks_R hp hc hx hy]
    exact and_congr_left fun _ => rB.rel_iff wA wB hx hy
  have hSn : ∀ y z, S y z → y < L.n ∧ z < L.n := fun y z h =>
    have h' := (mem_initRel part rel y z).mp (hSI y z h)
    ⟨(hcov y).mp h'.1, (hcov z).mp h'.2.1⟩
  have hins : ∀ i, eD.ins i = (initPrune L eB).ins i := Eng.ins_congr di
  have sem : Sem L eD (fun _ _ _ => False) := by
    refine sem_of_counters hL wD (fun i a q hi ha => ?_) (fun i a => ?_)
      (fun x y a hx hy hR => ((hRD x y hx hy).mp hR).2 a)
    · rw [dp] at hi
      rw [hins] at ha
      rw [hCD i a q hi ha, cntSpec_congr dp dr]
    · rw [hSD, dp, hins, initRemove_congr dp dr]
  refine ⟨⟨wD, qkD, sem, fun x y z hx hxy hyz => ?_, fun x y hx hy hxy => ?_⟩,
    pot_le_of_queue wD (by rw [dp]; exact hqlen)⟩
  · obtain ⟨hyn, hzn⟩ := hSn y z hyz
    obtain ⟨h1, h2⟩ := (hRD x y hx hyn).mp hxy
    refine (hRD x z hx hzn).mpr ⟨htr _ _ _ (hblt x hx) (hblt y hyn) (hblt z hzn) h1
      ((mem_initRel part rel y z).mp (hSI y z hyz)).2.2, fun a ha => ?_⟩
    obtain ⟨y', hy'⟩ := (hasOut_iff L a y).mp (h2 a ha)
    obtain ⟨z', hz', _⟩ := hS y z hyz a y' hy'
    exact (hasOut_iff L a z).mpr ⟨z', hz'⟩
  · exact (mem_initRel part rel x y).mpr ⟨(hcov x).mpr hx, (hcov y).mpr hy, ((hRD x y hx hy).mp hxy).1⟩

end Vata.LE
