import Vata.Proofs.RcStoreW
/-!
# Which histories stay below `2^w` referrers (properties C18 / C20)

* `histBounded w f ops` ⇔ `maxRefs f ops < 2^w`                      (`histBounded_iff_maxRefs`)
* the counter of an allocated node is at most `2 * #allocated nodes + #live handles`  (`rc_le_size`), so a history
  in which `2 * #nodes + #handles` stays below `2^w` is bounded                     (`histBounded_of_size`)
-/
namespace Vata.RcSW
open Vata.R (Data contrib indegL cnt)
open Vata.RcS

theorem foldl_max_lt (g : Nat → Nat) (p : Nat) : ∀ (l : List Nat) (m : Nat),
    l.foldl (fun m n => max m (g n)) m < p ↔ m < p ∧ ∀ n, n ∈ l → g n < p
  | [], m => by simp
  | a :: l, m => by
    simp only [List.foldl_cons, foldl_max_lt g p l, Nat.max_lt, List.mem_cons, forall_eq_or_imp]
    exact ⟨fun h => ⟨h.1.1, h.1.2, h.2⟩, fun h => ⟨⟨h.1, h.2.1⟩, h.2.2⟩⟩

theorem bounded_iff_maxRefsS (w : Nat) (s : Store) : bounded w s = true ↔ maxRefsS s < 2^w := by
  simp only [bounded, List.all_eq_true, decide_eq_true_eq, maxRefsS, foldl_max_lt]
  exact ⟨fun h => ⟨Nat.two_pow_pos w, h⟩, fun h => h.2⟩

theorem histBoundedFrom_iff_maxRefsFrom (w : Nat) (f : Nat → Nat → Nat) : ∀ (ops : List Op) (s : Store),
    histBoundedFrom w f s ops = true ↔ maxRefsFrom f s ops < 2^w
  | [], s => bounded_iff_maxRefsS w s
  | op :: ops, s => by
    rw [histBoundedFrom_cons, maxRefsFrom, Nat.max_lt, bounded_iff_maxRefsS, histBoundedFrom_iff_maxRefsFrom w f ops]

theorem histBounded_iff_maxRefs (w : Nat) (f : Nat → Nat → Nat) (ops : List Op) :
    histBounded w f ops = true ↔ maxRefs f ops < 2^w := histBoundedFrom_iff_maxRefsFrom w f ops empty

theorem contrib_le_two (dat : Nat → Data) (n m : Nat) : contrib dat n m ≤ 2 := by
  unfold contrib
  split
  · omega
  · split <;> split <;> omega

def size (s : Store) : Nat := 2 * s.ids.length + s.hs.length

theorem rc_le_size {s : Store} (hi : Inv s) {n : Nat} (hn : n ∈ s.ids) : s.rc n ≤ size s := by
  have h1 := hi.rc_inv.1 n hn
  have h2 : indeg s n ≤ s.ids.length * 2 := sum_map_le _ 2 s.ids (fun m _ => contrib_le_two s.dat n m)
  have h3 : handlesTo s n ≤ s.hs.length := by
    have := List.count_le_length (a := n) (l := roots s)
    simp only [roots, List.length_map] at this
    exact this
  simp only [size]
  omega

theorem bounded_of_size {w : Nat} {s : Store} (hi : Inv s) (h : size s < 2^w) : bounded w s = true := by
  simp only [bounded, List.all_eq_true, decide_eq_true_eq]
  exact fun n hn => Nat.lt_of_le_of_lt (rc_le_size hi hn) h

theorem histBoundedFrom_of_size (w : Nat) (f : Nat → Nat → Nat) : ∀ (ops : List Op) (s : Store), Inv s →
    (∀ k, size ((ops.take k).foldl (RcS.stepF f) s) < 2^w) → histBoundedFrom w f s ops = true
  | [], _, hi, h => bounded_of_size hi (h 0)
  | op :: ops, _, hi, h =>
    histBoundedFrom_cons.mpr ⟨bounded_of_size hi (h 0),
      histBoundedFrom_of_size w f ops _ (stepF_inv f op hi).1 (fun k => h (k+1))⟩

theorem histBounded_of_size (w : Nat) (f : Nat → Nat → Nat) (ops : List Op)
    (h : ∀ k, size (RcS.runF f (ops.take k)) < 2^w) : histBounded w f ops = true :=
  histBoundedFrom_of_size w f ops empty inv_empty h

end Vata.RcSW
