import Vata.Proofs.NfaOpsCodedMain
/-!
# C10 (continued) – `Intersection`, `Reverse`, `RemoveUnreachableStates`, `RemoveUselessStates`, `GetCandidateTree` AS CODED

> C10: For nondeterministic finite word automata, … Intersection accepts exactly the intersection of the operand languages,
> Reverse exactly the mirror images of the accepted words.  RemoveUnreachableStates and RemoveUselessStates keep the language,
> and GetCandidateTree returns an automaton whose language is a subset of the original that is empty only if the original
> language is empty.

`C10.lean` / `C10_StartSymbols.lean` prove this for the relation-level models of `Vata/NfaOps.lean` / `Vata/NfaStart.lean`
(`nfaIsect` saturates a set of pairs round by round and numbers it in order of discovery; `nfaRemoveUnreachable` saturates a
set of states; `nfaCandidate` scans lists in list order).  Their "not yet proved" sections name the gap: the numbering of
`Intersection` (`pTranslMap->size ()` in the order of a STACK and of hash containers) and the scan order of
`GetCandidateTree`.  This file closes it.

## how the C++ is read into the model (`Vata/NfaOpsCoded.lean`, namespace `Vata.NfaC`, the C++ lines are quoted there)

* `src/explicit_finite_isect.cc` → `isectInit` (the two loops over the start states: `insert (…, size ())`, unconditional
  `push_back`, start marking), `isectLoop` / `isectBody` (`back` / `pop_back`; final marking; the two `genericLookup`s with
  their `continue`; the loop over the symbols of the left cluster with `rcluster->find` and its `continue`; the two loops over
  the target sets; `insert (…, size ())`, `stateSet.insert`, `push_back` only when the insertion took place),
  `tmInsert` (the fresh number IS the size of the map; the map is kept as the list of entries with the number each was given, so
  `number = position` is a theorem – `TmWF` – not a definition), followed by `nfasUselessCoded`.  `nfasIsectCoded o A B` returns
  the result and the filled `*pTranslMap`.
* `src/explicit_finite_reverse.cc` → `nfasReverseCoded` (three nested loops of `AddTransition`, the map of start symbols copied
  and completed by `insert`).
* `src/explicit_finite_unreach.cc` → `unreachInit` (the set built from the start states, the vector built from the ITERATION of
  that set, popped from the back), `unreachLoop`, `unreachBuild`; `src/explicit_finite_useless.cc` → `nfasUselessCoded`
  (the composition written there).
* `src/explicit_finite_candidate.cc` → `candStartLoop` (early `return` at a final start state), `candLoop` / `candInner`
  (FIFO list; `insert` into `reachableStates`; early `return` at the first final target; `transitions_->insert` of the WHOLE
  cluster of `actState`, which does not overwrite), then `nfasUselessCoded`.
* **Iteration orders** of the three kinds of hash containers are the parameter `o : NfaOrd`; every theorem is for every `o` with
  `o.Ok` (each order enumerates exactly the elements).  `NfaOrd.ident`, `NfaOrd.rev` are two instances.
* **Variants** for the repaired defects: `IsectVariant.d4` (start marking inside the symbol loop, for a pair ONE of whose
  components is a start state – the code before `2c042d21`), `.d15` (`SetStateStart` once per start symbol – between
  `2c042d21` and `bb6bc616`), `fixD5 = false` (`Reverse` without the `insert` loop – before `dcf3cbe6`), `fixD6 = false`
  (`GetCandidateTree` without the early `return` – before `8ac4ac29`).

## what is abstracted

* Automata are lists (`Vata.NFAS`); the transition table `state ↦ symbol ↦ set` is read off the list by `nfaClusterOf`; a cluster
  or target set that exists but is empty is not represented (it is never iterated with an effect).
* The stack of `Intersection` holds pointers to map entries; the model holds the entries (an `unordered_map` never moves its
  nodes).
* The nested `for` loops whose bodies change the state only in the innermost body are proved equal to ONE fold over the
  flattened iteration sequence (`isectBody_fixed`, `isectInit_fixed`); the models themselves keep the nesting.
* "Same as the relation-level model" is `NfaSetEq` (same SETS of start states, final states, transitions) – the C++ containers
  are sets – plus `SymObsEq` for the start-symbol map.
* Fuel: every loop is fuel-indexed and returns `none` when the fuel runs out; **totality is proved with explicit fuels**
  (`isectFuel`, `unreachFuel`, `candFuel`), the wrappers `nfasIsectCoded`, `nfasUnreachCoded`, `nfasCandidateCoded` use them and
  their default value is proved unused.
-/
namespace Vata.Props
open Vata.W Vata.NfaC

/-! ### `Intersection` -/

/-- **`Intersection` as coded refines the relation-level model.**  For every iteration order: the run with the fuel
`isectFuel` ends (`some st`, empty stack); the translation map is numbered by position (`TmWF`: the number handed out by
`insert (…, size ())` is the position of the entry); its keys are EXACTLY the pairs the relation-level model `nfaIsect` explores;
it is injective on them; `res` before `RemoveUselessStates` is the product automaton on these pairs under the reported map;
each product start state carries the union of the start symbols of its components. -/
theorem C10_coded_isect_refines {o : NfaOrd} (ho : o.Ok) (A B : NFAS) :
    ∃ st, nfasIsectCodedRaw o .fixed A B (isectFuel o .fixed A B) = some st ∧
      nfasIsectCoded o A B = (nfasUselessCoded o true st.res, st.tm) ∧
      st.stack = [] ∧ TmWF st.tm ∧
      (∀ p, p ∈ tmKeys st.tm ↔ p ∈ nfaIsectPairs A.toNFA B.toNFA) ∧
      NfaPairInjOn (tmFun st.tm) (nfaIsectPairs A.toNFA B.toNFA) ∧
      NfaSetEq st.res.toNFA (nfaProdOn A.toNFA B.toNFA (nfaIsectPairs A.toNFA B.toNFA) (tmFun st.tm)) ∧
      (∀ p, p ∈ nfaStartPairs A.toNFA B.toNFA →
        smFind st.res.startSyms (tmFun st.tm p) = some (A.symsOf p.1 ++ B.symsOf p.2)) := by
  obtain ⟨st, hst, he⟩ := nfasIsectCoded_eq ho A B
  obtain ⟨h1, h2, h3, h4, h5, _⟩ := nfasIsectCodedRaw_spec ho A B _ st hst
  refine ⟨st, hst, he, h1, h2, h3, ?_, h5.trans (nfaProdOn_setEq _ _ _ h3), nfasIsectCodedRaw_syms ho A B _ st hst⟩
  intro p hp q hq e
  exact h4 p ((h3 p).mpr hp) q ((h3 q).mpr hq) e

/-- the result of `Intersection` as coded and the relation-level model `nfaIsect` are the SAME construction – the trimmed
product on `nfaIsectPairs` – under two injective numberings: the reported translation map, resp. the position in the
round-by-round order of discovery -/
theorem C10_coded_isect_same_construction {o : NfaOrd} (ho : o.Ok) (A B : NFAS) :
    NfaSetEq (nfasIsectCoded o A B).1.toNFA
      (nfaRemoveUseless (nfaProdOn A.toNFA B.toNFA (nfaIsectPairs A.toNFA B.toNFA) (tmFun (nfasIsectCoded o A B).2))) ∧
    nfaIsect A.toNFA B.toNFA =
      nfaRemoveUseless (nfaProdOn A.toNFA B.toNFA (nfaIsectPairs A.toNFA B.toNFA)
        (fun p => (nfaIsectPairs A.toNFA B.toNFA).idxOf p)) := by
  obtain ⟨st, _, he, _, _, _, _, h5, _⟩ := C10_coded_isect_refines ho A B
  rw [he]
  exact ⟨(nfasUselessCoded_setEq ho true st.res).trans h5.removeUseless, nfaIsect_eq _ _⟩

/-- **`Intersection` as coded accepts exactly the intersection**, for every iteration order -/
theorem C10_coded_isect_lang {o : NfaOrd} (ho : o.Ok) (A B : NFAS) (w : List Nat) :
    acceptsW (nfasIsectCoded o A B).1.toNFA w = (acceptsW A.toNFA w && acceptsW B.toNFA w) := by
  obtain ⟨st, hst, he⟩ := nfasIsectCoded_eq ho A B
  rw [he, nfasUselessCoded_lang ho]
  exact (nfasIsectCodedRaw_spec ho A B _ st hst).2.2.2.2.2 w

/-- **totality of the stack loop with an explicit fuel**: `|start pairs pushed| + |joint transitions|` turns suffice (each turn
pops one entry; an entry is pushed only when a pair gets its number, and – after the start loops – such a pair is the target of
a joint transition that had no number before); and EVERY run that ends (any fuel) satisfies the specification -/
theorem C10_coded_isect_total {o : NfaOrd} (ho : o.Ok) (A B : NFAS) :
    (∃ st, nfasIsectCodedRaw o .fixed A B (isectFuel o .fixed A B) = some st) ∧
    isectFuel o .fixed A B =
      (iterSet o.sts A.start).length * (iterSet o.sts B.start).length + (nfaJointAll A.toNFA B.toNFA).length ∧
    ∀ fuel st, nfasIsectCodedRaw o .fixed A B fuel = some st →
      ∀ w, acceptsW st.res.toNFA w = (acceptsW A.toNFA w && acceptsW B.toNFA w) :=
  ⟨nfasIsectCodedRaw_total ho A B, by rw [isectFuel, isectInit_stack_length],
    fun fuel st h => (nfasIsectCodedRaw_spec ho A B fuel st h).2.2.2.2.2⟩

/-! ### `Reverse` -/

/-- **`Reverse` as coded**: the same automaton (as sets) as the relation-level `nfaReverse`, hence exactly the mirror images;
the same start-symbol entries as `nfasReverse` (every new start state has an entry – the repair D5) -/
theorem C10_coded_reverse_lang {o : NfaOrd} (ho : o.Ok) (A : NFAS) :
    NfaSetEq (nfasReverseCoded o true A).toNFA (nfaReverse A.toNFA) ∧
    (∀ w, acceptsW (nfasReverseCoded o true A).toNFA w = acceptsW A.toNFA w.reverse) ∧
    SymObsEq (nfasReverseCoded o true A) (nfasReverse A) ∧
    (∀ s, s ∈ (nfasReverseCoded o true A).start → smHas (nfasReverseCoded o true A).startSyms s = true) := by
  have h := nfasReverseCoded_setEq ho true A
  refine ⟨h, fun w => by rw [h.lang w, nfaReverse_lang], fun q => nfasReverseCoded_syms ho A q, ?_⟩
  intro s hs
  rw [(nfasReverseCoded_syms ho A s).1, nfasReverse_has]
  have : s ∈ A.final := hs
  rw [List.contains_iff_mem.mpr this, Bool.or_true]

/-! ### `RemoveUnreachableStates`, `RemoveUselessStates` -/

/-- **the trimming functions as coded return the same automata as the relation-level models** (same sets of start states,
final states, transitions; same start-symbol entries), for every iteration order; the stack search of
`RemoveUnreachableStates` ends within `unreachFuel` turns and its set `reachableStates` is the set of reachable states -/
theorem C10_coded_trim_same {o : NfaOrd} (ho : o.Ok) (A : NFAS) :
    (∃ R, nfaReachCoded o A.toNFA (unreachFuel o A.toNFA) = some R ∧ nfasUnreachCoded o A = unreachBuild o A R ∧
      ∀ q, q ∈ R ↔ q ∈ nfaReachable A.toNFA) ∧
    NfaSetEq (nfasUnreachCoded o A).toNFA (nfaRemoveUnreachable A.toNFA) ∧
    (nfasUnreachCoded o A).startSyms = A.startSyms ∧
    NfaSetEq (nfasUselessCoded o true A).toNFA (nfaRemoveUseless A.toNFA) ∧
    SymObsEq (nfasUselessCoded o true A) (nfasRemoveUseless A) ∧
    (∀ w, acceptsW (nfasUnreachCoded o A).toNFA w = acceptsW A.toNFA w) ∧
    (∀ w, acceptsW (nfasUselessCoded o true A).toNFA w = acceptsW A.toNFA w) := by
  obtain ⟨R, hR, e⟩ := nfasUnreachCodedF_isSome ho A
  have h1 := nfasUnreachCoded_setEq ho A
  refine ⟨⟨R, hR, e, nfaReachCoded_spec ho _ _ _ hR⟩, h1.1, h1.2.1, nfasUselessCoded_setEq ho true A,
    nfasUselessCoded_syms ho A, fun w => ?_, nfasUselessCoded_lang ho true A⟩
  rw [h1.1.lang w, nfaRemoveUnreachable_lang]

/-- consequence: every state of the coded `RemoveUselessStates` is reachable and co-reachable in the input -/
theorem C10_coded_trim_useful {o : NfaOrd} (ho : o.Ok) (A : NFAS) (q : Nat)
    (hq : q ∈ nfaStates (nfasUselessCoded o true A).toNFA) : NfaReach A.toNFA q ∧ NfaCoReach A.toNFA q := by
  apply nfaRemoveUseless_states_useful
  have h := nfasUselessCoded_setEq ho true A
  rcases mem_nfaStates.mp hq with h' | h' | ⟨e, he, h'⟩
  · exact mem_nfaStates.mpr (Or.inl ((h.1 q).mp h'))
  · exact mem_nfaStates.mpr (Or.inr (Or.inl ((h.2.1 q).mp h')))
  · exact mem_nfaStates.mpr (Or.inr (Or.inr ⟨e, (h.2.2 e).mp he, h'⟩))

/-! ### `GetCandidateTree` -/

/-- **`GetCandidateTree` as coded, for every scan order** of the start states, of the clusters and of the target sets: the
search ends within `candFuel` turns; the automaton handed to `RemoveUselessStates` is a sub-automaton of the input; the
result accepts only words of the input, and accepts some word exactly when the input does -/
theorem C10_coded_candidate_spec {o : NfaOrd} (ho : o.Ok) (A : NFAS) :
    (∃ r, nfasCandidateCodedRaw o true A (candFuel o A.toNFA) = some r ∧
      nfasCandidateCoded o A = nfasUselessCoded o true r ∧ NfaSub r.toNFA A.toNFA) ∧
    (∀ w, acceptsW (nfasCandidateCoded o A).toNFA w = true → acceptsW A.toNFA w = true) ∧
    ((∃ w, acceptsW (nfasCandidateCoded o A).toNFA w = true) ↔ ∃ w, acceptsW A.toNFA w = true) := by
  obtain ⟨r, hr, e⟩ := nfasCandidateCoded_eq ho A
  obtain ⟨h1, h2⟩ := nfasCandidateCodedRaw_spec ho A _ r hr
  have hsub : ∀ w, acceptsW (nfasCandidateCoded o A).toNFA w = true → acceptsW A.toNFA w = true := by
    intro w hw
    rw [e, nfasUselessCoded_lang ho] at hw
    exact h1.lang w hw
  refine ⟨⟨r, hr, e, h1⟩, hsub, ⟨fun ⟨w, hw⟩ => ⟨w, hsub w hw⟩, fun hne => ?_⟩⟩
  obtain ⟨w, hw⟩ := h2 hne
  exact ⟨w, by rw [e, nfasUselessCoded_lang ho]; exact hw⟩

/-- every run of the coded search that ends (any fuel, any order) is correct -/
theorem C10_coded_candidate_any_fuel {o : NfaOrd} (ho : o.Ok) (A : NFAS) (fuel : Nat) (r : NFAS)
    (h : nfasCandidateCodedF o true true A fuel = some r) :
    (∀ w, acceptsW r.toNFA w = true → acceptsW A.toNFA w = true) ∧
    ((∃ w, acceptsW A.toNFA w = true) → ∃ w, acceptsW r.toNFA w = true) := by
  simp only [nfasCandidateCodedF, Option.map_eq_some_iff] at h
  obtain ⟨r0, hr0, rfl⟩ := h
  obtain ⟨h1, h2⟩ := nfasCandidateCodedRaw_spec ho A _ r0 hr0
  refine ⟨fun w hw => ?_, fun hne => ?_⟩
  · rw [nfasUselessCoded_lang ho] at hw; exact h1.lang w hw
  · obtain ⟨w, hw⟩ := h2 hne
    exact ⟨w, by rw [nfasUselessCoded_lang ho]; exact hw⟩

/-! ### non-vacuity: the orders matter for the numbering and for the witness, not for the theorems -/

namespace CodedEx
/-- words over {7,8} ending in 8 -/
def A1 : NFAS := ⟨⟨[0], [1], [(0, 7, 0), (0, 8, 0), (0, 8, 1)]⟩, [(0, [3])]⟩
/-- words of even length -/
def B1 : NFAS := ⟨⟨[0], [0], [(0, 7, 1), (0, 8, 1), (1, 7, 0), (1, 8, 0)]⟩, [(0, [4])]⟩
/-- two ways to a final state -/
def C1 : NFAS := ⟨⟨[0], [2, 4], [(0, 7, 1), (1, 8, 2), (1, 9, 3), (3, 7, 4), (1, 9, 4)]⟩, [(0, [3])]⟩
end CodedEx
open CodedEx

example : NfaOrd.ident.Ok ∧ NfaOrd.rev.Ok := ⟨NfaOrd.ident_ok, NfaOrd.rev_ok⟩

/-- the hypothesis `o.Ok` cannot be dropped: an "iteration" of the state sets that skips their elements loses the start
states, and the product is empty although `[7, 8]` is accepted by both operands -/
example : acceptsW (nfasIsectCoded { sts := fun _ => [], syms := id, srcs := id } A1 B1).1.toNFA [7, 8] = false ∧
    (acceptsW A1.toNFA [7, 8] && acceptsW B1.toNFA [7, 8]) = true ∧
    acceptsW (nfasIsectCoded .ident A1 B1).1.toNFA [7, 8] = true := by decide +kernel

/-- the STACK numbering: with list order `(1,1)` gets number 2 and `(1,0)` number 3; with the reversed order `(1,1)` is
number 1 and `(0,1)` number 2; the relation-level model numbers breadth-first `(0,0),(0,1),(1,1),(1,0)` -/
example : (nfasIsectCoded .ident A1 B1).2 = [((0, 0), 0), ((0, 1), 1), ((1, 1), 2), ((1, 0), 3)] ∧
    (nfasIsectCoded .rev A1 B1).2 = [((0, 0), 0), ((1, 1), 1), ((0, 1), 2), ((1, 0), 3)] ∧
    nfaIsectPairs A1.toNFA B1.toNFA = [(0, 0), (0, 1), (1, 1), (1, 0)] := by decide +kernel

example : (nfasIsectCoded .rev A1 B1).1.trans = [(2, 8, 3), (0, 8, 2), (0, 7, 2), (2, 8, 0), (2, 7, 0)] ∧
    acceptsW (nfasIsectCoded .rev A1 B1).1.toNFA [7, 8] = true ∧
    acceptsW (nfasIsectCoded .rev A1 B1).1.toNFA [8] = false ∧
    (nfasIsectCoded .rev A1 B1).1.symsOf 0 = [3, 4] := by decide +kernel

/-- the scan order decides WHICH witness `GetCandidateTree` returns (final state 2 or 4); both satisfy the specification -/
example : (nfasCandidateCoded .ident C1).final = [2] ∧ (nfasCandidateCoded .rev C1).final = [4] ∧
    (nfasCandidateCoded .ident C1).trans = [(1, 8, 2), (0, 7, 1)] ∧
    (nfasCandidateCoded .rev C1).trans = [(1, 9, 4), (0, 7, 1)] := by decide +kernel

example : nfaReachCoded .ident C1.toNFA (unreachFuel .ident C1.toNFA) = some [0, 1, 2, 3, 4] ∧
    nfaReachCoded .rev C1.toNFA (unreachFuel .rev C1.toNFA) = some [0, 1, 4, 3, 2] := by decide +kernel

/-! ### regressions: the coded models of the code BEFORE the repairs show the defects (kernel-checked) -/

namespace CodedEx
/-- accepts only the empty word; its start state carries the symbol 5 -/
def E : NFAS := ⟨⟨[0], [0], []⟩, [(0, [5])]⟩
/-- the same with a start state WITHOUT start symbols (what `Reverse` produces) -/
def E0 : NFAS := ⟨⟨[0], [0], []⟩, [(0, [])]⟩
/-- `a*` -/
def As : NFAS := ⟨⟨[0], [0], [(0, 1, 0)]⟩, [(0, [9])]⟩
/-- `{aa}` -/
def Bs : NFAS := ⟨⟨[0], [2], [(0, 1, 1), (1, 1, 2)]⟩, [(0, [8])]⟩
/-- `{7}` -/
def R1 : NFAS := ⟨⟨[0], [1], [(0, 7, 1)]⟩, [(0, [3])]⟩
end CodedEx

/-- **D4** (first half): the original code marked start states inside the symbol loop – a start pair without a common outgoing
symbol was never marked, so `{ε} ∩ {ε}` came out EMPTY; the current code accepts `ε` -/
example : ((nfasIsectCodedF .ident .d4 true E E 5).map (fun r => (r.1.start, acceptsW r.1.toNFA []))) = some ([], false) ∧
    ((nfasIsectCodedF .ident .fixed true E E 5).map (fun r => (r.1.start, acceptsW r.1.toNFA []))) = some ([0], true) := by
  decide +kernel

/-- **D4** (second half): … and marked a pair when ONE component was a start state: `a* ∩ {aa}` accepted `a`
(the pair `(0,1)` became a start state); the current code does not -/
example : ((nfasIsectCodedF .ident .d4 true As Bs 9).map (fun r => (r.1.start, acceptsW r.1.toNFA [1], acceptsW r.1.toNFA [1, 1])))
      = some ([1, 0], true, true) ∧
    ((nfasIsectCodedF .ident .fixed true As Bs 9).map (fun r => (r.1.start, acceptsW r.1.toNFA [1], acceptsW r.1.toNFA [1, 1])))
      = some ([0], false, true) ∧
    (acceptsW As.toNFA [1] && acceptsW Bs.toNFA [1]) = false := by decide +kernel

/-- **D15**: between the two repairs the start flag was set once per start SYMBOL – operands whose start states carry no
symbols (results of `Reverse`) had a product without start states; with a symbol the same code was right -/
example : ((nfasIsectCodedF .ident .d15 true E0 E0 5).map (fun r => (r.1.start, acceptsW r.1.toNFA []))) = some ([], false) ∧
    ((nfasIsectCodedF .ident .d15 true E E 5).map (fun r => (r.1.start, acceptsW r.1.toNFA []))) = some ([0], true) ∧
    ((nfasIsectCodedF .ident .fixed true E0 E0 5).map (fun r => (r.1.start, acceptsW r.1.toNFA []))) = some ([0], true) := by
  decide +kernel

/-- **D5**: before the repair `Reverse` left its new start states without an entry in `startStateToSymbols_`
(`GetStartSymbols` then dereferenced `end ()`); the language was right -/
example : (nfasReverseCoded .ident false R1).start = [1] ∧ smHas (nfasReverseCoded .ident false R1).startSyms 1 = false ∧
    smHas (nfasReverseCoded .ident true R1).startSyms 1 = true ∧
    acceptsW (nfasReverseCoded .ident false R1).toNFA [7] = true := by decide +kernel

/-- **D6**: before the repair `GetCandidateTree` of an automaton accepting `ε` returned an EMPTY witness -/
example : ((nfasCandidateCodedF .ident false true E 5).map (fun r => (r.final, acceptsW r.toNFA []))) = some ([], false) ∧
    ((nfasCandidateCodedF .ident true true E 5).map (fun r => (r.final, acceptsW r.toNFA []))) = some ([0], true) ∧
    acceptsW E.toNFA [] = true := by decide +kernel

/-!
## still not proved

* The start-symbol map of the FINAL result of `Intersection` / `GetCandidateTree` (after `RemoveUselessStates`) is not stated
  separately: `C10_coded_isect_refines` gives the entries of `res` before the trimming and `C10_coded_trim_same` says that the
  coded trimming leaves the same entries as the relation-level `nfasRemoveUseless`, whose effect on the entries is
  `C10_start_trim_spec` (`C10_StartSymbols.lean`); the three are not composed here.  For `GetCandidateTree` the entries
  written by the start scan (`SetExistingStateStart (s, GetStartSymbols (s))`) are modelled but no theorem is stated about them.
* The coded `Intersection` is related to the relation-level model up to the numbering: same explored set, both numberings
  injective, same trimmed product (`C10_coded_isect_same_construction`).  That the two results are ISOMORPHIC as automata is a
  consequence that is not spelled out as a theorem (no notion of isomorphism is defined in this development).
* The variants `.d4`, `.d15`, `fixD5 = false`, `fixD6 = false` are only exercised by the `decide`d examples above; no general
  theorem characterises what the defective code computed.  Totality (`isectLoop_total`) is proved for the current code only.
* `Union` / `UnionDisjointStates` as coded are in `C10_CliPipeline.lean`; the load / dump of word automata in `C13`; neither is
  repeated here.  `Intersection` is modelled with `pTranslMap` initially EMPTY (the CLI and the tests pass a fresh or no map); a
  pre-filled caller map (as for `Union`) is not modelled.
* The iteration order of a hash container is a function of the LIST of its elements (`NfaOrd`); two containers with the same
  elements inserted in a different history are iterated in the same order by the model.  Since the theorems hold for every such
  function and use no relation between two applications of it, this loses no generality for the statements above, but an
  executable comparison with the real C++ must be done up to `NfaSetEq` / up to the reported translation map, not literally.
* The correspondence with the C++ on generated inputs has not been run (functions: `nfasIsectCoded`, `nfasReverseCoded`,
  `nfasUnreachCoded`, `nfasUselessCoded`, `nfasCandidateCoded`).
-/
end Vata.Props
