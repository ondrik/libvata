import Vata.Proofs.LtsUtilSRShape

/-!
# `SplittingRelation` — `init`

`init_refines`: inside the call discipline `init(index)` on a new object succeeds and the result represents `index`.
Loop invariants: `InitI` (inner loop over the entries of row `i`), `InitO` (outer loop), `initCols_spec` (closing the
columns).  Every step also says that the capacity `(obs s).nr` stays.
-/
namespace Vata.LU.SR
namespace P

/-- invariant of the loops of `init` while row `i` is being filled: rows `< i` are closed, rows `> i` are empty, all
columns are open, `lastV[j]` is the last pointer of column `j` -/
structure InitI (o : Obs) (m i : Nat) (R C : Nat → List Nat) (lastV : List Ptr) : Prop where
  gs : GS o m R C (fun k => k < i) (fun _ => False)
  mem : Mem o R
  empty : ∀ k, i < k → R k = []
  len : lastV.length = m
  lastV : ∀ j, j < m → lastV[j]? = some (lastP (.colS j) (C j))

theorem initCell_spec {s : T} {m i j : Nat} {R C : Nat → List Nat} {lastV : List Ptr} (h : InitI (obs s) m i R C lastV)
    (hi : i < m) (hj : j < m) (hc : j ∉ (R i).map (obs s).col) :
    ∃ s', initCell i (s, lastV, lastP (.rowS i) (R i)) j = some (s', lastV.set j (.cell s.next), .cell s.next) ∧
      InitI (obs s') m i (setL R i (R i ++ [s.next])) (setL C j (C j ++ [s.next])) (lastV.set j (.cell s.next)) ∧
      (obs s').col = updN (obs s).col s.next j ∧ (obs s').nr = (obs s).nr := by
  have d := h.gs.data
  have hfresh : ∀ k, s.next ∉ R k := fun k hm => Nat.lt_irrefl _ (h.mem.lt k _ hm)
  have hfC := d.not_mem_C hfresh
  have hnf : s.next ∉ s.free := fun hm => Nat.lt_irrefl _ (h.mem.flt _ hm)
  unfold initCell
  simp only [h.lastV j hj]
  -- the new cell
  have e1 := obs_setCell_next s s.next (s.next + 1) ⟨lastP (.colS j) (C j), .null, lastP (.rowS i) (R i), .null, j, i⟩
  have hal := allocRel_new s ⟨lastP (.colS j) (C j), .null, lastP (.rowS i) (R i), .null, j, i⟩ h.mem.fnd h.mem.flt
  rw [obs_setCell] at e1
  dsimp only at e1
  generalize hs1 : T.mk (s.cells.set s.next (Cell.mk (lastP (.colS j) (C j)) .null (lastP (.rowS i) (R i)) .null j i))
    (s.next + 1) s.free s.rows s.cols s.size = s1 at e1 hal ⊢
  have g1 := h.gs.alloc hal hfresh
  -- the two writes
  have hnc : j < (obs s1).nc := by rw [hal.nc, h.gs.nc]; exact Nat.lt_of_lt_of_le hj h.gs.nr
  obtain ⟨q, hq⟩ := gd_lastP_some (s := s1) (C j) hnc
  obtain ⟨s2, h2, e2⟩ := setDown_obs (.cell s.next) hq
  have hnr : i < (obs s2).nr := by rw [e2]; show i < (obs s1).nr; rw [hal.nr]; exact Nat.lt_of_lt_of_le hi h.gs.nr
  obtain ⟨q', hq'⟩ := gr_lastP_some (s := s2) (R i) hnr
  obtain ⟨s3, h3, e3⟩ := setRight_obs (.cell s.next) hq'
  simp only [h2, h3]
  refine ⟨s3, rfl, ⟨⟨?_, ?_, ?_, ?_, ?_⟩, ?_, ?_, ?_, ?_⟩, by rw [e3, e2, e1], by rw [e3, e2]; exact hal.nr⟩
  · rw [e3, e2, e1]
    refine d.push hfresh hi hj hc (fun x hx => ?_)
    -- the cells of column `j` so far lie in rows above `i`
    have h1 := d.cr j x hx
    rcases Nat.lt_trichotomy ((obs s).row x) i with hlt | heq | hgt
    · exact hlt
    · rw [heq] at h1
      exact absurd (List.mem_map.2 ⟨x, h1, d.ccol j x hx⟩) hc
    · rw [h.empty _ hgt] at h1; simp at h1
  · -- `left_` of the new cell is set by its constructor
    have := g1.rows.push sent_row g1.data.rowL i hfresh
    rw [upd_eta (obs s1).gl _ _ (by rw [e1]; exact upd_same _ _ _)] at this
    rw [e3, e2]
    exact this.weaken (fun k _ hk => ⟨hk, Nat.ne_of_lt hk⟩)
  · have := g1.cols.push sent_col g1.data.colL j hfC
    rw [upd_eta (obs s1).gu _ _ (by rw [e1]; exact upd_same _ _ _)] at this
    rw [e3, e2]
    exact this.weaken (fun k _ hk => hk.elim)
  · rw [e3, e2]; exact g1.nr
  · rw [e3, e2]; exact g1.nc
  · refine h.mem.push i (o' := obs s3) ?_ ?_ ?_ hnf
    · rw [e3, e2, e1]; exact Nat.le_succ _
    · rw [e3, e2, e1]
    · rw [e3, e2, e1]; exact Nat.lt_succ_self _
  · intro k hk; rw [setL_ne _ _ (Nat.ne_of_gt hk)]; exact h.empty k hk
  · rw [List.length_set]; exact h.len
  · intro j' hj'
    rw [List.getElem?_set]
    by_cases hjj : j = j'
    · subst hjj; simp [h.len, hj]
    · simp only [hjj, if_false]
      rw [setL_ne _ _ (fun e => hjj e.symm)]; exact h.lastV j' hj'

theorem initCells_spec (m i : Nat) (hi : i < m) (js : List Nat) : ∀ (s : T) (R C : Nat → List Nat) (lastV : List Ptr),
    InitI (obs s) m i R C lastV → (∀ j ∈ js, j < m) → ((R i).map (obs s).col ++ js).Nodup →
    ∃ s' R' C' lastV', initCells i (s, lastV, lastP (.rowS i) (R i)) js = some (s', lastV', lastP (.rowS i) (R' i)) ∧
      InitI (obs s') m i R' C' lastV' ∧ (R' i).map (obs s').col = (R i).map (obs s).col ++ js ∧
      (∀ k, k ≠ i → (R' k).map (obs s').col = (R k).map (obs s).col) ∧ (obs s').nr = (obs s).nr := by
  induction js with
  | nil => exact fun s R C lastV h _ _ => ⟨s, R, C, lastV, rfl, h, by simp, fun _ _ => rfl, rfl⟩
  | cons j js ih =>
    intro s R C lastV h hjs hnd
    have hj : j < m := hjs j (by simp)
    have hc : j ∉ (R i).map (obs s).col := by
      intro hm
      exact (List.nodup_append.1 hnd).2.2 j hm j (by simp) rfl
    obtain ⟨s1, e1, h1, hcol, hnr1⟩ := initCell_spec h hi hj hc
    have hfresh : ∀ k, s.next ∉ R k := fun k hm => Nat.lt_irrefl _ (h.mem.lt k _ hm)
    have hmap : ∀ k, (R k).map (obs s1).col = (R k).map (obs s).col := fun k => by
      rw [hcol]; exact map_updN_of_not_mem _ _ (hfresh k)
    have hRi : (setL R i (R i ++ [s.next]) i).map (obs s1).col = (R i).map (obs s).col ++ [j] := by
      rw [setL_same, List.map_append, hmap i, hcol]; simp
    obtain ⟨s', R', C', lastV', e2, h2, hv, hk, hnr⟩ := ih s1 _ _ _ h1
      (fun j' hj' => hjs j' (List.mem_cons_of_mem _ hj')) (by rw [hRi]; simpa using hnd)
    refine ⟨s', R', C', lastV', ?_, h2, ?_, ?_, hnr.trans hnr1⟩
    · simp only [initCells, e1]
      rw [setL_same, lastP_snoc] at e2; exact e2
    · rw [hv, hRi]; simp
    · intro k hki
      rw [hk k hki, setL_ne _ _ hki, hmap k]

/-- invariant of the outer loop of `init` before row `i` -/
structure InitO (o : Obs) (m i : Nat) (R C : Nat → List Nat) (lastV : List Ptr) : Prop where
  inner : InitI o m i R C lastV
  here : R i = []

theorem initRow_spec {s : T} {m i : Nat} {R C : Nat → List Nat} {lastV : List Ptr} (h : InitO (obs s) m i R C lastV)
    (hi : i < m) {row : List Nat} (hrow : ∀ j ∈ row, j < m) (hnd : row.Nodup) :
    ∃ s' R' C' lastV', initRow (s, lastV) (i, row) = some (s', lastV') ∧ InitO (obs s') m (i + 1) R' C' lastV' ∧
      (R' i).map (obs s').col = row ∧ (∀ k, k ≠ i → (R' k).map (obs s').col = (R k).map (obs s).col) ∧
      (obs s').nr = (obs s).nr := by
  obtain ⟨s1, R', C', lastV', e1, h1, hv, hk, hnr⟩ := initCells_spec m i hi row s R C lastV h.inner hrow
    (by rw [h.here]; simpa using hnd)
  rw [h.here] at e1 hv
  have hnr1 : i < (obs s1).nr := Nat.lt_of_lt_of_le hi h1.gs.nr
  obtain ⟨q, hq⟩ := gr_lastP_some (s := s1) (R' i) hnr1
  obtain ⟨s2, h2, e2⟩ := setRight_obs (.rowS (i + 1)) hq
  have hnr2 : i < (obs s2).nr := by rw [e2]; exact hnr1
  obtain ⟨q', hq'⟩ := gl_rowS_some hnr2
  obtain ⟨s3, h3, e3⟩ := setLeft_obs (lastP (.rowS i) (R' i)) hq'
  have g3 : GS (obs s3) m R' C' (fun k => k < i + 1) (fun _ => False) := by
    rw [e3, e2]
    exact ⟨h1.gs.data, (h1.gs.rows.close sent_row h1.gs.data.rowL i).weaken (fun k _ hc => Nat.lt_succ_iff_lt_or_eq.1 hc), h1.gs.cols,
      h1.gs.nr, h1.gs.nc⟩
  have hcol : (obs s3).col = (obs s1).col := by rw [e3, e2]
  refine ⟨s3, R', C', lastV', ?_, ⟨⟨g3, ?_, ?_, h1.len, h1.lastV⟩, ?_⟩,
    ?_, ?_, by rw [e3, e2]; exact hnr⟩
  · simp only [initRow, lastP_nil] at e1 ⊢
    simp only [e1, h2, setRowSecond_eq, h3]; rfl
  · exact h1.mem.congr (by rw [e3, e2]) (by rw [e3, e2])
  · intro k hk'; exact h1.empty k (Nat.lt_of_succ_lt hk')
  · exact h1.empty (i + 1) (Nat.lt_succ_self i)
  · rw [hcol, hv]; simp
  · intro k hki; rw [hcol]; exact hk k hki

theorem initRows_spec (m : Nat) (rows : List (List Nat)) : ∀ (k : Nat) (s : T) (R C : Nat → List Nat) (lastV : List Ptr),
    InitO (obs s) m k R C lastV → k + rows.length ≤ m → (∀ row ∈ rows, (∀ j ∈ row, j < m) ∧ row.Nodup) →
    ∃ s' R' C' lastV', initRows (s, lastV) ((List.range' k rows.length).zip rows) = some (s', lastV') ∧
      InitO (obs s') m (k + rows.length) R' C' lastV' ∧
      (∀ i, i < rows.length → (R' (k + i)).map (obs s').col = rows.getD i []) ∧
      (∀ i, i < k → (R' i).map (obs s').col = (R i).map (obs s).col) ∧ (obs s').nr = (obs s).nr := by
  induction rows with
  | nil => exact fun k s R C lastV h _ _ => ⟨s, R, C, lastV, rfl, h, fun i hi => by simp at hi, fun _ _ => rfl, rfl⟩
  | cons row rows ih =>
    intro k s R C lastV h hk hrows
    have hlen : (row :: rows).length = rows.length + 1 := rfl
    rw [hlen] at hk
    obtain ⟨hr1, hr2⟩ := hrows row (by simp)
    obtain ⟨s1, R1, C1, lastV1, e1, h1, hv1, hk1, hnr1⟩ := initRow_spec h (by omega) hr1 hr2
    obtain ⟨s', R', C', lastV', e2, h2, hv2, hk2, hnr2⟩ := ih (k + 1) s1 R1 C1 lastV1 h1 (by omega)
      (fun r hr => hrows r (List.mem_cons_of_mem _ hr))
    refine ⟨s', R', C', lastV', ?_, ?_, ?_, ?_, hnr2.trans hnr1⟩
    · simp only [hlen, List.range'_succ, List.zip_cons_cons, initRows, e1]; exact e2
    · rw [hlen, ← Nat.add_assoc, Nat.add_right_comm]; exact h2
    · intro i hi
      cases i with
      | zero => rw [Nat.add_zero, hk2 k (by omega), hv1]; rfl
      | succ i =>
        have := hv2 i (by simpa [hlen] using hi)
        rw [Nat.add_assoc, Nat.add_comm 1 i] at this
        rw [this]; rfl
    · intro i hi
      rw [hk2 i (by omega), hk1 i (by omega)]

theorem initCols_spec {m : Nat} {R C : Nat → List Nat} {lastV : List Ptr}
    (hl : ∀ j, j < m → lastV[j]? = some (lastP (.colS j) (C j))) {cr : Nat → Prop} (js : List Nat) :
    ∀ (s : T) (cc : Nat → Prop), GS (obs s) m R C cr cc → Mem (obs s) R → (∀ j ∈ js, j < m) →
    ∃ s', initCols lastV s js = some s' ∧ GS (obs s') m R C cr (fun k => cc k ∨ k ∈ js) ∧ Mem (obs s') R ∧
      (obs s').size = (obs s).size ∧ (obs s').col = (obs s).col ∧ (obs s').nr = (obs s).nr := by
  induction js with
  | nil =>
    exact fun s cc h hm _ =>
      ⟨s, rfl, h.weaken (fun _ _ hc => hc) (fun _ _ hc => by simpa using hc), hm, rfl, rfl, rfl⟩
  | cons j js ih =>
    intro s cc h hm hjs
    have hj : j < m := hjs j (by simp)
    have hnc : j < (obs s).nc := by rw [h.nc]; exact Nat.lt_of_lt_of_le hj h.nr
    obtain ⟨q, hq⟩ := gd_lastP_some (s := s) (C j) hnc
    obtain ⟨s1, h1, e1⟩ := setDown_obs (.colS (j + 1)) hq
    have hnc1 : j < (obs s1).nc := by rw [e1]; exact hnc
    obtain ⟨q', hq'⟩ := gu_colS_some hnc1
    obtain ⟨s2, h2, e2⟩ := setUp_obs (lastP (.colS j) (C j)) hq'
    have g2 : GS (obs s2) m R C cr (fun k => cc k ∨ k = j) := by
      rw [e2, e1]
      exact ⟨h.data, h.rows, h.cols.close sent_col h.data.colL j, h.nr, h.nc⟩
    obtain ⟨s', e3, g3, m3, sz3, col3, nr3⟩ := ih s2 _ g2 (hm.congr (by rw [e2, e1]) (by rw [e2, e1]))
      (fun j' hj' => hjs j' (List.mem_cons_of_mem _ hj'))
    refine ⟨s', ?_, g3.weaken (fun _ _ hc => hc) ?_, m3, by rw [sz3, e2, e1], by rw [col3, e2, e1], by rw [nr3, e2, e1]⟩
    · simp only [initCols, initCol, hl j hj, h1, setColSecond_eq, h2]; exact e3
    · intro k _ hc
      rcases hc with hc | hc
      · exact Or.inl (Or.inl hc)
      · rcases List.mem_cons.1 hc with hc | hc
        · exact Or.inl (Or.inr hc)
        · exact Or.inr hc

theorem hasDup_eq_false_iff : ∀ {l : List Nat}, hasDup l = false ↔ l.Nodup
  | [] => ⟨fun _ => List.nodup_nil, fun _ => rfl⟩
  | x :: r => by
    rw [hasDup, Bool.or_eq_false_iff, List.nodup_cons, hasDup_eq_false_iff (l := r)]
    simp

/-- the object as constructed: no cell, every row and column empty and open -/
theorem initO_mk (m n : Nat) (hn : n ≤ m) :
    InitO (obs (mk m)) n 0 (fun _ => []) (fun _ => []) ((List.range n).map Ptr.colB) := by
  have hch : ∀ (nxt prv : Ptr → Option Ptr) (S : Nat → Ptr) (cl : Nat → Prop),
      (∀ k, ¬ cl k) → Chains nxt prv S n (fun _ => []) cl :=
    fun _ _ _ _ hcl => ⟨fun _ _ => by simp, fun k _ hc => absurd hc (hcl k)⟩
  refine ⟨⟨⟨⟨?_, ?_, ?_, ?_, ?_, ?_, ?_⟩, hch _ _ _ _ (fun k => Nat.not_lt_zero k), hch _ _ _ _ (fun _ h => h), ?_, ?_⟩,
    ⟨?_, ?_, ?_, ?_⟩, fun _ _ => rfl, by simp, fun j hj => by simp [hj]⟩, rfl⟩
  any_goals (intro _ _ h; cases h)
  · exact fun _ => List.nodup_nil
  · exact fun _ => List.Pairwise.nil
  · simpa [obs, mk] using hn
  · simp [obs, mk]
  · exact List.nodup_nil
  · intro _ h; cases h

end P

/-- `init_refines` together with "the capacity does not change" -/
theorem init_refines_cap {m : Nat} {index : List (List Nat)} (hok : ok ⟨[], m, false⟩ (.init index) = true) :
    ∃ s', init (mk m) index = some s' ∧ Inv s' index ∧ s'.rows.length = m := by
  simp only [ok, Bool.not_false, Bool.true_and, Bool.and_eq_true, decide_eq_true_eq, List.all_eq_true,
    Bool.not_eq_true'] at hok
  obtain ⟨hlen, hrows⟩ := hok
  obtain ⟨s1, R, C, lastV, e1, h1, hv, -, nr1⟩ := P.initRows_spec index.length index 0 (mk m) _ _ _
    (P.initO_mk m index.length hlen) (by omega)
    (fun row hr => ⟨fun j hj => (hrows row hr).1 j hj, P.hasDup_eq_false_iff.mp (hrows row hr).2⟩)
  rw [Nat.zero_add] at h1
  have g1 := h1.inner.gs.size_irrel index.length
  obtain ⟨s', e2, g2, m2, sz2, col2, nr2⟩ := P.initCols_spec (s := { s1 with size := index.length }) h1.inner.lastV
    (List.range index.length) _ g1 (h1.inner.mem.congr rfl rfl) (fun j hj => List.mem_range.1 hj)
  refine ⟨s', ?_, ⟨R, C, ?_, ?_⟩, ?_⟩
  · unfold init
    have : index.length ≤ (mk m).cols.length ∧ index.length ≤ (mk m).rows.length := by simpa [mk] using hlen
    rw [if_pos this]
    simp only [List.range_eq_range'] at e1 e2 ⊢
    rw [e1]; exact e2
  · rw [P.Shape_iff_GS]
    exact ⟨g2.weaken (fun k hk _ => hk) (fun k hk _ => Or.inr (List.mem_range.2 hk)), m2, sz2⟩
  · intro i hi
    have := hv i hi
    rw [Nat.zero_add] at this
    rw [col2]; exact this
  · exact (nr2.trans nr1).trans List.length_replicate

/-- `init(index)` on a new relation of capacity `m`, inside the call discipline: the result represents `index` -/
theorem init_refines {m : Nat} {index : List (List Nat)} (hok : ok ⟨[], m, false⟩ (.init index) = true) :
    ∃ s', init (mk m) index = some s' ∧ Inv s' index := by
  obtain ⟨s', h1, h2, -⟩ := init_refines_cap hok
  exact ⟨s', h1, h2⟩

example : ok ⟨[], 5, false⟩ (.init [[0, 2], [1], [2, 0, 1]]) = true := by decide

example : ∃ s', init (mk 5) [[0, 2], [1], [2, 0, 1]] = some s' ∧ Inv s' [[0, 2], [1], [2, 0, 1]] :=
  init_refines (by decide)

end Vata.LU.SR
