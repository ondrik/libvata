import Vata.Proofs.NfaOpsCodedIsectInv
/-!
# `Intersection` as coded refines the relation-level model: same set of pairs, product under the reported injective map
-/
namespace Vata.NfaC
open Vata.W

theorem tmFun_of_find {tm : TranslMap} {p : Nat × Nat} {n : Nat} (h : tmFind tm p = some n) : tmFun tm p = n := by
  simp [tmFun, h]

theorem tmFind_tmFun {tm : TranslMap} {p : Nat × Nat} (h : p ∈ tmKeys tm) : tmFind tm p = some (tmFun tm p) := by
  cases hf : tmFind tm p with
  | some n => rw [tmFun_of_find hf]
  | none => exact absurd h (tmFind_none_iff.mp hf)

theorem isectInv_final {A B : NFA} {st : IsectSt} (inv : IsectInv A B st) (he : st.stack = []) :
    (∀ p, p ∈ nfaStartPairs A B → p ∈ tmKeys st.tm) ∧ NfaPairClosed A B (tmKeys st.tm) ∧
    NfaPairInjOn (tmFun st.tm) (tmKeys st.tm) ∧ (∀ p, p ∈ tmKeys st.tm ↔ p ∈ nfaIsectPairs A B) ∧
    NfaSetEq st.res.toNFA (nfaProdOn A B (tmKeys st.tm) (tmFun st.tm)) := by
  have done := fun p (hp : p ∈ tmKeys st.tm) =>
    inv.done p _ (tmFind_tmFun hp) fun e h => by rw [he] at h; exact nomatch h
  have hst : ∀ p, p ∈ nfaStartPairs A B → p ∈ tmKeys st.tm := by
    intro p hp
    obtain ⟨n, hn⟩ := inv.hstart p hp
    exact tmFind_mem_keys hn
  have hcl : NfaPairClosed A B (tmKeys st.tm) := by
    intro p hp a q h1 h2
    obtain ⟨k, hk, _⟩ := (done p hp).1 (a, q) (mem_nfaJoint.mpr ⟨h1, h2⟩)
    exact tmFind_mem_keys hk
  have hinj : NfaPairInjOn (tmFun st.tm) (tmKeys st.tm) :=
    fun p hp q hq e => tmFind_inj inv.wf (tmFind_tmFun hp) (by rw [e]; exact tmFind_tmFun hq)
  refine ⟨hst, hcl, hinj, fun p => ⟨fun hp => ?_, nfaIsectPairs_least A B _ hst hcl p⟩, ?_, ?_, ?_⟩
  · exact inv.least _ (nfaIsectPairs_start A B) (nfaIsectPairs_closed A B) p _ (tmFind_tmFun hp)
  · intro n
    rw [inv.sstart]
    simp only [nfaProdOn, List.mem_map]
    constructor
    · rintro ⟨p, hp, h⟩; exact ⟨p, hp, tmFun_of_find h⟩
    · rintro ⟨p, hp, rfl⟩; exact ⟨p, hp, tmFind_tmFun (hst p hp)⟩
  · intro n
    rw [mem_nfaProdOn_final]
    constructor
    · intro hn
      obtain ⟨p, hp, h1, h2⟩ := inv.fsound n hn
      exact ⟨p, tmFind_mem_keys hp, h1, h2, (tmFun_of_find hp).symm⟩
    · rintro ⟨p, hp, h1, h2, rfl⟩
      exact (done p hp).2 h1 h2
  · rintro ⟨x, a, y⟩
    rw [mem_nfaProdOn_trans]
    constructor
    · intro ht
      obtain ⟨p, n, z, k, h1, h2, h3, h4⟩ := inv.tsound _ ht
      obtain ⟨j1, j2⟩ := mem_nfaJoint.mp h2
      cases h4
      exact ⟨p, tmFind_mem_keys h1, z.2, j1, j2, (tmFun_of_find h1).symm, (tmFun_of_find h3).symm⟩
    · rintro ⟨p, hp, q, j1, j2, rfl, rfl⟩
      obtain ⟨k, hk, ht⟩ := (done p hp).1 (a, q) (mem_nfaJoint.mpr ⟨j1, j2⟩)
      rw [tmFun_of_find hk]
      exact ht

/-- **refinement**: whatever the iteration orders, the stack loop of `Intersection` ends with a translation map that is
well-numbered (`number = position = size at insertion`), whose keys are exactly the pairs the relation-level model explores,
injective on them, and `res` is (as sets of start states, final states, transitions) the product on these pairs under that map -/
theorem nfasIsectCodedRaw_spec {o : NfaOrd} (ho : o.Ok) (A B : NFAS) (fuel : Nat) (st : IsectSt)
    (h : nfasIsectCodedRaw o .fixed A B fuel = some st) :
    st.stack = [] ∧ TmWF st.tm ∧ (∀ p, p ∈ tmKeys st.tm ↔ p ∈ nfaIsectPairs A.toNFA B.toNFA) ∧
    NfaPairInjOn (tmFun st.tm) (tmKeys st.tm) ∧
    NfaSetEq st.res.toNFA (nfaProdOn A.toNFA B.toNFA (tmKeys st.tm) (tmFun st.tm)) ∧
    ∀ w, acceptsW st.res.toNFA w = (acceptsW A.toNFA w && acceptsW B.toNFA w) := by
  obtain ⟨inv, he⟩ := isectLoop_inv ho A B fuel _ st (isectInit_inv ho A B) h
  obtain ⟨h1, h2, h3, h4, h5⟩ := isectInv_final inv he
  refine ⟨he, inv.wf, h4, h3, h5, fun w => ?_⟩
  rw [h5.lang w]
  exact nfaProd_cert _ _ _ _ w h1 h2 h3

/-- **totality**: `isectFuel` turns suffice -/
theorem nfasIsectCodedRaw_total {o : NfaOrd} (ho : o.Ok) (A B : NFAS) :
    ∃ st, nfasIsectCodedRaw o .fixed A B (isectFuel o .fixed A B) = some st := by
  apply isectLoop_total ho
  exact Nat.add_le_add_left (Nat.le_trans (unseen_le_length _ _) (Nat.le_of_eq (List.length_map _))) _

end Vata.NfaC
