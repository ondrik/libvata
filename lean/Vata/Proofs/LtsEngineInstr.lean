import Vata.Proofs.LtsEngine
/-!
# An instrumented LTS engine, by its phases

The engine of `Vata/LtsEngine.lean` run on pairs (state, history) for ANY history type `τ`.

* A split phase: `gStepT` / `fStepT` are `gStep` of `Vata/Proofs/LtsEnginePhase.lean` writing a history (`emit e b rest new` = the
  calls made when block `b` of `e` splits into `rest` and `new`); `splitT`, `refineT` are `split` and the initial refinement.
  A predicate on (state, history) that every such split keeps holds after the phase (`phase_trace`, `splitT_trace`,
  `refineT_trace`).
* "initialize counters": `countersT` / `countersT_trace` of `Vata/Proofs/LtsEngineInit.lean` (`front` before the labels of a block,
  `slot` for every label, `back` behind them; the engine's invariant `DInv` of these loops goes along).
* `Instr L part rel τ`: an instrumented engine, given by what it emits in each phase of `init` (`makeBlock`s, one split of
  `fastSplit`, "prune relation", "initialize counters") and of `processRemove` (the pop, one split of `split`, the pruning loops),
  with the equations saying that its `init`, `processRemove`, `run` are composed of these phases as the engine's are.
  `Vata/LtsEngineCalls.lean` and `Vata/LtsEngineCalls2.lean` are the two instances.  For every such engine: forgetting the history
  gives the plain engine (`sa_fst`, `run_fst`); what `run` returns is the state after some number of iterations (`run_some`); a
  predicate that every phase keeps – asked under what the engine's own invariants say at that point – holds after every
  iteration (`always`).
-/
namespace Vata.LEC
open Vata.L Vata.LE

/-! ### a phase (`fastSplit` / `split`) with a history -/

def gStepT {τ : Type} (step : Eng → Nat → List Nat → List Nat → Eng) (emit : Eng → Nat → List Nat → List Nat → τ → τ)
    (part0 : List (List Nat)) (rm : List Nat) (emt : (Eng × List Nat) × τ) (b : Nat) : (Eng × List Nat) × τ :=
  match trySplit (emt.1.1.block b) (tmpOf part0 rm b) with
  | none => ((emt.1.1, b :: emt.1.2), emt.2)
  | some (rest, new) => ((step emt.1.1 b rest new, emt.1.1.part.length :: emt.1.2), emit emt.1.1 b rest new emt.2)

def fStepT {τ : Type} (step : Eng → Nat → List Nat → List Nat → Eng) (emit : Eng → Nat → List Nat → List Nat → τ → τ)
    (part0 : List (List Nat)) (rm : List Nat) (et : Eng × τ) (b : Nat) : Eng × τ :=
  match trySplit (et.1.block b) (tmpOf part0 rm b) with
  | none => et
  | some (rest, new) => (step et.1 b rest new, emit et.1 b rest new et.2)

section phase
variable {τ : Type} {L : LTS} {e0 : Eng} {rm : List Nat} (step : Eng → Nat → List Nat → List Nat → Eng)
  (emit : Eng → Nat → List Nat → List Nat → τ → τ) (P : Eng → (Nat → Nat) → Prop) (G : Eng → τ → Prop)

theorem gStepT_fst (part0 : List (List Nat)) (emt : (Eng × List Nat) × τ) (b : Nat) :
    (gStepT step emit part0 rm emt b).1 = gStep step part0 rm emt.1 b := by
  unfold gStepT gStep
  cases trySplit (emt.1.1.block b) (tmpOf part0 rm b) with
  | none => rfl
  | some rn => rfl

theorem fStepT_fold (part0 : List (List Nat)) : ∀ (todo : List Nat) (et : Eng × τ) (m : List Nat),
    todo.foldl (fStepT step emit part0 rm) et =
      ((todo.foldl (gStepT step emit part0 rm) ((et.1, m), et.2)).1.1,
       (todo.foldl (gStepT step emit part0 rm) ((et.1, m), et.2)).2) := by
  intro todo
  induction todo with
  | nil =>
    intro _ _
    exact rfl
  | cons b todo ih =>
    intro et m
    simp only [List.foldl_cons]
    unfold fStepT gStepT
    cases trySplit (et.1.block b) (tmpOf part0 rm b) with
    | none => exact ih et (b :: m)
    | some rn => exact ih _ _

variable (hs : StepOK L step P) (w0 : WF L e0) (hrm : ∀ q, q ∈ rm → q < L.n) (hnd : rm.Nodup)
  (hG : ∀ e par t b rest new, WF L e → P e par → SplitOK e b rest new → G e t →
    G (step e b rest new) (emit e b rest new t))
include hs w0 hrm hnd hG

/-- the induction of `phase_fold` with the history: a block that splits does so with `SplitOK` in a well-formed state -/
theorem phase_trace_fold : ∀ (todo done : List Nat) (emt : (Eng × List Nat) × τ) (par : Nat → Nat), todo.Nodup →
    (∀ b, b ∈ todo → b ∈ modifiedBlocks e0.part rm ∧ b ∉ done) →
    PhaseInv L e0 rm done emt.1 par → P emt.1.1 par → G emt.1.1 emt.2 →
    G (todo.foldl (gStepT step emit e0.part rm) emt).1.1 (todo.foldl (gStepT step emit e0.part rm) emt).2 := by
  intro todo
  induction todo with
  | nil =>
    intro _ _ _ _ _ _ _ g
    exact g
  | cons b todo ih =>
    intro done emt par hn hto inv hP g
    have hn' := List.nodup_cons.mp hn
    obtain ⟨hbm, hbd⟩ := hto b List.mem_cons_self
    obtain ⟨par1, inv1, hP1⟩ := phase_step step P hs w0 hrm hnd inv hP hbm hbd
    rw [← gStepT_fst step emit] at inv1 hP1
    have g1 : G (gStepT step emit e0.part rm emt b).1.1 (gStepT step emit e0.part rm emt b).2 := by
      unfold gStepT
      cases hts : trySplit (emt.1.1.block b) (tmpOf e0.part rm b) with
      | none => exact g
      | some rn => exact hG _ par _ b _ _ inv.wf hP (inv.splitOK w0 hrm hnd hbm hbd hts).1 g
    exact ih (b :: done) _ par1 hn'.2
      (fun c hc => ⟨(hto c (List.mem_cons_of_mem _ hc)).1, fun h => by
        rcases List.mem_cons.mp h with h | h
        · exact hn'.1 (h ▸ hc)
        · exact (hto c (List.mem_cons_of_mem _ hc)).2 h⟩) inv1 hP1 g1

theorem phase_trace (hP : P e0 id) (t : τ) (g : G e0 t) :
    G ((modifiedBlocks e0.part rm).foldl (gStepT step emit e0.part rm) ((e0, []), t)).1.1
      ((modifiedBlocks e0.part rm).foldl (gStepT step emit e0.part rm) ((e0, []), t)).2 :=
  phase_trace_fold step emit P G hs w0 hrm hnd hG (modifiedBlocks e0.part rm) [] ((e0, []), t) id
    (nodup_dedupF _ _) (fun b hb => ⟨hb, fun h => by cases h⟩) (PhaseInv.init w0 rm) hP g

theorem fast_trace (hP : P e0 id) (t : τ) (g : G e0 t) :
    G ((modifiedBlocks e0.part rm).foldl (fStepT step emit e0.part rm) (e0, t)).1
      ((modifiedBlocks e0.part rm).foldl (fStepT step emit e0.part rm) (e0, t)).2 := by
  rw [fStepT_fold step emit e0.part _ (e0, t) []]
  exact phase_trace step emit P G hs w0 hrm hnd hG hP t g

end phase

/-! ### `split`, `fastSplit`, the initial refinement with a history -/

section phases
variable {τ : Type}

/-- `split(removeMask, remove)` writing a history -/
def splitT (L : LTS) (emit : Eng → Nat → List Nat → List Nat → τ → τ) (e : Eng) (rm : List Nat) (t : τ) :
    (Eng × List Nat) × τ :=
  (modifiedBlocks e.part rm).foldl (gStepT (stepS L) emit e.part rm) ((e, []), t)

/-- `fastSplit(remove)` writing a history -/
def fastT (L : LTS) (emit : Eng → Nat → List Nat → List Nat → τ → τ) (et : Eng × τ) (rm : List Nat) : Eng × τ :=
  (modifiedBlocks et.1.part rm).foldl (fStepT (splitBlockCore L) emit et.1.part rm) et

/-- "make initial refinement" writing a history -/
def refineT (L : LTS) (emit : Eng → Nat → List Nat → List Nat → τ → τ) (et : Eng × τ) : Eng × τ :=
  (List.range (labels L)).foldl (fun et a => fastT L emit et (delta1 L a)) et

variable (L : LTS) (emit : Eng → Nat → List Nat → List Nat → τ → τ)

theorem splitT_fst (e : Eng) (rm : List Nat) (t : τ) : (splitT L emit e rm t).1 = split L e rm := by
  unfold splitT
  rw [split_eq]
  exact fst_foldl _ _ (gStepT_fst _ _ _) _ _

theorem fastT_fst (et : Eng × τ) (rm : List Nat) : (fastT L emit et rm).1 = fastSplit L et.1 rm := by
  unfold fastT fastSplit
  refine fst_foldl _ _ (fun s b => ?_) _ _
  unfold fStepT fastSplitStep
  cases trySplit (s.1.block b) (tmpOf et.1.part rm b) with
  | none => rfl
  | some rn => rfl

theorem refineT_fst (et : Eng × τ) : (refineT L emit et).1 = initRefine L et.1 := by
  unfold refineT initRefine
  exact fst_foldl _ _ (fun s a => fastT_fst L emit s (delta1 L a)) _ _

/-- a predicate that every split of `split` keeps holds after the phase -/
theorem splitT_trace (G : Eng → τ → Prop) {e0 : Eng} {rm : List Nat} (w0 : WF L e0) (qk : QOK e0)
    (hrm : ∀ q, q ∈ rm → q < L.n) (hnd : rm.Nodup)
    (hG : ∀ e t b rest new, WF L e → QOK e → SplitOK e b rest new → G e t → G (stepS L e b rest new) (emit e b rest new t))
    (t : τ) (g : G e0 t) : G (splitT L emit e0 rm t).1.1 (splitT L emit e0 rm t).2 :=
  phase_trace _ _ _ G (stepS_ok L e0) w0 hrm hnd (fun e _ t b rest new w hP sok g => hG e t b rest new w hP.1 sok g)
    ⟨qk, w0, Refine.refl L e0, rfl⟩ t g

/-- a predicate that every split of `fastSplit` keeps holds after the initial refinement -/
theorem refineT_trace (G : Eng → τ → Prop)
    (hG : ∀ e t b rest new, WF L e → SplitOK e b rest new → G e t → G (splitBlockCore L e b rest new) (emit e b rest new t))
    (et : Eng × τ) (w : WF L et.1) (g : G et.1 et.2) : G (refineT L emit et).1 (refineT L emit et).2 := by
  unfold refineT
  generalize List.range (labels L) = as
  induction as generalizing et with
  | nil => exact g
  | cons a as ih =>
    have hrm : ∀ q, q ∈ delta1 L a → q < L.n := fun q hq => ((mem_delta1 L a q).1 hq).1
    obtain ⟨_, w1, _⟩ := fastSplit_spec w hrm (nodup_delta1 L a)
    rw [← fastT_fst L emit] at w1
    exact ih _ w1 (fast_trace _ _ _ G (stepF_ok L et.1) w hrm (nodup_delta1 L a)
      (fun e _ t b rest new w _ sok g => hG e t b rest new w sok g) ⟨rfl, rfl, rfl, rfl⟩ et.2 g)

end phases

/-- an engine writing a history of type `τ`: what it emits phase by phase, its `processRemove` / state after `k` iterations /
`run` (`pr`, `sa`, `run`), and the equations that compose these three of the phases.  The three are fields, not definitions over
the other seven, because an instance puts in the functions of its model file (`instrI`: `processRemoveI`, `stateAfterI`,
`engineRunI`) and proves the equations of them. -/
structure Instr (L : LTS) (part : List (List Nat)) (rel : Rel) (τ : Type) where
  /-- the history behind the `makeBlock`s -/
  t0 : τ
  /-- one split of `fastSplit` -/
  emitF : Eng → Nat → List Nat → List Nat → τ → τ
  /-- "prune relation" (on the state in front of it) -/
  prn : Eng → τ → τ
  /-- "initialize counters" -/
  ctr : Eng × τ → Eng × τ
  /-- `remove = block->remove_[label]; block->remove_[label] = nullptr` -/
  take : Nat → Nat → τ → τ
  /-- one split of `split` -/
  emitS : Eng → Nat → List Nat → List Nat → τ → τ
  /-- the pruning loops over `preList` with the mask -/
  prune : List Nat → List Nat → Eng × τ → Eng × τ
  pr : Eng × τ → Nat → Nat → Eng × τ
  sa : Nat → Eng × τ
  run : Nat → Eng × τ → Option (Eng × τ)
  ctr_fst : ∀ x, (ctr x).1 = initCounters L x.1
  prune_fst : ∀ mask pl x, (prune mask pl x).1 = pl.foldl (pruneRow L mask) x.1
  pr_eq : ∀ et b a, pr et b a = match et.1.remv b a with
    | none => et
    | some remove =>
      prune (splitT L emitS { et.1 with rem := setRem et.1.rem b a none } (flat remove) (take b a et.2)).1.2
        (buildPre L { et.1 with rem := setRem et.1.rem b a none } b a)
        ((splitT L emitS { et.1 with rem := setRem et.1.rem b a none } (flat remove) (take b a et.2)).1.1,
         (splitT L emitS { et.1 with rem := setRem et.1.rem b a none } (flat remove) (take b a et.2)).2)
  sa_zero : sa 0 = ctr (initPrune L (refineT L emitF (initBlocks L part rel, t0)).1,
    prn (refineT L emitF (initBlocks L part rel, t0)).1 (refineT L emitF (initBlocks L part rel, t0)).2)
  sa_succ : ∀ k, sa (k + 1) = match (sa k).1.queue with
    | [] => sa k
    | (b, a) :: rest => pr ({ (sa k).1 with queue := rest }, (sa k).2) b a
  run_zero : ∀ et, run 0 et = if et.1.queue.isEmpty then some et else none
  run_succ : ∀ fuel et, run (fuel + 1) et = match et.1.queue with
    | [] => some et
    | (b, a) :: rest => run fuel (pr ({ et.1 with queue := rest }, et.2) b a)

namespace Instr
variable {L : LTS} {part : List (List Nat)} {rel : Rel} {τ : Type} (X : Instr L part rel τ)

theorem pr_fst (et : Eng × τ) (b a : Nat) : (X.pr et b a).1 = processRemove L et.1 b a := by
  rw [X.pr_eq]
  unfold processRemove
  cases et.1.remv b a with
  | none => rfl
  | some remove =>
    simp only []
    rw [X.prune_fst, splitT_fst]

theorem sa_fst : ∀ k, (X.sa k).1 = stateAfter L part rel k
  | 0 => by
    rw [X.sa_zero, X.ctr_fst, refineT_fst]
    rfl
  | k + 1 => by
    rw [X.sa_succ]
    show _ = stepOnce L (stateAfter L part rel k)
    rw [← sa_fst k]
    unfold stepOnce
    cases (X.sa k).1.queue with
    | nil => rfl
    | cons ba rest => exact X.pr_fst _ _ _

theorem run_fst : ∀ (fuel : Nat) (et : Eng × τ), (X.run fuel et).map (·.1) = engineRun L fuel et.1
  | 0, et => by
    rw [X.run_zero]
    unfold engineRun
    cases et.1.queue <;> rfl
  | fuel + 1, et => by
    rw [X.run_succ]
    unfold engineRun
    cases et.1.queue with
    | nil => rfl
    | cons ba rest =>
      simp only []
      rw [run_fst fuel, X.pr_fst]

/-- what `run()` returns is the state after some number of iterations, with an empty queue -/
theorem run_some : ∀ (fuel k : Nat) (r : Eng × τ), X.run fuel (X.sa k) = some r → ∃ k', r = X.sa k' ∧ r.1.queue = []
  | 0, k, r, h => by
    rw [X.run_zero] at h
    split at h
    · rename_i hq
      cases h
      exact ⟨k, rfl, List.isEmpty_iff.1 hq⟩
    · cases h
  | fuel + 1, k, r, h => by
    rw [X.run_succ] at h
    have hs := X.sa_succ k
    cases hq : (X.sa k).1.queue with
    | nil =>
      rw [hq] at h
      cases h
      exact ⟨k, rfl, hq⟩
    | cons ba rest =>
      obtain ⟨b, a⟩ := ba
      simp only [hq] at h hs
      rw [← hs] at h
      exact run_some fuel (k + 1) r h

/-- **a predicate on (engine state, history) that every phase keeps holds after every iteration of `run()`.**  Each phase is
asked under what the engine's invariants give there: well-formed states for the splits and for the phases of `init` (whose
tables are still empty), the engine
invariant and the list taken off for the pop, the lagging-counter invariant and the unmarked `preList` for the pruning loops. -/
theorem always (hL : LtsOK L) (hp : isPartition part L.n = true) (hc : isConsistent part rel = true) (htr : RelTrans part rel)
    (G0 G1 G G' : Eng → τ → Prop)
    (h0 : G0 (initBlocks L part rel) X.t0)
    (hF : ∀ e t b rest new, WF L e → SplitOK e b rest new → G0 e t → G0 (splitBlockCore L e b rest new) (X.emitF e b rest new t))
    (hP : ∀ e t, WF L e → G0 e t → G1 (initPrune L e) (X.prn e t))
    (hC : ∀ e t, WF L e → e.cnt = [] → e.rem = [] → e.queue = [] →
      e.part.length = (initRefine L (initBlocks L part rel)).part.length → G1 e t → G (X.ctr (e, t)).1 (X.ctr (e, t)).2)
    (hT : ∀ {S I : Nat → Nat → Prop} {e : Eng} {t : τ} {b a : Nat} {rest : List (Nat × Nat)} {remove : RemList},
      Inv L S I e → e.queue = (b, a) :: rest → e.remv b a = some remove → G e t → G' (popState e b a rest) (X.take b a t))
    (hS : ∀ e t b rest new, WF L e → QOK e → SplitOK e b rest new → G' e t →
      G' (stepS L e b rest new) (X.emitS e b rest new t))
    (hR : ∀ {B : Nat} {s1 : Eng} {t : τ} {mask pl : List Nat}, JInv L B s1 0 s1 [] →
      (∀ c, c ∈ pl → c < s1.part.length ∧ c ∉ mask) → G' s1 t →
      G (X.prune mask pl (s1, t)).1 (X.prune mask pl (s1, t)).2) :
    ∀ k, G (X.sa k).1 (X.sa k).2 := by
  intro k
  induction k with
  | zero =>
    have wA := initBlocks_wf (L := L) hp hc
    obtain ⟨_, wB, _, uB, tc, tr, tq, _⟩ := initRefine_spec wA
    have gB := refineT_trace L X.emitF G0 hF (initBlocks L part rel, X.t0) wA h0
    rw [X.sa_zero]
    rw [refineT_fst] at gB ⊢
    generalize initRefine L (initBlocks L part rel) = eB at gB wB uB tc tr tq hC ⊢
    -- `tc`, `tr`, `tq`: the tables are those of `initBlocks`, which are `[]` by definition
    exact hC _ _ (initPrune_wf wB uB) tc tr tq rfl (hP _ _ wB gB)
  | succ k ih =>
    have inv := engine_invariant_always hL hp hc htr k
    rw [← X.sa_fst] at inv
    rw [X.sa_succ]
    generalize X.sa k = et at ih inv ⊢
    obtain ⟨e, t⟩ := et
    cases hq : e.queue with
    | nil => exact ih
    | cons ba rest =>
      obtain ⟨b, a⟩ := ba
      obtain ⟨remove, par, st⟩ := processRemove_stages hL inv hq
      have h : ({ e with queue := rest } : Eng).remv b a = some remove := st.hr
      simp only []
      rw [X.pr_eq]
      simp only [h]
      have hs := splitT_fst L X.emitS (popState e b a rest) (flat remove) (X.take b a t)
      have j := st.j1
      have hpl := st.hpl
      rw [← hs] at j hpl
      exact hR j hpl (splitT_trace L X.emitS G' st.w0 st.qk0 st.hlt st.hnd hS _ (hT inv hq st.hr ih))

end Instr

end Vata.LEC
