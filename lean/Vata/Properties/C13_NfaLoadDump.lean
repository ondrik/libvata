import Vata.Proofs.NfaLoadDumpLang
import Vata.Proofs.TimbukEval
/-!
# C13 (continued) – dump and load of the explicit WORD automaton (`-r expl_fa`) through the dictionaries, as coded

> … and for every automaton in any of the four encodings, dumping it and loading the text again yields the same rules
> and final states under the same state names.

This file covers the clause for the **explicit finite (word) automaton** encoding: `ExplicitFiniteAutCore::
loadFromAutDescInternal` / `dumpToAutDescInternal` (`src/explicit_finite_aut_core.hh`) called through `LoadableAut`
(`src/loadable_aut.hh`) with the state dictionary and the alphabet `ExplicitFiniteAut::OnTheFlyAlphabet`.  The code differs
from the tree encoding (`C13_LoadDump.lean`): the alphabet's keys are symbol NAMES (no rank); a nullary rule `a -> q` makes
`q` a START state with the START SYMBOL `a` (`SetStateStart`); a unary rule `a(p) -> q` is a transition; a rule with two or more
children makes the load throw; the dump writes one nullary rule per start symbol of every start state (after the repair
`3dfc5d43`; before, a `break` kept only the first), the literal `x -> q` for a start state without symbols, and the unary rules.

## How the statement is read into the model

* **Model** (`Vata/NfaLoadDump.lean`, executable; the C++ lines are quoted there).  The automaton is a `Vata.NFAS`
  (`Vata/NfaStart.lean`: start, final, transitions as lists read as sets, and the map `startStateToSymbols_` as an association
  list), the dictionaries are the `Dict` of `Vata/LoadDump.lean` (`StateDict := Dict String`, `WSymDict := Dict String`).
  `loadNFA rtl d stateDict symDict : Except String (NFAS × StateDict × WSymDict)`; the state counter starts at 0 whatever the
  dictionary contains (same `LoadableAut` code as for trees, see `C13_prefilled_state_dictionary_clash`); `rtl` is the order in
  which the three translator calls inside `AddTransition(stateTransl(l), symbolTransl(a), stateTransl(r))` are evaluated
  (unspecified in C++; it only decides which numbers new names get) – every theorem holds for both values.
  `dumpNFA A stateDict symDict : Except String AutDesc` translates back strictly (`.error "No translation for n"` where the C++
  throws), fields in `std::set` order, no name / symbols / states.  `dumpNFAOld` is the dump with the `break`.
* **"word-automaton shaped"**: `d.WordShaped` – every rule has at most one child.  For any other description the load
  throws `"Not a finite automaton"` (`C13_nfa_load_rank2_throws`), so the hypothesis cannot be dropped.
* **"the same rules and final states under the same state names"**: `d'.final ≈ d.final ∧ d'.trans ≈ d.trans` (`≈`: the same
  set), as in `C13.lean`.
* **language**: `acceptsW A.toNFA w` (`Vata/Nfa.lean`): a word is accepted when it labels a path from a start state to a final
  state; the start symbols are not part of the word (as in `C10.lean`).  Their preservation is stated separately.
* `Dumpable A sd yd`: every state of `A` has a name in `sd`, every transition symbol and every start symbol of a start state
  a name in `yd`;  `NamesInj A sd`: different states have different names.  Both hold for a loaded automaton with the
  dictionaries the load left (used in `C13_nfa_load_dump_load_lang`), and `Dumpable` is what makes the C++ dump not throw.
-/
namespace Vata.Props
open Vata.Timbuk Vata.LoadDump Vata.NfaLD Vata.W

/-- **load then dump** of a word-shaped description (fresh state dictionary, an alphabet that may already be in use, either
evaluation order): the load succeeds, the dictionaries are `Ok` (injective both ways) afterwards and extend the old alphabet,
the dump with them succeeds and has the same final states and the same rules – nullary rules (all start symbols of all start
states) and unary rules – under the same names; its name, symbols and states are empty. -/
theorem C13_nfa_load_dump_roundtrip (rtl : Bool) (d : AutDesc) (yd : WSymDict) (hyd : yd.Ok) (hw : d.WordShaped) :
    ∃ A sd yd' d', loadNFA rtl d [] yd = .ok (A, sd, yd') ∧ sd.Ok ∧ yd'.Ok ∧ Dict.Sub yd yd' ∧
      dumpNFA A sd yd' = .ok d' ∧ d'.final ≈ d.final ∧ d'.trans ≈ d.trans ∧
      d'.name = "" ∧ d'.symbols = [] ∧ d'.states = [] := by
  obtain ⟨A, s', e, h, hD, hf, ht⟩ := loadFrom_dump rtl ⟨[], 0, yd⟩ (init_ok hyd) d hw
  refine ⟨A, s'.sd, s'.yd, _, ?_, h.ok.sd, h.ok.yd, h.yd, dumpWith_dumpable false hD, ?_, ?_, ?_, ?_, ?_⟩
  · unfold loadNFA; rw [e]
  · exact fun x => (dumpOf_final _ _ x).trans (hf x)
  · exact fun x => (dumpOf_trans _ _ x).trans (ht x)
  · exact dumpOf_name _ _
  · exact dumpOf_symbols _ _
  · exact dumpOf_states _ _

/-- non-vacuity: a description with two start symbols on one start state, on an alphabet in use -/
example : NfaLDTest.dW.WordShaped ∧ Dict.Ok ([("b", 0), ("zz", 1)] : WSymDict) := ⟨by decide, by decide, by decide⟩

/-- executed: the numbers (final states first; `a`, `b` from the symbol list) and the dump -/
example : loadNFA true NfaLDTest.dW [] [] = .ok
    (⟨⟨[1], [0], [(1, 0, 0), (0, 1, 0)]⟩, [(1, [2, 3])]⟩, [("q", 0), ("p", 1)], [("a", 0), ("b", 1), ("s", 2), ("t", 3)]) ∧
    dumpNFA ⟨⟨[1], [0], [(1, 0, 0), (0, 1, 0)]⟩, [(1, [2, 3])]⟩ [("q", 0), ("p", 1)]
      [("a", 0), ("b", 1), ("s", 2), ("t", 3)] = .ok
    ⟨"", [], [], ["q"], [([], "s", "p"), ([], "t", "p"), (["p"], "a", "q"), (["q"], "b", "q")]⟩ :=
  ⟨rfl, ok_of_toOption (by decide +kernel)⟩

/-- **what the loader does with a rule of rank ≥ 2**: `LoadFromAutDesc` throws `std::runtime_error ("Not a finite
automaton")` – exactly for the descriptions that are not word-shaped, whatever the dictionaries hold – and never throws
anything else.  (The exception is thrown at the first such rule in `std::set` order; the rules before it have already been
entered into the automaton and the dictionaries, which the caller – `vata` reports the error and exits – does not look at.) -/
theorem C13_nfa_load_rank2_throws (rtl : Bool) (d : AutDesc) (sd : StateDict) (yd : WSymDict) :
    (loadNFA rtl d sd yd = .error "Not a finite automaton" ↔ ¬ d.WordShaped) ∧
    (∀ e, loadNFA rtl d sd yd = .error e → e = "Not a finite automaton") := by
  obtain ⟨i1, i2⟩ := trTrans_error_iff rtl d.trans
    (trFinals (regSyms ⟨sd, 0, yd⟩ d.symbols) nfasEmpty d.final).2 (trFinals (regSyms ⟨sd, 0, yd⟩ d.symbols) nfasEmpty d.final).1
  have key : ∀ e, loadNFA rtl d sd yd = .error e ↔ loadFrom rtl ⟨sd, 0, yd⟩ d = .error e := by
    intro e
    unfold loadNFA
    cases h : loadFrom rtl ⟨sd, 0, yd⟩ d with
    | error x => simp
    | ok r => simp
  refine ⟨?_, fun e he => i2 e ((key e).mp he)⟩
  rw [key]
  show trTrans rtl _ _ d.trans = _ ↔ _
  rw [i1]
  unfold AutDesc.WordShaped
  simp only [Classical.not_forall, Nat.not_le, exists_prop]
  exact Iff.rfl

example : ¬ TimbukEx.exE.WordShaped := by decide

/-- **dump then load: the language and the start symbols.**  For any automaton with dictionaries that name its states
injectively and its symbols (`Dumpable`, `NamesInj`; `yd.Ok`: the alphabet as its weak translator keeps it): the dump succeeds;
loading the dumped description (fresh state dictionary, the same alphabet, either evaluation order) succeeds; the loaded
automaton accepts exactly the same words; its start states are the old ones renamed (`reName`, injective on the states), each
with exactly its old SET of start symbols – except that a start state WITHOUT symbols (such states arise from `Reverse`) comes
back with the single symbol that the name `x` has in the alphabet after the load. -/
theorem C13_nfa_dump_load_lang (rtl : Bool) (A : NFAS) (sd : StateDict) (yd : WSymDict) (hyd : yd.Ok)
    (hD : Dumpable A sd yd) (hinj : NamesInj A sd) :
    ∃ d₁ A' sd' yd', dumpNFA A sd yd = .ok d₁ ∧ loadNFA rtl d₁ [] yd = .ok (A', sd', yd') ∧
      (∀ w, acceptsW A'.toNFA w = acceptsW A.toNFA w) ∧
      NfaInjOn (reName sd sd') (nfaStates A.toNFA) ∧
      (∀ q, q ∈ A'.start ↔ q ∈ A.start.map (reName sd sd')) ∧
      (∀ s, s ∈ A.start → A.symsOf s ≠ [] → ∀ a, a ∈ A'.symsOf (reName sd sd' s) ↔ a ∈ A.symsOf s) ∧
      (∀ s, s ∈ A.start → A.symsOf s = [] → ∀ a, a ∈ A'.symsOf (reName sd sd' s) ↔ a = yd'.get "x") :=
  nfa_dump_load_lang rtl A sd yd hyd hD hinj

namespace NfaLDEx
/-- an automaton that was not loaded: states 5, 7 named `q5`, `top`; the start state 5 has two start symbols, the start state
7 none -/
def exA : NFAS := ⟨⟨[5, 7], [7], [(5, 0, 7), (7, 1, 7)]⟩, [(5, [2, 0]), (7, [])]⟩
def exSd : StateDict := [("q5", 5), ("top", 7), ("other", 1)]
def exYd : WSymDict := [("a", 0), ("b", 1), ("s", 2)]

theorem exYd_ok : exYd.Ok := ⟨by decide, by decide⟩

theorem exA_states {q : Nat} (hq : q ∈ nfaStates exA.toNFA) : q = 5 ∨ q = 7 := by
  simp only [nfaStates, exA, List.flatMap_cons, List.flatMap_nil, List.mem_append, List.mem_cons, List.not_mem_nil,
    or_false] at hq
  omega

theorem exA_dumpable : Dumpable exA exSd exYd := by
  refine ⟨?_, ?_, ?_⟩
  · intro q hq
    rcases exA_states hq with rfl | rfl
    · exact ⟨"q5", rfl⟩
    · exact ⟨"top", rfl⟩
  · intro e he
    simp only [exA, List.mem_cons, List.not_mem_nil, or_false] at he
    rcases he with rfl | rfl
    · exact ⟨"a", rfl⟩
    · exact ⟨"b", rfl⟩
  · intro s hs a ha
    simp only [exA, List.mem_cons, List.not_mem_nil, or_false] at hs
    rcases hs with rfl | rfl
    · have : a = 2 ∨ a = 0 := by
        simp only [NFAS.symsOf, smGet, smFind, exA] at ha
        simpa using ha
      rcases this with rfl | rfl
      · exact ⟨"s", rfl⟩
      · exact ⟨"a", rfl⟩
    · simp [NFAS.symsOf, smGet, smFind, exA] at ha

theorem exA_namesInj : NamesInj exA exSd := by
  intro q q' hq hq' e
  rcases exA_states hq with rfl | rfl <;> rcases exA_states hq' with rfl | rfl
  · rfl
  · exact absurd e (by decide +kernel)
  · exact absurd e (by decide +kernel)
  · rfl
end NfaLDEx

/-- non-vacuity of `C13_nfa_dump_load_lang`, and the executed instance: `x -> top` is written for the start state without
symbols, and after the reload `top` carries the new symbol `x ↦ 3` -/
example : NfaLDEx.exYd.Ok ∧ Dumpable NfaLDEx.exA NfaLDEx.exSd NfaLDEx.exYd ∧ NamesInj NfaLDEx.exA NfaLDEx.exSd ∧
    dumpNFA NfaLDEx.exA NfaLDEx.exSd NfaLDEx.exYd = .ok
      ⟨"", [], [], ["top"], [([], "a", "q5"), ([], "s", "q5"), ([], "x", "top"), (["q5"], "a", "top"), (["top"], "b", "top")]⟩ ∧
    loadNFA true ⟨"", [], [], ["top"],
        [([], "a", "q5"), ([], "s", "q5"), ([], "x", "top"), (["q5"], "a", "top"), (["top"], "b", "top")]⟩ [] NfaLDEx.exYd = .ok
      (⟨⟨[1, 0], [0], [(1, 0, 0), (0, 1, 0)]⟩, [(1, [0, 2]), (0, [3])]⟩, [("top", 0), ("q5", 1)],
        [("a", 0), ("b", 1), ("s", 2), ("x", 3)]) :=
  ⟨NfaLDEx.exYd_ok, NfaLDEx.exA_dumpable, NfaLDEx.exA_namesInj, ok_of_toOption (by decide +kernel), rfl⟩

/-- the same through the text (`DumpToString`, `LoadFromString`), when the names can be written in Timbuk -/
theorem C13_nfa_dump_text_load_lang (rtl : Bool) (A : NFAS) (sd : StateDict) (yd : WSymDict) (hyd : yd.Ok)
    (hD : Dumpable A sd yd) (hinj : NamesInj A sd)
    (hwf : (dumpOf (A.final.map (nameOf sd)) (dumpRules false sd yd A)).WellFormed) :
    ∃ txt A' sd' yd', dumpNFAString A sd yd = .ok txt ∧ loadNFAString rtl txt [] yd = .ok (A', sd', yd') ∧
      ∀ w, acceptsW A'.toNFA w = acceptsW A.toNFA w := by
  obtain ⟨d₂, hp, hf, ht⟩ := parse_serialize _ hwf
  obtain ⟨A', sd', yd', l, _, _, _, hl⟩ :=
    reload_lang rtl A sd yd hyd hD hinj d₂ (fun x => (hf x).trans (dumpOf_final _ _ x))
      (fun x => (ht x).trans (dumpOf_trans _ _ x))
  refine ⟨serialize (dumpOf (A.final.map (nameOf sd)) (dumpRules false sd yd A)), A', sd', yd', ?_, ?_, hl⟩
  · unfold dumpNFAString dumpNFA; rw [dumpWith_dumpable false hD]
  · unfold loadNFAString; rw [hp]; exact l

example : (dumpOf (NfaLDEx.exA.final.map (nameOf NfaLDEx.exSd)) (dumpRules false NfaLDEx.exSd NfaLDEx.exYd NfaLDEx.exA)).WellFormed := by
  decide +kernel

/-- **the whole chain for loaded automata**: load a word-shaped description, dump, load the dump (fresh state dictionary,
the alphabet as the first load left it): the two automata accept the same words -/
theorem C13_nfa_load_dump_load_lang (rtl : Bool) (d : AutDesc) (yd : WSymDict) (hyd : yd.Ok) (hw : d.WordShaped) :
    ∃ A sd yd' d₁ A' sd' yd'', loadNFA rtl d [] yd = .ok (A, sd, yd') ∧ dumpNFA A sd yd' = .ok d₁ ∧
      loadNFA rtl d₁ [] yd' = .ok (A', sd', yd'') ∧ ∀ w, acceptsW A'.toNFA w = acceptsW A.toNFA w := by
  obtain ⟨A, s', e, h, hD, _, _⟩ := loadFrom_dump rtl ⟨[], 0, yd⟩ (NfaLD.init_ok hyd) d hw
  obtain ⟨d₁, A', sd', yd'', h1, h2, h3, _⟩ :=
    nfa_dump_load_lang rtl A s'.sd s'.yd h.ok.yd hD (namesInj_of_ok hD h.ok.sd)
  exact ⟨A, s'.sd, s'.yd, d₁, A', sd', yd'', by unfold loadNFA; rw [e], h1, h2, h3⟩

example : NfaLDTest.dW.WordShaped := by decide

/-- **Regression (repair `3dfc5d43`).**  Before the repair the loop over the start symbols of a start state ended with
`break` after its first round.  For the description `s -> p, t -> p, a(p) -> q, b(q) -> q, Final q` the old dump of the loaded
automaton lacks the rule `t -> p` (the round trip of `C13_nfa_load_dump_roundtrip` fails), and reloading it gives an automaton
whose start state has lost the start symbol `t`; the current dump returns all four rules. -/
theorem C13_nfa_dump_first_symbol_only_counterexample :
    NfaLDTest.dW.WordShaped ∧
    (∃ A sd yd d', loadNFA true NfaLDTest.dW [] [] = .ok (A, sd, yd) ∧ dumpNFAOld A sd yd = .ok d' ∧
      ([], "t", "p") ∈ NfaLDTest.dW.trans ∧ ([], "t", "p") ∉ d'.trans ∧
      (∃ A' sd' yd', loadNFA true d' [] yd = .ok (A', sd', yd') ∧ A.symsOf 1 = [2, 3] ∧ A'.symsOf 1 = [2])) ∧
    (∃ A sd yd d', loadNFA true NfaLDTest.dW [] [] = .ok (A, sd, yd) ∧ dumpNFA A sd yd = .ok d' ∧
      d'.trans = [([], "s", "p"), ([], "t", "p"), (["p"], "a", "q"), (["q"], "b", "q")]) := by
  refine ⟨by decide +kernel, ⟨_, _, _, _, rfl, rfl, by decide +kernel, by decide +kernel, ⟨_, _, _, rfl, rfl, rfl⟩⟩, ⟨_, _, _, _, rfl, rfl, rfl⟩⟩

/-!
## which "not yet proved" items of `C13.lean` / `C13_LoadDump.lean` this file closes, and what remains

* closes "Dump / load of the other three encodings as coded" for the **explicit finite automaton**: `loadNFA` / `dumpNFA`
  mirror the C++ (start states = parents of nullary rules with their start symbols, the exception for rank ≥ 2, the `x`
  rule, the `break` of the old dump), load ∘ dump gives the description back, dump ∘ load preserves the language and the
  start symbols, also through the text.

## still not proved

* the two BDD encodings (`Vata/BddLoad.lean` has their loaders; the dump ∘ load statement as coded is not proved here);
* a PRE-FILLED state dictionary: `loadNFA` starts the state counter at 0 like the tree loader, so the clash of
  `C13_prefilled_state_dictionary_clash` happens here too (same `LoadableAut` code); no separate theorem;
* the exact LIST the dump returns (`std::set` order) is only characterised up to `≈` here, except on the executed examples;
* which exception text comes first when several translations are missing in a dump (hash order in the C++, list order in
  the model), and the half-filled dictionaries after the "Not a finite automaton" exception;
* the correspondence of `loadNFA` / `dumpNFA` with the C++ on generated inputs has not been run in the driver (functions to
  call: `loadNFAString true txt [] [] `, `dumpNFAString`).
-/
end Vata.Props
