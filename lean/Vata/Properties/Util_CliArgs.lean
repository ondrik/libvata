import Vata.Proofs.CliArgs
import Vata.Proofs.CliArgsErrors
import Vata.Proofs.CliArgsOptLoop
import Vata.Proofs.CliArgsHelp
/-!
# The command line of the `vata` binary – argument parsing and option handling (supports C01, C07, C09)

> C01 / C07 / C09 quantify over "every implemented selection" of the inclusion algorithms.  A selection is an `InclParam`
> option word; the library dispatches on it (`Vata/Properties/Dispatch.lean`, tables regenerated from the sources).  This
> file is about the other end: how a user of the `vata` binary gets from `argv` to that word – `parseArguments`, the `-o`
> option list, the option handling of `CheckInclusion` – and what the help text says about it.

## How the statement is read into the model

* **Model of the code (L2).**  `Vata/CliArgs.lean`: `parse` (`parseArguments` of `cli/parse_args.cc`, one `stepArg` per loop
  iteration; `parseRaw` is the same loop on `argc` / `argv` with every `argv[i]` read explicit), `checkInclusionOpts` /
  `computeSimulationOpts` / `computeReductionOpts` / `checkEquivOpts` (`cli/operations.hh`; the `InclParam` setters on the
  flag masks of `Vata.Gen.flags`), `mainEarly` and `perform` (`cli/vata.cc`: `main` up to `executeCommand`, with the help
  text; `performOperation` on a recording automaton).  `std::map<std::string, std::string>` is the list of its entries in
  iteration order with `insert` as coded (no overwrite).
* **Specification (L0).**  Flag-wise reading of the option word (`Vata.Dispatch.has w fDir` …), the regenerated dispatch
  tables `Vata.Gen.explDispatch / tdDispatch / buDispatch / faDispatch`, the grammar of an option piece.
* **Correspondence (L3).**  kind `cliargs` (`harness/ops/op_cliargs.inc`, `Driver/CliArgsChk.lean`, `tools/gen_cliargs.py`): the
  real `parse_args.cc` and `vata.cc` are compiled into the harness; every field of `Arguments` / the exception text, the
  output and return code of the real `main()` for parse errors / `help` / `version` / no arguments (the whole help text),
  and the call trace of the real `performOperation` + `CheckInclusion` + … on a recording automaton type are compared
  token by token with the model.
-/
namespace Vata.Props
open Vata.CliArgs
open Vata.Dispatch (fAlg fDir fCache fRec fSim fOrder fEquiv)

/-! ## (1) the option word -/

/-- **What `CheckInclusion` accepts.**  An options map is accepted iff each of the seven inclusion options – the value
`-o` gave, else the default the code inserts (`insert` does not overwrite) – is EXACTLY one of its two words; the seven
Booleans of the choice are then determined.  Every other option name in the map is ignored. -/
theorem Util_CliArgs_incl_accepts {opts : Options} (hs : SortedMap opts) (c : InclChoice) :
    checkInclusionOpts opts = .ok c ↔
      optVal opts "alg" "antichains" = (if c.congr then lit "congr" else lit "antichains") ∧
      optVal opts "dir" "up" = (if c.down then lit "down" else lit "up") ∧
      optVal opts "rec" "no" = (if c.recursive then lit "yes" else lit "no") ∧
      optVal opts "optC" "no" = (if c.cache then lit "yes" else lit "no") ∧
      optVal opts "sim" "no" = (if c.sim then lit "yes" else lit "no") ∧
      optVal opts "order" "depth" = (if c.breadth then lit "breadth" else lit "depth") ∧
      optVal opts "timeS" "yes" = (if c.timeS then lit "yes" else lit "no") :=
  checkInclusionOpts_ok_iff hs c

/-- the run `-o dir=down,rec=yes` of the option handling, evaluated once for the two examples that look at it -/
theorem incl_dir_rec : SortedMap [(lit "dir", lit "down"), (lit "rec", lit "yes")] ∧
    checkInclusionOpts [(lit "dir", lit "down"), (lit "rec", lit "yes")] = .ok ⟨false, true, true, false, false, false, true⟩ := by
  repeat rw [lit_ofList]
  decide +kernel

example : SortedMap [(lit "dir", lit "down"), (lit "rec", lit "yes")] ∧
    checkInclusionOpts [(lit "dir", lit "down"), (lit "rec", lit "yes")] = .ok ⟨false, true, true, false, false, false, true⟩ :=
  incl_dir_rec

/-- **The option word is the flag-wise specification of the options.**  For accepted options, each bit of
`ip.GetOptions()` (masks regenerated from `incl_param.hh`) is set iff the corresponding option has its non-default
word: `alg=congr` ↔ ALGORITHM, `dir=down` ↔ DIRECTION, `rec=yes` ↔ RECURSIVE, `optC=yes` ↔ DOWNWARD_CACHE_IMPL,
`sim=yes` ↔ SIMULATION, `order=breadth` ↔ SEARCH_ORDER; EQUIV is never set; `timeS` is not in the word. -/
theorem Util_CliArgs_incl_word_spec {opts : Options} (hs : SortedMap opts) {c : InclChoice}
    (h : checkInclusionOpts opts = .ok c) :
    (Vata.Dispatch.has c.word fAlg = true ↔ optVal opts "alg" "antichains" = lit "congr") ∧
    (Vata.Dispatch.has c.word fDir = true ↔ optVal opts "dir" "up" = lit "down") ∧
    (Vata.Dispatch.has c.word fRec = true ↔ optVal opts "rec" "no" = lit "yes") ∧
    (Vata.Dispatch.has c.word fCache = true ↔ optVal opts "optC" "no" = lit "yes") ∧
    (Vata.Dispatch.has c.word fSim = true ↔ optVal opts "sim" "no" = lit "yes") ∧
    (Vata.Dispatch.has c.word fOrder = true ↔ optVal opts "order" "depth" = lit "breadth") ∧
    Vata.Dispatch.has c.word fEquiv = false ∧ c.word < 64 := by
  obtain ⟨w1, w2, w3, w4, w5, w6, w7, w8, _⟩ := word_spec c
  obtain ⟨v1, v2, v3, v4, v5, v6, _⟩ := (checkInclusionOpts_ok_iff hs c).mp h
  rw [w1, w2, w3, w4, w5, w6, v1, v2, v3, v4, v5, v6]
  refine ⟨?_, ?_, ?_, ?_, ?_, ?_, w7, w8⟩
  · cases c.congr <;> decide
  · cases c.down <;> decide
  · cases c.recursive <;> decide
  · cases c.cache <;> decide
  · cases c.sim <;> decide
  · cases c.breadth <;> decide

example : (checkInclusionOpts [(lit "dir", lit "down"), (lit "rec", lit "yes")]).map (·.word) = .ok 10 ∧
    Vata.Gen.namedWords.lookup "ANTICHAINS_DOWN_REC_NOSIM" = some 10 := by
  rw [incl_dir_rec.2, Vata.Dispatch.named_words.2.2.2.2.1]
  simp only [Except.map, InclChoice.word, Vata.Dispatch.flag_values]
  decide

/-- … and as a number: the sum of the masks of the options that have their non-default word -/
theorem Util_CliArgs_incl_word_sum (c : InclChoice) :
    c.word = (if c.congr then fAlg else 0) + (if c.down then fDir else 0) + (if c.recursive then fRec else 0) +
      (if c.cache then fCache else 0) + (if c.sim then fSim else 0) + (if c.breadth then fOrder else 0) :=
  (word_spec c).2.2.2.2.2.2.2.2

/-- every rejection throws `optErrorEx`: one text for all seven blocks, listing the whole map (defaults included) -/
theorem Util_CliArgs_incl_rejects (opts : Options) (e : Str) (h : checkInclusionOpts opts = .error e) :
    e = lit "Invalid options for inclusion: " ++ showOptions (inclDefaults opts) := by
  unfold checkInclusionOpts at h
  simp only [bind_eq_error] at h
  rcases h with h | ⟨_, _, h | ⟨_, _, h | ⟨_, _, h | ⟨_, _, h | ⟨_, _, h | ⟨_, _, h | ⟨_, _, h⟩⟩⟩⟩⟩⟩⟩
  all_goals first | exact choose_error _ _ _ _ _ _ h | cases h

example : (checkInclusionOpts [(lit "sim", lit "YES")]).toOption = none ∧
    String.ofList (showOptions (inclDefaults [(lit "sim", lit "YES")])) =
      "[alg -> antichains, dir -> up, optC -> no, order -> depth, rec -> no, sim -> YES, timeS -> yes]" := by
  repeat rw [lit_ofList]
  exact ⟨by decide +kernel, congrArg String.ofList (by decide +kernel)⟩

/-- **Every choice of the seven options is reachable from the command line**, hence every option word below 64 (all
combinations of the six bits other than EQUIV): `vata -o <optionString c> incl a b` is parsed, its options are accepted
and give back exactly `c`. -/
theorem Util_CliArgs_every_choice_reachable (c : InclChoice) :
    inclChoiceOf .expl [lit "-o", optionString c, lit "incl", lit "a", lit "b"] = some c ∧
    ∀ w, w < 64 → ∀ t, (choiceOfWord w t).word = w :=
  ⟨reach_all c, word_choiceOfWord⟩

example : String.ofList (optionString ⟨false, true, true, true, true, false, true⟩) =
    "alg=antichains,dir=down,rec=yes,optC=yes,sim=yes,order=depth,timeS=yes" := congrArg String.ofList (by decide +kernel)

/-- **Every implemented selection without the EQUIV bit is reachable** (the `_partial` of the task's "every one of the
implemented words of each representation's dispatch table is reachable by some option string" – see the next theorem for
the two words that are not).  For each representation `r` and each `case` of its dispatcher (table regenerated from the
sources) there is a command line that is parsed, selects `r`, and whose options `CheckInclusion` turns into exactly the
word of the case. -/
theorem Util_CliArgs_every_selection_reachable_partial (r : Rep) (cs : Vata.Gen.Case) (hc : cs ∈ table r)
    (hne : Vata.Dispatch.has cs.word fEquiv = false) :
    ∃ argv c, inclChoiceOf r argv = some c ∧ c.word = cs.word := by
  have h := List.all_eq_true.mp (table_word_lt r) cs hc
  rw [hne, Bool.false_or, decide_eq_true_eq] at h
  exact ⟨selectArgv r cs.word, _, reach r _, word_choiceOfWord _ h true⟩

example : (selectArgv .bddBu 26).map String.ofList =
    ["-r", "bdd-bu", "-o", "alg=antichains,dir=down,rec=yes,optC=no,sim=yes,order=depth,timeS=yes", "incl", "a", "b"] ∧
    (Vata.Gen.buDispatch.map (·.word)).contains 26 = true := by
  show _ = List.map String.ofList [_, _, _, _, _, _, _] ∧ _
  refine ⟨congrArg _ ?_, by decide +kernel⟩
  simp only [selectArgv, choiceOfWord, Vata.Dispatch.flag_values]
  decide +kernel

/-- **The two implemented selections that are NOT reachable**: the only cases with the EQUIV bit are
`CONGR_DEPTH_EQUIV_NOSIM` (65) and `CONGR_BREADTH_EQUIV_NOSIM` (97) of the word automata; `incl` never produces them
whatever the options, and `equiv` (`CheckEquiv`) builds exactly these words but then throws in EVERY case –
`Equivalence not implemented` when the options are accepted. -/
theorem Util_CliArgs_equiv_selections_unreachable :
    (∀ r : Rep, ((table r).filter (fun c => Vata.Dispatch.has c.word fEquiv)).map (·.word) =
      (if r = .explFa then [65, 97] else [])) ∧
    (∀ (opts : Options) (c : InclChoice), checkInclusionOpts opts = .ok c → c.word ≠ 65 ∧ c.word ≠ 97) ∧
    (∀ opts : Options,
      ((checkEquivOpts opts).2 = none ∧ (checkEquivOpts opts).1 =
          lit "Invalid options for equivalence: " ++ showOptions (withDefault "order" "depth" opts)) ∨
      ((checkEquivOpts opts).1 = lit "Equivalence not implemented" ∧
        ((checkEquivOpts opts).2 = Vata.Gen.namedWords.lookup "CONGR_DEPTH_EQUIV_NOSIM" ∨
         (checkEquivOpts opts).2 = Vata.Gen.namedWords.lookup "CONGR_BREADTH_EQUIV_NOSIM"))) := by
  refine ⟨by simp only [Vata.Dispatch.flag_values]; decide +kernel, fun _ c _ => (equiv_unreachable_by_incl c).2,
    fun opts => ?_⟩
  unfold checkEquivOpts
  simp only []
  cases h : choose (withDefault "order" "depth" opts) "order" "depth" "breadth"
      (lit "Invalid options for equivalence: " ++ showOptions (withDefault "order" "depth" opts)) with
  | error e => left; exact ⟨rfl, choose_error _ _ _ _ _ _ h⟩
  | ok b =>
    refine Or.inr ⟨rfl, ?_⟩
    clear h
    simp only [Vata.Dispatch.flag_values]
    revert b
    decide +kernel

example : checkEquivOpts [] = (lit "Equivalence not implemented", some 65) ∧
    checkEquivOpts [(lit "order", lit "breadth")] = (lit "Equivalence not implemented", some 97) := by
  repeat rw [lit_ofList]
  decide +kernel

/-- **Unimplemented combinations reach a word outside the table** (→ `default:` → `NotImplementedException`,
`Vata.Dispatch.default_throws`): for every accepted choice the dispatcher of representation `r` has a `case` for its word
iff `impl r` holds –
* `expl`: antichains, `order=depth`, and upward with `rec=no, optC=no` or downward with `rec=yes` or `optC=no`;
* `bdd-td`: antichains, `order=depth`, `dir=down, rec=yes`;
* `bdd-bu`: antichains, `order=depth`, and upward with `rec=no, optC=no` or `dir=down, rec=yes, optC=no, sim=yes`;
* `expl_fa`: `dir=up, rec=no, optC=no`, and antichains with `order=depth` or congruence except `order=breadth, sim=yes`. -/
theorem Util_CliArgs_unimplemented (r : Rep) (c : InclChoice) : implemented r c.word = impl r c ∧
    (Vata.Gen.explDispatchDefaultThrows = true ∧ Vata.Gen.tdDispatchDefaultThrows = true ∧
      Vata.Gen.buDispatchDefaultThrows = true ∧ Vata.Gen.faDispatchDefaultThrows = true) := by
  obtain ⟨a, b, c, d, e, f, g⟩ := c
  exact ⟨implemented_iff r a b c d e f g, Vata.Dispatch.default_throws⟩

/-- e.g. the upward algorithm with `rec=yes` (a meaningless but harmless combination) is refused, and so is `order=breadth`
with the antichain algorithms (where the option means nothing) -/
example : implemented .expl (InclChoice.word ⟨false, false, true, false, false, false, true⟩) = false ∧
    implemented .expl (InclChoice.word ⟨false, false, false, false, false, true, true⟩) = false ∧
    implemented .explFa (InclChoice.word ⟨true, false, false, false, false, true, true⟩) = true := by
  simp only [implemented_iff]; decide

/-! ## (2) what the `-o` list accepts -/

/-- **One piece of the `-o` list.**  `processOption` accepts a non-empty piece without `=` (the value is then the EMPTY
string) or `name=value` cut at the FIRST `=` with both sides non-empty (the value may contain further `=`). -/
theorem Util_CliArgs_option_piece (o k v : Str) : processOption o = .ok (k, v) ↔
    (o ≠ [] ∧ '=' ∉ o ∧ k = o ∧ v = []) ∨ (k ≠ [] ∧ v ≠ [] ∧ '=' ∉ k ∧ o = k ++ '=' :: v) := by
  constructor
  · intro h
    by_cases hm : '=' ∈ o
    · obtain ⟨k', v', rfl, hk'⟩ := List.eq_append_cons_of_mem hm
      rw [processOption_append hk'] at h
      split at h
      · cases h
      · rename_i hne
        cases h
        exact Or.inr ⟨(not_or.mp hne).1, (not_or.mp hne).2, hk', rfl⟩
    · rw [processOption_of_not_mem hm] at h
      split at h
      · cases h
      · rename_i ho
        cases h
        exact Or.inl ⟨ho, hm, rfl, rfl⟩
  · rintro (⟨ho, hne, rfl, rfl⟩ | ⟨hk, hv, hne, rfl⟩)
    · rw [processOption_of_not_mem hne, if_neg ho]
    · rw [processOption_append hne, if_neg (not_or.mpr ⟨hk, hv⟩)]

example : processOption (lit "sim") = .ok (lit "sim", []) ∧ processOption (lit "a==b") = .ok (lit "a", lit "=b") ∧
    (processOption (lit "sim=")).toOption = none ∧ (processOption (lit "=yes")).toOption = none ∧
    (processOption []).toOption = none := by
  repeat rw [lit_ofList]
  decide +kernel

/-- **The whole list.**  The `-o` argument is cut at every comma; it is accepted iff every piece is accepted by
`processOption` and no option name occurs twice – the non-overwriting `insert` is used as a duplicate TEST, a repeated
option is an error (`Option for '…' specified more than once`), never silently dropped; the resulting map holds exactly
the pairs. -/
theorem Util_CliArgs_option_list (arg : Str) (m : Options) :
    parseOptionList arg [] = .ok m ↔ ∃ kvs, piecesKV (Vata.T.splitDelim ',' arg) = .ok kvs ∧ (kvs.map (·.1)).Nodup ∧
      m = insertAll kvs [] := by
  unfold parseOptionList
  rw [insertPieces_ok_iff _ m sortedMap_nil]
  constructor
  · rintro ⟨kvs, h1, h2, _, h4⟩; exact ⟨kvs, h1, h2, h4⟩
  · rintro ⟨kvs, h1, h2, h4⟩; exact ⟨kvs, h1, h2, fun _ _ => rfl, h4⟩

/-- looking an option up in the result -/
theorem Util_CliArgs_option_lookup (kvs : List (Str × Str)) (k : Str) :
    SortedMap (insertAll kvs []) ∧ mapFind (insertAll kvs []) k = (kvs.find? (fun e => e.1 = k)).map (·.2) := by
  refine ⟨insertAll_sorted kvs sortedMap_nil, ?_⟩
  rw [mapFind_insertAll kvs sortedMap_nil k]
  rfl

example : parseOptionList (lit "dir=down,foo=bar,sim") [] = .ok [(lit "dir", lit "down"), (lit "foo", lit "bar"), (lit "sim", [])] ∧
    parseOptionList (lit "dir=down,dir=down") [] = .error (lit "Option for 'dir' specified more than once") ∧
    parseOptionList (lit "dir=down,") [] = .error (lit "Malformed options: ''") ∧
    parseOptionList (lit "dir=") [] = .error (lit "Malformed option: 'dir='") := by
  repeat rw [lit_ofList]
  decide +kernel

/-- **The options of a successful parse**: a well-formed map; empty when there was no `-o`, else what ONE element of the
vector denotes (`-o` twice is an error) -/
theorem Util_CliArgs_options_of_parse {argv : List Str} {a : Arguments} (h : parse argv = .ok a) :
    SortedMap a.options ∧ (a.options = [] ∨ ∃ arg, arg ∈ argv ∧ parseOptionList arg [] = .ok a.options) := by
  suffices key : ∃ st' : St, (SortedMap st'.args.options ∧ (st'.seen.options = false → st'.args.options = []) ∧
      (st'.args.options = [] ∨ ∃ arg, arg ∈ argv ∧ parseOptionList arg [] = .ok st'.args.options)) ∧
      st'.ps = .done ∧ st'.args = a by
    obtain ⟨st', ⟨hs, _, hor⟩, _, rfl⟩ := key
    exact ⟨hs, hor⟩
  refine parse_inv _ ⟨sortedMap_nil, fun _ => rfl, Or.inl rfl⟩ ?_ h
  intro cur next st st' _ hnext ⟨hs, hseen, hor⟩ hy
  rcases stepArg_options hy with ⟨h1, h2⟩ | ⟨h1, h2, arg, rfl, h4⟩
  · rw [h1, h2]; exact ⟨hs, hseen, hor⟩
  · -- the first `-o`: the map was still empty
    rw [hseen h1] at h4
    exact ⟨parseOptionList_sorted sortedMap_nil h4, fun h => Bool.noConfusion (h2.symm.trans h),
      Or.inr ⟨arg, hnext arg rfl, h4⟩⟩

example : (parse [lit "-o", lit "x=1", lit "-o", lit "y=2", lit "load", lit "f"]) =
    .error (lit "The '-o' flag specified more times.") := by
  repeat rw [lit_ofList]
  decide +kernel

/-- **Defaults never overwrite.**  `options.insert(make_pair(d, v))` on a map: the key `d` keeps the user's value if it
has one (even the empty one of `-o d`), every other key is untouched. -/
theorem Util_CliArgs_defaults_do_not_overwrite (d v : String) (k : Str) {m : Options} (hs : SortedMap m) :
    mapGet (withDefault d v m) k = if k = lit d then (mapFind m k).getD (lit v) else mapGet m k := by
  unfold mapGet withDefault
  rw [mapFind_insert _ _ _ hs]
  by_cases h : k = lit d
  · subst h; rw [if_pos rfl, if_pos rfl]; rfl
  · rw [if_neg (Ne.symm h), if_neg h]

/-- **Unknown option names are ignored, unknown VALUES are not**: acceptance and the choice depend on the seven values
only. -/
theorem Util_CliArgs_unknown_names_ignored {m₁ m₂ : Options} (h₁ : SortedMap m₁) (h₂ : SortedMap m₂)
    (h : ∀ k d, (k, d) ∈ [("alg", "antichains"), ("dir", "up"), ("rec", "no"), ("optC", "no"), ("sim", "no"),
      ("order", "depth"), ("timeS", "yes")] → optVal m₁ k d = optVal m₂ k d) (c : InclChoice) :
    checkInclusionOpts m₁ = .ok c ↔ checkInclusionOpts m₂ = .ok c := by
  rw [checkInclusionOpts_ok_iff h₁, checkInclusionOpts_ok_iff h₂,
    h "alg" "antichains" (by simp), h "dir" "up" (by simp), h "rec" "no" (by simp), h "optC" "no" (by simp),
    h "sim" "no" (by simp), h "order" "depth" (by simp), h "timeS" "yes" (by simp)]

/-- `foo=bar` and the typo `optc=yes` are silently accepted (and have no effect); `sim=YES`, `sim=` `1`, and `sim` without a
value (its value is `""`, the default is NOT used) are rejected – by `CheckInclusion`, not by `parseArguments` -/
example :
    (checkInclusionOpts [(lit "foo", lit "bar"), (lit "optc", lit "yes")]).map (·.word) = .ok 0 ∧
    (checkInclusionOpts [(lit "sim", lit "YES")]).toOption = none ∧
    (checkInclusionOpts [(lit "sim", lit "1")]).toOption = none ∧
    (checkInclusionOpts [(lit "sim", [])]).toOption = none ∧
    (parse [lit "-o", lit "sim=YES,foo", lit "incl", lit "a", lit "b"]).toOption.isSome = true := by
  repeat rw [lit_ofList]
  simp only [InclChoice.word, Vata.Dispatch.flag_values]
  decide +kernel

/-! ## (3) `parseArguments` is total and stays inside `argv` -/

/-- **No vector makes `parseArguments` read past the end of `argv`.**  The loop on `argc` / `argv` with every read
explicit, started with any `argc` up to the length of the vector, never reads an index outside it (it reads only
`argv[0 .. argc)`), and computes the list-level `parse` of the first `argc` elements.  (The inputs that would read past
`argv`: none.  The argument of a flag is read only after `if (argc == 0) throw`; `currentArg[0]` of an empty string is its
terminating NUL.) -/
theorem Util_CliArgs_parse_in_bounds (argv : List Str) (argc : Nat) (h : argc ≤ argv.length) :
    parseRaw argv argc 0 {} = Raw.ofExcept (parse (argv.take argc)) ∧ ∀ i, parseRaw argv argc 0 {} ≠ .outOfBounds i :=
  ⟨parseRaw_prefix argv argc h, parseRaw_in_bounds argv argc h⟩

example : parseRaw [lit "-t", lit "-r"] 2 0 {} = .err (lit "The '-r' flag needs an argument.") ∧
    parseRaw [lit "load"] 2 0 {} = .outOfBounds 1 := by
  repeat rw [lit_ofList]
  decide +kernel

/-- **The `-o` loop on indices.**  The loop as coded (`newPos = find(',', lastPos)`, `substr(lastPos, newPos - lastPos)`,
`lastPos = newPos + 1`, and once more after the loop with `newPos == npos`) never calls `substr` with `lastPos > size()` –
`std::out_of_range` would be an exception that is NOT a `std::runtime_error` – and is exactly "cut at every comma,
`processOption` + `insert` per piece in order" (`parseOptionList`, which `parse` uses). -/
theorem Util_CliArgs_option_loop_in_range (s : Str) (m : Options) :
    optLoopRaw s (s.length + 1) 0 m = OptRaw.ofExcept (parseOptionList s m) ∧
    optLoopRaw s (s.length + 1) 0 m ≠ .outOfRange :=
  ⟨optLoopRaw_full s m, (optLoopRaw_no_out_of_range s m).1⟩

example : optLoopRaw (lit "a=1,,b") 7 0 [] = .err (lit "Malformed options: ''") ∧
    optLoopRaw (lit "a=1,b,") 7 0 [] = .err (lit "Malformed options: ''") ∧
    optLoopRaw (lit ",") 2 0 [] = .err (lit "Malformed options: ''") ∧
    optLoopRaw (lit "a=1,b") 6 0 [] = .ok [(lit "a", lit "1"), (lit "b", [])] := by
  repeat rw [lit_ofList]
  decide +kernel

/-- **Every vector yields `Arguments` or a `std::runtime_error`** (the model is a total function into `Except`; every
`throw` of the file throws that type), and the text is one of 16 fixed texts, or one of five prefixes followed by an
element of the vector, or one of the three complaints about a comma-separated piece of an element. -/
theorem Util_CliArgs_parse_total (argv : List Str) :
    (∃ a, parse argv = .ok a) ∨
    ∃ e, parse argv = .error e ∧ (e ∈ fixedErrors ∨ ∃ x, x ∈ argv ∧ (QuotesElement x e ∨ QuotesPiece x e)) := by
  cases h : parse argv with
  | ok a => exact Or.inl ⟨a, rfl⟩
  | error e => exact Or.inr ⟨e, rfl, parse_error_forms h⟩

example : parse [] = .error (lit "Invalid input arguments.") ∧
    parse [lit "-x"] = .error (lit "Invalid flag: -x") ∧
    parse [[], lit "f"] = .error (lit "Unknown command: ") ∧
    parse [lit "load", lit "f", lit "g"] = .error (lit "Invalid command line arguments: g") ∧
    parse [lit "-I", lit "timbuk", lit "-F", lit "timbuk", lit "load", lit "f"] = .error (lit "Invalid use of the '-F' flag.") := by
  repeat rw [lit_ofList]
  decide +kernel

/-- **The command fields of a successful parse**: `help` / `version` (everything after the word or flag is ignored –
also errors), or a command with exactly its number of operands -/
theorem Util_CliArgs_parse_wf {argv : List Str} {a : Arguments} (h : parse argv = .ok a) :
    a.command = .help ∨ a.command = .version ∨
      (a.operands = arity a.command ∧ 1 ≤ a.operands ∧ (a.operands = 1 → a.fileName2 = [])) := by
  obtain ⟨st', hw, hd, rfl⟩ :=
    parse_inv WF ⟨rfl, rfl, rfl, rfl⟩ (fun _ _ _ _ _ _ hw hy => stepArg_WF hw hy) h
  unfold WF at hw
  rw [hd] at hw
  exact hw

example : (parse [lit "-t", lit "--help", lit "-x", lit "-t"]).map (fun a => (a.command, a.showTime)) = .ok (.help, true) ∧
    (parse [lit "incl", lit "-p", lit "a", lit "-s", lit "b", lit "-n"]).map
      (fun a => (a.command, a.operands, a.fileName1, a.fileName2)) = .ok (.incl, 2, lit "a", lit "b") ∧
    (parse [lit "incl", lit "-p", lit "a", lit "-s", lit "b", lit "-n"]).map
      (fun a => (a.pruneUnreachable, a.pruneUseless, a.dontOutputResult)) = .ok (true, true, true) := by
  repeat rw [lit_ofList]
  decide +kernel

/-- `main()`: no arguments at all is NOT an error (short usage, exit code 0) although `parseArguments` would throw on the
empty vector; a parse error prints the short usage and returns 1 -/
example : (mainEarly [] []).map (·.code) = some 0 ∧ (mainEarly [] [lit "-x"]).map (·.code) = some 1 ∧
    (mainEarly [] [lit "load", lit "f"]).isNone = true := by
  repeat rw [lit_ofList]
  decide +kernel

/-! ## (4) the help text against the code -/

/-- **`incl`: the `(default)` marks are right.**  The options the help text lists for `incl` are the seven options with
their two words each; the ones marked `(default)`, read as a map, are exactly the map `CheckInclusion` works with when no
option is given; and every listed `name=value` is accepted. -/
theorem Util_CliArgs_help_incl_defaults :
    (listedOptions (helpSection "incl")).map String.ofList =
      ["alg=antichains", "alg=congr", "dir=down", "dir=up", "sim=yes", "sim=no", "order=depth", "order=breadth",
       "optC=yes", "optC=no", "rec=no", "rec=yes", "timeS=yes", "timeS=no"] ∧
    insertAll ((claimedDefaults (helpSection "incl")).map asPair) [] = inclDefaults [] ∧
    ((listedOptions (helpSection "incl")).map asPair).all (fun kv => (checkInclusionOpts [kv]).toOption.isSome) = true :=
  ⟨help_incl.1, help_incl.2.2.1, help_incl.2.2.2.1⟩

/-- **`rec=no` / `rec=yes`: the descriptions are swapped.**  The text calls `rec=no` the "recursive version … (default)"
and `rec=yes` the "non-recursive version".  The code: `rec=no` (the default, that part is right) CLEARS
`FLAG_MASK_RECURSIVE` and `rec=yes` sets it; in every tree-automata dispatcher the cases with that bit are the recursive
implementations and the cases without it the non-recursive ones; with no options the word is 0 = `ANTICHAINS_UP_NOSIM`. -/
theorem Util_CliArgs_help_rec_swapped :
    ("               'rec=no'   : recursive version of the algorithm (default)\n" ∈ usageCommands ∧
     "               'rec=yes'  : non-recursive version of the algorithm\n" ∈ usageCommands) ∧
    (∀ {opts : Options}, SortedMap opts → ∀ {c : InclChoice}, checkInclusionOpts opts = .ok c →
      (optVal opts "rec" "no" = lit "no" → Vata.Dispatch.has c.word fRec = false) ∧
      (optVal opts "rec" "no" = lit "yes" → Vata.Dispatch.has c.word fRec = true)) ∧
    (Vata.Gen.explDispatch ++ Vata.Gen.tdDispatch ++ Vata.Gen.buDispatch).all (fun c =>
      Vata.Dispatch.has c.word fRec == (c.callee == "downRec" || c.callee == "viaTopDown")) = true ∧
    (checkInclusionOpts []).map (·.word) = .ok 0 :=
  ⟨help_rec_lines, fun hs _ h => coded_rec hs h, rec_bit_is_recursive, default_word.1⟩

/-- **`sim`: the claimed default for finite automata is not the coded one.**  The text marks `dir=down` (tree automata) and
`dir=fwd` (finite automata) as defaults; the option handling of `ComputeSimulation` does not look at the representation and
inserts `dir=down`: without `-o` the relation is `TA_DOWNWARD`; `FA_FORWARD` only with `-o dir=fwd`. -/
theorem Util_CliArgs_help_sim_default :
    (claimedDefaults (helpSection "sim")).map String.ofList = ["dir=down", "dir=fwd"] ∧
    computeSimulationOpts [] = .ok relDown ∧ computeSimulationOpts [(lit "dir", lit "fwd")] = .ok relFwd :=
  ⟨help_sim_defaults, coded_sim_default.1, coded_sim_default.2.1⟩

/-- **`red`: the listed `dir=up` is refused**; `equiv`: both listed options are accepted – and the command then throws
(`Util_CliArgs_equiv_selections_unreachable`) -/
theorem Util_CliArgs_help_red_equiv :
    (listedOptions (helpSection "red")).map String.ofList = ["dir=down", "dir=up"] ∧
    computeReductionOpts [] = .ok () ∧ computeReductionOpts [(lit "dir", lit "up")] = .error (lit "Unimplemented.") ∧
    (listedOptions (helpSection "equiv")).map String.ofList = ["order=depth", "order=breadth"] :=
  ⟨help_red.1, coded_red.1, coded_red.2, help_equiv⟩

/-- the defaults of the flags block (`expl`, `timbuk`) are the initial values of `Arguments` -/
theorem Util_CliArgs_help_flag_defaults :
    ("       Choices: 'expl'   : explicit (default)\n" ∈ usageFlags ∧
     "       Formats: 'timbuk'  : Timbuk format (default)\n" ∈ usageFlags) ∧
    ({} : Arguments).representation = .expl ∧ ({} : Arguments).inputFormat = .timbuk ∧
    ({} : Arguments).outputFormat = .timbuk :=
  ⟨⟨help_flags.1, help_flags.2.1⟩, coded_flag_defaults⟩

/-! ## `performOperation` -/

/-- **Which commands prune.**  `-p` / `-s` act on `load`, `union`, `cmpl`, `isect`, `red` only: for `witness`, `incl`,
`equiv`, `sim` they are accepted and silently ignored; `-s` is "stronger than `-p`" (the usage line `[(-p|-s)]` notwithstanding,
both may be given); `-n` suppresses all standard output. -/
theorem Util_CliArgs_prune (a : Arguments) :
    (prunes a.command = false → ∀ p s, perform { a with pruneUnreachable := p, pruneUseless := s } = perform a) ∧
    (a.pruneUseless = true → ∀ p, perform { a with pruneUnreachable := p } = perform a) ∧
    (a.dontOutputResult = true → (perform a).out = []) :=
  ⟨fun h p s => perform_prune_ignored a h p s, fun h p => perform_useless_wins a h p, perform_no_output a⟩

example : (Command.witness :: Command.incl :: Command.equiv :: Command.sim :: []).all (fun c => !prunes c) = true ∧
    (Command.load :: Command.union :: Command.cmpl :: Command.isect :: Command.red :: []).all prunes = true := by decide

/-- **The `symbolic` option** is examined first; a value other than `yes` / `no` (also the empty one of `-o symbolic`) ends
the run before anything is loaded -/
theorem Util_CliArgs_symbolic (a : Arguments)
    (h : mapGet (withDefault "symbolic" "no" a.options) (lit "symbolic") ≠ lit "yes" ∧
         mapGet (withDefault "symbolic" "no" a.options) (lit "symbolic") ≠ lit "no") :
    perform a = { exc := some (lit "Invalid options: " ++ showOptions (withDefault "symbolic" "no" a.options)) } := by
  unfold perform
  exact if_pos h

example : perform { command := .load, operands := 1, fileName1 := lit "A", options := [(lit "symbolic", [])] } =
    { exc := some (lit "Invalid options: [symbolic -> ]") } := by
  repeat rw [lit_ofList]
  decide +kernel

/-- pruning, the dictionary of the dump, and the simulation set-up of `incl` on the recording automaton (the traces the
harness compares): see `perform_prune_examples`, `perform_dump_examples`, `perform_incl_sim_examples` -/
theorem Util_CliArgs_perform_examples :
    String.ofList (perform { command := .load, operands := 1, fileName1 := lit "A", pruneUnreachable := true, pruneUseless := true }).out =
      "dump(us(ld(A,));A>0)\n" ∧
    String.ofList (perform { command := .cmpl, operands := 1, fileName1 := lit "A" }).out = "dump(cmpl(ld(A,)))\n" ∧
    ((perform { command := .incl, operands := 2, fileName1 := lit "A", fileName2 := lit "B",
                 options := [(lit "alg", lit "congr"), (lit "sim", lit "yes")] }).log.drop 4).map String.ofList =
      ["sim(0,1,2)", "incl(udisj(ri(us(ld(A,))),ri(us(ld(B,)))),ri(us(ld(B,))),17)"] :=
  ⟨perform_prune_examples.2.2.1, perform_dump_examples.1, perform_incl_sim_examples.2⟩

/-!
## not proved / outside the model

* The model's strings are lists of `Char`, one per byte; the comparison of keys in `std::map` is the comparison of
  unsigned bytes (`ltStr`), which is what `std::string::operator<` does.  `argv` strings cannot contain NUL; the model does
  not exclude it (it has no special role).  `argc < 0` (loop not entered → `Invalid input arguments.`) is not modelled.
* `processOption` is modelled with `takeWhile` / `dropWhile` at the first `=` (`find('=')`, `substr(0, equalPos)`,
  `substr(equalPos + 1)`: positions inside the string by construction); `s.find(c, from)` and `s.substr(pos, len)` of the
  `-o` loop are modelled from their specification, `npos - lastPos` as "a length that reaches the end".
* `perform` describes `performOperation` on the RECORDING automaton of the harness (every library call extends a term or
  logs an event).  What the real representations do when called is the subject of the other properties; in particular the
  library calls the CLI makes BEFORE the dispatcher is reached are not modelled here: with `sim=yes` the CLI first calls
  `ComputeSimulation` of the representation, which throws `NotImplementedException` for `bdd-td` and `expl_fa`
  (`bdd_td_tree_aut_sim.cc`, `explicit_finite_sim.cc`), so the words 26 / 30 of the top-down and 16 / 17 of the word-automata
  table, although produced by the option handling (`Util_CliArgs_every_selection_reachable_partial`), cannot be run to
  a verdict from the command line.  This is read off the sources, not proved.
* `executeCommand` (creation of parser / serializer), the time printed by `-t` (only "something was written to stderr"
  is compared), `-V` (parsed, never used) and the real file access (`ReadFile` is replaced in the harness) are outside.
* The help text is compared verbatim at run time (`mo=` token of `help` cases); the theorems about it quote lines / read
  off the quoted `name=value` and the `(default)` marks mechanically (`claimedDefaults`), they do not interpret the prose
  beyond the two quoted `rec` lines.
-/
end Vata.Props
