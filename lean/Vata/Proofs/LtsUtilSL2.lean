import Vata.Proofs.LtsUtilSL

/-!
# `SharedList` as coded refines lists of segments – part 2: worlds, steps, histories

Handles of a `World` = `W.detached :: W.slots`, of a value `A` = `a.detached :: a.slots` (index `0` = the detached list,
index `s + 1` = slot `s`).  `Inv W a` = `P.InvG` for these handle lists with SOME set of live ids and SOME map id ↦ address.

What the invariant means is stated without the ghost data (reference count = number of referrers, the free lists never
hold a live object, `release` hands exactly the unreferenced prefix to the deleter).  Then: every call inside the
discipline refines the step on the value (for `release` this is part of `release_exact`), hence every history does.
-/

namespace Vata.LU.SL
open P

/-- the invariant + the correspondence with the value -/
def Inv (W : World) (a : A) : Prop :=
  ∃ live f, InvG W.w (W.detached :: W.slots) (a.detached :: a.slots) a.nextId live f

namespace P

theorem at'_replicate {α : Type} (n k : Nat) : at' (List.replicate n (none : Option α)) k = none := by
  rw [at'_eq, List.getElem?_replicate]; split <;> rfl

theorem getD_eq_at' {α : Type} (l : List (Option α)) (s : Nat) : l.getD s none = at' l s := rfl

end P

theorem inv_mk0 (n : Nat) : Inv (World.mk0 n) (A.mk0 n) := by
  have h1 : ∀ (α : Type) (k : Nat), at' ((none : Option α) :: List.replicate n none) k = none := by
    intro α k
    cases k with
    | zero => rfl
    | succ k => exact at'_replicate n k
  exact ⟨[], id,
    { len := by simp [World.mk0, A.mk0]
      rep := fun k => by
        show RepH _ _ (at' (none :: List.replicate n none) k) (at' (none :: List.replicate n none) k)
        rw [h1, h1]; rfl
      nd := List.nodup_nil
      lt := fun _ h => nomatch h
      inj := fun _ h => nomatch h
      sub := fun k L hL => by cases (h1 _ k).symm.trans hL
      ndl := fun k L hL => by cases (h1 _ k).symm.trans hL
      reach := fun _ h => nomatch h
      rc := fun _ h => nomatch h
      node := fun _ h => nomatch h
      subinj := fun _ h => nomatch h
      free := ⟨List.nodup_nil, (fun _ h => nomatch h), (fun _ h => nomatch h), List.nodup_nil, (fun _ h => nomatch h)⟩ }⟩

example : Inv (World.mk0 3) (A.mk0 3) := inv_mk0 3

theorem inv_of {W : World} {a : A} {live : List Nat} {f : Nat → Nat}
    (h : InvG W.w (W.detached :: W.slots) (a.detached :: a.slots) a.nextId live f) : Inv W a := ⟨live, f, h⟩

namespace P

theorem any_id_iff (r : RemList) (id : Nat) : r.any (fun sg => sg.1 == id) = true ↔ id ∈ ids r := by
  simp only [List.any_eq_true, beq_iff_eq, ids, List.mem_map]

theorem sharedId_iff (a : A) (s id : Nat) :
    sharedId a s id = true ↔ elsewhere (a.detached :: a.slots) (s + 1) id := by
  unfold sharedId elsewhere
  rw [Bool.or_eq_true, List.any_eq_true]
  constructor
  · rintro (⟨s', h1, h2⟩ | h)
    · rw [Bool.and_eq_true] at h2
      obtain ⟨h3, h4⟩ := h2
      rw [getD_eq_at'] at h4
      cases ho : at' a.slots s' with
      | none => rw [ho] at h4; simp at h4
      | some r =>
        rw [ho] at h4
        refine ⟨s' + 1, r, ?_, by simpa using ho, (any_id_iff r id).1 h4⟩
        simp at h3
        omega
    · cases ho : a.detached with
      | none => rw [ho] at h; simp at h
      | some r =>
        rw [ho] at h
        exact ⟨0, r, by omega, by simp, (any_id_iff r id).1 h⟩
  · rintro ⟨k', L, hne, hL, hid⟩
    cases k' with
    | zero =>
      right
      simp only [at'_cons_zero] at hL
      rw [hL]
      exact (any_id_iff L id).2 hid
    | succ s' =>
      left
      simp only [at'_cons_succ] at hL
      refine ⟨s', List.mem_range.2 (at'_lt hL), ?_⟩
      rw [Bool.and_eq_true, getD_eq_at', hL]
      refine ⟨?_, (any_id_iff L id).2 hid⟩
      simp
      omega

theorem chain_spec {w : W} {f : Nat → Nat} {h : Option Nat} {L : RemList} (hr : Rep w f h L)
    {fuel : Nat} (hf : L.length ≤ fuel) : chain fuel w h = some ((ids L).map f) := by
  induction L generalizing h fuel with
  | nil =>
    rw [Rep_none_iff.1 hr]
    cases fuel <;> simp [chain]
  | cons sg r ih =>
    obtain ⟨rfl, _, hrest⟩ := Rep_cons.1 hr
    cases fuel with
    | zero => simp at hf
    | succ fuel =>
      simp only [chain]
      rw [ih hrest (by simp at hf; omega)]
      simp

theorem chain_none (fuel : Nat) (w : W) : chain fuel w none = some [] := by
  cases fuel <;> simp [chain]

theorem chain_same {w w0 : W} (hn : w0.nodes = w.nodes) (fuel : Nat) (h : Option Nat) :
    chain fuel w0 h = chain fuel w h := by
  induction fuel generalizing h with
  | zero => cases h <;> simp [chain]
  | succ fuel ih =>
    cases h with
    | none => simp [chain]
    | some e => simp only [chain, hn, ih]

/-- the deleter receives the longest prefix of the chain whose nodes have count 1 (counts as they were before the call) -/
theorem release_takeWhile (fuel : Nat) :
    ∀ {w w0 : W} {h : Option Nat} {w' : W} {out C : List Nat}, w0.nodes = w.nodes →
      release fuel w h = some (w', out) → chain fuel w0 h = some C →
      out = C.takeWhile (fun n => (w0.nodes.get n).rc == 1) := by
  induction fuel with
  | zero =>
    intro w w0 h w' out C hn hr hc
    cases h with
    | none =>
      simp [release] at hr; simp [chain] at hc
      rw [hr.2, hc]; rfl
    | some e => simp [release] at hr
  | succ fuel ih =>
    intro w w0 h w' out C hn hr hc
    cases h with
    | none =>
      simp [release] at hr; simp [chain] at hc
      rw [hr.2, hc]; rfl
    | some e =>
      simp only [chain, Option.map_eq_some_iff] at hc
      obtain ⟨C', hc', rfl⟩ := hc
      simp only [release] at hr
      split at hr
      · rename_i hrc
        split at hr
        · simp at hr
        · rename_i v hv
          split at hr
          · simp at hr
          · rename_i w1 l hrec
            simp only [Option.some.injEq, Prod.mk.injEq] at hr
            obtain ⟨_, rfl⟩ := hr
            have := ih (w0 := w0) (w := { w with vfree := v :: w.vfree, nfree := e :: w.nfree }) hn hrec
              (by rw [← hn]; exact hc')
            rw [List.takeWhile_cons]
            simp [hn, hrc, this]
      · rename_i hrc
        simp only [Option.some.injEq, Prod.mk.injEq] at hr
        rw [List.takeWhile_cons]
        simp [hn, hrc, hr.2.symm]

end P

def OnChain (W : World) (n : Nat) : Prop :=
  ∃ h ∈ W.detached :: W.slots, ∃ C, chain W.w.nnext W.w h = some C ∧ n ∈ C

def inSlots (a : A) (id : Nat) : Bool :=
  a.slots.any (fun o => match o with | none => false | some r => r.any (fun sg => sg.1 == id))

namespace P

theorem inSlots_iff (a : A) (id : Nat) : inSlots a id = true ↔ elsewhere (a.detached :: a.slots) 0 id := by
  unfold inSlots elsewhere
  rw [List.any_eq_true]
  constructor
  · rintro ⟨o, ho, h⟩
    cases o with
    | none => simp at h
    | some r =>
      obtain ⟨s', hs'⟩ := mem_at' ho
      exact ⟨s' + 1, r, by omega, by simpa using hs', (any_id_iff r id).1 h⟩
  · rintro ⟨k', L, hne, hL, hid⟩
    cases k' with
    | zero => exact absurd rfl hne
    | succ s' =>
      simp only [at'_cons_succ] at hL
      exact ⟨some L, at'_mem hL, (any_id_iff L id).2 hid⟩

theorem onChain_iff {W : World} {a : A} {live : List Nat} {f : Nat → Nat}
    (I : InvG W.w (W.detached :: W.slots) (a.detached :: a.slots) a.nextId live f) (n : Nat) :
    OnChain W n ↔ n ∈ live.map f := by
  constructor
  · rintro ⟨h, hh, C, hC, hn⟩
    cases h with
    | none => rw [chain_none] at hC; simp at hC; rw [hC] at hn; simp at hn
    | some n' =>
      obtain ⟨k, hk⟩ := mem_at' hh
      obtain ⟨i, s, r, hka, _⟩ := I.head hk
      have hr := I.rep k
      rw [hk, hka] at hr
      rw [chain_spec hr.2 (I.len_le hka)] at hC
      rw [← Option.some.inj hC] at hn
      obtain ⟨j, hj, rfl⟩ := List.mem_map.1 hn
      exact List.mem_map.2 ⟨j, I.sub k _ hka j hj, rfl⟩
  · intro hn
    obtain ⟨i, hi, rfl⟩ := List.mem_map.1 hn
    obtain ⟨k, L, hk, hiL⟩ := I.reach i hi
    obtain ⟨n', hh⟩ := I.head_some hk
    have hr := I.rep k
    rw [hk, hh] at hr
    exact ⟨some n', at'_mem hh, _, chain_spec hr.2 (I.len_le hk), List.mem_map.2 ⟨i, hiL, rfl⟩⟩

end P

/-- reference count = number of referrers: the nodes on the chains form a duplicate-free list `liveN`, and the stored
count of each of them is the number of handles pointing to it plus the number of live nodes whose `next_` points to it -/
theorem rc_eq_referrers {W : World} {a : A} (I : Inv W a) :
    ∃ liveN : List Nat, liveN.Nodup ∧ (∀ n, n ∈ liveN ↔ OnChain W n) ∧
      ∀ n ∈ liveN, (W.w.nodes.get n).rc =
        (W.detached :: W.slots).count (some n) + liveN.countP (fun m => (W.w.nodes.get m).next == some n) := by
  obtain ⟨live, f, I⟩ := I
  refine ⟨live.map f, nodup_map_of_injOn I.nd I.inj, fun n => (onChain_iff I n).symm, ?_⟩
  intro n hn
  obtain ⟨i, hi, rfl⟩ := List.mem_map.1 hn
  rw [I.rc i hi, List.countP_map]
  rfl

/-- the free lists never hold a live object (and hold nothing twice): a node on a chain is not in the node store, its
vector exists, is not in the vector store and is not empty; two live nodes never share a vector -/
theorem free_not_live {W : World} {a : A} (I : Inv W a) :
    W.w.nfree.Nodup ∧ W.w.vfree.Nodup ∧ (∀ n ∈ W.w.nfree, n < W.w.nnext) ∧ (∀ v ∈ W.w.vfree, v < W.w.vnext) ∧
    (∀ n, OnChain W n → n < W.w.nnext ∧ n ∉ W.w.nfree ∧
      ∃ v, (W.w.nodes.get n).sub = some v ∧ v < W.w.vnext ∧ v ∉ W.w.vfree ∧ W.w.vecs.get v ≠ []) ∧
    (∀ n m, OnChain W n → OnChain W m → (W.w.nodes.get n).sub = (W.w.nodes.get m).sub → n = m) := by
  obtain ⟨live, f, I⟩ := I
  refine ⟨I.free.nnd, I.free.vnd, I.free.nlt, I.free.vlt, ?_, ?_⟩
  · intro n hn
    obtain ⟨i, hi, rfl⟩ := List.mem_map.1 ((onChain_iff I n).1 hn)
    exact I.node i hi
  · intro n m hn hm h
    obtain ⟨i, hi, rfl⟩ := List.mem_map.1 ((onChain_iff I n).1 hn)
    obtain ⟨j, hj, rfl⟩ := List.mem_map.1 ((onChain_iff I m).1 hm)
    rw [I.subinj i hi j hj h]

/-- one renaming `f` of ids to addresses, injective on the ids in use, maps every value
list to the chain behind its handle, and the vectors hold the segments -/
theorem inv_correspondence {W : World} {a : A} (I : Inv W a) :
    W.slots.length = a.slots.length ∧
    ∃ f : Nat → Nat,
      (∀ k, (at' (W.detached :: W.slots) k = none ↔ at' (a.detached :: a.slots) k = none) ∧
        chain W.w.nnext W.w (at' (W.detached :: W.slots) k) =
          some ((ids ((at' (a.detached :: a.slots) k).getD [])).map f)) ∧
      (∀ k k' L L', at' (a.detached :: a.slots) k = some L → at' (a.detached :: a.slots) k' = some L' →
        ∀ i ∈ ids L, ∀ j ∈ ids L', f i = f j → i = j) ∧
      (∀ k L, at' (a.detached :: a.slots) k = some L → L ≠ [] ∧ (ids L).Nodup ∧ ∀ sg ∈ L, sg.1 < a.nextId ∧
        ∃ v, (W.w.nodes.get (f sg.1)).sub = some v ∧ W.w.vecs.get v = sg.2) := by
  obtain ⟨live, f, I⟩ := I
  refine ⟨by simpa using I.len, f, ?_, ?_, ?_⟩
  · intro k
    have hr := I.rep k
    cases ho : at' (a.detached :: a.slots) k with
    | none =>
      rw [ho] at hr
      have : at' (W.detached :: W.slots) k = none := hr
      rw [this, chain_none]
      simp
    | some L =>
      rw [ho] at hr
      refine ⟨?_, by simpa using chain_spec hr.2 (I.len_le ho)⟩
      constructor
      · intro h; rw [h] at hr; exact absurd (Rep_none hr.2) hr.1
      · intro h; simp at h
  · intro k k' L L' hL hL' i hi j hj
    exact I.inj i (I.sub k L hL i hi) j (I.sub k' L' hL' j hj)
  · intro k L hL
    have hr := I.rep k
    rw [hL] at hr
    refine ⟨hr.1, I.ndl k L hL, ?_⟩
    intro sg hsg
    obtain ⟨L1, L2, rfl⟩ := List.append_of_mem hsg
    obtain ⟨hi, hrep⟩ := I.occ (i := sg.1) (s := sg.2) hL
    rw [Rep_some_cons] at hrep
    exact ⟨I.lt _ hi, hrep.2.1⟩

/-- `release` gives to the deleter EXACTLY THE PREFIX OF THE CHAIN REFERENCED BY NOTHING ELSE: `out` is the longest
prefix of the detached chain whose nodes have count 1, and it consists of the nodes of exactly those segments of the
detached value list whose id occurs behind no slot (these segments form a prefix `L1`; every later id does occur) -/
theorem release_exact {W : World} {a : A} (I : Inv W a) {L : RemList} (hL : a.detached = some L) :
    ∃ W' out C, step W .release = some (W', out) ∧ Inv W' (aStep a .release) ∧
      chain W.w.nnext W.w W.detached = some C ∧
      out = C.takeWhile (fun n => (W.w.nodes.get n).rc == 1) ∧
      ∃ L1 L2, L = L1 ++ L2 ∧ out = C.take L1.length ∧
        (∀ sg ∈ L1, inSlots a sg.1 = false) ∧ (∀ sg ∈ L2, inSlots a sg.1 = true) ∧
        (∀ n, OnChain W' n ↔ OnChain W n ∧ n ∉ out) := by
  obtain ⟨live, f, I⟩ := I
  have hL0 : at' (a.detached :: a.slots) 0 = some L := by simpa using hL
  have hr := I.rep 0
  simp only [at'_cons_zero, hL] at hr
  have hne : L ≠ [] := hr.1
  obtain ⟨w', out, live', h1, h2, L1, L2, h3, h4, h5, h6, h7⟩ :=
    release_spec (f := f) (nid := a.nextId) 0 L I (by rw [hL0, optL_ne hne]) (I.len_le hL0)
  simp only [at'_cons_zero] at h1
  obtain ⟨l, hl⟩ : ∃ l, W.detached = some l := I.head_some hL0
  have hC := chain_spec hr.2 (I.len_le hL0)
  have I'' : InvG w' (none :: W.slots) (none :: a.slots) a.nextId live' f := by simpa using h2
  have htw := release_takeWhile W.w.nnext rfl h1 hC
  rw [hl] at h1
  refine ⟨⟨w', W.slots, none⟩, out, _, ?_, inv_of I'', hC, htw, L1, L2, h3, ?_, ?_, ?_, ?_⟩
  · simp only [step, hl, h1, Option.map_some]
  · rw [h4, h3]
    simp only [ids_append, List.map_append]
    rw [List.take_left']
    simp [ids]
  · intro sg hsg
    have := h5 sg.1 (List.mem_map.2 ⟨sg, hsg, rfl⟩)
    rw [← inSlots_iff] at this
    simpa using this
  · intro sg hsg
    exact (inSlots_iff a sg.1).2 (h6 sg.1 (List.mem_map.2 ⟨sg, hsg, rfl⟩))
  · intro n
    rw [onChain_iff (W := ⟨w', W.slots, none⟩) (a := ⟨a.slots, none, a.nextId⟩) I'' n, onChain_iff I n, h4]
    constructor
    · intro hn
      obtain ⟨j, hj, rfl⟩ := List.mem_map.1 hn
      obtain ⟨hj1, hj2⟩ := (h7 j).1 hj
      refine ⟨List.mem_map.2 ⟨j, hj1, rfl⟩, ?_⟩
      intro hm
      obtain ⟨j', hj', e⟩ := List.mem_map.1 hm
      have hj'l : j' ∈ live := I.sub 0 L hL0 j' (by rw [h3]; simp [hj'])
      exact hj2 (I.inj j' hj'l j hj1 e ▸ hj')
    · rintro ⟨hn, hno⟩
      obtain ⟨j, hj, rfl⟩ := List.mem_map.1 hn
      refine List.mem_map.2 ⟨j, (h7 j).2 ⟨hj, ?_⟩, rfl⟩
      intro hj1
      exact hno (List.mem_map.2 ⟨j, hj1, rfl⟩)

/-- the call `op` is defined on the class as coded, re-establishes the invariant for the value after the abstract step,
and returns what the value says -/
def Refines (W : World) (a : A) (op : Op) : Prop :=
  ∃ W' out, step W op = some (W', out) ∧ Inv W' (aStep a op) ∧ (∀ e, aOut a op = some e → out = e)

theorem append_refines {W : World} {a : A} (I : Inv W a) (s x : Nat) (hok : ok a (.append s x) = true) :
    Refines W a (.append s x) := by
  unfold Refines
  obtain ⟨live, f, I⟩ := I
  have hs' : s < W.slots.length := by rw [Nat.succ.inj I.len]; simpa [ok] using hok
  have hk : s + 1 < (W.detached :: W.slots).length := Nat.succ_lt_succ hs'
  simp only [step, hs', if_true, getD_eq_at', aStep, aOut]
  -- branches 1 (empty slot) and 2 (shared head): a new node in front of whatever the slot holds
  obtain ⟨v, _, hA⟩ := allocNode_add I.free
  obtain ⟨w', hp, hadd⟩ := hA.append (at' W.slots s) x
  have I' := hadd.inv I hk rfl (by simp)
  cases hh : at' W.slots s with
  | none =>
    have hha : at' (a.detached :: a.slots) (s + 1) = none := I.head_none hh
    rw [hha] at I'
    rw [hh] at hp
    simp only [append, hp, Option.map_some, show at' a.slots s = none from hha]
    exact ⟨_, _, rfl, inv_of I', fun e he => by simpa using he⟩
  | some l =>
    have hh' : at' (W.detached :: W.slots) (s + 1) = some l := hh
    obtain ⟨i, sg, r, hha, hl, hi, ⟨v0, hv0, _⟩, _⟩ := I.head hh'
    have hha' : at' a.slots s = some ((i, sg) :: r) := hha
    subst hl
    have hkey : 1 < (W.w.nodes.get (f i)).rc ↔ sharedId a s i = true :=
      (I.key hh' hi).trans (sharedId_iff a s i).symm
    by_cases hrc : 1 < (W.w.nodes.get (f i)).rc
    · rw [hha] at I'
      rw [hh] at hp
      simp only [append, gt_iff_lt, hrc, if_true, hp, Option.map_some, hha', hkey.1 hrc]
      exact ⟨_, _, rfl, inv_of I', fun e he => by simpa using he⟩
    · -- branch 3: unshared head, push in place
      have hsh : ¬ sharedId a s i = true := fun h => hrc (hkey.2 h)
      have I' := push_inv (x := x) I hha hv0
        (fun h => hsh ((sharedId_iff a s i).2 h))
      have hp : pushBack W.w (f i) x = some (pushW W.w v0 x) := by simp only [pushBack, hv0]; rfl
      simp only [append, gt_iff_lt, hrc, if_false, hp, Option.map_some, hha', hsh]
      refine ⟨_, _, rfl, ?_, fun e he => by simpa using he⟩
      rw [set_at'_self hh]
      exact inv_of I'

theorem copy_refines {W : World} {a : A} (I : Inv W a) (s t : Nat) (hok : ok a (.copy s t) = true) :
    Refines W a (.copy s t) := by
  unfold Refines
  obtain ⟨live, f, I⟩ := I
  simp only [ok, Bool.and_eq_true, decide_eq_true_eq, getD_eq_at'] at hok
  obtain ⟨⟨⟨hs, ht⟩, hss⟩, htn⟩ := hok
  have hlen : W.slots.length = a.slots.length := Nat.succ.inj I.len
  rw [← hlen] at hs ht
  obtain ⟨L, hL⟩ := Option.isSome_iff_exists.1 hss
  obtain ⟨l, hl⟩ := I.head_some (k := s + 1) hL
  have I' := copy_inv I hl (Nat.succ_lt_succ ht) (I.head_none' (k := t + 1) (Option.isNone_iff_eq_none.1 htn))
  simp only [step, hs, ht, and_self, if_true, getD_eq_at', show at' W.slots s = some l from hl, aStep, aOut]
  exact ⟨_, _, rfl, inv_of I', fun e he => by simpa using he⟩

theorem newList_refines {W : World} {a : A} (I : Inv W a) (s : Nat) (l : List Nat) (hok : ok a (.newList s l) = true) :
    Refines W a (.newList s l) := by
  unfold Refines
  obtain ⟨live, f, I⟩ := I
  simp only [ok, Bool.and_eq_true, decide_eq_true_eq, getD_eq_at'] at hok
  obtain ⟨⟨hs, hsn⟩, hl⟩ := hok
  have hlen : W.slots.length = a.slots.length := Nat.succ.inj I.len
  rw [← hlen] at hs
  have hsn' : at' (a.detached :: a.slots) (s + 1) = none := Option.isNone_iff_eq_none.1 hsn
  have I' := (newList_add I.free l).inv I (Nat.succ_lt_succ hs) (I.head_none' hsn') (by simpa using hl)
  rw [hsn'] at I'
  simp only [step, hs, if_true, aStep, aOut]
  exact ⟨_, _, rfl, inv_of I', fun e he => by simpa using he⟩

theorem iter_refines {W : World} {a : A} (I : Inv W a) (s : Nat) (hok : ok a (.iter s) = true) :
    Refines W a (.iter s) := by
  unfold Refines
  obtain ⟨live, f, I⟩ := I
  simp only [ok, decide_eq_true_eq] at hok
  have hs' : s < W.slots.length := by rw [Nat.succ.inj I.len]; exact hok
  have hit : iter W.w.nnext W.w (at' W.slots s) = _ := I.iter_eq (s + 1)
  simp only [step, hs', if_true, getD_eq_at', hit, Option.map_some, aStep, aOut]
  exact ⟨_, _, rfl, inv_of I, fun e he => Option.some.inj he⟩

theorem take_refines {W : World} {a : A} (I : Inv W a) (s : Nat) (hok : ok a (.take s) = true) :
    Refines W a (.take s) := by
  unfold Refines
  obtain ⟨live, f, I⟩ := I
  simp only [ok, Bool.and_eq_true, decide_eq_true_eq, getD_eq_at'] at hok
  obtain ⟨⟨hs, hss⟩, hdn⟩ := hok
  have hs' : s < W.slots.length := by rw [Nat.succ.inj I.len]; exact hs
  obtain ⟨L, hL⟩ := Option.isSome_iff_exists.1 hss
  have hcd : W.detached = none := I.head_none' (k := 0) (Option.isNone_iff_eq_none.1 hdn)
  obtain ⟨l, hl⟩ := I.head_some (k := s + 1) hL
  have hit : iter W.w.nnext W.w (at' W.slots s) = _ := I.iter_eq (s + 1)
  rw [show at' W.slots s = some l from hl] at hit
  have I' := move_inv (k2 := 0) I hl (Nat.succ_pos _) hcd
  have hc : s < W.slots.length ∧ W.detached.isNone = true := ⟨hs', by rw [hcd]; rfl⟩
  simp only [step, hc, and_self, if_true, getD_eq_at', show at' W.slots s = some l from hl, hit, Option.map_some,
    aStep, aOut]
  exact ⟨_, _, rfl, inv_of I', fun e he => Option.some.inj he⟩

theorem release_refines {W : World} {a : A} (I : Inv W a) (hok : ok a .release = true) :
    Refines W a .release := by
  obtain ⟨L, hL⟩ := Option.isSome_iff_exists.1 hok
  obtain ⟨W', out, _, h1, h2, _⟩ := release_exact I hL
  exact ⟨W', out, h1, h2, fun e he => nomatch he⟩

theorem step_refines {W : World} {a : A} (I : Inv W a) (op : Op) (hok : ok a op = true) : Refines W a op := by
  cases op with
  | append s x => exact append_refines I s x hok
  | copy s t => exact copy_refines I s t hok
  | newList s l => exact newList_refines I s l hok
  | take s => exact take_refines I s hok
  | release => exact release_refines I hok
  | iter s => exact iter_refines I s hok


def run (W : World) : List Op → Option (World × List (List Nat))
  | [] => some (W, [])
  | op :: ops =>
    match step W op with
    | none => none
    | some (W', o) => (run W' ops).map (fun r => (r.1, o :: r.2))

def aRun (a : A) : List Op → A
  | [] => a
  | op :: ops => aRun (aStep a op) ops

def okAll (a : A) : List Op → Bool
  | [] => true
  | op :: ops => ok a op && okAll (aStep a op) ops

def aOuts (a : A) : List Op → List (Option (List Nat))
  | [] => []
  | op :: ops => aOut a op :: aOuts (aStep a op) ops

def Agree : List (List Nat) → List (Option (List Nat)) → Prop
  | [], [] => True
  | o :: outs, p :: pred => (∀ e, p = some e → o = e) ∧ Agree outs pred
  | _, _ => False

theorem run_refines_from {W : World} {a : A} (I : Inv W a) (ops : List Op) (hok : okAll a ops = true) :
    ∃ W' outs, run W ops = some (W', outs) ∧ Inv W' (aRun a ops) ∧ Agree outs (aOuts a ops) := by
  induction ops generalizing W a with
  | nil => exact ⟨W, [], rfl, I, trivial⟩
  | cons op ops ih =>
    simp only [okAll, Bool.and_eq_true] at hok
    obtain ⟨W1, o, h1, h2, h3⟩ := step_refines I op hok.1
    obtain ⟨W', outs, h4, h5, h6⟩ := ih h2 hok.2
    refine ⟨W', o :: outs, ?_, h5, h3, h6⟩
    simp only [run, h1, h4, Option.map_some]

/-- every history inside the discipline, started from empty slots, runs on the class as coded without
reaching undefined behaviour, ends in a world that satisfies the invariant for the value computed on lists of segments,
and every observable result is the one the value predicts -/
theorem run_refines (n : Nat) (ops : List Op) (hok : okAll (A.mk0 n) ops = true) :
    ∃ W' outs, run (World.mk0 n) ops = some (W', outs) ∧ Inv W' (aRun (A.mk0 n) ops) ∧
      Agree outs (aOuts (A.mk0 n) ops) :=
  run_refines_from (inv_mk0 n) ops hok

namespace Ex

/-- sharing, a new node in front of a shared head, push in place, release that frees a prefix and stops at a shared
node, recycling of node and vector -/
def ops : List Op :=
  [.newList 0 [1, 2], .copy 0 1, .append 0 5, .append 0 6, .append 1 7, .iter 0, .take 0, .release,
   .iter 1, .append 2 8, .append 1 9, .take 1, .release, .append 0 3, .take 2, .release]

example : okAll (A.mk0 3) ops = true := by decide +kernel

example : aOuts (A.mk0 3) ops =
    [some [], some [], some [0], some [0], some [0], some [5, 6, 1, 2], some [5, 6, 1, 2], none,
     some [7, 1, 2], some [1], some [0], some [7, 9, 1, 2], none, some [1], some [8], none] := by decide +kernel

example : ok (A.mk0 3) (.append 1 4) = true := by decide

end Ex


theorem reachable_inv {n : Nat} {ops : List Op} {W : World} {outs : List (List Nat)}
    (hok : okAll (A.mk0 n) ops = true) (hrun : run (World.mk0 n) ops = some (W, outs)) :
    Inv W (aRun (A.mk0 n) ops) ∧ Agree outs (aOuts (A.mk0 n) ops) := by
  obtain ⟨W', outs', h1, h2, h3⟩ := run_refines n ops hok
  rw [hrun] at h1
  simp only [Option.some.injEq, Prod.mk.injEq] at h1
  rw [h1.1, h1.2]
  exact ⟨h2, h3⟩

theorem reachable_rc {n : Nat} {ops : List Op} {W : World} {outs : List (List Nat)}
    (hok : okAll (A.mk0 n) ops = true) (hrun : run (World.mk0 n) ops = some (W, outs)) :
    ∃ liveN : List Nat, liveN.Nodup ∧ (∀ m, m ∈ liveN ↔ OnChain W m) ∧
      ∀ m ∈ liveN, (W.w.nodes.get m).rc =
        (W.detached :: W.slots).count (some m) + liveN.countP (fun m' => (W.w.nodes.get m').next == some m) :=
  rc_eq_referrers (reachable_inv hok hrun).1

theorem reachable_free {n : Nat} {ops : List Op} {W : World} {outs : List (List Nat)}
    (hok : okAll (A.mk0 n) ops = true) (hrun : run (World.mk0 n) ops = some (W, outs)) :
    W.w.nfree.Nodup ∧ W.w.vfree.Nodup ∧
    (∀ m, OnChain W m → m ∉ W.w.nfree ∧ ∃ v, (W.w.nodes.get m).sub = some v ∧ v ∉ W.w.vfree) := by
  obtain ⟨h1, h2, _, _, h5, _⟩ := free_not_live (reachable_inv hok hrun).1
  refine ⟨h1, h2, ?_⟩
  intro m hm
  obtain ⟨_, h6, v, h7, _, h8, _⟩ := h5 m hm
  exact ⟨h6, v, h7, h8⟩

namespace Ex

example : ∃ W' out, step (World.mk0 3) (.append 1 4) = some (W', out) ∧
    Inv W' (aStep (A.mk0 3) (.append 1 4)) ∧ (∀ e, aOut (A.mk0 3) (.append 1 4) = some e → out = e) :=
  step_refines (inv_mk0 3) _ (by decide)

example : ∃ W' outs, run (World.mk0 3) ops = some (W', outs) ∧ Inv W' (aRun (A.mk0 3) ops) ∧
    Agree outs (aOuts (A.mk0 3) ops) :=
  run_refines 3 ops (by decide +kernel)

/-- what the class as coded returns on `ops` (flags, iterated elements, and the NODE ADDRESSES handed to the deleter):
the first `release` frees node 1 only (node 0 is still behind slot 1, its count drops from 2 to 1), the second one frees
nodes 2 and 0, `append 2 8` and `append 0 3` get the recycled nodes 1 and 0 -/
example : (run (World.mk0 3) ops).map (·.2) =
    some [[], [], [0], [0], [0], [5, 6, 1, 2], [5, 6, 1, 2], [1], [7, 1, 2], [1], [0], [7, 9, 1, 2], [2, 0], [1], [8],
      [1]] := by decide +kernel

/-- non-vacuity of `release_exact` (and of `rc_eq_referrers`, `free_not_live`): after the first seven calls a list of
two segments is detached, the older one is still behind slot 1 -/
example : ∃ W, Inv W (aRun (A.mk0 3) (ops.take 7)) ∧
    (aRun (A.mk0 3) (ops.take 7)).detached = some [(1, [5, 6]), (0, [1, 2])] ∧
    inSlots (aRun (A.mk0 3) (ops.take 7)) 1 = false ∧ inSlots (aRun (A.mk0 3) (ops.take 7)) 0 = true := by
  obtain ⟨W, _, _, h, _⟩ := run_refines 3 (ops.take 7) (by decide +kernel)
  exact ⟨W, h, by decide +kernel, by decide +kernel, by decide +kernel⟩

end Ex

end Vata.LU.SL
