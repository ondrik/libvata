import Vata.Proofs.LtsEngineSplit
/-!
# The LTS simulation engine: a whole `split` / `fastSplit` phase

A generic fold (`gStep`) over the blocks hit by the remove list, of which `split` and `fastSplit` are instances; after the
phase every block is inside or disjoint from the remove list, the mask marks the blocks inside, states outside the remove
list keep their block index, and the new state refines the old one.
-/
namespace Vata.LE
open Vata.L

/-- one modified block: `trySplit`, then `step` when it splits -/
def gStep (step : Eng → Nat → List Nat → List Nat → Eng) (part0 : List (List Nat)) (rm : List Nat)
    (em : Eng × List Nat) (b : Nat) : Eng × List Nat :=
  match trySplit (em.1.block b) (tmpOf part0 rm b) with
  | none => (em.1, b :: em.2)
  | some (rest, new) => (step em.1 b rest new, em.1.part.length :: em.2)

/-- Inside a phase that started in `e0` with the remove list `rm`: `done` are the blocks of the work list handled so far, `em` is
state and mask, `par` sends a block to the block of `e0` it lies in.  `hkeep`: a block not yet handled is as it was in `e0` (which is
why `gStep` may cut it along `tmpOf`, computed from the partition of `e0`); `hstay`: a state outside `rm` keeps the index of its
block; `huni`: a handled or new block lies inside `rm` or is disjoint from it; `hmask`: the mask lists those inside. -/
structure PhaseInv (L : LTS) (e0 : Eng) (rm : List Nat) (done : List Nat) (em : Eng × List Nat) (par : Nat → Nat) :
    Prop where
  wf : WF L em.1
  rs : RefineS L e0 em.1 par
  hparid : ∀ i, i < e0.part.length → par i = i
  hkeep : ∀ i, i < e0.part.length → i ∉ done → em.1.block i = e0.block i
  hstay : ∀ q, q < L.n → q ∉ rm → blockOf em.1.part q = blockOf e0.part q
  huni : ∀ i, i < em.1.part.length → (i ∈ done ∨ e0.part.length ≤ i) →
    (∀ q, q ∈ em.1.block i → q ∈ rm) ∨ (∀ q, q ∈ em.1.block i → q ∉ rm)
  hmask : ∀ i, i ∈ em.2 ↔
    (i < em.1.part.length ∧ (i ∈ done ∨ e0.part.length ≤ i) ∧ ∀ q, q ∈ em.1.block i → q ∈ rm)

/-- the invariant only looks at partition, relation and insets of the state -/
theorem PhaseInv.congr {L : LTS} {e0 e e' : Eng} {rm done m : List Nat} {par : Nat → Nat} (h1 : e'.part = e.part)
    (h2 : e'.rel = e.rel) (h3 : e'.inset = e.inset) (inv : PhaseInv L e0 rm done (e, m) par) :
    PhaseInv L e0 rm done (e', m) par := by
  have w := inv.wf.congr h1 h2 h3
  have rs := inv.rs.congr_right h1 h2
  obtain ⟨p, r, s, c, m', q, n⟩ := e
  obtain ⟨p', r', s', c', m'', q', n'⟩ := e'
  cases h1
  exact ⟨w, rs, inv.hparid, inv.hkeep, inv.hstay, inv.huni, inv.hmask⟩

theorem mem_tmpOf {L : LTS} {e0 : Eng} (w0 : WF L e0) {rm : List Nat} (hrm : ∀ q, q ∈ rm → q < L.n) (b q : Nat) :
    q ∈ tmpOf e0.part rm b ↔ q ∈ rm ∧ q ∈ e0.block b := by
  simp only [tmpOf, List.mem_filter, beq_iff_eq]
  constructor
  · rintro ⟨h1, h2⟩
    exact ⟨h1, h2 ▸ (w0.blockOf_mem (hrm q h1)).2⟩
  · rintro ⟨h1, h2⟩
    exact ⟨h1, w0.blockOf_eq h2⟩

theorem mem_modifiedBlocks {L : LTS} {e0 : Eng} (w0 : WF L e0) {rm : List Nat} (hrm : ∀ q, q ∈ rm → q < L.n) (b : Nat) :
    b ∈ modifiedBlocks e0.part rm ↔ ∃ q, q ∈ rm ∧ q ∈ e0.block b := by
  simp only [modifiedBlocks, mem_dedupF, List.mem_map, List.not_mem_nil, not_false_eq_true, and_true]
  constructor
  · rintro ⟨q, h1, h2⟩
    exact ⟨q, h1, h2 ▸ (w0.blockOf_mem (hrm q h1)).2⟩
  · rintro ⟨q, h1, h2⟩
    exact ⟨q, h1, w0.blockOf_eq h2⟩

/-- a block of the work list that `trySplit` splits is split with `SplitOK`; the new block is its part on the remove list -/
theorem PhaseInv.splitOK {L : LTS} {e0 : Eng} {rm done : List Nat} {em : Eng × List Nat} {par : Nat → Nat}
    (inv : PhaseInv L e0 rm done em par) (w0 : WF L e0) (hrm : ∀ q, q ∈ rm → q < L.n) (hnd : rm.Nodup) {b : Nat}
    (hb : b ∈ modifiedBlocks e0.part rm) (hbd : b ∉ done) {rest new : List Nat}
    (hts : trySplit (em.1.block b) (tmpOf e0.part rm b) = some (rest, new)) :
    SplitOK em.1 b rest new ∧ (∀ q, q ∈ new → q ∈ rm) ∧ (∀ q, q ∈ rest → q ∉ rm) := by
  obtain ⟨q0, _, hq0b⟩ := (mem_modifiedBlocks w0 hrm b).mp hb
  have hb0 : b < e0.part.length := lt_of_mem_block hq0b
  have hblk : em.1.block b = e0.block b := inv.hkeep b hb0 hbd
  have htmp := mem_tmpOf w0 hrm b
  have htsub : ∀ x, x ∈ tmpOf e0.part rm b → x ∈ em.1.block b := fun x hx => hblk ▸ ((htmp x).mp hx).2
  obtain ⟨t1, t2, t3, t4, t5, t6⟩ := trySplit_some (inv.wf.hnd b) (List.Pairwise.filter _ hnd) htsub hts
  exact ⟨⟨Nat.lt_of_lt_of_le hb0 inv.rs.hlen, fun q hq => htsub q ((t1 q).mp hq), fun q => by rw [t2 q, t1 q], t3, t4, t5, t6⟩,
    fun q hq => ((htmp q).mp ((t1 q).mp hq)).1,
    fun q hq hqrm => ((t2 q).mp hq).2 ((htmp q).mpr ⟨hqrm, hblk ▸ ((t2 q).mp hq).1⟩)⟩

section phase
variable {L : LTS} {e0 : Eng} {rm : List Nat} (step : Eng → Nat → List Nat → List Nat → Eng)
  (P : Eng → (Nat → Nat) → Prop)

/-- what the generic lemma needs from `step` -/
def StepOK (L : LTS) (step : Eng → Nat → List Nat → List Nat → Eng) (P : Eng → (Nat → Nat) → Prop) : Prop :=
  ∀ e par b rest new, WF L e → P e par → SplitOK e b rest new →
    (step e b rest new).part = (splitBlockCore L e b rest new).part ∧
    (step e b rest new).rel = (splitBlockCore L e b rest new).rel ∧
    (step e b rest new).inset = (splitBlockCore L e b rest new).inset ∧
    P (step e b rest new) (par ∘ parOf e.part.length b)

theorem phase_step (hs : StepOK L step P) (w0 : WF L e0) (hrm : ∀ q, q ∈ rm → q < L.n) (hnd : rm.Nodup)
    {done : List Nat} {em : Eng × List Nat} {par : Nat → Nat} (inv : PhaseInv L e0 rm done em par) (hP : P em.1 par)
    {b : Nat} (hb : b ∈ modifiedBlocks e0.part rm) (hbd : b ∉ done) :
    ∃ par', PhaseInv L e0 rm (b :: done) (gStep step e0.part rm em b) par' ∧
      P (gStep step e0.part rm em b).1 par' := by
  obtain ⟨q0, hq0rm, hq0b⟩ := (mem_modifiedBlocks w0 hrm b).mp hb
  have hb0 : b < e0.part.length := lt_of_mem_block hq0b
  have hbk : b < em.1.part.length := Nat.lt_of_lt_of_le hb0 inv.rs.hlen
  have hblk : em.1.block b = e0.block b := inv.hkeep b hb0 hbd
  have htmp := mem_tmpOf w0 hrm b
  have htnd : (tmpOf e0.part rm b).Nodup := List.Pairwise.filter _ hnd
  have htsub : ∀ x, x ∈ tmpOf e0.part rm b → x ∈ em.1.block b := fun x hx => hblk ▸ ((htmp x).mp hx).2
  have htne : tmpOf e0.part rm b ≠ [] := fun h => by
    have := (htmp q0).mpr ⟨hq0rm, hq0b⟩
    rw [h] at this; cases this
  -- `b` becomes processed; it was not (it is an old block not in `done`)
  have hproc : ∀ i, (i ∈ b :: done ∨ e0.part.length ≤ i) ↔ i = b ∨ (i ∈ done ∨ e0.part.length ≤ i) := fun i => by
    rw [List.mem_cons, or_assoc]
  have hnproc : ¬ (b ∈ done ∨ e0.part.length ≤ b) := fun h => h.elim hbd (Nat.not_le_of_lt hb0)
  have hkeep : ∀ i, i < e0.part.length → i ∉ b :: done → i ≠ b ∧ em.1.block i = e0.block i := fun i hi hid =>
    ⟨fun h => hid (h ▸ List.mem_cons_self), inv.hkeep i hi (fun h => hid (List.mem_cons_of_mem _ h))⟩
  unfold gStep
  cases hts : trySplit (em.1.block b) (tmpOf e0.part rm b) with
  | none =>
    -- the whole block is on the list: it is marked
    have hall : ∀ q, q ∈ em.1.block b → q ∈ rm := fun q hq =>
      ((htmp q).mp (trySplit_none htnd htsub htne hts q hq)).1
    refine ⟨par, ⟨inv.wf, inv.rs, inv.hparid, fun i hi hid => (hkeep i hi hid).2, inv.hstay, fun i hi hd => ?_,
      fun i => ?_⟩, hP⟩
    · rcases (hproc i).mp hd with h | h
      · exact Or.inl (h ▸ hall)
      · exact inv.huni i hi h
    · show i ∈ b :: em.2 ↔ _
      rw [List.mem_cons, inv.hmask i, hproc]
      constructor
      · rintro (rfl | ⟨h1, h2, h3⟩)
        · exact ⟨hbk, Or.inl rfl, hall⟩
        · exact ⟨h1, Or.inr h2, h3⟩
      · rintro ⟨h1, h2 | h2, h3⟩
        · exact Or.inl h2
        · exact Or.inr ⟨h1, h2, h3⟩
  | some rn =>
    obtain ⟨rest, new⟩ := rn
    obtain ⟨sok, hnewrm, hrestrm⟩ := inv.splitOK w0 hrm hnd hb hbd hts
    obtain ⟨s1, s2, s3, s4⟩ := hs em.1 par b rest new inv.wf hP sok
    refine ⟨par ∘ parOf em.1.part.length b, .congr s1 s2 s3 ⟨core_wf inv.wf sok, inv.rs.trans (core_refineS inv.wf sok),
      fun i hi => ?_, fun i hi hid => ?_, fun q hq hqrm => ?_, fun i hi hd => ?_, fun i => ?_⟩, s4⟩
    · show par (parOf em.1.part.length b i) = i
      rw [parOf, if_neg (Nat.ne_of_lt (Nat.lt_of_lt_of_le hi inv.rs.hlen))]
      exact inv.hparid i hi
    · rcases core_cases inv.wf sok i with ⟨h, _⟩ | ⟨h, _⟩ | ⟨_, _, hb', _⟩
      · exact absurd h (hkeep i hi hid).1
      · exact absurd (h ▸ hi) (Nat.not_lt_of_le inv.rs.hlen)
      · exact hb'.trans (hkeep i hi hid).2
    · rw [core_blockOf inv.wf sok hq, if_neg (fun h => hqrm (hnewrm q h))]
      exact inv.hstay q hq hqrm
    · rw [core_length] at hi
      rcases core_cases inv.wf sok i with ⟨_, hb', _⟩ | ⟨_, hb', _⟩ | ⟨h1, h2, hb', _⟩
      · rw [hb']; exact Or.inr hrestrm
      · rw [hb']; exact Or.inl hnewrm
      · rw [hb']
        exact inv.huni i (Nat.lt_of_le_of_ne (Nat.le_of_lt_succ hi) h2) (((hproc i).mp hd).resolve_left h1)
    · show i ∈ em.1.part.length :: em.2 ↔ _
      rw [List.mem_cons, inv.hmask i, core_length, hproc]
      rcases core_cases inv.wf sok i with ⟨h, hb', _⟩ | ⟨h, hb', _⟩ | ⟨h1, h2, hb', _⟩
      · -- the rest of `b` is nonempty and outside the list
        rw [hb', h]
        constructor
        · rintro (h' | ⟨_, h2, _⟩)
          · exact absurd h' (Nat.ne_of_lt hbk)
          · exact absurd h2 hnproc
        · rintro ⟨_, _, h3⟩
          obtain ⟨x, hx⟩ := List.exists_mem_of_ne_nil rest sok.hre
          exact absurd (h3 x hx) (hrestrm x hx)
      · rw [hb', h]
        exact ⟨fun _ => ⟨Nat.lt_succ_self _, Or.inr (Or.inr inv.rs.hlen), hnewrm⟩, fun _ => Or.inl rfl⟩
      · rw [hb']
        constructor
        · rintro (h' | ⟨h1', h2', h3'⟩)
          · exact absurd h' h2
          · exact ⟨Nat.lt_succ_of_lt h1', Or.inr h2', h3'⟩
        · rintro ⟨h1', h2', h3'⟩
          exact Or.inr ⟨Nat.lt_of_le_of_ne (Nat.le_of_lt_succ h1') h2, h2'.resolve_left h1, h3'⟩

theorem phase_fold (hs : StepOK L step P) (w0 : WF L e0) (hrm : ∀ q, q ∈ rm → q < L.n) (hnd : rm.Nodup) :
    ∀ (todo done : List Nat) (em : Eng × List Nat) (par : Nat → Nat), todo.Nodup →
      (∀ b, b ∈ todo → b ∈ modifiedBlocks e0.part rm ∧ b ∉ done) →
      PhaseInv L e0 rm done em par → P em.1 par →
      ∃ par', PhaseInv L e0 rm (todo.reverse ++ done) (todo.foldl (gStep step e0.part rm) em) par' ∧
        P (todo.foldl (gStep step e0.part rm) em).1 par' := by
  intro todo done em par hn hto inv hP
  exact foldl_done (gStep step e0.part rm) (fun em done => ∃ par, PhaseInv L e0 rm done em par ∧ P em.1 par)
    todo em done hn (fun b hb => (hto b hb).2)
    (fun em done b hb hbd ⟨par, inv, hP⟩ => phase_step step P hs w0 hrm hnd inv hP (hto b hb).1 hbd) ⟨par, inv, hP⟩

/-- the result of a whole phase -/
structure PhaseRes (L : LTS) (e0 : Eng) (rm : List Nat) (em : Eng × List Nat) (par : Nat → Nat) : Prop where
  wf : WF L em.1
  rs : RefineS L e0 em.1 par
  hparid : ∀ i, i < e0.part.length → par i = i
  hstay : ∀ q, q < L.n → q ∉ rm → blockOf em.1.part q = blockOf e0.part q
  huni : ∀ i, i < em.1.part.length → (∀ q, q ∈ em.1.block i → q ∈ rm) ∨ (∀ q, q ∈ em.1.block i → q ∉ rm)
  hmask : ∀ i, i ∈ em.2 ↔ (i < em.1.part.length ∧ ∀ q, q ∈ em.1.block i → q ∈ rm)

/-- the mask marks the blocks of the states on the list -/
theorem PhaseRes.mem_mask {em : Eng × List Nat} {par : Nat → Nat} (res : PhaseRes L e0 rm em par) {q : Nat}
    (hq : q < L.n) : blockOf em.1.part q ∈ em.2 ↔ q ∈ rm := by
  obtain ⟨hlt, hmem⟩ := res.wf.blockOf_mem hq
  exact ⟨fun h => ((res.hmask _).mp h).2 q hmem,
    fun h => (res.hmask _).mpr ⟨hlt, (res.huni _ hlt).resolve_right fun h' => h' q hmem h⟩⟩

theorem PhaseInv.init (w0 : WF L e0) (rm : List Nat) : PhaseInv L e0 rm [] (e0, []) id :=
  ⟨w0, RefineS.refl L e0, fun _ _ => rfl, fun _ _ _ => rfl, fun _ _ _ => rfl,
    fun _ hi hd => hd.elim (fun h => absurd h List.not_mem_nil) (fun h => absurd hi (Nat.not_lt_of_le h)),
    fun _ => ⟨fun h => absurd h List.not_mem_nil, fun ⟨h1, h2, _⟩ =>
      h2.elim (fun h => absurd h List.not_mem_nil) (fun h => absurd h1 (Nat.not_lt_of_le h))⟩⟩

theorem phase_all (hs : StepOK L step P) (w0 : WF L e0) (hrm : ∀ q, q ∈ rm → q < L.n) (hnd : rm.Nodup)
    (hP : P e0 id) :
    ∃ par, PhaseRes L e0 rm ((modifiedBlocks e0.part rm).foldl (gStep step e0.part rm) (e0, [])) par ∧
      P ((modifiedBlocks e0.part rm).foldl (gStep step e0.part rm) (e0, [])).1 par := by
  obtain ⟨par, inv, hPf⟩ := phase_fold step P hs w0 hrm hnd (modifiedBlocks e0.part rm) [] (e0, []) id
    (nodup_dedupF _ _) (fun b hb => ⟨hb, List.not_mem_nil⟩) (PhaseInv.init w0 rm) hP
  -- an old block that was not visited does not meet the list
  have hun : ∀ i, ¬ (i ∈ (modifiedBlocks e0.part rm).reverse ++ [] ∨ e0.part.length ≤ i) →
      ∀ q, q ∈ (List.foldl (gStep step e0.part rm) (e0, []) (modifiedBlocks e0.part rm)).1.block i → q ∉ rm := by
    intro i hd q hq hqrm
    rw [inv.hkeep i (Nat.lt_of_not_le fun h => hd (Or.inr h)) (fun h => hd (Or.inl h))] at hq
    exact hd (Or.inl (List.mem_append_left _ (List.mem_reverse.mpr
      ((mem_modifiedBlocks w0 hrm i).mpr ⟨q, hqrm, hq⟩))))
  refine ⟨par, ⟨inv.wf, inv.rs, inv.hparid, inv.hstay, fun i hi => ?_, fun i => ?_⟩, hPf⟩
  · exact Classical.byCases (inv.huni i hi) (fun hd => Or.inr (hun i hd))
  · rw [inv.hmask i]
    refine ⟨fun ⟨h1, _, h3⟩ => ⟨h1, h3⟩, fun ⟨h1, h3⟩ => ⟨h1, Classical.byContradiction fun hd => ?_, h3⟩⟩
    obtain ⟨x, hx⟩ := List.exists_mem_of_ne_nil _ (inv.wf.hne i h1)
    exact hun i hd x hx (h3 x hx)

end phase

/-! ### the two instances -/

/-- the step of `split` -/
def stepS (L : LTS) (e : Eng) (b : Nat) (rest new : List Nat) : Eng :=
  copySlots (splitBlockCore L e b rest new) b e.part.length

theorem splitStep_eq (L : LTS) (part0 : List (List Nat)) (rm : List Nat) :
    splitStep L part0 rm = gStep (stepS L) part0 rm := by
  funext em b
  unfold splitStep gStep stepS
  cases trySplit (em.1.block b) (tmpOf part0 rm b) with
  | none => rfl
  | some rn => rfl

theorem split_eq (L : LTS) (e : Eng) (rm : List Nat) :
    split L e rm = (modifiedBlocks e.part rm).foldl (gStep (stepS L) e.part rm) (e, []) := by
  unfold split
  rw [splitStep_eq]

theorem stepS_ok (L : LTS) (e0 : Eng) :
    StepOK L (stepS L) (fun e par => QOK e ∧ WF L e ∧ Refine L e0 e par ∧ e.nextId = e0.nextId) := by
  intro e par b rest new w hP sok
  obtain ⟨qk, _, rf, hid⟩ := hP
  obtain ⟨w', qk', rf', h1, h2, h3, h4⟩ := split_refine w qk sok
  exact ⟨h1, h2, h3, qk', w', Refine.trans w w' rf rf', h4.trans hid⟩

theorem fastSplit_fold (L : LTS) (part0 : List (List Nat)) (rm : List Nat) (todo : List Nat) (em : Eng × List Nat) :
    (todo.foldl (gStep (splitBlockCore L) part0 rm) em).1 = todo.foldl (fastSplitStep L part0 rm) em.1 := by
  induction todo generalizing em with
  | nil => rfl
  | cons b todo ih =>
    simp only [List.foldl_cons]
    rw [ih]
    congr 1
    unfold gStep fastSplitStep
    cases trySplit (em.1.block b) (tmpOf part0 rm b) with
    | none => rfl
    | some rn => rfl

theorem fastSplit_eq (L : LTS) (e : Eng) (rm : List Nat) :
    fastSplit L e rm = ((modifiedBlocks e.part rm).foldl (gStep (splitBlockCore L) e.part rm) (e, [])).1 := by
  rw [fastSplit_fold]; rfl

theorem stepF_ok (L : LTS) (e0 : Eng) :
    StepOK L (splitBlockCore L) (fun e _ => e.cnt = e0.cnt ∧ e.rem = e0.rem ∧ e.queue = e0.queue ∧
      e.nextId = e0.nextId) := by
  intro e par b rest new _ hP _
  exact ⟨rfl, rfl, rfl, hP⟩

/-- `fastSplit`: the tables are untouched; every block is inside or outside the list -/
theorem fastSplit_spec {L : LTS} {e0 : Eng} {rm : List Nat} (w0 : WF L e0) (hrm : ∀ q, q ∈ rm → q < L.n)
    (hnd : rm.Nodup) :
    ∃ par, WF L (fastSplit L e0 rm) ∧ RefineS L e0 (fastSplit L e0 rm) par ∧
      (∀ i, i < (fastSplit L e0 rm).part.length →
        (∀ q, q ∈ (fastSplit L e0 rm).block i → q ∈ rm) ∨ (∀ q, q ∈ (fastSplit L e0 rm).block i → q ∉ rm)) ∧
      (fastSplit L e0 rm).cnt = e0.cnt ∧ (fastSplit L e0 rm).rem = e0.rem ∧
      (fastSplit L e0 rm).queue = e0.queue ∧ (fastSplit L e0 rm).nextId = e0.nextId := by
  rw [fastSplit_eq]
  obtain ⟨par, res, h1, h2, h3, h4⟩ := phase_all (splitBlockCore L) _ (stepF_ok L e0) w0 hrm hnd ⟨rfl, rfl, rfl, rfl⟩
  exact ⟨par, res.wf, res.rs, res.huni, h1, h2, h3, h4⟩

end Vata.LE
