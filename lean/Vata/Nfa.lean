import Vata.Proofs.SatTotal
/-! Word automata: `NFA`, `run`, `acceptsW`, and the reference for their inclusion: `inclRef` saturates a set of pairs of
macro-states (the loop is an instance of `Total.gsat`, `sat_eq`) and is exact for every verdict it returns (`inclRef_iff`) -/
namespace Vata.W

structure NFA where
  start : List Nat
  final : List Nat
  trans : List (Nat × Nat × Nat)      -- (source, symbol, target)

def stepW (N : NFA) (S : List Nat) (a : Nat) : List Nat :=
  (N.trans.filter (fun e => S.contains e.1 && e.2.1 == a)).map (·.2.2)

def run (N : NFA) (w : List Nat) : List Nat := w.foldl (stepW N) N.start
def accepting (N : NFA) (S : List Nat) : Bool := S.any (fun q => N.final.contains q)
def acceptsW (N : NFA) (w : List Nat) : Bool := accepting N (run N w)

def SetEq (l₁ l₂ : List Nat) : Prop := ∀ x, x ∈ l₁ ↔ x ∈ l₂
def subB (l₁ l₂ : List Nat) : Bool := l₁.all (fun x => l₂.contains x)
def seteq (l₁ l₂ : List Nat) : Bool := subB l₁ l₂ && subB l₂ l₁
theorem seteq_iff {l₁ l₂ : List Nat} : seteq l₁ l₂ = true ↔ SetEq l₁ l₂ := by
  simp only [seteq, subB, Bool.and_eq_true, List.all_eq_true, List.contains_iff_mem, SetEq]
  constructor
  · rintro ⟨h1, h2⟩ x; exact ⟨h1 x, h2 x⟩
  · intro h; exact ⟨fun x => (h x).1, fun x => (h x).2⟩

theorem stepW_congr (N : NFA) {S S' : List Nat} (h : SetEq S S') (a : Nat) : stepW N S a = stepW N S' a := by
  unfold stepW
  congr 1
  apply List.filter_congr
  intro e _
  congr 1
  rw [Bool.eq_iff_iff]; simp only [List.contains_iff_mem]; exact h e.1

theorem accepting_congr (N : NFA) {S S' : List Nat} (h : SetEq S S') : accepting N S = accepting N S' := by
  rw [Bool.eq_iff_iff]
  simp only [accepting, List.any_eq_true]
  constructor
  · rintro ⟨q, hq, hf⟩; exact ⟨q, (h q).1 hq, hf⟩
  · rintro ⟨q, hq, hf⟩; exact ⟨q, (h q).2 hq, hf⟩

abbrev Pair := List Nat × List Nat
def PairEq (p p' : Pair) : Prop := SetEq p.1 p'.1 ∧ SetEq p.2 p'.2
def pairEqB (p p' : Pair) : Bool := seteq p.1 p'.1 && seteq p.2 p'.2
theorem pairEqB_iff {p p' : Pair} : pairEqB p p' = true ↔ PairEq p p' := by
  simp [pairEqB, PairEq, seteq_iff]
def memP (P : List Pair) (p : Pair) : Bool := P.any (fun p' => pairEqB p' p)
theorem memP_iff {P : List Pair} {p : Pair} : memP P p = true ↔ ∃ p', p' ∈ P ∧ PairEq p' p := by
  simp [memP, List.any_eq_true, pairEqB_iff]

def syms (A : NFA) : List Nat := A.trans.map (·.2.1)
def stepP (A B : NFA) (P : List Pair) : List Pair :=
  P.flatMap (fun p => (syms A).map (fun a => (stepW A p.1 a, stepW B p.2 a)))
def closedB (A B : NFA) (P : List Pair) : Bool := (stepP A B P).all (memP P)
def addNew (P : List Pair) : List Pair → List Pair
  | [] => P
  | p :: ps => if memP P p then addNew P ps else addNew (P ++ [p]) ps
def sat (A B : NFA) : Nat → List Pair → Option (List Pair)
  | 0, P => if closedB A B P then some P else none
  | n+1, P => if closedB A B P then some P else sat A B n (addNew P (stepP A B P))
def bad (A B : NFA) (p : Pair) : Bool := accepting A p.1 && !accepting B p.2
def inclRef (A B : NFA) (fuel : Nat) : Option Bool :=
  (sat A B fuel [(A.start, B.start)]).map (fun P => !(P.any (bad A B)))

def Gen (A B : NFA) (P : List Pair) : Prop := ∀ p, p ∈ P → ∃ w, PairEq p (run A w, run B w)
def HasInit (A B : NFA) (P : List Pair) : Prop := ∃ p, p ∈ P ∧ PairEq p (A.start, B.start)

theorem run_snoc (N : NFA) (w : List Nat) (a : Nat) : run N (w ++ [a]) = stepW N (run N w) a := by
  simp [run, List.foldl_append]

theorem gen_step (A B : NFA) (P : List Pair) (hP : Gen A B P) : ∀ p, p ∈ stepP A B P → ∃ w, PairEq p (run A w, run B w) := by
  intro p hp
  simp only [stepP, List.mem_flatMap, List.mem_map] at hp
  obtain ⟨p0, hp0, a, _, rfl⟩ := hp
  obtain ⟨w, hw⟩ := hP p0 hp0
  refine ⟨w ++ [a], ?_, ?_⟩
  · show SetEq (stepW A p0.1 a) (run A (w ++ [a])); rw [run_snoc, stepW_congr A hw.1]; exact fun _ => Iff.rfl
  · show SetEq (stepW B p0.2 a) (run B (w ++ [a])); rw [run_snoc, stepW_congr B hw.2]; exact fun _ => Iff.rfl

section
open Vata.Total

theorem memP_eq (P : List Pair) (p : Pair) : memP P p = gmem pairEqB P p := rfl

theorem addNew_eq (N P : List Pair) : addNew P N = gaddNew pairEqB P N := by
  induction N generalizing P with
  | nil => rfl
  | cons p ps ih => simp only [addNew, gaddNew, memP_eq, ih]

theorem closedB_eq (A B : NFA) (P : List Pair) : closedB A B P = gclosed pairEqB (stepP A B) P := rfl

theorem sat_eq (A B : NFA) (fuel : Nat) (P : List Pair) : sat A B fuel P = gsat pairEqB (stepP A B) fuel P := by
  induction fuel generalizing P with
  | zero => rw [sat, gsat, closedB_eq]
  | succ n ih => rw [sat, gsat, closedB_eq, addNew_eq, ih]

end

/-- a round of the loop keeps "every stored pair is the pair of a word" and "the start pair is stored"; stated of
`gaddNew pairEqB`, which `addNew` is (`addNew_eq`), as `Total.gsat_inv` takes it -/
theorem addNew_inv (A B : NFA) (P : List Pair) (h : Gen A B P ∧ HasInit A B P) :
    Gen A B (Total.gaddNew pairEqB P (stepP A B P)) ∧ HasInit A B (Total.gaddNew pairEqB P (stepP A B P)) :=
  ⟨Total.gsat_gen _ (gen_step A B) P h.1, h.2.imp fun _ hp => ⟨Total.sub_gaddNew _ _ _ _ hp.1, hp.2⟩⟩

theorem sat_sound (A B : NFA) (fuel : Nat) (P R : List Pair) (hP : Gen A B P) (hI : HasInit A B P)
    (h : sat A B fuel P = some R) : Gen A B R ∧ HasInit A B R ∧ closedB A B R = true := by
  rw [sat_eq] at h
  exact and_assoc.mp (Total.gsat_inv (fun P => Gen A B P ∧ HasInit A B P) (addNew_inv A B) fuel P R ⟨hP, hI⟩ h)

/-- the symbols that matter: a word accepted by `A` only uses symbols of `A` -/
theorem stepW_nil_of_not_sym (A : NFA) (S : List Nat) (a : Nat) (h : a ∉ syms A) : stepW A S a = [] := by
  simp only [stepW, List.map_eq_nil_iff, List.filter_eq_nil_iff, Bool.and_eq_true, beq_iff_eq, not_and]
  intro e he _ hea
  exact h (List.mem_map.mpr ⟨e, he, hea⟩)

theorem stepW_nil (N : NFA) (a : Nat) : stepW N [] a = [] := by
  simp [stepW]

theorem foldl_nil (N : NFA) (w : List Nat) : w.foldl (stepW N) [] = [] := by
  induction w with
  | nil => rfl
  | cons a w ih => simp [List.foldl_cons, stepW_nil, ih]

/-- from any covered pair, every continuation that is non-empty in `A` is covered -/
theorem covFrom (A B : NFA) (P : List Pair) (hc : closedB A B P = true) :
    ∀ (w : List Nat) (p : Pair) (SA SB : List Nat), p ∈ P → PairEq p (SA, SB) → w.foldl (stepW A) SA ≠ [] →
      ∃ p', p' ∈ P ∧ PairEq p' (w.foldl (stepW A) SA, w.foldl (stepW B) SB)
  | [], p, SA, SB, hp, he, _ => ⟨p, hp, he⟩
  | a :: w, p, SA, SB, hp, he, hne => by
    simp only [List.foldl_cons] at hne ⊢
    have hs1 : stepW A SA a ≠ [] := by
      intro e; rw [e, foldl_nil] at hne; exact hne rfl
    have ha : a ∈ syms A := by
      apply Classical.byContradiction; intro hna
      exact hs1 (stepW_nil_of_not_sym A _ a hna)
    have hs : (stepW A p.1 a, stepW B p.2 a) ∈ stepP A B P := by
      simp only [stepP, List.mem_flatMap, List.mem_map]
      exact ⟨p, hp, a, ha, rfl⟩
    obtain ⟨p', hp', he'⟩ := memP_iff.mp ((List.all_eq_true.mp hc) _ hs)
    have he2 : PairEq p' (stepW A SA a, stepW B SB a) := by
      constructor
      · intro x; rw [← stepW_congr A he.1]; exact he'.1 x
      · intro x; rw [← stepW_congr B he.2]; exact he'.2 x
    exact covFrom A B P hc w p' _ _ hp' he2 hne

theorem cov (A B : NFA) (P : List Pair) (hI : HasInit A B P) (hc : closedB A B P = true) :
    ∀ w : List Nat, run A w ≠ [] → ∃ p, p ∈ P ∧ PairEq p (run A w, run B w) := by
  intro w hne
  obtain ⟨p, hp, he⟩ := hI
  exact covFrom A B P hc w p _ _ hp he hne

/-- a set `P` of pairs (macro-state of `A`, macro-state of `B`) that contains the pair of the start sets (up to set
equality), is closed under the simultaneous step on every symbol of `A` (`closedB`, up to set equality) and contains no
bad pair (accepting in `A`, not accepting in `B`) proves `L(A) ⊆ L(B)` -/
theorem incl_of_closed_pairs (A B : NFA) (P : List Pair) (hI : HasInit A B P) (hc : closedB A B P = true)
    (hb : ∀ p, p ∈ P → bad A B p = false) : ∀ w, acceptsW A w = true → acceptsW B w = true := by
  intro w hA
  have hne : run A w ≠ [] := by intro e; simp [acceptsW, accepting, e] at hA
  obtain ⟨p, hp, he⟩ := cov A B P hI hc w hne
  have h1 : accepting A p.1 = true := by rw [accepting_congr A he.1]; exact hA
  have h2 := hb p hp
  simp only [bad, h1, Bool.true_and, Bool.not_eq_false'] at h2
  rw [accepting_congr B he.2] at h2
  exact h2

theorem inclRef_iff (A B : NFA) (fuel : Nat) (b : Bool) (h : inclRef A B fuel = some b) :
    b = true ↔ ∀ w, acceptsW A w = true → acceptsW B w = true := by
  simp only [inclRef, Option.map_eq_some_iff] at h
  obtain ⟨R, hR, rfl⟩ := h
  have hinit : HasInit A B [(A.start, B.start)] := ⟨_, List.mem_singleton.mpr rfl, ⟨fun _ => Iff.rfl, fun _ => Iff.rfl⟩⟩
  have hgen0 : Gen A B [(A.start, B.start)] := by
    intro p hp; simp only [List.mem_singleton] at hp; subst hp
    exact ⟨[], ⟨fun _ => Iff.rfl, fun _ => Iff.rfl⟩⟩
  obtain ⟨hgen, hI, hcl⟩ := sat_sound A B fuel _ R hgen0 hinit hR
  simp only [Bool.not_eq_true', List.any_eq_false]
  refine ⟨fun hb => incl_of_closed_pairs A B R hI hcl fun p hp => Bool.eq_false_iff.mpr (hb p hp), fun hall p hp => ?_⟩
  obtain ⟨w, he⟩ := hgen p hp
  simp only [bad, Bool.and_eq_true, Bool.not_eq_true', not_and, Bool.not_eq_false]
  intro h1
  rw [accepting_congr A he.1] at h1
  rw [accepting_congr B he.2]
  exact hall w h1

#print axioms inclRef_iff
end Vata.W
