import Vata.Properties.C02_Maps
import Vata.Proofs.UnionIsectMapsBUInv
import Vata.Proofs.UnionIsectMapsBUTotal
import Vata.Proofs.UnionIsectMapsBURules
/-!
# C02 (translation maps) – `IntersectionBU` started from a caller's product map: the general theorem and totality

> C02: For any explicit tree automata A and B, Union … return an automaton accepting exactly L(A) ∪ L(B), and Intersection
> and IntersectionBU return automata accepting exactly L(A) ∩ L(B).  The state-translation maps they report name, for every
> state of the result, the operand state or state pair it stands for …

This file closes the first open item of `Vata/Properties/C02_Maps.lean` ("`IntersectionBU` with a non-empty entry map: no
general theorem … totality is not proved either").  **The conjecture stated there is TRUE**: `pmapOkB m0` (numbers below
the size, different keys have different numbers – what every map returned by an earlier `Intersection` / `IntersectionBU`
satisfies) alone makes `IntersectionBU(lhs, rhs, &m)` exact, whatever pairs are pre-filled.

## How the C++ is read into the model (`src/explicit_tree_isect_bu.cc`)

The model is `isectBUFrom A B m0 fuel` of `Vata/UnionIsectMaps.lean`: the leaf phase `buLeafPhase` and the work-list loop
`buLoop` of `Vata/IsectBU.lean` (where the C++ lines are quoted) started from `m0`, the output returned as it is.  The points
that matter for a pre-filled map, re-read in the source:

* `pTranslMap->insert(make_pair(pair, pTranslMap->size()))` – the fresh number is the SIZE of the map (`buInsert`); there is no
  counter and no look at the numbers in the map.  `MapOk` (all numbers `< size()`, injective) is exactly what makes `size()`
  fresh, and it is kept by `insert` and by the `erase` of the tentatively inserted parent pair (`Isx.mapOk_snoc`,
  `Ibu.buErase_snoc`).
* `stack.push_back(&*productState)` (leaf phase) and `stack.push_back(&*newProduct)` (after `res.AddTransition`) are executed
  whether or not the pair was new.  So a pre-filled pair is pushed as soon as a rule with that parent pair is written.
* `if (newStates.count(p->second)) continue; else newStates.insert(p->second);` – `newStates` is keyed by the NUMBER.  With an
  injective map a number stands for one pair, so an entry is skipped only when the same pair has been processed before;
  a pre-filled pair is NOT in `newStates` on entry, hence it is processed at its first pop.
* `res.SetStateFinal` is called in the leaf phase and for every popped entry that is not skipped – for pre-filled pairs too.
* `findResult = pTranslMap->find(statePair)` accepts every children pair that is in the map, also a pre-filled pair that is
  never produced bottom-up.  The rule is written with the number of that pair as a child: a DEAD rule (the child state has
  no rule), and its parent pair is pushed, processed and possibly marked final (`C02_isectBU_prefilled_dead_rule_example`).
  This is why the rules are NOT the product on a bottom-up closed set as for the empty map, and why the proof needs a new
  invariant: `Ibf.PInv` (`Vata/Proofs/UnionIsectMapsBUInv.lean`) speaks about POPPED pairs instead of pairs in the map.

The runs of `C02_isectBU_prefilled_noninjective_counterexample`, `C02_isectBU_prefilled_dead_rule_example` (both maps) and the
run with `m = {(0,1) ↦ 0}` were replayed on the real library (`/repo/_build/src/libvata.a`, `ExplicitTreeAut::IntersectionBU`
with a pre-filled `ProductTranslMap`): rules, final states and maps agree with the model number by number.

Abstractions: as in `C02_Maps.lean` – a `PMap` is an association list standing for an `unordered_map` (the theorems do not
assume distinct keys; only such lists stand for a C++ map), hash iteration orders are list orders, the loop has fuel.

## Fuel

`isectBUFrom` returns `none` only when the fuel ends before the stack is empty.  `C02_isectBU_prefilled_total`: the explicit
bound `isectBUFromFuel A B m0 = |Δ_A|·|Δ_B| + (|m0| + |Q_A|·|Q_B|)·|Δ_A|·|Δ_B|·maxArity + 1` suffices for EVERY entry map (no
`pmapOkB` needed); all `some` answers are correct under `pmapOkB m0` (`C02_isectBU_prefilled_lang`).
-/
namespace Vata.Props

/-- **`IntersectionBU(lhs, rhs, &m)` with a pre-filled map is exact** as soon as the map on entry has its numbers below its
size and is injective (`pmapOkB`, decidable; true for the empty map and for every map returned by an earlier product).
The map on exit is injective (even `MapOk`) and extends the map on entry.  No condition on WHICH pairs are pre-filled
(contrast `C02_isect_prefilled_lang` for the top-down `Intersection`, which needs `prefillOkB`). -/
theorem C02_isectBU_prefilled_lang {A B : TA} {m0 : PMap} {fuel : Nat} {P : TA} {m : PMap}
    (hok : pmapOkB m0 = true) (h : isectBUFrom A B m0 fuel = some (P, m)) :
    (∀ t, accepts P t = (accepts A t && accepts B t)) ∧ InjOn (lookupF m) m.dom ∧ Isx.MapOk m ∧ Isx.Ext m0 m :=
  ⟨isectBUFrom_lang (pmapOkB_sound hok) h, isectBUFrom_map_inj (pmapOkB_sound hok) h,
    (isectBUFrom_spec (pmapOkB_sound hok) h).1, isectBUFrom_ext (pmapOkB_sound hok) h⟩

-- the hypotheses are satisfiable: the pre-filled maps for which `Intersection` goes wrong
example : pmapOkB [((0, 0), 0)] = true ∧
    IsectBUFromEx.obs (isectBUFrom IsectBUFromEx.exA IsectBUFromEx.exA [((0, 0), 0)] 6) =
      some ([⟨0, [], 0⟩, ⟨2, [0], 1⟩], [1], [((0, 0), 0), ((1, 1), 1)]) := by decide +kernel
example : pmapOkB [((1, 1), 0), ((0, 0), 1)] = true ∧
    (isectBUFrom IsectBUFromEx.exA IsectBUFromEx.exA [((1, 1), 0), ((0, 0), 1)] 6).isSome = true := by decide
example : ∃ P m, isectBUFrom IsectBUFromEx.exA IsectBUFromEx.exA [((0, 1), 0)] 6 = some (P, m) ∧
    accepts P IsectBUFromEx.tHA = true ∧ accepts P IsectBUFromEx.tA = false := by
  cases h : isectBUFrom IsectBUFromEx.exA IsectBUFromEx.exA [((0, 1), 0)] 6 with
  | none => exact absurd h (by decide +kernel)
  | some r =>
    refine ⟨r.1, r.2, rfl, ?_, ?_⟩
    · rw [(C02_isectBU_prefilled_lang (by decide +kernel) h).1]; decide +kernel
    · rw [(C02_isectBU_prefilled_lang (by decide +kernel) h).1]; decide +kernel

/-- **the reported map names the states** (second sentence of C02): on every tree `t` the states the result reaches are
exactly the numbers the map on exit gives to the pairs `(p, q)` with `p` reached by `A` and `q` reached by `B` on `t`.  In
particular every pair of states reached on a common tree is in the map. -/
theorem C02_isectBU_prefilled_states {A B : TA} {m0 : PMap} {fuel : Nat} {P : TA} {m : PMap}
    (hok : pmapOkB m0 = true) (h : isectBUFrom A B m0 fuel = some (P, m)) (t : Tree) :
    (∀ x, x ∈ reach P t → ∃ pr, m.lookup pr = some x ∧ pr.1 ∈ reach A t ∧ pr.2 ∈ reach B t) ∧
    (∀ p q, p ∈ reach A t → q ∈ reach B t → ∃ n, m.lookup (p, q) = some n ∧ n ∈ reach P t) :=
  isectBUFrom_reach (pmapOkB_sound hok) h t

/-- **re-using the map object**: `ProductTranslMap m; IntersectionBU(A', B', &m); IntersectionBU(A, B, &m);` – the second
call is exact (for `Intersection` the second call returns the empty language,
`C02_isect_prefilled_reuse_counterexample`).  More generally for a map returned by any earlier `IntersectionBU` that was
itself started from a `pmapOkB` map. -/
theorem C02_isectBU_reuse {A' B' A B : TA} {m0 : PMap} {fuel' fuel : Nat} {P' P : TA} {m' m : PMap}
    (hok : pmapOkB m0 = true) (h' : isectBUFrom A' B' m0 fuel' = some (P', m')) (h : isectBUFrom A B m' fuel = some (P, m)) :
    (∀ t, accepts P t = (accepts A t && accepts B t)) ∧ InjOn (lookupF m) m.dom ∧ Isx.Ext m' m := by
  have hok' := (isectBUFrom_spec (pmapOkB_sound hok) h').1
  exact ⟨isectBUFrom_lang hok' h, isectBUFrom_map_inj hok' h, isectBUFrom_ext hok' h⟩

example : (isectBUFrom IsectBUFromEx.exA IsectBUFromEx.exA [] 6).map (fun r => r.2) = some [((0, 0), 0), ((1, 1), 1)] ∧
    IsectBUFromEx.obs (isectBUFrom IsectBUFromEx.exA IsectBUFromEx.exA [((0, 0), 0), ((1, 1), 1)] 6) =
      some ([⟨0, [], 0⟩, ⟨2, [0], 1⟩], [1], [((0, 0), 0), ((1, 1), 1)]) := by decide +kernel

/-- **totality**: the explicit fuel `isectBUFromFuel A B m0` is enough for EVERY entry map (no `pmapOkB`, keys need not be
distinct nor pairs of states) -/
theorem C02_isectBU_prefilled_total (A B : TA) (m0 : PMap) (fuel : Nat) (hf : isectBUFromFuel A B m0 ≤ fuel) :
    (isectBUFrom A B m0 fuel).isSome = true := isectBUFrom_total A B m0 fuel hf

example : isectBUFromFuel IsectBUFromEx.exA IsectBUFromEx.exA [((0, 0), 0), ((1, 1), 0)] = 29 := by decide
example (A B : TA) : isectBUFromFuel A B [] = isectBUFuel A B := isectBUFromFuel_nil A B
-- also for the map of the collision counterexample (not `pmapOkB`) a result is returned
example : pmapOkB [((1, 1), 1)] = false ∧ (isectBUFromRef IsectBUFromEx.exA IsectBUFromEx.exA [((1, 1), 1)]).isSome = true :=
  ⟨by decide, isectBUFromRef_isSome _ _ _⟩

/-- total and exact: with the fuel `isectBUFromFuel` and a `pmapOkB` entry map the call returns the exact product -/
theorem C02_isectBU_prefilled_ref (A B : TA) (m0 : PMap) (hok : pmapOkB m0 = true) :
    ∃ P m, isectBUFromRef A B m0 = some (P, m) ∧ (∀ t, accepts P t = (accepts A t && accepts B t)) ∧
      InjOn (lookupF m) m.dom ∧ Isx.Ext m0 m := isectBUFromRef_lang A B m0 (pmapOkB_sound hok)

/-! ### the hypothesis `pmapOkB m0` cannot be dropped: one counterexample for each half -/

/-- numbers not below the size: `C02_isectBU_prefilled_collision_counterexample` (`m = {(1,1) ↦ 1}`, size 1) -/
theorem C02_isectBU_prefilled_numbers_counterexample :
    pmapInjB [((1, 1), 1)] = true ∧ pmapOkB [((1, 1), 1)] = false ∧
    (isectBUFrom IsectBUFromEx.exA IsectBUFromEx.exA [((1, 1), 1)] 6).map (fun r => accepts r.1 IsectBUFromEx.tHA) =
      some false ∧
    accepts IsectBUFromEx.exA IsectBUFromEx.tHA = true :=
  ⟨by decide, by decide, C02_isectBU_prefilled_collision_counterexample.2.1,
    C02_isectBU_prefilled_collision_counterexample.2.2⟩

/-- **counterexample (finding): a map that is not injective.**  `A = {a → 0, h(0) → 1; F = {1}}`,
`m = {(0,0) ↦ 0, (1,1) ↦ 0}` on entry (all numbers below the size 2): after `(0,0)` has been processed the number `0` is in
`newStates`; the entry of `(1,1)` is skipped by `newStates.count(p->second)` and never marked final.  The result
`a → 0, h(0) → 0; F = {}` has the empty language although `h(a)` is in the intersection. -/
theorem C02_isectBU_prefilled_noninjective_counterexample :
    ([((0, 0), 0), ((1, 1), 0)] : PMap).all (fun e => e.2 < 2) = true ∧ pmapInjB [((0, 0), 0), ((1, 1), 0)] = false ∧
    IsectBUFromEx.obs (isectBUFrom IsectBUFromEx.exA IsectBUFromEx.exA [((0, 0), 0), ((1, 1), 0)] 6) =
      some ([⟨0, [], 0⟩, ⟨2, [0], 0⟩], [], [((0, 0), 0), ((1, 1), 0)]) ∧
    (isectBUFrom IsectBUFromEx.exA IsectBUFromEx.exA [((0, 0), 0), ((1, 1), 0)] 6).map
      (fun r => accepts r.1 IsectBUFromEx.tHA) = some false ∧
    accepts IsectBUFromEx.exA IsectBUFromEx.tHA = true := ⟨by decide +kernel, by decide +kernel, by decide +kernel, by decide +kernel, by decide +kernel⟩

/-! ### what a pre-filled map changes although the language stays right -/

namespace IsectBUDeadEx
/-- `a → 0`, `b → 1`, `g(0,1) → 2`; final `2`: the language is `{g(a,b)}` -/
def gA : TA := ⟨[⟨0, [], 0⟩, ⟨1, [], 1⟩, ⟨3, [0, 1], 2⟩], [2]⟩
/-- `a → 0`, `c → 1`, `g(0,1) → 2`; final `2`: the language is `{g(a,c)}` -/
def gB : TA := ⟨[⟨0, [], 0⟩, ⟨2, [], 1⟩, ⟨3, [0, 1], 2⟩], [2]⟩
end IsectBUDeadEx

/-- **dead rules.**  `L(A) ∩ L(B) = ∅`, the pair `(1,1)` is not reachable bottom-up.  With the empty map `IntersectionBU` returns
the single rule `a → 0` and no final state.  With `m = {(1,1) ↦ 0}` on entry the children lookup `pTranslMap->find` succeeds
for `(1,1)`: the rule `g(1, 0) → 2` is written, `(2,2)` enters the map and is marked final.  State `0` has no rule, so the
language is still empty (`C02_isectBU_prefilled_lang`), but rules, final states and map differ from the call with the empty
map: the result is not the product on a bottom-up closed set of reachable pairs. -/
theorem C02_isectBU_prefilled_dead_rule_example :
    pmapOkB [((1, 1), 0)] = true ∧
    IsectBUFromEx.obs (isectBUFrom IsectBUDeadEx.gA IsectBUDeadEx.gB [] 10) = some ([⟨0, [], 0⟩], [], [((0, 0), 0)]) ∧
    IsectBUFromEx.obs (isectBUFrom IsectBUDeadEx.gA IsectBUDeadEx.gB [((1, 1), 0)] 10) =
      some ([⟨0, [], 1⟩, ⟨3, [1, 0], 2⟩], [2], [((1, 1), 0), ((0, 0), 1), ((2, 2), 2)]) :=
  ⟨by decide +kernel, by decide +kernel, by decide +kernel⟩

/-- **rules and final states of the result, exactly** (as sets; the analogue of `C02_isect_prefilled_is_explored_product`).
Call a pair POPPED when it is in the map on exit and its number is the parent of a rule of the result.  The rules are the
product rules `f(m(c₁),…,m(cₙ)) → m(p)` of matching rules (`Isx.Matching`: same symbol, same arity) all of whose children
pairs are in the map on exit and which are leaf rules or have a popped children pair; the final states are the numbers of
the popped pairs of two final states.  Rules with a children pair that is pre-filled and never popped are dead. -/
theorem C02_isectBU_prefilled_rules {A B : TA} {m0 : PMap} {fuel : Nat} {P : TA} {m : PMap}
    (hok : pmapOkB m0 = true) (h : isectBUFrom A B m0 fuel = some (P, m)) :
    (∀ ρ, ρ ∈ P.rules ↔ ∃ r r', Isx.Matching A B r r' ∧ (∀ x, x ∈ r.kids.zip r'.kids → x ∈ m.dom) ∧
      (r.kids = [] ∨ ∃ x, x ∈ r.kids.zip r'.kids ∧ x ∈ m.dom ∧ ∃ σ, σ ∈ P.rules ∧ σ.parent = lookupF m x) ∧
      ρ = Isx.PRule m r r') ∧
    (∀ x, x ∈ P.final ↔ ∃ pr, pr ∈ m.dom ∧ (∃ σ, σ ∈ P.rules ∧ σ.parent = lookupF m pr) ∧
      pr.1 ∈ A.final ∧ pr.2 ∈ B.final ∧ lookupF m pr = x) :=
  isectBUFrom_rules (pmapOkB_sound hok) h

-- the dead rule `g(1, 0) → 2` of `C02_isectBU_prefilled_dead_rule_example` is such a product rule: the children pair `(0,0)` is
-- popped (`a → 1` has its number as parent), the children pair `(1,1)` is only in the map
example : Isx.PRule [((1, 1), 0), ((0, 0), 1), ((2, 2), 2)] ⟨3, [0, 1], 2⟩ ⟨3, [0, 1], 2⟩ = ⟨3, [1, 0], 2⟩ := by decide

/-! ### summary -/

/-- **`IntersectionBU` × map situation**, completing `C02_maps_statement` (which is the first conjunct):
* map absent / empty: exact, injective map (already there);
* pre-filled with `pmapOkB m0`: exact, the map on exit is injective, extends `m0`, and names the states: on every tree the
  states of the result are the numbers of the pairs reached by the operands;
* every entry map: a result is returned with the fuel `isectBUFromFuel A B m0`. -/
theorem C02_maps_statement_bu (A B : TA) :
    -- `Union` (two maps / one map), `Intersection` (empty / pre-filled / total), `IntersectionBU` (empty)
    ((∀ mL mR, Um.Inj mL → Um.Inj mR → Um.Disj mL mR →
      ∀ t, accepts (unionModel A B mL mR).1 t = (accepts A t || accepts B t)) ∧
    (∀ t, accepts (unionModel A B [] []).1 t = (accepts A t || accepts B t)) ∧
    (∀ m0, Um.Inj m0 → (∀ t, accepts (unionSameMap A B m0).1 t = accepts (unionDisjoint A B) t) ∧
      ((∀ q, q ∈ A.states → q ∉ B.states) → ∀ t, accepts (unionSameMap A B m0).1 t = (accepts A t || accepts B t))) ∧
    (∀ fuel P m, isectTDFrom A B [] fuel = some (P, m) →
      (∀ t, accepts P t = (accepts A t && accepts B t)) ∧ InjOn (lookupF m) m.dom) ∧
    (∀ m0 fuel P m, pmapOkB m0 = true → isectTDFrom A B m0 fuel = some (P, m) →
      (∀ t, accepts P t = true → accepts A t = true ∧ accepts B t = true) ∧ InjOn (lookupF m) m.dom ∧ Isx.Ext m0 m ∧
      (prefillOkB A B m0 = true → ∀ t, accepts P t = (accepts A t && accepts B t))) ∧
    (∀ m0 fuel, isectFromFuel A B ≤ fuel → (isectTDFrom A B m0 fuel).isSome = true) ∧
    (∀ fuel P m, isectBUFrom A B [] fuel = some (P, m) →
      (∀ t, accepts P t = (accepts A t && accepts B t)) ∧ InjOn (lookupF m) m.dom)) ∧
    -- `IntersectionBU`, pre-filled
    (∀ m0 fuel P m, pmapOkB m0 = true → isectBUFrom A B m0 fuel = some (P, m) →
      (∀ t, accepts P t = (accepts A t && accepts B t)) ∧ InjOn (lookupF m) m.dom ∧ Isx.Ext m0 m ∧
      (∀ t, (∀ x, x ∈ reach P t → ∃ pr, m.lookup pr = some x ∧ pr.1 ∈ reach A t ∧ pr.2 ∈ reach B t) ∧
        (∀ p q, p ∈ reach A t → q ∈ reach B t → ∃ n, m.lookup (p, q) = some n ∧ n ∈ reach P t))) ∧
    -- `IntersectionBU`, total
    (∀ m0 fuel, isectBUFromFuel A B m0 ≤ fuel → (isectBUFrom A B m0 fuel).isSome = true) := by
  refine ⟨C02_maps_statement A B, ?_, fun m0 fuel hf => isectBUFrom_total A B m0 fuel hf⟩
  intro m0 fuel P m hok h
  obtain ⟨h1, h2, _, h4⟩ := C02_isectBU_prefilled_lang hok h
  exact ⟨h1, h2, h4, fun t => C02_isectBU_prefilled_states hok h t⟩

-- the statement speaks about runs that exist
example : pmapOkB [((0, 1), 0)] = true ∧ (isectBUFrom IsectBUFromEx.exA IsectBUFromEx.exA [((0, 1), 0)] 6).isSome = true ∧
    isectBUFromFuel IsectBUFromEx.exA IsectBUFromEx.exA [((0, 1), 0)] = 25 := by decide

/-!
## still not proved

* `pmapOkB m0` is a SUFFICIENT condition; both halves are necessary in general (the two counterexamples above), but no
  "iff" is proved: a map with a number `≥ size()` on a pair that is never reached and never collides with a fresh number is
  harmless.
* The rule set is characterised relative to the map on exit and to "popped" (`C02_isectBU_prefilled_rules`); WHICH
  pre-filled pairs get popped is not characterised further than: every pair reached by the operands on a common tree
  (`C02_isectBU_prefilled_states`), plus the parents of dead rules and what follows from them bottom-up.
* The fuel bound is generous (it counts `|m0|` possible numbers although only numbers of pairs that get pushed matter); no
  lower bound is proved.
* As in `C02_Maps.lean`: entry maps are association lists (the theorems do not assume distinct keys, but only lists with
  distinct keys stand for a C++ map); hash iteration orders are list orders (the theorems do not depend on the order, the
  concrete numbers do).
-/
end Vata.Props
