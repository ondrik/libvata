import Vata.Proofs.Rename
import Vata.Proofs.IsectModel
import Vata.Proofs.TrimModel
/-!
# Small lemmas about the states and sizes of the models, and the laws of language inclusion
-/
namespace Vata
namespace PropAux

theorem mem_states_unionDisjoint {A B : TA} {q : Nat} :
    q ∈ (unionDisjoint A B).states ↔ q ∈ A.states ∨ q ∈ B.states := by
  simp only [Rn.mem_states, unionDisjoint, List.mem_append]
  constructor
  · rintro (⟨r, hr | hr, hc⟩ | hf | hf)
    · exact Or.inl (Or.inl ⟨r, hr, hc⟩)
    · exact Or.inr (Or.inl ⟨r, hr, hc⟩)
    · exact Or.inl (Or.inr hf)
    · exact Or.inr (Or.inr hf)
  · rintro ((⟨r, hr, hc⟩ | hf) | (⟨r, hr, hc⟩ | hf))
    · exact Or.inl ⟨r, Or.inl hr, hc⟩
    · exact Or.inr (Or.inl hf)
    · exact Or.inl ⟨r, Or.inr hr, hc⟩
    · exact Or.inr (Or.inr hf)

theorem mem_states_unionWith {fA fB : Nat → Nat} {A B : TA} {q : Nat} :
    q ∈ (unionWith fA fB A B).states ↔ (∃ p, p ∈ A.states ∧ q = fA p) ∨ (∃ p, p ∈ B.states ∧ q = fB p) := by
  rw [unionWith_eq, mem_states_unionDisjoint, mem_states_reindex, mem_states_reindex]

theorem mem_states_prodOn {A B : TA} {D : List (Nat × Nat)} {m : Nat × Nat → Nat} (hc : Closed A B D)
    (hF : ∀ p, p ∈ A.final → ∀ p', p' ∈ B.final → (p, p') ∈ D) {P : TA}
    (hr : ∀ ρ, ρ ∈ P.rules ↔ ρ ∈ (prodOn A B D m).rules) (hf : ∀ x, x ∈ P.final ↔ x ∈ (prodOn A B D m).final)
    {q : Nat} (hq : q ∈ P.states) : ∃ p, p ∈ D ∧ q = m p := by
  rcases Rn.mem_states.mp hq with ⟨ρ, hρ, hcase⟩ | hfin
  · obtain ⟨r, hr1, r', hr2, hs, hl, hd, he⟩ := mem_prodRules.mp ((hr ρ).mp hρ)
    rw [he] at hcase
    rcases hcase with hcase | hcase
    · exact ⟨_, hd, hcase⟩
    · obtain ⟨pr, hpr, hpr'⟩ := List.mem_map.mp hcase
      exact ⟨pr, hc r hr1 r' hr2 hs hl hd pr hpr, hpr'.symm⟩
  · obtain ⟨pr, hpr, he⟩ := List.mem_map.mp (Isx.mem_prodFinal.mp ((hf q).mp hfin))
    obtain ⟨h1, h2⟩ := Isx.mem_finalPairs.mp hpr
    exact ⟨pr, hF pr.1 h1 pr.2 h2, he.symm⟩

theorem isectTD_states {A B : TA} {fuel : Nat} {P : TA} {m : PMap} (h : isectTD A B fuel = some (P, m)) {q : Nat}
    (hq : q ∈ P.states) : ∃ p, p ∈ m.dom ∧ q = lookupF m p := by
  obtain ⟨_, hcl, hF, hr, hf⟩ := Isx.isectTD_spec h
  exact mem_states_prodOn hcl hF hr hf hq

/-- `IsLangEmpty` is "no final state survives `RemoveUselessStates`": in the model this is the reference test -/
theorem removeUseless_final_nil (A : TA) : ((removeUseless A).final = []) ↔ isEmptyRef A = true := by
  have h : (removeUseless A).final = A.final.filter (fun q => (prodStates A).contains q) := rfl
  rw [h, List.filter_eq_nil_iff]
  simp only [isEmptyRef, Bool.not_eq_true', List.any_eq_false]

/-! ### sizes (C05) -/

/-- `A.states` lists every state once, so its length is the number of states -/
theorem nodup_states (A : TA) : A.states.Nodup := nodup_dedupL _

theorem states_removeUnreachable_sub {A : TA} {q : Nat} (h : q ∈ (removeUnreachable A).states) : q ∈ A.states := by
  rcases Rn.mem_states.mp h with ⟨r, hr, hc⟩ | hf
  · exact Rn.mem_states.mpr (Or.inl ⟨r, (List.mem_filter.mp hr).1, hc⟩)
  · exact Rn.mem_states.mpr (Or.inr hf)

theorem states_reduce {h : Nat → Nat} {A : TA} {q' : Nat} (hq : q' ∈ (removeUnreachable (reindex h A)).states) :
    ∃ q, q ∈ A.states ∧ q' = h q := mem_states_reindex.mp (states_removeUnreachable_sub hq)

theorem states_reduce_length (h : Nat → Nat) (A : TA) :
    (removeUnreachable (reindex h A)).states.length ≤ A.states.length := by
  have hsub : (removeUnreachable (reindex h A)).states ⊆ A.states.map h := by
    intro q' hq'
    obtain ⟨q, hq, he⟩ := states_reduce hq'
    exact List.mem_map.mpr ⟨q, hq, he.symm⟩
  have := (nodup_states _).length_le_of_subset hsub
  rwa [List.length_map] at this

theorem rules_reduce_length (h : Nat → Nat) (A : TA) :
    (removeUnreachable (reindex h A)).rules.length ≤ A.rules.length := by
  have : (removeUnreachable (reindex h A)).rules.length ≤ (reindex h A).rules.length := List.length_filter_le _ _
  rwa [reindex_rules_length] at this

end PropAux

/-! ### invariance under renaming and the laws of language inclusion (C19) -/

theorem incl_refl (A : TA) : Incl A A := fun _ h => h

theorem incl_trans {A B C : TA} (h₁ : Incl A B) (h₂ : Incl B C) : Incl A C := fun t h => h₂ t (h₁ t h)

theorem langEq_incl {A B : TA} (h : LangEq A B) : Incl A B ∧ Incl B A :=
  ⟨fun t ha => by rw [← h t]; exact ha, fun t hb => by rw [h t]; exact hb⟩

theorem incl_equivariant (f g : Nat → Nat) (A B : TA) (hf : InjOnStates f A) (hg : InjOnStates g B) :
    Incl (reindex f A) (reindex g B) ↔ Incl A B := by
  constructor
  · intro h t ha
    have := h t (by rw [reindex_inj_lang f A hf t]; exact ha)
    rw [reindex_inj_lang g B hg t] at this; exact this
  · intro h t ha
    rw [reindex_inj_lang f A hf t] at ha
    rw [reindex_inj_lang g B hg t]; exact h t ha

theorem empty_equivariant (f : Nat → Nat) (A : TA) (hf : InjOnStates f A) :
    LangEmpty (reindex f A) ↔ LangEmpty A := by
  constructor
  · intro h t; rw [← reindex_inj_lang f A hf t]; exact h t
  · intro h t; rw [reindex_inj_lang f A hf t]; exact h t

/-- insertion order and duplicates do not matter: automata with the same rule and final *sets* have the same language -/
theorem lang_perm_invariant (A B : TA) (hr : ∀ r, r ∈ A.rules ↔ r ∈ B.rules) (hf : ∀ q, q ∈ A.final ↔ q ∈ B.final)
    (t : Tree) : accepts A t = accepts B t :=
  Isx.accepts_congr_sets hr hf t

theorem incl_union_left (A B : TA) (hdis : ∀ q, q ∈ A.states → q ∉ B.states) : Incl A (unionDisjoint A B) := by
  intro t h; rw [unionDisjoint_lang A B hdis t, h]; rfl

theorem incl_union_right (A B : TA) (hdis : ∀ q, q ∈ A.states → q ∉ B.states) : Incl B (unionDisjoint A B) := by
  intro t h; rw [unionDisjoint_lang A B hdis t, h]; simp

theorem union_least (A B C : TA) (hdis : ∀ q, q ∈ A.states → q ∉ B.states) (ha : Incl A C) (hb : Incl B C) :
    Incl (unionDisjoint A B) C := by
  intro t h
  rw [unionDisjoint_lang A B hdis t, Bool.or_eq_true] at h
  rcases h with h | h
  · exact ha t h
  · exact hb t h

theorem isect_incl_left (A B : TA) : Incl (isectFull A B) A := by
  intro t h; rw [isectFull_lang, Bool.and_eq_true] at h; exact h.1

theorem isect_incl_right (A B : TA) : Incl (isectFull A B) B := by
  intro t h; rw [isectFull_lang, Bool.and_eq_true] at h; exact h.2

theorem isect_greatest (A B C : TA) (ha : Incl C A) (hb : Incl C B) : Incl C (isectFull A B) := by
  intro t h; rw [isectFull_lang, ha t h, hb t h]; rfl

/-- `A ⊆ A ∩ B` exactly when `A ⊆ B` (law 7 of `lawNames`, `Driver/MetaChk.lean`) -/
theorem incl_isect_iff (A B : TA) : Incl A (isectFull A B) ↔ Incl A B :=
  ⟨fun h => incl_trans h (isect_incl_right A B), fun h => isect_greatest A B A (incl_refl A) h⟩

/-- `A ∪ B ⊆ B` exactly when `A ⊆ B` (law 8 of `lawNames`, `Driver/MetaChk.lean`) -/
theorem union_incl_iff (A B : TA) (hdis : ∀ q, q ∈ A.states → q ∉ B.states) :
    Incl (unionDisjoint A B) B ↔ Incl A B :=
  ⟨fun h => incl_trans (incl_union_left A B hdis) h, fun h => union_least A B B hdis h (incl_refl B)⟩

theorem equiv_trim (A : TA) : LangEq (removeUseless A) A := fun t => removeUseless_lang A t
theorem equiv_unreach (A : TA) : LangEq (removeUnreachable A) A := fun t => removeUnreachable_lang A t
theorem equiv_reindex (f : Nat → Nat) (A : TA) (hf : InjOnStates f A) : LangEq (reindex f A) A :=
  reindex_inj_LangEq f A hf

/-- ANY renaming, injective or not -/
theorem tdReachable_reindex (h : Nat → Nat) {A : TA} {q : Nat} (hq : TdReachable A q) : TdReachable (reindex h A) (h q) := by
  induction hq with
  | final hf => exact TdReachable.final ((reindex_final h A _).mpr ⟨_, hf, rfl⟩)
  | @step r k hr _ hk ih =>
    exact TdReachable.step (r := mapRule h r) ((reindex_rules h A _).mpr ⟨r, hr, rfl⟩) ih (List.mem_map.mpr ⟨k, hk, rfl⟩)

end Vata
