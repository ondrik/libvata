import Vata.Proofs.BddTrimCodedGlue
/-!
C08: regression examples for the top-down `RemoveUselessStates` as coded.

Two realistic slips of `src/bdd_td_tree_aut_useless.cc`, as variants of the model, and concrete automata on which they
are visible:

* `tupleStepSlip` – `graph_.AddEdge(tupleNode, procNode_)` moved INTO the `else` branch (the edge from the AND node to the
  processed state is only added when the tuple is new): a second state with the same children tuple is never marked
  useful and loses its rules – the LANGUAGE shrinks (`slip1_changes_language`);
* `satisfyStepSlip` – the AND node is satisfied as soon as ONE of its input nodes is popped (the test
  `GetIngress(andNode).empty()` dropped): unproductive states are marked useful; the language cannot change (more rules
  are kept) but the postcondition "no useless state is left" fails (`slip2_leaves_useless_state`).
-/
namespace Vata
namespace BddTrimCoded
namespace Ex
open M BddAbs BddAbsTD

def tupleStepSlip (proc : Nat) (B : Build) (tuple : List Nat) : Build :=
  if tuple.isEmpty then { B with term := ins proc B.term }
  else
    match findBwd B.andN tuple with
    | some _ => B
    | none =>
      let a := B.G.addNode.2
      let B' := tuple.foldl (stateStep a) { B with G := B.G.addNode.1, andN := B.andN ++ [(a, tuple)] }
      { B' with G := B'.G.addEdge a proc }

def satisfyStepSlip (orN : List (Nat × Nat)) (node : Nat) (P : Mark) (a : Nat) : Mark :=
  let G := P.G.eraseIng a node
  (G.egr a).foldl (markStep orN) { P with G := G }

def buildLoopX (tstep : Nat → Build → List Nat → Build) (T : TableTD) : Nat → Build → Option Build
  | fuel, B =>
    match B.ws with
    | [] => some B
    | (n, s) :: ws =>
      match fuel with
      | 0 => none
      | fuel + 1 => buildLoopX tstep T fuel ((leafTuples (getTD T s)).foldl (tstep n) { B with ws := ws })

def propLoopX (sstep : List (Nat × Nat) → Nat → Mark → Nat → Mark) (orN : List (Nat × Nat)) : Nat → Mark → Option Mark
  | fuel, P =>
    match P.stk with
    | [] => some P
    | node :: stk =>
      match fuel with
      | 0 => none
      | fuel + 1 =>
        let P0 : Mark := { P with stk := stk }
        let G := (P0.G.ing node).foldl (fun G a => G.eraseEgr a node) P0.G
        propLoopX sstep orN fuel ((G.egr node).foldl (sstep orN node) { P0 with G := G })

/-- `removeUselessTDCoded` with the two loop bodies as parameters -/
def removeUselessX (tstep : Nat → Build → List Nat → Build) (sstep : List (Nat × Nat) → Nat → Mark → Nat → Mark)
    (T : TableTD) (final : List Nat) (fuel : Nat) : Option (TableTD × List Nat) :=
  match buildLoopX tstep T fuel (initBuild final) with
  | none => none
  | some B =>
    match propLoopX sstep B.orN fuel (initMark B) with
    | none => none
    | some P =>
      let R := restrictCoded T final P.useful
      match tdUnreachWL R.1 R.2 fuel with
      | none => none
      | some R' => some (R', R.2)

def showR (syms : List Nat) (R : Option (TableTD × List Nat)) : Option (List (Nat × List Nat × Nat) × List Nat) :=
  R.map (fun R => ((absRulesTD syms R.1).map (fun r => (r.sym, r.kids, r.parent)), R.2))

/-- `a → 1`, `f(1) → 3`, `g(3) → 2`, `h(1) → 2`; final state 2: the tuple `(1)` is shared by the states 3 and 2 -/
def rs1 : List Rule := [⟨0, [], 1⟩, ⟨1, [1], 3⟩, ⟨2, [3], 2⟩, ⟨3, [1], 2⟩]
def T1 : TableTD := ofRulesTD rs1
def syms : List Nat := [0, 1, 2, 3]
/-- `g(f(a))` -/
def t1 : Tree := .node 2 [.node 1 [.node 0 []]]

/-- `a → 1`, `g(4,1) → 2`, `h(2) → 4`; final state 2: nothing is accepted, 2 and 4 are unproductive -/
def rs2 : List Rule := [⟨0, [], 1⟩, ⟨2, [4, 1], 2⟩, ⟨3, [2], 4⟩]
def T2 : TableTD := ofRulesTD rs2

/-! The parametrised loops with the bodies as coded are the loops of the model. -/

theorem buildLoopX_tupleStep (T : TableTD) : ∀ (fuel : Nat) (B : Build), buildLoopX tupleStep T fuel B = buildLoop T fuel B
  | 0, B => by unfold buildLoopX buildLoop; rfl
  | fuel + 1, B => by
    unfold buildLoopX buildLoop
    cases B.ws with
    | nil => rfl
    | cons e ws => exact buildLoopX_tupleStep T fuel _

theorem propLoopX_satisfyStep (orN : List (Nat × Nat)) : ∀ (fuel : Nat) (P : Mark),
    propLoopX satisfyStep orN fuel P = propLoop orN fuel P
  | 0, P => by unfold propLoopX propLoop; rfl
  | fuel + 1, P => by
    unfold propLoopX propLoop
    cases P.stk with
    | nil => rfl
    | cons node stk => exact propLoopX_satisfyStep orN fuel _

theorem removeUselessX_coded (T : TableTD) (F : List Nat) (fuel : Nat) :
    removeUselessX tupleStep satisfyStep T F fuel = removeUselessTDCoded T F fuel fuel := by
  unfold removeUselessX removeUselessTDCoded usefulCoded
  rw [buildLoopX_tupleStep]
  cases buildLoop T fuel (initBuild F) with
  | none => rfl
  | some B =>
    simp only [propLoopX_satisfyStep]
    cases propLoop B.orN fuel (initMark B) <;> rfl

/-- `showR` lists the rules of the abstraction of an answer, so it fixes every function of the abstracted automaton -/
theorem map_absTD_of_showR {α : Type} (g : TA → α) {syms : List Nat} {R : Option (TableTD × List Nat)}
    {l : List (Nat × List Nat × Nat)} {F : List Nat} (h : showR syms R = some (l, F)) :
    R.map (fun R => g (absTD syms R.1 R.2)) = some (g ⟨l.map (fun r => ⟨r.1, r.2.1, r.2.2⟩), F⟩) := by
  cases R with
  | none => cases h
  | some R =>
    cases h
    simp only [Option.map_some, absTD, List.map_map]
    exact congrArg (fun rs => some (g ⟨rs, R.2⟩)) (List.map_id _).symm

/-- the model as coded keeps all four rules and accepts `g(f(a))` -/
theorem coded_ok : showR syms (removeUselessTDCoded T1 [2] 10 10) =
      some ([(1, [1], 3), (0, [], 1), (2, [3], 2), (3, [1], 2)], [2]) ∧
    (removeUselessTDCoded T1 [2] 10 10).map (fun R => accepts (absTD syms R.1 R.2) t1) = some true ∧
    showR syms (removeUselessX tupleStep satisfyStep T1 [2] 10) = showR syms (removeUselessTDCoded T1 [2] 10 10) := by
  refine ⟨?h, (map_absTD_of_showR (accepts · t1) ?h).trans (by decide),
    congrArg (showR syms) (removeUselessX_coded T1 [2] 10)⟩
  decide +kernel

theorem slip1_changes_language :
    showR syms (removeUselessX tupleStepSlip satisfyStep T1 [2] 10) = some ([(0, [], 1), (3, [1], 2)], [2]) ∧
    (removeUselessX tupleStepSlip satisfyStep T1 [2] 10).map (fun R => accepts (absTD syms R.1 R.2) t1) = some false ∧
    accepts (absTD syms T1 [2]) t1 = true := by
  -- the last part: loading `rs1` is the identity on the abstraction
  refine ⟨?h, (map_absTD_of_showR (accepts · t1) ?h).trans (by decide),
    ((absTD_ofRulesTD_setEq rs1 syms [2] (by decide) (by decide)).lang t1).trans (by decide)⟩
  decide +kernel

/-- slip 2 keeps the unproductive states 2 and 4 (the code returns the empty automaton) -/
theorem slip2_leaves_useless_state :
    showR syms (removeUselessTDCoded T2 [2] 10 10) = some (([] : List (Nat × List Nat × Nat)), ([] : List Nat)) ∧
    showR syms (removeUselessX tupleStep satisfyStepSlip T2 [2] 10) = some ([(2, [4, 1], 2), (3, [2], 4), (0, [], 1)], [2]) ∧
    (removeUselessX tupleStep satisfyStepSlip T2 [2] 10).map (fun R => allUsefulB (absTD syms R.1 R.2)) = some false := by
  refine ⟨by decide +kernel, ?h, (map_absTD_of_showR allUsefulB ?h).trans (by decide)⟩
  decide +kernel

end Ex
end BddTrimCoded
end Vata
