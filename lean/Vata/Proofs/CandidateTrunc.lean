import Vata.CandidateTrunc
/-!
# `candidateTrunc w` is the unbounded model when the parents fit into `w` bits; the two failure modes when they do not
-/
namespace Vata

theorem truncRule_eq {w : Nat} {r : Rule} (h : r.parent < 2 ^ w) : truncRule w r = r := by
  cases r with
  | mk s k p => simp only [truncRule]; congr 1; exact Nat.mod_eq_of_lt h

theorem candInitStepT_eq {w : Nat} {r : Rule} (h : r.parent < 2 ^ w) (acc : CState × List CInfo) :
    candInitStepT w acc r = candInitStep acc r := by
  simp only [candInitStepT, candInitStep, truncRule_eq h]

theorem candInitT_eq {w : Nat} (l : List Rule) (h : ∀ r, r ∈ l → r.parent < 2 ^ w) (acc : CState × List CInfo) :
    candInitT w l acc = candInit l acc := by
  induction l generalizing acc with
  | nil => rfl
  | cons r rs ih =>
    simp only [candInitT, candInit]
    rw [candInitStepT_eq (h r List.mem_cons_self), ih (fun r' hr' => h r' (List.mem_cons_of_mem _ hr'))]

theorem candSearchT_eq {w : Nat} (A : TA) (h : ∀ r, r ∈ A.rules → r.parent < 2 ^ w) :
    candSearchT w A = candSearch A := by
  simp only [candSearchT, candSearch, candInitT_eq A.rules h]

namespace CandTruncEx

/-- `a → 8`, `g(5) → 5` (never fires, keeps `remaining ≠ 0`); final `8` -/
def exLost : TA := ⟨[⟨0, [], 8⟩, ⟨1, [5], 5⟩], [8]⟩
/-- `a → 8`, `b → 0`, `f(0) → 1`, `g(1) → 2`; final `1` (the search stops at `1`, `g(1) → 2` stays open) -/
def exWrong : TA := ⟨[⟨0, [], 8⟩, ⟨1, [], 0⟩, ⟨2, [0], 1⟩, ⟨3, [1], 2⟩], [1]⟩
/-- `a` -/
def tA : Tree := .node 0 []
/-- `f(a)` -/
def tFA : Tree := .node 2 [.node 0 []]

-- the 3-bit record of `a → 8` is `a → 0`; phase 1 marked the map key `8`
example : (candSearchT 3 exLost).recorded = [⟨0, [], 0⟩] ∧ (candSearchT 3 exLost).reached = [8] ∧
    (candSearchT 3 exLost).remaining = 1 := by decide
example : (candRawT 3 exWrong).rules = [⟨0, [], 0⟩, ⟨1, [], 0⟩, ⟨2, [0], 1⟩] ∧ (candRawT 3 exWrong).final = [1] := by decide

end CandTruncEx
end Vata
