import Vata.Proofs.CowHeapFA3
/-!
# C11 (finite automata) – copy-on-write of `ExplicitFiniteAutCore`, as coded

> After an explicit tree or finite automaton is copied, assigned or moved, any later modification of one object (adding
> rules, changing final states, clearing) is never visible through another object, and automata returned by operations
> stay unchanged when their operands are modified or destroyed afterwards.

`Vata/Properties/C11.lean` / `C11_Extended.lean` prove this for heap models written after the TREE automaton class.  This
file serves the item of their "not yet proved" lists about `src/explicit_finite_aut_core.{hh,cc}`.

## how the C++ is read into the model (`Vata/CowHeapFA.lean`, where every quoted line is)

* **Heap.**  `transitions_` is a `shared_ptr` to a map node `state ↦ shared_ptr<TransitionCluster>`; a cluster holds its
  right-hand state sets by value: two levels of sharing, the heap `CowHeap.Heap` (map nodes and cluster nodes with their
  `use_count`s, identifiers never re-used).  Its primitive `shared_ptr` / container actions and their invariant lemmas
  (`Vata/Proofs/CowHeap.lean`) are reused; all OPERATIONS are transcribed anew from the finite-automaton sources.
  A handle = (map pointer, `finalStates_`, `startStates_`, `startStateToSymbols_`) – the last three are plain values
  (`Members`), copied by value by the copy constructor / assignment.
* **Where `uniqueClusterMap()` / `uniqueCluster()` are called and where not.**
  `internalAddTransition` (`addCore`): `uniqueClusterMap()` then `uniqueCluster(l)` then the write.
  `ReindexStates(dst, …)` (`reindexCore`): `dst.uniqueClusterMap()` ONCE before the loop (also when the source has no
  transitions), then `uniqueCluster(index[q])` per source entry (creating clusters that may stay empty).
  `UnionDisjointStates` (`unionDisjCore`): copy of `lhs`, `res.uniqueClusterMap()`, then `insert` of the CLUSTER POINTERS of
  `rhs` (no `uniqueCluster`: nothing is written into a cluster).
  `RemoveUnreachableStates` (`shareCore … true`): the result gets a default-constructed map node, replaced by a second
  `new Map()` (the first one is released), and the operand's cluster pointers are inserted DIRECTLY into
  `res.transitions_` (no `uniqueClusterMap()`); likewise the local `res` of `GetCandidateTree` (`shareCore … false`).
  `Reverse` (`reverseCore`): a fresh object filled by `AddTransition`.  `RemoveUselessStates` =
  `RemoveUnreachableStates().Reverse().RemoveUnreachableStates().Reverse()` with its three temporaries, `GetCandidateTree` with
  its local `res` – both as SEQUENCES of the other operations on scratch handles that are destroyed as in the C++.
  `SetStateFinal`, `SetStateStart`, `SetExistingStateStart` touch the value members only.
  Move: the class has user-declared copy operations and destructor, hence no move operations; `moveCtor` / `moveAssign`
  are the copy steps (the source stays alive).
* **Values.**  `FAVal` = the three value members and the contents of the map (`state ↦ symbol ↦ right-hand states`, in
  container order); `FAVal.toNFAS` / `FAVal.toNFA` is the automaton of `Vata/NfaStart.lean` / `Vata/Nfa.lean` it denotes.
  `specStep` gives every object an independent `FAVal`; an operation changes the value of its `target` only, by the
  value-level functions `vAdd`, `vReindex`, `vUnionDisj`, `vUnreach`, `vReverse`, `vUseless`, `vCandidate`, … which mirror
  the loops of the C++ (work-list order, `insert` never overwriting, early `return`s of `GetCandidateTree`).

## what is abstracted

* hash-container iteration order = insertion order (lists); `RStateSet{r,…}` is stored as the singleton tuples `[[r],…]` of
  `Store.Cluster` (so that the heap of `Vata/CowHeap.lean` can be reused);
* the translator of `ReindexStates` / `Union` is a pure function `idx`; `alphabet_` (a `shared_ptr` that is only copied) is
  not modelled; loops that read the operand while writing the result read the operand's value up front (operand ≠ result);
* the work-list loops of `RemoveUnreachableStates` / `GetCandidateTree` run on fuel `#start states + #transitions + 1`.
  This is total (`C11_fa_reach_fuel`, `C11_fa_candidate_fuel`: the loops have ended – empty work-list or `return` – and more
  fuel changes nothing).  The copy-on-write theorems below do not depend on the fuel being sufficient.
* operations that are not C++ programs (dead handles, construction over a live handle, self-assignment,
  `a.ReindexStates(a, …)`) are no-ops.
-/
namespace Vata.Props
open Vata.CowHeapFA

/-! ### the refinement theorem -/

/-- one step, from any heap that satisfies the reference-count invariant: every operation of `ExplicitFiniteAutCore`
(constructors, assignment, the setters, `AddTransition`, destructor, `ReindexStates`, `UnionDisjointStates`,
`RemoveUnreachableStates`, `Reverse`, `RemoveUselessStates`, `GetCandidateTree`) acts on the values read through the handles
exactly like the independent-values specification, and keeps the invariant.  The hypothesis `InvFA H` cannot be dropped
(`C11_fa_inv_needed`). -/
theorem C11_fa_refines_values (H : HeapFA) (op : Op) (hI : InvFA H) :
    absFA (CowHeapFA.step H op) = specStep (absFA H) op ∧ InvFA (CowHeapFA.step H op) :=
  fa_refines_values hI op

/-- … and for every operation list from the empty heap -/
theorem C11_fa_history_refines (ops : List Op) : absFA (exec ops) = ops.foldl specStep specInit :=
  fa_history_isolation ops

/-- a history with sharing at both levels: copies, `UnionDisjointStates`, `RemoveUnreachableStates`, writes through operands
and results, `RemoveUselessStates`, `GetCandidateTree`, `Reverse`, `ReindexStates` -/
def faOps : List Op :=
  [.new 1, .setStart 1 0 7, .add 1 0 5 1, .add 1 1 6 2, .add 1 3 5 0, .setFinal 1 2,
   .new 2, .setStart 2 10 7, .add 2 10 5 11, .setFinal 2 11,
   .unionDisj 1 2 3, .unreach 1 4, .add 4 0 5 2, .add 3 10 6 10, .add 1 1 6 0,
   .useless 1 5, .candidate 1 6, .reverse 1 7, .copy 3 8, .reindex 2 8 (fun q => q + 1), .setFinal 8 0]

/-- what the handles 1 to 9 and the list of live handles show at the end of `faOps`: one run of the history, the examples below
read it (4 and 5 with their whole value: a `Decidable` instance for nine conjuncts fits the synthesis bound only if the
compared types are the structures) -/
theorem faOps_run :
    absFA (exec faOps) 1 =
      some ⟨⟨[2], [0], [(0, [7])]⟩, [(0, [(5, [[1]])]), (1, [(6, [[2], [0]])]), (3, [(5, [[0]])])]⟩ ∧
    absFA (exec faOps) 3 =
      some ⟨⟨[2, 11], [0, 10], [(0, [7]), (10, [7])]⟩,
        [(0, [(5, [[1]])]), (1, [(6, [[2]])]), (3, [(5, [[0]])]), (10, [(5, [[11]]), (6, [[10]])])]⟩ ∧
    absFA (exec faOps) 4 = some ⟨⟨[2], [0], [(0, [7])]⟩, [(0, [(5, [[1], [2]])]), (1, [(6, [[2]])])]⟩ ∧
    absFA (exec faOps) 5 = some ⟨⟨[2], [0], [(0, [7]), (2, [])]⟩, [(1, [(6, [[2], [0]])]), (0, [(5, [[1]])])]⟩ ∧
    absFA (exec faOps) 6 = absFA (exec faOps) 5 ∧
    (absFA (exec faOps) 7).map (fun v => (v.toNFA.start, v.toNFA.final, v.toNFA.trans)) =
      some ([2], [0], [(1, 5, 0), (2, 6, 1), (0, 6, 1), (0, 5, 3)]) ∧
    (absFA (exec faOps) 8).map (·.mem.final) = some [2, 11, 12, 0] ∧
    absFA (exec faOps) 9 = none ∧ (exec faOps).core.hl = [8, 7, 6, 5, 4, 3, 2, 1] := by decide +kernel

example : absFA (exec faOps) 1 =
    some ⟨⟨[2], [0], [(0, [7])]⟩, [(0, [(5, [[1]])]), (1, [(6, [[2], [0]])]), (3, [(5, [[0]])])]⟩ := faOps_run.1
/-- the union shows neither the later write to its left operand (`1 -6-> 0`) nor lost its own (`10 -6-> 10`) -/
example : absFA (exec faOps) 3 =
    some ⟨⟨[2, 11], [0, 10], [(0, [7]), (10, [7])]⟩,
      [(0, [(5, [[1]])]), (1, [(6, [[2]])]), (3, [(5, [[0]])]), (10, [(5, [[11]]), (6, [[10]])])]⟩ := faOps_run.2.1
/-- the result of `RemoveUnreachableStates` (state 3 is gone), with the later write `0 -5-> 2` to it -/
example : (absFA (exec faOps) 4).map (·.trans) = some [(0, [(5, [[1], [2]])]), (1, [(6, [[2]])])] := by
  rw [faOps_run.2.2.1]; rfl
/-- `RemoveUselessStates` / `GetCandidateTree` / `Reverse` of object 1 (after its last write) -/
example : (absFA (exec faOps) 5).map (·.trans) = some [(1, [(6, [[2], [0]])]), (0, [(5, [[1]])])] := by
  rw [faOps_run.2.2.2.1]; rfl
example : absFA (exec faOps) 6 = absFA (exec faOps) 5 := faOps_run.2.2.2.2.1
example : (absFA (exec faOps) 7).map (fun v => (v.toNFA.start, v.toNFA.final, v.toNFA.trans)) =
    some ([2], [0], [(1, 5, 0), (2, 6, 1), (0, 6, 1), (0, 5, 3)]) := faOps_run.2.2.2.2.2.1
/-- the copy of the union, reindexed into: the copy shares the map node, `ReindexStates` makes it private -/
example : (absFA (exec faOps) 8).map (·.mem.final) = some [2, 11, 12, 0] := faOps_run.2.2.2.2.2.2.1
example : absFA (exec faOps) 9 = none := faOps_run.2.2.2.2.2.2.2.1
/-- sharing really happens: after `UnionDisjointStates` and `RemoveUnreachableStates` the cluster of state 0 of object 1 is
used by three map nodes -/
example : (exec (faOps.take 12)).core.crc 1 = 3 ∧ (exec (faOps.take 12)).core.ml.length = 4 := by decide +kernel

/-! ### isolation -/

/-- a mutation through one handle never changes the value read through another handle; the operands of a library
function keep their values; nothing but the target of an operation comes to life or dies -/
theorem C11_fa_history_isolation (H : HeapFA) (op : Op) (x : Nat) (hI : InvFA H) (hx : x ≠ target op) :
    absFA (CowHeapFA.step H op) x = absFA H x := by
  rw [(fa_refines_values hI op).1, specStep_other _ _ _ hx]

/-- results keep their value when operands are mutated or destroyed: along every continuation of a history none of whose
operations targets `x`, the value read through `x` stays what it was -/
theorem C11_fa_result_keeps_value (ops₁ ops₂ : List Op) (x : Nat) (hx : ∀ op, op ∈ ops₂ → x ≠ target op) :
    absFA (exec (ops₁ ++ ops₂)) x = absFA (exec ops₁) x := by
  unfold exec
  rw [List.foldl_append]
  exact untouched_keeps_value (fa_history_inv ops₁) ops₂ x hx

/-- the union of objects 1 and 2 keeps its value when both operands are written to and then destroyed -/
example : absFA (exec ((faOps.take 11) ++ [.add 1 0 5 9, .setFinal 2 3, .destroy 1, .destroy 2])) 3 =
    absFA (exec (faOps.take 11)) 3 :=
  C11_fa_result_keeps_value _ _ 3 (by decide +kernel)
example : (absFA (exec (faOps.take 11)) 3).isSome = true := by decide +kernel

/-- the specification itself: an operation changes the value of its target only -/
theorem C11_fa_spec_independent (a : Nat → Option FAVal) (op : Op) (x : Nat) (hx : x ≠ target op) :
    specStep a op x = a x :=
  specStep_other a op x hx

/-! ### use counts, no garbage -/

/-- after every history: every `use_count` equals the number of referrers (handles for map nodes, entries of allocated map
nodes for cluster nodes), all pointers go to allocated nodes, every allocated node is in use; the executable checker
decides this -/
theorem C11_fa_use_counts (ops : List Op) :
    let H := (exec ops).core
    (∀ m, m ∈ H.ml → H.mrc m = CowHeap.indeg H.hl (fun h => [H.hmap h]) m ∧ 0 < H.mrc m) ∧
    (∀ c, c ∈ H.cl → H.crc c = CowHeap.indeg H.ml (CowHeap.mout H) c ∧ 0 < H.crc c) ∧
    (∀ h, h ∈ H.hl → H.hmap h ∈ H.ml) ∧ (∀ m, m ∈ H.ml → ∀ c, c ∈ CowHeap.mout H m → c ∈ H.cl) ∧
    invBFA (exec ops) = true := by
  have hI := fa_history_inv ops
  refine ⟨fun m hm => ⟨?_, hI.mpos m hm⟩, fun c hc => ⟨?_, hI.cpos c hc⟩, hI.hm, hI.mc, (invBFA_iff _).mpr hI⟩
  · have := hI.mrc m hm
    simp only [List.count_nil, Nat.add_zero] at this
    exact this
  · have := hI.crc c hc
    simpa using this

/-- nothing leaks: when all handles of a history have died – including the temporaries of `RemoveUselessStates` and
`GetCandidateTree`, which the operations destroy themselves – no map node and no cluster node is left -/
theorem C11_fa_no_garbage (ops : List Op) (hl : (exec ops).core.hl = []) :
    (exec ops).core.ml = [] ∧ (exec ops).core.cl = [] :=
  CowHeap.no_garbage (fa_history_inv ops) hl

/-- the temporaries are gone after the operation: only the objects of the history are alive … -/
example : (exec faOps).core.hl = [8, 7, 6, 5, 4, 3, 2, 1] := faOps_run.2.2.2.2.2.2.2.2
theorem faOps_destroyed : (exec (faOps ++ (List.range 9).map Op.destroy)).core.hl = [] := by decide +kernel
example : (exec (faOps ++ (List.range 9).map Op.destroy)).core.hl = [] := faOps_destroyed
/-- … and destroying them frees every node (41 identifiers were handed out) -/
example : (exec (faOps ++ (List.range 9).map Op.destroy)).core.ml = [] ∧
    (exec (faOps ++ (List.range 9).map Op.destroy)).core.cl = [] :=
  C11_fa_no_garbage _ faOps_destroyed

/-- the invariant hypothesis of `C11_fa_refines_values` is needed: on a heap whose cluster `use_count`s are too small, a write
through the result of `RemoveUnreachableStates` is done in place and changes the operand -/
theorem C11_fa_inv_needed :
    let Hbad : HeapFA :=
      { exec [.new 1, .setStart 1 0 7, .add 1 0 5 1, .unreach 1 2] with
        core := { (exec [.new 1, .setStart 1 0 7, .add 1 0 5 1, .unreach 1 2]).core with crc := fun _ => 1 } }
    invBFA Hbad = false ∧ absFA (CowHeapFA.step Hbad (.add 2 0 6 0)) 1 ≠ absFA Hbad 1 := by decide +kernel

/-! ### regression: the two tempting simplifications break isolation -/

/-- `uniqueCluster` without its `else if (!clusterPtr.unique())` clone ("the map is private, so its clusters are"):
after `UnionDisjointStates` the union's private map holds the cluster POINTERS of the right operand; a write to the union
then changes the right operand.  The class as coded does not. -/
theorem C11_fa_regression_uniqueCluster_union :
    let ops : List Op := [.new 1, .add 1 0 5 1, .new 2, .add 2 10 5 11, .unionDisj 1 2 3]
    absFA (stepNoClusterTest (ops.foldl stepNoClusterTest initFA) (.add 3 10 6 12)) 2 ≠
      absFA (ops.foldl stepNoClusterTest initFA) 2 ∧
    absFA (CowHeapFA.step (exec ops) (.add 3 10 6 12)) 2 = absFA (exec ops) 2 := by decide +kernel

/-- the same variant after a trimming result: `RemoveUnreachableStates` returns an object with a private map node whose
entries are the operand's cluster pointers; a write to the result changes the operand -/
theorem C11_fa_regression_uniqueCluster_unreach :
    let ops : List Op := [.new 1, .setStart 1 0 7, .add 1 0 5 1, .unreach 1 2]
    absFA (stepNoClusterTest (ops.foldl stepNoClusterTest initFA) (.add 2 0 6 0)) 1 ≠
      absFA (ops.foldl stepNoClusterTest initFA) 1 ∧
    absFA (CowHeapFA.step (exec ops) (.add 2 0 6 0)) 1 = absFA (exec ops) 1 := by decide +kernel

/-- `UnionDisjointStates` inserting into `res.transitions_` without `uniqueClusterMap()`: `res` is a COPY of `lhs` and
shares its map node, so the left operand acquires the transitions of the right one -/
theorem C11_fa_regression_union_uniqueClusterMap :
    let ops : List Op := [.new 1, .add 1 0 5 1, .new 2, .add 2 10 5 11]
    absFA (stepNoUniqueMap (exec ops) (.unionDisj 1 2 3)) 1 ≠ absFA (exec ops) 1 ∧
    absFA (CowHeapFA.step (exec ops) (.unionDisj 1 2 3)) 1 = absFA (exec ops) 1 := by decide +kernel

/-! ### the executable history runner -/

/-- `run ops` is what a driver compares with the real class: for every non-empty prefix of the history, the live handles
with the values read through them … -/
theorem C11_fa_run (ops : List Op) :
    run ops = (List.range ops.length).map (fun i => observe (exec (ops.take (i + 1)))) ∧
    ∀ (H : HeapFA) (h : Nat) (v : FAVal), (h, v) ∈ observe H ↔ absFA H h = some v :=
  ⟨run_eq ops, mem_observe⟩

/-- … which are the values of the independent-values specification -/
theorem C11_fa_run_spec (ops : List Op) (i : Nat) (h : Nat) (v : FAVal) :
    (h, v) ∈ observe (exec (ops.take (i + 1))) ↔ (ops.take (i + 1)).foldl specStep specInit h = some v := by
  rw [mem_observe, fa_history_isolation]

example : (run faOps).length = 21 ∧ ((run faOps)[10]?).map (·.map Prod.fst) = some [1, 2, 3] := by decide +kernel

/-! ### totality of the reachability loop -/

/-- the fuel of `reachStates` (the work-list loop of `RemoveUnreachableStates`, used by `vUnreach`, `vUseless`, `vCandidate`)
suffices: with any larger fuel the loop returns the same `reachableStates`, i.e. it has stopped because `newStates` is empty
(every iteration pops one state, and a state is pushed only when it is inserted into `reachableStates` for the first time) -/
theorem C11_fa_reach_fuel (v : FAVal) (k : Nat) :
    reachLoop v.trans ((v.mem.start.foldl Vata.insN []).length + (transOf v.trans).length + 1 + k)
        (v.mem.start.foldl Vata.insN []) (v.mem.start.foldl Vata.insN []).reverse =
      reachStates v := by
  show _ = reachLoop v.trans ((v.mem.start.foldl Vata.insN []).length + (transOf v.trans).length + 1)
    (v.mem.start.foldl Vata.insN []) (v.mem.start.foldl Vata.insN []).reverse
  rw [reachLoop_eq, reachLoop_eq, Closure.reachLoop_add _ _ _ _ (reachStates_done v)]

example : reachStates ⟨⟨[2], [0, 0], []⟩, [(0, [(5, [[1]])]), (1, [(6, [[2], [0]])]), (3, [(5, [[0]])])]⟩ = [0, 1, 2] := by
  decide +kernel

/-- the same for the search loop of `GetCandidateTree` (`candSearch`, used by `vCandRaw` / `vCandidate`) -/
theorem C11_fa_candidate_fuel (v : FAVal) (k : Nat) :
    candLoop v (v.mem.start.length + (transOf v.trans).length + 1 + k)
        (candStart v v.mem.start ⟨[], [], ⟨[], [], []⟩, [], false⟩) = candSearch v :=
  candSearch_fuel v k

/-- the search stops at the first final state found: only the clusters of the states expanded so far are taken -/
example : (candSearch ⟨⟨[2], [0], [(0, [7])]⟩, [(0, [(5, [[1]])]), (1, [(6, [[2], [0]])]), (3, [(5, [[0]])])]⟩).keys = [0, 1] ∧
    (candSearch ⟨⟨[2], [0], [(0, [7])]⟩, [(0, [(5, [[1]])]), (1, [(6, [[2], [0]])]), (3, [(5, [[0]])])]⟩).done = true := by
  decide +kernel

/-! ### what the values denote -/

/-- the setters on `FAVal` are the setters of the automaton model `NFAS` of `Vata/NfaStart.lean` -/
theorem C11_fa_denote_setters (v : FAVal) (q a : Nat) (S : List Nat) :
    (vSetFinal q v).toNFAS = nfasSetFinal v.toNFAS q ∧ (vSetStart q a v).toNFAS = nfasSetStart v.toNFAS q a ∧
    (vSetExistingStart q S v).toNFAS = nfasSetExistingStart v.toNFAS q S ∧ vNew.toNFAS = nfasEmpty :=
  ⟨rfl, rfl, rfl, rfl⟩

example : (vAdd 0 5 1 (vAdd 0 5 2 vNew)).toNFA.trans = [(0, 5, 2), (0, 5, 1)] := by decide +kernel

/-!
## still not proved

* That `vUnreach` / `vReverse` / `vUseless` / `vCandidate` / `vUnionDisj` / `vReindex` / `vAdd` denote (via
  `FAVal.toNFAS`, up to the order of the lists) the operations `nfasRemoveUnreachable` … `nfasAddTrans` of
  `Vata/NfaStart.lean` whose language theorems are C10's.  Only the three setters and the empty automaton are linked
  (`C11_fa_denote_setters`, by `rfl`).  The copy-on-write theorems above do not depend on it.
* `Union(lhs, rhs)` is given as the operation list `unionOps` (`new`, `reindex`, `reindex`) with pure index functions; the
  stateful translator `StateToStateTranslWeak` is not modelled here (C10 has `Vata/UnionIsectMaps.lean` for it).
* `Intersection`, `Complement` (not implemented in the C++), `CheckInclusion`, the simulation functions and
  `TranslateToLTS` only read their operands or build results by `AddTransition`; they are not spelled out as operations.
  `loadFromAutDescInternal` is a sequence of `setFinal` / `setStart` / `add`.
* The interleaving of reads of the operand with writes to the result inside `ReindexStates` / `Reverse` is modelled by
  reading the operand's value first; that this is the same is a consequence of isolation but is not stated as a theorem
  about a finer-grained model.  The transient `use_count` increments of local `shared_ptr` copies (`auto clusterMap`,
  `auto cluster`, the by-value loop variables of `Reverse` / `GetCandidateTree`) are not modelled (nothing tests them).
* `alphabet_` (a `shared_ptr` to the symbol dictionary, copied by every copy) and `globalAlphabet_` are not modelled.
* As for the other heap models: that `step` is a faithful transcription of the C++ is not a theorem; the link is the driver
  comparison of `run` with the real class.
-/
end Vata.Props
