import Vata.RcStoreX
import Vata.Proofs.RcStore
/-!
# The extended history model `Vata/RcStoreX.lean`: where its invariants (C18) are proved

`Project` leaves nodes with counter 0 in the unique tables, so the invariant between the operations of an arbitrary
history is `WInv s []` (counters = number of referrers, tables = allocated nodes, nothing failed) WITHOUT "no allocated
node has counter 0" (`NZ`).  `NZ` is preserved by every operation except `project`.

* `copy`, `assign`, `destroy`, `construct`, the binary apply and the tail of `constructMTBDD` on an arbitrary root are stated
  for `WInv` alone in `Vata/Proofs/RcStore.lean`, `Vata/Proofs/RcStoreHist.lean` (`RcS.OpOk`, `RcS.cube_adds`)
* the builders and `stepS_spec` (every operation: `WInv`, `Frame`, `NZ` unless it is a `project`, and `WfInv` iff its side
  condition holds; the fuel given by the callers suffices) are in `Vata/Proofs/RcStoreXOps.lean`, the histories in
  `Vata/Proofs/RcStoreXHist.lean`

This file itself holds three small facts: `nz_of_zsub_nil`, `cubeFinish_hs`, `buildCubeT_eq`.
-/
namespace Vata.RcSX
open Vata.RcS

theorem nz_of_zsub_nil {s : Store} (h : ZSub s []) : NZ s := zsub_nil_iff.mp h

theorem cubeFinish_hs (r : Store × Nat) (node sink d : Nat) : (cubeFinish r node sink d).hs = r.1.hs := by
  unfold cubeFinish
  split
  · split <;> rfl
  · rfl

/-- with the translation `var ↦ var + offset` the loop is the loop of the 3-argument constructor started at `offset` -/
theorem buildCubeT_eq (off sink : Nat) : ∀ (as : List (Option Bool)) (s : Store) (proc i : Nat),
    buildCubeT (fun x => x + off) sink s proc i as = buildCube sink s proc (i + off) as
  | [], _, _, _ => rfl
  | a :: as, s, proc, i => by
    -- don't care, one, zero: alike
    rcases a with _ | _ | _ <;> simp only [buildCubeT, buildCube] <;>
      rw [buildCubeT_eq off sink as _ _ (i+1), Nat.add_right_comm]

end Vata.RcSX
