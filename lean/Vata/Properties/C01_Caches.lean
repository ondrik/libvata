import Vata.Proofs.FunctorCachesUp
import Vata.Properties.C01
import Vata.Properties.CacheWiring
/-!
# C01 – the caches of the upward tree inclusion algorithm are transparent (with the library's deleter)

Corollaries of `Vata/Proofs/FunctorCachesUp.lean` (model: `Vata/FunctorCachesUp.lean`) for the selection "upward, no
simulation" of property C01.  The model `inclUp` / `checkInclUp` behind `C01_upward_model_exact` compares macro-states by value;
the code interns them in `biggerTypeCache` (a `Util::Cache`: objects held by `shared_ptr`s, they DIE, addresses are recycled)
and memoises `lte` and `evalTransitions` in two `CachedBinaryOp` tables keyed by those addresses.

How the statement is read into the model.  `checkInclUpC w pick A B fuel` is `CheckInclusion` (upward, no simulation) with the
three caches as coded: `w : CM.Wiring` is what the deleter handed to `biggerTypeCache` does (`.lib`: the library's –
`Vata.CacheWiring.cache_wiring_is_lib` proves that the deleters regenerated from the sources denote it), `pick` is the
allocator (which address a new macro-state gets, given the live ones; every allocator is some `pick`).  Reference counting is
modelled by its effect (the objects without a handle die where the handles are dropped).  `FCU.runC` is the exploration alone,
`FCU.rawVerdictU` its `return true` / `return false` before the certificate check of the model.
-/
namespace Vata.Props
open Vata.InclUp Vata.FCU Vata.CM

/-- **`biggerTypeCache`, `lteCache`, `evalTransitionsCache` are transparent (upward, no simulation) – for every allocator.**
With the library's deleter, `CheckInclusion` with the caches as coded returns, for all operands and every fuel, exactly what the
cache-free model `checkInclUp` returns (the same verdict with the same antichain / witness, `none` at the same fuel), however
the addresses of dead macro-states are recycled; the same for the exploration alone. -/
theorem C01_upward_caches_transparent (pick : List Nat → Nat) (A B : TA) (fuel : Nat) :
    checkInclUpC .lib pick A B fuel = checkInclUp A B fuel ∧
    inclUpC .lib pick A B fuel = inclUp A B fuel ∧
    viewU (runC .lib pick A B fuel) = InclUp.run A B fuel :=
  ⟨checkInclUp_cached_eq pick A B fuel, inclUp_cached_eq pick A B fuel, runC_eq pick A B fuel⟩

/-- … in the form of `C01_upward_model_exact`: exact and total with the caches -/
theorem C01_upward_cached_exact (pick : List Nat → Nat) (A B : TA) :
    (∀ fuel b c, checkInclUpC .lib pick A B fuel = some (b, c) → (b = true ↔ Incl A B)) ∧
    (∀ fuel, fuelBound (removeUseless A) (removeUseless B) < fuel →
      (Incl A B → ∃ c, checkInclUpC .lib pick A B fuel = some (true, c)) ∧
      (¬ Incl A B → ∃ c, checkInclUpC .lib pick A B fuel = some (false, c))) := by
  simp only [checkInclUp_cached_eq]
  exact C01_upward_model_exact A B

/-- the wiring the theorem assumes is the one in the sources -/
example : Vata.Gen.cacheWiring.map Vata.CacheWiring.wiringOf = [.lib, .lib, .lib] := Vata.CacheWiring.cache_wiring_is_lib

-- non-vacuity: a run in which macro-states die and their addresses are reused at once
example : (checkInclUpC .lib pickLeast FCUEx.exWA FCUEx.exWB 20).map (·.1) = some false := by decide +kernel
example : (finalHeap (runC .lib pickLeast FCUEx.exSA FCUEx.exSB 20)).map
    (fun h => (h.store.length, h.lte.store.length, h.ev.store.length)) = some (1, 0, 2) :=
  Option.map_of_map FCUEx.exS_lib_run (fun t => (t.1, t.2.1, t.2.2.1))

/-- **the invariant behind it** (the one of `Util_Cache_memo_sound`, here along the run of the algorithm): at the end of every
run with the library's deleter, for every allocator, every entry of `lteCache` is about two LIVE macro-states and holds `⊆` of
their current values, every entry of `evalTransitionsCache` is about a live macro-state and holds `noncachedEvalTransitions` of
its current value (`FCU.HInv`, kept by every step of the simulation `FCU.URel`; `FCU.hCollect_spec` is the step where objects die) -/
theorem C01_upward_memo_sound (pick : List Nat → Nat) (A B : TA) (fuel : Nat) (h : Heap)
    (hf : finalHeap (runC .lib pick A B fuel) = some h) :
    (∀ a b r, aget h.lte.store (a, b) = some r → a ∈ h.addrs ∧ b ∈ h.addrs ∧ r = subB (hval h a) (hval h b)) ∧
    (∀ k b r, aget h.ev.store (k, b) = some r → b ∈ h.addrs ∧ r = evalT B k (hval h b)) ∧ heapOKB B h = true :=
  ⟨(runC_heap_sound pick A B fuel hf).1.sl, (runC_heap_sound pick A B fuel hf).1.se, (runC_heap_sound pick A B fuel hf).2⟩

/-- **the computation behind `evalTransitionsCache`**: `evalTransitions` for every position, `intersectionByLookup`, the states
of the transitions that are left, sorted – is the macro-state `post_B f (S₁ … Sₙ)` of the model (`n ≥ 1`; the rank is part of the
key, as it is part of a symbol in the library) -/
theorem C01_upward_eval_is_post (B : TA) (f : Nat) (Ss : List (List Nat)) (hne : Ss ≠ []) :
    normS (parentsOf B (interAll (evalPure B f Ss.length Ss 0))) = macroPost B f Ss :=
  congrArg normS (parents_eq_post B f hne)

example : normS (parentsOf InclUpEx.exH (interAll (evalPure InclUpEx.exH 2 2 [[3, 4], [3]] 0))) = [9] := by decide

/-- **the wiring matters at the level of the algorithm** (the statement `Util_Cache_wiring_counterexample` makes about a
history of the two classes, here about `checkInternal`).  With an allocator that recycles the address of a dead macro-state
at once, the default deleter (`.none`) and the one-word slip (`.firstTwice`: `invalidateFirst` twice) (1) make the exploration
of `exWA ⊆ exWB` end with `return true` although `f(g(a), f(a, g(a)))` is accepted by `A` only – the library's deleter answers
`false` –, and (2) leave, on `exSA ⊆ exSB`, a memo table with an entry that is not the value of the memoised function on the
objects now at its addresses. -/
theorem C01_upward_wiring_matters :
    (rawVerdictU (runC .none pickLeast FCUEx.exWA FCUEx.exWB 20) = some true ∧
     rawVerdictU (runC .firstTwice pickLeast FCUEx.exWA FCUEx.exWB 20) = some true ∧
     rawVerdictU (runC .lib pickLeast FCUEx.exWA FCUEx.exWB 20) = some false ∧ ¬ Incl FCUEx.exWA FCUEx.exWB) ∧
    ((finalHeap (runC .none pickLeast FCUEx.exSA FCUEx.exSB 20)).map (heapOKB FCUEx.exSB) = some false ∧
     (finalHeap (runC .firstTwice pickLeast FCUEx.exSA FCUEx.exSB 20)).map (heapOKB FCUEx.exSB) = some false ∧
     (finalHeap (runC .lib pickLeast FCUEx.exSA FCUEx.exSB 20)).map (heapOKB FCUEx.exSB) = some true) :=
  ⟨FCUEx.wiring_changes_verdict, FCUEx.wiring_breaks_invariant⟩

/-- whatever the wiring and the allocator: a verdict that passes the certificate check of the model is right -/
theorem C01_upward_cached_verdicts (w : Wiring) (pick : List Nat → Nat) (A B : TA) (fuel : Nat) (b : Bool) (c : Cert)
    (h : inclUpC w pick A B fuel = some (b, c)) : b = true ↔ Incl A B :=
  InclDown.finish_iff (fun _ => upCertB_incl) ((finishUp_eq A B _).symm.trans h)

example : inclUpC .none pickLeast FCUEx.exWA FCUEx.exWB 20 = none := FCUEx.wiring_certificate_rejects.1

/-!
## which "not yet proved" items of `C01.lean` this file closes

* `C01.lean` has no item of its own for the caches of the UPWARD algorithm – `Vata/InclUp.lean` compares macro-states by value
  without saying so in that block (the item on "address-keyed caches … replaced by value comparison" is about the downward
  algorithm).  This file supplies the missing statement for the selection "upward, no simulation": interning with deaths and
  address reuse, `lteCache`, `evalTransitionsCache` are transparent under the library's deleter, for every allocator
  (`C01_upward_caches_transparent`), and the deleter's wiring is needed (`C01_upward_wiring_matters`).

## not proved here

* the upward algorithm WITH a simulation (`inclUpSim`) and the downward algorithms (`lteCache` of `tree_incl_down.hh` /
  `explicit_tree_incl_down.cc`): no cached model;
* reference counting is modelled by its effect (`hCollect` at the points where handles are dropped), not by counters; the
  `shared_ptr` mechanics themselves are in `Vata/CacheModel.lean` (`Util_Cache_*`).  The leaf phase acquires `ptr` once per leaf
  rule (the C++: once per symbol); iteration orders as in `Vata/InclUp.lean`.
-/
end Vata.Props
