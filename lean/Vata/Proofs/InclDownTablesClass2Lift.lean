import Vata.Proofs.InclDownTablesDump
/-!
# Idempotence of a functor call on its own post-state: the generic lifting (property C07)

A *frame* is an invariant `G` on the pair (`childrenCache`, global state) of one functor and a preorder `Le` ("later in the life of
the same functor").  `Good Φ R F F' F''` says about three state-threading steps, for every state that satisfies `G`:

* `F` and `F'` return the same result (`F` = the step with the calls of the code, `F'` = the step with the calls of the model);
* a finished `F` keeps `G`, ends in a later state, and in EVERY later state `F''` (the same step, possibly with another ghost
  symbol) returns a result of the same kind WITHOUT touching the state (the step is idempotent on its post-state).

The property is lifted from the recursive call through every loop of `DownwardInclusionFunctor::operator()`
(`forAllL`, `allPos`, `anyTuple`, `tryPos`, `oneCf`, `cfAll`, `procTuple`, `procLeaf`), and yields the de-duplication lemma
`forAllL_firsts_good`: in a loop over items, an item whose pair of leaves was processed before (result `holds`) can be dropped.
-/
namespace Vata
namespace InclDownTables
open BddTraverse InclDown
open InclUp (normS prodWit Wit)

structure Frame where
  G : List Pair → St → Prop
  Le : List Pair → St → List Pair → St → Prop
  refl : ∀ cc st, Le cc st cc st
  trans : ∀ {c1 s1 c2 s2 c3 s3}, Le c1 s1 c2 s2 → Le c2 s2 c3 s3 → Le c1 s1 c3 s3

abbrev Step (α : Type) := List Pair → St → Option (α × List Pair × St)

def Good (Φ : Frame) {α : Type} (R : α → α → Prop) (F F' F'' : Step α) : Prop :=
  ∀ cc st, Φ.G cc st → F cc st = F' cc st ∧
    ∀ v cc' st', F cc st = some (v, cc', st') → Φ.G cc' st' ∧ Φ.Le cc st cc' st' ∧
      ∀ c2 s2, Φ.Le cc' st' c2 s2 → Φ.G c2 s2 → ∃ v', R v v' ∧ F'' c2 s2 = some (v', c2, s2)

/-- the same kind of verdict (the witness trees may differ) -/
def sameKind : Verdict → Verdict → Prop
  | .holds, .holds => True
  | .fails _, .fails _ => True
  | _, _ => False

theorem sameKind_holds {v : Verdict} (h : sameKind .holds v) : v = .holds := by
  cases v with
  | holds => rfl
  | fails w => cases h

def CallGood (Φ : Frame) (call call' call'' : Call) : Prop :=
  ∀ x X, X ≠ [] → Good Φ sameKind (fun cc st => call cc st x X) (fun cc st => call' cc st x X)
    (fun cc st => call'' cc st x X)

variable {Φ : Frame}

def bindS {α β : Type} (F : Step α) (K : α → Step β) : Step β := fun cc st =>
  match F cc st with
  | none => none
  | some (v, cc', st') => K v cc' st'

theorem good_pure {α : Type} {R : α → α → Prop} {v v'' : α} (h : R v v'') :
    Good Φ R (fun cc st => some (v, cc, st)) (fun cc st => some (v, cc, st)) (fun cc st => some (v'', cc, st)) := by
  intro cc st hG
  refine ⟨rfl, fun v0 cc' st' h0 => ?_⟩
  cases h0
  exact ⟨hG, Φ.refl _ _, fun c2 s2 _ _ => ⟨v'', h, rfl⟩⟩

/-- in a later state the first step repeats its result without touching the state, hence so does the sequence -/
theorem good_bind {α β : Type} {R : α → α → Prop} {S : β → β → Prop} {F F' F'' : Step α}
    {K K' K'' : α → Step β} (hF : Good Φ R F F' F'') (hK : ∀ v v', R v v' → Good Φ S (K v) (K' v) (K'' v')) :
    Good Φ S (bindS F K) (bindS F' K') (bindS F'' K'') := by
  intro cc st hG
  obtain ⟨e1, p1⟩ := hF cc st hG
  simp only [bindS]
  rw [← e1]
  cases hr : F cc st with
  | none => exact ⟨rfl, fun _ _ _ h => nomatch h⟩
  | some r =>
    obtain ⟨v1, cc1, st1⟩ := r
    obtain ⟨g1, l1, q1⟩ := p1 v1 cc1 st1 hr
    obtain ⟨v0, hv0, _⟩ := q1 cc1 st1 (Φ.refl _ _) g1
    refine ⟨(hK v1 v0 hv0 cc1 st1 g1).1, fun v cc' st' h => ?_⟩
    obtain ⟨g2, l2, _⟩ := (hK v1 v0 hv0 cc1 st1 g1).2 v cc' st' h
    refine ⟨g2, Φ.trans l1 l2, fun c2 s2 hle hG2 => ?_⟩
    obtain ⟨v', hk, he⟩ := q1 c2 s2 (Φ.trans l2 hle) hG2
    obtain ⟨v'', hk2, he2⟩ := ((hK v1 v' hk cc1 st1 g1).2 v cc' st' h).2.2 c2 s2 hle hG2
    exact ⟨v'', hk2, by rw [he]; exact he2⟩

theorem forAllL_cons {α : Type} (f : α → List Pair → St → Ret) (a : α) (l : List α) :
    forAllL f (a :: l) = bindS (f a) (fun v => match v with
      | .holds => forAllL f l
      | .fails w => fun cc st => some (.fails w, cc, st)) := by
  funext cc st
  simp only [forAllL, bindS]
  rcases f a cc st with _ | ⟨_ | w, cc', st'⟩ <;> rfl

theorem good_forAllL {α : Type} {f f' f'' : α → List Pair → St → Ret} (l : List α)
    (H : ∀ a, a ∈ l → Good Φ sameKind (f a) (f' a) (f'' a)) :
    Good Φ sameKind (forAllL f l) (forAllL f' l) (forAllL f'' l) := by
  induction l with
  | nil => exact good_pure (v := Verdict.holds) trivial
  | cons a l ih =>
    rw [forAllL_cons, forAllL_cons, forAllL_cons]
    refine good_bind (H a List.mem_cons_self) (fun v v' hk => ?_)
    match v, v', hk with
    | .holds, .holds, _ => exact ih (fun b hb => H b (List.mem_cons_of_mem _ hb))
    | .fails _, .fails _, _ => exact good_pure trivial

theorem good_allPos {call call' call'' : Call} (hc : CallGood Φ call call' call'') (lhs rhs : List Nat) :
    Good Φ sameKind (allPos call lhs rhs) (allPos call' lhs rhs) (allPos call'' lhs rhs) :=
  good_forAllL _ (fun lr _ => hc lr.1 [lr.2] (List.cons_ne_nil _ _))

theorem anyTuple_cons (call : Call) (lhs w : List Nat) (W : List (List Nat)) :
    anyTuple call lhs (w :: W) = bindS (allPos call lhs w) (fun v => match v with
      | .holds => fun cc st => some (true, cc, st)
      | .fails _ => anyTuple call lhs W) := by
  funext cc st
  simp only [anyTuple, bindS]
  rcases allPos call lhs w cc st with _ | ⟨_ | w, cc', st'⟩ <;> rfl

theorem good_anyTuple {call call' call'' : Call} (hc : CallGood Φ call call' call'') (lhs : List Nat)
    (W : List (List Nat)) : Good Φ Eq (anyTuple call lhs W) (anyTuple call' lhs W) (anyTuple call'' lhs W) := by
  induction W with
  | nil => exact good_pure (v := false) rfl
  | cons w W ih =>
    rw [anyTuple_cons, anyTuple_cons, anyTuple_cons]
    refine good_bind (good_allPos hc lhs w) (fun v v' hk => ?_)
    match v, v', hk with
    | .holds, .holds, _ => exact good_pure rfl
    | .fails _, .fails _, _ => exact ih

/-- both `none` (a position holds) or both a list of trees -/
def sameOpt (a b : Option (List Tree)) : Prop := a.isSome = b.isSome

theorem consT_bind (t : Tree) (F : Step (Option (List Tree))) (cc : List Pair) (st : St) :
    consT t (F cc st) = bindS F (fun v cc st => some (v.map (t :: ·), cc, st)) cc st := by
  simp only [bindS]
  rcases F cc st with _ | ⟨_ | ts, cc', st'⟩ <;> rfl

theorem good_consT {F F' F'' : Step (Option (List Tree))} (h : Good Φ sameOpt F F' F'') (t t'' : Tree) :
    Good Φ sameOpt (bindS F (fun v cc st => some (v.map (t :: ·), cc, st)))
      (bindS F' (fun v cc st => some (v.map (t :: ·), cc, st)))
      (bindS F'' (fun v cc st => some (v.map (t'' :: ·), cc, st))) :=
  good_bind h (fun v v' hk => good_pure (by unfold sameOpt at hk ⊢; rw [Option.isSome_map, Option.isSome_map, hk]))

theorem tryPos_cons (call : Call) (wit : Wit) (post : List Nat → List Nat) (W : List (List Nat)) (cs : List Nat)
    (i l : Nat) (ls : List Nat) :
    tryPos call wit post W cs i (l :: ls) =
      if (posSet post W cs i).isEmpty then
        bindS (tryPos call wit post W cs (i+1) ls) (fun v cc st => some (v.map (InclDown.treeOf wit l :: ·), cc, st))
      else
        bindS (fun cc st => call cc st l (posSet post W cs i)) (fun v => match v with
          | .holds => fun cc st => some (none, cc, st)
          | .fails w => bindS (tryPos call wit post W cs (i+1) ls) (fun v cc st => some (v.map (w :: ·), cc, st))) := by
  funext cc st
  simp only [tryPos]
  split
  · exact consT_bind _ _ cc st
  · simp only [bindS]
    rcases call cc st l (posSet post W cs i) with _ | ⟨_ | w, cc', st'⟩
    · rfl
    · rfl
    · exact consT_bind _ _ cc' st'

theorem good_tryPos {call call' call'' : Call} (hc : CallGood Φ call call' call'') (wit : Wit)
    (post : List Nat → List Nat) (W : List (List Nat)) (cs : List Nat) (ls : List Nat) :
    ∀ (i : Nat), Good Φ sameOpt (tryPos call wit post W cs i ls) (tryPos call' wit post W cs i ls)
      (tryPos call'' wit post W cs i ls) := by
  induction ls with
  | nil => exact fun _ => good_pure (v := some []) rfl
  | cons l ls ih =>
    intro i
    rw [tryPos_cons, tryPos_cons, tryPos_cons]
    split
    · exact good_consT (ih (i+1)) _ _
    · next hS =>
      refine good_bind (hc l _ (fun h0 => hS (by rw [h0]; rfl))) (fun v v' hk => ?_)
      match v, v', hk with
      | .holds, .holds, _ => exact good_pure rfl
      | .fails _, .fails _, _ => exact good_consT (ih (i+1)) _ _

theorem oneCf_eq (call : Call) (wit : Wit) (post : List Nat → List Nat) (f : Nat) (lhs : List Nat)
    (W : List (List Nat)) (cs : List Nat) :
    oneCf call wit post f lhs W cs = bindS (tryPos call wit post W cs 0 lhs) (fun v cc st => match v with
      | some ts => some (.fails (.node f ts), cc, st)
      | none => some (.holds, cc, st)) := by
  funext cc st
  simp only [oneCf, bindS]
  rcases tryPos call wit post W cs 0 lhs cc st with _ | ⟨_ | ts, cc', st'⟩ <;> rfl

theorem good_oneCf {call call' call'' : Call} (hc : CallGood Φ call call' call'') (wit : Wit)
    (post : List Nat → List Nat) (f f'' : Nat) (lhs : List Nat) (W : List (List Nat)) (cs : List Nat) :
    Good Φ sameKind (oneCf call wit post f lhs W cs) (oneCf call' wit post f lhs W cs)
      (oneCf call'' wit post f'' lhs W cs) := by
  rw [oneCf_eq, oneCf_eq, oneCf_eq]
  refine good_bind (good_tryPos hc wit post W cs lhs 0) (fun v v' hk => ?_)
  match v, v', hk with
  | none, none, _ => exact good_pure trivial
  | some _, some _, _ => exact good_pure trivial

theorem good_cfAll {one one' one'' : List Nat → List Pair → St → Ret} (n : Nat)
    (h1 : ∀ cs, Good Φ sameKind (one cs) (one' cs) (one'' cs)) (m : Nat) :
    ∀ (cs : List Nat), Good Φ sameKind (cfAll one n m cs) (cfAll one' n m cs) (cfAll one'' n m cs) := by
  induction m with
  | zero => exact h1
  | succ m ih =>
    exact fun cs => good_forAllL (f := fun i cc st => cfAll one n m (i :: cs) cc st) _ (fun i _ => ih (i :: cs))

theorem procTuple_eq (call1 call2 : Call) (wit : Wit) (post : List Nat → List Nat) (f : Nat) (W : List (List Nat))
    (lhs : List Nat) :
    procTuple call1 call2 wit post f W lhs = bindS (anyTuple call1 lhs W) (fun b => match b with
      | true => fun cc st => some (.holds, cc, st)
      | false => cfAll (oneCf call2 wit post f lhs W) lhs.length W.length []) := by
  funext cc st
  simp only [procTuple, bindS]
  rcases anyTuple call1 lhs W cc st with _ | ⟨_ | _, cc', st'⟩ <;> rfl

theorem good_procTuple {call call' call'' : Call} (hc : CallGood Φ call call' call'') (wit : Wit)
    (post : List Nat → List Nat) (f f'' : Nat) (W : List (List Nat)) (lhs : List Nat) :
    Good Φ sameKind (procTuple call call wit post f W lhs) (procTuple call' call' wit post f W lhs)
      (procTuple call'' call'' wit post f'' W lhs) := by
  rw [procTuple_eq, procTuple_eq, procTuple_eq]
  refine good_bind (good_anyTuple hc lhs W) (fun b b' hk => ?_)
  subst hk
  cases b with
  | true => exact good_pure trivial
  | false => exact good_cfAll lhs.length (fun cs => good_oneCf hc wit post f f'' lhs W cs) W.length []

theorem good_procLeaf {Φ : Frame} {call call' call'' : Call} (hc : CallGood Φ call call' call'') (wit : Wit)
    (post : List Nat → List Nat) (f f'' : Nat) (L W : List (List Nat)) :
    Good Φ sameKind (procLeaf call call wit post f L W) (procLeaf call' call' wit post f L W)
      (procLeaf call'' call'' wit post f'' L W) := by
  match L, W with
  | [], _ => exact good_pure trivial
  | [] :: _, [] => exact good_pure trivial
  | [] :: _, _ :: _ => exact good_pure trivial
  | (_ :: _) :: _, [] => exact good_pure trivial
  | (_ :: _) :: _, _ :: _ => exact good_forAllL _ (fun lhs _ => good_procTuple hc wit post f f'' _ lhs)

/-- a loop over items: an item whose pair of leaves is among `seen` (processed before with result `holds`) or occurred earlier in
the list is a call without effect – the idempotence of a call of the functor on its own post-state -/
theorem forAllL_firsts_good {F F' : It → List Pair → St → Ret}
    (hF : ∀ i j : It, i.2 = j.2 → Good Φ sameKind (F i) (F' i) (F j)) (l : List It) :
    ∀ (seen : List (LS × LS)) (cc : List Pair) (st : St), Φ.G cc st →
      (∀ i : It, i.2 ∈ seen → ∀ c2 s2, Φ.Le cc st c2 s2 → Φ.G c2 s2 → F i c2 s2 = some (.holds, c2, s2)) →
      forAllL F l cc st = forAllL F (firsts l seen) cc st := by
  induction l with
  | nil => exact fun _ _ _ _ _ => rfl
  | cons i l ih =>
    intro seen cc st hG H
    by_cases hm : i.2 ∈ seen
    · rw [firsts_cons_pos hm, forAllL, H i hm cc st (Φ.refl _ _) hG]
      exact ih seen cc st hG H
    · rw [firsts_cons_neg hm, forAllL, forAllL]
      rcases hr : F i cc st with _ | ⟨_ | w, cc', st'⟩
      · rfl
      · have hg := fun j (he : i.2 = j.2) => ((hF i j he) cc st hG).2 .holds cc' st' hr
        obtain ⟨g1, l1, _⟩ := hg i rfl
        refine ih _ cc' st' g1 (fun k hk c2 s2 hle hG2 => ?_)
        rcases List.mem_append.mp hk with hk | hk
        · exact H k hk c2 s2 (Φ.trans l1 hle) hG2
        · -- `k` repeats `i`: idempotence of the call on its own later states
          obtain ⟨v', hk', he'⟩ := (hg k (List.mem_singleton.mp hk).symm).2.2 c2 s2 hle hG2
          rwa [sameKind_holds hk'] at he'
      · rfl

end InclDownTables
end Vata
