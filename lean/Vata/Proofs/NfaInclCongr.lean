import Vata.Proofs.NfaIncl
/-!
# The exploration of `nfaInclCongr` is right by itself (on operands with disjoint states)

The main theorems of `Vata/Proofs/NfaIncl.lean` trust only the final Boolean checks.  Here the work-list algorithm of the
congruence model is analysed, for operands `A`, `B` with disjoint sets of states (what `SanitizeAutsForInclusion`
produces) and `U = A ⊎ B`.  When the exploration ends with `return false` at the word `w`, then `A` accepts `w` and `B` does
not (so the final check never turns a `false` run into `none`); when it ends with `return true`, the final relation is a
bisimulation up to congruence that relates the start macro-states (`CongrCert`): the pruning by the congruence closure of
`next_ ∪ relation_` (Bonchi–Pous) is sound.

The congruence functors of `Vata/NfaInclSim.lean` (`loopEquiv`, `loopCongrSim`) run the same loop with another test at the
head of `MakePost`.  The loop is analysed once with that test as a parameter (`loopSkip`, `runSkip_inv`); what a test has
to satisfy is that a skipped pair is in the congruence closure of the rules at hand.
-/
namespace Vata
open Vata.W
namespace NfaIncl


theorem CongrCl.subst {R R' : List CRule} (h : ∀ p, p ∈ R → CongrCl R' p.1 p.2) {X Y : List Nat}
    (hc : CongrCl R X Y) : CongrCl R' X Y := by
  induction hc with
  | base hm => exact h _ hm
  | refl he => exact .refl he
  | symm _ ih => exact .symm ih
  | trans _ _ ih1 ih2 => exact .trans ih1 ih2
  | union _ _ ih1 ih2 => exact .union ih1 ih2

theorem CongrCl.mono {R R' : List CRule} (h : ∀ p, p ∈ R → p ∈ R') {X Y : List Nat} (hc : CongrCl R X Y) :
    CongrCl R' X Y :=
  hc.subst (fun p hp => .base (h p hp))


/-- what a sweep that started inside the class of `b` leaves: the unused rules and a set of the class, or (early exit) a
set of the class that contains `s` -/
def SweepOK (R : List CRule) (s b : List Nat) : Option (List CRule × List Nat × Bool) → Prop
  | some (un, set, _) => (∀ r, r ∈ un → r ∈ R) ∧ CongrCl R b set
  | none => ∃ set, CongrCl R b set ∧ ∀ x, x ∈ s → x ∈ set

theorem sweep_sound {R : List CRule} {s b : List Nat} : ∀ (rs un : List CRule) (set : List Nat) (ap : Bool),
    (∀ r, r ∈ rs → r ∈ R) → (∀ r, r ∈ un → r ∈ R) → CongrCl R b set → SweepOK R s b (sweep s rs un set ap)
  | [], un, _, _, _, hun, hset => ⟨fun r hr => hun r (List.mem_reverse.mp hr), hset⟩
  | r :: rs, un, set, ap, hrs, hun, hset => by
    have hrs' : ∀ r', r' ∈ rs → r' ∈ R := fun r' h => hrs r' (List.mem_cons_of_mem _ h)
    have hr : r ∈ R := hrs r List.mem_cons_self
    unfold sweep
    by_cases hm : Vata.subB r.2 set = true
    · -- the rule `Yᵢ → Xᵢ ∪ Yᵢ` fires
      have hset' : CongrCl R b (normS (set ++ r.1 ++ r.2)) :=
        .trans hset (congrCl_fire hr (Or.inr (subB_iff.mp hm)))
      rw [if_pos hm]
      by_cases hsub : Vata.subB s (normS (set ++ r.1 ++ r.2)) = true
      · rw [if_pos hsub]; exact ⟨_, hset', subB_iff.mp hsub⟩
      · rw [if_neg hsub]; exact sweep_sound rs un _ true hrs' hun hset'
    · rw [if_neg hm]
      exact sweep_sound rs (r :: un) set ap hrs' (List.forall_mem_cons.mpr ⟨hr, hun⟩) hset

theorem closeLoop_sound {R : List CRule} {s b : List Nat} : ∀ (n : Nat) (rules : List CRule) (set : List Nat),
    (∀ r, r ∈ rules → r ∈ R) → CongrCl R b set → closeLoop s n rules set = true →
      ∃ set', CongrCl R b set' ∧ ∀ x, x ∈ s → x ∈ set'
  | 0, _, set, _, hset, h => ⟨set, hset, subB_iff.mp h⟩
  | n+1, rules, set, hrules, hset, h => by
    have hsw := sweep_sound (s := s) rules [] set false hrules (fun _ h => nomatch h) hset
    unfold closeLoop at h
    split at h
    · next hsw' => rw [hsw'] at hsw; exact hsw
    · next un set' ap hsw' =>
      rw [hsw'] at hsw
      cases ap with
      | true => exact closeLoop_sound n un set' hsw.1 hsw.2 h
      | false => exact ⟨set', hsw.2, subB_iff.mp h⟩

/-- a pair with `b ⊆ s` that passes the test of `MakePost` is in the congruence closure of the rules -/
theorem inClosure_sound {rules : List CRule} {s b : List Nat} (hbs : ∀ x, x ∈ b → x ∈ s)
    (h : inClosure rules s b = true) : CongrCl rules s b := by
  obtain ⟨set, hset, hs⟩ := closeLoop_sound (R := rules) (b := b) _ rules b (fun _ h => h) (.rfl' b) h
  exact .of_sandwich (.rfl' s) hset hbs hs


theorem foldl_stepW_states (N : NFA) : ∀ (w : List Nat) (S : List Nat), (∀ y, y ∈ S → y ∈ nfaStates N) →
    ∀ x, x ∈ w.foldl (stepW N) S → x ∈ nfaStates N
  | [], _, h => h
  | a :: w, S, _ =>
    foldl_stepW_states N w (stepW N S a) fun y hy => by
      obtain ⟨p, _, he⟩ := mem_stepW.mp hy
      exact tgt_mem_nfaStates he

theorem run_states (N : NFA) (w : List Nat) : ∀ x, x ∈ run N w → x ∈ nfaStates N :=
  foldl_stepW_states N w N.start (fun _ h => start_mem_nfaStates h)

theorem stepW_union_right {A B : NFA} (hdis : ∀ q, q ∈ nfaStates A → q ∈ nfaStates B → False) {Y : List Nat}
    (hY : ∀ y, y ∈ Y → y ∈ nfaStates B) (a : Nat) :
    ∀ x, x ∈ stepW (nfaUnionDisjoint A B) Y a ↔ x ∈ stepW B Y a := by
  intro x
  simp only [mem_stepW]
  constructor
  · rintro ⟨p, hp, he⟩
    rcases List.mem_append.mp he with h | h
    · exact (hdis p (src_mem_nfaStates h) (hY p hp)).elim
    · exact ⟨p, hp, h⟩
  · rintro ⟨p, hp, he⟩
    exact ⟨p, hp, List.mem_append_right _ he⟩

theorem accepting_union_right {A B : NFA} (hdis : ∀ q, q ∈ nfaStates A → q ∈ nfaStates B → False) {Y : List Nat}
    (hY : ∀ y, y ∈ Y → y ∈ nfaStates B) : W.accepting (nfaUnionDisjoint A B) Y = W.accepting B Y := by
  rw [Bool.eq_iff_iff]
  simp only [W.accepting, List.any_eq_true, List.contains_iff_mem]
  constructor
  · rintro ⟨q, hq, hf⟩
    rcases List.mem_append.mp hf with h | h
    · exact (hdis q (final_mem_nfaStates h) (hY q hq)).elim
    · exact ⟨q, hq, h⟩
  · rintro ⟨q, hq, hf⟩
    exact ⟨q, hq, List.mem_append_right _ hf⟩


/-- the pair `MakePostForAut` builds for the symbol `a` -/
def csucc (U B : NFA) (it : CItem) (a : Nat) : CItem := ⟨macroStep U it.X a, macroStep B it.Y a, it.w ++ [a]⟩

def pushSt (breadth : Bool) (st : CSt) (c : CItem) : CSt :=
  ⟨st.relation, addNext breadth st.next c, (c.X, c.Y) :: st.visited⟩

theorem congrPost_cons (U B : NFA) (breadth : Bool) (it : CItem) (a : Nat) (as : List Nat) (st : CSt) :
    congrPost U B breadth it (a :: as) st =
      if W.accepting U (csucc U B it a).X != W.accepting B (csucc U B it a).Y then .error (csucc U B it a).w
      else if (csucc U B it a).X.isEmpty && (csucc U B it a).Y.isEmpty then congrPost U B breadth it as st
      else if st.visited.contains ((csucc U B it a).X, (csucc U B it a).Y) then congrPost U B breadth it as st
      else congrPost U B breadth it as (pushSt breadth st (csucc U B it a)) := rfl

theorem mem_addNext {breadth : Bool} {next : List CItem} {c i : CItem} :
    i ∈ addNext breadth next c ↔ i = c ∨ i ∈ next := by
  unfold addNext
  split
  · simp only [List.mem_append, List.mem_singleton]; exact Or.comm
  · exact List.mem_cons

/-- a `return false` of `congrPost` comes from a successor pair with different acceptance -/
theorem congrPost_error {U B : NFA} {breadth : Bool} {it : CItem} : ∀ (as : List Nat) (st : CSt) (w : List Nat),
    congrPost U B breadth it as st = .error w →
      ∃ a, W.accepting U (csucc U B it a).X ≠ W.accepting B (csucc U B it a).Y ∧ w = (csucc U B it a).w
  | [], _, _, h => nomatch h
  | a :: as, st, w, h => by
    rw [congrPost_cons] at h
    by_cases hne : (W.accepting U (csucc U B it a).X != W.accepting B (csucc U B it a).Y) = true
    · rw [if_pos hne] at h
      exact ⟨a, bne_iff_ne.mp hne, (Except.error.inj h).symm⟩
    rw [if_neg hne] at h
    -- every other branch goes on with the remaining symbols
    split at h
    · exact congrPost_error as _ w h
    · split at h
      · exact congrPost_error as _ w h
      · exact congrPost_error as _ w h

/-- a `return true` of `congrPost`: a property `Q` of the state that survives the enqueueing of a new successor pair holds
afterwards, nothing visited is forgotten, and every explored successor pair agrees on acceptance and is trivial or has been
visited -/
theorem congrPost_ok {U B : NFA} {breadth : Bool} {it : CItem} (Q : CSt → Prop)
    (hpush : ∀ st a, W.accepting U (csucc U B it a).X = W.accepting B (csucc U B it a).Y →
      ¬ st.visited.contains ((csucc U B it a).X, (csucc U B it a).Y) = true → Q st →
      Q (pushSt breadth st (csucc U B it a))) :
    ∀ (as : List Nat) (st st' : CSt), Q st → congrPost U B breadth it as st = .ok st' →
      Q st' ∧ (∀ v, v ∈ st.visited → v ∈ st'.visited) ∧
      ∀ a, a ∈ as → W.accepting U (csucc U B it a).X = W.accepting B (csucc U B it a).Y ∧
        (((csucc U B it a).X = [] ∧ (csucc U B it a).Y = []) ∨
          ((csucc U B it a).X, (csucc U B it a).Y) ∈ st'.visited)
  | [], st, st', hQ, h => by
    cases h
    exact ⟨hQ, fun _ h => h, fun _ ha => nomatch ha⟩
  | a :: as, st, st', hQ, h => by
    rw [congrPost_cons] at h
    by_cases hne : (W.accepting U (csucc U B it a).X != W.accepting B (csucc U B it a).Y) = true
    · rw [if_pos hne] at h; cases h
    rw [if_neg hne] at h
    have hacc : W.accepting U (csucc U B it a).X = W.accepting B (csucc U B it a).Y :=
      Decidable.of_not_not fun hc => hne (bne_iff_ne.mpr hc)
    -- the loop goes on from a state `st1` in which the pair for `a` is trivial or visited
    obtain ⟨st1, hQ1, hmono, hhead, h1⟩ : ∃ st1, Q st1 ∧ (∀ v, v ∈ st.visited → v ∈ st1.visited) ∧
        (((csucc U B it a).X = [] ∧ (csucc U B it a).Y = []) ∨
          ((csucc U B it a).X, (csucc U B it a).Y) ∈ st1.visited) ∧
        congrPost U B breadth it as st1 = .ok st' := by
      by_cases hemp : ((csucc U B it a).X.isEmpty && (csucc U B it a).Y.isEmpty) = true
      · rw [if_pos hemp] at h
        rw [Bool.and_eq_true, List.isEmpty_iff, List.isEmpty_iff] at hemp
        exact ⟨st, hQ, fun _ h => h, Or.inl hemp, h⟩
      rw [if_neg hemp] at h
      by_cases hvis : st.visited.contains ((csucc U B it a).X, (csucc U B it a).Y) = true
      · rw [if_pos hvis] at h
        exact ⟨st, hQ, fun _ h => h, Or.inr (List.contains_iff_mem.mp hvis), h⟩
      · rw [if_neg hvis] at h
        exact ⟨_, hpush st a hacc hvis hQ, fun v hv => List.mem_cons_of_mem _ hv, Or.inr List.mem_cons_self, h⟩
    obtain ⟨h1, h2, h3⟩ := congrPost_ok Q hpush as st1 st' hQ1 h1
    exact ⟨h1, fun v hv => h2 v (hmono v hv), List.forall_mem_cons.mpr ⟨⟨hacc, hhead.imp id (h2 _)⟩, h3⟩⟩

/-- the word of a pair reaches it: `X = run U w` and `Y = run B w` -/
def CWordOK (U B : NFA) (i : CItem) : Prop := (∀ x, x ∈ i.X ↔ x ∈ run U i.w) ∧ (∀ x, x ∈ i.Y ↔ x ∈ run B i.w)

theorem csucc_ok {U B : NFA} {it : CItem} (hi : CWordOK U B it) (a : Nat) : CWordOK U B (csucc U B it a) := by
  constructor
  · intro x
    show x ∈ normS (stepW U it.X a) ↔ x ∈ run U (it.w ++ [a])
    rw [mem_normS, W.run_snoc, W.stepW_congr U hi.1]
  · intro x
    show x ∈ normS (stepW B it.Y a) ↔ x ∈ run B (it.w ++ [a])
    rw [mem_normS, W.run_snoc, W.stepW_congr B hi.2]

theorem cbad_counterexample {A B : NFA} (hdis : ∀ q, q ∈ nfaStates A → q ∈ nfaStates B → False) {i : CItem}
    (hi : CWordOK (nfaUnionDisjoint A B) B i)
    (hb : W.accepting (nfaUnionDisjoint A B) i.X ≠ W.accepting B i.Y) :
    acceptsW A i.w = true ∧ acceptsW B i.w = false := by
  have h1 : W.accepting (nfaUnionDisjoint A B) i.X = acceptsW (nfaUnionDisjoint A B) i.w :=
    W.accepting_congr _ hi.1
  have h2 : W.accepting B i.Y = acceptsW B i.w := W.accepting_congr _ hi.2
  rw [h1, h2, nfaUnionDisjoint_lang A B i.w hdis] at hb
  cases hA : acceptsW A i.w <;> cases hB : acceptsW B i.w <;> simp [hA, hB] at hb ⊢

def CSorted (i : CItem) : Prop := Srt i.X ∧ Srt i.Y

theorem csucc_sorted (U B : NFA) (it : CItem) (a : Nat) : CSorted (csucc U B it a) :=
  ⟨normS_sorted _, normS_sorted _⟩


/-- the rules at hand: extra rules `E` (the simulation pairs, the pair being processed) and the pairs of `next_` and
`relation_` -/
def rulesE (E : List CRule) (st : CSt) : List CRule := E ++ rulesOf (st.next ++ st.relation)

theorem mem_rulesOf {l : List CItem} {p : CRule} : p ∈ rulesOf l ↔ ∃ i, i ∈ l ∧ p = (i.X, i.Y) := by
  simp only [rulesOf, List.mem_map, eq_comm]

theorem mem_rulesE {E : List CRule} {st : CSt} {p : CRule} :
    p ∈ rulesE E st ↔ p ∈ E ∨ ∃ i, (i ∈ st.next ∨ i ∈ st.relation) ∧ p = (i.X, i.Y) := by
  simp only [rulesE, List.mem_append, mem_rulesOf]

/-- the invariant of the loop; `T` is the set of rules the closures are taken with (`rulesE E st` at each step, enlarged by
`transfer`).  A pair is `(X, Y)` = (states of `A ⊎ B`, states of `B`) reached by one word, and `Y ⊆ X` (`CWordOK.y_sub_x`):
both are read as macro-states of the union, so `acc` says that `A` accepts the word only if `B` does -/
structure CInv (A B : NFA) (T : List CRule) (st : CSt) : Prop where
  words : ∀ i, i ∈ st.next → CWordOK (nfaUnionDisjoint A B) B i
  init : CongrCl T (A.start ++ B.start) B.start
  acc : ∀ i, i ∈ st.next → W.accepting (nfaUnionDisjoint A B) i.X = W.accepting (nfaUnionDisjoint A B) i.Y
  bisim : ∀ i, i ∈ st.relation →
    W.accepting (nfaUnionDisjoint A B) i.X = W.accepting (nfaUnionDisjoint A B) i.Y ∧
    ∀ a, CongrCl T (stepW (nfaUnionDisjoint A B) i.X a) (stepW (nfaUnionDisjoint A B) i.Y a)
  visited : ∀ v, v ∈ st.visited → CongrCl T v.1 v.2

theorem CInv.transfer {A B : NFA} {T T' : List CRule} {st : CSt} (h : CInv A B T st)
    (hT : ∀ p, p ∈ T → CongrCl T' p.1 p.2) : CInv A B T' st :=
  ⟨h.words, h.init.subst hT, h.acc, fun i hi => ⟨(h.bisim i hi).1, fun a => ((h.bisim i hi).2 a).subst hT⟩,
    fun v hv => (h.visited v hv).subst hT⟩

theorem CWordOK.y_states {U B : NFA} {i : CItem} (hi : CWordOK U B i) : ∀ y, y ∈ i.Y → y ∈ nfaStates B :=
  fun y hy => run_states B i.w y ((hi.2 y).mp hy)

theorem CWordOK.y_sub_x {A B : NFA} {i : CItem} (hi : CWordOK (nfaUnionDisjoint A B) B i) :
    ∀ y, y ∈ i.Y → y ∈ i.X := by
  intro y hy
  rw [hi.1]
  obtain ⟨s, hs, hp⟩ := (mem_run_iff B i.w y).mp ((hi.2 y).mp hy)
  exact (mem_run_iff _ i.w y).mpr ⟨s, List.mem_append_right _ hs,
    hp.mono (fun e he => List.mem_append_right _ he)⟩

theorem pushSt_inv {A B : NFA} (hdis : ∀ q, q ∈ nfaStates A → q ∈ nfaStates B → False) {E : List CRule}
    {breadth : Bool} {st : CSt} {c : CItem} (h : CInv A B (rulesE E st) st)
    (hc : CWordOK (nfaUnionDisjoint A B) B c)
    (hacc : W.accepting (nfaUnionDisjoint A B) c.X = W.accepting B c.Y) :
    CInv A B (rulesE E (pushSt breadth st c)) (pushSt breadth st c) := by
  have hnew : (c.X, c.Y) ∈ rulesE E (pushSt breadth st c) :=
    mem_rulesE.mpr (Or.inr ⟨c, Or.inl (mem_addNext.mpr (Or.inl rfl)), rfl⟩)
  have h' := h.transfer (T' := rulesE E (pushSt breadth st c)) fun p hp => by
    refine .base ?_
    rcases mem_rulesE.mp hp with hp | ⟨i, hi, rfl⟩
    · exact mem_rulesE.mpr (Or.inl hp)
    · exact mem_rulesE.mpr (Or.inr ⟨i, hi.imp (fun hi => mem_addNext.mpr (Or.inr hi)) id, rfl⟩)
  refine ⟨?_, h'.init, ?_, h'.bisim, ?_⟩
  · intro i hi
    rcases mem_addNext.mp hi with rfl | hi
    · exact hc
    · exact h.words i hi
  · intro i hi
    rcases mem_addNext.mp hi with rfl | hi
    · rw [hacc, accepting_union_right hdis hc.y_states]
    · exact h.acc i hi
  · intro v hv
    rcases List.mem_cons.mp hv with rfl | hv
    · exact .base hnew
    · exact h'.visited v hv

/-- taking the head of the work-list: the picked pair stays a rule for the time being -/
theorem CInv.pop {A B : NFA} {E : List CRule} {st : CSt} {it : CItem} {rest : List CItem}
    (h : CInv A B (rulesE E st) st) (hn : st.next = it :: rest) :
    CInv A B (rulesE ((it.X, it.Y) :: E) ⟨st.relation, rest, st.visited⟩) ⟨st.relation, rest, st.visited⟩ := by
  have h' := h.transfer (T' := rulesE ((it.X, it.Y) :: E) ⟨st.relation, rest, st.visited⟩) fun p hp => by
    refine .base ?_
    rcases mem_rulesE.mp hp with hp | ⟨i, hi | hi, rfl⟩
    · exact mem_rulesE.mpr (Or.inl (List.mem_cons_of_mem _ hp))
    · rw [hn] at hi
      rcases List.mem_cons.mp hi with rfl | hi
      · exact mem_rulesE.mpr (Or.inl List.mem_cons_self)
      · exact mem_rulesE.mpr (Or.inr ⟨i, Or.inl hi, rfl⟩)
    · exact mem_rulesE.mpr (Or.inr ⟨i, Or.inr hi, rfl⟩)
  exact ⟨fun i hi => h.words i (hn ▸ List.mem_cons_of_mem _ hi), h'.init,
    fun i hi => h.acc i (hn ▸ List.mem_cons_of_mem _ hi), h'.bisim, h'.visited⟩

/-- the picked pair is dropped: it is in the congruence closure of the other rules -/
theorem CInv.drop {A B : NFA} {E : List CRule} {st : CSt} {r : CRule} (h : CInv A B (rulesE (r :: E) st) st)
    (hr : CongrCl (rulesE E st) r.1 r.2) : CInv A B (rulesE E st) st := by
  refine h.transfer fun p hp => ?_
  rcases mem_rulesE.mp hp with hp | hp
  · rcases List.mem_cons.mp hp with rfl | hp
    · exact hr
    · exact .base (mem_rulesE.mpr (Or.inl hp))
  · exact .base (mem_rulesE.mpr (Or.inr hp))

theorem mem_postSyms {U B : NFA} {X Y : List Nat} {a : Nat} :
    a ∈ postSyms U B X Y ↔ (∃ e, e ∈ U.trans ∧ e.1 ∈ X ∧ e.2.1 = a) ∨ (∃ e, e ∈ B.trans ∧ e.1 ∈ Y ∧ e.2.1 = a) := by
  simp only [postSyms, List.mem_eraseDups, List.mem_append, List.mem_map, List.mem_filter, List.contains_iff_mem,
    and_assoc]

theorem csucc_nil_of_not_postSym {U B : NFA} {it : CItem} {a : Nat} (h : a ∉ postSyms U B it.X it.Y) :
    (csucc U B it a).X = [] ∧ (csucc U B it a).Y = [] := by
  rw [mem_postSyms, not_or] at h
  have hx : stepW U it.X a = [] := List.eq_nil_iff_forall_not_mem.mpr fun x hx => by
    obtain ⟨p, hp, he⟩ := mem_stepW.mp hx
    exact h.1 ⟨_, he, hp, rfl⟩
  have hy : stepW B it.Y a = [] := List.eq_nil_iff_forall_not_mem.mpr fun x hx => by
    obtain ⟨p, hp, he⟩ := mem_stepW.mp hx
    exact h.2 ⟨_, he, hp, rfl⟩
  exact ⟨congrArg normS hx, congrArg normS hy⟩

/-- the successors in `U = A ⊎ B`, from the successor pair the code computes (`Y` is stepped in `B`) -/
theorem congrCl_stepW_of_csucc {A B : NFA} (hdis : ∀ q, q ∈ nfaStates A → q ∈ nfaStates B → False) {T : List CRule}
    {it : CItem} (hit : CWordOK (nfaUnionDisjoint A B) B it) {a : Nat}
    (h : CongrCl T (csucc (nfaUnionDisjoint A B) B it a).X (csucc (nfaUnionDisjoint A B) B it a).Y) :
    CongrCl T (stepW (nfaUnionDisjoint A B) it.X a) (stepW (nfaUnionDisjoint A B) it.Y a) := by
  have e1 : CongrCl T (stepW (nfaUnionDisjoint A B) it.X a) (csucc (nfaUnionDisjoint A B) B it a).X :=
    (CongrCl.rfl' _).normS_right
  have e2 : CongrCl T (stepW (nfaUnionDisjoint A B) it.Y a) (csucc (nfaUnionDisjoint A B) B it a).Y :=
    CongrCl.normS_right (.refl (stepW_union_right hdis hit.y_states a))
  exact .trans e1 (.trans h e2.symm)

/-- the picked pair has been processed: it moves from the extra rules to the relation -/
theorem CInv.done {A B : NFA} (hdis : ∀ q, q ∈ nfaStates A → q ∈ nfaStates B → False) {E : List CRule} {st : CSt}
    {it : CItem} (h : CInv A B (rulesE ((it.X, it.Y) :: E) st) st) (hit : CWordOK (nfaUnionDisjoint A B) B it)
    (hacc : W.accepting (nfaUnionDisjoint A B) it.X = W.accepting (nfaUnionDisjoint A B) it.Y)
    (hsucc : ∀ a, a ∈ postSyms (nfaUnionDisjoint A B) B it.X it.Y →
      ((csucc (nfaUnionDisjoint A B) B it a).X = [] ∧ (csucc (nfaUnionDisjoint A B) B it a).Y = []) ∨
      ((csucc (nfaUnionDisjoint A B) B it a).X, (csucc (nfaUnionDisjoint A B) B it a).Y) ∈ st.visited) :
    CInv A B (rulesE E ⟨st.relation ++ [it], st.next, st.visited⟩) ⟨st.relation ++ [it], st.next, st.visited⟩ := by
  have h' := h.transfer (T' := rulesE E ⟨st.relation ++ [it], st.next, st.visited⟩) fun p hp => by
    refine .base ?_
    rcases mem_rulesE.mp hp with hp | ⟨i, hi, rfl⟩
    · rcases List.mem_cons.mp hp with rfl | hp
      · exact mem_rulesE.mpr (Or.inr ⟨it, Or.inr (List.mem_append_right _ List.mem_cons_self), rfl⟩)
      · exact mem_rulesE.mpr (Or.inl hp)
    · exact mem_rulesE.mpr (Or.inr ⟨i, hi.imp id (List.mem_append_left _), rfl⟩)
  refine ⟨h.words, h'.init, h.acc, fun i hi => ?_, h'.visited⟩
  rcases List.mem_append.mp hi with hi | hi
  · exact h'.bisim i hi
  · rw [List.mem_singleton.mp hi]
    refine ⟨hacc, fun a => congrCl_stepW_of_csucc hdis hit ?_⟩
    -- the successor pair is trivial (also when `a` is not explored) or was visited, hence related
    have htriv : (csucc (nfaUnionDisjoint A B) B it a).X = [] ∧ (csucc (nfaUnionDisjoint A B) B it a).Y = [] ∨
        ((csucc (nfaUnionDisjoint A B) B it a).X, (csucc (nfaUnionDisjoint A B) B it a).Y) ∈ st.visited := by
      by_cases ha : a ∈ postSyms (nfaUnionDisjoint A B) B it.X it.Y
      · exact hsucc a ha
      · exact Or.inl (csucc_nil_of_not_postSym ha)
    rcases htriv with ⟨hx, hy⟩ | hv
    · rw [hx, hy]; exact .rfl' []
    · exact h'.visited _ hv

/-- what `congrPost` leaves: the invariant, and every explored successor pair is trivial or has been visited -/
theorem congrPost_inv {A B : NFA} (hdis : ∀ q, q ∈ nfaStates A → q ∈ nfaStates B → False) {E : List CRule}
    {breadth : Bool} {it : CItem} (hit : CWordOK (nfaUnionDisjoint A B) B it) {as : List Nat} {st st' : CSt}
    (hI : CInv A B (rulesE E st) st) (hS : ∀ i, i ∈ st.next → CSorted i)
    (h : congrPost (nfaUnionDisjoint A B) B breadth it as st = .ok st') :
    (CInv A B (rulesE E st') st' ∧ ∀ i, i ∈ st'.next → CSorted i) ∧
    ∀ a, a ∈ as →
      ((csucc (nfaUnionDisjoint A B) B it a).X = [] ∧ (csucc (nfaUnionDisjoint A B) B it a).Y = []) ∨
      ((csucc (nfaUnionDisjoint A B) B it a).X, (csucc (nfaUnionDisjoint A B) B it a).Y) ∈ st'.visited := by
  obtain ⟨h1, _, h3⟩ := congrPost_ok
    (fun s => CInv A B (rulesE E s) s ∧ ∀ i, i ∈ s.next → CSorted i)
    (fun s a hacc _ hQ => ⟨pushSt_inv hdis hQ.1 (csucc_ok hit a) hacc, fun i hi =>
      (mem_addNext.mp hi).elim (fun e => e ▸ csucc_sorted _ _ it a) (hQ.2 i)⟩)
    as st st' ⟨hI, hS⟩ h
  exact ⟨h1, fun a ha => (h3 a ha).2⟩


/-- `loopCongr` with the test `skip rules X Y` on the picked pair left open: `some true` = the pair is dropped,
`none` = the test itself ran out of fuel -/
def loopSkip (skip : List CRule → List Nat → List Nat → Option Bool) (U B : NFA) (breadth : Bool) :
    Nat → CSt → Option (Res (List CItem))
  | 0, _ => none
  | n+1, st =>
    match st.next with
    | [] => some (.ok st.relation)
    | it :: rest =>
      match skip (rulesOf (rest.reverse ++ st.relation)) it.X it.Y with
      | none => none
      | some true => loopSkip skip U B breadth n ⟨st.relation, rest, st.visited⟩
      | some false =>
        match congrPost U B breadth it (postSyms U B it.X it.Y) ⟨st.relation, rest, st.visited⟩ with
        | .error w => some (.error w)
        | .ok st' => loopSkip skip U B breadth n ⟨st'.relation ++ [it], st'.next, st'.visited⟩

def runSkip (skip : List CRule → List Nat → List Nat → Option Bool) (U B : NFA) (breadth : Bool) (fuel : Nat) :
    Option (Res (List CItem)) :=
  if W.accepting U (normS U.start) != W.accepting B (normS B.start) then some (.error [])
  else loopSkip skip U B breadth fuel ⟨[], [⟨normS U.start, normS B.start, []⟩], [(normS U.start, normS B.start)]⟩

theorem loopCongr_eq (U B : NFA) (breadth : Bool) : ∀ (n : Nat) (st : CSt),
    loopCongr U B breadth n st = loopSkip (fun rules X Y => some (inClosure rules X Y)) U B breadth n st
  | 0, _ => rfl
  | n+1, st => by
    rw [loopCongr, loopSkip]
    cases st.next with
    | nil => rfl
    | cons it rest =>
      dsimp only
      cases inClosure (rulesOf (rest.reverse ++ st.relation)) it.X it.Y with
      | true => exact loopCongr_eq U B breadth n _
      | false =>
        dsimp only [Bool.false_eq_true, if_false]
        cases congrPost U B breadth it (postSyms U B it.X it.Y) ⟨st.relation, rest, st.visited⟩ with
        | error w => rfl
        | ok st' => exact loopCongr_eq U B breadth n _

theorem runCongr_eq (U B : NFA) (breadth : Bool) (fuel : Nat) :
    runCongr U B breadth fuel = runSkip (fun rules X Y => some (inClosure rules X Y)) U B breadth fuel := by
  unfold runCongr runSkip
  simp only [loopCongr_eq]

/-- what the analysis of the loop needs of the test, with `E` the rules that are there from the start: a skipped pair
(sorted components, reached by its word) is in the congruence closure of `E` and the other pairs -/
def SkipSound (A B : NFA) (E : List CRule) (skip : List CRule → List Nat → List Nat → Option Bool) : Prop :=
  ∀ (rules : List CRule) (it : CItem), CWordOK (nfaUnionDisjoint A B) B it → CSorted it →
    skip rules it.X it.Y = some true → CongrCl (E ++ rules) it.X it.Y

/-- the rules `E` are themselves a bisimulation up to congruence, in every set of rules that contains them -/
def RulesBisim (U : NFA) (E : List CRule) : Prop :=
  ∀ T : List CRule, (∀ p, p ∈ E → p ∈ T) → ∀ p, p ∈ E →
    W.accepting U p.1 = W.accepting U p.2 ∧ ∀ a, CongrCl T (stepW U p.1 a) (stepW U p.2 a)

/-- the loop: a `return false` is justified, a `return true` leaves a bisimulation up to congruence -/
theorem loopSkip_inv {A B : NFA} (hdis : ∀ q, q ∈ nfaStates A → q ∈ nfaStates B → False) {E : List CRule}
    {skip : List CRule → List Nat → List Nat → Option Bool} (hE : RulesBisim (nfaUnionDisjoint A B) E)
    (hskip : SkipSound A B E skip) {breadth : Bool} :
    ∀ (n : Nat) (st : CSt), CInv A B (rulesE E st) st → (∀ i, i ∈ st.next → CSorted i) →
    (∀ w, loopSkip skip (nfaUnionDisjoint A B) B breadth n st = some (.error w) →
      acceptsW A w = true ∧ acceptsW B w = false) ∧
    (∀ R, loopSkip skip (nfaUnionDisjoint A B) B breadth n st = some (.ok R) → CongrCert A B (E ++ rulesOf R))
  | 0, _, _, _ => ⟨fun _ => nofun, fun _ => nofun⟩
  | n+1, st, hI, hS => by
    unfold loopSkip
    split
    · next hn =>
      -- the work-list is empty: the rules are `E` and the relation
      refine ⟨fun _ => nofun, fun R h => ?_⟩
      cases h
      have hT : rulesE E st = E ++ rulesOf st.relation := by rw [rulesE, hn, List.nil_append]
      rw [hT] at hI
      refine ⟨hdis, hI.init, fun p hp => ?_⟩
      rcases List.mem_append.mp hp with hp | hp
      · exact hE _ (fun _ h => List.mem_append_left _ h) p hp
      · obtain ⟨i, hi, rfl⟩ := mem_rulesOf.mp hp
        exact hI.bisim i hi
    · next it rest hn =>
      have hit : CWordOK (nfaUnionDisjoint A B) B it := hI.words it (hn ▸ List.mem_cons_self)
      have hrestS : ∀ i, i ∈ rest → CSorted i := fun i hi => hS i (hn ▸ List.mem_cons_of_mem _ hi)
      have hI1 := hI.pop hn
      split
      · exact ⟨fun _ => nofun, fun _ => nofun⟩
      · next hsk =>
        refine loopSkip_inv hdis hE hskip n _ (hI1.drop ?_) hrestS
        refine (hskip _ it hit (hS it (hn ▸ List.mem_cons_self)) hsk).mono fun p hp => ?_
        rcases List.mem_append.mp hp with hp | hp
        · exact mem_rulesE.mpr (Or.inl hp)
        · obtain ⟨i, hi, rfl⟩ := mem_rulesOf.mp hp
          exact mem_rulesE.mpr (Or.inr ⟨i, (List.mem_append.mp hi).imp List.mem_reverse.mp id, rfl⟩)
      · split
        · next w hw =>
          refine ⟨fun w' h => ?_, fun _ => nofun⟩
          cases h
          obtain ⟨a, hne, rfl⟩ := congrPost_error _ _ _ hw
          exact cbad_counterexample hdis (csucc_ok hit a) hne
        · next st' h' =>
          obtain ⟨⟨h1, h3⟩, h4⟩ := congrPost_inv hdis hit hI1 hrestS h'
          exact loopSkip_inv hdis hE hskip n _
            (h1.done hdis hit (hI.acc it (hn ▸ List.mem_cons_self)) h4) h3

theorem runSkip_inv {A B : NFA} (hdis : ∀ q, q ∈ nfaStates A → q ∈ nfaStates B → False) {E : List CRule}
    {skip : List CRule → List Nat → List Nat → Option Bool} (hE : RulesBisim (nfaUnionDisjoint A B) E)
    (hskip : SkipSound A B E skip) {breadth : Bool} {fuel : Nat} :
    (∀ w, runSkip skip (nfaUnionDisjoint A B) B breadth fuel = some (.error w) →
      acceptsW A w = true ∧ acceptsW B w = false) ∧
    (∀ R, runSkip skip (nfaUnionDisjoint A B) B breadth fuel = some (.ok R) → CongrCert A B (E ++ rulesOf R)) := by
  have hw0 : CWordOK (nfaUnionDisjoint A B) B ⟨normS (nfaUnionDisjoint A B).start, normS B.start, []⟩ :=
    ⟨fun _ => mem_normS, fun _ => mem_normS⟩
  unfold runSkip
  by_cases hne : (W.accepting (nfaUnionDisjoint A B) (normS (nfaUnionDisjoint A B).start) !=
      W.accepting B (normS B.start)) = true
  · rw [if_pos hne]
    refine ⟨fun w h => ?_, fun _ => nofun⟩
    cases h
    exact cbad_counterexample hdis hw0 (bne_iff_ne.mp hne)
  · rw [if_neg hne]
    have hacc : W.accepting (nfaUnionDisjoint A B) (normS (nfaUnionDisjoint A B).start) =
        W.accepting B (normS B.start) := Decidable.of_not_not fun hc => hne (bne_iff_ne.mpr hc)
    -- the start pair is a rule
    have hb : CongrCl (rulesE E ⟨[], [⟨normS (nfaUnionDisjoint A B).start, normS B.start, []⟩],
        [(normS (nfaUnionDisjoint A B).start, normS B.start)]⟩)
        (normS (nfaUnionDisjoint A B).start) (normS B.start) :=
      .base (mem_rulesE.mpr (Or.inr ⟨_, Or.inl List.mem_cons_self, rfl⟩))
    apply loopSkip_inv hdis hE hskip fuel
    · refine ⟨?_, ?_, ?_, fun _ => nofun, ?_⟩
      · intro i hi; rw [List.mem_singleton.mp hi]; exact hw0
      · exact .trans (.refl (fun x => (mem_normS (l := A.start ++ B.start)).symm))
          (.trans hb (.refl (fun x => mem_normS)))
      · intro i hi
        rw [List.mem_singleton.mp hi]
        exact hacc.trans (accepting_union_right hdis hw0.y_states).symm
      · intro v hv
        rw [List.mem_singleton.mp hv]
        exact hb
    · intro i hi
      rw [List.mem_singleton.mp hi]
      exact ⟨normS_sorted _, normS_sorted _⟩


theorem rulesBisim_nil (U : NFA) : RulesBisim U [] := fun _ _ _ hp => nomatch hp

theorem skipSound_inClosure (A B : NFA) : SkipSound A B [] (fun rules X Y => some (inClosure rules X Y)) :=
  fun _ _ hit _ h => inClosure_sound hit.y_sub_x (Option.some.inj h)

theorem runCongr_inv {A B : NFA} (hdis : ∀ q, q ∈ nfaStates A → q ∈ nfaStates B → False) {breadth : Bool}
    {fuel : Nat} :
    (∀ w, runCongr (nfaUnionDisjoint A B) B breadth fuel = some (.error w) →
      acceptsW A w = true ∧ acceptsW B w = false) ∧
    (∀ R, runCongr (nfaUnionDisjoint A B) B breadth fuel = some (.ok R) → CongrCert A B (rulesOf R)) := by
  rw [runCongr_eq]
  exact runSkip_inv hdis (rulesBisim_nil _) (skipSound_inClosure A B)

theorem runCongr_error_ok {A B : NFA} (hdis : ∀ q, q ∈ nfaStates A → q ∈ nfaStates B → False) {breadth : Bool}
    {fuel : Nat} {w : List Nat} (h : runCongr (nfaUnionDisjoint A B) B breadth fuel = some (.error w)) :
    acceptsW A w = true ∧ acceptsW B w = false :=
  (runCongr_inv hdis).1 w h

theorem runCongr_ok_cert {A B : NFA} (hdis : ∀ q, q ∈ nfaStates A → q ∈ nfaStates B → False) {breadth : Bool}
    {fuel : Nat} {R : List CItem} (h : runCongr (nfaUnionDisjoint A B) B breadth fuel = some (.ok R)) :
    CongrCert A B (rulesOf R) :=
  (runCongr_inv hdis).2 R h

end NfaIncl
end Vata
