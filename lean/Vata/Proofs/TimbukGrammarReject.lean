import Vata.Proofs.TimbukGrammarFile
/-!
# The rejected texts, by the first offence (property C13)

`rejected_iff : Rejected t ↔ ¬ Accepted t`.
-/
namespace Vata.Timbuk

theorem isBlankLine_false_iff (l : Str) : isBlankLine l = false ↔ ¬ AllWs l := by
  rw [← isBlankLine_iff]; simp

theorem isTransitionsLine_false_iff (l : Str) : isTransitionsLine l = false ↔ ¬ TransitionsLine l := by
  rw [← isTransitionsLine_iff]; simp

theorem readRulePart_none (ls : List Str) : readRulePart ls = none ↔
    ∃ pre l post, ls = pre ++ l :: post ∧ ¬ AllWs l ∧ ∀ lab kids rhs, ¬ TransLine l lab kids rhs := by
  constructor
  · intro h
    have := readRulePart_spec ls
    rwa [h] at this
  · -- in a rule part every line is blank or a transition line
    rintro ⟨pre, l, post, rfl, h1, h2⟩
    cases h : readRulePart (pre ++ l :: post) with
    | none => rfl
    | some rs =>
      rcases ((rulePart_iff _ _).mpr h).mem l (by simp) with hb | ⟨lab, kids, rhs, ht⟩
      · exact absurd hb h1
      · exact absurd ht (h2 _ _ _)

theorem readHeaderPart_none (ls : List Str) : readHeaderPart ls = none ↔
    (∃ hs, HeaderPart ls hs) ∨
    ∃ pre l post hs, ls = pre ++ l :: post ∧ HeaderPart pre hs ∧ ¬ AllWs l ∧ ¬ TransitionsLine l ∧
      ∀ k ps, ¬ HeaderLine l k ps := by
  constructor
  · intro h
    have := readHeaderPart_spec ls
    rwa [h] at this
  · rintro (⟨hs, hh⟩ | ⟨pre, l, post, hs, rfl, hh, h1, h2, h3⟩)
    · have := readHeaderPart_append hh []
      rwa [List.append_nil] at this
    · rw [readHeaderPart_append hh, readHeaderPart, (isBlankLine_false_iff l).mpr h1,
        (isTransitionsLine_false_iff l).mpr h2]
      cases hr : readHeader (readWords (trim l)) with
      | none => rfl
      | some y =>
        obtain ⟨k, ps⟩ := y
        exact absurd ((headerLine_iff _ _ _).mpr hr) (h3 k ps)

theorem not_accepted_iff (t : Str) : ¬ Accepted t ↔ readText t = none := by
  rw [← acceptedB_iff, acceptedB]
  cases readText t <;> simp

theorem rejected_iff (t : Str) : Rejected t ↔ ¬ Accepted t := by
  rw [not_accepted_iff]
  constructor
  · intro h
    unfold readText readLines
    cases h with
    | noTransitions hl hh =>
      rw [(lines_iff _ _).mp hl, (readHeaderPart_none _).mpr (Or.inl ⟨_, hh⟩)]
    | badHeader hl hh h1 h2 h3 =>
      rw [(lines_iff _ _).mp hl, (readHeaderPart_none _).mpr (Or.inr ⟨_, _, _, _, rfl, hh, h1, h2, h3⟩)]
    | repeated hl hh ht hn =>
      rw [(lines_iff _ _).mp hl, (headerPart_iff _ _ _).mp ⟨_, _, rfl, hh, ht⟩]
      simp only [if_neg hn]
      cases readRulePart _ <;> rfl
    | badRule hl hh ht h1 h2 =>
      rw [(lines_iff _ _).mp hl, (headerPart_iff _ _ _).mp ⟨_, _, rfl, hh, ht⟩]
      simp only [(readRulePart_none _).mpr ⟨_, _, _, rfl, h1, h2⟩]
  · intro h
    have := readText_spec t
    rwa [h] at this

end Vata.Timbuk
