import Vata.Proofs.NfaLoadDump
import Vata.Proofs.NfaOps
/-!
# Proofs about the load / dump of word automata as coded, part 2: dump, then load – the language and the start symbols
-/
namespace Vata
namespace NfaLD
open Dict LoadDump Timbuk W

def NamesInj (A : NFAS) (sd : StateDict) : Prop :=
  ∀ q q', q ∈ nfaStates A.toNFA → q' ∈ nfaStates A.toNFA → sd.bwd? q = sd.bwd? q' → q = q'

theorem dumpRules_wordShaped {sd : StateDict} {yd : WSymDict} {A : NFAS} {t : List String × String × String}
    (h : t ∈ dumpRules false sd yd A) : t.1.length ≤ 1 := by
  rcases mem_dumpRules.mp h with ⟨_, _, _, rfl⟩ | ⟨_, _, _, _, rfl⟩ | ⟨_, _, rfl⟩ <;> simp [namedTrans]

/-- the state renaming of a reload: old number ↦ name ↦ new number -/
def reName (sd sd' : StateDict) (q : Nat) : Nat := sd'.get (nameOf sd q)

section
variable {A : NFAS} {sd sd' : StateDict} {yd yd' : WSymDict} {ts : List (List String × String × String)} (hyd : yd.Ok)
  (hD : Dumpable A sd yd) (sub : Dict.Sub yd yd') (ht : ts ≈ dumpRules false sd yd A)
include hyd hD sub ht

theorem mem_transOf_dump {e : Nat × Nat × Nat} :
    e ∈ transOf sd' yd' ts ↔ e ∈ (nfaMap (reName sd sd') A.toNFA).trans := by
  rw [mem_transOf]
  simp only [nfaMap, List.mem_map]
  constructor
  · rintro ⟨t, l, htm, ht1, rfl⟩
    rcases mem_dumpRules.mp ((ht t).mp htm) with ⟨_, _, _, rfl⟩ | ⟨_, _, _, _, rfl⟩ | ⟨e0, he0, rfl⟩
    · cases ht1
    · cases ht1
    · cases ht1
      exact ⟨e0, he0, by rw [namedTrans, get_symName hyd sub (hD.syms e0 he0)]; rfl⟩
  · rintro ⟨e0, he0, rfl⟩
    refine ⟨_, nameOf sd e0.1, (ht _).mpr (mem_dumpRules.mpr (Or.inr (Or.inr ⟨e0, he0, rfl⟩))), rfl, ?_⟩
    rw [namedTrans, get_symName hyd sub (hD.syms e0 he0)]
    rfl

/-- what a load, under any dictionaries, reads back from the nullary rules of a dump: every start state with each of its
symbols or, if it has none, with the symbol named `x` (the rule `x -> q` the dump writes for it) -/
theorem mem_startsOf_dump {q a : Nat} : (q, a) ∈ startsOf sd' yd' ts ↔
    ∃ s, s ∈ A.start ∧ q = reName sd sd' s ∧ (A.symsOf s = [] ∧ a = yd'.get "x" ∨ a ∈ A.symsOf s) := by
  rw [mem_startsOf]
  constructor
  · rintro ⟨t, htm, ht1, hx⟩
    rcases mem_dumpRules.mp ((ht t).mp htm) with ⟨s, hs, hem, rfl⟩ | ⟨s, a0, hs, ha0, rfl⟩ | ⟨e0, _, rfl⟩
    · cases hx
      exact ⟨s, hs, rfl, Or.inl ⟨hem, rfl⟩⟩
    · cases hx
      exact ⟨s, hs, rfl, Or.inr ((get_symName hyd sub (hD.startSyms s hs a0 ha0)).symm ▸ ha0)⟩
    · cases ht1
  · rintro ⟨s, hs, rfl, ⟨hem, rfl⟩ | ha⟩
    · exact ⟨_, (ht _).mpr (mem_dumpRules.mpr (Or.inl ⟨s, hs, hem, rfl⟩)), rfl, rfl⟩
    · refine ⟨_, (ht _).mpr (mem_dumpRules.mpr (Or.inr (Or.inl ⟨s, a, hs, ha, rfl⟩))), rfl, ?_⟩
      simp only [get_symName hyd sub (hD.startSyms s hs a ha)]
      rfl

end

/-- loading any description whose final states and rules are those of the dump of `A` (whatever its `symbols`, `states`, and
the order of its lists), on a fresh state dictionary and the same alphabet: `A` with its states renamed injectively, the same
symbols on the transitions, the start symbols the dump wrote; hence the same words -/
theorem reload_spec (rtl : Bool) (A : NFAS) (sd : StateDict) (yd : WSymDict) (hyd : yd.Ok) (hD : Dumpable A sd yd)
    (hinj : NamesInj A sd) (d : AutDesc) (hf : d.final ≈ A.final.map (nameOf sd))
    (ht : d.trans ≈ dumpRules false sd yd A) :
    ∃ A' sd' yd', loadNFA rtl d [] yd = .ok (A', sd', yd') ∧ sd'.Ok ∧ yd'.Ok ∧ Dict.Sub yd yd' ∧
      NfaInjOn (reName sd sd') (nfaStates A.toNFA) ∧ NfaC.NfaSetEq A'.toNFA (nfaMap (reName sd sd') A.toNFA) ∧
      (∀ s, s ∈ A.start → A.symsOf s ≠ [] → ∀ a, a ∈ A'.symsOf (reName sd sd' s) ↔ a ∈ A.symsOf s) ∧
      (∀ s, s ∈ A.start → A.symsOf s = [] → ∀ a, a ∈ A'.symsOf (reName sd sd' s) ↔ a = yd'.get "x") ∧
      ∀ w, acceptsW A'.toNFA w = acceptsW A.toNFA w := by
  have hw : d.WordShaped := fun t htm => dumpRules_wordShaped ((ht t).mp htm)
  obtain ⟨A', s', e, h, hk, hfin, htr, hst, hsy⟩ := loadFrom_spec rtl ⟨[], 0, yd⟩ (init_ok hyd) d hw
  -- the names of the states of `A` are keys of the new dictionary
  have R := fun t m => hk t ((ht t).mpr (mem_dumpRules.mpr m))
  have hkey : ∀ q, q ∈ nfaStates A.toNFA → nameOf sd q ∈ s'.sd.keys := by
    intro q hq
    rcases mem_nfaStates.mp hq with hq | hq | ⟨e', he', hq⟩
    · by_cases hem : A.symsOf q = []
      · exact (R _ (Or.inl ⟨q, hq, hem, rfl⟩)).2.1
      · obtain ⟨a, ha⟩ := List.exists_mem_of_ne_nil _ hem
        exact (R _ (Or.inr (Or.inl ⟨q, a, hq, ha, rfl⟩))).2.1
    · exact (h.sdKeys _).mpr (Or.inr (List.mem_append_left _ ((hf _).mpr (List.mem_map.mpr ⟨q, hq, rfl⟩))))
    · rcases hq with rfl | rfl
      · exact (R _ (Or.inr (Or.inr ⟨e', he', rfl⟩))).1 _ List.mem_cons_self
      · exact (R _ (Or.inr (Or.inr ⟨e', he', rfl⟩))).2.1
  have hinj' : NfaInjOn (reName sd s'.sd) (nfaStates A.toNFA) := fun q hq q' hq' e' =>
    hinj q q' hq hq' (bwd?_eq_of_nameOf_eq (hD.named q hq) (hD.named q' hq')
      (h.ok.sd.get_inj (hkey q hq) (hkey q' hq') e'))
  have M := @mem_startsOf_dump A sd s'.sd yd s'.yd d.trans hyd hD h.yd ht
  have E : NfaC.NfaSetEq A'.toNFA (nfaMap (reName sd s'.sd) A.toNFA) := by
    refine ⟨fun q => ?_, fun q => ?_, fun _ => htr ▸ mem_transOf_dump hyd hD h.yd ht⟩
    · show q ∈ A'.start ↔ q ∈ A.start.map (reName sd s'.sd)
      rw [hst q, List.mem_map]
      constructor
      · rintro ⟨a, ha⟩
        obtain ⟨s, hs, rfl, _⟩ := M.mp ha
        exact ⟨s, hs, rfl⟩
      · rintro ⟨s, hs, rfl⟩
        by_cases hem : A.symsOf s = []
        · exact ⟨_, M.mpr ⟨s, hs, rfl, Or.inl ⟨hem, rfl⟩⟩⟩
        · obtain ⟨a, ha⟩ := List.exists_mem_of_ne_nil _ hem
          exact ⟨a, M.mpr ⟨s, hs, rfl, Or.inr ha⟩⟩
    · show q ∈ A'.final ↔ q ∈ A.final.map (reName sd s'.sd)
      rw [hfin q, sameSet_map hf _ q, List.map_map]
      rfl
  have Y : ∀ s, s ∈ A.start → ∀ a, a ∈ A'.symsOf (reName sd s'.sd s) ↔
      A.symsOf s = [] ∧ a = s'.yd.get "x" ∨ a ∈ A.symsOf s := by
    intro s hs a
    rw [hsy, M]
    constructor
    · rintro ⟨s0, hs0, e0, h0⟩
      cases hinj' _ (start_mem_nfaStates hs) _ (start_mem_nfaStates hs0) e0
      exact h0
    · exact fun h0 => ⟨s, hs, rfl, h0⟩
  refine ⟨A', s'.sd, s'.yd, by unfold loadNFA; rw [e], h.ok.sd, h.ok.yd, h.yd, hinj', E, ?_, ?_, fun w => ?_⟩
  · intro s hs hne a
    simp only [Y s hs a, hne, false_and, false_or]
  · intro s hs hem a
    simp only [Y s hs a, hem, true_and, List.not_mem_nil, or_false]
  · rw [← nfaMap_inj_lang (reName sd s'.sd) A.toNFA w hinj']
    exact E.lang w

/-- … in particular the reloaded automaton accepts the same words -/
theorem reload_lang (rtl : Bool) (A : NFAS) (sd : StateDict) (yd : WSymDict) (hyd : yd.Ok) (hD : Dumpable A sd yd)
    (hinj : NamesInj A sd) (d : AutDesc) (hf : d.final ≈ A.final.map (nameOf sd))
    (ht : d.trans ≈ dumpRules false sd yd A) :
    ∃ A' sd' yd', loadNFA rtl d [] yd = .ok (A', sd', yd') ∧ sd'.Ok ∧ yd'.Ok ∧ Dict.Sub yd yd' ∧
      ∀ w, acceptsW A'.toNFA w = acceptsW A.toNFA w := by
  obtain ⟨A', sd', yd', l, o1, o2, sub, _, _, _, _, hl⟩ := reload_spec rtl A sd yd hyd hD hinj d hf ht
  exact ⟨A', sd', yd', l, o1, o2, sub, hl⟩

/-- an automaton that was loaded has injective names under the dictionary the load left -/
theorem namesInj_of_ok {A : NFAS} {sd : StateDict} {yd : WSymDict} (hD : Dumpable A sd yd) (h : sd.Ok) : NamesInj A sd := by
  intro q q' hq _ e
  obtain ⟨n, hn⟩ := hD.named q hq
  exact h.injective.2 q q' n hn (e ▸ hn)

end NfaLD

open NfaLD LoadDump W

/-- **dump, then load**: for an automaton with dictionaries that name its states injectively and its symbols (`Dumpable`,
`NamesInj`; the alphabet in the state its weak translator keeps, `yd.Ok`) the dump succeeds, and loading the dumped
description (fresh state dictionary, the same alphabet) gives an automaton with the same language and – up to the renaming of
the states – the same start states with the same start symbols; a start state without symbols comes back with the one symbol
named `x`. -/
theorem nfa_dump_load_lang (rtl : Bool) (A : NFAS) (sd : StateDict) (yd : WSymDict) (hyd : yd.Ok) (hD : Dumpable A sd yd)
    (hinj : NamesInj A sd) :
    ∃ d₁ A' sd' yd', dumpNFA A sd yd = .ok d₁ ∧ loadNFA rtl d₁ [] yd = .ok (A', sd', yd') ∧
      (∀ w, acceptsW A'.toNFA w = acceptsW A.toNFA w) ∧
      NfaInjOn (reName sd sd') (nfaStates A.toNFA) ∧
      (∀ q, q ∈ A'.start ↔ q ∈ A.start.map (reName sd sd')) ∧
      (∀ s, s ∈ A.start → A.symsOf s ≠ [] → ∀ a, a ∈ A'.symsOf (reName sd sd' s) ↔ a ∈ A.symsOf s) ∧
      (∀ s, s ∈ A.start → A.symsOf s = [] → ∀ a, a ∈ A'.symsOf (reName sd sd' s) ↔ a = yd'.get "x") := by
  obtain ⟨A', sd', yd', l, _, _, _, hi, hE, h4, h5, hl⟩ :=
    reload_spec rtl A sd yd hyd hD hinj (dumpOf (A.final.map (nameOf sd)) (dumpRules false sd yd A))
      (dumpOf_final _ _) (dumpOf_trans _ _)
  exact ⟨_, A', sd', yd', dumpWith_dumpable false hD, l, hl, hi, hE.1, h4, h5⟩

end Vata
