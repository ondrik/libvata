import Vata.BddShare
import Vata.Proofs.Rename
import Vata.Proofs.UnionModel
import Vata.Proofs.IsectModel
import Vata.Proofs.TrimModel
/-!
The sharing model of the BDD automata (`Vata/BddShare.lean`): objects are handles on reference-counted tables.  The
reference-count invariant `Inv` holds after every defined history; for every history inside `pre`, every entry has the
language the specification `specStep` assigns to it – the result the specified language AND all others unchanged.  Each of
the clauses S, T, A, H, L of `pre` is necessary: a kernel-checked history violates only that clause and a language is wrong.
-/
namespace Vata.BddShare

section prim
variable (σ : St)

@[simp] theorem tabs_modCell (t t' : Nat) (f : Cell → Option Cell) :
    (σ.modCell t f).tabs t' = if t' = t then (σ.tabs t).bind f else σ.tabs t' := rfl
@[simp] theorem pool_modCell (t : Nat) (f : Cell → Option Cell) : (σ.modCell t f).pool = σ.pool := rfl
@[simp] theorem next_modCell (t : Nat) (f : Cell → Option Cell) : (σ.modCell t f).next = σ.next := rfl
@[simp] theorem tabs_alloc (rs : List Rule) (t' : Nat) :
    (σ.alloc rs).tabs t' = if t' = σ.next then some ⟨rs, 1⟩ else σ.tabs t' := rfl
@[simp] theorem pool_alloc (rs : List Rule) : (σ.alloc rs).pool = σ.pool := rfl
@[simp] theorem next_alloc (rs : List Rule) : (σ.alloc rs).next = σ.next + 1 := rfl
@[simp] theorem tabs_push (h : Hnd) : (σ.push h).tabs = σ.tabs := rfl
@[simp] theorem pool_push (h : Hnd) : (σ.push h).pool = σ.pool ++ [some h] := rfl
@[simp] theorem next_push (h : Hnd) : (σ.push h).next = σ.next := rfl
@[simp] theorem tabs_setH (k : Nat) (o : Option Hnd) : (σ.setH k o).tabs = σ.tabs := rfl
@[simp] theorem pool_setH (k : Nat) (o : Option Hnd) : (σ.setH k o).pool = σ.pool.set k o := rfl
@[simp] theorem next_setH (k : Nat) (o : Option Hnd) : (σ.setH k o).next = σ.next := rfl

theorem trules_incr (t t' : Nat) : (σ.incr t).trules t' = σ.trules t' := by
  unfold St.trules St.incr
  rw [tabs_modCell]
  by_cases h : t' = t
  · subst h; rw [if_pos rfl]; cases σ.tabs t' <;> rfl
  · rw [if_neg h]

theorem trules_decr_ne (t t' : Nat) (h : t' ≠ t) : (σ.decr t).trules t' = σ.trules t' := by
  unfold St.trules St.decr
  rw [tabs_modCell, if_neg h]

theorem trules_decr_shared (t t' : Nat) (h : 1 < σ.rcOf t) : (σ.decr t).trules t' = σ.trules t' := by
  by_cases e : t' = t
  · subst e
    unfold St.trules St.decr St.rcOf at *
    rw [tabs_modCell, if_pos rfl]
    cases hc : σ.tabs t' with
    | none => rfl
    | some c =>
      rw [hc] at h
      have : ¬ c.rc ≤ 1 := by simp only at h; omega
      simp only [Option.bind_some, if_neg this]
  · exact trules_decr_ne σ t t' e

theorem trules_write (t t' : Nat) (rs : List Rule) :
    (σ.write t rs).trules t' = if t' = t ∧ (σ.tabs t).isSome then rs else σ.trules t' := by
  unfold St.trules St.write
  rw [tabs_modCell]
  by_cases h : t' = t
  · subst h; rw [if_pos rfl]
    cases σ.tabs t' <;> simp
  · rw [if_neg h, if_neg (fun hh => h hh.1)]

theorem trules_alloc (rs : List Rule) (t' : Nat) :
    (σ.alloc rs).trules t' = if t' = σ.next then rs else σ.trules t' := by
  unfold St.trules
  rw [tabs_alloc]
  by_cases h : t' = σ.next
  · rw [if_pos h, if_pos h]
  · rw [if_neg h, if_neg h]

@[simp] theorem trules_push (h : Hnd) (t : Nat) : (σ.push h).trules t = σ.trules t := rfl
@[simp] theorem trules_setH (k : Nat) (o : Option Hnd) (t : Nat) : (σ.setH k o).trules t = σ.trules t := rfl

theorem rcOf_incr {t : Nat} (h : (σ.tabs t).isSome) (t' : Nat) :
    (σ.incr t).rcOf t' = σ.rcOf t' + (if t = t' then 1 else 0) := by
  unfold St.rcOf St.incr
  rw [tabs_modCell]
  by_cases e : t = t'
  · subst e
    rw [if_pos rfl, if_pos rfl]
    cases hc : σ.tabs t with
    | none => rw [hc] at h; cases h
    | some c => rfl
  · rw [if_neg (fun e' => e e'.symm), if_neg e]; rfl

theorem rcOf_decr (t t' : Nat) : (σ.decr t).rcOf t' = σ.rcOf t' - (if t = t' then 1 else 0) := by
  unfold St.rcOf St.decr
  rw [tabs_modCell]
  by_cases e : t = t'
  · subst e
    rw [if_pos rfl, if_pos rfl]
    cases hc : σ.tabs t with
    | none => rfl
    | some c =>
      simp only [Option.bind_some]
      by_cases h1 : c.rc ≤ 1
      · rw [if_pos h1]; simp only; omega
      · rw [if_neg h1]
  · rw [if_neg (fun e' => e e'.symm), if_neg e]; rfl

theorem rcOf_write (t t' : Nat) (rs : List Rule) : (σ.write t rs).rcOf t' = σ.rcOf t' := by
  unfold St.rcOf St.write
  rw [tabs_modCell]
  by_cases h : t' = t
  · subst h; rw [if_pos rfl]; cases σ.tabs t' <;> rfl
  · rw [if_neg h]

theorem rcOf_alloc (rs : List Rule) (t' : Nat) : (σ.alloc rs).rcOf t' = if σ.next = t' then 1 else σ.rcOf t' := by
  unfold St.rcOf
  rw [tabs_alloc]
  by_cases h : σ.next = t'
  · rw [if_pos h.symm, if_pos h]
  · rw [if_neg (fun e => h e.symm), if_neg h]

@[simp] theorem rcOf_push (h : Hnd) (t : Nat) : (σ.push h).rcOf t = σ.rcOf t := rfl
@[simp] theorem rcOf_setH (k : Nat) (o : Option Hnd) (t : Nat) : (σ.setH k o).rcOf t = σ.rcOf t := rfl

@[simp] theorem hnd_modCell (t : Nat) (f : Cell → Option Cell) (k : Nat) : (σ.modCell t f).hnd k = σ.hnd k := rfl
@[simp] theorem hnd_incr (t k : Nat) : (σ.incr t).hnd k = σ.hnd k := rfl
@[simp] theorem hnd_decr (t k : Nat) : (σ.decr t).hnd k = σ.hnd k := rfl
@[simp] theorem hnd_write (t : Nat) (rs : List Rule) (k : Nat) : (σ.write t rs).hnd k = σ.hnd k := rfl
@[simp] theorem hnd_alloc (rs : List Rule) (k : Nat) : (σ.alloc rs).hnd k = σ.hnd k := rfl

theorem hnd_lt {k : Nat} {h : Hnd} (hk : σ.hnd k = some h) : k < σ.pool.length := by
  unfold St.hnd at hk
  by_cases hl : k < σ.pool.length
  · exact hl
  · rw [List.getElem?_eq_none (by omega)] at hk; simp at hk

theorem hnd_ge {k : Nat} (hk : σ.pool.length ≤ k) : σ.hnd k = none := by
  unfold St.hnd
  rw [List.getElem?_eq_none hk]; rfl

theorem join_getElem?_push {α : Type} (l : List (Option α)) (x : Option α) (k : Nat) :
    ((l ++ [x])[k]?).join = if k = l.length then x else (l[k]?).join := by
  rw [join_getElem?, join_getElem?]; exact getD_concat none l x k

theorem join_getElem?_set {α : Type} (l : List (Option α)) {i : Nat} (hi : i < l.length) (x : Option α) (k : Nat) :
    ((l.set i x)[k]?).join = if k = i then x else (l[k]?).join := by
  rw [join_getElem?, join_getElem?]; exact getD_set_of_lt none hi x k

theorem hnd_push (h : Hnd) (k : Nat) : (σ.push h).hnd k = if k = σ.pool.length then some h else σ.hnd k :=
  join_getElem?_push σ.pool (some h) k

theorem hnd_setH {i : Nat} {hi : Hnd} (hlive : σ.hnd i = some hi) (o : Option Hnd) (k : Nat) :
    (σ.setH i o).hnd k = if k = i then o else σ.hnd k :=
  join_getElem?_set σ.pool (hnd_lt σ hlive) o k

def onTab (t : Nat) (o : Option Hnd) : Bool := match o with | some h => h.tid == t | none => false

theorem refs_eq (t : Nat) : σ.refs t = σ.pool.countP (onTab t) := rfl

theorem pool_get_of_hnd {i : Nat} {hi : Hnd} (hlive : σ.hnd i = some hi) : σ.pool[i]? = some (some hi) := by
  unfold St.hnd at hlive
  cases h : σ.pool[i]? with
  | none => rw [h] at hlive; cases hlive
  | some o => rw [h] at hlive; exact congrArg some hlive

theorem refs_setH {i : Nat} {hi : Hnd} (hlive : σ.hnd i = some hi) (o : Option Hnd) (t : Nat) :
    (σ.setH i o).refs t = σ.refs t - (if onTab t (some hi) then 1 else 0) + (if onTab t o then 1 else 0) := by
  obtain ⟨hl, he⟩ := List.getElem?_eq_some_iff.mp (pool_get_of_hnd σ hlive)
  rw [refs_eq, pool_setH, List.countP_set hl, he, refs_eq]

theorem own_some (t : Nat) (h : Hnd) : (if onTab t (some h) then 1 else 0) = if h.tid = t then 1 else 0 := by
  simp only [onTab, beq_iff_eq]

theorem own_none (t : Nat) : (if onTab t none then 1 else 0) = 0 := rfl

theorem refs_push (h : Hnd) (t : Nat) : (σ.push h).refs t = σ.refs t + (if h.tid = t then 1 else 0) := by
  rw [refs_eq, pool_push, List.countP_append, List.countP_singleton, own_some, refs_eq]

@[simp] theorem refs_modCell (t : Nat) (f : Cell → Option Cell) (t' : Nat) : (σ.modCell t f).refs t' = σ.refs t' := rfl
@[simp] theorem refs_incr (t t' : Nat) : (σ.incr t).refs t' = σ.refs t' := rfl
@[simp] theorem refs_decr (t t' : Nat) : (σ.decr t).refs t' = σ.refs t' := rfl
@[simp] theorem refs_write (t : Nat) (rs : List Rule) (t' : Nat) : (σ.write t rs).refs t' = σ.refs t' := rfl
@[simp] theorem refs_alloc (rs : List Rule) (t' : Nat) : (σ.alloc rs).refs t' = σ.refs t' := rfl

theorem refs_pos_of_hnd {k : Nat} {h : Hnd} (hk : σ.hnd k = some h) : 0 < σ.refs h.tid := by
  rw [refs_eq, List.countP_pos_iff]
  exact ⟨some h, List.mem_of_getElem? (pool_get_of_hnd σ hk), beq_self_eq_true _⟩

theorem le_refs_of_hnd {k : Nat} {h : Hnd} (hk : σ.hnd k = some h) (t : Nat) : (if h.tid = t then 1 else 0) ≤ σ.refs t := by
  split
  · subst t; exact refs_pos_of_hnd σ hk
  · exact Nat.zero_le _

end prim

variable {enc : Enc} {σ : St} {Ls : List (Option Sem)}

/-- `use_count` of every table is the number of live handles on it; allocated tables have an owner; identifiers from
`next` on are unused -/
structure Inv (σ : St) : Prop where
  rc : ∀ t, σ.rcOf t = σ.refs t
  pos : ∀ t c, σ.tabs t = some c → 0 < c.rc
  unused : ∀ t, σ.next ≤ t → σ.tabs t = none

theorem inv_init : Inv init := ⟨fun _ => rfl, fun _ _ h => by simp [init] at h, fun _ _ => rfl⟩

theorem rcOf_eq_zero_of_none {t : Nat} (h : σ.tabs t = none) : σ.rcOf t = 0 := by
  unfold St.rcOf; rw [h]

theorem Inv.tabs_some (I : Inv σ) {k : Nat} {h : Hnd} (hk : σ.hnd k = some h) : (σ.tabs h.tid).isSome := by
  have h1 := refs_pos_of_hnd σ hk
  rw [← I.rc] at h1
  cases hc : σ.tabs h.tid with
  | none => rw [rcOf_eq_zero_of_none hc] at h1; omega
  | some c => rfl

theorem Inv.tid_lt (I : Inv σ) {k : Nat} {h : Hnd} (hk : σ.hnd k = some h) : h.tid < σ.next := by
  have h1 := I.tabs_some hk
  by_cases hl : h.tid < σ.next
  · exact hl
  · rw [I.unused _ (by omega)] at h1; simp at h1

theorem Inv.refs_next (I : Inv σ) : σ.refs σ.next = 0 := by
  rw [← I.rc, rcOf_eq_zero_of_none (I.unused _ (Nat.le_refl _))]

theorem Inv.unique_owner (I : Inv σ) {i k : Nat} {hi hk : Hnd} (h1 : σ.hnd i = some hi) (h2 : σ.hnd k = some hk)
    (ht : hk.tid = hi.tid) (hrc : σ.rcOf hi.tid ≤ 1) : k = i := by
  apply Classical.byContradiction
  intro e
  have hs := refs_setH σ h1 none hi.tid
  have h4 := refs_pos_of_hnd _ ((hnd_setH σ h1 none k).trans ((if_neg e).trans h2))
  rw [ht, hs, own_some, own_none, if_pos rfl, ← I.rc] at h4
  omega

def PosRc (σ : St) : Prop := ∀ t c, σ.tabs t = some c → 0 < c.rc

def Unused (σ : St) : Prop := ∀ t, σ.next ≤ t → σ.tabs t = none

theorem pos_modCell (hp : PosRc σ) (t : Nat) (f : Cell → Option Cell)
    (hf : ∀ c c', 0 < c.rc → f c = some c' → 0 < c'.rc) : PosRc (σ.modCell t f) := by
  intro t' c h
  rw [tabs_modCell] at h
  by_cases e : t' = t
  · subst e; rw [if_pos rfl] at h
    cases hc : σ.tabs t' with
    | none => rw [hc] at h; simp at h
    | some c0 => rw [hc] at h; exact hf c0 c (hp _ _ hc) h
  · rw [if_neg e] at h; exact hp _ _ h

theorem unused_modCell (hu : Unused σ) (t : Nat) (f : Cell → Option Cell) : Unused (σ.modCell t f) := by
  intro t' h
  rw [tabs_modCell]
  by_cases e : t' = t
  · subst e; rw [if_pos rfl, hu _ h]; rfl
  · rw [if_neg e]; exact hu _ h

theorem pos_incr (hp : PosRc σ) (t : Nat) : PosRc (σ.incr t) :=
  pos_modCell hp t _ (fun c c' _ h => by simp only [Option.some.injEq] at h; subst h; simp)

theorem pos_decr (hp : PosRc σ) (t : Nat) : PosRc (σ.decr t) :=
  pos_modCell hp t _ (fun c c' _ h => by
    by_cases h1 : c.rc ≤ 1
    · rw [if_pos h1] at h; simp at h
    · rw [if_neg h1] at h; simp only [Option.some.injEq] at h; subst h; simp only; omega)

theorem pos_write (hp : PosRc σ) (t : Nat) (rs : List Rule) : PosRc (σ.write t rs) :=
  pos_modCell hp t _ (fun c c' hc h => by simp only [Option.some.injEq] at h; subst h; exact hc)

theorem pos_alloc (hp : PosRc σ) (rs : List Rule) : PosRc (σ.alloc rs) := by
  intro t' c h
  rw [tabs_alloc] at h
  by_cases e : t' = σ.next
  · rw [if_pos e] at h; simp only [Option.some.injEq] at h; subst h; simp
  · rw [if_neg e] at h; exact hp _ _ h

theorem unused_alloc (hu : Unused σ) (rs : List Rule) : Unused (σ.alloc rs) := by
  intro t' h
  rw [next_alloc] at h
  rw [tabs_alloc, if_neg (by omega)]
  exact hu _ (by omega)

theorem inv_fresh (I : Inv σ) (enc : Enc) (A : TA) : Inv (fresh enc σ A) := by
  refine ⟨fun t => ?_, pos_alloc I.pos _, unused_alloc I.unused _⟩
  unfold fresh
  rw [rcOf_push, rcOf_alloc, refs_push, refs_alloc]
  split
  · subst t; rw [I.refs_next]
  · rw [I.rc]; rfl

theorem inv_share (I : Inv σ) {k : Nat} {h : Hnd} (hk : σ.hnd k = some h) (h' : Hnd) (ht : h'.tid = h.tid) :
    Inv ((σ.incr h.tid).push h') :=
  ⟨fun t => by rw [rcOf_push, rcOf_incr σ (I.tabs_some hk), refs_push, refs_incr, ht, I.rc], pos_incr I.pos _,
    unused_modCell I.unused _ _⟩

theorem inv_assign (I : Inv σ) {i j : Nat} {hi hj : Hnd} (h1 : σ.hnd i = some hi) (h2 : σ.hnd j = some hj) :
    Inv (((σ.incr hj.tid).decr hi.tid).setH i (some hj)) := by
  refine ⟨fun t => ?_, pos_decr (pos_incr I.pos _) _, unused_modCell (unused_modCell I.unused _ _) _ _⟩
  rw [rcOf_setH, rcOf_decr, rcOf_incr σ (I.tabs_some h2), refs_setH ((σ.incr hj.tid).decr hi.tid) (hi := hi) h1,
    own_some, own_some, refs_decr, refs_incr, I.rc]
  have := le_refs_of_hnd σ h1 t
  omega

theorem inv_kill (I : Inv σ) {i : Nat} {hi : Hnd} (h1 : σ.hnd i = some hi) :
    Inv ((σ.decr hi.tid).setH i none) := by
  refine ⟨fun t => ?_, pos_decr I.pos _, unused_modCell I.unused _ _⟩
  rw [rcOf_setH, rcOf_decr, refs_setH (σ.decr hi.tid) (hi := hi) h1, own_some, own_none, refs_decr, I.rc]
  rfl

theorem inv_setH_same (I : Inv σ) {i : Nat} {hi : Hnd} (h1 : σ.hnd i = some hi) (h' : Hnd) (ht : h'.tid = hi.tid) :
    Inv (σ.setH i (some h')) := by
  refine ⟨fun t => ?_, I.pos, I.unused⟩
  rw [rcOf_setH, refs_setH σ h1, own_some, own_some, ht, I.rc]
  have := le_refs_of_hnd σ h1 t
  omega

theorem inv_write (I : Inv σ) (t : Nat) (rs : List Rule) : Inv (σ.write t rs) :=
  ⟨fun t' => by rw [rcOf_write, refs_write]; exact I.rc t', pos_write I.pos _ _, unused_modCell I.unused _ _⟩

/-- copy on write: the handle leaves a shared table for a fresh one -/
theorem inv_cow (I : Inv σ) {i : Nat} {hi : Hnd} (h1 : σ.hnd i = some hi) (rs : List Rule) (h' : Hnd)
    (ht : h'.tid = σ.next) : Inv (((σ.decr hi.tid).alloc rs).setH i (some h')) := by
  refine ⟨fun t => ?_, pos_alloc (pos_decr I.pos _) _, unused_alloc (unused_modCell I.unused _ _) _⟩
  rw [rcOf_setH, rcOf_alloc, rcOf_decr, refs_setH ((σ.decr hi.tid).alloc rs) (hi := hi) h1, own_some, own_some, ht,
    refs_alloc, refs_decr, I.rc]
  have := le_refs_of_hnd σ h1 t
  have := I.tid_lt h1
  have := I.refs_next
  show (if σ.next = t then 1 else _) = _
  split
  · subst t; omega
  · omega

/-- what a defined step on the live object `h` at entry `i` does, branch by branch -/
inductive Does1 (enc : Enc) (σ : St) (i : Nat) (h : Hnd) : Step → St → Prop
  | copy : Does1 enc σ i h (.copy i) ((σ.incr h.tid).push h)
  | assignSelf : Does1 enc σ i h (.assign i i) σ
  | kill : Does1 enc σ i h (.kill i) ((σ.decr h.tid).setH i none)
  | loadNil {B : TA} (e : B.rules = []) :
    Does1 enc σ i h (.loadinto i B) (σ.setH i (some ⟨h.tid, h.nul ++ nulPart enc B.rules, h.fin ++ B.final⟩))
  | loadCopy {B : TA} (rc : 1 < σ.rcOf h.tid) :
    Does1 enc σ i h (.loadinto i B) (((σ.decr h.tid).alloc (σ.trules h.tid ++ tblPart enc B.rules)).setH i
      (some ⟨σ.next, h.nul ++ nulPart enc B.rules, h.fin ++ B.final⟩))
  | loadOwn {B : TA} (rc : σ.rcOf h.tid ≤ 1) :
    Does1 enc σ i h (.loadinto i B) ((σ.write h.tid (σ.trules h.tid ++ tblPart enc B.rules)).setH i
      (some ⟨h.tid, h.nul ++ nulPart enc B.rules, h.fin ++ B.final⟩))
  | final {q : Nat} : Does1 enc σ i h (.final i q) (σ.setH i (some { h with fin := h.fin ++ [q] }))
  | unreach : Does1 enc σ i h (.unreach i) (fresh enc σ (trimU enc (σ.aut h)))
  | useless : Does1 enc σ i h (.useless i) (fresh enc σ (removeUseless (σ.aut h)))
  | rt : Does1 enc σ i h (.rt i) σ

inductive Does2 (enc : Enc) (σ : St) (i j : Nat) (hi hj : Hnd) : Step → St → Prop
  | assign (ne : i ≠ j) : Does2 enc σ i j hi hj (.assign i j) (((σ.incr hj.tid).decr hi.tid).setH i (some hj))
  | unionShared (e : hi.tid = hj.tid) : Does2 enc σ i j hi hj (.union i j) ((σ.incr hi.tid).push (sharedRes hi hj))
  | unionFresh (e : hi.tid ≠ hj.tid) :
    Does2 enc σ i j hi hj (.union i j) (fresh enc σ (unionModel (σ.aut hi) (σ.aut hj) [] []).1)
  | uniondisjShared (e : hi.tid = hj.tid) :
    Does2 enc σ i j hi hj (.uniondisj i j) ((σ.incr hi.tid).push (sharedRes hi hj))
  | uniondisjWrite (e : hi.tid ≠ hj.tid) : Does2 enc σ i j hi hj (.uniondisj i j)
      (((σ.incr hi.tid).write hi.tid (overwrite enc (σ.trules hi.tid) (σ.trules hj.tid))).push (sharedRes hi hj))
  | isect : Does2 enc σ i j hi hj (.isect i j) (fresh enc σ (isectFull (σ.aut hi) (σ.aut hj)))

theorem step_does {σ σ' : St} {s : Step} (hs : step enc σ s = some σ') :
    (∃ A, s = .defn A ∧ σ' = fresh enc σ A) ∨ (∃ i h, σ.hnd i = some h ∧ Does1 enc σ i h s σ') ∨
    ∃ i j hi hj, σ.hnd i = some hi ∧ σ.hnd j = some hj ∧ Does2 enc σ i j hi hj s σ' := by
  cases s <;> simp only [step, Option.bind_eq_bind, Option.bind_eq_some_iff, Option.some.injEq] at hs
  case defn A => exact Or.inl ⟨A, rfl, hs.symm⟩
  case copy i => obtain ⟨h, h1, rfl⟩ := hs; exact Or.inr (Or.inl ⟨i, h, h1, .copy⟩)
  case assign i j =>
    obtain ⟨hi, h1, hj, h2, hs⟩ := hs
    by_cases e : i = j
    · rw [if_pos e] at hs; cases hs; subst e; exact Or.inr (Or.inl ⟨i, hi, h1, .assignSelf⟩)
    · rw [if_neg e] at hs; cases hs; exact Or.inr (Or.inr ⟨i, j, hi, hj, h1, h2, .assign e⟩)
  case kill i => obtain ⟨h, h1, rfl⟩ := hs; exact Or.inr (Or.inl ⟨i, h, h1, .kill⟩)
  case loadinto i B =>
    obtain ⟨h, h1, hs⟩ := hs
    refine Or.inr (Or.inl ⟨i, h, h1, ?_⟩)
    by_cases e1 : B.rules.isEmpty = true
    · rw [if_pos e1] at hs; cases hs; exact .loadNil (List.isEmpty_iff.mp e1)
    · rw [if_neg e1] at hs
      by_cases e2 : 1 < σ.rcOf h.tid
      · rw [if_pos e2] at hs; cases hs; exact .loadCopy e2
      · rw [if_neg e2] at hs; cases hs; exact .loadOwn (Nat.le_of_not_lt e2)
  case final i q => obtain ⟨h, h1, rfl⟩ := hs; exact Or.inr (Or.inl ⟨i, h, h1, .final⟩)
  case union i j =>
    obtain ⟨hi, h1, hj, h2, hs⟩ := hs
    refine Or.inr (Or.inr ⟨i, j, hi, hj, h1, h2, ?_⟩)
    by_cases e : hi.tid = hj.tid
    · rw [if_pos e] at hs; cases hs; exact .unionShared e
    · rw [if_neg e] at hs; cases hs; exact .unionFresh e
  case uniondisj i j =>
    obtain ⟨hi, h1, hj, h2, hs⟩ := hs
    refine Or.inr (Or.inr ⟨i, j, hi, hj, h1, h2, ?_⟩)
    by_cases e : hi.tid = hj.tid
    · rw [if_pos e] at hs; cases hs; exact .uniondisjShared e
    · rw [if_neg e] at hs; cases hs; exact .uniondisjWrite e
  case isect i j => obtain ⟨hi, h1, hj, h2, rfl⟩ := hs; exact Or.inr (Or.inr ⟨i, j, hi, hj, h1, h2, .isect⟩)
  case unreach i => obtain ⟨h, h1, rfl⟩ := hs; exact Or.inr (Or.inl ⟨i, h, h1, .unreach⟩)
  case useless i => obtain ⟨h, h1, rfl⟩ := hs; exact Or.inr (Or.inl ⟨i, h, h1, .useless⟩)
  case rt i => obtain ⟨h, h1, rfl⟩ := hs; exact Or.inr (Or.inl ⟨i, h, h1, .rt⟩)

theorem step_inv {σ σ' : St} (I : Inv σ) (s : Step) (hs : step enc σ s = some σ') : Inv σ' := by
  rcases step_does hs with ⟨A, _, rfl⟩ | ⟨i, h, h1, d⟩ | ⟨i, j, hi, hj, h1, h2, d⟩
  · exact inv_fresh I enc A
  · cases d with
    | copy => exact inv_share I h1 _ rfl
    | assignSelf | rt => exact I
    | kill => exact inv_kill I h1
    | loadNil | final => exact inv_setH_same I h1 _ rfl
    | loadCopy => exact inv_cow I h1 _ _ rfl
    | loadOwn => exact inv_setH_same (inv_write I _ _) ((hnd_write ..).trans h1) _ rfl
    | unreach | useless => exact inv_fresh I enc _
  · cases d with
    | assign => exact inv_assign I h1 h2
    | unionShared | uniondisjShared => exact inv_share I h1 _ rfl
    | unionFresh | isect => exact inv_fresh I enc _
    | uniondisjWrite => exact inv_write (inv_share I h1 (sharedRes hi hj) rfl) hi.tid _

/-- Frame lemma.  `S` is a set of states such that every rule of `U` whose parent is in `S` is a rule of `V` and has
all its children in `S`.  Then the states of `S` label in `U` only trees they label in `V`. -/
theorem reach_frame (U V : TA) (S : Nat → Prop)
    (h : ∀ r, r ∈ U.rules → S r.parent → r ∈ V.rules ∧ ∀ k, k ∈ r.kids → S k) (t : Tree) (q : Nat) (hq : S q)
    (hr : q ∈ reach U t) : q ∈ reach V t :=
  (SimTo.of_frame h).reach t q q ⟨rfl, hq⟩ hr

theorem reachL_frame (U V : TA) (S : Nat → Prop)
    (h : ∀ r, r ∈ U.rules → S r.parent → r ∈ V.rules ∧ ∀ k, k ∈ r.kids → S k) :
    ∀ ts : List Tree, All2 (fun s' s => ∀ k, S k → k ∈ s' → k ∈ s) (reachL U ts) (reachL V ts) :=
  fun ts => ((SimTo.of_frame h).reachL ts).mono fun _ _ _ _ hc k hk => hc k k ⟨rfl, hk⟩

theorem accepts_frame (U V : TA) (S : Nat → Prop)
    (h : ∀ r, r ∈ U.rules → S r.parent → r ∈ V.rules ∧ ∀ k, k ∈ r.kids → S k)
    (hsub : ∀ r, r ∈ V.rules → r ∈ U.rules) (hf : U.final = V.final) (hS : ∀ q, q ∈ U.final → S q) (t : Tree) :
    accepts U t = accepts V t := by
  rw [Bool.eq_iff_iff, accepts_iff_reach, accepts_iff_reach]
  constructor
  · rintro ⟨q, hq, hfin⟩
    exact ⟨q, reach_frame U V S h t q (hS q hfin) hq, hf ▸ hfin⟩
  · rintro ⟨q, hq, hfin⟩
    exact ⟨q, reach_mono V U hsub t q hq, hf ▸ hfin⟩

theorem disj_iff {a b : List Nat} : disj a b = true ↔ ∀ x, x ∈ a → x ∉ b := by
  simp [disj]

theorem mem_rstates {rs : List Rule} {q : Nat} : q ∈ rstates rs ↔ ∃ r, r ∈ rs ∧ (q = r.parent ∨ q ∈ r.kids) := by
  simp only [rstates, List.mem_flatMap, Rule.states, List.mem_cons]

theorem mem_rstates_append {a b : List Rule} {q : Nat} : q ∈ rstates (a ++ b) ↔ q ∈ rstates a ∨ q ∈ rstates b := by
  simp only [rstates, List.flatMap_append, List.mem_append]

@[simp] theorem leafRule_kids (x : Nat × Nat) : (leafRule x).kids = [] := rfl
@[simp] theorem leafRule_parent (x : Nat × Nat) : (leafRule x).parent = x.2 := rfl

theorem mem_rstates_leaf {N : List (Nat × Nat)} {q : Nat} : q ∈ rstates (N.map leafRule) ↔ q ∈ N.map (·.2) := by
  simp only [mem_rstates, List.mem_map]
  constructor
  · rintro ⟨r, ⟨x, hx, rfl⟩, h⟩
    rcases h with h | h
    · exact ⟨x, hx, h.symm⟩
    · simp at h
  · rintro ⟨x, hx, rfl⟩
    exact ⟨leafRule x, ⟨x, hx, rfl⟩, Or.inl rfl⟩

theorem mem_aut_states {h : Hnd} {q : Nat} :
    q ∈ (σ.aut h).states ↔ q ∈ rstates (σ.trules h.tid) ∨ q ∈ h.nul.map (·.2) ∨ q ∈ h.fin := by
  rw [Rn.mem_states]
  show (∃ r, r ∈ σ.trules h.tid ++ h.nul.map leafRule ∧ _) ∨ q ∈ h.fin ↔ _
  rw [← mem_rstates, mem_rstates_append, mem_rstates_leaf, or_assoc]

theorem mem_ta_states {rs : List Rule} {F : List Nat} {q : Nat} : q ∈ (TA.mk rs F).states ↔ q ∈ rstates rs ∨ q ∈ F := by
  rw [Rn.mem_states, ← mem_rstates]

theorem leaf_of_notInTable {r : Rule} (h : inTable enc r = false) : leafRule (r.sym, r.parent) = r := by
  cases enc with
  | td => simp [inTable] at h
  | bu =>
    simp only [inTable, Bool.not_eq_false', List.isEmpty_iff] at h
    cases r with
    | mk f ks p => simp only at h; subst h; rfl

theorem mem_nulPart {rs : List Rule} {r : Rule} :
    r ∈ (nulPart enc rs).map leafRule ↔ r ∈ rs ∧ inTable enc r = false := by
  simp only [nulPart, List.map_map, List.mem_map, List.mem_filter, Function.comp, Bool.not_eq_true']
  constructor
  · rintro ⟨r', ⟨h1, h2⟩, rfl⟩
    rw [leaf_of_notInTable h2]; exact ⟨h1, h2⟩
  · rintro ⟨h1, h2⟩
    exact ⟨r, ⟨h1, h2⟩, leaf_of_notInTable h2⟩

theorem mem_tblPart {rs : List Rule} {r : Rule} : r ∈ tblPart enc rs ↔ r ∈ rs ∧ inTable enc r = true := by
  simp only [tblPart, List.mem_filter]

theorem mem_split {rs : List Rule} {r : Rule} :
    r ∈ tblPart enc rs ++ (nulPart enc rs).map leafRule ↔ r ∈ rs := by
  rw [List.mem_append, mem_tblPart, mem_nulPart]
  constructor
  · rintro (h | h) <;> exact h.1
  · intro h
    cases e : inTable enc r
    · exact Or.inr ⟨h, rfl⟩
    · exact Or.inl ⟨h, rfl⟩

theorem fresh_lang (enc : Enc) (σ : St) (A : TA) (t : Tree) :
    (fresh enc σ A).lang ⟨σ.next, nulPart enc A.rules, A.final⟩ t = accepts A t := by
  unfold St.lang
  apply Isx.accepts_congr_sets
  · intro r
    show r ∈ (fresh enc σ A).trules σ.next ++ (nulPart enc A.rules).map leafRule ↔ _
    unfold fresh
    rw [trules_push, trules_alloc, if_pos rfl]
    exact mem_split
  · intro q; exact Iff.rfl

theorem upClosedB_iff {rs : List Rule} {C : List Nat} :
    upClosedB rs C = true ↔ ∀ r, r ∈ rs → (∃ k, k ∈ r.kids ∧ k ∈ C) → r.parent ∈ C := by
  simp only [upClosedB, List.all_eq_true, Bool.or_eq_true, Bool.not_eq_true', List.contains_iff_mem]
  constructor
  · intro h r hr ⟨k, hk, hkC⟩
    rcases h r hr with h1 | h1
    · rw [List.any_eq_false] at h1
      exact absurd (by simpa using hkC) (h1 k hk)
    · exact h1
  · intro h r hr
    by_cases e : ∃ k, k ∈ r.kids ∧ k ∈ C
    · exact Or.inr (h r hr e)
    · refine Or.inl ?_
      rw [List.any_eq_false]
      intro k hk hc
      exact e ⟨k, hk, by simpa using hc⟩

theorem sub_upStep (rs : List Rule) (C : List Nat) {x : Nat} (h : x ∈ C) : x ∈ upStep rs C := by
  unfold upStep; rw [mem_unionL]; exact Or.inl h

theorem sub_upClose (rs : List Rule) : ∀ (n : Nat) (C : List Nat) {x : Nat}, x ∈ C → x ∈ upClose rs n C
  | 0, _, _, h => h
  | n + 1, C, _, h => sub_upClose rs n (upStep rs C) (sub_upStep rs C h)

theorem mem_influence {R : List Rule} {n₁ n₂ : List (Nat × Nat)} {x : Nat × Nat} (h2 : x ∈ n₂) (h1 : x ∉ n₁) :
    x.2 ∈ influence R n₁ n₂ := by
  unfold influence
  apply sub_upClose
  rw [mem_dedupL, List.mem_map]
  exact ⟨x, List.mem_filter.mpr ⟨h2, by simpa using h1⟩, rfl⟩

/-- leaf rules that cannot influence a state can be dropped: outside an upward closed set `C` that contains the parents of
the leaf rules `N₂ \ N₁`, the rules `R ∪ N₁ ∪ N₂` label a tree only with states that `R ∪ N₁` labels it with -/
theorem shared_reach (R : List Rule) (N₁ N₂ : List (Nat × Nat)) (C : List Nat)
    (hc : upClosedB R C = true) (hp : ∀ x, x ∈ N₂ → x ∉ N₁ → x.2 ∈ C) (F F' : List Nat) (t : Tree) (q : Nat) (hq : q ∉ C) :
    q ∈ reach ⟨R ++ (N₁ ++ N₂).map leafRule, F⟩ t → q ∈ reach ⟨R ++ N₁.map leafRule, F'⟩ t := by
  rw [upClosedB_iff] at hc
  apply reach_frame _ _ (fun q => q ∉ C) _ t q hq
  intro r hr hpar
  rcases List.mem_append.mp hr with h | h
  · exact ⟨List.mem_append_left _ h, fun k hk hkC => hpar (hc r h ⟨k, hk, hkC⟩)⟩
  · obtain ⟨x, hx, rfl⟩ := List.mem_map.mp h
    refine ⟨?_, fun k hk => by simp at hk⟩
    rcases List.mem_append.mp hx with h1 | h2
    · exact List.mem_append_right _ (List.mem_map_of_mem h1)
    · by_cases e : x ∈ N₁
      · exact List.mem_append_right _ (List.mem_map_of_mem e)
      · exact absurd (hp x h2 e) hpar

theorem leaves_mono (R : List Rule) {N N' : List (Nat × Nat)} (h : ∀ x, x ∈ N → x ∈ N') (r : Rule)
    (hr : r ∈ R ++ N.map leafRule) : r ∈ R ++ N'.map leafRule := by
  rcases List.mem_append.mp hr with hr | hr
  · exact List.mem_append_left _ hr
  · obtain ⟨x, hx, rfl⟩ := List.mem_map.mp hr
    exact List.mem_append_right _ (List.mem_map_of_mem (h x hx))

/-- **shared table, clause S**: the object `(table, N₁ ∪ N₂, F₁ ∪ F₂)` accepts exactly the union -/
theorem shared_lang {hi hj : Hnd} (ht : hi.tid = hj.tid) (hS : clauseS σ hi hj = true) (t : Tree) :
    accepts ⟨σ.trules hi.tid ++ (hi.nul ++ hj.nul).map leafRule, hi.fin ++ hj.fin⟩ t = (σ.lang hi t || σ.lang hj t) := by
  simp only [clauseS, Bool.and_eq_true, List.all_eq_true, Bool.or_eq_true, Bool.not_eq_true',
    List.contains_eq_mem, decide_eq_false_iff_not, decide_eq_true_eq] at hS
  obtain ⟨⟨hc1, hc2⟩, hF⟩ := hS
  rw [Bool.eq_iff_iff, Bool.or_eq_true]
  constructor
  · intro h
    obtain ⟨q, hq, hfin⟩ := accepts_iff_reach.mp h
    rcases hF q hfin with ⟨hqi, hqC⟩ | ⟨hqj, hqC⟩
    · exact Or.inl (accepts_iff_reach.mpr
        ⟨q, shared_reach _ _ _ _ hc1 (fun x h2 h1 => mem_influence h2 h1) _ hi.fin t q hqC hq, hqi⟩)
    · have hq' : q ∈ reach ⟨σ.trules hi.tid ++ (hj.nul ++ hi.nul).map leafRule, hj.fin⟩ t :=
        reach_mono _ _ (leaves_mono _ (fun x hx => List.mem_append.mpr (List.mem_append.mp hx).symm)) t q hq
      have := shared_reach _ _ _ _ hc2 (fun x h2 h1 => mem_influence h2 h1) _ hj.fin t q hqC hq'
      rw [ht] at this
      exact Or.inr (accepts_iff_reach.mpr ⟨q, this, hqj⟩)
  · rintro (h | h)
    · exact accepts_sub (P := σ.aut hi) (leaves_mono _ (fun x hx => List.mem_append_left _ hx))
        (fun q hq => List.mem_append_left _ hq) t h
    · refine accepts_sub (P := σ.aut hj) ?_ (fun q hq => List.mem_append_right _ hq) t h
      rw [ht]
      exact leaves_mono _ (fun x hx => List.mem_append_right _ hx)

theorem clash_state {r r' : Rule} (h : clash enc r r' = true) :
    ∃ q, (q = r.parent ∨ q ∈ r.kids) ∧ (q = r'.parent ∨ q ∈ r'.kids) := by
  cases enc with
  | td =>
    simp only [clash, beq_iff_eq] at h
    exact ⟨r.parent, Or.inl rfl, Or.inl h⟩
  | bu =>
    simp only [clash, Bool.and_eq_true, Bool.not_eq_true', beq_iff_eq] at h
    obtain ⟨hne, heq⟩ := h
    cases hk : r.kids with
    | nil => rw [hk] at hne; simp at hne
    | cons k ks =>
      refine ⟨k, Or.inr List.mem_cons_self, Or.inr ?_⟩
      rw [← heq, hk]; exact List.mem_cons_self

/-- when the tables have no state in common nothing is replaced: the write appends -/
theorem overwrite_eq_append (enc : Enc) (Ta Tb : List Rule) (h : ∀ q, q ∈ rstates Ta → q ∉ rstates Tb) :
    overwrite enc Ta Tb = Ta ++ Tb := by
  unfold overwrite
  congr 1
  rw [List.filter_eq_self]
  intro r hr
  rw [Bool.not_eq_true', List.any_eq_false]
  intro r' hr' hc
  obtain ⟨q, h1, h2⟩ := clash_state hc
  exact h q (mem_rstates.mpr ⟨r, hr, h1⟩) (mem_rstates.mpr ⟨r', hr', h2⟩)

theorem clauseT_iff {hi hj : Hnd} :
    clauseT σ hi hj = true ↔ ∀ q, q ∈ rstates (σ.trules hi.tid) → q ∉ (σ.aut hj).states := disj_iff

theorem clauseA_iff {hi hj : Hnd} :
    clauseA σ hi hj = true ↔ ∀ q, q ∈ hi.nul.map (·.2) ∨ q ∈ hi.fin → q ∉ (σ.aut hj).states := by
  unfold clauseA
  rw [disj_iff]
  simp only [List.mem_append]

theorem clauseT_overwrite {hi hj : Hnd} (hT : clauseT σ hi hj = true) :
    overwrite enc (σ.trules hi.tid) (σ.trules hj.tid) = σ.trules hi.tid ++ σ.trules hj.tid :=
  overwrite_eq_append enc _ _ (fun q h1 h2 => clauseT_iff.mp hT q h1 (mem_aut_states.mpr (Or.inl h2)))

/-- **the result of the in-place `UnionDisjointStates`** accepts exactly the union (clauses T and A) -/
theorem uniondisj_lang {hi hj : Hnd} (hT : clauseT σ hi hj = true) (hA : clauseA σ hi hj = true) (t : Tree) :
    accepts ⟨(σ.trules hi.tid ++ σ.trules hj.tid) ++ (hi.nul ++ hj.nul).map leafRule, hi.fin ++ hj.fin⟩ t =
      (σ.lang hi t || σ.lang hj t) := by
  have hdis : ∀ q, q ∈ (σ.aut hi).states → q ∉ (σ.aut hj).states := by
    intro q hq
    rcases mem_aut_states.mp hq with h | h | h
    · exact clauseT_iff.mp hT q h
    · exact clauseA_iff.mp hA q (Or.inl h)
    · exact clauseA_iff.mp hA q (Or.inr h)
  have e := unionDisjoint_lang (σ.aut hi) (σ.aut hj) hdis t
  unfold St.lang
  rw [← e]
  apply Isx.accepts_congr_sets
  · intro r
    simp only [unionDisjoint, St.aut, St.visible, List.mem_append, List.map_append]
    exact or_or_or_comm
  · intro q; exact Iff.rfl

/-- **a bystander on the written table** keeps its language when the states of the written rules are in a set `Sb` that
does not meet the old table, and no final state of the bystander is the parent of a written rule (its own leaf rules do
not matter: they have no children) -/
theorem bystander_lang (Ta Tb : List Rule) (N : List (Nat × Nat)) (F Sb : List Nat)
    (hT : ∀ q, q ∈ rstates Ta → q ∉ Sb) (hb : ∀ q, q ∈ rstates Tb → q ∈ Sb)
    (hF : ∀ q, q ∈ F → q ∉ Tb.map (·.parent)) (t : Tree) :
    accepts ⟨(Ta ++ Tb) ++ N.map leafRule, F⟩ t = accepts ⟨Ta ++ N.map leafRule, F⟩ t := by
  apply accepts_frame _ _ (fun q => q ∉ Tb.map (·.parent))
  · intro r hr hpar
    rcases List.mem_append.mp hr with h | h
    · rcases List.mem_append.mp h with h | h
      · refine ⟨List.mem_append_left _ h, fun k hk hk' => ?_⟩
        obtain ⟨r', hr', e⟩ := List.mem_map.mp hk'
        exact hT k (mem_rstates.mpr ⟨r, h, Or.inr hk⟩) (hb k (mem_rstates.mpr ⟨r', hr', Or.inl e.symm⟩))
      · exact absurd (List.mem_map_of_mem h) hpar
    · obtain ⟨x, hx, rfl⟩ := List.mem_map.mp h
      exact ⟨List.mem_append_right _ h, fun k hk => by simp at hk⟩
  · intro r hr
    rcases List.mem_append.mp hr with h | h
    · exact List.mem_append_left _ (List.mem_append_left _ h)
    · exact List.mem_append_right _ h
  · rfl
  · exact hF

theorem loadinto_lang (enc : Enc) (Ta : List Rule) (N : List (Nat × Nat)) (F : List Nat) (B : TA)
    (hd : ∀ q, q ∈ (TA.mk (Ta ++ N.map leafRule) F).states → q ∉ B.states) (t : Tree) :
    accepts ⟨(Ta ++ tblPart enc B.rules) ++ (N ++ nulPart enc B.rules).map leafRule, F ++ B.final⟩ t =
      (accepts ⟨Ta ++ N.map leafRule, F⟩ t || accepts B t) := by
  rw [← unionDisjoint_lang _ B hd t]
  apply Isx.accepts_congr_sets
  · intro r
    have hsplit := @mem_split enc B.rules r
    simp only [List.mem_append] at hsplit
    simp only [unionDisjoint, List.mem_append, List.map_append]
    rw [or_or_or_comm, hsplit]
  · intro q; exact Iff.rfl

theorem trimU_lang (enc : Enc) (A : TA) (t : Tree) : accepts (trimU enc A) t = accepts A t := by
  cases enc with
  | td => exact removeUnreachable_lang A t
  | bu => exact restrict_lang A _ (prodStates_closed A) t

abbrev Sem := Tree → Bool

def getS (Ls : List (Option Sem)) (k : Nat) : Option Sem := (Ls[k]?).join

/-- **The specification of the steps**, on languages: from the languages `Ls` of the entries before the step the
languages after it.  Every entry that is not the result (or the target of `assign` / `kill` / `loadinto` / `final`)
KEEPS its language – this is the isolation claim –, a copy has the language of its source, `union` / `uniondisj` the union,
`isect` the intersection, the trimmings the language of the operand, `loadinto` the union with the loaded automaton;
`final i q` is specified structurally (the rules the object sees, one more final state). -/
def specStep (σ : St) (s : Step) (Ls : List (Option Sem)) : Option (List (Option Sem)) :=
  match s with
  | .defn A => some (Ls ++ [some (accepts A)])
  | .copy i => (getS Ls i).map (fun L => Ls ++ [some L])
  | .assign i j => (getS Ls i).bind (fun _ => (getS Ls j).map (fun L => Ls.set i (some L)))
  | .kill i => (getS Ls i).map (fun _ => Ls.set i none)
  | .loadinto i B => (getS Ls i).map (fun L => Ls.set i (some (fun t => L t || accepts B t)))
  | .final i q => (σ.hnd i).map (fun h => Ls.set i (some (accepts ⟨σ.visible h, h.fin ++ [q]⟩)))
  | .union i j => (getS Ls i).bind (fun Li => (getS Ls j).map (fun Lj => Ls ++ [some (fun t => Li t || Lj t)]))
  | .uniondisj i j => (getS Ls i).bind (fun Li => (getS Ls j).map (fun Lj => Ls ++ [some (fun t => Li t || Lj t)]))
  | .isect i j => (getS Ls i).bind (fun Li => (getS Ls j).map (fun Lj => Ls ++ [some (fun t => Li t && Lj t)]))
  | .unreach i => (getS Ls i).map (fun L => Ls ++ [some L])
  | .useless i => (getS Ls i).map (fun L => Ls ++ [some L])
  | .rt i => (getS Ls i).map (fun _ => Ls)

def OptRel {α β : Type} (R : α → β → Prop) : Option α → Option β → Prop
  | some a, some b => R a b
  | none, none => True
  | _, _ => False

def Agree (σ : St) (Ls : List (Option Sem)) : Prop :=
  σ.pool.length = Ls.length ∧ ∀ k, OptRel (fun h L => ∀ t, σ.lang h t = L t) (σ.hnd k) (getS Ls k)

theorem OptRel.mono {α β : Type} {R R' : α → β → Prop} {a : Option α} {b : Option β} (h : OptRel R a b)
    (hR : ∀ x y, a = some x → R x y → R' x y) : OptRel R' a b := by
  cases a <;> cases b
  · trivial
  · exact h
  · exact h
  · exact hR _ _ rfl h

theorem OptRel.some_left {α β : Type} {R : α → β → Prop} {x : α} {b : Option β} (h : OptRel R (some x) b) :
    ∃ y, b = some y ∧ R x y := by
  cases b
  · exact h.elim
  · exact ⟨_, rfl, h⟩

theorem OptRel.some_right {α β : Type} {R : α → β → Prop} {a : Option α} {y : β} (h : OptRel R a (some y)) :
    ∃ x, a = some x ∧ R x y := by
  cases a
  · exact h.elim
  · exact ⟨_, rfl, h⟩

theorem getS_push (Ls : List (Option Sem)) (x : Option Sem) (k : Nat) :
    getS (Ls ++ [x]) k = if k = Ls.length then x else getS Ls k :=
  join_getElem?_push Ls x k

theorem getS_set (Ls : List (Option Sem)) {i : Nat} (hi : i < Ls.length) (x : Option Sem) (k : Nat) :
    getS (Ls.set i x) k = if k = i then x else getS Ls k :=
  join_getElem?_set Ls hi x k

theorem hnd_of_pool {σ τ : St} (h : σ.pool = τ.pool) (k : Nat) : σ.hnd k = τ.hnd k := by
  unfold St.hnd; rw [h]

theorem Agree.get (A : Agree σ Ls) {i : Nat} {hi : Hnd} (h : σ.hnd i = some hi) :
    ∃ L, getS Ls i = some L ∧ ∀ t, σ.lang hi t = L t :=
  (h ▸ A.2 i).some_left

theorem lang_congr {σ σ' : St} {x : Hnd} (h : σ'.trules x.tid = σ.trules x.tid) (t : Tree) : σ'.lang x t = σ.lang x t := by
  unfold St.lang St.aut St.visible; rw [h]

theorem agree_push {σ σ' : St} (A : Agree σ Ls) (h' : Hnd) (L : Sem)
    (hp : σ'.pool = σ.pool ++ [some h'])
    (hframe : ∀ k h, σ.hnd k = some h → ∀ t, σ'.lang h t = σ.lang h t)
    (hnew : ∀ t, σ'.lang h' t = L t) : Agree σ' (Ls ++ [some L]) := by
  refine ⟨by rw [hp]; simp [A.1], fun k => ?_⟩
  have e : σ'.hnd k = (σ.push h').hnd k := hnd_of_pool (by rw [hp]; rfl) k
  rw [e, hnd_push, getS_push, ← A.1]
  by_cases ek : k = σ.pool.length
  · rw [if_pos ek, if_pos ek]; exact hnew
  · rw [if_neg ek, if_neg ek]
    exact (A.2 k).mono (fun h L hk hR t => (hframe k h hk t).trans (hR t))

theorem agree_set {σ σ' : St} (A : Agree σ Ls) {i : Nat} {hi : Hnd} (h1 : σ.hnd i = some hi)
    (o : Option Hnd) (oL : Option Sem) (hp : σ'.pool = σ.pool.set i o)
    (hframe : ∀ k h, k ≠ i → σ.hnd k = some h → ∀ t, σ'.lang h t = σ.lang h t)
    (hnew : OptRel (fun h L => ∀ t, σ'.lang h t = L t) o oL) : Agree σ' (Ls.set i oL) := by
  have hl : i < Ls.length := by rw [← A.1]; exact hnd_lt σ h1
  refine ⟨by rw [hp]; simp [A.1], fun k => ?_⟩
  have e : σ'.hnd k = (σ.setH i o).hnd k := hnd_of_pool (by rw [hp]; rfl) k
  rw [e, hnd_setH σ h1, getS_set Ls hl]
  by_cases ek : k = i
  · rw [if_pos ek, if_pos ek]; exact hnew
  · rw [if_neg ek, if_neg ek]
    exact (A.2 k).mono (fun h L hk hR t => (hframe k h ek hk t).trans (hR t))

theorem agree_fresh (I : Inv σ) (A : Agree σ Ls) (X : TA) (L : Sem)
    (hL : ∀ t, accepts X t = L t) : Agree (fresh enc σ X) (Ls ++ [some L]) := by
  refine agree_push A ⟨σ.next, nulPart enc X.rules, X.final⟩ L rfl (fun k h hk t => ?_) (fun t => ?_)
  · apply lang_congr
    unfold fresh
    rw [trules_push, trules_alloc, if_neg]
    have := I.tid_lt hk; omega
  · rw [fresh_lang]; exact hL t

theorem agree_share (A : Agree σ Ls) (x : Nat) (h' : Hnd) (L : Sem)
    (hL : ∀ t, σ.lang h' t = L t) : Agree ((σ.incr x).push h') (Ls ++ [some L]) := by
  refine agree_push A h' L rfl (fun k h _ t => ?_) (fun t => ?_)
  · exact lang_congr (by rw [trules_push, trules_incr]) t
  · rw [← hL t]; exact lang_congr (by rw [trules_push, trules_incr]) t

theorem clauseH_iff {i : Nat} {hi hj : Hnd} (hH : clauseH σ i hi hj = true) :
    ∀ k h, k ≠ i → σ.hnd k = some h → h.tid = hi.tid → ∀ q, q ∈ h.fin → q ∉ (σ.trules hj.tid).map (·.parent) := by
  intro k h hki hk ht
  unfold clauseH at hH
  rw [List.all_eq_true] at hH
  have := hH k (List.mem_range.mpr (hnd_lt σ hk))
  rw [hk] at this
  simp only [Bool.or_eq_true, beq_iff_eq, bne_iff_ne, ne_eq] at this
  rcases this with h1 | h1 | h1
  · exact absurd h1 hki
  · exact absurd ht h1
  · exact disj_iff.mp h1

theorem Inv.shared_of_other (I : Inv σ) {i k : Nat} {hi hk : Hnd} (h1 : σ.hnd i = some hi) (h2 : σ.hnd k = some hk)
    (hki : k ≠ i) (e : hk.tid = hi.tid) : 1 < σ.rcOf hi.tid := by
  by_cases hh : 1 < σ.rcOf hi.tid
  · exact hh
  · exact absurd (I.unique_owner h1 h2 e (by omega)) hki

/-- releasing `hi`'s reference does not change what another live handle sees (a shared table is not freed) -/
theorem trules_kill_other (I : Inv σ) {i k : Nat} {hi hk : Hnd} (h1 : σ.hnd i = some hi) (h2 : σ.hnd k = some hk)
    (hki : k ≠ i) : (σ.decr hi.tid).trules hk.tid = σ.trules hk.tid := by
  by_cases e : hk.tid = hi.tid
  · rw [e]; exact trules_decr_shared σ _ _ (I.shared_of_other h1 h2 hki e)
  · exact trules_decr_ne σ _ _ e

theorem trules_assign_other (I : Inv σ) {i k : Nat} {hi hk : Hnd} (h1 : σ.hnd i = some hi) (h2 : σ.hnd k = some hk)
    (hki : k ≠ i) {tj : Nat} (hj : (σ.tabs tj).isSome) : ((σ.incr tj).decr hi.tid).trules hk.tid = σ.trules hk.tid := by
  by_cases e : hk.tid = hi.tid
  · have h3 := I.shared_of_other h1 h2 hki e
    rw [e, trules_decr_shared _ _ _ (by rw [rcOf_incr σ hj]; exact Nat.lt_add_right _ h3), trules_incr]
  · rw [trules_decr_ne _ _ _ e, trules_incr]

theorem agree_assign (I : Inv σ) (A : Agree σ Ls) {i j : Nat} {hi hj : Hnd}
    (h1 : σ.hnd i = some hi) (h2 : σ.hnd j = some hj) (hij : i ≠ j) (Lj : Sem) (hLj : ∀ t, σ.lang hj t = Lj t) :
    Agree (((σ.incr hj.tid).decr hi.tid).setH i (some hj)) (Ls.set i (some Lj)) := by
  refine agree_set A h1 (some hj) (some Lj) rfl (fun k h hki hk t => ?_) (fun t => ?_)
  · exact lang_congr (by rw [trules_setH]; exact trules_assign_other I h1 hk hki (I.tabs_some h2)) t
  · rw [← hLj t]
    exact lang_congr (by rw [trules_setH]; exact trules_assign_other I h1 h2 (fun e => hij e.symm) (I.tabs_some h2)) t

theorem agree_kill (I : Inv σ) (A : Agree σ Ls) {i : Nat} {hi : Hnd}
    (h1 : σ.hnd i = some hi) : Agree ((σ.decr hi.tid).setH i none) (Ls.set i none) := by
  refine agree_set A h1 none none rfl (fun k h hki hk t => ?_) trivial
  exact lang_congr (by rw [trules_setH]; exact trules_kill_other I h1 hk hki) t

theorem agree_self (A : Agree σ Ls) {i : Nat} {hi : Hnd} (h1 : σ.hnd i = some hi)
    (L : Sem) (hL : ∀ t, σ.lang hi t = L t) : Agree σ (Ls.set i (some L)) := by
  have hl : i < Ls.length := by rw [← A.1]; exact hnd_lt σ h1
  refine ⟨by simp [A.1], fun k => ?_⟩
  rw [getS_set Ls hl]
  by_cases ek : k = i
  · subst ek; rw [if_pos rfl, h1]; exact hL
  · rw [if_neg ek]; exact A.2 k

theorem agree_final (A : Agree σ Ls) {i : Nat} {h : Hnd} (h1 : σ.hnd i = some h) (q : Nat) :
    Agree (σ.setH i (some { h with fin := h.fin ++ [q] })) (Ls.set i (some (accepts ⟨σ.visible h, h.fin ++ [q]⟩))) := by
  refine agree_set A h1 _ _ rfl (fun k h' _ _ t => ?_) (fun t => ?_)
  · exact lang_congr rfl t
  · rfl

theorem agree_loadinto {σ σ' : St} (I : Inv σ) (A : Agree σ Ls) {i : Nat} {h : Hnd}
    (h1 : σ.hnd i = some h) (B : TA) (hL : clauseL σ h B = true) (L : Sem) (hLi : ∀ t, σ.lang h t = L t)
    (d : Does1 enc σ i h (.loadinto i B) σ') : Agree σ' (Ls.set i (some (fun t => L t || accepts B t))) := by
  have key := fun t => (loadinto_lang enc (σ.trules h.tid) h.nul h.fin B (disj_iff.mp hL) t).trans
    (congrArg (· || accepts B t) (hLi t))
  cases d with
  | loadNil e =>
    refine agree_set A h1 _ _ rfl (fun k h' _ _ t => lang_congr rfl t) (fun t => ?_)
    have := key t
    rw [e] at this
    simp only [tblPart, List.filter_nil, List.append_nil] at this
    rw [e]
    exact this
  | loadCopy rc =>
    refine agree_set A h1 _ _ rfl (fun k h' hki hk t => ?_) (fun t => ?_)
    · apply lang_congr
      rw [trules_setH, trules_alloc, if_neg (show ¬ h'.tid = (σ.decr h.tid).next from Nat.ne_of_lt (I.tid_lt hk)),
        trules_decr_shared σ _ _ rc]
    · show accepts ⟨(((σ.decr h.tid).alloc _).setH i _).trules σ.next ++ _, _⟩ t = _
      rw [trules_setH, trules_alloc, if_pos (show σ.next = (σ.decr h.tid).next from rfl)]
      exact key t
  | loadOwn rc =>
    refine agree_set A h1 _ _ rfl (fun k h' hki hk t => ?_) (fun t => ?_)
    · apply lang_congr
      rw [trules_setH, trules_write, if_neg (fun hh => hki (I.unique_owner h1 hk hh.1 rc))]
    · show accepts ⟨((σ.write h.tid _).setH i _).trules h.tid ++ _, _⟩ t = _
      rw [trules_setH, trules_write, if_pos ⟨rfl, I.tabs_some h1⟩]
      exact key t

theorem agree_uniondisj (I : Inv σ) (A : Agree σ Ls) {i : Nat} {hi hj : Hnd}
    (h1 : σ.hnd i = some hi) (hT : clauseT σ hi hj = true) (hA : clauseA σ hi hj = true)
    (hH : clauseH σ i hi hj = true) (L : Sem) (hL : ∀ t, (σ.lang hi t || σ.lang hj t) = L t) :
    Agree (((σ.incr hi.tid).write hi.tid (overwrite enc (σ.trules hi.tid) (σ.trules hj.tid))).push (sharedRes hi hj))
      (Ls ++ [some L]) := by
  have hsome : ((σ.incr hi.tid).tabs hi.tid).isSome := by
    have := I.tabs_some h1
    rw [St.incr, tabs_modCell, if_pos rfl]
    cases hc : σ.tabs hi.tid with
    | none => rw [hc] at this; simp at this
    | some c => rfl
  have htr : ∀ t', (((σ.incr hi.tid).write hi.tid (overwrite enc (σ.trules hi.tid) (σ.trules hj.tid))).push
      (sharedRes hi hj)).trules t' = if t' = hi.tid then σ.trules hi.tid ++ σ.trules hj.tid else σ.trules t' := by
    intro t'
    rw [trules_push, trules_write, clauseT_overwrite hT, trules_incr]
    by_cases e : t' = hi.tid
    · rw [if_pos ⟨e, hsome⟩, if_pos e]
    · rw [if_neg (fun hh => e hh.1), if_neg e]
  refine agree_push A (sharedRes hi hj) L rfl (fun k h hk t => ?_) (fun t => ?_)
  · by_cases e : h.tid = hi.tid
    · unfold St.lang St.aut St.visible
      rw [htr, if_pos e, e]
      apply bystander_lang _ _ _ _ (σ.aut hj).states (clauseT_iff.mp hT)
        (fun q hq => mem_aut_states.mpr (Or.inl hq))
      by_cases ek : k = i
      · subst ek
        rw [h1] at hk; simp only [Option.some.injEq] at hk; subst hk
        intro q hq hq'
        obtain ⟨r', hr', e⟩ := List.mem_map.mp hq'
        exact clauseA_iff.mp hA q (Or.inr hq) (mem_aut_states.mpr (Or.inl (mem_rstates.mpr ⟨r', hr', Or.inl e.symm⟩)))
      · exact clauseH_iff hH k h ek hk e
    · exact lang_congr (by rw [htr, if_neg e]) t
  · rw [← hL t, ← uniondisj_lang hT hA t]
    unfold St.lang St.aut St.visible
    rw [htr]
    show accepts ⟨(if hi.tid = hi.tid then _ else _) ++ _, _⟩ t = _
    rw [if_pos rfl]
    rfl

/-- **Main step theorem.**  In a state that satisfies the reference-count invariant and whose entries denote the languages
`Ls`, a step inside its precondition leads to a state whose entries denote the languages `specStep` assigns: the result has
the specified language and every other live entry keeps its language. -/
theorem step_agree {σ σ' : St} (I : Inv σ) (A : Agree σ Ls) (s : Step)
    (hpre : pre enc σ s = true) (hs : step enc σ s = some σ') :
    ∃ Ls', specStep σ s Ls = some Ls' ∧ Agree σ' Ls' := by
  rcases step_does hs with ⟨X, rfl, rfl⟩ | ⟨i, h, h1, d⟩ | ⟨i, j, hi, hj, h1, h2, d⟩
  · exact ⟨_, rfl, agree_fresh I A X _ (fun _ => rfl)⟩
  · obtain ⟨L, hL, hLt⟩ := A.get h1
    have one : ∀ f : Sem → List (Option Sem), (getS Ls i).map f = some (f L) := fun f => by rw [hL]; rfl
    have load : ∀ {B : TA} {σ'' : St}, pre enc σ (.loadinto i B) = true → Does1 enc σ i h (.loadinto i B) σ'' →
        ∃ Ls', specStep σ (.loadinto i B) Ls = some Ls' ∧ Agree σ'' Ls' := fun hp d =>
      ⟨_, one _, agree_loadinto I A h1 _ (by simpa only [pre, h1] using hp) L hLt d⟩
    cases d with
    | copy => exact ⟨_, one _, agree_share A _ _ L hLt⟩
    | assignSelf => exact ⟨_, by simp only [specStep, hL, Option.bind_some, Option.map_some], agree_self A h1 L hLt⟩
    | kill => exact ⟨_, one _, agree_kill I A h1⟩
    | loadNil e => exact load hpre (.loadNil e)
    | loadCopy rc => exact load hpre (.loadCopy rc)
    | loadOwn rc => exact load hpre (.loadOwn rc)
    | final => exact ⟨_, by simp only [specStep, h1, Option.map_some], agree_final A h1 _⟩
    | unreach => exact ⟨_, one _, agree_fresh I A _ L (fun t => by rw [trimU_lang]; exact hLt t)⟩
    | useless => exact ⟨_, one _, agree_fresh I A _ L (fun t => by rw [removeUseless_lang]; exact hLt t)⟩
    | rt => exact ⟨_, one _, A⟩
  · obtain ⟨Li, hLi, hLit⟩ := A.get h1
    obtain ⟨Lj, hLj, hLjt⟩ := A.get h2
    have two : ∀ f : Sem → Sem → List (Option Sem),
        (getS Ls i).bind (fun Li => (getS Ls j).map (fun Lj => f Li Lj)) = some (f Li Lj) := fun f => by rw [hLi, hLj]; rfl
    have union : ∀ t, (σ.lang hi t || σ.lang hj t) = (Li t || Lj t) := fun t => by rw [hLit t, hLjt t]
    cases d with
    | assign ne => exact ⟨_, two (fun _ Lj => _), agree_assign I A h1 h2 ne Lj hLjt⟩
    | unionShared e =>
      simp only [pre, h1, h2] at hpre
      have hS := ((Bool.or_eq_true _ _).mp hpre).resolve_left (fun h => bne_iff_ne.mp h e)
      exact ⟨_, two _, agree_share A _ _ _ (fun t => (shared_lang e hS t).trans (union t))⟩
    | unionFresh e =>
      exact ⟨_, two _, agree_fresh I A _ _ (fun t => (unionModel_lang_empty ..).trans (union t))⟩
    | uniondisjShared e =>
      simp only [pre, h1, h2, if_pos e] at hpre
      exact ⟨_, two _, agree_share A _ _ _ (fun t => (shared_lang e hpre t).trans (union t))⟩
    | uniondisjWrite e =>
      simp only [pre, h1, h2, if_neg e, Bool.and_eq_true] at hpre
      exact ⟨_, two _, agree_uniondisj I A h1 hpre.1.1 hpre.1.2 hpre.2 _ union⟩
    | isect =>
      exact ⟨_, two _, agree_fresh I A _ _ (fun t => by rw [isectFull_lang, ← hLit t, ← hLjt t]; rfl)⟩

/-- the specification run along a history (it consults the model state only for `final`, whose meaning is structural) -/
def specRun (enc : Enc) : St → List (Option Sem) → List Step → Option (List (Option Sem))
  | _, Ls, [] => some Ls
  | σ, Ls, s :: ss => (specStep σ s Ls).bind (fun Ls' => (step enc σ s).bind (fun σ' => specRun enc σ' Ls' ss))

theorem run_agree {enc : Enc} : ∀ (ss : List Step) {σ σ' : St} {Ls : List (Option Sem)}, Inv σ → Agree σ Ls →
    preRun enc σ ss = true → run enc σ ss = some σ' →
    Inv σ' ∧ ∃ Ls', specRun enc σ Ls ss = some Ls' ∧ Agree σ' Ls'
  | [], σ, σ', Ls, I, A, _, hr => by
    simp only [run, Option.some.injEq] at hr; subst hr
    exact ⟨I, Ls, rfl, A⟩
  | s :: ss, σ, σ', Ls, I, A, hp, hr => by
    simp only [run, Option.bind_eq_some_iff] at hr
    obtain ⟨σ1, hs, hr⟩ := hr
    simp only [preRun, hs, Bool.and_eq_true] at hp
    obtain ⟨Ls1, hspec, A1⟩ := step_agree I A s hp.1 hs
    obtain ⟨I', Ls', hrun, A'⟩ := run_agree ss (step_inv I s hs) A1 hp.2 hr
    exact ⟨I', Ls', by simp only [specRun, hspec, hs, Option.bind_some]; exact hrun, A'⟩

theorem agree_init : Agree init [] := ⟨rfl, fun k => by
  have : init.hnd k = none := hnd_ge init (Nat.zero_le _)
  rw [this]; trivial⟩

theorem run_defined {enc : Enc} : ∀ (ss : List Step) (σ : St), preRun enc σ ss = true → ∃ σ', run enc σ ss = some σ'
  | [], σ, _ => ⟨σ, rfl⟩
  | s :: ss, σ, hp => by
    simp only [preRun, Bool.and_eq_true] at hp
    cases hs : step enc σ s with
    | none => rw [hs] at hp; simp at hp
    | some σ1 =>
      rw [hs] at hp
      obtain ⟨σ', h⟩ := run_defined ss σ1 hp.2
      exact ⟨σ', by simp only [run, hs, Option.bind_some]; exact h⟩

/-- **History theorem.**  For every history from the empty pool whose steps are inside the precondition: the history is
defined, the final state satisfies the reference-count invariant, and every entry denotes the language that the
specification of the operations assigns to it. -/
theorem history_correct (enc : Enc) (ss : List Step) (hp : preRun enc init ss = true) :
    ∃ σ Ls, run enc init ss = some σ ∧ Inv σ ∧ specRun enc init [] ss = some Ls ∧ Agree σ Ls := by
  obtain ⟨σ, hr⟩ := run_defined ss init hp
  obtain ⟨I, Ls, hspec, A⟩ := run_agree ss inv_init agree_init hp hr
  exact ⟨σ, Ls, hr, I, hspec, A⟩

/-- the invariant alone needs no precondition: reference counts are right after EVERY defined history -/
theorem run_inv {enc : Enc} : ∀ (ss : List Step) {σ σ' : St}, Inv σ → run enc σ ss = some σ' → Inv σ'
  | [], _, _, I, hr => by simp only [run, Option.some.injEq] at hr; subst hr; exact I
  | s :: ss, σ, σ', I, hr => by
    simp only [run, Option.bind_eq_some_iff] at hr
    obtain ⟨σ1, hs, hr⟩ := hr
    exact run_inv ss (step_inv I s hs) hr

/-- the entry a step writes to (results are NEW entries) -/
def target : Step → Option Nat
  | .assign i _ => some i
  | .kill i => some i
  | .loadinto i _ => some i
  | .final i _ => some i
  | _ => none

def semOf (σ : St) : List (Option Sem) := σ.pool.map (fun o => o.map (fun h => σ.lang h))

theorem getS_semOf (σ : St) (k : Nat) : getS (semOf σ) k = (σ.hnd k).map (fun h => σ.lang h) := by
  unfold getS semOf St.hnd
  rw [List.getElem?_map]
  cases σ.pool[k]? with
  | none => rfl
  | some o => rfl

theorem agree_semOf (σ : St) : Agree σ (semOf σ) := by
  refine ⟨by simp [semOf], fun k => ?_⟩
  rw [getS_semOf]
  cases σ.hnd k with
  | none => trivial
  | some h => exact fun _ => rfl

theorem specStep_frame {σ : St} {s : Step} {Ls Ls' : List (Option Sem)} (h : specStep σ s Ls = some Ls') {k : Nat}
    (hk : k < Ls.length) (ht : target s ≠ some k) : getS Ls' k = getS Ls k := by
  have push : ∀ x, getS (Ls ++ [x]) k = getS Ls k := fun x => by rw [getS_push, if_neg (by omega)]
  have set : ∀ i x, i ≠ k → getS (Ls.set i x) k = getS Ls k := fun i x hik => by
    by_cases hl : i < Ls.length
    · rw [getS_set Ls hl, if_neg (fun e => hik e.symm)]
    · rw [List.set_eq_of_length_le (by omega)]
  cases s with
  | defn A => cases h; exact push _
  | copy i | unreach i | useless i =>
    obtain ⟨L, _, rfl⟩ := Option.map_eq_some_iff.mp h
    exact push _
  | union i j | uniondisj i j | isect i j =>
    obtain ⟨_, _, h⟩ := Option.bind_eq_some_iff.mp h
    obtain ⟨L, _, rfl⟩ := Option.map_eq_some_iff.mp h
    exact push _
  | assign i j =>
    obtain ⟨_, _, h⟩ := Option.bind_eq_some_iff.mp h
    obtain ⟨L, _, rfl⟩ := Option.map_eq_some_iff.mp h
    exact set _ _ (fun e => ht (congrArg some e))
  | kill i | loadinto i B | final i q =>
    obtain ⟨L, _, rfl⟩ := Option.map_eq_some_iff.mp h
    exact set _ _ (fun e => ht (congrArg some e))
  | rt i =>
    obtain ⟨L, _, rfl⟩ := Option.map_eq_some_iff.mp h
    rfl

/-- **Isolation.**  A step inside its precondition leaves every live entry other than its target alive with the language
it had (its dump may change: after `uniondisj` all objects on the written table list the new rules). -/
theorem step_isolation {enc : Enc} {σ σ' : St} (I : Inv σ) (s : Step) (hpre : pre enc σ s = true)
    (hs : step enc σ s = some σ') {k : Nat} {h : Hnd} (hk : σ.hnd k = some h) (ht : target s ≠ some k) :
    ∃ h', σ'.hnd k = some h' ∧ ∀ t, σ'.lang h' t = σ.lang h t := by
  obtain ⟨Ls', hspec, A'⟩ := step_agree I (agree_semOf σ) s hpre hs
  have hl : k < (semOf σ).length := by simp only [semOf, List.length_map]; exact hnd_lt σ hk
  have e := specStep_frame hspec hl ht
  rw [getS_semOf, hk] at e
  exact (e ▸ A'.2 k).some_right

theorem step_result {enc : Enc} {σ σ' : St} (I : Inv σ) (s : Step) (hpre : pre enc σ s = true)
    (hs : step enc σ s = some σ') {Ls' : List (Option Sem)} (hspec : specStep σ s (semOf σ) = some Ls') {k : Nat} {L : Sem}
    (hL : getS Ls' k = some L) : ∃ h', σ'.hnd k = some h' ∧ ∀ t, σ'.lang h' t = L t := by
  obtain ⟨Ls'', hspec', A'⟩ := step_agree I (agree_semOf σ) s hpre hs
  rw [hspec] at hspec'; simp only [Option.some.injEq] at hspec'; subst hspec'
  exact (hL ▸ A'.2 k).some_right

/-- no leak: an allocated table has an owner -/
theorem no_leak {enc : Enc} {ss : List Step} {σ : St} (hr : run enc init ss = some σ) {t : Nat} {c : Cell}
    (hc : σ.tabs t = some c) : 0 < σ.refs t := by
  have I := run_inv ss inv_init hr
  have := I.rc t
  unfold St.rcOf at this; rw [hc] at this
  rw [← this]; exact I.pos _ _ hc

/-- no table is freed while a live handle points to it, and its `use_count` is the number of such handles -/
theorem live_table_allocated {enc : Enc} {ss : List Step} {σ : St} (hr : run enc init ss = some σ) {k : Nat} {h : Hnd}
    (hk : σ.hnd k = some h) : ∃ c, σ.tabs h.tid = some c ∧ c.rc = σ.refs h.tid ∧ 0 < c.rc := by
  have I := run_inv ss inv_init hr
  have h1 := I.tabs_some hk
  cases hc : σ.tabs h.tid with
  | none => rw [hc] at h1; simp at h1
  | some c =>
    refine ⟨c, rfl, ?_, I.pos _ _ hc⟩
    have := I.rc h.tid
    unfold St.rcOf at this; rw [hc] at this; exact this

end Vata.BddShare

/-! Each history runs inside the precondition up to its last step; the last step violates exactly ONE clause (the others are
evaluated to `true`); afterwards a language is wrong: the result accepts a tree that neither operand accepted, or a
bystander accepts a tree it did not accept before.  All by `decide`. -/
namespace Vata.BddShareEx
open Vata Vata.BddShare

def lf (f : Nat) : Tree := .node f []
def un (f : Nat) (t : Tree) : Tree := .node f [t]

def clausesAt (enc : Enc) (ss : List Step) (i j : Nat) : Option (Bool × Bool × Bool) :=
  (run enc init ss).bind fun σ => (σ.hnd i).bind fun hi => (σ.hnd j).map fun hj =>
    (clauseT σ hi hj, clauseA σ hi hj, clauseH σ i hi hj)

def preAt (enc : Enc) (ss : List Step) (s : Step) : Option Bool := (run enc init ss).map (fun σ => pre enc σ s)

def a : TA := ⟨[⟨1, [], 100⟩], [100]⟩

/-! ### clause T – the stale-rule scenario (both encodings)
`r = UnionDisjointStates(a, b)` writes `b`'s rules into `a`'s table; `r` dies; `UnionDisjointStates(a, b2)` with a `b2` that
reuses `b`'s numbers `0, 1` inherits the stale rule `3(0) → 1`: the result accepts `9(3(6))`, which neither `a` nor `b2`
accepts (`b2` alone has no rule into its state `1`).  Clauses A and H hold: only the TABLE of `a` knows the numbers. -/
def b : TA := ⟨[⟨2, [], 0⟩, ⟨3, [0], 1⟩], [1]⟩
def b2 : TA := ⟨[⟨6, [], 0⟩, ⟨9, [1], 2⟩], [2]⟩
def hT : List Step := [.defn a, .defn b, .uniondisj 0 1, .kill 2, .defn b2, .uniondisj 0 3]
def wT : Tree := un 9 (un 3 (lf 6))

theorem necessity_T (enc : Enc) :
    preRun enc init (hT.take 5) = true ∧ clausesAt enc (hT.take 5) 0 3 = some (false, true, true) ∧
    langAfter enc hT 4 wT = some true ∧ langAfter enc (hT.take 5) 0 wT = some false ∧
    langAfter enc (hT.take 5) 3 wT = some false := by
  cases enc <;> decide +kernel

/-! ### clause A, final states of the left operand (both encodings)
`a` got the final state `7` (`SetStateFinal`; unreachable in `a`); `b` uses the number `7`: the result accepts the leaf `2`. -/
def bA : TA := ⟨[⟨2, [], 7⟩, ⟨3, [7], 8⟩], [8]⟩
def hA : List Step := [.defn a, .final 0 7, .defn bA, .uniondisj 0 1]

theorem necessity_A_final (enc : Enc) :
    preRun enc init (hA.take 3) = true ∧ clausesAt enc (hA.take 3) 0 1 = some (true, false, true) ∧
    langAfter enc hA 2 (lf 2) = some true ∧ langAfter enc (hA.take 3) 0 (lf 2) = some false ∧
    langAfter enc (hA.take 3) 1 (lf 2) = some false := by
  cases enc <;> decide +kernel

/-- in the top-down encoding the same step also changes the language of the LEFT OPERAND itself (its table now has `2 → 7`) -/
theorem necessity_A_final_td_operand : langAfter .td hA 0 (lf 2) = some true ∧ langAfter .bu hA 0 (lf 2) = some false := by
  decide +kernel

/-! ### clause A, leaf rules of the left operand (bottom-up: the leaf rules are the object's own, not in the table)
`aN` has the leaf rule `5 → 7` into a state `7` that `b` uses: the result accepts `3(5)`. -/
def aN : TA := ⟨[⟨1, [], 100⟩, ⟨5, [], 7⟩], [100]⟩
def hAn : List Step := [.defn aN, .defn bA, .uniondisj 0 1]

theorem necessity_A_leaf :
    preRun .bu init (hAn.take 2) = true ∧ clausesAt .bu (hAn.take 2) 0 1 = some (true, false, true) ∧
    langAfter .bu hAn 2 (un 3 (lf 5)) = some true ∧ langAfter .bu (hAn.take 2) 0 (un 3 (lf 5)) = some false ∧
    langAfter .bu (hAn.take 2) 1 (un 3 (lf 5)) = some false := by
  decide +kernel

/-! ### clause H – a bystander changes its language
Top-down: entry 1 is a copy of `a` with the extra final state `7`; `UnionDisjointStates(a, bH)` writes `2 → 7` into the shared
table: entry 1 now accepts the leaf `2`. -/
def bH : TA := ⟨[⟨2, [], 7⟩], [7]⟩
def hH : List Step := [.defn a, .copy 0, .final 1 7, .defn bH, .uniondisj 0 2]

theorem necessity_H_td :
    preRun .td init (hH.take 4) = true ∧ clausesAt .td (hH.take 4) 0 2 = some (true, true, false) ∧
    langAfter .td (hH.take 4) 1 (lf 2) = some false ∧ langAfter .td hH 1 (lf 2) = some true := by
  decide +kernel

/-- Bottom-up: the bystander is an earlier result on `a`'s table (entry 2 = `a ∪ bH`, final state `7`, own leaf rule
`2 → 7`); `UnionDisjointStates(a, bH2)` writes `3(7) → 7`: entry 2 now accepts `3(2)`.  (In the bottom-up encoding the
same history with the bystander of `necessity_H_td` is harmless: the leaf rule `2 → 7` stays with the result.) -/
def bH2 : TA := ⟨[⟨4, [], 7⟩, ⟨3, [7], 7⟩], [7]⟩
def hHb : List Step := [.defn a, .defn bH, .uniondisj 0 1, .defn bH2, .uniondisj 0 3]

theorem necessity_H_bu :
    preRun .bu init (hHb.take 4) = true ∧ clausesAt .bu (hHb.take 4) 0 3 = some (true, true, false) ∧
    langAfter .bu (hHb.take 4) 2 (un 3 (lf 2)) = some false ∧ langAfter .bu hHb 2 (un 3 (lf 2)) = some true ∧
    langAfter .bu hH 1 (lf 2) = langAfter .bu (hH.take 4) 1 (lf 2) := by
  decide +kernel

/-! ### clause S – two objects on ONE table with different leaf rules (bottom-up only)
Entries 3 = `a ∪ b'` and 4 = `a ∪ c` share `a`'s table; entry 3 gets the final state `300` (a state of `c`, unreachable in entry 3,
which has no leaf rule into `c`'s states).  `Union(3, 4)` takes the shared-table branch and returns the table with the leaf
rules and final states of BOTH: the result accepts the leaf `3`, which neither operand accepts.  The generator's
block heuristic allows this history; the real library returns the same wrong automaton
(`bddh bu def!1:>0|0 def!2:>0|0 def!3:>0;4:0>1|1 uniondisj!0!1 uniondisj!0!2 final!3!300 union!3!4`). -/
def b' : TA := ⟨[⟨2, [], 200⟩], [200]⟩
def c : TA := ⟨[⟨3, [], 300⟩, ⟨4, [300], 301⟩], [301]⟩
def hS : List Step := [.defn a, .defn b', .defn c, .uniondisj 0 1, .uniondisj 0 2, .final 3 300, .union 3 4]

theorem necessity_S :
    preRun .bu init (hS.take 6) = true ∧ preAt .bu (hS.take 6) (.union 3 4) = some false ∧
    langAfter .bu hS 5 (lf 3) = some true ∧ langAfter .bu (hS.take 6) 3 (lf 3) = some false ∧
    langAfter .bu (hS.take 6) 4 (lf 3) = some false ∧
    -- the top-down encoding has no per-object leaf rules: the same history is inside the precondition
    preRun .td init hS = true := by
  decide +kernel

/-- without the stray final state the same union is inside the precondition (clause S is not "same leaf rules"); so is
the history with the stray final state `301`, which is a final state of the other operand as well -/
theorem clause_S_allows :
    preRun .bu init [.defn a, .defn b', .defn c, .uniondisj 0 1, .uniondisj 0 2, .union 3 4, .union 0 3] = true ∧
    preRun .bu init [.defn a, .defn b', .defn c, .uniondisj 0 1, .uniondisj 0 2, .final 3 301, .union 3 4] = true := by
  decide +kernel

/-- clause H looks at the rules that are WRITTEN: in the bottom-up encoding the history of `necessity_H_td` is inside the
precondition (the leaf rule `2 → 7` of `bH` is not in its table) -/
theorem clause_H_allows_bu : preRun .bu init hH = true := by decide +kernel

/-- **the generator's heuristic does not imply clause S**: `g_bddh` may emit the history `hS` (different families and
disjoint blocks at both `uniondisj`, `final` and same-family `union` are always emitted), but its last step is outside `pre`
and returns a wrong language (`necessity_S`).  The histories of the other necessity theorems are NOT emitted. -/
theorem heuristic_gap :
    heurRun ⟨[], []⟩ hS = true ∧ preRun .bu init hS = false ∧
    heurRun ⟨[], []⟩ hT = false ∧ heurRun ⟨[], []⟩ hA = false ∧ heurRun ⟨[], []⟩ hAn = false ∧
    heurRun ⟨[], []⟩ hH = false ∧ heurRun ⟨[], []⟩ hHb = false := by
  decide +kernel

/-! ### clause L – `loadinto` with numbers that occur in the object (both encodings) -/
def aL : TA := ⟨[⟨1, [], 0⟩, ⟨2, [0], 1⟩], [1]⟩
def bL : TA := ⟨[⟨3, [], 0⟩], []⟩
def hL : List Step := [.defn aL, .loadinto 0 bL]

theorem necessity_L (enc : Enc) :
    preAt enc (hL.take 1) (.loadinto 0 bL) = some false ∧ langAfter enc hL 0 (un 2 (lf 3)) = some true ∧
    langAfter enc (hL.take 1) 0 (un 2 (lf 3)) = some false ∧ accepts bL (un 2 (lf 3)) = false := by
  cases enc <;> decide +kernel

/-! ### a history inside the precondition that uses every step (non-vacuity of `history_correct`) -/
def a2 : TA := ⟨[⟨1, [], 100⟩, ⟨4, [100], 101⟩], [100, 101]⟩
def good : List Step :=
  [.defn a2, .defn b', .defn c, .copy 0, .uniondisj 0 1, .uniondisj 0 2, .union 4 5, .union 3 0, .final 3 100,
   .loadinto 3 ⟨[⟨7, [], 0⟩, ⟨4, [0], 1⟩], [1]⟩, .isect 0 2, .unreach 5, .useless 6, .assign 1 6, .kill 0, .union 1 2, .rt 3]

theorem good_pre (enc : Enc) : preRun enc init good = true := by
  cases enc <;> decide +kernel

/-- the sharing structure at the end of `good`: entry 0 is destroyed, but its table (id 0) lives on with five owners (the
results 4, 5 of the in-place unions, the shared-table unions 6, 7, and entry 1 after `assign!1!6`); the table of `b'` (id 1)
was freed when entry 1 was re-assigned; `loadinto!3` on the then shared table 0 copied it first (entry 3 owns table 3) -/
theorem good_sharing (enc : Enc) :
    (run enc init good).map (fun σ => σ.pool.map (fun o => o.map (·.tid))) =
      some [none, some 0, some 2, some 3, some 0, some 0, some 0, some 0, some 4, some 5, some 6, some 7] ∧
    (run enc init good).map (fun σ => (List.range σ.next).map σ.rcOf) = some [5, 0, 1, 1, 1, 1, 1, 1] := by
  cases enc <;> decide +kernel

end Vata.BddShareEx

