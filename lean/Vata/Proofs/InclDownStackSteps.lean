import Vata.Proofs.InclDownStack
import Vata.Proofs.ListExt
/-!
# The stack machine of `expand` refines the recursive model, with a count — the loops inside a frame (property C01)

`ReachN n m m'` : the machine (with the `pop` of the C++) gets from `m` to `m'` in AT MOST `n` transitions.  For every loop
of the recursive model (`allPos`, `anyTuple`, `tryPos` here; `cfAll`, `procTuple`, `forAllL … procGroup` = `body` in
`InclDownStackStepsMain.lean`) a lemma says: if the recursive loop returns `some` result, the machine gets from the head of
the corresponding C++ loop to the exit the result dictates, with the antichains as the recursive model computes them, with
the same stack of saved frames, and with the locals of the enclosing loops untouched.  The hypothesis about the calls
(`CallOKN t`: a simulated call, `_call` … `EXPAND_RETURN`, costs at most `t` transitions) is what the induction on the
fuel of `expandN` provides (`InclDownStackStepsTop.lean`).  The costs of the loops of this file:

* phase 1, the positions of one rhs tuple (`reach_simI_n`): `len * (t + 3) + 1` (`forSimI`, the call, `ret`, `simret` per
  position, the final test);
* phase 1, the rhs tuples (`reach_tuple2_n`): `|W| * (n * (t + 3) + 3) + 1`;
* one choice function (`reach_cfI_n`): `len * (t + 3) + 1` (`forCfI`, the call, `ret`, `stdret` per position).
-/
namespace Vata
namespace InclDownStack
open InclDown
open InclUp (normS Wit)

def ReachN (o : Ord) (A B : TA) (wit : Wit) (n : Nat) (m m' : Machine) : Prop :=
  ∃ k, k ≤ n ∧ stepsM o A B wit popAll k m = some m'

section
variable {o : Ord} {A B : TA} {wit : Wit}

theorem ReachN.refl (m : Machine) : ReachN o A B wit 0 m m := ⟨0, Nat.le_refl _, rfl⟩

theorem ReachN.step {m m' : Machine} (h : stepM o A B wit popAll m = .inl m') : ReachN o A B wit 1 m m' :=
  ⟨1, Nat.le_refl _, by simp only [stepsM, h]⟩

theorem ReachN.trans {a b : Nat} {m m' m'' : Machine} (h1 : ReachN o A B wit a m m') (h2 : ReachN o A B wit b m' m'') :
    ReachN o A B wit (a + b) m m'' := by
  obtain ⟨x, hx, h1⟩ := h1
  obtain ⟨y, hy, h2⟩ := h2
  exact ⟨x + y, Nat.add_le_add hx hy, stepsM_trans x h1 h2⟩

theorem ReachN.head {b : Nat} {m m' m'' : Machine} (h : stepM o A B wit popAll m = .inl m')
    (h2 : ReachN o A B wit b m' m'') : ReachN o A B wit (b + 1) m m'' :=
  Nat.add_comm 1 b ▸ (ReachN.step h).trans h2

theorem ReachN.mono {a b : Nat} {m m' : Machine} (h : ReachN o A B wit a m m') (hab : a ≤ b) :
    ReachN o A B wit b m m' := by
  obtain ⟨x, hx, h⟩ := h
  exact ⟨x, Nat.le_trans hx hab, h⟩

theorem ReachN.toReach {a : Nat} {m m' : Machine} (h : ReachN o A B wit a m m') : Reach o A B wit m m' := by
  obtain ⟨x, _, h⟩ := h
  exact ⟨x, h⟩

/-- what the induction on the fuel of the recursive model provides for the calls made from inside a frame whose
work-set is `ws`: a call returns the `childrenCache` argument unchanged, and the machine gets from `_call` to
`EXPAND_RETURN` in at most `t` transitions, with `top`, the saved frames, the work-set and the registers `r_i`, `S`,
`retAddr` as at the call -/
def CallOKN (o : Ord) (A B : TA) (wit : Wit) (t : Nat) (call : Call) (ws : List Pair) : Prop :=
  ∀ cc st q Q v cc' st', call cc st q Q = some (v, cc', st') →
    cc' = cc ∧ ∀ (top : Frame) (K : List Frame) (k : Nat) (f0 : Verdict),
      ReachN o A B wit t ⟨.call, top, K, ws, st, q, Q, k, f0⟩ ⟨.ret, top, K, ws, st', q, Q, k, v⟩

theorem forAllL_cons_some {α : Type} {f : α → List Pair → St → Ret} {a : α} {as : List α} {cc : List Pair} {st : St}
    {res : Verdict × List Pair × St} (h : forAllL f (a :: as) cc st = some res) :
    (∃ cc1 st1, f a cc st = some (.holds, cc1, st1) ∧ forAllL f as cc1 st1 = some res) ∨
    (∃ w cc1 st1, f a cc st = some (.fails w, cc1, st1) ∧ res = (.fails w, cc1, st1)) := by
  simp only [forAllL] at h
  split at h
  · cases h
  · next cc1 st1 heq => exact Or.inl ⟨cc1, st1, heq, h⟩
  · next w cc1 st1 heq => exact Or.inr ⟨w, cc1, st1, heq, (Option.some.inj h).symm⟩

/-! ### phase 1: `for (top.i …) { EXPAND_CALL(2) _simret: … }` = `allPos` -/

theorem reach_simI_n {t : Nat} {call1 : Call} {ws : List Pair} (H : CallOKN o A B wit t call1 ws) (K : List Frame)
    (top : Frame) (lhs w : List Nat) (r1 r2 : List (List Nat))
    (h1 : top.tupleSetIter = lhs :: r1) (h2 : top.tupleSetIter2 = w :: r2) :
    ∀ (zs : List (Nat × Nat)) (i : Nat), (lhs.zip w).drop i = zs →
    ∀ (cc : List Pair) (st : St) (v : Verdict) (cc' : List Pair) (st' : St) (r : Nat) (S : List Nat) (ra : Nat)
      (fnd : Verdict), (zs ≠ [] ∨ fnd = Verdict.holds) →
      forAllL (fun (lr : Nat × Nat) cc st => call1 cc st lr.1 [lr.2]) zs cc st = some (v, cc', st') →
      cc' = cc ∧ ∃ i' r' S' ra', ReachN o A B wit (zs.length * (t + 3) + 1)
        ⟨.forSimI, { top with i := i }, K, ws, st, r, S, ra, fnd⟩
        ⟨.afterSim, { top with i := i' }, K, ws, st', r', S', ra', v⟩ := by
  intro zs
  induction zs with
  | nil =>
    intro i hd cc st v cc' st' r S ra fnd hf h
    cases h
    obtain rfl : fnd = .holds := hf.resolve_left (fun hne => hne rfl)
    have hz : (lhs.zip w)[i]? = none := List.getElem?_eq_none_iff.mpr (List.drop_eq_nil_iff.mp hd)
    exact ⟨rfl, i, r, S, ra, ReachN.mono (ReachN.step (step_forSimI_end h1 h2 hz)) (Nat.le_add_left ..)⟩
  | cons z zs ih =>
    intro i hd cc st v cc' st' r S ra fnd _ h
    obtain ⟨hz, hd'⟩ := drop_cons_inv hd
    have hlen : (z :: zs).length * (t + 3) = zs.length * (t + 3) + (t + 3) := Nat.add_one_mul ..
    rcases forAllL_cons_some h with ⟨cc1, st1, heq, hzs⟩ | ⟨w0, cc1, st1, heq, he⟩
    · obtain ⟨rfl, hr⟩ := H _ _ _ _ _ _ _ heq
      obtain ⟨hcc, i', r', S', ra', hR⟩ := ih (i + 1) hd' _ st1 v cc' st' z.1 [z.2] 2 .holds (Or.inr rfl) hzs
      exact ⟨hcc, i', r', S', ra', ReachN.mono (ReachN.head (step_forSimI h1 h2 hz) ((hr _ K 2 fnd).trans
        (ReachN.head step_ret_sim (ReachN.head step_simret_holds hR)))) (by rw [hlen]; omega)⟩
    · cases he
      obtain ⟨rfl, hr⟩ := H _ _ _ _ _ _ _ heq
      exact ⟨rfl, i, _, _, _, ReachN.mono (ReachN.head (step_forSimI h1 h2 hz) ((hr _ K 2 fnd).trans
        (ReachN.head step_ret_sim (ReachN.step step_simret_fails)))) (by rw [hlen]; omega)⟩

theorem zip_cost_le (lhs w : List Nat) (t : Nat) : (lhs.zip w).length * (t + 3) + 1 ≤ lhs.length * (t + 3) + 1 :=
  Nat.add_le_add_right (Nat.mul_le_mul_right _ (List.length_zip ▸ Nat.min_le_left ..)) 1

/-! ### phase 1: `for (top.tupleSetIter2 …)` = `anyTuple` -/

theorem reach_tuple2_n {t : Nat} {call1 : Call} {ws : List Pair} (H : CallOKN o A B wit t call1 ws) (K : List Frame)
    (top : Frame) (lhs : List Nat) (r1 : List (List Nat)) (h1 : top.tupleSetIter = lhs :: r1) :
    ∀ (Wr : List (List Nat)), (∀ w, w ∈ Wr → lhs.zip w ≠ []) →
    ∀ (cc : List Pair) (st : St) (b : Bool) (cc' : List Pair) (st' : St) (i : Nat) (r : Nat) (S : List Nat)
      (ra : Nat) (fnd : Verdict),
      anyTuple call1 lhs Wr cc st = some (b, cc', st') →
      cc' = cc ∧ ∃ i' ti2' r' S' ra' fnd', ReachN o A B wit (Wr.length * (lhs.length * (t + 3) + 3) + 1)
        ⟨.forTuple2, { top with tupleSetIter2 := Wr, i := i }, K, ws, st, r, S, ra, fnd⟩
        ⟨(if b then PC.nexttuple else PC.choiceInit), { top with tupleSetIter2 := ti2', i := i' }, K, ws, st',
          r', S', ra', fnd'⟩ := by
  intro Wr
  induction Wr with
  | nil =>
    intro _ cc st b cc' st' i r S ra fnd h
    cases h
    exact ⟨rfl, i, [], r, S, ra, fnd, ReachN.mono (ReachN.step (step_forTuple2_end rfl)) (Nat.le_add_left ..)⟩
  | cons w Wr ih =>
    intro hW cc st b cc' st' i r S ra fnd h
    have hlen : (w :: Wr).length * (lhs.length * (t + 3) + 3)
        = Wr.length * (lhs.length * (t + 3) + 3) + (lhs.length * (t + 3) + 3) := Nat.add_one_mul ..
    have hzc := zip_cost_le lhs w t
    have hsim := reach_simI_n H K { top with tupleSetIter2 := w :: Wr } lhs w r1 Wr h1 rfl (lhs.zip w) 0 rfl cc st
    simp only [anyTuple, allPos] at h
    split at h
    · cases h
    · next cc1 st1 heq =>
      cases h
      obtain ⟨hcc, i', r', S', ra', hR⟩ := hsim .holds _ _ r S ra fnd (Or.inl (hW w List.mem_cons_self)) heq
      exact ⟨hcc, i', w :: Wr, r', S', ra', .holds, ReachN.mono
        (ReachN.head (step_forTuple2 rfl) (hR.trans (ReachN.step step_afterSim_holds))) (by rw [hlen]; omega)⟩
    · next w0 cc1 st1 heq =>
      obtain ⟨rfl, i', r', S', ra', hR⟩ := hsim (.fails w0) cc1 st1 r S ra fnd (Or.inl (hW w List.mem_cons_self)) heq
      obtain ⟨hcc2, i'', ti2', r'', S'', ra'', fnd'', hR2⟩ :=
        ih (fun w' hw' => hW w' (List.mem_cons_of_mem _ hw')) cc1 st1 b cc' st' i' r' S' ra' (.fails w0) h
      exact ⟨hcc2, i'', ti2', r'', S'', ra'', fnd'', ReachN.mono
        (ReachN.head (step_forTuple2 rfl) (hR.trans (ReachN.head step_afterSim_fails hR2))) (by rw [hlen]; omega)⟩

/-! ### one choice function: `for (top.i …) { … EXPAND_CALL(1) _stdret: … }` = `tryPos` with `cachedCall` -/

/-- how the loop over the positions of one choice function ends, within `n` transitions from `m`: at `_nextchoice` when a
position holds (`res = none`), else at `EXPAND_POP_RETURN` with `found = false` and the tree of the symbol `f` over the trees
of the earlier positions (`trees`, newest first) and of the remaining ones (`ts`); of `top` only `i`, `trees`,
`childrenCache` change -/
abbrev CfIEnds (o : Ord) (A B : TA) (wit : Wit) (n : Nat) (m : Machine) (top : Frame) (K : List Frame) (ws : List Pair)
    (f : Nat) (trees : List Tree) (res : Option (List Tree)) (cc' : List Pair) (st' : St) : Prop :=
  match res with
  | none => ∃ i' trees' r' S' ra' fnd', ReachN o A B wit n m
      ⟨.nextchoice, { top with i := i', trees := trees', childrenCache := cc' }, K, ws, st', r', S', ra', fnd'⟩
  | some ts => ∃ i' trees' r' S' ra', ReachN o A B wit n m
      ⟨.popReturn, { top with i := i', trees := trees', childrenCache := cc' }, K, ws, st', r', S', ra',
        .fails (.node f (trees.reverse ++ ts))⟩

theorem CfIEnds.after {a b c : Nat} {m m1 : Machine} {top : Frame} {K : List Frame} {ws : List Pair} {f : Nat} {x : Tree}
    {trees : List Tree} {res0 : Option (List Tree)} {cc' : List Pair} {st' : St} (hR : ReachN o A B wit a m m1)
    (h : CfIEnds o A B wit b m1 top K ws f (x :: trees) res0 cc' st') (hab : a + b ≤ c) :
    CfIEnds o A B wit c m top K ws f trees (res0.map (x :: ·)) cc' st' := by
  cases res0 with
  | none =>
    obtain ⟨i', trees', r', S', ra', fnd', hR'⟩ := h
    exact ⟨i', trees', r', S', ra', fnd', (hR.trans hR').mono hab⟩
  | some ts =>
    obtain ⟨i', trees', r', S', ra', hR'⟩ := h
    rw [List.reverse_cons, List.append_assoc] at hR'
    exact ⟨i', trees', r', S', ra', (hR.trans hR').mono hab⟩

theorem reach_cfI_n {t : Nat} {call1 : Call} {ws : List Pair} (H : CallOKN o A B wit t call1 ws) (K : List Frame)
    (top : Frame) (lhs : List Nat) (r1 : List (List Nat)) (f n0 : Nat) (ra0 : List (Nat × Nat))
    (h1 : top.tupleSetIter = lhs :: r1) (h2 : top.cfArity = lhs.length) (h3 : top.a = (f, n0) :: ra0) :
    ∀ (ls : List Nat) (i : Nat), lhs.drop i = ls →
    ∀ (cc : List Pair) (st : St) (trees : List Tree) (res : Option (List Tree)) (cc' : List Pair) (st' : St)
      (r : Nat) (S : List Nat) (ra : Nat) (w0 : Tree),
      tryPos (cachedCall o call1) wit (fun l => normS (maxElems o l [])) top.W top.choiceFunction i ls cc st
        = some (res, cc', st') →
      CfIEnds o A B wit (ls.length * (t + 3) + 1)
        ⟨.forCfI, { top with i := i, trees := trees, childrenCache := cc }, K, ws, st, r, S, ra, .fails w0⟩
        top K ws f trees res cc' st' := by
  intro ls
  induction ls with
  | nil =>
    intro i hd cc st trees res cc' st' r S ra w0 h
    cases h
    have hi : ¬ i < top.cfArity := h2 ▸ Nat.not_lt.mpr (List.drop_eq_nil_iff.mp hd)
    exact ⟨i, trees, r, S, ra, ReachN.mono (ReachN.step (List.append_nil _ ▸ step_forCfI_end h3 hi)) (Nat.le_add_left ..)⟩
  | cons l ls ih =>
    intro i hd cc st trees res cc' st' r S ra w0 h
    obtain ⟨hl, hd'⟩ := drop_cons_inv hd
    have hi : i < top.cfArity := h2 ▸ (List.getElem?_eq_some_iff.mp hl).1
    have hlen : (l :: ls).length * (t + 3) = ls.length * (t + 3) + (t + 3) := Nat.add_one_mul ..
    have ih := ih (i + 1) hd' cc
    simp only [tryPos] at h
    generalize hQ : posSet (fun l => normS (maxElems o l [])) top.W top.choiceFunction i = Q at h
    split at h
    · next hemp =>
      obtain ⟨res0, hx, rfl⟩ := consT_some h
      exact CfIEnds.after (ReachN.step (step_forCfI_empty h1 hi hl hQ hemp))
        (ih st (treeOf wit l :: trees) res0 cc' st' r S ra w0 hx) (by rw [hlen]; omega)
    · next hemp =>
      by_cases hcov : covers o cc l Q = true
      · simp only [cachedCall, hcov, ↓reduceIte] at h
        cases h
        exact ⟨i, trees, l, Q, ra, .fails w0,
          ReachN.mono (ReachN.step (step_forCfI_cached h1 hi hl hQ hemp hcov)) (Nat.le_add_left ..)⟩
      · simp only [cachedCall, hcov, Bool.false_eq_true, ↓reduceIte] at h
        rcases hc : call1 cc st l Q with _ | ⟨v, cc2, st2⟩
        · rw [hc] at h; cases h
        · obtain ⟨_, hr⟩ := H _ _ _ _ _ _ _ hc
          rw [hc] at h
          cases v with
          | holds =>
            cases h
            exact ⟨i, trees, _, _, _, _, ReachN.mono (ReachN.head (step_forCfI_call h1 hi hl hQ hemp hcov)
              ((hr _ K 1 _).trans (ReachN.head step_ret_std (ReachN.step step_stdret_holds)))) (by rw [hlen]; omega)⟩
          | fails w2 =>
            obtain ⟨res0, hx, rfl⟩ := consT_some h
            exact CfIEnds.after (ReachN.head (step_forCfI_call h1 hi hl hQ hemp hcov)
              ((hr _ K 1 _).trans (ReachN.head step_ret_std (ReachN.step step_stdret_fails))))
              (ih _ (w2 :: trees) res0 cc' st' l Q 1 w2 hx) (by rw [hlen]; omega)

end
end InclDownStack
end Vata
