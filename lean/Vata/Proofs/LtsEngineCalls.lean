import Vata.LtsEngineCalls
import Vata.Proofs.LtsEngineInstr
/-!
# The instrumented LTS engine (`SmartSet`, `SplittingRelation` histories) by its phases: trace erasure

`instrI`: the engine of `Vata/LtsEngineCalls.lean` is an instrumented engine in the sense of `Vata/Proofs/LtsEngineInstr.lean` (its
split phases are `gStepT` / `fStepT` writing `emitI`, its "initialize counters" is `countersT`).  Forgetting the histories gives the
plain engine of `Vata/LtsEngine.lean` (`stateAfterI_fst`, `trace_erasure`); a completed `computeSimulationI` is the state after some
number of iterations (`computeSimulationI_some`).
-/
namespace Vata.LEC
open Vata.L Vata.LE Vata.LU

/-- the calls of one split of `fastSplit` / `split`: the second `Block` constructor, then `relation_.split` -/
def emitI (L : LTS) (obj : Nat → Nat) (e : Eng) (b : Nat) (_rest new : List Nat) (t : Tr) : Tr :=
  (t.addSS (ctor2T L (obj b) (obj e.part.length) new)).addSR [SR.Op.split b]

theorem fastSplitStepI_eq (L : LTS) (obj : Nat → Nat) (part0 : List (List Nat)) (rm : List Nat) :
    fastSplitStepI L obj part0 rm = fStepT (splitBlockCore L) (emitI L obj) part0 rm := by
  funext et b
  unfold fastSplitStepI fStepT
  cases trySplit (et.1.block b) (tmpOf part0 rm b) with
  | none => rfl
  | some rn => rfl

theorem splitStepI_eq (L : LTS) (obj : Nat → Nat) (part0 : List (List Nat)) (rm : List Nat) :
    splitStepI L obj part0 rm = gStepT (stepS L) (emitI L obj) part0 rm := by
  funext emt b
  unfold splitStepI gStepT stepS
  cases trySplit (emt.1.1.block b) (tmpOf part0 rm b) with
  | none => rfl
  | some rn => rfl

theorem initRefineI_eq (L : LTS) (obj : Nat → Nat) : initRefineI L obj = refineT L (emitI L obj) := by
  funext et
  unfold initRefineI refineT fastSplitI fastT
  simp only [fastSplitStepI_eq]

theorem initCountersI_eq (L : LTS) (so : Nat) (x : IE) :
    initCountersI L so x = countersT L (fun _ _ t => t) (fun _ _ t => t) (fun b1 e a (t : Tr) => t.addSS (slotT L so e b1 a))
      (x.1, x.2.addSS [SS.Op.new 0]) := rfl

/-- the engine of `Vata/LtsEngineCalls.lean` by its phases -/
def instrI (L : LTS) (part : List (List Nat)) (rel : Rel) : Instr L part rel Tr where
  t0 := ((⟨delta1T L, []⟩ : Tr).addSS (blocksT L (objI L) 0 part)).addSR [SR.Op.init (initBlocks L part rel).rel]
  emitF := emitI L (objI L)
  prn := fun e t => (initPruneI L (e, t)).2
  ctr := fun x => initCountersI L (sObj L x.1.part.length) x
  take := fun _ _ t => t
  emitS := emitI L (objR L (nb0 L part rel))
  prune := fun mask pl x =>
    pl.foldl (fun (et : IE) b1 => (pruneRow L mask et.1 b1, et.2.addSR [SR.Op.eraseRow b1 mask])) x
  pr := processRemoveI L (objR L (nb0 L part rel))
  sa := stateAfterI L part rel
  run := engineRunI L (objR L (nb0 L part rel))
  ctr_fst := fun x => (initCountersI_eq L _ x).symm ▸ countersT_fst L _ _ _ _
  prune_fst := fun _ _ _ => fst_foldl _ _ (fun _ _ => rfl) _ _
  pr_eq := fun et b a => by
    unfold processRemoveI
    cases et.1.remv b a with
    | none => rfl
    | some remove =>
      simp only []
      unfold splitI splitT
      rw [splitStepI_eq]
  sa_zero := by
    show engineInitI L part rel = _
    unfold engineInitI
    rw [initRefineI_eq]
    rfl
  sa_succ := fun _ => rfl
  run_zero := fun _ => by rw [engineRunI]
  run_succ := fun _ _ => by rw [engineRunI]; rfl

/-- a completed `computeSimulation`: nothing was done (`size = 0`), or `run()` ended after some number of iterations -/
theorem computeSimulationI_some {L : LTS} {part : List (List Nat)} {rel : Rel} {size : Nat} {R : Rel} {t : Tr}
    (h : computeSimulationI L part rel size = some (R, t)) :
    (size = 0 ∧ R = [] ∧ t = Tr.empty) ∨
      ∃ k, size ≠ 0 ∧ R = buildResult (stateAfterI L part rel k).1 size ∧ t = (stateAfterI L part rel k).2 ∧
        (stateAfterI L part rel k).1.queue = [] := by
  unfold computeSimulationI at h
  split at h
  · rename_i hs
    exact Or.inl ⟨eq_of_beq hs, (Prod.mk.inj (Option.some.inj h)).1.symm, (Prod.mk.inj (Option.some.inj h)).2.symm⟩
  · rename_i hs
    obtain ⟨et, hr, he⟩ := Option.map_eq_some_iff.mp h
    obtain ⟨k, hk, hq⟩ := (instrI L part rel).run_some (fuelBound L) 0 et hr
    rw [hk] at hq he
    exact Or.inr ⟨k, fun h0 => hs (by rw [h0]; rfl), (Prod.mk.inj he).1.symm, (Prod.mk.inj he).2.symm, hq⟩

theorem stateAfterI_fst (L : LTS) (part : List (List Nat)) (rel : Rel) :
    ∀ k, (stateAfterI L part rel k).1 = stateAfter L part rel k :=
  (instrI L part rel).sa_fst

/-- **trace erasure**: the instrumented engine returns what the plain engine returns -/
theorem trace_erasure (L : LTS) (part : List (List Nat)) (rel : Rel) (size : Nat) :
    (computeSimulationI L part rel size).map (·.1) = computeSimulation L part rel size := by
  unfold computeSimulationI computeSimulation
  split
  · rfl
  · have h0 : (engineInitI L part rel).1 = engineInit L part rel := stateAfterI_fst L part rel 0
    have hr := fun fuel et => (instrI L part rel).run_fst fuel et
    rw [Option.map_map, ← h0, ← hr, Option.map_map]
    rfl

end Vata.LEC
