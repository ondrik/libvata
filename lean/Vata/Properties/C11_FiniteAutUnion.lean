import Vata.Proofs.CowHeapFAUnion
import Vata.Proofs.CowHeapFAIsect
import Vata.Properties.C11_FiniteAutCand
import Vata.Properties.C10_CliPipeline
/-!
# C11 / C10 (finite automata) – `Union` through the heap model is `nfasUnionWith`; histories with `Union` blocks

> C11: After an explicit tree or finite automaton is copied, assigned or moved, any later modification of one object is never
> visible through another object, and automata returned by operations stay unchanged when their operands are modified or
> destroyed afterwards.
>
> C10 (the part used): the language of `Union(a, b)` is the union of the languages of `a` and `b`.

`C11_FiniteAutDenote.lean` / `C11_FiniteAutCand.lean` end with: "`Union(lhs, rhs)` = `unionOps` is covered step by step (`new`,
`reindex`, `reindex`); that the result is `nfasUnionWith fA fB a b` up to `NEquiv` is not stated as a theorem."  This file
states and proves it, links it to the coded `Union` of `Vata/NfaLoadDump.lean` (`nfaUnionCoded`: two weak translators, one
counter), and extends the fold theorem `C11_fa_history_fold` to histories that contain `Union` blocks.

## how the C++ is read into the model

Nothing new is modelled.  `src/explicit_finite_union.cc`:

```
ExplicitFiniteAutCore res;                       // Op.new dst
lhs.ReindexStates(res, stateTransLhs);           // Op.reindex a dst fA
rhs.ReindexStates(res, stateTransRhs);           // Op.reindex b dst fB
return res;
```

is the operation list `unionOps a b dst fA fB` of `Vata/CowHeapFA.lean`, run by the heap model `step` (so `ReindexStates`
calls `uniqueClusterMap()` once and `uniqueCluster(index[q])` per source cluster, as quoted there).  The translators are the
functions `fA`, `fB`; for the coded ones (`StateToStateTranslWeak` over a map, fresh numbers from ONE shared counter) they are
`applyMap` of the maps `unionMaps A B pL pR` that `nfaUnionCodedOrd` reports, the states being visited in the container order
of the VALUES (`nfaVisitOrder`: `finalStates_`, `startStates_`, then sources / targets of the transitions in iteration order).
`vUnion fA fB A B = vReindex fB B (vReindex fA A vNew)` is the value left in `res`.

A block history `List Blk` (a `Blk` is one operation or one `Union` call) is run as the operation list `blkOps bs`
(`execB bs = exec (blkOps bs)`): a `Union` block is NOT a new primitive of the heap model, it is its three operations.

`Intersection` (`src/explicit_finite_isect.cc`) is read as in `Vata/NfaOpsCoded.lean` (`isectInit` / `isectBody` / `isectLoop`,
variant `.fixed`: `ProductTranslMap` with `size()` as the fresh number, the work stack, the iteration orders `o : NfaOrd`); the
SAME control flow is run a second time with the writes to the local `res` recorded instead of performed
(`Vata/CowHeapFAIsect.lean`: `trInit` / `trBody` / `trLoop`, `ResW.start` = `res.SetExistingStateStart`, `ResW.final` =
`res.SetStateFinal`, `ResW.add` = `transitions->uniqueCluster(n)->uniqueRStateSet(a).insert(k)`), which makes `Intersection`
the operation list `isectOps o A B dst t` of the heap model: `new t`, the writes as `setExistingStart` / `setFinal` / `add`
steps on `t` in the order the C++ makes them, `useless t dst` (`return res.RemoveUselessStates();`), `destroy t`.

## what is abstracted

In `isectOps` every transition write is an `add` step, i.e. `uniqueClusterMap()->uniqueCluster(n)->uniqueRStateSet(a).insert(k)`;
the C++ `Intersection` takes `transitions = res.transitions_` once and calls `uniqueCluster(n)` on it WITHOUT
`uniqueClusterMap()`, and `uniqueCluster(n)` / `uniqueRStateSet(a)` once per popped pair / common symbol rather than once per
inserted target.  On the private map of the fresh `res` these are the same heap actions up to the no-op `uniqueClusterMap()` and
repeated look-ups; the heap model has no step "write through a cluster pointer obtained earlier", so this is not a theorem.
The operands of `Intersection` are only READ (`lhs.startStates_`, `genericLookup(*lhs.transitions_, …)`): they enter `isectOps`
as their values `A`, `B`; there is no heap step for a read.

As in `C11_FiniteAut.lean` / `C11_FiniteAutDenote.lean`.  `return res;` is the handle `dst` itself (copy elision; with a copy
it would be `copy` + `destroy`, which the fold theorem also covers as single operations).  The translators are total functions;
that the weak translator of the C++ is only asked for states of its operand is visible in `unionMaps` (the visiting order).
-/
namespace Vata.Props
open Vata.W
open Vata.CowHeapFA Vata.NfaC

/-! ### 1. `Union` as one step -/

/-- **`Union` through the heap model yields `nfasUnionWith`.**  After ANY history `ops` in which `a`, `b` are live (values `A`,
`B`) and `dst` is not, the block `new dst; reindex a dst fA; reindex b dst fB` leaves in `dst` the value `vUnion fA fB A B`,
which denotes – up to list order (`NEquiv`) and for ANY translators – `nfasUnionWith fA fB A B`; and for the maps
`unionMaps A B pL pR` the coded translators report (absent / empty / pre-filled caller maps) it denotes
`(nfaUnionCoded A B pL pR).1`. -/
theorem C11_fa_denote_union (ops : List Op) (a b dst : Nat) (fA fB : Nat → Nat) (A B : FAVal)
    (ha : absFA (exec ops) a = some A) (hb : absFA (exec ops) b = some B) (hd : absFA (exec ops) dst = none) :
    absFA (exec (ops ++ unionOps a b dst fA fB)) dst = some (vUnion fA fB A B) ∧
    NEquiv (vUnion fA fB A B).toNFAS (nfasUnionWith fA fB A.toNFAS B.toNFAS) ∧
    ∀ pL pR, NEquiv (vUnion (applyMap (unionMaps A B pL pR).1) (applyMap (unionMaps A B pL pR).2) A B).toNFAS
      (nfaUnionCoded A.toNFAS B.toNFAS pL pR).1 := by
  have wA := ((valid_exec ops).wf a A ha).tup
  have wB := ((valid_exec ops).wf b B hb).tup
  refine ⟨?_, vUnion_denote fA fB A B wA wB, fun pL pR => vUnion_nfaUnionCoded A B pL pR wA wB⟩
  rw [fa_union_block ops a b dst fA fB A B ha hb hd]
  exact CowHeap.upd_same _ _ _

/-- the value-level statement alone (any values that are container contents; no history) -/
theorem C11_fa_denote_union_value (fA fB : Nat → Nat) (A B : FAVal) (hA : TuplesOk A.trans) (hB : TuplesOk B.trans) :
    NEquiv (vUnion fA fB A B).toNFAS (nfasUnionWith fA fB A.toNFAS B.toNFAS) :=
  vUnion_denote fA fB A B hA hB

/-- **the language read through the result of `Union` is the union**, for translators injective on the states of their
operand with disjoint images (all three are needed: `C10_unionWith_exact`); and every start state of either operand carries,
under its new number, its own start symbols -/
theorem C11_fa_union_lang (ops : List Op) (a b dst : Nat) (fA fB : Nat → Nat) (A B : FAVal)
    (ha : absFA (exec ops) a = some A) (hb : absFA (exec ops) b = some B) (hd : absFA (exec ops) dst = none)
    (hiA : NfaInjOn fA (nfaStates A.toNFA)) (hiB : NfaInjOn fB (nfaStates B.toNFA))
    (hdis : ∀ p, p ∈ nfaStates A.toNFA → ∀ q, q ∈ nfaStates B.toNFA → fA p ≠ fB q) :
    (∀ w, langOf (den (absFA (exec (ops ++ unionOps a b dst fA fB)))) dst w =
      some (acceptsW A.toNFA w || acceptsW B.toNFA w)) ∧
    (∀ s, s ∈ A.mem.start → (vUnion fA fB A B).toNFAS.symsOf (fA s) = A.toNFAS.symsOf s) ∧
    (∀ s, s ∈ B.mem.start → (vUnion fA fB A B).toNFAS.symsOf (fB s) = B.toNFAS.symsOf s) := by
  obtain ⟨h1, h2, _⟩ := C11_fa_denote_union ops a b dst fA fB A B ha hb hd
  have wA := ((valid_exec ops).wf a A ha).tup
  have wB := ((valid_exec ops).wf b B hb).tup
  refine ⟨fun w => ?_, fun s hs => ?_, fun s hs => ?_⟩
  · simp only [langOf, den, h1, Option.map_some]
    exact congrArg some (vUnion_lang fA fB A B wA wB hiA hiB hdis w)
  · rw [h2.symsOf]
    exact Vata.nfasUnionWith_symsOf_left fA fB A.toNFAS B.toNFAS hs
      (fun p hp he => hiA p (start_mem_nfaStates hp) s (start_mem_nfaStates hs) he)
  · rw [h2.symsOf]
    exact Vata.nfasUnionWith_symsOf_right fA fB A.toNFAS B.toNFAS hs
      (fun p hp he => hiB p (start_mem_nfaStates hp) s (start_mem_nfaStates hs) he)
      (fun p hp => hdis p (start_mem_nfaStates hp) s (start_mem_nfaStates hs))

/-- **`Union` with the CODED translators** (caller maps absent, empty, or pre-filled injectively with disjoint images): the
hypotheses of `C11_fa_union_lang` hold by construction – the language read through the result is the union -/
theorem C11_fa_union_coded_lang (ops : List Op) (a b dst : Nat) (A B : FAVal) (pL pR : Option SMap)
    (ha : absFA (exec ops) a = some A) (hb : absFA (exec ops) b = some B) (hd : absFA (exec ops) dst = none)
    (hL : Um.Inj (pL.getD [])) (hR : Um.Inj (pR.getD [])) (hD : Um.Disj (pL.getD []) (pR.getD [])) (w : List Nat) :
    langOf (den (absFA (exec (ops ++ unionOpsCoded a b dst A B pL pR)))) dst w =
      some (acceptsW A.toNFA w || acceptsW B.toNFA w) := by
  obtain ⟨h1, _, h3⟩ := C11_fa_denote_union ops a b dst (applyMap (unionMaps A B pL pR).1)
    (applyMap (unionMaps A B pL pR).2) A B ha hb hd
  show langOf (den (absFA (exec (ops ++ unionOps a b dst _ _)))) dst w = _
  simp only [langOf, den, h1, Option.map_some]
  refine congrArg some (((h3 pL pR).lang w).trans ?_)
  exact (C10_union_coded_lang A.toNFAS B.toNFAS pL pR hL hR hD).1 w

/-- **isolation of `Union`**: the block changes no other handle (in particular the operands keep their values), and whatever
is done afterwards to other handles – operands modified or destroyed – the result keeps its value, hence its automaton and
language -/
theorem C11_fa_union_isolated (ops : List Op) (a b dst : Nat) (fA fB : Nat → Nat) (A B : FAVal)
    (ha : absFA (exec ops) a = some A) (hb : absFA (exec ops) b = some B) (hd : absFA (exec ops) dst = none) :
    (∀ x, x ≠ dst → absFA (exec (ops ++ unionOps a b dst fA fB)) x = absFA (exec ops) x) ∧
    absFA (exec (ops ++ unionOps a b dst fA fB)) a = some A ∧ absFA (exec (ops ++ unionOps a b dst fA fB)) b = some B ∧
    ∀ later : List Op, (∀ op, op ∈ later → dst ≠ target op) →
      absFA (exec ((ops ++ unionOps a b dst fA fB) ++ later)) dst = some (vUnion fA fB A B) := by
  have e := fa_union_block ops a b dst fA fB A B ha hb hd
  have hx : ∀ x, x ≠ dst → absFA (exec (ops ++ unionOps a b dst fA fB)) x = absFA (exec ops) x := by
    intro x hx; rw [e]; exact CowHeap.upd_other _ _ hx
  have had : a ≠ dst := fun h => by rw [h, hd] at ha; cases ha
  have hbd : b ≠ dst := fun h => by rw [h, hd] at hb; cases hb
  refine ⟨hx, (hx a had).trans ha, (hx b hbd).trans hb, fun later hl => ?_⟩
  rw [C11_fa_result_keeps_value _ later dst hl, e]
  exact CowHeap.upd_same _ _ _

namespace UnionEx
/-- two objects (the first ten operations of `faOps`), their `Union` into handle 3 with the translators `q ↦ q` and
`q ↦ q + 100`, then the left operand is modified and the right one destroyed -/
def pre : List Op := faOps.take 10
def fA : Nat → Nat := fun q => q
def fB : Nat → Nat := fun q => q + 100
def vA : FAVal := ⟨⟨[2], [0], [(0, [7])]⟩, [(0, [(5, [[1]])]), (1, [(6, [[2]])]), (3, [(5, [[0]])])]⟩
def vB : FAVal := ⟨⟨[11], [10], [(10, [7])]⟩, [(10, [(5, [[11]])])]⟩
end UnionEx

/-- non-vacuity: the hypotheses of `C11_fa_denote_union` / `C11_fa_union_lang` / `C11_fa_union_isolated` hold -/
example : absFA (exec UnionEx.pre) 1 = some UnionEx.vA ∧ absFA (exec UnionEx.pre) 2 = some UnionEx.vB ∧
    absFA (exec UnionEx.pre) 3 = none := by decide +kernel
example : NfaInjOn UnionEx.fA (nfaStates UnionEx.vA.toNFA) ∧ NfaInjOn UnionEx.fB (nfaStates UnionEx.vB.toNFA) ∧
    ∀ p, p ∈ nfaStates UnionEx.vA.toNFA → ∀ q, q ∈ nfaStates UnionEx.vB.toNFA → UnionEx.fA p ≠ UnionEx.fB q := by
  refine ⟨fun p _ q _ e => e, fun p _ q _ e => Nat.add_right_cancel e, ?_⟩
  decide +kernel
/-- … and the block computes: the result accepts `[5, 6]` (from object 1) and `[5]` (from object 2) and keeps doing so after
`1 -6-> 0` was added to object 1 and object 2 was destroyed -/
example :
    langOf (den (absFA (exec (UnionEx.pre ++ unionOps 1 2 3 UnionEx.fA UnionEx.fB)))) 3 [5, 6] = some true ∧
    langOf (den (absFA (exec (UnionEx.pre ++ unionOps 1 2 3 UnionEx.fA UnionEx.fB)))) 3 [5] = some true ∧
    langOf (den (absFA (exec ((UnionEx.pre ++ unionOps 1 2 3 UnionEx.fA UnionEx.fB) ++ [.add 1 1 6 0, .destroy 2])))) 3 [5]
      = some true ∧
    (vUnion UnionEx.fA UnionEx.fB UnionEx.vA UnionEx.vB).toNFAS.trans =
      [(0, 5, 1), (1, 6, 2), (3, 5, 0), (110, 5, 111)] := by decide +kernel
/-- the coded translators number the states `0, 1, …` in visiting order with one counter -/
example : unionMaps UnionEx.vA UnionEx.vB none (some []) = ([(2, 0), (0, 1), (1, 2), (3, 3)], [(11, 4), (10, 5)]) ∧
    (vUnion (applyMap (unionMaps UnionEx.vA UnionEx.vB none (some [])).1)
      (applyMap (unionMaps UnionEx.vA UnionEx.vB none (some [])).2) UnionEx.vA UnionEx.vB).toNFAS.trans =
      [(1, 5, 2), (2, 6, 0), (3, 5, 1), (5, 5, 4)] := by decide +kernel

/-- **the liveness hypotheses are needed**: with a LIVE target the three operations are not `Union` (the first is a no-op, the
other two reindex into the existing object): the final state 9 of the old object 3 survives -/
theorem C11_fa_denote_union_needs_dead_target :
    let ops : List Op := [.new 1, .setFinal 1 0, .new 3, .setFinal 3 9]
    absFA (exec ops) 3 ≠ none ∧
    (absFA (exec (ops ++ unionOps 1 1 3 (fun q => q) (fun q => q + 1)) ) 3).map (fun v => v.mem.final) = some [9, 0, 1] ∧
    (vUnion (fun q => q) (fun q => q + 1) ⟨⟨[0], [], []⟩, []⟩ ⟨⟨[0], [], []⟩, []⟩).mem.final = [0, 1] := by decide +kernel

/-! ### 3. whole histories with `Union` blocks -/

/-- `Union` respects "the same up to list order" when each translator is injective on the START states of its operand
(needed: `C11_fa_denote_congr_map_needs_inj`) -/
theorem C11_fa_denote_congr_union (fA fB : Nat → Nat) {A A' B B' : NFAS} (h : NEquiv A A') (h' : NEquiv B B')
    (hA : NfaInjOn fA A.start) (hB : NfaInjOn fB B.start) :
    NEquiv (nfasUnionWith fA fB A B) (nfasUnionWith fA fB A' B') :=
  Vata.CowHeapFA.nfasUnionWith_congr fA fB h h' hA hB

/-- **one equation for a whole history with `Union` blocks.**  For every block list in which every block satisfies `BlkOk` in
the state it is executed in – a single operation: `FoldOk` (as in `C11_fa_history_fold`); a `Union` block: the operands are
live, the target is not, each translator is injective on the start states of its operand – the automata denoted by the live
handles after running the operation list `blkOps bs` in the heap model are, handle by handle and up to list order, the fold
of `denBlk` (= `denStep` for single operations, `nfasUnionWith` into the target for `Union` blocks) over the block list,
started with no object; liveness agrees and so does the language read through every handle. -/
theorem C11_fa_history_fold_blocks (bs : List Blk)
    (hok : ∀ n (h : n < bs.length), BlkOk (absFA (execB (bs.take n))) bs[n]) :
    EnvEq (den (absFA (execB bs))) (bs.foldl denBlk den0) ∧
    ∀ h w, langOf (den (absFA (execB bs))) h w = langOf (bs.foldl denBlk den0) h w :=
  ⟨fa_history_fold_blocks bs hok, fun h w => (fa_history_fold_blocks bs hok).lang h w⟩

/-- it extends `C11_fa_history_fold`: a block list of single operations runs the same operation list and folds the same
function -/
theorem C11_fa_history_fold_blocks_ops (ops : List Op) :
    execB (ops.map Blk.op) = exec ops ∧ ∀ e, (ops.map Blk.op).foldl denBlk e = ops.foldl denStep e :=
  ⟨by unfold execB; rw [blkOps_map_op], foldl_denBlk_ops ops⟩

namespace UnionEx
/-- two objects, their `Union`, a later write to an operand, `RemoveUselessStates` of the union, the other operand destroyed -/
def blocks : List Blk :=
  [.op (.new 1), .op (.setStart 1 0 7), .op (.add 1 0 5 1), .op (.setFinal 1 1),
   .op (.new 2), .op (.setStart 2 0 8), .op (.add 2 0 6 0), .op (.setFinal 2 0),
   .union 1 2 3 fA fB, .op (.add 1 1 5 1), .op (.useless 3 4), .op (.destroy 2)]
end UnionEx

/-- the hypotheses of `C11_fa_history_fold_blocks` hold for `UnionEx.blocks` -/
example : ∀ n (h : n < UnionEx.blocks.length), BlkOk (absFA (execB (UnionEx.blocks.take n))) UnionEx.blocks[n] := by
  intro n h
  match n, h with
  | 0, _ | 1, _ | 2, _ | 3, _ | 4, _ | 5, _ | 6, _ | 7, _ => trivial
  | 8, _ =>
    refine ⟨⟨⟨⟨[1], [0], [(0, [7])]⟩, [(0, [(5, [[1]])])]⟩, by decide +kernel, fun p _ q _ e => e⟩,
      ⟨⟨⟨[0], [0], [(0, [8])]⟩, [(0, [(6, [[0]])])]⟩, by decide +kernel, fun p _ q _ e => Nat.add_right_cancel e⟩, by decide +kernel⟩
  | 9, _ | 10, _ | 11, _ => trivial
  | n + 12, h => exact absurd h (Nat.not_lt.mpr (Nat.le_add_left 12 n))

/-- … and the fold computes: handle 3 accepts the words of both operands as they were at the `Union`, not the later `[5, 5]` -/
example : langOf (UnionEx.blocks.foldl denBlk den0) 3 [5] = some true ∧
    langOf (UnionEx.blocks.foldl denBlk den0) 3 [6, 6] = some true ∧
    langOf (UnionEx.blocks.foldl denBlk den0) 3 [5, 5] = some false ∧
    langOf (UnionEx.blocks.foldl denBlk den0) 1 [5, 5] = some true ∧
    langOf (UnionEx.blocks.foldl denBlk den0) 4 [6] = some true ∧
    langOf (UnionEx.blocks.foldl denBlk den0) 2 [] = none ∧
    langOf (den (absFA (execB UnionEx.blocks))) 4 [6] = some true := by decide +kernel

/-! ### 2. `Intersection` as a block of operations -/

/-- **the recorded writes of `Intersection` replay to `res`.**  For every iteration order the recording run ends on the fuel
`isectFuel` exactly as the run of `NfaOpsCoded.lean` does (totality: never out of fuel), with the same translation map and an
empty stack, and its writes – `isectWrites` – replayed on the empty automaton give the `res` of `nfasIsectCodedRaw` up to list
order (`stateSet.insert` is a set insertion, `nfasAddTrans` appends). -/
theorem C11_fa_isect_trace {o : NfaOrd} (ho : o.Ok) (A B : NFAS) :
    ∃ st tr, nfasIsectCodedRaw o .fixed A B (NfaC.isectFuel o .fixed A B) = some st ∧
      trLoop o A B (NfaC.isectFuel o .fixed A B) (trInit o A B) = some tr ∧
      st.tm = tr.tm ∧ tr.stack = [] ∧ isectWrites o A B = tr.ws ∧ NEquiv (replay (isectWrites o A B)) st.res := by
  obtain ⟨st, tr, h1, h2, hs, hw⟩ := isect_trace_total ho A B
  refine ⟨st, tr, h1, h2, hs.tm, ?_, hw, hw ▸ hs.res⟩
  rw [← hs.stack]
  exact (nfasIsectCodedRaw_spec ho A B _ st h1).1

/-- **`Intersection` through the heap model.**  After ANY history in which `a`, `b` are live (values `A`, `B`) and `dst` and
the local `t` are two different dead handles, the block `isectOps o A B dst t` – `new t`, the writes of `Intersection` in the
order `nfasIsectCoded` makes them, `useless t dst`, `destroy t` – leaves in `dst` the value `vIsect o A B`; `t` is dead again;
every other handle, in particular the operands, reads what it read before.  The value denotes – up to list order –
`nfasRemoveUseless st.res` where `st` is the final state of `nfasIsectCodedRaw` (so that
`nfasIsectCoded o A B = (nfasUselessCoded o true st.res, st.tm)`); its language is the intersection and equals the language of
`(nfasIsectCoded o A B).1`. -/
theorem C11_fa_denote_isect {o : NfaOrd} (ho : o.Ok) (ops : List Op) (a b dst t : Nat) (A B : FAVal)
    (ha : absFA (exec ops) a = some A) (hb : absFA (exec ops) b = some B)
    (hd : absFA (exec ops) dst = none) (ht : absFA (exec ops) t = none) (hne : dst ≠ t) :
    absFA (exec (ops ++ isectOps o A B dst t)) dst = some (vIsect o A B) ∧
    absFA (exec (ops ++ isectOps o A B dst t)) t = none ∧
    (∀ x, x ≠ dst → x ≠ t → absFA (exec (ops ++ isectOps o A B dst t)) x = absFA (exec ops) x) ∧
    absFA (exec (ops ++ isectOps o A B dst t)) a = some A ∧ absFA (exec (ops ++ isectOps o A B dst t)) b = some B ∧
    (∃ st, nfasIsectCodedRaw o .fixed A.toNFAS B.toNFAS (NfaC.isectFuel o .fixed A.toNFAS B.toNFAS) = some st ∧
      nfasIsectCoded o A.toNFAS B.toNFAS = (nfasUselessCoded o true st.res, st.tm) ∧
      NEquiv (vIsect o A B).toNFAS (nfasRemoveUseless st.res)) ∧
    ∀ w, langOf (den (absFA (exec (ops ++ isectOps o A B dst t)))) dst w = some (acceptsW A.toNFA w && acceptsW B.toNFA w) ∧
      acceptsW (vIsect o A B).toNFA w = acceptsW (nfasIsectCoded o A.toNFAS B.toNFAS).1.toNFA w := by
  obtain ⟨h1, h2, h3⟩ := fa_isect_block ops o A B dst t hd ht hne
  have hx : ∀ x v, absFA (exec ops) x = some v → x ≠ dst := fun x v hv e => by rw [e, hd] at hv; cases hv
  obtain ⟨st, hst, he, _, hn⟩ := vIsect_denote ho A B
  refine ⟨h1, h2, fun x hx _ => h3 x hx, (h3 a (hx a A ha)).trans ha, (h3 b (hx b B hb)).trans hb,
    ⟨st, hst, he, hn⟩, fun w => ⟨?_, (vIsect_lang ho A B w).2⟩⟩
  simp only [langOf, den, h1, Option.map_some]
  exact congrArg some (vIsect_lang ho A B w).1

/-- the result of `Intersection` is isolated: later operations on other handles (operands modified, destroyed) do not change
what is read through `dst` -/
theorem C11_fa_isect_isolated (o : NfaOrd) (ops : List Op) (dst t : Nat) (A B : FAVal)
    (hd : absFA (exec ops) dst = none) (ht : absFA (exec ops) t = none) (hne : dst ≠ t)
    (later : List Op) (hl : ∀ op, op ∈ later → dst ≠ target op) :
    absFA (exec ((ops ++ isectOps o A B dst t) ++ later)) dst = some (vIsect o A B) := by
  rw [C11_fa_result_keeps_value _ later dst hl]
  exact (fa_isect_block ops o A B dst t hd ht hne).1

namespace IsectEx
/-- object 1 accepts `5⁺`, object 2 accepts `5*` -/
def pre : List Op :=
  [.new 1, .setStart 1 0 7, .add 1 0 5 1, .add 1 1 5 1, .setFinal 1 1,
   .new 2, .setStart 2 0 8, .add 2 0 5 0, .setFinal 2 0]
def vA : FAVal := ⟨⟨[1], [0], [(0, [7])]⟩, [(0, [(5, [[1]])]), (1, [(5, [[1]])])]⟩
def vB : FAVal := ⟨⟨[0], [0], [(0, [8])]⟩, [(0, [(5, [[0]])])]⟩
end IsectEx

/-- non-vacuity: the hypotheses of `C11_fa_denote_isect` hold (`dst = 3`, local `res = 9`, list order), the writes are the ones
the C++ makes, and the block computes: the result accepts `[5, 5]`, not `[]`, also after object 1 is destroyed -/
example : NfaOrd.ident.Ok ∧ absFA (exec IsectEx.pre) 1 = some IsectEx.vA ∧ absFA (exec IsectEx.pre) 2 = some IsectEx.vB ∧
    absFA (exec IsectEx.pre) 3 = none ∧ absFA (exec IsectEx.pre) 9 = none := by
  refine ⟨NfaOrd.ident_ok, ?_⟩
  decide +kernel
example : isectWrites NfaOrd.ident IsectEx.vA.toNFAS IsectEx.vB.toNFAS =
      [.start 0 [7, 8], .add 0 5 1, .final 1, .add 1 5 1] ∧
    langOf (den (absFA (exec (IsectEx.pre ++ isectOps NfaOrd.ident IsectEx.vA IsectEx.vB 3 9)))) 3 [5, 5] = some true ∧
    langOf (den (absFA (exec (IsectEx.pre ++ isectOps NfaOrd.ident IsectEx.vA IsectEx.vB 3 9)))) 3 [] = some false ∧
    langOf (den (absFA (exec ((IsectEx.pre ++ isectOps NfaOrd.ident IsectEx.vA IsectEx.vB 3 9) ++ [.destroy 1])))) 3 [5]
      = some true ∧
    absFA (exec (IsectEx.pre ++ isectOps NfaOrd.ident IsectEx.vA IsectEx.vB 3 9)) 9 = none := by decide +kernel

/-!
## still not proved

* `Intersection`: that the heap actions of the C++ (`transitions->uniqueCluster(n)` on a pointer copied once, no
  `uniqueClusterMap()`, the cluster pointer reused for all symbols of one popped pair) coincide with the `add` steps of
  `isectOps` is NOT a theorem: the heap model has no step for a write through a previously obtained map / cluster pointer.
  Proved is the level above: the SEQUENCE of writes (`isectWrites`) is the one `nfasIsectCoded` makes (`C11_fa_isect_trace`), and
  the block of `setExistingStart` / `setFinal` / `add` / `useless` / `destroy` steps run by the heap model yields
  `nfasRemoveUseless` of the coded `res` (`C11_fa_denote_isect`).
* `C11_fa_denote_isect` relates the returned value to `nfasRemoveUseless st.res` (`NEquiv`) and to `(nfasIsectCoded o A B).1` by
  LANGUAGE only; `NEquiv (vIsect o A B).toNFAS (nfasIsectCoded o A B).1` is not proved (it needs `nfasUselessCoded o true` =
  `nfasRemoveUseless` up to `NEquiv`, available only as `NfaSetEq` + `SymObsEq` – start symbols of start states – in
  `C10_coded_trim_same`).
* `C11_fa_history_fold_blocks` has `Union` blocks but no `Intersection` blocks: the product numbering depends on the iteration
  order, so a function `denIsect` on automata up to `NEquiv` does not exist (as for `GetCandidateTree`); a relational
  statement in the style of `DenStepRel` / `DenRun` (the target denotes SOME automaton with the language of the intersection)
  would follow from `C11_fa_denote_isect` but is not stated.
* `BlkOk` for a `Union` block asks that the operands are live and the target is dead (needed:
  `C11_fa_denote_union_needs_dead_target`) and that each translator is injective on the START states of its operand (needed for
  the congruence `C11_fa_denote_congr_union`: `C11_fa_denote_congr_map_needs_inj`); whether the block theorem itself could do
  without the latter is not investigated (as in `C11_FiniteAutCand.lean`).
* The iteration orders `o` of `Intersection` are a parameter (as in `C10_Coded.lean`); that the order induced by the containers
  of the values `A`, `B` is one such `o` is not stated (the theorems hold for every `o` with `o.Ok`).  For `Union` the container
  order of the values IS used (`unionMaps`).
* `GetCandidateTree` and the remaining items of `C11_FiniteAutCand.lean` are unchanged.
* As before: that `step` is a faithful transcription of the C++ is not a theorem; the link is the driver comparison of
  `CowHeapFA.run` with the real class (`CowHeapFA.run (ops ++ unionOps a b dst fA fB)` / `… ++ isectOps o A B dst t`).
-/
end Vata.Props
