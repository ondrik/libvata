import Vata.Proofs.Compl
/-!
# Complementation: the macro-states are few

Every macro-state / profile is a strictly sorted list of states occurring in `A`; there are at most `2 ^ |states A|` of
them, so a duplicate-free list of them is at most that long (`AllSmall.length_le`).  The macro-states the exploration
can meet are of this kind (`MReach.small`).
-/
namespace Vata
namespace Compl
open InclUp (normS mem_normS normS_sorted insS)

def Small (U : List Nat) (P : List Nat) : Prop := P.Pairwise (· < ·) ∧ ∀ q, q ∈ P → q ∈ U

theorem length_le_of_small {U : List Nat} (hU : U.Pairwise (· < ·)) {L : List (List Nat)} (hn : L.Nodup)
    (hs : ∀ P, P ∈ L → Small U P) : L.length ≤ 2 ^ U.length := by
  rw [← InclUp.length_subsets]
  exact hn.length_le_of_subset fun P hP => sorted_mem_subsets hU (hs P hP).1 (hs P hP).2

theorem length_insS_le (x : Nat) : ∀ l : List Nat, (insS x l).length ≤ l.length + 1
  | [] => by simp [insS]
  | y :: l => by
    unfold insS
    split
    · simp
    · split
      · simp
      · have := length_insS_le x l
        simp only [List.length_cons]
        omega

theorem length_normS_le : ∀ l : List Nat, (normS l).length ≤ l.length
  | [] => by simp [normS]
  | x :: l => by
    have h1 : normS (x :: l) = insS x (normS l) := rfl
    have h2 := length_insS_le x (normS l)
    have h3 := length_normS_le l
    rw [h1, List.length_cons]
    omega

/-- the universe: the states occurring in `A`, sorted -/
def stU (A : TA) : List Nat := normS A.states

theorem mem_stU {A : TA} {q : Nat} : q ∈ stU A ↔ Occurs A q := by
  unfold stU
  rw [mem_normS, mem_states]

theorem pow_stU_le (A : TA) : 2 ^ (stU A).length ≤ 2 ^ A.states.length :=
  Nat.pow_le_pow_right (by omega) (length_normS_le _)

def AllSmall (A : TA) (L : List (List Nat)) : Prop := ∀ P, P ∈ L → Small (stU A) P

theorem AllSmall.length_le {A : TA} {L : List (List Nat)} (h : AllSmall A L) (hn : L.Nodup) :
    L.length ≤ 2 ^ (stU A).length :=
  length_le_of_small (normS_sorted _) hn h

theorem small_final (A : TA) : Small (stU A) (normS A.final) :=
  ⟨normS_sorted _, fun _ hq => mem_stU.mpr (Or.inl (mem_normS.mp hq))⟩

theorem macroAt_small {A : TA} {P : List Nat} {f n : Nat} {c : List Nat} {i : Nat} (hi : i < n) :
    Small (stU A) (macroAt (tdW A P f n) c i) := by
  refine ⟨normS_sorted _, ?_⟩
  intro q hq
  obtain ⟨w, hz, rfl⟩ := mem_macroAt.mp hq
  obtain ⟨r, hr, _, _, hl, rfl⟩ := mem_tdW.mp (List.of_mem_zip hz).1
  have hi' : i < r.kids.length := by omega
  have : r.kids.getD i 0 = r.kids[i] := by simp [List.getD_eq_getElem?_getD, hi']
  rw [this]
  exact mem_stU.mpr (Or.inr ⟨r, hr, Or.inr (List.getElem_mem hi')⟩)

/-- every macro-state the construction can meet is small -/
theorem MReach.small {A : TA} {Sg : List (Nat × Nat)} {P : List Nat} (h : MReach A Sg P) : Small (stU A) P := by
  cases h with
  | init => exact small_final A
  | step _ _ _ hi => exact macroAt_small hi

theorem AllSmall.of_reach {A : TA} {Sg : List (Nat × Nat)} {L : List (List Nat)} (h : ∀ P, P ∈ L → MReach A Sg P) :
    AllSmall A L := fun P hP => (h P hP).small

end Compl
end Vata
