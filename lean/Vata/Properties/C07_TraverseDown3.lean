import Vata.Proofs.InclDownTablesClass2Run
import Vata.Properties.C07_TraverseDown2
/-!
# C07 – top-down tables with symbol classes of arity > 0: the two runs are EQUAL (identity preorder)

Property served (C07): *"the BDD inclusion algorithms return the verdict of the explicit ones"*; the item left open by
`Vata/Properties/C07_TraverseDown2.lean`: when two ranked symbols of arity `> 0` of a state of the LEFT table select the same set of
children tuples, the traversal as coded (`ForeachDownSymbolFromStateAndStateSetDo` through `VoidApply2Functor`: ONE call of
`DownwardInclusionFunctor::operator()` per pair of leaves) and the abstract model `InclDown.expand` on the dump in path order (one
call `procGroup` per ranked symbol: the class is processed TWICE or more, possibly with other symbols in between) were only known
to return the same verdict.  Here: for `ANTICHAINS_DOWN_REC_NOSIM` (`idOrd`) they leave the SAME `childrenCache`, `nonincluded`
(with the witness trees) and `trues` – plain equality of the results, not only equality up to redundancy.

How the C++ is read into the model: as in `C07_TraverseDown.lean` / `C07_TraverseDown2.lean` (`expandT`, `bodyT`, `procLeaf`, `runTD`
of `Vata/InclDownTables.lean`; `expand`, `body`, `procGroup`, `run` of `Vata/InclDown.lean`).  Nothing new is modelled.

What is proved (`Vata/Proofs/InclDownTablesClass2*.lean`).

* The invariant `GI A B ws cc st` of one functor with pending calls `ws` (`workset_`): `Inv` of the exploration PLUS the
  relative-completeness clause the paper argument of `C07_TraverseDown2.lean` names – *no entry of `nonincluded` implies a pair that
  is subsumed by `trues ++ ws`* – PLUS "no pair of `trues ++ ws` has an empty right-hand set".  It holds initially and is kept by
  every call (`C07_relative_completeness`), by induction on the fuel together with: a call for a pair subsumed by `trues ++ ws`
  never fails (a failing choice function of `(x, X)` restricts to a choice function of the closed pair `(x, S')`, `S' ⊆ X`, which has
  a subsumed position; the call for that position is a call on a subsumed pair).
* **The key lemma** `C07_repeated_group_call_idempotent`: a call `procGroup` that returned `holds` is idempotent on its post-state and
  on every LATER state of the same functor (`LeI`: more covered by `childrenCache`, more implied by `nonincluded`, more `trues`):
  a second call for a group with the same (lhs tuple set, rhs tuple set) returns `holds` and leaves `childrenCache`, `nonincluded`,
  `trues` untouched.
* `C07_traverse_downward_algorithm_general`: `expandT` on the tables = `expand` on the dumps on every state that satisfies `GI`
  (in particular from the initial state), for every fuel; `C07_traverse_downward_run_general`: `runTD = run`.

What is abstracted: as in `C07_TraverseDown.lean`.

Hypotheses: `TabOK` tables, `syms` increasing / bounded / covering the left table (hold for loaded tables with `rankSyms`);
`WitOK A wit` (the ghost table of trees holds a tree of every child state: it is what makes the entries of `nonincluded`
separating trees, part of `Inv`; `prodWit A` when the children of the rules of `A` are productive – the precondition "no useless
states" of the C++); the state satisfies `GI` (forced by the proof: the equality of the two runs is an invariant property – it is
proved for all states the algorithm can reach, which `GI` over-approximates; whether it holds for arbitrary garbage states is not
known and irrelevant); the right-hand set of the call is not empty (the functor never calls `expand` with an empty set; for the
whole run: `FB ≠ []`).
-/
namespace Vata.Props
open Vata.M Vata.BddAbs Vata.BddAbsTD Vata.BddTraverse Vata.InclDown Vata.InclDownTables
open Vata.InclUp (prodWit normS)

section
variable {n : Nat} {ar : Nat → Nat} {syms : List Nat} {TA TB : TableTD}

/-- the two hypotheses of the induction, for the dumps in path order -/
theorem C07_general_aux (FA FB : List Nat) (hs : syms.Pairwise (· < ·)) (hb : ∀ c, c ∈ syms → c < 2 ^ n)
    (hcov : ∀ p c, c < 2 ^ n → eval (getTD TA p) (bits c) ≠ [] → c ∈ syms)
    (okA : TabOK n ar TA) (okB : TabOK n ar TB) {wit : InclUp.Wit} (hW : WitOK (pathOrder syms TA FA) wit) :
    (∀ (ws : List Pair) (cT cM : Call), CallGood (frameI (pathOrder syms TA FA) (pathOrder syms TB FB) ws) cT cM cT →
      ∀ p P cc st, GI (pathOrder syms TA FA) (pathOrder syms TB FB) ws cc st →
        bodyT cT cT TA TB wit normS p P cc st =
          body cM cM (pathOrder syms TA FA) (pathOrder syms TB FB) wit normS p P cc st) ∧
    (∀ fuel ws, CallSpec idOrd (pathOrder syms TA FA) (pathOrder syms TB FB) ws (expandT idOrd TA TB wit fuel ws)) :=
  ⟨fun _ _ _ => bodyT_eq_good FA FB ⟨hs, hb, hcov, okA, okB⟩ wit normS,
   expandT_spec (callsCover_pathOrder FA FB ⟨hs, hb, hcov, okA, okB⟩) (idOrd_langOrd _ _) ordRefl_id hW⟩

/-- the initial state of a run satisfies the invariant -/
theorem C07_gi_init (A B : Vata.TA) : GI A B [] [] ⟨[], []⟩ :=
  gi_nil_of_inv (inv_init idOrd A B) (fun _ ht => by cases ht)

/-- The invariant `GI` (with the clause "no entry of `nonincluded` implies a pair subsumed by
`trues ++ ws`") is kept by every call of `expand` on a pair with a non-empty set, the state only grows (`LeI`), and a call for a
pair that IS subsumed by `trues ++ ws` never returns `fails` -/
theorem C07_relative_completeness (FA FB : List Nat) (hs : syms.Pairwise (· < ·)) (hb : ∀ c, c ∈ syms → c < 2 ^ n)
    (hcov : ∀ p c, c < 2 ^ n → eval (getTD TA p) (bits c) ≠ [] → c ∈ syms)
    (okA : TabOK n ar TA) (okB : TabOK n ar TB) {wit : InclUp.Wit} (hW : WitOK (pathOrder syms TA FA) wit)
    (fuel : Nat) (ws cc : List Pair) (st : St) (p : Nat) (P : List Nat) (hP : P ≠ [])
    (hG : GI (pathOrder syms TA FA) (pathOrder syms TB FB) ws cc st) :
    (∀ v cc' st', expand idOrd (pathOrder syms TA FA) (pathOrder syms TB FB) wit fuel ws cc st p P = some (v, cc', st') →
      GI (pathOrder syms TA FA) (pathOrder syms TB FB) ws cc' st' ∧ LeI cc st cc' st') ∧
    (Sub (st.trues ++ ws) p P → ∀ w cc' st',
      expand idOrd (pathOrder syms TA FA) (pathOrder syms TB FB) wit fuel ws cc st p P ≠ some (.fails w, cc', st')) := by
  obtain ⟨hcg, hrc⟩ := full_expand (C07_general_aux FA FB hs hb hcov okA okB hW).1 hW fuel ws
  refine ⟨fun v cc' st' h => ?_, fun hsub => hrc p P cc st hP hG hsub⟩
  obtain ⟨g, l, _⟩ := (callGood_model hcg p P hP cc st hG).2 v cc' st' h
  exact ⟨g, l⟩

/-- The key lemma.  In the body of the call for `(p, P)` (pending calls
`(p, P) :: ws`, recursive calls `expand … fuel ((p, P) :: ws)`), let the call `procGroup` for the group `g` return `holds` from a
state that satisfies the invariant.  Then its post-state satisfies the invariant, and in the post-state AND in every later state of
the same functor (`LeI`, e.g. after the groups of other symbols returned `holds`), the call `procGroup` for every group `g'` with the
same lhs tuple set and the same rhs tuple set returns `holds` again and leaves `childrenCache`, `nonincluded` and `trues` unchanged -/
theorem C07_repeated_group_call_idempotent (FA FB : List Nat) (hs : syms.Pairwise (· < ·)) (hb : ∀ c, c ∈ syms → c < 2 ^ n)
    (hcov : ∀ p c, c < 2 ^ n → eval (getTD TA p) (bits c) ≠ [] → c ∈ syms)
    (okA : TabOK n ar TA) (okB : TabOK n ar TB) {wit : InclUp.Wit} (hW : WitOK (pathOrder syms TA FA) wit)
    (fuel : Nat) (ws : List Pair) (p : Nat) (P : List Nat) {g g' : Nat × Nat}
    (hg : g ∈ lhsGroups (pathOrder syms TA FA) p) (hg' : g' ∈ lhsGroups (pathOrder syms TA FA) p)
    (hL : lhsTuples (pathOrder syms TA FA) p g'.1 g'.2 = lhsTuples (pathOrder syms TA FA) p g.1 g.2)
    (hR : rhsTuples (pathOrder syms TB FB) P g'.1 g'.2 = rhsTuples (pathOrder syms TB FB) P g.1 g.2)
    (cc : List Pair) (st : St) (hG : GI (pathOrder syms TA FA) (pathOrder syms TB FB) ((p, P) :: ws) cc st)
    (cc' : List Pair) (st' : St)
    (h : procGroup (expand idOrd (pathOrder syms TA FA) (pathOrder syms TB FB) wit fuel ((p, P) :: ws))
        (expand idOrd (pathOrder syms TA FA) (pathOrder syms TB FB) wit fuel ((p, P) :: ws))
        (pathOrder syms TA FA) (pathOrder syms TB FB) wit normS p P g.1 g.2 cc st = some (.holds, cc', st')) :
    GI (pathOrder syms TA FA) (pathOrder syms TB FB) ((p, P) :: ws) cc' st' ∧ LeI cc st cc' st' ∧
    ∀ c2 s2, LeI cc' st' c2 s2 → GI (pathOrder syms TA FA) (pathOrder syms TB FB) ((p, P) :: ws) c2 s2 →
      procGroup (expand idOrd (pathOrder syms TA FA) (pathOrder syms TB FB) wit fuel ((p, P) :: ws))
        (expand idOrd (pathOrder syms TA FA) (pathOrder syms TB FB) wit fuel ((p, P) :: ws))
        (pathOrder syms TA FA) (pathOrder syms TB FB) wit normS p P g'.1 g'.2 c2 s2 = some (.holds, c2, s2) := by
  obtain ⟨hcg, _⟩ := full_expand (C07_general_aux FA FB hs hb hcov okA okB hW).1 hW fuel ((p, P) :: ws)
  have hcM := callGood_model hcg
  rw [procGroup_eq_procLeaf _ _ _ _ wit normS p P hg] at h
  obtain ⟨k1, k2, k3⟩ := (good_procLeaf hcM wit normS g.1 g'.1 _ _ cc st hG).2 _ _ _ h
  refine ⟨k1, k2, fun c2 s2 hle hG2 => ?_⟩
  obtain ⟨v', hk, he⟩ := k3 c2 s2 hle hG2
  rw [procGroup_eq_procLeaf _ _ _ _ wit normS p P hg', hL, hR, he, sameKind_holds hk]

/-- `ANTICHAINS_DOWN_REC_NOSIM`.  `TabOK` tables, `syms` increasing, bounded,
covering the left table – NO symbol-determinism of any kind; `A`, `B` the dumps in path order.  On every state that satisfies the
invariant `GI` (every state a run reaches) and every pair with a non-empty set, the recursive call as coded on the tables IS the call
of the abstract model on the dumps: same verdict, same `childrenCache`, same `nonincluded` (with the witness trees), same `trues`,
for every fuel (in particular the same answers `none`) -/
theorem C07_traverse_downward_algorithm_general (FA FB : List Nat) (hs : syms.Pairwise (· < ·))
    (hb : ∀ c, c ∈ syms → c < 2 ^ n) (hcov : ∀ p c, c < 2 ^ n → eval (getTD TA p) (bits c) ≠ [] → c ∈ syms)
    (okA : TabOK n ar TA) (okB : TabOK n ar TB) {wit : InclUp.Wit} (hW : WitOK (pathOrder syms TA FA) wit)
    (fuel : Nat) (ws cc : List Pair) (st : St) (p : Nat) (P : List Nat) (hP : P ≠ [])
    (hG : GI (pathOrder syms TA FA) (pathOrder syms TB FB) ws cc st) :
    expandT idOrd TA TB wit fuel ws cc st p P =
      expand idOrd (pathOrder syms TA FA) (pathOrder syms TB FB) wit fuel ws cc st p P :=
  ((full_expand (C07_general_aux FA FB hs hb hcov okA okB hW).1 hW fuel ws).1 p P hP cc st hG).1

/-- the same from the initial state, in the printed form: `showRet (expandT …) = showRet (expand … (pathOrder …))` -/
theorem C07_traverse_downward_algorithm_general_showRet (FA FB : List Nat) (hs : syms.Pairwise (· < ·))
    (hb : ∀ c, c ∈ syms → c < 2 ^ n) (hcov : ∀ p c, c < 2 ^ n → eval (getTD TA p) (bits c) ≠ [] → c ∈ syms)
    (okA : TabOK n ar TA) (okB : TabOK n ar TB) {wit : InclUp.Wit} (hW : WitOK (pathOrder syms TA FA) wit)
    (fuel : Nat) (p : Nat) (P : List Nat) (hP : P ≠ []) :
    showRet (expandT idOrd TA TB wit fuel [] [] ⟨[], []⟩ p P) =
      showRet (expand idOrd (pathOrder syms TA FA) (pathOrder syms TB FB) wit fuel [] [] ⟨[], []⟩ p P) := by
  rw [C07_traverse_downward_algorithm_general FA FB hs hb hcov okA okB hW fuel [] [] _ p P hP (C07_gi_init _ _)]

/-- The whole run of `CheckDownwardTreeInclusion` on the tables IS `InclDown.run` on the
dumps (verdict, the set `trues` returned, the witness tree), for every fuel – when the children of the rules of the left dump are
productive (no useless states) and the right automaton has a final state -/
theorem C07_traverse_downward_run_general (FA FB : List Nat) (h : Tabs n ar syms TA TB)
    (hK : KidsProductive (pathOrder syms TA FA)) (hFB : FB ≠ []) (fuel : Nat) :
    runTD idOrd TA FA TB FB (prodWit (pathOrder syms TA FA)) fuel =
      run idOrd (pathOrder syms TA FA) (pathOrder syms TB FB) fuel :=
  runTD_eq_good (A := pathOrder syms TA FA) (B := pathOrder syms TB FB) (fun _ _ _ => bodyT_eq_good FA FB h _ normS)
    (witOK_prodWit hK) hFB fuel

end

/-- loaded tables, rule-level hypotheses only (arities `< 64`, no useless states in the left dump, a final state on the right) -/
theorem C07_traverse_downward_loaded_general (rsA rsB : List Rule) (hA : ∀ r, r ∈ rsA → r.kids.length < 64)
    (hB : ∀ r, r ∈ rsB → r.kids.length < 64) (FA FB : List Nat)
    (hK : KidsProductive (pathOrder (rankSyms (rsA ++ rsB)) (ofRulesTD rsA) FA)) (hFB : FB ≠ []) (fuel : Nat) :
    runTD idOrd (ofRulesTD rsA) FA (ofRulesTD rsB) FB (prodWit (pathOrder (rankSyms (rsA ++ rsB)) (ofRulesTD rsA) FA)) fuel =
      run idOrd (pathOrder (rankSyms (rsA ++ rsB)) (ofRulesTD rsA) FA) (pathOrder (rankSyms (rsA ++ rsB)) (ofRulesTD rsB) FB) fuel :=
  have hk := rankSyms_ok (rs' := rsA) (rs := rsA ++ rsB) (fun _ h => List.mem_append_left _ h)
  C07_traverse_downward_run_general FA FB ⟨hk.1, hk.2.1, hk.2.2, tabOK_ofRulesTD rsA hA, tabOK_ofRulesTD rsB hB⟩ hK hFB fuel

/-! ## non-vacuity: a class of two UNARY symbols

`n = 2`; symbol 0 is nullary, symbols 1, 2, 3 are unary.  Left table: `0 → 1`, `2(1) → 5`, `3(1) → 5` (the class `{2, 3}` of state 5:
ONE leaf `{(1)}`); right table: `0 → 3`, `2(3) → 4`, `3(3) → 4`, `1(3) → 4`. -/
namespace TD3Ex
def ar : Nat → Nat := fun c => if c = 0 then 0 else 1
def tL : TableTD := [(1, .node 1 (.node 0 (.leaf [[]]) (.leaf [])) (.leaf [])), (5, .node 1 (.leaf []) (.leaf [[1]]))]
def tR : TableTD :=
  [(3, .node 1 (.node 0 (.leaf [[]]) (.leaf [])) (.leaf [])), (4, .node 1 (.node 0 (.leaf []) (.leaf [[3]])) (.leaf [[3]]))]

theorem okL : TabOK 2 ar tL := by
  refine tabOK_of_entries (fun e he => ?_)
  simp only [tL, List.mem_cons, List.not_mem_nil, or_false] at he
  -- both entries: a reduced ordered diagram; at each of the four symbols the leaf is an increasing list of tuples of its arity
  rcases he with rfl | rfl
  all_goals
    refine ⟨by simp [WF, Below], fun c hc => ?_, fun c ks hc => ?_⟩
    · rcases TDEx.lt4 hc with rfl | rfl | rfl | rfl <;> decide
    · rcases TDEx.lt4 hc with rfl | rfl | rfl | rfl <;> revert ks <;> decide

theorem okR : TabOK 2 ar tR := by
  refine tabOK_of_entries (fun e he => ?_)
  simp only [tR, List.mem_cons, List.not_mem_nil, or_false] at he
  -- both entries: a reduced ordered diagram; at each of the four symbols the leaf is an increasing list of tuples of its arity
  rcases he with rfl | rfl
  all_goals
    refine ⟨by simp [WF, Below], fun c hc => ?_, fun c ks hc => ?_⟩
    · rcases TDEx.lt4 hc with rfl | rfl | rfl | rfl <;> decide
    · rcases TDEx.lt4 hc with rfl | rfl | rfl | rfl <;> revert ks <;> decide
end TD3Ex

/-- the left table is covered by none of the earlier run-for-run theorems: the class `{2, 3}` of state 5 is a class of unary symbols -/
example : ¬ ∀ p, SymDetPos 2 TD3Ex.ar (getTD TD3Ex.tL p) := fun h => by
  have := h 5 2 3 (by decide) (by decide) (by decide) (by decide)
  revert this; decide

/-- the hypotheses of `C07_traverse_downward_run_general` are satisfiable with such a left table -/
example : TDEx.syms.Pairwise (· < ·) ∧ (∀ c, c ∈ TDEx.syms → c < 2 ^ 2) ∧
    (∀ p c, c < 2 ^ 2 → eval (getTD TD3Ex.tL p) (bits c) ≠ [] → c ∈ TDEx.syms) ∧
    TabOK 2 TD3Ex.ar TD3Ex.tL ∧ TabOK 2 TD3Ex.ar TD3Ex.tR ∧ KidsProductive (pathOrder TDEx.syms TD3Ex.tL [5]) ∧
    WitOK (pathOrder TDEx.syms TD3Ex.tL [5]) (prodWit (pathOrder TDEx.syms TD3Ex.tL [5])) ∧ ([4] : List Nat) ≠ [] :=
  have hK := (InclUp.trimmed_of_allUsefulB (A := pathOrder TDEx.syms TD3Ex.tL [5]) (by decide +kernel)).1
  ⟨by decide +kernel, by decide +kernel, fun _ c hc _ => by rcases TDEx.lt4 hc with rfl | rfl | rfl | rfl <;> decide,
    TD3Ex.okL, TD3Ex.okR, hK, witOK_prodWit hK, by decide +kernel⟩

-- ONE call of the code for the class `{2, 3}`; TWO groups of the dump with the same tuple sets
#guard (travDown TD3Ex.tL TD3Ex.tR 5 [4]).map (fun c => (reprSym c.1, c.2)) == [(0, [], []), (1, [], [[3]]), (2, [[1]], [[3]])]
#guard lhsGroups (pathOrder TDEx.syms TD3Ex.tL [5]) 5 == [(2, 1), (3, 1)]
#guard (lhsTuples (pathOrder TDEx.syms TD3Ex.tL [5]) 5 2 1, rhsTuples (pathOrder TDEx.syms TD3Ex.tR [4]) [4] 2 1) ==
  (lhsTuples (pathOrder TDEx.syms TD3Ex.tL [5]) 5 3 1, rhsTuples (pathOrder TDEx.syms TD3Ex.tR [4]) [4] 3 1)
-- both sides of the theorems evaluated
#guard showRet (expandT idOrd TD3Ex.tL TD3Ex.tR [] 10 [] [] ⟨[], []⟩ 5 [4]) ==
  showRet (expand idOrd (pathOrder TDEx.syms TD3Ex.tL [5]) (pathOrder TDEx.syms TD3Ex.tR [4]) [] 10 [] [] ⟨[], []⟩ 5 [4])
#guard (showRet (expandT idOrd TD3Ex.tL TD3Ex.tR [] 10 [] [] ⟨[], []⟩ 5 [4])) == some (true, [(5, [4])], [], [(1, [3]), (5, [4])])
#guard inclDownTrav idOrd TD3Ex.tL [5] TD3Ex.tR [4] (prodWit (pathOrder TDEx.syms TD3Ex.tL [5])) 10 == some true
#guard plainVerdict (run idOrd (pathOrder TDEx.syms TD3Ex.tL [5]) (pathOrder TDEx.syms TD3Ex.tR [4]) 10) == some true
-- the converse inclusion fails (`1(3) → 4` has no counterpart): a class on the RIGHT side
#guard inclDownTrav idOrd TD3Ex.tR [4] TD3Ex.tL [5] (prodWit (pathOrder TDEx.syms TD3Ex.tR [4])) 10 == some false
#guard plainVerdict (run idOrd (pathOrder TDEx.syms TD3Ex.tR [4]) (pathOrder TDEx.syms TD3Ex.tL [5]) 10) == some false
-- `GenEx` of `C07_TraverseDown2.lean` (class `{f, h}` of unary symbols with `g` in between, a failing run) is an instance

/-!
## still not proved

* the preorder: everything here is for the identity (`idOrd`, `ANTICHAINS_DOWN_REC_NOSIM` / `…_OPT_NOSIM`).  For a simulation preorder
  (`ANTICHAINS_DOWN_REC_SIM`, which `bdd_td_tree_aut_incl.cc` also offers) the run-for-run equality without symbol-determinism is open:
  the step "a pair subsumed by a CLOSED pair has a closed body" then needs that the closure condition is inherited along the preorder
  (a simulation argument); the verdict equality for any sound reflexive preorder is `C07_traverse_downward_algorithm_general_partial`;
* the equality is proved on the states that satisfy `GI` (an over-approximation of the reachable states, proved to hold initially and
  to be kept) and for pairs with a non-empty right-hand set; for the whole run: `FB ≠ []` and `KidsProductive` of the left dump.
  Whether the two calls also agree on states that violate `GI` (unreachable) or on an empty right-hand set is not known – no
  counterexample was searched for;
* the symbols of the dumps are RANKED symbols, `OptDownwardInclusionFunctor` and the preorder index structures: as in
  `C07_TraverseDown.lean`; no link to the C++ by a driver kind (Lean only).
-/
end Vata.Props
