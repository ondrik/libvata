import Vata.InclUpSim
import Vata.UpCert
import Vata.Lang
import Vata.Proofs.SimModel
import Vata.Proofs.Rename
import Vata.Proofs.InclUp
import Vata.Proofs.InclDown
import Vata.Proofs.Sanitize
import Vata.Proofs.InclUpBdd
/-!
# Upward antichain inclusion pruned by an upward simulation (properties C01, C07)

The antichain principle modulo a reflexive-transitive upward simulation (identity on siblings) of the disjoint union of
the operands.  Its proof replaces the children of a rule one by one by simulating states inside a component of the union
(`replace_kids`), which makes the post-image monotone modulo the simulation (`post_sim`).  The context lemma (`upSim_ctx`:
a simulating state reaches, through every context, a state that simulates what the simulated state reaches) is the
one-position form of that step and needs neither reflexivity nor transitivity.  The Boolean checker decides the principle, so every verdict of the certifying model (and of
the bottom-up BDD selection, which ignores the relation) is right.

The exploration itself (`InclUpSim.run`) is analysed in `Vata/Proofs/InclUpSimInv.lean` (the final antichain of a
`return true` passes the check, a `return false` is justified) and `Vata/Proofs/InclUpSimTotal.lean` (termination,
totality on trimmed operands with a validated preorder).
-/
namespace Vata
open InclUp InclUpSim

namespace InclUpSim

inductive Star (R : Nat → Nat → Prop) : Nat → Nat → Prop
  | refl (q : Nat) : Star R q q
  | tail {a b c : Nat} : Star R a b → R b c → Star R a c

theorem Star.single {R : Nat → Nat → Prop} {a b : Nat} (h : R a b) : Star R a b := .tail (.refl a) h

theorem Star.trans {R : Nat → Nat → Prop} {a b c : Nat} (h₁ : Star R a b) (h₂ : Star R b c) : Star R a c := by
  induction h₂ with
  | refl => exact h₁
  | tail _ h ih => exact .tail ih h

theorem upSim_star (U : TA) {R : Nat → Nat → Prop} (hR : IsUpSim U R) : IsUpSim U (Star R) := by
  intro q r h
  induction h with
  | refl =>
    exact ⟨id, fun ρ hρ i hi => ⟨ρ, hρ, rfl, (SimModel.setAt_self _ _ _ hi).symm, .refl _⟩⟩
  | @tail b _ _ h₂ ih =>
    obtain ⟨f₁, s₁⟩ := ih
    obtain ⟨f₂, s₂⟩ := hR _ _ h₂
    refine ⟨fun h => f₂ (f₁ h), ?_⟩
    intro ρ hρ i hi
    obtain ⟨σ, hσ, e₁, e₂, e₃⟩ := s₁ ρ hρ i hi
    have hi' : σ.kids[i]? = some b := by rw [e₂]; exact SimModel.getElem?_setAt _ _ _ _ hi
    obtain ⟨τ, hτ, k₁, k₂, k₃⟩ := s₂ σ hσ i hi'
    exact ⟨τ, hτ, k₁.trans e₁, by rw [k₂, e₂, SimModel.setAt_setAt], .tail e₃ k₃⟩

structure Comp (U C : TA) : Prop where
  sub : ∀ r, r ∈ C.rules → r ∈ U.rules
  kid : ∀ σ, σ ∈ U.rules → ∀ k, k ∈ σ.kids → k ∈ C.states → σ ∈ C.rules

theorem comp_left (A B : TA) (hdis : ∀ q, q ∈ A.states → q ∉ B.states) : Comp (unionDisjoint A B) A where
  sub := fun _ hr => List.mem_append_left _ hr
  kid := fun σ hσ k hk hkA => by
    rcases List.mem_append.mp hσ with h | h
    · exact h
    · exact absurd (kid_mem_states h hk) (hdis k hkA)

theorem comp_right (A B : TA) (hdis : ∀ q, q ∈ A.states → q ∉ B.states) : Comp (unionDisjoint A B) B where
  sub := fun _ hr => List.mem_append_right _ hr
  kid := fun σ hσ k hk hkB => by
    rcases List.mem_append.mp hσ with h | h
    · exact absurd hkB (hdis k (kid_mem_states h hk))
    · exact h

theorem setAt_append (pre : List Nat) (k p : Nat) (rest : List Nat) :
    setAt (pre ++ k :: rest) pre.length p = pre ++ p :: rest := by
  induction pre with
  | nil => rfl
  | cons x pre ih => rw [List.cons_append, List.length_cons, setAt, ih, List.cons_append]

theorem mem_setAt (ks : List Nat) : ∀ (i q r : Nat), ks[i]? = some q → r ∈ setAt ks i r := by
  induction ks with
  | nil => exact fun _ _ _ h => nomatch h
  | cons k ks ih =>
    intro i q r h
    cases i with
    | zero => exact List.mem_cons_self
    | succ i => exact List.mem_cons_of_mem _ (ih i q r h)

theorem replace_kids {U C : TA} (hC : Comp U C) {S : Nat → Nat → Prop} (hS : IsUpSim U S)
    (hrefl : ∀ q, S q q) (htr : ∀ a b c, S a b → S b c → S a c) {rest ps : List Nat}
    (h : All2 (fun k p => S k p ∧ p ∈ C.states) rest ps) :
    ∀ (ρ : Rule) (pre : List Nat), ρ ∈ C.rules → ρ.kids = pre ++ rest →
      ∃ σ, σ ∈ C.rules ∧ σ.sym = ρ.sym ∧ σ.kids = pre ++ ps ∧ S ρ.parent σ.parent := by
  induction h with
  | nil => exact fun ρ pre hρ hk => ⟨ρ, hρ, rfl, hk, hrefl _⟩
  | @cons k p rest ps hd _ ih =>
    intro ρ pre hρ hk
    have hi : ρ.kids[pre.length]? = some k := by rw [hk]; simp
    obtain ⟨σ, hσ, e₁, e₂, e₃⟩ := (hS k p hd.1).2 ρ (hC.sub ρ hρ) pre.length hi
    rw [hk, setAt_append] at e₂
    have hσC : σ ∈ C.rules := hC.kid σ hσ p (by rw [e₂]; simp) hd.2
    obtain ⟨τ, hτ, k₁, k₂, k₃⟩ := ih σ (pre ++ [p]) hσC (by rw [e₂]; simp)
    exact ⟨τ, hτ, k₁.trans e₁, by rw [k₂]; simp, htr _ _ _ e₃ k₃⟩

theorem matchKids_cons {k : Nat} {ks : List Nat} {P : List Nat} {Ps : List (List Nat)} :
    matchKids (k :: ks) (P :: Ps) = true ↔ k ∈ P ∧ matchKids ks Ps = true := by
  rw [matchKids, Bool.and_eq_true, List.contains_iff_mem]

theorem matchKids_lift {S : Nat → Nat → Prop} {C : TA} {Ps Ts : List (List Nat)}
    (h : All2 (fun P T => ∀ s, s ∈ P → ∃ s', s' ∈ T ∧ S s s' ∧ s' ∈ C.states) Ps Ts) (ks : List Nat)
    (hm : matchKids ks Ps = true) :
    ∃ ks', All2 (fun k p => S k p ∧ p ∈ C.states) ks ks' ∧ matchKids ks' Ts = true := by
  obtain ⟨ks', h₁, h₂⟩ := All2.split (Q := fun k p => S k p ∧ p ∈ C.states) (R := fun p T => p ∈ T)
    (((matchKids_iff.mp hm).comp h).mono fun k T _ _ ⟨P, hk, hP⟩ => (hP k hk).imp fun s' hs' => ⟨hs'.2, hs'.1⟩)
  exact ⟨ks', h₁, matchKids_iff.mpr h₂⟩

theorem post_sim {U C : TA} (hC : Comp U C) {S : Nat → Nat → Prop} (hS : IsUpSim U S)
    (hrefl : ∀ q, S q q) (htr : ∀ a b c, S a b → S b c → S a c) (f : Nat) {Ps Ts : List (List Nat)}
    (h : All2 (fun P T => ∀ s, s ∈ P → ∃ s', s' ∈ T ∧ S s s' ∧ s' ∈ C.states) Ps Ts) :
    ∀ s, s ∈ post C f Ps → ∃ s', s' ∈ post C f Ts ∧ S s s' := by
  intro s hs
  rw [mem_post'] at hs
  obtain ⟨ρ, hρ, hf, hm, hp⟩ := hs
  obtain ⟨ks', h₁, h₂⟩ := matchKids_lift h ρ.kids hm
  obtain ⟨σ, hσ, e₁, e₂, e₃⟩ := replace_kids hC hS hrefl htr h₁ ρ [] hρ rfl
  refine ⟨σ.parent, mem_post'.mpr ⟨σ, hσ, e₁.trans hf, ?_, rfl⟩, hp ▸ e₃⟩
  rw [e₂]; exact h₂

inductive Ctx where
  | hole
  | node (f : Nat) (pre : List Tree) (c : Ctx) (suf : List Tree)

def Ctx.plug : Ctx → Tree → Tree
  | .hole, t => t
  | .node f pre c suf, t => .node f (pre ++ c.plug t :: suf)

def Ctx.reachFrom (U : TA) : Ctx → List Nat → List Nat
  | .hole, Q => Q
  | .node f pre c suf, Q => post U f (reachL U pre ++ c.reachFrom U Q :: reachL U suf)

theorem reachL_append (U : TA) (pre : List Tree) (t : Tree) (suf : List Tree) :
    reachL U (pre ++ t :: suf) = reachL U pre ++ reach U t :: reachL U suf := by
  simp only [reachL_eq_map, List.map_append, List.map_cons]

theorem reach_plug (U : TA) (c : Ctx) (t : Tree) : reach U (c.plug t) = c.reachFrom U (reach U t) := by
  induction c with
  | hole => rfl
  | node f pre c suf ih => rw [Ctx.plug, Ctx.reachFrom, reach, reachL_append, ih]

theorem all2_mid {L₁ L₂ : List (List Nat)} {Q Q' : List Nat} (h : ∀ x, x ∈ Q → x ∈ Q') :
    All2 (fun s s' => ∀ q, q ∈ s → q ∈ s') (L₁ ++ Q :: L₂) (L₁ ++ Q' :: L₂) := by
  have hrefl : ∀ L : List (List Nat), All2 (fun s s' => ∀ q, q ∈ s → q ∈ s') L L := fun L => by
    induction L with
    | nil => exact All2.nil
    | cons _ _ ih => exact All2.cons (fun _ h => h) ih
  induction L₁ with
  | nil => exact All2.cons h (hrefl _)
  | cons _ _ ih => exact All2.cons (fun _ h => h) ih

theorem reachFrom_mono (U : TA) (c : Ctx) {Q Q' : List Nat} (h : ∀ x, x ∈ Q → x ∈ Q') :
    ∀ p, p ∈ c.reachFrom U Q → p ∈ c.reachFrom U Q' := by
  induction c with
  | hole => exact h
  | node f _ c _ ih => exact post_mono U f (all2_mid ih)

theorem matchKids_mid (L₁ : List (List Nat)) (Q : List Nat) (L₂ : List (List Nat)) : ∀ ks : List Nat,
    matchKids ks (L₁ ++ Q :: L₂) = true →
    ∃ k, ks[L₁.length]? = some k ∧ k ∈ Q ∧
      ∀ (Q' : List Nat) (k' : Nat), k' ∈ Q' → matchKids (setAt ks L₁.length k') (L₁ ++ Q' :: L₂) = true := by
  induction L₁ with
  | nil =>
    intro ks h
    cases ks with
    | nil => cases h
    | cons k ks =>
      have h := matchKids_cons.mp h
      exact ⟨k, rfl, h.1, fun Q' k' hk' => matchKids_cons.mpr ⟨hk', h.2⟩⟩
  | cons s L₁ ih =>
    intro ks h
    cases ks with
    | nil => cases h
    | cons x ks =>
      have h := matchKids_cons.mp h
      obtain ⟨k, hk, hkQ, hall⟩ := ih ks h.2
      exact ⟨k, hk, hkQ, fun Q' k' hk' => matchKids_cons.mpr ⟨h.1, hall Q' k' hk'⟩⟩

/-- **context lemma**: if `r` simulates `q` upward (identity on siblings), then through every context whatever `q`
reaches at the root is simulated by something `r` reaches at the root -/
theorem upSim_ctx (U : TA) (S : Nat → Nat → Prop) (hS : IsUpSim U S) : ∀ (c : Ctx) (q r p : Nat), S q r →
    p ∈ c.reachFrom U [q] → ∃ p', p' ∈ c.reachFrom U [r] ∧ S p p' := by
  intro c
  induction c with
  | hole => exact fun q r p hqr hp => ⟨r, List.mem_singleton.mpr rfl, List.mem_singleton.mp hp ▸ hqr⟩
  | node f pre c suf ih =>
    intro q r p hqr hp
    rw [Ctx.reachFrom, mem_post'] at hp
    obtain ⟨ρ, hρ, hf, hm, hpar⟩ := hp
    obtain ⟨k, hk, hkQ, hall⟩ := matchKids_mid _ _ _ _ hm
    obtain ⟨k', hk', hkk'⟩ := ih q r k hqr hkQ
    obtain ⟨σ, hσ, e₁, e₂, e₃⟩ := (hS k k' hkk').2 ρ hρ _ hk
    exact ⟨σ.parent, mem_post'.mpr ⟨σ, hσ, e₁.trans hf, e₂ ▸ hall _ k' hk', rfl⟩, hpar ▸ e₃⟩

theorem upSim_ctx_accepts (U : TA) (S : Nat → Nat → Prop) (hS : IsUpSim U S) (c : Ctx) {q r : Nat} {t' : Tree}
    (hqr : S q r) (hr : r ∈ reach U t') (h : accepting U (c.reachFrom U [q]) = true) :
    accepts U (c.plug t') = true := by
  simp only [accepts, accepting, List.any_eq_true, List.contains_iff_mem] at h ⊢
  obtain ⟨p, hp, hf⟩ := h
  obtain ⟨p', hp', hpp'⟩ := upSim_ctx U S hS c q r p hqr hp
  refine ⟨p', ?_, (hS p p' hpp').1 hf⟩
  rw [reach_plug]
  refine reachFrom_mono U c (fun x hx => ?_) p' hp'
  rw [List.mem_singleton.mp hx]; exact hr

/-- `X` is closed under the post-image of the rules of `A` up to the subsumption modulo `S`: for all choices of pairs of
`X` for the children, either the parent is simulated by a state of the post-image (`checkIntersection`: the pair is
skipped), or a pair `(p, P)` of `X` has `parent ≼ p` and every state of `P` is simulated by a state of the post-image
(`contains(ind[parent], post, lte)`) -/
def UpCertSim (A B : TA) (S : Nat → Nat → Prop) (X : List (Nat × List Nat)) : Prop :=
  ∀ ρ, ρ ∈ A.rules → ∀ Ss : List (List Nat), All2 (fun k P => (k, P) ∈ X) ρ.kids Ss →
    (∃ s, s ∈ post B ρ.sym Ss ∧ S ρ.parent s) ∨
    (∃ p P, (p, P) ∈ X ∧ S ρ.parent p ∧ ∀ s, s ∈ P → ∃ s', s' ∈ post B ρ.sym Ss ∧ S s s')

def KeysIn (A : TA) (X : List (Nat × List Nat)) : Prop := ∀ q P, (q, P) ∈ X → q ∈ A.states

theorem upCertSim_mono {A B : TA} {S S' : Nat → Nat → Prop} (h : ∀ a b, S a b → S' a b) {X : List (Nat × List Nat)}
    (hX : UpCertSim A B S X) : UpCertSim A B S' X := by
  intro ρ hρ Ss hSs
  rcases hX ρ hρ Ss hSs with ⟨s, hs, hS⟩ | ⟨p, P, hp, hS, hP⟩
  · exact Or.inl ⟨s, hs, h _ _ hS⟩
  · refine Or.inr ⟨p, P, hp, h _ _ hS, fun s hs => ?_⟩
    obtain ⟨s', hs', hS'⟩ := hP s hs
    exact ⟨s', hs', h _ _ hS'⟩

/-- the invariant: `Cover` of `Vata/UpCert.lean` weakened by `S` – every state of `A` that labels `t` is simulated by a
state of `B` that labels `t`, or simulated by the first component of a pair of `X` whose macro-state is simulated
(state by state) by the states of `B` that label `t` -/
def CoverS (A B : TA) (S : Nat → Nat → Prop) (X : List (Nat × List Nat)) (t : Tree) : Prop :=
  ∀ q, q ∈ reach A t → (∃ s, s ∈ reach B t ∧ S q s) ∨
    (∃ p P, (p, P) ∈ X ∧ S q p ∧ ∀ s, s ∈ P → ∃ s', s' ∈ reach B t ∧ S s s')

/-- for matched children: either one of them is simulated by a state of `B` (then the tuple with that state matches in
the union), or all of them are covered by pairs of `X` -/
theorem coverS_kids (A B : TA) (S : Nat → Nat → Prop) (X : List (Nat × List Nat)) (hkeys : KeysIn A X)
    (ts : List Tree) : (∀ t, t ∈ ts → CoverS A B S X t) → ∀ ks : List Nat, matchKids ks (reachL A ts) = true →
      (∃ i k s, ks[i]? = some k ∧ S k s ∧ s ∈ B.states ∧
        matchKids (setAt ks i s) (reachL (unionDisjoint A B) ts) = true) ∨
      (∃ (ps : List Nat) (Ps : List (List Nat)), All2 (fun k p => S k p ∧ p ∈ A.states) ks ps ∧
        All2 (fun p P => (p, P) ∈ X) ps Ps ∧
        All2 (fun P T => ∀ s, s ∈ P → ∃ s', s' ∈ T ∧ S s s' ∧ s' ∈ B.states) Ps (reachL B ts)) := by
  have hAU : ∀ r, r ∈ A.rules → r ∈ (unionDisjoint A B).rules := fun r hr => List.mem_append_left _ hr
  have hBU : ∀ r, r ∈ B.rules → r ∈ (unionDisjoint A B).rules := fun r hr => List.mem_append_right _ hr
  induction ts with
  | nil =>
    intro _ ks h
    cases ks with
    | nil => exact Or.inr ⟨[], [], All2.nil, All2.nil, All2.nil⟩
    | cons _ _ => cases h
  | cons t ts ih =>
    intro hc ks h
    cases ks with
    | nil => cases h
    | cons k ks =>
      rw [reachL, matchKids_cons] at h
      rcases hc t List.mem_cons_self k h.1 with ⟨s, hs, hS⟩ | ⟨p, P, hp, hS, hP⟩
      · refine Or.inl ⟨0, k, s, rfl, hS, reach_mem_states B t s hs, ?_⟩
        rw [setAt, reachL, matchKids_cons]
        exact ⟨reach_mono B _ hBU t s hs, matchKids_rel (All2.refl _) ((SimTo.of_sub hAU).reachL ts) h.2⟩
      · rcases ih (fun t' ht' => hc t' (List.mem_cons_of_mem _ ht')) ks h.2 with
          ⟨i, k', s, hi, hS', hsB, hm⟩ | ⟨ps, Ps, h₁, h₂, h₃⟩
        · refine Or.inl ⟨i + 1, k', s, hi, hS', hsB, ?_⟩
          rw [setAt, reachL, matchKids_cons]
          exact ⟨reach_mono A _ hAU t k h.1, hm⟩
        · refine Or.inr ⟨p :: ps, P :: Ps, All2.cons ⟨hS, hkeys p P hp⟩ h₁, All2.cons hp h₂, ?_⟩
          rw [reachL]
          exact All2.cons (fun s hs => (hP s hs).imp fun s' hs' => ⟨hs'.1, hs'.2, reach_mem_states B t s' hs'.1⟩) h₃

theorem up_cert_sim_sound (A B : TA) (S : Nat → Nat → Prop) (hS : IsUpSim (unionDisjoint A B) S)
    (hrefl : ∀ q, S q q) (htr : ∀ a b c, S a b → S b c → S a c) (hdis : ∀ q, q ∈ A.states → q ∉ B.states)
    (X : List (Nat × List Nat)) (hX : UpCertSim A B S X) (hkeys : KeysIn A X) : ∀ t : Tree, CoverS A B S X t := by
  refine tree_induction fun f ts ih q hq => ?_
  obtain ⟨ρ, hρ, hs, hm, hp⟩ := InclUp.mem_reach_node.mp hq
  have hCA := comp_left A B hdis
  have hCB := comp_right A B hdis
  rcases coverS_kids A B S X hkeys ts ih ρ.kids hm with ⟨i, k, s, hi, hks, hsB, hmU⟩ | ⟨ps, Ps, h₁, h₂, h₃⟩
  · -- a child is simulated by a state of `B`: the simulating rule is a rule of `B`
    obtain ⟨σ, hσ, e₁, e₂, e₃⟩ := (hS k s hks).2 ρ (hCA.sub ρ hρ) i hi
    have hσB : σ ∈ B.rules := hCB.kid σ hσ s (by rw [e₂]; exact mem_setAt _ _ _ _ hi) hsB
    have hU : σ.parent ∈ reach (unionDisjoint A B) (.node f ts) :=
      InclUp.mem_reach_node.mpr ⟨σ, hσ, e₁.trans hs, e₂ ▸ hmU, rfl⟩
    refine Or.inl ⟨σ.parent, ?_, hp ▸ e₃⟩
    exact (unionDisjoint_reach_right A B hdis _ _ (parent_mem_states hσB)).mp hU
  · -- all children are covered by pairs of `X`: replace them, then use the closure of `X`
    obtain ⟨σ, hσ, e₁, e₂, e₃⟩ := replace_kids hCA hS hrefl htr h₁ ρ [] hρ rfl
    simp only [List.nil_append] at e₂
    have hpost : ∀ s, s ∈ post B σ.sym Ps → ∃ s', s' ∈ reach B (.node f ts) ∧ S s s' := by
      intro s hs'
      rw [reach, ← hs, ← e₁]
      exact post_sim hCB hS hrefl htr σ.sym h₃ s hs'
    rcases hX σ hσ Ps (e₂ ▸ h₂) with ⟨s, hs', hS'⟩ | ⟨p, P, hpX, hS', hP⟩
    · obtain ⟨s', hs'', hS''⟩ := hpost s hs'
      exact Or.inl ⟨s', hs'', htr _ _ _ (hp ▸ e₃) (htr _ _ _ hS' hS'')⟩
    · refine Or.inr ⟨p, P, hpX, htr _ _ _ (hp ▸ e₃) hS', fun s hsP => ?_⟩
      obtain ⟨s'', hs'', hS''⟩ := hP s hsP
      obtain ⟨s', hs', hS₃⟩ := hpost s'' hs''
      exact ⟨s', hs', htr _ _ _ hS'' hS₃⟩

theorem up_cert_sim_soundL (A B : TA) (S : Nat → Nat → Prop) (hS : IsUpSim (unionDisjoint A B) S)
    (hrefl : ∀ q, S q q) (htr : ∀ a b c, S a b → S b c → S a c) (hdis : ∀ q, q ∈ A.states → q ∉ B.states)
    (X : List (Nat × List Nat)) (hX : UpCertSim A B S X) (hkeys : KeysIn A X) :
    ∀ ts : List Tree, ∀ t, t ∈ ts → CoverS A B S X t :=
  fun _ t _ => up_cert_sim_sound A B S hS hrefl htr hdis X hX hkeys t

/-- **the antichain principle modulo an upward simulation**: `S` a reflexive and transitive upward simulation (identity
on siblings, respecting finality) of the disjoint union of `A` and `B`; a set `X` of pairs with first components in `A`
that is closed under the post-image up to the subsumption modulo `S` and has no bad pair certifies `L(A) ⊆ L(B)` -/
theorem up_cert_sim_incl (A B : TA) (S : Nat → Nat → Prop) (hS : IsUpSim (unionDisjoint A B) S)
    (hrefl : ∀ q, S q q) (htr : ∀ a b c, S a b → S b c → S a c) (hdis : ∀ q, q ∈ A.states → q ∉ B.states)
    (X : List (Nat × List Nat)) (hX : UpCertSim A B S X) (hkeys : KeysIn A X) (hok : NoBad A B X) : Incl A B := by
  intro t h
  rw [accepts_iff_reach] at h ⊢
  obtain ⟨q, hq, hf⟩ := h
  -- a final state of the union that is a state of `B` is final in `B`
  have hfinB : ∀ s, s ∈ B.states → s ∈ (unionDisjoint A B).final → s ∈ B.final := fun s hsB hsf => by
    rcases List.mem_append.mp hsf with h | h
    · exact absurd hsB (hdis s (final_mem_states h))
    · exact h
  have hqU : q ∈ (unionDisjoint A B).final := List.mem_append_left _ hf
  rcases up_cert_sim_sound A B S hS hrefl htr hdis X hX hkeys t q hq with ⟨s, hs, hqs⟩ | ⟨p, P, hpX, hqp, hP⟩
  · exact ⟨s, hs, hfinB s (reach_mem_states B t s hs) ((hS q s hqs).1 hqU)⟩
  · have hpU := (hS q p hqp).1 hqU
    have hpA : p ∈ A.final := by
      rcases List.mem_append.mp hpU with h | h
      · exact h
      · exact absurd (final_mem_states h) (hdis p (hkeys p P hpX))
    obtain ⟨s, hsP, hsf⟩ := hok p P hpX hpA
    obtain ⟨s', hs', hss'⟩ := hP s hsP
    exact ⟨s', hs', hfinB s' (reach_mem_states B t s' hs') ((hS s s' hss').1 (List.mem_append_right _ hsf))⟩

def LeqP (R : Rel) (a b : Nat) : Prop := a = b ∨ (a, b) ∈ R

theorem up_cert_sim_incl_rel (A B : TA) (R : Rel) (hR : IsUpSim (unionDisjoint A B) (RelOf R))
    (hdis : ∀ q, q ∈ A.states → q ∉ B.states) (X : List (Nat × List Nat))
    (hX : UpCertSim A B (LeqP R) X) (hkeys : KeysIn A X) (hok : NoBad A B X) : Incl A B := by
  refine up_cert_sim_incl A B (Star (RelOf R)) (upSim_star _ hR) Star.refl (fun _ _ _ => Star.trans) hdis X
    (upCertSim_mono ?_ hX) hkeys hok
  rintro a b (rfl | h)
  · exact Star.refl a
  · exact Star.single h

theorem leq_iff {R : Rel} {a b : Nat} : leq R a b = true ↔ LeqP R a b := by
  simp only [leq, LeqP, Bool.or_eq_true, beq_iff_eq, List.contains_iff_mem]

end InclUpSim

theorem upCertSimB_iff (A B : TA) (R : Rel) (X : List (Nat × List Nat)) :
    upCertSimB A B R X = true ↔ UpCertSim A B (LeqP R) X ∧ KeysIn A X ∧ NoBad A B X := by
  simp only [upCertSimB, Bool.and_eq_true, List.all_eq_true, forall_and, noBad_iff]
  simp only [List.any_eq_true, Bool.or_eq_true, Bool.and_eq_true, List.all_eq_true, leq_iff, List.contains_iff_mem,
    UpCertSim, KeysIn, mem_choices, Prod.exists, Prod.forall]

theorem upCertSimB_sound {A B : TA} {R : Rel} {X : List (Nat × List Nat)} (h : upCertSimB A B R X = true) :
    UpCertSim A B (LeqP R) X ∧ KeysIn A X ∧ NoBad A B X := (upCertSimB_iff A B R X).mp h

theorem upCertSimB_incl {A B : TA} {R : Rel} {X : List (Nat × List Nat)}
    (hsim : isUpSimB (unionDisjoint A B) R = true) (hdis : InclDown.disjointB A B = true)
    (h : upCertSimB A B R X = true) : Incl A B :=
  up_cert_sim_incl_rel A B R ((isUpSimB_iff _ R).mp hsim) (InclDown.disjointB_iff.mp hdis) X
    (upCertSimB_sound h).1 (upCertSimB_sound h).2.1 (upCertSimB_sound h).2.2

theorem inclUpSim_eq (A B : TA) (R : Rel) (fuel : Nat) : inclUpSim A B R fuel = certify A B
    (fun X => isUpSimB (unionDisjoint A B) R && InclDown.disjointB A B && upCertSimB A B R X) (complete A)
    (InclUpSim.run R A B fuel) := by
  unfold inclUpSim
  cases InclUpSim.run R A B fuel with
  | none => rfl
  | some r => cases r <;> rfl

/-- the three checks behind a `true` of `inclUpSim` -/
theorem inclUpSim_checks_incl {A B : TA} {R : Rel} {X : List (Nat × List Nat)}
    (h : (isUpSimB (unionDisjoint A B) R && InclDown.disjointB A B && upCertSimB A B R X) = true) : Incl A B := by
  rw [Bool.and_eq_true, Bool.and_eq_true] at h
  exact upCertSimB_incl h.1.1 h.1.2 h.2

/-- every verdict of the upward algorithm pruned by ANY relation `R` is exact (the model validates `R`) -/
theorem inclUpSim_iff {A B : TA} {R : Rel} {fuel : Nat} {b : Bool} {c : Cert}
    (h : inclUpSim A B R fuel = some (b, c)) : b = true ↔ Incl A B :=
  InclDown.finish_iff (fun _ => inclUpSim_checks_incl) (inclUpSim_eq A B R fuel ▸ h)

theorem inclUpSim_true {A B : TA} {R : Rel} {fuel : Nat} {c : Cert} (h : inclUpSim A B R fuel = some (true, c)) :
    Incl A B :=
  (inclUpSim_iff h).mp rfl

theorem inclUpSim_false {A B : TA} {R : Rel} {fuel : Nat} {c : Cert} (h : inclUpSim A B R fuel = some (false, c)) :
    ¬ Incl A B :=
  fun hi => nomatch (inclUpSim_iff h).mpr hi

theorem inclUpSim_cert {A B : TA} {R : Rel} {fuel : Nat} {b : Bool} {c : Cert}
    (h : inclUpSim A B R fuel = some (b, c)) :
    match c with
    | .closed X => b = true ∧ IsUpSim (unionDisjoint A B) (RelOf R) ∧ (∀ q, q ∈ A.states → q ∉ B.states) ∧
        UpCertSim A B (LeqP R) X ∧ KeysIn A X ∧ NoBad A B X
    | .witness w => b = false ∧ accepts A w = true ∧ accepts B w = false := by
  have := InclDown.finish_cert (inclUpSim_eq A B R fuel ▸ h)
  cases c with
  | closed X =>
    obtain ⟨hb, hX⟩ := this
    rw [Bool.and_eq_true, Bool.and_eq_true] at hX
    exact ⟨hb, (isUpSimB_iff _ R).mp hX.1.1, InclDown.disjointB_iff.mp hX.1.2, upCertSimB_sound hX.2⟩
  | witness w => exact this

/-- the model of the command-line `CheckInclusion` with `ANTICHAINS_UP_SIM` (sanitise, upward simulation of the disjoint
union, pruned exploration): every verdict is exact for the ORIGINAL operands -/
theorem checkInclUpSim_iff {A B : TA} {fuel : Nat} {b : Bool} {c : Cert}
    (h : checkInclUpSim A B fuel = some (b, c)) : b = true ↔ Incl A B :=
  (inclUpSim_iff h).trans (checkIncl_sanitized A B)

/-- on the sanitised operands the validation of the computed relation always passes: a `none` of `checkInclUpSim` is
"fuel exhausted", "the final antichain fails the check" or "the witness fails the check", never "bad relation" -/
theorem checkInclUpSim_validation (A B : TA) :
    isUpSimB (unionDisjoint (sanitize A B).1 (sanitize A B).2.1)
      (upSimRef (unionDisjoint (sanitize A B).1 (sanitize A B).2.1)) = true ∧
    InclDown.disjointB (sanitize A B).1 (sanitize A B).2.1 = true :=
  ⟨upSimRef_check _, InclDown.disjointB_iff.mpr (sanitize_disjoint A B)⟩

/-- bottom-up BDD encoding, upward with a "simulation": the relation is ignored by the code, every verdict is exact -/
theorem inclUpBddSim_iff {A B : TA} {R : Rel} {fuel : Nat} {b : Bool} {c : Cert}
    (h : inclUpBddSim A B R fuel = some (b, c)) : b = true ↔ Incl A B := inclUpBdd_iff h

theorem checkInclUpBddSim_iff {A B : TA} {fuel : Nat} {b : Bool} {c : Cert}
    (h : checkInclUpBddSim A B fuel = some (b, c)) : b = true ↔ Incl A B :=
  (inclUpBdd_iff h).trans (checkIncl_sanitized A B)

namespace InclUpSimEx
open InclDownEx (verdict isClosed isWitness selfTest)

/-- `a → 1`, `a → 2`, `g(1) → 3`, `g(2) → 3`, `h(2) → 3`, final `3`: `{g(a), h(a)}`; `2` simulates `1` upward -/
def exP : TA := ⟨[⟨0, [], 1⟩, ⟨0, [], 2⟩, ⟨2, [1], 3⟩, ⟨2, [2], 3⟩, ⟨3, [2], 3⟩], [3]⟩
/-- the same language with the states `10`, `12`, `11`; `12` simulates `10` upward -/
def exQ : TA := ⟨[⟨0, [], 10⟩, ⟨0, [], 12⟩, ⟨2, [10], 11⟩, ⟨2, [12], 11⟩, ⟨3, [12], 11⟩], [11]⟩
/-- the part of the upward simulation of the union that stays inside the operands -/
def exR : Rel := [(1, 1), (2, 2), (3, 3), (10, 10), (11, 11), (12, 12), (1, 2), (10, 12)]
/-- binary symbol: `a → 1`, `a → 2`, `b → 2`, `g(x, y) → 3` for all `x, y ∈ {1, 2}` -/
def exP2 : TA := ⟨[⟨0, [], 1⟩, ⟨0, [], 2⟩, ⟨1, [], 2⟩, ⟨2, [1, 1], 3⟩, ⟨2, [2, 1], 3⟩, ⟨2, [1, 2], 3⟩, ⟨2, [2, 2], 3⟩], [3]⟩
def exQ2 : TA := ⟨[⟨0, [], 10⟩, ⟨0, [], 12⟩, ⟨1, [], 12⟩, ⟨2, [10, 10], 11⟩, ⟨2, [12, 10], 11⟩, ⟨2, [10, 12], 11⟩,
  ⟨2, [12, 12], 11⟩], [11]⟩
/-- `{a}` with the state `11` -/
def exA' : TA := ⟨[⟨0, [], 11⟩], [11]⟩

-- the greatest upward simulation of the union also relates states of `exP` to states of `exQ`
#guard upSimRef (unionDisjoint exP exQ) ==
  [(1, 1), (1, 2), (1, 10), (1, 12), (2, 2), (2, 12), (3, 3), (3, 11), (10, 1), (10, 2), (10, 10), (10, 12), (12, 2),
    (12, 12), (11, 3), (11, 11)]
-- without a relation (`R = []` is not even reflexive): pairs are recorded repeatedly, the verdict is still certified
#guard isClosed (inclUpSim exP exQ [] 20) [(1, [10, 12]), (2, [10, 12]), (3, [11]), (3, [11]), (3, [11])]
-- the plain algorithm records three pairs
#guard isClosed (inclUp exP exQ 20) [(1, [10, 12]), (2, [10, 12]), (3, [11])]
-- with `exR`: the macro-state `{10, 12}` is minimised to `{12}`, the pair `(1, {12})` is subsumed by `(2, {12})`
#guard isClosed (inclUpSim exP exQ exR 20) [(2, [12]), (3, [11])]
-- with the greatest simulation every pair is skipped by `checkIntersection` (`1 ≼ 12`, `2 ≼ 12`, `3 ≼ 11`)
#guard isClosed (inclUpSim exP exQ (upSimRef (unionDisjoint exP exQ)) 20) []
-- a binary symbol forbids simulation across the operands below the root; `1 ≈ 2`, `10 ≈ 12`
#guard isClosed (inclUpSim exP2 exQ2 (upSimRef (unionDisjoint exP2 exQ2)) 20) [(1, [10])]
#guard isClosed (inclUp exP2 exQ2 20) [(1, [10, 12]), (2, [12]), (3, [11])]
#guard isClosed (inclUpSim InclUpEx.exH InclUpEx.exG (upSimRef (unionDisjoint InclUpEx.exH InclUpEx.exG)) 20)
  [(3, [1]), (4, [1])]
#guard isWitness (inclUpSim InclUpEx.exG InclUpEx.exH (upSimRef (unionDisjoint InclUpEx.exG InclUpEx.exH)) 20) "2(0,1)"
#guard isWitness (inclUpSim InclUpEx.exDeep exA' (upSimRef (unionDisjoint InclUpEx.exDeep exA')) 20) "3(2(0))"
-- operands that share the state `1` (`exDeep`, `exA`): the exploration skips the pair `(1, {1})` because "`1` simulates
-- `1`" and ends with `return true` although the inclusion is false; the model refuses (the operands are not disjoint)
#guard (match InclUpSim.run (upSimRef (unionDisjoint InclUpEx.exDeep InclUpEx.exA)) InclUpEx.exDeep InclUpEx.exA 20 with
  | some (.ok P) => P.isEmpty | _ => false)
#guard verdict (inclUpSim InclUpEx.exDeep InclUpEx.exA (upSimRef (unionDisjoint InclUpEx.exDeep InclUpEx.exA)) 20) == none
#guard inclM InclUpEx.exDeep InclUpEx.exA 10 == some false
-- a relation that is not an upward simulation changes the exploration; the `true` is refused.  Overlapping operands
-- are refused.  Fuel.
#guard verdict (inclUpSim exP exQ [(1, 11)] 20) == none
#guard verdict (inclUpSim InclUpEx.exA InclUpEx.exA [] 20) == none
#guard verdict (inclUpSim exP exQ exR 1) == none
-- the command-line model: overlapping, untrimmed operands are sanitised first
#guard isClosed (checkInclUpSim SanEx.exA SanEx.exB 20) [(1, [2])]
#guard isWitness (checkInclUpSim SanEx.exB SanEx.exA 20) "3"

example : IsUpSim (unionDisjoint exP exQ) (RelOf exR) := (isUpSimB_iff _ _).mp (by decide +kernel)
example : IsUpSim (unionDisjoint exP exQ) (Star (RelOf exR)) := upSim_star _ ((isUpSimB_iff _ _).mp (by decide +kernel))
example : Comp (unionDisjoint exP exQ) exQ := comp_right _ _ (InclDown.disjointB_iff.mp (by decide +kernel))
-- the context `g(□)`: from `1` it reaches the final state `3`; `12` simulates `1`; hence `g(a)` is accepted via `12`
example : accepts (unionDisjoint exP exQ) (Ctx.plug (.node 2 [] .hole []) (.node 0 [])) = true :=
  upSim_ctx_accepts _ (RelOf (upSimRef (unionDisjoint exP exQ))) (upSimRef_sim _) (.node 2 [] .hole [])
    (q := 1) (r := 12) (by decide +kernel) (by decide +kernel) (by decide +kernel)
example : ∃ p', p' ∈ (Ctx.node 3 [] .hole []).reachFrom (unionDisjoint exP exQ) [12] ∧
    RelOf (upSimRef (unionDisjoint exP exQ)) 3 p' :=
  upSim_ctx _ _ (upSimRef_sim _) (.node 3 [] .hole []) 2 12 3 (by decide +kernel) (by decide +kernel)
example : upCertSimB exP exQ exR [(2, [12]), (3, [11])] = true := by decide +kernel
example : UpCertSim exP exQ (LeqP exR) [(2, [12]), (3, [11])] ∧ KeysIn exP [(2, [12]), (3, [11])] ∧
    NoBad exP exQ [(2, [12]), (3, [11])] := upCertSimB_sound (by decide +kernel)
example : Incl exP exQ :=
  have h := upCertSimB_sound (A := exP) (B := exQ) (R := exR) (X := [(2, [12]), (3, [11])]) (by decide +kernel)
  up_cert_sim_incl_rel exP exQ exR ((isUpSimB_iff _ _).mp (by decide +kernel))
    (InclDown.disjointB_iff.mp (by decide +kernel)) _ h.1 h.2.1 h.2.2
example : Incl exP exQ :=
  upCertSimB_incl (R := exR) (X := [(2, [12]), (3, [11])]) (by decide +kernel) (by decide +kernel) (by decide +kernel)
-- modulo the identity the same set is NOT a certificate (the pair for `1` is missing), nor is a set with a bad pair
example : upCertSimB exP exQ [] [(2, [12]), (3, [11])] = false := by decide +kernel
example : upCertSimB exP exQ exR [(2, [12]), (3, [])] = false := by decide +kernel
example : upCertSimB exP exQ exR [(2, [12]), (3, [11]), (11, [11])] = false := by decide +kernel
example : Incl exP exQ :=
  (Verdict.exists_cert (o := inclUpSim exP exQ exR 20) (by decide +kernel)).elim fun _ => inclUpSim_true
example : ¬ Incl InclUpEx.exG InclUpEx.exH :=
  (Verdict.exists_cert (o := inclUpSim InclUpEx.exG InclUpEx.exH [] 20) (by decide +kernel)).elim fun _ => inclUpSim_false
example : (true = true ↔ Incl exP2 exQ2) :=
  (Verdict.exists_cert (o := inclUpSim exP2 exQ2 [(1, 1), (1, 2), (2, 1), (2, 2), (3, 3), (3, 11), (10, 10), (10, 12),
    (12, 10), (12, 12), (11, 3), (11, 11)] 20) (by decide +kernel)).elim fun _ => inclUpSim_iff
example : (true = true ↔ Incl SanEx.exA SanEx.exB) :=
  (Verdict.exists_cert (o := checkInclUpSim SanEx.exA SanEx.exB 20) (by decide +kernel)).elim fun _ => checkInclUpSim_iff
example : inclUpBddSim exP exQ [(1, 11)] 20 = inclUpBddSim exP exQ exR 20 := rfl
#guard isClosed (inclUpBddSim exP exQ [(1, 11)] 20) [(1, [10, 12]), (2, [10, 12]), (3, [11])]
example : (true = true ↔ Incl exP exQ) :=
  (Verdict.exists_cert (o := inclUpBddSim exP exQ [(1, 11)] 20) (by decide +kernel)).elim fun _ => inclUpBddSim_iff
#guard verdict (checkInclUpBddSim SanEx.exA SanEx.exB 20) == some true
#guard verdict (checkInclUpBddSim SanEx.exB SanEx.exA 20) == some false

/-! #### self-test against the exact decider `inclM` on pseudo-random pairs
`(agreeing verdicts, disagreeing verdicts, none, of the agreeing: true)`: 320 pairs, no `none`, no disagreement -/

#guard selfTest (checkInclUpSim · · 200) 3 5 7 60 42 (0, 0, 0, 0) == (60, 0, 0, 21)
#guard selfTest (checkInclUpSim · · 200) 4 8 10 60 7 (0, 0, 0, 0) == (60, 0, 0, 17)
#guard selfTest (checkInclUpSim · · 200) 4 10 10 100 11 (0, 0, 0, 0) == (100, 0, 0, 13)
#guard selfTest (checkInclUpSim · · 200) 5 12 14 100 5 (0, 0, 0, 0) == (100, 0, 0, 17)

/-- the exploration on the raw operands (disjoint by construction, not trimmed) with the simulation of their union -/
def rawSim (A B : TA) : Option (Bool × Cert) := inclUpSim A B (upSimRef (unionDisjoint A B)) 200

-- raw operands (useless states, against the precondition of the code): `none` where the code's `false` is not backed by
-- a tree (9 resp. 8 of 60); the verdicts returned agree
#guard selfTest rawSim 3 5 7 60 42 (0, 0, 0, 0) == (51, 0, 9, 13)
#guard selfTest rawSim 4 8 10 60 7 (0, 0, 0, 0) == (52, 0, 8, 11)

end InclUpSimEx

end Vata
