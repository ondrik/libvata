import Vata.Proofs.CliPipelineDict
import Vata.Proofs.LoadDump
import Vata.Proofs.UnionModel
import Vata.Proofs.IsectModel
import Vata.Proofs.PropAux
/-!
# The printed result of `vata union` / `vata isect` denotes the union / the intersection

About `Vata/CliPipeline.lean`, sections 2 and 3.

`Union` reports pairwise different numbers for the states of the two operands, so `CreateUnionStringToStateMap` stays inside
its contract (`Glue.unionDict_inv`) and the result is `Dumpable`; `CreateProductStringToStateMap` (repaired) is defined on the
outcome of `Intersection` and makes the product `Dumpable` for ANY operand names.  Hence the description handed to the
serializer, loaded again, accepts `L(A) ∪ L(B)` / `L(A) ∩ L(B)`.
-/
namespace Vata.CliPipe
open Vata.Glue Vata.LoadDump Vata.Dict

/-- the dump's reverse look-up in the dictionary the helper built -/
theorem bwd?_ofGlue (d : Glue.StateDict) (v : Nat) : (ofGlue d).bwd? v = (d.bwd.lookup v).map String.ofList := by
  rw [loadDump_bwd?_eq, ← lookup_map_vals]
  unfold ofGlue
  rw [List.map_map]
  rfl

/-- `FindBwd` in the dictionary a load left -/
theorem toGlue_bwd_lookup (sd : Vata.StateDict) (v : Nat) : (toGlue sd).bwd.lookup v = (sd.bwd? v).map String.toList := by
  rw [loadDump_bwd?_eq, ← lookup_map_vals, List.map_map]
  rfl

theorem nameOf_ofGlue {d : Glue.StateDict} {q : Nat} {n : Name} (h : d.bwd.lookup q = some n) :
    nameOf (ofGlue d) q = String.ofList n := by
  unfold nameOf; rw [bwd?_ofGlue, h]; rfl

/-- a dictionary of the glue code whose reverse map is injective gives a name to every state it has an entry for, and different
names to different states -/
theorem ofGlue_names {d : Glue.StateDict}
    (hinj : ∀ {q q' : Nat} {n : Name}, d.bwd.lookup q = some n → d.bwd.lookup q' = some n → q = q') {S : List Nat}
    (hname : ∀ q, q ∈ S → ∃ n, d.bwd.lookup q = some n) :
    (∀ q, q ∈ S → ∃ n, (ofGlue d).bwd? q = some n) ∧
      ∀ q q', q ∈ S → q' ∈ S → (ofGlue d).bwd? q = (ofGlue d).bwd? q' → q = q' := by
  have hb : ∀ q, q ∈ S → ∃ n, d.bwd.lookup q = some n ∧ (ofGlue d).bwd? q = some (String.ofList n) := fun q hq =>
    (hname q hq).imp fun n hn => ⟨hn, by rw [bwd?_ofGlue, hn]; rfl⟩
  refine ⟨fun q hq => ?_, fun q q' hq hq' e => ?_⟩
  · obtain ⟨n, _, h⟩ := hb q hq
    exact ⟨_, h⟩
  · obtain ⟨n, hn, h⟩ := hb q hq
    obtain ⟨n', hn', h'⟩ := hb q' hq'
    rw [h, h'] at e
    cases String.ofList_injective (Option.some.inj e)
    exact hinj hn hn'

theorem toGlue_fwd_isMap {sd : Vata.StateDict} (h : sd.Ok) : IsMap (toGlue sd).fwd := by
  have e : (toGlue sd).fwd.map Prod.fst = sd.keys.map String.toList := by
    simp [toGlue, Dict.keys, List.map_map, Function.comp_def]
  unfold IsMap
  rw [e]
  exact nodup_map_of_inj (fun _ _ => String.toList_injective) h.keys_nodup

theorem toGlue_fwd_vals (sd : Vata.StateDict) : (toGlue sd).fwd.map Prod.snd = sd.vals := by
  simp [toGlue, Dict.vals, List.map_map, Function.comp_def]

theorem mem_toGlue_fwd {sd : Vata.StateDict} {n : String} {v : Nat} (h : (n, v) ∈ sd) : (n.toList, v) ∈ (toGlue sd).fwd :=
  List.mem_map.mpr ⟨(n, v), h, rfl⟩

theorem sideEntry_some {suffix : Name → Name} {t : List (Nat × Nat)} {e b : Name × Nat}
    (h : sideEntry suffix (some t) e = some b) : t.lookup e.2 = some b.2 ∧ b.1 = suffix e.1 := by
  simp only [sideEntry, Option.map_eq_some_iff] at h
  obtain ⟨s', hs, rfl⟩ := h
  exact ⟨hs, rfl⟩

theorem sideEntries_vals_nodup {suffix : Name → Name} {sd : Vata.StateDict} (h : sd.Ok) {m : SMap} (hm : Um.Inj m) :
    ((sideEntries suffix (some m) (toGlue sd).fwd).map Prod.snd).Nodup := by
  have hv : ((toGlue sd).fwd.map Prod.snd).Nodup := by rw [toGlue_fwd_vals]; exact h.vals_nodup
  unfold sideEntries
  rw [List.nodup_iff_pairwise_ne, List.pairwise_map, List.pairwise_filterMap]
  refine (List.pairwise_map.mp hv).imp ?_
  -- entries with the same number come from states with the same number, since `m` is injective
  intro a a' hne b hb b' hb' e
  obtain ⟨h1, _⟩ := sideEntry_some hb
  obtain ⟨h2, _⟩ := sideEntry_some hb'
  rw [e] at h1
  exact hne (hm a.2 a'.2 b'.2 h1 h2)

/-- the contract of `CreateUnionStringToStateMap` holds for the maps a `Union` reports: the numbers are pairwise different -/
theorem unionEntries_vals_nodup {sd₁ sd₂ : Vata.StateDict} (h₁ : sd₁.Ok) (h₂ : sd₂.Ok) {mL mR : SMap} (hL : Um.Inj mL)
    (hR : Um.Inj mR) (hD : Um.Disj mL mR) :
    ((unionEntries (toGlue sd₁) (toGlue sd₂) (some mL) (some mR)).map Prod.snd).Nodup := by
  unfold unionEntries
  rw [List.map_append, List.nodup_append]
  refine ⟨sideEntries_vals_nodup h₁ hL, sideEntries_vals_nodup h₂ hR, ?_⟩
  intro x hx y hy e
  subst e
  obtain ⟨a, ha, rfl⟩ := List.mem_map.mp hx
  obtain ⟨b, hb, e⟩ := List.mem_map.mp hy
  obtain ⟨_, s, _, _, h1⟩ := mem_sideEntries.mp ha
  obtain ⟨_, s', _, _, h2⟩ := mem_sideEntries.mp hb
  simp only at h1 h2
  rw [e] at h2
  exact hD s s' a.2 h1 h2

theorem unionDict_bwd {sd₁ sd₂ : Vata.StateDict} (h₁ : sd₁.Ok) (h₂ : sd₂.Ok) {mL mR : SMap} (hL : Um.Inj mL)
    (hR : Um.Inj mR) (hD : Um.Disj mL mR) :
    (unionDict (toGlue sd₁) (toGlue sd₂) (some mL) (some mR)).Inv ∧
    (∀ p n q, sd₁.bwd? p = some n → mL.lookup p = some q →
      (unionDict (toGlue sd₁) (toGlue sd₂) (some mL) (some mR)).bwd.lookup q = some (name1 n.toList)) ∧
    (∀ p n q, sd₂.bwd? p = some n → mR.lookup p = some q →
      (unionDict (toGlue sd₁) (toGlue sd₂) (some mL) (some mR)).bwd.lookup q = some (name2 n.toList)) := by
  obtain ⟨hinv, hb⟩ := unionDict_inv (toGlue_fwd_isMap h₁) (toGlue_fwd_isMap h₂) (some mL) (some mR)
    (unionEntries_vals_nodup h₁ h₂ hL hR hD)
  refine ⟨hinv, ?_, ?_⟩
  · intro p n q hn hq
    apply lookup_of_mem hinv.bwdMap
    rw [hb]
    refine List.mem_map.mpr ⟨(name1 n.toList, q), ?_, rfl⟩
    unfold unionEntries
    exact List.mem_append_left _ (mem_sideEntries.mpr ⟨n.toList, p, mem_toGlue_fwd (bwd?_some_mem hn), rfl, hq⟩)
  · intro p n q hn hq
    apply lookup_of_mem hinv.bwdMap
    rw [hb]
    refine List.mem_map.mpr ⟨(name2 n.toList, q), ?_, rfl⟩
    unfold unionEntries
    exact List.mem_append_right _ (mem_sideEntries.mpr ⟨n.toList, p, mem_toGlue_fwd (bwd?_some_mem hn), rfl, hq⟩)

/-- every name in the dump of the union: a name of an operand state with `_1` resp. `_2` appended -/
def UnionName (sd₁ sd₂ : Vata.StateDict) (n : String) : Prop :=
  (∃ k, k ∈ sd₁.keys ∧ n = String.ofList (name1 k.toList)) ∨ (∃ k, k ∈ sd₂.keys ∧ n = String.ofList (name2 k.toList))

/-- the union under two translation maps (injective, with disjoint ranges, defined on the states), with the dictionary
`CreateUnionStringToStateMap` builds from them, can be dumped, every state under its own name -/
theorem unionWith_dumpable {A B : TA} {sd₁ sd₂ : Vata.StateDict} {yd₁ yd₂ : SymDict} (hA : Dumpable A sd₁ yd₁)
    (hB : Dumpable B sd₂ yd₂) (h₁ : sd₁.Ok) (h₂ : sd₂.Ok) (hy₁ : yd₁.Ok) (hy₂ : yd₂.Ok) (hs : Sub yd₁ yd₂) {mL mR : SMap}
    (iL : Um.Inj mL) (iR : Um.Inj mR) (iD : Um.Disj mL mR) (tL : ∀ q, q ∈ A.states → ∃ n, mL.lookup q = some n)
    (tR : ∀ q, q ∈ B.states → ∃ n, mR.lookup q = some n) :
    Dumpable (unionWith (applyMap mL) (applyMap mR) A B)
      (ofGlue (unionDict (toGlue sd₁) (toGlue sd₂) (some mL) (some mR))) yd₂ ∧
    ∀ q, q ∈ (unionWith (applyMap mL) (applyMap mR) A B).states →
      UnionName sd₁ sd₂ (nameOf (ofGlue (unionDict (toGlue sd₁) (toGlue sd₂) (some mL) (some mR))) q) := by
  obtain ⟨hinv, nL, nR⟩ := unionDict_bwd h₁ h₂ iL iR iD
  have hname : ∀ q, q ∈ (unionWith (applyMap mL) (applyMap mR) A B).states → ∃ n,
      (unionDict (toGlue sd₁) (toGlue sd₂) (some mL) (some mR)).bwd.lookup q = some n ∧
        UnionName sd₁ sd₂ (String.ofList n) := by
    intro q hq
    rw [PropAux.mem_states_unionWith] at hq
    rcases hq with ⟨p, hp, rfl⟩ | ⟨p, hp, rfl⟩
    · obtain ⟨n, hn⟩ := hA.named p hp
      obtain ⟨q, hq⟩ := tL p hp
      rw [Um.applyMap_of_lookup hq]
      exact ⟨_, nL p n q hn hq, Or.inl ⟨n, mem_keys_of_bwd hn, rfl⟩⟩
    · obtain ⟨n, hn⟩ := hB.named p hp
      obtain ⟨q, hq⟩ := tR p hp
      rw [Um.applyMap_of_lookup hq]
      exact ⟨_, nR p n q hn hq, Or.inr ⟨n, mem_keys_of_bwd hn, rfl⟩⟩
  obtain ⟨hnamed, hinj⟩ := ofGlue_names (fun h h' => TwoWayDict.translateBwd_injective hinv h h')
    (fun q hq => (hname q hq).imp fun _ h => h.1)
  refine ⟨⟨hnamed, hinj, ?_⟩, ?_⟩
  · intro r hr
    simp only [unionWith, reindex, List.mem_append, List.mem_map] at hr
    rcases hr with ⟨r0, hr0, rfl⟩ | ⟨r0, hr0, rfl⟩
    · obtain ⟨nm, h⟩ := hA.ranked r0 hr0
      exact ⟨nm, by simpa [mapRule] using hy₂.bwd_sub hy₁ hs h⟩
    · obtain ⟨nm, h⟩ := hB.ranked r0 hr0
      exact ⟨nm, by simpa [mapRule] using h⟩
  · intro q hq
    obtain ⟨n, hn, hu⟩ := hname q hq
    rw [nameOf_ofGlue hn]; exact hu

theorem isectProc_dom {n : Nat} : ∀ (L : List (Rule × Rule)) (m : PMap) (st : List (Nat × Nat)) (rs : List Rule)
    (p : Nat × Nat), Isx.MapOk m → p ∈ (isectProc n L m st rs).1.dom →
      p ∈ m.dom ∨ ∃ rr, rr ∈ L ∧ p ∈ rr.1.kids.zip rr.2.kids
  | [], m, st, rs, p, _, h => Or.inl (by simpa only [isectProc] using h)
  | rr :: rest, m, st, rs, p, hok, h => by
    obtain ⟨a1, a2, _⟩ := Isx.addPairs_spec (rr.1.kids.zip rr.2.kids) m st hok
    simp only [isectProc] at h
    rcases isectProc_dom rest _ _ _ p a1.ok h with h | ⟨rr', h1, h2⟩
    · exact ((a2 p).mp h).imp_right fun h => ⟨rr, List.mem_cons_self, h⟩
    · exact Or.inr ⟨rr', List.mem_cons_of_mem _ h1, h2⟩

theorem isectLoop_dom {A B : TA} {FP : List (Nat × Nat)} {m0 : PMap} {n : Nat} {m : PMap} {st : List (Nat × Nat)}
    {rs : List Rule} {m' : PMap} {rs' : List Rule} (hi : Ixf.FInv A B FP m0 m st rs [])
    (h : isectLoop A B n m st rs = some (m', rs')) (hm : ∀ p, p ∈ m.dom → p ∈ allPairs2 A.states B.states) :
    ∀ p, p ∈ m'.dom → p ∈ allPairs2 A.states B.states := by
  obtain ⟨_, _, _, hd⟩ := Isx.isectLoop_induct
    (fun m st rs done => Ixf.FInv A B FP m0 m st rs done ∧ ∀ p, p ∈ m.dom → p ∈ allPairs2 A.states B.states)
    (fun m pr st rs done hI => ⟨⟨hI.1.pop.1, fun p hp => (isectProc_dom _ m st rs p hI.1.ok hp).elim (hI.2 p)
      fun ⟨rr, h1, h2⟩ => Isx.matching_zip_states rr h1 p h2⟩, hI.1.pop.2⟩) n m st rs [] m' rs' ⟨hi, hm⟩ h
  exact hd

/-- the pairs `Intersection` puts into its `ProductTranslMap` are pairs of a state of `A` and a state of `B` -/
theorem isectTD_dom_states {A B : TA} {fuel : Nat} {P : TA} {m : PMap} (h : isectTD A B fuel = some (P, m)) :
    ∀ p, p ∈ m.dom → p.1 ∈ A.states ∧ p.2 ∈ B.states := by
  intro p hp
  apply Isx.mem_allPairs2.mp
  rw [Isx.isectTD_eq_loop, Option.map_eq_some_iff] at h
  obtain ⟨res, hl, he⟩ := h
  cases he
  refine isectLoop_dom (Isx.init_nil A B) hl ?_ p hp
  intro x hx
  rcases ((Isx.addPairs_spec (finalPairs A B) [] [] Isx.mapOk_nil).2.1 x).mp hx with hx | hx
  · exact nomatch hx
  · exact Isx.final_mem_allPairs2 (Isx.mem_finalPairs.mp hx).1 (Isx.mem_finalPairs.mp hx).2

/-- the helper is defined: every component of every pair of the product map has a name -/
theorem isect_dict_some {A B : TA} {sd₁ sd₂ : Vata.StateDict} {yd₁ yd₂ : SymDict} (hA : Dumpable A sd₁ yd₁)
    (hB : Dumpable B sd₂ yd₂) {fuel : Nat} {P : TA} {pm : PMap} (h : isectTD A B fuel = some (P, pm)) :
    ∃ dict, productDictFixed (toGlue sd₁) (toGlue sd₂) pm = some dict := by
  have : (productDictFixed (toGlue sd₁) (toGlue sd₂) pm).isSome = true := by
    rw [productDictFixed_isSome_iff]
    intro e he
    obtain ⟨s1, s2⟩ := isectTD_dom_states h e.1 (List.mem_map.mpr ⟨e, he, rfl⟩)
    obtain ⟨n1, hn1⟩ := hA.named _ s1
    obtain ⟨n2, hn2⟩ := hB.named _ s2
    exact ⟨⟨_, by rw [toGlue_bwd_lookup, hn1]; rfl⟩, ⟨_, by rw [toGlue_bwd_lookup, hn2]; rfl⟩⟩
  cases hd : productDictFixed (toGlue sd₁) (toGlue sd₂) pm with
  | none => rw [hd] at this; cases this
  | some d => exact ⟨d, rfl⟩

/-- every name in the dump of the intersection: `[l_1|r_2]` of two operand names, followed by primes -/
def ProdNameOf (sd₁ sd₂ : Vata.StateDict) (n : String) : Prop :=
  ∃ k₁, k₁ ∈ sd₁.keys ∧ ∃ k₂, k₂ ∈ sd₂.keys ∧ ∃ i, n = String.ofList (prodName k₁.toList k₂.toList ++ List.replicate i '\'')

/-- the product with the dictionary the repaired helper builds can be dumped, every state under its own name – whatever the
names of the operands' states are -/
theorem isect_dumpable {A B : TA} {sd₁ sd₂ : Vata.StateDict} {yd₁ yd₂ : SymDict} (hA : Dumpable A sd₁ yd₁)
    (hy₁ : yd₁.Ok) (hy₂ : yd₂.Ok) (hs : Sub yd₁ yd₂) {fuel : Nat} {P : TA} {pm : PMap}
    (h : isectTD A B fuel = some (P, pm)) {dict : Glue.StateDict}
    (hd : productDictFixed (toGlue sd₁) (toGlue sd₂) pm = some dict) :
    Dumpable P (ofGlue dict) yd₂ ∧ ∀ q, q ∈ P.states → ProdNameOf sd₁ sd₂ (nameOf (ofGlue dict) q) := by
  obtain ⟨hinv, _, hfrom⟩ := productDictFixed_spec hd
  have hname : ∀ q, q ∈ P.states → ∃ n, dict.bwd.lookup q = some n := by
    intro q hq
    obtain ⟨p, hp, rfl⟩ := PropAux.isectTD_states h hq
    obtain ⟨n, hn⟩ := Isx.mem_dom_iff.mp hp
    rw [Isx.lookupF_of hn]
    exact (productDictFixed_named hd).2 (p, n) (mem_of_lookup hn)
  obtain ⟨hnamed, hinj⟩ := ofGlue_names (fun h h' => hinv.injective h h') hname
  refine ⟨⟨hnamed, hinj, ?_⟩, ?_⟩
  · intro ρ hρ
    obtain ⟨_, _, _, hr, _⟩ := Isx.isectTD_spec h
    have := (hr ρ).mp hρ
    simp only [prodOn] at this
    obtain ⟨r, hr1, r', _, _, hl, _, rfl⟩ := mem_prodRules.mp this
    obtain ⟨nm, hnm⟩ := hA.ranked r hr1
    refine ⟨nm, ?_⟩
    have := hy₂.bwd_sub hy₁ hs hnm
    simpa [List.length_zip, hl] using this
  · intro q hq
    obtain ⟨n, hn⟩ := hname q hq
    rw [nameOf_ofGlue hn]
    obtain ⟨e', _, ln, rn, k, h1, h2, hx⟩ := hfrom _ (hinv.back _ _ (mem_of_lookup hn))
    rw [toGlue_bwd_lookup] at h1 h2
    obtain ⟨k1, hk1, rfl⟩ := Option.map_eq_some_iff.mp h1
    obtain ⟨k2, hk2, rfl⟩ := Option.map_eq_some_iff.mp h2
    simp only [Prod.mk.injEq] at hx
    exact ⟨k1, mem_keys_of_bwd hk1, k2, mem_keys_of_bwd hk2, k, by rw [hx.1]⟩

/-- the state of the translators after the first and after the second `LoadFromString` -/
def L1 (d₁ : AutDesc) (yd : SymDict) : TA × LSt := loadFrom ⟨[], 0, yd⟩ d₁
def L2 (d₁ d₂ : AutDesc) (yd : SymDict) : TA × LSt := loadFrom ⟨[], 0, (L1 d₁ yd).2.yd⟩ d₂

theorem loadBoth_eq (d₁ d₂ : AutDesc) (yd : SymDict) :
    loadBoth d₁ d₂ yd = .ok (((L1 d₁ yd).1, (L1 d₁ yd).2.sd), ((L2 d₁ d₂ yd).1, (L2 d₁ d₂ yd).2.sd), (L2 d₁ d₂ yd).2.yd) := rfl

structure Loaded (d₁ d₂ : AutDesc) (yd : SymDict) : Prop where
  dA : Dumpable (L1 d₁ yd).1 (L1 d₁ yd).2.sd (L1 d₁ yd).2.yd
  dB : Dumpable (L2 d₁ d₂ yd).1 (L2 d₁ d₂ yd).2.sd (L2 d₁ d₂ yd).2.yd
  sd₁ : (L1 d₁ yd).2.sd.Ok
  sd₂ : (L2 d₁ d₂ yd).2.sd.Ok
  yd₁ : (L1 d₁ yd).2.yd.Ok
  yd₂ : (L2 d₁ d₂ yd).2.yd.Ok
  sub : Sub (L1 d₁ yd).2.yd (L2 d₁ d₂ yd).2.yd
  keys₁ : ∀ q, q ∈ (L1 d₁ yd).2.sd.keys ↔ q ∈ stateNames d₁
  keys₂ : ∀ q, q ∈ (L2 d₁ d₂ yd).2.sd.keys ↔ q ∈ stateNames d₂

theorem loaded (d₁ d₂ : AutDesc) (yd : SymDict) (hyd : yd.Ok) : Loaded d₁ d₂ yd := by
  obtain ⟨h1, _⟩ := loadFrom_spec ⟨[], 0, yd⟩ d₁
  obtain ⟨h2, _⟩ := loadFrom_spec ⟨[], 0, (L1 d₁ yd).2.yd⟩ d₂
  have o1 := h1.ok (init_ok hyd)
  have o2 := h2.ok (init_ok o1.yd)
  exact ⟨loadFrom_dumpable _ (init_ok hyd) d₁, loadFrom_dumpable _ (init_ok o1.yd) d₂, o1.sd, o2.sd, o1.yd, o2.yd, h2.yd.sub,
    fun q => by rw [L1, h1.sd.keys]; simp [keys], fun q => by rw [L2, h2.sd.keys]; simp [keys]⟩

/-- the result of `Union` and the dictionary it is dumped with -/
def unionU (d₁ d₂ : AutDesc) (yd : SymDict) : TA × SMap × SMap := unionModel (L1 d₁ yd).1 (L2 d₁ d₂ yd).1 [] []
def unionSd (d₁ d₂ : AutDesc) (yd : SymDict) : Vata.StateDict :=
  ofGlue (unionDict (toGlue (L1 d₁ yd).2.sd) (toGlue (L2 d₁ d₂ yd).2.sd) (some (unionU d₁ d₂ yd).2.1)
    (some (unionU d₁ d₂ yd).2.2))

theorem cliUnionDesc_eq (d₁ d₂ : AutDesc) (yd : SymDict) :
    cliUnionDesc d₁ d₂ yd = dumpTA (unionU d₁ d₂ yd).1 (unionSd d₁ d₂ yd) (L2 d₁ d₂ yd).2.yd := rfl

theorem unionU_dumpable (d₁ d₂ : AutDesc) (yd : SymDict) (hyd : yd.Ok) :
    Dumpable (unionU d₁ d₂ yd).1 (unionSd d₁ d₂ yd) (L2 d₁ d₂ yd).2.yd ∧
    ∀ q, q ∈ (unionU d₁ d₂ yd).1.states →
      UnionName (L1 d₁ yd).2.sd (L2 d₁ d₂ yd).2.sd (nameOf (unionSd d₁ d₂ yd) q) := by
  have l := loaded d₁ d₂ yd hyd
  obtain ⟨iL, iR, iD⟩ := unionModel_maps_inj (L1 d₁ yd).1 (L2 d₁ d₂ yd).1 [] [] Um.inj_nil Um.inj_nil (Um.disj_nil_left _)
  obtain ⟨tL, tR⟩ := unionModel_maps_total (L1 d₁ yd).1 (L2 d₁ d₂ yd).1 [] []
  exact unionWith_dumpable l.dA l.dB l.sd₁ l.sd₂ l.yd₁ l.yd₂ l.sub iL iR iD tL tR

/-- **`vata union`, description level**: the description that `DumpToAutDesc` hands to the serializer, loaded again (fresh state
dictionary, the alphabet as the run left it), accepts exactly `L(A) ∪ L(B)`, `A` and `B` being the automata the two loads
produced.  No hypothesis on the descriptions. -/
theorem cliUnionDesc_lang (d₁ d₂ : AutDesc) (yd : SymDict) (hyd : yd.Ok) :
    ∃ A sd₁ yd₁ B sd₂ yd₂ out, loadTA d₁ [] yd = .ok (A, sd₁, yd₁) ∧ loadTA d₂ [] yd₁ = .ok (B, sd₂, yd₂) ∧
      cliUnionDesc d₁ d₂ yd = .ok out ∧
      ∃ A' sd' yd', loadTA out [] yd₂ = .ok (A', sd', yd') ∧ ∀ t, accepts A' t = (accepts A t || accepts B t) := by
  have l := loaded d₁ d₂ yd hyd
  obtain ⟨out, A', sd', yd', h1, h2, h3⟩ := dump_reload_lang _ _ _ l.yd₂ (unionU_dumpable d₁ d₂ yd hyd).1
  refine ⟨_, _, _, _, _, _, out, rfl, rfl, by rw [cliUnionDesc_eq]; exact h1, A', sd', yd', h2, ?_⟩
  intro t
  rw [h3 t]
  exact unionModel_lang_empty _ _ t

theorem cliIsectDescWith_eq (mk : Glue.StateDict → Glue.StateDict → List ((Nat × Nat) × Nat) → Option Glue.StateDict)
    (d₁ d₂ : AutDesc) (yd : SymDict) {P : TA} {pm : PMap} (h : isectTDRef (L1 d₁ yd).1 (L2 d₁ d₂ yd).1 = some (P, pm))
    {dict : Glue.StateDict} (hd : mk (toGlue (L1 d₁ yd).2.sd) (toGlue (L2 d₁ d₂ yd).2.sd) pm = some dict) :
    cliIsectDescWith mk d₁ d₂ yd = dumpTA P (ofGlue dict) (L2 d₁ d₂ yd).2.yd := by
  unfold cliIsectDescWith
  rw [loadBoth_eq]
  simp only [h, hd]

/-- `vata isect`: the pieces – the product, its map, the dictionary of the repaired helper, and that they can be dumped -/
theorem cliIsect_parts (d₁ d₂ : AutDesc) (yd : SymDict) (hyd : yd.Ok) :
    ∃ P pm dict, isectTDRef (L1 d₁ yd).1 (L2 d₁ d₂ yd).1 = some (P, pm) ∧
      productDictFixed (toGlue (L1 d₁ yd).2.sd) (toGlue (L2 d₁ d₂ yd).2.sd) pm = some dict ∧
      cliIsectDesc d₁ d₂ yd = dumpTA P (ofGlue dict) (L2 d₁ d₂ yd).2.yd ∧
      Dumpable P (ofGlue dict) (L2 d₁ d₂ yd).2.yd ∧
      (∀ q, q ∈ P.states → ProdNameOf (L1 d₁ yd).2.sd (L2 d₁ d₂ yd).2.sd (nameOf (ofGlue dict) q)) ∧
      ∀ t, accepts P t = (accepts (L1 d₁ yd).1 t && accepts (L2 d₁ d₂ yd).1 t) := by
  have l := loaded d₁ d₂ yd hyd
  obtain ⟨P, pm, hP, hl⟩ := isectTDRef_lang (L1 d₁ yd).1 (L2 d₁ d₂ yd).1
  obtain ⟨dict, hd⟩ := isect_dict_some l.dA l.dB (fuel := isectFuel _ _) hP
  obtain ⟨h1, h2⟩ := isect_dumpable l.dA l.yd₁ l.yd₂ l.sub (fuel := isectFuel _ _) hP hd
  exact ⟨P, pm, dict, hP, hd, cliIsectDescWith_eq productDictFixed d₁ d₂ yd hP hd, h1, h2, hl⟩

/-- **`vata isect`, description level**: the description handed to the serializer, loaded again, accepts exactly `L(A) ∩ L(B)`.
No hypothesis on the descriptions: the state names may contain `_1|`, `]`, primes, anything. -/
theorem cliIsectDesc_lang (d₁ d₂ : AutDesc) (yd : SymDict) (hyd : yd.Ok) :
    ∃ A sd₁ yd₁ B sd₂ yd₂ out, loadTA d₁ [] yd = .ok (A, sd₁, yd₁) ∧ loadTA d₂ [] yd₁ = .ok (B, sd₂, yd₂) ∧
      cliIsectDesc d₁ d₂ yd = .ok out ∧
      ∃ A' sd' yd', loadTA out [] yd₂ = .ok (A', sd', yd') ∧ ∀ t, accepts A' t = (accepts A t && accepts B t) := by
  have l := loaded d₁ d₂ yd hyd
  obtain ⟨P, pm, dict, _, _, he, hD, _, hl⟩ := cliIsect_parts d₁ d₂ yd hyd
  obtain ⟨out, A', sd', yd', h1, h2, h3⟩ := dump_reload_lang _ _ _ l.yd₂ hD
  refine ⟨_, _, _, _, _, _, out, rfl, rfl, by rw [he]; exact h1, A', sd', yd', h2, ?_⟩
  intro t
  rw [h3 t, hl t]
  rfl

end Vata.CliPipe
