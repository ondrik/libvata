import Vata.Proofs.ListFacts
/-!
# Work-list saturation

A work-list loop keeps a set `R` of marked elements and a list `W ⊆ R` of marked elements whose consequences have not been
drawn yet.  What is computed is the least set closed under clauses `C ps c` ("when all of `ps` are in the set, so is `c`").
`Closed`, `Lfp`, `Sat` and `Sat.pop` are stated for clauses with any number of premises; the one instance is reachability,
`reachC` (`ps = [p]` for an edge `p → c`, `ps = []` for a seed).

* `Sat`: the invariant between two rounds, `Sat.pop` a round, `Sat.exact` the result on an empty work-list.
* `Ext`: what insert-if-new-and-push of a list of elements does to `(R, W)`, and to the measure `mu` of termination.
* `reachLoop`: the loop that `RemoveUnreachableStates` of the explicit tree automata (`TrimCoded.unreachLoop_eq`), of the
  finite automata (`NfaC.unreachLoop_eq`) and of their copy-on-write transcription (`CowHeapFA.reachLoop_eq`) share, with its
  invariant and its fuel.

The loops that propagate through rules with several premises (`TrimCoded.mainLoop`, `BddTrimCoded.propLoop`,
`BddTrimCoded.buUnreachLoop`) do not go through `Sat` (the last uses `Ext` and `mu`): they refine a data structure each; on
an empty work-list their invariants give a set closed under the rules, and `prodStates_least` concludes.
-/
namespace Vata.Closure

/-! ### clauses, closed sets, the invariant -/

def Closed (C : List Nat → Nat → Prop) (S : Nat → Prop) : Prop :=
  ∀ ps c, C ps c → (∀ p, p ∈ ps → S p) → S c

/-- `L` is the least set closed under `C` -/
structure Lfp (C : List Nat → Nat → Prop) (L : Nat → Prop) : Prop where
  closed : Closed C L
  least : ∀ S : Nat → Prop, Closed C S → ∀ q, L q → S q

/-- every marked element is in `L`; a clause whose premises are all marked and off the work-list has been applied -/
structure Sat (C : List Nat → Nat → Prop) (L : Nat → Prop) (R W : List Nat) : Prop where
  sound : ∀ q, q ∈ R → L q
  sat : ∀ ps c, C ps c → (∀ p, p ∈ ps → p ∈ R ∧ p ∉ W) → c ∈ R

variable {C : List Nat → Nat → Prop} {L : Nat → Prop}

theorem Sat.exact (hL : Lfp C L) {R : List Nat} (h : Sat C L R []) (q : Nat) : q ∈ R ↔ L q :=
  ⟨h.sound q, hL.least (· ∈ R) (fun ps c hc hp => h.sat ps c hc fun p hp' => ⟨hp p hp', List.not_mem_nil⟩) q⟩

/-- a round that pops `s`: new marks are conclusions of clauses with marked premises and go to the work-list, and every
clause that waited for `s` alone is applied; clauses with another premise still on the work-list may wait.  Its one user is
the reachability round `Sat.pop_mem`. -/
theorem Sat.pop (hL : Lfp C L) {R W R' W' : List Nat} {s : Nat} (h : Sat C L R (s :: W))
    (hR : ∀ x, x ∈ R → x ∈ R') (hW : ∀ x, x ∈ W → x ∈ W') (hnew : ∀ x, x ∈ R' → x ∈ R ∨ x ∈ W')
    (hder : ∀ x, x ∈ R' → x ∈ R ∨ ∃ ps, C ps x ∧ ∀ p, p ∈ ps → p ∈ R)
    (fire : ∀ ps c, C ps c → s ∈ ps → (∀ p, p ∈ ps → p ∈ R ∧ p ∉ W) → c ∈ R') : Sat C L R' W' where
  sound x hx := by
    rcases hder x hx with hx | ⟨ps, hc, hps⟩
    · exact h.sound x hx
    · exact hL.closed ps x hc fun p hp => h.sound p (hps p hp)
  sat ps c hc hall := by
    -- a premise off the new work-list was marked before, and is off the old one
    have hold : ∀ p, p ∈ ps → p ∈ R ∧ p ∉ W := fun p hp =>
      ⟨(hnew p (hall p hp).1).resolve_right (hall p hp).2, fun hw => (hall p hp).2 (hW p hw)⟩
    by_cases hs : s ∈ ps
    · exact fire ps c hc hs hold
    · exact hR c (h.sat ps c hc fun p hp => ⟨(hold p hp).1, fun hm =>
        (List.mem_cons.mp hm).elim (fun e => hs (e ▸ hp)) (hold p hp).2⟩)

/-! ### reachability: seeds `I`, edges `E` -/

def reachC (I : Nat → Prop) (E : Nat → Nat → Prop) (ps : List Nat) (c : Nat) : Prop :=
  (ps = [] ∧ I c) ∨ ∃ p, ps = [p] ∧ E p c

theorem lfp_reach {I : Nat → Prop} {E : Nat → Nat → Prop} {L : Nat → Prop} (hI : ∀ c, I c → L c)
    (hE : ∀ p c, E p c → L p → L c)
    (least : ∀ S : Nat → Prop, (∀ c, I c → S c) → (∀ p c, E p c → S p → S c) → ∀ q, L q → S q) :
    Lfp (reachC I E) L where
  closed := by
    rintro ps c (⟨_, hc⟩ | ⟨p, rfl, hc⟩) hp
    · exact hI c hc
    · exact hE p c hc (hp p List.mem_cons_self)
  least S hS := least S (fun c hc => hS [] c (Or.inl ⟨rfl, hc⟩) fun _ h => nomatch h)
    fun p c hc hp => hS [p] c (Or.inr ⟨p, rfl, hc⟩) fun x hx => List.mem_singleton.mp hx ▸ hp

/-! ### insert-if-new-and-push -/

/-- `if (marked.insert(q).second) work.push_back(q);` (the head of the list is `back()`) -/
def push (σ : List Nat × List Nat) (q : Nat) : List Nat × List Nat :=
  if σ.1.contains q then σ else (σ.1 ++ [q], q :: σ.2)

/-- the measure of a work-list loop: every round pops one element, every push marks one more candidate -/
def mu (K : List Nat) (σ : List Nat × List Nat) : Nat := σ.2.length + unseen K σ.1

/-- `σ'` is `σ = (marked, work)` after insert-if-new-and-push of the elements of `l`, in some order -/
structure Ext (l : List Nat) (σ σ' : List Nat × List Nat) : Prop where
  marked : ∀ x, x ∈ σ'.1 ↔ x ∈ σ.1 ∨ x ∈ l
  work : ∀ x, x ∈ σ'.2 ↔ x ∈ σ.2 ∨ (x ∈ l ∧ x ∉ σ.1)
  mu : ∀ K, (∀ x, x ∈ l → x ∈ K) → mu K σ' ≤ mu K σ

theorem Ext.work_mono {l : List Nat} {σ σ' : List Nat × List Nat} (h : Ext l σ σ') {x : Nat} (hx : x ∈ σ.2) : x ∈ σ'.2 :=
  (h.work x).mpr (Or.inl hx)

theorem Ext.new_work {l : List Nat} {σ σ' : List Nat × List Nat} (h : Ext l σ σ') {x : Nat} (hx : x ∈ σ'.1) :
    x ∈ σ.1 ∨ x ∈ σ'.2 :=
  Classical.byCases Or.inl fun hn => Or.inr ((h.work x).mpr (Or.inr ⟨((h.marked x).mp hx).resolve_left hn, hn⟩))

theorem Ext.refl (σ : List Nat × List Nat) : Ext [] σ σ :=
  ⟨fun x => by simp, fun x => by simp, fun _ _ => Nat.le_refl _⟩

theorem Ext.trans {l₁ l₂ : List Nat} {σ σ₁ σ₂ : List Nat × List Nat} (h₁ : Ext l₁ σ σ₁) (h₂ : Ext l₂ σ₁ σ₂) :
    Ext (l₁ ++ l₂) σ σ₂ where
  marked x := by rw [h₂.marked, h₁.marked, List.mem_append, or_assoc]
  work x := by
    rw [h₂.work, h₁.work, h₁.marked, List.mem_append]
    by_cases hx : x ∈ σ.1 <;> by_cases h1 : x ∈ l₁ <;> simp [hx, h1]
  mu K hK := Nat.le_trans (h₂.mu K fun x hx => hK x (List.mem_append_right _ hx))
    (h₁.mu K fun x hx => hK x (List.mem_append_left _ hx))

/-- the two outcomes of an insertion, whatever container the work-list is -/
theorem Ext.old {σ : List Nat × List Nat} {q : Nat} (h : q ∈ σ.1) : Ext [q] σ σ :=
  ⟨fun _ => ⟨Or.inl, fun hx => hx.elim id (fun e => List.mem_singleton.mp e ▸ h)⟩,
    fun _ => ⟨Or.inl, fun hx => hx.elim id (fun e => absurd (List.mem_singleton.mp e.1 ▸ h) e.2)⟩, fun _ _ => Nat.le_refl _⟩

theorem Ext.new {σ : List Nat × List Nat} {q : Nat} {W' : List Nat} (h : q ∉ σ.1) (hW : ∀ x, x ∈ W' ↔ x ∈ σ.2 ∨ x = q)
    (hlen : W'.length ≤ σ.2.length + 1) : Ext [q] σ (σ.1 ++ [q], W') := by
  refine ⟨fun x => List.mem_append, fun x => ?_, fun K hK => ?_⟩
  · rw [hW, List.mem_singleton]
    exact or_congr_right ⟨fun e => ⟨e, e ▸ h⟩, fun e => e.1⟩
  · have := unseen_snoc_lt (hK q (List.mem_singleton.mpr rfl)) h
    show W'.length + unseen K (σ.1 ++ [q]) ≤ σ.2.length + unseen K σ.1
    omega

theorem Ext.push (σ : List Nat × List Nat) (q : Nat) : Ext [q] σ (push σ q) := by
  unfold Closure.push
  split
  · next h => exact Ext.old (List.contains_iff_mem.mp h)
  · next h => exact Ext.new (fun hm => h (List.contains_iff_mem.mpr hm)) (fun _ => List.mem_cons.trans or_comm) (Nat.le_refl _)

theorem Ext.foldl {step : List Nat × List Nat → Nat → List Nat × List Nat} (h : ∀ σ q, Ext [q] σ (step σ q)) :
    ∀ (l : List Nat) (σ : List Nat × List Nat), Ext l σ (l.foldl step σ)
  | [], σ => Ext.refl σ
  | q :: l, σ => (h σ q).trans (l₁ := [q]) (Ext.foldl h l (step σ q))

/-- a round of a reachability loop: `s` is popped, its successors `l` are marked and the new ones go to the work-list -/
theorem Sat.pop_mem {I : Nat → Prop} {E : Nat → Nat → Prop} (hL : Lfp (reachC I E) L) {R W R' W' l : List Nat} {s : Nat}
    (h : Sat (reachC I E) L R (s :: W)) (hs : s ∈ R) (hl : ∀ x, x ∈ l ↔ E s x) (hR : ∀ x, x ∈ R' ↔ x ∈ R ∨ x ∈ l)
    (hW : ∀ x, x ∈ W' ↔ x ∈ W ∨ (x ∈ l ∧ x ∉ R)) : Sat (reachC I E) L R' W' := by
  refine h.pop hL (fun x hx => (hR x).mpr (Or.inl hx)) (fun x hx => (hW x).mpr (Or.inl hx)) (fun x hx => ?_)
    (fun x hx => ?_) fun ps c hc hsp _ => ?_
  · by_cases hxR : x ∈ R
    · exact Or.inl hxR
    · exact Or.inr ((hW x).mpr (Or.inr ⟨((hR x).mp hx).resolve_left hxR, hxR⟩))
  · exact ((hR x).mp hx).imp_right fun hxl =>
      ⟨[s], Or.inr ⟨s, rfl, (hl x).mp hxl⟩, fun p hp => List.mem_singleton.mp hp ▸ hs⟩
  · rcases hc with ⟨rfl, _⟩ | ⟨p, rfl, hc⟩
    · cases hsp
    · cases List.mem_singleton.mp hsp
      exact (hR c).mpr (Or.inr ((hl c).mpr hc))

theorem Sat.pop_ext {I : Nat → Prop} {E : Nat → Nat → Prop} (hL : Lfp (reachC I E) L) {R W l : List Nat} {s : Nat}
    {σ' : List Nat × List Nat} (h : Sat (reachC I E) L R (s :: W)) (hs : s ∈ R) (hl : ∀ x, x ∈ l ↔ E s x)
    (e : Ext l (R, W) σ') : Sat (reachC I E) L σ'.1 σ'.2 :=
  h.pop_mem hL hs hl e.marked e.work

/-! ### the reachability loop -/

/-- `while (!work.empty()) { s = work.back(); work.pop_back(); for (x : succ s) if (marked.insert(x).second) work.push_back(x); }` -/
def reachLoop (succ : Nat → List Nat) : Nat → List Nat × List Nat → List Nat × List Nat
  | 0, σ => σ
  | _+1, (R, []) => (R, [])
  | f+1, (R, s :: W) => reachLoop succ f ((succ s).foldl push (R, W))

theorem reachLoop_nil (succ : Nat → List Nat) (f : Nat) (R : List Nat) : reachLoop succ f (R, []) = (R, []) := by
  cases f <;> rfl

/-- fuel left over when the work-list is empty is not used -/
theorem reachLoop_add (succ : Nat → List Nat) : ∀ (f k : Nat) (σ : List Nat × List Nat), (reachLoop succ f σ).2 = [] →
    reachLoop succ (f + k) σ = reachLoop succ f σ
  | 0, k, (R, W), h => by cases (h : W = []); exact reachLoop_nil succ _ R
  | f+1, k, (R, []), _ => by rw [reachLoop_nil, reachLoop_nil]
  | f+1, k, (R, s :: W), h => by
    rw [Nat.add_right_comm, reachLoop, reachLoop]
    exact reachLoop_add succ f k _ (by rwa [reachLoop] at h)

section
variable {I : Nat → Prop} {E : Nat → Nat → Prop} (hL : Lfp (reachC I E) L) {succ : Nat → List Nat}
  (hsucc : ∀ s x, x ∈ succ s ↔ E s x)
include hL hsucc

/-- whatever the fuel, the invariant holds at the end: a run that ends on an empty work-list has marked `L` (`Sat.exact`) -/
theorem reachLoop_sat (f : Nat) : ∀ σ : List Nat × List Nat, Sat (reachC I E) L σ.1 σ.2 → (∀ x, x ∈ σ.2 → x ∈ σ.1) →
    Sat (reachC I E) L (reachLoop succ f σ).1 (reachLoop succ f σ).2 := by
  induction f with
  | zero => exact fun _ h _ => h
  | succ f ih =>
    rintro ⟨R, _ | ⟨s, W⟩⟩ h hW
    · exact h
    · have e := Ext.foldl Ext.push (succ s) (R, W)
      rw [reachLoop]
      refine ih _ (h.pop_ext hL (hW s List.mem_cons_self) (hsucc s) e) fun x hx => ?_
      rcases (e.work x).mp hx with hx | hx
      · exact (e.marked x).mpr (Or.inl (hW x (List.mem_cons_of_mem _ hx)))
      · exact (e.marked x).mpr (Or.inr hx.1)

omit hL in
/-- fuel `mu K σ` suffices, for any list `K` that holds all successors -/
theorem reachLoop_done {K : List Nat} (hK : ∀ s x, E s x → x ∈ K) (f : Nat) :
    ∀ σ : List Nat × List Nat, mu K σ ≤ f → (reachLoop succ f σ).2 = [] := by
  induction f with
  | zero => exact fun σ hm => List.eq_nil_of_length_eq_zero (Nat.eq_zero_of_add_eq_zero_right (Nat.le_zero.mp hm))
  | succ f ih =>
    rintro ⟨R, _ | ⟨s, W⟩⟩ hm
    · rfl
    · rw [reachLoop]
      refine ih _ (Nat.le_trans ((Ext.foldl Ext.push (succ s) (R, W)).mu K fun x hx => hK s x ((hsucc s x).mp hx))
        (Nat.le_of_succ_le_succ (Nat.le_trans (Nat.le_of_eq ?_) hm)))
      exact (Nat.succ_add W.length _).symm

theorem reachLoop_spec {K : List Nat} (hK : ∀ s x, E s x → x ∈ K) {f : Nat} {σ : List Nat × List Nat}
    (h : Sat (reachC I E) L σ.1 σ.2) (hW : ∀ x, x ∈ σ.2 → x ∈ σ.1) (hm : mu K σ ≤ f) :
    (reachLoop succ f σ).2 = [] ∧ ∀ q, q ∈ (reachLoop succ f σ).1 ↔ L q :=
  have hd := reachLoop_done hsucc hK f σ hm
  ⟨hd, (hd ▸ reachLoop_sat hL hsucc f σ h hW).exact hL⟩

end

/-- the start of such a loop: the seeds are marked and all on the work-list -/
theorem sat_init {I : Nat → Prop} {E : Nat → Nat → Prop} {R W : List Nat} (hI : ∀ c, I c ↔ c ∈ R) (hL : ∀ c, I c → L c)
    (hW : ∀ x, x ∈ R → x ∈ W) : Sat (reachC I E) L R W where
  sound q hq := hL q ((hI q).mpr hq)
  sat := by
    rintro ps c (⟨_, hc⟩ | ⟨p, rfl, _⟩) hp
    · exact (hI c).mp hc
    · exact absurd (hW p (hp p List.mem_cons_self).1) (hp p List.mem_cons_self).2

end Vata.Closure
