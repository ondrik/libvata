import Vata.Proofs.LtsEngineCalls2
import Vata.Proofs.LtsUtilSL2
/-!
# The `SharedList` call discipline of the LTS engine: the invariant and the single calls

`SI L e A d`: the value `A` of the `SharedList` world (`SL.A`: one optional list of segments per handle, the detached list) has
`nSlots L` handles, handle `slot L b a` is non-null exactly when `remove_[a]` of block `b` is non-null in the engine state `e`,
a list is detached iff `d`, and non-null handles of `e` belong to existing blocks and to labels `< labels L`.
`GoodL L e t d`: the history `t.sl` is inside `SL.ok` and leads to such a value.
-/
namespace Vata.LEC2
open Vata.L Vata.LE Vata.LU

theorem sl_okAll_append : ∀ (t u : List SL.Op) (A : SL.A),
    SL.okAll A (t ++ u) = (SL.okAll A t && SL.okAll (SL.aRun A t) u)
  | [], _, _ => by simp [SL.okAll, SL.aRun]
  | op :: t, u, A => by simp [SL.okAll, SL.aRun, sl_okAll_append t u, Bool.and_assoc]

theorem sl_aRun_append : ∀ (t u : List SL.Op) (A : SL.A), SL.aRun A (t ++ u) = SL.aRun (SL.aRun A t) u
  | [], _, _ => rfl
  | op :: t, u, A => by simp [SL.aRun, sl_aRun_append t u]


theorem slot_lt {L : LTS} {b a : Nat} (hb : b < L.n) (ha : a < labels L) : slot L b a < nSlots L := by
  unfold slot nSlots
  have h1 : (b + 1) * labels L ≤ L.n * labels L := Nat.mul_le_mul_right _ hb
  rw [Nat.succ_mul] at h1
  omega

theorem slot_inj {L : LTS} {b a b' a' : Nat} (ha : a < labels L) (ha' : a' < labels L) (h : slot L b a = slot L b' a') :
    b = b' ∧ a = a' := by
  unfold slot at h
  have hm := congrArg (· % labels L) h
  have hd := congrArg (· / labels L) h
  simp only [Nat.mul_add_mod_of_lt ha, Nat.mul_add_mod_of_lt ha'] at hm
  simp only [Nat.add_comm (_ * _), Nat.add_mul_div_right _ _ (Nat.lt_of_le_of_lt (Nat.zero_le a) ha), Nat.div_eq_of_lt ha,
    Nat.div_eq_of_lt ha', Nat.zero_add] at hd
  exact ⟨hd, hm⟩

def sh (A : SL.A) (s : Nat) : Bool := (A.slots.getD s none).isSome

theorem sh_set (A : SL.A) (s : Nat) (v : Option SL.RemList) (hs : s < A.slots.length) (k : Nat) :
    ((A.slots.set s v).getD k none).isSome = if k = s then v.isSome else sh A k := by
  unfold sh
  simp only [List.getD_eq_getElem?_getD]
  by_cases hk : k = s
  · subst hk; rw [if_pos rfl, List.getElem?_set_self hs]; rfl
  · rw [if_neg hk, List.getElem?_set_ne (fun h => hk h.symm)]

structure SI (L : LTS) (e : Eng) (A : SL.A) (d : Bool) : Prop where
  len : A.slots.length = nSlots L
  det : A.detached.isSome = d
  shp : ∀ b a, b < L.n → a < labels L → sh A (slot L b a) = (e.remv b a).isSome
  bnd : ∀ b a, (e.remv b a).isSome = true → b < e.part.length ∧ a < labels L

theorem SI.grow {L : LTS} {e e' : Eng} {A : SL.A} {d : Bool} (h : SI L e A d) (h1 : e'.rem = e.rem)
    (h2 : e.part.length ≤ e'.part.length) : SI L e' A d := by
  have hr : ∀ b a, e'.remv b a = e.remv b a := fun b a => by simp only [Eng.remv, h1]
  refine ⟨h.len, h.det, fun b a hb ha => by rw [hr]; exact h.shp b a hb ha, fun b a hs => ?_⟩
  rw [hr] at hs
  exact ⟨Nat.lt_of_lt_of_le (h.bnd b a hs).1 h2, (h.bnd b a hs).2⟩

theorem SI.congr {L : LTS} {e e' : Eng} {A : SL.A} {d : Bool} (h : SI L e A d) (h1 : e'.rem = e.rem)
    (h2 : e'.part.length = e.part.length) : SI L e' A d :=
  h.grow h1 (Nat.le_of_eq h2.symm)

theorem SI.upd {L : LTS} {e e' : Eng} {A A' : SL.A} {d d' : Bool} (h : SI L e A d) {b a : Nat}
    {v : Option SL.RemList} {r : Option RemList} (hb : b < L.n) (ha : a < labels L)
    (hs : A'.slots = A.slots.set (slot L b a) v) (hd : A'.detached.isSome = d')
    (hr : ∀ i a', e'.remv i a' = if i = b ∧ a' = a then r else e.remv i a')
    (hv : v.isSome = r.isSome) (hbp : r.isSome = true → b < e'.part.length) (hp : e.part.length ≤ e'.part.length) :
    SI L e' A' d' := by
  have hlt : slot L b a < A.slots.length := by rw [h.len]; exact slot_lt hb ha
  refine ⟨by rw [hs, List.length_set]; exact h.len, hd, ?_, ?_⟩
  · intro b' a' hb' ha'
    show (A'.slots.getD _ none).isSome = _
    rw [hs, sh_set A _ v hlt, hr]
    by_cases hk : b' = b ∧ a' = a
    · rw [if_pos hk, if_pos (by rw [hk.1, hk.2])]; exact hv
    · rw [if_neg hk, if_neg (fun heq => hk (slot_inj ha' ha heq))]
      exact h.shp b' a' hb' ha'
  · intro b' a' hsome
    rw [hr] at hsome
    by_cases hk : b' = b ∧ a' = a
    · rw [if_pos hk] at hsome
      rw [hk.1, hk.2]; exact ⟨hbp hsome, ha⟩
    · rw [if_neg hk] at hsome
      exact ⟨Nat.lt_of_lt_of_le (h.bnd b' a' hsome).1 hp, (h.bnd b' a' hsome).2⟩

def GoodL (L : LTS) (e : Eng) (t : Tr2) (d : Bool) : Prop :=
  SL.okAll (SL.A.mk0 (nSlots L)) t.sl = true ∧ SI L e (SL.aRun (SL.A.mk0 (nSlots L)) t.sl) d

theorem GoodL.add {L : LTS} {e e' : Eng} {t : Tr2} {d d' : Bool} {ops : List SL.Op} (g : GoodL L e t d)
    (h : SL.okAll (SL.aRun (SL.A.mk0 (nSlots L)) t.sl) ops = true ∧
      SI L e' (SL.aRun (SL.aRun (SL.A.mk0 (nSlots L)) t.sl) ops) d') : GoodL L e' (t.addSL ops) d' := by
  refine ⟨?_, ?_⟩
  · show SL.okAll _ (t.sl ++ ops) = true
    rw [sl_okAll_append, g.1, h.1]; rfl
  · show SI L e' (SL.aRun _ (t.sl ++ ops)) d'
    rw [sl_aRun_append]; exact h.2

theorem GoodL.congr {L : LTS} {e e' : Eng} {t t' : Tr2} {d : Bool} (g : GoodL L e t d) (h1 : e'.rem = e.rem)
    (h2 : e'.part.length = e.part.length) (h3 : t'.sl = t.sl) : GoodL L e' t' d := by
  unfold GoodL; rw [h3]; exact ⟨g.1, g.2.congr h1 h2⟩


theorem sl_aRun_single (A : SL.A) (op : SL.Op) : SL.aRun A [op] = SL.aStep A op := rfl

theorem sl_okAll_single (A : SL.A) (op : SL.Op) : SL.okAll A [op] = SL.ok A op := by simp [SL.okAll]

theorem aStep_append_slots (A : SL.A) (s x : Nat) :
    ∃ r, (SL.aStep A (.append s x)).slots = A.slots.set s (some r) ∧ (SL.aStep A (.append s x)).detached = A.detached := by
  simp only [SL.aStep]
  split
  · exact ⟨_, rfl, rfl⟩
  · exact ⟨_, rfl, rfl⟩
  · split
    · exact ⟨_, rfl, rfl⟩
    · exact ⟨_, rfl, rfl⟩

/-- `RemoveList::append(block->remove_[label], state, removeAllocator_)` -/
theorem append_good {L : LTS} {e e' : Eng} {t : Tr2} {d : Bool} (g : GoodL L e t d) {b a q : Nat} (hb : b < e.part.length)
    (hn : e.part.length ≤ L.n) (ha : a < labels L) (hp : e'.part = e.part)
    (hr : ∀ i a', ¬ (i = b ∧ a' = a) → e'.remv i a' = e.remv i a') (hs : (e'.remv b a).isSome = true) :
    GoodL L e' (t.addSL [SL.Op.append (slot L b a) q]) d := by
  have hbn : b < L.n := Nat.lt_of_lt_of_le hb hn
  obtain ⟨r, h1, h2⟩ := aStep_append_slots (SL.aRun (SL.A.mk0 (nSlots L)) t.sl) (slot L b a) q
  refine g.add ⟨?_, ?_⟩
  · rw [sl_okAll_single]
    simp only [SL.ok, decide_eq_true_eq]
    rw [g.2.len]; exact slot_lt hbn ha
  · rw [sl_aRun_single]
    refine g.2.upd (r := e'.remv b a) hbn ha h1 (by rw [h2]; exact g.2.det) ?_ (by rw [hs]; rfl)
      (fun _ => by rw [hp]; exact hb) (by rw [hp]; exact Nat.le_refl _)
    intro i a'
    by_cases hk : i = b ∧ a' = a
    · rw [if_pos hk, hk.1, hk.2]
    · rw [if_neg hk]; exact hr i a' hk

/-- `b1->remove_[a] = new RemoveList(new std::vector<size_t>(s.begin(), s.end()))` -/
theorem newList_good {L : LTS} {e e' : Eng} {t : Tr2} {d : Bool} (g : GoodL L e t d) {b a : Nat} {s : List Nat} {r : RemList}
    (hb : b < e.part.length) (hn : e.part.length ≤ L.n) (ha : a < labels L) (hp : e'.part = e.part)
    (hnone : e.remv b a = none) (hne : s.isEmpty = false)
    (hr : ∀ i a', e'.remv i a' = if i = b ∧ a' = a then some r else e.remv i a') :
    GoodL L e' (t.addSL [SL.Op.newList (slot L b a) s]) d := by
  have hbn : b < L.n := Nat.lt_of_lt_of_le hb hn
  refine g.add ⟨?_, ?_⟩
  · have h0 := g.2.shp b a hbn ha
    rw [hnone] at h0
    rw [sl_okAll_single]
    simp only [SL.ok, Bool.and_eq_true, decide_eq_true_eq, hne, Bool.not_false, and_true]
    exact ⟨by rw [g.2.len]; exact slot_lt hbn ha, Option.isSome_eq_false_iff.mp h0⟩
  · rw [sl_aRun_single]
    exact g.2.upd (r := some r) hbn ha rfl g.2.det hr rfl (fun _ => by rw [hp]; exact hb) (by rw [hp]; exact Nat.le_refl _)

/-- `remove = block->remove_[label]; block->remove_[label] = nullptr;` (and the iteration of `*remove`) -/
theorem take_good {L : LTS} {e e' : Eng} {t : Tr2} (g : GoodL L e t false) {b a : Nat}
    (hn : e.part.length ≤ L.n) (hp : e'.part = e.part) (hsome : (e.remv b a).isSome = true)
    (hr : ∀ i a', e'.remv i a' = if i = b ∧ a' = a then none else e.remv i a') :
    GoodL L e' (t.addSL [SL.Op.take (slot L b a)]) true := by
  obtain ⟨hb, ha⟩ := g.2.bnd b a hsome
  have hbn : b < L.n := Nat.lt_of_lt_of_le hb hn
  have h0 := g.2.shp b a hbn ha
  rw [hsome] at h0
  refine g.add ⟨?_, ?_⟩
  · have hd := g.2.det
    rw [sl_okAll_single]
    simp only [SL.ok, Bool.and_eq_true, decide_eq_true_eq]
    exact ⟨⟨by rw [g.2.len]; exact slot_lt hbn ha, h0⟩, Option.isSome_eq_false_iff.mp hd⟩
  · rw [sl_aRun_single]
    refine g.2.upd (r := none) (v := none) hbn ha rfl ?_ hr rfl (fun h => by cases h) (by rw [hp]; exact Nat.le_refl _)
    show ((SL.aRun (SL.A.mk0 (nSlots L)) t.sl).slots.getD (slot L b a) none).isSome = true
    exact h0

/-- `remove->unsafeRelease(…)` -/
theorem release_good {L : LTS} {e : Eng} {t : Tr2} (g : GoodL L e t true) : GoodL L e (t.addSL [SL.Op.release]) false := by
  refine g.add ⟨?_, ?_⟩
  · rw [sl_okAll_single]
    exact g.2.det
  · exact ⟨g.2.len, rfl, g.2.shp, g.2.bnd⟩


/-- `newBlock->remove_[a] = block->remove_[a]->copy()` into a handle that is null -/
theorem copy1_good {L : LTS} {e e' : Eng} {t : Tr2} {d : Bool} (g : GoodL L e t d) {b nb a : Nat} {r : RemList}
    (hb : b < L.n) (hnb : nb < L.n) (ha : a < labels L) (hsrc : e.remv b a = some r) (hdst : e.remv nb a = none)
    (hnbp : nb < e'.part.length) (hp : e.part.length ≤ e'.part.length)
    (hr : ∀ i a', e'.remv i a' = if i = nb ∧ a' = a then some r else e.remv i a') :
    GoodL L e' (t.addSL [SL.Op.copy (slot L b a) (slot L nb a)]) d := by
  have hs := g.2.shp b a hb ha
  have hd := g.2.shp nb a hnb ha
  rw [hsrc] at hs
  rw [hdst] at hd
  refine g.add ⟨?_, ?_⟩
  · rw [sl_okAll_single]
    simp only [SL.ok, Bool.and_eq_true, decide_eq_true_eq]
    exact ⟨⟨⟨by rw [g.2.len]; exact slot_lt hb ha, by rw [g.2.len]; exact slot_lt hnb ha⟩, hs⟩, Option.isSome_eq_false_iff.mp hd⟩
  · rw [sl_aRun_single]
    exact g.2.upd (r := some r) hnb ha rfl g.2.det hr hs (fun _ => hnbp) hp

/-- the loop copying the remove lists of the parent, handle by handle -/
theorem copyRem_good {L : LTS} {d : Bool} {b nb : Nat} (hb : b < L.n) (hnb : nb < L.n) (hne : nb ≠ b) (c : Nat → Bool) :
    ∀ (ls : List Nat) (e : Eng) (t : Tr2), ls.Nodup →
      (∀ a, a ∈ ls → a < labels L ∧ c a = (e.remv b a).isSome ∧ e.remv nb a = none) → nb < e.part.length → GoodL L e t d →
      GoodL L (copyRem b nb e ls)
        (t.addSL (ls.filterMap (fun a => if c a then some (SL.Op.copy (slot L b a) (slot L nb a)) else none))) d := by
  intro ls
  induction ls with
  | nil => exact fun e t _ _ _ g => g.congr rfl rfl (List.append_nil _)
  | cons x ls ih =>
    intro e t hnd h hn g
    have hnd' := List.nodup_cons.mp hnd
    obtain ⟨hx, hcx, hnx⟩ := h x List.mem_cons_self
    cases hr : e.remv b x with
    | none =>
      rw [hr] at hcx
      have hstep : copyRem b nb e (x :: ls) = copyRem b nb e ls := by
        show copyRem b nb (match e.remv b x with | none => e | some r => _) ls = _
        rw [hr]
      rw [hstep, List.filterMap_cons, hcx]
      exact ih e t hnd'.2 (fun a ha => h a (List.mem_cons_of_mem _ ha)) hn g
    | some r =>
      rw [hr] at hcx
      have hstep : copyRem b nb e (x :: ls) =
          copyRem b nb { e with queue := (nb, x) :: e.queue, rem := setRem e.rem nb x (some r) } ls := by
        show copyRem b nb (match e.remv b x with | none => e | some r => _) ls = _
        rw [hr]
      have hrem : ∀ i a', ({ e with queue := (nb, x) :: e.queue, rem := setRem e.rem nb x (some r) } : Eng).remv i a' =
          if i = nb ∧ a' = x then some r else e.remv i a' := fun i a' => rget_setRem _ _ _ _ _ _
      rw [hstep, List.filterMap_cons, hcx]
      have g1 : GoodL L { e with queue := (nb, x) :: e.queue, rem := setRem e.rem nb x (some r) }
          (t.addSL [SL.Op.copy (slot L b x) (slot L nb x)]) d :=
        copy1_good g hb hnb hx hr hnx hn (Nat.le_refl _) hrem
      refine (ih { e with queue := (nb, x) :: e.queue, rem := setRem e.rem nb x (some r) } _ hnd'.2 (fun a ha => ?_) hn g1).congr rfl rfl (by simp [Tr2.addSL])
      obtain ⟨h1, h2, h3⟩ := h a (List.mem_cons_of_mem _ ha)
      rw [hrem, hrem, if_neg (fun h : b = nb ∧ a = x => hne h.1.symm), if_neg (fun h : nb = nb ∧ a = x => hnd'.1 (h.2 ▸ ha))]
      exact ⟨h1, h2, h3⟩

end Vata.LEC2
