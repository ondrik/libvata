import Vata.Basic
import Vata.Proofs.SatTotal
/-! The profile engine `sat` / `inclRef` of `Basic.lean` is exact for every verdict it returns (`inclRef_iff`): every stored
profile is the profile of a tree (`sat_sound`), and a closed set covers every tree on which `A` has a run (`cov_of_closed`).
`step` closes under the symbols of `A` only; that is enough, because a tree on which `A` has no run is no counterexample
(`rule_of_reach_ne`).  `sat` is the generic loop `Total.gsat` of `Proofs/SatTotal.lean`, hence the import. -/
namespace Vata

theorem SetEq.refl (l : List Nat) : SetEq l l := fun _ => Iff.rfl
theorem SetEq.symm {l l' : List Nat} (h : SetEq l l') : SetEq l' l := fun x => (h x).symm
theorem SetEq.trans {a b c : List Nat} (h : SetEq a b) (h' : SetEq b c) : SetEq a c := fun x => (h x).trans (h' x)
theorem ProfEq.symm {p p' : Prof} (h : ProfEq p p') : ProfEq p' p := ⟨h.1.symm, h.2.symm⟩
theorem ProfEq.trans {a b c : Prof} (h : ProfEq a b) (h' : ProfEq b c) : ProfEq a c := ⟨h.1.trans h'.1, h.2.trans h'.2⟩

def Gen (A B : TA) (P : List Prof) : Prop := ∀ p, p ∈ P → ∃ t, ProfEq p (profOf A B t)

theorem memP_iff {P : List Prof} {p : Prof} : memP P p = true ↔ ∃ p', p' ∈ P ∧ ProfEq p' p := by
  simp [memP, List.any_eq_true, profEqB_iff]

theorem matchKids_length {qs : List Nat} {ss : List (List Nat)} (h : matchKids qs ss = true) : qs.length = ss.length :=
  all2_length (matchKids_iff.mp h)

/-- where `A` has a run on `f(ts)`, the symbol `f` occurs in `A` with the arity of `ts`, and `A` has a run on every child -/
theorem rule_of_reach_ne {A : TA} {f : Nat} {ts : List Tree} (hne : reach A (.node f ts) ≠ []) :
    (f, ts.length) ∈ symAr A ∧ ∀ t, t ∈ ts → reach A t ≠ [] := by
  obtain ⟨q, hq⟩ := List.exists_mem_of_ne_nil _ hne
  obtain ⟨r, hr, hs, hk, _⟩ := mem_reach_node.mp hq
  refine ⟨List.mem_map.mpr ⟨r, hr, by rw [hs, all2_length hk]⟩, fun t ht he => ?_⟩
  obtain ⟨k, _, hkt⟩ := hk.exists_left t ht
  rw [he] at hkt
  cases hkt

/-! ### trees seen through a bottom-up evaluation into `α`, up to a relation `E`

The engines store, instead of a tree, what a bottom-up evaluation `prof` makes of it (a tuple of `reach`-sets), and compute
it for `f(t₁..tₙ)` from stored values for the `tᵢ` by a function `post`.  `Computes` says that this is right up to `E`; it
is all the two tree engines need to know about their profiles. -/
namespace Prof
variable {α : Type} {E : α → α → Prop} {prof : Tree → α} {post : Nat → List α → α}

def Computes (E : α → α → Prop) (prof : Tree → α) (post : Nat → List α → α) : Prop :=
  ∀ f ps ts, All2 (fun p t => E p (prof t)) ps ts → E (post f ps) (prof (.node f ts))

theorem choose {β γ : Type} {R : β → γ → Prop} {S : β → Prop} : ∀ (ts : List γ), (∀ t, t ∈ ts → ∃ p, S p ∧ R p t) →
    ∃ ps, (∀ p, p ∈ ps → S p) ∧ All2 R ps ts
  | [], _ => ⟨[], fun _ h => (nomatch h), All2.nil⟩
  | t :: ts, h => by
    obtain ⟨p, hp, hpt⟩ := h t List.mem_cons_self
    obtain ⟨ps, hps, hal⟩ := choose ts fun t ht => h t (List.mem_cons_of_mem _ ht)
    exact ⟨p :: ps, List.forall_mem_cons.mpr ⟨hp, hps⟩, .cons hpt hal⟩

theorem chooseR {β γ : Type} {R : β → γ → Prop} : ∀ (ps : List β), (∀ p, p ∈ ps → ∃ t, R p t) → ∃ ts, All2 R ps ts
  | [], _ => ⟨[], All2.nil⟩
  | p :: ps, h => by
    obtain ⟨t, hpt⟩ := h p List.mem_cons_self
    obtain ⟨ts, hal⟩ := chooseR ps fun p hp => h p (List.mem_cons_of_mem _ hp)
    exact ⟨t :: ts, .cons hpt hal⟩

/-- `post` of values of trees is the value of a tree -/
theorem Computes.gen (hc : Computes E prof post) (f : Nat) {ps : List α} (h : ∀ p, p ∈ ps → ∃ t, E p (prof t)) :
    ∃ t, E (post f ps) (prof t) := by
  obtain ⟨ts, hal⟩ := chooseR ps h
  exact ⟨_, hc f ps ts hal⟩

/-- a list of values closed under `post`, as far as the trees in `rel` need it, holds the value of every tree in `rel` -/
theorem Computes.cover (hc : Computes E prof post) (htr : ∀ {a b c}, E a b → E b c → E a c) {P : List α}
    {rel : Tree → Prop}
    (hcl : ∀ f ts, rel (.node f ts) → (∀ t, t ∈ ts → rel t) ∧
      ∀ ps, ps.length = ts.length → (∀ p, p ∈ ps → p ∈ P) → ∃ p', p' ∈ P ∧ E p' (post f ps)) :
    ∀ t, rel t → ∃ p, p ∈ P ∧ E p (prof t) := by
  refine tree_induction fun f ts ih hr => ?_
  obtain ⟨hts, hpost⟩ := hcl f ts hr
  obtain ⟨ps, hps, hal⟩ := choose (S := (· ∈ P)) ts fun t ht => ih t ht (hts t ht)
  obtain ⟨p', hp', he⟩ := hpost ps (all2_length hal) hps
  exact ⟨p', hp', htr he (hc f ps ts hal)⟩

end Prof

/-! ### the pair engine is the generic loop, on profiles that `postProf` computes -/

namespace Total

theorem memP_eq (P : List Prof) (p : Prof) : memP P p = gmem profEqB P p := rfl

theorem addNew_eq (N P : List Prof) : addNew P N = gaddNew profEqB P N := by
  induction N generalizing P with
  | nil => rfl
  | cons p ps ih => simp only [addNew, gaddNew, memP_eq, ih]

theorem closedB_eq (A B : TA) (P : List Prof) : closedB A B P = gclosed profEqB (step A B) P := rfl

theorem sat_eq (A B : TA) (fuel : Nat) (P : List Prof) : sat A B fuel P = gsat profEqB (step A B) fuel P := by
  induction fuel generalizing P with
  | zero => rw [sat, gsat, closedB_eq]
  | succ n ih => rw [sat, gsat, closedB_eq, addNew_eq, ih]

end Total

theorem computes_pair (A B : TA) : Prof.Computes ProfEq (profOf A B) (postProf A B) := fun f _ _ h =>
  ⟨post_setEq_reach A f (All2.map_left _ (h.mono fun _ _ _ _ e => e.1)),
    post_setEq_reach B f (All2.map_left _ (h.mono fun _ _ _ _ e => e.2))⟩

theorem mem_tuples {P : List Prof} {n : Nat} {ps : List Prof} :
    ps ∈ tuples P n ↔ ps.length = n ∧ ∀ p, p ∈ ps → p ∈ P :=
  mem_tuples_of_eqns (T := tuples P) rfl fun _ => rfl

theorem mem_step {A B : TA} {P : List Prof} {p : Prof} :
    p ∈ step A B P ↔ ∃ f ps, (f, ps.length) ∈ symAr A ∧ (∀ x, x ∈ ps → x ∈ P) ∧ p = postProf A B f ps := by
  simp only [step, List.mem_flatMap, List.mem_map, mem_tuples]
  constructor
  · rintro ⟨⟨f, n⟩, hfa, ps, ⟨rfl, hps⟩, rfl⟩; exact ⟨f, ps, hfa, hps, rfl⟩
  · rintro ⟨f, ps, hfa, hps, rfl⟩; exact ⟨(f, ps.length), hfa, ps, ⟨rfl, hps⟩, rfl⟩

theorem gen_step (A B : TA) (P : List Prof) (hP : Gen A B P) : ∀ p, p ∈ step A B P → ∃ t, ProfEq p (profOf A B t) := by
  intro p hp
  obtain ⟨f, ps, _, hps, rfl⟩ := mem_step.mp hp
  exact (computes_pair A B).gen f fun p hp => hP p (hps p hp)

theorem sat_sound (A B : TA) (fuel : Nat) (P R : List Prof) (hP : Gen A B P)
    (h : sat A B fuel P = some R) : Gen A B R ∧ closedB A B R = true := by
  rw [Total.sat_eq] at h
  exact Total.gsat_inv (Gen A B) (Total.gsat_gen _ (gen_step A B)) fuel P R hP h

/-! ### completeness of a closed set -/

theorem cov_of_closed (A B : TA) (P : List Prof) (hc : closedB A B P = true) :
    ∀ t : Tree, reach A t ≠ [] → ∃ p, p ∈ P ∧ ProfEq p (profOf A B t) := by
  refine (computes_pair A B).cover ProfEq.trans fun f ts hne => ?_
  obtain ⟨hfa, hts⟩ := rule_of_reach_ne hne
  exact ⟨hts, fun ps hl hps => memP_iff.mp (List.all_eq_true.mp hc _ (mem_step.mpr ⟨f, ps, hl ▸ hfa, hps, rfl⟩))⟩

theorem covL_of_closed (A B : TA) (P : List Prof) (hc : closedB A B P = true) :
    ∀ ts : List Tree, (∀ s, s ∈ reachL A ts → s ≠ []) →
      ∃ ps : List Prof, (∀ p, p ∈ ps → p ∈ P) ∧ All2 SetEq (ps.map (·.1)) (reachL A ts) ∧ All2 SetEq (ps.map (·.2)) (reachL B ts) := by
  intro ts h
  obtain ⟨ps, hps, hal⟩ := Prof.choose (S := (· ∈ P)) ts fun t ht =>
    cov_of_closed A B P hc t (h _ (by rw [reachL_eq_map]; exact List.mem_map_of_mem ht))
  exact ⟨ps, hps, All2.map_left _ (hal.mono fun _ _ _ _ e => e.1).reachL,
    All2.map_left _ (hal.mono fun _ _ _ _ e => e.2).reachL⟩

theorem inclRef_iff (A B : TA) (fuel : Nat) (b : Bool) (h : inclRef A B fuel = some b) :
    b = true ↔ ∀ t, accepts A t = true → accepts B t = true := by
  simp only [inclRef, Option.map_eq_some_iff] at h
  obtain ⟨R, hR, rfl⟩ := h
  obtain ⟨hgen, hcl⟩ := sat_sound A B fuel [] R (by intro p hp; simp at hp) hR
  simp only [Bool.not_eq_true', List.any_eq_false]
  constructor
  · intro hb t hA
    have hne : reach A t ≠ [] := by
      intro he; simp [accepts, accepting, he] at hA
    obtain ⟨p, hp, he⟩ := cov_of_closed A B R hcl t hne
    have := hb p hp
    simp only [badProf, Bool.and_eq_true, Bool.not_eq_true', not_and, Bool.not_eq_false] at this
    have h1 : accepting A p.1 = true := by rw [accepting_congr A he.1]; exact hA
    have h2 := this h1
    rw [accepting_congr B he.2] at h2; exact h2
  · intro hall p hp
    obtain ⟨t, he⟩ := hgen p hp
    simp only [badProf, Bool.and_eq_true, Bool.not_eq_true', not_and, Bool.not_eq_false]
    intro h1
    rw [accepting_congr A he.1] at h1
    rw [accepting_congr B he.2]
    exact hall t h1

#print axioms inclRef_iff
end Vata
