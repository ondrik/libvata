import Vata.NfaOps
/-!
# Word automata WITH their start symbols – executable model (properties C10, C09, C13)

`ExplicitFiniteAutCore` (`src/explicit_finite_aut_core.hh`) keeps, besides the set `startStates_`, a map
`startStateToSymbols_ : state ↦ set of symbols` (the nullary Timbuk rules `sym -> q`).  The model `Vata.W.NFA` has no such
component; `NFAS` adds it, **as an extension**: `NFAS.toNFA` is the projection to the automaton without symbols, and every
operation below is *the operation of `Vata/NfaOps.lean` on `toNFA`* paired with what the C++ does to the map, so that
`(op A).toNFA = op' A.toNFA` holds by `rfl` and the language theorems of `Vata/Proofs/NfaOps.lean` transfer.

## what the code does to the map (read off the current sources, after the `fix:` commits dcf3cbe6, 2c042d21, bb6bc616, 3dfc5d43)

* The map is an `std::unordered_map`; every write is `insert` (never overwrites) or, in `SetStateStart`, `find` + add to the
  set.  **Nothing ever erases an entry.**  The model is an association list in which the FIRST entry of a key counts
  (`smFind`); appending is then exactly `insert`.
* `SetStateStart (q, a)`: `q` becomes a start state; `a` is added to the entry of `q` (created empty if absent) – also when
  the entry is a *stale* one (`q` not a start state, see below).
* `SetExistingStateStart (q, S)`: `q` becomes a start state; `insert (q, S)` – ignored if `q` has an entry (the `assert`
  that forbids it is compiled out).
* `GetStartSymbols (q)`: the entry of `q`; undefined behaviour without one (`assert` compiled out).  `symsOf` returns `[]`
  then; `Props.C10_start_history_keys` shows that every start state has an entry in every history.
* copy construction / assignment copy the map; `ReindexStates (dst, f)` reads ONLY the entries of the start states:
  `dst.SetExistingStateStart (f s, GetStartSymbols (s))`; `Union` reindexes both operands into one fresh automaton.
* `UnionDisjointStates (A, B)`: copy of `A`, then `insert` of ALL entries of `B` (stale ones included; an entry of `A` wins).
* `Reverse`: the new map is the WHOLE old map plus an empty entry for every final state (= new start state) that has none.
  So the old start states keep their entries although they are (in general) no start states any more – **stale entries** –
  and a new start state that has an old entry shows it.  `Reverse ∘ Reverse` therefore restores the symbols, and
  `RemoveUselessStates` (= unreachable ∘ reverse ∘ unreachable ∘ reverse, as coded) keeps them only because of this.
* `RemoveUnreachableStates`: the map is copied whole (entries of removed states stay).
* `Intersection`: every pair of start states becomes a start state of the product carrying the UNION of the two components'
  sets; then `RemoveUselessStates`.
* `GetCandidateTree`: every start state scanned is re-registered with its set; then `RemoveUselessStates`.
* dump: for every start state, one nullary rule per symbol; **for an empty set one rule with the name `x`** (so an automaton
  whose start state has no symbols is reloaded with the symbol `x` there).  Entries of non-start states are not written.
* load: `SetStateStart` for every nullary rule.

Stale entries are invisible to `GetStartSymbols` on start states and to the dump, but the three writers that do not start
from a fresh map see them: `SetStateStart`, `SetExistingStateStart`, `UnionDisjointStates` (examples `NfaSEx.stale_*` in
`Vata/Proofs/NfaStart.lean`; they are reproduced by the real class).

Core Lean only, total, executable.
-/
namespace Vata
open Vata.W

/-- `startStateToSymbols_`: association list, the first entry of a key counts -/
abbrev SymMap := List (Nat × List Nat)

/-- `startStateToSymbols_.find (q)` -/
def smFind : SymMap → Nat → Option (List Nat)
  | [], _ => none
  | e :: r, q => if e.1 = q then some e.2 else smFind r q

/-- `startStateToSymbols_.count (q)` -/
def smHas (m : SymMap) (q : Nat) : Bool := (smFind m q).isSome

/-- the set stored for `q` (`[]` without an entry) -/
def smGet (m : SymMap) (q : Nat) : List Nat := (smFind m q).getD []

/-- `insert (make_pair (q, S))`: no effect when `q` has an entry -/
def smInsert (m : SymMap) (q : Nat) (S : List Nat) : SymMap := if smHas m q then m else m ++ [(q, S)]

/-- insertion into a set kept as a list -/
def insN (l : List Nat) (x : Nat) : List Nat := if l.contains x then l else l ++ [x]

/-- the map part of `SetStateStart (q, a)`: add `a` to the entry of `q`, created if absent -/
def smAddSym : SymMap → Nat → Nat → SymMap
  | [], q, a => [(q, [a])]
  | e :: r, q, a => if e.1 = q then (e.1, insN e.2 a) :: r else e :: smAddSym r q a

/-- a word automaton with its start-symbol map -/
structure NFAS extends NFA where
  startSyms : SymMap

namespace NFAS

/-- `GetStartSymbols (q)` (defined behaviour only when `q` has an entry; every start state has one,
`Props.C10_start_history_keys`) -/
def symsOf (A : NFAS) (q : Nat) : List Nat := smGet A.startSyms q

/-- the protocol number of the symbol name `x`, which the dump writes for a start state without symbols -/
def xSym : Nat := 12

/-- the symbols the dump writes for the start state `q` -/
def dumpSyms (A : NFAS) (q : Nat) : List Nat := if (A.symsOf q).isEmpty then [xSym] else A.symsOf q

/-- the automaton with the entries of the non-start states dropped (what the API and the dump can see) -/
def clean (A : NFAS) : NFAS := ⟨A.toNFA, A.startSyms.filter (fun e => A.start.contains e.1)⟩

end NFAS

/-! ### construction and mutation -/

def nfasEmpty : NFAS := ⟨⟨[], [], []⟩, []⟩

/-- `AddTransition (p, a, q)` -/
def nfasAddTrans (A : NFAS) (p a q : Nat) : NFAS := ⟨⟨A.start, A.final, A.trans ++ [(p, a, q)]⟩, A.startSyms⟩

/-- `SetStateFinal (q)` -/
def nfasSetFinal (A : NFAS) (q : Nat) : NFAS := ⟨⟨A.start, insN A.final q, A.trans⟩, A.startSyms⟩

/-- `SetStateStart (q, a)` -/
def nfasSetStart (A : NFAS) (q a : Nat) : NFAS := ⟨⟨insN A.start q, A.final, A.trans⟩, smAddSym A.startSyms q a⟩

/-- `SetExistingStateStart (q, S)` -/
def nfasSetExistingStart (A : NFAS) (q : Nat) (S : List Nat) : NFAS :=
  ⟨⟨insN A.start q, A.final, A.trans⟩, smInsert A.startSyms q S⟩

/-- what the harness builds for `def:T|S|F`: transitions, then `SetStateStart` for every (state, symbol) pair, then the final
states -/
def nfasBuild (trans : List (Nat × Nat × Nat)) (starts : List (Nat × Nat)) (finals : List Nat) : NFAS :=
  finals.foldl nfasSetFinal (starts.foldl (fun A p => nfasSetStart A p.1 p.2) ⟨⟨[], [], trans⟩, []⟩)

/-! ### `ReindexStates`, `Union`, `UnionDisjointStates` -/

/-- the entries `ReindexStates` writes: one per start state, under its new name -/
def nfasMapSyms (f : Nat → Nat) (A : NFAS) : SymMap := A.start.map (fun s => (f s, A.symsOf s))

/-- `ReindexStates` into a fresh automaton -/
def nfasMap (f : Nat → Nat) (A : NFAS) : NFAS := ⟨nfaMap f A.toNFA, nfasMapSyms f A⟩

/-- `UnionDisjointStates` -/
def nfasUnionDisjoint (A B : NFAS) : NFAS := ⟨nfaUnionDisjoint A.toNFA B.toNFA, A.startSyms ++ B.startSyms⟩

/-- `Union` with the two translation maps given -/
def nfasUnionWith (fA fB : Nat → Nat) (A B : NFAS) : NFAS :=
  ⟨nfaUnionWith fA fB A.toNFA B.toNFA, nfasMapSyms fA A ++ nfasMapSyms fB B⟩

/-- `Union` with the numbering of `nfaUnion` -/
def nfasUnion (A B : NFAS) : NFAS :=
  nfasUnionWith (fun q => (nfaStateList A.toNFA).idxOf q)
    (fun q => (nfaStateList A.toNFA).length + (nfaStateList B.toNFA).idxOf q) A B

/-! ### `Reverse`, `RemoveUnreachableStates`, `RemoveUselessStates` -/

/-- the map of `Reverse`: the whole old map, plus an empty entry for every new start state without one -/
def nfasReverseSyms (A : NFAS) : SymMap :=
  A.startSyms ++ ((A.final.filter (fun f => !smHas A.startSyms f)).map (fun f => (f, [])))

def nfasReverse (A : NFAS) : NFAS := ⟨nfaReverse A.toNFA, nfasReverseSyms A⟩

def nfasRemoveUnreachable (A : NFAS) : NFAS := ⟨nfaRemoveUnreachable A.toNFA, A.startSyms⟩

/-- as coded: `RemoveUnreachableStates().Reverse().RemoveUnreachableStates().Reverse()` -/
def nfasRemoveUseless (A : NFAS) : NFAS :=
  nfasReverse (nfasRemoveUnreachable (nfasReverse (nfasRemoveUnreachable A)))

/-! ### `Intersection` -/

/-- the entries the product construction writes: one per pair of start states, the union of the components' sets -/
def nfasProdSyms (A B : NFAS) (m : Nat × Nat → Nat) : SymMap :=
  (nfaStartPairs A.toNFA B.toNFA).map (fun p => (m p, A.symsOf p.1 ++ B.symsOf p.2))

/-- the product on the set `D` of pairs numbered by `m`, before `RemoveUselessStates` -/
def nfasProdOn (A B : NFAS) (D : List (Nat × Nat)) (m : Nat × Nat → Nat) : NFAS :=
  ⟨nfaProdOn A.toNFA B.toNFA D m, nfasProdSyms A B m⟩

/-- `Intersection` (see `nfaIntersection`) -/
def nfasIntersection (A B : NFAS) (fuel : Nat) : Option NFAS :=
  let D := nfaPairIter A.toNFA B.toNFA fuel (nfaStartPairs A.toNFA B.toNFA).eraseDups
  if nfaPairClosedB A.toNFA B.toNFA D then some (nfasRemoveUseless (nfasProdOn A B D (fun p => D.idxOf p))) else none

def nfasIsect (A B : NFAS) : NFAS :=
  (nfasIntersection A B (nfaJointAll A.toNFA B.toNFA).length).getD nfasEmpty

/-! ### `GetCandidateTree` -/

/-- the automaton built before the final `RemoveUselessStates`: every start state scanned is registered with its set -/
def nfasCandidateRaw (A : NFAS) : NFAS :=
  ⟨nfaCandidateRaw A.toNFA, (nfaCandidateRaw A.toNFA).start.map (fun q => (q, A.symsOf q))⟩

def nfasCandidate (A : NFAS) : NFAS := nfasRemoveUseless (nfasCandidateRaw A)

/-! ### dump and load -/

/-- the part of an `AutDescription` the word automata use: final state names, nullary rules `sym -> q` as `(sym, q)`, unary
rules `sym (p) -> q` as `(p, sym, q)`.  State names are numbers; `std::set` semantics (read as sets). -/
structure NDesc where
  final : List Nat
  nullary : List (Nat × Nat)
  unary : List (Nat × Nat × Nat)

/-- `dumpToAutDescInternal` with the state back translator `g` -/
def nfasDump (g : Nat → Nat) (A : NFAS) : NDesc :=
  ⟨A.final.map g, A.start.flatMap (fun s => (A.dumpSyms s).map (fun a => (a, g s))),
    A.trans.map (fun e => (g e.1, e.2.1, g e.2.2))⟩

/-- `loadFromAutDescInternal` with the state translator `f` -/
def nfasLoad (f : Nat → Nat) (d : NDesc) : NFAS :=
  d.nullary.foldl (fun A r => nfasSetStart A (f r.2) r.1)
    ⟨⟨[], d.final.map f, d.unary.map (fun e => (f e.1, e.2.1, f e.2.2))⟩, []⟩

/-- the translator `LoadFromAutDesc (desc, stateDict)` builds for an empty dictionary: names are numbered in the order of
their first translation (final states, then the rules) -/
def NDesc.names (d : NDesc) : List Nat :=
  (d.final ++ d.nullary.map (·.2) ++ d.unary.flatMap (fun e => [e.1, e.2.2])).eraseDups

def nfasLoadFresh (d : NDesc) : NFAS := nfasLoad (fun n => d.names.idxOf n) d

/-! ### what can be observed -/

/-- Boolean set equality of symbol lists -/
def symSetEqB (a b : List Nat) : Bool := a.all b.contains && b.all a.contains

/-- `A` and `B` cannot be told apart through `GetStartStates`, `GetStartSymbols` on start states, the dump:
same automaton without symbols (as sets) and the same symbol set at every start state -/
def nfasObsEqB (A B : NFAS) : Bool :=
  symSetEqB A.start B.start && symSetEqB A.final B.final &&
  A.trans.all B.trans.contains && B.trans.all A.trans.contains &&
  A.start.all (fun q => symSetEqB (A.symsOf q) (B.symsOf q))

end Vata
