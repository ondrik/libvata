import Vata.Proofs.TimbukEval
import Vata.Properties.C13_LoadDump
/-!
# C13 – Timbuk text round-trips and malformed text is rejected by an exception

> For every automaton description, parsing its serialisation gives back the same final states and rules, and for every
> automaton in any of the four encodings, dumping it and loading the text again yields the same rules and final states
> under the same state names. For any input text whatsoever the parser and the loaders either succeed or throw a
> standard exception; they never crash, hang or corrupt memory.

(quantifier: for all automaton descriptions (any state/symbol names without whitespace and reserved punctuation, nullary
rules written with or without parentheses, empty sections) and for all byte strings offered as input text)

## How the statement is read into the model

* **Specification (L0).**  An automaton description is a `Vata.AutDesc` (`Vata/Timbuk.lean`: name, symbols with ranks,
  states, final states, transitions `(children, symbol, parent)`, all lists of `String`s read as sets).  "Gives back the
  same final states and rules" is `d'.final ≈ d.final ∧ d'.trans ≈ d.trans`, where `≈` on lists is `Timbuk.SameSet`
  (the same elements; the C++ fields are `std::set`s).  The side condition of the quantifier, "names without whitespace
  and reserved punctuation", is `AutDesc.WellFormed`; `C13_wellFormed_characterisation` and
  `C13_goodName_characterisation` spell it out: every symbol and state name is non-empty and contains no white-space
  character, none of `( ) , :` and no substring `->`; the automaton name (possibly empty) has no white space; ranks are
  C++ `int`s.
* **Model of the code.**  `parseTimbuk : String → Except String AutDesc` is a line-by-line transcription of
  `parse_timbuk` (`src/timbuk_parser-nobison.cc`: `split_delim`, `trim`, `read_word`, `parse_colonned_token`,
  `Convert::FromString<int>`, the header keywords, the analysis of a transition line, every `throw` as `.error` with
  the message) and `serialize : AutDesc → String` of `TimbukSerializer::Serialize`; both are wrappers around
  `Timbuk.parseC` / `Timbuk.serializeC` on `List Char`, with `std::set`s as sorted duplicate-free lists (`Timbuk.norm`).
  `T.splitDelim` (`Vata/Split.lean`) is `split_delim`.  (`Vata/Parse.lean` is the line protocol of the test harness, not
  a subject of this property.)
* **Between description and automaton.**  The text layer is this file.  The layer `AutDescription ↔ automaton` of the explicit
  tree encoding – `LoadFromAutDesc` / `DumpToAutDesc`, the state dictionary (`TwoWayDict`) with its weak / strict translators, the
  alphabet's `(name, rank) ↦ number` dictionary – is `Vata/LoadDump.lean` with `Vata/Properties/C13_LoadDump.lean`;
  `C13_statement_explicit` at the end of this file composes the two layers.  The classes themselves (`TwoWayDict`, the
  translators, `Convert::FromString` / `ToString`, `SymbolicVarAsgn`) are modelled as coded in `Vata/Glue.lean`
  (`Vata/Properties/Util_Glue.lean`); the word automata with their start symbols in `Vata/NfaStart.lean`
  (`C10_start_dump_load`); the tables of the two BDD encodings in `Vata/BddAbs.lean` / `Vata/BddAbsTD.lean` (`C08_load_dump`).
* **The exception clause** is read as: the model returns `.error msg` exactly where the C++ throws.  `parseTimbuk` is a
  total Lean function into `Except`, which holds *by construction* (every Lean function terminates and there is no
  memory to corrupt); this typing fact is **not** stated as a theorem, and it says nothing about crashes or hangs of the
  C++ (see the end of the file).
-/
namespace Vata.Props
open Vata.Timbuk

/-! ### parse ∘ serialise -/

/-- parsing the serialisation of a well-formed description succeeds and gives back the same final states and the same
rules.  The hypothesis is needed: a name containing white space, `( ) , :` or `->`, or an empty one, is cut differently
by the parser (or the text is rejected, `TimbukEx.exBad` below). -/
theorem C13_parse_serialize (d : AutDesc) (hwf : d.WellFormed) :
    ∃ d', parseTimbuk (serialize d) = .ok d' ∧ d'.final ≈ d.final ∧ d'.trans ≈ d.trans :=
  parse_serialize d hwf

/-- nullary to ternary rules, names with `-` and `>`, duplicates, unsorted lists, an empty final section, no name -/
example : TimbukEx.exD.WellFormed ∧ TimbukEx.exD.final = [] ∧ TimbukEx.exD.trans.length = 6 := ⟨TimbukEx.exD_wf, rfl, rfl⟩
example : TimbukEx.exE.WellFormed ∧ TimbukEx.exE.final = ["r", "q", "r"] := ⟨TimbukEx.exE_wf, rfl⟩
/-- the hypothesis cannot be dropped: the serialisation of a description with the state name `q:x` is rejected
(`decide +kernel`: the word loop `readWords` is defined by well-founded recursion, which only the kernel unfolds) -/
example : ¬ TimbukEx.exBad.WellFormed ∧ TimbukTest.rejects (serialize TimbukEx.exBad) = true :=
  ⟨by decide +kernel, by rw [serialize, rejects_ofList]; decide +kernel⟩

/-- the full version: every component comes back – the sets of symbols (with ranks), states, final states and rules, and
the name, except that the empty name is written, and therefore read, as `anonymous` -/
theorem C13_parse_serialize_full (d : AutDesc) (hwf : d.WellFormed) :
    ∃ d', parseTimbuk (serialize d) = .ok d' ∧
      d'.name = (if d.name.isEmpty then "anonymous" else d.name) ∧
      d'.symbols ≈ d.symbols ∧ d'.states ≈ d.states ∧ d'.final ≈ d.final ∧ d'.trans ≈ d.trans :=
  parse_serialize_full d hwf

example : TimbukEx.exD.WellFormed ∧ TimbukEx.exD.name.isEmpty = true ∧ TimbukEx.exE.name.isEmpty = false :=
  ⟨TimbukEx.exD_wf, by decide +kernel, by decide +kernel⟩
/-- the round trip of `exE`, executed: the lists come back in `std::set` order without duplicates -/
example : (parseTimbuk (serialize TimbukEx.exE)).toOption = some ⟨"A-1", [("a", 0), ("f", 2)], ["q", "r"], ["q", "r"],
    [([], "a", "q"), (["q", "r"], "f", "r"), (["r", "r"], "f", "q")]⟩ := TimbukEx.exE_roundtrip

/-- the exact result on the `List Char` level: the parser returns precisely `Timbuk.roundTrip d` – the name
(`anonymous` for the empty one) and, for each of the four sets, the `std::set` iteration order (`norm`) of the
`std::set` iteration order in which the serialiser wrote it -/
theorem C13_parse_serialize_exact (d : Timbuk.Desc) (hwf : d.wellFormed = true) :
    parseC (serializeC d) = .ok (roundTrip d) :=
  parseC_serializeC d (wf_of_wellFormed hwf)

example : (ofS TimbukEx.exE).wellFormed = true := TimbukEx.exE_wf
example : roundTrip (ofS TimbukEx.exE) = ofS ⟨"A-1", [("a", 0), ("f", 2)], ["q", "r"], ["q", "r"],
    [([], "a", "q"), (["q", "r"], "f", "r"), (["r", "r"], "f", "q")]⟩ := by decide +kernel

/-! ### the side condition of the round trip, spelled out -/

/-- `WellFormed` is exactly: no white space in the automaton name; every symbol name good and every rank an `int`; every
state name, final-state name, and every child, symbol and parent of a rule good -/
theorem C13_wellFormed_characterisation (d : AutDesc) : d.WellFormed ↔
    (∀ c ∈ d.name.toList, isSpace c = false) ∧
    (∀ p ∈ d.symbols, goodName p.1.toList = true ∧ intMin ≤ p.2 ∧ p.2 ≤ intMax) ∧
    (∀ q ∈ d.states, goodName q.toList = true) ∧
    (∀ q ∈ d.final, goodName q.toList = true) ∧
    (∀ t ∈ d.trans, (∀ k ∈ t.1, goodName k.toList = true) ∧ goodName t.2.1.toList = true ∧
      goodName t.2.2.toList = true) :=
  AutDesc.wellFormed_iff d

example : TimbukEx.exD.WellFormed ∧ ¬ TimbukEx.exBad.WellFormed := ⟨TimbukEx.exD_wf, by decide +kernel⟩

/-- a good name is exactly: non-empty, no white space, none of `( ) , :`, and no substring `->` -/
theorem C13_goodName_characterisation (s : Str) : goodName s = true ↔
    s ≠ [] ∧ (∀ c ∈ s, isSpace c = false ∧ c ≠ '(' ∧ c ≠ ')' ∧ c ≠ ',' ∧ c ≠ ':') ∧
      ¬ ∃ p q, s = p ++ '-' :: '>' :: q :=
  goodName_iff s

example : goodName ">r".toList = true ∧ goodName "q-".toList = true ∧ goodName "a->b".toList = false ∧
    goodName "q:x".toList = false ∧ goodName "".toList = false ∧ goodName "f(x)".toList = false ∧
    goodName "a b".toList = false := by decide +kernel

/-! ### `split_delim` -/

/-- the first step of the parser inverts the last step of the serialiser: splitting at a delimiter a text that was joined
with that delimiter from delimiter-free pieces gives the pieces back (used with `'\n'` for the lines) -/
theorem C13_split_lines_inverse (dl : Char) (ps : List (List Char)) (hne : ps ≠ []) (hp : ∀ p, p ∈ ps → dl ∉ p) :
    T.splitDelim dl (T.joinWith dl ps) = ps :=
  T.splitDelim_joinWith dl ps hne hp

example : ([['a', 'b'], [], ['c']] : List (List Char)) ≠ [] ∧
    ∀ p, p ∈ ([['a', 'b'], [], ['c']] : List (List Char)) → '\n' ∉ p := by decide
example : T.joinWith '\n' [['a', 'b'], [], ['c']] = "ab\n\nc".toList := by rw [String.toList_ofList]; decide

/-! ### the model on text that no serialiser wrote (examples only, no theorem – see below) -/

/-- a nullary rule written with and without parentheses is the same rule; missing header sections are fine -/
example : parseTimbuk "Transitions\na() -> q\na -> q\nf(q, q)->q" =
    .ok ⟨"", [], [], [], [([], "a", "q"), (["q", "q"], "f", "q")]⟩ := parseTimbuk_ok (by decide +kernel)
/-- malformed text is answered by `.error` (the model of `throw`) -/
example : parseTimbuk "" = .error "parse_timbuk: Transitions not specified" := rfl
example : TimbukTest.rejects "Transitions\na(b -> q\n" = true ∧ TimbukTest.rejects "Transitions\na b -> q\n" = true ∧
    TimbukTest.rejects "Transitions\n-> q\n" = true := by
  rw [rejects_ofList, rejects_ofList, rejects_ofList]; decide +kernel

/-! ### text layer and dictionary layer together (explicit tree automaton) -/

/-- **the first two clauses of C13 for the explicit tree encoding, in one statement.**  For every well-formed description
`d`: (1) parsing its serialisation gives back the same final states and rules; (2) loading `d` (fresh dictionaries), dumping
the automaton to TEXT with the dictionaries of the load, loading that text again (fresh state dictionary, the alphabet as
the first load left it) and dumping once more yields the same final states and rules under the same state names; every step
of the chain succeeds -/
theorem C13_statement_explicit (d : AutDesc) (hwf : d.WellFormed) :
    (∃ d', parseTimbuk (serialize d) = .ok d' ∧ d'.final ≈ d.final ∧ d'.trans ≈ d.trans) ∧
    (∃ A sd yd txt A' sd' yd' d₃, loadTA d [] [] = .ok (A, sd, yd) ∧ dumpString A sd yd = .ok txt ∧
      loadString txt [] yd = .ok (A', sd', yd') ∧ dumpTA A' sd' yd' = .ok d₃ ∧
      d₃.final ≈ d.final ∧ d₃.trans ≈ d.trans) :=
  ⟨C13_parse_serialize d hwf, C13_text_roundtrip d hwf⟩

example : TimbukEx.exD.WellFormed ∧ TimbukEx.exE.WellFormed := ⟨TimbukEx.exD_wf, TimbukEx.exE_wf⟩

/-!
## closed since the last refresh of this file

* **"Dump / load through the four encodings … not modelled at all"** – closed for the **explicit tree automaton**
  (`Vata/Properties/C13_LoadDump.lean`, model `Vata/LoadDump.lean`): `C13_load_numbering`, `C13_dictionary_two_way`,
  `C13_load_dump_roundtrip`, `C13_load_dump_exact`, `C13_dump_text_load_dump`, `C13_text_roundtrip`, composed with the text
  layer in `C13_statement_explicit`; as a language equivalence: `C19_dump_reload_equivalent`.
  For the **explicit finite automaton** the round trip WITH several start symbols per state is `C10_start_load_spec`,
  `C10_start_dump_load` (`Vata/Properties/C10_StartSymbols.lean`; dictionaries abstracted to a pair of inverse functions).
  For the two **BDD encodings** the table level is closed – loading a rule list with `AddTransition` and reading the table back
  is the identity on rules and language (`C08_load_dump`, `C08_bu_load_dump`) – and so is the symbol encoding
  (`Util_Glue_asgn_ofNum_limits`: `SymbolicVarAsgn(16, f)` is the assignment of the table models;
  `Util_Glue_asgn_string_roundtrip`: string constructor and `ToString` are inverse, the constructor throws exactly on a
  character other than `0`, `1`, `X`).
* **The dictionary classes**: in every history inside its contract a `TwoWayDict` is a bijection between its two maps
  (`Util_Glue_dict_history`, `Util_Glue_dict_ctor_from_map`); `TranslatorWeak` is the lookup-or-create of the load model
  (`Util_Glue_weak_is_unionModel`, third component), stays injective for a fresh answer (`Util_Glue_weak_injective`);
  `TranslatorStrict` is a pure lookup that throws on a miss (`Util_Glue_strict_pure`).
* **`Convert::FromString<int>`** (the ranks of the `Ops` line): `FromString(ToString(x)) = x` for every integer type, and the
  exact set of accepted strings (`Util_Glue_convert_roundtrip`, `Util_Glue_convert_accepts`).
* **A piece of the robustness clause**, for the command line in front of the parser: `parseArguments` is total into
  "`Arguments` or `std::runtime_error`" and never reads outside `argv`; the `-o` loop never calls `substr` out of range
  (`Util_CliArgs_parse_total`, `Util_CliArgs_parse_in_bounds`, `Util_CliArgs_option_loop_in_range`) – theorems about the models
  of `cli/parse_args.cc`, compared with the real code token by token.

## not yet proved

* **Dump / load of the other three encodings as coded.**  `loadFromAutDescInternal` / `dumpToAutDescInternal` of the explicit
  finite automaton and of the two BDD encodings are different code (start-state symbols; symbols as bit vectors handed out
  by the symbol dictionary); what is proved for them is the level below (tables, start-symbol map, symbol assignment) with
  the dictionaries as parameters, not the loaders themselves.  For the explicit tree automaton the correspondence of
  `loadTA` / `dumpTA` with the C++ was probed on the examples of `Vata.LoadDumpTest` only, and which exception text comes
  first when several translations are missing is not modelled (hash order).
* **A pre-filled state dictionary** is unsafe: `LoadFromAutDesc (desc, stateDict)` restarts the state counter at 0
  (`C13_prefilled_state_dictionary_clash`, a finding; with the counter at the size of the dictionary the round trip holds,
  `C13_counter_at_size_roundtrip`).  The same pattern in `DiscontBinaryRelation(rel, dict)`: `BinRel.BinRelEx.counter_restarts_at_zero`.
  `TwoWayDict::Insert` outside its contract breaks the bijection silently under `NDEBUG` (`Util_Glue_dict_contract_needed`).
* **Robustness on arbitrary input** ("never crash, hang or corrupt memory", for all byte strings): a claim about the
  compiled C++ that no theorem about a Lean model can establish.  The model parser is total into `Except` by construction;
  there is no theorem that the model returns `.error` *exactly* on the texts on which the C++ throws (that is the
  correspondence check on generated and mutated inputs), and no general theorem characterising the rejected texts (e.g.
  "no `Transitions` line ⇒ `.error`") – only the executed examples above and the `#guard`s of `Vata/Timbuk.lean`.
* **Text not produced by the serialiser**: the round trip is `parse ∘ serialise` only.  There is no theorem for nullary
  rules written *with* parentheses, for other white-space layouts, section orders or repeated / missing sections
  (examples and `#guard`s only), and no theorem `serialise ∘ parse` (that re-serialising a parsed text yields a text that
  parses to the same description).
* Descriptions that are **not** `WellFormed` (empty names, names containing `( ) , :`, `->` or white space, ranks outside
  `int`): no statement; they do not round-trip in general (`TimbukEx.exBad`).
* `parseTimbukBytes` (the parser on raw bytes) has no theorem of its own; the byte ↦ code point embedding is described in
  `Vata/Timbuk.lean` only.
-/
end Vata.Props
