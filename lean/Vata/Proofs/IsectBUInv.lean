import Vata.Proofs.IsectBU
/-!
# Property C02 – `IntersectionBU`: the invariant of the work-list loop of the model (`Vata/IsectBU.lean`)

The loop is analysed once, for an ARBITRARY entry map that is `MapOk` (numbers below the size, injective), because
`IntersectionBU(lhs, rhs, &m)` may be called with a pre-filled map (`isectBUFrom`, `Vata/UnionIsectMaps.lean`).

A pair of rules is turned into a product rule exactly when all its children pairs are known BEFORE the tentative
insertion of the parent pair (the guard `isSelfLoopToNewState` and the `erase` make the tentative insertion
unobservable).  The completeness clause of the invariant `Ibf.PInv` speaks about POPPED pairs: for matching rules all of
whose children pairs have been popped and processed (`Ibu.Done`), the product rule has been written AND the parent entry
is on the stack or processed (`Ibf.Pend`).  This is where `stack.push_back(&*newProduct)` "whether or not the pair was
new" is used.  For the EMPTY entry map (`Ibu.BInv`) moreover entry `i` carries the number `i` (`Ibu.NumOk`) and every
entry of the map is on the stack or processed (both false for a pre-filled map); on an empty stack this implies
`buCertB`, hence `isectBU` returns whenever the loop ends within the fuel: the check cannot fail.
-/
namespace Vata
namespace Ibu
open Isx

theorem buInsert_some {m : PMap} {p : Nat × Nat} {n : Nat} (h : m.lookup p = some n) : buInsert m p = (m, n, false) := by
  simp only [buInsert, h]

theorem buInsert_none {m : PMap} {p : Nat × Nat} (h : m.lookup p = none) :
    buInsert m p = (m ++ [(p, m.length)], m.length, true) := by
  simp only [buInsert, h]

def NumOk (m : PMap) : Prop := ∀ (i : Nat) (e : (Nat × Nat) × Nat), m[i]? = some e → e.2 = i

theorem numOk_nil : NumOk [] := fun i e h => by simp at h

theorem numOk_snoc {m : PMap} (h : NumOk m) (p : Nat × Nat) : NumOk (m ++ [(p, m.length)]) := by
  intro i e he
  rw [List.getElem?_append] at he
  split at he
  · exact h i e he
  · rw [List.getElem?_singleton] at he
    split at he
    · cases he
      simp only
      omega
    · cases he

theorem pmapInjB_of_numOk {m : PMap} (h : NumOk m) : pmapInjB m = true := by
  simp only [pmapInjB, List.all_eq_true, Bool.or_eq_true, bne_iff_ne, beq_iff_eq]
  intro e he e' he'
  obtain ⟨i, hi⟩ := List.mem_iff_getElem?.mp he
  obtain ⟨j, hj⟩ := List.mem_iff_getElem?.mp he'
  by_cases hn : e.2 = e'.2
  · right
    have : i = j := by rw [← h i e hi, ← h j e' hj]; exact hn
    subst this
    rw [hi] at hj
    rw [Option.some.inj hj]
  · exact Or.inl hn

structure Ins (m : PMap) (p : Nat × Nat) (i : PMap × Nat × Bool) : Prop where
  ok : MapOk m → MapOk i.1
  num : NumOk m → NumOk i.1
  ext : Ext m i.1
  look : i.1.lookup p = some i.2.1
  look_new : ∀ x n, i.1.lookup x = some n → m.lookup x = some n ∨ (x = p ∧ n = i.2.1)

theorem ins (m : PMap) (p : Nat × Nat) : Ins m p (buInsert m p) := by
  cases hl : m.lookup p with
  | some n =>
    rw [buInsert_some hl]
    exact ⟨fun h => h, fun h => h, Ext.refl m, hl, fun x n hx => Or.inl hx⟩
  | none =>
    rw [buInsert_none hl]
    exact ⟨fun h => mapOk_snoc h p, fun h => numOk_snoc h p, ext_snoc p _, lookup_snoc_self hl _,
      fun x n hx => lookup_snoc_inv hx⟩

theorem buErase_snoc {m : PMap} {p : Nat × Nat} (h : m.lookup p = none) (v : Nat) : buErase (m ++ [(p, v)]) p = m := by
  unfold buErase
  rw [List.filter_append]
  have h1 : m.filter (fun e => !(e.1 == p)) = m := by
    rw [List.filter_eq_self]
    intro e he
    have hnd : p ∉ m.dom := lookup_none_iff.mp h
    have : e.1 ≠ p := fun hep => hnd (hep ▸ List.mem_map.mpr ⟨e, he, rfl⟩)
    simpa using this
  rw [h1]
  simp

theorem buKidsTr_some {m : PMap} {isNew : Bool} {par : Nat × Nat} (cs : List (Nat × Nat))
    (h : ∀ c, c ∈ cs → c ∈ m.dom ∧ (isNew = true → c ≠ par)) : buKidsTr m isNew par cs = some (cs.map (lookupF m)) := by
  induction cs with
  | nil => rfl
  | cons c cs ih =>
    obtain ⟨hd, hn⟩ := h c List.mem_cons_self
    obtain ⟨n, hl⟩ := mem_dom_iff.mp hd
    have hg : (isNew && c == par) = false := by
      cases isNew with
      | false => rfl
      | true => simpa using hn rfl
    rw [buKidsTr, hl]
    simp only [hg, ih (fun x hx => h x (List.mem_cons_of_mem _ hx)), List.map_cons, Option.map_some, lookupF_of hl]
    rfl

theorem buKidsTr_none {m : PMap} {isNew : Bool} {par : Nat × Nat} (cs : List (Nat × Nat))
    (h : ∃ c, c ∈ cs ∧ (c ∉ m.dom ∨ (isNew = true ∧ c = par))) : buKidsTr m isNew par cs = none := by
  induction cs with
  | nil => obtain ⟨c, hc, _⟩ := h; exact absurd hc List.not_mem_nil
  | cons c cs ih =>
    cases hl : m.lookup c with
    | none => simp only [buKidsTr, hl]
    | some n =>
      by_cases hg : (isNew && c == par) = true
      · simp only [buKidsTr, hl, hg, if_true]
      · obtain ⟨x, hx, hbad⟩ := h
        rcases List.mem_cons.mp hx with hxc | hxc
        · subst hxc
          rcases hbad with hb | ⟨hb1, hb2⟩
          · exact absurd (mem_dom_iff.mpr ⟨n, hl⟩) hb
          · rw [hb1, hb2] at hg; simp at hg
        · simp only [buKidsTr, hl, hg, ih ⟨x, hxc, hbad⟩, Option.map_none]
          rfl

/-- all children pairs are known: the product rule is added (w.r.t. the map after the insertion of the parent pair) and
the parent entry is pushed -/
theorem buProcPair_ready {r r' : Rule} {m : PMap} (st : List BUEntry) (rs : List Rule)
    (h : ∀ c, c ∈ r.kids.zip r'.kids → c ∈ m.dom) :
    buProcPair r r' m st rs = ((buInsert m (r.parent, r'.parent)).1,
      ((r.parent, r'.parent), (buInsert m (r.parent, r'.parent)).2.1) :: st,
      rs ++ [PRule (buInsert m (r.parent, r'.parent)).1 r r']) := by
  have I := ins m (r.parent, r'.parent)
  have hk : buKidsTr (buInsert m (r.parent, r'.parent)).1 (buInsert m (r.parent, r'.parent)).2.2 (r.parent, r'.parent)
      (r.kids.zip r'.kids) = some ((r.kids.zip r'.kids).map (lookupF (buInsert m (r.parent, r'.parent)).1)) := by
    apply buKidsTr_some
    intro c hc
    refine ⟨I.ext.dom (h c hc), ?_⟩
    intro hnew hcp
    cases hl : m.lookup (r.parent, r'.parent) with
    | some n => rw [buInsert_some hl] at hnew; cases hnew
    | none => exact lookup_none_iff.mp hl (hcp ▸ h c hc)
  unfold buProcPair
  simp only [hk]
  rw [PRule, lookupF_of I.look]

theorem buProcPair_notready {r r' : Rule} {m : PMap} (st : List BUEntry) (rs : List Rule)
    (h : ¬ ∀ c, c ∈ r.kids.zip r'.kids → c ∈ m.dom) : buProcPair r r' m st rs = (m, st, rs) := by
  obtain ⟨c, hc⟩ := Classical.not_forall.mp h
  obtain ⟨hc, hcd⟩ := Classical.not_imp.mp hc
  cases hl : m.lookup (r.parent, r'.parent) with
  | some n =>
    have hk : buKidsTr m false (r.parent, r'.parent) (r.kids.zip r'.kids) = none :=
      buKidsTr_none _ ⟨c, hc, Or.inl hcd⟩
    unfold buProcPair
    simp only [buInsert_some hl, hk]
    rfl
  | none =>
    have hk : buKidsTr (m ++ [((r.parent, r'.parent), m.length)]) true (r.parent, r'.parent) (r.kids.zip r'.kids) = none := by
      apply buKidsTr_none
      refine ⟨c, hc, ?_⟩
      by_cases hcp : c = (r.parent, r'.parent)
      · exact Or.inr ⟨rfl, hcp⟩
      · exact Or.inl (fun hd => (dom_snoc.mp hd).elim hcd hcp)
    unfold buProcPair
    simp only [buInsert_none hl, hk, if_true, buErase_snoc hl]

theorem buProcPair_leaf {r r' : Rule} {m : PMap} (st : List BUEntry) (rs : List Rule) (hk : r.kids = []) :
    buProcPair r r' m st rs = ((buInsert m (r.parent, r'.parent)).1,
      ((r.parent, r'.parent), (buInsert m (r.parent, r'.parent)).2.1) :: st,
      rs ++ [⟨r.sym, [], (buInsert m (r.parent, r'.parent)).2.1⟩]) := by
  unfold buProcPair
  rw [hk]
  rfl

theorem PRule_parent {m : PMap} {r r' : Rule} {n : Nat} (h : m.lookup (r.parent, r'.parent) = some n) :
    (PRule m r r').parent = n := by
  rw [PRule, lookupF_of h]

def Written (m : PMap) (st : List BUEntry) (rs : List Rule) (r r' : Rule) : Prop :=
  ∃ n, m.lookup (r.parent, r'.parent) = some n ∧ ((r.parent, r'.parent), n) ∈ st ∧ PRule m r r' ∈ rs

/-- what a batch of work on rule pairs that satisfy `Q` does to the map, the stack and the rules: an entry that is new
in the map has been pushed, a pushed entry is in the map and is the parent of a rule, a new rule is the product rule of
a pair of rules whose children pairs are known and whose parent entry has been pushed -/
structure Step (Q : Rule → Rule → Prop) (m : PMap) (st : List BUEntry) (rs : List Rule) (m' : PMap) (st' : List BUEntry)
    (rs' : List Rule) : Prop where
  ok : MapOk m → MapOk m'
  num : NumOk m → NumOk m'
  ext : Ext m m'
  st_sub : ∀ e, e ∈ st → e ∈ st'
  rs_sub : ∀ ρ, ρ ∈ rs → ρ ∈ rs'
  dom_new : ∀ p n, m'.lookup p = some n → m.lookup p = some n ∨ (p, n) ∈ st'
  st_new : ∀ e, e ∈ st' → e ∈ st ∨ (m'.lookup e.1 = some e.2 ∧ ∃ ρ, ρ ∈ rs' ∧ ρ.parent = e.2)
  rs_new : ∀ ρ, ρ ∈ rs' → ρ ∈ rs ∨ ∃ r r', Q r r' ∧ (∀ x, x ∈ r.kids.zip r'.kids → x ∈ m'.dom) ∧
    Written m' st' rs' r r' ∧ ρ = PRule m' r r'

variable {Q : Rule → Rule → Prop}

theorem Written.mono {m m' : PMap} {st st' : List BUEntry} {rs rs' : List Rule} {r r' : Rule}
    (w : Written m st rs r r') (s : Step Q m st rs m' st' rs') (hk : ∀ x, x ∈ r.kids.zip r'.kids → x ∈ m.dom) :
    Written m' st' rs' r r' ∧ PRule m' r r' = PRule m r r' := by
  obtain ⟨n, h1, h2, h3⟩ := w
  have he := PRule_ext s.ext (mem_dom_iff.mpr ⟨n, h1⟩) hk
  exact ⟨⟨n, s.ext _ _ h1, s.st_sub _ h2, he ▸ s.rs_sub _ h3⟩, he⟩

theorem Step.refl (m : PMap) (st : List BUEntry) (rs : List Rule) : Step Q m st rs m st rs :=
  ⟨fun h => h, fun h => h, Ext.refl m, fun _ h => h, fun _ h => h, fun _ _ h => Or.inl h, fun _ h => Or.inl h,
    fun _ h => Or.inl h⟩

theorem Step.trans {m m' m'' : PMap} {st st' st'' : List BUEntry} {rs rs' rs'' : List Rule}
    (h : Step Q m st rs m' st' rs') (h' : Step Q m' st' rs' m'' st'' rs'') : Step Q m st rs m'' st'' rs'' := by
  refine ⟨fun hm => h'.ok (h.ok hm), fun hm => h'.num (h.num hm), h.ext.trans h'.ext, fun e he => h'.st_sub e (h.st_sub e he),
    fun ρ hρ => h'.rs_sub ρ (h.rs_sub ρ hρ), ?_, ?_, ?_⟩
  · intro p n hp
    rcases h'.dom_new p n hp with h1 | h1
    · exact (h.dom_new p n h1).imp_right (h'.st_sub _)
    · exact Or.inr h1
  · intro e he
    rcases h'.st_new e he with h1 | h1
    · rcases h.st_new e h1 with h2 | ⟨h2, ρ, h3, h4⟩
      · exact Or.inl h2
      · exact Or.inr ⟨h'.ext _ _ h2, ρ, h'.rs_sub _ h3, h4⟩
    · exact Or.inr h1
  · intro ρ hρ
    rcases h'.rs_new ρ hρ with h1 | h1
    · rcases h.rs_new ρ h1 with h2 | ⟨r, r', hq, hk, hw, he⟩
      · exact Or.inl h2
      · obtain ⟨hw', he'⟩ := hw.mono h' hk
        exact Or.inr ⟨r, r', hq, fun x hx => h'.ext.dom (hk x hx), hw', he.trans he'.symm⟩
    · exact Or.inr h1

theorem step_add {r r' : Rule} {m : PMap} {i : PMap × Nat × Bool} (I : Ins m (r.parent, r'.parent) i) (hq : Q r r')
    (st : List BUEntry) (rs : List Rule) (h : ∀ c, c ∈ r.kids.zip r'.kids → c ∈ m.dom) :
    Step Q m st rs i.1 (((r.parent, r'.parent), i.2.1) :: st) (rs ++ [PRule i.1 r r']) ∧
    Written i.1 (((r.parent, r'.parent), i.2.1) :: st) (rs ++ [PRule i.1 r r']) r r' := by
  have hnew : PRule i.1 r r' ∈ rs ++ [PRule i.1 r r'] := List.mem_append_right _ List.mem_cons_self
  have hw : Written i.1 (((r.parent, r'.parent), i.2.1) :: st) (rs ++ [PRule i.1 r r']) r r' :=
    ⟨_, I.look, List.mem_cons_self, hnew⟩
  refine ⟨⟨I.ok, I.num, I.ext, fun e he => List.mem_cons_of_mem _ he, fun ρ hρ => List.mem_append_left _ hρ, ?_, ?_, ?_⟩, hw⟩
  · intro p n hp
    rcases I.look_new p n hp with h1 | ⟨h1, h2⟩
    · exact Or.inl h1
    · rw [h1, h2]; exact Or.inr List.mem_cons_self
  · intro e he
    rcases List.mem_cons.mp he with h1 | h1
    · rw [h1]; exact Or.inr ⟨I.look, _, hnew, PRule_parent I.look⟩
    · exact Or.inl h1
  · intro ρ hρ
    rcases List.mem_append.mp hρ with h1 | h1
    · exact Or.inl h1
    · exact Or.inr ⟨r, r', hq, fun x hx => I.ext.dom (h x hx), hw, List.mem_singleton.mp h1⟩

theorem buProcPair_step {r r' : Rule} {m : PMap} (hq : Q r r') (st : List BUEntry) (rs : List Rule) :
    Step Q m st rs (buProcPair r r' m st rs).1 (buProcPair r r' m st rs).2.1 (buProcPair r r' m st rs).2.2 ∧
    ((∀ c, c ∈ r.kids.zip r'.kids → c ∈ m.dom) →
      Written (buProcPair r r' m st rs).1 (buProcPair r r' m st rs).2.1 (buProcPair r r' m st rs).2.2 r r') := by
  by_cases h : ∀ c, c ∈ r.kids.zip r'.kids → c ∈ m.dom
  · rw [buProcPair_ready st rs h]
    exact (step_add (ins m _) hq st rs h).imp_right (fun w _ => w)
  · rw [buProcPair_notready st rs h]
    exact ⟨Step.refl m st rs, fun hall => absurd hall h⟩

theorem buProcAll_spec (L : List (Rule × Rule)) (hL : ∀ rr, rr ∈ L → Q rr.1 rr.2) :
    ∀ (m : PMap) (st : List BUEntry) (rs : List Rule),
    Step Q m st rs (buProcAll L m st rs).1 (buProcAll L m st rs).2.1 (buProcAll L m st rs).2.2 ∧
    (∀ rr, rr ∈ L → (∀ c, c ∈ rr.1.kids.zip rr.2.kids → c ∈ m.dom) →
      Written (buProcAll L m st rs).1 (buProcAll L m st rs).2.1 (buProcAll L m st rs).2.2 rr.1 rr.2) := by
  induction L with
  | nil => exact fun m st rs => ⟨Step.refl m st rs, fun rr h => absurd h List.not_mem_nil⟩
  | cons rr rest ih =>
    intro m st rs
    obtain ⟨s1, c1⟩ := buProcPair_step (m := m) (hL rr List.mem_cons_self) st rs
    obtain ⟨s2, c2⟩ := ih (fun x hx => hL x (List.mem_cons_of_mem _ hx)) (buProcPair rr.1 rr.2 m st rs).1
      (buProcPair rr.1 rr.2 m st rs).2.1 (buProcPair rr.1 rr.2 m st rs).2.2
    refine ⟨s1.trans s2, ?_⟩
    intro x hx hkids
    rcases List.mem_cons.mp hx with h | h
    · subst h
      exact ((c1 hkids).mono s2 (fun y hy => s1.ext.dom (hkids y hy))).1
    · exact c2 x h (fun y hy => s1.ext.dom (hkids y hy))

theorem buLeafPhase_procAll {A B : TA} (L : List (Rule × Rule)) (hL : ∀ rr, rr ∈ L → rr.1.kids = []) :
    ∀ (m : PMap) (st : List BUEntry) (rs : List Rule) (fs : List Nat),
    ((buLeafPhase A B L m st rs fs).1, (buLeafPhase A B L m st rs fs).2.1, (buLeafPhase A B L m st rs fs).2.2.1) =
      buProcAll L m st rs := by
  induction L with
  | nil => exact fun _ _ _ _ => rfl
  | cons rr rest ih =>
    intro m st rs fs
    rw [buLeafPhase, buProcAll, buProcPair_leaf st rs (hL rr List.mem_cons_self)]
    exact ih (fun x hx => hL x (List.mem_cons_of_mem _ hx)) _ _ _ _

theorem mem_addFinal {FA FB fs : List Nat} {p q k x : Nat} :
    x ∈ (if FA.contains p && FB.contains q then fs ++ [k] else fs) ↔ x ∈ fs ∨ (x = k ∧ p ∈ FA ∧ q ∈ FB) := by
  by_cases h : p ∈ FA ∧ q ∈ FB
  · rw [if_pos (by simpa only [Bool.and_eq_true, List.contains_iff_mem] using h), List.mem_append, List.mem_singleton]
    exact or_congr_right (iff_self_and.mpr (fun _ => h))
  · rw [if_neg (by simpa only [Bool.and_eq_true, List.contains_iff_mem] using h)]
    exact (or_iff_left (fun hx => h hx.2)).symm

variable {A B : TA}

theorem buLeafPhase_spec (L : List (Rule × Rule)) (m : PMap) (st : List BUEntry) (rs : List Rule) (fs : List Nat)
    (hL : ∀ rr, rr ∈ L → Q rr.1 rr.2 ∧ rr.1.kids = []) :
    Step Q m st rs (buLeafPhase A B L m st rs fs).1 (buLeafPhase A B L m st rs fs).2.1 (buLeafPhase A B L m st rs fs).2.2.1 ∧
    (∀ rr, rr ∈ L → Written (buLeafPhase A B L m st rs fs).1 (buLeafPhase A B L m st rs fs).2.1
      (buLeafPhase A B L m st rs fs).2.2.1 rr.1 rr.2) := by
  obtain ⟨s, c⟩ := buProcAll_spec L (fun rr hrr => (hL rr hrr).1) m st rs
  rw [← buLeafPhase_procAll (A := A) (B := B) L (fun rr hrr => (hL rr hrr).2) m st rs fs] at s c
  refine ⟨s, fun rr hrr => c rr hrr ?_⟩
  rw [(hL rr hrr).2]
  exact fun c hc => absurd hc List.not_mem_nil

theorem buLeafPhase_final (L : List (Rule × Rule)) (hL : ∀ rr, rr ∈ L → rr.1.kids = []) :
    ∀ (m : PMap) (st : List BUEntry) (rs : List Rule) (fs : List Nat) (x : Nat),
      x ∈ (buLeafPhase A B L m st rs fs).2.2.2 → x ∈ fs ∨
        ∃ pr, (buLeafPhase A B L m st rs fs).1.lookup pr = some x ∧ pr.1 ∈ A.final ∧ pr.2 ∈ B.final ∧
          (pr, x) ∈ (buLeafPhase A B L m st rs fs).2.1 := by
  induction L with
  | nil => exact fun _ _ _ _ _ hx => Or.inl hx
  | cons rr rest ih =>
    intro m st rs fs x hx
    have hrest : ∀ x, x ∈ rest → True ∧ x.1.kids = [] := fun x hx => ⟨trivial, hL x (List.mem_cons_of_mem _ hx)⟩
    rw [buLeafPhase] at hx ⊢
    obtain ⟨s, _⟩ := buLeafPhase_spec (A := A) (B := B) (Q := fun _ _ => True) rest
      (buInsert m (rr.1.parent, rr.2.parent)).1
      (((rr.1.parent, rr.2.parent), (buInsert m (rr.1.parent, rr.2.parent)).2.1) :: st)
      (rs ++ [⟨rr.1.sym, [], (buInsert m (rr.1.parent, rr.2.parent)).2.1⟩])
      (if A.final.contains rr.1.parent && B.final.contains rr.2.parent then
        fs ++ [(buInsert m (rr.1.parent, rr.2.parent)).2.1] else fs) hrest
    rcases ih (fun x hx => (hrest x hx).2) _ _ _ _ x hx with h | h
    · rcases mem_addFinal.mp h with h1 | ⟨h1, hfa, hfb⟩
      · exact Or.inl h1
      · rw [h1]
        exact Or.inr ⟨_, s.ext _ _ (ins m _).look, hfa, hfb, s.st_sub _ List.mem_cons_self⟩
    · exact Or.inr h

theorem mem_buLeafPairs {rr : Rule × Rule} :
    rr ∈ buLeafPairs A B ↔ Matching A B rr.1 rr.2 ∧ rr.1.kids = [] := by
  obtain ⟨r, r'⟩ := rr
  simp only [buLeafPairs, Matching, List.mem_flatMap, List.mem_map, List.mem_filter, Bool.and_eq_true, beq_iff_eq,
    Prod.mk.injEq, List.isEmpty_iff]
  constructor
  · rintro ⟨a, ⟨ha, hak⟩, b, ⟨hb, hbk, hs⟩, rfl, rfl⟩
    exact ⟨⟨ha, hb, hs, by rw [hak, hbk]⟩, hak⟩
  · rintro ⟨⟨ha, hb, hs, hl⟩, hak⟩
    refine ⟨r, ⟨ha, hak⟩, r', ⟨hb, ?_, hs⟩, rfl, rfl⟩
    rw [hak] at hl
    exact List.length_eq_zero_iff.mp hl

theorem mem_buMatching {pr : Nat × Nat} {rr : Rule × Rule} :
    rr ∈ buMatching A B pr ↔ Matching A B rr.1 rr.2 ∧ pr ∈ rr.1.kids.zip rr.2.kids := by
  obtain ⟨r, r'⟩ := rr
  obtain ⟨p, q⟩ := pr
  simp only [buMatching, Matching, List.mem_flatMap, List.mem_range]
  constructor
  · rintro ⟨a, ha, i, hi, hmem⟩
    split at hmem
    · rename_i hpi
      simp only [List.mem_map, List.mem_filter, Bool.and_eq_true, beq_iff_eq, Prod.mk.injEq] at hmem
      obtain ⟨b, ⟨hb, ⟨hs, hl⟩, hqi⟩, rfl, rfl⟩ := hmem
      refine ⟨⟨ha, hb, hs, hl⟩, ?_⟩
      rw [List.mem_iff_getElem?]
      refine ⟨i, ?_⟩
      rw [List.getElem?_zip_eq_some]
      exact ⟨by simpa using hpi, hqi⟩
    · simp at hmem
  · rintro ⟨⟨ha, hb, hs, hl⟩, hz⟩
    obtain ⟨i, hi⟩ := List.mem_iff_getElem?.mp hz
    rw [List.getElem?_zip_eq_some] at hi
    obtain ⟨h1, h2⟩ := hi
    have hil : i < r.kids.length := (List.getElem?_eq_some_iff.mp h1).1
    refine ⟨r, ha, i, hil, ?_⟩
    rw [if_pos (by simpa using h1)]
    simp only [List.mem_map, List.mem_filter, Bool.and_eq_true, beq_iff_eq, Prod.mk.injEq]
    exact ⟨r', ⟨hb, ⟨hs, hl⟩, h2⟩, trivial, rfl⟩

theorem buLoop_skip {n : Nat} {m : PMap} {e : BUEntry} {st : List BUEntry} {ns : List Nat} {rs : List Rule} {fs : List Nat}
    (h : e.2 ∈ ns) : buLoop A B (n + 1) m (e :: st) ns rs fs = buLoop A B n m st ns rs fs := by
  rw [buLoop, if_pos (List.contains_iff_mem.mpr h)]

theorem buLoop_pop {n : Nat} {m : PMap} {e : BUEntry} {st : List BUEntry} {ns : List Nat} {rs : List Rule} {fs : List Nat}
    (h : e.2 ∉ ns) : buLoop A B (n + 1) m (e :: st) ns rs fs =
      buLoop A B n (buProcAll (buMatching A B e.1) m st rs).1 (buProcAll (buMatching A B e.1) m st rs).2.1 (e.2 :: ns)
        (buProcAll (buMatching A B e.1) m st rs).2.2
        (if A.final.contains e.1.1 && B.final.contains e.1.2 then fs ++ [e.2] else fs) := by
  rw [buLoop, if_neg (fun hc => h (List.contains_iff_mem.mp hc))]

theorem buLoop_induct (I : PMap → List BUEntry → List Nat → List Rule → List Nat → Prop)
    (skip : ∀ m e st ns rs fs, I m (e :: st) ns rs fs → e.2 ∈ ns → I m st ns rs fs)
    (pop : ∀ m e st ns rs fs, I m (e :: st) ns rs fs → e.2 ∉ ns →
      I (buProcAll (buMatching A B e.1) m st rs).1 (buProcAll (buMatching A B e.1) m st rs).2.1 (e.2 :: ns)
        (buProcAll (buMatching A B e.1) m st rs).2.2
        (if A.final.contains e.1.1 && B.final.contains e.1.2 then fs ++ [e.2] else fs)) (n : Nat) :
    ∀ (m : PMap) (st : List BUEntry) (ns : List Nat) (rs : List Rule) (fs : List Nat)
      (m' : PMap) (rs' : List Rule) (fs' : List Nat), I m st ns rs fs →
      buLoop A B n m st ns rs fs = some (m', rs', fs') → ∃ ns', I m' [] ns' rs' fs' := by
  induction n with
  | zero =>
    intro m st ns rs fs m' rs' fs' h he
    cases st with
    | nil => cases he; exact ⟨ns, h⟩
    | cons _ _ => cases he
  | succ n ih =>
    intro m st ns rs fs m' rs' fs' h he
    cases st with
    | nil => cases he; exact ⟨ns, h⟩
    | cons e st =>
      by_cases hc : e.2 ∈ ns
      · rw [buLoop_skip hc] at he
        exact ih _ _ _ _ _ m' rs' fs' (skip _ _ _ _ _ _ h hc) he
      · rw [buLoop_pop hc] at he
        exact ih _ _ _ _ _ m' rs' fs' (pop _ _ _ _ _ _ h hc) he

theorem pop_step (pr : Nat × Nat) (m : PMap) (st : List BUEntry) (rs : List Rule) :
    Step (fun r r' => Matching A B r r' ∧ pr ∈ r.kids.zip r'.kids) m st rs (buProcAll (buMatching A B pr) m st rs).1
      (buProcAll (buMatching A B pr) m st rs).2.1 (buProcAll (buMatching A B pr) m st rs).2.2 ∧
    (∀ r r', Matching A B r r' → pr ∈ r.kids.zip r'.kids → (∀ c, c ∈ r.kids.zip r'.kids → c ∈ m.dom) →
      Written (buProcAll (buMatching A B pr) m st rs).1 (buProcAll (buMatching A B pr) m st rs).2.1
        (buProcAll (buMatching A B pr) m st rs).2.2 r r') := by
  obtain ⟨s, c⟩ := buProcAll_spec (Q := fun r r' => Matching A B r r' ∧ pr ∈ r.kids.zip r'.kids) (buMatching A B pr)
    (fun rr hrr => mem_buMatching.mp hrr) m st rs
  exact ⟨s, fun r r' hm hin hk => c (r, r') (mem_buMatching.mpr ⟨hm, hin⟩) hk⟩

def Done (m : PMap) (ns : List Nat) (x : Nat × Nat) : Prop := ∃ k, m.lookup x = some k ∧ k ∈ ns

/-- after a step that keeps the numbers injective, a key that carries the popped number or a processed one carried it
before the step, and it is the popped pair or a processed one -/
theorem done_back {m m' : PMap} {ns : List Nat} {pr : Nat × Nat} {k : Nat} (hok' : MapOk m') (hext : Ext m m')
    (hns : ∀ j, j ∈ ns → ∃ p, m.lookup p = some j) (hpr : m.lookup pr = some k) {x : Nat × Nat} {j : Nat}
    (hx : m'.lookup x = some j) (hj : j ∈ k :: ns) : m.lookup x = some j ∧ (x = pr ∨ j ∈ ns) := by
  rcases List.mem_cons.mp hj with h | h
  · subst h
    have : x = pr := hok'.2 x pr j hx (hext _ _ hpr)
    exact ⟨this ▸ hpr, Or.inl this⟩
  · obtain ⟨p, hp⟩ := hns j h
    have : p = x := hok'.2 p x j (hext _ _ hp) hx
    exact ⟨this ▸ hp, Or.inr h⟩

theorem entry_skip {e : BUEntry} {st : List BUEntry} {ns : List Nat} (he : e.2 ∈ ns) {p : Nat × Nat} {n : Nat}
    (h : (p, n) ∈ e :: st ∨ n ∈ ns) : (p, n) ∈ st ∨ n ∈ ns := by
  rcases h with h | h
  · rcases List.mem_cons.mp h with h1 | h1
    · exact Or.inr (by rw [← h1] at he; exact he)
    · exact Or.inl h1
  · exact Or.inr h

theorem entry_pop {e : BUEntry} {st st' : List BUEntry} {ns : List Nat} (hs : ∀ x, x ∈ st → x ∈ st') {p : Nat × Nat} {n : Nat}
    (h : (p, n) ∈ e :: st ∨ n ∈ ns) : (p, n) ∈ st' ∨ n ∈ e.2 :: ns := by
  rcases h with h | h
  · rcases List.mem_cons.mp h with h1 | h1
    · exact Or.inr (by rw [← h1]; exact List.mem_cons_self)
    · exact Or.inl (hs _ h1)
  · exact Or.inr (List.mem_cons_of_mem _ h)

end Ibu

namespace Ibf
open Isx Ibu

def Pend (m : PMap) (st : List BUEntry) (ns : List Nat) (p : Nat × Nat) : Prop :=
  ∃ n, m.lookup p = some n ∧ ((p, n) ∈ st ∨ n ∈ ns)

structure PInv (A B : TA) (m : PMap) (st : List BUEntry) (ns : List Nat) (rs : List Rule) (fs : List Nat) : Prop where
  ok : MapOk m
  hst : ∀ e, e ∈ st → m.lookup e.1 = some e.2
  hns : ∀ k, k ∈ ns → ∃ p, m.lookup p = some k
  sound : ∀ ρ, ρ ∈ rs → GoodRule A B m ρ
  complete : ∀ r r', Matching A B r r' → (∀ x, x ∈ r.kids.zip r'.kids → Done m ns x) →
    Pend m st ns (r.parent, r'.parent) ∧ PRule m r r' ∈ rs
  fsound : ∀ x, x ∈ fs → ∃ pr, m.lookup pr = some x ∧ pr.1 ∈ A.final ∧ pr.2 ∈ B.final
  fcomplete : ∀ pr k, m.lookup pr = some k → k ∈ ns → pr.1 ∈ A.final → pr.2 ∈ B.final → k ∈ fs

variable {A B : TA} {m : PMap} {e : BUEntry} {st : List BUEntry} {ns : List Nat} {rs : List Rule} {fs : List Nat}

theorem PInv.skip (h : PInv A B m (e :: st) ns rs fs) (he : e.2 ∈ ns) : PInv A B m st ns rs fs := by
  refine ⟨h.ok, fun x hx => h.hst x (List.mem_cons_of_mem _ hx), h.hns, h.sound, ?_, h.fsound, h.fcomplete⟩
  intro r r' hm hd
  obtain ⟨⟨n, h1, h2⟩, h3⟩ := h.complete r r' hm hd
  exact ⟨⟨n, h1, entry_skip he h2⟩, h3⟩

theorem PInv.pop (h : PInv A B m (e :: st) ns rs fs) :
    PInv A B (buProcAll (buMatching A B e.1) m st rs).1 (buProcAll (buMatching A B e.1) m st rs).2.1 (e.2 :: ns)
      (buProcAll (buMatching A B e.1) m st rs).2.2
      (if A.final.contains e.1.1 && B.final.contains e.1.2 then fs ++ [e.2] else fs) := by
  have hpr : m.lookup e.1 = some e.2 := h.hst _ List.mem_cons_self
  obtain ⟨s, c⟩ := pop_step (A := A) (B := B) e.1 m st rs
  have hpr' := s.ext _ _ hpr
  have hok' := s.ok h.ok
  refine ⟨hok', ?_, ?_, ?_, ?_, ?_, ?_⟩
  · intro x hx
    rcases s.st_new x hx with h1 | h1
    · exact s.ext _ _ (h.hst x (List.mem_cons_of_mem _ h1))
    · exact h1.1
  · intro j hj
    rcases List.mem_cons.mp hj with h1 | h1
    · exact ⟨e.1, h1 ▸ hpr'⟩
    · obtain ⟨p, hp⟩ := h.hns j h1
      exact ⟨p, s.ext _ _ hp⟩
  · intro ρ hρ
    rcases s.rs_new ρ hρ with h1 | ⟨r, r', hq, hk, ⟨n, hn, _⟩, he⟩
    · exact (h.sound ρ h1).mono s.ext
    · exact ⟨r, r', hq.1, mem_dom_iff.mpr ⟨n, hn⟩, hk, he⟩
  · intro r r' hm hdone
    -- every children pair was in the map before the step: it is the popped pair or was done before
    have hback : ∀ x, x ∈ r.kids.zip r'.kids → ∃ j, m.lookup x = some j ∧ (x = e.1 ∨ j ∈ ns) := by
      intro x hx
      obtain ⟨j, hj1, hj2⟩ := hdone x hx
      exact ⟨j, done_back hok' s.ext h.hns hpr hj1 hj2⟩
    have hknown : ∀ x, x ∈ r.kids.zip r'.kids → x ∈ m.dom :=
      fun x hx => mem_dom_iff.mpr ((hback x hx).imp (fun _ hj => hj.1))
    by_cases hin : e.1 ∈ r.kids.zip r'.kids
    · obtain ⟨n, h1, h2, h3⟩ := c r r' hm hin hknown
      exact ⟨⟨n, h1, Or.inl h2⟩, h3⟩
    · obtain ⟨⟨n, d1, d3⟩, d2⟩ := h.complete r r' hm
        (fun x hx => (hback x hx).imp (fun _ hj => ⟨hj.1, hj.2.resolve_left (fun h1 => hin (h1 ▸ hx))⟩))
      refine ⟨⟨n, s.ext _ _ d1, entry_pop s.st_sub d3⟩, ?_⟩
      rw [PRule_ext s.ext (mem_dom_iff.mpr ⟨n, d1⟩) hknown]
      exact s.rs_sub _ d2
  · intro x hx
    rcases mem_addFinal.mp hx with h1 | ⟨h1, hfa, hfb⟩
    · obtain ⟨p, hp, hf⟩ := h.fsound x h1
      exact ⟨p, s.ext _ _ hp, hf⟩
    · exact ⟨e.1, h1 ▸ hpr', hfa, hfb⟩
  · intro p j hp hj hfa hfb
    apply mem_addFinal.mpr
    obtain ⟨h1, h2 | h2⟩ := done_back hok' s.ext h.hns hpr hp hj
    · exact Or.inr ⟨Option.some.inj (h1.symm.trans (h2 ▸ hpr)), h2 ▸ hfa, h2 ▸ hfb⟩
    · exact Or.inl (h.fcomplete p j h1 h2 hfa hfb)

theorem loop_inv (n : Nat) {m' : PMap} {rs' : List Rule} {fs' : List Nat} (h : PInv A B m st ns rs fs)
    (he : buLoop A B n m st ns rs fs = some (m', rs', fs')) : Ext m m' ∧ ∃ ns', PInv A B m' [] ns' rs' fs' := by
  obtain ⟨ns', h1, h2⟩ := buLoop_induct (fun m₁ st ns rs fs => Ext m m₁ ∧ PInv A B m₁ st ns rs fs)
    (fun _ _ _ _ _ _ h he => ⟨h.1, h.2.skip he⟩)
    (fun m₁ e st _ rs _ h _ => ⟨h.1.trans (pop_step (A := A) (B := B) e.1 m₁ st rs).1.ext, h.2.pop⟩)
    n m st ns rs fs m' rs' fs' ⟨Ext.refl m, h⟩ he
  exact ⟨h1, ns', h2⟩

theorem init_inv (A B : TA) (m0 : PMap) (hok : MapOk m0) :
    Ext m0 (buLeafPhase A B (buLeafPairs A B) m0 [] [] []).1 ∧
    PInv A B (buLeafPhase A B (buLeafPairs A B) m0 [] [] []).1 (buLeafPhase A B (buLeafPairs A B) m0 [] [] []).2.1 []
      (buLeafPhase A B (buLeafPairs A B) m0 [] [] []).2.2.1 (buLeafPhase A B (buLeafPairs A B) m0 [] [] []).2.2.2 := by
  obtain ⟨s, c⟩ := buLeafPhase_spec (A := A) (B := B) (Q := Matching A B) (buLeafPairs A B) m0 [] [] []
    (fun rr hrr => mem_buLeafPairs.mp hrr)
  have f := buLeafPhase_final (A := A) (B := B) (buLeafPairs A B) (fun rr hrr => (mem_buLeafPairs.mp hrr).2) m0 [] [] []
  refine ⟨s.ext, s.ok hok, ?_, fun k hk => absurd hk List.not_mem_nil, ?_, ?_, ?_, fun _ _ _ hk => absurd hk List.not_mem_nil⟩
  · intro e he
    exact ((s.st_new e he).resolve_left List.not_mem_nil).1
  · intro ρ hρ
    obtain ⟨r, r', hq, hk, ⟨n, hn, _⟩, he⟩ := (s.rs_new ρ hρ).resolve_left List.not_mem_nil
    exact ⟨r, r', hq, mem_dom_iff.mpr ⟨n, hn⟩, hk, he⟩
  · intro r r' hm hdone
    -- no pair is done yet, so the rules have no children
    have hz : r.kids.zip r'.kids = [] :=
      List.eq_nil_iff_forall_not_mem.mpr (fun x hx => (hdone x hx).elim (fun j hj => absurd hj.2 List.not_mem_nil))
    have hk : r.kids = [] := by
      rcases List.zip_eq_nil_iff.mp hz with h1 | h1
      · exact h1
      · exact List.length_eq_zero_iff.mp (by rw [← hm.2.2.2, h1]; rfl)
    obtain ⟨n, h1, h2, h3⟩ := c (r, r') (mem_buLeafPairs.mpr ⟨hm, hk⟩)
    exact ⟨⟨n, h1, Or.inl h2⟩, h3⟩
  · intro x hx
    obtain ⟨pr, h1, h2, h3, _⟩ := (f x hx).resolve_left List.not_mem_nil
    exact ⟨pr, h1, h2, h3⟩

end Ibf

namespace Ibu
open Isx Ibf

structure BInv (A B : TA) (m : PMap) (st : List BUEntry) (ns : List Nat) (rs : List Rule) (fs : List Nat) : Prop where
  ok : MapOk m
  num : NumOk m
  hst : ∀ e, e ∈ st → m.lookup e.1 = some e.2
  hdom : ∀ p n, m.lookup p = some n → (p, n) ∈ st ∨ n ∈ ns
  hns : ∀ k, k ∈ ns → ∃ p, m.lookup p = some k
  sound : ∀ ρ, ρ ∈ rs → GoodRule A B m ρ
  complete : ∀ r r', Matching A B r r' → (∀ x, x ∈ r.kids.zip r'.kids → Done m ns x) →
    (r.parent, r'.parent) ∈ m.dom ∧ PRule m r r' ∈ rs
  fsound : ∀ x, x ∈ fs → ∃ pr, m.lookup pr = some x ∧ pr.1 ∈ A.final ∧ pr.2 ∈ B.final
  fcomplete : ∀ pr k, m.lookup pr = some k → k ∈ ns → pr.1 ∈ A.final → pr.2 ∈ B.final → k ∈ fs

variable {A B : TA} {m : PMap} {e : BUEntry} {st : List BUEntry} {ns : List Nat} {rs : List Rule} {fs : List Nat}

theorem BInv.pinv (h : BInv A B m st ns rs fs) : PInv A B m st ns rs fs := by
  refine ⟨h.ok, h.hst, h.hns, h.sound, ?_, h.fsound, h.fcomplete⟩
  intro r r' hm hd
  obtain ⟨d1, d2⟩ := h.complete r r' hm hd
  obtain ⟨n, hn⟩ := mem_dom_iff.mp d1
  exact ⟨⟨n, hn, h.hdom _ n hn⟩, d2⟩

/-- the invariant of the run from the empty map: `PInv`, and the two facts that are false for a pre-filled map -/
theorem BInv.of_pinv (h : PInv A B m st ns rs fs) (hnum : NumOk m)
    (hdom : ∀ p n, m.lookup p = some n → (p, n) ∈ st ∨ n ∈ ns) : BInv A B m st ns rs fs := by
  refine ⟨h.ok, hnum, h.hst, hdom, h.hns, h.sound, ?_, h.fsound, h.fcomplete⟩
  intro r r' hm hd
  obtain ⟨⟨n, hn, _⟩, d2⟩ := h.complete r r' hm hd
  exact ⟨mem_dom_iff.mpr ⟨n, hn⟩, d2⟩

theorem BInv.skip (h : BInv A B m (e :: st) ns rs fs) (he : e.2 ∈ ns) : BInv A B m st ns rs fs :=
  .of_pinv (h.pinv.skip he) h.num (fun p n hp => entry_skip he (h.hdom p n hp))

theorem BInv.pop (h : BInv A B m (e :: st) ns rs fs) :
    BInv A B (buProcAll (buMatching A B e.1) m st rs).1 (buProcAll (buMatching A B e.1) m st rs).2.1 (e.2 :: ns)
      (buProcAll (buMatching A B e.1) m st rs).2.2
      (if A.final.contains e.1.1 && B.final.contains e.1.2 then fs ++ [e.2] else fs) := by
  obtain ⟨s, _⟩ := pop_step (A := A) (B := B) e.1 m st rs
  refine .of_pinv h.pinv.pop (s.num h.num) (fun p n hp => ?_)
  rcases s.dom_new p n hp with h1 | h1
  · exact entry_pop s.st_sub (h.hdom p n h1)
  · exact Or.inl h1

theorem buLoop_inv (n : Nat) {m' : PMap} {rs' : List Rule} {fs' : List Nat} (h : BInv A B m st ns rs fs)
    (he : buLoop A B n m st ns rs fs = some (m', rs', fs')) : ∃ ns', BInv A B m' [] ns' rs' fs' :=
  buLoop_induct (BInv A B) (fun _ _ _ _ _ _ h he => h.skip he) (fun _ _ _ _ _ _ h _ => h.pop) n m st ns rs fs m' rs' fs' h he

theorem init_inv (A B : TA) :
    BInv A B (buLeafPhase A B (buLeafPairs A B) [] [] [] []).1 (buLeafPhase A B (buLeafPairs A B) [] [] [] []).2.1 []
      (buLeafPhase A B (buLeafPairs A B) [] [] [] []).2.2.1 (buLeafPhase A B (buLeafPairs A B) [] [] [] []).2.2.2 := by
  obtain ⟨s, _⟩ := buLeafPhase_spec (A := A) (B := B) (Q := Matching A B) (buLeafPairs A B) [] [] [] []
    (fun rr hrr => mem_buLeafPairs.mp hrr)
  refine .of_pinv (Ibf.init_inv A B [] mapOk_nil).2 (s.num numOk_nil) (fun p n hp => ?_)
  exact Or.inl ((s.dom_new p n hp).resolve_left (fun h1 => by cases h1))

theorem binv_cert (h : BInv A B m [] ns rs fs) : buCertB A B m rs fs = true := by
  have hdone : ∀ x, x ∈ m.dom → Done m ns x := by
    intro x hx
    obtain ⟨n, hn⟩ := mem_dom_iff.mp hx
    exact ⟨n, hn, (h.hdom x n hn).resolve_left List.not_mem_nil⟩
  simp only [buCertB, Bool.and_eq_true]
  refine ⟨⟨⟨pmapInjB_of_numOk h.num, ?_⟩, ?_⟩, ?_⟩
  · rw [buClosedB_iff]
    intro r hr r' hr' hs hl hd
    exact (h.complete r r' ⟨hr, hr', hs, hl⟩ (fun x hx => hdone x (hd x hx))).1
  · rw [rulesEq_iff]
    intro ρ
    rw [mem_prodRulesBU]
    constructor
    · intro hρ
      obtain ⟨r, r', ⟨h1, h2, h3, h4⟩, _, h6, h7⟩ := h.sound ρ hρ
      exact ⟨r, h1, r', h2, h3, h4, h6, h7⟩
    · rintro ⟨r, h1, r', h2, h3, h4, h6, h7⟩
      rw [h7]
      exact (h.complete r r' ⟨h1, h2, h3, h4⟩ (fun x hx => hdone x (h6 x hx))).2
  · rw [seteq_iff]
    intro x
    rw [mem_prodFinalBU]
    constructor
    · intro hx
      obtain ⟨pr, hp, hfa, hfb⟩ := h.fsound x hx
      exact ⟨pr, mem_dom_iff.mpr ⟨x, hp⟩, hfa, hfb, lookupF_of hp⟩
    · rintro ⟨pr, hpd, hfa, hfb, hx⟩
      obtain ⟨k, hk, hkn⟩ := hdone pr hpd
      rw [← hx, lookupF_of hk]
      exact h.fcomplete pr k hk hkn hfa hfb

end Ibu

/-- the certificate check of `isectBU` never fails on what the loop computes: the model IS its loop -/
theorem isectBU_eq_loop (A B : TA) (fuel : Nat) :
    isectBU A B fuel = (buLoop A B fuel (buLeafPhase A B (buLeafPairs A B) [] [] [] []).1
      (buLeafPhase A B (buLeafPairs A B) [] [] [] []).2.1 []
      (buLeafPhase A B (buLeafPairs A B) [] [] [] []).2.2.1 (buLeafPhase A B (buLeafPairs A B) [] [] [] []).2.2.2).map
        (fun r => (⟨r.2.1, r.2.2⟩, r.1)) := by
  unfold isectBU
  dsimp only
  split
  next h => rw [h]; rfl
  next m rs fs h =>
    obtain ⟨_, hinv⟩ := Ibu.buLoop_inv fuel (Ibu.init_inv A B) h
    rw [h, if_pos (Ibu.binv_cert hinv)]; rfl

-- non-vacuity: the loop of the examples ends within the fuel
example : ∃ m rs fs, buLoop IsectBUEx.exS IsectBUEx.exL 20
    (buLeafPhase IsectBUEx.exS IsectBUEx.exL (buLeafPairs IsectBUEx.exS IsectBUEx.exL) [] [] [] []).1
    (buLeafPhase IsectBUEx.exS IsectBUEx.exL (buLeafPairs IsectBUEx.exS IsectBUEx.exL) [] [] [] []).2.1 []
    (buLeafPhase IsectBUEx.exS IsectBUEx.exL (buLeafPairs IsectBUEx.exS IsectBUEx.exL) [] [] [] []).2.2.1
    (buLeafPhase IsectBUEx.exS IsectBUEx.exL (buLeafPairs IsectBUEx.exS IsectBUEx.exL) [] [] [] []).2.2.2 = some (m, rs, fs) :=
  ⟨_, _, _, rfl⟩
example : (isectBU IsectBUEx.exS IsectBUEx.exL 20).isSome = true := Option.isSome_of_map IsectBUEx.exSL_run

end Vata
