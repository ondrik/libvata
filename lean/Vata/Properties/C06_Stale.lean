import Vata.Proofs.ComplStale
import Vata.Proofs.ComplTotal
/-!
# C06 – Complement with a stale symbol index (an alphabet that grew between two calls)

> For an explicit tree automaton A whose alphabet is an on-the-fly alphabet containing the ranked symbols S, every tree
> built from symbols of S (each used with its rank) is accepted by exactly one of A and Complement(A).  Complement(A)
> accepts no tree that uses a symbol outside S.

## How the C++ is read into the model

`ExplicitDownwardComplementation::Compute` iterates `for (auto symbolIndexPair : symbolMap)` over the symbol / rank index
of the alphabet; in the model `Compl.complTD A Sg fuel` (`Vata/Compl.lean`) this index is the parameter `Sg`, which stands
for the content of the on-the-fly symbol dictionary AT THE TIME OF THE CALL.  A seeded change kept the index in a
function-static map keyed by the alphabet OBJECT and never refreshed it: `Compl.symIndexCached cache id SgNow` is this
lookup (`id` = the address of the alphabet object, `SgNow` = its present content; hit → the stored index, miss → store and
use `SgNow`) and `Compl.complCached` is `Complement` on top of it.  A second `Complement` on the same alphabet object
after the alphabet has grown from `Sg` to `Sg'` therefore computes `complTD A Sg` where the property asks for
`complTD A Sg'` (`C06_stale_index_uses_first_alphabet`).

This file says what that costs: on the trees over the OLD alphabet nothing changes
(`C06_complement_monotone_in_alphabet`), every tree with a new symbol is rejected
(`C06_complement_over_smaller_alphabet_rejects_new_symbols`), and hence the stale result is a complement over the grown
alphabet iff `A` itself accepts every tree over `Sg'` that contains a new symbol
(`C06_complement_over_smaller_alphabet_exact`, `…_not_complement`); `C06_stale_index_counterexample` is the concrete
instance, decided.

## What is abstracted

* Alphabets are lists of (symbol, rank) pairs, `Sg ⊆ Sg'` is list membership.  The hypothesis "one rank per symbol" of the
  task text is NOT needed by any theorem here (the pairs are compared as pairs; a symbol registered with a second rank
  counts as a new ranked symbol) and is therefore not assumed.
* The static map is a `List (Nat × List (Nat × Nat))` association list keyed by a number standing for the address of the
  alphabet object; hash-container order plays no role for `find` / `insert` of one key.
* `usesSym fa t`: some node of `t` carries the symbol `fa.1` with `fa.2` children.
-/
namespace Vata.Props

/-- for `Sg ⊆ Sg'`, on the trees over `Sg` the complements computed over `Sg` and over `Sg'` accept the same trees (both
accept exactly the trees `A` rejects) -/
theorem C06_complement_monotone_in_alphabet (A : TA) (Sg Sg' : List (Nat × Nat)) (f₁ f₂ : Nat) (C C' : TA)
    (hs : ∀ fa, fa ∈ Sg → fa ∈ Sg')
    (h : Compl.complTD A Sg f₁ = some C) (h' : Compl.complTD A Sg' f₂ = some C')
    (t : Tree) (ht : overSig Sg t = true) :
    accepts C t = accepts C' t ∧ accepts C t = !accepts A t :=
  ⟨Compl.IsComplOver.agree_on_smaller hs (Compl.complTD_spec h) (Compl.complTD_spec h') t ht, (Compl.complTD_spec h t).1 ht⟩

-- `aLeft` over `{a/0, f/2}` and over `{a/0, f/2, g/1}`: both runs return, `f(a, a)` is over the smaller alphabet
example : (∀ fa, fa ∈ Compl.Ex.sg → fa ∈ Compl.Ex.sg3) ∧
    (Compl.complTD Compl.Ex.aLeft Compl.Ex.sg 20).isSome = true ∧
    (Compl.complTD Compl.Ex.aLeft Compl.Ex.sg3 50).isSome = true ∧
    overSig Compl.Ex.sg (.node 1 [.node 0 [], .node 0 []]) = true :=
  ⟨by decide +kernel, Option.isSome_iff_exists.mpr (Compl.complTD_total (by decide +kernel)),
    Option.isSome_iff_exists.mpr (Compl.complTD_total (by decide +kernel)), by decide +kernel⟩

/-- a tree that uses a ranked symbol `fa ∉ Sg` (in particular one of `Sg' \ Sg`) is not over `Sg` and is rejected by
the complement computed over `Sg` -/
theorem C06_complement_over_smaller_alphabet_rejects_new_symbols (A : TA) (Sg : List (Nat × Nat)) (fuel : Nat) (C : TA)
    (h : Compl.complTD A Sg fuel = some C) (fa : Nat × Nat) (hfa : fa ∉ Sg) (t : Tree)
    (hu : Compl.usesSym fa t = true) :
    overSig Sg t = false ∧ accepts C t = false :=
  ⟨Compl.overSig_false_of_usesSym hfa t hu, Compl.IsComplOver.rejects_new (Compl.complTD_spec h) hfa t hu⟩

-- `f(b)` uses the nullary `b = 2`, which is not in `[(a,0),(f,1)]`
example : (2, 0) ∉ [(0, 0), (1, 1)] ∧ Compl.usesSym (2, 0) (.node 1 [.node 2 []]) = true ∧
    Compl.usesSym (2, 0) (.node 1 [.node 0 []]) = false := by decide

/-- `usesSym` is exact: a tree is not over `Sg` iff it uses a ranked symbol that is not in `Sg` -/
theorem C06_not_over_iff_uses_new_symbol (Sg : List (Nat × Nat)) (t : Tree) :
    overSig Sg t = false ↔ ∃ fa, fa ∉ Sg ∧ Compl.usesSym fa t = true :=
  ⟨Compl.exists_usesSym_of_overSig_false t, fun ⟨_, h1, h2⟩ => Compl.overSig_false_of_usesSym h1 t h2⟩

example : overSig [(0, 0), (1, 1)] (.node 1 [.node 2 []]) = false := by decide

/-- exact statement: for `Sg ⊆ Sg'` the complement computed over `Sg` is a complement of `A` over `Sg'` iff `A` accepts
every tree over `Sg'` that contains a ranked symbol outside `Sg` -/
theorem C06_complement_over_smaller_alphabet_exact (A : TA) (Sg Sg' : List (Nat × Nat)) (fuel : Nat) (C : TA)
    (hs : ∀ fa, fa ∈ Sg → fa ∈ Sg') (h : Compl.complTD A Sg fuel = some C) :
    (∀ t, (overSig Sg' t = true → accepts C t = !accepts A t) ∧ (overSig Sg' t = false → accepts C t = false)) ↔
    (∀ t fa, overSig Sg' t = true → fa ∉ Sg → Compl.usesSym fa t = true → accepts A t = true) := by
  rw [show (∀ t, (overSig Sg' t = true → accepts C t = !accepts A t) ∧ (overSig Sg' t = false → accepts C t = false)) ↔
    Compl.IsComplOver C A Sg' from Iff.rfl, Compl.IsComplOver.smaller_iff hs (Compl.complTD_spec h)]
  constructor
  · intro hall t fa h1 h2 h3
    exact hall t h1 (Compl.overSig_false_of_usesSym h2 t h3)
  · intro hall t h1 h2
    obtain ⟨fa, h3, h4⟩ := Compl.exists_usesSym_of_overSig_false t h2
    exact hall t fa h1 h3 h4

/-- the stale result is NOT a complement over the grown alphabet as soon as one tree over `Sg'` that contains a new
ranked symbol is rejected by `A`: that tree is accepted by neither `A` nor `C`.  (No inclusion `Sg ⊆ Sg'` needed.) -/
theorem C06_complement_over_smaller_alphabet_not_complement (A : TA) (Sg Sg' : List (Nat × Nat)) (fuel : Nat) (C : TA)
    (h : Compl.complTD A Sg fuel = some C) (t : Tree) (fa : Nat × Nat)
    (ht : overSig Sg' t = true) (hfa : fa ∉ Sg) (hu : Compl.usesSym fa t = true) (hA : accepts A t = false) :
    (accepts A t = false ∧ accepts C t = false) ∧
    ¬ (∀ t, (overSig Sg' t = true → accepts C t = !accepts A t) ∧ (overSig Sg' t = false → accepts C t = false)) := by
  have hC := Compl.IsComplOver.rejects_new (Compl.complTD_spec h) hfa t hu
  refine ⟨⟨hA, hC⟩, fun hc => ?_⟩
  have := (hc t).1 ht
  rw [hC, hA] at this
  cases this

/-- the hypothesis "`A` rejects the tree" cannot be dropped: an automaton that accepts every tree with the new symbol
keeps its stale complement valid (`A` = all trees over `{a, b}`, old alphabet `{a}`, `A` accepts `b`; checked by the exact
decider `isComplM`) -/
example :
    let A : TA := ⟨[⟨2, [], 0⟩], [0]⟩
    (match Compl.complTD A [(0, 0)] 10 with
     | some C => isComplM C A [(0, 0), (2, 0)] 20
     | none => none) = some true := by decide +kernel

/-! ### the seeded static index -/

/-- with the function-static index, the first `Complement` on an alphabet object computes over the alphabet's content at
that time, and every later call on the same object – whatever the automaton, whatever the alphabet holds now – computes
over the content of the FIRST call -/
theorem C06_stale_index_uses_first_alphabet (id : Nat) (A B : TA) (Sg Sg' : List (Nat × Nat)) (f₁ f₂ : Nat) :
    Compl.complCached [] id A Sg f₁ = ([(id, Sg)], Compl.complTD A Sg f₁) ∧
    Compl.complCached (Compl.complCached [] id A Sg f₁).1 id B Sg' f₂ = ([(id, Sg)], Compl.complTD B Sg f₂) :=
  ⟨Compl.complCached_first id A Sg f₁, Compl.complCached_second id A B Sg Sg' f₁ f₂⟩

-- a different alphabet object is not affected
example : (Compl.complCached (Compl.complCached [] 7 ⟨[], []⟩ [(0, 0)] 5).1 8 ⟨[], []⟩ [(0, 0), (2, 0)] 5).1 =
    [(8, [(0, 0), (2, 0)]), (7, [(0, 0)])] := by decide

/-- the counterexample: `A = {a}` over `Sg = [(a,0),(f,1)]` (`a = 0`, `f = 1`), the alphabet grows by the nullary `b = 2`.
`b` and `f(b)` are trees over the grown alphabet, accepted by neither `A` nor the complement over the OLD index, while the
complement over the grown alphabet accepts both; on `a` and `f(a)` the two complements agree; and the second call of the
seeded `complCached` on the same alphabet object returns exactly the stale automaton, which the exact decider `isComplM`
refuses as a complement over the grown alphabet -/
theorem C06_stale_index_counterexample :
    let A : TA := ⟨[⟨0, [], 0⟩], [0]⟩
    let Sg : List (Nat × Nat) := [(0, 0), (1, 1)]
    let Sg' : List (Nat × Nat) := [(0, 0), (1, 1), (2, 0)]
    let b : Tree := .node 2 []
    let fb : Tree := .node 1 [.node 2 []]
    let a : Tree := .node 0 []
    let fa : Tree := .node 1 [.node 0 []]
    (∀ x, x ∈ Sg → x ∈ Sg') ∧
    overSig Sg' b = true ∧ overSig Sg' fb = true ∧ overSig Sg b = false ∧ overSig Sg fb = false ∧
    accepts A b = false ∧ accepts A fb = false ∧
    (Compl.complTD A Sg 10).map (fun C => [accepts C b, accepts C fb, accepts C a, accepts C fa]) =
      some [false, false, false, true] ∧
    (Compl.complTD A Sg' 10).map (fun C => [accepts C b, accepts C fb, accepts C a, accepts C fa]) =
      some [true, true, false, true] ∧
    ((Compl.complCached (Compl.complCached [] 1 A Sg 10).1 1 A Sg' 10).2.map (fun C => (C.rules, C.final)) =
      (Compl.complTD A Sg 10).map (fun C => (C.rules, C.final)) ∧
     ((Compl.complCached (Compl.complCached [] 1 A Sg 10).1 1 A Sg' 10).2.map (fun C => (C.rules, C.final))).isSome = true) ∧
    (match Compl.complTD A Sg 10 with | some C => isComplM C A Sg' 20 | none => none) = some false ∧
    (match Compl.complTD A Sg' 10 with | some C => isComplM C A Sg' 20 | none => none) = some true := by
  decide +kernel

/-!
## still not proved

* The seeded change itself is C++; `symIndexCached` / `complCached` are a model of it written from its description (a
  function-static map keyed by the alphabet object, filled on the first miss, never refreshed).  No statement connects this
  model to a concrete patch of `explicit_tree_comp_down.hh`; in the unmodified library the index is read from the alphabet
  at every call, which is what the parameter `Sg` of `complTD` stands for.
* Only growth of the alphabet is treated in the counterexample; the general theorems
  (`…_rejects_new_symbols`, `…_not_complement`) need no inclusion at all, `…_monotone…` and `…_exact` assume `Sg ⊆ Sg'`.
  Nothing is said about an alphabet that shrank or re-ranked a symbol beyond "a pair (symbol, rank) not in `Sg` is new".
* The remaining open items of `Vata/Properties/C06.lean` (non-trivial preorder; that the symbol dictionary holds exactly
  `Sg`) are untouched.
-/
end Vata.Props
