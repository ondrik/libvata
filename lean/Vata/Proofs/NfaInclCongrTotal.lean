import Vata.Proofs.NfaInclCongr
import Vata.Proofs.NfaInclTotal
/-!
# Totality of `nfaInclCongr` on operands with disjoint states

The Boolean certificate check accepts every bisimulation up to congruence (the rewriting of `congrCl` reaches the least
closed set within `|R|` sweeps), and the exploration ends within `2^|Q_U| · 2^|Q_B| + 1` picked pairs.  So above that
fuel `nfaInclCongr` returns a verdict on disjoint operands, hence the right one; the same for the model of the
dispatcher on any operands.
-/
namespace Vata
open Vata.W
namespace NfaIncl


/-- `C` is closed under the (two-sided) rules of `R` -/
def Closed (R : List CRule) (C : List Nat) : Prop :=
  ∀ r, r ∈ R → ((∀ x, x ∈ r.1 → x ∈ C) ∨ (∀ x, x ∈ r.2 → x ∈ C)) → (∀ x, x ∈ r.1 → x ∈ C) ∧ (∀ x, x ∈ r.2 → x ∈ C)

/-- congruent sets are inside the same closed sets -/
theorem congrCl_closed_iff {R : List CRule} {C : List Nat} (hC : Closed R C) {X Y : List Nat} (h : CongrCl R X Y) :
    (∀ x, x ∈ X → x ∈ C) ↔ (∀ x, x ∈ Y → x ∈ C) := by
  induction h with
  | base hm =>
    constructor
    · intro h; exact (hC _ hm (Or.inl h)).2
    · intro h; exact (hC _ hm (Or.inr h)).1
  | refl he =>
    constructor
    · intro h x hx; exact h x ((he x).mpr hx)
    · intro h x hx; exact h x ((he x).mp hx)
  | symm _ ih => exact ih.symm
  | trans _ _ ih1 ih2 => exact ih1.trans ih2
  | union _ _ ih1 ih2 =>
    simp only [List.mem_append]
    constructor
    · intro h x hx
      rcases hx with hx | hx
      · exact ih1.mp (fun y hy => h y (Or.inl hy)) x hx
      · exact ih2.mp (fun y hy => h y (Or.inr hy)) x hx
    · intro h x hx
      rcases hx with hx | hx
      · exact ih1.mpr (fun y hy => h y (Or.inl hy)) x hx
      · exact ih2.mpr (fun y hy => h y (Or.inr hy)) x hx

def fire (S : List Nat) (r : CRule) : List Nat :=
  if Vata.subB r.1 S || Vata.subB r.2 S then normS (S ++ r.1 ++ r.2) else S

theorem clStep_eq (R : List CRule) (S : List Nat) : clStep R S = R.foldl fire S := rfl

theorem sub_fire (S : List Nat) (r : CRule) : ∀ x, x ∈ S → x ∈ fire S r := by
  intro x hx
  unfold fire
  split
  · simp only [mem_normS, List.mem_append]; exact Or.inl (Or.inl hx)
  · exact hx

theorem sub_foldl_fire : ∀ (R : List CRule) (S : List Nat), ∀ x, x ∈ S → x ∈ R.foldl fire S
  | [], _, _, h => h
  | r :: R, S, x, h => by
    simp only [List.foldl_cons]
    exact sub_foldl_fire R _ x (sub_fire S r x h)

theorem sub_clIter (R : List CRule) : ∀ (n : Nat) (S : List Nat), ∀ x, x ∈ S → x ∈ clIter R n S
  | 0, _, _, h => h
  | n+1, S, x, h => sub_clIter R n _ x (sub_foldl_fire R S x h)

theorem sub_congrCl (R : List CRule) (S : List Nat) : ∀ x, x ∈ S → x ∈ congrCl R S := sub_clIter R _ S

def satB (S : List Nat) (r : CRule) : Bool := Vata.subB r.1 S && Vata.subB r.2 S

theorem satB_iff {S : List Nat} {r : CRule} : satB S r = true ↔ (∀ x, x ∈ r.1 → x ∈ S) ∧ (∀ x, x ∈ r.2 → x ∈ S) := by
  simp only [satB, Bool.and_eq_true, subB_iff]

theorem satB_mono {S S' : List Nat} (h : ∀ x, x ∈ S → x ∈ S') {r : CRule} (hs : satB S r = true) :
    satB S' r = true := by
  rw [satB_iff] at hs ⊢
  exact ⟨fun x hx => h x (hs.1 x hx), fun x hx => h x (hs.2 x hx)⟩

/-- a sweep satisfies every rule that matched at its beginning -/
theorem foldl_fire_sat : ∀ (R : List CRule) (S : List Nat) (r : CRule), r ∈ R →
    ((∀ x, x ∈ r.1 → x ∈ S) ∨ (∀ x, x ∈ r.2 → x ∈ S)) → satB (R.foldl fire S) r = true
  | [], _, _, h, _ => by simp at h
  | r0 :: R, S, r, hr, hm => by
    simp only [List.foldl_cons]
    rcases List.mem_cons.mp hr with rfl | hr
    · apply satB_mono (sub_foldl_fire R _)
      have hc : (Vata.subB r.1 S || Vata.subB r.2 S) = true := by
        simp only [Bool.or_eq_true, subB_iff]; exact hm
      rw [satB_iff]
      unfold fire
      rw [if_pos hc]
      simp only [mem_normS, List.mem_append]
      exact ⟨fun x hx => Or.inl (Or.inr hx), fun x hx => Or.inr hx⟩
    · apply foldl_fire_sat R _ r hr
      rcases hm with hm | hm
      · exact Or.inl (fun x hx => sub_fire S r0 x (hm x hx))
      · exact Or.inr (fun x hx => sub_fire S r0 x (hm x hx))

def unsat (R : List CRule) (S : List Nat) : Nat := R.countP (fun r => !satB S r)

theorem closed_of_unsat_zero {R : List CRule} {S : List Nat} (h : unsat R S = 0) : Closed R S := by
  intro r hr _
  have := List.countP_eq_zero.mp h r hr
  simp only [Bool.not_eq_true', Bool.not_eq_false] at this
  exact satB_iff.mp this

theorem unsat_clStep_lt {R : List CRule} {S : List Nat} (h : ¬ Closed R S) : unsat R (clStep R S) < unsat R S := by
  have hex : ∃ r, r ∈ R ∧ ((∀ x, x ∈ r.1 → x ∈ S) ∨ (∀ x, x ∈ r.2 → x ∈ S)) ∧
      ¬ ((∀ x, x ∈ r.1 → x ∈ S) ∧ (∀ x, x ∈ r.2 → x ∈ S)) := by
    apply Classical.byContradiction
    intro hne
    apply h
    intro r hr hm
    apply Classical.byContradiction
    intro hns
    exact hne ⟨r, hr, hm, hns⟩
  obtain ⟨r, hr, hm, hns⟩ := hex
  apply countP_lt_of_new
  · intro r' _ hr'
    simp only [Bool.not_eq_true'] at hr' ⊢
    cases hs : satB S r' with
    | false => rfl
    | true =>
      have := satB_mono (sub_foldl_fire R S) hs
      rw [clStep_eq] at hr'
      rw [hr'] at this; cases this
  · refine ⟨r, hr, ?_, ?_⟩
    · simp only [Bool.not_eq_true']
      cases hs : satB S r with
      | false => rfl
      | true => exact (hns (satB_iff.mp hs)).elim
    · simp only [ne_eq, Bool.not_eq_true', Bool.not_eq_false]
      rw [clStep_eq]
      exact foldl_fire_sat R S r hr hm

/-- a sweep over a closed set adds nothing -/
theorem foldl_fire_closed {R : List CRule} {C : List Nat} (hC : Closed R C) : ∀ (R' : List CRule) (S : List Nat),
    (∀ r, r ∈ R' → r ∈ R) → (∀ x, x ∈ S → x ∈ C) → ∀ x, x ∈ R'.foldl fire S → x ∈ C
  | [], _, _, hS => hS
  | r :: R', S, hR', hS => by
    simp only [List.foldl_cons]
    apply foldl_fire_closed hC R' _ (fun r' h => hR' r' (List.mem_cons_of_mem _ h))
    intro x hx
    unfold fire at hx
    split at hx
    · next hc =>
      simp only [Bool.or_eq_true, subB_iff] at hc
      have hm : (∀ x, x ∈ r.1 → x ∈ C) ∨ (∀ x, x ∈ r.2 → x ∈ C) := by
        rcases hc with hc | hc
        · exact Or.inl (fun x hx => hS x (hc x hx))
        · exact Or.inr (fun x hx => hS x (hc x hx))
      obtain ⟨h1, h2⟩ := hC r (hR' r List.mem_cons_self) hm
      simp only [mem_normS, List.mem_append] at hx
      rcases hx with (hx | hx) | hx
      · exact hS x hx
      · exact h1 x hx
      · exact h2 x hx
    · exact hS x hx

theorem Closed.congr {R : List CRule} {C C' : List Nat} (h : Closed R C) (he : ∀ x, x ∈ C ↔ x ∈ C') : Closed R C' := by
  intro r hr hm
  have hm' : (∀ x, x ∈ r.1 → x ∈ C) ∨ (∀ x, x ∈ r.2 → x ∈ C) := by
    rcases hm with hm | hm
    · exact Or.inl (fun x hx => (he x).mpr (hm x hx))
    · exact Or.inr (fun x hx => (he x).mpr (hm x hx))
  obtain ⟨h1, h2⟩ := h r hr hm'
  exact ⟨fun x hx => (he x).mp (h1 x hx), fun x hx => (he x).mp (h2 x hx)⟩

theorem closed_clStep {R : List CRule} {S : List Nat} (h : Closed R S) : Closed R (clStep R S) :=
  h.congr (fun x => ⟨sub_foldl_fire R S x, foldl_fire_closed h R S (fun _ h => h) (fun _ h => h) x⟩)

theorem closed_clIter_of_closed {R : List CRule} : ∀ (n : Nat) (S : List Nat), Closed R S → Closed R (clIter R n S)
  | 0, _, h => h
  | n+1, _, h => closed_clIter_of_closed n _ (closed_clStep h)

theorem closed_clIter {R : List CRule} : ∀ (n : Nat) (S : List Nat), unsat R S ≤ n → Closed R (clIter R n S)
  | 0, _, h => closed_of_unsat_zero (Nat.le_zero.mp h)
  | n+1, S, h => by
    by_cases hc : Closed R S
    · exact closed_clIter_of_closed (n+1) S hc
    · have := unsat_clStep_lt hc
      exact closed_clIter n _ (by omega)

/-- `R.length` sweeps reach a closed set -/
theorem closed_congrCl (R : List CRule) (S : List Nat) : Closed R (congrCl R S) :=
  closed_clIter R.length S List.countP_le_length

theorem inCongrB_complete {R : List CRule} {X Y : List Nat} (h : CongrCl R X Y) : inCongrB R X Y = true := by
  simp only [inCongrB, Bool.and_eq_true, subB_iff]
  exact ⟨(congrCl_closed_iff (closed_congrCl R Y) h).mpr (sub_congrCl R Y),
    (congrCl_closed_iff (closed_congrCl R X) h).mp (sub_congrCl R X)⟩

end NfaIncl

open NfaIncl

theorem congrCertB_complete {A B : NFA} {R : List CRule} (h : CongrCert A B R) : congrCertB A B R = true := by
  obtain ⟨hdis, hinit, hbis⟩ := h
  simp only [congrCertB, Bool.and_eq_true, List.all_eq_true, Bool.not_eq_true', beq_iff_eq]
  refine ⟨⟨?_, inCongrB_complete hinit⟩, ?_⟩
  · intro q hA
    cases hc : (nfaStates B).contains q with
    | false => rfl
    | true => exact (hdis q hA (List.contains_iff_mem.mp hc)).elim
  · intro p hp
    exact ⟨(hbis p hp).1, fun a _ => inCongrB_complete ((hbis p hp).2 a)⟩

theorem congrCertB_iff {A B : NFA} {R : List CRule} : congrCertB A B R = true ↔ CongrCert A B R :=
  ⟨congrCertB_sound, congrCertB_complete⟩

/-- on disjoint operands the final checks never refuse: the verdict of the model is read off the exploration (`true` when
it ends without a counterexample), `none` only when the fuel runs out; the examples of C09 evaluate the exploration alone -/
theorem nfaInclCongr_verdict {A B : NFA} (hdis : ∀ q, q ∈ nfaStates A → q ∈ nfaStates B → False) (breadth : Bool)
    (fuel : Nat) :
    (nfaInclCongr A B breadth fuel).map (·.1) =
      (runCongr (nfaUnionDisjoint A B) B breadth fuel).map Except.isOk := by
  unfold nfaInclCongr
  cases h : runCongr (nfaUnionDisjoint A B) B breadth fuel with
  | none => rfl
  | some r =>
    cases r with
    | ok R => exact congrArg _ (if_pos (congrCertB_complete (runCongr_ok_cert hdis h)))
    | error w =>
      obtain ⟨hA, hB⟩ := runCongr_error_ok hdis h
      exact congrArg _ (if_pos (by rw [hA, hB]; rfl))

namespace NfaIncl

/-- all pairs of a set of states of `U` and a set of states of `B` (as sorted lists) -/
def cuniv (U B : NFA) : List CRule := pairUniv (InclUp.subsets (normS (domS U))) (normS (domS B))

theorem length_cuniv (U B : NFA) :
    (cuniv U B).length = 2 ^ (normS (domS U)).length * 2 ^ (normS (domS B)).length := by
  rw [cuniv, length_pairUniv, InclUp.length_subsets]

theorem macroStep_mem_subsets (N : NFA) (S : List Nat) (a : Nat) :
    macroStep N S a ∈ InclUp.subsets (normS (domS N)) :=
  sorted_mem_subsets (normS_sorted _) (normS_sorted _) fun _ hx => mem_normS.mpr (stepW_sub_domS (mem_normS.mp hx))

theorem csucc_mem_cuniv (U B : NFA) (it : CItem) (a : Nat) : ((csucc U B it a).X, (csucc U B it a).Y) ∈ cuniv U B :=
  List.mem_flatMap.mpr ⟨_, macroStep_mem_subsets U it.X a, List.mem_map.mpr ⟨_, macroStep_mem_subsets B it.Y a, rfl⟩⟩

/-- the pairs not yet visited, plus the length of the work-list -/
def psi (U B : NFA) (st : CSt) : Nat := unseen (cuniv U B) st.visited + st.next.length

theorem length_addNext (breadth : Bool) (next : List CItem) (c : CItem) :
    (addNext breadth next c).length = next.length + 1 := by
  unfold addNext
  split <;> simp

theorem psi_pushSt {U B : NFA} {breadth : Bool} {st : CSt} {c : CItem} (hc : (c.X, c.Y) ∈ cuniv U B)
    (hv : ¬ st.visited.contains (c.X, c.Y) = true) : psi U B (pushSt breadth st c) ≤ psi U B st := by
  have h1 : unseen (cuniv U B) ((c.X, c.Y) :: st.visited) < unseen (cuniv U B) st.visited :=
    unseen_cons_lt hc fun h => hv (List.contains_iff_mem.mpr h)
  have h2 : (pushSt breadth st c).next.length = st.next.length + 1 := length_addNext _ _ _
  unfold psi
  rw [h2]
  show unseen (cuniv U B) ((c.X, c.Y) :: st.visited) + _ ≤ _
  omega

theorem psi_congrPost {U B : NFA} {breadth : Bool} {it : CItem} {as : List Nat} {st st' : CSt}
    (h : congrPost U B breadth it as st = .ok st') : psi U B st' ≤ psi U B st :=
  (congrPost_ok (fun s => psi U B s ≤ psi U B st)
    (fun _ a _ hv hQ => Nat.le_trans (psi_pushSt (csucc_mem_cuniv U B it a) hv) hQ) as st st' (Nat.le_refl _) h).1

/-- the loop ends as soon as the test of `MakePost` always answers -/
theorem loopSkip_terminates {skip : List CRule → List Nat → List Nat → Option Bool}
    (hskip : ∀ rules X Y, ∃ b, skip rules X Y = some b) {U B : NFA} {breadth : Bool} :
    ∀ (n : Nat) (st : CSt), psi U B st < n → ∃ r, loopSkip skip U B breadth n st = some r
  | 0, _, h => absurd h (Nat.not_lt_zero _)
  | n+1, st, h => by
    unfold loopSkip
    split
    · exact ⟨_, rfl⟩
    · next it rest hn =>
      have h2 : psi U B ⟨st.relation, rest, st.visited⟩ + 1 = psi U B st := by
        rw [psi, psi, hn]; exact Nat.add_assoc _ _ _
      split
      · next hnone =>
        obtain ⟨b, hb⟩ := hskip (rulesOf (rest.reverse ++ st.relation)) it.X it.Y
        rw [hb] at hnone; cases hnone
      · exact loopSkip_terminates hskip n _ (by omega)
      · split
        · exact ⟨_, rfl⟩
        · next st' h' =>
          apply loopSkip_terminates hskip n
          have h1 := psi_congrPost h'
          have h3 : psi U B ⟨st'.relation ++ [it], st'.next, st'.visited⟩ = psi U B st' := rfl
          omega

/-- the number of picked pairs is bounded by the number of pairs of sets of states -/
def fuelBoundCongr (A B : NFA) : Nat :=
  2 ^ (normS (domS (nfaUnionDisjoint A B))).length * 2 ^ (normS (domS B)).length + 1

theorem runSkip_terminates {skip : List CRule → List Nat → List Nat → Option Bool}
    (hskip : ∀ rules X Y, ∃ b, skip rules X Y = some b) {A B : NFA} {breadth : Bool} {fuel : Nat}
    (h : fuelBoundCongr A B < fuel) : ∃ r, runSkip skip (nfaUnionDisjoint A B) B breadth fuel = some r := by
  unfold runSkip
  split
  · exact ⟨_, rfl⟩
  · apply loopSkip_terminates hskip
    have := unseen_le_length (cuniv (nfaUnionDisjoint A B) B) [(normS (nfaUnionDisjoint A B).start, normS B.start)]
    rw [length_cuniv] at this
    rw [fuelBoundCongr] at h
    rw [psi]
    dsimp only [List.length_singleton]
    omega

theorem runCongr_terminates {A B : NFA} {breadth : Bool} {fuel : Nat} (h : fuelBoundCongr A B < fuel) :
    ∃ r, runCongr (nfaUnionDisjoint A B) B breadth fuel = some r := by
  rw [runCongr_eq]
  exact runSkip_terminates (fun _ _ _ => ⟨_, rfl⟩) h

end NfaIncl


theorem nfaInclCongr_total {A B : NFA} (hdis : ∀ q, q ∈ nfaStates A → q ∈ nfaStates B → False) {breadth : Bool}
    {fuel : Nat} (hf : fuelBoundCongr A B < fuel) : ∃ v, nfaInclCongr A B breadth fuel = some v := by
  obtain ⟨r, hr⟩ := runCongr_terminates (breadth := breadth) hf
  have hv := nfaInclCongr_verdict hdis breadth fuel
  rw [hr] at hv
  exact (Verdict.exists_cert hv).elim fun _ h => ⟨_, h⟩

theorem nfaInclCongr_complete {A B : NFA} (hdis : ∀ q, q ∈ nfaStates A → q ∈ nfaStates B → False) {breadth : Bool}
    {fuel : Nat} (hf : fuelBoundCongr A B < fuel) :
    (InclW A B → ∃ c, nfaInclCongr A B breadth fuel = some (true, c)) ∧
    (¬ InclW A B → ∃ c, nfaInclCongr A B breadth fuel = some (false, c)) :=
  Verdict.complete_of_total (let ⟨⟨b, c⟩, h⟩ := nfaInclCongr_total hdis (breadth := breadth) hf; ⟨b, c, h⟩)
    nfaInclCongr_iff

theorem checkNfaInclCongr_total (A B : NFA) {breadth : Bool} {fuel : Nat}
    (hf : fuelBoundCongr (nfaSanitize A B).1 (nfaSanitize A B).2 < fuel) :
    ∃ v, checkNfaInclCongr A B breadth fuel = some v :=
  nfaInclCongr_total (sanitize_disjoint A B) hf

theorem checkNfaInclCongr_complete (A B : NFA) {breadth : Bool} {fuel : Nat}
    (hf : fuelBoundCongr (nfaSanitize A B).1 (nfaSanitize A B).2 < fuel) :
    (InclW A B → ∃ c, checkNfaInclCongr A B breadth fuel = some (true, c)) ∧
    (¬ InclW A B → ∃ c, checkNfaInclCongr A B breadth fuel = some (false, c)) := by
  have := nfaInclCongr_complete (sanitize_disjoint A B) (breadth := breadth) hf
  rw [sanitize_incl] at this
  exact this

namespace NfaInclEx

theorem exStar_disjoint : ∀ q, q ∈ nfaStates exAstar → q ∈ nfaStates exABstar → False := by decide

example : fuelBoundCongr exAstar exABstar = 9 := by decide
example : ∃ v, nfaInclCongr exAstar exABstar true 10 = some v := nfaInclCongr_total exStar_disjoint (by decide)
example : ∃ c, nfaInclCongr exAstar exABstar false 10 = some (true, c) :=
  (nfaInclCongr_complete exStar_disjoint (by decide)).1 (nfaUpCertB_incl exStar_upCertB)
/-- the relation of a finished run is a certificate, by the invariant -/
example : ∃ R, runCongr (nfaUnionDisjoint exAstar exABstar) exABstar true 10 = some (.ok R) ∧
    CongrCert exAstar exABstar (rulesOf R) :=
  have ⟨R, h⟩ : ∃ R, runCongr (nfaUnionDisjoint exAstar exABstar) exABstar true 10 = some (.ok R) := ⟨_, rfl⟩
  ⟨R, h, runCongr_ok_cert exStar_disjoint h⟩
example : ∃ w, runCongr (nfaUnionDisjoint exAAB exAplus) exAplus false 10 = some (.error w) ∧
    acceptsW exAAB w = true ∧ acceptsW exAplus w = false :=
  have ⟨w, h⟩ : ∃ w, runCongr (nfaUnionDisjoint exAAB exAplus) exAplus false 10 = some (.error w) := ⟨_, rfl⟩
  ⟨w, h, runCongr_error_ok (by decide +kernel) h⟩
/-- the check is complete: it accepts exactly the certificates -/
example : congrCertB exSanA exSanB exSanR = true :=
  congrCertB_complete (congrCertB_sound exSan_certB)
example : congrCertB exAstar exABstar [([0, 1], [1])] = true ∧ CongrCert exAstar exABstar [([0, 1], [1])] :=
  ⟨exStar_certB, congrCertB_sound exStar_certB⟩
-- up-to-congruence pruning at work: with the rule `{3} → {1,2,3}` the pair `({1,2,3,4}, {3,4})` is in the closure
#guard inClosure [([1, 2, 3], [3])] [1, 2, 3, 4] [3, 4]
#guard !inClosure [([1, 2, 3], [3])] [1, 2, 3, 4] [4]
#guard inCongrB [([1, 2, 3], [3]), ([5], [1, 4])] [3, 4] [1, 2, 3, 4, 5]

end NfaInclEx

end Vata
