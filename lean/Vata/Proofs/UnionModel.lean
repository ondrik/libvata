import Vata.UnionModel
import Vata.Proofs.Rename
import Vata.Proofs.AssocList
/-!
# Property C02 – `Union` with its weak translators and ONE shared counter (`Vata/UnionModel.lean`)

A pass of the weak translator keeps old bindings and gives the new numbers `cnt, cnt+1, …`, each once (`Um.Grow`).  So
pre-filled maps that are injective with disjoint images yield final maps that extend them, are defined on all states of
their operand, are injective there and have disjoint images there; hence the result accepts exactly `L(A) ∪ L(B)` (via
`unionWith_lang`).  `UnionEx.old_*`: the code before the repair (counter from 0, finding D11) merges states and accepts
a tree that is in neither language although the precondition holds.
The theorems about `unionModelOrd` hold for ALL visiting orders that cover the states of the operands.
-/
namespace Vata
namespace Um

def Inj (m : SMap) : Prop := ∀ p p' n, m.lookup p = some n → m.lookup p' = some n → p = p'
def Disj (m m' : SMap) : Prop := ∀ p p' n, m.lookup p = some n → m'.lookup p' = some n → False
def Below (m : SMap) (c : Nat) : Prop := ∀ p n, m.lookup p = some n → n < c
def Ext (m m' : SMap) : Prop := ∀ p n, m.lookup p = some n → m'.lookup p = some n

theorem Ext.refl (m : SMap) : Ext m m := fun _ _ h => h
theorem Ext.trans {a b c : SMap} (h : Ext a b) (h' : Ext b c) : Ext a c := fun p n hp => h' p n (h p n hp)

theorem Below.mono {m : SMap} {c c' : Nat} (h : Below m c) (hc : c ≤ c') : Below m c' :=
  fun p n hp => Nat.lt_of_lt_of_le (h p n hp) hc

theorem below_nil (c : Nat) : Below [] c := fun p n h => by simp at h
theorem inj_nil : Inj [] := fun p p' n h => by simp at h
theorem disj_nil_left (m : SMap) : Disj [] m := fun p p' n h => by simp at h
theorem disj_nil_right (m : SMap) : Disj m [] := fun p p' n _ h => by simp at h

/-- what a pass through the weak translator does: the map grows from `m` to `m'` while the counter goes from `c` to
`c'`; new bindings carry numbers in `[c, c')`, every such number is given to one key only -/
structure Grow (m : SMap) (c : Nat) (m' : SMap) (c' : Nat) : Prop where
  ext : Ext m m'
  le : c ≤ c'
  new : ∀ p n, m'.lookup p = some n → m.lookup p = some n ∨ (c ≤ n ∧ n < c')
  uniq : ∀ p p' n, m'.lookup p = some n → m'.lookup p' = some n → c ≤ n → p = p'
  onto : ∀ n, c ≤ n → n < c' → ∃ p, m'.lookup p = some n
  len : m'.length + c = m.length + c'
  nodup : (m.map Prod.fst).Nodup → (m'.map Prod.fst).Nodup

theorem Grow.refl (m : SMap) (c : Nat) (hb : Below m c) : Grow m c m c :=
  ⟨fun _ _ h => h, Nat.le_refl _, fun _ _ h => Or.inl h,
    fun p _ n h _ hc => absurd (hb p n h) (Nat.not_lt.mpr hc), fun _ h1 h2 => absurd h2 (Nat.not_lt.mpr h1), rfl, fun h => h⟩

theorem Grow.trans {m m1 m2 : SMap} {c c1 c2 : Nat} (h : Grow m c m1 c1) (h' : Grow m1 c1 m2 c2) : Grow m c m2 c2 := by
  refine ⟨fun p n hp => h'.ext p n (h.ext p n hp), Nat.le_trans h.le h'.le, ?_, ?_, ?_, ?_, fun hn => h'.nodup (h.nodup hn)⟩
  · intro p n hp
    rcases h'.new p n hp with h1 | ⟨h1, h2⟩
    · rcases h.new p n h1 with h3 | ⟨h3, h4⟩
      · exact Or.inl h3
      · exact Or.inr ⟨h3, Nat.lt_of_lt_of_le h4 h'.le⟩
    · exact Or.inr ⟨Nat.le_trans h.le h1, h2⟩
  · intro p p' n hp hp' hc
    by_cases hn : c1 ≤ n
    · exact h'.uniq p p' n hp hp' hn
    · rcases h'.new p n hp with h1 | ⟨h1, _⟩
      · rcases h'.new p' n hp' with h2 | ⟨h2, _⟩
        · exact h.uniq p p' n h1 h2 hc
        · exact absurd h2 hn
      · exact absurd h1 hn
  · intro n h1 h2
    by_cases hn : c1 ≤ n
    · exact h'.onto n hn h2
    · obtain ⟨p, hp⟩ := h.onto n h1 (Nat.lt_of_not_le hn)
      exact ⟨p, h'.ext p n hp⟩
  · have := h.len; have := h'.len; omega

theorem Grow.below {m m' : SMap} {c c' : Nat} (h : Grow m c m' c') (hb : Below m c) : Below m' c' := by
  intro p n hp
  rcases h.new p n hp with h1 | ⟨_, h1⟩
  · exact Nat.lt_of_lt_of_le (hb p n h1) h.le
  · exact h1

theorem Grow.inj {m m' : SMap} {c c' : Nat} (h : Grow m c m' c') (hi : Inj m) : Inj m' := by
  intro p p' n hp hp'
  by_cases hn : c ≤ n
  · exact h.uniq p p' n hp hp' hn
  · rcases h.new p n hp with h1 | ⟨h1, _⟩
    · rcases h.new p' n hp' with h2 | ⟨h2, _⟩
      · exact hi p p' n h1 h2
      · exact absurd h2 hn
    · exact absurd h1 hn

theorem Grow.disj_left {m m' o : SMap} {c c' : Nat} (h : Grow m c m' c') (ho : Below o c) (hd : Disj m o) : Disj m' o := by
  intro p p' n hp hp'
  rcases h.new p n hp with h1 | ⟨h1, _⟩
  · exact hd p p' n h1 hp'
  · exact absurd (ho p' n hp') (Nat.not_lt.mpr h1)

theorem Grow.disj_right {m m' o : SMap} {c c' : Nat} (h : Grow m c m' c') (ho : Below o c) (hd : Disj o m) : Disj o m' := by
  intro p p' n hp hp'
  rcases h.new p' n hp' with h1 | ⟨h1, _⟩
  · exact hd p p' n hp h1
  · exact absurd (ho p n hp) (Nat.not_lt.mpr h1)

theorem weakTr_of_lookup {m : SMap} {q n : Nat} (h : m.lookup q = some n) (c : Nat) : weakTr m c q = (m, c) := by
  simp only [weakTr, h]

theorem weakTr_ext (m : SMap) (c q : Nat) {p n : Nat} (h : m.lookup p = some n) : (weakTr m c q).1.lookup p = some n := by
  unfold weakTr
  cases hl : m.lookup q with
  | some _ => exact h
  | none =>
    show (m ++ [(q, c)]).lookup p = some n
    rw [lookup_snoc, h]; rfl

theorem weakTrAll_ext : ∀ (qs : List Nat) (m : SMap) (c : Nat) {p n : Nat}, m.lookup p = some n →
    (weakTrAll qs m c).1.lookup p = some n
  | [], _, _, _, _, h => h
  | q :: qs, m, c, _, _, h => weakTrAll_ext qs _ _ (weakTr_ext m c q h)

theorem weakTrAll_append : ∀ (qs rs : List Nat) (m : SMap) (c : Nat),
    weakTrAll (qs ++ rs) m c = weakTrAll rs (weakTrAll qs m c).1 (weakTrAll qs m c).2
  | [], _, _, _ => rfl
  | _ :: qs, rs, _, _ => weakTrAll_append qs rs _ _

theorem weakTr_grow (m : SMap) (c q : Nat) (hb : Below m c) : Grow m c (weakTr m c q).1 (weakTr m c q).2 := by
  unfold weakTr
  cases hl : m.lookup q with
  | some _ => exact Grow.refl m c hb
  | none =>
    have key : ∀ p n, (m ++ [(q, c)]).lookup p = some n → m.lookup p = some n ∨ (p = q ∧ n = c) :=
      fun _ _ hp => lookup_snoc_inv hp
    refine ⟨fun p n hp => by rw [lookup_snoc, hp]; rfl, Nat.le_succ _, ?_, ?_, ?_, ?_, ?_⟩
    · intro p n hp
      rcases key p n hp with h1 | ⟨_, h1⟩
      · exact Or.inl h1
      · exact Or.inr ⟨by omega, by simp only; omega⟩
    · intro p p' n hp hp' hc
      rcases key p n hp with h1 | ⟨h1, _⟩
      · exact absurd (hb p n h1) (Nat.not_lt.mpr hc)
      · rcases key p' n hp' with h2 | ⟨h2, _⟩
        · exact absurd (hb p' n h2) (Nat.not_lt.mpr hc)
        · rw [h1, h2]
    · intro n h1 h2
      have : n = c := by simp only at h2; omega
      subst this
      exact ⟨q, by show (m ++ [(q, n)]).lookup q = some n; rw [lookup_snoc, hl]; simp⟩
    · simp only [List.length_append, List.length_singleton]; omega
    · intro hn
      simp only [List.map_append, List.map_cons, List.map_nil]
      rw [List.nodup_append]
      refine ⟨hn, by simp, ?_⟩
      intro a ha b hb' hab
      simp only [List.mem_singleton] at hb'
      subst hb'
      subst hab
      exact lookup_eq_none_iff_keys.mp hl ha

theorem weakTr_known (m : SMap) (c q : Nat) : ∃ n, (weakTr m c q).1.lookup q = some n := by
  unfold weakTr
  cases hl : m.lookup q with
  | some n => exact ⟨n, hl⟩
  | none => exact ⟨c, by show (m ++ [(q, c)]).lookup q = some c; rw [lookup_snoc, hl]; simp⟩

theorem weakTr_keys (m : SMap) (c q : Nat) : ∀ p n, (weakTr m c q).1.lookup p = some n → m.lookup p = some n ∨ p = q := by
  unfold weakTr
  cases hl : m.lookup q with
  | some n => exact fun p n hp => Or.inl hp
  | none =>
    exact fun p n hp => (lookup_snoc_inv (v := c) hp).imp_right And.left

theorem weakTrAll_grow : ∀ (qs : List Nat) (m : SMap) (c : Nat), Below m c →
    Grow m c (weakTrAll qs m c).1 (weakTrAll qs m c).2
  | [], m, c, hb => Grow.refl m c hb
  | q :: qs, m, c, hb => by
    have h1 := weakTr_grow m c q hb
    exact h1.trans (weakTrAll_grow qs _ _ (h1.below hb))

theorem weakTrAll_total : ∀ (qs : List Nat) (m : SMap) (c : Nat), ∀ q, q ∈ qs → ∃ n, (weakTrAll qs m c).1.lookup q = some n
  | x :: qs, m, c, q, hq => by
    rcases List.mem_cons.mp hq with h | h
    · subst h
      exact (weakTr_known m c q).imp (fun n hn => weakTrAll_ext qs _ _ hn)
    · exact weakTrAll_total qs _ _ q h

theorem weakTrAll_keys : ∀ (qs : List Nat) (m : SMap) (c : Nat),
    ∀ p n, (weakTrAll qs m c).1.lookup p = some n → m.lookup p = some n ∨ p ∈ qs
  | [], _, _, p, n, hp => Or.inl hp
  | x :: qs, m, c, p, n, hp => by
    rcases weakTrAll_keys qs _ _ p n hp with h | h
    · rcases weakTr_keys m c x p n h with h1 | h1
      · exact Or.inl h1
      · exact Or.inr (h1 ▸ List.mem_cons_self)
    · exact Or.inr (List.mem_cons_of_mem _ h)

theorem maxVal_spec (m : SMap) (c : Nat) : c ≤ maxVal m c ∧ ∀ e, e ∈ m → e.2 < maxVal m c :=
  ⟨init_le_foldl_max _ m c, fun _ he => le_foldl_max (fun e : Nat × Nat => e.2 + 1) he c⟩

theorem below_unionCnt_left (mL mR : SMap) : Below mL (unionCnt mL mR) := by
  intro p n hp
  exact Nat.lt_of_lt_of_le ((maxVal_spec mL 0).2 _ (mem_of_lookup hp)) (maxVal_spec mR _).1

theorem below_unionCnt_right (mL mR : SMap) : Below mR (unionCnt mL mR) := by
  intro p n hp
  exact (maxVal_spec mR _).2 _ (mem_of_lookup hp)

end Um

theorem smapInjB_sound {m : SMap} (h : smapInjB m = true) : Um.Inj m := by
  intro p p' n hp hp'
  simp only [smapInjB, List.all_eq_true, Bool.or_eq_true, bne_iff_ne, beq_iff_eq] at h
  rcases h _ (mem_of_lookup hp) _ (mem_of_lookup hp') with h1 | h1
  · exact absurd rfl h1
  · exact h1

theorem smapDisjB_sound {m m' : SMap} (h : smapDisjB m m' = true) : Um.Disj m m' := by
  intro p p' n hp hp'
  simp only [smapDisjB, List.all_eq_true, bne_iff_ne] at h
  exact h _ (mem_of_lookup hp) _ (mem_of_lookup hp') rfl

namespace Um

theorem passes {oA oB : List Nat} {mL mR : SMap} {c : Nat} (hbL : Below mL c) (hbR : Below mR c)
    (hL : Inj mL) (hR : Inj mR) (hD : Disj mL mR) :
    Inj (weakTrAll oA mL c).1 ∧ Inj (weakTrAll oB mR (weakTrAll oA mL c).2).1 ∧
    Disj (weakTrAll oA mL c).1 (weakTrAll oB mR (weakTrAll oA mL c).2).1 ∧
    Ext mL (weakTrAll oA mL c).1 ∧ Ext mR (weakTrAll oB mR (weakTrAll oA mL c).2).1 ∧
    (∀ q, q ∈ oA → ∃ n, (weakTrAll oA mL c).1.lookup q = some n) ∧
    (∀ q, q ∈ oB → ∃ n, (weakTrAll oB mR (weakTrAll oA mL c).2).1.lookup q = some n) := by
  have g1 := weakTrAll_grow oA mL c hbL
  have hbR' : Below mR (weakTrAll oA mL c).2 := hbR.mono g1.le
  have g2 := weakTrAll_grow oB mR _ hbR'
  refine ⟨g1.inj hL, g2.inj hR, ?_, g1.ext, g2.ext, weakTrAll_total oA mL c, weakTrAll_total oB mR _⟩
  exact g2.disj_right (g1.below hbL) (g1.disj_left hbR hD)

theorem applyMap_of_lookup {m : SMap} {q n : Nat} (h : m.lookup q = some n) : applyMap m q = n := by
  simp only [applyMap, h, Option.getD_some]

theorem injOn_of {m : SMap} {Q : List Nat} (hi : Inj m) (ht : ∀ q, q ∈ Q → ∃ n, m.lookup q = some n) :
    ∀ q q', q ∈ Q → q' ∈ Q → applyMap m q = applyMap m q' → q = q' := by
  intro q q' hq hq' he
  obtain ⟨n, hn⟩ := ht q hq
  obtain ⟨n', hn'⟩ := ht q' hq'
  rw [applyMap_of_lookup hn, applyMap_of_lookup hn'] at he
  subst he
  exact hi q q' n hn hn'

theorem disjOn_of {m m' : SMap} {Q Q' : List Nat} (hd : Disj m m') (ht : ∀ q, q ∈ Q → ∃ n, m.lookup q = some n)
    (ht' : ∀ q, q ∈ Q' → ∃ n, m'.lookup q = some n) :
    ∀ q q', q ∈ Q → q' ∈ Q' → applyMap m q ≠ applyMap m' q' := by
  intro q q' hq hq' he
  obtain ⟨n, hn⟩ := ht q hq
  obtain ⟨n', hn'⟩ := ht' q' hq'
  rw [applyMap_of_lookup hn, applyMap_of_lookup hn'] at he
  subst he
  exact hd q q' n hn hn'

theorem passes_ok {oA oB : List Nat} {A B : TA} {mL mR : SMap} {c : Nat} (hoA : ∀ q, q ∈ A.states → q ∈ oA)
    (hoB : ∀ q, q ∈ B.states → q ∈ oB) (hbL : Below mL c) (hbR : Below mR c) (hL : Inj mL) (hR : Inj mR) (hD : Disj mL mR) :
    InjOnStates (applyMap (weakTrAll oA mL c).1) A ∧ InjOnStates (applyMap (weakTrAll oB mR (weakTrAll oA mL c).2).1) B ∧
    (∀ q q', q ∈ A.states → q' ∈ B.states →
      applyMap (weakTrAll oA mL c).1 q ≠ applyMap (weakTrAll oB mR (weakTrAll oA mL c).2).1 q') := by
  obtain ⟨h1, h2, h3, _, _, h6, h7⟩ := passes (oA := oA) (oB := oB) hbL hbR hL hR hD
  have tA : ∀ q, q ∈ A.states → ∃ n, (weakTrAll oA mL c).1.lookup q = some n := fun q hq => h6 q (hoA q hq)
  have tB : ∀ q, q ∈ B.states → ∃ n, (weakTrAll oB mR (weakTrAll oA mL c).2).1.lookup q = some n :=
    fun q hq => h7 q (hoB q hq)
  exact ⟨injOn_of h1 tA, injOn_of h2 tB, disjOn_of h3 tA tB⟩

theorem mem_visitOrder {A : TA} {q : Nat} : q ∈ visitOrder A ↔ q ∈ A.states := by
  unfold visitOrder TA.states
  rw [mem_dedupL, List.mem_append, List.mem_append]
  exact Or.comm

end Um

/-- the final maps are injective on the states of their operand and their images of the operands' states are disjoint,
provided the pre-filled maps are injective with disjoint images (e.g. both empty, or the maps a previous `Union`
returned) -/
theorem unionModelOrd_maps_ok (oA oB : List Nat) (A B : TA) (mL mR : SMap)
    (hoA : ∀ q, q ∈ A.states → q ∈ oA) (hoB : ∀ q, q ∈ B.states → q ∈ oB)
    (hL : Um.Inj mL) (hR : Um.Inj mR) (hD : Um.Disj mL mR) :
    InjOnStates (applyMap (unionModelOrd oA oB A B mL mR).2.1) A ∧
    InjOnStates (applyMap (unionModelOrd oA oB A B mL mR).2.2) B ∧
    (∀ q q', q ∈ A.states → q' ∈ B.states →
      applyMap (unionModelOrd oA oB A B mL mR).2.1 q ≠ applyMap (unionModelOrd oA oB A B mL mR).2.2 q') :=
  Um.passes_ok hoA hoB (Um.below_unionCnt_left mL mR) (Um.below_unionCnt_right mL mR) hL hR hD

theorem unionModelOrd_maps_inj (oA oB : List Nat) (A B : TA) (mL mR : SMap)
    (hL : Um.Inj mL) (hR : Um.Inj mR) (hD : Um.Disj mL mR) :
    Um.Inj (unionModelOrd oA oB A B mL mR).2.1 ∧ Um.Inj (unionModelOrd oA oB A B mL mR).2.2 ∧
    Um.Disj (unionModelOrd oA oB A B mL mR).2.1 (unionModelOrd oA oB A B mL mR).2.2 := by
  obtain ⟨h1, h2, h3, _⟩ := Um.passes (oA := oA) (oB := oB) (Um.below_unionCnt_left mL mR)
    (Um.below_unionCnt_right mL mR) hL hR hD
  exact ⟨h1, h2, h3⟩

theorem unionModelOrd_maps_ext (oA oB : List Nat) (A B : TA) (mL mR : SMap) :
    Um.Ext mL (unionModelOrd oA oB A B mL mR).2.1 ∧ Um.Ext mR (unionModelOrd oA oB A B mL mR).2.2 := by
  have g1 := Um.weakTrAll_grow oA mL _ (Um.below_unionCnt_left mL mR)
  have g2 := Um.weakTrAll_grow oB mR _ ((Um.below_unionCnt_right mL mR).mono g1.le)
  exact ⟨g1.ext, g2.ext⟩

theorem unionModelOrd_maps_total (oA oB : List Nat) (A B : TA) (mL mR : SMap)
    (hoA : ∀ q, q ∈ A.states → q ∈ oA) (hoB : ∀ q, q ∈ B.states → q ∈ oB) :
    (∀ q, q ∈ A.states → ∃ n, (unionModelOrd oA oB A B mL mR).2.1.lookup q = some n) ∧
    (∀ q, q ∈ B.states → ∃ n, (unionModelOrd oA oB A B mL mR).2.2.lookup q = some n) := by
  exact ⟨fun q hq => Um.weakTrAll_total oA mL _ q (hoA q hq), fun q hq => Um.weakTrAll_total oB mR _ q (hoB q hq)⟩

theorem unionModelOrd_lang (oA oB : List Nat) (A B : TA) (mL mR : SMap)
    (hoA : ∀ q, q ∈ A.states → q ∈ oA) (hoB : ∀ q, q ∈ B.states → q ∈ oB)
    (hL : Um.Inj mL) (hR : Um.Inj mR) (hD : Um.Disj mL mR) (t : Tree) :
    accepts (unionModelOrd oA oB A B mL mR).1 t = (accepts A t || accepts B t) := by
  obtain ⟨h1, h2, h3⟩ := unionModelOrd_maps_ok oA oB A B mL mR hoA hoB hL hR hD
  exact unionWith_lang _ _ A B h1 h2 h3 t

theorem unionModel_maps_ok (A B : TA) (mL mR : SMap) (hL : Um.Inj mL) (hR : Um.Inj mR) (hD : Um.Disj mL mR) :
    InjOnStates (applyMap (unionModel A B mL mR).2.1) A ∧ InjOnStates (applyMap (unionModel A B mL mR).2.2) B ∧
    (∀ q q', q ∈ A.states → q' ∈ B.states →
      applyMap (unionModel A B mL mR).2.1 q ≠ applyMap (unionModel A B mL mR).2.2 q') :=
  unionModelOrd_maps_ok _ _ A B mL mR (fun _ h => Um.mem_visitOrder.mpr h) (fun _ h => Um.mem_visitOrder.mpr h) hL hR hD

theorem unionModel_maps_inj (A B : TA) (mL mR : SMap) (hL : Um.Inj mL) (hR : Um.Inj mR) (hD : Um.Disj mL mR) :
    Um.Inj (unionModel A B mL mR).2.1 ∧ Um.Inj (unionModel A B mL mR).2.2 ∧
    Um.Disj (unionModel A B mL mR).2.1 (unionModel A B mL mR).2.2 :=
  unionModelOrd_maps_inj _ _ A B mL mR hL hR hD

theorem unionModel_maps_ext (A B : TA) (mL mR : SMap) :
    Um.Ext mL (unionModel A B mL mR).2.1 ∧ Um.Ext mR (unionModel A B mL mR).2.2 :=
  unionModelOrd_maps_ext _ _ A B mL mR

theorem unionModel_maps_total (A B : TA) (mL mR : SMap) :
    (∀ q, q ∈ A.states → ∃ n, (unionModel A B mL mR).2.1.lookup q = some n) ∧
    (∀ q, q ∈ B.states → ∃ n, (unionModel A B mL mR).2.2.lookup q = some n) :=
  unionModelOrd_maps_total _ _ A B mL mR (fun _ h => Um.mem_visitOrder.mpr h) (fun _ h => Um.mem_visitOrder.mpr h)

theorem unionModel_lang (A B : TA) (mL mR : SMap) (hL : Um.Inj mL) (hR : Um.Inj mR) (hD : Um.Disj mL mR) (t : Tree) :
    accepts (unionModel A B mL mR).1 t = (accepts A t || accepts B t) :=
  unionModelOrd_lang _ _ A B mL mR (fun _ h => Um.mem_visitOrder.mpr h) (fun _ h => Um.mem_visitOrder.mpr h) hL hR hD t

/-- the common call with no maps supplied -/
theorem unionModel_lang_empty (A B : TA) (t : Tree) :
    accepts (unionModel A B [] []).1 t = (accepts A t || accepts B t) :=
  unionModel_lang A B [] [] Um.inj_nil Um.inj_nil (Um.disj_nil_left _) t

namespace UnionEx

/-- `a → 5`, final `5` -/
def exA5 : TA := ⟨[⟨0, [], 5⟩], [5]⟩
/-- `b → 9`, final `9` -/
def exB9 : TA := ⟨[⟨1, [], 9⟩], [9]⟩
/-- `a → 5`, `h(5) → 6`, final `6`: the language is `{h(a)}` -/
def exA : TA := ⟨[⟨0, [], 5⟩, ⟨2, [5], 6⟩], [6]⟩
/-- the trees `a`, `b`, `h(a)`, `h(b)` -/
def tA : Tree := .node 0 []
def tB : Tree := .node 1 []
def tHA : Tree := .node 2 [.node 0 []]
def tHB : Tree := .node 2 [.node 1 []]

-- the precondition holds for the pre-filled maps used below
example : Um.Inj [(5, 0)] ∧ Um.Inj [] ∧ Um.Disj [(5, 0)] [] := ⟨smapInjB_sound (by decide), Um.inj_nil, Um.disj_nil_right _⟩
example : Um.Inj [(5, 0), (6, 1)] ∧ Um.Inj [(7, 3)] ∧ Um.Disj [(5, 0), (6, 1)] [(7, 3)] :=
  ⟨smapInjB_sound (by decide), smapInjB_sound (by decide), smapDisjB_sound (by decide)⟩
-- … and the checks are not vacuous
example : smapInjB [(5, 0), (6, 0)] = false ∧ smapDisjB [(5, 0)] [(7, 0)] = false := by decide +kernel

def obs (r : TA × SMap × SMap) : List Rule × List Nat × SMap × SMap := (r.1.rules, r.1.final, r.2.1, r.2.2)

-- the repaired code: the counter starts above the pre-filled numbers
example : obs (unionModel exA5 exB9 [(5, 0)] []) = ([⟨0, [], 0⟩, ⟨1, [], 1⟩], [0, 1], [(5, 0)], [(9, 1)]) := by decide +kernel
example : obs (unionModel exA exB9 [(5, 0), (6, 1)] [(7, 3)]) =
    ([⟨0, [], 0⟩, ⟨2, [0], 1⟩, ⟨1, [], 4⟩], [1, 4], [(5, 0), (6, 1)], [(7, 3), (9, 4)]) := by decide +kernel
example : (unionModel exA exB9 [] []).2 = ([(6, 0), (5, 1)], [(9, 2)]) := by decide +kernel
example : accepts (unionModel exA exB9 [(5, 0), (6, 1)] []).1 tHA = true ∧
    accepts (unionModel exA exB9 [(5, 0), (6, 1)] []).1 tB = true ∧
    accepts (unionModel exA exB9 [(5, 0), (6, 1)] []).1 tA = false ∧
    accepts (unionModel exA exB9 [(5, 0), (6, 1)] []).1 tHB = false := by decide +kernel

/-- the old code (counter from 0): with the pre-filled map `5 ↦ 0` the state `9` of `B` also gets the number `0` -/
theorem old_merges :
    obs (unionModelOld exA5 exB9 [(5, 0)] []) = ([⟨0, [], 0⟩, ⟨1, [], 0⟩], [0, 0], [(5, 0)], [(9, 0)]) ∧
    applyMap (unionModelOld exA5 exB9 [(5, 0)] []).2.1 5 = applyMap (unionModelOld exA5 exB9 [(5, 0)] []).2.2 9 := by
  decide +kernel

/-- … and the language claim fails: with `A = {h(a)}` (map pre-filled by the caller) and `B = {b}` the old result accepts
`a` and `h(b)`, which are in neither language, although the pre-filled maps satisfy the precondition -/
theorem old_lang_fails :
    accepts (unionModelOld exA exB9 [(5, 0), (6, 1)] []).1 tA = true ∧ accepts exA tA = false ∧ accepts exB9 tA = false ∧
    accepts (unionModelOld exA exB9 [(5, 0), (6, 1)] []).1 tHB = true ∧ accepts exA tHB = false ∧ accepts exB9 tHB = false := by
  decide

/-- the repaired model is right on the same input -/
example (t : Tree) : accepts (unionModel exA exB9 [(5, 0), (6, 1)] []).1 t = (accepts exA t || accepts exB9 t) :=
  unionModel_lang exA exB9 _ _ (smapInjB_sound (by decide)) Um.inj_nil (Um.disj_nil_right _) t

end UnionEx

end Vata
