import Vata.IsectBU
import Vata.Proofs.IsectModel
/-!
# Property C02 – `IntersectionBU`: the bottom-up product (`Vata/IsectBU.lean`) accepts exactly the intersection

The certificate principle (`isect_bu_cert`): the product on a BOTTOM-UP closed set `D` of pairs (all product rules whose
children pairs are in `D`; final = pairs of `D` with two final components), numbered injectively on `D`, accepts exactly
`L(A) ∩ L(B)`.  It is the other instance of the product theorem of `Vata/Isect.lean` (`reach_prod_sound`,
`reach_prod_complete` with every pair wanted): for `isect_cert` the set `D` is closed downwards and contains `F_A × F_B`, here
every pair `(p, q)` with `p ∈ reach A t`, `q ∈ reach B t` is in `D`.  The model ends with a Boolean check of these hypotheses, so
whenever it returns, the product accepts exactly the intersection and the reported translation map is injective.
That the check cannot fail is in `Vata/Proofs/IsectBUInv.lean`.
-/
namespace Vata

def BUClosed (A B : TA) (D : List (Nat × Nat)) : Prop :=
  ∀ r, r ∈ A.rules → ∀ r', r' ∈ B.rules → r'.sym = r.sym → r'.kids.length = r.kids.length →
    (∀ pr, pr ∈ r.kids.zip r'.kids → pr ∈ D) → (r.parent, r'.parent) ∈ D

namespace Ibu

theorem mem_prodRulesBU {A B : TA} {D : List (Nat × Nat)} {m : Nat × Nat → Nat} {ρ : Rule} :
    ρ ∈ prodRulesBU A B D m ↔ ∃ r, r ∈ A.rules ∧ ∃ r', r' ∈ B.rules ∧ r'.sym = r.sym ∧ r'.kids.length = r.kids.length ∧
      (∀ pr, pr ∈ r.kids.zip r'.kids → pr ∈ D) ∧ ρ = ⟨r.sym, (r.kids.zip r'.kids).map m, m (r.parent, r'.parent)⟩ := by
  simp only [prodRulesBU, List.mem_flatMap, List.mem_map, List.mem_filter, Bool.and_eq_true, beq_iff_eq,
    List.all_eq_true, List.contains_iff_mem]
  constructor
  · rintro ⟨r, hr, r', ⟨hr', ⟨hs, hl⟩, hd⟩, rfl⟩; exact ⟨r, hr, r', hr', hs, hl, hd, rfl⟩
  · rintro ⟨r, hr, r', hr', hs, hl, hd, rfl⟩; exact ⟨r, hr, r', ⟨hr', ⟨hs, hl⟩, hd⟩, rfl⟩

theorem mem_prodFinalBU {A B : TA} {D : List (Nat × Nat)} {m : Nat × Nat → Nat} {x : Nat} :
    x ∈ prodFinalBU A B D m ↔ ∃ pr, pr ∈ D ∧ pr.1 ∈ A.final ∧ pr.2 ∈ B.final ∧ m pr = x := by
  simp only [prodFinalBU, List.mem_map, List.mem_filter, Bool.and_eq_true, List.contains_iff_mem]
  constructor
  · rintro ⟨pr, ⟨h1, h2, h3⟩, h4⟩; exact ⟨pr, h1, h2, h3, h4⟩
  · rintro ⟨pr, h1, h2, h3, h4⟩; exact ⟨pr, ⟨h1, h2, h3⟩, h4⟩

/-- componentwise characterisation of `reach` of the product `P`, and every pair of states reached by the two operands on
the same tree is in `D` -/
def Good (A B : TA) (D : List (Nat × Nat)) (m : Nat × Nat → Nat) (P : TA) (t : Tree) : Prop :=
  (∀ x, x ∈ reach P t → ∃ pr, pr ∈ D ∧ m pr = x ∧ pr.1 ∈ reach A t ∧ pr.2 ∈ reach B t) ∧
  (∀ p q, p ∈ reach A t → q ∈ reach B t → (p, q) ∈ D ∧ m (p, q) ∈ reach P t)

theorem prodBU_sound {A B : TA} {D : List (Nat × Nat)} {m : Nat × Nat → Nat} (hc : BUClosed A B D) :
    ProdSound A B D m (prodBU A B D m) := by
  intro ρ hρ
  obtain ⟨r, hr, r', hr', hs, hl, hd, he⟩ := mem_prodRulesBU.mp hρ
  exact ⟨r, r', ⟨hr, hr', hs, hl⟩, hc r hr r' hr' hs hl hd, hd, he⟩

theorem prodBU_complete {A B : TA} {D : List (Nat × Nat)} {m : Nat × Nat → Nat} (hc : BUClosed A B D) :
    ProdComplete A B D m (fun _ => True) (prodBU A B D m) :=
  ⟨fun _ _ _ _ _ _ => trivial, fun r r' h _ hd =>
    ⟨hc r h.1 r' h.2.1 h.2.2.1 h.2.2.2 hd, mem_prodRulesBU.mpr ⟨r, h.1, r', h.2.1, h.2.2.1, h.2.2.2, hd, rfl⟩⟩⟩

theorem good (A B : TA) (D : List (Nat × Nat)) (m : Nat × Nat → Nat) (hc : BUClosed A B D) (hinj : InjOn m D) (t : Tree) :
    Good A B D m (prodBU A B D m) t :=
  ⟨reach_prod_sound (prodBU_sound hc) hinj t, fun p q => reach_prod_complete (prodBU_complete hc) t (p, q) trivial⟩

theorem goodL (A B : TA) (D : List (Nat × Nat)) (m : Nat × Nat → Nat) (hc : BUClosed A B D) (hinj : InjOn m D) :
    ∀ ts : List Tree, ∀ t, t ∈ ts → Good A B D m (prodBU A B D m) t := fun _ t _ => good A B D m hc hinj t

end Ibu

theorem isect_bu_cert (A B : TA) (D : List (Nat × Nat)) (m : Nat × Nat → Nat)
    (hc : BUClosed A B D) (hinj : InjOn m D) (t : Tree) :
    accepts (prodBU A B D m) t = true ↔ accepts A t = true ∧ accepts B t = true := by
  constructor
  · refine accepts_prod_sound (Ibu.prodBU_sound hc) hinj (fun x hx => ?_) t
    obtain ⟨pr, h1, h2, h3, h4⟩ := Ibu.mem_prodFinalBU.mp hx
    exact ⟨pr, h1, h4, h2, h3⟩
  · rintro ⟨ha, hb⟩
    exact accepts_prod_complete (Ibu.prodBU_complete hc)
      (fun p p' hp hp' => ⟨trivial, fun hd => Ibu.mem_prodFinalBU.mpr ⟨(p, p'), hd, hp, hp', rfl⟩⟩) t ha hb

theorem buClosed_reach (A B : TA) (D : List (Nat × Nat)) (m : Nat × Nat → Nat) (hc : BUClosed A B D) (hinj : InjOn m D)
    (t : Tree) (p q : Nat) (hp : p ∈ reach A t) (hq : q ∈ reach B t) : (p, q) ∈ D :=
  ((Ibu.good A B D m hc hinj t).2 p q hp hq).1

namespace Ibu

theorem buClosedB_iff {A B : TA} {D : List (Nat × Nat)} : buClosedB A B D = true ↔ BUClosed A B D := by
  unfold buClosedB BUClosed
  simp only [List.all_eq_true, Bool.or_eq_true, Bool.not_eq_true', ← Bool.not_eq_true, Bool.and_eq_true,
    List.contains_iff_mem, beq_iff_eq]
  constructor
  · intro h r hr r' hr' hs hl hd
    rcases h r hr r' hr' with h1 | h1
    · exact absurd ⟨⟨hs, hl⟩, hd⟩ h1
    · exact h1
  · intro h r hr r' hr'
    by_cases hc : (r'.sym = r.sym ∧ r'.kids.length = r.kids.length) ∧ ∀ pr, pr ∈ r.kids.zip r'.kids → pr ∈ D
    · exact Or.inr (h r hr r' hr' hc.1.1 hc.1.2 hc.2)
    · exact Or.inl hc

theorem pmapInjB_sound {m : PMap} (h : pmapInjB m = true) : InjOn (lookupF m) m.dom := by
  intro x hx y hy he
  obtain ⟨n, hn⟩ := Isx.mem_dom_iff.mp hx
  obtain ⟨n', hn'⟩ := Isx.mem_dom_iff.mp hy
  simp only [lookupF, hn, hn', Option.getD_some] at he
  subst he
  simp only [pmapInjB, List.all_eq_true, Bool.or_eq_true, bne_iff_ne, beq_iff_eq] at h
  rcases h _ (mem_of_lookup hn) _ (mem_of_lookup hn') with h1 | h1
  · exact absurd rfl h1
  · exact h1

theorem buCertB_sound {A B : TA} {m : PMap} {rs : List Rule} {fs : List Nat} (h : buCertB A B m rs fs = true) :
    InjOn (lookupF m) m.dom ∧ BUClosed A B m.dom ∧ (∀ ρ, ρ ∈ rs ↔ ρ ∈ (prodBU A B m.dom (lookupF m)).rules) ∧
    (∀ x, x ∈ fs ↔ x ∈ (prodBU A B m.dom (lookupF m)).final) := by
  simp only [buCertB, Bool.and_eq_true] at h
  obtain ⟨⟨⟨h1, h2⟩, h3⟩, h4⟩ := h
  exact ⟨pmapInjB_sound h1, buClosedB_iff.mp h2, rulesEq_iff.mp h3, seteq_iff.mp h4⟩

end Ibu

theorem isectBU_spec {A B : TA} {fuel : Nat} {P : TA} {m : PMap} (h : isectBU A B fuel = some (P, m)) :
    InjOn (lookupF m) m.dom ∧ BUClosed A B m.dom ∧ (∀ ρ, ρ ∈ P.rules ↔ ρ ∈ (prodBU A B m.dom (lookupF m)).rules) ∧
    (∀ x, x ∈ P.final ↔ x ∈ (prodBU A B m.dom (lookupF m)).final) := by
  unfold isectBU at h
  simp only at h
  split at h
  · cases h
  · rename_i m1 rs fs _
    split at h
    · rename_i hc
      simp only [Option.some.injEq, Prod.mk.injEq] at h
      obtain ⟨rfl, rfl⟩ := h
      exact Ibu.buCertB_sound hc
    · cases h

theorem isectBU_lang {A B : TA} {fuel : Nat} {P : TA} {m : PMap} (h : isectBU A B fuel = some (P, m)) :
    ∀ t, accepts P t = (accepts A t && accepts B t) := by
  intro t
  obtain ⟨hinj, hcl, hr, hf⟩ := isectBU_spec h
  rw [Isx.accepts_congr_sets hr hf t, Bool.eq_iff_iff, Bool.and_eq_true]
  exact isect_bu_cert A B m.dom (lookupF m) hcl hinj t

theorem isectBU_map_inj {A B : TA} {fuel : Nat} {P : TA} {m : PMap} (h : isectBU A B fuel = some (P, m)) :
    InjOn (lookupF m) m.dom := (isectBU_spec h).1

theorem isectBU_dom_complete {A B : TA} {fuel : Nat} {P : TA} {m : PMap} (h : isectBU A B fuel = some (P, m))
    (t : Tree) (p q : Nat) (hp : p ∈ reach A t) (hq : q ∈ reach B t) : (p, q) ∈ m.dom :=
  buClosed_reach A B m.dom (lookupF m) (isectBU_spec h).2.1 (isectBU_spec h).1 t p q hp hq

theorem isectBU_eq_isectTD {A B : TA} {fuel fuel' : Nat} {P P' : TA} {m m' : PMap} (h : isectBU A B fuel = some (P, m))
    (h' : isectTD A B fuel' = some (P', m')) (t : Tree) : accepts P t = accepts P' t := by
  rw [isectBU_lang h t, isectTD_lang h' t]

namespace IsectBUEx

/-- `a → 0`, `f(0) → 1`, `f(1) → 1`, `f(2) → 2`; final `1`, `2`: the language is `f⁺(a)` (state `2` is unproductive) -/
def exS : TA := ⟨[⟨0, [], 0⟩, ⟨1, [0], 1⟩, ⟨1, [1], 1⟩, ⟨1, [2], 2⟩], [1, 2]⟩
/-- `a → 0`, `f(0) → 0`, `f(5) → 5`; final `0`, `5`: the language is `f*(a)` -/
def exL : TA := ⟨[⟨0, [], 0⟩, ⟨1, [0], 0⟩, ⟨1, [5], 5⟩], [0, 5]⟩
def exFA : Tree := .node 1 [.node 0 []]
def exA0 : Tree := .node 0 []

/-- the example of `IsectModel`: three pairs are bottom-up reachable (the top-down product discovers four); the run, evaluated
once, quoted below and in `Properties/C02` -/
theorem exAB_run : (isectBU IsectEx.exA IsectEx.exB 20).map (fun r => (r.1.rules, r.1.final, r.2)) =
    some ([⟨0, [], 0⟩, ⟨2, [0, 0], 1⟩, ⟨2, [0, 0], 1⟩, ⟨3, [1], 2⟩, ⟨3, [2], 1⟩], [1],
      [((0, 0), 0), ((1, 1), 1), ((1, 2), 2)]) := by decide +kernel
/-- self-loop rules on both sides: the tentative insertion of `(2, 5)` for `f(2) → 2`, `f(5) → 5` is erased again; the run,
evaluated once, quoted below and in `IsectBUInv`, `Properties/C02`, `Properties/C20` -/
theorem exSL_run : (isectBU exS exL 20).map (fun r => (r.1.rules, r.1.final, r.2)) =
    some ([⟨0, [], 0⟩, ⟨1, [0], 1⟩, ⟨1, [1], 1⟩], [1], [((0, 0), 0), ((1, 0), 1)]) := by decide +kernel

example : (isectBU IsectEx.exA IsectEx.exB 20).map (fun r => (r.1.rules, r.1.final, r.2)) =
    some ([⟨0, [], 0⟩, ⟨2, [0, 0], 1⟩, ⟨2, [0, 0], 1⟩, ⟨3, [1], 2⟩, ⟨3, [2], 1⟩], [1],
      [((0, 0), 0), ((1, 1), 1), ((1, 2), 2)]) := exAB_run
-- with too little fuel there is no result
example : (isectBU IsectEx.exA IsectEx.exB 3).isNone = true := by decide +kernel
example : (isectBURef IsectEx.exA IsectEx.exB).isSome = true := by decide +kernel
example : (isectBU exS exL 20).map (fun r => (r.1.rules, r.1.final, r.2)) =
    some ([⟨0, [], 0⟩, ⟨1, [0], 1⟩, ⟨1, [1], 1⟩], [1], [((0, 0), 0), ((1, 0), 1)]) := exSL_run
-- the hypothesis of `isectBU_lang` is satisfiable and the conclusion distinguishes trees
example : ∃ P m, isectBU IsectEx.exA IsectEx.exB 20 = some (P, m) ∧ accepts P IsectEx.exT = true ∧
    accepts P IsectEx.exT' = false := by
  cases h : isectBU IsectEx.exA IsectEx.exB 20 with
  | none => exact absurd h (Option.isSome_iff_ne_none.mp (Option.isSome_of_map exAB_run))
  | some r =>
    refine ⟨r.1, r.2, rfl, ?_, ?_⟩
    · rw [isectBU_lang h]; decide +kernel
    · rw [isectBU_lang h]; decide +kernel
example : ∃ P m, isectBU exS exL 20 = some (P, m) ∧ accepts P exFA = true ∧ accepts P exA0 = false := by
  cases h : isectBU exS exL 20 with
  | none => exact absurd h (Option.isSome_iff_ne_none.mp (Option.isSome_of_map exSL_run))
  | some r =>
    refine ⟨r.1, r.2, rfl, ?_, ?_⟩
    · rw [isectBU_lang h]; decide +kernel
    · rw [isectBU_lang h]; decide +kernel
-- the closure check is not vacuous, and a bottom-up closed set need not be closed in the top-down sense
example : buClosedB IsectEx.exA IsectEx.exB [(0, 0)] = false ∧
    buClosedB IsectEx.exA IsectEx.exB [(0, 0), (1, 1), (1, 2)] = true ∧
    isClosedB IsectEx.exA IsectEx.exB [(0, 0), (1, 1), (1, 2)] = false := by decide +kernel
example : BUClosed IsectEx.exA IsectEx.exB [(0, 0), (1, 1), (1, 2)] := Ibu.buClosedB_iff.mp (by decide +kernel)

end IsectBUEx

end Vata
