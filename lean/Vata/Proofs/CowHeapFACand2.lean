import Vata.Proofs.CowHeapFACand
/-!
# The finite-automaton heap model: every step including `GetCandidateTree`; whole histories as ONE fold

* `DenStepRel`: `denStep` extended to a RELATION between the automata denoted before and after a step – for
  `GetCandidateTree` (and its internal step) the target gets SOME automaton with the two guarantees of `C10_witness`
  (`WitnessSpec`); `fa_history_step_all`: every step of every history satisfies it (no `NotCand`).
* congruences of the `nfas…` operations for `NEquiv`: `nfasSetFinal`, `nfasSetStart`,
  `nfasSetExistingStart`, `nfasAddTrans`, `nfasUnionDisjoint` (both arguments), `nfasMap idx` for `idx` injective on the
  START states (the only place where the order of a list matters: the first start state with a given image decides the
  entry of the start-symbol map); `nfasMap_congr_needs_inj` shows that injectivity cannot be dropped.
* `denStep_congr`; `Den H b`: the heap `H` is valid and the automata read through its handles are, up to list order, those of
  `b` – kept by every step that satisfies `FoldOk` (`Den.next`), from any heap; hence `fa_history_fold`: for an operation list without `GetCandidateTree` steps whose `ReindexStates`
  steps use index functions injective on the start states of their source, the automata denoted at the end are – handle by
  handle, up to list order – `ops.foldl denStep den0`.
* `DenRun`: the runs of the relation `DenStepRel` (every history, `GetCandidateTree` steps included, is one:
  `Props.C11_fa_history_run`).
-/
namespace Vata.CowHeapFA

open Vata Vata.W Vata.NfaS
open Vata.Store (KeysNodup)
open Vata.CowHeap (upd upd_same upd_other)

/-- the two guarantees of `C10_witness`: the language of `R` is a subset of the language of `A`, and it is empty only if the
    language of `A` is -/
def WitnessSpec (A R : NFAS) : Prop :=
  (∀ w, acceptsW R.toNFA w = true → acceptsW A.toNFA w = true) ∧
  ((∃ w, acceptsW R.toNFA w = true) ↔ ∃ w, acceptsW A.toNFA w = true)

/-- `dRes` with a relation `S` between operand and result in place of a function: the target gets SOME automaton related to
    the operand's, every other handle keeps its automaton -/
def dResRel (a b : Nat → Option NFAS) (src dst : Nat) (S : NFAS → NFAS → Prop) : Prop :=
  match a src with
  | some A => if (a dst).isNone then (∃ R, b dst = some R ∧ S A R) ∧ ∀ x, x ≠ dst → b x = a x else b = a
  | none => b = a

/-- one step, seen on the automata, for EVERY operation: `denStep` up to list order, except that the result of
    `GetCandidateTree` is specified by `WitnessSpec` (and its local `res` in addition as a sub-automaton) -/
def DenStepRel (a : Nat → Option NFAS) (op : Op) (b : Nat → Option NFAS) : Prop :=
  match op with
  | .candRaw src dst => dResRel a b src dst (fun A R => NfaSub R.toNFA A.toNFA ∧ WitnessSpec A R)
  | .candidate src dst => dResRel a b src dst WitnessSpec
  | op => EnvEq b (denStep a op)

theorem den_specRes_rel (a : Nat → Option FAVal) (src dst : Nat) (f : FAVal → FAVal) (S : NFAS → NFAS → Prop)
    (hf : ∀ s, a src = some s → S s.toNFAS (f s).toNFAS) :
    dResRel (den a) (den (specRes a src dst f)) src dst S := by
  unfold specRes dResRel
  cases hs : a src with
  | none => rw [den_none hs]
  | some s =>
    rw [den_some hs]
    simp only
    cases hd : a dst with
    | none =>
      rw [den_none hd]
      simp only [Option.isNone_none, if_true]
      rw [den_upd]
      refine ⟨⟨(f s).toNFAS, by rw [upd_same]; rfl, hf s hs⟩, fun x hx => upd_other _ _ hx⟩
    | some d =>
      rw [den_some hd]
      simp only [Option.isNone_some, Bool.false_eq_true, if_false]

theorem dResRel_elim {a b : Nat → Option NFAS} {src dst : Nat} {S : NFAS → NFAS → Prop} (h : dResRel a b src dst S)
    {A : NFAS} (hA : a src = some A) (hd : a dst = none) :
    (∃ R, b dst = some R ∧ S A R) ∧ ∀ x, x ≠ dst → b x = a x := by
  unfold dResRel at h
  rw [hA] at h
  simp only [hd, Option.isNone_none, if_true] at h
  exact h

/-- the value-level `GetCandidateTree` meets the specification of the witness (value with one cluster per state) -/
theorem vCandidate_witness (v : FAVal) (hk : KeysNodup v.trans) : WitnessSpec v.toNFAS (vCandidate v).toNFAS :=
  ⟨vCandidate_sub_lang v, vCandidate_nonempty_iff v hk⟩

/-- … and so does its local `res`, which is moreover a sub-automaton -/
theorem vCandRaw_witness (v : FAVal) (hk : KeysNodup v.trans) :
    NfaSub (vCandRaw v).toNFAS.toNFA v.toNFAS.toNFA ∧ WitnessSpec v.toNFAS (vCandRaw v).toNFAS :=
  ⟨vCandRaw_sub v, (vCandRaw_sub v).lang,
    fun ⟨w, hw⟩ => ⟨w, (vCandRaw_sub v).lang w hw⟩, vCandRaw_nonempty v hk⟩

/-- one step of the specification, seen on the automata, for every operation -/
theorem spec_denote_step_all (a : Nat → Option FAVal) (ha : EnvWF a) (op : Op) (hok : OpOk a op) :
    DenStepRel (den a) op (den (specStep a op)) := by
  cases op with
  | candRaw src dst =>
    exact den_specRes_rel a src dst vCandRaw _ (fun s hs => vCandRaw_witness s (ha src s hs).keys)
  | candidate src dst =>
    exact den_specRes_rel a src dst vCandidate _ (fun s hs => vCandidate_witness s (ha src s hs).keys)
  | _ => exact spec_denote_step a ha _ hok trivial

theorem Valid.den_step_all {H : HeapFA} (g : Valid H) (op : Op) (hok : OpOk (absFA H) op) :
    DenStepRel (den (absFA H)) op (den (absFA (step H op))) :=
  (fa_refines_values g.inv op).1 ▸ spec_denote_step_all _ g.wf op hok

/-- … one more operation – ANY operation – after any history -/
theorem fa_history_step_all (ops : List Op) (op : Op) (hok : OpOk (absFA (exec ops)) op) :
    DenStepRel (den (absFA (exec ops))) op (den (absFA (exec (ops ++ [op])))) :=
  exec_append ops [op] ▸ (valid_exec ops).den_step_all op hok

theorem ORel.symm {x y : Option NFAS} (h : ORel x y) : ORel y x := by
  cases x <;> cases y
  · trivial
  · exact absurd h id
  · exact absurd h id
  · exact NEquiv.symm h

theorem ORel.trans {x y z : Option NFAS} (h : ORel x y) (h' : ORel y z) : ORel x z := by
  cases x <;> cases y <;> cases z
  · trivial
  · exact absurd h' id
  · exact absurd h id
  · exact absurd h id
  · exact absurd h id
  · exact absurd h id
  · exact absurd h' id
  · exact NEquiv.trans' h h'

theorem EnvEq.symm {a b : Nat → Option NFAS} (h : EnvEq a b) : EnvEq b a := fun x => (h x).symm
theorem EnvEq.trans {a b c : Nat → Option NFAS} (h : EnvEq a b) (h' : EnvEq b c) : EnvEq a c :=
  fun x => (h x).trans (h' x)

theorem ORel.isSome_eq {x y : Option NFAS} (h : ORel x y) : x.isSome = y.isSome := by
  cases x <;> cases y
  · rfl
  · exact absurd h id
  · exact absurd h id
  · rfl

theorem ORel.isNone_eq {x y : Option NFAS} (h : ORel x y) : x.isNone = y.isNone := by
  cases x <;> cases y
  · rfl
  · exact absurd h id
  · exact absurd h id
  · rfl

theorem envEq_ite {a b : Nat → Option NFAS} (hab : EnvEq a b) {c : Prop} [Decidable c] (h : Nat) {A B : NFAS}
    (hAB : NEquiv A B) : EnvEq (if c then upd a h (some A) else a) (if c then upd b h (some B) else b) := by
  split
  · exact envEq_upd2 hab h hAB
  · exact hab

theorem mem_insN_congr {l l' : List Nat} (h : ∀ x, x ∈ l ↔ x ∈ l') (q x : Nat) : x ∈ insN l q ↔ x ∈ insN l' q := by
  rw [NfaS.mem_insN, NfaS.mem_insN, h x]

theorem mem_append_congr {α : Type} {l₁ l₁' l₂ l₂' : List α} (h₁ : ∀ x, x ∈ l₁ ↔ x ∈ l₁') (h₂ : ∀ x, x ∈ l₂ ↔ x ∈ l₂')
    (x : α) : x ∈ l₁ ++ l₂ ↔ x ∈ l₁' ++ l₂' := by
  rw [List.mem_append, List.mem_append, h₁ x, h₂ x]

theorem nfasSetFinal_congr {A B : NFAS} (h : NEquiv A B) (q : Nat) : NEquiv (nfasSetFinal A q) (nfasSetFinal B q) :=
  ⟨h.start, mem_insN_congr h.final q, h.trans, h.syms⟩

theorem nfasAddTrans_congr {A B : NFAS} (h : NEquiv A B) (p a q : Nat) :
    NEquiv (nfasAddTrans A p a q) (nfasAddTrans B p a q) :=
  ⟨h.start, h.final, mem_append_congr h.trans (fun _ => Iff.rfl), h.syms⟩

theorem nfasSetStart_congr {A B : NFAS} (h : NEquiv A B) (q a : Nat) :
    NEquiv (nfasSetStart A q a) (nfasSetStart B q a) := by
  refine ⟨mem_insN_congr h.start q, h.final, h.trans, fun p => ?_⟩
  show smFind (smAddSym A.startSyms q a) p = smFind (smAddSym B.startSyms q a) p
  rw [smFind_smAddSym, smFind_smAddSym, h.syms p]
  simp only [smGet, h.syms q]

theorem nfasSetExistingStart_congr {A B : NFAS} (h : NEquiv A B) (q : Nat) (S : List Nat) :
    NEquiv (nfasSetExistingStart A q S) (nfasSetExistingStart B q S) := by
  refine ⟨mem_insN_congr h.start q, h.final, h.trans, fun p => ?_⟩
  show smFind (smInsert A.startSyms q S) p = smFind (smInsert B.startSyms q S) p
  rw [smFind_smInsert, smFind_smInsert, h.syms p, smHas, smHas, h.syms q]

/-- `UnionDisjointStates` respects "the same up to list order" in both arguments -/
theorem nfasUnionDisjoint_congr {A A' B B' : NFAS} (h : NEquiv A A') (h' : NEquiv B B') :
    NEquiv (nfasUnionDisjoint A B) (nfasUnionDisjoint A' B') :=
  ⟨mem_append_congr h.start h'.start, mem_append_congr h.final h'.final, mem_append_congr h.trans h'.trans,
    fun p => smFind_congr_append p (h.syms p) (h'.syms p)⟩

/-- `find?` on two lists with the same elements, for a predicate that at most one element satisfies -/
theorem find?_congr_of_unique {l l' : List Nat} (P : Nat → Bool) (hl : ∀ x, x ∈ l ↔ x ∈ l')
    (hu : ∀ x, x ∈ l → ∀ y, y ∈ l → P x = true → P y = true → x = y) : l.find? P = l'.find? P := by
  cases h : l.find? P with
  | none =>
    rw [List.find?_eq_none] at h
    symm
    rw [List.find?_eq_none]
    exact fun x hx => h x ((hl x).mpr hx)
  | some x =>
    have hx : x ∈ l := List.mem_of_find?_eq_some h
    have hp : P x = true := List.find?_some h
    cases h' : l'.find? P with
    | none =>
      rw [List.find?_eq_none] at h'
      exact absurd hp (h' x ((hl x).mp hx))
    | some y =>
      have hy : y ∈ l := (hl y).mpr (List.mem_of_find?_eq_some h')
      rw [hu x hx y hy hp (List.find?_some h')]

/-- `ReindexStates` into a fresh automaton respects "the same up to list order" when the index function is injective on the
    START states of the operand -/
theorem nfasMap_congr (f : Nat → Nat) {A B : NFAS} (h : NEquiv A B) (hinj : NfaInjOn f A.start) :
    NEquiv (nfasMap f A) (nfasMap f B) := by
  refine ⟨fun x => ?_, fun x => ?_, fun e => ?_, fun p => ?_⟩
  · show x ∈ A.start.map f ↔ x ∈ B.start.map f
    simp only [List.mem_map, h.start]
  · show x ∈ A.final.map f ↔ x ∈ B.final.map f
    simp only [List.mem_map, h.final]
  · show e ∈ A.trans.map (fun e => (f e.1, e.2.1, f e.2.2)) ↔ e ∈ B.trans.map (fun e => (f e.1, e.2.1, f e.2.2))
    simp only [List.mem_map, h.trans]
  · show smFind (A.start.map (fun s => (f s, A.symsOf s))) p = smFind (B.start.map (fun s => (f s, B.symsOf s))) p
    rw [NfaS.smFind_eq, NfaS.smFind_eq, lookup_map_pairs, lookup_map_pairs]
    rw [find?_congr_of_unique (fun s => f s == p) h.start (fun x hx y hy h1 h2 => by
      simp only [beq_iff_eq] at h1 h2
      exact hinj x hx y hy (h1.trans h2.symm))]
    cases B.start.find? (fun s => f s == p) with
    | none => rfl
    | some s => simp only [Option.map_some, h.symsOf s]

/-- injectivity on the start states cannot be dropped: two automata that differ in the ORDER of their start states only, and
    an index function that merges them – `ReindexStates` registers the merged state with the symbols of the first one -/
theorem nfasMap_congr_needs_inj :
    let A : NFAS := ⟨⟨[0, 1], [], []⟩, [(0, [7]), (1, [8])]⟩
    let B : NFAS := ⟨⟨[1, 0], [], []⟩, [(0, [7]), (1, [8])]⟩
    (∀ q, q ∈ A.start ↔ q ∈ B.start) ∧ A.startSyms = B.startSyms ∧
    smFind (nfasMap (fun _ => 0) A).startSyms 0 = some [7] ∧ smFind (nfasMap (fun _ => 0) B).startSyms 0 = some [8] := by
  refine ⟨fun q => ?_, rfl, by decide, by decide⟩
  simp only [List.mem_cons, List.not_mem_nil, or_false]
  exact ⟨fun h => h.elim Or.inr Or.inl, fun h => h.elim Or.inr Or.inl⟩

/-- `EnvEq` carries over from what an operation writes to the whole step (the shapes of `denStep`) -/
theorem envEq_bind {a b : Nat → Option NFAS} (hab : EnvEq a b) (x : Nat) {k k' : NFAS → Nat → Option NFAS}
    (hk : ∀ A B, a x = some A → NEquiv A B → EnvEq (k A) (k' B)) :
    EnvEq (match a x with | some A => k A | none => a) (match b x with | some B => k' B | none => b) := by
  have := hab x
  cases ha : a x <;> cases hb : b x <;> rw [ha, hb] at this
  · exact hab
  · exact absurd this id
  · exact absurd this id
  · exact hk _ _ ha this

theorem envEq_bind2 {a b : Nat → Option NFAS} (hab : EnvEq a b) (x y : Nat) {k k' : NFAS → NFAS → Nat → Option NFAS}
    (hk : ∀ A B C D, a x = some A → a y = some C → NEquiv A B → NEquiv C D → EnvEq (k A C) (k' B D)) :
    EnvEq (match a x, a y with | some A, some C => k A C | _, _ => a)
      (match b x, b y with | some B, some D => k' B D | _, _ => b) := by
  have h1 := hab x
  have h2 := hab y
  cases ha : a x <;> cases hb : b x <;> rw [ha, hb] at h1
  · exact hab
  · exact absurd h1 id
  · exact absurd h1 id
  · cases hc : a y <;> cases hd : b y <;> rw [hc, hd] at h2
    · exact hab
    · exact absurd h2 id
    · exact absurd h2 id
    · exact hk _ _ _ _ ha hc h1 h2

theorem envEq_res {a b : Nat → Option NFAS} (hab : EnvEq a b) (d : Nat) {A B : NFAS} (hAB : NEquiv A B) :
    EnvEq (if (a d).isNone then upd a d (some A) else a) (if (b d).isNone then upd b d (some B) else b) := by
  rw [(hab d).isNone_eq]
  exact envEq_ite hab d hAB

/-- what `denStep_congr` needs of a `ReindexStates` step: the index function is injective on the start states of the source -/
def DenOk (a : Nat → Option NFAS) : Op → Prop
  | .reindex src _ idx => ∀ A, a src = some A → NfaInjOn idx A.start
  | _ => True

/-- `denStep` maps environments that agree up to list order to environments that agree up to list order (all operations but
    `GetCandidateTree`, whose model `nfasCandidate` depends on the order of the lists) -/
theorem denStep_congr {a b : Nat → Option NFAS} (hab : EnvEq a b) (op : Op) (hok : DenOk a op) (hnc : NotCand op) :
    EnvEq (denStep a op) (denStep b op) := by
  cases op with
  | new h =>
    show EnvEq (if (a h).isSome then a else upd a h (some nfasEmpty)) (if (b h).isSome then b else _)
    rw [(hab h).isSome_eq]
    split
    · exact hab
    · exact envEq_upd2 hab h (NEquiv.refl _)
  | copy src dst | moveCtor src dst => exact envEq_bind hab src (fun _ _ _ e => envEq_res hab dst e)
  | assign src dst | moveAssign src dst =>
    exact envEq_bind hab src (fun _ _ _ e => by rw [(hab dst).isSome_eq]; exact envEq_ite hab dst e)
  | setFinal h q => exact envEq_bind hab h (fun _ _ _ e => envEq_upd2 hab h (nfasSetFinal_congr e q))
  | setStart h q s => exact envEq_bind hab h (fun _ _ _ e => envEq_upd2 hab h (nfasSetStart_congr e q s))
  | setExistingStart h q S => exact envEq_bind hab h (fun _ _ _ e => envEq_upd2 hab h (nfasSetExistingStart_congr e q S))
  | add h l s r => exact envEq_bind hab h (fun _ _ _ e => envEq_upd2 hab h (nfasAddTrans_congr e l s r))
  | destroy h => exact envEq_upd2 hab h trivial
  | reindex src dst idx =>
    exact envEq_bind2 hab src dst (fun _ _ _ _ ha _ h1 h2 =>
      envEq_ite hab dst (nfasUnionDisjoint_congr h2 (nfasMap_congr idx h1 (hok _ ha))))
  | unionDisj x y dst =>
    exact envEq_bind2 hab x y (fun _ _ _ _ _ _ h1 h2 => envEq_res hab dst (nfasUnionDisjoint_congr h1 h2))
  | unreach src dst => exact envEq_bind hab src (fun _ _ _ e => envEq_res hab dst (nfasRemoveUnreachable_congr e))
  | reverse src dst => exact envEq_bind hab src (fun _ _ _ e => envEq_res hab dst (nfasReverse_congr e))
  | useless src dst => exact envEq_bind hab src (fun _ _ _ e => envEq_res hab dst (nfasRemoveUseless_congr e))
  | candRaw src dst | candidate src dst => exact absurd hnc id

/-- no object: the environment before the first operation -/
def den0 : Nat → Option NFAS := fun _ => none

/-- what the fold theorem asks of the operation `op` executed in the environment `a` of values: not `GetCandidateTree`; the
    operands of `UnionDisjointStates` have no source state in common; the index function of `ReindexStates` is injective on
    the start states of its source -/
def FoldOk (a : Nat → Option FAVal) : Op → Prop
  | .unionDisj x y _ => ∀ s t, a x = some s → a y = some t → DisjKeys s t
  | .reindex src _ idx => ∀ s, a src = some s → NfaInjOn idx s.mem.start
  | .candRaw _ _ => False
  | .candidate _ _ => False
  | _ => True

theorem FoldOk.opOk {a : Nat → Option FAVal} {op : Op} (h : FoldOk a op) : OpOk a op := by
  cases op <;> first | exact h | trivial

theorem FoldOk.notCand {a : Nat → Option FAVal} {op : Op} (h : FoldOk a op) : NotCand op := by
  cases op <;> first | exact h | trivial

theorem FoldOk.denOk {a : Nat → Option FAVal} {op : Op} (h : FoldOk a op) : DenOk (den a) op := by
  cases op with
  | reindex src dst idx =>
    intro A hA
    cases hs : a src with
    | none => rw [den_none hs] at hA; cases hA
    | some s =>
      rw [den_some hs] at hA
      cases hA
      exact h s hs
  | _ => trivial

theorem den_init : den (absFA initFA) = den0 := by rw [absFA_init]; rfl

/-- the whole chain in one relation: the heap is valid and the automata read through its handles are, up to list order,
    those of `b` -/
structure Den (H : HeapFA) (b : Nat → Option NFAS) : Prop where
  valid : Valid H
  eq : EnvEq (den (absFA H)) b

theorem Den.init : Den initFA den0 := ⟨Valid.init, den_init ▸ EnvEq.refl _⟩

theorem Den.next {H : HeapFA} {b : Nat → Option NFAS} (h : Den H b) (op : Op) (hok : FoldOk (absFA H) op) :
    Den (step H op) (denStep b op) :=
  ⟨h.valid.next op, (h.valid.den_step op hok.opOk hok.notCand).trans (denStep_congr h.eq op hok.denOk hok.notCand)⟩

/-- a whole history from any heap (the hypothesis about step `n + 1` of `op :: ops` is the one about step `n` of `ops` after
    `op`) -/
theorem Den.foldl : ∀ (ops : List Op) {H : HeapFA} {b : Nat → Option NFAS}, Den H b →
    (∀ n (h : n < ops.length), FoldOk (absFA ((ops.take n).foldl step H)) ops[n]) →
      Den (ops.foldl step H) (ops.foldl denStep b)
  | [], _, _, h, _ => h
  | op :: ops, _, _, h, hok =>
    Den.foldl ops (h.next op (hok 0 (Nat.succ_pos _))) (fun n hn => hok (n + 1) (Nat.succ_lt_succ hn))

/-- **one equation for a whole history**: the automata denoted by the live handles after `ops` are, up to list order,
    `ops.foldl denStep den0` -/
theorem fa_history_fold (ops : List Op)
    (hok : ∀ n (h : n < ops.length), FoldOk (absFA (exec (ops.take n))) ops[n]) :
    EnvEq (den (absFA (exec ops))) (ops.foldl denStep den0) :=
  (Den.foldl ops Den.init hok).eq

/-- the runs of the relational specification `DenStepRel` on automata, started with no object: `DenRun ops b` – `b` is an
    environment of automata that the operation list `ops` can lead to (for `GetCandidateTree` steps: with any witness that
    meets `WitnessSpec`; for the other steps: `denStep` up to list order) -/
inductive DenRun : List Op → (Nat → Option NFAS) → Prop
  | nil : DenRun [] den0
  | snoc {ops : List Op} {a b : Nat → Option NFAS} (op : Op) : DenRun ops a → DenStepRel a op b → DenRun (ops ++ [op]) b

theorem take_induction {α : Type} (l : List α) (P : List α → Prop) (h0 : P [])
    (hs : ∀ n (h : n < l.length), P (l.take n) → P (l.take n ++ [l[n]])) : P l := by
  have key : ∀ n, n ≤ l.length → P (l.take n) := fun n => by
    induction n with
    | zero => exact fun _ => h0
    | succ n ih => exact fun hn => List.take_succ_eq_append_getElem hn ▸ hs n hn (ih (Nat.le_of_lt hn))
  have := key l.length (Nat.le_refl _)
  rwa [List.take_length] at this

end Vata.CowHeapFA
