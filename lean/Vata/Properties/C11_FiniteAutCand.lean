import Vata.Proofs.CowHeapFACand2
import Vata.Properties.C11_FiniteAutDenote
/-!
# C11 / C10 (finite automata) – `GetCandidateTree` in the heap model; one equation for whole histories

> C11: After an explicit tree or finite automaton is copied, assigned or moved, any later modification of one object is never
> visible through another object, and automata returned by operations stay unchanged when their operands are modified or
> destroyed afterwards.
>
> C10: … and GetCandidateTree returns an automaton whose language is a subset of the original that is empty only if the
> original language is empty.

`Vata/Properties/C11_FiniteAutDenote.lean` links every value-level operation of the heap model `Vata/CowHeapFA.lean` of
`ExplicitFiniteAutCore` to its `nfas…` counterpart, EXCEPT `GetCandidateTree`, and composes the links per step.  Its "still
not proved" list names three gaps; this file serves them:

1. `C11_fa_denote_candidate` – the value-level `GetCandidateTree` (`vCandidate`, and its local `res` = `vCandRaw`) satisfies
   the SPECIFICATION of `C10_coded_candidate_spec` / `C10_witness`: a sub-automaton of the object whose language is non-empty
   exactly when the object's is; `C11_fa_candidate_total`: the search ends by a `return` or `newStates.empty()` within its fuel.
2. `C11_fa_history_languages_all` – the per-step statement for EVERY operation (no `NotCand`): for `GetCandidateTree` the target
   denotes some automaton with the two guarantees of `C10_witness` (`WitnessSpec`), all other handles keep theirs.
3. `C11_fa_history_fold` – for operation lists without `GetCandidateTree` steps: `den (absFA (exec ops))` is `EnvEq` to
   `ops.foldl denStep den0`, using the congruences `C11_fa_denote_congr` (new: `nfasUnionDisjoint`, `nfasMap` for index
   functions injective on the START states, the four mutators).  `C11_fa_history_run`: histories WITH `GetCandidateTree`
   steps are runs of the relational specification `DenStepRel` (inductive closure `DenRun`).

## how the C++ is read into the model

Nothing new is modelled.  `src/explicit_finite_candidate.cc` is read as in `Vata/CowHeapFA.lean` (`candStart`: the scan of
the start states with `SetExistingStateStart` and the early `return` at a final start state; `candLoop`: the FIFO
`std::list newStates`, `transitions_->find(actState)`, `continue`; `candInner`: the two nested loops over the cluster
flattened to the sequence `targets c`, `reachableStates.insert`, `SetStateFinal` + `insert` + `return` at the first final
target, `res.transitions_->insert(make_pair(actState, cluster))` (recorded as the list `keys`; `insert` does not overwrite:
`missing [] (pick …)`); `vCandidate = vUseless ∘ vCandRaw`).  The iteration order of the hash containers IS the order of the
lists of the value (`FAVal.trans` in container order): the theorems hold for every value, hence for every order.

Route chosen for item 1: the SPEC is proved directly on the value-level search (invariants `CI`, `CL`, `CM` in
`Vata/Proofs/CowHeapFACand.lean`: every state of `reachableStates` is reached inside `res` from a start state of `res`; no
reached state is final before a `return`; a reached state is in the queue, or being expanded, or has all its successors
reached), not via `NEquiv` with `NfaC.nfasCandidateCoded o` for an induced scan order `o`.

## what is abstracted

As in `C11_FiniteAut.lean` / `C11_FiniteAutDenote.lean`.  In `C11_fa_history_languages_all` the result of `GetCandidateTree`
is specified by a RELATION (`WitnessSpec`: sub-language, empty only if the object's language is empty), not by a function of
the denoted automaton: which witness is returned depends on the container order, which `NEquiv` forgets.
-/
namespace Vata.Props
open Vata.W
open Vata.CowHeapFA

/-! ### 1. `GetCandidateTree` -/

/-- **totality of the search of `GetCandidateTree`** (no hypothesis): run on the fuel of `candSearch`
(`|startStates_| + |transitions| + 1`), the loop ends because a `return` was reached or because `newStates` is empty – never
because the fuel ran out; any larger fuel gives the same state -/
theorem C11_fa_candidate_total (v : FAVal) :
    ((candSearch v).done = true ∨ (candSearch v).queue = []) ∧
    ∀ k, candLoop v (v.mem.start.length + (transOf v.trans).length + 1 + k)
        (candStart v v.mem.start ⟨[], [], ⟨[], [], []⟩, [], false⟩) = candSearch v :=
  ⟨candSearch_end v, candSearch_fuel v⟩

/-- **`GetCandidateTree()` in the heap model meets the specification of `C10_coded_candidate_spec`**, for every value with
one cluster per state (`KeysNodup`: the container is a map – true for every object of every history,
`C11_fa_history_wf`): the local `res` is a sub-automaton of the object; the result is `nfasRemoveUseless` of `res` up to list
order; the result accepts only words of the object, and accepts some word exactly when the object does; the same for `res`. -/
theorem C11_fa_denote_candidate (v : FAVal) (hk : Store.KeysNodup v.trans) :
    NfaSub (vCandRaw v).toNFA v.toNFA ∧
    NEquiv (vCandidate v).toNFAS (nfasRemoveUseless (vCandRaw v).toNFAS) ∧
    (∀ w, acceptsW (vCandidate v).toNFA w = true → acceptsW v.toNFA w = true) ∧
    ((∃ w, acceptsW (vCandidate v).toNFA w = true) ↔ ∃ w, acceptsW v.toNFA w = true) ∧
    ((∃ w, acceptsW (vCandRaw v).toNFA w = true) ↔ ∃ w, acceptsW v.toNFA w = true) :=
  ⟨vCandRaw_sub v, vCandidate_denote_useless v, vCandidate_sub_lang v, vCandidate_nonempty_iff v hk,
    ⟨fun ⟨w, hw⟩ => ⟨w, (vCandRaw_sub v).lang w hw⟩, vCandRaw_nonempty v hk⟩⟩

/-- … in the words of the property: the witness is empty only if the language of the object is empty -/
theorem C11_fa_candidate_empty_only_if_empty (v : FAVal) (hk : Store.KeysNodup v.trans)
    (h : ∀ w, acceptsW (vCandidate v).toNFA w = false) (w : List Nat) : acceptsW v.toNFA w = false := by
  cases hw : acceptsW v.toNFA w
  · rfl
  · obtain ⟨u, hu⟩ := (vCandidate_nonempty_iff v hk).mpr ⟨w, hw⟩
    rw [h u] at hu; cases hu

/-- the state of the search at its `return` (the invariants the proof rests on): every state of `reachableStates` is reached
from a start state of `res` by transitions of `res`; after an early `return` one of them is a final state of `res`; otherwise
the queue is empty, no reached state is final, all start states are reached and the reached states are closed under the
transitions of the object -/
theorem C11_fa_candidate_search_inv (v : FAVal) (hk : Store.KeysNodup v.trans) :
    (∀ q, q ∈ (candSearch v).reach → ∃ s0, s0 ∈ (vCandRaw v).toNFA.start ∧ ∃ w, Path (vCandRaw v).toNFA s0 w q) ∧
    ((candSearch v).done = true → ∃ q, q ∈ (vCandRaw v).toNFA.final ∧ q ∈ (candSearch v).reach) ∧
    ((candSearch v).done = false → (candSearch v).queue = [] ∧
      (∀ q, q ∈ (candSearch v).reach → q ∉ v.mem.final) ∧ (∀ q, q ∈ v.mem.start → q ∈ (candSearch v).reach) ∧
      ∀ p, p ∈ (candSearch v).reach → ∀ a q, (p, a, q) ∈ v.toNFA.trans → q ∈ (candSearch v).reach) := by
  obtain ⟨hi, hl⟩ := candSearch_inv v hk
  refine ⟨fun q hq => ?_, hi.hdone, fun hd => ?_⟩
  · obtain ⟨s0, h0, w, hp⟩ := hi.hreach q hq
    exact ⟨s0, h0, w, Path.mono (N := KT v (candSearch v).keys) (M := (vCandRaw v).toNFA) (fun _ h => h) hp⟩
  · obtain ⟨L, hq⟩ := hl hd
    have S := hq ▸ L.sat
    exact ⟨hq, L.hnf, fun q hs => S.sat [] q (Or.inl ⟨rfl, hs⟩) (fun _ h => nomatch h), fun p hp a q he =>
      S.sat [p] q (Or.inr ⟨p, rfl, a, he⟩) (fun x hx => List.mem_singleton.mp hx ▸ ⟨hp, List.not_mem_nil⟩)⟩

/-- non-vacuity: an object with two ways to a final state; the search returns at the first final target (state 2, reached
from the cluster of state 1), the branch via 3 is cut off; the object accepts `[7, 9, 7]`, the witness does not -/
example :
    let v : FAVal := ⟨⟨[2, 4], [0], [(0, [3])]⟩, [(0, [(7, [[1]])]), (1, [(8, [[2]]), (9, [[3]])]), (3, [(7, [[4]])])]⟩
    Store.KeysNodup v.trans ∧ (candSearch v).done = true ∧ (candSearch v).keys = [0, 1] ∧
    (vCandRaw v).toNFA.trans = [(0, 7, 1), (1, 8, 2), (1, 9, 3)] ∧ (vCandidate v).toNFA.trans = [(1, 8, 2), (0, 7, 1)] ∧
    acceptsW (vCandidate v).toNFA [7, 8] = true ∧ acceptsW v.toNFA [7, 9, 7] = true ∧
    acceptsW (vCandidate v).toNFA [7, 9, 7] = false := by
  refine ⟨by unfold Store.KeysNodup; decide +kernel, ?_⟩
  decide +kernel

/-- an object with the empty language (the final state is not reachable): the search ends with `newStates.empty()` -/
example :
    let v : FAVal := ⟨⟨[2], [0], []⟩, [(0, [(5, [[1]])]), (2, [(5, [[2]])])]⟩
    (candSearch v).done = false ∧ (candSearch v).queue = [] ∧ (candSearch v).reach = [0, 1] ∧
    (vCandidate v).toNFA.final = [] := by decide +kernel

/-- **`KeysNodup` is needed**: a "value" with two clusters for state 0 (not the contents of a map) – `find` sees the first
cluster only, the search never sees `0 -6-> 2`, and the witness is empty although the denoted automaton accepts `[6]` -/
theorem C11_fa_denote_candidate_needs_keys :
    let v : FAVal := ⟨⟨[2], [0], []⟩, [(0, [(5, [[1]])]), (0, [(6, [[2]])])]⟩
    acceptsW v.toNFA [6] = true ∧ (vCandidate v).toNFA.final = [] ∧ (vCandRaw v).toNFA.final = [] := by decide +kernel

/-! ### 2. every step of every history, `GetCandidateTree` included -/

/-- **after any operation list, one more operation – ANY operation.**  `DenStepRel a op b`: for every operation other than
`GetCandidateTree` the environment `b` of denoted automata is `denStep a op` up to list order (as in
`C11_fa_history_languages`, so the language of every handle is the language of the spec-level result); for
`op = candidate src dst` (`candRaw src dst`) with `src` live and `dst` dead the target denotes SOME automaton `R` with
`WitnessSpec A R` – the two guarantees of `C10_witness`: `L(R) ⊆ L(A)` and `L(R) ≠ ∅ ↔ L(A) ≠ ∅`, `A` the automaton of `src`
(for `candRaw` moreover `R` is a sub-automaton of `A`) – and every other handle denotes what it denoted; otherwise nothing
changes.  Only hypothesis: `OpOk` (for `UnionDisjointStates`, no common source state). -/
theorem C11_fa_history_languages_all (ops : List Op) (op : Op) (hok : OpOk (absFA (exec ops)) op) :
    DenStepRel (den (absFA (exec ops))) op (den (absFA (exec (ops ++ [op])))) ∧
    (NotCand op → ∀ h w,
      langOf (den (absFA (exec (ops ++ [op])))) h w = langOf (denStep (den (absFA (exec ops))) op) h w) ∧
    (∀ src dst, op = .candidate src dst ∨ op = .candRaw src dst →
      ∀ A, den (absFA (exec ops)) src = some A → den (absFA (exec ops)) dst = none →
        (∃ R, den (absFA (exec (ops ++ [op]))) dst = some R ∧ WitnessSpec A R) ∧
        ∀ x, x ≠ dst → den (absFA (exec (ops ++ [op]))) x = den (absFA (exec ops)) x) := by
  have h := fa_history_step_all ops op hok
  refine ⟨h, fun hnc hh w => (fa_history_denote_step ops op hok hnc).lang hh w, ?_⟩
  rintro src dst (e | e) A hA hd
  · subst e
    exact dResRel_elim h hA hd
  · subst e
    obtain ⟨⟨R, hR, hS⟩, h2⟩ := dResRel_elim h hA hd
    exact ⟨⟨R, hR, hS.2⟩, h2⟩

/-- the step `.candidate 1 6` of the history `faOps` (position 16): object 1 is live, 6 is not; the witness read through
handle 6 accepts `[5, 6]`, a word of object 1 -/
example : faOps[16]? = some (.candidate 1 6) ∧
    OpOk (absFA (exec (faOps.take 16))) (.candidate 1 6) ∧
    (den (absFA (exec (faOps.take 16))) 1).isSome = true ∧ den (absFA (exec (faOps.take 16))) 6 = none ∧
    langOf (den (absFA (exec (faOps.take 16 ++ [.candidate 1 6])))) 6 [5, 6] = some true ∧
    langOf (den (absFA (exec (faOps.take 16)))) 1 [5, 6] = some true := by
  refine ⟨rfl, trivial, ?_⟩
  decide +kernel

/-! ### 3. whole histories as one fold -/

/-- **the `nfas…` operations respect "the same up to list order"** (`NEquiv`): the mutators, `UnionDisjointStates` in both
arguments, `ReindexStates` for an index function injective on the START states of the operand (transitions, start and final
states need nothing; the start-symbol map is written per start state in list order and the first state with a given image
decides), and the three trimming / reversing functions (`C11_FiniteAutDenote.lean`) -/
theorem C11_fa_denote_congr {A B : NFAS} (h : NEquiv A B) :
    (∀ q, NEquiv (nfasSetFinal A q) (nfasSetFinal B q)) ∧
    (∀ q a, NEquiv (nfasSetStart A q a) (nfasSetStart B q a)) ∧
    (∀ q S, NEquiv (nfasSetExistingStart A q S) (nfasSetExistingStart B q S)) ∧
    (∀ p a q, NEquiv (nfasAddTrans A p a q) (nfasAddTrans B p a q)) ∧
    (∀ C D, NEquiv C D → NEquiv (nfasUnionDisjoint A C) (nfasUnionDisjoint B D) ∧
      NEquiv (nfasUnionDisjoint C A) (nfasUnionDisjoint D B)) ∧
    (∀ f, NfaInjOn f A.start → NEquiv (nfasMap f A) (nfasMap f B)) ∧
    NEquiv (nfasReverse A) (nfasReverse B) ∧ NEquiv (nfasRemoveUnreachable A) (nfasRemoveUnreachable B) ∧
    NEquiv (nfasRemoveUseless A) (nfasRemoveUseless B) :=
  ⟨nfasSetFinal_congr h, nfasSetStart_congr h, nfasSetExistingStart_congr h, nfasAddTrans_congr h,
    fun _ _ h' => ⟨nfasUnionDisjoint_congr h h', nfasUnionDisjoint_congr h' h⟩, fun f hf => Vata.CowHeapFA.nfasMap_congr f h hf,
    nfasReverse_congr h, nfasRemoveUnreachable_congr h, nfasRemoveUseless_congr h⟩

/-- injectivity on the start states cannot be dropped from the congruence of `nfasMap`: two automata with the same start
states in a different ORDER, merged by the index function – the merged start state gets the symbols of whichever comes first -/
theorem C11_fa_denote_congr_map_needs_inj :
    let A : NFAS := ⟨⟨[0, 1], [], []⟩, [(0, [7]), (1, [8])]⟩
    let B : NFAS := ⟨⟨[1, 0], [], []⟩, [(0, [7]), (1, [8])]⟩
    (∀ q, q ∈ A.start ↔ q ∈ B.start) ∧ A.startSyms = B.startSyms ∧
    smFind (nfasMap (fun _ => 0) A).startSyms 0 = some [7] ∧ smFind (nfasMap (fun _ => 0) B).startSyms 0 = some [8] :=
  nfasMap_congr_needs_inj

/-- `denStep` respects `EnvEq` (every operation but `GetCandidateTree`; `DenOk`: the index function of a `ReindexStates`
step is injective on the start states of its source) -/
theorem C11_fa_denStep_congr {a b : Nat → Option NFAS} (hab : EnvEq a b) (op : Op) (hok : DenOk a op) (hnc : NotCand op) :
    EnvEq (denStep a op) (denStep b op) :=
  denStep_congr hab op hok hnc

/-- **one equation for a whole history.**  For every operation list in which every step satisfies `FoldOk` in the state it
is executed in – it is not `GetCandidateTree` / its internal step; the operands of a `UnionDisjointStates` have no source
state in common; the index function of a `ReindexStates` is injective on the start states of its source – the automata
denoted by the live handles at the end are, handle by handle and up to list order, the fold of `denStep` (the C10 models
`nfasAddTrans`, `nfasSetFinal`, `nfasSetStart`, `nfasSetExistingStart`, `nfasUnionDisjoint`, `nfasMap`,
`nfasRemoveUnreachable`, `nfasReverse`, `nfasRemoveUseless`) over the operation list, started with no object; liveness
agrees, and so does the language read through every handle. -/
theorem C11_fa_history_fold (ops : List Op)
    (hok : ∀ n (h : n < ops.length), FoldOk (absFA (exec (ops.take n))) ops[n]) :
    EnvEq (den (absFA (exec ops))) (ops.foldl denStep den0) ∧
    ∀ h w, langOf (den (absFA (exec ops))) h w = langOf (ops.foldl denStep den0) h w :=
  ⟨fa_history_fold ops hok, fun h w => (fa_history_fold ops hok).lang h w⟩

/-- **whole histories WITH `GetCandidateTree` steps**: every history of the heap model (`OpOk` at every step) is a run of the
relational specification `DenStepRel` on automata, started with no object (`DenRun`: the inductive closure "`[]` leads to no
object; if `ops` leads to `a` and `DenStepRel a op b` then `ops ++ [op]` leads to `b`") -/
theorem C11_fa_history_run (ops : List Op)
    (hok : ∀ n (h : n < ops.length), OpOk (absFA (exec (ops.take n))) ops[n]) :
    DenRun ops (den (absFA (exec ops))) :=
  take_induction ops (fun l => DenRun l (den (absFA (exec l)))) (den_init ▸ DenRun.nil)
    (fun n h ih => DenRun.snoc _ ih (fa_history_step_all _ _ (hok n h)))

/-- the hypothesis holds trivially for histories without `UnionDisjointStates`, e.g. with a `GetCandidateTree` step -/
example : ∀ n (h : n < [Op.new 1, .setStart 1 0 7, .add 1 0 5 1, .setFinal 1 1, .candidate 1 2].length),
    OpOk (absFA (exec ([Op.new 1, .setStart 1 0 7, .add 1 0 5 1, .setFinal 1 1, .candidate 1 2].take n)))
      [Op.new 1, .setStart 1 0 7, .add 1 0 5 1, .setFinal 1 1, .candidate 1 2][n] := by
  intro n h
  match n, h with
  | 0, _ | 1, _ | 2, _ | 3, _ | 4, _ => trivial
  | n + 5, h => exact absurd h (Nat.not_lt.mpr (Nat.le_add_left 5 n))

namespace FoldEx
/-- a history with a `ReindexStates` (into a fresh object: `Union`'s first half), a `Reverse` and a `RemoveUselessStates` -/
def ops : List Op :=
  [.new 1, .setStart 1 0 7, .add 1 0 5 1, .add 1 1 6 2, .setFinal 1 2, .new 2, .reindex 1 2 (fun q => q + 3),
   .reverse 1 3, .useless 2 4, .add 1 2 5 2]
end FoldEx

/-- the hypotheses of `C11_fa_history_fold` hold for `FoldEx.ops` (`q ↦ q + 3` is injective everywhere) -/
example : ∀ n (h : n < FoldEx.ops.length), FoldOk (absFA (exec (FoldEx.ops.take n))) FoldEx.ops[n] := by
  intro n h
  match n, h with
  | 0, _ | 1, _ | 2, _ | 3, _ | 4, _ | 5, _ => trivial
  | 6, _ => exact fun s _ p _ q _ e => Nat.add_right_cancel e
  | 7, _ | 8, _ | 9, _ => trivial
  | n + 10, h => exact absurd h (Nat.not_lt.mpr (Nat.le_add_left 10 n))

/-- … and the fold computes: handle 4 (the trimmed reindexed copy) accepts `[5, 6]`, handle 3 its mirror image, object 1
has its later transition -/
example : langOf (FoldEx.ops.foldl denStep den0) 4 [5, 6] = some true ∧
    langOf (FoldEx.ops.foldl denStep den0) 3 [6, 5] = some true ∧
    langOf (FoldEx.ops.foldl denStep den0) 1 [5, 6, 5] = some true ∧
    langOf (FoldEx.ops.foldl denStep den0) 3 [5, 6, 5] = some false ∧
    langOf (FoldEx.ops.foldl denStep den0) 5 [] = none ∧
    langOf (den (absFA (exec FoldEx.ops))) 4 [5, 6] = some true := by decide +kernel

/-!
## still not proved

* `GetCandidateTree`: the link is to the SPECIFICATION (`C11_fa_denote_candidate`: sub-automaton, same emptiness), not to a
  particular model: neither `NEquiv (vCandidate v).toNFAS (nfasCandidate v.toNFAS)` (list-order model of `NfaStart.lean`) nor
  `NEquiv (vCandidate v).toNFAS (NfaC.nfasCandidateCoded o v.toNFAS)` for the scan order `o` the containers of `v` induce is
  proved (the latter would need `o` as a function of the element LISTS that reproduces the cluster order of `v`, and symbols /
  targets without repetition inside a cluster, which `WFV` does not state).  Nothing is stated about the start-symbol map of
  the witness (the entries `SetExistingStateStart (s, GetStartSymbols (s))` writes are modelled in `candStart`).
* `C11_fa_history_fold` excludes `GetCandidateTree` steps (`FoldOk`): `denStep` uses the order-dependent `nfasCandidate` there,
  which does not respect `NEquiv`; for such steps only the relational per-step statement `C11_fa_history_languages_all` is
  available, composed along a history by `C11_fa_history_run` (a RELATION: the witness is not determined).
* `FoldOk` asks injectivity of the index function of `ReindexStates` on the START states of the source
  (`C11_fa_denote_congr_map_needs_inj`: needed for the congruence of `nfasMap`).  Whether the per-step statement composed along
  a history could do without it (by tracking the list order of the start states) is not investigated.
* `Union(lhs, rhs)` = `unionOps` is covered by the fold step by step; that the result is `nfasUnionWith fA fB a b` up to
  `NEquiv` is still not stated as a theorem.
* As before: that `step` is a faithful transcription of the C++ is not a theorem; the link is the driver comparison of
  `CowHeapFA.run` with the real class.
-/
end Vata.Props
