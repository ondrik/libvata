import Vata.Proofs.Antichain
import Vata.Proofs.AssocList
/-!
`Antichain2Cv2` (`Vata.AC.Two`), phrased through `listOf d k`, the list stored under key `k` (empty when there is no entry): together with
well-formedness (`WF`: no key twice, no empty list) it determines the container up to the unspecified order of the keys.
-/
set_option linter.unusedSectionVars false
namespace Vata.AC.Two
variable {κ β σ : Type} [DecidableEq κ]

/-- representation invariant of `data_`: every key once, no key with an empty list -/
def WF (d : Data κ β) : Prop := (keys d).Nodup ∧ ∀ e, e ∈ d → e.2 ≠ []

theorem wf_nil : WF ([] : Data κ β) := ⟨List.nodup_nil, fun _ h => nomatch h⟩

@[simp] theorem keys_nil : keys ([] : Data κ β) = [] := rfl
@[simp] theorem keys_cons (e : κ × List (Nat × β)) (r : Data κ β) : keys (e :: r) = e.1 :: keys r := rfl
@[simp] theorem lookup_nil (k : κ) : lookup ([] : Data κ β) k = none := rfl
theorem lookup_cons (e : κ × List (Nat × β)) (r : Data κ β) (k : κ) :
    lookup (e :: r) k = if e.1 = k then some e.2 else lookup r k := rfl
@[simp] theorem listOf_nil (k : κ) : listOf ([] : Data κ β) k = [] := rfl
theorem listOf_cons (e : κ × List (Nat × β)) (r : Data κ β) (k : κ) :
    listOf (e :: r) k = if e.1 = k then e.2 else listOf r k := by
  unfold listOf; rw [lookup_cons]; split <;> rfl

/-- `lookup` is the look-up of association lists (`Proofs/AssocList`) -/
theorem lookup_eq (d : Data κ β) (k : κ) : lookup d k = List.lookup k d := by
  induction d with
  | nil => rfl
  | cons e r ih => rw [lookup_cons, ih]; exact (lookup_cons_ite k e.1 e.2 r).symm

theorem lookup_eq_none_iff (d : Data κ β) (k : κ) : lookup d k = none ↔ k ∉ keys d := by
  rw [lookup_eq]; exact lookup_eq_none_iff_keys

theorem listOf_of_not_mem_keys {d : Data κ β} {k : κ} (h : k ∉ keys d) : listOf d k = [] := by
  rw [listOf, (lookup_eq_none_iff d k).2 h]; rfl

theorem lookup_mem {d : Data κ β} {k : κ} {l : List (Nat × β)} (h : lookup d k = some l) : (k, l) ∈ d :=
  mem_of_lookup (lookup_eq d k ▸ h)

theorem lookup_of_wf {d : Data κ β} (hw : WF d) (k : κ) :
    lookup d k = if listOf d k = [] then none else some (listOf d k) := by
  unfold listOf
  cases h : lookup d k with
  | none => rfl
  | some l => exact (if_neg (hw.2 _ (lookup_mem h))).symm

theorem listOf_ne_nil_mem_keys {d : Data κ β} {k : κ} (h : listOf d k ≠ []) : k ∈ keys d :=
  Classical.byContradiction (fun hn => h (listOf_of_not_mem_keys hn))

theorem mem_keys_iff {d : Data κ β} (hw : WF d) (k : κ) : k ∈ keys d ↔ listOf d k ≠ [] := by
  refine ⟨fun hk hl => ?_, listOf_ne_nil_mem_keys⟩
  have := lookup_of_wf hw k
  rw [if_pos hl] at this
  exact (lookup_eq_none_iff d k).1 this hk

theorem contains_iff (d : Data κ β) (cands : List κ) (Q : β) (cmp : β → β → Bool) :
    contains d cands Q cmp = true ↔ ∃ p, p ∈ cands ∧ ∃ n, n ∈ listOf d p ∧ cmp n.2 Q = true := by
  unfold contains listOf
  rw [List.any_eq_true]
  refine exists_congr (fun p => and_congr_right (fun _ => ?_))
  cases lookup d p with
  | none => exact ⟨nofun, fun ⟨_, hn, _⟩ => nomatch hn⟩
  | some l => exact List.any_eq_true

/-- `insert` is update-or-create on the entry of the key (`alter`, `Proofs/AssocList`) -/
theorem insert_eq_alter (d : Data κ β) (i : Nat) (q : κ) (Q : β) :
    insert d i q Q = alter q (fun o => o.getD [] ++ [(i, Q)]) d := by
  induction d with
  | nil => rfl
  | cons e r ih => rw [insert, ih]; rfl

theorem listOf_insert (d : Data κ β) (i : Nat) (q : κ) (Q : β) (k : κ) :
    listOf (insert d i q Q) k = if k = q then listOf d q ++ [(i, Q)] else listOf d k := by
  simp only [listOf, insert_eq_alter, lookup_eq, lookup_alter]
  split <;> rfl

theorem mem_listOf_insert {d : Data κ β} {i : Nat} {q : κ} {Q : β} {k : κ} {a : Nat × β} :
    a ∈ listOf (insert d i q Q) k ↔ a ∈ listOf d k ∨ (k = q ∧ a = (i, Q)) := by
  rw [listOf_insert]
  by_cases h : k = q
  · rw [if_pos h, List.mem_append, List.mem_singleton, h]
    exact or_congr_right ⟨fun h' => ⟨rfl, h'⟩, fun h' => h'.2⟩
  · rw [if_neg h]
    exact ⟨Or.inl, fun h' => h'.elim id (fun h'' => absurd h''.1 h)⟩

theorem keys_insert (d : Data κ β) (i : Nat) (q : κ) (Q : β) :
    keys (insert d i q Q) = if q ∈ keys d then keys d else keys d ++ [q] := by
  rw [insert_eq_alter]
  exact (keys_alter q _ d).trans (by simp only [List.contains_iff_mem]; rfl)

theorem wf_insert {d : Data κ β} (hw : WF d) (i : Nat) (q : κ) (Q : β) : WF (insert d i q Q) := by
  refine ⟨?_, ?_⟩
  · rw [keys_insert]
    split
    · exact hw.1
    · rename_i h
      exact List.nodup_append.2 ⟨hw.1, List.pairwise_singleton _ q, fun a ha b hb e => h (List.mem_singleton.1 hb ▸ e ▸ ha)⟩
  · rw [insert_eq_alter]
    exact forall_alter (P := (· ≠ [])) q _ (List.cons_ne_nil _ _)
      (fun _ _ => List.append_ne_nil_of_right_ne_nil _ (List.cons_ne_nil _ _)) hw.2

/-! `refine` (one candidate), `remove` and `get` all replace the list stored under one key by a part of it and erase the entry
when nothing is left (`if (iter->second.empty()) data_.erase(iter)`). -/

def updKey (f : List (Nat × β) → List (Nat × β)) (p : κ) : Data κ β → Data κ β
  | [] => []
  | e :: r => if e.1 = p then (if (f e.2).isEmpty then r else (e.1, f e.2) :: r) else e :: updKey f p r

theorem keys_updKey_sublist (f : List (Nat × β) → List (Nat × β)) (p : κ) (d : Data κ β) :
    (keys (updKey f p d)).Sublist (keys d) := by
  induction d with
  | nil => exact List.Sublist.refl _
  | cons e r ih =>
    rw [updKey]
    split
    · split
      · exact List.sublist_cons_self _ _
      · exact List.Sublist.refl _
    · exact ih.cons_cons _

theorem listOf_updKey {f : List (Nat × β) → List (Nat × β)} (hf : f [] = []) (p : κ) {d : Data κ β}
    (hk : (keys d).Nodup) (k : κ) : listOf (updKey f p d) k = if k = p then f (listOf d p) else listOf d k := by
  induction d with
  | nil => rw [updKey, listOf_nil, listOf_nil, hf, ite_self]
  | cons e r ih =>
    have hk' := List.nodup_cons.1 hk
    rw [updKey, listOf_cons (k := p), listOf_cons (k := k)]
    by_cases h : e.1 = p
    · rw [if_pos h, if_pos h]
      by_cases hkp : k = p
      · rw [if_pos hkp, hkp]
        split
        · rename_i hemp
          rw [listOf_of_not_mem_keys (h ▸ hk'.1)]; exact (List.isEmpty_iff.1 hemp).symm
        · rw [listOf_cons, if_pos h]
      · have hne : ¬ e.1 = k := fun e' => hkp (e'.symm.trans h)
        rw [if_neg hkp, if_neg hne]
        split
        · rfl
        · rw [listOf_cons, if_neg hne]
    · rw [if_neg h, if_neg h, listOf_cons, ih hk'.2]
      by_cases hkp : k = p
      · rw [if_pos hkp, if_pos hkp, if_neg (fun e' => h (e'.trans hkp))]
      · rw [if_neg hkp, if_neg hkp]

theorem sublist_updKey {f : List (Nat × β) → List (Nat × β)} (hf : ∀ l, (f l).Sublist l) (p : κ) {d : Data κ β}
    (hk : (keys d).Nodup) (k : κ) : (listOf (updKey f p d) k).Sublist (listOf d k) := by
  rw [listOf_updKey (List.eq_nil_of_sublist_nil (hf [])) p hk]
  split
  · rename_i h; rw [h]; exact hf _
  · exact List.Sublist.refl _

theorem wf_updKey (f : List (Nat × β) → List (Nat × β)) (p : κ) {d : Data κ β} (hw : WF d) : WF (updKey f p d) := by
  refine ⟨(keys_updKey_sublist f p d).nodup hw.1, ?_⟩
  have hne := hw.2
  clear hw
  induction d with
  | nil => exact hne
  | cons e' r ih =>
    obtain ⟨h1, h2⟩ := List.forall_mem_cons.1 hne
    rw [updKey]
    split
    · split
      · exact h2
      · rename_i hemp
        exact List.forall_mem_cons.2 ⟨fun h' => hemp (List.isEmpty_iff.2 h'), h2⟩
    · exact List.forall_mem_cons.2 ⟨h1, ih h2⟩

/-- the data half of one candidate of `refine` (does not depend on the eraser) -/
def refineKeyD (cmp : β → β → Bool) (Q : β) (p : κ) : Data κ β → Data κ β
  | [] => []
  | e :: r =>
    if e.1 = p then
      (if (e.2.filter (fun P => !cmp P.2 Q)).isEmpty then r else (e.1, e.2.filter (fun P => !cmp P.2 Q)) :: r)
    else e :: refineKeyD cmp Q p r

def refineD (cmp : β → β → Bool) (Q : β) (d : Data κ β) (cands : List κ) : Data κ β :=
  cands.foldl (fun d p => refineKeyD cmp Q p d) d

/-- the calls of the eraser, in the order in which they happen -/
def erased (cmp : β → β → Bool) (Q : β) : Data κ β → List κ → List (κ × Nat × β)
  | _, [] => []
  | d, p :: c =>
    ((listOf d p).filter (fun P => cmp P.2 Q)).map (fun P => (p, P.1, P.2)) ++ erased cmp Q (refineKeyD cmp Q p d) c

theorem refineKeyD_eq (cmp : β → β → Bool) (Q : β) (p : κ) (d : Data κ β) :
    refineKeyD cmp Q p d = updKey (List.filter (fun P => !cmp P.2 Q)) p d := by
  induction d with
  | nil => rfl
  | cons e r ih => rw [refineKeyD, updKey, ih]

theorem refineList_eq (cmp : β → β → Bool) (Q : β) (er : Nat → β → σ → σ) (l : List (Nat × β)) (s : σ) :
    refineList cmp Q er l s =
      (l.filter (fun P => !cmp P.2 Q), (l.filter (fun P => cmp P.2 Q)).foldl (fun s P => er P.1 P.2 s) s) := by
  induction l generalizing s with
  | nil => rfl
  | cons P r ih =>
    unfold refineList
    by_cases h : cmp P.2 Q = true
    · simp [h, ih]
    · simp [h, ih]

theorem refineKey_eq (cmp : β → β → Bool) (Q : β) (er : κ → Nat → β → σ → σ) (p : κ) (d : Data κ β) (s : σ) :
    refineKey cmp Q er p d s =
      (refineKeyD cmp Q p d, ((listOf d p).filter (fun P => cmp P.2 Q)).foldl (fun s P => er p P.1 P.2 s) s) := by
  induction d with
  | nil => rfl
  | cons e r ih =>
    unfold refineKey refineKeyD
    rw [listOf_cons]
    by_cases h : e.1 = p
    · simp only [h, if_true, refineList_eq]
    · simp only [h, if_false, ih]

theorem refine_cons (d : Data κ β) (p : κ) (c : List κ) (Q : β) (cmp : β → β → Bool) (er : κ → Nat → β → σ → σ) (s : σ) :
    refine d (p :: c) Q cmp er s =
      refine (refineKey cmp Q er p d s).1 c Q cmp er (refineKey cmp Q er p d s).2 := rfl

theorem refine_eq (d : Data κ β) (cands : List κ) (Q : β) (cmp : β → β → Bool) (er : κ → Nat → β → σ → σ) (s : σ) :
    refine d cands Q cmp er s = (refineD cmp Q d cands, (erased cmp Q d cands).foldl (fun s e => er e.1 e.2.1 e.2.2 s) s) := by
  induction cands generalizing d s with
  | nil => rfl
  | cons p c ih => rw [refine_cons, refineKey_eq, ih, erased, List.foldl_append, List.foldl_map]; rfl

theorem refine_fst (d : Data κ β) (cands : List κ) (Q : β) (cmp : β → β → Bool) (er : κ → Nat → β → σ → σ) (s : σ) :
    (refine d cands Q cmp er s).1 = refineD cmp Q d cands := congrArg Prod.fst (refine_eq ..)

theorem refine_snd (d : Data κ β) (cands : List κ) (Q : β) (cmp : β → β → Bool) (er : κ → Nat → β → σ → σ) (s : σ) :
    (refine d cands Q cmp er s).2 = (erased cmp Q d cands).foldl (fun s e => er e.1 e.2.1 e.2.2 s) s :=
  congrArg Prod.snd (refine_eq ..)

theorem refine0_eq (d : Data κ β) (cands : List κ) (Q : β) (cmp : β → β → Bool) :
    refine0 d cands Q cmp = refineD cmp Q d cands := refine_fst ..

theorem wf_refineKeyD (cmp : β → β → Bool) (Q : β) (p : κ) {d : Data κ β} (hw : WF d) : WF (refineKeyD cmp Q p d) :=
  refineKeyD_eq cmp Q p d ▸ wf_updKey _ p hw

theorem wf_refineD (cmp : β → β → Bool) (Q : β) (cands : List κ) {d : Data κ β} (hw : WF d) :
    WF (refineD cmp Q d cands) := by
  induction cands generalizing d with
  | nil => exact hw
  | cons p c ih => exact ih (wf_refineKeyD cmp Q p hw)

theorem keys_refineKeyD_nodup (cmp : β → β → Bool) (Q : β) (p : κ) {d : Data κ β} (hk : (keys d).Nodup) :
    (keys (refineKeyD cmp Q p d)).Nodup :=
  refineKeyD_eq cmp Q p d ▸ (keys_updKey_sublist _ p d).nodup hk

theorem listOf_refineKeyD (cmp : β → β → Bool) (Q : β) (p : κ) {d : Data κ β} (hk : (keys d).Nodup) (k : κ) :
    listOf (refineKeyD cmp Q p d) k =
      if k = p then (listOf d p).filter (fun P => !cmp P.2 Q) else listOf d k :=
  refineKeyD_eq cmp Q p d ▸ listOf_updKey rfl p hk k

theorem listOf_refineD (cmp : β → β → Bool) (Q : β) (cands : List κ) {d : Data κ β} (hk : (keys d).Nodup) (k : κ) :
    listOf (refineD cmp Q d cands) k =
      if k ∈ cands then (listOf d k).filter (fun P => !cmp P.2 Q) else listOf d k := by
  induction cands generalizing d with
  | nil => simp [refineD]
  | cons p c ih =>
    have : refineD cmp Q d (p :: c) = refineD cmp Q (refineKeyD cmp Q p d) c := rfl
    rw [this, ih (keys_refineKeyD_nodup cmp Q p hk), listOf_refineKeyD cmp Q p hk]
    by_cases hkp : k = p
    · subst hkp
      simp only [if_true, List.mem_cons, true_or, List.filter_filter, Bool.and_self]
      split <;> rfl
    · simp [hkp]

theorem mem_refineD (cmp : β → β → Bool) (Q : β) (cands : List κ) {d : Data κ β} (hk : (keys d).Nodup) (k : κ)
    (a : Nat × β) :
    a ∈ listOf (refineD cmp Q d cands) k ↔ a ∈ listOf d k ∧ ¬ (k ∈ cands ∧ cmp a.2 Q = true) := by
  rw [listOf_refineD cmp Q cands hk]
  by_cases hc : k ∈ cands
  · rw [if_pos hc, List.mem_filter, Bool.not_eq_true', ← Bool.not_eq_true]
    exact and_congr_right (fun _ => ⟨fun h h' => h h'.2, fun h h' => h ⟨hc, h'⟩⟩)
  · rw [if_neg hc]
    exact ⟨fun h => ⟨h, fun h' => hc h'.1⟩, fun h => h.1⟩

theorem mem_erased (cmp : β → β → Bool) (Q : β) (cands : List κ) {d : Data κ β} (hk : (keys d).Nodup) (e : κ × Nat × β) :
    e ∈ erased cmp Q d cands ↔ e.1 ∈ cands ∧ e.2 ∈ listOf d e.1 ∧ cmp e.2.2 Q = true := by
  induction cands generalizing d with
  | nil => exact ⟨fun h => (nomatch h), fun h => (nomatch h.1)⟩
  | cons p c ih =>
    rw [erased, List.mem_append, List.mem_map, ih (keys_refineKeyD_nodup cmp Q p hk), listOf_refineKeyD cmp Q p hk,
      List.mem_cons]
    constructor
    · rintro (⟨P, hP, rfl⟩ | ⟨h1, h2, h3⟩)
      · exact ⟨Or.inl rfl, (List.mem_filter.1 hP).1, (List.mem_filter.1 hP).2⟩
      · by_cases hp : e.1 = p
        · -- what is left under `p` after its round does not satisfy `cmp`
          rw [if_pos hp] at h2
          have := (List.mem_filter.1 h2).2
          rw [h3] at this; cases this
        · rw [if_neg hp] at h2
          exact ⟨Or.inr h1, h2, h3⟩
    · rintro ⟨h1, h2, h3⟩
      by_cases hp : e.1 = p
      · exact Or.inl ⟨e.2, List.mem_filter.2 ⟨hp ▸ h2, h3⟩, by rw [← hp]⟩
      · exact Or.inr ⟨h1.resolve_left hp, by rw [if_neg hp]; exact h2, h3⟩

theorem nodup_erased (cmp : β → β → Bool) (Q : β) (cands : List κ) {d : Data κ β} (hk : (keys d).Nodup)
    (hl : ∀ k, (listOf d k).Nodup) : (erased cmp Q d cands).Nodup := by
  induction cands generalizing d with
  | nil => exact List.nodup_nil
  | cons p c ih =>
    have hk' := keys_refineKeyD_nodup cmp Q p hk
    have hl' : ∀ k, (listOf (refineKeyD cmp Q p d) k).Nodup := by
      intro k
      rw [listOf_refineKeyD cmp Q p hk]
      split
      · exact (hl p).sublist List.filter_sublist
      · exact hl k
    rw [erased, List.nodup_append]
    refine ⟨?_, ih hk' hl', ?_⟩
    · refine List.Pairwise.map _ (fun a b hab h => ?_) ((hl p).sublist List.filter_sublist)
      rw [Prod.mk.injEq, Prod.mk.injEq] at h
      exact hab (Prod.ext h.2.1 h.2.2)
    · intro a ha b hb hab
      obtain ⟨P, _, rfl⟩ := List.mem_map.1 ha
      rw [← hab, mem_erased cmp Q c hk', listOf_refineKeyD cmp Q p hk, if_pos rfl] at hb
      have := (List.mem_filter.1 hb.2.1).2
      rw [hb.2.2] at this; cases this

theorem remove_eq (d : Data κ β) (q : κ) (i : Nat) : remove d q i = updKey (List.filter (fun P => P.1 != i)) q d := by
  induction d with
  | nil => rfl
  | cons e r ih => rw [remove, updKey, ih]

theorem get_eq (d : Data κ β) (k : κ) :
    get d k = match lookup d k with
      | some (P :: _) => some (P, updKey List.tail k d)
      | _ => none := by
  induction d with
  | nil => rfl
  | cons e r ih =>
    obtain ⟨k0, l0⟩ := e
    rw [get, lookup_cons, updKey]
    by_cases he : k0 = k
    · rw [if_pos he, if_pos he, if_pos he]
      cases l0 <;> rfl
    · rw [if_neg he, if_neg he, if_neg he, ih]
      cases lookup r k with
      | none => rfl
      | some l => cases l <;> rfl

theorem get_some {d d' : Data κ β} {k : κ} {n : Nat × β} (h : get d k = some (n, d')) :
    ∃ l, lookup d k = some (n :: l) ∧ d' = updKey List.tail k d := by
  rw [get_eq] at h
  cases hl : lookup d k with
  | none => rw [hl] at h; cases h
  | some l =>
    rw [hl] at h
    cases l with
    | nil => cases h
    | cons P l => cases h; exact ⟨l, rfl, rfl⟩

/-- `get` fails only on a key that is not there (given that no list is empty): so with a well-formed map the real
class, which picks `data_.begin()`, fails exactly on the empty map -/
theorem get_eq_none_iff {d : Data κ β} (hne : ∀ e, e ∈ d → e.2 ≠ []) (k : κ) : get d k = none ↔ k ∉ keys d := by
  rw [get_eq, ← lookup_eq_none_iff]
  cases hl : lookup d k with
  | none => exact ⟨fun _ => rfl, fun _ => rfl⟩
  | some l =>
    cases l with
    | nil => exact absurd rfl (hne _ (lookup_mem hl))
    | cons P l => exact ⟨nofun, nofun⟩

theorem listOf_remove (q : κ) (i : Nat) {d : Data κ β} (hk : (keys d).Nodup) (k : κ) :
    listOf (remove d q i) k = if k = q then (listOf d q).filter (fun P => P.1 != i) else listOf d k :=
  remove_eq d q i ▸ listOf_updKey rfl q hk k

theorem wf_remove (q : κ) (i : Nat) {d : Data κ β} (hw : WF d) : WF (remove d q i) :=
  remove_eq d q i ▸ wf_updKey _ q hw

theorem size_eq_sum (d : Data κ β) : size d = (d.map (fun e => e.2.length)).sum := by
  rw [List.sum_eq_foldl_nat, List.foldl_map]; rfl

theorem size_eq {d : Data κ β} (hk : (keys d).Nodup) :
    size d = ((keys d).map (fun k => (listOf d k).length)).sum := by
  induction d with
  | nil => rfl
  | cons e r ih =>
    have hk' := List.nodup_cons.1 hk
    rw [size_eq_sum, List.map_cons, List.sum_cons, ← size_eq_sum, ih hk'.2, keys_cons, List.map_cons, List.sum_cons,
      listOf_cons, if_pos rfl]
    refine congrArg (e.2.length + ·) (congrArg List.sum (List.map_congr_left (fun k hkr => ?_)))
    rw [listOf_cons, if_neg (fun h' : e.1 = k => hk'.1 (show e.1 ∈ keys r from h' ▸ hkr))]

theorem empty_iff {d : Data κ β} (hw : WF d) : empty d = true ↔ ∀ k, listOf d k = [] := by
  cases d with
  | nil => exact ⟨fun _ _ => rfl, fun _ => rfl⟩
  | cons e r =>
    refine ⟨nofun, fun h => absurd ?_ (hw.2 e List.mem_cons_self)⟩
    have := h e.1
    rwa [listOf_cons, if_pos rfl] at this

/-- every node identity (iterator) occurs once in the whole container -/
def IdsOk (d : Data κ β) : Prop :=
  (∀ k, ((listOf d k).map (·.1)).Nodup) ∧
    ∀ k k' a b, a ∈ listOf d k → b ∈ listOf d k' → a.1 = b.1 → k = k'

theorem idsOk_nil : IdsOk ([] : Data κ β) := ⟨fun _ => List.nodup_nil, fun _ _ _ _ h => nomatch h⟩

theorem idsOk_of_sublist {d d' : Data κ β} (h : ∀ k, (listOf d' k).Sublist (listOf d k)) (hi : IdsOk d) : IdsOk d' :=
  ⟨fun k => List.Nodup.sublist ((h k).map _) (hi.1 k),
    fun k k' a b ha hb hab => hi.2 k k' a b ((h k).subset ha) ((h k').subset hb) hab⟩

theorem listOf_nodup_of_idsOk {d : Data κ β} (hi : IdsOk d) (k : κ) : (listOf d k).Nodup :=
  List.Pairwise.of_map (·.1) (fun _ _ h hab => h (by rw [hab])) (hi.1 k)

theorem idsOk_insert {d : Data κ β} (hi : IdsOk d) {i : Nat} (hf : ∀ k a, a ∈ listOf d k → a.1 ≠ i) (q : κ) (Q : β) :
    IdsOk (insert d i q Q) := by
  refine ⟨fun k => ?_, fun k k' a b ha hb hab => ?_⟩
  · rw [listOf_insert]
    split
    · rw [List.map_append]
      refine List.nodup_append.2 ⟨hi.1 q, List.pairwise_singleton _ _, fun x hx y hy => ?_⟩
      obtain ⟨a, ha, rfl⟩ := List.mem_map.1 hx
      rw [List.mem_singleton.1 hy]
      exact hf q a ha
    · exact hi.1 k
  · rcases mem_listOf_insert.1 ha with ha1 | ⟨rfl, rfl⟩ <;> rcases mem_listOf_insert.1 hb with hb1 | ⟨rfl, rfl⟩
    · exact hi.2 k k' a b ha1 hb1 hab
    · exact absurd hab (hf k a ha1)
    · exact absurd hab.symm (hf k' b hb1)
    · rfl

theorem sublist_refineD (cmp : β → β → Bool) (Q : β) (cands : List κ) {d : Data κ β} (hk : (keys d).Nodup) (k : κ) :
    (listOf (refineD cmp Q d cands) k).Sublist (listOf d k) := by
  rw [listOf_refineD cmp Q cands hk]
  split
  · exact List.filter_sublist
  · exact List.Sublist.refl _

theorem sublist_remove (q : κ) (i : Nat) {d : Data κ β} (hk : (keys d).Nodup) (k : κ) :
    (listOf (remove d q i) k).Sublist (listOf d k) :=
  remove_eq d q i ▸ sublist_updKey (fun _ => List.filter_sublist) q hk k

theorem sublist_get {d d' : Data κ β} {k : κ} {n : Nat × β} (hk : (keys d).Nodup) (h : get d k = some (n, d')) (k' : κ) :
    (listOf d' k').Sublist (listOf d k') := by
  obtain ⟨_, _, rfl⟩ := get_some h
  exact sublist_updKey List.tail_sublist k hk k'

theorem get_spec {d d' : Data κ β} {k : κ} {n : Nat × β} (hk : (keys d).Nodup) (h : get d k = some (n, d')) :
    ∃ l, listOf d k = n :: l ∧ ∀ k', listOf d' k' = if k' = k then l else listOf d k' := by
  obtain ⟨l, hl, rfl⟩ := get_some h
  have e : listOf d k = n :: l := by rw [listOf, hl]; rfl
  refine ⟨l, e, fun k' => ?_⟩
  rw [listOf_updKey rfl k hk, e]; rfl

theorem wf_get {d d' : Data κ β} {k : κ} {n : Nat × β} (hw : WF d) (h : get d k = some (n, d')) : WF d' := by
  obtain ⟨_, _, rfl⟩ := get_some h
  exact wf_updKey _ k hw

/-- the order on pairs: the stored pair `(p, P)` covers `(q, Q)` iff `q ≤ p` and `P ≤ Q` -/
def Covers (kle : κ → κ → Bool) (le : β → β → Bool) (p : κ) (P : β) (q : κ) (Q : β) : Prop :=
  kle q p = true ∧ le P Q = true

def Anti (kle : κ → κ → Bool) (le : β → β → Bool) (d : Data κ β) : Prop :=
  ∀ k k' a b, a ∈ listOf d k → b ∈ listOf d k' → a.1 ≠ b.1 → ¬ Covers kle le k a.2 k' b.2

def Rep (kle : κ → κ → Bool) (le : β → β → Bool) (d : Data κ β) (q : κ) (Q : β) : Prop :=
  ∃ k a, a ∈ listOf d k ∧ Covers kle le k a.2 q Q

def CandOk (kle : κ → κ → Bool) (d : Data κ β) (up down : List κ) (q : κ) : Prop :=
  ∀ p, listOf d p ≠ [] → ((p ∈ up ↔ kle q p = true) ∧ (p ∈ down ↔ kle p q = true))

theorem offer_of_contains {d : Data κ β} {up : List κ} {le : β → β → Bool} {Q : β} (down : List κ) (i : Nat) (q : κ)
    (h : contains d up Q le = true) : offer d up down le i q Q = d := if_pos h

theorem listOf_offer {d : Data κ β} (hk : (keys d).Nodup) {up : List κ} (down : List κ) {le : β → β → Bool} (i : Nat)
    (q : κ) {Q : β} (hc : contains d up Q le = false) (k : κ) :
    listOf (offer d up down le i q Q) k =
      (if k ∈ down then (listOf d k).filter (fun P => !le Q P.2) else listOf d k) ++ (if k = q then [(i, Q)] else []) := by
  rw [offer, if_neg (by rw [hc]; exact Bool.false_ne_true), listOf_insert, refine0_eq, listOf_refineD _ _ _ hk,
    listOf_refineD _ _ _ hk]
  by_cases h : k = q
  · rw [if_pos h, if_pos h, h]
  · rw [if_neg h, if_neg h, List.append_nil]

theorem mem_offer {d : Data κ β} (hk : (keys d).Nodup) {up down : List κ} {le : β → β → Bool} {i : Nat} {q : κ} {Q : β}
    (hc : contains d up Q le = false) (k : κ) (a : Nat × β) :
    a ∈ listOf (offer d up down le i q Q) k ↔
      (a ∈ listOf d k ∧ ¬ (k ∈ down ∧ le Q a.2 = true)) ∨ (k = q ∧ a = (i, Q)) := by
  rw [offer, if_neg (by rw [hc]; exact Bool.false_ne_true), mem_listOf_insert, refine0_eq, mem_refineD _ _ _ hk]

theorem wf_offer {d : Data κ β} (hw : WF d) (up down : List κ) (le : β → β → Bool) (i : Nat) (q : κ) (Q : β) :
    WF (offer d up down le i q Q) := by
  unfold offer
  split
  · exact hw
  · rw [refine0_eq]; exact wf_insert (wf_refineD _ _ _ hw) _ _ _

/-- Needs only that the candidate lists are right (`CandOk`);
neither reflexivity nor transitivity of the orders, no freshness of the identity -/
theorem offer_anti {kle : κ → κ → Bool} {le : β → β → Bool} {d : Data κ β} (hk : (keys d).Nodup)
    {up down : List κ} {q : κ} (hc : CandOk kle d up down q) (i : Nat) (Q : β) (ha : Anti kle le d) :
    Anti kle le (offer d up down le i q Q) := by
  cases hcon : contains d up Q le with
  | true => rw [offer_of_contains down i q hcon]; exact ha
  | false =>
    intro k k' a b ha' hb' hab hcov
    rw [mem_offer hk hcon] at ha' hb'
    rcases ha' with ⟨ha1, ha2⟩ | ⟨rfl, rfl⟩ <;> rcases hb' with ⟨hb1, hb2⟩ | ⟨rfl, rfl⟩
    · exact ha k k' a b ha1 hb1 hab hcov
    · -- an old node covers the new one: `contains` would have answered true
      exact Bool.false_ne_true (hcon.symm.trans
        ((contains_iff _ _ _ _).2 ⟨k, ((hc k (List.ne_nil_of_mem ha1)).1).2 hcov.1, a, ha1, hcov.2⟩))
    · -- the new node covers an old one: `refine` has removed it
      exact hb2 ⟨((hc k' (List.ne_nil_of_mem hb1)).2).2 hcov.1, hcov.2⟩
    · exact hab rfl

/-- Needs transitivity of both orders (and sound candidate lists) -/
theorem offer_rep {kle : κ → κ → Bool} {le : β → β → Bool} {d : Data κ β} (hk : (keys d).Nodup)
    (hktr : ∀ a b c, kle a b = true → kle b c = true → kle a c = true)
    (hltr : ∀ a b c, le a b = true → le b c = true → le a c = true)
    {up down : List κ} {q : κ} (hc : CandOk kle d up down q) (i : Nat) (Q : β) (x : κ) (X : β) :
    Rep kle le (offer d up down le i q Q) x X ↔ Rep kle le d x X ∨ Covers kle le q Q x X := by
  cases hcon : contains d up Q le with
  | true =>
    rw [offer_of_contains down i q hcon]
    refine ⟨Or.inl, fun h => h.elim id (fun h => ?_)⟩
    obtain ⟨p, hp, n, hn, hcn⟩ := (contains_iff _ _ _ _).1 hcon
    exact ⟨p, n, hn, hktr _ _ _ h.1 (((hc p (List.ne_nil_of_mem hn)).1).1 hp), hltr _ _ _ hcn h.2⟩
  | false =>
    have hq : (i, Q) ∈ listOf (offer d up down le i q Q) q := (mem_offer hk hcon q _).2 (Or.inr ⟨rfl, rfl⟩)
    constructor
    · rintro ⟨k, a, ha, hcov⟩
      rcases (mem_offer hk hcon k a).1 ha with ⟨ha1, _⟩ | ⟨rfl, rfl⟩
      · exact Or.inl ⟨k, a, ha1, hcov⟩
      · exact Or.inr hcov
    · rintro (⟨k, a, ha, hcov⟩ | h)
      · by_cases hrm : k ∈ down ∧ le Q a.2 = true
        · exact ⟨q, (i, Q), hq, hktr _ _ _ hcov.1 (((hc k (List.ne_nil_of_mem ha)).2).1 hrm.1), hltr _ _ _ hrm.2 hcov.2⟩
        · exact ⟨k, a, (mem_offer hk hcon k a).2 (Or.inl ⟨ha, hrm⟩), hcov⟩
      · exact ⟨q, (i, Q), hq, h⟩

def ValsNodup (d : Data κ β) : Prop := ∀ k, ((listOf d k).map (·.2)).Nodup

/-- with reflexive orders the combination never stores a pair twice (this is the contract `OrderedAntichain2C::insert`
asserts).  Needs reflexivity of `le` and `q ∈ up` once `q` is a key (reflexivity of the key order) -/
theorem offer_valsNodup {le : β → β → Bool} {d : Data κ β} (hk : (keys d).Nodup)
    (hlrf : ∀ a, le a a = true) {up down : List κ} {q : κ} (hq : listOf d q ≠ [] → q ∈ up) (i : Nat) (Q : β)
    (hv : ValsNodup d) : ValsNodup (offer d up down le i q Q) := by
  intro k
  cases hcon : contains d up Q le with
  | true => rw [offer_of_contains down i q hcon]; exact hv k
  | false =>
    rw [listOf_offer hk down i q hcon, List.map_append]
    have hsub : ((if k ∈ down then (listOf d k).filter (fun P => !le Q P.2) else listOf d k).map (·.2)).Sublist
        ((listOf d k).map (·.2)) := by
      split
      · exact List.filter_sublist.map _
      · exact List.Sublist.refl _
    by_cases hkq : k = q
    · rw [if_pos hkq]
      refine List.nodup_append.2 ⟨hsub.nodup (hv k), List.pairwise_singleton _ _, fun x hx y hy hxy => ?_⟩
      -- `Q` is not stored under `q`: `contains` would have answered true
      obtain ⟨a, ha, rfl⟩ := List.mem_map.1 (hsub.subset hx)
      rw [List.mem_singleton.1 hy] at hxy
      exact Bool.false_ne_true (hcon.symm.trans ((contains_iff _ _ _ _).2
        ⟨k, hkq ▸ hq (hkq ▸ List.ne_nil_of_mem ha), a, ha, hxy ▸ hlrf _⟩))
    · rw [if_neg hkq, List.map_nil, List.append_nil]
      exact hsub.nodup (hv k)

/-- reflexivity is needed: with the irreflexive "proper subset … here `<` on numbers" the same pair is stored twice -/
example : listOf (offer (offer ([] : Data Nat Nat) [0] [0] (fun a b => decide (a < b)) 0 0 5) [0] [0] (fun a b => decide (a < b)) 1 0 5) 0
    = [(0, 5), (1, 5)] := by decide

/-- the loop of the algorithms: the node identities come from a counter that advances with every insertion -/
def runOffers (up down : κ → List κ) (le : β → β → Bool) (s : Data κ β × Nat) (xs : List (κ × β)) : Data κ β × Nat :=
  xs.foldl (fun s x =>
    if contains s.1 (up x.1) x.2 le then s else (offer s.1 (up x.1) (down x.1) le s.2 x.1 x.2, s.2 + 1)) s

def IdsBelow (d : Data κ β) (n : Nat) : Prop := ∀ k a, a ∈ listOf d k → a.1 < n

theorem idsBelow_nil (n : Nat) : IdsBelow ([] : Data κ β) n := fun _ _ h => nomatch h

theorem idsBelow_fresh {d : Data κ β} {n : Nat} (hb : IdsBelow d n) (k : κ) (a : Nat × β) (ha : a ∈ listOf d k) : a.1 ≠ n :=
  Nat.ne_of_lt (hb k a ha)

theorem idsBelow_insert {d : Data κ β} {n : Nat} (hb : IdsBelow d n) (q : κ) (Q : β) :
    IdsBelow (insert d n q Q) (n + 1) := by
  intro k a ha
  rcases mem_listOf_insert.1 ha with ha | ⟨_, rfl⟩
  · exact Nat.lt_succ_of_lt (hb k a ha)
  · exact Nat.lt_succ_self _

theorem idsBelow_of_sublist {d d' : Data κ β} {n : Nat} (h : ∀ k, (listOf d' k).Sublist (listOf d k))
    (hb : IdsBelow d n) : IdsBelow d' n := fun k a ha => hb k a ((h k).subset ha)

def ObjInv (n : Nat) (d : Data κ β) : Prop := WF d ∧ IdsOk d ∧ IdsBelow d n

theorem objInv_nil (n : Nat) : ObjInv n ([] : Data κ β) := ⟨wf_nil, idsOk_nil, idsBelow_nil n⟩

theorem objInv_succ {n : Nat} {d : Data κ β} (h : ObjInv n d) : ObjInv (n + 1) d :=
  ⟨h.1, h.2.1, fun k a ha => Nat.lt_succ_of_lt (h.2.2 k a ha)⟩

theorem objInv_of_sublist {n : Nat} {d d' : Data κ β} (hw : WF d') (h : ∀ k, (listOf d' k).Sublist (listOf d k))
    (hd : ObjInv n d) : ObjInv n d' :=
  ⟨hw, idsOk_of_sublist h hd.2.1, idsBelow_of_sublist h hd.2.2⟩

theorem objInv_insert {n : Nat} {d : Data κ β} (h : ObjInv n d) (q : κ) (Q : β) : ObjInv (n + 1) (insert d n q Q) :=
  ⟨wf_insert h.1 n q Q, idsOk_insert h.2.1 (idsBelow_fresh h.2.2) q Q, idsBelow_insert h.2.2 q Q⟩

theorem objInv_offer {n : Nat} {d : Data κ β} (h : ObjInv n d) (up down : List κ) (le : β → β → Bool) (q : κ) (Q : β) :
    ObjInv (n + 1) (offer d up down le n q Q) := by
  unfold offer
  split
  · exact objInv_succ h
  · rw [refine0_eq]
    exact objInv_insert (objInv_of_sublist (wf_refineD _ _ _ h.1) (sublist_refineD _ _ _ h.1.1) h) q Q

def offerStep (up down : κ → List κ) (le : β → β → Bool) (s : Data κ β × Nat) (x : κ × β) : Data κ β × Nat :=
  if contains s.1 (up x.1) x.2 le then s else (offer s.1 (up x.1) (down x.1) le s.2 x.1 x.2, s.2 + 1)

theorem offerStep_fst (up down : κ → List κ) (le : β → β → Bool) (s : Data κ β × Nat) (x : κ × β) :
    (offerStep up down le s x).1 = offer s.1 (up x.1) (down x.1) le s.2 x.1 x.2 := by
  unfold offerStep
  split
  · rename_i h; exact (offer_of_contains _ _ _ h).symm
  · rfl

/-- history theorem for `Antichain2Cv2` used the way the algorithms use it: after ANY sequence of offers the container is
well-formed, its node identities are unique, it is an antichain, and it stands for the old set plus the cones of all
pairs that were ever offered -/
theorem runOffers_spec {kle : κ → κ → Bool} {le : β → β → Bool} {up down : κ → List κ}
    (hktr : ∀ a b c, kle a b = true → kle b c = true → kle a c = true)
    (hltr : ∀ a b c, le a b = true → le b c = true → le a c = true)
    (hup : ∀ q p, p ∈ up q ↔ kle q p = true) (hdown : ∀ q p, p ∈ down q ↔ kle p q = true)
    (xs : List (κ × β)) {s : Data κ β × Nat} (hw : WF s.1) (hi : IdsOk s.1) (hb : IdsBelow s.1 s.2) (ha : Anti kle le s.1) :
    WF (runOffers up down le s xs).1 ∧ IdsOk (runOffers up down le s xs).1 ∧
      IdsBelow (runOffers up down le s xs).1 (runOffers up down le s xs).2 ∧
      Anti kle le (runOffers up down le s xs).1 ∧
      ∀ x X, Rep kle le (runOffers up down le s xs).1 x X ↔
        Rep kle le s.1 x X ∨ ∃ y, y ∈ xs ∧ Covers kle le y.1 y.2 x X := by
  have hc : ∀ (d : Data κ β) q, CandOk kle d (up q) (down q) q := fun _ q p _ => ⟨hup q p, hdown q p⟩
  have := foldl_cone (step := offerStep up down le)
    (I := fun s => ObjInv s.2 s.1 ∧ Anti kle le s.1)
    (R := fun s (x : κ × β) => Rep kle le s.1 x.1 x.2) (C := fun x y => Covers kle le y.1 y.2 x.1 x.2)
    (fun s y ⟨h1, h2⟩ => by
      constructor
      · unfold offerStep
        split
        · exact h1
        · exact objInv_offer h1 ..
      · rw [offerStep_fst]; exact offer_anti h1.1.1 (hc _ _) _ _ h2)
    (fun s y h x => by rw [offerStep_fst]; exact offer_rep h.1.1.1 hktr hltr (hc _ _) _ _ _ _)
    xs (s := s) ⟨⟨hw, hi, hb⟩, ha⟩
  exact ⟨this.1.1.1, this.1.1.2.1, this.1.1.2.2, this.1.2, fun x X => this.2 (x, X)⟩

theorem runOffers_empty {kle : κ → κ → Bool} {le : β → β → Bool} {up down : κ → List κ}
    (hktr : ∀ a b c, kle a b = true → kle b c = true → kle a c = true)
    (hltr : ∀ a b c, le a b = true → le b c = true → le a c = true)
    (hup : ∀ q p, p ∈ up q ↔ kle q p = true) (hdown : ∀ q p, p ∈ down q ↔ kle p q = true) (xs : List (κ × β)) :
    WF (runOffers up down le ([], 0) xs).1 ∧ IdsOk (runOffers up down le ([], 0) xs).1 ∧
      Anti kle le (runOffers up down le ([], 0) xs).1 ∧
      ∀ x X, Rep kle le (runOffers up down le ([], 0) xs).1 x X ↔ ∃ y, y ∈ xs ∧ Covers kle le y.1 y.2 x X := by
  obtain ⟨h1, h2, _, h4, h5⟩ := runOffers_spec hktr hltr hup hdown xs (s := ([], 0)) wf_nil idsOk_nil
    (idsBelow_nil 0) (fun _ _ _ _ h => nomatch h)
  exact ⟨h1, h2, h4, fun x X => (h5 x X).trans (or_iff_right (fun ⟨_, _, h, _⟩ => nomatch h))⟩

theorem runOffers_valsNodup {kle : κ → κ → Bool} {le : β → β → Bool} {up down : κ → List κ}
    (hkrf : ∀ a, kle a a = true) (hlrf : ∀ a, le a a = true)
    (hup : ∀ q p, p ∈ up q ↔ kle q p = true)
    (xs : List (κ × β)) {s : Data κ β × Nat} (hw : WF s.1) (hv : ValsNodup s.1) :
    ValsNodup (runOffers up down le s xs).1 :=
  (List.foldlRecOn (motive := fun s => WF s.1 ∧ ValsNodup s.1) xs (offerStep up down le) ⟨hw, hv⟩
    (fun s h y _ => by
      rw [offerStep_fst]
      exact ⟨wf_offer h.1 .., offer_valsNodup h.1.1 hlrf (fun _ => (hup y.1 y.1).2 (hkrf _)) _ _ h.2⟩)).2

/-- transitivity is needed for the closure: keys all 0, numbers with `1 ≤ 2 ≤ 3` but not `1 ≤ 3` as the order on the
second component: offering 2 and then 1 drops 2, and 3 – which was covered by 2 – is not represented any more -/
example :
    let le : Nat → Nat → Bool := fun a b => a == b || (a, b) == (1, 2) || (a, b) == (2, 3)
    (runOffers (fun _ => [0]) (fun _ => [0]) le ([], 0) [(0, 2), (0, 1)]).1 = [(0, [(1, 1)])] ∧
      le 2 3 = true ∧ le 1 3 = false := by decide

def PoolInv (P : Pool κ β) : Prop := ∀ d, d ∈ P.objs → WF d ∧ IdsOk d ∧ IdsBelow d P.next

theorem obj_inv {P : Pool κ β} (h : PoolInv P) (o : Nat) : ObjInv P.next (obj P o) :=
  forall_getD h (objInv_nil _) o

theorem setObj_inv {P : Pool κ β} (h : PoolInv P) (o : Nat) {d : Data κ β} (hd : ObjInv P.next d) :
    PoolInv (setObj P o d) :=
  forall_mem_set h (fun _ => id) hd o

theorem setObj_bump_inv {P : Pool κ β} (h : PoolInv P) (o : Nat) {d : Data κ β} (hd : ObjInv (P.next + 1) d) :
    PoolInv { setObj P o d with next := P.next + 1 } :=
  forall_mem_set h (fun _ => objInv_succ) hd o

theorem step_inv (P : Pool κ β) (op : Op κ β) (h : PoolInv P) : PoolInv (step P op).1 := by
  cases op with
  | contains o c Q cmp => exact h
  | refine o c Q cmp =>
    have hd := obj_inv h o
    rw [step, refine_fst]
    exact setObj_inv h o (objInv_of_sublist (wf_refineD _ _ _ hd.1) (sublist_refineD _ _ _ hd.1.1) hd)
  | insert o q Q => exact setObj_bump_inv h o (objInv_insert (obj_inv h o) q Q)
  | get o pick =>
    cases pick with
    | none => exact h
    | some k =>
      have hd := obj_inv h o
      rw [step]
      cases hg : get (obj P o) k with
      | none => exact h
      | some x => exact setObj_inv h o (objInv_of_sublist (wf_get hd.1 hg) (sublist_get hd.1.1 hg) hd)
  | remove o q i =>
    have hd := obj_inv h o
    exact setObj_inv h o (objInv_of_sublist (wf_remove _ _ hd.1) (sublist_remove _ _ hd.1.1) hd)
  | lookup o k => exact h
  | size o => exact h
  | empty o => exact h
  | clear o => exact setObj_inv h o (objInv_nil _)
  | swap o o' => exact setObj_inv (setObj_inv h o (obj_inv h o')) o' (obj_inv h o)
  | offer o up down le q Q =>
    rw [step]
    split
    · exact h
    · exact setObj_bump_inv h o (objInv_offer (obj_inv h o) ..)

/-- history theorem for the class as such: after ANY list of operations on a pool of initially empty containers, every
container satisfies the representation invariant (each key once, no key with an empty list – so `lookup` returns
`nullptr` exactly for the keys that store nothing) and its list nodes are pairwise different -/
theorem run_inv (ops : List (Op κ β)) {P : Pool κ β} (h : PoolInv P) : PoolInv (run P ops) := by
  induction ops generalizing P with
  | nil => exact h
  | cons op ops ih => exact ih (step_inv P op h)

theorem run_inv_init (ops : List (Op κ β)) (m : Nat) : PoolInv (run ⟨List.replicate m [], 0⟩ ops) :=
  run_inv ops (fun _ hd => (List.mem_replicate.1 hd).2.symm ▸ objInv_nil 0)

end Vata.AC.Two
