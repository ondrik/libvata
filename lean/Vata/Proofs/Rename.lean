import Vata.Ref
import Vata.Proofs.TrimAux
/-!
# Renaming of states / symbols and union (properties C14, C02)

Any state map can only enlarge the language of the image automaton (`reindex_incl`); a map injective on the states of `A`
keeps it, because a run of the image is pulled back state by state (`reindex_inj_reach`).  The same pull-back with the
identity map shows that in a union of automata with disjoint state sets each component keeps exactly its own runs.
`Eqv.transfer A h h'` renames `reindex h A` into `reindex h' A` when `h`, `h'` have the same fibres on the states; with `h' = id`
it is a left inverse of an injective `h`.
-/
namespace Vata

theorem reindex_rules (h : Nat → Nat) (A : TA) (r' : Rule) :
    r' ∈ (reindex h A).rules ↔ ∃ r, r ∈ A.rules ∧ r' = mapRule h r := by
  simp only [reindex, List.mem_map, @eq_comm _ r']

theorem reindex_final (h : Nat → Nat) (A : TA) (q' : Nat) :
    q' ∈ (reindex h A).final ↔ ∃ q, q ∈ A.final ∧ q' = h q := by
  simp only [reindex, List.mem_map, @eq_comm _ q']

theorem reindex_incl (h : Nat → Nat) (A : TA) (t : Tree) :
    accepts A t = true → accepts (reindex h A) t = true :=
  (simTo_reindex h A).accepts (fun q hq => ⟨h q, List.mem_map.mpr ⟨q, hq, rfl⟩, rfl⟩) t

theorem Rn.mem_states {A : TA} {q : Nat} :
    q ∈ A.states ↔ (∃ r, r ∈ A.rules ∧ (q = r.parent ∨ q ∈ r.kids)) ∨ q ∈ A.final := by
  simp only [TA.states, mem_dedupL, List.mem_append, List.mem_flatMap, Rule.states, List.mem_cons]

theorem reach_mem_states (A : TA) : ∀ (t : Tree) (q : Nat), q ∈ reach A t → q ∈ A.states
  | .node f ts, q => by
    rw [reach, mem_post']
    rintro ⟨r, hr, _, _, hp⟩
    rw [← hp]; exact parent_mem_states hr

theorem mem_states_reindex {h : Nat → Nat} {A : TA} {q' : Nat} :
    q' ∈ (reindex h A).states ↔ ∃ q, q ∈ A.states ∧ q' = h q := by
  constructor
  · intro hq'
    rcases Rn.mem_states.mp hq' with ⟨r', hr', hc⟩ | hf
    · obtain ⟨r, hr, he⟩ := (reindex_rules h A r').mp hr'
      rw [he] at hc
      rcases hc with hc | hc
      · exact ⟨r.parent, parent_mem_states hr, hc⟩
      · obtain ⟨k, hk, hk'⟩ := List.mem_map.mp hc
        exact ⟨k, kid_mem_states hr hk, hk'.symm⟩
    · obtain ⟨q, hq, he⟩ := (reindex_final h A q').mp hf
      exact ⟨q, final_mem_states hq, he⟩
  · rintro ⟨q, hq, he⟩
    rw [he]
    rcases Rn.mem_states.mp hq with ⟨r, hr, hc⟩ | hf
    · have hr' : mapRule h r ∈ (reindex h A).rules := (reindex_rules h A _).mpr ⟨r, hr, rfl⟩
      rcases hc with hc | hc
      · rw [hc]; exact parent_mem_states hr'
      · exact kid_mem_states hr' (List.mem_map.mpr ⟨q, hc, rfl⟩)
    · exact final_mem_states ((reindex_final h A _).mpr ⟨q, hf, rfl⟩)

def InjOnStates (h : Nat → Nat) (A : TA) : Prop :=
  ∀ q q', q ∈ A.states → q' ∈ A.states → h q = h q' → q = q'

/-- for `h` injective on the states its converse, on the states, is a simulation from the image back to `A` -/
theorem simTo_reindex_inv {h : Nat → Nat} {A : TA} (hinj : InjOnStates h A) :
    SimTo (reindex h A) A (fun x q => q ∈ A.states ∧ x = h q) := by
  rintro ρ' hρ' q ⟨hq, hp⟩
  obtain ⟨ρ, hρ, rfl⟩ := List.mem_map.mp hρ'
  exact ⟨ρ, hρ, hinj _ _ (parent_mem_states hρ) hq hp, rfl,
    All2.map_left h (All2.diag (P := (· ∈ A.states)) (fun k hk => kid_mem_states hρ hk) |>.mono
      fun _ _ _ _ e => ⟨e.1 ▸ e.2, e.1 ▸ rfl⟩)⟩

theorem reindex_inj_reachL_aux (h : Nat → Nat) (A : TA) (hinj : InjOnStates h A) :
    ∀ ts : List Tree, All2 (fun s' s => ∀ k, k ∈ A.states → h k ∈ s' → k ∈ s) (reachL (reindex h A) ts) (reachL A ts) :=
  fun ts => ((simTo_reindex_inv hinj).reachL ts).mono fun _ _ _ _ hc k hk => hc _ k ⟨hk, rfl⟩

theorem reindex_inj_reach (h : Nat → Nat) (A : TA) (hinj : InjOnStates h A) (t : Tree) (q : Nat)
    (hq : q ∈ A.states) : h q ∈ reach (reindex h A) t ↔ q ∈ reach A t :=
  ⟨(simTo_reindex_inv hinj).reach t _ q ⟨hq, rfl⟩, reindex_mono h A t q⟩

theorem reindex_reach_image_state (h : Nat → Nat) (A : TA) (t : Tree) (x : Nat)
    (hx : x ∈ reach (reindex h A) t) : ∃ q, q ∈ A.states ∧ x = h q :=
  mem_states_reindex.mp (reach_mem_states (reindex h A) t x hx)

/-- false without injectivity: `reindex_reach_image_needs_inj` -/
theorem reindex_inj_reach_image (h : Nat → Nat) (A : TA) (hinj : InjOnStates h A) (t : Tree) (x : Nat)
    (hx : x ∈ reach (reindex h A) t) : ∃ q, q ∈ reach A t ∧ x = h q := by
  obtain ⟨q, hq, he⟩ := reindex_reach_image_state h A t x hx
  rw [he] at hx
  exact ⟨q, (reindex_inj_reach h A hinj t q hq).mp hx, he⟩

theorem reindex_reach_image_needs_inj :
    let A : TA := ⟨[⟨0, [], 1⟩, ⟨1, [2], 3⟩], [3]⟩
    let t : Tree := .node 1 [.node 0 []]
    0 ∈ reach (reindex (fun _ => 0) A) t ∧ reach A t = [] := by
  decide

theorem reindex_inj_lang (h : Nat → Nat) (A : TA) (hinj : InjOnStates h A) (t : Tree) :
    accepts (reindex h A) t = accepts A t := by
  rw [Bool.eq_iff_iff]
  refine ⟨(simTo_reindex_inv hinj).accepts ?_ t, reindex_incl h A t⟩
  intro x hx
  obtain ⟨q, hq, rfl⟩ := List.mem_map.mp hx
  exact ⟨q, hq, final_mem_states hq, rfl⟩

-- `A` is a component of `U`: every rule of `U` whose parent is a state of `A` is a rule of `A`.  Then the states of
-- `A` that label a tree in `U` label it in `A`.
theorem simTo_component {U A : TA} (hc : ∀ r, r ∈ U.rules → r.parent ∈ A.states → r ∈ A.rules) :
    SimTo U A (fun q q' => q = q' ∧ q ∈ A.states) :=
  SimTo.of_frame fun r hr hp => ⟨hc r hr hp, fun _ hk => kid_mem_states (hc r hr hp) hk⟩

theorem reach_component (U A : TA) (hc : ∀ r, r ∈ U.rules → r.parent ∈ A.states → r ∈ A.rules) (t : Tree) (q : Nat)
    (hq : q ∈ A.states) (h : q ∈ reach U t) : q ∈ reach A t :=
  (simTo_component hc).reach t q q ⟨rfl, hq⟩ h

theorem reachL_component (U A : TA) (hc : ∀ r, r ∈ U.rules → r.parent ∈ A.states → r ∈ A.rules) :
    ∀ ts : List Tree, All2 (fun s' s => ∀ k, k ∈ A.states → k ∈ s' → k ∈ s) (reachL U ts) (reachL A ts) :=
  fun ts => ((simTo_component hc).reachL ts).mono fun _ _ _ _ h k hk => h k k ⟨rfl, hk⟩

theorem unionDisjoint_reach_left (A B : TA) (hdis : ∀ q, q ∈ A.states → q ∉ B.states) (t : Tree) (q : Nat)
    (hq : q ∈ A.states) : q ∈ reach (unionDisjoint A B) t ↔ q ∈ reach A t := by
  constructor
  · apply reach_component (unionDisjoint A B) A _ t q hq
    intro r hr hp
    rcases List.mem_append.mp hr with h | h
    · exact h
    · exact absurd (parent_mem_states h) (hdis _ hp)
  · exact reach_mono A (unionDisjoint A B) (fun r hr => List.mem_append_left _ hr) t q

theorem unionDisjoint_reach_right (A B : TA) (hdis : ∀ q, q ∈ A.states → q ∉ B.states) (t : Tree) (q : Nat)
    (hq : q ∈ B.states) : q ∈ reach (unionDisjoint A B) t ↔ q ∈ reach B t := by
  constructor
  · apply reach_component (unionDisjoint A B) B _ t q hq
    intro r hr hp
    rcases List.mem_append.mp hr with h | h
    · exact absurd hp (hdis _ (parent_mem_states h))
    · exact h
  · exact reach_mono B (unionDisjoint A B) (fun r hr => List.mem_append_right _ hr) t q

theorem unionDisjoint_reach (A B : TA) (hdis : ∀ q, q ∈ A.states → q ∉ B.states) (t : Tree) (q : Nat) :
    q ∈ reach (unionDisjoint A B) t ↔ q ∈ reach A t ∨ q ∈ reach B t := by
  constructor
  · intro hq
    -- the parent of the rule applied at the root is a state of the component the rule comes from
    cases t with
    | node f ts =>
      obtain ⟨r, hr, _, _, hp⟩ := mem_reach_node.mp hq
      rcases List.mem_append.mp hr with h | h
      · exact Or.inl ((unionDisjoint_reach_left A B hdis _ q (hp ▸ parent_mem_states h)).mp hq)
      · exact Or.inr ((unionDisjoint_reach_right A B hdis _ q (hp ▸ parent_mem_states h)).mp hq)
  · rintro (hq | hq)
    · exact (unionDisjoint_reach_left A B hdis t q (reach_mem_states A t q hq)).mpr hq
    · exact (unionDisjoint_reach_right A B hdis t q (reach_mem_states B t q hq)).mpr hq

theorem unionDisjoint_lang (A B : TA) (hdis : ∀ q, q ∈ A.states → q ∉ B.states) (t : Tree) :
    accepts (unionDisjoint A B) t = (accepts A t || accepts B t) := by
  rw [Bool.eq_iff_iff]
  simp only [Bool.or_eq_true, accepts_iff_reach]
  constructor
  · rintro ⟨q, hq, hf⟩
    rcases List.mem_append.mp hf with hf | hf
    · exact Or.inl ⟨q, (unionDisjoint_reach_left A B hdis t q (final_mem_states hf)).mp hq, hf⟩
    · exact Or.inr ⟨q, (unionDisjoint_reach_right A B hdis t q (final_mem_states hf)).mp hq, hf⟩
  · rintro (⟨q, hq, hf⟩ | ⟨q, hq, hf⟩)
    · exact ⟨q, (unionDisjoint_reach_left A B hdis t q (final_mem_states hf)).mpr hq, List.mem_append_left _ hf⟩
    · exact ⟨q, (unionDisjoint_reach_right A B hdis t q (final_mem_states hf)).mpr hq, List.mem_append_right _ hf⟩

theorem unionWith_eq (fA fB : Nat → Nat) (A B : TA) :
    unionWith fA fB A B = unionDisjoint (reindex fA A) (reindex fB B) := rfl

theorem unionWith_lang (fA fB : Nat → Nat) (A B : TA) (hA : InjOnStates fA A) (hB : InjOnStates fB B)
    (hdis : ∀ q q', q ∈ A.states → q' ∈ B.states → fA q ≠ fB q') (t : Tree) :
    accepts (unionWith fA fB A B) t = (accepts A t || accepts B t) := by
  rw [unionWith_eq, unionDisjoint_lang _ _ _ t, reindex_inj_lang fA A hA, reindex_inj_lang fB B hB]
  intro x hxA hxB
  obtain ⟨q, hq, he⟩ := mem_states_reindex.mp hxA
  obtain ⟨q', hq', he'⟩ := mem_states_reindex.mp hxB
  exact hdis q q' hq hq' (he.symm.trans he')

mutual
def Tree.mapSyms (g : Nat → Nat) : Tree → Tree
  | .node f ts => .node (g f) (Tree.mapSymsL g ts)
def Tree.mapSymsL (g : Nat → Nat) : List Tree → List Tree
  | [] => []
  | t :: ts => Tree.mapSyms g t :: Tree.mapSymsL g ts
end

mutual
theorem translateSymbols_reach (g : Nat → Nat) (A : TA) :
    ∀ (t : Tree) (q : Nat), q ∈ reach A t → q ∈ reach (translateSymbols g A) (t.mapSyms g)
  | .node f ts, q => by
    rw [Tree.mapSyms, reach, reach, mem_post', mem_post']
    rintro ⟨r, hr, hs, hm, hp⟩
    exact ⟨mapSym g r, List.mem_map.mpr ⟨r, hr, rfl⟩, congrArg g hs,
      matchKids_mono (translateSymbols_reachL g A ts) hm, hp⟩
theorem translateSymbols_reachL (g : Nat → Nat) (A : TA) :
    ∀ ts : List Tree, All2 (fun s s' => ∀ q, q ∈ s → q ∈ s') (reachL A ts)
      (reachL (translateSymbols g A) (Tree.mapSymsL g ts))
  | [] => All2.nil
  | t :: ts => All2.cons (translateSymbols_reach g A t) (translateSymbols_reachL g A ts)
end

mutual
theorem translateSymbols_reach_inv (g : Nat → Nat) (hg : ∀ a b, g a = g b → a = b) (A : TA) :
    ∀ (t : Tree) (q : Nat), q ∈ reach (translateSymbols g A) (t.mapSyms g) → q ∈ reach A t
  | .node f ts, q => by
    rw [Tree.mapSyms, reach, reach, mem_post', mem_post']
    rintro ⟨r', hr', hs, hm, hp⟩
    obtain ⟨r, hr, he⟩ := List.mem_map.mp hr'
    rw [← he] at hs hm hp
    exact ⟨r, hr, hg _ _ hs, matchKids_mono (translateSymbols_reachL_inv g hg A ts) hm, hp⟩
theorem translateSymbols_reachL_inv (g : Nat → Nat) (hg : ∀ a b, g a = g b → a = b) (A : TA) :
    ∀ ts : List Tree, All2 (fun s s' => ∀ q, q ∈ s → q ∈ s')
      (reachL (translateSymbols g A) (Tree.mapSymsL g ts)) (reachL A ts)
  | [] => All2.nil
  | t :: ts => All2.cons (translateSymbols_reach_inv g hg A t) (translateSymbols_reachL_inv g hg A ts)
end

theorem translateSymbols_incl (g : Nat → Nat) (A : TA) (t : Tree) :
    accepts A t = true → accepts (translateSymbols g A) (t.mapSyms g) = true := by
  simp only [accepts_iff_reach]
  rintro ⟨q, hq, hf⟩
  exact ⟨q, translateSymbols_reach g A t q hq, hf⟩

theorem translateSymbols_lang (g : Nat → Nat) (hg : ∀ a b, g a = g b → a = b) (A : TA) (t : Tree) :
    accepts (translateSymbols g A) (t.mapSyms g) = accepts A t := by
  rw [Bool.eq_iff_iff]
  constructor
  · simp only [accepts_iff_reach]
    rintro ⟨q, hq, hf⟩
    exact ⟨q, translateSymbols_reach_inv g hg A t q hq, hf⟩
  · exact translateSymbols_incl g A t

theorem reindex_rules_length (h : Nat → Nat) (A : TA) : (reindex h A).rules.length = A.rules.length := by
  simp [reindex]

theorem ins_map (h : Nat → Nat) (x : Nat) (acc : List Nat) (hinj : ∀ a, a ∈ acc → h a = h x → a = x) :
    ins (h x) (acc.map h) = (ins x acc).map h := (map_insNew hinj).symm

theorem unionL_map (h : Nat → Nat) : ∀ (l acc : List Nat),
    (∀ a b, a ∈ acc ++ l → b ∈ acc ++ l → h a = h b → a = b) →
    unionL (acc.map h) (l.map h) = (unionL acc l).map h
  | [], acc, _ => by simp [unionL]
  | x :: l, acc, hinj => by
    rw [List.map_cons, unionL_cons, unionL_cons, ins_map h x acc, unionL_map h l (ins x acc)]
    · have hsub : ∀ a, a ∈ ins x acc ++ l → a ∈ acc ++ x :: l := by
        intro a ha
        simp only [List.mem_append, mem_ins, List.mem_cons] at ha ⊢
        rcases ha with (h | h) | h
        · exact Or.inl h
        · exact Or.inr (Or.inl h)
        · exact Or.inr (Or.inr h)
      exact fun a b ha hb => hinj a b (hsub a ha) (hsub b hb)
    · intro a ha
      exact hinj a x (by simp [ha]) (by simp)

theorem dedupL_map (h : Nat → Nat) (l : List Nat) (hinj : ∀ a b, a ∈ l → b ∈ l → h a = h b → a = b) :
    dedupL (l.map h) = (dedupL l).map h := by
  have := unionL_map h l [] (by simpa using hinj)
  simpa [dedupL] using this

theorem flatMap_states_reindex (h : Nat → Nat) (rs : List Rule) :
    (rs.map (mapRule h)).flatMap Rule.states = (rs.flatMap Rule.states).map h := by
  induction rs with
  | nil => rfl
  | cons r rs ih =>
    simp only [List.map_cons, List.flatMap_cons, List.map_append, ih]
    rfl

theorem reindex_states_eq (h : Nat → Nat) (A : TA) (hinj : InjOnStates h A) :
    (reindex h A).states = A.states.map h := by
  unfold TA.states
  show dedupL ((A.rules.map (mapRule h)).flatMap Rule.states ++ A.final.map h) = _
  rw [flatMap_states_reindex, ← List.map_append, dedupL_map]
  intro a b ha hb
  exact hinj a b (mem_dedupL.mpr ha) (mem_dedupL.mpr hb)

theorem reindex_states_length (h : Nat → Nat) (A : TA) (hinj : InjOnStates h A) :
    (reindex h A).states.length = A.states.length := by
  rw [reindex_states_eq h A hinj, List.length_map]

theorem mapRule_congr {h g : Nat → Nat} {r : Rule} (hp : h r.parent = g r.parent) (hk : ∀ k, k ∈ r.kids → h k = g k) :
    mapRule h r = mapRule g r := by
  unfold mapRule
  rw [hp, List.map_congr_left hk]

theorem reindex_congr (A : TA) (h h' : Nat → Nat) (he : ∀ q, q ∈ A.states → h q = h' q) :
    reindex h A = reindex h' A := by
  have h1 : A.rules.map (mapRule h) = A.rules.map (mapRule h') :=
    List.map_congr_left fun ρ hρ =>
      mapRule_congr (he _ (parent_mem_states hρ)) (fun k hk => he k (kid_mem_states hρ hk))
  have h2 : A.final.map h = A.final.map h' := List.map_congr_left (fun q hq => he q (final_mem_states hq))
  simp only [reindex, h1, h2]

namespace Eqv

/-! ### maps with the same fibres on the states

If `h` and `h'` identify the same states of `A`, then `transfer A h h'` sends `h q` to `h' q`; it is a renaming of
`reindex h A`, injective on its states, that gives `reindex h' A`.  Two cases are used: two quotient projections of the
same equivalence, and an injective `f` with the identity, where `transfer A f id` is a left inverse of `f`. -/

def SameFibres (A : TA) (h h' : Nat → Nat) : Prop :=
  ∀ p q, p ∈ A.states → q ∈ A.states → (h p = h q ↔ h' p = h' q)

def transfer (A : TA) (h h' : Nat → Nat) (x : Nat) : Nat :=
  match A.states.find? (fun q => h q == x) with
  | some q => h' q
  | none => x

theorem transfer_apply {A : TA} {h h' : Nat → Nat} (hc : SameFibres A h h') {q : Nat} (hq : q ∈ A.states) :
    transfer A h h' (h q) = h' q := by
  unfold transfer
  cases hfind : A.states.find? (fun q' => h q' == h q) with
  | none => exact absurd (beq_self_eq_true (h q)) (List.find?_eq_none.mp hfind q hq)
  | some q0 =>
    exact (hc q0 q (List.mem_of_find?_eq_some hfind) hq).mp
      (beq_iff_eq.mp (List.find?_some (p := fun q' => h q' == h q) hfind))

theorem transfer_inj {A : TA} {h h' : Nat → Nat} (hc : SameFibres A h h') :
    InjOnStates (transfer A h h') (reindex h A) := by
  intro x y hx hy he
  obtain ⟨q, hq, hxq⟩ := mem_states_reindex.mp hx
  obtain ⟨p, hp, hyp⟩ := mem_states_reindex.mp hy
  rw [hxq, hyp, transfer_apply hc hq, transfer_apply hc hp] at he
  rw [hxq, hyp]
  exact (hc q p hq hp).mpr he

theorem reindex_comp (h f : Nat → Nat) (A : TA) : reindex h (reindex f A) = reindex (fun q => h (f q)) A := by
  simp only [reindex, List.map_map, TA.mk.injEq]
  refine ⟨?_, rfl⟩
  apply List.map_congr_left
  intro r _
  simp only [Function.comp, mapRule, List.map_map]
  rfl

theorem transfer_reindex {A : TA} {h h' : Nat → Nat} (hc : SameFibres A h h') :
    reindex h' A = reindex (transfer A h h') (reindex h A) := by
  rw [reindex_comp]
  exact reindex_congr A _ _ (fun q hq => (transfer_apply hc hq).symm)

theorem sameFibres_id {f : Nat → Nat} {A : TA} (hinj : InjOnStates f A) : SameFibres A f id :=
  fun p q hp hq => ⟨hinj p q hp hq, congrArg f⟩

theorem reindex_id (A : TA) : reindex id A = A := by
  have : mapRule id = id := funext fun r => by rw [mapRule, List.map_id]; rfl
  rw [reindex, this, List.map_id, List.map_id]

theorem reindex_leftInv {f : Nat → Nat} {A : TA} (hinj : InjOnStates f A) :
    reindex (transfer A f id) (reindex f A) = A := by
  rw [← transfer_reindex (sameFibres_id hinj), reindex_id]

theorem mapRule_leftInv {h : Nat → Nat} {A : TA} (hinj : InjOnStates h A) {r : Rule} (hr : r ∈ A.rules) :
    mapRule (transfer A h id) (mapRule h r) = r := by
  have hc := sameFibres_id hinj
  have hk : (r.kids.map h).map (transfer A h id) = r.kids := by
    rw [List.map_map]
    exact (List.map_congr_left fun k hk => transfer_apply hc (kid_mem_states hr hk)).trans (List.map_id _)
  show Rule.mk r.sym ((r.kids.map h).map (transfer A h id)) (transfer A h id (h r.parent)) = r
  rw [hk, transfer_apply hc (parent_mem_states hr)]
  rfl

end Eqv

theorem reindex_Incl (h : Nat → Nat) (A : TA) : Incl A (reindex h A) := fun t => reindex_incl h A t

theorem reindex_inj_LangEq (h : Nat → Nat) (A : TA) (hinj : InjOnStates h A) : LangEq (reindex h A) A :=
  fun t => reindex_inj_lang h A hinj t

namespace RenameEx

/-- `a() → 1`, `f(1,1) → 1`, `g(1) → 2`, final `2` -/
def exA : TA := ⟨[⟨0, [], 1⟩, ⟨1, [1, 1], 1⟩, ⟨2, [1], 2⟩], [2]⟩
/-- `a() → 1`, `g(1) → 1`, final `1` -/
def exB : TA := ⟨[⟨0, [], 1⟩, ⟨2, [1], 1⟩], [1]⟩
/-- `g(f(a,a))` -/
def exT : Tree := .node 2 [.node 1 [.node 0 [], .node 0 []]]
/-- `g(g(a))` -/
def exT' : Tree := .node 2 [.node 2 [.node 0 []]]

example : exA.states = [1, 2] := by decide
example : exB.states = [1] := by decide

example : (⟨2, [11], 12⟩ : Rule) ∈ (reindex (· + 10) exA).rules :=
  (reindex_rules _ _ _).mpr ⟨⟨2, [1], 2⟩, by decide, rfl⟩
example : 12 ∈ (reindex (· + 10) exA).final := (reindex_final _ _ _).mpr ⟨2, by decide, rfl⟩

example : accepts exA exT = true := by decide
example : accepts (reindex (fun _ => 0) exA) exT = true := reindex_incl _ _ _ (by decide)

example : InjOnStates (· + 10) exA := by intro q q' _ _ h; simp only at h; omega
example : InjOnStates (fun q => 5 - q) exA := by
  intro q q' hq hq' h
  have h1 : q ∈ [1, 2] := hq
  have h2 : q' ∈ [1, 2] := hq'
  simp only [List.mem_cons, List.not_mem_nil, or_false] at h1 h2
  simp only at h
  omega
example : 2 ∈ exA.states ∧ 2 ∈ reach exA exT := by decide
example : 12 ∈ reach (reindex (· + 10) exA) exT :=
  (reindex_inj_reach (· + 10) exA (by intro q q' _ _ h; simp only at h; omega) exT 2 (by decide)).mpr (by decide)
example : (reindex (· + 10) exA).states = [11, 12] := by decide

example : ∀ q, q ∈ (reindex (· + 10) exA).states → q ∉ exB.states := by decide
example : accepts (unionDisjoint (reindex (· + 10) exA) exB) exT' = true := by
  rw [unionDisjoint_lang _ _ (by decide)]; decide

example : InjOnStates (2 * ·) exA ∧ InjOnStates (2 * · + 1) exB ∧
    ∀ q q', q ∈ exA.states → q' ∈ exB.states → (2 * ·) q ≠ (2 * · + 1) q' := by
  refine ⟨?_, ?_, ?_⟩
  · intro q q' _ _ h; simp only at h; omega
  · intro q q' _ _ h; simp only at h; omega
  · intro q q' _ _ h; simp only at h; omega
example : accepts (unionWith (2 * ·) (2 * · + 1) exA exB) exT' = (accepts exA exT' || accepts exB exT') :=
  unionWith_lang _ _ _ _ (by intro q q' _ _ h; simp only at h; omega) (by intro q q' _ _ h; simp only at h; omega)
    (by intro q q' _ _ h; omega) _
example : accepts exA exT' = false ∧ accepts exB exT' = true := by decide
/-- the disjointness hypothesis matters: the plain union of overlapping automata accepts more -/
example : accepts (unionDisjoint exA exB) (.node 2 [.node 2 [.node 1 [.node 0 [], .node 0 []]]]) = true ∧
    accepts exA (.node 2 [.node 2 [.node 1 [.node 0 [], .node 0 []]]]) = false ∧
    accepts exB (.node 2 [.node 2 [.node 1 [.node 0 [], .node 0 []]]]) = false := by decide

example : ∀ a b : Nat, (· + 7) a = (· + 7) b → a = b := by intro a b h; simp only at h; omega
example : exT.mapSyms (· + 7) = .node 9 [.node 8 [.node 7 [], .node 7 []]] := by
  simp [exT, Tree.mapSyms, Tree.mapSymsL]
example : accepts (translateSymbols (· + 7) exA) (exT.mapSyms (· + 7)) = true :=
  translateSymbols_incl _ _ _ (by decide)
example : accepts (translateSymbols (· + 7) exA) (exT'.mapSyms (· + 7)) = accepts exA exT' :=
  translateSymbols_lang _ (by intro a b h; omega) _ _
/-- injectivity matters for the converse: with `a() → 1`, `g(1) → 2`, `h(1) → 3`, final `2`, collapsing `h` to `g` makes
the translated automaton accept the translation of the non-member `h(a)` -/
example :
    let C : TA := ⟨[⟨0, [], 1⟩, ⟨2, [1], 2⟩, ⟨3, [1], 3⟩], [2]⟩
    let c : Nat → Nat := fun s => if s = 3 then 2 else s
    let t : Tree := .node 3 [.node 0 []]
    accepts C t = false ∧ accepts (translateSymbols c C) (.node 2 [.node 0 []]) = true ∧
      t.mapSyms c = .node 2 [.node 0 []] := by
  refine ⟨by decide, by decide, ?_⟩
  simp [Tree.mapSyms, Tree.mapSymsL]

end RenameEx

end Vata
