import Vata.UnionIsectMaps
import Vata.Proofs.IsectModel
/-!
# Property C02 – `Intersection` started with a pre-filled `ProductTranslMap` (`isectTDFrom`, `Vata/UnionIsectMaps.lean`)

The first loop puts every pair of final states in the map and ON THE STACK.  In the work-list loop (invariant `Ixf.FInv`
of `Vata/Proofs/IsectModel.lean`, relative to the entry map `m0`) the popped pairs are exactly the pairs of final states and
the pairs that were not in `m0`.  So for every entry map with `MapOk m0` (numbers below the size, injective) the result is the product restricted to
the EXPLORED pairs `exploredPairs A B m0 m`: it accepts only trees of the intersection (`isectTDFrom_sound`: its rules are
product rules over the injective map, `accepts_prod_sound` needs no closure; the language can only be too SMALL), and exactly the
intersection when moreover every pre-filled pair is a pair of final states or has no matching rules (`prefillOkB`,
`isectTDFrom_lang`: then the domain is closed downwards, `accepts_prod_complete`).
The fuel bound is in `Vata/Proofs/UnionIsectMapsTotal.lean`.
-/
namespace Vata
namespace Ixf
open Isx

theorem initPairs_stack : ∀ (ps : List (Nat × Nat)) (m : PMap) (st : List (Nat × Nat)),
    (initPairs ps m st).2.1 = ps.reverse ++ st
  | [], _, _ => rfl
  | q :: ps, m, st => by
    cases hl : m.lookup q with
    | some n => simp only [initPairs, hl, initPairs_stack ps m (q :: st), List.reverse_cons, List.append_assoc]; rfl
    | none => simp only [initPairs, hl, initPairs_stack ps _ (q :: st), List.reverse_cons, List.append_assoc]; rfl

theorem initPairs_map : ∀ (ps : List (Nat × Nat)) (m : PMap) (st st' : List (Nat × Nat)),
    (initPairs ps m st).1 = (addPairs ps m st').1 ∧ (initPairs ps m st).2.2 = (addPairs ps m st').2.2
  | [], _, _, _ => ⟨rfl, rfl⟩
  | q :: ps, m, st, st' => by
    cases hl : m.lookup q with
    | some n =>
      obtain ⟨h1, h2⟩ := initPairs_map ps m (q :: st) st'
      simp only [initPairs, addPairs, hl, h1, h2, and_self]
    | none =>
      obtain ⟨h1, h2⟩ := initPairs_map ps (m ++ [(q, m.length)]) (q :: st) (q :: st')
      simp only [initPairs, addPairs, hl, h1, h2, and_self]

theorem initPairs_spec (ps : List (Nat × Nat)) (m : PMap) (st : List (Nat × Nat)) (h : MapOk m) :
    MapOk (initPairs ps m st).1 ∧ Ext m (initPairs ps m st).1 ∧
    (∀ p, p ∈ (initPairs ps m st).1.dom → p ∈ m.dom ∨ p ∈ ps) ∧
    (∀ p, p ∈ (initPairs ps m st).2.1 ↔ p ∈ st ∨ p ∈ ps) ∧
    (∀ p, p ∈ ps → p ∈ (initPairs ps m st).1.dom) ∧
    (initPairs ps m st).2.2 = ps.map (lookupF (initPairs ps m st).1) := by
  obtain ⟨e1, e2⟩ := initPairs_map ps m st []
  obtain ⟨a1, a2, a3⟩ := addPairs_spec ps m [] h
  rw [e1, e2, initPairs_stack]
  refine ⟨a1.ok, a1.ext, fun p => (a2 p).mp, ?_, fun p hp => (a2 p).mpr (Or.inr hp), a3⟩
  · intro p
    rw [List.mem_append, List.mem_reverse]
    exact Or.comm

theorem init_inv (A B : TA) (m0 : PMap) (hok : MapOk m0) :
    FInv A B (finalPairs A B) m0 (initPairs (finalPairs A B) m0 []).1 (initPairs (finalPairs A B) m0 []).2.1 [] [] := by
  obtain ⟨i1, i2, i3, i4, i5, _⟩ := initPairs_spec (finalPairs A B) m0 [] hok
  refine .start i1 (fun p hp => i2.dom hp) (fun p => ?_) i5
  rw [i4, or_iff_right (fun h => nomatch h)]
  exact ⟨fun hp => ⟨i5 p hp, Or.inl hp⟩, fun ⟨hp, h1⟩ => h1.elim id (fun h0 => (i3 p hp).resolve_left h0)⟩

theorem mem_exploredPairs {A B : TA} {m0 m : PMap} {pr : Nat × Nat} :
    pr ∈ exploredPairs A B m0 m ↔ pr ∈ m.dom ∧ (pr ∈ finalPairs A B ∨ pr ∉ m0.dom) := by
  simp only [exploredPairs, List.mem_filter, Bool.or_eq_true, List.contains_iff_mem, Bool.not_eq_true', ← Bool.not_eq_true]

end Ixf

/-- `isectTDFrom` makes no check of its own: it is its loop -/
theorem isectTDFrom_eq_loop (A B : TA) (m0 : PMap) (fuel : Nat) :
    isectTDFrom A B m0 fuel =
      (isectLoop A B fuel (initPairs (finalPairs A B) m0 []).1 (initPairs (finalPairs A B) m0 []).2.1 []).map
        (fun r => (⟨r.2, (initPairs (finalPairs A B) m0 []).2.2⟩, r.1)) := by
  unfold isectTDFrom
  dsimp only
  split
  next h => rw [h]; rfl
  next h => rw [h]; rfl

open Isx in
/-- what `Intersection` returns when the map it is given satisfies `MapOk` (numbers below the size, injective): the map
on exit extends the map on entry and is again `MapOk`; it contains all pairs of final states; the result is (as a set
of rules) the product restricted to the EXPLORED pairs – pairs of final states and pairs that were not pre-filled –
numbered by the map; all children of these rules are in the map -/
theorem isectTDFrom_spec {A B : TA} {m0 : PMap} {fuel : Nat} {P : TA} {m : PMap} (hok : Isx.MapOk m0)
    (h : isectTDFrom A B m0 fuel = some (P, m)) :
    Isx.MapOk m ∧ Isx.Ext m0 m ∧ (∀ p, p ∈ A.final → ∀ p', p' ∈ B.final → (p, p') ∈ m.dom) ∧
    (∀ ρ, ρ ∈ P.rules ↔ ρ ∈ (prodOn A B (exploredPairs A B m0 m) (lookupF m)).rules) ∧
    (∀ x, x ∈ P.final ↔ x ∈ (prodOn A B (exploredPairs A B m0 m) (lookupF m)).final) ∧
    (∀ r, r ∈ A.rules → ∀ r', r' ∈ B.rules → r'.sym = r.sym → r'.kids.length = r.kids.length →
      (r.parent, r'.parent) ∈ exploredPairs A B m0 m → ∀ pr, pr ∈ r.kids.zip r'.kids → pr ∈ m.dom) := by
  obtain ⟨_, i2, _, _, i5, i6⟩ := Ixf.initPairs_spec (finalPairs A B) m0 [] hok
  rw [isectTDFrom_eq_loop, Option.map_eq_some_iff] at h
  obtain ⟨⟨m1, rs⟩, hl, he⟩ := h
  cases he
  obtain ⟨hext, done, hinv⟩ := Ixf.loop_spec fuel (Ixf.init_inv A B m0 hok) hl
  obtain ⟨r1, r2, r3⟩ := hinv.result
  have hdone : ∀ pr, pr ∈ done ↔ pr ∈ exploredPairs A B m0 m1 := fun pr => (r1 pr).trans Ixf.mem_exploredPairs.symm
  refine ⟨hinv.ok, i2.trans hext, fun p hp p' hp' => hext.dom (i5 _ (mem_finalPairs.mpr ⟨hp, hp'⟩)), fun ρ => ?_, fun x => ?_,
    fun r h1 r' h2 h3 h4 h5 => r3 r r' ⟨h1, h2, h3, h4⟩ ((hdone _).mpr h5)⟩
  · rw [r2]
    show _ ↔ ρ ∈ prodRules A B _ _
    rw [mem_prodRules]
    exact ⟨fun ⟨r, r', ⟨h1, h2, h3, h4⟩, h5, h7⟩ => ⟨r, h1, r', h2, h3, h4, (hdone _).mp h5, h7⟩,
      fun ⟨r, h1, r', h2, h3, h4, h5, h7⟩ => ⟨r, r', ⟨h1, h2, h3, h4⟩, (hdone _).mpr h5, h7⟩⟩
  · show x ∈ _ ↔ x ∈ prodFinal A B _
    rw [mem_prodFinal, i6, (hext.map_lookupF i5).symm]

theorem pmapOkB_sound {m : PMap} (h : pmapOkB m = true) : Isx.MapOk m := by
  simp only [pmapOkB, Bool.and_eq_true, List.all_eq_true, decide_eq_true_eq] at h
  obtain ⟨h1, h2⟩ := h
  refine ⟨fun p n hp => h1 _ (mem_of_lookup hp), ?_⟩
  intro p p' n hp hp'
  simp only [pmapInjB, List.all_eq_true, Bool.or_eq_true, bne_iff_ne, beq_iff_eq] at h2
  rcases h2 _ (mem_of_lookup hp) _ (mem_of_lookup hp') with h3 | h3
  · exact absurd rfl h3
  · exact h3

theorem prefillOkB_sound {A B : TA} {m0 : PMap} (h : prefillOkB A B m0 = true) :
    ∀ pr, pr ∈ m0.dom → pr ∈ finalPairs A B ∨ isectMatching A B pr = [] := by
  intro pr hpr
  simp only [prefillOkB, List.all_eq_true, Bool.or_eq_true, List.contains_iff_mem, List.isEmpty_iff] at h
  obtain ⟨e, he, rfl⟩ := List.mem_map.mp hpr
  exact h e he

namespace Ixf
open Isx

/-- rules that are product rules over the map, under an injective map: only trees of the intersection are accepted
(no closure of the domain is needed) -/
theorem sound_of_good {A B : TA} {m : PMap} (hok : MapOk m) {P : TA} (hr : ∀ ρ, ρ ∈ P.rules → GoodRule A B m ρ)
    (hf : ∀ x, x ∈ P.final → ∃ pr, m.lookup pr = some x ∧ pr.1 ∈ A.final ∧ pr.2 ∈ B.final) (t : Tree)
    (ht : accepts P t = true) : accepts A t = true ∧ accepts B t = true := by
  refine accepts_prod_sound (D := m.dom) (m := lookupF m) hr hok.injOn (fun x hx => ?_) t ht
  obtain ⟨pr, hp, hfa, hfb⟩ := hf x hx
  exact ⟨pr, mem_dom_iff.mpr ⟨x, hp⟩, lookupF_of hp, hfa, hfb⟩

end Ixf

open Isx in
theorem isectTDFrom_sound {A B : TA} {m0 : PMap} {fuel : Nat} {P : TA} {m : PMap} (hok : Isx.MapOk m0)
    (h : isectTDFrom A B m0 fuel = some (P, m)) (t : Tree) (ht : accepts P t = true) :
    accepts A t = true ∧ accepts B t = true := by
  obtain ⟨hmok, _, hF, hr, hf, hk⟩ := isectTDFrom_spec hok h
  refine Ixf.sound_of_good hmok ?_ ?_ t ht
  · intro ρ hρ
    obtain ⟨r, h1, r', h2, h3, h4, h5, h7⟩ := mem_prodRules.mp ((hr ρ).mp hρ)
    exact ⟨r, r', ⟨h1, h2, h3, h4⟩, (Ixf.mem_exploredPairs.mp h5).1, hk r h1 r' h2 h3 h4 h5, h7⟩
  · intro x hx
    obtain ⟨pr, hpr, rfl⟩ := List.mem_map.mp (mem_prodFinal.mp ((hf x).mp hx))
    obtain ⟨g1, g2⟩ := mem_finalPairs.mp hpr
    obtain ⟨n, hn⟩ := mem_dom_iff.mp (hF _ g1 _ g2)
    exact ⟨pr, by rw [lookupF_of hn]; exact hn, g1, g2⟩

/-- **`Intersection` with a pre-filled map is exact** when the map satisfies `MapOk` and every pre-filled pair is a pair
of final states or has no pair of matching rules.  Neither hypothesis can be dropped
(`Props.C02_isect_prefilled_unexplored_counterexample`, `Props.C02_isect_prefilled_collision_counterexample`). -/
theorem isectTDFrom_lang {A B : TA} {m0 : PMap} {fuel : Nat} {P : TA} {m : PMap} (hok : Isx.MapOk m0)
    (hpre : ∀ pr, pr ∈ m0.dom → pr ∈ finalPairs A B ∨ isectMatching A B pr = [])
    (h : isectTDFrom A B m0 fuel = some (P, m)) (t : Tree) : accepts P t = (accepts A t && accepts B t) := by
  obtain ⟨_, _, hF, hr, hf, hk⟩ := isectTDFrom_spec hok h
  -- pairs of the domain that are not explored have no matching rules
  have hno : ∀ r r', Isx.Matching A B r r' → (r.parent, r'.parent) ∈ m.dom →
      (r.parent, r'.parent) ∈ exploredPairs A B m0 m := by
    intro r r' hm h5
    refine Ixf.mem_exploredPairs.mpr ⟨h5, ?_⟩
    by_cases h0 : (r.parent, r'.parent) ∈ m0.dom
    · refine (hpre _ h0).imp_right (fun h6 => ?_)
      have : (r, r') ∈ isectMatching A B (r.parent, r'.parent) := Isx.mem_isectMatching.mpr ⟨hm, rfl⟩
      rw [h6] at this; cases this
    · exact Or.inr h0
  rw [Bool.eq_iff_iff, Bool.and_eq_true]
  refine ⟨isectTDFrom_sound hok h t, fun ⟨ha, hb⟩ =>
    accepts_prod_complete (D := m.dom) (m := lookupF m) (W := (· ∈ m.dom)) ⟨?_, ?_⟩ ?_ t ha hb⟩
  · exact fun r r' hm hp => hk r hm.1 r' hm.2.1 hm.2.2.1 hm.2.2.2 (hno r r' hm hp)
  · exact fun r r' hm hp _ =>
      ⟨hp, (hr _).mpr (mem_prodRules.mpr ⟨r, hm.1, r', hm.2.1, hm.2.2.1, hm.2.2.2, hno r r' hm hp, rfl⟩)⟩
  · exact fun p p' hp hp' => ⟨hF p hp p' hp', fun _ => (hf _).mpr
      (Isx.mem_prodFinal.mpr (List.mem_map.mpr ⟨(p, p'), Isx.mem_finalPairs.mpr ⟨hp, hp'⟩, rfl⟩))⟩

/-- the call with an empty map (what `Intersection(lhs, rhs)` does with its local map) -/
theorem isectTDFrom_lang_empty {A B : TA} {fuel : Nat} {P : TA} {m : PMap} (h : isectTDFrom A B [] fuel = some (P, m))
    (t : Tree) : accepts P t = (accepts A t && accepts B t) :=
  isectTDFrom_lang Isx.mapOk_nil (fun pr hpr => by simp [PMap.dom] at hpr) h t

theorem isectTDFrom_map_inj {A B : TA} {m0 : PMap} {fuel : Nat} {P : TA} {m : PMap} (hok : Isx.MapOk m0)
    (h : isectTDFrom A B m0 fuel = some (P, m)) : InjOn (lookupF m) m.dom := (isectTDFrom_spec hok h).1.injOn

end Vata
