import Vata.Proofs.BddUnionCoded
/-!
C08: the top-down BDD `Union` / `UnionDisjointStates` as coded.  After one `ReindexStates` pass with a map that is
injective on the KEYS of the source table the destination holds the translated rules of the source, and its own rules at
the keys that were not overwritten; after the two passes of `Union` it holds exactly `unionWith f g` of the abstractions,
`f`, `g` being the FINAL maps of the two weak translators.
-/
namespace Vata
namespace BddUnionCoded
open M BddAbs BddAbsTD Um

theorem eval_mem_voidApply1 {α : Type} (ρ : Nat → Bool) : ∀ m : Node α, eval m ρ ∈ voidApply1 m
  | .leaf v => by simp [eval, voidApply1]
  | .node x lo hi => by
    simp only [eval, voidApply1, List.mem_append]
    split
    · exact Or.inr (eval_mem_voidApply1 ρ hi)
    · exact Or.inl (eval_mem_voidApply1 ρ lo)

theorem getTD_pureLoopTD_of_not_mem (M : SMap) (T R0 : TableTD) {p' : Nat} (h : p' ∉ (keysTD T).map (applyMap M)) :
    getTD (pureLoopTD M T T R0) p' = getTD R0 p' :=
  get_foldl_set_of_not_mem getTD setTD getTD_setTD (fun e : Nat × MTD => applyMap M e.1)
    (fun e => apply1 (rwTD M) (getTD T e.1)) T R0 (by rwa [keysTD, List.map_map] at h)

theorem getTD_pureLoopTD_of_mem (M : SMap) (T R0 : TableTD)
    (hinj : ∀ q q', q ∈ keysTD T → q' ∈ keysTD T → applyMap M q = applyMap M q' → q = q') {p : Nat} (hp : p ∈ keysTD T) :
    getTD (pureLoopTD M T T R0) (applyMap M p) = apply1 (rwTD M) (getTD T p) := by
  obtain ⟨e₀, he₀, rfl⟩ := List.mem_map.mp hp
  exact get_foldl_set_of_mem getTD setTD getTD_setTD (fun e : Nat × MTD => applyMap M e.1)
    (fun e => apply1 (rwTD M) (getTD T e.1)) T R0
    (fun e he h => by rw [hinj e.1 e₀.1 (List.mem_map_of_mem he) hp h]) (List.mem_map_of_mem he₀)

theorem mem_rwTD (M : SMap) (l : List (List Nat)) (ks' : List Nat) :
    ks' ∈ rwTD M l ↔ ∃ ks, ks ∈ l ∧ ks' = ks.map (applyMap M) := by
  simp only [rwTD, mem_normT, List.mem_map, eq_comm]

theorem pass_specTD (M : SMap) (T R0 : TableTD)
    (hinj : ∀ q q', q ∈ keysTD T → q' ∈ keysTD T → applyMap M q = applyMap M q' → q = q')
    (ρ : Nat → Bool) (p' : Nat) (ks' : List Nat) :
    HasRuleTD (pureLoopTD M T T R0) ρ p' ks' ↔
      Img (applyMap M) (List.map (applyMap M)) (getTD T) ρ p' ks' ∨
        (p' ∉ (keysTD T).map (applyMap M) ∧ HasRuleTD R0 ρ p' ks') :=
  pass_spec (fun _ => getTD_pureLoopTD_of_mem M T R0 hinj) (fun _ => getTD_pureLoopTD_of_not_mem M T R0) (mem_rwTD M)
    (fun _ _ _ => hasRuleTD_key) hinj ρ p' ks'

/-- the table after the two passes of `Union` holds exactly the translated rules of both operands, when the maps are
injective on the keys and send the keys of the two tables to different numbers -/
theorem tdUnion_rules (ML MR : SMap) (T₁ T₂ : TableTD)
    (h1 : ∀ q q', q ∈ keysTD T₁ → q' ∈ keysTD T₁ → applyMap ML q = applyMap ML q' → q = q')
    (h2 : ∀ q q', q ∈ keysTD T₂ → q' ∈ keysTD T₂ → applyMap MR q = applyMap MR q' → q = q')
    (hd : ∀ q q', q ∈ keysTD T₁ → q' ∈ keysTD T₂ → applyMap ML q ≠ applyMap MR q')
    (ρ : Nat → Bool) (p' : Nat) (ks' : List Nat) :
    HasRuleTD (pureLoopTD MR T₂ T₂ (pureLoopTD ML T₁ T₁ [])) ρ p' ks' ↔
      Img (applyMap ML) (List.map (applyMap ML)) (getTD T₁) ρ p' ks' ∨
        Img (applyMap MR) (List.map (applyMap MR)) (getTD T₂) ρ p' ks' := by
  refine two_passes (pass_specTD MR T₂ _ h2 ρ p' ks') (pass_specTD ML T₁ _ h1 ρ p' ks') (hasRuleTD_nil _ _ _) ?_
  rintro ⟨p, ks, hr, e, _⟩ hm
  obtain ⟨q, hq, hqe⟩ := List.mem_map.mp hm
  exact hd p q (hasRuleTD_key hr) hq (by rw [← e, hqe])

theorem mem_absRulesTD_img (syms : List Nat) (f : Nat → Nat) (T : TableTD) (r : Rule) :
    r ∈ (absRulesTD syms T).map (mapRule f) ↔
      r.sym ∈ syms ∧ ∃ n, n < 64 ∧ Img f (List.map f) (getTD T) (bitsAr r.sym n) r.parent r.kids := by
  rw [List.mem_map]
  constructor
  · rintro ⟨r₀, hr₀, rfl⟩
    obtain ⟨hs, n, hn, h⟩ := mem_absRulesTD.mp hr₀
    exact ⟨hs, n, hn, r₀.parent, r₀.kids, h, rfl, rfl⟩
  · rintro ⟨hs, n, hn, p, ks, h, e1, e2⟩
    refine ⟨⟨r.sym, ks, p⟩, mem_absRulesTD.mpr ⟨hs, n, hn, h⟩, ?_⟩
    obtain ⟨s, k, q⟩ := r
    simp only [mapRule] at *
    rw [e1, e2]

theorem mem_orderLoopTD_key {T : TableTD} {p : Nat} (h : p ∈ keysTD T) : p ∈ orderLoopTD T T := by
  obtain ⟨e, he, rfl⟩ := List.mem_map.mp h
  exact List.mem_flatMap.mpr ⟨e, he, List.mem_cons_self⟩

theorem mem_orderLoopTD_kid {T : TableTD} {ρ : Nat → Bool} {p q : Nat} {ks : List Nat} (h : HasRuleTD T ρ p ks)
    (hq : q ∈ ks) : q ∈ orderLoopTD T T := by
  obtain ⟨e, he, rfl⟩ := List.mem_map.mp (hasRuleTD_key h)
  refine List.mem_flatMap.mpr ⟨e, he, List.mem_cons_of_mem _ ?_⟩
  exact List.mem_flatMap.mpr ⟨_, eval_mem_voidApply1 ρ _, List.mem_flatMap.mpr ⟨ks, h, hq⟩⟩

theorem abs_states_sub_TD (syms : List Nat) (A : AutTD) {q : Nat} (h : q ∈ (A.abs syms).states) : q ∈ A.allStates := by
  rcases Vata.mem_states.mp h with hf | ⟨r, hr, hq⟩
  · exact List.mem_append_right _ hf
  · obtain ⟨_, n, _, hr⟩ := mem_absRulesTD.mp hr
    refine List.mem_append_left _ ?_
    rcases hq with hq | hq
    · exact hq ▸ mem_orderLoopTD_key (hasRuleTD_key hr)
    · exact mem_orderLoopTD_kid hr hq

theorem keys_sub_allStates_TD (A : AutTD) {q : Nat} (h : q ∈ keysTD A.T) : q ∈ A.allStates :=
  List.mem_append_left _ (mem_orderLoopTD_key h)

theorem tdUnionFrom_maps (c0 fresh : Nat) (lhs rhs : AutTD) (oL oR : Option SMap) (hne : lhs.tid ≠ rhs.tid) :
    (tdUnionFrom c0 fresh lhs rhs oL oR).2.1 = (wAll (orderTD lhs) (oL.getD [], c0)).1 ∧
    (tdUnionFrom c0 fresh lhs rhs oL oR).2.2 =
      (wAll (orderTD rhs) (oR.getD [], (wAll (orderTD lhs) (oL.getD [], c0)).2)).1 := by
  unfold tdUnionFrom
  rw [if_neg hne]
  dsimp only
  rw [(reindexTD_spec rhs _ _).state, (reindexTD_spec lhs _ _).state]
  exact ⟨rfl, rfl⟩

theorem tdUnionFrom_result (c0 fresh : Nat) (lhs rhs : AutTD) (oL oR : Option SMap) (hne : lhs.tid ≠ rhs.tid) :
    (tdUnionFrom c0 fresh lhs rhs oL oR).1 =
      ⟨fresh, pureLoopTD (tdUnionFrom c0 fresh lhs rhs oL oR).2.2 rhs.T rhs.T
          (pureLoopTD (tdUnionFrom c0 fresh lhs rhs oL oR).2.1 lhs.T lhs.T []),
        ([] ++ lhs.fin.map (applyMap (tdUnionFrom c0 fresh lhs rhs oL oR).2.1)) ++
          rhs.fin.map (applyMap (tdUnionFrom c0 fresh lhs rhs oL oR).2.2)⟩ := by
  obtain ⟨m1, m2⟩ := tdUnionFrom_maps c0 fresh lhs rhs oL oR hne
  rw [m1, m2]
  unfold tdUnionFrom
  rw [if_neg hne]
  have s1 := reindexTD_spec lhs ⟨fresh, [], []⟩ (oL.getD [], c0)
  show (reindexTD rhs _ _).1 = _
  rw [(reindexTD_spec rhs _ _).val _ (Ext.refl _), s1.val _ (Ext.refl _), s1.state]

/-- the top-down `Union` on distinct tables is a `UnionRun` -/
theorem tdUnionRun (c0 fresh : Nat) (lhs rhs : AutTD) (oL oR : Option SMap) (syms : List Nat) (hne : lhs.tid ≠ rhs.tid) :
    UnionRun (lhs.abs syms) (rhs.abs syms) ((tdUnionFrom c0 fresh lhs rhs oL oR).1.abs syms) (orderTD lhs) (orderTD rhs)
      (oL.getD []) (oR.getD []) (tdUnionFrom c0 fresh lhs rhs oL oR).2.1 (tdUnionFrom c0 fresh lhs rhs oL oR).2.2 c0 where
  mapL := (tdUnionFrom_maps c0 fresh lhs rhs oL oR hne).1
  mapR := (tdUnionFrom_maps c0 fresh lhs rhs oL oR hne).2
  statesL := abs_states_sub_TD syms lhs
  statesR := abs_states_sub_TD syms rhs
  setEq := fun iA iB dAB => by
    rw [tdUnionFrom_result c0 fresh lhs rhs oL oR hne]
    refine ⟨fun r => ?_, fun q => by simp [unionWith, reindex, absTD, AutTD.abs]⟩
    show r ∈ absRulesTD syms _ ↔ r ∈ (absRulesTD syms lhs.T).map (mapRule _) ++ (absRulesTD syms rhs.T).map (mapRule _)
    rw [List.mem_append, mem_absRulesTD_img, mem_absRulesTD_img, mem_absRulesTD]
    simp only [and_or_left, exists_or, tdUnion_rules _ _ lhs.T rhs.T
      (fun q q' hq hq' => iA q q' (keys_sub_allStates_TD lhs hq) (keys_sub_allStates_TD lhs hq'))
      (fun q q' hq hq' => iB q q' (keys_sub_allStates_TD rhs hq) (keys_sub_allStates_TD rhs hq'))
      (fun q q' hq hq' => dAB q q' (keys_sub_allStates_TD lhs hq) (keys_sub_allStates_TD rhs hq'))]

/-- two handles on ONE top-down table: a run of the union is a run of the operand whose final state it ends in -/
theorem td_shared_lang (rs : List Rule) (F₁ F₂ : List Nat) (t : Tree) :
    accepts ⟨rs, F₁ ++ F₂⟩ t = (accepts ⟨rs, F₁⟩ t || accepts ⟨rs, F₂⟩ t) := by
  rw [Bool.eq_iff_iff]
  simp only [Bool.or_eq_true, accepts, accepting, List.any_eq_true, List.contains_iff_mem, List.mem_append]
  constructor
  · rintro ⟨q, hq, hf | hf⟩
    · exact Or.inl ⟨q, reach_mono ⟨rs, F₁ ++ F₂⟩ ⟨rs, F₁⟩ (fun _ h => h) t q hq, hf⟩
    · exact Or.inr ⟨q, reach_mono ⟨rs, F₁ ++ F₂⟩ ⟨rs, F₂⟩ (fun _ h => h) t q hq, hf⟩
  · rintro (⟨q, hq, hf⟩ | ⟨q, hq, hf⟩)
    · exact ⟨q, reach_mono ⟨rs, F₁⟩ ⟨rs, F₁ ++ F₂⟩ (fun _ h => h) t q hq, Or.inl hf⟩
    · exact ⟨q, reach_mono ⟨rs, F₂⟩ ⟨rs, F₁ ++ F₂⟩ (fun _ h => h) t q hq, Or.inr hf⟩

theorem tdShared_lang (syms : List Nat) (lhs rhs : AutTD) (hs : lhs.T = rhs.T) (t : Tree) :
    accepts (absTD syms lhs.T (lhs.fin ++ rhs.fin)) t = (accepts (lhs.abs syms) t || accepts (rhs.abs syms) t) := by
  unfold AutTD.abs absTD
  rw [← hs]
  exact td_shared_lang _ _ _ t

theorem keys_disj_of_states_TD (lhs rhs : AutTD) (hdis : ∀ q, q ∈ lhs.allStates → q ∉ rhs.allStates) :
    ∀ p, p ∈ keysTD lhs.T → p ∉ keysTD rhs.T :=
  fun p h1 h2 => hdis p (keys_sub_allStates_TD lhs h1) (keys_sub_allStates_TD rhs h2)

end BddUnionCoded
end Vata
