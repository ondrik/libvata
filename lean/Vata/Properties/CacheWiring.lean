import Vata.Generated.Tables
import Vata.CacheModel
/-! # Proof obligations over the regenerated cache wiring (kept in a module of its own so that a failure is reported for these
theorems only) -/
namespace Vata.CacheWiring
open Vata.Gen

/-! ## Cache wiring (regenerated from `tree_incl_down.hh`, `explicit_tree_incl_down.cc`, `explicit_tree_incl_up.cc`)

The inclusion algorithms intern macro-states in a `Util::Cache` and memoise set comparisons in `Util::CachedBinaryOp` tables
keyed by the ADDRESSES of the interned sets.  When the last handle of a set dies its address may be handed to the next set:
every memo entry that mentions the address – in either key position that holds a macro-state address – has to die with
it, otherwise the new set inherits the dead one's answer.  The obligation below is re-checked against the deleter lambdas
as they are written in the sources now. -/

/-- the three deleter lambdas and the memo-table declarations were found in the shape the translator reads -/
theorem wiring_parsed : wiringErrors = [] := by decide

/-- the deleter invalidates every (memo table, key position) that holds a macro-state address -/
def wiringOk (w : String × List (String × List Nat) × List (String × Nat) × Nat) : Bool :=
  w.2.1.all (fun t => t.2.all (fun k => w.2.2.1.contains (t.1, k)))

/-- three sites intern macro-states; each has a set-comparison memo keyed by two macro-state addresses -/
theorem cache_wiring_sites :
    cacheWiring.map (·.1) = ["src/tree_incl_down.hh", "src/explicit_tree_incl_down.cc", "src/explicit_tree_incl_up.cc"] ∧
    cacheWiring.all (fun w => w.2.1.any (fun t => t.1 == "lteCache" && t.2 == [0, 1])) = true := by decide +kernel

theorem cache_wiring_complete : cacheWiring.all wiringOk = true := by decide +kernel

/-! ## Link to the cache model (`Vata/CacheModel.lean`, `Vata/Proofs/CacheModel.lean`)

`Vata.CM.Wiring` is the deleter of the model: `.lib` purges both key positions of the comparison memo (and the second
position of the evaluation memo), `.firstTwice` is the one-word slip, `.none` the default deleter.  The deleter lambdas
as they are written in the sources now denote `.lib` at every site – the hypothesis `c.wiring = .lib` of
`Util_Cache_memo_sound` (memo soundness under address reuse; `Util_Cache_wiring_counterexample` shows a stale answer for
the other two). -/

/-- the wiring a regenerated deleter denotes -/
def wiringOf (w : String × List (String × List Nat) × List (String × Nat) × Nat) : Vata.CM.Wiring :=
  let calls := w.2.2.1
  if w.2.1.all (fun t => t.2.all (fun k => calls.contains (t.1, k))) then .lib
  else if calls.isEmpty then .none
  else .firstTwice

theorem cache_wiring_is_lib : cacheWiring.map wiringOf = [.lib, .lib, .lib] := by decide +kernel

end Vata.CacheWiring
