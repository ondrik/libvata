import Vata.LtsUtil

/-!
# `SmartSet` as coded refines the multiset value

Model: section `namespace SS` of `Vata/LtsUtil.lean`.  Helpers live in `Vata.LU.SS.P`.

The invariant `P.Inv s es` is stated over a list `es : List E` of triples `(address, key, count)`: the elements behind
`head_` in iteration order.  The `next` field of a cell is not stored in the triple, it is determined by the list
(`P.hd`); `P.Chain` says that the heap holds exactly these linked cells, `P.predOf` is the predecessor address that
`index_[key]` has to hold, `P.lastA` the address `last_` has to hold.

The refinement relation `R s a` also says that the flag `a.dangling` is EXACT:
`dangling = false → last_` is the last element, `dangling = true → last_` points to a deleted cell (`Dead`).
Each operation is defined exactly inside the discipline `ok` and re-establishes `R` there with the value of `aStep`;
the discipline is tight: outside `ok` the model of the class as coded is `none`.  In particular, after
`erase` removed the last element every insertion of a new key dereferences a deleted cell.
-/
namespace Vata.LU.SS

variable {s t : T} {a : A} {k c n i : Nat} {dg : Bool} {w : World} {aw : AWorld}

namespace P

/-- `(address, key, count)` -/
abbrev E := Nat × Nat × Nat

def hd : List E → Option Nat → Option Nat
  | [], q => q
  | x :: _, _ => some x.1

def Chain (h : Heap (Option Cell)) : List E → Option Nat → Prop
  | [], _ => True
  | x :: r, q => h.get x.1 = some ⟨hd r q, x.2.1, x.2.2⟩ ∧ Chain h r q

def lastA : Nat → List E → Nat
  | p, [] => p
  | _, x :: r => lastA x.1 r

/-- address of the predecessor of the element of key `k` (`p` = address before the first element) -/
def predOf : Nat → List E → Nat → Option Nat
  | _, [], _ => none
  | p, x :: r, k => if x.2.1 = k then some p else predOf x.1 r k

abbrev Asc (l : List E) : Prop := l.Pairwise (fun x y => x.1 < y.1)

abbrev KeysNodup (l : List E) : Prop := l.Pairwise (fun x y => x.2.1 ≠ y.2.1)


variable {h : Heap (Option Cell)} {es pre post : List E} {e : Nat}

theorem forall_mem_split {P : E → Prop} {y : E} :
    (∀ x ∈ pre ++ y :: post, P x) ↔ (∀ x ∈ pre, P x) ∧ P y ∧ ∀ x ∈ post, P x := by
  rw [List.forall_mem_append, List.forall_mem_cons]

theorem pairwise_split {R : E → E → Prop} {y : E} :
    (pre ++ y :: post).Pairwise R ↔ pre.Pairwise R ∧ post.Pairwise R ∧ (∀ x ∈ pre, R x y) ∧ (∀ z ∈ post, R y z) ∧
      ∀ x ∈ pre, ∀ z ∈ post, R x z := by
  rw [List.pairwise_append, List.pairwise_cons]
  constructor
  · rintro ⟨h1, ⟨h2, h3⟩, h4⟩
    exact ⟨h1, h3, fun x hx => h4 x hx y List.mem_cons_self, h2, fun x hx z hz => h4 x hx z (List.mem_cons_of_mem _ hz)⟩
  · rintro ⟨h1, h3, h4, h2, h5⟩
    refine ⟨h1, ⟨h2, h3⟩, fun x hx z hz => ?_⟩
    rcases List.mem_cons.1 hz with rfl | hz
    · exact h4 x hx
    · exact h5 x hx z hz

theorem forall_mem_resplit {P : E → Prop} {y y' : E} (h : ∀ x ∈ pre ++ y :: post, P x)
    (hy : P y → P y') : ∀ x ∈ pre ++ y' :: post, P x :=
  have ⟨h1, h2, h3⟩ := forall_mem_split.1 h
  forall_mem_split.2 ⟨h1, hy h2, h3⟩

theorem pairwise_resplit {R : E → E → Prop} {y y' : E} (h : (pre ++ y :: post).Pairwise R)
    (hl : ∀ x, R x y → R x y') (hr : ∀ z, R y z → R y' z) : (pre ++ y' :: post).Pairwise R :=
  have ⟨h1, h2, h3, h4, h5⟩ := pairwise_split.1 h
  pairwise_split.2 ⟨h1, h2, fun x hx => hl x (h3 x hx), fun z hz => hr z (h4 z hz), h5⟩

theorem pairwise_unsplit {R : E → E → Prop} {y : E} (h : (pre ++ y :: post).Pairwise R) :
    (pre ++ post).Pairwise R :=
  h.sublist (List.Sublist.append_left (List.sublist_cons_self y post) pre)

theorem forall_mem_unsplit {P : E → Prop} {y : E} (h : ∀ x ∈ pre ++ y :: post, P x) :
    ∀ x ∈ pre ++ post, P x :=
  fun x hx => h x ((List.Sublist.append_left (List.sublist_cons_self y post) pre).subset hx)


theorem hd_append (l1 l2 : List E) (q : Option Nat) : hd (l1 ++ l2) q = hd l1 (hd l2 q) := by
  cases l1 <;> rfl

theorem chain_append :
    ∀ (l1 l2 : List E) (q : Option Nat), Chain h (l1 ++ l2) q ↔ Chain h l1 (hd l2 q) ∧ Chain h l2 q
  | [], _, _ => ⟨fun h => ⟨trivial, h⟩, fun h => h.2⟩
  | x :: r, l2, q => by
    rw [List.cons_append, Chain, Chain, hd_append, chain_append r l2 q, and_assoc]

theorem chain_split {x : E} {q : Option Nat} :
    Chain h (x :: (pre ++ (e, k, c) :: post)) q ↔
      Chain h (x :: pre) (some e) ∧ h.get e = some ⟨hd post q, k, c⟩ ∧ Chain h post q :=
  chain_append (x :: pre) ((e, k, c) :: post) q

theorem chain_frame {b : Nat} {v : Option Cell} :
    ∀ (l : List E) (q : Option Nat), Chain h l q → (∀ x ∈ l, x.1 ≠ b) → Chain (h.set b v) l q
  | [], _, _, _ => trivial
  | x :: r, q, hc, hne =>
    ⟨(Heap.get_set_ne h v (hne x List.mem_cons_self)).trans hc.1,
      chain_frame r q hc.2 fun y hy => hne y (List.mem_cons_of_mem _ hy)⟩

theorem lastA_append : ∀ (l1 l2 : List E) (p : Nat), lastA p (l1 ++ l2) = lastA (lastA p l1) l2
  | [], _, _ => rfl
  | x :: r, l2, _ => lastA_append r l2 x.1

theorem lastA_split (pre post : List E) (e k c p : Nat) :
    lastA p (pre ++ (e, k, c) :: post) = lastA e post := by
  rw [lastA_append]; rfl

theorem lastA_unsplit (pre post : List E) (y : E) (p : Nat) (h : post ≠ []) :
    lastA p (pre ++ y :: post) = lastA p (pre ++ post) := by
  cases post with
  | nil => exact absurd rfl h
  | cons z r => rw [lastA_append, lastA_append]; rfl

theorem lastA_lt {b : Nat} : ∀ (l : List E) (x : E), (∀ z ∈ x :: l, z.1 < b) → lastA x.1 l < b
  | [], x, h => h x List.mem_cons_self
  | y :: r, _, h => lastA_lt r y fun z hz => h z (List.mem_cons_of_mem _ hz)

theorem le_lastA : ∀ (l : List E) (x : E), Asc (x :: l) → x.1 ≤ lastA x.1 l
  | [], _, _ => Nat.le_refl _
  | y :: r, _, ha =>
    Nat.le_trans (Nat.le_of_lt ((List.pairwise_cons.1 ha).1 y List.mem_cons_self))
      (le_lastA r y (List.pairwise_cons.1 ha).2)

theorem chain_relink : ∀ (pre : List E) (x : E) (q q' : Option Nat),
    Chain h (x :: pre) q → Asc (x :: pre) →
    ∃ pk pc, h.get (lastA x.1 pre) = some ⟨q, pk, pc⟩ ∧
      Chain (h.set (lastA x.1 pre) (some ⟨q', pk, pc⟩)) (x :: pre) q'
  | [], x, _, _, hc, _ => ⟨x.2.1, x.2.2, hc.1, Heap.get_set_same .., trivial⟩
  | y :: r, x, q, q', hc, ha => by
    obtain ⟨hxy, ha'⟩ := List.pairwise_cons.1 ha
    obtain ⟨pk, pc, h1, h2⟩ := chain_relink r y q q' hc.2 ha'
    refine ⟨pk, pc, h1, ?_, h2⟩
    exact (Heap.get_set_ne h _ (Nat.ne_of_lt (Nat.lt_of_lt_of_le (hxy y List.mem_cons_self) (le_lastA r y ha')))).trans
      hc.1

theorem predOf_append : ∀ (l1 l2 : List E) (p k : Nat),
    predOf p (l1 ++ l2) k = (predOf p l1 k).or (predOf (lastA p l1) l2 k)
  | [], _, _, _ => rfl
  | x :: r, l2, p, k => by
    show (if x.2.1 = k then some p else predOf x.1 (r ++ l2) k) = (if x.2.1 = k then some p else predOf x.1 r k).or _
    split
    · rfl
    · exact predOf_append r l2 x.1 k

theorem predOf_eq_none : ∀ (l : List E) (p k : Nat), predOf p l k = none ↔ ∀ x ∈ l, x.2.1 ≠ k
  | [], _, _ => iff_of_true rfl nofun
  | x :: r, p, k => by
    rw [List.forall_mem_cons]
    show (if x.2.1 = k then some p else predOf x.1 r k) = none ↔ _
    split
    · rename_i hk; exact iff_of_false nofun fun h => h.1 hk
    · rename_i hk; rw [predOf_eq_none r]; exact (and_iff_right hk).symm

theorem predOf_some : ∀ (l : List E) (p k prev : Nat), predOf p l k = some prev →
    ∃ pre e c post, l = pre ++ (e, k, c) :: post ∧ prev = lastA p pre ∧ ∀ x ∈ pre, x.2.1 ≠ k
  | [], _, _, _, h => nomatch h
  | x :: r, p, k, prev, h => by
    change (if x.2.1 = k then some p else predOf x.1 r k) = some prev at h
    split at h
    · rename_i hk
      exact ⟨[], x.1, x.2.2, r, by rw [← hk]; rfl, (Option.some.inj h).symm, nofun⟩
    · rename_i hk
      obtain ⟨pre, e, c, post, h1, h2, h3⟩ := predOf_some r x.1 k prev h
      exact ⟨x :: pre, e, c, post, by rw [h1]; rfl, h2, List.forall_mem_cons.2 ⟨hk, h3⟩⟩

theorem getD_set (l : List (Option Nat)) (i j : Nat) (v : Option Nat) :
    (l.set i v).getD j none = if j = i then (if i < l.length then v else none) else l.getD j none := by
  rw [List.getD_eq_getElem?_getD, List.getD_eq_getElem?_getD, List.getElem?_set]
  by_cases hji : i = j
  · subst hji; rw [if_pos rfl, if_pos rfl]; split <;> rfl
  · rw [if_neg hji, if_neg fun e => hji e.symm]

/-- the representation invariant (without `size_`, `last_` and the positivity of the counts) -/
structure Inv (s : T) (es : List E) : Prop where
  chain : ∃ hk hc, Chain s.heap ((0, hk, hc) :: es) none
  apos : ∀ x ∈ es, 0 < x.1
  asc : Asc es
  bound : ∀ x ∈ es, x.1 < s.nextAddr
  npos : 0 < s.nextAddr
  keys : KeysNodup es
  krange : ∀ x ∈ es, x.2.1 < s.index.length
  index : ∀ k, s.index.getD k none = predOf 0 es k

theorem Inv.ascFull (hi : Inv s es) (hk hc : Nat) : Asc ((0, hk, hc) :: es) :=
  List.pairwise_cons.2 ⟨hi.apos, hi.asc⟩

theorem lookup (hi : Inv s es) (key : Nat) :
    (s.index.getD key none = none ∧ ∀ x ∈ es, x.2.1 ≠ key) ∨
    ∃ pre e c post pk pc, es = pre ++ (e, key, c) :: post ∧ s.index.getD key none = some (lastA 0 pre) ∧
      (∀ x ∈ pre, x.2.1 ≠ key) ∧ (∀ x ∈ post, x.2.1 ≠ key) ∧
      s.heap.get (lastA 0 pre) = some ⟨some e, pk, pc⟩ ∧ s.heap.get e = some ⟨hd post none, key, c⟩ := by
  cases hl : predOf 0 es key with
  | none => exact Or.inl ⟨(hi.index key).trans hl, (predOf_eq_none _ _ _).1 hl⟩
  | some prev =>
    obtain ⟨pre, e, c, post, rfl, rfl, h3⟩ := predOf_some _ _ _ _ hl
    obtain ⟨hk, hc, hch⟩ := hi.chain
    obtain ⟨c1, c2, _⟩ := chain_split.1 hch
    obtain ⟨pk, pc, r1, _⟩ := chain_relink pre (0, hk, hc) (some e) none c1 ((pairwise_split (pre := (0, hk, hc) :: pre)).1 (hi.ascFull hk hc)).1
    exact Or.inr ⟨pre, e, c, post, pk, pc, rfl, (hi.index key).trans hl, h3,
      fun x hx => Ne.symm ((pairwise_split.1 hi.keys).2.2.2.1 x hx), r1, c2⟩

/-- appending a fresh element behind `last_` (shared by `insert` and the copy loops) -/
theorem push_inv (hi : Inv s es) (hl : s.last = lastA 0 es) {key : Nat} (c sz : Nat)
    (hkey : key < s.index.length) (habs : ∀ x ∈ es, x.2.1 ≠ key) :
    ∃ lc, s.heap.get s.last = some lc ∧
      Inv ⟨(s.heap.set s.last (some { lc with next := some s.nextAddr })).set s.nextAddr (some ⟨none, key, c⟩),
           s.nextAddr + 1, s.nextAddr, sz, s.index.set key (some s.last)⟩ (es ++ [(s.nextAddr, key, c)]) := by
  obtain ⟨hk, hc, hch⟩ := hi.chain
  obtain ⟨pk, pc, r1, r2⟩ := chain_relink es (0, hk, hc) none (some s.nextAddr) hch (hi.ascFull hk hc)
  rw [← hl] at r1 r2
  refine ⟨_, r1, ⟨hk, hc, (chain_append ((0, hk, hc) :: es) _ none).2 ⟨chain_frame _ _ r2 ?_,
      Heap.get_set_same .., trivial⟩⟩,
    forall_mem_split.2 ⟨hi.apos, hi.npos, nofun⟩, pairwise_split.2 ⟨hi.asc, .nil, hi.bound, nofun, nofun⟩,
    forall_mem_split.2 ⟨fun x hx => Nat.lt_succ_of_lt (hi.bound x hx), Nat.lt_succ_self _, nofun⟩, Nat.succ_pos _,
    pairwise_split.2 ⟨hi.keys, .nil, habs, nofun, nofun⟩,
    forall_mem_split.2 ⟨fun x hx => (List.length_set ..).symm ▸ hi.krange x hx, (List.length_set ..).symm ▸ hkey, nofun⟩,
    fun k' => ?_⟩
  · exact List.forall_mem_cons.2 ⟨Nat.ne_of_lt hi.npos, fun z hz => Nat.ne_of_lt (hi.bound z hz)⟩
  · show (s.index.set key (some s.last)).getD k' none = _
    rw [getD_set, predOf_append, hi.index k', ← hl]
    show _ = (predOf 0 es k').or (if key = k' then some s.last else none)
    by_cases hk' : k' = key
    · subst hk'
      rw [if_pos rfl, if_pos hkey, if_pos rfl, (predOf_eq_none es 0 k').2 habs]; rfl
    · rw [if_neg hk', if_neg fun e => hk' e.symm, Option.or_none]

/-- unlinking the element `(e, k, c)`: everything of `Inv` except the computation of the new `index_` -/
theorem erase_core (hi : Inv s (pre ++ (e, k, c) :: post))
    (ix' : List (Option Nat)) (sz : Nat) (hlen : ix'.length = s.index.length)
    (hix : ∀ k', ix'.getD k' none = predOf 0 (pre ++ post) k') :
    ∃ pk pc, s.heap.get (lastA 0 pre) = some ⟨some e, pk, pc⟩ ∧
      s.heap.get e = some ⟨hd post none, k, c⟩ ∧ lastA 0 pre < e ∧ (∀ x ∈ post, e < x.1) ∧
      Chain s.heap post none ∧
      Inv ⟨((s.heap.set (lastA 0 pre) (some ⟨hd post none, pk, pc⟩)).set e none), s.nextAddr, s.last, sz, ix'⟩
        (pre ++ post) := by
  obtain ⟨hk, hc, hch⟩ := hi.chain
  obtain ⟨c1, c2, c3⟩ := chain_split.1 hch
  obtain ⟨a1, _, a2, a3, _⟩ := (pairwise_split (pre := (0, hk, hc) :: pre)).1 (hi.ascFull hk hc)
  obtain ⟨pk, pc, r1, r2⟩ := chain_relink pre (0, hk, hc) (some e) (hd post none) c1 a1
  have hlt : lastA 0 pre < e := lastA_lt pre (0, hk, hc) a2
  refine ⟨pk, pc, r1, c2, hlt, a3, c3, ⟨hk, hc, (chain_append ((0, hk, hc) :: pre) post none).2 ⟨chain_frame _ _ r2 ?_,
      chain_frame _ _ (chain_frame _ _ c3 ?_) ?_⟩⟩, forall_mem_unsplit hi.apos, pairwise_unsplit hi.asc,
    forall_mem_unsplit hi.bound, hi.npos, pairwise_unsplit hi.keys,
    fun x hx => hlen ▸ forall_mem_unsplit hi.krange x hx, hix⟩
  · exact fun y hy => Nat.ne_of_lt (a2 y hy)
  · exact fun y hy => Nat.ne_of_gt (Nat.lt_trans hlt (a3 y hy))
  · exact fun y hy => Nat.ne_of_gt (a3 y hy)

/-- `index_` after unlinking the element of key `k` behind address `prev`, in front of the elements `post` -/
def unlinkIx (ix : List (Option Nat)) (prev k : Nat) : List E → List (Option Nat)
  | [] => ix.set k none
  | y :: _ => (ix.set y.2.1 (some prev)).set k none

theorem unlinkIx_length (ix : List (Option Nat)) (prev k : Nat) (post : List E) :
    (unlinkIx ix prev k post).length = ix.length := by
  cases post <;> simp [unlinkIx]

theorem unlinkIx_spec (hi : Inv s (pre ++ (e, k, c) :: post))
    (hpre : ∀ x ∈ pre, x.2.1 ≠ k) (k' : Nat) :
    (unlinkIx s.index (lastA 0 pre) k post).getD k' none = predOf 0 (pre ++ post) k' := by
  obtain ⟨_, _, _, k4, k5⟩ := pairwise_split.1 hi.keys
  have hold := hi.index k'
  rw [predOf_append] at hold
  change _ = (predOf 0 pre k').or (if k = k' then some (lastA 0 pre) else predOf e post k') at hold
  have hpn : predOf 0 pre k = none := (predOf_eq_none _ _ _).2 hpre
  rw [predOf_append]
  cases post with
  | nil =>
    show (s.index.set k none).getD k' none = (predOf 0 pre k').or none
    rw [getD_set, Option.or_none]
    by_cases hk' : k' = k
    · subst hk'; rw [if_pos rfl, hpn]; split <;> rfl
    · rw [if_neg hk', hold, if_neg (Ne.symm hk')]; exact Option.or_none
  | cons y post' =>
    have hyk : k ≠ y.2.1 := k4 y List.mem_cons_self
    show ((s.index.set y.2.1 (some (lastA 0 pre))).set k none).getD k' none =
      (predOf 0 pre k').or (if y.2.1 = k' then some (lastA 0 pre) else predOf y.1 post' k')
    rw [getD_set, getD_set]
    by_cases hk' : k' = k
    · subst hk'
      rw [if_pos rfl, hpn, if_neg (Ne.symm hyk),
        (predOf_eq_none post' y.1 k').2 fun x hx => Ne.symm (k4 x (List.mem_cons_of_mem _ hx))]
      split <;> rfl
    · rw [if_neg hk']
      by_cases hk2 : k' = y.2.1
      · subst hk2
        rw [if_pos rfl, if_pos ((forall_mem_split.1 hi.krange).2.2 y List.mem_cons_self), if_pos rfl,
          (predOf_eq_none pre 0 y.2.1).2 fun x hx => k5 x hx y List.mem_cons_self]
        rfl
      · rw [if_neg hk2, hold, if_neg (Ne.symm hk'), if_neg (Ne.symm hk2)]
        show (predOf 0 pre k').or (if y.2.1 = k' then some e else predOf y.1 post' k') = _
        rw [if_neg (Ne.symm hk2)]


/-- `aAdd` and `aSet` at once: apply `f` to the count of `a` (a new element starts at `0`) -/
def aUpd (f : Nat → Nat) : List (Nat × Nat) → Nat → List (Nat × Nat)
  | [], a => [(a, f 0)]
  | (b, c) :: s, a => if b == a then (b, f c) :: s else (b, c) :: aUpd f s a

theorem aAdd_eq : ∀ (l : List (Nat × Nat)) (k : Nat), aAdd l k = aUpd (· + 1) l k
  | [], _ => rfl
  | (b, c) :: s, k => by rw [aAdd, aUpd, aAdd_eq s k]

theorem aSet_eq (n : Nat) : ∀ (l : List (Nat × Nat)) (k : Nat), aSet l k n = aUpd (fun _ => n) l k
  | [], _ => rfl
  | (b, c) :: s, k => by rw [aSet, aUpd, aSet_eq n s k]

abbrev itemsOf (es : List E) : List (Nat × Nat) := es.map (fun x => x.2)

theorem itemsOf_split (pre post : List E) (e k c : Nat) :
    itemsOf (pre ++ (e, k, c) :: post) = itemsOf pre ++ (k, c) :: itemsOf post :=
  List.map_append

theorem aUpd_present (f : Nat → Nat) (e c : Nat) (post : List E) : ∀ (pre : List E),
    (∀ x ∈ pre, x.2.1 ≠ k) → aUpd f (itemsOf (pre ++ (e, k, c) :: post)) k = itemsOf (pre ++ (e, k, f c) :: post)
  | [], _ => by
    show (if k == k then _ else _) = _
    rw [beq_self_eq_true]; rfl
  | x :: r, h => by
    show (if x.2.1 == k then _ else x.2 :: aUpd f (itemsOf (r ++ (e, k, c) :: post)) k) = _
    rw [beq_false_of_ne (List.forall_mem_cons.1 h).1, aUpd_present f e c post r (List.forall_mem_cons.1 h).2]; rfl

theorem aUpd_absent (f : Nat → Nat) (a : Nat) : ∀ (es : List E), (∀ x ∈ es, x.2.1 ≠ k) →
    aUpd f (itemsOf es) k = itemsOf (es ++ [(a, k, f 0)])
  | [], _ => rfl
  | x :: r, h => by
    show (if x.2.1 == k then _ else x.2 :: aUpd f (itemsOf r) k) = _
    rw [beq_false_of_ne (List.forall_mem_cons.1 h).1, aUpd_absent f a r (List.forall_mem_cons.1 h).2]; rfl

theorem aRemove_present (e c : Nat) (post : List E) : ∀ (pre : List E), (∀ x ∈ pre, x.2.1 ≠ k) →
    aRemove (itemsOf (pre ++ (e, k, c) :: post)) k = itemsOf (pre ++ if c ≤ 1 then post else (e, k, c - 1) :: post)
  | [], _ => by
    show (if k == k then _ else _) = _
    rw [beq_self_eq_true, if_pos rfl]
    split <;> rfl
  | x :: r, h => by
    show (if x.2.1 == k then _ else x.2 :: aRemove (itemsOf (r ++ (e, k, c) :: post)) k) = _
    rw [beq_false_of_ne (List.forall_mem_cons.1 h).1, aRemove_present e c post r (List.forall_mem_cons.1 h).2]; rfl

theorem aRemove_absent : ∀ (es : List E), (∀ x ∈ es, x.2.1 ≠ k) → aRemove (itemsOf es) k = itemsOf es
  | [], _ => rfl
  | x :: r, h => by
    show (if x.2.1 == k then _ else x.2 :: aRemove (itemsOf r) k) = _
    rw [beq_false_of_ne (List.forall_mem_cons.1 h).1, aRemove_absent r (List.forall_mem_cons.1 h).2]; rfl

theorem aErase_absent (h : ∀ x ∈ es, x.2.1 ≠ k) : aErase (itemsOf es) k = itemsOf es :=
  List.filter_eq_self.2 fun x hx => by
    obtain ⟨y, hy, rfl⟩ := List.mem_map.1 hx
    exact bne_iff_ne.2 (h y hy)

theorem aErase_present (e c : Nat) (h1 : ∀ x ∈ pre, x.2.1 ≠ k)
    (h2 : ∀ x ∈ post, x.2.1 ≠ k) : aErase (itemsOf (pre ++ (e, k, c) :: post)) k = itemsOf (pre ++ post) := by
  have e1 := aErase_absent h1
  have e2 := aErase_absent h2
  unfold aErase at *
  rw [itemsOf_split, List.filter_append, e1, List.filter_cons_of_neg (by simp), e2]
  exact List.map_append.symm

theorem aCount_absent (h : ∀ x ∈ es, x.2.1 ≠ k) : aCount (itemsOf es) k = 0 := by
  have : (itemsOf es).find? (fun kc => kc.1 == k) = none :=
    List.find?_eq_none.2 fun x hx => by
      obtain ⟨y, hy, rfl⟩ := List.mem_map.1 hx
      exact fun hb => h y hy (eq_of_beq hb)
  rw [aCount, this]

theorem aCount_present {pre : List E} (e c : Nat) (post : List E) (h : ∀ x ∈ pre, x.2.1 ≠ k) :
    aCount (itemsOf (pre ++ (e, k, c) :: post)) k = c := by
  have : (itemsOf pre).find? (fun kc => kc.1 == k) = none :=
    List.find?_eq_none.2 fun x hx => by
      obtain ⟨y, hy, rfl⟩ := List.mem_map.1 hx
      exact fun hb => h y hy (eq_of_beq hb)
  rw [aCount, itemsOf_split, List.find?_append, this, Option.none_or, List.find?_cons_of_pos (by exact beq_self_eq_true k)]

theorem contains_iff : (aKeys (itemsOf es)).contains k = true ↔ ∃ x ∈ es, x.2.1 = k := by
  rw [List.contains_iff_mem, aKeys, itemsOf, List.map_map, List.mem_map]; rfl

theorem contains_absent (h : ∀ x ∈ es, x.2.1 ≠ k) :
    (aKeys (itemsOf es)).contains k = false :=
  Bool.eq_false_iff.2 fun hc => let ⟨x, hx, hk⟩ := contains_iff.1 hc; h x hx hk

theorem contains_present (pre post : List E) (e k c : Nat) :
    (aKeys (itemsOf (pre ++ (e, k, c) :: post))).contains k = true :=
  contains_iff.2 ⟨_, List.mem_append_right _ List.mem_cons_self, rfl⟩

/-- is `k` the key of the last element?  (the flag `init(k, 0)` adds to `dangling`) -/
def lastIs (l : List (Nat × Nat)) (k : Nat) : Bool :=
  match l.getLast? with
  | some (b, _) => b == k
  | none => false

theorem last_absent (h : ∀ x ∈ es, x.2.1 ≠ k) :
    erasesLast (itemsOf es) k = false ∧ lastIs (itemsOf es) k = false := by
  unfold erasesLast lastIs
  cases hl : (itemsOf es).getLast? with
  | none => exact ⟨rfl, rfl⟩
  | some z =>
    obtain ⟨y, hy, rfl⟩ := List.mem_map.1 (List.mem_of_getLast? hl)
    show (y.2.1 == k && _) = false ∧ (y.2.1 == k) = false
    rw [beq_false_of_ne (h y hy)]; exact ⟨rfl, rfl⟩

theorem last_present (pre post : List E) (e c : Nat) (h : ∀ x ∈ post, x.2.1 ≠ k) :
    erasesLast (itemsOf (pre ++ (e, k, c) :: post)) k = (post.isEmpty && decide (c ≤ 1)) ∧
      lastIs (itemsOf (pre ++ (e, k, c) :: post)) k = post.isEmpty := by
  unfold erasesLast lastIs
  rw [itemsOf_split, List.getLast?_append, List.getLast?_cons]
  cases post with
  | nil =>
    show (k == k && _) = _ ∧ (k == k) = _
    rw [beq_self_eq_true]; exact ⟨rfl, rfl⟩
  | cons y r =>
    cases hl : (itemsOf (y :: r)).getLast? with
    | none => exact absurd (List.getLast?_eq_none_iff.1 hl) (List.cons_ne_nil _ _)
    | some z =>
      obtain ⟨x, hx, rfl⟩ := List.mem_map.1 (List.mem_of_getLast? hl)
      show (x.2.1 == k && _) = false ∧ (x.2.1 == k) = false
      rw [beq_false_of_ne (h x hx)]; exact ⟨rfl, rfl⟩


/-- `R` without the value: `es` are the elements, `dg` the flag `dangling`, `n` the range -/
structure Rep (s : T) (es : List E) (dg : Bool) (n : Nat) : Prop where
  inv : Inv s es
  size : s.size = es.length
  range : s.index.length = n
  last : dg = false → s.last = lastA 0 es
  dead : dg = true → s.heap.get s.last = none

theorem Rep.setCount (f : Nat → Nat)
    (h : Rep s (pre ++ (e, k, c) :: post) dg n) :
    ∃ s', SS.setCount s e f = some s' ∧ Rep s' (pre ++ (e, k, f c) :: post) dg n := by
  obtain ⟨hk, hc, hch⟩ := h.inv.chain
  obtain ⟨h1, h2, h3⟩ := chain_split.1 hch
  obtain ⟨_, _, a2, a3, _⟩ := (pairwise_split (pre := (0, hk, hc) :: pre)).1 (h.inv.ascFull hk hc)
  refine ⟨{ s with heap := s.heap.set e (some ⟨hd post none, k, f c⟩) }, by rw [SS.setCount, h2],
    ⟨⟨hk, hc, chain_split.2 ⟨chain_frame _ _ h1 fun z hz => Nat.ne_of_lt (a2 z hz), Heap.get_set_same ..,
        chain_frame _ _ h3 fun z hz => Nat.ne_of_gt (a3 z hz)⟩⟩,
      forall_mem_resplit h.inv.apos id, pairwise_resplit h.inv.asc (fun _ => id) (fun _ => id),
      forall_mem_resplit h.inv.bound id, h.inv.npos, pairwise_resplit h.inv.keys (fun _ => id) (fun _ => id),
      forall_mem_resplit h.inv.krange id, fun k' => ?_⟩, ?_, h.range, fun hd => ?_, fun hd => ?_⟩
  · show s.index.getD k' none = _
    rw [h.inv.index k', predOf_append, predOf_append]; rfl
  · rw [h.size, List.length_append, List.length_append]; rfl
  · rw [lastA_split]; exact (h.last hd).trans (lastA_split ..)
  · have hne : s.last ≠ e := fun e' => by have := h.dead hd; rw [e', h2] at this; cases this
    exact (Heap.get_set_ne _ _ hne).trans (h.dead hd)

theorem Rep.push {n key : Nat} (c : Nat) (h : Rep s es false n) (hkey : key < n)
    (habs : ∀ x ∈ es, x.2.1 ≠ key) :
    ∃ lc, s.heap.get s.last = some lc ∧
      Rep ⟨(s.heap.set s.last (some { lc with next := some s.nextAddr })).set s.nextAddr (some ⟨none, key, c⟩),
           s.nextAddr + 1, s.nextAddr, s.size + 1, s.index.set key (some s.last)⟩ (es ++ [(s.nextAddr, key, c)])
        false n := by
  obtain ⟨lc, g1, hi⟩ := push_inv h.inv (h.last rfl) c (s.size + 1) (h.range ▸ hkey) habs
  refine ⟨lc, g1, hi, ?_, (List.length_set ..).trans h.range, fun _ => ?_, nofun⟩
  · rw [List.length_append, ← h.size]; rfl
  · rw [lastA_append]; rfl

/-- `erase(index_[k])` -/
theorem Rep.erase 
    (h : Rep s (pre ++ (e, k, c) :: post) dg n) (hpre : ∀ x ∈ pre, x.2.1 ≠ k) :
    ∃ s', SS.erase s k (lastA 0 pre) = some s' ∧ Rep s' (pre ++ post) (dg || post.isEmpty) n := by
  obtain ⟨pk, pc, g1, g2, hlt, hpost, hcp, hi⟩ :=
    erase_core h.inv _ (s.size - 1) (unlinkIx_length ..) (unlinkIx_spec h.inv hpre)
  refine ⟨_, ?_, hi, ?_, (unlinkIx_length ..).trans h.range, fun hd => ?_, fun hd => ?_⟩
  · cases post with
    | nil => simp [SS.erase, g1, g2, hd, unlinkIx]
    | cons y post' =>
      have hne : y.1 ≠ lastA 0 pre := Nat.ne_of_gt (Nat.lt_trans hlt (hpost y List.mem_cons_self))
      have hnlen := (forall_mem_split.1 h.inv.krange).2.2 y List.mem_cons_self
      simp [SS.erase, g1, g2, hd, Heap.get_set_ne _ _ hne, hcp.1, hnlen, unlinkIx]
  · show s.size - 1 = _
    rw [h.size, List.length_append, List.length_append]; rfl
  · rw [Bool.or_eq_false_iff] at hd
    rw [← lastA_unsplit pre post _ 0 fun hp => by rw [hp] at hd; exact absurd hd.2 nofun]
    exact h.last hd.1
  · show ((s.heap.set (lastA 0 pre) _).set e none).get s.last = none
    by_cases hl : s.last = e
    · rw [hl]; exact Heap.get_set_same ..
    · cases dg with
      | true =>
        have hne : s.last ≠ lastA 0 pre := fun e' => by have := h.dead rfl; rw [e', g1] at this; cases this
        rw [Heap.get_set_ne _ _ hl, Heap.get_set_ne _ _ hne]; exact h.dead rfl
      | false =>
        have hp : post = [] := List.isEmpty_iff.1 hd
        rw [hp] at h
        exact absurd ((h.last rfl).trans (lastA_split ..)) hl

/-- `f(insert(key))`: `add` is `insSet · · (· + 1)`, `init` with a positive count is `insSet · · (fun _ => count)` -/
def insSet (s : T) (key : Nat) (f : Nat → Nat) : Option T :=
  match insert s key with
  | none => none
  | some (s1, a) => setCount s1 a f

theorem add_eq (s : T) (k : Nat) : add s k = insSet s k (· + 1) := rfl

theorem init_pos_eq (s : T) (k c : Nat) (hc : 0 < c) : init s k c = insSet s k (fun _ => c) := by
  rw [init, if_pos hc]; rfl

end P
open P

variable {es pre post : List E} {e : Nat}

def LastOk (s : T) (es : List E) : Prop := s.last = lastA 0 es

def Dead (s : T) : Prop := s.heap.get s.last = none

/-- `es`: the cells behind `head_` in iteration order, all with a positive count; `a.items` their keys with the counts, `a.range`
the size of `index_`; `a.dangling` tells whether `last_` is the last of them or a deleted cell -/
def R (s : T) (a : A) : Prop :=
  ∃ es : List E, Inv s es ∧ s.size = es.length ∧ (∀ x ∈ es, 0 < x.2.2) ∧ itemsOf es = a.items ∧
    s.index.length = a.range ∧ (a.dangling = false → LastOk s es) ∧ (a.dangling = true → Dead s)

namespace P

theorem Rep.toR (h : Rep s es dg n) (hp : ∀ x ∈ es, 0 < x.2.2) :
    R s ⟨itemsOf es, n, dg⟩ :=
  ⟨es, h.inv, h.size, hp, rfl, h.range, h.last, h.dead⟩

theorem Rep.ofR (h : R s a) :
    ∃ es, Rep s es a.dangling a.range ∧ (∀ x ∈ es, 0 < x.2.2) ∧ itemsOf es = a.items :=
  let ⟨es, hi, hsz, hpos, hit, hlen, hlast, hdead⟩ := h
  ⟨es, ⟨hi, hsz, hlen, hlast, hdead⟩, hpos, hit⟩

theorem inv_empty (h0 : ∃ hk hc, t.heap.get 0 = some ⟨none, hk, hc⟩) (hn : 0 < t.nextAddr)
    (hix : ∀ k, t.index.getD k none = none) : Inv t [] :=
  let ⟨hk, hc, h0⟩ := h0
  ⟨⟨hk, hc, h0, trivial⟩, nofun, .nil, nofun, hn, .nil, nofun, hix⟩

theorem mk_inv (r sz : Nat) : Inv { mk r with size := sz } [] :=
  inv_empty ⟨0, 0, Heap.get_set_same ..⟩ Nat.one_pos fun k => by
    show (List.replicate r none).getD k none = none
    rw [List.getD_eq_getElem?_getD, List.getElem?_replicate]; split <;> rfl

/-- a call is defined exactly when `b` holds, and its result then satisfies `Q` -/
def Spec {α : Type} (b : Bool) (r : Option α) (Q : α → Prop) : Prop :=
  match b with
  | true => ∃ x, r = some x ∧ Q x
  | false => r = none

theorem Spec.of_true {α : Type} {b : Bool} {r : Option α} {Q : α → Prop} (h : Spec b r Q) (hb : b = true) :
    ∃ x, r = some x ∧ Q x := by
  subst hb; exact h

theorem Spec.of_false {α : Type} {b : Bool} {r : Option α} {Q : α → Prop} (h : Spec b r Q) (hb : b = false) :
    r = none := by
  subst hb; exact h

theorem insSet_spec (f : Nat → Nat) (hf : ∀ c, 0 < f c) (hr : R s a) :
    Spec (decide (k < a.range) && ((aKeys a.items).contains k || !a.dangling)) (insSet s k f)
      fun s' => R s' { a with items := aUpd f a.items k } := by
  obtain ⟨items, n, dg⟩ := a
  obtain ⟨es, h, hpos, rfl⟩ := Rep.ofR hr
  by_cases hk : k < n
  · have hk' : k < s.index.length := h.range ▸ hk
    rw [decide_eq_true hk, Bool.true_and]
    rcases lookup h.inv k with ⟨hl, habs⟩ | ⟨pre, e, c, post, pk, pc, rfl, hl, h3, _, g1, _⟩
    · rw [contains_absent habs, Bool.false_or]
      cases dg with
      | true => exact (by simp only [insSet, insert, hk', hl, h.dead rfl, if_true] : insSet s k f = none)
      | false =>
        obtain ⟨lc, g1, h1⟩ := h.push 0 hk habs
        obtain ⟨s', e1, h2⟩ := h1.setCount f (pre := es) (post := [])
        refine ⟨s', ?_, ?_⟩
        · simp only [insSet, insert, hk', hl, g1, if_true]; exact e1
        · rw [aUpd_absent f s.nextAddr es habs]
          exact h2.toR (forall_mem_split.2 ⟨hpos, hf 0, nofun⟩)
    · rw [contains_present, Bool.true_or]
      obtain ⟨s', e1, h2⟩ := h.setCount f
      refine ⟨s', ?_, ?_⟩
      · simp only [insSet, insert, hk', hl, g1, if_true]; exact e1
      · rw [aUpd_present f e c post pre h3]
        exact h2.toR (forall_mem_resplit hpos fun _ => hf c)
  · rw [decide_eq_false hk, Bool.false_and]
    exact (by simp only [insSet, insert, show ¬ k < s.index.length from h.range ▸ hk, if_false] : insSet s k f = none)

/-- `init(k, 0)` -/
theorem init0_spec (hr : R s a) :
    Spec (decide (k < a.range)) (init s k 0)
      fun s' => R s' { a with items := aErase a.items k, dangling := a.dangling || lastIs a.items k } := by
  obtain ⟨items, n, dg⟩ := a
  obtain ⟨es, h, hpos, rfl⟩ := Rep.ofR hr
  by_cases hk : k < n
  · have hk' : k < s.index.length := h.range ▸ hk
    rw [decide_eq_true hk]
    rcases lookup h.inv k with ⟨hl, habs⟩ | ⟨pre, e, c, post, pk, pc, rfl, hl, h3, h4, _, _⟩
    · refine ⟨s, by simp only [init, hk', hl, if_true, Nat.lt_irrefl, gt_iff_lt, if_false], ?_⟩
      rw [aErase_absent habs, (last_absent habs).2, Bool.or_false]
      exact hr
    · obtain ⟨s', e1, h2⟩ := h.erase h3
      refine ⟨s', by simp only [init, hk', hl, if_true, Nat.lt_irrefl, gt_iff_lt, if_false]; exact e1, ?_⟩
      rw [aErase_present e c h3 h4, (last_present pre post e c h4).2]
      exact h2.toR (forall_mem_unsplit hpos)
  · rw [decide_eq_false hk]
    exact (by simp only [init, show ¬ k < s.index.length from h.range ▸ hk, if_false, Nat.lt_irrefl, gt_iff_lt] :
      init s k 0 = none)


def cellsOf : List E → List (Nat × Cell)
  | [] => []
  | x :: r => (x.1, ⟨hd r none, x.2.1, x.2.2⟩) :: cellsOf r

theorem walk_chain : ∀ (es : List E) (fuel : Nat), Chain h es none → es.length ≤ fuel →
    walk h fuel (hd es none) = some (cellsOf es)
  | [], fuel, _, _ => by cases fuel <;> rfl
  | x :: r, fuel + 1, hc, hl => by
    show walk h (fuel + 1) (some x.1) = _
    rw [walk, hc.1]
    show (match walk h fuel (hd r none) with | none => none | some r' => some ((x.1, _) :: r')) = _
    rw [walk_chain r fuel hc.2 (Nat.le_of_succ_le_succ hl)]; rfl

theorem asc_length {n : Nat} : ∀ (es : List E) (lo : Nat), (∀ x ∈ es, lo < x.1) → Asc es → (∀ x ∈ es, x.1 < n) →
    lo < n → lo + es.length < n
  | [], _, _, _, _, h => h
  | x :: r, lo, h1, h2, h3, _ => by
    have := asc_length r x.1 (List.pairwise_cons.1 h2).1 (List.pairwise_cons.1 h2).2
      (fun y hy => h3 y (List.mem_cons_of_mem _ hy)) (h3 x List.mem_cons_self)
    have := h1 x List.mem_cons_self
    rw [List.length_cons]; omega

theorem cellsOf_items : ∀ (es : List E), (cellsOf es).map (fun ac => (ac.2.key, ac.2.count)) = itemsOf es
  | [] => rfl
  | x :: r => congrArg (x.2 :: ·) (cellsOf_items r)

theorem cellsOf_keys : ∀ (es : List E), (cellsOf es).map (fun ac => ac.2.key) = es.map (fun x => x.2.1)
  | [] => rfl
  | x :: r => congrArg (x.2.1 :: ·) (cellsOf_keys r)

theorem head_get (hi : Inv s es) : ∃ hk hc, s.heap.get 0 = some ⟨hd es none, hk, hc⟩ :=
  let ⟨hk, hc, hch⟩ := hi.chain
  ⟨hk, hc, hch.1⟩

theorem cells_eq (hi : Inv s es) : cells s = some (cellsOf es) := by
  obtain ⟨hk, hc, hch⟩ := hi.chain
  have hlen := asc_length es 0 hi.apos hi.asc hi.bound hi.npos
  rw [cells, hch.1]
  exact walk_chain es s.nextAddr hch.2 (by omega)

theorem toList_eq (hi : Inv s es) : toList s = some (itemsOf es) := by
  rw [toList, cells_eq hi, Option.map_some, cellsOf_items]

theorem foldl_clear_none : ∀ (cs : List (Nat × Cell)) (ix : List (Option Nat)),
    (∀ k, k ∉ cs.map (fun ac => ac.2.key) → ix.getD k none = none) →
    ∀ k, (cs.foldl (fun ix ac => ix.set ac.2.key none) ix).getD k none = none
  | [], _, h, k => h k nofun
  | x :: r, ix, h, k => by
    refine foldl_clear_none r (ix.set x.2.key none) (fun k' hk' => ?_) k
    rw [getD_set]
    split
    · split <;> rfl
    · rename_i e
      exact h k' fun hm => (List.mem_cons.1 hm).elim e hk'

theorem foldl_clear_length : ∀ (cs : List (Nat × Cell)) (ix : List (Option Nat)),
    (cs.foldl (fun ix ac => ix.set ac.2.key none) ix).length = ix.length
  | [], _ => rfl
  | _ :: r, _ => (foldl_clear_length r _).trans (List.length_set ..)

theorem clear_rep (hi : Inv s es) :
    ∃ s', clear s = some s' ∧ Rep s' [] false s.index.length ∧ ∀ k, s'.index.getD k none = none := by
  obtain ⟨hk, hc, h0⟩ := head_get hi
  have hall : (cellsOf es).all (fun ac => decide (ac.2.key < s.index.length)) = true := by
    rw [List.all_eq_true]
    intro ac hac
    have : ac.2.key ∈ es.map (fun x => x.2.1) := cellsOf_keys es ▸ List.mem_map.2 ⟨ac, hac, rfl⟩
    obtain ⟨x, hx, hxk⟩ := List.mem_map.1 this
    exact decide_eq_true (hxk ▸ hi.krange x hx)
  have hnone : ∀ k, ((cellsOf es).foldl (fun ix ac => ix.set ac.2.key none) s.index).getD k none = none := by
    refine foldl_clear_none _ _ fun k hk => ?_
    rw [cellsOf_keys] at hk
    rw [hi.index, predOf_eq_none]
    exact fun x hx e => hk (List.mem_map.2 ⟨x, hx, e⟩)
  refine ⟨_, by simp only [clear, cells_eq hi, h0, hall, if_true]; rfl, ?_, hnone⟩
  exact ⟨inv_empty ⟨hk, hc, Heap.get_set_same ..⟩ hi.npos hnone, rfl, foldl_clear_length _ _, fun _ => rfl, nofun⟩


theorem resizeIndex_length (ix : List (Option Nat)) (n : Nat) : (resizeIndex ix n).length = n := by
  simp only [resizeIndex, List.length_append, List.length_take, List.length_replicate]; omega

theorem resizeIndex_none {ix : List (Option Nat)} (h : ∀ x ∈ ix, x = none) (n k : Nat) :
    (resizeIndex ix n).getD k none = none := by
  rw [List.getD_eq_getElem?_getD]
  cases hk : (resizeIndex ix n)[k]? with
  | none => rfl
  | some v =>
    rcases List.mem_append.1 (List.mem_of_getElem? hk) with hx | hx
    · exact h v (List.mem_of_mem_take hx)
    · exact (List.mem_replicate.1 hx).2

theorem allNone_of_getD {l : List (Option Nat)} (h : ∀ k, l.getD k none = none) : ∀ x ∈ l, x = none := by
  intro x hx
  obtain ⟨i, hi⟩ := List.getElem?_of_mem hx
  have := h i
  rwa [List.getD_eq_getElem?_getD, hi] at this

theorem pushElem_inv (hi : Inv t es) (hl : t.last = lastA 0 es) (kc : Nat × Nat)
    (hk : kc.1 < t.index.length) (habs : ∀ x ∈ es, x.2.1 ≠ kc.1) :
    ∃ t', pushElem t kc = some t' ∧ Inv t' (es ++ [(t.nextAddr, kc.1, kc.2)]) ∧ t'.last = t.nextAddr ∧
      t'.size = t.size ∧ t'.index.length = t.index.length := by
  obtain ⟨lc, g1, hinv⟩ := push_inv hi hl kc.2 t.size hk habs
  exact ⟨_, by simp only [pushElem, g1, hk, if_true], hinv, rfl, rfl, List.length_set ..⟩

theorem fillFrom_inv : ∀ (l : List (Nat × Nat)) (t : T) (es : List E), Inv t es → t.last = lastA 0 es →
    (∀ kc ∈ l, kc.1 < t.index.length) → (∀ kc ∈ l, ∀ x ∈ es, x.2.1 ≠ kc.1) →
    l.Pairwise (fun a b => a.1 ≠ b.1) →
    ∃ t' es', fillFrom t l = some t' ∧ Inv t' es' ∧ t'.last = lastA 0 es' ∧ itemsOf es' = itemsOf es ++ l ∧
      t'.size = t.size ∧ t'.index.length = t.index.length
  | [], t, es, hi, hl, _, _, _ => ⟨t, es, rfl, hi, hl, (List.append_nil _).symm, rfl, rfl⟩
  | kc :: r, t, es, hi, hl, hlen, hdis, hnd => by
    obtain ⟨t1, e1, hi1, l1, s1, n1⟩ :=
      pushElem_inv hi hl kc (hlen kc List.mem_cons_self) (hdis kc List.mem_cons_self)
    obtain ⟨hnd1, hnd2⟩ := List.pairwise_cons.1 hnd
    obtain ⟨t', es', f1, hi', l', it', s', n'⟩ := fillFrom_inv r t1 (es ++ [(t.nextAddr, kc.1, kc.2)]) hi1
      (by rw [l1, lastA_append]; rfl)
      (fun kc' hkc' => n1 ▸ hlen kc' (List.mem_cons_of_mem _ hkc'))
      (fun kc' hkc' => forall_mem_split.2 ⟨hdis kc' (List.mem_cons_of_mem _ hkc'), hnd1 kc' hkc', nofun⟩)
      hnd2
    refine ⟨t', es', ?_, hi', l', ?_, s'.trans s1, n'.trans n1⟩
    · rw [fillFrom, e1]; exact f1
    · rw [it', itemsOf, List.map_append, List.append_assoc]; rfl

/-- the common part of `copy`, `assign`, `assignFlat`: filling an empty object -/
theorem fill_empty {t0 : T} (hi : Inv t0 []) (hl : t0.last = 0) (src : List (Nat × Nat))
    (hk : ∀ kc ∈ src, kc.1 < t0.index.length) (hnd : src.Pairwise (fun a b => a.1 ≠ b.1))
    (hp : ∀ kc ∈ src, 0 < kc.2) :
    ∃ t2, fillFrom t0 src = some t2 ∧ t2.size = t0.size ∧
      ∀ sz, sz = src.length → R { t2 with size := sz } ⟨src, t0.index.length, false⟩ := by
  obtain ⟨t2, es', f1, hi', l', it', s', n'⟩ := fillFrom_inv src t0 [] hi hl hk (fun _ _ => nofun) hnd
  have it2 : itemsOf es' = src := it'
  refine ⟨t2, f1, s', fun sz hsz => ⟨es', ⟨hi'.chain, hi'.apos, hi'.asc, hi'.bound, hi'.npos, hi'.keys, hi'.krange,
    hi'.index⟩, ?_, fun x hx => hp x.2 (it2 ▸ List.mem_map.2 ⟨x, hx, rfl⟩), it2, n', fun _ => l', nofun⟩⟩
  show sz = es'.length
  rw [hsz, ← it2, List.length_map]

theorem src_facts (hr : R s a) :
    toList s = some a.items ∧ (∀ kc ∈ a.items, kc.1 < a.range) ∧ a.items.Pairwise (fun x y => x.1 ≠ y.1) ∧
      (∀ kc ∈ a.items, 0 < kc.2) ∧ s.size = a.items.length ∧ s.index.length = a.range := by
  obtain ⟨items, n, dg⟩ := a
  obtain ⟨es, hi, hsz, hpos, rfl, hlen, _⟩ := hr
  refine ⟨toList_eq hi, fun kc hkc => ?_, List.pairwise_map.2 hi.keys, fun kc hkc => ?_,
    hsz.trans (List.length_map _).symm, hlen⟩
  · obtain ⟨x, hx, rfl⟩ := List.mem_map.1 hkc
    exact hlen ▸ hi.krange x hx
  · obtain ⟨x, hx, rfl⟩ := List.mem_map.1 hkc
    exact hpos x hx

end P


theorem mk_R (r : Nat) : R (mk r) (aMk r) :=
  ⟨[], mk_inv r 0, rfl, nofun, rfl, List.length_replicate .., fun _ => rfl, nofun⟩

example : R (mk 3) ⟨[], 3, false⟩ := mk_R 3

theorem add_spec (hr : R s a) :
    Spec (decide (k < a.range) && ((aKeys a.items).contains k || !a.dangling)) (add s k)
      fun s' => R s' { a with items := aAdd a.items k } := by
  rw [add_eq, aAdd_eq]
  exact insSet_spec _ (fun c => Nat.succ_pos c) hr

example : ∃ s s', add (mk 4) 1 = some s ∧ add s 1 = some s' ∧ R s' ⟨[(1, 2)], 4, false⟩ := by
  obtain ⟨s, h1, h2⟩ := add_spec (k := 1) (mk_R 4)
  obtain ⟨s', h3, h4⟩ := add_spec (k := 1) h2
  exact ⟨s, s', h1, h3, h4⟩

/-- `remove` (`strict = false`) and `removeStrict` (`strict = true`) -/
theorem remove_spec (strict : Bool) (hr : R s a) :
    Spec (decide (k < a.range) && (!strict || (aKeys a.items).contains k)) (remove s k strict)
      fun s' => R s' { a with items := aRemove a.items k, dangling := a.dangling || erasesLast a.items k } := by
  obtain ⟨items, n, dg⟩ := a
  obtain ⟨es, h, hpos, rfl⟩ := Rep.ofR hr
  by_cases hk : k < n
  · have hk' : k < s.index.length := h.range ▸ hk
    rw [decide_eq_true hk, Bool.true_and]
    rcases lookup h.inv k with ⟨hl, habs⟩ | ⟨pre, e, c, post, pk, pc, rfl, hl, h3, h4, g1, g2⟩
    · rw [contains_absent habs, Bool.or_false]
      cases strict with
      | true => exact (by simp only [remove, hk', hl, if_true] : remove s k true = none)
      | false =>
        refine ⟨s, by simp only [remove, hk', hl, if_true]; rfl, ?_⟩
        rw [aRemove_absent es habs, (last_absent habs).1, Bool.or_false]
        exact hr
    · rw [contains_present, Bool.or_true, aRemove_present e c post pre h3, (last_present pre post e c h4).1]
      by_cases hc1 : c = 1
      · obtain ⟨s', e1, h2⟩ := h.erase h3
        refine ⟨s', ?_, ?_⟩
        · simp only [remove, hk', hl, g1, g2, hc1, if_true]; exact e1
        · rw [hc1, if_pos (Nat.le_refl 1), decide_eq_true (Nat.le_refl 1), Bool.and_true]
          exact h2.toR (forall_mem_unsplit hpos)
      · have hc2 : 1 < c := Nat.lt_of_le_of_ne (forall_mem_split.1 hpos).2.1 (Ne.symm hc1)
        obtain ⟨s', e1, h2⟩ := h.setCount (· - 1)
        refine ⟨s', ?_, ?_⟩
        · simp only [remove, hk', hl, g1, g2, hc1, if_true, if_false]; exact e1
        · rw [if_neg (Nat.not_le.2 hc2), decide_eq_false (Nat.not_le.2 hc2), Bool.and_false, Bool.or_false]
          exact h2.toR (forall_mem_resplit hpos fun _ => Nat.sub_pos_of_lt hc2)
  · rw [decide_eq_false hk, Bool.false_and]
    exact (by simp only [remove, show ¬ k < s.index.length from h.range ▸ hk, if_false] : remove s k strict = none)

/-- non-vacuity: `removeStrict` of the only (hence last) element: the value becomes dangling -/
example : ∃ s s', add (mk 4) 1 = some s ∧ remove s 1 true = some s' ∧ R s' ⟨[], 4, true⟩ := by
  obtain ⟨s, h1, h2⟩ := add_spec (k := 1) (mk_R 4)
  obtain ⟨s', h3, h4⟩ := remove_spec (k := 1) true h2
  exact ⟨s, s', h1, h3, h4⟩

example : ∃ s', remove (mk 4) 2 false = some s' ∧ R s' ⟨[], 4, false⟩ :=
  remove_spec (k := 2) false (mk_R 4)

theorem init_spec (hr : R s a) :
    Spec (decide (k < a.range) && (c == 0 || (aKeys a.items).contains k || !a.dangling)) (init s k c)
      fun s' => R s' (if c > 0 then { a with items := aSet a.items k c }
            else { a with items := aErase a.items k,
                          dangling := a.dangling ||
                            (match a.items.getLast? with | some (b, _) => b == k | none => false) }) := by
  by_cases hc : c > 0
  · rw [if_pos hc, init_pos_eq s k c hc, aSet_eq, beq_false_of_ne (Nat.ne_of_gt hc), Bool.false_or]
    exact insSet_spec _ (fun _ => hc) hr
  · rw [if_neg hc, Nat.eq_zero_of_not_pos hc, beq_self_eq_true, Bool.true_or, Bool.true_or, Bool.and_true]
    exact init0_spec hr

example : ∃ s s', init (mk 4) 3 5 = some s ∧ init s 3 0 = some s' ∧ R s' ⟨[], 4, true⟩ := by
  obtain ⟨s, h1, h2⟩ := init_spec (k := 3) (c := 5) (mk_R 4)
  obtain ⟨s', h3, h4⟩ := init_spec (k := 3) (c := 0) h2
  exact ⟨s, s', h1, h3, h4⟩

theorem clear_R (hr : R s a) :
    ∃ s', clear s = some s' ∧ R s' { a with items := [], dangling := false } := by
  obtain ⟨es, hi, _, _, _, hlen, _⟩ := hr
  obtain ⟨s', e1, h, _⟩ := clear_rep hi
  exact ⟨s', e1, hlen ▸ h.toR nofun⟩

example : ∃ s s', add (mk 4) 1 = some s ∧ clear s = some s' ∧ R s' ⟨[], 4, false⟩ := by
  obtain ⟨s, h1, h2⟩ := add_spec (k := 1) (mk_R 4)
  obtain ⟨s', h3, h4⟩ := clear_R h2
  exact ⟨s, s', h1, h3, h4⟩

theorem copy_R (hr : R s a) :
    ∃ t, copy s = some t ∧ R t { a with dangling := false } := by
  obtain ⟨h1, h2, h3, h4, h5, h6⟩ := src_facts hr
  have hi0 := mk_inv s.index.length s.size
  obtain ⟨t2, f1, s2, hR⟩ := fill_empty hi0 rfl a.items (by simpa [mk, h6] using h2) h3 h4
  refine ⟨t2, by simp only [copy, h1, f1], ?_⟩
  have := hR t2.size (by rw [s2]; exact h5)
  simpa [mk, h6] using this

example : ∃ s t, init (mk 4) 3 5 = some s ∧ copy s = some t ∧ R t ⟨[(3, 5)], 4, false⟩ := by
  obtain ⟨s, h1, h2⟩ := init_spec (k := 3) (c := 5) (mk_R 4)
  obtain ⟨t, h3, h4⟩ := copy_R h2
  exact ⟨s, t, h1, h3, h4⟩

/-- `operator=`: onto a non-empty target it violates `assert(nullptr == head_.next)` -/
theorem assign_spec {at' : A} (ht : R t at') (hr : R s a) :
    Spec at'.items.isEmpty (assign t s) fun t' => R t' ⟨a.items, a.range, false⟩ := by
  obtain ⟨h1, h2, h3, h4, h5, h6⟩ := src_facts hr
  obtain ⟨es, hi, _, _, hit, _, _⟩ := ht
  obtain ⟨hk, hc, h0⟩ := head_get hi
  rw [← hit]
  cases es with
  | cons x r => exact (by simp [assign, h1, h0, hd] : assign t s = none)
  | nil =>
    have hi0 : Inv { t with index := resizeIndex (t.index.map (fun _ => none)) s.index.length, last := 0 } [] :=
      inv_empty ⟨hk, hc, h0⟩ hi.npos (resizeIndex_none (fun x hx => let ⟨_, _, h⟩ := List.mem_map.1 hx; h.symm) _)
    obtain ⟨t2, f1, s2, hR⟩ := fill_empty hi0 rfl a.items
      (by simpa [resizeIndex_length, h6] using h2) h3 h4
    refine ⟨{ t2 with size := s.size }, by simp [assign, h1, h0, f1, hd], ?_⟩
    have := hR s.size h5
    simpa [resizeIndex_length, h6] using this

example : ∃ s t, init (mk 4) 3 5 = some s ∧ assign (mk 2) s = some t ∧ R t ⟨[(3, 5)], 4, false⟩ := by
  obtain ⟨s, h1, h2⟩ := init_spec (k := 3) (c := 5) (mk_R 4)
  obtain ⟨t, h3, h4⟩ := assign_spec (mk_R 2) h2
  exact ⟨s, t, h1, h3, h4⟩

theorem assignFlat_R {at' : A} (ht : R t at') (hr : R s a) :
    ∃ t', assignFlat t s = some t' ∧ R t' ⟨a.items.map (fun kc => (kc.1, 1)), a.range, false⟩ := by
  obtain ⟨h1, h2, h3, h4, h5, h6⟩ := src_facts hr
  obtain ⟨es, hi, _⟩ := ht
  obtain ⟨t1, e1, ht1, hnone⟩ := clear_rep hi
  obtain ⟨hk, hc, h0⟩ := head_get ht1.inv
  have hi0 : Inv { t1 with index := resizeIndex t1.index s.index.length, last := 0 } [] :=
    inv_empty ⟨hk, hc, h0⟩ ht1.inv.npos (resizeIndex_none (allNone_of_getD hnone) _)
  obtain ⟨t2, f1, s2, hR⟩ := fill_empty hi0 rfl (a.items.map (fun kc => (kc.1, 1)))
    (fun kc hkc => by
      obtain ⟨x, hx, rfl⟩ := List.mem_map.1 hkc
      show x.1 < (resizeIndex t1.index s.index.length).length
      rw [resizeIndex_length, h6]; exact h2 x hx)
    (List.pairwise_map.2 h3)
    (fun kc hkc => by
      obtain ⟨x, hx, rfl⟩ := List.mem_map.1 hkc
      exact Nat.one_pos)
  refine ⟨{ t2 with size := s.size }, by simp only [assignFlat, h1, e1, f1], ?_⟩
  have := hR s.size (by simpa using h5)
  simpa [resizeIndex_length, h6] using this

example : ∃ s t u, init (mk 4) 3 5 = some s ∧ add (mk 2) 0 = some t ∧ assignFlat t s = some u ∧
    R u ⟨[(3, 1)], 4, false⟩ := by
  obtain ⟨s, h1, h2⟩ := init_spec (k := 3) (c := 5) (mk_R 4)
  obtain ⟨t, h3, h4⟩ := add_spec (k := 0) (mk_R 2)
  obtain ⟨u, h5, h6⟩ := assignFlat_R h4 h2
  exact ⟨s, t, u, h1, h3, h5, h6⟩


theorem toList_R (hr : R s a) : toList s = some a.items := (src_facts hr).1

theorem size_R (hr : R s a) : s.size = a.items.length := (src_facts hr).2.2.2.2.1

theorem isEmpty_R (hr : R s a) : isEmpty s = some a.items.isEmpty := by
  obtain ⟨es, hi, _, _, hit, _, _⟩ := hr
  obtain ⟨hk, hc, h0⟩ := head_get hi
  rw [← hit, isEmpty, h0]
  cases es <;> rfl

theorem contains_R (hr : R s a) (hk : k < a.range) :
    contains s k = some ((aKeys a.items).contains k) := by
  obtain ⟨es, hi, _, _, hit, hlen, _⟩ := hr
  rw [contains, if_pos (hlen ▸ hk), ← hit]
  rcases lookup hi k with ⟨hl, habs⟩ | ⟨pre, e, c, post, _, _, rfl, hl, _⟩
  · rw [hl, contains_absent habs]; rfl
  · rw [hl, contains_present]; rfl

theorem count_R (hr : R s a) (hk : k < a.range) :
    count s k = some (aCount a.items k) := by
  obtain ⟨es, hi, _, _, hit, hlen, _⟩ := hr
  rw [count, if_pos (hlen ▸ hk), ← hit]
  rcases lookup hi k with ⟨hl, habs⟩ | ⟨pre, e, c, post, _, _, rfl, hl, h3, _, g1, g2⟩
  · rw [hl, aCount_absent habs]
  · rw [hl, aCount_present e c post h3]
    simp only [g1, g2, Option.map]

example : ∃ s, init (mk 4) 3 5 = some s ∧ toList s = some [(3, 5)] ∧ s.size = 1 ∧ isEmpty s = some false ∧
    contains s 3 = some true ∧ contains s 2 = some false ∧ count s 3 = some 5 ∧ count s 0 = some 0 := by
  obtain ⟨s, h1, h2⟩ := init_spec (k := 3) (c := 5) (mk_R 4)
  exact ⟨s, h1, toList_R h2, size_R h2, isEmpty_R h2, contains_R (k := 3) h2 (by decide),
    contains_R (k := 2) h2 (by decide), count_R (k := 3) h2 (by decide), count_R (k := 0) h2 (by decide)⟩


def RW (w : World) (aw : AWorld) : Prop :=
  w.length = aw.length ∧ ∀ (i : Nat) (s : T) (a : A), w[i]? = some s → aw[i]? = some a → R s a

namespace P

theorem RW_get (h : RW w aw) (ha : aw[i]? = some a) :
    ∃ s, w[i]? = some s ∧ R s a := by
  have hi : i < w.length := h.1 ▸ (List.getElem?_eq_some_iff.1 ha).1
  exact ⟨w[i], List.getElem?_eq_getElem hi, h.2 i _ a (List.getElem?_eq_getElem hi) ha⟩

theorem RW_none (h : RW w aw) (ha : aw[i]? = none) : w[i]? = none := by
  rw [List.getElem?_eq_none_iff] at ha ⊢
  exact h.1 ▸ ha

theorem RW_cases (h : RW w aw) (i : Nat) :
    (∃ s a, w[i]? = some s ∧ aw[i]? = some a ∧ R s a ∧ i < aw.length) ∨
      (w[i]? = none ∧ aw[i]? = none ∧ ¬ i < aw.length) := by
  by_cases hi : i < aw.length
  · obtain ⟨s, hs, hr⟩ := RW_get h (List.getElem?_eq_getElem hi)
    exact Or.inl ⟨s, aw[i], hs, List.getElem?_eq_getElem hi, hr, hi⟩
  · have ha := List.getElem?_eq_none (Nat.le_of_not_lt hi)
    exact Or.inr ⟨RW_none h ha, ha, hi⟩


theorem RW_set {s' : T} {a' : A} (h : RW w aw) (hr : R s' a') :
    RW (w.set i s') (aw.set i a') := by
  refine ⟨by rw [List.length_set, List.length_set]; exact h.1, fun j s a hs ha => ?_⟩
  by_cases hij : i = j
  · subst hij
    have hi := (List.getElem?_eq_some_iff.1 hs).1
    rw [List.length_set] at hi
    rw [List.getElem?_set_self hi] at hs
    rw [List.getElem?_set_self (h.1 ▸ hi)] at ha
    cases hs; cases ha; exact hr
  · rw [List.getElem?_set_ne hij] at hs ha
    exact h.2 j s a hs ha

theorem RW_append {s' : T} {a' : A} (h : RW w aw) (hr : R s' a') :
    RW (w ++ [s']) (aw ++ [a']) := by
  refine ⟨by simp only [List.length_append, List.length_singleton, h.1], fun j s a hs ha => ?_⟩
  rcases Nat.lt_or_ge j aw.length with hl | hl
  · rw [List.getElem?_append_left (h.1 ▸ hl)] at hs
    rw [List.getElem?_append_left hl] at ha
    exact h.2 j s a hs ha
  · rw [List.getElem?_append_right (h.1 ▸ hl), h.1] at hs
    rw [List.getElem?_append_right hl] at ha
    cases hj : j - aw.length with
    | zero => rw [hj] at hs ha; cases hs; cases ha; exact hr
    | succ n => rw [hj] at ha; cases ha

theorem upd_step {b : Bool} {r : Option T} {a' : A} (h : RW w aw) (hr : Spec b r fun s' => R s' a') :
    Spec b (upd1 w i r) fun w' => RW w' (aw.set i a') := by
  cases b with
  | false => rw [show r = none from hr]; rfl
  | true =>
    obtain ⟨s', rfl, hr'⟩ := hr
    exact ⟨w.set i s', rfl, RW_set h hr'⟩

theorem upd_spec {b : A → Bool} {g : A → A} {r : T → Option T} (h : RW w aw)
    (hr : ∀ s a, R s a → Spec (b a) (r s) fun s' => R s' (g a)) :
    Spec (match aw[i]? with | some a => b a | none => false)
      (match w[i]? with | some s => upd1 w i (r s) | none => none)
      fun w' => RW w' (match aw[i]? with | some a => aw.set i (g a) | none => aw) := by
  cases ha : aw[i]? with
  | none => rw [RW_none h ha]; rfl
  | some a =>
    obtain ⟨s, hs, hrs⟩ := RW_get h ha
    rw [hs]
    exact upd_step h (hr s a hrs)

end P

/-- One call: it is defined exactly inside the discipline (the only exception is the model's own convention that the
self-assignment `assign i i` does nothing even when object `i` does not exist), and the result then refines the
abstract step. -/
theorem step_spec {op : Op} (h : RW w aw) (hself : ∀ i, op = .assign i i → i < w.length) :
    Spec (ok aw op) (step w op) fun w' => RW w' (aStep aw op) := by
  cases op with
  | new r => exact ⟨_, rfl, RW_append h (mk_R r)⟩
  | add i k => exact upd_spec h fun s a hr => add_spec hr
  | remove i k =>
    refine upd_spec (b := fun a => decide (k < a.range)) h fun s a hr => ?_
    have := remove_spec (k := k) false hr
    rwa [Bool.not_false, Bool.true_or, Bool.and_true] at this
  | removeStrict i k => exact upd_spec h fun s a hr => remove_spec true hr
  | init i k c =>
    have hS := upd_spec (i := i) h fun s a hr => init_spec (k := k) (c := c) hr
    by_cases hc : c > 0
    · simp only [if_pos hc] at hS; simp only [aStep, if_pos hc]; exact hS
    · simp only [if_neg hc] at hS; simp only [aStep, if_neg hc]; exact hS
  | clear i =>
    rcases RW_cases h i with ⟨s, a, hs, ha, hr, hi⟩ | ⟨hs, ha, hi⟩
    · simp only [ok, step, aStep, hs, ha, decide_eq_true hi]
      exact upd_step (b := true) h (clear_R hr)
    · simp only [ok, step, hs, decide_eq_false hi]; rfl
  | copy i =>
    rcases RW_cases h i with ⟨s, a, hs, ha, hr, hi⟩ | ⟨hs, ha, hi⟩
    · obtain ⟨t, e1, hrt⟩ := copy_R hr
      simp only [ok, step, aStep, hs, ha, decide_eq_true hi, e1, Option.map]
      exact ⟨_, rfl, RW_append h hrt⟩
    · simp only [ok, step, hs, decide_eq_false hi]; rfl
  | assignFlat i j =>
    by_cases hij : i = j
    · simp only [ok, step, hij, bne_self_eq_false, Bool.false_and, if_true]; rfl
    · rcases RW_cases h i with ⟨t, at', ht, hat, hrt, hi⟩ | ⟨ht, hat, hi⟩
      · rcases RW_cases h j with ⟨s, a, hs, ha, hr, hj⟩ | ⟨hs, ha, hj⟩
        · simp only [ok, step, aStep, hij, ht, hat, hs, ha, decide_eq_true hi, decide_eq_true hj, if_false,
            bne_iff_ne.2 hij, Bool.and_self]
          exact upd_step (b := true) h (assignFlat_R hrt hr)
        · simp only [ok, step, hij, ht, hs, decide_eq_false hj, Bool.and_false, if_false]; rfl
      · simp only [ok, step, hij, ht, decide_eq_false hi, Bool.and_false, Bool.false_and, if_false]; rfl
  | assign i j =>
    by_cases hij : i = j
    · subst hij
      have hi : i < aw.length := h.1 ▸ hself i rfl
      simp only [ok, step, aStep, decide_eq_true hi, beq_self_eq_true, Bool.true_or, Bool.and_self, if_true]
      exact ⟨w, rfl, h⟩
    · rcases RW_cases h i with ⟨t, at', ht, hat, hrt, hi⟩ | ⟨ht, hat, hi⟩
      · rcases RW_cases h j with ⟨s, a, hs, ha, hr, hj⟩ | ⟨hs, ha, hj⟩
        · simp only [ok, step, aStep, hij, ht, hat, hs, ha, decide_eq_true hi, decide_eq_true hj, if_false,
            beq_false_of_ne hij, Bool.true_and, Bool.false_or]
          exact upd_step h (assign_spec hrt hr)
        · simp only [ok, step, hij, ht, hs, decide_eq_false hj, Bool.and_false, Bool.false_and, if_false]; rfl
      · simp only [ok, step, hij, ht, decide_eq_false hi, Bool.false_and, if_false]; rfl

theorem step_refines {w : World} {aw : AWorld} {op : Op} (h : RW w aw) (hok : ok aw op = true) :
    ∃ w', step w op = some w' ∧ RW w' (aStep aw op) := by
  refine (step_spec h fun i e => ?_).of_true hok
  subst e
  rw [ok, Bool.and_eq_true, Bool.and_eq_true, decide_eq_true_eq] at hok
  exact h.1 ▸ hok.1.1

/-- outside `ok` the model is undefined (with the exception named in `step_spec`) -/
theorem step_undefined {op : Op} (h : RW w aw) (hok : ok aw op = false)
    (hself : ∀ i, op = .assign i i → i < w.length) : step w op = none :=
  (step_spec h hself).of_false hok

/-- with a dead `last_`, inserting a key that is not a member has no defined behaviour -/
theorem add_undefined {s : T} {a : A} {k : Nat} (hr : R s a)
    (h : ¬ (k < a.range ∧ ((aKeys a.items).contains k = true ∨ a.dangling = false))) : add s k = none := by
  refine (add_spec hr).of_false (Bool.eq_false_iff.2 fun hb => h ?_)
  rw [Bool.and_eq_true, Bool.or_eq_true, decide_eq_true_eq, Bool.not_eq_true'] at hb
  exact hb

def run : World → List Op → Option World
  | w, [] => some w
  | w, op :: r => (step w op).bind (fun w' => run w' r)

def aRun : AWorld → List Op → AWorld
  | aw, [] => aw
  | aw, op :: r => aRun (aStep aw op) r

def okAll : AWorld → List Op → Bool
  | _, [] => true
  | aw, op :: r => ok aw op && okAll (aStep aw op) r

/-- A history without self-assignment is defined exactly if every call is inside the discipline, and then ends in a
world that refines the abstract one. -/
theorem run_spec : ∀ (ops : List Op) (w : World) (aw : AWorld), RW w aw → (∀ i, Op.assign i i ∈ ops → False) →
    Spec (okAll aw ops) (run w ops) fun w' => RW w' (aRun aw ops)
  | [], w, _, h, _ => ⟨w, rfl, h⟩
  | op :: r, w, aw, h, hself => by
    have h1 := step_spec h fun i e => (hself i (e ▸ List.mem_cons_self)).elim
    rw [okAll, run]
    cases hop : ok aw op with
    | false => rw [h1.of_false hop]; rfl
    | true =>
      obtain ⟨w1, e1, hw1⟩ := h1.of_true hop
      rw [e1]
      exact run_spec r w1 (aStep aw op) hw1 fun i hi => hself i (List.mem_cons_of_mem _ hi)

theorem run_refines_from : ∀ (ops : List Op) (w : World) (aw : AWorld), RW w aw → okAll aw ops = true →
    ∃ w', run w ops = some w' ∧ RW w' (aRun aw ops)
  | [], w, _, h, _ => ⟨w, rfl, h⟩
  | op :: r, w, aw, h, hok => by
    rw [okAll, Bool.and_eq_true] at hok
    obtain ⟨w1, e1, h1⟩ := step_refines h hok.1
    obtain ⟨w', e2, h2⟩ := run_refines_from r w1 (aStep aw op) h1 hok.2
    exact ⟨w', by rw [run, e1]; exact e2, h2⟩

theorem RW_nil : RW [] [] := ⟨rfl, fun _ _ _ hs => nomatch hs⟩

theorem run_refines {ops : List Op} (hok : okAll [] ops = true) :
    ∃ w, run [] ops = some w ∧ RW w (aRun [] ops) :=
  run_refines_from ops [] [] RW_nil hok

theorem run_undefined (ops : List Op) (w : World) (aw : AWorld) (h : RW w aw) (hok : okAll aw ops = false)
    (hself : ∀ i, Op.assign i i ∈ ops → False) : run w ops = none :=
  (run_spec ops w aw h hself).of_false hok

/-- what a client sees after a history inside the discipline: every live object iterates, counts and answers
membership exactly like its value -/
theorem run_observe {ops : List Op} (hok : okAll [] ops = true) :
    ∃ w, run [] ops = some w ∧ w.length = (aRun [] ops).length ∧
      ∀ (i : Nat) (s : T) (a : A), w[i]? = some s → (aRun [] ops)[i]? = some a →
        toList s = some a.items ∧ s.size = a.items.length ∧ isEmpty s = some a.items.isEmpty ∧
        s.index.length = a.range ∧
        ∀ k, k < a.range → contains s k = some ((aKeys a.items).contains k) ∧ count s k = some (aCount a.items k) := by
  obtain ⟨w, e, h⟩ := run_refines hok
  refine ⟨w, e, h.1, fun i s a hs ha => ?_⟩
  have hr := h.2 i s a hs ha
  exact ⟨toList_R hr, size_R hr, isEmpty_R hr, (src_facts hr).2.2.2.2.2,
    fun k hk => ⟨contains_R hr hk, count_R hr hk⟩⟩

/-- for histories from the empty world without self-assignments, `okAll` is exactly the domain on which the model of the
class as coded is defined -/
theorem run_defined_iff {ops : List Op} (hself : ∀ i, Op.assign i i ∈ ops → False) :
    (run [] ops).isSome = okAll [] ops := by
  have := run_spec ops [] [] RW_nil hself
  cases hok : okAll [] ops with
  | true => obtain ⟨w, e, _⟩ := this.of_true hok; rw [e]; rfl
  | false => rw [this.of_false hok]; rfl

namespace Ex

/-- a history inside the discipline that uses every operation (object 1 is dangling for a while) -/
def h1 : List Op :=
  [.new 4, .add 0 1, .add 0 2, .add 0 1, .remove 0 1, .remove 0 1, .init 0 3 1, .copy 0, .new 2, .add 2 0,
   .assignFlat 2 0, .removeStrict 1 3, .add 1 2, .remove 1 0, .clear 0, .assign 0 1, .assign 0 0, .init 1 2 0,
   .clear 1, .add 1 3]

example : okAll [] h1 = true := by decide +kernel

/-- non-vacuity of `run_refines` (and, through its proof, of `step_refines` for every constructor of `Op`) -/
example : ∃ w, run [] h1 = some w ∧ RW w (aRun [] h1) := run_refines (by decide +kernel)

example : aRun [] h1 = [⟨[(2, 2)], 4, false⟩, ⟨[(3, 1)], 4, false⟩, ⟨[(2, 1), (3, 1)], 4, false⟩] := by decide +kernel

example : (aRun [] (h1.take 12))[1]? = some ⟨[(2, 1)], 4, true⟩ := by decide +kernel

example : ∃ w, run [] h1 = some w ∧ w.length = 3 ∧
    ∀ s, w[2]? = some s → toList s = some [(2, 1), (3, 1)] ∧ s.size = 2 ∧ count s 3 = some 1 ∧
      contains s 0 = some false := by
  obtain ⟨w, e, hl, h⟩ := run_observe (ops := h1) (by decide +kernel)
  refine ⟨w, e, hl, fun s hs => ?_⟩
  obtain ⟨o1, o2, _, _, o5⟩ := h 2 s ⟨[(2, 1), (3, 1)], 4, false⟩ hs (by decide +kernel)
  exact ⟨o1, o2, (o5 3 (by decide +kernel)).2, (o5 0 (by decide +kernel)).1⟩

example : ∃ w, run [] [.new 4, .add 0 1, .add 0 2, .remove 0 2] = some w ∧
    RW w [⟨[(1, 1)], 4, true⟩] ∧ ∃ w', step w (.add 0 1) = some w' ∧ RW w' [⟨[(1, 2)], 4, true⟩] := by
  obtain ⟨w, h1, h2⟩ := run_refines (ops := [.new 4, .add 0 1, .add 0 2, .remove 0 2]) (by decide +kernel)
  obtain ⟨w', h3, h4⟩ := step_refines (op := .add 0 1) h2 (by decide +kernel)
  exact ⟨w, h1, h2, w', h3, h4⟩

/-- `erase` does not repair `last_`: after the last element has been erased, inserting a new key
dereferences the deleted cell.  The history is outside `ok` … -/
example : okAll [] [.new 4, .add 0 1, .remove 0 1, .add 0 2] = false := by decide +kernel

/-- … and the model of the class as coded has no defined behaviour on it. -/
example : (run [] [.new 4, .add 0 1, .remove 0 1, .add 0 2]).isNone = true := by decide +kernel

example : ((add (mk 4) 1).bind (fun s => remove s 1 false)).bind (fun s => add s 2) = none := by decide +kernel

/-- the same with `init(key, 0)` as the erasing call and `init(key', c > 0)` as the inserting one -/
example : ((add (mk 4) 1).bind (fun s => init s 1 0)).bind (fun s => init s 2 7) = none := by decide +kernel

/-- re-adding a key that is still a member is fine while `last_` dangles -/
example : ((((add (mk 4) 1).bind (fun s => add s 2)).bind (fun s => remove s 2 false)).bind
    (fun s => add s 1)).bind toList = some [(1, 2)] := by decide +kernel

/-- non-vacuity of `step_undefined`: the world after `new 4; add 1; add 2; remove 2` has a dangling object; every
`add` of a new key and every `init` of a new key with a positive count is undefined there -/
example : ∃ w, run [] [.new 4, .add 0 1, .add 0 2, .remove 0 2] = some w ∧
    step w (.add 0 3) = none ∧ step w (.add 0 2) = none ∧ step w (.init 0 0 7) = none ∧
    step w (.removeStrict 0 2) = none ∧ step w (.add 0 4) = none := by
  obtain ⟨w, h1, h2⟩ := run_refines (ops := [.new 4, .add 0 1, .add 0 2, .remove 0 2]) (by decide +kernel)
  refine ⟨w, h1, ?_, ?_, ?_, ?_, ?_⟩ <;> exact step_undefined h2 (by decide +kernel) (fun i e => by cases e)

example : run [] [.new 4, .add 0 1, .remove 0 1, .add 0 2, .clear 0] = none :=
  run_undefined _ [] [] RW_nil (by decide +kernel) (fun i hi => by simp at hi)

/-- assignment onto a non-empty target is outside the discipline, onto a cleared one inside -/
example : (run [] [.new 4, .add 0 1, .copy 0, .assign 0 1]).isSome = false := by
  rw [run_defined_iff (fun i hi => by simp at hi; omega)]; decide +kernel

example : (run [] [.new 4, .add 0 1, .copy 0, .clear 0, .assign 0 1]).isSome = true := by
  rw [run_defined_iff (fun i hi => by simp at hi; omega)]; decide +kernel

/-- the exception in `step_undefined`: the model (and the harness) treat `x = x` as a no-op before looking `x` up -/
example : ok [] (.assign 0 0) = false ∧ (step [] (.assign 0 0)).isSome = true := by decide +kernel

end Ex

end Vata.LU.SS
