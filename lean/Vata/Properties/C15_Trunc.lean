import Vata.Lang
import Vata.CandidateTrunc
import Vata.Proofs.CandidateTrunc
import Vata.Properties.C15
/-!
# C15 – state numbers as machine integers in the witness search

> For any explicit tree automaton A, GetCandidateTree returns an automaton whose every accepted tree is accepted by A,
> and which accepts at least one tree whenever A does.

## How the C++ is read into the model

`GetCandidateTree` (`src/explicit_tree_candidate.cc`) keeps one bookkeeping record `TransitionInfo` per transition; the
parent state is stored in it by the member initialiser `state_(state)` (field `StateType state_`, `StateType = size_t`) and
read back as `info->state_` in phase 2 (mark reached, queue, `IsStateFinal`) and when the recorded transitions are added to
the result.  `candidateTrunc w` (`Vata/CandidateTrunc.lean`) is the model `candidate` of `Vata/Candidate.lean` with the
parent reduced modulo `2^w` at exactly that place – the construction of the record in phase 1 (`candInitStepT`); what the
C++ takes from the map key (`stateClusterPair.first`: marking and queueing the parent of a leaf rule) and from the shared
`transitions_` (result with `remaining = 0`) is not reduced.  Phase 2 and the assembly are the functions of `candidate`.
`w = 64` is the code as it is, `w = 32` a field declared `unsigned state_`.

## What is abstracted

State numbers of the unbounded model are `Nat`; nothing else of the C++ is narrowed here (children, symbols, the counter
`remaining` stay unbounded).  The enumeration order is the list order of `A.rules` (for other orders apply the theorems to
`⟨ord A.rules, A.final⟩`, as `candidateOrd` does).
-/
namespace Vata.Props

/-- If the parent of every rule of `A` is `< 2^w` (in particular if every state of `A` is), the model with a `w`-bit parent
field is the unbounded model: with `w = 64` the code is `candidate` for every automaton whose states are `size_t` values.
Only parents are constrained – children and final states never pass through the field. -/
theorem C15_trunc_faithful (w : Nat) (A : TA) (h : ∀ r, r ∈ A.rules → r.parent < 2 ^ w) :
    candidateTrunc w A = candidate A := by
  simp only [candidateTrunc, candidate, candRawT, candRaw, candSearchT_eq A h]

/-- hence all of `C15_witness` holds for the `w`-bit code on such automata -/
theorem C15_trunc_witness (w : Nat) (A : TA) (h : ∀ r, r ∈ A.rules → r.parent < 2 ^ w) :
    Incl (candidateTrunc w A) A ∧ ((∃ t, accepts A t = true) → ∃ t, accepts (candidateTrunc w A) t = true) := by
  rw [C15_trunc_faithful w A h]
  exact ⟨(C15_witness A).2.1, (C15_witness A).2.2.1⟩

-- non-vacuity: the hypothesis holds for the example of C15 with `w = 3` (states 0..7), and the results coincide
example : (∀ r, r ∈ CandEx.exA.rules → r.parent < 2 ^ 3) ∧ candidateTrunc 3 CandEx.exA = candidate CandEx.exA :=
  ⟨by decide, C15_trunc_faithful 3 _ (by decide)⟩
example : (candidateTrunc 3 CandEx.exA).rules = [⟨0, [], 0⟩, ⟨3, [], 4⟩, ⟨1, [0, 0], 1⟩, ⟨4, [1, 4], 5⟩] := by decide +kernel

/-- The hypothesis of `C15_trunc_faithful` cannot be dropped – the two failure modes of a too narrow field, `w = 3`:
* `exLost` (`a → 8`, `g(5) → 5`, final `8`) accepts `a`, but the witness automaton has no rule at all (the recorded rule is
  `a → 0`, the only final state is `8`, and `RemoveUnreachableStates` drops what is not below a final state): it is empty (`isEmptyRef`, hence `LangEmpty`, see `C15_trunc_lost_langEmpty`);
* `exWrong` (`a → 8`, `b → 0`, `f(0) → 1`, `g(1) → 2`, final `1`) rejects `f(a)`, the witness automaton accepts it.
In both the only state `≥ 8` is the parent of one leaf rule. -/
theorem C15_trunc_counterexample :
    (accepts CandTruncEx.exLost CandTruncEx.tA = true ∧
      isEmptyRef (candidateTrunc 3 CandTruncEx.exLost) = true ∧
      (candidateTrunc 3 CandTruncEx.exLost).rules = [] ∧
      (∃ r, r ∈ CandTruncEx.exLost.rules ∧ ¬ r.parent < 2 ^ 3)) ∧
    (accepts CandTruncEx.exWrong CandTruncEx.tFA = false ∧
      accepts (candidateTrunc 3 CandTruncEx.exWrong) CandTruncEx.tFA = true ∧
      (∃ r, r ∈ CandTruncEx.exWrong.rules ∧ ¬ r.parent < 2 ^ 3)) := by decide +kernel

/-- first failure mode at L0: the language of `exLost` is not empty, that of its 3-bit witness automaton is -/
theorem C15_trunc_lost_langEmpty :
    (∃ t, accepts CandTruncEx.exLost t = true) ∧ LangEmpty (candidateTrunc 3 CandTruncEx.exLost) :=
  ⟨⟨CandTruncEx.tA, by decide⟩, (isEmptyRef_iff _).mp (by decide)⟩

/-- second failure mode at L0: the 3-bit witness automaton of `exWrong` is not a sub-language -/
theorem C15_trunc_wrong_not_incl : ¬ Incl (candidateTrunc 3 CandTruncEx.exWrong) CandTruncEx.exWrong := by
  intro h
  have := h CandTruncEx.tFA (by decide)
  revert this
  decide

-- the unbounded model is right on both (so the failures are caused by the narrow field alone)
example : accepts (candidate CandTruncEx.exLost) CandTruncEx.tA = true ∧
    accepts (candidate CandTruncEx.exWrong) CandTruncEx.tFA = false := by decide
-- and a field that is wide enough repairs them
example : candidateTrunc 4 CandTruncEx.exLost = candidate CandTruncEx.exLost ∧
    candidateTrunc 4 CandTruncEx.exWrong = candidate CandTruncEx.exWrong :=
  ⟨C15_trunc_faithful 4 _ (by decide), C15_trunc_faithful 4 _ (by decide)⟩

/-!
## still not proved

* A characterisation of `candidateTrunc w A` when some parent is `≥ 2^w` (e.g. "it is `candidate` of the automaton with the
  truncated parents, except for the states marked in phase 1") is not stated; only the two concrete failures are exhibited.
* Narrowing of other integers of the function (`size_t remaining`, symbols, children in `childrenSet_`) is not modelled.
* For an enumeration order other than the list order no separate theorem is stated (apply `C15_trunc_faithful` to
  `⟨ord A.rules, A.final⟩`; the hypothesis is then about the rules of `ord A.rules`).
-/
end Vata.Props
