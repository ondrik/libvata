import Vata.Proofs.LtsEngineCalls2SCRun
/-!
# C16 / C20 – the simulation engine ON `SharedCounter`: the call discipline along the whole run

> C16: `computeSimulation(partition, relation, size)` returns the greatest simulation inside the initial relation.
> C20: the utility classes are used inside their (unchecked) preconditions.
> `Vata/Properties/C16_Discipline3.lean`, "still not proved": *`C16_engine_discipline_SC` … and its corollaries on heaps.*

## How the C++ is read into the model

* The history `Tr2.sc : List SC.Op` is written by `Vata/LtsEngineCalls2.lean` (see the header of `C16_Discipline3.lean`): counter
  object `i` = `partition_[i]->counter_`; `new` / `copyCtor b` (the two `Block` constructors), `resize` / `set` / `init`
  ("initialize counters"), `copyLabels nb b (inset of nb)` (`split`), `decr b1 a pre` (`processRemove`), `destroy i`
  (`~SimulationEngine`).  `scCfg L poison` = `key_`, `labelMap_`, `rowSize_` as `SimulationEngine::SimulationEngine` / `init`
  compute them.
* The discipline is `SC.ok` (`Vata/LtsUtil.lean`): phases `fresh → filling → running`; `set` only in `filling`, with a positive
  count, on a key index below `rows * rowSize` whose cell is still `0`; `decr` only in `running`, on a key index in range whose
  value is POSITIVE; `copyLabels` from a `running` counter into a `fresh` one, labels below `labelMap_.size()`; `destroy` not
  while `filling`.  On histories inside `SC.ok` the class AS CODED (rows in a heap, master values, reference-count cell, copy on
  write, the `CachingArrayAllocator` free list) is proved to refine the table of numbers (`SC.run_refines`).
* Proof (`Vata/Proofs/LtsEngineCalls2SC*.lean`): the invariant `SCI` – one live counter per block; for every label `a` of
  `inset(i)` and `q ∈ delta1[a]` the value of counter `i` at `key_[a * states + q]` is `cnt[i][a][q]` of the engine model, and
  the key index is below `rows * rowSize` (other labels of a copied row may hold stale numbers – they are never read: `decr` is
  only called for labels of `inset(b1)`).  Positivity at every `decr`: `JInv.hC` (counter = specification when nothing lags) +
  `cntSpec_erase` + `count_decrKeys`: the loops after erasing `(b1, col)` call `decr(a, q)` exactly once per `a`-edge from `q`
  into block `col`, and the counter is at least that number.

## What is abstracted

As in `C16_Discipline3.lean` (the interleaving with the other classes is not recorded; read-only calls `get` are not calls).

## Hypothesis added

`labels L * L.n < 2 ^ 64`: `labelMap_[a].second` is computed as `(x + n - 1) / rowSize + 1` on `size_t`, and the model
(`SC.mkLayout`) reduces modulo `2 ^ 64` like the C++; with `2 ^ 64` or more keyed pairs the row range of a label would wrap and
`resize` / `copyLabels` would cut rows off.  `key_` itself has `labels * states` entries, so the hypothesis says that `key_` is
addressable; it is satisfiable (examples below) and cannot be exhibited as violated by a `decide`d system (it needs `≥ 2^64`
states × labels).

## Result

No discipline clause fails on a reachable run: `C16_engine_discipline_SC` is PROVED for every input satisfying the engine's
preconditions.
-/
namespace Vata.Props
open Vata.L Vata.LE Vata.LU Vata.LEC2

/-- **the `SharedCounter` call discipline holds along the whole run.**  For every LTS / partition / block relation satisfying
the engine's preconditions (those of `C16_engine_discipline_SL`) and with an addressable `key_` table, and for `cfg = scCfg L
poison`: the history of ALL `SharedCounter` calls of the constructor, `init` and the first `k` iterations of `run()` (every
`k`), and the history of a completed `computeSimulation` INCLUDING the destructors run by `~SimulationEngine`, is inside `SC.ok`:
every `decr` hits a positive counter of a `running` counter object at a key index inside its rows, every `set` a zero cell
inside the rows chosen by `resize`, every `copyLabels` goes from a `running` parent into the counter just constructed, and
every counter is destroyed exactly once, in the `running` phase. -/
theorem C16_engine_discipline_SC (L : LTS) (part : List (List Nat)) (rel : Rel)
    (hL : ltsOKB L = true) (hp : isPartition part L.n = true) (hc : isConsistent part rel = true)
    (ht : isTransB rel = true) (poison : Nat) (hsmall : labels L * L.n < 2 ^ 64) :
    (∀ k, SC.okAll (scCfg L poison) [] (stateAfterJ L (scCfg L poison) part rel k).2.sc = true) ∧
    (∀ size R t, computeSimulationJ L (scCfg L poison) part rel size = some (R, t) →
      SC.okAll (scCfg L poison) [] t.sc = true) := by
  have ok := scCfg_ok L poison hsmall
  have hg := stateAfterJ_goodC ok (ltsOK_of_B hL) hp hc (relTrans_of_B (part := part) ht)
  refine ⟨fun k => (hg k).1, ?_⟩
  intro size R t h
  rcases computeSimulationJ_some h with ⟨_, _, rfl⟩ | ⟨k, _, _, rfl, _⟩
  · rfl
  · exact (finish_goodC (hg k)).1

/-- **value agreement.**  At every moment of the run the value world reached by the history (`SC.aRun`) has exactly one counter
per block, all in the `running` phase, and the number the class model holds for (block `i`, label `a ∈ inset(i)`, state
`q ∈ delta1[a]`) – at the key index `key_[a * states + q]`, which lies inside the rows of the counter – is the engine model's
`cnt[i][a][q]`. -/
theorem C16_engine_SC_values (L : LTS) (part : List (List Nat)) (rel : Rel)
    (hL : ltsOKB L = true) (hp : isPartition part L.n = true) (hc : isConsistent part rel = true)
    (ht : isTransB rel = true) (poison : Nat) (hsmall : labels L * L.n < 2 ^ 64) (k : Nat) :
    (SC.aRun (scCfg L poison) [] (stateAfterJ L (scCfg L poison) part rel k).2.sc).1.length =
      (stateAfter L part rel k).part.length ∧
    ∀ i, i < (stateAfter L part rel k).part.length →
      ∃ A, (SC.aRun (scCfg L poison) [] (stateAfterJ L (scCfg L poison) part rel k).2.sc).1.getD i none = some A ∧
        A.phase = .running ∧
        ∀ a q, a ∈ (stateAfter L part rel k).ins i → q ∈ delta1 L a →
          ∃ idx, SC.keyIdx (scCfg L poison) a q = some idx ∧ idx < A.rows * (scCfg L poison).rowSize ∧
            A.at idx = (stateAfter L part rel k).cntv i a q := by
  have ok := scCfg_ok L poison hsmall
  have hg := stateAfterJ_goodC ok (ltsOK_of_B hL) hp hc (relTrans_of_B (part := part) ht) k
  have inv := engine_invariant_always (ltsOK_of_B hL) hp hc (relTrans_of_B (part := part) ht) k
  rw [← stateAfterJ_fst L (scCfg L poison)] at inv ⊢
  refine ⟨hg.2.len, fun i hi => ?_⟩
  obtain ⟨A, hA, hph, hbv⟩ := hg.2.blk i hi
  refine ⟨A, hA, hph, fun a q ha hq => ?_⟩
  obtain ⟨h1, h2⟩ := (hbv (by simp)).agree a q ha hq
  exact ⟨_, ok.key a q (inv.wf.ins_lt hi ha) ((mem_delta1 L a q).mp hq).1, h1, h2⟩

/-- **the engine on heaps (`SharedCounter`), at every moment of the run.**  Running the class AS CODED (`SC.run`: rows in the
heap of `counterAllocator_`, `master_` / `data_` per row, the reference-count cell, the free list) on the engine's history never
reaches an undefined outcome, every `decr` returned what the table of numbers returns, and in the world reached:
(1) REFERENCE COUNT = NUMBER OF SHARERS: the count cell of every row a live counter points to is the number of (counter, row)
pairs pointing to it, and is at least 1; (2) NOTHING REFERENCED AFTER BEING FREED: the free list has no duplicates and no row of
it is referenced by a live counter; (3) `get(a, q)` of the counter of block `i` AS CODED returns the engine model's
`cnt[i][a][q]` whenever that is positive (a zero entry of a shared row is not observable: uninitialised memory). -/
theorem C16_engine_SC_on_heaps (L : LTS) (part : List (List Nat)) (rel : Rel)
    (hL : ltsOKB L = true) (hp : isPartition part L.n = true) (hc : isConsistent part rel = true)
    (ht : isTransB rel = true) (poison : Nat) (hsmall : labels L * L.n < 2 ^ 64) (k : Nat) :
    ∃ W, SC.run (scCfg L poison) SC.World.empty (stateAfterJ L (scCfg L poison) part rel k).2.sc =
        some (W, (SC.aRun (scCfg L poison) [] (stateAfterJ L (scCfg L poison) part rel k).2.sc).2) ∧
      (∀ (i : Nat) (c : SC.Cnt) (r : Nat) (row : SC.Row) (p : Nat), W.cnt i = some c → c[r]? = some row → row.data = some p →
        SC.cell W.mem p (scCfg L poison).rowSize = SC.P.refs p W.cnts ∧ 1 ≤ SC.P.refs p W.cnts) ∧
      (W.mem.free.Nodup ∧ ∀ p, p ∈ W.mem.free → ∀ (i : Nat) (c : SC.Cnt) (r : Nat) (row : SC.Row),
        W.cnt i = some c → c[r]? = some row → row.data ≠ some p) ∧
      (∀ i a q, i < (stateAfter L part rel k).part.length → a ∈ (stateAfter L part rel k).ins i → q ∈ delta1 L a →
        0 < (stateAfter L part rel k).cntv i a q →
        ∃ c, W.cnt i = some c ∧ SC.get (scCfg L poison) W.mem c a q = some ((stateAfter L part rel k).cntv i a q)) := by
  have ok := scCfg_ok L poison hsmall
  have hg := stateAfterJ_goodC ok (ltsOK_of_B hL) hp hc (relTrans_of_B (part := part) ht) k
  have hv := C16_engine_SC_values L part rel hL hp hc ht poison hsmall k
  obtain ⟨W, hrun, hinv⟩ := SC.run_refines_empty _ hg.1
  refine ⟨W, hrun, ?_, SC.free_not_referenced hinv, ?_⟩
  · intro i c r row p hci hr hd
    obtain ⟨a, ha⟩ := hinv.live_some' (i := i) hci
    have hi : i < (stateAfterJ L (scCfg L poison) part rel k).1.part.length := by
      rw [← hg.2.len]; exact lt_of_getD_eq_some ha
    obtain ⟨A, hA, hph, _⟩ := hg.2.blk i hi
    rw [ha] at hA
    have : a = A := Option.some.inj hA
    subst this
    exact SC.refcount_eq_sharers hinv ha hci hph hr hd
  · intro i a q hi ha hq hpos
    obtain ⟨A, hA, _, hag⟩ := hv.2 i hi
    obtain ⟨idx, h1, h2, h3⟩ := hag a q ha hq
    obtain ⟨c, hc'⟩ := hinv.live_some hA
    refine ⟨c, hc', ?_⟩
    rw [← h3]
    exact SC.get_refines hinv hA hc' h1 h2 (by rw [h3]; exact hpos)

/-- **copy before the first write to a shared row.**  At every `decr` of the engine's history the class as coded is defined, and
the call writes no data column of a row that has two or more sharers. -/
theorem C16_engine_SC_no_shared_write (L : LTS) (part : List (List Nat)) (rel : Rel)
    (hL : ltsOKB L = true) (hp : isPartition part L.n = true) (hc : isConsistent part rel = true)
    (ht : isTransB rel = true) (poison : Nat) (hsmall : labels L * L.n < 2 ^ 64) (k : Nat)
    (pre post : List SC.Op) (i l q : Nat)
    (hsplit : (stateAfterJ L (scCfg L poison) part rel k).2.sc = pre ++ SC.Op.decr i l q :: post) :
    ∃ W outs W' out, SC.run (scCfg L poison) SC.World.empty pre = some (W, outs) ∧
      SC.step (scCfg L poison) W (.decr i l q) = some (W', out) ∧
      ∀ p, 2 ≤ SC.P.refs p W.cnts → ∀ col, col < (scCfg L poison).rowSize → SC.cell W'.mem p col = SC.cell W.mem p col := by
  have hok := (C16_engine_discipline_SC L part rel hL hp hc ht poison hsmall).1 k
  rw [hsplit, sc_okAll_append, sc_okAll_cons] at hok
  simp only [Bool.and_eq_true] at hok
  obtain ⟨hpre, hop, _⟩ := hok
  obtain ⟨W, hrun, hinv⟩ := SC.run_refines_empty pre hpre
  obtain ⟨W', out, hstep, _, _⟩ := SC.step_refines hinv hop
  exact ⟨W, _, W', out, hrun, hstep, SC.decr_no_shared_write hinv hop hstep⟩

/-- **every counter is destroyed at the end.**  After a completed `computeSimulation` the class as coded has run through the
whole history including the destructors, no counter object is live, no row is referenced, and the free list of the allocator
holds no row twice (no double release). -/
theorem C16_engine_SC_all_destroyed (L : LTS) (part : List (List Nat)) (rel : Rel)
    (hL : ltsOKB L = true) (hp : isPartition part L.n = true) (hc : isConsistent part rel = true)
    (ht : isTransB rel = true) (poison : Nat) (hsmall : labels L * L.n < 2 ^ 64) (size : Nat) (R : Rel) (t : Tr2)
    (h : computeSimulationJ L (scCfg L poison) part rel size = some (R, t)) :
    ∃ W outs, SC.run (scCfg L poison) SC.World.empty t.sc = some (W, outs) ∧ (∀ i, W.cnt i = none) ∧
      (∀ p, SC.P.refs p W.cnts = 0) ∧ W.mem.free.Nodup := by
  have hok := (C16_engine_discipline_SC L part rel hL hp hc ht poison hsmall).2 size R t h
  obtain ⟨W, hrun, hinv⟩ := SC.run_refines_empty _ hok
  have hnone : ∀ j, (SC.aRun (scCfg L poison) [] t.sc).1.getD j none = none := by
    rcases computeSimulationJ_some h with ⟨_, _, rfl⟩ | ⟨k, _, _, rfl, _⟩
    · intro j; simp [Tr2.empty, SC.aRun]
    · exact (finish_goodC (stateAfterJ_goodC (scCfg_ok L poison hsmall) (ltsOK_of_B hL) hp hc
        (relTrans_of_B (part := part) ht) k)).2
  have hdead : ∀ i, W.cnt i = none := fun i => (hinv.live i).mpr (hnone i)
  refine ⟨W, _, hrun, hdead, fun p => ?_, hinv.nodup⟩
  refine Classical.byContradiction fun hne => ?_
  obtain ⟨i, c, hi, _⟩ := SC.P.refs_pos (cs := W.cnts) (Nat.pos_of_ne_zero hne)
  have := hdead i
  unfold SC.World.cnt at this
  rw [hi] at this; cases this

/-! ### non-vacuity -/

-- the hypotheses are satisfiable: `EngEx.L3` (4 states, one label; two iterations of `run()`, each splitting a block)
example : ltsOKB EngEx.L3 = true ∧ isPartition [[0, 1, 2, 3]] EngEx.L3.n = true ∧ isConsistent [[0, 1, 2, 3]] [(0, 0)] = true ∧
    isTransB [(0, 0)] = true ∧ labels EngEx.L3 * EngEx.L3.n < 2 ^ 64 := by decide +kernel

-- the theorem on it, for every `k`
example : ∀ k, SC.okAll (scCfg EngEx.L3 7) [] (stateAfterJ EngEx.L3 (scCfg EngEx.L3 7) [[0, 1, 2, 3]] [(0, 0)] k).2.sc = true :=
  (C16_engine_discipline_SC EngEx.L3 [[0, 1, 2, 3]] [(0, 0)] (by decide +kernel) (by decide +kernel) (by decide +kernel) (by decide +kernel) 7 (by decide +kernel)).1

-- the history of the completed run is not trivial: 20 calls, among them `copyLabels` from a running counter and `decr`s on the
-- parent afterwards (copy on write), and the class as coded ends with every allocated row back in the free list
example : ((computeSimulationJ EngEx.L3 (SC.mkCfg 31 4 7 [[0, 1, 3]]) [[0, 1, 2, 3]] [(0, 0)] 4).bind
    (fun rt => (SC.run (SC.mkCfg 31 4 7 [[0, 1, 3]]) SC.World.empty rt.2.sc).map
      (fun r => (rt.2.sc.length, r.1.mem.free.length, r.1.mem.next)))) = some (20, 2, 2) := by decide +kernel

-- the discipline is not vacuous on the class: a `decr` of a counter that is 0, a second `set` of the same key, a `copyLabels`
-- from a counter that is not yet running are outside
example : SC.okAll (SC.mkCfg 31 4 7 [[0, 1, 3]]) [] [.new, .resize 0 1, .set 0 0 0 1, .init 0, .decr 0 0 0, .decr 0 0 0] = false ∧
    SC.okAll (SC.mkCfg 31 4 7 [[0, 1, 3]]) [] [.new, .resize 0 1, .set 0 0 0 1, .set 0 0 0 2] = false ∧
    SC.okAll (SC.mkCfg 31 4 7 [[0, 1, 3]]) [] [.new, .resize 0 1, .set 0 0 0 1, .copyCtor 0, .copyLabels 1 0 [0]] = false := by
  decide +kernel

/-!
## which "still not proved" items of `C16_Discipline3.lean` this file closes

* `C16_engine_discipline_SC` (along the run and with the destructors of `~SimulationEngine`): closed, with the extra hypothesis
  `labels L * L.n < 2 ^ 64` (see the header).
* the corollaries on heaps: `C16_engine_SC_on_heaps` (`SC.refcount_eq_sharers`, `SC.free_not_referenced`, `get` as coded = the
  engine model's counter), `C16_engine_SC_no_shared_write` (`SC.decr_no_shared_write` at every `decr` of the history),
  `C16_engine_SC_values` (value agreement through `keyIdx`), `C16_engine_SC_all_destroyed`.

## still not proved

* "All rows released at the end" is proved in the form: no live counter, no referenced row, no row twice in the free list
  (`C16_engine_SC_all_destroyed`).  That EVERY row ever allocated is back in the free list (no leak: `p < mem.next → p ∈ mem.free`
  in the final world) is not proved: `SC.Inv` has no "allocated = free or referenced" clause; it is `decide`d on the example above
  (2 rows allocated, 2 in the free list).
* `C16_engine_SC_on_heaps (3)` is restricted to POSITIVE counters (as `SC.get_refines` is, and has to be: see the last example of
  `Vata/Proofs/LtsUtilSC5.lean`); that the engine never calls `get` on a zero entry is not a statement about `SC.Op` (the engine
  makes no `get` calls at all outside `assert`s).
* The hypothesis `labels L * L.n < 2 ^ 64` is not dropped (the model's `labelMap_` wraps modulo `2 ^ 64` like the C++).
* The items listed at the end of `C16_Discipline3.lean` that are not named above (`SharedList` values = `RemList` of the engine
  model; `DeltaOK`; the `SplittingRelation` history).
-/
end Vata.Props
