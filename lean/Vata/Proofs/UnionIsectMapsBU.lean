import Vata.UnionIsectMaps
import Vata.Proofs.IsectBUInv
/-!
# Property C02 – `IntersectionBU` started from a caller-supplied map (`isectBUFrom`, `Vata/UnionIsectMaps.lean`)

From the EMPTY map `isectBUFrom` is `isectBU` (whose final certificate check never fails), so everything proved about
`isectBU` holds for the as-coded output; in particular the language is the intersection.

`IsectBUFromEx`: `decide`d runs with pre-filled maps.  Unlike `Intersection`, `IntersectionBU` pushes an entry after EVERY
rule it writes and in the leaf phase (`stack.push_back(&*productState)`, `stack.push_back(&*newProduct)`, whether or not
the pair was new), so a pre-filled pair is processed as soon as it is reached bottom-up: the runs that go wrong for
`Intersection` (`Props.C02_isect_prefilled_unexplored_counterexample`, `…_reuse_counterexample`) are right here.
Numbers that are not below the size still collide (`Props.C02_isectBU_prefilled_collision_counterexample`; here the
language gets too SMALL, because `newStates` is keyed by the number and the second pair with the number is skipped).

The general theorem for a non-empty `MapOk` map is in `Vata/Proofs/UnionIsectMapsBUInv.lean`.
-/
namespace Vata

/-- `isectBUFrom` makes no check of its own: it is its loop -/
theorem isectBUFrom_eq_loop (A B : TA) (m0 : PMap) (fuel : Nat) :
    isectBUFrom A B m0 fuel = (buLoop A B fuel (buLeafPhase A B (buLeafPairs A B) m0 [] [] []).1
      (buLeafPhase A B (buLeafPairs A B) m0 [] [] []).2.1 []
      (buLeafPhase A B (buLeafPairs A B) m0 [] [] []).2.2.1 (buLeafPhase A B (buLeafPairs A B) m0 [] [] []).2.2.2).map
        (fun r => (⟨r.2.1, r.2.2⟩, r.1)) := by
  unfold isectBUFrom
  dsimp only
  split
  next h => rw [h]; rfl
  next h => rw [h]; rfl

theorem isectBUFrom_nil (A B : TA) (fuel : Nat) : isectBUFrom A B [] fuel = isectBU A B fuel := by
  rw [isectBU_eq_loop, isectBUFrom_eq_loop]

theorem isectBUFrom_lang_empty {A B : TA} {fuel : Nat} {P : TA} {m : PMap} (h : isectBUFrom A B [] fuel = some (P, m))
    (t : Tree) : accepts P t = (accepts A t && accepts B t) := by
  rw [isectBUFrom_nil] at h
  exact isectBU_lang h t

theorem isectBUFrom_map_inj_empty {A B : TA} {fuel : Nat} {P : TA} {m : PMap} (h : isectBUFrom A B [] fuel = some (P, m)) :
    InjOn (lookupF m) m.dom := by
  rw [isectBUFrom_nil] at h
  exact isectBU_map_inj h

namespace IsectBUFromEx

/-- `a → 0`, `h(0) → 1`, final `1`: the language is `{h(a)}` -/
def exA : TA := ⟨[⟨0, [], 0⟩, ⟨2, [0], 1⟩], [1]⟩
def tA : Tree := .node 0 []
def tHA : Tree := .node 2 [.node 0 []]

def obs (r : Option (TA × PMap)) : Option (List Rule × List Nat × PMap) := r.map (fun r => (r.1.rules, r.1.final, r.2))

example : obs (isectBUFrom exA exA [] 6) = some ([⟨0, [], 0⟩, ⟨2, [0], 1⟩], [1], [((0, 0), 0), ((1, 1), 1)]) := by decide +kernel
-- the pre-filled maps for which `Intersection` is wrong: `IntersectionBU` is right
example : obs (isectBUFrom exA exA [((0, 0), 0)] 6) = some ([⟨0, [], 0⟩, ⟨2, [0], 1⟩], [1], [((0, 0), 0), ((1, 1), 1)]) := by
  decide +kernel
example : obs (isectBUFrom exA exA [((1, 1), 0), ((0, 0), 1)] 6) =
    some ([⟨0, [], 1⟩, ⟨2, [1], 0⟩], [0], [((1, 1), 0), ((0, 0), 1)]) := by decide +kernel
-- re-use of the map of a previous `IntersectionBU`
example : obs (isectBUFrom exA exA [((0, 0), 0), ((1, 1), 1)] 6) =
    some ([⟨0, [], 0⟩, ⟨2, [0], 1⟩], [1], [((0, 0), 0), ((1, 1), 1)]) := by decide +kernel
-- a pre-filled pair that is never reached bottom-up stays in the map and gets no rules
example : obs (isectBUFrom exA exA [((0, 1), 0)] 6) =
    some ([⟨0, [], 1⟩, ⟨2, [1], 2⟩], [2], [((0, 1), 0), ((0, 0), 1), ((1, 1), 2)]) := by decide +kernel

example : ∃ P m, isectBUFrom exA exA [] 6 = some (P, m) ∧ ∀ t, accepts P t = (accepts exA t && accepts exA t) := by
  cases h : isectBUFrom exA exA [] 6 with
  | none => exact absurd h (by decide)
  | some r => exact ⟨r.1, r.2, rfl, isectBUFrom_lang_empty h⟩

end IsectBUFromEx

end Vata
