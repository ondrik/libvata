import Vata.Proofs.LtsEnginePrune
/-!
# The LTS simulation engine: `processRemove` preserves the invariant and lowers the termination measure

`Inv L S I e`: the state is well formed, queue and slots agree, the semantic invariant `Sem` holds with no removal in
progress, the induced relation on states stays inside the initial relation `I` and is closed under composition with the
simulation `S` on the right (`hA`: `R x y → S y z → R x z`) – with reflexivity this gives `S ⊆ R`.
-/
namespace Vata.LE
open Vata.L

structure Inv (L : LTS) (S I : Nat → Nat → Prop) (e : Eng) : Prop where
  wf : WF L e
  qk : QOK e
  sem : Sem L e (fun _ _ _ => False)
  hA : ∀ x y z, x < L.n → e.R x y → S y z → e.R x z
  hI : ∀ x y, x < L.n → y < L.n → e.R x y → I x y

/-- the state after `remove = block->remove_[label]; block->remove_[label] = nullptr` (queue already popped) -/
def popState (e : Eng) (b a : Nat) (rest : List (Nat × Nat)) : Eng :=
  { e with queue := rest, rem := setRem e.rem b a none }

theorem processRemove_eq (L : LTS) (e : Eng) (b a : Nat) (rest : List (Nat × Nat)) (remove : RemList)
    (hr : e.remv b a = some remove) :
    processRemove L { e with queue := rest } b a =
      (buildPre L (popState e b a rest) b a).foldl (pruneRow L (split L (popState e b a rest) (flat remove)).2)
        (split L (popState e b a rest) (flat remove)).1 := by
  have h : ({ e with queue := rest } : Eng).remv b a = some remove := hr
  unfold processRemove
  rw [h]
  rfl

theorem popState_remv (e : Eng) (b a : Nat) (rest : List (Nat × Nat)) (i a' : Nat) :
    (popState e b a rest).remv i a' = if i = b ∧ a' = a then none else e.remv i a' :=
  rget_setRem _ _ _ _ _ _

theorem popState_slot (e : Eng) (b a : Nat) (rest : List (Nat × Nat)) (i a' : Nat) :
    slotL (popState e b a rest) i a' = if i = b ∧ a' = a then [] else slotL e i a' := by
  have := popState_remv e b a rest i a'
  by_cases hk : i = b ∧ a' = a
  · rw [if_pos hk] at this ⊢
    exact slotL_none this
  · rw [if_neg hk] at this ⊢
    exact slotL_congr this

/-- the removals in progress: the states on the list taken off slot `(b, a)`, for the targets in the old block `b` -/
def Ghost (e : Eng) (b a : Nat) (rm : List Nat) : Nat → Nat → Nat → Prop :=
  fun p' a' q => a' = a ∧ p' ∈ e.block b ∧ q ∈ rm

theorem popState_facts {L : LTS} {S I : Nat → Nat → Prop} {e : Eng} {b a : Nat} {rest : List (Nat × Nat)}
    {remove : RemList} (hL : LtsOK L) (inv : Inv L S I e) (hq : e.queue = (b, a) :: rest)
    (hr : e.remv b a = some remove) :
    WF L (popState e b a rest) ∧ QOK (popState e b a rest) ∧
      Sem L (popState e b a rest) (Ghost e b a (flat remove)) ∧ pot L (popState e b a rest) + 1 = pot L e := by
  have hslot := popState_slot e b a rest
  have hnd := List.nodup_cons.mp (hq ▸ inv.qk.hnd)
  refine ⟨WF.congr (e := e) rfl rfl rfl inv.wf, ⟨hnd.2, fun i a' => ?_, fun i a' h => inv.qk.hlt i a' (hq ▸ List.mem_cons_of_mem _ h)⟩,
    ⟨inv.sem.hC, fun i a' q q' hi hqs hed => ?_, fun i a' hi => ?_, fun p a' p' q hed hR hqn => ?_⟩, ?_⟩
  · show _ ↔ (i, a') ∈ rest
    rw [popState_remv]
    by_cases hk : i = b ∧ a' = a
    · rw [if_pos hk, hk.1, hk.2]
      exact ⟨fun h => absurd h Bool.false_ne_true, fun h => absurd h hnd.1⟩
    · rw [if_neg hk, inv.qk.hiff i a', hq, mem_cons_pair hk]
  · rw [hslot] at hqs
    by_cases hk : i = b ∧ a' = a
    · rw [if_pos hk] at hqs; cases hqs
    · rw [if_neg hk] at hqs; exact inv.sem.hD i a' q q' hi hqs hed
  · rw [hslot]
    by_cases hk : i = b ∧ a' = a
    · rw [if_pos hk]; exact ⟨List.nodup_nil, fun q hq => absurd hq List.not_mem_nil⟩
    · rw [if_neg hk]; exact inv.sem.hN i a' hi
  · rcases inv.sem.hE p a' p' q hed hR hqn with h | h | h
    · exact Or.inl h
    · -- a state on the list that was taken off is a removal in progress
      show _ ∨ q ∈ slotL (popState e b a rest) (blockOf e.part p') a' ∨ _
      rw [hslot]
      by_cases hk : blockOf e.part p' = b ∧ a' = a
      · refine Or.inr (Or.inr ⟨hk.2, hk.1 ▸ (inv.wf.blockOf_mem (hL _ hed).2).2, ?_⟩)
        rw [hk.1, hk.2, slotL_some hr] at h; exact h
      · rw [if_neg hk]; exact Or.inr (Or.inl h)
    · exact absurd h id
  · show rest.length + (L.n - e.part.length) * _ + posCnt L e + 1 = e.queue.length + _ + posCnt L e
    rw [hq, List.length_cons]
    omega

/-- the `split` phase, with the termination measure -/
theorem split_spec' {L : LTS} {e0 : Eng} {rm : List Nat} (w0 : WF L e0) (qk : QOK e0) (hrm : ∀ q, q ∈ rm → q < L.n)
    (hnd : rm.Nodup) :
    ∃ par, PhaseRes L e0 rm (split L e0 rm) par ∧ QOK (split L e0 rm).1 ∧ Refine L e0 (split L e0 rm).1 par ∧
      pot L (split L e0 rm).1 ≤ pot L e0 := by
  rw [split_eq]
  have hs : StepOK L (stepS L) (fun e par =>
      (QOK e ∧ WF L e ∧ Refine L e0 e par ∧ e.nextId = e0.nextId) ∧ pot L e ≤ pot L e0) := by
    intro e par b rest new w hP sok
    obtain ⟨h1, h2, h3, h4⟩ := stepS_ok L e0 e par b rest new w hP.1 sok
    exact ⟨h1, h2, h3, h4, Nat.le_trans (pot_split w sok) hP.2⟩
  obtain ⟨par, res, ⟨hq, _, hr, _⟩, hp⟩ := phase_all (stepS L) _ hs w0 hrm hnd
    ⟨⟨qk, w0, Refine.refl L e0, rfl⟩, Nat.le_refl _⟩
  exact ⟨par, res, hq, hr, hp⟩

/-- the `split` phase of `processRemove` -/
theorem split_spec {L : LTS} {e0 : Eng} {rm : List Nat} (w0 : WF L e0) (qk : QOK e0) (hrm : ∀ q, q ∈ rm → q < L.n)
    (hnd : rm.Nodup) :
    ∃ par, PhaseRes L e0 rm (split L e0 rm) par ∧ QOK (split L e0 rm).1 ∧ Refine L e0 (split L e0 rm).1 par :=
  (split_spec' w0 qk hrm hnd).imp fun _ h => ⟨h.1, h.2.1, h.2.2.1⟩

theorem mem_buildPre {L : LTS} {e : Eng} (b a c : Nat) :
    c ∈ buildPre L e b a ↔ ∃ s, s ∈ e.block b ∧ ∃ p, (p, a, s) ∈ L.edges ∧ blockOf e.part p = c := by
  simp only [buildPre, mem_dedupF, List.mem_flatMap, List.mem_map, List.not_mem_nil, not_false_eq_true, and_true,
    mem_pre]

section preList
variable {L : LTS} (hL : LtsOK L) {e0 : Eng} {b a : Nat} {rm : List Nat} {par : Nat → Nat}
  (res : PhaseRes L e0 rm (split L e0 rm) par) (hpre : ∀ p s, (p, a, s) ∈ L.edges → s ∈ e0.block b → p ∉ rm)
include hL res hpre

/-- the predecessors of `b` are not on the list, so they keep their blocks in `split`: `preList` lists their blocks after it, too -/
theorem mem_preList_split (c : Nat) :
    c ∈ buildPre L e0 b a ↔
      ∃ s, s ∈ e0.block b ∧ ∃ p, (p, a, s) ∈ L.edges ∧ blockOf (split L e0 rm).1.part p = c := by
  rw [mem_buildPre]
  exact exists_congr fun s => and_congr_right fun hs => exists_congr fun p => and_congr_right fun hed => by
    rw [res.hstay p (hL _ hed).1 (hpre p s hed hs)]

/-- … hence none of them is marked -/
theorem preList_unmarked : ∀ c, c ∈ buildPre L e0 b a → c < (split L e0 rm).1.part.length ∧ c ∉ (split L e0 rm).2 := by
  intro c hc
  obtain ⟨s, hs, p, hed, rfl⟩ := (mem_preList_split hL res hpre c).mp hc
  exact ⟨(res.wf.blockOf_mem (hL _ hed).1).1, fun hm => hpre p s hed hs ((res.mem_mask (hL _ hed).1).mp hm)⟩

end preList

/-- a state without pending removals satisfies the lagging-counter invariant with nothing lagging -/
theorem jinv_of_sem {L : LTS} {s1 : Eng} {G : Nat → Nat → Nat → Prop} (w : WF L s1) (qk : QOK s1)
    (sem : Sem L s1 G) : JInv L (pot L s1) s1 0 s1 [] := by
  refine ⟨w, qk, ?_, sem.hD, sem.hN, ?_, fun _ _ _ => rfl, fun k hk => (by cases hk), fun _ _ _ h => h, Nat.le_refl _⟩
  · intro i a q hi ha
    rw [sem.hC i a q hi ha]; simp
  · intro i a q _ _ h0
    exact Or.inr (Or.inl h0)

section step
variable {L : LTS} {S I : Nat → Nat → Prop}

/-- states on the remove list of slot `(b, a)` have no `a`-successor in a block of row `b` -/
theorem Inv.slot_no_succ {e : Eng} {b a : Nat} {remove : RemList} (inv : Inv L S I e) (hb : b < e.part.length)
    (hr : e.remv b a = some remove) : ∀ q, q ∈ flat remove → ∀ q', (q, a, q') ∈ L.edges → ¬ e.U b q' :=
  fun q hqr q' hed => inv.sem.hD b a q q' hb (by rw [slotL_some hr]; exact hqr) hed

/-- `a`-predecessors of block `b` are not on the remove list of slot `(b, a)` -/
theorem Inv.pre_not_slot {e : Eng} {b a : Nat} {remove : RemList} (inv : Inv L S I e) (hb : b < e.part.length)
    (hr : e.remv b a = some remove) : ∀ p s, (p, a, s) ∈ L.edges → s ∈ e.block b → p ∉ flat remove :=
  fun p s hed hs hp => inv.slot_no_succ hb hr p hp s hed
    (show blockOf e.part s ∈ e.row b from (inv.wf.blockOf_eq hs).symm ▸ inv.wf.hrefl b hb)

/-- What `processRemove` meets when it is called for the head `(b, a)` of the queue of a state that satisfies the invariant: the
slot holds a duplicate-free list `remove`; behind the pop (`e0`) the state is well formed and satisfies `Sem` up to the removals in
progress; `split` (result `sm`) refines `e0` and starts the pruning loops with nothing lagging; no row of `preList` is marked. -/
structure Stages (L : LTS) (e : Eng) (b a : Nat) (remove : RemList) (par : Nat → Nat) (e0 : Eng) (sm : Eng × List Nat) :
    Prop where
  hr : e.remv b a = some remove
  hb : b < e.part.length
  hnd : (flat remove).Nodup
  hlt : ∀ q, q ∈ flat remove → q < L.n
  w0 : WF L e0
  qk0 : QOK e0
  sem0 : Sem L e0 (Ghost e b a (flat remove))
  hpot0 : pot L e0 + 1 = pot L e
  res : PhaseRes L e0 (flat remove) sm par
  qk1 : QOK sm.1
  rf : Refine L e0 sm.1 par
  hpot1 : pot L sm.1 ≤ pot L e0
  sem1 : Sem L sm.1 (Ghost e b a (flat remove))
  j1 : JInv L (pot L sm.1) sm.1 0 sm.1 []
  hpl : ∀ c, c ∈ buildPre L e0 b a → c < sm.1.part.length ∧ c ∉ sm.2

theorem processRemove_stages (hL : LtsOK L) {e : Eng} {b a : Nat} {rest : List (Nat × Nat)} (inv : Inv L S I e)
    (hq : e.queue = (b, a) :: rest) :
    ∃ remove par, Stages L e b a remove par (popState e b a rest) (split L (popState e b a rest) (flat remove)) := by
  have hb : b < e.part.length := inv.qk.hlt b a (by rw [hq]; exact List.mem_cons_self)
  obtain ⟨remove, hr⟩ := Option.isSome_iff_exists.mp ((inv.qk.hiff b a).mpr (by rw [hq]; exact List.mem_cons_self))
  obtain ⟨w0, qk0, sem0, hpot0⟩ := popState_facts hL inv hq hr
  have hrmN := inv.sem.hN b a hb
  rw [slotL_some hr] at hrmN
  obtain ⟨par, res, qk1, rf, hpot1⟩ := split_spec' w0 qk0 hrmN.2 hrmN.1
  have sem1 := sem_refine hL w0 res.wf rf sem0
  exact ⟨remove, par, hr, hb, hrmN.1, hrmN.2, w0, qk0, sem0, hpot0, res, qk1, rf, hpot1, sem1,
    jinv_of_sem res.wf qk1 sem1, preList_unmarked hL (b := b) res (inv.pre_not_slot hb hr)⟩

theorem processRemove_inv (hL : LtsOK L) (hS : IsSim L S) (hSn : ∀ y z, S y z → y < L.n ∧ z < L.n) {e : Eng}
    {b a : Nat} {rest : List (Nat × Nat)} (inv : Inv L S I e) (hq : e.queue = (b, a) :: rest) :
    Inv L S I (processRemove L { e with queue := rest } b a) ∧
      pot L (processRemove L { e with queue := rest } b a) + 1 ≤ pot L e := by
  obtain ⟨remove, par, hr, hb, _, _, w0, qk0, sem0, hpot0, res, qk1, rf, hpot1, sem1, j1, hF4⟩ := processRemove_stages hL inv hq
  rw [processRemove_eq L e b a rest remove hr]
  have hslot0 : slotL (popState e b a rest) b a = [] := by rw [popState_slot, if_pos ⟨rfl, rfl⟩]
  have hF1 := inv.slot_no_succ hb hr
  have hF3 := mem_preList_split hL (b := b) res (inv.pre_not_slot hb hr)
  -- from here on the state after the pop, the result of `split` and `preList` are variables
  generalize flat remove = rm at *
  have hpart0 : (popState e b a rest).part = e.part := rfl
  have hblock0 : ∀ i, (popState e b a rest).block i = e.block i := fun _ => rfl
  have hrow0 : ∀ i, (popState e b a rest).row i = e.row i := fun _ => rfl
  generalize popState e b a rest = e0 at *
  generalize buildPre L e0 b a = pl at *
  generalize split L e0 rm = sm at *
  obtain ⟨s1, mask⟩ := sm
  have w1 : WF L s1 := res.wf
  have rs : RefineS L e0 s1 par := res.rs
  obtain ⟨j, hp, hi, hrowf⟩ := prunePhase_spec mask hL pl s1 hF4 j1
  generalize pl.foldl (pruneRow L mask) s1 = e' at *
  -- the new relation on states
  have hR' : ∀ x y, e'.R x y ↔ s1.R x y ∧ ¬ (blockOf s1.part x ∈ pl ∧ blockOf s1.part y ∈ mask) := by
    intro x y
    show blockOf e'.part y ∈ e'.row (blockOf e'.part x) ↔ _
    rw [hp, hrowf]
    by_cases h : blockOf s1.part x ∈ pl
    · rw [if_pos h, List.mem_filter, Bool.not_eq_true', ← Bool.not_eq_true, List.contains_iff_mem]
      exact and_congr_right fun _ => ⟨fun h2 hc => h2 hc.2, fun h2 hc => h2 ⟨h, hc⟩⟩
    · rw [if_neg h]
      exact ⟨fun h1 => ⟨h1, fun hc => h hc.1⟩, fun h1 => h1.1⟩
  -- the relation of `s1` is that of `e`
  have hR1 : ∀ x y, x < L.n → y < L.n → (s1.R x y ↔ e.R x y) := fun x y hx hy =>
    (rs.rel_iff w0 w1 hx hy).trans (by rw [hpart0, hrow0]; exact Iff.rfl)
  -- a child of `b` in `s1` has the old block `b` as parent
  have hparb : ∀ s, s ∈ e.block b → blockOf s1.part s < s1.part.length ∧ par (blockOf s1.part s) = b := by
    intro s hs
    have hsn : s < L.n := inv.wf.lt_of_mem hs
    exact ⟨(w1.blockOf_mem hsn).1, by rw [rs.par_blockOf w0 w1 hsn, hpart0, inv.wf.blockOf_eq hs]⟩
  have hA1 : ∀ x y z, x < L.n → s1.R x y → S y z → s1.R x z := by
    intro x y z hx hxy hyz
    obtain ⟨hy, hz⟩ := hSn y z hyz
    exact (hR1 x z hx hz).mpr (inv.hA x y z hx ((hR1 x y hx hy).mp hxy) hyz)
  refine ⟨⟨j.wf, j.qk, ⟨fun i a' q hi ha' => ?_, j.hD, j.hN, fun p a' p' q hed hR hqn => ?_⟩,
    fun x y z hx hxy hyz => ?_, fun x y hx hy hxy => ?_⟩, Nat.le_trans (Nat.succ_le_succ j.hpot) ?_⟩
  · rw [j.hC i a' q hi ha']; split <;> rfl
  · -- simulation up to pending removals
    by_cases hex : ∃ q', (q, a', q') ∈ L.edges ∧ e'.R p' q'
    · exact Or.inl hex
    · refine Or.inr (Or.inl ?_)
      obtain ⟨hlt, hmem⟩ := j.wf.blockOf_mem (hL _ hed).2
      have hains : a' ∈ e'.ins (blockOf e'.part p') :=
        (j.wf.mem_ins hlt a').mpr ⟨p', hmem, (hasIn_iff L a' p').mpr ⟨p, hed⟩⟩
      have h0 : cntSpec L e' (blockOf e'.part p') a' q = 0 :=
        cntSpec_eq_zero.mpr (fun q' hq' hu => hex ⟨q', hq', hu⟩)
      rcases j.spec_zero hlt hains h0 with h | h
      · exact h
      · -- no successor already in `s1`
        rw [hp] at h ⊢
        rcases sem1.hE p a' p' q hed ((hR' p q).mp hR).1 hqn with ⟨q', hq', hRq'⟩ | hsl | hG
        · exact absurd hRq' (cntSpec_eq_zero.mp h q' hq')
        · exact j.hmono _ a' q hsl
        · exact absurd ⟨(hF3 _).mpr ⟨p', (hblock0 b).symm ▸ hG.2.1, p, hG.1 ▸ hed, rfl⟩, (res.mem_mask hqn).mpr hG.2.2⟩
            ((hR' p q).mp hR).2
  · -- closure under the simulation
    obtain ⟨hyn, hzn⟩ := hSn y z hyz
    obtain ⟨hxy1, hxy2⟩ := (hR' x y).mp hxy
    refine (hR' x z).mpr ⟨hA1 x y z hx hxy1 hyz, ?_⟩
    rintro ⟨hxpl, hzm⟩
    have hynot : y ∉ rm := fun hc => hxy2 ⟨hxpl, (res.mem_mask hyn).mpr hc⟩
    have hzin : z ∈ rm := (res.mem_mask hzn).mp hzm
    obtain ⟨s, hs, p, hed, hpc⟩ := (hF3 _).mp hxpl
    rw [hblock0] at hs
    have hpy : s1.R p y := by
      show blockOf s1.part y ∈ s1.row (blockOf s1.part p)
      rw [hpc]; exact hxy1
    obtain ⟨hslt, hspar⟩ := hparb s hs
    rcases sem1.hE p a s y hed hpy hyn with ⟨y', hy', hRy'⟩ | hsl | hG
    · obtain ⟨z', hz', hSz'⟩ := hS y z hyz a y' hy'
      have := (rs.hU _ z' hslt (hL _ hz').2).mp (hA1 s y' z' (hL _ hed).2 hRy' hSz')
      rw [hspar, hpart0, hrow0] at this
      exact hF1 z hzin z' hz' this
    · -- the slot of a child of `b` for label `a` is empty
      rcases rf.slot hslt a with h | h
      · rw [h] at hsl; cases hsl
      · rw [h, hspar, hslot0] at hsl; cases hsl
    · exact hynot hG.2.2
  · exact inv.hI x y hx hy ((hR1 x y hx hy).mp ((hR' x y).mp hxy).1)
  · rw [← hpot0]; exact Nat.succ_le_succ hpot1

end step

end Vata.LE
