import Vata.RenameCoded
/-!
# C14 as coded – part 1: any translator object

* `…_gen`: for every loop of `ReindexStates` the translator sees exactly the keys of `lookupOrder`, in that order, up to the first
  one that throws (`appSeq`), and
* the run with a LAWFUL translator object (answers are never revised: `Lawful`) is the run with the stateless partial function
  `optT g` for every `g` that extends the final container and is undefined on the thrown key.

The two together are `Replay`; the loops are put together in two ways, a look-up followed by the rest (`Replay.app`) and a loop
followed by the rest (`Replay.seq`).
-/
namespace Vata.RenameCoded
open Vata.Store

def Le (v1 v2 : Nat → Option Nat) : Prop := ∀ x y, v1 x = some y → v2 x = some y

theorem Le.refl (v : Nat → Option Nat) : Le v v := fun _ _ h => h
theorem Le.trans {a b c : Nat → Option Nat} (h1 : Le a b) (h2 : Le b c) : Le a c := fun x y h => h2 x y (h1 x y h)

/-- the translator behaves like a growing partial map `view st`: an answer is recorded, recorded answers are kept, a call
throws only on an unrecorded key -/
structure Lawful {σ : Type} (T : Transl σ) (view : σ → Nat → Option Nat) : Prop where
  hit : ∀ st q q' st', T.app st q = some (q', st') → view st' q = some q'
  mono : ∀ st q q' st', T.app st q = some (q', st') → Le (view st) (view st')
  miss : ∀ st q, T.app st q = none → view st q = none

section
variable {σ : Type} {T : Transl σ}

theorem appSeq_append (T : Transl σ) : ∀ (a b : List Nat) (st : σ),
    appSeq T (a ++ b) st = match (appSeq T a st).1 with
      | some k => (some k, (appSeq T a st).2)
      | none => appSeq T b (appSeq T a st).2
  | [], b, st => by simp [appSeq]
  | k :: a, b, st => by
    simp only [List.cons_append, appSeq]
    cases h : T.app st k with
    | none => simp
    | some p => simp only; exact appSeq_append T a b p.2

/-- a run whose lookups are `a` (first component of the `…_gen` lemmas), followed by the lookups `b` -/
theorem appSeq_append_none {a : List Nat} {st tr : σ} {thr : Option Nat} (b : List Nat)
    (h : (thr, tr) = appSeq T a st) (hn : thr = none) : appSeq T (a ++ b) st = appSeq T b tr := by
  rw [appSeq_append, ← h, hn]

theorem appSeq_append_some {a : List Nat} {st tr : σ} {thr : Option Nat} {k : Nat} (b : List Nat)
    (h : (thr, tr) = appSeq T a st) (hk : thr = some k) : appSeq T (a ++ b) st = (some k, tr) := by
  rw [appSeq_append, ← h, hk]

variable {view : σ → Nat → Option Nat}

theorem appSeq_le (L : Lawful T view) : ∀ (ks : List Nat) (st : σ), Le (view st) (view (appSeq T ks st).2)
  | [], st => Le.refl _
  | k :: ks, st => by
    simp only [appSeq]
    cases h : T.app st k with
    | none => exact Le.refl _
    | some p =>
      obtain ⟨q', st'⟩ := p
      exact (L.mono st k q' st' h).trans (appSeq_le L ks st')

theorem le_of_keys (L : Lawful T view) {ks : List Nat} {st tr : σ} {thr : Option Nat} (h : (thr, tr) = appSeq T ks st) :
    Le (view st) (view tr) := by
  have := appSeq_le L ks st
  rwa [← h] at this

theorem appSeq_pres {P : σ → Prop} (hP : ∀ st q q' st', P st → T.app st q = some (q', st') → P st') :
    ∀ (ks : List Nat) (st : σ), P st → P (appSeq T ks st).2
  | [], st, h => h
  | k :: ks, st, h => by
    simp only [appSeq]
    cases ha : T.app st k with
    | none => exact h
    | some p =>
      obtain ⟨q', st'⟩ := p
      exact appSeq_pres hP ks st' (hP st k q' st' h ha)

theorem appSeq_thrown : ∀ (ks : List Nat) (st : σ) (k : Nat), (appSeq T ks st).1 = some k →
    k ∈ ks ∧ T.app (appSeq T ks st).2 k = none
  | [], st, k, h => by simp [appSeq] at h
  | x :: ks, st, k, h => by
    simp only [appSeq] at h ⊢
    cases ha : T.app st x with
    | none =>
      rw [ha] at h
      simp only [Option.some.injEq] at h
      subst h
      exact ⟨List.mem_cons_self, ha⟩
    | some p =>
      rw [ha] at h
      have := appSeq_thrown ks p.2 k h
      exact ⟨List.mem_cons_of_mem _ this.1, this.2⟩

theorem trTuple_gen (L : Lawful T view) : ∀ (ks : List Nat) (st : σ) (acc : List Nat),
    ((trTuple T ks st acc).1, (trTuple T ks st acc).2.2) = appSeq T ks st ∧
    ∀ g, Le (view (trTuple T ks st acc).2.2) g → (∀ k, (trTuple T ks st acc).1 = some k → g k = none) →
      trTuple (optT g) ks () acc = ((trTuple T ks st acc).1, (trTuple T ks st acc).2.1, ())
  | [], st, acc => ⟨rfl, fun _ _ _ => rfl⟩
  | s :: ss, st, acc => by
    cases ha : T.app st s with
    | none =>
      simp only [trTuple, appSeq, ha]
      refine ⟨by first | rfl | trivial, fun g _ hk => ?_⟩
      simp [optT, hk s rfl]
    | some p =>
      obtain ⟨s', st'⟩ := p
      have ih := trTuple_gen L ss st' (acc ++ [s'])
      simp only [trTuple, appSeq, ha]
      refine ⟨ih.1, fun g hle hk => ?_⟩
      have hle' : Le (view st') (view (trTuple T ss st' (acc ++ [s'])).2.2) := le_of_keys L ih.1
      have hg : g s = some s' := hle _ _ (hle' _ _ (L.hit st s s' st' ha))
      simp only [optT, hg, Option.map_some]
      exact ih.2 g hle hk

/-- the run `R` of a loop (translator `T`, from `st`) made the look-ups `ks`, and the same loop with a stateless translator
`optT g` (`Ro g`) ends the same way for every `g` that extends the final container and is undefined on the thrown key -/
def Replay (T : Transl σ) (view : σ → Nat → Option Nat) (ks : List Nat) (st : σ) (R : Run σ)
    (Ro : (Nat → Option Nat) → Run Unit) : Prop :=
  (R.thrown, R.tr) = appSeq T ks st ∧
  ∀ g, Le (view R.tr) g → (∀ k, R.thrown = some k → g k = none) → Ro g = ⟨R.thrown, R.dst, ()⟩

theorem Replay.keys {ks : List Nat} {st : σ} {R : Run σ} {Ro : (Nat → Option Nat) → Run Unit}
    (h : Replay T view ks st R Ro) : (R.thrown, R.tr) = appSeq T ks st := h.1

theorem Replay.replay {ks : List Nat} {st : σ} {R : Run σ} {Ro : (Nat → Option Nat) → Run Unit}
    (h : Replay T view ks st R Ro) (g : Nat → Option Nat) (hle : Le (view R.tr) g)
    (hk : ∀ k, R.thrown = some k → g k = none) : Ro g = ⟨R.thrown, R.dst, ()⟩ := h.2 g hle hk

theorem Replay.nil (dst : Store) (st : σ) : Replay T view [] st ⟨none, dst, st⟩ (fun _ => ⟨none, dst, ()⟩) :=
  ⟨rfl, fun _ _ _ => rfl⟩

/-- "look up `k`; if that throws stop with `dst`, else go on": the head of `finalsLoop`, `clustersLoop`, `symLoop`.  Written for
every `σ` so that its `match` is the one of the model loops also at `σ = Unit` (a `match` elaborated at `Unit` gets a matcher of
its own, which the loops do not unfold to). -/
def appThen (T : Transl σ) (st : σ) (k : Nat) (dst : Store) (cont : Nat → σ → Run σ) : Run σ :=
  match T.app st k with
  | none => ⟨some k, dst, st⟩
  | some (v, s) => cont v s

theorem Replay.app (L : Lawful T view) {k : Nat} {ks : List Nat} {st : σ} {dst : Store}
    {cont : Nat → σ → Run σ} {conto : (Nat → Option Nat) → Nat → Run Unit}
    (h : ∀ v s, Replay T view ks s (cont v s) (fun g => conto g v)) :
    Replay T view (k :: ks) st (appThen T st k dst cont) (fun g => appThen (optT g) () k dst fun v _ => conto g v) := by
  unfold appThen
  cases ha : T.app st k with
  | none => exact ⟨by simp only [appSeq, ha], fun g _ hk => by simp [optT, hk k rfl]⟩
  | some p =>
    obtain ⟨v, s⟩ := p
    have ih := h v s
    refine ⟨by simp only [appSeq, ha]; exact ih.1, fun g hle hk => ?_⟩
    have hg : g k = some v := hle _ _ (le_of_keys L ih.1 _ _ (L.hit st k v s ha))
    simp only [optT, hg, Option.map_some]
    exact ih.2 g hle hk

/-- a loop followed – unless it threw – by the rest -/
theorem Replay.seq (L : Lawful T view) {a b : List Nat} {st : σ} {R1 : Run σ} {Ro1 : (Nat → Option Nat) → Run Unit}
    (h1 : Replay T view a st R1 Ro1) {next : Store → σ → Run σ} {nexto : (Nat → Option Nat) → Store → Run Unit}
    (h2 : ∀ d s, Replay T view b s (next d s) (fun g => nexto g d)) :
    Replay T view (a ++ b) st
      (match R1.thrown with
        | some k => ⟨some k, R1.dst, R1.tr⟩
        | none => next R1.dst R1.tr)
      (fun g => match (Ro1 g).thrown with
        | some k => ⟨some k, (Ro1 g).dst, (Ro1 g).tr⟩
        | none => nexto g (Ro1 g).dst) := by
  cases hr : R1.thrown with
  | some k =>
    refine ⟨by rw [appSeq_append_some _ h1.1 hr], fun g hle hk => ?_⟩
    simp only [h1.2 g hle (by rw [hr]; exact hk), hr]
  | none =>
    have ih := h2 R1.dst R1.tr
    refine ⟨by rw [appSeq_append_none _ h1.1 hr]; exact ih.1, fun g hle hk => ?_⟩
    simp only [h1.2 g ((le_of_keys L ih.1).trans hle) (by rw [hr]; exact nofun), hr]
    exact ih.2 g hle hk

theorem tuplesLoop_gen (L : Lawful T view) (q' f : Nat) : ∀ (ts : TupleSet) (dst : Store) (st : σ),
    Replay T view ts.flatten st (tuplesLoop T q' f ts dst st) (fun g => tuplesLoop (optT g) q' f ts dst ())
  | [], dst, st => Replay.nil dst st
  | t :: ts, dst, st => by
    have h1 := trTuple_gen L t st []
    unfold Replay
    cases hr : (trTuple T t st []).1 with
    | some k =>
      simp only [tuplesLoop, hr, List.flatten_cons]
      rw [appSeq_append_some _ h1.1 hr]
      refine ⟨rfl, fun g hle hk => ?_⟩
      have := h1.2 g hle (by rw [hr]; exact hk)
      rw [this, hr]
    | none =>
      have ih := tuplesLoop_gen L q' f ts (addTransition dst ⟨f, (trTuple T t st []).2.1, q'⟩) (trTuple T t st []).2.2
      simp only [tuplesLoop, hr, List.flatten_cons]
      rw [appSeq_append_none _ h1.1 hr]
      refine ⟨ih.1, fun g hle hk => ?_⟩
      have hle' : Le (view (trTuple T t st []).2.2) g := (le_of_keys L ih.1).trans hle
      have := h1.2 g hle' (by rw [hr]; intro k hk'; cases hk')
      rw [this, hr]
      exact ih.2 g hle hk

theorem symbolsLoop_gen (L : Lawful T view) (q' : Nat) : ∀ (c : Cluster) (dst : Store) (st : σ),
    Replay T view (clusterKeys c) st (symbolsLoop T q' c dst st) (fun g => symbolsLoop (optT g) q' c dst ())
  | [], dst, st => Replay.nil dst st
  | ft :: c, dst, st =>
    Replay.seq L (tuplesLoop_gen L q' ft.1 ft.2 (touchTupleSet q' ft.1 dst) st) fun d s => symbolsLoop_gen L q' c d s

theorem clustersLoop_gen (L : Lawful T view) : ∀ (m : List (Nat × Cluster)) (dst : Store) (st : σ),
    Replay T view (mapKeys m) st (clustersLoop T m dst st) (fun g => clustersLoop (optT g) m dst ())
  | [], dst, st => Replay.nil dst st
  | qc :: m, dst, _ =>
    Replay.app L fun v s =>
      Replay.seq L (symbolsLoop_gen L v qc.2 (touchCluster v dst) s) fun d s' => clustersLoop_gen L m d s'

theorem finalsLoop_gen (L : Lawful T view) : ∀ (qs : List Nat) (dst : Store) (st : σ),
    Replay T view qs st (finalsLoop T qs dst st) (fun g => finalsLoop (optT g) qs dst ())
  | [], dst, st => Replay.nil dst st
  | _ :: qs, dst, _ => Replay.app L fun v s => finalsLoop_gen L qs (setFinal dst v) s

theorem symLoop_gen (L : Lawful T view) : ∀ (rs : List Rule) (dst : Store) (st : σ),
    Replay T view (rs.map Rule.sym) st (symLoop T rs dst st) (fun g => symLoop (optT g) rs dst ())
  | [], dst, st => Replay.nil dst st
  | r :: rs, dst, _ => Replay.app L fun v s => symLoop_gen L rs (addTransition dst ⟨v, r.kids, r.parent⟩) s

/-- `ReindexStates(dst, index, addFinalStates)`: the keys the translator sees, and the replay -/
theorem reindexInto_gen (L : Lawful T view) (src dst : Store) (st : σ) : ∀ af : Bool,
    Replay T view (lookupOrder src af) st (reindexInto T src dst st af) (fun g => reindexInto (optT g) src dst () af)
  | false => clustersLoop_gen L src.clusters dst st
  | true => Replay.seq L (finalsLoop_gen L src.final dst st) fun d s => clustersLoop_gen L src.clusters d s

end

theorem lawful_optT (g : Nat → Option Nat) : Lawful (optT g) (fun _ => g) := by
  refine ⟨?_, fun _ _ _ _ _ => Le.refl _, ?_⟩
  · intro st q q' st' h
    simp only [optT, Option.map_eq_some_iff] at h
    obtain ⟨v, hv, e⟩ := h
    cases e
    exact hv
  · intro st q h
    simpa [optT] using h

theorem lawful_totalT (h : Nat → Nat) : Lawful (totalT h) (fun _ q => some (h q)) := by
  refine ⟨?_, fun _ _ _ _ _ => Le.refl _, ?_⟩
  · intro st q q' st' e
    simp only [totalT, Option.some.injEq, Prod.mk.injEq] at e
    rw [e.1]
  · intro st q e
    simp [totalT] at e

theorem lawful_strictT : Lawful strictT (fun m q => m.lookup q) := by
  refine ⟨?_, ?_, ?_⟩
  · intro st q q' st' h
    simp only [strictT, Glue.strict, Option.map_eq_some_iff] at h
    obtain ⟨v, hv, e⟩ := h
    cases e
    exact hv
  · intro st q q' st' h
    simp only [strictT, Glue.strict, Option.map_eq_some_iff] at h
    obtain ⟨v, hv, e⟩ := h
    cases e
    exact Le.refl _
  · intro st q h
    simpa [strictT, Glue.strict] using h

theorem weakT_app (f : Glue.Alloc) (st : WeakSt) (q : Nat) :
    (weakT f).app st q = some ((Glue.weakMap st.map (fun _ _ => (f.run st.cnt st.map.length).1) q).2,
      ⟨(Glue.weakMap st.map (fun _ _ => (f.run st.cnt st.map.length).1) q).1,
        if (st.map.lookup q).isSome then st.cnt else (f.run st.cnt st.map.length).2⟩) := by
  simp only [weakT]
  cases h : st.map.lookup q with
  | some b => simp [Glue.weakMap, h]
  | none => simp [Glue.weakMap, h]

end Vata.RenameCoded
