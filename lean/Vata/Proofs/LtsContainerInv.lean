import Vata.Proofs.LtsContainer
import Vata.Proofs.AssocList
import Vata.Proofs.SmartSetFresh
/-!
# `ExplicitLTS` container: the data invariant `DInv` (every history) and the `SmartSet` analysis of `init()` (C16)

`init` is the repaired `init()` (`bwLabels_.assign`, commit 810ab7a9): every set starts as the fresh empty set, and `initSetF_fresh`
says what the rounds of the loop make of it (`buildDelta1` runs the same rounds on its fresh sets).
-/
namespace Vata.LC
open Vata.L


theorem spec_post_snoc (n n' : Nat) (es : List (Nat × Nat × Nat)) (q a r a' q' : Nat) :
    LE.post ⟨n, es ++ [(q, a, r)]⟩ a' q' =
      if a = a' ∧ q = q' then LE.post ⟨n', es⟩ a q ++ [r] else LE.post ⟨n', es⟩ a' q' := by
  simp only [LE.post, List.filter_append, List.map_append]
  by_cases h : a = a' ∧ q = q'
  · obtain ⟨rfl, rfl⟩ := h; simp
  · rw [if_neg h]
    have : ((q == q') && (a == a')) = false := by
      simp only [Bool.and_eq_false_iff, beq_eq_false_iff_ne]
      by_cases e : q = q'
      · right; intro e'; exact h ⟨e', e⟩
      · left; exact e
    simp [this]

theorem spec_pre_snoc (n n' : Nat) (es : List (Nat × Nat × Nat)) (q a r a' r' : Nat) :
    LE.pre ⟨n, es ++ [(q, a, r)]⟩ a' r' =
      if a = a' ∧ r = r' then LE.pre ⟨n', es⟩ a r ++ [q] else LE.pre ⟨n', es⟩ a' r' := by
  simp only [LE.pre, List.filter_append, List.map_append]
  by_cases h : a = a' ∧ r = r'
  · obtain ⟨rfl, rfl⟩ := h; simp
  · rw [if_neg h]
    have : ((a == a') && (r == r')) = false := by
      simp only [Bool.and_eq_false_iff, beq_eq_false_iff_ne]
      by_cases e : a = a'
      · right; intro e'; exact h ⟨e, e'⟩
      · left; exact e
    simp [this]

theorem spec_labels_snoc (n n' : Nat) (es : List (Nat × Nat × Nat)) (e : Nat × Nat × Nat) :
    LE.labels ⟨n, es ++ [e]⟩ = max (LE.labels ⟨n', es⟩) (e.2.1 + 1) := by
  simp [LE.labels, List.foldl_append]


/-- what links the object to the abstract system of its history (holds after EVERY history, `dinv_run`) -/
structure DInv (L : LTS) (c : LtsC) : Prop where
  post : ∀ a q, c.post a q = LE.post L a q
  pre : ∀ a r, c.pre a r = LE.pre L a r
  labels : c.data.length = LE.labels L
  states : c.states = L.n
  trans : c.transitions = L.edges.length
  lens : ∀ a, (c.data.getD a ([], [])).1.length ≤ c.states ∧ (c.data.getD a ([], [])).2.length ≤ c.states

theorem dinv_empty {n : Nat} (c : LtsC) (hd : c.data = []) (hs : c.states = n) (ht : c.transitions = 0) : DInv ⟨n, []⟩ c :=
  ⟨fun _ _ => by rw [LtsC.post, hd]; rfl, fun _ _ => by rw [LtsC.pre, hd]; rfl, by rw [hd]; rfl, hs, ht,
    fun _ => by rw [hd]; exact ⟨Nat.zero_le _, Nat.zero_le _⟩⟩

theorem dinv_construct (n : Nat) (ub : Bool) : DInv ⟨n, []⟩ { construct n with ub := ub } := dinv_empty _ rfl rfl rfl

theorem dinv_clear (c : LtsC) : DInv ⟨0, []⟩ (clear c) := dinv_empty _ rfl rfl rfl

theorem dinv_add (L : LTS) (c : LtsC) (h : DInv L c) (q a r : Nat) :
    DInv (specStep L (.add q a r)) (addTransition c q a r) := by
  refine ⟨fun a' q' => ?_, fun a' r' => ?_, ?_, ?_, ?_, fun a' => addTransition_lens c q a r a' h.lens⟩
  · rw [addTransition_post, specStep, spec_post_snoc _ L.n, h.post, h.post]
  · rw [addTransition_pre, specStep, spec_pre_snoc _ L.n, h.pre, h.pre]
  · rw [addTransition_data_length, specStep, spec_labels_snoc _ L.n, h.labels]
  · rw [addTransition_states c q a r (h.lens a).1 (h.lens a).2, h.states]; rfl
  · simp [addTransition, specStep, h.trans]

theorem init_entry (c : LtsC) (hl : ∀ a, (c.data.getD a ([], [])).1.length ≤ c.states ∧ (c.data.getD a ([], [])).2.length ≤ c.states)
    (a : Nat) : ((init c).data.getD a ([], [])).1.length ≤ c.states ∧ ((init c).data.getD a ([], [])).2.length ≤ c.states ∧
      (a < c.data.length → ((init c).data.getD a ([], [])).1.length = c.states ∧ ((init c).data.getD a ([], [])).2.length = c.states) ∧
      (∀ q, ((init c).data.getD a ([], [])).1.getD q [] = (c.data.getD a ([], [])).1.getD q []) ∧
      (∀ q, ((init c).data.getD a ([], [])).2.getD q [] = (c.data.getD a ([], [])).2.getD q []) := by
  have h := (init_spec c (fun a => (hl a).2)).2.2.2.1 a
  rw [h]
  by_cases l : a < c.data.length
  · simp only [l, if_true]
    refine ⟨by simp [resizeBoth, length_resizeL], by simp [resizeBoth, length_resizeL],
      fun _ => by simp [resizeBoth, length_resizeL], fun q => getD_resizeL _ _ _ _ (hl a).1,
      fun q => getD_resizeL _ _ _ _ (hl a).2⟩
  · rw [if_neg l]
    exact ⟨(hl a).1, (hl a).2, fun h => absurd h l, fun _ => rfl, fun _ => rfl⟩

theorem init_post (c : LtsC) (hl : ∀ a, (c.data.getD a ([], [])).1.length ≤ c.states ∧ (c.data.getD a ([], [])).2.length ≤ c.states)
    (a q : Nat) : (init c).post a q = c.post a q := (init_entry c hl a).2.2.2.1 q

theorem init_pre (c : LtsC) (hl : ∀ a, (c.data.getD a ([], [])).1.length ≤ c.states ∧ (c.data.getD a ([], [])).2.length ≤ c.states)
    (a r : Nat) : (init c).pre a r = c.pre a r := (init_entry c hl a).2.2.2.2 r

theorem dinv_init (L : LTS) (c : LtsC) (h : DInv L c) : DInv L (init c) := by
  have hs := init_spec c (fun a => (h.lens a).2)
  refine ⟨fun a q => by rw [init_post c h.lens, h.post], fun a r => by rw [init_pre c h.lens, h.pre],
    by rw [hs.2.2.1, h.labels], by rw [hs.1, h.states], by rw [hs.2.1, h.trans], fun a => ?_⟩
  have := init_entry c h.lens a
  rw [hs.1]; exact ⟨this.1, this.2.1⟩

theorem dinv_step (L : LTS) (c : LtsC) (h : DInv L c) (op : Op) : DInv (specStep L op) (step c op) := by
  cases op with
  | construct n => exact dinv_construct n c.ub
  | add q a r => exact dinv_add L c h q a r
  | init => exact dinv_init L c h
  | clear => exact dinv_clear c

theorem dinv_foldl (h : List Op) : ∀ (L : LTS) (c : LtsC), DInv L c → DInv (h.foldl specStep L) (h.foldl step c) := by
  induction h with
  | nil => intro L c i; exact i
  | cons op h ih => intro L c i; exact ih _ _ (dinv_step L c i op)

theorem dinv_run (h : List Op) : DInv (spec h) (run h) := dinv_foldl h _ _ (dinv_construct 0 false)


/-- the fresh set `SmartSet(n)` after the rounds `a = 0 … k-1`, `k ≤ n` (what the repaired `init()` builds for every state with
`k = n`, and `buildDelta1` for every label): never out of range, every key is new when its round comes -/
theorem initSetF_fresh (cnt : Nat → Nat) (n : Nat) : ∀ k, k ≤ n → initSetF cnt (SSet.new n) k = ⟨n, LEC.dBuilt cnt k, false⟩
  | 0, _ => rfl
  | k + 1, hk => by
    have hfresh : ∀ kc, kc ∈ LEC.dBuilt cnt k → kc.1 ≠ k := fun kc h => Nat.ne_of_lt (LEC.dBuilt_key_lt h)
    rw [initSetF_succ, initSetF_fresh cnt n k (Nat.le_of_succ_le hk), SSet.init, if_pos (Nat.lt_of_succ_le hk),
      LEC.dBuilt_succ]
    by_cases hc : 0 < cnt k
    · rw [if_pos hc, if_pos hc, ssPut_eq_aSet, LEC.aSet_fresh _ _ _ hfresh]
    · rw [if_neg hc, if_neg hc]
      exact congrArg (SSet.mk n · false) (LEC.aErase_fresh _ _ hfresh)

/-- the keys with a positive count in increasing order, every count as asked for -/
theorem initSetF_new (cnt : Nat → Nat) (n : Nat) (k : Nat) (hk : k ≤ n) :
    (initSetF cnt (SSet.new n) k).bad = false ∧
    (initSetF cnt (SSet.new n) k).keys = (List.range k).filter (fun a => decide (0 < cnt a)) ∧
    (∀ a, a < k → (initSetF cnt (SSet.new n) k).count a = cnt a) := by
  rw [initSetF_fresh cnt n k hk]
  refine ⟨rfl, by simp [SSet.keys, LEC.dBuilt, Function.comp_def], fun a ha => ?_⟩
  rw [SSet.count, LEC.find_dBuilt]
  by_cases hc : 0 < cnt a
  · rw [if_pos ⟨ha, hc⟩]
  · rw [if_neg fun h => hc h.2]; exact (Nat.eq_zero_of_not_pos hc).symm

theorem initSetF_new_count_ge (cnt : Nat → Nat) (n k : Nat) (hk : k ≤ n) (a : Nat) (ha : k ≤ a) :
    (initSetF cnt (SSet.new n) k).count a = 0 := by
  rw [initSetF_fresh cnt n k hk, SSet.count, LEC.find_dBuilt, if_neg fun h => Nat.not_lt.mpr ha h.1]

end Vata.LC
