import Vata.Proofs.LtsUtilSRObs
import Vata.Proofs.ListExt

/-!
# `SplittingRelation` — the representation invariant, shapes under construction, the two iterators

* `P.Shape o n R C`: the address lists `R i` / `C j` describe rows / columns (`Data`: mutual consistency, rows without
  duplicate columns, columns sorted by row; `Mem`: live cells allocated and not free, free list without duplicates;
  `RowC` / `ColC`: closed doubly linked lists between the sentinels); `Inv s rel`.
* `GS o n R C cr cc` is `Shape` with closedness required only for the rows in `cr` and the columns in `cc` (and without the
  memory part): the form in which shapes are transformed.  `init` and `split` build rows and columns cell by cell; in
  between some rows / columns are open (the last cell's forward link and the sentinel's backward link are not set yet).
  A new cell at the end of a row and of a column: `Data.push`, `Mem.push` and `Chains.push` / `Chains.push_close` for each
  direction; allocation: `GS.alloc`, `Mem.alloc`.
* `rowCells_refines`, `colCells_refines`, `size_refines`: what a client observes in a state inside the invariant.-/
namespace Vata.LU.SR
namespace P

/-- the address lists `R i` (row `i`, left to right) and `C j` (column `j`, top down) describe the same set of cells -/
structure Data (col row : Nat → Nat) (n : Nat) (R C : Nat → List Nat) : Prop where
  rrow : ∀ i, ∀ a ∈ R i, row a = i
  ccol : ∀ j, ∀ a ∈ C j, col a = j
  rc : ∀ i, ∀ a ∈ R i, a ∈ C (col a)
  cr : ∀ j, ∀ a ∈ C j, a ∈ R (row a)
  rlt : ∀ i, ∀ a ∈ R i, i < n ∧ col a < n
  rnd : ∀ i, ((R i).map col).Nodup
  csorted : ∀ j, ((C j).map row).Pairwise (· < ·)

structure Mem (o : Obs) (R : Nat → List Nat) : Prop where
  lt : ∀ i, ∀ a ∈ R i, a < o.next
  nfree : ∀ i, ∀ a ∈ R i, a ∉ o.free
  fnd : o.free.Nodup
  flt : ∀ a ∈ o.free, a < o.next

/-- row `i` is the closed doubly linked list `rowBegin(i)`, cells, `rowEnd(i)` -/
def RowC (o : Obs) (R : Nat → List Nat) (i : Nat) : Prop :=
  DL o.gr o.gl (.rowS i :: cs (R i) ++ [.rowS (i + 1)])

/-- column `j` is the closed doubly linked list `colBegin(j)`, cells, `colEnd(j)` -/
def ColC (o : Obs) (C : Nat → List Nat) (j : Nat) : Prop :=
  DL o.gd o.gu (.colS j :: cs (C j) ++ [.colS (j + 1)])

structure Shape (o : Obs) (n : Nat) (R C : Nat → List Nat) : Prop where
  data : Data o.col o.row n R C
  mem : Mem o R
  rowC : ∀ i, i < n → RowC o R i
  colC : ∀ j, j < n → ColC o C j
  size : o.size = n
  nr : n ≤ o.nr
  nc : o.nc = o.nr

end P

/-- the state `s` represents the relation `rel` (list of rows): rows and columns are mutually consistent doubly linked
lists between their sentinels, the free list is disjoint from the live cells -/
def Inv (s : T) (rel : List (List Nat)) : Prop :=
  ∃ R C, P.Shape (P.obs s) rel.length R C ∧ ∀ i, i < rel.length → (R i).map (P.obs s).col = rel.getD i []

namespace P


section data
variable {col row : Nat → Nat} {n : Nat} {R C : Nat → List Nat}

theorem Data.R_nodup (d : Data col row n R C) (i : Nat) : (R i).Nodup :=
  nodup_of_map _ (d.rnd i)

theorem Data.C_nodup (d : Data col row n R C) (j : Nat) : (C j).Nodup :=
  nodup_of_map row ((d.csorted j).imp (fun hab => Nat.ne_of_lt hab))

theorem Data.rowL (d : Data col row n R C) : Lists R :=
  ⟨d.R_nodup, fun {i k a} hi hk => (d.rrow i a hi).symm.trans (d.rrow k a hk)⟩

theorem Data.colL (d : Data col row n R C) : Lists C :=
  ⟨d.C_nodup, fun {i k a} hi hk => (d.ccol i a hi).symm.trans (d.ccol k a hk)⟩

theorem Data.C_lt (d : Data col row n R C) {j a : Nat} (h : a ∈ C j) : j < n ∧ row a < n := by
  have h2 := d.rlt _ a (d.cr j a h)
  rw [d.ccol j a h] at h2
  exact ⟨h2.2, h2.1⟩

theorem Data.not_mem_C (d : Data col row n R C) {a : Nat} (h : ∀ k, a ∉ R k) (k : Nat) : a ∉ C k :=
  fun hm => h _ (d.cr k a hm)

end data

/-- like `Shape`, but only the rows in `cr` and the columns in `cc` are closed; the memory part is kept apart -/
structure GS (o : Obs) (n : Nat) (R C : Nat → List Nat) (cr cc : Nat → Prop) : Prop where
  data : Data o.col o.row n R C
  rows : Chains o.gr o.gl .rowS n R cr
  cols : Chains o.gd o.gu .colS n C cc
  nr : n ≤ o.nr
  nc : o.nc = o.nr

section gs
variable {o : Obs} {n : Nat} {R C : Nat → List Nat} {cr cc cr' cc' : Nat → Prop}

theorem Shape_iff_GS (o : Obs) (n : Nat) (R C : Nat → List Nat) :
    Shape o n R C ↔ GS o n R C (fun _ => True) (fun _ => True) ∧ Mem o R ∧ o.size = n :=
  ⟨fun h => ⟨⟨h.data, Chains.of_closed h.rowC, Chains.of_closed h.colC, h.nr, h.nc⟩, h.mem, h.size⟩,
   fun ⟨g, m, sz⟩ => ⟨g.data, m, fun _ hi => g.rows.closed hi trivial, fun _ hj => g.cols.closed hj trivial, sz,
     g.nr, g.nc⟩⟩

theorem GS.weaken (h : GS o n R C cr cc) (h1 : ∀ k, k < n → cr' k → cr k) (h2 : ∀ k, k < n → cc' k → cc k) :
    GS o n R C cr' cc' :=
  ⟨h.data, h.rows.weaken h1, h.cols.weaken h2, h.nr, h.nc⟩

theorem GS.rowC (h : GS o n R C cr cc) {i : Nat} (hi : i < n) (hc : cr i) : RowC o R i := h.rows.closed hi hc

theorem GS.colC (h : GS o n R C cr cc) {j : Nat} (hj : j < n) (hc : cc j) : ColC o C j := h.cols.closed hj hc

end gs


theorem Data.rm {col row : Nat → Nat} {n : Nat} {R C : Nat → List Nat} (d : Data col row n R C) (e : Nat) :
    Data col row n (rm e R) (rm e C) where
  rrow i a ha := d.rrow i a (mem_rm.1 ha).1
  ccol j a ha := d.ccol j a (mem_rm.1 ha).1
  rc i a ha := mem_rm.2 ⟨d.rc i a (mem_rm.1 ha).1, (mem_rm.1 ha).2⟩
  cr j a ha := mem_rm.2 ⟨d.cr j a (mem_rm.1 ha).1, (mem_rm.1 ha).2⟩
  rlt i a ha := d.rlt i a (mem_rm.1 ha).1
  rnd i := List.Nodup.sublist ((rm_sublist e i R).map col) (d.rnd i)
  csorted j := List.Pairwise.sublist ((rm_sublist e j C).map row) (d.csorted j)

theorem map_updN_of_not_mem (f : Nat → Nat) {a : Nat} (v : Nat) {l : List Nat} (h : a ∉ l) :
    l.map (updN f a v) = l.map f :=
  List.map_congr_left (fun _ hx => updN_ne _ _ (fun e => h (e ▸ hx)))


theorem Data.push {col row : Nat → Nat} {n : Nat} {R C : Nat → List Nat} (d : Data col row n R C) {a i j : Nat}
    (hfresh : ∀ k, a ∉ R k) (hi : i < n) (hj : j < n) (hc : j ∉ (R i).map col) (hr : ∀ x ∈ C j, row x < i) :
    Data (updN col a j) (updN row a i) n (setL R i (R i ++ [a])) (setL C j (C j ++ [a])) := by
  have hfC := d.not_mem_C hfresh
  -- an old cell keeps its fields, the new one is `(i, j)`
  have old : ∀ {L : Nat → List Nat}, (∀ k, a ∉ L k) → ∀ {k x}, x ∈ L k → updN col a j x = col x ∧ updN row a i x = row x :=
    fun hL _ _ hx => ⟨updN_ne _ _ (fun e => hL _ (e ▸ hx)), updN_ne _ _ (fun e => hL _ (e ▸ hx))⟩
  refine ⟨?_, ?_, ?_, ?_, ?_, ?_, ?_⟩
  · intro k x hx
    rcases mem_setL_snoc.1 hx with h | ⟨rfl, rfl⟩
    · rw [(old hfresh h).2]; exact d.rrow k x h
    · exact updN_same _ _ _
  · intro k x hx
    rcases mem_setL_snoc.1 hx with h | ⟨rfl, rfl⟩
    · rw [(old hfC h).1]; exact d.ccol k x h
    · exact updN_same _ _ _
  · intro k x hx
    rcases mem_setL_snoc.1 hx with h | ⟨rfl, rfl⟩
    · rw [(old hfresh h).1]; exact mem_setL_snoc.2 (Or.inl (d.rc k x h))
    · rw [updN_same]; exact mem_setL_snoc.2 (Or.inr ⟨rfl, rfl⟩)
  · intro k x hx
    rcases mem_setL_snoc.1 hx with h | ⟨rfl, rfl⟩
    · rw [(old hfC h).2]; exact mem_setL_snoc.2 (Or.inl (d.cr k x h))
    · rw [updN_same]; exact mem_setL_snoc.2 (Or.inr ⟨rfl, rfl⟩)
  · intro k x hx
    rcases mem_setL_snoc.1 hx with h | ⟨rfl, rfl⟩
    · rw [(old hfresh h).1]; exact d.rlt k x h
    · rw [updN_same]; exact ⟨hi, hj⟩
  · intro k
    by_cases hk : k = i
    · subst hk
      rw [setL_same, List.map_append, map_updN_of_not_mem _ _ (hfresh k)]
      simp only [List.map_cons, updN_same, List.map_nil]
      refine List.nodup_append.2 ⟨d.rnd k, by simp, ?_⟩
      intro x hx y hy e
      rw [List.mem_singleton.1 hy] at e; exact hc (e ▸ hx)
    · rw [setL_ne _ _ hk, map_updN_of_not_mem _ _ (hfresh k)]; exact d.rnd k
  · intro k
    by_cases hk : k = j
    · subst hk
      rw [setL_same, List.map_append, map_updN_of_not_mem _ _ (hfC k)]
      simp only [List.map_cons, updN_same, List.map_nil]
      refine List.pairwise_append.2 ⟨d.csorted k, by simp, ?_⟩
      intro x hx y hy
      rw [List.mem_singleton.1 hy]
      obtain ⟨z, hz, rfl⟩ := List.mem_map.1 hx
      exact hr z hz
    · rw [setL_ne _ _ hk, map_updN_of_not_mem _ _ (hfC k)]; exact d.csorted k

section gs
variable {o o' o1 : Obs} {n : Nat} {R C : Nat → List Nat} {cr cc : Nat → Prop}

theorem GS.size_irrel (h : GS o n R C cr cc) (k : Nat) : GS { o with size := k } n R C cr cc :=
  ⟨h.data, h.rows, h.cols, h.nr, h.nc⟩


theorem Data.congr {col row col' row' : Nat → Nat} (d : Data col row n R C)
    (h1 : ∀ k, ∀ x ∈ R k, col' x = col x) (h2 : ∀ k, ∀ x ∈ R k, row' x = row x) : Data col' row' n R C := by
  have h1C : ∀ k, ∀ x ∈ C k, col' x = col x := fun k x hx => h1 _ x (d.cr k x hx)
  have h2C : ∀ k, ∀ x ∈ C k, row' x = row x := fun k x hx => h2 _ x (d.cr k x hx)
  refine ⟨?_, ?_, ?_, ?_, ?_, ?_, ?_⟩
  · intro k x hx; rw [h2 k x hx]; exact d.rrow k x hx
  · intro k x hx; rw [h1C k x hx]; exact d.ccol k x hx
  · intro k x hx; rw [h1 k x hx]; exact d.rc k x hx
  · intro k x hx; rw [h2C k x hx]; exact d.cr k x hx
  · intro k x hx; rw [h1 k x hx]; exact d.rlt k x hx
  · intro k; rw [List.map_congr_left (h1 k)]; exact d.rnd k
  · intro k; rw [List.map_congr_left (h2C k)]; exact d.csorted k

theorem Mem.fresh {t : Nat} (m : Mem o R) (ha : AllocRel o o1 t) (k : Nat) : t ∉ R k :=
  fun hm => ha.pop.ne (m.lt k t hm) (m.nfree k t hm) rfl

theorem Mem.alloc {t : Nat} (m : Mem o R) (ha : AllocRel o o1 t) : Mem o1 R :=
  ⟨fun k x hx => Nat.lt_of_lt_of_le (m.lt k x hx) ha.pop.mono, fun k x hx hf => m.nfree k x hx (ha.pop.sub x hf),
   ha.pop.nd, ha.pop.flt⟩

theorem Mem.push {a : Nat} (m : Mem o R) (i : Nat) (hn : o.next ≤ o'.next)
    (hf : o'.free = o.free) (ha : a < o'.next) (haf : a ∉ o.free) : Mem o' (setL R i (R i ++ [a])) := by
  refine ⟨?_, ?_, by rw [hf]; exact m.fnd, fun x hx => Nat.lt_of_lt_of_le (m.flt x (hf ▸ hx)) hn⟩
  · intro k x hx
    rcases mem_setL_snoc.1 hx with h | ⟨rfl, -⟩
    · exact Nat.lt_of_lt_of_le (m.lt k x h) hn
    · exact ha
  · intro k x hx
    rw [hf]
    rcases mem_setL_snoc.1 hx with h | ⟨rfl, -⟩
    · exact m.nfree k x h
    · exact haf

theorem Mem.congr (m : Mem o R) (hn : o'.next = o.next) (hf : o'.free = o.free) : Mem o' R :=
  ⟨fun k x hx => hn ▸ m.lt k x hx, fun k x hx => hf ▸ m.nfree k x hx, hf ▸ m.fnd, fun x hx => hn ▸ m.flt x (hf ▸ hx)⟩

theorem GS.alloc (h : GS o n R C cr cc) {t : Nat} (ha : AllocRel o o1 t) (hfresh : ∀ k, t ∉ R k) :
    GS o1 n R C cr cc :=
  ⟨h.data.congr (fun k x hx => ha.col x (fun e => hfresh k (e ▸ hx))) (fun k x hx => ha.row x (fun e => hfresh k (e ▸ hx))),
   h.rows.frame_cell sent_row h.data.rowL hfresh ha.gr ha.gl,
   h.cols.frame_cell sent_col h.data.colL (h.data.not_mem_C hfresh) ha.gd ha.gu,
   by rw [ha.nr]; exact h.nr, by rw [ha.nr, ha.nc]; exact h.nc⟩

end gs



variable {nxt prv : Ptr → Option Ptr}

/-- `row(i)` and `column(i)` are the same loop over different fields (`right_`/`col_`, `down_`/`row_`): `W` is either of
them, given by its two unfolding equations -/
theorem walk_spec {W : Nat → Ptr → Option (List (Nat × Nat))} {key : Nat → Nat} {stop : Ptr}
    (h0 : ∀ fuel, W (fuel + 1) stop = some [])
    (hs : ∀ fuel a q, nxt (.cell a) = some q → W (fuel + 1) (.cell a) = (W fuel q).map (fun r => (a, key a) :: r))
    (l : List Nat) : ∀ (b : Ptr) (fuel : Nat),
    DL nxt prv (b :: cs l ++ [stop]) → l.length < fuel → W fuel (headP l stop) = some (l.map (fun a => (a, key a))) := by
  induction l with
  | nil =>
    intro b fuel _ hf
    cases fuel with
    | zero => exact absurd hf (Nat.not_lt_zero _)
    | succ fuel => exact h0 fuel
  | cons a l ih =>
    intro b fuel h hf
    cases fuel with
    | zero => exact absurd hf (Nat.not_lt_zero _)
    | succ fuel =>
      have h1 := DL_tail _ _ _ _ h
      rw [headP_cons, hs fuel a _ (DL_head _ _ _ h1), ih (.cell a) fuel h1 (Nat.lt_of_succ_lt_succ hf)]
      rfl

theorem length_le_of_lt {l : List Nat} {n : Nat} (hnd : l.Nodup) (h : ∀ a ∈ l, a < n) : l.length ≤ n := by
  have := List.Nodup.length_le_of_subset hnd (l₂ := List.range n) (fun a ha => List.mem_range.2 (h a ha))
  simpa using this

section shape
variable {s : T} {n : Nat} {R C : Nat → List Nat}

/-- a row has at most `next` cells: the fuel `next + 1` of the walks suffices -/
theorem Data.row_fuel (d : Data (obs s).col (obs s).row n R C) (m : Mem (obs s) R) (i : Nat) :
    (R i).length < s.next + 1 :=
  Nat.lt_succ_of_le (length_le_of_lt (d.R_nodup i) (m.lt i))

theorem Data.col_fuel (d : Data (obs s).col (obs s).row n R C) (m : Mem (obs s) R) (j : Nat) :
    (C j).length < s.next + 1 :=
  Nat.lt_succ_of_le (length_le_of_lt (d.C_nodup j) (fun a ha => m.lt _ a (d.cr j a ha)))

theorem Shape.rowCells_eq (h : Shape (obs s) n R C) {i : Nat} (hi : i < n) :
    rowCells s i = some ((R i).map (fun a => (a, (obs s).col a))) := by
  have hc := h.rowC i hi
  obtain ⟨rw, h1, h2⟩ := rows_first (DL_head _ _ _ hc)
  simp only [rowCells, h1, h2]
  exact walk_spec (fun _ => by simp [rowWalk]) (fun _ a q hq => by simp [rowWalk, right_of hq, col_cell]) (R i) _ _ hc
    (h.data.row_fuel h.mem i)

theorem Shape.colCells_eq (h : Shape (obs s) n R C) {j : Nat} (hj : j < n) :
    colCells s j = some ((C j).map (fun a => (a, (obs s).row a))) := by
  have hc := h.colC j hj
  obtain ⟨rw, h1, h2⟩ := cols_first (DL_head _ _ _ hc)
  simp only [colCells, h1, h2]
  exact walk_spec (fun _ => by simp [colWalk]) (fun _ a q hq => by simp [colWalk, down_of hq, row_cell]) (C j) _ _ hc
    (h.data.col_fuel h.mem j)

end shape

/-- the column of the value is determined by the rows -/
theorem Data.col_eq {col row : Nat → Nat} {R C : Nat → List Nat} {rel : List (List Nat)}
    (d : Data col row rel.length R C) (hv : ∀ i, i < rel.length → (R i).map col = rel.getD i []) (j : Nat) :
    (C j).map row = aCol rel j := by
  refine pairwise_lt_ext (d.csorted j) ?_ (fun i => ?_)
  · unfold aCol
    exact List.Pairwise.sublist List.filter_sublist List.pairwise_lt_range
  · simp only [aCol, List.mem_map, List.mem_filter, List.mem_range, List.contains_iff_mem]
    constructor
    · rintro ⟨a, ha, rfl⟩
      have h1 := d.cr j a ha
      have h2 := d.rlt _ a h1
      refine ⟨h2.1, ?_⟩
      rw [← hv _ h2.1, ← d.ccol j a ha]
      exact List.mem_map_of_mem h1
    · rintro ⟨hi, hj⟩
      rw [← hv i hi, List.mem_map] at hj
      obtain ⟨a, ha, rfl⟩ := hj
      exact ⟨a, d.rc i a ha, d.rrow i a ha⟩

end P

/-- observation: iterating `row(i)` yields the `i`-th row of the value -/
theorem rowCells_refines {s : T} {rel : List (List Nat)} (h : Inv s rel) {i : Nat} (hi : i < rel.length) :
    (rowCells s i).map (·.map (·.2)) = some (rel.getD i []) := by
  obtain ⟨R, C, hs, hv⟩ := h
  rw [hs.rowCells_eq hi, ← hv i hi]
  simp [List.map_map, Function.comp_def]

/-- observation: iterating `column(j)` yields the rows that contain `j`, in increasing order -/
theorem colCells_refines {s : T} {rel : List (List Nat)} (h : Inv s rel) {j : Nat} (hj : j < rel.length) :
    (colCells s j).map (·.map (·.2)) = some (aCol rel j) := by
  obtain ⟨R, C, hs, hv⟩ := h
  rw [hs.colCells_eq hj, ← hs.data.col_eq hv j]
  simp [List.map_map, Function.comp_def]

theorem size_refines {s : T} {rel : List (List Nat)} (h : Inv s rel) : s.size = rel.length := by
  obtain ⟨R, C, hs, _⟩ := h
  exact hs.size

end Vata.LU.SR
