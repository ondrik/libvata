import Vata.CliArgs
import Vata.Proofs.ListExt
/-!
# The command line of the `vata` binary – theorems about the model `Vata/CliArgs.lean`

From the bottom up: the string order and the options as a sorted `std::map` (`mapFind_insert`, `mapInsert_sorted`); the loop on
`argc` / `argv` with explicit reads is the list-level `parseLoop` and never reads out of bounds (`parseRaw_eq`); one `-o` argument
`k=v,k=v` (`processOption_ok_iff`, `insertPieces_ok_iff`, `parseOptionList_joinWith`); the option handling of `CheckInclusion` as ONE
equivalence (`checkInclusionOpts_ok_iff`) and the bits of the word it builds (`word_spec`); the loop over the arguments through one
induction principle (`parseLoop_ind`, hence `parse_inv`, `parse_wf`, `parse_options`); last, a command line for every choice of the
inclusion options (`reach`) and which choices reach a `case` of the regenerated dispatch tables (`implemented_iff`).
-/
namespace Vata.CliArgs
open Vata.Dispatch (fAlg fDir fCache fRec fSim fOrder fEquiv)
open Vata.T (joinWith splitDelim_joinWith)

/-- `lit` on a string literal: the literal unifies with `String.ofList l` for the list `l` of its characters, so rewriting with this
(before a test is evaluated) spares the kernel the UTF-8 decoding of `String.toList` -/
theorem lit_ofList (l : Str) : lit (String.ofList l) = l := String.toList_ofList

/-- `std::string::operator<` on the model's strings is core's lexicographic order on `List Char` -/
theorem ltStr_iff : ∀ a b : Str, ltStr a b = true ↔ a < b
  | [], [] => by simp [ltStr]
  | [], _ :: _ => by simp [ltStr]
  | _ :: _, [] => by simp [ltStr]
  | x :: a, y :: b => by
    have hxy : x.toNat < y.toNat ↔ x < y := Iff.rfl
    have hyx : y.toNat < x.toNat ↔ y < x := Iff.rfl
    rw [ltStr, List.cons_lt_cons_iff, ← ltStr_iff a b]
    simp only [hxy, hyx]
    rcases Std.Trichotomous.rel_or_eq_or_rel_swap (r := (· < · : Char → Char → Prop)) (a := x) (b := y) with h | h | h
    · simp [h]
    · subst h; simp [Char.lt_irrefl]
    · have h1 : ¬ x < y := fun h' => Std.Asymm.asymm _ _ h h'
      have h2 : x ≠ y := fun e => Char.lt_irrefl _ (e ▸ h)
      simp [h, h1, h2]

theorem ltStr_irrefl (a : Str) : ltStr a a = false :=
  Bool.eq_false_iff.mpr fun h => List.lt_irrefl a ((ltStr_iff a a).mp h)

theorem ltStr_trans {a b c : Str} (h₁ : ltStr a b = true) (h₂ : ltStr b c = true) : ltStr a c = true :=
  (ltStr_iff a c).mpr (List.lt_trans ((ltStr_iff a b).mp h₁) ((ltStr_iff b c).mp h₂))

theorem ltStr_total {a b : Str} (h : ltStr a b = false) (hne : a ≠ b) : ltStr b a = true := by
  rcases Std.Trichotomous.rel_or_eq_or_rel_swap (r := (· < · : Str → Str → Prop)) (a := a) (b := b) with h' | h' | h'
  · rw [(ltStr_iff a b).mpr h'] at h; cases h
  · exact absurd h' hne
  · exact (ltStr_iff b a).mpr h'

theorem ltStr_asymm {a b : Str} (h : ltStr a b = true) : ltStr b a = false :=
  Bool.eq_false_iff.mpr fun h' => List.lt_asymm ((ltStr_iff a b).mp h) ((ltStr_iff b a).mp h')

theorem ltStr_ne {a b : Str} (h : ltStr a b = true) : a ≠ b := by
  intro e; subst e; rw [ltStr_irrefl] at h; cases h

/-- the representation invariant of `std::map`: strictly increasing keys -/
def SortedMap {β : Type} (m : SMap β) : Prop := m.Pairwise (fun e f => ltStr e.1 f.1 = true)

instance {β : Type} (m : SMap β) : Decidable (SortedMap m) := by unfold SortedMap; infer_instance

theorem sortedMap_nil {β : Type} : SortedMap ([] : SMap β) := List.Pairwise.nil

theorem mapFind_nil {β : Type} (k : Str) : mapFind ([] : SMap β) k = none := rfl

theorem mapFind_cons {β : Type} (k k' : Str) (v : β) (m : SMap β) :
    mapFind ((k', v) :: m) k = if k' = k then some v else mapFind m k := by
  simp only [mapFind, List.find?_cons]
  by_cases h : k' = k <;> simp [h]

theorem mapFind_eq_none {β : Type} {m : SMap β} {k : Str} : mapFind m k = none ↔ ∀ e ∈ m, e.1 ≠ k := by
  simp [mapFind]

/-- a key smaller than the first key of a sorted map is smaller than all its keys … -/
theorem ltStr_of_lt_head {β : Type} {k k' : Str} {v : β} {m : SMap β} (hs : SortedMap ((k', v) :: m))
    (h : ltStr k k' = true) : ∀ e ∈ (k', v) :: m, ltStr k e.1 = true := by
  intro e he
  rcases List.mem_cons.mp he with rfl | he
  · exact h
  · exact ltStr_trans h ((List.pairwise_cons.mp hs).1 e he)

/-- … and not in it -/
theorem mapFind_lt_head {β : Type} {k k' : Str} {v : β} {m : SMap β} (hs : SortedMap ((k', v) :: m))
    (h : ltStr k k' = true) : mapFind ((k', v) :: m) k = none :=
  mapFind_eq_none.mpr fun e he => (ltStr_ne (ltStr_of_lt_head hs h e he)).symm

/-- `insert` reports "inserted" iff the key was absent -/
theorem mapInsert_snd {β : Type} (k : Str) (v : β) {m : SMap β} (hs : SortedMap m) :
    (mapInsert k v m).2 = (mapFind m k).isNone := by
  fun_induction mapInsert k v m with
  | case1 => rfl
  | case2 => rw [mapFind_cons, if_pos rfl]; rfl
  | case3 k' v' m _ h2 => rw [mapFind_lt_head hs h2]; rfl
  | case4 k' v' m h1 _ ih => rw [mapFind_cons, if_neg (Ne.symm h1)]; exact ih (List.pairwise_cons.mp hs).2

theorem mapInsert_keys {β : Type} (k : Str) (v : β) (m : SMap β) (e : Str × β) (h : e ∈ (mapInsert k v m).1) :
    e = (k, v) ∨ e ∈ m := by
  fun_induction mapInsert k v m with
  | case1 => exact Or.inl (List.mem_singleton.mp h)
  | case2 => exact Or.inr h
  | case3 => exact List.mem_cons.mp h
  | case4 k' v' m _ _ ih =>
    rcases List.mem_cons.mp h with h | h
    · exact Or.inr (h ▸ List.mem_cons_self)
    · exact (ih h).imp_right (List.mem_cons_of_mem _)

theorem mapInsert_sorted {β : Type} (k : Str) (v : β) {m : SMap β} (hs : SortedMap m) :
    SortedMap (mapInsert k v m).1 := by
  fun_induction mapInsert k v m with
  | case1 => exact List.pairwise_singleton _ _
  | case2 => exact hs
  | case3 k' v' m _ h2 => exact List.pairwise_cons.mpr ⟨ltStr_of_lt_head hs h2, hs⟩
  | case4 k' v' m h1 h2 ih =>
    have hs' := List.pairwise_cons.mp hs
    refine List.pairwise_cons.mpr ⟨fun e he => ?_, ih hs'.2⟩
    rcases mapInsert_keys k v m e he with rfl | he
    · exact ltStr_total (Bool.eq_false_iff.mpr h2) h1
    · exact hs'.1 e he

/-- `insert` does not overwrite: the key keeps its old value if it had one, other keys are untouched -/
theorem mapFind_insert {β : Type} (k : Str) (v : β) (k₂ : Str) {m : SMap β} (hs : SortedMap m) :
    mapFind (mapInsert k v m).1 k₂ = if k = k₂ then some ((mapFind m k).getD v) else mapFind m k₂ := by
  fun_induction mapInsert k v m with
  | case1 => rw [mapFind_cons]; rfl
  | case2 v' m => rw [mapFind_cons, mapFind_cons, if_pos rfl]; by_cases h : k = k₂ <;> simp [h]
  | case3 k' v' m _ h2 => rw [mapFind_lt_head hs h2, mapFind_cons]; rfl
  | case4 k' v' m h1 _ ih =>
    rw [mapFind_cons, ih (List.pairwise_cons.mp hs).2, mapFind_cons, mapFind_cons, if_neg (Ne.symm h1)]
    by_cases h : k' = k₂
    · rw [if_pos h, if_pos h, if_neg (h ▸ h1)]
    · rw [if_neg h, if_neg h]

theorem withDefault_sorted (k v : String) {m : Options} (hs : SortedMap m) : SortedMap (withDefault k v m) :=
  mapInsert_sorted _ _ hs

theorem stepWord_ne_two (cur : Str) (st st' : St) : stepWord cur st ≠ .two st' := by
  unfold stepWord
  cases st.ps <;> simp only []
  case command => (repeat' split) <;> exact Step.noConfusion
  all_goals exact Step.noConfusion

/-- an element that does not make the loop read a second one: the second one is irrelevant, and one element is consumed -/
theorem stepArg_not_readsNext {cur : Str} {st : St} (h : readsNext cur st = false) (next : Option Str) :
    stepArg cur next st = stepArg cur none st ∧ ∀ st', stepArg cur none st ≠ .two st' := by
  unfold readsNext at h
  unfold stepArg
  cases hc : classify cur <;> simp only [hc] at h ⊢
  case word => exact ⟨trivial, stepWord_ne_two cur st⟩
  case repr | inFmt | outFmt | bothFmt | opts =>
    simp only [Bool.not_eq_eq_eq_not, Bool.not_false] at h
    simp [h]
  case help | version | badFlag => exact ⟨trivial, fun _ => Step.noConfusion⟩
  case showTime | verbose | pruneUnreach | pruneUseless | dontOutput =>
    exact ⟨trivial, fun _ => by split <;> exact Step.noConfusion⟩

/-- a flag with an argument as the last element: `The '-x' flag needs an argument.` -/
theorem stepArg_readsNext_none {cur : Str} {st : St} (h : readsNext cur st = true) :
    ∃ m, stepArg cur none st = .err m := by
  unfold readsNext at h
  unfold stepArg
  cases hc : classify cur <;> simp only [hc] at h ⊢
  case repr | inFmt | outFmt | opts | bothFmt =>
    simp only [Bool.not_eq_eq_eq_not, Bool.not_true, Bool.or_eq_false_iff] at h
    simp [h, flagArg]
  all_goals (exact absurd h (by decide))

/-- the loop consumes the first element and looks at most at the one after it -/
theorem parseLoop_cons (cur : Str) (rest : List Str) (st : St) :
    parseLoop (cur :: rest) st = match stepArg cur rest.head? st with
      | .brk st' => finish st'
      | .one st' => parseLoop rest st'
      | .two st' => parseLoop (rest.drop 1) st'
      | .err m => .error m := by
  cases rest with
  | nil => rw [parseLoop, List.head?_nil]; cases stepArg cur none st <;> rfl
  | cons nxt rest => rw [parseLoop]; rfl

theorem drop_take_succ {α : Type} (l : List α) (pos n : Nat) (h : pos < l.length) :
    (l.drop pos).take (n + 1) = l[pos] :: (l.drop (pos + 1)).take n := by
  rw [List.drop_eq_getElem_cons h, List.take_succ_cons]

/-- the loop on `argc` / `argv` with explicit reads computes the list-level loop on `argv[pos .. pos + argc)`, provided
that range lies inside the vector; in particular it never yields `outOfBounds` -/
theorem parseRaw_eq (argv : List Str) : ∀ (n pos : Nat) (st : St), pos + n ≤ argv.length →
    parseRaw argv n pos st = Raw.ofExcept (parseLoop ((argv.drop pos).take n) st) := by
  intro n
  induction n using Nat.strongRecOn with
  | _ n ih =>
    intro pos st hle
    cases n with
    | zero => rw [List.take_zero]; rfl
    | succ n =>
      have hpos : pos < argv.length := by omega
      rw [drop_take_succ argv pos n hpos, parseLoop_cons, parseRaw, List.getElem?_eq_getElem hpos]
      simp only []
      by_cases hr : readsNext argv[pos] st = true
      · rw [if_pos hr]
        cases n with
        | zero =>
          obtain ⟨m, hm⟩ := stepArg_readsNext_none hr
          simp only [List.take_zero, List.head?_nil, hm]; rfl
        | succ m =>
          have hpos1 : pos + 1 < argv.length := by omega
          rw [drop_take_succ argv (pos + 1) m hpos1, List.getElem?_eq_getElem hpos1]
          simp only [List.head?_cons, List.drop_one, List.tail_cons]
          cases stepArg argv[pos] (some argv[pos + 1]) st with
          | brk st' => rfl
          | one st' =>
            simp only []
            rw [ih (m + 1) (by omega) (pos + 1) st' (by omega), drop_take_succ argv (pos + 1) m hpos1]
          | two st' => exact ih m (by omega) (pos + 2) st' (by omega)
          | err e => rfl
      · have hr' : readsNext argv[pos] st = false := Bool.eq_false_iff.mpr hr
        rw [if_neg hr, (stepArg_not_readsNext hr' ((argv.drop (pos + 1)).take n).head?).1]
        cases hs : stepArg argv[pos] none st with
        | brk st' => rfl
        | one st' => exact ih n (by omega) (pos + 1) st' (by omega)
        | two st' => exact absurd hs ((stepArg_not_readsNext hr' none).2 st')
        | err e => rfl

/-- `parseArguments(argc, argv)` with the `argc` the C runtime passes -/
theorem parseRaw_full (argv : List Str) : parseRaw argv argv.length 0 {} = Raw.ofExcept (parse argv) := by
  rw [parseRaw_eq argv argv.length 0 {} (by omega)]
  simp [parse]

/-- … and with any smaller `argc`: exactly the first `argc` elements are looked at -/
theorem parseRaw_prefix (argv : List Str) (argc : Nat) (h : argc ≤ argv.length) :
    parseRaw argv argc 0 {} = Raw.ofExcept (parse (argv.take argc)) := by
  rw [parseRaw_eq argv argc 0 {} (by omega)]
  simp [parse]

/-- no `argv` vector makes `parseArguments` read past its end -/
theorem parseRaw_in_bounds (argv : List Str) (argc : Nat) (h : argc ≤ argv.length) (i : Nat) :
    parseRaw argv argc 0 {} ≠ .outOfBounds i := by
  rw [parseRaw_prefix argv argc h]
  cases parse (argv.take argc) <;> exact Raw.noConfusion

theorem processOption_of_not_mem {o : Str} (h : '=' ∉ o) :
    processOption o = if o = [] then .error (lit "Malformed options: '" ++ o ++ lit "'") else .ok (o, []) := by
  unfold processOption
  rw [dropWhile_all (bne_of_not_mem h)]

theorem processOption_append {k : Str} (h : '=' ∉ k) (v : Str) :
    processOption (k ++ '=' :: v) =
      if k = [] ∨ v = [] then .error (lit "Malformed option: '" ++ (k ++ '=' :: v) ++ lit "'") else .ok (k, v) := by
  unfold processOption
  rw [if_neg (by simp), dropWhile_ne_append h, takeWhile_ne_append h]

theorem processOption_error (o e : Str) (h : processOption o = .error e) :
    e = lit "Malformed options: '" ++ o ++ lit "'" ∨ e = lit "Malformed option: '" ++ o ++ lit "'" := by
  by_cases hm : '=' ∈ o
  · obtain ⟨k, v, rfl, hk⟩ := List.eq_append_cons_of_mem hm
    rw [processOption_append hk] at h
    split at h
    · exact Or.inr (Except.error.inj h).symm
    · cases h
  · rw [processOption_of_not_mem hm] at h
    split at h
    · exact Or.inl (Except.error.inj h).symm
    · cases h

/-- the pieces of one `-o` argument (already split at the commas), each through `processOption`: the first error wins -/
def piecesKV : List Str → Except Str (List (Str × Str))
  | [] => .ok []
  | p :: ps =>
    match processOption p with
    | .error e => .error e
    | .ok kv =>
      match piecesKV ps with
      | .error e => .error e
      | .ok r => .ok (kv :: r)

/-- inserting a list of pairs with `insert` (no overwrite) -/
def insertAll (kvs : List (Str × Str)) (m : Options) : Options :=
  kvs.foldl (fun m e => (mapInsert e.1 e.2 m).1) m

theorem insertAll_sorted : ∀ (kvs : List (Str × Str)) {m : Options}, SortedMap m → SortedMap (insertAll kvs m)
  | [], _, h => h
  | e :: kvs, _, h => insertAll_sorted kvs (mapInsert_sorted e.1 e.2 h)

/-- looking up in the result: the FIRST pair with the key wins, unless the map already had the key -/
theorem mapFind_insertAll : ∀ (kvs : List (Str × Str)) {m : Options}, SortedMap m → ∀ k,
    mapFind (insertAll kvs m) k = match mapFind m k with
      | some v => some v
      | none => (kvs.find? (fun e => e.1 = k)).map (·.2)
  | [], m, _, k => by cases h : mapFind m k <;> simp [insertAll, h]
  | e :: kvs, m, hs, k => by
    show mapFind (insertAll kvs (mapInsert e.1 e.2 m).1) k = _
    rw [mapFind_insertAll kvs (mapInsert_sorted e.1 e.2 hs) k, mapFind_insert e.1 e.2 k hs]
    by_cases hk : e.1 = k
    · subst hk
      cases h : mapFind m e.1 <;> simp
    · cases h : mapFind m k <;> simp [hk]

theorem mapFind_insert_eq_none {β : Type} (k : Str) (v : β) (x : Str) {m : SMap β} (hs : SortedMap m) :
    mapFind (mapInsert k v m).1 x = none ↔ k ≠ x ∧ mapFind m x = none := by
  rw [mapFind_insert k v x hs]
  by_cases h : k = x <;> simp [h]

/-- the `-o` loop succeeds exactly when every piece is accepted by `processOption` and no option name occurs twice (nor is
already in the map); the result is the map holding the pairs -/
theorem insertPieces_ok_iff : ∀ (ps : List Str) {m : Options} (m' : Options), SortedMap m →
    (insertPieces ps m = .ok m' ↔ ∃ kvs, piecesKV ps = .ok kvs ∧ (kvs.map (·.1)).Nodup ∧
      (∀ e, e ∈ kvs → mapFind m e.1 = none) ∧ m' = insertAll kvs m)
  | [], m, m', _ => by simp [insertPieces, piecesKV, insertAll, eq_comm]
  | p :: ps, m, m', hs => by
    simp only [insertPieces, piecesKV]
    cases hp : processOption p with
    | error e => simp
    | ok kv =>
      obtain ⟨k, v⟩ := kv
      simp only []
      rw [mapInsert_snd k v hs]
      cases hk : mapFind m k with
      | some x =>
        -- a repeated name: `insert` reports "not inserted"
        simp only [Option.isNone_some, Bool.false_eq_true, if_false]
        refine ⟨nofun, ?_⟩
        rintro ⟨kvs, h1, _, h3, _⟩
        cases hq : piecesKV ps <;> rw [hq] at h1 <;> cases h1
        have := h3 (k, v) List.mem_cons_self
        rw [hk] at this; cases this
      | none =>
        simp only [Option.isNone_none, if_true]
        rw [insertPieces_ok_iff ps m' (mapInsert_sorted k v hs)]
        cases hq : piecesKV ps with
        | error e => simp
        | ok r =>
          simp only [Except.ok.injEq, exists_eq_left', List.map_cons, List.nodup_cons, List.forall_mem_cons,
            mapFind_insert_eq_none _ _ _ hs, hk, List.mem_map, true_and, insertAll, List.foldl_cons]
          constructor
          · rintro ⟨h2, h3, h4⟩
            exact ⟨⟨fun ⟨a, ha, e⟩ => (h3 a ha).1 e.symm, h2⟩, fun x hx => (h3 x hx).2, h4⟩
          · rintro ⟨⟨h1, h2⟩, h3, h4⟩
            exact ⟨h2, fun e he => ⟨fun x => h1 ⟨e, he, x.symm⟩, h3 e he⟩, h4⟩

theorem insertPieces_error : ∀ (ps : List Str) (m : Options) (e : Str), insertPieces ps m = .error e →
    ∃ p, p ∈ ps ∧ (e = lit "Malformed options: '" ++ p ++ lit "'" ∨ e = lit "Malformed option: '" ++ p ++ lit "'" ∨
      ∃ k v, processOption p = .ok (k, v) ∧ e = lit "Option for '" ++ k ++ lit "' specified more than once")
  | [], _, _, h => by simp [insertPieces] at h
  | p :: ps, m, e, h => by
    simp only [insertPieces] at h
    cases hp : processOption p with
    | error e' =>
      simp only [hp, Except.error.injEq] at h
      subst h
      rcases processOption_error p e' hp with h | h
      · exact ⟨p, List.mem_cons_self, Or.inl h⟩
      · exact ⟨p, List.mem_cons_self, Or.inr (Or.inl h)⟩
    | ok kv =>
      obtain ⟨k, v⟩ := kv
      simp only [hp] at h
      split at h
      · obtain ⟨q, hq, hr⟩ := insertPieces_error ps _ e h
        exact ⟨q, List.mem_cons_of_mem _ hq, hr⟩
      · simp only [Except.error.injEq] at h
        exact ⟨p, List.mem_cons_self, Or.inr (Or.inr ⟨k, v, hp, h.symm⟩)⟩

/-- `name=value`, as `-o` takes it -/
def piece (e : Str × Str) : Str := e.1 ++ '=' :: e.2

/-- a pair that ONE piece of the `-o` list can say: `processOption` gives the pair back from `piece e` (name and value non-empty,
the name without `=`: the cut is at the FIRST `=`) and the piece is not cut at a comma -/
def Spellable (e : Str × Str) : Prop := e.1 ≠ [] ∧ e.2 ≠ [] ∧ '=' ∉ e.1 ∧ ',' ∉ piece e

theorem piecesKV_map_piece : ∀ {kvs : List (Str × Str)}, (∀ e ∈ kvs, Spellable e) → piecesKV (kvs.map piece) = .ok kvs
  | [], _ => rfl
  | e :: kvs, h => by
    obtain ⟨h1, h2, h3, _⟩ := h e List.mem_cons_self
    rw [List.map_cons, piecesKV, piece, processOption_append h3, if_neg (not_or.mpr ⟨h1, h2⟩)]
    simp only [piecesKV_map_piece fun x hx => h x (List.mem_cons_of_mem _ hx)]

/-- **the `-o` list can say every map it can hold**: the comma-join of `name=value` pieces with distinct names is parsed
back into exactly these pairs (the converse of `insertPieces_ok_iff`, on a list that is spelled out) -/
theorem parseOptionList_joinWith {kvs : List (Str × Str)} (hne : kvs ≠ []) (hs : ∀ e ∈ kvs, Spellable e)
    (hnd : (kvs.map (·.1)).Nodup) : parseOptionList (joinWith ',' (kvs.map piece)) [] = .ok (insertAll kvs []) := by
  unfold parseOptionList
  rw [splitDelim_joinWith ',' _ (fun h => hne (List.map_eq_nil_iff.mp h))
    (fun p hp => by obtain ⟨e, he, rfl⟩ := List.mem_map.mp hp; exact (hs e he).2.2.2)]
  exact (insertPieces_ok_iff _ _ sortedMap_nil).mpr ⟨kvs, piecesKV_map_piece hs, hnd, fun _ _ => rfl, rfl⟩

/-- the value `CheckInclusion` sees for an option: what `-o` gave, else the inserted default -/
def optVal (m : Options) (k d : String) : Str := (mapFind m (lit k)).getD (lit d)

theorem mapGet_insertAll {kvs : List (Str × Str)} {m : Options} (hs : SortedMap m) {k d : Str}
    (h : (kvs.find? (fun e => e.1 = k)).map (·.2) = some d) : mapGet (insertAll kvs m) k = (mapFind m k).getD d := by
  unfold mapGet
  rw [mapFind_insertAll kvs hs k, h]
  cases mapFind m k <;> rfl

/-- the seven `insert`s of `CheckInclusion`, in the order they are executed -/
theorem inclDefaults_eq (m : Options) : inclDefaults m =
    insertAll [(lit "sim", lit "no"), (lit "dir", lit "up"), (lit "optC", lit "no"), (lit "timeS", lit "yes"),
      (lit "rec", lit "no"), (lit "alg", lit "antichains"), (lit "order", lit "depth")] m := by
  simp only [inclDefaults, insertAll, withDefault, List.foldl_cons, List.foldl_nil]

theorem inclDefaults_sorted {m : Options} (hs : SortedMap m) : SortedMap (inclDefaults m) := by
  rw [inclDefaults_eq]; exact insertAll_sorted _ hs

/-- after the seven `insert`s every inclusion option has a value: the user's if given, else the default -/
theorem mapGet_inclDefaults {m : Options} (hs : SortedMap m) :
    mapGet (inclDefaults m) (lit "alg") = optVal m "alg" "antichains" ∧
    mapGet (inclDefaults m) (lit "dir") = optVal m "dir" "up" ∧
    mapGet (inclDefaults m) (lit "rec") = optVal m "rec" "no" ∧
    mapGet (inclDefaults m) (lit "optC") = optVal m "optC" "no" ∧
    mapGet (inclDefaults m) (lit "sim") = optVal m "sim" "no" ∧
    mapGet (inclDefaults m) (lit "order") = optVal m "order" "depth" ∧
    mapGet (inclDefaults m) (lit "timeS") = optVal m "timeS" "yes" := by
  rw [inclDefaults_eq]
  refine ⟨?_, ?_, ?_, ?_, ?_, ?_, ?_⟩ <;> exact mapGet_insertAll hs (by decide +kernel)

theorem choose_ok_iff (m : Options) (k a b : String) (err : Str) (hab : lit a ≠ lit b) (x : Bool) :
    choose m k a b err = .ok x ↔ mapGet m (lit k) = (if x then lit b else lit a) := by
  unfold choose
  by_cases h1 : mapGet m (lit k) = lit a
  · cases x
    · simp [h1]
    · simp only [h1, if_true, Except.ok.injEq, Bool.false_eq_true, false_iff]
      exact hab
  · by_cases h2 : mapGet m (lit k) = lit b
    · have hba : ¬ lit b = lit a := fun e => hab e.symm
      cases x <;> simp [h2, hba]
    · cases x <;> simp [h1, h2]

theorem choose_error (m : Options) (k a b : String) (err e : Str) (h : choose m k a b err = .error e) : e = err := by
  unfold choose at h
  split at h
  · cases h
  · split at h
    · cases h
    · exact (Except.error.inj h).symm

theorem bind_eq_ok {α β : Type} (x : Except Str α) (f : α → Except Str β) (b : β) :
    x.bind f = .ok b ↔ ∃ a, x = .ok a ∧ f a = .ok b := by
  cases x <;> simp [Except.bind]

theorem bind_eq_error {α β : Type} (x : Except Str α) (f : α → Except Str β) (e : Str) :
    x.bind f = .error e ↔ x = .error e ∨ ∃ a, x = .ok a ∧ f a = .error e := by
  cases x <;> simp [Except.bind]

/-- **what `CheckInclusion` accepts**: the options map is accepted iff each of the seven inclusion options – the user's
value if `-o` gave one, else the default – is EXACTLY one of its two words (case-sensitive, no surrounding blanks; an
option given without `=value` has the value `""` and is rejected); every other option name is ignored.  The choice is
then determined by the values. -/
theorem checkInclusionOpts_ok_iff {opts : Options} (hs : SortedMap opts) (c : InclChoice) :
    checkInclusionOpts opts = .ok c ↔
      optVal opts "alg" "antichains" = (if c.congr then lit "congr" else lit "antichains") ∧
      optVal opts "dir" "up" = (if c.down then lit "down" else lit "up") ∧
      optVal opts "rec" "no" = (if c.recursive then lit "yes" else lit "no") ∧
      optVal opts "optC" "no" = (if c.cache then lit "yes" else lit "no") ∧
      optVal opts "sim" "no" = (if c.sim then lit "yes" else lit "no") ∧
      optVal opts "order" "depth" = (if c.breadth then lit "breadth" else lit "depth") ∧
      optVal opts "timeS" "yes" = (if c.timeS then lit "yes" else lit "no") := by
  obtain ⟨g1, g2, g3, g4, g5, g6, g7⟩ := mapGet_inclDefaults hs
  unfold checkInclusionOpts
  simp only [bind_eq_ok, Except.ok.injEq,
    choose_ok_iff _ _ _ _ _ (by decide : lit "antichains" ≠ lit "congr"),
    choose_ok_iff _ _ _ _ _ (by decide : lit "up" ≠ lit "down"),
    choose_ok_iff _ _ _ _ _ (by decide : lit "no" ≠ lit "yes"),
    choose_ok_iff _ _ _ _ _ (by decide : lit "depth" ≠ lit "breadth")]
  rw [g1, g2, g3, g4, g5, g6, g7]
  constructor
  · rintro ⟨_, h1, _, h2, _, h3, _, h4, _, h5, _, h6, _, h7, rfl⟩
    exact ⟨h1, h2, h3, h4, h5, h6, h7⟩
  · rintro ⟨h1, h2, h3, h4, h5, h6, h7⟩
    exact ⟨_, h1, _, h2, _, h3, _, h4, _, h5, _, h6, _, h7, rfl⟩

/-- **flag-wise specification of the option word**: each `InclParam` bit is set iff the corresponding option has its
non-default word; the EQUIV bit is never set; (`timeS` is not part of the word); as a number the word is the sum of the
masks of the options that have their non-default word -/
theorem word_spec (c : InclChoice) :
    Vata.Dispatch.has c.word fAlg = c.congr ∧ Vata.Dispatch.has c.word fDir = c.down ∧
    Vata.Dispatch.has c.word fRec = c.recursive ∧ Vata.Dispatch.has c.word fCache = c.cache ∧
    Vata.Dispatch.has c.word fSim = c.sim ∧ Vata.Dispatch.has c.word fOrder = c.breadth ∧
    Vata.Dispatch.has c.word fEquiv = false ∧ c.word < 64 ∧
    c.word = (if c.congr then fAlg else 0) + (if c.down then fDir else 0) + (if c.recursive then fRec else 0) +
      (if c.cache then fCache else 0) + (if c.sim then fSim else 0) + (if c.breadth then fOrder else 0) := by
  obtain ⟨a, b, c, d, e, f, g⟩ := c
  -- the masks are regenerated constants looked up by NAME (string comparisons): here and below they are rewritten to
  -- their values (`Vata.Dispatch.flag_values`) before anything is evaluated
  simp only [InclChoice.word, Vata.Dispatch.flag_values]
  revert a b c d e f g
  decide +kernel

/-- the choice whose `word` is `w` (`word_choiceOfWord`): the bits of `w`, and `timeS` for the option that has no bit -/
def choiceOfWord (w : Nat) (timeS : Bool) : InclChoice :=
  ⟨Vata.Dispatch.has w fAlg, Vata.Dispatch.has w fDir, Vata.Dispatch.has w fRec, Vata.Dispatch.has w fCache,
    Vata.Dispatch.has w fSim, Vata.Dispatch.has w fOrder, timeS⟩

/-- every number below 64 (all combinations of the six bits other than EQUIV) is the word of a choice; with `reach`, a word
`CheckInclusion` can produce.  That it produces no others is the `c.word < 64` of `word_spec`. -/
theorem word_choiceOfWord : ∀ w, w < 64 → ∀ t, (choiceOfWord w t).word = w := by
  simp only [InclChoice.word, choiceOfWord, Vata.Dispatch.flag_values]
  decide +kernel

theorem finish_ok_iff (st : St) (a : Arguments) : finish st = .ok a ↔ st.ps = .done ∧ st.args = a := by
  unfold finish
  by_cases h : st.ps = .done <;> simp [h]

/-- the state after a successful iteration: `break`, or one / two elements consumed -/
def Step.state? : Step → Option St
  | .brk st | .one st | .two st => some st
  | .err _ => none

/-- induction over the loop, with the elements known to come from the vector: `Q` holds initially and is kept by
every successful iteration, `R` holds of what `finish` makes of a state with `Q` and of the exception of an iteration
started in such a state -/
theorem parseLoop_ind (argv : List Str) (Q : St → Prop) (R : Except Str Arguments → Prop)
    (hfin : ∀ st, Q st → R (finish st))
    (hok : ∀ cur next st st', cur ∈ argv → (∀ x ∈ next, x ∈ argv) → Q st → (stepArg cur next st).state? = some st' → Q st')
    (herr : ∀ cur next st e, cur ∈ argv → (∀ x ∈ next, x ∈ argv) → Q st → stepArg cur next st = .err e → R (.error e)) :
    ∀ l : List Str, (∀ x ∈ l, x ∈ argv) → ∀ st, Q st → R (parseLoop l st)
  | [], _, st, hQ => hfin st hQ
  | cur :: rest, hsub, st, hQ => by
    have hc : cur ∈ argv := hsub cur List.mem_cons_self
    have hrest : ∀ x ∈ rest, x ∈ argv := fun x hx => hsub x (List.mem_cons_of_mem _ hx)
    have hn : ∀ x ∈ rest.head?, x ∈ argv := fun x hx => hrest x (List.mem_of_mem_head? hx)
    rw [parseLoop_cons]
    cases hs : stepArg cur rest.head? st with
    | brk st' => exact hfin st' (hok _ _ _ _ hc hn hQ (by rw [hs]; rfl))
    | one st' => exact parseLoop_ind argv Q R hfin hok herr rest hrest st' (hok _ _ _ _ hc hn hQ (by rw [hs]; rfl))
    | two st' =>
      exact parseLoop_ind argv Q R hfin hok herr (rest.drop 1) (fun x hx => hrest x (List.mem_of_mem_drop hx)) st'
        (hok _ _ _ _ hc hn hQ (by rw [hs]; rfl))
    | err e => exact herr _ _ _ _ hc hn hQ hs
termination_by l => l.length
decreasing_by all_goals simp only [List.length_cons, List.length_drop]; omega

/-- a property of the local state that holds initially and is kept by every successful iteration holds for the state
the result is taken from -/
theorem parse_inv {argv : List Str} (P : St → Prop) (h0 : P {})
    (hstep : ∀ cur next st st', cur ∈ argv → (∀ x ∈ next, x ∈ argv) → P st → (stepArg cur next st).state? = some st' → P st')
    {a : Arguments} (h : parse argv = .ok a) : ∃ st', P st' ∧ st'.ps = .done ∧ st'.args = a :=
  parseLoop_ind argv P (fun r => ∀ a, r = .ok a → ∃ st', P st' ∧ st'.ps = .done ∧ st'.args = a)
    (fun st hP a h => ⟨st, hP, (finish_ok_iff st a).mp h⟩) hstep (fun _ _ _ _ _ _ _ _ _ h => nomatch h)
    argv (fun _ h => h) {} h0 a h

/-- the number of file operands the command word announces (`commandWord_spec`) -/
def arity : Command → Nat
  | .help | .version => 0
  | .load | .witness | .cmpl | .sim | .red => 1
  | .union | .isect | .incl | .equiv => 2

theorem all_ite {α : Type} {p : Prop} [Decidable p] {f : α → Bool} {a b : Option α}
    (ha : a.all f = true) (hb : b.all f = true) : (if p then a else b).all f = true := by
  split
  · exact ha
  · exact hb

theorem commandWord_spec {s : Str} {c : Command} {n : Nat} {ps : PState} (h : commandWord s = some (c, n, ps)) :
    n = arity c ∧ c ≠ .help ∧ c ≠ .version ∧ ((n = 1 ∧ ps = .loadFile) ∨ (n = 2 ∧ ps = .load2Files1)) := by
  -- checked on each of the nine words of the chain
  have hall : (commandWord s).all (fun r => decide (r.2.1 = arity r.1 ∧ r.1 ≠ .help ∧ r.1 ≠ .version ∧
      ((r.2.1 = 1 ∧ r.2.2 = .loadFile) ∨ (r.2.1 = 2 ∧ r.2.2 = .load2Files1)))) = true := by
    unfold commandWord
    repeat apply all_ite rfl
    rfl
  rw [h] at hall
  exact of_decide_eq_true hall

/-- the relation between the parser state and the command fields of `args` -/
def WF (st : St) : Prop :=
  match st.ps with
  | .command => st.args.command = .help ∧ st.args.operands = 0 ∧ st.args.fileName1 = [] ∧ st.args.fileName2 = []
  | .loadFile => arity st.args.command = 1 ∧ st.args.operands = 1 ∧ st.args.fileName1 = [] ∧ st.args.fileName2 = []
  | .load2Files1 => arity st.args.command = 2 ∧ st.args.operands = 2 ∧ st.args.fileName1 = [] ∧ st.args.fileName2 = []
  | .load2Files2 => arity st.args.command = 2 ∧ st.args.operands = 2 ∧ st.args.fileName2 = []
  | .done => st.args.command = .help ∨ st.args.command = .version ∨
      (st.args.operands = arity st.args.command ∧ 1 ≤ st.args.operands ∧ (st.args.operands = 1 → st.args.fileName2 = []))

/-- what a successful non-flag iteration does, by parser state -/
theorem stepWord_state {cur : Str} {st st' : St} (h : (stepWord cur st).state? = some st') :
    (st.ps = .command ∧
      ((∃ c, (c = .help ∨ c = .version) ∧ st' = { st with ps := .done, args := { st.args with command := c } }) ∨
       ∃ c n ps, commandWord cur = some (c, n, ps) ∧
         st' = { st with ps := ps, args := { st.args with command := c, operands := n } })) ∨
    (st.ps = .loadFile ∧ st' = { st with ps := .done, args := { st.args with fileName1 := cur } }) ∨
    (st.ps = .load2Files1 ∧ st' = { st with ps := .load2Files2, args := { st.args with fileName1 := cur } }) ∨
    (st.ps = .load2Files2 ∧ st' = { st with ps := .done, args := { st.args with fileName2 := cur } }) := by
  unfold stepWord at h
  cases hps : st.ps <;> simp only [hps] at h
  case command =>
    refine Or.inl ⟨rfl, ?_⟩
    split at h
    · cases h; exact Or.inl ⟨_, Or.inl rfl, rfl⟩
    · split at h
      · cases h; exact Or.inl ⟨_, Or.inr rfl, rfl⟩
      · split at h
        · rename_i c n ps hcw
          cases h; exact Or.inr ⟨c, n, ps, hcw, rfl⟩
        · cases h
  case loadFile => cases h; exact Or.inr (Or.inl ⟨rfl, rfl⟩)
  case load2Files1 => cases h; exact Or.inr (Or.inr (Or.inl ⟨rfl, rfl⟩))
  case load2Files2 => cases h; exact Or.inr (Or.inr (Or.inr ⟨rfl, rfl⟩))
  case done => cases h

/-- a flag with an argument succeeds only if it was not given before and is not the last element -/
theorem argFlag_state {seen : Bool} {again needs : Str} {next : Option Str} {k : Str → Step} {st' : St}
    (h : (if seen = true then Step.err again else flagArg needs next k).state? = some st') :
    seen = false ∧ ∃ a, next = some a ∧ (k a).state? = some st' := by
  split at h
  · cases h
  · cases next with
    | none => cases h
    | some a => exact ⟨Bool.eq_false_iff.mpr ‹_›, a, rfl, h⟩

/-- what a successful iteration does: the non-flag branch; `-h` / `-v`; or a flag, which leaves the parser state and
the command fields alone and changes the options only if it is the first `-o` -/
theorem stepArg_state {cur : Str} {next : Option Str} {st st' : St} (h : (stepArg cur next st).state? = some st') :
    (classify cur = .word ∧ (stepWord cur st).state? = some st') ∨
    (∃ c, (c = .help ∨ c = .version) ∧ st' = { st with ps := .done, args := { st.args with command := c } }) ∨
    (st'.ps = st.ps ∧ st'.args.command = st.args.command ∧ st'.args.operands = st.args.operands ∧
      st'.args.fileName1 = st.args.fileName1 ∧ st'.args.fileName2 = st.args.fileName2 ∧
      ((st'.args.options = st.args.options ∧ st'.seen.options = st.seen.options) ∨
       (st.seen.options = false ∧ st'.seen.options = true ∧ ∃ arg, next = some arg ∧
         parseOptionList arg st.args.options = .ok st'.args.options))) := by
  unfold stepArg at h
  cases hc : classify cur <;> simp only [hc] at h
  case word => exact Or.inl ⟨rfl, h⟩
  case help => cases h; exact Or.inr (Or.inl ⟨_, Or.inl rfl, rfl⟩)
  case version => cases h; exact Or.inr (Or.inl ⟨_, Or.inr rfl, rfl⟩)
  case badFlag => cases h
  case showTime | verbose | pruneUnreach | pruneUseless | dontOutput =>
    split at h
    · cases h
    · cases h; exact Or.inr (Or.inr ⟨rfl, rfl, rfl, rfl, rfl, Or.inl ⟨rfl, rfl⟩⟩)
  case repr | inFmt | outFmt | bothFmt =>
    obtain ⟨_, arg, rfl, hk⟩ := argFlag_state h
    split at hk
    · cases hk
    · cases hk; exact Or.inr (Or.inr ⟨rfl, rfl, rfl, rfl, rfl, Or.inl ⟨rfl, rfl⟩⟩)
  case opts =>
    obtain ⟨hseen, arg, rfl, hk⟩ := argFlag_state h
    split at hk
    · cases hk
    · rename_i m hp
      cases hk; exact Or.inr (Or.inr ⟨rfl, rfl, rfl, rfl, rfl, Or.inr ⟨hseen, rfl, arg, rfl, hp⟩⟩)

theorem stepWord_WF {cur : Str} {st st' : St} (hw : WF st) (h : (stepWord cur st).state? = some st') : WF st' := by
  unfold WF at hw
  rcases stepWord_state h with ⟨hps, ⟨c, hc, rfl⟩ | ⟨c, n, ps, hcw, rfl⟩⟩ | ⟨hps, rfl⟩ | ⟨hps, rfl⟩ | ⟨hps, rfl⟩ <;>
    rw [hps] at hw
  · exact hc.imp_right Or.inl
  · obtain ⟨h1, _, _, ⟨rfl, rfl⟩ | ⟨rfl, rfl⟩⟩ := commandWord_spec hcw <;>
      exact ⟨h1.symm, rfl, hw.2.2.1, hw.2.2.2⟩
  · obtain ⟨ha, ho, _, hf⟩ := hw
    exact Or.inr (Or.inr ⟨ho.trans ha.symm, Nat.le_of_eq ho.symm, fun _ => hf⟩)
  · exact ⟨hw.1, hw.2.1, hw.2.2.2⟩
  · obtain ⟨ha, ho, _⟩ := hw
    exact Or.inr (Or.inr ⟨ho.trans ha.symm, ho ▸ Nat.le_succ 1, fun h1 => absurd (ho.symm.trans h1) (by decide)⟩)

theorem stepArg_WF {cur : Str} {next : Option Str} {st st' : St} (hw : WF st)
    (h : (stepArg cur next st).state? = some st') : WF st' := by
  rcases stepArg_state h with ⟨_, h⟩ | ⟨c, hc, rfl⟩ | ⟨h1, h2, h3, h4, h5, _⟩
  · exact stepWord_WF hw h
  · exact hc.imp_right Or.inl
  · unfold WF at hw ⊢
    rw [h1, h2, h3, h4, h5]; exact hw

theorem parseOptionList_sorted {arg : Str} {m m' : Options} (hs : SortedMap m) (h : parseOptionList arg m = .ok m') :
    SortedMap m' := by
  unfold parseOptionList at h
  obtain ⟨kvs, _, _, _, rfl⟩ := (insertPieces_ok_iff _ m' hs).mp h
  exact insertAll_sorted kvs hs

/-- how an iteration changes the options map: not at all, or it is the first `-o` and the map is what `parseOptionList`
makes of its argument -/
theorem stepArg_options {cur : Str} {next : Option Str} {st st' : St} (h : (stepArg cur next st).state? = some st') :
    (st'.args.options = st.args.options ∧ st'.seen.options = st.seen.options) ∨
    (st.seen.options = false ∧ st'.seen.options = true ∧ ∃ arg, next = some arg ∧
      parseOptionList arg st.args.options = .ok st'.args.options) := by
  rcases stepArg_state h with ⟨_, hw⟩ | ⟨c, _, rfl⟩ | ⟨_, _, _, _, _, ho⟩
  · rcases stepWord_state hw with ⟨_, ⟨c, _, rfl⟩ | ⟨c, n, ps, _, rfl⟩⟩ | ⟨_, rfl⟩ | ⟨_, rfl⟩ | ⟨_, rfl⟩ <;>
      exact Or.inl ⟨rfl, rfl⟩
  · exact Or.inl ⟨rfl, rfl⟩
  · exact ho

/-- a statement about all four representations is checked in one evaluation -/
instance {p : Rep → Prop} [DecidablePred p] : Decidable (∀ r, p r) :=
  decidable_of_iff (p .bddTd ∧ p .bddBu ∧ p .expl ∧ p .explFa)
    ⟨fun ⟨h1, h2, h3, h4⟩ r => by cases r <;> assumption, fun h => ⟨h _, h _, h _, h _⟩⟩

/-- the spelling of the representation after `-r` (`translateRep_repName`) -/
def repName : Rep → Str
  | .expl => lit "expl"
  | .bddTd => lit "bdd-td"
  | .bddBu => lit "bdd-bu"
  | .explFa => lit "expl_fa"

/-- parse `argv`, require the command `incl` on representation `r`, run the option handling of `CheckInclusion` -/
def inclChoiceOf (r : Rep) (argv : List Str) : Option InclChoice :=
  match parse argv with
  | .error _ => none
  | .ok a =>
    if a.command = .incl ∧ a.representation = r ∧ a.operands = 2 then
      match checkInclusionOpts a.options with
      | .ok c => some c
      | .error _ => none
    else none

/-- the seven pairs that `optionString c` spells out, in its order -/
def choicePairs (c : InclChoice) : List (Str × Str) :=
  [(lit "alg", if c.congr then lit "congr" else lit "antichains"), (lit "dir", if c.down then lit "down" else lit "up"),
   (lit "rec", if c.recursive then lit "yes" else lit "no"), (lit "optC", if c.cache then lit "yes" else lit "no"),
   (lit "sim", if c.sim then lit "yes" else lit "no"), (lit "order", if c.breadth then lit "breadth" else lit "depth"),
   (lit "timeS", if c.timeS then lit "yes" else lit "no")]

theorem optionString_eq (c : InclChoice) : optionString c = joinWith ',' ((choicePairs c).map piece) := by
  unfold optionString choicePairs
  -- `rewrite`, not `rw`: `rw` tries `rfl` with reducible definitions unfolded, `lit` is one, and the strings get decoded
  repeat rewrite [lit_ofList]
  -- the `++` of `optionString` associate to the left
  simp only [List.append_assoc]
  rfl

theorem spellable_ite {k x y : Str} {p : Prop} [Decidable p] (hx : Spellable (k, x)) (hy : Spellable (k, y)) :
    Spellable (k, if p then x else y) := by
  split
  · exact hx
  · exact hy

/-- fourteen closed checks: each name with each of its two words -/
theorem choicePairs_spellable (c : InclChoice) : ∀ e ∈ choicePairs c, Spellable e := by
  unfold choicePairs
  repeat rewrite [lit_ofList]
  simp only [List.forall_mem_cons, List.not_mem_nil, false_imp_iff, implies_true, and_true]
  refine ⟨?_, ?_, ?_, ?_, ?_, ?_, ?_⟩ <;>
    exact spellable_ite (by unfold Spellable piece; decide) (by unfold Spellable piece; decide)

theorem choicePairs_nodup (c : InclChoice) : ((choicePairs c).map (·.1)).Nodup := by
  unfold choicePairs
  simp only [List.map]
  decide +kernel

/-- `CheckInclusion` reads the choice back from its seven pairs -/
theorem checkInclusionOpts_choicePairs (c : InclChoice) : checkInclusionOpts (insertAll (choicePairs c) []) = .ok c := by
  refine (checkInclusionOpts_ok_iff (insertAll_sorted _ sortedMap_nil) c).mpr ?_
  unfold optVal
  simp only [mapFind_insertAll _ sortedMap_nil]
  exact ⟨rfl, rfl, rfl, rfl, rfl, rfl, rfl⟩

theorem parseOptionList_optionString (c : InclChoice) :
    parseOptionList (optionString c) [] = .ok (insertAll (choicePairs c) []) := by
  rw [optionString_eq]
  exact parseOptionList_joinWith (List.cons_ne_nil _ _) (choicePairs_spellable c) (choicePairs_nodup c)

/-- a first `-r` with a representation name -/
theorem stepArg_repr {cur a : Str} {st : St} {r : Rep} (hc : classify cur = .repr) (hs : st.seen.representation = false)
    (h : translateRep a = .ok r) : stepArg cur (some a) st =
      .two { st with seen := { st.seen with representation := true }, args := { st.args with representation := r } } := by
  unfold stepArg
  simp only [hc, hs, flagArg, h, Bool.false_eq_true, if_false]

/-- a first `-o` with a list that is accepted -/
theorem stepArg_opts {cur a : Str} {st : St} {m : Options} (hc : classify cur = .opts) (hs : st.seen.options = false)
    (h : parseOptionList a st.args.options = .ok m) : stepArg cur (some a) st =
      .two { st with seen := { st.seen with options := true }, args := { st.args with options := m } } := by
  unfold stepArg
  simp only [hc, hs, flagArg, h, Bool.false_eq_true, if_false]

theorem translateRep_repName (r : Rep) : translateRep (repName r) = .ok r := by
  cases r <;> decide +kernel

/-- a first `-o` with an accepted list, then `incl a b` -/
theorem parseLoop_opts_incl {st : St} {arg : Str} {m : Options} (hps : st.ps = .command) (hs : st.seen.options = false)
    (h : parseOptionList arg st.args.options = .ok m) :
    parseLoop [lit "-o", arg, lit "incl", lit "a", lit "b"] st =
      .ok { st.args with options := m, command := .incl, operands := 2, fileName1 := lit "a", fileName2 := lit "b" } := by
  obtain ⟨ps, s, a⟩ := st
  subst hps
  rw [parseLoop, stepArg_opts (by decide +kernel) hs h]
  -- the three words are evaluated; the state holds the variable `m`, so this is `rfl`, not `decide`
  rfl

theorem inclChoiceOf_of_parse {r : Rep} {argv : List Str} {a : Arguments} (h : parse argv = .ok a)
    (hc : a.command = .incl ∧ a.representation = r ∧ a.operands = 2) :
    inclChoiceOf r argv = (checkInclusionOpts a.options).toOption := by
  unfold inclChoiceOf
  rw [h]
  simp only [hc, and_self, if_true]
  cases checkInclusionOpts a.options <;> rfl

/-- **from the command line to `CheckInclusion`**: `-r <name> -o <list> incl a b` hands the options the list denotes to the
option handling of `CheckInclusion`, on the representation named -/
theorem inclChoiceOf_line (r : Rep) {arg : Str} {m : Options} (h : parseOptionList arg [] = .ok m) :
    inclChoiceOf r [lit "-r", repName r, lit "-o", arg, lit "incl", lit "a", lit "b"] = (checkInclusionOpts m).toOption := by
  have hp : parse [lit "-r", repName r, lit "-o", arg, lit "incl", lit "a", lit "b"] = .ok
      { command := .incl, representation := r, operands := 2, fileName1 := lit "a", fileName2 := lit "b", options := m } := by
    rw [parse, parseLoop, stepArg_repr (by decide +kernel) rfl (translateRep_repName r)]
    exact parseLoop_opts_incl rfl rfl h
  -- `rw`, not `exact`: against the goal the unifier would unfold `checkInclusionOpts`
  rw [inclChoiceOf_of_parse hp ⟨rfl, rfl, rfl⟩]

/-- **every choice of the seven inclusion options is reachable on every representation**: the `-o` argument that spells the
choice out is parsed and accepted and yields exactly this choice (hence, `word_choiceOfWord`, every option word below 64) -/
theorem reach (r : Rep) (c : InclChoice) :
    inclChoiceOf r [lit "-r", repName r, lit "-o", optionString c, lit "incl", lit "a", lit "b"] = some c := by
  rw [inclChoiceOf_line r (parseOptionList_optionString c), checkInclusionOpts_choicePairs]; rfl

/-- … and `expl` is the representation when there is no `-r` -/
theorem reach_all (c : InclChoice) :
    inclChoiceOf .expl [lit "-o", optionString c, lit "incl", lit "a", lit "b"] = some c := by
  have hp : parse [lit "-o", optionString c, lit "incl", lit "a", lit "b"] = .ok
      { command := .incl, operands := 2, fileName1 := lit "a", fileName2 := lit "b", options := insertAll (choicePairs c) [] } :=
    parseLoop_opts_incl (st := {}) rfl rfl (parseOptionList_optionString c)
  rw [inclChoiceOf_of_parse hp ⟨rfl, rfl, rfl⟩, checkInclusionOpts_choicePairs]; rfl

/-- the command line that selects the case with word `w` on representation `r` -/
def selectArgv (r : Rep) (w : Nat) : List Str :=
  [lit "-r", repName r, lit "-o", optionString (choiceOfWord w true), lit "incl", lit "a", lit "b"]

/-- a word of the regenerated tables without the EQUIV bit is one of the 64 words `CheckInclusion` can build -/
theorem table_word_lt : ∀ r : Rep, (table r).all (fun c => Vata.Dispatch.has c.word fEquiv || decide (c.word < 64)) = true := by
  simp only [Vata.Dispatch.flag_values]
  decide +kernel

/-- the word of an `InclChoice` never has the EQUIV bit: the cases `CONGR_DEPTH_EQUIV_NOSIM` (65) and `CONGR_BREADTH_EQUIV_NOSIM`
(97) of the word-automata dispatcher cannot be selected by `incl`, whose word is that of the choice `CheckInclusion` returns -/
theorem equiv_unreachable_by_incl (c : InclChoice) :
    Vata.Dispatch.has c.word fEquiv = false ∧ c.word ≠ 65 ∧ c.word ≠ 97 := by
  have := word_spec c
  refine ⟨this.2.2.2.2.2.2.1, ?_, ?_⟩ <;> omega

/-- explicit tree automata: antichains only, search order `depth`; upward needs `rec=no, optC=no`; downward
non-recursive needs `optC=no` -/
def implExpl (c : InclChoice) : Bool :=
  !c.congr && !c.breadth && (if c.down then (c.recursive || !c.cache) else (!c.recursive && !c.cache))

/-- top-down BDD: downward recursive only -/
def implTd (c : InclChoice) : Bool := !c.congr && !c.breadth && c.down && c.recursive

/-- bottom-up BDD: upward (`rec=no, optC=no`), or downward recursive WITH simulation and `optC=no` -/
def implBu (c : InclChoice) : Bool :=
  !c.congr && !c.breadth && (if c.down then (c.recursive && !c.cache && c.sim) else (!c.recursive && !c.cache))

/-- word automata: `dir=up, rec=no, optC=no`; antichains with `order=depth`; congruence with any order but
`order=breadth, sim=yes` -/
def implFa (c : InclChoice) : Bool :=
  !c.down && !c.recursive && !c.cache && (if c.congr then !(c.breadth && c.sim) else !c.breadth)

/-- the choices for which the dispatcher of representation `r` has a `case` (`implemented_iff`); the others reach `default:` -/
def impl : Rep → InclChoice → Bool
  | .expl => implExpl
  | .bddTd => implTd
  | .bddBu => implBu
  | .explFa => implFa

/-- **which accepted option combinations reach a `case`, which the `default:` (NotImplementedException)**, per
representation, against the regenerated dispatch tables -/
theorem implemented_iff : ∀ (r : Rep) (a b c d e f g : Bool),
    implemented r (InclChoice.word ⟨a, b, c, d, e, f, g⟩) = impl r ⟨a, b, c, d, e, f, g⟩ := by
  simp only [InclChoice.word, Vata.Dispatch.flag_values]
  decide +kernel

end Vata.CliArgs
