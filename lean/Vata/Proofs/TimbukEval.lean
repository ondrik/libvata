import Vata.Proofs.Timbuk
/-!
# Running the parser on a string literal

A literal `"…"` unifies with `String.ofList l`, `l` the list of its characters, at no cost, whereas evaluating `String.toList` on it decodes
UTF-8 in the kernel, slowly.  The statements here have `String.ofList l` where a test has its literal: `rw` /
`exact` with them (likewise with `parseTimbuk_ofList`, `String.toList_ofList`) leaves `parseC l` to be evaluated.
-/
namespace Vata
open Timbuk

/-- an `Except` value is `.ok a` if its `toOption` is `some a`: `Except` has no decidable equality, `Option` has -/
theorem ok_of_toOption {ε α : Type} {x : Except ε α} {a : α} (h : x.toOption = some a) : x = .ok a := by
  cases x with
  | error e => cases h
  | ok b => injection h with h; rw [h]

theorem parseTimbuk_ok {l : Str} {d : AutDesc} (h : (parseC l).toOption.map Desc.toS = some d) :
    parseTimbuk (String.ofList l) = .ok d := by
  rw [parseTimbuk_ofList]
  apply ok_of_toOption
  cases hp : parseC l with
  | error e => rw [hp] at h; cases h
  | ok d₀ => rw [hp] at h; exact h

theorem rejects_ofList (l : Str) : TimbukTest.rejects (String.ofList l) = (parseC l).toOption.isNone := by
  rw [TimbukTest.rejects, parseTimbuk_ofList]
  cases parseC l <;> rfl

theorem TimbukEx.exE_wf : TimbukEx.exE.WellFormed := by decide +kernel

end Vata
