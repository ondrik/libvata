import Vata.Lang
import Vata.Reduce
import Vata.Proofs.Rename
/-!
# C14 – Renaming states or symbols yields exactly the image automaton

> ReindexStates and CollapseStates return exactly the image of the automaton under the given state map: a rule or final
> state is in the result if and only if it is the image of a rule or final state of the input, and TranslateSymbols
> does the same for a symbol map.  Consequently an injective renaming yields an isomorphic automaton with the same
> language and the same number of states and rules, and a non-injective state map yields an automaton whose language
> contains the original one.

## How the statement is read into the model

* **Specification (L0).**  The image of a rule `f(q₁..qₙ) → q` under a state map `h` is `mapRule h r = f(h q₁..h qₙ) → h q`
  (`Vata/Reduce.lean`), under a symbol map `g` it is `mapSym g r = (g f)(q₁..qₙ) → q` (`Vata/Ref.lean`).  "Is in the
  result iff it is the image of …" is the membership equivalence below.  `InjOnStates h A` = `h` is injective on the
  states occurring in `A`; `Tree.mapSyms g t` relabels a tree.
* **Model of the code.**  `reindex h A` is the model of both `ReindexStates` and `CollapseStates` (the two C++ functions
  differ only in how the functor is given; total maps `h : Nat → Nat` stand for the index functors / translators),
  `translateSymbols g A` of `TranslateSymbols`.  They are the automata the results of the real calls are compared with
  as sets of rules and final states (`taEq`).
-/
namespace Vata.Props

/-- `ReindexStates` / `CollapseStates`: a rule (a final state) is in the result iff it is the image of a rule (a final
state) of the input; the states of the result are the images of the states -/
theorem C14_reindex_image (h : Nat → Nat) (A : TA) :
    (∀ r', r' ∈ (reindex h A).rules ↔ ∃ r, r ∈ A.rules ∧ r' = mapRule h r) ∧
    (∀ q', q' ∈ (reindex h A).final ↔ ∃ q, q ∈ A.final ∧ q' = h q) ∧
    (∀ q', q' ∈ (reindex h A).states ↔ ∃ q, q ∈ A.states ∧ q' = h q) :=
  ⟨reindex_rules h A, reindex_final h A, fun _ => mem_states_reindex⟩

-- a merging map hitting the same target repeatedly: both `f(1,1) → 1` and `g(1) → 2` land on parent `0`
example : (reindex (fun _ => 0) RenameEx.exA).rules = [⟨0, [], 0⟩, ⟨1, [0, 0], 0⟩, ⟨2, [0], 0⟩] ∧
    (reindex (fun _ => 0) RenameEx.exA).final = [0] := by decide

/-- `TranslateSymbols`: the same for a symbol map; final states are untouched -/
theorem C14_translateSymbols_image (g : Nat → Nat) (A : TA) :
    (∀ r', r' ∈ (translateSymbols g A).rules ↔ ∃ r, r ∈ A.rules ∧ r' = mapSym g r) ∧
    (translateSymbols g A).final = A.final :=
  ⟨fun r' => by
    simp only [translateSymbols, List.mem_map]
    exact ⟨fun ⟨r, hr, he⟩ => ⟨r, hr, he.symm⟩, fun ⟨r, hr, he⟩ => ⟨r, hr, he.symm⟩⟩, rfl⟩

example : (translateSymbols (· + 42) RenameEx.exA).rules = [⟨42, [], 1⟩, ⟨43, [1, 1], 1⟩, ⟨44, [1], 2⟩] := by decide

/-- an injective renaming (injective on the states that occur) yields an automaton with the same language, the same
number of states and the same number of rules -/
theorem C14_injective_renaming (h : Nat → Nat) (A : TA) (hinj : InjOnStates h A) :
    LangEq (reindex h A) A ∧ (reindex h A).states.length = A.states.length ∧
    (reindex h A).rules.length = A.rules.length :=
  ⟨fun t => reindex_inj_lang h A hinj t, reindex_states_length h A hinj, reindex_rules_length h A⟩

example : InjOnStates (fun q => 5 - q) RenameEx.exA := by
  intro q q' hq hq' h
  have h1 : q ∈ [1, 2] := hq
  have h2 : q' ∈ [1, 2] := hq'
  simp only [List.mem_cons, List.not_mem_nil, or_false] at h1 h2
  simp only at h
  omega

/-- under an injective renaming the run semantics itself is transported: the states reached on a tree are the images -/
theorem C14_injective_renaming_runs (h : Nat → Nat) (A : TA) (hinj : InjOnStates h A) (t : Tree) (x : Nat) :
    x ∈ reach (reindex h A) t ↔ ∃ q, q ∈ reach A t ∧ x = h q :=
  ⟨reindex_inj_reach_image h A hinj t x, fun ⟨q, hq, he⟩ => he ▸ reindex_mono h A t q hq⟩

example : 12 ∈ reach (reindex (· + 10) RenameEx.exA) RenameEx.exT := by decide

/-- any state map, injective or not: the language of the image contains the original one (runs are mapped to runs) -/
theorem C14_any_map_superset (h : Nat → Nat) (A : TA) :
    Incl A (reindex h A) ∧ ∀ t q, q ∈ reach A t → h q ∈ reach (reindex h A) t :=
  ⟨reindex_Incl h A, reindex_mono h A⟩

-- the inclusion can be strict: merging all states of `exA` makes `a` accepted
example : accepts RenameEx.exA (.node 0 []) = false ∧ accepts (reindex (fun _ => 0) RenameEx.exA) (.node 0 []) = true := by
  decide

/-- symbol maps: the translated automaton accepts the relabelled trees of the language; for an injective symbol map it
accepts a relabelled tree exactly when the original automaton accepts the tree -/
theorem C14_translateSymbols_lang (g : Nat → Nat) (A : TA) :
    (∀ t, accepts A t = true → accepts (translateSymbols g A) (Tree.mapSyms g t) = true) ∧
    ((∀ a b, g a = g b → a = b) → ∀ t, accepts (translateSymbols g A) (Tree.mapSyms g t) = accepts A t) :=
  ⟨translateSymbols_incl g A, fun hg t => translateSymbols_lang g hg A t⟩

example : (∀ a b : Nat, (· + 42) a = (· + 42) b → a = b) ∧ accepts RenameEx.exA RenameEx.exT = true :=
  ⟨by intro a b h; simp only at h; omega, by decide⟩

/-!
## closed since the last refresh of this file

* **"The copy-on-write handling of the destination (`ReindexStates(dst, index, addFinalStates)` into a *given* destination
  automaton …) is not modelled"** – closed in the extended heap model of C11: `ReindexStates(dst, …)` (and `Union`, which is two
  of them into a new object) is a sequence of `SetStateFinal` and insertions through the `unique…` helpers into `dst`, and no
  other object changes (`C11_ext_reindex_into` in `Vata/Properties/C11_Extended.lean`).
* **The translator classes** the index functors are instances of: `TranslatorStrict` (and the `const` call operator of the
  weak translators) is a pure lookup – a miss is an exception, never an insertion (`Util_Glue_strict_pure`); `TranslatorWeak`
  is lookup-or-create, keeps every old translation and stays injective when the functor's answer is fresh
  (`Util_Glue_weak_injective`, `Util_Glue_weak_eval_order` in `Vata/Properties/Util_Glue.lean`).
* Totality of the reference deciders the results are compared with: `C14_reference_total` (`Vata/Properties/RefTotal.lean`).
* The renaming `SanitizeAutsForInclusion` performs is an instance with all consequences proved (`C01_sanitise_model`), and so
  is the quotient map of `Reduce` as coded (`C05_pipeline`).

## not yet proved

* "Isomorphic" is rendered by its consequences (same language, same run semantics up to `h`, same counts); an
  explicit isomorphism statement (inverse map on the image with `reindex h⁻¹ (reindex h A) = A` up to set equality)
  is not stated.
* `reindex` takes a TOTAL map `h : Nat → Nat`; the composition "a translator object that throws on an unknown state, applied
  by `ReindexStates`" (which states are looked up, in which order, what is left in `dst` when the exception is thrown) is not
  modelled – only the translator classes on their own (above) and the total-map image.
* For `TranslateSymbols` with a non-injective symbol map only the inclusion is proved (the converse is false, see
  `RenameEx`); trees that are not of the form `mapSyms g t` are not covered by `C14_translateSymbols_lang` (they are by
  `C14_translateSymbols_image` together with the definition of `accepts`, and by `translateSymbols_accepts_image` in
  `Vata/Proofs/Equivariance.lean`: the renumbered automaton accepts only renumbered trees).
-/
end Vata.Props
