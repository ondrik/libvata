import Vata.Proofs.GlueAsgn
import Vata.Proofs.GlueDict
import Vata.Proofs.GlueTransl
import Vata.Proofs.GlueConv
import Vata.Proofs.GluePacked
/-!
# Histories over dictionaries and maps (`Vata/Glue.lean`): the invariant of every live object

`history_inv`: after ANY history of operations of the `glue` kind whose steps stay inside the contracts (`OpOk`:
`Insert` of a new key and a new value, `Union` of dictionaries without common keys / values, weak translators whose
functor returns fresh values, helpers whose translation maps produce pairwise different numbers and – for the product –
pairwise different names), every live `TwoWayDict` satisfies its representation invariant (`TwoWayDict.Inv`: the two maps
are maps and are inverse to each other – `translate_inverse`, `size_eq`, `getReverseMap_spec` apply) and every live
`StateToStateMap` is a map.  `step_query_unchanged`: the strict translators and all read-only members leave every live
object as it was.

The theorems hold for every entry-preserving normalisation `norm` (`NormOk`); `norm_ok`: the one the driver uses
(`StateDict.norm`, the iteration order of the `std::map`s) is entry preserving.
-/
namespace Vata.Glue

theorem insByKey_perm {κ ν : Type} (lt : κ → κ → Bool) (e : κ × ν) : ∀ (l : List (κ × ν)), (insByKey lt e l).Perm (e :: l)
  | [] => List.Perm.refl _
  | f :: r => by
    simp only [insByKey]
    split
    · exact ((insByKey_perm lt e r).cons f).trans (List.Perm.swap e f r)
    · exact List.Perm.refl _

theorem sortByKey_perm {κ ν : Type} (lt : κ → κ → Bool) : ∀ (l : List (κ × ν)), (sortByKey lt l).Perm l
  | [] => List.Perm.refl _
  | e :: r => (insByKey_perm lt e _).trans ((sortByKey_perm lt r).cons e)

theorem inv_of_perm {α β : Type} [DecidableEq α] [DecidableEq β] {d d' : TwoWayDict α β} (hf : d'.fwd.Perm d.fwd)
    (hb : d'.bwd.Perm d.bwd) (h : d.Inv) : d'.Inv :=
  ⟨(hf.map Prod.fst).nodup_iff.2 h.fwdMap, (hb.map Prod.fst).nodup_iff.2 h.bwdMap,
    fun a b => by rw [hf.mem_iff, hb.mem_iff]; exact h.inverse a b⟩

def NormOk (norm : StateDict → StateDict) : Prop := ∀ d : StateDict, (norm d).fwd.Perm d.fwd ∧ (norm d).bwd.Perm d.bwd

theorem norm_ok : NormOk StateDict.norm := fun _ => ⟨sortByKey_perm _ _, sortByKey_perm _ _⟩

theorem norm_id_ok : NormOk id := fun _ => ⟨List.Perm.refl _, List.Perm.refl _⟩

theorem norm_translate {norm : StateDict → StateDict} (hn : NormOk norm) {d : StateDict} (h : d.Inv) (n : Name) (v : Nat) :
    ((norm d).translateFwd n = some v ↔ d.translateFwd n = some v) ∧ ((norm d).translateBwd v = some n ↔ d.translateBwd v = some n) := by
  have h' := inv_of_perm (hn d).1 (hn d).2 h
  unfold TwoWayDict.translateFwd TwoWayDict.translateBwd
  rw [lookup_eq_some_iff_mem h'.fwdMap, lookup_eq_some_iff_mem h.fwdMap, lookup_eq_some_iff_mem h'.bwdMap,
    lookup_eq_some_iff_mem h.bwdMap, (hn d).1.mem_iff, (hn d).2.mem_iff]
  exact ⟨Iff.rfl, Iff.rfl⟩

/-- the functor returns values no name has yet: the counter is above every number of the dictionary; the size-reading
functor is above them too; a constant functor is admissible only if it is never called -/
def AllocOk : Alloc → Nat → StateDict → List Name → Prop
  | .counter, cnt, d, _ => ∀ e ∈ d.bwd, e.1 < cnt
  | .size off, _, d, _ => ∀ e ∈ d.bwd, e.1 < d.size + off
  | .const _, _, d, keys => ∀ k ∈ keys, d.translateFwd k ≠ none

theorem lookup_none_of_lt {d : StateDict} {v : Nat} (h : ∀ e ∈ d.bwd, e.1 < v) : d.bwd.lookup v = none := by
  rw [lookup_eq_none_iff_keys]
  intro hm
  obtain ⟨e, he, rfl⟩ := List.mem_map.1 hm
  exact Nat.lt_irrefl _ (h e he)

theorem forall_bwd_insert_lt {d : StateDict} {a : Name} {v w : Nat} (hv : ∀ e ∈ d.bwd, e.1 < v) (hw : v < w) :
    ∀ e ∈ d.bwd ++ [(v, a)], e.1 < w := fun e he =>
  (List.mem_append.mp he).elim (fun he => Nat.lt_trans (hv e he) hw) (fun he => List.mem_singleton.mp he ▸ hw)

theorem weakDictSeq_inv (f : Alloc) : ∀ (keys : List Name) (d : StateDict) (cnt : Nat) (out : List Nat),
    d.Inv → AllocOk f cnt d keys → (weakDictSeq f keys d cnt out).1.Inv
  | [], d, cnt, out, h, _ => h
  | a :: r, d, cnt, out, h, ok => by
    simp only [weakDictSeq]
    cases hl' : d.translateFwd a with
    | some b =>
      have hl := hl'
      unfold TwoWayDict.translateFwd at hl
      rw [hl]
      apply weakDictSeq_inv f r d cnt _ h
      cases f with
      | counter => exact ok
      | size off => exact ok
      | const c => exact fun k hk => ok k (List.mem_cons_of_mem _ hk)
    | none =>
      have hl := hl'
      unfold TwoWayDict.translateFwd at hl
      rw [hl]
      simp only
      rw [weakDict_of_none _ hl]
      -- the functor's answer is above every number of the dictionary (a constant functor is not called here)
      have hx : ∀ e ∈ d.bwd, e.1 < (f.run cnt d.size).1 := by
        cases f with
        | counter => exact ok
        | size off => exact ok
        | const c => exact absurd hl' (ok a (by simp))
      have hok : d.insertOk a (f.run cnt d.size).1 = true := by simp [TwoWayDict.insertOk, hl, lookup_none_of_lt hx]
      apply weakDictSeq_inv _ r _ _ _ (TwoWayDict.inv_insert h hok)
      rw [TwoWayDict.insert_of_ok hok]
      cases f with
      | counter => exact forall_bwd_insert_lt hx (Nat.lt_succ_self _)
      | size off =>
        refine forall_bwd_insert_lt hx ?_
        simp only [Alloc.run, TwoWayDict.size, List.length_append, List.length_singleton]
        omega
      | const c => exact absurd hl' (ok a (by simp))

theorem weakMapSeq_isMap {α : Type} [DecidableEq α] (f : Alloc) : ∀ (keys : List α) (m : List (α × Nat)) (cnt : Nat) (out : List Nat),
    IsMap m → IsMap (weakMapSeq f keys m cnt out).1
  | [], m, cnt, out, h => h
  | a :: r, m, cnt, out, h => by
    simp only [weakMapSeq]
    cases hl : m.lookup a with
    | some b => exact weakMapSeq_isMap f r m cnt _ h
    | none => exact weakMapSeq_isMap f r _ _ _ (weakMap_isMap h _ a)

theorem weak2MapSeq_isMap {α : Type} [DecidableEq α] (f : Alloc) : ∀ (keys : List α) (m : List (α × Nat)) (cnt : Nat) (out : List Nat),
    IsMap m → IsMap (weak2MapSeq f keys m cnt out).1
  | [], m, cnt, out, h => h
  | a :: r, m, cnt, out, h => by
    simp only [weak2MapSeq]
    cases hl : m.lookup a with
    | some b => exact weak2MapSeq_isMap f r m cnt _ h
    | none =>
      apply weak2MapSeq_isMap f r _ _ _
      rw [weak2Map_of_none _ hl]
      exact isMap_append_single h _ hl

def PoolInv (p : Pool) : Prop := (∀ d ∈ p.ds, d.Inv) ∧ (∀ m ∈ p.ms, IsMap m)

def OpOk (p : Pool) : Op → Prop
  | .dInsert i n v => (p.d i).insertOk n v = true
  | .dUnion i j => (∀ a ∈ (p.d j).fwd.map Prod.fst, a ∉ (p.d i).fwd.map Prod.fst) ∧
      (∀ b ∈ (p.d j).bwd.map Prod.fst, b ∉ (p.d i).bwd.map Prod.fst)
  | .dWeak i f cnt keys => AllocOk f cnt (p.d i) keys
  | .uni i j ml mr => ((unionEntries (p.d i) (p.d j) (ml.map p.m) (mr.map p.m)).map Prod.snd).Nodup
  | .prod i j pm => ∀ es, prodEntries (p.d i) (p.d j) (mapOfList pm) = some es → (es.map Prod.fst).Nodup ∧ (es.map Prod.snd).Nodup
  | _ => True

theorem poolInv_empty : PoolInv {} := ⟨by simp, by simp⟩

theorem PoolInv.d {p : Pool} (h : PoolInv p) (i : Nat) : (p.d i).Inv := by
  unfold Pool.d
  rw [List.getD_eq_getElem?_getD]
  cases hi : p.ds[i]? with
  | none => exact TwoWayDict.inv_empty
  | some d => exact h.1 d (List.mem_of_getElem? hi)

theorem PoolInv.m {p : Pool} (h : PoolInv p) (i : Nat) : IsMap (p.m i) := by
  unfold Pool.m
  rw [List.getD_eq_getElem?_getD]
  cases hi : p.ms[i]? with
  | none => exact isMap_nil
  | some m => exact h.2 m (List.mem_of_getElem? hi)

theorem PoolInv.addD {p : Pool} (h : PoolInv p) {d : StateDict} (hd : d.Inv) : PoolInv { p with ds := p.ds ++ [d] } :=
  ⟨fun x hx => by
    simp only [List.mem_append, List.mem_singleton] at hx
    rcases hx with hx | rfl
    · exact h.1 x hx
    · exact hd, h.2⟩

theorem PoolInv.setD {p : Pool} (h : PoolInv p) {d : StateDict} (hd : d.Inv) (i : Nat) : PoolInv { p with ds := p.ds.set i d } :=
  ⟨fun x hx => by
    rcases List.mem_or_eq_of_mem_set hx with hx | rfl
    · exact h.1 x hx
    · exact hd, h.2⟩

theorem PoolInv.addM {p : Pool} (h : PoolInv p) {m : List (Nat × Nat)} (hm : IsMap m) : PoolInv { p with ms := p.ms ++ [m] } :=
  ⟨h.1, fun x hx => by
    simp only [List.mem_append, List.mem_singleton] at hx
    rcases hx with hx | rfl
    · exact h.2 x hx
    · exact hm⟩

theorem PoolInv.setM {p : Pool} (h : PoolInv p) {m : List (Nat × Nat)} (hm : IsMap m) (i : Nat) : PoolInv { p with ms := p.ms.set i m } :=
  ⟨h.1, fun x hx => by
    rcases List.mem_or_eq_of_mem_set hx with hx | rfl
    · exact h.2 x hx
    · exact hm⟩

theorem inv_norm {norm : StateDict → StateDict} (hn : NormOk norm) {d : StateDict} (h : d.Inv) : (norm d).Inv :=
  inv_of_perm (hn d).1 (hn d).2 h

theorem step_inv {norm : StateDict → StateDict} (hn : NormOk norm) {p : Pool} (hp : PoolInv p) :
    ∀ (o : Op), OpOk p o → PoolInv (step norm p o)
  | .dNew, _ => hp.addD TwoWayDict.inv_empty
  | .dOfMap m, _ => by
    simp only [step]
    cases h : TwoWayDict.ofMap (mapOfList m) with
    | none => exact hp
    | some d => exact hp.addD (inv_norm hn (TwoWayDict.ofMap_inv (isMap_mapOfList m) h).1)
  | .dCopy i, _ => hp.addD (hp.d i)
  | .dInsert i n v, ok => hp.setD (inv_norm hn (TwoWayDict.inv_insert (hp.d i) ok)) i
  | .dUnion i j, ok => hp.addD (inv_norm hn (TwoWayDict.inv_union (hp.d i) (hp.d j) ok.1 ok.2).1)
  | .dWeak i f cnt keys, ok => hp.setD (inv_norm hn (weakDictSeq_inv f keys _ cnt [] (hp.d i) ok)) i
  | .dStrict _ _, _ => hp
  | .dStrictBwd _ _, _ => hp
  | .dQuery _, _ => hp
  | .mNew, _ => hp.addM isMap_nil
  | .mLit m, _ => hp.addM (isMap_mapOfList m)
  | .mCopy i, _ => hp.addM (hp.m i)
  | .mWeak i f cnt keys, _ => hp.setM (weakMapSeq_isMap f keys _ cnt [] (hp.m i)) i
  | .mWeak2 i f cnt keys, _ => hp.setM (weak2MapSeq_isMap f keys _ cnt [] (hp.m i)) i
  | .mStrict _ _, _ => hp
  | .uni i j ml mr, ok => hp.addD (inv_norm hn (unionDict_inv (hp.d i).fwdMap (hp.d j).fwdMap _ _ ok).1)
  | .prod i j pm, ok => by
    simp only [step]
    cases he : prodEntries (p.d i) (p.d j) (mapOfList pm) with
    | none => rw [productDict_eq, he]; exact hp
    | some es =>
      obtain ⟨d, hd, hinv, _, _⟩ := productDict_inv he (ok es he).1 (ok es he).2
      rw [hd]
      exact hp.addD (inv_norm hn hinv)

def RunOk (norm : StateDict → StateDict) : Pool → List Op → Prop
  | _, [] => True
  | p, o :: r => OpOk p o ∧ RunOk norm (step norm p o) r

/-- **in every history inside the contracts every live `TwoWayDict` is a bijection between its two maps** (and every
live map is a map) -/
theorem history_inv {norm : StateDict → StateDict} (hn : NormOk norm) : ∀ (ops : List Op) (p : Pool), PoolInv p →
    RunOk norm p ops → PoolInv (run norm p ops)
  | [], _, hp, _ => hp
  | o :: r, _, hp, ok => history_inv hn r _ (step_inv hn hp o ok.1) ok.2

theorem history_observe {norm : StateDict → StateDict} (hn : NormOk norm) (ops : List Op) (ok : RunOk norm {} ops) (i : Nat) :
    let d := (run norm {} ops).d i
    (∀ n v, d.translateFwd n = some v ↔ d.translateBwd v = some n) ∧
      (∀ n n' v, d.translateFwd n = some v → d.translateFwd n' = some v → n = n') ∧
      d.size = d.getReverseMap.length ∧
      (∀ n v, d.getReverseMap.lookup v = some n ↔ d.translateFwd n = some v) := by
  have h := (history_inv hn ops {} poolInv_empty ok).d i
  exact ⟨TwoWayDict.translate_inverse h, fun n n' v => TwoWayDict.translateFwd_injective h, TwoWayDict.size_eq h,
    (TwoWayDict.getReverseMap_spec h).2⟩

/-- `TranslatorStrict` (all three instantiations), the `const` call operators and every read-only member leave every live
object as it was -/
theorem step_query_unchanged (norm : StateDict → StateDict) (p : Pool) (i : Nat) (ks : List Name) (vs : List Nat) :
    step norm p (.dStrict i ks) = p ∧ step norm p (.dStrictBwd i vs) = p ∧ step norm p (.mStrict i vs) = p ∧
      step norm p (.dQuery i) = p := ⟨rfl, rfl, rfl, rfl⟩

/-- the Boolean contract of `Union` used by the driver is the one of `OpOk` -/
theorem unionOk_iff {d r : StateDict} (hr : r.Inv) : d.unionOk r = true ↔
    (∀ a ∈ r.fwd.map Prod.fst, a ∉ d.fwd.map Prod.fst) ∧ (∀ b ∈ r.bwd.map Prod.fst, b ∉ d.bwd.map Prod.fst) := by
  simp only [TwoWayDict.unionOk, List.all_eq_true, Bool.and_eq_true, Option.isNone_iff_eq_none, lookup_eq_none_iff_keys]
  constructor
  · intro h
    refine ⟨?_, ?_⟩
    · intro a ha
      obtain ⟨e, he, rfl⟩ := List.mem_map.1 ha
      exact (h e he).1
    · intro b hb
      obtain ⟨e, he, rfl⟩ := List.mem_map.1 hb
      have : (e.2, e.1) ∈ r.fwd := (hr.inverse e.2 e.1).2 he
      exact (h _ this).2
  · rintro ⟨h1, h2⟩ e he
    refine ⟨h1 _ (List.mem_map.2 ⟨e, he, rfl⟩), h2 _ ?_⟩
    have : (e.2, e.1) ∈ r.bwd := (hr.inverse e.1 e.2).1 he
    exact List.mem_map.2 ⟨_, this, rfl⟩

namespace GlueEx

/-- a history inside the contracts: two dictionaries, a weak translator with the library's counter discipline, the union
helper with a translation map that prunes one state, the product helper -/
def ops : List Op :=
  [.dOfMap [("a".toList, 0), ("b".toList, 1)], .dNew, .dInsert 1 "p".toList 0,
   .dWeak 1 .counter 1 ["q".toList, "p".toList, "r".toList], .mLit [(0, 10), (1, 11)], .mLit [(0, 20), (2, 22)],
   .uni 0 1 (some 0) (some 1), .prod 0 1 [((0, 0), 0), ((1, 2), 1)], .dStrict 0 ["a".toList], .dUnion 0 2]

example : (run StateDict.norm {} ops).ds.length = 5 := by decide +kernel

example : ((run StateDict.norm {} ops).d 2).fwd =
    [("a_1".toList, 10), ("b_1".toList, 11), ("p_2".toList, 20), ("r_2".toList, 22)] := by decide +kernel

example : ((run StateDict.norm {} ops).d 3).fwd = [("[a_1|p_2]".toList, 0), ("[b_1|r_2]".toList, 1)] := by decide +kernel

end GlueEx

end Vata.Glue
