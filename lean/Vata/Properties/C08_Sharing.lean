import Vata.Proofs.BddShare
/-!
# C08 – BDD automata are handles on SHARED transition tables: isolation and the precondition of the in-place operations

Corollaries of `Vata/Proofs/BddShare.lean` (model: `Vata/BddShare.lean`) for the clause of property C08

> None of these calls changes the language of an operand [or of any other live automaton]

and for "Union and UnionDisjointStates yield exactly the union" when automata SHARE a transition table.

How the statement is read into the model.  `BDDBUTreeAutCore` / `BDDTDTreeAutCore` hold a `shared_ptr` to a table; copies share
it.  The model is a heap of tables (a table = a list of rules, with `use_count`) and a pool of handles (table id, own final
states and – bottom-up only – own leaf rules: `TransTableWrapper::nullaryMtbdd_` is a member of the object, not of the
table); `step` is every operation of the `bddh` histories as coded with respect to sharing (`Vata/BddShare.lean`, table in
the header).  The language of a handle is the language of (rules of its table + its leaf rules, its final states) – the
automaton its dump shows.  ONE operation writes into a possibly shared table without copying it: `UnionDisjointStates` on
operands with distinct tables copies the LEFT operand (sharing its table) and `SetMtbdd`s every entry of the right operand's
table into it.  `AddTransition` (loading into an existing object) copies a shared table first (repair 810f4347).

## The precondition `pre` (exact statement)

Write `T(x)` for the rules of the table of `x`, `N(x)` for its own leaf rules, `F(x)` for its final states, and
`st(b) = states of T(b) ∪ parents of N(b) ∪ F(b)` (all states of the automaton `b` denotes – of its WHOLE table).

* `uniondisj!a!b`, distinct tables:
  **T** no state of `st(b)` occurs in a rule of `T(a)` (the whole table: rules written by earlier in-place unions whose
  results are long dead included);
  **A** no state of `st(b)` is the parent of a leaf rule in `N(a)` or in `F(a)`;
  **H** no OTHER live handle on `a`'s table has a final state that is the parent of a rule of `T(b)`.
* `union!a!b` / `uniondisj!a!b`, one table (result: that table, `N(a) ∪ N(b)`, `F(a) ∪ F(b)`):
  **S** with `C₁` = upward closure, under the rules of the table, of the parents of `N(b) \ N(a)` and `C₂` the same for
  `N(a) \ N(b)`: every final state of the result is in `F(a) \ C₁` or in `F(b) \ C₂`.  (Top-down: `N = ∅`, so S always
  holds – the shared-table branch of the top-down encoding is exact.)
* `loadinto!a!B`: **L** the numbers of `B` do not occur in `st(a)`.
* all other steps (`def`, `copy`, `assign`, `kill`, `final`, `union` of distinct tables, `isect`, `unreach`, `useless`): none.

Sufficiency: `C08_sharing_history`, `C08_sharing_isolation`, `C08_sharing_results`.  Necessity of every clause:
`C08_sharing_necessity_*` (kernel-checked histories violating exactly one clause).
-/
namespace Vata.Props
open Vata.BddShare

/-- **History theorem.**  For every `bddh` history (from the empty pool) whose steps are inside `pre`, in either encoding: the
history is defined; afterwards the `use_count` of every table equals the number of live handles on it, allocated tables
have an owner and owners have an allocated table (`Inv`); and every entry denotes exactly the language that the
specification of the operations (`specStep`: a copy / `assign` the language of its source, `Union` and
`UnionDisjointStates` the union, `Intersection` the intersection, the trimmings the language of the operand, loading into
an object the union with the loaded automaton, EVERY OTHER ENTRY its previous language) assigns to it. -/
theorem C08_sharing_history (enc : Enc) (ss : List Step) (hp : preRun enc init ss = true) :
    ∃ σ Ls, run enc init ss = some σ ∧ Inv σ ∧ specRun enc init [] ss = some Ls ∧ Agree σ Ls :=
  history_correct enc ss hp

example (enc : Enc) : preRun enc init BddShareEx.good = true := BddShareEx.good_pre enc

/-- **Isolation.**  After ANY defined history (inside the precondition or not), a step inside its precondition leaves every
live entry other than its target (`assign`, `kill`, `loadinto`, `final` have a target; results are new entries) alive with
exactly the language it had.  (The DUMP of a bystander may change: after an in-place `UnionDisjointStates` every handle on
the written table lists the new rules.) -/
theorem C08_sharing_isolation {enc : Enc} {ss : List Step} {σ σ' : St} (hr : run enc init ss = some σ) (s : Step)
    (hpre : pre enc σ s = true) (hs : BddShare.step enc σ s = some σ') {k : Nat} {h : Hnd} (hk : σ.hnd k = some h)
    (ht : target s ≠ some k) : ∃ h', σ'.hnd k = some h' ∧ ∀ t, σ'.lang h' t = σ.lang h t :=
  step_isolation (run_inv ss inv_init hr) s hpre hs hk ht

example : ∃ σ, run .td init (BddShareEx.good.take 4) = some σ ∧ pre .td σ (.uniondisj 0 1) = true ∧
    (BddShare.step .td σ (.uniondisj 0 1)).isSome = true ∧ (σ.hnd 3).isSome = true := by
  refine ⟨_, (Option.eq_some_of_isSome (o := run .td init (BddShareEx.good.take 4)) (by decide)), ?_⟩
  decide

/-- **Results.**  In a state reached by any defined history, for live operands `i`, `j` and a step inside its precondition:
`Union` and `UnionDisjointStates` (shared-table branch, fresh-table branch, in-place branch alike) create an entry whose
language is the union, `Intersection` the intersection, the trimmings and `copy` the language of the operand;
`loadinto!i!B` makes entry `i` accept `L(i) ∪ L(B)`. -/
theorem C08_sharing_results {enc : Enc} {ss : List Step} {σ σ' : St} (hr : run enc init ss = some σ) {i j : Nat} {hi hj : Hnd}
    (h1 : σ.hnd i = some hi) (h2 : σ.hnd j = some hj) :
    (∀ s, s = Step.union i j ∨ s = Step.uniondisj i j → pre enc σ s = true → BddShare.step enc σ s = some σ' →
      ∃ h', σ'.hnd σ.pool.length = some h' ∧ ∀ t, σ'.lang h' t = (σ.lang hi t || σ.lang hj t)) ∧
    (BddShare.step enc σ (.isect i j) = some σ' →
      ∃ h', σ'.hnd σ.pool.length = some h' ∧ ∀ t, σ'.lang h' t = (σ.lang hi t && σ.lang hj t)) ∧
    (∀ s, s = Step.unreach i ∨ s = Step.useless i ∨ s = Step.copy i → BddShare.step enc σ s = some σ' →
      ∃ h', σ'.hnd σ.pool.length = some h' ∧ ∀ t, σ'.lang h' t = σ.lang hi t) ∧
    (∀ B, pre enc σ (.loadinto i B) = true → BddShare.step enc σ (.loadinto i B) = some σ' →
      ∃ h', σ'.hnd i = some h' ∧ ∀ t, σ'.lang h' t = (σ.lang hi t || accepts B t)) := by
  have I := run_inv ss inv_init hr
  have gi : getS (semOf σ) i = some (σ.lang hi) := by rw [getS_semOf, h1]; rfl
  have gj : getS (semOf σ) j = some (σ.lang hj) := by rw [getS_semOf, h2]; rfl
  have len : (semOf σ).length = σ.pool.length := by simp [semOf]
  have hil : i < (semOf σ).length := by rw [len]; exact hnd_lt σ h1
  have last : ∀ x, getS (semOf σ ++ [x]) σ.pool.length = x := fun x => by rw [getS_push, len, if_pos rfl]
  refine ⟨?_, ?_, ?_, ?_⟩
  · rintro s (rfl | rfl) hpre hs <;>
      exact step_result I _ hpre hs (by simp only [specStep, gi, gj, Option.bind_some, Option.map_some]) (last _)
  · intro hs
    exact step_result I _ rfl hs (by simp only [specStep, gi, gj, Option.bind_some, Option.map_some]) (last _)
  · rintro s (rfl | rfl | rfl) hs <;>
      exact step_result I _ rfl hs (by simp only [specStep, gi, Option.map_some]) (last _)
  · intro B hpre hs
    exact step_result I _ hpre hs
      (Ls' := (semOf σ).set i (some (fun t => σ.lang hi t || accepts B t)))
      (by simp only [specStep, gi, Option.map_some])
      (by rw [getS_set _ hil, if_pos rfl])

/-- **Reference counts.**  After every defined history (no precondition): the `use_count` of every table is the number of
live handles on it; a live handle's table is allocated (nothing is freed while shared); an allocated table has an owner (no
leak). -/
theorem C08_sharing_refcount {enc : Enc} {ss : List Step} {σ : St} (hr : run enc init ss = some σ) :
    (∀ t, σ.rcOf t = σ.refs t) ∧
    (∀ k h, σ.hnd k = some h → ∃ c, σ.tabs h.tid = some c ∧ c.rc = σ.refs h.tid ∧ 0 < c.rc) ∧
    (∀ t c, σ.tabs t = some c → 0 < σ.refs t) :=
  ⟨(run_inv ss inv_init hr).rc, fun _ _ hk => live_table_allocated hr hk, fun _ _ hc => no_leak hr hc⟩

example (enc : Enc) :
    (run enc init BddShareEx.good).map (fun σ => (List.range σ.next).map σ.rcOf) = some [5, 0, 1, 1, 1, 1, 1, 1] :=
  (BddShareEx.good_sharing enc).2

/-- under clause T nothing is replaced: the in-place write appends the right operand's table (the entries of the right table
REPLACE entries with the same key otherwise – `overwrite`) -/
theorem C08_sharing_write_appends {enc : Enc} {σ : St} {hi hj : Hnd} (hT : clauseT σ hi hj = true) :
    overwrite enc (σ.trules hi.tid) (σ.trules hj.tid) = σ.trules hi.tid ++ σ.trules hj.tid :=
  clauseT_overwrite hT

example : overwrite .td [⟨1, [], 5⟩, ⟨2, [5], 6⟩] [⟨3, [], 5⟩] = [⟨2, [5], 6⟩, ⟨3, [], 5⟩] := by decide

/-! ## necessity of the clauses

Every theorem: the history is inside the precondition up to its last step, the last step violates exactly the named clause
(the triple is `(T, A, H)`), and afterwards a language is wrong.  `BddShareEx.hT` … are the histories; see their doc comments
in `Vata/Proofs/BddShare.lean`. -/

open BddShareEx in
/-- **clause T – the stale-rule scenario** (both encodings): after `r = UnionDisjointStates(a, b)` the table of `a` keeps `b`'s
rules even when `r` is destroyed; `UnionDisjointStates(a, b2)` with a `b2` reusing `b`'s numbers yields a result that accepts
`9(3(6))`, which neither `a` nor `b2` accepts.  Only the TABLE of `a` knows the numbers: clauses A and H hold. -/
theorem C08_sharing_necessity_T (enc : Enc) :
    preRun enc init (hT.take 5) = true ∧ clausesAt enc (hT.take 5) 0 3 = some (false, true, true) ∧
    langAfter enc hT 4 wT = some true ∧ langAfter enc (hT.take 5) 0 wT = some false ∧
    langAfter enc (hT.take 5) 3 wT = some false := necessity_T enc

open BddShareEx in
/-- **clause A, final states**: a final state of the left operand (set by `SetStateFinal`, unreachable there) is a state of the
right operand: the result accepts the leaf `2`; in the top-down encoding the left operand itself now accepts it too. -/
theorem C08_sharing_necessity_A_final (enc : Enc) :
    preRun enc init (hA.take 3) = true ∧ clausesAt enc (hA.take 3) 0 1 = some (true, false, true) ∧
    langAfter enc hA 2 (lf 2) = some true ∧ langAfter enc (hA.take 3) 0 (lf 2) = some false ∧
    langAfter enc (hA.take 3) 1 (lf 2) = some false ∧ langAfter .td hA 0 (lf 2) = some true :=
  ⟨(necessity_A_final enc).1, (necessity_A_final enc).2.1, (necessity_A_final enc).2.2.1, (necessity_A_final enc).2.2.2.1,
   (necessity_A_final enc).2.2.2.2, necessity_A_final_td_operand.1⟩

open BddShareEx in
/-- **clause A, leaf rules** (bottom-up: leaf rules are not in the table, so clause T does not see them) -/
theorem C08_sharing_necessity_A_leaf :
    preRun .bu init (hAn.take 2) = true ∧ clausesAt .bu (hAn.take 2) 0 1 = some (true, false, true) ∧
    langAfter .bu hAn 2 (un 3 (lf 5)) = some true ∧ langAfter .bu (hAn.take 2) 0 (un 3 (lf 5)) = some false ∧
    langAfter .bu (hAn.take 2) 1 (un 3 (lf 5)) = some false := necessity_A_leaf

open BddShareEx in
/-- **clause H – a bystander changes its language** (top-down: a copy of the left operand with one more final state;
bottom-up: an earlier result on the left operand's table) -/
theorem C08_sharing_necessity_H :
    (preRun .td init (hH.take 4) = true ∧ clausesAt .td (hH.take 4) 0 2 = some (true, true, false) ∧
      langAfter .td (hH.take 4) 1 (lf 2) = some false ∧ langAfter .td hH 1 (lf 2) = some true) ∧
    (preRun .bu init (hHb.take 4) = true ∧ clausesAt .bu (hHb.take 4) 0 3 = some (true, true, false) ∧
      langAfter .bu (hHb.take 4) 2 (un 3 (lf 2)) = some false ∧ langAfter .bu hHb 2 (un 3 (lf 2)) = some true) :=
  ⟨necessity_H_td, necessity_H_bu.1, necessity_H_bu.2.1, necessity_H_bu.2.2.1, necessity_H_bu.2.2.2.1⟩

open BddShareEx in
/-- **clause S – `Union` of two bottom-up automata on ONE table with different leaf rules returns a wrong language**: the
result accepts the leaf `3`, neither operand does; the top-down encoding is not affected.  This history is emitted by the
generator's heuristic (`heurRun`), and the real library returns the same automaton (see the report below). -/
theorem C08_sharing_necessity_S :
    preRun .bu init (hS.take 6) = true ∧ preAt .bu (hS.take 6) (.union 3 4) = some false ∧
    langAfter .bu hS 5 (lf 3) = some true ∧ langAfter .bu (hS.take 6) 3 (lf 3) = some false ∧
    langAfter .bu (hS.take 6) 4 (lf 3) = some false ∧ preRun .td init hS = true ∧ heurRun ⟨[], []⟩ hS = true :=
  ⟨necessity_S.1, necessity_S.2.1, necessity_S.2.2.1, necessity_S.2.2.2.1, necessity_S.2.2.2.2.1, necessity_S.2.2.2.2.2,
   heuristic_gap.1⟩

open BddShareEx in
/-- **clause L** – loading an automaton whose (fresh-dictionary) numbers occur in the target -/
theorem C08_sharing_necessity_L (enc : Enc) :
    preAt enc (hL.take 1) (.loadinto 0 bL) = some false ∧ langAfter enc hL 0 (un 2 (lf 3)) = some true ∧
    langAfter enc (hL.take 1) 0 (un 2 (lf 3)) = some false ∧ accepts bL (un 2 (lf 3)) = false := necessity_L enc

/-!
## which "not yet proved" items this closes

* `C08.lean`: "'None of these calls changes the language of an operand' concerns transition tables shared between copies
  […]; the sharing of BDD transition tables is not modelled (tables are values here […])" – modelled in
  `Vata/BddShare.lean`; `C08_sharing_isolation`, `C08_sharing_history`, `C08_sharing_refcount`.
* `C08_Isect.lean` ("still open"): "'None of these calls changes the language of an operand': the operand tables are values in
  the model" – same.

## comparison with the generator's heuristic (`tools/gen.py`, `g_bddh`) and with the driver's check

* The heuristic ("table families", "number blocks") implies clauses T, A, H and L: different families never share a table,
  the block set of a family over-approximates the numbers in all tables, leaf rules and final sets of its members (dead
  ones included), `loadinto` is emitted only for families without small numbers.  (Argued, and checked on 20 000 generated
  histories: all inside `pre` evaluated exactly on the library's dumps; `Driver/BddShareChk.lean`.)  It is stronger than
  needed: it never emits `uniondisj` within a family, although the shared-table branch is exact under clause S.
* It does NOT imply clause S: `final!i!q` is always emitted and `union` within a family too.  `C08_sharing_necessity_S` /
  `BddShareEx.heuristic_gap` is such a history; on the real library
  `bddh bu def!1:>0|0 def!2:>0|0 def!3:>0;4:0>1|1 uniondisj!0!1 uniondisj!0!2 final!3!300 union!3!4`
  gives `violation step 7 union-language 1:>100;2:>200;3:>300;4:300>301|100,200,300,301`: a genuine defect of the
  bottom-up shared-table branch of `Union` / `UnionDisjointStates` (it merges the per-object leaf rules of BOTH operands under
  the final states of BOTH), reachable with probability of the order 10⁻⁵ per generated history.
* The driver's own check for `uniondisj` (`Driver/BddChk.lean`: the state sets of the two DUMPS are disjoint) is clauses T and
  A, not H (the bystanders' final states are not in the operands' dumps; a violation then shows as "the language of entry k
  changed"), and it rejects same-table operands, which clause S allows.

## not proved / not modelled

* Table entries whose MTBDD has only empty leaves (a key without rules: `Intersection` and the trimmings may leave them)
  are invisible at the abstraction "table = list of rules"; in the library they REPLACE an entry with the same key as well.
  Inside the precondition this cannot happen: the states of such a key are states of rules of the same table, parents of
  leaf rules or final states of every handle on that table (argued from the code, not proved), so clause T excludes a
  common key.  Outside the precondition the model may keep rules the library deletes (observed: 13 of 4 000 unrestricted
  histories, all outside `pre`; on the other 3 987, and on 20 000 generated ones, the model predicts the dump of EVERY
  entry after EVERY step exactly).
* The fresh-table operations are represented by the reference constructions (`unionModel`, `isectFull`, `removeUnreachable`,
  `restrict · (prodStates ·)`, `removeUseless`), not by the symbolic algorithms (those are `C08_Tables.lean`,
  `C08_Isect.lean`); the numbers they hand out are not the library's.  `GetTopDownAut` (another fresh-table operation, across
  encodings) is not a step of the model.
* The steps carry automata WITH their numbers (`def`: after `ReindexStates`; `loadinto`: after the fresh dictionary): that
  `def` at step `k` uses `100k…` and a fresh dictionary `0…` is the harness' / `LoadFromAutDesc`'s doing, not modelled.
* `Driver/BddShareChk.precondition` (the replay from the steps alone, on sets of numbers) is a safe approximation of `pre`
  by construction; that it implies `pre` is tested (no history accepted by it and rejected by the exact evaluation among
  24 000), not proved.
* `pre` is sufficient and each clause is necessary in the sense above; it is not an "iff" for single histories (a history
  outside `pre` can be harmless, e.g. when the colliding state is unreachable on both sides).
-/
end Vata.Props
