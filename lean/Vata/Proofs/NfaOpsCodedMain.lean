import Vata.Proofs.NfaOpsCodedIsectSpec
import Vata.Proofs.NfaOpsCodedCand
/-!
# The coded operations with their final `RemoveUselessStates`: default values are never used, languages, refinement
-/
namespace Vata.NfaC
open Vata.W

theorem NfaSetEq.removeUseless {R N : NFA} (h : NfaSetEq R N) : NfaSetEq (nfaRemoveUseless R) (nfaRemoveUseless N) :=
  h.removeUnreachable.reverse.removeUnreachable.reverse

theorem nfaProdOn_setEq (A B : NFA) {K D : List (Nat × Nat)} (m : Nat × Nat → Nat) (h : ∀ p, p ∈ K ↔ p ∈ D) :
    NfaSetEq (nfaProdOn A B K m) (nfaProdOn A B D m) := by
  refine ⟨fun _ => Iff.rfl, ?_, ?_⟩
  · intro q
    rw [mem_nfaProdOn_final, mem_nfaProdOn_final]
    constructor
    · rintro ⟨p, hp, r⟩; exact ⟨p, (h p).mp hp, r⟩
    · rintro ⟨p, hp, r⟩; exact ⟨p, (h p).mpr hp, r⟩
  · rintro ⟨x, a, y⟩
    rw [mem_nfaProdOn_trans, mem_nfaProdOn_trans]
    constructor
    · rintro ⟨p, hp, r⟩; exact ⟨p, (h p).mp hp, r⟩
    · rintro ⟨p, hp, r⟩; exact ⟨p, (h p).mpr hp, r⟩

/-- the default value of `nfasIsectCoded` is never used -/
theorem nfasIsectCoded_eq {o : NfaOrd} (ho : o.Ok) (A B : NFAS) :
    ∃ st, nfasIsectCodedRaw o .fixed A B (isectFuel o .fixed A B) = some st ∧
      nfasIsectCoded o A B = (nfasUselessCoded o true st.res, st.tm) := by
  obtain ⟨st, hst⟩ := nfasIsectCodedRaw_total ho A B
  exact ⟨st, hst, by simp [nfasIsectCoded, nfasIsectCodedF, hst]⟩

/-- the default value of `nfasCandidateCoded` is never used -/
theorem nfasCandidateCoded_eq {o : NfaOrd} (ho : o.Ok) (A : NFAS) :
    ∃ r, nfasCandidateCodedRaw o true A (candFuel o A.toNFA) = some r ∧
      nfasCandidateCoded o A = nfasUselessCoded o true r := by
  obtain ⟨r, hr⟩ := nfasCandidateCodedRaw_total ho A true
  exact ⟨r, hr, by simp [nfasCandidateCoded, nfasCandidateCodedF, hr]⟩

theorem nfasUselessCoded_lang {o : NfaOrd} (ho : o.Ok) (f : Bool) (A : NFAS) (w : List Nat) :
    acceptsW (nfasUselessCoded o f A).toNFA w = acceptsW A.toNFA w := by
  rw [(nfasUselessCoded_setEq ho f A).lang w, nfaRemoveUseless_lang]

/-- while the start loops run, every numbered pair has an entry under its number: the union of the components' start symbols
(`bound`: an entry's key is a number given out, so a fresh number has no entry) -/
structure IsectSyms (A B : NFAS) (st : IsectSt) : Prop where
  wf : TmWF st.tm
  bound : ∀ e, e ∈ st.res.startSyms → e.1 < st.tm.length
  syms : ∀ p n, tmFind st.tm p = some n → smFind st.res.startSyms n = some (A.symsOf p.1 ++ B.symsOf p.2)

theorem IsectSyms.step {A B : NFAS} {st : IsectSt} (h : IsectSyms A B st) (p : Nat × Nat) :
    IsectSyms A B (isectInitStep A B st p) := by
  cases hf : tmFind st.tm p with
  | some k =>
    -- a pair met again: `SetExistingStateStart` finds the entry of its number
    have hk : smHas st.res.startSyms k = true := by rw [smHas, h.syms p k hf]; rfl
    have e : isectInitStep A B st p = ⟨st.tm, (p, k) :: st.stack, ⟨⟨insN st.res.start k, st.res.final, st.res.trans⟩, st.res.startSyms⟩⟩ := by
      simp [isectInitStep, tmInsert, hf, nfasSetExistingStart, smInsert, hk]
    rw [e]; exact ⟨h.wf, h.bound, h.syms⟩
  | none =>
    have hno : smFind st.res.startSyms st.tm.length = none := by
      cases hs : smFind st.res.startSyms st.tm.length with
      | none => rfl
      | some S =>
        obtain ⟨e, he, h1⟩ := List.mem_map.mp (lookup_isSome_iff_keys.mp
          (show (st.res.startSyms.lookup st.tm.length).isSome = true by rw [← NfaS.smFind_eq, hs]; rfl))
        exact absurd (h.bound e he) (by omega)
    have e : isectInitStep A B st p = ⟨st.tm ++ [(p, st.tm.length)], (p, st.tm.length) :: st.stack,
        ⟨⟨insN st.res.start st.tm.length, st.res.final, st.res.trans⟩,
          st.res.startSyms ++ [(st.tm.length, A.symsOf p.1 ++ B.symsOf p.2)]⟩⟩ := by
      simp [isectInitStep, tmInsert, hf, nfasSetExistingStart, smInsert, smHas, hno]
    rw [e]
    refine ⟨h.wf.append p, fun e he => ?_, fun q n hq => ?_⟩
    · rw [List.length_append]
      rcases List.mem_append.mp he with he | he
      · exact Nat.lt_add_right _ (h.bound e he)
      · rw [List.mem_singleton.mp he]; exact Nat.lt_succ_self _
    · by_cases hqp : q = p
      · subst hqp
        rw [tmFind_append_new hf] at hq
        cases hq
        rw [NfaS.smFind_append, hno]; simp [smFind]
      · rw [tmFind_append_other hqp] at hq
        rw [NfaS.smFind_append, h.syms q n hq]

theorem isectBody_keep (o : NfaOrd) (A B : NFAS) (act : (Nat × Nat) × Nat) (st : IsectSt) :
    (isectBody o .fixed A B act st).res.startSyms = st.res.startSyms ∧
    ∀ q k, tmFind st.tm q = some k → tmFind (isectBody o .fixed A B act st).tm q = some k := by
  rw [isectBody_fixed]
  have step := isectStep_fold A.toNFA B.toNFA act.2 (isectFlat o A.toNFA B.toNFA act.1.1 act.1.2)
    (if A.final.contains act.1.1 && B.final.contains act.1.2 then ⟨st.tm, st.stack, nfasSetFinal st.res act.2⟩ else st)
  constructor
  · rw [step.same.2.2]; split <;> rfl
  · intro q k h
    apply step.mono
    split
    · exact h
    · exact h

/-- the product before `RemoveUselessStates` carries at every pair of start states the union of the components' start
symbols (as `nfasProdSyms`), whatever the iteration orders: the start loops write it, the `while` loop keeps the map and the
numbers given -/
theorem nfasIsectCodedRaw_syms {o : NfaOrd} (ho : o.Ok) (A B : NFAS) (fuel : Nat) (st : IsectSt)
    (h : nfasIsectCodedRaw o .fixed A B fuel = some st) (p : Nat × Nat) (hp : p ∈ nfaStartPairs A.toNFA B.toNFA) :
    smFind st.res.startSyms (tmFun st.tm p) = some (A.symsOf p.1 ++ B.symsOf p.2) := by
  have init : IsectSyms A B (isectInit o .fixed A B) := by
    rw [isectInit_fixed]
    generalize isectInitPairs o A.toNFA B.toNFA = ps
    suffices ∀ st, IsectSyms A B st → IsectSyms A B (ps.foldl (isectInitStep A B) st) from
      this _ ⟨rfl, fun _ h => (nomatch h), fun _ _ h => (nomatch h)⟩
    induction ps with
    | nil => exact fun _ h => h
    | cons q ps ih => exact fun st h => ih _ (h.step q)
  obtain ⟨n, hn⟩ := (isectInit_inv ho A B).hstart p hp
  obtain ⟨⟨k1, k2⟩, _⟩ := isectLoop_rule (P := fun st' => st'.res.startSyms = (isectInit o .fixed A B).res.startSyms ∧
      ∀ q k, tmFind (isectInit o .fixed A B).tm q = some k → tmFind st'.tm q = some k)
    (fun st act rest _ ⟨h1, h2⟩ => ⟨(isectBody_keep o A B act _).1.trans h1, fun q k hq => (isectBody_keep o A B act _).2 q k (h2 q k hq)⟩)
    fuel _ st ⟨rfl, fun _ _ h => h⟩ h
  rw [tmFun_of_find (k2 p n hn), k1]
  exact init.syms p n hn

end Vata.NfaC
