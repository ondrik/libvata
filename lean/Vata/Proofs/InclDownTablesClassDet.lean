import Vata.Proofs.InclDownTablesDump
/-!
# A rule-level criterion for `SymDet` on LOADED top-down tables

`ofRulesTD rs` is `AddTransition(children, symbol, parent)` for every rule in turn.  The rule `r` lands below exactly one ranked
symbol `< 2 ^ 22`: `rankOf r` = the 16 low bits of `r.sym` and, above them, the 6 low bits of the arity
(`mem_eval_ofRulesTD`).  Hence the leaf a ranked symbol `c` selects in the MTBDD of the state `p` is – as a SET, and as a sorted
vector – `tuplesOfRank rs p c`, and

  `∀ p, SymDet 22 (getTD (ofRulesTD rs) p)`  ⇔  no two rules with the same parent and DIFFERENT ranked symbols have the same
  set of children tuples (of that parent under their ranked symbols)

(`symDet_ofRulesTD_iff`, the criterion `symDetRulesB` is executable).  No hypothesis on the symbols or arities (they are taken
modulo `2 ^ 16` / `64`, as the encoding does).  Two rules of different arities `< 64` never collide (their tuples have different
lengths), so the criterion only ever fails for two symbols of the SAME arity – e.g. two nullary symbols of one state.
A simpler sufficient condition: no tuple of a state occurs under two ranked symbols (`C07_symDet_of_tupleOnce`); it is not necessary
(`exNotOnce`).
-/
namespace Vata
namespace InclDownTables
open M BddAbs BddAbsTD

/-- the ranked symbol below which `AddTransition` puts the rule: 16 symbol bits, 6 arity bits above them -/
def rankOf (r : Rule) : Nat := 2 ^ 16 * (r.kids.length % 64) + r.sym % 2 ^ 16

theorem rankOf_lt (r : Rule) : rankOf r < 2 ^ 22 :=
  have h : 2 ^ 16 * (r.kids.length % 64 + 1) ≤ 2 ^ 16 * 64 := Nat.mul_le_mul_left _ (Nat.mod_lt _ (by decide))
  Nat.lt_of_lt_of_le (Nat.add_lt_add_left (Nat.mod_lt _ (Nat.two_pow_pos 16)) _) h

/-- the bits of `2 ^ 16 * (n % 64) + s % 2 ^ 16` (prefix `Nat.testBit` and typed numerals: `(…).testBit` on an
arithmetic term whose type is not yet known is slow to elaborate) -/
theorem testBit_rank (s n j : Nat) : Nat.testBit ((2 : Nat) ^ 16 * (n % 64) + s % (2 : Nat) ^ 16) j =
    if j < 16 then Nat.testBit s j else (decide (j - 16 < 6) && Nat.testBit n (j - 16)) := by
  rw [Nat.testBit_two_pow_mul_add _ (Nat.mod_lt _ (Nat.two_pow_pos 16))]
  by_cases h : j < 16
  · rw [if_pos h, if_pos h, Nat.testBit_mod_two_pow, decide_eq_true h, Bool.true_and]
  · rw [if_neg h, if_neg h, show (64 : Nat) = 2 ^ 6 from rfl, Nat.testBit_mod_two_pow]

theorem bits_eq_rank {c s n : Nat} (hc : c < 2 ^ 22) :
    ((∀ j, j < 16 → c.testBit j = s.testBit j) ∧ (∀ j, j < 6 → c.testBit (j + 16) = n.testBit j)) ↔
      c = (2 : Nat) ^ 16 * (n % 64) + s % (2 : Nat) ^ 16 := by
  constructor
  · rintro ⟨h1, h2⟩
    refine Nat.eq_of_testBit_eq (fun i => ?_)
    rw [testBit_rank]
    by_cases h : i < 16
    · rw [if_pos h]; exact h1 i h
    · rw [if_neg h]
      by_cases h6 : i - 16 < 6
      · rw [decide_eq_true h6, Bool.true_and, ← h2 (i - 16) h6, Nat.sub_add_cancel (Nat.le_of_not_lt h)]
      · rw [decide_eq_false h6, Bool.false_and]
        exact Nat.testBit_lt_two_pow (Nat.lt_of_lt_of_le hc (Nat.pow_le_pow_right (by decide) (by omega)))
  · intro h
    subst h
    refine ⟨fun j hj => ?_, fun j hj => ?_⟩
    · rw [testBit_rank, if_pos hj]
    · rw [testBit_rank, if_neg (Nat.not_lt.mpr (Nat.le_add_left _ _)), Nat.add_sub_cancel, decide_eq_true hj,
        Bool.true_and]

theorem mem_eval_ofRulesTD (rs : List Rule) (p : Nat) {c : Nat} (hc : c < 2 ^ 22) (ks : List Nat) :
    ks ∈ eval (getTD (ofRulesTD rs) p) (bits c) ↔ ∃ r, r ∈ rs ∧ r.kids = ks ∧ r.parent = p ∧ rankOf r = c := by
  have h := hasRuleTD_ofRulesTD_gen rs (bits c) p ks
  unfold HasRuleTD at h
  rw [h]
  constructor
  · rintro ⟨r, hr, h1, h2, h3, h4⟩
    refine ⟨r, hr, h1, h2, ?_⟩
    rw [agrees_symAsgn] at h3
    rw [arOK_iff] at h4
    have := (bits_eq_rank (s := r.sym) (n := ks.length) hc).mp ⟨h3, fun j hj => h4 j hj⟩
    unfold rankOf
    rw [h1]; exact this.symm
  · rintro ⟨r, hr, h1, h2, h3⟩
    have h3' : c = 2 ^ 16 * (ks.length % 64) + r.sym % 2 ^ 16 := by
      rw [← h3, ← h1]; rfl
    obtain ⟨k1, k2⟩ := (bits_eq_rank (s := r.sym) (n := ks.length) hc).mpr h3'
    exact ⟨r, hr, h1, h2, (agrees_symAsgn _ _).mpr k1, (arOK_iff _ _).mpr (fun j hj => k2 j hj)⟩

def tuplesOfRank (rs : List Rule) (p c : Nat) : List (List Nat) :=
  (rs.filter (fun r => r.parent == p && rankOf r == c)).map (·.kids)

theorem mem_tuplesOfRank {rs : List Rule} {p c : Nat} {ks : List Nat} :
    ks ∈ tuplesOfRank rs p c ↔ ∃ r, r ∈ rs ∧ r.kids = ks ∧ r.parent = p ∧ rankOf r = c := by
  simp only [tuplesOfRank, List.mem_map, List.mem_filter, Bool.and_eq_true, beq_iff_eq]
  constructor
  · rintro ⟨r, ⟨h1, h2, h3⟩, h4⟩; exact ⟨r, h1, h4, h2, h3⟩
  · rintro ⟨r, h1, h4, h2, h3⟩; exact ⟨r, ⟨h1, h2, h3⟩, h4⟩

def sameSetB (X Y : List (List Nat)) : Bool := X.all (fun x => Y.contains x) && Y.all (fun y => X.contains y)

theorem sameSetB_iff {X Y : List (List Nat)} : sameSetB X Y = true ↔ ∀ x, x ∈ X ↔ x ∈ Y := by
  simp only [sameSetB, Bool.and_eq_true, List.all_eq_true, List.contains_iff_mem]
  exact ⟨fun h x => ⟨h.1 x, h.2 x⟩, fun h => ⟨fun x => (h x).mp, fun x => (h x).mpr⟩⟩

/-- **the rule-level criterion**: two rules with the same parent have the same ranked symbol or different sets of children
tuples (of that parent, below their ranked symbols) -/
def symDetRulesB (rs : List Rule) : Bool :=
  rs.all (fun r₁ => rs.all (fun r₂ =>
    r₁.parent != r₂.parent || rankOf r₁ == rankOf r₂ ||
      !sameSetB (tuplesOfRank rs r₁.parent (rankOf r₁)) (tuplesOfRank rs r₂.parent (rankOf r₂))))

theorem sorted_eval_ofRulesTD (rs : List Rule) (p : Nat) (ρ : Nat → Bool) :
    (eval (getTD (ofRulesTD rs) p) ρ).Pairwise (· < ·) :=
  sorted_foldl_addTransition rs [] (fun _ _ => by simp [getTD, eval]) p ρ

theorem eval_ofRulesTD_eq_iff (rs : List Rule) (p : Nat) {f g : Nat} (hf : f < 2 ^ 22) (hg : g < 2 ^ 22) :
    eval (getTD (ofRulesTD rs) p) (bits f) = eval (getTD (ofRulesTD rs) p) (bits g) ↔
      sameSetB (tuplesOfRank rs p f) (tuplesOfRank rs p g) = true := by
  rw [sameSetB_iff]
  constructor
  · intro h ks
    rw [mem_tuplesOfRank, mem_tuplesOfRank, ← mem_eval_ofRulesTD rs p hf, ← mem_eval_ofRulesTD rs p hg, h]
  · intro h
    refine sortedT_ext (sorted_eval_ofRulesTD rs p _) (sorted_eval_ofRulesTD rs p _) (fun ks => ?_)
    rw [mem_eval_ofRulesTD rs p hf, mem_eval_ofRulesTD rs p hg, ← mem_tuplesOfRank, ← mem_tuplesOfRank]
    exact h ks

/-- the criterion with an exemption `E` of ranked symbols (none for `SymDet`, the nullary ones for `SymDetPos`): two ranked
symbols of a state that select the same non-empty leaf are equal or exempt iff two rules of a state with different ranked
symbols, the first not exempt, have different sets of children tuples -/
theorem symDetUpTo_ofRulesTD_iff (rs : List Rule) (E : Nat → Prop) :
    (∀ p f g, f < 2 ^ 22 → g < 2 ^ 22 → eval (getTD (ofRulesTD rs) p) (bits f) ≠ [] →
      eval (getTD (ofRulesTD rs) p) (bits f) = eval (getTD (ofRulesTD rs) p) (bits g) → f = g ∨ E f) ↔
    ∀ r₁, r₁ ∈ rs → ∀ r₂, r₂ ∈ rs → r₁.parent = r₂.parent → rankOf r₁ = rankOf r₂ ∨ E (rankOf r₁) ∨
      sameSetB (tuplesOfRank rs r₁.parent (rankOf r₁)) (tuplesOfRank rs r₂.parent (rankOf r₂)) = false := by
  constructor
  · intro h r₁ h1 r₂ h2 hp
    cases hs : sameSetB (tuplesOfRank rs r₁.parent (rankOf r₁)) (tuplesOfRank rs r₂.parent (rankOf r₂)) with
    | false => exact Or.inr (Or.inr rfl)
    | true =>
      rw [← hp] at hs
      have hne : eval (getTD (ofRulesTD rs) r₁.parent) (bits (rankOf r₁)) ≠ [] :=
        List.ne_nil_of_mem ((mem_eval_ofRulesTD rs r₁.parent (rankOf_lt r₁) r₁.kids).mpr ⟨r₁, h1, rfl, rfl, rfl⟩)
      exact (h r₁.parent _ _ (rankOf_lt r₁) (rankOf_lt r₂) hne
        ((eval_ofRulesTD_eq_iff rs r₁.parent (rankOf_lt r₁) (rankOf_lt r₂)).mpr hs)).elim Or.inl (fun h => Or.inr (Or.inl h))
  · intro h p f g hf hg hne he
    obtain ⟨ks, hks⟩ := List.exists_mem_of_ne_nil _ hne
    obtain ⟨r₁, m1, _, p1, k1⟩ := (mem_eval_ofRulesTD rs p hf ks).mp hks
    obtain ⟨r₂, m2, _, p2, k2⟩ := (mem_eval_ofRulesTD rs p hg ks).mp (he ▸ hks)
    rcases h r₁ m1 r₂ m2 (p1.trans p2.symm) with h' | h' | h'
    · exact Or.inl (k1 ▸ k2 ▸ h')
    · exact Or.inr (k1 ▸ h')
    · rw [p1, p2, k1, k2, (eval_ofRulesTD_eq_iff rs p hf hg).mp he] at h'
      cases h'

theorem symDet_ofRulesTD_iff (rs : List Rule) :
    (∀ p, SymDet 22 (getTD (ofRulesTD rs) p)) ↔ symDetRulesB rs = true := by
  have h := symDetUpTo_ofRulesTD_iff rs (fun _ => False)
  simp only [or_false, false_or] at h
  simp only [symDetRulesB, List.all_eq_true, Bool.or_eq_true, bne_iff_ne, ne_eq, beq_iff_eq, Bool.not_eq_true']
  refine h.trans ⟨fun h r₁ h1 r₂ h2 => ?_, fun h r₁ h1 r₂ h2 hp => ?_⟩
  · by_cases hp : r₁.parent = r₂.parent
    · exact (h r₁ h1 r₂ h2 hp).elim (fun h => Or.inl (Or.inr h)) Or.inr
    · exact Or.inl (Or.inl hp)
  · rcases h r₁ h1 r₂ h2 with (hn | hr) | hs
    · exact absurd hp hn
    · exact Or.inl hr
    · exact Or.inr hs

instance (rs : List Rule) : Decidable (∀ p, SymDet 22 (getTD (ofRulesTD rs) p)) :=
  decidable_of_iff _ (symDet_ofRulesTD_iff rs).symm

/-- a simpler SUFFICIENT condition: no children tuple of a state occurs below two ranked symbols -/
def tupleOnceB (rs : List Rule) : Bool :=
  rs.all (fun r₁ => rs.all (fun r₂ => r₁.parent != r₂.parent || r₁.kids != r₂.kids || rankOf r₁ == rankOf r₂))

def rankSyms (rs : List Rule) : List Nat := InclUp.normS (rs.map rankOf)

/-- `rankSyms rs` is increasing, below `2 ^ 22`, and covers the table loaded from any sub-list `rs'` of `rs`: the three hypotheses on
`syms` of `C07_traverse_downward_algorithm` hold for it -/
theorem rankSyms_ok {rs' rs : List Rule} (hsub : ∀ r, r ∈ rs' → r ∈ rs) :
    (rankSyms rs).Pairwise (· < ·) ∧ (∀ c, c ∈ rankSyms rs → c < 2 ^ 22) ∧
    (∀ p c, c < 2 ^ 22 → eval (getTD (ofRulesTD rs') p) (bits c) ≠ [] → c ∈ rankSyms rs) := by
  refine ⟨InclUp.normS_sorted _, fun c hc => ?_, fun p c hc hne => ?_⟩
  · obtain ⟨r, _, rfl⟩ := List.mem_map.mp (InclUp.mem_normS.mp hc)
    exact rankOf_lt r
  · obtain ⟨ks, hks⟩ := List.exists_mem_of_ne_nil _ hne
    obtain ⟨r, hr, _, _, h4⟩ := (mem_eval_ofRulesTD rs' p hc ks).mp hks
    exact InclUp.mem_normS.mpr (List.mem_map.mpr ⟨r, hsub r hr, h4⟩)

/-- `a → 3`, `b → 4`, `g(3,3) → 9`, `g(4,4) → 9`: symbol-deterministic -/
example : symDetRulesB BddAbsEx.rsB = true := by decide +kernel
example : ∀ p, SymDet 22 (getTD (ofRulesTD BddAbsEx.rsB) p) := (symDet_ofRulesTD_iff _).mpr (by decide +kernel)
/-- `a → 1`, `b → 1`, `g(1,1) → 2`: the state 1 has the class `{a, b}` -/
example : symDetRulesB BddAbsEx.rsA = false := by decide +kernel
example : ¬ ∀ p, SymDet 22 (getTD (ofRulesTD BddAbsEx.rsA) p) := fun h => by
  have := (symDet_ofRulesTD_iff _).mp h
  revert this; decide
/-- `f(1) → 2`, `h(1) → 2`, `h(3) → 2`: the tuple `(1)` of state 2 occurs below `f` and `h`, yet the tuple sets `{(1)}`,
`{(1), (3)}` differ: symbol-deterministic, but `tupleOnceB` fails -/
def exNotOnce : List Rule := [⟨5, [1], 2⟩, ⟨7, [1], 2⟩, ⟨7, [3], 2⟩]
example : symDetRulesB exNotOnce = true ∧ tupleOnceB exNotOnce = false := by decide +kernel
/-- the symbols are taken modulo `2 ^ 16`: `65536 + 5` is the symbol `5` of the encoding -/
example : symDetRulesB [⟨5, [1], 2⟩, ⟨65541, [1], 2⟩] = true ∧ symDetRulesB [⟨5, [1], 2⟩, ⟨6, [1], 2⟩] = false := by decide +kernel

end InclDownTables
end Vata
