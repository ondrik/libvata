import Vata.Generated.Tables
/-!
# Dispatch tables (C01, C07, C09): theorems over the table REGENERATED from /repo's sources on every run

`Vata.Gen` is produced by `tools/extract_tables.py` from `include/vata/incl_param.hh` and the four
`switch (params.GetOptions())` dispatchers.  Everything below is closed by `decide` over the complete 2⁷ option space,
so an edit of a dispatcher or of the flag words changes the regenerated table and breaks these theorems before any input
is tried; the harness validates the table itself against run-time behaviour (`inclall`, `bddinclall`: which option words
return a verdict and which throw `NotImplementedException`).
-/
namespace Vata.Dispatch
open Vata.Gen

def flag (n : String) : Nat := (flags.lookup n).getD 0
def fAlg := flag "FLAG_MASK_ALGORITHM"
def fDir := flag "FLAG_MASK_DIRECTION"
def fCache := flag "FLAG_MASK_DOWNWARD_CACHE_IMPL"
def fRec := flag "FLAG_MASK_RECURSIVE"
def fSim := flag "FLAG_MASK_SIMULATION"
def fOrder := flag "FLAG_MASK_SEARCH_ORDER"
def fEquiv := flag "FLAG_MASK_EQUIV"

def has (w f : Nat) : Bool := w &&& f != 0

/-- the translator parsed every source -/
theorem parsed : parseErrors = [] := by decide

/-- the seven flags are seven distinct bits: option words are exactly the numbers below 128 -/
theorem flags_are_bits : [fAlg, fDir, fCache, fRec, fSim, fOrder, fEquiv] = [1, 2, 4, 8, 16, 32, 64] := by decide +kernel

/-- the same one by one: a flag is a lookup by name in `flags`, so the theorems below rewrite with the values before a table is evaluated -/
theorem flag_values : fAlg = 1 ∧ fDir = 2 ∧ fCache = 4 ∧ fRec = 8 ∧ fSim = 16 ∧ fOrder = 32 ∧ fEquiv = 64 := by
  simpa only [List.cons.injEq, and_true] using flags_are_bits

def words (t : List Case) : List Nat := t.map (·.word)

/-- same set of option words (the order of the `case` labels in the source is irrelevant) -/
def sameWords (l₁ l₂ : List Nat) : Bool := l₁.all (fun x => l₂.contains x) && l₂.all (fun x => l₁.contains x)

/-- which option words each encoding implements (C01: 8 selections; C07: 4 + 3; C09: antichains, congruence depth / breadth) -/
theorem implemented_expl : sameWords (words explDispatch) [0, 16, 2, 18, 10, 26, 14, 30] = true := by decide
theorem implemented_td : sameWords (words tdDispatch) [10, 14, 26, 30] = true := by decide
theorem implemented_bu : sameWords (words buDispatch) [0, 16, 26] = true := by decide
theorem implemented_fa : sameWords (words faDispatch) [0, 16, 33, 1, 17, 65, 97] = true := by decide

/-- every other option word reaches `default`, which throws `NotImplementedException` -/
theorem default_throws : explDispatchDefaultThrows = true ∧ tdDispatchDefaultThrows = true ∧
    buDispatchDefaultThrows = true ∧ faDispatchDefaultThrows = true := by decide

/-- no case label occurs twice -/
theorem no_duplicate_cases : (words explDispatch).Nodup ∧ (words tdDispatch).Nodup ∧ (words buDispatch).Nodup ∧
    (words faDispatch).Nodup := by decide

/-- a case is consistent with its option word: simulation bit ⇔ the given relation and the ORIGINAL operands are passed;
no simulation ⇔ `Identity(states)` and the SANITISED copies; (the bottom-up "downward with simulation" case computes its
own relation on sanitised copies) -/
def simConsistent (c : Case) : Bool :=
  if c.callee == "viaTopDown" then has c.word fSim && c.sanitized == "true" && c.rel == "computed"
  else if has c.word fSim then c.rel == "given" && c.sanitized == "false"
  else c.rel == "identity" && c.sanitized == "true"

theorem sim_consistent : (explDispatch ++ tdDispatch ++ buDispatch ++ faDispatch).all simConsistent = true := by
  unfold simConsistent; simp only [flag_values]; decide +kernel

/-- tree automata: the callee matches direction, recursion and cache bits -/
def treeConsistent (c : Case) : Bool :=
  !has c.word fAlg && !has c.word fOrder && !has c.word fEquiv &&
  (match c.callee with
   | "explUp" | "bddUp" => !has c.word fDir && !has c.word fRec && !has c.word fCache
   | "explDownNonrec" => has c.word fDir && !has c.word fRec && !has c.word fCache
   | "downRec" => has c.word fDir && has c.word fRec &&
       (if has c.word fCache then c.functor == "OptDownwardInclusionFunctor" else c.functor == "DownwardInclusionFunctor")
   | "viaTopDown" => has c.word fDir && has c.word fRec && !has c.word fCache &&
       c.functor == "SetAlgorithm=antichains;SetDirection=downward;SetUseRecursion=true;SetUseSimulation=true;SetUseDownwardCacheImpl=false"
   | _ => false)

theorem tree_consistent : (explDispatch ++ tdDispatch ++ buDispatch).all treeConsistent = true := by
  unfold treeConsistent; simp only [flag_values]; decide +kernel

/-- the word the bottom-up "via top-down" case builds for the nested call is one the top-down dispatcher implements -/
theorem via_topdown_target_implemented : (words tdDispatch).contains (fDir ||| fRec ||| fSim) = true := by
  simp only [flag_values]; decide +kernel

/-- word automata: algorithm and search-order bits match the functor and the product-set order -/
def faConsistent (c : Case) : Bool :=
  !has c.word fDir && !has c.word fRec && !has c.word fCache &&
  (match c.callee with
   | "faAntichain" => !has c.word fAlg && !has c.word fEquiv && !has c.word fOrder
   | "faCongr" => has c.word fAlg && !has c.word fEquiv && (if has c.word fOrder then c.order == "breadth" else c.order == "depth")
   | "faCongrEquiv" => has c.word fAlg && has c.word fEquiv && (if has c.word fOrder then c.order == "breadth" else c.order == "depth")
   | _ => false)

theorem fa_consistent : faDispatch.all faConsistent = true := by
  unfold faConsistent; simp only [flag_values]; decide +kernel

/-- the named option words mean what their names say -/
theorem named_words :
    namedWords.lookup "ANTICHAINS_UP_NOSIM" = some 0 ∧
    namedWords.lookup "ANTICHAINS_UP_SIM" = some fSim ∧
    namedWords.lookup "ANTICHAINS_DOWN_NONREC_NOSIM" = some fDir ∧
    namedWords.lookup "ANTICHAINS_DOWN_NONREC_SIM" = some (fDir ||| fSim) ∧
    namedWords.lookup "ANTICHAINS_DOWN_REC_NOSIM" = some (fDir ||| fRec) ∧
    namedWords.lookup "ANTICHAINS_DOWN_REC_OPT_NOSIM" = some (fDir ||| fRec ||| fCache) ∧
    namedWords.lookup "ANTICHAINS_DOWN_REC_SIM" = some (fDir ||| fRec ||| fSim) ∧
    namedWords.lookup "ANTICHAINS_DOWN_REC_OPT_SIM" = some (fDir ||| fRec ||| fCache ||| fSim) ∧
    namedWords.lookup "ANTICHAINS_NOSIM" = some 0 ∧
    namedWords.lookup "CONGR_DEPTH_NOSIM" = some fAlg ∧
    namedWords.lookup "CONGR_BREADTH_NOSIM" = some (fAlg ||| fOrder) := by
  simp only [flag_values]; decide +kernel

end Vata.Dispatch
