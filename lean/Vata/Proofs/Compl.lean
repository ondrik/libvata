import Vata.Compl
import Vata.Proofs.NormS
import Vata.Proofs.TrimModel
/-!
# Complementation over a ranked alphabet (property C06): the reference and the model are right

* `complRef_spec` : every automaton `complRef A Sg fuel` returns accepts exactly the trees over `Sg` that `A` rejects.
  Key lemma `det_reach`: in the complete deterministic automaton on a closed list of profiles, `reach` of a tree over
  `Sg` is the singleton of the number of the tree's profile, and empty for a tree that is not over `Sg`.
* `complTD_spec`  : the same for the model `complTD` of `ExplicitDownwardComplementation::Compute` followed by
  `RemoveUselessStates`.  Key lemma `td_reach`: the state numbered for the macro-state `P` reaches `t` iff `t` is over
  `Sg` and no state of `P` reaches `t` in `A` (by induction on `t`; the step is the choice-function argument
  `not_reach_node`).
* `symFold_spec`, `cert_of_done` : one round of the work-list keeps the rules those the cache prescribes and finishes
  its macro-state; once every macro-state of the cache is finished the certificate check passes.  `ComplOrd` builds the
  loop invariant for every exploration order on these.
-/
namespace Vata
namespace Compl
open InclUp (normS mem_normS)

theorem tree_ind_auxL {P : Tree → Prop} (h : ∀ f ts, (∀ t, t ∈ ts → P t) → P (.node f ts)) :
    ∀ ts : List Tree, ∀ t, t ∈ ts → P t := fun _ t _ => tree_induction h t

theorem matchKids_iff_getD : ∀ {ks : List Nat} {ss : List (List Nat)},
    matchKids ks ss = true ↔ ks.length = ss.length ∧ ∀ i, i < ks.length → ks.getD i 0 ∈ ss.getD i []
  | [], [] => ⟨fun _ => ⟨rfl, fun _ h => absurd h (Nat.not_lt_zero _)⟩, fun _ => rfl⟩
  | [], _ :: _ => ⟨fun h => (nomatch h), fun h => (nomatch h.1)⟩
  | _ :: _, [] => ⟨fun h => (nomatch h), fun h => (nomatch h.1)⟩
  | k :: ks, s :: ss => by
    rw [matchKids, Bool.and_eq_true, List.contains_iff_mem, matchKids_iff_getD, List.length_cons, List.length_cons,
      Nat.succ_inj]
    constructor
    · rintro ⟨h1, h2, h3⟩
      refine ⟨h2, fun i hi => ?_⟩
      cases i with
      | zero => exact h1
      | succ i => exact h3 i (Nat.lt_of_succ_lt_succ hi)
    · rintro ⟨h1, h2⟩
      exact ⟨h2 0 (Nat.succ_pos _), h1, fun i hi => h2 (i + 1) (Nat.succ_lt_succ hi)⟩

theorem reach_node (A : TA) (f : Nat) (ts : List Tree) : reach A (.node f ts) = post A f (ts.map (reach A)) := by
  rw [reach, reachL_eq_map]

/-- `mem_reach_node` by positions: both constructions number their rules' children by position -/
theorem mem_reach_node_getD {A : TA} {f : Nat} {ts : List Tree} {q : Nat} :
    q ∈ reach A (.node f ts) ↔ ∃ r, r ∈ A.rules ∧ r.sym = f ∧ r.kids.length = ts.length ∧
      (∀ i (hi : i < ts.length), r.kids.getD i 0 ∈ reach A ts[i]) ∧ r.parent = q := by
  rw [reach_node, mem_post']
  refine exists_congr fun r => and_congr_right fun _ => and_congr_right fun _ => ?_
  rw [matchKids_iff_getD, List.length_map, and_assoc]
  refine and_congr_right fun hl => and_congr_left fun _ => forall_congr' fun i => ?_
  rw [hl]
  exact forall_congr' fun hi => by rw [getD_map_getElem _ _ _ hi]

theorem mem_tuplesM {P : List (List Nat)} {n : Nat} {ps : List (List Nat)} :
    ps ∈ tuplesM P n ↔ ps.length = n ∧ ∀ p, p ∈ ps → p ∈ P :=
  mem_tuples_of_eqns (T := tuplesM P) rfl fun _ => rfl

theorem mem_detRules {A : TA} {Sg : List (Nat × Nat)} {Ps : List (List Nat)} {r : Rule} :
    r ∈ detRules A Sg Ps ↔ ∃ f ps, (f, ps.length) ∈ Sg ∧ (∀ p, p ∈ ps → p ∈ Ps) ∧
      r = ⟨f, ps.map (fun p => Ps.idxOf p), Ps.idxOf (normS (post A f ps))⟩ := by
  simp only [detRules, List.mem_flatMap, List.mem_map, mem_tuplesM]
  constructor
  · rintro ⟨⟨f, n⟩, hfa, ps, ⟨hl, hm⟩, rfl⟩
    simp only at hl
    subst hl
    exact ⟨f, ps, hfa, hm, rfl⟩
  · rintro ⟨f, ps, hfa, hm, rfl⟩
    exact ⟨(f, ps.length), hfa, ps, ⟨rfl, hm⟩, rfl⟩

theorem detClosedB_iff {A : TA} {Sg : List (Nat × Nat)} {Ps : List (List Nat)} :
    detClosedB A Sg Ps = true ↔
      ∀ f ps, (f, ps.length) ∈ Sg → (∀ p, p ∈ ps → p ∈ Ps) → normS (post A f ps) ∈ Ps := by
  simp only [detClosedB, detStep, List.all_eq_true, List.mem_flatMap, List.mem_map, mem_tuplesM,
    List.contains_iff_mem]
  constructor
  · intro h f ps hfa hm
    exact h _ ⟨(f, ps.length), hfa, ps, ⟨rfl, hm⟩, rfl⟩
  · rintro h p ⟨⟨f, n⟩, hfa, ps, ⟨hl, hm⟩, rfl⟩
    simp only at hl
    subst hl
    exact h f ps hfa hm

/-- `l.contains` as a representation test (the stored element is the left argument): with it `detSat` is the generic
saturation loop -/
abbrev beqR (a b : List Nat) : Bool := b == a

theorem contains_eq_gmem (P : List (List Nat)) (p : List Nat) : P.contains p = Total.gmem beqR P p :=
  List.contains_eq_any_beq

theorem unionM_eq (N : List (List Nat)) : ∀ P, unionM P N = Total.gaddNew beqR P N := by
  induction N with
  | nil => intro _; rfl
  | cons x N ih =>
    intro P
    rw [unionM, List.foldl_cons, Total.gaddNew, ← contains_eq_gmem, insM]
    split <;> exact ih _

theorem detClosedB_eq (A : TA) (Sg : List (Nat × Nat)) (Ps : List (List Nat)) :
    detClosedB A Sg Ps = Total.gclosed beqR (detStep A Sg) Ps := by
  simp only [detClosedB, Total.gclosed, contains_eq_gmem]

theorem detSat_eq (A : TA) (Sg : List (Nat × Nat)) (fuel : Nat) (Ps : List (List Nat)) :
    detSat A Sg fuel Ps = Total.gsat beqR (detStep A Sg) fuel Ps := by
  induction fuel generalizing Ps with
  | zero => rw [detSat, Total.gsat, detClosedB_eq]
  | succ n ih => rw [detSat, Total.gsat, detClosedB_eq, unionM_eq, ih]

theorem detSat_closed {A : TA} {Sg : List (Nat × Nat)} {fuel : Nat} {Ps₀ Ps : List (List Nat)}
    (h : detSat A Sg fuel Ps₀ = some Ps) : detClosedB A Sg Ps = true := by
  rw [detSat_eq] at h
  rw [detClosedB_eq]
  exact Total.gsat_closed _ _ _ _ h

/-- the profile of a tree: its `reach`-set as a sorted duplicate-free list -/
def prof (A : TA) (t : Tree) : List Nat := normS (reach A t)

theorem prof_node (A : TA) (f : Nat) (ts : List Tree) :
    prof A (.node f ts) = normS (post A f (ts.map (prof A))) := by
  rw [prof, reach_node]
  congr 1
  exact post_congr A f (All2.map_left _ (All2.map_right _ fun t _ x => mem_normS.symm))

theorem prof_mem {A : TA} {Sg : List (Nat × Nat)} {Ps : List (List Nat)} (hcl : detClosedB A Sg Ps = true) :
    ∀ t, overSig Sg t = true → prof A t ∈ Ps := by
  apply tree_induction
  intro f ts ih hov
  obtain ⟨hfa, hts⟩ := (overSig_node Sg f ts).mp hov
  rw [prof_node]
  refine detClosedB_iff.mp hcl f _ (by rwa [List.length_map]) fun p hp => ?_
  obtain ⟨t, ht, rfl⟩ := List.mem_map.mp hp
  exact ih t ht (hts t ht)

theorem det_reach {A : TA} {Sg : List (Nat × Nat)} {Ps : List (List Nat)} (hcl : detClosedB A Sg Ps = true) :
    ∀ t q, q ∈ reach (detAut A Sg Ps) t ↔ overSig Sg t = true ∧ q = Ps.idxOf (prof A t) := by
  apply tree_induction
  intro f ts ih q
  rw [mem_reach_node_getD, overSig_node, prof_node]
  constructor
  · rintro ⟨r, hr, hs, hl, hk, rfl⟩
    obtain ⟨f', ps, hfa, hps, rfl⟩ := mem_detRules.mp hr
    obtain rfl : f' = f := hs
    simp only [List.length_map] at hl
    -- a rule that applies is the rule of the children's profiles
    have hkid : ∀ i (hi : i < ts.length), overSig Sg ts[i] = true ∧ ps[i]'(hl ▸ hi) = prof A ts[i] := fun i hi => by
      have := hk i hi
      rw [getD_map_getElem _ _ _ (hl ▸ hi), ih _ (List.getElem_mem hi)] at this
      exact ⟨this.1, idxOf_inj (hps _ (List.getElem_mem _)) this.2⟩
    obtain rfl : ps = ts.map (prof A) :=
      List.ext_getElem (hl.trans (List.length_map _).symm) fun i h1 _ => by
        rw [List.getElem_map]; exact (hkid i (hl ▸ h1)).2
    refine ⟨⟨hl ▸ hfa, fun t ht => ?_⟩, rfl⟩
    obtain ⟨i, hi, rfl⟩ := List.getElem_of_mem ht
    exact (hkid i hi).1
  · rintro ⟨⟨hfa, hts⟩, rfl⟩
    refine ⟨_, mem_detRules.mpr ⟨f, ts.map (prof A), by rwa [List.length_map], fun p hp => ?_, rfl⟩, rfl,
      by rw [List.length_map, List.length_map], fun i hi => ?_, rfl⟩
    · obtain ⟨t, ht, rfl⟩ := List.mem_map.mp hp
      exact prof_mem hcl t (hts t ht)
    · rw [List.map_map, getD_map_getElem _ _ _ hi]
      exact (ih _ (List.getElem_mem hi) _).mpr ⟨hts _ (List.getElem_mem hi), rfl⟩

theorem accepting_prof (A : TA) (t : Tree) : accepting A (prof A t) = accepts A t :=
  accepting_congr A (fun _ => mem_normS)

/-- the two clauses of "complement over `Sg`" in one: `C` accepts exactly the trees over `Sg` that `A` rejects -/
theorem compl_of_accepts_iff {A C : TA} {Sg : List (Nat × Nat)} {t : Tree}
    (h : accepts C t = true ↔ overSig Sg t = true ∧ accepts A t = false) :
    (overSig Sg t = true → accepts C t = !accepts A t) ∧ (overSig Sg t = false → accepts C t = false) := by
  constructor
  · intro hov
    rw [Bool.eq_iff_iff, h]
    simp [hov]
  · intro hov
    cases hc : accepts C t with
    | false => rfl
    | true => rw [(h.mp hc).1] at hov; cases hov

theorem detAut_spec {A : TA} {Sg : List (Nat × Nat)} {Ps : List (List Nat)} (hcl : detClosedB A Sg Ps = true)
    (t : Tree) :
    (overSig Sg t = true → accepts (detAut A Sg Ps) t = !accepts A t) ∧
    (overSig Sg t = false → accepts (detAut A Sg Ps) t = false) := by
  have hfin : ∀ q, q ∈ (detAut A Sg Ps).final ↔ ∃ p, (p ∈ Ps ∧ (!accepting A p) = true) ∧ Ps.idxOf p = q := by
    intro q
    simp only [detAut, detFinal, List.mem_map, List.mem_filter]
  refine compl_of_accepts_iff (accepts_iff_reach.trans ⟨?_, ?_⟩)
  · rintro ⟨q, hq1, hq2⟩
    obtain ⟨hov, rfl⟩ := (det_reach hcl t q).mp hq1
    obtain ⟨p, ⟨hpm, hacc⟩, he⟩ := (hfin _).mp hq2
    cases idxOf_inj hpm he
    rw [accepting_prof] at hacc
    exact ⟨hov, (Bool.not_eq_true' _).mp hacc⟩
  · rintro ⟨hov, h⟩
    exact ⟨_, (det_reach hcl t _).mpr ⟨hov, rfl⟩,
      (hfin _).mpr ⟨_, ⟨prof_mem hcl t hov, by rw [accepting_prof, h]; rfl⟩, rfl⟩⟩

theorem complRef_spec {A : TA} {Sg : List (Nat × Nat)} {fuel : Nat} {C : TA} :
    complRef A Sg fuel = some C →
      ∀ t, (overSig Sg t = true → accepts C t = !accepts A t) ∧ (overSig Sg t = false → accepts C t = false) := by
  intro h
  obtain ⟨Ps, hs, rfl⟩ := Option.map_eq_some_iff.mp h
  exact detAut_spec (detSat_closed hs)

/-- non-vacuity: the reference returns an automaton on a nondeterministic input with an alphabet symbol unused by it -/
example : ∃ C, complRef Ex.aND Ex.sg3 20 = some C ∧
    ∀ t, (overSig Ex.sg3 t = true → accepts C t = !accepts Ex.aND t) ∧ (overSig Ex.sg3 t = false → accepts C t = false) := by
  have hs : (complRef Ex.aND Ex.sg3 20).isSome = true := by decide +kernel
  obtain ⟨C, hC⟩ := Option.isSome_iff_exists.mp hs
  exact ⟨C, hC, complRef_spec hC⟩

/-- non-vacuity of the hypothesis of `det_reach` / `detAut_spec`: a closed non-empty list of profiles -/
example : detClosedB Ex.aLeft Ex.sg [[0, 1], [1, 2], [1]] = true ∧ detClosedB Ex.aLeft Ex.sg [[0, 1]] = false := by decide +kernel

theorem mem_insM {x y : List Nat} {l : List (List Nat)} : y ∈ insM x l ↔ y ∈ l ∨ y = x := mem_insNew

theorem insM_nodup {x : List Nat} {l : List (List Nat)} (h : l.Nodup) : (insM x l).Nodup := nodup_insNew h

theorem mem_unionM {S l : List (List Nat)} {y : List Nat} : y ∈ unionM S l ↔ y ∈ S ∨ y ∈ l := mem_foldl_insNew l S

theorem mem_dedupM {l : List (List Nat)} {y : List Nat} : y ∈ dedupM l ↔ y ∈ l := by
  unfold dedupM
  rw [mem_unionM]
  simp

theorem mem_tdW {A : TA} {P : List Nat} {f n : Nat} {w : List Nat} :
    w ∈ tdW A P f n ↔ ∃ r, r ∈ A.rules ∧ r.parent ∈ P ∧ r.sym = f ∧ r.kids.length = n ∧ r.kids = w := by
  unfold tdW
  rw [mem_dedupM]
  simp only [List.mem_flatMap, List.mem_map, List.mem_filter, Bool.and_eq_true, beq_iff_eq]
  constructor
  · rintro ⟨q, hq, r, ⟨hr, ⟨h1, h2⟩, h3⟩, h4⟩
    exact ⟨r, hr, h1 ▸ hq, h2, h3, h4⟩
  · rintro ⟨r, hr, h1, h2, h3, h4⟩
    exact ⟨r.parent, h1, r, ⟨hr, ⟨rfl, h2⟩, h3⟩, h4⟩

theorem mem_choices {k n : Nat} {c : List Nat} : c ∈ choices k n ↔ c.length = k ∧ ∀ i, i ∈ c → i < n := by
  induction k generalizing c with
  | zero =>
    simp only [choices, List.mem_singleton]
    constructor
    · rintro rfl; simp
    · rintro ⟨h, _⟩; exact List.length_eq_zero_iff.mp h
  | succ k ih =>
    simp only [choices, List.mem_flatMap, List.mem_map, List.mem_range]
    constructor
    · rintro ⟨rest, hrest, i, hi, rfl⟩
      obtain ⟨hl, hm⟩ := ih.mp hrest
      refine ⟨by simp [hl], ?_⟩
      intro x hx
      rcases List.mem_cons.mp hx with rfl | hx
      · exact hi
      · exact hm x hx
    · rintro ⟨hl, hm⟩
      cases c with
      | nil => simp at hl
      | cons i rest =>
        exact ⟨rest, ih.mpr ⟨by simpa using hl, fun x hx => hm x (List.mem_cons_of_mem _ hx)⟩, i,
          hm i List.mem_cons_self, rfl⟩

theorem mem_macroAt {W : List (List Nat)} {c : List Nat} {i q : Nat} :
    q ∈ macroAt W c i ↔ ∃ w, (w, i) ∈ W.zip c ∧ q = w.getD i 0 := by
  unfold macroAt
  rw [mem_normS]
  simp only [List.mem_map, List.mem_filter, beq_iff_eq]
  constructor
  · rintro ⟨⟨w, ci⟩, ⟨h1, h2⟩, h3⟩
    simp only at h2 h3
    subst h2
    exact ⟨w, h1, h3.symm⟩
  · rintro ⟨w, h1, h2⟩
    exact ⟨(w, i), ⟨h1, rfl⟩, h2.symm⟩

theorem exists_zip_of_mem {w : List Nat} : ∀ {W : List (List Nat)} {c : List Nat}, w ∈ W → c.length = W.length →
    ∃ ci, (w, ci) ∈ W.zip c
  | [], _, h, _ => by cases h
  | _ :: _, [], _, hl => by simp at hl
  | w' :: W, ci :: c, h, hl => by
    rcases List.mem_cons.mp h with rfl | h
    · exact ⟨ci, by simp⟩
    · obtain ⟨cj, hcj⟩ := exists_zip_of_mem (W := W) (c := c) h (by simpa using hl)
      exact ⟨cj, by simp [hcj]⟩

theorem all2_of_mem_zip {α β : Type} {R : α → β → Prop} {l : List α} {l' : List β} (h : All2 R l l') {a : α} {b : β}
    (hab : (a, b) ∈ l.zip l') : R a b := by
  induction h with
  | nil => cases hab
  | cons hd _ ih =>
    rcases List.mem_cons.mp hab with e | hab
    · cases e; exact hd
    · exact ih hab

theorem mem_tdExpected {A : TA} {Sg : List (Nat × Nat)} {cache : List (List Nat)} {r : Rule} :
    r ∈ tdExpected A Sg cache ↔ ∃ P f n c, P ∈ cache ∧ (f, n) ∈ Sg ∧ c ∈ choices (tdW A P f n).length n ∧
      r = ⟨f, (macros (tdW A P f n) c n).map (fun Q => cache.idxOf Q), cache.idxOf P⟩ := by
  simp only [tdExpected, List.mem_flatMap, List.mem_map]
  constructor
  · rintro ⟨P, hP, ⟨f, n⟩, hfa, c, hc, rfl⟩
    exact ⟨P, f, n, c, hP, hfa, hc, rfl⟩
  · rintro ⟨P, f, n, c, hP, hfa, hc, rfl⟩
    exact ⟨P, hP, (f, n), hfa, c, hc, rfl⟩

theorem tdClosedB_iff {A : TA} {Sg : List (Nat × Nat)} {cache : List (List Nat)} :
    tdClosedB A Sg cache = true ↔ ∀ P f n c, P ∈ cache → (f, n) ∈ Sg → c ∈ choices (tdW A P f n).length n →
      ∀ i, i < n → macroAt (tdW A P f n) c i ∈ cache := by
  simp only [tdClosedB, macros, List.all_eq_true, List.contains_iff_mem, List.mem_map, List.mem_range]
  constructor
  · intro h P f n c hP hfa hc i hi
    exact h P hP (f, n) hfa c hc _ ⟨i, hi, rfl⟩
  · rintro h P hP ⟨f, n⟩ hfa c hc Q ⟨i, hi, rfl⟩
    exact h P f n c hP hfa hc i hi

theorem macros_map_idx (cache : List (List Nat)) (W : List (List Nat)) (c : List Nat) (n : Nat) :
    (macros W c n).map (fun Q => cache.idxOf Q) = (List.range n).map (fun i => cache.idxOf (macroAt W c i)) := by
  simp [macros, List.map_map, Function.comp_def]

/-- the choice-function argument: no state of `P` reaches `f(ts)` iff some choice function sends every children tuple `w`
of the `f`-rules into `P` to a position `i` at which `w[i]` does not reach `ts[i]` -/
theorem not_reach_node {A : TA} {P : List Nat} {f : Nat} {ts : List Tree} :
    (∀ q, q ∈ P → q ∉ reach A (.node f ts)) ↔ ∃ c, c ∈ choices (tdW A P f ts.length).length ts.length ∧
      ∀ i (hi : i < ts.length), ∀ q, q ∈ macroAt (tdW A P f ts.length) c i → q ∉ reach A ts[i] := by
  constructor
  · intro hno
    -- every tuple of `W` has such a position, or its rule would fire at `f(ts)`
    obtain ⟨c, hc⟩ := Prof.chooseR (R := fun w i => ∃ hi : i < ts.length, w.getD i 0 ∉ reach A ts[i])
      (tdW A P f ts.length) fun w hw => by
        obtain ⟨r, hrm, hpar, hs, hl, rfl⟩ := mem_tdW.mp hw
        exact Classical.byContradiction fun hne => hno r.parent hpar (mem_reach_node_getD.mpr
          ⟨r, hrm, hs, hl, fun i hi => Classical.byContradiction fun hni => hne ⟨i, hi, hni⟩, rfl⟩)
    refine ⟨c, mem_choices.mpr ⟨(all2_length hc).symm, fun i hi => ?_⟩, fun i hi q hq hreach => ?_⟩
    · obtain ⟨_, _, hi', _⟩ := hc.exists_left i hi
      exact hi'
    · obtain ⟨w, hz, rfl⟩ := mem_macroAt.mp hq
      obtain ⟨_, hn⟩ := all2_of_mem_zip hc hz
      exact hn hreach
  · rintro ⟨c, hc, hk⟩ q hq hreach
    obtain ⟨r, hrm, hs, hl, hk', hp⟩ := mem_reach_node_getD.mp hreach
    -- the tuple of the rule that fires is in `W`; the macro-state at the position chosen for it holds its child there
    obtain ⟨ci, hci⟩ := exists_zip_of_mem (mem_tdW.mpr ⟨r, hrm, hp ▸ hq, hs, hl, rfl⟩) (mem_choices.mp hc).1
    have hcin : ci < ts.length := (mem_choices.mp hc).2 ci (List.of_mem_zip hci).2
    exact hk ci hcin _ (mem_macroAt.mpr ⟨_, hci, rfl⟩) (hk' ci hcin)

theorem td_reach {A : TA} {Sg : List (Nat × Nat)} {cache : List (List Nat)} {rules : List Rule} {fin : List Nat}
    (hcl : tdClosedB A Sg cache = true) (hr : ∀ r, r ∈ rules ↔ r ∈ tdExpected A Sg cache) :
    ∀ t P, P ∈ cache →
      (cache.idxOf P ∈ reach ⟨rules, fin⟩ t ↔ overSig Sg t = true ∧ ∀ q, q ∈ P → q ∉ reach A t) := by
  apply tree_induction
  intro f ts ih P hP
  -- the macro-states of a choice function are in the cache, so the induction hypothesis applies to them
  have hkid := fun c hfa hc i (hi : i < ts.length) =>
    ih ts[i] (List.getElem_mem hi) _ (tdClosedB_iff.mp hcl P f _ c hP hfa hc i hi)
  rw [mem_reach_node_getD, overSig_node]
  constructor
  · rintro ⟨r, hrm, hs, hl, hk, hp⟩
    obtain ⟨P', f', n, c, hP', hfa, hc, rfl⟩ := mem_tdExpected.mp ((hr r).mp hrm)
    simp only [macros_map_idx, List.length_map, List.length_range] at hs hl hk hp
    subst hs hl
    cases idxOf_inj hP' hp
    have hk' := fun i hi => (hkid c hfa hc i hi).mp (by simpa only [getD_map_range _ hi 0] using hk i hi)
    refine ⟨⟨hfa, fun t ht => ?_⟩, not_reach_node.mpr ⟨c, hc, fun i hi => (hk' i hi).2⟩⟩
    obtain ⟨i, hi, rfl⟩ := List.getElem_of_mem ht
    exact (hk' i hi).1
  · rintro ⟨⟨hfa, hts⟩, hno⟩
    obtain ⟨c, hc, hno⟩ := not_reach_node.mp hno
    refine ⟨_, (hr _).mpr (mem_tdExpected.mpr ⟨P, f, ts.length, c, hP, hfa, hc, rfl⟩), rfl, ?_, fun i hi => ?_, rfl⟩
    · simp only [macros_map_idx, List.length_map, List.length_range]
    · simp only [macros_map_idx]
      rw [getD_map_range _ hi 0]
      exact (hkid c hfa hc i hi).mpr ⟨hts _ (List.getElem_mem hi), hno i hi⟩

theorem tdCertB_iff {A : TA} {Sg : List (Nat × Nat)} {st : St} :
    tdCertB A Sg st = true ↔ st.cache.head? = some (normS A.final) ∧ tdClosedB A Sg st.cache = true ∧
      ∀ r, r ∈ st.rules ↔ r ∈ tdExpected A Sg st.cache := by
  simp only [tdCertB, Bool.and_eq_true, beq_iff_eq, rulesEq_iff, and_assoc]

theorem tdCert_spec {A : TA} {Sg : List (Nat × Nat)} {st : St} (h : tdCertB A Sg st = true) (t : Tree) :
    (overSig Sg t = true → accepts ⟨st.rules, [0]⟩ t = !accepts A t) ∧
    (overSig Sg t = false → accepts ⟨st.rules, [0]⟩ t = false) := by
  obtain ⟨hhead, hcl, hr⟩ := tdCertB_iff.mp h
  obtain ⟨rest, hcache⟩ := List.head?_eq_some_iff.mp hhead
  have hF : normS A.final ∈ st.cache := by rw [hcache]; exact List.mem_cons_self
  have h0 : st.cache.idxOf (normS A.final) = 0 := by rw [hcache]; exact List.idxOf_cons_self
  have key := td_reach (fin := [0]) hcl hr t _ hF
  rw [h0] at key
  have hacc : accepts ⟨st.rules, [0]⟩ t = true ↔ overSig Sg t = true ∧ accepts A t = false := by
    rw [accepts_iff_reach]
    simp only [List.mem_singleton]
    constructor
    · rintro ⟨q, hq, rfl⟩
      obtain ⟨h1, h2⟩ := key.mp hq
      refine ⟨h1, ?_⟩
      cases ha : accepts A t with
      | false => rfl
      | true =>
        obtain ⟨q, hq1, hq2⟩ := accepts_iff_reach.mp ha
        exact absurd hq1 (h2 q (mem_normS.mpr hq2))
    · rintro ⟨h1, h2⟩
      refine ⟨0, key.mpr ⟨h1, ?_⟩, rfl⟩
      intro q hq hreach
      have : accepts A t = true := accepts_iff_reach.mpr ⟨q, hreach, mem_normS.mp hq⟩
      rw [h2] at this; cases this
  exact compl_of_accepts_iff hacc

theorem complTD_spec {A : TA} {Sg : List (Nat × Nat)} {fuel : Nat} {C : TA} :
    complTD A Sg fuel = some C →
      ∀ t, (overSig Sg t = true → accepts C t = !accepts A t) ∧ (overSig Sg t = false → accepts C t = false) := by
  intro h t
  unfold complTD at h
  split at h
  · cases h
  · next st _ =>
    split at h
    · next hcert =>
      simp only [Option.some.injEq] at h
      subst h
      rw [removeUseless_lang]
      exact tdCert_spec hcert t
    · cases h

/-- non-vacuity: the model returns an automaton on a nondeterministic input -/
example : ∃ C, complTD Ex.aLeft Ex.sg 20 = some C ∧
    ∀ t, (overSig Ex.sg t = true → accepts C t = !accepts Ex.aLeft t) ∧ (overSig Ex.sg t = false → accepts C t = false) := by
  have hs : (complTD Ex.aLeft Ex.sg 20).isSome = true := by decide +kernel
  obtain ⟨C, hC⟩ := Option.isSome_iff_exists.mp hs
  exact ⟨C, hC, complTD_spec hC⟩

/-- "`C` is the complement of `A` over `Sg`" (the specification of C06) -/
def IsComplOver (C A : TA) (Sg : List (Nat × Nat)) : Prop :=
  ∀ t, (overSig Sg t = true → accepts C t = !accepts A t) ∧ (overSig Sg t = false → accepts C t = false)

/-- two complements of `A` over the same alphabet accept the same trees -/
theorem IsComplOver.unique {A C D : TA} {Sg : List (Nat × Nat)} (h : IsComplOver C A Sg) (h' : IsComplOver D A Sg)
    (t : Tree) : accepts C t = accepts D t := by
  cases ho : overSig Sg t with
  | true => rw [(h t).1 ho, (h' t).1 ho]
  | false => rw [(h t).2 ho, (h' t).2 ho]

/-- a rule of the model is one the cache prescribes, with all its macro-states in the cache -/
def RuleOK (A : TA) (Sg : List (Nat × Nat)) (cache : List (List Nat)) (r : Rule) : Prop :=
  ∃ P f n c, P ∈ cache ∧ (f, n) ∈ Sg ∧ c ∈ choices (tdW A P f n).length n ∧
    (∀ i, i < n → macroAt (tdW A P f n) c i ∈ cache) ∧
    r = ⟨f, (macros (tdW A P f n) c n).map (fun Q => cache.idxOf Q), cache.idxOf P⟩

/-- the rule of the choice function `c` for `P`, `f/n` has been emitted -/
def Done (A : TA) (st : St) (P : List Nat) (f n : Nat) (c : List Nat) : Prop :=
  (∀ i, i < n → macroAt (tdW A P f n) c i ∈ st.cache) ∧
    (⟨f, (macros (tdW A P f n) c n).map (fun Q => st.cache.idxOf Q), st.cache.idxOf P⟩ : Rule) ∈ st.rules

/-- the least set that contains the set of final states and is closed under "the macro-states of a choice function" -/
inductive MReach (A : TA) (Sg : List (Nat × Nat)) : List Nat → Prop
  | init : MReach A Sg (normS A.final)
  | step {P : List Nat} {f n : Nat} {c : List Nat} {i : Nat} : MReach A Sg P → (f, n) ∈ Sg →
      c ∈ choices (tdW A P f n).length n → i < n → MReach A Sg (macroAt (tdW A P f n) c i)

/-- what every round of the work-list keeps: the cache is a duplicate-free list of macro-states the construction must
meet, the rules are duplicate-free and among those the cache prescribes -/
structure Good (A : TA) (Sg : List (Nat × Nat)) (st : St) : Prop where
  nodup : st.cache.Nodup
  ok : ∀ r, r ∈ st.rules → RuleOK A Sg st.cache r
  reach : ∀ P, P ∈ st.cache → MReach A Sg P
  nodupR : st.rules.Nodup

/-- the state only grows: the cache by appending, the rules as a set -/
def Le (st st' : St) : Prop := st.cache <+: st'.cache ∧ ∀ r, r ∈ st.rules → r ∈ st'.rules

theorem Le.refl (st : St) : Le st st := ⟨List.prefix_rfl, fun _ h => h⟩
theorem Le.trans {a b c : St} (h1 : Le a b) (h2 : Le b c) : Le a c :=
  ⟨h1.1.trans h2.1, fun r h => h2.2 r (h1.2 r h)⟩

theorem idxOf_prefix {c c' : List (List Nat)} {Q : List Nat} (hQ : Q ∈ c) (h : c <+: c') :
    c'.idxOf Q = c.idxOf Q := by
  obtain ⟨l, rfl⟩ := h
  rw [List.idxOf_append, if_pos hQ]

theorem macros_idx_prefix {c c' : List (List Nat)} {W : List (List Nat)} {ch : List Nat} {n : Nat}
    (hm : ∀ i, i < n → macroAt W ch i ∈ c) (h : c <+: c') :
    (macros W ch n).map (fun Q => c'.idxOf Q) = (macros W ch n).map (fun Q => c.idxOf Q) := by
  apply List.map_congr_left
  intro Q hQ
  simp only [macros, List.mem_map, List.mem_range] at hQ
  obtain ⟨i, hi, rfl⟩ := hQ
  exact idxOf_prefix (hm i hi) h

theorem RuleOK.mono {A : TA} {Sg : List (Nat × Nat)} {c c' : List (List Nat)} {r : Rule}
    (h : RuleOK A Sg c r) (hp : c <+: c') : RuleOK A Sg c' r := by
  obtain ⟨P, f, n, ch, hP, hfa, hch, hm, rfl⟩ := h
  refine ⟨P, f, n, ch, List.IsPrefix.mem hP hp, hfa, hch,
    fun i hi => List.IsPrefix.mem (hm i hi) hp, ?_⟩
  rw [macros_idx_prefix hm hp, idxOf_prefix hP hp]

theorem Done.mono {A : TA} {st st' : St} {P : List Nat} {f n : Nat} {c : List Nat} (hP : P ∈ st.cache)
    (h : Done A st P f n c) (hle : Le st st') : Done A st' P f n c := by
  refine ⟨fun i hi => List.IsPrefix.mem (h.1 i hi) hle.1, ?_⟩
  rw [macros_idx_prefix h.1 hle.1, idxOf_prefix hP hle.1]
  exact hle.2 _ h.2

theorem getElem?_prefix {c c' : List (List Nat)} {k : Nat} {P : List Nat} (h : c[k]? = some P) (hp : c <+: c') :
    c'[k]? = some P := by
  obtain ⟨l, rfl⟩ := hp
  rw [List.getElem?_append_left (lt_of_getElem? h), h]

theorem addMacro_fst (cache : List (List Nat)) (P : List Nat) : (addMacro cache P).1 = insM P cache := by
  unfold addMacro insM
  split <;> rfl

theorem addMacro_of_mem {cache : List (List Nat)} {P : List Nat} (h : P ∈ cache) :
    addMacro cache P = (cache, cache.idxOf P) := by
  rw [addMacro, if_pos (List.contains_iff_mem.mpr h)]

theorem addMacro_snd (cache : List (List Nat)) (P : List Nat) :
    (addMacro cache P).2 = (addMacro cache P).1.idxOf P := by
  unfold addMacro
  split
  · rfl
  · next h =>
    have hP : P ∉ cache := fun hm => h (List.contains_iff_mem.mpr hm)
    show cache.length = (cache ++ [P]).idxOf P
    rw [List.idxOf_append, if_neg hP, List.idxOf_cons_self, Nat.zero_add]

theorem mem_addMacro {cache : List (List Nat)} {P Q : List Nat} : Q ∈ (addMacro cache P).1 ↔ Q ∈ cache ∨ Q = P := by
  rw [addMacro_fst, mem_insM]

theorem addMacro_prefix (cache : List (List Nat)) (P : List Nat) : cache <+: (addMacro cache P).1 := by
  unfold addMacro
  split
  · exact List.prefix_rfl
  · exact List.prefix_append _ _

theorem addMacro_nodup {cache : List (List Nat)} (P : List Nat) (hn : cache.Nodup) : (addMacro cache P).1.Nodup := by
  rw [addMacro_fst]
  exact insM_nodup hn

theorem addMacros_spec : ∀ (Ps : List (List Nat)) (cache : List (List Nat)), cache.Nodup →
    cache <+: (addMacros cache Ps).1 ∧ (addMacros cache Ps).1.Nodup ∧ (∀ P, P ∈ Ps → P ∈ (addMacros cache Ps).1) ∧
      (addMacros cache Ps).2 = Ps.map (fun Q => (addMacros cache Ps).1.idxOf Q)
  | [], cache, hn => ⟨List.prefix_rfl, hn, fun _ hP => (nomatch hP), rfl⟩
  | P :: Ps, cache, hn => by
    have h3 : P ∈ (addMacro cache P).1 := mem_addMacro.mpr (Or.inr rfl)
    obtain ⟨g1, g2, g3, g4⟩ := addMacros_spec Ps (addMacro cache P).1 (addMacro_nodup P hn)
    simp only [addMacros]
    refine ⟨(addMacro_prefix cache P).trans g1, g2, ?_, ?_⟩
    · intro Q hQ
      rcases List.mem_cons.mp hQ with rfl | hQ
      · exact List.IsPrefix.mem h3 g1
      · exact g3 Q hQ
    · rw [List.map_cons, ← g4, addMacro_snd, idxOf_prefix h3 g1]

theorem addMacros_mem : ∀ {Ps cache : List (List Nat)} {Q : List Nat}, Q ∈ (addMacros cache Ps).1 →
    Q ∈ cache ∨ Q ∈ Ps
  | [], _, _, h => Or.inl h
  | P :: Ps, cache, Q, h => by
    simp only [addMacros] at h
    rcases addMacros_mem (Ps := Ps) h with h | h
    · rcases mem_addMacro.mp h with h | h
      · exact Or.inl h
      · exact Or.inr (h ▸ List.mem_cons_self)
    · exact Or.inr (List.mem_cons_of_mem _ h)

theorem addMacros_replicate_of_mem {cache : List (List Nat)} {P : List Nat} (h : P ∈ cache) :
    ∀ n, addMacros cache (List.replicate n P) = (cache, List.replicate n (cache.idxOf P))
  | 0 => rfl
  | n+1 => by
    simp only [List.replicate_succ, addMacros, addMacro_of_mem h, addMacros_replicate_of_mem h n]

theorem addMacros_replicate (cache : List (List Nat)) (P : List Nat) {n : Nat} (hn : n ≠ 0) :
    addMacros cache (List.replicate n P) = ((addMacro cache P).1, List.replicate n (addMacro cache P).2) := by
  obtain ⟨n, rfl⟩ := Nat.exists_eq_succ_of_ne_zero hn
  simp only [List.replicate_succ, addMacros, addMacros_replicate_of_mem (mem_addMacro.mpr (Or.inr rfl)) n]
  rw [← addMacro_snd]

theorem mem_insRule {r r' : Rule} {rs : List Rule} : r' ∈ insRule r rs ↔ r' ∈ rs ∨ r' = r := mem_insNew

theorem insRule_nodup {r : Rule} {rs : List Rule} (h : rs.Nodup) : (insRule r rs).Nodup := nodup_insNew h

/-- the invariant while the macro-state `P` with number `k` is being processed -/
def GoodAt (A : TA) (Sg : List (Nat × Nat)) (k : Nat) (P : List Nat) (st : St) : Prop :=
  Good A Sg st ∧ st.cache[k]? = some P

theorem mem_macros {W : List (List Nat)} {c : List Nat} {n : Nat} {Q : List Nat} :
    Q ∈ macros W c n ↔ ∃ i, i < n ∧ macroAt W c i = Q := by
  rw [macros, List.mem_map]
  exact exists_congr fun i => and_congr_left fun _ => List.mem_range

theorem procChoice_eq (f n : Nat) (W : List (List Nat)) (k : Nat) (st : St) (c : List Nat) :
    procChoice f n W k st c =
      ⟨(addMacros st.cache (macros W c n)).1, insRule ⟨f, (addMacros st.cache (macros W c n)).2, k⟩ st.rules⟩ := rfl

theorem procChoice_spec {A : TA} {Sg : List (Nat × Nat)} {k : Nat} {P : List Nat} {st : St} {f n : Nat}
    {c : List Nat} (hg : GoodAt A Sg k P st) (hfa : (f, n) ∈ Sg) (hc : c ∈ choices (tdW A P f n).length n) :
    GoodAt A Sg k P (procChoice f n (tdW A P f n) k st c) ∧ Le st (procChoice f n (tdW A P f n) k st c) ∧
      Done A (procChoice f n (tdW A P f n) k st c) P f n c := by
  obtain ⟨hpre, hnd, g3, hk⟩ := addMacros_spec (macros (tdW A P f n) c n) st.cache hg.1.nodup
  have hmem : ∀ i, i < n → macroAt (tdW A P f n) c i ∈ (addMacros st.cache (macros (tdW A P f n) c n)).1 :=
    fun i hi => g3 _ (mem_macros.mpr ⟨i, hi, rfl⟩)
  have hPk := getElem?_prefix hg.2 hpre
  have hidx := idxOf_of_getElem? hnd hPk
  rw [procChoice_eq, hk]
  refine ⟨⟨⟨hnd, ?_, ?_, insRule_nodup hg.1.nodupR⟩, hPk⟩, ⟨hpre, fun r h => mem_insRule.mpr (Or.inl h)⟩, hmem,
    mem_insRule.mpr (Or.inr (congrArg (Rule.mk f _) hidx))⟩
  · intro r hr
    rcases mem_insRule.mp hr with h | h
    · exact (hg.1.ok r h).mono hpre
    · exact ⟨P, f, n, c, List.mem_of_getElem? hPk, hfa, hc, hmem, h.trans (congrArg (Rule.mk f _) hidx.symm)⟩
  · intro Q hQ
    rcases addMacros_mem hQ with hQ | hQ
    · exact hg.1.reach Q hQ
    · obtain ⟨i, hi, rfl⟩ := mem_macros.mp hQ
      exact MReach.step (hg.1.reach P (List.mem_of_getElem? hg.2)) hfa hc hi

theorem foldl_spec {α : Type} (step : St → α → St) (I : St → Prop) (D : α → St → Prop)
    (hmono : ∀ x s s', I s → Le s s' → D x s → D x s') :
    ∀ (l : List α) (s : St), I s →
      (∀ s x, x ∈ l → I s → I (step s x) ∧ Le s (step s x) ∧ D x (step s x)) →
      I (l.foldl step s) ∧ Le s (l.foldl step s) ∧ ∀ x, x ∈ l → D x (l.foldl step s)
  | [], s, hI, _ => ⟨hI, Le.refl s, fun _ h => nomatch h⟩
  | x :: l, s, hI, hstep => by
    obtain ⟨h1, h2, h3⟩ := hstep s x List.mem_cons_self hI
    obtain ⟨g1, g2, g3⟩ := foldl_spec step I D hmono l (step s x) h1
      (fun s y hy => hstep s y (List.mem_cons_of_mem _ hy))
    rw [List.foldl_cons]
    refine ⟨g1, h2.trans g2, ?_⟩
    intro y hy
    rcases List.mem_cons.mp hy with rfl | hy
    · exact hmono _ _ _ h1 g2 h3
    · exact g3 y hy

theorem macros_nil (n : Nat) : macros [] [] n = List.replicate n [] := by
  show (List.range n).map (fun _ => ([] : List Nat)) = _
  rw [List.map_const', List.length_range]

theorem choices_succ_zero (k : Nat) : choices (k + 1) 0 = [] :=
  List.flatMap_eq_nil_iff.mpr fun _ _ => rfl

/-- The special cases of the code (`W` empty, rank `0`) are instances of the general one: for an empty `W` the only
choice function is the empty one, and its rule is the one the code emits; for rank `0` and a non-empty `W` there is no
choice function. -/
theorem procSym_eq (A : TA) (P : List Nat) (k : Nat) (st : St) (fa : Nat × Nat) :
    procSym A P k st fa =
      (choices (tdW A P fa.1 fa.2).length fa.2).foldl (procChoice fa.1 fa.2 (tdW A P fa.1 fa.2) k) st := by
  obtain ⟨f, n⟩ := fa
  unfold procSym
  simp only
  generalize tdW A P f n = W
  cases W with
  | nil =>
    cases n with
    | zero => rfl
    | succ n =>
      show _ = procChoice f (n + 1) [] k st []
      rw [procChoice_eq, macros_nil, addMacros_replicate _ _ (Nat.succ_ne_zero n)]
      rfl
  | cons w W =>
    cases n with
    | zero => rw [List.length_cons, choices_succ_zero]; rfl
    | succ n => rfl

theorem procSym_spec {A : TA} {Sg : List (Nat × Nat)} {k : Nat} {P : List Nat} {st : St} {fa : Nat × Nat}
    (hg : GoodAt A Sg k P st) (hfa : fa ∈ Sg) :
    GoodAt A Sg k P (procSym A P k st fa) ∧ Le st (procSym A P k st fa) ∧
      ∀ c, c ∈ choices (tdW A P fa.1 fa.2).length fa.2 → Done A (procSym A P k st fa) P fa.1 fa.2 c := by
  rw [procSym_eq]
  exact foldl_spec (procChoice fa.1 fa.2 (tdW A P fa.1 fa.2) k) (GoodAt A Sg k P) (fun c s => Done A s P fa.1 fa.2 c)
    (fun c s s' hI hle hd => hd.mono (List.mem_of_getElem? hI.2) hle) _ st hg
    (fun s c hc hI => procChoice_spec hI hfa hc)

theorem symFold_spec {A : TA} {Sg : List (Nat × Nat)} {k : Nat} {P : List Nat} {st : St}
    (hg : GoodAt A Sg k P st) :
    GoodAt A Sg k P (Sg.foldl (procSym A P k) st) ∧ Le st (Sg.foldl (procSym A P k) st) ∧
      ∀ fa, fa ∈ Sg → ∀ c, c ∈ choices (tdW A P fa.1 fa.2).length fa.2 →
        Done A (Sg.foldl (procSym A P k) st) P fa.1 fa.2 c :=
  foldl_spec (procSym A P k) (GoodAt A Sg k P)
    (fun fa s => ∀ c, c ∈ choices (tdW A P fa.1 fa.2).length fa.2 → Done A s P fa.1 fa.2 c)
    (fun _ _ _ hI hle hd c hc => (hd c hc).mono (List.mem_of_getElem? hI.2) hle) Sg st hg
    (fun _ _ hfa hI => procSym_spec hI hfa)

/-- once every choice function of every macro-state of the cache is done, the cache is closed and the rules are the
prescribed ones -/
theorem cert_of_done {A : TA} {Sg : List (Nat × Nat)} {st : St} (hg : Good A Sg st)
    (hall : ∀ P f n c, P ∈ st.cache → (f, n) ∈ Sg → c ∈ choices (tdW A P f n).length n → Done A st P f n c) :
    tdClosedB A Sg st.cache = true ∧ ∀ r, r ∈ st.rules ↔ r ∈ tdExpected A Sg st.cache := by
  refine ⟨tdClosedB_iff.mpr fun P f n c hP hfa hc => (hall P f n c hP hfa hc).1, fun r => ⟨fun hr => ?_, fun hr => ?_⟩⟩
  · obtain ⟨P, f, n, c, hP, hfa, hc, _, rfl⟩ := hg.ok r hr
    exact mem_tdExpected.mpr ⟨P, f, n, c, hP, hfa, hc, rfl⟩
  · obtain ⟨P, f, n, c, hP, hfa, hc, rfl⟩ := mem_tdExpected.mp hr
    exact (hall P f n c hP hfa hc).2

end Compl
end Vata
