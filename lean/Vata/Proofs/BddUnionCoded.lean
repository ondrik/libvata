import Vata.BddUnionCoded
import Vata.Proofs.UnionModel
import Vata.Proofs.BddAbsTD
/-!
C08: the threaded translators of the BDD `ReindexStates`.

* the weak translator only ever EXTENDS its map (`Um.weakTrAll_ext`, no hypothesis on the counter), so a translation made at any
  time agrees with the FINAL map.  `Threads` says this of a piece of state-threading code: its value is the pure function of
  the final map, the translator ends in the state reached by feeding it the visited states in order (`wAll`); such pieces
  compose (`Threads.bind`, `Threads.seq`), which gives `trList_spec`, `trTuples_spec`, `rewrite_spec` ("`Apply1` with the
  final map"), the table loops `reindexLoopTD_spec`, `reindexLoopBU_spec` and `ReindexStates` as a whole;
* a renumbering pass over a table: `pass_spec`, `two_passes`.
-/
namespace Vata
namespace BddUnionCoded
open M BddAbs BddAbsTD Um

/-- the translator state after the states `qs` were presented in order -/
def wAll (qs : List Nat) (s : TrSt) : TrSt := weakTrAll qs s.1 s.2

theorem wAll_nil (s : TrSt) : wAll [] s = s := rfl

/-- A `Union` on distinct tables seen from outside: the two `ReindexStates` presented the states `QA`, `QB` to weak
translators that started from the maps `oL`, `oR` on ONE counter from `c0` and left the maps `mL`, `mR`; the result `R` denotes
`unionWith` of the operands `A`, `B` as soon as the final maps are injective on, and apart on, the presented states.  Both
encodings are instances (`tdUnionRun`, `buUnionRun`); what `Union` achieves follows from these five facts alone. -/
structure UnionRun (A B R : TA) (QA QB : List Nat) (oL oR mL mR : SMap) (c0 : Nat) : Prop where
  mapL : mL = (wAll QA (oL, c0)).1
  mapR : mR = (wAll QB (oR, (wAll QA (oL, c0)).2)).1
  statesL : ∀ {q}, q ∈ A.states → q ∈ QA
  statesR : ∀ {q}, q ∈ B.states → q ∈ QB
  setEq : (∀ q q', q ∈ QA → q' ∈ QA → applyMap mL q = applyMap mL q' → q = q') →
    (∀ q q', q ∈ QB → q' ∈ QB → applyMap mR q = applyMap mR q' → q = q') →
    (∀ q q', q ∈ QA → q' ∈ QB → applyMap mL q ≠ applyMap mR q') → SetEqTA R (unionWith (applyMap mL) (applyMap mR) A B)

namespace UnionRun
variable {A B R : TA} {QA QB : List Nat} {oL oR mL mR : SMap} {c0 : Nat} (h : UnionRun A B R QA QB oL oR mL mR c0)
include h

/-- exactness from the maps the call leaves behind, whatever the counter start and the given maps -/
theorem exact (hL : Inj mL) (hR : Inj mR) (hD : Disj mL mR) :
    SetEqTA R (unionWith (applyMap mL) (applyMap mR) A B) ∧ (∀ t, accepts R t = (accepts A t || accepts B t)) ∧
    (∀ q, q ∈ QA → ∃ n, mL.lookup q = some n) ∧ (∀ q, q ∈ QB → ∃ n, mR.lookup q = some n) := by
  have tA : ∀ q, q ∈ QA → ∃ n, mL.lookup q = some n := by rw [h.mapL]; exact weakTrAll_total QA oL c0
  have tB : ∀ q, q ∈ QB → ∃ n, mR.lookup q = some n := by rw [h.mapR]; exact weakTrAll_total QB oR _
  have iA := injOn_of hL tA
  have iB := injOn_of hR tB
  have dAB := disjOn_of hD tA tB
  have hse := h.setEq iA iB dAB
  refine ⟨hse, fun t => ?_, tA, tB⟩
  rw [hse.lang t]
  exact unionWith_lang _ _ A B (fun q q' hq hq' => iA q q' (h.statesL hq) (h.statesL hq'))
    (fun q q' hq hq' => iB q q' (h.statesR hq) (h.statesR hq')) (fun q q' hq hq' => dAB q q' (h.statesL hq) (h.statesR hq')) t

/-- the final maps are injective with disjoint images and extend the given maps, when the given maps are injective with
disjoint images and the counter starts above their numbers (`Um.passes`) -/
theorem maps_ok (hbL : Below oL c0) (hbR : Below oR c0) (hL : Inj oL) (hR : Inj oR) (hD : Disj oL oR) :
    Inj mL ∧ Inj mR ∧ Disj mL mR ∧ Ext oL mL ∧ Ext oR mR := by
  rw [h.mapL, h.mapR]
  have ⟨h1, h2, h3, h4, h5, _⟩ := passes (oA := QA) (oB := QB) hbL hbR hL hR hD
  exact ⟨h1, h2, h3, h4, h5⟩

end UnionRun

/-- a call for a state that is known changes nothing (the leaf cache of `Apply1Functor` cannot be observed) -/
theorem tr1_known (s : TrSt) (q n : Nat) (h : s.1.lookup q = some n) : tr1 s q = (n, s) := by
  simp only [tr1, weakTr, h, applyMap, Option.getD_some]

/-! `Threads r s qs pure`: a piece of code that started with the translator in the state `s` has returned the pair `r`; the
translator is in the state reached by presenting the states `qs` in order, and the value is `pure M` for every map `M`
that extends the map reached (the weak translator only ever extends its map: `Um.weakTrAll_ext`). -/

structure Threads {β : Type} (r : β × TrSt) (s : TrSt) (qs : List Nat) (pure : SMap → β) : Prop where
  state : r.2 = wAll qs s
  val : ∀ M, Ext (wAll qs s).1 M → r.1 = pure M

theorem Threads.ret {β : Type} (b : β) (s : TrSt) : Threads (b, s) s [] (fun _ => b) := ⟨rfl, fun _ _ => rfl⟩

theorem Threads.map {β γ : Type} {r : β × TrSt} {s : TrSt} {qs : List Nat} {p : SMap → β} (h : Threads r s qs p)
    (f : β → γ) : Threads (f r.1, r.2) s qs (fun M => f (p M)) :=
  ⟨h.state, fun M hM => congrArg f (h.val M hM)⟩

theorem Threads.bind {β γ : Type} {r₁ : β × TrSt} {r₂ : γ × TrSt} {s : TrSt} {qs₁ qs₂ : List Nat} {p₁ : SMap → β}
    {p₂ : β → SMap → γ} (h₁ : Threads r₁ s qs₁ p₁) (h₂ : Threads r₂ r₁.2 qs₂ (p₂ r₁.1)) :
    Threads r₂ s (qs₁ ++ qs₂) (fun M => p₂ (p₁ M) M) := by
  have e : wAll (qs₁ ++ qs₂) s = wAll qs₂ r₁.2 := by rw [h₁.state]; exact weakTrAll_append qs₁ qs₂ s.1 s.2
  refine ⟨h₂.state.trans e.symm, fun M hM => ?_⟩
  rw [e] at hM
  rw [h₂.val M hM, h₁.val M (Ext.trans (h₁.state ▸ fun p n h => weakTrAll_ext qs₂ r₁.2.1 r₁.2.2 h) hM)]

theorem Threads.seq {β γ δ : Type} {r₁ : β × TrSt} {r₂ : γ × TrSt} {s : TrSt} {qs₁ qs₂ : List Nat} {p₁ : SMap → β}
    {p₂ : SMap → γ} (h₁ : Threads r₁ s qs₁ p₁) (h₂ : Threads r₂ r₁.2 qs₂ p₂) (f : β → γ → δ) :
    Threads (f r₁.1 r₂.1, r₂.2) s (qs₁ ++ qs₂) (fun M => f (p₁ M) (p₂ M)) :=
  h₁.bind (p₂ := fun b M => f b (p₂ M)) (h₂.map (f r₁.1))

theorem tr1_spec (s : TrSt) (q : Nat) : Threads (tr1 s q) s [q] (fun M => applyMap M q) := by
  refine ⟨rfl, fun M hM => ?_⟩
  obtain ⟨n, hn⟩ := weakTr_known s.1 s.2 q
  show applyMap (weakTr s.1 s.2 q).1 q = _
  rw [applyMap_of_lookup hn, applyMap_of_lookup (hM q n hn)]

theorem trList_spec : ∀ (qs : List Nat) (s : TrSt), Threads (trList s qs) s qs (fun M => qs.map (applyMap M))
  | [], s => Threads.ret [] s
  | q :: qs, s => (tr1_spec s q).seq (trList_spec qs _) List.cons

theorem trTuples_spec : ∀ (l : List (List Nat)) (s : TrSt),
    Threads (trTuples s l) s (l.flatMap id) (fun M => l.map (fun ks => ks.map (applyMap M)))
  | [], s => Threads.ret [] s
  | ks :: l, s => List.flatMap_cons ▸ (trList_spec ks s).seq (trTuples_spec l _) List.cons

def rwTD (M : SMap) (l : List (List Nat)) : List (List Nat) := normT (l.map (fun ks => ks.map (applyMap M)))
def rwBU (M : SMap) (l : List Nat) : List Nat := InclUp.normS (l.map (applyMap M))

theorem leafOpTD_spec (s : TrSt) (l : List (List Nat)) : Threads (leafOpTD s l) s (l.flatMap id) (fun M => rwTD M l) :=
  (trTuples_spec l s).map normT

theorem leafOpBU_spec (s : TrSt) (l : List Nat) : Threads (leafOpBU s l) s l (fun M => rwBU M l) :=
  (trList_spec l s).map InclUp.normS

/-- the `Apply1` traversal with a translator-threading leaf operation is `apply1` with the final map, and the translator
ends in the state reached by presenting the states of the visited leaves in order -/
theorem rewrite_spec {α β : Type} [DecidableEq β] (leafOp : TrSt → α → β × TrSt) (visit : α → List Nat)
    (pure : SMap → α → β) (H : ∀ s v, Threads (leafOp s v) s (visit v) (fun M => pure M v)) :
    ∀ (m : Node α) (s : TrSt),
      Threads (rewrite leafOp s m) s ((voidApply1 m).flatMap visit) (fun M => apply1 (pure M) m)
  | .leaf v, s => by
    rw [voidApply1, List.flatMap_singleton]
    exact (H s v).map Node.leaf
  | .node x lo hi, s => by
    rw [voidApply1, List.flatMap_append]
    exact (rewrite_spec leafOp visit pure H lo s).seq (rewrite_spec leafOp visit pure H hi _) (mk x)

theorem rewriteTD_spec (m : MTD) (s : TrSt) :
    Threads (rewrite leafOpTD s m) s (leafStatesTD m) (fun M => apply1 (rwTD M) m) :=
  rewrite_spec leafOpTD (fun l => l.flatMap id) rwTD leafOpTD_spec m s

theorem rewriteBU_spec (m : MT) (s : TrSt) :
    Threads (rewrite leafOpBU s m) s (leafParents m) (fun M => apply1 (rwBU M) m) :=
  rewrite_spec leafOpBU id rwBU leafOpBU_spec m s

section pass
variable {κ ξ : Type} [DecidableEq ξ]

def Img (fK : κ → κ) (fX : ξ → ξ) (G : κ → Node (List ξ)) (ρ : Nat → Bool) (k' : κ) (x' : ξ) : Prop :=
  ∃ k x, x ∈ eval (G k) ρ ∧ k' = fK k ∧ x' = fX x

/-- the table `G'` after a pass over `G` into `G0`, with a key map that is injective on the keys of `G`: the translated
entries of `G`, and the entries of `G0` at the keys that were not overwritten -/
theorem pass_spec {fK : κ → κ} {fX : ξ → ξ} {rw : List ξ → List ξ} {G G' G0 : κ → Node (List ξ)} {keys : List κ}
    (hin : ∀ k, k ∈ keys → G' (fK k) = apply1 rw (G k)) (hout : ∀ k', k' ∉ keys.map fK → G' k' = G0 k')
    (hrw : ∀ l x', x' ∈ rw l ↔ ∃ x, x ∈ l ∧ x' = fX x) (hkey : ∀ ρ k x, x ∈ eval (G k) ρ → k ∈ keys)
    (hinj : ∀ k k', k ∈ keys → k' ∈ keys → fK k = fK k' → k = k') (ρ : Nat → Bool) (k' : κ) (x' : ξ) :
    x' ∈ eval (G' k') ρ ↔ Img fK fX G ρ k' x' ∨ (k' ∉ keys.map fK ∧ x' ∈ eval (G0 k') ρ) := by
  by_cases hk : k' ∈ keys.map fK
  · obtain ⟨k, hk', rfl⟩ := List.mem_map.mp hk
    rw [hin k hk', apply1_eval, hrw]
    constructor
    · rintro ⟨x, h, e⟩
      exact Or.inl ⟨k, x, h, rfl, e⟩
    · rintro (⟨k₀, x, h, e1, e2⟩ | ⟨hn, _⟩)
      · cases hinj k k₀ hk' (hkey ρ k₀ x h) e1
        exact ⟨x, h, e2⟩
      · exact absurd hk hn
  · rw [hout k' hk]
    constructor
    · exact fun h => Or.inr ⟨hk, h⟩
    · rintro (⟨k₀, x, h, e1, _⟩ | ⟨_, h⟩)
      · exact absurd (List.mem_map.mpr ⟨k₀, hkey ρ k₀ x h, e1.symm⟩) hk
      · exact h

/-- a pass into a table that a first pass has filled, starting from the empty table: the translated entries of both, when
an entry of the first is never overwritten -/
theorem two_passes {P Q I₁ I₂ N₁ N₂ E : Prop} (h2 : P ↔ I₂ ∨ N₂ ∧ Q) (h1 : Q ↔ I₁ ∨ N₁ ∧ E) (hE : ¬E) (hd : I₁ → N₂) :
    P ↔ I₁ ∨ I₂ := by
  rw [h2, h1]
  constructor
  · rintro (h | ⟨_, h | ⟨_, h⟩⟩)
    · exact Or.inr h
    · exact Or.inl h
    · exact absurd h hE
  · rintro (h | h)
    · exact Or.inr ⟨hd h, Or.inl h⟩
    · exact Or.inl h

end pass

def pureLoopTD (M : SMap) (T : TableTD) (L : List (Nat × MTD)) (R : TableTD) : TableTD :=
  L.foldl (fun R e => setTD R (applyMap M e.1) (apply1 (rwTD M) (getTD T e.1))) R

def pureLoopBU (M : SMap) (T : Table) (L : List (List Nat × MT)) (R : Table) : Table :=
  L.foldl (fun R e => R.set (e.1.map (applyMap M)) (apply1 (rwBU M) (T.get e.1))) R

theorem reindexLoopTD_spec (T : TableTD) : ∀ (L : List (Nat × MTD)) (R : TableTD) (s : TrSt),
    Threads (reindexLoopTD T L R s) s (orderLoopTD T L) (fun M => pureLoopTD M T L R)
  | [], R, s => Threads.ret R s
  | e :: L, R, s => by
    rw [orderLoopTD, List.flatMap_cons]
    exact ((tr1_spec s e.1).seq (rewriteTD_spec (getTD T e.1) _) Prod.mk).bind
      (p₂ := fun km M => pureLoopTD M T L (setTD R km.1 km.2)) (reindexLoopTD_spec T L _ _)

theorem reindexLoopBU_spec (T : Table) : ∀ (L : List (List Nat × MT)) (R : Table) (s : TrSt),
    Threads (reindexLoopBU T L R s) s (orderLoopBU T L) (fun M => pureLoopBU M T L R)
  | [], R, s => Threads.ret R s
  | e :: L, R, s => by
    rw [orderLoopBU, List.flatMap_cons]
    exact ((trList_spec e.1 s).seq (rewriteBU_spec (T.get e.1) _) Prod.mk).bind
      (p₂ := fun km M => pureLoopBU M T L (R.set km.1 km.2)) (reindexLoopBU_spec T L _ _)

theorem reindexTD_spec (A dst : AutTD) (s : TrSt) :
    Threads (reindexTD A dst s) s (orderTD A)
      (fun M => ⟨dst.tid, pureLoopTD M A.T A.T dst.T, dst.fin ++ A.fin.map (applyMap M)⟩) :=
  (reindexLoopTD_spec A.T A.T dst.T s).seq (trList_spec A.fin _) (fun T f => AutTD.mk dst.tid T (dst.fin ++ f))

theorem reindexBU_spec (A dst : AutBU) (s : TrSt) :
    (reindexBU A dst s).2.2 = wAll (orderBU A) s ∧
    ∀ M, Ext (wAll (orderBU A) s).1 M →
      (reindexBU A dst s).1 = ⟨dst.tid, (pureLoopBU M A.T (pairs A.T) dst.T).set [] (apply1 (rwBU M) (A.T.get [])),
        dst.fin ++ A.fin.map (applyMap M)⟩ ∧
      (reindexBU A dst s).2.1 = apply1 (rwBU M) (A.T.get []) :=
  have h := ((reindexLoopBU_spec A.T (pairs A.T) dst.T s).seq (trList_spec A.fin _) Prod.mk).seq
    (rewriteBU_spec (A.T.get []) _) (fun Tf n => (AutBU.mk dst.tid (Tf.1.set [] n) (dst.fin ++ Tf.2), n))
  ⟨h.state, fun M hM => Prod.mk.inj (h.val M hM)⟩

end BddUnionCoded
end Vata
