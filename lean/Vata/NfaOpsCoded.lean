import Vata.NfaStart
/-!
# Word-automata operations AS CODED (property C10)

`Vata/NfaOps.lean` / `Vata/NfaStart.lean` model `Intersection`, `Reverse`, `RemoveUnreachableStates`,
`RemoveUselessStates`, `GetCandidateTree` of `ExplicitFiniteAutCore` at the level of relations (round-based saturation,
numbering of product states in order of discovery of a breadth-first search, list order in place of hash order).
This file models the same functions **following the control flow of the C++**: the work STACK of `Intersection`
(`std::vector` used with `push_back` / `back` / `pop_back`), the `ProductTranslMap` whose fresh number is
`pTranslMap->size()`, the stack of `RemoveUnreachableStates` that is filled from the iteration of an `unordered_set`,
the FIFO list of `GetCandidateTree` with its two early exits, `Reverse` as three nested loops of `AddTransition`, and
`RemoveUselessStates` as the composition written in the source.

## iteration orders

The C++ iterates `std::unordered_set<State>`, `std::unordered_map<Symbol, StateSet>` and
`std::unordered_map<State, Cluster>`.  The order is a parameter `o : NfaOrd`: three functions that reorder the list of
elements of the container (they may depend on the content in any way).  What is iterated is `iterSet f l = (f l).eraseDups`
(a container holds every element once).  The theorems hold for every `o` with `o.Ok` (`f l` has the same elements as `l`).

## representation

An automaton is `Vata.NFAS` (`start final : List Nat`, `trans : List (src × sym × tgt)`, `startSyms`).  The transition
relation of the C++ is `state ↦ (symbol ↦ set of states)`; `nfaClusterOf o N q` is the cluster of `q` in that shape (symbols in
iteration order, each with its set in iteration order).  A cluster without any target cannot be represented and does not
occur (`uniqueCluster` / `uniqueRStateSet` are followed by an insertion).  `genericLookup` returning `nullptr` is "the cluster
is empty".

All definitions are total, executable, core Lean only.  Fuel: every loop takes a fuel argument and returns `none` when it
runs out; `Vata/Proofs/NfaOpsCoded*.lean` prove for each loop an explicit fuel that suffices.
-/
namespace Vata.NfaC
open Vata.W

/-- iteration orders of the three kinds of hash containers -/
structure NfaOrd where
  /-- `StateSet` / `std::unordered_set<StateType>` -/
  sts : List Nat → List Nat
  /-- a cluster `symbol ↦ StateSet` -/
  syms : List Nat → List Nat
  /-- `transitions_ : state ↦ cluster` -/
  srcs : List Nat → List Nat

/-- every order enumerates exactly the elements of the container -/
def NfaOrd.Ok (o : NfaOrd) : Prop :=
  (∀ l x, x ∈ o.sts l ↔ x ∈ l) ∧ (∀ l x, x ∈ o.syms l ↔ x ∈ l) ∧ (∀ l x, x ∈ o.srcs l ↔ x ∈ l)

/-- list order -/
def NfaOrd.ident : NfaOrd := ⟨id, id, id⟩
/-- reversed list order -/
def NfaOrd.rev : NfaOrd := ⟨List.reverse, List.reverse, List.reverse⟩

/-- the iteration of a container holding the elements `l`, in the order `f` -/
def iterSet (f : List Nat → List Nat) (l : List Nat) : List Nat := (f l).eraseDups

/-- `genericLookup (*transitions_, q)`: the cluster of `q` as `symbol ↦ set` ( `[]` = `nullptr`) -/
def nfaClusterOf (o : NfaOrd) (N : NFA) (q : Nat) : List (Nat × List Nat) :=
  let out := N.trans.filter (fun e => e.1 == q)
  (iterSet o.syms (out.map (·.2.1))).map
    (fun a => (a, iterSet o.sts ((out.filter (fun e => e.2.1 == a)).map (·.2.2))))

/-- insertion of a transition into the result (`stateSet.insert`, `AddTransition`): a set -/
def insT (T : List (Nat × Nat × Nat)) (e : Nat × Nat × Nat) : List (Nat × Nat × Nat) :=
  if T.contains e then T else T ++ [e]

/-! ## `Reverse` (`src/explicit_finite_reverse.cc`) -/

/-- ```
res.finalStates_ = startStates_; res.startStates_ = finalStates_;
res.startStateToSymbols_ = startStateToSymbols_;
for (auto state : finalStates_) res.startStateToSymbols_.insert(std::make_pair(state, SymbolSet()));   // fix dcf3cbe6 (D5)
for (auto stateToCluster : *transitions_) for (auto symbolToSet : *stateToCluster.second)
  for (auto stateInSet : symbolToSet.second) res.AddTransition(stateInSet, symbolToSet.first, stateToCluster.first);
```
`fixD5 = false` is the code before the repair (the `insert` loop missing). -/
def nfasReverseCoded (o : NfaOrd) (fixD5 : Bool) (A : NFAS) : NFAS :=
  let syms := if fixD5 then (iterSet o.sts A.final).foldl (fun m s => smInsert m s []) A.startSyms else A.startSyms
  let trans := (iterSet o.srcs (A.trans.map (·.1))).foldl (fun T p =>
    (nfaClusterOf o A.toNFA p).foldl (fun T c => c.2.foldl (fun T q => insT T (q, c.1, p)) T) T) []
  ⟨⟨A.final, A.start, trans⟩, syms⟩

/-! ## `RemoveUnreachableStates` (`src/explicit_finite_unreach.cc`) -/

/-- the targets of the cluster of `q` in the order of the two nested loops
`for (auto &symbolsToStateSet : *cluster) for (auto &state : symbolsToStateSet.second)` -/
def nfaClusterTargets (o : NfaOrd) (N : NFA) (q : Nat) : List Nat := (nfaClusterOf o N q).flatMap (·.2)

/-- `if (reachableStates.insert(state).second) newStates.push_back(state);` – the stack top is the list head -/
def unreachIns (s : List Nat × List Nat) (q : Nat) : List Nat × List Nat :=
  if s.1.contains q then s else (s.1 ++ [q], q :: s.2)

/-- ```
while (!newStates.empty()) { auto actState = newStates.back(); newStates.pop_back();
  auto cluster = genericLookup(*transitions_, actState); if (!cluster) continue;
  for (symbolsToStateSet : *cluster) for (state : symbolsToStateSet.second)
    if (reachableStates.insert(state).second) newStates.push_back(state); }
```
state: (`reachableStates` in insertion order, `newStates` with the back first); `none` = out of fuel -/
def unreachLoop (o : NfaOrd) (N : NFA) : Nat → List Nat × List Nat → Option (List Nat)
  | 0, s => if s.2.isEmpty then some s.1 else none
  | _ + 1, (seen, []) => some seen
  | n + 1, (seen, act :: rest) =>
    if (nfaClusterOf o N act).isEmpty then unreachLoop o N n (seen, rest)          -- `continue`
    else unreachLoop o N n ((nfaClusterTargets o N act).foldl unreachIns (seen, rest))

/-- `std::unordered_set<StateType> reachableStates(GetStartStates());
std::vector<StateType> newStates(reachableStates.begin(), reachableStates.end());` – the vector is popped from the back -/
def unreachInit (o : NfaOrd) (N : NFA) : List Nat × List Nat :=
  (iterSet o.sts N.start, (iterSet o.sts N.start).reverse)

/-- the set `reachableStates` at the end of the loop -/
def nfaReachCoded (o : NfaOrd) (N : NFA) (fuel : Nat) : Option (List Nat) := unreachLoop o N fuel (unreachInit o N)

/-- ```
res.startStates_ = startStates_; res.startStateToSymbols_ = startStateToSymbols_;
for (auto& state : reachableStates) { if (IsStateFinal(state)) res.SetStateFinal(state);
  auto it = transitions_->find(state); if (it == transitions_->end()) continue;
  res.transitions_->insert(std::make_pair(state, it->second)); }
``` -/
def unreachBuild (o : NfaOrd) (A : NFAS) (R : List Nat) : NFAS :=
  (iterSet o.sts R).foldl (fun res q =>
    let res1 := if A.final.contains q then nfasSetFinal res q else res
    ⟨⟨res1.start, res1.final, res1.trans ++ A.trans.filter (fun e => e.1 == q)⟩, res1.startSyms⟩)
    ⟨⟨A.start, [], []⟩, A.startSyms⟩

/-- a fuel that always suffices (`nfaReachCoded_total`): every state is pushed at most once -/
def unreachFuel (o : NfaOrd) (N : NFA) : Nat := (iterSet o.sts N.start).length + N.trans.length

/-- `RemoveUnreachableStates`, with the given fuel -/
def nfasUnreachCodedF (o : NfaOrd) (A : NFAS) (fuel : Nat) : Option NFAS :=
  (nfaReachCoded o A.toNFA fuel).map (unreachBuild o A)

/-- `RemoveUnreachableStates` (the default value is never used: `nfasUnreachCoded_isSome`) -/
def nfasUnreachCoded (o : NfaOrd) (A : NFAS) : NFAS := (nfasUnreachCodedF o A (unreachFuel o A.toNFA)).getD A

/-! ## `RemoveUselessStates` (`src/explicit_finite_useless.cc`) -/

/-- `return this->RemoveUnreachableStates(pTranslMap).Reverse(pTranslMap).RemoveUnreachableStates().Reverse();` -/
def nfasUselessCoded (o : NfaOrd) (fixD5 : Bool) (A : NFAS) : NFAS :=
  nfasReverseCoded o fixD5 (nfasUnreachCoded o (nfasReverseCoded o fixD5 (nfasUnreachCoded o A)))

/-! ## `Intersection` (`src/explicit_finite_isect.cc`) -/

/-- `AutBase::ProductTranslMap` in insertion order, every entry with the number it was given -/
abbrev TranslMap := List ((Nat × Nat) × Nat)

/-- `pTranslMap->find (p)` -/
def tmFind (tm : TranslMap) (p : Nat × Nat) : Option Nat := (tm.find? (fun e => e.1 == p)).map (·.2)

/-- `pTranslMap->insert (std::make_pair (p, pTranslMap->size ()))`: the map, the number of `p`, "was inserted" -/
def tmInsert (tm : TranslMap) (p : Nat × Nat) : TranslMap × Nat × Bool :=
  match tmFind tm p with
  | some k => (tm, k, false)
  | none => (tm ++ [(p, tm.length)], tm.length, true)

/-- the map as a function (0 outside) -/
def tmFun (tm : TranslMap) (p : Nat × Nat) : Nat := (tmFind tm p).getD 0

/-- the state of the construction: `*pTranslMap`, `stack` (back first; the C++ keeps pointers to map entries, here the entry),
`res` -/
structure IsectSt where
  tm : TranslMap
  stack : List ((Nat × Nat) × Nat)
  res : NFAS

/-- the three versions of the start marking: the current code, the code between the two repairs (D15: the flag was set
once per start symbol), the original code (D4: set inside the symbol loop, for a pair ONE of whose components is a
start state) -/
inductive IsectVariant | fixed | d15 | d4
  deriving DecidableEq

/-- fixed: `SymbolSet startSymbols(lhs.GetStartSymbols(lss)); startSymbols.insert(rhs.GetStartSymbols(rss)…);
res.SetExistingStateStart(iss->second, startSymbols);`
d15: `for (sym : lhs.GetStartSymbols(lss)) res.SetStateStart(iss->second, sym); for (sym : rhs.GetStartSymbols(rss)) …` -/
def isectMarkStart (v : IsectVariant) (A B : NFAS) (lss rss n : Nat) (res : NFAS) : NFAS :=
  match v with
  | .fixed => nfasSetExistingStart res n (A.symsOf lss ++ B.symsOf rss)
  | .d15 => (B.symsOf rss).foldl (fun r a => nfasSetStart r n a) ((A.symsOf lss).foldl (fun r a => nfasSetStart r n a) res)
  | .d4 => res

/-- ```
for (auto lss : lhs.startStates_) for (auto rss : rhs.startStates_) {
  auto iss = pTranslMap->insert(std::make_pair(std::make_pair(lss,rss), pTranslMap->size())).first;
  stack.push_back(&*iss);                     // unconditionally
  … start marking … }
``` -/
def isectInit (o : NfaOrd) (v : IsectVariant) (A B : NFAS) : IsectSt :=
  (iterSet o.sts A.start).foldl (fun st lss => (iterSet o.sts B.start).foldl (fun st rss =>
    let ins := tmInsert st.tm (lss, rss)
    ⟨ins.1, ((lss, rss), ins.2.1) :: st.stack, isectMarkStart v A B lss rss ins.2.1 st.res⟩) st) ⟨[], [], nfasEmpty⟩

/-- the symbols of the cluster of `l` that `rcluster->find` finds in the cluster of `r`, each with the pairs
`(lstate, rstate)` in the order of `for (auto lstate : lsymbolToPtrPointer.second) for (auto rstate : rstateSet)` -/
def isectSymList (o : NfaOrd) (A B : NFA) (l r : Nat) : List (Nat × List (Nat × Nat)) :=
  (nfaClusterOf o A l).filterMap (fun c =>
    match (nfaClusterOf o B r).find? (fun d => d.1 == c.1) with
    | none => none                                                            -- `continue`
    | some d => some (c.1, c.2.flatMap (fun x => d.2.map (fun y => (x, y)))))

/-- ```
auto istate = pTranslMap->insert(std::make_pair(std::make_pair(lstate,rstate), pTranslMap->size()));
stateSet.insert(istate.first->second);
if (istate.second) stack.push_back(&*istate.first);
``` -/
def isectIns (n a : Nat) (st : IsectSt) (q : Nat × Nat) : IsectSt :=
  let ins := tmInsert st.tm q
  ⟨ins.1, if ins.2.2 then (q, ins.2.1) :: st.stack else st.stack,
    ⟨⟨st.res.start, st.res.final, insT st.res.trans (n, a, ins.2.1)⟩, st.res.startSyms⟩⟩

/-- the start marking of the ORIGINAL code (before 2c042d21), executed once per common symbol:
```
if (lhs.IsStateStart(actState->first.first))
  for (auto& s : lhs.GetStartSymbols(actState->first.first)) res.SetStateStart(actState->second, s);
if (rhs.IsStateStart(actState->first.second)) for (…) res.SetStateStart(actState->second, s);
``` -/
def isectD4Hook (v : IsectVariant) (A B : NFAS) (l r n : Nat) (st : IsectSt) : IsectSt :=
  match v with
  | .d4 =>
    let r1 := if A.start.contains l then (A.symsOf l).foldl (fun x a => nfasSetStart x n a) st.res else st.res
    let r2 := if B.start.contains r then (B.symsOf r).foldl (fun x a => nfasSetStart x n a) r1 else r1
    ⟨st.tm, st.stack, r2⟩
  | _ => st

/-- one turn of `while (!stack.empty())` after `actState = stack.back(); stack.pop_back();`:
```
if (lhs.IsStateFinal(actState->first.first) && rhs.IsStateFinal(actState->first.second)) res.SetStateFinal(actState->second);
auto lcluster = genericLookup(*lhs.transitions_, actState->first.first);  if (!lcluster) continue;
auto rcluster = genericLookup(*rhs.transitions_, actState->first.second); if (!rcluster) continue;
for (auto lsymbolToPtrPointer : *lcluster) { … find in rcluster, else continue … for lstate for rstate … }
``` -/
def isectBody (o : NfaOrd) (v : IsectVariant) (A B : NFAS) (act : (Nat × Nat) × Nat) (st : IsectSt) : IsectSt :=
  let st1 : IsectSt :=
    if A.final.contains act.1.1 && B.final.contains act.1.2 then ⟨st.tm, st.stack, nfasSetFinal st.res act.2⟩ else st
  if (nfaClusterOf o A.toNFA act.1.1).isEmpty then st1
  else if (nfaClusterOf o B.toNFA act.1.2).isEmpty then st1
  else (isectSymList o A.toNFA B.toNFA act.1.1 act.1.2).foldl
    (fun st c => c.2.foldl (isectIns act.2 c.1) (isectD4Hook v A B act.1.1 act.1.2 act.2 st)) st1

/-- the `while` loop; `none` = out of fuel -/
def isectLoop (o : NfaOrd) (v : IsectVariant) (A B : NFAS) : Nat → IsectSt → Option IsectSt
  | 0, st => if st.stack.isEmpty then some st else none
  | n + 1, st =>
    match st.stack with
    | [] => some st
    | act :: rest => isectLoop o v A B n (isectBody o v A B act ⟨st.tm, rest, st.res⟩)

/-- a fuel that always suffices (`isectLoop_total`): the initial stack plus one turn for every pair inserted later, and every
such pair is the target of a joint transition -/
def isectFuel (o : NfaOrd) (v : IsectVariant) (A B : NFAS) : Nat :=
  (isectInit o v A B).stack.length + (nfaJointAll A.toNFA B.toNFA).length

/-- the product before `RemoveUselessStates`, with the translation map -/
def nfasIsectCodedRaw (o : NfaOrd) (v : IsectVariant) (A B : NFAS) (fuel : Nat) : Option IsectSt :=
  isectLoop o v A B fuel (isectInit o v A B)

/-- `Intersection (lhs, rhs, pTranslMap)`: `return res.RemoveUselessStates();` and the filled `*pTranslMap` -/
def nfasIsectCodedF (o : NfaOrd) (v : IsectVariant) (fixD5 : Bool) (A B : NFAS) (fuel : Nat) : Option (NFAS × TranslMap) :=
  (nfasIsectCodedRaw o v A B fuel).map (fun st => (nfasUselessCoded o fixD5 st.res, st.tm))

/-- `Intersection` with the fuel `isectFuel` (the default value is never used: `nfasIsectCoded_isSome`) -/
def nfasIsectCoded (o : NfaOrd) (A B : NFAS) : NFAS × TranslMap :=
  (nfasIsectCodedF o .fixed true A B (isectFuel o .fixed A B)).getD (nfasEmpty, [])

/-! ## `GetCandidateTree` (`src/explicit_finite_candidate.cc`) -/

/-- the state of the search: `reachableStates`, `newStates` (front first), `res` -/
structure CandSt where
  seen : List Nat
  queue : List Nat
  res : NFAS

/-- `if (reachableStates.insert(s).second) newStates.push_back(s);` -/
def candSee (st : CandSt) (q : Nat) : CandSt :=
  if st.seen.contains q then st else ⟨st.seen ++ [q], st.queue ++ [q], st.res⟩

/-- `res.transitions_->insert(std::make_pair(actState, transitionsCluster->second))`: the whole cluster of `actState`, unless
`res` has a cluster for `actState` already -/
def candInsCluster (A : NFAS) (act : Nat) (res : NFAS) : NFAS :=
  if res.trans.any (fun e => e.1 == act) then res
  else ⟨⟨res.start, res.final, res.trans ++ A.trans.filter (fun e => e.1 == act)⟩, res.startSyms⟩

/-- ```
for (StateType s : this->GetStartStates()) {
  if (reachableStates.insert(s).second) newStates.push_back(s);
  res.SetExistingStateStart(s, this->GetStartSymbols(s));
  if (this->IsStateFinal(s)) { res.SetStateFinal(s); return res.RemoveUselessStates(); }      // fix 8ac4ac29 (D6)
}
```
`inl` = the automaton handed to `RemoveUselessStates` by the early `return`; `fixD6 = false` is the code before the repair -/
def candStartLoop (fixD6 : Bool) (A : NFAS) : List Nat → CandSt → Sum NFAS CandSt
  | [], st => .inr st
  | s :: ss, st =>
    let st1 := candSee st s
    let res1 := nfasSetExistingStart st1.res s (A.symsOf s)
    if fixD6 && A.final.contains s then .inl (nfasSetFinal res1 s)
    else candStartLoop fixD6 A ss ⟨st1.seen, st1.queue, res1⟩

/-- the two nested `for` loops over the cluster of `actState`, flattened to the sequence of targets:
```
if (reachableStates.insert(stateInSet).second) newStates.push_back(stateInSet);
if (this->IsStateFinal(stateInSet)) { res.SetStateFinal(stateInSet); res.transitions_->insert(…actState cluster…);
  return res.RemoveUselessStates(); }
res.transitions_->insert(…actState cluster…);
``` -/
def candInner (A : NFAS) (act : Nat) : List Nat → CandSt → Sum NFAS CandSt
  | [], st => .inr st
  | q :: qs, st =>
    let st1 := candSee st q
    if A.final.contains q then .inl (candInsCluster A act (nfasSetFinal st1.res q))
    else candInner A act qs ⟨st1.seen, st1.queue, candInsCluster A act st1.res⟩

/-- `while (!newStates.empty()) { actState = newStates.front(); cluster = transitions_->find(actState); newStates.pop_front();
if (cluster == end) continue; … }` and the final `return res.RemoveUselessStates()` ; `none` = out of fuel -/
def candLoop (o : NfaOrd) (A : NFAS) : Nat → CandSt → Option NFAS
  | 0, _ => none
  | n + 1, st =>
    match st.queue with
    | [] => some st.res
    | act :: rest =>
      if (nfaClusterOf o A.toNFA act).isEmpty then candLoop o A n ⟨st.seen, rest, st.res⟩
      else match candInner A act (nfaClusterTargets o A.toNFA act) ⟨st.seen, rest, st.res⟩ with
        | .inl r => some r
        | .inr st' => candLoop o A n st'

/-- the automaton `GetCandidateTree` hands to `RemoveUselessStates` -/
def nfasCandidateCodedRaw (o : NfaOrd) (fixD6 : Bool) (A : NFAS) (fuel : Nat) : Option NFAS :=
  match candStartLoop fixD6 A (iterSet o.sts A.start) ⟨[], [], nfasEmpty⟩ with
  | .inl r => some r
  | .inr st => candLoop o A fuel st

/-- a fuel that always suffices (`candLoop_total`): every state is enqueued once -/
def candFuel (o : NfaOrd) (N : NFA) : Nat := (iterSet o.sts N.start).length + N.trans.length + 1

/-- `GetCandidateTree` with the given fuel -/
def nfasCandidateCodedF (o : NfaOrd) (fixD6 fixD5 : Bool) (A : NFAS) (fuel : Nat) : Option NFAS :=
  (nfasCandidateCodedRaw o fixD6 A fuel).map (nfasUselessCoded o fixD5)

/-- `GetCandidateTree` (the default value is never used: `nfasCandidateCoded_isSome`) -/
def nfasCandidateCoded (o : NfaOrd) (A : NFAS) : NFAS :=
  (nfasCandidateCodedF o true true A (candFuel o A.toNFA)).getD A

end Vata.NfaC
