import Vata.LtsUtil
import Vata.LtsEngine
import Vata.Proofs.LtsUtilCA
import Vata.Proofs.LtsUtilLayout
import Vata.Proofs.LtsUtilSS
import Vata.Proofs.LtsUtilSC5
import Vata.Proofs.LtsUtilSL2
import Vata.Proofs.LtsUtilSRHist
/-!
# The utility classes of the LTS engine: the values of `Vata/LtsUtil.lean` ARE the values of `Vata/LtsEngine.lean`

`Vata/LtsUtil.lean` states the value side of every class (`aAdd`, `aRemove`, `aSplit`, `flat`, …) without importing the
engine model.  Here: they are literally the functions the engine model uses, and an element-wise erase loop of the engine's shape
(`eraseEach`) is the `filter` of `SR.aStep`.  The refinement theorems themselves are in
`Vata/Proofs/LtsUtil{CA,Layout,SS,SC*,SL*,SR*}.lean`.
-/
namespace Vata.LU.Glue

/-- `SmartSet::add` on values = `insAdd` of the engine model -/
theorem aAdd_eq_insAdd (s : List (Nat × Nat)) (a : Nat) : SS.aAdd s a = Vata.LE.insAdd s a := by
  induction s with
  | nil => rfl
  | cons bc s ih => obtain ⟨b, c⟩ := bc; simp only [SS.aAdd, Vata.LE.insAdd, ih]

/-- `SmartSet::removeStrict` on values = `insRemove` -/
theorem aRemove_eq_insRemove (s : List (Nat × Nat)) (a : Nat) : SS.aRemove s a = Vata.LE.insRemove s a := by
  induction s with
  | nil => rfl
  | cons bc s ih => obtain ⟨b, c⟩ := bc; simp only [SS.aRemove, Vata.LE.insRemove, ih]

/-- iteration order of a `SmartSet` = `insKeys` -/
theorem aKeys_eq_insKeys (s : List (Nat × Nat)) : SS.aKeys s = Vata.LE.insKeys s := rfl

/-- `SplittingRelation::split` on values = `relSplit` -/
theorem aSplit_eq_relSplit (rel : List (List Nat)) (i : Nat) : SR.aSplit rel i = Vata.LE.relSplit rel i := rfl

/-- iteration of a `SharedList` on values = `flat` -/
theorem flat_eq (r : SL.RemList) : SL.flat r = Vata.LE.flat r := rfl

/-- the shape of the engine model's erase loop (`pruneRow` / `pruneCol`), as a fold of its own: the masked columns of a row are
erased one at a time, `filter (· != col)` each, while the row is iterated as it was on entry.  For `LE.pruneRow` itself, with the
decrements in between, the statement is `pruneRowT_rel` of `Proofs/LtsEnginePrune.lean`. -/
def eraseEach (mask : List Nat) (row : List Nat) : List Nat :=
  row.foldl (fun r col => if mask.contains col then r.filter (fun c => c != col) else r) row

theorem eraseEach_aux (mask : List Nat) (cols r : List Nat) :
    cols.foldl (fun r col => if mask.contains col then r.filter (fun c => c != col) else r) r =
      r.filter (fun c => !(mask.contains c && cols.contains c)) := by
  induction cols generalizing r with
  | nil => exact (List.filter_eq_self.2 fun _ _ => by simp).symm
  | cons col cols ih =>
    rw [List.foldl_cons, ih]
    split
    · rename_i hm
      rw [List.filter_filter]
      refine List.filter_congr fun c _ => ?_
      rw [List.contains_cons, bne]
      cases h : c == col
      · simp
      · rw [eq_of_beq h, hm]; simp
    · rename_i hm
      refine List.filter_congr fun c _ => ?_
      rw [List.contains_cons]
      cases h : c == col
      · simp
      · rw [eq_of_beq h, Bool.eq_false_iff.2 hm]; simp

/-- … which is the `filter` of `SR.aStep (.eraseRow i mask)` -/
theorem eraseEach_eq_filter (mask row : List Nat) : eraseEach mask row = row.filter (fun c => !mask.contains c) := by
  unfold eraseEach
  rw [eraseEach_aux]
  apply List.filter_congr
  intro c hc
  have : row.contains c = true := List.contains_iff_mem.2 hc
  rw [this, Bool.and_true]

example : eraseEach [1, 3] [0, 1, 2, 3, 4] = [0, 2, 4] := by decide

end Vata.LU.Glue
