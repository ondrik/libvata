import Vata.SimPipeline
import Vata.RenameCoded
import Vata.TrimCoded
/-!
# `Reduce` end to end ON THE STORE: coded simulation pipeline + coded collapse + coded trimming (property C05 / C14 / C03)

Definitions only (and `#guard` self-tests); the proofs are in `Vata/Proofs/ReduceCoded.lean` and
`Vata/Proofs/ReduceCodedSize.lean`, the user-facing theorems in `Vata/Properties/C05_Coded.lean`.

C++ (`src/explicit_tree_aut_core.cc`):

```
ExplicitTreeAutCore ExplicitTreeAutCore::Reduce(const ReduceParam& params) const
{
  using StateMap = std::unordered_map<StateType, StateType>;
  size_t stateCnt = 0;
  StateMap stateMap;
  Util::TranslatorWeak<StateMap> stateTranslator(stateMap, [&stateCnt](const StateType&){ return stateCnt++; });
  this->BuildStateIndex(stateTranslator);                                     // (1)
  SimParam simParam;
  switch (params.GetRelation()) {
    case ReduceParam::e_reduce_relation::TA_DOWNWARD:
      simParam.SetRelation(SimParam::e_sim_relation::TA_DOWNWARD);
      simParam.SetNumStates(stateCnt); break;                                  // (2)
    default: assert(false);
  }
  StateDiscontBinaryRelation sim = this->ComputeSimulation(simParam);          // (3)
  sim.RestrictToSymmetric();                                                   // (4)
  using StateToStateMap = std::unordered_map<StateType, StateType>;
  StateToStateMap collapseMap;
  sim.GetQuotientProjection(collapseMap);                                      // (5)
  ExplicitTreeAutCore aut = this->CollapseStates(collapseMap);                 // (6)
  aut = aut.RemoveUnreachableStates();                                         // (7)
  return aut;
}
```

## How it is read into the model

* (1), (2): as in `Vata/SimPipeline.lean` – of `BuildStateIndex` only the counter is used, `stateCnt` = the number of states.
* (3): `SimPipe.computeSimDownDisc` – fresh translator, `TranslateDownward` as coded, the ENGINE MODEL, `buildResult`,
  `StateDiscontBinaryRelation(ltsSim, translMap)`.
* (4), (5): `BinRel.Disc.restrictToSymmetric`, `BinRel.Disc.quotProj` of the CLASS model (flat `std::vector<bool>`, two-way
  dictionary).  `collapseMap` is the association list `quotProj` returns (keys pairwise different, so first-match look-up is
  `unordered_map` look-up).
* (6): `CollapseStates(collapseMap)` = `ReindexStates(collapseMap)`; the template's `index.at(state)` is
  `std::unordered_map::at`, which THROWS `std::out_of_range` on a missing key and never changes the container: that is the
  translator object `RenameCoded.strictT` with the container `collapseMap`.  The loops are `RenameCoded.collapseCoded` on the
  three-level store (final states first, then per cluster `uniqueCluster`, per symbol `uniqueTuplePtrSet`, per tuple the children
  left to right and the `insert`).
* (7): `TrimCoded.unreachCoded` (work-list, the repaired shortcut `return *this`, the rebuild over `reachableStates`), run on
  the rule list the destination store yields in ITS iteration order (`RenameCoded.toTA`).

The automaton is given twice: `S : Store` is the object `*this` whose clusters (6) walks, `simA : TA` is the rule list in the
order in which the loops of (3) meet the transitions.  In the C++ both are the same hash containers, so the faithful instance is
`reduceStoreCoded S = reduceCodedOn (RenameCoded.toTA S) S` (one order).  `reduceFullyCoded A = reduceCodedOn A (ofTA A)` takes the rule
list of the protocol for (3) – so that it can be compared literally with `SimPipe.reduceAsCoded A` – and the store the loader
builds from it (`AddTransition` per rule, `SetStatesFinal`) for (6).  Every theorem holds for both (they only need that `simA`
and `S` have the same SETS of rules and final states, and the store invariant of C12 for `S`).

Outcomes: `simFailed` = the engine model ran out of its internal fuel or a dictionary look-up of `GetQuotientProjection`
failed; `threw k` = `collapseMap.at(k)` threw inside `CollapseStates`.  NEITHER happens (`reduceCodedOn_total`): the answer is
always `ok`.
-/
namespace Vata.ReduceCoded
open Vata Vata.Store Vata.RenameCoded Vata.TrimCoded Vata.SimPipe Vata.BinRel

/-- what a call of `Reduce` can do -/
inductive Outcome where
  /-- the engine model ran out of fuel / `GetQuotientProjection` failed on the dictionary (never happens) -/
  | simFailed
  /-- `collapseMap.at(key)` threw `std::out_of_range` in `CollapseStates` (never happens) -/
  | threw (key : Nat)
  /-- the returned automaton, as the rule list / final-state list it yields -/
  | ok (B : TA)
deriving Repr

/-- `Reduce`, the calls it makes in the order it makes them; `simA` = the transitions as (3) meets them, `S` = the store (6) walks -/
def reduceCodedOn (simA : TA) (S : Store) : Outcome :=
  -- (1) this->BuildStateIndex(stateTranslator);   (2) simParam.SetNumStates(stateCnt);
  let stateCnt := simA.states.length
  -- (3) StateDiscontBinaryRelation sim = this->ComputeSimulation(simParam);
  match computeSimDownDisc simA stateCnt with
  | none => .simFailed
  | some sim =>
    -- (4) sim.RestrictToSymmetric();
    let sim := sim.restrictToSymmetric
    -- (5) sim.GetQuotientProjection(collapseMap);
    match sim.quotProj with
    | .error _ => .simFailed
    | .ok collapseMap =>
      -- (6) ExplicitTreeAutCore aut = this->CollapseStates(collapseMap);
      match collapseCoded strictT S collapseMap with
      | .error e => .threw e.1
      | .ok aut =>
        -- (7) aut = aut.RemoveUnreachableStates();  return aut;
        .ok (unreachCoded (RenameCoded.toTA aut.1))

/-- `Reduce` on the store the loader builds from the protocol's automaton -/
def reduceFullyCoded (A : TA) : Outcome := reduceCodedOn A (ofTA A)

/-- `Reduce` on a store: one iteration order for the simulation and for the collapse -/
def reduceStoreCoded (S : Store) : Outcome := reduceCodedOn (RenameCoded.toTA S) S

/-- the store `CollapseStates` returns inside `Reduce` (before trimming), for inspection by the driver -/
def collapsedStore (A : TA) : Option Store :=
  match collapseMapAsCoded A with
  | none => none
  | some m =>
    match collapseCoded strictT (ofTA A) m with
    | .error _ => none
    | .ok aut => some aut.1

def Outcome.toOption : Outcome → Option TA
  | .ok B => some B
  | _ => none

/-- the key whose look-up threw, if the call ended that way -/
def Outcome.thrownKey : Outcome → Option Nat
  | .threw k => some k
  | _ => none

/-- driver entry point: `none` only for `simFailed` / `threw` (never, `reduceFullyCodedTA_total`) -/
def reduceFullyCodedTA (A : TA) : Option TA := (reduceFullyCoded A).toOption

/-- driver entry point, one-order variant: the automaton is loaded into the store and BOTH the simulation and the collapse use
the store's iteration order -/
def reduceStoreCodedTA (A : TA) : Option TA := (reduceStoreCoded (ofTA A)).toOption

/-- same sets of rules and of final states (Boolean) -/
def sameSetsB (A B : TA) : Bool :=
  A.rules.all (fun r => B.rules.contains r) && B.rules.all (fun r => A.rules.contains r) &&
  A.final.all (fun q => B.final.contains q) && B.final.all (fun q => A.final.contains q)

/-- a → 0, g(0,1) → 2, a → 1, g(1,0) → 3, h(2) → 4, b → 0, b → 1; F = {2, 3}: `0 ≈ 1`, `2 ≈ 3`, `4` is not reachable
top-down from a final state.  The rules of one parent are NOT adjacent: the store groups them. -/
def exR : TA := ⟨[⟨0, [], 0⟩, ⟨1, [0, 1], 2⟩, ⟨0, [], 1⟩, ⟨1, [1, 0], 3⟩, ⟨2, [2], 4⟩, ⟨3, [], 0⟩, ⟨3, [], 1⟩], [2, 3]⟩

end Vata.ReduceCoded

/-! ### self-tests -/
namespace Vata.ReduceCodedTest
open Vata Vata.SimPipe Vata.SimPipeTest Vata.ReduceCoded Vata.RenameCoded

def fullOk (seed : Nat) : Bool :=
  let A := (genTA seed).1
  match reduceFullyCodedTA A, reduceAsCoded A with
  | some B', some B => sameSetsB B' B && nodupRules B'.rules && decide (B'.rules.length ≤ A.rules.eraseDups.length)
  | _, _ => false

def storeOk (seed : Nat) : Bool :=
  let A := (genTA seed).1
  match reduceStoreCodedTA A, reduceAsCoded (RenameCoded.toTA (ofTA A)) with
  | some B', some B => sameSetsB B' B && (equivM B' A 6 == some true)
  | _, _ => false

-- 300 pseudo-random ranked automata: the fully coded `Reduce` returns, and its result has the rule / final sets of `reduceAsCoded`
#guard count fullOk 0 300 == 300
#guard count storeOk 0 300 == 300
-- the store `CollapseStates` returns inside `Reduce` satisfies the FULL store invariant (proved: `collapse_strict_value`)
#guard count (fun s => match collapsedStore (genTA s).1 with | some d => Store.invB d | none => false) 0 300 == 300
#guard (reduceFullyCodedTA exR).isSome
-- a store with an empty cluster (outside the store invariant): its owner is looked up although no rule mentions it
#guard (reduceStoreCoded ⟨[(9, [])], []⟩).thrownKey == some 9
#guard (reduceFullyCodedTA exR).map (fun B => (B.rules, B.final)) == some ([⟨1, [0, 0], 2⟩, ⟨0, [], 0⟩, ⟨3, [], 0⟩], [2])
#guard (collapsedStore exR).map (fun s => (s.clusters, s.final)) ==
  some ([(0, [(0, [[]]), (3, [[]])]), (2, [(1, [[0, 0]])]), (4, [(2, [[2]])])], [2])
#guard (reduceAsCoded exR).map (fun B => (B.rules, B.final)) ==
  some ([⟨0, [], 0⟩, ⟨1, [0, 0], 2⟩, ⟨0, [], 0⟩, ⟨1, [0, 0], 2⟩, ⟨3, [], 0⟩, ⟨3, [], 0⟩], [2, 2])

end Vata.ReduceCodedTest
