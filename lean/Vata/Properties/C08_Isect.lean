import Vata.Proofs.BddIsectBUTotal
/-!
# C08 / C20 – the symbolic `Intersection` of the two BDD encodings: work-lists, product-state counter

Corollaries of `Vata/Proofs/BddIsect.lean`, `Vata/Proofs/BddIsectApply.lean`, `Vata/Proofs/BddIsectTotal.lean`,
`Vata/Proofs/BddIsectBUTotal.lean` (model:
`Vata/BddIsect.lean`, on top of `Vata/BddAbs.lean` / `Vata/BddAbsTD.lean`) for the part of property C08

> For both BDD encodings […] Intersection [yields] exactly the intersection

and for the clause of C20 "never executes undefined behaviour such as using an uninitialised counter" (defect D10: the
product-state counter `stateCnt` of `bdd_bu_tree_aut_isect.cc` / `bdd_td_tree_aut_isect.cc`).

How the statement is read into the model.  A symbolic automaton is a table of MTBDDs with set-valued leaves and a list of
final states; its abstraction is the explicit automaton `absTD syms T F` / `absBU syms T F` read off the MTBDDs for the
symbols `syms` of the dictionary, as the dump does.  `bddIsectTDFrom c0` / `bddIsectBUFrom c0` mirror the two work-lists: the
translator of pairs to product states with its counter (starting at `c0`; `bddIsectTD`, `bddIsectBU`: `c0 = 0`, the repaired
code) and its work-set, the pairing leaf operations with their side effect on the translator, `Apply2Functor` threading
that side effect through the leaves (low branch first), `SetMtbdd` of the results; with fuel, and with a final Boolean
certificate check on the symbolic level.  All statements are about the abstractions of the returned table: set equality
of rules and final states with the product automata of C02 (`prodOn` of `Vata/Isect.lean`, `prodBU` of `Vata/IsectBU.lean`),
hence equality of languages (`accepts`), for EVERY dictionary `syms`.
-/
namespace Vata.Props
open Vata.M Vata.BddAbs Vata.BddAbsTD Vata.BddIsect

/-- **Top-down `Intersection`.**  Whenever the model of `BDDTDTreeAutCore::Intersection` (counter starting at any `c0`)
returns a table `R`, final states `F` and a translation map `m`: the abstraction of `(R, F)` is – as sets of rules and of
final states – the product automaton of the abstractions of the operands on the set `dom m` of discovered pairs, numbered
by `m`; `dom m` is closed under the children of matching rules and contains all pairs of final states; `m` is injective;
hence the abstraction accepts exactly the intersection.  Hypothesis on the operands: `ArityOK`, the invariant of the
top-down encoding that the arity variables hold the length of the tuples (true of loaded and of converted tables,
`arityOK_ofRulesTD`, `arityOK_getTopDownAut`); the C++ `assert`s it in the leaf operation. -/
theorem C08_td_isect {c0 : Nat} {TA : TableTD} {FA : List Nat} {TB : TableTD} {FB : List Nat} {fuel : Nat}
    {R : TableTD} {F : List Nat} {m : PMap} (h : bddIsectTDFrom c0 TA FA TB FB fuel = some (R, F, m))
    (hA : ArityOK TA) (hB : ArityOK TB) (syms : List Nat) :
    SetEqTA (absTD syms R F) (prodOn (absTD syms TA FA) (absTD syms TB FB) m.dom (lookupF m)) ∧
    Closed (absTD syms TA FA) (absTD syms TB FB) m.dom ∧ InjOn (lookupF m) m.dom ∧
    (∀ p, p ∈ FA → ∀ q, q ∈ FB → (p, q) ∈ m.dom) ∧
    (∀ t, accepts (absTD syms R F) t = (accepts (absTD syms TA FA) t && accepts (absTD syms TB FB) t)) :=
  ⟨(bddIsectTDFrom_abs h hA hB syms).1, (bddIsectTDFrom_abs h hA hB syms).2.1, (bddIsectTDFrom_abs h hA hB syms).2.2.1,
    (bddIsectTDFrom_abs h hA hB syms).2.2.2, fun t => bddIsectTDFrom_lang h hA hB syms t⟩

example : (bddIsectTDFrom 0 BddIsectEx.tdA [1] BddIsectEx.tdB [1] 10).isSome = true ∧
    (bddIsectTDFrom 7 BddIsectEx.tdA [1] BddIsectEx.tdB [1] 10).isSome = true ∧
    ArityOK BddIsectEx.tdA ∧ ArityOK BddIsectEx.tdB :=
  ⟨Option.isSome_of_map BddIsectEx.tdRun, Option.isSome_of_map BddIsectEx.tdRun7, BddIsectEx.arityA,
    BddIsectEx.arityB⟩

-- `ArityOK` cannot be dropped: a table holding the tuple `(5)` for all arities against one holding `()`: the model (like
-- the C++ built without assertions) pairs them up to the rule `a → 0` and accepts `a`, which the left operand does not
example : (bddIsectTD [(1, .leaf [[5]])] [1] [(2, .leaf [[]])] [2] 5).map
      (fun r => accepts (absTD [0] r.1 r.2.1) (.node 0 [])) = some true ∧
    accepts (absTD [0] [(1, .leaf [[5]])] [1]) (.node 0 []) = false := by decide +kernel

/-- **Bottom-up `Intersection`.**  Whenever the model of `BDDBUTreeAutCore::Intersection` (counter starting at any `c0`)
returns `(R, F, m)`: the abstraction of `(R, F)` is – as sets of rules and of final states – the BOTTOM-UP product automaton
of the abstractions of the operands (`prodBU`: the pairs of rules all of whose children pairs are in `dom m`; final states:
the numbers of the discovered pairs of final states); `dom m` contains the parent pair of any two matching rules whose
children pairs are in it (`BUClosed`), so it contains every pair of states that label a common tree; `m` is injective;
hence the abstraction accepts exactly the intersection.  No hypothesis on the operand tables. -/
theorem C08_bu_isect {c0 : Nat} {TA : Table} {FA : List Nat} {TB : Table} {FB : List Nat} {fuel : Nat}
    {R : Table} {F : List Nat} {m : PMap} (h : bddIsectBUFrom c0 TA FA TB FB fuel = some (R, F, m)) (syms : List Nat) :
    SetEqTA (absBU syms R F) (prodBU (absBU syms TA FA) (absBU syms TB FB) m.dom (lookupF m)) ∧
    BUClosed (absBU syms TA FA) (absBU syms TB FB) m.dom ∧ InjOn (lookupF m) m.dom ∧
    (∀ t p q, p ∈ reach (absBU syms TA FA) t → q ∈ reach (absBU syms TB FB) t → (p, q) ∈ m.dom) ∧
    (∀ t, accepts (absBU syms R F) t = (accepts (absBU syms TA FA) t && accepts (absBU syms TB FB) t)) :=
  ⟨(bddIsectBUFrom_abs h syms).1, (bddIsectBUFrom_abs h syms).2.1, (bddIsectBUFrom_abs h syms).2.2,
    fun t p q hp hq => buClosed_reach _ _ m.dom (lookupF m) (bddIsectBUFrom_abs h syms).2.1
      (bddIsectBUFrom_abs h syms).2.2 t p q hp hq,
    fun t => bddIsectBUFrom_lang h syms t⟩

theorem isectEx_buRun7 : (bddIsectBUFrom 7 BddIsectEx.buA [1] BddIsectEx.buB [1] 10).map (·.2.2) =
    some [((0, 0), 7), ((1, 1), 8), ((1, 2), 9)] := by
  rw [bddIsectBUFrom_eq_loop 7 [1] [1] BddIsectEx.okA BddIsectEx.okB, Option.map_map]; decide +kernel

example : (bddIsectBUFrom 0 BddIsectEx.buA [1] BddIsectEx.buB [1] 10).isSome = true ∧
    (bddIsectBUFrom 7 BddIsectEx.buA [1] BddIsectEx.buB [1] 10).isSome = true :=
  ⟨Option.isSome_of_map BddIsectEx.buRun, Option.isSome_of_map isectEx_buRun7⟩
-- the two encodings discover different sets of pairs on the same operands (top-down also `(0, 1)`)
example : (bddIsectTD BddIsectEx.tdA [1] BddIsectEx.tdB [1] 10).map (·.2.2.map Prod.fst) =
      some [(1, 1), (1, 2), (0, 0), (0, 1)] ∧
    (bddIsectBU BddIsectEx.buA [1] BddIsectEx.buB [1] 10).map (·.2.2.map Prod.fst) = some [(0, 0), (1, 1), (1, 2)] :=
  ⟨BddIsectEx.map_of_run (List.map Prod.fst) BddIsectEx.tdRun, BddIsectEx.map_of_run (List.map Prod.fst) BddIsectEx.buRun⟩

/-- **The apply with a side effect.**  `Apply2Functor` with the `IntersectionApplyFunctor` (whose `ApplyOperation` calls
the translator and so allocates product states and fills the work-set) returns, in both encodings, the `M.apply2` of the
PURE pairing leaf operation for the translation map it leaves behind; afterwards all pairs of the visited leaves are in
the map.  On leaves all of whose pairs are known a leaf operation changes nothing – which is why the result cache of the
apply, which suppresses repeated calls on the same pair of leaves, does not matter.  (`BddIsect.Good c0 s`: the state `s` of the
translator is one the model can be in – numbering from `c0`, the work-set holds entries of the map.) -/
theorem C08_isect_apply_side_effect {c0 : Nat} {s : St} (hs : BddIsect.Good c0 s) :
    (∀ a b : MT, (apply2S leafBU s a b).2 = apply2 (prodS (lookupF (apply2S leafBU s a b).1.map)) a b ∧
      ∀ ll, ll ∈ voidApply2 a b → ∀ c, c ∈ BddIsect.allPairs ll.1 ll.2 → c ∈ (apply2S leafBU s a b).1.map.dom) ∧
    (∀ a b : MTD, (apply2S leafTD s a b).2 = apply2 (prodTS (lookupF (apply2S leafTD s a b).1.map)) a b ∧
      ∀ ll, ll ∈ voidApply2 a b → ∀ c, c ∈ (allZips ll.1 ll.2).flatten → c ∈ (apply2S leafTD s a b).1.map.dom) ∧
    (∀ v w : List Nat, (∀ c, c ∈ BddIsect.allPairs v w → c ∈ s.map.dom) → leafBU s v w = (s, prodS (lookupF s.map) v w)) ∧
    (∀ v w : List (List Nat), (∀ c, c ∈ (allZips v w).flatten → c ∈ s.map.dom) →
      leafTD s v w = (s, prodTS (lookupF s.map) v w)) :=
  ⟨fun a b => ⟨(apply2S_spec leafSpecBU c0 s a b hs).val, (apply2S_spec leafSpecBU c0 s a b hs).dom⟩,
    fun a b => ⟨(apply2S_spec leafSpecTD c0 s a b hs).val, (apply2S_spec leafSpecTD c0 s a b hs).dom⟩,
    fun v w hk => leafBU_known hs v w hk, fun v w hk => leafTD_known hs v w hk⟩

example : BddIsect.Good 0 ⟨[], [], 0⟩ ∧ BddIsect.Good 7 (apply2S leafBU ⟨[], [], 7⟩ (BddIsectEx.buA.get []) (BddIsectEx.buB.get [])).1 :=
  ⟨good_init 0, (apply2S_spec leafSpecBU 7 _ _ _ (good_init 7)).good⟩

/-- **The models are total.**  The certificate checks never fail on what the loops compute: the top-down model returns
`none` only when its loop runs out of fuel, and so does the bottom-up model on tables as the C++ holds them (`TableOk`: one
entry per non-empty tuple).  Every entry taken from the work-set is a new pair of states, so the fuels `tdFuel`, `buFuel`
suffice: the reference instances `bddIsectTDRef`, `bddIsectBURef` return a result, which accepts exactly the
intersection and numbers the product states `0 … n-1`. -/
theorem C08_isect_total :
    (∀ (TA : TableTD) (FA : List Nat) (TB : TableTD) (FB : List Nat), ArityOK TA → ArityOK TB →
      ∃ R F m, bddIsectTDRef TA FA TB FB = some (R, F, m) ∧
        (∀ syms t, accepts (absTD syms R F) t = (accepts (absTD syms TA FA) t && accepts (absTD syms TB FB) t)) ∧
        m.map Prod.snd = List.range m.length) ∧
    (∀ (TA : Table) (FA : List Nat) (TB : Table) (FB : List Nat), TableOk TA → TableOk TB →
      ∃ R F m, bddIsectBURef TA FA TB FB = some (R, F, m) ∧
        (∀ syms t, accepts (absBU syms R F) t = (accepts (absBU syms TA FA) t && accepts (absBU syms TB FB) t)) ∧
        m.map Prod.snd = List.range m.length) ∧
    (∀ (c0 : Nat) (TA : TableTD) (FA : List Nat) (TB : TableTD) (FB : List Nat) (fuel : Nat),
      bddIsectTDFrom c0 TA FA TB FB fuel = none ↔
        tdLoop TA TB fuel (translL ⟨[], [], c0⟩ (finalPairsL FA FB)).1 [] = none) ∧
    (∀ (c0 : Nat) (TA : Table) (FA : List Nat) (TB : Table) (FB : List Nat) (fuel : Nat), TableOk TA → TableOk TB →
      (bddIsectBUFrom c0 TA FA TB FB fuel = none ↔
        BddIsect.buLoop TA TB FA FB fuel (apply2S leafBU ⟨[], [], c0⟩ (TA.get []) (TB.get [])).1
          (Table.empty.set [] (apply2S leafBU ⟨[], [], c0⟩ (TA.get []) (TB.get [])).2) [] = none)) :=
  ⟨fun TA FA TB FB hA hB => bddIsectTDRef_lang TA FA TB FB hA hB,
    fun _ FA _ FB hA hB => bddIsectBURef_lang FA FB hA hB,
    fun _ _ _ _ _ _ => bddIsectTDFrom_none_iff,
    fun _ _ _ _ _ _ hA hB => bddIsectBUFrom_none_iff hA hB⟩

example : ArityOK BddIsectEx.tdA ∧ TableOk BddIsectEx.buA ∧ tdFuel BddIsectEx.tdA [1] BddIsectEx.tdB [1] = 28 ∧
    buFuel BddIsectEx.buA BddIsectEx.buB = 15 ∧ (bddIsectTD BddIsectEx.tdA [1] BddIsectEx.tdB [1] 3).isNone = true :=
  ⟨BddIsectEx.arityA, BddIsectEx.okA, by decide +kernel, by decide +kernel, by decide +kernel⟩

/-- **Load, intersect, dump.**  For explicit automata `A`, `B` whose symbols are 16-bit numbers of the dictionary `syms`
and whose arities are below 64: the symbolic intersections of the loaded tables (`AddTransition` for each rule) – in the
top-down and in the bottom-up encoding – return a result, and its dump accepts exactly `L(A) ∩ L(B)`. -/
theorem C08_isect_loaded (A B : TA) (syms : List Nat)
    (hA : ∀ r, r ∈ A.rules → r.sym < 2 ^ 16 ∧ r.kids.length < 64 ∧ r.sym ∈ syms)
    (hB : ∀ r, r ∈ B.rules → r.sym < 2 ^ 16 ∧ r.kids.length < 64 ∧ r.sym ∈ syms) (hs : ∀ f, f ∈ syms → f < 2 ^ 16) :
    (∃ R F m, bddIsectTDRef (ofRulesTD A.rules) A.final (ofRulesTD B.rules) B.final = some (R, F, m) ∧
      ∀ t, accepts (absTD syms R F) t = (accepts A t && accepts B t)) ∧
    (∃ R F m, bddIsectBURef (ofRules A.rules) A.final (ofRules B.rules) B.final = some (R, F, m) ∧
      ∀ t, accepts (absBU syms R F) t = (accepts A t && accepts B t)) := by
  constructor
  · obtain ⟨R, F, m, h, hl, _⟩ := bddIsectTDRef_lang (ofRulesTD A.rules) A.final (ofRulesTD B.rules) B.final
      (arityOK_ofRulesTD _ (fun r hr => (hA r hr).2.1)) (arityOK_ofRulesTD _ (fun r hr => (hB r hr).2.1))
    refine ⟨R, F, m, h, fun t => ?_⟩
    rw [hl syms t, (absTD_ofRulesTD_setEq A.rules syms A.final hA hs).lang,
      (absTD_ofRulesTD_setEq B.rules syms B.final hB hs).lang]
  · obtain ⟨R, F, m, h, hl, _⟩ := bddIsectBURef_lang (TA := ofRules A.rules) A.final (TB := ofRules B.rules) B.final
      (tableOk_ofRules _) (tableOk_ofRules _)
    refine ⟨R, F, m, h, fun t => ?_⟩
    rw [hl syms t, (absBU_ofRules_setEq A.rules syms A.final (fun r hr => ⟨(hA r hr).1, (hA r hr).2.2⟩) hs).lang,
      (absBU_ofRules_setEq B.rules syms B.final (fun r hr => ⟨(hB r hr).1, (hB r hr).2.2⟩) hs).lang]

example : (∀ r, r ∈ BddIsectEx.exA.rules → r.sym < 2 ^ 16 ∧ r.kids.length < 64 ∧ r.sym ∈ BddIsectEx.syms) ∧
    (∀ r, r ∈ BddIsectEx.exB.rules → r.sym < 2 ^ 16 ∧ r.kids.length < 64 ∧ r.sym ∈ BddIsectEx.syms) ∧
    (∀ f, f ∈ BddIsectEx.syms → f < 2 ^ 16) := by decide +kernel
-- the dumps of the two products of the example
example : ((bddIsectTDRef BddIsectEx.tdA [1] BddIsectEx.tdB [1]).map (fun r =>
      (BddIsectEx.showRules (absRulesTD BddIsectEx.syms r.1), r.2.1))) =
    some ([(0, [], 2), (3, [0], 1), (2, [2, 2], 0), (2, [3, 2], 0), (3, [1], 0)], [0]) := by
  rw [bddIsectTDRef, bddIsectTD, bddIsectTDFrom_eq_loop, Option.map_map]; decide +kernel
example : ((bddIsectBURef BddIsectEx.buA [1] BddIsectEx.buB [1]).map (fun r =>
      (BddIsectEx.showRules (absRules BddIsectEx.syms r.1), r.2.1))) =
    some ([(0, [], 0), (3, [2], 1), (3, [1], 2), (2, [0, 0], 1)], [1]) := by
  rw [bddIsectBURef, bddIsectBU, bddIsectBUFrom_eq_loop 0 [1] [1] BddIsectEx.okA BddIsectEx.okB, Option.map_map]
  decide +kernel

/-- PARTIAL (C20, "using an uninitialised counter": the product-state counter `stateCnt` of the two BDD intersections,
defect D10).  With the counter starting at `c0` the translation map returned by either model takes exactly the values
`c0, c0+1, …, c0+n-1`, in the order in which the pairs were discovered, and is injective; for the repaired code (`c0 = 0`)
the values are exactly `0, 1, …, n-1`.  Conversely a non-empty translation map with the values `0 … n-1` can only come from
a counter that started at 0 – this is the observation by which the correspondence check reveals an uninitialised counter
(whose language-level results are unaffected, `C08_td_isect`, `C08_bu_isect`).  Partial: a statement about the model; that
the C++ never READS an indeterminate value is checked by the sanitizer runs, not proved. -/
theorem C20_bdd_isect_numbers_dense_partial :
    (∀ {c0 : Nat} {TA : TableTD} {FA : List Nat} {TB : TableTD} {FB : List Nat} {fuel : Nat} {R : TableTD} {F : List Nat}
      {m : PMap}, bddIsectTDFrom c0 TA FA TB FB fuel = some (R, F, m) →
        m.map Prod.snd = List.range' c0 m.length ∧ InjOn (lookupF m) m.dom ∧
        (m ≠ [] → m.map Prod.snd = List.range m.length → c0 = 0)) ∧
    (∀ {c0 : Nat} {TA : Table} {FA : List Nat} {TB : Table} {FB : List Nat} {fuel : Nat} {R : Table} {F : List Nat}
      {m : PMap}, bddIsectBUFrom c0 TA FA TB FB fuel = some (R, F, m) →
        m.map Prod.snd = List.range' c0 m.length ∧ InjOn (lookupF m) m.dom ∧
        (m ≠ [] → m.map Prod.snd = List.range m.length → c0 = 0)) ∧
    (∀ {TA : TableTD} {FA : List Nat} {TB : TableTD} {FB : List Nat} {fuel : Nat} {R : TableTD} {F : List Nat} {m : PMap},
      bddIsectTD TA FA TB FB fuel = some (R, F, m) → m.map Prod.snd = List.range m.length) ∧
    (∀ {TA : Table} {FA : List Nat} {TB : Table} {FB : List Nat} {fuel : Nat} {R : Table} {F : List Nat} {m : PMap},
      bddIsectBU TA FA TB FB fuel = some (R, F, m) → m.map Prod.snd = List.range m.length) := by
  have key : ∀ (c0 : Nat) (m : PMap), m.map Prod.snd = List.range' c0 m.length → m ≠ [] →
      m.map Prod.snd = List.range m.length → c0 = 0 := by
    intro c0 m h1 hne h2
    cases m with
    | nil => exact absurd rfl hne
    | cons e m =>
      rw [h1, List.range_eq_range'] at h2
      simp only [List.length_cons, List.range'_succ, List.cons.injEq] at h2
      exact h2.1
  refine ⟨fun h => ?_, fun h => ?_, fun h => (bddIsect_numbers_dense.1 h).1, fun h => (bddIsect_numbers_dense.2 h).1⟩
  · exact ⟨(bddIsectTDFrom_numbers h).1, (bddIsectTDFrom_numbers h).2, key _ _ (bddIsectTDFrom_numbers h).1⟩
  · exact ⟨(bddIsectBUFrom_numbers h).1, (bddIsectBUFrom_numbers h).2, key _ _ (bddIsectBUFrom_numbers h).1⟩

-- the numbers of the example for the counters 0 and 7, both encodings
example : (bddIsectTD BddIsectEx.tdA [1] BddIsectEx.tdB [1] 10).map (·.2.2.map Prod.snd) = some [0, 1, 2, 3] ∧
    (bddIsectTDFrom 7 BddIsectEx.tdA [1] BddIsectEx.tdB [1] 10).map (·.2.2.map Prod.snd) = some [7, 8, 9, 10] ∧
    (bddIsectBU BddIsectEx.buA [1] BddIsectEx.buB [1] 10).map (·.2.2.map Prod.snd) = some [0, 1, 2] ∧
    (bddIsectBUFrom 7 BddIsectEx.buA [1] BddIsectEx.buB [1] 10).map (·.2.2.map Prod.snd) = some [7, 8, 9] :=
  ⟨BddIsectEx.map_of_run (List.map Prod.snd) BddIsectEx.tdRun, BddIsectEx.map_of_run (List.map Prod.snd) BddIsectEx.tdRun7,
    BddIsectEx.map_of_run (List.map Prod.snd) BddIsectEx.buRun, BddIsectEx.map_of_run (List.map Prod.snd) isectEx_buRun7⟩

/-!
## items of the "not yet proved" blocks closed here

* `C08.lean`: "`C08_bu_isect_step` is ONE `SetMtbdd` of `Intersection`; the work-list that discovers the pairs of tuples and
  numbers the product states (`bdd_bu_tree_aut_isect.cc`, the counter of defect D10) is not modelled for the BDD encoding
  […] hence no theorem 'the symbolic intersection accepts exactly the intersection'" – now `C08_bu_isect`,
  `C08_isect_total`, `C08_isect_loaded`; "The top-down encoding […] `Intersection` […] on it are correspondence-check-only
  claims" – now `C08_td_isect`, `C08_isect_total`, `C08_isect_loaded`.
* `C08_Tables.lean` ("still open"): "the top-down `Intersection`, the product-state counter […] are not modelled here" –
  modelled in `Vata/BddIsect.lean`, `C08_td_isect`, `C20_bdd_isect_numbers_dense_partial`.
* `C20.lean`: `C20_product_map_injective_partial` says "the BDD-encoded intersections […], where the anchor of the property
  locates an uninitialised counter, have no Lean model", and the "not yet proved" block lists "the BDD-encoded automata
  (`bdd_*_isect.cc` with their product-state counters)" among the components without any model – the counters now have
  the model-level statement `C20_bdd_isect_numbers_dense_partial` (a PARTIAL claim, like all of C20).

## still open

* The result cache `ht` of `Apply2Functor` and the sharing of MTBDD nodes are not modelled (the model calls the leaf
  operation once per PATH; `C08_isect_apply_side_effect` shows that the additional calls change nothing).  The iteration
  orders of the hash containers of the C++ (`GetTransTable()`, the final-state sets) are list orders in the model, so the
  NUMBERS of the product states agree with the C++ only up to these orders; the SET of values (`c0 … c0+n-1`) does not
  depend on them.
* The symbol dictionary and the arity check of the Timbuk layer (arities below 64, `ArityOK` for tables obtained in other
  ways than loading and `GetTopDownAut`) are hypotheses here.  State numbers are unbounded `Nat`: overflow of `stateCnt`
  cannot be expressed.
* "None of these calls changes the language of an operand": the operand tables are values in the model.
-/
end Vata.Props
