import Vata.Proofs.RcStoreXHist
/-!
# The relative release theorem (C18: "the node store is back to the size it had before")

`same_nodes` (`Vata/Proofs/RcStoreHist.lean`): two stores without garbage, the second reached from the first, with the same
handle ↦ root map, have the same allocated nodes, the same unique-table entries and the same table sizes.
`xrelative_release`: for every history `h₁ ++ h₂` without `project` in which no handle that is live after `h₁` is the
target of an operation of `h₂` and every handle live at the end was live after `h₁`.
`xrelative_release_destroyNew`: the same with the destructors of all newer handles appended.
`decide`d histories showing that the theorem fails when `h₁` or `h₂` contains a `project` are in
`Vata/Properties/C18_Extended.lean`.
-/
namespace Vata.RcSX
open Vata.RcS

/-- the handle map after `h₁ ++ h₂` is the one after `h₁` if no old handle is a target in `h₂` and no newer handle
    survives -/
theorem hs_same (F : Fns) (h₁ h₂ : List Op)
    (hold : ∀ op, op ∈ h₂ → find op.target (runX F h₁).st.hs = none)
    (hnew : ∀ h, (find h (runX F (h₁ ++ h₂)).st.hs).isSome → (find h (runX F h₁).st.hs).isSome) :
    ∀ h r, (h, r) ∈ (runX F (h₁ ++ h₂)).st.hs ↔ (h, r) ∈ (runX F h₁).st.hs := by
  have hw1 := runX_winv F h₁
  have hw2 := runX_winv F (h₁ ++ h₂)
  have stable : ∀ h r, (h, r) ∈ (runX F h₁).st.hs → (h, r) ∈ (runX F (h₁ ++ h₂)).st.hs := by
    intro h r hm
    refine (xdenotation_stable F h₁ h₂ h r hm ?_).1
    intro op ho e
    have := hold op ho
    rw [e, mem_find hw1.hsK hm] at this
    cases this
  intro h r
  constructor
  · intro hm
    have h1 := hnew h (by rw [mem_find hw2.hsK hm]; rfl)
    cases hf : find h (runX F h₁).st.hs with
    | none => rw [hf] at h1; cases h1
    | some r' =>
      have hm' := find_some_mem hf
      have := keys_inj hw2.hsK (stable h r' hm') hm
      exact this ▸ hm'
  · exact stable h r

/-- **relative release**: `h₁ ++ h₂` without `project`; no handle live after `h₁` is created-into / assigned / destroyed
    in `h₂` (`hold`); every handle live at the end was live after `h₁`, i.e. every handle created in `h₂` has been
    destroyed (`hnew`).  Then the allocated nodes and both unique tables after `h₁ ++ h₂` are exactly those after `h₁`. -/
theorem xrelative_release (F : Fns) (h₁ h₂ : List Op) (np₁ : NoProj h₁) (np₂ : NoProj h₂)
    (hold : ∀ op, op ∈ h₂ → find op.target (runX F h₁).st.hs = none)
    (hnew : ∀ h, (find h (runX F (h₁ ++ h₂)).st.hs).isSome → (find h (runX F h₁).st.hs).isSome) :
    (∀ n, n ∈ (runX F (h₁ ++ h₂)).st.ids ↔ n ∈ (runX F h₁).st.ids) ∧
    (∀ e, e ∈ (runX F (h₁ ++ h₂)).st.leafT ↔ e ∈ (runX F h₁).st.leafT) ∧
    (∀ e, e ∈ (runX F (h₁ ++ h₂)).st.intT ↔ e ∈ (runX F h₁).st.intT) ∧
    tableSizes (runX F (h₁ ++ h₂)).st = tableSizes (runX F h₁).st ∧
    (runX F (h₁ ++ h₂)).st.ids.length = (runX F h₁).st.ids.length := by
  refine same_nodes (runX_inv F h₁ np₁) (runX_inv F _ (np₁.append np₂)) ?_ (hs_same F h₁ h₂ hold hnew)
  rw [runX_append]
  exact (foldlX_frame F h₂ _ (runX_winv F h₁)).2

/-! ### the form with explicit destructors -/

theorem destroyNew_eq (s₀ s : Store) :
    destroyNew s₀ s = (((s.hs.filter (fun e => (find e.1 s₀.hs).isNone))).map (·.1)).map Op.destroy := by
  simp [destroyNew, List.map_map, Function.comp_def]

/-- **relative release, destructor form**: after any `h₁` and any continuation `h₂` (both without `project`) that does
    not create-into / assign / destroy a handle that was live after `h₁`, running the destructors of all handles that
    are live now but were not live after `h₁` brings the allocated nodes and both unique tables back to exactly what they
    were after `h₁` -/
theorem xrelative_release_destroyNew (F : Fns) (h₁ h₂ : List Op) (np₁ : NoProj h₁) (np₂ : NoProj h₂)
    (hold : ∀ op, op ∈ h₂ → find op.target (runX F h₁).st.hs = none) :
    let d := destroyNew (runX F h₁).st (runX F (h₁ ++ h₂)).st
    (∀ n, n ∈ (runX F (h₁ ++ (h₂ ++ d))).st.ids ↔ n ∈ (runX F h₁).st.ids) ∧
    (∀ e, e ∈ (runX F (h₁ ++ (h₂ ++ d))).st.leafT ↔ e ∈ (runX F h₁).st.leafT) ∧
    (∀ e, e ∈ (runX F (h₁ ++ (h₂ ++ d))).st.intT ↔ e ∈ (runX F h₁).st.intT) ∧
    tableSizes (runX F (h₁ ++ (h₂ ++ d))).st = tableSizes (runX F h₁).st ∧
    (runX F (h₁ ++ (h₂ ++ d))).st.ids.length = (runX F h₁).st.ids.length := by
  intro d
  have hd : d = _ := destroyNew_eq (runX F h₁).st (runX F (h₁ ++ h₂)).st
  have hmemL : ∀ h, h ∈ ((runX F (h₁ ++ h₂)).st.hs.filter (fun e => (find e.1 (runX F h₁).st.hs).isNone)).map (·.1) →
      find h (runX F h₁).st.hs = none := by
    intro h hm
    obtain ⟨⟨h', r⟩, he, rfl⟩ := List.mem_map.mp hm
    have := (List.mem_filter.mp he).2
    simpa using this
  refine xrelative_release F h₁ (h₂ ++ d) np₁ (np₂.append (hd ▸ noProj_destroys _)) ?_ ?_
  · intro op ho
    rcases List.mem_append.mp ho with ho | ho
    · exact hold op ho
    · rw [hd] at ho
      obtain ⟨h, hm, rfl⟩ := List.mem_map.mp ho
      exact hmemL h hm
  · intro h hs
    cases hf : find h (runX F (h₁ ++ (h₂ ++ d))).st.hs with
    | none => rw [hf] at hs; cases hs
    | some r =>
      have hm := find_some_mem hf
      rw [← List.append_assoc, runX_append, hd] at hm
      obtain ⟨a, b⟩ := foldlX_destroy_keep F _ _ (runX_winv F (h₁ ++ h₂)) h r hm
      cases hf1 : find h (runX F h₁).st.hs with
      | some _ => rfl
      | none =>
        exfalso
        apply b
        exact List.mem_map.mpr ⟨(h, r), List.mem_filter.mpr ⟨a, by simp [hf1]⟩, rfl⟩

end Vata.RcSX
