import Vata.Proofs.AntichainOrd
import Vata.Proofs.TimbukOrder
/-!
# Utility classes behind C01 / C07 / C09 – the antichain containers of the inclusion algorithms

> `Antichain1C`, `SequentialAntichain1C`, `Antichain2Cv2` and `OrderedAntichain2C` (src/antichain1c.hh,
> src/antichain2c_v2.hh, src/ordered_antichain2c.hh) are the containers in which the upward / downward tree inclusion
> algorithms and the antichain word inclusion algorithm keep their macro-state pairs.  The inclusion properties C01, C07,
> C09 rely on them behaving as "a set of minimal pairs standing for its upward closure" and "a work-list that yields a
> smallest pair".

* **Model of the code (L2).**  `Vata/Antichain.lean`: every public member as coded, parameterised by the comparators.
  The correspondence check (`achain` cases: `harness/ops/op_achain.inc`, `Driver/AchainChk.lean`, `tools/gen_achain.py`) replays
  histories on the real classes and compares every answer and the full content after every step with these models.
* **Theorems.**  `Vata/Proofs/Antichain.lean` (1C, sequential), `Vata/Proofs/AntichainTwo.lean` (2C),
  `Vata/Proofs/AntichainOrd.lean` (ordered).  This file restates the main ones under the names `Util_Antichain_…` and
  instantiates them with the orders the correspondence check uses (keys `Nat`, elements finite sets of `Nat`, subset
  comparator, the `Less` of `explicit_finite_incl_fctor_cache.hh`).

Which assumption is needed where (counterexamples are `example`s next to the theorems in the proof files):

| statement | assumptions |
|---|---|
| `contains` ⇔ ∃ stored element under a given key with `cmp(stored, Q)` | none |
| `refine` removes exactly those with `cmp(stored, Q)` under the given keys; eraser called on exactly those, once, in order | representation invariant (`WF`, holds after any history); "once" needs unique node identities (holds after any history) |
| combination keeps the antichain invariant | candidate lists right on the stored keys (`CandOk`); neither reflexivity nor transitivity |
| combination keeps "represented set = cones of everything offered" | transitivity of both orders (counterexample `1 ≤ 2 ≤ 3`, not `1 ≤ 3`) |
| combination never stores a pair twice (contract of `OrderedAntichain2C::insert`) | reflexivity of both orders (counterexample: `<`) |
| work-list = antichain, `get` returns a least element and removes exactly it | `Less` irreflexive + transitive, `insert` inside its contract (no `Less`-equivalent element present; counterexamples below) – for the combination: reflexive orders and a TOTAL `Less` |
| no dangling iterator in the ordered set | `Less` irreflexive + transitive; ANY history, in or out of the contract |
-/
namespace Vata.Props
open Vata.AC

/-! ### the orders of the correspondence check -/

theorem subsetB_iff (a b : NSet) : subsetB a b = true ↔ ∀ x, x ∈ a → x ∈ b := by
  simp [subsetB, List.all_eq_true]

theorem subsetB_refl (a : NSet) : subsetB a a = true := (subsetB_iff a a).2 (fun _ h => h)

theorem subsetB_trans (a b c : NSet) (h1 : subsetB a b = true) (h2 : subsetB b c = true) : subsetB a c = true :=
  (subsetB_iff a c).2 (fun x h => (subsetB_iff b c).1 h2 x ((subsetB_iff a b).1 h1 x h))

/-- the coded form of one level of a lexicographic comparison on `Nat` keys -/
theorem ite_lt_iff (x y : Nat) (r : Bool) :
    (if x < y then true else if y < x then false else r) = true ↔ LexStep (· < ·) x y (r = true) := by
  by_cases h1 : x < y
  · rw [if_pos h1]; exact iff_of_true rfl (Or.inl h1)
  · rw [if_neg h1]
    by_cases h2 : y < x
    · rw [if_pos h2]
      exact iff_of_false Bool.false_ne_true (fun h => h.elim h1 (fun h => by omega))
    · rw [if_neg h2]
      exact ⟨fun h => Or.inr ⟨by omega, h⟩, fun h => h.elim (fun h => absurd h h1) And.right⟩

theorem nat_tri {x y : Nat} (h1 : ¬ x < y) (h2 : ¬ y < x) : x = y :=
  Nat.le_antisymm (Nat.le_of_not_lt h2) (Nat.le_of_not_lt h1)

theorem lexLt_cons_iff (x y : Nat) (xs ys : List Nat) :
    lexLt (x :: xs) (y :: ys) = true ↔ LexStep (· < ·) x y (lexLt xs ys = true) := by
  rw [lexLt]; exact ite_lt_iff x y _

theorem lexLt_irrefl : ∀ a : List Nat, lexLt a a = false
  | [] => rfl
  | x :: xs => Bool.eq_false_iff.2 fun h =>
    LexStep.irrefl (Nat.lt_irrefl x) (Bool.eq_false_iff.1 (lexLt_irrefl xs)) ((lexLt_cons_iff x x xs xs).1 h)

theorem lexLt_trans (a b c : List Nat) (h1 : lexLt a b = true) (h2 : lexLt b c = true) : lexLt a c = true := by
  induction a generalizing b c with
  | nil => cases b with
    | nil => cases h1
    | cons y ys => cases c with
      | nil => cases h2
      | cons z zs => rfl
  | cons x xs ih => cases b with
    | nil => cases h1
    | cons y ys => cases c with
      | nil => cases h2
      | cons z zs =>
        exact (lexLt_cons_iff x z xs zs).2
          (LexStep.trans Nat.lt_trans (ih ys zs) ((lexLt_cons_iff x y xs ys).1 h1) ((lexLt_cons_iff y z ys zs).1 h2))
theorem lexLt_total (a b : List Nat) (h1 : lexLt a b = false) (h2 : lexLt b a = false) : a = b := by
  induction a generalizing b with
  | nil => cases b with
    | nil => rfl
    | cons y ys => cases h1
  | cons x xs ih => cases b with
    | nil => cases h2
    | cons y ys =>
      obtain ⟨e, n1, n2⟩ := LexStep.total nat_tri (mt (lexLt_cons_iff x y xs ys).2 (Bool.eq_false_iff.1 h1))
        (mt (lexLt_cons_iff y x ys xs).2 (Bool.eq_false_iff.1 h2))
      rw [e, ih ys (Bool.eq_false_iff.2 n1) (Bool.eq_false_iff.2 n2)]

/-- the `Less` of the word inclusion checker (size of the set, then the key, then the set) as a proposition -/
theorem less0_iff (a b : Nat × NSet) :
    lessOf 0 a b = true ↔ LexStep (· < ·) a.2.length b.2.length (LexStep (· < ·) a.1 b.1 (lexLt a.2 b.2 = true)) := by
  rw [← ite_lt_iff, ← ite_lt_iff]; rfl

theorem less0_strict : Ord.StrictOrd (lessOf 0) where
  irrefl a := Bool.eq_false_iff.2 fun h =>
    LexStep.irrefl (Nat.lt_irrefl _) (LexStep.irrefl (Nat.lt_irrefl _) (Bool.eq_false_iff.1 (lexLt_irrefl a.2)))
      ((less0_iff a a).1 h)
  trans a b c h1 h2 := (less0_iff a c).2
    (LexStep.trans Nat.lt_trans (LexStep.trans Nat.lt_trans (lexLt_trans a.2 b.2 c.2)) ((less0_iff a b).1 h1)
      ((less0_iff b c).1 h2))

theorem less0_total : Ord.Total (lessOf 0) := by
  intro a b h1 h2
  obtain ⟨_, n1, n2⟩ := LexStep.total nat_tri (mt (less0_iff a b).2 (Bool.eq_false_iff.1 h1))
    (mt (less0_iff b a).2 (Bool.eq_false_iff.1 h2))
  obtain ⟨e, m1, m2⟩ := LexStep.total nat_tri n1 n2
  exact Prod.ext e (lexLt_total a.2 b.2 (Bool.eq_false_iff.2 m1) (Bool.eq_false_iff.2 m2))

/-! ### `Antichain2Cv2`: members -/

/-- `contains(keys, Q, cmp)` answers `true` iff some element `P` stored under one of the given keys satisfies
`cmp(P, Q)` – stored element first, as coded.  No assumption on `cmp` or on the container. -/
theorem Util_Antichain_contains {κ β : Type} [DecidableEq κ] (d : Two.Data κ β) (keys : List κ) (Q : β) (cmp : β → β → Bool) :
    Two.contains d keys Q cmp = true ↔ ∃ p, p ∈ keys ∧ ∃ n, n ∈ Two.listOf d p ∧ cmp n.2 Q = true :=
  Two.contains_iff d keys Q cmp

example : Two.contains [(1, [(0, [0, 2]), (1, [])]), (0, [(2, [5])])] [7, 0] [5, 6] subsetB = true := by decide
example : Two.contains [(1, [(0, [0, 2]), (1, [])]), (0, [(2, [5])])] [7, 0] [6] subsetB = false := by decide

/-- `refine(keys, Q, cmp, eraser)`: under each given key exactly the elements with `cmp(P, Q)` go (the lists keep their
order, other keys are untouched, the representation invariant is kept – a key whose list runs empty disappears); the
eraser is called on exactly the removed nodes, on each once, in the order `Two.erased` (candidates in the given order,
each list front to back). -/
theorem Util_Antichain_refine {κ β σ : Type} [DecidableEq κ] {d : Two.Data κ β} (hw : Two.WF d) (hi : Two.IdsOk d)
    (keys : List κ) (Q : β) (cmp : β → β → Bool) (er : κ → Nat → β → σ → σ) (s : σ) :
    Two.WF (Two.refine d keys Q cmp er s).1 ∧
      (∀ k, Two.listOf (Two.refine d keys Q cmp er s).1 k =
        if k ∈ keys then (Two.listOf d k).filter (fun P => !cmp P.2 Q) else Two.listOf d k) ∧
      (Two.refine d keys Q cmp er s).2 = (Two.erased cmp Q d keys).foldl (fun s e => er e.1 e.2.1 e.2.2 s) s ∧
      (∀ e, e ∈ Two.erased cmp Q d keys ↔ e.1 ∈ keys ∧ e.2 ∈ Two.listOf d e.1 ∧ cmp e.2.2 Q = true) ∧
      (Two.erased cmp Q d keys).Nodup := by
  refine ⟨?_, fun k => ?_, Two.refine_snd _ _ _ _ _ _, fun e => Two.mem_erased _ _ _ hw.1 e,
    Two.nodup_erased _ _ _ hw.1 (Two.listOf_nodup_of_idsOk hi)⟩
  · rw [Two.refine_fst]; exact Two.wf_refineD _ _ _ hw
  · rw [Two.refine_fst]; exact Two.listOf_refineD _ _ _ hw.1 k

/-- a duplicated candidate key, an absent key, a key that runs empty; the eraser records its calls -/
example :
    Two.refine [(1, [(0, [0, 2]), (1, []), (3, [0])]), (0, [(2, [0, 5])])] [0, 1, 1, 7] [0] (fun P Q => subsetB Q P)
        (fun p i _ (l : List (Nat × Nat)) => l ++ [(p, i)]) []
      = ([(1, [(1, [])])], [(0, 2), (1, 0), (1, 3)]) := by decide +kernel

/-- `insert`, `get`, `remove`, `lookup`, `size`, `empty` in terms of the stored lists -/
theorem Util_Antichain_members {κ β : Type} [DecidableEq κ] {d : Two.Data κ β} (hw : Two.WF d) :
    (∀ i q Q k, Two.listOf (Two.insert d i q Q) k = if k = q then Two.listOf d q ++ [(i, Q)] else Two.listOf d k) ∧
    (∀ k n d', Two.get d k = some (n, d') →
      ∃ l, Two.listOf d k = n :: l ∧ ∀ k', Two.listOf d' k' = if k' = k then l else Two.listOf d k') ∧
    (∀ k, Two.get d k = none ↔ k ∉ Two.keys d) ∧
    (∀ q i k, Two.listOf (Two.remove d q i) k =
      if k = q then (Two.listOf d q).filter (fun P => P.1 != i) else Two.listOf d k) ∧
    (∀ k, Two.lookup d k = if Two.listOf d k = [] then none else some (Two.listOf d k)) ∧
    Two.size d = ((Two.keys d).map (fun k => (Two.listOf d k).length)).sum ∧
    (Two.empty d = true ↔ ∀ k, Two.listOf d k = []) :=
  ⟨fun i q Q k => Two.listOf_insert d i q Q k, fun _ _ _ h => Two.get_spec hw.1 h, fun k => Two.get_eq_none_iff hw.2 k,
    fun q i k => Two.listOf_remove q i hw.1 k, fun k => Two.lookup_of_wf hw k, Two.size_eq hw.1, Two.empty_iff hw⟩

/-! ### the combination `if (!contains(up, Q, ≤)) { refine(down, Q, ≥); insert(q, Q); }` -/

/-- history theorem: after ANY sequence of offered pairs – candidate lists `up q = {p | q ≤ p}`, `down q = {p | p ≤ q}` as
in the tree algorithm – the container is an antichain (no stored pair covers another stored pair, where `(p, P)` covers
`(q, Q)` iff `q ≤ p` and `P ≤ Q`), it stands for exactly the pairs covered by something that was ever offered, its
representation invariant holds, and (reflexive orders) no pair is stored twice -/
theorem Util_Antichain_offer_history {κ β : Type} [DecidableEq κ] {kle : κ → κ → Bool} {le : β → β → Bool} {up down : κ → List κ}
    (hkrf : ∀ a, kle a a = true) (hktr : ∀ a b c, kle a b = true → kle b c = true → kle a c = true)
    (hlrf : ∀ a, le a a = true) (hltr : ∀ a b c, le a b = true → le b c = true → le a c = true)
    (hup : ∀ q p, p ∈ up q ↔ kle q p = true) (hdown : ∀ q p, p ∈ down q ↔ kle p q = true) (xs : List (κ × β)) :
    let d := (Two.runOffers up down le ([], 0) xs).1
    Two.WF d ∧ Two.IdsOk d ∧ Two.Anti kle le d ∧ Two.ValsNodup d ∧
      ∀ x X, Two.Rep kle le d x X ↔ ∃ y, y ∈ xs ∧ Two.Covers kle le y.1 y.2 x X := by
  obtain ⟨h1, h2, h3, h4⟩ := Two.runOffers_empty (le := le) hktr hltr hup hdown xs
  exact ⟨h1, h2, h3, Two.runOffers_valsNodup hkrf hlrf hup xs (s := ([], 0)) Two.wf_nil (by intro k; simp [Two.listOf]), h4⟩

/-- the hypotheses are satisfiable: identity on the keys (`up q = down q = [q]`, as `up_tree_incl_fctor.hh` passes them),
subset on the sets -/
example (xs : List (Nat × NSet)) :
    let d := (Two.runOffers (fun q => [q]) (fun q => [q]) subsetB ([], 0) xs).1
    Two.WF d ∧ Two.IdsOk d ∧ Two.Anti (fun a b => a == b) subsetB d ∧ Two.ValsNodup d ∧
      ∀ x X, Two.Rep (fun a b => a == b) subsetB d x X ↔ ∃ y, y ∈ xs ∧ Two.Covers (fun a b => a == b) subsetB y.1 y.2 x X :=
  Util_Antichain_offer_history (kle := fun a b => a == b) (by simp)
    (by intro a b c h1 h2; simp only [beq_iff_eq] at h1 h2 ⊢; rw [h1, h2])
    subsetB_refl subsetB_trans (by intro q p; simp only [List.mem_singleton, beq_iff_eq]; exact eq_comm) (by intro q p; simp) xs

/-- … and a proper preorder on the keys: `0 ≤ 1` besides the identity (`ind[0] = {0,1}`, `inv[1] = {0,1}`) -/
example (xs : List (Nat × NSet)) :
    let kle : Nat → Nat → Bool := fun a b => a == b || (a == 0 && b == 1)
    let up : Nat → List Nat := fun q => if q = 0 then [0, 1] else [q]
    let down : Nat → List Nat := fun q => if q = 1 then [0, 1] else [q]
    Two.Anti kle subsetB (Two.runOffers up down subsetB ([], 0) xs).1 := by
  intro kle up down
  refine (Util_Antichain_offer_history (kle := kle) (up := up) (down := down) ?_ ?_ subsetB_refl subsetB_trans ?_ ?_ xs).2.2.1
  · intro a; simp [kle]
  · intro a b c; simp only [kle, Bool.or_eq_true, Bool.and_eq_true, beq_iff_eq]; omega
  · intro q p; simp only [up, kle, Bool.or_eq_true, Bool.and_eq_true, beq_iff_eq]
    split <;> simp <;> omega
  · intro q p; simp only [down, kle, Bool.or_eq_true, Bool.and_eq_true, beq_iff_eq]
    split <;> simp <;> omega

/-- one step, with the weaker requirement that fits the word algorithm too (candidates drawn from the keys seen so far):
the candidate lists have to be right only on the keys that store something -/
theorem Util_Antichain_offer_step {κ β : Type} [DecidableEq κ] {kle : κ → κ → Bool} {le : β → β → Bool} {d : Two.Data κ β}
    (hw : Two.WF d) (hktr : ∀ a b c, kle a b = true → kle b c = true → kle a c = true)
    (hltr : ∀ a b c, le a b = true → le b c = true → le a c = true)
    {up down : List κ} {q : κ} (hc : Two.CandOk kle d up down q) (i : Nat) (Q : β) (ha : Two.Anti kle le d) :
    Two.WF (Two.offer d up down le i q Q) ∧ Two.Anti kle le (Two.offer d up down le i q Q) ∧
      ∀ x X, Two.Rep kle le (Two.offer d up down le i q Q) x X ↔ Two.Rep kle le d x X ∨ Two.Covers kle le q Q x X :=
  ⟨Two.wf_offer hw _ _ _ _ _ _, Two.offer_anti hw.1 hc i Q ha, Two.offer_rep hw.1 hktr hltr hc i Q⟩

/-- the instance of the correspondence check: identity on the keys, subset on the sets; `{1,2}`, then `{1}` (replaces it),
then `{1,3}` (covered), under another key `{1,3}` -/
example :
    (Two.runOffers (fun q => [q]) (fun q => [q]) subsetB ([], 0) [(0, [1, 2]), (0, [1]), (0, [1, 3]), (1, [1, 3])]).1
      = [(0, [(1, [1])]), (1, [(2, [1, 3])])] := by decide +kernel

/-- the same for `Antichain1C` (the `post` sets; keeps the maximal keys) -/
theorem Util_Antichain_post_history {κ : Type} [DecidableEq κ] {kle : κ → κ → Bool} {up down : κ → List κ}
    (htr : ∀ a b c, kle a b = true → kle b c = true → kle a c = true)
    (hup : ∀ q p, p ∈ up q ↔ kle q p = true) (hdown : ∀ q p, p ∈ down q ↔ kle p q = true) (qs : List κ) :
    (One.runOffers up down [] qs).Nodup ∧ One.Anti kle (One.runOffers up down [] qs) ∧
      ∀ x, One.Rep kle (One.runOffers up down [] qs) x ↔ ∃ q, q ∈ qs ∧ kle x q = true := by
  obtain ⟨h1, h2, h3⟩ := One.runOffers_spec htr hup hdown qs (d := []) List.nodup_nil (fun _ _ h => nomatch h)
  exact ⟨h1, h2, fun x => (h3 x).trans (or_iff_right (fun ⟨_, h, _⟩ => nomatch h))⟩

example :
    let kle : Nat → Nat → Bool := fun a b => a ≤ b && b < 3 || a == b
    One.runOffers (fun q => (List.range 5).filter (kle q)) (fun q => (List.range 5).filter (kle · q)) [] [1, 0, 4, 2, 1] = [4, 2] := by
  decide +kernel

/-- and for `SequentialAntichain1C::insert(key, cmp)` (`cmp(a, b)`: "a ≤ b"; keeps the maximal elements) -/
theorem Util_Antichain_seq_history {α : Type} {cmp : α → α → Bool}
    (htr : ∀ a b c, cmp a b = true → cmp b c = true → cmp a c = true) (ks : List α) :
    Seq.Anti cmp (Seq.run cmp [] ks) ∧ ∀ x, Seq.Rep cmp (Seq.run cmp [] ks) x ↔ ∃ k, k ∈ ks ∧ cmp x k = true := by
  obtain ⟨h1, h2⟩ := Seq.run_spec htr ks (d := []) (by simp [Seq.Anti])
  exact ⟨h1, fun x => by rw [h2]; simp [Seq.Rep]⟩

/-! ### `OrderedAntichain2C`: the work-list -/

/-- `get()` of the ordered work-list, as long as `insert` has been used inside its contract (`Ord.OInv`): the returned
pair is stored, it is LEAST w.r.t. `Less` among everything stored, exactly its node leaves the antichain, and the
invariant is kept.  `get()` answers `false` iff nothing is stored. -/
theorem Util_Antichain_get_least {κ β : Type} [DecidableEq κ] {lt : κ × β → κ × β → Bool} (h : Ord.StrictOrd lt)
    {o : Ord.State κ β} (ho : Ord.OInv lt o) :
    (Ord.get o = none ↔ ∀ k, Two.listOf o.ac k = []) ∧
    ∀ e o', Ord.get o = some (e, o') →
      e.2 ∈ Two.listOf o.ac e.1 ∧
      (∀ k n, n ∈ Two.listOf o.ac k → (k, n) = e ∨ Ord.ltE lt e (k, n) = true) ∧
      (∀ k, Two.listOf o'.ac k =
        if k = e.1 then (Two.listOf o.ac e.1).filter (fun P => P.1 != e.2.1) else Two.listOf o.ac k) ∧
      Ord.OInv lt o' :=
  ⟨Ord.get_none_iff ho, fun _ _ hg => Ord.get_spec h ho hg⟩

/-- history theorem for the work-list of the word inclusion checker (`AddToNext` and `get` in ANY interleaving), with the
`Less` of `explicit_finite_incl_fctor_cache.hh` (size of the set, key, the set itself) and the subset comparator: the
work-list and its antichain always hold the same nodes – so every `get` returns a least stored pair – and the antichain
invariant holds -/
theorem Util_Antichain_worklist_history {kle : Nat → Nat → Bool} (hkrf : ∀ a, kle a a = true) {up down : Nat → List Nat}
    (hup : ∀ q p, p ∈ up q ↔ kle q p = true) (hdown : ∀ q p, p ∈ down q ↔ kle p q = true) (ops : List (Ord.WOp Nat NSet)) :
    let s := Ord.wrun (lessOf 0) up down subsetB (Ord.init, 0) ops
    Ord.OInv (lessOf 0) s.1 ∧ Two.Anti kle subsetB s.1.ac :=
  have h := Ord.wrun_inv less0_strict less0_total hkrf subsetB_refl hup hdown ops (s := (Ord.init, 0))
    (Ord.oinv_init _) (by intro k a h; simp [Ord.init] at h) (by intro k k' a b h; simp [Ord.init] at h)
  ⟨h.1, h.2.2⟩

/-- the hypotheses are satisfiable: identity on the keys -/
example (ops : List (Ord.WOp Nat NSet)) :
    Ord.OInv (lessOf 0) (Ord.wrun (lessOf 0) (fun q => [q]) (fun q => [q]) subsetB (Ord.init, 0) ops).1 :=
  (Util_Antichain_worklist_history (kle := fun a b => a == b) (by simp) (by intro q p; simp only [List.mem_singleton, beq_iff_eq]; exact eq_comm) (by intro q p; simp) ops).1

/-- smallest set first; the pair `(0,{1,2})` is replaced by `(0,{1})` before it is ever returned -/
example :
    let s := Ord.wrun (lessOf 0) (fun q => [q]) (fun q => [q]) subsetB (Ord.init, 0)
      [.offer 0 [1, 2], .offer 1 [1, 2, 3], .offer 0 [1], .get, .offer 1 [4]]
    s.1.data = [(1, 3, [4]), (1, 1, [1, 2, 3])] ∧ s.1.ac = [(1, [(1, [1, 2, 3]), (3, [4])])] := by decide +kernel

/-- OUTSIDE the contract of `insert` (an element equivalent to the new one is present – here the same pair twice) the
work-list and the antichain get out of step: the second node never enters the ordered set, `get` never returns it,
`empty()` answers `true` while the antichain still holds it.  (In a debug build the `assert`s of `insert` / `get` fire.) -/
example :
    let o := Ord.insert (lessOf 0) (Ord.insert (lessOf 0) Ord.init 0 7 [5]) 1 7 [5]
    o.data = [(7, 0, [5])] ∧ o.ac = [(7, [(0, [5]), (1, [5])])] ∧
      (Ord.get o).map (fun x => (Ord.get x.2).isNone && Ord.empty x.2 && !Two.empty x.2.ac) = some true := by decide +kernel

/-- a `Less` that is not total (only the size of the set) breaks the combination although both orders are reflexive and
transitive: the second of two incomparable pairs of equal size is stored in the antichain but never put on the work-list -/
example :
    let s := Ord.wrun (lessOf 1) (fun q => [q]) (fun q => [q]) subsetB (Ord.init, 0) [.offer 0 [1], .offer 0 [2]]
    s.1.data = [(0, 0, [1])] ∧ s.1.ac = [(0, [(0, [1]), (1, [2])])] := by decide +kernel

/-! ### any history on the classes as such -/

/-- after ANY list of operations (every public member, arbitrary comparators, any number of objects, `swap` included)
on initially empty `Antichain2Cv2` objects: every key once, no key with an empty list, every node identity once -/
theorem Util_Antichain_any_history_2C {κ β : Type} [DecidableEq κ] (ops : List (Two.Op κ β)) (m : Nat) :
    ∀ d, d ∈ (Two.run ⟨List.replicate m [], 0⟩ ops).objs → Two.WF d ∧ Two.IdsOk d :=
  fun d hd => ⟨(Two.run_inv_init ops m d hd).1, (Two.run_inv_init ops m d hd).2.1⟩

/-- after ANY list of operations on initially empty `OrderedAntichain2C` objects, in or out of the contract of `insert`:
the antichain part is well-formed, the ordered set is strictly ascending and each of its elements refers to a node that
is still in the antichain (no dangling iterator is ever dereferenced by the comparison functor) -/
theorem Util_Antichain_any_history_ordered {κ β : Type} [DecidableEq κ] {lt : κ × β → κ × β → Bool} (h : Ord.StrictOrd lt)
    (ops : List (Ord.Op κ β)) (m : Nat) :
    ∀ o, o ∈ (Ord.run lt ⟨List.replicate m Ord.init, 0⟩ ops).objs → Ord.OWeak lt o := by
  intro o ho
  refine (Ord.run_weak h ops (P := ⟨List.replicate m Ord.init, 0⟩) ?_ o ho).1
  intro o' ho'
  have : o' = Ord.init := (List.mem_replicate.1 ho').2
  subst this
  exact ⟨Ord.oweak_init lt, by intro k a h; simp [Ord.init] at h⟩

/-- after ANY list of operations on `Antichain1C` objects: no key twice -/
theorem Util_Antichain_any_history_1C {κ : Type} [DecidableEq κ] (ops : List (One.Op κ)) (m : Nat) :
    ∀ d, d ∈ One.run (List.replicate m []) ops → d.Nodup := by
  apply One.run_nodup
  intro d hd
  have : d = [] := (List.mem_replicate.1 hd).2
  subst this; exact List.nodup_nil

/-!
## not proved / not modelled

* `operator<<` of the four classes (serialisation in hash order) is neither modelled nor checked.
* `Antichain2Cv2::get` and `Antichain1C::next` return `*data_.begin()` of a hash container: WHICH key comes first is
  unspecified; the models take it as an argument, the theorems hold for every choice, the correspondence check accepts
  any stored key.
* The link "these containers, used by `explicit_tree_incl_up.cc` / `explicit_finite_incl_fctor_cache.hh`, make the
  inclusion verdict right" is the subject of C01 / C07 / C09 (`Vata/InclUp.lean`, `Vata/NfaIncl.lean` model the
  algorithms with their own lists); no theorem connects those models to the container models of this file.
* The third criterion of the real `Less` functors is an ADDRESS (`StateSet*`); the instantiation proved total here
  compares the sets themselves.  Totality of the real functor on stored pairs needs the macro-state cache to intern equal
  sets (see the "not yet proved" block of `C09.lean`).
* `Less` functors that are not strict weak orders are outside the model (`std::set` has undefined behaviour there).
-/
end Vata.Props
