import Vata.Proofs.ComplOrdFifo
/-!
# Complementation: the finished run is certified, and termination of the model and of the reference

The model `complTD` is the FIFO instance of the exploration with an arbitrary order (`runOrd_fifo`), so what holds of
every order holds of it: a finished run passes the certificate check, and `2 ^ |states A| + 1` units of fuel suffice.
For the reference `complRef`, `2 ^ |states A|` units suffice.
-/
namespace Vata
namespace Compl
open InclUp (normS mem_normS normS_sorted)

/-- non-vacuity: the work-list finishes on a nondeterministic input (four macro-states, eight rules) -/
example : ((tdRun Ex.aLeft Ex.sg 20).map (fun st => (st.cache, st.rules.length))) = some ([[2], [0], [], [1]], 8) := by
  decide +kernel

theorem tdRun_total {A : TA} {Sg : List (Nat × Nat)} {fuel : Nat} (h : 2 ^ A.states.length + 1 ≤ fuel) :
    ∃ st, tdRun A Sg fuel = some st := by
  obtain ⟨s, hs⟩ := runOrd_total (onTodo pickFifo) (A := A) (Sg := Sg) h
  exact ⟨s.st, by rw [← runOrd_fifo, runOrd, hs]; rfl⟩

theorem complTD_total {A : TA} {Sg : List (Nat × Nat)} {fuel : Nat} (h : 2 ^ A.states.length + 1 ≤ fuel) :
    ∃ C, complTD A Sg fuel = some C := by
  obtain ⟨st, hst⟩ := tdRun_total (Sg := Sg) h
  rw [complTD_eq, hst]
  exact ⟨_, rfl⟩

theorem post_small (A : TA) (f : Nat) (ps : List (List Nat)) : Small (stU A) (normS (post A f ps)) := by
  refine ⟨normS_sorted _, ?_⟩
  intro q hq
  obtain ⟨r, hr, _, _, hp⟩ := mem_post'.mp (mem_normS.mp hq)
  exact mem_stU.mpr (Or.inr ⟨r, hr, Or.inl hp⟩)

theorem detStep_small (A : TA) (Sg : List (Nat × Nat)) (Ps : List (List Nat)) : AllSmall A (detStep A Sg Ps) := by
  intro p hp
  simp only [detStep, List.mem_flatMap, List.mem_map] at hp
  obtain ⟨fa, _, ps, _, rfl⟩ := hp
  exact post_small A _ _

theorem beqR_isEqv : Total.IsEqv beqR where
  refl := fun _ => beq_self_eq_true _
  symm := fun _ _ h => by rw [beqR, beq_iff_eq] at h ⊢; exact h.symm
  trans := fun _ _ _ h h' => by rw [beqR, beq_iff_eq] at h h' ⊢; exact h'.trans h

/-- every profile the saturation stores is a sorted list of states of `A`, and the sorted sublists of `stU A` represent
them all -/
theorem detSat_total {A : TA} {Sg : List (Nat × Nat)} (fuel : Nat) (h : 2 ^ (stU A).length ≤ fuel) :
    (detSat A Sg fuel []).isSome = true := by
  rw [detSat_eq]
  refine Total.gsat_isSome beqR_isEqv _ (InclUp.subsets (stU A)) (AllSmall A)
    (Total.gsat_gen _ fun P _ => detStep_small A Sg P) (fun P _ p hp => ?_) fuel [] (fun _ h => nomatch h) ?_
  · have := detStep_small A Sg P p hp
    exact ⟨p, sorted_mem_subsets (normS_sorted _) this.1 this.2, beq_self_eq_true p⟩
  · exact Nat.le_trans (Total.uncov_le_length _ _ _) (InclUp.length_subsets _ ▸ h)

theorem complRef_total {A : TA} {Sg : List (Nat × Nat)} {fuel : Nat} (h : 2 ^ A.states.length ≤ fuel) :
    ∃ C, complRef A Sg fuel = some C :=
  Option.isSome_iff_exists.mp (Option.isSome_map.trans (detSat_total fuel (Nat.le_trans (pow_stU_le A) h)))

theorem complTD_correct (A : TA) (Sg : List (Nat × Nat)) :
    ∃ C, complTD A Sg (2 ^ A.states.length + 1) = some C ∧
      ∀ t, (overSig Sg t = true → accepts C t = !accepts A t) ∧ (overSig Sg t = false → accepts C t = false) := by
  obtain ⟨C, hC⟩ := complTD_total (A := A) (Sg := Sg) (Nat.le_refl _)
  exact ⟨C, hC, complTD_spec hC⟩

theorem complRef_correct (A : TA) (Sg : List (Nat × Nat)) :
    ∃ C, complRef A Sg (2 ^ A.states.length) = some C ∧
      ∀ t, (overSig Sg t = true → accepts C t = !accepts A t) ∧ (overSig Sg t = false → accepts C t = false) := by
  obtain ⟨C, hC⟩ := complRef_total (A := A) (Sg := Sg) (Nat.le_refl _)
  exact ⟨C, hC, complRef_spec hC⟩

theorem complTD_equiv_complRef {A : TA} {Sg : List (Nat × Nat)} {f₁ f₂ : Nat} {C D : TA}
    (h₁ : complTD A Sg f₁ = some C) (h₂ : complRef A Sg f₂ = some D) : ∀ t, accepts C t = accepts D t :=
  IsComplOver.unique (complTD_spec h₁) (complRef_spec h₂)

/-- non-vacuity of the fuel bounds: `aLeft` has three states, so `9` resp. `8` units suffice -/
example : 2 ^ Ex.aLeft.states.length + 1 ≤ 9 := by decide

end Compl
end Vata
