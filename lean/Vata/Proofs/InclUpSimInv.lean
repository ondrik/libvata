import Vata.Proofs.InclUpSim
import Vata.Proofs.InclUpInv
/-!
# The exploration of `inclUpSim` is right by itself (partial correctness of `InclUpSim.run`)

The main theorems of `Vata/Proofs/InclUpSim.lean` trust only the final Boolean checks.  Here the work-list algorithm with
the relation is analysed, for a relation `R` that is transitive (the computed upward simulation is a preorder):

* `run_ok_cert`   : when the exploration ends with `return true` and `R` keeps final states of `B` final (`FinB`), the final
                    antichain passes `upCertSimB` (so for a validated relation the check never turns a finished `true`
                    run into `none`);
* `run_error_ok`  : when it ends with `return false` at `(q, t)` and `R` is moreover an upward simulation of the disjoint
                    union, then `q ∈ reach A t` and either `q` is final and `B` does not accept `t`, or no state of `B`
                    reaches `t` (`InclUp.ErrOK`).

`InclUpSim.run` is the exploration of `Vata/Proofs/InclUpGen.lean` over the operations `ops R B`; what is proved here is
what these operations guarantee.
-/
namespace Vata
namespace InclUpSim
open InclUp

theorem le_iff {R : Rel} {a b : Nat} : le R a b = true ↔ (a, b) ∈ R := List.contains_iff_mem

theorem LeqP.refl (R : Rel) (a : Nat) : LeqP R a a := Or.inl rfl

theorem LeqP.of_le {R : Rel} {a b : Nat} (h : le R a b = true) : LeqP R a b := Or.inr (le_iff.mp h)

theorem LeqP.trans {R : Rel} (htr : ∀ a b c, (a, b) ∈ R → (b, c) ∈ R → (a, c) ∈ R) {a b c : Nat}
    (h₁ : LeqP R a b) (h₂ : LeqP R b c) : LeqP R a c := by
  rcases h₁ with rfl | h₁
  · exact h₂
  · rcases h₂ with rfl | h₂
    · exact Or.inr h₁
    · exact Or.inr (htr _ _ _ h₁ h₂)

/-- what `lte R X Y = true` gives (`lte_imp`), read with the reflexive closure `LeqP`: every state of `X` is below some state
of `Y` -/
def Below (R : Rel) (X Y : List Nat) : Prop := ∀ x, x ∈ X → ∃ y, y ∈ Y ∧ LeqP R x y

theorem Below.of_sub {R : Rel} {X Y : List Nat} (h : ∀ x, x ∈ X → x ∈ Y) : Below R X Y :=
  fun x hx => ⟨x, h x hx, LeqP.refl R x⟩

theorem Below.refl (R : Rel) (X : List Nat) : Below R X X := Below.of_sub fun _ h => h

theorem Below.trans {R : Rel} (htr : ∀ a b c, (a, b) ∈ R → (b, c) ∈ R → (a, c) ∈ R) {X Y Z : List Nat}
    (h₁ : Below R X Y) (h₂ : Below R Y Z) : Below R X Z := by
  intro x hx
  obtain ⟨y, hy, hxy⟩ := h₁ x hx
  obtain ⟨z, hz, hyz⟩ := h₂ y hy
  exact ⟨z, hz, hxy.trans htr hyz⟩

theorem lte_imp {R : Rel} {X Y : List Nat} (h : lte R X Y = true) : Below R X Y := by
  simp only [lte, Bool.or_eq_true, beq_iff_eq, List.all_eq_true, List.any_eq_true] at h
  rcases h with rfl | h
  · exact Below.refl R X
  · exact fun x hx => (h x hx).imp fun _ hy => ⟨hy.1, LeqP.of_le hy.2⟩

theorem skipSim_imp {R : Rel} {q : Nat} {S : List Nat} (h : skipSim R q S = true) : ∃ s, s ∈ S ∧ LeqP R q s := by
  rw [skipSim, List.any_eq_true] at h
  exact h.imp fun _ hs => ⟨hs.1, LeqP.of_le hs.2⟩

/-- what `subsumed R P q S = true` gives (`subsumed_imp`): a pair of `P` whose state is above `q` and whose macro-state is
`Below` `S` -/
def SubR (R : Rel) (P : List Item) (q : Nat) (S : List Nat) : Prop := ∃ i, i ∈ P ∧ LeqP R q i.q ∧ Below R i.S S

/-- `(q, S)` need not be recorded: a state of `S` is above `q` (what `skipSim` gives, `skipSim_imp`) or `P` subsumes it -/
def CovR (R : Rel) (P : List Item) (q : Nat) (S : List Nat) : Prop := (∃ s, s ∈ S ∧ LeqP R q s) ∨ SubR R P q S

theorem subsumed_imp {R : Rel} {P : List Item} {q : Nat} {S : List Nat} (h : subsumed R P q S = true) :
    SubR R P q S := by
  simp only [subsumed, List.any_eq_true, Bool.and_eq_true] at h
  exact h.imp fun _ hi => ⟨hi.1, LeqP.of_le hi.2.1, lte_imp hi.2.2⟩

theorem mem_refine {R : Rel} {P : List Item} {q : Nat} {S : List Nat} {i : Item} :
    i ∈ refine R P q S ↔ i ∈ P ∧ (le R i.q q && lte R S i.S) = false := by
  rw [refine, List.mem_filter, Bool.not_eq_true']

def ops (R : Rel) (B : TA) : UpGen.Ops where
  sub := subsumed R
  keep := fun it i => !(le R i.q it.q && lte R it.S i.S)
  post := macroPost R B
  skip := skipSim R

def spec {R : Rel} (B : TA) (htr : ∀ a b c, (a, b) ∈ R → (b, c) ∈ R → (a, c) ∈ R) : UpGen.Spec (ops R B) where
  Sb := fun i q S => LeqP R q i.q ∧ Below R i.S S
  Sk := fun q S => ∃ s, s ∈ S ∧ LeqP R q s
  sub_sound := subsumed_imp
  refl := fun _ => ⟨LeqP.refl R _, Below.refl R _⟩
  trans := fun h h' => ⟨h.1.trans htr h'.1, h'.2.trans htr h.2⟩
  mono := fun h hS => ⟨h.1, h.2.trans htr (Below.of_sub hS)⟩
  keep_false := fun {it i} (h : (!(le R i.q it.q && lte R it.S i.S)) = false) => by
    rw [Bool.not_eq_false', Bool.and_eq_true] at h
    exact ⟨LeqP.of_le h.1, lte_imp h.2⟩
  skip_sound := skipSim_imp
  skip_mono := fun h hS => h.imp fun s hs => ⟨hS s hs.1, hs.2⟩

theorem CovR.mono {R : Rel} {P : List Item} {q : Nat} {S S' : List Nat} (h : CovR R P q S)
    (hs : ∀ x, x ∈ S → x ∈ S') : CovR R P q S' :=
  h.imp (fun h => h.imp fun s h => ⟨hs s h.1, h.2⟩) fun h => h.imp fun _ hi =>
    ⟨hi.1, hi.2.1, fun x hx => (hi.2.2 x hx).imp fun y hy => ⟨hs y hy.1, hy.2⟩⟩

/-- `R` never leads from a final state of `B` to a non-final one; an upward simulation on `A ⊎ B` has this (`fin_of_sim`), and
the flag `isAccepting` of a pruned macro-state is right because of it -/
def FinB (B : TA) (R : Rel) : Prop := ∀ s s', (s, s') ∈ R → s ∈ B.final → s' ∈ B.states → s' ∈ B.final

theorem mem_minStep {R : Rel} {B : TA} {acc : List Nat × Bool} {s x : Nat} (h : x ∈ (minStep R B acc s).1) :
    x ∈ acc.1 ∨ x = s := by
  unfold minStep at h
  split at h
  · exact Or.inl h
  · exact (List.mem_append.mp h).imp (fun h => (List.mem_filter.mp h).1) List.mem_singleton.mp

theorem mem_macroPost_sub {R : Rel} {B : TA} {f : Nat} {Ss : List (List Nat)} {x : Nat}
    (h : x ∈ (macroPost R B f Ss).1) : x ∈ post B f Ss :=
  List.foldlRecOn (post B f Ss) (minStep R B) (b := ([], false)) (motive := fun acc => ∀ x, x ∈ acc.1 → x ∈ post B f Ss)
    (fun _ h => (List.not_mem_nil h).elim) (fun _ hacc _ hs x hx => (mem_minStep hx).elim (hacc x) (· ▸ hs)) x
    (mem_normS.mp h)

theorem postIn (R : Rel) (B : TA) : UpGen.PostIn (ops R B) B := fun _ _ _ => mem_macroPost_sub

theorem post_states {B : TA} {f : Nat} {Ss : List (List Nat)} {x : Nat} (hx : x ∈ post B f Ss) : x ∈ B.states := by
  obtain ⟨r, hr, _, _, hp⟩ := mem_post'.mp hx
  exact hp ▸ parent_mem_states hr

theorem macroPost_flag {R : Rel} {B : TA} (hfin : FinB B R) (f : Nat) (Ss : List (List Nat)) :
    (macroPost R B f Ss).2 = true ↔ ∃ s, s ∈ (macroPost R B f Ss).1 ∧ s ∈ B.final := by
  refine Iff.trans ?_ (exists_congr fun s => and_congr_left' mem_normS.symm)
  refine List.foldlRecOn (post B f Ss) (minStep R B) (b := ([], false))
    (motive := fun acc => acc.2 = true ↔ ∃ s, s ∈ acc.1 ∧ s ∈ B.final)
    ⟨fun h => (Bool.false_ne_true h).elim, fun ⟨_, h, _⟩ => (List.not_mem_nil h).elim⟩ fun acc hacc s hs => ?_
  unfold minStep
  split
  · exact hacc
  · simp only [Bool.or_eq_true, List.contains_iff_mem, List.mem_append, List.mem_filter, List.mem_singleton,
      Bool.not_eq_true']
    constructor
    · rintro (hf | hf)
      · obtain ⟨w, hw, hwf⟩ := hacc.mp hf
        cases hle : le R w s with
        | false => exact ⟨w, Or.inl ⟨hw, hle⟩, hwf⟩
        | true => exact ⟨s, Or.inr rfl, hfin w s (le_iff.mp hle) hwf (post_states hs)⟩
      · exact ⟨s, Or.inr rfl, hf⟩
    · rintro ⟨x, hx | rfl, hxf⟩
      · exact Or.inl (hacc.mpr ⟨x, hx.1, hxf⟩)
      · exact Or.inr hxf

theorem foldl_minStep_cover {R : Rel} {B : TA} (htr : ∀ a b c, (a, b) ∈ R → (b, c) ∈ R → (a, c) ∈ R) {y : Nat}
    (l : List Nat) : ∀ acc : List Nat × Bool, ((∃ x, x ∈ acc.1 ∧ LeqP R y x) ∨ y ∈ l) →
      ∃ x, x ∈ (l.foldl (minStep R B) acc).1 ∧ LeqP R y x := by
  induction l with
  | nil => exact fun _ h => h.elim id fun h => nomatch h
  | cons s l ih =>
    intro acc h
    apply ih (minStep R B acc s)
    have hs : ∃ x, x ∈ (minStep R B acc s).1 ∧ LeqP R s x := by
      unfold minStep
      split
      · next ha => exact (List.any_eq_true.mp ha).imp fun p hp => ⟨hp.1, LeqP.of_le hp.2⟩
      · exact ⟨s, List.mem_append_right _ (List.mem_singleton.mpr rfl), LeqP.refl R s⟩
    rcases h with ⟨x, hx, hyx⟩ | h
    · left
      unfold minStep
      split
      · exact ⟨x, hx, hyx⟩
      · cases hle : le R x s with
        | false => exact ⟨x, List.mem_append_left _ (List.mem_filter.mpr ⟨hx, by rw [hle]; rfl⟩), hyx⟩
        | true =>
          exact ⟨s, List.mem_append_right _ (List.mem_singleton.mpr rfl), hyx.trans htr (LeqP.of_le hle)⟩
    · rcases List.mem_cons.mp h with rfl | h
      · exact Or.inl hs
      · exact Or.inr h

theorem macroPost_cover {R : Rel} {B : TA} (htr : ∀ a b c, (a, b) ∈ R → (b, c) ∈ R → (a, c) ∈ R) {f : Nat}
    {Ss : List (List Nat)} : Below R (post B f Ss) (macroPost R B f Ss).1 :=
  fun _ hy => (foldl_minStep_cover (B := B) htr (post B f Ss) ([], false) (Or.inr hy)).imp fun _ hx =>
    ⟨mem_normS.mpr hx.1, hx.2⟩

theorem stepChoices_eq (R : Rel) (A B : TA) (ρ : Rule) : ∀ (iss : List (List Item)) (tmp : List Item),
    stepChoices R A B ρ iss tmp = iss.foldlM (UpGen.stepChoice (ops R B) A ρ) tmp :=
  foldlM_unique (fun _ => rfl) fun is iss tmp => by
    rw [stepChoices]
    show _ = stepChoice R A B ρ tmp is >>= _
    cases stepChoice R A B ρ tmp is <;> rfl

theorem procTask_eq (R : Rel) (A B : TA) (it : Item) (ρ : Rule) (j : Nat) (st : St) :
    procTask R A B it ρ j st = UpGen.procTask (ops R B) A it st (ρ, j) := by
  rw [procTask, stepChoices_eq, UpGen.procTask]
  cases (choicesAt st.processed it ρ.kids j).foldlM (UpGen.stepChoice (ops R B) A ρ) [] with
  | error e => rfl
  | ok tmp => exact (List.foldlM_pure (m := Res) (f := addItem R)).symm

theorem procTasks_eq (R : Rel) (A B : TA) (it : Item) : ∀ (T : List (Rule × Nat)) (st : St),
    procTasks R A B it T st = T.foldlM (UpGen.procTask (ops R B) A it) st :=
  foldlM_unique (fun _ => rfl) fun p T st => by
    rw [procTasks, ← procTask_eq]
    cases procTask R A B it p.1 p.2 st <;> rfl

theorem loop_eq (R : Rel) (A B : TA) (n : Nat) : ∀ st : St, loop R A B n st = UpGen.loop (ops R B) A n st := by
  induction n with
  | zero => exact fun _ => rfl
  | succ n ih =>
    rintro ⟨P, N⟩
    cases N with
    | nil => rfl
    | cons it rest =>
      rw [UpGen.loop_cons, ← procTasks_eq]
      show (match procTasks R A B it (tasks A it.q) ⟨P, rest⟩ with
        | Except.error e => some (Except.error e)
        | Except.ok st' => loop R A B n st') = _
      cases procTasks R A B it (tasks A it.q) ⟨P, rest⟩ with
      | error e => rfl
      | ok st' => exact ih st'

theorem leafStep_eq (R : Rel) (A B : TA) (st : St) (ρ : Rule) : UpGen.leafStep (ops R B) A st ρ =
    if ρ.kids.isEmpty then
      if !(macroPost R B ρ.sym []).2 && A.final.contains ρ.parent then .error (ρ.parent, .node ρ.sym [])
      else if skipSim R ρ.parent (macroPost R B ρ.sym []).1 then .ok st
      else .ok (addItem R st ⟨ρ.parent, (macroPost R B ρ.sym []).1, .node ρ.sym []⟩)
    else .ok st := rfl

theorem leafPhase_eq (R : Rel) (A B : TA) : ∀ (ρs : List Rule) (st : St),
    leafPhase R A B ρs st = ρs.foldlM (UpGen.leafStep (ops R B) A) st :=
  foldlM_unique (fun _ => rfl) fun ρ ρs st => by
    rw [leafPhase, leafStep_eq]
    dsimp only
    by_cases hk : ρ.kids.isEmpty = true
    · by_cases hb : (!(macroPost R B ρ.sym []).2 && A.final.contains ρ.parent) = true
      · rw [if_pos hk, if_pos hk, if_pos hb, if_pos hb]; rfl
      by_cases hs : skipSim R ρ.parent (macroPost R B ρ.sym []).1 = true
      · rw [if_pos hk, if_pos hk, if_neg hb, if_neg hb, if_pos hs, if_pos hs]; rfl
      · rw [if_pos hk, if_pos hk, if_neg hb, if_neg hb, if_neg hs, if_neg hs]; rfl
    · rw [if_neg hk, if_neg hk]; rfl

theorem run_eq (R : Rel) (A B : TA) (fuel : Nat) : run R A B fuel = UpGen.run (ops R B) A B fuel := by
  rw [run, UpGen.run, leafPhase_eq]
  cases sizeExit A B with
  | some ρ => rfl
  | none =>
    cases A.rules.foldlM (UpGen.leafStep (ops R B) A) ⟨[], []⟩ with
    | error e => rfl
    | ok st => exact loop_eq R A B fuel st

theorem good_inherits {R : Rel} (A : TA) {B : TA} (hfin : FinB B R) : UpGen.Inherits (ops R B) A
    (fun i => i.q ∈ A.states ∧ (i.q ∈ A.final → accepting B i.S = true)) (fun _ => True) :=
  ⟨fun hρ _ hf => ⟨parent_mem_states hρ, fun h => accepting_iff.mpr ((macroPost_flag hfin _ _).mp (hf h))⟩,
    fun _ _ _ => trivial⟩

theorem upCertSimB_of_closed {R : Rel} {A B : TA} (htr : ∀ a b c, (a, b) ∈ R → (b, c) ∈ R → (a, c) ∈ R)
    {P : List Item} (hC : UpGen.Closed (spec B htr) A B ⟨P, []⟩)
    (hG : ∀ i, i ∈ P → i.q ∈ A.states ∧ (i.q ∈ A.final → accepting B i.S = true)) :
    upCertSimB A B R (pairs P) = true := by
  rw [upCertSimB_iff]
  refine ⟨fun ρ hρ Ss hSs => ?_, fun q S hqS => ?_, fun q S hqS hf => ?_⟩
  · obtain ⟨is, his, rfl⟩ := choice_of_pairs hSs
    refine (hC ρ hρ is (his.imp fun i hi => ⟨hi, List.not_mem_nil⟩)).imp id fun ⟨i, hi, hq, hbel⟩ => ?_
    exact ⟨i.q, i.S, mem_pairs.mpr ⟨i, hi, rfl, rfl⟩, hq, hbel⟩
  · obtain ⟨i, hi, rfl, rfl⟩ := mem_pairs.mp hqS
    exact (hG i hi).1
  · obtain ⟨i, hi, rfl, rfl⟩ := mem_pairs.mp hqS
    exact accepting_iff.mp ((hG i hi).2 hf)

theorem run_ok_cert {R : Rel} (htr : ∀ a b c, (a, b) ∈ R → (b, c) ∈ R → (a, c) ∈ R) {A B : TA}
    (hfin : FinB B R) {fuel : Nat} {P : List Item}
    (h : run R A B fuel = some (.ok P)) : upCertSimB A B R (pairs P) = true := by
  rw [run_eq] at h
  exact upCertSimB_of_closed htr (UpGen.run_closed (spec B htr) (postIn R B) h)
    (UpGen.run_all (good_inherits A hfin) (fun _ _ => trivial) h)

theorem fin_of_sim {A B : TA} {R : Rel} (hsim : IsUpSim (unionDisjoint A B) (RelOf R))
    (hdis : ∀ q, q ∈ A.states → q ∉ B.states) : FinB B R := by
  intro s s' h hs hs'
  exact (List.mem_append.mp ((hsim s s' h).1 (List.mem_append_right _ hs))).elim
    (fun hA => absurd hs' (hdis s' (final_mem_states hA))) id

theorem inclUpSim_of_run_ok {R : Rel} (htr : ∀ a b c, (a, b) ∈ R → (b, c) ∈ R → (a, c) ∈ R) {A B : TA}
    (hsim : isUpSimB (unionDisjoint A B) R = true) (hdis : InclDown.disjointB A B = true) {fuel : Nat}
    {P : List Item} (h : run R A B fuel = some (.ok P)) : inclUpSim A B R fuel = some (true, .closed (pairs P)) := by
  have := run_ok_cert htr (fin_of_sim ((isUpSimB_iff _ R).mp hsim) (InclDown.disjointB_iff.mp hdis)) h
  rw [inclUpSim, h]
  exact if_pos (by rw [hsim, hdis]; exact this)

theorem upSim_leqP {U : TA} {R : Rel} (hR : IsUpSim U (RelOf R)) : IsUpSim U (LeqP R) := by
  intro q r h
  rcases h with rfl | h
  · exact ⟨id, fun ρ hρ i hi => ⟨ρ, hρ, rfl, (SimModel.setAt_self _ _ _ hi).symm, LeqP.refl R _⟩⟩
  · obtain ⟨h1, h2⟩ := hR q r h
    exact ⟨h1, fun ρ hρ i hi => (h2 ρ hρ i hi).imp fun σ hσ => ⟨hσ.1, hσ.2.1, hσ.2.2.1, Or.inr hσ.2.2.2⟩⟩

/-- the tree of a pair reaches its `A`-state; its macro-state consists of states that `B` reaches on the tree, and every
state that `B` reaches on the tree is below one of them -/
def TreeOKR (R : Rel) (A B : TA) (i : Item) : Prop :=
  i.q ∈ reach A i.t ∧ (∀ x, x ∈ i.S → x ∈ reach B i.t) ∧ Below R (reach B i.t) i.S

theorem choice_matchR {R : Rel} {A B : TA} {ks : List Nat} {is : List Item} (h : Choice (TreeOKR R A B) ks is) :
    matchKids ks (reachL A (is.map (·.t))) = true ∧
    All2 (fun s s' => ∀ q, q ∈ s → q ∈ s') (is.map (·.S)) (reachL B (is.map (·.t))) ∧
    All2 (fun P T => ∀ s, s ∈ P → ∃ s', s' ∈ T ∧ LeqP R s s' ∧ s' ∈ B.states)
      (reachL B (is.map (·.t))) (is.map (·.S)) := by
  induction h with
  | nil => exact ⟨rfl, All2.nil, All2.nil⟩
  | @cons k i ks is hd _ ih =>
    simp only [List.map_cons, reachL, matchKids, Bool.and_eq_true, List.contains_iff_mem]
    refine ⟨⟨hd.1 ▸ hd.2.1, ih.1⟩, All2.cons hd.2.2.1 ih.2.1, All2.cons (fun s hs => ?_) ih.2.2⟩
    exact (hd.2.2.2 s hs).imp fun s' hs' => ⟨hs'.1, hs'.2, reach_mem_states B i.t s' (hd.2.2.1 s' hs'.1)⟩

structure SimHyp (R : Rel) (A B : TA) : Prop where
  trans : ∀ a b c, (a, b) ∈ R → (b, c) ∈ R → (a, c) ∈ R
  sim : IsUpSim (unionDisjoint A B) (RelOf R)
  dis : ∀ q, q ∈ A.states → q ∉ B.states

theorem SimHyp.fin {R : Rel} {A B : TA} (h : SimHyp R A B) : FinB B R := fin_of_sim h.sim h.dis

theorem mkItem_treeOK {R : Rel} {A B : TA} (hR : SimHyp R A B) {ρ : Rule} {is : List Item} (hρ : ρ ∈ A.rules)
    (h : Choice (TreeOKR R A B) ρ.kids is) : TreeOKR R A B (UpGen.mkItem (ops R B) ρ is) := by
  obtain ⟨h1, h2, h3⟩ := choice_matchR h
  refine ⟨InclUp.mem_reach_node.mpr ⟨ρ, hρ, rfl, h1, rfl⟩, fun x hx => ?_, fun y hy => ?_⟩
  · have := post_mono B ρ.sym h2 x (mem_macroPost_sub hx)
    rwa [← reach_node] at this
  · have hy : y ∈ post B ρ.sym (reachL B (is.map (·.t))) := reach_node B _ _ ▸ hy
    obtain ⟨y', hy', hyy'⟩ := post_sim (comp_right A B hR.dis) (upSim_leqP hR.sim) (LeqP.refl R)
      (fun _ _ _ h₁ h₂ => h₁.trans hR.trans h₂) ρ.sym h3 y hy
    exact (macroPost_cover (B := B) hR.trans y' hy').imp fun x hx => ⟨hx.1, hyy'.trans hR.trans hx.2⟩

theorem errOK_of_mkItem {R : Rel} {A B : TA} (hfin : FinB B R) {ρ : Rule} {is : List Item}
    (h : TreeOKR R A B (UpGen.mkItem (ops R B) ρ is)) (hc : UpGen.Fails (ops R B) A ρ is) :
    ErrOK A B (ρ.parent, (UpGen.mkItem (ops R B) ρ is).t) := by
  refine ⟨h.1, hc.symm.imp (fun hc => ⟨hc.2, Bool.eq_false_iff.mpr fun hb => ?_⟩) fun hc x hx => ?_⟩
  · obtain ⟨y, hy, hyf⟩ := accepting_iff.mp hb
    obtain ⟨x, hx, hyx⟩ := h.2.2 y hy
    refine Bool.eq_false_iff.mp hc.1 ((macroPost_flag hfin _ _).mpr ⟨x, hx, ?_⟩)
    exact hyx.elim (· ▸ hyf) fun hyx => hfin y x hyx hyf (reach_mem_states B _ x (h.2.1 x hx))
  · obtain ⟨y, hy, _⟩ := h.2.2 x hx
    exact List.not_mem_nil (hc ▸ hy)

theorem tree_inherits {R : Rel} {A B : TA} (hR : SimHyp R A B) :
    UpGen.Inherits (ops R B) A (TreeOKR R A B) (ErrOK A B) :=
  ⟨fun hρ h _ => mkItem_treeOK hR hρ h, fun hρ h hf => errOK_of_mkItem hR.fin (mkItem_treeOK hR hρ h) hf⟩

theorem run_error_ok {R : Rel} {A B : TA} (hR : SimHyp R A B) {fuel : Nat} {e : Nat × Tree}
    (h : run R A B fuel = some (.error e)) : ErrOK A B e := by
  rw [run_eq] at h
  exact UpGen.run_all (tree_inherits hR) (fun _ => sizeExit_ok) h

theorem run_ok_tree {R : Rel} {A B : TA} (hR : SimHyp R A B) {fuel : Nat} {P : List Item}
    (h : run R A B fuel = some (.ok P)) : ∀ i, i ∈ P → TreeOKR R A B i := by
  rw [run_eq] at h
  exact UpGen.run_all (tree_inherits hR) (fun _ => sizeExit_ok) h

def transB (R : Rel) : Bool := R.all (fun p => R.all (fun p' => p.2 != p'.1 || R.contains (p.1, p'.2)))

theorem transB_sound {R : Rel} (h : transB R = true) : ∀ a b c, (a, b) ∈ R → (b, c) ∈ R → (a, c) ∈ R := by
  intro a b c hab hbc
  simp only [transB, List.all_eq_true, Bool.or_eq_true, bne_iff_ne, ne_eq, List.contains_iff_mem] at h
  rcases h (a, b) hab (b, c) hbc with h | h
  · exact absurd rfl h
  · exact h

namespace InvEx
open InclUpSimEx InclUpEx

#guard (match run exR exP exQ 20 with | some (.ok P) => pairs P == [(2, [12]), (3, [11])] | _ => false)
#guard (match run (upSimRef (unionDisjoint exG exH)) exG exH 20 with
  | some (.error (q, t)) => q == 2 && showTree t == "2(0,1)" | _ => false)
#guard (match run (upSimRef (unionDisjoint exDeep exA')) exDeep exA' 20 with
  | some (.error (q, t)) => q == 5 && showTree t == "2(0)" | _ => false)

example : transB exR = true ∧ transB (upSimRef (unionDisjoint exP exQ)) = true := by decide +kernel
example : FinB exQ exR :=
  fin_of_sim (A := exP) ((isUpSimB_iff _ _).mp (by decide +kernel)) (InclDown.disjointB_iff.mp (by decide +kernel))
example : ∃ P, run exR exP exQ 20 = some (.ok P) ∧ upCertSimB exP exQ exR (pairs P) = true := by
  refine ⟨_, rfl, ?_⟩
  exact run_ok_cert (transB_sound (by decide +kernel))
    (fin_of_sim (A := exP) ((isUpSimB_iff _ _).mp (by decide +kernel)) (InclDown.disjointB_iff.mp (by decide +kernel)))
    (fuel := 20) rfl
theorem exP_upSim : inclUpSim exP exQ exR 20 = some (true, .closed [(2, [12]), (3, [11])]) :=
  inclUpSim_of_run_ok (R := exR) (A := exP) (B := exQ) (transB_sound (by decide +kernel)) (by decide +kernel)
    (by decide +kernel) (fuel := 20) rfl

example : inclUpSim exP exQ exR 20 = some (true, .closed [(2, [12]), (3, [11])]) := exP_upSim
example : SimHyp (upSimRef (unionDisjoint exG exH)) exG exH :=
  ⟨(greatest_upSim_preorder _).2, upSimRef_sim _, InclDown.disjointB_iff.mp (by decide +kernel)⟩
example : ∃ e, run (upSimRef (unionDisjoint exG exH)) exG exH 20 = some (.error e) ∧ ErrOK exG exH e := by
  refine ⟨_, rfl, ?_⟩
  exact run_error_ok ⟨(greatest_upSim_preorder _).2, upSimRef_sim _, InclDown.disjointB_iff.mp (by decide +kernel)⟩
    (fuel := 20) rfl
example : ∀ i, i ∈ [(⟨2, [12], .node 0 []⟩ : Item)] → TreeOKR exR exP exQ i := by
  intro i hi
  rw [List.mem_singleton.mp hi]
  exact mkItem_treeOK (ρ := ⟨0, [], 2⟩) (is := [])
    ⟨transB_sound (by decide +kernel), (isUpSimB_iff _ _).mp (by decide +kernel),
      InclDown.disjointB_iff.mp (by decide +kernel)⟩
    (by decide) All2.nil

end InvEx

end InclUpSim
end Vata
