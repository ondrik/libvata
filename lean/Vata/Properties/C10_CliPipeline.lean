import Vata.Proofs.NfaCliPipelineIsect
import Vata.CliArgs -- `DecidableEq (Except ε α)`
/-!
# C10 (continued) – word automata: `Union` with its translation maps AS CODED, and what `vata -r expl_fa union|isect` print

> C10: the operations on explicit finite (word) automata – union, intersection, … – accept exactly the corresponding
> languages.

`C10.lean` proves the language statements for the set-level models of `Vata/NfaOps.lean` (`nfaUnionWith` takes the two
translation FUNCTIONS as given).  This file adds the code that produces them: `ExplicitFiniteAutCore::Union`
(`src/explicit_finite_union.cc`) with its two weak translators over caller-supplied maps – absent (`nullptr`), empty or
PRE-FILLED – and ONE counter that starts above the values of the maps (after the repair `73b68c90`; before: at 0), followed by
`ReindexStates (dst, index)` of both operands into ONE automaton (`SetStateFinal`, `SetExistingStateStart` with the start
symbols, the transitions); and the command-line pipeline `vata -r expl_fa union` (`cli/vata.cc`, `performOperation`; the same
template code as for trees: two loads with fresh state dictionaries on the shared alphabet, `Union` with two empty maps,
`CreateUnionStringToStateMap`, `DumpToString`) and `vata -r expl_fa isect` (`Intersection` with an empty product map,
`CreateProductStringToStateMap` as repaired, `DumpToString`).

## How the statement is read into the model

* **Model**: `nfasReindexInto`, `nfaUnionCodedOrd` (visiting orders of the hash containers as PARAMETERS), `nfaUnionCoded`
  (list order; `Option SMap`: `none` = `nullptr`), `nfaUnionCodedOld` (counter at 0) in `Vata/NfaLoadDump.lean`;
  `NfaCli.cliNfaUnionDesc`, `cliNfaUnion`, `cliNfaUnionText` (and `cliNfaIsect…`) in `Vata/NfaCliPipeline.lean`, built from
  `loadNFA` / `dumpNFA` (`C13_NfaLoadDump.lean`), `Glue.unionDict` (`CreateUnionStringToStateMap`), `CliPipe.productDictFixed`.
  A `StateToStateMap` is an association list in insertion order (`SMap`, as in `Vata/UnionModel.lean`).
* **"injective pre-filled maps with disjoint images"**: `Um.Inj m` (no two keys with the same value), `Um.Disj m m'` (no value
  in both).  Both empty maps, and the maps a previous `Union` returned (`C10_union_coded_maps`), satisfy them.  Without them the
  statement fails already for set-level reasons (two states of one operand forced onto one number).
* **language**: `acceptsW U.toNFA w` – paths from a start state to a final state; the start symbols are stated separately.
* **"the printed description, reloaded"**: the description `DumpToAutDesc` hands to the serializer is loaded again with a
  fresh state dictionary on the alphabet as the run left it.
-/
namespace Vata.Props
open Vata.NfaLD Vata.W Vata.NfaCli

/-- **`Union` as coded accepts the union** – maps absent (`none`), empty (`some []`) or pre-filled, provided the pre-filled maps
are injective with disjoint images – and every start state of either operand carries, under its new number, exactly its own
start symbols. -/
theorem C10_union_coded_lang (A B : NFAS) (pL pR : Option SMap) (hL : Um.Inj (pL.getD [])) (hR : Um.Inj (pR.getD []))
    (hD : Um.Disj (pL.getD []) (pR.getD [])) :
    (∀ w, acceptsW (nfaUnionCoded A B pL pR).1.toNFA w = (acceptsW A.toNFA w || acceptsW B.toNFA w)) ∧
    (∀ s, s ∈ A.start → (nfaUnionCoded A B pL pR).1.symsOf
      (applyMap (nfaUnionCodedOrd (nfaVisitOrder A) (nfaVisitOrder B) A B (pL.getD []) (pR.getD [])).2.1 s) = A.symsOf s) ∧
    (∀ s, s ∈ B.start → (nfaUnionCoded A B pL pR).1.symsOf
      (applyMap (nfaUnionCodedOrd (nfaVisitOrder A) (nfaVisitOrder B) A B (pL.getD []) (pR.getD [])).2.2 s) = B.symsOf s) :=
  nfaUnionCodedOrd_lang _ _ A B _ _ (fun _ h => mem_nfaVisitOrder.mpr h) (fun _ h => mem_nfaVisitOrder.mpr h) hL hR hD

/-- non-vacuity: pre-filled maps `6 ↦ 1` and `7 ↦ 0` -/
example : Um.Inj ((some [(6, 1)] : Option SMap).getD []) ∧ Um.Inj ((some [(7, 0)] : Option SMap).getD []) ∧
    Um.Disj ((some [(6, 1)] : Option SMap).getD []) ((some [(7, 0)] : Option SMap).getD []) :=
  ⟨smapInjB_sound (by decide +kernel), smapInjB_sound (by decide +kernel), smapDisjB_sound (by decide +kernel)⟩

/-- the same for ALL iteration orders of the hash containers (any visiting orders that cover the states of the operand) -/
theorem C10_union_coded_lang_any_order (oA oB : List Nat) (A B : NFAS) (mL mR : SMap)
    (hoA : ∀ q, q ∈ nfaStates A.toNFA → q ∈ oA) (hoB : ∀ q, q ∈ nfaStates B.toNFA → q ∈ oB)
    (hL : Um.Inj mL) (hR : Um.Inj mR) (hD : Um.Disj mL mR) :
    (∀ w, acceptsW (nfaUnionCodedOrd oA oB A B mL mR).1.toNFA w = (acceptsW A.toNFA w || acceptsW B.toNFA w)) ∧
    (∀ s, s ∈ A.start → (nfaUnionCodedOrd oA oB A B mL mR).1.symsOf
      (applyMap (nfaUnionCodedOrd oA oB A B mL mR).2.1 s) = A.symsOf s) ∧
    (∀ s, s ∈ B.start → (nfaUnionCodedOrd oA oB A B mL mR).1.symsOf
      (applyMap (nfaUnionCodedOrd oA oB A B mL mR).2.2 s) = B.symsOf s) :=
  nfaUnionCodedOrd_lang oA oB A B mL mR hoA hoB hL hR hD

example : ∀ q, q ∈ nfaStates (⟨⟨[5], [6], [(5, 0, 6)]⟩, [(5, [8])]⟩ : NFAS).toNFA → q ∈ [6, 5] := by decide +kernel

/-- the maps `Union` leaves in the caller's variables: they extend the pre-filled maps, are defined on all states of their
operand, and are again injective with disjoint images – the precondition of the next `Union` -/
theorem C10_union_coded_maps (A B : NFAS) (mL mR : SMap) (hL : Um.Inj mL) (hR : Um.Inj mR) (hD : Um.Disj mL mR) :
    (nfaUnionCoded A B (some mL) (some mR)).2.1 =
      some (nfaUnionCodedOrd (nfaVisitOrder A) (nfaVisitOrder B) A B mL mR).2.1 ∧
    (nfaUnionCoded A B (some mL) (some mR)).2.2 =
      some (nfaUnionCodedOrd (nfaVisitOrder A) (nfaVisitOrder B) A B mL mR).2.2 ∧
    Um.Inj (nfaUnionCodedOrd (nfaVisitOrder A) (nfaVisitOrder B) A B mL mR).2.1 ∧
    Um.Inj (nfaUnionCodedOrd (nfaVisitOrder A) (nfaVisitOrder B) A B mL mR).2.2 ∧
    Um.Disj (nfaUnionCodedOrd (nfaVisitOrder A) (nfaVisitOrder B) A B mL mR).2.1
      (nfaUnionCodedOrd (nfaVisitOrder A) (nfaVisitOrder B) A B mL mR).2.2 ∧
    Um.Ext mL (nfaUnionCodedOrd (nfaVisitOrder A) (nfaVisitOrder B) A B mL mR).2.1 ∧
    Um.Ext mR (nfaUnionCodedOrd (nfaVisitOrder A) (nfaVisitOrder B) A B mL mR).2.2 ∧
    (∀ q, q ∈ nfaStates A.toNFA → ∃ n, (nfaUnionCodedOrd (nfaVisitOrder A) (nfaVisitOrder B) A B mL mR).2.1.lookup q = some n) ∧
    (∀ q, q ∈ nfaStates B.toNFA → ∃ n, (nfaUnionCodedOrd (nfaVisitOrder A) (nfaVisitOrder B) A B mL mR).2.2.lookup q = some n) := by
  obtain ⟨_, _, _, h4, h5, h6, h7, h8, h9, h10⟩ := nfaUnionCodedFrom_maps (unionCnt mL mR) (nfaVisitOrder A) (nfaVisitOrder B)
    A B mL mR (fun _ h => mem_nfaVisitOrder.mpr h) (fun _ h => mem_nfaVisitOrder.mpr h)
    (Um.below_unionCnt_left mL mR) (Um.below_unionCnt_right mL mR) hL hR hD
  exact ⟨rfl, rfl, h4, h5, h6, h7, h8, h9, h10⟩

example : Um.Inj ([(6, 1)] : SMap) ∧ Um.Inj ([(7, 0)] : SMap) ∧ Um.Disj ([(6, 1)] : SMap) [(7, 0)] :=
  ⟨smapInjB_sound (by decide +kernel), smapInjB_sound (by decide +kernel), smapDisjB_sound (by decide +kernel)⟩

/-- **Regression (repair `73b68c90`).**  Before the repair the counter started at `0` whatever the maps contained.  With the
pre-filled maps `6 ↦ 1` (left) and `7 ↦ 0` (right) – injective, disjoint images – the state 5 of the left operand got the number
0 and the state 5 of the right operand the number 1, which is the number of the left operand's state 6: the result accepts the
word `0 1`, which neither operand accepts.  The repaired code gives 5 ↦ 2 and 5 ↦ 3 and rejects it. -/
theorem C10_union_counter_from_zero_counterexample :
    Um.Inj ([(6, 1)] : SMap) ∧ Um.Inj ([(7, 0)] : SMap) ∧ Um.Disj ([(6, 1)] : SMap) [(7, 0)] ∧
    acceptsW (⟨⟨[5], [6], [(5, 0, 6)]⟩, [(5, [8])]⟩ : NFAS).toNFA [0, 1] = false ∧
    acceptsW (⟨⟨[5], [5], [(5, 1, 5)]⟩, [(5, [9])]⟩ : NFAS).toNFA [0, 1] = false ∧
    acceptsW (nfaUnionCodedOld ⟨⟨[5], [6], [(5, 0, 6)]⟩, [(5, [8])]⟩ ⟨⟨[5], [5], [(5, 1, 5)]⟩, [(5, [9])]⟩
      (some [(6, 1)]) (some [(7, 0)])).1.toNFA [0, 1] = true ∧
    (nfaUnionCodedOld ⟨⟨[5], [6], [(5, 0, 6)]⟩, [(5, [8])]⟩ ⟨⟨[5], [5], [(5, 1, 5)]⟩, [(5, [9])]⟩
      (some [(6, 1)]) (some [(7, 0)])).2 = (some [(6, 1), (5, 0)], some [(7, 0), (5, 1)]) ∧
    acceptsW (nfaUnionCoded ⟨⟨[5], [6], [(5, 0, 6)]⟩, [(5, [8])]⟩ ⟨⟨[5], [5], [(5, 1, 5)]⟩, [(5, [9])]⟩
      (some [(6, 1)]) (some [(7, 0)])).1.toNFA [0, 1] = false ∧
    (nfaUnionCoded ⟨⟨[5], [6], [(5, 0, 6)]⟩, [(5, [8])]⟩ ⟨⟨[5], [5], [(5, 1, 5)]⟩, [(5, [9])]⟩
      (some [(6, 1)]) (some [(7, 0)])).2 = (some [(6, 1), (5, 2)], some [(7, 0), (5, 3)]) :=
  ⟨smapInjB_sound (by decide +kernel), smapInjB_sound (by decide +kernel), smapDisjB_sound (by decide +kernel),
    by decide +kernel⟩

/-- **`vata -r expl_fa union`**: for two word-shaped descriptions (any others make the load throw, `C13_nfa_load_rank2_throws`),
on an alphabet in the state its translator keeps (`[]` in the program), for either evaluation order: both loads succeed, the
pipeline – `Union` with two empty maps, `CreateUnionStringToStateMap`, the dump with the dictionary it built – succeeds, and the
description that is printed, loaded again (fresh state dictionary, the alphabet as the run left it), accepts exactly the union
of the languages of the two loaded automata. -/
theorem C10_cli_union_lang (rtl : Bool) (d₁ d₂ : AutDesc) (yd : WSymDict) (hyd : yd.Ok) (hw₁ : d₁.WordShaped)
    (hw₂ : d₂.WordShaped) :
    ∃ A sd₁ yd₁ B sd₂ yd₂ out, loadNFA rtl d₁ [] yd = .ok (A, sd₁, yd₁) ∧ loadNFA rtl d₂ [] yd₁ = .ok (B, sd₂, yd₂) ∧
      cliNfaUnionDesc rtl d₁ d₂ yd = .ok out ∧
      ∃ U sd' yd', loadNFA rtl out [] yd₂ = .ok (U, sd', yd') ∧
        ∀ w, acceptsW U.toNFA w = (acceptsW A.toNFA w || acceptsW B.toNFA w) := by
  obtain ⟨A, sd₁, yd₁, B, sd₂, yd₂, l1, l2, lb, o1, o2, y1, y2, sub, D1, D2⟩ := loadBoth_spec rtl d₁ d₂ yd hyd hw₁ hw₂
  obtain ⟨i1, i2, i3, iL, iR, iD, _, _, tL, tR⟩ := nfaUnionCodedFrom_maps (unionCnt [] []) (nfaVisitOrder A) (nfaVisitOrder B)
    A B [] [] (fun _ h => mem_nfaVisitOrder.mpr h) (fun _ h => mem_nfaVisitOrder.mpr h)
    (Um.below_unionCnt_left [] []) (Um.below_unionCnt_right [] []) Um.inj_nil Um.inj_nil (Um.disj_nil_left _)
  obtain ⟨hD, hI⟩ := reindexBoth_dumpable D1 D2 o1 o2 y1 y2 sub i1 i2 i3 iL iR iD tL tR
  obtain ⟨out, U, sd', yd', h1, h2, h3, _⟩ := nfa_dump_load_lang rtl _ _ _ y2 hD hI
  refine ⟨A, sd₁, yd₁, B, sd₂, yd₂, out, l1, l2, ?_, U, sd', yd', h2, ?_⟩
  · unfold cliNfaUnionDesc; rw [lb]; exact h1
  · intro w
    rw [h3 w]
    exact (nfaUnionCodedOrd_lang _ _ A B [] [] (fun _ h => mem_nfaVisitOrder.mpr h) (fun _ h => mem_nfaVisitOrder.mpr h)
      Um.inj_nil Um.inj_nil (Um.disj_nil_left _)).1 w

example : NfaCli.Test.dA.WordShaped ∧ NfaCli.Test.dB.WordShaped ∧ Dict.Ok ([] : WSymDict) :=
  ⟨by decide +kernel, by decide +kernel, Dict.ok_nil⟩

/-- executed: the states get the suffixes `_1` / `_2`, both start symbols of `x` are printed -/
example : cliNfaUnionDesc true NfaCli.Test.dA NfaCli.Test.dB [] = .ok
    ⟨"", [], [], ["r_1", "y_2"],
      [([], "s", "q_1"), ([], "s", "x_2"), ([], "t", "x_2"), (["q_1"], "f", "r_1"), (["r_1"], "f", "r_1"),
        (["x_2"], "f", "y_2"), (["y_2"], "f", "x_2")]⟩ := by decide +kernel

/-- **`vata -r expl_fa isect`**: for two word-shaped descriptions, either evaluation order: both loads succeed,
`CreateProductStringToStateMap` (as repaired, `222cfd8a`) is defined on the product map of `Intersection` (every discovered pair
consists of named states), the dump with the dictionary it built succeeds, and the description that is printed, loaded again
(fresh state dictionary, the alphabet as the run left it), accepts exactly the intersection of the languages of the two
loaded automata. -/
theorem C10_cli_isect_lang (rtl : Bool) (d₁ d₂ : AutDesc) (yd : WSymDict) (hyd : yd.Ok) (hw₁ : d₁.WordShaped)
    (hw₂ : d₂.WordShaped) :
    ∃ A sd₁ yd₁ B sd₂ yd₂ out, loadNFA rtl d₁ [] yd = .ok (A, sd₁, yd₁) ∧ loadNFA rtl d₂ [] yd₁ = .ok (B, sd₂, yd₂) ∧
      cliNfaIsectDesc rtl d₁ d₂ yd = .ok out ∧
      ∃ P sd' yd', loadNFA rtl out [] yd₂ = .ok (P, sd', yd') ∧
        ∀ w, acceptsW P.toNFA w = (acceptsW A.toNFA w && acceptsW B.toNFA w) := by
  obtain ⟨A, sd₁, yd₁, B, sd₂, yd₂, l1, l2, lb, _, _, y1, y2, sub, D1, D2⟩ := loadBoth_spec rtl d₁ d₂ yd hyd hw₁ hw₂
  obtain ⟨dict, hd, hD, hI⟩ := isect_dumpable D1 D2 y1 y2 sub
  obtain ⟨out, P, sd', yd', h1, h2, h3, _⟩ := nfa_dump_load_lang rtl _ _ _ y2 hD hI
  refine ⟨A, sd₁, yd₁, B, sd₂, yd₂, out, l1, l2, ?_, P, sd', yd', h2, ?_⟩
  · unfold cliNfaIsectDesc; rw [lb]; simp only; rw [hd]; exact h1
  · intro w
    rw [h3 w]
    exact nfasIsect_lang A B w

/-- executed: product names `[l_1|r_2]`, the union of the start symbols of the two components on the product start state -/
example : NfaCli.Test.dA.WordShaped ∧ NfaCli.Test.dB.WordShaped ∧
    cliNfaIsectDesc true NfaCli.Test.dA NfaCli.Test.dB [] = .ok
    ⟨"", [], [], ["[r_1|y_2]"],
      [([], "s", "[q_1|x_2]"), ([], "t", "[q_1|x_2]"), (["[q_1|x_2]"], "f", "[r_1|y_2]"), (["[r_1|x_2]"], "f", "[r_1|y_2]"),
        (["[r_1|y_2]"], "f", "[r_1|x_2]")]⟩ := ⟨by decide +kernel, by decide +kernel, by decide +kernel⟩

/-!
## still not proved

* `Intersection` of word automata AS CODED (the stack-driven search of `src/explicit_finite_isect.cc`): `C10_cli_isect_lang` uses
  the existing model `nfasIsect` (`Vata/NfaStart.lean`), which numbers the reachable pairs in breadth-first order of discovery;
  the C++ numbers them in the order of its stack and hash containers (`pTranslMap->size ()` at insertion).  The statement is
  about names and languages and does not depend on the numbers, but the refinement is not proved.
* the text level (`cliNfaUnionText`, `cliNfaIsectText`: parse ∘ print of the dumped description) – the names `…_1`, `…_2`,
  `[…|…]` are well-formed when the inputs are (as for trees, `C02_CliPipeline.lean`); not repeated here.
* the weak translators of `Union` are applied as the FINAL maps (`nfasReindexInto … (applyMap m)`), justified by the fact that a
  weak translator never changes a translation (same abstraction as `Vata/UnionModel.lean`); the stale entries of
  `startStateToSymbols_` (`Vata/NfaStart.lean`) do not occur here because both operands are reindexed into a FRESH automaton.
* the correspondence with the C++ on generated inputs has not been run (functions: `nfaUnionCoded`, `nfaUnionCodedOld`,
  `NfaCli.cliNfaUnionText`, `NfaCli.cliNfaIsectText`).
-/
end Vata.Props
