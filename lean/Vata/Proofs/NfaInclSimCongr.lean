import Vata.NfaInclSim
import Vata.Proofs.NfaIncl
/-!
# The verdicts of `nfaInclCongrSim` (congruence functor with `NormalFormRelSimulation`)

The model ends certify-then-trust; the certificate of a `true` is the final `relation_` TOGETHER with the simulation pairs
read as rewriting rules `{s} ~ {s, r}` (`simRules`), checked by `congrCertB` (operands disjoint, start macro-states congruent,
bisimulation up to congruence in `A ⊎ B`).  Hence a `true` is right for every relation `R` – a relation that is not a
simulation makes the check fail (`none`), it cannot make the verdict wrong; the unchecked verdict `nfaInclCongrSimRaw` can be
wrong (`Vata/Properties/C09_Sim.lean`).
-/
namespace Vata
open Vata.W

/-- every verdict of the model of `CONGR_DEPTH_SIM` is exact – for every relation and all operands -/
theorem nfaInclCongrSim_iff {A B : NFA} {R : Rel} {fuel : Nat} {b : Bool}
    (h : nfaInclCongrSim A B R fuel = some b) : b = true ↔ InclW A B := by
  unfold nfaInclCongrSim at h
  split at h
  · cases h
  · split at h
    · next hc => cases h; exact iff_of_true rfl (congrCertB_incl hc)
    · cases h
  · split at h
    · next hc =>
      cases h
      rw [Bool.and_eq_true, Bool.not_eq_true'] at hc
      exact iff_of_false Bool.false_ne_true (not_inclW_of_witness hc.1 hc.2)
    · cases h

end Vata
