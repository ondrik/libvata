import Vata.Candidate
import Vata.Proofs.TrimModel
/-!
# Property C15 – the witness automaton: `candidate` (model of `GetCandidateTree`) is a sub-automaton of `A`
that is empty exactly if `A` is

Key invariant (`Cand.Inv`): every reached state has a tree built from the recorded rules only; every reached state is
either processed or still queued; the info record of a rule holds exactly its children that are not processed yet.
When the work-list runs empty without `goto found_`, the reached set is closed under the rules, so it contains every
productive state.  The fuel `|rules| + 1` suffices since every round removes a state from the queue and every newly
queued state is the parent of a rule that was not reached before (measure `Cand.M`).
-/
namespace Vata
namespace Cand

theorem forall_mem_snoc {α : Type} {p : α → Prop} {l : List α} {a : α} (hl : ∀ x, x ∈ l → p x) (ha : p a) :
    ∀ x, x ∈ l ++ [a] → p x := by
  intro x hx
  rcases List.mem_append.mp hx with h | h
  · exact hl x h
  · rw [List.mem_singleton.mp h]; exact ha

theorem productive_mono {R R' : List Rule} (h : ∀ r, r ∈ R → r ∈ R') {x : Nat} :
    Productive ⟨R, []⟩ x → Productive ⟨R', []⟩ x := by
  rintro ⟨t, ht⟩
  exact ⟨t, reach_mono ⟨R, []⟩ ⟨R', []⟩ h t x ht⟩

/-- the measure: queued states + rules whose parent has not been reached -/
def M (A : TA) (st : CState) : Nat :=
  st.queue.length + A.rules.countP (fun r => !st.reached.contains r.parent)

/-- the invariant of the work-list loop; `proc` is the list of the states taken off the queue so far (a ghost: the
code has no such variable), so that a reached state is processed or still queued -/
structure Inv (A : TA) (proc : List Nat) (st : CState) : Prop where
  rec_sub : ∀ r, r ∈ st.recorded → r ∈ A.rules
  prod : ∀ x, x ∈ st.reached → Productive ⟨st.recorded, []⟩ x
  reached_iff : ∀ x, x ∈ st.reached ↔ x ∈ proc ∨ x ∈ st.queue
  leaf : ∀ r, r ∈ A.rules → r.kids = [] → r.parent ∈ st.reached

/-- the info record `i` is up to date when the states `proc` have been processed -/
def InfoOk (A : TA) (proc : List Nat) (st : CState) (i : CInfo) : Prop :=
  i.1 ∈ A.rules ∧ (∀ k, k ∈ i.2 ↔ k ∈ i.1.kids ∧ k ∉ proc) ∧ (i.2 = [] → i.1.parent ∈ st.reached)

/-- every rule with children has an info record -/
def Cover (A : TA) (infos : List CInfo) : Prop := ∀ r, r ∈ A.rules → r.kids ≠ [] → r ∈ infos.map Prod.fst

theorem InfoOk.mono {A : TA} {proc : List Nat} {st st' : CState} {i : CInfo} (h : InfoOk A proc st i)
    (hs : ∀ x, x ∈ st.reached → x ∈ st'.reached) : InfoOk A proc st' i :=
  ⟨h.1, h.2.1, fun he => hs _ (h.2.2 he)⟩

/-- adding a new state `r.parent` justified by the rule `r` all of whose children are reached -/
theorem Inv.add {A : TA} {proc : List Nat} {st : CState} (hI : Inv A proc st) {r : Rule} (hr : r ∈ A.rules)
    (hk : ∀ k, k ∈ r.kids → k ∈ st.reached) (n : Nat) :
    Inv A proc ⟨st.reached ++ [r.parent], st.recorded ++ [r], st.queue ++ [r.parent], n⟩ := by
  have hsub : ∀ ρ, ρ ∈ st.recorded → ρ ∈ st.recorded ++ [r] := fun ρ h => List.mem_append_left _ h
  constructor
  · exact forall_mem_snoc hI.rec_sub hr
  · exact forall_mem_snoc (fun x h => productive_mono hsub (hI.prod x h))
      (productive_of_rule (A := ⟨st.recorded ++ [r], []⟩) (List.mem_append_right _ List.mem_cons_self)
        (fun k hk' => productive_mono hsub (hI.prod k (hk k hk'))))
  · intro x
    simp only [List.mem_append, List.mem_singleton, hI.reached_iff x, or_assoc]
  · intro ρ hρ hl
    exact List.mem_append_left _ (hI.leaf ρ hρ hl)

theorem M_add {A : TA} {st : CState} {r : Rule} (hr : r ∈ A.rules) (hn : r.parent ∉ st.reached) (rec : List Rule) (n : Nat) :
    M A ⟨st.reached ++ [r.parent], rec, st.queue ++ [r.parent], n⟩ ≤ M A st := by
  -- the second summand of `M` counts the unseen entries of the list of parents
  have := unseen_snoc_lt (U := A.rules.map (·.parent)) (List.mem_map_of_mem hr) hn
  simp only [unseen, List.countP_map, Function.comp_def] at this
  simp only [M, List.length_append, List.length_singleton]
  omega

theorem stepInfo_spec {A : TA} {proc : List Nat} {q : Nat} {i : CInfo} {st : CState}
    (hI : Inv A (q :: proc) st) (hi : InfoOk A proc st i) :
    Inv A (q :: proc) (candStepInfo A.final q i st).1 ∧
    InfoOk A (q :: proc) (candStepInfo A.final q i st).1 (candStepInfo A.final q i st).2.1 ∧
    (candStepInfo A.final q i st).2.1.1 = i.1 ∧
    (∀ x, x ∈ st.reached → x ∈ (candStepInfo A.final q i st).1.reached) ∧
    M A (candStepInfo A.final q i st).1 ≤ M A st ∧
    ((candStepInfo A.final q i st).2.2 = true → ∃ f, f ∈ A.final ∧ f ∈ (candStepInfo A.final q i st).1.reached) := by
  obtain ⟨hi1, hi2, hi3⟩ := hi
  have hfilt : ∀ k, k ∈ i.2.filter (fun k => k != q) ↔ k ∈ i.1.kids ∧ k ∉ q :: proc := by
    intro k
    simp only [List.mem_filter, bne_iff_ne, ne_eq, hi2 k, List.mem_cons, not_or]
    exact and_right_comm.trans and_assoc
  unfold candStepInfo
  by_cases hc : i.2.contains q = true
  · rw [if_pos hc]
    by_cases he : (i.2.filter (fun k => k != q)).isEmpty = true
    · rw [if_pos he]
      have he' : i.2.filter (fun k => k != q) = [] := List.isEmpty_iff.mp he
      by_cases hr : st.reached.contains i.1.parent = true
      · rw [if_pos hr]
        refine ⟨⟨hI.rec_sub, hI.prod, hI.reached_iff, hI.leaf⟩, ⟨hi1, hfilt, fun _ => List.contains_iff_mem.mp hr⟩,
          rfl, fun x hx => hx, Nat.le_refl _, ?_⟩
        intro h; exact absurd h (by simp)
      · rw [if_neg hr]
        have hn : i.1.parent ∉ st.reached := fun h => hr (List.contains_iff_mem.mpr h)
        have hkids : ∀ k, k ∈ i.1.kids → k ∈ st.reached := by
          intro k hk
          apply (hI.reached_iff k).mpr
          left
          apply Classical.byContradiction
          intro hkn
          have : k ∈ i.2.filter (fun k => k != q) := (hfilt k).mpr ⟨hk, hkn⟩
          rw [he'] at this
          simp at this
        refine ⟨hI.add hi1 hkids _, ⟨hi1, hfilt, fun _ => List.mem_append_right _ List.mem_cons_self⟩,
          rfl, fun x hx => List.mem_append_left _ hx, M_add hi1 hn _ _, ?_⟩
        intro h
        exact ⟨i.1.parent, List.contains_iff_mem.mp h, List.mem_append_right _ List.mem_cons_self⟩
    · rw [if_neg he]
      refine ⟨hI, ⟨hi1, hfilt, fun h => absurd (List.isEmpty_iff.mpr h) he⟩, rfl, fun x hx => hx, Nat.le_refl _, ?_⟩
      intro h; exact absurd h (by simp)
  · rw [if_neg hc]
    have hq : q ∉ i.2 := fun h => hc (List.contains_iff_mem.mpr h)
    have hid : i.2.filter (fun k => k != q) = i.2 := List.filter_eq_self.mpr fun k hk => bne_iff_ne.mpr fun e => hq (e ▸ hk)
    refine ⟨hI, ⟨hi1, ?_, hi3⟩, rfl, fun x hx => hx, Nat.le_refl _, ?_⟩
    · intro k
      rw [← hfilt k, hid]
    · intro h; exact absurd h (by simp)

theorem procInfos_spec {A : TA} {proc : List Nat} {q : Nat} : ∀ (is : List CInfo) (st : CState),
    Inv A (q :: proc) st → (∀ i, i ∈ is → InfoOk A proc st i) →
    Inv A (q :: proc) (candProcInfos A.final q is st).1 ∧
    ((candProcInfos A.final q is st).2.2 = false →
      ∀ i, i ∈ (candProcInfos A.final q is st).2.1 → InfoOk A (q :: proc) (candProcInfos A.final q is st).1 i) ∧
    (candProcInfos A.final q is st).2.1.map Prod.fst = is.map Prod.fst ∧
    (∀ x, x ∈ st.reached → x ∈ (candProcInfos A.final q is st).1.reached) ∧
    M A (candProcInfos A.final q is st).1 ≤ M A st ∧
    ((candProcInfos A.final q is st).2.2 = true →
      ∃ f, f ∈ A.final ∧ f ∈ (candProcInfos A.final q is st).1.reached)
  | [], st, hI, _ => by
    simp only [candProcInfos]
    exact ⟨hI, fun _ i hi => by simp at hi, trivial, fun x hx => hx, Nat.le_refl _, fun h => by simp at h⟩
  | i :: is, st, hI, hi => by
    obtain ⟨s1, s2, s3, s4, s5, s6⟩ := stepInfo_spec hI (hi i List.mem_cons_self)
    simp only [candProcInfos]
    by_cases hb : (candStepInfo A.final q i st).2.2 = true
    · rw [if_pos hb]
      refine ⟨s1, fun h => by simp at h, ?_, s4, s5, fun _ => s6 hb⟩
      simp only [List.map_cons, s3]
    · rw [if_neg hb]
      have ih := procInfos_spec (A := A) (proc := proc) (q := q) is (candStepInfo A.final q i st).1 s1
        (fun j hj => (hi j (List.mem_cons_of_mem _ hj)).mono s4)
      obtain ⟨p1, p2, p3, p4, p5, p6⟩ := ih
      refine ⟨p1, ?_, ?_, fun x hx => p4 x (s4 x hx), Nat.le_trans p5 s5, p6⟩
      · intro hf j hj
        rcases List.mem_cons.mp hj with h | h
        · rw [h]; exact s2.mono p4
        · exact p2 hf j h
      · simp only [List.map_cons, s3, p3]

theorem closed_of_queue_nil {A : TA} {proc : List Nat} {st : CState} {infos : List CInfo} (hI : Inv A proc st)
    (hq : st.queue = []) (hi : ∀ i, i ∈ infos → InfoOk A proc st i) (hc : Cover A infos) :
    ProdClosed A st.reached := by
  intro r hr hk
  by_cases hl : r.kids = []
  · exact hI.leaf r hr hl
  · obtain ⟨i, hi', rfl⟩ := List.mem_map.mp (hc r hr hl)
    obtain ⟨_, h2, h3⟩ := hi i hi'
    apply h3
    apply List.eq_nil_iff_forall_not_mem.mpr
    intro k hk'
    obtain ⟨h4, h5⟩ := (h2 k).mp hk'
    rcases (hI.reached_iff k).mp (hk k h4) with h | h
    · exact h5 h
    · rw [hq] at h; simp at h

theorem loop_spec {A : TA} : ∀ (n : Nat) (infos : List CInfo) (st : CState) (proc : List Nat),
    Inv A proc st → (∀ i, i ∈ infos → InfoOk A proc st i) → Cover A infos → M A st ≤ n →
    (∃ proc', Inv A proc' (candLoop A.final n infos st)) ∧
    ((∃ f, f ∈ A.final ∧ f ∈ (candLoop A.final n infos st).reached) ∨
      ProdClosed A (candLoop A.final n infos st).reached)
  | 0, infos, st, proc, hI, hi, hc, hM => by
    simp only [candLoop]
    refine ⟨⟨proc, hI⟩, Or.inr (closed_of_queue_nil hI ?_ hi hc)⟩
    have : st.queue.length = 0 := by unfold M at hM; omega
    exact List.length_eq_zero_iff.mp this
  | n+1, infos, st, proc, hI, hi, hc, hM => by
    cases hq : st.queue with
    | nil =>
      simp only [candLoop, hq]
      exact ⟨⟨proc, hI⟩, Or.inr (closed_of_queue_nil hI hq hi hc)⟩
    | cons q qs =>
      simp only [candLoop, hq]
      have hI' : Inv A (q :: proc) { st with queue := qs } := by
        refine ⟨hI.rec_sub, hI.prod, ?_, hI.leaf⟩
        intro x
        rw [hI.reached_iff x, hq, List.mem_cons, List.mem_cons]
        exact or_left_comm.trans or_assoc.symm
      have hM' : M A { st with queue := qs } + 1 ≤ M A st := by
        simp only [M, hq, List.length_cons]; omega
      obtain ⟨p1, p2, p3, p4, p5, p6⟩ := procInfos_spec (A := A) (proc := proc) (q := q) infos { st with queue := qs } hI'
        (fun i h => (hi i h).mono (fun x hx => hx))
      by_cases hb : (candProcInfos A.final q infos { st with queue := qs }).2.2 = true
      · rw [if_pos hb]
        exact ⟨⟨_, p1⟩, Or.inl (p6 hb)⟩
      · rw [if_neg hb]
        apply loop_spec n _ _ (q :: proc) p1 (p2 (by simpa using hb))
        · intro r hr hl; rw [p3]; exact hc r hr hl
        · omega

/-- the invariant of the initialisation loop over the rules, `done` being the rules seen so far: `Inv` with nothing
processed yet, restricted to `done`, and every info record still holds all children of its rule -/
structure Inv1 (A : TA) (done : List Rule) (acc : CState × List CInfo) : Prop where
  rec_sub : ∀ r, r ∈ acc.1.recorded → r ∈ A.rules
  prod : ∀ x, x ∈ acc.1.reached → Productive ⟨acc.1.recorded, []⟩ x
  rq : ∀ x, x ∈ acc.1.reached ↔ x ∈ acc.1.queue
  leaf : ∀ r, r ∈ done → r.kids = [] → r.parent ∈ acc.1.reached
  infos : ∀ i, i ∈ acc.2 → i.1 ∈ A.rules ∧ (∀ k, k ∈ i.2 ↔ k ∈ i.1.kids) ∧ i.2 ≠ []
  cover : ∀ r, r ∈ done → r.kids ≠ [] → r ∈ acc.2.map Prod.fst
  meas : M A acc.1 ≤ A.rules.length

theorem initStep_inv {A : TA} {done : List Rule} {acc : CState × List CInfo} (h : Inv1 A done acc) {r : Rule}
    (hr : r ∈ A.rules) : Inv1 A (done ++ [r]) (candInitStep acc r) := by
  unfold candInitStep
  have hsub : ∀ ρ, ρ ∈ acc.1.recorded → ρ ∈ acc.1.recorded ++ [r] := fun ρ h => List.mem_append_left _ h
  have hrec : ∀ ρ, ρ ∈ acc.1.recorded ++ [r] → ρ ∈ A.rules := forall_mem_snoc h.rec_sub hr
  by_cases hl : r.kids.isEmpty = true
  · rw [if_pos hl]
    have hl' : r.kids = [] := List.isEmpty_iff.mp hl
    have hpr : Productive ⟨acc.1.recorded ++ [r], []⟩ r.parent :=
      productive_of_rule (A := ⟨acc.1.recorded ++ [r], []⟩) (List.mem_append_right _ List.mem_cons_self)
        (fun k hk => by rw [hl'] at hk; simp at hk)
    have hcover : ∀ ρ, ρ ∈ done ++ [r] → ρ.kids ≠ [] → ρ ∈ acc.2.map Prod.fst :=
      forall_mem_snoc h.cover (fun hk => absurd hl' hk)
    by_cases hc : acc.1.reached.contains r.parent = true
    · rw [if_pos hc]
      exact ⟨hrec, fun x hx => productive_mono hsub (h.prod x hx), h.rq,
        forall_mem_snoc h.leaf (fun _ => List.contains_iff_mem.mp hc), h.infos, hcover, h.meas⟩
    · rw [if_neg hc]
      have hn : r.parent ∉ acc.1.reached := fun h' => hc (List.contains_iff_mem.mpr h')
      refine ⟨hrec, forall_mem_snoc (fun x h' => productive_mono hsub (h.prod x h')) hpr, ?_,
        forall_mem_snoc (fun ρ h' hk => List.mem_append_left _ (h.leaf ρ h' hk))
          (fun _ => List.mem_append_right _ List.mem_cons_self),
        h.infos, hcover, Nat.le_trans (M_add hr hn _ _) h.meas⟩
      intro x
      simp only [List.mem_append, h.rq x]
  · rw [if_neg hl]
    have hl' : r.kids ≠ [] := fun h' => hl (List.isEmpty_iff.mpr h')
    refine ⟨h.rec_sub, h.prod, h.rq, forall_mem_snoc h.leaf (fun hk => absurd hk hl'),
      forall_mem_snoc h.infos ⟨hr, fun k => mem_dedupL, ?_⟩, ?_, h.meas⟩
    · intro he
      cases hk : r.kids with
      | nil => exact hl' hk
      | cons k ks =>
        have : k ∈ dedupL r.kids := mem_dedupL.mpr (by rw [hk]; exact List.mem_cons_self)
        have he' : dedupL r.kids = [] := he
        rw [he'] at this
        simp at this
    · rw [List.map_append]
      exact forall_mem_snoc (fun ρ h' hk => List.mem_append_left _ (h.cover ρ h' hk))
        (fun _ => List.mem_append_right _ List.mem_cons_self)

theorem init_inv {A : TA} : ∀ (rs done : List Rule) (acc : CState × List CInfo), Inv1 A done acc →
    (∀ r, r ∈ rs → r ∈ A.rules) → Inv1 A (done ++ rs) (candInit rs acc)
  | [], done, acc, h, _ => by simpa [candInit] using h
  | r :: rs, done, acc, h, hs => by
    have := init_inv rs (done ++ [r]) (candInitStep acc r) (initStep_inv h (hs r List.mem_cons_self))
      (fun ρ hρ => hs ρ (List.mem_cons_of_mem _ hρ))
    simpa [candInit] using this

theorem inv1_start (A : TA) : Inv1 A [] (⟨[], [], [], 0⟩, []) := by
  refine ⟨?_, ?_, ?_, ?_, ?_, ?_, ?_⟩
  · intro r hr; simp at hr
  · intro x hx; simp at hx
  · intro x; simp
  · intro r hr; simp at hr
  · intro i hi; simp at hi
  · intro r hr; simp at hr
  · simp only [M, List.length_nil, Nat.zero_add]
    exact List.countP_le_length

theorem search_spec (A : TA) :
    (∀ r, r ∈ (candSearch A).recorded → r ∈ A.rules) ∧
    (∀ x, x ∈ (candSearch A).reached → Productive ⟨(candSearch A).recorded, []⟩ x) ∧
    ((∃ f, f ∈ A.final ∧ f ∈ (candSearch A).reached) ∨ ProdClosed A (candSearch A).reached) := by
  have h1 := init_inv A.rules [] _ (inv1_start A) (fun r hr => hr)
  rw [List.nil_append] at h1
  have hI : Inv A [] (candInit A.rules (⟨[], [], [], 0⟩, [])).1 :=
    ⟨h1.rec_sub, h1.prod, fun x => by rw [h1.rq x]; simp, h1.leaf⟩
  have hi : ∀ i, i ∈ (candInit A.rules (⟨[], [], [], 0⟩, [])).2 →
      InfoOk A [] (candInit A.rules (⟨[], [], [], 0⟩, [])).1 i := by
    intro i hi
    obtain ⟨h2, h3, h4⟩ := h1.infos i hi
    exact ⟨h2, fun k => by rw [h3 k]; simp, fun he => absurd he h4⟩
  obtain ⟨⟨proc, hI'⟩, hfin⟩ := loop_spec (A.rules.length + 1) _ _ [] hI hi h1.cover (Nat.le_succ_of_le h1.meas)
  exact ⟨hI'.rec_sub, hI'.prod, hfin⟩

theorem candRaw_rules_sub (A : TA) : ∀ r, r ∈ (candRaw A).rules → r ∈ A.rules := by
  intro r hr
  simp only [candRaw] at hr
  split at hr
  · exact hr
  · exact (search_spec A).1 r hr

theorem candRaw_recorded_sub (A : TA) : ∀ r, r ∈ (candSearch A).recorded → r ∈ (candRaw A).rules := by
  intro r hr
  simp only [candRaw]
  split
  · exact (search_spec A).1 r hr
  · exact hr

theorem candRaw_final_sub (A : TA) : ∀ q, q ∈ (candRaw A).final → q ∈ A.final :=
  fun _ hq => (List.mem_filter.mp hq).1

theorem candRaw_nonempty (A : TA) : (∃ t, accepts A t = true) → ∃ t, accepts (candRaw A) t = true := by
  rintro ⟨t, ht⟩
  obtain ⟨q, hq, hf⟩ := accepts_iff_reach.mp ht
  obtain ⟨_, hprod, hfin⟩ := search_spec A
  have hex : ∃ f, f ∈ A.final ∧ f ∈ (candSearch A).reached := by
    rcases hfin with h | h
    · exact h
    · exact ⟨q, hf, reach_sub_closed A _ h t q hq⟩
  obtain ⟨f, hfA, hfr⟩ := hex
  obtain ⟨t', ht'⟩ := hprod f hfr
  refine ⟨t', ?_⟩
  refine accepts_iff_reach.mpr ⟨f, reach_mono ⟨(candSearch A).recorded, []⟩ (candRaw A) (candRaw_recorded_sub A) t' f ht', ?_⟩
  simp only [candRaw, List.mem_filter, List.contains_iff_mem]
  exact ⟨hfA, hfr⟩

end Cand

theorem candidate_sub (A : TA) :
    (∀ r, r ∈ (candidate A).rules → r ∈ A.rules) ∧ (∀ q, q ∈ (candidate A).final → q ∈ A.final) := by
  constructor
  · intro r hr
    exact Cand.candRaw_rules_sub A r (List.mem_filter.mp hr).1
  · intro q hq
    exact Cand.candRaw_final_sub A q hq

theorem candidate_incl (A : TA) (t : Tree) : accepts (candidate A) t = true → accepts A t = true :=
  accepts_sub (candidate_sub A).1 (candidate_sub A).2 t

theorem candidate_nonempty (A : TA) : (∃ t, accepts A t = true) → ∃ t, accepts (candidate A) t = true := by
  intro h
  obtain ⟨t, ht⟩ := Cand.candRaw_nonempty A h
  exact ⟨t, by unfold candidate; rw [removeUnreachable_lang]; exact ht⟩

theorem candidate_empty_iff (A : TA) : (∀ t, accepts (candidate A) t = false) ↔ ∀ t, accepts A t = false := by
  constructor
  · intro h t
    cases ht : accepts A t with
    | false => rfl
    | true =>
      obtain ⟨t', ht'⟩ := candidate_nonempty A ⟨t, ht⟩
      rw [h t'] at ht'
      exact absurd ht' (by simp)
  · intro h t
    cases ht : accepts (candidate A) t with
    | false => rfl
    | true =>
      have := candidate_incl A t ht
      rw [h t] at this
      exact absurd this (by simp)

/-- the Boolean contract used by the harness holds of the model -/
theorem candidateOkB_candidate (A : TA) : candidateOkB A (candidate A) = true := by
  unfold candidateOkB
  simp only [Bool.and_eq_true, beq_iff_eq]
  refine ⟨⟨?_, ?_⟩, ?_⟩
  · simp only [rulesSub, List.all_eq_true, List.contains_iff_mem]
    exact (candidate_sub A).1
  · exact subB_iff.mpr (candidate_sub A).2
  · rw [Bool.eq_iff_iff, isEmptyRef_iff, isEmptyRef_iff]
    exact candidate_empty_iff A

/-- soundness of the contract for ANY automaton `C` (e.g. the one returned by the C++) -/
theorem candidateOkB_sound (A C : TA) (h : candidateOkB A C = true) :
    (∀ t, accepts C t = true → accepts A t = true) ∧ ((∃ t, accepts A t = true) → ∃ t, accepts C t = true) := by
  unfold candidateOkB at h
  simp only [Bool.and_eq_true, beq_iff_eq] at h
  obtain ⟨⟨h1, h2⟩, h3⟩ := h
  simp only [rulesSub, List.all_eq_true, List.contains_iff_mem] at h1
  have h2' := subB_iff.mp h2
  refine ⟨accepts_sub h1 h2', ?_⟩
  rintro ⟨t, ht⟩
  apply Classical.byContradiction
  intro hn
  have hC : isEmptyRef C = true := (isEmptyRef_iff C).mpr (fun t' => by
    cases h' : accepts C t' with
    | false => rfl
    | true => exact absurd ⟨t', h'⟩ hn)
  rw [h3] at hC
  have := (isEmptyRef_iff A).mp hC t
  rw [ht] at this
  exact absurd this (by simp)

theorem candidateOrd_sub (ord : List Rule → List Rule) (A : TA) (h : ∀ r, r ∈ ord A.rules → r ∈ A.rules) :
    (∀ r, r ∈ (candidateOrd ord A).rules → r ∈ A.rules) ∧ (∀ q, q ∈ (candidateOrd ord A).final → q ∈ A.final) :=
  ⟨fun r hr => h r ((candidate_sub ⟨ord A.rules, A.final⟩).1 r hr), (candidate_sub ⟨ord A.rules, A.final⟩).2⟩

theorem candidateOrd_incl (ord : List Rule → List Rule) (A : TA) (h : ∀ r, r ∈ ord A.rules → r ∈ A.rules) (t : Tree) :
    accepts (candidateOrd ord A) t = true → accepts A t = true :=
  accepts_sub (candidateOrd_sub ord A h).1 (candidateOrd_sub ord A h).2 t

theorem candidateOrd_nonempty (ord : List Rule → List Rule) (A : TA) (h : ∀ r, r ∈ A.rules → r ∈ ord A.rules) :
    (∃ t, accepts A t = true) → ∃ t, accepts (candidateOrd ord A) t = true := by
  rintro ⟨t, ht⟩
  exact candidate_nonempty ⟨ord A.rules, A.final⟩ ⟨t, accepts_sub (Q := ⟨ord A.rules, A.final⟩) h (fun _ hq => hq) t ht⟩

namespace CandEx

/-- `h(1,4) → 5`, `f(0,0) → 1`, `a → 0`, `g(2) → 3`, `b → 4`, `k(5,1) → 6`, `u(0) → 7`; final `5`, `3`, `6` -/
def exA : TA := ⟨[⟨4, [1, 4], 5⟩, ⟨1, [0, 0], 1⟩, ⟨0, [], 0⟩, ⟨2, [2], 3⟩, ⟨3, [], 4⟩, ⟨5, [5, 1], 6⟩, ⟨6, [0], 7⟩],
  [5, 3, 6]⟩
/-- the same rules enumerated in the opposite order -/
def exRev : TA := ⟨exA.rules.reverse, exA.final⟩
/-- `h(f(a,a), b)` -/
def exT : Tree := .node 4 [.node 1 [.node 0 [], .node 0 []], .node 3 []]
/-- only unary rules and all of them are completed: `remaining = 0`, all rules of `A` are taken (also `k(0) → 1`,
which was not recorded), then `h(0) → 3` is pruned -/
def exU : TA := ⟨[⟨0, [], 0⟩, ⟨1, [0], 1⟩, ⟨3, [0], 1⟩, ⟨2, [0], 3⟩, ⟨1, [1], 2⟩], [2]⟩
/-- empty language although there are rules, a leaf rule and a final state -/
def exE : TA := ⟨[⟨0, [], 0⟩, ⟨2, [2], 3⟩, ⟨2, [3], 2⟩, ⟨1, [0, 2], 3⟩], [3]⟩

-- the search stops at the first final state (5): state 6 is never reached, `u(0) → 7` is recorded but then pruned
example : (candSearch exA).reached = [0, 4, 1, 7, 5] ∧ (candSearch exA).queue = [7, 5] ∧
    (candSearch exA).remaining = 4 := by decide +kernel
example : (candidate exA).rules = [⟨0, [], 0⟩, ⟨3, [], 4⟩, ⟨1, [0, 0], 1⟩, ⟨4, [1, 4], 5⟩] ∧ (candidate exA).final = [5] := by
  decide +kernel
example : accepts exA exT = true ∧ accepts (candidate exA) exT = true := by decide +kernel
-- `candidate_sub`, `candidate_incl`, `candidate_nonempty` are used on it
example : ∀ r, r ∈ (candidate exA).rules → r ∈ exA.rules := (candidate_sub exA).1
example : accepts exA exT = true := candidate_incl exA exT (by decide +kernel)
example : ∃ t, accepts (candidate exA) t = true := candidate_nonempty exA ⟨exT, by decide⟩
-- another enumeration order gives another (here: the same up to order) witness automaton
example : (candidate exRev).rules = [⟨3, [], 4⟩, ⟨0, [], 0⟩, ⟨1, [0, 0], 1⟩, ⟨4, [1, 4], 5⟩] ∧ (candidate exRev).final = [5] := by
  decide +kernel
example : candidateOrd List.reverse exA = candidate exRev := rfl
example : ∃ t, accepts (candidateOrd List.reverse exA) t = true :=
  candidateOrd_nonempty List.reverse exA (fun r hr => List.mem_reverse.mpr hr) ⟨exT, by decide⟩
-- the branch `remaining = 0`
example : (candSearch exU).remaining = 0 ∧ (candSearch exU).recorded = [⟨0, [], 0⟩, ⟨1, [0], 1⟩, ⟨2, [0], 3⟩, ⟨1, [1], 2⟩] ∧
    (candidate exU).rules = [⟨0, [], 0⟩, ⟨1, [0], 1⟩, ⟨3, [0], 1⟩, ⟨1, [1], 2⟩] ∧ (candidate exU).final = [2] := by decide +kernel
-- empty language: nothing final is reached, the result has no final state and no rule
example : (candidate exE).rules = [] ∧ (candidate exE).final = [] := by decide
example : ∀ t, accepts (candidate exE) t = false := (candidate_empty_iff exE).mpr ((isEmptyRef_iff exE).mp (by decide))
-- the contract
example : candidateOkB exA (candidate exA) = true := by decide +kernel
example : candidateOkB exA ⟨[], []⟩ = false := by decide +kernel
example : candidateOkB exA ⟨[⟨7, [], 5⟩], [5]⟩ = false := by decide

end CandEx

end Vata
