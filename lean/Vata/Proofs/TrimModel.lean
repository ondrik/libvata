import Vata.Proofs.TrimAux
import Vata.Proofs.RunBridge
/-!
# Property C03 – trimming: the executable models of `Vata/Ref.lean` meet the L0 notions of `Vata/Spec.lean`

`prodStates`, `tdReach` compute exactly the productive / top-down reachable states (the fixed number of rounds
`|rules| + 1` suffices, by the counting argument of `Vata/Proofs/TrimAux.lean`); `removeUnreachable`, `removeUseless`
keep the language and establish their postconditions; `isEmptyRef` decides emptiness; the Boolean checkers
`allReachableB`, `allUsefulB` are sound, and `allUsefulB` answers `true` on every automaton whose occurring states are all
productive and reachable (`AllGood`, `allUsefulB_of_allGood`); `Vata/Proofs/UsefulAux.lean` makes both exact.
-/
namespace Vata

theorem prodStates_iff (A : TA) (q : Nat) : q ∈ prodStates A ↔ Productive A q := by
  constructor
  · exact prodStates_sound A q
  · rintro ⟨t, ht⟩
    exact reach_sub_closed A _ (prodStates_closed A) t q ht

theorem tdReach_iff (A : TA) (q : Nat) : q ∈ tdReach A ↔ TdReachable A q := by
  constructor
  · exact tdReach_sound A q
  · exact tdReachable_sub_closed (tdReach_final A) (tdReach_closed A) q

theorem isProdClosedB_prodStates (A : TA) : isProdClosedB A (prodStates A) = true :=
  isProdClosedB_iff.mpr (prodStates_closed A)

theorem isTdClosedB_tdReach (A : TA) : isTdClosedB A.rules (tdReach A) = true :=
  isTdClosedB_iff.mpr (tdReach_closed A)

theorem isEmptyRef_iff (A : TA) : isEmptyRef A = true ↔ ∀ t, accepts A t = false := by
  unfold isEmptyRef
  simp only [Bool.not_eq_true', ← Bool.not_eq_true, List.any_eq_true, accepts_iff_reach, List.contains_iff_mem,
    prodStates_iff]
  exact ⟨fun h t ⟨q, hq, hf⟩ => h ⟨q, hf, t, hq⟩, fun h ⟨q, hf, t, hq⟩ => h t ⟨q, hq, hf⟩⟩

def keepParents (A : TA) (S : List Nat) : TA := ⟨A.rules.filter (fun r => S.contains r.parent), A.final⟩

theorem removeUnreachable_eq (A : TA) : removeUnreachable A = keepParents A (tdReach A) := rfl

theorem simTo_keep {A : TA} {S : List Nat} (hc : TdClosed A.rules S) :
    SimTo A (keepParents A S) (fun q q' => q = q' ∧ q ∈ S) :=
  SimTo.of_frame fun r hr hp => ⟨List.mem_filter.mpr ⟨hr, List.contains_iff_mem.mpr hp⟩, hc r hr hp⟩

theorem reach_keep (A : TA) (S : List Nat) (hc : TdClosed A.rules S) (t : Tree) (q : Nat) (hS : q ∈ S)
    (h : q ∈ reach A t) : q ∈ reach (keepParents A S) t :=
  (simTo_keep hc).reach t q q ⟨rfl, hS⟩ h

theorem reachL_keep (A : TA) (S : List Nat) (hc : TdClosed A.rules S) :
    ∀ (ts : List Tree) (ks : List Nat), (∀ k, k ∈ ks → k ∈ S) → matchKids ks (reachL A ts) = true →
      matchKids ks (reachL (keepParents A S) ts) = true :=
  fun ts _ hS h => matchKids_rel (All2.diag hS) ((simTo_keep hc).reachL ts) h

theorem keepParents_lang (A : TA) (S : List Nat) (hf : ∀ q, q ∈ A.final → q ∈ S) (hc : TdClosed A.rules S) (t : Tree) :
    accepts (keepParents A S) t = accepts A t := by
  rw [Bool.eq_iff_iff, accepts_iff_reach, accepts_iff_reach]
  exact ⟨fun ⟨q, hq, hfin⟩ => ⟨q, reach_mono (keepParents A S) A (fun r hr => (List.mem_filter.mp hr).1) t q hq, hfin⟩,
    fun ⟨q, hq, hfin⟩ => ⟨q, reach_keep A S hc t q (hf q hfin) hq, hfin⟩⟩

theorem removeUnreachable_lang (A : TA) (t : Tree) : accepts (removeUnreachable A) t = accepts A t :=
  keepParents_lang A (tdReach A) (tdReach_final A) (tdReach_closed A) t

theorem tdReachable_removeUnreachable {A : TA} {q : Nat} (h : TdReachable A q) : TdReachable (removeUnreachable A) q := by
  induction h with
  | final hq => exact TdReachable.final hq
  | @step r k hr hp hk ih =>
    exact TdReachable.step (mem_rules_removeUnreachable.mpr ⟨hr, (tdReach_iff A _).mpr hp⟩) ih hk

theorem tdReachable_of_removeUnreachable {A : TA} {q : Nat} (h : TdReachable (removeUnreachable A) q) : TdReachable A q :=
  tdReachable_least (fun _ hq => .final hq) (fun _ hr ih _ hk => .step (mem_rules_removeUnreachable.mp hr).1 ih hk) q h

theorem removeUnreachable_post (A : TA) (q : Nat) : Occurs (removeUnreachable A) q → TdReachable (removeUnreachable A) q := by
  rintro (hf | ⟨r, hr, h⟩)
  · exact TdReachable.final hf
  · have hp : TdReachable (removeUnreachable A) r.parent :=
      tdReachable_removeUnreachable ((tdReach_iff A _).mp (mem_rules_removeUnreachable.mp hr).2)
    rcases h with h | h
    · rw [← h]; exact hp
    · exact TdReachable.step hr hp h

theorem removeUseless_eq (A : TA) : removeUseless A = removeUnreachable (restrict A (prodStates A)) := rfl

theorem removeUseless_lang (A : TA) (t : Tree) : accepts (removeUseless A) t = accepts A t := by
  rw [removeUseless_eq, removeUnreachable_lang, restrict_lang A _ (prodStates_closed A)]

theorem incl_removeUseless (A B : TA) : Incl (removeUseless A) (removeUseless B) ↔ Incl A B := by
  simp only [Incl, removeUseless_lang]

theorem productive_restrict {A : TA} {q : Nat} (h : q ∈ prodStates A) : Productive (restrict A (prodStates A)) q := by
  obtain ⟨t, ht⟩ := (prodStates_iff A q).mp h
  exact ⟨t, reach_restrict A _ (prodStates_closed A) t q ht⟩

theorem productive_removeUnreachable {A : TA} {q : Nat} (hp : Productive A q) (hr : TdReachable A q) :
    Productive (removeUnreachable A) q := by
  obtain ⟨t, ht⟩ := hp
  exact ⟨t, reach_keep A (tdReach A) (tdReach_closed A) t q ((tdReach_iff A q).mpr hr) ht⟩

theorem tdReachable_restrict_mem {A : TA} {P : List Nat} {q : Nat} (h : TdReachable (restrict A P) q) : q ∈ P :=
  tdReachable_least (S := (· ∈ P)) (fun _ hq => (mem_final_restrict.mp hq).2)
    (fun _ hr _ k hk => (mem_rules_restrict.mp hr).2.2 k hk) q h

theorem tdReachable_of_restrict {A : TA} {P : List Nat} {q : Nat} (h : TdReachable (restrict A P) q) : TdReachable A q :=
  tdReachable_least (fun _ hq => .final (List.mem_filter.mp hq).1)
    (fun _ hr ih _ hk => .step (List.mem_filter.mp hr).1 ih hk) q h

/-- every occurring state is productive and reachable top-down from a final state: what `removeUseless` establishes, what
`allUsefulB` decides, and what makes every state and rule take part in an accepting run -/
def AllGood (A : TA) : Prop := ∀ q, Occurs A q → Productive A q ∧ TdReachable A q

theorem AllGood.useful {A : TA} (h : AllGood A) :
    (∀ q, Occurs A q → UsefulState A q) ∧ (∀ r, r ∈ A.rules → UsefulRule A r) :=
  have hkids : ∀ r, r ∈ A.rules → ∀ k, k ∈ r.kids → Productive A k := fun r hr k hk => (h k (Or.inr ⟨r, hr, Or.inr hk⟩)).1
  ⟨fun q hq => useful_state_of hkids (h q hq).2 (h q hq).1,
    fun r hr => useful_rule_of hkids hr (h _ (Or.inr ⟨r, hr, Or.inl rfl⟩)).2⟩

theorem allGood_removeUseless (A : TA) : AllGood (removeUseless A) := fun q hq =>
  have h1 := removeUnreachable_post _ q hq
  have h2 := tdReachable_of_removeUnreachable h1
  ⟨productive_removeUnreachable (productive_restrict (tdReachable_restrict_mem h2)) h2, h1⟩

theorem removeUseless_post_state (A : TA) (q : Nat) : Occurs (removeUseless A) q → UsefulState (removeUseless A) q :=
  (allGood_removeUseless A).useful.1 q

theorem removeUseless_post_rule (A : TA) (r : Rule) : r ∈ (removeUseless A).rules → UsefulRule (removeUseless A) r :=
  (allGood_removeUseless A).useful.2 r

theorem allReachableB_sound (A : TA) : allReachableB A = true → ∀ q, Occurs A q → TdReachable A q := by
  intro h q hq
  simp only [allReachableB, List.all_eq_true, List.contains_iff_mem] at h
  exact (tdReach_iff A q).mp (h q (mem_states.mpr hq))

theorem usefulStates_eq (A : TA) : usefulStates A = tdReach (restrict A (prodStates A)) := rfl

theorem allGood_of_allUsefulB {A : TA} (h : allUsefulB A = true) : AllGood A := fun q hq => by
  simp only [allUsefulB, Bool.and_eq_true, List.all_eq_true, List.contains_iff_mem] at h
  have hB : TdReachable (restrict A (prodStates A)) q := (tdReach_iff _ q).mp (h.1 q (mem_states.mpr hq))
  exact ⟨(prodStates_iff A q).mp (tdReachable_restrict_mem hB), tdReachable_of_restrict hB⟩

theorem allUsefulB_sound (A : TA) :
    allUsefulB A = true → (∀ q, Occurs A q → UsefulState A q) ∧ (∀ r, r ∈ A.rules → UsefulRule A r) :=
  fun h => (allGood_of_allUsefulB h).useful

theorem restrict_eq_self {A : TA} (h : AllGood A) : restrict A (prodStates A) = A := by
  have hP : ∀ q, Occurs A q → q ∈ prodStates A := fun q hq => (prodStates_iff A q).mpr (h q hq).1
  unfold restrict
  have h1 : A.rules.filter (fun r => (prodStates A).contains r.parent && r.kids.all (fun k => (prodStates A).contains k)) = A.rules := by
    rw [List.filter_eq_self]
    intro r hr
    simp only [Bool.and_eq_true, List.contains_iff_mem, List.all_eq_true]
    exact ⟨hP _ (Or.inr ⟨r, hr, Or.inl rfl⟩), fun k hk => hP k (Or.inr ⟨r, hr, Or.inr hk⟩)⟩
  have h2 : A.final.filter (fun q => (prodStates A).contains q) = A.final := by
    rw [List.filter_eq_self]
    intro q hq
    simp only [List.contains_iff_mem]
    exact hP q (Or.inl hq)
  rw [h1, h2]

theorem allUsefulB_of_allGood {A : TA} (h : AllGood A) : allUsefulB A = true := by
  have hU : ∀ q, Occurs A q → q ∈ usefulStates A := by
    intro q hq
    rw [usefulStates_eq, restrict_eq_self h]
    exact (tdReach_iff A q).mpr (h q hq).2
  simp only [allUsefulB, Bool.and_eq_true, List.all_eq_true, List.contains_iff_mem]
  refine ⟨fun q hq => hU q (mem_states.mp hq), ?_⟩
  intro r hr
  exact ⟨hU _ (Or.inr ⟨r, hr, Or.inl rfl⟩), fun k hk => hU k (Or.inr ⟨r, hr, Or.inr hk⟩)⟩

/-! ### non-vacuity: a concrete automaton with an unproductive state (2, hence 3), an unreachable state (4),
and an automaton with empty language although it has rules and a final state -/

/-- `a → 0`, `f(0,0) → 1`, `g(2) → 3`, `b → 4`, `h(1,4) → 5`; final `1`, `3` -/
def TrimEx.exA : TA := ⟨[⟨0, [], 0⟩, ⟨1, [0, 0], 1⟩, ⟨2, [2], 3⟩, ⟨3, [], 4⟩, ⟨4, [1, 4], 5⟩], [1, 3]⟩
/-- `a → 0`, `g(2) → 3`, `g(3) → 2`; final `3` -/
def TrimEx.exEmpty : TA := ⟨[⟨0, [], 0⟩, ⟨2, [2], 3⟩, ⟨2, [3], 2⟩], [3]⟩
/-- the tree `f(a,a)` -/
def TrimEx.exT : Tree := .node 1 [.node 0 [], .node 0 []]

/-- the reference decider on `RemoveUselessStates` of `exA` (run once; C03 and C08 quote it) -/
theorem TrimEx.removeUseless_equiv : equivM (removeUseless TrimEx.exA) TrimEx.exA 10 = some true := by decide +kernel

example : Productive TrimEx.exA 5 := (prodStates_iff TrimEx.exA 5).mp (by decide +kernel)
example : ¬ Productive TrimEx.exA 3 := fun h => absurd ((prodStates_iff TrimEx.exA 3).mpr h) (by decide +kernel)
example : isProdClosedB TrimEx.exA (prodStates TrimEx.exA) = true := by decide +kernel
example : TdReachable TrimEx.exA 2 := (tdReach_iff TrimEx.exA 2).mp (by decide +kernel)
example : ¬ TdReachable TrimEx.exA 5 := fun h => absurd ((tdReach_iff TrimEx.exA 5).mpr h) (by decide +kernel)
example : isTdClosedB TrimEx.exA.rules (tdReach TrimEx.exA) = true := by decide +kernel
example : (removeUnreachable TrimEx.exA).rules = [⟨0, [], 0⟩, ⟨1, [0, 0], 1⟩, ⟨2, [2], 3⟩] := by decide +kernel
example : accepts (removeUnreachable TrimEx.exA) TrimEx.exT = true := by decide +kernel
example : Occurs (removeUnreachable TrimEx.exA) 2 := Or.inr ⟨⟨2, [2], 3⟩, by decide +kernel, Or.inr (by decide +kernel)⟩
example : TdReachable (removeUnreachable TrimEx.exA) 2 :=
  removeUnreachable_post TrimEx.exA 2 (Or.inr ⟨⟨2, [2], 3⟩, by decide +kernel, Or.inr (by decide +kernel)⟩)
example : (removeUseless TrimEx.exA).rules = [⟨0, [], 0⟩, ⟨1, [0, 0], 1⟩] ∧ (removeUseless TrimEx.exA).final = [1] := by decide +kernel
example : accepts (removeUseless TrimEx.exA) TrimEx.exT = true := by decide +kernel
example : UsefulState (removeUseless TrimEx.exA) 0 :=
  removeUseless_post_state TrimEx.exA 0 (Or.inr ⟨⟨1, [0, 0], 1⟩, by decide +kernel, Or.inr (by decide +kernel)⟩)
example : UsefulRule (removeUseless TrimEx.exA) ⟨1, [0, 0], 1⟩ := removeUseless_post_rule TrimEx.exA _ (by decide +kernel)
example : isEmptyRef TrimEx.exEmpty = true := by decide +kernel
example : ∀ t, accepts TrimEx.exEmpty t = false := (isEmptyRef_iff TrimEx.exEmpty).mp (by decide +kernel)
example : isEmptyRef TrimEx.exA = false := by decide +kernel
example : allReachableB (removeUnreachable TrimEx.exA) = true := by decide +kernel
example : allReachableB TrimEx.exA = false := by decide +kernel
example : allUsefulB (removeUseless TrimEx.exA) = true := by decide +kernel
example : allUsefulB (removeUnreachable TrimEx.exA) = false := by decide +kernel
example : UsefulState (removeUseless TrimEx.exA) 1 :=
  (allUsefulB_sound (removeUseless TrimEx.exA) (by decide +kernel)).1 1 (Or.inl (by decide +kernel))

end Vata
