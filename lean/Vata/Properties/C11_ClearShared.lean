import Vata.Proofs.ClearShared
/-!
# C11 / C12 – `Clear()` on a rule container that is still shared with another object

> C11: After an explicit tree or finite automaton is copied, assigned or moved, any later modification of one object (adding
> rules, changing final states, clearing) is never visible through another object …
> C12: a copy taken before a modification (a snapshot) keeps showing the old contents.

This file is about one operation, `ExplicitTreeAutCore::Clear()` (`src/explicit_tree_aut_core.hh`), at the moment when the
`transitions_` pointer of the object is shared with another object ("snapshot, Clear, rebuild"):

```
void Clear()
{
	assert(nullptr != transitions_);
	if (!transitions_.unique())
	{
		transitions_ = StateToTransitionClusterMapPtr(new StateToTransitionClusterMap());
	}
	else
	{ // TODO Is this clear enough?
		this->uniqueClusterMap()->clear();
	}
	this->EraseFinalStates();          // void EraseFinalStates() { finalStates_.clear(); }
}
```

* **How the C++ is read.**  `ClearShared.clearCoded` on `CowHeapX.HeapX` (three-level reference-counted heap + `finalStates_`
  per handle): test `mrc (hmap h) = 1` (`unique()`); shared ⇒ `clearSharedCore` = allocate a FRESH empty map node, swap it
  into `transitions_`, release the old pointer (use count − 1, entries untouched); unique ⇒ `clearUniqueCore` = empty the node
  in place and release the cluster pointers it held; then, on both paths, `finalStates_` := ∅.  This is literally the
  existing `CowHeapX.stepX _ (.clear h)` (`C11_clear_coded`).
* **The seeded variant** `ClearShared.stepClearEarly`: the shared path ends with `return;` – `EraseFinalStates()` is only
  reached on the unique path.  Histories that may use it: `ClearShared.OpV` / `stepV`.
* **Specification.**  `Store.clear` = the empty automaton `Store.empty` (no rules, no final states) for the cleared handle,
  all other handles keep their value (`CowHeapX.specStepX`).
* **Abstracted:** as in `Vata/CowHeapX.lean` (hash-container iteration order → list order; tuples are values); `assert`s
  are not modelled (a `Clear()` of a dead / moved-from object is a no-op in the model).

Hypothesis `InvX H` (reference counts = number of referrers, at all three levels) holds for every reachable heap
(`CowHeapX.history_invX`, and `ClearShared.history_invV` for histories with the variant); it cannot be dropped
(`Hwrong`, `Hzero` below).
-/
namespace Vata.Props
open Vata.CowHeapX (HOpX HeapX stepX absX initX InvX invBX)
open Vata.ClearShared (clearCoded stepClearEarly OpV stepV sharedWithFinals runV)

/-! ### 1. what `Clear()` does -/

/-- the control flow of `Clear()` written out (`clearCoded`: `unique()` test, fresh map / clear in place,
`EraseFinalStates()` on both paths) is the `clear` step of the heap model -/
theorem C11_clear_coded (H : HeapX) (h : Nat) : clearCoded H h = stepX H (.clear h) := by
  simp only [clearCoded, stepX, CowHeap3.step, ClearShared.clearUniqueCore, ClearShared.clearSharedCore]
  by_cases hh : h ∈ H.core.hl
  · simp only [if_pos hh]
  · simp only [if_neg hh]

/-- shared container (`!transitions_.unique()`): the object is re-pointed to a node that did not exist before and is
empty; the old node keeps its entries and loses exactly one reference; no other handle is re-pointed; final states of `h`
erased -/
theorem C11_clear_shared_allocates_fresh_map (H : HeapX) (hI : InvX H) (h : Nat) (hh : h ∈ H.core.hl)
    (hs : H.core.mrc (H.core.hmap h) ≠ 1) :
    let H' := stepX H (.clear h)
    H'.core.hmap h = H.core.next ∧ H.core.next ∉ H.core.ml ∧ H'.core.ment H.core.next = [] ∧
    H'.core.ment (H.core.hmap h) = H.core.ment (H.core.hmap h) ∧
    H'.core.mrc (H.core.hmap h) = H.core.mrc (H.core.hmap h) - 1 ∧
    (∀ x, x ≠ h → H'.core.hmap x = H.core.hmap x) ∧ H'.fin h = [] :=
  ClearShared.clear_shared_shape hI hh hs

/-- unique container: no handle is re-pointed, the node of `h` is emptied in place; final states of `h` erased -/
theorem C11_clear_unique_in_place (H : HeapX) (h : Nat) (hh : h ∈ H.core.hl) (hu : H.core.mrc (H.core.hmap h) = 1) :
    let H' := stepX H (.clear h)
    H'.core.hmap = H.core.hmap ∧ H'.core.ment (H.core.hmap h) = [] ∧ H'.fin h = [] := by
  simp only [stepX, CowHeap3.step, if_pos hh, if_pos hu]
  have hs := CowHeap3.releaseClusters_same (CowHeap3.mout H.core (H.core.hmap h))
    (CowHeap3.clearEntries H.core (H.core.hmap h))
  refine ⟨by rw [hs.hmap]; rfl, by rw [hs.ment]; simp [CowHeap3.clearEntries], by simp⟩

/-- **`Clear()` is exact**, from any heap with the reference-count invariant: afterwards the value of `h` is the empty
automaton – no rules and NO final states – and every other handle (in particular every copy that shared the container)
keeps its value -/
theorem C11_clear_exact_inv (H : HeapX) (hI : InvX H) (h : Nat) (hh : h ∈ H.core.hl) :
    absX (stepX H (.clear h)) h = some Store.empty ∧ ∀ x, x ≠ h → absX (stepX H (.clear h)) x = absX H x :=
  ClearShared.clear_exact hI hh

/-- **`Clear()` is exact in ANY reachable heap** (after any history of `HOpX` operations from the empty heap) -/
theorem C11_clear_exact (ops : List HOpX) (h : Nat) (hh : h ∈ (ops.foldl stepX initX).core.hl) :
    absX (stepX (ops.foldl stepX initX) (.clear h)) h = some Store.empty ∧
    ∀ x, x ≠ h → absX (stepX (ops.foldl stepX initX) (.clear h)) x = absX (ops.foldl stepX initX) x :=
  ClearShared.clear_exact (CowHeapX.history_invX ops) hh

/-- `Clear()` of a dead (destroyed / moved-from) object: nothing changes -/
theorem C11_clear_dead (H : HeapX) (hI : InvX H) (h : Nat) (hh : h ∉ H.core.hl) : absX (stepX H (.clear h)) = absX H := by
  rw [(CowHeapX.cowX_refines_values hI (.clear h)).1]
  simp only [CowHeapX.specStepX, CowHeapX.absX_of_not_mem hh]

namespace ClearEx

/-- object 1 with the rule `5 ← 7()` and final state 5; object 2 is a copy (snapshot) that shares the map node -/
def opsShared : List HOpX := [.new 1, .add 1 5 (7, []), .setFinal 1 5, .copy 1 2 true true]
def Hs : HeapX := opsShared.foldl stepX initX
/-- the same without the copy -/
def Hu : HeapX := (opsShared.take 3).foldl stepX initX

end ClearEx
open ClearEx

/-- hypotheses of `C11_clear_shared_allocates_fresh_map` / `C11_clear_exact`: node 0 is shared (use count 2); after the
`Clear` object 1 has the new node 3, the snapshot still reads the old contents -/
example : 1 ∈ Hs.core.hl ∧ Hs.core.hmap 1 = 0 ∧ Hs.core.hmap 2 = 0 ∧ Hs.core.mrc 0 = 2 ∧ Hs.core.next = 3 ∧
    (stepX Hs (.clear 1)).core.hmap 1 = 3 ∧ (stepX Hs (.clear 1)).core.mrc 0 = 1 ∧
    absX (stepX Hs (.clear 1)) 1 = some Store.empty ∧
    absX (stepX Hs (.clear 1)) 2 = some ⟨[(5, [(7, [[]])])], [5]⟩ := by decide +kernel
/-- hypotheses of `C11_clear_unique_in_place` -/
example : 1 ∈ Hu.core.hl ∧ Hu.core.mrc (Hu.core.hmap 1) = 1 ∧ (stepX Hu (.clear 1)).core.hmap 1 = Hu.core.hmap 1 ∧
    absX (stepX Hu (.clear 1)) 1 = some Store.empty := by decide +kernel

/-- `InvX` cannot be dropped in `C11_clear_exact_inv`: with the use count of the shared node wrongly 1 the node is emptied
in place and the snapshot loses its rules -/
def ClearEx.Hwrong : HeapX := { Hs with core := { Hs.core with mrc := fun _ => 1 } }
example : invBX Hwrong = false ∧ absX Hwrong 2 = some ⟨[(5, [(7, [[]])])], [5]⟩ ∧
    absX (stepX Hwrong (.clear 1)) 2 = some ⟨[], [5]⟩ := by decide +kernel

/-! ### 2. the seeded early return -/

/-- **the seeded `Clear()` keeps old final states when a copy still shares the container**: history
`new; add; setFinal; copy; Clear` – with the variant the cleared object 1 still shows the final state 5 (with the real
`Clear()` it is the empty automaton); the SAME history without the `copy` is fine, which is why histories of a single
automaton object cannot see the change.  "snapshot, Clear, rebuild": after rebuilding with the rule `6 ← 7()` and final
state 6 the old final state 5 is still there. -/
theorem C11_clear_early_return_keeps_finals :
    runV [.std (.new 1), .std (.add 1 5 (7, [])), .std (.setFinal 1 5), .std (.copy 1 2 true true), .clearEarly 1] 1
      = some ⟨[], [5]⟩ ∧
    runV [.std (.new 1), .std (.add 1 5 (7, [])), .std (.setFinal 1 5), .std (.copy 1 2 true true), .std (.clear 1)] 1
      = some Store.empty ∧
    runV [.std (.new 1), .std (.add 1 5 (7, [])), .std (.setFinal 1 5), .clearEarly 1] 1 = some Store.empty ∧
    runV [.std (.new 1), .std (.add 1 5 (7, [])), .std (.setFinal 1 5), .std (.copy 1 2 true true), .clearEarly 1,
          .std (.add 1 6 (7, [])), .std (.setFinal 1 6)] 1 = some ⟨[(6, [(7, [[]])])], [5, 6]⟩ ∧
    runV [.std (.new 1), .std (.add 1 5 (7, [])), .std (.setFinal 1 5), .std (.copy 1 2 true true), .std (.clear 1),
          .std (.add 1 6 (7, [])), .std (.setFinal 1 6)] 1 = some ⟨[(6, [(7, [[]])])], [6]⟩ :=
  by decide +kernel

/-- the snapshot itself is not disturbed by the variant either (the pointer work is the same as in `Clear()`): the defect
is in the value of the CLEARED object only -/
theorem C11_clear_early_other_handles (H : HeapX) (h x : Nat) (hx : x ≠ h) :
    absX (stepClearEarly H h) x = absX (stepX H (.clear h)) x := by
  have hf : (stepClearEarly H h).fin x = (stepX H (.clear h)).fin x := by
    rw [ClearShared.stepClearEarly_fin]
    split
    · simp only [stepX]; split
      · rw [CowHeap.upd_other _ _ hx]
      · rfl
    · rfl
  simp only [absX, ClearShared.stepClearEarly_core, hf]

/-- the variant does the same pointer work and keeps the reference-count invariant -/
theorem C11_clear_early_same_core (H : HeapX) (h : Nat) :
    (stepClearEarly H h).core = (stepX H (.clear h)).core ∧ (InvX H → InvX (stepClearEarly H h)) :=
  ⟨ClearShared.stepClearEarly_core H h, fun hI => ClearShared.stepClearEarly_inv hI h⟩

/-- the value of the cleared object under the variant: no rules; final states erased only when the container was unique -/
theorem C11_clear_early_value (H : HeapX) (hI : InvX H) (h : Nat) (hh : h ∈ H.core.hl) :
    absX (stepClearEarly H h) h = some ⟨[], if H.core.mrc (H.core.hmap h) = 1 then [] else H.fin h⟩ :=
  ClearShared.absX_clearEarly_self hI hh

/-- **general statement**: from any heap with the invariant (hence any reachable one), the seeded variant differs from
`Clear()` EXACTLY when `sharedWithFinals H h` : `h` is live, its map node has use count > 1, and `h` has final states.
Otherwise the two resulting heaps are equal; in that case the difference is visible in the value of `h`. -/
theorem C11_clear_early_differs_iff (H : HeapX) (hI : InvX H) (h : Nat) :
    (stepClearEarly H h = stepX H (.clear h) ↔ ¬ sharedWithFinals H h) ∧
    (absX (stepClearEarly H h) = absX (stepX H (.clear h)) ↔ ¬ sharedWithFinals H h) ∧
    (sharedWithFinals H h →
      absX (stepClearEarly H h) h = some ⟨[], H.fin h⟩ ∧ absX (stepX H (.clear h)) h = some Store.empty ∧ H.fin h ≠ []) :=
  ⟨ClearShared.clearEarly_eq_iff hI h, ClearShared.clearEarly_absX_eq_iff hI h,
   fun hs => ⟨(ClearShared.clearEarly_keeps_finals hI hs).1, (ClearShared.clear_exact hI hs.1).1, hs.2.2⟩⟩

/-- the same along histories that already contain seeded `Clear()`s (their heaps satisfy the invariant too) -/
theorem C11_clear_early_differs_iff_history (ops : List OpV) (h : Nat) :
    stepClearEarly (ops.foldl stepV initX) h = stepX (ops.foldl stepV initX) (.clear h) ↔
      ¬ sharedWithFinals (ops.foldl stepV initX) h :=
  ClearShared.clearEarly_eq_iff (ClearShared.history_invV ops) h

example : sharedWithFinals Hs 1 ∧ ¬ sharedWithFinals Hu 1 := by decide +kernel
/-- shared but no final states: no difference -/
example : ¬ sharedWithFinals (([.new 1, .add 1 5 (7, []), .copy 1 2 true true] : List HOpX).foldl stepX initX) 1 := by
  decide +kernel

/-- `InvX` cannot be dropped in `C11_clear_early_differs_iff`: with a use count 0 on a live object `unique()` fails (so the
early return is taken) although the count is not `> 1` -/
def ClearEx.Hzero : HeapX := { Hu with core := { Hu.core with mrc := fun _ => 0 } }
example : invBX Hzero = false ∧ ¬ sharedWithFinals Hzero 1 ∧
    absX (stepClearEarly Hzero 1) 1 ≠ absX (stepX Hzero (.clear 1)) 1 := by decide +kernel

/-- **single-automaton histories cannot see the seeded change**: if only one handle `h` is ever the target of an operation
(construct, add rules, set / erase final states, `Clear`, destroy, construct again, …) the history runs identically with
the seeded `Clear()` – the container is never shared when `Clear` is called -/
theorem C11_clear_early_single_object_blind (ops : List OpV) (h : Nat)
    (ht : ∀ o, o ∈ ops → ∀ x, x ∈ o.targets → x = h) :
    ops.foldl stepV initX = (ops.map OpV.toStd).foldl stepX initX := by
  open ClearShared CowHeapX in
  suffices hs : ∀ (H : HeapX), InvX H → OnlyLive H h → ops.foldl stepV H = (ops.map OpV.toStd).foldl stepX H from
    hs _ invX_init (by intro x hx; cases hx)
  induction ops with
  | nil => intro H _ _; rfl
  | cons o ops ih =>
    intro H hI ho
    have hstep : stepV H o = stepX H o.toStd := by
      cases o with
      | std op => rfl
      | clearEarly h' =>
        have e : h' = h := ht _ List.mem_cons_self h' (by simp [OpV.targets, OpV.toStd, targets])
        subst e
        apply clearEarly_eq_of_not hI
        intro hs
        have := onlyLive_unique hI ho hs.1
        have := hs.2.1
        omega
    rw [List.foldl_cons, List.map_cons, List.foldl_cons, hstep]
    exact ih (fun o' ho' => ht o' (List.mem_cons_of_mem _ ho')) _ (invX_step hI _)
      (onlyLive_step hI ho _ (ht o List.mem_cons_self))

example : ∀ o, o ∈ ([.std (.new 1), .std (.add 1 5 (7, [])), .std (.setFinal 1 5), .clearEarly 1] : List OpV) →
    ∀ x, x ∈ o.targets → x = 1 := by
  intro o ho x hx
  simp only [List.mem_cons, List.not_mem_nil, or_false] at ho
  rcases ho with e | e | e | e <;> subst e <;> simpa [OpV.targets, OpV.toStd, CowHeapX.targets] using hx

/-- the seeded `Clear()` is not an operation on values: no function of the value of `h` gives its result (the same value
with and without a snapshot around is cleared differently) – unlike `Clear()`, which is `Store.clear` -/
theorem C11_clear_early_not_value_level :
    ¬ ∃ f : Store.Store → Store.Store, ∀ (ops : List OpV) (h : Nat) (s : Store.Store),
      absX (ops.foldl stepV initX) h = some s → absX (stepClearEarly (ops.foldl stepV initX) h) h = some (f s) := by
  intro ⟨f, hf⟩
  have h1 := hf [.std (.new 1), .std (.add 1 5 (7, [])), .std (.setFinal 1 5), .std (.copy 1 2 true true)] 1
    ⟨[(5, [(7, [[]])])], [5]⟩ (by decide +kernel)
  have h2 := hf [.std (.new 1), .std (.add 1 5 (7, [])), .std (.setFinal 1 5)] 1 ⟨[(5, [(7, [[]])])], [5]⟩ (by decide +kernel)
  have e1 : absX (stepClearEarly (([.std (.new 1), .std (.add 1 5 (7, [])), .std (.setFinal 1 5),
      .std (.copy 1 2 true true)] : List OpV).foldl stepV initX) 1) 1 = some ⟨[], [5]⟩ := by decide +kernel
  have e2 : absX (stepClearEarly (([.std (.new 1), .std (.add 1 5 (7, [])), .std (.setFinal 1 5)] : List OpV).foldl
      stepV initX) 1) 1 = some ⟨[], []⟩ := by decide +kernel
  rw [e1] at h1
  rw [e2] at h2
  have := h1.trans h2.symm
  exact absurd this (by decide +kernel)

/-!
## still not proved

* Nothing of the task is open for the tree automaton core.  Not covered here: the finite-automaton class
  (`ExplicitFiniteAutCore`) has no `Clear()`; the wrapper level (`ExplicitTreeAut::Clear()` forwarding to the core) is the
  subject of `C12_Wrapper.lean` / `WrapperForward.lean` and is not re-done with the variant.
* `C11_clear_early_single_object_blind` is stated for histories whose every target is ONE handle; the more general
  "no two live handles ever share a map node at a `Clear`" (e.g. several objects, copies always with `copyTrans = false`)
  is covered only through `C11_clear_early_differs_iff_history`, not as a closed syntactic criterion.
-/

end Vata.Props
