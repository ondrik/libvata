import Vata.CliPipeline
import Vata.Proofs.GlueTransl
/-!
# The repaired `CreateProductStringToStateMap`: termination of the priming loop, injectivity, totality

About `Vata/CliPipeline.lean`, section 1.

The priming loop terminates because a name longer than every key is not a key: any fuel `k` such that `|s| + k` exceeds the
longest key (`primeFuel` is one) ends on an unused name, and above that bound the fuel does not matter.  The result dictionary
satisfies `PInv` for ANY operand names and ANY product map: the forward map is a map (the names are pairwise different), every
backward entry is a forward entry, every forward entry's state has a backward entry.  When the old names do not collide the
repaired function computes what the old one computed.
-/
namespace Vata.CliPipe
open Vata.Glue

attribute [local instance high] instBEqOfDecidableEq

/-- a name longer than every key is not a key -/
theorem lookup_none_of_long {fwd : List (Name × Nat)} {s : Name} (h : maxKeyLen fwd < s.length) : fwd.lookup s = none := by
  cases hl : fwd.lookup s with
  | none => rfl
  | some v =>
    exact absurd (le_foldl_max (fun e : Name × Nat => e.1.length) (mem_of_lookup hl) 0) (Nat.not_le_of_lt h)

theorem primeLoop_of_none {fwd : List (Name × Nat)} {s : Name} (h : fwd.lookup s = none) (k : Nat) : primeLoop fwd k s = s := by
  cases k with
  | zero => rfl
  | succ k => simp only [primeLoop, h]

theorem primeLoop_of_some {fwd : List (Name × Nat)} {s : Name} {v : Nat} (h : fwd.lookup s = some v) (k : Nat) :
    primeLoop fwd (k + 1) s = primeLoop fwd k (s ++ ['\'']) := by
  simp only [primeLoop, h]

/-- **termination of the priming loop**: as soon as `|s| + k` exceeds the length of the longest key, `k` rounds end on an unused
name (`k = primeFuel fwd` always qualifies) -/
theorem primeLoop_fresh (fwd : List (Name × Nat)) : ∀ (k : Nat) (s : Name), maxKeyLen fwd < s.length + k →
    fwd.lookup (primeLoop fwd k s) = none
  | 0, s, h => by
    show fwd.lookup s = none
    exact lookup_none_of_long (by simpa using h)
  | k + 1, s, h => by
    cases hl : fwd.lookup s with
    | none => rw [primeLoop_of_none hl]; exact hl
    | some v =>
      rw [primeLoop_of_some hl]
      apply primeLoop_fresh fwd k
      simp only [List.length_append, List.length_cons, List.length_nil]
      omega

theorem primeLoop_primeFuel_fresh (fwd : List (Name × Nat)) (s : Name) :
    fwd.lookup (primeLoop fwd (primeFuel fwd) s) = none :=
  primeLoop_fresh fwd _ s (by unfold primeFuel; omega)

/-- above the bound the fuel is immaterial: the model's loop is the unbounded `while` loop -/
theorem primeLoop_fuel_indep (fwd : List (Name × Nat)) : ∀ (k k' : Nat) (s : Name), maxKeyLen fwd < s.length + k →
    maxKeyLen fwd < s.length + k' → primeLoop fwd k s = primeLoop fwd k' s
  | 0, k', s, h, _ => by
    rw [primeLoop_of_none (lookup_none_of_long (by simpa using h)) k']; rfl
  | k + 1, k', s, h, h' => by
    cases hl : fwd.lookup s with
    | none => rw [primeLoop_of_none hl, primeLoop_of_none hl]
    | some v =>
      cases k' with
      | zero =>
        have := lookup_none_of_long (fwd := fwd) (s := s) (by simpa using h')
        rw [hl] at this; cases this
      | succ k' =>
        rw [primeLoop_of_some hl, primeLoop_of_some hl]
        apply primeLoop_fuel_indep fwd k k'
        · simp only [List.length_append, List.length_cons, List.length_nil]; omega
        · simp only [List.length_append, List.length_cons, List.length_nil]; omega

theorem primeLoop_shape (fwd : List (Name × Nat)) : ∀ (k : Nat) (s : Name),
    ∃ i, primeLoop fwd k s = s ++ List.replicate i '\'' ∧ ∀ j, j < i → ∃ v, fwd.lookup (s ++ List.replicate j '\'') = some v
  | 0, s => ⟨0, by simp [primeLoop], fun j hj => by omega⟩
  | k + 1, s => by
    cases hl : fwd.lookup s with
    | none => exact ⟨0, by rw [primeLoop_of_none hl]; simp, fun j hj => by omega⟩
    | some v =>
      obtain ⟨i, hi, hlt⟩ := primeLoop_shape fwd k (s ++ ['\''])
      refine ⟨i + 1, ?_, ?_⟩
      · rw [primeLoop_of_some hl, hi]; simp [List.replicate_succ]
      · intro j hj
        cases j with
        | zero => exact ⟨v, by simpa using hl⟩
        | succ j =>
          obtain ⟨w, hw⟩ := hlt j (by omega)
          exact ⟨w, by simpa [List.replicate_succ] using hw⟩

/-- what holds of the result of the repaired function whatever the operand names and the product map are -/
structure PInv (d : Glue.StateDict) : Prop where
  /-- the names are pairwise different -/
  fwdMap : IsMap d.fwd
  back : ∀ v n, (v, n) ∈ d.bwd → (n, v) ∈ d.fwd
  named : ∀ n v, (n, v) ∈ d.fwd → ∃ n', d.bwd.lookup v = some n'

theorem pinv_empty : PInv (TwoWayDict.empty : Glue.StateDict) :=
  ⟨isMap_nil, fun _ _ h => by simp [TwoWayDict.empty] at h, fun _ _ h => by simp [TwoWayDict.empty] at h⟩

theorem insert_fresh_fwd {d : Glue.StateDict} {nm : Name} (v : Nat) (h : d.fwd.lookup nm = none) :
    (d.insert nm v).1.fwd = d.fwd ++ [(nm, v)] := by
  simp [TwoWayDict.insert, mapInsert_of_none _ h]

theorem insert_bwd (d : Glue.StateDict) (nm : Name) (v : Nat) : (d.insert nm v).1.bwd = (mapInsert d.bwd v nm).1 := rfl

theorem PInv.insert {d : Glue.StateDict} (hd : PInv d) {nm : Name} (v : Nat) (h : d.fwd.lookup nm = none) :
    PInv (d.insert nm v).1 := by
  refine ⟨?_, ?_, ?_⟩
  · rw [insert_fresh_fwd v h]; exact isMap_append_single hd.fwdMap v h
  · intro v' n hm
    rw [insert_fresh_fwd v h]
    rw [insert_bwd] at hm
    cases hb : d.bwd.lookup v with
    | some n0 =>
      rw [mapInsert_of_some _ hb] at hm
      exact List.mem_append_left _ (hd.back _ _ hm)
    | none =>
      rw [mapInsert_of_none _ hb] at hm
      rcases List.mem_append.mp hm with hm | hm
      · exact List.mem_append_left _ (hd.back _ _ hm)
      · simp only [List.mem_singleton, Prod.mk.injEq] at hm
        obtain ⟨rfl, rfl⟩ := hm
        simp
  · intro n v' hm
    rw [insert_fresh_fwd v h] at hm
    rw [insert_bwd, lookup_mapInsert]
    split
    · exact ⟨_, rfl⟩
    · rename_i hne
      rcases List.mem_append.mp hm with hm | hm
      · exact hd.named _ _ hm
      · simp only [List.mem_singleton, Prod.mk.injEq] at hm
        exact absurd hm.2 hne

/-- the names of the reverse map determine the state: two states never share a name -/
theorem PInv.injective {d : Glue.StateDict} (hd : PInv d) {v v' : Nat} {n : Name} (h : d.bwd.lookup v = some n)
    (h' : d.bwd.lookup v' = some n) : v = v' := by
  have e1 := lookup_of_mem hd.fwdMap (hd.back _ _ (mem_of_lookup h))
  have e2 := lookup_of_mem hd.fwdMap (hd.back _ _ (mem_of_lookup h'))
  rw [e1] at e2
  exact Option.some.inj e2

/-- what a forward entry of the result is: a pair of the product map whose components have the names `ln`, `rn`, under the
name `[ln_1|rn_2]` followed by primes -/
def FromPm (l r : Glue.StateDict) (pm : List ((Nat × Nat) × Nat)) (x : Name × Nat) : Prop :=
  ∃ e ∈ pm, ∃ ln rn k, l.bwd.lookup e.1.1 = some ln ∧ r.bwd.lookup e.1.2 = some rn ∧
    x = (prodName ln rn ++ List.replicate k '\'', e.2)

section
variable {l r : Glue.StateDict} {p q v : Nat} {rest : List ((Nat × Nat) × Nat)} {res : Glue.StateDict}

theorem productLoopFixed_cons_some {ln rn : Name} (h1 : l.bwd.lookup p = some ln) (h2 : r.bwd.lookup q = some rn) :
    productLoopFixed l r (((p, q), v) :: rest) res =
      productLoopFixed l r rest (res.insert (primeLoop res.fwd (primeFuel res.fwd) (prodName ln rn)) v).1 := by
  simp only [productLoopFixed, h1, h2]

theorem productLoopFixed_cons_none (h : l.bwd.lookup p = none ∨ r.bwd.lookup q = none) :
    productLoopFixed l r (((p, q), v) :: rest) res = none := by
  rcases h with h | h
  · simp only [productLoopFixed, h]
  · cases h1 : l.bwd.lookup p <;> simp only [productLoopFixed, h, h1]

end

theorem productLoopFixed_spec (l r : Glue.StateDict) : ∀ (pm : List ((Nat × Nat) × Nat)) (res d : Glue.StateDict),
    productLoopFixed l r pm res = some d → PInv res →
      PInv d ∧ d.fwd.map Prod.snd = res.fwd.map Prod.snd ++ pm.map Prod.snd ∧
      (∀ x, x ∈ d.fwd → x ∈ res.fwd ∨ FromPm l r pm x)
  | [], res, d, h, hres => by
    cases h
    exact ⟨hres, (List.append_nil _).symm, fun x hx => Or.inl hx⟩
  | ((p, q), v) :: rest, res, d, h, hres => by
    cases h1 : l.bwd.lookup p with
    | none => rw [productLoopFixed_cons_none (Or.inl h1)] at h; cases h
    | some ln =>
      cases h2 : r.bwd.lookup q with
      | none => rw [productLoopFixed_cons_none (Or.inr h2)] at h; cases h
      | some rn =>
        rw [productLoopFixed_cons_some h1 h2] at h
        have hf := primeLoop_primeFuel_fresh res.fwd (prodName ln rn)
        obtain ⟨a, b, c⟩ := productLoopFixed_spec l r rest _ d h (hres.insert v hf)
        refine ⟨a, ?_, ?_⟩
        · rw [b, insert_fresh_fwd v hf, List.map_append, List.append_assoc]
          rfl
        · intro x hx
          rcases c x hx with hx | ⟨e, he, hx⟩
          · rw [insert_fresh_fwd v hf] at hx
            rcases List.mem_append.mp hx with hx | hx
            · exact Or.inl hx
            · obtain ⟨i, hi, _⟩ := primeLoop_shape res.fwd (primeFuel res.fwd) (prodName ln rn)
              rw [hi] at hx
              exact Or.inr ⟨((p, q), v), List.mem_cons_self, ln, rn, i, h1, h2, List.mem_singleton.mp hx⟩
          · exact Or.inr ⟨e, List.mem_cons_of_mem _ he, hx⟩

theorem productLoopFixed_isSome (l r : Glue.StateDict) : ∀ (pm : List ((Nat × Nat) × Nat)) (res : Glue.StateDict),
    (productLoopFixed l r pm res).isSome = true ↔
      ∀ e, e ∈ pm → (∃ ln, l.bwd.lookup e.1.1 = some ln) ∧ (∃ rn, r.bwd.lookup e.1.2 = some rn)
  | [], res => ⟨fun _ _ h => (nomatch h), fun _ => rfl⟩
  | ((p, q), v) :: rest, res => by
    rw [List.forall_mem_cons]
    cases h1 : l.bwd.lookup p with
    | none =>
      rw [productLoopFixed_cons_none (Or.inl h1)]
      exact ⟨fun h => (nomatch h), fun ⟨⟨⟨_, e⟩, _⟩, _⟩ => (nomatch e)⟩
    | some ln =>
      cases h2 : r.bwd.lookup q with
      | none =>
        rw [productLoopFixed_cons_none (Or.inr h2)]
        exact ⟨fun h => (nomatch h), fun ⟨⟨_, ⟨_, e⟩⟩, _⟩ => (nomatch e)⟩
      | some rn =>
        rw [productLoopFixed_cons_some h1 h2, productLoopFixed_isSome l r rest]
        exact ⟨fun h => ⟨⟨⟨ln, rfl⟩, ⟨rn, rfl⟩⟩, h⟩, fun h => h.2⟩

/-- everything in one statement, for ANY operand dictionaries and ANY product map -/
theorem productDictFixed_spec {l r : Glue.StateDict} {pm : List ((Nat × Nat) × Nat)} {d : Glue.StateDict}
    (h : productDictFixed l r pm = some d) :
    PInv d ∧ d.fwd.map Prod.snd = pm.map Prod.snd ∧ (∀ x, x ∈ d.fwd → FromPm l r pm x) := by
  obtain ⟨a, b, c⟩ := productLoopFixed_spec l r pm _ d h pinv_empty
  refine ⟨a, by simpa [TwoWayDict.empty] using b, fun x hx => ?_⟩
  rcases c x hx with hx | hx
  · simp [TwoWayDict.empty] at hx
  · exact hx

/-- **the repaired names are injective, unconditionally**: whatever the names of the operands' states are (they may contain
`_1|`, `]`, primes …), the forward map of the result is a map, i.e. no two entries share a name, and two states never have
the same name in the reverse map the dump reads -/
theorem productDictFixed_injective {l r : Glue.StateDict} {pm : List ((Nat × Nat) × Nat)} {d : Glue.StateDict}
    (h : productDictFixed l r pm = some d) :
    (d.fwd.map Prod.fst).Nodup ∧ ∀ v v' n, d.bwd.lookup v = some n → d.bwd.lookup v' = some n → v = v' :=
  ⟨(productDictFixed_spec h).1.fwdMap, fun _ _ _ h1 h2 => (productDictFixed_spec h).1.injective h1 h2⟩

/-- **every product state of the map gets a name**, and exactly one forward entry is made per entry of the product map -/
theorem productDictFixed_named {l r : Glue.StateDict} {pm : List ((Nat × Nat) × Nat)} {d : Glue.StateDict}
    (h : productDictFixed l r pm = some d) :
    d.fwd.length = pm.length ∧ ∀ e, e ∈ pm → ∃ n, d.bwd.lookup e.2 = some n := by
  obtain ⟨a, b, _⟩ := productDictFixed_spec h
  refine ⟨by simpa using congrArg List.length b, ?_⟩
  intro e he
  have : e.2 ∈ d.fwd.map Prod.snd := by rw [b]; exact List.mem_map.mpr ⟨e, he, rfl⟩
  obtain ⟨x, hx, hx2⟩ := List.mem_map.mp this
  obtain ⟨n', hn'⟩ := a.named x.1 x.2 hx
  exact ⟨n', by rw [← hx2]; exact hn'⟩

/-- the function is defined (no `end()` iterator is dereferenced) iff every component of every pair has a name -/
theorem productDictFixed_isSome_iff (l r : Glue.StateDict) (pm : List ((Nat × Nat) × Nat)) :
    (productDictFixed l r pm).isSome = true ↔
      ∀ e, e ∈ pm → (∃ ln, l.bwd.lookup e.1.1 = some ln) ∧ (∃ rn, r.bwd.lookup e.1.2 = some rn) :=
  productLoopFixed_isSome l r pm _

/-- when the old names are pairwise different the loop never adds a prime: the repaired function is the old one -/
theorem productLoopFixed_eq_old (l r : Glue.StateDict) : ∀ (pm : List ((Nat × Nat) × Nat)) (res : Glue.StateDict)
    (es : List (Name × Nat)), prodEntries l r pm = some es → (res.fwd.map Prod.fst ++ es.map Prod.fst).Nodup →
      productLoopFixed l r pm res = some (TwoWayDict.insertList res es)
  | [], res, es, he, _ => by
    simp only [prodEntries, Option.some.injEq] at he
    subst he
    rfl
  | ((p, q), v) :: rest, res, es, he, hn => by
    rw [prodEntries_cons] at he
    obtain ⟨x, hx, he⟩ := Option.bind_eq_some_iff.mp he
    obtain ⟨es', h3, rfl⟩ := Option.map_eq_some_iff.mp he
    obtain ⟨ln, rn, h1, h2, rfl⟩ := prodEntry_eq_some_iff.mp hx
    have hfree : res.fwd.lookup (prodName ln rn) = none := TwoWayDict.lookup_none_of_nodup hn
    rw [productLoopFixed_cons_some h1 h2, primeLoop_of_none hfree]
    apply productLoopFixed_eq_old l r rest _ es' h3
    rw [insert_fresh_fwd v hfree]
    exact TwoWayDict.nodup_append_single v hn

end Vata.CliPipe
