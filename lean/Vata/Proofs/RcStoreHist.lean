import Vata.Proofs.StoreBuild
/-!
# Node lifetime of the MTBDD store (C18): the five operations of a history

Every operation re-establishes the counting invariant, leaves the other handles and the existing nodes alone, creates no
allocated node with counter 0 and no stale counter (`OpOk`); the two that build a diagram (`apply2`, `construct`) are `Adds`
for the tree-level operation.  Between operations `P = []` and, from the empty store, no counter is 0 (`Inv`).  The claims of
C18 are read off `Inv (runF f ops)`.
-/
namespace Vata.RcS
open Vata.R (Data decrRc contrib indegL cnt J Closed)
open Vata.RcSX (cubeFinish)

/-- `OndriksMTBDD dst = apply(a, b)`: the new handle's root unfolds to `M.apply2 f` of the operands' diagrams -/
theorem apply2_adds (f : Nat → Nat → Nat) {s : Store} {a b dst ra rb : Nat} (hw : WInv s []) (ha : find a s.hs = some ra)
    (hb : find b s.hs = some rb) (hd : find dst s.hs = none) :
    Adds s (apply2 f s a b dst) dst (M.apply2 f (diagram s ra) (diagram s rb)) ∧ OpOk dst s (apply2 f s a b dst) := by
  obtain ⟨b, t⟩ := built_recDescend f (ra + rb + 1) s ra rb hw (hw.rin ra (root_mem ha)) (hw.rin rb (root_mem hb))
    (Nat.lt_succ_self _)
  simp only [apply2, ha, hb, hd]
  exact ⟨(b.addHandle hd).1, (b.addHandle hd).2 t⟩

theorem apply2_ok (f : Nat → Nat → Nat) {s : Store} {a b dst : Nat} (hi : WInv s []) :
    OpOk dst s (apply2 f s a b dst) ∧ (WfInv s → WfInv (apply2 f s a b dst)) := by
  unfold apply2
  split
  · rename_i ra rb ha hb hd
    have ⟨A, o⟩ := apply2_adds f hi ha hb hd
    simp only [apply2, ha, hb, hd] at A o
    exact ⟨o, fun w => A.wf w (M.apply2_wf _ _ _ (diagram_wf hi w (hi.rin ra (root_mem ha)))
      (diagram_wf hi w (hi.rin rb (root_mem hb))))⟩
  · exact ⟨OpOk.refl _ hi, id⟩


/-- the two leaves of `constructMTBDD` for `v ≠ d`: `r1.2` (the start of the cube) and the sink `r2.2` -/
theorem construct_leaves {s : Store} {v d : Nat} (h : WInv s []) (hvd : v ≠ d) {r1 r2 : Store × Nat}
    (e1 : r1 = spawnLeaf s v) (e2 : r2 = spawnLeaf r1.1 d) :
    WInv r1.1 [] ∧ WInv r2.1 [] ∧ Ext s r2.1 ∧ r1.2 ∈ r2.1.ids ∧ r2.2 ∈ r2.1.ids ∧ r2.1.dat r1.2 = .leaf v ∧
    r2.1.dat r2.2 = .leaf d ∧ r1.2 ≠ r2.2 ∧ (∀ A, ZSub s A → ZSub r2.1 (r2.2 :: r1.2 :: A)) := by
  subst e1 e2
  obtain ⟨w1, e1, m1, d1, z1⟩ := spawnLeaf_inv (v := v) h
  obtain ⟨w2, e2, m2, d2, z2⟩ := spawnLeaf_inv (v := d) w1
  have dn := (e2.dat _ (w1.fresh _ m1)).trans d1
  exact ⟨w1, w2, e1.trans e2, e2.ids _ m1, m2, dn, d2, fun e => hvd (Data.leaf.inj ((dn.symm.trans (e ▸ d2)))),
    fun A hA => z2 _ (z1 A hA)⟩

theorem dispose_shrinks (c : Prop) [Decidable c] (t : Store) (n v : Nat) :
    Shrinks t (if c then (if t.rc n = 0 then disposeLeaf t n v else t) else t) := by
  split
  · split
    · rename_i hz; exact erase_shrinks _ hz ..
    · exact Shrinks.refl t
  · exact Shrinks.refl t

/-- `cubeFinish` at most disposes of the sink: the other nodes stay, with their counters -/
theorem cubeFinish_inv {t : Store} {r node sink d : Nat} (w : WInv t []) (hs : sink ∈ t.ids) (ds : t.dat sink = .leaf d)
    (m : r ∈ t.ids) (hrs : r ≠ sink) (h : Nat) :
    WInv (cubeFinish (t, r) node sink d) [] ∧ r ∈ (cubeFinish (t, r) node sink d).ids ∧
    Frame h t (cubeFinish (t, r) node sink d) ∧ (cubeFinish (t, r) node sink d).hs = t.hs ∧
    (∀ A, ZSub t A → ZSub (cubeFinish (t, r) node sink d) A) ∧
    (r = node → ∀ A, ZSub t (sink :: A) → ZSub (cubeFinish (t, r) node sink d) A) := by
  unfold cubeFinish
  dsimp only
  by_cases hz : r = node ∧ t.rc sink = 0
  · rw [if_pos hz.1, if_pos hz.2]
    have hme : ∀ x, x ∈ t.ids.erase sink ↔ x ≠ sink ∧ x ∈ t.ids := fun x => mem_erase_iff' w.nd
    refine ⟨disposeLeaf_inv w hs hz.2 ds, (hme r).mpr ⟨hrs, m⟩, frame_disposeLeaf h t sink d, rfl,
      fun A z x hx => z x ((hme x).mp hx).2, fun _ A z x hx hzx => ?_⟩
    rcases List.mem_cons.mp (z x ((hme x).mp hx).2 hzx) with e | hm
    · exact absurd e ((hme x).mp hx).1
    · exact hm
  · have e : (if r = node then (if t.rc sink = 0 then disposeLeaf t sink d else t) else t) = t := by
      by_cases h1 : r = node
      · rw [if_pos h1, if_neg (fun h2 => hz ⟨h1, h2⟩)]
      · rw [if_neg h1]
    rw [e]
    refine ⟨w, m, Frame.refl _ _, rfl, fun _ z => z, fun h1 A z x hx hzx => ?_⟩
    rcases List.mem_cons.mp (z x hx hzx) with e | hm
    · exact absurd (e ▸ hzx) (fun h2 => hz ⟨h1, h2⟩)
    · exact hm


/-- the tail of `constructMTBDD` on a root `node` that is not the leaf `d`, the sink `d` being allocated: the loop,
    `cubeFinish`, the new handle.  Of `node`, the sink and the nodes built, none is left with counter 0 -/
theorem cube_adds {s : Store} {node sink d : Nat} (asgn : List (Option Bool)) (i dst : Nat) (w : WInv s []) (hn : node ∈ s.ids)
    (hs : sink ∈ s.ids) (ds : s.dat sink = .leaf d) (hnd : s.dat node ≠ .leaf d) (hf : find dst s.hs = none) :
    Adds s (addHandle (cubeFinish (buildCube sink s node i asgn) node sink d) dst (buildCube sink s node i asgn).2) dst
      (M.constructLoop (fun x => x) (.leaf d) asgn i (diagram s node)) ∧
    (∀ A, ZSub s (node :: sink :: A) →
      ZSub (addHandle (cubeFinish (buildCube sink s node i asgn) node sink d) dst (buildCube sink s node i asgn).2) A) ∧
    (Zr s → Zr (addHandle (cubeFinish (buildCube sink s node i asgn) node sink d) dst (buildCube sink s node i asgn).2)) := by
  obtain ⟨b, dj⟩ := built_buildCube sink d asgn s node i w hs hn ds
  have ds3 := (b.ext.dat _ (w.fresh _ hs)).trans ds
  have hrs : (buildCube sink s node i asgn).2 ≠ sink := by
    intro e
    rcases dj with heq | ⟨⟨lo, hi', var, hint⟩, _⟩
    · rw [heq] at e
      have e : node = sink := e
      exact hnd (e ▸ ds)
    · rw [e, ds3] at hint; cases hint
  -- `cubeFinish` may dispose of the sink, so the store is not an extension of `s`
  have sh := dispose_shrinks ((buildCube sink s node i asgn).2 = node) (buildCube sink s node i asgn).1 sink d
  obtain ⟨w4, m4, f4, hh4, z4, z4'⟩ := cubeFinish_inv (node := node) (d := d) b.inv (b.ext.ids _ hs) ds3 b.mem hrs dst
  obtain ⟨a1, a2⟩ := addHandle_inv (h := dst) w4 m4 (by rw [hh4, b.ext.hs]; exact hf)
  refine ⟨⟨a1, ((b.ext.frame dst).trans f4).trans (frame_addHandle _ _ _), ⟨_, find_addHandle _ _ _, ?_⟩,
    fun wf hT => addHandle_wfInv ((b.wf wf hT).shrink sh.dat sh.ids)⟩, fun A z => a2 A ?_,
    fun hz => Zr_incRef (sh.zr (b.zr hz)) m4⟩
  · exact ((diagram_addHandle ..).trans (diagram_congr sh.dat _)).trans b.dia
  · rcases dj with heq | ⟨_, z3⟩
    · -- nothing was built: the sink is disposed of if it is unreferenced
      rw [heq] at z4' ⊢
      exact z4' rfl (node :: A) (ZSub.swap z)
    · exact z4 _ (z3 A z)

/-- the three ways through `construct`: the handle is live; a constant; a cube (`r1`, `r2` the two leaves, `r3` the
    result of the loop, `s4` the store after the unused sink has been disposed of) -/
theorem construct_cases {Q : Store → Prop} (s : Store) (h : Nat) (asgn : List (Option Bool)) (v d : Nat)
    (live : ∀ r, find h s.hs = some r → Q s)
    (const : find h s.hs = none → v = d → Q (addHandle (spawnLeaf s v).1 h (spawnLeaf s v).2))
    (cube : find h s.hs = none → v ≠ d → ∀ r1 r2 r3 s4, r1 = spawnLeaf s v → r2 = spawnLeaf r1.1 d →
      r3 = buildCube r2.2 r2.1 r1.2 0 asgn →
      s4 = (if r3.2 = r1.2 then (if r3.1.rc r2.2 = 0 then disposeLeaf r3.1 r2.2 d else r3.1) else r3.1) →
      Q (addHandle s4 h r3.2)) :
    Q (construct s h asgn v d) := by
  rw [construct]
  split
  · exact live _ ‹_›
  · by_cases hvd : v = d
    · rw [if_pos hvd]; exact const ‹_› hvd
    · rw [if_neg hvd]; exact cube ‹_› hvd _ _ _ _ rfl rfl rfl rfl

/-- `OndriksMTBDD h(asgn, v, d)` creates a handle whose root unfolds to the diagram `M.construct asgn v d` of the tree model -/
theorem construct_adds {s : Store} {h v d : Nat} {asgn : List (Option Bool)} (hi : WInv s []) (hf : find h s.hs = none) :
    Adds s (construct s h asgn v d) h (M.construct asgn v d) ∧ OpOk h s (construct s h asgn v d) := by
  refine construct_cases (Q := fun s' => Adds s s' h (M.construct asgn v d) ∧ OpOk h s s') s h asgn v d
    (fun r e => nomatch hf.symm.trans e) (fun _ hvd => ?_) (fun _ hvd r1 r2 r3 s4 e1 e2 e3 e4 => ?_)
  · obtain ⟨b, t⟩ := built_spawnLeaf hi v
    rw [M.construct, M.constructOn, if_pos (hvd ▸ rfl)]
    exact ⟨(b.addHandle hf).1, (b.addHandle hf).2 t⟩
  · obtain ⟨w1, w2, x2, m1, m2, d1, d2, -, z2⟩ := construct_leaves hi hvd e1 e2
    subst e1 e2 e3 e4
    obtain ⟨A, z, r⟩ := cube_adds asgn 0 h w2 m1 m2 d2 (by rw [d1]; exact fun e => hvd (Data.leaf.inj e)) (x2.hs ▸ hf)
    rw [diagram_leaf d1] at A
    rw [M.construct, M.constructOn, if_neg (fun e => hvd (M.Node.leaf.inj e))]
    have A' := A.after x2 fun w => spawnLeaf_wfInv w1 (spawnLeaf_wfInv hi w)
    exact ⟨A', A'.inv, A'.frame, fun B hB => z B (ZSub.swap (z2 B hB)), fun hz => r (Zr_spawnLeaf (Zr_spawnLeaf hz))⟩

theorem construct_ok {s : Store} {h v d : Nat} {asgn : List (Option Bool)} (hi : WInv s []) :
    OpOk h s (construct s h asgn v d) ∧ (WfInv s → WfInv (construct s h asgn v d)) := by
  cases hf : find h s.hs with
  | some r => simp only [construct, hf]; exact ⟨OpOk.refl _ hi, id⟩
  | none => exact ⟨(construct_adds hi hf).2, fun w => (construct_adds hi hf).1.wf w (M.construct_wf asgn v d)⟩

theorem copy_wfInv {s : Store} {src dst : Nat} (w : WfInv s) : WfInv (copy s src dst) := by
  unfold copy
  split
  · exact addHandle_wfInv w
  · exact w

theorem destroy_wfInv {s : Store} {h : Nat} (w : WfInv s) : WfInv (destroy s h) :=
  w.shrink (destroy_shrinks s h).1 (destroy_shrinks s h).2.2

theorem assign_wfInv {s : Store} {src dst : Nat} (w : WfInv s) : WfInv (assign s src dst) := by
  unfold assign
  split
  · exact w
  · split
    · exact copy_wfInv (destroy_wfInv w)
    · exact w

theorem stepF_ok (f : Nat → Nat → Nat) {s : Store} (op : Op) (hi : WInv s []) :
    OpOk op.target s (stepF f s op) ∧ (WfInv s → WfInv (stepF f s op)) := by
  cases op with
  | construct h asgn v d => exact construct_ok hi
  | copy src dst => exact ⟨copy_ok hi, copy_wfInv⟩
  | assign src dst => exact ⟨assign_ok hi, assign_wfInv⟩
  | apply a b dst => exact apply2_ok f hi
  | destroy h => exact ⟨(destroy_ok hi).1, destroy_wfInv⟩

theorem stepF_inv (f : Nat → Nat → Nat) {s : Store} (op : Op) (hi : Inv s) :
    Inv (stepF f s op) ∧ Frame op.target s (stepF f s op) :=
  (stepF_ok f op hi.1).1.to_inv hi

theorem stepF_wfInv (f : Nat → Nat → Nat) {s : Store} (op : Op) (hi : WInv s []) (w : WfInv s) : WfInv (stepF f s op) :=
  (stepF_ok f op hi).2 w

theorem foldl_inv (f : Nat → Nat → Nat) (ops : List Op) (s : Store) (h : Inv s) : Inv (ops.foldl (stepF f) s) :=
  List.foldlRecOn ops (stepF f) h (fun _ hs op _ => (stepF_inv f op hs).1)

theorem runF_inv (f : Nat → Nat → Nat) (ops : List Op) : Inv (runF f ops) := foldl_inv f ops empty inv_empty

theorem runF_zr (f : Nat → Nat → Nat) (ops : List Op) : Zr (runF f ops) :=
  (List.foldlRecOn ops (stepF f) (motive := fun s => WInv s [] ∧ Zr s) ⟨inv_empty.1, fun _ _ => rfl⟩
    (fun _ h op _ => ⟨(stepF_ok f op h.1).1.inv, (stepF_ok f op h.1).1.zr h.2⟩)).2

theorem runF_wfInv (f : Nat → Nat → Nat) (ops : List Op) : WfInv (runF f ops) :=
  (List.foldlRecOn ops (stepF f) (motive := fun s => WInv s [] ∧ WfInv s) ⟨inv_empty.1, wfInv_empty⟩
    (fun _ h op _ => ⟨(stepF_ok f op h.1).1.inv, stepF_wfInv f op h.1 h.2⟩)).2

theorem run_eq_runF (ops : List Op) : run ops = runF applyOp ops := rfl

/-! ### counters -/

/-- number of references to `n` from allocated internal nodes (`low` and `high` count separately) -/
def indeg (s : Store) (n : Nat) : Nat := indegL s.ids s.dat n
def handlesTo (s : Store) (n : Nat) : Nat := cnt n (roots s)

theorem indeg_eq (s : Store) (n : Nat) : indeg s n =
    (s.ids.map (fun m => match s.dat m with
      | .leaf _ => 0
      | .int lo hi _ => (if lo = n then 1 else 0) + (if hi = n then 1 else 0))).sum := rfl
theorem handlesTo_eq (s : Store) (n : Nat) : handlesTo s n = (s.hs.map (·.2)).count n := rfl

theorem Inv.rc_inv {s : Store} (hi : Inv s) :
    (∀ n, n ∈ s.ids → s.rc n = indeg s n + handlesTo s n) ∧
    (∀ v n, (v, n) ∈ s.leafT → n ∈ s.ids ∧ s.dat n = .leaf v) ∧
    (∀ lo hi var n, ((lo, hi, var), n) ∈ s.intT → n ∈ s.ids ∧ s.dat n = .int lo hi var) ∧
    (∀ n, n ∈ s.ids → s.rc n = 0 →
      n ∉ roots s ∧ ∀ m, m ∈ s.ids → ∀ lo hi var, s.dat m = .int lo hi var → lo ≠ n ∧ hi ≠ n) :=
  ⟨fun n hn => hi.1.j n hn, fun v n hm => (hi.1.leafOk v n).mp hm,
    fun lo hi' var n hm => (hi.1.intOk (lo, hi', var) n).mp hm, fun n hn hz => absurd hz (hi.2 n hn)⟩

/-- `rc_inv`: after every operation list the counter of an allocated node is the number of internal nodes (edges) plus the
    number of handles pointing to it, every entry of the two tables points to an allocated node with that contents, and a
    node with counter 0 is not referred to -/
theorem rc_inv (f : Nat → Nat → Nat) (ops : List Op) :
    (∀ n, n ∈ (runF f ops).ids → (runF f ops).rc n = indeg (runF f ops) n + handlesTo (runF f ops) n) ∧
    (∀ v n, (v, n) ∈ (runF f ops).leafT → n ∈ (runF f ops).ids ∧ (runF f ops).dat n = .leaf v) ∧
    (∀ lo hi var n, ((lo, hi, var), n) ∈ (runF f ops).intT →
      n ∈ (runF f ops).ids ∧ (runF f ops).dat n = .int lo hi var) ∧
    (∀ n, n ∈ (runF f ops).ids → (runF f ops).rc n = 0 →
      n ∉ roots (runF f ops) ∧
      ∀ m, m ∈ (runF f ops).ids → ∀ lo hi var, (runF f ops).dat m = .int lo hi var → lo ≠ n ∧ hi ≠ n) :=
  (runF_inv f ops).rc_inv

/-- between operations there is no garbage: no allocated node has counter 0 -/
theorem no_garbage (f : Nat → Nat → Nat) (ops : List Op) : ∀ n, n ∈ (runF f ops).ids → (runF f ops).rc n ≠ 0 :=
  (runF_inv f ops).2

/-- the tables are exactly the allocated nodes, one entry per node, keys unique -/
theorem tables_exact (f : Nat → Nat → Nat) (ops : List Op) :
    (∀ n v, n ∈ (runF f ops).ids → (runF f ops).dat n = .leaf v → find v (runF f ops).leafT = some n) ∧
    (∀ n lo hi var, n ∈ (runF f ops).ids → (runF f ops).dat n = .int lo hi var →
      find (lo, hi, var) (runF f ops).intT = some n) ∧
    KeysNodup (runF f ops).leafT ∧ KeysNodup (runF f ops).intT ∧ KeysNodup (runF f ops).hs ∧ (runF f ops).ids.Nodup := by
  have hi := runF_inv f ops
  exact ⟨fun n v hn hd => mem_find hi.1.leafK ((hi.1.leafOk v n).mpr ⟨hn, hd⟩),
    fun n lo hi' var hn hd => mem_find hi.1.intK ((hi.1.intOk (lo, hi', var) n).mpr ⟨hn, hd⟩),
    hi.1.leafK, hi.1.intK, hi.1.hsK, hi.1.nd⟩

/-! ### no premature free, no double free -/

inductive Reach (dat : Nat → Data) (n : Nat) : Nat → Prop
  | refl : Reach dat n n
  | lo {m lo hi var : Nat} : Reach dat n m → dat m = .int lo hi var → Reach dat n lo
  | hi {m lo hi var : Nat} : Reach dat n m → dat m = .int lo hi var → Reach dat n hi

theorem WInv.reach_alloc {s : Store} {P : List Nat} (hw : WInv s P) {h r : Nat} (hm : (h, r) ∈ s.hs) {n : Nat}
    (hr : Reach s.dat r n) : n ∈ s.ids := by
  induction hr with
  | refl => exact hw.rin r (List.mem_map.mpr ⟨(h, r), hm, rfl⟩)
  | lo _ hd ih => exact (hw.closed _ ih _ _ _ hd).1
  | hi _ hd ih => exact (hw.closed _ ih _ _ _ hd).2

/-- `no_premature_free`: every node reachable from a live handle is allocated (and has never been freed) -/
theorem no_premature_free (f : Nat → Nat → Nat) (ops : List Op) (h r : Nat) (hm : (h, r) ∈ (runF f ops).hs) (n : Nat)
    (hr : Reach (runF f ops).dat r n) : n ∈ (runF f ops).ids ∧ n ∉ (runF f ops).freed :=
  have hi := runF_inv f ops
  have hn := hi.1.reach_alloc hm hr
  ⟨hn, fun hf => (hi.1.freedOk n hf).1 hn⟩

/-- `no_double_free`: no node is deleted twice, a deleted node is not allocated, and no assertion of the code
    (`refcnt > 0` before a decrement, `erase(...) == 1` in the two `disposeOf…` functions) fails; the model never runs
    out of fuel -/
theorem no_double_free (f : Nat → Nat → Nat) (ops : List Op) :
    (runF f ops).freed.Nodup ∧ (∀ n, n ∈ (runF f ops).freed → n ∉ (runF f ops).ids) ∧ (runF f ops).err = false :=
  have hi := runF_inv f ops
  ⟨hi.1.freedNd, fun n hn => (hi.1.freedOk n hn).1, hi.1.noerr⟩

/-! ### denotations of the other handles are stable -/

theorem WInv.frame_denote {s s' : Store} {t : Nat} {P : List Nat} (hw : WInv s P) (fr : Frame t s s') {h r : Nat}
    (hm : (h, r) ∈ s.hs) (ht : h ≠ t) :
    (h, r) ∈ s'.hs ∧ unfold s'.dat (r+1) r = unfold s.dat (r+1) r ∧ ∀ ρ, denote s' r ρ = denote s r ρ := by
  have hr : r ∈ s.ids := hw.rin r (List.mem_map.mpr ⟨(h, r), hm, rfl⟩)
  have hu := unfold_congr hw.closed (fun m hm => fr.dat m (hw.fresh m hm)) (r+1) r hr
  exact ⟨fr.hs h r hm ht, hu, fun ρ => by unfold denote; rw [hu]⟩

theorem denotation_stable_step (f : Nat → Nat → Nat) {s : Store} (hi : Inv s) (op : Op) {h r : Nat} (hm : (h, r) ∈ s.hs)
    (ht : op.target ≠ h) : (h, r) ∈ (stepF f s op).hs ∧ ∀ ρ, denote (stepF f s op) r ρ = denote s r ρ :=
  have := hi.1.frame_denote (stepF_inv f op hi).2 hm (Ne.symm ht)
  ⟨this.1, this.2.2⟩

theorem foldl_stable (f : Nat → Nat → Nat) {h r : Nat} (ops : List Op) (s : Store) (hi : Inv s) (hm : (h, r) ∈ s.hs)
    (ht : ∀ op, op ∈ ops → op.target ≠ h) :
    (h, r) ∈ (ops.foldl (stepF f) s).hs ∧ ∀ ρ, denote (ops.foldl (stepF f) s) r ρ = denote s r ρ :=
  (List.foldlRecOn ops (stepF f) (motive := fun s' => Inv s' ∧ (h, r) ∈ s'.hs ∧ ∀ ρ, denote s' r ρ = denote s r ρ)
    ⟨hi, hm, fun _ => rfl⟩ (fun _ ⟨hi', hm', hd⟩ op ho =>
      have ⟨h1, h2⟩ := denotation_stable_step f hi' op hm' (ht op ho)
      ⟨(stepF_inv f op hi').1, h1, fun ρ => (h2 ρ).trans (hd ρ)⟩)).2

/-- `denotation_stable`: after any operation list `ops`, a live handle `h` (root `r`) is still live with the same root and
    denotes the same function after any further operations `more` none of which has `h` as its target (they may read `h`) -/
theorem denotation_stable (f : Nat → Nat → Nat) (ops more : List Op) (h r : Nat) (hm : (h, r) ∈ (runF f ops).hs)
    (ht : ∀ op, op ∈ more → op.target ≠ h) :
    (h, r) ∈ (runF f (ops ++ more)).hs ∧ ∀ ρ, denote (runF f (ops ++ more)) r ρ = denote (runF f ops) r ρ := by
  rw [runF, List.foldl_append]
  exact foldl_stable f more _ (runF_inv f ops) hm ht

/-! ### everything is released -/

/-- a node with a positive counter is the root of a live handle or a child of an allocated inner node -/
theorem parent_or_root {s : Store} (hw : WInv s []) {n : Nat} (hn : n ∈ s.ids) (hz : s.rc n ≠ 0) :
    n ∈ roots s ∨ ∃ m lo hi var, m ∈ s.ids ∧ s.dat m = .int lo hi var ∧ (lo = n ∨ hi = n) := by
  have hj := hw.j n hn
  rw [cnt_nil] at hj
  by_cases hr : 0 < cnt n (roots s)
  · exact Or.inl (List.count_pos_iff.mp hr)
  · exact Or.inr (exists_parent (by omega))

/-- every node of a store `s` without garbage is a node of `t`, if every root of `s` is a root of `t` and the common nodes
    have the same contents: walk up from the node to a root (parents have larger ids) -/
theorem ids_sub {s t : Store} (hs : WInv s []) (ht : WInv t []) (hz : NZ s)
    (hdat : ∀ m, m ∈ s.ids → m ∈ t.ids → t.dat m = s.dat m) (hroots : ∀ r, r ∈ roots s → r ∈ roots t) :
    ∀ n, n ∈ s.ids → n ∈ t.ids := by
  have key : ∀ (k n : Nat), n ∈ s.ids → s.next - n ≤ k → n ∈ t.ids := by
    intro k
    induction k with
    | zero => exact fun n hn hk => absurd (Nat.sub_pos_of_lt (hs.fresh n hn)) (Nat.not_lt.mpr hk)
    | succ k ih =>
      intro n hn hk
      rcases parent_or_root hs hn (hz n hn) with hr | ⟨m, lo, hi, var, hm, hd, hc⟩
      · exact ht.rin n (hroots n hr)
      · obtain ⟨o1, o2⟩ := hs.ordered m hm lo hi var hd
        have hlt : n < m := hc.elim (fun e => e ▸ o1) (fun e => e ▸ o2)
        have hm' : m ∈ t.ids :=
          ih m hm (Nat.le_of_lt_succ (Nat.lt_of_lt_of_le (Nat.sub_lt_sub_left (hs.fresh n hn) hlt) hk))
        obtain ⟨c1, c2⟩ := ht.closed m hm' lo hi var ((hdat m hm hm').trans hd)
        rcases hc with e | e
        · exact e ▸ c1
        · exact e ▸ c2
  exact fun n hn => key _ n hn (Nat.le_refl _)

/-- two stores without garbage, the second reached from the first (`dat` of the old nodes unchanged), with the same handle ↦ root
    map, have the same allocated nodes and the same unique-table entries -/
theorem same_nodes {s s' : Store} (hi : Inv s) (hi' : Inv s') (hdat : ∀ x, x < s.next → s'.dat x = s.dat x)
    (hhs : ∀ h r, (h, r) ∈ s'.hs ↔ (h, r) ∈ s.hs) :
    (∀ n, n ∈ s'.ids ↔ n ∈ s.ids) ∧ (∀ e, e ∈ s'.leafT ↔ e ∈ s.leafT) ∧ (∀ e, e ∈ s'.intT ↔ e ∈ s.intT) ∧
    tableSizes s' = tableSizes s ∧ s'.ids.length = s.ids.length := by
  have hr : ∀ {a b : Store}, (∀ h r, (h, r) ∈ a.hs → (h, r) ∈ b.hs) → ∀ r, r ∈ roots a → r ∈ roots b := by
    intro a b H r hr
    obtain ⟨⟨h, r'⟩, hm, rfl⟩ := List.mem_map.mp hr
    exact List.mem_map.mpr ⟨(h, r'), H h r' hm, rfl⟩
  have hids : ∀ n, n ∈ s'.ids ↔ n ∈ s.ids :=
    fun n => ⟨ids_sub hi'.1 hi.1 hi'.2 (fun m _ hm => (hdat m (hi.1.fresh m hm)).symm) (hr fun h r => (hhs h r).mp) n,
      ids_sub hi.1 hi'.1 hi.2 (fun m hm _ => hdat m (hi.1.fresh m hm)) (hr fun h r => (hhs h r).mpr) n⟩
  have hd : ∀ n, n ∈ s.ids → s'.dat n = s.dat n := fun n hn => hdat n (hi.1.fresh n hn)
  have hL : ∀ e, e ∈ s'.leafT ↔ e ∈ s.leafT := by
    rintro ⟨v, n⟩
    rw [hi'.1.leafOk, hi.1.leafOk, hids]
    exact and_congr_right fun a => by rw [hd n a]
  have hI : ∀ e, e ∈ s'.intT ↔ e ∈ s.intT := by
    rintro ⟨k, n⟩
    rw [hi'.1.intOk, hi.1.intOk, hids]
    exact and_congr_right fun a => by rw [hd n a]
  refine ⟨hids, hL, hI, ?_, length_eq_of_mem_iff hi'.1.nd hi.1.nd hids⟩
  unfold tableSizes
  rw [length_eq_of_mem_iff (nodup_of_keysNodup hi'.1.leafK) (nodup_of_keysNodup hi.1.leafK) hL,
    length_eq_of_mem_iff (nodup_of_keysNodup hi'.1.intK) (nodup_of_keysNodup hi.1.intK) hI]

/-- without handles nothing is allocated: `same_nodes` against the empty store -/
theorem Inv.released {s : Store} (hi : Inv s) (hh : s.hs = []) : tableSizes s = tableSizes empty ∧ s.ids = [] :=
  have h := same_nodes inv_empty hi (fun _ hx => absurd hx (Nat.not_lt_zero _)) (fun _ _ => by rw [hh]; exact Iff.rfl)
  ⟨h.2.2.2.1, List.eq_nil_iff_forall_not_mem.mpr fun n hn => List.not_mem_nil ((h.1 n).mp hn)⟩

/-- `all_released`: whenever no handle is live, both unique tables are empty (their initial size) and no node is
    allocated -/
theorem all_released (f : Nat → Nat → Nat) (ops : List Op) (hh : (runF f ops).hs = []) :
    tableSizes (runF f ops) = tableSizes empty ∧ (runF f ops).ids = [] :=
  (runF_inv f ops).released hh

theorem foldl_destroy_hs (f : Nat → Nat → Nat) : ∀ (L : List Nat) (s : Store), WInv s [] → (∀ h r, (h, r) ∈ s.hs → h ∈ L) →
    ((L.map Op.destroy).foldl (stepF f) s).hs = []
  | [], _, _, hL => List.eq_nil_iff_forall_not_mem.mpr fun ⟨h, r⟩ hm => nomatch hL h r hm
  | h :: L, s, hi, hL => by
    obtain ⟨⟨i1, f1, -, -⟩, n1⟩ := destroy_ok (h := h) hi
    refine foldl_destroy_hs f L (destroy s h) i1 fun h' r' hm' => ?_
    by_cases e : h' = h
    · exact absurd (e ▸ hm') (n1 r')
    · exact (List.mem_cons.mp (hL h' r' (f1.hs' h' r' hm' e))).resolve_left e

/-- `all_released` in the form "after destroying every handle that is still live both tables have their initial sizes" -/
theorem all_released_destroyAll (f : Nat → Nat → Nat) (ops : List Op) :
    tableSizes (runF f (ops ++ destroyAll (runF f ops))) = tableSizes empty ∧
    (runF f (ops ++ destroyAll (runF f ops))).ids = [] := by
  refine all_released f _ ?_
  have : destroyAll (runF f ops) = ((runF f ops).hs.map (·.1)).map Op.destroy := (List.map_map ..).symm
  rw [runF, List.foldl_append, this]
  exact foldl_destroy_hs f _ _ (runF_inv f ops).1 (fun h r hm => List.mem_map_of_mem (f := (·.1)) hm)

theorem Inv.denote_leaf {s : Store} {n v : Nat} (hd : s.dat n = .leaf v) (ρ : Nat → Bool) : denote s n ρ = v := by
  rw [denote, unfold_leaf hd]; rfl

theorem Inv.denote_int {s : Store} (hi : Inv s) {n lo hi' var : Nat} (hn : n ∈ s.ids) (hd : s.dat n = .int lo hi' var)
    (ρ : Nat → Bool) : denote s n ρ = if ρ var then denote s hi' ρ else denote s lo ρ := by
  rw [denote, hi.1.unfold_node hn hd]; rfl

/-! ## non‑vacuity: a concrete operation list that exercises every operation -/
namespace Ex

/-- two cubes, a constant with a different default (its unused sink is disposed of), a copy, an apply, an assignment,
    a self‑assignment, an assignment that frees a diagram, destructors -/
def ops : List Op :=
  [.construct 0 [some true, none, some false] 5 0, .construct 1 [some false, some true] 7 0, .construct 2 [none, none] 9 3,
   .copy 0 3, .apply 0 1 4, .assign 4 4, .assign 1 0, .destroy 3]

def more : List Op := [.apply 4 1 5, .destroy 0, .assign 5 1, .construct 6 [some true] 1 2, .destroy 5]

-- the store is not trivial: 4 leaves, 6 internal nodes, 4 live handles, 2 nodes freed so far, no assertion failed
example : tableSizes (run ops) = (4, 6) ∧ (run ops).hs.length = 4 ∧ (run ops).freed = [3, 8] ∧ (run ops).err = false := by
  decide +kernel
-- the unused sink leaf `3` (node 8) of `construct 2 [none, none] 9 3` was created and disposed of
example : tableSizes (run (ops.take 2)) = (3, 4) ∧ tableSizes (run (ops.take 3)) = (4, 4) ∧
    (run (ops.take 3)).freed = [8] := by decide +kernel
-- the apply created three internal nodes, the last destructor freed one
example : tableSizes (run (ops.take 5)) = (4, 7) ∧ tableSizes (run (ops.take 7)) = (4, 7) := by decide +kernel
-- `no_premature_free`: handle 4 is live and reaches internal nodes and a leaf
theorem ops_reach : (4, 11) ∈ (run ops).hs ∧ (run ops).dat 11 = .int 10 6 2 ∧ (run ops).dat 10 = .int 2 9 1 ∧
    (run ops).dat 2 = .int 1 0 0 ∧ (run ops).dat 1 = .leaf 0 := by decide +kernel
example : (4, 11) ∈ (run ops).hs ∧ (run ops).dat 11 = .int 10 6 2 ∧ (run ops).dat 10 = .int 2 9 1 ∧
    (run ops).dat 2 = .int 1 0 0 ∧ (run ops).dat 1 = .leaf 0 := ops_reach
example : Reach (run ops).dat 11 1 := .lo (.lo (.lo .refl ops_reach.2.1) ops_reach.2.2.1) ops_reach.2.2.2.1
-- `denotation_stable`: its hypotheses hold for handle 4 and the further operations `more`
example : (4, 11) ∈ (runF applyOp ops).hs ∧ ∀ op, op ∈ more → op.target ≠ 4 := ⟨ops_reach.1, by decide⟩
example : (4, 11) ∈ (runF applyOp (ops ++ more)).hs :=
  (denotation_stable applyOp ops more 4 11 ops_reach.1 (by decide)).1
/-- `ops` followed by the destructors of the remaining handles (the run, evaluated once; quoted below and in `Properties/C18`,
`Properties/C20`): no handle is left, and all twelve nodes ever allocated are deleted, each once -/
theorem ops_destroyed : (runF applyOp (ops ++ destroyAll (runF applyOp ops))).hs = [] ∧ destroyAll (runF applyOp ops) ≠ [] ∧
    (runF applyOp (ops ++ destroyAll (runF applyOp ops))).freed = [1, 4, 5, 6, 7, 0, 9, 2, 10, 11, 3, 8] ∧
    (runF applyOp (ops ++ destroyAll (runF applyOp ops))).next = 12 := by decide +kernel
-- `all_released`: its hypothesis holds after the destructors, with a non‑empty store before
example : (runF applyOp (ops ++ destroyAll (runF applyOp ops))).hs = [] ∧ destroyAll (runF applyOp ops) ≠ [] :=
  ⟨ops_destroyed.1, ops_destroyed.2.1⟩
example : tableSizes (run (ops ++ more)) = (6, 7) ∧ (run (ops ++ more)).err = false := by decide +kernel

end Ex

end Vata.RcS
